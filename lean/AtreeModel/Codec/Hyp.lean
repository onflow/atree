import AtreeModel.Codec.Limits
import AtreeModel.Codec.Decode
/-
  Executable (Bool-valued) versions of the hypotheses of the codec theorems of C06 / C07.

  The theorems about slabs (`AtreeProofs/Props/C07.lean`) assume predicates — `DataOK`, `MetaOK`,
  `validElem`, `MapMetaOK`, `MapDataOK`, `ArrDataOKW`, `MapDataOKI`, `ArrDataOKI`, `MapDataOKC`,
  `ArrDataOKC`, `MapDataOKX`, `ArrDataOKX`, `ArrDataOKWX` (the last three: with the exact nesting
  clause `Slab.vdepth ≤ maxNestedLevels`), built from `Stor.RT`, `Stor.RTI`, `Stor.OK`, `noInl`, `noCompact`, `nodupKeys`,
  `vneed`, `vneedI`, `validTy`, `validMapExtra`, `validNext`, `XOK`, `XOKC` — that live in
  `AtreeProofs` (Prop-valued, not importable here).  This file re-defines every one of them as a
  `Bool` (resp. `Nat`) function with the same recursion, clause by clause, so that the trace replayer
  can EVALUATE them on every slab the implementation encodes (`Slab.hypReport`).
  `AtreeProofs/Codec/HypB.lean` proves `xB v = true ↔ X v` for each of them, and
  `AtreeProofs/Props/C07Hyp.lean` that a slab on which the check passes is in the domain of the
  round-trip theorems.

  Cost: every checker visits each node of the slab once per enclosing inlined slab / element group
  (the size clauses recompute `Stor.size` of the children), i.e. linear in the slab size times the
  nesting depth (which the `nest` clause bounds by 32; in the traces it is below 10).  The only
  super-linear piece is `nodupB` on the keys of a compact-eligible map (quadratic in the number of
  keys of ONE map; these are field lists of composites, a few dozen at most).  The `entries` clause
  and `Slab.vdepth` run the element encoder once each to obtain the shared extra-data list.
-/
namespace Atree.Codec
open Atree Atree.Gen

/-! ### scalars -/

/-- `validElem` (Encode.lean) -/
def validElemB (e : Elem) : Bool :=
  match e.pay with
  | .ref id => decide (e.size = slabIDStorableSize) && (decide (id.addr < 2 ^ 64) && decide (id.idx < 2 ^ 64))
  | .val p =>
    decide (1 ≤ e.size) && (decide (e.size ≠ 65540) && (decide (e.size < 2 ^ 32) &&
      decide (p < 256 ^ (min (tvLen e.size) 8))))

/-- `validTy` (RoundTrip.lean) -/
def validTyB : TyInfo → Bool
  | .plain n => decide (n < 2 ^ 64)
  | .composite n => decide (n < 2 ^ 64)

/-- `validMapExtra` (RoundTripM.lean) -/
def validMapExtraB (x : MapExtra) : Bool :=
  validTyB x.ty && (decide (x.count < 2 ^ 64) && decide (x.seed < 2 ^ 64))

/-- `validNext` (RoundTrip.lean) -/
def validNextB (id : SlabID) : Bool := decide (id.addr < 2 ^ 64) && decide (id.idx < 2 ^ 64)

/-- `validChildHdr` (RoundTrip.lean) -/
def validChildHdrB (addr : Nat) (h : Hdr) : Bool :=
  decide (h.id.addr = addr) && (decide (h.id.idx < 2 ^ 64) && (decide (h.count < 2 ^ 32) && decide (h.size < 65536)))

/-- `validMChildHdr` (RoundTripM.lean) -/
def validMChildHdrB (addr : Nat) (h : MChildHdr) : Bool :=
  decide (h.id.addr = addr) && (decide (h.id.idx < 2 ^ 64) && (decide (h.firstKey < 2 ^ 64) && decide (h.size < 65536)))

/-- `∀ x, o = some x → p x` -/
def optAllB {α : Type} (p : α → Bool) : Option α → Bool
  | some x => p x
  | none => true

/-- `List.Nodup` on compact-map keys: quadratic, the lists are the field lists of one composite -/
def nodupB : List (Nat × Nat) → Bool
  | [] => true
  | k :: ks => !ks.contains k && nodupB ks

/-! ### `noInl` (RoundTripG.lean) -/

mutual
def Stor.noInlB : Stor → Bool
  | .val _ _ => true
  | .ref _ => true
  | .some s => s.noInlB
  | .arr _ _ _ => false
  | .map _ _ _ => false
def SEl.noInlB : SEl → Bool
  | .mk k v => k.noInlB && v.noInlB
def MEl.noInlB : MEl → Bool
  | .single e => e.noInlB
  | .inl els => els.noInlB
  | .ext _ => true
def MEls.noInlB : MEls → Bool
  | .hkey _ _ es => noInlMElListB es
  | .single _ es => noInlSElListB es
def noInlMElListB : List MEl → Bool
  | [] => true
  | e :: es => e.noInlB && noInlMElListB es
def noInlSElListB : List SEl → Bool
  | [] => true
  | e :: es => e.noInlB && noInlSElListB es
end

def noInlStsB : List Stor → Bool
  | [] => true
  | s :: ss => s.noInlB && noInlStsB ss

/-! ### `RT` (RoundTripG.lean): what the round trip without inlined slabs needs -/

mutual
def Stor.rtB : Stor → Bool
  | .val size pay => validElemB { size := size, pay := .val pay }
  | .ref id => decide (id.addr < 2 ^ 64) && decide (id.idx < 2 ^ 64)
  | .some s => s.rtB
  | .arr _ _ _ => true
  | .map _ _ _ => true
def SEl.rtB : SEl → Bool
  | .mk k v => k.rtB && (v.rtB && decide (singleElementPrefixSize + k.size + v.size ≤ maxUint32))
def MEl.rtB : MEl → Bool
  | .single e => e.rtB
  | .inl els => els.rtB
  | .ext id => decide (id.addr < 2 ^ 64) && decide (id.idx < 2 ^ 64)
def MEls.rtB : MEls → Bool
  | .hkey level hkeys es =>
    decide (level < 24) && (decide (hkeys.length = es.length) && (decide (es.length < 8192) &&
      (hkeys.all (fun h => decide (h < 2 ^ 64)) && (rtMElListB es &&
        decide (hkeyElementsPrefixSize + sizeMEl es ≤ maxUint32)))))
  | .single level es =>
    decide (level < 24) && (!es.isEmpty && (decide (es.length < 65536) && (rtSElListB es &&
      decide (singleElementsPrefixSize + sizeSEl es ≤ maxUint32))))
def rtMElListB : List MEl → Bool
  | [] => true
  | e :: es => e.rtB && rtMElListB es
def rtSElListB : List SEl → Bool
  | [] => true
  | e :: es => e.rtB && rtSElListB es
end

/-! ### `vneed` (RoundTripG.lean): the nesting bound of the theorems without inlined slabs -/

mutual
def Stor.vneedB : Stor → Nat
  | .val _ _ => 1
  | .ref _ => 1
  | .some s => s.vneedB + 1
  | .arr _ _ _ => 0
  | .map _ _ _ => 0
def SEl.vneedB : SEl → Nat
  | .mk k v => max k.vneedB v.vneedB + 1
def MEl.vneedB : MEl → Nat
  | .single e => e.vneedB
  | .inl els => els.vneedB + 1
  | .ext _ => 2
def MEls.vneedB : MEls → Nat
  | .hkey _ _ es => vneedMElListB es + 2
  | .single _ es => vneedSElListB es + 2
def vneedMElListB : List MEl → Nat
  | [] => 0
  | e :: es => max e.vneedB (vneedMElListB es)
def vneedSElListB : List SEl → Nat
  | [] => 0
  | e :: es => max e.vneedB (vneedSElListB es)
end

def vneedStsB : List Stor → Nat
  | [] => 0
  | s :: ss => max s.vneedB (vneedStsB ss)

/-! ### `RTI` (InlDefs.lean): the same with inlined arrays / maps -/

mutual
def Stor.rtiB : Stor → Bool
  | .val size pay => validElemB { size := size, pay := .val pay }
  | .ref id => decide (id.addr < 2 ^ 64) && decide (id.idx < 2 ^ 64)
  | .some s => s.rtiB
  | .arr ty idx es =>
    validTyB ty && (decide (idx < 2 ^ 64) && (decide (es.length < 65536) && (rtiStsB es &&
      decide (inlinedArrayDataSlabPrefixSize + sizeSts es ≤ maxUint32))))
  | .map x idx els =>
    validMapExtraB x && (decide (idx < 2 ^ 64) && (els.rtiB &&
      decide (inlinedMapDataSlabPrefixSize + els.size ≤ maxUint32)))
def rtiStsB : List Stor → Bool
  | [] => true
  | s :: ss => s.rtiB && rtiStsB ss
def SEl.rtiB : SEl → Bool
  | .mk k v => k.rtiB && (v.rtiB && decide (singleElementPrefixSize + k.size + v.size ≤ maxUint32))
def MEl.rtiB : MEl → Bool
  | .single e => e.rtiB
  | .inl els => els.rtiB
  | .ext id => decide (id.addr < 2 ^ 64) && decide (id.idx < 2 ^ 64)
def MEls.rtiB : MEls → Bool
  | .hkey level hkeys es =>
    decide (level < 24) && (decide (hkeys.length = es.length) && (decide (es.length < 8192) &&
      (hkeys.all (fun h => decide (h < 2 ^ 64)) && (rtiMElListB es &&
        decide (hkeyElementsPrefixSize + sizeMEl es ≤ maxUint32)))))
  | .single level es =>
    decide (level < 24) && (!es.isEmpty && (decide (es.length < 65536) && (rtiSElListB es &&
      decide (singleElementsPrefixSize + sizeSEl es ≤ maxUint32))))
def rtiMElListB : List MEl → Bool
  | [] => true
  | e :: es => e.rtiB && rtiMElListB es
def rtiSElListB : List SEl → Bool
  | [] => true
  | e :: es => e.rtiB && rtiSElListB es
end

/-! ### `vneedI` (InlDefs.lean): the nesting bound of the theorems with inlined slabs -/

mutual
def Stor.vneedIB : Stor → Nat
  | .val _ _ => 1
  | .ref _ => 1
  | .some s => s.vneedIB + 1
  | .arr _ _ es => vneedIStsB es + 3
  | .map _ _ els => els.vneedIB + 2
def vneedIStsB : List Stor → Nat
  | [] => 0
  | s :: ss => max s.vneedIB (vneedIStsB ss)
def SEl.vneedIB : SEl → Nat
  | .mk k v => max k.vneedIB v.vneedIB + 1
def MEl.vneedIB : MEl → Nat
  | .single e => e.vneedIB
  | .inl els => els.vneedIB + 1
  | .ext _ => 2
def MEls.vneedIB : MEls → Nat
  | .hkey _ _ es => vneedIMElListB es + 2
  | .single _ es => vneedISElListB es + 2
def vneedIMElListB : List MEl → Nat
  | [] => 0
  | e :: es => max e.vneedIB (vneedIMElListB es)
def vneedISElListB : List SEl → Nat
  | [] => 0
  | e :: es => max e.vneedIB (vneedISElListB es)
end

/-! ### `OK` (EncLemmasG.lean): what the length law needs -/

mutual
def Stor.okB : Stor → Bool
  | .val size pay => validElemB { size := size, pay := .val pay }
  | .ref _ => true
  | .some s => s.okB
  | .arr _ _ es => okStsB es
  | .map _ _ els => els.okB
def okStsB : List Stor → Bool
  | [] => true
  | s :: ss => s.okB && okStsB ss
def SEl.okB : SEl → Bool
  | .mk k v => k.okB && v.okB
def MEl.okB : MEl → Bool
  | .single e => e.okB
  | .inl els => els.okB
  | .ext _ => true
def MEls.okB : MEls → Bool
  | .hkey _ hkeys es => decide (hkeys.length = es.length) && okMElListB es
  | .single _ es => okSElListB es
def okMElListB : List MEl → Bool
  | [] => true
  | e :: es => e.okB && okMElListB es
def okSElListB : List SEl → Bool
  | [] => true
  | e :: es => e.okB && okSElListB es
end

/-! ### `noCompact` (EncLemmasG.lean): no inlined map is written in the compact form -/

mutual
def Stor.noCompactB : Stor → Bool
  | .val _ _ => true
  | .ref _ => true
  | .some s => s.noCompactB
  | .arr _ _ es => noCompactStsB es
  | .map x _ (.hkey _ _ es) => (compactKeys x es).isNone && noCompactMElListB es
  | .map _ _ (.single _ es) => noCompactSElListB es
def noCompactStsB : List Stor → Bool
  | [] => true
  | s :: ss => s.noCompactB && noCompactStsB ss
def SEl.noCompactB : SEl → Bool
  | .mk k v => k.noCompactB && v.noCompactB
def MEl.noCompactB : MEl → Bool
  | .single e => e.noCompactB
  | .inl els => els.noCompactB
  | .ext _ => true
def MEls.noCompactB : MEls → Bool
  | .hkey _ _ es => noCompactMElListB es
  | .single _ es => noCompactSElListB es
def noCompactMElListB : List MEl → Bool
  | [] => true
  | e :: es => e.noCompactB && noCompactMElListB es
def noCompactSElListB : List SEl → Bool
  | [] => true
  | e :: es => e.noCompactB && noCompactSElListB es
end

/-! ### `nodupKeys` (EncLemmasC.lean): the keys of every compact-eligible map are distinct -/

mutual
def Stor.nodupKeysB : Stor → Bool
  | .val _ _ => true
  | .ref _ => true
  | .some s => s.nodupKeysB
  | .arr _ _ es => nodupKeysStsB es
  | .map x _ (.hkey _ _ es) => optAllB nodupB (compactKeys x es) && nodupKeysMElListB es
  | .map _ _ (.single _ es) => nodupKeysSElListB es
def nodupKeysStsB : List Stor → Bool
  | [] => true
  | s :: ss => s.nodupKeysB && nodupKeysStsB ss
def SEl.nodupKeysB : SEl → Bool
  | .mk k v => k.nodupKeysB && v.nodupKeysB
def MEl.nodupKeysB : MEl → Bool
  | .single e => e.nodupKeysB
  | .inl els => els.nodupKeysB
  | .ext _ => true
def MEls.nodupKeysB : MEls → Bool
  | .hkey _ _ es => nodupKeysMElListB es
  | .single _ es => nodupKeysSElListB es
def nodupKeysMElListB : List MEl → Bool
  | [] => true
  | e :: es => e.nodupKeysB && nodupKeysMElListB es
def nodupKeysSElListB : List SEl → Bool
  | [] => true
  | e :: es => e.nodupKeysB && nodupKeysSElListB es
end

/-! ### the encoder's `InlinedExtraData`: `XOK` (InlDefs.lean), `XD.validC` / `XOKC` (CmpDefs.lean) -/

def XD.validB : XD → Bool
  | .arr t => validTyB t
  | .map m => validMapExtraB m
  | .cmap _ _ _ => false

def xokB (xs : List XD) : Bool := xs.all XD.validB

def XD.validCB : XD → Bool
  | .arr t => validTyB t
  | .map m => validMapExtraB m
  | .cmap m hkeys keys =>
    validMapExtraB m && (decide (hkeys.length = keys.length) && (decide (keys.length < 8192) &&
      (hkeys.all (fun h => decide (h < 2 ^ 64)) &&
        (keys.all (fun k => validElemB { size := k.1, pay := .val k.2 }) &&
          (m.ty.isComposite && decide (m.count = keys.length))))))

def xokcB (xs : List XD) : Bool := xs.all XD.validCB

/-! ### the slab-level predicates -/

/-- `DataOK` (RoundTrip.lean) -/
def dataOKB (ty : TyInfo) (s : DataSlab) : Bool :=
  s.elems.all validElemB && (decide (s.elems.length < 65536) && (!s.inlined &&
    (decide (s.hdr.count = s.elems.length) && (decide (s.hdr.size = s.prefixSize + sumSizes s.elems) &&
      (decide (s.hdr.size ≤ 4294967295) && (validNextB s.next && (!s.root || validTyB ty)))))))

/-- `MetaOK` (RoundTrip.lean) -/
def metaOKB (ty : TyInfo) (m : MetaSlab Unit) : Bool :=
  decide (m.hdr.id.addr < 2 ^ 64) && (m.childHdrs.all (validChildHdrB m.hdr.id.addr) &&
    (decide (m.childHdrs.length < 65536) && (decide (m.countSum = MetaSlab.prefixSums m.childHdrs 0) &&
      (decide (m.hdr.count = m.countSum.getLastD 0) && (decide (MetaSlab.sumCounts m.childHdrs ≤ 4294967295) &&
        (decide (m.hdr.size = arrayMetaDataSlabPrefixSize + arraySlabHeaderSize * m.childHdrs.length) &&
          (m.children.isEmpty && (!m.root || validTyB ty))))))))

/-- `MapMetaOK` (RoundTripM.lean) -/
def mapMetaOKB (m : MapMeta) : Bool :=
  decide (m.id.addr < 2 ^ 64) && (m.childHdrs.all (validMChildHdrB m.id.addr) &&
    (decide (m.childHdrs.length < 65536) && optAllB validMapExtraB m.extra))

/-- `MapDataOK` (RoundTripD.lean): no inlined slab -/
def mapDataOKB (s : MapData) : Bool :=
  s.els.rtB && (s.els.noInlB && (decide (s.els.vneedB ≤ maxNestedLevels) && (validNextB s.next &&
    (optAllB validMapExtraB s.extra && decide (s.size ≤ maxUint32)))))

/-- `ArrDataOKW` (Codec/SlabPreds.lean): wrapped elements, no inlined slab -/
def arrDataOKWB (a : ArrData) : Bool :=
  rtiStsB a.elems && (noInlStsB a.elems && (a.elems.any (fun s => !s.isFlat) &&
    (decide (vneedIStsB a.elems + 1 ≤ maxNestedLevels) && (decide (a.elems.length < 65536) &&
      (validNextB a.next && (optAllB validTyB a.ty && decide (a.size ≤ maxUint32)))))))

/-- `MapDataOKI` (Codec/SlabPreds.lean): inlined slabs, not the compact form -/
def mapDataOKIB (s : MapData) : Bool :=
  s.els.rtiB && (s.els.noCompactB && (decide (s.els.vneedIB ≤ maxNestedLevels) &&
    (decide ((encMEls s.els []).2.length ≤ 256) && (validNextB s.next &&
      (optAllB validMapExtraB s.extra && decide (s.size ≤ maxUint32))))))

/-- `ArrDataOKI` (Codec/SlabPreds.lean) -/
def arrDataOKIB (a : ArrData) : Bool :=
  rtiStsB a.elems && (noCompactStsB a.elems && (decide (vneedIStsB a.elems + 1 ≤ maxNestedLevels) &&
    (decide (a.elems.length < 65536) && (!(encSts a.elems []).2.isEmpty &&
      (decide ((encSts a.elems []).2.length ≤ 256) && (validNextB a.next &&
        (optAllB validTyB a.ty && decide (a.size ≤ maxUint32))))))))

/-- `MapDataOKC` (CmpSlab.lean): inlined slabs in any form -/
def mapDataOKCB (s : MapData) : Bool :=
  s.els.rtiB && (s.els.nodupKeysB && (decide (s.els.vneedIB ≤ maxNestedLevels) &&
    (decide ((encMEls s.els []).2.length ≤ 256) && (validNextB s.next &&
      (optAllB validMapExtraB s.extra && decide (s.size ≤ maxUint32))))))

/-- `ArrDataOKC` (CmpSlab.lean) -/
def arrDataOKCB (a : ArrData) : Bool :=
  rtiStsB a.elems && (nodupKeysStsB a.elems && (decide (vneedIStsB a.elems + 1 ≤ maxNestedLevels) &&
    (decide (a.elems.length < 65536) && (!(encSts a.elems []).2.isEmpty &&
      (decide ((encSts a.elems []).2.length ≤ 256) && (validNextB a.next &&
        (optAllB validTyB a.ty && decide (a.size ≤ maxUint32))))))))

/-- `MapDataOKX` (VDepthSlab.lean): `MapDataOKC` with the EXACT nesting clause `Slab.vdepth ≤ maxNestedLevels` -/
def mapDataOKXB (s : MapData) : Bool :=
  s.els.rtiB && (s.els.nodupKeysB && (decide ((Slab.mdata s).vdepth ≤ maxNestedLevels) &&
    (decide ((encMEls s.els []).2.length ≤ 256) && (validNextB s.next &&
      (optAllB validMapExtraB s.extra && decide (s.size ≤ maxUint32))))))

/-- `ArrDataOKX` (VDepthSlab.lean): `ArrDataOKC` with the exact nesting clause -/
def arrDataOKXB (a : ArrData) : Bool :=
  rtiStsB a.elems && (nodupKeysStsB a.elems && (decide ((Slab.adata a).vdepth ≤ maxNestedLevels) &&
    (decide (a.elems.length < 65536) && (!(encSts a.elems []).2.isEmpty &&
      (decide ((encSts a.elems []).2.length ≤ 256) && (validNextB a.next &&
        (optAllB validTyB a.ty && decide (a.size ≤ maxUint32))))))))

/-- `ArrDataOKWX` (VDepthW.lean): `ArrDataOKW` with the exact nesting clause -/
def arrDataOKWXB (a : ArrData) : Bool :=
  rtiStsB a.elems && (noInlStsB a.elems && (a.elems.any (fun s => !s.isFlat) &&
    (decide ((Slab.adata a).vdepth ≤ maxNestedLevels) && (decide (a.elems.length < 65536) &&
      (validNextB a.next && (optAllB validTyB a.ty && decide (a.size ≤ maxUint32)))))))

/-- the hypotheses of `C07.decode_encode_storable_wrapped` on the storable of a large-value slab:
    it is a wrapper `some x` with `x.RT`, `x.noInl`, `x.vneed + 1 ≤ maxNestedLevels` -/
def storableGOKB : Stor → Bool
  | .some x => x.rtB && (x.noInlB && decide (x.vneedB + 1 ≤ maxNestedLevels))
  | _ => false

/-! ### the dispatcher -/

/-- The REQUIRED clauses for the slab's kind: one entry per clause of `SlabOKG` (the predicate under
    which the general theorems `C07.decode_encode`, `C07.reencode_fixpoint`, `C06.enc_len`,
    `C06.decoded_size_eq` are stated) for that kind, with the clause's field name:

    * `.data`     — `SlabOK` = `DataOK` (+ `tyRoot`: the type info is present exactly for roots)
    * `.index`    — `SlabOK` = `MetaOK` (+ `tyRoot`)
    * `.storable` — `validElem`
    * `.mindex`   — `MapMetaOK`
    * `.mdata`    — `MapDataOKX`
    * `.adata`    — `ArrDataOKX` or `ArrDataOKWX`: the clauses the two share, `nodupKeys` and `entries`
                    (trivially true without inlined slabs), and `inlined-or-wrapped` = `ArrDataOKX.inlined`
                    or (`ArrDataOKWX.noInl` and `ArrDataOKWX.wrapped`)
    * `.storableG` — the hypotheses of `C07.decode_encode_storable_wrapped`

    `nest-exact` (`.mdata` / `.adata`) is the EXACT nesting clause: the validator depth of the register
    (`Slab.vdepth`, Limits.lean) is within the limit; one level more and the register does not decode
    (`C07.decodes_iff_depth_mdata` / `_adata`).  The older, non-tight clause of `MapDataOKC` /
    `ArrDataOKC` / `ArrDataOKW` (`vneedI`, an over-approximation) is the informative entry `nest-vneed`
    of `hypInfo`.  (`.storableG`: the theorem is still stated with `vneed`; there `nest-vneed` is the
    required clause and `nest-exact` the informative one.) -/
def Slab.hypReq : Slab → List (String × Bool)
  | .data ty s =>
    let t := ty.getD default
    [ ("elems", s.elems.all validElemB),
      ("count16", decide (s.elems.length < 65536)),
      ("notInlined", !s.inlined),
      ("count", decide (s.hdr.count = s.elems.length)),
      ("size", decide (s.hdr.size = s.prefixSize + sumSizes s.elems)),
      ("size32", decide (s.hdr.size ≤ 4294967295)),
      ("next", validNextB s.next),
      ("ty", !s.root || validTyB t),
      ("tyRoot", ty.isSome == s.root) ]
  | .index ty m =>
    let t := ty.getD default
    [ ("addr", decide (m.hdr.id.addr < 2 ^ 64)),
      ("hdrs", m.childHdrs.all (validChildHdrB m.hdr.id.addr)),
      ("n16", decide (m.childHdrs.length < 65536)),
      ("sums", decide (m.countSum = MetaSlab.prefixSums m.childHdrs 0)),
      ("count", decide (m.hdr.count = m.countSum.getLastD 0)),
      ("total32", decide (MetaSlab.sumCounts m.childHdrs ≤ 4294967295)),
      ("size", decide (m.hdr.size = arrayMetaDataSlabPrefixSize + arraySlabHeaderSize * m.childHdrs.length)),
      ("noChildren", m.children.isEmpty),
      ("ty", !m.root || validTyB t),
      ("tyRoot", ty.isSome == m.root) ]
  | .storable _ e => [ ("validElem", validElemB e) ]
  | .adata a =>
    let xs := (encSts a.elems []).2
    [ ("rt", rtiStsB a.elems),
      ("nodupKeys", nodupKeysStsB a.elems),
      ("nest-exact", decide ((Slab.adata a).vdepth ≤ maxNestedLevels)),
      ("count", decide (a.elems.length < 65536)),
      ("inlined-or-wrapped", !xs.isEmpty || (noInlStsB a.elems && a.elems.any (fun s => !s.isFlat))),
      ("entries", decide (xs.length ≤ 256)),
      ("next", validNextB a.next),
      ("ty", optAllB validTyB a.ty),
      ("size", decide (a.size ≤ maxUint32)) ]
  | .mdata m =>
    [ ("rt", m.els.rtiB),
      ("nodupKeys", m.els.nodupKeysB),
      ("nest-exact", decide ((Slab.mdata m).vdepth ≤ maxNestedLevels)),
      ("entries", decide ((encMEls m.els []).2.length ≤ 256)),
      ("next", validNextB m.next),
      ("extra", optAllB validMapExtraB m.extra),
      ("size", decide (m.size ≤ maxUint32)) ]
  | .mindex m =>
    [ ("addr", decide (m.id.addr < 2 ^ 64)),
      ("hdrs", m.childHdrs.all (validMChildHdrB m.id.addr)),
      ("n16", decide (m.childHdrs.length < 65536)),
      ("extra", optAllB validMapExtraB m.extra) ]
  | .storableG _ s =>
    match s with
    | .some x =>
      [ ("wrapped", true),
        ("rt", x.rtB),
        ("noInl", x.noInlB),
        ("nest-vneed", decide (x.vneedB + 1 ≤ maxNestedLevels)) ]
    | _ => [ ("wrapped", false) ]

/-- INFORMATIVE entries (not hypotheses of the general theorems):
    `nest-vneed` (`.adata` / `.mdata`) — the older, non-tight nesting clause (`vneedI`, the clause of
    `MapDataOKC` / `ArrDataOKC` / `ArrDataOKW`; it implies the required `nest-exact`, real slabs with
    nested inlined children fail it and decode fine);
    `nest-exact` (the other kinds) — the exact validator depth (`Slab.vdepth`) is within the limit;
    `noCompact` — no inlined map is written in the compact form (then the `…OKI` theorems apply and
    the decoded slab is the encoded one); `noInl` — no inlined slab at all (`MapDataOK` / `ArrDataOKW`);
    `xokc` — the encoder's final extra-data list satisfies `XOKC` (it follows from `rt`). -/
def Slab.hypInfo (s : Slab) : List (String × Bool) :=
  match s with
  | .adata a =>
    [ ("nest-vneed", decide (vneedIStsB a.elems + 1 ≤ maxNestedLevels)),
      ("noCompact", noCompactStsB a.elems),
      ("noInl", noInlStsB a.elems),
      ("xokc", xokcB (encSts a.elems []).2) ]
  | .mdata m =>
    [ ("nest-vneed", decide (m.els.vneedIB ≤ maxNestedLevels)),
      ("noCompact", m.els.noCompactB),
      ("noInl", m.els.noInlB),
      ("xokc", xokcB (encMEls m.els []).2) ]
  | _ => [ ("nest-exact", decide (s.vdepth ≤ maxNestedLevels)) ]

/-- every clause with a stable name: the required ones, then the informative ones -/
def Slab.hypReport (s : Slab) : List (String × Bool) := s.hypReq ++ s.hypInfo

/-- all required clauses hold: the slab is in the domain of the general theorems (`SlabOKG`,
    `C07.hypOK_iff`) -/
def Slab.hypOK (s : Slab) : Bool := s.hypReq.all (fun p => p.2)

/-- names of the failed clauses of the report (for the replayer): every failed REQUIRED clause, and the
    failed informative ones except those listed in `optional`.  (`optional` never hides a required
    clause: the large-value slab's required nesting clause is called `nest-vneed` too.) -/
def Slab.hypFailed (s : Slab) (optional : List String := ["nest-vneed", "noCompact", "noInl", "xokc"]) : List String :=
  (s.hypReq.filter (fun p => !p.2)).map (fun p => p.1) ++
    (s.hypInfo.filter (fun p => !p.2 && !optional.contains p.1)).map (fun p => p.1)

end Atree.Codec

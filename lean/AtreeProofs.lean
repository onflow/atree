import AtreeProofs.Storage.Basic
import AtreeProofs.Props.C14
import AtreeProofs.Props.C15
import AtreeProofs.ArrayInv
import AtreeProofs.Core.Kit
import AtreeProofs.ArrayLemmas
import AtreeProofs.Props.C01Inv
import AtreeProofs.Props.C01
import AtreeProofs.Props.C05
import AtreeProofs.HealthSpec
import AtreeProofs.HealthLemmas
import AtreeProofs.Props.C20
import AtreeProofs.Props.C20Storage
import AtreeProofs.Props.C20Ring
import AtreeProofs.Props.C03
import AtreeProofs.Props.C04
import AtreeProofs.Props.C08
import AtreeProofs.Props.C16
import AtreeProofs.MapInv
import AtreeProofs.MapLemmas
import AtreeProofs.Map.Example
import AtreeProofs.Map.Requests
import AtreeProofs.Props.C02
import AtreeProofs.Map.GroupBound
import AtreeProofs.Props.C02Run
import AtreeProofs.Props.C12
import AtreeProofs.Map.Export
import AtreeProofs.Map.ExportTree
import AtreeProofs.Map.InsertOrder
import AtreeProofs.Props.C12Shape
import AtreeProofs.Props.C18
import AtreeProofs.Props.StringCode
import AtreeProofs.Props.C18Order
import AtreeProofs.Props.C18OrderExt
import AtreeProofs.Props.C18Wrap
import AtreeProofs.Reject.Prog
import AtreeProofs.Batch.FreshIds
import AtreeProofs.Batch.Stored
import AtreeProofs.Reject.Array
import AtreeProofs.Reject.ArrayAgree
import AtreeProofs.Reject.Map
import AtreeProofs.Reject.MapAgree
import AtreeProofs.Props.C18Reject
import AtreeProofs.WorldInv
import AtreeProofs.WorldLemmas
import AtreeProofs.Props.C10
import AtreeProofs.Props.C11
import AtreeProofs.HeapSpec
import AtreeProofs.Props.C09
import AtreeProofs.Codec.DM
import AtreeProofs.Codec.CborLemmas
import AtreeProofs.Codec.NoPanic
import AtreeProofs.Codec.Triple
import AtreeProofs.Codec.DecodersSpec
import AtreeProofs.Codec.FuelSchedule
import AtreeProofs.Codec.EncLemmas
import AtreeProofs.Codec.Reads
import AtreeProofs.Codec.DecLemmas
import AtreeProofs.Codec.RoundTrip
import AtreeProofs.Props.C06
import AtreeProofs.Props.C07
import AtreeProofs.Props.C19
import AtreeProofs.Props.C06Exact
import AtreeProofs.Props.C06StorableLimit
import AtreeProofs.Props.SlabAll
import AtreeProofs.Props.SlabAllDepth
import AtreeProofs.Props.C07Ext
import AtreeProofs.Props.C07Hyp
import AtreeProofs.Props.C07Depth
import AtreeProofs.Props.C07Enc
import AtreeProofs.Props.C19Fuel
import AtreeProofs.Props.C19Acc
import AtreeProofs.MapHeapSpec
import AtreeProofs.Props.C09Map
import AtreeProofs.Props.C13
import AtreeProofs.Props.C17
import AtreeProofs.Props.C05Map
import AtreeProofs.Codec.NoPanicG
import AtreeProofs.Codec.HeadG
import AtreeProofs.Props.C10Get
import AtreeProofs.Props.C10Pop
import AtreeProofs.Props.E2E
import AtreeProofs.Props.E2EMap
import AtreeProofs.Props.E2EBytes
import AtreeProofs.Props.C10W
import AtreeProofs.Props.E2EMapFull
import AtreeProofs.Props.C10Idx
import AtreeProofs.Props.E2EMapBytes
import AtreeProofs.Props.E2EMapSched
import AtreeProofs.Props.E2EBytesG
import AtreeProofs.Props.C10WPop
import AtreeProofs.Props.C10WPopOps
import AtreeProofs.Props.C10WPopEx
import AtreeProofs.Props.C10WAll
import AtreeProofs.Props.C10Hist
import AtreeProofs.Props.C10IdxW
import AtreeProofs.Props.C10HistIdx
import AtreeProofs.Props.C11Slot
import AtreeProofs.Props.C11W
import AtreeProofs.World.HistScenario
import AtreeProofs.Props.C10Total
import AtreeProofs.Props.C10TotalCorrect
import AtreeProofs.Props.C10HistTotal
import AtreeProofs.SlabIdBytes
import AtreeProofs.SlabIdStorages
import AtreeProofs.Props.SlabId
import AtreeProofs.Props.SlabIdStorages
import AtreeProofs.Props.SlabIdStoragesTie
import AtreeProofs.Props.Trans
import AtreeProofs.Props.TransCbor
import AtreeProofs.Props.TransLoops
import AtreeProofs.Props.TransMeta
import AtreeProofs.Props.TransSafe
import AtreeProofs.Props.TransStorage
import AtreeProofs.Props.TransStorageBasic
import AtreeProofs.Props.TransMapSlabs
import AtreeProofs.Props.TransMapSlabsData
import AtreeProofs.Props.TransMapSlabsMeta
import AtreeProofs.Props.TransMapSlabsSingle
import AtreeProofs.Props.TransMapSlabsTree
import AtreeProofs.Props.TransMapSlabsRoot
import AtreeProofs.Props.TransMapSlabsErr
import AtreeProofs.Props.TransMapSlabsSafe
import AtreeProofs.Props.TransElems
import AtreeProofs.Props.TransElemsGet
import AtreeProofs.Props.TransElemsSet
import AtreeProofs.Props.TransElemsRemove
import AtreeProofs.Props.TransElemInline
import AtreeProofs.Props.TransElemSlab
import AtreeProofs.Props.TransElemDispatch
import AtreeProofs.Props.TransElemErr
import AtreeProofs.Props.TransElemClosedBase
import AtreeProofs.Props.TransElemClosedH
import AtreeProofs.Props.TransElemClosedA
import AtreeProofs.Props.TransElemClosedSet
import AtreeProofs.Props.TransElemClosed
import AtreeProofs.Props.TransElemClosedSlab
import AtreeProofs.Props.TransElemClosedInv
import AtreeProofs.Props.TransElemClosedInvR
import AtreeProofs.Props.TransElemClosedInvS
import AtreeProofs.Props.TransElemClosedEx
import AtreeProofs.Props.TransElemClosedEx2
import AtreeProofs.Props.TransMapDescent
import AtreeProofs.Props.TransMapDescentGet
import AtreeProofs.Props.TransMapDescentFull
import AtreeProofs.Props.TransMapDescentHeapOf
import AtreeProofs.Props.TransMapDescentPop
import AtreeProofs.Props.TransMapDescentTopPop
import AtreeProofs.Props.TransMapDescentSet
import AtreeProofs.Props.TransMapDescentTopSet
import AtreeProofs.Props.TransMapDescentSetModel
import AtreeProofs.Props.TransMapDescentRemove
import AtreeProofs.Props.TransMapDescentTopRemove
import AtreeProofs.Props.TransMapDescentLevel
import AtreeProofs.Props.TransMapDescentRemoveTree
import AtreeProofs.Props.TransMapDescentClosed
import AtreeProofs.Props.TransMapDescentClosedEx
import AtreeProofs.Props.TransStorageLedger
import AtreeProofs.DigesterLemmas
import AtreeProofs.DigesterHeapLemmas
import AtreeProofs.Props.Digester
import AtreeProofs.Props.DigesterMap
import AtreeProofs.Props.DigesterSeed
import AtreeProofs.Props.DigesterHeap
import AtreeProofs.Props.DigesterGen
import AtreeProofs.Props.C09W
import AtreeProofs.Props.C09WHist
import AtreeProofs.Props.C09WPop
import AtreeProofs.Props.C10Persist
import AtreeProofs.World.HeapScenario
import AtreeProofs.World.HeapPopScenario
import AtreeProofs.World.PersistScenario
import AtreeProofs.Props.C05Verify
import AtreeProofs.Props.C05VerifyMap
import AtreeProofs.Storage.Commit
import AtreeProofs.Storage.Step
import AtreeProofs.Storage.Parallel
import AtreeProofs.Props.C04Order
import AtreeProofs.Props.C14Crash
import AtreeProofs.Props.C15Run
import AtreeProofs.Props.E2ESched
import AtreeProofs.Props.E2EMapSchedHist
import AtreeProofs.ScheduleLemmas
import AtreeProofs.PoolXLemmas
import AtreeProofs.Props.C16Pool
import AtreeProofs.Props.SourceFacts
import AtreeProofs.MapIds
import AtreeProofs.Map.Ids
import AtreeProofs.Props.C05MapIds
import AtreeProofs.Props.C13Ids
import AtreeProofs.Props.C05VerifyHist
import AtreeProofs.Props.C17Limit
import AtreeProofs.Props.C17More
import AtreeProofs.Props.C17Ids
import AtreeProofs.Props.C17Refs
import AtreeProofs.Props.C17Inl
import AtreeProofs.Props.C09Refs
import AtreeProofs.Props.E2EDispose
import AtreeProofs.Props.C01Hist
import AtreeProofs.MapRefs
import AtreeProofs.Map.Refs
import AtreeProofs.Props.C09MapRefs
import AtreeProofs.E2EMapDisposeSpec
import AtreeProofs.E2EMap.Dispose
import AtreeProofs.Props.E2EMapDispose
import AtreeProofs.Props.C09MapHist
import AtreeProofs.Props.C01Partial
import AtreeProofs.Map.InsertionOrderSpec
import AtreeProofs.Map.InsertionOrderLemmas
import AtreeProofs.Props.C13Order
import AtreeProofs.Props.C13Obj
import AtreeProofs.Props.C13ObjEq
import AtreeProofs.BufferPoolLemmas
import AtreeProofs.Props.BufferPool
import AtreeProofs.Props.SourceFactsDet
import AtreeProofs.Props.C04ExtraData
import AtreeProofs.World.StoreHolderArr
import AtreeProofs.World.StoreHolderMap
import AtreeProofs.WorldCodec.MapSlabExample
import AtreeProofs.Props.C07World
import AtreeProofs.Props.C03WorldBytes
import AtreeProofs.Props.C10Deep
import AtreeProofs.World.DeepScenario
import AtreeProofs.World.NoCreatedScenario
import AtreeProofs.Props.C03WorldBytesFinal
import AtreeProofs.World.BytesScenario
import AtreeProofs.Props.TransSlabs
import AtreeProofs.Props.TransSlabsData
import AtreeProofs.Props.TransSlabsMeta
import AtreeProofs.Props.TransSlabsDecide
import AtreeProofs.Props.TransSlabsTree
import AtreeProofs.Props.TransSlabsRoot
import AtreeProofs.Props.TransSlabsGlue
import AtreeProofs.Props.TransDescentGet
import AtreeProofs.Props.TransDescentRoute
import AtreeProofs.Props.TransDescentHeap
import AtreeProofs.Props.TransDescentSplit
import AtreeProofs.Props.TransDescentMor
import AtreeProofs.Props.TransDescentLevel
import AtreeProofs.Props.TransDescentRoot
import AtreeProofs.Props.TransDescentPop
import AtreeProofs.Props.TransDescentTopPop
import AtreeProofs.Props.TransDescentInsert
import AtreeProofs.Props.TransDescentInsertFull
import AtreeProofs.Props.TransDescentTopInsert
import AtreeProofs.Props.TransDescentRemove
import AtreeProofs.Props.TransDescentRemoveFull
import AtreeProofs.Props.TransDescentTopRemove
import AtreeProofs.Props.TransDescentSet
import AtreeProofs.Props.TransDescentSetFull
import AtreeProofs.Props.TransDescentTopSet
import AtreeProofs.Props.TransDescentFull
import AtreeProofs.Props.TransDescentFullEx
import AtreeProofs.Props.TransDescentExDefs
import AtreeProofs.Props.TransDescentEx
import AtreeProofs.Props.TransMapDescentRemoveFull
import AtreeProofs.Props.TransMapDescentSetFull
import AtreeProofs.Props.TransMapDescentTopSetFull
import AtreeProofs.Props.TransMapRestructMor
import AtreeProofs.Props.TransMapRestructMorEx
import AtreeProofs.Props.TransMapRestructMorHeap
import AtreeProofs.Props.TransMapRestructPromote
import AtreeProofs.Props.TransMapRestructRoot
import AtreeProofs.Props.TransMapRestructSplit
import AtreeProofs.Props.TransCoverage
import AtreeProofs.Props.TransCoverageStateless
import AtreeProofs.Props.TransCoverageStorage
import AtreeProofs.Props.TransCoverageSlabs
import AtreeProofs.Props.TransCoverageMaps
import AtreeProofs.Props.TransMapDescentInv
import AtreeProofs.Props.TransMapDescentInvR
import AtreeProofs.Props.TransMapDescentSetFinal
import AtreeProofs.Props.TransMapDescentTailSplit
import AtreeProofs.Props.TransMapDescentTailMor
import AtreeProofs.Props.TransMapDescentTailPromote
import AtreeProofs.Props.TransMapDescentSetFull3
import AtreeProofs.Props.TransMapDescentTailRootSplit
import AtreeProofs.Props.TransMapDescentTailRootPromote
import AtreeProofs.Props.TransMapDescentSetFull4
import AtreeProofs.Props.TransMapDescentTailRootPromote1
import AtreeProofs.Props.TransMapDescentSetHeapFull
import AtreeProofs.Props.TransMapDescentRemoveFull2
import AtreeProofs.Props.TransMapDescentRemoveHeapFull
import AtreeProofs.Trans.GoPrims

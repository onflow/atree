import AtreeModel.Basic
/-
  Association lists (`AList`): look-up, keys, insertion, erasure, append, `map`, `filter`, permutation.  Before them what
  their keys need: the derived `BEq` on `SlabID` is lawful, `SlabID.isTemp`, and `List.eraseDups` has no duplicates.
-/
namespace Atree

instance : LawfulBEq SlabID where
  rfl := by
    intro a
    cases a
    show (_ == _ && _ == _) = true
    simp
  eq_of_beq := by
    intro a b h
    cases a; cases b
    have h' : (_ == _ && _ == _) = true := h
    simp at h'
    simp [h'.1, h'.2]

theorem SlabID.isTemp_iff (i : SlabID) : i.isTemp = true ↔ i.addr = 0 := by
  simp [SlabID.isTemp]

theorem SlabID.isTemp_undef : SlabID.undef.isTemp = true := by decide

theorem nodup_eraseDups {α : Type} [BEq α] [LawfulBEq α] (l : List α) : l.eraseDups.Nodup := by
  suffices h : ∀ n (l : List α), l.length ≤ n → l.eraseDups.Nodup from h _ l (Nat.le_refl _)
  intro n
  induction n with
  | zero =>
    intro l hl
    have : l = [] := List.length_eq_zero_iff.mp (Nat.le_zero.mp hl)
    subst this
    simp
  | succ n ih =>
    intro l hl
    cases l with
    | nil => simp
    | cons a as =>
      rw [List.eraseDups_cons, List.nodup_cons]
      refine ⟨?_, ih _ ?_⟩
      · simp [List.mem_eraseDups, List.mem_filter]
      · have := List.length_filter_le (fun b => !b == a) as
        simp at hl
        omega

namespace AList
variable {κ : Type} [DecidableEq κ] {α : Type}

@[simp] theorem find?_nil (k : κ) : find? ([] : AList κ α) k = none := rfl

theorem find?_cons (k' : κ) (v : α) (m : AList κ α) (k : κ) :
    find? ((k', v) :: m) k = if k' = k then some v else find? m k := rfl

theorem find?_erase (m : AList κ α) (k j : κ) :
    find? (erase m k) j = if k = j then none else find? m j := by
  induction m with
  | nil => simp [erase]
  | cons p m ih =>
    obtain ⟨k', v⟩ := p
    unfold erase at ih ⊢
    by_cases h : k' = k
    · subst h
      simp only [List.filter_cons, decide_true, Bool.not_true, Bool.false_eq_true, if_false, ih]
      by_cases hj : k' = j
      · simp [hj]
      · simp [hj, find?_cons]
    · simp only [List.filter_cons, h, decide_false, Bool.not_false, if_true, find?_cons, ih]
      by_cases hj : k = j
      · subst hj; simp [h]
      · simp [hj]

theorem find?_insert (m : AList κ α) (k : κ) (v : α) (j : κ) :
    find? (insert m k v) j = if k = j then some v else find? m j := by
  unfold insert
  rw [find?_cons, find?_erase]
  by_cases h : k = j <;> simp [h]

omit [DecidableEq κ] in
theorem keys_nil : keys ([] : AList κ α) = [] := rfl

omit [DecidableEq κ] in
theorem keys_cons (p : κ × α) (m : AList κ α) : keys (p :: m) = p.1 :: keys m := rfl

theorem mem_keys_erase (m : AList κ α) (k j : κ) :
    j ∈ keys (erase m k) ↔ j ≠ k ∧ j ∈ keys m := by
  simp only [keys, erase, List.mem_map, List.mem_filter]
  constructor
  · rintro ⟨p, ⟨hp, hk⟩, rfl⟩
    exact ⟨by simpa using hk, p, hp, rfl⟩
  · rintro ⟨hne, p, hp, rfl⟩
    exact ⟨p, ⟨hp, by simpa using hne⟩, rfl⟩

theorem nodup_keys_erase (m : AList κ α) (k : κ) (h : (keys m).Nodup) :
    (keys (erase m k)).Nodup := by
  induction m with
  | nil => simp [erase, keys]
  | cons p m ih =>
    rw [keys_cons, List.nodup_cons] at h
    unfold erase at ih ⊢
    by_cases hk : p.1 = k
    · simpa [List.filter_cons, hk] using ih h.2
    · simp only [List.filter_cons, hk, decide_false, Bool.not_false, if_true, keys_cons,
        List.nodup_cons]
      refine ⟨?_, ih h.2⟩
      intro hmem
      exact h.1 ((mem_keys_erase m k p.1).mp hmem).2

theorem mem_keys_insert (m : AList κ α) (k : κ) (v : α) (j : κ) :
    j ∈ keys (insert m k v) ↔ j = k ∨ j ∈ keys m := by
  unfold insert
  rw [keys_cons, List.mem_cons, mem_keys_erase]
  by_cases h : j = k <;> simp [h]

theorem nodup_keys_insert (m : AList κ α) (k : κ) (v : α) (h : (keys m).Nodup) :
    (keys (insert m k v)).Nodup := by
  unfold insert
  rw [keys_cons, List.nodup_cons]
  refine ⟨?_, nodup_keys_erase m k h⟩
  intro hmem
  exact ((mem_keys_erase m k k).mp hmem).1 rfl

theorem find?_eq_none_iff (m : AList κ α) (k : κ) : find? m k = none ↔ k ∉ keys m := by
  induction m with
  | nil => simp [keys]
  | cons p m ih =>
    obtain ⟨k', v⟩ := p
    rw [find?_cons, keys_cons, List.mem_cons]
    by_cases h : k' = k
    · simp [h]
    · have h' : ¬ k = k' := fun e => h e.symm
      simp [h, h', ih]

theorem find?_ne_none_iff (m : AList κ α) (k : κ) : find? m k ≠ none ↔ k ∈ keys m := by
  rw [Ne, find?_eq_none_iff]; exact Decidable.not_not

theorem mem_iff_find? (m : AList κ α) (h : (keys m).Nodup) (k : κ) (v : α) :
    (k, v) ∈ m ↔ find? m k = some v := by
  induction m with
  | nil => simp
  | cons p m ih =>
    obtain ⟨k', v'⟩ := p
    rw [keys_cons, List.nodup_cons] at h
    rw [find?_cons, List.mem_cons]
    by_cases hk : k' = k
    · subst hk
      simp only [if_true, Option.some.injEq, Prod.mk.injEq, true_and]
      constructor
      · rintro (h1 | h1)
        · exact h1.symm
        · exact absurd (List.mem_map.mpr ⟨(k', v), h1, rfl⟩) h.1
      · intro h1; exact Or.inl h1.symm
    · have : ¬ (k = k' ∧ v = v') := fun e => hk e.1.symm
      simp [hk, this, ih h.2]

theorem contains_eq (m : AList κ α) (k : κ) : contains m k = (find? m k).isSome := rfl

theorem contains_iff_mem_keys (m : AList κ α) (k : κ) : contains m k = true ↔ k ∈ keys m := by
  rw [contains_eq, ← find?_ne_none_iff]
  cases find? m k <;> simp

theorem find?_eq_none_of_contains {m : AList κ α} {k : κ} (h : contains m k = false) : find? m k = none := by
  rw [contains_eq] at h
  cases hf : find? m k with
  | none => rfl
  | some v => rw [hf] at h; cases h

omit [DecidableEq κ] in
theorem mem_keys_iff (m : AList κ α) (k : κ) : k ∈ keys m ↔ ∃ v, (k, v) ∈ m := by
  simp only [keys, List.mem_map]
  constructor
  · rintro ⟨p, hp, rfl⟩; exact ⟨p.2, hp⟩
  · rintro ⟨v, hv⟩; exact ⟨(k, v), hv, rfl⟩

omit [DecidableEq κ] in
theorem mem_keys_of_mem {m : AList κ α} {p : κ × α} (h : p ∈ m) : p.1 ∈ keys m :=
  (mem_keys_iff m p.1).2 ⟨p.2, h⟩

omit [DecidableEq κ] in
theorem nodup_keys_nil : (keys ([] : AList κ α)).Nodup := List.nodup_nil

omit [DecidableEq κ] in
theorem keys_map_keyed {β : Type} (m : AList κ α) (g : κ → α → β) :
    keys (m.map (fun e => (e.1, g e.1 e.2))) = keys m := by
  simp [keys, List.map_map, Function.comp_def]

omit [DecidableEq κ] in
theorem keys_map_val {β : Type} (m : AList κ α) (f : α → β) : keys (m.map (fun e => (e.1, f e.2))) = keys m :=
  keys_map_keyed m (fun _ v => f v)

omit [DecidableEq κ] in
theorem nodup_keys_map_val {β : Type} (m : AList κ α) (f : α → β) (h : (keys m).Nodup) :
    (keys (m.map (fun e => (e.1, f e.2)))).Nodup := by
  rw [keys_map_val]; exact h

theorem find?_map_snd {β : Type} (m : AList κ α) (g : α → β) (k : κ) :
    find? (m.map (fun e => (e.1, g e.2))) k = (find? m k).map g := by
  induction m with
  | nil => rfl
  | cons p m ih =>
    obtain ⟨k', v⟩ := p
    simp only [List.map_cons, find?_cons, ih]
    split <;> rfl

omit [DecidableEq κ] in
theorem keys_perm {m m' : AList κ α} (h : List.Perm m m') : List.Perm (keys m) (keys m') :=
  List.Perm.map _ h

/-- a look-up does not depend on the order of the entries when the keys are distinct -/
theorem find?_perm {m m' : AList κ α} (h : List.Perm m m') (hnd : (keys m').Nodup) (k : κ) :
    find? m k = find? m' k := by
  have hnd' : (keys m).Nodup := (keys_perm h).nodup_iff.mpr hnd
  cases h1 : find? m' k with
  | none =>
    rw [find?_eq_none_iff] at h1 ⊢
    intro hk; exact h1 ((keys_perm h).mem_iff.mp hk)
  | some v =>
    rw [← mem_iff_find? m' hnd] at h1
    rw [← mem_iff_find? m hnd']
    exact h.mem_iff.mpr h1

theorem find?_filter_key (m : AList κ α) (P : κ → Bool) (k : κ) :
    find? (m.filter (fun e => P e.1)) k = if P k then find? m k else none := by
  induction m with
  | nil => simp
  | cons p m ih =>
    obtain ⟨k', v⟩ := p
    by_cases hP : P k' = true
    · rw [List.filter_cons_of_pos (by simpa using hP), find?_cons, find?_cons, ih]
      by_cases hk : k' = k
      · subst hk; simp [hP]
      · simp [hk]
    · rw [List.filter_cons_of_neg (by simpa using hP), find?_cons, ih]
      by_cases hk : k' = k
      · subst hk; simp [hP]
      · simp [hk]

omit [DecidableEq κ] in
theorem mem_keys_congr {m m' : AList κ α} (h : ∀ p, p ∈ m ↔ p ∈ m') (k : κ) : k ∈ keys m ↔ k ∈ keys m' := by
  simp only [mem_keys_iff, h]

omit [DecidableEq κ] in
theorem keys_append (m m' : AList κ α) : keys (m ++ m') = keys m ++ keys m' := List.map_append

omit [DecidableEq κ] in
theorem keys_tail (m : AList κ α) : keys m.tail = (keys m).tail := by cases m <;> rfl

omit [DecidableEq κ] in
theorem mem_keys_of_mem_tail {m : AList κ α} {k : κ} (h : k ∈ keys m.tail) : k ∈ keys m := by
  rw [keys_tail] at h; exact List.mem_of_mem_tail h

omit [DecidableEq κ] in
theorem keys_flatMap {γ : Type} (f : γ → AList κ α) (g : γ → List κ) (L : List γ)
    (h : ∀ x ∈ L, keys (f x) = g x) : keys (L.flatMap f) = L.flatMap g := by
  induction L with
  | nil => rfl
  | cons x L ih =>
    rw [List.flatMap_cons, keys_append, ih (fun y hy => h y (by simp [hy])), h x (by simp), List.flatMap_cons]

/-- the first binding of `k` is a member; no distinctness of the keys is needed in this direction -/
theorem mem_of_find? {m : AList κ α} {k : κ} {v : α} (h : find? m k = some v) : (k, v) ∈ m := by
  induction m with
  | nil => cases h
  | cons p m ih =>
    obtain ⟨k', v'⟩ := p
    rw [find?_cons] at h
    split at h
    · rename_i hk; subst hk; cases h; exact List.mem_cons_self
    · exact List.mem_cons_of_mem _ (ih h)

theorem find?_append (m m' : AList κ α) (k : κ) : find? (m ++ m') k = (find? m k).or (find? m' k) := by
  induction m with
  | nil => simp
  | cons p m ih =>
    obtain ⟨k', v⟩ := p
    rw [List.cons_append, find?_cons, find?_cons, ih]
    split <;> simp

theorem find?_append_of_some {m : AList κ α} {k : κ} {v : α} (h : find? m k = some v) (m' : AList κ α) :
    find? (m ++ m') k = some v := by
  rw [find?_append, h]; rfl

theorem find?_append_of_none {m : AList κ α} {k : κ} (h : find? m k = none) (m' : AList κ α) :
    find? (m ++ m') k = find? m' k := by
  rw [find?_append, h]; rfl

theorem length_erase_le (m : AList κ α) (k : κ) : (erase m k).length ≤ m.length :=
  List.length_filter_le _ _

theorem length_erase_lt (m : AList κ α) (k : κ) (h : (find? m k).isSome) :
    (erase m k).length < m.length := by
  induction m with
  | nil => simp at h
  | cons p m ih =>
    obtain ⟨k', v⟩ := p
    unfold erase at ih ⊢
    by_cases hk : k' = k
    · have := List.length_filter_le (fun p : κ × α => !decide (p.1 = k)) m
      simp only [List.filter_cons, hk, decide_true, Bool.not_true, Bool.false_eq_true, if_false,
        List.length_cons]
      omega
    · rw [find?_cons, if_neg hk] at h
      have := ih h
      simp only [List.filter_cons, hk, decide_false, Bool.not_false, if_true, List.length_cons]
      omega

/-- a binding appended for a key that no earlier binding has -/
theorem find?_concat_new {m : AList κ α} {k : κ} (h : ∀ p ∈ m, p.1 ≠ k) (v : α) :
    find? (m ++ [(k, v)]) k = some v := by
  rw [find?_append_of_none ((find?_eq_none_iff m k).2 fun hk => ?_), find?_cons, if_pos rfl]
  obtain ⟨p, hp, hpk⟩ := List.mem_map.1 hk
  exact h p hp hpk

theorem contains_iff_find (m : AList κ α) (k : κ) : contains m k = true ↔ ∃ v, find? m k = some v := by
  rw [contains_eq]
  cases find? m k <;> simp

theorem contains_cons (m : AList κ α) (k : κ) (v : α) (x : κ) :
    contains ((k, v) :: m) x = true ↔ (x = k ∨ contains m x = true) := by
  rw [contains_eq, contains_eq, find?_cons]
  by_cases hx : k = x
  · simp [hx]
  · have : ¬ x = k := fun e => hx e.symm
    simp [hx, this]

theorem contains_append (m m' : AList κ α) (x : κ) :
    contains (m ++ m') x = true ↔ (contains m x = true ∨ contains m' x = true) := by
  rw [contains_iff_mem_keys, contains_iff_mem_keys, contains_iff_mem_keys, keys_append, List.mem_append]

theorem contains_erase_self (m : AList κ α) (k : κ) : contains (erase m k) k = false := by
  rw [contains_eq, find?_erase]
  simp

theorem nodup_keys_cons (m : AList κ α) (hk : (keys m).Nodup) (k : κ) (v : α) (hnew : contains m k = false) :
    (keys ((k, v) :: m)).Nodup := by
  rw [keys_cons, List.nodup_cons]
  refine ⟨?_, hk⟩
  intro hm
  rw [← contains_iff_mem_keys, hnew] at hm
  cases hm

omit [DecidableEq κ] in
theorem pairs_nodup_of_keys (m : AList κ α) (hk : (keys m).Nodup) : m.Nodup := by
  induction m with
  | nil => exact List.nodup_nil
  | cons p rest ih =>
    rw [keys_cons, List.nodup_cons] at hk
    refine List.nodup_cons.mpr ⟨fun hm => hk.1 (List.mem_map.mpr ⟨p, hm, rfl⟩), ih hk.2⟩

/-- with unique keys on both sides, the same look-ups mean the same bindings -/
theorem perm_of_find_eq (m m' : AList κ α) (hk : (keys m).Nodup) (hk' : (keys m').Nodup)
    (hf : ∀ k, find? m' k = find? m k) : m'.Perm m := by
  refine (List.perm_ext_iff_of_nodup (pairs_nodup_of_keys m' hk') (pairs_nodup_of_keys m hk)).mpr ?_
  rintro ⟨k, v⟩
  rw [mem_iff_find? m' hk' k v, mem_iff_find? m hk k v, hf]

end AList

export AList (mem_keys_iff mem_keys_of_mem mem_keys_congr keys_append keys_flatMap mem_of_find?)

end Atree

import AtreeProofs.Account.Log
/-
  The account of a change of the stored slabs by an effect log, once for every presentation of
  "the slabs of a state": an association list of slabs (`Acct`, `MAcct`, `World.CAcct`), the
  containers of a `World` (`World.WAcct`).  Each of those is `Account` at its own content relation;
  reflexivity, change of presentation, framing, composition and the passage to the look-up form
  (`EffectsComplete`, `MEffectsComplete`, `World.WEffectsComplete`) are proved here.
-/
namespace Atree
open Gen

/-- The log `E` accounts for the change of the stored slabs from `H` to `H'` (`H id s`: the slab
    `id` is stored with content `s`).  `T`, `T'` are the identifiers in use before / after (the
    stored ones and possibly more: the root of an inlined container), `Fr` those that may be
    allocated meanwhile, `cr` the large-value slabs created on the side. -/
structure Account {β : Type} (Fr : SlabID → Prop) (H H' : SlabID → β → Prop) (T T' : SlabID → Prop)
    (E : List Eff) (cr : List SlabID) : Prop where
  kept : ∀ id s, H' id s → H id s ∨ lastAction E id = some true
  gone : ∀ id, (∃ s, H id s) → (¬ ∃ s, H' id s) → lastAction E id = some false
  stored : ∀ id, lastAction E id = some true → (∃ s, H' id s) ∨ id ∈ cr
  removed : ∀ id, lastAction E id = some false → ¬ ∃ s, H' id s
  foot : ∀ id, lastAction E id ≠ none → T id ∨ Fr id
  fresh : ∀ id ∈ cr, Fr id
  tnew : ∀ id, T' id → T id ∨ Fr id

namespace Account
variable {β : Type} {Fr Fr1 Fr2 : SlabID → Prop} {H H1 H2 : SlabID → β → Prop} {T T1 T2 : SlabID → Prop}
  {E E1 E2 : List Eff} {cr cr1 cr2 : List SlabID}

theorem refl (Fr : SlabID → Prop) (H : SlabID → β → Prop) (T : SlabID → Prop) : Account Fr H H T T [] [] :=
  ⟨fun _ _ h => Or.inl h, fun _ h h' => absurd h h', by simp, by simp, by simp, by simp, fun _ h => Or.inl h⟩

/-- only the extension of the content relations and of the footprints matters -/
theorem congr {G G1 : SlabID → β → Prop} {U U1 : SlabID → Prop} (h : Account Fr H H1 T T1 E cr)
    (hH : ∀ id s, G id s ↔ H id s) (hH1 : ∀ id s, G1 id s ↔ H1 id s)
    (hT : ∀ id, U id ↔ T id) (hT1 : ∀ id, U1 id ↔ T1 id) : Account Fr G G1 U U1 E cr := by
  obtain rfl : G = H := funext fun id => funext fun s => propext (hH id s)
  obtain rfl : G1 = H1 := funext fun id => funext fun s => propext (hH1 id s)
  obtain rfl : U = T := funext fun id => propext (hT id)
  obtain rfl : U1 = T1 := funext fun id => propext (hT1 id)
  exact h

/-- Slabs `HF` (identifiers `TF`) that are neither in the old footprint nor fresh are carried along
    unchanged. -/
theorem frame {HF : SlabID → β → Prop} {TF : SlabID → Prop} (h : Account Fr H H1 T T1 E cr)
    (hHT : ∀ id s, HF id s → TF id) (hF : ∀ id, TF id → ¬ T id ∧ ¬ Fr id) :
    Account Fr (fun id s => H id s ∨ HF id s) (fun id s => H1 id s ∨ HF id s)
      (fun id => T id ∨ TF id) (fun id => T1 id ∨ TF id) E cr := by
  refine ⟨?_, ?_, ?_, ?_, ?_, h.fresh, ?_⟩
  · rintro id s (h1 | h1)
    · exact (h.kept id s h1).imp_left Or.inl
    · exact Or.inl (Or.inr h1)
  · rintro id ⟨s, h1 | h1⟩ h2
    · exact h.gone id ⟨s, h1⟩ (fun ⟨s', h3⟩ => h2 ⟨s', Or.inl h3⟩)
    · exact absurd ⟨s, Or.inr h1⟩ h2
  · intro id h1
    exact (h.stored id h1).imp_left (fun ⟨s, h2⟩ => ⟨s, Or.inl h2⟩)
  · rintro id h1 ⟨s, h2 | h2⟩
    · exact h.removed id h1 ⟨s, h2⟩
    · have hf := hF id (hHT id s h2)
      rcases h.foot id (by rw [h1]; simp) with h4 | h4
      · exact hf.1 h4
      · exact hf.2 h4
  · intro id h1
    exact (h.foot id h1).imp_left Or.inl
  · rintro id (h1 | h1)
    · exact (h.tnew id h1).imp_left Or.inl
    · exact Or.inl (Or.inr h1)

/-- Composition.  `hold`: what the second step may allocate is not stored in the first state. -/
theorem trans (h1 : Account Fr1 H H1 T T1 E1 cr1) (h2 : Account Fr2 H1 H2 T1 T2 E2 cr2)
    (hF1 : ∀ id, Fr1 id → Fr id) (hF2 : ∀ id, Fr2 id → Fr id)
    (hold : ∀ id, (∃ s, H id s) → ¬ Fr2 id) : Account Fr H H2 T T2 (E1 ++ E2) (cr1 ++ cr2) := by
  refine ⟨?_, ?_, ?_, ?_, ?_, ?_, ?_⟩
  · intro id s hp
    rcases h2.kept id s hp with h3 | h3
    · cases hl : lastAction E2 id with
      | none => rw [lastAction_append_none hl]; exact h1.kept id s h3
      | some b =>
        cases b with
        | true => exact Or.inr (lastAction_append_some hl)
        | false => exact absurd ⟨s, hp⟩ (h2.removed id hl)
    · exact Or.inr (lastAction_append_some h3)
  · intro id hid hid2
    by_cases hm : ∃ s, H1 id s
    · exact lastAction_append_some (h2.gone id hm hid2)
    · have hg := h1.gone id hid hm
      cases hl : lastAction E2 id with
      | none => rw [lastAction_append_none hl]; exact hg
      | some b =>
        cases b with
        | false => exact lastAction_append_some hl
        | true =>
          rcases h2.stored id hl with h3 | h3
          · exact absurd h3 hid2
          · exact absurd (h2.fresh id h3) (hold id hid)
  · intro id hid
    cases hl : lastAction E2 id with
    | none =>
      rw [lastAction_append_none hl] at hid
      rcases h1.stored id hid with h3 | h3
      · by_cases hm : ∃ s, H2 id s
        · exact Or.inl hm
        · have := h2.gone id h3 hm
          rw [hl] at this; cases this
      · exact Or.inr (List.mem_append.2 (Or.inl h3))
    | some b =>
      rw [lastAction_append_some hl] at hid
      cases hid
      rcases h2.stored id hl with h3 | h3
      · exact Or.inl h3
      · exact Or.inr (List.mem_append.2 (Or.inr h3))
  · intro id hid hm
    cases hl : lastAction E2 id with
    | none =>
      rw [lastAction_append_none hl] at hid
      obtain ⟨s, hs⟩ := hm
      rcases h2.kept id s hs with h3 | h3
      · exact h1.removed id hid ⟨s, h3⟩
      · rw [hl] at h3; cases h3
    | some b =>
      rw [lastAction_append_some hl] at hid
      cases hid
      exact h2.removed id hl hm
  · intro id hid
    cases hl : lastAction E2 id with
    | none => rw [lastAction_append_none hl] at hid; exact (h1.foot id hid).imp_right (hF1 id)
    | some b =>
      rcases h2.foot id (by rw [hl]; simp) with h3 | h3
      · exact (h1.tnew id h3).imp_right (hF1 id)
      · exact Or.inr (hF2 id h3)
  · intro id hid
    rcases List.mem_append.1 hid with h3 | h3
    · exact hF1 id (h1.fresh id h3)
    · exact hF2 id (h2.fresh id h3)
  · intro id hid
    rcases h2.tnew id hid with h3 | h3
    · exact (h1.tnew id h3).imp_right (hF1 id)
    · exact Or.inr (hF2 id h3)

/-- The look-up form of an account (the four clauses of `EffectsComplete`, `MEffectsComplete`,
    `World.WEffectsComplete`): `K` looks up the old content exactly, `K'` finds some new content
    whenever there is one. -/
theorem complete {K K' : SlabID → Option β} (h : Account Fr H H1 T T1 E cr)
    (hK : ∀ id s, K id = some s ↔ H id s) (hK' : ∀ id s, K' id = some s → H1 id s)
    (hS' : ∀ id, (∃ s, H1 id s) → (K' id).isSome) :
    (∀ id, (K' id).isSome → K' id ≠ K id → lastAction E id = some true) ∧
    (∀ id, (K id).isSome → (K' id).isNone → lastAction E id = some false) ∧
    (∀ id, lastAction E id = some true → (K' id).isSome ∨ id ∈ cr) ∧
    (∀ id, lastAction E id = some false → (K' id).isNone) := by
  refine ⟨?_, ?_, ?_, ?_⟩
  · intro id hs hne
    obtain ⟨s, hs'⟩ := Option.isSome_iff_exists.1 hs
    rcases h.kept id s (hK' id s hs') with h3 | h3
    · exact absurd (hs'.trans ((hK id s).2 h3).symm) hne
    · exact h3
  · intro id hs hn
    obtain ⟨s, hs'⟩ := Option.isSome_iff_exists.1 hs
    refine h.gone id ⟨s, (hK id s).1 hs'⟩ (fun hx => ?_)
    have := hS' id hx
    rw [Option.isNone_iff_eq_none] at hn; rw [hn] at this; cases this
  · intro id hl
    exact (h.stored id hl).imp_left (hS' id)
  · intro id hl
    cases hk : K' id with
    | none => rfl
    | some s => exact absurd ⟨s, hK' id s hk⟩ (h.removed id hl)

end Account

/-! ### Association lists of slabs -/

/-- the content relation of an association list of slabs -/
def Entry {β : Type} (S : List (SlabID × β)) (id : SlabID) (s : β) : Prop := (id, s) ∈ S

section list
variable {β : Type} {Fr : SlabID → Prop} {T T' : SlabID → Prop} {S S' : List (SlabID × β)}
  {E : List Eff} {cr : List SlabID}

theorem exists_entry (S : List (SlabID × β)) (id : SlabID) : (∃ s, Entry S id s) ↔ id ∈ AList.keys S :=
  (mem_keys_iff S id).symm

theorem Account.of_list
    (kept : ∀ p ∈ S', p ∈ S ∨ lastAction E p.1 = some true)
    (gone : ∀ id ∈ AList.keys S, id ∉ AList.keys S' → lastAction E id = some false)
    (stored : ∀ id, lastAction E id = some true → id ∈ AList.keys S' ∨ id ∈ cr)
    (removed : ∀ id, lastAction E id = some false → id ∉ AList.keys S')
    (foot : ∀ id, lastAction E id ≠ none → T id ∨ Fr id) (fresh : ∀ id ∈ cr, Fr id)
    (tnew : ∀ id, T' id → T id ∨ Fr id) : Account Fr (Entry S) (Entry S') T T' E cr :=
  ⟨fun id s hp => kept (id, s) hp,
    fun id h1 h2 => gone id ((exists_entry S id).1 h1) (fun hx => h2 ((exists_entry S' id).2 hx)),
    fun id hl => (stored id hl).imp_left (exists_entry S' id).2,
    fun id hl hx => removed id hl ((exists_entry S' id).1 hx), foot, fresh, tnew⟩

variable (h : Account Fr (Entry S) (Entry S') T T' E cr)
include h

theorem Account.kept_list : ∀ p ∈ S', p ∈ S ∨ lastAction E p.1 = some true := fun p hp => h.kept p.1 p.2 hp

theorem Account.gone_list : ∀ id ∈ AList.keys S, id ∉ AList.keys S' → lastAction E id = some false :=
  fun id h1 h2 => h.gone id ((exists_entry S id).2 h1) (fun hx => h2 ((exists_entry S' id).1 hx))

theorem Account.stored_list : ∀ id, lastAction E id = some true → id ∈ AList.keys S' ∨ id ∈ cr :=
  fun id hl => (h.stored id hl).imp_left (exists_entry S' id).1

theorem Account.removed_list : ∀ id, lastAction E id = some false → id ∉ AList.keys S' :=
  fun id hl hx => h.removed id hl ((exists_entry S' id).2 hx)

omit h

/-- when the footprint is the stored identifiers, the identifiers of the new state are accounted for -/
theorem Account.tnew_list {P : SlabID → Prop} (kept : ∀ p ∈ S', p ∈ S ∨ lastAction E p.1 = some true)
    (foot : ∀ id, lastAction E id ≠ none → id ∈ AList.keys S ∨ P id) :
    ∀ id ∈ AList.keys S', id ∈ AList.keys S ∨ P id := by
  intro id hid
  obtain ⟨s, hs⟩ := (mem_keys_iff S' id).1 hid
  rcases kept (id, s) hs with h1 | h1
  · exact Or.inl (mem_keys_of_mem h1)
  · exact foot id (by rw [h1]; simp)

end list

end Atree

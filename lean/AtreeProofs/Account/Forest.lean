import AtreeProofs.Account.Owner
import AtreeProofs.Account.Repair
/-
  Accounts of the local repairs of an index slab, once for both containers.  Of a subtree the
  accounts use only how it contributes to the stored slabs: its own entry and the slabs below it
  (`Forest`, Account/Repair.lean).  The repairs are those of `splitChildSlab`, `rebalanceChildren`,
  `mergeChildren` and the plain store of the parent, as surgery on the list of children; each
  rewrites the parent `rid` and the roots of one or two adjacent children and leaves every slab
  below them in place.  `Repair.macct`, `Repair.plog`: the account and the log of any `Forest.Repair`.
-/
namespace Atree
open Gen

namespace Forest
variable {α β : Type} (F : Forest α β)

theorem perm_flatMap_slabs (X : List α) : (X.flatMap F.slabs).Perm (X.map F.ent ++ X.flatMap F.sub) := by
  induction X with
  | nil => exact .refl _
  | cons x X ih =>
    simp only [List.flatMap_cons, List.map_cons, slabs, List.cons_append]
    exact .cons _ ((List.Perm.append_left (F.sub x) ih).trans (List.perm_append_comm_assoc _ _ _))

variable {F} {a c c' : Nat} {rid : SlabID} {e e' : β}

/-- Replacing the siblings `X` by `X'` below the root `rid`: it is enough to account for the root
    entries, provided the slabs below the siblings are the same. -/
theorem macct_local {P Q X X' : List α} {E : List Eff}
    (hsub : X'.flatMap F.sub = X.flatMap F.sub)
    (hnd : (AList.keys ((rid, e) :: (P ++ (X ++ Q)).flatMap F.slabs)).Nodup)
    (hold : ∀ id ∈ AList.keys ((rid, e) :: (P ++ (X ++ Q)).flatMap F.slabs), Old a c id)
    (h : MAcct a c c' ((rid, e) :: X.map F.ent) ((rid, e') :: X'.map F.ent) E []) :
    MAcct a c c' ((rid, e) :: (P ++ (X ++ Q)).flatMap F.slabs)
      ((rid, e') :: (P ++ (X' ++ Q)).flatMap F.slabs) E [] := by
  -- the roots of the siblings first, then everything that stays
  have hp : ∀ (e : β) (X : List α), ((rid, e) :: (P ++ (X ++ Q)).flatMap F.slabs).Perm
      (((rid, e) :: X.map F.ent) ++ (P.flatMap F.slabs ++ (X.flatMap F.sub ++ Q.flatMap F.slabs))) := by
    intro e X
    rw [List.flatMap_append, List.flatMap_append, List.cons_append]
    refine .cons _ ((List.Perm.append_left _ ((F.perm_flatMap_slabs X).append_right _)).trans ?_)
    rw [List.append_assoc]
    exact List.perm_append_comm_assoc _ _ _
  exact h.frame_of_nodup (hp e X) (hsub ▸ hp e' X') hnd hold

/-- the account of a step on the child `t`, seen from the parent: the parent's own entry and the
    siblings stay -/
theorem child_macct {A B : List α} {t t' : α} {E : List Eff} {cr : List SlabID}
    (hnd : (AList.keys ((rid, e) :: (A ++ t :: B).flatMap F.slabs)).Nodup)
    (hold : ∀ id ∈ AList.keys ((rid, e) :: (A ++ t :: B).flatMap F.slabs), Old a c id)
    (h : MAcct a c c' (F.slabs t) (F.slabs t') E cr) :
    MAcct a c c' ((rid, e) :: (A ++ t :: B).flatMap F.slabs) ((rid, e) :: (A ++ t' :: B).flatMap F.slabs) E cr := by
  have hp : ∀ t : α, ((rid, e) :: (A ++ t :: B).flatMap F.slabs).Perm
      (F.slabs t ++ (rid, e) :: (A.flatMap F.slabs ++ B.flatMap F.slabs)) := fun t => by
    rw [List.flatMap_append, List.flatMap_cons]
    exact (List.Perm.cons _ (List.perm_append_comm_assoc _ _ _)).trans List.perm_middle.symm
  exact h.frame_of_nodup (hp t) (hp t') hnd hold

theorem old_root {cs : List α} (hold : ∀ id ∈ AList.keys ((rid, e) :: cs.flatMap F.slabs), Old a c id) :
    Old a c rid := hold _ List.mem_cons_self

theorem old_child {A B : List α} {t : α}
    (hold : ∀ id ∈ AList.keys ((rid, e) :: (A ++ t :: B).flatMap F.slabs), Old a c id) :
    Old a c (F.ent t).1 := by
  refine hold _ (List.mem_cons_of_mem _ (List.mem_map.2 ⟨F.ent t, ?_, rfl⟩))
  rw [List.flatMap_append, List.flatMap_cons]
  exact List.mem_append_right _ (List.mem_append_left _ List.mem_cons_self)

/-- plain store of the parent -/
theorem plain_macct (e' : β) {cs : List α}
    (hnd : (AList.keys ((rid, e) :: cs.flatMap F.slabs)).Nodup)
    (hold : ∀ id ∈ AList.keys ((rid, e) :: cs.flatMap F.slabs), Old a c id) :
    MAcct a c c ((rid, e) :: cs.flatMap F.slabs) ((rid, e') :: cs.flatMap F.slabs) [.store rid] [] := by
  have h0 : MAcct a c c ((rid, e) :: ([] : List α).map F.ent) ((rid, e') :: ([] : List α).map F.ent)
      [.store rid] [] :=
    MAcct.of_stores (Nat.le_refl _) (by simp) (by simp [AList.keys]) (by simp [AList.keys])
      (fun id => Or.inl (by simp [kc_cons]))
  simpa using macct_local (P := cs) (Q := []) (X := []) (X' := []) rfl (by simpa using hnd) (by simpa using hold) h0

/-- The child `t` is split into `l` (in its place) and the new slab `r`, whose identifier is the one
    `Ctx.alloc a` hands out at the counter `c` (`hr`). -/
theorem split_macct (e' : β) {A B : List α} {t l r : α}
    (hsub : F.sub l ++ F.sub r = F.sub t) (hl : (F.ent l).1 = (F.ent t).1)
    (hr : (F.ent r).1 = ⟨a, c + 1⟩)
    (hnd : (AList.keys ((rid, e) :: (A ++ t :: B).flatMap F.slabs)).Nodup)
    (hold : ∀ id ∈ AList.keys ((rid, e) :: (A ++ t :: B).flatMap F.slabs), Old a c id) :
    MAcct a c (c + 1) ((rid, e) :: (A ++ t :: B).flatMap F.slabs)
      ((rid, e') :: (A ++ l :: r :: B).flatMap F.slabs)
      [.alloc a ⟨a, c + 1⟩, .store (F.ent l).1, .store (F.ent r).1, .store rid] [] := by
  have hfr : Fresh a c (c + 1) (F.ent r).1 := by rw [hr]; exact fresh_next a c
  have h1 : ¬ rid = (F.ent r).1 := fun he => hfr.not_old (he ▸ old_root hold)
  have h2 : ¬ (F.ent t).1 = (F.ent r).1 := fun he => hfr.not_old (he ▸ old_child hold)
  refine macct_local (P := A) (Q := B) (X := [t]) (X' := [l, r]) (by simp [hsub]) hnd hold (MAcct.of_stores (Nat.le_succ _) (by simp) ?_ ?_ ?_)
  -- `of_stores` asks: the identifiers stored by the log are exactly the keys of the new roots, every
  -- old key is still one, and multiplicities do not grow except at the fresh `r` (likewise below)
  · intro id
    simp only [AList.keys, List.map_cons, List.map_nil, List.mem_cons, Eff.store.injEq,
      reduceCtorEq, List.not_mem_nil, or_false, false_or]
    simp only [or_comm, or_left_comm]
  · intro id
    simp only [AList.keys, List.map_cons, List.map_nil, List.mem_cons, List.not_mem_nil, or_false, hl]
    exact Or.imp_right Or.inl
  · intro id
    simp only [List.map_cons, List.map_nil, kc_cons, kc_nil, hl]
    by_cases hid : (F.ent r).1 = id
    · subst hid
      exact Or.inr ⟨hfr, by simp [h1, h2]⟩
    · left; simp [hid]

/-- two adjacent children `l`, `r` are rebalanced into `l'`, `r'` -/
theorem rebal_macct (e' : β) {P Q : List α} {l r l' r' : α}
    (hsub : F.sub l' ++ F.sub r' = F.sub l ++ F.sub r)
    (hl : (F.ent l').1 = (F.ent l).1) (hr : (F.ent r').1 = (F.ent r).1)
    (hnd : (AList.keys ((rid, e) :: (P ++ l :: r :: Q).flatMap F.slabs)).Nodup)
    (hold : ∀ id ∈ AList.keys ((rid, e) :: (P ++ l :: r :: Q).flatMap F.slabs), Old a c id) :
    MAcct a c c ((rid, e) :: (P ++ l :: r :: Q).flatMap F.slabs)
      ((rid, e') :: (P ++ l' :: r' :: Q).flatMap F.slabs)
      [.store (F.ent l).1, .store (F.ent r).1, .store rid] [] := by
  refine macct_local (P := P) (Q := Q) (X := [l, r]) (X' := [l', r']) (by simp [hsub]) hnd hold (MAcct.of_stores (Nat.le_refl _) (by simp) ?_ ?_ ?_)
  · intro id
    simp only [AList.keys, List.map_cons, List.map_nil, List.mem_cons, Eff.store.injEq,
      List.not_mem_nil, or_false, hl, hr]
    simp only [or_comm, or_left_comm]
  · intro id
    simp only [AList.keys, List.map_cons, List.map_nil, hl, hr]
    exact fun h => h
  · intro id
    left
    simp only [List.map_cons, List.map_nil, kc_cons, hl, hr]
    omega

/-- the root identifiers of the parent and of `l` differ from that of the right sibling `r` -/
theorem ne_right_sib {P Q : List α} {l r : α}
    (hnd : (AList.keys ((rid, e) :: (P ++ l :: r :: Q).flatMap F.slabs)).Nodup) :
    rid ≠ (F.ent r).1 ∧ (F.ent l).1 ≠ (F.ent r).1 := by
  have key := (nodup_keys_iff _).1 hnd (F.ent r).1
  simp only [List.flatMap_append, List.flatMap_cons, slabs, kc_cons, kc_append, if_true] at key
  exact ⟨fun h => by rw [if_pos h] at key; omega, fun h => by rw [if_pos h] at key; omega⟩

/-- two adjacent children `l`, `r` are merged into `x` (in the place of `l`); the slab of `r` is removed -/
theorem merge_macct (e' : β) {P Q : List α} {l r x : α}
    (hsub : F.sub x = F.sub l ++ F.sub r) (hx : (F.ent x).1 = (F.ent l).1)
    (hnd : (AList.keys ((rid, e) :: (P ++ l :: r :: Q).flatMap F.slabs)).Nodup)
    (hold : ∀ id ∈ AList.keys ((rid, e) :: (P ++ l :: r :: Q).flatMap F.slabs), Old a c id) :
    MAcct a c c ((rid, e) :: (P ++ l :: r :: Q).flatMap F.slabs)
      ((rid, e') :: (P ++ x :: Q).flatMap F.slabs)
      ([.store (F.ent l).1, .store rid] ++ [.remove (F.ent r).1]) [] := by
  obtain ⟨hrid, hlr⟩ := ne_right_sib hnd
  refine macct_local (P := P) (Q := Q) (X := [l, r]) (X' := [x]) (by simp [hsub]) hnd hold (MAcct.of_stores_remove (by simp) ?_ ?_ ?_ ?_)
  · intro id
    simp only [AList.keys, List.map_cons, List.map_nil, List.mem_cons, Eff.store.injEq,
      List.not_mem_nil, or_false, hx]
    simp only [or_comm]
  · simp only [AList.keys, List.map_cons, List.map_nil, List.mem_cons, List.not_mem_nil, or_false, hx]
    rintro (h | h)
    · exact hrid h.symm
    · exact hlr h.symm
  · intro id
    simp only [AList.keys, List.map_cons, List.map_nil, List.mem_cons, List.not_mem_nil, or_false, hx]
    simp only [or_assoc, or_comm]
  · intro id
    simp only [List.map_cons, List.map_nil, kc_cons, kc_nil, hx]
    omega

/-- the root `t` is split: its content goes to two new slabs `l`, `r` below a new index slab that
    takes the root's identifier -/
theorem rootSplit_macct (e' : β) {t l r : α} (hsub : F.sub l ++ F.sub r = F.sub t)
    (hl : (F.ent l).1 = ⟨a, c + 1⟩) (hr : (F.ent r).1 = ⟨a, c + 2⟩)
    (hnd : (AList.keys (F.slabs t)).Nodup) (hold : ∀ id ∈ AList.keys (F.slabs t), Old a c id) :
    MAcct a c (c + 2) (F.slabs t) (((F.ent t).1, e') :: [l, r].flatMap F.slabs)
      [.alloc a ⟨a, c + 1⟩, .alloc a ⟨a, c + 2⟩, .store (F.ent l).1, .store (F.ent r).1, .store (F.ent t).1] [] := by
  have hfl : Fresh a c (c + 2) (F.ent l).1 := by rw [hl]; exact ⟨rfl, by simp, by simp⟩
  have hfr : Fresh a c (c + 2) (F.ent r).1 := by rw [hr]; exact ⟨rfl, by simp, by simp⟩
  have hrold : Old a c (F.ent t).1 := hold _ List.mem_cons_self
  have hne : (F.ent l).1 ≠ (F.ent r).1 := by rw [hl, hr]; simp
  have h0 : MAcct a c (c + 2) [F.ent t] (((F.ent t).1, e') :: [l, r].map F.ent)
      [.alloc a ⟨a, c + 1⟩, .alloc a ⟨a, c + 2⟩, .store (F.ent l).1, .store (F.ent r).1, .store (F.ent t).1] [] := by
    refine MAcct.of_stores (by simp) (by simp) ?_ ?_ ?_
    · intro id
      simp only [AList.keys, List.map_cons, List.map_nil, List.mem_cons, Eff.store.injEq,
        reduceCtorEq, List.not_mem_nil, or_false, false_or]
      simp only [or_comm, or_left_comm]
    · intro id
      simp only [AList.keys, List.map_cons, List.map_nil, List.mem_cons, List.not_mem_nil, or_false]
      exact Or.inl
    · intro id
      simp only [List.map_cons, List.map_nil, kc_cons, kc_nil]
      by_cases h1 : (F.ent l).1 = id
      · subst h1
        have h2 : ¬ (F.ent t).1 = (F.ent l).1 := fun he => hfl.not_old (he ▸ hrold)
        exact Or.inr ⟨hfl, by simp [h2, hne.symm]⟩
      · by_cases h2 : (F.ent r).1 = id
        · subst h2
          have h3 : ¬ (F.ent t).1 = (F.ent r).1 := fun he => hfr.not_old (he ▸ hrold)
          exact Or.inr ⟨hfr, by simp [h3, h1]⟩
        · left; simp [h1, h2]
  refine h0.frame_of_nodup (.refl _) (.cons _ ?_) hnd hold
  simpa [hsub] using F.perm_flatMap_slabs [l, r]

/-- the only child `t` of the root becomes the root `t'`, under the root's identifier -/
theorem rootPromote_macct {t t' : α} (hsub : F.sub t' = F.sub t) (hid : (F.ent t').1 = rid)
    (hnd : (AList.keys ((rid, e) :: [t].flatMap F.slabs)).Nodup)
    (hold : ∀ id ∈ AList.keys ((rid, e) :: [t].flatMap F.slabs), Old a c id) :
    MAcct a c c ((rid, e) :: [t].flatMap F.slabs) (F.slabs t') ([.store rid] ++ [.remove (F.ent t).1]) [] ∧
    rid ≠ (F.ent t).1 := by
  have hne : rid ≠ (F.ent t).1 := fun he => by
    have := (nodup_keys_iff _).1 hnd rid
    simp [slabs, kc_cons, kc_append, he] at this
  have h0 : MAcct a c c [(rid, e), F.ent t] [F.ent t'] ([.store rid] ++ [.remove (F.ent t).1]) [] := by
    refine MAcct.of_stores_remove (by simp) ?_ ?_ ?_ ?_
    · intro id; simp [AList.keys, hid]
    · simp only [AList.keys, List.map_cons, List.map_nil, List.mem_singleton, hid]
      exact fun h => hne h.symm
    · intro id
      simp only [AList.keys, List.map_cons, List.map_nil, List.mem_cons, List.not_mem_nil, or_false, hid]
      simp only [or_comm]
    · intro id
      simp only [kc_cons, kc_nil, hid]
      omega
  have e0 : (rid, e) :: [t].flatMap F.slabs = [(rid, e), F.ent t] ++ F.sub t := by simp [slabs]
  rw [e0] at hnd hold ⊢
  exact ⟨h0.frame_of_nodup (.refl _) (hsub ▸ .refl _) hnd hold, hne⟩

variable {V : List α → List α → Prop} {c' : Nat} {cs cs' : List α} {E : List Eff}

/-- the account of a repair -/
theorem Repair.macct (h : Repair F V a c rid cs cs' E c') (e e' : β)
    (hnd : (AList.keys ((rid, e) :: cs.flatMap F.slabs)).Nodup)
    (hold : ∀ id ∈ AList.keys ((rid, e) :: cs.flatMap F.slabs), Old a c id) :
    MAcct a c c' ((rid, e) :: cs.flatMap F.slabs) ((rid, e') :: cs'.flatMap F.slabs) E [] := by
  cases h with
  | plain => exact plain_macct e' hnd hold
  | split hsub hl hr _ => exact split_macct e' hsub hl hr hnd hold
  | rebal hsub hl hr _ => exact rebal_macct e' hsub hl hr hnd hold
  | merge hsub hx _ => exact merge_macct e' hsub hx hnd hold

/-- every repair ends with the parent stored (a merge removes the right sibling afterwards) -/
theorem Repair.last (h : Repair F V a c rid cs cs' E c') (e : β)
    (hnd : (AList.keys ((rid, e) :: cs.flatMap F.slabs)).Nodup) : lastAction E rid = some true := by
  cases h with
  | plain => exact (lastAction_concat_store [] rid rid).trans (if_pos rfl)
  | split => exact (lastAction_concat_store [_, _, _] rid rid).trans (if_pos rfl)
  | rebal => exact (lastAction_concat_store [_, _] rid rid).trans (if_pos rfl)
  | @merge P Q l r x hsub hx _ =>
    rw [lastAction_concat_remove, if_neg fun h => (ne_right_sib hnd).1 h.symm]
    exact (lastAction_concat_store [_] rid rid).trans (if_pos rfl)

/-- the log of a repair: nothing is created, the counter counts the one allocation of a split -/
theorem Repair.plog {n : Nat} {k k2 : Ctx} (h : Repair F V a k.ctr rid cs cs' E n) (hn : k2.ctr = n)
    (he : k2.eff = k.eff ++ E) (hc : k2.created = k.created) : PLog a k k2 E := by
  have base : ∀ j, k2.ctr = k.ctr + j → nAllocAt a E = j →
      (∀ ad id, Eff.alloc ad id ∈ E → id = ⟨a, k.ctr + 1⟩ ∧ j = 1) → PLog a k k2 E := fun j hj hcnt hal =>
    ⟨⟨⟨he, by rw [hc, List.append_nil], by omega, fun ad id hm => by
        obtain ⟨rfl, rfl⟩ := hal ad id hm; exact ⟨Nat.lt_succ_self _, Nat.le_of_eq hj.symm⟩⟩,
      fun ad id hm => by obtain ⟨rfl, -⟩ := hal ad id hm; rfl⟩, by rw [AllocCnt, hcnt]; exact hj⟩
  cases h with
  | plain => exact base 0 hn (by simp [nAllocAt, isAllocAt]) (by simp)
  | split => exact base 1 hn (by simp [nAllocAt, isAllocAt]) (by simp)
  | rebal => exact base 0 hn (by simp [nAllocAt, isAllocAt]) (by simp)
  | merge => exact base 0 hn (by simp [nAllocAt, isAllocAt]) (by simp)

end Forest

end Atree

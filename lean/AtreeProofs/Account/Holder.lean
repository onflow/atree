import AtreeProofs.Account.Repair
import AtreeProofs.Account.Log
/-
  "The slab that holds the written value has been stored", for a container of either kind: the log has grown
  since the context `c0` and the growth has a store of the slab (`StoredSince`).  A holder found below a
  child is found again after the repair of the parent (`Repair.held_since`) and after a root step
  (`Held.root_since`); a slab stored since `c0` and not removed last was stored last
  (`StoredSince.lastAction`).  World/StoreHolderArr, World/StoreHolderMap follow `Arr.set`, `OMap.set` with these.
-/
namespace Atree
open Gen

namespace MapHolder

def Ext (c c' : Ctx) : Prop := ∃ E, c'.eff = c.eff ++ E

/-- the log was extended, and the extension contains a store of `id` -/
def StoredSince (c c' : Ctx) (id : SlabID) : Prop := ∃ E, c'.eff = c.eff ++ E ∧ Eff.store id ∈ E

theorem Ext.refl (c : Ctx) : Ext c c := ⟨[], by simp⟩
theorem Ext.trans {c c1 c2 : Ctx} (h1 : Ext c c1) (h2 : Ext c1 c2) : Ext c c2 := by
  obtain ⟨E1, e1⟩ := h1
  obtain ⟨E2, e2⟩ := h2
  exact ⟨E1 ++ E2, by rw [e2, e1, List.append_assoc]⟩
theorem Ext.emit (c : Ctx) (e : Eff) : Ext c (c.emit e) := ⟨[e], rfl⟩
theorem Ext.alloc (c : Ctx) (a : Nat) : Ext c (c.alloc a).2 := ⟨[.alloc a ⟨a, c.ctr + 1⟩], rfl⟩

theorem StoredSince.ext {c c' : Ctx} {id : SlabID} (h : StoredSince c c' id) : Ext c c' := by
  obtain ⟨E, e, _⟩ := h
  exact ⟨E, e⟩
theorem StoredSince.mono {c c1 c2 : Ctx} {id : SlabID} (h : StoredSince c c1 id) (h2 : Ext c1 c2) :
    StoredSince c c2 id := by
  obtain ⟨E1, e1, hm⟩ := h
  obtain ⟨E2, e2⟩ := h2
  exact ⟨E1 ++ E2, by rw [e2, e1, List.append_assoc], List.mem_append.2 (Or.inl hm)⟩
theorem StoredSince.after {c c1 c2 : Ctx} {id : SlabID} (h1 : Ext c c1) (h : StoredSince c1 c2 id) :
    StoredSince c c2 id := by
  obtain ⟨E1, e1⟩ := h1
  obtain ⟨E2, e2, hm⟩ := h
  exact ⟨E1 ++ E2, by rw [e2, e1, List.append_assoc], List.mem_append.2 (Or.inr hm)⟩
theorem StoredSince.emit (c : Ctx) (id : SlabID) : StoredSince c (c.emit (.store id)) id :=
  ⟨[.store id], rfl, by simp⟩

/-- stored since `c`, and not removed last in the log `E` of the step: stored last -/
theorem StoredSince.lastAction {c c' : Ctx} {id : SlabID} {E : List Eff} (h : StoredSince c c' id)
    (he : c'.eff = c.eff ++ E) (hr : lastAction E id ≠ some false) : lastAction E id = some true := by
  obtain ⟨E', hE', hst⟩ := h
  obtain rfl : E' = E := List.append_cancel_left (hE'.symm.trans he)
  cases hl : Atree.lastAction E' id with
  | none => exact absurd hl (lastAction_ne_none_of_store hst)
  | some b => cases b with
    | true => rfl
    | false => exact absurd hl hr

end MapHolder

namespace Forest
open MapHolder (Ext StoredSince)
variable {α β : Type} {F : Forest α β} {vals : β → List Elem} {v : Elem} {c0 c1 c2 : Ctx}

theorem Held.ext_since {S : List (SlabID × β)} (h : Held vals S v (StoredSince c0 c1)) : Ext c0 c1 := by
  obtain ⟨_, _, _, hst⟩ := h
  exact hst.ext

/-- the holder below the child `child'` is found again after the repair of its parent, whose log is `E` -/
theorem Repair.held_since {V : List α → List α → Prop} (hV : ∀ X X', V X X' → Moves F vals X X') {a n n' : Nat}
    {rid : SlabID} {A B cs' : List α} {child' : α} {E : List Eff}
    (h : Repair F V a n rid (A ++ child' :: B) cs' E n') (he : c2.eff = c1.eff ++ E)
    (hh : Held vals (F.slabs child') v (StoredSince c0 c1)) :
    Held vals (cs'.flatMap F.slabs) v (StoredSince c0 c2) := by
  obtain ⟨p, hp, hv, hst⟩ := hh
  refine ((h.mono hV).held (st := StoredSince c0 c1) ⟨p, List.mem_flatMap.2
    ⟨child', List.mem_append_right _ List.mem_cons_self, hp⟩, hv, hst⟩).mono (fun _ h => h) ?_
  rintro id (h1 | h1)
  · exact h1.mono ⟨E, he⟩
  · exact StoredSince.after hst.ext ⟨E, he, h1⟩

/-- the holder inside the tree `t` is found again among the roots `X'` that take its place, all of
    them stored since `c0` -/
theorem Held.root_since {t : α} {X' : List α} (hh : Held vals (F.slabs t) v (StoredSince c0 c1))
    (hext : Ext c1 c2) (hM : F.Moves vals [t] X') (hX : ∀ x' ∈ X', StoredSince c0 c2 (F.ent x').1) :
    Held vals (X'.flatMap F.slabs) v (StoredSince c0 c2) := by
  have := Held.window (P := []) (Q := []) hM (st := StoredSince c0 c1) (st' := StoredSince c0 c2) hX
    (fun _ h => h.mono hext) (by simpa using hh)
  simpa using this

end Forest
end Atree

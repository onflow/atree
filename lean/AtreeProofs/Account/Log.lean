import AtreeProofs.HeapSpec
import AtreeProofs.AListLemmas
/-
  Effect logs, below both containers.  `lastAction` (HeapSpec.lean) as a fold of `actStep`: over
  appended logs, over logs of stores or of removals only, over the few literal logs the containers
  write, and over the log of a bulk pop (`lastAction_pop`; `pop_complete`: that log as an account in
  look-up form).  `Log c c' E C`: what a run appended to the effect log and to the created slabs,
  with freshness of the allocated IDs.  `AllocCnt`: the counter advanced by the number of
  allocation events of the log.
-/
namespace Atree
open Gen

/-- one step of `lastAction` -/
def actStep (id : SlabID) (acc : Option Bool) (e : Eff) : Option Bool :=
  match e with
  | .store i => if i = id then some true else acc
  | .remove i => if i = id then some false else acc
  | .alloc _ _ => acc

theorem lastAction_eq (E : List Eff) (id : SlabID) : lastAction E id = E.foldl (actStep id) none := rfl

theorem actStep_or (id : SlabID) (acc : Option Bool) (e : Eff) :
    actStep id acc e = (actStep id none e).or acc := by
  cases e <;> simp only [actStep] <;> (try split) <;> simp

theorem foldl_actStep (id : SlabID) (E : List Eff) (acc : Option Bool) :
    E.foldl (actStep id) acc = (E.foldl (actStep id) none).or acc := by
  induction E generalizing acc with
  | nil => simp
  | cons e E ih =>
    simp only [List.foldl_cons]
    rw [ih (actStep id acc e), ih (actStep id none e), actStep_or id acc e, Option.or_assoc]

theorem lastAction_append (E1 E2 : List Eff) (id : SlabID) :
    lastAction (E1 ++ E2) id = (lastAction E2 id).or (lastAction E1 id) := by
  simp only [lastAction_eq, List.foldl_append]
  exact foldl_actStep id E2 _

@[simp] theorem lastAction_nil (id : SlabID) : lastAction [] id = none := rfl

theorem lastAction_single (e : Eff) (id : SlabID) : lastAction [e] id = actStep id none e := rfl

theorem lastAction_cons (e : Eff) (E : List Eff) (id : SlabID) :
    lastAction (e :: E) id = (lastAction E id).or (actStep id none e) := by
  have := lastAction_append [e] E id
  simpa [lastAction_single] using this

theorem lastAction_concat_store (E : List Eff) (i id : SlabID) :
    lastAction (E ++ [.store i]) id = if i = id then some true else lastAction E id := by
  rw [lastAction_append, lastAction_single]
  simp only [actStep]
  split <;> simp

theorem lastAction_concat_remove (E : List Eff) (i id : SlabID) :
    lastAction (E ++ [.remove i]) id = if i = id then some false else lastAction E id := by
  rw [lastAction_append, lastAction_single]
  simp only [actStep]
  split <;> simp

theorem lastAction_append_none {E1 E2 : List Eff} {id : SlabID} (h : lastAction E2 id = none) :
    lastAction (E1 ++ E2) id = lastAction E1 id := by
  rw [lastAction_append, h]; simp

theorem lastAction_append_some {E1 E2 : List Eff} {id : SlabID} {b : Bool}
    (h : lastAction E2 id = some b) : lastAction (E1 ++ E2) id = some b := by
  rw [lastAction_append, h]; simp

theorem lastAction_no_remove (E : List Eff) (h : ∀ e ∈ E, ∀ i, e ≠ .remove i) (id : SlabID) :
    (lastAction E id = some true ↔ Eff.store id ∈ E) ∧ lastAction E id ≠ some false := by
  induction E with
  | nil => simp
  | cons e E ih =>
    have ih := ih (fun e he => h e (by simp [he]))
    rw [lastAction_cons]
    cases hl : lastAction E id with
    | some b =>
      cases b with
      | true => simp [ih.1.1 hl]
      | false => exact absurd hl ih.2
    | none =>
      have hn : Eff.store id ∉ E := fun hm => by rw [ih.1.2 hm] at hl; cases hl
      cases e with
      | store i =>
        by_cases hi : i = id
        · subst hi; simp [actStep]
        · have : ¬ id = i := fun h => hi h.symm
          simp [actStep, hi, hn, this]
      | remove i => exact absurd rfl (h _ (by simp) i)
      | alloc a i => simp [actStep, hn]

theorem lastAction_only_removes (E : List Eff) (h : ∀ e ∈ E, ∃ i, e = Eff.remove i) (id : SlabID) :
    (lastAction E id = some false ↔ Eff.remove id ∈ E) ∧ lastAction E id ≠ some true := by
  induction E with
  | nil => simp
  | cons e E ih =>
    have ih := ih (fun e he => h e (by simp [he]))
    rw [lastAction_cons]
    cases hl : lastAction E id with
    | some b =>
      cases b with
      | false => simp [ih.1.1 hl]
      | true => exact absurd hl ih.2
    | none =>
      have hn : Eff.remove id ∉ E := fun hm => by rw [ih.1.2 hm] at hl; cases hl
      obtain ⟨i, rfl⟩ := h e (by simp)
      by_cases hi : i = id
      · subst hi; simp [actStep]
      · have : ¬ id = i := fun h => hi h.symm
        simp [actStep, hi, hn, this]

/-- a log followed by one `remove` for each of `ids` -/
theorem lastAction_append_removes (E : List Eff) (ids : List SlabID) (id : SlabID) :
    lastAction (E ++ ids.map Eff.remove) id = if id ∈ ids then some false else lastAction E id := by
  have hrem : ∀ e ∈ ids.map Eff.remove, ∃ i, e = Eff.remove i := by
    intro e he
    obtain ⟨i, _, rfl⟩ := List.mem_map.1 he
    exact ⟨i, rfl⟩
  obtain ⟨h1, h2⟩ := lastAction_only_removes (ids.map Eff.remove) hrem id
  have hmem : Eff.remove id ∈ ids.map Eff.remove ↔ id ∈ ids := by simp
  rw [lastAction_append]
  by_cases hin : id ∈ ids
  · rw [if_pos hin, h1.2 (hmem.2 hin)]; rfl
  · rw [if_neg hin]
    cases hl : lastAction (ids.map Eff.remove) id with
    | none => rfl
    | some b =>
      cases b with
      | true => exact absurd hl h2
      | false => exact absurd (hmem.1 (h1.1 hl)) hin

theorem lastAction_keep {E1 E2 : List Eff} {id : SlabID} (h1 : lastAction E1 id = some true)
    (h2 : lastAction E2 id ≠ some false) : lastAction (E1 ++ E2) id = some true := by
  rw [lastAction_append, h1]
  cases hl : lastAction E2 id with
  | none => rfl
  | some b =>
    cases b with
    | true => rfl
    | false => exact absurd hl h2

theorem lastAction_pair (e1 e2 : Eff) (id : SlabID) :
    lastAction [e1, e2] id = actStep id (actStep id none e1) e2 := rfl

theorem lastAction_store_last (E : List Eff) (id : SlabID) : lastAction (E ++ [.store id]) id = some true := by
  rw [lastAction_concat_store, if_pos rfl]

theorem lastAction_eq_none_iff (E : List Eff) (id : SlabID) :
    lastAction E id = none ↔ Eff.store id ∉ E ∧ Eff.remove id ∉ E := by
  induction E with
  | nil => simp
  | cons e E ih =>
    rw [lastAction_cons, Option.or_eq_none_iff, ih]
    cases e with
    | store i =>
      by_cases hi : i = id
      · subst hi; simp [actStep]
      · have : ¬ id = i := fun h => hi h.symm
        simp [actStep, hi, this]
    | remove i =>
      by_cases hi : i = id
      · subst hi; simp [actStep]
      · have : ¬ id = i := fun h => hi h.symm
        simp [actStep, hi, this]
    | alloc a i => simp [actStep]

theorem lastAction_ne_none_of_store {E : List Eff} {id : SlabID} (h : Eff.store id ∈ E) : lastAction E id ≠ none :=
  fun hn => ((lastAction_eq_none_iff E id).1 hn).1 h

theorem lastAction_true_mem {E : List Eff} {id : SlabID} (h : lastAction E id = some true) : Eff.store id ∈ E := by
  induction E with
  | nil => simp at h
  | cons e E ih =>
    rw [lastAction_cons] at h
    cases hl : lastAction E id with
    | some b =>
      rw [hl] at h
      simp only [Option.some_or, Option.some.injEq] at h
      subst h
      exact List.mem_cons_of_mem _ (ih hl)
    | none =>
      rw [hl] at h
      simp only [Option.none_or] at h
      cases e with
      | store i =>
        simp only [actStep] at h
        split at h
        · rename_i e1; subst e1; exact List.mem_cons_self
        · cases h
      | remove i =>
        simp only [actStep] at h
        split at h <;> cases h
      | alloc a i => cases h

theorem lastAction_remove1 (i id : SlabID) : lastAction [Eff.remove i] id = if i = id then some false else none := by
  rw [lastAction_single]; rfl

theorem lastAction_store1 (i id : SlabID) : lastAction [Eff.store i] id = if i = id then some true else none := by
  rw [lastAction_single]; rfl

theorem lastAction_alloc_store (a : Nat) (i id : SlabID) :
    lastAction [Eff.alloc a i, Eff.store i] id = if i = id then some true else none := by
  show actStep id (actStep id none (Eff.alloc a i)) (Eff.store i) = _
  simp only [actStep]

/-- the log of a bulk pop — removals `E`, then the store of the root — read through `lastAction` -/
theorem lastAction_pop {E : List Eff} (hrem : ∀ e ∈ E, ∃ i, e = Eff.remove i) (root id : SlabID) :
    (lastAction (E ++ [.store root]) id = some true ↔ id = root) ∧
    (lastAction (E ++ [.store root]) id = some false ↔ id ≠ root ∧ Eff.remove id ∈ E) := by
  rw [lastAction_concat_store]
  have hE := lastAction_only_removes E hrem id
  by_cases h : root = id
  · subst h; simp
  · rw [if_neg h]
    exact ⟨⟨fun h1 => absurd h1 hE.2, fun h2 => absurd h2.symm h⟩,
      ⟨fun h1 => ⟨fun h2 => h h2.symm, hE.1.mp h1⟩, fun h1 => hE.1.mpr h1.2⟩⟩

/-- A bulk pop in the look-up form of an account (the four clauses of `Account.complete` with nothing created,
    whence the `[]`, and what the callers read of the removals; `K` finds the slabs before, `K'` those after: the
    root alone): the log is the removals `E`, which cover every other slab, then the store of the root. -/
theorem pop_complete {β : Type} {K K' : SlabID → Option β} {E : List Eff} {root : SlabID}
    (hrem : ∀ e ∈ E, ∃ i, e = Eff.remove i) (hK' : ∀ id, (K' id).isSome ↔ id = root)
    (hE : ∀ id, (K id).isSome → id ≠ root → Eff.remove id ∈ E) :
    ((∀ id, (K' id).isSome → K' id ≠ K id → lastAction (E ++ [.store root]) id = some true) ∧
      (∀ id, (K id).isSome → (K' id).isNone → lastAction (E ++ [.store root]) id = some false) ∧
      (∀ id, lastAction (E ++ [.store root]) id = some true → (K' id).isSome ∨ id ∈ ([] : List SlabID)) ∧
      (∀ id, lastAction (E ++ [.store root]) id = some false → (K' id).isNone)) ∧
    ∀ id, (K id).isSome → id ≠ root → lastAction (E ++ [.store root]) id = some false := by
  have hL := lastAction_pop hrem root
  have hgone : ∀ id, (K id).isSome → id ≠ root → lastAction (E ++ [.store root]) id = some false :=
    fun id h hne => (hL id).2.mpr ⟨hne, hE id h hne⟩
  have hnone : ∀ id, id ≠ root → (K' id).isNone := fun id hne => by
    cases hk : K' id with
    | none => rfl
    | some s => exact absurd ((hK' id).1 (by rw [hk]; rfl)) hne
  refine ⟨⟨?_, ?_, ?_, ?_⟩, hgone⟩
  · exact fun id h _ => (hL id).1.mpr ((hK' id).1 h)
  · intro id h1 h2
    refine hgone id h1 fun he => ?_
    rw [Option.isNone_iff_eq_none] at h2
    exact absurd ((hK' id).2 he) (by rw [h2]; exact Bool.false_ne_true)
  · exact fun id h => Or.inl ((hK' id).2 ((hL id).1.mp h))
  · exact fun id h => hnone id ((hL id).2.mp h).1

/-- `c'` extends `c` by the effects `E` and the created slabs `C`; the allocated IDs are fresh. -/
structure Log (c c' : Ctx) (E : List Eff) (C : List (SlabID × Elem)) : Prop where
  eff : c'.eff = c.eff ++ E
  created : c'.created = c.created ++ C
  ctr_le : c.ctr ≤ c'.ctr
  allocs : ∀ addr id, Eff.alloc addr id ∈ E → c.ctr < id.idx ∧ id.idx ≤ c'.ctr

namespace Log

theorem refl (c : Ctx) : Log c c [] [] := ⟨by simp, by simp, Nat.le_refl _, by simp⟩

theorem trans {c c1 c2 : Ctx} {E1 E2 : List Eff} {C1 C2 : List (SlabID × Elem)}
    (h1 : Log c c1 E1 C1) (h2 : Log c1 c2 E2 C2) : Log c c2 (E1 ++ E2) (C1 ++ C2) := by
  refine ⟨by rw [h2.eff, h1.eff, List.append_assoc], by rw [h2.created, h1.created, List.append_assoc],
    Nat.le_trans h1.ctr_le h2.ctr_le, ?_⟩
  intro addr id hmem
  have hl1 := h1.ctr_le
  have hl2 := h2.ctr_le
  rcases List.mem_append.1 hmem with h | h
  · have := h1.allocs addr id h; omega
  · have := h2.allocs addr id h; omega

theorem store (c : Ctx) (i : SlabID) : Log c (c.emit (.store i)) [.store i] [] :=
  ⟨rfl, by simp [Ctx.emit], Nat.le_refl _, by simp⟩

theorem remove (c : Ctx) (i : SlabID) : Log c (c.emit (.remove i)) [.remove i] [] :=
  ⟨rfl, by simp [Ctx.emit], Nat.le_refl _, by simp⟩

theorem alloc (c : Ctx) (a : Nat) : Log c (c.alloc a).2 [.alloc a ⟨a, c.ctr + 1⟩] [] := by
  refine ⟨rfl, by simp [Ctx.alloc], Nat.le_succ _, ?_⟩
  intro addr id h
  simp only [List.mem_singleton, Eff.alloc.injEq] at h
  obtain ⟨_, rfl⟩ := h
  exact ⟨Nat.lt_succ_self _, Nat.le_refl _⟩

end Log

def isAllocAt (addr : Nat) : Eff → Bool
  | .alloc a _ => a == addr
  | _ => false

def nAllocAt (addr : Nat) (E : List Eff) : Nat := (E.filter (isAllocAt addr)).length

/-- the allocation counter advanced by exactly the number of `GenerateSlabID(addr)` events -/
def AllocCnt (addr : Nat) (c c' : Ctx) (E : List Eff) : Prop := c'.ctr = c.ctr + nAllocAt addr E

theorem nAllocAt_append (addr : Nat) (E1 E2 : List Eff) :
    nAllocAt addr (E1 ++ E2) = nAllocAt addr E1 + nAllocAt addr E2 := by
  simp [nAllocAt, List.filter_append]

/-- a log of stores and removes allocates nothing -/
theorem nAllocAt_eq_zero {addr : Nat} {E : List Eff} (h : ∀ e ∈ E, (∃ i, e = .store i) ∨ ∃ i, e = .remove i) :
    nAllocAt addr E = 0 := by
  unfold nAllocAt
  rw [List.length_eq_zero_iff, List.filter_eq_nil_iff]
  intro e he
  rcases h e he with ⟨i, rfl⟩ | ⟨i, rfl⟩ <;> simp [isAllocAt]

theorem AllocCnt.trans {addr : Nat} {c c1 c2 : Ctx} {E1 E2 : List Eff}
    (h1 : AllocCnt addr c c1 E1) (h2 : AllocCnt addr c1 c2 E2) : AllocCnt addr c c2 (E1 ++ E2) := by
  unfold AllocCnt at *
  rw [nAllocAt_append]; omega

theorem AllocCnt.refl (addr : Nat) (c : Ctx) : AllocCnt addr c c [] := by
  simp [AllocCnt, nAllocAt]

theorem AllocCnt.store (addr : Nat) (c : Ctx) (i : SlabID) : AllocCnt addr c (c.emit (.store i)) [.store i] := by
  simp [AllocCnt, nAllocAt, isAllocAt, Ctx.emit]

theorem AllocCnt.remove (addr : Nat) (c : Ctx) (i : SlabID) : AllocCnt addr c (c.emit (.remove i)) [.remove i] := by
  simp [AllocCnt, nAllocAt, isAllocAt, Ctx.emit]

theorem AllocCnt.alloc (addr : Nat) (c : Ctx) : AllocCnt addr c (c.alloc addr).2 [.alloc addr ⟨addr, c.ctr + 1⟩] := by
  simp [AllocCnt, nAllocAt, isAllocAt, Ctx.alloc]

end Atree

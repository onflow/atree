import AtreeProofs.Account.Basic
import AtreeProofs.Account.Plain
/-
  Accounts over association lists of slabs that belong to one owner, generic in the slab content `β`:
  * slab IDs carry their owner address: "fresh" means allocated for the address `a` with an
    index in `(c, c']`, "old" means at or below the counter IF owned by `a`,
  * key multiplicities (`kc`) are tracked, so that distinctness of the slab IDs follows
    (`MAcct.nodup`).
  `MAcct` (`M` for the multiplicities; the same for arrays and maps) is `Account` at the content
  relation `Entry` together with the counter bound and the multiplicity clause
  (`MAcct.iff_account`).  The logs that go with it: `MLog` (every allocation
  is the owner's), `PLog` (moreover nothing is created and the counter counts the allocations:
  everything the containers do except `Value.Storable`), `ValStep` (`Value.Storable` itself).
-/
namespace Atree
open Gen

/-- allocated for the address `a` while the counter moved from `c` to `c'` -/
def Fresh (a c c' : Nat) (id : SlabID) : Prop := id.addr = a ∧ c < id.idx ∧ id.idx ≤ c'

/-- not above the counter `c` of the address `a` -/
def Old (a c : Nat) (id : SlabID) : Prop := id.addr = a → id.idx ≤ c

theorem Fresh.not_old {a c c' : Nat} {id : SlabID} (h : Fresh a c c' id) (h' : Old a c id) : False := by
  have := h' h.1; have := h.2.1; omega

theorem Fresh.mono_left {a c c1 c2 : Nat} {id : SlabID} (h : Fresh a c1 c2 id) (hc : c ≤ c1) : Fresh a c c2 id :=
  ⟨h.1, by have := h.2.1; omega, h.2.2⟩

theorem Fresh.mono_right {a c c1 c2 : Nat} {id : SlabID} (h : Fresh a c c1 id) (hc : c1 ≤ c2) : Fresh a c c2 id :=
  ⟨h.1, h.2.1, by have := h.2.2; omega⟩

theorem Fresh.old {a c c' : Nat} {id : SlabID} (h : Fresh a c c' id) : Old a c' id := fun _ => h.2.2

theorem Old.mono {a c c' : Nat} {id : SlabID} (h : Old a c id) (hc : c ≤ c') : Old a c' id :=
  fun ha => Nat.le_trans (h ha) hc

theorem fresh_next (a c : Nat) : Fresh a c (c + 1) ⟨a, c + 1⟩ := ⟨rfl, by simp, by simp⟩

/-- number of entries stored under `id` -/
def kc {β : Type} (id : SlabID) (L : List (SlabID × β)) : Nat := L.countP (fun p => decide (p.1 = id))

section kc
variable {β : Type}

@[simp] theorem kc_nil (id : SlabID) : kc id ([] : List (SlabID × β)) = 0 := rfl

theorem kc_cons (id : SlabID) (p : SlabID × β) (L : List (SlabID × β)) :
    kc id (p :: L) = kc id L + if p.1 = id then 1 else 0 := by
  simp [kc, List.countP_cons]

theorem kc_append (id : SlabID) (A B : List (SlabID × β)) : kc id (A ++ B) = kc id A + kc id B := by
  simp [kc, List.countP_append]

theorem kc_pos_iff (id : SlabID) (L : List (SlabID × β)) : 0 < kc id L ↔ id ∈ AList.keys L := by
  rw [mem_keys_iff]
  simp only [kc, List.countP_pos_iff, decide_eq_true_eq]
  constructor
  · rintro ⟨p, hp, rfl⟩; exact ⟨p.2, hp⟩
  · rintro ⟨s, hs⟩; exact ⟨(id, s), hs, rfl⟩

theorem kc_eq_zero_iff (id : SlabID) (L : List (SlabID × β)) : kc id L = 0 ↔ id ∉ AList.keys L := by
  rw [← kc_pos_iff]; omega

theorem nodup_keys_iff (L : List (SlabID × β)) : (AList.keys L).Nodup ↔ ∀ id, kc id L ≤ 1 := by
  induction L with
  | nil => simp [AList.keys]
  | cons p L ih =>
    rw [AList.keys_cons, List.nodup_cons, ih]
    constructor
    · rintro ⟨h1, h2⟩ id
      rw [kc_cons]
      split
      · rename_i he; subst he
        have := (kc_eq_zero_iff p.1 L).2 h1
        omega
      · have := h2 id; omega
    · intro h
      constructor
      · intro hm
        have h1 := (kc_pos_iff p.1 L).2 hm
        have h2 := h p.1
        rw [kc_cons, if_pos rfl] at h2
        omega
      · intro id
        have := h id
        rw [kc_cons] at this
        omega

theorem kc_flatMap_cons {α : Type} (id : SlabID) (f : α → List (SlabID × β)) (x : α) (X : List α) :
    kc id ((x :: X).flatMap f) = kc id (f x) + kc id (X.flatMap f) := by
  rw [List.flatMap_cons, kc_append]

end kc

/-- two lists of slabs with the same entries and the same key multiplicities -/
def Same {β : Type} (W S : List (SlabID × β)) : Prop :=
  (∀ p, p ∈ W ↔ p ∈ S) ∧ ∀ id, kc id W = kc id S

theorem Same.refl {β : Type} (S : List (SlabID × β)) : Same S S := ⟨fun _ => Iff.rfl, fun _ => rfl⟩

theorem Same.of_perm {β : Type} {W S : List (SlabID × β)} (h : W.Perm S) : Same W S :=
  ⟨fun _ => h.mem_iff, fun _ => h.countP_eq _⟩

theorem Same.keys {β : Type} {W S : List (SlabID × β)} (h : Same W S) (id : SlabID) :
    id ∈ AList.keys W ↔ id ∈ AList.keys S := by
  rw [← kc_pos_iff, ← kc_pos_iff, h.2 id]

/-- `Log`, and every allocation is for the address `a` -/
structure MLog (a : Nat) (c c' : Ctx) (E : List Eff) (C : List (SlabID × Elem)) : Prop extends Log c c' E C where
  addr : ∀ ad id, Eff.alloc ad id ∈ E → id.addr = a

namespace MLog

theorem refl (a : Nat) (c : Ctx) : MLog a c c [] [] := ⟨Log.refl c, by simp⟩

theorem trans {a : Nat} {c c1 c2 : Ctx} {E1 E2 : List Eff} {C1 C2 : List (SlabID × Elem)}
    (h1 : MLog a c c1 E1 C1) (h2 : MLog a c1 c2 E2 C2) : MLog a c c2 (E1 ++ E2) (C1 ++ C2) := by
  refine ⟨h1.toLog.trans h2.toLog, ?_⟩
  intro ad id hm
  rcases List.mem_append.1 hm with h | h
  · exact h1.addr ad id h
  · exact h2.addr ad id h

theorem store (a : Nat) (c : Ctx) (i : SlabID) : MLog a c (c.emit (.store i)) [.store i] [] :=
  ⟨Log.store c i, by simp⟩

theorem remove (a : Nat) (c : Ctx) (i : SlabID) : MLog a c (c.emit (.remove i)) [.remove i] [] :=
  ⟨Log.remove c i, by simp⟩

theorem alloc (a : Nat) (c : Ctx) : MLog a c (c.alloc a).2 [.alloc a ⟨a, c.ctr + 1⟩] [] := by
  refine ⟨Log.alloc c a, ?_⟩
  intro ad id h
  simp only [List.mem_singleton, Eff.alloc.injEq] at h
  obtain ⟨_, rfl⟩ := h
  rfl

theorem of_eq {a : Nat} {c c' c'' : Ctx} {E : List Eff} {C : List (SlabID × Elem)} (h : MLog a c c' E C)
    (he : c'' = c') : MLog a c c'' E C := he ▸ h

theorem store3 (a : Nat) (c : Ctx) (i1 i2 i3 : SlabID) :
    MLog a c (((c.emit (.store i1)).emit (.store i2)).emit (.store i3)) [.store i1, .store i2, .store i3] [] := by
  have := ((store a c i1).trans (store a _ i2)).trans (store a _ i3)
  simpa using this

end MLog

/-- `MLog` of a stretch that creates no large-value slab, with the counter advanced by exactly the
    allocations of the log (what the index-slab repairs and the rewriting of a leaf do) -/
structure PLog (a : Nat) (c c' : Ctx) (E : List Eff) : Prop extends MLog a c c' E [] where
  cnt : AllocCnt a c c' E

namespace PLog

theorem refl (a : Nat) (c : Ctx) : PLog a c c [] := ⟨MLog.refl a c, AllocCnt.refl a c⟩

theorem trans {a : Nat} {c c1 c2 : Ctx} {E1 E2 : List Eff} (h1 : PLog a c c1 E1) (h2 : PLog a c1 c2 E2) :
    PLog a c c2 (E1 ++ E2) := ⟨h1.toMLog.trans h2.toMLog, h1.cnt.trans h2.cnt⟩

theorem store (a : Nat) (c : Ctx) (i : SlabID) : PLog a c (c.emit (.store i)) [.store i] :=
  ⟨MLog.store a c i, AllocCnt.store a c i⟩

theorem remove (a : Nat) (c : Ctx) (i : SlabID) : PLog a c (c.emit (.remove i)) [.remove i] :=
  ⟨MLog.remove a c i, AllocCnt.remove a c i⟩

theorem alloc (a : Nat) (c : Ctx) : PLog a c (c.alloc a).2 [.alloc a ⟨a, c.ctr + 1⟩] :=
  ⟨MLog.alloc a c, AllocCnt.alloc a c⟩

theorem store3 (a : Nat) (c : Ctx) (i1 i2 i3 : SlabID) :
    PLog a c (((c.emit (.store i1)).emit (.store i2)).emit (.store i3)) [.store i1, .store i2, .store i3] :=
  ((store a c i1).trans (store a _ i2)).trans (store a _ i3)

end PLog

/-- `E` accounts for the change from the slabs `S` to the slabs `S'`; `a` is the owner address,
    `c`/`c'` the allocation counter before/after, `cr` the large-value slabs created meanwhile. -/
structure MAcct {β : Type} (a c c' : Nat) (S S' : List (SlabID × β)) (E : List Eff) (cr : List SlabID) : Prop where
  le : c ≤ c'
  kept : ∀ p ∈ S', p ∈ S ∨ lastAction E p.1 = some true
  gone : ∀ id ∈ AList.keys S, id ∉ AList.keys S' → lastAction E id = some false
  stored : ∀ id, lastAction E id = some true → id ∈ AList.keys S' ∨ id ∈ cr
  removed : ∀ id, lastAction E id = some false → id ∉ AList.keys S'
  foot : ∀ id, lastAction E id ≠ none → id ∈ AList.keys S ∨ Fresh a c c' id
  fresh : ∀ id ∈ cr, Fresh a c c' id
  cnt : ∀ id, kc id S' ≤ kc id S ∨ (Fresh a c c' id ∧ kc id S' ≤ 1)

namespace MAcct
variable {β : Type} {a c c' : Nat}

theorem iff_account {S S' : List (SlabID × β)} {E : List Eff} {cr : List SlabID} :
    MAcct a c c' S S' E cr ↔ c ≤ c' ∧
      Account (Fresh a c c') (Entry S) (Entry S') (· ∈ AList.keys S) (· ∈ AList.keys S') E cr ∧
      ∀ id, kc id S' ≤ kc id S ∨ (Fresh a c c' id ∧ kc id S' ≤ 1) :=
  ⟨fun h => ⟨h.le, .of_list h.kept h.gone h.stored h.removed h.foot h.fresh (Account.tnew_list h.kept h.foot), h.cnt⟩,
    fun ⟨hle, h, cnt⟩ => ⟨hle, h.kept_list, h.gone_list, h.stored_list, h.removed_list, h.foot, h.fresh, cnt⟩⟩

theorem refl (a c : Nat) (S : List (SlabID × β)) : MAcct a c c S S [] [] :=
  iff_account.2 ⟨Nat.le_refl _, .refl _ _ _, fun _ => Or.inl (Nat.le_refl _)⟩

/-- only membership and multiplicities matter -/
theorem congr {S S' W W' : List (SlabID × β)} {E : List Eff} {cr : List SlabID}
    (h : MAcct a c c' S S' E cr) (hS : Same W S) (hS' : Same W' S') : MAcct a c c' W W' E cr := by
  obtain ⟨hle, acc, cnt⟩ := iff_account.1 h
  refine iff_account.2 ⟨hle, acc.congr (fun id s => hS.1 (id, s)) (fun id s => hS'.1 (id, s)) hS.keys hS'.keys,
    fun id => ?_⟩
  rw [hS.2 id, hS'.2 id]
  exact cnt id

theorem keys_new {S S' : List (SlabID × β)} {E : List Eff} {cr : List SlabID}
    (h : MAcct a c c' S S' E cr) : ∀ id ∈ AList.keys S', id ∈ AList.keys S ∨ Fresh a c c' id :=
  Account.tnew_list h.kept h.foot

theorem nodup {S S' : List (SlabID × β)} {E : List Eff} {cr : List SlabID}
    (h : MAcct a c c' S S' E cr) (hnd : (AList.keys S).Nodup) : (AList.keys S').Nodup := by
  rw [nodup_keys_iff] at hnd ⊢
  intro id
  rcases h.cnt id with h1 | h1
  · have := hnd id; omega
  · exact h1.2

theorem old {S S' : List (SlabID × β)} {E : List Eff} {cr : List SlabID}
    (h : MAcct a c c' S S' E cr) (ho : ∀ id ∈ AList.keys S, Old a c id) :
    ∀ id ∈ AList.keys S', Old a c' id := by
  intro id hid
  rcases h.keys_new id hid with h1 | h1
  · exact (ho id h1).mono h.le
  · exact h1.old

/-- Slabs `F` that the operation does not touch.  Four forms: `frame` / `frame_mid` take the side
    condition (`F` disjoint from the old slabs, and old) as a hypothesis, `frame_of_nodup` /
    `frame_mid_of_nodup` read it off the old state (distinct identifiers, all old); `_mid`: the slabs
    accounted for sit in the middle of the list. -/
theorem frame {S S' : List (SlabID × β)} {E : List Eff} {cr : List SlabID}
    (h : MAcct a c c' S S' E cr) (F : List (SlabID × β))
    (hF : ∀ id ∈ AList.keys F, id ∉ AList.keys S ∧ Old a c id) :
    MAcct a c c' (S ++ F) (S' ++ F) E cr := by
  obtain ⟨hle, acc, cnt⟩ := iff_account.1 h
  have hk : ∀ (X : List (SlabID × β)) id, id ∈ AList.keys (X ++ F) ↔ id ∈ AList.keys X ∨ id ∈ AList.keys F :=
    fun X id => by rw [keys_append]; exact List.mem_append
  refine iff_account.2 ⟨hle, (acc.frame (HF := Entry F) (TF := (· ∈ AList.keys F)) (fun _ _ hs => mem_keys_of_mem hs)
    (fun id hid => ⟨(hF id hid).1, fun hf => hf.not_old (hF id hid).2⟩)).congr
      (fun _ _ => List.mem_append) (fun _ _ => List.mem_append) (hk S) (hk S'), fun id => ?_⟩
  rw [kc_append, kc_append]
  rcases cnt id with h1 | h1
  · left; omega
  · right
    refine ⟨h1.1, ?_⟩
    have : kc id F = 0 := by
      rw [kc_eq_zero_iff]
      intro hm
      exact h1.1.not_old (hF id hm).2
    omega

/-- `frame` up to the order of the slabs: `S` consists of the slabs `N` that `h` accounts for and of
    slabs `G` that stay, all distinct and old -/
theorem frame_of_nodup {N N' S S' G : List (SlabID × β)} {E : List Eff} {cr : List SlabID}
    (h : MAcct a c c' N N' E cr) (hS : S.Perm (N ++ G)) (hS' : S'.Perm (N' ++ G))
    (hnd : (AList.keys S).Nodup) (hold : ∀ id ∈ AList.keys S, Old a c id) : MAcct a c c' S S' E cr := by
  have hk := hS.map Prod.fst
  rw [List.map_append] at hk
  exact (h.frame G fun id hid => ⟨fun hN => (List.nodup_append.1 (hk.nodup_iff.1 hnd)).2.2 id hN id hid rfl,
    hold id (hk.mem_iff.2 (List.mem_append_right _ hid))⟩).congr (Same.of_perm hS) (Same.of_perm hS')

theorem frame_mid {S S' : List (SlabID × β)} {E : List Eff} {cr : List SlabID}
    (h : MAcct a c c' S S' E cr) (F1 F2 : List (SlabID × β))
    (hF : ∀ id ∈ AList.keys F1 ++ AList.keys F2, id ∉ AList.keys S ∧ Old a c id) :
    MAcct a c c' (F1 ++ S ++ F2) (F1 ++ S' ++ F2) E cr := by
  have hmid : ∀ X : List (SlabID × β), Same (F1 ++ X ++ F2) (X ++ (F1 ++ F2)) := fun X =>
    Same.of_perm ((List.perm_append_comm.append_right F2).trans (List.Perm.of_eq (List.append_assoc X F1 F2)))
  exact (h.frame (F1 ++ F2) (by rw [keys_append]; exact hF)).congr (hmid S) (hmid S')

theorem frame_mid_of_nodup {S S' : List (SlabID × β)} {E : List Eff} {cr : List SlabID}
    (h : MAcct a c c' S S' E cr) (F1 F2 : List (SlabID × β)) (hnd : (AList.keys (F1 ++ S ++ F2)).Nodup)
    (hold : ∀ id ∈ AList.keys (F1 ++ S ++ F2), Old a c id) :
    MAcct a c c' (F1 ++ S ++ F2) (F1 ++ S' ++ F2) E cr :=
  have hmid : ∀ X : List (SlabID × β), (F1 ++ X ++ F2).Perm (X ++ (F1 ++ F2)) := fun X =>
    (List.perm_append_comm.append_right F2).trans (List.Perm.of_eq (List.append_assoc X F1 F2))
  h.frame_of_nodup (hmid S) (hmid S') hnd hold

theorem trans {c1 c2 : Nat} {S S1 S2 : List (SlabID × β)} {E1 E2 : List Eff} {cr1 cr2 : List SlabID}
    (h1 : MAcct a c c1 S S1 E1 cr1) (h2 : MAcct a c1 c2 S1 S2 E2 cr2)
    (hS : ∀ id ∈ AList.keys S, Old a c id) : MAcct a c c2 S S2 (E1 ++ E2) (cr1 ++ cr2) := by
  obtain ⟨hc, acc1, cnt1⟩ := iff_account.1 h1
  obtain ⟨hc', acc2, cnt2⟩ := iff_account.1 h2
  refine iff_account.2 ⟨Nat.le_trans hc hc', acc1.trans acc2 (fun _ h => h.mono_right hc') (fun _ h => h.mono_left hc)
    (fun id hid hf => hf.not_old ((hS id ((exists_entry S id).1 hid)).mono hc)), fun id => ?_⟩
  rcases cnt2 id with h3 | h3
  · rcases cnt1 id with h4 | h4
    · left; omega
    · right; exact ⟨h4.1.mono_right hc', by omega⟩
  · right; exact ⟨h3.1.mono_left hc, h3.2⟩

/-- from the last actions of the log alone: every slab of `N'` is stored last, every identifier of
    `N` that is gone is removed last, and the log touches nothing else -/
theorem of_lastActions {N N' : List (SlabID × β)} {E : List Eff} (hle : c ≤ c')
    (hst : ∀ p ∈ N', lastAction E p.1 = some true)
    (hrm : ∀ id ∈ AList.keys N, id ∉ AList.keys N' → lastAction E id = some false)
    (hE : ∀ id, lastAction E id = some true → id ∈ AList.keys N')
    (hE' : ∀ id, lastAction E id = some false → id ∈ AList.keys N ∧ id ∉ AList.keys N')
    (hcnt : ∀ id, kc id N' ≤ kc id N ∨ (Fresh a c c' id ∧ kc id N' ≤ 1)) : MAcct a c c' N N' E [] := by
  refine ⟨hle, fun p hp => Or.inr (hst p hp), hrm, fun id h => Or.inl (hE id h),
    fun id h => (hE' id h).2, ?_, by simp, hcnt⟩
  intro id h
  cases hl : lastAction E id with
  | none => exact absurd hl h
  | some b =>
    cases b with
    | true =>
      have h1 := hE id hl
      rcases hcnt id with h2 | h2
      · left
        rw [← kc_pos_iff] at h1 ⊢
        omega
      · exact Or.inr h2.1
    | false => exact Or.inl (hE' id hl).1

/-- a log of stores (and allocations) that rewrites the slabs `N` into `N'` -/
theorem of_stores {N N' : List (SlabID × β)} {E : List Eff} (hle : c ≤ c')
    (hno : ∀ e ∈ E, ∀ i, e ≠ .remove i)
    (hst : ∀ id, Eff.store id ∈ E ↔ id ∈ AList.keys N')
    (hsub : ∀ id ∈ AList.keys N, id ∈ AList.keys N')
    (hcnt : ∀ id, kc id N' ≤ kc id N ∨ (Fresh a c c' id ∧ kc id N' ≤ 1)) : MAcct a c c' N N' E [] := by
  refine of_lastActions hle ?_ ?_ ?_ ?_ hcnt
  · intro p hp
    exact ((lastAction_no_remove E hno p.1).1).2 ((hst p.1).2 (mem_keys_of_mem hp))
  · intro id h1 h2; exact absurd (hsub id h1) h2
  · intro id h; exact (hst id).1 (((lastAction_no_remove E hno id).1).1 h)
  · intro id h; exact absurd h (lastAction_no_remove E hno id).2

/-- stores, then the removal of one slab -/
theorem of_stores_remove {N N' : List (SlabID × β)} {E : List Eff} {x : SlabID}
    (hno : ∀ e ∈ E, ∀ i, e ≠ .remove i)
    (hst : ∀ id, Eff.store id ∈ E ↔ id ∈ AList.keys N')
    (hx : x ∉ AList.keys N')
    (hN : ∀ id, id ∈ AList.keys N ↔ id = x ∨ id ∈ AList.keys N')
    (hcnt : ∀ id, kc id N' ≤ kc id N) :
    MAcct a c c N N' (E ++ [.remove x]) [] := by
  have hla : ∀ id, lastAction (E ++ [.remove x]) id
      = if x = id then some false else lastAction E id := lastAction_concat_remove E x
  refine of_lastActions (Nat.le_refl _) ?_ ?_ ?_ ?_ (fun id => Or.inl (hcnt id))
  · intro p hp
    have hk := mem_keys_of_mem hp
    have hne : ¬ x = p.1 := fun h => hx (h ▸ hk)
    rw [hla, if_neg hne]
    exact ((lastAction_no_remove E hno p.1).1).2 ((hst p.1).2 hk)
  · intro id h1 h2
    rcases (hN id).1 h1 with h3 | h3
    · rw [hla, if_pos h3.symm]
    · exact absurd h3 h2
  · intro id h
    rw [hla] at h
    split at h
    · cases h
    · exact (hst id).1 (((lastAction_no_remove E hno id).1).1 h)
  · intro id h
    rw [hla] at h
    split at h
    · rename_i hxi; subst hxi
      exact ⟨(hN x).2 (Or.inl rfl), hx⟩
    · exact absurd h (lastAction_no_remove E hno id).2

/-- storing once more a slab that is in the tree -/
theorem then_store {S S' : List (SlabID × β)} {E : List Eff} {cr : List SlabID}
    (h : MAcct a c c' S S' E cr) (id : SlabID) (hid : id ∈ AList.keys S')
    (hS : ∀ id ∈ AList.keys S, Old a c id) : MAcct a c c' S S' (E ++ [.store id]) cr := by
  have h2 : MAcct a c' c' S' S' [.store id] [] := by
    refine ⟨Nat.le_refl _, fun _ h => Or.inl h, fun _ h h' => absurd h h', ?_, ?_, ?_, by simp,
      fun _ => Or.inl (Nat.le_refl _)⟩
    · intro j hj
      rw [lastAction_store1] at hj
      split at hj
      · rename_i e; subst e; exact Or.inl hid
      · cases hj
    · intro j hj
      rw [lastAction_store1] at hj
      split at hj <;> cases hj
    · intro j hj
      rw [lastAction_store1] at hj
      split at hj
      · rename_i e; subst e; exact Or.inl hid
      · exact absurd rfl hj
  simpa using h.trans h2 hS

/-- one slab rewritten under its identifier and stored -/
theorem rewrite_single (id : SlabID) (x x' : β) :
    MAcct a c c [(id, x)] [(id, x')] [.store id] ([] : List SlabID) := by
  refine of_stores (Nat.le_refl _) (by simp) ?_ ?_ ?_
  · intro j; simp [AList.keys]
  · intro j; simp [AList.keys]
  · intro j; left; simp [kc_cons]

/-- the slab `rid` on top of the slabs `G` is rewritten (and stored last) -/
theorem with_root {G G' : List (SlabID × β)} {E : List Eff} {cr : List SlabID}
    (h : MAcct a c c' G G' E cr) (rid : SlabID) (e e' : β)
    (hr : rid ∉ AList.keys G) (ho : Old a c rid) (hG : ∀ id ∈ AList.keys G, Old a c id) :
    MAcct a c c' ((rid, e) :: G) ((rid, e') :: G') (E ++ [.store rid]) cr := by
  have h1 : MAcct a c c' (G ++ [(rid, e)]) (G' ++ [(rid, e)]) E cr := by
    refine h.frame _ ?_
    intro id hid
    simp only [AList.keys, List.map_cons, List.map_nil, List.mem_singleton] at hid
    subst hid
    exact ⟨hr, ho⟩
  have hr' : rid ∉ AList.keys G' := by
    intro hm
    rcases h.keys_new rid hm with h3 | h3
    · exact hr h3
    · exact h3.not_old ho
  have h2 : MAcct a c' c' (G' ++ [(rid, e)]) (G' ++ [(rid, e')]) [.store rid] [] := by
    have := (rewrite_single (a := a) (c := c') rid e e').frame_mid G' [] (by
      intro id hid
      simp only [AList.keys, List.map_nil, List.append_nil] at hid
      refine ⟨?_, h.old hG id hid⟩
      simp only [AList.keys, List.map_cons, List.map_nil, List.mem_singleton]
      intro he; subst he; exact hr' hid)
    simpa using this
  have h3 := h1.trans h2 (by
    intro id hid
    rw [keys_append] at hid
    rcases List.mem_append.1 hid with h4 | h4
    · exact hG id h4
    · simp only [AList.keys, List.map_cons, List.map_nil, List.mem_singleton] at h4
      subst h4; exact ho)
  refine (by simpa using h3 : MAcct a c c' (G ++ [(rid, e)]) (G' ++ [(rid, e')]) (E ++ [.store rid]) cr).congr
    (Same.of_perm (List.perm_append_singleton _ G).symm) (Same.of_perm (List.perm_append_singleton _ G').symm)

end MAcct

/-- the context is unchanged, or one large-value slab was allocated, stored and recorded -/
def ValStep (a : Nat) (c c' : Ctx) : Prop :=
  c' = c ∨ ∃ v, c' = { ctr := c.ctr + 1,
                       eff := c.eff ++ [.alloc a ⟨a, c.ctr + 1⟩, .store ⟨a, c.ctr + 1⟩],
                       created := c.created ++ [(⟨a, c.ctr + 1⟩, v)] }

theorem ValStep.ctr_le {a : Nat} {c c' : Ctx} (h : ValStep a c c') : c.ctr ≤ c'.ctr := by
  rcases h with rfl | ⟨v, rfl⟩
  · exact Nat.le_refl _
  · exact Nat.le_succ _

/-- the log of `Value.Storable`: empty, or the allocation and the store of the one slab created -/
theorem ValStep.mlog {a : Nat} {c c' : Ctx} (h : ValStep a c c') :
    (c' = c ∧ MLog a c c' [] []) ∨
    ∃ v, c'.ctr = c.ctr + 1 ∧
      MLog a c c' [.alloc a ⟨a, c.ctr + 1⟩, .store ⟨a, c.ctr + 1⟩] [(⟨a, c.ctr + 1⟩, v)] := by
  rcases h with rfl | ⟨v, rfl⟩
  · exact Or.inl ⟨rfl, MLog.refl a _⟩
  · refine Or.inr ⟨v, rfl, ⟨rfl, rfl, by simp, ?_⟩, ?_⟩
    · intro ad id hm
      simp only [List.mem_cons, Eff.alloc.injEq, reduceCtorEq, List.not_mem_nil, or_false] at hm
      obtain ⟨_, rfl⟩ := hm
      simp
    · intro ad id hm
      simp only [List.mem_cons, Eff.alloc.injEq, reduceCtorEq, List.not_mem_nil, or_false] at hm
      obtain ⟨_, rfl⟩ := hm
      rfl

/-- Everything about the log of `Value.Storable` at once: it is an `MLog`, counts its allocation, is an
    account whatever the slabs `S`, and the slab it creates (if any) is the next one of the owner and
    is stored. -/
theorem ValStep.created_acct {a : Nat} {c c' : Ctx} (h : ValStep a c c') :
    ∃ E C, MLog a c c' E C ∧ AllocCnt a c c' E ∧
      (∀ (β : Type) (S : List (SlabID × β)), MAcct a c.ctr c'.ctr S S E (C.map (·.1))) ∧
      ∀ x ∈ C.map (·.1), lastAction E x = some true ∧ x = ⟨a, c.ctr + 1⟩ ∧ c'.ctr = c.ctr + 1 := by
  rcases h.mlog with ⟨rfl, hl⟩ | ⟨v, hc, hl⟩
  · exact ⟨[], [], hl, AllocCnt.refl a _, fun β S => MAcct.refl a _ S, by simp⟩
  · have hla := lastAction_alloc_store a ⟨a, c.ctr + 1⟩
    refine ⟨_, _, hl, by simp [AllocCnt, nAllocAt, isAllocAt, hc], fun β S => ?_, ?_⟩
    · rw [hc]
      refine ⟨by simp, fun _ h => Or.inl h, fun _ h h' => absurd h h', ?_, ?_, ?_, ?_, fun _ => Or.inl (Nat.le_refl _)⟩
      · intro id hid
        rw [hla] at hid
        split at hid
        · rename_i he; subst he; right; simp
        · cases hid
      · intro id hid
        rw [hla] at hid
        split at hid <;> cases hid
      · intro id hid
        rw [hla] at hid
        split at hid
        · rename_i he; subst he; right; exact fresh_next a c.ctr
        · exact absurd rfl hid
      · intro id hid
        simp only [List.map_cons, List.map_nil, List.mem_singleton] at hid
        subst hid
        exact fresh_next a c.ctr
    · intro x hx
      simp only [List.map_cons, List.map_nil, List.mem_singleton] at hx
      subst hx
      exact ⟨by rw [hla, if_pos rfl], rfl, hc⟩

theorem ValStep.acct {a : Nat} {c c' : Ctx} (h : ValStep a c c') :
    ∃ E C, MLog a c c' E C ∧ ∀ (β : Type) (S : List (SlabID × β)), MAcct a c.ctr c'.ctr S S E (C.map (·.1)) :=
  let ⟨E, C, hl, _, hacc, _⟩ := h.created_acct
  ⟨E, C, hl, hacc⟩

/-! The two ways of counting allocations (`AllocCnt`: those for one address; `E2EM.Plain`: all of
    them) agree on a log whose allocations are all the owner's. -/

theorem nAllocAt_eq_nAlloc {a : Nat} : ∀ {E : List Eff}, (∀ ad id, Eff.alloc ad id ∈ E → ad = a) →
    nAllocAt a E = E2EM.nAlloc E
  | [], _ => rfl
  | e :: E, h => by
    have ih := nAllocAt_eq_nAlloc (a := a) (E := E) (fun ad id hm => h ad id (List.mem_cons_of_mem _ hm))
    unfold nAllocAt E2EM.nAlloc at ih ⊢
    cases e with
    | alloc ad id =>
      have := h ad id List.mem_cons_self
      subst this
      simp only [List.filter_cons, isAllocAt, E2EM.isAlloc, beq_self_eq_true, if_true, List.length_cons, ih]
    | store i => simpa [List.filter_cons, isAllocAt, E2EM.isAlloc] using ih
    | remove i => simpa [List.filter_cons, isAllocAt, E2EM.isAlloc] using ih

/-- a plain stretch with an owner-address log: nothing created, allocations counted -/
theorem plain_allocCnt {a : Nat} {c c' : Ctx} {E : List Eff} {C : List (SlabID × Elem)}
    (hpl : E2EM.Plain c c') (hlog : MLog a c c' E C) : AllocCnt a c c' E ∧ C = [] := by
  obtain ⟨E0, e0, n0, a0⟩ := hpl.log
  have hE : E = E0 := List.append_cancel_left (hlog.eff.symm.trans e0)
  subst hE
  refine ⟨?_, ?_⟩
  · unfold AllocCnt
    rw [nAllocAt_eq_nAlloc (a := a) (fun ad id hm => (a0 ad id hm).symm.trans (hlog.addr ad id hm))]
    exact n0
  · have := hlog.created
    rw [hpl.created] at this
    exact List.append_cancel_left (by rw [List.append_nil]; exact this.symm)

end Atree

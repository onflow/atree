import AtreeProofs.Account.Owner
/-
  The account (`MAcct`) of the elementary changes of one entry in the middle of a list of slabs:
  replaced, added under the next ID, stored and removed; the account of a mapped list; a
  `Value.Storable` step in front of an account.
-/
namespace Atree
open Gen

section lists
variable {β : Type} {a c : Nat}

theorem nodup_mid {F1 S F2 : List (SlabID × β)} (hnd : (AList.keys (F1 ++ S ++ F2)).Nodup) :
    (AList.keys S).Nodup := by
  rw [nodup_keys_iff] at hnd ⊢
  intro id
  have := hnd id
  rw [kc_append, kc_append] at this
  omega

theorem old_mid {F1 S F2 : List (SlabID × β)}
    (hold : ∀ id ∈ AList.keys (F1 ++ S ++ F2), Old a c id) : ∀ id ∈ AList.keys S, Old a c id := by
  intro id hid
  apply hold
  rw [keys_append, keys_append]
  exact List.mem_append.2 (Or.inl (List.mem_append.2 (Or.inr hid)))

theorem MAcct.replace (A B : List (SlabID × β)) (id : SlabID) (x x' : β)
    (hnd : (AList.keys (A ++ (id, x) :: B)).Nodup)
    (hold : ∀ j ∈ AList.keys (A ++ (id, x) :: B), Old a c j) :
    MAcct a c c (A ++ (id, x) :: B) (A ++ (id, x') :: B) [.store id] [] := by
  simpa using (MAcct.rewrite_single (a := a) (c := c) id x x').frame_mid_of_nodup A B (by simpa using hnd) (by simpa using hold)

theorem MAcct.add (A B : List (SlabID × β)) (x : β)
    (hold : ∀ j ∈ AList.keys (A ++ B), Old a c j) :
    MAcct a c (c + 1) (A ++ B) (A ++ (⟨a, c + 1⟩, x) :: B)
      [.alloc a ⟨a, c + 1⟩, .store ⟨a, c + 1⟩] [] := by
  have h0 : MAcct a c (c + 1) ([] : List (SlabID × β)) [(⟨a, c + 1⟩, x)]
      [.alloc a ⟨a, c + 1⟩, .store ⟨a, c + 1⟩] ([] : List SlabID) := by
    refine MAcct.of_stores (by simp) (by simp) ?_ ?_ ?_
    · intro j; simp [AList.keys]
    · intro j; simp [AList.keys]
    · intro j
      rw [kc_cons]
      split
      · rename_i he
        simp only at he
        subst he
        right; exact ⟨fresh_next a c, by simp⟩
      · left; simp
  have := h0.frame_mid A B (by
    intro j hj
    refine ⟨by simp [AList.keys], hold j (by rw [keys_append]; exact hj)⟩)
  simpa using this

/-- a slab is stored one last time and removed -/
theorem MAcct.drop (A B : List (SlabID × β)) (id : SlabID) (x : β)
    (hnd : (AList.keys (A ++ (id, x) :: B)).Nodup)
    (hold : ∀ j ∈ AList.keys (A ++ (id, x) :: B), Old a c j) :
    MAcct a c c (A ++ (id, x) :: B) (A ++ B) [.store id, .remove id] [] := by
  have hla : ∀ j, lastAction [Eff.store id, .remove id] j = if id = j then some false else none := by
    intro j
    rw [lastAction_pair]
    simp only [actStep]
    split <;> rfl
  have h0 : MAcct a c c [(id, x)] ([] : List (SlabID × β)) [.store id, .remove id] ([] : List SlabID) := by
    refine MAcct.of_lastActions (Nat.le_refl _) (by simp) ?_ ?_ ?_ (fun j => Or.inl (by simp))
    · intro j hj _
      simp only [AList.keys, List.map_cons, List.map_nil, List.mem_singleton] at hj
      subst hj
      rw [hla, if_pos rfl]
    · intro j hj
      rw [hla] at hj
      split at hj <;> cases hj
    · intro j hj
      rw [hla] at hj
      split at hj
      · rename_i he; subst he; simp [AList.keys]
      · cases hj
  simpa using h0.frame_mid_of_nodup A B (by simpa using hnd) (by simpa using hold)

theorem MAcct.map {γ : Type} {c' : Nat} {S S' : List (SlabID × β)} {E : List Eff} {cr : List SlabID}
    (h : MAcct a c c' S S' E cr) (f : β → γ) :
    MAcct a c c' (S.map (fun p => (p.1, f p.2))) (S'.map (fun p => (p.1, f p.2))) E cr := by
  have hk : ∀ (L : List (SlabID × β)), AList.keys (L.map (fun p => (p.1, f p.2))) = AList.keys L := by
    intro L; simp [AList.keys]
  have hc : ∀ (L : List (SlabID × β)) id, kc id (L.map (fun p => (p.1, f p.2))) = kc id L := by
    intro L id
    induction L with
    | nil => rfl
    | cons p L ih => rw [List.map_cons, kc_cons, kc_cons, ih]
  refine ⟨h.le, ?_, ?_, ?_, ?_, ?_, h.fresh, ?_⟩
  · intro p hp
    obtain ⟨q, hq, rfl⟩ := List.mem_map.1 hp
    rcases h.kept q hq with h1 | h1
    · exact Or.inl (List.mem_map.2 ⟨q, h1, rfl⟩)
    · exact Or.inr h1
  · intro id h1 h2; rw [hk] at h1 h2; exact h.gone id h1 h2
  · intro id h1; rw [hk]; exact h.stored id h1
  · intro id h1; rw [hk]; exact h.removed id h1
  · intro id h1; rw [hk]; exact h.foot id h1
  · intro id; rw [hc, hc]; exact h.cnt id

theorem ValStep.then_acct {a : Nat} {c c1 c' : Ctx} {S S' : List (SlabID × β)} {E2 : List Eff}
    (hv : ValStep a c c1) (hlog : MLog a c1 c' E2 [])
    (hold : ∀ j ∈ AList.keys S, Old a c.ctr j)
    (hacct : (∀ j ∈ AList.keys S, Old a c1.ctr j) → MAcct a c1.ctr c'.ctr S S' E2 []) :
    ∃ E C, MLog a c c' E C ∧ MAcct a c.ctr c'.ctr S S' E (C.map (·.1)) := by
  obtain ⟨E1, C1, hl1, ha1⟩ := hv.acct
  have h1 := ha1 β S
  have h2 := hacct (h1.old hold)
  refine ⟨E1 ++ E2, C1, by simpa using hl1.trans hlog, ?_⟩
  simpa using h1.trans h2 hold

end lists

end Atree

import AtreeModel.Array.Slab
/-
  `E2EM.Plain c c'`: what a stretch of storage calls that creates no large-value slab does to the
  context, whatever the container and with no invariant: the log is extended, the counter counts
  the allocation events, and every allocation event carries the address of the ID it hands out.
  Every step of an array or map operation after `Value.Storable` is `Plain` (the repairs of an
  index slab: `Forest.Repair.ctx_plain`, Account/Repair.lean).
-/
namespace Atree.E2EM
open Atree Gen

def isAlloc : Eff → Bool
  | .alloc _ _ => true
  | _ => false

/-- number of `GenerateSlabID` events (any address) -/
def nAlloc (E : List Eff) : Nat := (E.filter isAlloc).length

theorem nAlloc_append (E1 E2 : List Eff) : nAlloc (E1 ++ E2) = nAlloc E1 + nAlloc E2 := by
  simp [nAlloc, List.filter_append]

/-- from `c` to `c'`: no large-value slab created, the log extended, the counter advanced by the
    number of allocation events, each of which is for the address of the ID it hands out -/
structure Plain (c c' : Ctx) : Prop where
  created : c'.created = c.created
  log : ∃ E, c'.eff = c.eff ++ E ∧ c'.ctr = c.ctr + nAlloc E ∧ ∀ ad id, Eff.alloc ad id ∈ E → id.addr = ad

namespace Plain

theorem refl (c : Ctx) : Plain c c := ⟨rfl, [], by simp, by simp [nAlloc], by simp⟩

theorem trans {c c1 c2 : Ctx} (h1 : Plain c c1) (h2 : Plain c1 c2) : Plain c c2 := by
  obtain ⟨E1, e1, n1, a1⟩ := h1.log
  obtain ⟨E2, e2, n2, a2⟩ := h2.log
  refine ⟨h2.created.trans h1.created, E1 ++ E2, by rw [e2, e1, List.append_assoc],
    by rw [nAlloc_append]; omega, ?_⟩
  intro ad id hm
  rcases List.mem_append.1 hm with h | h
  · exact a1 ad id h
  · exact a2 ad id h

theorem store (c : Ctx) (i : SlabID) : Plain c (c.emit (.store i)) :=
  ⟨rfl, [.store i], rfl, by simp [nAlloc, isAlloc, Ctx.emit], by simp⟩

theorem remove (c : Ctx) (i : SlabID) : Plain c (c.emit (.remove i)) :=
  ⟨rfl, [.remove i], rfl, by simp [nAlloc, isAlloc, Ctx.emit], by simp⟩

theorem alloc (c : Ctx) (a : Nat) : Plain c (c.alloc a).2 := by
  refine ⟨rfl, [.alloc a ⟨a, c.ctr + 1⟩], rfl, rfl, ?_⟩
  intro ad id h
  simp only [List.mem_singleton, Eff.alloc.injEq] at h
  obtain ⟨rfl, rfl⟩ := h
  rfl

theorem store3 (c : Ctx) (i1 i2 i3 : SlabID) :
    Plain c (((c.emit (.store i1)).emit (.store i2)).emit (.store i3)) :=
  ((store c i1).trans (store _ i2)).trans (store _ i3)

end Plain

end Atree.E2EM

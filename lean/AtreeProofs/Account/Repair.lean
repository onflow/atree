import AtreeProofs.Account.Plain
/-
  The local repairs of an index slab (`splitChildSlab`, `rebalanceChildren`, `mergeChildren`, the
  plain store of the parent) as the storage sees them, for any container.  Of a subtree only its
  contribution to the stored slabs matters: its own entry and the slabs below it (`Forest`).
  `Forest.Repair` lists what one repair does to the list of children, to the log and to the
  allocation counter; a container shows once, by inversion of its model function, which `Repair` a
  successful step is, and every fact about the step that needs no invariant is read off the
  relation: the effect-log account (Account/Forest.lean), and here the holder fact `Repair.held`
  (a slab holding a value has been stored).
-/
namespace Atree

/-- the log after three storage calls in a row (every repair but the plain store makes three) -/
theorem emit_log3 (c : Ctx) (e1 e2 e3 : Eff) : (((c.emit e1).emit e2).emit e3).eff = c.eff ++ [e1, e2, e3] := by
  simp [Ctx.emit]

/-- the stored slabs of a subtree: its own entry and the slabs below it -/
structure Forest (α β : Type) where
  ent : α → SlabID × β
  sub : α → List (SlabID × β)

namespace Forest
variable {α β : Type}

def slabs (F : Forest α β) (t : α) : List (SlabID × β) := F.ent t :: F.sub t

/-- some slab of `S` holds `v` locally (`vals`), and its identifier is in `st` -/
def Held (vals : β → List Elem) (S : List (SlabID × β)) (v : Elem) (st : SlabID → Prop) : Prop :=
  ∃ p ∈ S, v ∈ vals p.2 ∧ st p.1

variable {vals : β → List Elem} {S S' : List (SlabID × β)} {v : Elem} {st st' : SlabID → Prop}

theorem Held.mono (h : Held vals S v st) (hS : ∀ p ∈ S, p ∈ S') (hst : ∀ id, st id → st' id) :
    Held vals S' v st' := by
  obtain ⟨p, hp, hv, hs⟩ := h
  exact ⟨p, hS p hp, hv, hst _ hs⟩

/-- the values held locally by the roots of `X` -/
def rootVals (F : Forest α β) (vals : β → List Elem) (X : List α) : List Elem :=
  X.flatMap fun x => vals (F.ent x).2

/-- as far as a holder is concerned `X'` may stand for `X`: what lies below the roots stays, a
    value of a root of `X` is a value of a root of `X'` -/
structure Moves (F : Forest α β) (vals : β → List Elem) (X X' : List α) : Prop where
  sub : X'.flatMap F.sub = X.flatMap F.sub
  vals : ∀ e ∈ F.rootVals vals X, e ∈ F.rootVals vals X'

variable {F : Forest α β}

/-- the siblings `X` are replaced by `X'`, all of whose roots are in `st'`: a holder is found again -/
theorem Held.window {P Q X X' : List α} (hM : Moves F vals X X') (hX : ∀ x' ∈ X', st' (F.ent x').1)
    (hst : ∀ id, st id → st' id) (h : Held vals ((P ++ (X ++ Q)).flatMap F.slabs) v st) :
    Held vals ((P ++ (X' ++ Q)).flatMap F.slabs) v st' := by
  obtain ⟨p, hp, hv, hs⟩ := h
  have mid : ∀ {q x'}, x' ∈ X' → q ∈ F.slabs x' → q ∈ (P ++ (X' ++ Q)).flatMap F.slabs := fun hx' hq =>
    List.mem_flatMap.2 ⟨_, List.mem_append_right _ (List.mem_append_left _ hx'), hq⟩
  obtain ⟨x, hx, hpx⟩ := List.mem_flatMap.1 hp
  rcases List.mem_append.1 hx with hx | hx
  · exact ⟨p, List.mem_flatMap.2 ⟨x, List.mem_append_left _ hx, hpx⟩, hv, hst _ hs⟩
  rcases List.mem_append.1 hx with hx | hx
  · rcases List.mem_cons.1 hpx with rfl | hsub
    · -- the holder is a root of `X`: its value is found in a root of `X'`
      obtain ⟨x', hx', hv'⟩ := List.mem_flatMap.1 (hM.vals v (List.mem_flatMap.2 ⟨x, hx, hv⟩))
      exact ⟨F.ent x', mid hx' List.mem_cons_self, hv', hX x' hx'⟩
    · have : p ∈ X'.flatMap F.sub := hM.sub ▸ List.mem_flatMap.2 ⟨x, hx, hsub⟩
      obtain ⟨x', hx', hp'⟩ := List.mem_flatMap.1 this
      exact ⟨p, mid hx' (List.mem_cons_of_mem _ hp'), hv, hst _ hs⟩
  · exact ⟨p, List.mem_flatMap.2 ⟨x, List.mem_append_right _ (List.mem_append_right _ hx), hpx⟩, hv, hst _ hs⟩

/-- What one repair below the slab `rid` does: the children `cs` become `cs'`, the log grows by `E`,
    the allocation counter goes from `c` to `c'` (`a` is the owner's address; `⟨a, c + 1⟩` in `split`
    is the identifier `Ctx.alloc a` hands out at the counter `c`).  `V X X'` is what else the
    container knows about the replaced siblings (`Moves` for the holder facts). -/
inductive Repair (F : Forest α β) (V : List α → List α → Prop) (a c : Nat) (rid : SlabID) :
    List α → List α → List Eff → Nat → Prop
  | plain (cs : List α) : Repair F V a c rid cs cs [.store rid] c
  | split {A B : List α} {t l r : α} (hsub : F.sub l ++ F.sub r = F.sub t) (hl : (F.ent l).1 = (F.ent t).1)
      (hr : (F.ent r).1 = ⟨a, c + 1⟩) (hV : V [t] [l, r]) :
      Repair F V a c rid (A ++ t :: B) (A ++ l :: r :: B)
        [.alloc a ⟨a, c + 1⟩, .store (F.ent l).1, .store (F.ent r).1, .store rid] (c + 1)
  | rebal {P Q : List α} {l r l' r' : α} (hsub : F.sub l' ++ F.sub r' = F.sub l ++ F.sub r)
      (hl : (F.ent l').1 = (F.ent l).1) (hr : (F.ent r').1 = (F.ent r).1) (hV : V [l, r] [l', r']) :
      Repair F V a c rid (P ++ l :: r :: Q) (P ++ l' :: r' :: Q)
        [.store (F.ent l).1, .store (F.ent r).1, .store rid] c
  | merge {P Q : List α} {l r x : α} (hsub : F.sub x = F.sub l ++ F.sub r) (hx : (F.ent x).1 = (F.ent l).1)
      (hV : V [l, r] [x]) :
      Repair F V a c rid (P ++ l :: r :: Q) (P ++ x :: Q)
        ([.store (F.ent l).1, .store rid] ++ [.remove (F.ent r).1]) c

variable {V : List α → List α → Prop} {a c c' : Nat} {rid : SlabID} {cs cs' : List α} {E : List Eff}

theorem Repair.mono {V' : List α → List α → Prop} (hV : ∀ X X', V X X' → V' X X')
    (h : Repair F V a c rid cs cs' E c') : Repair F V' a c rid cs cs' E c' := by
  cases h with
  | plain => exact .plain _
  | split h1 h2 h3 h4 => exact .split h1 h2 h3 (hV _ _ h4)
  | rebal h1 h2 h3 h4 => exact .rebal h1 h2 h3 (hV _ _ h4)
  | merge h1 h2 h4 => exact .merge h1 h2 (hV _ _ h4)

/-- the holder follows the repair; whatever the repair wrote has been stored -/
theorem Repair.held (h : Repair F (Moves F vals) a c rid cs cs' E c')
    (hh : Held vals (cs.flatMap F.slabs) v st) :
    Held vals (cs'.flatMap F.slabs) v (fun id => st id ∨ Eff.store id ∈ E) := by
  cases h with
  | plain => exact hh.mono (fun _ h => h) (fun _ => Or.inl)
  | @split A B t l r _ _ _ hV =>
    refine Held.window (P := A) (X := [t]) (X' := [l, r]) (Q := B) hV ?_ (fun _ => Or.inl) hh
    intro x' hx'
    simp only [List.mem_cons, List.not_mem_nil, or_false] at hx'
    rcases hx' with rfl | rfl <;> exact Or.inr (by simp)
  | @rebal P Q l r l' r' _ hl hr hV =>
    refine Held.window (P := P) (X := [l, r]) (X' := [l', r']) (Q := Q) hV ?_ (fun _ => Or.inl) hh
    intro x' hx'
    simp only [List.mem_cons, List.not_mem_nil, or_false] at hx'
    rcases hx' with rfl | rfl <;> exact Or.inr (by simp [hl, hr])
  | @merge P Q l r x _ hx hV =>
    refine Held.window (P := P) (X := [l, r]) (X' := [x]) (Q := Q) hV ?_ (fun _ => Or.inl) hh
    intro x' hx'
    rw [List.mem_singleton.1 hx']
    exact Or.inr (by simp [hx])

/-- the context after a repair: nothing created, one allocation for a split -/
theorem Repair.ctx_plain {n : Nat} {k k2 : Ctx} (h : Repair F V a k.ctr rid cs cs' E n) (hn : k2.ctr = n)
    (he : k2.eff = k.eff ++ E) (hc : k2.created = k.created) : E2EM.Plain k k2 := by
  have of : ∀ j, E2EM.nAlloc E = j → k2.ctr = k.ctr + j →
      (∀ ad id, Eff.alloc ad id ∈ E → id.addr = ad) → E2EM.Plain k k2 :=
    fun j hj hk ha => ⟨hc, E, he, hj ▸ hk, ha⟩
  cases h with
  | plain => exact of 0 rfl hn (by simp)
  | split => exact of 1 rfl hn (by simp)
  | rebal => exact of 0 rfl hn (by simp)
  | merge => exact of 0 rfl hn (by simp)

end Forest
end Atree

import AtreeProofs.ArrayInv
import AtreeModel.Map.Elems
import AtreeProofs.Core.Cut
import AtreeProofs.Core.ThrBand
/-
  Arithmetic layer.  The thresholds of a legal `T` as linear facts: `arrBand` (each against `T`: the
  `ThrBand` of `Core/ThrBand.lean` with prefix 21), `thr_rel` (against each other); size arguments
  take one of these and `omega`.
  The loops of `ArrayDataSlab.Split`, `LendToRight`, `BorrowFromRight`, `CanLendToLeft/Right` are
  those of `hkeyElements` on the element sizes with `minSize := minThr T` (`DataSlab.*Loop_eq`), so
  the slab lemmas call `HkeyElems.splitLoop_cut` / `lendLoop_cut` / `borrowLoop_cut` of
  `Map/Loops.lean`; `sizes_cut` reads such a cut of the sizes as one of the elements.
  All numeric facts go through the named constants of `Gen/Consts.lean`.
-/
namespace Atree
open Gen

/-- Unfold thresholds and the generated constants to numerals (then `omega`). -/
macro "unfold_thr" loc:(Lean.Parser.Tactic.location)? : tactic =>
  `(tactic| (
    (try simp only [legalThreshold, Bool.and_eq_true, decide_eq_true_eq] $[$loc]?);
    (try simp only [minThr, maxThr, maxInlineArr, slabIDStorableSize,
      Gen.arrayDataSlabPrefixSize, Gen.arrayRootDataSlabPrefixSize,
      Gen.inlinedArrayDataSlabPrefixSize, Gen.arrayMetaDataSlabPrefixSize,
      Gen.arraySlabHeaderSize, Gen.minSlabSize, Gen.maxSlabSize, Gen.minElementCountInSlab,
      Gen.SlabIDLength, Gen.maxArrayElementCount] $[$loc]?)))

/-- The numeric facts about a legal threshold that all size arguments use. -/
structure ThrFacts (T : Nat) : Prop where
  pfx : arrayDataSlabPrefixSize = 21
  rpfx : arrayRootDataSlabPrefixSize = 5
  mpfx : arrayMetaDataSlabPrefixSize = 12
  hsz : arraySlabHeaderSize = 14
  lo : 256 ≤ T
  hi : T ≤ 32768
  minE : minThr T = T / 2
  maxE : maxThr T = 3 * T / 2
  inlE : maxInlineArr T = (T - 21) / 2

theorem thrFacts {T : Nat} (hT : legalThreshold T = true) : ThrFacts T := by
  unfold_thr at hT
  constructor <;> first | rfl | omega

theorem sumSizes_nil : sumSizes [] = 0 := rfl
theorem sumSizes_cons (e : Elem) (es : List Elem) : sumSizes (e :: es) = e.size + sumSizes es := by
  simp [sumSizes]
theorem sumSizes_append (a b : List Elem) : sumSizes (a ++ b) = sumSizes a + sumSizes b := by
  simp [sumSizes]
theorem sumSizes_reverse (a : List Elem) : sumSizes a.reverse = sumSizes a := by
  induction a with
  | nil => rfl
  | cons e es ih => simp [sumSizes_append, sumSizes_cons, ih, sumSizes_nil]; omega
theorem sumSizes_take_add_drop (k : Nat) (a : List Elem) :
    sumSizes (a.take k) + sumSizes (a.drop k) = sumSizes a := by
  rw [← sumSizes_append, List.take_append_drop]

theorem sumSizes_le_of_forall {M : Nat} (es : List Elem) (h : ∀ e ∈ es, e.size ≤ M) :
    sumSizes es ≤ M * es.length := by
  induction es with
  | nil => simp [sumSizes_nil]
  | cons e es ih =>
    have h1 := h e (by simp)
    have h2 := ih (fun x hx => h x (by simp [hx]))
    simp only [sumSizes_cons, List.length_cons]
    rw [Nat.mul_add]; omega

theorem length_le_sumSizes (es : List Elem) (h : ∀ e ∈ es, 1 ≤ e.size) :
    es.length ≤ sumSizes es := by
  induction es with
  | nil => simp
  | cons e es ih =>
    have h1 := h e (by simp)
    have h2 := ih (fun x hx => h x (by simp [hx]))
    simp only [sumSizes_cons, List.length_cons]; omega

theorem two_max_elems_fit (T : Nat) (hT : legalThreshold T = true) :
    arrayDataSlabPrefixSize + 2 * maxInlineArr T ≤ T := by
  unfold_thr at hT; unfold_thr; omega

theorem slabIDStorable_le (T : Nat) (hT : legalThreshold T = true) :
    slabIDStorableSize ≤ maxInlineArr T := by
  unfold_thr at hT; unfold_thr; omega

/-- The thresholds of a legal `T` as linear facts (no division), for `omega`. -/
theorem arrBand {T : Nat} (hT : legalThreshold T = true) :
    ThrBand 21 T (minThr T) (maxThr T) (maxInlineArr T) := by
  obtain ⟨_, _, _, _, f5, f6, f7, f8, f9⟩ := thrFacts hT
  have h : 2 * minThr T ≤ T ∧ T ≤ 2 * minThr T + 1 ∧ 2 * maxThr T ≤ 3 * T ∧ 3 * T ≤ 2 * maxThr T + 1 ∧
      2 * maxInlineArr T + 21 ≤ T ∧ T ≤ 2 * maxInlineArr T + 21 + 1 := by omega
  exact ⟨f5, h.1, h.2.1, h.2.2.1, h.2.2.2.1, h.2.2.2.2.1, h.2.2.2.2.2⟩

/-- The thresholds against each other, without `T`. -/
theorem thr_rel {T : Nat} (hT : legalThreshold T = true) :
    3 * minThr T ≤ maxThr T ∧ maxThr T ≤ 3 * minThr T + 1 ∧
    maxInlineArr T + 10 ≤ minThr T ∧ minThr T ≤ maxInlineArr T + 11 ∧ 128 ≤ minThr T := by
  obtain ⟨b0, b1, b2, b3, b4, b5, b6⟩ := arrBand hT
  omega

/-- A child header (14 bytes) is smaller than a maximal element. -/
theorem hdr_le_inline {T : Nat} (hT : legalThreshold T = true) : 14 ≤ maxInlineArr T := by
  have := (thr_rel hT).2.2.2
  omega

theorem sizes_cut {es : List Elem} {n x y : Nat} (c : Cut (es.map Elem.size) n x y) :
    n ≤ es.length ∧ sumSizes (es.take n) = x ∧ sumSizes (es.drop n) = y ∧ x + y = sumSizes es := by
  refine ⟨by simpa using c.le, ?_, ?_, c.sum⟩
  · rw [← c.left, ← List.map_take]; rfl
  · rw [← c.right, ← List.map_drop]; rfl

namespace DataSlab

theorem splitLoop_eq (mid data : Nat) (es : List Elem) (i ls : Nat) :
    splitLoop mid data es i ls = HkeyElems.splitLoop mid data (es.map Elem.size) i ls := by
  induction es generalizing i ls with
  | nil => rfl
  | cons e es ih => unfold splitLoop; rw [ih]; rfl

theorem canLendLoop_eq (T hsize want : Nat) (es : List Elem) (lend : Nat) :
    canLendLoop T hsize want es lend
      = HkeyElems.canLendLoop (minThr T) hsize want (es.map Elem.size) lend := by
  induction es generalizing lend with
  | nil => rfl
  | cons e es ih => simp only [canLendLoop, HkeyElems.canLendLoop, List.map_cons, ih]

theorem lendLoop_eq (T size mid : Nat) (es : List Elem) (lc ls : Nat) :
    lendLoop T size mid es lc ls = HkeyElems.lendLoop (minThr T) size mid (es.map Elem.size) lc ls := by
  induction es generalizing lc ls with
  | nil => rfl
  | cons e es ih => unfold lendLoop; rw [ih]; rfl

theorem borrowLoop_eq (T size mid : Nat) (es : List Elem) (lc ls : Nat) :
    borrowLoop T size mid es lc ls
      = HkeyElems.borrowLoop (minThr T) size mid (es.map Elem.size) lc ls := by
  induction es generalizing lc ls with
  | nil => rfl
  | cons e es ih => unfold borrowLoop; rw [ih]; rfl

end DataSlab

theorem sizes_le {M : Nat} {es : List Elem} (h : ∀ e ∈ es, e.size ≤ M) :
    ∀ x ∈ es.map Elem.size, x ≤ M := by
  intro x hx
  obtain ⟨e, he, rfl⟩ := List.mem_map.mp hx
  exact h e he

end Atree

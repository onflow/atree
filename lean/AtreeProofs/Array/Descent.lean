import AtreeProofs.Array.RepairPlan
import AtreeProofs.ExceptLemmas
/-
  The recursive operations of the array tree along one execution path, by inversion and without
  any invariant: the leaf (`DataSlab.*_inPlace`: rewritten in place, then stored), one level of `Set` /
  `Insert` / `Remove` as an equation (`*_succ_eq`), hence what a successful run at an index slab
  consists of (`*_succ_inv`), the repair step of the parent as its
  three outcomes (`RepairStep`), and induction along the path of a successful operation
  (`set_induction`, `insert_induction`, `remove_induction`: the leaf reached, then every index
  slab on the way back).

  `wbM1 f`: the parent with the child written back (`setM1`, `insM1`, `remM1` are its cases).

  `ATree.View`: a list-valued view of a tree that `split`, `merge` and the two rebalancing moves only
  re-partition (`View.split / merge / lend / borrow`, with the identifiers and the context after `split`).

  `ATree 0` and `DataSlab` (resp. `ATree (d+1)` and `MetaSlab (ATree d)`) are definitionally equal
  but not syntactically; `ofData` / `ofMeta` make the change of type explicit so that rewriting
  works on type-correct terms.
-/
namespace Atree
open Gen ATree MetaSlab

/-- a data slab seen as a tree of depth 0 -/
def ofData (s : DataSlab) : ATree 0 := s
/-- an index slab seen as a tree of depth `d+1` -/
def ofMeta {d : Nat} (m : MetaSlab (ATree d)) : ATree (d + 1) := m

@[elab_as_elim]
theorem forall_ofData {P : ATree 0 → Prop} (h : ∀ s, P (ofData s)) (t : ATree 0) : P t := h t
@[elab_as_elim]
theorem forall_ofMeta {d : Nat} {P : ATree (d + 1) → Prop} (h : ∀ m, P (ofMeta m))
    (t : ATree (d + 1)) : P t := h t

@[simp] theorem hdr_zero (s : DataSlab) : hdr 0 (ofData s) = s.hdr := rfl
@[simp] theorem hdr_succ (d : Nat) (m : MetaSlab (ATree d)) : hdr (d + 1) (ofMeta m) = m.hdr := rfl

/-- A list-valued view of a tree that the restructurings (`split`, `merge`, the two rebalancing moves)
    only re-partition: a leaf shows `f` of its elements (`f` additive), an index slab the views `W`
    of its children.  `flatten`, the slabs below the root, the elements of the root slab are such
    views. -/
structure ATree.View (β : Type) where
  V : (d : Nat) → ATree d → List β
  f : List Elem → List β
  W : (d : Nat) → ATree d → List β
  zero : ∀ s : DataSlab, V 0 (ofData s) = f s.elems
  add : ∀ a b, f (a ++ b) = f a ++ f b
  succ : ∀ (d : Nat) (m : MetaSlab (ATree d)), V (d + 1) (ofMeta m) = m.children.flatMap (W d)

namespace ATree.View
variable {β : Type} (w : ATree.View β)

/-- what a successful `split` is, as far as a view, the identifiers and the context go: the halves
    show what the whole showed, the left keeps the identifier, the right gets the next one of the
    owner, the context has allocated exactly that -/
theorem split : ∀ (d : Nat) (t : ATree d) (c : Ctx) (l r : ATree d) (c' : Ctx),
    ATree.split d t c = .ok (l, r, c') →
    w.V d l ++ w.V d r = w.V d t ∧ (hdr d l).id = (hdr d t).id ∧
    (hdr d r).id = ⟨(hdr d t).id.addr, c.ctr + 1⟩ ∧ c' = (c.alloc (hdr d t).id.addr).2
  | 0, t, c, l, r, c' => by
    refine forall_ofData ?_ t; intro s h
    have h : DataSlab.split s c = .ok (l, r, c') := h
    unfold DataSlab.split at h
    split at h
    · cases h
    · simp only [Except.ok.injEq] at h
      obtain ⟨rfl, rfl, rfl⟩ := h
      refine ⟨?_, rfl, rfl, rfl⟩
      exact ((congr (congrArg HAppend.hAppend (w.zero _)) (w.zero _)).trans (w.add _ _).symm).trans
        ((congrArg w.f (List.take_append_drop _ _)).trans (w.zero s).symm)
  | d + 1, t, c, l, r, c' => by
    refine forall_ofMeta ?_ t; intro m h
    have h : MetaSlab.split m c = .ok (l, r, c') := h
    unfold MetaSlab.split at h
    split at h
    · cases h
    · simp only [Except.ok.injEq] at h
      obtain ⟨rfl, rfl, rfl⟩ := h
      refine ⟨?_, rfl, rfl, rfl⟩
      exact ((congr (congrArg HAppend.hAppend (w.succ d _)) (w.succ d _)).trans
        List.flatMap_append.symm).trans
        ((congrArg (List.flatMap (w.W d)) (List.take_append_drop _ _)).trans (w.succ d m).symm)

theorem merge : ∀ (d : Nat) (l r : ATree d),
    w.V d (ATree.merge d l r) = w.V d l ++ w.V d r ∧ (hdr d (ATree.merge d l r)).id = (hdr d l).id
  | 0, l, r => by
    refine forall_ofData ?_ l; intro l
    refine forall_ofData ?_ r; intro r
    exact ⟨by rw [w.zero l, w.zero r, ← w.add]; exact w.zero _, rfl⟩
  | d + 1, l, r => by
    refine forall_ofMeta ?_ l; intro l
    refine forall_ofMeta ?_ r; intro r
    exact ⟨by rw [w.succ d l, w.succ d r, ← List.flatMap_append]; exact w.succ d _, rfl⟩

theorem lend (T : Nat) : ∀ (d : Nat) (l r : ATree d),
    w.V d (ATree.lendToRight T d l r).1 ++ w.V d (ATree.lendToRight T d l r).2 = w.V d l ++ w.V d r ∧
    (hdr d (ATree.lendToRight T d l r).1).id = (hdr d l).id ∧
    (hdr d (ATree.lendToRight T d l r).2).id = (hdr d r).id
  | 0, l, r => by
    refine forall_ofData ?_ l; intro l
    refine forall_ofData ?_ r; intro r
    refine ⟨?_, rfl, rfl⟩
    show w.V 0 (ofData (DataSlab.lendToRight T l r).1) ++ w.V 0 (ofData (DataSlab.lendToRight T l r).2) = _
    rw [w.zero, w.zero, w.zero l, w.zero r, ← w.add, ← w.add]
    simp only [DataSlab.lendToRight]
    rw [← List.append_assoc, List.take_append_drop]
  | d + 1, l, r => by
    refine forall_ofMeta ?_ l; intro l
    refine forall_ofMeta ?_ r; intro r
    refine ⟨?_, rfl, rfl⟩
    show w.V (d + 1) (ofMeta (MetaSlab.lendToRight l r).1) ++ w.V (d + 1) (ofMeta (MetaSlab.lendToRight l r).2) = _
    rw [w.succ, w.succ, w.succ d l, w.succ d r, ← List.flatMap_append, ← List.flatMap_append]
    simp only [MetaSlab.lendToRight]
    rw [← List.append_assoc, List.take_append_drop]

theorem borrow (T : Nat) : ∀ (d : Nat) (l r : ATree d),
    w.V d (ATree.borrowFromRight T d l r).1 ++ w.V d (ATree.borrowFromRight T d l r).2
      = w.V d l ++ w.V d r ∧
    (hdr d (ATree.borrowFromRight T d l r).1).id = (hdr d l).id ∧
    (hdr d (ATree.borrowFromRight T d l r).2).id = (hdr d r).id
  | 0, l, r => by
    refine forall_ofData ?_ l; intro l
    refine forall_ofData ?_ r; intro r
    refine ⟨?_, rfl, rfl⟩
    show w.V 0 (ofData (DataSlab.borrowFromRight T l r).1) ++ w.V 0 (ofData (DataSlab.borrowFromRight T l r).2) = _
    rw [w.zero, w.zero, w.zero l, w.zero r, ← w.add, ← w.add]
    simp only [DataSlab.borrowFromRight]
    rw [List.append_assoc, List.take_append_drop]
  | d + 1, l, r => by
    refine forall_ofMeta ?_ l; intro l
    refine forall_ofMeta ?_ r; intro r
    refine ⟨?_, rfl, rfl⟩
    show w.V (d + 1) (ofMeta (MetaSlab.borrowFromRight l r).1) ++ w.V (d + 1) (ofMeta (MetaSlab.borrowFromRight l r).2) = _
    rw [w.succ, w.succ, w.succ d l, w.succ d r, ← List.flatMap_append, ← List.flatMap_append]
    simp only [MetaSlab.borrowFromRight]
    rw [List.append_assoc, List.take_append_drop]

end ATree.View

variable {T d : Nat}

/-- The parent with the child written back ("wb"), the first of the two steps of a level (`m1` in the
    lemmas below; the repair makes `m2` of it): child `k` replaced by `child'`, the element count
    and the cumulative counts from `k` on moved by `f`.  `insM1` is `wbM1 (· + 1)`, `remM1` is
    `wbM1 (· - 1)` written out, `setM1` is `wbM1 id` (`setM1_eq`). -/
def wbM1 (f : Nat → Nat) (m : MetaSlab (ATree d)) (k : Nat) (child' : ATree d) : MetaSlab (ATree d) :=
  { m with hdr := { m.hdr with count := f m.hdr.count }, countSum := bumpFrom k f m.countSum,
           childHdrs := m.childHdrs.set k (hdr d child'), children := m.children.set k child' }

/-- the parent right after `Set` wrote the updated child back -/
def setM1 (m : MetaSlab (ATree d)) (k : Nat) (child' : ATree d) : MetaSlab (ATree d) :=
  { m with childHdrs := m.childHdrs.set k (hdr d child'), children := m.children.set k child' }
/-- the parent right after `Insert` wrote the updated child back -/
def insM1 (m : MetaSlab (ATree d)) (k : Nat) (child' : ATree d) : MetaSlab (ATree d) :=
  wbM1 (· + 1) m k child'
/-- the parent right after `Remove` wrote the updated child back -/
def remM1 (m : MetaSlab (ATree d)) (k : Nat) (child' : ATree d) : MetaSlab (ATree d) :=
  { m with hdr := { m.hdr with count := m.hdr.count - 1 },
           countSum := bumpFrom k (· - 1) m.countSum,
           childHdrs := m.childHdrs.set k (hdr d child'),
           children := m.children.set k child' }

theorem setM1_eq (m : MetaSlab (ATree d)) (k : Nat) (c' : ATree d) : setM1 m k c' = wbM1 id m k c' := by
  have : bumpFrom k id m.countSum = m.countSum := List.ext_getElem? fun i => by simp [bumpFrom]
  unfold setM1 wbM1; rw [this]; rfl

@[simp] theorem setM1_children (m : MetaSlab (ATree d)) (k : Nat) (c' : ATree d) :
    (setM1 m k c').children = m.children.set k c' := rfl
@[simp] theorem setM1_hdr (m : MetaSlab (ATree d)) (k : Nat) (c' : ATree d) :
    (setM1 m k c').hdr = m.hdr := rfl
@[simp] theorem setM1_root (m : MetaSlab (ATree d)) (k : Nat) (c' : ATree d) :
    (setM1 m k c').root = m.root := rfl
@[simp] theorem remM1_children (m : MetaSlab (ATree d)) (k : Nat) (c' : ATree d) :
    (remM1 m k c').children = m.children.set k c' := rfl
@[simp] theorem remM1_root (m : MetaSlab (ATree d)) (k : Nat) (c' : ATree d) :
    (remM1 m k c').root = m.root := rfl

/-- A successful `Insert` / `Set` / `Remove` on a data slab rewrites the slab in place (same
    identifier, same `inlined` flag) and then stores it unless it is inlined; for `Insert` and `Set`
    the context it stores in is the one after `Value.Storable`. -/
theorem DataSlab.insert_inPlace {T : Nat} {s s' : DataSlab} {i : Nat} {v : Elem} {c c' : Ctx}
    (h : s.insert T i v c = .ok (s', c')) :
    s'.hdr.id = s.hdr.id ∧ s'.inlined = s.inlined ∧
      c' = s'.storeIfNotInlined (toStorable T s.hdr.id.addr v c).2 := by
  unfold DataSlab.insert at h
  split at h
  · cases h
  · cases h; exact ⟨rfl, rfl, rfl⟩

theorem DataSlab.set_inPlace {T : Nat} {s s' : DataSlab} {i : Nat} {v old : Elem} {c c' : Ctx}
    (h : s.set T i v c = .ok (old, s', c')) :
    s'.hdr.id = s.hdr.id ∧ s'.inlined = s.inlined ∧
      c' = s'.storeIfNotInlined (toStorable T s.hdr.id.addr v c).2 := by
  unfold DataSlab.set at h
  split at h
  · cases h
  · cases h; exact ⟨rfl, rfl, rfl⟩

theorem DataSlab.remove_inPlace {s s' : DataSlab} {i : Nat} {old : Elem} {c c' : Ctx}
    (h : s.remove i c = .ok (old, s', c')) :
    s'.hdr.id = s.hdr.id ∧ s'.inlined = s.inlined ∧ c' = s'.storeIfNotInlined c := by
  unfold DataSlab.remove at h
  split at h
  · cases h
  · cases h; exact ⟨rfl, rfl, rfl⟩

/-- a successful `splitChildSlab` is a successful `split` of the child, the halves written back
    in its place and the three slabs stored -/
theorem splitChildSlab_inv {m m' : MetaSlab (ATree d)} {child : ATree d} {k : Nat} {c c' : Ctx}
    (h : m.splitChildSlab child k c = .ok (m', c')) :
    ∃ l r cs, ATree.split d child c = .ok (l, r, cs) ∧
      m'.children = (m.children.set k l).insertIdx (k + 1) r ∧
      m'.hdr = { m.hdr with size := m.hdr.size + arraySlabHeaderSize } ∧ m'.root = m.root ∧
      c' = ((cs.emit (.store (hdr d l).id)).emit (.store (hdr d r).id)).emit (.store m.hdr.id) := by
  unfold splitChildSlab at h
  revert h
  cases hsp : ATree.split d child c with
  | error err => intro h; cases h
  | ok p =>
    obtain ⟨l, r, cs⟩ := p
    intro h
    cases h
    exact ⟨l, r, cs, rfl, rfl, rfl, rfl, rfl⟩

/-- The repair step of the parent `m1` after its child at `k` became `child'`: the child is split,
    merged or rebalanced with a sibling, or the parent is only stored.  (`afterSet` runs one of the
    three by the size of the child; `Insert` never merges, `Remove` never splits.) -/
def RepairStep (T : Nat) (m1 : MetaSlab (ATree d)) (child' : ATree d) (k : Nat) (c : Ctx)
    (m2 : MetaSlab (ATree d)) (c2 : Ctx) : Prop :=
  m1.splitChildSlab child' k c = .ok (m2, c2) ∨
  (∃ u, m1.mergeOrRebalanceChildSlab T child' k u c = .ok (m2, c2)) ∨
  (m2 = m1 ∧ c2 = c.emit (.store m1.hdr.id))

theorem afterSet_inv (m1 m2 : MetaSlab (ATree d)) (child' : ATree d) (k : Nat) (c c2 : Ctx)
    (h : afterSet T m1 child' k c = .ok (m2, c2)) :
    RepairStep T m1 child' k c m2 c2 := by
  unfold afterSet at h
  split at h
  · exact Or.inl h
  · split at h
    · exact Or.inr (Or.inl ⟨_, h⟩)
    · cases h; exact Or.inr (Or.inr ⟨rfl, rfl⟩)

/-- one level of `Set`: route, descend, write the child back (`setM1`), repair -/
theorem set_succ_eq (m : MetaSlab (ATree d)) (i : Nat) (e : Elem) (c : Ctx) :
    ATree.set T (d + 1) (ofMeta m) i e c = (do
      let (k, adj) ← m.childSlabIndexInfo i
      match m.children[k]? with
      | none => .error .slabNotFound
      | some child =>
        let (old, child', c1) ← ATree.set T d child adj e c
        let (m2, c2) ← afterSet T (setM1 m k child') child' k c1
        return (old, ofMeta m2, c2)) := by
  unfold ofMeta setM1; rw [ATree.set]; rfl

/-- one level of `Insert`: route (append to the last child when `i = count`), descend, write the
    child back (`insM1`), split it if over-full -/
theorem insert_succ_eq (m : MetaSlab (ATree d)) (i : Nat) (e : Elem) (c : Ctx) :
    ATree.insert T (d + 1) (ofMeta m) i e c =
      if i > m.hdr.count then .error .indexOutOfBounds
      else do
        let (k, adj) ←
          if i = m.hdr.count then
            match m.childHdrs.getLast? with
            | some h => pure (m.childHdrs.length - 1, h.count)
            | none => .error .goPanic
          else m.childSlabIndexInfo i
        match m.children[k]? with
        | none => .error .slabNotFound
        | some child =>
          let (child', c1) ← ATree.insert T d child adj e c
          if ATree.isFull T d child' then
            ((insM1 m k child').splitChildSlab child' k c1 : Except AErr (ATree (d + 1) × Ctx))
          else return (ofMeta (insM1 m k child'), c1.emit (.store m.hdr.id)) := by
  unfold ofMeta insM1 wbM1; rw [ATree.insert]; rfl

/-- one level of `Remove`: route, descend, write the child back (`remM1`), repair an under-full child,
    store the parent -/
theorem remove_succ_eq (m : MetaSlab (ATree d)) (i : Nat) (c : Ctx) :
    ATree.remove T (d + 1) (ofMeta m) i c =
      if i ≥ m.hdr.count then .error .indexOutOfBounds
      else do
        let (k, adj) ← m.childSlabIndexInfo i
        match m.children[k]? with
        | none => .error .slabNotFound
        | some child =>
          let (v, child', c1) ← ATree.remove T d child adj c
          let (m2, c2) ←
            match ATree.isUnderflow T d child' with
            | some u => (remM1 m k child').mergeOrRebalanceChildSlab T child' k u c1
            | none => pure (remM1 m k child', c1)
          return (v, ofMeta m2, c2.emit (.store m2.hdr.id)) := by
  unfold ofMeta remM1; rw [ATree.remove]; rfl

/-! One level of a successful run, by inversion: the child found, the step on it, the parent with
    the child written back and its `RepairStep` (`Remove` stores the parent once more unless the
    repair was the plain store). -/

theorem set_succ_inv (m : MetaSlab (ATree d)) (i : Nat) (v : Elem) (c : Ctx) (old : Elem)
    (t' : ATree (d + 1)) (c' : Ctx)
    (hr : ATree.set T (d + 1) (ofMeta m) i v c = .ok (old, t', c')) :
    ∃ k adj child child' c1 m2, m.children[k]? = some child ∧
      ATree.set T d child adj v c = .ok (old, child', c1) ∧
      RepairStep T (setM1 m k child') child' k c1 m2 c' ∧ t' = ofMeta m2 := by
  rw [set_succ_eq] at hr
  obtain ⟨⟨k, adj⟩, -, hr⟩ := bind_eq_ok hr
  simp only at hr
  split at hr
  · cases hr
  · rename_i child hchild
    obtain ⟨⟨old', child', c1⟩, hset, hr⟩ := bind_eq_ok hr
    obtain ⟨⟨m2, c2⟩, haft, hr⟩ := bind_eq_ok hr
    cases hr
    exact ⟨k, adj, child, child', c1, m2, hchild, hset, afterSet_inv _ _ _ _ _ _ haft, rfl⟩

theorem insert_succ_inv (m : MetaSlab (ATree d)) (i : Nat) (v : Elem) (c : Ctx) (t' : ATree (d + 1)) (c' : Ctx)
    (hr : ATree.insert T (d + 1) (ofMeta m) i v c = .ok (t', c')) :
    ∃ k adj child child' c1 m2, m.children[k]? = some child ∧
      ATree.insert T d child adj v c = .ok (child', c1) ∧
      RepairStep T (insM1 m k child') child' k c1 m2 c' ∧ t' = ofMeta m2 := by
  rw [insert_succ_eq] at hr
  split at hr
  · cases hr
  · extract_lets jp at hr
    have key : ∀ p : Nat × Nat, jp p = .ok (t', c') →
        ∃ k adj child child' c1 m2, m.children[k]? = some child ∧
      ATree.insert T d child adj v c = .ok (child', c1) ∧
      RepairStep T (insM1 m k child') child' k c1 m2 c' ∧ t' = ofMeta m2 := by
      rintro ⟨k, adj⟩ hr
      simp only [jp] at hr
      split at hr
      · cases hr
      · rename_i child hchild
        obtain ⟨⟨child', c1⟩, hins, hr⟩ := bind_eq_ok hr
        simp only at hr
        refine ⟨k, adj, child, child', c1, ?_⟩
        by_cases hf : ATree.isFull T d child' = true
        · simp only [hf] at hr
          exact ⟨_, hchild, hins, Or.inl hr, rfl⟩
        · simp only [hf] at hr
          cases hr
          exact ⟨_, hchild, hins, Or.inr (Or.inr ⟨rfl, rfl⟩), rfl⟩
    clear_value jp
    split at hr
    · split at hr
      · obtain ⟨p, _, hr⟩ := bind_eq_ok hr
        exact key p hr
      · cases hr
    · obtain ⟨p, _, hr⟩ := bind_eq_ok hr
      exact key p hr

theorem remove_succ_inv (m : MetaSlab (ATree d)) (i : Nat) (c : Ctx) (old : Elem)
    (t' : ATree (d + 1)) (c' : Ctx)
    (hr : ATree.remove T (d + 1) (ofMeta m) i c = .ok (old, t', c')) :
    ∃ k adj child child' c1 m2 c2, m.children[k]? = some child ∧
      ATree.remove T d child adj c = .ok (old, child', c1) ∧
      RepairStep T (remM1 m k child') child' k c1 m2 c2 ∧
      (c' = c2 ∨ c' = c2.emit (.store m2.hdr.id)) ∧ t' = ofMeta m2 := by
  rw [remove_succ_eq] at hr
  split at hr
  · cases hr
  · obtain ⟨⟨k, adj⟩, -, hr⟩ := bind_eq_ok hr
    simp only at hr
    split at hr
    · cases hr
    · rename_i child hchild
      obtain ⟨⟨old', child', c1⟩, hrem, hr⟩ := bind_eq_ok hr
      simp only at hr
      split at hr
      · obtain ⟨⟨m2, c2⟩, htail, hr⟩ := bind_eq_ok hr
        cases hr
        exact ⟨k, adj, child, child', c1, m2, c2, hchild, hrem, Or.inr (Or.inl ⟨_, htail⟩), Or.inr rfl, rfl⟩
      · cases hr
        exact ⟨k, adj, child, child', c1, _, _, hchild, hrem, Or.inr (Or.inr ⟨rfl, rfl⟩), Or.inl rfl, rfl⟩

/-- induction along the path of a successful `set`: `leaf` for the data slab reached, `node` for
    every index slab on the way back (the child was set, then the parent repaired) -/
theorem set_induction {v old : Elem} {P : (d : Nat) → ATree d → Ctx → ATree d → Ctx → Prop}
    (leaf : ∀ (s s' : DataSlab) (i : Nat) (c c' : Ctx), s.set T i v c = .ok (old, s', c') →
      P 0 (ofData s) c (ofData s') c')
    (node : ∀ (d : Nat) (m m2 : MetaSlab (ATree d)) (k adj : Nat) (child child' : ATree d) (c c1 c' : Ctx),
      m.children[k]? = some child → ATree.set T d child adj v c = .ok (old, child', c1) →
      P d child c child' c1 → RepairStep T (setM1 m k child') child' k c1 m2 c' →
      P (d + 1) (ofMeta m) c (ofMeta m2) c') :
    ∀ (d : Nat) (t : ATree d) (i : Nat) (c : Ctx) (t' : ATree d) (c' : Ctx),
      ATree.set T d t i v c = .ok (old, t', c') → P d t c t' c'
  | 0, t, i, c, t', c', h => leaf t t' i c c' h
  | d + 1, t, i, c, t', c', h => by
    obtain ⟨k, adj, child, child', c1, m2, hchild, hset, hstep, rfl⟩ := set_succ_inv t i v c old t' c' h
    exact node d t _ k adj child child' c c1 c' hchild hset
      (set_induction leaf node d child adj c child' c1 hset) hstep

theorem insert_induction {v : Elem} {P : (d : Nat) → ATree d → Ctx → ATree d → Ctx → Prop}
    (leaf : ∀ (s s' : DataSlab) (i : Nat) (c c' : Ctx), s.insert T i v c = .ok (s', c') →
      P 0 (ofData s) c (ofData s') c')
    (node : ∀ (d : Nat) (m m2 : MetaSlab (ATree d)) (k adj : Nat) (child child' : ATree d) (c c1 c' : Ctx),
      m.children[k]? = some child → ATree.insert T d child adj v c = .ok (child', c1) →
      P d child c child' c1 → RepairStep T (insM1 m k child') child' k c1 m2 c' →
      P (d + 1) (ofMeta m) c (ofMeta m2) c') :
    ∀ (d : Nat) (t : ATree d) (i : Nat) (c : Ctx) (t' : ATree d) (c' : Ctx),
      ATree.insert T d t i v c = .ok (t', c') → P d t c t' c'
  | 0, t, i, c, t', c', h => leaf t t' i c c' h
  | d + 1, t, i, c, t', c', h => by
    obtain ⟨k, adj, child, child', c1, m2, hchild, hins, hstep, rfl⟩ := insert_succ_inv t i v c t' c' h
    exact node d t _ k adj child child' c c1 c' hchild hins
      (insert_induction leaf node d child adj c child' c1 hins) hstep

/-- … of a successful `remove`; after a merge or rebalance `Remove` stores the parent once more -/
theorem remove_induction {old : Elem} {P : (d : Nat) → ATree d → Ctx → ATree d → Ctx → Prop}
    (leaf : ∀ (s s' : DataSlab) (i : Nat) (c c' : Ctx), s.remove i c = .ok (old, s', c') →
      P 0 (ofData s) c (ofData s') c')
    (node : ∀ (d : Nat) (m m2 : MetaSlab (ATree d)) (k adj : Nat) (child child' : ATree d) (c c1 c2 c' : Ctx),
      m.children[k]? = some child → ATree.remove T d child adj c = .ok (old, child', c1) →
      P d child c child' c1 → RepairStep T (remM1 m k child') child' k c1 m2 c2 →
      (c' = c2 ∨ c' = c2.emit (.store m2.hdr.id)) → P (d + 1) (ofMeta m) c (ofMeta m2) c') :
    ∀ (d : Nat) (t : ATree d) (i : Nat) (c : Ctx) (t' : ATree d) (c' : Ctx),
      ATree.remove T d t i c = .ok (old, t', c') → P d t c t' c'
  | 0, t, i, c, t', c', h => leaf t t' i c c' h
  | d + 1, t, i, c, t', c', h => by
    obtain ⟨k, adj, child, child', c1, m2, c2, hchild, hrem, hstep, hc', rfl⟩ := remove_succ_inv t i c old t' c' h
    exact node d t _ k adj child child' c c1 c2 c' hchild hrem
      (remove_induction leaf node d child adj c child' c1 hrem) hstep hc'

end Atree

import AtreeProofs.Array.Top
import AtreeProofs.Array.Repair
import AtreeProofs.Account.Forest
/-
  Effect-log accounting for arrays (C09):
  * `Acct c S S' E cr`: the log `E` is a complete account of the change from the set of slabs `S`
    to the set of slabs `S'` (both as association lists, only membership matters); it is `Account`
    at the content relation `Entry` (`Acct.iff_account`), and its algebra (`congr`, `trans`, …) is
    the general one,
  * the slabs of a tree as root entry + slabs of the strict descendants (`ent`, `sub`,
    Array/Repair.lean): the trees of one depth form a `Forest` (`aforest`), and an account proved
    there for `MAcct` gives the array account by `MAcct.toAcct`,
  * the identifiers of a tree as its root's and those below (`subIds`, `slabIds_eq`, the view
    `subIdsView`), what distinctness says of a parent, its children and two siblings, and the keys
    of `ATree.slabs` (`keys_slabs`).
-/
namespace Atree
open Gen ATree MetaSlab

/-- `E` accounts for the change from the slabs `S` to the slabs `S'`; `c` is the allocation
    counter before, `cr` the large-value slabs created meanwhile. -/
structure Acct (c : Nat) (S S' : List (SlabID × ASlab)) (E : List Eff) (cr : List SlabID) : Prop where
  kept : ∀ p ∈ S', p ∈ S ∨ lastAction E p.1 = some true
  gone : ∀ id ∈ AList.keys S, id ∉ AList.keys S' → lastAction E id = some false
  stored : ∀ id, lastAction E id = some true → id ∈ AList.keys S' ∨ id ∈ cr
  removed : ∀ id, lastAction E id = some false → id ∉ AList.keys S'
  foot : ∀ id, lastAction E id ≠ none → id ∈ AList.keys S ∨ c < id.idx
  fresh : ∀ id ∈ cr, c < id.idx

namespace Acct

theorem iff_account {c : Nat} {S S' : List (SlabID × ASlab)} {E : List Eff} {cr : List SlabID} :
    Acct c S S' E cr ↔
      Account (c < ·.idx) (Entry S) (Entry S') (· ∈ AList.keys S) (· ∈ AList.keys S') E cr :=
  ⟨fun h => .of_list h.kept h.gone h.stored h.removed h.foot h.fresh (Account.tnew_list h.kept h.foot),
    fun h => ⟨h.kept_list, h.gone_list, h.stored_list, h.removed_list, h.foot, h.fresh⟩⟩

theorem refl (c : Nat) (S : List (SlabID × ASlab)) : Acct c S S [] [] :=
  iff_account.2 (.refl _ _ _)

theorem congr {c : Nat} {S S' W W' : List (SlabID × ASlab)} {E : List Eff} {cr : List SlabID}
    (h : Acct c S S' E cr) (hS : ∀ p, p ∈ W ↔ p ∈ S) (hS' : ∀ p, p ∈ W' ↔ p ∈ S') :
    Acct c W W' E cr :=
  iff_account.2 ((iff_account.1 h).congr (fun id s => hS (id, s)) (fun id s => hS' (id, s))
    (mem_keys_congr hS) (mem_keys_congr hS'))

theorem trans {c c1 : Nat} {S S1 S2 : List (SlabID × ASlab)} {E1 E2 : List Eff} {cr1 cr2 : List SlabID}
    (h1 : Acct c S S1 E1 cr1) (h2 : Acct c1 S1 S2 E2 cr2) (hc : c ≤ c1)
    (hS : ∀ id ∈ AList.keys S, id.idx ≤ c) : Acct c S S2 (E1 ++ E2) (cr1 ++ cr2) :=
  iff_account.2 ((iff_account.1 h1).trans (iff_account.1 h2) (fun _ h => h)
    (fun _ h => Nat.lt_of_le_of_lt hc h)
    (fun id hid hf => Nat.not_lt.2 (Nat.le_trans (hS id ((exists_entry S id).1 hid)) hc) hf))

theorem keys_new {c : Nat} {S S' : List (SlabID × ASlab)} {E : List Eff} {cr : List SlabID}
    (h : Acct c S S' E cr) : ∀ id ∈ AList.keys S', id ∈ AList.keys S ∨ c < id.idx :=
  Account.tnew_list h.kept h.foot

end Acct

/-- an account that tracks owner and multiplicities is in particular an array account -/
theorem MAcct.toAcct {a c c' : Nat} {S S' : List (SlabID × ASlab)} {E : List Eff} {cr : List SlabID}
    (h : MAcct a c c' S S' E cr) : Acct c S S' E cr :=
  ⟨h.kept, h.gone, h.stored, h.removed, fun i hne => (h.foot i hne).imp_right (·.2.1),
    fun i hi => (h.fresh i hi).2.1⟩

/-- IDs of the strict descendants -/
def subIds : (d : Nat) → ATree d → List SlabID
  | 0, _ => []
  | d + 1, (m : MetaSlab (ATree d)) => m.children.flatMap (slabIds d)

@[simp] theorem subIds_zero (t : ATree 0) : subIds 0 t = [] := rfl
@[simp] theorem subIds_succ (d : Nat) (m : MetaSlab (ATree d)) :
    subIds (d + 1) (ofMeta m) = m.children.flatMap (slabIds d) := rfl

theorem slabIds_eq : ∀ (d : Nat) (t : ATree d), slabIds d t = (hdr d t).id :: subIds d t
  | 0, t => by refine forall_ofData ?_ t; intro s; rfl
  | d + 1, t => by refine forall_ofMeta ?_ t; intro m; rfl

/-- the identifiers below the root slab, as a view of subtrees (`slabIds_eq`: the root's own comes first) -/
def subIdsView : ATree.View SlabID :=
  { V := subIds, f := fun _ => [], W := slabIds, zero := fun _ => rfl, add := fun _ _ => rfl, succ := fun _ _ => rfl }

theorem perm_roots_subs {d : Nat} (X : List (ATree d)) :
    (X.flatMap (slabIds d)).Perm (X.map (fun t => (hdr d t).id) ++ X.flatMap (subIds d)) := by
  induction X with
  | nil => simp
  | cons x X ih =>
    simp only [List.flatMap_cons, List.map_cons, slabIds_eq d x, List.cons_append]
    refine List.Perm.cons _ ?_
    have h1 : (subIds d x ++ List.flatMap (slabIds d) X).Perm
        (subIds d x ++ (X.map (fun t => (hdr d t).id) ++ X.flatMap (subIds d))) :=
      List.Perm.append_left _ ih
    refine h1.trans ?_
    rw [← List.append_assoc, ← List.append_assoc]
    exact List.Perm.append_right _ List.perm_append_comm

theorem mem_flatMap_slabIds {d : Nat} (L : List (ATree d)) (id : SlabID) :
    id ∈ L.flatMap (slabIds d) ↔ id ∈ L.map (fun x => (hdr d x).id) ∨ id ∈ L.flatMap (subIds d) := by
  simp only [List.mem_flatMap, List.mem_map, slabIds_eq, List.mem_cons]
  constructor
  · rintro ⟨x, hx, h | h⟩
    · exact Or.inl ⟨x, hx, h.symm⟩
    · exact Or.inr ⟨x, hx, h⟩
  · rintro (⟨x, hx, h⟩ | ⟨x, hx, h⟩)
    · exact ⟨x, hx, Or.inl h.symm⟩
    · exact ⟨x, hx, Or.inr h⟩

/-- among distinct identifiers no root of a group of subtrees lies below one of them -/
theorem nodup_roots_subs {d : Nat} : ∀ (L : List (ATree d)), (L.flatMap (slabIds d)).Nodup →
    ∀ id, id ∈ L.map (fun x => (hdr d x).id) → id ∉ L.flatMap (subIds d)
  | [], _, _, h, _ => by simp at h
  | x :: L, hn, id, hr, hs => by
    rw [List.flatMap_cons] at hn
    obtain ⟨n1, n2, n3⟩ := List.nodup_append.1 hn
    rw [slabIds_eq] at n1
    have hx : ∀ id, id = (hdr d x).id ∨ id ∈ subIds d x → id ∈ slabIds d x := fun id h => by
      rw [slabIds_eq]; exact List.mem_cons.2 h
    rw [List.map_cons, List.mem_cons] at hr
    rw [List.flatMap_cons, List.mem_append] at hs
    rcases hr with rfl | hr <;> rcases hs with hs | hs
    · exact (List.nodup_cons.1 n1).1 hs
    · exact n3 _ (hx _ (Or.inl rfl)) _ ((mem_flatMap_slabIds L _).2 (Or.inr hs)) rfl
    · exact n3 _ (hx _ (Or.inr hs)) _ ((mem_flatMap_slabIds L _).2 (Or.inl hr)) rfl
    · exact nodup_roots_subs L n2 id hr hs

/-- what `Nodup` of the identifiers says about the parent and a child -/
theorem hdr_id_ne_parent {d : Nat} {m1 : MetaSlab (ATree d)} {c : ATree d} (hc : c ∈ m1.children)
    (hnd : (slabIds (d + 1) (ofMeta m1)).Nodup) : (hdr d c).id ≠ m1.hdr.id := by
  rw [slabIds_succ] at hnd
  intro e
  refine (List.nodup_cons.1 hnd).1 (List.mem_flatMap.2 ⟨c, hc, ?_⟩)
  rw [← e, slabIds_eq]; exact List.mem_cons_self

/-- what `Nodup` of the identifiers says about the parent and two adjacent children -/
theorem pair_ids_ne {d : Nat} {m1 : MetaSlab (ATree d)} {P Q : List (ATree d)} {l r : ATree d}
    (hch : m1.children = P ++ l :: r :: Q) (hnd : (slabIds (d + 1) (ofMeta m1)).Nodup) :
    (hdr d l).id ≠ m1.hdr.id ∧ (hdr d r).id ≠ m1.hdr.id ∧ (hdr d l).id ≠ (hdr d r).id := by
  rw [slabIds_succ, hch] at hnd
  simp only [List.flatMap_append, List.flatMap_cons] at hnd
  obtain ⟨nr, hnd⟩ := List.nodup_cons.1 hnd
  obtain ⟨_, hnd, _⟩ := List.nodup_append.1 hnd
  obtain ⟨_, _, dlr⟩ := List.nodup_append.1 hnd
  have hl : (hdr d l).id ∈ slabIds d l := by rw [slabIds_eq]; exact List.mem_cons_self
  have hr : (hdr d r).id ∈ slabIds d r := by rw [slabIds_eq]; exact List.mem_cons_self
  refine ⟨fun e => nr (e ▸ ?_), fun e => nr (e ▸ ?_), fun e => dlr _ hl _ (List.mem_append_left _ hr) e⟩
  · exact List.mem_append_right _ (List.mem_append_left _ hl)
  · exact List.mem_append_right _ (List.mem_append_right _ (List.mem_append_left _ hr))

theorem keys_slabs : ∀ (d : Nat) (t : ATree d), AList.keys (ATree.slabs d t) = slabIds d t
  | 0, t => by refine forall_ofData ?_ t; intro s; rfl
  | d + 1, t => by
    refine forall_ofMeta ?_ t; intro m
    show m.hdr.id :: AList.keys (m.children.flatMap (ATree.slabs d)) = _
    rw [keys_flatMap _ (slabIds d) _ (fun x _ => keys_slabs d x)]
    rfl

theorem keys_sub : ∀ (d : Nat) (t : ATree d), AList.keys (sub d t) = subIds d t
  | 0, _ => rfl
  | d + 1, t => by
    refine forall_ofMeta ?_ t; intro m
    exact keys_flatMap _ (slabIds d) _ (fun x _ => keys_slabs d x)

/-- the identifiers of the tree an account ends in are those it started from or allocated after `c` -/
theorem MAcct.ids_new {a c c' d d' : Nat} {t : ATree d} {t' : ATree d'} {E : List Eff} {cr : List SlabID}
    (h : MAcct a c c' (ATree.slabs d t) (ATree.slabs d' t') E cr) :
    ∀ id ∈ slabIds d' t', id ∈ slabIds d t ∨ c < id.idx := by
  intro id hid
  rw [← keys_slabs] at hid ⊢
  exact (h.keys_new id hid).imp_right (·.2.1)

end Atree

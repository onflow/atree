import AtreeProofs.Array.EffectsTree
import AtreeProofs.Array.Iter
/-
  Effect-log accounting, top layer: `Arr.splitRoot`, `Arr.promoteIfSingleChild`, the array
  operations `Arr.insert / set / remove` (`arr_*_macct`: owner account of the operation proper,
  from the context after `Value.Storable`; `arr_*_acctR`, `arr_*_acct`: the array account of the
  whole step; each is the tree account followed by that of the root step, `RootFix.after_macct`),
  the log of `PopIterate` (read off `popIterate_after`, Array/Iter.lean), and the passage from an
  account of the slab lists (`Acct`) to `EffectsComplete`.
-/
namespace Atree
open Gen ATree MetaSlab
variable {T : Nat}

/-- a group of subtrees shows, below their roots, what the group it replaces showed -/
theorem ATree.SameViews.sub {d : Nat} {X X' : List (ATree d)} (h : ATree.SameViews d X X') :
    X'.flatMap (sub d) = X.flatMap (sub d) := h subView

theorem splitRoot_macct {a : Nat} (d : Nat) (t : ATree d) (ty : Nat) (c : Ctx) (a2 : Arr) (c2 : Ctx)
    (haddr : (hdr d t).id.addr = a) (hnd : (AList.keys (ATree.slabs d t)).Nodup)
    (hold : ∀ id ∈ AList.keys (ATree.slabs d t), Old a c.ctr id)
    (h : Arr.splitRoot ⟨d, t, ty⟩ c = .ok (a2, c2)) :
    ∃ E, PLog a c c2 E ∧ MAcct a c.ctr c2.ctr (ATree.slabs d t) (ATree.slabs a2.d a2.root) E [] := by
  subst haddr
  obtain ⟨l, r, rfl, hv, hl, hr, rfl⟩ := Arr.splitRoot_inv h
  refine ⟨_, (PLog.alloc _ c).trans ((PLog.alloc _ _).trans (PLog.store3 _ _ _ _ _)), ?_⟩
  show MAcct _ c.ctr (c.ctr + 1 + 1) (ATree.slabs d t) (ATree.slabs (d + 1) (ofMeta (mkRoot (hdr d t).id l r))) _ []
  rw [slabs_eq (d + 1), hdr_succ, sub_succ, ← aforest_slabs]
  rw [← aforest_slabs] at hnd hold
  exact Forest.rootSplit_macct (F := aforest d) _ (by simpa [aforest] using hv.sub) hl hr hnd hold

theorem promote_macct {a : Nat} (d : Nat) (t : ATree d) (ty : Nat) (c : Ctx) (hs : Shape T d true t)
    (hnd : (AList.keys (ATree.slabs d t)).Nodup) (hold : ∀ id ∈ AList.keys (ATree.slabs d t), Old a c.ctr id) :
    ∃ E, PLog a c (Arr.promoteIfSingleChild ⟨d, t, ty⟩ c).2 E ∧
      MAcct a c.ctr (Arr.promoteIfSingleChild ⟨d, t, ty⟩ c).2.ctr (ATree.slabs d t)
        (ATree.slabs (Arr.promoteIfSingleChild ⟨d, t, ty⟩ c).1.d (Arr.promoteIfSingleChild ⟨d, t, ty⟩ c).1.root)
        E [] := by
  rcases Arr.promote_cases ⟨d, t, ty⟩ c with h | ⟨d', m, h, child, t', ha, hh, hc, he, hid, hv⟩
  · rw [h]; exact ⟨[], PLog.refl a c, MAcct.refl _ _ _⟩
  · cases ha
    obtain rfl : h = hdr d' child := by
      have := ((shape_succ T d' true m).1 hs).hdrs_eq
      rw [hh, hc] at this
      exact List.head_eq_of_cons_eq this
    rw [he]
    refine ⟨[.store m.hdr.id] ++ [.remove (hdr d' child).id], (PLog.store a c _).trans (PLog.remove a _ _), ?_⟩
    show MAcct a c.ctr c.ctr _ (ATree.slabs d' t') _ []
    rw [slabs_eq (d' + 1), hdr_succ, sub_succ, hc, ← aforest_slabs] at hnd hold ⊢
    exact (Forest.rootPromote_macct (F := aforest d') (by simpa [aforest] using hv.sub) hid hnd hold).1

theorem slabAt_isSome (a : Arr) (id : SlabID) :
    (a.slabAt id).isSome ↔ id ∈ slabIds a.d a.root := by
  unfold Arr.slabAt
  rw [Option.isSome_map, ← keys_slabs, ← AList.find?_ne_none_iff]
  cases AList.find? (ATree.slabs a.d a.root) id <;> simp

theorem slabAt_isNone (a : Arr) (id : SlabID) :
    (a.slabAt id).isNone ↔ id ∉ slabIds a.d a.root := by
  rw [← slabAt_isSome]
  cases a.slabAt id <;> simp

theorem effectsComplete_of_acct {a a' : Arr} {c : Nat} {E : List Eff} {cr : List SlabID}
    (h : Acct c (ATree.slabs a.d a.root) (ATree.slabs a'.d a'.root) E cr)
    (hnd : (slabIds a.d a.root).Nodup) (hid : a'.rootID = a.rootID) (hty : a'.ty = a.ty) :
    EffectsComplete a a' E cr := by
  obtain ⟨p1, p2, p3, p4⟩ := (Acct.iff_account.1 h).complete
    (K := AList.find? (ATree.slabs a.d a.root)) (K' := AList.find? (ATree.slabs a'.d a'.root))
    (fun id s => (AList.mem_iff_find? _ (by rw [keys_slabs]; exact hnd) id s).symm) (fun _ _ => mem_of_find?)
    (fun id hs => Option.isSome_iff_ne_none.2 ((AList.find?_ne_none_iff _ id).2 ((exists_entry _ id).1 hs)))
  refine ⟨fun id hs hne => p1 id (by rwa [Arr.slabAt, Option.isSome_map] at hs) (fun he => hne ?_),
    fun id h1 h2 => p2 id ?_ ?_, fun id hl => (p3 id hl).imp_left fun hs => ?_, fun id hl => ?_⟩
  · unfold Arr.slabAt
    rw [he, hid, hty]
  · rwa [Arr.slabAt, Option.isSome_map] at h1
  · rwa [Arr.slabAt, Option.isNone_map] at h2
  · rwa [Arr.slabAt, Option.isSome_map]
  · rw [Arr.slabAt, Option.isNone_map]; exact p4 id hl

/-- the account of the root step, for a tree of distinct old identifiers of the owner -/
theorem RootFix.macct {a d ty : Nat} {t : ATree d} {c c' : Ctx} {a' : Arr}
    (h : RootFix ⟨d, t, ty⟩ c a' c') (hs : Shape T d true t) (haddr : (hdr d t).id.addr = a)
    (hnd : (AList.keys (ATree.slabs d t)).Nodup) (hold : ∀ id ∈ AList.keys (ATree.slabs d t), Old a c.ctr id) :
    ∃ E, PLog a c c' E ∧ MAcct a c.ctr c'.ctr (ATree.slabs d t) (ATree.slabs a'.d a'.root) E [] := by
  cases h with
  | keep => exact ⟨[], PLog.refl a c, MAcct.refl _ _ _⟩
  | split h => exact splitRoot_macct d t ty c a' c' haddr hnd hold h
  | promote => exact promote_macct d t ty c hs hnd hold

/-- the account of the tree operation on the root (a `StepOk` step from distinct old identifiers),
    then that of the root step -/
theorem RootFix.after_macct {d ty c : Nat} {t t' : ATree d} {c0 c1 c' : Ctx} {a' : Arr} {E1 : List Eff}
    (hlog1 : PLog (hdr d t).id.addr c0 c1 E1)
    (hacct1 : MAcct (hdr d t).id.addr c0.ctr c1.ctr (ATree.slabs d t) (ATree.slabs d t') E1 [])
    (hids : IdsOk (hdr d t).id.addr c (slabIds d t)) (hle : c ≤ c0.ctr)
    (hstep : StepOk T d true t t' c c1.ctr) (hf : RootFix ⟨d, t', ty⟩ c1 a' c') :
    ∃ E, PLog (hdr d t).id.addr c0 c' E ∧
      MAcct (hdr d t).id.addr c0.ctr c'.ctr (ATree.slabs d t) (ATree.slabs a'.d a'.root) E [] := by
  obtain ⟨hnd, hold⟩ := hids.keys_old hle
  obtain ⟨E2, hlog2, hacct2⟩ := hf.macct hstep.shape (by rw [hstep.id_eq]) (hacct1.nodup hnd) (hacct1.old hold)
  exact ⟨E1 ++ E2, hlog1.trans hlog2, by simpa using hacct1.trans hacct2 hold⟩

theorem arr_insert_macct (hT : legalThreshold T = true) (a : Arr) (c : Ctx) (i : Nat) (v : Elem)
    (hv : StorOk T v) (h : ArrInv T a c.ctr) (a' : Arr) (c' : Ctx)
    (hr : a.insert T i v c = .ok (a', c')) :
    ∃ E, PLog a.addr (toStorable T a.addr v c).2 c' E ∧
      MAcct a.addr (toStorable T a.addr v c).2.ctr c'.ctr (ATree.slabs a.d a.root) (ATree.slabs a'.d a'.root) E [] := by
  obtain ⟨t', c1, hins, hf⟩ := Arr.insert_inv hr
  obtain ⟨d, t, ty⟩ := a
  obtain ⟨E1, hlog1, hacct1⟩ := insert_macct d t true i c t' c1 h.tree h.notInl h.ids hins
  exact hf.after_macct hlog1 hacct1 h.ids (toStorable_valStep T _ v c).ctr_le
    (insert_stepOk hT h.tree h.notInl hv hins).2

theorem arr_set_macct (hT : legalThreshold T = true) (a : Arr) (c : Ctx) (i : Nat) (v : Elem)
    (hv : StorOk T v) (h : ArrInv T a c.ctr) (old : Elem) (a' : Arr) (c' : Ctx)
    (hr : a.set T i v c = .ok (old, a', c')) :
    ∃ E, PLog a.addr (toStorable T a.addr v c).2 c' E ∧
      MAcct a.addr (toStorable T a.addr v c).2.ctr c'.ctr (ATree.slabs a.d a.root) (ATree.slabs a'.d a'.root) E [] := by
  obtain ⟨t', c1, hset, hf⟩ := Arr.set_inv hr
  obtain ⟨d, t, ty⟩ := a
  obtain ⟨E1, hlog1, hacct1⟩ := set_macct d t true i c t' c1 h.tree h.notInl h.ids hset
  exact hf.after_macct hlog1 hacct1 h.ids (toStorable_valStep T _ v c).ctr_le
    (set_stepOk hT h.tree h.notInl hv hset).2

theorem arr_remove_macct (hT : legalThreshold T = true) (a : Arr) (c : Ctx) (i : Nat)
    (h : ArrInv T a c.ctr) (old : Elem) (a' : Arr) (c' : Ctx)
    (hr : a.remove T i c = .ok (old, a', c')) :
    ∃ E, PLog a.addr c c' E ∧
      MAcct a.addr c.ctr c'.ctr (ATree.slabs a.d a.root) (ATree.slabs a'.d a'.root) E [] := by
  obtain ⟨t', c1, hrem, hf⟩ := Arr.remove_inv hr
  obtain ⟨d, t, ty⟩ := a
  obtain ⟨E1, hlog1, hacct1⟩ := remove_macct d t true i c t' c1 h.tree h.notInl h.ids hrem
  exact hf.after_macct hlog1 hacct1 h.ids (Nat.le_refl _) (remove_stepOk hT h.tree h.notInl hrem).2

theorem arr_insert_acctR (hT : legalThreshold T = true) (a : Arr) (c : Ctx) (i : Nat) (v : Elem)
    (hv : StorOk T v) (h : ArrInv T a c.ctr) (a' : Arr) (c' : Ctx)
    (hr : a.insert T i v c = .ok (a', c')) :
    ∃ E C, Log c c' E C ∧
      Acct c.ctr (ATree.slabs a.d a.root) (ATree.slabs a'.d a'.root) E (C.map (·.1)) := by
  obtain ⟨E, hlog, hacct⟩ := arr_insert_macct hT a c i v hv h a' c' hr
  exact acct_of_valStep (toStorable_valStep T a.addr v c) hlog hacct (h.ids.keys_old (Nat.le_refl _)).2

theorem arr_insert_acct (hT : legalThreshold T = true) (a : Arr) (c : Ctx) (i : Nat) (v : Elem)
    (hv : ValueOk v) (h : ArrInv T a c.ctr) (a' : Arr) (c' : Ctx)
    (hr : a.insert T i v c = .ok (a', c')) :
    ∃ E C, Log c c' E C ∧
      Acct c.ctr (ATree.slabs a.d a.root) (ATree.slabs a'.d a'.root) E (C.map (·.1)) :=
  arr_insert_acctR hT a c i v (.of_valueOk hv) h a' c' hr

theorem arr_set_acctR (hT : legalThreshold T = true) (a : Arr) (c : Ctx) (i : Nat) (v : Elem)
    (hv : StorOk T v) (h : ArrInv T a c.ctr) (old : Elem) (a' : Arr) (c' : Ctx)
    (hr : a.set T i v c = .ok (old, a', c')) :
    ∃ E C, Log c c' E C ∧
      Acct c.ctr (ATree.slabs a.d a.root) (ATree.slabs a'.d a'.root) E (C.map (·.1)) := by
  obtain ⟨E, hlog, hacct⟩ := arr_set_macct hT a c i v hv h old a' c' hr
  exact acct_of_valStep (toStorable_valStep T a.addr v c) hlog hacct (h.ids.keys_old (Nat.le_refl _)).2

theorem arr_set_acct (hT : legalThreshold T = true) (a : Arr) (c : Ctx) (i : Nat) (v : Elem)
    (hv : ValueOk v) (h : ArrInv T a c.ctr) (old : Elem) (a' : Arr) (c' : Ctx)
    (hr : a.set T i v c = .ok (old, a', c')) :
    ∃ E C, Log c c' E C ∧
      Acct c.ctr (ATree.slabs a.d a.root) (ATree.slabs a'.d a'.root) E (C.map (·.1)) :=
  arr_set_acctR hT a c i v (.of_valueOk hv) h old a' c' hr

theorem arr_remove_acct (hT : legalThreshold T = true) (a : Arr) (c : Ctx) (i : Nat)
    (h : ArrInv T a c.ctr) (old : Elem) (a' : Arr) (c' : Ctx)
    (hr : a.remove T i c = .ok (old, a', c')) :
    ∃ E C, Log c c' E C ∧
      Acct c.ctr (ATree.slabs a.d a.root) (ATree.slabs a'.d a'.root) E (C.map (·.1)) := by
  obtain ⟨E, hlog, hacct⟩ := arr_remove_macct hT a c i h old a' c' hr
  exact ⟨E, [], hlog.toLog, hacct.toAcct⟩

theorem popIterate_log (d : Nat) (t : ATree d) (c : Ctx) :
    ∃ E, (ATree.popIterate d t c).2.2.eff = c.eff ++ E ∧
      (∀ e ∈ E, ∃ id ∈ subIds d t, e = Eff.remove id) ∧ (∀ id ∈ subIds d t, Eff.remove id ∈ E) :=
  let ⟨E, h1, h2, h3⟩ := popIterate_after d t c
  ⟨E, by rw [h1], h2, h3⟩

theorem arr_popIterate_eff (a : Arr) (c : Ctx) (hst : a.isInlined = false) :
    ∃ E, (a.popIterate c).2.2.eff = c.eff ++ (E ++ [.store a.rootID]) ∧
      (∀ e ∈ E, ∃ id ∈ subIds a.d a.root, e = Eff.remove id) ∧
      (∀ id ∈ subIds a.d a.root, Eff.remove id ∈ E) := by
  obtain ⟨E, h1, h2, h3⟩ := popIterate_log a.d a.root c
  refine ⟨E, ?_, h2, h3⟩
  show (if a.isInlined = true then (ATree.popIterate a.d a.root c).2.2
        else (ATree.popIterate a.d a.root c).2.2.emit _).eff = _
  rw [hst]
  simp [Ctx.emit, h1]

/-- the account of a bulk pop, for the removals `E` its log consists of: every slab but the root is
    removed, the root is stored -/
theorem arr_pop_complete (a : Arr) (c : Ctx) (hst : a.isInlined = false) {E : List Eff}
    (heff : (a.popIterate c).2.2.eff = c.eff ++ (E ++ [.store a.rootID])) :
    EffectsComplete a (a.popIterate c).2.1 (E ++ [.store a.rootID]) [] ∧
    ∀ id ∈ slabIds a.d a.root, id ≠ a.rootID → lastAction (E ++ [.store a.rootID]) id = some false := by
  obtain ⟨E', heff', hE1, hE2⟩ := arr_popIterate_eff a c hst
  obtain rfl : E = E' := by
    rw [heff] at heff'
    exact List.append_cancel_right (List.append_cancel_left heff')
  have hids' : slabIds (a.popIterate c).2.1.d (a.popIterate c).2.1.root = [a.rootID] := rfl
  obtain ⟨⟨p1, p2, p3, p4⟩, hg⟩ := pop_complete (K := a.slabAt) (K' := (a.popIterate c).2.1.slabAt)
    (fun e he => (hE1 e he).imp fun _ h => h.2)
    (fun id => by rw [slabAt_isSome, hids', List.mem_singleton])
    (fun id hid hne => hE2 id (by
      rw [slabAt_isSome, slabIds_eq] at hid
      exact (List.mem_cons.1 hid).resolve_left hne))
  exact ⟨⟨p1, p2, p3, p4⟩, fun id hid hne => hg id ((slabAt_isSome a id).2 hid) hne⟩

end Atree

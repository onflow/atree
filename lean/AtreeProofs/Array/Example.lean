import AtreeProofs.Array.TreeDefs
/-
  A concrete multi-slab array (T = 256) obtained by running the model, and a direct proof that it
  satisfies `ArrInv`: the hypotheses of the property theorems are satisfiable by a tree with an
  index slab (non-vacuity).
-/
namespace Atree.Example
open Atree Gen ATree

def T0 : Nat := 256
def elem (n : Nat) : Elem := ⟨100, .val n⟩
def ctx0 : Ctx := ⟨0, [], []⟩

/-- NewArray, then four appends of 100-byte elements: the fourth makes the root data slab
    (5 + 400 > 384 bytes) split into two data slabs under a new root index slab. -/
def run4 : Except AErr (Arr × Nat) := do
  let (a, c) := Arr.new 1 0 ctx0
  let (a, c) ← a.insert T0 0 (elem 0) c
  let (a, c) ← a.insert T0 1 (elem 1) c
  let (a, c) ← a.insert T0 2 (elem 2) c
  let (a, c) ← a.insert T0 3 (elem 3) c
  return (a, c.ctr)

def left : DataSlab := ⟨⟨⟨1, 2⟩, 221, 2⟩, ⟨1, 3⟩, [elem 0, elem 1], false, false⟩
def right : DataSlab := ⟨⟨⟨1, 3⟩, 221, 2⟩, SlabID.undef, [elem 2, elem 3], false, false⟩
def rootSlab : MetaSlab (ATree 0) :=
  ⟨⟨⟨1, 1⟩, 40, 4⟩, [left.hdr, right.hdr], [2, 4], [ofData left, ofData right], true⟩
def arr4 : Arr := ⟨1, ofMeta rootSlab, 0⟩

/-- the model really produces this two-level tree -/
theorem run4_eq : run4 = .ok (arr4, 3) := by rfl

theorem legal : legalThreshold T0 = true := by decide

theorem elem_ok (n : Nat) : ElemOk T0 (elem n) := by
  show 1 ≤ 100 ∧ 100 ≤ maxInlineArr 256
  decide

theorem value_ok (n : Nat) : ValueOk (elem n) := ⟨by show 1 ≤ 100; decide, n, rfl⟩

theorem left_inv : DataInv T0 false left := by
  refine ⟨rfl, by decide, ?_, rfl, by decide, by decide, fun _ => by decide⟩
  intro e he
  simp only [left, List.mem_cons, List.not_mem_nil, or_false] at he
  rcases he with rfl | rfl <;> exact elem_ok _

theorem right_inv : DataInv T0 false right := by
  refine ⟨rfl, by decide, ?_, rfl, by decide, by decide, fun _ => by decide⟩
  intro e he
  simp only [right, List.mem_cons, List.not_mem_nil, or_false] at he
  rcases he with rfl | rfl <;> exact elem_ok _

/-- the invariant holds for the two-level tree, shown directly from the definitions -/
theorem arr4_inv : ArrInv T0 arr4 3 := by
  refine ⟨?_, ?_, ?_, rfl, by decide⟩
  · refine (treeInv_succ T0 0 true rootSlab).2 ⟨⟨rfl, rfl, by decide, by decide, by decide, ?_, ?_⟩,
      by decide, by simp, fun _ => by decide⟩
    · intro c hc
      simp only [rootSlab, List.mem_cons, List.not_mem_nil, or_false] at hc
      rcases hc with rfl | rfl
      · exact (treeInv_zero T0 false left).2 left_inv
      · exact (treeInv_zero T0 false right).2 right_inv
    · intro c hc
      simp only [rootSlab, List.mem_cons, List.not_mem_nil, or_false] at hc
      rcases hc with rfl | rfl <;> rfl
  · show LeafChain [left, right]
    exact ⟨rfl, rfl⟩
  · show IdsOk 1 3 [⟨1, 1⟩, ⟨1, 2⟩, ⟨1, 3⟩]
    exact ⟨by decide, by decide⟩

end Atree.Example

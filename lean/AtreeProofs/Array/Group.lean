import AtreeProofs.Array.TreeDefs
/-
  Replacing a group of sibling subtrees by another group (`Repl`): what it does to the leaf chain,
  to the slab IDs and to the owner address; and `ATree.isFull` / `isUnderflow` in terms of the
  header size.
-/
namespace Atree
open Gen ATree MetaSlab

/-- Replacing siblings `X` by `X'` while the allocation counter goes from `c` to `c'`. -/
structure Repl (d : Nat) (X X' : List (ATree d)) (c c' : Nat) : Prop where
  chain : ChainPres (X.flatMap (Arr.leaves d)) (X'.flatMap (Arr.leaves d))
  ids : ∀ addr, IdsOk addr c (X.flatMap (slabIds d)) →
    IdsOk addr c' (X'.flatMap (slabIds d)) ∧
      ∀ id ∈ X'.flatMap (slabIds d), id ∈ X.flatMap (slabIds d) ∨ c < id.idx
  addr : ∀ a, (∀ t ∈ X, (hdr d t).id.addr = a) → ∀ t ∈ X', (hdr d t).id.addr = a
  ctr : c ≤ c'

namespace Repl
variable {d : Nat}

theorem refl (X : List (ATree d)) (c : Nat) : Repl d X X c c :=
  ⟨ChainPres.refl _, fun _ h => ⟨h, fun _ hid => Or.inl hid⟩, fun _ h => h, Nat.le_refl _⟩

theorem trans {X X' X'' : List (ATree d)} {c c' c'' : Nat} (h1 : Repl d X X' c c')
    (h2 : Repl d X' X'' c' c'') : Repl d X X'' c c'' := by
  refine ⟨h1.chain.trans h2.chain, ?_, fun a h => h2.addr a (h1.addr a h), Nat.le_trans h1.ctr h2.ctr⟩
  intro addr h
  obtain ⟨a1, a2⟩ := h1.ids addr h
  obtain ⟨b1, b2⟩ := h2.ids addr a1
  refine ⟨b1, fun id hid => ?_⟩
  rcases b2 id hid with h3 | h3
  · rcases a2 id h3 with h4 | h4
    · exact Or.inl h4
    · exact Or.inr h4
  · exact Or.inr (Nat.lt_of_le_of_lt h1.ctr h3)

theorem mono_left {X X' : List (ATree d)} {c0 c c' : Nat} (h : Repl d X X' c c') (h0 : c0 ≤ c) :
    Repl d X X' c0 c' := by
  refine ⟨h.chain, ?_, h.addr, Nat.le_trans h0 h.ctr⟩
  intro addr hx
  obtain ⟨a1, a2⟩ := h.ids addr (hx.mono h0)
  refine ⟨a1, fun id hid => ?_⟩
  rcases a2 id hid with h3 | h3
  · exact Or.inl h3
  · exact Or.inr (Nat.lt_of_le_of_lt h0 h3)

theorem ctx {X X' : List (ATree d)} {c c' : Nat} (h : Repl d X X' c c') (A B : List (ATree d)) :
    Repl d (A ++ X ++ B) (A ++ X' ++ B) c c' := by
  refine ⟨?_, ?_, ?_, h.ctr⟩
  · simp only [List.flatMap_append]
    exact h.chain.ctx _ _
  · intro addr hx
    simp only [List.flatMap_append] at hx ⊢
    obtain ⟨a1, a2⟩ := h.ids addr hx.sub_append_left.sub_append_right
    refine ⟨hx.replace_mid a1 a2 h.ctr, ?_⟩
    intro id hid
    simp only [List.mem_append] at hid ⊢
    rcases hid with (hid | hid) | hid
    · exact Or.inl (Or.inl (Or.inl hid))
    · rcases a2 id hid with h3 | h3
      · exact Or.inl (Or.inl (Or.inr h3))
      · exact Or.inr h3
    · exact Or.inl (Or.inr hid)
  · intro a ha t ht
    simp only [List.mem_append] at ht ha
    rcases ht with (ht | ht) | ht
    · exact ha t (Or.inl (Or.inl ht))
    · exact h.addr a (fun t ht => ha t (Or.inl (Or.inr ht))) t ht
    · exact ha t (Or.inr ht)

/-- From the children of an index slab to the index slab itself (its own ID is kept). -/
theorem lift {m m' : MetaSlab (ATree d)} {c c' : Nat} (h : Repl d m.children m'.children c c')
    (hid : m'.hdr.id = m.hdr.id) : Repl (d + 1) [ofMeta m] [ofMeta m'] c c' := by
  refine ⟨?_, ?_, ?_, h.ctr⟩
  · simpa using h.chain
  · intro addr hx
    simp only [List.flatMap_cons, List.flatMap_nil, List.append_nil, slabIds_succ] at hx ⊢
    have hx' : IdsOk addr c ([m.hdr.id] ++ m.children.flatMap (slabIds d) ++ []) := by simpa using hx
    obtain ⟨a1, a2⟩ := h.ids addr hx'.sub_append_left.sub_append_right
    have := hx'.replace_mid a1 a2 h.ctr
    rw [hid]
    refine ⟨by simpa using this, ?_⟩
    intro id hmem
    simp only [List.mem_cons] at hmem ⊢
    rcases hmem with hmem | hmem
    · exact Or.inl (Or.inl hmem)
    · rcases a2 id hmem with h3 | h3
      · exact Or.inl (Or.inr h3)
      · exact Or.inr h3
  · intro a ha t ht
    simp only [List.mem_singleton] at ht
    rw [ht, hdr_succ, hid]
    exact ha (ofMeta m) (by simp)

/-- `X'` reuses IDs of `X` only (merge, rebalance). -/
theorem of_subset {X X' : List (ATree d)} (c : Nat)
    (hchain : ChainPres (X.flatMap (Arr.leaves d)) (X'.flatMap (Arr.leaves d)))
    (hnd : (X.flatMap (slabIds d)).Nodup → (X'.flatMap (slabIds d)).Nodup)
    (hsub : ∀ id ∈ X'.flatMap (slabIds d), id ∈ X.flatMap (slabIds d))
    (haddr : ∀ a, (∀ t ∈ X, (hdr d t).id.addr = a) → ∀ t ∈ X', (hdr d t).id.addr = a) :
    Repl d X X' c c :=
  ⟨hchain, fun _ h => ⟨⟨hnd h.1, fun id hid => h.2 id (hsub id hid)⟩, fun id hid => Or.inl (hsub id hid)⟩,
    haddr, Nat.le_refl _⟩

/-- `X'` uses the IDs of `X` and one fresh ID (split). -/
theorem of_fresh {X X' : List (ATree d)} (c : Nat) (a : Nat)
    (hchain : ChainPres (X.flatMap (Arr.leaves d)) (X'.flatMap (Arr.leaves d)))
    (hperm : (X'.flatMap (slabIds d)).Perm (⟨a, c + 1⟩ :: X.flatMap (slabIds d)))
    (ha : ∃ id ∈ X.flatMap (slabIds d), id.addr = a)
    (haddr : ∀ a, (∀ t ∈ X, (hdr d t).id.addr = a) → ∀ t ∈ X', (hdr d t).id.addr = a) :
    Repl d X X' c (c + 1) := by
  refine ⟨hchain, ?_, haddr, Nat.le_succ _⟩
  intro addr hx
  obtain ⟨id0, hid0, hid0a⟩ := ha
  have haddr0 : a = addr := by rw [← hid0a]; exact (hx.2 id0 hid0).1
  refine ⟨IdsOk.of_perm ?_ hperm, ?_⟩
  · refine ⟨List.nodup_cons.2 ⟨?_, hx.1⟩, ?_⟩
    · intro hmem
      have := (hx.2 _ hmem).2.2
      simp only at this
      omega
    · intro id hid
      simp only [List.mem_cons] at hid
      rcases hid with hid | hid
      · subst hid; exact ⟨haddr0, by simp, by simp⟩
      · exact (hx.mono (Nat.le_succ c)).2 id hid
  · intro id hid
    have := hperm.mem_iff.1 hid
    simp only [List.mem_cons] at this
    rcases this with h | h
    · right; rw [h]; simp
    · exact Or.inl h

end Repl

theorem perm_move {α : Type} (a : α) (K1 K2 R : List α) :
    (K1 ++ a :: (K2 ++ R)).Perm ((K1 ++ K2) ++ a :: R) := by
  have h1 : (K1 ++ a :: (K2 ++ R)).Perm (a :: (K1 ++ (K2 ++ R))) := List.perm_middle
  have h2 : ((K1 ++ K2) ++ a :: R).Perm (a :: ((K1 ++ K2) ++ R)) := List.perm_middle
  rw [List.append_assoc K1 K2 R] at h2
  exact h1.trans h2.symm

theorem isFull_iff (T : Nat) : ∀ (d : Nat) (t : ATree d),
    ATree.isFull T d t = true ↔ maxThr T < (hdr d t).size
  | 0, t => by
    refine forall_ofData ?_ t; intro s
    show decide (s.hdr.size > maxThr T) = true ↔ _
    simp
  | d + 1, t => by
    refine forall_ofMeta ?_ t; intro m
    show decide (m.hdr.size > maxThr T) = true ↔ _
    simp

theorem isUnderflow_some (T : Nat) : ∀ (d : Nat) (t : ATree d), (hdr d t).size < minThr T →
    ATree.isUnderflow T d t = some (minThr T - (hdr d t).size)
  | 0, t => by
    refine forall_ofData ?_ t; intro s h
    simp only [hdr_zero] at h ⊢
    show (if minThr T > s.hdr.size then some (minThr T - s.hdr.size) else none) = _
    rw [if_pos h]
  | d + 1, t => by
    refine forall_ofMeta ?_ t; intro m h
    simp only [hdr_succ] at h ⊢
    show (if minThr T > m.hdr.size then some (minThr T - m.hdr.size) else none) = _
    rw [if_pos h]

theorem isUnderflow_none (T : Nat) : ∀ (d : Nat) (t : ATree d), minThr T ≤ (hdr d t).size →
    ATree.isUnderflow T d t = none
  | 0, t => by
    refine forall_ofData ?_ t; intro s h
    simp only [hdr_zero] at h
    show (if minThr T > s.hdr.size then some (minThr T - s.hdr.size) else none) = _
    rw [if_neg (by omega)]
  | d + 1, t => by
    refine forall_ofMeta ?_ t; intro m h
    simp only [hdr_succ] at h
    show (if minThr T > m.hdr.size then some (minThr T - m.hdr.size) else none) = _
    rw [if_neg (by omega)]

end Atree

import AtreeProofs.Array.Effects
import AtreeProofs.AListLemmas
/-
  `PopIterate` (`popIterate_run`: elements and context after it, one induction over its fold) and
  the iterators: traversal along the sibling links agrees with positional access.
-/
namespace Atree
open Gen ATree MetaSlab

variable {T : Nat}

/-- `PopIterate` on a subtree, by the one induction over its fold: the elements come last to first,
    and the context changes only by appended effects, the removal of every slab below the root -/
theorem popIterate_run : ∀ (d : Nat) (t : ATree d) (c : Ctx),
    (ATree.popIterate d t c).1 = (flatten d t).reverse ∧
    ∃ E, (ATree.popIterate d t c).2.2 = { c with eff := c.eff ++ E } ∧
      (∀ e ∈ E, ∃ id ∈ subIds d t, e = Eff.remove id) ∧ (∀ id ∈ subIds d t, Eff.remove id ∈ E)
  | 0, t, c => by
    refine forall_ofData ?_ t; intro s
    exact ⟨rfl, [], by simp [ATree.popIterate, DataSlab.popIterate, ofData], by simp, by simp⟩
  | d + 1, t, c => by
    refine forall_ofMeta ?_ t; intro m
    have key : ∀ (L : List (ATree d)) (acc : List Elem × Ctx),
        (L.foldl (fun (acc : List Elem × Ctx) child =>
          (acc.1 ++ (ATree.popIterate d child acc.2).1,
           (ATree.popIterate d child acc.2).2.2.emit (.remove (hdr d child).id))) acc).1
          = acc.1 ++ L.flatMap (fun ch => (flatten d ch).reverse) ∧
        ∃ E, (L.foldl (fun (acc : List Elem × Ctx) child =>
          (acc.1 ++ (ATree.popIterate d child acc.2).1,
           (ATree.popIterate d child acc.2).2.2.emit (.remove (hdr d child).id))) acc).2
          = { acc.2 with eff := acc.2.eff ++ E } ∧
          (∀ e ∈ E, ∃ id ∈ L.flatMap (slabIds d), e = Eff.remove id) ∧
          (∀ id ∈ L.flatMap (slabIds d), Eff.remove id ∈ E) := by
      intro L
      induction L with
      | nil => intro acc; exact ⟨by simp, [], by simp, by simp, by simp⟩
      | cons x L ih =>
        intro acc
        simp only [List.foldl_cons, List.flatMap_cons]
        obtain ⟨h0, E2, h1, h2, h3⟩ := ih (acc.1 ++ (ATree.popIterate d x acc.2).1,
           (ATree.popIterate d x acc.2).2.2.emit (.remove (hdr d x).id))
        obtain ⟨p0, E1, p1, p2, p3⟩ := popIterate_run d x acc.2
        refine ⟨by rw [h0, p0, List.append_assoc], E1 ++ [.remove (hdr d x).id] ++ E2, ?_, ?_, ?_⟩
        · rw [h1]; simp [Ctx.emit, p1]
        · intro e he
          simp only [List.mem_append, List.mem_singleton] at he
          rcases he with (he | he) | he
          · obtain ⟨id, hid, rfl⟩ := p2 e he
            exact ⟨id, List.mem_append.2 (Or.inl (by rw [slabIds_eq]; exact List.mem_cons_of_mem _ hid)), rfl⟩
          · exact ⟨_, List.mem_append.2 (Or.inl (hdr_id_mem_slabIds d x)), he⟩
          · obtain ⟨id, hid, rfl⟩ := h2 e he
            exact ⟨id, List.mem_append.2 (Or.inr hid), rfl⟩
        · intro id hid
          simp only [List.mem_append, List.mem_singleton]
          rcases List.mem_append.1 hid with hid | hid
          · rw [slabIds_eq] at hid
            rcases List.mem_cons.1 hid with rfl | hid
            · exact Or.inl (Or.inr rfl)
            · exact Or.inl (Or.inl (p3 id hid))
          · exact Or.inr (h3 id hid)
    obtain ⟨k0, E, k1, k2, k3⟩ := key m.children.reverse ([], c)
    refine ⟨?_, E, k1, ?_, ?_⟩
    · show (m.children.reverse.foldl _ ([], c)).1 = _
      rw [k0, flatten_succ, reverse_flatMap_reverse]; rfl
    · intro e he
      obtain ⟨id, hid, rfl⟩ := k2 e he
      refine ⟨id, ?_, rfl⟩
      simp only [subIds_succ, List.mem_flatMap, List.mem_reverse] at hid ⊢
      exact hid
    · intro id hid
      apply k3
      simp only [subIds_succ, List.mem_flatMap, List.mem_reverse] at hid ⊢
      exact hid

/-- the whole context after `PopIterate` -/
theorem popIterate_after (d : Nat) (t : ATree d) (c : Ctx) :
    ∃ E, (ATree.popIterate d t c).2.2 = { c with eff := c.eff ++ E } ∧
      (∀ e ∈ E, ∃ id ∈ subIds d t, e = Eff.remove id) ∧ (∀ id ∈ subIds d t, Eff.remove id ∈ E) :=
  (popIterate_run d t c).2

theorem arr_popIterate_fst (a : Arr) (c : Ctx) :
    (a.popIterate c).1 = (ATree.popIterate a.d a.root c).1 := rfl

theorem arr_popIterate_ctr (a : Arr) (c : Ctx) : (a.popIterate c).2.2.ctr = c.ctr := by
  have h : (ATree.popIterate a.d a.root c).2.2.ctr = c.ctr := by
    obtain ⟨E, h, -⟩ := popIterate_after a.d a.root c
    rw [h]
  show (if a.isInlined = true then (ATree.popIterate a.d a.root c).2.2
        else (ATree.popIterate a.d a.root c).2.2.emit _).ctr = _
  split
  · exact h
  · exact h

theorem arr_popIterate_inv (hT : legalThreshold T = true) (a : Arr) (c : Ctx) (h : ArrInv T a c.ctr) :
    ArrInv T (a.popIterate c).2.1 (a.popIterate c).2.2.ctr := by
  have F := thrFacts hT
  rw [arr_popIterate_ctr]
  have hroot := h.ids.2 a.rootID (hdr_id_mem_slabIds a.d a.root)
  show ArrInv T ⟨0, ofData (⟨⟨a.rootID,
      if a.isInlined = true then inlinedArrayDataSlabPrefixSize else arrayRootDataSlabPrefixSize, 0⟩,
      SlabID.undef, [], true, a.isInlined⟩ : DataSlab), a.ty⟩ c.ctr
  rw [h.standalone]
  simp only [Bool.false_eq_true, if_false]
  refine ⟨(treeInv_zero T true ⟨⟨a.rootID, arrayRootDataSlabPrefixSize, 0⟩,
      SlabID.undef, [], true, false⟩).2 ⟨rfl, ?_, ?_, rfl, ?_, ?_, ?_⟩, rfl, ?_, rfl, ?_⟩
  · simp [DataSlab.prefixSize, sumSizes_nil]
  · intro e he; simp at he
  · intro hh; simp at hh
  · simp only [F.rpfx, F.maxE]; have := F.lo; omega
  · intro hh; simp at hh
  · show IdsOk a.rootID.addr c.ctr [a.rootID]
    exact ⟨by simp, fun id hid => by simp at hid; subst hid; exact ⟨rfl, hroot.2.1, hroot.2.2⟩⟩
  · show (0 : Nat) < _
    omega

theorem arr_popIterate_refines (a : Arr) (c : Ctx) :
    (a.popIterate c).1 = a.toList.reverse ∧ (a.popIterate c).2.1.toList = [] ∧
    (a.popIterate c).2.1.rootID = a.rootID ∧ (a.popIterate c).2.1.ty = a.ty :=
  ⟨(popIterate_run a.d a.root c).1, rfl, rfl, rfl⟩

theorem leaves_flatMap_elems : ∀ (d : Nat) (t : ATree d),
    (Arr.leaves d t).flatMap (·.elems) = flatten d t
  | 0, t => by refine forall_ofData ?_ t; intro s; simp
  | d + 1, t => by
    refine forall_ofMeta ?_ t; intro m
    simp only [leaves_succ, flatten_succ, List.flatMap_assoc]
    congr 1
    funext x
    exact leaves_flatMap_elems d x

theorem leaves_ids_sublist : ∀ (d : Nat) (t : ATree d),
    ((Arr.leaves d t).map (·.hdr.id)).Sublist (slabIds d t)
  | 0, t => by refine forall_ofData ?_ t; intro s; simp
  | d + 1, t => by
    refine forall_ofMeta ?_ t; intro m
    simp only [leaves_succ, slabIds_succ, List.map_flatMap]
    apply List.Sublist.cons
    exact flatMap_sublist_of_mem (fun x _ => leaves_ids_sublist d x)

theorem find?_next (pre rest : List DataSlab) (cur nxt : DataSlab)
    (hnd : ((pre ++ cur :: nxt :: rest).map (·.hdr.id)).Nodup) :
    (pre ++ cur :: nxt :: rest).find? (fun s => s.hdr.id == nxt.hdr.id) = some nxt := by
  have hsplit : pre ++ cur :: nxt :: rest = (pre ++ [cur]) ++ nxt :: rest := by simp
  rw [hsplit] at hnd ⊢
  exact find?_key_at (·.hdr.id) _ nxt rest hnd

theorem roIterFrom_spec : ∀ (rest pre : List DataSlab) (cur : DataSlab) (fuel idx remaining : Nat),
    LeafChain (cur :: rest) → ((pre ++ cur :: rest).map (·.hdr.id)).Nodup →
    (∀ s ∈ pre ++ cur :: rest, s.hdr.id ≠ SlabID.undef) →
    rest.length + 1 ≤ fuel → idx ≤ cur.elems.length →
    Arr.roIterFrom (pre ++ cur :: rest) fuel cur idx remaining
      = (cur.elems.drop idx ++ rest.flatMap (·.elems)).take remaining := by
  intro rest
  induction rest with
  | nil =>
    intro pre cur fuel idx remaining hchain _ _ hfuel _
    obtain ⟨f, rfl⟩ : ∃ f, fuel = f + 1 := ⟨fuel - 1, by simp at hfuel; omega⟩
    have hnext : cur.next = SlabID.undef := hchain
    unfold Arr.roIterFrom
    by_cases h0 : remaining = 0
    · simp [h0]
    · simp only [h0, if_false, List.flatMap_nil, List.append_nil]
      by_cases h1 : (cur.elems.drop idx).length ≥ remaining
      · simp only [h1, if_true]
      · simp only [h1, if_false, hnext, if_true]
        rw [List.take_of_length_le (by omega)]
  | cons nxt rest ih =>
    intro pre cur fuel idx remaining hchain hnd hdef hfuel hidx
    obtain ⟨f, rfl⟩ : ∃ f, fuel = f + 1 := ⟨fuel - 1, by simp at hfuel; omega⟩
    obtain ⟨hnext, hchain'⟩ : cur.next = nxt.hdr.id ∧ LeafChain (nxt :: rest) := hchain
    have hnu : ¬ nxt.hdr.id = SlabID.undef := hdef nxt (by simp)
    unfold Arr.roIterFrom
    by_cases h0 : remaining = 0
    · simp [h0]
    · simp only [h0, if_false]
      by_cases h1 : (cur.elems.drop idx).length ≥ remaining
      · simp only [h1, if_true]
        rw [List.take_append_of_le_length h1]
      · simp only [h1, if_false, hnext, hnu, find?_next pre rest cur nxt hnd]
        have hsplit : pre ++ cur :: nxt :: rest = (pre ++ [cur]) ++ nxt :: rest := by simp
        rw [hsplit, ih (pre ++ [cur]) nxt f 0 _ hchain' (by rw [← hsplit]; exact hnd)
          (by rw [← hsplit]; exact hdef) (by simp at hfuel ⊢; omega) (Nat.zero_le _)]
        simp only [List.drop_zero, List.flatMap_cons]
        rw [List.take_append (l₁ := cur.elems.drop idx),
          List.take_of_length_le (l := cur.elems.drop idx) (by omega)]

theorem iterReadOnly_eq (a : Arr) (ctr : Nat) (h : ArrInv T a ctr) : a.iterReadOnly = a.toList := by
  obtain ⟨d, t, ty⟩ := a
  have hfl := leaves_flatMap_elems d t
  have hcount : (hdr d t).count = (flatten d t).length := h.shape.count_eq_length
  have hnd : ((Arr.leaves d t).map (·.hdr.id)).Nodup := h.ids.1.sublist (leaves_ids_sublist d t)
  have hdef : ∀ s ∈ Arr.leaves d t, s.hdr.id ≠ SlabID.undef := by
    intro s hs heq
    have hm : s.hdr.id ∈ slabIds d t :=
      (leaves_ids_sublist d t).subset (List.mem_map.2 ⟨s, hs, rfl⟩)
    have := (h.ids.2 _ hm).2.1
    rw [heq] at this
    simp [SlabID.undef] at this
  have hchain : LeafChain (Arr.leaves d t) := h.chain
  show (match Arr.leaves d t with
      | [] => []
      | first :: _ => if (hdr d t).count = 0 then []
          else Arr.roIterFrom (Arr.leaves d t) ((Arr.leaves d t).length + 1) first 0 (hdr d t).count)
      = flatten d t
  match hl : Arr.leaves d t with
  | [] => rw [← hfl, hl]; rfl
  | first :: rest =>
    simp only
    rw [hl] at hnd hdef hchain hfl
    by_cases h0 : (hdr d t).count = 0
    · rw [if_pos h0]
      have : (flatten d t).length = 0 := by omega
      exact (List.eq_nil_of_length_eq_zero this).symm
    · rw [if_neg h0]
      have := roIterFrom_spec rest [] first ((first :: rest).length + 1) 0 (hdr d t).count hchain
        (by simpa using hnd) (by simpa using hdef) (by simp) (Nat.zero_le _)
      simp only [List.nil_append, List.drop_zero] at this
      rw [this, ← List.flatMap_cons (f := fun s : DataSlab => s.elems), hfl, hcount]
      exact List.take_of_length_le (Nat.le_refl _)

theorem mapM_ok {α β : Type} (f : α → Except AErr β) (g : α → β) (l : List α)
    (h : ∀ x ∈ l, f x = .ok (g x)) : l.mapM f = .ok (l.map g) :=
  mapM_except_map f g l h

theorem iterMutable_eq (hT : legalThreshold T = true) (a : Arr) (ctr : Nat) (h : ArrInv T a ctr) :
    a.iterMutable = .ok a.toList := by
  obtain ⟨d, t, ty⟩ := a
  have hcount : (hdr d t).count = (flatten d t).length := h.shape.count_eq_length
  have hget : ∀ j ∈ List.range ((hdr d t).count - 0),
      Arr.get ⟨d, t, ty⟩ (0 + j) = .ok ((flatten d t).getD j default) := by
    intro j hj
    simp only [List.mem_range, Nat.sub_zero] at hj
    rw [Nat.zero_add]
    exact (get_gen hT d t true j h.shape).1 (by omega)
  have hcheck : Arr.checkRange ⟨d, t, ty⟩ 0 (hdr d t).count = .ok () := by
    unfold Arr.checkRange
    show (if (decide (0 > (hdr d t).count) || decide ((hdr d t).count > (hdr d t).count)) = true then _
      else if 0 > (hdr d t).count then _ else _) = _
    simp
  show (Arr.checkRange ⟨d, t, ty⟩ 0 (hdr d t).count >>= fun _ =>
    (List.range ((hdr d t).count - 0)).mapM (fun j => Arr.get ⟨d, t, ty⟩ (0 + j))) = _
  rw [hcheck]
  show (List.range ((hdr d t).count - 0)).mapM (fun j => Arr.get ⟨d, t, ty⟩ (0 + j)) = _
  rw [mapM_ok _ _ _ hget]
  congr 1
  show _ = flatten d t
  apply List.ext_getElem
  · simp [hcount]
  · intro i h1 h2
    simp only [List.getElem_map, List.getElem_range, List.getD_eq_getElem?_getD,
      List.getElem?_eq_getElem h2, Option.getD_some]

end Atree

import AtreeProofs.ListAt
import AtreeProofs.ArrayInv
/-
  Cumulative counts (`prefixSums`, `bumpFrom`), leaf chains and ID bookkeeping (positions in a list:
  `ListAt.lean`).
-/
namespace Atree
open Gen

section Surgery
variable {α : Type}

theorem getElem?_mid_pred {A B : List α} {x y : α} {k : Nat} (h : (A ++ [y]).length = k) :
    (A ++ y :: x :: B)[k - 1]? = some y := by
  subst h; simp
theorem take_mid {A B : List α} {k : Nat} (h : A.length = k) : (A ++ B).take k = A := take_at h
theorem drop_mid {A B : List α} {k : Nat} (h : A.length = k) : (A ++ B).drop k = B := drop_at h
end Surgery

namespace MetaSlab

theorem sumCounts_nil : sumCounts [] = 0 := rfl
theorem sumCounts_cons (h : Hdr) (hs : List Hdr) : sumCounts (h :: hs) = h.count + sumCounts hs := by
  simp [sumCounts]
theorem sumCounts_append (a b : List Hdr) : sumCounts (a ++ b) = sumCounts a + sumCounts b := by
  simp [sumCounts]
theorem sumCounts_take_add_drop (k : Nat) (a : List Hdr) :
    sumCounts (a.take k) + sumCounts (a.drop k) = sumCounts a := by
  rw [← sumCounts_append, List.take_append_drop]

theorem prefixSums_length (hs : List Hdr) (acc : Nat) : (prefixSums hs acc).length = hs.length := by
  induction hs generalizing acc with
  | nil => rfl
  | cons h hs ih => simp [prefixSums, ih]

theorem prefixSums_append (a b : List Hdr) (acc : Nat) :
    prefixSums (a ++ b) acc = prefixSums a acc ++ prefixSums b (acc + sumCounts a) := by
  induction a generalizing acc with
  | nil => simp [prefixSums, sumCounts_nil]
  | cons h hs ih => simp [prefixSums, ih, sumCounts_cons, Nat.add_assoc]

theorem prefixSums_cons (h : Hdr) (hs : List Hdr) (acc : Nat) :
    prefixSums (h :: hs) acc = (acc + h.count) :: prefixSums hs (acc + h.count) := rfl

theorem prefixSums_take (hs : List Hdr) (acc k : Nat) :
    (prefixSums hs acc).take k = prefixSums (hs.take k) acc := by
  induction hs generalizing acc k with
  | nil => simp [prefixSums]
  | cons h hs ih =>
    cases k with
    | zero => simp [prefixSums]
    | succ k => simp [prefixSums, ih]

theorem prefixSums_getLastD (hs : List Hdr) (acc : Nat) :
    (prefixSums hs acc).getLastD acc = acc + sumCounts hs := by
  induction hs generalizing acc with
  | nil => simp [prefixSums, sumCounts_nil]
  | cons h hs ih =>
    simp only [prefixSums_cons, List.getLastD_cons, sumCounts_cons]
    rw [ih]; omega

/-- a map that is a shift from `n` on commutes with the cumulative counts above `n` -/
theorem prefixSums_map_shift {f : Nat → Nat} {n : Nat} (hf : ∀ x y, n ≤ x → f (x + y) = f x + y) (hs : List Hdr) :
    ∀ acc, n ≤ acc → (prefixSums hs acc).map f = prefixSums hs (f acc) := by
  induction hs with
  | nil => intro _ _; rfl
  | cons h hs ih =>
    intro acc hacc
    rw [prefixSums_cons, List.map_cons, ih _ (Nat.le_trans hacc (Nat.le_add_right _ _)), hf _ _ hacc]
    rfl

theorem bumpFrom_mid (A B : List Nat) (x : Nat) (k : Nat) (f : Nat → Nat) (h : A.length = k) :
    bumpFrom k f (A ++ x :: B) = A ++ f x :: B.map f := by
  subst h
  unfold bumpFrom
  rw [List.mapIdx_append]
  congr 1
  · apply List.ext_getElem
    · simp
    · intro i h1 h2
      simp at h1
      simp; omega
  · simp only [List.mapIdx_cons, Nat.zero_add, Nat.le_refl, ge_iff_le, if_true]
    congr 1
    apply List.ext_getElem
    · simp
    · intro i h1 h2
      simp

/-- bumping from `k + 1` on after position `k` was bumped by hand is bumping from `k` on -/
theorem bumpFrom_step (k : Nat) (f : Nat → Nat) (cs : List Nat) (x : Nat) (hx : cs[k]? = some x) :
    bumpFrom (k + 1) f (cs.set k (f x)) = bumpFrom k f cs := by
  apply List.ext_getElem?
  intro j
  simp only [bumpFrom, List.getElem?_mapIdx, List.getElem?_set]
  by_cases hjk : k = j
  · subst hjk
    obtain ⟨hlt, hxe⟩ := List.getElem?_eq_some_iff.1 hx
    have : ¬ k + 1 ≤ k := by omega
    simp [hlt, hxe, this]
  · simp only [hjk, if_false]
    cases hj : cs[j]? with
    | none => simp
    | some y =>
      simp only [Option.map_some]
      by_cases h1 : j ≥ k + 1
      · have : j ≥ k := by omega
        simp [h1, this]
      · have : ¬ j ≥ k := by omega
        simp [h1, this]

theorem bumpFrom_ge (k : Nat) (f : Nat → Nat) (cs : List Nat) (h : cs.length ≤ k) : bumpFrom k f cs = cs := by
  apply List.ext_getElem?
  intro j
  simp only [bumpFrom, List.getElem?_mapIdx]
  cases hj : cs[j]? with
  | none => simp
  | some y =>
    have hlt : j < cs.length := (List.getElem?_eq_some_iff.1 hj).1
    have : ¬ j ≥ k := by omega
    simp [this]

theorem prefixSums_mem_ge (hs : List Hdr) (acc : Nat) : ∀ x ∈ prefixSums hs acc, acc ≤ x := by
  induction hs generalizing acc with
  | nil => intro x hx; simp [prefixSums] at hx
  | cons h t ih =>
    intro x hx
    rw [prefixSums_cons] at hx
    rcases List.mem_cons.mp hx with rfl | hx'
    · omega
    · have := ih _ x hx'; omega

/-- strictly increasing cumulative counts when every child holds at least one element -/
theorem prefixSums_pairwise (hs : List Hdr) (acc : Nat) (hpos : ∀ h ∈ hs, 1 ≤ h.count) :
    (prefixSums hs acc).Pairwise (· < ·) ∧ ∀ x ∈ prefixSums hs acc, acc < x := by
  induction hs generalizing acc with
  | nil => simp [prefixSums]
  | cons h hs ih =>
    have h1 := hpos h (by simp)
    obtain ⟨p, q⟩ := ih (acc + h.count) (fun x hx => hpos x (by simp [hx]))
    simp only [prefixSums_cons, List.pairwise_cons, List.mem_cons]
    refine ⟨⟨fun x hx => q x hx, p⟩, ?_⟩
    intro x hx
    rcases hx with rfl | hx
    · omega
    · have := q x hx; omega

/-- every cumulative count is at most the total -/
theorem prefixSums_mem_le (hs : List Hdr) (acc : Nat) : ∀ x ∈ prefixSums hs acc, x ≤ acc + sumCounts hs := by
  induction hs generalizing acc with
  | nil => intro x hx; simp [prefixSums] at hx
  | cons h t ih =>
    intro x hx
    rw [prefixSums_cons] at hx
    rw [sumCounts_cons]
    rcases List.mem_cons.mp hx with rfl | hx'
    · omega
    · have := ih _ x hx'; omega

theorem length_le_sumCounts (hs : List Hdr) (hpos : ∀ h ∈ hs, 1 ≤ h.count) : hs.length ≤ sumCounts hs := by
  induction hs with
  | nil => simp [sumCounts_nil]
  | cons h t ih =>
    rw [sumCounts_cons, List.length_cons]
    have := hpos h (by simp)
    have := ih (fun x hx => hpos x (by simp [hx]))
    omega

end MetaSlab

/-- `Chain f n l`: `l` is a path of `next` links that starts at slab ID `f` and ends in `n`. -/
def Chain : SlabID → SlabID → List DataSlab → Prop
  | f, n, [] => f = n
  | f, n, s :: rest => s.hdr.id = f ∧ Chain s.next n rest

theorem chain_append (f n : SlabID) (l1 l2 : List DataSlab) :
    Chain f n (l1 ++ l2) ↔ ∃ mid, Chain f mid l1 ∧ Chain mid n l2 := by
  induction l1 generalizing f with
  | nil => simp [Chain]
  | cons s rest ih =>
    simp only [List.cons_append, Chain, ih]
    constructor
    · rintro ⟨h1, mid, h2, h3⟩; exact ⟨mid, ⟨h1, h2⟩, h3⟩
    · rintro ⟨mid, ⟨h1, h2⟩, h3⟩; exact ⟨h1, mid, h2, h3⟩

theorem leafChain_iff (l : List DataSlab) : LeafChain l ↔ ∃ f, Chain f SlabID.undef l := by
  induction l with
  | nil => simp [LeafChain, Chain]
  | cons s rest ih =>
    cases rest with
    | nil => simp [LeafChain, Chain]
    | cons t rest =>
      simp only [LeafChain, ih, Chain]
      constructor
      · rintro ⟨h1, f, h2, h3⟩; exact ⟨_, rfl, by rw [h1], h3⟩
      · rintro ⟨f, _, h2, h3⟩; exact ⟨h2.symm, _, h2, h3⟩

/-- Every chain through `L` is a chain through `L'` (same entry ID, same exit link). -/
def ChainPres (L L' : List DataSlab) : Prop := ∀ f n, Chain f n L → Chain f n L'

theorem ChainPres.refl (L : List DataSlab) : ChainPres L L := fun _ _ h => h
theorem ChainPres.trans {L1 L2 L3 : List DataSlab} (h1 : ChainPres L1 L2) (h2 : ChainPres L2 L3) :
    ChainPres L1 L3 := fun f n h => h2 f n (h1 f n h)
theorem ChainPres.of_eq {L L' : List DataSlab} (h : L' = L) : ChainPres L L' := by
  subst h; exact ChainPres.refl _
theorem ChainPres.ctx {L L' : List DataSlab} (h : ChainPres L L') (A B : List DataSlab) :
    ChainPres (A ++ L ++ B) (A ++ L' ++ B) := by
  intro f n hc
  rw [chain_append, ] at hc ⊢
  obtain ⟨m1, hc1, hc2⟩ := hc
  rw [chain_append] at hc1
  obtain ⟨m0, hc0, hc1⟩ := hc1
  exact ⟨m1, (chain_append _ _ _ _).2 ⟨m0, hc0, h _ _ hc1⟩, hc2⟩
theorem ChainPres.leafChain {L L' : List DataSlab} (h : ChainPres L L') (hl : LeafChain L) :
    LeafChain L' := by
  rw [leafChain_iff] at hl ⊢
  obtain ⟨f, hf⟩ := hl
  exact ⟨f, h _ _ hf⟩

theorem IdsOk.mono {addr c c' : Nat} {ids : List SlabID} (h : IdsOk addr c ids) (hc : c ≤ c') :
    IdsOk addr c' ids :=
  ⟨h.1, fun id hid => ⟨(h.2 id hid).1, (h.2 id hid).2.1, Nat.le_trans (h.2 id hid).2.2 hc⟩⟩

theorem IdsOk.of_perm {addr c : Nat} {ids ids' : List SlabID} (h : IdsOk addr c ids)
    (hp : ids'.Perm ids) : IdsOk addr c ids' :=
  ⟨hp.nodup_iff.2 h.1, fun id hid => h.2 id (hp.mem_iff.1 hid)⟩

theorem IdsOk.sub_append_left {addr c : Nat} {a b : List SlabID} (h : IdsOk addr c (a ++ b)) :
    IdsOk addr c a :=
  ⟨(List.nodup_append.1 h.1).1, fun id hid => h.2 id (by simp [hid])⟩

theorem IdsOk.sub_append_right {addr c : Nat} {a b : List SlabID} (h : IdsOk addr c (a ++ b)) :
    IdsOk addr c b :=
  ⟨(List.nodup_append.1 h.1).2.1, fun id hid => h.2 id (by simp [hid])⟩

/-- Replace the middle part `X` of a duplicate-free ID list by `X'` whose members are old members
    of `X` or fresh (index above the old counter). -/
theorem IdsOk.replace_mid {addr c c' : Nat} {A X X' B : List SlabID}
    (h : IdsOk addr c (A ++ X ++ B)) (hX' : IdsOk addr c' X')
    (hmem : ∀ id ∈ X', id ∈ X ∨ c < id.idx) (hc : c ≤ c') :
    IdsOk addr c' (A ++ X' ++ B) := by
  obtain ⟨hnd, hall⟩ := h
  refine ⟨?_, ?_⟩
  · rw [List.append_assoc, List.nodup_append] at hnd ⊢
    obtain ⟨hA, hXB, hdisj⟩ := hnd
    rw [List.nodup_append] at hXB
    obtain ⟨hXn, hBn, hXBd⟩ := hXB
    refine ⟨hA, ?_, ?_⟩
    · rw [List.nodup_append]
      refine ⟨hX'.1, hBn, ?_⟩
      intro a ha b hb hab
      subst hab
      rcases hmem a ha with h1 | h1
      · exact hXBd a h1 a hb rfl
      · have := (hall a (by simp [hb])).2.2; omega
    · intro a ha b hb hab
      subst hab
      rcases List.mem_append.1 hb with hb | hb
      · rcases hmem a hb with h1 | h1
        · exact hdisj a ha a (by simp [h1]) rfl
        · have := (hall a (by simp [ha])).2.2; omega
      · exact hdisj a ha a (by simp [hb]) rfl
  · intro id hid
    simp only [List.mem_append] at hid
    rcases hid with (hid | hid) | hid
    · exact (IdsOk.mono ⟨hnd, hall⟩ hc).2 id (by simp [hid])
    · exact hX'.2 id hid
    · exact (IdsOk.mono ⟨hnd, hall⟩ hc).2 id (by simp [hid])

end Atree

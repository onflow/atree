import AtreeProofs.Core.Kit
import AtreeProofs.Array.Restructure
/-
  Array subtrees of one depth as an instance of the container-independent repair of an index
  slab's child (`Core.Laws`): `akit`, the admissible replacement of siblings `SibRepl`, `akit_laws`.
  `merge_band`: a sibling that cannot lend merges with the underflowing child within the band.
-/
namespace Atree
open Gen ATree MetaSlab Core

variable {T d : Nat}

theorem pfx_bounds (d : Nat) : 12 ≤ pfx d ∧ pfx d ≤ 21 := by
  cases d <;> simp [pfx, arrayDataSlabPrefixSize, arrayMetaDataSlabPrefixSize]

/-- the arithmetic of "sibling cannot lend ⇒ the merged slab fits" -/
theorem merge_band (hT : legalThreshold T = true) (d : Nat) (sib child : ATree d) (want : Nat)
    (hsib : TreeInv T d false sib) (hchild : Shape T d false child)
    (hw : want = minThr T - (hdr d child).size) (hu : (hdr d child).size < minThr T)
    (hc : ATree.canLendToLeft T d sib want = false ∨ ATree.canLendToRight T d sib want = false) :
    minThr T + pfx d ≤ (hdr d sib).size + (hdr d child).size ∧
    (hdr d sib).size + (hdr d child).size ≤ maxThr T + pfx d := by
  subst hw
  have h := (arrBand hT).merge (by have := (pfx_bounds d).1; omega) hchild.pfx_le hu hsib.ge_min
    (cannot_lend hT _ (Nat.sub_pos_of_lt hu) d sib hsib.shape_false hc)
  rwa [Nat.add_comm (hdr d child).size] at h

/-- array subtrees of depth `d` as seen by their index slab; `c` is the context a split allocates in -/
def akit (T d : Nat) (c : Ctx) : Kit (ATree d) where
  size t := (ATree.hdr d t).size
  canL := ATree.canLendToRight T d
  canR := ATree.canLendToLeft T d
  merge := ATree.merge d
  lend l u := some (ATree.lendToRight T d l u)
  borrow u r := some (ATree.borrowFromRight T d u r)
  split t := (ATree.split d t c).toOption.map fun p => (p.1, p.2.1)

/-- The adjacent siblings `X` may be replaced by `X'`: same elements and element counts, leaf links and
    slab identifiers in order (`Repl`), `n` slabs allocated above the counter `c`. -/
def SibRepl (d c n : Nat) (X X' : List (ATree d)) : Prop :=
  X'.flatMap (flatten d) = X.flatMap (flatten d) ∧
  sumCounts (X'.map (hdr d)) = sumCounts (X.map (hdr d)) ∧ Repl d X X' c (c + n)

theorem SibRepl.two_one {d c : Nat} {l r m : ATree d} (hf : flatten d m = flatten d l ++ flatten d r)
    (hc : (hdr d m).count = (hdr d l).count + (hdr d r).count) (hr : Repl d [l, r] [m] c c) :
    SibRepl d c 0 [l, r] [m] := by
  refine ⟨?_, ?_, hr⟩
  · simpa using hf
  · simp only [List.map_cons, List.map_nil, sumCounts_cons, sumCounts_nil, hc, Nat.add_zero]

theorem SibRepl.two_two {d c : Nat} {l r l' r' : ATree d}
    (hf : flatten d l' ++ flatten d r' = flatten d l ++ flatten d r)
    (hc : (hdr d l').count + (hdr d r').count = (hdr d l).count + (hdr d r).count)
    (hr : Repl d [l, r] [l', r'] c c) : SibRepl d c 0 [l, r] [l', r'] := by
  refine ⟨?_, ?_, hr⟩
  · simpa using hf
  · simp only [List.map_cons, List.map_nil, sumCounts_cons, sumCounts_nil, Nat.add_zero]
    omega

theorem SibRepl.one_two {d c : Nat} {t l r : ATree d} (hf : flatten d l ++ flatten d r = flatten d t)
    (hc : (hdr d l).count + (hdr d r).count = (hdr d t).count) (hr : Repl d [t] [l, r] c (c + 1)) :
    SibRepl d c 1 [t] [l, r] := by
  refine ⟨?_, ?_, hr⟩
  · simpa using hf
  · simp only [List.map_cons, List.map_nil, sumCounts_cons, sumCounts_nil, Nat.add_zero, hc]

/-- the laws for arrays; the slack `maxInlineArr T + 16` above the band is explained at `afterSet_spec` -/
theorem akit_laws (hT : legalThreshold T = true) (d : Nat) (c : Ctx) :
    Laws (akit T d c) (minThr T) (maxThr T) (pfx d) (maxInlineArr T + 16) (TreeInv T d false)
      (Shape T d false) (fun l r => (hdr d r).id.addr = (hdr d l).id.addr) (SibRepl d c.ctr) where
  tight_iff := treeInv_false_iff T d
  same t _ := ⟨rfl, rfl, Repl.refl _ _⟩
  ctx n P Q X X' h := by
    refine ⟨?_, ?_, h.2.2.ctx P Q⟩
    · simp only [List.flatMap_append, h.1]
    · simp only [List.map_append, sumCounts_append, h.2.1]
  merge l r hl hr ha :=
    have ⟨h1, h2, _, h4, h5, h6⟩ := merge_ok (T := T) c.ctr d l r hl hr ha
    ⟨h1, h5, SibRepl.two_one h2 h4 h6⟩
  band s u hs hu hlt hc := merge_band hT d s u _ hs hu rfl hlt hc.symm
  lend l u hl hu hlt ha hc :=
    have h := lend_ok c.ctr d l u hl hu hlt ha hc
    ⟨_, _, rfl, h.invl, h.invr, SibRepl.two_two h.flat h.counts h.repl⟩
  borrow u r hu hr hlt ha hc :=
    have h := borrow_ok c.ctr d u r hu hr hlt ha hc
    ⟨_, _, rfl, h.invl, h.invr, SibRepl.two_two h.flat h.counts h.repl⟩
  split t ht hlo hhi := by
    obtain ⟨l, r, c', he, hc', hl, hr, hf, _, hcnt, hrepl⟩ :=
      split_ok hT d t c ht hlo ((Nat.add_assoc _ _ _).symm ▸ hhi)
    exact ⟨l, r, by simp [akit, he, Except.toOption], hl, hr, SibRepl.one_two hf hcnt (hc' ▸ hrepl)⟩

end Atree

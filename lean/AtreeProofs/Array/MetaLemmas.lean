import AtreeProofs.Array.TreeDefs
import AtreeProofs.Core.Cut
/-
  Slab layer, index slabs: `MetaSlab.{split,merge,lendToRight,borrowFromRight}` preserve the
  per-slab facts and have the expected effect on `children`.
-/
namespace Atree
open Gen ATree

namespace MetaSlab

theorem canLend_true {α : Type} {T : Nat} {m : MetaSlab α} {want : Nat} (h : m.canLend T want = true) :
    arraySlabHeaderSize * ((want + arraySlabHeaderSize - 1) / arraySlabHeaderSize) ≤ m.hdr.size ∧
    minThr T < m.hdr.size - arraySlabHeaderSize * ((want + arraySlabHeaderSize - 1) / arraySlabHeaderSize) := by
  unfold canLend at h
  simp only at h
  split at h
  · rename_i h1; exact ⟨h1, by simpa using h⟩
  · simp at h

theorem canLend_false {α : Type} {T : Nat} {m : MetaSlab α} {want : Nat} (h : m.canLend T want = false) :
    m.hdr.size ≤ minThr T + arraySlabHeaderSize * ((want + arraySlabHeaderSize - 1) / arraySlabHeaderSize) := by
  unfold canLend at h
  simp only at h
  split at h
  · have : ¬ (m.hdr.size - arraySlabHeaderSize * ((want + arraySlabHeaderSize - 1) / arraySlabHeaderSize) > minThr T) := by
      simpa using h
    omega
  · omega

variable {T d : Nat}

/-! Band arithmetic of index slabs: one with `a` children has size `12 + 14 * a`. -/

/-- Halving an overfull index slab with `a` children puts both halves in the band. -/
theorem split_band (hT : legalThreshold T = true) {S a : Nat} (hS : S = 12 + 14 * a)
    (hlo : maxThr T < S) (hhi : S ≤ maxThr T + maxInlineArr T + 16) :
    2 ≤ a ∧ (a + 1) / 2 ≤ a ∧
    minThr T ≤ 12 + (a + 1) / 2 * 14 ∧ 12 + (a + 1) / 2 * 14 ≤ maxThr T ∧
    minThr T ≤ S - (a + 1) / 2 * 14 ∧ S - (a + 1) / 2 * 14 ≤ maxThr T ∧
    S - (a + 1) / 2 * 14 = 12 + 14 * (a - (a + 1) / 2) := by
  have R := thr_rel hT
  omega

/-- A slab with `a` children (size `A`, in the band) that can lend evens out with an
    underflowing right sibling with `b` children (size `B`): both end in the band. -/
theorem lend_band {A B a b : Nat} (hA : A = 12 + 14 * a)
    (hB : B = 12 + 14 * b) (hhi : A ≤ maxThr T) (hu : B < minThr T)
    (hc1 : 14 * ((minThr T - B + 14 - 1) / 14) ≤ A)
    (hc2 : minThr T < A - 14 * ((minThr T - B + 14 - 1) / 14)) :
    (a + b) / 2 ≤ a ∧
    minThr T ≤ 12 + (a + b) / 2 * 14 ∧ 12 + (a + b) / 2 * 14 ≤ maxThr T ∧
    minThr T ≤ 12 + (a - (a + b) / 2 + b) * 14 ∧ 12 + (a - (a + b) / 2 + b) * 14 ≤ maxThr T := by
  subst hA hB
  obtain ⟨g1, g2, g3, g4, g5, -⟩ := idx_rebal_band hhi hu hc1 hc2
    (Nat.sub_le_iff_le_add'.mp (le_mul_ceil (hs := 14) (by decide) _))
  have e : a - (a + b) / 2 + b = a + b - (a + b) / 2 := by omega
  rw [e, Nat.mul_comm _ 14, Nat.mul_comm _ 14]
  exact ⟨g5, g1, g2, g3, g4⟩

/-- The mirror image: the underflowing left slab (`a` children) takes from its right sibling. -/
theorem borrow_band {A B a b : Nat} (hA : A = 12 + 14 * a)
    (hB : B = 12 + 14 * b) (hu : A < minThr T) (hhi : B ≤ maxThr T)
    (hc1 : 14 * ((minThr T - A + 14 - 1) / 14) ≤ B)
    (hc2 : minThr T < B - 14 * ((minThr T - A + 14 - 1) / 14)) :
    a ≤ (a + b) / 2 ∧ (a + b) / 2 - a ≤ b ∧
    minThr T ≤ 12 + (a + b) / 2 * 14 ∧ 12 + (a + b) / 2 * 14 ≤ maxThr T ∧
    minThr T ≤ 12 + (b - ((a + b) / 2 - a)) * 14 ∧
    12 + (b - ((a + b) / 2 - a)) * 14 ≤ maxThr T := by
  subst hA hB
  obtain ⟨g1, g2, g3, g4, g5, g6⟩ := idx_rebal_band hhi hu hc1 hc2
    (Nat.sub_le_iff_le_add'.mp (le_mul_ceil (hs := 14) (by decide) _))
  rw [Nat.add_comm b a] at g1 g2 g3 g4 g5 g6
  have e : b - ((a + b) / 2 - a) = a + b - (a + b) / 2 ∧ (a + b) / 2 - a ≤ b := by omega
  rw [e.1, Nat.mul_comm _ 14, Nat.mul_comm _ 14]
  exact ⟨g6, e.2, g1, g2, g3, g4⟩

theorem split_spec (hT : legalThreshold T = true) (m : MetaSlab (ATree d)) (c : Ctx)
    (hm : MShape T d false m)
    (hlo : maxThr T < m.hdr.size) (hhi : m.hdr.size ≤ maxThr T + maxInlineArr T + 16) :
    ∃ l r, m.split c = .ok (l, r, (c.alloc m.hdr.id.addr).2) ∧
      TreeInv T (d + 1) false (ofMeta l) ∧ TreeInv T (d + 1) false (ofMeta r) ∧
      l.children ++ r.children = m.children ∧
      l.hdr.id = m.hdr.id ∧ r.hdr.id = ⟨m.hdr.id.addr, c.ctr + 1⟩ ∧
      l.hdr.count + r.hdr.count = m.hdr.count := by
  obtain ⟨b0, b1, b2, b3, b4, b5, b6⟩ := split_band hT hm.kids_of_size hlo hhi
  have hlen := hm.hdrs_length
  have hsc := sumCounts_take_add_drop ((m.children.length + 1) / 2) m.childHdrs
  have hcnt := hm.count_eq
  unfold split
  simp only [hlen, if_neg (Nat.not_lt.mpr b0)]
  refine ⟨_, _, rfl, ?_, ?_, List.take_append_drop _ _, rfl, rfl, ?_⟩
  · rw [treeInv_succ]
    refine ⟨⟨hm.root_eq, ?_, ?_, rfl, ?_, ?_, ?_⟩, b3, fun _ => b2, nofun⟩
    · simp only [hm.hdrs_eq, List.map_take]
    · simp only [hm.sums_eq, prefixSums_take]
    · show 12 + (m.children.length + 1) / 2 * 14
        = 12 + 14 * (List.take ((m.children.length + 1) / 2) m.children).length
      rw [List.length_take, Nat.min_eq_left b1, Nat.mul_comm]
    · intro x hx; exact hm.kids_inv x (List.mem_of_mem_take hx)
    · intro x hx; exact hm.kids_addr x (List.mem_of_mem_take hx)
  · rw [treeInv_succ]
    refine ⟨⟨rfl, ?_, rfl, ?_, ?_, ?_, ?_⟩, b5, fun _ => b4, nofun⟩
    · simp only [hm.hdrs_eq, List.map_drop]
    · dsimp only
      omega
    · show m.hdr.size - (m.children.length + 1) / 2 * 14
        = 12 + 14 * (List.drop ((m.children.length + 1) / 2) m.children).length
      rw [List.length_drop]
      exact b6
    · intro x hx; exact hm.kids_inv x (List.mem_of_mem_drop hx)
    · intro x hx; exact hm.kids_addr x (List.mem_of_mem_drop hx)
  · dsimp only
    omega

theorem merge_spec (l r : MetaSlab (ATree d)) (hl : MShape T d false l) (hr : MShape T d false r)
    (haddr : r.hdr.id.addr = l.hdr.id.addr) :
    MShape T d false (merge l r) ∧ (merge l r).children = l.children ++ r.children ∧
      (merge l r).hdr.id = l.hdr.id ∧
      (merge l r).hdr.count = l.hdr.count + r.hdr.count ∧
      (merge l r).hdr.size + arrayMetaDataSlabPrefixSize = l.hdr.size + r.hdr.size := by
  have h1 := hl.kids_of_size
  have h2 := hr.kids_of_size
  refine ⟨⟨hl.root_eq, ?_, ?_, ?_, ?_, ?_, ?_⟩, rfl, rfl, rfl, ?_⟩
  · simp [merge, hl.hdrs_eq, hr.hdrs_eq]
  · simp only [merge, prefixSums_append, hl.sums_eq, prefixSums_getLastD, Nat.zero_add]
  · simp only [merge, sumCounts_append, hl.count_eq, hr.count_eq]
  · simp only [merge, List.length_append, arrayMetaDataSlabPrefixSize, arraySlabHeaderSize]; omega
  · intro x hx
    simp only [merge, List.mem_append] at hx
    rcases hx with hx | hx
    · exact hl.kids_inv x hx
    · exact hr.kids_inv x hx
  · intro x hx
    simp only [merge, List.mem_append] at hx
    rcases hx with hx | hx
    · exact hl.kids_addr x hx
    · rw [hr.kids_addr x hx]; exact haddr
  · simp only [merge, arrayMetaDataSlabPrefixSize]; omega

theorem lendToRight_spec (l r : MetaSlab (ATree d))
    (hl : TreeInv T (d + 1) false (ofMeta l)) (hr : MShape T d false r) (hu : r.hdr.size < minThr T)
    (haddr : r.hdr.id.addr = l.hdr.id.addr)
    (hcan : l.canLend T (minThr T - r.hdr.size) = true) :
    TreeInv T (d + 1) false (ofMeta (lendToRight l r).1) ∧ TreeInv T (d + 1) false (ofMeta (lendToRight l r).2) ∧
    (lendToRight l r).1.children ++ (lendToRight l r).2.children = l.children ++ r.children ∧
    (lendToRight l r).1.hdr.id = l.hdr.id ∧ (lendToRight l r).2.hdr.id = r.hdr.id ∧
    (lendToRight l r).1.hdr.count + (lendToRight l r).2.hdr.count = l.hdr.count + r.hdr.count := by
  obtain ⟨hl, hl2, _, _⟩ := (treeInv_succ T d false l).1 hl
  obtain ⟨hc1, hc2⟩ := canLend_true hcan
  obtain ⟨hN, b1, b2, b3, b4⟩ :=
    lend_band hl.kids_of_size hr.kids_of_size hl2 hu hc1 hc2
  have hsc := sumCounts_take_add_drop ((l.children.length + r.children.length) / 2) l.childHdrs
  have hcl := hl.count_eq
  have hcr := hr.count_eq
  unfold lendToRight
  simp only [hl.hdrs_length, hr.hdrs_length]
  refine ⟨?_, ?_, by rw [← List.append_assoc, List.take_append_drop], trivial, trivial, ?_⟩
  · rw [treeInv_succ]
    refine ⟨⟨hl.root_eq, ?_, ?_, rfl, ?_, ?_, ?_⟩, b2, fun _ => b1, nofun⟩
    · simp only [hl.hdrs_eq, List.map_take]
    · simp only [hl.sums_eq, prefixSums_take]
    · show 12 + (l.children.length + r.children.length) / 2 * 14 = 12 + 14 * (List.take _ _).length
      rw [List.length_take, Nat.min_eq_left hN, Nat.mul_comm]
    · intro x hx; exact hl.kids_inv x (List.mem_of_mem_take hx)
    · intro x hx; exact hl.kids_addr x (List.mem_of_mem_take hx)
  · have hlen : (List.drop ((l.children.length + r.children.length) / 2) l.childHdrs
        ++ r.childHdrs).length
        = l.children.length - (l.children.length + r.children.length) / 2 + r.children.length := by
      rw [List.length_append, List.length_drop, hl.hdrs_length, hr.hdrs_length]
    rw [treeInv_succ]
    refine ⟨⟨hr.root_eq, ?_, rfl, rfl, ?_, ?_, ?_⟩, ?_, fun _ => ?_, nofun⟩
    · simp only [hl.hdrs_eq, hr.hdrs_eq, List.map_drop, List.map_append]
    · show 12 + _ * 14 = 12 + 14 * List.length (_ ++ _)
      rw [hlen, List.length_append, List.length_drop, Nat.mul_comm]
    · intro x hx
      rcases List.mem_append.mp hx with hx | hx
      · exact hl.kids_inv x (List.mem_of_mem_drop hx)
      · exact hr.kids_inv x hx
    · intro x hx
      rcases List.mem_append.mp hx with hx | hx
      · rw [hl.kids_addr x (List.mem_of_mem_drop hx)]; exact haddr.symm
      · exact hr.kids_addr x hx
    · show 12 + _ * 14 ≤ _
      rw [hlen]
      exact b4
    · show _ ≤ 12 + _ * 14
      rw [hlen]
      exact b3
  · rw [sumCounts_append]
    omega

theorem borrowFromRight_spec (l r : MetaSlab (ATree d))
    (hl : MShape T d false l) (hr : TreeInv T (d + 1) false (ofMeta r)) (hu : l.hdr.size < minThr T)
    (haddr : r.hdr.id.addr = l.hdr.id.addr)
    (hcan : r.canLend T (minThr T - l.hdr.size) = true) :
    TreeInv T (d + 1) false (ofMeta (borrowFromRight l r).1) ∧ TreeInv T (d + 1) false (ofMeta (borrowFromRight l r).2) ∧
    (borrowFromRight l r).1.children ++ (borrowFromRight l r).2.children = l.children ++ r.children ∧
    (borrowFromRight l r).1.hdr.id = l.hdr.id ∧ (borrowFromRight l r).2.hdr.id = r.hdr.id ∧
    (borrowFromRight l r).1.hdr.count + (borrowFromRight l r).2.hdr.count
      = l.hdr.count + r.hdr.count := by
  obtain ⟨hr, hr2, _, _⟩ := (treeInv_succ T d false r).1 hr
  obtain ⟨hc1, hc2⟩ := canLend_true hcan
  obtain ⟨ha, hmv, b1, b2, b3, b4⟩ :=
    borrow_band hl.kids_of_size hr.kids_of_size hu hr2 hc1 hc2
  have hsc := sumCounts_take_add_drop
    ((l.children.length + r.children.length) / 2 - l.children.length) r.childHdrs
  have hcr := hr.count_eq
  unfold borrowFromRight
  simp only [hl.hdrs_length, hr.hdrs_length]
  refine ⟨?_, ?_, by rw [List.append_assoc, List.take_append_drop], trivial, trivial, ?_⟩
  · rw [treeInv_succ]
    refine ⟨⟨hl.root_eq, ?_, ?_, ?_, ?_, ?_, ?_⟩, b2, fun _ => b1, nofun⟩
    · simp only [hl.hdrs_eq, hr.hdrs_eq, List.map_take, List.map_append]
    · simp only [prefixSums_append, hl.sums_eq, hl.count_eq, Nat.zero_add]
    · simp only [sumCounts_append, hl.count_eq]
    · show 12 + _ * 14 = 12 + 14 * List.length (_ ++ _)
      rw [List.length_append, List.length_take, Nat.min_eq_left hmv, Nat.mul_comm,
        Nat.add_sub_cancel' ha]
    · intro x hx
      rcases List.mem_append.mp hx with hx | hx
      · exact hl.kids_inv x hx
      · exact hr.kids_inv x (List.mem_of_mem_take hx)
    · intro x hx
      rcases List.mem_append.mp hx with hx | hx
      · exact hl.kids_addr x hx
      · rw [hr.kids_addr x (List.mem_of_mem_take hx)]; exact haddr
  · have hlen : (List.drop ((l.children.length + r.children.length) / 2 - l.children.length)
        r.childHdrs).length
        = r.children.length - ((l.children.length + r.children.length) / 2 - l.children.length) := by
      rw [List.length_drop, hr.hdrs_length]
    rw [treeInv_succ]
    refine ⟨⟨hr.root_eq, ?_, rfl, rfl, ?_, ?_, ?_⟩, ?_, fun _ => ?_, nofun⟩
    · simp only [hr.hdrs_eq, List.map_drop]
    · show 12 + _ * 14 = 12 + 14 * (List.drop _ _).length
      rw [hlen, List.length_drop, Nat.mul_comm]
    · intro x hx; exact hr.kids_inv x (List.mem_of_mem_drop hx)
    · intro x hx; exact hr.kids_addr x (List.mem_of_mem_drop hx)
    · show 12 + _ * 14 ≤ _
      rw [hlen]
      exact b4
    · show _ ≤ 12 + _ * 14
      rw [hlen]
      exact b3
  · omega

end MetaSlab
end Atree

import AtreeProofs.Array.RootFix
/-
  What every successful `Set` / `Insert` / `Remove` of an array does, whatever the tree (no
  invariant): the root slab keeps its identifier, and once `Value.Storable` has run at the leaf the
  rest of the operation is `Plain` (no large-value slab created, the log extended, the counter
  counting the allocations).  Leaf, then every index slab on the way back (`RepairStep.plain`),
  then the root step (`RootFix.plain`: `splitRoot` / `promoteIfSingleChild`).
-/
namespace Atree
open Gen ATree MetaSlab
open E2EM (Plain)

variable {T d : Nat}

/-- one level of `Set` / `Insert` / `Remove`: the parent `m1` (the slab `m` with its child at `k`
    replaced) keeps its identifier, and its repair is `Plain` -/
theorem RepairStep.plain {m m1 m2 : MetaSlab (ATree d)} {k : Nat} {child child' : ATree d} {c c2 : Ctx}
    (hchild : m.children[k]? = some child) (hch1 : m1.children = m.children.set k child')
    (h : RepairStep T m1 child' k c m2 c2) : m2.hdr.id = m1.hdr.id ∧ Plain c c2 := by
  obtain ⟨A, B, hch, hk⟩ := split_at hchild
  obtain ⟨E, hrep, he, hid, hcr⟩ := repairStep_repair (by rw [hch1, hch, set_at hk]) hk rfl h
  exact ⟨hid, hrep.ctx_plain rfl he hcr⟩

namespace DataSlab

theorem storeIfNotInlined_plain (s : DataSlab) (c : Ctx) : Plain c (s.storeIfNotInlined c) := by
  unfold DataSlab.storeIfNotInlined
  split
  · exact Plain.refl c
  · exact Plain.store _ _

theorem set_plain {s s' : DataSlab} {i : Nat} {v old : Elem} {c c' : Ctx}
    (h : s.set T i v c = .ok (old, s', c')) :
    s'.hdr.id = s.hdr.id ∧ Plain (toStorable T s.hdr.id.addr v c).2 c' :=
  let ⟨hid, _, hc⟩ := set_inPlace h
  ⟨hid, hc ▸ storeIfNotInlined_plain _ _⟩

theorem insert_plain {s s' : DataSlab} {i : Nat} {v : Elem} {c c' : Ctx}
    (h : s.insert T i v c = .ok (s', c')) :
    s'.hdr.id = s.hdr.id ∧ Plain (toStorable T s.hdr.id.addr v c).2 c' :=
  let ⟨hid, _, hc⟩ := insert_inPlace h
  ⟨hid, hc ▸ storeIfNotInlined_plain _ _⟩

theorem remove_plain {s s' : DataSlab} {i : Nat} {old : Elem} {c c' : Ctx}
    (h : s.remove i c = .ok (old, s', c')) : s'.hdr.id = s.hdr.id ∧ Plain c c' :=
  let ⟨hid, _, hc⟩ := remove_inPlace h
  ⟨hid, hc ▸ storeIfNotInlined_plain _ _⟩

end DataSlab

namespace ATree

theorem set_plain {v old : Elem} : ∀ (d : Nat) (t : ATree d) (i : Nat) (c : Ctx) (t' : ATree d) (c' : Ctx),
    ATree.set T d t i v c = .ok (old, t', c') →
    (hdr d t').id = (hdr d t).id ∧ ∃ addr, Plain (toStorable T addr v c).2 c' :=
  set_induction (P := fun d t c t' c' => (hdr d t').id = (hdr d t).id ∧ ∃ addr, Plain (toStorable T addr v c).2 c')
    (fun _ _ _ _ _ h => ⟨(DataSlab.set_plain h).1, _, (DataSlab.set_plain h).2⟩)
    (fun _ _ _ _ _ _ _ _ _ _ hchild _ ih h =>
      have hp := RepairStep.plain hchild rfl h
      ⟨hp.1, ih.2.imp fun _ hi => hi.trans hp.2⟩)

theorem insert_plain {v : Elem} : ∀ (d : Nat) (t : ATree d) (i : Nat) (c : Ctx) (t' : ATree d) (c' : Ctx),
    ATree.insert T d t i v c = .ok (t', c') →
    (hdr d t').id = (hdr d t).id ∧ ∃ addr, Plain (toStorable T addr v c).2 c' :=
  insert_induction (P := fun d t c t' c' => (hdr d t').id = (hdr d t).id ∧ ∃ addr, Plain (toStorable T addr v c).2 c')
    (fun _ _ _ _ _ h => ⟨(DataSlab.insert_plain h).1, _, (DataSlab.insert_plain h).2⟩)
    (fun _ _ _ _ _ _ _ _ _ _ hchild _ ih h =>
      have hp := RepairStep.plain hchild rfl h
      ⟨hp.1, ih.2.imp fun _ hi => hi.trans hp.2⟩)

theorem remove_plain {old : Elem} : ∀ (d : Nat) (t : ATree d) (i : Nat) (c : Ctx) (t' : ATree d) (c' : Ctx),
    ATree.remove T d t i c = .ok (old, t', c') → (hdr d t').id = (hdr d t).id ∧ Plain c c' :=
  remove_induction (P := fun d t c t' c' => (hdr d t').id = (hdr d t).id ∧ Plain c c')
    (fun _ _ _ _ _ h => DataSlab.remove_plain h)
    (fun _ _ _ _ _ _ _ _ _ _ c' hchild _ ih h hc' =>
      have hp := RepairStep.plain hchild rfl h
      ⟨hp.1, (ih.2.trans hp.2).trans (by
        rcases hc' with rfl | rfl
        · exact Plain.refl _
        · exact Plain.store _ _)⟩)

end ATree

namespace Arr

theorem splitRoot_plain {a a' : Arr} {c c' : Ctx} (h : a.splitRoot c = .ok (a', c')) :
    a'.rootID = a.rootID ∧ Plain c c' := by
  obtain ⟨d, t, ty⟩ := a
  obtain ⟨l, r, rfl, -, -, -, rfl⟩ := splitRoot_inv h
  exact ⟨rfl, (Plain.alloc _ _).trans ((Plain.alloc _ _).trans (Plain.store3 _ _ _ _))⟩

theorem promote_plain (a : Arr) (c : Ctx) :
    (a.promoteIfSingleChild c).1.rootID = a.rootID ∧ Plain c (a.promoteIfSingleChild c).2 := by
  rcases promote_cases a c with h | ⟨d, m, h, child, t', ha, -, -, he, hid, -⟩
  · rw [h]; exact ⟨rfl, Plain.refl c⟩
  · rw [he, ha]; exact ⟨hid, (Plain.store _ _).trans (Plain.remove _ _)⟩

end Arr

theorem RootFix.plain {a a' : Arr} {c c' : Ctx} (h : RootFix a c a' c') : a'.rootID = a.rootID ∧ Plain c c' := by
  cases h with
  | keep => exact ⟨rfl, Plain.refl c⟩
  | split h => exact Arr.splitRoot_plain h
  | promote => exact Arr.promote_plain a c

namespace Arr

theorem set_plain {a a' : Arr} {i : Nat} {v old : Elem} {c c' : Ctx}
    (h : a.set T i v c = .ok (old, a', c')) :
    a'.rootID = a.rootID ∧ ∃ addr, Plain (toStorable T addr v c).2 c' := by
  obtain ⟨t', c1, hs, hf⟩ := set_inv h
  obtain ⟨hid, addr, hp⟩ := ATree.set_plain _ _ _ _ _ _ hs
  exact ⟨hf.plain.1.trans hid, addr, hp.trans hf.plain.2⟩

theorem insert_plain {a a' : Arr} {i : Nat} {v : Elem} {c c' : Ctx}
    (h : a.insert T i v c = .ok (a', c')) :
    a'.rootID = a.rootID ∧ ∃ addr, Plain (toStorable T addr v c).2 c' := by
  obtain ⟨t', c1, hs, hf⟩ := insert_inv h
  obtain ⟨hid, addr, hp⟩ := ATree.insert_plain _ _ _ _ _ _ hs
  exact ⟨hf.plain.1.trans hid, addr, hp.trans hf.plain.2⟩

theorem remove_plain {a a' : Arr} {i : Nat} {old : Elem} {c c' : Ctx}
    (h : a.remove T i c = .ok (old, a', c')) : a'.rootID = a.rootID ∧ Plain c c' := by
  obtain ⟨t', c1, hs, hf⟩ := remove_inv h
  obtain ⟨hid, hp⟩ := ATree.remove_plain _ _ _ _ _ _ hs
  exact ⟨hf.plain.1.trans hid, hp.trans hf.plain.2⟩

end Arr

end Atree

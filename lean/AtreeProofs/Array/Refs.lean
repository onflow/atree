import AtreeProofs.ArrayRefs
import AtreeProofs.Storable
import AtreeProofs.Array.EffectsTop
/-
  The references of an array (`ARefsOk`) across one operation.
  * list lemmas about `refIdsOf` under `insertIdx / set / eraseIdx`,
  * the two possible outcomes of `toStorable` on a caller's value,
  * top level `Arr.insert / set`: the tree's new IDs are above the ID taken by `toStorable`
    (`toStorable` runs first, at the leaf; every split happens on the way back up), read off the
    owner account, which starts at the context after `toStorable`,
  * the generic step `refs_step`.
-/
namespace Atree
open Gen ATree MetaSlab
variable {T : Nat}

theorem refIdsOf_append (l1 l2 : List Elem) : refIdsOf (l1 ++ l2) = refIdsOf l1 ++ refIdsOf l2 := by
  simp [refIdsOf, List.filterMap_append]

theorem refIdsOf_cons (e : Elem) (l : List Elem) : refIdsOf (e :: l) = refIdsOf [e] ++ refIdsOf l :=
  refIdsOf_append [e] l

theorem refIdsOf_perm {l1 l2 : List Elem} (h : l1.Perm l2) : (refIdsOf l1).Perm (refIdsOf l2) :=
  h.filterMap _

theorem refIdsOf_reverse (l : List Elem) : refIdsOf l.reverse = (refIdsOf l).reverse := by
  simp [refIdsOf, List.filterMap_reverse]

theorem mem_refIdsOf {l : List Elem} {id : SlabID} : id ∈ refIdsOf l ↔ ∃ e ∈ l, e.pay = .ref id := by
  simp only [refIdsOf, List.mem_filterMap, Elem.refId?]
  constructor
  · rintro ⟨e, he, h⟩
    refine ⟨e, he, ?_⟩
    cases hp : e.pay with
    | val n => rw [hp] at h; cases h
    | ref j => rw [hp] at h; cases h; rfl
  · rintro ⟨e, he, h⟩
    exact ⟨e, he, by rw [h]⟩

theorem refIdsOf_single_ref (sz : Nat) (id : SlabID) : refIdsOf [⟨sz, .ref id⟩] = [id] := rfl

theorem refIdsOf_single (e : Elem) : refIdsOf [e] = e.refId?.toList := by
  cases h : e.refId? <;> simp [refIdsOf, h]

/-- `set` and `eraseIdx` at `i` as permutations: both are a `splice` of the position `i` (`ListAt.lean`) -/
theorem perm_old_eraseIdx (l : List Elem) (i : Nat) (hi : i < l.length) :
    l.Perm (l.getD i default :: l.eraseIdx i) := by
  have h := splice_perm l ((l.take (i + 1)).drop i) i (i + 1)
  rwa [splice_self l (Nat.le_succ i), drop_take_succ hi default, ← List.eraseIdx_eq_take_drop_succ] at h

theorem perm_set_eraseIdx (l : List Elem) (i : Nat) (e : Elem) (hi : i < l.length) :
    (l.set i e).Perm (e :: l.eraseIdx i) := by
  rw [set_eq_splice e l i hi, List.eraseIdx_eq_take_drop_succ]
  exact splice_perm l [e] i (i + 1)

/-- the two outcomes of `Value.Storable` on a caller's value (`Storable`, Storable.lean), as the
    reference bookkeeping reads them -/
theorem toStorable_cases (T addr : Nat) (v : Elem) (c : Ctx) (hv : ValueOk v) :
    ((toStorable T addr v c).1 = v ∧ refIdsOf [(toStorable T addr v c).1] = [] ∧
        (toStorable T addr v c).2.ctr = c.ctr ∧ (toStorable T addr v c).2.created = c.created) ∨
    ((toStorable T addr v c).1 = ⟨slabIDStorableSize, .ref ⟨addr, c.ctr + 1⟩⟩ ∧
        refIdsOf [(toStorable T addr v c).1] = [⟨addr, c.ctr + 1⟩] ∧
        (toStorable T addr v c).2.ctr = c.ctr + 1 ∧
        (toStorable T addr v c).2.created = c.created ++ [(⟨addr, c.ctr + 1⟩, v)]) := by
  obtain ⟨_, n, hn⟩ := hv
  rw [toStorable_eq_lim]
  obtain ⟨C, hcr, hctr, hs⟩ := storable_lim (maxInlineArr T) addr hn c
  generalize (toStorableLim (maxInlineArr T) addr v c).1 = e at hs ⊢
  cases hs with
  | inline hp _ => exact Or.inl ⟨rfl, by simp [refIdsOf, Elem.refId?, hp], hctr, by rw [hcr, List.append_nil]⟩
  | large _ => exact Or.inr ⟨rfl, rfl, hctr, hcr⟩

theorem ArrInv.ids_le {a : Arr} {ctr : Nat} (h : ArrInv T a ctr) :
    ∀ id ∈ slabIds a.d a.root, id.idx ≤ ctr := fun id hid => (h.ids.2 id hid).2.2

/-- the two outcomes of `toStorable`, as the `news` hypothesis of `refs_step` -/
theorem news_of_toStorable (T addr : Nat) (v : Elem) (c : Ctx) (hv : ValueOk v) :
    refIdsOf [(toStorable T addr v c).1] = [] ∨
    (refIdsOf [(toStorable T addr v c).1] = [⟨addr, (toStorable T addr v c).2.ctr⟩] ∧
      c.ctr < (toStorable T addr v c).2.ctr) := by
  rcases toStorable_cases T addr v c hv with ⟨_, h2, _, _⟩ | ⟨_, h2, h3, _⟩
  · exact Or.inl h2
  · right; rw [h2, h3]; exact ⟨rfl, by omega⟩

/-- an array without references -/
theorem ARefsOk.of_nil {a : Arr} {ctr : Nat} (h : a.refIds = []) : ARefsOk a ctr := by
  refine ⟨?_, ?_, ?_⟩
  · rw [h]; exact List.nodup_nil
  · rw [h]; intro _ hx; cases hx
  · rw [h]; intro _ hx; cases hx

/-- the references of an array: those of the element at `i`, then those of the others -/
theorem refIds_perm_old {a : Arr} {i : Nat} (hi : i < a.toList.length) :
    a.refIds.Perm (refIdsOf [a.toList.getD i default] ++ refIdsOf (a.toList.eraseIdx i)) := by
  unfold Arr.refIds
  rw [← refIdsOf_cons]
  exact refIdsOf_perm (perm_old_eraseIdx _ _ hi)

/-- the slab `Value.Storable` creates (if any) is the one the stored form refers to -/
theorem toStorable_created_ids (T addr : Nat) (v : Elem) (c : Ctx) (hv : ValueOk v) :
    ((toStorable T addr v c).2.created.drop c.created.length).map (·.1) = refIdsOf [(toStorable T addr v c).1] := by
  rcases toStorable_cases T addr v c hv with ⟨_, h2, _, h4⟩ | ⟨_, h2, _, h4⟩
  · rw [h2, h4]; simp
  · rw [h2, h4]; simp

/-- The identifiers of the tree after `Insert` are old ones or lie above the counter left by
    `Value.Storable`: the owner account of the operation proper starts there (`arr_insert_macct`). -/
theorem arr_insert_ids_above (hT : legalThreshold T = true) (a : Arr) (c : Ctx) (i : Nat) (v : Elem)
    (hv : ValueOk v) (h : ArrInv T a c.ctr) (a' : Arr) (c' : Ctx)
    (hr : a.insert T i v c = .ok (a', c')) :
    (toStorable T a.addr v c).2.ctr ≤ c'.ctr ∧
      ∀ id ∈ slabIds a'.d a'.root,
        id ∈ slabIds a.d a.root ∨ (toStorable T a.addr v c).2.ctr < id.idx :=
  let ⟨_, _, hacct⟩ := arr_insert_macct hT a c i v (.of_valueOk hv) h a' c' hr
  ⟨hacct.le, hacct.ids_new⟩

theorem arr_set_ids_above (hT : legalThreshold T = true) (a : Arr) (c : Ctx) (i : Nat) (v : Elem)
    (hv : ValueOk v) (h : ArrInv T a c.ctr) (old : Elem) (a' : Arr) (c' : Ctx)
    (hr : a.set T i v c = .ok (old, a', c')) :
    (toStorable T a.addr v c).2.ctr ≤ c'.ctr ∧
      ∀ id ∈ slabIds a'.d a'.root,
        id ∈ slabIds a.d a.root ∨ (toStorable T a.addr v c).2.ctr < id.idx :=
  let ⟨_, _, hacct⟩ := arr_set_macct hT a c i v (.of_valueOk hv) h old a' c' hr
  ⟨hacct.le, hacct.ids_new⟩

/-- One operation: the elements `rest` stay, the references `olds` are handed back to the caller,
    the references `news` (at most the one `toStorable` created, index `k`) are added; the tree's
    new IDs are old ones or above `k`. -/
theorem refs_step {a a' : Arr} {ctr ctr' k : Nat} {rest : List Elem} {olds news : List SlabID}
    (hR : ARefsOk a ctr)
    (hids : ∀ id ∈ slabIds a.d a.root, id.idx ≤ ctr)
    (hperm : a.refIds.Perm (olds ++ refIdsOf rest))
    (hperm' : a'.refIds.Perm (news ++ refIdsOf rest))
    (hnews : news = [] ∨ (news = [⟨a.addr, k⟩] ∧ ctr < k))
    (hk : ctr ≤ k) (hk' : k ≤ ctr') (haddr : a'.addr = a.addr)
    (hnew : ∀ id ∈ slabIds a'.d a'.root, id ∈ slabIds a.d a.root ∨ k < id.idx) :
    ARefsOk a' ctr' ∧ ∀ id ∈ olds, id ∈ a.refIds ∧ id ∉ a'.refIds ∧ id ∉ slabIds a'.d a'.root := by
  have hnd : (olds ++ refIdsOf rest).Nodup := hperm.nodup_iff.1 hR.nodup
  obtain ⟨hnd1, hnd2, hdisj⟩ := List.nodup_append.1 hnd
  have hrest : ∀ id ∈ refIdsOf rest, id ∈ a.refIds := fun id h =>
    hperm.mem_iff.2 (List.mem_append.2 (Or.inr h))
  have holds : ∀ id ∈ olds, id ∈ a.refIds := fun id h =>
    hperm.mem_iff.2 (List.mem_append.2 (Or.inl h))
  have hnewsid : ∀ id ∈ news, id = ⟨a.addr, k⟩ ∧ ctr < k := by
    intro id hid
    rcases hnews with h | ⟨h, h2⟩
    · rw [h] at hid; cases hid
    · rw [h] at hid; simp only [List.mem_singleton] at hid; exact ⟨hid, h2⟩
  -- an old reference is not a slab of the new tree
  have hold_tree : ∀ id ∈ a.refIds, id ∉ slabIds a'.d a'.root := by
    intro id hid hin
    rcases hnew id hin with h1 | h1
    · exact hR.not_tree id hid h1
    · have := (hR.alloc id hid).2.2; omega
  refine ⟨⟨?_, ?_, ?_⟩, ?_⟩
  · refine hperm'.nodup_iff.2 (List.nodup_append.2 ⟨?_, hnd2, ?_⟩)
    · rcases hnews with h | ⟨h, _⟩ <;> rw [h] <;> simp
    · intro x hx y hy hxy
      subst hxy
      obtain ⟨rfl, hlt⟩ := hnewsid x hx
      have := (hR.alloc _ (hrest _ hy)).2.2
      simp only at this; omega
  · intro id hid
    rcases List.mem_append.1 (hperm'.mem_iff.1 hid) with h | h
    · obtain ⟨rfl, hlt⟩ := hnewsid id h
      intro hin
      rcases hnew _ hin with h1 | h1
      · have := hids _ h1; simp only at this; omega
      · simp only at h1; omega
    · exact hold_tree id (hrest id h)
  · intro id hid
    rw [haddr]
    rcases List.mem_append.1 (hperm'.mem_iff.1 hid) with h | h
    · obtain ⟨rfl, hlt⟩ := hnewsid id h
      exact ⟨rfl, by simp only; omega, hk'⟩
    · obtain ⟨h1, h2, h3⟩ := hR.alloc id (hrest id h)
      exact ⟨h1, h2, by omega⟩
  · intro id hid
    refine ⟨holds id hid, ?_, hold_tree id (holds id hid)⟩
    intro hin
    rcases List.mem_append.1 (hperm'.mem_iff.1 hin) with h | h
    · obtain ⟨rfl, hlt⟩ := hnewsid id h
      have := (hR.alloc _ (holds _ hid)).2.2
      simp only at this; omega
    · exact hdisj id hid id h rfl

end Atree

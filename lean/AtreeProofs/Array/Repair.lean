import AtreeProofs.HeapSpec
import AtreeProofs.Array.Descent
import AtreeProofs.Account.Repair
/-
  The slabs of an array tree as root entry + slabs of the strict descendants (`ent`, `sub`): the
  trees of one depth form a `Forest` (`aforest`); the slabs below are a view that the
  restructurings keep (`subView`, `ATree.View`).  The repair step of an index slab, by inversion,
  as a `Forest.Repair` (`repairStep_repair`).  Nothing here needs an invariant of the tree.
-/
namespace Atree
open Gen ATree MetaSlab

/-- content of the root slab of a tree -/
def ent : (d : Nat) → ATree d → ASlab
  | 0, (s : DataSlab) => .data s
  | _ + 1, (m : MetaSlab (ATree _)) => .index m.hdr m.childHdrs m.countSum m.root

/-- slabs of the strict descendants -/
def sub : (d : Nat) → ATree d → List (SlabID × ASlab)
  | 0, _ => []
  | d + 1, (m : MetaSlab (ATree d)) => m.children.flatMap (ATree.slabs d)

@[simp] theorem sub_zero (t : ATree 0) : sub 0 t = [] := rfl
@[simp] theorem sub_succ (d : Nat) (m : MetaSlab (ATree d)) :
    sub (d + 1) (ofMeta m) = m.children.flatMap (ATree.slabs d) := rfl

theorem slabs_eq : ∀ (d : Nat) (t : ATree d), ATree.slabs d t = ((hdr d t).id, ent d t) :: sub d t
  | 0, t => by refine forall_ofData ?_ t; intro s; rfl
  | d + 1, t => by refine forall_ofMeta ?_ t; intro m; rfl

/-- the elements of a stored slab when it is a data slab -/
def dataElems : ASlab → List Elem
  | .data s => s.elems
  | .index _ _ _ _ => []

@[simp] theorem dataElems_data (s : DataSlab) : dataElems (.data s) = s.elems := rfl
@[simp] theorem dataElems_index (h : Hdr) (a : List Hdr) (b : List Nat) (r : Bool) :
    dataElems (.index h a b r) = [] := rfl

theorem dataElems_ent_succ {d : Nat} (t : ATree (d + 1)) : dataElems (ent (d + 1) t) = [] := by
  refine forall_ofMeta ?_ t; intro m; rfl

/-- the subtrees of depth `d` as a forest of slabs -/
def aforest (d : Nat) : Forest (ATree d) ASlab := ⟨fun t => ((hdr d t).id, ent d t), sub d⟩

theorem aforest_slabs (d : Nat) : (aforest d).slabs = ATree.slabs d := funext fun t => (slabs_eq d t).symm

/-- the slabs below the root of a subtree, as a view of subtrees -/
def subView : ATree.View (SlabID × ASlab) :=
  { V := sub, f := fun _ => [], W := ATree.slabs, zero := fun _ => rfl, add := fun _ _ => rfl, succ := fun _ _ => rfl }

/-- every list-valued view of the subtrees `X` (`ATree.View`: the slabs below them, the elements of
    their root slabs, …) is that of `X'` -/
def ATree.SameViews (d : Nat) (X X' : List (ATree d)) : Prop :=
  ∀ {β : Type} (w : ATree.View β), X'.flatMap (w.V d) = X.flatMap (w.V d)

theorem split_struct (d : Nat) (t : ATree d) (c : Ctx) (l r : ATree d) (c' : Ctx)
    (h : ATree.split d t c = .ok (l, r, c')) :
    sub d l ++ sub d r = sub d t ∧ (hdr d l).id = (hdr d t).id ∧
    (hdr d r).id = ⟨(hdr d t).id.addr, c.ctr + 1⟩ ∧ c' = (c.alloc (hdr d t).id.addr).2 :=
  subView.split d t c l r c' h

theorem merge_struct (d : Nat) (l r : ATree d) :
    sub d (ATree.merge d l r) = sub d l ++ sub d r ∧ (hdr d (ATree.merge d l r)).id = (hdr d l).id :=
  subView.merge d l r

section
variable {T d : Nat}

/-- the pair produced by a rebalancing move -/
def rebalPair (T d : Nat) (flag : Bool) (l r : ATree d) : ATree d × ATree d :=
  if flag = true then ATree.borrowFromRight T d l r else ATree.lendToRight T d l r

theorem rebalPair_view {β : Type} (w : ATree.View β) (flag : Bool) (l r : ATree d) :
    w.V d (rebalPair T d flag l r).1 ++ w.V d (rebalPair T d flag l r).2 = w.V d l ++ w.V d r ∧
    (hdr d (rebalPair T d flag l r).1).id = (hdr d l).id ∧
    (hdr d (rebalPair T d flag l r).2).id = (hdr d r).id := by
  cases flag
  · exact w.lend T d l r
  · exact w.borrow T d l r

theorem rebal_children (m : MetaSlab (ATree d)) (l r : ATree d) (li ri : Nat) (flag : Bool) (c : Ctx) :
    (rebalanceChildren T m l r li ri flag c).1.children
      = (m.children.set li (rebalPair T d flag l r).1).set ri (rebalPair T d flag l r).2 := rfl
theorem rebal_hdr (m : MetaSlab (ATree d)) (l r : ATree d) (li ri : Nat) (flag : Bool) (c : Ctx) :
    (rebalanceChildren T m l r li ri flag c).1.hdr = m.hdr := rfl
theorem rebal_ctx (m : MetaSlab (ATree d)) (l r : ATree d) (li ri : Nat) (flag : Bool) (c : Ctx) :
    (rebalanceChildren T m l r li ri flag c).2
      = ((c.emit (.store (hdr d (rebalPair T d flag l r).1).id)).emit
          (.store (hdr d (rebalPair T d flag l r).2).id)).emit (.store m.hdr.id) := rfl

theorem merge_children (m : MetaSlab (ATree d)) (l r : ATree d) (li ri : Nat) (c : Ctx) :
    (mergeChildren m l r li ri c).1.children = (m.children.set li (ATree.merge d l r)).eraseIdx ri := rfl
theorem merge_hdr_id (m : MetaSlab (ATree d)) (l r : ATree d) (li ri : Nat) (c : Ctx) :
    (mergeChildren m l r li ri c).1.hdr.id = m.hdr.id := by
  unfold mergeChildren
  rfl
theorem merge_ctx (m : MetaSlab (ATree d)) (l r : ATree d) (li ri : Nat) (c : Ctx) :
    (mergeChildren m l r li ri c).2
      = ((c.emit (.store (hdr d (ATree.merge d l r)).id)).emit (.store m.hdr.id)).emit
          (.remove (hdr d r).id) := rfl

/-- The repair step of the parent, by inversion (no invariant): which `Forest.Repair` it is and what
    it appends to the log; the parent keeps its identifier and no large-value slab is created. -/
theorem repairStep_repair {m1 m2 : MetaSlab (ATree d)} {A B : List (ATree d)} {child' : ATree d} {k a : Nat}
    {c c2 : Ctx} (hch : m1.children = A ++ child' :: B) (hk : A.length = k)
    (haddr : (hdr d child').id.addr = a) (h : RepairStep T m1 child' k c m2 c2) :
    ∃ E, (aforest d).Repair (ATree.SameViews d) a c.ctr m1.hdr.id m1.children m2.children E c2.ctr ∧
      c2.eff = c.eff ++ E ∧ m2.hdr.id = m1.hdr.id ∧ c2.created = c.created := by
  rcases h with hsp | ⟨u, hmr⟩ | ⟨hm, hc⟩
  · obtain ⟨l, r, cs, hsp', hkids, hhdr, _, rfl⟩ := splitChildSlab_inv hsp
    obtain ⟨hs1, hs2, hs3, rfl⟩ := split_struct d child' c l r cs hsp'
    rw [haddr] at hs3 ⊢
    refine ⟨[.alloc a ⟨a, c.ctr + 1⟩, .store (hdr d l).id, .store (hdr d r).id, .store m1.hdr.id], ?_, ?_,
      by rw [hhdr], rfl⟩
    · rw [hkids, hch, set_at hk, insert_succ_at hk]
      exact .split (F := aforest d) hs1 hs2 hs3 (fun w => by simpa using (w.split d child' c l r _ hsp').1)
    · rw [emit_log3]; exact List.append_assoc _ _ _
  · obtain ⟨P, Q, l, r, hch', hact⟩ := mor_zip hch hk hmr
    rcases hact with ⟨flag, heq⟩ | heq
    · obtain ⟨hs1, hs2, hs3⟩ := rebalPair_view (T := T) subView flag l r
      obtain ⟨rfl, rfl⟩ : m2 = (rebalanceChildren T m1 l r P.length (P.length + 1) flag c).1 ∧
        c2 = (rebalanceChildren T m1 l r P.length (P.length + 1) flag c).2 :=
        ⟨congrArg Prod.fst heq, congrArg Prod.snd heq⟩
      refine ⟨[.store (hdr d l).id, .store (hdr d r).id, .store m1.hdr.id], ?_,
        by rw [rebal_ctx, emit_log3, hs2, hs3], by rw [rebal_hdr], by rw [rebal_ctx]; rfl⟩
      rw [rebal_children, hch', set_at rfl, set_succ_at rfl]
      exact .rebal (F := aforest d) hs1 hs2 hs3 (fun w => by simpa using (rebalPair_view (T := T) w flag l r).1)
    · obtain ⟨hs1, hs2⟩ := merge_struct d l r
      obtain ⟨rfl, rfl⟩ : m2 = (mergeChildren m1 l r P.length (P.length + 1) c).1 ∧
        c2 = (mergeChildren m1 l r P.length (P.length + 1) c).2 :=
        ⟨congrArg Prod.fst heq, congrArg Prod.snd heq⟩
      refine ⟨[.store (hdr d l).id, .store m1.hdr.id] ++ [.remove (hdr d r).id], ?_,
        by rw [merge_ctx, emit_log3, hs2]; rfl, merge_hdr_id _ _ _ _ _ _, by rw [merge_ctx]; rfl⟩
      rw [merge_children, hch', set_at rfl, erase_succ_at rfl]
      exact .merge (F := aforest d) hs1 hs2 (fun w => by simpa using (w.merge d l r).1)
  · rw [hm, hc]; exact ⟨[.store m1.hdr.id], .plain _, rfl, rfl, rfl⟩

end

end Atree

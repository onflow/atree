import AtreeModel.Array.Tree
import AtreeProofs.Core.Plan
/-
  `ArrayMetaDataSlab.MergeOrRebalanceChildSlab` runs the decision table shared with maps
  (`Core.plan`): `mor_eq_plan`; a successful run acts on two adjacent children (`mor_cases`, on the
  zipper `mor_zip`).  No invariant is involved.
-/
namespace Atree
open Gen ATree MetaSlab Core

variable {T d : Nat}

/-- what the array index slab does with a plan -/
def MetaSlab.exec (T : Nat) (m : MetaSlab (ATree d)) (child : ATree d) (k : Nat) (c : Ctx) :
    Plan (ATree d) → Except AErr (MetaSlab (ATree d) × Ctx)
  | .panic => .error .goPanic
  | .rebalL l => .ok (rebalanceChildren T m l child (k - 1) k false c)
  | .rebalR r => .ok (rebalanceChildren T m child r k (k + 1) true c)
  | .mergeL l => .ok (mergeChildren m l child (k - 1) k c)
  | .mergeR r => .ok (mergeChildren m child r k (k + 1) c)

theorem MetaSlab.mor_eq_plan (m : MetaSlab (ATree d)) (child : ATree d) (k u : Nat) (c : Ctx) :
    mergeOrRebalanceChildSlab T m child k u c =
      m.exec T child k c (plan (ATree.canLendToRight T d · u) (ATree.canLendToLeft T d · u)
        (fun t => (ATree.hdr d t).size)
        (if k > 0 then m.children[k - 1]? else none)
        (if k + 1 < m.childHdrs.length then m.children[k + 1]? else none)) := by
  rw [plan_comm (m.exec T child k c)]
  unfold mergeOrRebalanceChildSlab
  generalize (if k > 0 then m.children[k - 1]? else none) = L
  generalize (if k + 1 < m.childHdrs.length then m.children[k + 1]? else none) = R
  rcases L with _ | l <;> rcases R with _ | r <;> rfl

/-- which repair action a successful `mergeOrRebalanceChildSlab` took: a rebalance or a merge of
    the child with one of its two neighbours -/
theorem mor_cases (m : MetaSlab (ATree d)) (child : ATree d) (k u : Nat) (c : Ctx)
    (m2 : MetaSlab (ATree d)) (c2 : Ctx)
    (h : mergeOrRebalanceChildSlab T m child k u c = .ok (m2, c2)) :
    ∃ l r li, ((li = k ∧ l = child ∧ m.children[k + 1]? = some r) ∨
               (li + 1 = k ∧ m.children[li]? = some l ∧ r = child)) ∧
      ((∃ flag, (m2, c2) = rebalanceChildren T m l r li (li + 1) flag c) ∨
        (m2, c2) = mergeChildren m l r li (li + 1) c) := by
  rw [mor_eq_plan] at h
  revert h
  refine plan_sibs (Q := fun p => m.exec T child k c p = .ok (m2, c2) → _) _ _ _ _ _ _
    (fun h => nomatch h) ?_ ?_
  · intro l e hg
    exact ⟨fun he => ⟨l, child, k - 1, Or.inr ⟨e, hg, rfl⟩,
        Or.inl ⟨false, by rw [e]; exact (Except.ok.inj he).symm⟩⟩,
      fun he => ⟨l, child, k - 1, Or.inr ⟨e, hg, rfl⟩, Or.inr (by rw [e]; exact (Except.ok.inj he).symm)⟩⟩
  · intro r hg
    exact ⟨fun he => ⟨child, r, k, Or.inl ⟨rfl, rfl, hg⟩, Or.inl ⟨true, (Except.ok.inj he).symm⟩⟩,
      fun he => ⟨child, r, k, Or.inl ⟨rfl, rfl, hg⟩, Or.inr (Except.ok.inj he).symm⟩⟩

/-- `mor_cases` on the zipper: the two slabs acted on are adjacent children `P ++ l :: r :: Q` -/
theorem mor_zip {m m2 : MetaSlab (ATree d)} {A B : List (ATree d)} {child : ATree d} {k u : Nat}
    {c c2 : Ctx} (hch : m.children = A ++ child :: B) (hk : A.length = k)
    (h : mergeOrRebalanceChildSlab T m child k u c = .ok (m2, c2)) :
    ∃ P Q l r, m.children = P ++ l :: r :: Q ∧
      ((∃ flag, (m2, c2) = rebalanceChildren T m l r P.length (P.length + 1) flag c) ∨
        (m2, c2) = mergeChildren m l r P.length (P.length + 1) c) := by
  obtain ⟨l, r, li, hpos, hact⟩ := mor_cases m child k u c m2 c2 h
  obtain ⟨P, Q, hch', rfl⟩ := pair_of_sibs hch hk hpos
  exact ⟨P, Q, l, r, hch', hact⟩

end Atree

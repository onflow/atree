import AtreeProofs.Array.Uniform
/-
  The parent's repair steps `splitChildSlab`, `rebalanceChildren`, `mergeChildren`: the
  header / cumulative-count bookkeeping (`Book`) and what each step does to it and to the list of
  children (`*_spec`); `Tail`, the outcome of the whole repair (`afterSet_spec` builds it).
-/
namespace Atree
open Gen ATree MetaSlab

variable {T d : Nat}

/-- the copies of the children's headers kept by an index slab agree with the children -/
structure Book (m : MetaSlab (ATree d)) : Prop where
  hdrs_eq : m.childHdrs = m.children.map (hdr d)
  sums_eq : m.countSum = prefixSums m.childHdrs 0

theorem prefixSums_mid (HA HB : List Hdr) (h : Hdr) :
    prefixSums (HA ++ h :: HB) 0 =
      prefixSums HA 0 ++ (sumCounts HA + h.count) :: prefixSums HB (sumCounts HA + h.count) := by
  rw [prefixSums_append, prefixSums_cons, Nat.zero_add]

theorem prefixSums_mid2 (HA HB : List Hdr) (h1 h2 : Hdr) :
    prefixSums (HA ++ h1 :: h2 :: HB) 0 =
      prefixSums HA 0 ++ (sumCounts HA + h1.count) :: (sumCounts HA + h1.count + h2.count) ::
        prefixSums HB (sumCounts HA + h1.count + h2.count) := by
  rw [prefixSums_append, prefixSums_cons, prefixSums_cons, Nat.zero_add]

/-- the position of a child in the bookkeeping of its parent: header and count sum exist, and the count sum covers it -/
theorem book_at_child {m1 : MetaSlab (ATree d)} {A B : List (ATree d)} {child' : ATree d}
    (hb : Book m1) (hk : m1.children = A ++ child' :: B) :
    A.length < m1.childHdrs.length ∧ m1.countSum.length = m1.childHdrs.length ∧
    (hdr d child').count ≤ m1.countSum.getD A.length 0 := by
  have hh : m1.childHdrs = A.map (hdr d) ++ hdr d child' :: B.map (hdr d) := by
    rw [hb.hdrs_eq, hk]; simp
  have hkc : (prefixSums (A.map (hdr d)) 0).length = A.length := by simp [prefixSums_length]
  exact ⟨by rw [hh]; simp, by rw [hb.sums_eq, prefixSums_length],
    by rw [hb.sums_eq, hh, prefixSums_mid, getD_at hkc]; exact Nat.le_add_left _ _⟩

theorem splitChildSlab_spec (m1 : MetaSlab (ATree d)) (A B : List (ATree d)) (child' l r : ATree d)
    (k : Nat) (c c2 : Ctx) (hb : Book m1) (hch : m1.children = A ++ child' :: B) (hk : A.length = k)
    (hsplit : ATree.split d child' c = .ok (l, r, c2))
    (hcnt : (hdr d l).count + (hdr d r).count = (hdr d child').count) :
    ∃ m' c', m1.splitChildSlab child' k c = .ok (m', c') ∧ c'.ctr = c2.ctr ∧ Book m' ∧
      m'.children = A ++ l :: r :: B ∧ m'.hdr.id = m1.hdr.id ∧ m'.hdr.count = m1.hdr.count ∧
      m'.hdr.size = m1.hdr.size + arraySlabHeaderSize ∧ m'.root = m1.root := by
  have hh : m1.childHdrs = A.map (hdr d) ++ hdr d child' :: B.map (hdr d) := by
    rw [hb.hdrs_eq, hch]; simp
  have hkh : (A.map (hdr d)).length = k := by simp [hk]
  have hcs : m1.countSum = prefixSums (A.map (hdr d)) 0 ++
      (sumCounts (A.map (hdr d)) + (hdr d child').count) ::
        prefixSums (B.map (hdr d)) (sumCounts (A.map (hdr d)) + (hdr d child').count) := by
    rw [hb.sums_eq, hh, prefixSums_mid]
  have hkc : (prefixSums (A.map (hdr d)) 0).length = k := by simp [prefixSums_length, hk]
  unfold splitChildSlab
  simp only [hsplit, bind, Except.bind, pure, Except.pure]
  refine ⟨_, _, rfl, rfl, ⟨?_, ?_⟩, ?_, rfl, rfl, rfl, rfl⟩
  · simp only [hh, hch, set_at hkh, set_at hk, insert_succ_at hkh, insert_succ_at hk]
    simp
  · simp only [hh, hcs, set_at hkh, set_at hkc, insert_succ_at hkh, insert_succ_at hkc, getD_at hkc,
      prefixSums_mid2]
    have e1 : sumCounts (A.map (hdr d)) + (hdr d child').count - (hdr d child').count
        = sumCounts (A.map (hdr d)) := by omega
    rw [e1, Nat.add_assoc, hcnt]
  · simp only [hch, set_at hk, insert_succ_at hk]

theorem rebalanceChildren_spec (m1 : MetaSlab (ATree d)) (A B : List (ATree d)) (l r l' r' : ATree d)
    (li ri : Nat) (flag : Bool) (c : Ctx) (hb : Book m1) (hch : m1.children = A ++ l :: r :: B)
    (hli : A.length = li) (hri : ri = li + 1)
    (hp : (if flag = true then ATree.borrowFromRight T d l r else ATree.lendToRight T d l r) = (l', r'))
    (hcnt : (hdr d l').count + (hdr d r').count = (hdr d l).count + (hdr d r).count) :
    (rebalanceChildren T m1 l r li ri flag c).2.ctr = c.ctr ∧
      Book (rebalanceChildren T m1 l r li ri flag c).1 ∧
      (rebalanceChildren T m1 l r li ri flag c).1.children = A ++ l' :: r' :: B ∧
      (rebalanceChildren T m1 l r li ri flag c).1.hdr = m1.hdr ∧
      (rebalanceChildren T m1 l r li ri flag c).1.root = m1.root := by
  subst hri
  have hh : m1.childHdrs = A.map (hdr d) ++ hdr d l :: hdr d r :: B.map (hdr d) := by
    rw [hb.hdrs_eq, hch]; simp
  have hkh : (A.map (hdr d)).length = li := by simp [hli]
  have hcs : m1.countSum = prefixSums (A.map (hdr d)) 0 ++
      (sumCounts (A.map (hdr d)) + (hdr d l).count) ::
      (sumCounts (A.map (hdr d)) + (hdr d l).count + (hdr d r).count) ::
        prefixSums (B.map (hdr d)) (sumCounts (A.map (hdr d)) + (hdr d l).count + (hdr d r).count) := by
    rw [hb.sums_eq, hh, prefixSums_mid2]
  have hkc : (prefixSums (A.map (hdr d)) 0).length = li := by simp [prefixSums_length, hli]
  have hA1 : ∀ (x y : ATree d) (R : List (ATree d)), A ++ x :: y :: R = (A ++ [x]) ++ y :: R := by simp
  have hA1l : (A ++ [l']).length = li + 1 := by simp [hli]
  have hH1 : ∀ (x y : Hdr) (R : List Hdr), A.map (hdr d) ++ x :: y :: R = (A.map (hdr d) ++ [x]) ++ y :: R := by simp
  have hH1l : ∀ x : Hdr, (A.map (hdr d) ++ [x]).length = li + 1 := by simp [hli]
  unfold rebalanceChildren
  simp only [hp]
  -- the fields the step leaves alone hold by `rfl`; the `simp only` above has turned some into `True`
  refine ⟨(by trivial), ⟨?_, ?_⟩, ?_, (by trivial), (by trivial)⟩
  · simp only [hh, hch, set_at hkh, set_at hli]
    rw [hH1, set_at (hH1l _), hA1, set_at hA1l]
    simp
  · simp only [hh, hcs, set_at hkh, set_at hkc, getD_at hkc]
    rw [hH1, set_at (hH1l _)]
    simp only [List.append_assoc, List.singleton_append, prefixSums_mid2]
    have e1 : sumCounts (A.map (hdr d)) + (hdr d l).count - (hdr d l).count
        = sumCounts (A.map (hdr d)) := by omega
    rw [e1, Nat.add_assoc _ (hdr d l').count, hcnt, ← Nat.add_assoc]
  · simp only [hch, set_at hli]
    rw [hA1, set_at hA1l]
    simp

theorem mergeChildren_spec (m1 : MetaSlab (ATree d)) (A B : List (ATree d)) (l r : ATree d)
    (li ri : Nat) (c : Ctx) (hb : Book m1) (hch : m1.children = A ++ l :: r :: B)
    (hli : A.length = li) (hri : ri = li + 1)
    (hcnt : (hdr d (ATree.merge d l r)).count = (hdr d l).count + (hdr d r).count) :
    (mergeChildren m1 l r li ri c).2.ctr = c.ctr ∧
      Book (mergeChildren m1 l r li ri c).1 ∧
      (mergeChildren m1 l r li ri c).1.children = A ++ ATree.merge d l r :: B ∧
      (mergeChildren m1 l r li ri c).1.hdr.id = m1.hdr.id ∧
      (mergeChildren m1 l r li ri c).1.hdr.count = m1.hdr.count ∧
      (mergeChildren m1 l r li ri c).1.hdr.size = m1.hdr.size - arraySlabHeaderSize ∧
      (mergeChildren m1 l r li ri c).1.root = m1.root := by
  subst hri
  have hh : m1.childHdrs = A.map (hdr d) ++ hdr d l :: hdr d r :: B.map (hdr d) := by
    rw [hb.hdrs_eq, hch]; simp
  have hkh : (A.map (hdr d)).length = li := by simp [hli]
  have hcs : m1.countSum = prefixSums (A.map (hdr d)) 0 ++
      (sumCounts (A.map (hdr d)) + (hdr d l).count) ::
      (sumCounts (A.map (hdr d)) + (hdr d l).count + (hdr d r).count) ::
        prefixSums (B.map (hdr d)) (sumCounts (A.map (hdr d)) + (hdr d l).count + (hdr d r).count) := by
    rw [hb.sums_eq, hh, prefixSums_mid2]
  have hkc : (prefixSums (A.map (hdr d)) 0).length = li := by simp [prefixSums_length, hli]
  unfold mergeChildren
  simp only
  refine ⟨(by trivial), ⟨?_, ?_⟩, ?_, (by trivial), (by trivial), (by trivial), (by trivial)⟩
  · simp only [hh, hch, set_at hkh, set_at hli, erase_succ_at hkh, erase_succ_at hli]
    simp
  · simp only [hh, hcs, set_at hkh, set_at hkc, getD_two_at hkc, erase_succ_at hkh,
      erase_succ_at hkc, prefixSums_mid, hcnt, Nat.add_assoc]
  · simp only [hch, set_at hli, erase_succ_at hli]

/-- Outcome of the parent's repair step, at the level of the whole list of children. -/
structure Tail (T d : Nat) (m1 m2 : MetaSlab (ATree d)) (c1 c2 : Nat) : Prop where
  kids : ∀ t ∈ m2.children, TreeInv T d false t
  flat : m2.children.flatMap (flatten d) = m1.children.flatMap (flatten d)
  counts : sumCounts (m2.children.map (hdr d)) = sumCounts (m1.children.map (hdr d))
  repl : Repl d m1.children m2.children c1 c2
  book : Book m2
  id_eq : m2.hdr.id = m1.hdr.id
  count_eq : m2.hdr.count = m1.hdr.count
  root_eq : m2.root = m1.root
  size_eq : m2.hdr.size + 14 * m1.children.length = m1.hdr.size + 14 * m2.children.length
  len_le : m1.children.length ≤ m2.children.length + 1
  len_ge : m2.children.length ≤ m1.children.length + 1

end Atree

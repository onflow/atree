import AtreeModel.Array.Ops
import AtreeProofs.Array.Repair
/-
  The top level of `Arr.set / insert / remove` along a successful run, without any invariant: the
  tree operation, then a root step `RootFix` (nothing, `splitRoot`, or `promoteIfSingleChild`).
  `Arr.set_inv / insert_inv / remove_inv` are the inversions (`Arr.*_of_tree`: the same definitions
  read forwards, for the specifications of Array/Top.lean); a fact about a successful public
  operation is the fact about the tree operation (`*_induction`) followed by one about `RootFix`.
  The two root steps by inversion, for every view of the trees (`ATree.SameViews`):
  `Arr.splitRoot_inv` (from `splitRoot_eq`: the split of the old root re-sized and re-identified,
  `adjSplit`, under the new root `mkRoot`) and `Arr.promote_cases`.
-/
namespace Atree
open Gen ATree MetaSlab

variable {T : Nat}

/-- the root slab re-sized as a non-root slab (what `splitRoot` does first) -/
def adjSplit : (d : Nat) → ATree d → ATree d
  | 0, (s : DataSlab) =>
    ofData { s with hdr := { s.hdr with size := s.hdr.size - arrayRootDataSlabPrefixSize + arrayDataSlabPrefixSize } }
  | _ + 1, m => m

/-- the new root index slab built by `splitRoot` -/
def mkRoot {d : Nat} (rootID : SlabID) (l r : ATree d) : MetaSlab (ATree d) :=
  { hdr := { id := rootID, count := (hdr d l).count + (hdr d r).count,
             size := arrayMetaDataSlabPrefixSize + arraySlabHeaderSize * 2 },
    childHdrs := [hdr d l, hdr d r], countSum := [(hdr d l).count, (hdr d l).count + (hdr d r).count],
    children := [l, r], root := true }

theorem splitRoot_eq (d : Nat) (t : ATree d) (ty : Nat) (c : Ctx) :
    Arr.splitRoot ⟨d, t, ty⟩ c =
      (ATree.split d (setId d (setRoot d (adjSplit d t) false) ⟨(hdr d t).id.addr, c.ctr + 1⟩)
          (c.alloc (hdr d t).id.addr).2) >>= fun (p : ATree d × ATree d × Ctx) =>
        pure (⟨d + 1, ofMeta (mkRoot (hdr d t).id p.1 p.2.1), ty⟩,
          ((p.2.2.emit (.store (hdr d p.1).id)).emit (.store (hdr d p.2.1).id)).emit (.store (hdr d t).id)) := by
  cases d with
  | zero => rfl
  | succ d => rfl

theorem promote_not_single (d : Nat) (m : MetaSlab (ATree d)) (ty : Nat) (c : Ctx)
    (hc : m.children.length ≠ 1) :
    Arr.promoteIfSingleChild ⟨d + 1, ofMeta m, ty⟩ c = (⟨d + 1, ofMeta m, ty⟩, c) := by
  unfold Arr.promoteIfSingleChild ofMeta
  simp only
  split
  · rename_i h1 h2; rw [h2] at hc; simp at hc
  · rfl

/-- a view does not see what `splitRoot` changes of the old root before it splits it -/
theorem ATree.View.oldRoot {β : Type} (w : ATree.View β) : ∀ (d : Nat) (t : ATree d) (sid : SlabID) (b : Bool),
    w.V d (setId d (setRoot d (adjSplit d t) b) sid) = w.V d t
  | 0, t, sid, b => by
    refine forall_ofData ?_ t; intro s
    exact (w.zero { s with hdr := { s.hdr with size := _, id := sid }, root := b }).trans (w.zero s).symm
  | d + 1, t, sid, b => by
    refine forall_ofMeta ?_ t; intro m
    exact (w.succ d { m with hdr := { m.hdr with id := sid }, root := b }).trans (w.succ d m).symm

theorem hdr_oldRoot (d : Nat) (t : ATree d) (sid : SlabID) (b : Bool) :
    (hdr d (setId d (setRoot d (adjSplit d t) b) sid)).id = sid := by
  cases d <;> rfl

/-- A successful `splitRoot`, by inversion: the root takes a new identifier and is split; the halves
    show what it showed (in every view) and hang under a new root slab with the old identifier. -/
theorem Arr.splitRoot_inv {d ty : Nat} {t : ATree d} {c c2 : Ctx} {a2 : Arr}
    (h : Arr.splitRoot ⟨d, t, ty⟩ c = .ok (a2, c2)) :
    ∃ l r, a2 = ⟨d + 1, ofMeta (mkRoot (hdr d t).id l r), ty⟩ ∧ ATree.SameViews d [t] [l, r] ∧
      (hdr d l).id = ⟨(hdr d t).id.addr, c.ctr + 1⟩ ∧ (hdr d r).id = ⟨(hdr d t).id.addr, c.ctr + 2⟩ ∧
      c2 = (((((c.alloc (hdr d t).id.addr).2.alloc (hdr d t).id.addr).2.emit (.store (hdr d l).id)).emit
        (.store (hdr d r).id)).emit (.store (hdr d t).id)) := by
  rw [splitRoot_eq] at h
  obtain ⟨⟨l, r, cs⟩, hsp, h⟩ := bind_eq_ok h
  cases h
  obtain ⟨-, hl, hr, hcs⟩ := split_struct d _ _ l r cs hsp
  rw [hdr_oldRoot] at hl hr hcs
  refine ⟨l, r, rfl, fun w => ?_, hl, hr, by rw [hcs]⟩
  simp only [List.flatMap_cons, List.flatMap_nil, List.append_nil, (w.split d _ _ l r cs hsp).1, w.oldRoot]

/-- `promoteIfSingleChild`, by cases: nothing happens, or the root index slab has one child, which
    takes the root's identifier (showing what it showed, in every view) while the root is stored (the
    slab under its identifier is rewritten) and the child's old slab removed -/
theorem Arr.promote_cases (a : Arr) (c : Ctx) :
    a.promoteIfSingleChild c = (a, c) ∨
    ∃ (d : Nat) (m : MetaSlab (ATree d)) (h : Hdr) (child t' : ATree d),
      a = ⟨d + 1, ofMeta m, a.ty⟩ ∧ m.childHdrs = [h] ∧ m.children = [child] ∧
      a.promoteIfSingleChild c = (⟨d, t', a.ty⟩, (c.emit (.store m.hdr.id)).emit (.remove h.id)) ∧
      (hdr d t').id = m.hdr.id ∧ ATree.SameViews d [child] [t'] := by
  obtain ⟨d, t, ty⟩ := a
  cases d with
  | zero => exact Or.inl rfl
  | succ d =>
    revert t; refine forall_ofMeta ?_; intro m
    unfold Arr.promoteIfSingleChild ofMeta
    simp only
    split
    · rename_i h child hh hc
      refine Or.inr ⟨d, m, h, child, _, rfl, hh, hc, rfl, ?_, fun w => ?_⟩
      · cases d <;> rfl
      · simp only [List.flatMap_cons, List.flatMap_nil, List.append_nil]
        cases d with
        | zero =>
          revert child; refine forall_ofData ?_; intro s _
          exact (w.zero { s with hdr := { s.hdr with size := _, id := m.hdr.id }, root := true }).trans (w.zero s).symm
        | succ d =>
          revert child; refine forall_ofMeta ?_; intro m' _
          exact (w.succ d { m' with hdr := { m'.hdr with id := m.hdr.id }, root := true }).trans (w.succ d m').symm
    · exact Or.inl rfl

/-- `splitRoot` builds a root with two children, which `promoteIfSingleChild` leaves alone -/
theorem Arr.promote_splitRoot {a a2 : Arr} {c c2 : Ctx} (h : a.splitRoot c = .ok (a2, c2)) (c' : Ctx) :
    a2.promoteIfSingleChild c' = (a2, c') := by
  obtain ⟨d, t, ty⟩ := a
  obtain ⟨l, r, rfl, -⟩ := Arr.splitRoot_inv h
  exact promote_not_single d _ ty c' (by simp [mkRoot])

/-- What `Arr.set / insert / remove` do to the array after the tree operation: nothing, a split of
    the over-full root (`Set`, `Insert`), or the promotion of an only child (`Set`, `Remove`). -/
inductive RootFix : Arr → Ctx → Arr → Ctx → Prop
  | keep (a : Arr) (c : Ctx) : RootFix a c a c
  | split {a a' : Arr} {c c' : Ctx} (h : a.splitRoot c = .ok (a', c')) : RootFix a c a' c'
  | promote (a : Arr) (c : Ctx) : RootFix a c (a.promoteIfSingleChild c).1 (a.promoteIfSingleChild c).2

/-- after a split of the root `Set` promotes, to no effect (`Arr.promote_splitRoot`) -/
theorem Arr.set_inv {a a' : Arr} {i : Nat} {v old : Elem} {c c' : Ctx} (h : a.set T i v c = .ok (old, a', c')) :
    ∃ t' c1, ATree.set T a.d a.root i v c = .ok (old, t', c1) ∧ RootFix ⟨a.d, t', a.ty⟩ c1 a' c' := by
  unfold Arr.set at h
  obtain ⟨⟨old1, t', c1⟩, hs, h⟩ := bind_eq_ok h
  simp only at h
  split at h
  · obtain ⟨⟨a2, c2⟩, h2, h⟩ := bind_eq_ok h
    simp only [Arr.promote_splitRoot h2, pure, Except.pure] at h
    cases h; exact ⟨t', c1, hs, .split h2⟩
  · obtain ⟨⟨a2, c2⟩, h2, h⟩ := bind_eq_ok h
    simp only [pure, Except.pure] at h h2
    cases h; cases h2; exact ⟨t', c1, hs, .promote _ _⟩

theorem Arr.insert_inv {a a' : Arr} {i : Nat} {v : Elem} {c c' : Ctx} (h : a.insert T i v c = .ok (a', c')) :
    ∃ t' c1, ATree.insert T a.d a.root i v c = .ok (t', c1) ∧ RootFix ⟨a.d, t', a.ty⟩ c1 a' c' := by
  unfold Arr.insert at h
  split at h
  · cases h
  · obtain ⟨⟨t', c1⟩, hs, h⟩ := bind_eq_ok h
    refine ⟨t', c1, hs, ?_⟩
    simp only at h
    split at h
    · exact .split h
    · cases h; exact .keep _ _

theorem Arr.remove_inv {a a' : Arr} {i : Nat} {old : Elem} {c c' : Ctx} (h : a.remove T i c = .ok (old, a', c')) :
    ∃ t' c1, ATree.remove T a.d a.root i c = .ok (old, t', c1) ∧ RootFix ⟨a.d, t', a.ty⟩ c1 a' c' := by
  unfold Arr.remove at h
  obtain ⟨⟨old1, t', c1⟩, hs, h⟩ := bind_eq_ok h
  cases h
  exact ⟨t', c1, hs, .promote _ _⟩

/-! The same three definitions read forwards: the public operation once the tree operation is known. -/

theorem Arr.insert_of_tree {a : Arr} {i : Nat} {v : Elem} {c c1 : Ctx} {t' : ATree a.d}
    (hne : a.count ≠ maxArrayElementCount) (h : ATree.insert T a.d a.root i v c = .ok (t', c1)) :
    a.insert T i v c =
      if ATree.isFull T a.d t' = true then Arr.splitRoot ⟨a.d, t', a.ty⟩ c1 else .ok (⟨a.d, t', a.ty⟩, c1) := by
  unfold Arr.insert
  rw [if_neg hne]
  show (ATree.insert T a.d a.root i v c >>= _) = _
  rw [h]; rfl

theorem Arr.set_of_tree {a : Arr} {i : Nat} {v old : Elem} {c c1 : Ctx} {t' : ATree a.d}
    (h : ATree.set T a.d a.root i v c = .ok (old, t', c1)) :
    a.set T i v c =
      (if ATree.isFull T a.d t' = true then Arr.splitRoot ⟨a.d, t', a.ty⟩ c1 else pure (⟨a.d, t', a.ty⟩, c1)) >>=
        fun p => pure (old, (p.1.promoteIfSingleChild p.2).1, (p.1.promoteIfSingleChild p.2).2) := by
  unfold Arr.set
  show (ATree.set T a.d a.root i v c >>= _) = _
  rw [h]
  show (if ATree.isFull T a.d t' = true then _ else _) = _
  split <;> rfl

theorem Arr.remove_of_tree {a : Arr} {i : Nat} {old : Elem} {c c1 : Ctx} {t' : ATree a.d}
    (h : ATree.remove T a.d a.root i c = .ok (old, t', c1)) :
    a.remove T i c = .ok (old, ((⟨a.d, t', a.ty⟩ : Arr).promoteIfSingleChild c1).1,
      ((⟨a.d, t', a.ty⟩ : Arr).promoteIfSingleChild c1).2) := by
  unfold Arr.remove
  show (ATree.remove T a.d a.root i c >>= _) = _
  rw [h]; rfl

end Atree

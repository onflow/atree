import AtreeProofs.Array.Restructure
/-
  Routing through an index slab: `scanLinear`, `scanBinary`, `childSlabIndexInfo`.
-/
namespace Atree
open Gen ATree MetaSlab

namespace MetaSlab

/-- `k` is the first position whose cumulative count exceeds `index`. -/
def Ans (index : Nat) (cs : List Nat) (k : Nat) : Prop :=
  k < cs.length ∧ (∀ j, j < k → cs.getD j 0 ≤ index) ∧ index < cs.getD k 0

theorem Ans.unique {index : Nat} {cs : List Nat} {k k' : Nat} (h : Ans index cs k)
    (h' : Ans index cs k') : k = k' := by
  rcases Nat.lt_trichotomy k k' with hlt | heq | hgt
  · have := h'.2.1 k hlt; have := h.2.2; omega
  · exact heq
  · have := h.2.1 k' hgt; have := h'.2.2; omega

theorem scanLinear_of_ans (index : Nat) : ∀ (cs : List Nat) (i k : Nat), Ans index cs k →
    scanLinear index cs i = i + k := by
  intro cs
  induction cs with
  | nil => intro i k h; simp [Ans] at h
  | cons x cs ih =>
    intro i k h
    unfold scanLinear
    cases k with
    | zero =>
      have : index < x := by simpa [Ans] using h.2.2
      simp [this]
    | succ k =>
      have h0 : x ≤ index := by simpa using h.2.1 0 (by omega)
      have : ¬ index < x := by omega
      simp only [this, if_false]
      rw [ih (i + 1) k ?_]
      · omega
      · refine ⟨by simpa using h.1, ?_, by simpa using h.2.2⟩
        intro j hj
        simpa using h.2.1 (j + 1) (by omega)

theorem getD_lt_of_pairwise {cs : List Nat} (hm : cs.Pairwise (· < ·)) {i j : Nat} (hij : i < j)
    (hj : j < cs.length) : cs.getD i 0 < cs.getD j 0 := by
  rw [List.pairwise_iff_getElem] at hm
  have hi : i < cs.length := by omega
  simp only [List.getD_eq_getElem?_getD, List.getElem?_eq_getElem hi, List.getElem?_eq_getElem hj,
    Option.getD_some]
  exact hm i j hi hj hij

/-- Binary search over strictly increasing `cs` whose last entry exceeds `index`, between the
    bounds `low` (everything before is `≤ index`) and `high` (everything from there on is above). -/
theorem scanBinary_ans (index : Nat) (cs : List Nat) (hm : cs.Pairwise (· < ·))
    (hpos : 0 < cs.length) (hlast : index < cs.getD (cs.length - 1) 0) :
    ∀ (fuel low high : Nat), low ≤ high → high ≤ cs.length → high - low < fuel →
      (∀ j, j < low → cs.getD j 0 ≤ index) →
      (∀ j, high ≤ j → j < cs.length → index < cs.getD j 0) →
      Ans index cs (scanBinary index cs low high fuel) := by
  intro fuel
  induction fuel with
  | zero => intro low high _ _ h; exact absurd h (Nat.not_lt_zero _)
  | succ fuel ih =>
    intro low high hlh hhl hf hlo hhi
    unfold scanBinary
    by_cases hlt : low < high
    · rw [if_pos hlt]
      obtain ⟨mid, hmid, hmid1, hmid2⟩ : ∃ mid, (low + high) / 2 = mid ∧ low ≤ mid ∧ mid < high :=
        ⟨_, rfl, by omega, by omega⟩
      simp only [hmid]
      clear hmid
      have hml : mid < cs.length := Nat.lt_of_lt_of_le hmid2 hhl
      -- everything up to `mid` is below whatever `cs[mid]` is below
      have hbelow : ∀ {b}, cs.getD mid 0 ≤ b → ∀ j, j < mid + 1 → cs.getD j 0 ≤ b := by
        intro b hb j hj
        rcases Nat.lt_or_eq_of_le (Nat.le_of_lt_succ hj) with h | rfl
        · exact Nat.le_trans (Nat.le_of_lt (getD_lt_of_pairwise hm h hml)) hb
        · exact hb
      by_cases h1 : cs.getD mid 0 < index
      · rw [if_pos h1]
        exact ih _ _ (Nat.succ_le_of_lt hmid2) hhl (by omega) (hbelow (Nat.le_of_lt h1)) hhi
      · rw [if_neg h1]
        by_cases h2 : cs.getD mid 0 > index
        · rw [if_pos h2]
          refine ih _ _ hmid1 (Nat.le_of_lt hml) (by omega) hlo fun j hj hjl => ?_
          rcases Nat.lt_or_eq_of_le hj with h | rfl
          · exact Nat.lt_trans h2 (getD_lt_of_pairwise hm h hjl)
          · exact h2
        · rw [if_neg h2]
          have heq : cs.getD mid 0 = index := Nat.le_antisymm (Nat.not_lt.1 h2) (Nat.not_lt.1 h1)
          have hne : mid + 1 < cs.length := Nat.lt_of_le_of_ne (Nat.succ_le_of_lt hml) fun e => by
            rw [Nat.sub_eq_of_eq_add e.symm, heq] at hlast
            exact Nat.lt_irrefl _ hlast
          exact ⟨hne, hbelow (Nat.le_of_eq heq),
            heq ▸ getD_lt_of_pairwise hm (Nat.lt_succ_self mid) hne⟩
    · rw [if_neg hlt]
      obtain rfl : low = high := Nat.le_antisymm hlh (Nat.not_lt.1 hlt)
      have hl : low < cs.length := Nat.lt_of_le_of_ne hhl fun e => by
        have := hlo (cs.length - 1) (by omega)
        omega
      exact ⟨hl, hlo, hhi low (Nat.le_refl _) hl⟩

theorem scanBinary_spec (index : Nat) (cs : List Nat) (hm : cs.Pairwise (· < ·))
    (hlast : ∃ last ∈ cs.getLast?, index < last) :
    ∀ (fuel low high : Nat), low ≤ high → high ≤ cs.length → high - low < fuel →
      (∀ j, j < low → cs.getD j 0 ≤ index) →
      (∀ j, high ≤ j → j < cs.length → index < cs.getD j 0) →
      Ans index cs (scanBinary index cs low high fuel) := by
  obtain ⟨last, hl, hlt⟩ := hlast
  cases cs with
  | nil => cases hl
  | cons x xs =>
    refine scanBinary_ans index _ hm (Nat.succ_pos _) ?_
    rw [List.getLast?_eq_getElem?] at hl
    rw [List.getD_eq_getElem?_getD, Option.mem_def.1 hl]
    exact hlt

theorem prefixSums_getD (hs : List Hdr) : ∀ (acc j : Nat), j < hs.length →
    (prefixSums hs acc).getD j 0 = acc + sumCounts (hs.take (j + 1)) := by
  induction hs with
  | nil => intro acc j h; simp at h
  | cons h hs ih =>
    intro acc j hj
    cases j with
    | zero => simp [prefixSums_cons, sumCounts_cons, sumCounts_nil]
    | succ j =>
      simp only [prefixSums_cons, List.getD_cons_succ, List.take_succ_cons, sumCounts_cons]
      rw [ih _ _ (by simpa using hj)]; omega

end MetaSlab

variable {d : Nat}

theorem route_split (X : List (ATree d)) (hpos : ∀ t ∈ X, 1 ≤ (hdr d t).count) :
    ∀ (i : Nat), i < sumCounts (X.map (hdr d)) →
    ∃ A child B, X = A ++ child :: B ∧ sumCounts (A.map (hdr d)) ≤ i ∧
      i < sumCounts (A.map (hdr d)) + (hdr d child).count := by
  induction X with
  | nil => intro i hi; simp [sumCounts_nil] at hi
  | cons x X ih =>
    intro i hi
    simp only [List.map_cons, sumCounts_cons] at hi
    by_cases h : i < (hdr d x).count
    · exact ⟨[], x, X, rfl, by simp [sumCounts_nil], by simpa [sumCounts_nil] using h⟩
    · obtain ⟨A, child, B, h1, h2, h3⟩ :=
        ih (fun t ht => hpos t (by simp [ht])) (i - (hdr d x).count) (by omega)
      refine ⟨x :: A, child, B, by simp [h1], ?_, ?_⟩
      · simp only [List.map_cons, sumCounts_cons]; omega
      · simp only [List.map_cons, sumCounts_cons]; omega

/-- `childSlabIndexInfo` finds the child that holds position `i` (both scanning branches). -/
theorem route_spec (m : MetaSlab (ATree d)) (hb : Book m)
    (hc : m.hdr.count = sumCounts m.childHdrs)
    (hpos : ∀ t ∈ m.children, 1 ≤ (hdr d t).count) (i : Nat) (hi : i < m.hdr.count) :
    ∃ A child B, m.children = A ++ child :: B ∧ sumCounts (A.map (hdr d)) ≤ i ∧
      i < sumCounts (A.map (hdr d)) + (hdr d child).count ∧
      m.childSlabIndexInfo i = .ok (A.length, i - sumCounts (A.map (hdr d))) := by
  rw [hc, hb.hdrs_eq] at hi
  obtain ⟨A, child, B, hch, h1, h2⟩ := route_split m.children hpos i hi
  refine ⟨A, child, B, hch, h1, h2, ?_⟩
  have hh : m.childHdrs = A.map (hdr d) ++ hdr d child :: B.map (hdr d) := by
    rw [hb.hdrs_eq, hch]; simp
  have hcs : m.countSum = prefixSums (A.map (hdr d)) 0 ++
      (sumCounts (A.map (hdr d)) + (hdr d child).count) ::
        prefixSums (B.map (hdr d)) (sumCounts (A.map (hdr d)) + (hdr d child).count) := by
    rw [hb.sums_eq, hh, prefixSums_mid]
  have hkh : (A.map (hdr d)).length = A.length := by simp
  have hkc : (prefixSums (A.map (hdr d)) 0).length = A.length := by simp [prefixSums_length]
  have hlen : m.countSum.length = m.childHdrs.length := by rw [hb.sums_eq, prefixSums_length]
  have hposh : ∀ h ∈ m.childHdrs, 1 ≤ h.count := by
    intro h hh'
    rw [hb.hdrs_eq] at hh'
    obtain ⟨t, ht, rfl⟩ := List.mem_map.1 hh'
    exact hpos t ht
  have hpw := (prefixSums_pairwise m.childHdrs 0 hposh).1
  rw [← hb.sums_eq] at hpw
  have hans : Ans i m.countSum A.length := by
    have hAlt : A.length < m.childHdrs.length := by
      rw [hh, List.length_append, hkh, List.length_cons]
      exact Nat.lt_add_of_pos_right (Nat.succ_pos _)
    refine ⟨hlen ▸ hAlt, ?_, ?_⟩
    · intro j hj
      rw [hb.sums_eq, prefixSums_getD _ _ _ (Nat.lt_trans hj hAlt), hh, Nat.zero_add,
        List.take_append_of_le_length (hkh.symm ▸ Nat.succ_le_of_lt hj)]
      exact Nat.le_trans (Nat.le.intro (sumCounts_take_add_drop (j + 1) (A.map (hdr d)))) h1
    · rw [hcs, getD_at hkc]; exact h2
  have hk : (if m.countSum.length < linearScanThreshold then scanLinear i m.countSum 0
      else scanBinary i m.countSum 0 m.countSum.length (m.countSum.length + 1)) = A.length := by
    by_cases hlin : m.countSum.length < linearScanThreshold
    · rw [if_pos hlin, scanLinear_of_ans i _ 0 _ hans, Nat.zero_add]
    · rw [if_neg hlin]
      have hA : A.length < m.countSum.length := hans.1
      have hl : i < m.countSum.getD (m.countSum.length - 1) 0 := by
        rcases Nat.lt_or_ge A.length (m.countSum.length - 1) with h | h
        · exact Nat.lt_trans hans.2.2 (getD_lt_of_pairwise hpw h (Nat.sub_lt (Nat.zero_lt_of_lt hA) Nat.one_pos))
        · rw [← Nat.le_antisymm (Nat.le_sub_one_of_lt hA) h]; exact hans.2.2
      exact (scanBinary_ans i m.countSum hpw (Nat.zero_lt_of_lt hA) hl (m.countSum.length + 1) 0
        m.countSum.length (Nat.zero_le _) (Nat.le_refl _) (Nat.lt_succ_self _)
        (fun j hj => absurd hj (Nat.not_lt_zero j))
        (fun j h1 h2 => absurd h2 (Nat.not_lt.2 h1))).unique hans
  unfold childSlabIndexInfo
  rw [if_neg (Nat.not_le.2 (by rw [hc, hb.hdrs_eq]; exact hi))]
  simp only [hk]
  rw [hh, hcs, get_at hkh, get_at hkc]
  simp only
  congr 2
  omega

theorem route_err {α : Type} (m : MetaSlab α) (i : Nat) (hi : m.hdr.count ≤ i) :
    m.childSlabIndexInfo i = .error .indexOutOfBounds := by
  unfold childSlabIndexInfo
  simp [hi]

end Atree

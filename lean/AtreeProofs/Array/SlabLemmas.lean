import AtreeProofs.Map.Loops
import AtreeProofs.Array.Arith
import AtreeProofs.Array.ListLemmas
import AtreeProofs.Array.Descent
/-
  Slab layer, data slabs: `DataSlab.{get,set,insert,remove,split,merge,lendToRight,borrowFromRight}`
  preserve the per-slab facts (`DShape`: `DataInv` without the size band; the band is what the
  restructuring operations restore) and have the expected effect on `elems`, header and `next`.
  `set` and `insert` are stated for any element `toStorable` accepts (`StorOk`).
  (What a successful leaf update does to identifier, `inlined` and context, with no hypothesis on
  the slab: `DataSlab.*_inPlace`, Array/Descent.lean.)
-/
namespace Atree
open Gen

@[simp] theorem Ctx.emit_ctr (c : Ctx) (e : Eff) : (c.emit e).ctr = c.ctr := rfl
@[simp] theorem Ctx.alloc_ctr (c : Ctx) (a : Nat) : (c.alloc a).2.ctr = c.ctr + 1 := rfl
@[simp] theorem Ctx.alloc_id (c : Ctx) (a : Nat) : (c.alloc a).1 = ⟨a, c.ctr + 1⟩ := rfl
@[simp] theorem DataSlab.storeIfNotInlined_ctr (s : DataSlab) (c : Ctx) :
    (s.storeIfNotInlined c).ctr = c.ctr := by
  unfold DataSlab.storeIfNotInlined; split <;> rfl

theorem toStorable_ctr_le (T addr : Nat) (v : Elem) (c : Ctx) :
    c.ctr ≤ (toStorable T addr v c).2.ctr := by
  unfold toStorable
  split
  · exact Nat.le_refl _
  · split
    · simp [Ctx.alloc, Ctx.emit]
    · exact Nat.le_refl _

theorem toStorable_ok (T addr : Nat) (hT : legalThreshold T = true) (v : Elem) (c : Ctx)
    (hv : ValueOk v) : ElemOk T (toStorable T addr v c).1 := by
  obtain ⟨h1, n, hn⟩ := hv
  unfold toStorable
  rw [hn]
  simp only
  split
  · have := slabIDStorable_le T hT
    refine ⟨?_, this⟩
    simp [slabIDStorableSize, Gen.SlabIDLength]
  · rename_i hgt
    exact ⟨h1, by simp only; omega⟩

/-- what `Arr.insert` / `Arr.set` accept: a plain value of any size (externalised by `toStorable`
    when too large), or any element — e.g. a reference — that fits the inline limit.
    The specifications of `set` and `insert` at every level are stated for such elements under
    names ending in `R`; those for plain values (`ValueOk`) are their instances at `of_valueOk`. -/
def StorOk (T : Nat) (v : Elem) : Prop :=
  1 ≤ v.size ∧ ((∃ n, v.pay = .val n) ∨ v.size ≤ maxInlineArr T)

theorem StorOk.of_valueOk {T : Nat} {v : Elem} (h : ValueOk v) : StorOk T v := ⟨h.1, Or.inl h.2⟩
theorem StorOk.of_elemOk {T : Nat} {v : Elem} (h : ElemOk T v) : StorOk T v := ⟨h.1, Or.inr h.2⟩

theorem toStorable_fit (T addr : Nat) (e : Elem) (c : Ctx) (h : e.size ≤ maxInlineArr T) :
    toStorable T addr e c = (e, c) := by
  unfold toStorable
  split
  · rfl
  · rw [if_neg (by omega)]

theorem toStorable_okR (T addr : Nat) (hT : legalThreshold T = true) (v : Elem) (c : Ctx)
    (hv : StorOk T v) : ElemOk T (toStorable T addr v c).1 := by
  obtain ⟨h1, h2⟩ := hv
  rcases h2 with ⟨n, hn⟩ | h2
  · exact toStorable_ok T addr hT v c ⟨h1, n, hn⟩
  · rw [toStorable_fit T addr v c h2]; exact ⟨h1, h2⟩

/-- Facts about a non-inlined data slab, without the size band. -/
structure DShape (T : Nat) (top : Bool) (s : DataSlab) : Prop where
  count_eq : s.hdr.count = s.elems.length
  size_eq  : s.hdr.size = s.prefixSize + sumSizes s.elems
  elems_ok : ∀ e ∈ s.elems, ElemOk T e
  root_eq  : s.root = top
  not_inl  : s.inlined = false

theorem DShape.prefix_false {T : Nat} {s : DataSlab} (h : DShape T false s) :
    s.prefixSize = arrayDataSlabPrefixSize := by
  simp [DataSlab.prefixSize, h.root_eq, h.not_inl]

theorem DShape.prefix_true {T : Nat} {s : DataSlab} (h : DShape T true s) :
    s.prefixSize = arrayRootDataSlabPrefixSize := by
  simp [DataSlab.prefixSize, h.root_eq, h.not_inl]

theorem DShape.prefix_le {T : Nat} {top : Bool} {s : DataSlab} (h : DShape T top s) :
    arrayRootDataSlabPrefixSize ≤ s.prefixSize ∧ s.prefixSize ≤ arrayDataSlabPrefixSize := by
  cases top
  · rw [h.prefix_false]; simp [arrayRootDataSlabPrefixSize, arrayDataSlabPrefixSize]
  · rw [h.prefix_true]; simp [arrayRootDataSlabPrefixSize, arrayDataSlabPrefixSize]

theorem dataInv_iff (T : Nat) (top : Bool) (s : DataSlab) :
    (DataInv T top s ∧ s.inlined = false) ↔
      (DShape T top s ∧ s.hdr.size ≤ maxThr T ∧ (top = false → minThr T ≤ s.hdr.size)) := by
  constructor
  · rintro ⟨h, hi⟩
    exact ⟨⟨h.count_eq, h.size_eq, h.elems_ok, h.root_eq, hi⟩, h.le_max, h.ge_min⟩
  · rintro ⟨h, h1, h2⟩
    exact ⟨⟨h.count_eq, h.size_eq, h.elems_ok, h.root_eq, by simp [h.not_inl], h1, h2⟩, h.not_inl⟩

theorem DataInv.not_inl_of_false {T : Nat} {s : DataSlab} (h : DataInv T false s) :
    s.inlined = false := by
  cases hi : s.inlined
  · rfl
  · exact absurd (h.inl_root hi) (by simp)

theorem dataInv_false_iff (T : Nat) (s : DataSlab) :
    DataInv T false s ↔ (DShape T false s ∧ minThr T ≤ s.hdr.size ∧ s.hdr.size ≤ maxThr T) := by
  constructor
  · intro h
    have := (dataInv_iff T false s).1 ⟨h, h.not_inl_of_false⟩
    exact ⟨this.1, this.2.2 rfl, this.2.1⟩
  · rintro ⟨h, h1, h2⟩
    exact ((dataInv_iff T false s).2 ⟨h, h2, fun _ => h1⟩).1

theorem sumSizes_set (es : List Elem) (i : Nat) (e old : Elem) (h : es[i]? = some old) :
    sumSizes (es.set i e) + old.size = sumSizes es + e.size := by
  obtain ⟨A, B, rfl, hk⟩ := split_at h
  rw [set_at hk]
  simp only [sumSizes_append, sumSizes_cons]; omega

theorem sumSizes_insertIdx (es : List Elem) (i : Nat) (e : Elem) (h : i ≤ es.length) :
    sumSizes (es.insertIdx i e) = sumSizes es + e.size := by
  have : es = es.take i ++ es.drop i := (List.take_append_drop i es).symm
  rw [this, insert_at (by simp [h])]
  simp only [sumSizes_append, sumSizes_cons]; omega

theorem sumSizes_eraseIdx (es : List Elem) (i : Nat) (old : Elem) (h : es[i]? = some old) :
    sumSizes (es.eraseIdx i) + old.size = sumSizes es := by
  obtain ⟨A, B, rfl, hk⟩ := split_at h
  rw [erase_at hk]
  simp only [sumSizes_append, sumSizes_cons]; omega

namespace DataSlab

theorem get_spec (s : DataSlab) (i : Nat) :
    (i < s.elems.length → s.get i = .ok (s.elems.getD i default)) ∧
    (s.elems.length ≤ i → s.get i = .error .indexOutOfBounds) := by
  unfold get
  constructor
  · intro h
    rw [List.getD_eq_getElem?_getD, List.getElem?_eq_getElem h]; rfl
  · intro h
    rw [List.getElem?_eq_none h]

theorem set_err (T : Nat) (s : DataSlab) (i : Nat) (v : Elem) (c : Ctx) (h : s.elems.length ≤ i) :
    s.set T i v c = .error .indexOutOfBounds := by
  unfold set
  rw [List.getElem?_eq_none h]

/-- the only way `Set` on a data slab fails -/
theorem set_err_inv {T : Nat} {s : DataSlab} {i : Nat} {v : Elem} {c : Ctx} {e : AErr}
    (h : s.set T i v c = .error e) : e = .indexOutOfBounds := by
  unfold set at h
  split at h
  · cases h; rfl
  · cases h

theorem set_specR (T : Nat) (hT : legalThreshold T = true) (top : Bool) (s : DataSlab) (i : Nat)
    (v : Elem) (c : Ctx) (hs : DShape T top s) (hv : StorOk T v) (hi : i < s.elems.length) :
    ∃ s' c', s.set T i v c = .ok (s.elems.getD i default, s', c') ∧
      DShape T top s' ∧
      s'.elems = s.elems.set i (toStorable T s.hdr.id.addr v c).1 ∧
      s'.hdr.id = s.hdr.id ∧ s'.next = s.next ∧ s'.hdr.count = s.hdr.count ∧
      s'.hdr.size + (s.elems.getD i default).size
        = s.hdr.size + (toStorable T s.hdr.id.addr v c).1.size ∧
      (s.elems.getD i default).size ≤ maxInlineArr T ∧
      (toStorable T s.hdr.id.addr v c).1.size ≤ maxInlineArr T ∧
      c.ctr ≤ c'.ctr := by
  have hget : s.elems[i]? = some (s.elems.getD i default) := by
    rw [List.getD_eq_getElem?_getD, List.getElem?_eq_getElem hi]; rfl
  have hold : ElemOk T (s.elems.getD i default) := by
    apply hs.elems_ok
    rw [List.getD_eq_getElem?_getD, List.getElem?_eq_getElem hi]
    simp
  have hnew := toStorable_okR T s.hdr.id.addr hT v c hv
  unfold set
  rw [hget]
  simp only
  refine ⟨_, _, rfl, ?_, rfl, rfl, rfl, rfl, ?_, hold.2, hnew.2, ?_⟩
  · constructor
    · simp [hs.count_eq]
    · simp [prefixSize]
    · intro e he
      rcases List.mem_or_eq_of_mem_set he with h | h
      · exact hs.elems_ok e h
      · rw [h]; exact hnew
    · exact hs.root_eq
    · exact hs.not_inl
  · have := sumSizes_set s.elems i (toStorable T s.hdr.id.addr v c).1 _ hget
    have h2 := hs.size_eq
    simp only [prefixSize] at h2 ⊢
    rw [h2, Nat.add_assoc, this, Nat.add_assoc]
  · simp only [storeIfNotInlined_ctr]
    exact toStorable_ctr_le _ _ _ _

theorem set_spec (T : Nat) (hT : legalThreshold T = true) (top : Bool) (s : DataSlab) (i : Nat)
    (v : Elem) (c : Ctx) (hs : DShape T top s) (hv : ValueOk v) (hi : i < s.elems.length) :
    ∃ s' c', s.set T i v c = .ok (s.elems.getD i default, s', c') ∧
      DShape T top s' ∧
      s'.elems = s.elems.set i (toStorable T s.hdr.id.addr v c).1 ∧
      s'.hdr.id = s.hdr.id ∧ s'.next = s.next ∧ s'.hdr.count = s.hdr.count ∧
      s'.hdr.size + (s.elems.getD i default).size
        = s.hdr.size + (toStorable T s.hdr.id.addr v c).1.size ∧
      (s.elems.getD i default).size ≤ maxInlineArr T ∧
      (toStorable T s.hdr.id.addr v c).1.size ≤ maxInlineArr T ∧
      c.ctr ≤ c'.ctr :=
  set_specR T hT top s i v c hs (.of_valueOk hv) hi

theorem insert_err (T : Nat) (s : DataSlab) (i : Nat) (v : Elem) (c : Ctx) (h : s.elems.length < i) :
    s.insert T i v c = .error .indexOutOfBounds := by
  unfold insert
  simp [h]

theorem insert_specR (T : Nat) (hT : legalThreshold T = true) (top : Bool) (s : DataSlab) (i : Nat)
    (v : Elem) (c : Ctx) (hs : DShape T top s) (hv : StorOk T v) (hi : i ≤ s.elems.length) :
    ∃ s' c', s.insert T i v c = .ok (s', c') ∧
      DShape T top s' ∧
      s'.elems = s.elems.insertIdx i (toStorable T s.hdr.id.addr v c).1 ∧
      s'.hdr.id = s.hdr.id ∧ s'.next = s.next ∧ s'.hdr.count = s.hdr.count + 1 ∧
      s'.hdr.size = s.hdr.size + (toStorable T s.hdr.id.addr v c).1.size ∧
      (toStorable T s.hdr.id.addr v c).1.size ≤ maxInlineArr T ∧
      c.ctr ≤ c'.ctr := by
  have hnew := toStorable_okR T s.hdr.id.addr hT v c hv
  unfold insert
  have : ¬ i > s.elems.length := Nat.not_lt.2 hi
  simp only [this, if_false]
  refine ⟨_, _, rfl, ?_, rfl, rfl, rfl, rfl, rfl, hnew.2, ?_⟩
  · constructor
    · simp [hs.count_eq, List.length_insertIdx, hi]
    · have := sumSizes_insertIdx s.elems i (toStorable T s.hdr.id.addr v c).1 hi
      have h2 := hs.size_eq
      simp only [prefixSize] at h2 ⊢
      rw [this, h2, Nat.add_assoc]
    · intro e he
      rcases (List.mem_insertIdx hi).1 he with h | h
      · rw [h]; exact hnew
      · exact hs.elems_ok e h
    · exact hs.root_eq
    · exact hs.not_inl
  · simp only [storeIfNotInlined_ctr]
    exact toStorable_ctr_le _ _ _ _

theorem insert_spec (T : Nat) (hT : legalThreshold T = true) (top : Bool) (s : DataSlab) (i : Nat)
    (v : Elem) (c : Ctx) (hs : DShape T top s) (hv : ValueOk v) (hi : i ≤ s.elems.length) :
    ∃ s' c', s.insert T i v c = .ok (s', c') ∧
      DShape T top s' ∧
      s'.elems = s.elems.insertIdx i (toStorable T s.hdr.id.addr v c).1 ∧
      s'.hdr.id = s.hdr.id ∧ s'.next = s.next ∧ s'.hdr.count = s.hdr.count + 1 ∧
      s'.hdr.size = s.hdr.size + (toStorable T s.hdr.id.addr v c).1.size ∧
      (toStorable T s.hdr.id.addr v c).1.size ≤ maxInlineArr T ∧
      c.ctr ≤ c'.ctr :=
  insert_specR T hT top s i v c hs (.of_valueOk hv) hi

theorem remove_err (s : DataSlab) (i : Nat) (c : Ctx) (h : s.elems.length ≤ i) :
    s.remove i c = .error .indexOutOfBounds := by
  unfold remove
  rw [List.getElem?_eq_none h]

theorem remove_spec (T : Nat) (top : Bool) (s : DataSlab) (i : Nat)
    (c : Ctx) (hs : DShape T top s) (hi : i < s.elems.length) :
    ∃ s' c', s.remove i c = .ok (s.elems.getD i default, s', c') ∧
      DShape T top s' ∧
      s'.elems = s.elems.eraseIdx i ∧
      s'.hdr.id = s.hdr.id ∧ s'.next = s.next ∧ s'.hdr.count + 1 = s.hdr.count ∧
      s'.hdr.size + (s.elems.getD i default).size = s.hdr.size ∧
      (s.elems.getD i default).size ≤ maxInlineArr T ∧
      c'.ctr = c.ctr := by
  have hget : s.elems[i]? = some (s.elems.getD i default) := by
    rw [List.getD_eq_getElem?_getD, List.getElem?_eq_getElem hi]; rfl
  have hold : ElemOk T (s.elems.getD i default) := by
    apply hs.elems_ok
    rw [List.getD_eq_getElem?_getD, List.getElem?_eq_getElem hi]
    simp
  have hsum := sumSizes_eraseIdx s.elems i _ hget
  unfold remove
  rw [hget]
  simp only
  refine ⟨_, _, rfl, ?_, rfl, rfl, rfl, ?_, ?_, hold.2, ?_⟩
  · constructor
    · simp [hs.count_eq, List.length_eraseIdx, hi]
    · have h2 := hs.size_eq
      simp only [prefixSize] at h2 ⊢
      rw [h2, ← hsum, ← Nat.add_assoc, Nat.add_sub_cancel]
    · intro e he
      exact hs.elems_ok e (List.mem_of_mem_eraseIdx he)
    · exact hs.root_eq
    · exact hs.not_inl
  · refine Nat.sub_add_cancel ?_
    rw [hs.count_eq]
    exact Nat.succ_le_of_lt (Nat.lt_of_le_of_lt (Nat.zero_le _) hi)
  · refine Nat.sub_add_cancel ?_
    rw [hs.size_eq, ← hsum]
    exact Nat.le_trans (Nat.le_add_left _ _) (Nat.le_add_left _ _)
  · simp

theorem two_le_of_full (T : Nat) (hT : legalThreshold T = true) (s : DataSlab)
    (hs : s.hdr.size ≤ arrayDataSlabPrefixSize + sumSizes s.elems) (he : ∀ e ∈ s.elems, ElemOk T e)
    (hfull : T ≤ s.hdr.size) : 2 ≤ s.elems.length := by
  have F := thrFacts hT
  obtain ⟨f1, f2, f3, f4, f5, f6, f7, f8, f9⟩ := F
  match hel : s.elems with
  | [] => rw [hel] at hs; simp only [sumSizes_nil] at hs; omega
  | [e] =>
    rw [hel] at hs he
    have := (he e (by simp)).2
    simp only [sumSizes_cons, sumSizes_nil] at hs; omega
  | _ :: _ :: _ => simp

theorem DataInv.of_parts {T : Nat} {s : DataSlab} (hroot : s.root = false)
    (hinl : s.inlined = false) (hc : s.hdr.count = s.elems.length)
    (hsz : s.hdr.size = arrayDataSlabPrefixSize + sumSizes s.elems)
    (hok : ∀ e ∈ s.elems, ElemOk T e) (hmin : minThr T ≤ s.hdr.size)
    (hmax : s.hdr.size ≤ maxThr T) : DataInv T false s :=
  (dataInv_false_iff T s).2
    ⟨⟨hc, by rw [hsz, prefixSize, hinl, hroot]; rfl, hok, hroot, hinl⟩, hmin, hmax⟩

theorem split_spec (T : Nat) (hT : legalThreshold T = true) (s : DataSlab) (c : Ctx)
    (hs : DShape T false s)
    (hlo : maxThr T < s.hdr.size) (hhi : s.hdr.size ≤ maxThr T + maxInlineArr T + 16) :
    ∃ l r, s.split c = .ok (l, r, (c.alloc s.hdr.id.addr).2) ∧
      DataInv T false l ∧ DataInv T false r ∧ l.elems ++ r.elems = s.elems ∧
      l.hdr.id = s.hdr.id ∧ r.hdr.id = ⟨s.hdr.id.addr, c.ctr + 1⟩ ∧
      l.next = r.hdr.id ∧ r.next = s.next ∧
      l.hdr.count + r.hdr.count = s.hdr.count := by
  have hsz := hs.size_eq
  rw [hs.prefix_false] at hsz
  have hlen : ¬ s.elems.length < 2 :=
    Nat.not_lt.mpr (two_le_of_full T hT s (Nat.le_of_eq hsz) hs.elems_ok
      (by have := (arrBand hT).max_ge; omega))
  have hD : s.hdr.size - arrayDataSlabPrefixSize = sumSizes s.elems := by
    rw [hsz]; exact Nat.add_sub_cancel_left _ _
  have hpos : 0 < (s.hdr.size - arrayDataSlabPrefixSize + 1) / 2 := by
    have b := arrBand hT
    have := b.lo; have := b.max_ge
    have : arrayDataSlabPrefixSize = 21 := rfl
    omega
  obtain ⟨k, x, y, c, hloop, hb1, hb2⟩ :=
    HkeyElems.splitLoop_cut ((s.hdr.size - arrayDataSlabPrefixSize + 1) / 2)
      (s.hdr.size - arrayDataSlabPrefixSize) (maxInlineArr T) rfl (s.elems.map Elem.size) 0 0
      (sizes_le fun e he => (hs.elems_ok e he).2) (by rw [Nat.zero_add, hD]; rfl) hpos
  simp only [Nat.zero_add] at hloop hb1 hb2
  obtain ⟨hk, hx, hy, hxy⟩ := sizes_cut c
  rw [hD, ← hxy] at hb1 hb2
  rw [hsz, ← hxy] at hlo hhi
  obtain ⟨a1, a2, a4, a5⟩ := (arrBand hT).split hlo hhi hb1 hb2
  have a3 : arrayDataSlabPrefixSize + (s.hdr.size - arrayDataSlabPrefixSize) - x = arrayDataSlabPrefixSize + y := by
    rw [hD, ← hxy, Nat.add_sub_assoc (Nat.le_add_right x y), Nat.add_sub_cancel_left]
  unfold split
  rw [if_neg hlen]
  simp only [splitLoop_eq, hloop, a3]
  refine ⟨_, _, rfl, ?_, ?_, List.take_append_drop k s.elems, rfl, rfl, rfl, rfl, ?_⟩
  · exact DataInv.of_parts hs.root_eq hs.not_inl (List.length_take_of_le hk).symm (congrArg _ hx.symm)
      (fun e he => hs.elems_ok e (List.mem_of_mem_take he)) a1 a2
  · exact DataInv.of_parts rfl rfl rfl (congrArg _ hy.symm)
      (fun e he => hs.elems_ok e (List.mem_of_mem_drop he)) a4 a5
  · dsimp only
    rw [List.length_drop, hs.count_eq]
    exact Nat.add_sub_cancel' hk

theorem merge_spec (T : Nat) (l r : DataSlab) (hl : DShape T false l) (hr : DShape T false r) :
    DShape T false (merge l r) ∧ (merge l r).elems = l.elems ++ r.elems ∧
      (merge l r).hdr.id = l.hdr.id ∧ (merge l r).next = r.next ∧
      (merge l r).hdr.count = l.hdr.count + r.hdr.count ∧
      (merge l r).hdr.size + arrayDataSlabPrefixSize = l.hdr.size + r.hdr.size := by
  have h1 := hl.size_eq
  have h2 := hr.size_eq
  rw [hl.prefix_false] at h1
  rw [hr.prefix_false] at h2
  refine ⟨⟨?_, ?_, ?_, hl.root_eq, hl.not_inl⟩, rfl, rfl, rfl, rfl, ?_⟩
  · simp [merge, hl.count_eq, hr.count_eq]
  · simp only [merge, prefixSize, hl.root_eq, hl.not_inl, Bool.false_eq_true, if_false,
      sumSizes_append]
    omega
  · intro e he
    simp only [merge, List.mem_append] at he
    rcases he with he | he
    · exact hl.elems_ok e he
    · exact hr.elems_ok e he
  · simp only [merge]; omega

theorem canLendToLeft_true {T : Nat} {s : DataSlab} {want : Nat}
    (h : s.canLendToLeft T want = true) : canLendLoop T s.hdr.size want s.elems 0 = true := by
  unfold canLendToLeft at h
  split at h
  · cases h
  · split at h
    · cases h
    · exact h

theorem canLendToRight_true {T : Nat} {s : DataSlab} {want : Nat}
    (h : s.canLendToRight T want = true) :
    canLendLoop T s.hdr.size want s.elems.reverse 0 = true := by
  unfold canLendToRight at h
  split at h
  · cases h
  · split at h
    · cases h
    · exact h

/-- A sibling that cannot lend `want` bytes is small. -/
theorem cannot_lend_bound (T : Nat) (s : DataSlab) (want : Nat)
    (hs : DShape T false s) (hw : 1 ≤ want) (rev : Bool)
    (hc : (if rev then s.canLendToRight T want else s.canLendToLeft T want) = false) :
    s.hdr.size < minThr T + want + maxInlineArr T + arrayDataSlabPrefixSize := by
  have hsz := hs.size_eq
  rw [hs.prefix_false] at hsz
  cases rev
  · rw [if_neg (by simp), canLendToLeft, canLendLoop_eq] at hc
    exact HkeyElems.cannot_lend_lt (sizes_le fun e he => (hs.elems_ok e he).2) hsz (List.length_map _).symm hw hc
  · rw [if_pos rfl, canLendToRight, canLendLoop_eq] at hc
    refine HkeyElems.cannot_lend_lt (sizes_le fun e he => (hs.elems_ok e (List.mem_reverse.mp he)).2) ?_
      (by rw [List.length_map, List.length_reverse]) hw hc
    rw [hsz, ← sumSizes_reverse]; rfl

/-- Re-dividing the elements of two adjacent slabs (`LendToRight`, `BorrowFromRight`): two slabs whose
    headers agree with their contents, which together hold the same elements and each reach the
    lower threshold, are valid when the old sizes together are at most `minThr + maxThr`.  The new
    total is the old one by the `++` equation, so no caller computes the sum of a `take` or `drop`. -/
theorem recut_inv {T : Nat} {l r l' r' : DataSlab} (hl : DShape T false l) (hr : DShape T false r)
    (he : l'.elems ++ r'.elems = l.elems ++ r.elems)
    (hl' : l'.root = false ∧ l'.inlined = false ∧ l'.hdr.count = l'.elems.length ∧
      l'.hdr.size = arrayDataSlabPrefixSize + sumSizes l'.elems)
    (hr' : r'.root = false ∧ r'.inlined = false ∧ r'.hdr.count = r'.elems.length ∧
      r'.hdr.size = arrayDataSlabPrefixSize + sumSizes r'.elems)
    (hm1 : minThr T ≤ l'.hdr.size) (hm2 : minThr T ≤ r'.hdr.size)
    (htot : l.hdr.size + r.hdr.size ≤ minThr T + maxThr T) :
    DataInv T false l' ∧ DataInv T false r' ∧ l'.hdr.count + r'.hdr.count = l.hdr.count + r.hdr.count := by
  have hsl := hl.size_eq
  rw [hl.prefix_false] at hsl
  have hsr := hr.size_eq
  rw [hr.prefix_false] at hsr
  have hs := congrArg sumSizes he
  have hc := congrArg List.length he
  rw [sumSizes_append, sumSizes_append] at hs
  rw [List.length_append, List.length_append, ← hl'.2.2.1, ← hr'.2.2.1, ← hl.count_eq, ← hr.count_eq] at hc
  have hok : ∀ e, e ∈ l'.elems ++ r'.elems → ElemOk T e := by
    rw [he]; intro e h
    exact (List.mem_append.mp h).elim (hl.elems_ok e) (hr.elems_ok e)
  obtain ⟨u1, u2⟩ := band_of_min (M := maxThr T) hm1 hm2 (by rw [hl'.2.2.2, hr'.2.2.2]; omega)
  exact ⟨DataInv.of_parts hl'.1 hl'.2.1 hl'.2.2.1 hl'.2.2.2 (fun e h => hok e (List.mem_append_left _ h)) hm1 u1,
    DataInv.of_parts hr'.1 hr'.2.1 hr'.2.2.1 hr'.2.2.2 (fun e h => hok e (List.mem_append_right _ h)) hm2 u2, hc⟩

/-- the count arithmetic of `lendToRight` / `borrowFromRight` (the model recomputes `keep` / `move`
    from the header counts) -/
theorem lend_counts {cl cr n : Nat} (hn : n ≤ cl) :
    cl - (cl - n) = n ∧ cl + cr - n = cl - n + cr := by omega

theorem lendToRight_spec (T : Nat) (l r : DataSlab)
    (hl : DataInv T false l) (hr : DShape T false r) (hu : r.hdr.size < minThr T)
    (hcan : l.canLendToRight T (minThr T - r.hdr.size) = true) :
    DataInv T false (lendToRight T l r).1 ∧ DataInv T false (lendToRight T l r).2 ∧
    (lendToRight T l r).1.elems ++ (lendToRight T l r).2.elems = l.elems ++ r.elems ∧
    (lendToRight T l r).1.hdr.id = l.hdr.id ∧ (lendToRight T l r).2.hdr.id = r.hdr.id ∧
    (lendToRight T l r).1.next = l.next ∧ (lendToRight T l r).2.next = r.next ∧
    (lendToRight T l r).1.hdr.count + (lendToRight T l r).2.hdr.count
      = l.hdr.count + r.hdr.count := by
  obtain ⟨hl, hl1, hl2⟩ := (dataInv_false_iff T l).1 hl
  have hsl := hl.size_eq
  rw [hl.prefix_false] at hsl
  have hcan' := canLendToRight_true hcan
  rw [canLendLoop_eq, List.map_reverse] at hcan'
  obtain ⟨n, x, y, c, heq, hsz, c1, c2⟩ := HkeyElems.lendLoop_cut (l.elems.map Elem.size) hcan' (Nat.sub_pos_of_lt hu)
    hsl rfl (Nat.add_sub_cancel' (Nat.le_of_lt hu)) (hsl ▸ Nat.le_add_left _ _) (Nat.le_of_eq (Nat.add_comm _ _))
  obtain ⟨hn, hx, hy, -⟩ := sizes_cut c
  rw [List.length_map, ← hl.count_eq] at heq
  rw [← hl.count_eq] at hn
  obtain ⟨k1, k2⟩ := lend_counts (cr := r.hdr.count) hn
  have k1' : l.elems.length - (l.hdr.count - n) = n := by rw [← hl.count_eq]; exact k1
  -- every arithmetic fact is in hand BEFORE the model is unfolded, as a lemma about variables or an
  -- explicit term: `omega` below this line would work in a context holding both result slabs as
  -- records and costs ten times the whole proof
  have P : lendToRight T l r =
      ({ l with elems := l.elems.take n, hdr := { l.hdr with size := arrayDataSlabPrefixSize + x, count := n } },
       { r with elems := l.elems.drop n ++ r.elems,
                hdr := { r.hdr with size := r.hdr.size + y, count := l.hdr.count - n + r.hdr.count } }) := by
    simp only [lendToRight, lendLoop_eq, List.map_reverse, heq, hsz, k1', k2]
  have e : l.elems.take n ++ (l.elems.drop n ++ r.elems) = l.elems ++ r.elems := by
    rw [← List.append_assoc, List.take_append_drop]
  have Q := recut_inv (l' := (lendToRight T l r).1) (r' := (lendToRight T l r).2) hl hr
  rw [P] at Q ⊢
  dsimp only at Q
  obtain ⟨g1, g2, g3⟩ := Q e
    ⟨hl.root_eq, hl.not_inl, (List.length_take_of_le (hl.count_eq ▸ hn)).symm, congrArg _ hx.symm⟩
    ⟨hr.root_eq, hr.not_inl,
      by rw [List.length_append, List.length_drop, hl.count_eq, hr.count_eq],
      by rw [sumSizes_append, hy, hr.size_eq, hr.prefix_false, Nat.add_assoc, Nat.add_comm y]⟩
    c1 c2 (Nat.le_trans (Nat.add_le_add hl2 (Nat.le_of_lt hu)) (Nat.le_of_eq (Nat.add_comm _ _)))
  exact ⟨g1, g2, e, rfl, rfl, rfl, rfl, g3⟩

theorem borrowFromRight_spec (T : Nat) (l r : DataSlab)
    (hl : DShape T false l) (hr : DataInv T false r) (hu : l.hdr.size < minThr T)
    (hcan : r.canLendToLeft T (minThr T - l.hdr.size) = true) :
    DataInv T false (borrowFromRight T l r).1 ∧ DataInv T false (borrowFromRight T l r).2 ∧
    (borrowFromRight T l r).1.elems ++ (borrowFromRight T l r).2.elems = l.elems ++ r.elems ∧
    (borrowFromRight T l r).1.hdr.id = l.hdr.id ∧ (borrowFromRight T l r).2.hdr.id = r.hdr.id ∧
    (borrowFromRight T l r).1.next = l.next ∧ (borrowFromRight T l r).2.next = r.next ∧
    (borrowFromRight T l r).1.hdr.count + (borrowFromRight T l r).2.hdr.count
      = l.hdr.count + r.hdr.count := by
  obtain ⟨hr, hr1, hr2⟩ := (dataInv_false_iff T r).1 hr
  have hsr := hr.size_eq
  rw [hr.prefix_false] at hsr
  have hcan' := canLendToLeft_true hcan
  rw [canLendLoop_eq] at hcan'
  obtain ⟨n, x, y, c, heq, hsz, c1, c2⟩ := HkeyElems.borrowLoop_cut (lc := l.hdr.count) (r.elems.map Elem.size) hcan'
    (Nat.sub_pos_of_lt hu) hsr rfl (Nat.add_sub_cancel' (Nat.le_of_lt hu)) (hsr ▸ Nat.le_add_left _ _)
    (Nat.le_of_eq (Nat.add_comm _ _))
  obtain ⟨hn, hx, hy, -⟩ := sizes_cut c
  have P : borrowFromRight T l r =
      ({ l with elems := l.elems ++ r.elems.take n, hdr := { l.hdr with size := l.hdr.size + x, count := l.hdr.count + n } },
       { r with elems := r.elems.drop n,
                hdr := { r.hdr with size := arrayDataSlabPrefixSize + y, count := r.hdr.count - n } }) := by
    simp only [borrowFromRight, borrowLoop_eq, heq, hsz, Nat.add_sub_cancel_left, Nat.add_sub_add_left]
  have e : l.elems ++ r.elems.take n ++ r.elems.drop n = l.elems ++ r.elems := by
    rw [List.append_assoc, List.take_append_drop]
  have Q := recut_inv (l' := (borrowFromRight T l r).1) (r' := (borrowFromRight T l r).2) hl hr
  rw [P] at Q ⊢
  dsimp only at Q
  obtain ⟨g1, g2, g3⟩ := Q e
    ⟨hl.root_eq, hl.not_inl,
      by rw [List.length_append, List.length_take_of_le hn, hl.count_eq],
      by rw [sumSizes_append, hx, hl.size_eq, hl.prefix_false, Nat.add_assoc]⟩
    ⟨hr.root_eq, hr.not_inl, by rw [List.length_drop, hr.count_eq],
      congrArg _ hy.symm⟩
    c1 c2 (Nat.add_le_add (Nat.le_of_lt hu) hr2)
  exact ⟨g1, g2, e, rfl, rfl, rfl, rfl, g3⟩

end DataSlab
end Atree

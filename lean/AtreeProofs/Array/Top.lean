import AtreeProofs.Array.TreeOps
import AtreeProofs.Array.RootFix
/-
  Top level: `Arr.splitRoot`, `Arr.promoteIfSingleChild` restore the root conditions;
  specifications of `Arr.insert / set / remove` (`arr_*_okR`, which also say that the slab-ID
  counter does not go back; `arr_*_ok` drop that clause) and their out-of-range errors; the invariant
  after `Arr.new` and `Arr.setType`; `arr_get_spec`.
  `insert_stepOk` / `set_stepOk` / `remove_stepOk`: a run known to have succeeded was in range and
  is the one the tree-level specification describes, so its result is a `StepOk` successor.
-/
namespace Atree
open Gen ATree MetaSlab

variable {T : Nat}

theorem isInlined_iff (d : Nat) (t : ATree d) (ty : Nat) :
    (⟨d, t, ty⟩ : Arr).isInlined = false ↔ NotInl d t := by
  cases d with
  | zero => exact Iff.rfl
  | succ d => exact ⟨fun _ => trivial, fun _ => rfl⟩

theorem Shape.notInl {top : Bool} : ∀ {d : Nat} {t : ATree d}, Shape T d top t → NotInl d t
  | 0, t, h => by
    revert h; refine forall_ofData ?_ t; intro s h
    exact ((shape_zero T top s).1 h).not_inl
  | _ + 1, _, _ => trivial

theorem arrInv_of_shape {d : Nat} {t : ATree d} {ty ctr : Nat} (hs : Shape T d true t)
    (hmax : (hdr d t).size ≤ maxThr T) (hk : TopKids d t)
    (hchain : LeafChain (Arr.leaves d t)) (hids : IdsOk (hdr d t).id.addr ctr (slabIds d t))
    (hcnt : (hdr d t).count < maxArrayElementCount + 1) : ArrInv T ⟨d, t, ty⟩ ctr :=
  ⟨((treeInv_iff T d true t).2 ⟨hs, hmax, by simp, fun _ => hk⟩).1, hchain, hids,
    (isInlined_iff d t ty).2 hs.notInl, hcnt⟩

theorem ArrInv.shape {d : Nat} {t : ATree d} {ty ctr : Nat} (h : ArrInv T ⟨d, t, ty⟩ ctr) :
    Shape T d true t := h.tree.shape ((isInlined_iff d t ty).1 h.standalone)

theorem ArrInv.notInl {d : Nat} {t : ATree d} {ty ctr : Nat} (h : ArrInv T ⟨d, t, ty⟩ ctr) :
    NotInl d t := (isInlined_iff d t ty).1 h.standalone

theorem repl_single_ids {d : Nat} {t t' : ATree d} {c c' : Nat} (h : Repl d [t] [t'] c c')
    (addr : Nat) (hids : IdsOk addr c (slabIds d t)) : IdsOk addr c' (slabIds d t') := by
  have := (h.ids addr (by simpa using hids)).1
  simpa using this

/-- IDs of the parent right after the child at position `A.length` was replaced -/
theorem ids_after_child {d : Nat} {m m1 : MetaSlab (ATree d)} {A B : List (ATree d)} {child child' : ATree d}
    {c c1 addr : Nat}
    (hch : m.children = A ++ child :: B) (hch1 : m1.children = A ++ child' :: B)
    (hid : m1.hdr.id = m.hdr.id) (hrepl : Repl d [child] [child'] c c1)
    (hids : IdsOk addr c (slabIds (d + 1) (ofMeta m))) :
    IdsOk addr c1 (slabIds (d + 1) (ofMeta m1)) := by
  have h1 : Repl d m.children m1.children c c1 := by
    have := hrepl.ctx A B
    simpa [hch, hch1] using this
  exact repl_single_ids (h1.lift hid) addr hids

theorem repl_single_chain {d : Nat} {t t' : ATree d} {c c' : Nat} (h : Repl d [t] [t'] c c')
    (hc : LeafChain (Arr.leaves d t)) : LeafChain (Arr.leaves d t') := by
  have := h.chain
  simp only [List.flatMap_cons, List.flatMap_nil, List.append_nil] at this
  exact this.leafChain hc

/-- the only child re-sized as a root slab (what `promoteChildAsNewRoot` does) -/
def adjProm : (d : Nat) → ATree d → ATree d
  | 0, (s : DataSlab) =>
    ofData { s with hdr := { s.hdr with size := s.hdr.size - arrayDataSlabPrefixSize + arrayRootDataSlabPrefixSize } }
  | _ + 1, m => m

theorem promote_zero (t : ATree 0) (ty : Nat) (c : Ctx) :
    Arr.promoteIfSingleChild ⟨0, t, ty⟩ c = (⟨0, t, ty⟩, c) := rfl

theorem promote_single (d : Nat) (m : MetaSlab (ATree d)) (ty : Nat) (c : Ctx) (h : Hdr) (child : ATree d)
    (hh : m.childHdrs = [h]) (hc : m.children = [child]) :
    Arr.promoteIfSingleChild ⟨d + 1, ofMeta m, ty⟩ c =
      (⟨d, setRoot d (setId d (adjProm d child) m.hdr.id) true, ty⟩,
        (c.emit (.store m.hdr.id)).emit (.remove h.id)) := by
  unfold Arr.promoteIfSingleChild ofMeta
  simp only [hh, hc]
  cases d with
  | zero => rfl
  | succ d => rfl

/-- the root `splitRoot` builds over two valid halves is a valid top index slab -/
theorem mkRoot_shape (hT : legalThreshold T = true) {d : Nat} {rid : SlabID} {l r : ATree d}
    (hl : TreeInv T d false l) (hr : TreeInv T d false r)
    (haddr : ∀ x ∈ [l, r], (hdr d x).id.addr = rid.addr) :
    TreeInv T (d + 1) true (ofMeta (mkRoot rid l r)) := by
  refine (treeInv_succ T d true _).2
    ⟨⟨rfl, rfl, ?_, ?_, rfl, ?_, haddr⟩, ?_, fun h => Bool.noConfusion h, fun _ => Nat.le_refl 2⟩
  · show [(hdr d l).count, (hdr d l).count + (hdr d r).count] = prefixSums [hdr d l, hdr d r] 0
    rw [prefixSums_cons, prefixSums_cons, Nat.zero_add]; rfl
  · show (hdr d l).count + (hdr d r).count = sumCounts [hdr d l, hdr d r]
    rw [sumCounts_cons, sumCounts_cons, sumCounts_nil, Nat.add_zero]
  · intro x hx
    rcases List.mem_cons.1 hx with rfl | hx
    · exact hl
    · rw [List.mem_singleton.1 hx]; exact hr
  · have R := thr_rel hT
    exact Nat.le_trans
      (Nat.le_trans (by decide : arrayMetaDataSlabPrefixSize + arraySlabHeaderSize * 2 ≤ 128) R.2.2.2.2)
      (Nat.le_trans (Nat.le_mul_of_pos_left _ (by decide : 0 < 3)) R.1)

/-- facts about the old root slab right before it is split -/
structure OldRoot (T d : Nat) (t old : ATree d) (sid : SlabID) : Prop where
  shape : Shape T d false old
  size_le : (hdr d old).size ≤ (hdr d t).size + 16
  size_ge : (hdr d t).size ≤ (hdr d old).size
  flat : flatten d old = flatten d t
  chain : LeafChain (Arr.leaves d t) → LeafChain (Arr.leaves d old)
  id_eq : (hdr d old).id = sid
  count_eq : (hdr d old).count = (hdr d t).count
  ids : slabIds d old = sid :: (slabIds d t).tail
  ids_t : slabIds d t = (hdr d t).id :: (slabIds d t).tail

theorem oldRoot_spec (hT : legalThreshold T = true) : ∀ (d : Nat) (t : ATree d) (sid : SlabID),
    Shape T d true t → sid.addr = (hdr d t).id.addr →
    OldRoot T d t (setId d (setRoot d (adjSplit d t) false) sid) sid
  | 0, t, sid => by
    refine forall_ofData ?_ t; intro s hs _
    have F := thrFacts hT
    have hs := (shape_zero T true s).1 hs
    have hsz := hs.size_eq
    rw [hs.prefix_true] at hsz
    show OldRoot T 0 (ofData s) (ofData { s with
      hdr := { s.hdr with size := s.hdr.size - arrayRootDataSlabPrefixSize + arrayDataSlabPrefixSize, id := sid },
      root := false }) sid
    refine ⟨(shape_zero T false _).2 ⟨hs.count_eq, ?_, hs.elems_ok, rfl, hs.not_inl⟩, ?_, ?_, rfl, ?_, rfl,
      rfl, rfl, rfl⟩
    · simp only [DataSlab.prefixSize, hs.not_inl, Bool.false_eq_true, if_false]
      have := F.pfx; have := F.rpfx; omega
    · simp only [hdr_zero]; have := F.pfx; have := F.rpfx; omega
    · simp only [hdr_zero]; have := F.pfx; have := F.rpfx; omega
    · simp only [leaves_zero, LeafChain]; exact id
  | d + 1, t, sid => by
    refine forall_ofMeta ?_ t; intro m hs hsid
    have hs := (shape_succ T d true m).1 hs
    show OldRoot T (d + 1) (ofMeta m)
      (ofMeta { m with hdr := { m.hdr with id := sid }, root := false }) sid
    refine ⟨(shape_succ T d false _).2 ⟨rfl, hs.hdrs_eq, hs.sums_eq, hs.count_eq, hs.size_eq, hs.kids_inv, ?_⟩,
      by simp, by simp, rfl, id, rfl, rfl, rfl, rfl⟩
    intro x hx
    rw [hs.kids_addr x hx]; simpa using hsid.symm

theorem splitRoot_spec (hT : legalThreshold T = true) (d : Nat) (t : ATree d) (ty : Nat) (c : Ctx)
    (hs : Shape T d true t) (hlo : maxThr T < (hdr d t).size)
    (hhi : (hdr d t).size ≤ maxThr T + maxInlineArr T)
    (hchain : LeafChain (Arr.leaves d t)) (hids : IdsOk (hdr d t).id.addr c.ctr (slabIds d t))
    (hcnt : (hdr d t).count < maxArrayElementCount + 1) :
    ∃ a2 c2, Arr.splitRoot ⟨d, t, ty⟩ c = .ok (a2, c2) ∧ ArrInv T a2 c2.ctr ∧
      a2.toList = flatten d t ∧ a2.rootID = (hdr d t).id ∧ a2.ty = ty ∧
      (∀ c', a2.promoteIfSingleChild c' = (a2, c')) := by
  have ho := oldRoot_spec hT d t ⟨(hdr d t).id.addr, c.ctr + 1⟩ hs rfl
  obtain ⟨l, r, c2, hsp, hc2, hl, hr, hflat, hlid, hcounts, hrepl⟩ :=
    split_ok hT d _ (c.alloc (hdr d t).id.addr).2 ho.shape (Nat.lt_of_lt_of_le hlo ho.size_ge)
      (Nat.le_trans ho.size_le (Nat.add_le_add_right hhi 16))
  simp only [Ctx.alloc_ctr] at hc2 hrepl
  have hroot_mem : (hdr d t).id ∈ slabIds d t := hdr_id_mem_slabIds d t
  have hroot := hids.2 _ hroot_mem
  -- IDs of the old root
  have hnd : (slabIds d t).Nodup := hids.1
  rw [ho.ids_t] at hnd
  have hidsold : IdsOk (hdr d t).id.addr (c.ctr + 1)
      ([setId d (setRoot d (adjSplit d t) false) ⟨(hdr d t).id.addr, c.ctr + 1⟩].flatMap (slabIds d)) := by
    simp only [List.flatMap_cons, List.flatMap_nil, List.append_nil, ho.ids]
    refine ⟨List.nodup_cons.2 ⟨?_, (List.nodup_cons.1 hnd).2⟩, ?_⟩
    · intro hmem
      exact Nat.not_succ_le_self _ (hids.2 _ (List.mem_of_mem_tail hmem)).2.2
    · intro id hid
      simp only [List.mem_cons] at hid
      rcases hid with rfl | hid
      · exact ⟨rfl, by simp, by simp⟩
      · have := hids.2 id (List.mem_of_mem_tail hid)
        exact ⟨this.1, this.2.1, Nat.le_succ_of_le this.2.2⟩
  obtain ⟨hidsnew, hmemnew⟩ := hrepl.ids _ hidsold
  have haddrs := hrepl.addr (hdr d t).id.addr (by
    intro x hx
    simp only [List.mem_singleton] at hx
    rw [hx, ho.id_eq])
  refine ⟨⟨d + 1, ofMeta (mkRoot (hdr d t).id l r), ty⟩,
    ((c2.emit (.store (hdr d l).id)).emit (.store (hdr d r).id)).emit (.store (hdr d t).id),
    ?_, ?_, ?_, rfl, rfl, ?_⟩
  · rw [splitRoot_eq, hsp]; rfl
  · refine ⟨?_, ?_, ?_, rfl, ?_⟩
    · exact mkRoot_shape hT hl hr haddrs
    · show LeafChain (Arr.leaves (d + 1) (ofMeta (mkRoot (hdr d t).id l r)))
      rw [leaves_succ]
      have := hrepl.chain
      simp only [List.flatMap_cons, List.flatMap_nil, List.append_nil] at this
      have h2 := this.leafChain (ho.chain hchain)
      simpa [mkRoot] using h2
    · show IdsOk (hdr d t).id.addr _ (slabIds (d + 1) (ofMeta (mkRoot (hdr d t).id l r)))
      rw [slabIds_succ]
      have hkids : (mkRoot (hdr d t).id l r).children = [l, r] := rfl
      have hid' : (mkRoot (hdr d t).id l r).hdr.id = (hdr d t).id := rfl
      rw [hkids, hid']
      simp only [Ctx.emit_ctr, hc2]
      refine ⟨List.nodup_cons.2 ⟨?_, hidsnew.1⟩, ?_⟩
      · intro hmem
        rcases hmemnew _ hmem with h1 | h1
        · simp only [List.flatMap_cons, List.flatMap_nil, List.append_nil, ho.ids, List.mem_cons] at h1
          rcases h1 with h1 | h1
          · have := hroot.2.2; rw [h1] at this; exact Nat.not_succ_le_self _ this
          · exact (List.nodup_cons.1 hnd).1 h1
        · have := hroot.2.2; omega
      · intro id hid
        simp only [List.mem_cons] at hid
        rcases hid with rfl | hid
        · exact ⟨rfl, hroot.2.1, Nat.le_succ_of_le (Nat.le_succ_of_le hroot.2.2)⟩
        · have := hidsnew.2 id hid
          rw [hc2] at this; exact this
    · show (mkRoot (hdr d t).id l r).hdr.count < _
      simp only [mkRoot, hcounts, ho.count_eq]; exact hcnt
  · show flatten (d + 1) (ofMeta (mkRoot (hdr d t).id l r)) = _
    rw [flatten_succ]
    simp only [mkRoot, List.flatMap_cons, List.flatMap_nil, List.append_nil, hflat, ho.flat]
  · intro c'
    exact promote_not_single d _ ty c' (by simp [mkRoot])

/-- facts about the promoted child -/
structure NewRoot (T d : Nat) (child new : ATree d) (rid : SlabID) : Prop where
  shape : Shape T d true new
  size_le : (hdr d new).size ≤ maxThr T
  kids : TopKids d new
  flat : flatten d new = flatten d child
  chain : LeafChain (Arr.leaves d child) → LeafChain (Arr.leaves d new)
  id_eq : (hdr d new).id = rid
  count_eq : (hdr d new).count = (hdr d child).count
  ids : slabIds d new = rid :: (slabIds d child).tail
  ids_c : slabIds d child = (hdr d child).id :: (slabIds d child).tail

theorem newRoot_spec (hT : legalThreshold T = true) : ∀ (d : Nat) (child : ATree d) (rid : SlabID),
    TreeInv T d false child → (hdr d child).id.addr = rid.addr →
    NewRoot T d child (setRoot d (setId d (adjProm d child) rid) true) rid
  | 0, t, rid => by
    refine forall_ofData ?_ t; intro s hinv _
    have F := thrFacts hT
    obtain ⟨hs, h1, h2⟩ := (dataInv_false_iff T s).1 ((treeInv_zero T false s).1 hinv)
    have hsz := hs.size_eq
    rw [hs.prefix_false] at hsz
    show NewRoot T 0 (ofData s) (ofData { s with
      hdr := { s.hdr with size := s.hdr.size - arrayDataSlabPrefixSize + arrayRootDataSlabPrefixSize, id := rid },
      root := true }) rid
    refine ⟨(shape_zero T true _).2 ⟨hs.count_eq, ?_, hs.elems_ok, rfl, hs.not_inl⟩, ?_, trivial, rfl, ?_, rfl,
      rfl, rfl, rfl⟩
    · simp only [DataSlab.prefixSize, hs.not_inl, Bool.false_eq_true, if_false, if_true]
      have := F.pfx; have := F.rpfx; omega
    · simp only [hdr_zero]; have := F.pfx; have := F.rpfx; omega
    · simp only [leaves_zero, LeafChain]; exact id
  | d + 1, t, rid => by
    refine forall_ofMeta ?_ t; intro m hinv haddr
    have hk := two_kids hT hinv
    obtain ⟨hs, h1, h2, _⟩ := (treeInv_succ T d false m).1 hinv
    show NewRoot T (d + 1) (ofMeta m)
      (ofMeta { m with hdr := { m.hdr with id := rid }, root := true }) rid
    refine ⟨(shape_succ T d true _).2 ⟨rfl, hs.hdrs_eq, hs.sums_eq, hs.count_eq, hs.size_eq, hs.kids_inv, ?_⟩,
      h1, hk, rfl, id, rfl, rfl, rfl, rfl⟩
    intro x hx
    rw [hs.kids_addr x hx]; simpa using haddr

theorem promote_spec_single (hT : legalThreshold T = true) (d : Nat) (m : MetaSlab (ATree d))
    (ty : Nat) (c : Ctx) (hs : MShape T d true m) (child : ATree d) (hc : m.children = [child])
    (hchain : LeafChain (Arr.leaves (d + 1) (ofMeta m)))
    (hids : IdsOk m.hdr.id.addr c.ctr (slabIds (d + 1) (ofMeta m)))
    (hcnt : m.hdr.count < maxArrayElementCount + 1) :
    ArrInv T (Arr.promoteIfSingleChild ⟨d + 1, ofMeta m, ty⟩ c).1
        (Arr.promoteIfSingleChild ⟨d + 1, ofMeta m, ty⟩ c).2.ctr ∧
      (Arr.promoteIfSingleChild ⟨d + 1, ofMeta m, ty⟩ c).1.toList = flatten (d + 1) (ofMeta m) ∧
      (Arr.promoteIfSingleChild ⟨d + 1, ofMeta m, ty⟩ c).1.rootID = m.hdr.id ∧
      (Arr.promoteIfSingleChild ⟨d + 1, ofMeta m, ty⟩ c).1.ty = ty := by
  have hh : m.childHdrs = [hdr d child] := by rw [hs.hdrs_eq, hc]; rfl
  have hci : TreeInv T d false child := hs.kids_inv child (by rw [hc]; simp)
  have hn := newRoot_spec hT d child m.hdr.id hci (hs.kids_addr child (by rw [hc]; simp))
  rw [promote_single d m ty c _ child hh hc]
  simp only [Ctx.emit_ctr]
  refine ⟨?_, ?_, hn.id_eq, trivial⟩
  · refine arrInv_of_shape hn.shape hn.size_le hn.kids ?_ ?_ ?_
    · apply hn.chain
      simpa [hc] using hchain
    · rw [hn.id_eq, hn.ids]
      rw [slabIds_succ, hc] at hids
      simp only [List.flatMap_cons, List.flatMap_nil, List.append_nil] at hids
      rw [hn.ids_c] at hids
      obtain ⟨hnd, hall⟩ := hids
      refine ⟨?_, fun id hid => hall id ?_⟩
      · have := List.nodup_cons.1 hnd
        exact List.nodup_cons.2 ⟨fun h => this.1 (List.mem_cons_of_mem _ h), (List.nodup_cons.1 this.2).2⟩
      · simp only [List.mem_cons] at hid ⊢
        rcases hid with h | h
        · exact Or.inl h
        · exact Or.inr (Or.inr h)
    · rw [hn.count_eq]
      have := hs.count_eq
      rw [hh] at this
      simp only [sumCounts_cons, sumCounts_nil] at this
      omega
  · show flatten d _ = _
    rw [hn.flat, flatten_succ, hc]; simp

/-- after a tree-level operation that left the root within `maxThr`: promotion restores `ArrInv`.
    `26 = 12 + 14`: an index-slab root with at least one child, which is what a root of two
    children (`top_size_ge`: 40 = `arrayMetaDataSlabPrefixSize` + 2 `arraySlabHeaderSize`) keeps
    when the operation took one header off it. -/
theorem promote_spec (hT : legalThreshold T = true) : ∀ (d : Nat) (t : ATree d) (ty : Nat) (c : Ctx),
    Shape T d true t → (hdr d t).size ≤ maxThr T → (d ≠ 0 → 26 ≤ (hdr d t).size) →
    LeafChain (Arr.leaves d t) → IdsOk (hdr d t).id.addr c.ctr (slabIds d t) →
    (hdr d t).count < maxArrayElementCount + 1 →
    ArrInv T (Arr.promoteIfSingleChild ⟨d, t, ty⟩ c).1 (Arr.promoteIfSingleChild ⟨d, t, ty⟩ c).2.ctr ∧
      (Arr.promoteIfSingleChild ⟨d, t, ty⟩ c).1.toList = flatten d t ∧
      (Arr.promoteIfSingleChild ⟨d, t, ty⟩ c).1.rootID = (hdr d t).id ∧
      (Arr.promoteIfSingleChild ⟨d, t, ty⟩ c).1.ty = ty
  | 0, t, ty, c => by
    intro hs hmax _ hchain hids hcnt
    rw [promote_zero]
    exact ⟨arrInv_of_shape hs hmax trivial hchain hids hcnt, rfl, rfl, rfl⟩
  | d + 1, t, ty, c => by
    refine forall_ofMeta ?_ t; intro m hs hmax hk hchain hids hcnt
    have hms := (shape_succ T d true m).1 hs
    have hsz := hms.kids_of_size
    have hk := hk (by omega)
    simp only [hdr_succ] at hk hmax hids hcnt
    match hc : m.children with
    | [] => rw [hc] at hsz; simp at hsz; omega
    | [child] => exact promote_spec_single hT d m ty c hms child hc hchain hids hcnt
    | _ :: _ :: _ =>
      have h2 : 2 ≤ m.children.length := by rw [hc]; simp
      rw [promote_not_single d m ty c (by omega)]
      exact ⟨arrInv_of_shape hs hmax h2 hchain hids hcnt, rfl, rfl, rfl⟩

theorem promote_ctr (a : Arr) (c : Ctx) : (a.promoteIfSingleChild c).2.ctr = c.ctr := by
  obtain ⟨d, t, ty⟩ := a
  cases d with
  | zero => rfl
  | succ d =>
    unfold Arr.promoteIfSingleChild
    simp only
    split <;> rfl

theorem insert_err_gen : ∀ (d : Nat) (t : ATree d) (top : Bool) (i : Nat) (v : Elem) (c : Ctx),
    Shape T d top t → (flatten d t).length < i →
    ATree.insert T d t i v c = .error .indexOutOfBounds
  | 0, t, top, i, v, c => by
    refine forall_ofData ?_ t; intro s _ hi
    exact insert_zero_err s i v c _ (DataSlab.insert_err T s i v c hi)
  | d + 1, t, top, i, v, c => by
    refine forall_ofMeta ?_ t; intro m hs hi
    have hs := (shape_succ T d top m).1 hs
    simp only [flatten_succ, ← hs.flat_length] at hi
    exact insert_succ_err m i v c hi

theorem set_err_gen : ∀ (d : Nat) (t : ATree d) (top : Bool) (i : Nat) (v : Elem) (c : Ctx),
    Shape T d top t → (flatten d t).length ≤ i →
    ATree.set T d t i v c = .error .indexOutOfBounds
  | 0, t, top, i, v, c => by
    refine forall_ofData ?_ t; intro s _ hi
    exact set_zero_err s i v c _ (DataSlab.set_err T s i v c hi)
  | d + 1, t, top, i, v, c => by
    refine forall_ofMeta ?_ t; intro m hs hi
    have hs := (shape_succ T d top m).1 hs
    simp only [flatten_succ, ← hs.flat_length] at hi
    exact set_succ_err m i v c _ (route_err m i hi)

theorem remove_err_gen : ∀ (d : Nat) (t : ATree d) (top : Bool) (i : Nat) (c : Ctx),
    Shape T d top t → (flatten d t).length ≤ i →
    ATree.remove T d t i c = .error .indexOutOfBounds
  | 0, t, top, i, c => by
    refine forall_ofData ?_ t; intro s _ hi
    exact remove_zero_err s i c _ (DataSlab.remove_err s i c hi)
  | d + 1, t, top, i, c => by
    refine forall_ofMeta ?_ t; intro m hs hi
    have hs := (shape_succ T d top m).1 hs
    simp only [flatten_succ, ← hs.flat_length] at hi
    exact remove_succ_err m i c hi

theorem insert_stepOk (hT : legalThreshold T = true) {d : Nat} {t t' : ATree d} {top : Bool}
    {i : Nat} {v : Elem} {c c' : Ctx} (hinv : TreeInv T d top t) (hni : NotInl d t)
    (hv : StorOk T v) (hr : ATree.insert T d t i v c = .ok (t', c')) :
    i ≤ (flatten d t).length ∧ StepOk T d top t t' c.ctr c'.ctr := by
  have hi : i ≤ (flatten d t).length := Nat.not_lt.1 fun h => by
    rw [insert_err_gen d t top i v c (hinv.shape hni) h] at hr; cases hr
  obtain ⟨t'', c'', hr', hstep, _⟩ := insert_genR hT d t top i v c hinv hni hv hi
  rw [hr] at hr'
  cases hr'
  exact ⟨hi, hstep⟩

theorem set_stepOk (hT : legalThreshold T = true) {d : Nat} {t t' : ATree d} {top : Bool}
    {i : Nat} {v old : Elem} {c c' : Ctx} (hinv : TreeInv T d top t) (hni : NotInl d t)
    (hv : StorOk T v) (hr : ATree.set T d t i v c = .ok (old, t', c')) :
    i < (flatten d t).length ∧ StepOk T d top t t' c.ctr c'.ctr := by
  have hi : i < (flatten d t).length := Nat.not_le.1 fun h => by
    rw [set_err_gen d t top i v c (hinv.shape hni) h] at hr; cases hr
  obtain ⟨t'', c'', hr', hstep, _⟩ := set_genR hT d t top i v c hinv hni hv hi
  rw [hr] at hr'
  cases hr'
  exact ⟨hi, hstep⟩

theorem remove_stepOk (hT : legalThreshold T = true) {d : Nat} {t t' : ATree d} {top : Bool}
    {i : Nat} {old : Elem} {c c' : Ctx} (hinv : TreeInv T d top t) (hni : NotInl d t)
    (hr : ATree.remove T d t i c = .ok (old, t', c')) :
    i < (flatten d t).length ∧ StepOk T d top t t' c.ctr c'.ctr := by
  have hi : i < (flatten d t).length := Nat.not_le.1 fun h => by
    rw [remove_err_gen d t top i c (hinv.shape hni) h] at hr; cases hr
  obtain ⟨t'', c'', hr', hstep, _⟩ := remove_gen hT d t top i c hinv hni hi
  rw [hr] at hr'
  cases hr'
  exact ⟨hi, hstep⟩

theorem Arr.splitRoot_ctr_le {a a' : Arr} {c c' : Ctx} (h : a.splitRoot c = .ok (a', c')) :
    c.ctr ≤ c'.ctr := by
  obtain ⟨d, t, ty⟩ := a
  obtain ⟨l, r, -, -, -, -, rfl⟩ := Arr.splitRoot_inv h
  exact Nat.le_add_right _ 2

/-- a top index slab that did not get smaller still has two children -/
theorem topKids_mono {d : Nat} {t t' : ATree d} (hs : Shape T d true t) (hs' : Shape T d true t')
    (hk : TopKids d t) (hsz : (hdr d t).size ≤ (hdr d t').size) : TopKids d t' := by
  cases d with
  | zero => trivial
  | succ d =>
    revert hs hs' hk hsz
    refine forall_ofMeta ?_ t; intro m
    refine forall_ofMeta ?_ t'; intro m'
    intro hs hs' hk hsz
    have e1 := ((shape_succ T d true m).1 hs).kids_of_size
    have e2 := ((shape_succ T d true m').1 hs').kids_of_size
    simp only [topKids_succ, hdr_succ] at hk hsz ⊢
    omega

theorem arr_insert_okR (hT : legalThreshold T = true) (a : Arr) (c : Ctx) (i : Nat) (v : Elem)
    (hv : StorOk T v) (h : ArrInv T a c.ctr) (hcount : a.count < maxArrayElementCount)
    (hi : i ≤ a.toList.length) :
    ∃ a' c', a.insert T i v c = .ok (a', c') ∧ ArrInv T a' c'.ctr ∧
      a'.toList = a.toList.insertIdx i (toStorable T a.addr v c).1 ∧
      a'.rootID = a.rootID ∧ a'.ty = a.ty ∧ c.ctr ≤ c'.ctr := by
  obtain ⟨d, t, ty⟩ := a
  have hcount : (hdr d t).count < maxArrayElementCount := hcount
  have hi : i ≤ (flatten d t).length := hi
  obtain ⟨t', c1, hins, hstep, hflat, hcnt, hsz1, hsz2⟩ :=
    insert_genR hT d t true i v c h.tree h.notInl hv hi
  have hne : ¬ (hdr d t).count = maxArrayElementCount := Nat.ne_of_lt hcount
  have hchain := repl_single_chain hstep.repl h.chain
  have hids : IdsOk (hdr d t').id.addr c1.ctr (slabIds d t') := by
    rw [hstep.id_eq]; exact repl_single_ids hstep.repl _ h.ids
  have hcnt' : (hdr d t').count < maxArrayElementCount + 1 := by
    rw [hcnt]; exact Nat.succ_lt_succ hcount
  have hmax : (hdr d t).size ≤ maxThr T := h.tree.le_max
  rw [Arr.insert_of_tree (a := ⟨d, t, ty⟩) hne hins]
  by_cases hfull : ATree.isFull T d t' = true
  · rw [if_pos hfull]
    have hlo := (isFull_iff T d t').1 hfull
    obtain ⟨a2, c2, hsr, hinv2, hl2, hid2, hty2, _⟩ :=
      splitRoot_spec hT d t' ty c1 hstep.shape hlo
        (Nat.le_trans hsz2 (Nat.add_le_add_right hmax _)) hchain hids hcnt'
    exact ⟨a2, c2, hsr, hinv2, by rw [hl2, hflat]; rfl, by rw [hid2, hstep.id_eq]; rfl, hty2,
      Nat.le_trans hstep.repl.ctr (Arr.splitRoot_ctr_le hsr)⟩
  · rw [if_neg hfull]
    have hnf : ¬ maxThr T < (hdr d t').size := fun hh => hfull ((isFull_iff T d t').2 hh)
    refine ⟨⟨d, t', ty⟩, c1, rfl, ?_, by show flatten d t' = _; rw [hflat]; rfl,
      by show (hdr d t').id = _; rw [hstep.id_eq]; rfl, rfl, hstep.repl.ctr⟩
    refine arrInv_of_shape hstep.shape (Nat.not_lt.1 hnf) ?_ hchain hids hcnt'
    exact topKids_mono h.shape hstep.shape (((treeInv_iff T d true t).1 ⟨h.tree, h.notInl⟩).2.2.2 rfl) hsz1

theorem arr_insert_ok (hT : legalThreshold T = true) (a : Arr) (c : Ctx) (i : Nat) (v : Elem)
    (hv : ValueOk v) (h : ArrInv T a c.ctr) (hcount : a.count < maxArrayElementCount)
    (hi : i ≤ a.toList.length) :
    ∃ a' c', a.insert T i v c = .ok (a', c') ∧ ArrInv T a' c'.ctr ∧
      a'.toList = a.toList.insertIdx i (toStorable T a.addr v c).1 ∧
      a'.rootID = a.rootID ∧ a'.ty = a.ty := by
  obtain ⟨a', c', h1, h2, h3, h4, h5, _⟩ := arr_insert_okR hT a c i v (.of_valueOk hv) h hcount hi
  exact ⟨a', c', h1, h2, h3, h4, h5⟩

theorem arr_insert_err (a : Arr) (c : Ctx) (i : Nat) (v : Elem)
    (h : ArrInv T a c.ctr) (hcount : a.count ≠ maxArrayElementCount) (hi : a.toList.length < i) :
    a.insert T i v c = .error .indexOutOfBounds := by
  obtain ⟨d, t, ty⟩ := a
  have herr := insert_err_gen d t true i v c h.shape hi
  have hcount : ¬ (hdr d t).count = maxArrayElementCount := hcount
  unfold Arr.insert
  show (if (hdr d t).count = maxArrayElementCount then _ else _) = _
  rw [if_neg hcount]
  show (ATree.insert T d t i v c >>= _) = _
  rw [herr]; rfl

/-- a top index slab has at least two children, i.e. at least
    `arrayMetaDataSlabPrefixSize + 2 * arraySlabHeaderSize = 12 + 2 * 14 = 40` bytes -/
theorem top_size_ge {d : Nat} {t : ATree d} (h : TreeInv T d true t) (hd : d ≠ 0) :
    40 ≤ (hdr d t).size := by
  cases d with
  | zero => exact absurd rfl hd
  | succ d =>
    revert h; refine forall_ofMeta ?_ t; intro m h
    obtain ⟨hs, _, _, h2⟩ := (treeInv_succ T d true m).1 h
    have := hs.kids_of_size
    have := h2 rfl
    simp only [hdr_succ]; omega

theorem arr_set_okR (hT : legalThreshold T = true) (a : Arr) (c : Ctx) (i : Nat) (v : Elem)
    (hv : StorOk T v) (h : ArrInv T a c.ctr) (hi : i < a.toList.length) :
    ∃ a' c', a.set T i v c = .ok (a.toList.getD i default, a', c') ∧ ArrInv T a' c'.ctr ∧
      a'.toList = a.toList.set i (toStorable T a.addr v c).1 ∧
      a'.rootID = a.rootID ∧ a'.ty = a.ty ∧ c.ctr ≤ c'.ctr := by
  obtain ⟨d, t, ty⟩ := a
  have hi : i < (flatten d t).length := hi
  obtain ⟨t', c1, hset, hstep, hflat, hcnt, hsz1, hsz2, hsz3⟩ :=
    set_genR hT d t true i v c h.tree h.notInl hv hi
  have hchain := repl_single_chain hstep.repl h.chain
  have hids : IdsOk (hdr d t').id.addr c1.ctr (slabIds d t') := by
    rw [hstep.id_eq]; exact repl_single_ids hstep.repl _ h.ids
  have hcnt' : (hdr d t').count < maxArrayElementCount + 1 := by rw [hcnt]; exact h.count_lt
  have hmax : (hdr d t).size ≤ maxThr T := h.tree.le_max
  have h40 : d ≠ 0 → 40 ≤ (hdr d t).size := fun hd => top_size_ge h.tree hd
  show ∃ a' c', Arr.set T ⟨d, t, ty⟩ i v c = .ok ((flatten d t).getD i default, a', c') ∧ _
  by_cases hfull : ATree.isFull T d t' = true
  · rw [Arr.set_of_tree (a := ⟨d, t, ty⟩) hset, if_pos hfull]
    have hlo := (isFull_iff T d t').1 hfull
    obtain ⟨a2, c2, hsr, hinv2, hl2, hid2, hty2, hprom⟩ :=
      splitRoot_spec hT d t' ty c1 hstep.shape hlo
        (Nat.le_trans hsz1 (Nat.add_le_add_right hmax _)) hchain hids hcnt'
    refine ⟨a2, c2, ?_, hinv2, by rw [hl2, hflat]; rfl, by rw [hid2, hstep.id_eq]; rfl, hty2,
      Nat.le_trans hstep.repl.ctr (Arr.splitRoot_ctr_le hsr)⟩
    rw [hsr]
    show Except.ok (_, (a2.promoteIfSingleChild c2).1, (a2.promoteIfSingleChild c2).2) = _
    rw [hprom c2]
  · rw [Arr.set_of_tree (a := ⟨d, t, ty⟩) hset, if_neg hfull]
    have hnf : ¬ maxThr T < (hdr d t').size := fun hh => hfull ((isFull_iff T d t').2 hh)
    obtain ⟨p1, p2, p3, p4⟩ := promote_spec hT d t' ty c1 hstep.shape (Nat.not_lt.1 hnf)
      (fun hd => Nat.le_of_add_le_add_right (b := 14) (Nat.le_trans (h40 hd) (hsz3 hd)))
      hchain hids hcnt'
    exact ⟨_, _, rfl, p1, by rw [p2, hflat]; rfl, by rw [p3, hstep.id_eq]; rfl, p4,
      by rw [promote_ctr]; exact hstep.repl.ctr⟩

theorem arr_set_ok (hT : legalThreshold T = true) (a : Arr) (c : Ctx) (i : Nat) (v : Elem)
    (hv : ValueOk v) (h : ArrInv T a c.ctr) (hi : i < a.toList.length) :
    ∃ a' c', a.set T i v c = .ok (a.toList.getD i default, a', c') ∧ ArrInv T a' c'.ctr ∧
      a'.toList = a.toList.set i (toStorable T a.addr v c).1 ∧
      a'.rootID = a.rootID ∧ a'.ty = a.ty := by
  obtain ⟨a', c', h1, h2, h3, h4, h5, _⟩ := arr_set_okR hT a c i v (.of_valueOk hv) h hi
  exact ⟨a', c', h1, h2, h3, h4, h5⟩

theorem arr_set_err (a : Arr) (c : Ctx) (i : Nat) (v : Elem)
    (h : ArrInv T a c.ctr) (hi : a.toList.length ≤ i) :
    a.set T i v c = .error .indexOutOfBounds := by
  obtain ⟨d, t, ty⟩ := a
  have herr := set_err_gen d t true i v c h.shape hi
  unfold Arr.set
  show (ATree.set T d t i v c >>= _) = _
  rw [herr]; rfl

theorem arr_remove_okR (hT : legalThreshold T = true) (a : Arr) (c : Ctx) (i : Nat)
    (h : ArrInv T a c.ctr) (hi : i < a.toList.length) :
    ∃ a' c', a.remove T i c = .ok (a.toList.getD i default, a', c') ∧ ArrInv T a' c'.ctr ∧
      a'.toList = a.toList.eraseIdx i ∧ a'.rootID = a.rootID ∧ a'.ty = a.ty ∧ c.ctr ≤ c'.ctr := by
  obtain ⟨d, t, ty⟩ := a
  have hi : i < (flatten d t).length := hi
  obtain ⟨t', c1, hrem, hstep, hflat, hcnt, hsz1, hsz2, hsz3⟩ :=
    remove_gen hT d t true i c h.tree h.notInl hi
  have hchain := repl_single_chain hstep.repl h.chain
  have hids : IdsOk (hdr d t').id.addr c1.ctr (slabIds d t') := by
    rw [hstep.id_eq]; exact repl_single_ids hstep.repl _ h.ids
  have hcnt' : (hdr d t').count < maxArrayElementCount + 1 := by
    have hcnt0 : (hdr d t).count < maxArrayElementCount + 1 := h.count_lt
    rw [← hcnt] at hcnt0
    exact Nat.lt_of_succ_lt hcnt0
  have hmax : (hdr d t).size ≤ maxThr T := h.tree.le_max
  have hunf := Arr.remove_of_tree (a := ⟨d, t, ty⟩) hrem
  have h40 : d ≠ 0 → 40 ≤ (hdr d t).size := fun hd => top_size_ge h.tree hd
  obtain ⟨p1, p2, p3, p4⟩ := promote_spec hT d t' ty c1 hstep.shape (Nat.le_trans hsz1 hmax)
    (fun hd => Nat.le_of_add_le_add_right (b := 14) (Nat.le_trans (h40 hd) (hsz3 hd)))
    hchain hids hcnt'
  exact ⟨_, _, hunf, p1, by rw [p2, hflat]; rfl, by rw [p3, hstep.id_eq]; rfl, p4,
    by rw [promote_ctr]; exact hstep.repl.ctr⟩

theorem arr_remove_ok (hT : legalThreshold T = true) (a : Arr) (c : Ctx) (i : Nat)
    (h : ArrInv T a c.ctr) (hi : i < a.toList.length) :
    ∃ a' c', a.remove T i c = .ok (a.toList.getD i default, a', c') ∧ ArrInv T a' c'.ctr ∧
      a'.toList = a.toList.eraseIdx i ∧ a'.rootID = a.rootID ∧ a'.ty = a.ty := by
  obtain ⟨a', c', h1, h2, h3, h4, h5, _⟩ := arr_remove_okR hT a c i h hi
  exact ⟨a', c', h1, h2, h3, h4, h5⟩

theorem arr_remove_err (a : Arr) (c : Ctx) (i : Nat)
    (h : ArrInv T a c.ctr) (hi : a.toList.length ≤ i) :
    a.remove T i c = .error .indexOutOfBounds := by
  obtain ⟨d, t, ty⟩ := a
  have herr := remove_err_gen d t true i c h.shape hi
  unfold Arr.remove
  show (ATree.remove T d t i c >>= _) = _
  rw [herr]; rfl

/-- a freshly created array satisfies the invariant -/
theorem arr_new_inv (hT : legalThreshold T = true) (addr ty : Nat) (c : Ctx) :
    ArrInv T (Arr.new addr ty c).1 (Arr.new addr ty c).2.ctr := by
  have F := thrFacts hT
  refine ⟨(treeInv_zero T true _).2 ⟨rfl, ?_, ?_, rfl, ?_, ?_, ?_⟩, rfl, ?_, rfl, ?_⟩
  · simp [Arr.new, DataSlab.prefixSize, sumSizes_nil]
  · intro e he; simp [Arr.new] at he
  · intro h; simp [Arr.new] at h
  · simp only [Arr.new, F.rpfx, F.maxE]; have := F.lo; omega
  · intro h; simp at h
  · show IdsOk addr (c.ctr + 1) [⟨addr, c.ctr + 1⟩]
    exact ⟨by simp, fun id hid => by simp at hid; subst hid; exact ⟨rfl, by simp, by simp⟩⟩
  · show (0 : Nat) < _
    omega

theorem arr_setType_inv (a : Arr) (c : Ctx) (ty : Nat) (h : ArrInv T a c.ctr) :
    ArrInv T (a.setType ty c).1 (a.setType ty c).2.ctr := by
  have hc : (a.setType ty c).2.ctr = c.ctr := by
    unfold Arr.setType; simp only; split <;> rfl
  rw [hc]
  obtain ⟨d, t, ty0⟩ := a
  exact ⟨h.tree, h.chain, h.ids, (isInlined_iff d t ty).2 ((isInlined_iff d t ty0).1 h.standalone),
    h.count_lt⟩

theorem ArrInv.count_eq {a : Arr} {ctr : Nat} (h : ArrInv T a ctr) : a.count = a.toList.length := by
  obtain ⟨d, t, ty⟩ := a
  exact h.shape.count_eq_length

theorem arr_get_spec (hT : legalThreshold T = true) (a : Arr) (ctr : Nat) (h : ArrInv T a ctr) (i : Nat) :
    (i < a.toList.length → a.get i = .ok (a.toList.getD i default)) ∧
    (a.toList.length ≤ i → a.get i = .error .indexOutOfBounds) := by
  obtain ⟨d, t, ty⟩ := a
  exact get_gen hT d t true i h.shape

end Atree

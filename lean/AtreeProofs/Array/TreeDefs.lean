import AtreeProofs.Array.SlabLemmas
import AtreeProofs.Array.Descent
/-
  Tree layer, definitions: per-level facts without the size band (`Shape`), unfolding lemmas for
  `TreeInv`, and basic consequences (counts, children, leaves).
  (`ofData` / `ofMeta`: Array/Descent.lean.)
-/
namespace Atree
open Gen ATree MetaSlab

/-- Facts about an index slab whose children all satisfy the full invariant, without the band. -/
structure MShape (T d : Nat) (top : Bool) (m : MetaSlab (ATree d)) : Prop where
  root_eq : m.root = top
  hdrs_eq : m.childHdrs = m.children.map (hdr d)
  sums_eq : m.countSum = prefixSums m.childHdrs 0
  count_eq : m.hdr.count = sumCounts m.childHdrs
  size_eq : m.hdr.size = arrayMetaDataSlabPrefixSize + arraySlabHeaderSize * m.children.length
  kids_inv : ∀ c ∈ m.children, TreeInv T d false c
  kids_addr : ∀ c ∈ m.children, (hdr d c).id.addr = m.hdr.id.addr

/-- `TreeInv` without the size band / minimum number of children of the slab itself. -/
def Shape (T : Nat) : (d : Nat) → Bool → ATree d → Prop
  | 0, top, (s : DataSlab) => DShape T top s
  | d + 1, top, (m : MetaSlab (ATree d)) => MShape T d top m

theorem treeInv_zero (T : Nat) (top : Bool) (s : DataSlab) :
    TreeInv T 0 top (ofData s) ↔ DataInv T top s := by
  unfold ofData; simp only [TreeInv]

theorem treeInv_succ (T d : Nat) (top : Bool) (m : MetaSlab (ATree d)) :
    TreeInv T (d + 1) top (ofMeta m) ↔
      MShape T d top m ∧ m.hdr.size ≤ maxThr T ∧ (top = false → minThr T ≤ m.hdr.size) ∧
      (top = true → 2 ≤ m.children.length) := by
  unfold ofMeta
  simp only [TreeInv]
  constructor
  · rintro ⟨h1, h2, h3, h4, h5, h6, h7, h8, h9, h10⟩
    exact ⟨⟨h1, h2, h3, h4, h5, h6, h7⟩, h8, h9, h10⟩
  · rintro ⟨⟨h1, h2, h3, h4, h5, h6, h7⟩, h8, h9, h10⟩
    exact ⟨h1, h2, h3, h4, h5, h6, h7, h8, h9, h10⟩

theorem shape_zero (T : Nat) (top : Bool) (s : DataSlab) :
    Shape T 0 top (ofData s) ↔ DShape T top s := by
  unfold ofData; simp only [Shape]
theorem shape_succ (T d : Nat) (top : Bool) (m : MetaSlab (ATree d)) :
    Shape T (d + 1) top (ofMeta m) ↔ MShape T d top m := by
  unfold ofMeta; simp only [Shape]

@[simp] theorem flatten_zero (s : DataSlab) : flatten 0 (ofData s) = s.elems := rfl
@[simp] theorem flatten_succ (d : Nat) (m : MetaSlab (ATree d)) :
    flatten (d + 1) (ofMeta m) = m.children.flatMap (flatten d) := rfl
@[simp] theorem slabIds_zero (s : DataSlab) : slabIds 0 (ofData s) = [s.hdr.id] := rfl
@[simp] theorem slabIds_succ (d : Nat) (m : MetaSlab (ATree d)) :
    slabIds (d + 1) (ofMeta m) = m.hdr.id :: m.children.flatMap (slabIds d) := rfl
@[simp] theorem leaves_zero (s : DataSlab) : Arr.leaves 0 (ofData s) = [s] := rfl
@[simp] theorem leaves_succ (d : Nat) (m : MetaSlab (ATree d)) :
    Arr.leaves (d + 1) (ofMeta m) = m.children.flatMap (Arr.leaves d) := rfl

/-- the data slab at depth 0 is not an inlined one -/
def NotInl : (d : Nat) → ATree d → Prop
  | 0, (s : DataSlab) => s.inlined = false
  | _ + 1, _ => True

/-- the minimum number of children of a top index slab -/
def TopKids : (d : Nat) → ATree d → Prop
  | 0, _ => True
  | _ + 1, (m : MetaSlab (ATree _)) => 2 ≤ m.children.length

@[simp] theorem notInl_zero (s : DataSlab) : NotInl 0 (ofData s) ↔ s.inlined = false := Iff.rfl
@[simp] theorem notInl_succ (d : Nat) (t : ATree (d + 1)) : NotInl (d + 1) t ↔ True := Iff.rfl
@[simp] theorem topKids_zero (t : ATree 0) : TopKids 0 t ↔ True := Iff.rfl
@[simp] theorem topKids_succ (d : Nat) (m : MetaSlab (ATree d)) :
    TopKids (d + 1) (ofMeta m) ↔ 2 ≤ m.children.length := Iff.rfl

/-- serialized prefix of a non-root slab at depth `d` -/
def pfx : Nat → Nat
  | 0 => arrayDataSlabPrefixSize
  | _ + 1 => arrayMetaDataSlabPrefixSize

theorem treeInv_iff (T : Nat) : ∀ (d : Nat) (top : Bool) (t : ATree d),
    (TreeInv T d top t ∧ NotInl d t) ↔
      (Shape T d top t ∧ (hdr d t).size ≤ maxThr T ∧ (top = false → minThr T ≤ (hdr d t).size) ∧
        (top = true → TopKids d t))
  | 0, top, t => by
    refine forall_ofData ?_ t; intro s
    simp only [treeInv_zero, shape_zero, notInl_zero, topKids_zero, hdr_zero, implies_true, and_true]
    exact dataInv_iff T top s
  | d + 1, top, t => by
    refine forall_ofMeta ?_ t; intro m
    simp only [treeInv_succ, shape_succ, notInl_succ, topKids_succ, hdr_succ, and_true]

theorem treeInv_false_iff (T : Nat) : ∀ (d : Nat) (t : ATree d),
    TreeInv T d false t ↔
      (Shape T d false t ∧ minThr T ≤ (hdr d t).size ∧ (hdr d t).size ≤ maxThr T)
  | 0, t => by
    refine forall_ofData ?_ t; intro s
    simp only [treeInv_zero, shape_zero, hdr_zero]
    exact dataInv_false_iff T s
  | d + 1, t => by
    refine forall_ofMeta ?_ t; intro m
    simp only [treeInv_succ, shape_succ, hdr_succ]
    constructor
    · rintro ⟨h1, h2, h3, _⟩; exact ⟨h1, h3 trivial, h2⟩
    · rintro ⟨h1, h2, h3⟩; exact ⟨h1, h3, fun _ => h2, by simp⟩

theorem TreeInv.notInl_of_false {T : Nat} : ∀ {d : Nat} {t : ATree d}, TreeInv T d false t → NotInl d t
  | 0, t, h => by
    revert h; refine forall_ofData ?_ t; intro s h
    simp only [notInl_zero]; exact DataInv.not_inl_of_false ((treeInv_zero T false s).1 h)
  | _ + 1, _, _ => trivial

/-- `TreeInv` of any slab whose data-slab case is not inlined gives its `Shape`. -/
theorem TreeInv.shape {T d : Nat} {top : Bool} {t : ATree d} (h : TreeInv T d top t)
    (hi : NotInl d t) : Shape T d top t :=
  ((treeInv_iff T d top t).1 ⟨h, hi⟩).1

theorem TreeInv.shape_false {T d : Nat} {t : ATree d} (h : TreeInv T d false t) :
    Shape T d false t := ((treeInv_false_iff T d t).1 h).1
theorem TreeInv.ge_min {T d : Nat} {t : ATree d} (h : TreeInv T d false t) :
    minThr T ≤ (hdr d t).size := ((treeInv_false_iff T d t).1 h).2.1
theorem TreeInv.le_max {T : Nat} : ∀ {d : Nat} {top : Bool} {t : ATree d}, TreeInv T d top t →
    (hdr d t).size ≤ maxThr T
  | 0, top, t, h => by
    revert h; refine forall_ofData ?_ t; intro s h
    exact ((treeInv_zero T top s).1 h).le_max
  | d + 1, top, t, h => by
    revert h; refine forall_ofMeta ?_ t; intro m h
    exact ((treeInv_succ T d top m).1 h).2.1

/-- size of a slab is at least its prefix -/
theorem Shape.pfx_le {T : Nat} : ∀ {d : Nat} {t : ATree d}, Shape T d false t → pfx d ≤ (hdr d t).size
  | 0, t, h => by
    revert h; refine forall_ofData ?_ t; intro s h
    have h := (shape_zero T false s).1 h
    have := h.size_eq
    rw [h.prefix_false] at this
    simp only [pfx, hdr_zero]; omega
  | d + 1, t, h => by
    revert h; refine forall_ofMeta ?_ t; intro m h
    have h := (shape_succ T d false m).1 h
    have := h.size_eq
    simp only [pfx, hdr_succ]; omega

theorem sumCounts_eq_length_flatMap {d : Nat} (X : List (ATree d))
    (h : ∀ c ∈ X, (hdr d c).count = (flatten d c).length) :
    sumCounts (X.map (hdr d)) = (X.flatMap (flatten d)).length := by
  induction X with
  | nil => simp [sumCounts_nil]
  | cons x X ih =>
    simp only [List.map_cons, sumCounts_cons, List.flatMap_cons, List.length_append]
    rw [h x (by simp), ih (fun c hc => h c (by simp [hc]))]

/-- C01 `count_refines` at every level: the header count is the number of elements below. -/
theorem Shape.count_eq_length {T : Nat} : ∀ {d : Nat} {top : Bool} {t : ATree d},
    Shape T d top t → (hdr d t).count = (flatten d t).length
  | 0, top, t, h => by
    revert h; refine forall_ofData ?_ t; intro s h
    exact ((shape_zero T top s).1 h).count_eq
  | d + 1, top, t, h => by
    revert h; refine forall_ofMeta ?_ t; intro m h
    have h := (shape_succ T d top m).1 h
    simp only [hdr_succ, flatten_succ, h.count_eq, h.hdrs_eq]
    exact sumCounts_eq_length_flatMap _ (fun c hc => (h.kids_inv c hc).shape_false.count_eq_length)

theorem TreeInv.count_eq_length {T d : Nat} {t : ATree d} (h : TreeInv T d false t) :
    (hdr d t).count = (flatten d t).length := h.shape_false.count_eq_length

/-- number of children of an index slab from its size -/
theorem MShape.kids_of_size {T d : Nat} {top : Bool} {m : MetaSlab (ATree d)} (h : MShape T d top m) :
    m.hdr.size = 12 + 14 * m.children.length := by
  have := h.size_eq
  simpa [arrayMetaDataSlabPrefixSize, arraySlabHeaderSize] using this

theorem MShape.hdrs_length {T d : Nat} {top : Bool} {m : MetaSlab (ATree d)} (h : MShape T d top m) :
    m.childHdrs.length = m.children.length := by
  rw [h.hdrs_eq]; simp

/-- a data slab that is not the root holds an element (it reaches the lower threshold) -/
theorem DataInv.elems_ne_nil {T : Nat} {s : DataSlab} (h : DataInv T false s) (hT : legalThreshold T = true) : s.elems ≠ [] := by
  intro he
  have F := thrFacts hT
  have h1 := h.size_eq
  have h2 := h.ge_min rfl
  have hroot : s.root = false := h.root_eq
  have hinl : s.inlined = false := by
    cases hi : s.inlined with
    | false => rfl
    | true => exact absurd (h.inl_root hi) (by simp)
  rw [he] at h1
  simp only [DataSlab.prefixSize, hinl, hroot, Bool.false_eq_true, if_false, sumSizes_nil, F.pfx] at h1
  rw [F.minE] at h2
  have := F.lo
  omega

/-- an index slab has a child: a root by `TopKids`, any other because it reaches the lower threshold -/
theorem TreeInv.children_ne_nil {T d : Nat} (hT : legalThreshold T = true) {top : Bool} {m : MetaSlab (ATree d)}
    (h : TreeInv T (d + 1) top m) : m.children ≠ [] := by
  have F := thrFacts hT
  obtain ⟨_, _, _, _, h5, _, _, _, hmin, htop⟩ := h
  intro hnil
  cases top with
  | true => have := htop rfl; rw [hnil] at this; simp at this
  | false =>
    have h2 := hmin rfl
    rw [hnil] at h5
    rw [F.minE] at h2
    simp only [F.mpfx, List.length_nil, Nat.mul_zero, Nat.add_zero] at h5
    have := F.lo
    omega

theorem TreeInv.leaves_ne_nil {T : Nat} (hT : legalThreshold T = true) : ∀ (d : Nat) (t : ATree d), TreeInv T d false t →
    ∀ s ∈ Arr.leaves d t, s.elems ≠ []
  | 0, (t : DataSlab), h, s, hs => by
    have : s = t := List.mem_singleton.mp hs
    subst this
    exact DataInv.elems_ne_nil h hT
  | d + 1, (m : MetaSlab (ATree d)), h, s, hs => by
    obtain ⟨_, _, _, _, _, h6, _⟩ := h
    obtain ⟨c, hc, hsc⟩ := List.mem_flatMap.mp hs
    exact TreeInv.leaves_ne_nil hT d c (h6 c hc) s hsc

/-- Every non-top slab within band holds at least one element: a leaf is not empty
    (`DataInv.elems_ne_nil`), an index slab has a child (`TreeInv.children_ne_nil`) that does. -/
theorem TreeInv.count_pos {T : Nat} (hT : legalThreshold T = true) : ∀ {d : Nat} {t : ATree d},
    TreeInv T d false t → 1 ≤ (hdr d t).count
  | 0, t, h => by
    revert h; refine forall_ofData ?_ t; intro s h
    have hi := (treeInv_zero T false s).1 h
    simp only [hdr_zero, ((dataInv_false_iff T s).1 hi).1.count_eq]
    exact List.length_pos_iff.2 (hi.elems_ne_nil hT)
  | d + 1, t, h => by
    revert h; refine forall_ofMeta ?_ t; intro m h
    obtain ⟨hs, _⟩ := (treeInv_succ T d false m).1 h
    simp only [hdr_succ, hs.count_eq, hs.hdrs_eq]
    match hel : m.children, TreeInv.children_ne_nil hT h with
    | c :: cs, _ =>
      have := TreeInv.count_pos hT (hs.kids_inv c (by simp [hel]))
      simp only [List.map_cons, sumCounts_cons]
      exact Nat.le_trans this (Nat.le_add_right _ _)

theorem hdr_id_mem_slabIds : ∀ (d : Nat) (t : ATree d), (hdr d t).id ∈ slabIds d t
  | 0, t => by refine forall_ofData ?_ t; intro s; simp
  | d + 1, t => by refine forall_ofMeta ?_ t; intro m; simp

/-- the identifiers of a child of an index slab -/
theorem ids_child {d : Nat} {m : MetaSlab (ATree d)} {A B : List (ATree d)} {child : ATree d} {c addr : Nat}
    (hch : m.children = A ++ child :: B) (hids : IdsOk addr c (slabIds (d + 1) (ofMeta m))) :
    IdsOk addr c (slabIds d child) := by
  rw [slabIds_succ, hch] at hids
  have h1 : m.hdr.id :: (A ++ child :: B).flatMap (slabIds d)
      = ([m.hdr.id] ++ A.flatMap (slabIds d)) ++ slabIds d child ++ B.flatMap (slabIds d) := by
    simp [List.flatMap_append]
  rw [h1] at hids
  exact hids.sub_append_left.sub_append_right

end Atree

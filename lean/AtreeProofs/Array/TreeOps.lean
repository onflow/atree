import AtreeProofs.Array.MergeRebal
import AtreeProofs.Array.Repair
import AtreeProofs.Array.Route
/-
  Tree layer: specifications of `ATree.get/set/insert/remove` on an arbitrary subtree (top or not),
  by induction on the depth.  One level of the three updates is the same: the child is written
  back into the parent (`setM1` / `insM1` / `remM1`) and the repair step `afterSet` runs.
  `afterSet_spec` says the repair step succeeds and restores the children's size band (`Tail`);
  `written_back` gives the bookkeeping of the parent with the child written back (for all three),
  `descend` turns the repair into `StepOk` for the parent with the flattened sequence and the size
  bounds, so that `insert_genR` / `set_genR` / `remove_gen` only route, recurse and rewrite the
  flattened sequence.
-/
namespace Atree
open Gen ATree MetaSlab Core

variable {T d : Nat}

theorem MShape.at_child {T d : Nat} {top : Bool} {m : MetaSlab (ATree d)} (hs : MShape T d top m)
    {A B : List (ATree d)} {child : ATree d} (hch : m.children = A ++ child :: B) :
    (∀ t ∈ A, TreeInv T d false t) ∧ (∀ t ∈ B, TreeInv T d false t) ∧ TreeInv T d false child ∧
    (hdr d child).id.addr = m.hdr.id.addr := by
  have hm : child ∈ m.children := by rw [hch]; exact List.mem_append_right _ List.mem_cons_self
  refine ⟨fun t ht => hs.kids_inv t ?_, fun t ht => hs.kids_inv t ?_, hs.kids_inv _ hm,
    hs.kids_addr _ hm⟩
  · rw [hch]; exact List.mem_append_left _ ht
  · rw [hch]; exact List.mem_append_right _ (List.mem_cons_of_mem _ ht)

theorem MShape.addr_replaced {T d : Nat} {top : Bool} {m : MetaSlab (ATree d)} (hs : MShape T d top m)
    {A B : List (ATree d)} {child child' : ATree d} (hch : m.children = A ++ child :: B)
    (hid : (hdr d child').id = (hdr d child).id) :
    ∀ t ∈ A ++ child' :: B, (hdr d t).id.addr = m.hdr.id.addr :=
  forall_mem_mid
    (fun t ht => hs.kids_addr t (by rw [hch]; exact List.mem_append_left _ ht))
    (by rw [hid]; exact (hs.at_child hch).2.2.2)
    (fun t ht => hs.kids_addr t (by rw [hch]; exact List.mem_append_right _ (List.mem_cons_of_mem _ ht)))

/-- the common result of an operation on a subtree -/
structure StepOk (T d : Nat) (top : Bool) (t t' : ATree d) (c c' : Nat) : Prop where
  shape : Shape T d top t'
  id_eq : (hdr d t').id = (hdr d t).id
  repl : Repl d [t] [t'] c c'

theorem stepOk_data (T : Nat) (top : Bool) (s s' : DataSlab) (c c' : Nat) (hs : DShape T top s')
    (hid : s'.hdr.id = s.hdr.id) (hn : s'.next = s.next) (hc : c ≤ c') :
    StepOk T 0 top (ofData s) (ofData s') c c' := by
  refine ⟨(shape_zero T top s').2 hs, hid, ?_⟩
  have h := Repl.of_subset (d := 0) (X := [ofData s]) (X' := [ofData s']) c ?_ ?_ ?_ ?_
  · exact h.trans ⟨ChainPres.refl _, fun _ hx => ⟨hx.mono hc, fun _ hid => Or.inl hid⟩, fun _ h => h, hc⟩
  · intro f n
    simp only [List.flatMap_cons, List.flatMap_nil, leaves_zero, List.append_nil, chain_single, hid, hn]
    exact id
  · simp [hid]
  · simp [hid]
  · intro a ha x hx
    simp only [List.mem_singleton] at hx
    rw [hx, hdr_zero, hid]; exact ha (ofData s) (by simp)

/-- the elements around child `A.length`, in the shape the `*_append_mid` lemmas take -/
theorem flatten_mid (A : List (ATree d)) (child : ATree d) (B : List (ATree d)) :
    (A ++ child :: B).flatMap (flatten d)
      = A.flatMap (flatten d) ++ flatten d child ++ B.flatMap (flatten d) :=
  (flatMap_at (flatten d) A B child).trans (List.append_assoc _ _ _).symm

theorem two_kids (hT : legalThreshold T = true) {top : Bool} {m : MetaSlab (ATree d)}
    (h : TreeInv T (d + 1) top (ofMeta m)) : 2 ≤ m.children.length := by
  obtain ⟨hs, _, h1, h2⟩ := (treeInv_succ T d top m).1 h
  cases top
  · -- a non-root index slab is at least `minThr ≥ 128` bytes, and its size is
    -- `arrayMetaDataSlabPrefixSize + arraySlabHeaderSize * n = 12 + 14 * n` (`kids_of_size`)
    have hmin : minThr T ≤ m.hdr.size := h1 rfl
    have hsize : m.hdr.size = 12 + 14 * m.children.length := hs.kids_of_size
    have h128 : 128 ≤ minThr T := (thr_rel hT).2.2.2.2
    omega
  · exact h2 rfl

/-- the parent after its child `k` was replaced and the repair step ran -/
theorem assemble {top : Bool} {m m1 m2 : MetaSlab (ATree d)} {A B : List (ATree d)}
    {child child' : ATree d} {c c1 c2 : Nat}
    (hm : MShape T d top m) (hch : m.children = A ++ child :: B)
    (hch1 : m1.children = A ++ child' :: B) (hid1 : m1.hdr.id = m.hdr.id)
    (hroot1 : m1.root = m.root) (hsize1 : m1.hdr.size = m.hdr.size)
    (hb : Book m1) (hcount1 : m1.hdr.count = sumCounts m1.childHdrs)
    (hrepl : Repl d [child] [child'] c c1)
    (htail : Tail T d m1 m2 c1 c2) :
    MShape T d top m2 ∧ Repl (d + 1) [ofMeta m] [ofMeta m2] c c2 ∧ m2.hdr.id = m.hdr.id ∧
      flatten (d + 1) (ofMeta m2)
        = A.flatMap (flatten d) ++ flatten d child' ++ B.flatMap (flatten d) ∧
      m2.hdr.count = m1.hdr.count ∧
      m2.hdr.size + 14 * m.children.length = m.hdr.size + 14 * m2.children.length := by
  have hlen : m1.children.length = m.children.length := by rw [hch, hch1]; simp
  have hrepl1 : Repl d m.children m1.children c c1 := by
    have := hrepl.ctx A B
    simpa [hch, hch1] using this
  have hrepl2 : Repl d m.children m2.children c c2 := hrepl1.trans htail.repl
  have hid2 : m2.hdr.id = m.hdr.id := by rw [htail.id_eq, hid1]
  refine ⟨⟨?_, htail.book.hdrs_eq, htail.book.sums_eq, ?_, ?_, htail.kids, ?_⟩,
    hrepl2.lift hid2, hid2, ?_, htail.count_eq, ?_⟩
  · rw [htail.root_eq, hroot1, hm.root_eq]
  · rw [htail.count_eq, hcount1, hb.hdrs_eq, htail.book.hdrs_eq, htail.counts]
  · have h1 := htail.size_eq
    rw [hsize1, hm.kids_of_size, ← hlen] at h1
    simp only [arrayMetaDataSlabPrefixSize, arraySlabHeaderSize]
    omega
  · rw [hid2]
    exact hrepl2.addr _ hm.kids_addr
  · rw [flatten_succ, htail.flat, hch1]
    simp [List.flatMap_append]
  · rw [← hlen, ← hsize1]; exact htail.size_eq

/-- The parent of `child` (at position `A.length`) after `child'` was written back in its place with
    the counts moved by `f`, where `f` is a shift from the count of `child` on and takes it to that
    of `child'`: the children are `A ++ child' :: B` and the bookkeeping is consistent. -/
theorem written_back {m : MetaSlab (ATree d)} {top : Bool} {A B : List (ATree d)} {child child' : ATree d}
    (hm : MShape T d top m) (hch : m.children = A ++ child :: B) {f : Nat → Nat}
    (hcnt : (hdr d child').count = f (hdr d child).count)
    (hf : ∀ x y, (hdr d child).count ≤ x → f (x + y) = f x + y) :
    (wbM1 f m A.length child').children = A ++ child' :: B ∧ Book (wbM1 f m A.length child') ∧
      (wbM1 f m A.length child').hdr.count = sumCounts (wbM1 f m A.length child').childHdrs := by
  have hh : m.childHdrs = A.map (hdr d) ++ hdr d child :: B.map (hdr d) := by
    rw [hm.hdrs_eq, hch]; simp
  have hkc : (prefixSums (A.map (hdr d)) 0).length = A.length := by simp [prefixSums_length]
  have e1 : (wbM1 f m A.length child').children = A ++ child' :: B := by
    show m.children.set A.length child' = _
    rw [hch, set_at rfl]
  have e2 : (wbM1 f m A.length child').childHdrs = A.map (hdr d) ++ hdr d child' :: B.map (hdr d) := by
    show m.childHdrs.set A.length (hdr d child') = _
    rw [hh, set_at (List.length_map _)]
  have e0 : ∀ s, f (s + (hdr d child).count) = s + (hdr d child').count := fun s => by
    rw [Nat.add_comm, hf _ _ (Nat.le_refl _), ← hcnt, Nat.add_comm]
  refine ⟨e1, ⟨by rw [e2, e1, List.map_append, List.map_cons], ?_⟩, ?_⟩
  · show bumpFrom A.length f m.countSum = _
    rw [e2, hm.sums_eq, hh, prefixSums_mid, prefixSums_mid, bumpFrom_mid _ _ _ _ _ hkc,
      prefixSums_map_shift hf _ _ (Nat.le_add_left _ _), e0]
  · show f m.hdr.count = _
    rw [e2, hm.count_eq, hh, sumCounts_append, sumCounts_cons, sumCounts_append, sumCounts_cons,
      ← Nat.add_assoc, hf _ _ (Nat.le_add_left _ _), e0, Nat.add_assoc]

/-! One level of the recursive operations, read off its equation (`*_succ_eq`, Array/Descent.lean)
    along one execution path: the caller supplies the result of each step. -/

theorem get_zero (s : DataSlab) (i : Nat) : ATree.get 0 (ofData s) i = s.get i := rfl

theorem get_succ_err (m : MetaSlab (ATree d)) (i : Nat) (err : AErr)
    (h1 : m.childSlabIndexInfo i = .error err) : ATree.get (d + 1) (ofMeta m) i = .error err := by
  unfold ofMeta; rw [ATree.get]; simp only [h1, bind, Except.bind]

theorem get_succ_ok (m : MetaSlab (ATree d)) (i k adj : Nat) (child : ATree d)
    (h1 : m.childSlabIndexInfo i = .ok (k, adj)) (h2 : m.children[k]? = some child) :
    ATree.get (d + 1) (ofMeta m) i = ATree.get d child adj := by
  unfold ofMeta; rw [ATree.get]; simp only [h1, h2, bind, Except.bind]

theorem set_zero_ok (s s' : DataSlab) (i : Nat) (e old : Elem) (c c' : Ctx)
    (h : s.set T i e c = .ok (old, s', c')) :
    ATree.set T 0 (ofData s) i e c = .ok (old, ofData s', c') := h
theorem set_zero_err (s : DataSlab) (i : Nat) (e : Elem) (c : Ctx) (err : AErr)
    (h : s.set T i e c = .error err) : ATree.set T 0 (ofData s) i e c = .error err := h

theorem set_succ_err (m : MetaSlab (ATree d)) (i : Nat) (e : Elem) (c : Ctx) (err : AErr)
    (h1 : m.childSlabIndexInfo i = .error err) :
    ATree.set T (d + 1) (ofMeta m) i e c = .error err := by
  rw [set_succ_eq, h1]; rfl

theorem set_succ_ok (m m2 : MetaSlab (ATree d)) (i k adj : Nat) (e old : Elem) (c c1 c2 : Ctx)
    (child child' : ATree d)
    (h1 : m.childSlabIndexInfo i = .ok (k, adj)) (h2 : m.children[k]? = some child)
    (h3 : ATree.set T d child adj e c = .ok (old, child', c1))
    (h4 : afterSet T (setM1 m k child') child' k c1 = .ok (m2, c2)) :
    ATree.set T (d + 1) (ofMeta m) i e c = .ok (old, ofMeta m2, c2) := by
  rw [set_succ_eq, h1]
  simp only [bind, Except.bind, h2, h3, h4]; rfl

theorem insert_zero_ok (s s' : DataSlab) (i : Nat) (e : Elem) (c c' : Ctx)
    (h : s.insert T i e c = .ok (s', c')) :
    ATree.insert T 0 (ofData s) i e c = .ok (ofData s', c') := h
theorem insert_zero_err (s : DataSlab) (i : Nat) (e : Elem) (c : Ctx) (err : AErr)
    (h : s.insert T i e c = .error err) : ATree.insert T 0 (ofData s) i e c = .error err := h

theorem insert_succ_err (m : MetaSlab (ATree d)) (i : Nat) (e : Elem) (c : Ctx)
    (h1 : i > m.hdr.count) :
    ATree.insert T (d + 1) (ofMeta m) i e c = .error .indexOutOfBounds := by
  rw [insert_succ_eq, if_pos h1]

theorem insert_succ_ok (m m2 : MetaSlab (ATree d)) (i k adj : Nat) (e : Elem) (c c1 c2 : Ctx)
    (child child' : ATree d) (hi : ¬ i > m.hdr.count)
    (h1 : (i = m.hdr.count ∧ ∃ h, m.childHdrs.getLast? = some h ∧ k = m.childHdrs.length - 1 ∧
            adj = h.count) ∨ (i ≠ m.hdr.count ∧ m.childSlabIndexInfo i = .ok (k, adj)))
    (h2 : m.children[k]? = some child)
    (h3 : ATree.insert T d child adj e c = .ok (child', c1))
    (h4 : (if ATree.isFull T d child' = true then
            MetaSlab.splitChildSlab (insM1 m k child') child' k c1
          else .ok (insM1 m k child', c1.emit (.store m.hdr.id))) = .ok (m2, c2)) :
    ATree.insert T (d + 1) (ofMeta m) i e c = .ok (ofMeta m2, c2) := by
  rw [insert_succ_eq, if_neg hi]
  rcases h1 with ⟨h0, h, hl, rfl, rfl⟩ | ⟨h0, h1⟩
  · simp only [h0, if_true, hl, h2, h3, bind, Except.bind, pure, Except.pure]
    exact h4
  · simp only [h0, if_false, h1, h2, h3, bind, Except.bind, pure, Except.pure]
    exact h4

theorem remove_zero_ok (s s' : DataSlab) (i : Nat) (old : Elem) (c c' : Ctx)
    (h : s.remove i c = .ok (old, s', c')) :
    ATree.remove T 0 (ofData s) i c = .ok (old, ofData s', c') := h
theorem remove_zero_err (s : DataSlab) (i : Nat) (c : Ctx) (err : AErr)
    (h : s.remove i c = .error err) : ATree.remove T 0 (ofData s) i c = .error err := h

theorem remove_succ_err (m : MetaSlab (ATree d)) (i : Nat) (c : Ctx) (h1 : i ≥ m.hdr.count) :
    ATree.remove T (d + 1) (ofMeta m) i c = .error .indexOutOfBounds := by
  rw [remove_succ_eq, if_pos h1]

theorem remove_succ_ok (m m2 : MetaSlab (ATree d)) (i k adj : Nat) (old : Elem) (c c1 c2 : Ctx)
    (child child' : ATree d) (hi : ¬ i ≥ m.hdr.count)
    (h1 : m.childSlabIndexInfo i = .ok (k, adj)) (h2 : m.children[k]? = some child)
    (h3 : ATree.remove T d child adj c = .ok (old, child', c1))
    (h4 : (match ATree.isUnderflow T d child' with
          | some u => MetaSlab.mergeOrRebalanceChildSlab T (remM1 m k child') child' k u c1
          | none => .ok (remM1 m k child', c1)) = .ok (m2, c2)) :
    ATree.remove T (d + 1) (ofMeta m) i c = .ok (old, ofMeta m2, c2.emit (.store m2.hdr.id)) := by
  rw [remove_succ_eq, if_neg hi, h1]
  simp only [bind, Except.bind, h2, h3]
  split at h4
  · rename_i u hu
    rw [hu]; simp only [h4]; rfl
  · rename_i hu
    cases h4
    rw [hu]; rfl

theorem MShape.book {top : Bool} {m : MetaSlab (ATree d)} (h : MShape T d top m) : Book m :=
  ⟨h.hdrs_eq, h.sums_eq⟩

theorem MShape.flat_length {top : Bool} {m : MetaSlab (ATree d)} (h : MShape T d top m) :
    m.hdr.count = (m.children.flatMap (flatten d)).length := by
  have := Shape.count_eq_length ((shape_succ T d top m).2 h)
  simpa using this

theorem sumCounts_flat {A : List (ATree d)} (hA : ∀ t ∈ A, TreeInv T d false t) :
    sumCounts (A.map (hdr d)) = (A.flatMap (flatten d)).length :=
  sumCounts_eq_length_flatMap A (fun t ht => (hA t ht).count_eq_length)

/-- routing an in-range position, in terms of the flattened sequence -/
theorem route_flat (hT : legalThreshold T = true) {top : Bool} {m : MetaSlab (ATree d)}
    (hs : MShape T d top m) (i : Nat) (hi : i < m.hdr.count) :
    ∃ A child B adj, m.children = A ++ child :: B ∧
      m.childSlabIndexInfo i = .ok (A.length, adj) ∧
      i = (A.flatMap (flatten d)).length + adj ∧ adj < (flatten d child).length ∧
      m.children[A.length]? = some child := by
  obtain ⟨A, child, B, hch, h1, h2, h3⟩ := route_spec m hs.book hs.count_eq
    (fun t ht => (hs.kids_inv t ht).count_pos hT) i hi
  have hA : ∀ t ∈ A, TreeInv T d false t := fun t ht => hs.kids_inv t (by rw [hch]; simp [ht])
  have hc : TreeInv T d false child := hs.kids_inv child (by rw [hch]; simp)
  rw [sumCounts_flat hA] at h1 h2 h3
  rw [hc.count_eq_length] at h2
  refine ⟨A, child, B, _, hch, h3, by omega, by omega, ?_⟩
  rw [hch]; exact get_at rfl

theorem get_gen (hT : legalThreshold T = true) : ∀ (d : Nat) (t : ATree d) (top : Bool) (i : Nat),
    Shape T d top t →
    (i < (flatten d t).length → ATree.get d t i = .ok ((flatten d t).getD i default)) ∧
    ((flatten d t).length ≤ i → ATree.get d t i = .error .indexOutOfBounds)
  | 0, t, top, i => by
    refine forall_ofData ?_ t; intro s _
    simp only [flatten_zero, get_zero]
    exact DataSlab.get_spec s i
  | d + 1, t, top, i => by
    refine forall_ofMeta ?_ t; intro m hs
    have hs := (shape_succ T d top m).1 hs
    have hlen := hs.flat_length
    simp only [flatten_succ]
    constructor
    · intro hi
      obtain ⟨A, child, B, adj, hch, h1, h2, h3, h4⟩ := route_flat hT hs i (by omega)
      have hc : TreeInv T d false child := hs.kids_inv child (by rw [hch]; simp)
      rw [get_succ_ok m i _ adj child h1 h4, (get_gen hT d child false adj hc.shape_false).1 h3]
      congr 1
      rw [hch, h2]
      rw [flatten_mid, getD_append_mid _ _ _ _ _ h3]
    · intro hi
      exact get_succ_err m i _ (route_err m i (by omega))

theorem afterSet_full (m1 : MetaSlab (ATree d)) (child' : ATree d) (k : Nat) (c : Ctx)
    (h : ATree.isFull T d child' = true) :
    afterSet T m1 child' k c = m1.splitChildSlab child' k c := by
  unfold afterSet; rw [if_pos h]
theorem afterSet_under (m1 : MetaSlab (ATree d)) (child' : ATree d) (k : Nat) (c : Ctx)
    (h : ¬ ATree.isFull T d child' = true) (hu : (hdr d child').size < minThr T) :
    afterSet T m1 child' k c
      = m1.mergeOrRebalanceChildSlab T child' k (minThr T - (hdr d child').size) c := by
  unfold afterSet; rw [if_neg h, isUnderflow_some T d child' hu]
theorem afterSet_none (m1 : MetaSlab (ATree d)) (child' : ATree d) (k : Nat) (c : Ctx)
    (h : ¬ ATree.isFull T d child' = true) (hu : minThr T ≤ (hdr d child').size) :
    afterSet T m1 child' k c = .ok (m1, c.emit (.store m1.hdr.id)) := by
  unfold afterSet; rw [if_neg h, isUnderflow_none T d child' hu]

/-- the under-full branch of `afterSet` carries out the plan of `akit` for the zipper around the child -/
theorem afterSet_under_plan {m1 : MetaSlab (ATree d)} {A B : List (ATree d)} {x : ATree d} (c : Ctx)
    (hch : m1.children = A ++ x :: B) (hlen : m1.childHdrs.length = m1.children.length)
    (hfull : ¬ ATree.isFull T d x = true) (hu : (hdr d x).size < minThr T) :
    afterSet T m1 x A.length c = m1.exec T x A.length c ((akit T d c).planFor (minThr T) A B x) := by
  obtain ⟨eL, eR⟩ := sibs_of_zip hch rfl hlen
  rw [afterSet_under _ _ _ _ hfull hu, mor_eq_plan, eL, eR]
  rfl

theorem afterSet_of_ge (m1 : MetaSlab (ATree d)) (child' : ATree d) (k : Nat) (c : Ctx)
    (hu : minThr T ≤ (hdr d child').size) :
    afterSet T m1 child' k c
      = if ATree.isFull T d child' = true then m1.splitChildSlab child' k c
        else .ok (m1, c.emit (.store m1.hdr.id)) := by
  unfold afterSet; rw [isUnderflow_none T d child' hu]

/-- `Remove` runs the repair step without the split branch and stores the parent afterwards -/
theorem afterSet_of_le {m1 m2 : MetaSlab (ATree d)} {child' : ATree d} {k : Nat} {c c2 : Ctx}
    (hnf : (hdr d child').size ≤ maxThr T) (h : afterSet T m1 child' k c = .ok (m2, c2)) :
    ∃ c2', (match ATree.isUnderflow T d child' with
        | some u => MetaSlab.mergeOrRebalanceChildSlab T m1 child' k u c
        | none => .ok (m1, c)) = .ok (m2, c2') ∧ c2'.ctr = c2.ctr := by
  have hfull : ¬ ATree.isFull T d child' = true :=
    fun hf => Nat.not_lt.2 hnf ((isFull_iff T d child').1 hf)
  unfold afterSet at h
  rw [if_neg hfull] at h
  revert h
  cases ATree.isUnderflow T d child' with
  | none => intro h; cases h; exact ⟨c, rfl, rfl⟩
  | some u => intro h; exact ⟨c2, h, rfl⟩

/-- what `afterSet_step` says of the result `m2`, `c2` of a step with children `cs` and `n` allocations
    (`14 = arraySlabHeaderSize`, spelled as in `Tail.size_eq`) -/
def Repaired (m1 m2 : MetaSlab (ATree d)) (c c2 : Ctx) (n : Nat) (cs : List (ATree d)) : Prop :=
  m2.children = cs ∧ Book m2 ∧ m2.hdr.id = m1.hdr.id ∧ m2.hdr.count = m1.hdr.count ∧ m2.root = m1.root ∧
    m2.hdr.size + 14 * m1.children.length = m1.hdr.size + 14 * cs.length ∧ c2.ctr = c.ctr + n

/-- a rebalance of the adjacent children `l`, `r` (either direction) that keeps their counts -/
theorem Repaired.rebal {m1 : MetaSlab (ATree d)} {P Q : List (ATree d)} {l r l' r' : ATree d} (flag : Bool)
    (c : Ctx) (hb : Book m1) (hch : m1.children = P ++ l :: r :: Q)
    (hp : (if flag = true then ATree.borrowFromRight T d l r else ATree.lendToRight T d l r) = (l', r'))
    (hW : SibRepl d c.ctr 0 [l, r] [l', r']) :
    Repaired m1 (rebalanceChildren T m1 l r P.length (P.length + 1) flag c).1 c
      (rebalanceChildren T m1 l r P.length (P.length + 1) flag c).2 0 (P ++ l' :: r' :: Q) := by
  obtain ⟨h1, hbook, hch2, h3, h4⟩ := rebalanceChildren_spec (T := T) m1 P Q l r l' r' P.length
    (P.length + 1) flag c hb hch rfl rfl hp (by simpa [sumCounts_cons, sumCounts_nil] using hW.2.1)
  refine ⟨hch2, hbook, by rw [h3], by rw [h3], h4, ?_, h1⟩
  rw [h3, hch]; simp only [List.length_append, List.length_cons]

/-- a merge of the adjacent children `l`, `r` that keeps their counts -/
theorem Repaired.merge {m1 : MetaSlab (ATree d)} {P Q : List (ATree d)} {l r : ATree d} (c : Ctx)
    (hb : Book m1) (hch : m1.children = P ++ l :: r :: Q) (hsz : arraySlabHeaderSize ≤ m1.hdr.size)
    (hW : SibRepl d c.ctr 0 [l, r] [ATree.merge d l r]) :
    Repaired m1 (mergeChildren m1 l r P.length (P.length + 1) c).1 c
      (mergeChildren m1 l r P.length (P.length + 1) c).2 0 (P ++ ATree.merge d l r :: Q) := by
  obtain ⟨h1, hbook, hch2, h3, h4, h5, h6⟩ := mergeChildren_spec m1 P Q l r P.length (P.length + 1) c
    hb hch rfl rfl (by simpa [sumCounts_cons, sumCounts_nil] using hW.2.1)
  refine ⟨hch2, hbook, h3, h4, h6, ?_, h1⟩
  rw [h5, hch]
  simp only [List.length_append, List.length_cons, arraySlabHeaderSize] at hsz ⊢
  omega

/-- Each `Core.Step` of `akit` is what `afterSet` does, with the bookkeeping of the model function that
    carries it out (`*_spec`): the result has the step's children, keeps `Book`, identifier, count and
    root flag, its size follows the number of children, the counter moves by the slabs allocated. -/
theorem afterSet_step (hlh : minThr T ≤ maxThr T) {m1 : MetaSlab (ATree d)} {A B : List (ATree d)}
    {x : ATree d} (c : Ctx) {n : Nat} {cs : List (ATree d)} (hb : Book m1)
    (hch : m1.children = A ++ x :: B)
    (hsz : (hdr d x).size < minThr T → arraySlabHeaderSize ≤ m1.hdr.size)
    (hstep : Step (akit T d c) (minThr T) (maxThr T) (SibRepl d c.ctr) A B x n cs) :
    ∃ m2 c2, afterSet T m1 x A.length c = .ok (m2, c2) ∧ Repaired m1 m2 c c2 n cs := by
  have hlen : m1.childHdrs.length = m1.children.length := by rw [hb.hdrs_eq, List.length_map]
  have notFull : (hdr d x).size < minThr T → ¬ ATree.isFull T d x = true := fun hu h => by
    have := (isFull_iff T d x).1 h; omega
  cases hstep with
  | same hlo hhi =>
    replace hhi : (hdr d x).size ≤ maxThr T := hhi
    have hfull : ¬ ATree.isFull T d x = true := fun h => by
      have := (isFull_iff T d x).1 h; omega
    exact ⟨m1, _, afterSet_none _ _ _ _ hfull hlo, hch, hb, rfl, rfl, rfl, by rw [hch], rfl⟩
  | @split l r hfull he hW =>
    obtain ⟨⟨l0, r0, c'⟩, hsp, hlr⟩ := eq_ok_of_toOption_map he
    obtain ⟨rfl, rfl⟩ := Prod.mk.inj hlr
    obtain ⟨m2, c2, heq, hc2, hbook, hch2, h1, h2, h3, h4⟩ := splitChildSlab_spec m1 A B x l0 r0
      A.length c c' hb hch rfl hsp (by simpa [sumCounts_cons, sumCounts_nil] using hW.2.1)
    refine ⟨m2, c2, by rw [afterSet_full _ _ _ _ ((isFull_iff T d x).2 hfull)]; exact heq,
      hch2, hbook, h1, h2, h4, ?_, by rw [hc2, (split_struct d x c l0 r0 c' hsp).2.2.2]; rfl⟩
    rw [h3, hch]
    simp only [List.length_append, List.length_cons, arraySlabHeaderSize]; omega
  | @rebalL A' l l' x' hu hA' hp he hW =>
    subst hA'
    have hk : (A' ++ [l]).length = A'.length + 1 := by simp
    refine ⟨_, _, ?_, Repaired.rebal (T := T) false c hb
      (by rw [hch, List.append_assoc]; rfl) (Option.some.inj he) hW⟩
    rw [afterSet_under_plan c hch hlen (notFull hu) hu, hp, hk]; rfl
  | @rebalR B' r x' r' hu hB' hp he hW =>
    subst hB'
    exact ⟨_, _, by rw [afterSet_under_plan c hch hlen (notFull hu) hu, hp]; rfl,
      Repaired.rebal (T := T) true c hb hch (Option.some.inj he) hW⟩
  | @mergeL A' l hu hA' hp hW =>
    subst hA'
    have hk : (A' ++ [l]).length = A'.length + 1 := by simp
    refine ⟨_, _, ?_, Repaired.merge c hb (by rw [hch, List.append_assoc]; rfl) (hsz hu) hW⟩
    rw [afterSet_under_plan c hch hlen (notFull hu) hu, hp, hk]; rfl
  | @mergeR B' r hu hB' hp hW =>
    subst hB'
    exact ⟨_, _, by rw [afterSet_under_plan c hch hlen (notFull hu) hu, hp]; rfl,
      Repaired.merge c hb hch (hsz hu) hW⟩

/-- The parent's repair step (split the child, merge or rebalance it with a sibling, or nothing)
    succeeds whenever the child written back is at most `maxInlineArr T + 16` above `maxThr` (one
    element, plus the `16 = arrayDataSlabPrefixSize - arrayRootDataSlabPrefixSize` bytes by which
    the prefix of a root data slab grows when `splitRoot` demotes it before splitting), and
    restores the size band of all children (siblings, common owner and room for a header are asked
    for only when the child underflows).  The number of children does not drop unless the child
    underflows and does not grow unless it overflows. -/
theorem afterSet_spec (hT : legalThreshold T = true) {m1 : MetaSlab (ATree d)}
    {A B : List (ATree d)} {child' : ATree d} (c1 : Ctx) (a : Nat)
    (hb : Book m1) (hch1 : m1.children = A ++ child' :: B)
    (hA : ∀ t ∈ A, TreeInv T d false t) (hB : ∀ t ∈ B, TreeInv T d false t)
    (hs : Shape T d false child') (hhi : (hdr d child').size ≤ maxThr T + maxInlineArr T + 16)
    (hsib : (hdr d child').size < minThr T → 1 ≤ A.length + B.length)
    (haddr : (hdr d child').size < minThr T → ∀ t ∈ m1.children, (hdr d t).id.addr = a)
    (hsz : (hdr d child').size < minThr T → arraySlabHeaderSize ≤ m1.hdr.size) :
    ∃ m2 c2, afterSet T m1 child' A.length c1 = .ok (m2, c2) ∧ Tail T d m1 m2 c1.ctr c2.ctr ∧
      c2.ctr = c1.ctr + (if maxThr T < (hdr d child').size then 1 else 0) ∧
      (maxThr T < (hdr d child').size → m2.children.length = m1.children.length + 1) ∧
      (minThr T ≤ (hdr d child').size → m1.children.length ≤ m2.children.length) ∧
      ((hdr d child').size ≤ maxThr T → m2.children.length ≤ m1.children.length) := by
  have hlh : minThr T ≤ maxThr T := by have := thr_rel hT; omega
  have had : (hdr d child').size < minThr T →
      ∀ t ∈ A ++ child' :: B, (hdr d t).id.addr = (hdr d child').id.addr := fun hu t ht => by
    rw [haddr hu t (hch1 ▸ ht), haddr hu child' (by rw [hch1]; simp)]
  obtain ⟨n, cs, hstep, htight, hflat, hcounts, hrepl⟩ :=
    (akit_laws hT d c1).repair_spec hA hB hs (Nat.add_assoc _ _ _ ▸ hhi) hsib
      (fun hu l hl => (had hu l (by simp [List.mem_of_getLast? hl])).symm)
      (fun hu r hr => had hu r (by simp [List.mem_of_mem_head? hr]))
  obtain ⟨m2, c2, he, rfl, hbook, hid, hcount, hroot, hsize, hctr⟩ :=
    afterSet_step hlh c1 hb hch1 hsz hstep
  have hl1 : m1.children.length = A.length + 1 + B.length := by
    rw [hch1]; simp only [List.length_append, List.length_cons]; omega
  obtain ⟨hn, l1, l2, l3, l4, l5⟩ := hstep.length hlh hl1
  rw [← hch1] at hflat hcounts hrepl
  exact ⟨m2, c2, he, ⟨htight, hflat, hcounts, hctr ▸ hrepl, hbook, hid, hcount, hroot, hsize, l4, l5⟩,
    hn ▸ hctr, l1, l2, l3⟩

/-- an index slab's size follows its number of children, 14 bytes each -/
theorem size_of_kids {s s2 n n2 : Nat} (h : s2 + 14 * n = s + 14 * n2) (h1 : n ≤ n2 + 1)
    (h2 : n2 ≤ n + 1) :
    s2 ≤ s + 14 ∧ s ≤ s2 + 14 ∧ (n ≤ n2 → s ≤ s2) ∧ (n2 ≤ n → s2 ≤ s) := by
  omega

/-- One level of `Insert` / `Set` / `Remove`: the child `A.length` of `m` was replaced by `child'`
    (result `m1`, differing from `m` in the children, their bookkeeping and the count only); the
    repair step then succeeds and the new parent `m2` is a `StepOk` successor of `m` holding
    `child'` in place of `child`, its size within one child header of the old one. -/
theorem descend (hT : legalThreshold T = true) {top : Bool} {m m1 : MetaSlab (ATree d)}
    {A B : List (ATree d)} {child child' : ATree d} {c : Nat} (c1 : Ctx)
    (hinv : TreeInv T (d + 1) top (ofMeta m)) (hch : m.children = A ++ child :: B)
    (hstep : StepOk T d false child child' c c1.ctr)
    (hhi : (hdr d child').size ≤ (hdr d child).size + maxInlineArr T)
    (hch1 : m1.children = A ++ child' :: B) (hid1 : m1.hdr.id = m.hdr.id)
    (hroot1 : m1.root = m.root) (hsize1 : m1.hdr.size = m.hdr.size) (hb : Book m1)
    (hcount1 : m1.hdr.count = sumCounts m1.childHdrs) :
    ∃ m2 c2, afterSet T m1 child' A.length c1 = .ok (m2, c2) ∧
      StepOk T (d + 1) top (ofMeta m) (ofMeta m2) c c2.ctr ∧
      flatten (d + 1) (ofMeta m2)
        = A.flatMap (flatten d) ++ flatten d child' ++ B.flatMap (flatten d) ∧
      m2.hdr.count = m1.hdr.count ∧
      m2.hdr.size ≤ m.hdr.size + 14 ∧ m.hdr.size ≤ m2.hdr.size + 14 ∧
      (minThr T ≤ (hdr d child').size → m.hdr.size ≤ m2.hdr.size) ∧
      ((hdr d child').size ≤ maxThr T → m2.hdr.size ≤ m.hdr.size) := by
  obtain ⟨hs, _, _, _⟩ := (treeInv_succ T d top m).1 hinv
  obtain ⟨hA, hB, hc, _⟩ := hs.at_child hch
  have hlen : m.children.length = A.length + B.length + 1 := by
    rw [hch, List.length_append, List.length_cons, Nat.add_assoc]
  have hlen1 : m1.children.length = m.children.length := by
    rw [hch, hch1, List.length_append, List.length_append, List.length_cons, List.length_cons]
  obtain ⟨m2, c2, haft, htail, -, -, l1, l2⟩ := afterSet_spec hT c1 m.hdr.id.addr hb hch1 hA hB
    hstep.shape (Nat.le_trans (Nat.le_trans hhi (Nat.add_le_add_right hc.le_max _)) (Nat.le_add_right _ _))
    (fun _ => Nat.le_of_succ_le_succ (hlen ▸ two_kids hT hinv : 2 ≤ A.length + B.length + 1))
    (fun _ => by rw [hch1]; exact hs.addr_replaced hch hstep.id_eq)
    (fun _ => by
      rw [hsize1, hs.kids_of_size, hlen, Nat.mul_succ]
      exact Nat.le_trans (Nat.le_add_left _ _) (Nat.le_add_left _ _))
  obtain ⟨a1, a2, a3, a4, a5, a6⟩ :=
    assemble hs hch hch1 hid1 hroot1 hsize1 hb hcount1 hstep.repl htail
  have e1 := htail.len_le
  have e2 := htail.len_ge
  rw [hlen1] at e1 e2 l1 l2
  obtain ⟨q1, q2, q3, q4⟩ := size_of_kids a6 e1 e2
  exact ⟨m2, c2, haft, ⟨(shape_succ T d top m2).2 a1, a3, a2⟩, a4, a5, q1, q2,
    fun h => q3 (l1 h), fun h => q4 (l2 h)⟩

/-- routing of `Insert` (append to the last child when `i = count`) -/
theorem route_insert (hT : legalThreshold T = true) {top : Bool} {m : MetaSlab (ATree d)}
    (hs : MShape T d top m) (h2 : 2 ≤ m.children.length) (i : Nat) (hi : i ≤ m.hdr.count) :
    ∃ A child B adj, m.children = A ++ child :: B ∧
      ((i = m.hdr.count ∧ ∃ h, m.childHdrs.getLast? = some h ∧ A.length = m.childHdrs.length - 1 ∧
            adj = h.count) ∨ (i ≠ m.hdr.count ∧ m.childSlabIndexInfo i = .ok (A.length, adj))) ∧
      i = (A.flatMap (flatten d)).length + adj ∧ adj ≤ (flatten d child).length ∧
      m.children[A.length]? = some child := by
  by_cases hic : i = m.hdr.count
  · rcases List.eq_nil_or_concat m.children with hn | ⟨A, child, hch⟩
    · rw [hn] at h2; simp at h2
    · rw [List.concat_eq_append] at hch
      have hc : TreeInv T d false child := hs.kids_inv child (by rw [hch]; simp)
      refine ⟨A, child, [], (hdr d child).count, hch, Or.inl ⟨hic, hdr d child, ?_, ?_, rfl⟩, ?_, ?_, ?_⟩
      · rw [hs.hdrs_eq, hch]; simp
      · rw [hs.hdrs_eq, hch]; simp
      · rw [hic, hs.flat_length, hch, hc.count_eq_length]; simp
      · rw [hc.count_eq_length]; exact Nat.le_refl _
      · rw [hch]; exact get_at rfl
  · obtain ⟨A, child, B, adj, hch, h1, h3, h4, h5⟩ := route_flat hT hs i (by omega)
    exact ⟨A, child, B, adj, hch, Or.inr ⟨hic, h1⟩, h3, by omega, h5⟩

theorem insert_genR (hT : legalThreshold T = true) :
    ∀ (d : Nat) (t : ATree d) (top : Bool) (i : Nat) (v : Elem) (c : Ctx),
    TreeInv T d top t → NotInl d t → StorOk T v → i ≤ (flatten d t).length →
    ∃ t' c', ATree.insert T d t i v c = .ok (t', c') ∧ StepOk T d top t t' c.ctr c'.ctr ∧
      flatten d t' = (flatten d t).insertIdx i (toStorable T (hdr d t).id.addr v c).1 ∧
      (hdr d t').count = (hdr d t).count + 1 ∧
      (hdr d t).size ≤ (hdr d t').size ∧ (hdr d t').size ≤ (hdr d t).size + maxInlineArr T := by
  intro d
  induction d with
  | zero =>
    intro t top i v c
    refine forall_ofData ?_ t; intro s hinv hni hv hi
    have hs : DShape T top s := (shape_zero T top s).1 (hinv.shape hni)
    simp only [flatten_zero] at hi
    obtain ⟨s', c', heq, hs', hel, hid, hn, hcnt, hsz, hle, hc⟩ :=
      DataSlab.insert_specR T hT top s i v c hs hv hi
    refine ⟨ofData s', c', insert_zero_ok s s' i v c c' heq, stepOk_data T top s s' _ _ hs' hid hn hc,
      hel, hcnt, ?_, ?_⟩
    · exact Nat.le_trans (Nat.le_add_right _ _) (Nat.le_of_eq hsz.symm)
    · exact Nat.le_trans (Nat.le_of_eq hsz) (Nat.add_le_add_left hle _)
  | succ d ih =>
    intro t top i v c
    refine forall_ofMeta ?_ t; intro m hinv _ hv hi
    obtain ⟨hs, _, _, _⟩ := (treeInv_succ T d top m).1 hinv
    simp only [flatten_succ, ← hs.flat_length] at hi
    obtain ⟨A, child, B, adj, hch, hroute, hi2, hadj, hget⟩ :=
      route_insert hT hs (two_kids hT hinv) i hi
    obtain ⟨_, _, hc, hcaddr⟩ := hs.at_child hch
    obtain ⟨child', c1, hins, hstep, hflat, hcnt, hsz1, hsz2⟩ :=
      ih child false adj v c hc hc.notInl_of_false hv hadj
    obtain ⟨hch1, hbook1, hcount1⟩ := written_back (f := (· + 1)) hs hch hcnt
      (fun x y _ => Nat.add_right_comm x y 1)
    have hmin : minThr T ≤ (hdr d child').size := Nat.le_trans hc.ge_min hsz1
    obtain ⟨m2, c2, haft, hstep2, hflat2, hcnt2, s1, _, s3, _⟩ :=
      descend (m1 := insM1 m A.length child') hT c1 hinv hch hstep hsz2 hch1 rfl rfl rfl hbook1 hcount1
    rw [afterSet_of_ge _ _ _ _ hmin] at haft
    refine ⟨ofMeta m2, c2, insert_succ_ok m m2 i A.length adj v c c1 c2 child child'
      (Nat.not_lt.2 hi) hroute hget hins haft, hstep2, ?_, hcnt2, s3 hmin, ?_⟩
    · rw [hflat2, flatten_succ, hflat, hcaddr, hch, hi2, flatten_mid,
        insertIdx_append_mid _ _ _ _ _ hadj]
      rfl
    · exact Nat.le_trans s1 (Nat.add_le_add_left (hdr_le_inline hT) _)

theorem insert_gen (hT : legalThreshold T = true) :
    ∀ (d : Nat) (t : ATree d) (top : Bool) (i : Nat) (v : Elem) (c : Ctx),
    TreeInv T d top t → NotInl d t → ValueOk v → i ≤ (flatten d t).length →
    ∃ t' c', ATree.insert T d t i v c = .ok (t', c') ∧ StepOk T d top t t' c.ctr c'.ctr ∧
      flatten d t' = (flatten d t).insertIdx i (toStorable T (hdr d t).id.addr v c).1 ∧
      (hdr d t').count = (hdr d t).count + 1 ∧
      (hdr d t).size ≤ (hdr d t').size ∧ (hdr d t').size ≤ (hdr d t).size + maxInlineArr T :=
  fun d t top i v c hinv hni hv => insert_genR hT d t top i v c hinv hni (.of_valueOk hv)

theorem set_genR (hT : legalThreshold T = true) :
    ∀ (d : Nat) (t : ATree d) (top : Bool) (i : Nat) (v : Elem) (c : Ctx),
    TreeInv T d top t → NotInl d t → StorOk T v → i < (flatten d t).length →
    ∃ t' c', ATree.set T d t i v c = .ok ((flatten d t).getD i default, t', c') ∧
      StepOk T d top t t' c.ctr c'.ctr ∧
      flatten d t' = (flatten d t).set i (toStorable T (hdr d t).id.addr v c).1 ∧
      (hdr d t').count = (hdr d t).count ∧
      (hdr d t').size ≤ (hdr d t).size + maxInlineArr T ∧
      (hdr d t).size ≤ (hdr d t').size + maxInlineArr T ∧
      (d ≠ 0 → (hdr d t).size ≤ (hdr d t').size + 14) := by
  intro d
  induction d with
  | zero =>
    intro t top i v c
    refine forall_ofData ?_ t; intro s hinv hni hv hi
    have hs : DShape T top s := (shape_zero T top s).1 (hinv.shape hni)
    simp only [flatten_zero] at hi
    obtain ⟨s', c', heq, hs', hel, hid, hn, hcnt, hsz, hle1, hle2, hc⟩ :=
      DataSlab.set_specR T hT top s i v c hs hv hi
    refine ⟨ofData s', c', set_zero_ok s s' i v _ c c' heq, stepOk_data T top s s' _ _ hs' hid hn hc,
      hel, hcnt, ?_, ?_, fun h => absurd rfl h⟩
    · exact Nat.le_trans (Nat.le_add_right _ _)
        (Nat.le_trans (Nat.le_of_eq hsz) (Nat.add_le_add_left hle2 _))
    · exact Nat.le_trans (Nat.le_add_right _ _)
        (Nat.le_trans (Nat.le_of_eq hsz.symm) (Nat.add_le_add_left hle1 _))
  | succ d ih =>
    intro t top i v c
    refine forall_ofMeta ?_ t; intro m hinv _ hv hi
    obtain ⟨hs, _, _, _⟩ := (treeInv_succ T d top m).1 hinv
    simp only [flatten_succ, ← hs.flat_length] at hi
    obtain ⟨A, child, B, adj, hch, hroute, hi2, hadj, hget⟩ := route_flat hT hs i hi
    obtain ⟨_, _, hc, hcaddr⟩ := hs.at_child hch
    obtain ⟨child', c1, hset, hstep, hflat, hcnt, hsz1, hsz2, _⟩ :=
      ih child false adj v c hc hc.notInl_of_false hv hadj
    obtain ⟨hch1, hbook1, hcount1⟩ := written_back (f := id) hs hch hcnt (fun _ _ _ => rfl)
    rw [← setM1_eq] at hch1 hbook1 hcount1
    obtain ⟨m2, c2, haft, hstep2, hflat2, hcnt2, s1, s2, _, _⟩ :=
      descend hT c1 hinv hch hstep hsz1 hch1 rfl rfl rfl hbook1 hcount1
    refine ⟨ofMeta m2, c2, ?_, hstep2, ?_, hcnt2, ?_, ?_, fun _ => s2⟩
    · have hold : (flatten (d + 1) (ofMeta m)).getD i default = (flatten d child).getD adj default := by
        rw [flatten_succ, hch, flatten_mid, hi2, getD_append_mid _ _ _ _ _ hadj]
      rw [hold]
      exact set_succ_ok m m2 i A.length adj v _ c c1 c2 child child' hroute hget hset haft
    · rw [hflat2, flatten_succ, hflat, hcaddr, hch, hi2, flatten_mid, set_append_mid _ _ _ _ _ hadj]
      rfl
    · exact Nat.le_trans s1 (Nat.add_le_add_left (hdr_le_inline hT) _)
    · exact Nat.le_trans s2 (Nat.add_le_add_left (hdr_le_inline hT) _)

theorem set_gen (hT : legalThreshold T = true) :
    ∀ (d : Nat) (t : ATree d) (top : Bool) (i : Nat) (v : Elem) (c : Ctx),
    TreeInv T d top t → NotInl d t → ValueOk v → i < (flatten d t).length →
    ∃ t' c', ATree.set T d t i v c = .ok ((flatten d t).getD i default, t', c') ∧
      StepOk T d top t t' c.ctr c'.ctr ∧
      flatten d t' = (flatten d t).set i (toStorable T (hdr d t).id.addr v c).1 ∧
      (hdr d t').count = (hdr d t).count ∧
      (hdr d t').size ≤ (hdr d t).size + maxInlineArr T ∧
      (hdr d t).size ≤ (hdr d t').size + maxInlineArr T ∧
      (d ≠ 0 → (hdr d t).size ≤ (hdr d t').size + 14) :=
  fun d t top i v c hinv hni hv => set_genR hT d t top i v c hinv hni (.of_valueOk hv)

theorem remove_gen (hT : legalThreshold T = true) :
    ∀ (d : Nat) (t : ATree d) (top : Bool) (i : Nat) (c : Ctx),
    TreeInv T d top t → NotInl d t → i < (flatten d t).length →
    ∃ t' c', ATree.remove T d t i c = .ok ((flatten d t).getD i default, t', c') ∧
      StepOk T d top t t' c.ctr c'.ctr ∧
      flatten d t' = (flatten d t).eraseIdx i ∧
      (hdr d t').count + 1 = (hdr d t).count ∧
      (hdr d t').size ≤ (hdr d t).size ∧
      (hdr d t).size ≤ (hdr d t').size + maxInlineArr T ∧
      (d ≠ 0 → (hdr d t).size ≤ (hdr d t').size + 14) := by
  intro d
  induction d with
  | zero =>
    intro t top i c
    refine forall_ofData ?_ t; intro s hinv hni hi
    have hs : DShape T top s := (shape_zero T top s).1 (hinv.shape hni)
    simp only [flatten_zero] at hi
    obtain ⟨s', c', heq, hs', hel, hid, hn, hcnt, hsz, hle1, hc⟩ :=
      DataSlab.remove_spec T top s i c hs hi
    refine ⟨ofData s', c', remove_zero_ok s s' i _ c c' heq,
      stepOk_data T top s s' _ _ hs' hid hn (Nat.le_of_eq hc.symm),
      hel, hcnt, ?_, ?_, fun h => absurd rfl h⟩
    · exact Nat.le_trans (Nat.le_add_right _ _) (Nat.le_of_eq hsz)
    · exact Nat.le_trans (Nat.le_of_eq hsz.symm) (Nat.add_le_add_left hle1 _)
  | succ d ih =>
    intro t top i c
    refine forall_ofMeta ?_ t; intro m hinv _ hi
    obtain ⟨hs, _, _, _⟩ := (treeInv_succ T d top m).1 hinv
    simp only [flatten_succ, ← hs.flat_length] at hi
    obtain ⟨A, child, B, adj, hch, hroute, hi2, hadj, hget⟩ := route_flat hT hs i hi
    obtain ⟨_, _, hc, _⟩ := hs.at_child hch
    have hcpos := hc.count_pos hT
    obtain ⟨child', c1, hrem, hstep, hflat, hcnt, hsz1, hsz2, _⟩ :=
      ih child false adj c hc hc.notInl_of_false hadj
    obtain ⟨hch1, hbook1, hcount1⟩ := written_back (f := (· - 1)) hs hch (Nat.eq_sub_of_add_eq hcnt)
      (fun x y hx => Nat.sub_add_comm (Nat.le_trans hcpos hx))
    have hnf : (hdr d child').size ≤ maxThr T := Nat.le_trans hsz1 hc.le_max
    obtain ⟨m2, c2, haft, hstep2, hflat2, hcnt2, _, s2, _, s4⟩ :=
      descend (m1 := remM1 m A.length child') hT c1 hinv hch hstep
        (Nat.le_trans hsz1 (Nat.le_add_right _ _)) hch1 rfl rfl rfl hbook1 hcount1
    obtain ⟨c2', hrun, hctr⟩ := afterSet_of_le hnf haft
    rw [← hctr] at hstep2
    have hold : (flatten (d + 1) (ofMeta m)).getD i default = (flatten d child).getD adj default := by
      rw [flatten_succ, hch, flatten_mid, hi2, getD_append_mid _ _ _ _ _ hadj]
    refine ⟨ofMeta m2, c2'.emit (.store m2.hdr.id), ?_, hstep2, ?_, ?_, s4 hnf, ?_, fun _ => s2⟩
    · rw [hold]
      exact remove_succ_ok m m2 i A.length adj _ c c1 c2' child child' (Nat.not_le.2 hi) hroute hget
        hrem hrun
    · rw [hflat2, flatten_succ, hflat, hch, hi2, flatten_mid, eraseIdx_append_mid _ _ _ _ hadj]
    · show m2.hdr.count + 1 = m.hdr.count
      rw [hcnt2]
      exact Nat.sub_add_cancel (Nat.succ_le_of_lt (Nat.lt_of_le_of_lt (Nat.zero_le i) hi))
    · exact Nat.le_trans s2 (Nat.add_le_add_left (hdr_le_inline hT) _)

end Atree

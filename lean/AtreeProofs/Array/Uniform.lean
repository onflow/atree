import AtreeProofs.Array.MetaLemmas
import AtreeProofs.Array.Group
/-
  Depth-uniform specifications of `ATree.{split,merge,lendToRight,borrowFromRight,canLend…}`.
-/
namespace Atree
open Gen ATree MetaSlab

variable {T : Nat}

theorem chain_single (f n : SlabID) (s : DataSlab) : Chain f n [s] ↔ s.hdr.id = f ∧ s.next = n := by
  simp [Chain]
theorem chain_pair (f n : SlabID) (l r : DataSlab) :
    Chain f n [l, r] ↔ l.hdr.id = f ∧ r.hdr.id = l.next ∧ r.next = n := by
  simp [Chain]

theorem split_ok (hT : legalThreshold T = true) : ∀ (d : Nat) (t : ATree d) (c : Ctx),
    Shape T d false t → maxThr T < (hdr d t).size →
    (hdr d t).size ≤ maxThr T + maxInlineArr T + 16 →
    ∃ l r c', ATree.split d t c = .ok (l, r, c') ∧ c'.ctr = c.ctr + 1 ∧
      TreeInv T d false l ∧ TreeInv T d false r ∧
      flatten d l ++ flatten d r = flatten d t ∧
      (hdr d l).id = (hdr d t).id ∧
      (hdr d l).count + (hdr d r).count = (hdr d t).count ∧
      Repl d [t] [l, r] c.ctr c'.ctr
  | 0, t, c => by
    refine forall_ofData ?_ t; intro s hs hlo hhi
    simp only [hdr_zero] at hlo hhi
    obtain ⟨l, r, heq, hl, hr, hel, hid, hrid, hln, hrn, hcnt⟩ :=
      DataSlab.split_spec T hT s c ((shape_zero T false s).1 hs) hlo hhi
    refine ⟨ofData l, ofData r, _, heq, rfl, (treeInv_zero T false l).2 hl,
      (treeInv_zero T false r).2 hr, hel, hid, hcnt, ?_⟩
    refine Repl.of_fresh c.ctr s.hdr.id.addr ?_ ?_ ⟨s.hdr.id, by simp, rfl⟩ ?_
    · intro f n
      simp only [List.flatMap_cons, List.flatMap_nil, leaves_zero, List.append_nil,
        List.singleton_append, chain_single, chain_pair]
      rintro ⟨h1, h2⟩
      exact ⟨by rw [hid, h1], hln.symm, by rw [hrn, h2]⟩
    · simp only [List.flatMap_cons, List.flatMap_nil, slabIds_zero, List.append_nil,
        List.singleton_append, hid, hrid]
      exact List.Perm.swap _ _ _
    · intro a ha x hx
      have ha := ha (ofData s) (by simp)
      simp only [hdr_zero] at ha
      simp only [List.mem_cons, List.not_mem_nil, or_false] at hx
      rcases hx with hx | hx
      · rw [hx, hdr_zero, hid, ha]
      · rw [hx, hdr_zero, hrid]; exact ha
  | d + 1, t, c => by
    refine forall_ofMeta ?_ t; intro m hs hlo hhi
    simp only [hdr_succ] at hlo hhi
    obtain ⟨l, r, heq, hl, hr, hch, hid, hrid, hcnt⟩ :=
      MetaSlab.split_spec hT m c ((shape_succ T d false m).1 hs) hlo hhi
    refine ⟨ofMeta l, ofMeta r, _, heq, rfl, hl, hr, ?_, hid, hcnt, ?_⟩
    · simp only [flatten_succ, ← List.flatMap_append, hch]
    refine Repl.of_fresh c.ctr m.hdr.id.addr ?_ ?_ ⟨m.hdr.id, by simp, rfl⟩ ?_
    · apply ChainPres.of_eq
      simp only [List.flatMap_cons, List.flatMap_nil, leaves_succ, List.append_nil,
        ← List.flatMap_append, hch]
    · simp only [List.flatMap_cons, List.flatMap_nil, slabIds_succ, List.append_nil, hid, hrid,
        ← hch, List.flatMap_append, List.cons_append]
      refine List.Perm.trans ?_ (List.Perm.swap _ _ _)
      exact List.Perm.cons _ List.perm_middle
    · intro a ha x hx
      have ha := ha (ofMeta m) (by simp)
      simp only [hdr_succ] at ha
      simp only [List.mem_cons, List.not_mem_nil, or_false] at hx
      rcases hx with hx | hx
      · rw [hx, hdr_succ, hid, ha]
      · rw [hx, hdr_succ, hrid]; exact ha

theorem merge_ok (c : Nat) : ∀ (d : Nat) (l r : ATree d), Shape T d false l → Shape T d false r →
    (hdr d r).id.addr = (hdr d l).id.addr →
    Shape T d false (ATree.merge d l r) ∧
      flatten d (ATree.merge d l r) = flatten d l ++ flatten d r ∧
      (hdr d (ATree.merge d l r)).id = (hdr d l).id ∧
      (hdr d (ATree.merge d l r)).count = (hdr d l).count + (hdr d r).count ∧
      (hdr d (ATree.merge d l r)).size + pfx d = (hdr d l).size + (hdr d r).size ∧
      Repl d [l, r] [ATree.merge d l r] c c
  | 0, l, r => by
    refine forall_ofData ?_ l; intro l
    refine forall_ofData ?_ r; intro r
    intro hl hr _
    obtain ⟨h1, h2, h3, h4, h5, h6⟩ :=
      DataSlab.merge_spec T l r ((shape_zero T false l).1 hl) ((shape_zero T false r).1 hr)
    show Shape T 0 false (ofData (DataSlab.merge l r)) ∧
      flatten 0 (ofData (DataSlab.merge l r)) = _ ∧ (hdr 0 (ofData (DataSlab.merge l r))).id = _ ∧
      (hdr 0 (ofData (DataSlab.merge l r))).count = _ ∧
      (hdr 0 (ofData (DataSlab.merge l r))).size + pfx 0 = _ ∧
      Repl 0 [ofData l, ofData r] [ofData (DataSlab.merge l r)] c c
    refine ⟨(shape_zero T false _).2 h1, h2, h3, h5, h6, ?_⟩
    refine Repl.of_subset c ?_ ?_ ?_ ?_
    · intro f n
      simp only [List.flatMap_cons, List.flatMap_nil, leaves_zero, List.append_nil,
        List.singleton_append, chain_single, chain_pair]
      rintro ⟨a1, a2, a3⟩
      exact ⟨by rw [h3, a1], by rw [h4, a3]⟩
    · simp only [List.flatMap_cons, List.flatMap_nil, slabIds_zero, List.append_nil,
        List.singleton_append, h3]
      exact fun _ => List.pairwise_singleton _ _
    · simp only [List.flatMap_cons, List.flatMap_nil, slabIds_zero, List.append_nil,
        List.singleton_append, h3]
      intro id hid
      simp only [List.mem_singleton] at hid
      simp [hid]
    · intro a ha x hx
      simp only [List.mem_singleton] at hx
      rw [hx, hdr_zero, h3]
      exact ha (ofData l) (by simp)
  | d + 1, l, r => by
    refine forall_ofMeta ?_ l; intro l
    refine forall_ofMeta ?_ r; intro r
    intro hl hr haddr
    simp only [hdr_succ] at haddr
    obtain ⟨h1, h2, h3, h4, h5⟩ :=
      MetaSlab.merge_spec l r ((shape_succ T d false l).1 hl) ((shape_succ T d false r).1 hr) haddr
    show Shape T (d + 1) false (ofMeta (MetaSlab.merge l r)) ∧
      flatten (d + 1) (ofMeta (MetaSlab.merge l r)) = _ ∧
      (hdr (d + 1) (ofMeta (MetaSlab.merge l r))).id = _ ∧
      (hdr (d + 1) (ofMeta (MetaSlab.merge l r))).count = _ ∧
      (hdr (d + 1) (ofMeta (MetaSlab.merge l r))).size + pfx (d + 1) = _ ∧
      Repl (d + 1) [ofMeta l, ofMeta r] [ofMeta (MetaSlab.merge l r)] c c
    refine ⟨(shape_succ T d false _).2 h1, by rw [flatten_succ, h2, List.flatMap_append]; rfl, h3, h4,
      h5, ?_⟩
    refine Repl.of_subset c ?_ ?_ ?_ ?_
    · apply ChainPres.of_eq
      simp [h2]
    · simp only [List.flatMap_cons, List.flatMap_nil, slabIds_succ, List.append_nil, h3, h2,
        List.flatMap_append, List.cons_append]
      intro hnd
      have hsub : (l.hdr.id :: (List.flatMap (slabIds d) l.children ++ List.flatMap (slabIds d) r.children)).Sublist
          (l.hdr.id :: (List.flatMap (slabIds d) l.children ++ r.hdr.id :: List.flatMap (slabIds d) r.children)) := by
        apply List.Sublist.cons_cons
        apply List.Sublist.append_left
        exact List.sublist_cons_self _ _
      exact hnd.sublist hsub
    · simp only [List.flatMap_cons, List.flatMap_nil, slabIds_succ, List.append_nil, h3, h2,
        List.flatMap_append, List.cons_append]
      intro id hid
      simp only [List.mem_cons, List.mem_append] at hid ⊢
      rcases hid with hid | hid | hid
      · exact Or.inl hid
      · exact Or.inr (Or.inl hid)
      · exact Or.inr (Or.inr (Or.inr hid))
    · intro a ha x hx
      simp only [List.mem_singleton] at hx
      rw [hx, hdr_succ, h3]
      exact ha (ofMeta l) (by simp)

/-- what both directions of a rebalance deliver -/
structure RebalOk (T d : Nat) (l r l' r' : ATree d) (c : Nat) : Prop where
  invl : TreeInv T d false l'
  invr : TreeInv T d false r'
  flat : flatten d l' ++ flatten d r' = flatten d l ++ flatten d r
  idl : (hdr d l').id = (hdr d l).id
  idr : (hdr d r').id = (hdr d r).id
  counts : (hdr d l').count + (hdr d r').count = (hdr d l).count + (hdr d r).count
  repl : Repl d [l, r] [l', r'] c c

theorem rebal_data (c : Nat) (l r l' r' : DataSlab)
    (h1 : DataInv T false l') (h2 : DataInv T false r')
    (h3 : l'.elems ++ r'.elems = l.elems ++ r.elems)
    (h4 : l'.hdr.id = l.hdr.id) (h5 : r'.hdr.id = r.hdr.id) (h6 : l'.next = l.next)
    (h7 : r'.next = r.next)
    (h8 : l'.hdr.count + r'.hdr.count = l.hdr.count + r.hdr.count) :
    RebalOk T 0 (ofData l) (ofData r) (ofData l') (ofData r') c := by
  refine ⟨(treeInv_zero T false _).2 h1, (treeInv_zero T false _).2 h2, h3,
    h4, h5, h8, ?_⟩
  refine Repl.of_subset c ?_ ?_ ?_ ?_
  · intro f n
    simp only [List.flatMap_cons, List.flatMap_nil, leaves_zero, List.append_nil,
      List.singleton_append, chain_pair, h4, h5, h6, h7]
    exact id
  · simp only [List.flatMap_cons, List.flatMap_nil, slabIds_zero, List.append_nil,
      List.singleton_append, h4, h5]
    exact id
  · simp only [List.flatMap_cons, List.flatMap_nil, slabIds_zero, List.append_nil,
      List.singleton_append, h4, h5]
    exact fun _ h => h
  · intro a ha x hx
    simp only [List.mem_cons, List.not_mem_nil, or_false] at hx
    rcases hx with hx | hx
    · rw [hx, hdr_zero, h4]; exact ha (ofData l) (by simp)
    · rw [hx, hdr_zero, h5]; exact ha (ofData r) (by simp)

theorem rebal_meta {d : Nat} (c : Nat) (l r l' r' : MetaSlab (ATree d))
    (h1 : TreeInv T (d + 1) false (ofMeta l')) (h2 : TreeInv T (d + 1) false (ofMeta r'))
    (h3 : l'.children ++ r'.children = l.children ++ r.children)
    (h4 : l'.hdr.id = l.hdr.id) (h5 : r'.hdr.id = r.hdr.id)
    (h8 : l'.hdr.count + r'.hdr.count = l.hdr.count + r.hdr.count) :
    RebalOk T (d + 1) (ofMeta l) (ofMeta r) (ofMeta l') (ofMeta r') c := by
  have hperm : ([ofMeta l', ofMeta r'].flatMap (slabIds (d + 1))).Perm
      ([ofMeta l, ofMeta r].flatMap (slabIds (d + 1))) := by
    simp only [List.flatMap_cons, List.flatMap_nil, slabIds_succ, List.append_nil, h4, h5,
      List.cons_append]
    apply List.Perm.cons
    have e1 := @List.perm_middle _ r.hdr.id (l'.children.flatMap (slabIds d)) (r'.children.flatMap (slabIds d))
    have e2 := @List.perm_middle _ r.hdr.id (l.children.flatMap (slabIds d)) (r.children.flatMap (slabIds d))
    refine e1.trans (List.Perm.trans ?_ e2.symm)
    rw [← List.flatMap_append, ← List.flatMap_append, h3]
  refine ⟨h1, h2, ?_, h4, h5, h8, ?_⟩
  · simp only [flatten_succ, ← List.flatMap_append, h3]
  refine Repl.of_subset c ?_ (fun hnd => hperm.nodup_iff.2 hnd) (fun id hid => hperm.mem_iff.1 hid) ?_
  · apply ChainPres.of_eq
    simp only [List.flatMap_cons, List.flatMap_nil, leaves_succ, List.append_nil,
      ← List.flatMap_append, h3]
  · intro a ha x hx
    simp only [List.mem_cons, List.not_mem_nil, or_false] at hx
    rcases hx with hx | hx
    · rw [hx, hdr_succ, h4]; exact ha (ofMeta l) (by simp)
    · rw [hx, hdr_succ, h5]; exact ha (ofMeta r) (by simp)

theorem lend_ok (c : Nat) : ∀ (d : Nat) (l r : ATree d),
    TreeInv T d false l → Shape T d false r → (hdr d r).size < minThr T →
    (hdr d r).id.addr = (hdr d l).id.addr →
    ATree.canLendToRight T d l (minThr T - (hdr d r).size) = true →
    RebalOk T d l r (ATree.lendToRight T d l r).1 (ATree.lendToRight T d l r).2 c
  | 0, l, r => by
    refine forall_ofData ?_ l; intro l
    refine forall_ofData ?_ r; intro r
    intro hl hr hu _ hcan
    obtain ⟨h1, h2, h3, h4, h5, h6, h7, h8⟩ :=
      DataSlab.lendToRight_spec T l r ((treeInv_zero T false l).1 hl)
        ((shape_zero T false r).1 hr) hu hcan
    exact rebal_data c l r _ _ h1 h2 h3 h4 h5 h6 h7 h8
  | d + 1, l, r => by
    refine forall_ofMeta ?_ l; intro l
    refine forall_ofMeta ?_ r; intro r
    intro hl hr hu haddr hcan
    obtain ⟨h1, h2, h3, h4, h5, h8⟩ :=
      MetaSlab.lendToRight_spec l r hl ((shape_succ T d false r).1 hr) hu haddr hcan
    exact rebal_meta c l r _ _ h1 h2 h3 h4 h5 h8

theorem borrow_ok (c : Nat) : ∀ (d : Nat) (l r : ATree d),
    Shape T d false l → TreeInv T d false r → (hdr d l).size < minThr T →
    (hdr d r).id.addr = (hdr d l).id.addr →
    ATree.canLendToLeft T d r (minThr T - (hdr d l).size) = true →
    RebalOk T d l r (ATree.borrowFromRight T d l r).1 (ATree.borrowFromRight T d l r).2 c
  | 0, l, r => by
    refine forall_ofData ?_ l; intro l
    refine forall_ofData ?_ r; intro r
    intro hl hr hu _ hcan
    obtain ⟨h1, h2, h3, h4, h5, h6, h7, h8⟩ :=
      DataSlab.borrowFromRight_spec T l r ((shape_zero T false l).1 hl)
        ((treeInv_zero T false r).1 hr) hu hcan
    exact rebal_data c l r _ _ h1 h2 h3 h4 h5 h6 h7 h8
  | d + 1, l, r => by
    refine forall_ofMeta ?_ l; intro l
    refine forall_ofMeta ?_ r; intro r
    intro hl hr hu haddr hcan
    obtain ⟨h1, h2, h3, h4, h5, h8⟩ :=
      MetaSlab.borrowFromRight_spec l r ((shape_succ T d false l).1 hl) hr hu haddr hcan
    exact rebal_meta c l r _ _ h1 h2 h3 h4 h5 h8

/-- A sibling that cannot lend `want` bytes is small. -/
theorem cannot_lend (hT : legalThreshold T = true) (want : Nat) (hw : 1 ≤ want) :
    ∀ (d : Nat) (s : ATree d), Shape T d false s →
    (ATree.canLendToLeft T d s want = false ∨ ATree.canLendToRight T d s want = false) →
    (hdr d s).size < minThr T + want + maxInlineArr T + arrayDataSlabPrefixSize
  | 0, s => by
    refine forall_ofData ?_ s; intro s hs hc
    have hs := (shape_zero T false s).1 hs
    rcases hc with hc | hc
    · exact DataSlab.cannot_lend_bound T s want hs hw false hc
    · exact DataSlab.cannot_lend_bound T s want hs hw true hc
  | d + 1, s => by
    refine forall_ofMeta ?_ s; intro m hs hc
    have hc : m.canLend T want = false := by rcases hc with hc | hc <;> exact hc
    have := MetaSlab.canLend_false hc
    have F := thrFacts hT
    simp only [hdr_succ, F.hsz, F.pfx, F.inlE] at this ⊢
    have := F.lo
    omega

end Atree

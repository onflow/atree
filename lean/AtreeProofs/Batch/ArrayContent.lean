import AtreeModel.Array.Batch
import AtreeProofs.Array.TreeDefs
import AtreeProofs.Array.Descent
import AtreeProofs.Array.Arith
/-
  C17, bulk build of arrays — facts that need no invariant: the element sequence is preserved by
  every step (`fillLoop`, `rebalanceTail`, `nextLevelArraySlabs`, `finishRoot`), the number of
  slabs shrinks from level to level, and hence the level loop terminates within its bound.
  The three loops are stated once as rules (`rebalanceTail_rule`, `nextLevelLoop_rule`,
  `levels_rule`) that the invariant and identifier passes instantiate; the tail step only
  re-partitions the elements (`flattenView`, an `ATree.View`).
-/
namespace Atree
open Gen ATree MetaSlab ABatch

/-- contexts seen by the successive calls of `Value.Storable` in the element loop -/
def fillCtxs (T addr : Nat) (toSt : Elem → Ctx → Elem × Ctx) : List Elem → DataSlab → Ctx → List Ctx
  | [], _, _ => []
  | v :: vs, cur, c =>
    if cur.hdr.size ≥ T then
      (c.alloc addr).2 :: fillCtxs T addr toSt vs (pushElem toSt v (emptyData (c.alloc addr).1) (c.alloc addr).2).1
        (pushElem toSt v (emptyData (c.alloc addr).1) (c.alloc addr).2).2
    else c :: fillCtxs T addr toSt vs (pushElem toSt v cur c).1 (pushElem toSt v cur c).2

theorem fillCtxs_length (T addr : Nat) (toSt : Elem → Ctx → Elem × Ctx) (vs : List Elem) :
    ∀ (cur : DataSlab) (c : Ctx), (fillCtxs T addr toSt vs cur c).length = vs.length := by
  induction vs with
  | nil => intro cur c; rfl
  | cons v vs ih =>
    intro cur c
    unfold fillCtxs
    split <;> simp [ih]

theorem fillLoop_elems (T addr : Nat) (toSt : Elem → Ctx → Elem × Ctx) (vs : List Elem) :
    ∀ (cur : DataSlab) (done : List DataSlab) (c : Ctx),
      (fillLoop T addr toSt vs cur done c).1.flatMap (·.elems) =
        done.flatMap (·.elems) ++ cur.elems ++
          List.zipWith (fun v c => (toSt v c).1) vs (fillCtxs T addr toSt vs cur c) := by
  induction vs with
  | nil => intro cur done c; simp [fillLoop, fillCtxs]
  | cons v vs ih =>
    intro cur done c
    unfold fillLoop fillCtxs
    by_cases h : cur.hdr.size ≥ T
    · simp only [h, if_true]
      rw [ih]
      simp [pushElem, emptyData, List.flatMap_append]
    · simp only [h, if_false]
      rw [ih]
      simp [pushElem, List.flatMap_append]

theorem fillLoop_ne_nil (T addr : Nat) (toSt : Elem → Ctx → Elem × Ctx) (vs : List Elem) :
    ∀ (cur : DataSlab) (done : List DataSlab) (c : Ctx), (fillLoop T addr toSt vs cur done c).1 ≠ [] := by
  induction vs with
  | nil => intro cur done c; simp [fillLoop]
  | cons v vs ih =>
    intro cur done c
    unfold fillLoop
    split <;> exact ih _ _ _

/-- the element sequence, as a view of subtrees (`ATree.View`): the tail step only re-partitions it -/
def flattenView : ATree.View Elem :=
  { V := flatten, f := id, W := flatten, zero := fun _ => rfl, add := fun _ _ => rfl, succ := fun _ _ => rfl }

/-- the tail step on two slabs: nothing, `LendToRight`, or `Merge` -/
theorem rebalanceTail_pair (T d : Nat) (l r : ATree d) :
    rebalanceTail T d [l, r] = [l, r] ∨
      rebalanceTail T d [l, r] = [(lendToRight T d l r).1, (lendToRight T d l r).2] ∨
      rebalanceTail T d [l, r] = [merge d l r] := by
  unfold rebalanceTail
  cases isUnderflow T d r with
  | none => exact .inl rfl
  | some u =>
    by_cases h : canLendToRight T d l u = true
    · exact .inr (.inl (if_pos h))
    · exact .inr (.inr (if_neg h))

/-- Case rule for `rebalanceTail`: a relation between a level and its rebalanced form holds as soon
    as it is reflexive and holds for a `LendToRight` and a `Merge` of the last two slabs. -/
theorem rebalanceTail_rule (T d : Nat) {P : List (ATree d) → List (ATree d) → Prop}
    (hrefl : ∀ X, P X X)
    (hlend : ∀ A l r, P (A ++ [l, r]) (A ++ [(lendToRight T d l r).1, (lendToRight T d l r).2]))
    (hmerge : ∀ A l r, P (A ++ [l, r]) (A ++ [merge d l r])) :
    ∀ (A X : List (ATree d)), P (A ++ X) (A ++ rebalanceTail T d X) := by
  intro A X
  induction X generalizing A with
  | nil => exact hrefl _
  | cons x X ih =>
    rcases X with _ | ⟨y, _ | ⟨z, rest⟩⟩
    · exact hrefl _
    · rcases rebalanceTail_pair T d x y with h | h | h
      · rw [h]; exact hrefl _
      · rw [h]; exact hlend A x y
      · rw [h]; exact hmerge A x y
    · have h := ih (A ++ [x])
      rw [List.append_assoc, List.append_assoc] at h
      exact h

theorem rebalanceTail_flatten (T d : Nat) (X : List (ATree d)) :
    (rebalanceTail T d X).flatMap (flatten d) = X.flatMap (flatten d) := by
  refine rebalanceTail_rule T d (P := fun X R => R.flatMap (flatten d) = X.flatMap (flatten d))
    (fun _ => rfl) ?_ ?_ [] X
  · intro A l r
    simp only [List.flatMap_append, List.flatMap_cons, List.flatMap_nil, List.append_nil]
    exact congrArg (_ ++ ·) (flattenView.lend T d l r).1
  · intro A l r
    simp only [List.flatMap_append, List.flatMap_cons, List.flatMap_nil, List.append_nil]
    exact congrArg (_ ++ ·) (flattenView.merge d l r).1

theorem rebalanceTail_length (T d : Nat) (X : List (ATree d)) :
    (rebalanceTail T d X).length ≤ X.length ∧ (X ≠ [] → rebalanceTail T d X ≠ []) := by
  refine rebalanceTail_rule T d
    (P := fun X R => R.length ≤ X.length ∧ (X ≠ [] → R ≠ [])) (fun _ => ⟨Nat.le_refl _, id⟩) ?_ ?_ [] X
  · intro A l r; exact ⟨by simp, by simp⟩
  · intro A l r; exact ⟨by simp, by simp⟩

@[simp] theorem emptyMeta_children (d : Nat) (id : SlabID) : (emptyMeta d id).children = [] := rfl
@[simp] theorem emptyMeta_childHdrs (d : Nat) (id : SlabID) : (emptyMeta d id).childHdrs = [] := rfl
@[simp] theorem emptyMeta_hdr_id (d : Nat) (id : SlabID) : (emptyMeta d id).hdr.id = id := rfl
@[simp] theorem addChild_children (d : Nat) (m : MetaSlab (ATree d)) (s : ATree d) :
    (addChild d m s).children = m.children ++ [s] := rfl
@[simp] theorem addChild_childHdrs (d : Nat) (m : MetaSlab (ATree d)) (s : ATree d) :
    (addChild d m s).childHdrs = m.childHdrs ++ [hdr d s] := rfl
@[simp] theorem addChild_hdr_id (d : Nat) (m : MetaSlab (ATree d)) (s : ATree d) :
    (addChild d m s).hdr.id = m.hdr.id := rfl

/-- Induction rule for the loop of `nextLevelArraySlabs`.  `I pre cur done c`: the state after the
    slabs `pre` have been taken, `cur` the index slab being filled, `done` the finished ones. -/
theorem nextLevelLoop_rule (maxN addr d : Nat) {P : ATree d → Prop}
    {I : List (ATree d) → MetaSlab (ATree d) → List (MetaSlab (ATree d)) → Ctx → Prop}
    (hnew : ∀ pre s cur done c, P s → I pre cur done c → cur.childHdrs.length = maxN →
      I (pre ++ [s]) (addChild d (emptyMeta d (c.alloc addr).1) s) (done ++ [cur]) (c.alloc addr).2)
    (hadd : ∀ pre s cur done c, P s → I pre cur done c → cur.childHdrs.length ≠ maxN →
      I (pre ++ [s]) (addChild d cur s) done c) :
    ∀ (ss pre : List (ATree d)) (cur : MetaSlab (ATree d)) (done : List (MetaSlab (ATree d))) (c : Ctx),
      (∀ s ∈ ss, P s) → I pre cur done c →
      ∃ done' cur' c', nextLevelLoop maxN addr d ss cur done c = (done' ++ [cur'], c') ∧
        I (pre ++ ss) cur' done' c' := by
  intro ss
  induction ss with
  | nil => intro pre cur done c _ h; exact ⟨done, cur, c, rfl, by rw [List.append_nil]; exact h⟩
  | cons s ss ih =>
    intro pre cur done c hP h
    have hs := hP s (List.mem_cons_self ..)
    have hP' : ∀ t ∈ ss, P t := fun t ht => hP t (List.mem_cons_of_mem _ ht)
    unfold nextLevelLoop
    rw [List.append_cons pre s ss]
    by_cases hf : cur.childHdrs.length = maxN
    · rw [if_pos hf]
      exact ih _ _ _ _ hP' (hnew pre s cur done c hs h hf)
    · rw [if_neg hf]
      exact ih _ _ _ _ hP' (hadd pre s cur done c hs h hf)

theorem nextLevelLoop_children (maxN addr d : Nat) (ss : List (ATree d))
    (cur : MetaSlab (ATree d)) (done : List (MetaSlab (ATree d))) (c : Ctx) :
    (nextLevelLoop maxN addr d ss cur done c).1.flatMap (·.children) =
      done.flatMap (·.children) ++ cur.children ++ ss := by
  obtain ⟨done', cur', c', e, h⟩ := nextLevelLoop_rule maxN addr d (P := fun _ => True)
    (I := fun pre cur' done' _ => (done' ++ [cur']).flatMap (·.children) =
      done.flatMap (·.children) ++ cur.children ++ pre)
    (fun pre s cur' done' c' _ h _ => by
      rw [List.flatMap_append, h]; simp only [List.flatMap_cons, List.flatMap_nil, addChild_children,
        emptyMeta_children, List.nil_append, List.append_nil, List.append_assoc])
    (fun pre s cur' done' c' _ h _ => by
      rw [List.flatMap_append] at h ⊢
      simp only [List.flatMap_cons, List.flatMap_nil, List.append_nil, addChild_children] at h ⊢
      rw [← List.append_assoc, h, List.append_assoc])
    ss [] cur done c (fun _ _ => trivial) (by simp)
  rw [e, h, List.nil_append]

/-- number of index slabs: the finished ones have `maxN` children, the last one at least one -/
theorem nextLevelLoop_count (maxN addr d : Nat) (ss : List (ATree d)) (id : SlabID) (c : Ctx) :
    ∃ done' cur' c', nextLevelLoop maxN addr d ss (emptyMeta d id) [] c = (done' ++ [cur'], c') ∧
      done'.length * maxN + cur'.childHdrs.length = ss.length ∧ (ss = [] ∨ 1 ≤ cur'.childHdrs.length) := by
  obtain ⟨done', cur', c', e, h1, h2⟩ := nextLevelLoop_rule maxN addr d (P := fun _ => True)
    (I := fun pre cur' done' _ => done'.length * maxN + cur'.childHdrs.length = pre.length ∧
      (pre = [] ∨ 1 ≤ cur'.childHdrs.length))
    (fun pre s cur' done' _ _ h hf => by
      simp only [List.length_append, List.length_cons, List.length_nil, addChild_childHdrs,
        emptyMeta_childHdrs, Nat.add_mul, Nat.one_mul, Nat.zero_add]
      exact ⟨by omega, .inr (Nat.le_refl _)⟩)
    (fun pre s cur' done' _ _ h _ => by
      simp only [List.length_append, List.length_cons, List.length_nil, addChild_childHdrs]
      exact ⟨by omega, .inr (by omega)⟩)
    ss [] (emptyMeta d id) [] c (fun _ _ => trivial) ⟨by simp, .inl rfl⟩
  exact ⟨done', cur', c', e, h1, h2⟩

/-- a list of index slabs seen as a level of trees of depth `d+1` -/
def asMetas {d : Nat} (R : List (MetaSlab (ATree d))) : List (ATree (d + 1)) := R

theorem asMetas_nil {d : Nat} : asMetas ([] : List (MetaSlab (ATree d))) = [] := rfl
theorem asMetas_cons {d : Nat} (m : MetaSlab (ATree d)) (R : List (MetaSlab (ATree d))) :
    asMetas (m :: R) = ofMeta m :: asMetas R := rfl
theorem asMetas_append {d : Nat} (A B : List (MetaSlab (ATree d))) :
    asMetas (A ++ B) = asMetas A ++ asMetas B := rfl
theorem asMetas_length {d : Nat} (R : List (MetaSlab (ATree d))) : (asMetas R).length = R.length := rfl

def nextMetas (T addr d : Nat) (X : List (ATree d)) (c : Ctx) : List (MetaSlab (ATree d)) :=
  (nextLevelLoop ((maxThr T - arrayMetaDataSlabPrefixSize) / arraySlabHeaderSize) addr d X
    (emptyMeta d (c.alloc addr).1) [] (c.alloc addr).2).1

theorem nextLevel_eq (T addr d : Nat) (X : List (ATree d)) (c : Ctx) :
    (nextLevelArraySlabs T addr d X c).1 = asMetas (nextMetas T addr d X c) := rfl

/-- the next level has fewer slabs than the level it indexes (index slabs hold at least two
    children) -/
theorem nextMetas_length_lt (T addr d : Nat) (hN : 2 ≤ (maxThr T - arrayMetaDataSlabPrefixSize) / arraySlabHeaderSize)
    (X : List (ATree d)) (c : Ctx) (hX : 2 ≤ X.length) :
    (nextMetas T addr d X c).length < X.length ∧ 1 ≤ (nextMetas T addr d X c).length := by
  obtain ⟨done', cur', c', e, h1, h2⟩ := nextLevelLoop_count
    ((maxThr T - arrayMetaDataSlabPrefixSize) / arraySlabHeaderSize) addr d X (c.alloc addr).1 (c.alloc addr).2
  unfold nextMetas
  rw [e, List.length_append, List.length_singleton]
  refine ⟨?_, Nat.le_add_left _ _⟩
  have h3 : 1 ≤ cur'.childHdrs.length := h2.resolve_left (by rintro rfl; simp at hX)
  have h4 : done'.length * 2 ≤ done'.length * ((maxThr T - arrayMetaDataSlabPrefixSize) / arraySlabHeaderSize) :=
    Nat.mul_le_mul_left _ hN
  omega

theorem nextLevel_length_lt (T addr d : Nat) (hN : 2 ≤ (maxThr T - arrayMetaDataSlabPrefixSize) / arraySlabHeaderSize)
    (X : List (ATree d)) (c : Ctx) (hX : 2 ≤ X.length) :
    (nextLevelArraySlabs T addr d X c).1.length < X.length ∧
      1 ≤ (nextLevelArraySlabs T addr d X c).1.length := by
  rw [nextLevel_eq, asMetas_length]
  exact nextMetas_length_lt T addr d hN X c hX

/-- a level of index slabs shows, slab by slab, what their children show -/
theorem flatMap_asMetas {β : Type} {d : Nat} (V : ATree (d + 1) → List β) (W : ATree d → List β)
    (h : ∀ m : MetaSlab (ATree d), V (ofMeta m) = m.children.flatMap W) (R : List (MetaSlab (ATree d))) :
    (asMetas R).flatMap V = (R.flatMap (·.children)).flatMap W := by
  induction R with
  | nil => rfl
  | cons m R ih => rw [asMetas_cons, List.flatMap_cons, ih, h, List.flatMap_cons, List.flatMap_append]

theorem flatten_metas (d : Nat) (R : List (MetaSlab (ATree d))) :
    (asMetas R).flatMap (flatten (d + 1)) = (R.flatMap (·.children)).flatMap (flatten d) :=
  flatMap_asMetas _ _ (flatten_succ d) R

theorem nextMetas_children (T addr d : Nat) (X : List (ATree d)) (c : Ctx) :
    (nextMetas T addr d X c).flatMap (·.children) = X := by
  have h := nextLevelLoop_children ((maxThr T - arrayMetaDataSlabPrefixSize) / arraySlabHeaderSize) addr d X
    (emptyMeta d (c.alloc addr).1) [] (c.alloc addr).2
  simpa [emptyMeta, nextMetas] using h

theorem nextLevel_flatten (T addr d : Nat) (X : List (ATree d)) (c : Ctx) :
    (nextLevelArraySlabs T addr d X c).1.flatMap (flatten (d + 1)) = X.flatMap (flatten d) := by
  rw [nextLevel_eq, flatten_metas, nextMetas_children]

theorem finishRoot_toList (ty d : Nat) (root : ATree d) (c : Ctx) :
    (finishRoot ty d root c).1.toList = flatten d root ∧ (finishRoot ty d root c).1.ty = ty := by
  cases d with
  | zero => exact ⟨rfl, rfl⟩
  | succ d => exact ⟨rfl, rfl⟩

theorem finishRoot_ctr_created (ty d : Nat) (root : ATree d) (c : Ctx) :
    (finishRoot ty d root c).2.ctr = c.ctr ∧ (finishRoot ty d root c).2.created = c.created := by
  cases d <;> exact ⟨rfl, rfl⟩

/-- the number `(M - p) / h` of headers of size `h` that fit beside a prefix `p` below `M` is at least
    two, and an index slab with that many headers has a size in the band `[m, M]` -/
theorem header_band {M m p h : Nat} (hh : 0 < h) (h2 : p + 2 * h ≤ M) (hm : m + h ≤ M + 1) :
    2 ≤ (M - p) / h ∧ m ≤ p + h * ((M - p) / h) ∧ p + h * ((M - p) / h) ≤ M := by
  obtain ⟨D, rfl⟩ : ∃ D, M = p + D := ⟨M - p, by omega⟩
  rw [Nat.add_sub_cancel_left]
  have h1 := Nat.mul_div_le D h
  have h3 := Nat.lt_mul_div_succ D hh
  rw [Nat.mul_succ] at h3
  generalize h * (D / h) = hq at h1 h3 ⊢
  exact ⟨(Nat.le_div_iff_mul_le hh).2 (by omega), by omega, by omega⟩

theorem legal_maxN_facts {T : Nat} (hT : legalThreshold T = true) :
    2 ≤ (maxThr T - arrayMetaDataSlabPrefixSize) / arraySlabHeaderSize ∧
    minThr T ≤ 12 + 14 * ((maxThr T - arrayMetaDataSlabPrefixSize) / arraySlabHeaderSize) ∧
    12 + 14 * ((maxThr T - arrayMetaDataSlabPrefixSize) / arraySlabHeaderSize) ≤ maxThr T := by
  have F := thrFacts hT
  have := F.lo
  rw [F.minE, F.maxE]
  exact header_band (p := 12) (h := 14) (by decide) (by omega) (by omega)

/-- what `levels` does with the rebalanced level -/
def afterRebalance (T addr ty fuel d : Nat) (R : List (ATree d)) (c : Ctx) : BRes (Arr × Ctx) :=
  match R with
  | [] => .error (.arr .goPanic, c)
  | [root] => .ok (finishRoot ty d root c)
  | slabs' =>
    levels T addr ty fuel (d + 1) (nextLevelArraySlabs T addr d slabs' (storeAll d slabs' c)).1
      (nextLevelArraySlabs T addr d slabs' (storeAll d slabs' c)).2

theorem levels_single (T addr ty fuel d : Nat) (root : ATree d) (c : Ctx) :
    levels T addr ty (fuel + 1) d [root] c = .ok (finishRoot ty d root c) := rfl
theorem levels_many (T addr ty fuel d : Nat) (x y : ATree d) (rest : List (ATree d)) (c : Ctx) :
    levels T addr ty (fuel + 1) d (x :: y :: rest) c =
      afterRebalance T addr ty fuel d (rebalanceTail T d (x :: y :: rest)) c := rfl
theorem afterRebalance_single (T addr ty fuel d : Nat) (root : ATree d) (c : Ctx) :
    afterRebalance T addr ty fuel d [root] c = .ok (finishRoot ty d root c) := rfl
theorem afterRebalance_many (T addr ty fuel d : Nat) (x y : ATree d) (rest : List (ATree d)) (c : Ctx) :
    afterRebalance T addr ty fuel d (x :: y :: rest) c =
      levels T addr ty fuel (d + 1)
        (nextLevelArraySlabs T addr d (x :: y :: rest) (storeAll d (x :: y :: rest) c)).1
        (nextLevelArraySlabs T addr d (x :: y :: rest) (storeAll d (x :: y :: rest) c)).2 := rfl

/-- The level loop terminates within its bound. -/
theorem levels_succeeds (T addr ty : Nat) (hT : legalThreshold T = true) :
    ∀ (fuel d : Nat) (X : List (ATree d)) (c : Ctx), X ≠ [] → X.length ≤ fuel →
      ∃ a c', levels T addr ty fuel d X c = .ok (a, c') := by
  intro fuel
  induction fuel with
  | zero => intro d X c hne hlen; cases X <;> simp at hne hlen
  | succ fuel ih =>
    intro d X c hne hlen
    rcases X with _ | ⟨x, _ | ⟨y, rest⟩⟩
    · exact absurd rfl hne
    · exact ⟨_, _, levels_single ..⟩
    · obtain ⟨hl1, hl2⟩ := rebalanceTail_length T d (x :: y :: rest)
      have hl2 := hl2 (by simp)
      rw [levels_many]
      revert hl1 hl2
      generalize rebalanceTail T d (x :: y :: rest) = R
      intro hl1 hl2
      rcases R with _ | ⟨x', _ | ⟨y', rest'⟩⟩
      · exact absurd rfl hl2
      · exact ⟨_, _, afterRebalance_single ..⟩
      · rw [afterRebalance_many]
        obtain ⟨h1, h2⟩ := nextLevel_length_lt T addr d (legal_maxN_facts hT).1 (x' :: y' :: rest')
          (storeAll d (x' :: y' :: rest') c) (by simp)
        exact ih (d + 1) _ _ (by intro h; rw [h] at h2; simp at h2)
          (by simp only [List.length_cons] at hl1 hlen h1 ⊢; omega)

/-- Induction rule for the level loop: `I` holds of a level before its tail step, `J` after it,
    `Q` of the result. -/
theorem levels_rule (T addr ty : Nat) {I J : (d : Nat) → List (ATree d) → Ctx → Prop} {Q : Arr → Ctx → Prop}
    (hreb : ∀ d X c, I d X c → J d (rebalanceTail T d X) c)
    (hroot : ∀ d root c, J d [root] c → Q (finishRoot ty d root c).1 (finishRoot ty d root c).2)
    (hnext : ∀ d X c, J d X c → 2 ≤ X.length →
      I (d + 1) (nextLevelArraySlabs T addr d X (storeAll d X c)).1
        (nextLevelArraySlabs T addr d X (storeAll d X c)).2) :
    ∀ (fuel d : Nat) (X : List (ATree d)) (c : Ctx) (a : Arr) (c' : Ctx),
      levels T addr ty fuel d X c = .ok (a, c') → I d X c → Q a c' := by
  intro fuel
  induction fuel with
  | zero => intro d X c a c' h; cases h
  | succ fuel ih =>
    intro d X c a c' h hI
    have hJ := hreb d X c hI
    rcases X with _ | ⟨x, _ | ⟨y, rest⟩⟩
    · cases h
    · cases h; exact hroot d x c hJ
    · rw [levels_many] at h
      revert h hJ
      generalize rebalanceTail T d (x :: y :: rest) = R
      intro h hJ
      rcases R with _ | ⟨x', _ | ⟨y', rest'⟩⟩
      · cases h
      · cases h; exact hroot d x' c hJ
      · exact ih (d + 1) _ _ a c' h (hnext d _ c hJ (by simp))

theorem levels_content (T addr ty : Nat) (hT : legalThreshold T = true)
    (fuel d : Nat) (X : List (ATree d)) (c : Ctx) (hne : X ≠ []) (hlen : X.length ≤ fuel) :
    ∃ a c', levels T addr ty fuel d X c = .ok (a, c') ∧ a.toList = X.flatMap (flatten d) ∧ a.ty = ty := by
  obtain ⟨a, c', h⟩ := levels_succeeds T addr ty hT fuel d X c hne hlen
  refine ⟨a, c', h, levels_rule T addr ty
    (I := fun d' X' _ => X'.flatMap (flatten d') = X.flatMap (flatten d))
    (J := fun d' X' _ => X'.flatMap (flatten d') = X.flatMap (flatten d))
    (Q := fun a _ => a.toList = X.flatMap (flatten d) ∧ a.ty = ty)
    (fun d' X' _ h => (rebalanceTail_flatten T d' X').trans h)
    (fun d' root c h => by
      rw [(finishRoot_toList ty d' root c).1, (finishRoot_toList ty d' root c).2, ← h]
      exact ⟨by simp, rfl⟩)
    (fun d' X' c h _ => (nextLevel_flatten T addr d' X' _).trans h) fuel d X c a c' h rfl⟩

/-- a list of data slabs seen as a level of trees of depth 0 -/
def asTrees (L : List DataSlab) : List (ATree 0) := L

theorem asTrees_nil : asTrees [] = [] := rfl
theorem asTrees_cons (s : DataSlab) (L : List DataSlab) : asTrees (s :: L) = ofData s :: asTrees L := rfl
theorem asTrees_append (A B : List DataSlab) : asTrees (A ++ B) = asTrees A ++ asTrees B := rfl
theorem asTrees_length (L : List DataSlab) : (asTrees L).length = L.length := rfl
theorem asTrees_ne_nil {L : List DataSlab} (h : L ≠ []) : asTrees L ≠ [] := h

theorem asTrees_flatten (L : List DataSlab) : (asTrees L).flatMap (flatten 0) = L.flatMap (·.elems) := by
  induction L with
  | nil => rfl
  | cons s L ih => simp only [asTrees_cons, List.flatMap_cons, ih, flatten_zero]

theorem newWith_eq (T addr ty : Nat) (toSt : Elem → Ctx → Elem × Ctx) (vs : List Elem) (c : Ctx) :
    ABatch.newWith T addr ty toSt vs c =
      levels T addr ty (fillLoop T addr toSt vs (emptyData (c.alloc addr).1) [] (c.alloc addr).2).1.length 0
        (asTrees (fillLoop T addr toSt vs (emptyData (c.alloc addr).1) [] (c.alloc addr).2).1)
        (fillLoop T addr toSt vs (emptyData (c.alloc addr).1) [] (c.alloc addr).2).2 := rfl

/-- C17 (`batch_array_content`, general form): the build succeeds and the array holds, in input
    order, the stored form of every input value (`cs` = the storage contexts in which the values
    were turned into storables). -/
theorem newWith_content (T addr ty : Nat) (hT : legalThreshold T = true)
    (toSt : Elem → Ctx → Elem × Ctx) (vs : List Elem) (c : Ctx) :
    ∃ a c' cs, ABatch.newWith T addr ty toSt vs c = .ok (a, c') ∧ cs.length = vs.length ∧
      a.toList = List.zipWith (fun v c => (toSt v c).1) vs cs ∧ a.ty = ty := by
  rw [newWith_eq]
  obtain ⟨a, c', heq, hto, hty⟩ := levels_content T addr ty hT
    (fillLoop T addr toSt vs (emptyData (c.alloc addr).1) [] (c.alloc addr).2).1.length 0
    (asTrees (fillLoop T addr toSt vs (emptyData (c.alloc addr).1) [] (c.alloc addr).2).1)
    (fillLoop T addr toSt vs (emptyData (c.alloc addr).1) [] (c.alloc addr).2).2
    (asTrees_ne_nil (fillLoop_ne_nil T addr toSt vs _ _ _)) (Nat.le_refl _)
  refine ⟨a, c', fillCtxs T addr toSt vs (emptyData (c.alloc addr).1) (c.alloc addr).2, heq,
    fillCtxs_length .., ?_, hty⟩
  rw [hto, asTrees_flatten, fillLoop_elems]
  simp [emptyData]

end Atree

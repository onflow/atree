import AtreeModel.Array.Batch
import AtreeProofs.Array.Top
import AtreeProofs.Batch.FreshIds
/-
  C17, bulk build of arrays — the element loop ("Batch append data by creating a list of
  ArrayDataSlab") establishes the level invariant at depth 0: every closed data slab is within
  the size band, the open one is well-formed and not too large, the slabs are linked left to
  right, and their IDs are fresh and distinct.
-/
namespace Atree
open Gen ATree MetaSlab ABatch

/-- What the bulk build needs from the caller's `Value.Storable`: values satisfying `P` become
    storables within the per-element inline limit, and the allocation counter never goes back. -/
structure ToStOk (T : Nat) (P : Elem → Prop) (toSt : Elem → Ctx → Elem × Ctx) : Prop where
  elem_ok : ∀ v c, P v → ElemOk T (toSt v c).1
  ctr_le  : ∀ v c, c.ctr ≤ (toSt v c).2.ctr

theorem toStorable_toStOk (T addr : Nat) (hT : legalThreshold T = true) :
    ToStOk T ValueOk (toStorable T addr) :=
  ⟨fun v c hv => toStorable_ok T addr hT v c hv, fun v c => toStorable_ctr_le T addr v c⟩

structure FillOk (T addr lo : Nat) (cur : DataSlab) (done : List DataSlab) (c : Ctx) : Prop where
  done_inv : ∀ s ∈ done, DataInv T false s
  cur_shape : DShape T false cur
  cur_le : cur.hdr.size ≤ maxThr T
  cur_next : cur.next = SlabID.undef
  chain : ∃ f, Chain f cur.hdr.id done
  ids : FreshIds addr lo c.ctr ((done ++ [cur]).map (·.hdr.id))

/-- an element within the inline limit added to a slab below the target size stays below the maximum -/
theorem push_size_le {T s e : Nat} (hT : 256 ≤ T) (hs : s < T) (he : e ≤ (T - 21) / 2) : s + e ≤ 3 * T / 2 := by
  omega

theorem pushElem_spec (T : Nat) (hT : legalThreshold T = true) (P : Elem → Prop)
    (toSt : Elem → Ctx → Elem × Ctx) (hSt : ToStOk T P toSt) (v : Elem) (hv : P v)
    (cur : DataSlab) (c : Ctx) (hs : DShape T false cur) (hlt : cur.hdr.size < T ∨ cur.elems = []) :
    DShape T false (pushElem toSt v cur c).1 ∧ (pushElem toSt v cur c).1.hdr.size ≤ maxThr T ∧
      (pushElem toSt v cur c).1.hdr.id = cur.hdr.id ∧ (pushElem toSt v cur c).1.next = cur.next ∧
      c.ctr ≤ (pushElem toSt v cur c).2.ctr := by
  have F := thrFacts hT
  have he := hSt.elem_ok v c hv
  have hsz := hs.size_eq
  rw [hs.prefix_false, F.pfx] at hsz
  refine ⟨⟨?_, ?_, ?_, hs.root_eq, hs.not_inl⟩, ?_, rfl, rfl, hSt.ctr_le v c⟩
  · simp only [pushElem, hs.count_eq, List.length_append, List.length_singleton]
  · simp only [pushElem, DataSlab.prefixSize, hs.root_eq, hs.not_inl, Bool.false_eq_true, if_false,
      sumSizes_append, sumSizes_cons, sumSizes_nil, F.pfx]
    rw [hsz]; omega
  · intro e hmem
    simp only [pushElem, List.mem_append, List.mem_singleton] at hmem
    rcases hmem with hmem | rfl
    · exact hs.elems_ok e hmem
    · exact he
  · show cur.hdr.size + (toSt v c).1.size ≤ maxThr T
    have h2 := he.2
    rw [F.inlE] at h2
    rw [F.maxE]
    rcases hlt with hlt | hlt
    · exact push_size_le F.lo hlt h2
    · rw [hlt, sumSizes_nil] at hsz
      exact push_size_le F.lo (by rw [hsz]; exact Nat.lt_of_lt_of_le (by decide) F.lo) h2
theorem emptyData_shape (T : Nat) (id : SlabID) : DShape T false (emptyData id) :=
  ⟨rfl, rfl, by simp [emptyData], rfl, rfl⟩

theorem fillLoop_ok (T addr lo : Nat) (hT : legalThreshold T = true) (P : Elem → Prop)
    (toSt : Elem → Ctx → Elem × Ctx) (hSt : ToStOk T P toSt) (vs : List Elem) (hvs : ∀ v ∈ vs, P v) :
    ∀ (cur : DataSlab) (done : List DataSlab) (c : Ctx), FillOk T addr lo cur done c →
      ∃ done' cur', (fillLoop T addr toSt vs cur done c).1 = done' ++ [cur'] ∧
        FillOk T addr lo cur' done' (fillLoop T addr toSt vs cur done c).2 := by
  have F := thrFacts hT
  induction vs with
  | nil => intro cur done c h; exact ⟨done, cur, rfl, h⟩
  | cons v vs ih =>
    intro cur done c h
    have hv := hvs v (by simp)
    have hvs' : ∀ x ∈ vs, P x := fun x hx => hvs x (by simp [hx])
    unfold fillLoop
    by_cases hfull : cur.hdr.size ≥ T
    · simp only [hfull, if_true]
      apply ih hvs'
      obtain ⟨p1, p2, p3, p4, p5⟩ := pushElem_spec T hT P toSt hSt v hv (emptyData (c.alloc addr).1)
        (c.alloc addr).2 (emptyData_shape T _) (Or.inr rfl)
      have hcid : (emptyData (c.alloc addr).1).hdr.id = ⟨addr, c.ctr + 1⟩ := rfl
      have hctr : (c.alloc addr).2.ctr = c.ctr + 1 := rfl
      rw [hcid] at p3
      refine ⟨?_, p1, p2, by rw [p4]; rfl, ?_, ?_⟩
      · intro s hs
        simp only [List.mem_append, List.mem_singleton] at hs
        rcases hs with hs | rfl
        · exact h.done_inv s hs
        · rw [dataInv_false_iff]
          refine ⟨⟨h.cur_shape.count_eq, h.cur_shape.size_eq, h.cur_shape.elems_ok, h.cur_shape.root_eq,
            h.cur_shape.not_inl⟩, ?_, h.cur_le⟩
          have := F.minE
          simp only; omega
      · obtain ⟨f, hf⟩ := h.chain
        refine ⟨f, ?_⟩
        rw [chain_append]
        refine ⟨cur.hdr.id, hf, ?_⟩
        show cur.hdr.id = cur.hdr.id ∧ (c.alloc addr).1 = _
        exact ⟨rfl, p3.symm⟩
      · have := h.ids.snoc_alloc.mono p5
        simpa only [List.map_append, List.map_cons, List.map_nil, p3] using this
    · simp only [hfull, if_false]
      apply ih hvs'
      obtain ⟨p1, p2, p3, p4, p5⟩ := pushElem_spec T hT P toSt hSt v hv cur c h.cur_shape (Or.inl (by omega))
      refine ⟨h.done_inv, p1, p2, by rw [p4]; exact h.cur_next, by rw [p3]; exact h.chain, ?_⟩
      have := h.ids.mono p5
      simpa only [List.map_append, List.map_cons, List.map_nil, p3] using this

theorem fill_init (T addr : Nat) (hT : legalThreshold T = true) (c : Ctx) :
    FillOk T addr c.ctr (emptyData (c.alloc addr).1) [] (c.alloc addr).2 := by
  have F := thrFacts hT
  refine ⟨by simp, emptyData_shape T _, ?_, rfl, ⟨_, rfl⟩, FreshIds.single_next addr c.ctr⟩
  simp only [emptyData, F.pfx, F.maxE]; have := F.lo; omega

end Atree

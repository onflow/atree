import AtreeProofs.Batch.ArrayFill
import AtreeProofs.Batch.ArrayLevels
/-
  C17, bulk build of arrays — the result of `NewArrayFromBatchData` satisfies the array invariant
  `ArrInv` (the same invariant single operations maintain), for every input list, every legal
  threshold, every tree depth.
-/
namespace Atree
open Gen ATree MetaSlab ABatch

variable {T : Nat}

/-- what the bulk build establishes about its result, besides the invariant -/
structure BuiltOk (T addr lo : Nat) (a : Arr) (ctr : Nat) : Prop where
  inv : ArrInv T a ctr
  addr_eq : a.addr = addr
  fresh : ∀ id ∈ slabIds a.d a.root, id.addr = addr ∧ lo < id.idx ∧ id.idx ≤ ctr

theorem finishRoot_ok (hT : legalThreshold T = true) (ty : Nat) : ∀ (d : Nat) (t : ATree d) (c : Ctx)
    (addr lo : Nat), Shape T d false t → (hdr d t).size ≤ maxThr T → TopKids d t →
    LeafChain (Arr.leaves d t) → IdsOk addr c.ctr (slabIds d t) → (∀ id ∈ slabIds d t, lo < id.idx) →
    (flatten d t).length < maxArrayElementCount + 1 →
    BuiltOk T addr lo (finishRoot ty d t c).1 (finishRoot ty d t c).2.ctr
  | 0, t, c, addr, lo => by
    refine forall_ofData ?_ t; intro s hs hmax _ hchain hids hfresh hcnt
    have F := thrFacts hT
    have hs := (shape_zero T false s).1 hs
    have hsz := hs.size_eq
    rw [hs.prefix_false] at hsz
    have hroot : (finishRoot ty 0 (ofData s) c).1 =
        ⟨0, ofData { s with hdr := { s.hdr with size := s.hdr.size - arrayDataSlabPrefixSize + arrayRootDataSlabPrefixSize },
                            root := true }, ty⟩ := rfl
    have hctr : (finishRoot ty 0 (ofData s) c).2.ctr = c.ctr := rfl
    rw [hroot, hctr]
    have haddr : s.hdr.id.addr = addr := (hids.2 s.hdr.id (by simp)).1
    refine ⟨arrInv_of_shape ?_ ?_ trivial ?_ ?_ ?_, haddr, ?_⟩
    · rw [shape_zero]
      refine ⟨hs.count_eq, ?_, hs.elems_ok, rfl, hs.not_inl⟩
      simp only [DataSlab.prefixSize, hs.not_inl, Bool.false_eq_true, if_false, if_true]
      have := F.pfx; have := F.rpfx; omega
    · simp only [hdr_zero] at hmax ⊢
      have := F.pfx; have := F.rpfx; omega
    · simpa [LeafChain] using hchain
    · simp only [hdr_zero, slabIds_zero] at hids ⊢
      rw [haddr]; exact hids
    · simp only [hdr_zero, hs.count_eq]
      simpa using hcnt
    · intro id hid
      have hid' : id ∈ slabIds 0 (ofData s) := by simpa using hid
      exact ⟨(hids.2 id hid').1, hfresh id hid', (hids.2 id hid').2.2⟩
  | d + 1, t, c, addr, lo => by
    refine forall_ofMeta ?_ t; intro m hs hmax hk hchain hids hfresh hcnt
    have hs := (shape_succ T d false m).1 hs
    have hroot : (finishRoot ty (d + 1) (ofMeta m) c).1 = ⟨d + 1, ofMeta { m with root := true }, ty⟩ := rfl
    have hctr : (finishRoot ty (d + 1) (ofMeta m) c).2.ctr = c.ctr := rfl
    rw [hroot, hctr]
    have haddr : m.hdr.id.addr = addr := (hids.2 m.hdr.id (by simp)).1
    have hsh : Shape T (d + 1) true (ofMeta { m with root := true }) :=
      (shape_succ T d true _).2 ⟨rfl, hs.hdrs_eq, hs.sums_eq, hs.count_eq, hs.size_eq, hs.kids_inv, hs.kids_addr⟩
    refine ⟨arrInv_of_shape hsh hmax hk hchain ?_ ?_, haddr, ?_⟩
    · show IdsOk m.hdr.id.addr c.ctr (slabIds (d + 1) (ofMeta m))
      rw [haddr]; exact hids
    · rw [hsh.count_eq_length]; exact hcnt
    · intro id hid
      exact ⟨(hids.2 id hid).1, hfresh id hid, (hids.2 id hid).2.2⟩

theorem allOk_root {d addr lo ctr : Nat} {t : ATree d} (h : AllOk T d addr lo ctr [t]) :
    Shape T d false t ∧ (hdr d t).size ≤ maxThr T ∧ TopKids d t ∧ LeafChain (Arr.leaves d t) ∧
      IdsOk addr ctr (slabIds d t) ∧ ∀ id ∈ slabIds d t, lo < id.idx := by
  obtain ⟨a, b, c⟩ := h.single t rfl
  exact ⟨a, b, c, by simpa using h.chain, by simpa using h.ids, by simpa using h.fresh⟩

theorem levels_ok (hT : legalThreshold T = true) (addr ty lo : Nat)
    (fuel d : Nat) (A : List (ATree d)) (z : ATree d) (c : Ctx) (hL : LevelOk T d addr lo c.ctr A z)
    (hlen : (A ++ [z]).length ≤ fuel)
    (hcnt : ((A ++ [z]).flatMap (flatten d)).length < maxArrayElementCount + 1) :
    ∃ a c', levels T addr ty fuel d (A ++ [z]) c = .ok (a, c') ∧ BuiltOk T addr lo a c'.ctr ∧
      a.toList = (A ++ [z]).flatMap (flatten d) ∧ a.ty = ty ∧ c.ctr ≤ c'.ctr := by
  obtain ⟨a, c', h, hto, hty⟩ := levels_content T addr ty hT fuel d (A ++ [z]) c (by simp) hlen
  obtain ⟨hb, hc⟩ := levels_rule T addr ty
    (I := fun d' X c1 => (∃ A z, X = A ++ [z] ∧ LevelOk T d' addr lo c1.ctr A z) ∧
      (X.flatMap (flatten d')).length < maxArrayElementCount + 1 ∧ c.ctr ≤ c1.ctr)
    (J := fun d' X c1 => AllOk T d' addr lo c1.ctr X ∧
      (X.flatMap (flatten d')).length < maxArrayElementCount + 1 ∧ c.ctr ≤ c1.ctr)
    (Q := fun a c' => BuiltOk T addr lo a c'.ctr ∧ c.ctr ≤ c'.ctr)
    (fun d' X c1 ⟨⟨A, z, hX, hL⟩, hn, hc⟩ => by
      subst hX
      exact ⟨rebalanceTail_ok hT hL, by rw [rebalanceTail_flatten]; exact hn, hc⟩)
    (fun d' root c1 ⟨hall, hn, hc⟩ => by
      obtain ⟨r1, r2, r3, r4, r5, r6⟩ := allOk_root hall
      exact ⟨finishRoot_ok hT ty d' root c1 addr lo r1 r2 r3 r4 r5 r6 (by simpa using hn),
        by rw [(finishRoot_ctr_created ty d' root c1).1]; exact hc⟩)
    (fun d' X c1 ⟨hall, hn, hc⟩ h2 => by
      obtain ⟨A2, z2, e1, e2⟩ := nextLevel_ok hT (storeAll d' X c1) (by rw [(storeAll_ctr_created d' X c1).1]; exact hall) h2
      obtain ⟨_, _, n2, _⟩ := nextLevel_ids T addr d' X (storeAll d' X c1)
      exact ⟨⟨A2, z2, e1, e2⟩, by rw [nextLevel_flatten]; exact hn,
        Nat.le_trans hc (by have := n2.1; rwa [(storeAll_ctr_created d' X c1).1] at this)⟩)
    fuel d (A ++ [z]) c a c' h ⟨⟨A, z, rfl, hL⟩, hcnt, Nat.le_refl _⟩
  exact ⟨a, c', h, hb, hto, hty, hc⟩

theorem asTrees_leaves (L : List DataSlab) : (asTrees L).flatMap (Arr.leaves 0) = L := by
  induction L with
  | nil => rfl
  | cons s L ih => simp only [asTrees_cons, List.flatMap_cons, ih, leaves_zero]; rfl

theorem asTrees_slabIds (L : List DataSlab) : (asTrees L).flatMap (slabIds 0) = L.map (·.hdr.id) := by
  induction L with
  | nil => rfl
  | cons s L ih => simp only [asTrees_cons, List.flatMap_cons, ih, slabIds_zero]; rfl

theorem leafChain_of_chain (done : List DataSlab) (cur : DataSlab) (f : SlabID)
    (h : Chain f cur.hdr.id done) (hn : cur.next = SlabID.undef) : LeafChain (done ++ [cur]) := by
  rw [leafChain_iff]
  refine ⟨f, ?_⟩
  rw [chain_append]
  exact ⟨cur.hdr.id, h, by simp [Chain, hn]⟩

theorem fill_level {addr lo : Nat} {cur : DataSlab} {done : List DataSlab} {c : Ctx}
    (h : FillOk T addr lo cur done c) : LevelOk T 0 addr lo c.ctr (asTrees done) (ofData cur) := by
  have hsplit : asTrees done ++ [ofData cur] = asTrees (done ++ [cur]) := rfl
  refine ⟨?_, (shape_zero T false cur).2 h.cur_shape, h.cur_le, fun _ => trivial, ?_, ?_⟩
  · intro t ht
    have ht' : (t : DataSlab) ∈ done := ht
    revert ht'
    refine forall_ofData ?_ t
    intro s hs
    exact (treeInv_zero T false s).2 (h.done_inv s hs)
  · rw [hsplit, asTrees_leaves]
    obtain ⟨f, hf⟩ := h.chain
    exact leafChain_of_chain done cur f hf h.cur_next
  · rw [hsplit, asTrees_slabIds]; exact h.ids

/-- C17 (`batch_array_inv`, general form): for every legal threshold and every list of values whose
    stored forms respect the inline limit, the bulk build succeeds and its result satisfies the
    array invariant relative to the allocation counter after the call; its element sequence is
    the sequence of stored forms; all its slab IDs were allocated during the call. -/
theorem newWith_inv (hT : legalThreshold T = true) (addr ty : Nat) (P : Elem → Prop)
    (toSt : Elem → Ctx → Elem × Ctx) (hSt : ToStOk T P toSt) (vs : List Elem) (hvs : ∀ v ∈ vs, P v)
    (hlen : vs.length < maxArrayElementCount + 1) (c : Ctx) :
    ∃ a c', ABatch.newWith T addr ty toSt vs c = .ok (a, c') ∧ BuiltOk T addr c.ctr a c'.ctr ∧
      a.toList = List.zipWith (fun v c => (toSt v c).1) vs
        (fillCtxs T addr toSt vs (emptyData (c.alloc addr).1) (c.alloc addr).2) ∧
      a.ty = ty ∧ c.ctr ≤ c'.ctr := by
  rw [newWith_eq]
  obtain ⟨done', cur', e1, e2⟩ := fillLoop_ok T addr c.ctr hT P toSt hSt vs hvs
    (emptyData (c.alloc addr).1) [] (c.alloc addr).2 (fill_init T addr hT c)
  have hflat := fillLoop_elems T addr toSt vs (emptyData (c.alloc addr).1) [] (c.alloc addr).2
  simp only [List.flatMap_nil, emptyData, List.nil_append] at hflat
  have hsplit : asTrees (done' ++ [cur']) = asTrees done' ++ [ofData cur'] := rfl
  have hfl2 : (asTrees done' ++ [ofData cur']).flatMap (flatten 0) =
      List.zipWith (fun v c => (toSt v c).1) vs
        (fillCtxs T addr toSt vs (emptyData (c.alloc addr).1) (c.alloc addr).2) := by
    rw [← hsplit, asTrees_flatten, ← e1]; exact hflat
  rw [e1, hsplit]
  obtain ⟨a, c', heq, hb, hto, hty, hc⟩ := levels_ok hT addr ty c.ctr (done' ++ [cur']).length 0 (asTrees done')
    (ofData cur') (fillLoop T addr toSt vs (emptyData (c.alloc addr).1) [] (c.alloc addr).2).2
    (fill_level e2) (Nat.le_refl _)
    (by rw [hfl2, List.length_zipWith, fillCtxs_length]; simpa using hlen)
  refine ⟨a, c', heq, hb, by rw [hto, hfl2], hty, ?_⟩
  exact Nat.le_trans e2.ids.1 hc

end Atree

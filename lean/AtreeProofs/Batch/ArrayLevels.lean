import AtreeProofs.Batch.ArrayContent
import AtreeProofs.Batch.FreshIds
import AtreeProofs.Array.MergeRebal
import AtreeProofs.Array.Effects
/-
  C17, bulk build of arrays — one round of the level loop:
  `rebalanceTail` ("Rebalance last slab if needed": `LendToRight` or `Merge`) brings the last slab
  of a level into the size band, `nextLevelArraySlabs` groups the level into index slabs that
  again satisfy the level invariant one level up.
-/
namespace Atree
open Gen ATree MetaSlab ABatch Core

variable {T : Nat}

/-- an index slab has at least `n` children (vacuous for data slabs) -/
def KidsGe : (d : Nat) → Nat → ATree d → Prop
  | 0, _, _ => True
  | d + 1, n, (m : MetaSlab (ATree d)) => n ≤ m.children.length

@[simp] theorem kidsGe_zero (n : Nat) (t : ATree 0) : KidsGe 0 n t ↔ True := Iff.rfl
@[simp] theorem kidsGe_succ (d n : Nat) (m : MetaSlab (ATree d)) :
    KidsGe (d + 1) n (ofMeta m) ↔ n ≤ m.children.length := Iff.rfl

theorem topKids_of_inv (hT : legalThreshold T = true) : ∀ {d : Nat} {t : ATree d},
    TreeInv T d false t → TopKids d t
  | 0, _, _ => trivial
  | d + 1, t, h => by
    revert h; refine forall_ofMeta ?_ t; intro m h
    exact two_kids hT h

/-- A level of the tree under construction: `A` are finished slabs, `z` is the last slab, which
    may still be underfull. -/
structure LevelOk (T d addr lo ctr : Nat) (A : List (ATree d)) (z : ATree d) : Prop where
  inv : ∀ t ∈ A, TreeInv T d false t
  shape : Shape T d false z
  le_max : (hdr d z).size ≤ maxThr T
  kid2 : A = [] → TopKids d z
  chain : LeafChain ((A ++ [z]).flatMap (Arr.leaves d))
  ids : FreshIds addr lo ctr ((A ++ [z]).flatMap (slabIds d))

/-- A level after the tail step: every slab is within the band (if there are at least two); a
    single slab is a root candidate. -/
structure AllOk (T d addr lo ctr : Nat) (R : List (ATree d)) : Prop where
  ne : R ≠ []
  inv : 2 ≤ R.length → ∀ t ∈ R, TreeInv T d false t
  single : ∀ t, R = [t] → Shape T d false t ∧ (hdr d t).size ≤ maxThr T ∧ TopKids d t
  chain : LeafChain (R.flatMap (Arr.leaves d))
  ids : IdsOk addr ctr (R.flatMap (slabIds d))
  fresh : ∀ id ∈ R.flatMap (slabIds d), lo < id.idx
  lo_le : lo ≤ ctr

theorem AllOk.freshIds {d addr lo ctr : Nat} {R : List (ATree d)} (h : AllOk T d addr lo ctr R) :
    FreshIds addr lo ctr (R.flatMap (slabIds d)) :=
  .of_idsOk h.ids h.fresh h.lo_le

theorem mem_slabIds_of_mem {d : Nat} {X : List (ATree d)} {t : ATree d} (h : t ∈ X) :
    (hdr d t).id ∈ X.flatMap (slabIds d) :=
  List.mem_flatMap.2 ⟨t, h, hdr_id_mem_slabIds d t⟩

theorem rebalanceTail_cons (T d : Nat) (x : ATree d) (L : List (ATree d)) (h : 2 ≤ L.length) :
    rebalanceTail T d (x :: L) = x :: rebalanceTail T d L := by
  match L, h with
  | y :: z :: rest, _ => rfl

theorem rebalanceTail_append2 (T d : Nat) (A : List (ATree d)) (y z : ATree d) :
    rebalanceTail T d (A ++ [y, z]) = A ++ rebalanceTail T d [y, z] := by
  induction A with
  | nil => rfl
  | cons x A ih =>
    rw [List.cons_append, rebalanceTail_cons T d x _ (by simp), ih]
    rfl

/-- the tail step on two slabs is the kit's (`Core.Kit.tailPair`) -/
theorem rebalanceTail_pair_eq_tailPair (T d : Nat) (c : Ctx) (l x : ATree d) :
    (akit T d c).tailPair (minThr T) l x = some (rebalanceTail T d [l, x]) := by
  unfold Kit.tailPair rebalanceTail
  by_cases hu : (hdr d x).size < minThr T
  · rw [isUnderflow_some T d x hu]
    show (if (hdr d x).size < minThr T then _ else _) = _
    rw [if_pos hu]
    by_cases hc : ATree.canLendToRight T d l (minThr T - (hdr d x).size) = true
    · simp only [akit, hc, if_true, Option.map_some]
    · simp only [akit, hc, if_false, Bool.false_eq_true]
  · rw [isUnderflow_none T d x (Nat.not_lt.1 hu)]
    show (if (hdr d x).size < minThr T then _ else _) = _
    rw [if_neg hu]

theorem slabIds_merge (d : Nat) (l x : ATree d) :
    (slabIds d (ATree.merge d l x)).Sublist (slabIds d l ++ slabIds d x) := by
  obtain ⟨hv, hid⟩ : subIds d (ATree.merge d l x) = subIds d l ++ subIds d x ∧ _ := subIdsView.merge d l x
  rw [slabIds_eq, slabIds_eq d l, slabIds_eq d x, hv, hid]
  exact ((List.Sublist.refl _).append (List.sublist_cons_self _ _)).cons_cons _

theorem slabIds_lend (T d : Nat) (l x : ATree d) :
    (slabIds d (ATree.lendToRight T d l x).1 ++ slabIds d (ATree.lendToRight T d l x).2).Perm
      (slabIds d l ++ slabIds d x) := by
  obtain ⟨hv, h1, h2⟩ : subIds d (ATree.lendToRight T d l x).1 ++ subIds d (ATree.lendToRight T d l x).2
      = subIds d l ++ subIds d x ∧ _ := subIdsView.lend T d l x
  rw [slabIds_eq, slabIds_eq d (ATree.lendToRight T d l x).2, slabIds_eq d l, slabIds_eq d x, h1, h2]
  exact perm_cons_append_cons _ _ hv

/-- "Rebalance last slab if needed" creates no identifier and duplicates none -/
theorem rebalanceTail_ids (T d : Nat) (X : List (ATree d)) :
    ((rebalanceTail T d X).flatMap (slabIds d)).Subperm (X.flatMap (slabIds d)) := by
  refine rebalanceTail_rule T d
    (P := fun X R => (R.flatMap (slabIds d)).Subperm (X.flatMap (slabIds d)))
    (fun _ => List.Subperm.refl _) ?_ ?_ [] X
  · intro A l r
    simp only [List.flatMap_append, List.flatMap_cons, List.flatMap_nil, List.append_nil]
    exact (List.subperm_append_left _).2 (slabIds_lend T d l r).subperm
  · intro A l r
    simp only [List.flatMap_append, List.flatMap_cons, List.flatMap_nil, List.append_nil]
    exact (List.subperm_append_left _).2 (slabIds_merge d l r).subperm

theorem rebalanceTail_ok (hT : legalThreshold T = true) {d addr lo ctr : Nat} {A : List (ATree d)}
    {z : ATree d} (h : LevelOk T d addr lo ctr A z) :
    AllOk T d addr lo ctr (rebalanceTail T d (A ++ [z])) := by
  have hF := h.ids.subperm (rebalanceTail_ids T d (A ++ [z]))
  rcases List.eq_nil_or_concat A with hA | ⟨A', y, hA⟩
  · subst hA
    have heq : rebalanceTail T d ([] ++ [z]) = [z] := rfl
    rw [heq] at hF ⊢
    refine ⟨by simp, by simp, ?_, by simpa using h.chain, hF.idsOk, fun id hid => (hF.fresh hid).2.1, hF.le⟩
    intro t ht
    have : z = t := by simpa using ht
    subst this
    exact ⟨h.shape, h.le_max, h.kid2 rfl⟩
  · rw [List.concat_eq_append] at hA
    subst hA
    have hidy := (h.ids.fresh (mem_slabIds_of_mem (t := y) (by simp))).1
    have hidz := (h.ids.fresh (mem_slabIds_of_mem (t := z) (by simp))).1
    -- the last slab is the last child of the level: `Core.Laws` for a child without right sibling
    -- (the tail step allocates nothing: of the context only the counter matters, as bound in `Repl`)
    obtain ⟨cs, he, hne, hall, _, _, hrepl⟩ := (akit_laws hT d ⟨ctr, [], []⟩).tail_spec (A := A')
      (fun t ht => h.inv t (List.mem_append_left _ ht)) (h.inv y (by simp)) h.shape h.le_max (by rw [hidy, hidz])
    rw [rebalanceTail_pair_eq_tailPair] at he
    cases he
    have hsplit : A' ++ [y] ++ [z] = A' ++ [y, z] := by simp
    have hch := h.chain
    rw [hsplit] at hch hF ⊢
    rw [rebalanceTail_append2] at hF ⊢
    refine ⟨by simp [hne], fun _ => hall, ?_, hrepl.chain.leafChain hch, hF.idsOk,
      fun id hid => (hF.fresh hid).2.1, hF.le⟩
    intro t ht
    have hti := hall t (by rw [ht]; simp)
    exact ⟨hti.shape_false, hti.le_max, topKids_of_inv hT hti⟩

theorem emptyMeta_shape (d : Nat) (id : SlabID) : MShape T d false (emptyMeta d id) :=
  ⟨rfl, rfl, rfl, rfl, rfl, by simp, by simp⟩

theorem addChild_shape {d : Nat} {m : MetaSlab (ATree d)} {t : ATree d} (hm : MShape T d false m)
    (ht : TreeInv T d false t) (haddr : (hdr d t).id.addr = m.hdr.id.addr) :
    MShape T d false (addChild d m t) := by
  refine ⟨hm.root_eq, ?_, ?_, ?_, ?_, ?_, ?_⟩
  · simp [addChild, hm.hdrs_eq]
  · simp only [addChild]
    rw [prefixSums_append, ← hm.sums_eq, prefixSums_cons, Nat.zero_add, ← hm.count_eq]
    rfl
  · simp only [addChild, sumCounts_append, sumCounts_cons, sumCounts_nil, hm.count_eq]; omega
  · simp only [addChild, hm.size_eq, List.length_append, List.length_cons, List.length_nil,
      arraySlabHeaderSize]
    omega
  · intro c hc
    simp only [addChild, List.mem_append, List.mem_singleton] at hc
    rcases hc with hc | rfl
    · exact hm.kids_inv c hc
    · exact ht
  · intro c hc
    simp only [addChild, List.mem_append, List.mem_singleton] at hc
    rcases hc with hc | rfl
    · exact hm.kids_addr c hc
    · exact haddr

theorem addChild_facts {d : Nat} (m : MetaSlab (ATree d)) (t : ATree d) :
    (addChild d m t).hdr.id = m.hdr.id ∧ (addChild d m t).children = m.children ++ [t] ∧
      (addChild d m t).childHdrs.length = m.childHdrs.length + 1 := by
  simp [addChild]

/-- The loop of `nextLevelArraySlabs`, started as `nextLevelArraySlabs` starts it: the finished
    index slabs hold `maxN` children, the last one at least one. -/
theorem nextLevelLoop_ok (maxN addr d : Nat) (ss : List (ATree d)) (id : SlabID) (c : Ctx)
    (hN : 1 ≤ maxN) (hid : id.addr = addr) (hss : ∀ t ∈ ss, TreeInv T d false t ∧ (hdr d t).id.addr = addr) :
    ∃ done' cur' c', nextLevelLoop maxN addr d ss (emptyMeta d id) [] c = (done' ++ [cur'], c') ∧
      (∀ m ∈ done', MShape T d false m ∧ m.children.length = maxN) ∧ MShape T d false cur' ∧
      cur'.children.length ≤ maxN ∧ (ss = [] ∨ 1 ≤ cur'.children.length) := by
  obtain ⟨done', cur', c', e, h1, h2, _, h4, h5⟩ := nextLevelLoop_rule maxN addr d
    (P := fun t => TreeInv T d false t ∧ (hdr d t).id.addr = addr)
    (I := fun pre cur done _ => (∀ m ∈ done, MShape T d false m ∧ m.children.length = maxN) ∧
      MShape T d false cur ∧ cur.hdr.id.addr = addr ∧ cur.children.length ≤ maxN ∧
      (pre = [] ∨ 1 ≤ cur.children.length))
    (fun pre s cur done c hs ⟨h1, h2, _, _, _⟩ hf => by
      refine ⟨?_, addChild_shape (emptyMeta_shape d _) hs.1 hs.2, rfl, hN, .inr (Nat.le_refl _)⟩
      intro m hm
      rcases List.mem_append.1 hm with hm | hm
      · exact h1 m hm
      · rw [List.mem_singleton.1 hm]; exact ⟨h2, by rw [← h2.hdrs_length]; exact hf⟩)
    (fun pre s cur done c hs ⟨h1, h2, h3, h4, _⟩ hf => by
      refine ⟨h1, addChild_shape h2 hs.1 (hs.2.trans h3.symm), h3, ?_, .inr (by simp)⟩
      rw [← h2.hdrs_length] at h4
      rw [addChild_children, List.length_append, List.length_singleton, ← h2.hdrs_length]
      omega)
    ss [] (emptyMeta d id) [] c hss
    ⟨by simp, emptyMeta_shape d _, hid, Nat.zero_le _, .inl rfl⟩
  exact ⟨done', cur', c', e, h1, h2, h4, h5⟩

theorem leaves_metas (d : Nat) (R : List (MetaSlab (ATree d))) :
    (asMetas R).flatMap (Arr.leaves (d + 1)) = (R.flatMap (·.children)).flatMap (Arr.leaves d) :=
  flatMap_asMetas _ _ (leaves_succ d) R

theorem slabIds_metas_perm (d : Nat) (R : List (MetaSlab (ATree d))) :
    ((asMetas R).flatMap (slabIds (d + 1))).Perm
      (R.map (·.hdr.id) ++ (R.flatMap (·.children)).flatMap (slabIds d)) := by
  induction R with
  | nil => exact List.Perm.refl _
  | cons m R ih =>
    simp only [asMetas_cons, List.flatMap_cons, List.flatMap_append, slabIds_succ, List.map_cons,
      List.cons_append]
    apply List.Perm.cons
    refine (List.Perm.append_left _ ih).trans ?_
    rw [← List.append_assoc, ← List.append_assoc]
    exact List.Perm.append_right _ List.perm_append_comm

theorem storeAll_ctr_created (d : Nat) (X : List (ATree d)) (c : Ctx) :
    (storeAll d X c).ctr = c.ctr ∧ (storeAll d X c).created = c.created := by
  unfold storeAll
  induction X generalizing c with
  | nil => exact ⟨rfl, rfl⟩
  | cons x X ih => exact ih (c.emit (.store (hdr d x).id))

theorem nextLevelLoop_hdrIds (maxN addr d : Nat) (ss : List (ATree d))
    (cur : MetaSlab (ATree d)) (done : List (MetaSlab (ATree d))) (c : Ctx) :
    ∃ news, (nextLevelLoop maxN addr d ss cur done c).1.map (·.hdr.id) =
        done.map (·.hdr.id) ++ cur.hdr.id :: news ∧
      FreshIds addr c.ctr (nextLevelLoop maxN addr d ss cur done c).2.ctr news ∧
      (nextLevelLoop maxN addr d ss cur done c).2.created = c.created := by
  obtain ⟨done', cur', c', e, news, h1, h2, h3⟩ := nextLevelLoop_rule maxN addr d (P := fun _ => True)
    (I := fun _ cur' done' c' => ∃ news, (done' ++ [cur']).map (·.hdr.id) =
      done.map (·.hdr.id) ++ cur.hdr.id :: news ∧ FreshIds addr c.ctr c'.ctr news ∧ c'.created = c.created)
    (fun _ s cur' done' c' _ ⟨news, h1, h2, h3⟩ _ =>
      ⟨news ++ [(⟨addr, c'.ctr + 1⟩ : SlabID)], by
        rw [List.map_append, h1]; simp only [List.map_cons, List.map_nil, addChild_hdr_id, emptyMeta_hdr_id,
          Ctx.alloc_id, List.append_assoc, List.cons_append],
        (Ctx.alloc_ctr c' addr).symm ▸ h2.snoc_alloc, h3⟩)
    (fun _ s cur' done' c' _ ⟨news, h1, h2, h3⟩ _ => ⟨news, by
      rw [← h1]; simp only [List.map_append, List.map_cons, List.map_nil, addChild_hdr_id], h2, h3⟩)
    ss [] cur done c (fun _ _ => trivial) ⟨[], by simp, FreshIds.nil (Nat.le_refl _), rfl⟩
  rw [e]
  exact ⟨news, h1, h2, h3⟩

theorem nextLevel_ids (T addr d : Nat) (X : List (ATree d)) (c : Ctx) :
    ∃ news, ((nextLevelArraySlabs T addr d X c).1.flatMap (slabIds (d + 1))).Perm
        (news ++ X.flatMap (slabIds d)) ∧
      FreshIds addr c.ctr (nextLevelArraySlabs T addr d X c).2.ctr news ∧
      (nextLevelArraySlabs T addr d X c).2.created = c.created := by
  obtain ⟨news, h1, h2, h3⟩ := nextLevelLoop_hdrIds ((maxThr T - arrayMetaDataSlabPrefixSize) / arraySlabHeaderSize)
    addr d X (emptyMeta d (c.alloc addr).1) [] (c.alloc addr).2
  refine ⟨(c.alloc addr).1 :: news, ?_, (FreshIds.single_next addr c.ctr).append_new h2 |>.perm
    (List.perm_append_singleton _ _).symm, h3⟩
  rw [nextLevel_eq]
  refine (slabIds_metas_perm d _).trans ?_
  rw [nextMetas_children]
  have h1' : (nextMetas T addr d X c).map (·.hdr.id) = (c.alloc addr).1 :: news := h1
  rw [h1']

/-- `nextLevelArraySlabs` turns a level whose slabs are all within the band into a level of index
    slabs: all but the last one full, the last one with at least one child. -/
theorem nextLevel_ok (hT : legalThreshold T = true) {d addr lo : Nat} {R : List (ATree d)} (c : Ctx)
    (hR : AllOk T d addr lo c.ctr R) (h2 : 2 ≤ R.length) :
    ∃ A z, (nextLevelArraySlabs T addr d R c).1 = A ++ [z] ∧
      LevelOk T (d + 1) addr lo (nextLevelArraySlabs T addr d R c).2.ctr A z := by
  obtain ⟨hN, hNmin, hNmax⟩ := legal_maxN_facts hT
  have hinv := hR.inv h2
  obtain ⟨news, n1, n2, _⟩ := nextLevel_ids T addr d R c
  obtain ⟨done', cur', c', e, e2, e3, e5, e4⟩ := nextLevelLoop_ok (T := T)
    ((maxThr T - arrayMetaDataSlabPrefixSize) / arraySlabHeaderSize) addr d R (c.alloc addr).1 (c.alloc addr).2 (by omega) rfl
    (fun t ht => ⟨hinv t ht, (hR.ids.2 _ (mem_slabIds_of_mem ht)).1⟩)
  have e' : nextLevelArraySlabs T addr d R c = (asMetas (done' ++ [cur']), c') := e
  have hkids : (done' ++ [cur']).flatMap (·.children) = R := by
    have := nextMetas_children T addr d R c
    unfold nextMetas at this
    rwa [e] at this
  have e4 : 1 ≤ cur'.children.length := e4.resolve_left (by rintro rfl; simp at h2)
  rw [e'] at n1 n2 ⊢
  refine ⟨asMetas done', ofMeta cur', rfl, ?_, (shape_succ T d false cur').2 e3, ?_, ?_, ?_,
    (hR.freshIds.append_new n2).perm n1⟩
  · intro t ht
    have ht' : (t : MetaSlab (ATree d)) ∈ done' := ht
    revert ht'
    refine forall_ofMeta ?_ t
    intro m hm
    obtain ⟨a, b⟩ := e2 m hm
    rw [treeInv_succ]
    refine ⟨a, ?_, ?_, by simp⟩
    · rw [a.kids_of_size, b]; exact hNmax
    · intro _; rw [a.kids_of_size, b]; exact hNmin
  · show cur'.hdr.size ≤ maxThr T
    rw [e3.kids_of_size]
    exact Nat.le_trans (Nat.add_le_add_left (Nat.mul_le_mul_left _ e5) _) hNmax
  · intro hA
    have hd : done' = [] := hA
    rw [hd] at hkids
    simp only [List.nil_append, List.flatMap_cons, List.flatMap_nil, List.append_nil] at hkids
    show 2 ≤ cur'.children.length
    rw [hkids]; exact h2
  · show LeafChain ((asMetas (done' ++ [cur'])).flatMap (Arr.leaves (d + 1)))
    rw [leaves_metas, hkids]
    exact hR.chain

end Atree

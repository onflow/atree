import AtreeProofs.Batch.ArrayInvBuild
import AtreeProofs.Array.Refs
import AtreeProofs.Batch.Stored
/-
  C17, bulk build of arrays — large-value references.  The element loop (`ABatch.fillLoop`) and
  the level loop (`ABatch.levels`) of `NewArrayFromBatchData` with the references: the identifiers
  of the tree slabs and of the large-value slabs referenced by the elements are pairwise different, of the owner address, allocated during the
  call (`FreshIds`, Batch/FreshIds.lean), and every stored element represents the input value at
  its position (a reference resolves to it in `Ctx.created`).
-/
namespace Atree
open Gen ATree MetaSlab ABatch

variable {T : Nat}

/-- The level loop of the array build keeps `FreshIds` of the tree identifiers together with the
    carried identifiers `extra` (the large-value slabs) and creates no large-value slab. -/
theorem alevels_ids (T addr ty c0 : Nat) (extra : List SlabID)
    (fuel d : Nat) (X : List (ATree d)) (c : Ctx) (a : Arr) (c' : Ctx)
    (h : levels T addr ty fuel d X c = .ok (a, c'))
    (hF : FreshIds addr c0 c.ctr (X.flatMap (slabIds d) ++ extra)) :
    FreshIds addr c0 c'.ctr (slabIds a.d a.root ++ extra) ∧ c.ctr ≤ c'.ctr ∧ c'.created = c.created :=
  levels_rule T addr ty
    (I := fun d X c1 => FreshIds addr c0 c1.ctr (X.flatMap (slabIds d) ++ extra) ∧ c.ctr ≤ c1.ctr ∧
      c1.created = c.created)
    (J := fun d X c1 => FreshIds addr c0 c1.ctr (X.flatMap (slabIds d) ++ extra) ∧ c.ctr ≤ c1.ctr ∧
      c1.created = c.created)
    (Q := fun a c' => FreshIds addr c0 c'.ctr (slabIds a.d a.root ++ extra) ∧ c.ctr ≤ c'.ctr ∧
      c'.created = c.created)
    (fun d X c1 ⟨hF, hc⟩ => ⟨hF.subperm_left (rebalanceTail_ids T d X), hc⟩)
    (fun d root c1 ⟨hF, hc, hcr⟩ => by
      obtain ⟨a2, a3⟩ := finishRoot_ctr_created ty d root c1
      rw [a2, a3]
      have a1 : slabIds (finishRoot ty d root c1).1.d (finishRoot ty d root c1).1.root = slabIds d root := by
        cases d <;> rfl
      rw [a1]
      exact ⟨by simpa using hF, hc, hcr⟩)
    (fun d X c1 ⟨hF, hc, hcr⟩ _ => by
      obtain ⟨s1, s2⟩ := storeAll_ctr_created d X c1
      obtain ⟨news, n1, n2, n3⟩ := nextLevel_ids T addr d X (storeAll d X c1)
      rw [s1] at n2
      exact ⟨(hF.append_new n2).perm (by rw [← List.append_assoc]; exact n1.append_right _),
        Nat.le_trans hc n2.1, by rw [n3, s2, hcr]⟩)
    fuel d X c a c' h ⟨hF, Nat.le_refl _, rfl⟩

theorem forall2_snoc {α β : Type} {R : α → β → Prop} {l1 : List α} {l2 : List β} (h : List.Forall₂ R l1 l2)
    {a : α} {b : β} (hab : R a b) : List.Forall₂ R (l1 ++ [a]) (l2 ++ [b]) := by
  induction h with
  | nil => exact List.Forall₂.cons hab List.Forall₂.nil
  | cons h1 _ ih => exact List.Forall₂.cons h1 ih

theorem forall2_imp {α β : Type} {R S : α → β → Prop} (hRS : ∀ a b, R a b → S a b) {l1 : List α} {l2 : List β}
    (h : List.Forall₂ R l1 l2) : List.Forall₂ S l1 l2 := by
  induction h with
  | nil => exact List.Forall₂.nil
  | cons h1 _ ih => exact List.Forall₂.cons (hRS _ _ h1) ih

/-- invariant of the element loop about the list `L = done ++ [cur]` of data slabs, after the
    values `proc`, in context `c` (`P` as in `MFillIds`) -/
structure AFillIds (T addr c0 : Nat) (P : Prop) (L : List DataSlab) (proc : List Elem) (c : Ctx) : Prop where
  ids : FreshIds addr c0 c.ctr (L.map (·.hdr.id) ++ refIdsOf (L.flatMap (·.elems)))
  created : P → CreatedTableOk addr c
  repr : P → List.Forall₂ (ReprA T c.created) proc (L.flatMap (·.elems))

/-- storing one more value `v` at the end, in context `c1` whose counter is `c.ctr + k` after `k`
    (0 or 1) fresh tree identifiers `news` were appended -/
theorem afillIds_push {addr c0 : Nat} {P : Prop} {L L' : List DataSlab} {proc : List Elem} {c c1 : Ctx}
    (h : AFillIds T addr c0 P L proc c) {v : Elem} (hv : ValueOk v) (news : List SlabID)
    (hnews : FreshIds addr c.ctr c1.ctr news) (hc1 : c1.created = c.created)
    (hids : L'.map (·.hdr.id) = L.map (·.hdr.id) ++ news)
    (helems : L'.flatMap (·.elems) = L.flatMap (·.elems) ++ [(toStorable T addr v c1).1]) :
    AFillIds T addr c0 P L' (proc ++ [v]) (toStorable T addr v c1).2 := by
  have S : ValStored (maxInlineArr T) addr v c1 (toStorable T addr v c1).1 (toStorable T addr v c1).2 :=
    toStorableLim_valStored _ addr hv.2 c1
  have htab : P → CreatedTableOk addr c1 := fun hP p hp ha =>
    Nat.le_trans (h.created hP p (hc1 ▸ hp) ha) hnews.1
  obtain ⟨ext, hext⟩ := S.ext
  refine ⟨?_, fun hP => S.table (htab hP), fun hP => ?_⟩
  · rw [hids, helems, refIdsOf_append, refIdsOf_single]
    exact ((h.ids.append_new hnews).append_new S.ids).perm (perm_store_ids _ _ _ _)
  · rw [helems]
    refine forall2_snoc (forall2_imp (fun _ _ hr => ?_) (h.repr hP)) (reprA_iff.2 (S.repr (htab hP)))
    rw [hext, hc1]; exact reprA_iff.2 ((reprA_iff.1 hr).append ext)

theorem afill_ids (addr c0 : Nat) (P : Prop) (vs : List Elem) (hvs : ∀ v ∈ vs, ValueOk v) :
    ∀ (cur : DataSlab) (done : List DataSlab) (c : Ctx) (proc : List Elem),
      AFillIds T addr c0 P (done ++ [cur]) proc c →
      AFillIds T addr c0 P (fillLoop T addr (toStorable T addr) vs cur done c).1 (proc ++ vs)
        (fillLoop T addr (toStorable T addr) vs cur done c).2 := by
  induction vs with
  | nil => intro cur done c proc h; simpa [fillLoop] using h
  | cons v vs ih =>
    intro cur done c proc h
    have hv := hvs v (by simp)
    have hvs' : ∀ x ∈ vs, ValueOk x := fun x hx => hvs x (by simp [hx])
    have happ : proc ++ v :: vs = (proc ++ [v]) ++ vs := by simp
    unfold fillLoop
    by_cases hfull : cur.hdr.size ≥ T
    · simp only [hfull, if_true]
      rw [happ]
      refine ih hvs' _ _ _ _ ?_
      refine afillIds_push (c1 := (c.alloc addr).2) h hv [(c.alloc addr).1] (FreshIds.single_next addr c.ctr) rfl ?_ ?_
      · simp [pushElem, emptyData]
      · simp [pushElem, emptyData, List.flatMap_append]
    · simp only [hfull, if_false]
      rw [happ]
      refine ih hvs' _ _ _ _ ?_
      refine afillIds_push (c1 := c) h hv [] (FreshIds.nil (Nat.le_refl _)) rfl ?_ ?_
      · simp [pushElem]
      · simp [pushElem, List.flatMap_append]

/-- `NewArrayFromBatchData` and identifiers/references: all tree identifiers and all references of
    the result are pairwise different identifiers of the owner allocated during the call; each
    stored element represents the input value at its position. -/
theorem arr_fromBatchData_refs (hT : legalThreshold T = true) (addr ty : Nat) (vs : List Elem)
    (hvs : ∀ v ∈ vs, ValueOk v) (c : Ctx) (a : Arr) (c' : Ctx)
    (h : Arr.fromBatchData T addr ty vs c = .ok (a, c')) :
    FreshIds addr c.ctr c'.ctr (slabIds a.d a.root ++ a.refIds) ∧
    (CreatedTableOk addr c → CreatedTableOk addr c' ∧ List.Forall₂ (ReprA T c'.created) vs a.toList) := by
  have hnw : Arr.fromBatchData T addr ty vs c = ABatch.newWith T addr ty (toStorable T addr) vs c := rfl
  rw [hnw, newWith_eq] at h
  obtain ⟨a2, c2, h2, hto, _⟩ := levels_content T addr ty hT _ 0
    (asTrees (fillLoop T addr (toStorable T addr) vs (emptyData (c.alloc addr).1) [] (c.alloc addr).2).1)
    (fillLoop T addr (toStorable T addr) vs (emptyData (c.alloc addr).1) [] (c.alloc addr).2).2
    (asTrees_ne_nil (fillLoop_ne_nil T addr _ vs _ _ _)) (Nat.le_refl _)
  rw [asTrees_length] at h2
  rw [h2] at h
  simp only [Except.ok.injEq, Prod.mk.injEq] at h
  obtain ⟨e1, e2⟩ := h
  subst e1 e2
  rw [asTrees_flatten] at hto
  have hinit : AFillIds T addr c.ctr (CreatedTableOk addr c) ([] ++ [emptyData (c.alloc addr).1]) [] (c.alloc addr).2 := by
    refine ⟨?_, ?_, ?_⟩
    · simpa [emptyData, refIdsOf] using FreshIds.single_next addr c.ctr
    · intro hP p hp ha
      have := hP p hp ha
      show p.1.idx ≤ c.ctr + 1
      omega
    · intro _; simp [emptyData]
  have hI := afill_ids (T := T) addr c.ctr (CreatedTableOk addr c) vs hvs (emptyData (c.alloc addr).1) []
    (c.alloc addr).2 [] hinit
  simp only [List.nil_append] at hI
  have hF : FreshIds addr c.ctr
      (fillLoop T addr (toStorable T addr) vs (emptyData (c.alloc addr).1) [] (c.alloc addr).2).2.ctr
      ((asTrees (fillLoop T addr (toStorable T addr) vs (emptyData (c.alloc addr).1) [] (c.alloc addr).2).1).flatMap (slabIds 0) ++
        refIdsOf a2.toList) := by
    rw [asTrees_slabIds, hto]; exact hI.ids
  have h2' := h2
  rw [← asTrees_length] at h2'
  obtain ⟨b1, b2, b3⟩ := alevels_ids T addr ty c.ctr (refIdsOf a2.toList) _ 0 _ _ a2 c2 h2' hF
  refine ⟨b1, ?_⟩
  intro hP
  refine ⟨?_, ?_⟩
  · intro p hp ha
    rw [b3] at hp
    have := hI.created hP p hp ha
    omega
  · rw [hto, b3]
    exact hI.repr hP

end Atree

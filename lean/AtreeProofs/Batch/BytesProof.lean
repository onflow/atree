import AtreeModel.Bytes
import AtreeProofs.Batch.ArrayInvBuild
import AtreeProofs.Array.Iter
import AtreeProofs.Batch.CopyArray
/-
  C17, byte slice <-> byte array: `ByteSliceToByteArray` yields a valid array of fresh slabs holding
  the bytes (fast path and `NewArrayFromBatchData` fallback; `byteSliceToByteArray_built`), and
  `ByteArrayToByteSlice` reads them back or rejects an array holding an element that is not of the
  caller's byte type (`byteArrayToByteSlice_cases`).
-/
namespace Atree
open Gen ATree MetaSlab ABatch Bytes

variable {T : Nat}

/-- the byte an element stands for -/
def payNat (e : Elem) : Nat :=
  match e.pay with
  | .val b => b
  | .ref _ => 0

/-- `e` is a plain value of the caller's byte type `T` -/
def IsByteOf (isT : Elem → Bool) (e : Elem) : Prop := e.isPlain ∧ isT e = true

/-- reading a list of elements as bytes: all of them when every element is a byte of the type, the
    type error otherwise -/
theorem mapM_elemByte_cases (isT : Elem → Bool) (es : List Elem) :
    (es.mapM (elemByte isT) = .ok (es.map payNat) ∧ ∀ e ∈ es, IsByteOf isT e) ∨
    (es.mapM (elemByte isT) = .error .unexpectedElemType ∧ ∃ e ∈ es, ¬ IsByteOf isT e) := by
  induction es with
  | nil => exact .inl ⟨rfl, fun _ h => absurd h List.not_mem_nil⟩
  | cons e es ih =>
    by_cases he : IsByteOf isT e
    · obtain ⟨⟨n, hn⟩, ht⟩ := id he
      have hE : elemByte isT e = .ok (payNat e) := by simp only [elemByte, hn, ht, if_true, payNat]
      rcases ih with ⟨h1, h2⟩ | ⟨h1, x, hx, hbad⟩
      · exact .inl ⟨by simp only [List.mapM_cons, hE, h1, bind, Except.bind, pure, Except.pure, List.map_cons],
          List.forall_mem_cons.2 ⟨he, h2⟩⟩
      · exact .inr ⟨by simp only [List.mapM_cons, hE, h1, bind, Except.bind], x, List.mem_cons_of_mem _ hx, hbad⟩
    · refine .inr ⟨?_, e, List.mem_cons_self, he⟩
      have : elemByte isT e = .error .unexpectedElemType := by
        unfold elemByte
        cases hp : e.pay with
        | ref id => rfl
        | val b =>
          have : isT e ≠ true := fun ht => he ⟨⟨b, hp⟩, ht⟩
          simp [this]
      simp only [List.mapM_cons, this, bind, Except.bind]

/-- following the sibling links from `cur` collects the bytes of `cur` and of all slabs after it, or
    ends with `UnexpectedElementTypeError` when some element on the way is not a byte of the type -/
theorem collectFrom_cases (isT : Elem → Bool) : ∀ (rest pre : List DataSlab) (cur : DataSlab) (fuel : Nat),
    LeafChain (cur :: rest) → ((pre ++ cur :: rest).map (·.hdr.id)).Nodup →
    (∀ s ∈ pre ++ cur :: rest, s.hdr.id ≠ SlabID.undef) → rest.length + 1 ≤ fuel →
    (collectFrom isT (pre ++ cur :: rest) fuel cur = .ok (((cur :: rest).flatMap (·.elems)).map payNat) ∧
      ∀ s ∈ cur :: rest, ∀ e ∈ s.elems, IsByteOf isT e) ∨
    (collectFrom isT (pre ++ cur :: rest) fuel cur = .error .unexpectedElemType ∧
      ∃ s ∈ cur :: rest, ∃ e ∈ s.elems, ¬ IsByteOf isT e) := by
  intro rest
  induction rest with
  | nil =>
    intro pre cur fuel hchain _ _ hfuel
    obtain ⟨f, rfl⟩ : ∃ f, fuel = f + 1 := ⟨fuel - 1, by simp at hfuel; omega⟩
    have hnext : cur.next = SlabID.undef := hchain
    unfold collectFrom
    rcases mapM_elemByte_cases isT cur.elems with ⟨hok, hall⟩ | ⟨herr, e, he, hb⟩
    · exact .inl ⟨by simp only [hok, hnext, if_true, bind, Except.bind, pure, Except.pure, List.flatMap_cons,
        List.flatMap_nil, List.append_nil], by simpa using hall⟩
    · exact .inr ⟨by simp only [herr, bind, Except.bind], cur, List.mem_cons_self, e, he, hb⟩
  | cons nxt rest ih =>
    intro pre cur fuel hchain hnd hdef hfuel
    obtain ⟨f, rfl⟩ : ∃ f, fuel = f + 1 := ⟨fuel - 1, by simp at hfuel; omega⟩
    obtain ⟨hnext, hchain'⟩ : cur.next = nxt.hdr.id ∧ LeafChain (nxt :: rest) := hchain
    have hnu : ¬ nxt.hdr.id = SlabID.undef := hdef nxt (by simp)
    have hsplit : pre ++ cur :: nxt :: rest = (pre ++ [cur]) ++ nxt :: rest := by simp
    unfold collectFrom
    rcases mapM_elemByte_cases isT cur.elems with ⟨hok, hall⟩ | ⟨herr, e, he, hb⟩
    · have hrec := ih (pre ++ [cur]) nxt f hchain' (by rw [← hsplit]; exact hnd)
        (by rw [← hsplit]; exact hdef) (by simp at hfuel ⊢; omega)
      simp only [hok, hnext, hnu, if_false, bind, Except.bind, pure, Except.pure, find?_next pre rest cur nxt hnd]
      rw [hsplit]
      rcases hrec with ⟨h1, h2⟩ | ⟨h1, s, hs, hbad⟩
      · exact .inl ⟨by rw [h1, List.flatMap_cons (xs := nxt :: rest), List.map_append],
          List.forall_mem_cons.2 ⟨hall, h2⟩⟩
      · exact .inr ⟨by rw [h1], s, List.mem_cons_of_mem _ hs, hbad⟩
    · exact .inr ⟨by simp only [herr, bind, Except.bind], cur, List.mem_cons_self, e, he, hb⟩

/-- `ByteArrayToByteSlice` on a valid array returns the payloads in order when every element is a
    plain value of the byte type, and reports `UnexpectedElementTypeError` when one — a reference or
    a plain value of another type, in whatever data slab — is not. -/
theorem byteArrayToByteSlice_cases (isT : Elem → Bool) (a : Arr) (ctr : Nat) (h : ArrInv T a ctr) :
    (byteArrayToByteSlice isT a = .ok (a.toList.map payNat) ∧ ∀ e ∈ a.toList, IsByteOf isT e) ∨
    (byteArrayToByteSlice isT a = .error .unexpectedElemType ∧ ∃ e ∈ a.toList, ¬ IsByteOf isT e) := by
  obtain ⟨d, t, ty⟩ := a
  have hfl := leaves_flatMap_elems d t
  have hcount : (hdr d t).count = (flatten d t).length := h.shape.count_eq_length
  have hnd : ((Arr.leaves d t).map (·.hdr.id)).Nodup := h.ids.1.sublist (leaves_ids_sublist d t)
  have hdef : ∀ s ∈ Arr.leaves d t, s.hdr.id ≠ SlabID.undef := by
    intro s hs heq
    have hm : s.hdr.id ∈ slabIds d t :=
      (leaves_ids_sublist d t).subset (List.mem_map.2 ⟨s, hs, rfl⟩)
    have := (h.ids.2 _ hm).2.1
    rw [heq] at this
    simp [SlabID.undef] at this
  have hchain : LeafChain (Arr.leaves d t) := h.chain
  show ((if (hdr d t).count = 0 then Except.ok []
      else match Arr.leaves d t with
        | [] => .error (.arr .slabNotFound)
        | first :: _ => collectFrom isT (Arr.leaves d t) ((Arr.leaves d t).length + 1) first) =
        .ok ((flatten d t).map payNat) ∧ ∀ e ∈ flatten d t, IsByteOf isT e) ∨
    ((if (hdr d t).count = 0 then Except.ok []
      else match Arr.leaves d t with
        | [] => .error (.arr .slabNotFound)
        | first :: _ => collectFrom isT (Arr.leaves d t) ((Arr.leaves d t).length + 1) first) =
        .error .unexpectedElemType ∧ ∃ e ∈ flatten d t, ¬ IsByteOf isT e)
  by_cases h0 : (hdr d t).count = 0
  · rw [if_pos h0, List.eq_nil_of_length_eq_zero (l := flatten d t) (hcount ▸ h0)]
    exact .inl ⟨rfl, fun _ h => absurd h List.not_mem_nil⟩
  · rw [if_neg h0]
    match hl : Arr.leaves d t with
    | [] =>
      rw [hl, List.flatMap_nil] at hfl
      rw [← hfl] at hcount
      exact absurd hcount h0
    | first :: rest =>
      rw [hl] at hnd hdef hchain hfl
      have := collectFrom_cases isT rest [] first ((first :: rest).length + 1) hchain
        (by simpa using hnd) (by simpa using hdef) (by simp)
      rw [List.nil_append, hfl] at this
      refine this.imp (And.imp_right fun hall e he => ?_) (And.imp_right fun ⟨s, hs, e, he, hb⟩ => ⟨e, ?_, hb⟩)
      · rw [← hfl] at he
        obtain ⟨s, hs, hes⟩ := List.mem_flatMap.1 he
        exact hall s hs e hes
      · rw [← hfl]; exact List.mem_flatMap.2 ⟨s, hs, he⟩

theorem byteArrayToByteSlice_spec (isT : Elem → Bool) (a : Arr) (ctr : Nat) (h : ArrInv T a ctr)
    (hp : ∀ e ∈ a.toList, IsByteOf isT e) : byteArrayToByteSlice isT a = .ok (a.toList.map payNat) :=
  ((byteArrayToByteSlice_cases isT a ctr h).resolve_right fun ⟨_, e, he, hb⟩ => hb (hp e he)).1

theorem byteArrayToByteSlice_rejects (isT : Elem → Bool) (a : Arr) (ctr : Nat) (h : ArrInv T a ctr)
    (hbad : ∃ e ∈ a.toList, ¬ IsByteOf isT e) : byteArrayToByteSlice isT a = .error .unexpectedElemType :=
  ((byteArrayToByteSlice_cases isT a ctr h).resolve_left fun ⟨_, hall⟩ =>
    let ⟨e, he, hb⟩ := hbad; hb (hall e he)).1

theorem sumSizes_byteElem (bsize : Nat → Nat) (bs : List Nat) :
    sumSizes (bs.map (byteElem bsize)) = (bs.map bsize).sum := by
  induction bs with
  | nil => rfl
  | cons b bs ih => simp [sumSizes_cons, byteElem, ih]

theorem map_payNat_byteElem (bsize : Nat → Nat) (bs : List Nat) :
    (bs.map (byteElem bsize)).map payNat = bs := by
  induction bs with
  | nil => rfl
  | cons b bs ih => simp [byteElem, payNat, ih]

def rootSlab (id : SlabID) (es : List Elem) : DataSlab :=
  { hdr := { id := id, size := arrayRootDataSlabPrefixSize + sumSizes es, count := es.length },
    next := SlabID.undef, elems := es, root := true, inlined := false }

theorem rootSlab_inv (hT : legalThreshold T = true) (addr ctr ty : Nat) (es : List Elem)
    (hes : ∀ e ∈ es, ElemOk T e) (hfit : sumSizes es + arrayRootDataSlabPrefixSize < T)
    (hlen : es.length < maxArrayElementCount + 1) :
    ArrInv T ⟨0, ofData (rootSlab ⟨addr, ctr + 1⟩ es), ty⟩ (ctr + 1) := by
  have F := thrFacts hT
  refine arrInv_of_shape ?_ ?_ trivial ?_ ?_ ?_
  · rw [shape_zero]
    exact ⟨rfl, rfl, hes, rfl, rfl⟩
  · simp only [hdr_zero, rootSlab, F.maxE]; have := F.lo; omega
  · simp [LeafChain, rootSlab]
  · simp [IdsOk, rootSlab]
  · simpa [rootSlab] using hlen

/-- a single root data slab under the next identifier: what the empty array and the fast path of
    `ByteSliceToByteArray` build -/
theorem rootSlab_built (hT : legalThreshold T = true) (addr ctr ty : Nat) (es : List Elem)
    (hes : ∀ e ∈ es, ElemOk T e) (hfit : sumSizes es + arrayRootDataSlabPrefixSize < T)
    (hlen : es.length < maxArrayElementCount + 1) :
    BuiltOk T addr ctr ⟨0, ofData (rootSlab ⟨addr, ctr + 1⟩ es), ty⟩ (ctr + 1) :=
  ⟨rootSlab_inv hT addr ctr ty es hes hfit hlen, rfl, fun id hid => by
    simp only [slabIds, rootSlab, ofData, List.mem_singleton] at hid
    rw [hid]; simp⟩

/-- `ByteSliceToByteArray` (empty slice, fast path, bulk-build fallback; every estimate) succeeds
    with a valid array of freshly allocated slabs whose elements are the bytes, in order. -/
theorem byteSliceToByteArray_built (hT : legalThreshold T = true) (addr ty est : Nat) (bsize : Nat → Nat)
    (bs : List Nat) (hb : ∀ b ∈ bs, 1 ≤ bsize b ∧ bsize b ≤ maxInlineArr T)
    (hlen : bs.length < maxArrayElementCount + 1) (c : Ctx) :
    ∃ a c', byteSliceToByteArray T addr ty bsize bs est c = .ok (a, c') ∧ BuiltOk T addr c.ctr a c'.ctr ∧
      a.toList = bs.map (byteElem bsize) ∧ a.ty = ty := by
  have hok : ∀ e ∈ bs.map (byteElem bsize), ElemOk T e := by
    intro e he
    obtain ⟨b, hbm, hbe⟩ := List.mem_map.1 he
    rw [← hbe]; exact hb b hbm
  unfold byteSliceToByteArray
  by_cases hemp : bs.isEmpty = true
  · have : bs = [] := by simpa using hemp
    subst this
    simp only [List.isEmpty_nil, if_true]
    have F := thrFacts hT
    exact ⟨_, _, rfl, rootSlab_built hT addr c.ctr ty [] (by simp)
      (by simp [sumSizes_nil, F.rpfx]; have := F.lo; omega) (by simp [maxArrayElementCount]), rfl, rfl⟩
  · simp only [hemp, Bool.false_eq_true, if_false]
    generalize (if est = 0 then byteStorableCBORTagSize + byteStorableCBORDataSize else est) * bs.length = estimated
    by_cases hfast : (decide (estimated + arrayRootDataSlabPrefixSize < T) &&
        decide (sumSizes (bs.map (byteElem bsize)) + arrayRootDataSlabPrefixSize < T)) = true
    · rw [if_pos hfast]
      simp only [Bool.and_eq_true, decide_eq_true_eq] at hfast
      exact ⟨_, _, rfl, rootSlab_built hT addr c.ctr ty _ hok hfast.2 (by simpa using hlen), rfl, rfl⟩
    · rw [if_neg hfast]
      have hSt : ToStOk T (ElemOk T) (fun v c => (v, c)) := ⟨fun v c hv => hv, fun v c => Nat.le_refl _⟩
      obtain ⟨a, c', heq, hbo, hto, hty, _⟩ := newWith_inv hT addr ty (ElemOk T) (fun v c => (v, c)) hSt
        (bs.map (byteElem bsize)) hok (by simpa using hlen) c
      exact ⟨a, c', heq, hbo, by rw [hto]; exact zipWith_fst_eq _ _ (by rw [fillCtxs_length]), hty⟩

/-- C17 (`bytes_roundtrip`): for every legal threshold, every byte list and every estimate,
    `ByteSliceToByteArray` succeeds with a valid array whose elements are the bytes (in order),
    and `ByteArrayToByteSlice` of that array is the original byte list. -/
theorem bytes_roundtrip_full (hT : legalThreshold T = true) (addr ty est : Nat) (bsize : Nat → Nat)
    (isT : Elem → Bool) (hisT : ∀ b, isT (byteElem bsize b) = true)
    (bs : List Nat) (hb : ∀ b ∈ bs, 1 ≤ bsize b ∧ bsize b ≤ maxInlineArr T)
    (hlen : bs.length < maxArrayElementCount + 1) (c : Ctx) :
    ∃ a c', byteSliceToByteArray T addr ty bsize bs est c = .ok (a, c') ∧ ArrInv T a c'.ctr ∧
      a.toList = bs.map (byteElem bsize) ∧ a.ty = ty ∧ byteArrayToByteSlice isT a = .ok bs := by
  obtain ⟨a, c', heq, hbo, hto, hty⟩ := byteSliceToByteArray_built hT addr ty est bsize bs hb hlen c
  refine ⟨a, c', heq, hbo.inv, hto, hty, ?_⟩
  rw [byteArrayToByteSlice_spec isT a c'.ctr hbo.inv, hto, map_payNat_byteElem]
  intro e he
  rw [hto] at he
  obtain ⟨b, _, hbe⟩ := List.mem_map.1 he
  exact ⟨⟨b, by rw [← hbe]; rfl⟩, by rw [← hbe]; exact hisT b⟩

theorem byteSliceToByteArray_ids_fresh (hT : legalThreshold T = true) (addr ty est : Nat) (bsize : Nat → Nat)
    (bs : List Nat) (hb : ∀ b ∈ bs, 1 ≤ bsize b ∧ bsize b ≤ maxInlineArr T)
    (hlen : bs.length < maxArrayElementCount + 1) (c : Ctx) (a : Arr) (c' : Ctx)
    (h : byteSliceToByteArray T addr ty bsize bs est c = .ok (a, c')) :
    ∀ id ∈ slabIds a.d a.root, id.addr = addr ∧ c.ctr < id.idx ∧ id.idx ≤ c'.ctr := by
  obtain ⟨a1, c1, heq, hbo, _⟩ := byteSliceToByteArray_built hT addr ty est bsize bs hb hlen c
  obtain ⟨rfl, rfl⟩ : a1 = a ∧ c1 = c' := Prod.mk.inj (Except.ok.inj (heq.symm.trans h))
  exact hbo.fresh

end Atree

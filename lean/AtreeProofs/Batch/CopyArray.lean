import AtreeModel.Array.Batch
import AtreeProofs.ArrayInv
import AtreeProofs.Array.TreeDefs
/-
  C17, copy of arrays: `CanCopyNonRefSimple` / `CopyNonRefSimple`; `Elem.isPlain` (a plain, non-reference
  storable), which the byte conversion also speaks of.
-/
namespace Atree
open Gen ATree

/-- a plain (non-reference) storable -/
def Elem.isPlain (e : Elem) : Prop := ∃ n, e.pay = .val n

theorem Elem.canCopy_iff (e : Elem) : e.canCopy = true ↔ e.isPlain := by
  unfold Elem.canCopy Elem.isPlain
  cases e.pay <;> simp

theorem Elem.copy_ok_iff (e : Elem) : (∃ e', e.copyNonRefSimple = .ok e') ↔ e.isPlain := by
  unfold Elem.copyNonRefSimple Elem.isPlain
  cases e.pay <;> simp

theorem Elem.copy_eq {e e' : Elem} (h : e.copyNonRefSimple = .ok e') : e' = e := by
  unfold Elem.copyNonRefSimple at h
  cases hp : e.pay <;> rw [hp] at h <;> simp at h
  exact h.symm

theorem Elem.copy_plain {e : Elem} (h : e.isPlain) : e.copyNonRefSimple = .ok e := by
  obtain ⟨n, hn⟩ := h
  simp only [Elem.copyNonRefSimple, hn]

/-- the root of a single-slab array -/
def Arr.singleData (a : Arr) : Option DataSlab :=
  match a with
  | ⟨0, (s : DataSlab), _⟩ => some s
  | ⟨_ + 1, _, _⟩ => none

theorem DataSlab.canCopy_iff (s : DataSlab) :
    s.canCopyWithoutSlabID = true ↔ s.next = SlabID.undef ∧ ∀ e ∈ s.elems, e.isPlain := by
  unfold DataSlab.canCopyWithoutSlabID
  by_cases h : s.next = SlabID.undef
  · simp [h, List.all_eq_true, Elem.canCopy_iff]
  · simp [h]

theorem Arr.singleData_zero (s : DataSlab) (ty : Nat) : Arr.singleData ⟨0, ofData s, ty⟩ = some s := rfl
theorem Arr.canCopy_zero (s : DataSlab) (ty : Nat) :
    Arr.canCopyNonRefSimple ⟨0, ofData s, ty⟩ = s.canCopyWithoutSlabID := rfl
theorem Arr.copy_zero (s : DataSlab) (ty addr : Nat) (c : Ctx) :
    Arr.copyNonRefSimple ⟨0, ofData s, ty⟩ addr c =
      (match s.copyWithNewSlabID (c.alloc addr).1 with
       | .error e => .error (e, (c.alloc addr).2)
       | .ok s' => .ok (⟨0, ofData s', ty⟩, (c.alloc addr).2.emit (.store (c.alloc addr).1))) := rfl

/-- C17: the copy of an array is offered exactly when the array is a single data slab without a
    right sibling whose elements are all plain values. -/
theorem Arr.canCopy_iff (a : Arr) :
    a.canCopyNonRefSimple = true ↔
      ∃ s, a.singleData = some s ∧ s.next = SlabID.undef ∧ ∀ e ∈ s.elems, e.isPlain := by
  obtain ⟨d, root, ty⟩ := a
  cases d with
  | zero =>
    refine forall_ofData ?_ root; intro s
    rw [Arr.canCopy_zero, Arr.singleData_zero, DataSlab.canCopy_iff]
    constructor
    · intro h; exact ⟨s, rfl, h⟩
    · rintro ⟨s', hs, h⟩
      have : s = s' := by simpa using hs
      subst this; exact h
  | succ d =>
    constructor
    · intro h; exact absurd h (by simp [Arr.canCopyNonRefSimple])
    · rintro ⟨s, hs, _⟩; simp [Arr.singleData] at hs

/-- the copy of data slab `s` with the fresh ID `id` -/
def DataSlab.copyOf (s : DataSlab) (id : SlabID) : DataSlab :=
  { hdr := { id := id, count := s.hdr.count,
             size := if s.inlined then
                       s.hdr.size - inlinedArrayDataSlabPrefixSize + arrayRootDataSlabPrefixSize
                     else s.hdr.size },
    next := SlabID.undef, elems := s.elems, root := s.root, inlined := false }

theorem DataSlab.copy_eq (s s' : DataSlab) (id : SlabID) (h : s.copyWithNewSlabID id = .ok s') :
    s' = s.copyOf id ∧ s.next = SlabID.undef ∧ ∀ e ∈ s.elems, e.isPlain := by
  unfold DataSlab.copyWithNewSlabID at h
  by_cases hn : s.next = SlabID.undef
  · simp only [hn, ne_eq, not_true_eq_false, if_false] at h
    cases hm : s.elems.mapM Elem.copyNonRefSimple with
    | error x => rw [hm] at h; simp at h
    | ok es =>
      rw [hm] at h
      obtain ⟨he, hp⟩ := mapM_except_self _ _ _ hm (fun _ _ _ hy => Elem.copy_eq hy)
      subst he
      simp only [Except.ok.injEq] at h
      exact ⟨h.symm, hn, fun e he => (Elem.copy_ok_iff e).1 ⟨e, hp e he⟩⟩
  · simp [hn] at h

theorem DataSlab.copy_ok (s : DataSlab) (id : SlabID) (hn : s.next = SlabID.undef)
    (hp : ∀ e ∈ s.elems, e.isPlain) : s.copyWithNewSlabID id = .ok (s.copyOf id) := by
  unfold DataSlab.copyWithNewSlabID
  simp only [hn, ne_eq, not_true_eq_false, if_false, mapM_except_ok _ _ fun e he => Elem.copy_plain (hp e he)]
  rfl

theorem Arr.copy_ok_shape (a : Arr) (addr : Nat) (c : Ctx) (a' : Arr) (c' : Ctx)
    (h : a.copyNonRefSimple addr c = .ok (a', c')) :
    ∃ s, a.singleData = some s ∧ s.next = SlabID.undef ∧ (∀ e ∈ s.elems, e.isPlain) ∧
      a' = ⟨0, ofData (s.copyOf ⟨addr, c.ctr + 1⟩), a.ty⟩ ∧
      c'.ctr = c.ctr + 1 ∧
      c'.eff = c.eff ++ [.alloc addr ⟨addr, c.ctr + 1⟩, .store ⟨addr, c.ctr + 1⟩] ∧
      c'.created = c.created := by
  obtain ⟨d, root, ty⟩ := a
  cases d with
  | succ d => simp [Arr.copyNonRefSimple] at h
  | zero =>
    revert h
    refine forall_ofData ?_ root; intro s h
    rw [Arr.copy_zero] at h
    cases hc : s.copyWithNewSlabID (c.alloc addr).1 with
    | error x => rw [hc] at h; simp at h
    | ok s1 =>
      rw [hc] at h
      obtain ⟨h1, h2, h3⟩ := DataSlab.copy_eq _ _ _ hc
      simp only [Except.ok.injEq, Prod.mk.injEq] at h
      obtain ⟨e1, e2⟩ := h
      refine ⟨s, rfl, h2, h3, ?_, ?_, ?_, ?_⟩
      · rw [← e1, h1]; rfl
      · rw [← e2]; rfl
      · rw [← e2]; simp [Ctx.emit, Ctx.alloc]
      · rw [← e2]; rfl

/-- C17: an offered copy succeeds — and a copy succeeds only when it is offered. -/
theorem Arr.copy_ok_iff (a : Arr) (addr : Nat) (c : Ctx) :
    (∃ a' c', a.copyNonRefSimple addr c = .ok (a', c')) ↔ a.canCopyNonRefSimple = true := by
  constructor
  · rintro ⟨a', c', h⟩
    obtain ⟨s, h1, h2, h3, _⟩ := Arr.copy_ok_shape a addr c a' c' h
    exact (Arr.canCopy_iff a).2 ⟨s, h1, h2, h3⟩
  · intro h
    obtain ⟨s, h1, h2, h3⟩ := (Arr.canCopy_iff a).1 h
    obtain ⟨d, root, ty⟩ := a
    cases d with
    | succ d => simp [Arr.singleData] at h1
    | zero =>
      revert h h1
      refine forall_ofData ?_ root; intro s0 _ h1
      have : s0 = s := by simpa [Arr.singleData_zero] using h1
      subst this
      rw [Arr.copy_zero, DataSlab.copy_ok _ _ h2 h3]
      exact ⟨_, _, rfl⟩

/-- C17: the copy has the content, type and count of the source, is standalone, and its only slab
    is the one allocated during the call. -/
theorem Arr.copy_content (a : Arr) (addr : Nat) (c : Ctx) (a' : Arr) (c' : Ctx)
    (h : a.copyNonRefSimple addr c = .ok (a', c')) :
    a'.toList = a.toList ∧ a'.ty = a.ty ∧ a'.count = a.count ∧ a'.isInlined = false ∧
      slabIds a'.d a'.root = [⟨addr, c.ctr + 1⟩] ∧ Arr.leaves a'.d a'.root ≠ [] := by
  obtain ⟨s, h1, _, _, h4, _⟩ := Arr.copy_ok_shape a addr c a' c' h
  obtain ⟨d, root, ty⟩ := a
  cases d with
  | succ d => simp [Arr.singleData] at h1
  | zero =>
    revert h1 h4
    refine forall_ofData ?_ root; intro s0 h1 h4
    have : s0 = s := by simpa [Arr.singleData_zero] using h1
    subst this h4
    exact ⟨rfl, rfl, rfl, rfl, rfl, by simp⟩

/-- C17: the size of the copy is re-based to the root prefix — also when the source is inlined. -/
theorem Arr.copy_size_rebased (a : Arr) (addr : Nat) (c : Ctx) (a' : Arr) (c' : Ctx)
    (h : a.copyNonRefSimple addr c = .ok (a', c')) (s : DataSlab) (hs : a.singleData = some s)
    (hsz : s.hdr.size = s.prefixSize + sumSizes s.elems) (hroot : s.root = true) :
    a'.rootHdr.size = arrayRootDataSlabPrefixSize + sumSizes a'.toList := by
  obtain ⟨s1, h1, _, _, h4, _⟩ := Arr.copy_ok_shape a addr c a' c' h
  rw [hs] at h1
  have : s = s1 := by simpa using h1
  subst this h4
  show (DataSlab.copyOf s _).hdr.size = _ + sumSizes (DataSlab.copyOf s _).elems
  simp only [DataSlab.copyOf]
  rw [hsz]
  unfold DataSlab.prefixSize
  cases hi : s.inlined
  · simp [hroot]
  · simp only [if_true]
    simp only [inlinedArrayDataSlabPrefixSize, arrayRootDataSlabPrefixSize]
    omega

/-- C17 (`copy_inv`): the copy of a valid root data slab — standalone or inlined — is a valid
    standalone array, relative to the allocation counter after the call. -/
theorem Arr.copy_inv (T : Nat) (a : Arr) (addr : Nat) (c : Ctx) (a' : Arr) (c' : Ctx)
    (h : a.copyNonRefSimple addr c = .ok (a', c')) (s : DataSlab) (hs : a.singleData = some s)
    (hinv : DataInv T true s) (hcnt : s.hdr.count < maxArrayElementCount + 1) :
    ArrInv T a' c'.ctr := by
  obtain ⟨s1, h1, _, _, h4, h5, _⟩ := Arr.copy_ok_shape a addr c a' c' h
  rw [hs] at h1
  have : s = s1 := by simpa using h1
  subst this h4
  have hsz := hinv.size_eq
  refine ⟨?_, ?_, ?_, rfl, hcnt⟩
  · show DataInv T true (s.copyOf _)
    refine ⟨hinv.count_eq, ?_, hinv.elems_ok, hinv.root_eq, by simp [DataSlab.copyOf], ?_, by simp⟩
    · simp only [DataSlab.copyOf, DataSlab.prefixSize, Bool.false_eq_true, if_false, hinv.root_eq, if_true]
      rw [hsz]
      unfold DataSlab.prefixSize
      cases hi : s.inlined
      · simp [hinv.root_eq]
      · simp only [if_true, inlinedArrayDataSlabPrefixSize, arrayRootDataSlabPrefixSize]; omega
    · have := hinv.le_max
      simp only [DataSlab.copyOf]
      cases hi : s.inlined
      · simpa using this
      · simp only [if_true]
        rw [hsz] at this ⊢
        unfold DataSlab.prefixSize at this ⊢
        simp only [hi, if_true, inlinedArrayDataSlabPrefixSize, arrayRootDataSlabPrefixSize] at this ⊢
        omega
  · show LeafChain [s.copyOf _]
    simp [LeafChain, DataSlab.copyOf]
  · show IdsOk _ _ [(s.copyOf _).hdr.id]
    simp only [DataSlab.copyOf, IdsOk, List.nodup_cons, List.not_mem_nil, not_false_eq_true,
      List.nodup_nil, and_self, List.mem_singleton, forall_eq, true_and]
    refine ⟨rfl, by simp, by omega⟩

/-- C17 (`result_ids_fresh`, copy): source and copy share no slab — every slab ID of the copy was
    allocated during the call, hence differs from every ID the source uses, provided the source's
    IDs at the target address were allocated before the call. -/
theorem Arr.copy_ids_fresh (a : Arr) (addr : Nat) (c : Ctx) (a' : Arr) (c' : Ctx)
    (h : a.copyNonRefSimple addr c = .ok (a', c'))
    (hold : ∀ id ∈ slabIds a.d a.root, id.addr = addr → id.idx ≤ c.ctr) :
    (∀ id ∈ slabIds a'.d a'.root, id.addr = addr ∧ c.ctr < id.idx ∧ id.idx ≤ c'.ctr) ∧
    (∀ id ∈ slabIds a'.d a'.root, id ∉ slabIds a.d a.root) := by
  obtain ⟨_, _, _, _, hids, _⟩ := Arr.copy_content a addr c a' c' h
  obtain ⟨_, _, _, _, _, hc, _⟩ := Arr.copy_ok_shape a addr c a' c' h
  rw [hids]
  constructor
  · intro id hid
    simp only [List.mem_singleton] at hid
    subst hid
    exact ⟨rfl, by simp, by simp [hc]⟩
  · intro id hid hmem
    simp only [List.mem_singleton] at hid
    subst hid
    have := hold _ hmem rfl
    simp only at this
    omega

end Atree

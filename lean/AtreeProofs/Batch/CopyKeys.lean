import AtreeModel.Map.CopyKeys
import AtreeProofs.Batch.CopyMap
/-
  The key conjunct of `singleElement.canCopyNonRefSimple` is implied by the key limit.
-/
namespace Atree
open Gen

theorem MElems.canCopyK_eq (T : Nat) : ∀ (r : Nat) (e : MElems r),
    (∀ p ∈ (MElems.ops r).toList e, p.1.size ≤ maxInlineMapKey T) →
    MElems.canCopyK T r e = MElems.canCopy r e
  | 0, e => by
    intro h
    show (e : SingleElems).elems.all (SElem.canCopyK T) = (e : SingleElems).elems.all SElem.canCopy
    apply all_congr_mem
    intro x hx
    have := h (x.key, x.val) (by
      show (x.key, x.val) ∈ (e : SingleElems).elems.map (fun x => (x.key, x.val))
      exact List.mem_map.2 ⟨x, hx, rfl⟩)
    simp [SElem.canCopyK, SElem.canCopy, MKey.storedInline, this]
  | r + 1, e => by
    intro h
    have ih := MElems.canCopyK_eq T r
    show (e : HkeyElems (MElems r)).elems.all _ = (e : HkeyElems (MElems r)).elems.all _
    apply all_congr_mem
    intro el hel
    have hsub : ∀ p ∈ el.toList (MElems.ops r), p.1.size ≤ maxInlineMapKey T := by
      intro p hp
      apply h p
      show p ∈ (e : HkeyElems (MElems r)).elems.flatMap (fun el => el.toList (MElems.ops r))
      exact List.mem_flatMap.2 ⟨el, hel, hp⟩
    cases el with
    | single x =>
      have := hsub (x.key, x.val) (by simp [MElemF.toList])
      simp [SElem.canCopyK, SElem.canCopy, MKey.storedInline, this]
    | inl g => exact ih g hsub
    | ext _ _ _ => rfl

/-- for a map whose keys are within the key limit the Go conjunction and the value-only
    predicate agree -/
theorem OMap.canCopyK_eq {r : Nat} (T : Nat) (m : OMap r)
    (hk : ∀ p ∈ m.toList, p.1.size ≤ maxInlineMapKey T) :
    m.canCopyNonRefSimpleK T = m.canCopyNonRefSimple := by
  obtain ⟨d, root, ty, cnt, seed⟩ := m
  cases d with
  | succ d => rfl
  | zero =>
    show ((root : MDataSlab r).next == SlabID.undef && MElems.canCopyK T (r + 1) (root : MDataSlab r).elems) =
      ((root : MDataSlab r).next == SlabID.undef && MElems.canCopy (r + 1) (root : MDataSlab r).elems)
    rw [MElems.canCopyK_eq T (r + 1) _ hk]

end Atree

import AtreeModel.Map.Batch
import AtreeProofs.MapInv
import AtreeProofs.Batch.CopyArray
import AtreeProofs.AListLemmas
/-
  C17, copy of maps: `CanCopyNonRefSimple` / `CopyNonRefSimple`; `ofMData` (a map data slab seen as a
  tree of depth 0), which the bulk-build files use.
-/
namespace Atree
open Gen MTree

theorem SElem.canCopy_iff (x : SElem) : x.canCopy = true ↔ x.val.isPlain := Elem.canCopy_iff _

theorem SElem.copy_eq {x x' : SElem} (h : x.copyNonRefSimple = .ok x') : x' = x ∧ x.val.isPlain := by
  unfold SElem.copyNonRefSimple at h
  cases h1 : x.val.copyNonRefSimple with
  | error e => rw [h1] at h; simp at h
  | ok v =>
    rw [h1] at h
    have hv := Elem.copy_eq h1
    subst hv
    simp only [Except.ok.injEq] at h
    exact ⟨h.symm, (Elem.copy_ok_iff _).1 ⟨_, h1⟩⟩

theorem SElem.copy_ok {x : SElem} (h : x.val.isPlain) : x.copyNonRefSimple = .ok x := by
  obtain ⟨n, hn⟩ := h
  simp [SElem.copyNonRefSimple, Elem.copyNonRefSimple, hn]

/-- Every key and value of the elements — through inline collision groups at every level — is a
    plain (non-reference) storable, and there is no external collision group (which is a slab
    reference).  (A model key is always a plain value.) -/
def MElems.plain : (r : Nat) → MElems r → Prop
  | 0, (se : SingleElems) => ∀ x ∈ se.elems, x.val.isPlain
  | r + 1, (he : HkeyElems (MElems r)) =>
    ∀ el ∈ he.elems,
      match el with
      | .single x => x.val.isPlain
      | .inl g => MElems.plain r g
      | .ext _ _ _ => False

def MElems.noExt : (r : Nat) → MElems r → Prop
  | 0, _ => True
  | r + 1, (he : HkeyElems (MElems r)) =>
    ∀ el ∈ he.elems,
      match el with
      | .single _ => True
      | .inl g => MElems.noExt r g
      | .ext _ _ _ => False

theorem MElems.plain_iff : ∀ (r : Nat) (e : MElems r),
    MElems.plain r e ↔ (MElems.noExt r e ∧ ∀ p ∈ (MElems.ops r).toList e, p.2.isPlain)
  | 0, e => by
    show (∀ x ∈ (e : SingleElems).elems, x.val.isPlain) ↔
      (True ∧ ∀ p ∈ (e : SingleElems).elems.map (fun x => (x.key, x.val)), p.2.isPlain)
    simp only [true_and, List.mem_map, forall_exists_index, and_imp]
    constructor
    · rintro h p x hx rfl; exact h x hx
    · intro h x hx; exact h _ x hx rfl
  | r + 1, e => by
    have ih := MElems.plain_iff r
    show (∀ el ∈ (e : HkeyElems (MElems r)).elems, _) ↔
      ((∀ el ∈ (e : HkeyElems (MElems r)).elems, _) ∧
        ∀ p ∈ (e : HkeyElems (MElems r)).elems.flatMap (fun el => el.toList (MElems.ops r)), p.2.isPlain)
    simp only [List.mem_flatMap, forall_exists_index, and_imp]
    constructor
    · intro h
      refine ⟨fun el hel => ?_, fun p el hel hp => ?_⟩
      · have := h el hel
        cases el with
        | single x => trivial
        | inl g => exact ((ih g).1 this).1
        | ext _ _ _ => exact this
      · have := h el hel
        cases el with
        | single x =>
          simp only [MElemF.toList, List.mem_singleton] at hp
          subst hp; exact this
        | inl g => exact ((ih g).1 this).2 p hp
        | ext _ _ _ => exact this.elim
    · rintro ⟨h1, h2⟩ el hel
      have a := h1 el hel
      have b := fun p => h2 p el hel
      cases el with
      | single x => exact b (x.key, x.val) (by simp [MElemF.toList])
      | inl g => exact (ih g).2 ⟨a, fun p hp => b p hp⟩
      | ext _ _ _ => exact a

theorem MElems.canCopy_iff : ∀ (r : Nat) (e : MElems r), MElems.canCopy r e = true ↔ MElems.plain r e
  | 0, e => by
    show (e : SingleElems).elems.all SElem.canCopy = true ↔ ∀ x ∈ (e : SingleElems).elems, x.val.isPlain
    simp [List.all_eq_true, SElem.canCopy_iff]
  | r + 1, e => by
    have ih := MElems.canCopy_iff r
    show (e : HkeyElems (MElems r)).elems.all _ = true ↔ ∀ el ∈ (e : HkeyElems (MElems r)).elems, _
    simp only [List.all_eq_true]
    constructor
    · intro h el hel
      have := h el hel
      cases el with
      | single x => exact (SElem.canCopy_iff x).1 this
      | inl g => exact (ih g).1 this
      | ext _ _ _ => simp at this
    · intro h el hel
      have := h el hel
      cases el with
      | single x => exact (SElem.canCopy_iff x).2 this
      | inl g => exact (ih g).2 this
      | ext _ _ _ => exact this.elim

/-- a successful copy of elements is the same elements, and they were plain -/
theorem MElems.copy_eq : ∀ (r : Nat) (e e' : MElems r),
    MElems.copyNonRefSimple r e = .ok e' → e' = e ∧ MElems.plain r e
  | 0, e, e' => by
    intro h
    have h : (match (e : SingleElems).elems.mapM SElem.copyNonRefSimple with
      | .ok l => Except.ok ({ elems := l, size := (e : SingleElems).size, level := (e : SingleElems).level } : SingleElems)
      | .error x => .error x) = .ok e' := h
    cases hm : (e : SingleElems).elems.mapM SElem.copyNonRefSimple with
    | error x => rw [hm] at h; simp at h
    | ok l =>
      rw [hm] at h
      obtain ⟨hl, hall⟩ := mapM_except_self _ _ _ hm (fun x _ y hy => (SElem.copy_eq hy).1)
      subst hl
      refine ⟨(Except.ok.inj h).symm, ?_⟩
      show ∀ x ∈ (e : SingleElems).elems, x.val.isPlain
      intro x hx
      exact (SElem.copy_eq (hall x hx)).2
  | r + 1, e, e' => by
    intro h
    have ih := MElems.copy_eq r
    let f : MElemF (MElems r) → Except BErr (MElemF (MElems r)) := fun el =>
      match el with
      | .single x => (SElem.copyNonRefSimple x).map MElemF.single
      | .inl g => (MElems.copyNonRefSimple r g).map MElemF.inl
      | .ext _ _ _ => .error .copyFailed
    have h : (match (e : HkeyElems (MElems r)).elems.mapM f with
      | .ok l => Except.ok ({ hkeys := (e : HkeyElems (MElems r)).hkeys, elems := l,
                              size := (e : HkeyElems (MElems r)).size,
                              level := (e : HkeyElems (MElems r)).level } : HkeyElems (MElems r))
      | .error x => .error x) = .ok e' := h
    have hf : ∀ el y, f el = .ok y → y = el ∧
        (match el with
          | .single x => x.val.isPlain
          | .inl g => MElems.plain r g
          | .ext _ _ _ => False) := by
      intro el y hy
      cases el with
      | single x =>
        simp only [f, Except.map] at hy
        cases hx : x.copyNonRefSimple with
        | error e => rw [hx] at hy; simp at hy
        | ok x' =>
          rw [hx] at hy
          simp only [Except.ok.injEq] at hy
          obtain ⟨a, b⟩ := SElem.copy_eq hx
          subst a; exact ⟨hy.symm, b⟩
      | inl g =>
        simp only [f, Except.map] at hy
        cases hx : MElems.copyNonRefSimple r g with
        | error e => rw [hx] at hy; simp at hy
        | ok g' =>
          rw [hx] at hy
          simp only [Except.ok.injEq] at hy
          obtain ⟨a, b⟩ := ih g g' hx
          subst a; exact ⟨hy.symm, b⟩
      | ext _ _ _ => simp [f] at hy
    cases hm : (e : HkeyElems (MElems r)).elems.mapM f with
    | error x => rw [hm] at h; simp at h
    | ok l =>
      rw [hm] at h
      obtain ⟨hl, hall⟩ := mapM_except_self _ _ _ hm (fun x _ y hy => (hf x y hy).1)
      subst hl
      refine ⟨(Except.ok.inj h).symm, ?_⟩
      show ∀ el ∈ (e : HkeyElems (MElems r)).elems, _
      intro el hel
      exact (hf el el (hall el hel)).2

theorem MElems.copy_ok : ∀ (r : Nat) (e : MElems r), MElems.plain r e →
    MElems.copyNonRefSimple r e = .ok e
  | 0, e => by
    intro hp
    show (match (e : SingleElems).elems.mapM SElem.copyNonRefSimple with
      | .ok l => Except.ok ({ elems := l, size := (e : SingleElems).size, level := (e : SingleElems).level } : SingleElems)
      | .error x => .error x) = .ok e
    rw [mapM_except_ok _ _ (fun x hx => SElem.copy_ok (hp x hx))]
    exact rfl
  | r + 1, e => by
    intro hp
    have ih := MElems.copy_ok r
    let f : MElemF (MElems r) → Except BErr (MElemF (MElems r)) := fun el =>
      match el with
      | .single x => (SElem.copyNonRefSimple x).map MElemF.single
      | .inl g => (MElems.copyNonRefSimple r g).map MElemF.inl
      | .ext _ _ _ => .error .copyFailed
    show (match (e : HkeyElems (MElems r)).elems.mapM f with
      | .ok l => Except.ok ({ hkeys := (e : HkeyElems (MElems r)).hkeys, elems := l,
                              size := (e : HkeyElems (MElems r)).size,
                              level := (e : HkeyElems (MElems r)).level } : HkeyElems (MElems r))
      | .error x => .error x) = .ok e
    have hp : ∀ el ∈ (e : HkeyElems (MElems r)).elems, _ := hp
    have hall : ∀ el ∈ (e : HkeyElems (MElems r)).elems, f el = .ok el := by
      intro el hel
      have := hp el hel
      cases el with
      | single x => simp only [f, SElem.copy_ok this, Except.map]
      | inl g => simp only [f, ih g this, Except.map]
      | ext _ _ _ => exact this.elim
    rw [mapM_except_ok _ _ hall]
    exact rfl

variable {r : Nat}

/-- a map data slab seen as a tree of depth 0 -/
def ofMData (s : MDataSlab r) : MTree r 0 := s

@[elab_as_elim]
theorem forall_ofMData {P : MTree r 0 → Prop} (h : ∀ s, P (ofMData s)) (t : MTree r 0) : P t := h t

/-- the root of a single-slab map -/
def OMap.singleData (m : OMap r) : Option (MDataSlab r) :=
  match m with
  | ⟨0, (s : MDataSlab r), _, _, _⟩ => some s
  | ⟨_ + 1, _, _, _, _⟩ => none

theorem OMap.singleData_zero (s : MDataSlab r) (ty count seed : Nat) :
    OMap.singleData ⟨0, ofMData s, ty, count, seed⟩ = some s := rfl
theorem OMap.canCopy_zero (s : MDataSlab r) (ty count seed : Nat) :
    OMap.canCopyNonRefSimple ⟨0, ofMData s, ty, count, seed⟩ = s.canCopyWithoutSlabID := rfl
theorem OMap.copy_zero (s : MDataSlab r) (ty count seed addr : Nat) (c : Ctx) :
    OMap.copyNonRefSimple ⟨0, ofMData s, ty, count, seed⟩ addr c =
      (match s.copyWithNewSlabID (c.alloc addr).1 with
       | .error e => .error (e, (c.alloc addr).2)
       | .ok s' => .ok (⟨0, ofMData s', ty, count, seed⟩, (c.alloc addr).2.emit (.store (c.alloc addr).1))) := rfl

theorem MDataSlab.canCopy_iff (s : MDataSlab r) :
    s.canCopyWithoutSlabID = true ↔ s.next = SlabID.undef ∧ MElems.plain (r + 1) s.elems := by
  unfold MDataSlab.canCopyWithoutSlabID
  have h := MElems.canCopy_iff (r + 1) s.elems
  rw [Bool.and_eq_true, beq_iff_eq]
  exact and_congr Iff.rfl h

/-- C17: the copy of a map is offered exactly when the map is a single data slab without a right
    sibling, all of whose keys and values — through inline collision groups — are plain values,
    with no external collision group. -/
theorem OMap.canCopy_iff (m : OMap r) :
    m.canCopyNonRefSimple = true ↔
      ∃ s, m.singleData = some s ∧ s.next = SlabID.undef ∧ MElems.plain (r + 1) s.elems := by
  obtain ⟨d, root, ty, count, seed⟩ := m
  cases d with
  | zero =>
    refine forall_ofMData ?_ root; intro s
    rw [OMap.canCopy_zero, OMap.singleData_zero, MDataSlab.canCopy_iff]
    constructor
    · intro h; exact ⟨s, rfl, h⟩
    · rintro ⟨s', hs, h⟩
      have : s = s' := by simpa using hs
      subst this; exact h
  | succ d =>
    constructor
    · intro h; exact absurd h (by simp [OMap.canCopyNonRefSimple])
    · rintro ⟨s, hs, _⟩; simp [OMap.singleData] at hs

/-- the copy of data slab `s` with the fresh ID `id` -/
def MDataSlab.copyOf (s : MDataSlab r) (id : SlabID) : MDataSlab r :=
  { hdr := { id := id, firstKey := s.hdr.firstKey,
             size := if s.inlined then
                       s.hdr.size - inlinedMapDataSlabPrefixSize + mapRootDataSlabPrefixSize
                     else s.hdr.size },
    next := SlabID.undef, elems := s.elems, root := s.root, inlined := false }

theorem MDataSlab.copy_eq (s s' : MDataSlab r) (id : SlabID) (h : s.copyWithNewSlabID id = .ok s') :
    s' = s.copyOf id ∧ s.next = SlabID.undef ∧ MElems.plain (r + 1) s.elems := by
  unfold MDataSlab.copyWithNewSlabID at h
  by_cases hn : s.next = SlabID.undef
  · simp only [hn, ne_eq, not_true_eq_false, if_false] at h
    cases hm : MElems.copyNonRefSimple (r + 1) s.elems with
    | error x => rw [hm] at h; simp at h
    | ok es =>
      rw [hm] at h
      obtain ⟨he, hp⟩ := MElems.copy_eq _ _ _ hm
      subst he
      exact ⟨(Except.ok.inj h).symm, hn, hp⟩
  · simp [hn] at h

theorem MDataSlab.copy_ok (s : MDataSlab r) (id : SlabID) (hn : s.next = SlabID.undef)
    (hp : MElems.plain (r + 1) s.elems) : s.copyWithNewSlabID id = .ok (s.copyOf id) := by
  unfold MDataSlab.copyWithNewSlabID
  simp only [hn, ne_eq, not_true_eq_false, if_false, MElems.copy_ok _ _ hp]
  rfl

theorem OMap.copy_ok_shape (m : OMap r) (addr : Nat) (c : Ctx) (m' : OMap r) (c' : Ctx)
    (h : m.copyNonRefSimple addr c = .ok (m', c')) :
    ∃ s, m.singleData = some s ∧ s.next = SlabID.undef ∧ MElems.plain (r + 1) s.elems ∧
      m' = ⟨0, ofMData (s.copyOf ⟨addr, c.ctr + 1⟩), m.ty, m.count, m.seed⟩ ∧
      c'.ctr = c.ctr + 1 ∧
      c'.eff = c.eff ++ [.alloc addr ⟨addr, c.ctr + 1⟩, .store ⟨addr, c.ctr + 1⟩] ∧
      c'.created = c.created := by
  obtain ⟨d, root, ty, count, seed⟩ := m
  cases d with
  | succ d => simp [OMap.copyNonRefSimple] at h
  | zero =>
    revert h
    refine forall_ofMData ?_ root; intro s h
    rw [OMap.copy_zero] at h
    cases hc : s.copyWithNewSlabID (c.alloc addr).1 with
    | error x => rw [hc] at h; simp at h
    | ok s1 =>
      rw [hc] at h
      obtain ⟨h1, h2, h3⟩ := MDataSlab.copy_eq _ _ _ hc
      simp only [Except.ok.injEq, Prod.mk.injEq] at h
      obtain ⟨e1, e2⟩ := h
      refine ⟨s, rfl, h2, h3, ?_, ?_, ?_, ?_⟩
      · rw [← e1, h1]; rfl
      · rw [← e2]; rfl
      · rw [← e2]; simp [Ctx.emit, Ctx.alloc]
      · rw [← e2]; rfl

/-- C17: an offered copy succeeds — and a copy succeeds only when it is offered. -/
theorem OMap.copy_ok_iff (m : OMap r) (addr : Nat) (c : Ctx) :
    (∃ m' c', m.copyNonRefSimple addr c = .ok (m', c')) ↔ m.canCopyNonRefSimple = true := by
  constructor
  · rintro ⟨m', c', h⟩
    obtain ⟨s, h1, h2, h3, _⟩ := OMap.copy_ok_shape m addr c m' c' h
    exact (OMap.canCopy_iff m).2 ⟨s, h1, h2, h3⟩
  · intro h
    obtain ⟨s, h1, h2, h3⟩ := (OMap.canCopy_iff m).1 h
    obtain ⟨d, root, ty, count, seed⟩ := m
    cases d with
    | succ d => simp [OMap.singleData] at h1
    | zero =>
      revert h h1
      refine forall_ofMData ?_ root; intro s0 _ h1
      have : s0 = s := by simpa [OMap.singleData_zero] using h1
      subst this
      rw [OMap.copy_zero, MDataSlab.copy_ok _ _ h2 h3]
      exact ⟨_, _, rfl⟩

/-- C17: the copy has the same pairs in the same order, and the type, count and seed of the
    source; it is standalone and its only slab is the one allocated during the call. -/
theorem OMap.copy_content (m : OMap r) (addr : Nat) (c : Ctx) (m' : OMap r) (c' : Ctx)
    (h : m.copyNonRefSimple addr c = .ok (m', c')) :
    m'.toList = m.toList ∧ m'.ty = m.ty ∧ m'.count = m.count ∧ m'.seed = m.seed ∧
      m'.isInlined = false ∧ m'.rootID = ⟨addr, c.ctr + 1⟩ ∧ m'.d = 0 := by
  obtain ⟨s, h1, _, _, h4, _⟩ := OMap.copy_ok_shape m addr c m' c' h
  obtain ⟨d, root, ty, count, seed⟩ := m
  cases d with
  | succ d => simp [OMap.singleData] at h1
  | zero =>
    revert h1 h4
    refine forall_ofMData ?_ root; intro s0 h1 h4
    have : s0 = s := by simpa [OMap.singleData_zero] using h1
    subst this h4
    exact ⟨rfl, rfl, rfl, rfl, rfl, rfl, rfl⟩

/-- C17: the size of the copy is re-based to the root prefix — also when the source is inlined. -/
theorem OMap.copy_size_rebased (m : OMap r) (addr : Nat) (c : Ctx) (m' : OMap r) (c' : Ctx)
    (h : m.copyNonRefSimple addr c = .ok (m', c')) (s : MDataSlab r) (hs : m.singleData = some s)
    (hsz : s.hdr.size = s.prefixSize + s.elems.size) (hroot : s.root = true) :
    ∃ s', m'.singleData = some s' ∧ s'.hdr.size = mapRootDataSlabPrefixSize + s'.elems.size ∧
      s'.elems = s.elems := by
  obtain ⟨s1, h1, _, _, h4, _⟩ := OMap.copy_ok_shape m addr c m' c' h
  rw [hs] at h1
  have : s = s1 := by simpa using h1
  subst this h4
  refine ⟨s.copyOf _, rfl, ?_, rfl⟩
  simp only [MDataSlab.copyOf]
  rw [hsz]
  unfold MDataSlab.prefixSize
  cases hi : s.inlined
  · simp [hroot]
  · simp only [if_true, inlinedMapDataSlabPrefixSize, mapRootDataSlabPrefixSize]
    omega

/-- C17 (`copy_inv`, maps): the copy of a valid root data slab — standalone or inlined — is a
    valid standalone map. -/
theorem OMap.copy_inv (T : Nat) (D : DigestFn (r + 1)) (m : OMap r) (addr : Nat) (c : Ctx)
    (m' : OMap r) (c' : Ctx) (h : m.copyNonRefSimple addr c = .ok (m', c'))
    (s : MDataSlab r) (hs : m.singleData = some s) (hinv : MDataInv T D true s)
    (hcount : m.count = m.toList.length) (hdist : KeysDistinct m.toList) :
    MapInv T D m' := by
  obtain ⟨s1, h1, _, _, h4, h5, _⟩ := OMap.copy_ok_shape m addr c m' c' h
  obtain ⟨hl, _, hc, _⟩ := OMap.copy_content m addr c m' c' h
  rw [hs] at h1
  have : s = s1 := by simpa using h1
  subst this
  have hsz := hinv.size_eq
  refine ⟨?_, ?_, by rw [hc, hl]; exact hcount, by rw [hl]; exact hdist, by subst h4; rfl⟩
  · subst h4
    show MDataInv T D true (s.copyOf _)
    refine ⟨hinv.elems_inv, ?_, hinv.first_eq, hinv.root_eq, by simp [MDataSlab.copyOf], ?_, by simp,
      by simp, hinv.elem_le⟩
    · simp only [MDataSlab.copyOf, MDataSlab.prefixSize, Bool.false_eq_true, if_false, hinv.root_eq, if_true]
      rw [hsz]
      unfold MDataSlab.prefixSize
      cases hi : s.inlined
      · simp [hinv.root_eq]
      · simp only [if_true, inlinedMapDataSlabPrefixSize, mapRootDataSlabPrefixSize]; omega
    · have := hinv.le_max
      simp only [MDataSlab.copyOf]
      cases hi : s.inlined
      · simpa using this
      · simp only [if_true]
        rw [hsz] at this ⊢
        unfold MDataSlab.prefixSize at this ⊢
        simp only [hi, if_true, inlinedMapDataSlabPrefixSize, mapRootDataSlabPrefixSize] at this ⊢
        omega
  · subst h4
    show MLeafChain [s.copyOf _]
    simp [MLeafChain, MDataSlab.copyOf]

/-- C17 (`result_ids_fresh`, map copy): the only slab of the copy has the ID allocated during the
    call (the copy has no external collision group, hence no other slab); it differs from every
    slab ID in use before the call. -/
theorem OMap.copy_ids_fresh (m : OMap r) (addr : Nat) (c : Ctx) (m' : OMap r) (c' : Ctx)
    (h : m.copyNonRefSimple addr c = .ok (m', c')) (used : List SlabID)
    (hold : ∀ id ∈ used, id.addr = addr → id.idx ≤ c.ctr) :
    m'.rootID.addr = addr ∧ c.ctr < m'.rootID.idx ∧ m'.rootID.idx ≤ c'.ctr ∧ m'.rootID ∉ used ∧
      ∃ s', m'.singleData = some s' ∧ MElems.noExt (r + 1) s'.elems := by
  obtain ⟨s, _, _, hp, h4, hc, _⟩ := OMap.copy_ok_shape m addr c m' c' h
  obtain ⟨_, _, _, _, _, hid, _⟩ := OMap.copy_content m addr c m' c' h
  rw [hid]
  refine ⟨rfl, by simp, by simp [hc], ?_, ?_⟩
  · intro hmem
    have := hold _ hmem rfl
    simp only at this
    omega
  · subst h4
    exact ⟨s.copyOf _, rfl, ((MElems.plain_iff _ _).1 hp).1⟩

end Atree

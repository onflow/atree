import AtreeProofs.Account.Owner
import AtreeProofs.ArrayInv
import Batteries.Data.List.Perm
/-
  C17, bulk builds — the identifier bookkeeping shared by the array and the map build.
  `FreshIds a c0 ctr ids`: the identifiers `ids` are pairwise different, belong to the owner
  address `a` and were allocated after the counter stood at `c0` and not after it stood at `ctr`.
-/
namespace Atree
open Gen

def FreshIds (a c0 ctr : Nat) (ids : List SlabID) : Prop :=
  c0 ≤ ctr ∧ ids.Nodup ∧ ∀ id ∈ ids, Fresh a c0 ctr id

namespace FreshIds
variable {a c0 ctr ctr' : Nat} {ids ids' : List SlabID}

theorem le (h : FreshIds a c0 ctr ids) : c0 ≤ ctr := h.1
theorem nodup (h : FreshIds a c0 ctr ids) : ids.Nodup := h.2.1
theorem fresh (h : FreshIds a c0 ctr ids) {id : SlabID} (hid : id ∈ ids) : Fresh a c0 ctr id := h.2.2 id hid

theorem nil (h : c0 ≤ ctr) : FreshIds a c0 ctr [] := ⟨h, List.nodup_nil, by simp⟩

theorem mono (h : FreshIds a c0 ctr ids) (hle : ctr ≤ ctr') : FreshIds a c0 ctr' ids :=
  ⟨Nat.le_trans h.le hle, h.nodup, fun id hid => (h.fresh hid).mono_right hle⟩

theorem subperm (h : FreshIds a c0 ctr ids) (hs : ids'.Subperm ids) : FreshIds a c0 ctr ids' := by
  obtain ⟨l, hp, hsub⟩ := hs
  refine ⟨h.le, hp.nodup_iff.mp (hsub.nodup h.nodup), ?_⟩
  intro id hid
  exact h.fresh (hsub.subset (hp.mem_iff.mpr hid))

theorem perm (h : FreshIds a c0 ctr ids) (hp : ids'.Perm ids) : FreshIds a c0 ctr ids' :=
  h.subperm hp.subperm

/-- a part of the identifiers shrinks, the identifiers `extra` carried along stay -/
theorem subperm_left {extra : List SlabID} (h : FreshIds a c0 ctr (ids ++ extra)) (hs : ids'.Subperm ids) :
    FreshIds a c0 ctr (ids' ++ extra) := by
  obtain ⟨l, hp, hsub⟩ := hs
  exact h.subperm ⟨l ++ extra, hp.append_right _, hsub.append (List.Sublist.refl _)⟩

/-- identifiers allocated later are different from all earlier ones -/
theorem append_new {news : List SlabID} (h : FreshIds a c0 ctr ids) (hn : FreshIds a ctr ctr' news) :
    FreshIds a c0 ctr' (news ++ ids) := by
  refine ⟨Nat.le_trans h.le hn.le, ?_, ?_⟩
  · rw [List.nodup_append]
    refine ⟨hn.nodup, h.nodup, ?_⟩
    intro x hx y hy hxy
    subst hxy
    have h1 := (hn.fresh hx).2.1
    have h2 := (h.fresh hy).2.2
    omega
  · intro id hid
    rcases List.mem_append.mp hid with h1 | h1
    · exact (hn.fresh h1).mono_left h.le
    · exact (h.fresh h1).mono_right hn.le

theorem single_next (a c : Nat) : FreshIds a c (c + 1) [⟨a, c + 1⟩] :=
  ⟨by omega, by simp, by intro id hid; simp only [List.mem_singleton] at hid; subst hid; exact fresh_next a c⟩

/-- `FreshIds` implies `IdsOk` (`ArrayInv.lean`: the identifier clause of `ArrInv` and the body of
    `MapIdsOk`) -/
theorem idsOk (h : FreshIds a c0 ctr ids) : IdsOk a ctr ids :=
  ⟨h.nodup, fun id hid => ⟨(h.fresh hid).1, by have := (h.fresh hid).2.1; omega, (h.fresh hid).2.2⟩⟩

theorem of_idsOk (h : IdsOk a ctr ids) (hlo : ∀ id ∈ ids, c0 < id.idx) (hle : c0 ≤ ctr) :
    FreshIds a c0 ctr ids :=
  ⟨hle, h.1, fun id hid => ⟨(h.2 id hid).1, hlo id hid, (h.2 id hid).2.2⟩⟩

theorem snoc_alloc (h : FreshIds a c0 ctr ids) : FreshIds a c0 (ctr + 1) (ids ++ [⟨a, ctr + 1⟩]) :=
  (h.append_new (single_next a ctr)).perm (List.perm_append_singleton _ _)

end FreshIds

end Atree

import AtreeProofs.Batch.MapFill
/-
  C17, bulk build of maps — theorems about the whole build under the map invariant's
  hypotheses (digests are a function of the key, keys fit the inline limit, values are plain).
-/
namespace Atree
open Gen MTree MBatch

variable {T r : Nat} {D : DigestFn (r + 1)}

/-- what a successful bulk build went through: the final state of the element loop, with its
    invariant, and the level loop on the data slabs it leaves -/
theorem fromBatchData_run (hT : legalThreshold T = true) {cfg : MCfg} (hc : CfgFor cfg T (r + 1))
    (ty seed : Nat) (kvs : List (MKey × Elem)) (hkv : ∀ p ∈ kvs, KeyOk T (r + 1) D p.1 ∧ ValueOkM p.2)
    (c : Ctx) (m : OMap r) (c' : Ctx) (h : OMap.fromBatchData cfg ty seed kvs c = .ok (m, c')) :
    seed ≠ 0 ∧ ∃ st cf, fillLoop cfg kvs
        (fillInit r (c.alloc cfg.addr).1)
        (c.alloc cfg.addr).2 = .ok (st, cf) ∧ MFillOk T r D cfg st kvs ∧
      MBatch.levels T cfg.addr ty st.count seed (fillSlabs st).length 0 (fillSlabs st) cf = .ok (m, c') := by
  obtain ⟨hseed, st, cf, hfill, hlev⟩ := (fromBatchData_ok_iff cfg ty seed kvs c m c').1 h
  have hok := (mfill_ok hT hc kvs hkv [] _ _ (mfill_init (D := D) hT cfg (c.alloc cfg.addr).1 rfl)).1 st cf hfill
  exact ⟨hseed, st, cf, hfill, by simpa using hok, hc.hT ▸ hlev⟩

/-- C17 (`batch_map_content` with collisions, `batch_rejects_duplicates`): if the build succeeds,
    the keys of the input are pairwise different, and the pairs of the map are — up to the order
    inside first-level collision groups, which follows the deeper digests — the input pairs with
    their values in stored form. -/
theorem fromBatchData_sound (hT : legalThreshold T = true) {cfg : MCfg} (hc : CfgFor cfg T (r + 1))
    (ty seed : Nat) (kvs : List (MKey × Elem)) (hkv : ∀ p ∈ kvs, KeyOk T (r + 1) D p.1 ∧ ValueOkM p.2)
    (c : Ctx) (m : OMap r) (c' : Ctx) (h : OMap.fromBatchData cfg ty seed kvs c = .ok (m, c')) :
    KeysDistinct kvs ∧
    (∃ cs : List Ctx, cs.length = kvs.length ∧
      m.toList.Perm (List.zipWith (fun p c => (p.1, storedValue cfg p.1 p.2 c)) kvs cs)) ∧
    KeysDistinct m.toList := by
  obtain ⟨_, st, cf, _, hok, hlev⟩ := fromBatchData_run hT hc ty seed kvs hkv c m c' h
  have hto : m.toList = fillPairs st := by rw [(mlevels_content _ _ _ _ _ _ _ _ _ _ _ hlev).1, fillSlabs_toList]
  refine ⟨hok.distinct, ?_, ?_⟩
  · rw [hto]; exact hok.perm
  · rw [hto]
    -- distinct keys: the pairs are a permutation of distinct-keyed pairs
    obtain ⟨cs, hcs, hperm⟩ := hok.perm
    have hd : KeysDistinct (List.zipWith (fun p c => (p.1, storedValue cfg p.1 p.2 c)) kvs cs) := by
      have hgen : ∀ (l : List (MKey × Elem)) (cs : List Ctx), cs.length = l.length → KeysDistinct l →
          KeysDistinct (List.zipWith (fun p c => (p.1, storedValue cfg p.1 p.2 c)) l cs) := by
        intro l
        induction l with
        | nil => intro cs _ _; simp [KeysDistinct]
        | cons p l ih =>
          intro cs hl hdl
          cases cs with
          | nil => simp at hl
          | cons c0 cs =>
            rw [KeysDistinct.cons_iff] at hdl
            simp only [List.zipWith_cons_cons]
            rw [KeysDistinct.cons_iff]
            refine ⟨?_, ih cs (by simpa using hl) hdl.2⟩
            intro b hb
            obtain ⟨a, ha, b', hab⟩ := mem_zipWith_left _ _ _ _ hb
            rw [hab]
            exact hdl.1 a ha
      exact hgen kvs cs hcs hok.distinct
    unfold KeysDistinct at hd ⊢
    exact hperm.symm.pairwise hd (fun {a b} hab => by rw [MKey.same_comm]; exact hab)

/-- C17 (`batch_rejects_duplicates`): a stream in which a key occurs twice is rejected. -/
theorem fromBatchData_rejects_duplicates (hT : legalThreshold T = true) {cfg : MCfg}
    (hc : CfgFor cfg T (r + 1)) (ty seed : Nat) (kvs : List (MKey × Elem))
    (hkv : ∀ p ∈ kvs, KeyOk T (r + 1) D p.1 ∧ ValueOkM p.2) (c : Ctx) (hdup : ¬ KeysDistinct kvs) :
    ∃ e c', (OMap.fromBatchData cfg ty seed kvs c : BRes (OMap r × Ctx)) = .error (e, c') := by
  cases h : (OMap.fromBatchData cfg ty seed kvs c : BRes (OMap r × Ctx)) with
  | error e => exact ⟨e.1, e.2, rfl⟩
  | ok res =>
    obtain ⟨m, c'⟩ := res
    exact absurd (fromBatchData_sound hT hc ty seed kvs hkv c m c' h).1 hdup

/-- The element loop accepts every stream that is sorted by first-level digest and free of
    duplicate keys (no spurious rejection). -/
theorem fillLoop_complete (hT : legalThreshold T = true) {cfg : MCfg} (hc : CfgFor cfg T (r + 1))
    (kvs : List (MKey × Elem)) (hkv : ∀ p ∈ kvs, KeyOk T (r + 1) D p.1 ∧ ValueOkM p.2)
    (hs : (kvs.map (fun p => p.1.dig 0)).Pairwise (· ≤ ·)) (hd : KeysDistinct kvs) (id : SlabID)
    (hid : id.addr = cfg.addr) (c : Ctx) :
    ∃ st c', fillLoop cfg kvs
        (fillInit r id) c = .ok (st, c') ∧
      MFillOk T r D cfg st kvs := by
  have hinit := mfill_init (D := D) hT cfg id hid
  obtain ⟨hA, hB⟩ := mfill_ok hT hc kvs hkv [] _ c hinit
  obtain ⟨st, c', heq⟩ := hB hs (by intro p _; simp) (by simpa using hd)
  exact ⟨st, c', heq, by simpa using hA st c' heq⟩

end Atree

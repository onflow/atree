import AtreeModel.Map.Batch
import AtreeProofs.Batch.CopyMap
import AtreeProofs.MapLemmas
import AtreeProofs.Map.Paths
/-
  C17, bulk build of maps — facts that need no invariant: an accepted stream is sorted by
  first-level digest; the seed, the type and the number of pairs are recorded; every step of the
  level loop keeps the pair sequence; without first-level collisions the pair sequence is the
  input, in order.  The loops as rules: `mrebalanceTail_rule`, `mnextLevelLoop_rule`, `mlevels_rule`;
  the tail step only re-partitions the pairs (`MTree.toListView`, Map/Paths.lean);
  `fromBatchData_ok_iff` is the one place where `OMap.fromBatchData` is unfolded.
-/
namespace Atree
open Gen MTree MBatch

variable {r : Nat}

theorem collide_state (cfg : MCfg) (st st' : FillState r) (k : MKey) (v : Elem) (c c' : Ctx)
    (h : collide cfg st k v c = .ok (st', c')) :
    st'.count = st.count + 1 ∧ st'.prevHkey = st.prevHkey ∧ st'.slabs = st.slabs ∧ st'.id = st.id := by
  unfold collide at h
  simp only at h
  split at h
  · simp at h
  · split at h
    · simp at h
    · split at h
      · simp at h
      · simp only [Except.ok.injEq, Prod.mk.injEq] at h
        obtain ⟨h1, _⟩ := h
        subst h1
        exact ⟨rfl, rfl, rfl, rfl⟩

theorem appendNew_count_prev (cfg : MCfg) (st : FillState r) (hkey : Nat) (k : MKey) (v : Elem) (c : Ctx) :
    (appendNew cfg st hkey k v c).1.count = st.count + 1 ∧ (appendNew cfg st hkey k v c).1.prevHkey = hkey := by
  unfold appendNew
  simp only
  split <;> simp

/-- C17 (`batch_rejects_unsorted`, loop level): if the element loop accepts a stream, the
    first-level digests of the stream are non-decreasing (and not below the digest seen last),
    and every pair was counted. -/
theorem fillLoop_sorted (cfg : MCfg) (kvs : List (MKey × Elem)) :
    ∀ (st st' : FillState r) (c c' : Ctx), fillLoop cfg kvs st c = .ok (st', c') →
      (kvs.map (fun p => p.1.dig 0)).Pairwise (· ≤ ·) ∧ (∀ p ∈ kvs, st.prevHkey ≤ p.1.dig 0) ∧
      st'.count = st.count + kvs.length := by
  induction kvs with
  | nil =>
    intro st st' c c' h
    simp only [fillLoop, Except.ok.injEq, Prod.mk.injEq] at h
    obtain ⟨h1, _⟩ := h
    subst h1
    simp
  | cons p kvs ih =>
    intro st st' c c' h
    obtain ⟨k, v⟩ := p
    unfold fillLoop at h
    simp only at h
    by_cases h1 : k.dig 0 < st.prevHkey
    · simp [h1] at h
    · simp only [h1, if_false] at h
      by_cases h2 : k.dig 0 = st.prevHkey ∧ st.count > 0
      · simp only [h2, and_self, if_true] at h
        cases hc : collide cfg st k v c with
        | error e => rw [hc] at h; simp at h
        | ok res =>
          obtain ⟨st1, c1⟩ := res
          rw [hc] at h
          simp only at h
          obtain ⟨f1, f2, _, _⟩ := collide_state cfg st st1 k v c c1 hc
          obtain ⟨a1, a2, a3⟩ := ih st1 st' c1 c' h
          rw [f2] at a2
          refine ⟨?_, ?_, by rw [a3, f1]; simp; omega⟩
          · simp only [List.map_cons, List.pairwise_cons, List.mem_map, forall_exists_index, and_imp]
            refine ⟨?_, a1⟩
            rintro x q hq rfl
            have := a2 q hq; omega
          · intro q hq
            simp only [List.mem_cons] at hq
            rcases hq with rfl | hq
            · simp only; omega
            · have := a2 q hq; omega
      · simp only [h2, if_false] at h
        obtain ⟨f1, f2⟩ := appendNew_count_prev cfg st (k.dig 0) k v c
        obtain ⟨a1, a2, a3⟩ := ih _ st' _ c' h
        rw [f2] at a2
        refine ⟨?_, ?_, by rw [a3, f1]; simp; omega⟩
        · simp only [List.map_cons, List.pairwise_cons, List.mem_map, forall_exists_index, and_imp]
          refine ⟨?_, a1⟩
          rintro x q hq rfl
          exact a2 q hq
        · intro q hq
          simp only [List.mem_cons] at hq
          rcases hq with rfl | hq
          · simp only; omega
          · have := a2 q hq; omega

/-- a map index slab seen as a tree of depth `d+1` -/
def ofMMeta {d : Nat} (m : MMetaSlab (MTree r d)) : MTree r (d + 1) := m

@[elab_as_elim]
theorem forall_ofMMeta {d : Nat} {P : MTree r (d + 1) → Prop} (h : ∀ m, P (ofMMeta m))
    (t : MTree r (d + 1)) : P t := h t

@[simp] theorem mtoList_zero (s : MDataSlab r) :
    MTree.toList 0 (ofMData s) = HkeyElems.toList (MElems.ops r) s.elems := rfl
@[simp] theorem mtoList_succ (d : Nat) (m : MMetaSlab (MTree r d)) :
    MTree.toList (d + 1) (ofMMeta m) = m.children.flatMap (MTree.toList d) := rfl

/-- the tail step on two slabs: nothing, `LendToRight`, or `Merge` -/
theorem mrebalanceTail_pair (T d : Nat) (l x : MTree r d) (R : List (MTree r d))
    (h : MBatch.rebalanceTail T d [l, x] = .ok R) :
    R = [l, x] ∨ (∃ l' x', MTree.lendToRight T d l x = .ok (l', x') ∧ R = [l', x']) ∨
      R = [MTree.merge d l x] := by
  unfold MBatch.rebalanceTail at h
  revert h
  cases MTree.isUnderflow T d x with
  | none => intro h; exact .inl (Except.ok.inj h).symm
  | some u =>
    by_cases hc : MTree.canLendToRight T d l u = true
    · simp only [if_pos hc]
      cases hl : MTree.lendToRight T d l x with
      | error e => intro h; cases h
      | ok p => intro h; exact .inr (.inl ⟨p.1, p.2, rfl, (Except.ok.inj h).symm⟩)
    · simp only [if_neg hc]
      intro h; exact .inr (.inr (Except.ok.inj h).symm)

/-- Case rule for `rebalanceTail`: a relation between a level and its rebalanced form holds as soon
    as it is reflexive and holds for a `LendToRight` and a `Merge` of the last two slabs. -/
theorem mrebalanceTail_rule (T d : Nat) {P : List (MTree r d) → List (MTree r d) → Prop}
    (hrefl : ∀ X, P X X)
    (hlend : ∀ A l x l' x', MTree.lendToRight T d l x = .ok (l', x') → P (A ++ [l, x]) (A ++ [l', x']))
    (hmerge : ∀ A l x, P (A ++ [l, x]) (A ++ [MTree.merge d l x])) :
    ∀ (A X R : List (MTree r d)), MBatch.rebalanceTail T d X = .ok R → P (A ++ X) (A ++ R) := by
  intro A X
  induction X generalizing A with
  | nil => intro R h; cases h; exact hrefl _
  | cons x X ih =>
    intro R h
    rcases X with _ | ⟨y, _ | ⟨z, rest⟩⟩
    · cases h; exact hrefl _
    · rcases mrebalanceTail_pair T d x y R h with rfl | ⟨l', x', hl, rfl⟩ | rfl
      · exact hrefl _
      · exact hlend A x y l' x' hl
      · exact hmerge A x y
    · unfold MBatch.rebalanceTail at h
      revert h
      cases hL : MBatch.rebalanceTail T d (y :: z :: rest) with
      | error e => intro h; cases h
      | ok L =>
        intro h
        cases h
        have h := ih (A ++ [x]) L hL
        rw [List.append_assoc, List.append_assoc] at h
        exact h

theorem mrebalanceTail_toList (T d : Nat) (X R : List (MTree r d))
    (h : MBatch.rebalanceTail T d X = .ok R) : R.flatMap (MTree.toList d) = X.flatMap (MTree.toList d) := by
  refine mrebalanceTail_rule T d (P := fun X R => R.flatMap (MTree.toList d) = X.flatMap (MTree.toList d))
    (fun _ => rfl) ?_ ?_ [] X R h
  · intro A l x l' x' hl
    simp only [List.flatMap_append, List.flatMap_cons, List.flatMap_nil, List.append_nil]
    exact congrArg (_ ++ ·) (MTree.lend_view MTree.toListView T d l x l' x' hl).1
  · intro A l x
    simp only [List.flatMap_append, List.flatMap_cons, List.flatMap_nil, List.append_nil]
    exact congrArg (_ ++ ·) (MTree.merge_view MTree.toListView d l x).1

@[simp] theorem memptyMeta_children (d : Nat) (id : SlabID) (fk : Nat) :
    (MBatch.emptyMeta (r := r) d id fk).children = [] := rfl
@[simp] theorem memptyMeta_hdr_id (d : Nat) (id : SlabID) (fk : Nat) :
    (MBatch.emptyMeta (r := r) d id fk).hdr.id = id := rfl
@[simp] theorem maddChild_children (d : Nat) (m : MMetaSlab (MTree r d)) (s : MTree r d) :
    (MBatch.addChild d m s).children = m.children ++ [s] := rfl
@[simp] theorem maddChild_hdr_id (d : Nat) (m : MMetaSlab (MTree r d)) (s : MTree r d) :
    (MBatch.addChild d m s).hdr.id = m.hdr.id := rfl

/-- Induction rule for the loop of `nextLevelMapSlabs` over the level `X`.  `I pre cur done c`: the
    state after the slabs `pre` (a prefix of `X`) have been taken, `cur` the index slab being
    filled, `done` the finished ones. -/
theorem mnextLevelLoop_rule (maxN addr d : Nat) (X : List (MTree r d))
    {I : List (MTree r d) → MMetaSlab (MTree r d) → List (MMetaSlab (MTree r d)) → Ctx → Prop}
    (hnew : ∀ pre s rest cur done c, X = pre ++ s :: rest → I pre cur done c → cur.childHdrs.length = maxN →
      I (pre ++ [s]) (MBatch.addChild d (MBatch.emptyMeta d (c.alloc addr).1 (MTree.hdr d s).firstKey) s)
        (done ++ [cur]) (c.alloc addr).2)
    (hadd : ∀ pre s rest cur done c, X = pre ++ s :: rest → I pre cur done c → cur.childHdrs.length ≠ maxN →
      I (pre ++ [s]) (MBatch.addChild d cur s) done c) :
    ∀ (ss pre : List (MTree r d)) (cur : MMetaSlab (MTree r d)) (done : List (MMetaSlab (MTree r d)))
      (c : Ctx), X = pre ++ ss → I pre cur done c →
      ∃ done' cur' c', MBatch.nextLevelLoop maxN addr d ss cur done c = (done' ++ [cur'], c') ∧
        I X cur' done' c' := by
  intro ss
  induction ss with
  | nil => intro pre cur done c hX h; exact ⟨done, cur, c, rfl, by rw [hX, List.append_nil]; exact h⟩
  | cons s ss ih =>
    intro pre cur done c hX h
    have hX' : X = (pre ++ [s]) ++ ss := by rw [hX, List.append_cons]
    unfold MBatch.nextLevelLoop
    by_cases hf : cur.childHdrs.length = maxN
    · rw [if_pos hf]
      exact ih _ _ _ _ hX' (hnew pre s ss cur done c hX h hf)
    · rw [if_neg hf]
      exact ih _ _ _ _ hX' (hadd pre s ss cur done c hX h hf)

theorem mnextLevelLoop_children (maxN addr d : Nat) (ss : List (MTree r d))
    (cur : MMetaSlab (MTree r d)) (done : List (MMetaSlab (MTree r d))) (c : Ctx) :
    (MBatch.nextLevelLoop maxN addr d ss cur done c).1.flatMap (·.children) =
      done.flatMap (·.children) ++ cur.children ++ ss := by
  obtain ⟨done', cur', c', e, h⟩ := mnextLevelLoop_rule maxN addr d ss
    (I := fun pre cur' done' _ => (done' ++ [cur']).flatMap (·.children) =
      done.flatMap (·.children) ++ cur.children ++ pre)
    (fun pre s _ cur' done' c' _ h _ => by
      rw [List.flatMap_append, h]; simp only [List.flatMap_cons, List.flatMap_nil, maddChild_children,
        memptyMeta_children, List.nil_append, List.append_nil, List.append_assoc])
    (fun pre s _ cur' done' c' _ h _ => by
      rw [List.flatMap_append] at h ⊢
      simp only [List.flatMap_cons, List.flatMap_nil, List.append_nil, maddChild_children] at h ⊢
      rw [← List.append_assoc, h, List.append_assoc])
    ss [] cur done c rfl (by simp)
  rw [e, h]

/-- a list of map index slabs seen as a level of trees of depth `d+1` -/
def asMMetas {d : Nat} (R : List (MMetaSlab (MTree r d))) : List (MTree r (d + 1)) := R

/-- a level of index slabs shows, slab by slab, what their children show -/
theorem flatMap_metas {β : Type} {d : Nat} (V : MTree r (d + 1) → List β) (W : MTree r d → List β)
    (h : ∀ m : MMetaSlab (MTree r d), V (ofMMeta m) = m.children.flatMap W) (R : List (MMetaSlab (MTree r d))) :
    (asMMetas R).flatMap V = (R.flatMap (·.children)).flatMap W := by
  induction R with
  | nil => rfl
  | cons m R ih =>
    show V (ofMMeta m) ++ (asMMetas R).flatMap V = _
    rw [ih, h, List.flatMap_cons, List.flatMap_append]

theorem mtoList_metas (d : Nat) (R : List (MMetaSlab (MTree r d))) :
    (asMMetas R).flatMap (MTree.toList (d + 1)) = (R.flatMap (·.children)).flatMap (MTree.toList d) :=
  flatMap_metas _ _ (fun _ => rfl) R

theorem mnextLevel_toList (T addr d : Nat) (X : List (MTree r d)) (c : Ctx) :
    (nextLevelMapSlabs T addr d X c).1.flatMap (MTree.toList (d + 1)) = X.flatMap (MTree.toList d) := by
  have h : ∀ fk, (asMMetas (MBatch.nextLevelLoop ((maxThr T - mapMetaDataSlabPrefixSize) / mapSlabHeaderSize) addr d X
      (MBatch.emptyMeta d (c.alloc addr).1 fk) [] (c.alloc addr).2).1).flatMap (MTree.toList (d + 1)) =
      X.flatMap (MTree.toList d) := by
    intro fk
    rw [mtoList_metas, mnextLevelLoop_children]
    simp [MBatch.emptyMeta]
  unfold nextLevelMapSlabs
  exact h _

theorem mfinishRoot_fields (ty count seed d : Nat) (root : MTree r d) (c : Ctx) :
    (MBatch.finishRoot ty count seed d root c).1.toList = MTree.toList d root ∧
      (MBatch.finishRoot ty count seed d root c).1.ty = ty ∧
      (MBatch.finishRoot ty count seed d root c).1.count = count ∧
      (MBatch.finishRoot ty count seed d root c).1.seed = seed := by
  cases d with
  | zero => exact ⟨rfl, rfl, rfl, rfl⟩
  | succ d => exact ⟨rfl, rfl, rfl, rfl⟩

/-- what `MBatch.levels` does with the rebalanced level -/
def mafterRebalance (T addr ty count seed fuel d : Nat) (R : Except MErr (List (MTree r d))) (c : Ctx) :
    BRes (OMap r × Ctx) :=
  match R with
  | .error e => .error (.map e, c)
  | .ok [] => .error (.map .goPanic, c)
  | .ok [root] => .ok (MBatch.finishRoot ty count seed d root c)
  | .ok slabs' =>
    MBatch.levels T addr ty count seed fuel (d + 1) (nextLevelMapSlabs T addr d slabs' (MBatch.storeAll d slabs' c)).1
      (nextLevelMapSlabs T addr d slabs' (MBatch.storeAll d slabs' c)).2

theorem mlevels_single (T addr ty count seed fuel d : Nat) (root : MTree r d) (c : Ctx) :
    MBatch.levels T addr ty count seed (fuel + 1) d [root] c = .ok (MBatch.finishRoot ty count seed d root c) := rfl
theorem mlevels_many (T addr ty count seed fuel d : Nat) (x y : MTree r d) (rest : List (MTree r d)) (c : Ctx) :
    MBatch.levels T addr ty count seed (fuel + 1) d (x :: y :: rest) c =
      mafterRebalance T addr ty count seed fuel d (MBatch.rebalanceTail T d (x :: y :: rest)) c := rfl
theorem mafterRebalance_single (T addr ty count seed fuel d : Nat) (root : MTree r d) (c : Ctx) :
    mafterRebalance T addr ty count seed fuel d (.ok [root]) c = .ok (MBatch.finishRoot ty count seed d root c) := rfl
theorem mafterRebalance_many (T addr ty count seed fuel d : Nat) (x y : MTree r d) (rest : List (MTree r d)) (c : Ctx) :
    mafterRebalance T addr ty count seed fuel d (.ok (x :: y :: rest)) c =
      MBatch.levels T addr ty count seed fuel (d + 1)
        (nextLevelMapSlabs T addr d (x :: y :: rest) (MBatch.storeAll d (x :: y :: rest) c)).1
        (nextLevelMapSlabs T addr d (x :: y :: rest) (MBatch.storeAll d (x :: y :: rest) c)).2 := rfl

/-- Induction rule for the level loop: `I` holds of a level before its tail step, `J` after it,
    `Q` of the result. -/
theorem mlevels_rule (T addr ty count seed : Nat) {I J : (d : Nat) → List (MTree r d) → Ctx → Prop}
    {Q : OMap r → Ctx → Prop}
    (hreb : ∀ d X R c, I d X c → MBatch.rebalanceTail T d X = .ok R → J d R c)
    (hroot : ∀ d root c, J d [root] c →
      Q (MBatch.finishRoot ty count seed d root c).1 (MBatch.finishRoot ty count seed d root c).2)
    (hnext : ∀ d X c, J d X c → 2 ≤ X.length →
      I (d + 1) (nextLevelMapSlabs T addr d X (MBatch.storeAll d X c)).1
        (nextLevelMapSlabs T addr d X (MBatch.storeAll d X c)).2) :
    ∀ (fuel d : Nat) (X : List (MTree r d)) (c : Ctx) (m : OMap r) (c' : Ctx),
      MBatch.levels T addr ty count seed fuel d X c = .ok (m, c') → I d X c → Q m c' := by
  intro fuel
  induction fuel with
  | zero => intro d X c m c' h; cases h
  | succ fuel ih =>
    intro d X c m c' h hI
    rcases X with _ | ⟨x, _ | ⟨y, rest⟩⟩
    · cases h
    · cases h; exact hroot d x c (hreb d [x] _ c hI rfl)
    · rw [mlevels_many] at h
      cases hR : MBatch.rebalanceTail T d (x :: y :: rest) with
      | error e => rw [hR] at h; cases h
      | ok R =>
        have hJ := hreb d _ R c hI hR
        rw [hR] at h
        rcases R with _ | ⟨x', _ | ⟨y', rest'⟩⟩
        · cases h
        · cases h; exact hroot d x' c hJ
        · exact ih (d + 1) _ _ m c' h (hnext d _ c hJ (by simp))

theorem mlevels_content (T addr ty count seed : Nat)
    (fuel d : Nat) (X : List (MTree r d)) (c : Ctx) (m : OMap r) (c' : Ctx)
    (h : MBatch.levels T addr ty count seed fuel d X c = .ok (m, c')) :
    m.toList = X.flatMap (MTree.toList d) ∧ m.ty = ty ∧ m.count = count ∧ m.seed = seed :=
  mlevels_rule T addr ty count seed
    (I := fun d' X' _ => X'.flatMap (MTree.toList d') = X.flatMap (MTree.toList d))
    (J := fun d' X' _ => X'.flatMap (MTree.toList d') = X.flatMap (MTree.toList d))
    (Q := fun m _ => m.toList = X.flatMap (MTree.toList d) ∧ m.ty = ty ∧ m.count = count ∧ m.seed = seed)
    (fun d' X' R _ h hR => (mrebalanceTail_toList T d' X' R hR).trans h)
    (fun d' root c h => by
      obtain ⟨a, b⟩ := mfinishRoot_fields ty count seed d' root c
      rw [a, ← h]; exact ⟨by simp, b⟩)
    (fun d' X' c h _ => (mnextLevel_toList T addr d' X' _).trans h) fuel d X c m c' h rfl

/-- the initial state of the element loop, after the allocation of the first data slab -/
abbrev fillInit (r : Nat) (id : SlabID) : FillState r :=
  { id := id, elements := MBatch.emptyElems r, slabs := [], count := 0, prevHkey := 0 }

/-- the pairs held by the state of the element loop: closed data slabs, then the open elements -/
def fillPairs (st : FillState r) : List (MKey × Elem) :=
  st.slabs.flatMap (fun s => HkeyElems.toList (MElems.ops r) s.elems) ++
    HkeyElems.toList (MElems.ops r) st.elements

/-- the data slabs of the first level once the loop is over -/
def fillSlabs (st : FillState r) : List (MTree r 0) :=
  st.slabs ++ [MBatch.mkData st.id SlabID.undef st.elements]

theorem mdata_flatMap_toList (L : List (MDataSlab r)) :
    List.flatMap (MTree.toList 0) (L : List (MTree r 0)) =
      L.flatMap (fun s => HkeyElems.toList (MElems.ops r) s.elems) := by
  induction L with
  | nil => rfl
  | cons s L ih =>
    show MTree.toList 0 (ofMData s) ++ List.flatMap (MTree.toList 0) (L : List (MTree r 0)) = _
    rw [ih]; rfl

theorem fillSlabs_toList (st : FillState r) :
    (fillSlabs st).flatMap (MTree.toList 0) = fillPairs st := by
  unfold fillSlabs fillPairs
  rw [mdata_flatMap_toList, List.flatMap_append]
  simp [MBatch.mkData]

theorem appendNew_pairs (cfg : MCfg) (st : FillState r) (hkey : Nat) (k : MKey) (v : Elem) (c : Ctx) :
    fillPairs (appendNew cfg st hkey k v c).1 = fillPairs st ++ [(k, storedValue cfg k v c)] := by
  unfold appendNew
  simp only
  split
  · simp [fillPairs, HkeyElems.toList, MBatch.mkData, MBatch.emptyElems, MElemF.toList, newSingleElement,
      storedValue, List.flatMap_append]
  · simp [fillPairs, HkeyElems.toList, MElemF.toList, newSingleElement, storedValue, List.flatMap_append]

/-- the storage contexts in which the values of a collision-free stream are turned into storables -/
def appendCtxs (cfg : MCfg) : List (MKey × Elem) → FillState r → Ctx → List Ctx
  | [], _, _ => []
  | (k, v) :: rest, st, c =>
    c :: appendCtxs cfg rest (appendNew cfg st (k.dig 0) k v c).1 (appendNew cfg st (k.dig 0) k v c).2

theorem appendCtxs_length (cfg : MCfg) (kvs : List (MKey × Elem)) :
    ∀ (st : FillState r) (c : Ctx), (appendCtxs cfg kvs st c).length = kvs.length := by
  induction kvs with
  | nil => intro st c; rfl
  | cons p kvs ih => intro st c; obtain ⟨k, v⟩ := p; simp [appendCtxs, ih]

/-- Without first-level digest collisions the loop only appends: the pairs are the input pairs
    (values in stored form), in input order, and the loop cannot fail. -/
theorem fillLoop_nocollision (cfg : MCfg) (kvs : List (MKey × Elem))
    (hs : (kvs.map (fun p => p.1.dig 0)).Pairwise (· < ·)) :
    ∀ (st : FillState r) (c : Ctx), (∀ p ∈ kvs, st.count = 0 ∨ st.prevHkey < p.1.dig 0) →
      (∀ p ∈ kvs, st.prevHkey ≤ p.1.dig 0) →
      ∃ st' c', fillLoop cfg kvs st c = .ok (st', c') ∧
        fillPairs st' = fillPairs st ++
          List.zipWith (fun p c => (p.1, storedValue cfg p.1 p.2 c)) kvs (appendCtxs cfg kvs st c) := by
  induction kvs with
  | nil => intro st c _ _; exact ⟨st, c, rfl, by simp [appendCtxs]⟩
  | cons p kvs ih =>
    intro st c h1 h2
    obtain ⟨k, v⟩ := p
    simp only [List.map_cons, List.pairwise_cons, List.mem_map, forall_exists_index, and_imp] at hs
    obtain ⟨hlt, hs'⟩ := hs
    have hk1 := h1 (k, v) (by simp)
    have hk2 := h2 (k, v) (by simp)
    simp only at hk1 hk2
    unfold fillLoop
    simp only
    have n1 : ¬ k.dig 0 < st.prevHkey := by omega
    have n2 : ¬ (k.dig 0 = st.prevHkey ∧ st.count > 0) := by omega
    simp only [n1, n2, if_false]
    obtain ⟨f1, f2⟩ := appendNew_count_prev cfg st (k.dig 0) k v c
    obtain ⟨st', c', e1, e2⟩ := ih hs' (appendNew cfg st (k.dig 0) k v c).1 (appendNew cfg st (k.dig 0) k v c).2
      (by intro q hq; right; rw [f2]; exact hlt _ q hq rfl)
      (by intro q hq; rw [f2]; exact Nat.le_of_lt (hlt _ q hq rfl))
    refine ⟨st', c', e1, ?_⟩
    rw [e2, appendNew_pairs]
    simp [appendCtxs]

/-- a successful `NewMapFromBatchData`: the seed is not zero, the element loop succeeds from the first
    data slab allocated, and the level loop succeeds on the data slabs it leaves -/
theorem fromBatchData_ok_iff (cfg : MCfg) (ty seed : Nat) (kvs : List (MKey × Elem)) (c : Ctx)
    (m : OMap r) (c' : Ctx) :
    OMap.fromBatchData cfg ty seed kvs c = .ok (m, c') ↔
      seed ≠ 0 ∧ ∃ st cf, fillLoop cfg kvs
          (fillInit r (c.alloc cfg.addr).1)
          (c.alloc cfg.addr).2 = .ok (st, cf) ∧
        MBatch.levels cfg.T cfg.addr ty st.count seed (fillSlabs st).length 0 (fillSlabs st) cf = .ok (m, c') := by
  unfold OMap.fromBatchData
  by_cases hseed : seed = 0
  · rw [if_pos hseed]
    exact ⟨fun h => (nomatch h), fun h => absurd hseed h.1⟩
  · rw [if_neg hseed]
    dsimp only
    cases fillLoop cfg kvs
        (fillInit r (c.alloc cfg.addr).1)
        (c.alloc cfg.addr).2 with
    | error e => exact ⟨fun h => (nomatch h), fun ⟨_, _, _, e', _⟩ => (nomatch e')⟩
    | ok res => exact ⟨fun h => ⟨hseed, res.1, res.2, rfl, h⟩, fun ⟨_, _, _, e, h⟩ => by cases e; exact h⟩

/-- C17 (`batch_map_content` / `batch_rejects_unsorted`, conditional form): if the bulk build of a
    map succeeds then the seed is the (non-zero) seed passed in, type and count are recorded, the
    count is the number of input pairs, the input was sorted by first-level digest, and the pair
    sequence of the map is the pair sequence left by the element loop. -/
theorem fromBatchData_ok_facts (cfg : MCfg) (ty seed : Nat) (kvs : List (MKey × Elem)) (c : Ctx)
    (m : OMap r) (c' : Ctx) (h : OMap.fromBatchData cfg ty seed kvs c = .ok (m, c')) :
    seed ≠ 0 ∧ m.seed = seed ∧ m.ty = ty ∧ m.count = kvs.length ∧
      (kvs.map (fun p => p.1.dig 0)).Pairwise (· ≤ ·) ∧
      ∃ st cf, fillLoop cfg kvs
          (fillInit r (c.alloc cfg.addr).1)
          (c.alloc cfg.addr).2 = .ok (st, cf) ∧ m.toList = fillPairs st := by
  obtain ⟨hseed, st, cf, hf, h⟩ := (fromBatchData_ok_iff cfg ty seed kvs c m c').1 h
  obtain ⟨a1, a2, a3⟩ := fillLoop_sorted cfg kvs _ st _ cf hf
  obtain ⟨b1, b2, b3, b4⟩ := mlevels_content cfg.T cfg.addr ty st.count seed _ 0 (fillSlabs st) cf m c' h
  exact ⟨hseed, b4, b2, by rw [b3, a3]; simp, a1, st, cf, hf, by rw [b1, fillSlabs_toList]⟩

/-- C17 (`batch_rejects_unsorted`): a stream whose first-level digests are not sorted is rejected. -/
theorem fromBatchData_rejects_unsorted (cfg : MCfg) (ty seed : Nat) (kvs : List (MKey × Elem)) (c : Ctx)
    (hns : ¬ (kvs.map (fun p => p.1.dig 0)).Pairwise (· ≤ ·)) :
    ∃ e c', (OMap.fromBatchData cfg ty seed kvs c : BRes (OMap r × Ctx)) = .error (e, c') := by
  cases h : (OMap.fromBatchData cfg ty seed kvs c : BRes (OMap r × Ctx)) with
  | error e => exact ⟨e.1, e.2, rfl⟩
  | ok res =>
    obtain ⟨m, c'⟩ := res
    obtain ⟨_, _, _, _, hs, _⟩ := fromBatchData_ok_facts cfg ty seed kvs c m c' h
    exact absurd hs hns

/-- the uninitialised seed is rejected before anything is allocated -/
theorem fromBatchData_rejects_seed0 (cfg : MCfg) (ty : Nat) (kvs : List (MKey × Elem)) (c : Ctx) :
    (OMap.fromBatchData cfg ty 0 kvs c : BRes (OMap r × Ctx)) = .error (.seedUninitialized, c) := by
  simp [OMap.fromBatchData]

end Atree

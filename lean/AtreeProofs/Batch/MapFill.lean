import AtreeProofs.Batch.MapContent
import AtreeProofs.Map.HkeySpec
import AtreeProofs.Map.HkeySeg
import AtreeProofs.Map.TreeInv2
/-
  C17, bulk build of maps — the element loop under the map invariant: the digest table being
  filled stays valid (`HI`: `HInv` of a first-level table, i.e. `ElemsInv … (r + 1)` at level 0 and
  empty path), a key that already occurred is rejected as
  a duplicate, every other pair is added, closed data slabs hold strictly smaller digests.
-/
namespace Atree
open Gen MTree MBatch

variable {T r : Nat} {D : DigestFn (r + 1)}

/-- the invariant of a first-level digest table -/
abbrev HI (T r : Nat) (D : DigestFn (r + 1)) (he : HkeyElems (MElems r)) : Prop :=
  HInv T (r + 1) D (MElems.ops r) (ElemsInv T (r + 1) D r) r 0 [] he

theorem hi_empty : HI T r D (emptyElems r) := by
  refine ⟨by omega, rfl, rfl, by simp [emptyElems], by simp [emptyElems, HkeyElems.elemSizes], ?_⟩
  intro i hk el hi
  simp [emptyElems] at hi

theorem hi_push {he : HkeyElems (MElems r)} (H : HI T r D he) (hk : Nat) (el : MElemF (MElems r))
    (hgt : ∀ a ∈ he.hkeys, a < hk)
    (hel : MElemOk T (r + 1) D (MElems.ops r) (ElemsInv T (r + 1) D r) 0 [] hk el) :
    HI T r D { he with hkeys := he.hkeys ++ [hk], elems := he.elems ++ [el],
                       size := he.size + (digestSize + el.size (MElems.ops r)) } := by
  have hS := HkeyElems.Slot.insert (hk := hk) (Nat.le_refl _) H.len_eq el
    (he.size + (digestSize + el.size (MElems.ops r)))
  rw [List.insertIdx_length_self, H.len_eq, List.insertIdx_length_self] at hS
  refine H.slot hS ?_ ?_ (fun e he => by cases he; exact hel)
  · exact List.pairwise_append.2 ⟨H.sorted, List.pairwise_singleton _ _, fun a ha b hb => by
      rw [List.mem_singleton.1 hb]; exact hgt a ha⟩
  · simp only [H.size_eq, HkeyElems.elemSizes_append]
    simp [HkeyElems.elemSizes]; omega

theorem hi_setLast {he : HkeyElems (MElems r)} (H : HI T r D he) (hk : Nat) (prev el : MElemF (MElems r))
    (hlast : he.elems.getLast? = some prev) (hklast : he.hkeys.getLast? = some hk)
    (hel : MElemOk T (r + 1) D (MElems.ops r) (ElemsInv T (r + 1) D r) 0 [] hk el) :
    HI T r D { he with elems := he.elems.set (he.elems.length - 1) el,
                       size := he.size + el.size (MElems.ops r) - prev.size (MElems.ops r) } := by
  rw [List.getLast?_eq_getElem?] at hlast hklast
  rw [H.len_eq] at hklast
  refine H.slot (HkeyElems.Slot.replace hklast hlast el _) H.sorted ?_ (fun e he => by cases he; exact hel)
  have := sum_map_set (fun e => MElemF.size (MElems.ops r) e + digestSize) (b := el) hlast
  simp only [H.size_eq, HkeyElems.elemSizes] at this ⊢
  omega

/-- State of the element loop after the pairs `proc` have been accepted. -/
structure MFillOk (T r : Nat) (D : DigestFn (r + 1)) (cfg : MCfg) (st : FillState r)
    (proc : List (MKey × Elem)) : Prop where
  hinv : HI T r D st.elements
  closed_inv : ∀ s ∈ st.slabs, HI T r D s.elems
  closed_lt : ∀ s ∈ st.slabs, ∀ hk ∈ s.elems.hkeys, hk < st.prevHkey
  last_key : 0 < st.count → st.elements.hkeys.getLast? = some st.prevHkey
  zero : st.count = 0 → st.elements.hkeys = [] ∧ st.slabs = []
  count_eq : st.count = proc.length
  proc_ok : ∀ p ∈ proc, KeyOk T (r + 1) D p.1
  keys_in : ∀ p ∈ proc, ∃ v', (p.1, v') ∈ fillPairs st
  perm : ∃ cs : List Ctx, cs.length = proc.length ∧
    (fillPairs st).Perm (List.zipWith (fun p c => (p.1, storedValue cfg p.1 p.2 c)) proc cs)
  le_prev : ∀ p ∈ proc, p.1.dig 0 ≤ st.prevHkey
  distinct : KeysDistinct proc
  init_lt : mapDataSlabPrefixSize + hkeyElementsPrefixSize +
    HkeyElems.elemSizes (MElems.ops r) st.elements.elems.dropLast < T
  /-- every closed data slab satisfies the data-slab invariant of a non-root slab -/
  closed_data : ∀ s ∈ st.slabs, MDataInv T D false s
  /-- first-level digests increase strictly across the closed slabs and the open table -/
  all_sorted : (st.slabs.flatMap (fun s => s.elems.hkeys) ++ st.elements.hkeys).Pairwise (· < ·)
  /-- closed slabs are linked left to right; the last one links to the slab being filled -/
  chain : ChainTo st.slabs st.id
  addr_ok : st.id.addr = cfg.addr ∧ ∀ s ∈ st.slabs, s.hdr.id.addr = cfg.addr

theorem maxThr_eq (T : Nat) : maxThr T = T + minThr T := by
  show (3 * T) / 2 = T + T / 2
  rw [show 3 * T = T + 2 * T from (by rw [Nat.add_comm]; exact Nat.succ_mul 2 T),
    Nat.add_mul_div_left _ _ (by decide), Nat.add_comm]

/-- a first-level entry within the inline limit, with its digest, is at most half a slab -/
theorem digest_inline_le {T : Nat} (hB : 256 ≤ T) : digestSize + maxInlineMapElem T ≤ minThr T := by
  rw [maxInlineMapElem_eq]
  exact Nat.add_le_of_le_sub' ((Nat.le_div_iff_mul_le (by decide)).2 (Nat.le_trans (by decide) hB))
    (Nat.sub_le_sub_right (Nat.div_le_div_right (Nat.sub_le _ _)) 8)

/-- size of the slab being filled: everything but the last element stays below `T`, and the last
    element respects the inline limit -/
theorem fill_size_le (hT : legalThreshold T = true) {he : HkeyElems (MElems r)} (H : HI T r D he)
    (hinit : mapDataSlabPrefixSize + hkeyElementsPrefixSize +
      HkeyElems.elemSizes (MElems.ops r) he.elems.dropLast < T) :
    mapDataSlabPrefixSize + he.size ≤ maxThr T ∧
      ∀ el ∈ he.elems, MElemF.size (MElems.ops r) el ≤ maxInlineMapElem T := by
  have hB := map_legal_bounds hT
  have hle : ∀ el ∈ he.elems, MElemF.size (MElems.ops r) el ≤ maxInlineMapElem T := by
    intro el hel
    obtain ⟨i, hi⟩ := List.mem_iff_getElem?.mp hel
    obtain ⟨hk, hhk⟩ := H.hkey_at hi
    exact (H.elemOk hhk hi).size_le hT rfl
  refine ⟨?_, hle⟩
  have hsz := H.size_eq
  have hsplit : HkeyElems.elemSizes (MElems.ops r) he.elems ≤
      HkeyElems.elemSizes (MElems.ops r) he.elems.dropLast + (maxInlineMapElem T + digestSize) := by
    rcases List.eq_nil_or_concat he.elems with hnil | ⟨L, x, hL⟩
    · rw [hnil]; simp [HkeyElems.elemSizes]
    · rw [List.concat_eq_append] at hL
      have hx := hle x (by rw [hL]; simp)
      rw [hL, List.dropLast_concat, HkeyElems.elemSizes_append]
      simp only [HkeyElems.elemSizes, List.map_cons, List.map_nil, List.sum_cons, List.sum_nil]
      omega
  rw [hsz, maxThr_eq]
  calc mapDataSlabPrefixSize + (hkeyElementsPrefixSize + HkeyElems.elemSizes (MElems.ops r) he.elems)
      ≤ mapDataSlabPrefixSize + (hkeyElementsPrefixSize +
          (HkeyElems.elemSizes (MElems.ops r) he.elems.dropLast + (maxInlineMapElem T + digestSize))) :=
        Nat.add_le_add_left (Nat.add_le_add_left hsplit _) _
    _ = mapDataSlabPrefixSize + hkeyElementsPrefixSize +
          HkeyElems.elemSizes (MElems.ops r) he.elems.dropLast + (maxInlineMapElem T + digestSize) := by
        simp only [Nat.add_assoc]
    _ ≤ T + minThr T :=
        Nat.add_le_add (Nat.le_of_lt hinit) (by rw [Nat.add_comm]; exact digest_inline_le hB.1)

/-- once a pair has been accepted, the table's last element sits under the last digest seen -/
theorem MFillOk.last_elem {cfg : MCfg} {st : FillState r} {proc : List (MKey × Elem)}
    (h : MFillOk T r D cfg st proc) (hcnt : 0 < st.count) :
    ∃ prev, st.elements.elems.getLast? = some prev ∧
      st.elements.elems[st.elements.elems.length - 1]? = some prev ∧
      MElemOk T (r + 1) D (MElems.ops r) (ElemsInv T (r + 1) D r) 0 [] st.prevHkey prev := by
  have hl := h.last_key hcnt
  rw [List.getLast?_eq_getElem?] at hl
  obtain ⟨prev, hpe⟩ := h.hinv.elem_at hl
  have hpe' : st.elements.elems[st.elements.elems.length - 1]? = some prev := by
    rw [← h.hinv.len_eq]; exact hpe
  exact ⟨prev, by rw [List.getLast?_eq_getElem?]; exact hpe', hpe', h.hinv.elemOk hl hpe⟩

/-- a pair of the state whose first-level digest is the last digest seen sits in the last element -/
theorem pair_in_last (hT : legalThreshold T = true) {cfg : MCfg} (hc : CfgFor cfg T (r + 1))
    {st : FillState r} {proc : List (MKey × Elem)}
    (h : MFillOk T r D cfg st proc) (hcnt : 0 < st.count) {q : MKey × Elem} (hq : q ∈ fillPairs st)
    (hd : q.1.dig 0 = st.prevHkey) :
    ∃ el, st.elements.elems.getLast? = some el ∧ q ∈ el.toList (MElems.ops r) := by
  have S := (MElems.opsSpec D hT hc r).toOpsStruct
  unfold fillPairs at hq
  rcases List.mem_append.mp hq with hq | hq
  · obtain ⟨s, hs, hqs⟩ := List.mem_flatMap.mp hq
    have Hs := h.closed_inv s hs
    obtain ⟨i, hk, el, hi, hel, hqel⟩ := Hs.mem_toList hqs
    have := (Hs.keys_at S hi hel q hqel).2.2
    have hlt := h.closed_lt s hs hk (List.mem_of_getElem? hi)
    omega
  · obtain ⟨i, hk, el, hi, hel, hqel⟩ := h.hinv.mem_toList hq
    have hdk := (h.hinv.keys_at S hi hel q hqel).2.2
    have hl := h.last_key hcnt
    rw [List.getLast?_eq_getElem?] at hl
    have hidx := sorted_get_inj h.hinv.sorted hi (by rw [hl, ← hd, hdk])
    refine ⟨el, ?_, hqel⟩
    rw [List.getLast?_eq_getElem?, ← h.hinv.len_eq, ← hidx]
    exact hel

theorem newSingle_ok (hT : legalThreshold T = true) {cfg : MCfg} (hc : CfgFor cfg T (r + 1))
    {k : MKey} (hkk : KeyOk T (r + 1) D k) {v : Elem} (hv : ValueOkM v) (c : Ctx) :
    MElemOk T (r + 1) D (MElems.ops r) (ElemsInv T (r + 1) D r) 0 [] (k.dig 0)
        (.single (newSingleElement cfg.T cfg.addr k v c).1) ∧
      (newSingleElement cfg.T cfg.addr k v c).1.key = k ∧
      (newSingleElement cfg.T cfg.addr k v c).1.val = storedValue cfg k v c := by
  have hspec := toStorableLim_spec (lim := maxInlineMapValue cfg.T k.size) (addr := cfg.addr) c hv
    (by rw [hc.hT]; exact maxInlineMapValue_ge hT hkk.2.2)
  rw [hc.hT] at hspec
  refine ⟨⟨⟨hkk, ?_, ?_, rfl⟩, ?_⟩, rfl, rfl⟩
  · simpa [newSingleElement, hc.hT] using hspec.1
  · simpa [newSingleElement, hc.hT] using hspec.2.1
  · have := hkk.take_succ (ℓ := 0) (Nat.succ_pos r)
    simpa [newSingleElement] using this

/-- a data slab is closed only when it has reached the target size or the next element (within
    the inline limit) would push it over the maximum: either way it is above the minimum -/
theorem closed_min {T sz e : Nat} (hB : 256 ≤ T) (he : e ≤ maxInlineMapElem T)
    (h : mapDataSlabPrefixSize + sz ≥ T ∨ mapDataSlabPrefixSize + sz + (digestSize + e) > maxThr T) :
    minThr T ≤ mapDataSlabPrefixSize + sz := by
  have h3 : minThr T ≤ T := Nat.div_le_self _ _
  rcases h with h | h
  · exact Nat.le_trans h3 h
  · -- the new entry takes at most `T / 2`, so the slab alone is already above `T`
    have he' : digestSize + e ≤ minThr T := Nat.le_trans (Nat.add_le_add_left he _) (digest_inline_le hB)
    rw [maxThr_eq] at h
    have h5 : T + minThr T < mapDataSlabPrefixSize + sz + minThr T :=
      Nat.lt_of_lt_of_le h (Nat.add_le_add_left he' _)
    exact Nat.le_trans h3 (Nat.le_of_lt (Nat.lt_of_add_lt_add_right h5))

/-- The two ways `appendNew` goes: the data slab being filled is closed first and the new pair
    starts the next one, or the pair is added to the slab being filled. -/
theorem appendNew_cases (cfg : MCfg) (st : FillState r) (hkey : Nat) (k : MKey) (v : Elem) (c : Ctx) :
    ∃ st0 : FillState r,
      (appendNew cfg st hkey k v c).1 =
        { st0 with
          elements := { st0.elements with
            hkeys := st0.elements.hkeys ++ [hkey],
            elems := st0.elements.elems ++ [.single (newSingleElement cfg.T cfg.addr k v c).1],
            size := st0.elements.size + (digestSize + (newSingleElement cfg.T cfg.addr k v c).1.size) },
          count := st0.count + 1, prevHkey := hkey } ∧
      ((((decide (mapDataSlabPrefixSize + st.elements.size ≥ cfg.T) ||
            decide (mapDataSlabPrefixSize + st.elements.size +
              (digestSize + (newSingleElement cfg.T cfg.addr k v c).1.size) > maxThr cfg.T)) = true) ∧
          st0 = { st with
            id := ((newSingleElement cfg.T cfg.addr k v c).2.alloc cfg.addr).1,
            elements := emptyElems r,
            slabs := st.slabs ++
              [mkData st.id ((newSingleElement cfg.T cfg.addr k v c).2.alloc cfg.addr).1 st.elements] }) ∨
        (¬ ((decide (mapDataSlabPrefixSize + st.elements.size ≥ cfg.T) ||
            decide (mapDataSlabPrefixSize + st.elements.size +
              (digestSize + (newSingleElement cfg.T cfg.addr k v c).1.size) > maxThr cfg.T)) = true) ∧
          st0 = st)) := by
  unfold appendNew
  by_cases hcl : ((decide (mapDataSlabPrefixSize + st.elements.size ≥ cfg.T) ||
      decide (mapDataSlabPrefixSize + st.elements.size +
        (digestSize + (newSingleElement cfg.T cfg.addr k v c).1.size) > maxThr cfg.T)) = true)
  · exact ⟨_, by simp only [if_pos hcl], Or.inl ⟨hcl, rfl⟩⟩
  · exact ⟨_, by simp only [if_neg hcl], Or.inr ⟨hcl, rfl⟩⟩

theorem appendNew_ok (hT : legalThreshold T = true) {cfg : MCfg} (hc : CfgFor cfg T (r + 1))
    {st : FillState r} {proc : List (MKey × Elem)} (h : MFillOk T r D cfg st proc)
    (k : MKey) (v : Elem) (c : Ctx) (hkk : KeyOk T (r + 1) D k) (hv : ValueOkM v)
    (hnew : st.count = 0 ∨ st.prevHkey < k.dig 0) :
    MFillOk T r D cfg (appendNew cfg st (k.dig 0) k v c).1 (proc ++ [(k, v)]) := by
  have hB := map_legal_bounds hT
  obtain ⟨hel, hkey, hval⟩ := newSingle_ok (D := D) hT hc hkk hv c
  have hpairs := appendNew_pairs cfg st (k.dig 0) k v c
  obtain ⟨fc, fp⟩ := appendNew_count_prev cfg st (k.dig 0) k v c
  -- digests already present are below the new one
  have hlt_all : ∀ a ∈ st.elements.hkeys, a < k.dig 0 := by
    intro a ha
    rcases hnew with h0 | hgt
    · rw [(h.zero h0).1] at ha; simp at ha
    · have hc0 : 0 < st.count := by
        rcases Nat.eq_zero_or_pos st.count with h0 | h0
        · rw [(h.zero h0).1] at ha; simp at ha
        · exact h0
      exact Nat.lt_of_le_of_lt (pairwise_le_getLast h.hinv.sorted (h.last_key hc0) a ha) hgt
  have hproc_lt : ∀ p ∈ proc, p.1.dig 0 < k.dig 0 ∨ st.count = 0 := by
    intro p hp
    rcases hnew with h0 | hgt
    · exact Or.inr h0
    · exact Or.inl (Nat.lt_of_le_of_lt (h.le_prev p hp) hgt)
  -- the parts that do not depend on whether a slab is closed
  have hcommon : (appendNew cfg st (k.dig 0) k v c).1.count = (proc ++ [(k, v)]).length ∧
      (∀ p ∈ proc ++ [(k, v)], KeyOk T (r + 1) D p.1) ∧
      (∀ p ∈ proc ++ [(k, v)], ∃ v', (p.1, v') ∈ fillPairs (appendNew cfg st (k.dig 0) k v c).1) ∧
      (∃ cs : List Ctx, cs.length = (proc ++ [(k, v)]).length ∧
        (fillPairs (appendNew cfg st (k.dig 0) k v c).1).Perm
          (List.zipWith (fun p c => (p.1, storedValue cfg p.1 p.2 c)) (proc ++ [(k, v)]) cs)) ∧
      (∀ p ∈ proc ++ [(k, v)], p.1.dig 0 ≤ (appendNew cfg st (k.dig 0) k v c).1.prevHkey) ∧
      KeysDistinct (proc ++ [(k, v)]) := by
    refine ⟨by rw [fc, h.count_eq]; simp, ?_, ?_, ?_, ?_, ?_⟩
    · intro p hp
      rcases List.mem_append.mp hp with hp | hp
      · exact h.proc_ok p hp
      · simp only [List.mem_singleton] at hp; subst hp; exact hkk
    · intro p hp
      rw [hpairs]
      rcases List.mem_append.mp hp with hp | hp
      · obtain ⟨v', hv'⟩ := h.keys_in p hp
        exact ⟨v', List.mem_append_left _ hv'⟩
      · simp only [List.mem_singleton] at hp; subst hp
        exact ⟨storedValue cfg k v c, List.mem_append_right _ (by simp)⟩
    · obtain ⟨cs, hcs, hperm⟩ := h.perm
      refine ⟨cs ++ [c], by simp [hcs], ?_⟩
      rw [hpairs, zipWith_append_single _ _ _ _ _ hcs]
      exact List.Perm.append_right _ hperm
    · intro p hp
      rw [fp]
      rcases List.mem_append.mp hp with hp | hp
      · rcases hproc_lt p hp with hlt | h0
        · exact Nat.le_of_lt hlt
        · have := h.count_eq; rw [h0] at this
          have : proc = [] := List.eq_nil_of_length_eq_zero this.symm
          subst this; simp at hp
      · simp only [List.mem_singleton] at hp; subst hp; exact Nat.le_refl _
    · rw [KeysDistinct.append_iff]
      refine ⟨h.distinct, by simp [KeysDistinct], ?_⟩
      intro a ha b hb
      simp only [List.mem_singleton] at hb; subst hb
      rw [KeyOk.same_false_iff (h.proc_ok a ha) hkk]
      intro heq
      rcases hproc_lt a ha with hlt | h0
      · rw [heq] at hlt; exact Nat.lt_irrefl _ hlt
      · have := h.count_eq; rw [h0] at this
        have : proc = [] := List.eq_nil_of_length_eq_zero this.symm
        subst this; simp at ha
  obtain ⟨c1, c2, c3, c4, c5, c6⟩ := hcommon
  -- the parts that depend on the branch
  have hsizeok := fill_size_le hT h.hinv h.init_lt
  have hnewsize : (newSingleElement cfg.T cfg.addr k v c).1.size ≤ maxInlineMapElem T := hel.size_le hT rfl
  have hbranch : HI T r D (appendNew cfg st (k.dig 0) k v c).1.elements ∧
      (∀ s ∈ (appendNew cfg st (k.dig 0) k v c).1.slabs, HI T r D s.elems) ∧
      (∀ s ∈ (appendNew cfg st (k.dig 0) k v c).1.slabs, ∀ hk ∈ s.elems.hkeys, hk < k.dig 0) ∧
      (appendNew cfg st (k.dig 0) k v c).1.elements.hkeys.getLast? = some (k.dig 0) ∧
      mapDataSlabPrefixSize + hkeyElementsPrefixSize +
        HkeyElems.elemSizes (MElems.ops r) (appendNew cfg st (k.dig 0) k v c).1.elements.elems.dropLast < T ∧
      (∀ s ∈ (appendNew cfg st (k.dig 0) k v c).1.slabs, MDataInv T D false s) ∧
      ((appendNew cfg st (k.dig 0) k v c).1.slabs.flatMap (fun s => s.elems.hkeys) ++
        (appendNew cfg st (k.dig 0) k v c).1.elements.hkeys).Pairwise (· < ·) ∧
      ChainTo (appendNew cfg st (k.dig 0) k v c).1.slabs (appendNew cfg st (k.dig 0) k v c).1.id ∧
      ((appendNew cfg st (k.dig 0) k v c).1.id.addr = cfg.addr ∧
        ∀ s ∈ (appendNew cfg st (k.dig 0) k v c).1.slabs, s.hdr.id.addr = cfg.addr) := by
    have hclosed_lt : ∀ s ∈ st.slabs, ∀ hk ∈ s.elems.hkeys, hk < k.dig 0 := by
      intro s hs hk hhk
      have h1 := h.closed_lt s hs hk hhk
      rcases hnew with h0 | hgt
      · rw [(h.zero h0).2] at hs; simp at hs
      · exact Nat.lt_trans h1 hgt
    have hall_lt : ∀ a ∈ st.slabs.flatMap (fun s => s.elems.hkeys) ++ st.elements.hkeys, a < k.dig 0 := by
      intro a ha
      rcases List.mem_append.mp ha with ha | ha
      · obtain ⟨s, hs, has⟩ := List.mem_flatMap.mp ha
        exact hclosed_lt s hs a has
      · exact hlt_all a ha
    obtain ⟨st0, e, ⟨hclose, rfl⟩ | ⟨hno, rfl⟩⟩ := appendNew_cases cfg st (k.dig 0) k v c <;> rw [e]
    · -- a data slab is closed, the new pair starts the next one
      refine ⟨?_, ?_, ?_, by simp [emptyElems], ?_, ?_, ?_, ?_, ?_⟩
      · exact hi_push hi_empty (k.dig 0) _ (by simp [emptyElems]) hel
      · intro s hs
        simp only [List.mem_append, List.mem_singleton] at hs
        rcases hs with hs | rfl
        · exact h.closed_inv s hs
        · exact h.hinv
      · intro s hs hk hhk
        simp only [List.mem_append, List.mem_singleton] at hs
        rcases hs with hs | rfl
        · exact hclosed_lt s hs hk hhk
        · exact hlt_all hk hhk
      · simp only [emptyElems, List.nil_append, List.dropLast_singleton, HkeyElems.elemSizes, List.map_nil,
          List.sum_nil, mapDataSlabPrefixSize, hkeyElementsPrefixSize]
        exact Nat.lt_of_lt_of_le (by decide) hB.1
      · intro s hs
        simp only [List.mem_append, List.mem_singleton] at hs
        rcases hs with hs | rfl
        · exact h.closed_data s hs
        · rw [mdataInv_iff hT]
          refine ⟨⟨(elemsInv_succ_iff T (r + 1) D r 0 [] st.elements).2 h.hinv, rfl, rfl, rfl, by simp [mkData]⟩,
            hsizeok.1, ?_⟩
          intro _
          simp only [Bool.or_eq_true, decide_eq_true_eq, hc.hT] at hclose hnewsize
          exact closed_min hB.1 hnewsize hclose
      · simp only [List.flatMap_append, List.flatMap_cons, List.flatMap_nil, List.append_nil, emptyElems,
          List.nil_append, mkData]
        rw [List.pairwise_append]
        exact ⟨h.all_sorted, by simp, fun a ha b hb => by
          simp only [List.mem_singleton] at hb; subst hb; exact hall_lt a ha⟩
      · rw [chainTo_append]
        exact ⟨by simpa [firstId, mkData] using h.chain, by simp [ChainTo, mkData]⟩
      · refine ⟨rfl, ?_⟩
        intro s hs
        simp only [List.mem_append, List.mem_singleton] at hs
        rcases hs with hs | rfl
        · exact h.addr_ok.2 s hs
        · exact h.addr_ok.1
    · refine ⟨hi_push h.hinv (k.dig 0) _ hlt_all hel, h.closed_inv, hclosed_lt, by simp, ?_, h.closed_data, ?_,
        h.chain, h.addr_ok⟩
      · simp only [List.dropLast_concat]
        simp only [Bool.or_eq_true, decide_eq_true_eq, not_or, Nat.not_le, hc.hT] at hno
        rw [Nat.add_assoc, ← h.hinv.size_eq]
        exact hno.1
      · rw [← List.append_assoc, List.pairwise_append]
        exact ⟨h.all_sorted, by simp, fun a ha b hb => by
          simp only [List.mem_singleton] at hb; subst hb; exact hall_lt a ha⟩
  obtain ⟨b1, b2, b3, b4, b5, b6, b7, b8, b9⟩ := hbranch
  refine ⟨b1, b2, by rw [fp]; exact b3, fun _ => by rw [fp]; exact b4, ?_, c1, c2, c3, c4, c5, c6, b5, b6, b7, b8, b9⟩
  intro h0; rw [fc] at h0; exact absurd h0 (Nat.succ_ne_zero _)

/-- the state after a successful collision step -/
def collideState (st : FillState r) (e' : MElemF (MElems r)) (prevSize : Nat) : FillState r :=
  { st with
    elements :=
      { st.elements with
        elems := st.elements.elems.set (st.elements.elems.length - 1) e',
        size := st.elements.size + e'.size (MElems.ops r) - prevSize },
    count := st.count + 1 }

/-- the pairs of the table's last element are pairs of the state -/
theorem fillPairs_last {st : FillState r} {prev : MElemF (MElems r)}
    (hpe : st.elements.elems[st.elements.elems.length - 1]? = some prev) :
    ∃ P, fillPairs st = P ++ prev.toList (MElems.ops r) ∧
      ∀ e' sz, fillPairs (collideState st e' sz) = P ++ e'.toList (MElems.ops r) := by
  have hdrop : st.elements.elems.drop (st.elements.elems.length - 1 + 1) = [] :=
    List.drop_eq_nil_of_le (Nat.le_succ_of_pred_le (Nat.le_refl _))
  refine ⟨st.slabs.flatMap (fun s => HkeyElems.toList (MElems.ops r) s.elems) ++
    (st.elements.elems.take (st.elements.elems.length - 1)).flatMap (MElemF.toList (MElems.ops r)), ?_, fun e' sz => ?_⟩
  · unfold fillPairs HkeyElems.toList
    rw [flatMap_split _ hpe, hdrop]; simp
  · unfold fillPairs HkeyElems.toList collideState
    simp only
    rw [flatMap_set _ hpe, hdrop]; simp

/-- the pairs after a collision step: the pair `p` that the last element took in has been added -/
theorem collideState_pairs {st : FillState r} {prev e' : MElemF (MElems r)}
    (hpe : st.elements.elems[st.elements.elems.length - 1]? = some prev) {A B : List (MKey × Elem)}
    {p : MKey × Elem} (hA : prev.toList (MElems.ops r) = A ++ B) (hB : e'.toList (MElems.ops r) = A ++ p :: B)
    (sz : Nat) : (fillPairs (collideState st e' sz)).Perm (fillPairs st ++ [p]) := by
  obtain ⟨P, h1, h2⟩ := fillPairs_last hpe
  rw [h1, h2, hA, hB, List.append_assoc]
  exact List.Perm.append_left P (List.perm_middle.trans (List.perm_append_singleton _ _).symm)
/-- The collision step: the new pair goes through the last element's `Set`; it is accepted iff its
    key did not occur before, and rejected as a duplicate otherwise. -/
theorem collide_ok (hT : legalThreshold T = true) {cfg : MCfg} (hc : CfgFor cfg T (r + 1))
    {st : FillState r} {proc : List (MKey × Elem)} (h : MFillOk T r D cfg st proc)
    (k : MKey) (v : Elem) (c : Ctx) (hkk : KeyOk T (r + 1) D k) (hv : ValueOkM v)
    (hcnt : 0 < st.count) (hd : k.dig 0 = st.prevHkey) :
    (∃ st' c', collide cfg st k v c = .ok (st', c') ∧ MFillOk T r D cfg st' (proc ++ [(k, v)]) ∧
      ∀ p ∈ proc, p.1 ≠ k) ∨
    (∃ c', collide cfg st k v c = .error (.duplicateKey, c') ∧ ∃ p ∈ proc, p.1 = k) := by
  have S := MElems.opsSpec D hT hc r
  have hl := h.last_key hcnt
  obtain ⟨prevElem, hlastE, hpe', hEl⟩ := h.last_elem hcnt
  have hp1 : k.digs.take (0 + 1) = [] ++ [st.prevHkey] := by
    have := hkk.take_succ (ℓ := 0) (Nat.succ_pos r)
    rw [this, hd]; simp
  obtain ⟨e', old, c', hs, hEl', heff, _, _⟩ := hEl.set S hT hc (by rw [Nat.zero_add]) hkk hp1 hv c
  have hmem_last : ∀ q, q ∈ prevElem.toList (MElems.ops r) → q ∈ fillPairs st := by
    intro q hq
    obtain ⟨P, hP, _⟩ := fillPairs_last hpe'
    rw [hP]; exact List.mem_append_right _ hq
  unfold collide
  simp only [hlastE, hs]
  cases old with
  | some v0 =>
    right
    refine ⟨c', by simp, ?_⟩
    rcases heff with ⟨ho, _⟩ | ⟨v1, A, B, _, hA, _⟩
    · cases ho
    · have hin : (k, v1) ∈ fillPairs st := hmem_last _ (by rw [hA]; simp)
      obtain ⟨cs, _, hperm⟩ := h.perm
      obtain ⟨a, ha, b, hab⟩ := mem_zipWith_left _ _ _ _ (hperm.mem_iff.mp hin)
      exact ⟨a, ha, by simpa using (congrArg Prod.fst hab).symm⟩
  | none =>
    left
    have hfirst : (∀ p ∈ prevElem.toList (MElems.ops r), p.1 ≠ k) ∧
        ∃ A B, prevElem.toList (MElems.ops r) = A ++ B ∧
          e'.toList (MElems.ops r) = A ++ (k, storedValue cfg k v c) :: B := by
      rcases heff with ⟨_, hne, A, B, hA, hB⟩ | ⟨v1, A, B, ho, _, _⟩
      · exact ⟨hne, A, B, hA, hB⟩
      · cases ho
    obtain ⟨hne, A, B, hA, hB⟩ := hfirst
    have hnotin : ∀ p ∈ proc, p.1 ≠ k := by
      intro p hp hpk
      obtain ⟨v', hv'⟩ := h.keys_in p hp
      obtain ⟨el, hel, hq⟩ := pair_in_last hT hc h hcnt hv' (by simp only; rw [hpk]; exact hd)
      rw [hlastE] at hel
      cases hel
      exact hne _ hq hpk
    refine ⟨collideState st e' (prevElem.size (MElems.ops r)), c', by simp [collideState], ?_, hnotin⟩
    have hperm' := collideState_pairs hpe' hA hB (prevElem.size (MElems.ops r))
    refine ⟨hi_setLast h.hinv st.prevHkey prevElem e' hlastE hl hEl', h.closed_inv, h.closed_lt,
      fun _ => hl, fun h0 => by simp [collideState] at h0, by simp [collideState, h.count_eq], ?_, ?_, ?_, ?_, ?_, ?_,
      h.closed_data, h.all_sorted, h.chain, h.addr_ok⟩
    · intro p hp
      rcases List.mem_append.mp hp with hp | hp
      · exact h.proc_ok p hp
      · simp only [List.mem_singleton] at hp; subst hp; exact hkk
    · intro p hp
      rcases List.mem_append.mp hp with hp | hp
      · obtain ⟨v', hv'⟩ := h.keys_in p hp
        exact ⟨v', hperm'.mem_iff.2 (List.mem_append_left _ hv')⟩
      · simp only [List.mem_singleton] at hp; subst hp
        exact ⟨storedValue cfg k v c, hperm'.mem_iff.2 (List.mem_append_right _ (List.mem_singleton_self _))⟩
    · obtain ⟨cs, hcs, hperm⟩ := h.perm
      refine ⟨cs ++ [c], by simp [hcs], ?_⟩
      rw [zipWith_append_single _ _ _ _ _ hcs]
      exact hperm'.trans (hperm.append_right _)
    · intro p hp
      rcases List.mem_append.mp hp with hp | hp
      · exact h.le_prev p hp
      · simp only [List.mem_singleton] at hp; subst hp; exact Nat.le_of_eq hd
    · rw [KeysDistinct.append_iff]
      refine ⟨h.distinct, by simp [KeysDistinct], ?_⟩
      intro a ha b hb
      simp only [List.mem_singleton] at hb; subst hb
      rw [KeyOk.same_false_iff (h.proc_ok a ha) hkk]
      exact hnotin a ha
    · simp only [collideState, dropLast_set_last]
      exact h.init_lt

/-- The element loop under the invariant.  Soundness: whatever it accepts leaves a valid state
    that holds exactly the accepted pairs (in particular the accepted keys are pairwise different).
    Completeness: a stream that is sorted by first-level digest and free of duplicate keys is
    accepted. -/
theorem mfill_ok (hT : legalThreshold T = true) {cfg : MCfg} (hc : CfgFor cfg T (r + 1))
    (kvs : List (MKey × Elem)) (hkv : ∀ p ∈ kvs, KeyOk T (r + 1) D p.1 ∧ ValueOkM p.2) :
    ∀ (proc : List (MKey × Elem)) (st : FillState r) (c : Ctx), MFillOk T r D cfg st proc →
      (∀ st' c', fillLoop cfg kvs st c = .ok (st', c') → MFillOk T r D cfg st' (proc ++ kvs)) ∧
      ((kvs.map (fun p => p.1.dig 0)).Pairwise (· ≤ ·) → (∀ p ∈ kvs, st.prevHkey ≤ p.1.dig 0) →
        KeysDistinct (proc ++ kvs) → ∃ st' c', fillLoop cfg kvs st c = .ok (st', c')) := by
  induction kvs with
  | nil =>
    intro proc st c h
    refine ⟨?_, fun _ _ _ => ⟨st, c, rfl⟩⟩
    intro st' c' heq
    simp only [fillLoop, Except.ok.injEq, Prod.mk.injEq] at heq
    rw [← heq.1, List.append_nil]; exact h
  | cons p kvs ih =>
    intro proc st c h
    obtain ⟨k, v⟩ := p
    obtain ⟨hkk, hv⟩ := hkv (k, v) (by simp)
    have hkv' : ∀ q ∈ kvs, KeyOk T (r + 1) D q.1 ∧ ValueOkM q.2 := fun q hq => hkv q (by simp [hq])
    have happ : proc ++ (k, v) :: kvs = (proc ++ [(k, v)]) ++ kvs := by simp
    unfold fillLoop
    simp only
    by_cases h1 : k.dig 0 < st.prevHkey
    · simp only [h1, if_true]
      refine ⟨by intro st' c' heq; simp at heq, ?_⟩
      intro _ hge _
      have := hge (k, v) (by simp)
      simp only at this; omega
    · simp only [h1, if_false]
      by_cases h2 : k.dig 0 = st.prevHkey ∧ st.count > 0
      · simp only [h2, and_self, if_true]
        rcases collide_ok hT hc h k v c hkk hv h2.2 h2.1 with ⟨st1, c1, hcol, hok, _⟩ | ⟨c1, hcol, q, hq, hqk⟩
        · rw [hcol]
          simp only
          obtain ⟨ihA, ihB⟩ := ih hkv' (proc ++ [(k, v)]) st1 c1 hok
          obtain ⟨_, fprev, _, _⟩ := collide_state cfg st st1 k v c c1 hcol
          refine ⟨by rw [happ]; exact ihA, ?_⟩
          intro hs hge hdist
          simp only [List.map_cons, List.pairwise_cons, List.mem_map, forall_exists_index, and_imp] at hs
          refine ihB hs.2 ?_ (by rw [← happ]; exact hdist)
          intro q hq
          rw [fprev, ← h2.1]
          exact hs.1 _ q hq rfl
        · rw [hcol]
          refine ⟨by intro st' c' heq; simp at heq, ?_⟩
          intro _ _ hdist
          rw [KeysDistinct.append_iff] at hdist
          have := hdist.2.2 q hq (k, v) (by simp)
          simp only at this
          rw [hqk, MKey.same_self] at this
          cases this
      · simp only [h2, if_false]
        have hnew : st.count = 0 ∨ st.prevHkey < k.dig 0 := by
          rcases Nat.eq_zero_or_pos st.count with h0 | h0
          · exact Or.inl h0
          · right
            have : k.dig 0 ≠ st.prevHkey := fun he => h2 ⟨he, h0⟩
            omega
        have hok := appendNew_ok hT hc h k v c hkk hv hnew
        obtain ⟨ihA, ihB⟩ := ih hkv' (proc ++ [(k, v)]) (appendNew cfg st (k.dig 0) k v c).1
          (appendNew cfg st (k.dig 0) k v c).2 hok
        obtain ⟨_, fprev⟩ := appendNew_count_prev cfg st (k.dig 0) k v c
        refine ⟨by rw [happ]; exact ihA, ?_⟩
        intro hs hge hdist
        simp only [List.map_cons, List.pairwise_cons, List.mem_map, forall_exists_index, and_imp] at hs
        refine ihB hs.2 ?_ (by rw [← happ]; exact hdist)
        intro q hq
        rw [fprev]
        exact hs.1 _ q hq rfl

theorem mfill_init (hT : legalThreshold T = true) (cfg : MCfg) (id : SlabID) (hid : id.addr = cfg.addr) :
    MFillOk T r D cfg (fillInit r id) [] := by
  have hB := map_legal_bounds hT
  refine ⟨hi_empty, by simp, by simp, by simp, fun _ => ⟨rfl, rfl⟩, rfl, by simp, by simp, ⟨[], rfl, ?_⟩,
    by simp, by simp [KeysDistinct], ?_, by simp, by simp [emptyElems], by simp [ChainTo], ⟨hid, by simp⟩⟩
  · simp [fillPairs, emptyElems, HkeyElems.toList]
  · simp only [emptyElems, List.dropLast_nil, HkeyElems.elemSizes, List.map_nil, List.sum_nil,
      mapDataSlabPrefixSize, hkeyElementsPrefixSize]
    omega

end Atree

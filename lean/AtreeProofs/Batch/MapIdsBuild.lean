import AtreeProofs.Batch.MapIdsFill
import AtreeProofs.Batch.MapIdsLevels
import AtreeProofs.Batch.MapInvBuild
import AtreeProofs.Map.Ids
/-
  C17, bulk build of maps — slab identifiers: the whole `NewMapFromBatchData`.
  Every slab identifier of the result (data slabs, index slabs, external collision groups) and every
  identifier of a large-value slab referenced by a stored pair was allocated during the call, they
  are pairwise different and of the owner address; every stored pair represents an input pair and
  its reference (if any) resolves to the input value.
-/
namespace Atree
open Gen MTree MBatch

variable {T r : Nat} {D : DigestFn (r + 1)}

theorem lvlIds_datas (L : List (MDataSlab r)) : lvlIds 0 (asMDatas L) = L.flatMap dataIds := by
  induction L with
  | nil => rfl
  | cons s L ih =>
    show CtxOk.mapSlabIds 0 (ofMData s) ++ lvlIds 0 (asMDatas L) = _
    rw [ih]
    show CtxOk.mapSlabIds 0 s ++ _ = _
    rw [mapSlabIds_zero]
    rfl

theorem lvlIds_fillSlabs (st : FillState r) : lvlIds 0 (fillSlabs st) = fillIds st := by
  have : fillSlabs st = asMDatas (st.slabs ++ [mkData st.id SlabID.undef st.elements]) := rfl
  rw [this, lvlIds_datas, List.flatMap_append]
  simp [fillIds, dataIds, mkData]

/-- The bulk build and identifiers.  `P` = "the created-slab table of the starting context is
    sound"; the identifier clause holds regardless. -/
theorem fromBatchData_ids (hT : legalThreshold T = true) {cfg : MCfg} (hc : CfgFor cfg T (r + 1))
    (ty seed : Nat) (kvs : List (MKey × Elem)) (hkv : ∀ p ∈ kvs, KeyOk T (r + 1) D p.1 ∧ ValueOkM p.2)
    (c : Ctx) (m : OMap r) (c' : Ctx) (h : OMap.fromBatchData cfg ty seed kvs c = .ok (m, c')) :
    FreshIds cfg.addr c.ctr c'.ctr (m.slabIds ++ m.refIds) ∧ c.ctr < c'.ctr ∧
    (CreatedTableOk cfg.addr c → CreatedTableOk cfg.addr c' ∧
      ∀ p ∈ m.toList, ∃ v, (p.1, v) ∈ kvs ∧ Represents cfg.T c'.created p.1 v p.2) := by
  obtain ⟨_, st0, cf0, hfill0, h⟩ := (fromBatchData_ok_iff cfg ty seed kvs c m c').1 h
  have hto : m.toList = fillPairs st0 := by rw [(mlevels_content _ _ _ _ _ _ _ _ _ _ _ h).1, fillSlabs_toList]
  have hI : MFillIds cfg c.ctr (CreatedTableOk cfg.addr c) st0 kvs cf0 := by
    have := mfill_ids (D := D) hT hc c.ctr (CreatedTableOk cfg.addr c) kvs hkv [] _ (c.alloc cfg.addr).2
      (mfill_init (D := D) hT cfg (c.alloc cfg.addr).1 rfl)
      (mfillIds_init cfg c (CreatedTableOk cfg.addr c) id) st0 cf0 hfill0
    simpa using this
  have hF : FreshIds cfg.addr c.ctr cf0.ctr (lvlIds 0 (fillSlabs st0) ++ OMap.refsOf (fillPairs st0)) := by
    rw [lvlIds_fillSlabs]; exact hI.ids
  obtain ⟨b1, b2, b3⟩ := mlevels_ids cfg.T cfg.addr ty st0.count seed c.ctr (OMap.refsOf (fillPairs st0))
    _ 0 (fillSlabs st0) cf0 m c' h hF
  have hrefs : m.refIds = OMap.refsOf (fillPairs st0) := by unfold OMap.refIds; rw [hto]
  rw [hrefs]
  refine ⟨b1, ?_, ?_⟩
  · have hroot := (b1.fresh (List.mem_append.mpr (Or.inl m.rootID_mem_slabIds))).2
    omega
  · intro hP
    refine ⟨?_, ?_⟩
    · intro p hp ha
      rw [b3] at hp
      have := hI.created hP p hp ha
      omega
    · intro p hp
      rw [hto] at hp
      rw [b3]
      exact hI.repr hP p hp

end Atree

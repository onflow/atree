import AtreeProofs.Batch.MapFill
import AtreeProofs.Map.EffectsTree
import AtreeProofs.Map.Refs
import AtreeProofs.Batch.Stored
/-
  C17, bulk build of maps — slab identifiers: the element loop of `NewMapFromBatchData`
  (`MBatch.fillLoop`).  The invariant `MFillIds` stands beside `MFillOk` (Batch/MapFill.lean):
  the identifiers of the data slabs closed so far, of the slab
  being filled, of the external collision groups and of the large-value slabs referenced by the
  stored pairs are pairwise different, of the owner address, allocated during the call; every
  stored pair represents one input pair, and a reference resolves (in `Ctx.created`) to the input
  value.
-/
namespace Atree
open Gen MTree MBatch

variable {T r : Nat} {D : DigestFn (r + 1)}

/-- identifiers of a data slab: its own and those of its external collision groups -/
def dataIds (s : MDataSlab r) : List SlabID := s.hdr.id :: extIds s.elems.elems

/-- tree identifiers held by the state of the element loop -/
def fillIds (st : FillState r) : List SlabID :=
  st.slabs.flatMap dataIds ++ (st.id :: extIds st.elements.elems)

/-- identifier part of the loop invariant (after the pairs `proc`, in context `c`, for a call that
    started with the allocation counter at `c0`) -/
structure MFillIds (cfg : MCfg) (c0 : Nat) (P : Prop) (st : FillState r) (proc : List (MKey × Elem)) (c : Ctx) :
    Prop where
  ids : FreshIds cfg.addr c0 c.ctr (fillIds st ++ OMap.refsOf (fillPairs st))
  /-- `P` = "the created-slab table of the context the call started from was sound" (`CreatedTableOk`);
      the identifier clause above does not depend on it -/
  created : P → CreatedTableOk cfg.addr c
  repr : P → ∀ p ∈ fillPairs st, ∃ v, (p.1, v) ∈ proc ∧ Represents cfg.T c.created p.1 v p.2

theorem extIds_single {α : Type} (e : MElemF α) : extIds [e] = e.extId?.toList := by
  cases e <;> rfl

theorem refsOf_perm {A B : List (MKey × Elem)} (h : A.Perm B) : (OMap.refsOf A).Perm (OMap.refsOf B) :=
  h.filterMap _

theorem refsOf_single (k : MKey) (e : Elem) : OMap.refsOf [(k, e)] = e.refId?.toList := by
  rw [OMap.refsOf_cons, OMap.refsOf_nil, List.append_nil, OMap.refOf, Elem.refId?]
  cases e.pay <;> rfl

/-- Common part of both kinds of loop step: the new state holds one more pair — the stored form of
    `(k, v)` — and the tree identifiers `news`, allocated after the value was stored. -/
theorem mfillIds_step {cfg : MCfg} {c0 : Nat} {P : Prop} {st st' : FillState r} {proc : List (MKey × Elem)}
    {c c' : Ctx} (h : MFillIds cfg c0 P st proc c) (k : MKey) {v : Elem} (hv : ValueOkM v)
    (hpairs : (fillPairs st').Perm (fillPairs st ++ [(k, storedValue cfg k v c)]))
    (hcr : c'.created = (newSingleElement cfg.T cfg.addr k v c).2.created) (news : List SlabID)
    (hnews : FreshIds cfg.addr (newSingleElement cfg.T cfg.addr k v c).2.ctr c'.ctr news)
    (hids : (fillIds st').Perm (fillIds st ++ news)) :
    MFillIds cfg c0 P st' (proc ++ [(k, v)]) c' := by
  have S : ValStored (maxInlineMapValue cfg.T k.size) cfg.addr v c (storedValue cfg k v c)
      (newSingleElement cfg.T cfg.addr k v c).2 := toStorableLim_valStored _ _ hv.2 c
  obtain ⟨ext, hext⟩ := S.ext
  refine ⟨?_, fun hP p hp ha => ?_, fun hP p hp => ?_⟩
  · refine ((h.ids.append_new S.ids).append_new hnews).perm
      ((hids.append (refsOf_perm hpairs)).trans ?_)
    rw [OMap.refsOf_append, refsOf_single]
    exact (perm_store_ids _ _ _ _).trans (List.perm_append_comm_assoc ..)
  · exact Nat.le_trans (S.table (h.created hP) p (hcr ▸ hp) ha) hnews.1
  · rw [hcr]
    rcases List.mem_append.1 (hpairs.mem_iff.1 hp) with hp | hp
    · obtain ⟨v0, hv0, hr⟩ := h.repr hP p hp
      exact ⟨v0, List.mem_append_left _ hv0, by rw [hext]; exact represents_iff.2 ((represents_iff.1 hr).append ext)⟩
    · rw [List.mem_singleton.1 hp]
      exact ⟨v, List.mem_append_right _ (List.mem_singleton_self _), represents_iff.2 (S.repr (h.created hP))⟩

theorem appendNew_ids (cfg : MCfg) (st : FillState r) (hkey : Nat) (k : MKey) (v : Elem) (c : Ctx) :
    (appendNew cfg st hkey k v c).2.created = (newSingleElement cfg.T cfg.addr k v c).2.created ∧
    ∃ news, fillIds (appendNew cfg st hkey k v c).1 = fillIds st ++ news ∧
      FreshIds cfg.addr (newSingleElement cfg.T cfg.addr k v c).2.ctr (appendNew cfg st hkey k v c).2.ctr news := by
  unfold appendNew
  simp only
  split
  · refine ⟨rfl, [_], ?_, .single_next _ _⟩
    simp [fillIds, dataIds, MBatch.mkData, MBatch.emptyElems, extIds, Ctx.alloc, List.flatMap_append]
  · refine ⟨rfl, [], ?_, .nil (Nat.le_refl _)⟩
    simp [fillIds, extIds, List.filterMap_append]

theorem appendNew_fillIds {cfg : MCfg} {c0 : Nat} {P : Prop} {st : FillState r} {proc : List (MKey × Elem)}
    {c : Ctx} (h : MFillIds cfg c0 P st proc c) (hkey : Nat) (k : MKey) {v : Elem} (hv : ValueOkM v) :
    MFillIds cfg c0 P (appendNew cfg st hkey k v c).1 (proc ++ [(k, v)]) (appendNew cfg st hkey k v c).2 := by
  obtain ⟨hcr, news, hids, hnews⟩ := appendNew_ids cfg st hkey k v c
  exact mfillIds_step h k hv (by rw [appendNew_pairs]) hcr news hnews (by rw [hids])

/-- What `element.Set` of a first-level element does to the context when it stores a new key:
    the value is stored exactly as by `newSingleElement`, after which either nothing else is
    allocated and the external-group identifier of the element (if any) is unchanged, or the
    element had no external group and is exported to a group slab under the next identifier
    (`news`). -/
theorem elem_set0_new {α : Type} {o : ElemsOps α} {cfg : MCfg} {P : α → Prop} (hC : OpsCtx cfg o P)
    {el el' : MElemF α} (hF : FirstOk P el) {k : MKey} {v : Elem} {c : Ctx}
    {ks : MKey} {c' : Ctx} (h : el.set o cfg 0 k v c = .ok (el', ks, none, c')) :
    c'.created = (newSingleElement cfg.T cfg.addr k v c).2.created ∧
    ∃ news, el'.extId?.toList = el.extId?.toList ++ news ∧
      FreshIds cfg.addr (newSingleElement cfg.T cfg.addr k v c).2.ctr c'.ctr news := by
  have hnew : (newSingleElement cfg.T cfg.addr k v c).2 = storeCtx cfg k v c := rfl
  rw [hnew]
  rcases MElemF.set_cases h with ⟨x, rfl, _, _, _, rfl, rfl⟩ | ⟨g, hg, hin⟩ | ⟨id, sz, s, g', c1, rfl, hset, rfl, rfl⟩
  · exact ⟨rfl, [], (List.append_nil _).symm, .nil (Nat.le_refl _)⟩
  · have hPg : P g ∧ el.extId? = none := by
      rcases hg with rfl | ⟨x, rfl, _, hn⟩
      · exact ⟨hF, rfl⟩
      · exact ⟨hC.newWith hn, rfl⟩
    obtain ⟨g', c1, hset, hcase⟩ := MElemF.inlSet_cases hin
    obtain rfl : c1 = storeCtx cfg k v c := hC.set_eq hPg.1 (Nat.le_refl 1) hset
    rcases hcase with ⟨_, rfl, rfl⟩ | ⟨_, _, rfl, rfl⟩
    · exact ⟨rfl, [], by rw [hPg.2]; rfl, .nil (Nat.le_refl _)⟩
    · exact ⟨rfl, [_], by rw [hPg.2]; rfl, .single_next _ _⟩
  · obtain rfl : c1 = storeCtx cfg k v c := hC.set_eq hF.2 (Nat.le_refl 1) hset
    exact ⟨rfl, [], (List.append_nil _).symm, .nil (Nat.le_refl _)⟩

theorem collide_fillIds (hT : legalThreshold T = true) {cfg : MCfg} (hc : CfgFor cfg T (r + 1)) {c0 : Nat}
    {P : Prop} {st : FillState r} {proc : List (MKey × Elem)} (h : MFillOk T r D cfg st proc) {c : Ctx}
    (hI : MFillIds cfg c0 P st proc c) (k : MKey) (v : Elem) (hkk : KeyOk T (r + 1) D k) (hv : ValueOkM v)
    (hcnt : 0 < st.count) (hd : k.dig 0 = st.prevHkey) {st' : FillState r} {c' : Ctx}
    (hcol : collide cfg st k v c = .ok (st', c')) :
    MFillIds cfg c0 P st' (proc ++ [(k, v)]) c' := by
  have S := MElems.opsSpec D hT hc r
  obtain ⟨prevElem, hlastE, hpe', hEl⟩ := h.last_elem hcnt
  have hp1 : k.digs.take (0 + 1) = [] ++ [st.prevHkey] := by
    have := hkk.take_succ (ℓ := 0) (by omega)
    rw [this, hd]; simp
  obtain ⟨e', old, c1, hs, _, heff, _, _⟩ := hEl.set S hT hc (by omega) hkk hp1 hv c
  unfold collide at hcol
  simp only [hlastE, hs] at hcol
  cases old with
  | some v0 => simp at hcol
  | none =>
    simp only [Option.isSome_none, Bool.false_eq_true, if_false, Except.ok.injEq, Prod.mk.injEq] at hcol
    obtain ⟨hst, hc1⟩ := hcol
    subst hc1
    -- pairs
    obtain ⟨A, B, hA, hB⟩ : ∃ A B, prevElem.toList (MElems.ops r) = A ++ B ∧
        e'.toList (MElems.ops r) = A ++ (k, storedValue cfg k v c) :: B := by
      rcases heff with ⟨_, _, A, B, hA, hB⟩ | ⟨v1, A, B, ho, _, _⟩
      · exact ⟨A, B, hA, hB⟩
      · cases ho
    have hperm : (fillPairs st').Perm (fillPairs st ++ [(k, storedValue cfg k v c)]) :=
      hst ▸ collideState_pairs hpe' hA hB (prevElem.size (MElems.ops r))
    -- identifiers
    have hF : FirstOk (NoExt r) prevElem :=
      firstOk_of_inv ((elemsInv_succ_iff T (r + 1) D r 0 [] st.elements).2 h.hinv) prevElem
        (List.mem_of_getElem? hpe')
    have hids' : fillIds st' = st.slabs.flatMap dataIds ++ (st.id :: (extIds st.elements.elems.dropLast ++ e'.extId?.toList)) := by
      rw [← hst]
      simp only [fillIds]
      rw [set_last_eq hlastE, extIds_append, extIds_single]
    have hids0 : fillIds st = st.slabs.flatMap dataIds ++ (st.id :: (extIds st.elements.elems.dropLast ++ prevElem.extId?.toList)) := by
      simp only [fillIds]
      conv => lhs; rw [getLast?_split hlastE]
      rw [extIds_append, extIds_single]
    have hcfg : cfg.T = T := hc.hT
    obtain ⟨hcr, news, he, hnews⟩ := elem_set0_new (MElems.opsCtx cfg r) hF hs
    refine mfillIds_step hI k hv hperm hcr news hnews ?_
    rw [hids', hids0, he]
    simp only [List.append_assoc, List.cons_append]
    exact .refl _

theorem mfill_ids (hT : legalThreshold T = true) {cfg : MCfg} (hc : CfgFor cfg T (r + 1)) (c0 : Nat) (P : Prop)
    (kvs : List (MKey × Elem)) (hkv : ∀ p ∈ kvs, KeyOk T (r + 1) D p.1 ∧ ValueOkM p.2) :
    ∀ (proc : List (MKey × Elem)) (st : FillState r) (c : Ctx), MFillOk T r D cfg st proc →
      MFillIds cfg c0 P st proc c →
      ∀ st' c', fillLoop cfg kvs st c = .ok (st', c') → MFillIds cfg c0 P st' (proc ++ kvs) c' := by
  induction kvs with
  | nil =>
    intro proc st c _ hI st' c' heq
    simp only [fillLoop, Except.ok.injEq, Prod.mk.injEq] at heq
    rw [← heq.1, ← heq.2, List.append_nil]; exact hI
  | cons p kvs ih =>
    intro proc st c h hI st' c' heq
    obtain ⟨k, v⟩ := p
    obtain ⟨hkk, hv⟩ := hkv (k, v) (by simp)
    have hkv' : ∀ q ∈ kvs, KeyOk T (r + 1) D q.1 ∧ ValueOkM q.2 := fun q hq => hkv q (by simp [hq])
    have happ : proc ++ (k, v) :: kvs = (proc ++ [(k, v)]) ++ kvs := by simp
    unfold fillLoop at heq
    simp only at heq
    by_cases h1 : k.dig 0 < st.prevHkey
    · simp [h1] at heq
    · simp only [h1, if_false] at heq
      by_cases h2 : k.dig 0 = st.prevHkey ∧ st.count > 0
      · simp only [h2, and_self, if_true] at heq
        rcases collide_ok hT hc h k v c hkk hv h2.2 h2.1 with ⟨st1, c1, hcol, hok, _⟩ | ⟨c1, hcol, _⟩
        · rw [hcol] at heq
          simp only at heq
          have hI1 := collide_fillIds hT hc h hI k v hkk hv h2.2 h2.1 hcol
          rw [happ]
          exact ih hkv' _ _ _ hok hI1 st' c' heq
        · rw [hcol] at heq
          simp at heq
      · simp only [h2, if_false] at heq
        have hnew : st.count = 0 ∨ st.prevHkey < k.dig 0 := by
          rcases Nat.eq_zero_or_pos st.count with h0 | h0
          · exact Or.inl h0
          · right
            have : k.dig 0 ≠ st.prevHkey := fun he => h2 ⟨he, h0⟩
            omega
        have hok := appendNew_ok hT hc h k v c hkk hv hnew
        have hI1 := appendNew_fillIds hI (k.dig 0) k hv
        rw [happ]
        exact ih hkv' _ _ _ hok hI1 st' c' heq

theorem mfillIds_init (cfg : MCfg) (c : Ctx) (P : Prop) (hcr : P → CreatedTableOk cfg.addr c) :
    MFillIds cfg c.ctr P (fillInit r (c.alloc cfg.addr).1) [] (c.alloc cfg.addr).2 := by
  refine ⟨?_, ?_, ?_⟩
  · have : fillIds (fillInit r (c.alloc cfg.addr).1) ++ OMap.refsOf (fillPairs (fillInit r (c.alloc cfg.addr).1)) =
        [⟨cfg.addr, c.ctr + 1⟩] := by
      simp [fillIds, fillPairs, emptyElems, extIds, HkeyElems.toList, OMap.refsOf, Ctx.alloc]
    rw [this]
    exact FreshIds.single_next cfg.addr c.ctr
  · intro hP p hp ha
    have := hcr hP p hp ha
    show p.1.idx ≤ c.ctr + 1
    omega
  · intro _ p hp
    simp [fillPairs, emptyElems, HkeyElems.toList] at hp

end Atree

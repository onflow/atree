import AtreeProofs.Batch.MapContent
import AtreeProofs.Map.TreeDefs
import AtreeProofs.Map.Repair
import AtreeProofs.Batch.FreshIds
import AtreeProofs.MapIds
/-
  C17, bulk build of maps — slab identifiers: the level loop of
  `NewMapFromBatchData` (`MBatch.levels`: tail rebalance, `nextLevelMapSlabs`, root finalisation)
  keeps `FreshIds` (Batch/FreshIds.lean) of the identifiers of the level.
  `extra` is a list of further identifiers handed out by the same allocator (the large-value slabs
  referenced by the elements) that is carried along unchanged by the level loop.
-/
namespace Atree
open Gen MTree MBatch

variable {r : Nat}

def lvlIds (d : Nat) (X : List (MTree r d)) : List SlabID := X.flatMap (CtxOk.mapSlabIds d)

theorem mids_merge (d : Nat) (l x : MTree r d) :
    (CtxOk.mapSlabIds d (MTree.merge d l x)).Sublist (CtxOk.mapSlabIds d l ++ CtxOk.mapSlabIds d x) := by
  obtain ⟨hv, hid⟩ : msubIds d (MTree.merge d l x) = msubIds d l ++ msubIds d x ∧ _ :=
    MTree.merge_view msubIdsView d l x
  rw [mapSlabIds_eq, mapSlabIds_eq d l, mapSlabIds_eq d x, hv, hid]
  exact ((List.Sublist.refl _).append (List.sublist_cons_self _ _)).cons_cons _

theorem mids_lend (T d : Nat) (l x l' x' : MTree r d) (h : MTree.lendToRight T d l x = .ok (l', x')) :
    (CtxOk.mapSlabIds d l' ++ CtxOk.mapSlabIds d x').Perm (CtxOk.mapSlabIds d l ++ CtxOk.mapSlabIds d x) := by
  obtain ⟨hv, h1, h2⟩ : msubIds d l' ++ msubIds d x' = msubIds d l ++ msubIds d x ∧ _ :=
    MTree.lend_view msubIdsView T d l x l' x' h
  rw [mapSlabIds_eq d l', mapSlabIds_eq d x', mapSlabIds_eq d l, mapSlabIds_eq d x, h1, h2]
  exact perm_cons_append_cons _ _ hv

/-- "Rebalance last slab if needed" creates no identifier and duplicates none -/
theorem mrebalanceTail_ids (T d : Nat) (X R : List (MTree r d))
    (h : MBatch.rebalanceTail T d X = .ok R) : (lvlIds d R).Subperm (lvlIds d X) := by
  refine mrebalanceTail_rule T d (P := fun X R => (lvlIds d R).Subperm (lvlIds d X))
    (fun _ => List.Subperm.refl _) ?_ ?_ [] X R h
  · intro A l x l' x' hl
    simp only [lvlIds, List.flatMap_append, List.flatMap_cons, List.flatMap_nil, List.append_nil]
    exact (List.subperm_append_left _).2 (mids_lend T d l x l' x' hl).subperm
  · intro A l x
    simp only [lvlIds, List.flatMap_append, List.flatMap_cons, List.flatMap_nil, List.append_nil]
    exact (List.subperm_append_left _).2 (mids_merge d l x).subperm

theorem mstoreAll_ctr_created (d : Nat) (X : List (MTree r d)) (c : Ctx) :
    (MBatch.storeAll d X c).ctr = c.ctr ∧ (MBatch.storeAll d X c).created = c.created := by
  unfold MBatch.storeAll
  induction X generalizing c with
  | nil => exact ⟨rfl, rfl⟩
  | cons x X ih =>
    simp only [List.foldl_cons]
    obtain ⟨h1, h2⟩ := ih (c.emit (.store (hdr d x).id))
    exact ⟨h1, h2⟩

theorem mnextLevelLoop_hdrIds (maxN addr d : Nat) (ss : List (MTree r d))
    (cur : MMetaSlab (MTree r d)) (done : List (MMetaSlab (MTree r d))) (c : Ctx) :
    ∃ news, (MBatch.nextLevelLoop maxN addr d ss cur done c).1.map (·.hdr.id) =
        done.map (·.hdr.id) ++ cur.hdr.id :: news ∧
      FreshIds addr c.ctr (MBatch.nextLevelLoop maxN addr d ss cur done c).2.ctr news ∧
      (MBatch.nextLevelLoop maxN addr d ss cur done c).2.created = c.created := by
  obtain ⟨done', cur', c', e, news, h1, h2, h3⟩ := mnextLevelLoop_rule maxN addr d ss
    (I := fun _ cur' done' c' => ∃ news, (done' ++ [cur']).map (·.hdr.id) =
      done.map (·.hdr.id) ++ cur.hdr.id :: news ∧ FreshIds addr c.ctr c'.ctr news ∧ c'.created = c.created)
    (fun _ s _ cur' done' c' _ ⟨news, h1, h2, h3⟩ _ =>
      ⟨news ++ [(⟨addr, c'.ctr + 1⟩ : SlabID)], by
        rw [List.map_append, h1]; simp only [List.map_cons, List.map_nil, maddChild_hdr_id, memptyMeta_hdr_id,
          Ctx.alloc_id, List.append_assoc, List.cons_append],
        (Ctx.alloc_ctr c' addr).symm ▸ h2.snoc_alloc, h3⟩)
    (fun _ s _ cur' done' c' _ ⟨news, h1, h2, h3⟩ _ => ⟨news, by
      rw [← h1]; simp only [List.map_append, List.map_cons, List.map_nil, maddChild_hdr_id], h2, h3⟩)
    ss [] cur done c rfl ⟨[], by simp, FreshIds.nil (Nat.le_refl _), rfl⟩
  rw [e]
  exact ⟨news, h1, h2, h3⟩

theorem mids_metas (d : Nat) (R : List (MMetaSlab (MTree r d))) :
    (lvlIds (d + 1) (asMMetas R)).Perm (R.map (·.hdr.id) ++ lvlIds d (R.flatMap (·.children))) := by
  induction R with
  | nil => exact List.Perm.refl _
  | cons m R ih =>
    show List.Perm (CtxOk.mapSlabIds (d + 1) (ofMMeta m) ++ lvlIds (d + 1) (asMMetas R)) _
    have : CtxOk.mapSlabIds (d + 1) (ofMMeta m) = m.hdr.id :: lvlIds d m.children := mapSlabIds_succ m
    rw [this]
    simp only [List.map_cons, List.flatMap_cons, List.cons_append, lvlIds, List.flatMap_append]
    refine List.Perm.cons _ ?_
    have ih' : List.Perm (List.flatMap (CtxOk.mapSlabIds (d + 1)) (asMMetas R))
        (R.map (·.hdr.id) ++ (R.flatMap (·.children)).flatMap (CtxOk.mapSlabIds d)) := ih
    refine (List.Perm.append_left _ ih').trans ?_
    rw [← List.append_assoc, ← List.append_assoc]
    exact List.Perm.append_right _ List.perm_append_comm

/-- `nextLevelMapSlabs`: the identifiers of the new level are those of the old level plus freshly
    allocated, pairwise different identifiers of the index slabs -/
theorem mnextLevel_ids (T addr d : Nat) (X : List (MTree r d)) (c : Ctx) :
    ∃ news, (lvlIds (d + 1) (nextLevelMapSlabs T addr d X c).1).Perm (news ++ lvlIds d X) ∧
      FreshIds addr c.ctr (nextLevelMapSlabs T addr d X c).2.ctr news ∧
      (nextLevelMapSlabs T addr d X c).2.created = c.created := by
  have h : ∀ fk, ∃ news, (lvlIds (d + 1) (asMMetas (MBatch.nextLevelLoop
        ((maxThr T - mapMetaDataSlabPrefixSize) / mapSlabHeaderSize) addr d X
        (MBatch.emptyMeta d (c.alloc addr).1 fk) [] (c.alloc addr).2).1)).Perm (news ++ lvlIds d X) ∧
      FreshIds addr c.ctr (MBatch.nextLevelLoop
        ((maxThr T - mapMetaDataSlabPrefixSize) / mapSlabHeaderSize) addr d X
        (MBatch.emptyMeta d (c.alloc addr).1 fk) [] (c.alloc addr).2).2.ctr news ∧
      (MBatch.nextLevelLoop
        ((maxThr T - mapMetaDataSlabPrefixSize) / mapSlabHeaderSize) addr d X
        (MBatch.emptyMeta d (c.alloc addr).1 fk) [] (c.alloc addr).2).2.created = c.created := by
    intro fk
    obtain ⟨news, h1, h2, h3⟩ := mnextLevelLoop_hdrIds ((maxThr T - mapMetaDataSlabPrefixSize) / mapSlabHeaderSize)
      addr d X (MBatch.emptyMeta d (c.alloc addr).1 fk) [] (c.alloc addr).2
    refine ⟨(c.alloc addr).1 :: news, ?_, ?_, by rw [h3]; rfl⟩
    · refine (mids_metas d _).trans ?_
      rw [h1, mnextLevelLoop_children]
      simp [MBatch.emptyMeta]
    · have hs := FreshIds.single_next addr c.ctr
      have h2' : FreshIds addr (c.ctr + 1) (MBatch.nextLevelLoop
        ((maxThr T - mapMetaDataSlabPrefixSize) / mapSlabHeaderSize) addr d X
        (MBatch.emptyMeta d (c.alloc addr).1 fk) [] (c.alloc addr).2).2.ctr news := h2
      exact (hs.append_new h2').perm (List.perm_append_singleton _ _).symm
  unfold nextLevelMapSlabs
  exact h _

theorem mfinishRoot_ids (ty count seed d : Nat) (root : MTree r d) (c : Ctx) :
    (MBatch.finishRoot ty count seed d root c).1.slabIds = CtxOk.mapSlabIds d root ∧
      (MBatch.finishRoot ty count seed d root c).2.ctr = c.ctr ∧
      (MBatch.finishRoot ty count seed d root c).2.created = c.created := by
  cases d with
  | zero =>
    refine ⟨?_, rfl, rfl⟩
    revert root
    refine forall_ofMData ?_
    intro s
    show CtxOk.mapSlabIds 0 (ofMData ({ s with
        hdr := { s.hdr with size := s.hdr.size - mapDataSlabPrefixSize + mapRootDataSlabPrefixSize },
        root := true } : MDataSlab r)) = CtxOk.mapSlabIds 0 (ofMData s)
    exact (mapSlabIds_zero _).trans (mapSlabIds_zero s).symm
  | succ d =>
    refine ⟨?_, rfl, rfl⟩
    revert root
    refine forall_ofMMeta ?_
    intro m
    show CtxOk.mapSlabIds (d + 1) (ofMMeta ({ m with root := true } : MMetaSlab (MTree r d))) =
      CtxOk.mapSlabIds (d + 1) (ofMMeta m)
    exact (mapSlabIds_succ _).trans (mapSlabIds_succ m).symm

/-- The level loop: if the identifiers of the level it starts from (together with the carried
    identifiers `extra`) are pairwise different, of owner `addr` and allocated in `(c0, c.ctr]`,
    then so are all slab identifiers of the resulting map (with `extra`), relative to the final
    counter; the loop creates no large-value slab. -/
theorem mlevels_ids (T addr ty count seed c0 : Nat) (extra : List SlabID)
    (fuel d : Nat) (X : List (MTree r d)) (c : Ctx) (m : OMap r) (c' : Ctx)
    (h : MBatch.levels T addr ty count seed fuel d X c = .ok (m, c'))
    (hF : FreshIds addr c0 c.ctr (lvlIds d X ++ extra)) :
    FreshIds addr c0 c'.ctr (m.slabIds ++ extra) ∧ c.ctr ≤ c'.ctr ∧ c'.created = c.created :=
  mlevels_rule T addr ty count seed
    (I := fun d X c1 => FreshIds addr c0 c1.ctr (lvlIds d X ++ extra) ∧ c.ctr ≤ c1.ctr ∧
      c1.created = c.created)
    (J := fun d X c1 => FreshIds addr c0 c1.ctr (lvlIds d X ++ extra) ∧ c.ctr ≤ c1.ctr ∧
      c1.created = c.created)
    (Q := fun m c' => FreshIds addr c0 c'.ctr (m.slabIds ++ extra) ∧ c.ctr ≤ c'.ctr ∧
      c'.created = c.created)
    (fun d X R c1 ⟨hF, hc⟩ hR => ⟨hF.subperm_left (mrebalanceTail_ids T d X R hR), hc⟩)
    (fun d root c1 ⟨hF, hc, hcr⟩ => by
      obtain ⟨a1, a2, a3⟩ := mfinishRoot_ids ty count seed d root c1
      rw [a1, a2, a3]
      exact ⟨by simpa [lvlIds] using hF, hc, hcr⟩)
    (fun d X c1 ⟨hF, hc, hcr⟩ _ => by
      obtain ⟨s1, s2⟩ := mstoreAll_ctr_created d X c1
      obtain ⟨news, n1, n2, n3⟩ := mnextLevel_ids T addr d X (MBatch.storeAll d X c1)
      rw [s1] at n2
      exact ⟨(hF.append_new n2).perm (by rw [← List.append_assoc]; exact n1.append_right _),
        Nat.le_trans hc n2.1, by rw [n3, s2, hcr]⟩)
    fuel d X c m c' h ⟨hF, Nat.le_refl _, rfl⟩

end Atree

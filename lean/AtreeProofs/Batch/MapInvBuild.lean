import AtreeProofs.Batch.MapLevels
import AtreeProofs.Batch.MapBuild
/-
  C17, bulk build of maps — the result of `NewMapFromBatchData` satisfies the map invariant
  `MapInv`, for every valid input (sorted by first-level digest, pairwise different keys), every
  legal threshold, every digest assignment, every tree depth.
-/
namespace Atree
open Gen MTree MBatch

variable {T r : Nat} {D : DigestFn (r + 1)}

/-- the root data slab of the result: size re-based to the root prefix, extra data present -/
def asRootData (s : MDataSlab r) : MDataSlab r :=
  { s with hdr := { s.hdr with size := s.hdr.size - mapDataSlabPrefixSize + mapRootDataSlabPrefixSize },
           root := true }

theorem mfinishRoot_ok (hT : legalThreshold T = true) (ty count seed : Nat) :
    ∀ (d : Nat) (t : MTree r d) (c : Ctx), SInv T D d false t → (hdr d t).size ≤ maxThr T → MTopKids d t →
      MLeafChain (leaves d t) →
      ∃ root' : MTree r d, (MBatch.finishRoot ty count seed d t c).1 = ⟨d, root', ty, count, seed⟩ ∧
        MTreeInv T D d true root' ∧ MLeafChain (leaves d root') ∧
        (⟨d, root', ty, count, seed⟩ : OMap r).isInlined = false
  | 0, t, c => by
    refine forall_ofMData ?_ t; intro s hs hmax _ hchain
    have hs : MDataLoose T D false s := hs
    have hinl : s.inlined = false := by
      cases hi : s.inlined with
      | false => rfl
      | true => have := hs.inl_root hi; cases this
    have hsz := hs.size_eq
    rw [hs.prefix_nontop] at hsz
    have hmax' : s.hdr.size ≤ maxThr T := hmax
    have hnext : s.next = SlabID.undef := hchain
    refine ⟨ofMData (asRootData s), rfl, ?_, ?_, hinl⟩
    · show MDataInv T D true (asRootData s)
      rw [mdataInv_iff hT]
      refine ⟨⟨hs.elems_inv, ?_, hs.first_eq, rfl, fun _ => rfl⟩, ?_, by simp⟩
      · show s.hdr.size - mapDataSlabPrefixSize + mapRootDataSlabPrefixSize =
          (asRootData s).prefixSize + s.elems.size
        have hp : (asRootData s).prefixSize = mapRootDataSlabPrefixSize := by
          simp [asRootData, MDataSlab.prefixSize, hinl]
        rw [hp, hsz]
        simp only [mapDataSlabPrefixSize, mapRootDataSlabPrefixSize]
        omega
      · show s.hdr.size - mapDataSlabPrefixSize + mapRootDataSlabPrefixSize ≤ maxThr T
        rw [hsz] at hmax' ⊢
        simp only [mapDataSlabPrefixSize, mapRootDataSlabPrefixSize] at hmax' ⊢
        omega
    · show (asRootData s).next = SlabID.undef
      exact hnext
  | d + 1, t, c => by
    refine forall_ofMMeta ?_ t; intro m hs hmax hk hchain
    obtain ⟨⟨h1, h2, h3, h4, h5, h6, h7, h8⟩, _⟩ := hs
    refine ⟨ofMMeta { m with root := true }, rfl, ?_, hchain, rfl⟩
    exact (mtreeInv_succ_iff T D d true _).mpr ⟨⟨rfl, h2, h3, h4, h5, h6, h7, h8⟩, hmax, by simp, fun _ => hk⟩

theorem mallOk_root {d addr : Nat} {t : MTree r d} (h : MAllOk T D d addr [t]) :
    SInv T D d false t ∧ (hdr d t).size ≤ maxThr T ∧ MTopKids d t ∧ MLeafChain (leaves d t) := by
  obtain ⟨a, b, c⟩ := h.single t rfl
  exact ⟨a, b, c, by simpa using h.chain⟩

/-- the result of the bulk build is a valid standalone map tree -/
structure MBuiltOk (T : Nat) (D : DigestFn (r + 1)) (m : OMap r) : Prop where
  tree : MTreeInv T D m.d true m.root
  chain : MLeafChain (leaves m.d m.root)
  standalone : m.isInlined = false

theorem mfinishRoot_built (hT : legalThreshold T = true) (ty count seed d : Nat) (t : MTree r d) (c : Ctx)
    (h1 : SInv T D d false t) (h2 : (hdr d t).size ≤ maxThr T) (h3 : MTopKids d t)
    (h4 : MLeafChain (leaves d t)) : MBuiltOk T D (MBatch.finishRoot ty count seed d t c).1 := by
  obtain ⟨root', e, a, b, c'⟩ := mfinishRoot_ok (D := D) hT ty count seed d t c h1 h2 h3 h4
  rw [e]
  exact ⟨a, b, c'⟩

theorem mlevels_ok (hT : legalThreshold T = true) (addr ty count seed : Nat) :
    ∀ (fuel d : Nat) (A : List (MTree r d)) (z : MTree r d) (c : Ctx), MLevelOk T D d addr A z →
      (A ++ [z]).length ≤ fuel →
      ∃ m c', MBatch.levels T addr ty count seed fuel d (A ++ [z]) c = .ok (m, c') ∧ MBuiltOk T D m := by
  intro fuel
  induction fuel with
  | zero => intro d A z c _ hlen; simp at hlen
  | succ fuel ih =>
    intro d A z c hL hlen
    obtain ⟨R, hR, hall, hlen2⟩ := mrebalanceTail_ok hT hL
    match hX : A ++ [z] with
    | [] => simp at hX
    | [root] =>
      rw [hX] at hR hlen2
      have hR' : R = [root] := by
        have : MBatch.rebalanceTail T d [root] = .ok [root] := rfl
        rw [this] at hR; exact (Except.ok.inj hR).symm
      subst hR'
      obtain ⟨r1, r2, r3, r4⟩ := mallOk_root hall
      exact ⟨_, _, mlevels_single .., mfinishRoot_built hT ty count seed d root c r1 r2 r3 r4⟩
    | x :: y :: rest =>
      rw [hX] at hR hlen2 hlen
      rw [mlevels_many, hR]
      match R, hall.ne, hall, hlen2 with
      | [root], _, hall, _ =>
        obtain ⟨r1, r2, r3, r4⟩ := mallOk_root hall
        exact ⟨_, _, mafterRebalance_single .., mfinishRoot_built hT ty count seed d root c r1 r2 r3 r4⟩
      | x' :: y' :: rest', _, hall, hlen2 =>
        rw [mafterRebalance_many]
        obtain ⟨A2, z2, e1, e2, e3⟩ := mnextLevel_ok hT (MBatch.storeAll d (x' :: y' :: rest') c) hall (by simp)
        rw [e1]
        exact ih (d + 1) A2 z2 _ e2 (by simp only [List.length_cons] at hlen hlen2 e3 ⊢; omega)

/-- a list of map data slabs seen as a level of trees of depth 0 -/
def asMDatas (L : List (MDataSlab r)) : List (MTree r 0) := L

theorem asMDatas_append (A B : List (MDataSlab r)) : asMDatas (A ++ B) = asMDatas A ++ asMDatas B := rfl
theorem asMDatas_single (s : MDataSlab r) : asMDatas [s] = [ofMData s] := rfl

theorem mdata_flatMap_leaves (L : List (MDataSlab r)) : (asMDatas L).flatMap (leaves 0) = L := by
  induction L with
  | nil => rfl
  | cons s L ih =>
    show leaves 0 (ofMData s) ++ (asMDatas L).flatMap (leaves 0) = _
    rw [ih]; rfl

theorem mdata_flatMap_digests (L : List (MDataSlab r)) :
    (asMDatas L).flatMap (digests0 0) = L.flatMap (fun s => s.elems.hkeys) := by
  induction L with
  | nil => rfl
  | cons s L ih =>
    show digests0 0 (ofMData s) ++ (asMDatas L).flatMap (digests0 0) = _
    rw [ih]; rfl

theorem mfill_level (hT : legalThreshold T = true) {cfg : MCfg} {st : FillState r}
    {proc : List (MKey × Elem)} (h : MFillOk T r D cfg st proc) :
    MLevelOk T D 0 cfg.addr (asMDatas st.slabs) (ofMData (mkData st.id SlabID.undef st.elements)) := by
  have hsz := fill_size_le hT h.hinv h.init_lt
  have hsplit : asMDatas st.slabs ++ [ofMData (mkData st.id SlabID.undef st.elements)] =
      asMDatas (st.slabs ++ [mkData st.id SlabID.undef st.elements]) := rfl
  refine ⟨?_, ?_, hsz.1, fun _ => trivial, ?_, ?_, ?_⟩
  · intro t ht
    have ht' : (t : MDataSlab r) ∈ st.slabs := ht
    revert ht'
    refine forall_ofMData ?_ t
    intro s hs
    exact (mtreeInv_zero_iff T D false s).mpr (h.closed_data s hs)
  · show MDataLoose T D false (mkData st.id SlabID.undef st.elements)
    exact ⟨(elemsInv_succ_iff T (r + 1) D r 0 [] st.elements).2 h.hinv, rfl, rfl, rfl, by simp [mkData]⟩
  · rw [hsplit, mdata_flatMap_leaves, mLeafChain_iff, chainTo_append]
    exact ⟨by simpa [firstId, mkData] using h.chain, by simp [ChainTo, mkData]⟩
  · rw [hsplit, mdata_flatMap_digests]
    simpa [List.flatMap_append, mkData] using h.all_sorted
  · intro t ht
    rw [hsplit] at ht
    have ht' : (t : MDataSlab r) ∈ st.slabs ++ [mkData st.id SlabID.undef st.elements] := ht
    revert ht'
    refine forall_ofMData ?_ t
    intro s hs
    rcases List.mem_append.mp hs with hs | hs
    · exact h.addr_ok.2 s hs
    · have : s = mkData st.id SlabID.undef st.elements := List.mem_singleton.mp hs
      subst this
      exact h.addr_ok.1

/-- A bulk build that succeeds, on whatever input, yields a map satisfying `MapInv`: the element loop
    keeps `MFillOk` (`mfill_ok`), which gives `MLevelOk` for the data slabs (`mfill_level`), and the
    level loop turns that into `MBuiltOk` (`mlevels_ok`). -/
theorem fromBatchData_inv_of_ok (hT : legalThreshold T = true) {cfg : MCfg} (hc : CfgFor cfg T (r + 1))
    (ty seed : Nat) (kvs : List (MKey × Elem)) (hkv : ∀ p ∈ kvs, KeyOk T (r + 1) D p.1 ∧ ValueOkM p.2)
    (c : Ctx) (m : OMap r) (c' : Ctx) (h : OMap.fromBatchData cfg ty seed kvs c = .ok (m, c')) :
    MapInv T D m := by
  obtain ⟨_, _, _, hcount, _⟩ := fromBatchData_ok_facts cfg ty seed kvs c m c' h
  obtain ⟨_, ⟨cs, hcs, hp⟩, hdist⟩ := fromBatchData_sound hT hc ty seed kvs hkv c m c' h
  obtain ⟨_, st, cf, _, hok, hlev⟩ := fromBatchData_run hT hc ty seed kvs hkv c m c' h
  obtain ⟨m', c'', hlev', hbuilt⟩ := mlevels_ok (D := D) hT cfg.addr ty st.count seed
    (asMDatas st.slabs ++ [ofMData (mkData st.id SlabID.undef st.elements)]).length 0
    (asMDatas st.slabs) (ofMData (mkData st.id SlabID.undef st.elements)) cf (mfill_level hT hok) (Nat.le_refl _)
  obtain ⟨rfl, rfl⟩ := Prod.mk.inj (Except.ok.inj (hlev.symm.trans hlev'))
  exact ⟨hbuilt.tree, hbuilt.chain, by rw [hcount, hp.length_eq, List.length_zipWith, hcs, Nat.min_self], hdist,
    hbuilt.standalone⟩

/-- C17, the one-data-slab case: the result of the bulk build satisfies the map invariant
    `MapInv` when the input fits one data slab, i.e. when the element loop closed no data slab
    (`st.slabs = []` for the final loop state `st`) — the shape of every copy source and of every
    small map.  A special case of `fromBatchData_inv_of_ok`, which does not need `hone`. -/
theorem fromBatchData_inv_partial (hT : legalThreshold T = true) {cfg : MCfg} (hc : CfgFor cfg T (r + 1))
    (ty seed : Nat) (kvs : List (MKey × Elem)) (hkv : ∀ p ∈ kvs, KeyOk T (r + 1) D p.1 ∧ ValueOkM p.2)
    (c : Ctx) (m : OMap r) (c' : Ctx) (h : OMap.fromBatchData cfg ty seed kvs c = .ok (m, c'))
    (hone : ∀ st cf, fillLoop cfg kvs
        { id := (c.alloc cfg.addr).1, elements := emptyElems r, slabs := [], count := 0, prevHkey := 0 }
        (c.alloc cfg.addr).2 = .ok (st, cf) → st.slabs = []) :
    MapInv T D m :=
  fromBatchData_inv_of_ok hT hc ty seed kvs hkv c m c' h

/-- C17 (`batch_map_inv`): for every legal threshold, every digest assignment, every stream of
    pairs that is sorted by first-level digest and has pairwise different keys (keys within the
    key limit, plain values of any size ≥ 1) and a non-zero seed, `NewMapFromBatchData` succeeds
    and its result satisfies the map invariant `MapInv`, keeps the seed, records type and count,
    and holds exactly the input pairs with values in stored form. -/
theorem fromBatchData_inv (hT : legalThreshold T = true) {cfg : MCfg} (hc : CfgFor cfg T (r + 1))
    (ty seed : Nat) (hseed : seed ≠ 0) (kvs : List (MKey × Elem))
    (hkv : ∀ p ∈ kvs, KeyOk T (r + 1) D p.1 ∧ ValueOkM p.2)
    (hs : (kvs.map (fun p => p.1.dig 0)).Pairwise (· ≤ ·)) (hd : KeysDistinct kvs) (c : Ctx) :
    ∃ (m : OMap r) (c' : Ctx), OMap.fromBatchData cfg ty seed kvs c = .ok (m, c') ∧ MapInv T D m ∧
      m.seed = seed ∧ m.ty = ty ∧ m.count = kvs.length ∧
      ∃ cs : List Ctx, cs.length = kvs.length ∧
        m.toList.Perm (List.zipWith (fun p c => (p.1, storedValue cfg p.1 p.2 c)) kvs cs) := by
  obtain ⟨st, cf, hfill, hok⟩ := fillLoop_complete (D := D) hT hc kvs hkv hs hd (c.alloc cfg.addr).1 rfl
    (c.alloc cfg.addr).2
  obtain ⟨m, c', hlev, _⟩ := mlevels_ok (D := D) hT cfg.addr ty st.count seed
    (asMDatas st.slabs ++ [ofMData (mkData st.id SlabID.undef st.elements)]).length 0
    (asMDatas st.slabs) (ofMData (mkData st.id SlabID.undef st.elements)) cf (mfill_level hT hok) (Nat.le_refl _)
  have hres : OMap.fromBatchData cfg ty seed kvs c = .ok (m, c') :=
    (fromBatchData_ok_iff cfg ty seed kvs c m c').2 ⟨hseed, st, cf, hfill, hc.hT ▸ hlev⟩
  obtain ⟨_, hseed', hty, hcount, _⟩ := fromBatchData_ok_facts cfg ty seed kvs c m c' hres
  exact ⟨m, c', hres, fromBatchData_inv_of_ok hT hc ty seed kvs hkv c m c' hres, hseed', hty, hcount,
    (fromBatchData_sound hT hc ty seed kvs hkv c m c' hres).2.1⟩

end Atree

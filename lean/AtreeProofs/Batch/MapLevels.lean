import AtreeProofs.Batch.ArrayContent
import AtreeProofs.Batch.MapContent
import AtreeProofs.Map.RepairKit
/-
  C17, bulk build of maps — one round of the level loop under the map invariant:
  the tail step (`LendToRight` or `Merge` on the last two slabs) and `nextLevelMapSlabs`.
-/
namespace Atree
open Gen MTree MBatch Core

variable {T r : Nat} {D : DigestFn (r + 1)}

/-- an index slab at the top has at least two children (vacuous for data slabs) -/
def MTopKids : (d : Nat) → MTree r d → Prop
  | 0, _ => True
  | d + 1, (m : MMetaSlab (MTree r d)) => 2 ≤ m.children.length

/-- A level of the map tree under construction: `A` finished slabs, `z` the last slab. -/
structure MLevelOk (T : Nat) (D : DigestFn (r + 1)) (d addr : Nat) (A : List (MTree r d)) (z : MTree r d) : Prop where
  inv : ∀ t ∈ A, MTreeInv T D d false t
  sinv : SInv T D d false z
  le_max : (hdr d z).size ≤ maxThr T
  kid2 : A = [] → MTopKids d z
  chain : MLeafChain ((A ++ [z]).flatMap (leaves d))
  sorted : ((A ++ [z]).flatMap (digests0 d)).Pairwise (· < ·)
  addr : ∀ t ∈ A ++ [z], (hdr d t).id.addr = addr

structure MAllOk (T : Nat) (D : DigestFn (r + 1)) (d addr : Nat) (R : List (MTree r d)) : Prop where
  ne : R ≠ []
  inv : 2 ≤ R.length → ∀ t ∈ R, MTreeInv T D d false t
  single : ∀ t, R = [t] → SInv T D d false t ∧ (hdr d t).size ≤ maxThr T ∧ MTopKids d t
  chain : MLeafChain (R.flatMap (leaves d))
  sorted : (R.flatMap (digests0 d)).Pairwise (· < ·)
  addr : ∀ t ∈ R, (hdr d t).id.addr = addr

theorem mtopKids_of_inv (hT : legalThreshold T = true) : ∀ {d : Nat} {t : MTree r d},
    MTreeInv T D d false t → MTopKids d t
  | 0, _, _ => trivial
  | d + 1, m, h => by
    have := (mtreeInv_false_iff_succ hT m).mp h
    have hsz := this.1.1.size_eq
    have hm := map_minThr_ge hT
    show 2 ≤ (m : MMetaSlab (MTree r d)).children.length
    have h2 := this.2.1
    rw [hsz] at h2
    omega

/-- the tail step on two slabs is the kit's (`Core.Kit.tailPair`) -/
theorem mrebalanceTail_pair_eq_tailPair (T d : Nat) (c : Ctx) (l x : MTree r d) :
    (mkit T d c).tailPair (minThr T) l x = (MBatch.rebalanceTail T d [l, x]).toOption := by
  unfold Kit.tailPair MBatch.rebalanceTail
  by_cases hu : (hdr d x).size < minThr T
  · rw [mtree_isUnderflow_eq, if_pos hu]
    show (if (hdr d x).size < minThr T then _ else _) = _
    rw [if_pos hu]
    by_cases hc : MTree.canLendToRight T d l (minThr T - (hdr d x).size) = true
    · simp only [mkit, hc, if_true]
      cases MTree.lendToRight T d l x <;> rfl
    · simp only [mkit, hc, if_false, Bool.false_eq_true]; rfl
  · rw [mtree_isUnderflow_eq, if_neg hu]
    show (if (hdr d x).size < minThr T then _ else _) = _
    rw [if_neg hu]; rfl

theorem mrebalanceTail_cons (T d : Nat) (x : MTree r d) (L : List (MTree r d)) (h : 2 ≤ L.length) :
    MBatch.rebalanceTail T d (x :: L) =
      (match MBatch.rebalanceTail T d L with
       | .ok l => .ok (x :: l)
       | .error e => .error e) := by
  match L, h with
  | y :: z :: rest, _ => rfl

theorem mrebalanceTail_append2 (T d : Nat) (A : List (MTree r d)) (y z : MTree r d) (R2 : List (MTree r d))
    (h : MBatch.rebalanceTail T d [y, z] = .ok R2) :
    MBatch.rebalanceTail T d (A ++ [y, z]) = .ok (A ++ R2) := by
  induction A with
  | nil => exact h
  | cons x A ih =>
    rw [List.cons_append, mrebalanceTail_cons T d x _ (by simp), ih]
    rfl

theorem mrebalanceTail_ok (hT : legalThreshold T = true) {d addr : Nat} {A : List (MTree r d)} {z : MTree r d}
    (h : MLevelOk T D d addr A z) :
    ∃ R, MBatch.rebalanceTail T d (A ++ [z]) = .ok R ∧ MAllOk T D d addr R ∧
      R.length ≤ (A ++ [z]).length := by
  rcases List.eq_nil_or_concat A with hA | ⟨A', y, hA⟩
  · subst hA
    refine ⟨[z], rfl, ⟨by simp, by simp, ?_, by simpa using h.chain, by simpa using h.sorted,
      by simpa using h.addr⟩, by simp⟩
    intro t ht
    have : z = t := by simpa using ht
    subst this
    exact ⟨h.sinv, h.le_max, h.kid2 rfl⟩
  · rw [List.concat_eq_append] at hA
    subst hA
    have hsplit : A' ++ [y] ++ [z] = A' ++ [y, z] := by simp
    have hsorted := h.sorted
    have hchain := h.chain
    have haddrs := h.addr
    rw [hsplit] at hsorted hchain haddrs
    have hlt : ∀ a ∈ digests0 d y, ∀ b ∈ digests0 d z, a < b := by
      simp only [List.flatMap_append, List.flatMap_cons, List.flatMap_nil, List.append_nil,
        List.pairwise_append] at hsorted
      exact hsorted.2.1.2.2
    -- the last slab is the last child of the level: `Core.Laws` for a child without right sibling;
    -- chain, digest order and owner are read off `MSibRepl` at the scope of the level; the tail step
    -- allocates nothing, so the context handed to the kit is arbitrary
    obtain ⟨cs, he, hne, hall, _, h2, h3, _, h5⟩ := (mkit_laws hT D d ⟨0, [], []⟩).tail_spec (A := A')
      (fun t ht => h.inv t (List.mem_append_left _ ht)) (h.inv y (by simp)) h.sinv h.le_max
      ⟨by rw [haddrs z (by simp), haddrs y (by simp)], hlt⟩
    rw [mrebalanceTail_pair_eq_tailPair] at he
    have he := eq_ok_of_toOption he
    have hlen2 : cs.length ≤ 2 := by
      rcases mrebalanceTail_pair T d y z cs he with rfl | ⟨_, _, _, rfl⟩ | rfl <;> simp
    refine ⟨A' ++ cs, by rw [hsplit]; exact mrebalanceTail_append2 T d A' y z cs he,
      ⟨by simp [hne], fun _ => hall, ?_, ?_, ?_, h5 addr haddrs⟩,
      by simp only [List.length_append, List.length_cons, List.length_nil]; omega⟩
    · intro t ht
      have hti := hall t (by rw [ht]; simp)
      have := (mtreeInv_false_iff hT d t).mp hti
      exact ⟨this.1, this.2.2, mtopKids_of_inv hT hti⟩
    · rw [mLeafChain_iff] at hchain ⊢
      exact h3.2.2.2 _ hchain
    · have : (A' ++ cs).flatMap (digests0 d) = (A' ++ [y, z]).flatMap (digests0 d) := h2
      rw [this]; exact hsorted

theorem hdr_firstKey_eq_head (hT : legalThreshold T = true) {d : Nat} {t : MTree r d} (ht : MTreeInv T D d false t) :
    (hdr d t).firstKey = (digests0 d t).headD 0 :=
  SInv.firstKey_eq hT d false t (MTreeInv.sinv hT ht)

/-- an index slab holding exactly one child -/
theorem firstChild_loose (hT : legalThreshold T = true) {d : Nat} (id : SlabID) (s : MTree r d)
    (hs : MTreeInv T D d false s) (haddr : (hdr d s).id.addr = id.addr) :
    MetaLoose T D d false (MBatch.addChild d (MBatch.emptyMeta d id (hdr d s).firstKey) s) := by
  refine MetaLoose.of_child rfl (by simp [MBatch.addChild, MBatch.emptyMeta]) ?_ (by simp [MBatch.addChild, MBatch.emptyMeta])
    ?_ ?_
  · simp [MBatch.addChild, MBatch.emptyMeta]
  · intro c hc
    have : c = s := by simpa [MBatch.addChild, MBatch.emptyMeta] using hc
    subst this
    exact ⟨hs, haddr, hdr_firstKey_eq_head hT hs⟩
  · simp only [MBatch.addChild, MBatch.emptyMeta, List.nil_append, List.flatMap_cons, List.flatMap_nil,
      List.append_nil]
    exact SInv.sorted d false s (MTreeInv.sinv hT hs)

/-- one more child at the right end of an index slab -/
theorem addChild_loose (hT : legalThreshold T = true) {d : Nat} {m : MMetaSlab (MTree r d)} {s : MTree r d}
    (hm : MetaLoose T D d false m) (hne : 1 ≤ m.children.length) (hs : MTreeInv T D d false s)
    (haddr : (hdr d s).id.addr = m.hdr.id.addr)
    (hlt : ∀ a ∈ m.children.flatMap (digests0 d), ∀ b ∈ digests0 d s, a < b) :
    MetaLoose T D d false (MBatch.addChild d m s) := by
  have hh := hm.hdrs_eq
  refine MetaLoose.of_child hm.1 (by simp [MBatch.addChild, hh]) ?_ ?_ ?_ ?_
  · simp only [MBatch.addChild, hm.2.2.1, List.length_append, List.length_cons, List.length_nil,
      mapSlabHeaderSize]
    omega
  · have hne' : m.childHdrs ≠ [] := by
      intro h0
      have := hm.hdrs_len
      rw [h0] at this; simp at this; omega
    simp only [MBatch.addChild]
    rw [headD_append_left _ hne']
    exact hm.fk_eq
  · intro c hc
    simp only [MBatch.addChild, List.mem_append, List.mem_singleton] at hc
    rcases hc with hc | rfl
    · exact hm.child c hc
    · exact ⟨hs, haddr, hdr_firstKey_eq_head hT hs⟩
  · simp only [MBatch.addChild, List.flatMap_append, List.flatMap_cons, List.flatMap_nil, List.append_nil]
    rw [List.pairwise_append]
    exact ⟨hm.sorted, SInv.sorted d false s (MTreeInv.sinv hT hs), hlt⟩

theorem mnextLevelLoop_ok (hT : legalThreshold T = true) (maxN addr d : Nat) (ss : List (MTree r d)) :
    ∀ (cur : MMetaSlab (MTree r d)) (done : List (MMetaSlab (MTree r d))) (c : Ctx),
      (∀ t ∈ ss, MTreeInv T D d false t ∧ (hdr d t).id.addr = addr) →
      ((cur.children ++ ss).flatMap (digests0 d)).Pairwise (· < ·) →
      (∀ m ∈ done, MetaLoose T D d false m ∧ m.children.length = maxN ∧ m.hdr.id.addr = addr) →
      MetaLoose T D d false cur → cur.hdr.id.addr = addr → 1 ≤ cur.children.length →
      cur.children.length ≤ maxN →
      ∃ done' cur', (MBatch.nextLevelLoop maxN addr d ss cur done c).1 = done' ++ [cur'] ∧
        (∀ m ∈ done', MetaLoose T D d false m ∧ m.children.length = maxN ∧ m.hdr.id.addr = addr) ∧
        MetaLoose T D d false cur' ∧ cur'.hdr.id.addr = addr ∧ 1 ≤ cur'.children.length ∧
        cur'.children.length ≤ maxN := by
  induction ss with
  | nil =>
    intro cur done c _ _ hd hc ha h1 h2
    exact ⟨done, cur, rfl, hd, hc, ha, h1, h2⟩
  | cons s ss ih =>
    intro cur done c hss hsorted hd hc ha h1 h2
    obtain ⟨hs, hsa⟩ := hss s (by simp)
    have hss' : ∀ t ∈ ss, MTreeInv T D d false t ∧ (hdr d t).id.addr = addr :=
      fun t ht => hss t (by simp [ht])
    have hlen : cur.childHdrs.length = cur.children.length := hc.hdrs_len
    simp only [List.flatMap_append, List.flatMap_cons] at hsorted
    rw [List.pairwise_append] at hsorted
    obtain ⟨_, hsrest, hcross⟩ := hsorted
    unfold MBatch.nextLevelLoop
    by_cases hfull : cur.childHdrs.length = maxN
    · simp only [hfull, if_true]
      refine ih _ (done ++ [cur]) (c.alloc addr).2 hss' ?_ ?_
        (firstChild_loose hT (c.alloc addr).1 s hs (by simpa using hsa)) rfl
        (by simp [MBatch.addChild, MBatch.emptyMeta]) (by simp [MBatch.addChild, MBatch.emptyMeta]; omega)
      · simpa [MBatch.addChild, MBatch.emptyMeta] using hsrest
      · intro m hm
        simp only [List.mem_append, List.mem_singleton] at hm
        rcases hm with hm | rfl
        · exact hd m hm
        · exact ⟨hc, by omega, ha⟩
    · simp only [hfull, if_false]
      refine ih _ done c hss' ?_ hd
        (addChild_loose hT hc h1 hs (by rw [hsa, ha]) (fun a haa b hb => hcross a haa b (by simp [hb])))
        ha (by simp [MBatch.addChild]) (by simp [MBatch.addChild]; omega)
      have : (MBatch.addChild d cur s).children ++ ss = cur.children ++ s :: ss := by simp [MBatch.addChild]
      rw [this]
      simp only [List.flatMap_append, List.flatMap_cons]
      rw [List.pairwise_append]
      exact ⟨by assumption, hsrest, hcross⟩

theorem map_maxN_facts (hT : legalThreshold T = true) :
    2 ≤ (maxThr T - mapMetaDataSlabPrefixSize) / mapSlabHeaderSize ∧
    minThr T ≤ 12 + 18 * ((maxThr T - mapMetaDataSlabPrefixSize) / mapSlabHeaderSize) ∧
    12 + 18 * ((maxThr T - mapMetaDataSlabPrefixSize) / mapSlabHeaderSize) ≤ maxThr T := by
  have hB := map_legal_bounds hT
  unfold minThr maxThr
  exact header_band (p := 12) (h := 18) (by decide) (by omega) (by omega)

theorem mleaves_metas (d : Nat) (R : List (MMetaSlab (MTree r d))) :
    (asMMetas R).flatMap (leaves (d + 1)) = (R.flatMap (·.children)).flatMap (leaves d) :=
  flatMap_metas _ _ (fun _ => rfl) R

theorem mdigests_metas (d : Nat) (R : List (MMetaSlab (MTree r d))) :
    (asMMetas R).flatMap (digests0 (d + 1)) = (R.flatMap (·.children)).flatMap (digests0 d) :=
  flatMap_metas _ _ (fun _ => rfl) R

theorem flatMap_children_length {d : Nat} (L : List (MMetaSlab (MTree r d))) (n : Nat)
    (h : ∀ m ∈ L, m.children.length = n) : (L.flatMap (·.children)).length = L.length * n := by
  induction L with
  | nil => simp
  | cons m L ih =>
    simp only [List.flatMap_cons, List.length_append, List.length_cons, h m (by simp),
      ih (fun x hx => h x (by simp [hx])), Nat.add_mul, Nat.one_mul]
    omega

/-- `nextLevelMapSlabs` turns a level whose slabs are all within the band into a level of index
    slabs (all but the last one full) that is strictly shorter. -/
theorem mnextLevel_ok (hT : legalThreshold T = true) {d addr : Nat} {R : List (MTree r d)} (c : Ctx)
    (hR : MAllOk T D d addr R) (h2 : 2 ≤ R.length) :
    ∃ A z, (nextLevelMapSlabs T addr d R c).1 = A ++ [z] ∧ MLevelOk T D (d + 1) addr A z ∧
      (A ++ [z]).length < R.length := by
  obtain ⟨hN, hNmin, hNmax⟩ := map_maxN_facts hT
  have hinv := hR.inv h2
  match R, h2 with
  | s :: ss, h2 =>
    have hfirst : nextLevelMapSlabs T addr d (s :: ss) c =
        MBatch.nextLevelLoop ((maxThr T - mapMetaDataSlabPrefixSize) / mapSlabHeaderSize) addr d ss
          (MBatch.addChild d (MBatch.emptyMeta d (c.alloc addr).1 (hdr d s).firstKey) s) [] (c.alloc addr).2 := by
      show MBatch.nextLevelLoop _ addr d (s :: ss) (MBatch.emptyMeta d (c.alloc addr).1 (hdr d s).firstKey) []
        (c.alloc addr).2 = _
      rw [MBatch.nextLevelLoop, if_neg (by show 0 ≠ _; omega)]
    rw [hfirst]
    clear hfirst
    generalize (maxThr T - mapMetaDataSlabPrefixSize) / mapSlabHeaderSize = N at hN hNmin hNmax ⊢
    obtain ⟨done', cur', e1, e2, e3, e4, e5, e6⟩ :=
      mnextLevelLoop_ok (T := T) (D := D) hT N addr d ss
        (MBatch.addChild d (MBatch.emptyMeta d (c.alloc addr).1 (hdr d s).firstKey) s) [] (c.alloc addr).2
        (fun t ht => ⟨hinv t (by simp [ht]), hR.addr t (by simp [ht])⟩)
        (by simpa [MBatch.addChild, MBatch.emptyMeta] using hR.sorted) (by simp)
        (firstChild_loose hT (c.alloc addr).1 s (hinv s (by simp)) (by simpa using hR.addr s (by simp))) rfl
        (by simp [MBatch.addChild, MBatch.emptyMeta]) (by simp [MBatch.addChild, MBatch.emptyMeta]; omega)
    have hkids : (done' ++ [cur']).flatMap (·.children) = s :: ss := by
      have := mnextLevelLoop_children N addr d ss
        (MBatch.addChild d (MBatch.emptyMeta d (c.alloc addr).1 (hdr d s).firstKey) s) [] (c.alloc addr).2
      rw [e1] at this
      simpa [MBatch.addChild, MBatch.emptyMeta] using this
    have hsplit : asMMetas done' ++ [ofMMeta cur'] = asMMetas (done' ++ [cur']) := rfl
    refine ⟨asMMetas done', ofMMeta cur', by rw [e1]; rfl, ⟨?_, ⟨e3, e5⟩, ?_, ?_, ?_, ?_, ?_⟩, ?_⟩
    · intro t ht
      have ht' : (t : MMetaSlab (MTree r d)) ∈ done' := ht
      revert ht'
      refine forall_ofMMeta ?_ t
      intro m hm
      obtain ⟨a, b, _⟩ := e2 m hm
      refine (mtreeInv_false_iff_succ hT m).mpr ⟨⟨a, by omega⟩, ?_, ?_⟩
      · rw [a.size_eq, b]; exact hNmin
      · rw [a.size_eq, b]; exact hNmax
    · show cur'.hdr.size ≤ maxThr T
      rw [e3.size_eq]
      have : 18 * cur'.children.length ≤ 18 * N :=
        Nat.mul_le_mul_left _ e6
      omega
    · intro hA
      have hd : done' = [] := hA
      rw [hd] at hkids
      simp only [List.nil_append, List.flatMap_cons, List.flatMap_nil, List.append_nil] at hkids
      show 2 ≤ cur'.children.length
      rw [hkids]; exact h2
    · rw [hsplit, mleaves_metas, hkids]; exact hR.chain
    · rw [hsplit, mdigests_metas, hkids]; exact hR.sorted
    · intro t ht
      rw [hsplit] at ht
      have ht' : (t : MMetaSlab (MTree r d)) ∈ done' ++ [cur'] := ht
      revert ht'
      refine forall_ofMMeta ?_ t
      intro m hm
      rcases List.mem_append.mp hm with hm | hm
      · exact (e2 m hm).2.2
      · have : m = cur' := List.mem_singleton.mp hm
        subst this; exact e4
    · -- fewer slabs than before: every finished index slab holds `N ≥ 2` of them, the last one at least one
      have hlen := congrArg List.length hkids
      rw [List.flatMap_append, List.length_append,
        flatMap_children_length done' _ (fun m hm => (e2 m hm).2.1)] at hlen
      simp only [List.flatMap_cons, List.flatMap_nil, List.append_nil] at hlen
      show (asMMetas done' ++ [ofMMeta cur']).length < (s :: ss).length
      simp only [List.length_append, List.length_cons, List.length_nil] at hlen h2 ⊢
      have : (asMMetas done').length = done'.length := rfl
      rw [this]
      have hmul : 2 * done'.length ≤ done'.length * N := by
        rw [Nat.mul_comm]; exact Nat.mul_le_mul_left _ hN
      omega

end Atree

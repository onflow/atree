import AtreeProofs.Batch.FreshIds
import AtreeProofs.BatchRefsSpec
import AtreeProofs.AListLemmas
import AtreeProofs.Storable
/-
  C17, bulk builds — what `Value.Storable` (`toStorableLim`; `toStorable T` is the same function at
  the limit `maxInlineArr T`) adds to the bookkeeping of the element loops: `ValStored`, read off the
  two outcomes of `Storable` (AtreeProofs/Storable.lean).  The array and
  the map loop (`AFillIds`, `MFillIds`) differ in where the tree identifiers come from, not in this.
-/
namespace Atree
open Gen

/-- `e` is what `Value.Storable` with inline limit `lim` leaves for the input `v`: `v` itself when it
    fits, otherwise the reference to a slab that holds `v` in `created`.  `ReprA T` is this at
    `maxInlineArr T`, `Represents T · k` at `maxInlineMapValue T k.size`. -/
def ReprLim (lim : Nat) (created : List (SlabID × Elem)) (v e : Elem) : Prop :=
  (v.size ≤ lim ∧ e = v) ∨
  (lim < v.size ∧ ∃ id, e = ⟨slabIDStorableSize, .ref id⟩ ∧ AList.find? created id = some v)

theorem reprA_iff {T : Nat} {created : List (SlabID × Elem)} {v e : Elem} :
    ReprA T created v e ↔ ReprLim (maxInlineArr T) created v e := Iff.rfl

theorem represents_iff {T : Nat} {created : List (SlabID × Elem)} {k : MKey} {v e : Elem} :
    Represents T created k v e ↔ ReprLim (maxInlineMapValue T k.size) created v e := Iff.rfl

theorem ReprLim.append {lim : Nat} {created : List (SlabID × Elem)} {v e : Elem}
    (h : ReprLim lim created v e) (ext : List (SlabID × Elem)) : ReprLim lim (created ++ ext) v e :=
  h.imp_right fun ⟨hb, id, he, hf⟩ => ⟨hb, id, he, AList.find?_append_of_some hf ext⟩

/-- a plain input value is what its stored form resolves to -/
theorem ReprLim.resolve {lim : Nat} {created : List (SlabID × Elem)} {v e : Elem} (hv : ∃ n, v.pay = .val n)
    (h : ReprLim lim created v e) : E2E.resolve created e = v := by
  obtain ⟨n, hn⟩ := hv
  rcases h with ⟨_, rfl⟩ | ⟨_, id, rfl, hf⟩
  · simp [E2E.resolve, hn]
  · simp [E2E.resolve, hf]

/-- What storing one plain value `v` adds: at most one identifier, fresh for the owner; the
    created-slab table grows at the end and stays sound; the stored element stands for `v`. -/
structure ValStored (lim a : Nat) (v : Elem) (c : Ctx) (e : Elem) (c' : Ctx) : Prop where
  ids : FreshIds a c.ctr c'.ctr e.refId?.toList
  ext : ∃ ext, c'.created = c.created ++ ext
  table : CreatedTableOk a c → CreatedTableOk a c'
  repr : CreatedTableOk a c → ReprLim lim c'.created v e

theorem toStorableLim_valStored (lim a : Nat) {v : Elem} (hv : ∃ n, v.pay = .val n) (c : Ctx) :
    ValStored lim a v c (toStorableLim lim a v c).1 (toStorableLim lim a v c).2 := by
  obtain ⟨n, hn⟩ := hv
  obtain ⟨C, hcr, hctr, hS⟩ := storable_lim lim a hn c
  -- `cases` on `Storable` needs the stored element as a variable: name the result pair
  revert hS hcr hctr
  generalize toStorableLim lim a v c = r
  obtain ⟨e, c'⟩ := r
  intro hcr hctr hS
  simp only at hcr hctr hS ⊢
  refine ⟨?_, ⟨C, hcr⟩, fun h p hp ha => ?_, fun h => ?_⟩
  · rw [hctr, hS.refId]
    cases hS with
    | inline _ _ => exact .nil (Nat.le_refl _)
    | large _ => exact .single_next a c.ctr
  · rw [hctr]
    rcases List.mem_append.1 (hcr ▸ hp) with hp | hp
    · exact Nat.le_trans (h p hp ha) (Nat.le_add_right _ _)
    · cases hS with
      | inline _ _ => cases hp
      | large _ => rw [List.mem_singleton.1 hp]; exact Nat.le_refl _
  · rw [hcr]
    cases hS with
    | inline _ hs => exact .inl ⟨hs, rfl⟩
    | large hs =>
      -- the table is sound, so the identifier just allocated is not yet one of its keys
      refine .inr ⟨hs, _, rfl, AList.find?_concat_new (fun p hp hpe => ?_) v⟩
      have := h p hp (by rw [hpe])
      rw [hpe] at this
      exact Nat.not_succ_le_self _ this

end Atree

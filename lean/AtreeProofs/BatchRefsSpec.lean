import AtreeModel.Map.Batch
import AtreeProofs.E2ESpec
/-
  Large values in a bulk build (C17).  DEFINITIONS ONLY — part of the reviewed
  statement of the property theorems in `AtreeProofs/Props/C17Refs.lean`.
-/
namespace Atree
open Gen

/-- The created-slab table of a context is sound for owner `a`: it holds no identifier of `a`
    above the allocation counter (so the next allocated identifier is not yet a key of the table).
    Every context reached by running operations from an empty table satisfies it. -/
def CreatedTableOk (a : Nat) (c : Ctx) : Prop := ∀ p ∈ c.created, p.1.addr = a → p.1.idx ≤ c.ctr

/-- Arrays: `e` is what the bulk build stores for the input value `v`: `v` itself when it fits the
    inline limit `maxInlineArr T`, otherwise the 19-byte reference `⟨19, .ref id⟩` whose slab — in
    the created-slab table `created` — holds `v`. -/
def ReprA (T : Nat) (created : List (SlabID × Elem)) (v e : Elem) : Prop :=
  (v.size ≤ maxInlineArr T ∧ e = v) ∨
  (maxInlineArr T < v.size ∧ ∃ id, e = ⟨slabIDStorableSize, .ref id⟩ ∧ AList.find? created id = some v)

/-- Maps: `e` is what the bulk build stores next to key `k` for the input value `v`: `v` itself when
    it fits the inline limit for this key, otherwise the 19-byte reference to a large-value slab
    that holds `v`. -/
def Represents (T : Nat) (created : List (SlabID × Elem)) (k : MKey) (v e : Elem) : Prop :=
  (v.size ≤ maxInlineMapValue T k.size ∧ e = v) ∨
  (maxInlineMapValue T k.size < v.size ∧
    ∃ id, e = ⟨slabIDStorableSize, .ref id⟩ ∧ AList.find? created id = some v)

/-- resolved form of a stored pair: a reference value is replaced by the value in its slab -/
def resolvePair (created : List (SlabID × Elem)) (p : MKey × Elem) : MKey × Elem :=
  (p.1, E2E.resolve created p.2)

end Atree

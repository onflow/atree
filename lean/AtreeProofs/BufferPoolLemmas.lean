import AtreeModel.BufferPool
/-
  Lemmas about the buffer pools (`AtreeModel/BufferPool.lean`): the pool invariant "every parked
  buffer is empty" and the simulation of pooled histories by pool-free ones.
-/
namespace Atree.Buf

def PoolEmpty (p : Pool) : Prop := ∀ b ∈ p.free, b.data = []

theorem poolEmpty_empty : PoolEmpty {} := by intro b hb; simp at hb

theorem poolEmpty_put {p : Pool} (h : PoolEmpty p) (b : Buffer) : PoolEmpty (p.put b) := by
  intro x hx
  simp only [Pool.put, List.mem_cons] at hx
  rcases hx with rfl | hx
  · rfl
  · exact h x hx

theorem poolEmpty_drop {p : Pool} (h : PoolEmpty p) (i : Nat) : PoolEmpty (p.drop i) := by
  intro x hx
  exact h x (List.mem_of_mem_eraseIdx hx)

theorem poolEmpty_get (G : Growth) {p : Pool} (h : PoolEmpty p) (choice : Option Nat) (n : Nat) :
    (p.get G choice n).1.data = [] ∧ PoolEmpty (p.get G choice n).2 := by
  unfold Pool.get
  cases choice with
  | none => exact ⟨rfl, h⟩
  | some i =>
    dsimp only
    cases hi : p.free[i]? with
    | none => exact ⟨rfl, h⟩
    | some b =>
      refine ⟨h b (List.mem_of_getElem? hi), ?_⟩
      intro x hx
      exact h x (List.mem_of_mem_eraseIdx hx)

theorem foldl_write_data (G : Growth) (ws : List Bytes) (b : Buffer) :
    (ws.foldl (Buffer.write G) b).data = b.data ++ ws.flatten := by
  induction ws generalizing b with
  | nil => simp
  | cons w ws ih => simp [ih, Buffer.write]

/-- what the pool-free world holds: the contents of the held buffers -/
def contents (held : List (Option Buffer)) : List (Option Bytes) := held.map (·.map (·.data))

theorem getSlot_contents (held : List (Option Buffer)) (i : Nat) :
    getSlot (contents held) i = (getSlot held i).map (·.data) := by
  unfold getSlot contents
  rw [List.getElem?_map]
  cases held[i]? with
  | none => rfl
  | some x => cases x <;> rfl

theorem contents_set (held : List (Option Buffer)) (i : Nat) (x : Option Buffer) :
    contents (held.set i x) = (contents held).set i (x.map (·.data)) := by
  unfold contents
  rw [List.map_set]

theorem contents_append (held : List (Option Buffer)) (x : Option Buffer) :
    contents (held ++ [x]) = contents held ++ [x.map (·.data)] := by
  unfold contents
  simp

theorem step_sim (G : Growth) (w : World) (hp : PoolEmpty w.pool) (e : Ev) :
    (w.step G e).1 = (specStep (contents w.held) e).1 ∧
    contents (w.step G e).2.held = (specStep (contents w.held) e).2 ∧
    PoolEmpty (w.step G e).2.pool := by
  cases e with
  | get choice n =>
    obtain ⟨hd, hp'⟩ := poolEmpty_get G hp choice n
    simp only [World.step, World.stepWith, specStep]
    refine ⟨trivial, ?_, hp'⟩
    rw [contents_append]
    simp [hd]
  | write s p =>
    simp only [World.step, World.stepWith, specStep, getSlot_contents]
    cases getSlot w.held s with
    | none => exact ⟨rfl, rfl, hp⟩
    | some b =>
      refine ⟨rfl, ?_, hp⟩
      simp [contents_set, Buffer.write]
  | read s =>
    simp only [World.step, World.stepWith, specStep, getSlot_contents]
    cases getSlot w.held s with
    | none => exact ⟨rfl, rfl, hp⟩
    | some b => exact ⟨rfl, rfl, hp⟩
  | put s =>
    simp only [World.step, World.stepWith, specStep, getSlot_contents]
    cases getSlot w.held s with
    | none => exact ⟨rfl, rfl, hp⟩
    | some b =>
      refine ⟨rfl, ?_, poolEmpty_put hp b⟩
      simp [contents_set]
  | drop i =>
    exact ⟨rfl, rfl, poolEmpty_drop hp i⟩

theorem run_sim (G : Growth) (evs : List Ev) :
    ∀ (w : World), PoolEmpty w.pool →
      (w.run G evs).1 = specRun (contents w.held) evs ∧ PoolEmpty (w.run G evs).2.pool := by
  induction evs with
  | nil => intro w hp; exact ⟨rfl, hp⟩
  | cons e es ih =>
    intro w hp
    obtain ⟨h1, h2, h3⟩ := step_sim G w hp e
    obtain ⟨i1, i2⟩ := ih (w.step G e).2 h3
    have hrun : w.run G (e :: es) =
        ((w.step G e).1 :: ((w.step G e).2.run G es).1, ((w.step G e).2.run G es).2) := rfl
    have hspec : specRun (contents w.held) (e :: es) =
        (specStep (contents w.held) e).1 :: specRun (specStep (contents w.held) e).2 es := rfl
    rw [hrun, hspec]
    refine ⟨?_, i2⟩
    simp only
    rw [h1, i1, h2]

end Atree.Buf

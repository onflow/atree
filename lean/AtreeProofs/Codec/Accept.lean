import AtreeProofs.Codec.DecLemmas
/-
  The CBOR validator (`wfRun`) on encoder output, compositionally.  `ExG ex b need` says that the byte
  string `b` is exactly one well-formed data item wherever the validator expects an item: started at
  an item frame `f` (an array position or directly after a tag number; `ItemFrame`, `frameDepth`,
  `frameInTag`, `afterItem`: CborLemmas.lean) whose depth is within the limit of 32,

    * it is ACCEPTED when `frameDepth f + need (frameInTag f) ≤ maxNestedLevels`, and,
    * under the guard `ex`, it is REJECTED (`wfRun … = none`) when
      `frameDepth f + need (frameInTag f) > maxNestedLevels`.

  `need true` is the number of levels needed when the item directly follows a tag number (only then
  does a further tag number cost a level), `need false` when it is an array element or a top-level
  item.  There is one rule per CBOR form (leaf, tag number, array), proved for any `ex`.  The two
  statements the development uses are its readings: `Acc b k` (accepted when `k` further levels are
  available: one-sided, context-free) says what `ExG False b (fun _ => k)` says (`Acc.exG`,
  `ExG.toAcc`), and `ExX b need` (exact) what `ExG True b need` says (`ExX.exG`, `ExG.exX`); they are
  definitions of their own with the same two fields.
-/
namespace Atree.Codec
open Atree Atree.Gen

/-- the run at an item frame on data that starts with a head `wfHead` reads: one step, and the fuel left still
    covers what follows the head -/
theorem wfRun_item_head {f : Frame} (hf : ItemFrame f) {hb tail : Bytes} {h : Head}
    (hw : wfHead (hb ++ tail) = some (h, tail)) (stk : List Frame) {fuel : Nat} (hl : (hb ++ tail).length ≤ fuel) :
    ∃ f1, tail.length ≤ f1 ∧ wfRun fuel (f :: stk) (hb ++ tail) =
      match wfItemStep (frameDepth f) (frameInTag f) (afterItem f stk) (hb ++ tail) with
      | none => none
      | some (stk', rest') => wfRun f1 stk' rest' := by
  have hlt := wfHead_length hw
  cases hd : hb ++ tail with
  | nil => rw [hd] at hlt; cases hlt
  | cons x tl =>
    rw [hd] at hlt hl
    obtain ⟨f1, rfl⟩ : ∃ f1, fuel = f1 + 1 := ⟨fuel - 1, by simp only [List.length_cons] at hl; omega⟩
    exact ⟨f1, by simp only [List.length_cons] at hl hlt; omega, wfRun_item_step hf stk f1 x tl⟩

/-- acceptance at every item frame, rejection under the guard `ex` -/
structure ExG (ex : Prop) (b : Bytes) (need : Bool → Nat) : Prop where
  acc : ∀ (f : Frame), ItemFrame f → ∀ (stk : List Frame) (rest : Bytes) (fuel : Nat),
    frameDepth f + need (frameInTag f) ≤ maxNestedLevels → (b ++ rest).length ≤ fuel →
    ∃ fuel', rest.length ≤ fuel' ∧ wfRun fuel (f :: stk) (b ++ rest) = wfRun fuel' (afterItem f stk) rest
  rej : ex → ∀ (f : Frame), ItemFrame f → ∀ (stk : List Frame) (rest : Bytes) (fuel : Nat),
    frameDepth f ≤ maxNestedLevels → maxNestedLevels < frameDepth f + need (frameInTag f) →
    (b ++ rest).length ≤ fuel → wfRun fuel (f :: stk) (b ++ rest) = none

/-- the same as an element of a definite-length array (or as a top-level item) only -/
structure ExFG (ex : Prop) (b : Bytes) (n : Nat) : Prop where
  acc : ∀ (m d : Nat) (stk : List Frame) (rest : Bytes) (fuel : Nat),
    d + n ≤ maxNestedLevels → (b ++ rest).length ≤ fuel →
    ∃ fuel', rest.length ≤ fuel' ∧ wfRun fuel (.items m d :: stk) (b ++ rest) = wfRun fuel' (popItem m d stk) rest
  rej : ex → ∀ (m d : Nat) (stk : List Frame) (rest : Bytes) (fuel : Nat),
    d ≤ maxNestedLevels → maxNestedLevels < d + n →
    (b ++ rest).length ≤ fuel → wfRun fuel (.items m d :: stk) (b ++ rest) = none

theorem ExG.toF {ex : Prop} {b : Bytes} {need : Bool → Nat} (h : ExG ex b need) : ExFG ex b (need false) :=
  ⟨fun m d stk rest fuel hd hl => h.acc (.items m d) (.items m d) stk rest fuel hd hl,
   fun hx m d stk rest fuel hd hlt hl => h.rej hx (.items m d) (.items m d) stk rest fuel hd hlt hl⟩

theorem ExG.cast {ex : Prop} {b b' : Bytes} {n n' : Bool → Nat} (h : ExG ex b n) (hb : b = b')
    (hn : ∀ t, n t = n' t) : ExG ex b' n' := by
  have : n = n' := funext hn
  subst hb; subst this; exact h

theorem ExFG.cast {ex : Prop} {b b' : Bytes} {n n' : Nat} (h : ExFG ex b n) (hb : b = b') (hn : n = n') :
    ExFG ex b' n' := by
  subst hb; subst hn; exact h

/-! ### The two readings -/

/-- `b` is one well-formed item needing at most `k` further nesting levels -/
def Acc (b : Bytes) (k : Nat) : Prop :=
  ∀ (f : Frame), ItemFrame f → ∀ (stk : List Frame) (rest : Bytes) (fuel : Nat),
    frameDepth f + k ≤ maxNestedLevels → (b ++ rest).length ≤ fuel →
    ∃ fuel', rest.length ≤ fuel' ∧ wfRun fuel (f :: stk) (b ++ rest) = wfRun fuel' (afterItem f stk) rest

def AccList (l : List Bytes) (k : Nat) : Prop := ∀ b ∈ l, Acc b k

/-- exact acceptance at every item frame -/
structure ExX (b : Bytes) (need : Bool → Nat) : Prop where
  acc : ∀ (f : Frame), ItemFrame f → ∀ (stk : List Frame) (rest : Bytes) (fuel : Nat),
    frameDepth f + need (frameInTag f) ≤ maxNestedLevels → (b ++ rest).length ≤ fuel →
    ∃ fuel', rest.length ≤ fuel' ∧ wfRun fuel (f :: stk) (b ++ rest) = wfRun fuel' (afterItem f stk) rest
  rej : ∀ (f : Frame), ItemFrame f → ∀ (stk : List Frame) (rest : Bytes) (fuel : Nat),
    frameDepth f ≤ maxNestedLevels → maxNestedLevels < frameDepth f + need (frameInTag f) →
    (b ++ rest).length ≤ fuel → wfRun fuel (f :: stk) (b ++ rest) = none

/-- exact acceptance as an element of a definite-length array (or as a top-level item) -/
structure ExF (b : Bytes) (n : Nat) : Prop where
  acc : ∀ (m d : Nat) (stk : List Frame) (rest : Bytes) (fuel : Nat),
    d + n ≤ maxNestedLevels → (b ++ rest).length ≤ fuel →
    ∃ fuel', rest.length ≤ fuel' ∧ wfRun fuel (.items m d :: stk) (b ++ rest) = wfRun fuel' (popItem m d stk) rest
  rej : ∀ (m d : Nat) (stk : List Frame) (rest : Bytes) (fuel : Nat),
    d ≤ maxNestedLevels → maxNestedLevels < d + n →
    (b ++ rest).length ≤ fuel → wfRun fuel (.items m d :: stk) (b ++ rest) = none

theorem Acc.exG {b : Bytes} {k : Nat} (h : Acc b k) : ExG False b (fun _ => k) := ⟨h, False.elim⟩

theorem ExG.toAcc {ex : Prop} {b : Bytes} {need : Bool → Nat} (h : ExG ex b need) {k : Nat}
    (hk : ∀ t, need t ≤ k) : Acc b k := by
  intro f hf stk rest fuel hd hl
  exact h.acc f hf stk rest fuel (by have := hk (frameInTag f); omega) hl

theorem ExX.exG {b : Bytes} {need : Bool → Nat} (h : ExX b need) : ExG True b need := ⟨h.acc, fun _ => h.rej⟩

theorem ExG.exX {b : Bytes} {need : Bool → Nat} (h : ExG True b need) : ExX b need := ⟨h.acc, h.rej trivial⟩

theorem ExF.exFG {b : Bytes} {n : Nat} (h : ExF b n) : ExFG True b n := ⟨h.acc, fun _ => h.rej⟩

theorem ExFG.exF {b : Bytes} {n : Nat} (h : ExFG True b n) : ExF b n := ⟨h.acc, h.rej trivial⟩

theorem ExX.toF {b : Bytes} {need : Bool → Nat} (h : ExX b need) : ExF b (need false) := h.exG.toF.exF

theorem ExX.cast {b b' : Bytes} {n n' : Bool → Nat} (h : ExX b n) (hb : b = b') (hn : ∀ t, n t = n' t) :
    ExX b' n' := (h.exG.cast hb hn).exX

theorem ExF.cast {b b' : Bytes} {n n' : Nat} (h : ExF b n) (hb : b = b') (hn : n = n') : ExF b' n' :=
  (h.exFG.cast hb hn).exF

/-- the one-sided, context-free statement follows -/
theorem ExX.toAcc {b : Bytes} {need : Bool → Nat} (h : ExX b need) {k : Nat} (hk : ∀ t, need t ≤ k) : Acc b k :=
  h.exG.toAcc hk

theorem Acc.mono {b : Bytes} {k k' : Nat} (h : Acc b k) (hk : k ≤ k') : Acc b k' := by
  intro f hf stk rest fuel hd hl
  exact h f hf stk rest fuel (by omega) hl

/-! ### Leaves: integers and byte strings need no further level -/

theorem Acc.ofLeafHead {hb : Bytes} {h : Head} (hw : ∀ rest, wfHead (hb ++ rest) = some (h, rest)) (ht : h.t = 0) :
    Acc hb 0 := by
  intro f hf stk rest fuel _ hl
  obtain ⟨f1, hf1, hrun⟩ := wfRun_item_head hf (hw rest) stk hl
  refine ⟨f1, hf1, ?_⟩
  rw [hrun]
  unfold wfItemStep
  rw [hw rest]
  simp [ht]

theorem Acc.uint {n : Nat} (hn : n < 2 ^ 64) : Acc (head 0 n) 0 :=
  Acc.ofLeafHead (fun rest => wfHead_head (by omega) hn rest) rfl

theorem Acc.uint8Fixed (i : Nat) : Acc [0x18, i] 0 :=
  Acc.ofLeafHead (h := ⟨0, 24, i⟩) (fun rest => by simp [wfHead]) rfl

theorem Acc.ofBytesHead {hb content : Bytes} {h : Head} (hw : ∀ rest, wfHead (hb ++ rest) = some (h, rest))
    (ht : h.t = 2) (hai : h.ai ≠ 31) (hv : h.val = content.length) (hl63 : content.length < 2 ^ 63) :
    Acc (hb ++ content) 0 := by
  intro f hf stk rest fuel _ hl
  rw [List.append_assoc] at hl ⊢
  obtain ⟨f1, hf1, hrun⟩ := wfRun_item_head hf (hw (content ++ rest)) stk hl
  refine ⟨f1, by rw [List.length_append] at hf1; omega, ?_⟩
  rw [hrun]
  unfold wfItemStep
  rw [hw (content ++ rest)]
  have h1 : ¬ h.val ≥ 2 ^ 63 := by omega
  have h2 : ¬ (content ++ rest).length < h.val := by simp [hv]
  simp only [ht, true_or, ↓reduceIte, hai, h1, h2]
  rw [hv, List.drop_left]

theorem Acc.bytes {content : Bytes} (hl : content.length < 2 ^ 63) : Acc (head 2 content.length ++ content) 0 :=
  Acc.ofBytesHead (fun rest => wfHead_head (by omega) (by omega) rest) rfl (aiOf_ne_31 _) rfl hl

theorem wfHead_bytesHead16 {n : Nat} (hn : n < 65536) (rest : Bytes) :
    wfHead (bytesHead16 n ++ rest) = some (⟨2, 25, n⟩, rest) := by
  unfold bytesHead16
  simp [wfHead, beVal_beBytes (k := 2) (by omega : n < 256 ^ 2)]

theorem Acc.bytes16 {content : Bytes} (hl : content.length < 65536) : Acc (bytesHead16 content.length ++ content) 0 :=
  Acc.ofBytesHead (fun rest => wfHead_bytesHead16 hl rest) rfl (by simp) rfl (by omega)

theorem ExG.ofAcc0 {ex : Prop} {b : Bytes} (h : Acc b 0) : ExG ex b (fun _ => 0) :=
  ⟨fun f hf stk rest fuel hd hl => h f hf stk rest fuel hd hl,
   fun _ f _ stk rest fuel hd hlt _ => by simp only [Nat.add_zero] at hlt; omega⟩

/-! ### A tag number -/

/-- a one-byte tag number directly after a tag number: one level deeper, refused beyond the limit -/
theorem wfItemStep_tag8_inTag (t : Nat) (rest : Bytes) (d : Nat) (stk : List Frame) :
    wfItemStep d true stk (0xd8 :: t :: rest) =
      if d + 1 > maxNestedLevels then none else some (.tag (d + 1) :: stk, rest) := by
  unfold wfItemStep wfHead
  by_cases hdd : d + 1 > maxNestedLevels <;> simp [hdd]

/-- a one-byte tag number in front of an item: it costs a level exactly when it follows a tag number -/
theorem ExG.tag8 {ex : Prop} {b : Bytes} {need : Bool → Nat} (t : Nat) (h : ExG ex b need) :
    ExG ex (0xd8 :: t :: b) (fun i => (if i then 1 else 0) + need true) := by
  constructor
  · intro f hf stk rest fuel hd hl
    simp only [List.cons_append, List.length_cons] at hl ⊢
    obtain ⟨f2, rfl⟩ : ∃ f2, fuel = f2 + 1 := ⟨fuel - 1, by omega⟩
    rw [wfRun_item_step hf]
    cases hf with
    | items n d =>
      simp only [frameDepth, frameInTag, Bool.false_eq_true, ↓reduceIte, Nat.zero_add] at hd
      have hstep : wfItemStep d false (popItem n d stk) (0xd8 :: t :: (b ++ rest))
          = some (.tag d :: popItem n d stk, b ++ rest) := wfItemStep_tag8 _ _ _ _
      simp only [frameDepth, frameInTag, afterItem, hstep]
      obtain ⟨f3, hf3, h3⟩ := h.acc (.tag d) (.tag _) (popItem n d stk) rest f2
        (by simp only [frameDepth, frameInTag]; omega) (by omega)
      exact ⟨f3, hf3, by rw [h3]; rfl⟩
    | tag d =>
      simp only [frameDepth, frameInTag, ↓reduceIte] at hd
      simp only [frameDepth, frameInTag, afterItem, wfItemStep_tag8_inTag, if_neg (show ¬ (d + 1 > maxNestedLevels) by omega)]
      obtain ⟨f3, hf3, h3⟩ := h.acc (.tag (d + 1)) (.tag _) stk rest f2
        (by simp only [frameDepth, frameInTag]; omega) (by omega)
      exact ⟨f3, hf3, by rw [h3]; rfl⟩
  · intro hx f hf stk rest fuel hd hlt hl
    simp only [List.cons_append, List.length_cons] at hl ⊢
    obtain ⟨f2, rfl⟩ : ∃ f2, fuel = f2 + 1 := ⟨fuel - 1, by omega⟩
    rw [wfRun_item_step hf]
    cases hf with
    | items n d =>
      simp only [frameDepth, frameInTag, Bool.false_eq_true, ↓reduceIte, Nat.zero_add] at hd hlt
      have hstep : wfItemStep d false (popItem n d stk) (0xd8 :: t :: (b ++ rest))
          = some (.tag d :: popItem n d stk, b ++ rest) := wfItemStep_tag8 _ _ _ _
      simp only [frameDepth, frameInTag, afterItem, hstep]
      exact h.rej hx (.tag d) (.tag _) (popItem n d stk) rest f2 (by simp only [frameDepth]; omega)
        (by simp only [frameDepth, frameInTag]; omega) (by omega)
    | tag d =>
      simp only [frameDepth, frameInTag, ↓reduceIte] at hd hlt
      simp only [frameDepth, frameInTag, afterItem, wfItemStep_tag8_inTag]
      by_cases hdd : d + 1 > maxNestedLevels
      · rw [if_pos hdd]
      · rw [if_neg hdd]
        exact h.rej hx (.tag (d + 1)) (.tag _) stk rest f2 (by simp only [frameDepth]; omega)
          (by simp only [frameDepth, frameInTag]; omega) (by omega)

theorem Acc.tag8 {b : Bytes} {k : Nat} (t : Nat) (h : Acc b k) : Acc (0xd8 :: t :: b) (k + 1) :=
  (ExG.tag8 t h.exG).toAcc (fun i => by cases i <;> simp <;> omega)

/-! ### A definite-length array: one level more than its deepest element -/

/-- `N` bounds the needs in the list and, under the guard, is the largest of them (0 for the empty list) -/
def IsMax (ex : Prop) (l : List (Bytes × Nat)) (N : Nat) : Prop :=
  (∀ p ∈ l, p.2 ≤ N) ∧ (ex → N = 0 ∨ ∃ p ∈ l, p.2 = N)

theorem IsMax.nil {ex : Prop} : IsMax ex [] 0 := ⟨fun p hp => (by cases hp), fun _ => Or.inl rfl⟩

theorem IsMax.cons {ex : Prop} {l : List (Bytes × Nat)} {N : Nat} (p : Bytes × Nat) (h : IsMax ex l N) :
    IsMax ex (p :: l) (max p.2 N) := by
  refine ⟨?_, fun hx => ?_⟩
  · intro q hq
    rcases List.mem_cons.1 hq with rfl | hq
    · exact Nat.le_max_left _ _
    · exact Nat.le_trans (h.1 q hq) (Nat.le_max_right _ _)
  · by_cases hp : N ≤ p.2
    · exact Or.inr ⟨p, List.mem_cons_self .., by rw [Nat.max_eq_left hp]⟩
    · have hN : max p.2 N = N := Nat.max_eq_right (by omega)
      rcases h.2 hx with h0 | ⟨q, hq, hqN⟩
      · omega
      · exact Or.inr ⟨q, List.mem_cons_of_mem _ hq, by rw [hN]; exact hqN⟩

theorem wfRun_exList_acc {ex : Prop} : ∀ (l : List (Bytes × Nat)), (∀ p ∈ l, ExFG ex p.1 p.2) →
    ∀ (d : Nat) (stk : List Frame) (rest : Bytes) (fuel : Nat), (∀ p ∈ l, d + p.2 ≤ maxNestedLevels) →
    ((l.map Prod.fst).flatten ++ rest).length ≤ fuel →
    ∃ fuel', rest.length ≤ fuel' ∧
      wfRun fuel (pushItems l.length d stk) ((l.map Prod.fst).flatten ++ rest) = wfRun fuel' stk rest := by
  intro l
  induction l with
  | nil => intro _ d stk rest fuel _ hl; exact ⟨fuel, by simpa using hl, rfl⟩
  | cons p ps ih =>
    intro hex d stk rest fuel hd hl
    simp only [List.map_cons, List.flatten_cons, List.append_assoc, List.length_cons, pushItems] at hl ⊢
    obtain ⟨f1, hf1, h1⟩ := (hex p (List.mem_cons_self ..)).acc ps.length d stk
      ((ps.map Prod.fst).flatten ++ rest) fuel (hd p (List.mem_cons_self ..)) hl
    obtain ⟨f2, hf2, h2⟩ := ih (fun x hx => hex x (List.mem_cons_of_mem _ hx)) d stk rest f1
      (fun x hx => hd x (List.mem_cons_of_mem _ hx)) hf1
    refine ⟨f2, hf2, ?_⟩
    rw [h1, popItem_eq_pushItems, h2]

theorem wfRun_exList_rej {ex : Prop} (hx : ex) : ∀ (l : List (Bytes × Nat)), (∀ p ∈ l, ExFG ex p.1 p.2) →
    ∀ (d : Nat) (stk : List Frame) (rest : Bytes) (fuel : Nat), d ≤ maxNestedLevels →
    (∃ p ∈ l, maxNestedLevels < d + p.2) → ((l.map Prod.fst).flatten ++ rest).length ≤ fuel →
    wfRun fuel (pushItems l.length d stk) ((l.map Prod.fst).flatten ++ rest) = none := by
  intro l
  induction l with
  | nil => intro _ d stk rest fuel _ hex; obtain ⟨p, hp, _⟩ := hex; cases hp
  | cons p ps ih =>
    intro hex d stk rest fuel hd hbad hl
    simp only [List.map_cons, List.flatten_cons, List.append_assoc, List.length_cons, pushItems] at hl ⊢
    by_cases hp : maxNestedLevels < d + p.2
    · exact (hex p (List.mem_cons_self ..)).rej hx ps.length d stk ((ps.map Prod.fst).flatten ++ rest) fuel hd hp hl
    · obtain ⟨f1, hf1, h1⟩ := (hex p (List.mem_cons_self ..)).acc ps.length d stk
        ((ps.map Prod.fst).flatten ++ rest) fuel (by omega) hl
      have hbad' : ∃ q ∈ ps, maxNestedLevels < d + q.2 := by
        obtain ⟨q, hq, hqb⟩ := hbad
        rcases List.mem_cons.1 hq with rfl | hq
        · exact absurd hqb hp
        · exact ⟨q, hq, hqb⟩
      rw [h1, popItem_eq_pushItems]
      exact ih (fun x hx => hex x (List.mem_cons_of_mem _ hx)) d stk rest f1 hd hbad' hf1

/-- a definite-length array whose head is `hb`: one level more than its deepest element -/
theorem ExG.ofArrayHead {ex : Prop} {hb : Bytes} {h : Head} {l : List (Bytes × Nat)} {N : Nat}
    (hw : ∀ rest, wfHead (hb ++ rest) = some (h, rest)) (ht : h.t = 4) (hai : h.ai ≠ 31)
    (hv : h.val = l.length) (hmax : l.length ≤ maxArrayElements) (hl : ∀ p ∈ l, ExFG ex p.1 p.2) (hN : IsMax ex l N) :
    ExG ex (hb ++ (l.map Prod.fst).flatten) (fun _ => N + 1) := by
  have hstep : ∀ (f : Frame) (stk : List Frame) (rest : Bytes), ¬ (frameDepth f + 1 > maxNestedLevels) →
      wfItemStep (frameDepth f) (frameInTag f) (afterItem f stk) (hb ++ ((l.map Prod.fst).flatten ++ rest))
        = some (pushItems l.length (frameDepth f + 1) (afterItem f stk), (l.map Prod.fst).flatten ++ rest) := by
    intro f stk rest h1
    unfold wfItemStep
    rw [hw ((l.map Prod.fst).flatten ++ rest)]
    have h2 : ¬ h.val ≥ 2 ^ 63 := by rw [hv]; unfold maxArrayElements at hmax; omega
    have h3 : ¬ h.val > maxArrayElements := by rw [hv]; omega
    simp only [ht, show ¬ ((4 : Nat) = 2 ∨ (4 : Nat) = 3) by decide, ↓reduceIte, true_or, h1, hai, h2, h3]
    rw [hv]
  constructor
  · intro f hf stk rest fuel hd hlen
    rw [List.append_assoc] at hlen ⊢
    obtain ⟨f1, hf1, hrun⟩ := wfRun_item_head hf (hw ((l.map Prod.fst).flatten ++ rest)) stk hlen
    rw [hrun, hstep f stk rest (by omega)]
    exact wfRun_exList_acc l hl (frameDepth f + 1) (afterItem f stk) rest f1
      (fun p hp => by have := hN.1 p hp; omega) hf1
  · intro hx f hf stk rest fuel hd hlt hlen
    rw [List.append_assoc] at hlen ⊢
    obtain ⟨f1, hf1, hrun⟩ := wfRun_item_head hf (hw ((l.map Prod.fst).flatten ++ rest)) stk hlen
    rw [hrun]
    by_cases h1 : frameDepth f + 1 > maxNestedLevels
    · have : wfItemStep (frameDepth f) (frameInTag f) (afterItem f stk) (hb ++ ((l.map Prod.fst).flatten ++ rest))
          = none := by
        unfold wfItemStep
        rw [hw ((l.map Prod.fst).flatten ++ rest)]
        simp only [ht, show ¬ ((4 : Nat) = 2 ∨ (4 : Nat) = 3) by decide, ↓reduceIte, true_or, h1]
      rw [this]
    · rw [hstep f stk rest h1]
      have hbad : ∃ p ∈ l, maxNestedLevels < frameDepth f + 1 + p.2 := by
        rcases hN.2 hx with h0 | ⟨p, hp, hpN⟩
        · omega
        · exact ⟨p, hp, by omega⟩
      exact wfRun_exList_rej hx l hl (frameDepth f + 1) (afterItem f stk) rest f1 (by omega) hbad hf1

theorem ExG.array {ex : Prop} {l : List (Bytes × Nat)} {N : Nat} (hmax : l.length ≤ maxArrayElements)
    (hl : ∀ p ∈ l, ExFG ex p.1 p.2) (hN : IsMax ex l N) :
    ExG ex (head 4 l.length ++ (l.map Prod.fst).flatten) (fun _ => N + 1) :=
  ExG.ofArrayHead (fun rest => wfHead_head (by omega) (by unfold maxArrayElements at hmax; omega) rest) rfl
    (aiOf_ne_31 _) rfl hmax hl hN

theorem ExG.array16 {ex : Prop} {l : List (Bytes × Nat)} {N : Nat} (hn : l.length < 65536)
    (hl : ∀ p ∈ l, ExFG ex p.1 p.2) (hN : IsMax ex l N) :
    ExG ex (arrayHead16 l.length ++ (l.map Prod.fst).flatten) (fun _ => N + 1) :=
  ExG.ofArrayHead (fun rest => wfHead_arrayHead16 hn rest) rfl (by simp) rfl
    (by unfold maxArrayElements; omega) hl hN

theorem ExX.array16 {l : List (Bytes × Nat)} {N : Nat} (hn : l.length < 65536)
    (hl : ∀ p ∈ l, ExF p.1 p.2) (hN : IsMax True l N) :
    ExX (arrayHead16 l.length ++ (l.map Prod.fst).flatten) (fun _ => N + 1) :=
  (ExG.array16 hn (fun p hp => (hl p hp).exFG) hN).exX

theorem Acc.ofArrayHead {hb : Bytes} {h : Head} {l : List Bytes} {k : Nat}
    (hw : ∀ rest, wfHead (hb ++ rest) = some (h, rest)) (ht : h.t = 4) (hai : h.ai ≠ 31)
    (hv : h.val = l.length) (hmax : l.length ≤ maxArrayElements) (hl : AccList l k) :
    Acc (hb ++ l.flatten) (k + 1) := by
  have hparts : ∀ p ∈ l.map (·, k), ExFG False p.1 p.2 := by
    intro p hp
    obtain ⟨b, hb', rfl⟩ := List.mem_map.1 hp
    exact (hl b hb').exG.toF
  have hN : IsMax False (l.map (·, k)) k :=
    ⟨fun p hp => by obtain ⟨b, _, rfl⟩ := List.mem_map.1 hp; exact Nat.le_refl _, False.elim⟩
  have := ExG.ofArrayHead hw ht hai (by rw [List.length_map]; exact hv) (by rw [List.length_map]; exact hmax)
    hparts hN
  rw [List.map_map, show (Prod.fst ∘ fun b => (b, k)) = id from rfl, List.map_id] at this
  exact this.toAcc (fun _ => Nat.le_refl _)

theorem Acc.array {l : List Bytes} {k : Nat} (hmax : l.length ≤ maxArrayElements) (hl : AccList l k) :
    Acc (head 4 l.length ++ l.flatten) (k + 1) :=
  Acc.ofArrayHead (fun rest => wfHead_head (by omega) (by unfold maxArrayElements at hmax; omega) rest) rfl
    (aiOf_ne_31 _) rfl hmax hl

/-! ### The validation of the next top-level item -/

theorem wfNext_of_exG {ex : Prop} {b : Bytes} {need : Bool → Nat} (h : ExG ex b need)
    (hk : need false ≤ maxNestedLevels) (rest : Bytes) : wfNext (b ++ rest) = some rest := by
  unfold wfNext
  obtain ⟨f', _, h'⟩ := h.acc (.items 0 0) (.items 0 0) [] rest (b ++ rest).length
    (by simpa [frameDepth, frameInTag] using hk) (Nat.le_refl _)
  rw [h']
  simp only [afterItem, popItem]
  exact wfRun_nil _ _

theorem wfNext_of_acc {b : Bytes} {k : Nat} (h : Acc b k) (hk : k ≤ maxNestedLevels) (rest : Bytes) :
    wfNext (b ++ rest) = some rest := wfNext_of_exG h.exG hk rest

theorem wfNext_of_exX {b : Bytes} {need : Bool → Nat} (h : ExX b need) (hk : need false ≤ maxNestedLevels)
    (rest : Bytes) : wfNext (b ++ rest) = some rest := wfNext_of_exG h.exG hk rest

theorem wfNext_none_of_exX {b : Bytes} {need : Bool → Nat} (h : ExX b need) (hk : maxNestedLevels < need false)
    (rest : Bytes) : wfNext (b ++ rest) = none := by
  unfold wfNext
  exact h.rej (.items 0 0) (.items 0 0) [] rest (b ++ rest).length (by simp [frameDepth])
    (by simpa [frameDepth, frameInTag] using hk) (Nat.le_refl _)

theorem wfNext_exX_iff {b : Bytes} {need : Bool → Nat} (h : ExX b need) (rest : Bytes) :
    wfNext (b ++ rest) = some rest ↔ need false ≤ maxNestedLevels := by
  constructor
  · intro hw
    by_cases hk : need false ≤ maxNestedLevels
    · exact hk
    · rw [wfNext_none_of_exX h (by omega) rest] at hw; cases hw
  · intro hk; exact wfNext_of_exX h hk rest

/-! ### The forms the encoders write -/

theorem acc_encodeIdx (idx : Nat) : Acc (encodeIdx idx) 0 := by
  have := Acc.bytes (content := beBytes SlabIndexLength idx) (by simp [length_beBytes, SlabIndexLength])
  simpa [encodeIdx, length_beBytes] using this

/-- a plain value of the harness: a byte string, behind a tag number for the sizes no byte string has -/
theorem exG_encodeVal {ex : Prop} (size pay : Nat) (hv : validElem { size := size, pay := .val pay }) :
    ExG ex (encodeElem { size := size, pay := .val pay }) (fun t => if isGap size && t then 1 else 0) := by
  unfold validElem at hv
  simp only at hv
  have hl := tvLen_lt hv.2.2.1
  have hb : Acc (head 2 (tvLen size) ++ tvContent (tvLen size) pay) 0 := by
    have h := Acc.bytes (content := tvContent (tvLen size) pay) (by rw [length_tvContent]; exact hl)
    rw [length_tvContent] at h
    exact h
  unfold encodeElem
  by_cases hg : isGap size = true
  · exact (ExG.tag8 tagGapValue (ExG.ofAcc0 hb)).cast
      (by simp only [hg, ↓reduceIte, tagHead8, List.cons_append, List.nil_append])
      (fun t => by cases t <;> simp [hg])
  · exact (ExG.ofAcc0 hb).cast (by simp only [hg, Bool.false_eq_true, ↓reduceIte, List.nil_append])
      (fun t => by simp [hg])

/-- a slab ID: a tag number and 16 bytes -/
theorem exG_encodeRef {ex : Prop} (id : SlabID) :
    ExG ex (encodeElem { size := slabIDStorableSize, pay := .ref id }) (fun t => if t then 1 else 0) := by
  have hb : Acc (head 2 SlabIDLength ++ encodeSlabID id) 0 := by
    have h := Acc.bytes (content := encodeSlabID id) (by simp [length_encodeSlabID])
    rw [length_encodeSlabID] at h
    exact h
  unfold encodeElem
  exact (ExG.tag8 CBORTagSlabID (ExG.ofAcc0 hb)).cast
    (by simp only [tagHead8, List.cons_append, List.nil_append]) (fun t => by simp)

/-- an element of the first part of the decoder: accepted within one level -/
theorem acc_encodeElem (e : Elem) (hv : validElem e) : Acc (encodeElem e) 1 := by
  obtain ⟨size, pay⟩ := e
  cases pay with
  | ref id => exact (exG_encodeRef (ex := False) id).toAcc (fun t => by cases t <;> simp)
  | val p => exact (exG_encodeVal (ex := False) size p hv).toAcc (fun t => by split <;> omega)

/-- a three-element array `[a, b, body]` whose first two elements are leaves -/
theorem exG_triple {ex : Prop} {a b body : Bytes} {k : Nat} (ha : Acc a 0) (hb : Acc b 0) (hbody : ExFG ex body k) :
    ExG ex (0x83 :: (a ++ (b ++ body))) (fun _ => k + 1) := by
  have hl : ∀ p ∈ [(a, 0), (b, 0), (body, k)], ExFG ex p.1 p.2 := by
    intro p hp
    simp only [List.mem_cons, List.not_mem_nil, or_false] at hp
    rcases hp with rfl | rfl | rfl
    · exact (ExG.ofAcc0 ha).toF
    · exact (ExG.ofAcc0 hb).toF
    · exact hbody
  have hN : IsMax ex [(a, 0), (b, 0), (body, k)] k := by
    refine ⟨?_, fun _ => Or.inr ⟨(body, k), by simp, rfl⟩⟩
    intro p hp
    simp only [List.mem_cons, List.not_mem_nil, or_false] at hp
    rcases hp with rfl | rfl | rfl <;> simp
  have := ExG.array (l := [(a, 0), (b, 0), (body, k)]) (by simp [maxArrayElements]) hl hN
  exact this.cast (by simp [head]) (fun _ => rfl)

/-- the tag content of an inlined slab: `tag, [extra data index, slab index, body]` -/
theorem exG_inlined {ex : Prop} (tag i idx : Nat) {body : Bytes} {k : Nat} (hb : ExFG ex body k) :
    ExG ex (inlinedHead tag i ++ encodeIdx idx ++ body) (fun t => (if t then 1 else 0) + (k + 1)) := by
  have h3 := exG_triple (Acc.uint8Fixed (i % 256)) (acc_encodeIdx idx) hb
  have h4 := ExG.tag8 tag h3
  exact h4.cast (by simp [inlinedHead]) (fun _ => rfl)

/-- a pair `[a, b]` -/
theorem exG_pair {ex : Prop} {a b : Bytes} {ka kb : Nat} (ha : ExFG ex a ka) (hb : ExFG ex b kb) :
    ExG ex (0x82 :: (a ++ b)) (fun _ => max ka kb + 1) := by
  have hl : ∀ p ∈ [(a, ka), (b, kb)], ExFG ex p.1 p.2 := by
    intro p hp
    simp only [List.mem_cons, List.not_mem_nil, or_false] at hp
    rcases hp with rfl | rfl
    · exact ha
    · exact hb
  have hN : IsMax ex [(a, ka), (b, kb)] (max ka kb) := by
    have := ((IsMax.nil (ex := ex)).cons (b, kb)).cons (a, ka)
    simpa using this
  have := ExG.array (l := [(a, ka), (b, kb)]) (by simp [maxArrayElements]) hl hN
  exact this.cast (by simp [head]) (fun _ => rfl)

theorem exX_inlined (tag i idx : Nat) {body : Bytes} {k : Nat} (hb : ExF body k) :
    ExX (inlinedHead tag i ++ encodeIdx idx ++ body) (fun t => (if t then 1 else 0) + (k + 1)) :=
  (exG_inlined tag i idx hb.exFG).exX

end Atree.Codec

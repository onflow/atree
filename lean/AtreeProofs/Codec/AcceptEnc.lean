import AtreeProofs.Codec.DecSteps
import AtreeProofs.Codec.CmpDefs
/-
  The CBOR validator on what the element encoders write, from any state of the encoder and whatever
  the value holds inlined (arrays, maps, the compact form): `(encSt s xs).1` is one item that needs
  exactly `s.vd inTag` nesting levels, `(encMEls els xs).1` exactly `els.vd`, …  (`Stor.vd`, `MEls.vd`:
  Limits.lean).  The encoders are walked once, for the guarded statement `ExG ex` (Accept.lean).
  For the compact form of an inlined map the values written are those `encFind` finds under the
  cached keys — a permutation of the map's own keys, so, the keys being distinct (`nodupKeys`), every
  value is written exactly once and the need is `vdMElVals`; distinctness is needed for rejection
  only and stands under the guard.  Read at `ex := True` this is exact acceptance (`exStX`, …); read
  at `ex := False` and weakened by `vd ≤ vneedI` it is acceptance within `vneedI` levels (`accStC`, …),
  of which the statements for values without the compact form (`…I`) and without inlined slabs (no
  letter) are instances.  `enc…PartsX` lists the parts an encoder writes with the need of each
  attached; in `ex…X` the letter says exact, in `ex…G` (as in `ExG`) guarded — not the `G` of `decStG`,
  the general part of the decoder.
-/
namespace Atree.Codec
open Atree Atree.Gen DM

/-- a list of encoded items with the encoder's state threaded through, as a list of byte strings -/
def encMElParts : List MEl → List XD → List Bytes
  | [], _ => []
  | e :: es, xs => (encMEl e xs).1 :: encMElParts es (encMEl e xs).2

def encSElParts : List SEl → List XD → List Bytes
  | [], _ => []
  | e :: es, xs => (encSEl e xs).1 :: encSElParts es (encSEl e xs).2

theorem encMElParts_flatten : ∀ (l : List MEl) (xs : List XD), (encMElParts l xs).flatten = (encMElList l xs).1
  | [], xs => by simp [encMElParts, encMElList]
  | e :: es, xs => by simp [encMElParts, encMElList, encMElParts_flatten es]

theorem encSElParts_flatten : ∀ (l : List SEl) (xs : List XD), (encSElParts l xs).flatten = (encSElList l xs).1
  | [], xs => by simp [encSElParts, encSElList]
  | e :: es, xs => by simp [encSElParts, encSElList, encSElParts_flatten es]

theorem encMElParts_length : ∀ (l : List MEl) (xs : List XD), (encMElParts l xs).length = l.length
  | [], xs => rfl
  | e :: es, xs => by simp [encMElParts, encMElParts_length es]

theorem encSElParts_length : ∀ (l : List SEl) (xs : List XD), (encSElParts l xs).length = l.length
  | [], xs => rfl
  | e :: es, xs => by simp [encSElParts, encSElParts_length es]

def encStParts : List Stor → List XD → List Bytes
  | [], _ => []
  | s :: ss, xs => (encSt s xs).1 :: encStParts ss (encSt s xs).2

theorem encStParts_flatten : ∀ (l : List Stor) (xs : List XD), (encStParts l xs).flatten = (encSts l xs).1
  | [], xs => by simp [encStParts, encSts]
  | s :: ss, xs => by simp [encStParts, encSts, encStParts_flatten ss]

theorem encStParts_length : ∀ (l : List Stor) (xs : List XD), (encStParts l xs).length = l.length
  | [], xs => rfl
  | s :: ss, xs => by simp [encStParts, encStParts_length ss]

def encValParts (elems : List MEl) : List (Nat × Nat) → List XD → List Bytes
  | [], _ => []
  | k :: ks, xs => (encFind k elems xs).1 :: encValParts elems ks (encFind k elems xs).2

theorem encValParts_flatten (elems : List MEl) : ∀ (ks : List (Nat × Nat)) (xs : List XD),
    (encValParts elems ks xs).flatten = (encVals elems ks xs).1
  | [], xs => by simp [encValParts, encVals]
  | k :: ks, xs => by simp [encValParts, encVals, encValParts_flatten elems ks]

theorem encValParts_length (elems : List MEl) : ∀ (ks : List (Nat × Nat)) (xs : List XD),
    (encValParts elems ks xs).length = ks.length
  | [], xs => rfl
  | k :: ks, xs => by simp [encValParts, encValParts_length elems ks]

theorem acc_level {level : Nat} (hlev : level < 24) : Acc [level % 256] 0 := by
  have := Acc.uint (n := level) (by omega)
  rw [← level_head hlev] at this; exact this

theorem acc_empty_bytes : Acc [0x40] 0 := by
  have := Acc.bytes (content := []) (by simp)
  simpa [head] using this

theorem acc_hkeyBytes (hkeys : List Nat) (h8192 : hkeys.length < 8192) :
    Acc (bytesHead16 (hkeys.length * 8) ++ encodeHkeys hkeys) 0 := by
  have := Acc.bytes16 (content := encodeHkeys hkeys) (by rw [length_encodeHkeys]; omega)
  rw [length_encodeHkeys, Nat.mul_comm] at this
  exact this

def encStPartsX : List Stor → List XD → List (Bytes × Nat)
  | [], _ => []
  | s :: ss, xs => ((encSt s xs).1, s.vd false) :: encStPartsX ss (encSt s xs).2

theorem encStPartsX_fst : ∀ (l : List Stor) (xs : List XD), (encStPartsX l xs).map Prod.fst = encStParts l xs
  | [], xs => rfl
  | s :: ss, xs => by simp [encStPartsX, encStParts, encStPartsX_fst ss]

theorem encStPartsX_length (l : List Stor) (xs : List XD) : (encStPartsX l xs).length = l.length := by
  rw [← List.length_map (f := Prod.fst), encStPartsX_fst, encStParts_length]

theorem isMax_encStPartsX {ex : Prop} : ∀ (l : List Stor) (xs : List XD), IsMax ex (encStPartsX l xs) (vdSts l)
  | [], xs => IsMax.nil
  | s :: ss, xs => by
    simp only [encStPartsX, vdSts]
    exact (isMax_encStPartsX ss _).cons _

def encMElPartsX : List MEl → List XD → List (Bytes × Nat)
  | [], _ => []
  | e :: es, xs => ((encMEl e xs).1, e.vd) :: encMElPartsX es (encMEl e xs).2

theorem encMElPartsX_fst : ∀ (l : List MEl) (xs : List XD), (encMElPartsX l xs).map Prod.fst = encMElParts l xs
  | [], xs => rfl
  | e :: es, xs => by simp [encMElPartsX, encMElParts, encMElPartsX_fst es]

theorem encMElPartsX_length (l : List MEl) (xs : List XD) : (encMElPartsX l xs).length = l.length := by
  rw [← List.length_map (f := Prod.fst), encMElPartsX_fst, encMElParts_length]

theorem isMax_encMElPartsX {ex : Prop} : ∀ (l : List MEl) (xs : List XD), IsMax ex (encMElPartsX l xs) (vdMElList l)
  | [], xs => IsMax.nil
  | e :: es, xs => by
    simp only [encMElPartsX, vdMElList]
    exact (isMax_encMElPartsX es _).cons _

def encSElPartsX : List SEl → List XD → List (Bytes × Nat)
  | [], _ => []
  | e :: es, xs => ((encSEl e xs).1, e.vd) :: encSElPartsX es (encSEl e xs).2

theorem encSElPartsX_fst : ∀ (l : List SEl) (xs : List XD), (encSElPartsX l xs).map Prod.fst = encSElParts l xs
  | [], xs => rfl
  | e :: es, xs => by simp [encSElPartsX, encSElParts, encSElPartsX_fst es]

theorem encSElPartsX_length (l : List SEl) (xs : List XD) : (encSElPartsX l xs).length = l.length := by
  rw [← List.length_map (f := Prod.fst), encSElPartsX_fst, encSElParts_length]

theorem isMax_encSElPartsX {ex : Prop} : ∀ (l : List SEl) (xs : List XD), IsMax ex (encSElPartsX l xs) (vdSElList l)
  | [], xs => IsMax.nil
  | e :: es, xs => by
    simp only [encSElPartsX, vdSElList]
    exact (isMax_encSElPartsX es _).cons _

/-- exact need of the value of the first single element whose key is `k` (0 if there is none) -/
def vdFind (k : Nat × Nat) : List MEl → Nat
  | [] => 0
  | .single (.mk (.val s p) v) :: rest => if (s, p) = k then v.vd false else vdFind k rest
  | _ :: rest => vdFind k rest

theorem vdFind_eq_valFOf (k : Nat × Nat) (l : List MEl) : vdFind k l = valFOf (·.vd false) k l := by
  induction l using vdFind.induct k <;> simp only [vdFind, valFOf, ↓reduceIte, *]

def encValPartsX (elems : List MEl) : List (Nat × Nat) → List XD → List (Bytes × Nat)
  | [], _ => []
  | k :: ks, xs => ((encFind k elems xs).1, vdFind k elems) :: encValPartsX elems ks (encFind k elems xs).2

theorem encValPartsX_fst (elems : List MEl) : ∀ (ks : List (Nat × Nat)) (xs : List XD),
    (encValPartsX elems ks xs).map Prod.fst = encValParts elems ks xs
  | [], xs => rfl
  | k :: ks, xs => by simp [encValPartsX, encValParts, encValPartsX_fst elems ks]

theorem encValPartsX_length (elems : List MEl) (ks : List (Nat × Nat)) (xs : List XD) :
    (encValPartsX elems ks xs).length = ks.length := by
  rw [← List.length_map (f := Prod.fst), encValPartsX_fst, encValParts_length]

theorem encValPartsX_snd (elems : List MEl) : ∀ (ks : List (Nat × Nat)) (xs : List XD),
    (encValPartsX elems ks xs).map Prod.snd = ks.map (fun k => vdFind k elems)
  | [], xs => rfl
  | k :: ks, xs => by simp [encValPartsX, encValPartsX_snd elems ks]

theorem vdFind_le : ∀ (k : Nat × Nat) (l : List MEl), vdFind k l ≤ vdMElVals l
  | k, [] => Nat.le_refl _
  | k, .single (.mk key v) :: es => by
    have ih := vdFind_le k es
    rw [vdFind_eq_valFOf] at ih ⊢
    rcases find_single k key v es with ⟨_, _, hV⟩ | ⟨_, _, _, hV⟩ <;> rw [hV] <;> simp only [vdMElVals] <;> omega
  | k, .inl _ :: es => vdFind_le k es
  | k, .ext _ :: es => vdFind_le k es

/-- over the map's own (distinct) keys the deepest looked-up value is the deepest value -/
theorem vdFind_attained : ∀ (elems : List MEl) (keys : List (Nat × Nat)),
    elems.mapM compactKey = some keys → keys.Nodup → vdMElVals elems ≠ 0 →
    ∃ k ∈ keys, vdFind k elems = vdMElVals elems := by
  refine mapM_compactKey_induction (fun _ h0 => absurd rfl h0) ?_
  intro s p v es ks _ ih hnd h0
  obtain ⟨hnot, hnd'⟩ := List.nodup_cons.1 hnd
  simp only [vdMElVals] at h0 ⊢
  by_cases hv : vdMElVals es ≤ v.vd false
  · refine ⟨(s, p), List.mem_cons_self .., ?_⟩
    simp only [vdFind, ↓reduceIte]
    omega
  · obtain ⟨k, hkin, hkv⟩ := ih hnd' (by omega)
    refine ⟨k, List.mem_cons_of_mem _ hkin, ?_⟩
    have hne : (s, p) ≠ k := fun h => hnot (h ▸ hkin)
    simp only [vdFind, hne, ↓reduceIte, hkv]
    omega

theorem isMax_encValPartsX {ex : Prop} (elems : List MEl) (keys ks : List (Nat × Nat)) (xs : List XD)
    (hm : elems.mapM compactKey = some keys) (hnd : ex → keys.Nodup) (hperm : ks.Perm keys) :
    IsMax ex (encValPartsX elems ks xs) (vdMElVals elems) := by
  have hsnd := encValPartsX_snd elems ks xs
  refine ⟨?_, fun hx => ?_⟩
  · intro p hp
    have : p.2 ∈ (encValPartsX elems ks xs).map Prod.snd := List.mem_map_of_mem hp
    rw [hsnd] at this
    obtain ⟨k, _, hk⟩ := List.mem_map.1 this
    rw [← hk]; exact vdFind_le k elems
  · by_cases h0 : vdMElVals elems = 0
    · exact Or.inl h0
    · obtain ⟨k, hkin, hkv⟩ := vdFind_attained elems keys hm (hnd hx) h0
      have hk' : k ∈ ks := hperm.symm.subset hkin
      have : vdFind k elems ∈ (encValPartsX elems ks xs).map Prod.snd := by
        rw [hsnd]; exact List.mem_map_of_mem (f := fun k => vdFind k elems) hk'
      obtain ⟨p, hp, hpv⟩ := List.mem_map.1 this
      exact Or.inr ⟨p, hp, by rw [hpv, hkv]⟩

theorem exValPartsG {ex : Prop} (elems : List MEl)
    (hfind : ∀ k xs, hasKey k elems → ExFG ex (encFind k elems xs).1 (vdFind k elems)) :
    ∀ (ks : List (Nat × Nat)) (xs : List XD), (∀ k ∈ ks, hasKey k elems) →
      ∀ p ∈ encValPartsX elems ks xs, ExFG ex p.1 p.2
  | [], xs, _ => by intro p hp; simp [encValPartsX] at hp
  | k :: ks, xs, hk => by
    intro p hp
    simp only [encValPartsX, List.mem_cons] at hp
    rcases hp with rfl | hp
    · exact hfind k xs (hk k (List.mem_cons_self ..))
    · exact exValPartsG elems hfind ks _ (fun k' hk' => hk k' (List.mem_cons_of_mem _ hk')) p hp

mutual
theorem exStG {ex : Prop} : (s : Stor) → (xs : List XD) → s.RTI → (ex → s.nodupKeys) → ExG ex (encSt s xs).1 s.vd
  | .val size pay, xs, h, _ =>
    (exG_encodeVal size pay h).cast (by simp only [encSt]) (fun t => by simp only [Stor.vd])
  | .ref id, xs, _, _ =>
    (exG_encodeRef id).cast (by simp only [encSt]) (fun t => by simp only [Stor.vd])
  | .some s, xs, h, nd =>
    (ExG.tag8 tagSomeValue (exStG s xs h nd)).cast
      (by simp only [encSt, tagHead8, List.cons_append, List.nil_append]) (fun t => by simp only [Stor.vd])
  | .arr ty idx es, xs, h, nd => by
    have hparts := exStPartsG es (addArrayXD xs ty).2 h.2.2.2.1 nd
    have hinner : ExG ex (arrayHead16 es.length ++ (encSts es (addArrayXD xs ty).2).1) (fun _ => vdSts es + 1) := by
      have := ExG.array16 (l := encStPartsX es (addArrayXD xs ty).2) (N := vdSts es)
        (by rw [encStPartsX_length]; exact h.2.2.1) hparts (isMax_encStPartsX es _)
      exact this.cast (by rw [encStPartsX_length, encStPartsX_fst, encStParts_flatten]) (fun _ => rfl)
    have := exG_inlined CBORTagInlinedArray (addArrayXD xs ty).1 idx hinner.toF
    exact this.cast (by simp only [encSt, List.append_assoc]) (fun t => by simp only [Stor.vd]; omega)
  | .map x idx (.hkey level hkeys elems), xs, h, nd => by
    cases hc : compactKeys x elems with
    | none =>
      have hels := exMElsG (.hkey level hkeys elems) (addMapXD xs x).2 h.2.2.1 (fun hx => (nd hx).2)
      have := exG_inlined CBORTagInlinedMap (addMapXD xs x).1 idx hels.toF
      exact this.cast (by simp only [encSt, hc, encMEls, List.append_assoc])
        (fun t => by simp only [Stor.vd, hc]; omega)
    | some keys =>
      have hm := compactKeys_mapM hc
      have hnd : ex → keys.Nodup := fun hx => (nd hx).1 keys hc
      have hperm := addCompactXD_perm xs x hkeys keys
      have hes : rtiMElList elems := h.2.2.1.2.2.2.2.1
      have hfind : ∀ k xs', hasKey k elems → ExFG ex (encFind k elems xs').1 (vdFind k elems) :=
        fun k xs' hk => exFindG k elems xs' hes (fun hx => (nd hx).2) hk
      have hcached : ∀ k ∈ (addCompactXD xs x hkeys keys).2.1, hasKey k elems :=
        fun k hk => hasKey_of_mapM elems keys hm k (hperm.subset hk)
      have hparts := exValPartsG elems hfind (addCompactXD xs x hkeys keys).2.1 (addCompactXD xs x hkeys keys).2.2 hcached
      have hlen : (addCompactXD xs x hkeys keys).2.1.length = elems.length := by
        rw [hperm.length_eq]; exact mapM_compactKey_length elems keys hm
      have hinner : ExG ex (head 4 (addCompactXD xs x hkeys keys).2.1.length ++
          (encVals elems (addCompactXD xs x hkeys keys).2.1 (addCompactXD xs x hkeys keys).2.2).1)
          (fun _ => vdMElVals elems + 1) := by
        have := ExG.array (l := encValPartsX elems (addCompactXD xs x hkeys keys).2.1 (addCompactXD xs x hkeys keys).2.2)
          (N := vdMElVals elems)
          (by rw [encValPartsX_length, hlen]; have := h.2.2.1.2.2.1; unfold maxArrayElements; omega) hparts
          (isMax_encValPartsX elems keys _ _ hm hnd hperm)
        exact this.cast (by rw [encValPartsX_length, encValPartsX_fst, encValParts_flatten]) (fun _ => rfl)
      have := exG_inlined CBORTagInlinedCompactMap (addCompactXD xs x hkeys keys).1 idx hinner.toF
      exact this.cast (by rw [encSt_compact hc]; simp only [List.append_assoc])
        (fun t => by simp only [Stor.vd, hc]; omega)
  | .map x idx (.single level elems), xs, h, nd => by
    have hels := exMElsG (.single level elems) (addMapXD xs x).2 h.2.2.1 nd
    have := exG_inlined CBORTagInlinedMap (addMapXD xs x).1 idx hels.toF
    exact this.cast (by simp only [encSt, encMEls, List.append_assoc])
      (fun t => by simp only [Stor.vd]; omega)
theorem exStPartsG {ex : Prop} : (l : List Stor) → (xs : List XD) → rtiSts l → (ex → nodupKeysSts l) →
    ∀ p ∈ encStPartsX l xs, ExFG ex p.1 p.2
  | [], xs, _, _ => by intro p hp; simp [encStPartsX] at hp
  | s :: ss, xs, h, nd => by
    intro p hp
    simp only [encStPartsX, List.mem_cons] at hp
    rcases hp with rfl | hp
    · exact (exStG s xs h.1 (fun hx => (nd hx).1)).toF
    · exact exStPartsG ss _ h.2 (fun hx => (nd hx).2) p hp
theorem exFindG {ex : Prop} : (k : Nat × Nat) → (l : List MEl) → (xs : List XD) → rtiMElList l → (ex → nodupKeysMElList l) →
    hasKey k l → ExFG ex (encFind k l xs).1 (vdFind k l)
  | k, [], xs, _, _, hk => by cases hk
  | k, .single (.mk key v) :: es, xs, h, nd, hk => by
    have ih := fun hk' => exFindG k es xs h.2 (fun hx => (nd hx).2) hk'
    rw [vdFind_eq_valFOf] at ih ⊢
    rcases find_single k key v es with ⟨hE, _, hV⟩ | ⟨hK, hE, _, hV⟩ <;> rw [hE, hV]
    · exact (exStG v xs h.1.2.1 (fun hx => (nd hx).1.2)).toF
    · exact ih (hK hk)
  | k, .inl _ :: es, xs, h, nd, hk => exFindG k es xs h.2 (fun hx => (nd hx).2) hk
  | k, .ext _ :: es, xs, h, nd, hk => exFindG k es xs h.2 (fun hx => (nd hx).2) hk
theorem exSElG {ex : Prop} : (e : SEl) → (xs : List XD) → e.RTI → (ex → e.nodupKeys) → ExG ex (encSEl e xs).1 (fun _ => e.vd)
  | .mk k v, xs, h, nd => by
    have hk := exStG k xs h.1 (fun hx => (nd hx).1)
    have hv := exStG v (encSt k xs).2 h.2.1 (fun hx => (nd hx).2)
    exact (exG_pair hk.toF hv.toF).cast (by simp only [encSEl]) (fun _ => by simp only [SEl.vd]; omega)
theorem exMElG {ex : Prop} : (e : MEl) → (xs : List XD) → e.RTI → (ex → e.nodupKeys) → ExFG ex (encMEl e xs).1 e.vd
  | .single e, xs, h, nd => (exSElG e xs h nd).toF.cast (by simp only [encMEl]) (by simp only [MEl.vd])
  | .inl els, xs, h, nd =>
    -- a map element is an array element: its tag number does not follow a tag number
    (ExG.tag8 CBORTagInlineCollisionGroup (exMElsG els xs h nd)).toF.cast
      (by simp only [encMEl, tagHead8, List.cons_append, List.nil_append]) (by simp [MEl.vd])
  | .ext id, xs, _, _ =>
    (ExG.tag8 CBORTagExternalCollisionGroup (exG_encodeRef id)).toF.cast
      (by simp only [encMEl, tagHead8, List.cons_append, List.nil_append]) (by simp [MEl.vd])
theorem exMElsG {ex : Prop} : (els : MEls) → (xs : List XD) → els.RTI → (ex → els.nodupKeys) → ExG ex (encMEls els xs).1 (fun _ => els.vd)
  | .hkey level hkeys es, xs, h, nd => by
    obtain ⟨hlev, hlen, h8192, hhk, hes, _⟩ := h
    have hparts := exMElPartsG es xs hes nd
    have hinner : ExG ex (arrayHead16 es.length ++ (encMElList es xs).1) (fun _ => vdMElList es + 1) := by
      have := ExG.array16 (l := encMElPartsX es xs) (N := vdMElList es)
        (by rw [encMElPartsX_length]; omega) hparts (isMax_encMElPartsX es xs)
      exact this.cast (by rw [encMElPartsX_length, encMElPartsX_fst, encMElParts_flatten]) (fun _ => rfl)
    have := exG_triple (acc_level hlev) (acc_hkeyBytes hkeys (by omega)) hinner.toF
    exact this.cast (by simp only [encMEls, List.cons_append, List.nil_append, List.append_assoc])
      (fun _ => by simp only [MEls.vd]; omega)
  | .single level es, xs, h, nd => by
    obtain ⟨hlev, _, h64k, hes, _⟩ := h
    have hparts := exSElPartsG es xs hes nd
    have hinner : ExG ex (arrayHead16 es.length ++ (encSElList es xs).1) (fun _ => vdSElList es + 1) := by
      have := ExG.array16 (l := encSElPartsX es xs) (N := vdSElList es)
        (by rw [encSElPartsX_length]; omega) hparts (isMax_encSElPartsX es xs)
      exact this.cast (by rw [encSElPartsX_length, encSElPartsX_fst, encSElParts_flatten]) (fun _ => rfl)
    have := exG_triple (acc_level hlev) acc_empty_bytes hinner.toF
    exact this.cast (by simp only [encMEls, List.cons_append, List.nil_append])
      (fun _ => by simp only [MEls.vd]; omega)
theorem exMElPartsG {ex : Prop} : (l : List MEl) → (xs : List XD) → rtiMElList l → (ex → nodupKeysMElList l) →
    ∀ p ∈ encMElPartsX l xs, ExFG ex p.1 p.2
  | [], xs, _, _ => by intro p hp; simp [encMElPartsX] at hp
  | e :: es, xs, h, nd => by
    intro p hp
    simp only [encMElPartsX, List.mem_cons] at hp
    rcases hp with rfl | hp
    · exact exMElG e xs h.1 (fun hx => (nd hx).1)
    · exact exMElPartsG es _ h.2 (fun hx => (nd hx).2) p hp
theorem exSElPartsG {ex : Prop} : (l : List SEl) → (xs : List XD) → rtiSElList l → (ex → nodupKeysSElList l) →
    ∀ p ∈ encSElPartsX l xs, ExFG ex p.1 p.2
  | [], xs, _, _ => by intro p hp; simp [encSElPartsX] at hp
  | e :: es, xs, h, nd => by
    intro p hp
    simp only [encSElPartsX, List.mem_cons] at hp
    rcases hp with rfl | hp
    · exact (exSElG e xs h.1 (fun hx => (nd hx).1)).toF
    · exact exSElPartsG es _ h.2 (fun hx => (nd hx).2) p hp
end

/-! ### Exact acceptance: the reading at `ex := True` -/

theorem exX_encodeVal (size pay : Nat) (hv : validElem { size := size, pay := .val pay }) :
    ExX (encodeElem { size := size, pay := .val pay }) (fun t => if isGap size && t then 1 else 0) :=
  (exG_encodeVal size pay hv).exX

theorem exStX : (s : Stor) → (xs : List XD) → s.RTI → s.nodupKeys → ExX (encSt s xs).1 s.vd :=
  fun s xs h nd => (exStG s xs h fun _ => nd).exX
theorem exStPartsX : (l : List Stor) → (xs : List XD) → rtiSts l → nodupKeysSts l →
    ∀ p ∈ encStPartsX l xs, ExF p.1 p.2 :=
  fun l xs h nd p hp => (exStPartsG l xs h (fun _ => nd) p hp).exF
theorem exFindX : (k : Nat × Nat) → (l : List MEl) → (xs : List XD) → rtiMElList l → nodupKeysMElList l →
    hasKey k l → ExF (encFind k l xs).1 (vdFind k l) :=
  fun k l xs h nd hk => (exFindG k l xs h (fun _ => nd) hk).exF
theorem exSElX : (e : SEl) → (xs : List XD) → e.RTI → e.nodupKeys → ExX (encSEl e xs).1 (fun _ => e.vd) :=
  fun e xs h nd => (exSElG e xs h fun _ => nd).exX
theorem exMElX : (e : MEl) → (xs : List XD) → e.RTI → e.nodupKeys → ExF (encMEl e xs).1 e.vd :=
  fun e xs h nd => (exMElG e xs h fun _ => nd).exF
theorem exMElsX : (els : MEls) → (xs : List XD) → els.RTI → els.nodupKeys → ExX (encMEls els xs).1 (fun _ => els.vd) :=
  fun els xs h nd => (exMElsG els xs h fun _ => nd).exX
theorem exMElPartsX : (l : List MEl) → (xs : List XD) → rtiMElList l → nodupKeysMElList l →
    ∀ p ∈ encMElPartsX l xs, ExF p.1 p.2 :=
  fun l xs h nd p hp => (exMElPartsG l xs h (fun _ => nd) p hp).exF
theorem exSElPartsX : (l : List SEl) → (xs : List XD) → rtiSElList l → nodupKeysSElList l →
    ∀ p ∈ encSElPartsX l xs, ExF p.1 p.2 :=
  fun l xs h nd p hp => (exSElPartsG l xs h (fun _ => nd) p hp).exF

/-! ### `vd ≤ vneedI`: the hypothesis `vneedI ≤ 32` of the `…OKI` / `…OKC` / `…OKW` predicates implies `vd ≤ 32` -/

mutual
theorem Stor.vd_le_vneedI : (s : Stor) → ∀ t, s.vd t ≤ s.vneedI
  | .val size p, t => by simp only [Stor.vd, Stor.vneedI]; split <;> omega
  | .ref _, t => by simp only [Stor.vd, Stor.vneedI]; split <;> omega
  | .some s, t => by
    have := Stor.vd_le_vneedI s true
    simp only [Stor.vd, Stor.vneedI]; split <;> omega
  | .arr _ _ es, t => by
    have := vdSts_le_vneedI es
    simp only [Stor.vd, Stor.vneedI]; split <;> omega
  | .map x _ (.hkey level hkeys elems), t => by
    have h1 := vdMElList_le_vneedI elems
    have h2 := vdMElVals_le_vneedI elems
    simp only [Stor.vd, Stor.vneedI, MEls.vneedI, MEls.vd]
    split <;> split <;> omega
  | .map x _ (.single level elems), t => by
    have h1 := vdSElList_le_vneedI elems
    simp only [Stor.vd, Stor.vneedI, MEls.vneedI, MEls.vd]
    split <;> omega
theorem vdSts_le_vneedI : (l : List Stor) → vdSts l ≤ vneedISts l
  | [] => Nat.le_refl _
  | s :: ss => by
    have h1 := Stor.vd_le_vneedI s false
    have h2 := vdSts_le_vneedI ss
    simp only [vdSts, vneedISts]; omega
theorem vdMElVals_le_vneedI : (l : List MEl) → vdMElVals l ≤ vneedIMElList l
  | [] => Nat.le_refl _
  | .single (.mk k v) :: es => by
    have h1 := Stor.vd_le_vneedI v false
    have h2 := vdMElVals_le_vneedI es
    simp only [vdMElVals, vneedIMElList, MEl.vneedI, SEl.vneedI]; omega
  | .inl _ :: es => by
    have h2 := vdMElVals_le_vneedI es
    simp only [vdMElVals, vneedIMElList]; omega
  | .ext _ :: es => by
    have h2 := vdMElVals_le_vneedI es
    simp only [vdMElVals, vneedIMElList]; omega
theorem SEl.vd_le_vneedI : (e : SEl) → e.vd ≤ e.vneedI
  | .mk k v => by
    have h1 := Stor.vd_le_vneedI k false
    have h2 := Stor.vd_le_vneedI v false
    simp only [SEl.vd, SEl.vneedI]; omega
theorem MEl.vd_le_vneedI : (e : MEl) → e.vd ≤ e.vneedI
  | .single e => by have := SEl.vd_le_vneedI e; simp only [MEl.vd, MEl.vneedI]; exact this
  | .inl els => by have := MEls.vd_le_vneedI els; simp only [MEl.vd, MEl.vneedI]; omega
  | .ext _ => by simp only [MEl.vd, MEl.vneedI]; omega
theorem MEls.vd_le_vneedI : (els : MEls) → els.vd ≤ els.vneedI
  | .hkey _ _ es => by have := vdMElList_le_vneedI es; simp only [MEls.vd, MEls.vneedI]; omega
  | .single _ es => by have := vdSElList_le_vneedI es; simp only [MEls.vd, MEls.vneedI]; omega
theorem vdMElList_le_vneedI : (l : List MEl) → vdMElList l ≤ vneedIMElList l
  | [] => Nat.le_refl _
  | e :: es => by
    have h1 := MEl.vd_le_vneedI e
    have h2 := vdMElList_le_vneedI es
    simp only [vdMElList, vneedIMElList]; omega
theorem vdSElList_le_vneedI : (l : List SEl) → vdSElList l ≤ vneedISElList l
  | [] => Nat.le_refl _
  | e :: es => by
    have h1 := SEl.vd_le_vneedI e
    have h2 := vdSElList_le_vneedI es
    simp only [vdSElList, vneedISElList]; omega
end

/-! ### Acceptance within `vneedI` levels: the reading at `ex := False` -/

theorem accStC : (s : Stor) → (xs : List XD) → s.RTI → Acc (encSt s xs).1 s.vneedI :=
  fun s xs h => (exStG s xs h False.elim).toAcc (Stor.vd_le_vneedI s)
theorem accFindC : (k : Nat × Nat) → (l : List MEl) → (xs : List XD) → rtiMElList l → hasKey k l →
    Acc (encFind k l xs).1 (vneedIMElList l)
  | k, [], xs, _, hk => by cases hk
  | k, .single (.mk key v) :: es, xs, h, hk => by
    rcases find_single k key v es with ⟨hE, _⟩ | ⟨hK, hE, _⟩ <;> rw [hE]
    · exact (accStC v xs h.1.2.1).mono (by simp only [vneedIMElList, MEl.vneedI, SEl.vneedI]; omega)
    · exact (accFindC k es xs h.2 (hK hk)).mono (by simp only [vneedIMElList]; exact Nat.le_max_right _ _)
  | k, .inl _ :: es, xs, h, hk => (accFindC k es xs h.2 hk).mono (by simp only [vneedIMElList]; exact Nat.le_max_right _ _)
  | k, .ext _ :: es, xs, h, hk => (accFindC k es xs h.2 hk).mono (by simp only [vneedIMElList]; exact Nat.le_max_right _ _)
theorem accSElC : (e : SEl) → (xs : List XD) → e.RTI → Acc (encSEl e xs).1 e.vneedI :=
  fun e xs h => (exSElG e xs h False.elim).toAcc (fun _ => SEl.vd_le_vneedI e)
theorem accMElsC : (els : MEls) → (xs : List XD) → els.RTI → Acc (encMEls els xs).1 els.vneedI :=
  fun els xs h => (exMElsG els xs h False.elim).toAcc (fun _ => MEls.vd_le_vneedI els)

/-- a map element's tag number may follow a tag number here (`Acc` speaks of every item frame), which `MEl.vd` does not count -/
theorem accMElC : (e : MEl) → (xs : List XD) → e.RTI → Acc (encMEl e xs).1 e.vneedI
  | .single e, xs, h => by
    simp only [encMEl, MEl.vneedI]; exact accSElC e xs h
  | .inl els, xs, h => by
    simp only [encMEl, MEl.vneedI, tagHead8, List.cons_append, List.nil_append]
    exact Acc.tag8 _ (accMElsC els xs h)
  | .ext id, xs, _ => by
    simp only [encMEl, MEl.vneedI, tagHead8, List.cons_append, List.nil_append]
    exact (ExG.tag8 _ (exG_encodeRef (ex := False) id)).toAcc (fun t => by cases t <;> simp)
theorem accMElPartsC : (l : List MEl) → (xs : List XD) → rtiMElList l →
    AccList (encMElParts l xs) (vneedIMElList l)
  | [], xs, _ => by intro b hb; simp [encMElParts] at hb
  | e :: es, xs, h => by
    intro b hb
    simp only [encMElParts, List.mem_cons] at hb
    rcases hb with rfl | hb
    · exact (accMElC e xs h.1).mono (by simp only [vneedIMElList]; exact Nat.le_max_left _ _)
    · exact (accMElPartsC es _ h.2 b hb).mono (by simp only [vneedIMElList]; exact Nat.le_max_right _ _)
theorem accSElPartsC : (l : List SEl) → (xs : List XD) → rtiSElList l →
    AccList (encSElParts l xs) (vneedISElList l)
  | [], xs, _ => by intro b hb; simp [encSElParts] at hb
  | e :: es, xs, h => by
    intro b hb
    simp only [encSElParts, List.mem_cons] at hb
    rcases hb with rfl | hb
    · exact (accSElC e xs h.1).mono (by simp only [vneedISElList]; exact Nat.le_max_left _ _)
    · exact (accSElPartsC es _ h.2 b hb).mono (by simp only [vneedISElList]; exact Nat.le_max_right _ _)

/-! ### Values without the compact form, and without inlined slabs -/

theorem accStI : (s : Stor) → (xs : List XD) → s.RTI → s.noCompact → Acc (encSt s xs).1 s.vneedI :=
  fun s xs h _ => accStC s xs h
theorem accMElI : (e : MEl) → (xs : List XD) → e.RTI → e.noCompact → Acc (encMEl e xs).1 e.vneedI :=
  fun e xs h _ => accMElC e xs h
theorem accMElPartsI : (l : List MEl) → (xs : List XD) → rtiMElList l → noCompactMElList l →
    AccList (encMElParts l xs) (vneedIMElList l) :=
  fun l xs h _ => accMElPartsC l xs h
theorem accSElPartsI : (l : List SEl) → (xs : List XD) → rtiSElList l → noCompactSElList l →
    AccList (encSElParts l xs) (vneedISElList l) :=
  fun l xs h _ => accSElPartsC l xs h

theorem accMEl : (e : MEl) → (xs : List XD) → e.RT → e.noInl → Acc (encMEl e xs).1 e.vneed :=
  fun e xs h hn => MEl.vneedI_of_noInl e hn ▸ accMElC e xs (MEl.RTI_of_RT e h hn)
theorem accMElParts : (l : List MEl) → (xs : List XD) → rtMElList l → noInlMElList l →
    AccList (encMElParts l xs) (vneedMElList l) :=
  fun l xs h hn => vneedIMElList_of_noInl l hn ▸ accMElPartsC l xs (rtiMElList_of_RT l h hn)

end Atree.Codec

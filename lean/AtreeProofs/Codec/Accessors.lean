import AtreeProofs.ListAt
import AtreeProofs.Codec.NoPanicG
/-
  The size and child-reference accessors of the slabs `DecodeSlab` returns, transcribed in the
  panic-tracking monad `DM` over a RAW representation of Go values (property C19).

  Go functions transcribed (line by line; each definition names its Go function):
    `(*ArrayDataSlab).ByteSize` / `.ChildStorables`         array_data_slab.go:566, :612
    `(*ArrayMetaDataSlab).ByteSize` / `.ChildStorables`     array_metadata_slab.go:866, :912
    `(*MapDataSlab).ByteSize` / `.ChildStorables`           map_data_slab.go:460, :424
    `(*MapMetaDataSlab).ByteSize` / `.ChildStorables`       map_metadata_slab.go:788, :766
    `(*StorableSlab).ByteSize` / `.ChildStorables`          storable_slab.go:122, :85
    `elementsStorables`, `elementStorables`                 map_elements.go:145, :164
    `Storable.ByteSize` of the storables a large-value slab can hold: `hx.TV`, `hx.SomeStorable`
    (harness/hx/values.go:87, :226), `SlabIDStorable` (slab_id_storable.go:96), inlined
    `*ArrayDataSlab` / `*MapDataSlab` (`header.size`).

  RAW representation.  The algebraic types of the codec model (`Slab`, `Stor`, `MEls`, `MEl`) cannot
  express several things a Go value can be, and which are exactly what makes an accessor panic:
    * an interface value (`Slab`, `Storable`, `elements`, `element`) can be the nil interface, or hold
      a typed nil pointer, or — for `elements` / `element`, whose type switches have no `default` /
      a panicking fall-through — a dynamic type the switch does not list (`foreign`);
    * a slot of `[]Storable`, `[]element`, `[]*singleElement` can be nil (this is what
      `make([]T, n)` produces before the decoding loop assigns `slots[i]`);
    * `header.size`, `header.count` are stored fields, independent of the slices' lengths and
      contents; `hkeys` and `elems` of `hkeyElements` are two independent slices.
  `RawSlab`, `RStor`, `RElems`, `RElem` below have a constructor for each of these.  The accessors
  are total functions `RawSlab → DM _`; they answer `panic` where the Go code dereferences a nil
  pointer, calls a method on a nil interface, writes past the end of a slice, or reaches
  `panic(NewUnreachableError())` (map_elements.go:178).  `uint32` additions are done in `Nat` (wrap-
  around is not a panic; sizes are `Nat` everywhere in the model).

  WHAT IS PROVED (`accessors_of_decoded`, restated in Props/C19Acc.lean as
  `C19.accessors_never_panic`): for every slab `s` that the decoder MODEL returns,
  `byteSizeM s.toRaw = ok s.byteSize` and `childStorablesM s.toRaw = ok (s.childStorables.map toRaw)`
  — no panic, and every returned child storable is non-nil.  `Slab.toRaw` is the embedding of the
  algebraic slab into the raw representation: pointers non-nil, every slot filled, header sizes as
  the decoders compute them (the model's `size` functions).  Two ingredients:
    (1) the transcription: on fully populated raw slabs the accessors do not panic (and on raw slabs
        with a nil / foreign slot they do — `byteSizeM_panic_iff`, `childStorablesM_panic_iff` say
        exactly when, `childStorables_nil_slot_panics` is an instance — so the raw model is able to
        express the failure);
    (2) the decoder model returns `Slab` values, i.e. fully populated ones; the single place where the
        hypothesis "`s` was decoded" is used is the flat large-value slab `Slab.storable id e`: the
        model's `Elem` carries a size even for a slab reference, Go's `SlabIDStorable.ByteSize()` is
        the constant 19, and the two agree because `DecodeSlabIDStorable` sets the size to that
        constant (`decodeSlab_refSizeOK`).

  WHAT THIS DOES AND DOES NOT ESTABLISH ABOUT THE GO CODE.  (2) is where Go facts are carried by the
  SHAPE of the model's types rather than by a theorem.  That `DecodeSlab` returns only fully
  populated slabs rests on these facts about the Go decoders, which the model's decoders encode by
  returning `List`s built element by element and `Slab` constructors applied to them:
    * every `make([]T, n)` of a decoder is followed by a loop `for i := range slots` /
      `for i := range n` whose body either returns `nil, err` or assigns `slots[i]`, and the struct
      holding the slice is built only after the loop:
        elements:        array_data_slab_decode.go:161-168 (v0), :278-285 (v1), :400-407 (inlined);
        singleElements:  map_elements_decode.go:80-88;   hkeyElements: map_elements_decode.go:110-118;
        hkeys:           map_elements_decode.go:55-57;
        childrenHeaders: array_metadata_slab_decode.go:143-172 (v0), :262-294 (v1),
                         map_metadata_slab_decode.go:137-153 (v0), :250-266 (v1);
      (`makeFillM_eq` below proves, for the loop pattern itself, that make + indexed assignment
      returns exactly the list of decoded items with every slot filled and never indexes out of
      range, and `goElementLoop_eq_decodeElems` instantiates it for the element loop of the array
      data slab decoders and the model's `decodeElems` — but that the Go loops ARE instances of
      the pattern is read off the source, not proved);
    * a decoder returns `&T{…}` (non-nil) exactly when it returns a nil error, and `nil, err`
      otherwise (decode.go:42-100 and every `return` of the files above);
    * `newElementFromData` returns one of `*singleElement`, `*inlineCollisionGroup`,
      `*externalCollisionGroup`, each freshly allocated (map_element_decode.go:86, :100, :121);
      its `return newSingleElementFromData(…)` (map_element_decode.go:36) does convert a nil
      `*singleElement` to a non-nil `element` on the error path, but the caller drops the value
      (`map_elements_decode.go:112-116`);
    * the `StorableDecoder` callback returns a non-nil `Storable` with a nil error (true of
      `hx.DecodeStorable`; a callback returning `nil, nil` makes `storable.ByteSize()` panic inside
      the decoder already — array_data_slab_decode.go:170 — which is outside this model).
  A statement "the Go decoders return no nil slot" that does not lean on these readings needs a
  model of the decoders at the level of pointers and slices (slots, aliasing, `make`, assignment),
  with the algebraic model proved to be its abstraction; the present model has no such layer, so
  the theorem cannot say more than: the accessors, as transcribed, are panic-free on the image of
  the decoder model under `toRaw`.
-/
namespace Atree.Codec
open DM Atree.Gen

/-- What an inlined `*ArrayDataSlab` / `*MapDataSlab` held as a `Storable` exposes to the accessors
    in scope: its `header.size`.  The content is kept algebraic (no accessor in scope looks inside). -/
structure RInl where
  hdrSize : Nat
  content : Stor

/-- A `Storable` interface value. -/
inductive RStor where
  /-- the nil interface -/
  | nil
  /-- `hx.TV{Size, Pay}` -/
  | val (size pay : Nat)
  /-- `SlabIDStorable` -/
  | ref (id : SlabID)
  /-- `hx.SomeStorable{S}`; `S` is again an interface value -/
  | some (s : RStor)
  /-- `*ArrayDataSlab` (inlined); `none` = typed nil pointer -/
  | arr (p : Option RInl)
  /-- `*MapDataSlab` (inlined); `none` = typed nil pointer -/
  | map (p : Option RInl)

/-- the pointee of a `*singleElement` -/
structure RSingle where
  key   : RStor
  value : RStor
  size  : Nat

mutual
/-- An `elements` interface value. -/
inductive RElems where
  /-- the nil interface -/
  | nil
  /-- a dynamic type other than `*hkeyElements` / `*singleElements` -/
  | foreign
  /-- `(*hkeyElements)(nil)` -/
  | hkeyNil
  /-- `&hkeyElements{hkeys, elems, level, size}`: two independent slices; slots of `elems` are
      interface values -/
  | hkey (level : Nat) (hkeys : List Nat) (elems : List RElem) (size : Nat)
  /-- `(*singleElements)(nil)` -/
  | singleNil
  /-- `&singleElements{elems, level, size}`: slots of `elems` are pointers, `none` = nil -/
  | single (level : Nat) (elems : List (Option RSingle)) (size : Nat)
/-- An `element` interface value. -/
inductive RElem where
  /-- the nil interface -/
  | nil
  /-- a dynamic type the switch of `elementStorables` does not list -/
  | foreign
  /-- `(*singleElement)(nil)` -/
  | singleNil
  | single (e : RSingle)
  /-- `(*inlineCollisionGroup)(nil)` -/
  | inlNil
  /-- `&inlineCollisionGroup{elements}` -/
  | inl (els : RElems)
  /-- `(*externalCollisionGroup)(nil)` -/
  | extNil
  /-- `&externalCollisionGroup{slabID, size}` -/
  | ext (id : SlabID) (size : Nat)
end

/-- `*ArrayDataSlab`: the fields the accessors read (`header.count` is kept to show that it is
    independent of `len(elements)`) -/
structure RArrData where
  hdrSize  : Nat
  hdrCount : Nat
  elements : List RStor

/-- `*ArrayMetaDataSlab` (`[]ArraySlabHeader` is a slice of structs: no nil slots) -/
structure RArrMeta where
  hdrSize         : Nat
  childrenHeaders : List Hdr

/-- `*MapDataSlab` -/
structure RMapData where
  hdrSize  : Nat
  elements : RElems

/-- `*MapMetaDataSlab` -/
structure RMapMeta where
  hdrSize         : Nat
  childrenHeaders : List MChildHdr

/-- `*StorableSlab` -/
structure RStorableSlab where
  slabID   : SlabID
  storable : RStor

/-- A `Slab` interface value as `DecodeSlab` can return it: the nil interface, or a pointer
    (`none` = typed nil) to one of the five slab structs. -/
inductive RawSlab where
  | nil
  | arrData (p : Option RArrData)
  | arrMeta (p : Option RArrMeta)
  | mapData (p : Option RMapData)
  | mapMeta (p : Option RMapMeta)
  | storable (p : Option RStorableSlab)

/-- `storable.ByteSize()` on an interface value: a method call on the nil interface panics;
    `TV.ByteSize` returns the field; `SlabIDStorable.ByteSize` the constant;
    `SomeStorable.ByteSize` is `someOverhead + s.S.ByteSize()`; `(*ArrayDataSlab).ByteSize` /
    `(*MapDataSlab).ByteSize` read `a.header.size` through the pointer. -/
def RStor.byteSizeM : RStor → DM Nat
  | .nil => DM.panic
  | .val size _ => pure size
  | .ref _ => pure slabIDStorableSize
  | .some s => do
    let n ← s.byteSizeM
    pure (someOverhead + n)
  | .arr Option.none => DM.panic
  | .arr (Option.some a) => pure a.hdrSize
  | .map Option.none => DM.panic
  | .map (Option.some m) => pure m.hdrSize

/-- the two `*singleElement` lines of `elementStorables` (`case *singleElement:
    return append(childStorables, v.key, v.value)`); `v.key` on a nil pointer panics -/
def singleElementStorablesM (p : Option RSingle) (childStorables : List RStor) : DM (List RStor) :=
  match p with
  | none => DM.panic
  | some v => pure (childStorables ++ [v.key, v.value])

/-- the loop of the `*singleElements` case of `elementsStorables`:
    `for i := range v.elems { childStorables = elementStorables(v.elems[i], childStorables) }`.
    `v.elems[i]` is a `*singleElement` converted to `element`, so the type switch of
    `elementStorables` takes the `*singleElement` case whether or not the pointer is nil.  (`range`
    fixes the slice and its length on entry and the body does not modify it, so the index expression
    cannot fail: the loop is an iteration over the slots.) -/
def singleLoopM : List (Option RSingle) → List RStor → DM (List RStor)
  | [], childStorables => pure childStorables
  | p :: ps, childStorables => do
    let childStorables ← singleElementStorablesM p childStorables
    singleLoopM ps childStorables

mutual
/-- `elementsStorables(elems, childStorables)`: a type switch WITHOUT default, then
    `return childStorables` -/
def elementsStorablesM : RElems → List RStor → DM (List RStor)
  | .hkey _ _ elems _, childStorables => hkeyLoopM elems childStorables
  | .hkeyNil, _ => DM.panic                               -- `v.elems` through a nil pointer
  | .single _ elems _, childStorables => singleLoopM elems childStorables
  | .singleNil, _ => DM.panic
  | .nil, childStorables => pure childStorables           -- no case matches
  | .foreign, childStorables => pure childStorables
/-- `elementStorables(e, childStorables)`: a type switch, then `panic(NewUnreachableError())` -/
def elementStorablesM : RElem → List RStor → DM (List RStor)
  | .ext id _, childStorables => pure (childStorables ++ [RStor.ref id])   -- `SlabIDStorable(v.slabID)`
  | .extNil, _ => DM.panic                                -- `v.slabID` through a nil pointer
  | .inl els, childStorables => elementsStorablesM els childStorables
  | .inlNil, _ => DM.panic                                -- `v.elements` through a nil pointer
  | .single v, childStorables => singleElementStorablesM (some v) childStorables
  | .singleNil, childStorables => singleElementStorablesM none childStorables
  | .nil, _ => DM.panic                                   -- `panic(NewUnreachableError())`
  | .foreign, _ => DM.panic
/-- the loop of the `*hkeyElements` case:
    `for i := range v.elems { childStorables = elementStorables(v.elems[i], childStorables) }` -/
def hkeyLoopM : List RElem → List RStor → DM (List RStor)
  | [], childStorables => pure childStorables
  | e :: es, childStorables => do
    let childStorables ← elementStorablesM e childStorables
    hkeyLoopM es childStorables
end

/-- `s[i] = v`: index out of range panics -/
def setIdxM {α : Type} (s : List α) (i : Nat) (v : α) : DM (List α) :=
  if i < s.length then pure (s.set i v) else DM.panic

/-- `for i, h := range a.childrenHeaders { childIDs[i] = SlabIDStorable(h.slabID) }`, from index `i` on -/
def fillChildIDsM : List SlabID → Nat → List RStor → DM (List RStor)
  | [], _, childIDs => pure childIDs
  | h :: hs, i, childIDs => do
    let childIDs ← setIdxM childIDs i (RStor.ref h)
    fillChildIDsM hs (i + 1) childIDs

/-- `(*ArrayMetaDataSlab).ChildStorables` / `(*MapMetaDataSlab).ChildStorables` (the two bodies are
    the same text): `childIDs := make([]Storable, len(childrenHeaders))` — a slice of nil interfaces —
    then the loop; `ids` are the `slabID` fields of the headers -/
def metaChildStorablesM (ids : List SlabID) : DM (List RStor) := do
  alloc ids.length
  let childIDs := List.replicate ids.length RStor.nil
  fillChildIDsM ids 0 childIDs

/-- `Slab.ByteSize()` -/
def byteSizeM : RawSlab → DM Nat
  | .nil => DM.panic                                      -- method call on the nil interface
  | .arrData none => DM.panic                             -- `a.header.size` through a nil pointer
  | .arrData (some a) => pure a.hdrSize                   -- array_data_slab.go:567
  | .arrMeta none => DM.panic
  | .arrMeta (some a) => pure a.hdrSize                   -- array_metadata_slab.go:867
  | .mapData none => DM.panic
  | .mapData (some m) => pure m.hdrSize                   -- map_data_slab.go:461
  | .mapMeta none => DM.panic
  | .mapMeta (some m) => pure m.hdrSize                   -- map_metadata_slab.go:789
  | .storable none => DM.panic
  | .storable (some s) => do                              -- storable_slab.go:125
    let n ← s.storable.byteSizeM
    pure (versionAndFlagSize + n)

/-- `Slab.ChildStorables()` -/
def childStorablesM : RawSlab → DM (List RStor)
  | .nil => DM.panic
  | .arrData none => DM.panic
  | .arrData (some a) => pure a.elements                  -- `slices.Clone(a.elements)`: a copy, nil slots stay nil
  | .arrMeta none => DM.panic
  | .arrMeta (some a) => metaChildStorablesM (a.childrenHeaders.map (·.id))
  | .mapData none => DM.panic
  | .mapData (some m) => elementsStorablesM m.elements [] -- `elementsStorables(m.elements, nil)`
  | .mapMeta none => DM.panic
  | .mapMeta (some m) => metaChildStorablesM (m.childrenHeaders.map (·.id))
  | .storable none => DM.panic
  | .storable (some s) => pure [s.storable]               -- `[]Storable{s.storable}`

/-- a storable of the model as a Go value: every interface non-nil, every pointer non-nil, the
    header size of an inlined slab as the decoders compute it -/
def Stor.toRaw : Stor → RStor
  | .val size pay => .val size pay
  | .ref id => .ref id
  | .some s => .some s.toRaw
  | .arr ty idx es => .arr (Option.some ⟨(Stor.arr ty idx es).size, .arr ty idx es⟩)
  | .map x idx els => .map (Option.some ⟨(Stor.map x idx els).size, .map x idx els⟩)

/-- `&singleElement{key, value, size}` -/
def SEl.toRaw : SEl → RSingle
  | .mk k v => ⟨k.toRaw, v.toRaw, (SEl.mk k v).size⟩

mutual
def MEls.toRaw : MEls → RElems
  | .hkey level hkeys es => .hkey level hkeys (melListToRaw es) (hkeyElementsPrefixSize + sizeMEl es)
  | .single level es => .single level (es.map (fun e => some e.toRaw)) (singleElementsPrefixSize + sizeSEl es)
def MEl.toRaw : MEl → RElem
  | .single e => .single e.toRaw
  | .inl els => .inl els.toRaw
  | .ext id => .ext id (externalCollisionGroupPrefixSize + slabIDStorableSize)
def melListToRaw : List MEl → List RElem
  | [] => []
  | e :: es => e.toRaw :: melListToRaw es
end

/-- a slab of the model as the Go value `DecodeSlab` returns: a non-nil pointer to a struct whose
    slices have every slot filled; the seven constructors of `Slab` are five Go types -/
def Slab.toRaw : Slab → RawSlab
  | .data _ s => .arrData (some ⟨s.hdr.size, s.hdr.count, s.elems.map (fun e => (Stor.ofElem e).toRaw)⟩)
  | .index _ m => .arrMeta (some ⟨m.hdr.size, m.childHdrs⟩)
  | .storable id e => .storable (some ⟨id, (Stor.ofElem e).toRaw⟩)
  | .adata a => .arrData (some ⟨a.size, a.elems.length, a.elems.map Stor.toRaw⟩)
  | .mdata s => .mapData (some ⟨s.size, s.els.toRaw⟩)
  | .mindex m => .mapMeta (some ⟨m.size, m.childHdrs⟩)
  | .storableG id s => .storable (some ⟨id, s.toRaw⟩)

/-- slice elements `ChildStorables()` allocates with `make` (index slabs only) -/
def Slab.childMakeAllocs : Slab → Nat
  | .index _ m => m.childHdrs.length
  | .mindex m => m.childHdrs.length
  | _ => 0

/-! ### (1) the accessors on embedded values -/

theorem Stor.byteSizeM_toRaw : (s : Stor) → (k : Nat) → s.toRaw.byteSizeM k = .ok s.size k
  | .val size pay, k => rfl
  | .ref id, k => rfl
  | .some s, k => by
    have ih := Stor.byteSizeM_toRaw s k
    show (s.toRaw.byteSizeM >>= fun n => pure (someOverhead + n)) k = _
    rw [DM.bind_ok ih]
    rfl
  | .arr ty idx es, k => rfl
  | .map x idx els, k => rfl

theorem singleLoopM_toRaw : (es : List SEl) → (acc : List RStor) → (k : Nat) →
    singleLoopM (es.map (fun e => some e.toRaw)) acc k = .ok (acc ++ (selListStorables es).map Stor.toRaw) k
  | [], acc, k => by simp [singleLoopM, selListStorables, DM.run_pure]
  | .mk kk v :: es, acc, k => by
    have ih := singleLoopM_toRaw es (acc ++ [kk.toRaw, v.toRaw]) k
    simp only [List.map_cons, singleLoopM, selListStorables]
    have h1 : singleElementStorablesM (some (SEl.mk kk v).toRaw) acc k = .ok (acc ++ [kk.toRaw, v.toRaw]) k := rfl
    rw [DM.bind_ok h1, ih]
    simp

mutual
theorem elementsStorablesM_toRaw : (els : MEls) → (acc : List RStor) → (k : Nat) →
    elementsStorablesM els.toRaw acc k = .ok (acc ++ els.storables.map Stor.toRaw) k
  | .hkey level hkeys es, acc, k => by
    simp only [MEls.toRaw, elementsStorablesM, MEls.storables]
    exact hkeyLoopM_toRaw es acc k
  | .single level es, acc, k => by
    simp only [MEls.toRaw, elementsStorablesM, MEls.storables]
    exact singleLoopM_toRaw es acc k
theorem elementStorablesM_toRaw : (e : MEl) → (acc : List RStor) → (k : Nat) →
    elementStorablesM e.toRaw acc k = .ok (acc ++ e.storables.map Stor.toRaw) k
  | .single (.mk kk v), acc, k => by
    simp only [MEl.toRaw, elementStorablesM, MEl.storables, SEl.toRaw, singleElementStorablesM, DM.run_pure,
      List.map_cons, List.map_nil]
  | .inl els, acc, k => by
    simp only [MEl.toRaw, elementStorablesM, MEl.storables]
    exact elementsStorablesM_toRaw els acc k
  | .ext id, acc, k => by
    simp only [MEl.toRaw, elementStorablesM, MEl.storables, DM.run_pure, List.map_cons, List.map_nil, Stor.toRaw]
theorem hkeyLoopM_toRaw : (es : List MEl) → (acc : List RStor) → (k : Nat) →
    hkeyLoopM (melListToRaw es) acc k = .ok (acc ++ (melListStorables es).map Stor.toRaw) k
  | [], acc, k => by simp [melListToRaw, hkeyLoopM, melListStorables, DM.run_pure]
  | e :: es, acc, k => by
    have h1 := elementStorablesM_toRaw e acc k
    have ih := hkeyLoopM_toRaw es (acc ++ e.storables.map Stor.toRaw) k
    simp only [melListToRaw, hkeyLoopM, melListStorables]
    rw [DM.bind_ok h1, ih]
    simp
end

theorem fillChildIDsM_eq : (hs : List SlabID) → (i : Nat) → (s : List RStor) → (k : Nat) →
    i + hs.length = s.length →
    fillChildIDsM hs i s k = .ok (s.take i ++ hs.map RStor.ref) k
  | [], i, s, k, h => by
    have : s.take i = s := List.take_of_length_le (by simp at h; omega)
    simp [fillChildIDsM, DM.run_pure, this]
  | x :: hs, i, s, k, h => by
    have hlt : i < s.length := by simp at h; omega
    have h1 : setIdxM s i (RStor.ref x) k = .ok (s.set i (RStor.ref x)) k := by
      unfold setIdxM; rw [if_pos hlt]; rfl
    have ih := fillChildIDsM_eq hs (i + 1) (s.set i (RStor.ref x)) k (by simp at h ⊢; omega)
    simp only [fillChildIDsM]
    rw [DM.bind_ok h1, ih]
    congr 1
    rw [List.take_set, take_succ_set s i _ hlt]
    simp

theorem metaChildStorablesM_eq (ids : List SlabID) (k : Nat) :
    metaChildStorablesM ids k = .ok (ids.map RStor.ref) (k + ids.length) := by
  unfold metaChildStorablesM
  have h1 : DM.alloc ids.length k = .ok () (k + ids.length) := rfl
  rw [DM.bind_ok h1]
  rw [fillChildIDsM_eq ids 0 _ _ (by simp)]
  simp

theorem byteSizeM_toRaw (s : Slab) (h : s.refSizeOK) (k : Nat) : byteSizeM s.toRaw k = .ok s.byteSize k := by
  cases s with
  | data ty d => rfl
  | index ty m => rfl
  | adata a => rfl
  | mdata m => rfl
  | mindex m => rfl
  | storable id e =>
    have h1 := Stor.byteSizeM_toRaw (Stor.ofElem e) k
    have hs : (Stor.ofElem e).size = e.size := by
      unfold Stor.ofElem
      cases hp : e.pay with
      | val p => simp [Stor.size]
      | ref r => simp only [Stor.size]; exact (h r hp).symm
    show ((Stor.ofElem e).toRaw.byteSizeM >>= fun n => pure (versionAndFlagSize + n)) k = _
    rw [DM.bind_ok h1, hs]
    rfl
  | storableG id x =>
    have h1 := Stor.byteSizeM_toRaw x k
    show (x.toRaw.byteSizeM >>= fun n => pure (versionAndFlagSize + n)) k = _
    rw [DM.bind_ok h1]
    rfl

theorem childStorablesM_toRaw (s : Slab) (k : Nat) :
    childStorablesM s.toRaw k = .ok (s.childStorables.map Stor.toRaw) (k + s.childMakeAllocs) := by
  cases s with
  | data ty d => simp [Slab.toRaw, childStorablesM, Slab.childStorables, Slab.childMakeAllocs, DM.run_pure]
  | index ty m =>
    simp only [Slab.toRaw, childStorablesM, Slab.childStorables, Slab.childMakeAllocs, metaChildStorablesM_eq,
      List.map_map, List.length_map]
    rfl
  | adata a => simp [Slab.toRaw, childStorablesM, Slab.childStorables, Slab.childMakeAllocs, DM.run_pure]
  | mdata m =>
    simp only [Slab.toRaw, childStorablesM, Slab.childStorables, Slab.childMakeAllocs]
    rw [elementsStorablesM_toRaw]
    simp
  | mindex m =>
    simp only [Slab.toRaw, childStorablesM, Slab.childStorables, Slab.childMakeAllocs, metaChildStorablesM_eq,
      List.map_map, List.length_map]
    rfl
  | storable id e => simp [Slab.toRaw, childStorablesM, Slab.childStorables, Slab.childMakeAllocs, DM.run_pure]
  | storableG id x => simp [Slab.toRaw, childStorablesM, Slab.childStorables, Slab.childMakeAllocs, DM.run_pure]

/-! ### (2) what the decoder model returns -/

/-- a value the computation returns satisfies `P` (nothing about errors or panics) -/
def RetP {α : Type} (m : DM α) (P : α → Prop) : Prop := ∀ n a k, m n = .ok a k → P a

theorem Safe.retp {α : Type} {m : DM α} {k : Nat} {P : α → Prop} (h : Safe m k P) : RetP m P := by
  intro n a k' hm
  have := h n
  rw [hm] at this
  exact this.2

theorem NP.retp {α : Type} {m : DM α} {P : α → Prop} (h : NP m P) : RetP m P := by
  intro n a k hm
  have := h n
  rw [hm] at this
  exact this

/-! `Slab.refSizeOK` is one of the things the specifications of the decoders (`NoPanic.lean`, `NoPanicG.lean`)
    say of a returned slab. -/

theorem retp_finishData (id : SlabID) (ty : Option TyInfo) (next : SlabID) (checkEOF : Bool) (dataLen : Nat)
    (elemCount : Nat) (elems : List Elem) (slabSize : Nat) (d : Dec) :
    RetP (finishData id ty next checkEOF dataLen elemCount elems slabSize d) Slab.refSizeOK := by
  intro n a k h
  unfold finishData at h
  split at h
  · cases h
  · cases h; trivial

theorem retp_decodeDataContent (id : SlabID) (isRoot : Bool) (ty : Option TyInfo) (next : SlabID)
    (checkEOF : Bool) (data : Bytes) : RetP (decodeDataContent id isRoot ty next checkEOF data) Slab.refSizeOK :=
  (safe_decodeDataContent id isRoot ty next checkEOF data).retp

theorem retp_newArrayDataSlabFromDataV0 (id : SlabID) (h : SlabHead) (data : Bytes) :
    RetP (newArrayDataSlabFromDataV0 id h data) Slab.refSizeOK :=
  (safe_newArrayDataSlabFromDataV0 id h data).retp

theorem retp_dataV1AfterExtra (id : SlabID) (h : SlabHead) (ty : Option TyInfo) (data : Bytes) :
    RetP (dataV1AfterExtra id h ty data) Slab.refSizeOK :=
  (safe_dataV1AfterExtra id h ty data).retp

theorem retp_newArrayDataSlabFromDataV1 (id : SlabID) (h : SlabHead) (data : Bytes) :
    RetP (newArrayDataSlabFromDataV1 id h data) Slab.refSizeOK :=
  (safe_newArrayDataSlabFromDataV1 id h data).retp

theorem retp_metaV0AfterExtra (id : SlabID) (ty : Option TyInfo) (data : Bytes) :
    RetP (metaV0AfterExtra id ty data) Slab.refSizeOK :=
  (safe_metaV0AfterExtra id ty data).retp

theorem retp_metaV1AfterExtra (id : SlabID) (ty : Option TyInfo) (data : Bytes) :
    RetP (metaV1AfterExtra id ty data) Slab.refSizeOK :=
  (safe_metaV1AfterExtra id ty data).retp

theorem retp_arrDataContentG (id : SlabID) (isRoot : Bool) (ty : Option TyInfo) (next : SlabID)
    (checkEOF : Bool) (xs : List XD) (data : Bytes) :
    RetP (arrDataContentG id isRoot ty next checkEOF xs data) Slab.refSizeOK :=
  (tri_arrDataContentGF (φ₁ := fun L => L + 1) (φ₂ := fun L => L + 1) id isRoot ty next checkEOF xs data).np.retp

theorem retp_arrDataV1AfterIEDG (id : SlabID) (h : SlabHead) (ty : Option TyInfo) (xs : List XD) (data : Bytes) :
    RetP (arrDataV1AfterIEDG id h ty xs data) Slab.refSizeOK :=
  (tri_arrDataV1AfterIEDGF (φ₁ := fun L => L + 1) (φ₂ := fun L => L + 1) id h ty xs data).np.retp

theorem retp_mapDataContent (id : SlabID) (h : SlabHead) (extra : Option MapExtra) (next : SlabID)
    (xs : List XD) (data : Bytes) : RetP (mapDataContent id h extra next xs data) Slab.refSizeOK :=
  (tri_mapDataContentF (φ₁ := fun L => L + 1) (φ₂ := fun L => L + 1) id h extra next xs data).np.retp

theorem retp_mapDataV1AfterIED (id : SlabID) (h : SlabHead) (extra : Option MapExtra) (xs : List XD) (data : Bytes) :
    RetP (mapDataV1AfterIED id h extra xs data) Slab.refSizeOK :=
  (tri_mapDataV1AfterIEDF (φ₁ := fun L => L + 1) (φ₂ := fun L => L + 1) id h extra xs data).np.retp

/-- every slab the decoder model returns has `SlabIDStorable`-sized references -/
theorem decodeSlab_refSizeOK {id : SlabID} {bytes : Bytes} {n k : Nat} {s : Slab}
    (h : decodeSlab id bytes n = .ok s k) : s.refSizeOK := by
  unfold decodeSlab at h
  cases hf : decodeSlabFlat id bytes n with
  | ok a k' =>
    rw [hf] at h
    cases h
    exact (safe_decodeSlabFlat_refSize id bytes).retp n _ _ hf
  | error e k' =>
    rw [hf] at h
    cases e with
    | decoding => cases h
    | unsupported => exact (tri_decodeSlabGen (c := True) id bytes).np.retp n _ _ h
  | panic => rw [hf] at h; cases h

/-- The accessors on a decoded slab: no panic, the results are the model's `byteSize` and
    `childStorables` (every returned storable non-nil). -/
theorem accessors_of_decoded {id : SlabID} {bytes : Bytes} {n k : Nat} {s : Slab}
    (h : decodeSlab id bytes n = .ok s k) (k' : Nat) :
    byteSizeM s.toRaw k' = .ok s.byteSize k' ∧
    childStorablesM s.toRaw k' = .ok (s.childStorables.map Stor.toRaw) (k' + s.childMakeAllocs) :=
  ⟨byteSizeM_toRaw s (decodeSlab_refSizeOK h) k', childStorablesM_toRaw s k'⟩

/-! ### exactly when the transcribed accessors panic (so: the raw model can express the failure) -/

/-- `ByteSize()` of a storable does not panic: no nil interface and no nil pointer on the path the
    method calls take (through wrappers; not into inlined slabs, whose size is a stored field) -/
def RStor.sizeSafe : RStor → Bool
  | .nil => false
  | .val _ _ => true
  | .ref _ => true
  | .some s => s.sizeSafe
  | .arr p => p.isSome
  | .map p => p.isSome

/-! Each `…_panic_iff` of the accessor's parts says both halves with their results: `ok` (and what is returned) on a
    safe value, `panic` on an unsafe one; the two slab-level theorems at the end state the equivalence. -/

theorem RStor.byteSizeM_panic_iff : (s : RStor) → (k : Nat) →
    (s.sizeSafe = true → ∃ n, s.byteSizeM k = .ok n k) ∧ (s.sizeSafe = false → s.byteSizeM k = .panic)
  | .nil, k => ⟨fun h => by simp [RStor.sizeSafe] at h, fun _ => rfl⟩
  | .val size pay, k => ⟨fun _ => ⟨size, rfl⟩, fun h => by simp [RStor.sizeSafe] at h⟩
  | .ref id, k => ⟨fun _ => ⟨_, rfl⟩, fun h => by simp [RStor.sizeSafe] at h⟩
  | .some s, k => by
    have ih := RStor.byteSizeM_panic_iff s k
    constructor
    · intro h
      obtain ⟨n, hn⟩ := ih.1 h
      refine ⟨someOverhead + n, ?_⟩
      show (s.byteSizeM >>= fun n => pure (someOverhead + n)) k = _
      rw [DM.bind_ok hn]; rfl
    · intro h
      show (s.byteSizeM >>= fun n => pure (someOverhead + n)) k = _
      exact DM.bind_panic (ih.2 h)
  | .arr Option.none, k => ⟨fun h => by simp [RStor.sizeSafe] at h, fun _ => rfl⟩
  | .arr (Option.some a), k => ⟨fun _ => ⟨_, rfl⟩, fun h => by simp [RStor.sizeSafe] at h⟩
  | .map Option.none, k => ⟨fun h => by simp [RStor.sizeSafe] at h, fun _ => rfl⟩
  | .map (Option.some a), k => ⟨fun _ => ⟨_, rfl⟩, fun h => by simp [RStor.sizeSafe] at h⟩

mutual
/-- `elementsStorables` does not panic on this value.  Note the asymmetry the Go code has: a nil or
    foreign `elements` is harmless (the type switch has no default, the function returns its
    argument), a nil or foreign `element` is not. -/
def RElems.safe : RElems → Bool
  | .nil => true
  | .foreign => true
  | .hkeyNil => false
  | .hkey _ _ es _ => relemsSafe es
  | .singleNil => false
  | .single _ es _ => es.all Option.isSome
def RElem.safe : RElem → Bool
  | .nil => false
  | .foreign => false
  | .singleNil => false
  | .single _ => true
  | .inlNil => false
  | .inl els => els.safe
  | .extNil => false
  | .ext _ _ => true
def relemsSafe : List RElem → Bool
  | [] => true
  | e :: es => e.safe && relemsSafe es
end

theorem singleLoopM_panic_iff : (es : List (Option RSingle)) → (acc : List RStor) → (k : Nat) →
    (es.all Option.isSome = true → ∃ l, singleLoopM es acc k = .ok (acc ++ l) k) ∧
    (es.all Option.isSome = false → singleLoopM es acc k = .panic)
  | [], acc, k => ⟨fun _ => ⟨[], by simp [singleLoopM, DM.run_pure]⟩, fun h => by simp at h⟩
  | Option.none :: es, acc, k => by
    refine ⟨fun h => by simp at h, fun _ => ?_⟩
    simp only [singleLoopM]
    exact DM.bind_panic rfl
  | Option.some v :: es, acc, k => by
    have ih := singleLoopM_panic_iff es (acc ++ [v.key, v.value]) k
    have h1 : singleElementStorablesM (Option.some v) acc k = .ok (acc ++ [v.key, v.value]) k := rfl
    constructor
    · intro h
      obtain ⟨l, hl⟩ := ih.1 (by simpa using h)
      refine ⟨[v.key, v.value] ++ l, ?_⟩
      simp only [singleLoopM]
      rw [DM.bind_ok h1, hl]
      simp
    · intro h
      simp only [singleLoopM]
      rw [DM.bind_ok h1]
      exact ih.2 (by simpa using h)

mutual
theorem elementsStorablesM_panic_iff : (els : RElems) → (acc : List RStor) → (k : Nat) →
    (els.safe = true → ∃ l, elementsStorablesM els acc k = .ok (acc ++ l) k) ∧
    (els.safe = false → elementsStorablesM els acc k = .panic)
  | .nil, acc, k => ⟨fun _ => ⟨[], by simp [elementsStorablesM, DM.run_pure]⟩, fun h => by simp [RElems.safe] at h⟩
  | .foreign, acc, k => ⟨fun _ => ⟨[], by simp [elementsStorablesM, DM.run_pure]⟩, fun h => by simp [RElems.safe] at h⟩
  | .hkeyNil, acc, k => ⟨fun h => by simp [RElems.safe] at h, fun _ => by simp [elementsStorablesM, DM.panic]⟩
  | .singleNil, acc, k => ⟨fun h => by simp [RElems.safe] at h, fun _ => by simp [elementsStorablesM, DM.panic]⟩
  | .hkey level hkeys es size, acc, k => by
    simp only [RElems.safe, elementsStorablesM]
    exact hkeyLoopM_panic_iff es acc k
  | .single level es size, acc, k => by
    simp only [RElems.safe, elementsStorablesM]
    exact singleLoopM_panic_iff es acc k
theorem elementStorablesM_panic_iff : (e : RElem) → (acc : List RStor) → (k : Nat) →
    (e.safe = true → ∃ l, elementStorablesM e acc k = .ok (acc ++ l) k) ∧
    (e.safe = false → elementStorablesM e acc k = .panic)
  | .nil, acc, k => ⟨fun h => by simp [RElem.safe] at h, fun _ => by simp [elementStorablesM, DM.panic]⟩
  | .foreign, acc, k => ⟨fun h => by simp [RElem.safe] at h, fun _ => by simp [elementStorablesM, DM.panic]⟩
  | .singleNil, acc, k =>
    ⟨fun h => by simp [RElem.safe] at h, fun _ => by simp [elementStorablesM, singleElementStorablesM, DM.panic]⟩
  | .inlNil, acc, k => ⟨fun h => by simp [RElem.safe] at h, fun _ => by simp [elementStorablesM, DM.panic]⟩
  | .extNil, acc, k => ⟨fun h => by simp [RElem.safe] at h, fun _ => by simp [elementStorablesM, DM.panic]⟩
  | .single v, acc, k =>
    ⟨fun _ => ⟨[v.key, v.value], by simp [elementStorablesM, singleElementStorablesM, DM.run_pure]⟩,
     fun h => by simp [RElem.safe] at h⟩
  | .ext id size, acc, k =>
    ⟨fun _ => ⟨[RStor.ref id], by simp [elementStorablesM, DM.run_pure]⟩, fun h => by simp [RElem.safe] at h⟩
  | .inl els, acc, k => by
    simp only [RElem.safe, elementStorablesM]
    exact elementsStorablesM_panic_iff els acc k
theorem hkeyLoopM_panic_iff : (es : List RElem) → (acc : List RStor) → (k : Nat) →
    (relemsSafe es = true → ∃ l, hkeyLoopM es acc k = .ok (acc ++ l) k) ∧
    (relemsSafe es = false → hkeyLoopM es acc k = .panic)
  | [], acc, k => ⟨fun _ => ⟨[], by simp [hkeyLoopM, DM.run_pure]⟩, fun h => by simp [relemsSafe] at h⟩
  | e :: es, acc, k => by
    have h1 := elementStorablesM_panic_iff e acc k
    constructor
    · intro h
      simp only [relemsSafe, Bool.and_eq_true] at h
      obtain ⟨l1, hl1⟩ := h1.1 h.1
      obtain ⟨l2, hl2⟩ := (hkeyLoopM_panic_iff es (acc ++ l1) k).1 h.2
      refine ⟨l1 ++ l2, ?_⟩
      simp only [hkeyLoopM]
      rw [DM.bind_ok hl1, hl2]
      simp
    · intro h
      simp only [hkeyLoopM]
      cases hs : e.safe with
      | false => exact DM.bind_panic (h1.2 hs)
      | true =>
        obtain ⟨l1, hl1⟩ := h1.1 hs
        rw [DM.bind_ok hl1]
        refine (hkeyLoopM_panic_iff es (acc ++ l1) k).2 ?_
        simpa [relemsSafe, hs] using h
end

/-- `ByteSize()` of a raw slab does not panic -/
def RawSlab.sizeSafe : RawSlab → Bool
  | .nil => false
  | .arrData p => p.isSome
  | .arrMeta p => p.isSome
  | .mapData p => p.isSome
  | .mapMeta p => p.isSome
  | .storable Option.none => false
  | .storable (Option.some s) => s.storable.sizeSafe

/-- `ChildStorables()` of a raw slab does not panic -/
def RawSlab.childSafe : RawSlab → Bool
  | .nil => false
  | .arrData p => p.isSome
  | .arrMeta p => p.isSome
  | .mapData Option.none => false
  | .mapData (Option.some m) => m.elements.safe
  | .mapMeta p => p.isSome
  | .storable p => p.isSome

/-- `ByteSize()` panics exactly on: the nil interface, a nil slab pointer, a large-value slab whose
    storable is (or wraps) a nil interface or a nil inlined-slab pointer. -/
theorem byteSizeM_panic_iff (r : RawSlab) (k : Nat) : byteSizeM r k = .panic ↔ r.sizeSafe = false := by
  cases r with
  | nil => simp [byteSizeM, RawSlab.sizeSafe, DM.panic]
  | arrData p => cases p <;> simp [byteSizeM, RawSlab.sizeSafe, DM.panic, DM.run_pure]
  | arrMeta p => cases p <;> simp [byteSizeM, RawSlab.sizeSafe, DM.panic, DM.run_pure]
  | mapData p => cases p <;> simp [byteSizeM, RawSlab.sizeSafe, DM.panic, DM.run_pure]
  | mapMeta p => cases p <;> simp [byteSizeM, RawSlab.sizeSafe, DM.panic, DM.run_pure]
  | storable p =>
    cases p with
    | none => simp [byteSizeM, RawSlab.sizeSafe, DM.panic]
    | some s =>
      have h := RStor.byteSizeM_panic_iff s.storable k
      simp only [byteSizeM, RawSlab.sizeSafe]
      cases hs : s.storable.sizeSafe with
      | false => simp [DM.bind_panic (h.2 hs)]
      | true =>
        obtain ⟨n, hn⟩ := h.1 hs
        rw [DM.bind_ok hn]
        simp [DM.run_pure]

/-- `ChildStorables()` panics exactly on: the nil interface, a nil slab pointer, a map data slab one
    of whose reachable `element` slots is nil / foreign / a typed nil pointer, or one of whose
    reachable `elements` is a typed nil pointer. -/
theorem childStorablesM_panic_iff (r : RawSlab) (k : Nat) : childStorablesM r k = .panic ↔ r.childSafe = false := by
  cases r with
  | nil => simp [childStorablesM, RawSlab.childSafe, DM.panic]
  | arrData p => cases p <;> simp [childStorablesM, RawSlab.childSafe, DM.panic, DM.run_pure]
  | arrMeta p => cases p <;> simp [childStorablesM, RawSlab.childSafe, DM.panic, metaChildStorablesM_eq]
  | mapMeta p => cases p <;> simp [childStorablesM, RawSlab.childSafe, DM.panic, metaChildStorablesM_eq]
  | storable p => cases p <;> simp [childStorablesM, RawSlab.childSafe, DM.panic, DM.run_pure]
  | mapData p =>
    cases p with
    | none => simp [childStorablesM, RawSlab.childSafe, DM.panic]
    | some m =>
      have h := elementsStorablesM_panic_iff m.elements [] k
      simp only [childStorablesM, RawSlab.childSafe]
      cases hs : m.elements.safe with
      | false => simp [h.2 hs]
      | true =>
        obtain ⟨l, hl⟩ := h.1 hs
        simp [hl]

/-- a raw map data slab as it would be if a decoding loop returned after `make` and before the
    second assignment: slot 1 of `elems` is still the nil interface -/
def halfFilledMapSlab : RawSlab :=
  .mapData (Option.some ⟨100, .hkey 0 [1, 2] [.single ⟨.val 2 7, .val 2 8, 5⟩, .nil] 30⟩)

theorem childStorables_nil_slot_panics (k : Nat) : childStorablesM halfFilledMapSlab k = .panic := by
  rw [childStorablesM_panic_iff]; rfl

/-- `ByteSize()` of the same slab reads the header field and does not panic -/
theorem byteSize_nil_slot_ok (k : Nat) : byteSizeM halfFilledMapSlab k = .ok 100 k := rfl

/-- an array data slab with a nil slot: `ChildStorables()` does not panic, it hands the nil on -/
theorem childStorables_arr_nil_slot (k : Nat) :
    childStorablesM (.arrData (Option.some ⟨10, 2, [.val 2 1, .nil]⟩)) k = .ok [.val 2 1, .nil] k := rfl

/-- a large-value slab whose wrapper holds a nil interface: `ByteSize()` panics -/
theorem byteSize_wrapped_nil_panics (k : Nat) :
    byteSizeM (.storable (Option.some ⟨⟨1, 1⟩, .some .nil⟩)) k = .panic := by
  rw [byteSizeM_panic_iff]; rfl

/-! ### the loop pattern of the Go decoders: `make` + indexed assignment = the list the model builds -/

/-- `for i := range slots { x, err := step(); if err != nil { return nil, err }; slots[i] = x }`
    from index `i` on, `n` iterations left; `σ` is the state the steps thread (stream decoder, size) -/
def fillSlotsM {α σ : Type} (step : σ → DM (α × σ)) : Nat → Nat → List (Option α) → σ → DM (List (Option α) × σ)
  | 0, _, slots, st => pure (slots, st)
  | n + 1, i, slots, st => do
    let (x, st) ← step st
    let slots ← setIdxM slots i (Option.some x)
    fillSlotsM step n (i + 1) slots st

/-- `slots := make([]T, n)` (all nil), then the loop -/
def makeFillM {α σ : Type} (step : σ → DM (α × σ)) (n : Nat) (st : σ) : DM (List (Option α) × σ) := do
  alloc n
  fillSlotsM step n 0 (List.replicate n Option.none) st

/-- how the decoder model writes the same loop: the list of the items, built front to back -/
def collectM {α σ : Type} (step : σ → DM (α × σ)) : Nat → σ → DM (List α × σ)
  | 0, st => pure ([], st)
  | n + 1, st => do
    let (x, st) ← step st
    let (xs, st) ← collectM step n st
    pure (x :: xs, st)

theorem fillSlotsM_eq {α σ : Type} (step : σ → DM (α × σ)) : (n i : Nat) → (slots : List (Option α)) → (st : σ) →
    (k : Nat) → i + n = slots.length →
    fillSlotsM step n i slots st k =
      (collectM step n st >>= fun r => pure (slots.take i ++ r.1.map Option.some, r.2)) k
  | 0, i, slots, st, k, h => by
    have : slots.take i = slots := List.take_of_length_le (by omega)
    simp only [fillSlotsM, collectM, DM.pure_bind', List.map_nil, List.append_nil, this]
  | n + 1, i, slots, st, k, h => by
    simp only [fillSlotsM, collectM, DM.bind_assoc]
    cases hs : step st k with
    | panic => rw [DM.bind_panic hs, DM.bind_panic hs]
    | error e k' => rw [DM.bind_error hs, DM.bind_error hs]
    | ok r k' =>
      obtain ⟨x, st'⟩ := r
      have hlt : i < slots.length := by omega
      have h1 : setIdxM slots i (Option.some x) k' = .ok (slots.set i (Option.some x)) k' := by
        unfold setIdxM; rw [if_pos hlt]; rfl
      rw [DM.bind_ok hs, DM.bind_ok hs]
      dsimp only
      rw [DM.bind_ok h1, fillSlotsM_eq step n (i + 1) _ st' k' (by simp; omega)]
      simp only [DM.pure_bind']
      have hk : (fun r : List α × σ => (pure (List.take (i + 1) (slots.set i (Option.some x)) ++ r.1.map Option.some, r.2)
            : DM (List (Option α) × σ))) =
          (fun r => pure (List.take i slots ++ (x :: r.1).map Option.some, r.2)) := by
        funext r
        rw [List.take_set, take_succ_set slots i _ hlt]
        simp
      rw [hk]

/-- The Go loop pattern returns exactly the model's list with every slot filled, fails exactly when
    a step fails, and the indexed assignment never goes out of range. -/
theorem makeFillM_eq {α σ : Type} (step : σ → DM (α × σ)) (n : Nat) (st : σ) (k : Nat) :
    makeFillM step n st k =
      (alloc n >>= fun _ => collectM step n st >>= fun r => pure (r.1.map Option.some, r.2)) k := by
  unfold makeFillM
  have h1 : DM.alloc n k = .ok () (k + n) := rfl
  rw [DM.bind_ok h1, DM.bind_ok h1, fillSlotsM_eq step n 0 _ st _ (by simp)]
  simp

/-! #### one instance: the element loop of `newArrayDataSlabFromDataV0/V1`
    (array_data_slab_decode.go:161-175, :278-292) and the model's `decodeElems` -/

/-- the loop body: `decodeStorable`, (the assignment `elements[i] = storable` is the pattern's),
    `safeAdd2Uint32(slabSize, storable.ByteSize())` (4294967295 is `math.MaxUint32`, spelt as in the
    model's `decodeElems`); the state is `(slabSize, cborDec)` -/
def elemStepM (st : Nat × Dec) : DM (Elem × (Nat × Dec)) := do
  let (e, d) ← decodeElem st.2
  if st.1 + e.size > 4294967295 then fail
  else pure (e, (st.1 + e.size, d))

/-- the model's `decodeElems` is the list-building form of the loop with that body -/
theorem decodeElems_eq_collectM : (n : Nat) → (d : Dec) → (size : Nat) →
    decodeElems n d size = (collectM elemStepM n (size, d) >>= fun r => pure (r.1, r.2.1, r.2.2))
  | 0, d, size => by simp only [decodeElems, collectM, DM.pure_bind']
  | n + 1, d, size => by
    funext k
    simp only [decodeElems, collectM, elemStepM, DM.bind_assoc]
    cases hs : decodeElem d k with
    | panic => rw [DM.bind_panic hs, DM.bind_panic hs]
    | error e k' => rw [DM.bind_error hs, DM.bind_error hs]
    | ok r k' =>
      obtain ⟨e, d'⟩ := r
      rw [DM.bind_ok hs, DM.bind_ok hs]
      dsimp only
      by_cases hc : size + e.size > 4294967295
      · rw [if_pos hc, if_pos hc]; rfl
      · rw [if_neg hc, if_neg hc, decodeElems_eq_collectM n d' (size + e.size)]
        simp only [DM.pure_bind', DM.bind_assoc]

/-- So the Go text — `elements := make([]Storable, elemCount)`, then the loop assigning
    `elements[i]` — computes the model's element list with every slot non-nil, fails when the
    model fails, and never indexes out of range. -/
theorem goElementLoop_eq_decodeElems (n : Nat) (d : Dec) (size : Nat) (k : Nat) :
    makeFillM elemStepM n (size, d) k =
      (alloc n >>= fun _ => decodeElems n d size >>= fun r => pure (r.1.map Option.some, (r.2.1, r.2.2))) k := by
  rw [makeFillM_eq, decodeElems_eq_collectM]
  simp only [DM.bind_assoc, DM.pure_bind']

end Atree.Codec

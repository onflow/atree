import AtreeProofs.Codec.DM
import AtreeProofs.Codec.Machine
/-
  Allocation accounting for the decoders of the second part.

  `VInv d stk`: the stream decoder `d` is inside (or between) validated items and `stk` is what the
  CBOR validator still expected when it had validated the input up to `d`'s position — so an array
  head read at this point is followed by as many items (each at least one byte) as it announces.
  `Pre B d stk n c`: with allocation counter `n` and a credit of `c` slice elements already paid for,
  `n + c + 2·(unread bytes) ≤ B + 2·(items the validator still expects)`.  Every `make(k)` of the
  decoders is paid either by the `k` items an array head announces (twice, for compact maps) or by
  the bytes of a byte string just read, so the invariant is preserved, and `n ≤ B` at every point.
  A decoder between two top-level items has the empty stack; its next operation validates the next item
  first, which `wfNext` does from the stack `[.items 0 0]`: that is `effStk []`, and `next1`, `topDepth`,
  `topInTag` answer for the empty stack as for that frame.
  Every operation of the stream decoder is "prepare, then advance": `Pre.advance` carries the invariant
  over whenever the validator gets to the same position (`Run.head_step` for a head and its content,
  `Run.skip_item` for a whole item), and the operations are its instances.
-/
namespace Atree.Codec
open DM Atree.Gen

def VInv (d : Dec) (stk : List Frame) : Prop :=
  (∀ f ∈ stk, ItemFrame f) ∧
    ∃ fuel out, wfRun fuel stk d.data = some out ∧ out.length + d.remaining = d.data.length

theorem pending_pos_of_item {f : Frame} (hf : ItemFrame f) (s : List Frame) : 1 ≤ pending (f :: s) := by
  cases hf <;> simp [pending] <;> omega

theorem VInv.pending_le {d : Dec} {stk : List Frame} (h : VInv d stk) : pending stk ≤ d.remaining := by
  obtain ⟨_, fuel, out, hr, hl⟩ := h
  have := wfRun_pending _ _ _ _ hr
  omega

theorem VInv.remaining_le {d : Dec} {stk : List Frame} (h : VInv d stk) : d.remaining ≤ d.data.length := by
  obtain ⟨_, fuel, out, _, hl⟩ := h
  omega

theorem VInv.nil_remaining {d : Dec} (h : VInv d []) : d.remaining = 0 := by
  obtain ⟨_, fuel, out, hr, hl⟩ := h
  rw [wfRun_nil] at hr
  cases hr
  omega

theorem VInv.remaining_pos {d : Dec} {f : Frame} {s : List Frame} (h : VInv d (f :: s)) : 0 < d.remaining := by
  have h1 := h.pending_le
  have h2 := pending_pos_of_item (h.1 f (List.mem_cons_self ..)) s
  omega

theorem VInv.new (data : Bytes) : VInv (Dec.new data) [] :=
  ⟨fun _ h => absurd h List.not_mem_nil, ⟨0, data, by simp [wfRun, Dec.new], by simp [Dec.new]⟩⟩

/-- the stack the next operation works on: a decoder between items validates the next item first -/
def effStk : List Frame → List Frame
  | [] => [.items 0 0]
  | stk => stk

/-- the stack after one whole item -/
def next1 : List Frame → List Frame
  | [] => []
  | f :: s => afterItem f s

def topDepth : List Frame → Nat
  | [] => 0
  | f :: _ => frameDepth f

def topInTag : List Frame → Bool
  | [] => false
  | f :: _ => frameInTag f

theorem effStk_ne_nil (stk : List Frame) : effStk stk ≠ [] := by cases stk <;> simp [effStk]

theorem effStk_eq {stk : List Frame} (h : ∀ g ∈ stk, ItemFrame g) : ∃ f s, effStk stk = f :: s ∧ ItemFrame f ∧
    afterItem f s = next1 stk ∧ frameDepth f = topDepth stk ∧ frameInTag f = topInTag stk := by
  cases stk with
  | nil => exact ⟨.items 0 0, [], rfl, .items 0 0, rfl, rfl, rfl⟩
  | cons f s => exact ⟨f, s, rfl, h f (List.mem_cons_self ..), rfl, rfl, rfl⟩

theorem pending_eff_next1 {stk : List Frame} (h : ∀ f ∈ stk, ItemFrame f) :
    pending (effStk stk) = pending (next1 stk) + 1 := by
  cases stk with
  | nil => simp [next1, effStk, pending]
  | cons f s =>
    cases h f (List.mem_cons_self ..) with
    | items n d => cases n <;> simp [next1, effStk, afterItem, popItem, pending] <;> omega
    | tag d => simp [next1, effStk, afterItem, pending]; omega

theorem pending_next1 {stk : List Frame} (h : ∀ f ∈ stk, ItemFrame f) : pending (next1 stk) + 1 ≥ pending stk := by
  rw [← pending_eff_next1 h]
  cases stk with
  | nil => exact Nat.zero_le _
  | cons f s => exact Nat.le_refl _

theorem itemFrames_next1 {stk : List Frame} (h : ∀ f ∈ stk, ItemFrame f) : ∀ f ∈ next1 stk, ItemFrame f := by
  cases stk with
  | nil => intro f hf; cases hf
  | cons g s =>
    intro f hf
    cases h g (List.mem_cons_self ..) with
    | items n d =>
      cases n with
      | zero => exact h f (List.mem_cons_of_mem _ hf)
      | succ n =>
        simp only [next1, afterItem, popItem, List.mem_cons] at hf
        rcases hf with rfl | hf
        · exact .items _ _
        · exact h f (List.mem_cons_of_mem _ hf)
    | tag d => exact h f (List.mem_cons_of_mem _ hf)

/-- the accounting invariant (see the head of the file): `n` the allocation counter, `c` the credit -/
def Pre (B : Nat) (d : Dec) (stk : List Frame) (n c : Nat) : Prop :=
  VInv d stk ∧ n + c + 2 * d.data.length ≤ B + 2 * pending stk

theorem Pre.le {B : Nat} {d : Dec} {stk : List Frame} {n c : Nat} (h : Pre B d stk n c) : n ≤ B := by
  have h1 := h.1.pending_le
  have h2 := h.1.remaining_le
  have := h.2
  omega

theorem Pre.weaken {B : Nat} {d : Dec} {stk : List Frame} {n c c' : Nat} (h : Pre B d stk n c) (hc : c' ≤ c) :
    Pre B d stk n c' := ⟨h.1, by have := h.2; omega⟩

theorem Pre.mono {B : Nat} {d : Dec} {stk : List Frame} {n n' c : Nat} (h : Pre B d stk n c) (hn : n' ≤ n) :
    Pre B d stk n' c :=
  ⟨h.1, Nat.le_trans (Nat.add_le_add_right (Nat.add_le_add_right hn c) _) h.2⟩

theorem Pre.alloc {B : Nat} {d : Dec} {stk : List Frame} {n c k : Nat} (h : Pre B d stk n c) (hk : k ≤ c) :
    Pre B d stk (n + k) (c - k) := ⟨h.1, by have := h.2; omega⟩

theorem Pre.new {B : Nat} (data : Bytes) {n : Nat} (h : n + 2 * data.length ≤ B) : Pre B (Dec.new data) [] n 0 :=
  ⟨VInv.new data, by simpa [Dec.new, pending] using h⟩

theorem Pre.prepareNext {B : Nat} {d d' : Dec} {stk : List Frame} {n c : Nat} (h : Pre B d stk n c)
    (hp : d.prepareNext = some d') :
    Pre B d' (effStk stk) n c ∧ d'.data = d.data ∧ d'.consumed = d.consumed ∧ 0 < d'.remaining := by
  cases stk with
  | nil =>
    have hr := h.1.nil_remaining
    unfold Dec.prepareNext at hp
    rw [if_neg (by omega)] at hp
    cases hw : wfNext d.data with
    | none => rw [hw] at hp; cases hp
    | some rest =>
      rw [hw] at hp
      simp only [Option.some.injEq] at hp
      subst hp
      have hlt := wfNext_length hw
      refine ⟨⟨⟨?_, d.data.length, rest, hw, by simp only; omega⟩, ?_⟩, rfl, rfl, by simp only; omega⟩
      · intro f hf
        simp only [effStk, List.mem_cons, List.not_mem_nil, or_false] at hf
        subst hf; exact .items 0 0
      · have := h.2
        simp only [effStk, pending] at this ⊢
        omega
  | cons f s =>
    have hpos := h.1.remaining_pos
    rw [prepareNext_pos hpos] at hp
    cases hp
    exact ⟨h, rfl, rfl, hpos⟩

/-- the new stack after a head of the given major type has been read -/
def headStk (major v : Nat) (stk : List Frame) : List Frame :=
  if major = 4 then pushItems v (topDepth stk + 1) (next1 stk)
  else if major = 6 then .tag (if topInTag stk then topDepth stk + 1 else topDepth stk) :: next1 stk
  else next1 stk

theorem itemFrames_pushItems {v d : Nat} {stk : List Frame} (h : ∀ f ∈ stk, ItemFrame f) :
    ∀ f ∈ pushItems v d stk, ItemFrame f := by
  cases v with
  | zero => exact h
  | succ v =>
    intro f hf
    simp only [pushItems, List.mem_cons] at hf
    rcases hf with rfl | hf
    · exact .items _ _
    · exact h f hf

theorem itemFrames_headStk {major v : Nat} {stk : List Frame} (h : ∀ f ∈ stk, ItemFrame f) :
    ∀ f ∈ headStk major v stk, ItemFrame f := by
  have hn := itemFrames_next1 h
  unfold headStk
  split
  · exact itemFrames_pushItems hn
  · split
    · intro g hg
      rcases List.mem_cons.1 hg with rfl | hg
      · exact .tag _
      · exact hn g hg
    · exact hn

theorem pending_headStk (major v : Nat) (stk : List Frame) :
    pending (headStk major v stk) = pending (next1 stk) + (if major = 4 then v else if major = 6 then 1 else 0) := by
  unfold headStk
  split
  · rw [pending_pushItems]; omega
  · split
    · simp only [pending]; omega
    · rfl

/-- `headStk` is what a definite head of one of the three major types pushes -/
theorem headStk_frames {major : Nat} (hm : major = 0 ∨ major = 4 ∨ major = 6) {h : Head} (ht : h.t = major)
    (hai : h.ai ≠ 31) (stk : List Frame) :
    h.frames (topDepth stk) (topInTag stk) ++ next1 stk = headStk major h.val stk ∧ h.skip = 0 := by
  refine ⟨?_, Head.skip_other (by omega)⟩
  unfold headStk
  rcases hm with rfl | rfl | rfl
  · rw [Head.frames_uint ht]; rfl
  · rw [Head.frames_array ht hai, ← pushItems_append]; rfl
  · rw [Head.frames_tag ht]; rfl

/-- Where the decoder stands, the validator reads the next head, puts what the head pushes in the place of
    the item and skips the head's content. -/
theorem Run.head_step {stk : List Frame} (hfr : ∀ g ∈ stk, ItemFrame g) {data rest out : Bytes} {h : Head}
    (hw : wfHead data = some (h, rest)) (hr : Run (effStk stk) data out) :
    Run (h.frames (topDepth stk) (topInTag stk) ++ next1 stk) (rest.drop h.skip) out := by
  obtain ⟨f, s, heff, hf, hnext, hdep, hint⟩ := effStk_eq hfr
  rw [heff] at hr
  obtain ⟨n, r, hs, hr⟩ := hr.item_step hf
  obtain ⟨hd, rest1, hw1, rfl, rfl⟩ := wfItemStep_some hs
  cases hw.symm.trans hw1
  rwa [List.append_nil, hnext, hdep, hint] at hr

/-- The decoder, prepared for the next item, moves on to `rest`, and every run of the validator from where it
    stood gets to `rest` with the stack `stk'`: the account goes on at `stk'`; the bytes passed, and the items
    `stk'` expects beyond those of `next1 stk`, are new credit. -/
theorem Pre.advance {B : Nat} {d d1 d' : Dec} {stk stk' : List Frame} {n c c' : Nat} {rest : Bytes}
    (h : Pre B d stk n c) (hp : d.prepareNext = some d1) (hadv : d1.advance rest = some d')
    (hlt : rest.length < d1.data.length)
    (hrun : ∀ out, Run (effStk stk) d1.data out → Run stk' rest out)
    (hfr : ∀ g ∈ stk', ItemFrame g)
    (hc : c' + 2 * pending (next1 stk) + 2 ≤ c + 2 * (d1.data.length - rest.length) + 2 * pending stk') :
    Pre B d' stk' n c' ∧ d'.data.length < d.data.length := by
  obtain ⟨⟨⟨_, F, out, hr, hl⟩, hJ⟩, hdata, _, _⟩ := h.prepareNext hp
  obtain ⟨hk, rfl⟩ := advance_some hadv
  have hr' := (hrun out (.of_wfRun hr)).wfRun (Nat.le_refl _)
  have hpe := pending_eff_next1 h.1.1
  refine ⟨⟨⟨hfr, _, out, hr', ?_⟩, ?_⟩, ?_⟩
  · simp only; omega
  · simp only; omega
  · simp only [← hdata]; exact hlt

theorem Pre.decodeHeadOf {B : Nat} {d d' : Dec} {stk : List Frame} {n c major v : Nat} (h : Pre B d stk n c)
    (hm : major = 0 ∨ major = 4 ∨ major = 6) (hop : d.decodeHeadOf major = some (v, d')) :
    Pre B d' (headStk major v stk) n (c + (if major = 4 then 2 * v else 0)) ∧ d'.data.length < d.data.length := by
  obtain ⟨d1, hh, rest, hp, hwf, ht, hai, rfl, hadv⟩ := decodeHeadOf_some hop
  obtain ⟨hfs, hs⟩ := headStk_frames hm ht hai stk
  have hl := wfHead_length hwf
  refine h.advance hp hadv hl (fun out hr => ?_) (itemFrames_headStk h.1.1) ?_
  · have := hr.head_step h.1.1 hwf
    rwa [hfs, hs, List.drop_zero] at this
  · rw [pending_headStk]
    split <;> omega

theorem effStk_effStk (stk : List Frame) : effStk (effStk stk) = effStk stk := by
  cases stk <;> rfl

theorem next1_effStk (stk : List Frame) : next1 (effStk stk) = next1 stk := by
  cases stk <;> rfl

theorem headStk_effStk (major v : Nat) (stk : List Frame) : headStk major v (effStk stk) = headStk major v stk := by
  cases stk <;> rfl

theorem Pre.nextType {B : Nat} {d d' : Dec} {stk : List Frame} {n c : Nat} {t : CType} (h : Pre B d stk n c)
    (hop : d.nextType = some (t, d')) : Pre B d' (effStk stk) n c ∧ d'.data = d.data := by
  unfold Dec.nextType at hop
  cases hp : d.prepareNext with
  | none => rw [hp] at hop; cases hop
  | some d1 =>
    rw [hp] at hop
    obtain ⟨h1, hdata, _, _⟩ := h.prepareNext hp
    simp only at hop
    cases hd : d1.data with
    | nil => rw [hd] at hop; cases hop
    | cons b tl =>
      rw [hd] at hop
      simp only [Option.some.injEq, Prod.mk.injEq] at hop
      obtain ⟨_, rfl⟩ := hop
      exact ⟨h1, hdata⟩

/-- `decodeBytes`: one item consumed; the bytes returned pay for twice their number of slice elements -/
theorem Pre.decodeBytes {B : Nat} {d d' : Dec} {stk : List Frame} {n c : Nat} {bs : Bytes} (h : Pre B d stk n c)
    (hop : d.decodeBytes = some (bs, d')) :
    Pre B d' (next1 stk) n (c + 2 * bs.length) ∧ d'.data.length < d.data.length := by
  obtain ⟨d1, hh, rest, hp, hwf, ht, hai, hle, rfl, hadv⟩ := decodeBytes_some hop
  have hl := wfHead_length hwf
  refine h.advance hp hadv (by rw [List.length_drop]; omega) (fun out hr => ?_) (itemFrames_next1 h.1.1) ?_
  · have := hr.head_step h.1.1 hwf
    rwa [Head.frames_string (Or.inl ht) hai, Head.skip_string (Or.inl ht) hai, List.nil_append] at this
  · rw [List.length_drop, List.length_take]; omega

/-- `decodeRawBytes`: the validator skips the same item -/
theorem Pre.decodeRawBytes {B : Nat} {d d' : Dec} {stk : List Frame} {n c : Nat} {raw : Bytes} (h : Pre B d stk n c)
    (hop : d.decodeRawBytes = some (raw, d')) :
    Pre B d' (next1 stk) n c ∧ d'.data.length < d.data.length := by
  obtain ⟨d1, rest, hp, hw, hadv⟩ := decodeRawBytes_some hop
  have hl := wfNext_length hw
  refine h.advance hp hadv hl (fun out hr => ?_) (itemFrames_next1 h.1.1) (by omega)
  obtain ⟨f, s, heff, hf, hnext, -, -⟩ := effStk_eq h.1.1
  rw [heff] at hr
  rw [← hnext]
  exact hr.skip_item hf hw

end Atree.Codec

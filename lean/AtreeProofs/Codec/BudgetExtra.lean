import AtreeProofs.Codec.BudgetFns
/-
  The accounting triple (`TrD`) for what the inlined-extra-data section is made of: a type info given in
  full or by reference, the extra data of an array and of a map, the compact-map entry with its key loop
  (the one place that allocates: the digests, paid by the byte string that holds them, and the keys, paid
  by the head of the key array), and the loops over the
  type infos and the entries.  Every one leaves the validator's stack exactly one item further.
-/
namespace Atree.Codec
open DM Atree.Gen

section
variable {B T : Nat}

theorem tr_decodeTypeInfoRef (tis : List TyInfo) (d : Dec) (stk : List Frame) (c : Nat) :
    TrD B T (fun r : TyInfo × Dec => r.2) (decodeTypeInfoRef tis d) d stk c (next1 stk) := by
  unfold decodeTypeInfoRef
  apply TrG.ite <;> intro _
  · exact tr_decodeTypeInfo d stk c
  · refine TrG.rawBytes ?_
    intro raw d1
    dsimp only
    refine TrG.noalloc (.of_safe (safe_typeInfoOfRaw tis raw)) ?_
    intro t
    exact TrD.pure rfl

theorem tr_newMapExtraData (tis : List TyInfo) (d : Dec) (stk : List Frame) (c : Nat) :
    TrD B T (fun r : MapExtra × Dec => r.2) (newMapExtraData tis d) d stk c (next1 stk) := by
  unfold newMapExtraData
  refine TrG.arrayHead ?_
  intro len d1
  dsimp only
  apply TrG.ite <;> intro hl
  · exact TrG.fail
  · have hl3 : len = 3 := by simp only [mapExtraDataLength] at hl; omega
    subst hl3
    refine TrG.bind (tr_decodeTypeInfoRef tis d1 _ _) ?_
    intro ⟨ty, d2⟩
    dsimp only
    rw [next1_pushItems_succ]
    refine TrG.uint64 ?_
    intro count d3
    dsimp only
    rw [next1_pushItems_succ]
    refine TrG.uint64 ?_
    intro seed d4
    rw [next1_pushItems_succ]
    simp only [pushItems]
    exact TrD.pure rfl

theorem tr_newArrayExtraDataRef (tis : List TyInfo) (d : Dec) (stk : List Frame) (c : Nat) :
    TrD B T (fun r : TyInfo × Dec => r.2) (newArrayExtraDataRef tis d) d stk c (next1 stk) := by
  unfold newArrayExtraDataRef
  refine TrG.arrayHead ?_
  intro len d1
  dsimp only
  apply TrG.ite <;> intro hl
  · exact TrG.fail
  · have hl1 : len = 1 := by simp only [arrayExtraDataLength] at hl; omega
    subst hl1
    have h := tr_decodeTypeInfoRef (B := B) (T := T) tis d1 (pushItems 1 (topDepth stk + 1) (next1 stk)) (c + 2 * 1)
    rw [next1_pushItems_succ] at h
    simp only [pushItems] at h
    exact h

theorem tr_decCompactKeys (fuel : Nat) : ∀ (n : Nat) (d : Dec) (dep : Nat) (s : List Frame),
    TrD B T (fun r : List (Nat × Nat) × Dec => r.2) (decCompactKeys fuel n d) d (pushItems n dep s) 0 s
  | 0, d, dep, s => by unfold decCompactKeys; exact TrD.pure rfl
  | n + 1, d, dep, s => by
    unfold decCompactKeys
    have h1 := (trAll B T [] xdwf_nil fuel).st 0 d 0 (pushItems (n + 1) dep s)
    rw [next1_pushItems_succ] at h1
    refine TrG.bind h1 ?_
    intro ⟨k, d1⟩
    dsimp only
    split
    · refine TrG.bind (tr_decCompactKeys fuel n d1 dep s) ?_
      intro ⟨ks, d2⟩
      exact TrD.pure rfl
    · exact TrG.fail

theorem tr_newCompactMapExtraData (fuel : Nat) (tis : List TyInfo) (d : Dec) (stk : List Frame) (c : Nat) :
    TrD B T (fun r : XD × Dec => r.2) (newCompactMapExtraData fuel tis d) d stk c (next1 stk) := by
  unfold newCompactMapExtraData
  refine TrG.arrayHead ?_
  intro len d1
  dsimp only
  apply TrG.ite <;> intro hl
  · exact TrG.fail
  · have hl3 : len = 3 := by simp only [compactMapExtraDataLength] at hl; omega
    subst hl3
    refine TrG.bind (tr_newMapExtraData tis d1 _ _) ?_
    intro ⟨x, d2⟩
    dsimp only
    rw [next1_pushItems_succ]
    refine TrG.bytes ?_
    intro db d3
    dsimp only
    rw [next1_pushItems_succ]
    apply TrG.ite <;> intro _
    · exact TrG.fail
    · apply TrG.ite <;> intro _
      · exact TrG.fail
      · refine TrG.arrayHead ?_
        intro kc d4
        dsimp only
        rw [next1_pushItems_succ]
        simp only [pushItems]
        apply TrG.ite <;> intro hk
        · exact TrG.fail
        · have hdiv : db.length / digestSize ≤ db.length := Nat.div_le_self _ _
          refine TrG.alloc (k := db.length / digestSize) (by omega) ?_
          refine TrG.alloc (k := kc) (by omega) ?_
          refine TrG.weaken (c := 0) ?_ (Nat.zero_le _)
          refine TrG.bind (tr_decCompactKeys fuel kc d4 _ (next1 stk)) ?_
          intro ⟨keys, d5⟩
          exact TrD.pure rfl

theorem tr_decTypeInfos : ∀ (n : Nat) (d : Dec) (dep : Nat) (s : List Frame),
    TrD B T (fun r : List TyInfo × Dec => r.2) (decTypeInfos n d) d (pushItems n dep s) 0 s
  | 0, d, dep, s => by unfold decTypeInfos; exact TrD.pure rfl
  | n + 1, d, dep, s => by
    unfold decTypeInfos
    have h1 := tr_decodeTypeInfo (B := B) (T := T) d (pushItems (n + 1) dep s) 0
    rw [next1_pushItems_succ] at h1
    refine TrG.bind h1 ?_
    intro ⟨t, d1⟩
    dsimp only
    refine TrG.bind (tr_decTypeInfos n d1 dep s) ?_
    intro ⟨ts, d2⟩
    exact TrD.pure rfl

theorem tr_decXD (fuel : Nat) (tis : List TyInfo) (d : Dec) (stk : List Frame) (c : Nat) :
    TrD B T (fun r : XD × Dec => r.2) (decXD fuel tis d) d stk c (next1 stk) := by
  unfold decXD
  refine TrG.tagNumber ?_
  intro tn d1
  dsimp only
  apply TrG.ite <;> intro _
  · have h := tr_newArrayExtraDataRef (B := B) (T := T) tis d1
      (.tag (if topInTag stk then topDepth stk + 1 else topDepth stk) :: next1 stk) c
    rw [next1_tag] at h
    refine TrG.bind h ?_
    intro ⟨ty, d2⟩
    exact TrD.pure rfl
  · apply TrG.ite <;> intro _
    · have h := tr_newMapExtraData (B := B) (T := T) tis d1
        (.tag (if topInTag stk then topDepth stk + 1 else topDepth stk) :: next1 stk) c
      rw [next1_tag] at h
      refine TrG.bind h ?_
      intro ⟨mx, d2⟩
      exact TrD.pure rfl
    · apply TrG.ite <;> intro _
      · have h := tr_newCompactMapExtraData (B := B) (T := T) fuel tis d1
          (.tag (if topInTag stk then topDepth stk + 1 else topDepth stk) :: next1 stk) c
        rw [next1_tag] at h
        exact h
      · exact TrG.fail

theorem tr_decXDs (fuel : Nat) (tis : List TyInfo) : ∀ (n : Nat) (d : Dec) (dep : Nat) (s : List Frame),
    TrD B T (fun r : List XD × Dec => r.2) (decXDs fuel tis n d) d (pushItems n dep s) 0 s
  | 0, d, dep, s => by unfold decXDs; exact TrD.pure rfl
  | n + 1, d, dep, s => by
    unfold decXDs
    have h1 := tr_decXD (B := B) (T := T) fuel tis d (pushItems (n + 1) dep s) 0
    rw [next1_pushItems_succ] at h1
    refine TrG.bind h1 ?_
    intro ⟨x, d1⟩
    dsimp only
    refine TrG.bind (tr_decXDs fuel tis n d1 dep s) ?_
    intro ⟨xs, d2⟩
    exact TrD.pure rfl

end

end Atree.Codec

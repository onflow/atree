import AtreeProofs.Codec.NoPanicG
import AtreeProofs.Codec.BudgetLogic
/-
  The accounting triple for the element decoders of the second part: the leaves (`decodeTypeInfo`,
  `decodeSlabIDStorable`, `decodeIdx`), the opening the three inlined forms share (`tr_inlOpen`), and the
  eleven mutually recursive decoders at once (`trAll`).
-/
namespace Atree.Codec
open DM Atree.Gen

section
variable {B T : Nat}

theorem tr_decodeTypeInfo (d : Dec) (stk : List Frame) (c : Nat) :
    TrD B T (fun r : TyInfo × Dec => r.2) (decodeTypeInfo d) d stk c (next1 stk) := by
  unfold decodeTypeInfo
  refine TrG.nextType ?_
  intro t d1
  dsimp only
  apply TrG.ite <;> intro _
  · refine TrG.tagNumber ?_
    intro n d2
    dsimp only
    apply TrG.ite <;> intro _
    · exact TrG.fail
    · refine TrG.uint64 ?_
      intro v d3
      rw [next1_tag, next1_effStk]
      exact TrD.pure rfl
  · refine TrG.uint64 ?_
    intro v d3
    rw [next1_effStk]
    exact TrD.pure rfl

theorem tr_decodeSlabIDStorable (d : Dec) (stk : List Frame) (c : Nat) :
    TrD B T (fun r : Elem × Dec => r.2) (decodeSlabIDStorable d) d stk c (next1 stk) := by
  unfold decodeSlabIDStorable
  refine TrG.bytes ?_
  intro b d1
  dsimp only
  refine TrG.noalloc (NoAlloc.of_safe (safe_newSlabIDFromRawBytes b)) ?_
  intro id
  exact TrD.pure rfl

theorem tr_decodeIdx (d : Dec) (stk : List Frame) (c : Nat) :
    TrD B T (fun r : Nat × Dec => r.2) (decodeIdx d) d stk c (next1 stk) := by
  unfold decodeIdx
  refine TrG.bytes ?_
  intro b d1
  dsimp only
  apply TrG.ite <;> intro _
  · exact TrG.fail
  · exact TrD.pure rfl

/-- `getXD` does not allocate, and what it returns is an entry of `xs` -/
theorem TrG.getXD {β : Type} {Q : β → Nat → Prop} {xs : List XD} {i : Nat} {f : XD → DM β} {d : Dec}
    {stk : List Frame} {c : Nat} (hf : ∀ x ∈ xs, TrG B T Q (f x) d stk c) :
    TrG B T Q (getXD xs i >>= f) d stk c := by
  unfold Codec.getXD
  by_cases h : i ≥ xs.length
  · rw [if_pos h]
    exact fun n _ hp => hp.le
  · rw [if_neg h, List.getElem?_eq_getElem (Nat.lt_of_not_le h)]
    exact hf _ (List.getElem_mem _)

/-- What the three inlined forms begin with (`tri_inlOpen`): an array head of three, the index of the
    extra-data entry, the entry.  The two items that follow are on the stack, the six units the head
    announced are credit. -/
theorem tr_inlOpen {β : Type} {Q : β → Nat → Prop} {d : Dec} {xs : List XD} {stk : List Frame} {cnt : Nat}
    (hcnt : cnt = 3) {k : XD → Nat × Dec → DM β}
    (hk : ∀ x q, x ∈ xs → TrG B T Q (k x q) q.2 (pushItems 2 (topDepth stk + 1) (next1 stk)) (0 + 2 * 3)) :
    TrG B T Q (DM.liftOpt d.decodeArrayHead >>= fun p => if p.1 ≠ cnt then DM.fail else
        DM.liftOpt p.2.decodeUint64 >>= fun q => getXD xs q.1 >>= fun x => k x q) d stk 0 := by
  subst hcnt
  refine TrG.arrayHead ?_
  intro c d1
  dsimp only
  apply TrG.ite <;> intro hc
  · exact TrG.fail
  · have hc3 : c = 3 := by omega
    subst hc3
    refine TrG.uint64 ?_
    intro i d2
    dsimp only
    rw [next1_pushItems_succ]
    exact TrG.getXD fun x hx => hk x (i, d2) hx

end

/-- the triples of all eleven functions at one fuel value -/
structure TrAll (B T : Nat) (xs : List XD) (fuel : Nat) : Prop where
  st : ∀ depth d addr stk, TrD B T (fun r : Stor × Dec => r.2) (decStG fuel depth d addr xs) d stk 0 (next1 stk)
  sts : ∀ n cdepth d addr size dep s,
    TrD B T (fun r : List Stor × Nat × Dec => r.2.2) (decStsG fuel n cdepth d addr xs size) d (pushItems n dep s) 0 s
  arr : ∀ cdepth d addr stk, TrD B T (fun r : Stor × Dec => r.2) (decInlArr fuel cdepth d addr xs) d stk 0 (next1 stk)
  map : ∀ cdepth d addr stk, TrD B T (fun r : Stor × Dec => r.2) (decInlMap fuel cdepth d addr xs) d stk 0 (next1 stk)
  cmap : ∀ cdepth d addr stk, TrD B T (fun r : Stor × Dec => r.2) (decInlCMap fuel cdepth d addr xs) d stk 0 (next1 stk)
  cvals : ∀ ks cdepth d addr size dep s,
    TrD B T (fun r : List MEl × Nat × Dec => r.2.2) (decCVals fuel ks cdepth d addr xs size) d
      (pushItems ks.length dep s) 0 s
  mels : ∀ cdepth d addr stk, TrD B T (fun r : MEls × Dec => r.2) (decMElsG fuel cdepth d addr xs) d stk 0 (next1 stk)
  sel : ∀ cdepth d addr stk, TrD B T (fun r : SEl × Dec => r.2) (decSElG fuel cdepth d addr xs) d stk 0 (next1 stk)
  sels : ∀ n cdepth d addr size dep s,
    TrD B T (fun r : List SEl × Nat × Dec => r.2.2) (decSElsG fuel n cdepth d addr xs size) d (pushItems n dep s) 0 s
  mel : ∀ cdepth d addr stk, TrD B T (fun r : MEl × Dec => r.2) (decMElG fuel cdepth d addr xs) d stk 0 (next1 stk)
  mellist : ∀ n cdepth d addr size dep s,
    TrD B T (fun r : List MEl × Nat × Dec => r.2.2) (decMElListG fuel n cdepth d addr xs size) d (pushItems n dep s) 0 s

theorem trAll_zero (B T : Nat) (xs : List XD) : TrAll B T xs 0 := by
  refine ⟨?_, ?_, ?_, ?_, ?_, ?_, ?_, ?_, ?_, ?_, ?_⟩
  · intro depth d addr stk; unfold decStG; exact TrG.fail
  · intro n cdepth d addr size dep s
    cases n with
    | zero => unfold decStsG; exact TrD.pure rfl
    | succ n => unfold decStsG; exact TrG.fail
  · intro cdepth d addr stk; unfold decInlArr; exact TrG.fail
  · intro cdepth d addr stk; unfold decInlMap; exact TrG.fail
  · intro cdepth d addr stk; unfold decInlCMap; exact TrG.fail
  · intro ks cdepth d addr size dep s
    cases ks with
    | nil => unfold decCVals; exact TrD.pure rfl
    | cons k ks => unfold decCVals; exact TrG.fail
  · intro cdepth d addr stk; unfold decMElsG; exact TrG.fail
  · intro cdepth d addr stk; unfold decSElG; exact TrG.fail
  · intro n cdepth d addr size dep s
    cases n with
    | zero => unfold decSElsG; exact TrD.pure rfl
    | succ n => unfold decSElsG; exact TrG.fail
  · intro cdepth d addr stk; unfold decMElG; exact TrG.fail
  · intro n cdepth d addr size dep s
    cases n with
    | zero => unfold decMElListG; exact TrD.pure rfl
    | succ n => unfold decMElListG; exact TrG.fail

theorem trAll_succ (B T : Nat) (xs : List XD) (hxs : XDWf xs) (fuel : Nat) (ih : TrAll B T xs fuel) :
    TrAll B T xs (fuel + 1) := by
  obtain ⟨ihSt, ihSts, ihArr, ihMap, ihCMap, ihCVals, ihMEls, ihSEl, ihSEls, ihMEl, ihMElList⟩ := ih
  refine ⟨?_, ?_, ?_, ?_, ?_, ?_, ?_, ?_, ?_, ?_, ?_⟩
  · -- decStG
    intro depth d addr stk
    unfold decStG
    apply TrG.ite <;> intro _
    · exact TrG.fail
    · refine TrG.nextType ?_
      intro ty d1
      dsimp only
      split
      · refine TrG.bytes ?_
        intro b d2
        rw [next1_effStk]
        exact TrD.pure rfl
      · refine TrG.tagNumber ?_
        intro n d2
        dsimp only
        rw [next1_effStk]
        repeat' apply TrG.ite <;> intro _
        · have := ihArr (depth + 1) d2 addr (.tag (if topInTag (effStk stk) then topDepth (effStk stk) + 1 else topDepth (effStk stk)) :: next1 stk)
          rw [next1_tag] at this
          exact this
        · have := ihMap (depth + 1) d2 addr (.tag (if topInTag (effStk stk) then topDepth (effStk stk) + 1 else topDepth (effStk stk)) :: next1 stk)
          rw [next1_tag] at this
          exact this
        · have := ihCMap (depth + 1) d2 addr (.tag (if topInTag (effStk stk) then topDepth (effStk stk) + 1 else topDepth (effStk stk)) :: next1 stk)
          rw [next1_tag] at this
          exact this
        · refine TrG.bind (tr_decodeSlabIDStorable d2 _ 0) ?_
          intro ⟨e, d3⟩
          exact TrD.pure rfl
        · refine TrG.bytes ?_
          intro b d3
          exact TrD.pure rfl
        · have := ihSt (depth + 1) d2 addr (.tag (if topInTag (effStk stk) then topDepth (effStk stk) + 1 else topDepth (effStk stk)) :: next1 stk)
          rw [next1_tag] at this
          refine TrG.bind this ?_
          intro ⟨s, d3⟩
          exact TrD.pure rfl
        · exact TrG.fail
      · exact TrG.fail
  · -- decStsG
    intro n cdepth d addr size dep s
    cases n with
    | zero => unfold decStsG; exact TrD.pure rfl
    | succ n =>
      unfold decStsG
      have h1 := ihSt cdepth d addr (pushItems (n + 1) dep s)
      rw [next1_pushItems_succ] at h1
      refine TrG.bind h1 ?_
      intro ⟨e, d1⟩
      dsimp only
      apply TrG.ite <;> intro _
      · exact TrG.fail
      · refine TrG.bind (ihSts n cdepth d1 addr _ dep s) ?_
        intro ⟨es, sz, d2⟩
        exact TrD.pure rfl
  · -- decInlArr
    intro cdepth d addr stk
    unfold decInlArr
    refine tr_inlOpen rfl fun x q _ => ?_
    obtain ⟨i, d2⟩ := q
    cases x <;> dsimp only <;> try exact TrG.fail
    refine TrG.bind (tr_decodeIdx d2 _ _) ?_
    intro ⟨idx, d3⟩
    dsimp only
    rw [next1_pushItems_succ]
    refine TrG.arrayHead ?_
    intro n d4
    dsimp only
    rw [next1_pushItems_succ]
    simp only [pushItems]
    apply TrG.ite <;> intro _
    · exact TrG.fail
    · refine TrG.alloc (k := n) (by omega) ?_
      refine TrG.weaken (c := 0) ?_ (Nat.zero_le _)
      refine TrG.bind (ihSts n cdepth d4 addr _ _ (next1 stk)) ?_
      intro ⟨es, sz, d5⟩
      exact TrD.pure rfl
  · -- decInlMap
    intro cdepth d addr stk
    unfold decInlMap
    refine tr_inlOpen rfl fun x q _ => ?_
    obtain ⟨i, d2⟩ := q
    cases x <;> dsimp only <;> try exact TrG.fail
    refine TrG.bind (tr_decodeIdx d2 _ _) ?_
    intro ⟨idx, d3⟩
    dsimp only
    rw [next1_pushItems_succ]
    have h1 := ihMEls cdepth d3 addr (pushItems 1 (topDepth stk + 1) (next1 stk))
    rw [next1_pushItems_succ] at h1
    simp only [pushItems] at h1
    refine TrG.bind h1 ?_
    intro ⟨els, d4⟩
    dsimp only
    apply TrG.ite <;> intro _
    · exact TrG.fail
    · exact TrD.pure rfl
  · -- decInlCMap
    intro cdepth d addr stk
    unfold decInlCMap
    refine tr_inlOpen rfl fun x q hx => ?_
    obtain ⟨i, d2⟩ := q
    have hwf := hxs x hx
    cases x <;> dsimp only <;> try exact TrG.fail
    rename_i mx hkeys keys
    simp only [XDWf1] at hwf
    refine TrG.bind (tr_decodeIdx d2 _ _) ?_
    intro ⟨idx, d3⟩
    dsimp only
    rw [next1_pushItems_succ]
    refine TrG.arrayHead ?_
    intro n d4
    dsimp only
    rw [next1_pushItems_succ]
    simp only [pushItems]
    apply TrG.ite <;> intro hn
    · exact TrG.fail
    · have hnk : n = keys.length := by omega
      refine TrG.alloc (k := hkeys.length) (by omega) ?_
      refine TrG.alloc (k := n) (by omega) ?_
      refine TrG.weaken (c := 0) ?_ (Nat.zero_le _)
      have h1 := ihCVals keys cdepth d4 addr hkeyElementsPrefixSize (topDepth (pushItems 1 (topDepth stk + 1) (next1 stk)) + 1) (next1 stk)
      rw [← hnk] at h1
      refine TrG.bind h1 ?_
      intro ⟨es, sz, d5⟩
      dsimp only
      apply TrG.ite <;> intro _
      · exact TrG.fail
      · exact TrD.pure rfl
  · -- decCVals
    intro ks cdepth d addr size dep s
    cases ks with
    | nil => unfold decCVals; exact TrD.pure rfl
    | cons k ks =>
      unfold decCVals
      have h1 := ihSt cdepth d addr (pushItems (ks.length + 1) dep s)
      rw [next1_pushItems_succ] at h1
      refine TrG.bind h1 ?_
      intro ⟨v, d1⟩
      dsimp only
      apply TrG.ite <;> intro _
      · exact TrG.fail
      · apply TrG.ite <;> intro _
        · exact TrG.fail
        · refine TrG.bind (ihCVals ks cdepth d1 addr _ dep s) ?_
          intro ⟨es, sz, d2⟩
          exact TrD.pure rfl
  · -- decMElsG
    intro cdepth d addr stk
    unfold decMElsG
    refine TrG.arrayHead ?_
    intro c d1
    dsimp only
    apply TrG.ite <;> intro hc
    · exact TrG.fail
    · have hc3 : c = 3 := by omega
      subst hc3
      refine TrG.uint64 ?_
      intro level d2
      dsimp only
      rw [next1_pushItems_succ]
      refine TrG.bytes ?_
      intro db d3
      dsimp only
      rw [next1_pushItems_succ]
      apply TrG.ite <;> intro _
      · exact TrG.fail
      · refine TrG.alloc (by simp only [digestSize]; omega) ?_
        refine TrG.arrayHead ?_
        intro ec d4
        dsimp only
        rw [next1_pushItems_succ]
        simp only [pushItems]
        apply TrG.ite <;> intro _
        · exact TrG.fail
        · apply TrG.ite <;> intro _
          · exact TrG.fail
          · apply TrG.ite <;> intro _
            · refine TrG.alloc (k := ec) (by omega) ?_
              refine TrG.weaken (c := 0) ?_ (Nat.zero_le _)
              refine TrG.bind (ihSEls ec cdepth d4 addr _ _ (next1 stk)) ?_
              intro ⟨es, sz, d5⟩
              exact TrD.pure rfl
            · refine TrG.alloc (k := ec) (by omega) ?_
              refine TrG.weaken (c := 0) ?_ (Nat.zero_le _)
              refine TrG.bind (ihMElList ec cdepth d4 addr _ _ (next1 stk)) ?_
              intro ⟨es, sz, d5⟩
              exact TrD.pure rfl
  · -- decSElG
    intro cdepth d addr stk
    unfold decSElG
    refine TrG.arrayHead ?_
    intro c d1
    dsimp only
    apply TrG.ite <;> intro hc
    · exact TrG.fail
    · have hc2 : c = 2 := by omega
      subst hc2
      refine TrG.weaken (c := 0) ?_ (Nat.zero_le _)
      have h1 := ihSt cdepth d1 addr (pushItems 2 (topDepth stk + 1) (next1 stk))
      rw [next1_pushItems_succ] at h1
      refine TrG.bind h1 ?_
      intro ⟨k, d2⟩
      dsimp only
      have h2 := ihSt cdepth d2 addr (pushItems 1 (topDepth stk + 1) (next1 stk))
      rw [next1_pushItems_succ] at h2
      simp only [pushItems] at h2
      refine TrG.bind h2 ?_
      intro ⟨v, d3⟩
      dsimp only
      apply TrG.ite <;> intro _
      · exact TrG.fail
      · exact TrD.pure rfl
  · -- decSElsG
    intro n cdepth d addr size dep s
    cases n with
    | zero => unfold decSElsG; exact TrD.pure rfl
    | succ n =>
      unfold decSElsG
      have h1 := ihSEl cdepth d addr (pushItems (n + 1) dep s)
      rw [next1_pushItems_succ] at h1
      refine TrG.bind h1 ?_
      intro ⟨e, d1⟩
      dsimp only
      apply TrG.ite <;> intro _
      · exact TrG.fail
      · refine TrG.bind (ihSEls n cdepth d1 addr _ dep s) ?_
        intro ⟨es, sz, d2⟩
        exact TrD.pure rfl
  · -- decMElG
    intro cdepth d addr stk
    unfold decMElG
    refine TrG.nextType ?_
    intro ty d1
    dsimp only
    split
    · have h1 := ihSEl cdepth d1 addr (effStk stk)
      rw [next1_effStk] at h1
      refine TrG.bind h1 ?_
      intro ⟨e, d2⟩
      exact TrD.pure rfl
    · refine TrG.tagNumber ?_
      intro n d2
      dsimp only
      rw [next1_effStk]
      apply TrG.ite <;> intro _
      · have h1 := ihMEls cdepth d2 addr (.tag (if topInTag (effStk stk) then topDepth (effStk stk) + 1 else topDepth (effStk stk)) :: next1 stk)
        rw [next1_tag] at h1
        refine TrG.bind h1 ?_
        intro ⟨els, d3⟩
        exact TrD.pure rfl
      · apply TrG.ite <;> intro _
        · have h1 := ihSt cdepth d2 addr (.tag (if topInTag (effStk stk) then topDepth (effStk stk) + 1 else topDepth (effStk stk)) :: next1 stk)
          rw [next1_tag] at h1
          refine TrG.bind h1 ?_
          intro ⟨s, d3⟩
          dsimp only
          split
          · exact TrD.pure rfl
          · exact TrG.fail
        · exact TrG.fail
    · exact TrG.fail
  · -- decMElListG
    intro n cdepth d addr size dep s
    cases n with
    | zero => unfold decMElListG; exact TrD.pure rfl
    | succ n =>
      unfold decMElListG
      have h1 := ihMEl cdepth d addr (pushItems (n + 1) dep s)
      rw [next1_pushItems_succ] at h1
      refine TrG.bind h1 ?_
      intro ⟨e, d1⟩
      dsimp only
      apply TrG.ite <;> intro _
      · exact TrG.fail
      · refine TrG.bind (ihMElList n cdepth d1 addr _ dep s) ?_
        intro ⟨es, sz, d2⟩
        exact TrD.pure rfl

theorem trAll (B T : Nat) (xs : List XD) (hxs : XDWf xs) : ∀ fuel, TrAll B T xs fuel
  | 0 => trAll_zero B T xs
  | fuel + 1 => trAll_succ B T xs hxs fuel (trAll B T xs hxs fuel)

end Atree.Codec

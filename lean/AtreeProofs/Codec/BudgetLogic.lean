import AtreeProofs.Codec.Budget
/-
  A Hoare logic over the accounting invariant `Pre`: `TrD B T proj m d stk c stk'` says that the
  decoder computation `m`, started with the stream decoder `d` in a state `Pre B d stk · c`,
  either fails with the allocation counter at most `B`, or succeeds with a stream decoder (`proj`
  of its result) in the state `Pre B · stk' · 0`.  The stacks are exact: `stk'` is the validator's
  stack after the items `m` consumes.  Nothing is said of a run that panics (`Out` is `True` there):
  that no run does is `np_decodeSlab` (NoPanicG.lean), proved on its own.
-/
namespace Atree.Codec
open DM Atree.Gen

/-- the outcome part: a postcondition on success, the budget on failure -/
def Out {β : Type} (B : Nat) (Q : β → Nat → Prop) : Res β → Prop
  | .ok b n' => Q b n'
  | .error _ n' => n' ≤ B
  | .panic => True

/-- the general triple, with an arbitrary postcondition on success -/
def TrG {β : Type} (B T : Nat) (Q : β → Nat → Prop) (m : DM β) (d : Dec) (stk : List Frame) (c : Nat) : Prop :=
  ∀ n, DecInv T d → Pre B d stk n c → Out B Q (m n)

def TrD {β : Type} (B T : Nat) (proj : β → Dec) (m : DM β) (d : Dec) (stk : List Frame) (c : Nat)
    (stk' : List Frame) : Prop :=
  TrG B T (fun b n' => DecInv T (proj b) ∧ Pre B (proj b) stk' n' 0) m d stk c

/-- `m` does not raise the allocation counter, whether it succeeds or fails -/
def NoAlloc {α : Type} (m : DM α) : Prop :=
  ∀ n, match m n with
       | .ok _ n' => n' ≤ n
       | .error _ n' => n' ≤ n
       | .panic => True

namespace NoAlloc
variable {α β : Type}

theorem pure (a : α) : NoAlloc (Pure.pure a : DM α) := fun _ => Nat.le_refl _
theorem fail (e : DErr) : NoAlloc (DM.fail e : DM α) := fun _ => Nat.le_refl _
theorem panic : NoAlloc (DM.panic : DM α) := fun _ => trivial
theorem liftOpt (o : Option α) : NoAlloc (DM.liftOpt o) := by
  cases o with
  | none => exact fail _
  | some a => exact pure a

/-- in particular what is `Safe` within a budget of 0 -/
theorem of_safe {m : DM α} {P : α → Prop} (h : Safe m 0 P) : NoAlloc m := by
  intro n
  have h1 := h n
  cases hmn : m n with
  | ok a n' => rw [hmn] at h1; exact h1.1
  | error e n' => rw [hmn] at h1; exact h1
  | panic => trivial

theorem bind {m : DM α} {f : α → DM β} (hm : NoAlloc m) (hf : ∀ a, NoAlloc (f a)) : NoAlloc (m >>= f) := by
  intro n
  have h1 := hm n
  show match DM.bind' m f n with
       | .ok _ n' => n' ≤ n
       | .error _ n' => n' ≤ n
       | .panic => True
  unfold DM.bind'
  cases hmn : m n with
  | ok a n' =>
    rw [hmn] at h1
    have h2 := hf a n'
    simp only
    cases hfa : f a n' with
    | ok b n'' => rw [hfa] at h2; exact Nat.le_trans h2 h1
    | error e n'' => rw [hfa] at h2; exact Nat.le_trans h2 h1
    | panic => trivial
  | error e n' => rw [hmn] at h1; exact h1
  | panic => trivial

theorem ite {c : Prop} [Decidable c] {a b : DM α} (ha : NoAlloc a) (hb : NoAlloc b) :
    NoAlloc (if c then a else b) := by
  split
  · exact ha
  · exact hb

theorem sliceTo (data : Bytes) (b : Nat) : NoAlloc (sliceTo data b) := by
  unfold Codec.sliceTo; exact ite (pure _) panic
theorem sliceFrom (data : Bytes) (a : Nat) : NoAlloc (sliceFrom data a) := by
  unfold Codec.sliceFrom; exact ite (pure _) panic
theorem be16 (b : Bytes) : NoAlloc (be16 b) := by
  unfold Codec.be16; exact ite (pure _) panic
theorem be32 (b : Bytes) : NoAlloc (be32 b) := by
  unfold Codec.be32; exact ite (pure _) panic
theorem be64 (b : Bytes) : NoAlloc (be64 b) := by
  unfold Codec.be64; exact ite (pure _) panic

end NoAlloc

namespace TrG
variable {β β1 β2 : Type} {B T : Nat}

theorem fail {Q : β → Nat → Prop} {e : DErr} {d : Dec} {stk : List Frame} {c : Nat} :
    TrG B T Q (DM.fail e : DM β) d stk c := by
  intro n _ h
  exact h.le

theorem weaken {Q : β → Nat → Prop} {m : DM β} {d : Dec} {stk : List Frame} {c c' : Nat}
    (h : TrG B T Q m d stk c) (hc : c ≤ c') : TrG B T Q m d stk c' := by
  intro n hi hp
  exact h n hi (hp.weaken hc)

theorem bind {p1 : β1 → Dec} {Q : β2 → Nat → Prop} {m : DM β1} {f : β1 → DM β2} {d : Dec} {stk s1 : List Frame} {c : Nat}
    (hm : TrD B T p1 m d stk c s1) (hf : ∀ b, TrG B T Q (f b) (p1 b) s1 0) :
    TrG B T Q (m >>= f) d stk c := by
  intro n hi hp
  have h1 := hm n hi hp
  show Out B Q (DM.bind' m f n)
  unfold DM.bind'
  cases hmn : m n with
  | ok a n' =>
    rw [hmn] at h1
    exact hf a n' h1.1 h1.2
  | error e n' => rw [hmn] at h1; exact h1
  | panic => trivial

theorem ite {Q : β → Nat → Prop} {c0 : Prop} [Decidable c0] {a b : DM β} {d : Dec} {stk : List Frame} {c : Nat}
    (ha : c0 → TrG B T Q a d stk c) (hb : ¬ c0 → TrG B T Q b d stk c) :
    TrG B T Q (if c0 then a else b) d stk c := by
  split
  · exact ha ‹_›
  · exact hb ‹_›

theorem alloc {Q : β → Nat → Prop} {f : Unit → DM β} {d : Dec} {stk : List Frame} {c k : Nat} (hk : k ≤ c)
    (hf : TrG B T Q (f ()) d stk (c - k)) : TrG B T Q (DM.alloc k >>= f) d stk c := by
  intro n hi hp
  rw [DM.alloc_bind]
  exact hf (n + k) hi (hp.alloc hk)

theorem noalloc {α : Type} {Q : β → Nat → Prop} {m : DM α} {f : α → DM β} {d : Dec} {stk : List Frame} {c : Nat}
    (hm : NoAlloc m) (hf : ∀ a, TrG B T Q (f a) d stk c) : TrG B T Q (m >>= f) d stk c := by
  intro n hi hp
  have h1 := hm n
  show Out B Q (DM.bind' m f n)
  unfold DM.bind'
  cases hmn : m n with
  | ok a n' =>
    rw [hmn] at h1
    exact hf a n' hi (hp.mono h1)
  | error e n' => rw [hmn] at h1; exact Nat.le_trans h1 hp.le
  | panic => trivial

/-- a call into the CBOR library: it fails within the budget, or the invariants are carried to the decoder it
    returns — at a stack and a credit that may depend on the value — and the continuation goes on from there -/
theorem op {α : Type} {Q : β → Nat → Prop} {o : Option (α × Dec)} {f : α × Dec → DM β} {d : Dec} {stk : List Frame}
    {c : Nat} {stk' : α → List Frame} {c' : α → Nat}
    (ho : ∀ v d' n, o = some (v, d') → DecInv T d → Pre B d stk n c → DecInv T d' ∧ Pre B d' (stk' v) n (c' v))
    (hf : ∀ v d', TrG B T Q (f (v, d')) d' (stk' v) (c' v)) : TrG B T Q (DM.liftOpt o >>= f) d stk c := by
  intro n hi hp
  cases hop : o with
  | none => exact hp.le
  | some r =>
    obtain ⟨h1, h2⟩ := ho r.1 r.2 n hop hi hp
    exact hf r.1 r.2 n h1 h2

theorem head {Q : β → Nat → Prop} {major : Nat} (hm : major = 0 ∨ major = 4 ∨ major = 6) {f : Nat × Dec → DM β}
    {d : Dec} {stk : List Frame} {c : Nat}
    (hf : ∀ v d', TrG B T Q (f (v, d')) d' (headStk major v stk) (c + (if major = 4 then 2 * v else 0))) :
    TrG B T Q (DM.liftOpt (d.decodeHeadOf major) >>= f) d stk c :=
  op (fun _ _ _ hop hi hp => ⟨decodeHeadOf_inv hi hop, (hp.decodeHeadOf hm hop).1⟩) hf

theorem uint64 {Q : β → Nat → Prop} {f : Nat × Dec → DM β} {d : Dec} {stk : List Frame} {c : Nat}
    (hf : ∀ v d', TrG B T Q (f (v, d')) d' (next1 stk) c) :
    TrG B T Q (DM.liftOpt d.decodeUint64 >>= f) d stk c := by
  refine head (major := 0) (Or.inl rfl) ?_
  intro v d'
  simpa [headStk] using hf v d'

theorem arrayHead {Q : β → Nat → Prop} {f : Nat × Dec → DM β} {d : Dec} {stk : List Frame} {c : Nat}
    (hf : ∀ v d', TrG B T Q (f (v, d')) d' (pushItems v (topDepth stk + 1) (next1 stk)) (c + 2 * v)) :
    TrG B T Q (DM.liftOpt d.decodeArrayHead >>= f) d stk c := by
  refine head (major := 4) (Or.inr (Or.inl rfl)) ?_
  intro v d'
  simpa [headStk] using hf v d'

theorem tagNumber {Q : β → Nat → Prop} {f : Nat × Dec → DM β} {d : Dec} {stk : List Frame} {c : Nat}
    (hf : ∀ v d', TrG B T Q (f (v, d')) d'
      (.tag (if topInTag stk then topDepth stk + 1 else topDepth stk) :: next1 stk) c) :
    TrG B T Q (DM.liftOpt d.decodeTagNumber >>= f) d stk c := by
  refine head (major := 6) (Or.inr (Or.inr rfl)) ?_
  intro v d'
  simpa [headStk] using hf v d'

theorem bytes {Q : β → Nat → Prop} {f : Bytes × Dec → DM β} {d : Dec} {stk : List Frame} {c : Nat}
    (hf : ∀ bs d', TrG B T Q (f (bs, d')) d' (next1 stk) (c + 2 * bs.length)) :
    TrG B T Q (DM.liftOpt d.decodeBytes >>= f) d stk c :=
  op (fun _ _ _ hop hi hp => ⟨decodeBytes_inv hi hop, (hp.decodeBytes hop).1⟩) hf

theorem rawBytes {Q : β → Nat → Prop} {f : Bytes × Dec → DM β} {d : Dec} {stk : List Frame} {c : Nat}
    (hf : ∀ raw d', TrG B T Q (f (raw, d')) d' (next1 stk) c) :
    TrG B T Q (DM.liftOpt d.decodeRawBytes >>= f) d stk c :=
  op (fun _ _ _ hop hi hp => ⟨decodeRawBytes_inv hi hop, (hp.decodeRawBytes hop).1⟩) hf

theorem nextType {Q : β → Nat → Prop} {f : CType × Dec → DM β} {d : Dec} {stk : List Frame} {c : Nat}
    (hf : ∀ t d', TrG B T Q (f (t, d')) d' (effStk stk) c) :
    TrG B T Q (DM.liftOpt d.nextType >>= f) d stk c :=
  op (fun _ _ _ hop hi hp => ⟨nextType_inv hi hop, (hp.nextType hop).1⟩) hf

end TrG

namespace TrD
variable {β β1 β2 : Type} {B T : Nat}

theorem pure {proj : β → Dec} {b : β} {d : Dec} {stk : List Frame} {c : Nat} (hp : proj b = d) :
    TrD B T proj (Pure.pure b : DM β) d stk c stk := by
  intro n hi h
  show DecInv T (proj b) ∧ Pre B (proj b) stk n 0
  rw [hp]
  exact ⟨hi, h.weaken (Nat.zero_le _)⟩

theorem head {proj : β → Dec} {major : Nat} (hm : major = 0 ∨ major = 4 ∨ major = 6) {f : Nat × Dec → DM β}
    {d : Dec} {stk stk' : List Frame} {c : Nat}
    (hf : ∀ v d', TrD B T proj (f (v, d')) d' (headStk major v stk) (c + (if major = 4 then 2 * v else 0)) stk') :
    TrD B T proj (DM.liftOpt (d.decodeHeadOf major) >>= f) d stk c stk' := TrG.head hm hf

theorem uint64 {proj : β → Dec} {f : Nat × Dec → DM β} {d : Dec} {stk stk' : List Frame} {c : Nat}
    (hf : ∀ v d', TrD B T proj (f (v, d')) d' (next1 stk) c stk') :
    TrD B T proj (DM.liftOpt d.decodeUint64 >>= f) d stk c stk' := TrG.uint64 hf

end TrD

theorem next1_pushItems_succ (k d : Nat) (s : List Frame) : next1 (pushItems (k + 1) d s) = pushItems k d s := by
  simp only [pushItems, next1, afterItem]
  exact popItem_eq_pushItems k d s

theorem next1_tag (e : Nat) (s : List Frame) : next1 (.tag e :: s) = s := rfl

end Atree.Codec

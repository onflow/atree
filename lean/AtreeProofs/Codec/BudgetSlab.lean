import AtreeProofs.Codec.BudgetExtra
/-
  The allocation bound of the whole second-part decoder: every phase of `decodeSlabGen` starts a
  fresh stream decoder on the bytes the earlier phases left, so with `B = n₀ + 2·|data|` the
  invariant between phases is `n + 2·|bytes left| ≤ B`.
-/
namespace Atree.Codec
open DM Atree.Gen

/-- a phase working on `L` remaining bytes -/
def TrL {α : Type} (B L : Nat) (Q : α → Nat → Prop) (m : DM α) : Prop :=
  ∀ n, n + 2 * L ≤ B → Out B Q (m n)

/-- every outcome is within the budget -/
abbrev LeB {α : Type} (B : Nat) : α → Nat → Prop := fun _ n' => n' ≤ B
/-- the phase hands the bytes it did not read to the next phase -/
abbrev RestQ {α : Type} (B : Nat) (P : α → Prop) : α × Bytes → Nat → Prop :=
  fun r n' => n' + 2 * r.2.length ≤ B ∧ P r.1

namespace TrG
variable {β : Type} {B T : Nat}

theorem pure_le {a : β} {d : Dec} {stk : List Frame} {c : Nat} : TrG B T (LeB B) (Pure.pure a : DM β) d stk c :=
  fun _ _ h => h.le

theorem slice_rest {α : Type} (a : α) (data : Bytes) {d : Dec} {c : Nat} :
    TrG B data.length (RestQ B (fun _ : α => True))
      (sliceFrom data d.numBytesDecoded >>= fun rest => (Pure.pure (a, rest) : DM (α × Bytes))) d [] c := by
  intro n hi hp
  have hle : d.consumed ≤ data.length := hi.consumed_le
  unfold sliceFrom
  simp only [Dec.numBytesDecoded, hle, ↓reduceIte, DM.pure_bind]
  refine ⟨?_, trivial⟩
  have h2 := hp.2
  unfold DecInv at hi
  simp only [pending, List.length_drop] at h2 ⊢
  omega

end TrG

namespace TrL
variable {α β : Type} {B L : Nat}

theorem fail {Q : α → Nat → Prop} {e : DErr} : TrL B L Q (DM.fail e : DM α) := by
  intro n h
  show n ≤ B
  omega

theorem pure_le {a : α} : TrL B L (LeB B) (Pure.pure a : DM α) := by
  intro n h
  show n ≤ B
  omega

theorem mono {Q : α → Nat → Prop} {m : DM α} {L' : Nat} (hL : L' ≤ L) (h : TrL B L' Q m) : TrL B L Q m := by
  intro n hn
  exact h n (by omega)

theorem ite {Q : α → Nat → Prop} {c0 : Prop} [Decidable c0] {a b : DM α}
    (ha : c0 → TrL B L Q a) (hb : ¬ c0 → TrL B L Q b) : TrL B L Q (if c0 then a else b) := by
  split
  · exact ha ‹_›
  · exact hb ‹_›

theorem noalloc {Q : β → Nat → Prop} {m : DM α} {f : α → DM β} (hm : NoAlloc m) (hf : ∀ a, TrL B L Q (f a)) :
    TrL B L Q (m >>= f) := by
  intro n hn
  have h1 := hm n
  show Out B Q (DM.bind' m f n)
  unfold DM.bind'
  cases hmn : m n with
  | ok a n' =>
    rw [hmn] at h1
    exact hf a n' (by omega)
  | error e n' =>
    rw [hmn] at h1
    show n' ≤ B
    omega
  | panic => trivial

theorem sliceFrom {Q : β → Nat → Prop} {data : Bytes} {k : Nat} {f : Bytes → DM β}
    (hf : TrL B (data.drop k).length Q (f (data.drop k))) :
    TrL B data.length Q (sliceFrom data k >>= f) := by
  intro n hn
  unfold Codec.sliceFrom
  by_cases hk : k ≤ data.length
  · simp only [hk, ↓reduceIte, DM.pure_bind]
    refine hf n ?_
    simp only [List.length_drop]
    omega
  · simp only [hk, ↓reduceIte]
    trivial

theorem alloc {Q : β → Nat → Prop} {f : Unit → DM β} {k : Nat} (hk : k ≤ 2 * L) (hf : TrL B 0 Q (f ())) :
    TrL B L Q (DM.alloc k >>= f) := by
  intro n hn
  rw [DM.alloc_bind]
  exact hf (n + k) (by omega)

theorem bind_rest {γ : Type} {P : α → Prop} {Q : γ → Nat → Prop} {m : DM (α × Bytes)} {f : α × Bytes → DM γ}
    (hm : TrL B L (RestQ B P) m) (hf : ∀ a rest, P a → TrL B rest.length Q (f (a, rest))) :
    TrL B L Q (m >>= f) := by
  intro n hn
  have h1 := hm n hn
  show Out B Q (DM.bind' m f n)
  unfold DM.bind'
  cases hmn : m n with
  | ok a n' =>
    rw [hmn] at h1
    obtain ⟨x, rest⟩ := a
    exact hf x rest h1.2 n' h1.1
  | error e n' => rw [hmn] at h1; exact h1
  | panic => trivial

theorem and_post {Q : α → Nat → Prop} {P : α → Prop} {m : DM α} (h : TrL B L Q m) (hp : NP m P) :
    TrL B L (fun a n' => Q a n' ∧ P a) m := by
  intro n hn
  have h1 := h n hn
  have h2 := hp n
  cases hmn : m n with
  | ok a n' => rw [hmn] at h1 h2; exact ⟨h1, h2⟩
  | error e n' => rw [hmn] at h1; exact h1
  | panic => trivial

theorem of_safe {P : α → Prop} {m : DM α} {k : Nat} (h : Safe m k P) (hk : k ≤ 2 * L) : TrL B L (LeB B) m := by
  intro n hn
  have h1 := h n
  cases hmn : m n with
  | ok a n' => rw [hmn] at h1; show n' ≤ B; omega
  | error e n' => rw [hmn] at h1; show n' ≤ B; omega
  | panic => trivial

theorem of_safe_rest {m : DM (α × Bytes)} {data : Bytes} (h : Safe m 0 (fun r => r.2.length ≤ data.length)) :
    TrL B data.length (RestQ B (fun _ : α => True)) m := by
  intro n hn
  have h1 := h n
  cases hmn : m n with
  | ok a n' => rw [hmn] at h1; exact ⟨by omega, trivial⟩
  | error e n' => rw [hmn] at h1; show n' ≤ B; omega
  | panic => trivial

theorem dec_phase {Q : α → Nat → Prop} {m : DM α} {data : Bytes}
    (h : TrG B data.length Q m (Dec.new data) [] 0) : TrL B data.length Q m := by
  intro n hn
  exact h n (DecInv.new data) (Pre.new data hn)

end TrL

variable {B : Nat}

theorem trl_newMapExtraDataFromData (data : Bytes) :
    TrL B data.length (RestQ B (fun _ : MapExtra => True)) (newMapExtraDataFromData data) := by
  unfold newMapExtraDataFromData
  apply TrL.dec_phase
  refine TrG.bind (tr_newMapExtraData [] (Dec.new data) [] 0) ?_
  intro ⟨x, d⟩
  exact TrG.slice_rest x data

theorem trl_newInlinedExtraDataFromData (data : Bytes) :
    TrL B data.length (RestQ B XDWf) (newInlinedExtraDataFromData data) := by
  have h1 : TrL B data.length (RestQ B (fun _ : List XD => True)) (newInlinedExtraDataFromData data) := by
    unfold newInlinedExtraDataFromData
    apply TrL.dec_phase
    refine TrG.arrayHead ?_
    intro count d1
    dsimp only
    apply TrG.ite <;> intro hc
    · exact TrG.fail
    · have hc2 : count = 2 := by simp only [inlinedExtraDataArrayCount] at hc; omega
      subst hc2
      refine TrG.arrayHead ?_
      intro tic d2
      dsimp only
      rw [next1_pushItems_succ]
      apply TrG.ite <;> intro _
      · exact TrG.fail
      · refine TrG.alloc (k := tic) (by omega) ?_
        refine TrG.weaken (c := 0) ?_ (Nat.zero_le _)
        refine TrG.bind (tr_decTypeInfos tic d2 _ _) ?_
        intro ⟨tis, d3⟩
        dsimp only
        refine TrG.arrayHead ?_
        intro xc d4
        dsimp only
        rw [next1_pushItems_succ]
        simp only [pushItems]
        apply TrG.ite <;> intro _
        · exact TrG.fail
        · apply TrG.ite <;> intro _
          · exact TrG.fail
          · refine TrG.alloc (k := xc) (by omega) ?_
            refine TrG.weaken (c := 0) ?_ (Nat.zero_le _)
            refine TrG.bind (tr_decXDs _ tis xc d4 _ (next1 [])) ?_
            intro ⟨xs, d5⟩
            exact TrG.slice_rest xs data
  intro n hn
  have h2 := (h1.and_post ((tri_newInlinedExtraDataFromData (c := True) data).mono id fun _ h => h.2).np) n hn
  cases hmn : newInlinedExtraDataFromData data n with
  | ok a n' => rw [hmn] at h2; exact ⟨h2.1.1, h2.2⟩
  | error e n' => rw [hmn] at h2; exact h2
  | panic => trivial

theorem trl_mapDataContent (id : SlabID) (h : SlabHead) (extra : Option MapExtra) (next : SlabID)
    (xs : List XD) (hxs : XDWf xs) (data : Bytes) :
    TrL B data.length (LeB B) (mapDataContent id h extra next xs data) := by
  unfold mapDataContent
  apply TrL.dec_phase
  refine TrG.bind ((trAll B data.length xs hxs _).mels 0 (Dec.new data) id.addr []) ?_
  intro ⟨els, d1⟩
  dsimp only
  apply TrG.ite <;> intro _
  · exact TrG.fail
  · apply TrG.ite <;> intro _
    · exact TrG.fail
    · exact TrG.pure_le

theorem trl_newMapDataSlabFromDataV0 (id : SlabID) (h : SlabHead) (data : Bytes) :
    TrL B data.length (LeB B) (newMapDataSlabFromDataV0 id h data) := by
  unfold newMapDataSlabFromDataV0
  apply TrL.ite <;> intro _
  · refine TrL.bind_rest (trl_newMapExtraDataFromData data) ?_
    intro x rest _
    dsimp only
    apply TrL.ite <;> intro _
    · exact TrL.fail
    · refine TrL.sliceFrom ?_
      exact trl_mapDataContent id h (some x) SlabID.undef [] xdwf_nil _
  · apply TrL.ite <;> intro _
    · exact TrL.fail
    · refine TrL.noalloc (.of_safe (safe_newSlabIDFromRawBytes data)) ?_
      intro next
      refine TrL.sliceFrom ?_
      exact trl_mapDataContent id h none next [] xdwf_nil _

theorem trl_mapDataV1AfterIED (id : SlabID) (h : SlabHead) (extra : Option MapExtra) (xs : List XD) (hxs : XDWf xs)
    (data : Bytes) : TrL B data.length (LeB B) (mapDataV1AfterIED id h extra xs data) := by
  unfold mapDataV1AfterIED
  apply TrL.ite <;> intro _
  · apply TrL.ite <;> intro _
    · exact TrL.fail
    · refine TrL.noalloc (.of_safe (safe_newSlabIDFromRawBytes data)) ?_
      intro next
      refine TrL.sliceFrom ?_
      exact trl_mapDataContent id h extra next xs hxs _
  · exact trl_mapDataContent id h extra SlabID.undef xs hxs data

theorem trl_mapDataV1AfterExtra (id : SlabID) (h : SlabHead) (extra : Option MapExtra) (data : Bytes) :
    TrL B data.length (LeB B) (mapDataV1AfterExtra id h extra data) := by
  unfold mapDataV1AfterExtra
  apply TrL.ite <;> intro _
  · refine TrL.bind_rest (trl_newInlinedExtraDataFromData data) ?_
    intro xs rest hxs
    exact trl_mapDataV1AfterIED id h extra xs hxs rest
  · exact trl_mapDataV1AfterIED id h extra [] xdwf_nil data

theorem trl_newMapDataSlabFromDataV1 (id : SlabID) (h : SlabHead) (data : Bytes) :
    TrL B data.length (LeB B) (newMapDataSlabFromDataV1 id h data) := by
  unfold newMapDataSlabFromDataV1
  apply TrL.ite <;> intro _
  · refine TrL.bind_rest (trl_newMapExtraDataFromData data) ?_
    intro x rest _
    exact trl_mapDataV1AfterExtra id h (some x) rest
  · exact trl_mapDataV1AfterExtra id h none data

theorem trl_newMapDataSlabFromData (id : SlabID) (data : Bytes) :
    TrL B data.length (LeB B) (newMapDataSlabFromData id data) := by
  unfold newMapDataSlabFromData
  apply TrL.ite <;> intro _
  · exact TrL.fail
  · refine TrL.noalloc (NoAlloc.sliceTo _ _) ?_
    intro hb
    refine TrL.noalloc (.of_safe (safe_newHeadFromData hb)) ?_
    intro h
    apply TrL.ite <;> intro _
    · exact TrL.fail
    · refine TrL.sliceFrom ?_
      apply TrL.ite <;> intro _
      · exact trl_newMapDataSlabFromDataV0 id h _
      · apply TrL.ite <;> intro _
        · exact trl_newMapDataSlabFromDataV1 id h _
        · exact TrL.fail

/-- the part of a map index slab behind its extra data is raw bytes: no panic and the budget in one (`Safe`) -/
theorem trl_mapMetaV0AfterExtra (id : SlabID) (extra : Option MapExtra) (data : Bytes) :
    TrL B data.length (LeB B) (mapMetaV0AfterExtra id extra data) :=
  TrL.of_safe (safe_mapMetaV0AfterExtra id extra data) (by omega)

theorem trl_newMapMetaDataSlabFromDataV0 (id : SlabID) (h : SlabHead) (data : Bytes) :
    TrL B data.length (LeB B) (newMapMetaDataSlabFromDataV0 id h data) := by
  unfold newMapMetaDataSlabFromDataV0
  apply TrL.ite <;> intro _
  · refine TrL.bind_rest (trl_newMapExtraDataFromData data) ?_
    intro x rest _
    dsimp only
    apply TrL.ite <;> intro _
    · exact TrL.fail
    · refine TrL.sliceFrom ?_
      exact trl_mapMetaV0AfterExtra id (some x) _
  · exact trl_mapMetaV0AfterExtra id none data

theorem trl_mapMetaV1AfterExtra (id : SlabID) (extra : Option MapExtra) (data : Bytes) :
    TrL B data.length (LeB B) (mapMetaV1AfterExtra id extra data) :=
  TrL.of_safe (safe_mapMetaV1AfterExtra id extra data) (by omega)

theorem trl_newMapMetaDataSlabFromDataV1 (id : SlabID) (h : SlabHead) (data : Bytes) :
    TrL B data.length (LeB B) (newMapMetaDataSlabFromDataV1 id h data) := by
  unfold newMapMetaDataSlabFromDataV1
  apply TrL.ite <;> intro _
  · refine TrL.bind_rest (trl_newMapExtraDataFromData data) ?_
    intro x rest _
    exact trl_mapMetaV1AfterExtra id (some x) rest
  · exact trl_mapMetaV1AfterExtra id none data

theorem trl_newMapMetaDataSlabFromData (id : SlabID) (data : Bytes) :
    TrL B data.length (LeB B) (newMapMetaDataSlabFromData id data) := by
  unfold newMapMetaDataSlabFromData
  apply TrL.ite <;> intro _
  · exact TrL.fail
  · refine TrL.noalloc (NoAlloc.sliceTo _ _) ?_
    intro hb
    refine TrL.noalloc (.of_safe (safe_newHeadFromData hb)) ?_
    intro h
    apply TrL.ite <;> intro _
    · exact TrL.fail
    · refine TrL.sliceFrom ?_
      apply TrL.ite <;> intro _
      · exact trl_newMapMetaDataSlabFromDataV0 id h _
      · apply TrL.ite <;> intro _
        · exact trl_newMapMetaDataSlabFromDataV1 id h _
        · exact TrL.fail

theorem trl_arrDataContentG (id : SlabID) (isRoot : Bool) (ty : Option TyInfo) (next : SlabID) (checkEOF : Bool)
    (xs : List XD) (hxs : XDWf xs) (data : Bytes) :
    TrL B data.length (LeB B) (arrDataContentG id isRoot ty next checkEOF xs data) := by
  unfold arrDataContentG
  apply TrL.ite <;> intro _
  · exact TrL.fail
  · apply TrL.dec_phase
    refine TrG.arrayHead ?_
    intro ec d1
    dsimp only
    apply TrG.ite <;> intro _
    · exact TrG.fail
    · refine TrG.alloc (k := ec) (by omega) ?_
      refine TrG.weaken (c := 0) ?_ (Nat.zero_le _)
      refine TrG.bind ((trAll B data.length xs hxs _).sts ec 0 d1 id.addr _ _ (next1 [])) ?_
      intro ⟨es, sz, d2⟩
      dsimp only
      apply TrG.ite <;> intro _
      · exact TrG.fail
      · exact TrG.pure_le

theorem trl_newArrayDataSlabFromDataV0G (id : SlabID) (h : SlabHead) (data : Bytes) :
    TrL B data.length (LeB B) (newArrayDataSlabFromDataV0G id h data) := by
  unfold newArrayDataSlabFromDataV0G
  apply TrL.ite <;> intro _
  · refine TrL.bind_rest (TrL.of_safe_rest (safe_newArrayExtraDataFromData data)) ?_
    intro x rest _
    dsimp only
    apply TrL.ite <;> intro _
    · exact TrL.fail
    · refine TrL.sliceFrom ?_
      exact trl_arrDataContentG id true (some x) SlabID.undef false [] xdwf_nil _
  · apply TrL.ite <;> intro _
    · exact TrL.fail
    · refine TrL.noalloc (.of_safe (safe_newSlabIDFromRawBytes data)) ?_
      intro next
      refine TrL.sliceFrom ?_
      exact trl_arrDataContentG id false none next false [] xdwf_nil _

theorem trl_arrDataV1AfterIEDG (id : SlabID) (h : SlabHead) (ty : Option TyInfo) (xs : List XD) (hxs : XDWf xs)
    (data : Bytes) : TrL B data.length (LeB B) (arrDataV1AfterIEDG id h ty xs data) := by
  unfold arrDataV1AfterIEDG
  apply TrL.ite <;> intro _
  · refine TrL.noalloc (.of_safe (safe_newSlabIDFromRawBytes data)) ?_
    intro next
    refine TrL.sliceFrom ?_
    exact trl_arrDataContentG id h.isRoot ty next true xs hxs _
  · exact trl_arrDataContentG id h.isRoot ty SlabID.undef true xs hxs data

theorem trl_arrDataV1AfterExtraG (id : SlabID) (h : SlabHead) (ty : Option TyInfo) (data : Bytes) :
    TrL B data.length (LeB B) (arrDataV1AfterExtraG id h ty data) := by
  unfold arrDataV1AfterExtraG
  apply TrL.ite <;> intro _
  · refine TrL.bind_rest (trl_newInlinedExtraDataFromData data) ?_
    intro xs rest hxs
    exact trl_arrDataV1AfterIEDG id h ty xs hxs rest
  · exact trl_arrDataV1AfterIEDG id h ty [] xdwf_nil data

theorem trl_newArrayDataSlabFromDataV1G (id : SlabID) (h : SlabHead) (data : Bytes) :
    TrL B data.length (LeB B) (newArrayDataSlabFromDataV1G id h data) := by
  unfold newArrayDataSlabFromDataV1G
  apply TrL.ite <;> intro _
  · refine TrL.bind_rest (TrL.of_safe_rest (safe_newArrayExtraDataFromData data)) ?_
    intro x rest _
    exact trl_arrDataV1AfterExtraG id h (some x) rest
  · exact trl_arrDataV1AfterExtraG id h none data

theorem trl_newArrayDataSlabFromDataG (id : SlabID) (data : Bytes) :
    TrL B data.length (LeB B) (newArrayDataSlabFromDataG id data) := by
  unfold newArrayDataSlabFromDataG
  apply TrL.ite <;> intro _
  · exact TrL.fail
  · refine TrL.noalloc (NoAlloc.sliceTo _ _) ?_
    intro hb
    refine TrL.noalloc (.of_safe (safe_newHeadFromData hb)) ?_
    intro h
    apply TrL.ite <;> intro _
    · exact TrL.fail
    · refine TrL.sliceFrom ?_
      apply TrL.ite <;> intro _
      · exact trl_newArrayDataSlabFromDataV0G id h _
      · apply TrL.ite <;> intro _
        · exact trl_newArrayDataSlabFromDataV1G id h _
        · exact TrL.fail

theorem trl_decodeSlabGen (id : SlabID) (data : Bytes) :
    TrL B data.length (LeB B) (decodeSlabGen id data) := by
  unfold decodeSlabGen
  apply TrL.ite <;> intro _
  · exact TrL.fail
  · refine TrL.noalloc (NoAlloc.sliceTo _ _) ?_
    intro hb
    refine TrL.noalloc (.of_safe (safe_newHeadFromData hb)) ?_
    intro h
    split
    · split
      · exact trl_newArrayDataSlabFromDataG id data
      · exact TrL.of_safe (safe_newArrayMetaDataSlabFromData id data) (by omega)
      · exact TrL.fail
    · split
      · exact trl_newMapDataSlabFromData id data
      · exact trl_newMapMetaDataSlabFromData id data
      · exact trl_newMapDataSlabFromData id data
      · exact TrL.fail
    · refine TrL.sliceFrom ?_
      apply TrL.dec_phase
      refine TrG.bind ((trAll B _ [] xdwf_nil _).st 0 (Dec.new _) id.addr []) ?_
      intro ⟨s, d1⟩
      exact TrG.pure_le
    · exact TrL.fail

/-- every `make` of `DecodeSlab` is paid for by input bytes: at most two slots per byte -/
theorem decodeSlab_alloc_le (id : SlabID) (data : Bytes) (n : Nat) :
    match decodeSlab id data n with
    | .ok _ n' => n' ≤ n + 2 * data.length
    | .error _ n' => n' ≤ n + 2 * data.length
    | .panic => True := by
  have hflat := safe_decodeSlabFlat id data n
  have hgen := trl_decodeSlabGen (B := n + 2 * data.length) id data n (Nat.le_refl _)
  unfold decodeSlab
  cases hf : decodeSlabFlat id data n with
  | ok s n' =>
    rw [hf] at hflat
    show n' ≤ _
    omega
  | panic => trivial
  | error e n' =>
    rw [hf] at hflat
    cases e with
    | unsupported =>
      show (match decodeSlabGen id data n with
            | .ok _ n' => n' ≤ n + 2 * data.length
            | .error _ n' => n' ≤ n + 2 * data.length
            | .panic => True)
      cases hg : decodeSlabGen id data n with
      | ok s n2 => rw [hg] at hgen; exact hgen
      | error e2 n2 => rw [hg] at hgen; exact hgen
      | panic => trivial
    | decoding =>
      show n' ≤ _
      omega

end Atree.Codec

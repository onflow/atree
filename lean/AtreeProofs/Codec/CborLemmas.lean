import AtreeModel.Codec.Cbor
/-
  Facts about the CBOR model: what `wfHead` reads (`wfHead_spec`, from which everything about
  heads follows), heads consume input, what the validator does with an accepted item head
  (`wfItemStep_some`: the frames pushed and the bytes skipped are `Head.frames` and `Head.skip` of
  the head), one step of the validator machine as a function of the top frame (`frameStep`, over the
  projections `frameDepth`, `frameInTag`, `Frame.next`, `Frame.indef`, `Frame.refuses` of a frame kind;
  `wfRun_frameStep` is the one place that meets the model's match on the frame), the successful runs of the machine
  without its fuel (`Run`: machine steps until the stack is empty), the
  validator consumes at least one byte per expected item (so an array head of `n` is only accepted
  when at least `n` bytes follow), its fuel is no restriction, and what each stream-decoder
  operation did when it succeeded (`…_some`), from which: they keep `consumed + unread = total`.
-/
namespace Atree.Codec
/-- What `wfHead` returns on `b :: tl`: the major type and additional information are read off
    `b`, and the input left is `tl` without the at most eight argument bytes. -/
theorem wfHead_spec {b : Nat} {tl rest : Bytes} {h : Head} (hh : wfHead (b :: tl) = some (h, rest)) :
    h.t = b / 32 % 8 ∧ h.ai = b % 32 ∧ ∃ k, k ≤ tl.length ∧ rest = tl.drop k := by
  unfold wfHead at hh
  simp only at hh
  by_cases c0 : b % 32 ≤ 23
  · rw [if_pos c0] at hh; cases hh; exact ⟨rfl, rfl, 0, Nat.zero_le _, rfl⟩
  rw [if_neg c0] at hh
  by_cases c1 : b % 32 = 24
  · rw [if_pos c1] at hh
    cases tl with
    | nil => cases hh
    | cons v tl' =>
      simp only at hh
      by_cases c : b / 32 % 8 = 7 ∧ v < 32
      · rw [if_pos c] at hh; cases hh
      · rw [if_neg c] at hh; cases hh; exact ⟨rfl, rfl, 1, Nat.le_add_left _ _, rfl⟩
  rw [if_neg c1] at hh
  by_cases c2 : b % 32 = 25
  · rw [if_pos c2] at hh
    by_cases c : tl.length < 2
    · rw [if_pos c] at hh; cases hh
    · rw [if_neg c] at hh; cases hh; exact ⟨rfl, rfl, 2, by omega, rfl⟩
  rw [if_neg c2] at hh
  by_cases c3 : b % 32 = 26
  · rw [if_pos c3] at hh
    by_cases c : tl.length < 4
    · rw [if_pos c] at hh; cases hh
    · rw [if_neg c] at hh; cases hh; exact ⟨rfl, rfl, 4, by omega, rfl⟩
  rw [if_neg c3] at hh
  by_cases c4 : b % 32 = 27
  · rw [if_pos c4] at hh
    by_cases c : tl.length < 8
    · rw [if_pos c] at hh; cases hh
    · rw [if_neg c] at hh; cases hh; exact ⟨rfl, rfl, 8, by omega, rfl⟩
  rw [if_neg c4] at hh
  by_cases c5 : b % 32 = 31
  · rw [if_pos c5] at hh
    by_cases c : b / 32 % 8 = 0 ∨ b / 32 % 8 = 1 ∨ b / 32 % 8 = 6 ∨ b / 32 % 8 = 7
    · rw [if_pos c] at hh; cases hh
    · rw [if_neg c] at hh; cases hh; exact ⟨rfl, rfl, 0, Nat.zero_le _, rfl⟩
  rw [if_neg c5] at hh
  cases hh
theorem wfHead_length {data rest : Bytes} {h : Head} (hh : wfHead data = some (h, rest)) :
    rest.length < data.length := by
  cases data with
  | nil => cases hh
  | cons b tl =>
    obtain ⟨-, -, k, -, rfl⟩ := wfHead_spec hh
    simp only [List.length_cons, List.length_drop]; omega

/-- The items the validator still expects with the stack `stk`, a lower bound on the bytes it will read: a
    frame `items n` stands for the item being read and `n` more after it, every other frame for one item
    (an indefinite-length container needs at least its break byte). -/
def pending : List Frame → Nat
  | [] => 0
  | .items n _ :: stk => n + 1 + pending stk
  | .indefArr _ _ :: stk => 1 + pending stk
  | .indefMap _ _ :: stk => 1 + pending stk
  | .indefStr _ _ :: stk => 1 + pending stk
  | .tag _ :: stk => 1 + pending stk

theorem pending_pushItems (c d : Nat) (stk : List Frame) :
    pending (pushItems c d stk) = c + pending stk := by
  cases c <;> simp [pushItems, pending] <;> omega

theorem pending_append (a b : List Frame) : pending (a ++ b) = pending a + pending b := by
  induction a with
  | nil => simp only [List.nil_append, pending, Nat.zero_add]
  | cons f a ih => cases f <;> simp only [List.cons_append, pending, ih] <;> omega

/-- `wfItemStep` without the stack: the frames pushed and the input left -/
def stepNew (depth : Nat) (inTag : Bool) (data : Bytes) : Option (List Frame × Bytes) :=
  wfItemStep depth inTag [] data

theorem pushItems_append (c d : Nat) (stk : List Frame) : pushItems c d stk = pushItems c d [] ++ stk := by
  cases c <;> rfl

theorem popItem_eq_pushItems (n d : Nat) (stk : List Frame) : popItem n d stk = pushItems n d stk := by
  cases n <;> rfl

theorem wfItemStep_eq (depth : Nat) (inTag : Bool) (stk : List Frame) (data : Bytes) :
    wfItemStep depth inTag stk data = (stepNew depth inTag data).map (fun p => (p.1 ++ stk, p.2)) := by
  unfold stepNew wfItemStep
  cases wfHead data with
  | none => rfl
  | some p =>
    simp only [apply_ite (Option.map fun p : List Frame × Bytes => (p.1 ++ stk, p.2)), Option.map_none,
      Option.map_some, List.nil_append, List.cons_append, ← pushItems_append]

/-- the frames the validator pushes for an item that starts with the head `h`, read at depth `d` -/
def Head.frames (h : Head) (d : Nat) (inTag : Bool) : List Frame :=
  if h.t = 2 ∨ h.t = 3 then (if h.ai = 31 then [.indefStr h.t d] else [])
  else if h.t = 4 ∨ h.t = 5 then
    if h.ai = 31 then [if h.t = 4 then .indefArr 0 (d + 1) else .indefMap 0 (d + 1)]
    else pushItems (if h.t = 4 then h.val else 2 * h.val) (d + 1) []
  else if h.t = 6 then [.tag (if inTag then d + 1 else d)]
  else []

/-- the content bytes the validator skips together with the head: those of a definite-length string -/
def Head.skip (h : Head) : Nat := if (h.t = 2 ∨ h.t = 3) ∧ h.ai ≠ 31 then h.val else 0

/-- What an accepted item head pushes and how much input it takes are functions of the head alone
    (`Head.frames`, `Head.skip`); the depth and the bounds decide only whether it is accepted. -/
theorem wfItemStep_some {d : Nat} {inTag : Bool} {stk stk' : List Frame} {data rest' : Bytes}
    (h : wfItemStep d inTag stk data = some (stk', rest')) :
    ∃ hd rest, wfHead data = some (hd, rest) ∧ stk' = hd.frames d inTag ++ stk ∧ rest' = rest.drop hd.skip := by
  unfold wfItemStep at h
  cases hwf : wfHead data with
  | none => rw [hwf] at h; cases h
  | some p =>
    obtain ⟨hd, rest⟩ := p
    rw [hwf] at h
    refine ⟨hd, rest, rfl, ?_⟩
    unfold Head.frames Head.skip
    simp only at h
    by_cases c23 : hd.t = 2 ∨ hd.t = 3
    · rw [if_pos c23] at h ⊢
      by_cases ci : hd.ai = 31
      · rw [if_pos ci] at h; cases h
        rw [if_pos ci, if_neg (fun hc : (hd.t = 2 ∨ hd.t = 3) ∧ hd.ai ≠ 31 => hc.2 ci)]; exact ⟨rfl, rfl⟩
      rw [if_neg ci] at h
      by_cases cv : hd.val ≥ 2 ^ 63
      · rw [if_pos cv] at h; cases h
      rw [if_neg cv] at h
      by_cases cl : rest.length < hd.val
      · rw [if_pos cl] at h; cases h
      · rw [if_neg cl] at h; cases h
        rw [if_neg ci, if_pos ⟨c23, ci⟩]; exact ⟨rfl, rfl⟩
    rw [if_neg c23] at h ⊢
    rw [if_neg (fun hc : (hd.t = 2 ∨ hd.t = 3) ∧ hd.ai ≠ 31 => c23 hc.1), List.drop_zero]
    by_cases c45 : hd.t = 4 ∨ hd.t = 5
    · rw [if_pos c45] at h ⊢
      by_cases cd : d + 1 > maxNestedLevels
      · rw [if_pos cd] at h; cases h
      rw [if_neg cd] at h
      by_cases ci : hd.ai = 31
      · rw [if_pos ci] at h ⊢; cases h; exact ⟨rfl, rfl⟩
      rw [if_neg ci] at h ⊢
      by_cases cv : hd.val ≥ 2 ^ 63
      · rw [if_pos cv] at h; cases h
      rw [if_neg cv] at h
      by_cases c4 : hd.t = 4
      · rw [if_pos c4] at h ⊢
        by_cases cm : hd.val > maxArrayElements
        · rw [if_pos cm] at h; cases h
        · rw [if_neg cm] at h; cases h; exact ⟨pushItems_append _ _ _, rfl⟩
      · rw [if_neg c4] at h ⊢
        by_cases cm : hd.val > maxMapPairs
        · rw [if_pos cm] at h; cases h
        · rw [if_neg cm] at h; cases h; exact ⟨pushItems_append _ _ _, rfl⟩
    rw [if_neg c45] at h ⊢
    by_cases c6 : hd.t = 6
    · rw [if_pos c6] at h ⊢
      by_cases ct : inTag = true
      · rw [if_pos ct] at h ⊢
        by_cases cd : d + 1 > maxNestedLevels
        · rw [if_pos cd] at h; cases h
        · rw [if_neg cd] at h; cases h; exact ⟨rfl, rfl⟩
      · rw [if_neg ct] at h ⊢; cases h; exact ⟨rfl, rfl⟩
    · rw [if_neg c6] at h ⊢; cases h; exact ⟨rfl, rfl⟩

/-- frames at which the validator expects one data item -/
inductive ItemFrame : Frame → Prop where
  | items (n d : Nat) : ItemFrame (.items n d)
  | tag (d : Nat) : ItemFrame (.tag d)

def frameDepth : Frame → Nat
  | .items _ d => d
  | .tag d => d
  | .indefArr _ d => d
  | .indefMap _ d => d
  | .indefStr _ d => d

def frameInTag : Frame → Bool
  | .tag _ => true
  | _ => false

/-- the stack once the item the frame stands for has been started -/
def afterItem : Frame → List Frame → List Frame
  | .items n d, stk => popItem n d stk
  | _, stk => stk

theorem wfRun_item_step {f : Frame} (hf : ItemFrame f) (stk : List Frame) (fuel : Nat) (b : Nat) (tl : Bytes) :
    wfRun (fuel + 1) (f :: stk) (b :: tl) =
      match wfItemStep (frameDepth f) (frameInTag f) (afterItem f stk) (b :: tl) with
      | none => none
      | some (stk', rest') => wfRun fuel stk' rest' := by
  cases hf with
  | items n d => rfl
  | tag d => rfl

theorem Head.skip_string {h : Head} (ht : h.t = 2 ∨ h.t = 3) (hai : h.ai ≠ 31) : h.skip = h.val := if_pos ⟨ht, hai⟩

theorem Head.skip_other {h : Head} (ht : ¬ (h.t = 2 ∨ h.t = 3)) : h.skip = 0 := if_neg fun hc => ht hc.1

theorem Head.frames_string {h : Head} (ht : h.t = 2 ∨ h.t = 3) (hai : h.ai ≠ 31) (d : Nat) (inTag : Bool) :
    h.frames d inTag = [] := by
  rw [Head.frames, if_pos ht, if_neg hai]

theorem Head.frames_uint {h : Head} (ht : h.t = 0) (d : Nat) (inTag : Bool) : h.frames d inTag = [] := by
  rw [Head.frames, if_neg (by omega), if_neg (by omega), if_neg (by omega)]

theorem Head.frames_array {h : Head} (ht : h.t = 4) (hai : h.ai ≠ 31) (d : Nat) (inTag : Bool) :
    h.frames d inTag = pushItems h.val (d + 1) [] := by
  rw [Head.frames, if_neg (by omega), if_pos (Or.inl ht), if_neg hai, if_pos ht]

theorem Head.frames_tag {h : Head} (ht : h.t = 6) (d : Nat) (inTag : Bool) :
    h.frames d inTag = [.tag (if inTag then d + 1 else d)] := by
  rw [Head.frames, if_neg (by omega), if_neg (by omega), if_pos ht]

theorem stepNew_length {d : Nat} {inTag : Bool} {data : Bytes} {p : List Frame × Bytes}
    (h : stepNew d inTag data = some p) : p.2.length < data.length := by
  obtain ⟨hd, rest, hwf, -, h2⟩ := wfItemStep_some (stk' := p.1) (rest' := p.2) h
  have hl := wfHead_length hwf
  rw [h2, List.length_drop]
  omega

/-- what stays on the stack for the frame once one more of its items has been started -/
def Frame.next : Frame → List Frame
  | .items n d => pushItems n d []
  | .tag _ => []
  | .indefArr i d => [.indefArr (i + 1) d]
  | .indefMap i d => [.indefMap (i + 1) d]
  | .indefStr t d => [.indefStr t d]

/-- an indefinite-length frame: a break byte ends it -/
def Frame.indef : Frame → Bool
  | .items _ _ => false
  | .tag _ => false
  | _ => true

/-- the frame refuses to go on at the byte `b`, whatever item `b` starts: the bounds on indefinite-length
    arrays and maps, a break after a key without a value, a chunk of the wrong kind -/
def Frame.refuses : Frame → Nat → Bool
  | .items _ _, _ => false
  | .tag _, _ => false
  | .indefArr i _, b => b ≠ 255 ∧ i + 1 > maxArrayElements
  | .indefMap i _, b => if b = 255 then i % 2 = 1 else (i + 1) % 2 = 0 ∧ (i + 1) / 2 > maxMapPairs
  | .indefStr t _, b => b ≠ 255 ∧ (b / 32 % 8 ≠ t ∨ b % 32 = 31)

/-- the effect of one machine step on the top frame: the frames that replace it, the input left -/
def frameStep (f : Frame) (data : Bytes) : Option (List Frame × Bytes) :=
  match data with
  | [] => none
  | b :: rest =>
    if f.refuses b then none
    else if b = 255 ∧ f.indef then some ([], rest)
    else (stepNew (frameDepth f) (frameInTag f) data).map (fun p => (p.1 ++ f.next, p.2))

theorem wfRun_frameStep (fuel : Nat) (f : Frame) (stk : List Frame) (data : Bytes) :
    wfRun (fuel + 1) (f :: stk) data =
      match frameStep f data with
      | none => none
      | some (top, r) => wfRun fuel (top ++ stk) r := by
  cases data with
  | nil => simp [wfRun, frameStep]
  | cons b rest =>
    -- the item step below the frames `tail` that stay for `f`
    have key : ∀ (d : Nat) (t : Bool) (tail : List Frame),
        (match wfItemStep d t (tail ++ stk) (b :: rest) with
          | none => none
          | some (stk', rest') => wfRun fuel stk' rest') =
        match (stepNew d t (b :: rest)).map (fun p => (p.1 ++ tail, p.2)) with
          | none => none
          | some (top, r) => wfRun fuel (top ++ stk) r := by
      intro d t tail
      rw [wfItemStep_eq]
      cases stepNew d t (b :: rest) with
      | none => rfl
      | some p => simp only [Option.map_some, List.append_assoc]
    cases f with
    | items n depth =>
      simp only [wfRun, frameStep, Frame.indef, Frame.refuses, Bool.false_eq_true, and_false, ↓reduceIte, Frame.next,
        frameDepth, frameInTag]
      rw [popItem_eq_pushItems, pushItems_append]; exact key _ _ _
    | tag depth =>
      simp only [wfRun, frameStep, Frame.indef, Frame.refuses, Bool.false_eq_true, and_false, ↓reduceIte, Frame.next,
        frameDepth, frameInTag]
      exact key _ _ []
    | indefArr i depth =>
      simp only [wfRun, frameStep, Frame.indef, Frame.refuses, Frame.next, frameDepth, frameInTag, decide_eq_true_eq, and_true]
      by_cases hb : b = 255
      · simp only [hb, ne_eq, not_true_eq_false, false_and, ↓reduceIte, List.nil_append]
      · simp only [hb, ne_eq, not_false_eq_true, true_and, ↓reduceIte]
        split
        · rfl
        · exact key _ _ [_]
    | indefMap i depth =>
      simp only [wfRun, frameStep, Frame.indef, Frame.refuses, Frame.next, frameDepth, frameInTag, and_true]
      by_cases hb : b = 255
      · by_cases ho : i % 2 = 1
        · simp only [hb, ho, ↓reduceIte, decide_true]
        · simp only [hb, ho, ↓reduceIte, decide_false, Bool.false_eq_true, List.nil_append]
      · by_cases hm : (i + 1) % 2 = 0 ∧ (i + 1) / 2 > maxMapPairs
        · simp only [hb, hm, and_self, ↓reduceIte, decide_true]
        · simp only [hb, hm, ↓reduceIte, decide_false, Bool.false_eq_true]
          exact key _ _ [_]
    | indefStr t depth =>
      simp only [wfRun, frameStep, Frame.indef, Frame.refuses, Frame.next, frameDepth, frameInTag, decide_eq_true_eq, and_true]
      by_cases hb : b = 255
      · simp only [hb, ne_eq, not_true_eq_false, false_and, ↓reduceIte, List.nil_append]
      · simp only [hb, ne_eq, not_false_eq_true, true_and, ↓reduceIte]
        by_cases h1 : b / 32 % 8 = t
        · by_cases h2 : b % 32 = 31
          · simp only [h1, h2, or_true, ↓reduceIte, not_true_eq_false]
          · simp only [h1, h2, or_self, ↓reduceIte, not_true_eq_false]
            exact key _ _ [_]
        · simp only [h1, not_false_eq_true, true_or, ↓reduceIte]

/-- at an item frame the machine step is the item step, with what is left of the frame below what the head pushes -/
theorem frameStep_item {f : Frame} (hf : ItemFrame f) (data : Bytes) :
    frameStep f data = (stepNew (frameDepth f) (frameInTag f) data).map (fun p => (p.1 ++ afterItem f [], p.2)) := by
  cases data with
  | nil => cases hf <;> rfl
  | cons b tl =>
    cases hf <;> simp only [frameStep, Frame.refuses, Frame.indef, Bool.false_eq_true, and_false, ↓reduceIte] <;> rfl

theorem afterItem_append {f : Frame} (hf : ItemFrame f) (s : List Frame) : afterItem f [] ++ s = afterItem f s := by
  cases hf with
  | items n d => rw [afterItem, afterItem, popItem_eq_pushItems, popItem_eq_pushItems, ← pushItems_append]
  | tag d => rfl

theorem Frame.pending_next (f : Frame) : pending [f] ≤ pending f.next + 1 := by
  cases f with
  | items n d => rw [Frame.next, pending_pushItems]; simp only [pending]; omega
  | _ => simp only [Frame.next, pending]; omega

/-- A machine step reads at least one byte and takes at most one item off the count. -/
theorem frameStep_spec {f : Frame} {data r : Bytes} {top : List Frame} (h : frameStep f data = some (top, r)) :
    pending [f] + r.length ≤ pending top + data.length ∧ r.length < data.length := by
  cases data with
  | nil => cases h
  | cons b rest =>
    simp only [frameStep] at h
    split at h
    · cases h
    · split at h
      · rename_i hi
        cases h
        -- an indefinite-length frame stands for one item
        have : pending [f] = 1 := by
          cases f <;> first | (simp [Frame.indef] at hi; done) | rfl
        simp only [this, pending, List.length_cons]; omega
      · cases hs : stepNew (frameDepth f) (frameInTag f) (b :: rest) with
        | none => rw [hs] at h; cases h
        | some p =>
          rw [hs] at h; cases h
          have := stepNew_length hs
          have := f.pending_next
          rw [pending_append]; omega

theorem wfRun_nil (fuel : Nat) (data : Bytes) : wfRun fuel [] data = some data := by
  cases fuel <;> rfl

/-- A successful run of the validator machine without its fuel: machine steps until the stack is empty;
    `out` is the input left. -/
inductive Run : List Frame → Bytes → Bytes → Prop where
  | nil (data : Bytes) : Run [] data data
  | step {f : Frame} {stk top : List Frame} {data r out : Bytes} :
      frameStep f data = some (top, r) → Run (top ++ stk) r out → Run (f :: stk) data out

theorem Run.of_wfRun : ∀ {fuel : Nat} {stk : List Frame} {data out : Bytes},
    wfRun fuel stk data = some out → Run stk data out := by
  intro fuel
  induction fuel with
  | zero =>
    intro stk data out h
    cases stk with
    | nil => cases h; exact .nil _
    | cons f stk => cases h
  | succ fuel ih =>
    intro stk data out h
    cases stk with
    | nil => cases h; exact .nil _
    | cons f stk =>
      rw [wfRun_frameStep] at h
      cases hs : frameStep f data with
      | none => rw [hs] at h; cases h
      | some p => rw [hs] at h; exact .step hs (ih h)

/-- A run is found with any fuel that is at least the length of the input: every step reads a byte. -/
theorem Run.wfRun {stk : List Frame} {data out : Bytes} (h : Run stk data out) :
    ∀ {fuel : Nat}, data.length ≤ fuel → wfRun fuel stk data = some out := by
  induction h with
  | nil data => intro fuel _; exact wfRun_nil _ _
  | @step f stk top data r out hs _ ih =>
    intro fuel hf
    have hlt := (frameStep_spec hs).2
    obtain ⟨fuel, rfl⟩ : ∃ k, fuel = k + 1 := ⟨fuel - 1, by omega⟩
    rw [wfRun_frameStep, hs]
    exact ih (by omega)

/-- The validator needs at least one byte for each item it still expects. -/
theorem Run.pending {stk : List Frame} {data out : Bytes} (h : Run stk data out) :
    pending stk + out.length ≤ data.length := by
  induction h with
  | nil data => simp only [Codec.pending, Nat.zero_add, Nat.le_refl]
  | @step f stk top data r out hs _ ih =>
    have h2 := (frameStep_spec hs).1
    have h3 : Codec.pending (f :: stk) = Codec.pending [f] + Codec.pending stk := pending_append [f] stk
    rw [pending_append] at ih
    omega

theorem wfRun_pending (fuel : Nat) (stk : List Frame) (data rest : Bytes) (h : wfRun fuel stk data = some rest) :
    pending stk + rest.length ≤ data.length := (Run.of_wfRun h).pending

/-- the first step of a run at an item frame -/
theorem Run.item_step {f : Frame} (hf : ItemFrame f) {s : List Frame} {data out : Bytes} (h : Run (f :: s) data out) :
    ∃ n r, stepNew (frameDepth f) (frameInTag f) data = some (n, r) ∧ Run (n ++ afterItem f s) r out := by
  cases h with
  | step hs h =>
    rw [frameStep_item hf] at hs
    obtain ⟨p, hp, he⟩ := Option.map_eq_some_iff.1 hs
    cases he
    exact ⟨p.1, p.2, hp, by rw [← afterItem_append hf, ← List.append_assoc]; exact h⟩

theorem wfNext_length {data rest : Bytes} (h : wfNext data = some rest) : rest.length < data.length := by
  have := wfRun_pending _ _ _ _ h
  simp [pending] at this
  omega

/-- bookkeeping invariant of `Dec` over an input of `total` bytes -/
def DecInv (total : Nat) (d : Dec) : Prop := d.consumed + d.data.length = total

theorem DecInv.new (data : Bytes) : DecInv data.length (Dec.new data) := by
  simp [DecInv, Dec.new]

theorem Dec.inv_self (d : Dec) : DecInv (d.consumed + d.data.length) d := rfl

theorem DecInv.consumed_le {t : Nat} {d : Dec} (h : DecInv t d) : d.consumed ≤ t := by
  unfold DecInv at h; omega

theorem DecInv.len_le {t : Nat} {d : Dec} (h : DecInv t d) : d.data.length ≤ t := by
  unfold DecInv at h; omega

theorem prepareNext_data {d d' : Dec} (h : d.prepareNext = some d') :
    d'.data = d.data ∧ d'.consumed = d.consumed := by
  unfold Dec.prepareNext at h
  repeat' split at h
  all_goals first
    | (simp at h; done)
    | (simp at h; subst h; exact ⟨rfl, rfl⟩)

theorem prepareNext_inv {t : Nat} {d d' : Dec} (hi : DecInv t d) (h : d.prepareNext = some d') :
    DecInv t d' := by
  have := prepareNext_data h
  unfold DecInv at *; rw [this.1, this.2]; exact hi

theorem prepareNext_pos {d : Dec} (h : 0 < d.remaining) : d.prepareNext = some d := by
  unfold Dec.prepareNext; rw [if_pos h]

theorem nextType_pos {d : Dec} (h : 0 < d.remaining) {b : Nat} {tl : Bytes} (hd : d.data = b :: tl) :
    d.nextType = some (ctypeOf b, d) := by
  unfold Dec.nextType; rw [prepareNext_pos h]; simp only; rw [hd]

/-- the first operation on a fresh decoder validates the first item -/
theorem prepareNext_new {data rest : Bytes} (hw : wfNext data = some rest) :
    (Dec.new data).prepareNext = some { data := data, remaining := data.length - rest.length, consumed := 0 } := by
  unfold Dec.prepareNext Dec.new
  simp only [Nat.lt_irrefl, ↓reduceIte, gt_iff_lt, hw]

theorem prepareNext_new_some {data : Bytes} {d1 : Dec} (hp : (Dec.new data).prepareNext = some d1) :
    ∃ rest, wfNext data = some rest := by
  unfold Dec.prepareNext Dec.new at hp
  simp only [Nat.lt_irrefl, ↓reduceIte, gt_iff_lt] at hp
  cases hw : wfNext data with
  | none => rw [hw] at hp; cases hp
  | some rest => exact ⟨rest, rfl⟩

/-- `DecodeUint64`, `DecodeTagNumber`, `DecodeArrayHead` on a decoder are the operation on the prepared decoder -/
theorem decodeHeadOf_prepared {d d1 : Dec} (hp : d.prepareNext = some d1) (hpos : 0 < d1.remaining) (major : Nat) :
    d.decodeHeadOf major = d1.decodeHeadOf major := by
  unfold Dec.decodeHeadOf
  rw [hp, prepareNext_pos hpos]

theorem decodeHeadOf_new {major : Nat} {data rest' : Bytes} (hw : wfNext data = some rest') :
    Dec.decodeHeadOf major (Dec.new data)
      = Dec.decodeHeadOf major { data := data, remaining := data.length - rest'.length, consumed := 0 } := by
  have hlt := wfNext_length hw
  exact decodeHeadOf_prepared (prepareNext_new hw) (show 0 < data.length - rest'.length by omega) major

theorem nextType_new {data rest' : Bytes} (hw : wfNext data = some rest') :
    (Dec.new data).nextType
      = ({ data := data, remaining := data.length - rest'.length, consumed := 0 } : Dec).nextType := by
  have hlt := wfNext_length hw
  unfold Dec.nextType
  rw [prepareNext_new hw, prepareNext_pos (show 0 < data.length - rest'.length by omega)]

/-- a fresh stream decoder on data whose first item the validator rejects: every `Decode*` fails -/
theorem decodeHeadOf_new_none {major : Nat} {data : Bytes} (hw : wfNext data = none) :
    Dec.decodeHeadOf major (Dec.new data) = none := by
  unfold Dec.decodeHeadOf Dec.prepareNext Dec.new
  simp only [Nat.lt_irrefl, ↓reduceIte, gt_iff_lt, hw]

/-- what `advance` did when it succeeded -/
theorem advance_some {d d' : Dec} {rest : Bytes} (h : d.advance rest = some d') :
    d.data.length - rest.length ≤ d.remaining ∧
      d' = { data := rest, remaining := d.remaining - (d.data.length - rest.length),
             consumed := d.consumed + (d.data.length - rest.length) } := by
  unfold Dec.advance at h
  simp only at h
  split at h
  · cases h
  · cases h; exact ⟨by omega, rfl⟩

theorem advance_inv {t : Nat} {d d' : Dec} {rest : Bytes} (hi : DecInv t d)
    (hr : rest.length ≤ d.data.length) (h : d.advance rest = some d') :
    DecInv t d' ∧ d'.data = rest ∧ d'.consumed = d.consumed + (d.data.length - rest.length) := by
  obtain ⟨_, rfl⟩ := advance_some h
  exact ⟨by unfold DecInv at *; simp only; omega, rfl, rfl⟩

/-- what `NextType` did when it succeeded: the decoder is the prepared one, and the type is that of its first byte -/
theorem nextType_some {d d' : Dec} {c : CType} (h : d.nextType = some (c, d')) :
    d.prepareNext = some d' ∧ ∃ b tl, d'.data = b :: tl ∧ c = ctypeOf b := by
  unfold Dec.nextType at h
  cases hp : d.prepareNext with
  | none => rw [hp] at h; cases h
  | some d1 =>
    rw [hp] at h
    simp only at h
    cases hd : d1.data with
    | nil => rw [hd] at h; cases h
    | cons b tl => rw [hd] at h; cases h; exact ⟨rfl, b, tl, hd, rfl⟩

theorem nextType_inv {t : Nat} {d d' : Dec} {c : CType} (hi : DecInv t d)
    (h : d.nextType = some (c, d')) : DecInv t d' := prepareNext_inv hi (nextType_some h).1

theorem nextType_data {d d' : Dec} {c : CType} (h : d.nextType = some (c, d')) : d'.data = d.data :=
  (prepareNext_data (nextType_some h).1).1

/-- What the operations that read a head have in common: prepare, look at the first byte for the major type, read
    the head, refuse an indefinite length; `K` is what the operation does with the head. -/
theorem headThen_some {β : Type} {major : Nat} {d : Dec} {K : Dec → Head → Bytes → Option β} {r : β}
    (h : (match d.prepareNext with
          | none => none
          | some d =>
            match d.data with
            | [] => none
            | b :: _ =>
              if b / 32 % 8 ≠ major then none
              else
                match wfHead d.data with
                | none => none
                | some (h, rest) => if h.ai = 31 then none else K d h rest) = some r) :
    ∃ d1 hh rest, d.prepareNext = some d1 ∧ wfHead d1.data = some (hh, rest) ∧ hh.t = major ∧ hh.ai ≠ 31 ∧
      K d1 hh rest = some r := by
  cases hp : d.prepareNext with
  | none => rw [hp] at h; cases h
  | some d1 =>
    rw [hp] at h
    simp only at h
    cases hd : d1.data with
    | nil => rw [hd] at h; cases h
    | cons b tl =>
      rw [hd] at h
      simp only at h
      split at h
      · cases h
      · rename_i hb
        cases hwf : wfHead (b :: tl) with
        | none => rw [hwf] at h; cases h
        | some p =>
          rw [hwf] at h
          simp only at h
          split at h
          · cases h
          · rename_i hai
            exact ⟨d1, p.1, p.2, rfl, by rw [hd]; exact hwf, by rw [(wfHead_spec hwf).1]; omega, hai, h⟩

/-- what `DecodeUint64`, `DecodeTagNumber`, `DecodeArrayHead` did when they succeeded: a definite head of the
    wanted major type, and the decoder moved behind it -/
theorem decodeHeadOf_some {major v : Nat} {d d' : Dec} (h : d.decodeHeadOf major = some (v, d')) :
    ∃ d1 hh rest, d.prepareNext = some d1 ∧ wfHead d1.data = some (hh, rest) ∧ hh.t = major ∧ hh.ai ≠ 31 ∧
      hh.val = v ∧ d1.advance rest = some d' := by
  unfold Dec.decodeHeadOf at h
  obtain ⟨d1, hh, rest, hp, hwf, ht, hai, hk⟩ := headThen_some h
  cases hadv : d1.advance rest with
  | none => rw [hadv] at hk; cases hk
  | some d2 => rw [hadv] at hk; cases hk; exact ⟨d1, hh, rest, hp, hwf, ht, hai, rfl, hadv⟩

/-- what `DecodeBytes` did when it succeeded: a definite byte-string head, its content returned, and the decoder
    moved behind the content -/
theorem decodeBytes_some {bs : Bytes} {d d' : Dec} (h : d.decodeBytes = some (bs, d')) :
    ∃ d1 hh rest, d.prepareNext = some d1 ∧ wfHead d1.data = some (hh, rest) ∧ hh.t = 2 ∧ hh.ai ≠ 31 ∧
      hh.val ≤ rest.length ∧ bs = rest.take hh.val ∧ d1.advance (rest.drop hh.val) = some d' := by
  unfold Dec.decodeBytes at h
  obtain ⟨d1, hh, rest, hp, hwf, ht, hai, hk⟩ := headThen_some h
  split at hk
  · cases hk
  · rename_i hlen
    cases hadv : d1.advance (rest.drop hh.val) with
    | none => rw [hadv] at hk; cases hk
    | some d2 =>
      rw [hadv] at hk; cases hk
      exact ⟨d1, hh, rest, hp, hwf, ht, hai, Nat.le_of_not_lt hlen, rfl, hadv⟩

/-- `DecodeUint64`, `DecodeTagNumber`, `DecodeArrayHead` keep the invariant and read at least one byte -/
theorem decodeHeadOf_after {t major v : Nat} {d d' : Dec} (hi : DecInv t d)
    (h : d.decodeHeadOf major = some (v, d')) : DecInv t d' ∧ d'.data.length < d.data.length := by
  obtain ⟨d1, hh, rest, hp, hwf, _, _, _, hadv⟩ := decodeHeadOf_some h
  have hl := wfHead_length hwf
  obtain ⟨hi2, hdata, _⟩ := advance_inv (prepareNext_inv hi hp) (Nat.le_of_lt hl) hadv
  exact ⟨hi2, by rw [hdata, ← (prepareNext_data hp).1]; exact hl⟩

theorem decodeHeadOf_inv {t major v : Nat} {d d' : Dec} (hi : DecInv t d)
    (h : d.decodeHeadOf major = some (v, d')) : DecInv t d' := (decodeHeadOf_after hi h).1

/-- `DecodeBytes` keeps the invariant and reads the head and the content it returns -/
theorem decodeBytes_after {t : Nat} {b : Bytes} {d d' : Dec} (hi : DecInv t d)
    (h : d.decodeBytes = some (b, d')) : DecInv t d' ∧ d'.data.length + b.length < d.data.length := by
  obtain ⟨d1, hh, rest, hp, hwf, _, _, hlen, rfl, hadv⟩ := decodeBytes_some h
  have hl := wfHead_length hwf
  obtain ⟨hi2, hdata, _⟩ := advance_inv (prepareNext_inv hi hp) (by simp only [List.length_drop]; omega) hadv
  refine ⟨hi2, ?_⟩
  rw [hdata, ← (prepareNext_data hp).1]
  simp only [List.length_take, List.length_drop]
  omega

theorem decodeBytes_inv {t : Nat} {b : Bytes} {d d' : Dec} (hi : DecInv t d)
    (h : d.decodeBytes = some (b, d')) : DecInv t d' := (decodeBytes_after hi h).1

/-- what `DecodeRawBytes` did when it succeeded: the decoder moved behind the next complete item -/
theorem decodeRawBytes_some {raw : Bytes} {d d' : Dec} (h : d.decodeRawBytes = some (raw, d')) :
    ∃ d1 rest, d.prepareNext = some d1 ∧ wfNext d1.data = some rest ∧ d1.advance rest = some d' := by
  unfold Dec.decodeRawBytes at h
  cases hp : d.prepareNext with
  | none => rw [hp] at h; cases h
  | some d1 =>
    rw [hp] at h
    simp only at h
    cases hw : wfNext d1.data with
    | none => rw [hw] at h; cases h
    | some rest =>
      rw [hw] at h
      simp only at h
      cases ha : d1.advance rest with
      | none => rw [ha] at h; cases h
      | some d2 => rw [ha] at h; cases h; exact ⟨d1, rest, rfl, hw, ha⟩

/-- `DecodeRawBytes` keeps the invariant and reads at least one byte -/
theorem decodeRawBytes_after {t : Nat} {b : Bytes} {d d' : Dec} (hi : DecInv t d)
    (h : d.decodeRawBytes = some (b, d')) : DecInv t d' ∧ d'.data.length < d.data.length := by
  obtain ⟨d1, rest, hp, hw, ha⟩ := decodeRawBytes_some h
  have hl := wfNext_length hw
  obtain ⟨hi2, hdata, _⟩ := advance_inv (prepareNext_inv hi hp) (Nat.le_of_lt hl) ha
  exact ⟨hi2, by rw [hdata, ← (prepareNext_data hp).1]; exact hl⟩

theorem decodeRawBytes_inv {t : Nat} {b : Bytes} {d d' : Dec} (hi : DecInv t d)
    (h : d.decodeRawBytes = some (b, d')) : DecInv t d' := (decodeRawBytes_after hi h).1

/-- On a fresh decoder an array head of `n` is only returned when at least `n` bytes follow it: the decoder has
    validated the item, and the validator's run starts with the same head. -/
theorem decodeArrayHead_new_bound {data : Bytes} {n : Nat} {d' : Dec}
    (h : (Dec.new data).decodeArrayHead = some (n, d')) : n + 1 ≤ data.length := by
  obtain ⟨d1, hd, rest1, hp, hwf, ht, hai, rfl, -⟩ := decodeHeadOf_some h
  rw [(prepareNext_data hp).1] at hwf
  change wfHead data = _ at hwf
  obtain ⟨out, hwn⟩ := prepareNext_new_some hp
  obtain ⟨n, r, hs, hr⟩ := (Run.of_wfRun (show wfRun _ _ _ = _ from hwn)).item_step (.items 0 0)
  obtain ⟨hd', rest', hwf', rfl, rfl⟩ := wfItemStep_some hs
  cases hwf.symm.trans hwf'
  have h1 := hr.pending
  have hl := wfHead_length hwf
  rw [Head.frames_array ht hai, Head.skip_other (by omega), List.append_nil, pending_append, pending_pushItems,
    List.drop_zero] at h1
  omega

/-- The fuel of the validator is not a restriction: any two amounts that are at least the input
    length give the same answer (so `wfNext`, which uses exactly the input length, never fails for
    lack of fuel). -/
theorem wfRun_fuel_irrelevant (f1 f2 : Nat) (stk : List Frame) (data : Bytes)
    (h1 : data.length ≤ f1) (h2 : data.length ≤ f2) : wfRun f1 stk data = wfRun f2 stk data := by
  cases e1 : wfRun f1 stk data with
  | some out => exact ((Run.of_wfRun e1).wfRun h2).symm
  | none =>
    cases e2 : wfRun f2 stk data with
    | none => rfl
    | some out => rw [(Run.of_wfRun e2).wfRun h1] at e1; cases e1

end Atree.Codec

import AtreeProofs.Codec.InlDefs
/-
  Round trip WITH the compact form of inlined maps (tag 252): what the decoder returns.

  An inlined map of a composite type whose elements are all single elements with plain keys is
  written as `[extra-data index, slab index, [values …]]`; keys, digests, count, seed and type live
  in ONE shared extra-data entry per (type, key set), created by the first such map the encoder
  meets.  Decoding therefore does not give back the encoded value: every map of the group comes
  back with the FIRST map's key order, digests, count and seed, and with level 0.  `normSt s xs` is
  that value, as a function of the value `s` and the encoder's extra-data state `xs` before `s`.
-/
namespace Atree.Codec
open Atree Atree.Gen DM

mutual
def normSt : Stor → List XD → Stor
  | .val s p, _ => .val s p
  | .ref id, _ => .ref id
  | .some s, xs => .some (normSt s xs)
  | .arr ty idx es, xs => .arr ty idx (normSts es (addArrayXD xs ty).2)
  | .map x idx (.hkey level hkeys elems), xs =>
    match compactKeys x elems with
    | some keys =>
      let a := addCompactXD xs x hkeys keys
      let vals := (a.2.1.foldl (fun (acc : List MEl × List XD) k =>
          (acc.1 ++ [MEl.single (.mk (.val k.1 k.2) (normFind k elems acc.2))], (encFind k elems acc.2).2))
          ([], a.2.2)).1
      match a.2.2[a.1]? with
      | some (.cmap x' hk' _) => .map x' idx (.hkey 0 hk' vals)
      | _ => .map x idx (.hkey 0 hkeys vals)
    | none => .map x idx (.hkey level hkeys (normMElList elems (addMapXD xs x).2))
  | .map x idx (.single level elems), xs => .map x idx (.single level (normSElList elems (addMapXD xs x).2))
def normSts : List Stor → List XD → List Stor
  | [], _ => []
  | s :: ss, xs => normSt s xs :: normSts ss (encSt s xs).2
/-- the decoded value of the first single element whose key is `k` -/
def normFind (k : Nat × Nat) : List MEl → List XD → Stor
  | [], _ => .val 0 0
  | .single (.mk (.val s p) v) :: rest, xs => if (s, p) = k then normSt v xs else normFind k rest xs
  | _ :: rest, xs => normFind k rest xs
def normSEl : SEl → List XD → SEl
  | .mk k v, xs => .mk (normSt k xs) (normSt v (encSt k xs).2)
def normMEl : MEl → List XD → MEl
  | .single e, xs => .single (normSEl e xs)
  | .inl els, xs => .inl (normMEls els xs)
  | .ext id, _ => .ext id
def normMEls : MEls → List XD → MEls
  | .hkey level hkeys es, xs => .hkey level hkeys (normMElList es xs)
  | .single level es, xs => .single level (normSElList es xs)
def normMElList : List MEl → List XD → List MEl
  | [], _ => []
  | e :: es, xs => normMEl e xs :: normMElList es (encMEl e xs).2
def normSElList : List SEl → List XD → List SEl
  | [], _ => []
  | e :: es, xs => normSEl e xs :: normSElList es (encSEl e xs).2
end

/-- the decoded elements of a compact map: one single element per cached key -/
def normVals (elems : List MEl) : List (Nat × Nat) → List XD → List MEl
  | [], _ => []
  | k :: ks, xs =>
    .single (.mk (.val k.1 k.2) (normFind k elems xs)) :: normVals elems ks (encFind k elems xs).2

theorem length_normSts : ∀ (l : List Stor) (xs : List XD), (normSts l xs).length = l.length
  | [], xs => by simp only [normSts]
  | s :: ss, xs => by simp only [normSts, List.length_cons, length_normSts ss]

theorem length_normMElList : ∀ (l : List MEl) (xs : List XD), (normMElList l xs).length = l.length
  | [], xs => by simp only [normMElList]
  | s :: ss, xs => by simp only [normMElList, List.length_cons, length_normMElList ss]

theorem length_normSElList : ∀ (l : List SEl) (xs : List XD), (normSElList l xs).length = l.length
  | [], xs => by simp only [normSElList]
  | s :: ss, xs => by simp only [normSElList, List.length_cons, length_normSElList ss]

theorem length_normVals (elems : List MEl) : ∀ (ks : List (Nat × Nat)) (xs : List XD),
    (normVals elems ks xs).length = ks.length
  | [], xs => rfl
  | k :: ks, xs => by simp only [normVals, List.length_cons, length_normVals elems ks]

theorem foldl_normFind_eq (elems : List MEl) : ∀ (ks : List (Nat × Nat)) (acc : List MEl × List XD),
    (ks.foldl (fun (acc : List MEl × List XD) k =>
        (acc.1 ++ [MEl.single (.mk (.val k.1 k.2) (normFind k elems acc.2))], (encFind k elems acc.2).2)) acc).1
      = acc.1 ++ normVals elems ks acc.2
  | [], acc => by simp [normVals]
  | k :: ks, acc => by
    simp only [List.foldl_cons, normVals]
    rw [foldl_normFind_eq elems ks]
    simp [List.append_assoc]

/-- `normSt` at such a map, the values as `normVals`: extra data and digests are those of the shared
    entry (the first map of the group), the level is 0 -/
theorem normSt_compact {x : MapExtra} {elems : List MEl} {keys : List (Nat × Nat)}
    (hc : compactKeys x elems = some keys) (idx level : Nat) (hkeys : List Nat) (xs : List XD) :
    normSt (.map x idx (.hkey level hkeys elems)) xs =
      match (addCompactXD xs x hkeys keys).2.2[(addCompactXD xs x hkeys keys).1]? with
      | some (.cmap x' hk' _) => .map x' idx (.hkey 0 hk'
          (normVals elems (addCompactXD xs x hkeys keys).2.1 (addCompactXD xs x hkeys keys).2.2))
      | _ => .map x idx (.hkey 0 hkeys
          (normVals elems (addCompactXD xs x hkeys keys).2.1 (addCompactXD xs x hkeys keys).2.2)) := by
  simp only [normSt, hc, foldl_normFind_eq, List.nil_append]

/-- some single element of the list has the plain key `k` -/
def hasKey (k : Nat × Nat) : List MEl → Prop
  | [] => False
  | .single (.mk (.val s p) _) :: rest => (s, p) = k ∨ hasKey k rest
  | _ :: rest => hasKey k rest

/-- The look-up of the plain key `k` at a single element: either every look-up answers with this element's value, or
    the element is skipped (so are inline and external collision groups, by definition). -/
theorem find_single (k : Nat × Nat) (key v : Stor) (es : List MEl) :
    ((∀ xs, encFind k (.single (.mk key v) :: es) xs = encSt v xs) ∧
        (∀ xs, normFind k (.single (.mk key v) :: es) xs = normSt v xs) ∧
        ∀ f, valFOf f k (.single (.mk key v) :: es) = f v) ∨
    ((hasKey k (.single (.mk key v) :: es) → hasKey k es) ∧
        (∀ xs, encFind k (.single (.mk key v) :: es) xs = encFind k es xs) ∧
        (∀ xs, normFind k (.single (.mk key v) :: es) xs = normFind k es xs) ∧
        ∀ f, valFOf f k (.single (.mk key v) :: es) = valFOf f k es) := by
  match key with
  | .val s p =>
    by_cases h : (s, p) = k
    · exact Or.inl ⟨fun _ => by simp only [encFind, h, ↓reduceIte], fun _ => by simp only [normFind, h, ↓reduceIte],
        fun _ => by simp only [valFOf, h, ↓reduceIte]⟩
    · exact Or.inr ⟨fun hk => hk.resolve_left h, fun _ => by simp only [encFind, h, ↓reduceIte],
        fun _ => by simp only [normFind, h, ↓reduceIte], fun _ => by simp only [valFOf, h, ↓reduceIte]⟩
  | .ref _ => exact Or.inr ⟨id, fun _ => rfl, fun _ => rfl, fun _ => rfl⟩
  | .some _ => exact Or.inr ⟨id, fun _ => rfl, fun _ => rfl, fun _ => rfl⟩
  | .arr _ _ _ => exact Or.inr ⟨id, fun _ => rfl, fun _ => rfl, fun _ => rfl⟩
  | .map _ _ _ => exact Or.inr ⟨id, fun _ => rfl, fun _ => rfl, fun _ => rfl⟩

theorem mapM_compactKey_single {key v : Stor} {es : List MEl} {keys : List (Nat × Nat)}
    (h : (MEl.single (.mk key v) :: es).mapM compactKey = some keys) :
    (∃ s p, key = .val s p) ∧ ∃ ks, es.mapM compactKey = some ks :=
  mapM_compactKey_induction (P := fun l _ => ∀ key v es, l = MEl.single (.mk key v) :: es →
      (∃ s p, key = .val s p) ∧ ∃ ks, es.mapM compactKey = some ks)
    (fun _ _ _ h => by cases h) (fun s p _ _ ks hks _ _ _ _ h => by cases h; exact ⟨⟨s, p, rfl⟩, ks, hks⟩)
    _ keys h key v es rfl

theorem hasKey_of_mapM : ∀ (elems : List MEl) (keys : List (Nat × Nat)),
    elems.mapM compactKey = some keys → ∀ k ∈ keys, hasKey k elems := by
  refine mapM_compactKey_induction (fun k hk => by cases hk) ?_
  intro s p v es ks _ ih k hk
  rcases List.mem_cons.1 hk with rfl | hk
  · exact Or.inl rfl
  · exact Or.inr (ih k hk)

/-- a valid extra-data entry, the compact form included -/
def XD.validC : XD → Prop
  | .arr t => validTy t
  | .map m => validMapExtra m
  | .cmap m hkeys keys =>
    validMapExtra m ∧ hkeys.length = keys.length ∧ keys.length < 8192 ∧ (∀ h ∈ hkeys, h < 2 ^ 64) ∧
      (∀ k ∈ keys, validElem { size := k.1, pay := .val k.2 }) ∧
      (m.ty.isComposite = true ∧ m.count = keys.length)

def XOKC (xs : List XD) : Prop := ∀ x ∈ xs, x.validC

theorem XOKC.nil : XOKC [] := by intro x hx; cases hx

theorem XOKC.append {a b : List XD} (ha : XOKC a) (hb : XOKC b) : XOKC (a ++ b) := by
  intro x hx
  rcases List.mem_append.1 hx with h | h
  · exact ha x h
  · exact hb x h

theorem XOKC.single {x : XD} (h : x.validC) : XOKC [x] := by
  intro y hy; simp only [List.mem_cons, List.not_mem_nil, or_false] at hy; subst hy; exact h

theorem XOKC.of_XOK {xs : List XD} (h : XOK xs) : XOKC xs := by
  intro x hx
  have := h x hx
  cases x with
  | arr t => exact this
  | map m => exact this
  | cmap a b c => exact this.elim

theorem addArrayXD_specC (xs : List XD) (ty : TyInfo) (hx : XOKC xs) (hty : validTy ty) :
    (∃ t, (addArrayXD xs ty).2 = xs ++ t) ∧ XOKC (addArrayXD xs ty).2 ∧
      (addArrayXD xs ty).2[(addArrayXD xs ty).1]? = some (.arr ty) := by
  unfold addArrayXD
  cases hf : findIdxFrom (fun x => match x with | .arr t => encodeTy t == encodeTy ty | _ => false) xs 0 with
  | none =>
    refine ⟨⟨[.arr ty], rfl⟩, hx.append (XOKC.single hty), ?_⟩
    simp
  | some i =>
    obtain ⟨_, y, hy, hp⟩ := findIdxFrom_some _ xs 0 i hf
    simp only [Nat.sub_zero] at hy
    refine ⟨⟨[], by simp⟩, hx, ?_⟩
    simp only [hy, Option.some.injEq]
    have hmem : y ∈ xs := List.mem_of_getElem? hy
    have hval := hx y hmem
    cases y with
    | arr t =>
      simp only at hp
      have := encodeTy_inj hval hty (eq_of_beq hp)
      rw [this]
    | map m => simp at hp
    | cmap a b c => simp at hp

theorem addMapXD_specC (xs : List XD) (x : MapExtra) (hx : XOKC xs) (hv : validMapExtra x) :
    (∃ t, (addMapXD xs x).2 = xs ++ t) ∧ XOKC (addMapXD xs x).2 ∧
      (addMapXD xs x).2[(addMapXD xs x).1]? = some (.map x) := by
  unfold addMapXD
  refine ⟨⟨[.map x], rfl⟩, hx.append (XOKC.single hv), ?_⟩
  simp

/-- `addCompactMapExtraData`: the index refers to a compact entry whose keys are the cached keys, a
    permutation of the keys handed in -/
theorem addCompactXD_specC (xs : List XD) (x : MapExtra) (hkeys : List Nat) (keys : List (Nat × Nat))
    (hx : XOKC xs) (hv : (XD.cmap x hkeys keys).validC) :
    (∃ t, (addCompactXD xs x hkeys keys).2.2 = xs ++ t) ∧ XOKC (addCompactXD xs x hkeys keys).2.2 ∧
      ∃ x' hk', (addCompactXD xs x hkeys keys).2.2[(addCompactXD xs x hkeys keys).1]?
          = some (.cmap x' hk' (addCompactXD xs x hkeys keys).2.1) := by
  unfold addCompactXD
  cases hf : findIdxFrom (sameCompactType x.ty keys) xs 0 with
  | none =>
    refine ⟨⟨[.cmap x hkeys keys], rfl⟩, hx.append (XOKC.single hv), x, hkeys, ?_⟩
    simp
  | some i =>
    obtain ⟨_, y, hy, hp⟩ := findIdxFrom_some _ xs 0 i hf
    simp only [Nat.sub_zero] at hy
    simp only [hy]
    cases y with
    | arr t => simp [sameCompactType] at hp
    | map m => simp [sameCompactType] at hp
    | cmap x' hk' keys' =>
      exact ⟨⟨[], by simp⟩, hx, x', hk', hy⟩

theorem addCompactXD_entry_ty (xs : List XD) (x : MapExtra) (hkeys : List Nat) (keys : List (Nat × Nat))
    (hx : XOKC xs) (hv : (XD.cmap x hkeys keys).validC) {x' : MapExtra} {hk' : List Nat} {cached : List (Nat × Nat)}
    (hget : (addCompactXD xs x hkeys keys).2.2[(addCompactXD xs x hkeys keys).1]? = some (.cmap x' hk' cached)) :
    x'.ty = x.ty := by
  unfold addCompactXD at hget
  cases hf : findIdxFrom (sameCompactType x.ty keys) xs 0 with
  | none =>
    rw [hf] at hget
    simp only [List.getElem?_append_right (Nat.le_refl _), Nat.sub_self, List.getElem?_cons_zero, Option.some.injEq,
      XD.cmap.injEq] at hget
    rw [hget.1]
  | some i =>
    rw [hf] at hget
    obtain ⟨_, y, hy, hp⟩ := findIdxFrom_some _ xs 0 i hf
    simp only [Nat.sub_zero] at hy
    simp only [hy] at hget
    have hmem : y ∈ xs := List.mem_of_getElem? hy
    have hval := hx y hmem
    cases y with
    | arr t => simp [sameCompactType] at hp
    | map m => simp [sameCompactType] at hp
    | cmap x'' hk'' keys'' =>
      rw [hy] at hget
      simp only [Option.some.injEq, XD.cmap.injEq] at hget
      simp only [sameCompactType, Bool.and_eq_true] at hp
      rw [← hget.1]
      exact encodeTy_inj hval.1.1 hv.1.1 (eq_of_beq hp.1)

/-- what holds of the encoder's state after encoding from state `xs0` -/
def StateOKC (xs0 xs1 : List XD) : Prop := (∃ t, xs1 = xs0 ++ t) ∧ XOKC xs1

theorem StateOKC.trans {a b c : List XD} (h1 : StateOKC a b) (h2 : StateOKC b c) : StateOKC a c := by
  obtain ⟨⟨t1, rfl⟩, _⟩ := h1
  obtain ⟨⟨t2, rfl⟩, hc⟩ := h2
  exact ⟨⟨t1 ++ t2, by simp⟩, hc⟩

theorem keys_valid_of_rti : ∀ (elems : List MEl) (keys : List (Nat × Nat)),
    elems.mapM compactKey = some keys → rtiMElList elems →
    ∀ k ∈ keys, validElem { size := k.1, pay := .val k.2 } := by
  refine mapM_compactKey_induction (fun _ k hk => by cases hk) ?_
  intro s p v es ks _ ih hes k hk
  rcases List.mem_cons.1 hk with rfl | hk
  · exact hes.1.1
  · exact ih hes.2 k hk

theorem cmap_validC {x : MapExtra} {hkeys : List Nat} {elems : List MEl} {keys : List (Nat × Nat)} {level : Nat}
    (hv : validMapExtra x) (h : (MEls.hkey level hkeys elems).RTI) (hc : compactKeys x elems = some keys) :
    (XD.cmap x hkeys keys).validC := by
  obtain ⟨_, hlen, h8192, hhk, hes, _⟩ := h
  have hm := compactKeys_mapM hc
  have hkl := mapM_compactKey_length elems keys hm
  have hcond : x.ty.isComposite = true ∧ x.count = elems.length := by
    unfold compactKeys at hc
    split at hc
    · assumption
    · cases hc
  exact ⟨hv, by omega, by omega, hhk, keys_valid_of_rti elems keys hm hes, hcond.1, by omega⟩

/-- the size `decCVals` computes for the element of key `k` -/
def keyElemSize (elems : List MEl) (k : Nat × Nat) : Nat :=
  digestSize + (singleElementPrefixSize + k.1 + valSizeOf k elems)

/-- over the map's own (distinct) keys these sizes add up to the size of the element list: what is hoisted per key
    (`compact_size_split`) and the values (`sum_valFOf_keys`) -/
theorem sum_keyElemSize (elems : List MEl) (keys : List (Nat × Nat)) (hm : elems.mapM compactKey = some keys)
    (hnd : keys.Nodup) : (keys.map (keyElemSize elems)).sum = sizeMEl elems := by
  have hsplit : ∀ ks : List (Nat × Nat), (ks.map (keyElemSize elems)).sum
      = (ks.map keyHoist).sum + (ks.map (fun k => valFOf Stor.size k elems)).sum := by
    intro ks
    induction ks with
    | nil => rfl
    | cons k ks ih =>
      simp only [List.map_cons, List.sum_cons, ih, keyElemSize, keyHoist, valSizeOf_eq_valFOf]; omega
  rw [hsplit, sum_valFOf_keys Stor.size elems keys hm hnd, (compact_size_split elems keys hm).1, Nat.add_comm]

theorem sizeMEl_normVals (elems : List MEl) (hfind : ∀ k xs, (normFind k elems xs).size = valSizeOf k elems) :
    ∀ (ks : List (Nat × Nat)) (xs : List XD),
      sizeMEl (normVals elems ks xs) = (ks.map (keyElemSize elems)).sum
  | [], xs => rfl
  | k :: ks, xs => by
    simp only [normVals, sizeMEl, MEl.size, SEl.size, Stor.size, List.map_cons, List.sum_cons, hfind,
      sizeMEl_normVals elems hfind ks, keyElemSize]

mutual
theorem size_normSt : (s : Stor) → (xs : List XD) → s.nodupKeys → (normSt s xs).size = s.size
  | .val _ _, xs, _ => by simp only [normSt]
  | .ref _, xs, _ => by simp only [normSt]
  | .some s, xs, nd => by simp only [normSt, Stor.size, size_normSt s xs nd]
  | .arr ty idx es, xs, nd => by simp only [normSt, Stor.size, sizeSts_norm es _ nd]
  | .map x idx (.hkey level hkeys elems), xs, nd => by
    cases hc : compactKeys x elems with
    | none => simp only [normSt, hc, Stor.size, MEls.size, sizeMEl_norm elems _ nd.2]
    | some keys =>
      have hm := compactKeys_mapM hc
      have hnd := nd.1 keys hc
      have hperm := addCompactXD_perm xs x hkeys keys
      have hfind : ∀ k xs', (normFind k elems xs').size = valSizeOf k elems :=
        fun k xs' => size_normFind k elems xs' nd.2
      have hsum : sizeMEl (normVals elems (addCompactXD xs x hkeys keys).2.1 (addCompactXD xs x hkeys keys).2.2)
          = sizeMEl elems := by
        rw [sizeMEl_normVals elems hfind, (List.Perm.map _ hperm).sum_nat]
        exact sum_keyElemSize elems keys hm hnd
      rw [normSt_compact hc]
      split <;> simp only [Stor.size, MEls.size, hsum]
  | .map x idx (.single level elems), xs, nd => by
    simp only [normSt, Stor.size, MEls.size, sizeSEl_norm elems _ nd]
theorem sizeSts_norm : (l : List Stor) → (xs : List XD) → nodupKeysSts l → sizeSts (normSts l xs) = sizeSts l
  | [], xs, _ => by simp only [normSts]
  | s :: ss, xs, nd => by simp only [normSts, sizeSts, size_normSt s xs nd.1, sizeSts_norm ss _ nd.2]
theorem size_normFind : (k : Nat × Nat) → (l : List MEl) → (xs : List XD) → nodupKeysMElList l →
    (normFind k l xs).size = valSizeOf k l
  | k, [], xs, _ => by simp only [normFind, valSizeOf, Stor.size]
  | k, .single (.mk key v) :: es, xs, nd => by
    have ih := size_normFind k es xs nd.2
    rw [valSizeOf_eq_valFOf] at ih ⊢
    rcases find_single k key v es with ⟨_, hN, hS⟩ | ⟨_, _, hN, hS⟩ <;> rw [hN, hS]
    · exact size_normSt v xs nd.1.2
    · exact ih
  | k, .inl _ :: es, xs, nd => size_normFind k es xs nd.2
  | k, .ext _ :: es, xs, nd => size_normFind k es xs nd.2
theorem size_normSEl : (e : SEl) → (xs : List XD) → e.nodupKeys → (normSEl e xs).size = e.size
  | .mk k v, xs, nd => by simp only [normSEl, SEl.size, size_normSt k xs nd.1, size_normSt v _ nd.2]
theorem size_normMEl : (e : MEl) → (xs : List XD) → e.nodupKeys → (normMEl e xs).size = e.size
  | .single e, xs, nd => by simp only [normMEl, MEl.size, size_normSEl e xs nd]
  | .inl els, xs, nd => by simp only [normMEl, MEl.size, size_normMEls els xs nd]
  | .ext _, xs, _ => by simp only [normMEl]
theorem size_normMEls : (els : MEls) → (xs : List XD) → els.nodupKeys → (normMEls els xs).size = els.size
  | .hkey _ _ es, xs, nd => by simp only [normMEls, MEls.size, sizeMEl_norm es xs nd]
  | .single _ es, xs, nd => by simp only [normMEls, MEls.size, sizeSEl_norm es xs nd]
theorem sizeMEl_norm : (l : List MEl) → (xs : List XD) → nodupKeysMElList l → sizeMEl (normMElList l xs) = sizeMEl l
  | [], xs, _ => by simp only [normMElList]
  | e :: es, xs, nd => by simp only [normMElList, sizeMEl, size_normMEl e xs nd.1, sizeMEl_norm es _ nd.2]
theorem sizeSEl_norm : (l : List SEl) → (xs : List XD) → nodupKeysSElList l → sizeSEl (normSElList l xs) = sizeSEl l
  | [], xs, _ => by simp only [normSElList]
  | e :: es, xs, nd => by simp only [normSElList, sizeSEl, size_normSEl e xs nd.1, sizeSEl_norm es _ nd.2]
end

mutual
theorem normSt_noCompact : (s : Stor) → (xs : List XD) → s.noCompact → normSt s xs = s
  | .val _ _, xs, _ => by simp only [normSt]
  | .ref _, xs, _ => by simp only [normSt]
  | .some s, xs, nc => by simp only [normSt, normSt_noCompact s xs nc]
  | .arr ty idx es, xs, nc => by simp only [normSt, normSts_noCompact es _ nc]
  | .map x idx (.hkey level hkeys elems), xs, nc => by
    have hc : compactKeys x elems = none := nc.1
    simp only [normSt, hc, normMElList_noCompact elems _ nc.2]
  | .map x idx (.single level elems), xs, nc => by simp only [normSt, normSElList_noCompact elems _ nc]
theorem normSts_noCompact : (l : List Stor) → (xs : List XD) → noCompactSts l → normSts l xs = l
  | [], xs, _ => by simp only [normSts]
  | s :: ss, xs, nc => by simp only [normSts, normSt_noCompact s xs nc.1, normSts_noCompact ss _ nc.2]
theorem normSEl_noCompact : (e : SEl) → (xs : List XD) → e.noCompact → normSEl e xs = e
  | .mk k v, xs, nc => by simp only [normSEl, normSt_noCompact k xs nc.1, normSt_noCompact v _ nc.2]
theorem normMEl_noCompact : (e : MEl) → (xs : List XD) → e.noCompact → normMEl e xs = e
  | .single e, xs, nc => by simp only [normMEl, normSEl_noCompact e xs nc]
  | .inl els, xs, nc => by simp only [normMEl, normMEls_noCompact els xs nc]
  | .ext _, xs, _ => by simp only [normMEl]
theorem normMEls_noCompact : (els : MEls) → (xs : List XD) → els.noCompact → normMEls els xs = els
  | .hkey _ _ es, xs, nc => by simp only [normMEls, normMElList_noCompact es xs nc]
  | .single _ es, xs, nc => by simp only [normMEls, normSElList_noCompact es xs nc]
theorem normMElList_noCompact : (l : List MEl) → (xs : List XD) → noCompactMElList l → normMElList l xs = l
  | [], xs, _ => by simp only [normMElList]
  | e :: es, xs, nc => by simp only [normMElList, normMEl_noCompact e xs nc.1, normMElList_noCompact es _ nc.2]
theorem normSElList_noCompact : (l : List SEl) → (xs : List XD) → noCompactSElList l → normSElList l xs = l
  | [], xs, _ => by simp only [normSElList]
  | e :: es, xs, nc => by simp only [normSElList, normSEl_noCompact e xs nc.1, normSElList_noCompact es _ nc.2]
end

end Atree.Codec

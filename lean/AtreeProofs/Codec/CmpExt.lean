import AtreeProofs.Codec.CmpFix
/-
  The decoded compact child, EXTENSIONALLY.

  `normVals elems cached st` (CmpDefs.lean) lists, per cached key, the decoded form of the value
  found by a totalised lookup (`normFind`, default `.val 0 0`).  Under distinct keys the lookup is
  exact: `elems = keys.map (keyEl elems)` — every element is found under its own key and nothing
  else — so the decoded child has exactly the key set of the encoded one, each key once, and under
  every key the decoded form of the value that was stored under it.
-/
namespace Atree.Codec
open Atree Atree.Gen DM

/-- the value of the first single element whose key is `k` (what `encFind` / `normFind` look up) -/
def findVal (k : Nat × Nat) : List MEl → Stor
  | [] => .val 0 0
  | .single (.mk (.val s p) v) :: rest => if (s, p) = k then v else findVal k rest
  | _ :: rest => findVal k rest

/-- the element a compact-eligible list stores under `k` -/
def keyEl (elems : List MEl) (k : Nat × Nat) : MEl := .single (.mk (.val k.1 k.2) (findVal k elems))

theorem normFind_eq_findVal : ∀ (k : Nat × Nat) (l : List MEl) (st : List XD),
    normFind k l st = normSt (findVal k l) st
  | k, [], st => by simp only [normFind, findVal, normSt]
  | k, .single (.mk (.val s p) v) :: rest, st => by
    simp only [normFind, findVal]
    split
    · rfl
    · exact normFind_eq_findVal k rest st
  | k, .single (.mk (.ref _) _) :: rest, st => by simp only [normFind, findVal]; exact normFind_eq_findVal k rest st
  | k, .single (.mk (.some _) _) :: rest, st => by simp only [normFind, findVal]; exact normFind_eq_findVal k rest st
  | k, .single (.mk (.arr _ _ _) _) :: rest, st => by
    simp only [normFind, findVal]; exact normFind_eq_findVal k rest st
  | k, .single (.mk (.map _ _ _) _) :: rest, st => by
    simp only [normFind, findVal]; exact normFind_eq_findVal k rest st
  | k, .inl _ :: rest, st => by simp only [normFind, findVal]; exact normFind_eq_findVal k rest st
  | k, .ext _ :: rest, st => by simp only [normFind, findVal]; exact normFind_eq_findVal k rest st

theorem map_keyEl_keys : ∀ (elems : List MEl) (keys : List (Nat × Nat)),
    elems.mapM compactKey = some keys → keys.Nodup → keys.map (keyEl elems) = elems := by
  refine mapM_compactKey_induction (fun _ => rfl) ?_
  intro s p v es ks _ ih hnd
  obtain ⟨hnot, hnd'⟩ := List.nodup_cons.1 hnd
  have hrest : ks.map (keyEl (MEl.single (SEl.mk (Stor.val s p) v) :: es)) = ks.map (keyEl es) := by
    apply List.map_congr_left
    intro k hkin
    have hne : (s, p) ≠ k := fun h => hnot (h ▸ hkin)
    simp only [keyEl, findVal, hne, ↓reduceIte]
  rw [List.map_cons, hrest, ih hnd']
  simp only [keyEl, findVal, ↓reduceIte]

/-- the decoded element of the key at position `pre.length` of the cached keys, with the encoder's
    state at the moment the value was written -/
theorem mem_normVals_at (elems : List MEl) (pre post : List (Nat × Nat)) (k : Nat × Nat) (st : List XD) :
    MEl.single (.mk (.val k.1 k.2) (normSt (findVal k elems) (encVals elems pre st).2))
      ∈ normVals elems (pre ++ k :: post) st := by
  rw [normVals_append]
  apply List.mem_append_right
  simp only [normVals, normFind_eq_findVal]
  exact List.mem_cons_self ..

theorem of_mem_normVals (elems : List MEl) : ∀ (ks : List (Nat × Nat)) (st : List XD) (e : MEl),
    e ∈ normVals elems ks st →
      ∃ k ∈ ks, ∃ st', e = MEl.single (.mk (.val k.1 k.2) (normSt (findVal k elems) st'))
  | [], st, e, h => by simp [normVals] at h
  | k :: ks, st, e, h => by
    simp only [normVals, List.mem_cons] at h
    rcases h with rfl | h
    · exact ⟨k, List.mem_cons_self .., st, by rw [normFind_eq_findVal]⟩
    · obtain ⟨k', hk', st', he⟩ := of_mem_normVals elems ks _ e h
      exact ⟨k', List.mem_cons_of_mem _ hk', st', he⟩

theorem normVals_eq_map (elems : List MEl) : ∀ (ks : List (Nat × Nat)) (st : List XD),
    (∀ k ∈ ks, (findVal k elems).noCompact) → normVals elems ks st = ks.map (keyEl elems)
  | [], st, _ => rfl
  | k :: ks, st, h => by
    simp only [normVals, List.map_cons, normFind_eq_findVal,
      normSt_noCompact _ _ (h k (List.mem_cons_self ..)),
      normVals_eq_map elems ks _ (fun k' hk' => h k' (List.mem_cons_of_mem _ hk'))]
    rfl

/-- The decoded elements of a compact map with distinct keys, extensionally. -/
theorem normVals_extensional (elems : List MEl) (keys cached : List (Nat × Nat)) (st : List XD)
    (hm : elems.mapM compactKey = some keys) (hnd : keys.Nodup) (hperm : cached.Perm keys) :
    (normVals elems cached st).length = elems.length ∧
    ((normVals elems cached st).mapM compactKey = some cached ∧ cached.Nodup) ∧
    (∀ s p v, MEl.single (.mk (.val s p) v) ∈ elems →
        ∃ pre post, cached = pre ++ (s, p) :: post ∧
          MEl.single (.mk (.val s p) (normSt v (encVals elems pre st).2)) ∈ normVals elems cached st) ∧
    (∀ e ∈ normVals elems cached st, ∃ s p v st',
        e = MEl.single (.mk (.val s p) (normSt v st')) ∧ MEl.single (.mk (.val s p) v) ∈ elems) ∧
    ((∀ s p v, MEl.single (.mk (.val s p) v) ∈ elems → v.noCompact) → (normVals elems cached st).Perm elems) := by
  have hmap := map_keyEl_keys elems keys hm hnd
  have hkl := mapM_compactKey_length elems keys hm
  -- an element of the list is what is found under its key, and its key is a key
  have hel : ∀ s p v, MEl.single (.mk (.val s p) v) ∈ elems → (s, p) ∈ keys ∧ findVal (s, p) elems = v := by
    intro s p v hin
    rw [← hmap] at hin
    obtain ⟨k, hk, he⟩ := List.mem_map.1 hin
    simp only [keyEl, MEl.single.injEq, SEl.mk.injEq, Stor.val.injEq] at he
    obtain ⟨⟨h1, h2⟩, h3⟩ := he
    have hk' : k = (s, p) := by rw [← h1, ← h2]
    subst hk'
    exact ⟨hk, h3⟩
  have hkey : ∀ k ∈ keys, keyEl elems k ∈ elems := by
    intro k hk
    have : keyEl elems k ∈ keys.map (keyEl elems) := List.mem_map.2 ⟨k, hk, rfl⟩
    rw [hmap] at this
    exact this
  refine ⟨?_, ⟨mapM_normVals elems cached st, hperm.nodup_iff.2 hnd⟩, ?_, ?_, ?_⟩
  · rw [length_normVals, hperm.length_eq, hkl]
  · intro s p v hin
    obtain ⟨hk, hv⟩ := hel s p v hin
    obtain ⟨pre, post, hsplit⟩ := List.append_of_mem (hperm.mem_iff.2 hk)
    refine ⟨pre, post, hsplit, ?_⟩
    have := mem_normVals_at elems pre post (s, p) st
    rw [hv, ← hsplit] at this
    exact this
  · intro e he
    obtain ⟨k, hk, st', rfl⟩ := of_mem_normVals elems cached st e he
    exact ⟨k.1, k.2, findVal k elems, st', rfl, hkey k (hperm.mem_iff.1 hk)⟩
  · intro hnc
    have hall : ∀ k ∈ cached, (findVal k elems).noCompact := by
      intro k hk
      exact hnc k.1 k.2 (findVal k elems) (hkey k (hperm.mem_iff.1 hk))
    rw [normVals_eq_map elems cached st hall]
    have := List.Perm.map (keyEl elems) hperm
    rw [hmap] at this
    exact this

end Atree.Codec

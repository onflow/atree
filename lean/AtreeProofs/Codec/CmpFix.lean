import AtreeProofs.Codec.CmpSlab
import AtreeProofs.Codec.InlState
/-
  Re-encoding what the decoder returns for a slab with compact maps gives the register back:
  `encSt (normSt s xs) xs = encSt s xs` (bytes AND extra-data state), and the has-pointers flag is
  the same.
-/
namespace Atree.Codec
open Atree Atree.Gen DM

theorem normVals_append (elems : List MEl) : ∀ (a b : List (Nat × Nat)) (st : List XD),
    normVals elems (a ++ b) st = normVals elems a st ++ normVals elems b (encVals elems a st).2
  | [], b, st => by simp [normVals, encVals]
  | k :: a, b, st => by
    simp only [List.cons_append, normVals, encVals, normVals_append elems a b]

theorem encVals_append_state (elems : List MEl) : ∀ (a b : List (Nat × Nat)) (st : List XD),
    (encVals elems (a ++ b) st).2 = (encVals elems b (encVals elems a st).2).2
  | [], b, st => by simp [encVals]
  | k :: a, b, st => by
    simp only [List.cons_append, encVals, encVals_append_state elems a b]

theorem mapM_normVals (elems : List MEl) : ∀ (ks : List (Nat × Nat)) (st : List XD),
    (normVals elems ks st).mapM compactKey = some ks
  | [], st => by simp [normVals]
  | k :: ks, st => by
    simp only [normVals, List.mapM_cons, compactKey, mapM_normVals elems ks]
    rfl

theorem encFind_skip_normVals (elems : List MEl) (k : Nat × Nat) (rest : List MEl) (st : List XD) :
    ∀ (done : List (Nat × Nat)) (st0 : List XD), k ∉ done →
      encFind k (normVals elems done st0 ++ rest) st = encFind k rest st
  | [], st0, _ => by simp [normVals]
  | k' :: done, st0, hk => by
    have hne : ¬ ((k'.1, k'.2) = k) := by
      intro h; apply hk; rw [← h]; exact List.mem_cons_self ..
    simp only [normVals, List.cons_append, encFind, if_neg hne]
    exact encFind_skip_normVals elems k rest st done _ (fun h => hk (List.mem_cons_of_mem _ h))

/-- asking `addCompactMapExtraData` again with what the shared entry holds gives the same answer -/
theorem addCompactXD_idem (xs : List XD) (x : MapExtra) (hkeys : List Nat) (keys : List (Nat × Nat))
    {x' : MapExtra} {hk' : List Nat}
    (hget : (addCompactXD xs x hkeys keys).2.2[(addCompactXD xs x hkeys keys).1]?
      = some (.cmap x' hk' (addCompactXD xs x hkeys keys).2.1)) :
    addCompactXD xs x' hk' (addCompactXD xs x hkeys keys).2.1 = addCompactXD xs x hkeys keys := by
  unfold addCompactXD at hget ⊢
  cases hf : findIdxFrom (sameCompactType x.ty keys) xs 0 with
  | none =>
    rw [hf] at hget
    simp only [List.getElem?_append_right (Nat.le_refl _), Nat.sub_self, List.getElem?_cons_zero, Option.some.injEq,
      XD.cmap.injEq] at hget
    rw [← hget.1, ← hget.2.1, hf]
  | some i =>
    rw [hf] at hget
    obtain ⟨_, y, hy, hp⟩ := findIdxFrom_some _ xs 0 i hf
    simp only [Nat.sub_zero] at hy
    simp only [hy] at hget
    cases y with
    | arr t => simp [sameCompactType] at hp
    | map m => simp [sameCompactType] at hp
    | cmap x'' hk'' keys'' =>
      rw [hy] at hget
      simp only [Option.some.injEq, XD.cmap.injEq] at hget
      simp only [sameCompactType, Bool.and_eq_true] at hp
      have hfun : sameCompactType x'.ty keys'' = sameCompactType x.ty keys := by
        funext z
        cases z with
        | arr t => rfl
        | map m => rfl
        | cmap a b c =>
          simp only [sameCompactType]
          rw [← hget.1, eq_of_beq hp.1, eq_of_beq hp.2]
      simp only [hy]
      rw [hfun, hf]
      simp only [hy]

theorem compactKey_normMEl (e : MEl) (xs : List XD) : compactKey (normMEl e xs) = compactKey e := by
  cases e with
  | single se =>
    obtain ⟨k, v⟩ := se
    cases k with
    | val s p => simp only [normMEl, normSEl, normSt, compactKey]
    | ref id => simp only [normMEl, normSEl, normSt, compactKey]
    | some s => simp only [normMEl, normSEl, normSt, compactKey]
    | arr ty idx es => simp only [normMEl, normSEl, normSt, compactKey]
    | map x idx els =>
      cases els with
      | hkey level hkeys elems =>
        simp only [normMEl, normSEl, normSt]
        split
        · split <;> simp only [compactKey]
        · simp only [compactKey]
      | single level elems => simp only [normMEl, normSEl, normSt, compactKey]
  | inl els => simp only [normMEl, compactKey]
  | ext id => simp only [normMEl, compactKey]

theorem mapM_compactKey_norm : ∀ (l : List MEl) (xs : List XD),
    (normMElList l xs).mapM compactKey = l.mapM compactKey
  | [], xs => by simp only [normMElList]
  | e :: es, xs => by
    simp only [normMElList, List.mapM_cons, compactKey_normMEl, mapM_compactKey_norm es]

theorem compactKeys_norm (x : MapExtra) (l : List MEl) (xs : List XD) :
    compactKeys x (normMElList l xs) = compactKeys x l := by
  unfold compactKeys
  rw [length_normMElList, mapM_compactKey_norm]

mutual
theorem encSt_norm : (s : Stor) → (xs : List XD) → s.RTI → s.nodupKeys → XOKC xs →
    encSt (normSt s xs) xs = encSt s xs
  | .val _ _, xs, _, _, _ => by simp only [normSt]
  | .ref _, xs, _, _, _ => by simp only [normSt]
  | .some s, xs, h, nd, hx => by simp only [normSt, encSt, encSt_norm s xs h nd hx]
  | .arr ty idx es, xs, h, nd, hx => by
    obtain ⟨_, hxa, _⟩ := addArrayXD_specC xs ty hx h.1
    simp only [normSt, encSt, length_normSts, encSts_norm es _ h.2.2.2.1 nd hxa]
  | .map x idx (.hkey level hkeys elems), xs, h, nd, hx => by
    obtain ⟨hmx, hidx, hels, hsz⟩ := h
    have hes : rtiMElList elems := hels.2.2.2.2.1
    cases hc : compactKeys x elems with
    | none =>
      obtain ⟨_, hxa, _⟩ := addMapXD_specC xs x hx hmx
      have hc' : compactKeys x (normMElList elems (addMapXD xs x).2) = none := by rw [compactKeys_norm]; exact hc
      simp only [normSt, hc, encSt, hc', length_normMElList, encMElList_norm elems _ hes nd.2 hxa]
    | some keys =>
      have hm := compactKeys_mapM hc
      have hnd := nd.1 keys hc
      have hperm := addCompactXD_perm xs x hkeys keys
      have hv := cmap_validC hmx hels hc
      obtain ⟨_, hxa, x', hk', hget⟩ := addCompactXD_specC xs x hkeys keys hx hv
      have hE := encSt_compact hc idx level hkeys xs
      have hN : normSt (.map x idx (.hkey level hkeys elems)) xs =
          .map x' idx (.hkey 0 hk'
            (normVals elems (addCompactXD xs x hkeys keys).2.1 (addCompactXD xs x hkeys keys).2.2)) := by
        rw [normSt_compact hc, hget]
      have hent : (XD.cmap x' hk' (addCompactXD xs x hkeys keys).2.1).validC := hxa _ (List.mem_of_getElem? hget)
      have hcN : compactKeys x' (normVals elems (addCompactXD xs x hkeys keys).2.1 (addCompactXD xs x hkeys keys).2.2)
          = some (addCompactXD xs x hkeys keys).2.1 := by
        unfold compactKeys
        rw [if_pos ⟨hent.2.2.2.2.2.1, by rw [length_normVals]; exact hent.2.2.2.2.2.2⟩]
        exact mapM_normVals elems _ _
      have hidem := addCompactXD_idem xs x hkeys keys hget
      have hcnd : (addCompactXD xs x hkeys keys).2.1.Nodup := hperm.nodup_iff.2 hnd
      have hcached : ∀ k ∈ (addCompactXD xs x hkeys keys).2.1, hasKey k elems :=
        fun k hk => hasKey_of_mapM elems keys hm k (hperm.subset hk)
      have hfind : ∀ k st, XOKC st → hasKey k elems → encSt (normFind k elems st) st = encFind k elems st :=
        fun k st hst hk => encFind_norm k elems st hes nd.2 hst hk
      -- the states the loop goes through are valid, so `hfind` applies along the way
      have hvals : ∀ (ks done : List (Nat × Nat)), (addCompactXD xs x hkeys keys).2.1 = done ++ ks →
          encVals (normVals elems (addCompactXD xs x hkeys keys).2.1 (addCompactXD xs x hkeys keys).2.2) ks
              (encVals elems done (addCompactXD xs x hkeys keys).2.2).2
            = encVals elems ks (encVals elems done (addCompactXD xs x hkeys keys).2.2).2 := by
        intro ks
        induction ks with
        | nil => intro done _; simp only [encVals]
        | cons k ks ih =>
          intro done hsplit
          have hkin : k ∈ (addCompactXD xs x hkeys keys).2.1 := by rw [hsplit]; simp
          have hknot : k ∉ done := by
            rw [hsplit] at hcnd
            have := (List.nodup_append.1 hcnd).2.2
            intro hd
            exact this k hd k (List.mem_cons_self ..) rfl
          have hstd := ((encVals_appends elems hes done _).stateC hxa).2
          have hV : normVals elems (addCompactXD xs x hkeys keys).2.1 (addCompactXD xs x hkeys keys).2.2
              = normVals elems done (addCompactXD xs x hkeys keys).2.2 ++
                (MEl.single (.mk (.val k.1 k.2)
                    (normFind k elems (encVals elems done (addCompactXD xs x hkeys keys).2.2).2)) ::
                  normVals elems ks (encFind k elems (encVals elems done (addCompactXD xs x hkeys keys).2.2).2).2) := by
            conv => lhs; rw [hsplit]
            rw [normVals_append]; simp only [normVals]
          have hfk : encFind k (normVals elems (addCompactXD xs x hkeys keys).2.1 (addCompactXD xs x hkeys keys).2.2)
                (encVals elems done (addCompactXD xs x hkeys keys).2.2).2
              = encFind k elems (encVals elems done (addCompactXD xs x hkeys keys).2.2).2 := by
            rw [hV, encFind_skip_normVals elems k _ _ done _ hknot]
            simp only [encFind, ↓reduceIte]
            exact hfind k _ hstd (hcached k hkin)
          have hstate : (encVals elems (done ++ [k]) (addCompactXD xs x hkeys keys).2.2).2
              = (encFind k elems (encVals elems done (addCompactXD xs x hkeys keys).2.2).2).2 := by
            rw [encVals_append_state]; simp only [encVals]
          have ih' := ih (done ++ [k]) (by rw [hsplit]; simp)
          rw [hstate] at ih'
          simp only [encVals, hfk, ih']
      have hv0 := hvals (addCompactXD xs x hkeys keys).2.1 [] (by simp)
      simp only [encVals] at hv0
      rw [hN, hE]
      rw [encSt_compact hcN]
      simp only [hidem, hv0]
  | .map x idx (.single level elems), xs, h, nd, hx => by
    obtain ⟨_, hxa, _⟩ := addMapXD_specC xs x hx h.1
    simp only [normSt, encSt, length_normSElList, encSElList_norm elems _ h.2.2.1.2.2.2.1 nd hxa]
theorem encSts_norm : (l : List Stor) → (xs : List XD) → rtiSts l → nodupKeysSts l → XOKC xs →
    encSts (normSts l xs) xs = encSts l xs
  | [], xs, _, _, _ => by simp only [normSts]
  | s :: ss, xs, h, nd, hx => by
    have h1 := encSt_norm s xs h.1 nd.1 hx
    have hst := ((encSt_appends s xs h.1).stateC hx).2
    have h2 := encSts_norm ss (encSt s xs).2 h.2 nd.2 hst
    simp only [normSts, encSts, h1, h2]
theorem encFind_norm : (k : Nat × Nat) → (l : List MEl) → (xs : List XD) → rtiMElList l → nodupKeysMElList l →
    XOKC xs → hasKey k l → encSt (normFind k l xs) xs = encFind k l xs
  | k, [], xs, _, _, _, hk => by cases hk
  | k, .single (.mk key v) :: rest, xs, h, nd, hx, hk => by
    rcases find_single k key v rest with ⟨hE, hN, _⟩ | ⟨hk', hE, hN, _⟩ <;> rw [hE, hN]
    · exact encSt_norm v xs h.1.2.1 nd.1.2 hx
    · exact encFind_norm k rest xs h.2 nd.2 hx (hk' hk)
  | k, .inl _ :: rest, xs, h, nd, hx, hk => by
    simp only [normFind, encFind]; exact encFind_norm k rest xs h.2 nd.2 hx hk
  | k, .ext _ :: rest, xs, h, nd, hx, hk => by
    simp only [normFind, encFind]; exact encFind_norm k rest xs h.2 nd.2 hx hk
theorem encSEl_norm : (e : SEl) → (xs : List XD) → e.RTI → e.nodupKeys → XOKC xs →
    encSEl (normSEl e xs) xs = encSEl e xs
  | .mk k v, xs, h, nd, hx => by
    have h1 := encSt_norm k xs h.1 nd.1 hx
    have hst := ((encSt_appends k xs h.1).stateC hx).2
    have h2 := encSt_norm v (encSt k xs).2 h.2.1 nd.2 hst
    simp only [normSEl, encSEl, h1, h2]
theorem encMEl_norm : (e : MEl) → (xs : List XD) → e.RTI → e.nodupKeys → XOKC xs →
    encMEl (normMEl e xs) xs = encMEl e xs
  | .single e, xs, h, nd, hx => by simp only [normMEl, encMEl, encSEl_norm e xs h nd hx]
  | .inl els, xs, h, nd, hx => by simp only [normMEl, encMEl, encMEls_norm els xs h nd hx]
  | .ext _, xs, _, _, _ => by simp only [normMEl]
theorem encMEls_norm : (els : MEls) → (xs : List XD) → els.RTI → els.nodupKeys → XOKC xs →
    encMEls (normMEls els xs) xs = encMEls els xs
  | .hkey _ _ es, xs, h, nd, hx => by
    simp only [normMEls, encMEls, length_normMElList, encMElList_norm es xs h.2.2.2.2.1 nd hx]
  | .single _ es, xs, h, nd, hx => by
    simp only [normMEls, encMEls, length_normSElList, encSElList_norm es xs h.2.2.2.1 nd hx]
theorem encMElList_norm : (l : List MEl) → (xs : List XD) → rtiMElList l → nodupKeysMElList l → XOKC xs →
    encMElList (normMElList l xs) xs = encMElList l xs
  | [], xs, _, _, _ => by simp only [normMElList]
  | e :: es, xs, h, nd, hx => by
    have h1 := encMEl_norm e xs h.1 nd.1 hx
    have hst := ((encMEl_appends e xs h.1).stateC hx).2
    have h2 := encMElList_norm es (encMEl e xs).2 h.2 nd.2 hst
    simp only [normMElList, encMElList, h1, h2]
theorem encSElList_norm : (l : List SEl) → (xs : List XD) → rtiSElList l → nodupKeysSElList l → XOKC xs →
    encSElList (normSElList l xs) xs = encSElList l xs
  | [], xs, _, _, _ => by simp only [normSElList]
  | e :: es, xs, h, nd, hx => by
    have h1 := encSEl_norm e xs h.1 nd.1 hx
    have hst := ((encSEl_appends e xs h.1).stateC hx).2
    have h2 := encSElList_norm es (encSEl e xs).2 h.2 nd.2 hst
    simp only [normSElList, encSElList, h1, h2]
end

/-- does the value of the first single element whose key is `k` hold a pointer -/
def valPtrOf (k : Nat × Nat) : List MEl → Bool
  | [] => false
  | .single (.mk (.val s p) v) :: rest => if (s, p) = k then v.hasPtr else valPtrOf k rest
  | _ :: rest => valPtrOf k rest

theorem any_valPtrOf_keys : ∀ (elems : List MEl) (keys : List (Nat × Nat)),
    elems.mapM compactKey = some keys → keys.Nodup →
    keys.any (fun k => valPtrOf k elems) = anyPtrMEl elems := by
  refine mapM_compactKey_induction (fun _ => rfl) ?_
  intro s p v es ks _ ih hnd
  obtain ⟨hnot, hnd'⟩ := List.nodup_cons.1 hnd
  have hrest : ks.any (fun k => valPtrOf k (MEl.single (SEl.mk (Stor.val s p) v) :: es))
      = ks.any (fun k => valPtrOf k es) := by
    apply any_congr_mem
    intro k hkin
    have hne : (s, p) ≠ k := fun h => hnot (h ▸ hkin)
    simp only [valPtrOf, hne, ↓reduceIte]
  rw [List.any_cons, hrest, ih hnd']
  simp only [valPtrOf, ↓reduceIte, anyPtrMEl, MEl.hasPtr, SEl.hasPtr, Stor.hasPtr, Bool.false_or]

theorem anyPtr_normVals (elems : List MEl) (hfind : ∀ k st, (normFind k elems st).hasPtr = valPtrOf k elems) :
    ∀ (ks : List (Nat × Nat)) (st : List XD),
      anyPtrMEl (normVals elems ks st) = ks.any (fun k => valPtrOf k elems)
  | [], st => rfl
  | k :: ks, st => by
    simp only [normVals, anyPtrMEl, MEl.hasPtr, SEl.hasPtr, Stor.hasPtr, Bool.false_or, List.any_cons, hfind,
      anyPtr_normVals elems hfind ks]

mutual
theorem hasPtr_normSt : (s : Stor) → (xs : List XD) → s.nodupKeys → (normSt s xs).hasPtr = s.hasPtr
  | .val _ _, xs, _ => by simp only [normSt]
  | .ref _, xs, _ => by simp only [normSt]
  | .some s, xs, nd => by simp only [normSt, Stor.hasPtr, hasPtr_normSt s xs nd]
  | .arr ty idx es, xs, nd => by simp only [normSt, Stor.hasPtr, anyPtrSts_norm es _ nd]
  | .map x idx (.hkey level hkeys elems), xs, nd => by
    cases hc : compactKeys x elems with
    | none => simp only [normSt, hc, Stor.hasPtr, MEls.hasPtr, anyPtrMEl_norm elems _ nd.2]
    | some keys =>
      have hm := compactKeys_mapM hc
      have hnd := nd.1 keys hc
      have hperm := addCompactXD_perm xs x hkeys keys
      have hfind : ∀ k st, (normFind k elems st).hasPtr = valPtrOf k elems :=
        fun k st => hasPtr_normFind k elems st nd.2
      have hany : anyPtrMEl (normVals elems (addCompactXD xs x hkeys keys).2.1 (addCompactXD xs x hkeys keys).2.2)
          = anyPtrMEl elems := by
        rw [anyPtr_normVals elems hfind, hperm.any_eq]
        exact any_valPtrOf_keys elems keys hm hnd
      rw [normSt_compact hc]
      split <;> simp only [Stor.hasPtr, MEls.hasPtr, hany]
  | .map x idx (.single level elems), xs, nd => by
    simp only [normSt, Stor.hasPtr, MEls.hasPtr, anyPtrSEl_norm elems _ nd]
theorem anyPtrSts_norm : (l : List Stor) → (xs : List XD) → nodupKeysSts l → anyPtrSts (normSts l xs) = anyPtrSts l
  | [], xs, _ => by simp only [normSts]
  | s :: ss, xs, nd => by simp only [normSts, anyPtrSts, hasPtr_normSt s xs nd.1, anyPtrSts_norm ss _ nd.2]
theorem hasPtr_normFind : (k : Nat × Nat) → (l : List MEl) → (xs : List XD) → nodupKeysMElList l →
    (normFind k l xs).hasPtr = valPtrOf k l
  | k, [], xs, _ => by simp only [normFind, valPtrOf, Stor.hasPtr]
  | k, .single (.mk (.val s p) v) :: rest, xs, nd => by
    simp only [normFind, valPtrOf]
    split
    · exact hasPtr_normSt v xs nd.1.2
    · exact hasPtr_normFind k rest xs nd.2
  | k, .single (.mk (.ref _) _) :: rest, xs, nd => by simp only [normFind, valPtrOf]; exact hasPtr_normFind k rest xs nd.2
  | k, .single (.mk (.some _) _) :: rest, xs, nd => by simp only [normFind, valPtrOf]; exact hasPtr_normFind k rest xs nd.2
  | k, .single (.mk (.arr _ _ _) _) :: rest, xs, nd => by simp only [normFind, valPtrOf]; exact hasPtr_normFind k rest xs nd.2
  | k, .single (.mk (.map _ _ _) _) :: rest, xs, nd => by simp only [normFind, valPtrOf]; exact hasPtr_normFind k rest xs nd.2
  | k, .inl _ :: rest, xs, nd => by simp only [normFind, valPtrOf]; exact hasPtr_normFind k rest xs nd.2
  | k, .ext _ :: rest, xs, nd => by simp only [normFind, valPtrOf]; exact hasPtr_normFind k rest xs nd.2
theorem hasPtr_normSEl : (e : SEl) → (xs : List XD) → e.nodupKeys → (normSEl e xs).hasPtr = e.hasPtr
  | .mk k v, xs, nd => by simp only [normSEl, SEl.hasPtr, hasPtr_normSt k xs nd.1, hasPtr_normSt v _ nd.2]
theorem hasPtr_normMEl : (e : MEl) → (xs : List XD) → e.nodupKeys → (normMEl e xs).hasPtr = e.hasPtr
  | .single e, xs, nd => by simp only [normMEl, MEl.hasPtr, hasPtr_normSEl e xs nd]
  | .inl els, xs, nd => by simp only [normMEl, MEl.hasPtr, hasPtr_normMEls els xs nd]
  | .ext _, xs, _ => by simp only [normMEl]
theorem hasPtr_normMEls : (els : MEls) → (xs : List XD) → els.nodupKeys → (normMEls els xs).hasPtr = els.hasPtr
  | .hkey _ _ es, xs, nd => by simp only [normMEls, MEls.hasPtr, anyPtrMEl_norm es xs nd]
  | .single _ es, xs, nd => by simp only [normMEls, MEls.hasPtr, anyPtrSEl_norm es xs nd]
theorem anyPtrMEl_norm : (l : List MEl) → (xs : List XD) → nodupKeysMElList l →
    anyPtrMEl (normMElList l xs) = anyPtrMEl l
  | [], xs, _ => by simp only [normMElList]
  | e :: es, xs, nd => by simp only [normMElList, anyPtrMEl, hasPtr_normMEl e xs nd.1, anyPtrMEl_norm es _ nd.2]
theorem anyPtrSEl_norm : (l : List SEl) → (xs : List XD) → nodupKeysSElList l →
    anyPtrSEl (normSElList l xs) = anyPtrSEl l
  | [], xs, _ => by simp only [normSElList]
  | e :: es, xs, nd => by simp only [normSElList, anyPtrSEl, hasPtr_normSEl e xs nd.1, anyPtrSEl_norm es _ nd.2]
end

/-- encoding the decoded map data slab gives the register back -/
theorem encodeMapData_norm (s : MapData) (ok : MapDataOKC s) :
    encodeMapData { s with els := normMEls s.els [] } = encodeMapData s := by
  unfold encodeMapData
  simp only [encMEls_norm s.els [] ok.rt ok.nodup XOKC.nil, hasPtr_normMEls s.els [] ok.nodup]

/-- encoding the decoded array data slab gives the register back -/
theorem encodeArrData_norm (a : ArrData) (ok : ArrDataOKC a) :
    encodeArrData { a with elems := normSts a.elems [] } = encodeArrData a := by
  unfold encodeArrData
  simp only [encSts_norm a.elems [] ok.rt ok.nodup XOKC.nil, anyPtrSts_norm a.elems [] ok.nodup, length_normSts]

end Atree.Codec

import AtreeProofs.Codec.DecSteps
import AtreeProofs.Codec.InlIED
import AtreeProofs.Codec.CmpDefs
/-
  The inlined-extra-data section with compact-map entries (tag 249): shared type info (possibly by
  reference), count, seed, the digests as one byte string, the keys as an array.
-/
namespace Atree.Codec
open Atree Atree.Gen DM

theorem XD.validC_ty {x : XD} (h : x.validC) : validTy x.ty := by
  cases x with
  | arr t => exact h
  | map m => exact h.1
  | cmap m a b => exact h.1.1

theorem XD.valid_of_validC_arr {t : TyInfo} (h : (XD.arr t).validC) : (XD.arr t).valid := h
theorem XD.valid_of_validC_map {m : MapExtra} (h : (XD.map m).validC) : (XD.map m).valid := h

theorem head6_249 : head 6 CBORTagInlinedCompactMapExtraData = [0xd8, 249] := by decide

theorem acc_encodeXDC (dups : List Bytes) (hd : dups.length < 2 ^ 64) (x : XD) (hv : x.validC) :
    Acc (encodeXD dups x) 4 := by
  cases x with
  | arr ty => exact (acc_encodeXD dups hd (.arr ty) hv).mono (by omega)
  | map m => exact (acc_encodeXD dups hd (.map m) hv).mono (by omega)
  | cmap m hkeys keys =>
    obtain ⟨hm, hlen, h8192, hhk, hkv, _⟩ := hv
    have hA1 := acc_encodeMapExtraWith (acc_encodeTyRef dups hd m.ty hm.1) hm.2.1 hm.2.2
    have hA2 : Acc (head 2 (hkeys.length * digestSize) ++ encodeHkeys hkeys) 0 := by
      have := Acc.bytes (content := encodeHkeys hkeys) (by rw [length_encodeHkeys]; omega)
      rw [length_encodeHkeys] at this
      have he : hkeys.length * digestSize = 8 * hkeys.length := by simp only [digestSize]; omega
      rw [he]; exact this
    have hA3 : Acc (head 4 keys.length ++ keys.flatMap encodeKey) 2 := by
      have := Acc.array (l := keys.map encodeKey) (k := 1) (by simp [maxArrayElements]; omega) (by
        intro b hb
        obtain ⟨k, hk, rfl⟩ := List.mem_map.1 hb
        exact acc_encodeElem _ (hkv k hk))
      simpa [List.flatMap_def] using this
    have hl : AccList [encodeMapExtraWith (encodeTyRef dups) m,
        head 2 (hkeys.length * digestSize) ++ encodeHkeys hkeys, head 4 keys.length ++ keys.flatMap encodeKey] 2 := by
      intro b hb
      simp only [List.mem_cons, List.not_mem_nil, or_false] at hb
      rcases hb with rfl | rfl | rfl
      · exact hA1
      · exact hA2.mono (by omega)
      · exact hA3
    have h1 := Acc.array (by simp [maxArrayElements]) hl
    have h2 := Acc.tag8 249 h1
    simpa [encodeXD, head6_249, compactMapExtraDataLength, flatten_triple, List.append_assoc] using h2

/-- the key loop of `newCompactMapExtraData` -/
theorem decCompactKeys_reads (f : Nat) : ∀ (keys : List (Nat × Nat)),
    (∀ k ∈ keys, validElem { size := k.1, pay := .val k.2 }) → ∀ {d d' : Dec},
    d.Reads (keys.flatMap encodeKey) d' → decCompactKeys (f + 1) keys.length d = pure (keys, d')
  | [], _, d, d', h => by cases h.nil; simp [decCompactKeys]
  | k :: ks, hv, d, d', h => by
    simp only [List.flatMap_cons] at h
    obtain ⟨d1, h1, h2⟩ := h.split
    simp only [List.length_cons]
    unfold decCompactKeys
    rw [decStG_elem_reads { size := k.1, pay := .val k.2 } (hv k (List.mem_cons_self ..)) f 0 0 []
      (by simp [maxDecodeDepth]) h1]
    simp only [DM.pure_bind, Stor.ofElem]
    rw [decCompactKeys_reads f ks (fun y hy => hv y (List.mem_cons_of_mem _ hy)) h2]
    rfl

/-- slots `decXD` allocates for one entry -/
def xdAllocs : XD → Nat
  | .cmap _ hkeys keys => hkeys.length + keys.length
  | _ => 0

/-- one entry of the section, the compact form included -/
theorem decXD_readsC (f : Nat) (tis : List TyInfo) (htis : ∀ t ∈ tis, validTy t) (hlen : tis.length < 2 ^ 64)
    (x : XD) (hv : x.validC) {d d' : Dec} (h : d.Reads (encodeXD (tis.map encodeTy) x) d') (n : Nat) :
    decXD (f + 1) tis d n = .ok (x, d') (n + xdAllocs x) := by
  cases x with
  | arr ty => rw [decXD_reads (f + 1) tis htis hlen (.arr ty) hv h]; rfl
  | map m => rw [decXD_reads (f + 1) tis htis hlen (.map m) hv h]; rfl
  | cmap m hkeys keys =>
    obtain ⟨hm, hkl, h8192, hhk, hkv, _⟩ := hv
    have hklen : (encodeHkeys hkeys).length = hkeys.length * digestSize := by
      rw [length_encodeHkeys]; simp only [digestSize]; omega
    simp only [encodeXD, head6_249, List.append_assoc] at h
    obtain ⟨d1, h1, h⟩ := h.split
    obtain ⟨d2, h2, h⟩ := h.split
    obtain ⟨d3, h3, h⟩ := h.split
    rw [← List.append_assoc (head 2 _)] at h
    obtain ⟨d4, h4, h⟩ := h.split
    obtain ⟨d5, h5, h6⟩ := h.split
    unfold decXD
    rw [decodeTagNumber_reads _ h1]
    simp only [DM.liftOpt_some, DM.pure_bind, CBORTagInlinedArrayExtraData, CBORTagInlinedMapExtraData,
      CBORTagInlinedCompactMapExtraData, show ¬ ((249 : Nat) = 247) by decide, show ¬ ((249 : Nat) = 248) by decide,
      ↓reduceIte]
    unfold newCompactMapExtraData
    rw [decodeArrayHead_reads (by simp [compactMapExtraDataLength]) h2]
    simp only [DM.liftOpt_some, DM.pure_bind, ne_eq, not_true_eq_false, ↓reduceIte]
    rw [newMapExtraData_reads tis htis hlen m hm h3]
    simp only [DM.pure_bind]
    rw [decodeBytes_reads_head (l := hkeys.length * digestSize) (by simp only [digestSize]; omega) hklen h4]
    simp only [DM.liftOpt_some, DM.pure_bind]
    have hmod : ¬ ((encodeHkeys hkeys).length % digestSize ≠ 0) := by rw [hklen]; simp [digestSize]
    have hdiv : (encodeHkeys hkeys).length / digestSize = hkeys.length := by rw [hklen]; simp [digestSize]
    have hmax : ¬ (hkeys.length > maxUint32) := by simp only [maxUint32]; omega
    simp only [hmod, ↓reduceIte, hdiv, hmax]
    rw [decodeArrayHead_reads (by omega) h5]
    simp only [DM.liftOpt_some, DM.pure_bind]
    have hkc : ¬ (keys.length ≠ hkeys.length) := by omega
    simp only [hkc, ↓reduceIte]
    rw [DM.alloc_bind, DM.alloc_bind]
    have hdig : digestsOf hkeys.length (encodeHkeys hkeys) = hkeys := by
      simpa using digestsOf_encodeHkeys hkeys [] hhk
    simp only [hdig]
    rw [decCompactKeys_reads f keys hkv h6]
    simp only [DM.pure_bind, DM.pure_apply, xdAllocs, Nat.add_assoc]

theorem decXDs_readsC (f : Nat) (tis : List TyInfo) (htis : ∀ t ∈ tis, validTy t) (hlen : tis.length < 2 ^ 64) :
    ∀ (xs : List XD), (∀ x ∈ xs, x.validC) → ∀ {d d' : Dec} (n : Nat),
      d.Reads (xs.flatMap (encodeXD (tis.map encodeTy))) d' →
      decXDs (f + 1) tis xs.length d n = .ok (xs, d') (n + (xs.map xdAllocs).sum)
  | [], _, d, d', n, h => by cases h.nil; simp [decXDs, DM.pure_apply]
  | x :: xs, hv, d, d', n, h => by
    simp only [List.flatMap_cons] at h
    obtain ⟨d1, h1, h2⟩ := h.split
    simp only [List.length_cons]
    unfold decXDs
    rw [DM.bind_ok (decXD_readsC f tis htis hlen x (hv x (List.mem_cons_self ..)) h1 n)]
    simp only
    rw [DM.bind_ok (decXDs_readsC f tis htis hlen xs (fun y hy => hv y (List.mem_cons_of_mem _ hy)) _ h2)]
    simp only [DM.pure_apply, List.map_cons, List.sum_cons, Nat.add_assoc]

/-- `newInlinedExtraDataFromData` on an encoded inlined-extra-data section followed by `rest`: the
    entries come back; the decoder allocates one slot per duplicated type info, one per entry and, for a
    compact-map entry, one per digest and per key (`xdAllocs`) -/
theorem newInlinedExtraDataFromData_encC (xs : List XD) (hx : XOKC xs) (hne : xs ≠ []) (hlen : xs.length ≤ 256)
    (rest : Bytes) (n : Nat) :
    newInlinedExtraDataFromData (encodeIED xs ++ rest) n
      = .ok (xs, rest) (n + (findDuplicateTypeInfo xs).length + xs.length + (xs.map xdAllocs).sum) := by
  have hv : ∀ x ∈ xs, x.validC := hx
  -- the duplicated type infos as type infos
  obtain ⟨tis, htd, htv⟩ := exists_tis (findDuplicateTypeInfo xs) (by
    intro b hb
    have := mem_findDuplicateTypeInfo hb
    obtain ⟨x, hxm, rfl⟩ := List.mem_map.1 this
    exact ⟨x.ty, XD.validC_ty (hv x hxm), rfl⟩)
  have hdl := length_findDuplicateTypeInfo_le xs
  have htl : tis.length = (findDuplicateTypeInfo xs).length := by rw [← htd]; simp
  have htl64 : tis.length < 2 ^ 64 := by omega
  -- the shape of the encoding
  have henc : encodeIED xs = head 4 2 ++ (head 4 tis.length ++ ((tis.map encodeTy).flatten ++
      (head 4 xs.length ++ xs.flatMap (encodeXD (tis.map encodeTy))))) := by
    unfold encodeIED
    simp only [inlinedExtraDataArrayCount, htd, htl, List.append_assoc]
  -- the validator accepts it
  have hacc : Acc (encodeIED xs) 6 := by
    have hA1 : Acc (head 4 (tis.map encodeTy).length ++ (tis.map encodeTy).flatten) 2 := by
      refine Acc.array (by simp [maxArrayElements]; omega) ?_
      intro b hb
      obtain ⟨t, ht, rfl⟩ := List.mem_map.1 hb
      exact acc_encodeTy t (htv t ht)
    have hA2 : Acc (head 4 (xs.map (encodeXD (tis.map encodeTy))).length ++ (xs.map (encodeXD (tis.map encodeTy))).flatten) 5 := by
      refine Acc.array (by simp [maxArrayElements]; omega) ?_
      intro b hb
      obtain ⟨x, hxm, rfl⟩ := List.mem_map.1 hb
      exact acc_encodeXDC _ (by simp; omega) x (hv x hxm)
    have hl : AccList [head 4 (tis.map encodeTy).length ++ (tis.map encodeTy).flatten,
        head 4 (xs.map (encodeXD (tis.map encodeTy))).length ++ (xs.map (encodeXD (tis.map encodeTy))).flatten] 5 := by
      intro b hb
      simp only [List.mem_cons, List.not_mem_nil, or_false] at hb
      rcases hb with rfl | rfl
      · exact hA1.mono (by omega)
      · exact hA2
    have := Acc.array (by simp [maxArrayElements]) hl
    rw [henc]
    simpa [flatten_pair, List.flatMap_def, List.append_assoc] using this
  have hw := wfNext_of_acc hacc (by decide) rest
  have hcnt1 : tis.length ≤ (encodeIED xs ++ rest).length := by
    have := length_le_flatten (tis.map encodeTy) (by
      intro b hb; obtain ⟨t, _, rfl⟩ := List.mem_map.1 hb; exact length_encodeTy_pos t)
    rw [henc]; simp only [List.length_append, List.length_map] at this ⊢; omega
  have hcnt2 : xs.length ≤ (encodeIED xs ++ rest).length := by
    have := length_le_flatMap_encodeXD (tis.map encodeTy) xs
    rw [henc]; simp only [List.length_append]; omega
  have hxpos : 0 < xs.length := List.length_pos_iff.2 hne
  -- the section is read piece by piece
  have hr := Dec.Reads.item (congrArg (· ++ rest) henc)
  obtain ⟨d1, h1, hr⟩ := hr.split
  obtain ⟨d2, h2, hr⟩ := hr.split
  obtain ⟨d3, h3, hr⟩ := hr.split
  obtain ⟨d4, h4, h5⟩ := hr.split
  unfold newInlinedExtraDataFromData
  simp only
  have hhead : (Dec.new (encodeIED xs ++ rest)).decodeArrayHead = some (2, d1) := by
    show Dec.decodeHeadOf 4 _ = _
    rw [decodeHeadOf_new hw]
    exact decodeArrayHead_reads (n := 2) (by omega) h1
  rw [hhead]
  simp only [DM.liftOpt_some, DM.pure_bind, inlinedExtraDataArrayCount, ne_eq, not_true_eq_false, ↓reduceIte]
  rw [decodeArrayHead_reads (by omega) h2]
  simp only [DM.liftOpt_some, DM.pure_bind, Nat.not_lt.2 hcnt1, gt_iff_lt, ↓reduceIte]
  rw [DM.alloc_bind]
  simp only
  rw [decTypeInfos_reads tis htv h3]
  simp only [DM.pure_bind]
  rw [decodeArrayHead_reads (by omega) h4]
  simp only [DM.liftOpt_some, DM.pure_bind, Nat.ne_of_gt hxpos, Nat.not_lt.2 hcnt2, ↓reduceIte]
  rw [DM.alloc_bind]
  simp only
  rw [DM.bind_ok (decXDs_readsC _ tis htv htl64 xs hv _ h5)]
  simp only [Dec.numBytesDecoded, ← henc]
  unfold sliceFrom
  rw [if_pos (by simp)]
  simp only [DM.pure_bind, List.drop_left, DM.pure_apply, htl]

end Atree.Codec

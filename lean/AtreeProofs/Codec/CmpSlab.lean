import AtreeProofs.Codec.CmpIED
/-
  What `DecodeSlab` on encoded map data / collision-group slabs and array data slabs needs when the
  elements contain inlined slabs in ANY form — inlined arrays, inlined maps, compact maps, at any
  depth.  The round-trip theorems under these hypotheses stand at the end of VDepthSlab.lean.
-/
namespace Atree.Codec
open Atree Atree.Gen DM

/-- What the encoder and the decoder rely on for a map data slab, inlined arrays / maps allowed,
    the compact form included. -/
structure MapDataOKC (s : MapData) : Prop where
  rt : s.els.RTI
  nodup : s.els.nodupKeys
  nest : s.els.vneedI ≤ maxNestedLevels
  entries : (encMEls s.els []).2.length ≤ 256
  next : validNext s.next
  extra : ∀ x, s.extra = some x → validMapExtra x
  size : s.size ≤ maxUint32

/-- slice elements the decoder allocates for the inlined-extra-data section -/
def iedAllocsC (xs : List XD) : Nat :=
  if xs.isEmpty then 0 else (findDuplicateTypeInfo xs).length + xs.length + (xs.map xdAllocs).sum

/-- What the encoder and the decoder rely on for an array data slab that holds at least one inlined
    array / map, the compact form included. -/
structure ArrDataOKC (a : ArrData) : Prop where
  rt : rtiSts a.elems
  nodup : nodupKeysSts a.elems
  nest : vneedISts a.elems + 1 ≤ maxNestedLevels
  count : a.elems.length < 65536
  inlined : (encSts a.elems []).2 ≠ []
  entries : (encSts a.elems []).2.length ≤ 256
  next : validNext a.next
  ty : ∀ t, a.ty = some t → validTy t
  size : a.size ≤ maxUint32

end Atree.Codec

import AtreeModel.Codec.Decode
/-
  A small Hoare logic for the decoder monad `DM`: `Safe m k P` says that `m`, started with any
  allocation counter, does not panic, allocates at most `k` further slice elements (whether it
  succeeds or fails), and returns a value satisfying `P` when it succeeds.
-/
namespace Atree.Codec
open DM

/-! General facts about the monad `DM`. -/

@[simp] theorem DM.pure_bind {α β : Type} (a : α) (f : α → DM β) : (pure a : DM α) >>= f = f a := by
  funext n; rfl

theorem DM.pure_bind' {α β : Type} (a : α) (f : α → DM β) : ((pure a : DM α) >>= f) = f a := rfl

@[simp] theorem DM.liftOpt_some {α : Type} (a : α) : DM.liftOpt (some a) = (pure a : DM α) := rfl

theorem DM.bind_assoc {α β γ : Type} (m : DM α) (f : α → DM β) (g : β → DM γ) :
    (m >>= f >>= g) = (m >>= fun a => f a >>= g) := by
  funext k
  show DM.bind' (DM.bind' m f) g k = DM.bind' m (fun a => DM.bind' (f a) g) k
  unfold DM.bind'
  cases m k <;> rfl

theorem DM.pure_apply {α : Type} (a : α) (n : Nat) : (pure a : DM α) n = .ok a n := rfl

theorem DM.run_pure {α : Type} (a : α) (k : Nat) : (pure a : DM α) k = .ok a k := rfl

theorem DM.fail_apply {α : Type} (e : DErr) (n : Nat) : (DM.fail e : DM α) n = .error e n := rfl

theorem DM.alloc_apply (k n : Nat) : DM.alloc k n = .ok () (n + k) := rfl

theorem DM.bind_ok {α β : Type} {m : DM α} {f : α → DM β} {n n' : Nat} {a : α} (h : m n = .ok a n') :
    (m >>= f) n = f a n' := by
  show DM.bind' m f n = _
  unfold DM.bind'; rw [h]

theorem DM.bind_error {α β : Type} {m : DM α} {f : α → DM β} {k k' : Nat} {e : DErr} (h : m k = .error e k') :
    (m >>= f) k = .error e k' := by
  show DM.bind' m f k = .error e k'
  unfold DM.bind'
  rw [h]

theorem DM.bind_panic {α β : Type} {m : DM α} {f : α → DM β} {k : Nat} (h : m k = .panic) :
    (m >>= f) k = .panic := by
  show DM.bind' m f k = .panic
  unfold DM.bind'
  rw [h]

theorem DM.alloc_bind {β : Type} (k : Nat) (f : Unit → DM β) :
    (DM.alloc k >>= f) = fun n => f () (n + k) := by
  funext n; rfl

theorem DM.ite_apply {α : Type} {c : Prop} [Decidable c] (a b : DM α) (n : Nat) :
    (if c then a else b) n = if c then a n else b n := by
  split <;> rfl

def Safe {α : Type} (m : DM α) (k : Nat) (P : α → Prop) : Prop :=
  ∀ n, match m n with
       | .ok a n' => n' ≤ n + k ∧ P a
       | .error _ n' => n' ≤ n + k
       | .panic => False

namespace Safe
variable {α β : Type}

theorem pure {a : α} {P : α → Prop} (h : P a) : Safe (Pure.pure a : DM α) 0 P := by
  intro n; exact ⟨Nat.le_refl _, h⟩

theorem fail {e : DErr} {P : α → Prop} : Safe (DM.fail e : DM α) 0 P := by
  intro n; exact Nat.le_refl _

theorem alloc (k : Nat) : Safe (DM.alloc k) k (fun _ => True) := by
  intro n; exact ⟨Nat.le_refl _, trivial⟩

theorem bind {m : DM α} {f : α → DM β} {k1 k2 : Nat} {P : α → Prop} {Q : β → Prop}
    (hm : Safe m k1 P) (hf : ∀ a, P a → Safe (f a) k2 Q) : Safe (m >>= f) (k1 + k2) Q := by
  intro n
  have h1 := hm n
  show match DM.bind' m f n with
       | .ok a n' => n' ≤ n + (k1 + k2) ∧ Q a
       | .error _ n' => n' ≤ n + (k1 + k2)
       | .panic => False
  unfold DM.bind'
  cases hmn : m n with
  | ok a n' =>
    rw [hmn] at h1
    have h2 := hf a h1.2 n'
    simp only
    cases hfa : f a n' with
    | ok b n'' => rw [hfa] at h2; exact ⟨by have := h1.1; have := h2.1; omega, h2.2⟩
    | error e n'' => rw [hfa] at h2; simp only; have := h1.1; omega
    | panic => rw [hfa] at h2; exact h2
  | error e n' => rw [hmn] at h1; simp only; omega
  | panic => rw [hmn] at h1; exact h1

theorem weaken {m : DM α} {k k' : Nat} {P Q : α → Prop}
    (hm : Safe m k P) (hk : k ≤ k') (hpq : ∀ a, P a → Q a) : Safe m k' Q := by
  intro n
  have h := hm n
  cases hmn : m n with
  | ok a n' => rw [hmn] at h; exact ⟨by have := h.1; omega, hpq a h.2⟩
  | error e n' => rw [hmn] at h; simp only; omega
  | panic => rw [hmn] at h; exact h

theorem bind_le {m : DM α} {f : α → DM β} {k1 k2 k : Nat} {P : α → Prop} {Q : β → Prop}
    (hm : Safe m k1 P) (hf : ∀ a, P a → Safe (f a) k2 Q) (hk : k1 + k2 ≤ k) : Safe (m >>= f) k Q :=
  weaken (bind hm hf) hk (fun _ h => h)

theorem bind0 {m : DM α} {f : α → DM β} {k : Nat} {P : α → Prop} {Q : β → Prop}
    (hm : Safe m 0 P) (hf : ∀ a, P a → Safe (f a) k Q) : Safe (m >>= f) k Q :=
  bind_le hm hf (by omega)

theorem ite {c : Prop} [Decidable c] {a b : DM α} {k : Nat} {P : α → Prop}
    (ha : c → Safe a k P) (hb : ¬c → Safe b k P) : Safe (if c then a else b) k P := by
  split
  · exact ha ‹_›
  · exact hb ‹_›

theorem liftOpt (o : Option α) : Safe (DM.liftOpt o) 0 (fun a => o = some a) := by
  cases o with
  | none => exact fail
  | some a => exact pure rfl

theorem sliceTo {data : Bytes} {b : Nat} (h : b ≤ data.length) :
    Safe (sliceTo data b) 0 (fun r => r = data.take b) := by
  unfold Codec.sliceTo; rw [if_pos h]; exact pure rfl

theorem sliceFrom {data : Bytes} {a : Nat} (h : a ≤ data.length) :
    Safe (sliceFrom data a) 0 (fun r => r = data.drop a) := by
  unfold Codec.sliceFrom; rw [if_pos h]; exact pure rfl

theorem be16 {b : Bytes} (h : 2 ≤ b.length) : Safe (be16 b) 0 (fun r => r = beVal (b.take 2)) := by
  unfold Codec.be16; rw [if_pos h]; exact pure rfl

theorem be32 {b : Bytes} (h : 4 ≤ b.length) : Safe (be32 b) 0 (fun r => r = beVal (b.take 4)) := by
  unfold Codec.be32; rw [if_pos h]; exact pure rfl

theorem be64 {b : Bytes} (h : 8 ≤ b.length) : Safe (be64 b) 0 (fun r => r = beVal (b.take 8)) := by
  unfold Codec.be64; rw [if_pos h]; exact pure rfl

/-- a big-endian field of `w` bytes at offset `k` of `data`: the slice from `k` on, then `be16` / `be32` / `be64` of it -/
theorem field {be : Bytes → DM Nat} {w : Nat} {r : Bytes → Nat}
    (hbe : ∀ {b : Bytes}, w ≤ b.length → Safe (be b) 0 (fun v => v = r b))
    {data : Bytes} {k : Nat} (h : k + w ≤ data.length) {f : Nat → DM β} {K : Nat} {P : β → Prop}
    (hf : ∀ v, Safe (f v) K P) : Safe (Codec.sliceFrom data k >>= fun b => be b >>= f) K P := by
  refine bind0 (sliceFrom (by omega)) ?_
  intro b hb
  refine bind0 (hbe (by subst hb; rw [List.length_drop]; omega)) ?_
  intro v _
  exact hf v

theorem run_ne_panic {m : DM α} {k : Nat} {P : α → Prop} (h : Safe m k P) : m.run ≠ .panic := by
  intro hp
  have := h 0
  unfold DM.run at hp
  rw [hp] at this
  exact this

end Safe

def Res.allocs {α : Type} : Res α → Nat
  | .ok _ n => n
  | .error _ n => n
  | .panic => 0

theorem Safe.run_allocs_le {α : Type} {m : DM α} {k : Nat} {P : α → Prop} (h : Safe m k P) :
    m.run.allocs ≤ k := by
  have := h 0
  unfold DM.run
  cases hm : m 0 with
  | ok a n => rw [hm] at this; simp [Res.allocs]; omega
  | error e n => rw [hm] at this; simp [Res.allocs]; simp at this; omega
  | panic => simp [Res.allocs]

end Atree.Codec

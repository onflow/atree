import AtreeProofs.Codec.EncLemmas
import AtreeProofs.Codec.CborLemmas
import AtreeProofs.Codec.Reads
import AtreeProofs.Codec.DM
/-
  The leaves of the decoder run on the encoder's output.  What `wfHead` reads off a head the encoder
  writes (`wfHead_head`, with `aiOf`); the stream-decoder operations on a block `d.Reads b d'`
  (`decodeHeadOf_reads`, `decodeBytes_reads` for any spelling of a head, and their instances); the
  fixed-width big-endian fields the slab decoders slice out of a register (`sliceFrom_at`, `be16_beBytes` …,
  `copyN`, slab IDs); elements and element lists of the first part (`decodeElem_reads`, `decodeElems_reads`).
-/
namespace Atree.Codec
open Atree Atree.Gen

/-- additional information of the minimal head for argument `n` -/
def aiOf (n : Nat) : Nat :=
  if n < 24 then n else if n < 256 then 24 else if n < 65536 then 25 else if n < 4294967296 then 26 else 27

theorem take_beBytes_append (k n : Nat) (rest : Bytes) : (beBytes k n ++ rest).take k = beBytes k n :=
  List.take_left' (length_beBytes k n)

theorem drop_beBytes_append (k n : Nat) (rest : Bytes) : (beBytes k n ++ rest).drop k = rest :=
  List.drop_left' (length_beBytes k n)

theorem wfHead_head {major n : Nat} (hm : major < 7) (hn : n < 2 ^ 64) (rest : Bytes) :
    wfHead (head major n ++ rest) = some (⟨major, aiOf n, n⟩, rest) := by
  have hmod : ∀ ai, ai < 32 → (major * 32 + ai) % 32 = ai ∧ (major * 32 + ai) / 32 % 8 = major := by
    intro ai h; omega
  have hlen : ∀ k (m : Nat), ¬ (beBytes k m ++ rest).length < k := by
    intro k m; rw [List.length_append, length_beBytes]; exact Nat.not_lt.2 (Nat.le_add_right _ _)
  unfold head aiOf
  by_cases h1 : n < 24
  · obtain ⟨ha, ht⟩ := hmod n (by omega)
    simp only [h1, ↓reduceIte, List.cons_append, List.nil_append, wfHead, ha, ht]
    rw [if_pos (by omega)]
  · by_cases h2 : n < 256
    · obtain ⟨ha, ht⟩ := hmod 24 (by decide)
      simp only [h1, h2, ↓reduceIte, List.cons_append, List.nil_append, wfHead, ha, ht, Nat.reduceLeDiff]
      rw [if_neg (by omega)]
    · by_cases h3 : n < 65536
      · obtain ⟨ha, ht⟩ := hmod 25 (by decide)
        simp only [h1, h2, h3, ↓reduceIte, List.cons_append, wfHead, ha, ht, Nat.reduceLeDiff, Nat.reduceEqDiff,
          hlen, take_beBytes_append, drop_beBytes_append, beVal_beBytes (k := 2) (by omega : n < 256 ^ 2)]
      · by_cases h4 : n < 4294967296
        · obtain ⟨ha, ht⟩ := hmod 26 (by decide)
          simp only [h1, h2, h3, h4, ↓reduceIte, List.cons_append, wfHead, ha, ht, Nat.reduceLeDiff, Nat.reduceEqDiff,
            hlen, take_beBytes_append, drop_beBytes_append, beVal_beBytes (k := 4) (by omega : n < 256 ^ 4)]
        · obtain ⟨ha, ht⟩ := hmod 27 (by decide)
          have h64 : n < 256 ^ 8 := hn
          simp only [h1, h2, h3, h4, ↓reduceIte, List.cons_append, wfHead, ha, ht, Nat.reduceLeDiff, Nat.reduceEqDiff,
            hlen, take_beBytes_append, drop_beBytes_append, beVal_beBytes h64]

theorem aiOf_ne_31 (n : Nat) : aiOf n ≠ 31 := by
  unfold aiOf; repeat' split
  all_goals omega

theorem wfHead_arrayHead16 {n : Nat} (hn : n < 65536) (rest : Bytes) :
    wfHead (arrayHead16 n ++ rest) = some (⟨4, 25, n⟩, rest) := by
  unfold arrayHead16
  simp [wfHead, beVal_beBytes (k := 2) (by omega : n < 256 ^ 2)]

theorem wfItemStep_tag8 (n : Nat) (rest : Bytes) (d : Nat) (stk : List Frame) :
    wfItemStep d false stk (0xd8 :: n :: rest) = some (.tag d :: stk, rest) := by
  unfold wfItemStep wfHead
  simp

theorem bsLen_le (t : Nat) : bsLen t ≤ t := by
  unfold bsLen
  by_cases c1 : t - 1 < 24
  · rw [if_pos c1]; exact Nat.sub_le _ _
  rw [if_neg c1]
  by_cases c2 : t - 2 < 256
  · rw [if_pos c2]; exact Nat.sub_le _ _
  rw [if_neg c2]
  by_cases c3 : t - 3 < 65536
  · rw [if_pos c3]; exact Nat.sub_le _ _
  · rw [if_neg c3]; exact Nat.sub_le _ _

theorem tvLen_le (size : Nat) : tvLen size ≤ size := by
  unfold tvLen
  by_cases hg : isGap size = true
  · rw [if_pos hg]; exact Nat.le_trans (bsLen_le _) (Nat.sub_le _ _)
  · rw [if_neg hg]; exact bsLen_le _

theorem tvLen_lt {size : Nat} (h3 : size < 2 ^ 32) : tvLen size < 2 ^ 63 :=
  Nat.lt_of_le_of_lt (tvLen_le size) (Nat.lt_trans h3 (by decide))

theorem head_ne_nil (m n : Nat) : head m n ≠ [] := fun h =>
  absurd (length_head m n ▸ headLen_pos n) (by rw [h]; exact Nat.not_succ_le_zero 0)

theorem first_byte_of_wfHead {hb : Bytes} {h : Head} {rest : Bytes} {b : Nat} {tl : Bytes}
    (hw : wfHead (hb ++ rest) = some (h, rest)) (hd : hb ++ rest = b :: tl) : b / 32 % 8 = h.t := by
  rw [hd] at hw
  exact (wfHead_spec hw).1.symm

theorem first_byte_type {m n : Nat} (hm : m < 7) (hn : n < 2 ^ 64) {rest : Bytes} {b : Nat} {tl : Bytes}
    (hd : head m n ++ rest = b :: tl) : b / 32 % 8 = m :=
  first_byte_of_wfHead (wfHead_head hm hn rest) hd

theorem Dec.Reads.nextType {d d' : Dec} {b : Nat} {bs : Bytes} (h : d.Reads (b :: bs) d') :
    d.nextType = some (ctypeOf b, d) :=
  nextType_pos (h.pos (List.cons_ne_nil _ _)) h.data

theorem Dec.Reads.nextType_head {m n : Nat} (hm : m < 7) (hn : n < 2 ^ 64) {bs : Bytes} {d d' : Dec}
    (h : d.Reads (head m n ++ bs) d') : ∃ b, b / 32 % 8 = m ∧ d.nextType = some (ctypeOf b, d) := by
  cases hd : head m n with
  | nil => exact absurd hd (head_ne_nil _ _)
  | cons b tl =>
    rw [hd, List.cons_append] at h
    exact ⟨b, first_byte_type (rest := []) hm hn (by rw [List.append_nil]; exact hd), h.nextType⟩

/-- a spelling of a head is not empty -/
theorem ne_nil_of_wfHead {hb : Bytes} {h : Head} (hw : ∀ rest, wfHead (hb ++ rest) = some (h, rest)) : hb ≠ [] := by
  intro h0
  have := wfHead_length (hw [])
  rw [h0] at this
  exact Nat.lt_irrefl _ this

/-- The stream decoder on a head `hb` (any spelling of it that `wfHead` reads as `h`). -/
theorem decodeHeadOf_reads {major : Nat} {hb : Bytes} {h : Head}
    (hw : ∀ rest, wfHead (hb ++ rest) = some (h, rest)) (ht : h.t = major) (hai : h.ai ≠ 31)
    {d d' : Dec} (hr : d.Reads hb d') : Dec.decodeHeadOf major d = some (h.val, d') := by
  have hne := ne_nil_of_wfHead hw
  unfold Dec.decodeHeadOf
  rw [prepareNext_pos (hr.pos hne)]
  simp only
  cases hd : d.data with
  | nil => rw [hr.data] at hd; exact absurd (List.append_eq_nil_iff.1 hd).1 hne
  | cons b tl =>
    have hb' := first_byte_of_wfHead (hw d'.data) (hr.data.symm.trans hd)
    simp only
    rw [← hd, hr.data, hw d'.data]
    simp only [hb', ht, ne_eq, not_true_eq_false, ↓reduceIte, hai]
    rw [hr.advance]

/-- The stream decoder on a byte string: head `hb`, then the content. -/
theorem decodeBytes_reads {hb content : Bytes} {h : Head}
    (hw : ∀ rest, wfHead (hb ++ rest) = some (h, rest)) (ht : h.t = 2) (hai : h.ai ≠ 31)
    (hv : h.val = content.length) {d d' : Dec} (hr : d.Reads (hb ++ content) d') :
    d.decodeBytes = some (content, d') := by
  have hne := ne_nil_of_wfHead hw
  unfold Dec.decodeBytes
  rw [prepareNext_pos (hr.pos (fun h0 => hne (List.append_eq_nil_iff.1 h0).1))]
  simp only
  cases hd : d.data with
  | nil => rw [hr.data] at hd; exact absurd (List.append_eq_nil_iff.1 (List.append_eq_nil_iff.1 hd).1).1 hne
  | cons b tl =>
    have hdata : d.data = hb ++ (content ++ d'.data) := by rw [hr.data, List.append_assoc]
    have hb' := first_byte_of_wfHead (hw (content ++ d'.data)) (hdata.symm.trans hd)
    simp only
    rw [← hd, hdata, hw (content ++ d'.data)]
    have h2 : ¬ (content ++ d'.data).length < h.val := by simp [hv]
    simp only [hb', ht, ne_eq, not_true_eq_false, ↓reduceIte, hai, h2]
    rw [hv, List.drop_left, List.take_left, hr.advance]

theorem decodeArrayHead_reads {n : Nat} (hn : n < 2 ^ 64) {d d' : Dec} (h : d.Reads (head 4 n) d') :
    d.decodeArrayHead = some (n, d') :=
  decodeHeadOf_reads (fun rest => wfHead_head (by omega) hn rest) rfl (aiOf_ne_31 n) h

theorem decodeUint64_reads {n : Nat} (hn : n < 2 ^ 64) {d d' : Dec} (h : d.Reads (head 0 n) d') :
    d.decodeUint64 = some (n, d') :=
  decodeHeadOf_reads (fun rest => wfHead_head (by omega) hn rest) rfl (aiOf_ne_31 n) h

theorem decodeTagNumber_reads (t : Nat) {d d' : Dec} (h : d.Reads [0xd8, t] d') : d.decodeTagNumber = some (t, d') :=
  decodeHeadOf_reads (h := ⟨6, 24, t⟩) (fun rest => by simp [wfHead]) rfl (by simp) h

theorem decodeBytes_reads_head {l : Nat} (hl : l < 2 ^ 64) {content : Bytes} (hc : content.length = l) {d d' : Dec} (h : d.Reads (head 2 l ++ content) d') : d.decodeBytes = some (content, d') :=
  decodeBytes_reads (fun rest => wfHead_head (by omega) hl rest) rfl (aiOf_ne_31 l) hc.symm h

theorem copyN_append_left {k : Nat} {a b : Bytes} (h : a.length = k) : copyN k (a ++ b) = a := by
  unfold copyN
  rw [List.take_left' h]
  have : k - (a ++ b).length = 0 := by simp [h]
  rw [this]; simp

/-! Fixed-width big-endian fields: the decoders slice the register at the offset of a field and read
    it with `be16` / `be32` / `be64` / `copyN`. -/

/-- `data[off:]` at the offset where a field starts: what precedes it has length `off` -/
theorem sliceFrom_at (pre rest : Bytes) {off : Nat} (h : off = pre.length) :
    sliceFrom (pre ++ rest) off = pure rest := by
  subst h
  unfold sliceFrom
  rw [if_pos (by simp), List.drop_left]

theorem sliceFrom_zero (data : Bytes) : sliceFrom data 0 = pure data := by
  unfold sliceFrom
  rw [if_pos (Nat.zero_le _), List.drop_zero]

theorem be16_beBytes {v : Nat} (hv : v < 65536) (rest : Bytes) : be16 (beBytes 2 v ++ rest) = pure v := by
  unfold be16
  rw [if_pos (by simp), take_beBytes_append, beVal_beBytes (by simpa using hv)]

theorem be32_beBytes {v : Nat} (hv : v < 2 ^ 32) (rest : Bytes) : be32 (beBytes 4 v ++ rest) = pure v := by
  unfold be32
  rw [if_pos (by simp), take_beBytes_append, beVal_beBytes (by simpa using hv)]

theorem be64_beBytes {v : Nat} (hv : v < 2 ^ 64) (rest : Bytes) : be64 (beBytes 8 v ++ rest) = pure v := by
  unfold be64
  rw [if_pos (by simp), take_beBytes_append, beVal_beBytes (by simpa using hv)]

theorem beVal_copyN_beBytes {k v : Nat} (hv : v < 256 ^ k) (rest : Bytes) :
    beVal (copyN k (beBytes k v ++ rest)) = v := by
  rw [copyN_append_left (length_beBytes _ _), beVal_beBytes hv]

theorem newSlabIDFromRawBytes_enc_append (id : SlabID) (ha : id.addr < 2 ^ 64) (hi : id.idx < 2 ^ 64)
    (more : Bytes) : newSlabIDFromRawBytes (encodeSlabID id ++ more) = pure id := by
  unfold newSlabIDFromRawBytes encodeSlabID
  rw [if_neg (by simp [SlabIDLength, SlabAddressLength, SlabIndexLength]; omega), List.append_assoc,
    sliceFrom_at _ _ (by simp)]
  simp only [DM.pure_bind]
  rw [beVal_copyN_beBytes (by simpa [SlabAddressLength] using ha), beVal_copyN_beBytes (by simpa [SlabIndexLength] using hi)]

theorem newSlabIDFromRawBytes_enc (id : SlabID) (ha : id.addr < 2 ^ 64) (hi : id.idx < 2 ^ 64) :
    newSlabIDFromRawBytes (encodeSlabID id) = pure id := by
  have := newSlabIDFromRawBytes_enc_append id ha hi []
  rwa [List.append_nil] at this

theorem tvFromBytes_content {l p : Nat} (hl : l < 2 ^ 32) (hp : p < 256 ^ min l 8) (extra : Nat) :
    tvFromBytes (tvContent l p) extra = { size := headLen l + l + extra, pay := .val p } := by
  unfold tvFromBytes
  simp only [length_tvContent]
  have hhd : (if l < 24 then 1 else if l < 256 then 2 else if l < 65536 then 3 else 5) = headLen l := by
    unfold headLen
    repeat' split
    all_goals omega
  rw [hhd]
  congr 2
  unfold tvContent
  by_cases h8 : l ≤ 8
  · have hm : min l 8 = l := Nat.min_eq_left h8
    rw [hm] at hp ⊢
    simp only [Nat.sub_self, List.replicate_zero, List.append_nil]
    rw [List.take_of_length_le (by simp; exact h8), beVal_beBytes hp]
  · have hm : min l 8 = 8 := Nat.min_eq_right (by omega)
    rw [hm] at hp ⊢
    rw [List.take_left' (length_beBytes _ _), beVal_beBytes hp]

theorem ctypeOf_d8 : ctypeOf 0xd8 = .tag := by decide

theorem ctypeOf_bytes {b : Nat} (h : b / 32 % 8 = 2) : ctypeOf b = .bytes := by
  unfold ctypeOf; rw [h]; rfl

/-- decoding an encoded element gives the element back -/
theorem decodeElem_reads (e : Elem) (hv : validElem e) {d d' : Dec} (h : d.Reads (encodeElem e) d') :
    decodeElem d = pure (e, d') := by
  unfold validElem at hv
  unfold encodeElem at h
  obtain ⟨size, pay⟩ := e
  cases pay with
  | ref id =>
    simp only [tagHead8, List.append_assoc] at hv h
    obtain ⟨d1, h1, h2⟩ := h.split
    unfold decodeElem
    rw [h1.nextType]
    simp only [DM.liftOpt_some, DM.pure_bind, ctypeOf_d8]
    rw [decodeTagNumber_reads _ h1]
    simp only [DM.liftOpt_some, DM.pure_bind, CBORTagSlabID, CBORTagInlinedArray, CBORTagInlinedMap,
      CBORTagInlinedCompactMap]
    simp only [show ¬ ((255 : Nat) = 250 ∨ (255 : Nat) = 251 ∨ (255 : Nat) = 252) by decide, ↓reduceIte]
    unfold decodeSlabIDStorable
    rw [decodeBytes_reads_head (by simp [SlabIDLength]) (by simp [length_encodeSlabID, SlabIDLength]) h2]
    simp only [DM.liftOpt_some, DM.pure_bind]
    rw [newSlabIDFromRawBytes_enc id hv.2.1 hv.2.2]
    simp only [DM.pure_bind, hv.1]
  | val p =>
    simp only at hv h
    have hl32 : tvLen size < 2 ^ 32 := Nat.lt_of_le_of_lt (tvLen_le size) hv.2.2.1
    have hts := tv_size hv.1 hv.2.1 hv.2.2.1
    by_cases hg : isGap size = true
    · simp only [hg, ↓reduceIte, tagHead8, List.append_assoc] at hts h
      obtain ⟨d1, h1, h2⟩ := h.split
      unfold decodeElem
      rw [h1.nextType]
      simp only [DM.liftOpt_some, DM.pure_bind, ctypeOf_d8]
      rw [decodeTagNumber_reads _ h1]
      simp only [DM.liftOpt_some, DM.pure_bind, CBORTagSlabID, CBORTagInlinedArray, CBORTagInlinedMap,
        CBORTagInlinedCompactMap, tagGapValue]
      simp only [show ¬ ((161 : Nat) = 250 ∨ (161 : Nat) = 251 ∨ (161 : Nat) = 252) by decide,
        show ¬ ((161 : Nat) = 255) by decide, ↓reduceIte]
      rw [decodeBytes_reads_head (by omega) (length_tvContent _ _) h2]
      simp only [DM.liftOpt_some, DM.pure_bind]
      rw [tvFromBytes_content hl32 hv.2.2.2, Nat.add_comm _ 2, ← Nat.add_assoc, hts]
    · simp only [hg, Bool.false_eq_true, ↓reduceIte, List.nil_append, Nat.zero_add] at hts h
      unfold decodeElem
      obtain ⟨b, hb, hnt⟩ := h.nextType_head (m := 2) (by omega) (by omega)
      rw [hnt]
      simp only [DM.liftOpt_some, DM.pure_bind, ctypeOf_bytes hb]
      rw [decodeBytes_reads_head (by omega) (length_tvContent _ _) h]
      simp only [DM.liftOpt_some, DM.pure_bind]
      rw [tvFromBytes_content hl32 hv.2.2.2, Nat.add_zero, hts]

-- `4294967295` is `math.MaxUint32` as the first part of the decoder model spells it (`decodeElems`).
theorem decodeElems_reads (l : List Elem) (hv : ∀ e ∈ l, validElem e) :
    ∀ {d d' : Dec} (size0 : Nat), d.Reads (l.flatMap encodeElem) d' → size0 + sumSizes l ≤ 4294967295 →
      decodeElems l.length d size0 = pure (l, size0 + sumSizes l, d') := by
  induction l with
  | nil =>
    intro d d' size0 h _
    cases h.nil
    simp [decodeElems, sumSizes]
  | cons e es ih =>
    intro d d' size0 h hS
    have hss : sumSizes (e :: es) = e.size + sumSizes es := by simp [sumSizes]
    rw [hss] at hS ⊢
    rw [List.flatMap_cons] at h
    obtain ⟨d1, h1, h2⟩ := h.split
    simp only [List.length_cons, decodeElems]
    rw [decodeElem_reads e (hv e (List.mem_cons_self ..)) h1]
    simp only [DM.pure_bind]
    rw [if_neg (by omega)]
    rw [ih (fun x hx => hv x (List.mem_cons_of_mem _ hx)) _ h2 (by omega)]
    simp only [DM.pure_bind, Nat.add_assoc]

end Atree.Codec

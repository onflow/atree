import AtreeProofs.Codec.RoundTripG
/-
  The stream-decoder operations on the fixed-width heads the encoder of the second part writes, and
  the content part of a data slab of the first part from a fresh stream decoder (with arbitrary
  trailing bytes; that the validator accepts the element array is read off `Acc`).
-/
namespace Atree.Codec
open Atree Atree.Gen DM

theorem decodeArrayHead_reads16 {n : Nat} (hn : n < 65536) {d d' : Dec} (h : d.Reads (arrayHead16 n) d') :
    d.decodeArrayHead = some (n, d') :=
  decodeHeadOf_reads (fun rest => wfHead_arrayHead16 hn rest) rfl (by simp) h

theorem decodeUint64_reads8 (i : Nat) {d d' : Dec} (h : d.Reads [0x18, i] d') : d.decodeUint64 = some (i, d') :=
  decodeHeadOf_reads (h := ⟨0, 24, i⟩) (fun rest => by simp [wfHead]) rfl (by simp) h

theorem decodeBytes_reads16 {content : Bytes} (hl : content.length < 65536) {d d' : Dec}
    (h : d.Reads (bytesHead16 content.length ++ content) d') : d.decodeBytes = some (content, d') :=
  decodeBytes_reads (fun rest => wfHead_bytesHead16 hl rest) rfl (by simp) rfl h

theorem wfNext_elements (l : List Elem) (hv : ∀ e ∈ l, validElem e) (hn : l.length < 65536)
    (rest : Bytes) : wfNext (encodeElements l ++ rest) = some rest := by
  have h := Acc.ofArrayHead (l := l.map encodeElem) (k := 1)
    (fun rest => wfHead_arrayHead16 hn rest) rfl (by simp) (List.length_map _).symm
    (by rw [List.length_map]; unfold maxArrayElements; omega)
    (fun b hb => by obtain ⟨e, he, rfl⟩ := List.mem_map.1 hb; exact acc_encodeElem e (hv e he))
  rw [← List.flatMap_def] at h
  exact wfNext_of_acc h (by decide) rest

theorem decodeArrayHead_elements (l : List Elem) (hv : ∀ e ∈ l, validElem e) (hn : l.length < 65536)
    (rest : Bytes) :
    (Dec.new (encodeElements l ++ rest)).decodeArrayHead
      = some (l.length, { data := l.flatMap encodeElem ++ rest, remaining := sumSizes l, consumed := 3 }) := by
  have hlen : (encodeElements l ++ rest).length - rest.length = 3 + sumSizes l := by
    simp [length_encodeElements l hv, arrayDataSlabElementHeadSize]
  have hp := prepareNext_new (wfNext_elements l hv hn rest)
  rw [hlen] at hp
  rw [Dec.decodeArrayHead, decodeHeadOf_prepared hp (by simp only; omega)]
  have hr := Dec.Reads.of_le (arrayHead16 l.length) (l.flatMap encodeElem ++ rest) (R := 3 + sumSizes l) 0
    (by simp [arrayHead16])
  have := decodeArrayHead_reads16 hn hr
  rw [length_arrayHead16, Nat.add_sub_cancel_left, Nat.zero_add, ← List.append_assoc] at this
  exact this

theorem decodeDataContent_enc (id : SlabID) (isRoot : Bool) (ty : Option TyInfo) (next : SlabID)
    (checkEOF : Bool) (l : List Elem) (hv : ∀ e ∈ l, validElem e) (hn : l.length < 65536)
    (hsz : (if isRoot then arrayRootDataSlabPrefixSize else arrayDataSlabPrefixSize) + sumSizes l ≤ 4294967295)
    (extra : Bytes) (n : Nat) :
    decodeDataContent id isRoot ty next checkEOF (encodeElements l ++ extra) n =
      if checkEOF = true ∧ extra ≠ [] then .error .decoding (n + l.length)
      else .ok (.data ty
        { hdr := { id := id, size := (if isRoot then arrayRootDataSlabPrefixSize else arrayDataSlabPrefixSize) + sumSizes l,
                   count := l.length },
          next := next, elems := l, root := ty.isSome, inlined := false }) (n + l.length) := by
  unfold decodeDataContent
  have hlen : ¬ (encodeElements l ++ extra).length < arrayDataSlabElementHeadSize := by
    simp [length_encodeElements l hv]; omega
  rw [if_neg hlen, decodeArrayHead_elements l hv hn]
  simp only [DM.liftOpt_some, DM.pure_bind]
  rw [if_neg (by omega), DM.alloc_bind]
  simp only
  rw [decodeElems_reads l hv _ (Dec.Reads.of_le (l.flatMap encodeElem) extra 3 (Nat.le_of_eq (length_flatMap_encodeElem l hv))) hsz]
  rw [DM.pure_bind]
  dsimp only
  unfold finishData
  have hl : (encodeElements l ++ extra).length = 3 + sumSizes l + extra.length := by
    simp [length_encodeElements l hv, arrayDataSlabElementHeadSize]
  rw [DM.ite_apply]
  refine ite_congr (propext ?_) (fun _ => rfl) (fun _ => rfl)
  simp only [Dec.numBytesDecoded, length_flatMap_encodeElem l hv]
  rw [hl]
  constructor
  · rintro ⟨h1, h2⟩
    refine ⟨h1, ?_⟩
    intro he; rw [he] at h2; simp at h2
  · rintro ⟨h1, h2⟩
    have : 0 < extra.length := List.length_pos_iff.2 h2
    exact ⟨h1, by omega⟩

end Atree.Codec

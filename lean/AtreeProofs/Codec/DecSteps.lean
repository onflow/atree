import AtreeProofs.Codec.DecOps
import AtreeProofs.ListAt
/-
  One step of each of the mutually recursive decoders of the second part, from a state that reads
  the bytes the encoder writes in front of the corresponding constructor's parts (`Dec.Reads`).
  What the recursive calls return is a hypothesis, and the decoder states between the calls are
  variables: the round trip (DecodeEnc.lean) is "split the encoding, recursive calls, exact step".
-/
namespace Atree.Codec
open Atree Atree.Gen DM

theorem stFromBytes_content {l p : Nat} (hl : l < 2 ^ 32) (hp : p < 256 ^ min l 8) (extra : Nat) :
    stFromBytes (tvContent l p) extra = .val (headLen l + l + extra) p := by
  unfold stFromBytes
  rw [tvFromBytes_content hl hp]

theorem decStG_of_decodeElem {d d' : Dec} {e : Elem} {n n' : Nat} (h : decodeElem d n = .ok (e, d') n')
    (fuel depth addr : Nat) (xs : List XD) (hdep : depth ≤ maxDecodeDepth) :
    decStG (fuel + 1) depth d addr xs n = .ok (Stor.ofElem e, d') n' := by
  unfold decodeElem at h
  unfold decStG
  rw [if_neg (Nat.not_lt.2 hdep)]
  cases hn : d.nextType with
  | none => rw [hn] at h; cases h
  | some p =>
    obtain ⟨t, d1⟩ := p
    rw [hn] at h
    simp only [DM.liftOpt_some, DM.pure_bind] at h ⊢
    cases t with
    | bytes =>
      simp only at h ⊢
      cases hb : d1.decodeBytes with
      | none => rw [hb] at h; cases h
      | some q =>
        rw [hb] at h
        cases h; rfl
    | tag =>
      simp only at h ⊢
      cases ht : d1.decodeTagNumber with
      | none => rw [ht] at h; cases h
      | some q =>
        obtain ⟨k, d2⟩ := q
        rw [ht] at h
        simp only [DM.liftOpt_some, DM.pure_bind] at h ⊢
        by_cases c0 : k = CBORTagInlinedArray ∨ k = CBORTagInlinedMap ∨ k = CBORTagInlinedCompactMap
        · rw [if_pos c0] at h; cases h
        rw [if_neg c0] at h
        rw [if_neg (fun c => c0 (Or.inl c)), if_neg (fun c => c0 (Or.inr (Or.inl c))),
          if_neg (fun c => c0 (Or.inr (Or.inr c)))]
        by_cases c1 : k = CBORTagSlabID
        · rw [if_pos c1] at h ⊢; rw [DM.bind_ok h]; rfl
        rw [if_neg c1] at h ⊢
        by_cases c2 : k = tagGapValue
        · rw [if_pos c2] at h ⊢
          cases hb : d2.decodeBytes with
          | none => rw [hb] at h; cases h
          | some q =>
            rw [hb] at h
            cases h; rfl
        rw [if_neg c2] at h
        by_cases c3 : k = tagSomeValue
        · rw [if_pos c3] at h; cases h
        · rw [if_neg c3] at h; cases h
    | uint => cases h
    | int => cases h
    | text => cases h
    | array => cases h
    | map => cases h
    | bignum => cases h
    | other => cases h
theorem decStG_elem_reads (e : Elem) (hv : validElem e) (fuel depth addr : Nat) (xs : List XD)
    (hdep : depth ≤ maxDecodeDepth) {d d' : Dec} (h : d.Reads (encodeElem e) d') :
    decStG (fuel + 1) depth d addr xs = pure (Stor.ofElem e, d') := by
  funext n
  exact decStG_of_decodeElem (by rw [decodeElem_reads e hv h]; rfl) fuel depth addr xs hdep

theorem decStG_tag8 (f depth t addr : Nat) (xs : List XD) (hd : depth ≤ maxDecodeDepth) {d d1 : Dec}
    (h : d.Reads [0xd8, t] d1) :
    decStG (f + 1) depth d addr xs
      = (if t = CBORTagInlinedArray then decInlArr f (depth + 1) d1 addr xs
         else if t = CBORTagInlinedMap then decInlMap f (depth + 1) d1 addr xs
         else if t = CBORTagInlinedCompactMap then decInlCMap f (depth + 1) d1 addr xs
         else if t = CBORTagSlabID then do
           let (e, d) ← decodeSlabIDStorable d1
           pure (Stor.ofElem e, d)
         else if t = tagGapValue then do
           let (b, d) ← liftOpt d1.decodeBytes
           pure (stFromBytes b 2, d)
         else if t = tagSomeValue then do
           let (s, d) ← decStG f (depth + 1) d1 addr xs
           pure (.some s, d)
         else fail) := by
  conv => lhs; unfold decStG
  rw [if_neg (Nat.not_lt.2 hd), h.nextType]
  simp only [DM.liftOpt_some, DM.pure_bind, ctypeOf_d8]
  rw [decodeTagNumber_reads _ h]
  simp only [DM.liftOpt_some, DM.pure_bind]

theorem decStG_some_step {f depth addr : Nat} {xs : List XD} {n n' : Nat} {s : Stor} {d d1 d' : Dec}
    (hd : depth ≤ maxDecodeDepth) (h0 : d.Reads [0xd8, tagSomeValue] d1)
    (h : decStG f (depth + 1) d1 addr xs n = .ok (s, d') n') :
    decStG (f + 1) depth d addr xs n = .ok (.some s, d') n' := by
  rw [decStG_tag8 f depth _ addr xs hd h0]
  simp only [CBORTagSlabID, CBORTagInlinedArray, CBORTagInlinedMap, CBORTagInlinedCompactMap, tagGapValue,
    tagSomeValue, show ¬ ((165 : Nat) = 250) by decide, show ¬ ((165 : Nat) = 251) by decide,
    show ¬ ((165 : Nat) = 252) by decide, show ¬ ((165 : Nat) = 255) by decide,
    show ¬ ((165 : Nat) = 161) by decide, ↓reduceIte]
  rw [DM.bind_ok h]; rfl

theorem ctypeOf_82 : ctypeOf 0x82 = .array := by decide

theorem level_head {level : Nat} (h : level < 24) : [level % 256] = head 0 level := by
  unfold head; rw [if_pos h]; simp; omega

theorem headLen_small {n : Nat} (h : n < 24) : headLen n = 1 := by
  unfold headLen; rw [if_pos h]

theorem digestsOf_encodeHkeys : ∀ (hkeys : List Nat) (more : Bytes), (∀ h ∈ hkeys, h < 2 ^ 64) →
    digestsOf hkeys.length (encodeHkeys hkeys ++ more) = hkeys
  | [], more, _ => rfl
  | h :: t, more, hv => by
    have he : encodeHkeys (h :: t) = beBytes digestSize h ++ encodeHkeys t := rfl
    rw [he, List.append_assoc]
    simp only [List.length_cons, digestsOf]
    rw [take_beBytes_append, drop_beBytes_append, beVal_beBytes (by simpa [digestSize] using hv h (List.mem_cons_self ..)),
      digestsOf_encodeHkeys t more (fun x hx => hv x (List.mem_cons_of_mem _ hx))]

theorem getXD_some {xs : List XD} {i : Nat} {x : XD} (h : xs[i]? = some x) : getXD xs i = pure x := by
  unfold getXD
  rw [if_neg (Nat.not_le.2 (lt_length_of_getElem? h)), h]

theorem decodeIdx_reads {idx : Nat} (hidx : idx < 2 ^ 64) {d d' : Dec} (h : d.Reads (encodeIdx idx) d') :
    decodeIdx d = pure (idx, d') := by
  unfold decodeIdx
  rw [decodeBytes_reads_head (by simp [SlabIndexLength]) (length_beBytes _ _) h]
  simp only [DM.liftOpt_some, DM.pure_bind, length_beBytes, ne_eq, not_true_eq_false, ↓reduceIte]
  have : copyN SlabIndexLength (beBytes SlabIndexLength idx) = beBytes SlabIndexLength idx := by
    have := copyN_append_left (b := []) (length_beBytes SlabIndexLength idx)
    simpa using this
  rw [this, beVal_beBytes (by simpa [SlabIndexLength] using hidx)]

/-- the tag number, the bytes `0x83 0x18 i` and the slab index that open the three inlined forms -/
theorem inl_open {tag i idx : Nat} (hi : i < 256) (hidx : idx < 2 ^ 64) {d d' : Dec}
    (h : d.Reads (inlinedHead tag i ++ encodeIdx idx) d') :
    ∃ d1 d2 d3, d.Reads [0xd8, tag] d1 ∧ d1.decodeArrayHead = some (3, d2) ∧ d2.decodeUint64 = some (i, d3) ∧
      decodeIdx d3 = pure (idx, d') := by
  have hE : inlinedHead tag i ++ encodeIdx idx = [0xd8, tag] ++ (head 4 3 ++ ([0x18, i % 256] ++ encodeIdx idx)) := by
    simp [inlinedHead, head]
  rw [hE] at h
  obtain ⟨d1, h1, h⟩ := h.split
  obtain ⟨d2, h2, h⟩ := h.split
  obtain ⟨d3, h3, h4⟩ := h.split
  refine ⟨d1, d2, d3, h1, decodeArrayHead_reads (by omega) h2, ?_, decodeIdx_reads hidx h4⟩
  rw [decodeUint64_reads8 _ h3, Nat.mod_eq_of_lt hi]

/-- the opening in the decoders' text (`tri_inlOpen`): on such input it hands the entry and the decoder behind
    the extra-data index to the form's continuation `k` -/
theorem inlOpen_eq {β : Type} {xs : List XD} {i cnt : Nat} {x : XD} {d1 d2 d3 : Dec} {k : XD → Nat × Dec → DM β}
    (hcnt : cnt = 3) (h1 : d1.decodeArrayHead = some (3, d2)) (h2 : d2.decodeUint64 = some (i, d3))
    (hgx : xs[i]? = some x) :
    (DM.liftOpt d1.decodeArrayHead >>= fun p => if p.1 ≠ cnt then DM.fail else
      DM.liftOpt p.2.decodeUint64 >>= fun q => getXD xs q.1 >>= fun x => k x q) = k x (i, d3) := by
  subst hcnt
  rw [h1]
  simp only [DM.liftOpt_some, DM.pure_bind, ne_eq, not_true_eq_false, ↓reduceIte]
  rw [h2]
  simp only [DM.liftOpt_some, DM.pure_bind]
  rw [getXD_some hgx, DM.pure_bind]

theorem decStG_inlArr_wrap {f' depth addr : Nat} {xs : List XD} {n : Nat} {ty : TyInfo} {i idx cnt : Nat}
    {esR : List Stor} {szR n' : Nat} {d d1 d' : Dec}
    (hgx : xs[i]? = some (.arr ty)) (hi : i < 256) (hidx : idx < 2 ^ 64) (hcnt : cnt < 65536)
    (hd : depth ≤ maxDecodeDepth)
    (h0 : d.Reads (inlinedHead CBORTagInlinedArray i ++ encodeIdx idx ++ arrayHead16 cnt) d1)
    (hdec : decStsG f' cnt (depth + 1) d1 addr xs inlinedArrayDataSlabPrefixSize (n + cnt) = .ok (esR, szR, d') n') :
    decStG (f' + 2) depth d addr xs n = .ok (.arr ty idx esR, d') n' := by
  obtain ⟨d0, h0, h4⟩ := h0.split
  obtain ⟨da, db, dc, ht, h1, h2, h3⟩ := inl_open hi hidx h0
  rw [decStG_tag8 _ depth _ addr xs hd ht, if_pos rfl]
  unfold decInlArr
  refine (congrFun (inlOpen_eq rfl h1 h2 hgx) n).trans ?_
  simp only
  rw [h3]
  simp only [DM.pure_bind]
  rw [decodeArrayHead_reads16 hcnt h4]
  simp only [DM.liftOpt_some, DM.pure_bind]
  rw [if_neg (by simp only [maxUint32]; omega), DM.alloc_bind]
  simp only
  rw [DM.bind_ok hdec]; rfl

theorem decStG_inlMap_wrap {f' depth addr : Nat} {xs : List XD} {n : Nat} {mx : MapExtra} {i idx : Nat}
    {elsR : MEls} {n' : Nat} {d d1 d' : Dec}
    (hgx : xs[i]? = some (.map mx)) (hi : i < 256) (hidx : idx < 2 ^ 64)
    (hd : depth ≤ maxDecodeDepth) (hsz : inlinedMapDataSlabPrefixSize + elsR.size ≤ maxUint32)
    (h0 : d.Reads (inlinedHead CBORTagInlinedMap i ++ encodeIdx idx) d1)
    (hdec : decMElsG f' (depth + 1) d1 addr xs n = .ok (elsR, d') n') :
    decStG (f' + 2) depth d addr xs n = .ok (.map mx idx elsR, d') n' := by
  obtain ⟨da, db, dc, ht, h1, h2, h3⟩ := inl_open hi hidx h0
  rw [decStG_tag8 _ depth _ addr xs hd ht, if_neg (by decide), if_pos rfl]
  unfold decInlMap
  refine (congrFun (inlOpen_eq rfl h1 h2 hgx) n).trans ?_
  simp only
  rw [h3]
  simp only [DM.pure_bind]
  rw [DM.bind_ok hdec]
  simp only [if_neg (Nat.not_lt.2 hsz)]
  rfl

theorem decStG_inlCMap_wrap {f' depth addr : Nat} {xs : List XD} {n : Nat} {mx : MapExtra} {hk : List Nat}
    {cached : List (Nat × Nat)} {i idx : Nat} {valsR : List MEl} {szR n' : Nat} {d d1 d' : Dec}
    (hgx : xs[i]? = some (.cmap mx hk cached)) (hi : i < 256) (hidx : idx < 2 ^ 64) (hcl : cached.length < 2 ^ 64)
    (hd : depth ≤ maxDecodeDepth) (hsz : inlinedMapDataSlabPrefixSize + szR ≤ maxUint32)
    (h0 : d.Reads (inlinedHead CBORTagInlinedCompactMap i ++ encodeIdx idx ++ head 4 cached.length) d1)
    (hdec : decCVals f' cached (depth + 1) d1 addr xs hkeyElementsPrefixSize (n + hk.length + cached.length)
      = .ok (valsR, szR, d') n') :
    decStG (f' + 2) depth d addr xs n = .ok (.map mx idx (.hkey 0 hk valsR), d') n' := by
  obtain ⟨d0, h0, h4⟩ := h0.split
  obtain ⟨da, db, dc, ht, h1, h2, h3⟩ := inl_open hi hidx h0
  rw [decStG_tag8 _ depth _ addr xs hd ht, if_neg (by decide), if_neg (by decide), if_pos rfl]
  unfold decInlCMap
  refine (congrFun (inlOpen_eq rfl h1 h2 hgx) n).trans ?_
  simp only
  rw [h3]
  simp only [DM.pure_bind]
  rw [decodeArrayHead_reads hcl h4]
  simp only [DM.liftOpt_some, DM.pure_bind, ne_eq, not_true_eq_false, ↓reduceIte]
  rw [DM.alloc_bind, DM.alloc_bind]
  simp only
  rw [DM.bind_ok hdec]
  simp only [if_neg (Nat.not_lt.2 hsz)]
  rfl

/-! The steps take the fuel as `f + j` and the depth as it stands at the callee; a caller (the induction of DecodeEnc.lean)
has a bound `F + j ≤ fuel`, `d + (a + 1) ≤ M` and brings it into that shape with these. -/

theorem depth_succ {d a M : Nat} (h : d + (a + 1) ≤ M) : d + 1 + a ≤ M ∧ d ≤ M := by omega

/-- a decoder that needs `j` more units of fuel than its body -/
theorem take_fuel {F fuel : Nat} (j : Nat) (hf : F + j ≤ fuel) : ∃ f, fuel = f + j ∧ F ≤ f :=
  ⟨fuel - j, (Nat.sub_add_cancel (Nat.le_trans (Nat.le_add_left _ _) hf)).symm, Nat.le_sub_of_add_le hf⟩

/-! The list loops.  The size of the element just decoded is given as `w` with an equation, for the callers that know
it in another form. -/

theorem decStsG_cons {f m cdepth : Nat} {d d1 d2 : Dec} {addr : Nat} {xs : List XD} {size0 n n1 n2 w : Nat}
    {s : Stor} {ss : List Stor} {sz : Nat}
    (h1 : decStG f cdepth d addr xs n = .ok (s, d1) n1) (hw : s.size = w) (hle : size0 + w ≤ maxUint32)
    (h2 : decStsG f m cdepth d1 addr xs (size0 + w) n1 = .ok (ss, sz, d2) n2) :
    decStsG (f + 1) (m + 1) cdepth d addr xs size0 n = .ok (s :: ss, sz, d2) n2 := by
  subst hw
  simp only [decStsG]
  rw [DM.bind_ok h1]
  simp only [if_neg (Nat.not_lt.2 hle)]
  rw [DM.bind_ok h2]; rfl

theorem decSElsG_cons {f m cdepth : Nat} {d d1 d2 : Dec} {addr : Nat} {xs : List XD} {size0 n n1 n2 w : Nat}
    {e : SEl} {es : List SEl} {sz : Nat}
    (h1 : decSElG f cdepth d addr xs n = .ok (e, d1) n1) (hw : e.size = w) (hle : size0 + w ≤ maxUint32)
    (h2 : decSElsG f m cdepth d1 addr xs (size0 + w) n1 = .ok (es, sz, d2) n2) :
    decSElsG (f + 1) (m + 1) cdepth d addr xs size0 n = .ok (e :: es, sz, d2) n2 := by
  subst hw
  simp only [decSElsG]
  rw [DM.bind_ok h1]
  simp only [if_neg (Nat.not_lt.2 hle)]
  rw [DM.bind_ok h2]; rfl

theorem decMElListG_cons {f m cdepth : Nat} {d d1 d2 : Dec} {addr : Nat} {xs : List XD} {size0 n n1 n2 w : Nat}
    {e : MEl} {es : List MEl} {sz : Nat}
    (h1 : decMElG f cdepth d addr xs n = .ok (e, d1) n1) (hw : e.size = w)
    (hle : size0 + digestSize + w ≤ maxUint32)
    (h2 : decMElListG f m cdepth d1 addr xs (size0 + digestSize + w) n1 = .ok (es, sz, d2) n2) :
    decMElListG (f + 1) (m + 1) cdepth d addr xs size0 n = .ok (e :: es, sz, d2) n2 := by
  subst hw
  simp only [decMElListG]
  rw [DM.bind_ok h1]
  simp only [if_neg (Nat.not_lt.2 hle)]
  rw [DM.bind_ok h2]; rfl

theorem decCVals_cons {f cdepth : Nat} {k : Nat × Nat} {ks : List (Nat × Nat)} {d d1 d2 : Dec} {addr : Nat}
    {xs : List XD} {size0 n n1 n2 w : Nat} {v : Stor} {es : List MEl} {sz : Nat}
    (h1 : decStG f cdepth d addr xs n = .ok (v, d1) n1) (hw : v.size = w)
    (hle : size0 + digestSize + (singleElementPrefixSize + k.1 + w) ≤ maxUint32)
    (h2 : decCVals f ks cdepth d1 addr xs (size0 + digestSize + (singleElementPrefixSize + k.1 + w)) n1
      = .ok (es, sz, d2) n2) :
    decCVals (f + 1) (k :: ks) cdepth d addr xs size0 n = .ok (.single (.mk (.val k.1 k.2) v) :: es, sz, d2) n2 := by
  subst hw
  simp only [decCVals]
  rw [DM.bind_ok h1]
  simp only [if_neg (Nat.not_lt.2 (Nat.le_trans (Nat.le_add_left _ _) hle)), if_neg (Nat.not_lt.2 hle)]
  rw [DM.bind_ok h2]; rfl

theorem decSElG_pair {f cdepth addr : Nat} {xs : List XD} {n n1 n2 : Nat} {k v : Stor} {d d0 d1 d2 : Dec}
    (h0 : d.Reads [0x82] d0) (h1 : decStG f cdepth d0 addr xs n = .ok (k, d1) n1)
    (h2 : decStG f cdepth d1 addr xs n1 = .ok (v, d2) n2)
    (hsz : singleElementPrefixSize + k.size + v.size ≤ maxUint32) :
    decSElG (f + 1) cdepth d addr xs n = .ok (.mk k v, d2) n2 := by
  unfold decSElG
  have h82 : ([0x82] : Bytes) = head 4 2 := by simp [head]
  rw [h82] at h0
  rw [decodeArrayHead_reads (by omega) h0]
  simp only [DM.liftOpt_some, DM.pure_bind, ne_eq, not_true_eq_false, ↓reduceIte]
  rw [DM.bind_ok h1]
  simp only
  rw [DM.bind_ok h2]
  simp only [if_neg (Nat.not_lt.2 hsz)]
  rfl

theorem decMElG_single {f cdepth addr : Nat} {xs : List XD} {n n' : Nat} {e : SEl} {bs : Bytes} {d d' : Dec}
    (h0 : d.Reads (0x82 :: bs) d') (h : decSElG f cdepth d addr xs n = .ok (e, d') n') :
    decMElG (f + 1) cdepth d addr xs n = .ok (.single e, d') n' := by
  unfold decMElG
  rw [h0.nextType]
  simp only [DM.liftOpt_some, DM.pure_bind, ctypeOf_82]
  rw [DM.bind_ok h]; rfl

theorem decMElG_inl {f cdepth addr : Nat} {xs : List XD} {n n' : Nat} {els : MEls} {d d1 d' : Dec}
    (h0 : d.Reads [0xd8, CBORTagInlineCollisionGroup] d1)
    (h : decMElsG f cdepth d1 addr xs n = .ok (els, d') n') :
    decMElG (f + 1) cdepth d addr xs n = .ok (.inl els, d') n' := by
  unfold decMElG
  rw [h0.nextType]
  simp only [DM.liftOpt_some, DM.pure_bind, ctypeOf_d8]
  rw [decodeTagNumber_reads _ h0]
  simp only [DM.liftOpt_some, DM.pure_bind, ↓reduceIte]
  rw [DM.bind_ok h]; rfl

theorem decMElG_ext (f' cdepth : Nat) (id : SlabID) (hv : validElem { size := slabIDStorableSize, pay := .ref id })
    (addr : Nat) (xs : List XD) (n : Nat) (hd : cdepth ≤ maxDecodeDepth) {d d' : Dec}
    (h : d.Reads (0xd8 :: CBORTagExternalCollisionGroup :: encodeElem { size := slabIDStorableSize, pay := .ref id }) d') :
    decMElG (f' + 2) cdepth d addr xs n = .ok (.ext id, d') n := by
  obtain ⟨d1, h1, h2⟩ := Dec.Reads.split (a := [0xd8, CBORTagExternalCollisionGroup]) h
  unfold decMElG
  rw [h1.nextType]
  simp only [DM.liftOpt_some, DM.pure_bind, ctypeOf_d8]
  rw [decodeTagNumber_reads _ h1]
  simp only [DM.liftOpt_some, DM.pure_bind, CBORTagInlineCollisionGroup, CBORTagExternalCollisionGroup,
    show ¬ ((254 : Nat) = 253) by decide, ↓reduceIte]
  rw [decStG_elem_reads _ hv f' cdepth addr xs hd h2]
  simp only [DM.pure_bind, Stor.ofElem, DM.pure_apply]

theorem decMElsG_hkey {f cdepth : Nat} {level : Nat} {hkeys : List Nat} {cnt : Nat}
    {addr : Nat} {xs : List XD} {n n' : Nat} {es : List MEl} {sz : Nat} {d d1 d' : Dec}
    (hlev : level < 24) (hhk : ∀ h ∈ hkeys, h < 2 ^ 64) (hlen : hkeys.length = cnt) (h8192 : cnt < 8192)
    (h0 : d.Reads (0x83 :: level % 256 :: (bytesHead16 (hkeys.length * 8) ++ (encodeHkeys hkeys ++ arrayHead16 cnt))) d1)
    (h : decMElListG f cnt cdepth d1 addr xs hkeyElementsPrefixSize (n + hkeys.length + cnt) = .ok (es, sz, d') n') :
    decMElsG (f + 1) cdepth d addr xs n = .ok (.hkey level hkeys es, d') n' := by
  have hklen : (encodeHkeys hkeys).length = hkeys.length * 8 := by rw [length_encodeHkeys]; omega
  have hdig : digestsOf hkeys.length (encodeHkeys hkeys) = hkeys := by
    simpa using digestsOf_encodeHkeys hkeys [] hhk
  subst hlen
  generalize encodeHkeys hkeys = hk at hklen hdig h0
  have hstart : (0x83 : Nat) :: level % 256 :: (bytesHead16 (hkeys.length * 8) ++ (hk ++ arrayHead16 hkeys.length))
      = head 4 3 ++ (head 0 level ++ ((bytesHead16 hk.length ++ hk) ++ arrayHead16 hkeys.length)) := by
    rw [← level_head hlev, hklen]; simp [head]
  rw [hstart] at h0
  obtain ⟨d2, h1, h0⟩ := h0.split
  obtain ⟨d3, h2, h0⟩ := h0.split
  obtain ⟨d4, h3, h4⟩ := h0.split
  unfold decMElsG
  rw [decodeArrayHead_reads (by omega) h1]
  simp only [DM.liftOpt_some, DM.pure_bind, ne_eq, not_true_eq_false, ↓reduceIte]
  rw [decodeUint64_reads (by omega) h2]
  simp only [DM.liftOpt_some, DM.pure_bind]
  rw [decodeBytes_reads16 (by rw [hklen]; omega) h3]
  simp only [DM.liftOpt_some, DM.pure_bind]
  have hmod : ¬ (hk.length % digestSize ≠ 0) := by rw [hklen]; simp [digestSize]
  have hdiv : hk.length / digestSize = hkeys.length := by rw [hklen]; simp [digestSize]
  simp only [hmod, ↓reduceIte, hdiv]
  rw [DM.alloc_bind]
  simp only
  rw [hdig, decodeArrayHead_reads16 (by omega) h4]
  simp only [DM.liftOpt_some, DM.pure_bind]
  have hc1 : ¬ (hkeys.length > maxUint32) := by simp only [maxUint32]; omega
  have hc3 : ¬ (hkeys.length = 0 ∧ hkeys.length > 0) := by omega
  simp only [hc1, hc3, not_true_eq_false, and_false, ↓reduceIte]
  rw [DM.alloc_bind]
  simp only
  rw [DM.bind_ok h]; rfl

theorem decMElsG_single {f cdepth : Nat} {level cnt : Nat} {addr : Nat} {xs : List XD} {n n' : Nat}
    {es : List SEl} {sz : Nat} {d d1 d' : Dec}
    (hlev : level < 24) (hpos : 0 < cnt) (h64k : cnt < 65536)
    (h0 : d.Reads (0x83 :: level % 256 :: 0x40 :: arrayHead16 cnt) d1)
    (h : decSElsG f cnt cdepth d1 addr xs singleElementsPrefixSize (n + 0 + cnt) = .ok (es, sz, d') n') :
    decMElsG (f + 1) cdepth d addr xs n = .ok (.single level es, d') n' := by
  have hstart : (0x83 : Nat) :: level % 256 :: 0x40 :: arrayHead16 cnt
      = head 4 3 ++ (head 0 level ++ ((head 2 0 ++ ([] : Bytes)) ++ arrayHead16 cnt)) := by
    rw [← level_head hlev]; simp [head]
  rw [hstart] at h0
  obtain ⟨d2, h1, h0⟩ := h0.split
  obtain ⟨d3, h2, h0⟩ := h0.split
  obtain ⟨d4, h3, h4⟩ := h0.split
  unfold decMElsG
  rw [decodeArrayHead_reads (by omega) h1]
  simp only [DM.liftOpt_some, DM.pure_bind, ne_eq, not_true_eq_false, ↓reduceIte]
  rw [decodeUint64_reads (by omega) h2]
  simp only [DM.liftOpt_some, DM.pure_bind]
  rw [decodeBytes_reads_head (l := 0) (by omega) rfl h3]
  simp only [DM.liftOpt_some, DM.pure_bind, List.length_nil, Nat.zero_mod, not_true_eq_false,
    ↓reduceIte, Nat.zero_div]
  rw [DM.alloc_bind]
  simp only [digestsOf]
  rw [decodeArrayHead_reads16 h64k h4]
  simp only [DM.liftOpt_some, DM.pure_bind]
  have hc1 : ¬ (cnt > maxUint32) := by simp only [maxUint32]; omega
  have hc3 : (0 : Nat) = 0 ∧ cnt > 0 := ⟨rfl, hpos⟩
  simp only [hc1, hc3, ↓reduceIte, and_self]
  rw [DM.alloc_bind]
  simp only [false_and, ↓reduceIte]
  rw [DM.bind_ok h]; rfl

end Atree.Codec

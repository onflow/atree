import AtreeProofs.Codec.DecSteps
import AtreeProofs.Codec.InlState
import AtreeProofs.Codec.FuelLen
/-
  The round trip of the mutually recursive decoders of the second part, once for every value: on
  what the encoder writes for a value whose compact maps have distinct keys (`nodupKeys`) they
  return the normalised value `normSt s xs0` and consume exactly the bytes written.  The decoder is
  handed the complete list `xs` of extra-data entries of the slab; the encoder assigned its indexes
  while the list was still growing, so the statement is relative to a state `xs0` of the encoder of
  which `xs` is an extension.  The decoders recurse along the value they return, so the fuel is
  measured there (`fuelI` of the normalised value); the bound of 256 entries is on what the encoder
  has written (an index is one byte), not on the decoder's list.
  Without the compact form the normalised value is the value itself; without any inlined slab the
  encoder's state does not matter either.  The members stated at those two levels, and those with
  the fuel measured by the encoded length, are instances.
-/
namespace Atree.Codec
open Atree Atree.Gen DM

theorem decCVals_enc_norm (elems : List MEl) (hes : rtiMElList elems) (cdepth addr : Nat) (xs : List XD)
    (hfind : ∀ k, hasKey k elems → ∀ (fuel : Nat) (xs0 : List XD) (n : Nat) {d d' : Dec},
      XOKC xs0 → Ext (encFind k elems xs0).2 xs → (encFind k elems xs0).2.length ≤ 256 → (normFind k elems xs0).fuelI ≤ fuel →
      d.Reads (encFind k elems xs0).1 d' →
      decStG fuel cdepth d addr xs n = .ok (normFind k elems xs0, d') (n + (normFind k elems xs0).allocsI))
    (hsz : ∀ k xs0, (normFind k elems xs0).size = valSizeOf k elems) :
    ∀ (ks : List (Nat × Nat)), (∀ k ∈ ks, hasKey k elems) → ∀ (fuel : Nat) (xs0 : List XD) (size0 n : Nat)
      {d d' : Dec}, XOKC xs0 → Ext (encVals elems ks xs0).2 xs → (encVals elems ks xs0).2.length ≤ 256 →
      fuelIMElList (normVals elems ks xs0) ≤ fuel → d.Reads (encVals elems ks xs0).1 d' →
      size0 + (ks.map (keyElemSize elems)).sum ≤ maxUint32 →
      decCVals fuel ks cdepth d addr xs size0 n
        = .ok (normVals elems ks xs0, size0 + (ks.map (keyElemSize elems)).sum, d')
            (n + allocsIMElList (normVals elems ks xs0))
  | [], _, fuel, xs0, size0, n, d, d', _, _, _, _, hr, _ => by
    simp only [encVals] at hr
    cases hr.nil
    cases fuel <;> simp [decCVals, normVals, allocsIMElList, DM.pure_apply]
  | k :: ks, hks, fuel, xs0, size0, n, d, d', hx, he, h256, hf, hr, hS => by
    have hk : hasKey k elems := hks k (List.mem_cons_self ..)
    simp only [normVals, fuelIMElList, MEl.fuelI, SEl.fuelI] at hf
    obtain ⟨f, rfl, hf'⟩ := take_fuel 1 hf
    obtain ⟨hf1, hf2⟩ := Nat.max_le.1 hf'
    have hf1 : (normFind k elems xs0).fuelI ≤ f := by omega
    simp only [encVals] at he h256 hr
    obtain ⟨d1, hr1, hr2⟩ := hr.split
    have hst1 := (encFind_appends k elems xs0 hes).stateC hx
    have hst2 := (encVals_appends elems hes ks (encFind k elems xs0).2).stateC hst1.2
    simp only [List.map_cons, List.sum_cons, keyElemSize] at hS ⊢
    rw [← Nat.add_assoc size0, ← Nat.add_assoc size0] at hS ⊢
    have ih1 := hfind k hk f xs0 n hx (hst2.toExt.trans he) (Nat.le_trans hst2.toExt.length_le h256) hf1 hr1
    have ih2 := decCVals_enc_norm elems hes cdepth addr xs hfind hsz ks
      (fun k' hk' => hks k' (List.mem_cons_of_mem _ hk')) f (encFind k elems xs0).2
      (size0 + digestSize + (singleElementPrefixSize + k.1 + valSizeOf k elems))
      (n + (normFind k elems xs0).allocsI) hst1.2 he h256 hf2 hr2 hS
    simp only [normVals, allocsIMElList, MEl.allocsI, SEl.allocsI, Stor.allocsI, Nat.zero_add]
    rw [← Nat.add_assoc n]
    exact decCVals_cons ih1 (hsz k xs0) (Nat.le_trans (Nat.le_add_right _ _) hS) ih2

mutual
theorem decStG_enc_norm : (s : Stor) → s.RTI → s.nodupKeys → ∀ (fuel depth addr : Nat) (xs0 xs : List XD) (n : Nat)
    {d d' : Dec}, XOKC xs0 → Ext (encSt s xs0).2 xs → (encSt s xs0).2.length ≤ 256 →
    (normSt s xs0).fuelI ≤ fuel → depth + s.dneed ≤ maxDecodeDepth → d.Reads (encSt s xs0).1 d' →
    decStG fuel depth d addr xs n = .ok (normSt s xs0, d') (n + (normSt s xs0).allocsI)
  | .val size pay, h, _, fuel, depth, addr, xs0, xs, n, d, d', _, _, _, hf, hd, hr => by
    simp only [normSt, Stor.fuelI] at hf
    obtain ⟨f, rfl, _⟩ := take_fuel (F := 0) 1 hf
    simp only [encSt] at hr
    simp only [normSt]
    rw [decStG_elem_reads { size := size, pay := .val pay } h f depth addr xs hd hr]; rfl
  | .ref id, h, _, fuel, depth, addr, xs0, xs, n, d, d', _, _, _, hf, hd, hr => by
    simp only [normSt, Stor.fuelI] at hf
    obtain ⟨f, rfl, _⟩ := take_fuel (F := 0) 1 hf
    simp only [encSt] at hr
    simp only [normSt]
    rw [decStG_elem_reads { size := slabIDStorableSize, pay := .ref id } ⟨rfl, h.1, h.2⟩ f depth addr xs hd hr]; rfl
  | .some s, h, nd, fuel, depth, addr, xs0, xs, n, d, d', hx, he, h256, hf, hd, hr => by
    simp only [normSt, Stor.fuelI] at hf
    obtain ⟨hd1, hd0⟩ := depth_succ hd
    obtain ⟨f, rfl, hf'⟩ := take_fuel 1 hf
    simp only [encSt] at he h256 hr
    obtain ⟨d1, hr0, hr1⟩ := hr.split
    simp only [normSt, Stor.allocsI]
    exact decStG_some_step hd0 hr0 (decStG_enc_norm s h nd f (depth + 1) addr xs0 xs n hx he h256 hf' hd1 hr1)
  | .arr ty idx es, h, nd, fuel, depth, addr, xs0, xs, n, d, d', hx, he, h256, hf, hd, hr => by
    obtain ⟨hty, hidx, hlen, hes, hsz⟩ := h
    obtain ⟨ha, hxa, hget⟩ := addArrayXD_specC xs0 ty hx hty
    simp only [normSt, Stor.fuelI] at hf
    obtain ⟨hd1, hd0⟩ := depth_succ hd
    obtain ⟨f', rfl, hf'⟩ := take_fuel 2 hf
    simp only [encSt] at he h256 hr
    obtain ⟨d1, hr0, hr1⟩ := hr.split
    have hst := (encSts_appends es (addArrayXD xs0 ty).2 hes).stateC hxa
    have hgx : xs[(addArrayXD xs0 ty).1]? = some (.arr ty) :=
      (hst.toExt.trans he).get hget
    simp only [normSt, Stor.allocsI, length_normSts, ← Nat.add_assoc]
    exact decStG_inlArr_wrap hgx
      (Nat.lt_of_lt_of_le (lt_length_of_getElem? hget) (Nat.le_trans hst.toExt.length_le h256)) hidx hlen hd0 hr0
      (decStsG_enc_norm es hes nd f' (depth + 1) addr (addArrayXD xs0 ty).2 xs inlinedArrayDataSlabPrefixSize
        (n + es.length) hxa he h256 hf' hd1 hr1 hsz)
  | .map x idx (.hkey level hkeys elems), h, nd, fuel, depth, addr, xs0, xs, n, d, d', hx, he, h256, hf, hd, hr => by
    obtain ⟨hmx, hidx, hels, hsz⟩ := h
    cases hc : compactKeys x elems with
    | none =>
      obtain ⟨ha, hxa, hget⟩ := addMapXD_specC xs0 x hx hmx
      have hE : encSt (.map x idx (.hkey level hkeys elems)) xs0 =
          (inlinedHead CBORTagInlinedMap (addMapXD xs0 x).1 ++ encodeIdx idx ++
            (encMEls (.hkey level hkeys elems) (addMapXD xs0 x).2).1,
           (encMEls (.hkey level hkeys elems) (addMapXD xs0 x).2).2) := by
        simp only [encSt, hc, encMEls, List.append_assoc]
      simp only [normSt, hc, Stor.fuelI] at hf
      rw [hE] at he h256 hr
      obtain ⟨hd1, hd0⟩ := depth_succ hd
      obtain ⟨f', rfl, hf'⟩ := take_fuel 2 hf
      obtain ⟨d1, hr0, hr1⟩ := hr.split
      have hst := (encMEls_appends (.hkey level hkeys elems) (addMapXD xs0 x).2 hels).stateC hxa
      have hgx : xs[(addMapXD xs0 x).1]? = some (.map x) :=
        (hst.toExt.trans he).get hget
      have ih := decMElsG_enc_norm (.hkey level hkeys elems) hels nd.2 f' (depth + 1) addr
        (addMapXD xs0 x).2 xs n hxa he h256 (by simp only [normMEls]; exact hf') hd1 hr1
      simp only [normMEls] at ih
      simp only [normSt, hc, Stor.allocsI]
      exact decStG_inlMap_wrap hgx
        (Nat.lt_of_lt_of_le (lt_length_of_getElem? hget) (Nat.le_trans hst.toExt.length_le h256)) hidx hd0
        (by have := size_normMEls (.hkey level hkeys elems) (addMapXD xs0 x).2 nd.2
            simp only [normMEls] at this; rw [this]; exact hsz) hr0 ih
    | some keys =>
      have hm := compactKeys_mapM hc
      have hnd := nd.1 keys hc
      have hperm := addCompactXD_perm xs0 x hkeys keys
      have hes : rtiMElList elems := hels.2.2.2.2.1
      have hv := cmap_validC hmx hels hc
      obtain ⟨ha, hxa, x', hk', hget⟩ := addCompactXD_specC xs0 x hkeys keys hx hv
      have hE := encSt_compact hc idx level hkeys xs0
      have hN := normSt_compact hc idx level hkeys xs0
      rw [hget] at hN
      generalize addCompactXD xs0 x hkeys keys = r at hperm ha hxa hget hE hN
      obtain ⟨i, cached, xs1⟩ := r
      simp only at hperm ha hxa hget hE hN
      rw [hN] at hf ⊢
      simp only [Stor.fuelI, MEls.fuelI] at hf
      rw [hE] at he h256 hr
      simp only [Stor.dneed, MEls.dneed] at hd
      obtain ⟨hd1, hd0⟩ := depth_succ hd
      obtain ⟨f', rfl, hf'⟩ := take_fuel 2 hf
      obtain ⟨d1, hr0, hr1⟩ := hr.split
      have hst := (encVals_appends elems hes cached xs1).stateC hxa
      have hgx : xs[i]? = some (.cmap x' hk' cached) :=
        (hst.toExt.trans he).get hget
      obtain ⟨_, hklen, hk8192, _, _, _⟩ : (XD.cmap x' hk' cached).validC := hxa _ (List.mem_of_getElem? hget)
      have hsum : (cached.map (keyElemSize elems)).sum = sizeMEl elems := by
        rw [(List.Perm.map _ hperm).sum_nat]
        exact sum_keyElemSize elems keys hm hnd
      simp only [MEls.size] at hsz
      have ihv := decCVals_enc_norm elems hes (depth + 1) addr xs
        (fun k hk fuel xs0' n _ _ hx' he' h256' hf' hr' =>
          decFind_enc_norm k elems hes nd.2 hk fuel (depth + 1) addr xs0' xs n hx' he' h256' hf' hd1 hr')
        (fun k xs0' => size_normFind k elems xs0' nd.2) cached
        (fun k hk => hasKey_of_mapM elems keys hm k (hperm.subset hk)) f' xs1
        hkeyElementsPrefixSize (n + hk'.length + cached.length) hxa he h256 (Nat.le_of_succ_le hf') hr1
        (by rw [hsum]; exact hels.2.2.2.2.2)
      simp only [Stor.allocsI, MEls.allocsI, length_normVals, ← Nat.add_assoc]
      exact decStG_inlCMap_wrap hgx
        (Nat.lt_of_lt_of_le (lt_length_of_getElem? hget) (Nat.le_trans hst.toExt.length_le h256)) hidx (by omega) hd0
        (by rw [hsum]; exact hsz) hr0 ihv
  | .map x idx (.single level elems), h, nd, fuel, depth, addr, xs0, xs, n, d, d', hx, he, h256, hf, hd, hr => by
    obtain ⟨hmx, hidx, hels, hsz⟩ := h
    obtain ⟨ha, hxa, hget⟩ := addMapXD_specC xs0 x hx hmx
    have hE : encSt (.map x idx (.single level elems)) xs0 =
        (inlinedHead CBORTagInlinedMap (addMapXD xs0 x).1 ++ encodeIdx idx ++
          (encMEls (.single level elems) (addMapXD xs0 x).2).1,
         (encMEls (.single level elems) (addMapXD xs0 x).2).2) := by
      simp only [encSt, encMEls, List.append_assoc]
    simp only [normSt, Stor.fuelI] at hf
    rw [hE] at he h256 hr
    obtain ⟨hd1, hd0⟩ := depth_succ hd
    obtain ⟨f', rfl, hf'⟩ := take_fuel 2 hf
    obtain ⟨d1, hr0, hr1⟩ := hr.split
    have hst := (encMEls_appends (.single level elems) (addMapXD xs0 x).2 hels).stateC hxa
    have hgx : xs[(addMapXD xs0 x).1]? = some (.map x) :=
      (hst.toExt.trans he).get hget
    have ih := decMElsG_enc_norm (.single level elems) hels nd f' (depth + 1) addr
      (addMapXD xs0 x).2 xs n hxa he h256 (by simp only [normMEls]; exact hf') hd1 hr1
    simp only [normMEls] at ih
    simp only [normSt, Stor.allocsI]
    exact decStG_inlMap_wrap hgx
      (Nat.lt_of_lt_of_le (lt_length_of_getElem? hget) (Nat.le_trans hst.toExt.length_le h256)) hidx hd0
      (by have := size_normMEls (.single level elems) (addMapXD xs0 x).2 nd
          simp only [normMEls] at this; rw [this]; exact hsz) hr0 ih
theorem decStsG_enc_norm : (l : List Stor) → rtiSts l → nodupKeysSts l → ∀ (fuel cdepth addr : Nat)
    (xs0 xs : List XD) (size0 n : Nat) {d d' : Dec}, XOKC xs0 → Ext (encSts l xs0).2 xs → (encSts l xs0).2.length ≤ 256 →
    fuelISts (normSts l xs0) ≤ fuel → cdepth + dneedSts l ≤ maxDecodeDepth → d.Reads (encSts l xs0).1 d' →
    size0 + sizeSts l ≤ maxUint32 →
    decStsG fuel l.length cdepth d addr xs size0 n
      = .ok (normSts l xs0, size0 + sizeSts l, d') (n + allocsISts (normSts l xs0))
  | [], _, _, fuel, cdepth, addr, xs0, xs, size0, n, d, d', _, _, _, _, _, hr, _ => by
    simp only [encSts] at hr
    cases hr.nil
    cases fuel <;> simp [decStsG, normSts, sizeSts, allocsISts, DM.pure_apply]
  | s :: ss, h, nd, fuel, cdepth, addr, xs0, xs, size0, n, d, d', hx, he, h256, hf, hd, hr, hS => by
    simp only [normSts, fuelISts] at hf
    obtain ⟨f, rfl, hf'⟩ := take_fuel 1 hf
    obtain ⟨hf1, hf2⟩ := Nat.max_le.1 hf'
    simp only [dneedSts, sizeSts, ← Nat.add_assoc] at hd hS ⊢
    simp only [encSts] at he h256 hr
    obtain ⟨d1, hr1, hr2⟩ := hr.split
    have hst1 := (encSt_appends s xs0 h.1).stateC hx
    have hst2 := (encSts_appends ss (encSt s xs0).2 h.2).stateC hst1.2
    simp only [normSts, List.length_cons, allocsISts, ← Nat.add_assoc]
    exact decStsG_cons
      (decStG_enc_norm s h.1 nd.1 f cdepth addr xs0 xs n hx (hst2.toExt.trans he)
        (Nat.le_trans hst2.toExt.length_le h256) hf1 (Nat.le_trans (Nat.add_le_add_left (Nat.le_max_left _ _) _) hd) hr1)
      (size_normSt s xs0 nd.1) (Nat.le_trans (Nat.le_add_right _ _) hS)
      (decStsG_enc_norm ss h.2 nd.2 f cdepth addr (encSt s xs0).2 xs (size0 + s.size) (n + (normSt s xs0).allocsI)
        hst1.2 he h256 hf2 (Nat.le_trans (Nat.add_le_add_left (Nat.le_max_right _ _) _) hd) hr2 hS)
theorem decFind_enc_norm : (k : Nat × Nat) → (l : List MEl) → rtiMElList l → nodupKeysMElList l → hasKey k l →
    ∀ (fuel depth addr : Nat) (xs0 xs : List XD) (n : Nat) {d d' : Dec}, XOKC xs0 →
    Ext (encFind k l xs0).2 xs → (encFind k l xs0).2.length ≤ 256 → (normFind k l xs0).fuelI ≤ fuel →
    depth + dneedMElList l ≤ maxDecodeDepth → d.Reads (encFind k l xs0).1 d' →
    decStG fuel depth d addr xs n = .ok (normFind k l xs0, d') (n + (normFind k l xs0).allocsI)
  | k, [], _, _, hk, _, _, _, _, _, _, _, _, _, _, _, _, _, _ => by cases hk
  | k, .single (.mk key v) :: es, h, nd, hk, fuel, depth, addr, xs0, xs, n, d, d', hx, he, h256, hf, hd, hr => by
    simp only [dneedMElList, MEl.dneed, SEl.dneed] at hd
    rcases find_single k key v es with ⟨hE, hN, _⟩ | ⟨hK, hE, hN, _⟩ <;> rw [hE] at he h256 hr <;> rw [hN] at hf ⊢
    · exact decStG_enc_norm v h.1.2.1 nd.1.2 fuel depth addr xs0 xs n hx he h256 hf
        (Nat.le_trans (Nat.add_le_add_left (Nat.le_trans (Nat.le_max_right _ _) (Nat.le_max_left _ _)) _) hd) hr
    · exact decFind_enc_norm k es h.2 nd.2 (hK hk) fuel depth addr xs0 xs n hx he h256 hf
        (Nat.le_trans (Nat.add_le_add_left (Nat.le_max_right _ _) _) hd) hr
  | k, .inl _ :: es, h, nd, hk, fuel, depth, addr, xs0, xs, n, d, d', hx, he, h256, hf, hd, hr =>
    decFind_enc_norm k es h.2 nd.2 hk fuel depth addr xs0 xs n hx he h256 hf
      (Nat.le_trans (Nat.add_le_add_left (Nat.le_max_right _ _) _) hd) hr
  | k, .ext _ :: es, h, nd, hk, fuel, depth, addr, xs0, xs, n, d, d', hx, he, h256, hf, hd, hr =>
    decFind_enc_norm k es h.2 nd.2 hk fuel depth addr xs0 xs n hx he h256 hf
      (Nat.le_trans (Nat.add_le_add_left (Nat.le_max_right _ _) _) hd) hr
theorem decSElG_enc_norm : (e : SEl) → e.RTI → e.nodupKeys → ∀ (fuel cdepth addr : Nat)
    (xs0 xs : List XD) (n : Nat) {d d' : Dec}, XOKC xs0 → Ext (encSEl e xs0).2 xs → (encSEl e xs0).2.length ≤ 256 →
    (normSEl e xs0).fuelI ≤ fuel → cdepth + e.dneed ≤ maxDecodeDepth → d.Reads (encSEl e xs0).1 d' →
    decSElG fuel cdepth d addr xs n = .ok (normSEl e xs0, d') (n + (normSEl e xs0).allocsI)
  | .mk k v, h, nd, fuel, cdepth, addr, xs0, xs, n, d, d', hx, he, h256, hf, hd, hr => by
    obtain ⟨hk, hv, hsz⟩ := h
    simp only [normSEl, SEl.fuelI] at hf
    obtain ⟨f, rfl, hf'⟩ := take_fuel 1 hf
    obtain ⟨hf1, hf2⟩ := Nat.max_le.1 hf'
    simp only [SEl.dneed] at hd
    simp only [encSEl] at he h256 hr
    obtain ⟨d0, hr0, hr⟩ := Dec.Reads.split (a := [0x82]) hr
    obtain ⟨d1, hr1, hr2⟩ := hr.split
    have hst1 := (encSt_appends k xs0 hk).stateC hx
    have hst2 := (encSt_appends v (encSt k xs0).2 hv).stateC hst1.2
    simp only [normSEl, SEl.allocsI, ← Nat.add_assoc]
    exact decSElG_pair hr0
      (decStG_enc_norm k hk nd.1 f cdepth addr xs0 xs n hx (hst2.toExt.trans he)
        (Nat.le_trans hst2.toExt.length_le h256) hf1 (Nat.le_trans (Nat.add_le_add_left (Nat.le_max_left _ _) _) hd) hr1)
      (decStG_enc_norm v hv nd.2 f cdepth addr (encSt k xs0).2 xs (n + (normSt k xs0).allocsI) hst1.2 he h256 hf2
        (Nat.le_trans (Nat.add_le_add_left (Nat.le_max_right _ _) _) hd) hr2)
      (by rw [size_normSt k xs0 nd.1, size_normSt v _ nd.2]; exact hsz)
theorem decMElG_enc_norm : (e : MEl) → e.RTI → e.nodupKeys → ∀ (fuel cdepth addr : Nat)
    (xs0 xs : List XD) (n : Nat) {d d' : Dec}, XOKC xs0 → Ext (encMEl e xs0).2 xs → (encMEl e xs0).2.length ≤ 256 →
    (normMEl e xs0).fuelI ≤ fuel → cdepth + e.dneed ≤ maxDecodeDepth → d.Reads (encMEl e xs0).1 d' →
    decMElG fuel cdepth d addr xs n = .ok (normMEl e xs0, d') (n + (normMEl e xs0).allocsI)
  | .single e, h, nd, fuel, cdepth, addr, xs0, xs, n, d, d', hx, he, h256, hf, hd, hr => by
    simp only [normMEl, MEl.fuelI] at hf
    obtain ⟨f, rfl, hf'⟩ := take_fuel 1 hf
    simp only [MEl.dneed] at hd
    simp only [encMEl] at he h256 hr
    have hspec := decSElG_enc_norm e h nd f cdepth addr xs0 xs n hx he h256 hf' hd hr
    obtain ⟨k, v⟩ := e
    simp only [encSEl] at hr
    simp only [normMEl, MEl.allocsI]
    exact decMElG_single hr hspec
  | .inl els, h, nd, fuel, cdepth, addr, xs0, xs, n, d, d', hx, he, h256, hf, hd, hr => by
    simp only [normMEl, MEl.fuelI] at hf
    obtain ⟨f, rfl, hf'⟩ := take_fuel 1 hf
    simp only [MEl.dneed] at hd
    simp only [encMEl, tagHead8] at he h256 hr
    obtain ⟨d1, hr0, hr1⟩ := hr.split
    simp only [normMEl, MEl.allocsI]
    exact decMElG_inl hr0 (decMElsG_enc_norm els h nd f cdepth addr xs0 xs n hx he h256 hf' hd hr1)
  | .ext id, h, _, fuel, cdepth, addr, xs0, xs, n, d, d', _, _, _, hf, hd, hr => by
    simp only [normMEl, MEl.fuelI] at hf
    obtain ⟨f', rfl, _⟩ := take_fuel (F := 0) 2 (by omega)
    simp only [encMEl, tagHead8, List.cons_append, List.nil_append] at hr
    simp only [normMEl, MEl.allocsI, Nat.add_zero]
    exact decMElG_ext f' cdepth id ⟨rfl, h.1, h.2⟩ addr xs n hd hr
theorem decMElsG_enc_norm : (els : MEls) → els.RTI → els.nodupKeys → ∀ (fuel cdepth addr : Nat)
    (xs0 xs : List XD) (n : Nat) {d d' : Dec}, XOKC xs0 → Ext (encMEls els xs0).2 xs → (encMEls els xs0).2.length ≤ 256 →
    (normMEls els xs0).fuelI ≤ fuel → cdepth + els.dneed ≤ maxDecodeDepth → d.Reads (encMEls els xs0).1 d' →
    decMElsG fuel cdepth d addr xs n = .ok (normMEls els xs0, d') (n + (normMEls els xs0).allocsI)
  | .hkey level hkeys es, h, nd, fuel, cdepth, addr, xs0, xs, n, d, d', hx, he, h256, hf, hd, hr => by
    obtain ⟨hlev, hlen, h8192, hhk, hes, hsz⟩ := h
    simp only [normMEls, MEls.fuelI] at hf
    obtain ⟨f, rfl, hf'⟩ := take_fuel 1 hf
    simp only [MEls.dneed] at hd
    simp only [encMEls] at he h256 hr
    have hE : [0x83, level % 256] ++ bytesHead16 (hkeys.length * 8) ++ encodeHkeys hkeys ++ arrayHead16 es.length
        = 0x83 :: level % 256 :: (bytesHead16 (hkeys.length * 8) ++ (encodeHkeys hkeys ++ arrayHead16 es.length)) := by
      simp only [List.cons_append, List.nil_append, List.append_assoc]
    obtain ⟨d1, hr0, hr1⟩ := hr.split
    rw [hE] at hr0
    simp only [normMEls, MEls.allocsI, length_normMElList, ← Nat.add_assoc]
    exact decMElsG_hkey hlev hhk hlen h8192 hr0
      (decMElListG_enc_norm es hes nd f cdepth addr xs0 xs hkeyElementsPrefixSize (n + hkeys.length + es.length)
        hx he h256 hf' hd hr1 hsz)
  | .single level es, h, nd, fuel, cdepth, addr, xs0, xs, n, d, d', hx, he, h256, hf, hd, hr => by
    obtain ⟨hlev, hne, h64k, hes, hsz⟩ := h
    simp only [normMEls, MEls.fuelI] at hf
    obtain ⟨f, rfl, hf'⟩ := take_fuel 1 hf
    simp only [MEls.dneed] at hd
    simp only [encMEls] at he h256 hr
    obtain ⟨d1, hr0, hr1⟩ := hr.split
    simp only [List.cons_append, List.nil_append] at hr0
    simp only [normMEls, MEls.allocsI, length_normSElList, ← Nat.add_assoc]
    exact decMElsG_single hlev (List.length_pos_iff.2 hne) h64k hr0
      (decSElsG_enc_norm es hes nd f cdepth addr xs0 xs singleElementsPrefixSize (n + 0 + es.length)
        hx he h256 hf' hd hr1 hsz)
theorem decSElsG_enc_norm : (l : List SEl) → rtiSElList l → nodupKeysSElList l → ∀ (fuel cdepth addr : Nat)
    (xs0 xs : List XD) (size0 n : Nat) {d d' : Dec}, XOKC xs0 → Ext (encSElList l xs0).2 xs →
    (encSElList l xs0).2.length ≤ 256 → fuelISElList (normSElList l xs0) ≤ fuel →
    cdepth + dneedSElList l ≤ maxDecodeDepth → d.Reads (encSElList l xs0).1 d' → size0 + sizeSEl l ≤ maxUint32 →
    decSElsG fuel l.length cdepth d addr xs size0 n
      = .ok (normSElList l xs0, size0 + sizeSEl l, d') (n + allocsISElList (normSElList l xs0))
  | [], _, _, fuel, cdepth, addr, xs0, xs, size0, n, d, d', _, _, _, _, _, hr, _ => by
    simp only [encSElList] at hr
    cases hr.nil
    cases fuel <;> simp [decSElsG, normSElList, sizeSEl, allocsISElList, DM.pure_apply]
  | e :: es, h, nd, fuel, cdepth, addr, xs0, xs, size0, n, d, d', hx, he, h256, hf, hd, hr, hS => by
    simp only [normSElList, fuelISElList] at hf
    obtain ⟨f, rfl, hf'⟩ := take_fuel 1 hf
    obtain ⟨hf1, hf2⟩ := Nat.max_le.1 hf'
    simp only [dneedSElList, sizeSEl, ← Nat.add_assoc] at hd hS ⊢
    simp only [encSElList] at he h256 hr
    obtain ⟨d1, hr1, hr2⟩ := hr.split
    have hst1 := (encSEl_appends e xs0 h.1).stateC hx
    have hst2 := (encSElList_appends es (encSEl e xs0).2 h.2).stateC hst1.2
    simp only [normSElList, List.length_cons, allocsISElList, ← Nat.add_assoc]
    exact decSElsG_cons
      (decSElG_enc_norm e h.1 nd.1 f cdepth addr xs0 xs n hx (hst2.toExt.trans he)
        (Nat.le_trans hst2.toExt.length_le h256) hf1 (Nat.le_trans (Nat.add_le_add_left (Nat.le_max_left _ _) _) hd) hr1)
      (size_normSEl e xs0 nd.1) (Nat.le_trans (Nat.le_add_right _ _) hS)
      (decSElsG_enc_norm es h.2 nd.2 f cdepth addr (encSEl e xs0).2 xs (size0 + e.size) (n + (normSEl e xs0).allocsI)
        hst1.2 he h256 hf2 (Nat.le_trans (Nat.add_le_add_left (Nat.le_max_right _ _) _) hd) hr2 hS)
theorem decMElListG_enc_norm : (l : List MEl) → rtiMElList l → nodupKeysMElList l → ∀ (fuel cdepth addr : Nat)
    (xs0 xs : List XD) (size0 n : Nat) {d d' : Dec}, XOKC xs0 → Ext (encMElList l xs0).2 xs →
    (encMElList l xs0).2.length ≤ 256 → fuelIMElList (normMElList l xs0) ≤ fuel →
    cdepth + dneedMElList l ≤ maxDecodeDepth → d.Reads (encMElList l xs0).1 d' → size0 + sizeMEl l ≤ maxUint32 →
    decMElListG fuel l.length cdepth d addr xs size0 n
      = .ok (normMElList l xs0, size0 + sizeMEl l, d') (n + allocsIMElList (normMElList l xs0))
  | [], _, _, fuel, cdepth, addr, xs0, xs, size0, n, d, d', _, _, _, _, _, hr, _ => by
    simp only [encMElList] at hr
    cases hr.nil
    cases fuel <;> simp [decMElListG, normMElList, sizeMEl, allocsIMElList, DM.pure_apply]
  | e :: es, h, nd, fuel, cdepth, addr, xs0, xs, size0, n, d, d', hx, he, h256, hf, hd, hr, hS => by
    simp only [normMElList, fuelIMElList] at hf
    obtain ⟨f, rfl, hf'⟩ := take_fuel 1 hf
    obtain ⟨hf1, hf2⟩ := Nat.max_le.1 hf'
    simp only [dneedMElList, sizeMEl, ← Nat.add_assoc] at hd hS ⊢
    simp only [encMElList] at he h256 hr
    obtain ⟨d1, hr1, hr2⟩ := hr.split
    have hst1 := (encMEl_appends e xs0 h.1).stateC hx
    have hst2 := (encMElList_appends es (encMEl e xs0).2 h.2).stateC hst1.2
    simp only [normMElList, List.length_cons, allocsIMElList, ← Nat.add_assoc]
    exact decMElListG_cons
      (decMElG_enc_norm e h.1 nd.1 f cdepth addr xs0 xs n hx (hst2.toExt.trans he)
        (Nat.le_trans hst2.toExt.length_le h256) hf1 (Nat.le_trans (Nat.add_le_add_left (Nat.le_max_left _ _) _) hd) hr1)
      (size_normMEl e xs0 nd.1) (Nat.le_trans (Nat.le_add_right _ _) hS)
      (decMElListG_enc_norm es h.2 nd.2 f cdepth addr (encMEl e xs0).2 xs (size0 + digestSize + e.size)
        (n + (normMEl e xs0).allocsI) hst1.2 he h256 hf2
        (Nat.le_trans (Nat.add_le_add_left (Nat.le_max_right _ _) _) hd) hr2 hS)
end

/-! ### The fuel measured by the encoded length -/

theorem decStG_encC : (s : Stor) → s.RTI → s.nodupKeys → ∀ (fuel depth : Nat) (rest : Bytes) (R c addr : Nat)
    (xs0 xs : List XD) (n : Nat), XOKC xs0 → Ext (encSt s xs0).2 xs → xs.length ≤ 256 →
    (encSt s xs0).1.length ≤ fuel → depth + s.dneed ≤ maxDecodeDepth → (encSt s xs0).1.length ≤ R →
    decStG fuel depth { data := (encSt s xs0).1 ++ rest, remaining := R, consumed := c } addr xs n
      = .ok (normSt s xs0, { data := rest, remaining := R - (encSt s xs0).1.length, consumed := c + (encSt s xs0).1.length })
          (n + (normSt s xs0).allocsI) :=
  fun s h nd fuel depth rest _ c addr xs0 xs n hx he h256 hf hd hR =>
    decStG_enc_norm s h nd fuel depth addr xs0 xs n hx he (Nat.le_trans he.length_le h256)
      (Nat.le_trans (Stor.fuelI_norm_le_len s xs0 h nd) hf) hd (Dec.Reads.of_le _ rest c hR)

theorem decFind_encC : (k : Nat × Nat) → (l : List MEl) → rtiMElList l → nodupKeysMElList l → hasKey k l →
    ∀ (fuel depth : Nat) (rest : Bytes) (R c addr : Nat) (xs0 xs : List XD) (n : Nat), XOKC xs0 →
    Ext (encFind k l xs0).2 xs → xs.length ≤ 256 → (encFind k l xs0).1.length ≤ fuel →
    depth + dneedMElList l ≤ maxDecodeDepth → (encFind k l xs0).1.length ≤ R →
    decStG fuel depth { data := (encFind k l xs0).1 ++ rest, remaining := R, consumed := c } addr xs n
      = .ok (normFind k l xs0, { data := rest, remaining := R - (encFind k l xs0).1.length, consumed := c + (encFind k l xs0).1.length })
          (n + (normFind k l xs0).allocsI) :=
  fun k l h nd hk fuel depth rest _ c addr xs0 xs n hx he h256 hf hd hR =>
    decFind_enc_norm k l h nd hk fuel depth addr xs0 xs n hx he (Nat.le_trans he.length_le h256)
      (Nat.le_trans (fuelIFind_norm_le_len k l xs0 h nd hk) hf) hd (Dec.Reads.of_le _ rest c hR)

theorem decSElG_encC : (e : SEl) → e.RTI → e.nodupKeys → ∀ (fuel cdepth : Nat) (rest : Bytes) (R c addr : Nat)
    (xs0 xs : List XD) (n : Nat), XOKC xs0 → Ext (encSEl e xs0).2 xs → xs.length ≤ 256 →
    (encSEl e xs0).1.length ≤ fuel → cdepth + e.dneed ≤ maxDecodeDepth → (encSEl e xs0).1.length ≤ R →
    decSElG fuel cdepth { data := (encSEl e xs0).1 ++ rest, remaining := R, consumed := c } addr xs n
      = .ok (normSEl e xs0, { data := rest, remaining := R - (encSEl e xs0).1.length, consumed := c + (encSEl e xs0).1.length })
          (n + (normSEl e xs0).allocsI) :=
  fun e h nd fuel cdepth rest _ c addr xs0 xs n hx he h256 hf hd hR =>
    decSElG_enc_norm e h nd fuel cdepth addr xs0 xs n hx he (Nat.le_trans he.length_le h256)
      (Nat.le_trans (SEl.fuelI_norm_le_len e xs0 h nd) hf) hd (Dec.Reads.of_le _ rest c hR)

theorem decMElG_encC : (e : MEl) → e.RTI → e.nodupKeys → ∀ (fuel cdepth : Nat) (rest : Bytes) (R c addr : Nat)
    (xs0 xs : List XD) (n : Nat), XOKC xs0 → Ext (encMEl e xs0).2 xs → xs.length ≤ 256 →
    (encMEl e xs0).1.length + 1 ≤ fuel → cdepth + e.dneed ≤ maxDecodeDepth → (encMEl e xs0).1.length ≤ R →
    decMElG fuel cdepth { data := (encMEl e xs0).1 ++ rest, remaining := R, consumed := c } addr xs n
      = .ok (normMEl e xs0, { data := rest, remaining := R - (encMEl e xs0).1.length, consumed := c + (encMEl e xs0).1.length })
          (n + (normMEl e xs0).allocsI) :=
  fun e h nd fuel cdepth rest _ c addr xs0 xs n hx he h256 hf hd hR =>
    decMElG_enc_norm e h nd fuel cdepth addr xs0 xs n hx he (Nat.le_trans he.length_le h256)
      (Nat.le_trans (MEl.fuelI_norm_le_len e xs0 h nd) hf) hd (Dec.Reads.of_le _ rest c hR)

theorem decSElsG_encC : (l : List SEl) → rtiSElList l → nodupKeysSElList l → ∀ (fuel cdepth : Nat) (rest : Bytes)
    (R c addr : Nat) (xs0 xs : List XD) (size0 n : Nat), XOKC xs0 → Ext (encSElList l xs0).2 xs → xs.length ≤ 256 →
    (encSElList l xs0).1.length + 1 ≤ fuel → cdepth + dneedSElList l ≤ maxDecodeDepth →
    (encSElList l xs0).1.length ≤ R → size0 + sizeSEl l ≤ maxUint32 →
    decSElsG fuel l.length cdepth { data := (encSElList l xs0).1 ++ rest, remaining := R, consumed := c } addr xs size0 n
      = .ok (normSElList l xs0, size0 + sizeSEl l,
          { data := rest, remaining := R - (encSElList l xs0).1.length, consumed := c + (encSElList l xs0).1.length })
          (n + allocsISElList (normSElList l xs0)) :=
  fun l h nd fuel cdepth rest _ c addr xs0 xs size0 n hx he h256 hf hd hR hS =>
    decSElsG_enc_norm l h nd fuel cdepth addr xs0 xs size0 n hx he (Nat.le_trans he.length_le h256)
      (Nat.le_trans (fuelISElList_norm_le_len l xs0 h nd) hf) hd (Dec.Reads.of_le _ rest c hR) hS

theorem decMElListG_encC : (l : List MEl) → rtiMElList l → nodupKeysMElList l → ∀ (fuel cdepth : Nat) (rest : Bytes)
    (R c addr : Nat) (xs0 xs : List XD) (size0 n : Nat), XOKC xs0 → Ext (encMElList l xs0).2 xs → xs.length ≤ 256 →
    (encMElList l xs0).1.length + 2 ≤ fuel → cdepth + dneedMElList l ≤ maxDecodeDepth →
    (encMElList l xs0).1.length ≤ R → size0 + sizeMEl l ≤ maxUint32 →
    decMElListG fuel l.length cdepth { data := (encMElList l xs0).1 ++ rest, remaining := R, consumed := c } addr xs size0 n
      = .ok (normMElList l xs0, size0 + sizeMEl l,
          { data := rest, remaining := R - (encMElList l xs0).1.length, consumed := c + (encMElList l xs0).1.length })
          (n + allocsIMElList (normMElList l xs0)) :=
  fun l h nd fuel cdepth rest _ c addr xs0 xs size0 n hx he h256 hf hd hR hS =>
    decMElListG_enc_norm l h nd fuel cdepth addr xs0 xs size0 n hx he (Nat.le_trans he.length_le h256)
      (Nat.le_trans (fuelIMElList_norm_le_len l xs0 h nd) hf) hd (Dec.Reads.of_le _ rest c hR) hS

/-! ### No compact form: the value itself comes back, and the bytes written are its size -/

theorem decStG_encI : (s : Stor) → s.RTI → s.noCompact → ∀ (fuel depth : Nat) (rest : Bytes) (R c addr : Nat)
    (xs0 xs : List XD) (n : Nat), XOK xs0 → Ext (encSt s xs0).2 xs → xs.length ≤ 256 →
    s.fuelI ≤ fuel → depth + s.dneed ≤ maxDecodeDepth → s.size ≤ R →
    decStG fuel depth { data := (encSt s xs0).1 ++ rest, remaining := R, consumed := c } addr xs n
      = .ok (s, { data := rest, remaining := R - s.size, consumed := c + s.size }) (n + s.allocsI) :=
  fun s h nc fuel depth rest R c addr xs0 xs n hx he h256 hf hd hR => by
    have hl := lenSt_eq s xs0 (Stor.OK_of_RTI s h) nc
    have := decStG_enc_norm s h (Stor.nodupKeys_of_noCompact s nc) fuel depth addr xs0 xs n (XOKC.of_XOK hx) he
      (Nat.le_trans he.length_le h256) (by rw [normSt_noCompact s xs0 nc]; exact hf) hd (Dec.Reads.of_le _ rest c (by rw [hl]; exact hR))
    rwa [normSt_noCompact s xs0 nc, hl] at this

theorem decSElG_encI : (e : SEl) → e.RTI → e.noCompact → ∀ (fuel cdepth : Nat) (rest : Bytes) (R c addr : Nat)
    (xs0 xs : List XD) (n : Nat), XOK xs0 → Ext (encSEl e xs0).2 xs → xs.length ≤ 256 →
    e.fuelI ≤ fuel → cdepth + e.dneed ≤ maxDecodeDepth → e.size ≤ R →
    decSElG fuel cdepth { data := (encSEl e xs0).1 ++ rest, remaining := R, consumed := c } addr xs n
      = .ok (e, { data := rest, remaining := R - e.size, consumed := c + e.size }) (n + e.allocsI) :=
  fun e h nc fuel cdepth rest R c addr xs0 xs n hx he h256 hf hd hR => by
    have hl := lenSEl_eq e xs0 (SEl.OK_of_RTI e h) nc
    have := decSElG_enc_norm e h (SEl.nodupKeys_of_noCompact e nc) fuel cdepth addr xs0 xs n (XOKC.of_XOK hx) he
      (Nat.le_trans he.length_le h256) (by rw [normSEl_noCompact e xs0 nc]; exact hf) hd (Dec.Reads.of_le _ rest c (by rw [hl]; exact hR))
    rwa [normSEl_noCompact e xs0 nc, hl] at this

theorem decMElG_encI : (e : MEl) → e.RTI → e.noCompact → ∀ (fuel cdepth : Nat) (rest : Bytes) (R c addr : Nat)
    (xs0 xs : List XD) (n : Nat), XOK xs0 → Ext (encMEl e xs0).2 xs → xs.length ≤ 256 →
    e.fuelI ≤ fuel → cdepth + e.dneed ≤ maxDecodeDepth → e.size ≤ R →
    decMElG fuel cdepth { data := (encMEl e xs0).1 ++ rest, remaining := R, consumed := c } addr xs n
      = .ok (e, { data := rest, remaining := R - e.size, consumed := c + e.size }) (n + e.allocsI) :=
  fun e h nc fuel cdepth rest R c addr xs0 xs n hx he h256 hf hd hR => by
    have hl := lenMEl_eq e xs0 (MEl.OK_of_RTI e h) nc
    have := decMElG_enc_norm e h (MEl.nodupKeys_of_noCompact e nc) fuel cdepth addr xs0 xs n (XOKC.of_XOK hx) he
      (Nat.le_trans he.length_le h256) (by rw [normMEl_noCompact e xs0 nc]; exact hf) hd (Dec.Reads.of_le _ rest c (by rw [hl]; exact hR))
    rwa [normMEl_noCompact e xs0 nc, hl] at this

theorem decSElsG_encI : (l : List SEl) → rtiSElList l → noCompactSElList l → ∀ (fuel cdepth : Nat) (rest : Bytes)
    (R c addr : Nat) (xs0 xs : List XD) (size0 n : Nat), XOK xs0 → Ext (encSElList l xs0).2 xs → xs.length ≤ 256 →
    fuelISElList l ≤ fuel → cdepth + dneedSElList l ≤ maxDecodeDepth → sizeSEl l ≤ R →
    size0 + sizeSEl l ≤ maxUint32 →
    decSElsG fuel l.length cdepth { data := (encSElList l xs0).1 ++ rest, remaining := R, consumed := c } addr xs size0 n
      = .ok (l, size0 + sizeSEl l, { data := rest, remaining := R - sizeSEl l, consumed := c + sizeSEl l })
          (n + allocsISElList l) :=
  fun l h nc fuel cdepth rest R c addr xs0 xs size0 n hx he h256 hf hd hR hS => by
    have hl := lenSElList_eq l xs0 (okSElList_of_RTI l h) nc
    have := decSElsG_enc_norm l h (nodupKeysSElList_of_noCompact l nc) fuel cdepth addr xs0 xs size0 n
      (XOKC.of_XOK hx) he (Nat.le_trans he.length_le h256) (by rw [normSElList_noCompact l xs0 nc]; exact hf) hd
      (Dec.Reads.of_le _ rest c (by rw [hl]; exact hR)) hS
    rwa [normSElList_noCompact l xs0 nc, hl] at this

theorem length_encMElList (l : List MEl) (xs0 : List XD) (h : rtiMElList l) (nc : noCompactMElList l) :
    (encMElList l xs0).1.length = bytesMEl l := by
  have h1 := lenMElList_eq l xs0 (okMElList_of_RTI l h) nc
  have h2 := sizeMEl_eq l
  omega

theorem decMElListG_encI : (l : List MEl) → rtiMElList l → noCompactMElList l → ∀ (fuel cdepth : Nat) (rest : Bytes)
    (R c addr : Nat) (xs0 xs : List XD) (size0 n : Nat), XOK xs0 → Ext (encMElList l xs0).2 xs → xs.length ≤ 256 →
    fuelIMElList l ≤ fuel → cdepth + dneedMElList l ≤ maxDecodeDepth → bytesMEl l ≤ R →
    size0 + sizeMEl l ≤ maxUint32 →
    decMElListG fuel l.length cdepth { data := (encMElList l xs0).1 ++ rest, remaining := R, consumed := c } addr xs size0 n
      = .ok (l, size0 + sizeMEl l, { data := rest, remaining := R - bytesMEl l, consumed := c + bytesMEl l })
          (n + allocsIMElList l) :=
  fun l h nc fuel cdepth rest R c addr xs0 xs size0 n hx he h256 hf hd hR hS => by
    have hl := length_encMElList l xs0 h nc
    have := decMElListG_enc_norm l h (nodupKeysMElList_of_noCompact l nc) fuel cdepth addr xs0 xs size0 n
      (XOKC.of_XOK hx) he (Nat.le_trans he.length_le h256) (by rw [normMElList_noCompact l xs0 nc]; exact hf) hd
      (Dec.Reads.of_le _ rest c (by rw [hl]; exact hR)) hS
    rwa [normMElList_noCompact l xs0 nc, hl] at this

/-! ### No inlined slab: the encoder writes the same bytes from any state and leaves it as it is, so nothing is
    assumed of `xs0` or of `xs` -/

theorem decMElG_enc : (e : MEl) → e.RT → e.noInl → ∀ (fuel cdepth : Nat) (rest : Bytes) (R c addr : Nat)
    (xs0 xs : List XD) (n : Nat), e.fuelNeed ≤ fuel → cdepth + e.vneed ≤ maxDecodeDepth → e.size ≤ R →
    decMElG fuel cdepth { data := (encMEl e xs0).1 ++ rest, remaining := R, consumed := c } addr xs n
      = .ok (e, { data := rest, remaining := R - e.size, consumed := c + e.size }) (n + e.allocs) :=
  fun e h hn fuel cdepth rest R c addr xs0 xs n hf hd hR => by
    have hi := MEl.RTI_of_RT e h hn
    have nc := MEl.noCompact_of_noInl e hn
    have hst : (encMEl e []).2 = [] := encMEl_noInl e [] hn
    have hl := lenMEl_eq e [] (MEl.OK_of_RTI e hi) nc
    have := decMElG_enc_norm e hi (MEl.nodupKeys_of_noCompact e nc) fuel cdepth addr [] xs n XOKC.nil
      (by rw [hst]; exact ⟨xs, rfl⟩) (by rw [hst]; exact Nat.zero_le _)
      (by rw [normMEl_noCompact e [] nc, MEl.fuelI_of_noInl e hn]; exact hf)
      (Nat.le_trans (Nat.add_le_add_left (Nat.le_trans (MEl.dneed_le e) (Nat.le_of_eq (MEl.vneedI_of_noInl e hn))) _) hd)
      (Dec.Reads.of_le _ rest c (by rw [hl]; exact hR))
    rw [normMEl_noCompact e [] nc, hl, MEl.allocsI_of_noInl e hn] at this
    rw [encMEl_eq_noInl e xs0 hn]; exact this

theorem decMElListG_enc : (l : List MEl) → rtMElList l → noInlMElList l → ∀ (fuel cdepth : Nat) (rest : Bytes)
    (R c addr : Nat) (xs0 xs : List XD) (size0 n : Nat), fuelMElList l ≤ fuel →
    cdepth + vneedMElList l ≤ maxDecodeDepth → bytesMEl l ≤ R → size0 + sizeMEl l ≤ maxUint32 →
    decMElListG fuel l.length cdepth { data := (encMElList l xs0).1 ++ rest, remaining := R, consumed := c } addr xs size0 n
      = .ok (l, size0 + sizeMEl l, { data := rest, remaining := R - bytesMEl l, consumed := c + bytesMEl l })
          (n + allocsMElList l) :=
  fun l h hn fuel cdepth rest R c addr xs0 xs size0 n hf hd hR hS => by
    have hi := rtiMElList_of_RT l h hn
    have nc := noCompactMElList_of_noInl l hn
    have hst : (encMElList l []).2 = [] := encMElList_noInl l [] hn
    have hl := length_encMElList l [] hi nc
    have := decMElListG_enc_norm l hi (nodupKeysMElList_of_noCompact l nc) fuel cdepth addr [] xs size0 n XOKC.nil
      (by rw [hst]; exact ⟨xs, rfl⟩) (by rw [hst]; exact Nat.zero_le _)
      (by rw [normMElList_noCompact l [] nc, fuelIMElList_of_noInl l hn]; exact hf)
      (Nat.le_trans (Nat.add_le_add_left (Nat.le_trans (dneedMElList_le l) (Nat.le_of_eq (vneedIMElList_of_noInl l hn))) _) hd)
      (Dec.Reads.of_le _ rest c (by rw [hl]; exact hR)) hS
    rw [normMElList_noCompact l [] nc, hl, allocsIMElList_of_noInl l hn] at this
    rw [encMElList_eq_noInl l xs0 hn]; exact this

end Atree.Codec

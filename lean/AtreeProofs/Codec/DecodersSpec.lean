import AtreeProofs.Codec.Triple
import AtreeProofs.Codec.NoPanic
/-
  The eleven mutually recursive decoders of the second part of `AtreeModel/Codec/Decode.lean`
  (`decStG`, `decStsG`, `decInlArr`, `decInlMap`, `decInlCMap`, `decCVals`, `decMElsG`, `decSElG`,
  `decSElsG`, `decMElG`, `decMElListG`), walked once.

  They recurse on a fuel argument; `fuel = 0` is `fail`, which cannot be told from a decoding error.
  Write `L = d.len` for the number of unread input bytes.  Every CBOR call that returns a value other
  than `NextType` makes `L` strictly smaller; between two nested calls of the decoders at least one
  such call happens, except on the edges element-loop → element (`decStsG → decStG`,
  `decCVals → decStG`, `decSElsG → decSElG`, `decMElListG → decMElG`) and `decMElG → decSElG`.  Hence
  the fuel a call needs is `L + k` with a small constant `k` per function:

      k = 1   decStG decInlArr decInlMap decInlCMap decMElsG decSElG
      k = 2   decStsG decCVals decSElsG decMElG
      k = 3   decMElListG

  `SpecAll t fuel` says of each function `g` with constant `k`, on a decoder `d` over an input of `t`
  bytes: `g fuel …` does not panic and returns a decoder that is a later state of `d` (strictly later
  for the element decoders); and if `L + k ≤ fuel` then `g (fuel + 1) …` has the same outcome — value,
  error kind, allocation counter — from every start of the allocation counter.
-/
namespace Atree.Codec
open DM Atree.Gen

section
variable {c : Prop} {t : Nat} {d : Dec}

theorem tri_getXD (xs : List XD) (i : Nat) : Tri c (getXD xs i) (getXD xs i) (fun _ => True) := by
  unfold getXD
  apply Tri.ite <;> intro h
  · exact Tri.fail
  · rw [List.getElem?_eq_getElem (Nat.lt_of_not_le h)]
    exact Tri.pure trivial

theorem tri_decodeIdx (hi : DecInv t d) : Tri c (decodeIdx d) (decodeIdx d) (fun r => After t d r.2) := by
  unfold decodeIdx
  refine Tri.bytes hi fun b d1 h1 => ?_
  dsimp only
  apply Tri.ite <;> intro _
  · exact Tri.fail
  · exact Tri.pure h1

theorem tri_decodeSlabIDStorable (hi : DecInv t d) :
    Tri c (decodeSlabIDStorable d) (decodeSlabIDStorable d) (fun r => After t d r.2) := by
  unfold decodeSlabIDStorable
  refine Tri.bytes hi fun b d1 h1 => ?_
  dsimp only
  refine Tri.bind (Tri.of_safe (safe_newSlabIDFromRawBytes b)) fun id _ => ?_
  exact Tri.pure h1

end

theorem fuel_step {a b k F : Nat} (h : a < b) (hf : b + k ≤ F + 1) : a + k ≤ F := by
  omega

def SpecSt (t fuel : Nat) : Prop := ∀ depth d addr xs, DecInv t d →
  Tri (d.len + 1 ≤ fuel) (decStG (fuel + 1) depth d addr xs) (decStG fuel depth d addr xs) (fun r => After t d r.2)
def SpecSts (t fuel : Nat) : Prop := ∀ n cdepth d addr xs size, DecInv t d →
  Tri (d.len + 2 ≤ fuel) (decStsG (fuel + 1) n cdepth d addr xs size) (decStsG fuel n cdepth d addr xs size)
    (fun r => Later t d r.2.2)
def SpecArr (t fuel : Nat) : Prop := ∀ cdepth d addr xs, DecInv t d →
  Tri (d.len + 1 ≤ fuel) (decInlArr (fuel + 1) cdepth d addr xs) (decInlArr fuel cdepth d addr xs) (fun r => After t d r.2)
def SpecMap (t fuel : Nat) : Prop := ∀ cdepth d addr xs, DecInv t d →
  Tri (d.len + 1 ≤ fuel) (decInlMap (fuel + 1) cdepth d addr xs) (decInlMap fuel cdepth d addr xs) (fun r => After t d r.2)
def SpecCMap (t fuel : Nat) : Prop := ∀ cdepth d addr xs, DecInv t d →
  Tri (d.len + 1 ≤ fuel) (decInlCMap (fuel + 1) cdepth d addr xs) (decInlCMap fuel cdepth d addr xs) (fun r => After t d r.2)
def SpecCVals (t fuel : Nat) : Prop := ∀ ks cdepth d addr xs size, DecInv t d →
  Tri (d.len + 2 ≤ fuel) (decCVals (fuel + 1) ks cdepth d addr xs size) (decCVals fuel ks cdepth d addr xs size)
    (fun r => Later t d r.2.2)
def SpecMEls (t fuel : Nat) : Prop := ∀ cdepth d addr xs, DecInv t d →
  Tri (d.len + 1 ≤ fuel) (decMElsG (fuel + 1) cdepth d addr xs) (decMElsG fuel cdepth d addr xs) (fun r => After t d r.2)
def SpecSEl (t fuel : Nat) : Prop := ∀ cdepth d addr xs, DecInv t d →
  Tri (d.len + 1 ≤ fuel) (decSElG (fuel + 1) cdepth d addr xs) (decSElG fuel cdepth d addr xs) (fun r => After t d r.2)
def SpecSEls (t fuel : Nat) : Prop := ∀ n cdepth d addr xs size, DecInv t d →
  Tri (d.len + 2 ≤ fuel) (decSElsG (fuel + 1) n cdepth d addr xs size) (decSElsG fuel n cdepth d addr xs size)
    (fun r => Later t d r.2.2)
def SpecMEl (t fuel : Nat) : Prop := ∀ cdepth d addr xs, DecInv t d →
  Tri (d.len + 2 ≤ fuel) (decMElG (fuel + 1) cdepth d addr xs) (decMElG fuel cdepth d addr xs) (fun r => After t d r.2)
def SpecMElList (t fuel : Nat) : Prop := ∀ n cdepth d addr xs size, DecInv t d →
  Tri (d.len + 3 ≤ fuel) (decMElListG (fuel + 1) n cdepth d addr xs size) (decMElListG fuel n cdepth d addr xs size)
    (fun r => Later t d r.2.2)

section walk
variable {t fuel : Nat}

theorem specSt_succ (ihSt : SpecSt t fuel) (ihArr : SpecArr t fuel) (ihMap : SpecMap t fuel) (ihCMap : SpecCMap t fuel) :
    SpecSt t (fuel + 1) := by
  intro depth d addr xs hi
  unfold decStG
  apply Tri.ite <;> intro _
  · exact Tri.fail
  · refine Tri.nextType hi fun ty d1 h1 hl1 => ?_
    dsimp only
    cases ty <;> dsimp only <;> try exact Tri.fail
    · exact Tri.bytes h1.1 fun b d2 h2 => Tri.pure (h1.after h2)
    · refine Tri.head h1.1 fun n d2 h2 => ?_
      have h02 := h1.after h2
      have hF : d.len + 1 ≤ fuel + 1 → d2.len + 1 ≤ fuel := fuel_step h02.2
      dsimp only
      repeat' apply Tri.ite <;> intro _
      · exact (ihArr _ _ _ _ h2.1).mono hF fun _ h => h02.then h.later
      · exact (ihMap _ _ _ _ h2.1).mono hF fun _ h => h02.then h.later
      · exact (ihCMap _ _ _ _ h2.1).mono hF fun _ h => h02.then h.later
      · exact Tri.bind (tri_decodeSlabIDStorable h2.1) fun r h3 => Tri.pure (h02.then h3.later)
      · exact Tri.bytes h2.1 fun b d3 h3 => Tri.pure (h02.then h3.later)
      · exact Tri.bind ((ihSt _ _ _ _ h2.1).cond hF) fun r h3 => Tri.pure (h02.then h3.later)
      · exact Tri.fail

theorem specSts_succ (ihSt : SpecSt t fuel) (ihSts : SpecSts t fuel) : SpecSts t (fuel + 1) := by
  intro n cdepth d addr xs size hi
  cases n with
  | zero => unfold decStsG; exact Tri.pure (Later.refl hi)
  | succ n =>
    unfold decStsG
    refine Tri.bind ((ihSt _ _ _ _ hi).cond Nat.le_of_succ_le_succ) ?_
    intro ⟨e, d1⟩ h1
    dsimp only at h1 ⊢
    apply Tri.ite <;> intro _
    · exact Tri.fail
    · refine Tri.bind ((ihSts _ _ _ _ _ _ h1.1).cond (fuel_step h1.2)) ?_
      intro ⟨es, sz, d2⟩ h2
      exact Tri.pure (h1.later.trans h2)

/-- What the three inlined forms begin with: an array head of `cnt`, the index of the extra-data entry, the entry.
    `k` is what the form does with the entry `x` and the decoder state behind the index (`q.2`). -/
theorem tri_inlOpen {β : Type} {c : Prop} {d : Dec} {xs : List XD} {cnt : Nat} {Q : β → Prop}
    {k₁ k₂ : XD → Nat × Dec → DM β} (hi : DecInv t d)
    (hk : ∀ x q, After t d q.2 → Tri c (k₁ x q) (k₂ x q) Q) :
    Tri c (DM.liftOpt d.decodeArrayHead >>= fun p => if p.1 ≠ cnt then DM.fail else
            DM.liftOpt p.2.decodeUint64 >>= fun q => getXD xs q.1 >>= fun x => k₁ x q)
          (DM.liftOpt d.decodeArrayHead >>= fun p => if p.1 ≠ cnt then DM.fail else
            DM.liftOpt p.2.decodeUint64 >>= fun q => getXD xs q.1 >>= fun x => k₂ x q) Q := by
  refine Tri.head hi fun c d1 h1 => ?_
  dsimp only
  apply Tri.ite <;> intro _
  · exact Tri.fail
  · refine Tri.head h1.1 fun i d2 h2 => ?_
    exact Tri.bind (tri_getXD xs i) fun x _ => hk x (i, d2) (h1.then h2.later)

theorem specArr_succ (ihSts : SpecSts t fuel) : SpecArr t (fuel + 1) := by
  intro cdepth d addr xs hi
  unfold decInlArr
  refine tri_inlOpen hi fun x q h2 => ?_
  obtain ⟨i, d2⟩ := q
  dsimp only at h2
  cases x <;> dsimp only <;> try exact Tri.fail
  refine Tri.bind (tri_decodeIdx h2.1) ?_
  intro ⟨idx, d3⟩ h3
  dsimp only at h3 ⊢
  refine Tri.head h3.1 fun n d4 h4 => ?_
  have h04 := h2.then (h3.then h4.later).later
  have hlen : d4.len + 2 < d.len := by have := h2.2; have := h3.2; have := h4.2; omega
  dsimp only
  apply Tri.ite <;> intro _
  · exact Tri.fail
  · refine Tri.alloc ?_
    refine Tri.bind ((ihSts _ _ _ _ _ _ h4.1).cond (by omega)) ?_
    intro ⟨es, sz, d5⟩ h5
    exact Tri.pure (h04.then h5)

theorem specMap_succ (ihMEls : SpecMEls t fuel) : SpecMap t (fuel + 1) := by
  intro cdepth d addr xs hi
  unfold decInlMap
  refine tri_inlOpen hi fun x q h2 => ?_
  obtain ⟨i, d2⟩ := q
  dsimp only at h2
  cases x <;> dsimp only <;> try exact Tri.fail
  refine Tri.bind (tri_decodeIdx h2.1) ?_
  intro ⟨idx, d3⟩ h3
  dsimp only at h3 ⊢
  have h03 := h2.then h3.later
  refine Tri.bind ((ihMEls _ _ _ _ h3.1).cond (fuel_step h03.2)) ?_
  intro ⟨els, d4⟩ h4
  dsimp only at h4 ⊢
  apply Tri.ite <;> intro _
  · exact Tri.fail
  · exact Tri.pure (h03.then h4.later)

theorem specCMap_succ (ihC : SpecCVals t fuel) : SpecCMap t (fuel + 1) := by
  intro cdepth d addr xs hi
  unfold decInlCMap
  refine tri_inlOpen hi fun x q h2 => ?_
  obtain ⟨i, d2⟩ := q
  dsimp only at h2
  cases x <;> dsimp only <;> try exact Tri.fail
  refine Tri.bind (tri_decodeIdx h2.1) ?_
  intro ⟨idx, d3⟩ h3
  dsimp only at h3 ⊢
  refine Tri.head h3.1 fun n d4 h4 => ?_
  have h04 := h2.then (h3.then h4.later).later
  have hlen : d4.len + 2 < d.len := by have := h2.2; have := h3.2; have := h4.2; omega
  dsimp only
  apply Tri.ite <;> intro _
  · exact Tri.fail
  · refine Tri.alloc (Tri.alloc ?_)
    refine Tri.bind ((ihC _ _ _ _ _ _ h4.1).cond (by omega)) ?_
    intro ⟨es, sz, d5⟩ h5
    dsimp only at h5 ⊢
    apply Tri.ite <;> intro _
    · exact Tri.fail
    · exact Tri.pure (h04.then h5)

theorem specCVals_succ (ihSt : SpecSt t fuel) (ihC : SpecCVals t fuel) : SpecCVals t (fuel + 1) := by
  intro ks cdepth d addr xs size hi
  cases ks with
  | nil => unfold decCVals; exact Tri.pure (Later.refl hi)
  | cons k ks =>
    unfold decCVals
    refine Tri.bind ((ihSt _ _ _ _ hi).cond Nat.le_of_succ_le_succ) ?_
    intro ⟨v, d1⟩ h1
    dsimp only at h1 ⊢
    apply Tri.ite <;> intro _
    · exact Tri.fail
    · apply Tri.ite <;> intro _
      · exact Tri.fail
      · refine Tri.bind ((ihC _ _ _ _ _ _ h1.1).cond (fuel_step h1.2)) ?_
        intro ⟨es, sz, d2⟩ h2
        exact Tri.pure (h1.later.trans h2)

theorem specMEls_succ (ihSEls : SpecSEls t fuel) (ihL : SpecMElList t fuel) : SpecMEls t (fuel + 1) := by
  intro cdepth d addr xs hi
  unfold decMElsG
  refine Tri.head hi fun c d1 h1 => ?_
  dsimp only
  apply Tri.ite <;> intro _
  · exact Tri.fail
  · refine Tri.head h1.1 fun level d2 h2 => ?_
    dsimp only
    refine Tri.bytes h2.1 fun db d3 h3 => ?_
    dsimp only
    apply Tri.ite <;> intro _
    · exact Tri.fail
    · refine Tri.alloc ?_
      refine Tri.head h3.1 fun ec d4 h4 => ?_
      have h04 := h1.then (h2.then (h3.then h4.later).later).later
      have hlen : d4.len + 3 < d.len := by have := h1.2; have := h2.2; have := h3.2; have := h4.2; omega
      dsimp only
      repeat' apply Tri.ite <;> intro _
      · exact Tri.fail
      · exact Tri.fail
      · refine Tri.alloc ?_
        refine Tri.bind ((ihSEls _ _ _ _ _ _ h4.1).cond (by omega)) ?_
        intro ⟨es, sz, d5⟩ h5
        exact Tri.pure (h04.then h5)
      · refine Tri.alloc ?_
        refine Tri.bind ((ihL _ _ _ _ _ _ h4.1).cond (by omega)) ?_
        intro ⟨es, sz, d5⟩ h5
        exact Tri.pure (h04.then h5)

theorem specSEl_succ (ihSt : SpecSt t fuel) : SpecSEl t (fuel + 1) := by
  intro cdepth d addr xs hi
  unfold decSElG
  refine Tri.head hi fun c d1 h1 => ?_
  dsimp only
  apply Tri.ite <;> intro _
  · exact Tri.fail
  · refine Tri.bind ((ihSt _ _ _ _ h1.1).cond (fuel_step h1.2)) ?_
    intro ⟨k, d2⟩ h2
    have h12 := h1.then h2.later
    refine Tri.bind ((ihSt _ _ _ _ h2.1).cond (fuel_step h12.2)) ?_
    intro ⟨v, d3⟩ h3
    dsimp only at h3 ⊢
    apply Tri.ite <;> intro _
    · exact Tri.fail
    · exact Tri.pure (h12.then h3.later)

theorem specSEls_succ (ihSEl : SpecSEl t fuel) (ihSEls : SpecSEls t fuel) : SpecSEls t (fuel + 1) := by
  intro n cdepth d addr xs size hi
  cases n with
  | zero => unfold decSElsG; exact Tri.pure (Later.refl hi)
  | succ n =>
    unfold decSElsG
    refine Tri.bind ((ihSEl _ _ _ _ hi).cond Nat.le_of_succ_le_succ) ?_
    intro ⟨e, d1⟩ h1
    dsimp only at h1 ⊢
    apply Tri.ite <;> intro _
    · exact Tri.fail
    · refine Tri.bind ((ihSEls _ _ _ _ _ _ h1.1).cond (fuel_step h1.2)) ?_
      intro ⟨es, sz, d2⟩ h2
      exact Tri.pure (h1.later.trans h2)

theorem specMEl_succ (ihSt : SpecSt t fuel) (ihSEl : SpecSEl t fuel) (ihMEls : SpecMEls t fuel) :
    SpecMEl t (fuel + 1) := by
  intro cdepth d addr xs hi
  unfold decMElG
  refine Tri.nextType hi fun ty d1 h1 hl1 => ?_
  dsimp only
  cases ty <;> dsimp only <;> try exact Tri.fail
  · refine Tri.bind ((ihSEl _ _ _ _ h1.1).cond (by omega)) ?_
    intro ⟨e, d2⟩ h2
    exact Tri.pure (h1.after h2)
  · refine Tri.head h1.1 fun n d2 h2 => ?_
    have h02 := h1.after h2
    dsimp only
    apply Tri.ite <;> intro _
    · refine Tri.bind ((ihMEls _ _ _ _ h2.1).cond (fun h => Nat.le_of_succ_le (fuel_step h02.2 h))) ?_
      intro ⟨els, d3⟩ h3
      exact Tri.pure (h02.then h3.later)
    · apply Tri.ite <;> intro _
      · refine Tri.bind ((ihSt _ _ _ _ h2.1).cond (fun h => Nat.le_of_succ_le (fuel_step h02.2 h))) ?_
        intro ⟨s, d3⟩ h3
        dsimp only at h3 ⊢
        split
        · exact Tri.pure (h02.then h3.later)
        · exact Tri.fail
      · exact Tri.fail

theorem specMElList_succ (ihMEl : SpecMEl t fuel) (ihL : SpecMElList t fuel) : SpecMElList t (fuel + 1) := by
  intro n cdepth d addr xs size hi
  cases n with
  | zero => unfold decMElListG; exact Tri.pure (Later.refl hi)
  | succ n =>
    unfold decMElListG
    refine Tri.bind ((ihMEl _ _ _ _ hi).cond Nat.le_of_succ_le_succ) ?_
    intro ⟨e, d1⟩ h1
    dsimp only at h1 ⊢
    apply Tri.ite <;> intro _
    · exact Tri.fail
    · refine Tri.bind ((ihL _ _ _ _ _ _ h1.1).cond (fuel_step h1.2)) ?_
      intro ⟨es, sz, d2⟩ h2
      exact Tri.pure (h1.later.trans h2)

end walk

/-- all eleven at one fuel value -/
structure SpecAll (t fuel : Nat) : Prop where
  st : SpecSt t fuel
  sts : SpecSts t fuel
  arr : SpecArr t fuel
  map : SpecMap t fuel
  cmap : SpecCMap t fuel
  cvals : SpecCVals t fuel
  mels : SpecMEls t fuel
  sel : SpecSEl t fuel
  sels : SpecSEls t fuel
  mel : SpecMEl t fuel
  mellist : SpecMElList t fuel

/-- at fuel 0 the element decoders are `fail` and the loops stop or are `fail`; the conditions on the fuel are false -/
theorem specAll_zero (t : Nat) : SpecAll t 0 := by
  have hc : ∀ {d : Dec} {k : Nat}, ¬ (d.len + (k + 1) ≤ 0) := by intros; omega
  have hfail : ∀ {α : Type} {P : α → Prop}, NP (DM.fail : DM α) P := (Tri.fail (c := True)).np
  constructor
  · intro depth d addr xs hi; exact ⟨by unfold decStG; exact hfail, fun h => absurd h hc⟩
  · intro n cdepth d addr xs size hi
    refine ⟨?_, fun h => absurd h hc⟩
    cases n <;> unfold decStsG
    · exact (Tri.pure (c := True) (Later.refl hi)).np
    · exact hfail
  · intro cdepth d addr xs hi; exact ⟨by unfold decInlArr; exact hfail, fun h => absurd h hc⟩
  · intro cdepth d addr xs hi; exact ⟨by unfold decInlMap; exact hfail, fun h => absurd h hc⟩
  · intro cdepth d addr xs hi; exact ⟨by unfold decInlCMap; exact hfail, fun h => absurd h hc⟩
  · intro ks cdepth d addr xs size hi
    refine ⟨?_, fun h => absurd h hc⟩
    cases ks <;> unfold decCVals
    · exact (Tri.pure (c := True) (Later.refl hi)).np
    · exact hfail
  · intro cdepth d addr xs hi; exact ⟨by unfold decMElsG; exact hfail, fun h => absurd h hc⟩
  · intro cdepth d addr xs hi; exact ⟨by unfold decSElG; exact hfail, fun h => absurd h hc⟩
  · intro n cdepth d addr xs size hi
    refine ⟨?_, fun h => absurd h hc⟩
    cases n <;> unfold decSElsG
    · exact (Tri.pure (c := True) (Later.refl hi)).np
    · exact hfail
  · intro cdepth d addr xs hi; exact ⟨by unfold decMElG; exact hfail, fun h => absurd h hc⟩
  · intro n cdepth d addr xs size hi
    refine ⟨?_, fun h => absurd h hc⟩
    cases n <;> unfold decMElListG
    · exact (Tri.pure (c := True) (Later.refl hi)).np
    · exact hfail

/-- The decoders call one another at the fuel below, so no one of the eleven can be specified alone: each step lemma
    takes the specifications of its callees at `fuel`, and all eleven go up together. -/
theorem specAll (t : Nat) : ∀ fuel, SpecAll t fuel
  | 0 => specAll_zero t
  | fuel + 1 =>
    have ih := specAll t fuel
    { st := specSt_succ ih.st ih.arr ih.map ih.cmap, sts := specSts_succ ih.st ih.sts, arr := specArr_succ ih.sts,
      map := specMap_succ ih.mels, cmap := specCMap_succ ih.cvals, cvals := specCVals_succ ih.st ih.cvals,
      mels := specMEls_succ ih.sels ih.mellist, sel := specSEl_succ ih.st, sels := specSEls_succ ih.sel ih.sels,
      mel := specMEl_succ ih.st ih.sel ih.mels, mellist := specMElList_succ ih.mel ih.mellist }

/-! ### read off: each decoder alone, and the fuel above `L + k` -/

section
variable {c : Prop} {t : Nat} {d : Dec}

theorem tri_decStG (fuel depth addr : Nat) (xs : List XD) (hi : DecInv t d) :
    Tri₁ c (decStG fuel depth d addr xs) (fun r => After t d r.2) := ((specAll t fuel).st depth d addr xs hi).right

theorem tri_decStsG (fuel n cdepth addr : Nat) (xs : List XD) (size : Nat) (hi : DecInv t d) :
    Tri₁ c (decStsG fuel n cdepth d addr xs size) (fun r => Later t d r.2.2) :=
  ((specAll t fuel).sts n cdepth d addr xs size hi).right

theorem tri_decMElsG (fuel cdepth addr : Nat) (xs : List XD) (hi : DecInv t d) :
    Tri₁ c (decMElsG fuel cdepth d addr xs) (fun r => After t d r.2) := ((specAll t fuel).mels cdepth d addr xs hi).right

end

theorem stab_of_step {β : Type} (f : Nat → β) (r : Nat) (h : ∀ fuel, r ≤ fuel → f (fuel + 1) = f fuel) :
    ∀ fuel, r ≤ fuel → f fuel = f r := by
  intro fuel hf
  induction fuel with
  | zero =>
    have : r = 0 := by omega
    subst this; rfl
  | succ k ih =>
    by_cases hk : r ≤ k
    · rw [h k hk]; exact ih hk
    · have : r = k + 1 := by omega
      subst this; rfl

theorem decStG_fuel_eq (fuel depth : Nat) (d : Dec) (addr : Nat) (xs : List XD) (h : d.len + 1 ≤ fuel) :
    decStG fuel depth d addr xs = decStG (d.len + 1) depth d addr xs :=
  stab_of_step (fun f => decStG f depth d addr xs) _ (fun f hf => ((specAll _ f).st depth d addr xs d.inv_self).eq hf) fuel h

theorem decStsG_fuel_eq (fuel n cdepth : Nat) (d : Dec) (addr : Nat) (xs : List XD) (size : Nat)
    (h : d.len + 2 ≤ fuel) :
    decStsG fuel n cdepth d addr xs size = decStsG (d.len + 2) n cdepth d addr xs size :=
  stab_of_step (fun f => decStsG f n cdepth d addr xs size) _
    (fun f hf => ((specAll _ f).sts n cdepth d addr xs size d.inv_self).eq hf) fuel h

theorem decInlArr_fuel_eq (fuel cdepth : Nat) (d : Dec) (addr : Nat) (xs : List XD) (h : d.len + 1 ≤ fuel) :
    decInlArr fuel cdepth d addr xs = decInlArr (d.len + 1) cdepth d addr xs :=
  stab_of_step (fun f => decInlArr f cdepth d addr xs) _ (fun f hf => ((specAll _ f).arr cdepth d addr xs d.inv_self).eq hf) fuel h

theorem decInlMap_fuel_eq (fuel cdepth : Nat) (d : Dec) (addr : Nat) (xs : List XD) (h : d.len + 1 ≤ fuel) :
    decInlMap fuel cdepth d addr xs = decInlMap (d.len + 1) cdepth d addr xs :=
  stab_of_step (fun f => decInlMap f cdepth d addr xs) _ (fun f hf => ((specAll _ f).map cdepth d addr xs d.inv_self).eq hf) fuel h

theorem decInlCMap_fuel_eq (fuel cdepth : Nat) (d : Dec) (addr : Nat) (xs : List XD) (h : d.len + 1 ≤ fuel) :
    decInlCMap fuel cdepth d addr xs = decInlCMap (d.len + 1) cdepth d addr xs :=
  stab_of_step (fun f => decInlCMap f cdepth d addr xs) _
    (fun f hf => ((specAll _ f).cmap cdepth d addr xs d.inv_self).eq hf) fuel h

theorem decCVals_fuel_eq (fuel : Nat) (ks : List (Nat × Nat)) (cdepth : Nat) (d : Dec) (addr : Nat) (xs : List XD)
    (size : Nat) (h : d.len + 2 ≤ fuel) :
    decCVals fuel ks cdepth d addr xs size = decCVals (d.len + 2) ks cdepth d addr xs size :=
  stab_of_step (fun f => decCVals f ks cdepth d addr xs size) _
    (fun f hf => ((specAll _ f).cvals ks cdepth d addr xs size d.inv_self).eq hf) fuel h

theorem decMElsG_fuel_eq (fuel cdepth : Nat) (d : Dec) (addr : Nat) (xs : List XD) (h : d.len + 1 ≤ fuel) :
    decMElsG fuel cdepth d addr xs = decMElsG (d.len + 1) cdepth d addr xs :=
  stab_of_step (fun f => decMElsG f cdepth d addr xs) _
    (fun f hf => ((specAll _ f).mels cdepth d addr xs d.inv_self).eq hf) fuel h

theorem decSElG_fuel_eq (fuel cdepth : Nat) (d : Dec) (addr : Nat) (xs : List XD) (h : d.len + 1 ≤ fuel) :
    decSElG fuel cdepth d addr xs = decSElG (d.len + 1) cdepth d addr xs :=
  stab_of_step (fun f => decSElG f cdepth d addr xs) _
    (fun f hf => ((specAll _ f).sel cdepth d addr xs d.inv_self).eq hf) fuel h

theorem decSElsG_fuel_eq (fuel n cdepth : Nat) (d : Dec) (addr : Nat) (xs : List XD) (size : Nat)
    (h : d.len + 2 ≤ fuel) :
    decSElsG fuel n cdepth d addr xs size = decSElsG (d.len + 2) n cdepth d addr xs size :=
  stab_of_step (fun f => decSElsG f n cdepth d addr xs size) _
    (fun f hf => ((specAll _ f).sels n cdepth d addr xs size d.inv_self).eq hf) fuel h

theorem decMElG_fuel_eq (fuel cdepth : Nat) (d : Dec) (addr : Nat) (xs : List XD) (h : d.len + 2 ≤ fuel) :
    decMElG fuel cdepth d addr xs = decMElG (d.len + 2) cdepth d addr xs :=
  stab_of_step (fun f => decMElG f cdepth d addr xs) _
    (fun f hf => ((specAll _ f).mel cdepth d addr xs d.inv_self).eq hf) fuel h

theorem decMElListG_fuel_eq (fuel n cdepth : Nat) (d : Dec) (addr : Nat) (xs : List XD) (size : Nat)
    (h : d.len + 3 ≤ fuel) :
    decMElListG fuel n cdepth d addr xs size = decMElListG (d.len + 3) n cdepth d addr xs size :=
  stab_of_step (fun f => decMElListG f n cdepth d addr xs size) _
    (fun f hf => ((specAll _ f).mellist n cdepth d addr xs size d.inv_self).eq hf) fuel h

/-! two fuels above `L + k` cannot be told apart -/

theorem Tri.of_stable {α : Type} {m : Nat → DM α} {r f1 f2 : Nat} {P : α → Prop}
    (hst : ∀ f, r ≤ f → m f = m r) (h : NP (m f2) P) : Tri (r ≤ f1 ∧ r ≤ f2) (m f1) (m f2) P :=
  ⟨h, fun ⟨h1, h2⟩ => by rw [hst f1 h1, hst f2 h2]⟩

section
variable {t f1 f2 : Nat} {d : Dec}

theorem tri_decStG_fuels (depth addr : Nat) (xs : List XD) (hi : DecInv t d) :
    Tri (d.len + 1 ≤ f1 ∧ d.len + 1 ≤ f2) (decStG f1 depth d addr xs) (decStG f2 depth d addr xs)
      (fun r => After t d r.2) :=
  Tri.of_stable (fun f h => decStG_fuel_eq f depth d addr xs h) (tri_decStG (c := True) f2 depth addr xs hi).np

theorem tri_decStsG_fuels (n cdepth addr : Nat) (xs : List XD) (size : Nat) (hi : DecInv t d) :
    Tri (d.len + 2 ≤ f1 ∧ d.len + 2 ≤ f2) (decStsG f1 n cdepth d addr xs size) (decStsG f2 n cdepth d addr xs size)
      (fun r => Later t d r.2.2) :=
  Tri.of_stable (fun f h => decStsG_fuel_eq f n cdepth d addr xs size h)
    (tri_decStsG (c := True) f2 n cdepth addr xs size hi).np

theorem tri_decMElsG_fuels (cdepth addr : Nat) (xs : List XD) (hi : DecInv t d) :
    Tri (d.len + 1 ≤ f1 ∧ d.len + 1 ≤ f2) (decMElsG f1 cdepth d addr xs) (decMElsG f2 cdepth d addr xs)
      (fun r => After t d r.2) :=
  Tri.of_stable (fun f h => decMElsG_fuel_eq f cdepth d addr xs h) (tri_decMElsG (c := True) f2 cdepth addr xs hi).np

end

end Atree.Codec

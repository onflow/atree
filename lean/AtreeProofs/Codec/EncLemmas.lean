import AtreeModel.Codec.Encode
/-
  Byte-level facts about the encoders: big-endian round trip, lengths of heads, elements, element
  arrays and child headers, and the length laws of C06.
-/
namespace Atree.Codec
open Atree Atree.Gen

@[simp] theorem length_beBytes (k n : Nat) : (beBytes k n).length = k := by
  induction k with
  | zero => rfl
  | succ k ih => simp [beBytes, ih]

theorem beVal_beBytes_mod (k n : Nat) : beVal (beBytes k n) = n % 256 ^ k := by
  induction k with
  | zero => simp [beBytes, beVal, Nat.mod_one]
  | succ k ih =>
    simp only [beBytes, beVal, length_beBytes, ih]
    rw [Nat.mod_pow_succ]
    rw [Nat.mul_comm, Nat.add_comm]

theorem beVal_beBytes {k n : Nat} (h : n < 256 ^ k) : beVal (beBytes k n) = n := by
  rw [beVal_beBytes_mod, Nat.mod_eq_of_lt h]

theorem beVal_append_zeros (b : Bytes) (z : Nat) :
    beVal (b ++ List.replicate z 0) = beVal b * 256 ^ z := by
  induction b with
  | nil =>
    simp only [List.nil_append, beVal, Nat.zero_mul]
    induction z with
    | zero => rfl
    | succ z ih => simp [List.replicate_succ, beVal, ih]
  | cons x xs ih =>
    simp only [List.cons_append, beVal, ih, List.length_append, List.length_replicate]
    rw [Nat.pow_add, Nat.add_mul, Nat.mul_assoc]

theorem length_head (m n : Nat) : (head m n).length = headLen n := by
  unfold head headLen
  repeat' split
  all_goals simp

theorem headLen_pos (n : Nat) : 1 ≤ headLen n := by
  unfold headLen
  by_cases c1 : n < 24
  · rw [if_pos c1]; decide
  rw [if_neg c1]
  by_cases c2 : n < 256
  · rw [if_pos c2]; decide
  rw [if_neg c2]
  by_cases c3 : n < 65536
  · rw [if_pos c3]; decide
  rw [if_neg c3]
  by_cases c4 : n < 4294967296
  · rw [if_pos c4]; decide
  · rw [if_neg c4]; decide

theorem length_tvContent (l p : Nat) : (tvContent l p).length = l := by
  unfold tvContent
  simp only [List.length_append, length_beBytes, List.length_replicate]
  omega

theorem isGap_iff (size : Nat) : isGap size = true ↔ size = 25 ∨ size = 258 ∨ size = 65539 := by
  unfold isGap
  simp only [Bool.or_eq_true, beq_iff_eq]
  constructor
  · rintro ((h | h) | h) <;> simp [h]
  · rintro (h | h | h) <;> simp [h]

/-- sizes of the byte-string encoding of a harness value: tag (if gap) + head + content -/
theorem tv_size {size : Nat} (h1 : 1 ≤ size) (h2 : size ≠ 65540) (h3 : size < 2 ^ 32) :
    (if isGap size then 2 else 0) + headLen (tvLen size) + tvLen size = size := by
  unfold tvLen
  by_cases hg : isGap size = true
  · rw [if_pos hg, if_pos hg]
    rcases (isGap_iff size).1 hg with h | h | h <;> subst h <;> decide
  · rw [if_neg hg, if_neg hg]
    have hng := mt (isGap_iff size).2 hg
    unfold bsLen headLen
    by_cases c1 : size - 1 < 24
    · rw [if_pos c1, if_pos c1]; omega
    rw [if_neg c1]
    by_cases c2 : size - 2 < 256
    · rw [if_pos c2, if_neg (by omega), if_pos c2]; omega
    rw [if_neg c2]
    by_cases c3 : size - 3 < 65536
    · rw [if_pos c3, if_neg (by omega), if_neg (by omega), if_pos c3]; omega
    rw [if_neg c3, if_neg (by omega), if_neg (by omega), if_neg (by omega), if_pos (by omega)]; omega

theorem length_encodeSlabID (id : SlabID) : (encodeSlabID id).length = 16 := by
  simp [encodeSlabID, SlabAddressLength, SlabIndexLength]

/-- C06, elements: the encoded length of every valid element is its size. -/
theorem elem_size_eq_enc_len (e : Elem) (hv : validElem e) : (encodeElem e).length = e.size := by
  unfold validElem at hv
  unfold encodeElem
  cases hp : e.pay with
  | ref id =>
    rw [hp] at hv
    simp only at hv ⊢
    simp only [List.length_append, length_encodeSlabID, length_head, tagHead8, List.length_cons,
      List.length_nil, headLen, SlabIDLength]
    rw [hv.1]; simp [slabIDStorableSize, SlabIDLength]
  | val p =>
    rw [hp] at hv
    simp only at hv ⊢
    have := tv_size hv.1 hv.2.1 hv.2.2.1
    simp only [List.length_append, length_head, length_tvContent]
    split <;> simp_all [tagHead8] <;> omega

theorem length_flatMap_encodeElem (l : List Elem) (hv : ∀ e ∈ l, validElem e) :
    (l.flatMap encodeElem).length = sumSizes l := by
  induction l with
  | nil => rfl
  | cons e es ih =>
    simp only [List.flatMap_cons, List.length_append, sumSizes, List.map_cons, List.sum_cons]
    rw [elem_size_eq_enc_len e (hv e (List.mem_cons_self ..))]
    have := ih (fun x hx => hv x (List.mem_cons_of_mem _ hx))
    unfold sumSizes at this
    rw [this]

theorem length_encodeElements (l : List Elem) (hv : ∀ e ∈ l, validElem e) :
    (encodeElements l).length = arrayDataSlabElementHeadSize + sumSizes l := by
  unfold encodeElements arrayHead16
  simp [length_flatMap_encodeElem l hv, arrayDataSlabElementHeadSize]; omega

theorem length_encodeChildHdr (h : Hdr) : (encodeChildHdr h).length = arraySlabHeaderSize := by
  simp [encodeChildHdr, SlabIndexLength, arraySlabHeaderSize]

theorem length_flatMap_encodeChildHdr (l : List Hdr) :
    (l.flatMap encodeChildHdr).length = arraySlabHeaderSize * l.length := by
  induction l with
  | nil => rfl
  | cons h hs ih =>
    simp only [List.flatMap_cons, List.length_append, length_encodeChildHdr, ih, List.length_cons]
    simp [arraySlabHeaderSize]; omega

theorem enc_len_data (ty : TyInfo) (s : DataSlab)
    (hsize : s.hdr.size = s.prefixSize + sumSizes s.elems)
    (hinl : s.inlined = false)
    (hroot : s.root = true → s.next = SlabID.undef)
    (hv : ∀ e ∈ s.elems, validElem e) :
    (encodeDataSlab ty s).length + (if s.root = false ∧ s.next = SlabID.undef then 16 else 0)
      = s.hdr.size + (if s.root then (encodeExtraData ty).length else 0) := by
  unfold encodeDataSlab
  rw [hsize]
  simp only [DataSlab.prefixSize, hinl, List.length_append, length_encodeElements s.elems hv,
    List.length_cons, List.length_nil, arrayDataSlabElementHeadSize, arrayRootDataSlabPrefixSize,
    arrayDataSlabPrefixSize]
  cases hr : s.root with
  | true =>
    have := hroot hr
    simp [this]; omega
  | false =>
    by_cases hn : s.next = SlabID.undef
    · simp [hn]; omega
    · simp [hn, length_encodeSlabID]; omega

theorem enc_len_meta {α : Type} (ty : TyInfo) (m : MetaSlab α)
    (hsize : m.hdr.size = arrayMetaDataSlabPrefixSize + arraySlabHeaderSize * m.childHdrs.length) :
    (encodeMetaSlab ty m).length = m.hdr.size + (if m.root then (encodeExtraData ty).length else 0) := by
  unfold encodeMetaSlab
  rw [hsize]
  simp only [List.length_append, length_flatMap_encodeChildHdr, length_beBytes, List.length_cons,
    List.length_nil, arrayMetaDataSlabPrefixSize, SlabAddressLength]
  cases m.root <;> simp <;> omega

theorem enc_len_storable (e : Elem) (hv : validElem e) :
    (encodeStorableSlab e).length = versionAndFlagSize + e.size := by
  unfold encodeStorableSlab
  simp [elem_size_eq_enc_len e hv, versionAndFlagSize]; omega

end Atree.Codec

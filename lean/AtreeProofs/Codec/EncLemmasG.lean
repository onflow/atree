import AtreeProofs.OrderLemmas
import AtreeProofs.Codec.EncLemmas
import AtreeModel.Codec.Limits
/-
  Lengths of the encodings of the second part of the model: general storables (wrappers, inlined
  arrays and maps, compact maps), map elements, map data / index slabs.

  There is one law, `lenSt_exact`:

      (encSt s xs).1.length + s.hoisted = s.size

  `Stor.hoisted` (AtreeModel/Codec/Limits.lean) is the number of bytes the compact form of an inlined
  map does not write in place: per compact-encoded map the `hkeyElements` head (8 bytes) that is
  replaced by a plain CBOR array head, and per key its digest (8), the single-element head (1) and
  the key itself; recursively for keys and values.  It needs the keys of every compact-encoded map
  to be distinct (`nodupKeys`).  Two weaker forms are read off it: `written ≤ reported` (`lenSt_le`;
  an encoder that drops values satisfies that too, the exact law does not leave that freedom), and
  `written = reported` when no inlined map is written in the compact form (`lenSt_eq`: under
  `noCompact` the keys are trivially distinct and nothing is hoisted).  `encVals`: the values of a compact
  map as a recursion over the cached keys (`encSt_compact`), the form every later file works with.
-/
namespace Atree.Codec
open Atree Atree.Gen

mutual
/-- plain values are values of the harness (`validElem`), `hkeyElements` have one digest per element -/
def Stor.OK : Stor → Prop
  | .val size pay => validElem { size := size, pay := .val pay }
  | .ref _ => True
  | .some s => s.OK
  | .arr _ _ es => okSts es
  | .map _ _ els => els.OK
def okSts : List Stor → Prop
  | [] => True
  | s :: ss => s.OK ∧ okSts ss
def SEl.OK : SEl → Prop
  | .mk k v => k.OK ∧ v.OK
def MEl.OK : MEl → Prop
  | .single e => e.OK
  | .inl els => els.OK
  | .ext _ => True
def MEls.OK : MEls → Prop
  | .hkey _ hkeys es => hkeys.length = es.length ∧ okMElList es
  | .single _ es => okSElList es
def okMElList : List MEl → Prop
  | [] => True
  | e :: es => e.OK ∧ okMElList es
def okSElList : List SEl → Prop
  | [] => True
  | e :: es => e.OK ∧ okSElList es
end

mutual
/-- no inlined map inside is written in the compact form -/
def Stor.noCompact : Stor → Prop
  | .val _ _ => True
  | .ref _ => True
  | .some s => s.noCompact
  | .arr _ _ es => noCompactSts es
  | .map x _ (.hkey _ _ es) => compactKeys x es = none ∧ noCompactMElList es
  | .map _ _ (.single _ es) => noCompactSElList es
def noCompactSts : List Stor → Prop
  | [] => True
  | s :: ss => s.noCompact ∧ noCompactSts ss
def SEl.noCompact : SEl → Prop
  | .mk k v => k.noCompact ∧ v.noCompact
def MEl.noCompact : MEl → Prop
  | .single e => e.noCompact
  | .inl els => els.noCompact
  | .ext _ => True
def MEls.noCompact : MEls → Prop
  | .hkey _ _ es => noCompactMElList es
  | .single _ es => noCompactSElList es
def noCompactMElList : List MEl → Prop
  | [] => True
  | e :: es => e.noCompact ∧ noCompactMElList es
def noCompactSElList : List SEl → Prop
  | [] => True
  | e :: es => e.noCompact ∧ noCompactSElList es
end

mutual
/-- the keys of every inlined map that is written in the compact form are distinct -/
def Stor.nodupKeys : Stor → Prop
  | .val _ _ => True
  | .ref _ => True
  | .some s => s.nodupKeys
  | .arr _ _ es => nodupKeysSts es
  | .map x _ (.hkey _ _ es) => (∀ keys, compactKeys x es = some keys → keys.Nodup) ∧ nodupKeysMElList es
  | .map _ _ (.single _ es) => nodupKeysSElList es
def nodupKeysSts : List Stor → Prop
  | [] => True
  | s :: ss => s.nodupKeys ∧ nodupKeysSts ss
def SEl.nodupKeys : SEl → Prop
  | .mk k v => k.nodupKeys ∧ v.nodupKeys
def MEl.nodupKeys : MEl → Prop
  | .single e => e.nodupKeys
  | .inl els => els.nodupKeys
  | .ext _ => True
def MEls.nodupKeys : MEls → Prop
  | .hkey _ _ es => nodupKeysMElList es
  | .single _ es => nodupKeysSElList es
def nodupKeysMElList : List MEl → Prop
  | [] => True
  | e :: es => e.nodupKeys ∧ nodupKeysMElList es
def nodupKeysSElList : List SEl → Prop
  | [] => True
  | e :: es => e.nodupKeys ∧ nodupKeysSElList es
end

mutual
theorem Stor.nodupKeys_of_noCompact : (s : Stor) → s.noCompact → s.nodupKeys
  | .val _ _, _ => trivial
  | .ref _, _ => trivial
  | .some s, nc => Stor.nodupKeys_of_noCompact s nc
  | .arr _ _ es, nc => nodupKeysSts_of_noCompact es nc
  | .map x _ (.hkey _ _ es), nc => by
    have hc : compactKeys x es = none := nc.1
    exact ⟨fun keys h => (by rw [hc] at h; cases h), nodupKeysMElList_of_noCompact es nc.2⟩
  | .map _ _ (.single _ es), nc => nodupKeysSElList_of_noCompact es nc
theorem nodupKeysSts_of_noCompact : (l : List Stor) → noCompactSts l → nodupKeysSts l
  | [], _ => trivial
  | s :: ss, nc => ⟨Stor.nodupKeys_of_noCompact s nc.1, nodupKeysSts_of_noCompact ss nc.2⟩
theorem SEl.nodupKeys_of_noCompact : (e : SEl) → e.noCompact → e.nodupKeys
  | .mk k v, nc => ⟨Stor.nodupKeys_of_noCompact k nc.1, Stor.nodupKeys_of_noCompact v nc.2⟩
theorem MEl.nodupKeys_of_noCompact : (e : MEl) → e.noCompact → e.nodupKeys
  | .single e, nc => SEl.nodupKeys_of_noCompact e nc
  | .inl els, nc => MEls.nodupKeys_of_noCompact els nc
  | .ext _, _ => trivial
theorem MEls.nodupKeys_of_noCompact : (els : MEls) → els.noCompact → els.nodupKeys
  | .hkey _ _ es, nc => nodupKeysMElList_of_noCompact es nc
  | .single _ es, nc => nodupKeysSElList_of_noCompact es nc
theorem nodupKeysMElList_of_noCompact : (l : List MEl) → noCompactMElList l → nodupKeysMElList l
  | [], _ => trivial
  | e :: es, nc => ⟨MEl.nodupKeys_of_noCompact e nc.1, nodupKeysMElList_of_noCompact es nc.2⟩
theorem nodupKeysSElList_of_noCompact : (l : List SEl) → noCompactSElList l → nodupKeysSElList l
  | [], _ => trivial
  | e :: es, nc => ⟨SEl.nodupKeys_of_noCompact e nc.1, nodupKeysSElList_of_noCompact es nc.2⟩
end

mutual
theorem Stor.hoisted_noCompact : (s : Stor) → s.noCompact → s.hoisted = 0
  | .val _ _, _ => rfl
  | .ref _, _ => rfl
  | .some s, nc => by simp only [Stor.hoisted]; exact Stor.hoisted_noCompact s nc
  | .arr _ _ es, nc => by simp only [Stor.hoisted]; exact hoistedSts_noCompact es nc
  | .map x _ (.hkey _ _ es), nc => by
    have hc : compactKeys x es = none := nc.1
    simp only [Stor.hoisted, hc]; exact hoistedMElList_noCompact es nc.2
  | .map _ _ (.single _ es), nc => by simp only [Stor.hoisted]; exact hoistedSElList_noCompact es nc
theorem hoistedSts_noCompact : (l : List Stor) → noCompactSts l → hoistedSts l = 0
  | [], _ => rfl
  | s :: ss, nc => by
    simp only [hoistedSts, Stor.hoisted_noCompact s nc.1, hoistedSts_noCompact ss nc.2]
theorem SEl.hoisted_noCompact : (e : SEl) → e.noCompact → e.hoisted = 0
  | .mk k v, nc => by simp only [SEl.hoisted, Stor.hoisted_noCompact k nc.1, Stor.hoisted_noCompact v nc.2]
theorem MEl.hoisted_noCompact : (e : MEl) → e.noCompact → e.hoisted = 0
  | .single e, nc => by simp only [MEl.hoisted]; exact SEl.hoisted_noCompact e nc
  | .inl els, nc => by simp only [MEl.hoisted]; exact MEls.hoisted_noCompact els nc
  | .ext _, _ => rfl
theorem MEls.hoisted_noCompact : (els : MEls) → els.noCompact → els.hoisted = 0
  | .hkey _ _ es, nc => by simp only [MEls.hoisted]; exact hoistedMElList_noCompact es nc
  | .single _ es, nc => by simp only [MEls.hoisted]; exact hoistedSElList_noCompact es nc
theorem hoistedMElList_noCompact : (l : List MEl) → noCompactMElList l → hoistedMElList l = 0
  | [], _ => rfl
  | e :: es, nc => by
    simp only [hoistedMElList, MEl.hoisted_noCompact e nc.1, hoistedMElList_noCompact es nc.2]
theorem hoistedSElList_noCompact : (l : List SEl) → noCompactSElList l → hoistedSElList l = 0
  | [], _ => rfl
  | e :: es, nc => by
    simp only [hoistedSElList, SEl.hoisted_noCompact e nc.1, hoistedSElList_noCompact es nc.2]
end

theorem length_encodeRef (id : SlabID) :
    (encodeElem { size := slabIDStorableSize, pay := .ref id }).length = slabIDStorableSize := by
  simp [encodeElem, tagHead8, length_head, length_encodeSlabID, slabIDStorableSize, SlabIDLength, headLen]

theorem length_inlinedHead (tag i : Nat) : (inlinedHead tag i).length = 5 := rfl

theorem length_encodeIdx (idx : Nat) : (encodeIdx idx).length = 9 := by
  simp [encodeIdx, length_head, length_beBytes, SlabIndexLength, headLen]

theorem length_arrayHead16 (n : Nat) : (arrayHead16 n).length = 3 := by
  simp [arrayHead16, length_beBytes]

theorem length_bytesHead16 (n : Nat) : (bytesHead16 n).length = 3 := by
  simp [bytesHead16, length_beBytes]

theorem length_encodeHkeys (hkeys : List Nat) : (encodeHkeys hkeys).length = 8 * hkeys.length := by
  induction hkeys with
  | nil => rfl
  | cons h t ih =>
    have : encodeHkeys (h :: t) = beBytes digestSize h ++ encodeHkeys t := rfl
    rw [this, List.length_append, ih, length_beBytes]
    simp only [digestSize, List.length_cons]; omega

theorem headLen_le_nine (n : Nat) : headLen n ≤ 9 := by
  unfold headLen; repeat' split
  all_goals omega

theorem findIdxFrom_some {α : Type} (p : α → Bool) : ∀ (l : List α) (j i : Nat),
    findIdxFrom p l j = some i → j ≤ i ∧ ∃ x, l[i - j]? = some x ∧ p x = true := by
  intro l
  induction l with
  | nil => intro j i h; cases h
  | cons x xs ih =>
    intro j i h
    unfold findIdxFrom at h
    by_cases hp : p x = true
    · rw [if_pos hp] at h
      cases h
      exact ⟨Nat.le_refl _, x, by simp, hp⟩
    · rw [if_neg hp] at h
      obtain ⟨hle, y, hy, hpy⟩ := ih (j + 1) i h
      refine ⟨by omega, y, ?_, hpy⟩
      have : i - j = (i - (j + 1)) + 1 := by omega
      rw [this, List.getElem?_cons_succ]
      exact hy

theorem addCompactXD_perm (xs : List XD) (x : MapExtra) (hkeys : List Nat) (keys : List (Nat × Nat)) :
    (addCompactXD xs x hkeys keys).2.1.Perm keys := by
  unfold addCompactXD
  cases hf : findIdxFrom (sameCompactType x.ty keys) xs 0 with
  | none => exact List.Perm.refl _
  | some i =>
    obtain ⟨_, y, hy, hp⟩ := findIdxFrom_some _ xs 0 i hf
    simp only [Nat.sub_zero] at hy
    simp only [hy]
    cases y with
    | arr t => exact List.Perm.refl _
    | map m => exact List.Perm.refl _
    | cmap x' hk' keys' =>
      simp only [sameCompactType, Bool.and_eq_true] at hp
      have heq : sortKeys keys' = sortKeys keys := eq_of_beq hp.2
      exact ((sortKeys_perm keys').symm.trans (heq ▸ List.Perm.refl _)).trans (sortKeys_perm keys)

theorem compactKeys_mapM {x : MapExtra} {elems : List MEl} {keys : List (Nat × Nat)}
    (h : compactKeys x elems = some keys) : elems.mapM compactKey = some keys := by
  unfold compactKeys at h
  split at h
  · exact h
  · cases h

/-- Induction over a compact-eligible element list: it consists of single elements with plain keys,
    and `mapM compactKey` lists those keys in order. -/
theorem mapM_compactKey_induction {P : List MEl → List (Nat × Nat) → Prop} (nil : P [] [])
    (cons : ∀ s p v es ks, es.mapM compactKey = some ks → P es ks →
      P (.single (.mk (.val s p) v) :: es) ((s, p) :: ks)) :
    ∀ (elems : List MEl) (keys : List (Nat × Nat)), elems.mapM compactKey = some keys → P elems keys := by
  intro elems
  induction elems with
  | nil =>
    intro keys h
    simp only [List.mapM_nil, Option.pure_def, Option.some.injEq] at h
    subst h; exact nil
  | cons e es ih =>
    intro keys h
    rw [List.mapM_cons] at h
    cases hk : compactKey e with
    | none => rw [hk] at h; cases h
    | some k0 =>
      rw [hk] at h
      cases hm : es.mapM compactKey with
      | none => rw [hm] at h; cases h
      | some ks =>
        rw [hm] at h
        simp only [Option.pure_def, Option.bind_eq_bind, Option.bind_some, Option.some.injEq] at h
        subst h
        match e, hk with
        | .single (.mk (.val s p) v), hk =>
          simp only [compactKey, Option.some.injEq] at hk
          subst hk
          exact cons s p v es ks hm (ih ks hm)

theorem mapM_compactKey_length : ∀ (elems : List MEl) (keys : List (Nat × Nat)),
    elems.mapM compactKey = some keys → keys.length = elems.length :=
  mapM_compactKey_induction rfl fun _ _ _ _ _ _ ih => congrArg (· + 1) ih

/-- `f` of the value of the first single element whose key is `k` (0 if there is none) -/
def valFOf (f : Stor → Nat) (k : Nat × Nat) : List MEl → Nat
  | [] => 0
  | .single (.mk (.val s p) v) :: rest => if (s, p) = k then f v else valFOf f k rest
  | _ :: rest => valFOf f k rest

/-- sum of `f` over the values of the single elements -/
def valFSum (f : Stor → Nat) : List MEl → Nat
  | [] => 0
  | .single (.mk _ v) :: rest => f v + valFSum f rest
  | _ :: rest => valFSum f rest

/-- over the map's own (distinct) keys, the looked-up measures add up to the sum over the values -/
theorem sum_valFOf_keys (f : Stor → Nat) : ∀ (elems : List MEl) (keys : List (Nat × Nat)),
    elems.mapM compactKey = some keys → keys.Nodup →
    (keys.map (fun k => valFOf f k elems)).sum = valFSum f elems := by
  refine mapM_compactKey_induction (fun _ => rfl) ?_
  intro s p v es ks _ ih hnd
  obtain ⟨hnot, hnd'⟩ := List.nodup_cons.1 hnd
  have hrest : (ks.map (fun k => valFOf f k (MEl.single (SEl.mk (Stor.val s p) v) :: es)))
      = ks.map (fun k => valFOf f k es) := by
    apply List.map_congr_left
    intro k hkin
    have hne : (s, p) ≠ k := fun h => hnot (h ▸ hkin)
    simp only [valFOf, hne, ↓reduceIte]
  rw [List.map_cons, List.sum_cons, hrest, ih hnd']
  simp only [valFOf, ↓reduceIte, valFSum]

/-- the bytes hoisted per key: digest, single-element head, the key -/
def keyHoist (k : Nat × Nat) : Nat := digestSize + singleElementPrefixSize + k.1

/-- a compact-eligible element list: its size is the values plus what is hoisted per key, and what it
    hoists below is what its values hoist (the keys are plain values) -/
theorem compact_size_split : ∀ (elems : List MEl) (keys : List (Nat × Nat)),
    elems.mapM compactKey = some keys →
    sizeMEl elems = valFSum Stor.size elems + (keys.map keyHoist).sum ∧
    hoistedMElList elems = valFSum Stor.hoisted elems ∧
    9 * keys.length ≤ (keys.map keyHoist).sum := by
  refine mapM_compactKey_induction (by simp [sizeMEl, valFSum, hoistedMElList]) ?_
  intro s p v es ks _ ⟨ih1, ih2, ih3⟩
  simp only [sizeMEl, MEl.size, SEl.size, Stor.size, valFSum, List.map_cons, List.sum_cons, keyHoist,
    hoistedMElList, MEl.hoisted, SEl.hoisted, Stor.hoisted, List.length_cons, digestSize,
    singleElementPrefixSize] at ih1 ih2 ih3 ⊢
  omega

/-- `encodeCompactMapValues`: the values stored under the cached keys, in that order -/
def encVals (elems : List MEl) : List (Nat × Nat) → List XD → Bytes × List XD
  | [], xs => ([], xs)
  | k :: ks, xs =>
    let v := encFind k elems xs
    let r := encVals elems ks v.2
    (v.1 ++ r.1, r.2)

theorem foldl_encFind_eq (elems : List MEl) : ∀ (ks : List (Nat × Nat)) (acc : Bytes × List XD),
    ks.foldl (fun (acc : Bytes × List XD) k =>
        let v := encFind k elems acc.2
        (acc.1 ++ v.1, v.2)) acc
      = (acc.1 ++ (encVals elems ks acc.2).1, (encVals elems ks acc.2).2)
  | [], acc => by simp [encVals]
  | k :: ks, acc => by
    simp only [List.foldl_cons, encVals]
    rw [foldl_encFind_eq elems ks]
    simp [List.append_assoc]

/-- `encSt` at an inlined map that is written in the compact form, the values as `encVals` -/
theorem encSt_compact {x : MapExtra} {elems : List MEl} {keys : List (Nat × Nat)}
    (hc : compactKeys x elems = some keys) (idx level : Nat) (hkeys : List Nat) (xs : List XD) :
    encSt (.map x idx (.hkey level hkeys elems)) xs =
      (inlinedHead CBORTagInlinedCompactMap (addCompactXD xs x hkeys keys).1 ++ encodeIdx idx ++
          head 4 (addCompactXD xs x hkeys keys).2.1.length ++
          (encVals elems (addCompactXD xs x hkeys keys).2.1 (addCompactXD xs x hkeys keys).2.2).1,
        (encVals elems (addCompactXD xs x hkeys keys).2.1 (addCompactXD xs x hkeys keys).2.2).2) := by
  simp only [encSt, hc, foldl_encFind_eq, List.nil_append]

/-- the loop of `encodeCompactMapValues` over the cached keys, exactly -/
theorem encVals_exact (elems : List MEl)
    (hfind : ∀ k xs, (encFind k elems xs).1.length + valFOf Stor.hoisted k elems = valFOf Stor.size k elems) :
    ∀ (ks : List (Nat × Nat)) (xs : List XD),
      (encVals elems ks xs).1.length + (ks.map (fun k => valFOf Stor.hoisted k elems)).sum
        = (ks.map (fun k => valFOf Stor.size k elems)).sum
  | [], xs => by simp [encVals]
  | k :: ks, xs => by
    have h1 := encVals_exact elems hfind ks (encFind k elems xs).2
    have h2 := hfind k xs
    simp only [encVals, List.map_cons, List.sum_cons, List.length_append]
    omega

mutual
/-- bytes written in place + bytes hoisted into the shared section = computed size -/
theorem lenSt_exact : (s : Stor) → (xs : List XD) → s.OK → s.nodupKeys →
    (encSt s xs).1.length + s.hoisted = s.size
  | .val size pay, xs, h, _ => by
    simp only [encSt, Stor.size, Stor.hoisted, Nat.add_zero]
    exact elem_size_eq_enc_len _ h
  | .ref id, xs, _, _ => by
    simp only [encSt, Stor.size, Stor.hoisted, Nat.add_zero]
    exact length_encodeRef id
  | .some s, xs, h, nd => by
    have ih := lenSt_exact s xs h nd
    simp only [encSt, Stor.size, Stor.hoisted, List.length_append, tagHead8, List.length_cons, List.length_nil,
      someOverhead]
    omega
  | .arr ty idx es, xs, h, nd => by
    have ih := lenSts_exact es (addArrayXD xs ty).2 h nd
    simp only [encSt, Stor.size, Stor.hoisted, List.length_append, length_inlinedHead, length_encodeIdx,
      length_arrayHead16, inlinedArrayDataSlabPrefixSize]
    omega
  | .map x idx (.hkey level hkeys elems), xs, h, nd => by
    cases hc : compactKeys x elems with
    | none =>
      have ih := lenMElList_exact elems (addMapXD xs x).2 h.2 nd.2
      simp only [encSt, hc, Stor.size, Stor.hoisted, MEls.size, List.length_append, length_inlinedHead,
        length_encodeIdx, length_arrayHead16, length_bytesHead16, length_encodeHkeys, List.length_cons,
        List.length_nil, inlinedMapDataSlabPrefixSize, hkeyElementsPrefixSize]
      have := h.1
      omega
    | some keys =>
      have hm := compactKeys_mapM hc
      have hnd := nd.1 keys hc
      have hperm := addCompactXD_perm xs x hkeys keys
      have hfind : ∀ k xs', (encFind k elems xs').1.length + valFOf Stor.hoisted k elems
          = valFOf Stor.size k elems :=
        fun k xs' => lenFind_exact k elems xs' h.2 nd.2
      have hfold := encVals_exact elems hfind (addCompactXD xs x hkeys keys).2.1 (addCompactXD xs x hkeys keys).2.2
      have hsumS : ((addCompactXD xs x hkeys keys).2.1.map (fun k => valFOf Stor.size k elems)).sum
          = valFSum Stor.size elems := by
        rw [(List.Perm.map _ hperm).sum_nat]
        exact sum_valFOf_keys Stor.size elems keys hm hnd
      have hsumH : ((addCompactXD xs x hkeys keys).2.1.map (fun k => valFOf Stor.hoisted k elems)).sum
          = valFSum Stor.hoisted elems := by
        rw [(List.Perm.map _ hperm).sum_nat]
        exact sum_valFOf_keys Stor.hoisted elems keys hm hnd
      have hlen : (addCompactXD xs x hkeys keys).2.1.length = keys.length := hperm.length_eq
      obtain ⟨hsz, hho, h9n⟩ := compact_size_split elems keys hm
      -- `Stor.hoisted` takes the plain array head off with `Nat` subtraction; it is exact: the head is at
      -- most 9 bytes, every key hoists at least 9, and the head of the empty array is 1 byte
      have h9 := headLen_le_nine keys.length
      have h1 : keys.length = 0 → headLen keys.length = 1 := by intro h0; rw [h0]; rfl
      have hK : (keys.map (fun k => digestSize + singleElementPrefixSize + k.1)).sum = (keys.map keyHoist).sum := rfl
      rw [encSt_compact hc]
      simp only [hc, Stor.size, Stor.hoisted, MEls.size, List.length_append, length_inlinedHead,
        length_encodeIdx, length_head, hlen, hK, inlinedMapDataSlabPrefixSize, hkeyElementsPrefixSize]
      rw [hsumS, hsumH] at hfold
      omega
  | .map x idx (.single level elems), xs, h, nd => by
    have ih := lenSElList_exact elems (addMapXD xs x).2 h nd
    simp only [encSt, Stor.size, Stor.hoisted, MEls.size, List.length_append, length_inlinedHead, length_encodeIdx,
      length_arrayHead16, List.length_cons, List.length_nil, inlinedMapDataSlabPrefixSize, singleElementsPrefixSize]
    omega
theorem lenSts_exact : (l : List Stor) → (xs : List XD) → okSts l → nodupKeysSts l →
    (encSts l xs).1.length + hoistedSts l = sizeSts l
  | [], xs, _, _ => by simp [encSts, sizeSts, hoistedSts]
  | s :: ss, xs, h, nd => by
    have ih1 := lenSt_exact s xs h.1 nd.1
    have ih2 := lenSts_exact ss (encSt s xs).2 h.2 nd.2
    simp only [encSts, sizeSts, hoistedSts, List.length_append]
    omega
theorem lenFind_exact : (k : Nat × Nat) → (l : List MEl) → (xs : List XD) → okMElList l → nodupKeysMElList l →
    (encFind k l xs).1.length + valFOf Stor.hoisted k l = valFOf Stor.size k l
  | k, [], xs, _, _ => by simp [encFind, valFOf]
  | k, .single (.mk (.val s p) v) :: rest, xs, h, nd => by
    simp only [encFind, valFOf]
    split
    · exact lenSt_exact v xs h.1.2 nd.1.2
    · exact lenFind_exact k rest xs h.2 nd.2
  | k, .single (.mk (.ref _) _) :: rest, xs, h, nd => by
    simp only [encFind, valFOf]; exact lenFind_exact k rest xs h.2 nd.2
  | k, .single (.mk (.some _) _) :: rest, xs, h, nd => by
    simp only [encFind, valFOf]; exact lenFind_exact k rest xs h.2 nd.2
  | k, .single (.mk (.arr _ _ _) _) :: rest, xs, h, nd => by
    simp only [encFind, valFOf]; exact lenFind_exact k rest xs h.2 nd.2
  | k, .single (.mk (.map _ _ _) _) :: rest, xs, h, nd => by
    simp only [encFind, valFOf]; exact lenFind_exact k rest xs h.2 nd.2
  | k, .inl _ :: rest, xs, h, nd => by
    simp only [encFind, valFOf]; exact lenFind_exact k rest xs h.2 nd.2
  | k, .ext _ :: rest, xs, h, nd => by
    simp only [encFind, valFOf]; exact lenFind_exact k rest xs h.2 nd.2
theorem lenSEl_exact : (e : SEl) → (xs : List XD) → e.OK → e.nodupKeys →
    (encSEl e xs).1.length + e.hoisted = e.size
  | .mk k v, xs, h, nd => by
    have ih1 := lenSt_exact k xs h.1 nd.1
    have ih2 := lenSt_exact v (encSt k xs).2 h.2 nd.2
    simp only [encSEl, SEl.size, SEl.hoisted, List.length_cons, List.length_append, singleElementPrefixSize]
    omega
theorem lenMEl_exact : (e : MEl) → (xs : List XD) → e.OK → e.nodupKeys →
    (encMEl e xs).1.length + e.hoisted = e.size
  | .single e, xs, h, nd => by
    simp only [encMEl, MEl.size, MEl.hoisted]
    exact lenSEl_exact e xs h nd
  | .inl els, xs, h, nd => by
    have ih := lenMEls_exact els xs h nd
    simp only [encMEl, MEl.size, MEl.hoisted, List.length_append, tagHead8, List.length_cons, List.length_nil,
      inlineCollisionGroupPrefixSize]
    omega
  | .ext id, xs, _, _ => by
    simp only [encMEl, MEl.size, MEl.hoisted, List.length_append, tagHead8, List.length_cons, List.length_nil,
      length_encodeRef, externalCollisionGroupPrefixSize]
    omega
theorem lenMEls_exact : (els : MEls) → (xs : List XD) → els.OK → els.nodupKeys →
    (encMEls els xs).1.length + els.hoisted = els.size
  | .hkey level hkeys elems, xs, h, nd => by
    have ih := lenMElList_exact elems xs h.2 nd
    simp only [encMEls, MEls.size, MEls.hoisted, List.length_append, length_arrayHead16, length_bytesHead16,
      length_encodeHkeys, List.length_cons, List.length_nil, hkeyElementsPrefixSize]
    have := h.1
    omega
  | .single level elems, xs, h, nd => by
    have ih := lenSElList_exact elems xs h nd
    simp only [encMEls, MEls.size, MEls.hoisted, List.length_append, length_arrayHead16, List.length_cons,
      List.length_nil, singleElementsPrefixSize]
    omega
theorem lenMElList_exact : (l : List MEl) → (xs : List XD) → okMElList l → nodupKeysMElList l →
    (encMElList l xs).1.length + 8 * l.length + hoistedMElList l = sizeMEl l
  | [], xs, _, _ => by simp [encMElList, sizeMEl, hoistedMElList]
  | e :: es, xs, h, nd => by
    have ih1 := lenMEl_exact e xs h.1 nd.1
    have ih2 := lenMElList_exact es (encMEl e xs).2 h.2 nd.2
    simp only [encMElList, sizeMEl, hoistedMElList, List.length_append, List.length_cons, digestSize]
    omega
theorem lenSElList_exact : (l : List SEl) → (xs : List XD) → okSElList l → nodupKeysSElList l →
    (encSElList l xs).1.length + hoistedSElList l = sizeSEl l
  | [], xs, _, _ => by simp [encSElList, sizeSEl, hoistedSElList]
  | e :: es, xs, h, nd => by
    have ih1 := lenSEl_exact e xs h.1 nd.1
    have ih2 := lenSElList_exact es (encSEl e xs).2 h.2 nd.2
    simp only [encSElList, sizeSEl, hoistedSElList, List.length_append]
    omega
end

/-- size of the value of the first single element whose key is `k` (0 if there is none) -/
def valSizeOf (k : Nat × Nat) : List MEl → Nat
  | [] => 0
  | .single (.mk (.val s p) v) :: rest => if (s, p) = k then v.size else valSizeOf k rest
  | _ :: rest => valSizeOf k rest

theorem valSizeOf_eq_valFOf (k : Nat × Nat) (l : List MEl) : valSizeOf k l = valFOf Stor.size k l := by
  induction l using valSizeOf.induct k <;> simp only [valSizeOf, valFOf, ↓reduceIte, *]

theorem lenSt_le : (s : Stor) → (xs : List XD) → s.OK → s.nodupKeys → (encSt s xs).1.length ≤ s.size :=
  fun s xs h nd => Nat.le.intro (lenSt_exact s xs h nd)
theorem lenFind_le : (k : Nat × Nat) → (l : List MEl) → (xs : List XD) → okMElList l → nodupKeysMElList l →
    (encFind k l xs).1.length ≤ valSizeOf k l :=
  fun k l xs h nd => by rw [valSizeOf_eq_valFOf]; exact Nat.le.intro (lenFind_exact k l xs h nd)
theorem lenSEl_le : (e : SEl) → (xs : List XD) → e.OK → e.nodupKeys → (encSEl e xs).1.length ≤ e.size :=
  fun e xs h nd => Nat.le.intro (lenSEl_exact e xs h nd)
theorem lenMEl_le : (e : MEl) → (xs : List XD) → e.OK → e.nodupKeys → (encMEl e xs).1.length ≤ e.size :=
  fun e xs h nd => Nat.le.intro (lenMEl_exact e xs h nd)
theorem lenMElList_le : (l : List MEl) → (xs : List XD) → okMElList l → nodupKeysMElList l →
    (encMElList l xs).1.length + 8 * l.length ≤ sizeMEl l :=
  fun l xs h nd => Nat.le.intro (lenMElList_exact l xs h nd)
theorem lenSElList_le : (l : List SEl) → (xs : List XD) → okSElList l → nodupKeysSElList l →
    (encSElList l xs).1.length ≤ sizeSEl l :=
  fun l xs h nd => Nat.le.intro (lenSElList_exact l xs h nd)

theorem lenSt_eq : (s : Stor) → (xs : List XD) → s.OK → s.noCompact → (encSt s xs).1.length = s.size :=
  fun s xs h nc => by
    have := lenSt_exact s xs h (Stor.nodupKeys_of_noCompact s nc)
    rwa [Stor.hoisted_noCompact s nc, Nat.add_zero] at this
theorem lenSEl_eq : (e : SEl) → (xs : List XD) → e.OK → e.noCompact → (encSEl e xs).1.length = e.size :=
  fun e xs h nc => by
    have := lenSEl_exact e xs h (SEl.nodupKeys_of_noCompact e nc)
    rwa [SEl.hoisted_noCompact e nc, Nat.add_zero] at this
theorem lenMEl_eq : (e : MEl) → (xs : List XD) → e.OK → e.noCompact → (encMEl e xs).1.length = e.size :=
  fun e xs h nc => by
    have := lenMEl_exact e xs h (MEl.nodupKeys_of_noCompact e nc)
    rwa [MEl.hoisted_noCompact e nc, Nat.add_zero] at this
theorem lenMEls_eq : (els : MEls) → (xs : List XD) → els.OK → els.noCompact → (encMEls els xs).1.length = els.size :=
  fun els xs h nc => by
    have := lenMEls_exact els xs h (MEls.nodupKeys_of_noCompact els nc)
    rwa [MEls.hoisted_noCompact els nc, Nat.add_zero] at this
theorem lenMElList_eq : (l : List MEl) → (xs : List XD) → okMElList l → noCompactMElList l →
    (encMElList l xs).1.length + 8 * l.length = sizeMEl l :=
  fun l xs h nc => by
    have := lenMElList_exact l xs h (nodupKeysMElList_of_noCompact l nc)
    rwa [hoistedMElList_noCompact l nc, Nat.add_zero] at this
theorem lenSElList_eq : (l : List SEl) → (xs : List XD) → okSElList l → noCompactSElList l →
    (encSElList l xs).1.length = sizeSEl l :=
  fun l xs h nc => by
    have := lenSElList_exact l xs h (nodupKeysSElList_of_noCompact l nc)
    rwa [hoistedSElList_noCompact l nc, Nat.add_zero] at this

/-- length of the root's extra-data section of a map slab -/
def mapExtraLen : Option MapExtra → Nat
  | some x => (encodeMapExtra x).length
  | none => 0

theorem length_encodeMChildHdr (h : MChildHdr) : (encodeMChildHdr h).length = mapSlabHeaderSize := by
  simp [encodeMChildHdr, length_beBytes, SlabIndexLength, digestSize, mapSlabHeaderSize]

theorem length_flatMap_encodeMChildHdr (l : List MChildHdr) :
    (l.flatMap encodeMChildHdr).length = mapSlabHeaderSize * l.length := by
  induction l with
  | nil => rfl
  | cons h t ih =>
    simp only [List.flatMap_cons, List.length_append, length_encodeMChildHdr, ih, List.length_cons]
    simp only [mapSlabHeaderSize]; omega

/-- Map index slab: encoded length = computed size + extra-data section. -/
theorem enc_len_mindex (m : MapMeta) : (encodeMapMeta m).length = m.size + mapExtraLen m.extra := by
  unfold encodeMapMeta MapMeta.size mapExtraLen
  have hl := length_flatMap_encodeMChildHdr m.childHdrs
  cases m.extra <;>
    simp only [List.length_append, List.length_cons, List.length_nil, length_beBytes, hl, SlabAddressLength,
      mapMetaDataSlabPrefixSize] <;> omega

/-- Map data slab (root / non-root / collision group): encoded length, plus 16 (`SlabIDLength`: the
    next-slab ID, which is not written) exactly when a non-root slab has no right sibling, plus what its
    compact maps hoist, equals the computed size plus the
    root's extra-data section plus the shared inlined-extra-data section. -/
theorem enc_len_mdata_exact (s : MapData) (ok : s.els.OK) (nd : s.els.nodupKeys)
    (hroot : s.extra.isSome = true → s.next = SlabID.undef) :
    (encodeMapData s).length + (if s.extra.isNone ∧ s.next = SlabID.undef then 16 else 0) + s.els.hoisted
      = s.size + mapExtraLen s.extra + (encodeIEDSection (encMEls s.els []).2).length := by
  have hl := lenMEls_exact s.els [] ok nd
  unfold encodeMapData MapData.size mapExtraLen
  simp only [List.length_append, List.length_cons, List.length_nil, versionAndFlagSize, SlabIDLength]
  cases hx : s.extra with
  | none =>
    by_cases hn : s.next = SlabID.undef
    · simp [hn]; omega
    · simp [hn, length_encodeSlabID]; omega
  | some x =>
    have hn := hroot (by rw [hx]; rfl)
    simp [hn]; omega

theorem enc_len_mdata_le (s : MapData) (ok : s.els.OK) (nd : s.els.nodupKeys)
    (hroot : s.extra.isSome = true → s.next = SlabID.undef) :
    (encodeMapData s).length + (if s.extra.isNone ∧ s.next = SlabID.undef then 16 else 0)
      ≤ s.size + mapExtraLen s.extra + (encodeIEDSection (encMEls s.els []).2).length :=
  Nat.le.intro (enc_len_mdata_exact s ok nd hroot)

theorem enc_len_mdata (s : MapData) (ok : s.els.OK) (nc : s.els.noCompact)
    (hroot : s.extra.isSome = true → s.next = SlabID.undef) :
    (encodeMapData s).length + (if s.extra.isNone ∧ s.next = SlabID.undef then 16 else 0)
      = s.size + mapExtraLen s.extra + (encodeIEDSection (encMEls s.els []).2).length := by
  have := enc_len_mdata_exact s ok (MEls.nodupKeys_of_noCompact s.els nc) hroot
  rwa [MEls.hoisted_noCompact s.els nc, Nat.add_zero] at this

/-- Array data slab with general elements. -/
theorem enc_len_adata_exact (a : ArrData) (ok : okSts a.elems) (nd : nodupKeysSts a.elems)
    (hroot : a.ty.isSome = true → a.next = SlabID.undef) :
    (encodeArrData a).length + (if a.ty.isNone ∧ a.next = SlabID.undef then 16 else 0) + hoistedSts a.elems
      = a.size + (match a.ty with | some t => (encodeExtraData t).length | none => 0) +
          (encodeIEDSection (encSts a.elems []).2).length := by
  have hl := lenSts_exact a.elems [] ok nd
  unfold encodeArrData ArrData.size
  simp only [List.length_append, List.length_cons, List.length_nil, length_arrayHead16,
    arrayRootDataSlabPrefixSize, arrayDataSlabPrefixSize]
  cases hx : a.ty with
  | none =>
    by_cases hn : a.next = SlabID.undef
    · simp [hn]; omega
    · simp [hn, length_encodeSlabID]; omega
  | some x =>
    have hn := hroot (by rw [hx]; rfl)
    simp [hn]; omega

theorem enc_len_adata_le (a : ArrData) (ok : okSts a.elems) (nd : nodupKeysSts a.elems)
    (hroot : a.ty.isSome = true → a.next = SlabID.undef) :
    (encodeArrData a).length + (if a.ty.isNone ∧ a.next = SlabID.undef then 16 else 0)
      ≤ a.size + (match a.ty with | some t => (encodeExtraData t).length | none => 0) +
          (encodeIEDSection (encSts a.elems []).2).length :=
  Nat.le.intro (enc_len_adata_exact a ok nd hroot)

theorem enc_len_adata (a : ArrData) (ok : okSts a.elems) (nc : noCompactSts a.elems)
    (hroot : a.ty.isSome = true → a.next = SlabID.undef) :
    (encodeArrData a).length + (if a.ty.isNone ∧ a.next = SlabID.undef then 16 else 0)
      = a.size + (match a.ty with | some t => (encodeExtraData t).length | none => 0) +
          (encodeIEDSection (encSts a.elems []).2).length := by
  have := enc_len_adata_exact a ok (nodupKeysSts_of_noCompact a.elems nc) hroot
  rwa [hoistedSts_noCompact a.elems nc, Nat.add_zero] at this

/-- Large-value slab with a general storable. -/
theorem enc_len_storableG_exact (s : Stor) (ok : s.OK) (nd : s.nodupKeys) :
    (encodeStorableSlabG s).length + s.hoisted = versionAndFlagSize + s.size := by
  have hl := lenSt_exact s [] ok nd
  unfold encodeStorableSlabG
  simp only [List.length_append, List.length_cons, List.length_nil, versionAndFlagSize]
  omega

/-- The Go encoder refuses a large-value slab whose storable contains an inlined slab, so in practice
    nothing is hoisted here. -/
theorem enc_len_storableG (s : Stor) (ok : s.OK) (nc : s.noCompact) :
    (encodeStorableSlabG s).length = versionAndFlagSize + s.size := by
  have := enc_len_storableG_exact s ok (Stor.nodupKeys_of_noCompact s nc)
  rwa [Stor.hoisted_noCompact s nc, Nat.add_zero] at this

end Atree.Codec

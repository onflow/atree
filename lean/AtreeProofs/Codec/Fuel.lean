import AtreeProofs.Codec.NoPanicG
/-
  Fuel irrelevance of the decoders of the second part of `AtreeModel/Codec/Decode.lean`
  (property C19): the fuel is never what makes an input invalid.

  The specifications of `DecodersSpec.lean` (the eleven mutually recursive functions: `g fuel =
  g (L + k)` for every `fuel ≥ L + k`, `decStG_fuel_eq` …) and of `NoPanicG.lean` (their callers)
  include that sufficient fuels cannot be told apart.  Read off here: the entry-point forms for the
  extra-data decoders, and `decodeSlabGenF φ = decodeSlabGen`, `decodeSlabF φ = decodeSlab` for
  every fuel schedule `φ : input length → fuel` with `φ L ≥ L + 1`.
-/
namespace Atree.Codec
open DM Atree.Gen

/-- `m1` and `m2` have the same outcome from every allocation counter, and a value they return
    satisfies `P`. -/
def Same {α : Type} (m1 m2 : DM α) (P : α → Prop) : Prop :=
  ∀ n, m1 n = m2 n ∧ match m1 n with
                      | .ok a _ => P a
                      | _ => True

namespace Same
variable {α β : Type}

theorem and_np {m1 m2 : DM α} {P Q : α → Prop} (hm : Same m1 m2 P) (hn : NP m1 Q) :
    Same m1 m2 (fun a => P a ∧ Q a) := by
  intro n
  obtain ⟨he, hp⟩ := hm n
  refine ⟨he, ?_⟩
  have hq := hn n
  cases hmn : m1 n with
  | ok a n' => rw [hmn] at hp hq; exact ⟨hp, hq⟩
  | error e n' => trivial
  | panic => trivial

end Same

theorem decStG_consumes {fuel depth : Nat} {d : Dec} {addr : Nat} {xs : List XD} {n n' : Nat} {s : Stor} {d' : Dec}
    (hf : d.data.length + 1 ≤ fuel) (h : decStG fuel depth d addr xs n = .ok (s, d') n') :
    d'.data.length < d.data.length := by
  have := ((specAll _ fuel).st depth d addr xs d.inv_self).np n
  rw [h] at this
  exact this.2

/-- entry-point form: on a decoder over an input of `T` bytes every fuel above `T` gives the result
    of `T + 1` -/
theorem decCompactKeys_fuel_eq {T fuel : Nat} (h : T + 1 ≤ fuel) (n : Nat) {d : Dec} (hi : DecInv T d) :
    decCompactKeys fuel n d = decCompactKeys (T + 1) n d :=
  (tri_decCompactKeys n d hi).eq ⟨h, Nat.le_refl _⟩

theorem newCompactMapExtraData_fuel_eq {T fuel : Nat} (h : T + 1 ≤ fuel) (tis : List TyInfo) {d : Dec}
    (hi : DecInv T d) : newCompactMapExtraData fuel tis d = newCompactMapExtraData (T + 1) tis d :=
  (tri_newCompactMapExtraData tis hi).eq ⟨h, Nat.le_refl _⟩

theorem decXD_fuel_eq {T fuel : Nat} (h : T + 1 ≤ fuel) (tis : List TyInfo) {d : Dec} (hi : DecInv T d) :
    decXD fuel tis d = decXD (T + 1) tis d :=
  (tri_decXD tis hi).eq ⟨h, Nat.le_refl _⟩

theorem decXDs_fuel_eq {T fuel : Nat} (h : T + 1 ≤ fuel) (tis : List TyInfo) (n : Nat) {d : Dec} (hi : DecInv T d) :
    decXDs fuel tis n d = decXDs (T + 1) tis n d :=
  (tri_decXDs tis n d hi).eq ⟨h, Nat.le_refl _⟩

/-! The callers with a fuel schedule `φ` that gives each of them enough (`FuelSchedule.lean`) are the
    model's functions. -/

section
variable {φ : Nat → Nat} (hφ : ∀ L, L + 1 ≤ φ L)
include hφ

theorem newInlinedExtraDataFromDataF_eq (data : Bytes) :
    newInlinedExtraDataFromDataF φ data = newInlinedExtraDataFromData data :=
  (tri_newInlinedExtraDataFromDataF (φ₂ := fun L => L + 1) data).eq fun L => ⟨hφ L, Nat.le_refl _⟩

theorem mapDataContentF_eq (id : SlabID) (h : SlabHead) (extra : Option MapExtra) (next : SlabID)
    (xs : List XD) (data : Bytes) :
    mapDataContentF φ id h extra next xs data = mapDataContent id h extra next xs data :=
  (tri_mapDataContentF (φ₂ := fun L => L + 1) id h extra next xs data).eq fun L => ⟨hφ L, Nat.le_refl _⟩

theorem arrDataContentGF_eq (id : SlabID) (isRoot : Bool) (ty : Option TyInfo) (next : SlabID)
    (checkEOF : Bool) (xs : List XD) (data : Bytes) :
    arrDataContentGF φ id isRoot ty next checkEOF xs data = arrDataContentG id isRoot ty next checkEOF xs data :=
  (tri_arrDataContentGF (φ₂ := fun L => L + 1) id isRoot ty next checkEOF xs data).eq fun L => ⟨hφ L, Nat.le_refl _⟩

theorem decodeSlabGenF_eq (id : SlabID) (data : Bytes) : decodeSlabGenF φ id data = decodeSlabGen id data :=
  (tri_decodeSlabGenF (φ₂ := fun L => L + 1) id data).eq fun L => ⟨hφ L, Nat.le_refl _⟩

theorem decodeSlabF_eq (id : SlabID) (data : Bytes) : decodeSlabF φ id data = decodeSlab id data := by
  unfold decodeSlabF decodeSlab
  rw [decodeSlabGenF_eq hφ]
  rfl

end

end Atree.Codec

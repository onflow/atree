import AtreeProofs.Codec.CmpDefs
/-
  The fuel the mutually recursive decoders need is measured on the value they return: on encoder
  output that is `fuelI` of the normalised value.  It is at most the number of bytes written, so
  the fuel `decodeSlabGen` provides (the input length) always covers it.
-/
namespace Atree.Codec
open Atree Atree.Gen DM

theorem length_encSt_pos : (s : Stor) → (xs : List XD) → s.RTI → 1 ≤ (encSt s xs).1.length
  | .val size pay, xs, h => by
    simp only [encSt]
    rw [elem_size_eq_enc_len _ h]
    unfold Stor.RTI validElem at h
    exact h.1
  | .ref id, xs, _ => by simp only [encSt]; rw [length_encodeRef]; simp only [slabIDStorableSize]; omega
  | .some s, xs, _ => by simp [encSt, tagHead8]
  | .arr ty idx es, xs, _ => by simp [encSt, length_inlinedHead]; omega
  | .map x idx (.hkey level hkeys elems), xs, _ => by
    simp only [encSt]
    split <;> simp [length_inlinedHead] <;> omega
  | .map x idx (.single level elems), xs, _ => by simp [encSt, length_inlinedHead]; omega

theorem length_encFind_pos : ∀ (k : Nat × Nat) (l : List MEl) (xs : List XD), rtiMElList l → hasKey k l →
    1 ≤ (encFind k l xs).1.length
  | k, [], xs, _, hk => by cases hk
  | k, .single (.mk key v) :: es, xs, h, hk => by
    rcases find_single k key v es with ⟨hE, _⟩ | ⟨hK, hE, _⟩ <;> rw [hE]
    · exact length_encSt_pos v xs h.1.2.1
    · exact length_encFind_pos k es xs h.2 (hK hk)
  | k, .inl _ :: es, xs, h, hk => length_encFind_pos k es xs h.2 hk
  | k, .ext _ :: es, xs, h, hk => length_encFind_pos k es xs h.2 hk

theorem length_encSEl_pos (e : SEl) (xs : List XD) : 1 ≤ (encSEl e xs).1.length := by
  cases e; simp [encSEl]

theorem length_encMEl_pos (e : MEl) (xs : List XD) : 1 ≤ (encMEl e xs).1.length := by
  cases e with
  | single e => simp only [encMEl]; exact length_encSEl_pos e xs
  | inl els => simp [encMEl, tagHead8]
  | ext id => simp [encMEl, tagHead8]


theorem fuelI_normVals_le (elems : List MEl) (hes : rtiMElList elems)
    (hfind : ∀ k, hasKey k elems → ∀ xs0, (normFind k elems xs0).fuelI ≤ (encFind k elems xs0).1.length) :
    ∀ (ks : List (Nat × Nat)), (∀ k ∈ ks, hasKey k elems) → ∀ xs0,
      fuelIMElList (normVals elems ks xs0) ≤ (encVals elems ks xs0).1.length + 3
  | [], _, xs0 => by simp [normVals, fuelIMElList]
  | k :: ks, hks, xs0 => by
    have hk := hks k (List.mem_cons_self ..)
    have h1 := hfind k hk xs0
    have hp := length_encFind_pos k elems xs0 hes hk
    have h2 := fuelI_normVals_le elems hes hfind ks (fun k' hk' => hks k' (List.mem_cons_of_mem _ hk')) (encFind k elems xs0).2
    simp only [normVals, encVals, fuelIMElList, MEl.fuelI, SEl.fuelI, Stor.fuelI, List.length_append]
    omega

mutual
theorem Stor.fuelI_norm_le_len : (s : Stor) → (xs0 : List XD) → s.RTI → s.nodupKeys →
    (normSt s xs0).fuelI ≤ (encSt s xs0).1.length
  | .val size pay, xs0, h, _ => by
    simp only [normSt, Stor.fuelI]; exact length_encSt_pos _ xs0 h
  | .ref id, xs0, h, _ => by
    simp only [normSt, Stor.fuelI]; exact length_encSt_pos _ xs0 h
  | .some s, xs0, h, nd => by
    have := Stor.fuelI_norm_le_len s xs0 h nd
    simp only [normSt, encSt, Stor.fuelI, tagHead8, List.length_append, List.length_cons, List.length_nil]
    omega
  | .arr ty idx es, xs0, h, nd => by
    have := fuelISts_norm_le_len es (addArrayXD xs0 ty).2 h.2.2.2.1 nd
    simp only [normSt, encSt, Stor.fuelI, List.length_append, length_inlinedHead, length_encodeIdx, length_arrayHead16]
    omega
  | .map x idx (.hkey level hkeys elems), xs0, h, nd => by
    obtain ⟨hmx, hidx, hels, hsz⟩ := h
    cases hc : compactKeys x elems with
    | none =>
      have := MEls.fuelI_norm_le_len (.hkey level hkeys elems) (addMapXD xs0 x).2 hels nd.2
      simp only [normMEls, encMEls, MEls.fuelI, List.length_append, List.length_cons, List.length_nil,
        length_bytesHead16, length_encodeHkeys, length_arrayHead16] at this
      simp only [normSt, encSt, hc, Stor.fuelI, MEls.fuelI, List.length_append, List.length_cons, List.length_nil,
        length_inlinedHead, length_encodeIdx, length_bytesHead16, length_encodeHkeys, length_arrayHead16]
      omega
    | some keys =>
      have hm := compactKeys_mapM hc
      have hperm := addCompactXD_perm xs0 x hkeys keys
      have hes : rtiMElList elems := hels.2.2.2.2.1
      rw [normSt_compact hc, encSt_compact hc]
      generalize addCompactXD xs0 x hkeys keys = r at hperm ⊢
      obtain ⟨i, cached, xs1⟩ := r
      simp only at hperm ⊢
      have hv := fuelI_normVals_le elems hes
        (fun k hk xs0' => fuelIFind_norm_le_len k elems xs0' hes nd.2 hk) cached
        (fun k hk => hasKey_of_mapM elems keys hm k (hperm.subset hk)) xs1
      have hp := headLen_pos cached.length
      split <;> simp only [Stor.fuelI, MEls.fuelI, List.length_append, length_inlinedHead, length_encodeIdx, length_head] <;> omega
  | .map x idx (.single level elems), xs0, h, nd => by
    have := MEls.fuelI_norm_le_len (.single level elems) (addMapXD xs0 x).2 h.2.2.1 nd
    simp only [normMEls, encMEls, MEls.fuelI, List.length_append, List.length_cons, List.length_nil,
      length_arrayHead16] at this
    simp only [normSt, encSt, Stor.fuelI, MEls.fuelI, List.length_append, List.length_cons, List.length_nil,
      length_inlinedHead, length_encodeIdx, length_arrayHead16]
    omega
theorem fuelISts_norm_le_len : (l : List Stor) → (xs0 : List XD) → rtiSts l → nodupKeysSts l →
    fuelISts (normSts l xs0) ≤ (encSts l xs0).1.length + 1
  | [], xs0, _, _ => by simp [normSts, fuelISts]
  | s :: ss, xs0, h, nd => by
    have h1 := Stor.fuelI_norm_le_len s xs0 h.1 nd.1
    have hp := length_encSt_pos s xs0 h.1
    have h2 := fuelISts_norm_le_len ss (encSt s xs0).2 h.2 nd.2
    simp only [normSts, encSts, fuelISts, List.length_append]
    omega
theorem fuelIFind_norm_le_len : (k : Nat × Nat) → (l : List MEl) → (xs0 : List XD) → rtiMElList l →
    nodupKeysMElList l → hasKey k l → (normFind k l xs0).fuelI ≤ (encFind k l xs0).1.length
  | k, [], _, _, _, hk => by cases hk
  | k, .single (.mk key v) :: es, xs0, h, nd, hk => by
    rcases find_single k key v es with ⟨hE, hN, _⟩ | ⟨hK, hE, hN, _⟩ <;> rw [hE, hN]
    · exact Stor.fuelI_norm_le_len v xs0 h.1.2.1 nd.1.2
    · exact fuelIFind_norm_le_len k es xs0 h.2 nd.2 (hK hk)
  | k, .inl _ :: es, xs0, h, nd, hk => fuelIFind_norm_le_len k es xs0 h.2 nd.2 hk
  | k, .ext _ :: es, xs0, h, nd, hk => fuelIFind_norm_le_len k es xs0 h.2 nd.2 hk
theorem SEl.fuelI_norm_le_len : (e : SEl) → (xs0 : List XD) → e.RTI → e.nodupKeys →
    (normSEl e xs0).fuelI ≤ (encSEl e xs0).1.length
  | .mk k v, xs0, h, nd => by
    have h1 := Stor.fuelI_norm_le_len k xs0 h.1 nd.1
    have h2 := Stor.fuelI_norm_le_len v (encSt k xs0).2 h.2.1 nd.2
    have p1 := length_encSt_pos k xs0 h.1
    have p2 := length_encSt_pos v (encSt k xs0).2 h.2.1
    simp only [normSEl, encSEl, SEl.fuelI, List.length_cons, List.length_append]
    omega
theorem MEl.fuelI_norm_le_len : (e : MEl) → (xs0 : List XD) → e.RTI → e.nodupKeys →
    (normMEl e xs0).fuelI ≤ (encMEl e xs0).1.length + 1
  | .single e, xs0, h, nd => by
    have := SEl.fuelI_norm_le_len e xs0 h nd
    simp only [normMEl, encMEl, MEl.fuelI]; omega
  | .inl els, xs0, h, nd => by
    have := MEls.fuelI_norm_le_len els xs0 h nd
    simp only [normMEl, encMEl, MEl.fuelI, tagHead8, List.length_append, List.length_cons, List.length_nil]; omega
  | .ext id, xs0, _, _ => by
    simp [normMEl, encMEl, MEl.fuelI, tagHead8]
theorem MEls.fuelI_norm_le_len : (els : MEls) → (xs0 : List XD) → els.RTI → els.nodupKeys →
    (normMEls els xs0).fuelI ≤ (encMEls els xs0).1.length
  | .hkey level hkeys es, xs0, h, nd => by
    have := fuelIMElList_norm_le_len es xs0 h.2.2.2.2.1 nd
    simp only [normMEls, encMEls, MEls.fuelI, List.length_append, List.length_cons, List.length_nil,
      length_bytesHead16, length_encodeHkeys, length_arrayHead16]
    omega
  | .single level es, xs0, h, nd => by
    have := fuelISElList_norm_le_len es xs0 h.2.2.2.1 nd
    simp only [normMEls, encMEls, MEls.fuelI, List.length_append, List.length_cons, List.length_nil, length_arrayHead16]
    omega
theorem fuelIMElList_norm_le_len : (l : List MEl) → (xs0 : List XD) → rtiMElList l → nodupKeysMElList l →
    fuelIMElList (normMElList l xs0) ≤ (encMElList l xs0).1.length + 2
  | [], xs0, _, _ => by simp [normMElList, fuelIMElList]
  | e :: es, xs0, h, nd => by
    have h1 := MEl.fuelI_norm_le_len e xs0 h.1 nd.1
    have hp := length_encMEl_pos e xs0
    have h2 := fuelIMElList_norm_le_len es (encMEl e xs0).2 h.2 nd.2
    simp only [normMElList, encMElList, fuelIMElList, List.length_append]
    omega
theorem fuelISElList_norm_le_len : (l : List SEl) → (xs0 : List XD) → rtiSElList l → nodupKeysSElList l →
    fuelISElList (normSElList l xs0) ≤ (encSElList l xs0).1.length + 1
  | [], xs0, _, _ => by simp [normSElList, fuelISElList]
  | e :: es, xs0, h, nd => by
    have h1 := SEl.fuelI_norm_le_len e xs0 h.1 nd.1
    have hp := length_encSEl_pos e xs0
    have h2 := fuelISElList_norm_le_len es (encSEl e xs0).2 h.2 nd.2
    simp only [normSElList, encSElList, fuelISElList, List.length_append]
    omega
end

end Atree.Codec

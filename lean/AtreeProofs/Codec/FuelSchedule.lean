import AtreeModel.Codec.Decode
/-
  The callers of the mutually recursive decoders: `decodeSlabGen` with an arbitrary fuel schedule.

  `φ : Nat → Nat` maps the length of the byte string a caller is about to decode to the fuel it
  hands down; the model's schedule is `fun L => L + 1`.  The `…F` functions below are the functions
  of Decode.lean of the same name with every `data.length + 1` / `rest.length + 1` replaced by
  `φ data.length` / `φ rest.length`, and nothing else changed (`decodeSlabGenF_model` : with the
  model's schedule they ARE the model's functions, by `rfl`). -/
namespace Atree.Codec
open DM Atree.Gen

/-- `newInlinedExtraDataFromData` with fuel `φ data.length` -/
def newInlinedExtraDataFromDataF (φ : Nat → Nat) (data : Bytes) : DM (List XD × Bytes) := do
  let d := Dec.new data
  let (count, d) ← liftOpt d.decodeArrayHead
  if count ≠ inlinedExtraDataArrayCount then fail
  else do
    let (typeInfoCount, d) ← liftOpt d.decodeArrayHead
    if typeInfoCount > data.length then fail
    else do
      alloc typeInfoCount
      let (tis, d) ← decTypeInfos typeInfoCount d
      let (extraDataCount, d) ← liftOpt d.decodeArrayHead
      if extraDataCount = 0 then fail
      else if extraDataCount > data.length then fail
      else do
        alloc extraDataCount
        let (xs, d) ← decXDs (φ data.length) tis extraDataCount d
        let rest ← sliceFrom data d.numBytesDecoded
        pure (xs, rest)

/-- `mapDataContent` with fuel `φ data.length` -/
def mapDataContentF (φ : Nat → Nat) (id : SlabID) (h : SlabHead) (extra : Option MapExtra) (next : SlabID)
    (xs : List XD) (data : Bytes) : DM Slab := do
  let (els, _) ← decMElsG (φ data.length) 0 (Dec.new data) id.addr xs
  if versionAndFlagSize + els.size > maxUint32 then fail
  else if ¬ h.isRoot ∧ versionAndFlagSize + els.size + SlabIDLength > maxUint32 then fail
  else
    pure (.mdata { id := id, next := next, extra := extra, els := els,
                   anySize := !h.hasSizeLimit, group := decide (h.mapType = .collisionGroup) })

def newMapDataSlabFromDataV0F (φ : Nat → Nat) (id : SlabID) (h : SlabHead) (data : Bytes) : DM Slab := do
  if h.isRoot then do
    let (x, data) ← newMapExtraDataFromData data
    if data.length < versionAndFlagSize then fail
    else do
      let data ← sliceFrom data versionAndFlagSize
      mapDataContentF φ id h (some x) SlabID.undef [] data
  else
    if data.length < SlabIDLength then fail
    else do
      let next ← newSlabIDFromRawBytes data
      let data ← sliceFrom data SlabIDLength
      mapDataContentF φ id h none next [] data

def mapDataV1AfterIEDF (φ : Nat → Nat) (id : SlabID) (h : SlabHead) (extra : Option MapExtra) (xs : List XD)
    (data : Bytes) : DM Slab :=
  if h.hasNextSlabID then
    if data.length < SlabIDLength then fail
    else do
      let next ← newSlabIDFromRawBytes data
      let data ← sliceFrom data SlabIDLength
      mapDataContentF φ id h extra next xs data
  else mapDataContentF φ id h extra SlabID.undef xs data

def mapDataV1AfterExtraF (φ : Nat → Nat) (id : SlabID) (h : SlabHead) (extra : Option MapExtra) (data : Bytes) :
    DM Slab :=
  if h.hasInlinedSlabs then do
    let (xs, data) ← newInlinedExtraDataFromDataF φ data
    mapDataV1AfterIEDF φ id h extra xs data
  else mapDataV1AfterIEDF φ id h extra [] data

def newMapDataSlabFromDataV1F (φ : Nat → Nat) (id : SlabID) (h : SlabHead) (data : Bytes) : DM Slab := do
  if h.isRoot then do
    let (x, data) ← newMapExtraDataFromData data
    mapDataV1AfterExtraF φ id h (some x) data
  else mapDataV1AfterExtraF φ id h none data

def newMapDataSlabFromDataF (φ : Nat → Nat) (id : SlabID) (data : Bytes) : DM Slab :=
  if data.length < versionAndFlagSize then fail
  else do
    let hb ← sliceTo data versionAndFlagSize
    let h ← newHeadFromData hb
    if h.mapType ≠ .data ∧ h.mapType ≠ .collisionGroup then fail
    else do
      let data ← sliceFrom data versionAndFlagSize
      if h.version = 0 then newMapDataSlabFromDataV0F φ id h data
      else if h.version = 1 then newMapDataSlabFromDataV1F φ id h data
      else fail

/-- `arrDataContentG` with fuel `φ data.length` -/
def arrDataContentGF (φ : Nat → Nat) (id : SlabID) (isRoot : Bool) (ty : Option TyInfo) (next : SlabID)
    (checkEOF : Bool) (xs : List XD) (data : Bytes) : DM Slab :=
  if data.length < arrayDataSlabElementHeadSize then fail
  else do
    let (elemCount, d) ← liftOpt (Dec.new data).decodeArrayHead
    if elemCount > maxUint32 then fail
    else do
      let slabSize := if isRoot then arrayRootDataSlabPrefixSize else arrayDataSlabPrefixSize
      alloc elemCount
      let (es, _, d) ← decStsG (φ data.length) elemCount 0 d id.addr xs slabSize
      if checkEOF = true ∧ d.numBytesDecoded < data.length then fail
      else pure (.adata { id := id, next := next, ty := ty, elems := es })

def newArrayDataSlabFromDataV0GF (φ : Nat → Nat) (id : SlabID) (h : SlabHead) (data : Bytes) : DM Slab := do
  if h.isRoot then do
    let (ty, data) ← newArrayExtraDataFromData data
    if data.length < versionAndFlagSize then fail
    else do
      let data ← sliceFrom data versionAndFlagSize
      arrDataContentGF φ id true (some ty) SlabID.undef false [] data
  else
    if data.length < SlabIDLength then fail
    else do
      let next ← newSlabIDFromRawBytes data
      let data ← sliceFrom data SlabIDLength
      arrDataContentGF φ id false none next false [] data

def arrDataV1AfterIEDGF (φ : Nat → Nat) (id : SlabID) (h : SlabHead) (ty : Option TyInfo) (xs : List XD)
    (data : Bytes) : DM Slab :=
  if h.hasNextSlabID then do
    let next ← newSlabIDFromRawBytes data
    let data ← sliceFrom data SlabIDLength
    arrDataContentGF φ id h.isRoot ty next true xs data
  else arrDataContentGF φ id h.isRoot ty SlabID.undef true xs data

def arrDataV1AfterExtraGF (φ : Nat → Nat) (id : SlabID) (h : SlabHead) (ty : Option TyInfo) (data : Bytes) :
    DM Slab :=
  if h.hasInlinedSlabs then do
    let (xs, data) ← newInlinedExtraDataFromDataF φ data
    arrDataV1AfterIEDGF φ id h ty xs data
  else arrDataV1AfterIEDGF φ id h ty [] data

def newArrayDataSlabFromDataV1GF (φ : Nat → Nat) (id : SlabID) (h : SlabHead) (data : Bytes) : DM Slab := do
  if h.isRoot then do
    let (ty, data) ← newArrayExtraDataFromData data
    arrDataV1AfterExtraGF φ id h (some ty) data
  else arrDataV1AfterExtraGF φ id h none data

def newArrayDataSlabFromDataGF (φ : Nat → Nat) (id : SlabID) (data : Bytes) : DM Slab :=
  if data.length < versionAndFlagSize then fail
  else do
    let hb ← sliceTo data versionAndFlagSize
    let h ← newHeadFromData hb
    if h.arrayType ≠ .data then fail
    else do
      let data ← sliceFrom data versionAndFlagSize
      if h.version = 0 then newArrayDataSlabFromDataV0GF φ id h data
      else if h.version = 1 then newArrayDataSlabFromDataV1GF φ id h data
      else fail

/-- `decodeSlabGen` with the fuel schedule `φ` -/
def decodeSlabGenF (φ : Nat → Nat) (id : SlabID) (data : Bytes) : DM Slab :=
  if data.length < versionAndFlagSize then fail
  else do
    let hb ← sliceTo data versionAndFlagSize
    let h ← newHeadFromData hb
    match h.slabType with
    | .array =>
      match h.arrayType with
      | .data => newArrayDataSlabFromDataGF φ id data
      | .index => newArrayMetaDataSlabFromData id data
      | _ => fail
    | .map =>
      match h.mapType with
      | .data => newMapDataSlabFromDataF φ id data
      | .index => newMapMetaDataSlabFromData id data
      | .collisionGroup => newMapDataSlabFromDataF φ id data
      | _ => fail
    | .storable => do
      let rest ← sliceFrom data versionAndFlagSize
      let (s, _) ← decStG (φ rest.length) 0 (Dec.new rest) id.addr []
      pure (.storableG id s)
    | .undefined => fail

/-- `decodeSlab` with the fuel schedule `φ` -/
def decodeSlabF (φ : Nat → Nat) (id : SlabID) (data : Bytes) : DM Slab := fun n =>
  match decodeSlabFlat id data n with
  | .error .unsupported _ => decodeSlabGenF φ id data n
  | r => r

/-- with the model's schedule the `…F` functions are the model's functions, definitionally -/
theorem decodeSlabGenF_model : decodeSlabGenF (fun L => L + 1) = decodeSlabGen := rfl
theorem decodeSlabF_model : decodeSlabF (fun L => L + 1) = decodeSlab := rfl

end Atree.Codec

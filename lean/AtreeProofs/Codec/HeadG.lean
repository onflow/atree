import AtreeProofs.Codec.DecLemmas
/-
  The two head bytes written by the encoders of the second part (array data slabs with general
  elements, map data / collision-group slabs, map index slabs, large-value slabs with general
  storables), as the decoders and the header queries read them.
-/
namespace Atree.Codec
open DM Atree.Gen

theorem head_adata_facts (hasNext inl ptr root : Bool) :
    let h : SlabHead := ⟨ArrayDataSlab_Encode_version * 16 ||| flagIf hasNext maskHasNextSlabID ||| flagIf inl maskHasInlinedSlabs,
                         maskArrayData ||| flagIf ptr maskSlabHasPointers ||| flagIf root maskSlabRoot⟩
    h.slabType = .array ∧ h.arrayType = .data ∧ h.version = 1 ∧ h.isRoot = root ∧ h.hasPointers = ptr ∧
      h.hasSizeLimit = true ∧ h.hasInlinedSlabs = inl ∧ h.hasNextSlabID = hasNext := by
  revert hasNext inl ptr root
  decide +kernel

theorem head_mdata_facts (hasNext inl group ptr any root : Bool) :
    let h : SlabHead := ⟨MapDataSlab_Encode_version * 16 ||| flagIf hasNext maskHasNextSlabID ||| flagIf inl maskHasInlinedSlabs,
                         (if group then maskCollisionGroup else maskMapData) ||| flagIf ptr maskSlabHasPointers |||
                           flagIf any maskSlabAnySize ||| flagIf root maskSlabRoot⟩
    h.slabType = .map ∧ h.mapType = (if group then .collisionGroup else .data) ∧ h.version = 1 ∧ h.isRoot = root ∧
      h.hasPointers = ptr ∧ h.hasSizeLimit = !any ∧ h.hasInlinedSlabs = inl ∧ h.hasNextSlabID = hasNext := by
  revert hasNext inl group ptr any root
  decide +kernel

theorem head_mmeta_facts (root : Bool) :
    let h : SlabHead := ⟨MapMetaDataSlab_Encode_version * 16, maskMapMeta ||| flagIf root maskSlabRoot⟩
    h.slabType = .map ∧ h.mapType = .index ∧ h.version = 1 ∧ h.isRoot = root ∧ h.hasPointers = false ∧
      h.hasSizeLimit = true := by
  revert root
  decide +kernel

theorem headOf_cons2' (b0 b1 : Nat) (tail : Bytes) : headOf (b0 :: b1 :: tail) = pure ⟨b0, b1⟩ := by
  unfold headOf
  have h2 : ¬ (b0 :: b1 :: tail).length < versionAndFlagSize := by simp [versionAndFlagSize]
  rw [if_neg h2]
  unfold sliceTo
  rw [if_pos (by simp [versionAndFlagSize])]
  simp only [DM.pure_bind, versionAndFlagSize, List.take_succ_cons, List.take_zero, newHeadFromData]

end Atree.Codec

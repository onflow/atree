import AtreeModel.Codec.Hyp
import AtreeProofs.Codec.CmpSlab
import AtreeProofs.Codec.VDepthW
/-
  The Bool-valued checkers of `AtreeModel/Codec/Hyp.lean` decide the Prop-valued hypotheses of the
  codec theorems: for every checker `xB v = true ↔ X v` (and `vneedB = vneed`, `vneedIB = vneedI`
  for the two Nat-valued nesting measures).  So "the check passed on this slab" means "this slab is
  in the domain of the theorem".
-/
namespace Atree.Codec
open Atree Atree.Gen

theorem not_isEmpty_iff {α : Type} (l : List α) : (!l.isEmpty) = true ↔ l ≠ [] := by
  cases l <;> simp

theorem optAllB_iff {α : Type} {p : α → Bool} {P : α → Prop} (h : ∀ a, p a = true ↔ P a) (o : Option α) :
    optAllB p o = true ↔ ∀ x, o = some x → P x := by
  cases o with
  | none => simp [optAllB]
  | some a => simp [optAllB, h]

theorem implB_iff {b c : Bool} {P : Prop} (h : c = true ↔ P) : (!b || c) = true ↔ (b = true → P) := by
  cases b <;> simp [h]

theorem nodupB_iff : (l : List (Nat × Nat)) → (nodupB l = true ↔ l.Nodup)
  | [] => by simp [nodupB]
  | k :: ks => by
    simp only [nodupB, Bool.and_eq_true, Bool.not_eq_true', List.nodup_cons, nodupB_iff ks]
    constructor
    · rintro ⟨h1, h2⟩
      refine ⟨?_, h2⟩
      intro hm
      have : ks.contains k = true := List.contains_iff_mem.2 hm
      rw [h1] at this; cases this
    · rintro ⟨h1, h2⟩
      refine ⟨?_, h2⟩
      cases hc : ks.contains k with
      | false => rfl
      | true => exact absurd (List.contains_iff_mem.1 hc) h1

theorem validElemB_iff (e : Elem) : validElemB e = true ↔ validElem e := by
  obtain ⟨size, pay⟩ := e
  cases pay <;> simp [validElemB, validElem]

theorem validTyB_iff (t : TyInfo) : validTyB t = true ↔ validTy t := by
  cases t <;> simp [validTyB, validTy]

theorem validMapExtraB_iff (x : MapExtra) : validMapExtraB x = true ↔ validMapExtra x := by
  simp [validMapExtraB, validMapExtra, validTyB_iff]

theorem validNextB_iff (id : SlabID) : validNextB id = true ↔ validNext id := by
  simp [validNextB, validNext]

theorem validChildHdrB_iff (addr : Nat) (h : Hdr) : validChildHdrB addr h = true ↔ validChildHdr addr h := by
  simp [validChildHdrB, validChildHdr]

theorem validMChildHdrB_iff (addr : Nat) (h : MChildHdr) : validMChildHdrB addr h = true ↔ validMChildHdr addr h := by
  simp [validMChildHdrB, validMChildHdr]

mutual
theorem Stor.noInlB_iff : (s : Stor) → (s.noInlB = true ↔ s.noInl)
  | .val _ _ => by simp [Stor.noInlB, Stor.noInl]
  | .ref _ => by simp [Stor.noInlB, Stor.noInl]
  | .some s => by simp only [Stor.noInlB, Stor.noInl]; exact Stor.noInlB_iff s
  | .arr _ _ _ => by simp [Stor.noInlB, Stor.noInl]
  | .map _ _ _ => by simp [Stor.noInlB, Stor.noInl]
theorem SEl.noInlB_iff : (e : SEl) → (e.noInlB = true ↔ e.noInl)
  | .mk k v => by simp only [SEl.noInlB, SEl.noInl, Bool.and_eq_true, Stor.noInlB_iff k, Stor.noInlB_iff v]
theorem MEl.noInlB_iff : (e : MEl) → (e.noInlB = true ↔ e.noInl)
  | .single e => by simp only [MEl.noInlB, MEl.noInl]; exact SEl.noInlB_iff e
  | .inl els => by simp only [MEl.noInlB, MEl.noInl]; exact MEls.noInlB_iff els
  | .ext _ => by simp [MEl.noInlB, MEl.noInl]
theorem MEls.noInlB_iff : (els : MEls) → (els.noInlB = true ↔ els.noInl)
  | .hkey _ _ es => by simp only [MEls.noInlB, MEls.noInl]; exact noInlMElListB_iff es
  | .single _ es => by simp only [MEls.noInlB, MEls.noInl]; exact noInlSElListB_iff es
theorem noInlMElListB_iff : (l : List MEl) → (noInlMElListB l = true ↔ noInlMElList l)
  | [] => by simp [noInlMElListB, noInlMElList]
  | e :: es => by
    simp only [noInlMElListB, noInlMElList, Bool.and_eq_true, MEl.noInlB_iff e, noInlMElListB_iff es]
theorem noInlSElListB_iff : (l : List SEl) → (noInlSElListB l = true ↔ noInlSElList l)
  | [] => by simp [noInlSElListB, noInlSElList]
  | e :: es => by
    simp only [noInlSElListB, noInlSElList, Bool.and_eq_true, SEl.noInlB_iff e, noInlSElListB_iff es]
end

theorem noInlStsB_iff : (l : List Stor) → (noInlStsB l = true ↔ noInlSts l)
  | [] => by simp [noInlStsB, noInlSts]
  | s :: ss => by simp only [noInlStsB, noInlSts, Bool.and_eq_true, Stor.noInlB_iff s, noInlStsB_iff ss]

mutual
theorem Stor.rtB_iff : (s : Stor) → (s.rtB = true ↔ s.RT)
  | .val _ _ => by simp only [Stor.rtB, Stor.RT]; exact validElemB_iff _
  | .ref _ => by simp [Stor.rtB, Stor.RT]
  | .some s => by simp only [Stor.rtB, Stor.RT]; exact Stor.rtB_iff s
  | .arr _ _ _ => by simp [Stor.rtB, Stor.RT]
  | .map _ _ _ => by simp [Stor.rtB, Stor.RT]
theorem SEl.rtB_iff : (e : SEl) → (e.rtB = true ↔ e.RT)
  | .mk k v => by
    simp only [SEl.rtB, SEl.RT, Bool.and_eq_true, decide_eq_true_eq, Stor.rtB_iff k, Stor.rtB_iff v]
theorem MEl.rtB_iff : (e : MEl) → (e.rtB = true ↔ e.RT)
  | .single e => by simp only [MEl.rtB, MEl.RT]; exact SEl.rtB_iff e
  | .inl els => by simp only [MEl.rtB, MEl.RT]; exact MEls.rtB_iff els
  | .ext _ => by simp [MEl.rtB, MEl.RT]
theorem MEls.rtB_iff : (els : MEls) → (els.rtB = true ↔ els.RT)
  | .hkey _ _ es => by
    simp only [MEls.rtB, MEls.RT, Bool.and_eq_true, decide_eq_true_eq, List.all_eq_true, rtMElListB_iff es]
  | .single _ es => by
    simp only [MEls.rtB, MEls.RT, Bool.and_eq_true, decide_eq_true_eq, not_isEmpty_iff, rtSElListB_iff es]
theorem rtMElListB_iff : (l : List MEl) → (rtMElListB l = true ↔ rtMElList l)
  | [] => by simp [rtMElListB, rtMElList]
  | e :: es => by simp only [rtMElListB, rtMElList, Bool.and_eq_true, MEl.rtB_iff e, rtMElListB_iff es]
theorem rtSElListB_iff : (l : List SEl) → (rtSElListB l = true ↔ rtSElList l)
  | [] => by simp [rtSElListB, rtSElList]
  | e :: es => by simp only [rtSElListB, rtSElList, Bool.and_eq_true, SEl.rtB_iff e, rtSElListB_iff es]
end

mutual
theorem Stor.vneedB_eq : (s : Stor) → s.vneedB = s.vneed
  | .val _ _ => rfl
  | .ref _ => rfl
  | .some s => by simp only [Stor.vneedB, Stor.vneed, Stor.vneedB_eq s]
  | .arr _ _ _ => rfl
  | .map _ _ _ => rfl
theorem SEl.vneedB_eq : (e : SEl) → e.vneedB = e.vneed
  | .mk k v => by simp only [SEl.vneedB, SEl.vneed, Stor.vneedB_eq k, Stor.vneedB_eq v]
theorem MEl.vneedB_eq : (e : MEl) → e.vneedB = e.vneed
  | .single e => by simp only [MEl.vneedB, MEl.vneed, SEl.vneedB_eq e]
  | .inl els => by simp only [MEl.vneedB, MEl.vneed, MEls.vneedB_eq els]
  | .ext _ => rfl
theorem MEls.vneedB_eq : (els : MEls) → els.vneedB = els.vneed
  | .hkey _ _ es => by simp only [MEls.vneedB, MEls.vneed, vneedMElListB_eq es]
  | .single _ es => by simp only [MEls.vneedB, MEls.vneed, vneedSElListB_eq es]
theorem vneedMElListB_eq : (l : List MEl) → vneedMElListB l = vneedMElList l
  | [] => rfl
  | e :: es => by simp only [vneedMElListB, vneedMElList, MEl.vneedB_eq e, vneedMElListB_eq es]
theorem vneedSElListB_eq : (l : List SEl) → vneedSElListB l = vneedSElList l
  | [] => rfl
  | e :: es => by simp only [vneedSElListB, vneedSElList, SEl.vneedB_eq e, vneedSElListB_eq es]
end

theorem vneedStsB_eq : (l : List Stor) → vneedStsB l = vneedSts l
  | [] => rfl
  | s :: ss => by simp only [vneedStsB, vneedSts, Stor.vneedB_eq s, vneedStsB_eq ss]

mutual
theorem Stor.rtiB_iff : (s : Stor) → (s.rtiB = true ↔ s.RTI)
  | .val _ _ => by simp only [Stor.rtiB, Stor.RTI]; exact validElemB_iff _
  | .ref _ => by simp [Stor.rtiB, Stor.RTI]
  | .some s => by simp only [Stor.rtiB, Stor.RTI]; exact Stor.rtiB_iff s
  | .arr _ _ es => by
    simp only [Stor.rtiB, Stor.RTI, Bool.and_eq_true, decide_eq_true_eq, validTyB_iff, rtiStsB_iff es]
  | .map _ _ els => by
    simp only [Stor.rtiB, Stor.RTI, Bool.and_eq_true, decide_eq_true_eq, validMapExtraB_iff, MEls.rtiB_iff els]
theorem rtiStsB_iff : (l : List Stor) → (rtiStsB l = true ↔ rtiSts l)
  | [] => by simp [rtiStsB, rtiSts]
  | s :: ss => by simp only [rtiStsB, rtiSts, Bool.and_eq_true, Stor.rtiB_iff s, rtiStsB_iff ss]
theorem SEl.rtiB_iff : (e : SEl) → (e.rtiB = true ↔ e.RTI)
  | .mk k v => by
    simp only [SEl.rtiB, SEl.RTI, Bool.and_eq_true, decide_eq_true_eq, Stor.rtiB_iff k, Stor.rtiB_iff v]
theorem MEl.rtiB_iff : (e : MEl) → (e.rtiB = true ↔ e.RTI)
  | .single e => by simp only [MEl.rtiB, MEl.RTI]; exact SEl.rtiB_iff e
  | .inl els => by simp only [MEl.rtiB, MEl.RTI]; exact MEls.rtiB_iff els
  | .ext _ => by simp [MEl.rtiB, MEl.RTI]
theorem MEls.rtiB_iff : (els : MEls) → (els.rtiB = true ↔ els.RTI)
  | .hkey _ _ es => by
    simp only [MEls.rtiB, MEls.RTI, Bool.and_eq_true, decide_eq_true_eq, List.all_eq_true, rtiMElListB_iff es]
  | .single _ es => by
    simp only [MEls.rtiB, MEls.RTI, Bool.and_eq_true, decide_eq_true_eq, not_isEmpty_iff, rtiSElListB_iff es]
theorem rtiMElListB_iff : (l : List MEl) → (rtiMElListB l = true ↔ rtiMElList l)
  | [] => by simp [rtiMElListB, rtiMElList]
  | e :: es => by simp only [rtiMElListB, rtiMElList, Bool.and_eq_true, MEl.rtiB_iff e, rtiMElListB_iff es]
theorem rtiSElListB_iff : (l : List SEl) → (rtiSElListB l = true ↔ rtiSElList l)
  | [] => by simp [rtiSElListB, rtiSElList]
  | e :: es => by simp only [rtiSElListB, rtiSElList, Bool.and_eq_true, SEl.rtiB_iff e, rtiSElListB_iff es]
end

mutual
theorem Stor.vneedIB_eq : (s : Stor) → s.vneedIB = s.vneedI
  | .val _ _ => rfl
  | .ref _ => rfl
  | .some s => by simp only [Stor.vneedIB, Stor.vneedI, Stor.vneedIB_eq s]
  | .arr _ _ es => by simp only [Stor.vneedIB, Stor.vneedI, vneedIStsB_eq es]
  | .map _ _ els => by simp only [Stor.vneedIB, Stor.vneedI, MEls.vneedIB_eq els]
theorem vneedIStsB_eq : (l : List Stor) → vneedIStsB l = vneedISts l
  | [] => rfl
  | s :: ss => by simp only [vneedIStsB, vneedISts, Stor.vneedIB_eq s, vneedIStsB_eq ss]
theorem SEl.vneedIB_eq : (e : SEl) → e.vneedIB = e.vneedI
  | .mk k v => by simp only [SEl.vneedIB, SEl.vneedI, Stor.vneedIB_eq k, Stor.vneedIB_eq v]
theorem MEl.vneedIB_eq : (e : MEl) → e.vneedIB = e.vneedI
  | .single e => by simp only [MEl.vneedIB, MEl.vneedI, SEl.vneedIB_eq e]
  | .inl els => by simp only [MEl.vneedIB, MEl.vneedI, MEls.vneedIB_eq els]
  | .ext _ => rfl
theorem MEls.vneedIB_eq : (els : MEls) → els.vneedIB = els.vneedI
  | .hkey _ _ es => by simp only [MEls.vneedIB, MEls.vneedI, vneedIMElListB_eq es]
  | .single _ es => by simp only [MEls.vneedIB, MEls.vneedI, vneedISElListB_eq es]
theorem vneedIMElListB_eq : (l : List MEl) → vneedIMElListB l = vneedIMElList l
  | [] => rfl
  | e :: es => by simp only [vneedIMElListB, vneedIMElList, MEl.vneedIB_eq e, vneedIMElListB_eq es]
theorem vneedISElListB_eq : (l : List SEl) → vneedISElListB l = vneedISElList l
  | [] => rfl
  | e :: es => by simp only [vneedISElListB, vneedISElList, SEl.vneedIB_eq e, vneedISElListB_eq es]
end

mutual
theorem Stor.okB_iff : (s : Stor) → (s.okB = true ↔ s.OK)
  | .val _ _ => by simp only [Stor.okB, Stor.OK]; exact validElemB_iff _
  | .ref _ => by simp [Stor.okB, Stor.OK]
  | .some s => by simp only [Stor.okB, Stor.OK]; exact Stor.okB_iff s
  | .arr _ _ es => by simp only [Stor.okB, Stor.OK]; exact okStsB_iff es
  | .map _ _ els => by simp only [Stor.okB, Stor.OK]; exact MEls.okB_iff els
theorem okStsB_iff : (l : List Stor) → (okStsB l = true ↔ okSts l)
  | [] => by simp [okStsB, okSts]
  | s :: ss => by simp only [okStsB, okSts, Bool.and_eq_true, Stor.okB_iff s, okStsB_iff ss]
theorem SEl.okB_iff : (e : SEl) → (e.okB = true ↔ e.OK)
  | .mk k v => by simp only [SEl.okB, SEl.OK, Bool.and_eq_true, Stor.okB_iff k, Stor.okB_iff v]
theorem MEl.okB_iff : (e : MEl) → (e.okB = true ↔ e.OK)
  | .single e => by simp only [MEl.okB, MEl.OK]; exact SEl.okB_iff e
  | .inl els => by simp only [MEl.okB, MEl.OK]; exact MEls.okB_iff els
  | .ext _ => by simp [MEl.okB, MEl.OK]
theorem MEls.okB_iff : (els : MEls) → (els.okB = true ↔ els.OK)
  | .hkey _ _ es => by simp only [MEls.okB, MEls.OK, Bool.and_eq_true, decide_eq_true_eq, okMElListB_iff es]
  | .single _ es => by simp only [MEls.okB, MEls.OK]; exact okSElListB_iff es
theorem okMElListB_iff : (l : List MEl) → (okMElListB l = true ↔ okMElList l)
  | [] => by simp [okMElListB, okMElList]
  | e :: es => by simp only [okMElListB, okMElList, Bool.and_eq_true, MEl.okB_iff e, okMElListB_iff es]
theorem okSElListB_iff : (l : List SEl) → (okSElListB l = true ↔ okSElList l)
  | [] => by simp [okSElListB, okSElList]
  | e :: es => by simp only [okSElListB, okSElList, Bool.and_eq_true, SEl.okB_iff e, okSElListB_iff es]
end

mutual
theorem Stor.noCompactB_iff : (s : Stor) → (s.noCompactB = true ↔ s.noCompact)
  | .val _ _ => by simp [Stor.noCompactB, Stor.noCompact]
  | .ref _ => by simp [Stor.noCompactB, Stor.noCompact]
  | .some s => by simp only [Stor.noCompactB, Stor.noCompact]; exact Stor.noCompactB_iff s
  | .arr _ _ es => by simp only [Stor.noCompactB, Stor.noCompact]; exact noCompactStsB_iff es
  | .map _ _ (.hkey _ _ es) => by
    simp only [Stor.noCompactB, Stor.noCompact, Bool.and_eq_true, Option.isNone_iff_eq_none,
      noCompactMElListB_iff es]
  | .map _ _ (.single _ es) => by simp only [Stor.noCompactB, Stor.noCompact]; exact noCompactSElListB_iff es
theorem noCompactStsB_iff : (l : List Stor) → (noCompactStsB l = true ↔ noCompactSts l)
  | [] => by simp [noCompactStsB, noCompactSts]
  | s :: ss => by
    simp only [noCompactStsB, noCompactSts, Bool.and_eq_true, Stor.noCompactB_iff s, noCompactStsB_iff ss]
theorem SEl.noCompactB_iff : (e : SEl) → (e.noCompactB = true ↔ e.noCompact)
  | .mk k v => by
    simp only [SEl.noCompactB, SEl.noCompact, Bool.and_eq_true, Stor.noCompactB_iff k, Stor.noCompactB_iff v]
theorem MEl.noCompactB_iff : (e : MEl) → (e.noCompactB = true ↔ e.noCompact)
  | .single e => by simp only [MEl.noCompactB, MEl.noCompact]; exact SEl.noCompactB_iff e
  | .inl els => by simp only [MEl.noCompactB, MEl.noCompact]; exact MEls.noCompactB_iff els
  | .ext _ => by simp [MEl.noCompactB, MEl.noCompact]
theorem MEls.noCompactB_iff : (els : MEls) → (els.noCompactB = true ↔ els.noCompact)
  | .hkey _ _ es => by simp only [MEls.noCompactB, MEls.noCompact]; exact noCompactMElListB_iff es
  | .single _ es => by simp only [MEls.noCompactB, MEls.noCompact]; exact noCompactSElListB_iff es
theorem noCompactMElListB_iff : (l : List MEl) → (noCompactMElListB l = true ↔ noCompactMElList l)
  | [] => by simp [noCompactMElListB, noCompactMElList]
  | e :: es => by
    simp only [noCompactMElListB, noCompactMElList, Bool.and_eq_true, MEl.noCompactB_iff e,
      noCompactMElListB_iff es]
theorem noCompactSElListB_iff : (l : List SEl) → (noCompactSElListB l = true ↔ noCompactSElList l)
  | [] => by simp [noCompactSElListB, noCompactSElList]
  | e :: es => by
    simp only [noCompactSElListB, noCompactSElList, Bool.and_eq_true, SEl.noCompactB_iff e,
      noCompactSElListB_iff es]
end

mutual
theorem Stor.nodupKeysB_iff : (s : Stor) → (s.nodupKeysB = true ↔ s.nodupKeys)
  | .val _ _ => by simp [Stor.nodupKeysB, Stor.nodupKeys]
  | .ref _ => by simp [Stor.nodupKeysB, Stor.nodupKeys]
  | .some s => by simp only [Stor.nodupKeysB, Stor.nodupKeys]; exact Stor.nodupKeysB_iff s
  | .arr _ _ es => by simp only [Stor.nodupKeysB, Stor.nodupKeys]; exact nodupKeysStsB_iff es
  | .map _ _ (.hkey _ _ es) => by
    simp only [Stor.nodupKeysB, Stor.nodupKeys, Bool.and_eq_true, optAllB_iff nodupB_iff,
      nodupKeysMElListB_iff es]
  | .map _ _ (.single _ es) => by simp only [Stor.nodupKeysB, Stor.nodupKeys]; exact nodupKeysSElListB_iff es
theorem nodupKeysStsB_iff : (l : List Stor) → (nodupKeysStsB l = true ↔ nodupKeysSts l)
  | [] => by simp [nodupKeysStsB, nodupKeysSts]
  | s :: ss => by
    simp only [nodupKeysStsB, nodupKeysSts, Bool.and_eq_true, Stor.nodupKeysB_iff s, nodupKeysStsB_iff ss]
theorem SEl.nodupKeysB_iff : (e : SEl) → (e.nodupKeysB = true ↔ e.nodupKeys)
  | .mk k v => by
    simp only [SEl.nodupKeysB, SEl.nodupKeys, Bool.and_eq_true, Stor.nodupKeysB_iff k, Stor.nodupKeysB_iff v]
theorem MEl.nodupKeysB_iff : (e : MEl) → (e.nodupKeysB = true ↔ e.nodupKeys)
  | .single e => by simp only [MEl.nodupKeysB, MEl.nodupKeys]; exact SEl.nodupKeysB_iff e
  | .inl els => by simp only [MEl.nodupKeysB, MEl.nodupKeys]; exact MEls.nodupKeysB_iff els
  | .ext _ => by simp [MEl.nodupKeysB, MEl.nodupKeys]
theorem MEls.nodupKeysB_iff : (els : MEls) → (els.nodupKeysB = true ↔ els.nodupKeys)
  | .hkey _ _ es => by simp only [MEls.nodupKeysB, MEls.nodupKeys]; exact nodupKeysMElListB_iff es
  | .single _ es => by simp only [MEls.nodupKeysB, MEls.nodupKeys]; exact nodupKeysSElListB_iff es
theorem nodupKeysMElListB_iff : (l : List MEl) → (nodupKeysMElListB l = true ↔ nodupKeysMElList l)
  | [] => by simp [nodupKeysMElListB, nodupKeysMElList]
  | e :: es => by
    simp only [nodupKeysMElListB, nodupKeysMElList, Bool.and_eq_true, MEl.nodupKeysB_iff e,
      nodupKeysMElListB_iff es]
theorem nodupKeysSElListB_iff : (l : List SEl) → (nodupKeysSElListB l = true ↔ nodupKeysSElList l)
  | [] => by simp [nodupKeysSElListB, nodupKeysSElList]
  | e :: es => by
    simp only [nodupKeysSElListB, nodupKeysSElList, Bool.and_eq_true, SEl.nodupKeysB_iff e,
      nodupKeysSElListB_iff es]
end

theorem xokB_iff (xs : List XD) : xokB xs = true ↔ XOK xs := by
  unfold xokB XOK
  rw [List.all_eq_true]
  refine forall_congr' fun x => imp_congr_right fun _ => ?_
  cases x with
  | arr t => exact validTyB_iff t
  | map m => exact validMapExtraB_iff m
  | cmap _ _ _ => simp [XD.validB]

theorem XD.validCB_iff (x : XD) : x.validCB = true ↔ x.validC := by
  cases x with
  | arr t => exact validTyB_iff t
  | map m => exact validMapExtraB_iff m
  | cmap m hkeys keys =>
    simp only [XD.validCB, XD.validC, Bool.and_eq_true, decide_eq_true_eq, List.all_eq_true,
      validMapExtraB_iff, validElemB_iff]

theorem xokcB_iff (xs : List XD) : xokcB xs = true ↔ XOKC xs := by
  unfold xokcB XOKC
  rw [List.all_eq_true]
  exact forall_congr' fun x => imp_congr_right fun _ => XD.validCB_iff x

theorem dataOKB_iff (ty : TyInfo) (s : DataSlab) : dataOKB ty s = true ↔ DataOK ty s := by
  simp only [dataOKB, Bool.and_eq_true, decide_eq_true_eq, List.all_eq_true, validElemB_iff, validNextB_iff,
    Bool.not_eq_true', implB_iff (validTyB_iff ty)]
  constructor
  · rintro ⟨h1, h2, h3, h4, h5, h6, h7, h8⟩
    exact ⟨h1, h2, h3, h4, h5, h6, h7, h8⟩
  · rintro ⟨h1, h2, h3, h4, h5, h6, h7, h8⟩
    exact ⟨h1, h2, h3, h4, h5, h6, h7, h8⟩

theorem metaOKB_iff (ty : TyInfo) (m : MetaSlab Unit) : metaOKB ty m = true ↔ MetaOK ty m := by
  simp only [metaOKB, Bool.and_eq_true, decide_eq_true_eq, List.all_eq_true, validChildHdrB_iff,
    List.isEmpty_iff, implB_iff (validTyB_iff ty)]
  constructor
  · rintro ⟨h1, h2, h3, h4, h5, h6, h7, h8, h9⟩
    exact ⟨h1, h2, h3, h4, h5, h6, h7, h8, h9⟩
  · rintro ⟨h1, h2, h3, h4, h5, h6, h7, h8, h9⟩
    exact ⟨h1, h2, h3, h4, h5, h6, h7, h8, h9⟩

theorem mapMetaOKB_iff (m : MapMeta) : mapMetaOKB m = true ↔ MapMetaOK m := by
  simp only [mapMetaOKB, Bool.and_eq_true, decide_eq_true_eq, List.all_eq_true, validMChildHdrB_iff,
    optAllB_iff validMapExtraB_iff]
  constructor
  · rintro ⟨h1, h2, h3, h4⟩
    exact ⟨h1, h2, h3, h4⟩
  · rintro ⟨h1, h2, h3, h4⟩
    exact ⟨h1, h2, h3, h4⟩

theorem mapDataOKB_iff (s : MapData) : mapDataOKB s = true ↔ MapDataOK s := by
  simp only [mapDataOKB, Bool.and_eq_true, decide_eq_true_eq, MEls.rtB_iff, MEls.noInlB_iff, MEls.vneedB_eq,
    validNextB_iff, optAllB_iff validMapExtraB_iff]
  constructor
  · rintro ⟨h1, h2, h3, h4, h5, h6⟩
    exact ⟨h1, h2, h3, h4, h5, h6⟩
  · rintro ⟨h1, h2, h3, h4, h5, h6⟩
    exact ⟨h1, h2, h3, h4, h5, h6⟩

theorem anyNotFlat_iff (l : List Stor) : l.any (fun s => !s.isFlat) = true ↔ ∃ s ∈ l, s.isFlat = false := by
  simp only [List.any_eq_true, Bool.not_eq_true']

theorem arrDataOKWB_iff (a : ArrData) : arrDataOKWB a = true ↔ ArrDataOKW a := by
  simp only [arrDataOKWB, Bool.and_eq_true, decide_eq_true_eq, rtiStsB_iff, noInlStsB_iff, anyNotFlat_iff,
    vneedIStsB_eq, validNextB_iff, optAllB_iff validTyB_iff]
  constructor
  · rintro ⟨h1, h2, h3, h4, h5, h6, h7, h8⟩
    exact ⟨h1, h2, h3, h4, h5, h6, h7, h8⟩
  · rintro ⟨h1, h2, h3, h4, h5, h6, h7, h8⟩
    exact ⟨h1, h2, h3, h4, h5, h6, h7, h8⟩

theorem mapDataOKIB_iff (s : MapData) : mapDataOKIB s = true ↔ MapDataOKI s := by
  simp only [mapDataOKIB, Bool.and_eq_true, decide_eq_true_eq, MEls.rtiB_iff, MEls.noCompactB_iff,
    MEls.vneedIB_eq, validNextB_iff, optAllB_iff validMapExtraB_iff]
  constructor
  · rintro ⟨h1, h2, h3, h4, h5, h6, h7⟩
    exact ⟨h1, h2, h3, h4, h5, h6, h7⟩
  · rintro ⟨h1, h2, h3, h4, h5, h6, h7⟩
    exact ⟨h1, h2, h3, h4, h5, h6, h7⟩

theorem arrDataOKIB_iff (a : ArrData) : arrDataOKIB a = true ↔ ArrDataOKI a := by
  simp only [arrDataOKIB, Bool.and_eq_true, decide_eq_true_eq, rtiStsB_iff, noCompactStsB_iff, vneedIStsB_eq,
    not_isEmpty_iff, validNextB_iff, optAllB_iff validTyB_iff]
  constructor
  · rintro ⟨h1, h2, h3, h4, h5, h6, h7, h8, h9⟩
    exact ⟨h1, h2, h3, h4, h5, h6, h7, h8, h9⟩
  · rintro ⟨h1, h2, h3, h4, h5, h6, h7, h8, h9⟩
    exact ⟨h1, h2, h3, h4, h5, h6, h7, h8, h9⟩

theorem mapDataOKCB_iff (s : MapData) : mapDataOKCB s = true ↔ MapDataOKC s := by
  simp only [mapDataOKCB, Bool.and_eq_true, decide_eq_true_eq, MEls.rtiB_iff, MEls.nodupKeysB_iff,
    MEls.vneedIB_eq, validNextB_iff, optAllB_iff validMapExtraB_iff]
  constructor
  · rintro ⟨h1, h2, h3, h4, h5, h6, h7⟩
    exact ⟨h1, h2, h3, h4, h5, h6, h7⟩
  · rintro ⟨h1, h2, h3, h4, h5, h6, h7⟩
    exact ⟨h1, h2, h3, h4, h5, h6, h7⟩

theorem arrDataOKCB_iff (a : ArrData) : arrDataOKCB a = true ↔ ArrDataOKC a := by
  simp only [arrDataOKCB, Bool.and_eq_true, decide_eq_true_eq, rtiStsB_iff, nodupKeysStsB_iff, vneedIStsB_eq,
    not_isEmpty_iff, validNextB_iff, optAllB_iff validTyB_iff]
  constructor
  · rintro ⟨h1, h2, h3, h4, h5, h6, h7, h8, h9⟩
    exact ⟨h1, h2, h3, h4, h5, h6, h7, h8, h9⟩
  · rintro ⟨h1, h2, h3, h4, h5, h6, h7, h8, h9⟩
    exact ⟨h1, h2, h3, h4, h5, h6, h7, h8, h9⟩

theorem mapDataOKXB_iff (s : MapData) : mapDataOKXB s = true ↔ MapDataOKX s := by
  simp only [mapDataOKXB, Bool.and_eq_true, decide_eq_true_eq, MEls.rtiB_iff, MEls.nodupKeysB_iff,
    validNextB_iff, optAllB_iff validMapExtraB_iff]
  constructor
  · rintro ⟨h1, h2, h3, h4, h5, h6, h7⟩
    exact ⟨h1, h2, h3, h4, h5, h6, h7⟩
  · rintro ⟨h1, h2, h3, h4, h5, h6, h7⟩
    exact ⟨h1, h2, h3, h4, h5, h6, h7⟩

theorem arrDataOKXB_iff (a : ArrData) : arrDataOKXB a = true ↔ ArrDataOKX a := by
  simp only [arrDataOKXB, Bool.and_eq_true, decide_eq_true_eq, rtiStsB_iff, nodupKeysStsB_iff,
    not_isEmpty_iff, validNextB_iff, optAllB_iff validTyB_iff]
  constructor
  · rintro ⟨h1, h2, h3, h4, h5, h6, h7, h8, h9⟩
    exact ⟨h1, h2, h3, h4, h5, h6, h7, h8, h9⟩
  · rintro ⟨h1, h2, h3, h4, h5, h6, h7, h8, h9⟩
    exact ⟨h1, h2, h3, h4, h5, h6, h7, h8, h9⟩

theorem arrDataOKWXB_iff (a : ArrData) : arrDataOKWXB a = true ↔ ArrDataOKWX a := by
  simp only [arrDataOKWXB, Bool.and_eq_true, decide_eq_true_eq, rtiStsB_iff, noInlStsB_iff, anyNotFlat_iff,
    validNextB_iff, optAllB_iff validTyB_iff]
  constructor
  · rintro ⟨h1, h2, h3, h4, h5, h6, h7, h8⟩
    exact ⟨h1, h2, h3, h4, h5, h6, h7, h8⟩
  · rintro ⟨h1, h2, h3, h4, h5, h6, h7, h8⟩
    exact ⟨h1, h2, h3, h4, h5, h6, h7, h8⟩

theorem storableGOKB_iff (s : Stor) :
    storableGOKB s = true ↔ ∃ x, s = .some x ∧ x.RT ∧ x.noInl ∧ x.vneed + 1 ≤ maxNestedLevels := by
  cases s with
  | some x =>
    simp only [storableGOKB, Bool.and_eq_true, decide_eq_true_eq, Stor.rtB_iff, Stor.noInlB_iff, Stor.vneedB_eq,
      Stor.some.injEq, exists_eq_left']
  | val _ _ => simp [storableGOKB]
  | ref _ => simp [storableGOKB]
  | arr _ _ _ => simp [storableGOKB]
  | map _ _ _ => simp [storableGOKB]

end Atree.Codec

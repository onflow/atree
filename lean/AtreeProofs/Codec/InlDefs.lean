import AtreeProofs.Codec.RoundTripM
/-
  Round trip WITH inlined slabs (inlined arrays and maps at any depth, not the compact form):
  the predicates and measures the statements are phrased with, and how they read on a value
  without inlined slabs (there they are those of RoundTripG.lean).
-/
namespace Atree.Codec
open Atree Atree.Gen DM

mutual
/-- values the encoder and the decoder agree on, inlined slabs included: plain values of the harness,
    slab IDs / slab indexes / counts / seeds that fit their fields, valid type infos, sizes that fit
    `uint32`, counts that fit the fixed-width heads, digest levels below 24 -/
def Stor.RTI : Stor → Prop
  | .val size pay => validElem { size := size, pay := .val pay }
  | .ref id => id.addr < 2 ^ 64 ∧ id.idx < 2 ^ 64
  | .some s => s.RTI
  | .arr ty idx es =>
    validTy ty ∧ idx < 2 ^ 64 ∧ es.length < 65536 ∧ rtiSts es ∧ inlinedArrayDataSlabPrefixSize + sizeSts es ≤ maxUint32
  | .map x idx els =>
    validMapExtra x ∧ idx < 2 ^ 64 ∧ els.RTI ∧ inlinedMapDataSlabPrefixSize + els.size ≤ maxUint32
def rtiSts : List Stor → Prop
  | [] => True
  | s :: ss => s.RTI ∧ rtiSts ss
def SEl.RTI : SEl → Prop
  | .mk k v => k.RTI ∧ v.RTI ∧ singleElementPrefixSize + k.size + v.size ≤ maxUint32
def MEl.RTI : MEl → Prop
  | .single e => e.RTI
  | .inl els => els.RTI
  | .ext id => id.addr < 2 ^ 64 ∧ id.idx < 2 ^ 64
def MEls.RTI : MEls → Prop
  | .hkey level hkeys es =>
    level < 24 ∧ hkeys.length = es.length ∧ es.length < 8192 ∧ (∀ h ∈ hkeys, h < 2 ^ 64) ∧ rtiMElList es ∧
      hkeyElementsPrefixSize + sizeMEl es ≤ maxUint32
  | .single level es =>
    level < 24 ∧ es ≠ [] ∧ es.length < 65536 ∧ rtiSElList es ∧ singleElementsPrefixSize + sizeSEl es ≤ maxUint32
def rtiMElList : List MEl → Prop
  | [] => True
  | e :: es => e.RTI ∧ rtiMElList es
def rtiSElList : List SEl → Prop
  | [] => True
  | e :: es => e.RTI ∧ rtiSElList es
end

mutual
/-- nesting levels the CBOR validator needs for the encoding (its limit is 32), at worst, that is
    directly after a tag number.  An inlined array: its tag number, the array `[extra-data index, slab
    index, elements]` and the element array (`+ 3`); an inlined map: tag number and that array (`+ 2`)
    on top of its `elements`, which are the array `[level, digests, elements]` and the element array
    (`+ 2`); an external collision group: its tag number and that of the slab ID (`2`) -/
def Stor.vneedI : Stor → Nat
  | .val _ _ => 1
  | .ref _ => 1
  | .some s => s.vneedI + 1
  | .arr _ _ es => vneedISts es + 3
  | .map _ _ els => els.vneedI + 2
def vneedISts : List Stor → Nat
  | [] => 0
  | s :: ss => max s.vneedI (vneedISts ss)
def SEl.vneedI : SEl → Nat
  | .mk k v => max k.vneedI v.vneedI + 1
def MEl.vneedI : MEl → Nat
  | .single e => e.vneedI
  | .inl els => els.vneedI + 1
  | .ext _ => 2
def MEls.vneedI : MEls → Nat
  | .hkey _ _ es => vneedIMElList es + 2
  | .single _ es => vneedISElList es + 2
def vneedIMElList : List MEl → Nat
  | [] => 0
  | e :: es => max e.vneedI (vneedIMElList es)
def vneedISElList : List SEl → Nat
  | [] => 0
  | e :: es => max e.vneedI (vneedISElList es)
end

mutual
/-- depth of the harness's `decodeStorable` recursion (its limit is 64): wrappers and inlined slabs -/
def Stor.dneed : Stor → Nat
  | .val _ _ => 0
  | .ref _ => 0
  | .some s => s.dneed + 1
  | .arr _ _ es => dneedSts es + 1
  | .map _ _ els => els.dneed + 1
def dneedSts : List Stor → Nat
  | [] => 0
  | s :: ss => max s.dneed (dneedSts ss)
def SEl.dneed : SEl → Nat
  | .mk k v => max k.dneed v.dneed
def MEl.dneed : MEl → Nat
  | .single e => e.dneed
  | .inl els => els.dneed
  | .ext _ => 0
def MEls.dneed : MEls → Nat
  | .hkey _ _ es => dneedMElList es
  | .single _ es => dneedSElList es
def dneedMElList : List MEl → Nat
  | [] => 0
  | e :: es => max e.dneed (dneedMElList es)
def dneedSElList : List SEl → Nat
  | [] => 0
  | e :: es => max e.dneed (dneedSElList es)
end

mutual
/-- fuel the mutually recursive decoders need: one per nested call, so an inlined slab costs 2
    (`decStG`, then `decInlArr` / `decInlMap`), an element list one per element passed (the loop calls
    itself), an external collision group 2 (`decMElG`, then `decStG` for the slab ID) -/
def Stor.fuelI : Stor → Nat
  | .val _ _ => 1
  | .ref _ => 1
  | .some s => s.fuelI + 1
  | .arr _ _ es => fuelISts es + 2
  | .map _ _ els => els.fuelI + 2
def fuelISts : List Stor → Nat
  | [] => 0
  | s :: ss => max s.fuelI (fuelISts ss) + 1
def SEl.fuelI : SEl → Nat
  | .mk k v => max k.fuelI v.fuelI + 1
def MEl.fuelI : MEl → Nat
  | .single e => e.fuelI + 1
  | .inl els => els.fuelI + 1
  | .ext _ => 2
def MEls.fuelI : MEls → Nat
  | .hkey _ _ es => fuelIMElList es + 1
  | .single _ es => fuelISElList es + 1
def fuelIMElList : List MEl → Nat
  | [] => 0
  | e :: es => max e.fuelI (fuelIMElList es) + 1
def fuelISElList : List SEl → Nat
  | [] => 0
  | e :: es => max e.fuelI (fuelISElList es) + 1
end

mutual
/-- slice elements the decoders allocate (`0 +`: the empty digest slice of a last-level list, see `MEls.allocs`) -/
def Stor.allocsI : Stor → Nat
  | .val _ _ => 0
  | .ref _ => 0
  | .some s => s.allocsI
  | .arr _ _ es => es.length + allocsISts es
  | .map _ _ els => els.allocsI
def allocsISts : List Stor → Nat
  | [] => 0
  | s :: ss => s.allocsI + allocsISts ss
def SEl.allocsI : SEl → Nat
  | .mk k v => k.allocsI + v.allocsI
def MEl.allocsI : MEl → Nat
  | .single e => e.allocsI
  | .inl els => els.allocsI
  | .ext _ => 0
def MEls.allocsI : MEls → Nat
  | .hkey _ hkeys es => hkeys.length + es.length + allocsIMElList es
  | .single _ es => 0 + es.length + allocsISElList es
def allocsIMElList : List MEl → Nat
  | [] => 0
  | e :: es => e.allocsI + allocsIMElList es
def allocsISElList : List SEl → Nat
  | [] => 0
  | e :: es => e.allocsI + allocsISElList es
end

/-- the encoder's `InlinedExtraData` holds valid entries, none of them for the compact form -/
def XOK (xs : List XD) : Prop :=
  ∀ x ∈ xs, match x with
    | .arr t => validTy t
    | .map m => validMapExtra m
    | .cmap _ _ _ => False

theorem XOK.nil : XOK [] := by intro x hx; cases hx

theorem XOK.append {a b : List XD} (ha : XOK a) (hb : XOK b) : XOK (a ++ b) := by
  intro x hx
  rcases List.mem_append.1 hx with h | h
  · exact ha x h
  · exact hb x h

theorem XOK.of_append_left {a b : List XD} (h : XOK (a ++ b)) : XOK a :=
  fun x hx => h x (List.mem_append_left _ hx)

theorem XOK.single_arr {t : TyInfo} (h : validTy t) : XOK [.arr t] := by
  intro x hx; simp only [List.mem_cons, List.not_mem_nil, or_false] at hx; subst hx; exact h

theorem XOK.single_map {m : MapExtra} (h : validMapExtra m) : XOK [.map m] := by
  intro x hx; simp only [List.mem_cons, List.not_mem_nil, or_false] at hx; subst hx; exact h

mutual
theorem Stor.dneed_le : (s : Stor) → s.dneed ≤ s.vneedI
  | .val _ _ => by simp [Stor.dneed]
  | .ref _ => by simp [Stor.dneed]
  | .some s => by have := Stor.dneed_le s; simp only [Stor.dneed, Stor.vneedI]; omega
  | .arr _ _ es => by have := dneedSts_le es; simp only [Stor.dneed, Stor.vneedI]; omega
  | .map _ _ els => by have := MEls.dneed_le els; simp only [Stor.dneed, Stor.vneedI]; omega
theorem dneedSts_le : (l : List Stor) → dneedSts l ≤ vneedISts l
  | [] => by simp [dneedSts]
  | s :: ss => by
    have h1 := Stor.dneed_le s
    have h2 := dneedSts_le ss
    simp only [dneedSts, vneedISts]; omega
theorem SEl.dneed_le : (e : SEl) → e.dneed ≤ e.vneedI
  | .mk k v => by
    have h1 := Stor.dneed_le k
    have h2 := Stor.dneed_le v
    simp only [SEl.dneed, SEl.vneedI]; omega
theorem MEl.dneed_le : (e : MEl) → e.dneed ≤ e.vneedI
  | .single e => by have := SEl.dneed_le e; simp only [MEl.dneed, MEl.vneedI]; exact this
  | .inl els => by have := MEls.dneed_le els; simp only [MEl.dneed, MEl.vneedI]; omega
  | .ext _ => by simp [MEl.dneed]
theorem MEls.dneed_le : (els : MEls) → els.dneed ≤ els.vneedI
  | .hkey _ _ es => by have := dneedMElList_le es; simp only [MEls.dneed, MEls.vneedI]; omega
  | .single _ es => by have := dneedSElList_le es; simp only [MEls.dneed, MEls.vneedI]; omega
theorem dneedMElList_le : (l : List MEl) → dneedMElList l ≤ vneedIMElList l
  | [] => by simp [dneedMElList]
  | e :: es => by
    have h1 := MEl.dneed_le e
    have h2 := dneedMElList_le es
    simp only [dneedMElList, vneedIMElList]; omega
theorem dneedSElList_le : (l : List SEl) → dneedSElList l ≤ vneedISElList l
  | [] => by simp [dneedSElList]
  | e :: es => by
    have h1 := SEl.dneed_le e
    have h2 := dneedSElList_le es
    simp only [dneedSElList, vneedISElList]; omega
end

mutual
theorem Stor.OK_of_RTI : (s : Stor) → s.RTI → s.OK
  | .val _ _, h => h
  | .ref _, _ => trivial
  | .some s, h => Stor.OK_of_RTI s h
  | .arr _ _ es, h => okSts_of_RTI es h.2.2.2.1
  | .map _ _ els, h => MEls.OK_of_RTI els h.2.2.1
theorem okSts_of_RTI : (l : List Stor) → rtiSts l → okSts l
  | [], _ => trivial
  | s :: ss, h => ⟨Stor.OK_of_RTI s h.1, okSts_of_RTI ss h.2⟩
theorem SEl.OK_of_RTI : (e : SEl) → e.RTI → e.OK
  | .mk k v, h => ⟨Stor.OK_of_RTI k h.1, Stor.OK_of_RTI v h.2.1⟩
theorem MEl.OK_of_RTI : (e : MEl) → e.RTI → e.OK
  | .single e, h => SEl.OK_of_RTI e h
  | .inl els, h => MEls.OK_of_RTI els h
  | .ext _, _ => trivial
theorem MEls.OK_of_RTI : (els : MEls) → els.RTI → els.OK
  | .hkey _ _ es, h => ⟨h.2.1, okMElList_of_RTI es h.2.2.2.2.1⟩
  | .single _ es, h => okSElList_of_RTI es h.2.2.2.1
theorem okMElList_of_RTI : (l : List MEl) → rtiMElList l → okMElList l
  | [], _ => trivial
  | e :: es, h => ⟨MEl.OK_of_RTI e h.1, okMElList_of_RTI es h.2⟩
theorem okSElList_of_RTI : (l : List SEl) → rtiSElList l → okSElList l
  | [], _ => trivial
  | e :: es, h => ⟨SEl.OK_of_RTI e h.1, okSElList_of_RTI es h.2⟩
end

/-! A value without inlined slabs: the hypotheses and measures of this file are those of the plain level. -/

mutual
theorem Stor.RTI_of_RT : (s : Stor) → s.RT → s.noInl → s.RTI
  | .val _ _, h, _ => h
  | .ref _, h, _ => h
  | .some s, h, hn => Stor.RTI_of_RT s h hn
  | .arr _ _ _, _, hn => hn.elim
  | .map _ _ _, _, hn => hn.elim
theorem SEl.RTI_of_RT : (e : SEl) → e.RT → e.noInl → e.RTI
  | .mk k v, h, hn => ⟨Stor.RTI_of_RT k h.1 hn.1, Stor.RTI_of_RT v h.2.1 hn.2, h.2.2⟩
theorem MEl.RTI_of_RT : (e : MEl) → e.RT → e.noInl → e.RTI
  | .single e, h, hn => SEl.RTI_of_RT e h hn
  | .inl els, h, hn => MEls.RTI_of_RT els h hn
  | .ext _, h, _ => h
theorem MEls.RTI_of_RT : (els : MEls) → els.RT → els.noInl → els.RTI
  | .hkey _ _ es, h, hn => ⟨h.1, h.2.1, h.2.2.1, h.2.2.2.1, rtiMElList_of_RT es h.2.2.2.2.1 hn, h.2.2.2.2.2⟩
  | .single _ es, h, hn => ⟨h.1, h.2.1, h.2.2.1, rtiSElList_of_RT es h.2.2.2.1 hn, h.2.2.2.2⟩
theorem rtiMElList_of_RT : (l : List MEl) → rtMElList l → noInlMElList l → rtiMElList l
  | [], _, _ => trivial
  | e :: es, h, hn => ⟨MEl.RTI_of_RT e h.1 hn.1, rtiMElList_of_RT es h.2 hn.2⟩
theorem rtiSElList_of_RT : (l : List SEl) → rtSElList l → noInlSElList l → rtiSElList l
  | [], _, _ => trivial
  | e :: es, h, hn => ⟨SEl.RTI_of_RT e h.1 hn.1, rtiSElList_of_RT es h.2 hn.2⟩
end

theorem Stor.OK_of_RT : (s : Stor) → s.RT → s.noInl → s.OK :=
  fun s h hn => Stor.OK_of_RTI s (Stor.RTI_of_RT s h hn)
theorem MEl.OK_of_RT : (e : MEl) → e.RT → e.noInl → e.OK :=
  fun e h hn => MEl.OK_of_RTI e (MEl.RTI_of_RT e h hn)
theorem okMElList_of_RT : (l : List MEl) → rtMElList l → noInlMElList l → okMElList l :=
  fun l h hn => okMElList_of_RTI l (rtiMElList_of_RT l h hn)

mutual
theorem Stor.vneedI_of_noInl : (s : Stor) → s.noInl → s.vneedI = s.vneed
  | .val _ _, _ => rfl
  | .ref _, _ => rfl
  | .some s, hn => by simp only [Stor.vneedI, Stor.vneed, Stor.vneedI_of_noInl s hn]
  | .arr _ _ _, hn => hn.elim
  | .map _ _ _, hn => hn.elim
theorem SEl.vneedI_of_noInl : (e : SEl) → e.noInl → e.vneedI = e.vneed
  | .mk k v, hn => by
    simp only [SEl.vneedI, SEl.vneed, Stor.vneedI_of_noInl k hn.1, Stor.vneedI_of_noInl v hn.2]
theorem MEl.vneedI_of_noInl : (e : MEl) → e.noInl → e.vneedI = e.vneed
  | .single e, hn => by simp only [MEl.vneedI, MEl.vneed, SEl.vneedI_of_noInl e hn]
  | .inl els, hn => by simp only [MEl.vneedI, MEl.vneed, MEls.vneedI_of_noInl els hn]
  | .ext _, _ => rfl
theorem MEls.vneedI_of_noInl : (els : MEls) → els.noInl → els.vneedI = els.vneed
  | .hkey _ _ es, hn => by simp only [MEls.vneedI, MEls.vneed, vneedIMElList_of_noInl es hn]
  | .single _ es, hn => by simp only [MEls.vneedI, MEls.vneed, vneedISElList_of_noInl es hn]
theorem vneedIMElList_of_noInl : (l : List MEl) → noInlMElList l → vneedIMElList l = vneedMElList l
  | [], _ => rfl
  | e :: es, hn => by
    simp only [vneedIMElList, vneedMElList, MEl.vneedI_of_noInl e hn.1, vneedIMElList_of_noInl es hn.2]
theorem vneedISElList_of_noInl : (l : List SEl) → noInlSElList l → vneedISElList l = vneedSElList l
  | [], _ => rfl
  | e :: es, hn => by
    simp only [vneedISElList, vneedSElList, SEl.vneedI_of_noInl e hn.1, vneedISElList_of_noInl es hn.2]
end

theorem Stor.allocsI_of_noInl : (s : Stor) → s.noInl → s.allocsI = 0
  | .val _ _, _ => rfl
  | .ref _, _ => rfl
  | .some s, hn => by simp only [Stor.allocsI, Stor.allocsI_of_noInl s hn]
  | .arr _ _ _, hn => hn.elim
  | .map _ _ _, hn => hn.elim

theorem allocsISElList_of_noInl : (l : List SEl) → noInlSElList l → allocsISElList l = 0
  | [], _ => rfl
  | .mk k v :: es, hn => by
    simp only [allocsISElList, SEl.allocsI, Stor.allocsI_of_noInl k hn.1.1, Stor.allocsI_of_noInl v hn.1.2,
      allocsISElList_of_noInl es hn.2]

mutual
theorem MEl.allocsI_of_noInl : (e : MEl) → e.noInl → e.allocsI = e.allocs
  | .single (.mk k v), hn => by
    simp only [MEl.allocsI, SEl.allocsI, MEl.allocs, Stor.allocsI_of_noInl k hn.1, Stor.allocsI_of_noInl v hn.2]
  | .inl els, hn => by simp only [MEl.allocsI, MEl.allocs, MEls.allocsI_of_noInl els hn]
  | .ext _, _ => rfl
theorem MEls.allocsI_of_noInl : (els : MEls) → els.noInl → els.allocsI = els.allocs
  | .hkey _ _ es, hn => by simp only [MEls.allocsI, MEls.allocs, allocsIMElList_of_noInl es hn]
  | .single _ es, hn => by simp only [MEls.allocsI, MEls.allocs, allocsISElList_of_noInl es hn, Nat.add_zero]
theorem allocsIMElList_of_noInl : (l : List MEl) → noInlMElList l → allocsIMElList l = allocsMElList l
  | [], _ => rfl
  | e :: es, hn => by
    simp only [allocsIMElList, allocsMElList, MEl.allocsI_of_noInl e hn.1, allocsIMElList_of_noInl es hn.2]
end

/-- without inlined slabs the two structural measures are one -/
theorem Stor.fuelI_of_noInl : (s : Stor) → s.noInl → s.fuelI = s.fuelNeed
  | .val _ _, _ => rfl
  | .ref _, _ => rfl
  | .some s, h => by simp only [Stor.fuelI, Stor.fuelNeed, Stor.fuelI_of_noInl s h]
  | .arr _ _ _, h => h.elim
  | .map _ _ _, h => h.elim
theorem SEl.fuelI_of_noInl : (e : SEl) → e.noInl → e.fuelI = e.fuelNeed
  | .mk k v, h => by simp only [SEl.fuelI, SEl.fuelNeed, Stor.fuelI_of_noInl k h.1, Stor.fuelI_of_noInl v h.2]
theorem fuelISElList_of_noInl : (l : List SEl) → noInlSElList l → fuelISElList l = fuelSElList l
  | [], _ => rfl
  | e :: es, h => by simp only [fuelISElList, fuelSElList, SEl.fuelI_of_noInl e h.1, fuelISElList_of_noInl es h.2]
mutual
theorem MEl.fuelI_of_noInl : (e : MEl) → e.noInl → e.fuelI = e.fuelNeed
  | .single e, h => by simp only [MEl.fuelI, MEl.fuelNeed, SEl.fuelI_of_noInl e h]
  | .inl els, h => by simp only [MEl.fuelI, MEl.fuelNeed, MEls.fuelI_of_noInl els h]
  | .ext _, _ => rfl
theorem MEls.fuelI_of_noInl : (els : MEls) → els.noInl → els.fuelI = els.fuelNeed
  | .hkey _ _ es, h => by simp only [MEls.fuelI, MEls.fuelNeed, fuelIMElList_of_noInl es h]
  | .single _ es, h => by simp only [MEls.fuelI, MEls.fuelNeed, fuelISElList_of_noInl es h]
theorem fuelIMElList_of_noInl : (l : List MEl) → noInlMElList l → fuelIMElList l = fuelMElList l
  | [], _ => rfl
  | e :: es, h => by simp only [fuelIMElList, fuelMElList, MEl.fuelI_of_noInl e h.1, fuelIMElList_of_noInl es h.2]
end

end Atree.Codec

import AtreeProofs.ListAt
import AtreeProofs.Codec.InlDefs
import AtreeProofs.OrderLemmas
/-
  Round trip of the shared inlined-extra-data section (array and map extra data; type infos that
  occur more than once are written once and referred to by `CBORTagTypeInfoRef`).
-/
namespace Atree.Codec
open Atree Atree.Gen DM

theorem acc_tyRef (i : Nat) (hi : i < 2 ^ 64) : Acc (tagHead8 CBORTagTypeInfoRef ++ head 0 i) 1 := by
  simp only [tagHead8, List.cons_append, List.nil_append]
  exact Acc.tag8 _ (Acc.uint hi)

theorem findIdxFrom_lt {α : Type} (p : α → Bool) (l : List α) (i : Nat) (h : findIdxFrom p l 0 = some i) :
    i < l.length := by
  obtain ⟨_, y, hy, _⟩ := findIdxFrom_some p l 0 i h
  simp only [Nat.sub_zero] at hy
  exact lt_length_of_getElem? hy

theorem acc_encodeTyRef (dups : List Bytes) (hd : dups.length < 2 ^ 64) (ty : TyInfo) (hv : validTy ty) :
    Acc (encodeTyRef dups ty) 1 := by
  unfold encodeTyRef
  cases hf : findIdxFrom (· == encodeTy ty) dups 0 with
  | none => exact acc_encodeTy ty hv
  | some i => exact acc_tyRef i (by have := findIdxFrom_lt _ _ _ hf; omega)

theorem length_encodeTyRef_pos (dups : List Bytes) (ty : TyInfo) : 0 < (encodeTyRef dups ty).length := by
  unfold encodeTyRef
  split
  · simp [tagHead8]
  · exact length_encodeTy_pos ty

/-- `cbor.Unmarshal` of a minimal-head unsigned integer into a `uint64` -/
theorem unmarshalUint64_head {i : Nat} (hi : i < 2 ^ 64) : unmarshalUint64 (head 0 i) = some i := by
  have hw : wfNext (head 0 i) = some [] := by
    have := wfNext_of_acc (Acc.uint hi) (by decide) []
    simpa using this
  have hh : wfHead (head 0 i) = some (⟨0, aiOf i, i⟩, []) := by
    have := wfHead_head (major := 0) (by omega) hi []
    simpa using this
  unfold unmarshalUint64
  rw [hw]
  simp only
  obtain ⟨f, hf⟩ : ∃ f, (head 0 i).length = f + 1 := ⟨(head 0 i).length - 1, by
    have := length_head 0 i; have := headLen_pos i; omega⟩
  rw [hf]
  unfold parseToUint64
  have hs : stripSelfDescribed (head 0 i).length (head 0 i) = head 0 i := by
    rw [hf]; unfold stripSelfDescribed; rw [hh]; simp
  have hb : builtinTagsOK (head 0 i).length (head 0 i) = true := by
    rw [hf]; unfold builtinTagsOK; rw [hh]; simp
  simp only [hs, hb, Bool.not_true, Bool.false_eq_true, ↓reduceIte, hh]

theorem encodeTy_not_ref (ty : TyInfo) : (encodeTy ty).take 2 ≠ [0xd8, CBORTagTypeInfoRef] := by
  cases ty with
  | plain n =>
    simp only [encodeTy]
    unfold head
    repeat' split
    all_goals simp [CBORTagTypeInfoRef]
    all_goals omega
  | composite n =>
    simp only [encodeTy, head_tagCompositeTI, List.cons_append, List.nil_append, CBORTagTypeInfoRef]
    intro h
    have : ((0xd8 : Nat) :: 160 :: head 0 n).take 2 = [0xd8, 160] := rfl
    rw [this] at h
    simp at h

theorem typeInfoAsIs_enc (ty : TyInfo) (hv : validTy ty) : typeInfoAsIs (encodeTy ty) = pure ty := by
  have hw : wfNext (encodeTy ty) = some [] := by
    have := wfNext_of_acc (acc_encodeTy ty hv) (by decide) []
    simpa using this
  unfold typeInfoAsIs
  have hnew : decodeTypeInfo (Dec.new (encodeTy ty))
      = decodeTypeInfo ⟨encodeTy ty, (encodeTy ty).length - ([] : Bytes).length, 0⟩ := by
    conv => lhs; unfold decodeTypeInfo
    conv => rhs; unfold decodeTypeInfo
    rw [nextType_new hw]
  rw [hnew, decodeTypeInfo_reads ty hv (Dec.Reads.item (List.append_nil _).symm)]
  rfl

/-- `DecodeRawBytes` hands back a complete item the validator accepts -/
theorem decodeRawBytes_reads {b : Bytes} {k : Nat} (hacc : Acc b k) (hk : k ≤ maxNestedLevels) (hpos : 0 < b.length)
    {d d' : Dec} (h : d.Reads b d') : d.decodeRawBytes = some (b, d') := by
  obtain ⟨h1, h2, h3⟩ := h
  obtain ⟨dd, dr, dc⟩ := d
  obtain ⟨dd', dr', dc'⟩ := d'
  simp only at h1 h2 h3
  subst h1; subst h2; subst h3
  unfold Dec.decodeRawBytes
  rw [prepareNext_pos (by simp only; omega)]
  simp only [wfNext_of_acc hacc hk dd']
  unfold Dec.advance
  simp only [List.length_append, Nat.add_sub_cancel, gt_iff_lt, Nat.not_lt.2 (Nat.le_add_right _ _),
    ↓reduceIte, Nat.add_sub_cancel_left, List.take_left']

/-- what the type-info decoder of the section makes of the raw item the encoder's closure wrote -/
theorem typeInfoOfRaw_enc (tis : List TyInfo) (htis : ∀ t ∈ tis, validTy t) (hlen : tis.length < 2 ^ 64)
    (ty : TyInfo) (hv : validTy ty) : typeInfoOfRaw tis (encodeTyRef (tis.map encodeTy) ty) = pure ty := by
  unfold typeInfoOfRaw encodeTyRef
  cases hf : findIdxFrom (· == encodeTy ty) (tis.map encodeTy) 0 with
  | none =>
    simp only
    by_cases hl : (encodeTy ty).length > 2
    · rw [if_pos hl]
      unfold sliceTo
      rw [if_pos (by omega)]
      simp only [DM.pure_bind]
      rw [if_neg (encodeTy_not_ref ty)]
      exact typeInfoAsIs_enc ty hv
    · rw [if_neg hl]
      exact typeInfoAsIs_enc ty hv
  | some i =>
    obtain ⟨_, y, hy, hp⟩ := findIdxFrom_some _ (tis.map encodeTy) 0 i hf
    simp only [Nat.sub_zero] at hy
    have hi : i < tis.length := by have := lt_length_of_getElem? hy; simpa using this
    have hhl : 0 < (head 0 i).length := by
      have := length_head 0 i; have := headLen_pos i; omega
    simp only [tagHead8, List.cons_append, List.nil_append]
    have hgt : (0xd8 :: CBORTagTypeInfoRef :: head 0 i).length > 2 := by
      simp only [List.length_cons]; omega
    have hle2 : 2 ≤ (0xd8 :: CBORTagTypeInfoRef :: head 0 i).length := by omega
    simp only [hgt, ↓reduceIte]
    unfold sliceTo
    simp only [hle2, ↓reduceIte, DM.pure_bind, List.take_succ_cons, List.take_zero]
    unfold typeInfoByRef sliceFrom
    simp only [hle2, ↓reduceIte, DM.pure_bind, List.drop_succ_cons, List.drop_zero]
    rw [unmarshalUint64_head (by omega)]
    simp only [DM.liftOpt_some, DM.pure_bind]
    have hge : ¬ (i ≥ tis.length) := by omega
    simp only [hge, ↓reduceIte]
    rw [List.getElem?_eq_getElem hi]
    simp only
    have hyi : encodeTy tis[i] = encodeTy ty := by
      rw [List.getElem?_map, List.getElem?_eq_getElem hi] at hy
      simp only [Option.map_some, Option.some.injEq] at hy
      rw [hy]
      exact eq_of_beq hp
    rw [encodeTy_inj (htis _ (List.getElem_mem hi)) hv hyi]

/-- the type-info decoder of the inlined-extra-data section on what the encoder's closure writes -/
theorem decodeTypeInfoRef_reads (tis : List TyInfo) (htis : ∀ t ∈ tis, validTy t) (hlen : tis.length < 2 ^ 64)
    (ty : TyInfo) (hv : validTy ty) {d d' : Dec} (h : d.Reads (encodeTyRef (tis.map encodeTy) ty) d') :
    decodeTypeInfoRef tis d = pure (ty, d') := by
  unfold decodeTypeInfoRef
  by_cases h0 : tis.length = 0
  · have : tis = [] := List.length_eq_zero_iff.1 h0
    subst this
    simp only [List.length_nil, ↓reduceIte]
    exact decodeTypeInfo_reads ty hv (by simpa [encodeTyRef, findIdxFrom] using h)
  · rw [if_neg h0, decodeRawBytes_reads (acc_encodeTyRef (tis.map encodeTy) (by simpa using hlen) ty hv) (by decide)
      (length_encodeTyRef_pos (tis.map encodeTy) ty) h]
    simp only [DM.liftOpt_some, DM.pure_bind]
    rw [typeInfoOfRaw_enc tis htis hlen ty hv]
    simp only [DM.pure_bind]

/-- `newMapExtraData` with the type-info decoder of the section -/
theorem newMapExtraData_reads (tis : List TyInfo) (htis : ∀ t ∈ tis, validTy t) (hlen : tis.length < 2 ^ 64)
    (m : MapExtra) (hv : validMapExtra m) {d d' : Dec}
    (h : d.Reads (encodeMapExtraWith (encodeTyRef (tis.map encodeTy)) m) d') :
    newMapExtraData tis d = pure (m, d') :=
  newMapExtraData_reads_of tis m (decodeTypeInfoRef_reads tis htis hlen m.ty hv.1) hv.2.1 hv.2.2 h

/-- an entry the encoder and the decoder agree on (no compact-map entries) -/
def XD.valid : XD → Prop
  | .arr t => validTy t
  | .map m => validMapExtra m
  | .cmap _ _ _ => False

theorem head6_247 : head 6 CBORTagInlinedArrayExtraData = [0xd8, 247] := by decide
theorem head6_248 : head 6 CBORTagInlinedMapExtraData = [0xd8, 248] := by decide

theorem acc_encodeXD (dups : List Bytes) (hd : dups.length < 2 ^ 64) (x : XD) (hv : x.valid) :
    Acc (encodeXD dups x) 3 := by
  cases x with
  | arr ty =>
    have hl : AccList [encodeTyRef dups ty] 1 := by
      intro b hb; simp only [List.mem_cons, List.not_mem_nil, or_false] at hb; subst hb
      exact acc_encodeTyRef dups hd ty hv
    have h1 := Acc.array (by simp [maxArrayElements]) hl
    have h2 := Acc.tag8 247 h1
    simpa [encodeXD, head6_247, arrayExtraDataLength] using h2
  | map m =>
    have h2 := Acc.tag8 248 (acc_encodeMapExtraWith (acc_encodeTyRef dups hd m.ty hv.1) hv.2.1 hv.2.2)
    simpa [encodeXD, head6_248] using h2
  | cmap a b c => exact hv.elim

theorem length_encodeXD_pos (dups : List Bytes) (x : XD) : 0 < (encodeXD dups x).length := by
  cases x with
  | arr t => simp only [encodeXD, List.length_append, length_head]; have := headLen_pos CBORTagInlinedArrayExtraData; omega
  | map m => simp only [encodeXD, List.length_append, length_head]; have := headLen_pos CBORTagInlinedMapExtraData; omega
  | cmap a b c =>
    simp only [encodeXD, List.length_append, length_head]; have := headLen_pos CBORTagInlinedCompactMapExtraData; omega

/-- an array or map entry of the section -/
theorem decXD_reads (fuel : Nat) (tis : List TyInfo) (htis : ∀ t ∈ tis, validTy t) (hlen : tis.length < 2 ^ 64)
    (x : XD) (hv : x.valid) {d d' : Dec} (h : d.Reads (encodeXD (tis.map encodeTy) x) d') :
    decXD fuel tis d = pure (x, d') := by
  cases x with
  | arr ty =>
    simp only [encodeXD, head6_247, List.append_assoc] at h
    obtain ⟨d1, h1, h⟩ := h.split
    obtain ⟨d2, h2, h3⟩ := h.split
    unfold decXD
    rw [decodeTagNumber_reads _ h1]
    simp only [DM.liftOpt_some, DM.pure_bind, CBORTagInlinedArrayExtraData, ↓reduceIte]
    unfold newArrayExtraDataRef
    rw [decodeArrayHead_reads (by simp [arrayExtraDataLength]) h2]
    simp only [DM.liftOpt_some, DM.pure_bind, arrayExtraDataLength, ne_eq, not_true_eq_false, ↓reduceIte]
    rw [decodeTypeInfoRef_reads tis htis hlen ty hv h3]
    simp only [DM.pure_bind]
  | map m =>
    simp only [encodeXD, head6_248] at h
    obtain ⟨d1, h1, h2⟩ := h.split
    unfold decXD
    rw [decodeTagNumber_reads _ h1]
    simp only [DM.liftOpt_some, DM.pure_bind, CBORTagInlinedArrayExtraData, CBORTagInlinedMapExtraData,
      show ¬ ((248 : Nat) = 247) by decide, ↓reduceIte]
    rw [newMapExtraData_reads tis htis hlen m hv h2]
    simp only [DM.pure_bind]
  | cmap a b c => exact hv.elim

theorem decTypeInfos_reads : ∀ (tis : List TyInfo), (∀ t ∈ tis, validTy t) → ∀ {d d' : Dec},
    d.Reads (tis.map encodeTy).flatten d' → decTypeInfos tis.length d = pure (tis, d')
  | [], _, d, d', h => by cases h.nil; simp [decTypeInfos]
  | t :: ts, hv, d, d', h => by
    simp only [List.map_cons, List.flatten_cons] at h
    obtain ⟨d1, h1, h2⟩ := h.split
    simp only [List.length_cons]
    unfold decTypeInfos
    rw [decodeTypeInfo_reads t (hv t (List.mem_cons_self ..)) h1]
    simp only [DM.pure_bind]
    rw [decTypeInfos_reads ts (fun y hy => hv y (List.mem_cons_of_mem _ hy)) h2]
    simp only [DM.pure_bind]

theorem mem_sortBytes {b : Bytes} {l : List Bytes} (h : b ∈ sortBytes l) : b ∈ l := (sortBytes_perm l).mem_iff.1 h

theorem mem_dupScan {b : Bytes} : ∀ (l : List Bytes) (prev : Bytes) (e : Bool), b ∈ dupScan prev e l → b = prev ∨ b ∈ l
  | [], prev, e, h => by simp [dupScan] at h
  | x :: rest, prev, e, h => by
    unfold dupScan at h
    split at h
    · split at h
      · rcases mem_dupScan rest prev true h with h' | h'
        · exact Or.inl h'
        · exact Or.inr (List.mem_cons_of_mem _ h')
      · simp only [List.mem_cons] at h
        rcases h with h | h
        · exact Or.inl h
        · rcases mem_dupScan rest prev true h with h' | h'
          · exact Or.inl h'
          · exact Or.inr (List.mem_cons_of_mem _ h')
    · rcases mem_dupScan rest x false h with h' | h'
      · exact Or.inr (h' ▸ List.mem_cons_self ..)
      · exact Or.inr (List.mem_cons_of_mem _ h')

theorem mem_findDuplicateTypeInfo {b : Bytes} {xs : List XD} (h : b ∈ findDuplicateTypeInfo xs) :
    b ∈ xs.map (fun x => encodeTy x.ty) := by
  unfold findDuplicateTypeInfo at h
  split at h
  · simp at h
  · split at h
    · simp at h
    · rename_i a rest heq
      apply mem_sortBytes
      rw [heq]
      rcases mem_dupScan rest a false h with h' | h'
      · exact h' ▸ List.mem_cons_self ..
      · exact List.mem_cons_of_mem _ h'

theorem exists_tis : ∀ (l : List Bytes), (∀ b ∈ l, ∃ t, validTy t ∧ encodeTy t = b) →
    ∃ tis : List TyInfo, tis.map encodeTy = l ∧ ∀ t ∈ tis, validTy t
  | [], _ => ⟨[], rfl, fun _ h => by cases h⟩
  | b :: bs, h => by
    obtain ⟨t, ht, hb⟩ := h b (List.mem_cons_self ..)
    obtain ⟨ts, hts, hv⟩ := exists_tis bs (fun x hx => h x (List.mem_cons_of_mem _ hx))
    refine ⟨t :: ts, by simp [hb, hts], ?_⟩
    intro y hy
    simp only [List.mem_cons] at hy
    rcases hy with rfl | hy
    · exact ht
    · exact hv y hy

theorem length_le_flatMap_encodeXD (dups : List Bytes) : ∀ (xs : List XD),
    xs.length ≤ (xs.flatMap (encodeXD dups)).length
  | [] => by simp
  | x :: xs => by
    have h1 := length_encodeXD_pos dups x
    have h2 := length_le_flatMap_encodeXD dups xs
    simp only [List.length_cons, List.flatMap_cons, List.length_append]; omega

theorem length_sortBytes (l : List Bytes) : (sortBytes l).length = l.length := (sortBytes_perm l).length_eq

theorem length_dupScan_le : ∀ (l : List Bytes) (prev : Bytes) (e : Bool), (dupScan prev e l).length ≤ l.length
  | [], _, _ => by simp [dupScan]
  | x :: rest, prev, e => by
    unfold dupScan
    split
    · split
      · have := length_dupScan_le rest prev true; simp only [List.length_cons]; omega
      · have := length_dupScan_le rest prev true; simp only [List.length_cons]; omega
    · have := length_dupScan_le rest x false; simp only [List.length_cons]; omega

theorem length_findDuplicateTypeInfo_le (xs : List XD) : (findDuplicateTypeInfo xs).length ≤ xs.length := by
  unfold findDuplicateTypeInfo
  split
  · simp
  · split
    · simp
    · rename_i a rest heq
      have h1 := length_dupScan_le rest a false
      have h2 := length_sortBytes (xs.map (fun x => encodeTy x.ty))
      rw [heq] at h2
      simp only [List.length_cons, List.length_map] at h2
      omega

end Atree.Codec

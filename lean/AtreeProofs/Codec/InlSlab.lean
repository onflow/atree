import AtreeProofs.Codec.SlabAll
/-
  Round trip of standalone slabs WITH inlined arrays / maps (not the compact form): map data /
  collision-group slabs and array data slabs whose shared inlined-extra-data section is present.
  Without the compact form nothing is normalised and no cached-key entry is allocated, so these are
  the exact-depth theorems of VDepthSlab.lean read at `MapDataOKI` / `ArrDataOKI` (`….toX`, SlabAll.lean).
-/
namespace Atree.Codec
open Atree Atree.Gen DM

theorem sum_xdAllocs_of_XOK : ∀ l : List XD, XOK l → (l.map xdAllocs).sum = 0
  | [], _ => rfl
  | x :: l, hl => by
    have hx := hl x (List.mem_cons_self ..)
    have ih := sum_xdAllocs_of_XOK l (fun y hy => hl y (List.mem_cons_of_mem _ hy))
    cases x with
    | arr t => simp only [List.map_cons, List.sum_cons, xdAllocs, ih]
    | map m => simp only [List.map_cons, List.sum_cons, xdAllocs, ih]
    | cmap _ _ _ => exact hx.elim

theorem iedAllocsC_of_XOK {xs : List XD} (h : XOK xs) : iedAllocsC xs = iedAllocs xs := by
  unfold iedAllocsC iedAllocs
  rw [sum_xdAllocs_of_XOK xs h, Nat.add_zero]

/-- `newInlinedExtraDataFromData` on an encoded inlined-extra-data section followed by `rest`: the
    entries come back; the decoder allocates one slot per duplicated type info and one per entry -/
theorem newInlinedExtraDataFromData_enc (xs : List XD) (hx : XOK xs) (hne : xs ≠ []) (hlen : xs.length ≤ 256)
    (rest : Bytes) (n : Nat) :
    newInlinedExtraDataFromData (encodeIED xs ++ rest) n
      = .ok (xs, rest) (n + (findDuplicateTypeInfo xs).length + xs.length) := by
  rw [newInlinedExtraDataFromData_encC xs (XOKC.of_XOK hx) hne hlen rest n, sum_xdAllocs_of_XOK xs hx, Nat.add_zero]

/-- `DecodeSlab` on the encoding of a map data / collision-group slab with inlined arrays / maps
    (any depth, shared and repeated type infos; not the compact form), followed by ANY `more` bytes -/
theorem decodeSlab_encodeMapDataI (s : MapData) (ok : MapDataOKI s) (more : Bytes) (n : Nat) :
    decodeSlab s.id (encodeMapData s ++ more) n
      = .ok (.mdata s) (n + iedAllocs (encMEls s.els []).2 + s.els.allocsI) := by
  have := decodeSlab_encodeMapDataX s ok.toX more n
  rw [normMEls_noCompact s.els [] ok.noCompact,
    iedAllocsC_of_XOK ((encMEls_appends s.els [] ok.rt).xok ok.noCompact XOK.nil)] at this
  exact this

/-- `DecodeSlab` on the encoding of an array data slab that holds inlined arrays / maps (any depth,
    shared and repeated type infos; not the compact form), followed by `extra` bytes -/
theorem decodeSlab_encodeArrDataI (a : ArrData) (ok : ArrDataOKI a) (extra : Bytes) (n : Nat) :
    decodeSlab a.id (encodeArrData a ++ extra) n =
      if extra ≠ [] then .error .decoding (n + iedAllocs (encSts a.elems []).2 + a.elems.length + allocsISts a.elems)
      else .ok (.adata a) (n + iedAllocs (encSts a.elems []).2 + a.elems.length + allocsISts a.elems) := by
  have := decodeSlab_encodeArrDataX a ok.toX extra n
  rw [normSts_noCompact a.elems [] ok.noCompact,
    iedAllocsC_of_XOK ((encSts_appends a.elems [] ok.rt).xok ok.noCompact XOK.nil)] at this
  exact this

end Atree.Codec

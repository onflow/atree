import AtreeProofs.Codec.CmpDefs
/-
  The encoder's `InlinedExtraData` while a slab is encoded: entries are only appended, every appended
  entry is valid, and none is of the compact kind unless a map is written in the compact form
  (`Appends`; the element encoders are walked once for it); an inlined array or map leaves its entry
  (`encSt_ne_nil_of_inl`).  The decoder's list is an extension (`Ext`) of every state the encoder went
  through.
-/
namespace Atree.Codec
open Atree Atree.Gen DM

/-- the decoder's complete list of extra-data entries extends the encoder's state `xs1` -/
def Ext (xs1 xs : List XD) : Prop := ∃ t, xs = xs1 ++ t

theorem Ext.get {a xs : List XD} {i : Nat} {x : XD} (he : Ext a xs) (h : a[i]? = some x) : xs[i]? = some x := by
  obtain ⟨t, rfl⟩ := he
  have hi : i < a.length := (List.getElem?_eq_some_iff.1 h).1
  rw [List.getElem?_append_left hi]; exact h

theorem Ext.trans {a b xs : List XD} (h1 : Ext a b) (h2 : Ext b xs) : Ext a xs := by
  obtain ⟨t1, rfl⟩ := h1
  obtain ⟨t2, rfl⟩ := h2
  exact ⟨t1 ++ t2, by simp⟩

theorem StateOKC.toExt {a b : List XD} (h : StateOKC a b) : Ext a b := h.1

theorem Ext.length_le {a xs : List XD} (h : Ext a xs) : a.length ≤ xs.length := by
  obtain ⟨t, rfl⟩ := h; simp

theorem Ext.ne_nil {a xs : List XD} (h : Ext a xs) (ha : a ≠ []) : xs ≠ [] := by
  obtain ⟨t, rfl⟩ := h
  exact fun e => ha (List.append_eq_nil_iff.1 e).1

/-- the encoder only appends to its extra-data state: valid entries, and under `nc` (nothing is written in
    the compact form) none of the compact kind -/
def Appends (nc : Prop) (xs0 xs1 : List XD) : Prop := ∃ t, xs1 = xs0 ++ t ∧ XOKC t ∧ (nc → XOK t)

theorem Appends.refl {nc : Prop} {xs : List XD} : Appends nc xs xs := ⟨[], by simp, XOKC.nil, fun _ => XOK.nil⟩

theorem Appends.trans {nc p q : Prop} {a b c : List XD} (h1 : Appends p a b) (h2 : Appends q b c)
    (hp : nc → p) (hq : nc → q) : Appends nc a c := by
  obtain ⟨t1, rfl, v1, w1⟩ := h1
  obtain ⟨t2, rfl, v2, w2⟩ := h2
  exact ⟨t1 ++ t2, by simp, v1.append v2, fun h => (w1 (hp h)).append (w2 (hq h))⟩

theorem Appends.mono {nc p : Prop} {a b : List XD} (h : Appends p a b) (hp : nc → p) : Appends nc a b := by
  obtain ⟨t, e, v, w⟩ := h; exact ⟨t, e, v, fun hn => w (hp hn)⟩

theorem Appends.toExt {nc : Prop} {a b : List XD} (h : Appends nc a b) : Ext a b := by
  obtain ⟨t, e, _⟩ := h; exact ⟨t, e⟩

theorem Appends.stateC {nc : Prop} {a b : List XD} (h : Appends nc a b) (ha : XOKC a) : StateOKC a b := by
  obtain ⟨t, rfl, v, _⟩ := h; exact ⟨⟨t, rfl⟩, ha.append v⟩

theorem Appends.xok {nc : Prop} {a b : List XD} (h : Appends nc a b) (hn : nc) (ha : XOK a) : XOK b := by
  obtain ⟨t, rfl, _, w⟩ := h; exact ha.append (w hn)

theorem addArrayXD_appends (xs : List XD) (ty : TyInfo) (hty : validTy ty) : Appends True xs (addArrayXD xs ty).2 := by
  unfold addArrayXD
  split
  · exact Appends.refl
  · exact ⟨[.arr ty], rfl, XOKC.single hty, fun _ => XOK.single_arr hty⟩

theorem addMapXD_appends (xs : List XD) (x : MapExtra) (hv : validMapExtra x) : Appends True xs (addMapXD xs x).2 :=
  ⟨[.map x], rfl, XOKC.single hv, fun _ => XOK.single_map hv⟩

theorem addCompactXD_appends (xs : List XD) (x : MapExtra) (hkeys : List Nat) (keys : List (Nat × Nat))
    (hv : (XD.cmap x hkeys keys).validC) : Appends False xs (addCompactXD xs x hkeys keys).2.2 := by
  unfold addCompactXD
  split
  · split <;> exact Appends.refl
  · exact ⟨[.cmap x hkeys keys], rfl, XOKC.single hv, False.elim⟩

theorem encVals_appends_of (elems : List MEl) (hfind : ∀ k xs, Appends False xs (encFind k elems xs).2) :
    ∀ (ks : List (Nat × Nat)) (xs : List XD), Appends False xs (encVals elems ks xs).2
  | [], xs => by simp only [encVals]; exact Appends.refl
  | k :: ks, xs => by
    simp only [encVals]
    exact (hfind k xs).trans (encVals_appends_of elems hfind ks _) id id

mutual
theorem encSt_appends : (s : Stor) → (xs : List XD) → s.RTI → Appends s.noCompact xs (encSt s xs).2
  | .val _ _, xs, _ => by simp only [encSt]; exact Appends.refl
  | .ref _, xs, _ => by simp only [encSt]; exact Appends.refl
  | .some s, xs, h => by simp only [encSt]; exact encSt_appends s xs h
  | .arr ty idx es, xs, h => by
    simp only [encSt]
    exact (addArrayXD_appends xs ty h.1).trans (encSts_appends es _ h.2.2.2.1) (fun _ => trivial) id
  | .map x idx (.hkey level hkeys elems), xs, h => by
    cases hc : compactKeys x elems with
    | none =>
      simp only [encSt, hc]
      exact (addMapXD_appends xs x h.1).trans (encMElList_appends elems _ h.2.2.1.2.2.2.2.1) (fun _ => trivial) (·.2)
    | some keys =>
      rw [encSt_compact hc]
      exact ((addCompactXD_appends xs x hkeys keys (cmap_validC h.1 h.2.2.1 hc)).trans
        (encVals_appends_of elems (fun k xs' => (encFind_appends k elems xs' h.2.2.1.2.2.2.2.1).mono False.elim) _ _)
        id id).mono fun nc => by cases hc.symm.trans nc.1
  | .map x idx (.single level elems), xs, h => by
    simp only [encSt]
    exact (addMapXD_appends xs x h.1).trans (encSElList_appends elems _ h.2.2.1.2.2.2.1) (fun _ => trivial) id
theorem encSts_appends : (l : List Stor) → (xs : List XD) → rtiSts l → Appends (noCompactSts l) xs (encSts l xs).2
  | [], xs, _ => by simp only [encSts]; exact Appends.refl
  | s :: ss, xs, h => by
    simp only [encSts]
    exact (encSt_appends s xs h.1).trans (encSts_appends ss _ h.2) (·.1) (·.2)
theorem encFind_appends : (k : Nat × Nat) → (l : List MEl) → (xs : List XD) → rtiMElList l →
    Appends (noCompactMElList l) xs (encFind k l xs).2
  | k, [], xs, _ => by simp only [encFind]; exact Appends.refl
  | k, .single (.mk key v) :: es, xs, h => by
    rcases find_single k key v es with ⟨hE, _⟩ | ⟨_, hE, _⟩ <;> rw [hE]
    · exact (encSt_appends v xs h.1.2.1).mono (·.1.2)
    · exact (encFind_appends k es xs h.2).mono (·.2)
  | k, .inl _ :: es, xs, h => (encFind_appends k es xs h.2).mono (·.2)
  | k, .ext _ :: es, xs, h => (encFind_appends k es xs h.2).mono (·.2)
theorem encSEl_appends : (e : SEl) → (xs : List XD) → e.RTI → Appends e.noCompact xs (encSEl e xs).2
  | .mk k v, xs, h => by
    simp only [encSEl]
    exact (encSt_appends k xs h.1).trans (encSt_appends v _ h.2.1) (·.1) (·.2)
theorem encMEl_appends : (e : MEl) → (xs : List XD) → e.RTI → Appends e.noCompact xs (encMEl e xs).2
  | .single e, xs, h => by simp only [encMEl]; exact encSEl_appends e xs h
  | .inl els, xs, h => by simp only [encMEl]; exact encMEls_appends els xs h
  | .ext _, xs, _ => by simp only [encMEl]; exact Appends.refl
theorem encMEls_appends : (els : MEls) → (xs : List XD) → els.RTI → Appends els.noCompact xs (encMEls els xs).2
  | .hkey _ _ es, xs, h => by simp only [encMEls]; exact encMElList_appends es xs h.2.2.2.2.1
  | .single _ es, xs, h => by simp only [encMEls]; exact encSElList_appends es xs h.2.2.2.1
theorem encMElList_appends : (l : List MEl) → (xs : List XD) → rtiMElList l →
    Appends (noCompactMElList l) xs (encMElList l xs).2
  | [], xs, _ => by simp only [encMElList]; exact Appends.refl
  | e :: es, xs, h => by
    simp only [encMElList]
    exact (encMEl_appends e xs h.1).trans (encMElList_appends es _ h.2) (·.1) (·.2)
theorem encSElList_appends : (l : List SEl) → (xs : List XD) → rtiSElList l →
    Appends (noCompactSElList l) xs (encSElList l xs).2
  | [], xs, _ => by simp only [encSElList]; exact Appends.refl
  | e :: es, xs, h => by
    simp only [encSElList]
    exact (encSEl_appends e xs h.1).trans (encSElList_appends es _ h.2) (·.1) (·.2)
end

theorem encVals_appends (elems : List MEl) (hes : rtiMElList elems) (ks : List (Nat × Nat)) (xs : List XD) :
    Appends False xs (encVals elems ks xs).2 :=
  encVals_appends_of elems (fun k xs' => (encFind_appends k elems xs' hes).mono False.elim) ks xs

theorem addArrayXD_ne_nil (xs : List XD) (ty : TyInfo) : (addArrayXD xs ty).2 ≠ [] := by
  unfold addArrayXD
  split
  · next i hf =>
    obtain ⟨_, y, hy, _⟩ := findIdxFrom_some _ xs 0 i hf
    exact fun h => by simp only at h; rw [h] at hy; simp at hy
  · simp

theorem addCompactXD_ne_nil (xs : List XD) (x : MapExtra) (hkeys : List Nat) (keys : List (Nat × Nat)) :
    (addCompactXD xs x hkeys keys).2.2 ≠ [] := by
  unfold addCompactXD
  split
  · next i hf =>
    obtain ⟨_, y, hy, _⟩ := findIdxFrom_some _ xs 0 i hf
    have hne : xs ≠ [] := fun h => by rw [h] at hy; simp at hy
    split <;> exact hne
  · simp

/-- an inlined array or map leaves its entry in the encoder's state -/
theorem encSt_ne_nil_of_inl : (s : Stor) → (xs : List XD) → s.RTI → ¬ s.noInl → (encSt s xs).2 ≠ []
  | .val _ _, _, _, hn => absurd trivial hn
  | .ref _, _, _, hn => absurd trivial hn
  | .some s, xs, h, hn => by simp only [encSt]; exact encSt_ne_nil_of_inl s xs h hn
  | .arr ty idx es, xs, h, _ => by
    simp only [encSt]
    exact (encSts_appends es _ h.2.2.2.1).toExt.ne_nil (addArrayXD_ne_nil xs ty)
  | .map x idx (.hkey level hkeys elems), xs, h, _ => by
    cases hc : compactKeys x elems with
    | none =>
      simp only [encSt, hc]
      exact (encMElList_appends elems _ h.2.2.1.2.2.2.2.1).toExt.ne_nil (by simp [addMapXD])
    | some keys =>
      rw [encSt_compact hc]
      exact (encVals_appends elems h.2.2.1.2.2.2.2.1 _ _).toExt.ne_nil (addCompactXD_ne_nil xs x hkeys keys)
  | .map x idx (.single level elems), xs, h, _ => by
    simp only [encSt]
    exact (encSElList_appends elems _ h.2.2.1.2.2.2.1).toExt.ne_nil (by simp [addMapXD])

theorem encSts_ne_nil_of_inl : (l : List Stor) → (xs : List XD) → rtiSts l → ¬ noInlSts l → (encSts l xs).2 ≠ []
  | [], _, _, hn => absurd trivial hn
  | s :: ss, xs, h, hn => by
    simp only [encSts]
    by_cases hs : s.noInl
    · exact encSts_ne_nil_of_inl ss _ h.2 fun h' => hn ⟨hs, h'⟩
    · exact (encSts_appends ss _ h.2).toExt.ne_nil (encSt_ne_nil_of_inl s xs h.1 hs)

end Atree.Codec

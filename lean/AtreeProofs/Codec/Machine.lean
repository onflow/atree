import AtreeProofs.Codec.CborLemmas
/-
  More about the successful runs of the validator machine (`Run`, CborLemmas.lean): a run over a stack
  `pre ++ base` is a run over `pre` followed by a run over `base`, runs over stacks of the same shape
  (depths aside) on the same input leave the same input — and therefore: skipping one validated item with
  a fresh validation (`DecodeRawBytes`) leaves the enclosing validation where it would have been.
-/
namespace Atree.Codec

theorem Run.split {pre base : List Frame} {data out : Bytes} (h : Run (pre ++ base) data out) :
    ∃ mid, Run pre data mid ∧ Run base mid out := by
  generalize hs : pre ++ base = stk at h
  induction h generalizing pre with
  | nil data =>
    obtain ⟨rfl, rfl⟩ := List.append_eq_nil_iff.1 hs
    exact ⟨data, .nil _, .nil _⟩
  | @step f stk top data r out hf h ih =>
    cases pre with
    | nil => rw [List.nil_append] at hs; subst hs; exact ⟨data, .nil _, .step hf h⟩
    | cons g p =>
      cases hs
      obtain ⟨mid, h1, h2⟩ := ih (pre := top ++ p) (List.append_assoc ..)
      exact ⟨mid, .step hf h1, h2⟩

/-- same kind of frame and same counters; the nesting depths may differ -/
def sameFrame : Frame → Frame → Prop
  | .items n _, .items m _ => n = m
  | .tag _, .tag _ => True
  | .indefArr i _, .indefArr j _ => i = j
  | .indefMap i _, .indefMap j _ => i = j
  | .indefStr t _, .indefStr u _ => t = u
  | _, _ => False

inductive SameShape : List Frame → List Frame → Prop where
  | nil : SameShape [] []
  | cons {f g : Frame} {a b : List Frame} : sameFrame f g → SameShape a b → SameShape (f :: a) (g :: b)

theorem SameShape.append {a b c d : List Frame} (h1 : SameShape a b) (h2 : SameShape c d) :
    SameShape (a ++ c) (b ++ d) := by
  induction h1 with
  | nil => exact h2
  | cons hf _ ih => exact SameShape.cons hf ih

theorem sameShape_pushItems (c d1 d2 : Nat) : SameShape (pushItems c d1 []) (pushItems c d2 []) := by
  cases c with
  | zero => exact SameShape.nil
  | succ n => exact SameShape.cons rfl SameShape.nil

/-- what an item head pushes has the same shape at every depth, after a tag number or not -/
theorem Head.frames_shape (h : Head) (d1 d2 : Nat) (t1 t2 : Bool) : SameShape (h.frames d1 t1) (h.frames d2 t2) := by
  unfold Head.frames
  by_cases c23 : h.t = 2 ∨ h.t = 3
  · rw [if_pos c23, if_pos c23]
    by_cases ci : h.ai = 31
    · rw [if_pos ci, if_pos ci]; exact .cons rfl .nil
    · rw [if_neg ci, if_neg ci]; exact .nil
  rw [if_neg c23, if_neg c23]
  by_cases c45 : h.t = 4 ∨ h.t = 5
  · rw [if_pos c45, if_pos c45]
    by_cases ci : h.ai = 31
    · rw [if_pos ci, if_pos ci]
      by_cases c4 : h.t = 4
      · rw [if_pos c4, if_pos c4]; exact .cons rfl .nil
      · rw [if_neg c4, if_neg c4]; exact .cons rfl .nil
    · rw [if_neg ci, if_neg ci]; exact sameShape_pushItems _ _ _
  rw [if_neg c45, if_neg c45]
  by_cases c6 : h.t = 6
  · rw [if_pos c6, if_pos c6]; exact .cons trivial .nil
  · rw [if_neg c6, if_neg c6]; exact .nil

theorem stepNew_shape {d1 d2 : Nat} {t1 t2 : Bool} {data r1 r2 : Bytes} {n1 n2 : List Frame}
    (h1 : stepNew d1 t1 data = some (n1, r1)) (h2 : stepNew d2 t2 data = some (n2, r2)) :
    r1 = r2 ∧ SameShape n1 n2 := by
  obtain ⟨hd, rest, hw1, rfl, rfl⟩ := wfItemStep_some h1
  obtain ⟨hd', rest', hw2, rfl, rfl⟩ := wfItemStep_some h2
  cases hw1.symm.trans hw2
  rw [List.append_nil, List.append_nil]
  exact ⟨rfl, hd.frames_shape ..⟩

/-- frames of the same shape go on alike -/
theorem sameFrame.step {f g : Frame} (h : sameFrame f g) :
    f.indef = g.indef ∧ (∀ b, f.refuses b = g.refuses b) ∧ SameShape f.next g.next := by
  cases f <;> cases g <;> first | exact h.elim | skip
  · cases h; exact ⟨rfl, fun _ => rfl, sameShape_pushItems _ _ _⟩
  · cases h; exact ⟨rfl, fun _ => rfl, .cons rfl .nil⟩
  · cases h; exact ⟨rfl, fun _ => rfl, .cons rfl .nil⟩
  · cases h; exact ⟨rfl, fun _ => rfl, .cons rfl .nil⟩
  · exact ⟨rfl, fun _ => rfl, .nil⟩

theorem frameStep_shape {f g : Frame} (hfg : sameFrame f g) {data r1 r2 : Bytes} {t1 t2 : List Frame}
    (h1 : frameStep f data = some (t1, r1)) (h2 : frameStep g data = some (t2, r2)) :
    r1 = r2 ∧ SameShape t1 t2 := by
  obtain ⟨hi, hr, hn⟩ := hfg.step
  cases data with
  | nil => cases h1
  | cons b rest =>
    simp only [frameStep, hi, hr b] at h1 h2
    split at h1
    · cases h1
    · rename_i c1
      rw [if_neg c1] at h2
      split at h1
      · rename_i c2
        rw [if_pos c2] at h2
        cases h1; cases h2; exact ⟨rfl, .nil⟩
      · rename_i c2
        rw [if_neg c2] at h2
        obtain ⟨p1, hp1, he1⟩ := Option.map_eq_some_iff.1 h1
        obtain ⟨p2, hp2, he2⟩ := Option.map_eq_some_iff.1 h2
        cases he1; cases he2
        obtain ⟨hr, hs⟩ := stepNew_shape hp1 hp2
        exact ⟨hr, hs.append hn⟩

theorem Run.sameShape {a b : List Frame} {data m1 m2 : Bytes} (hs : SameShape a b) (h1 : Run a data m1)
    (h2 : Run b data m2) : m1 = m2 := by
  induction h1 generalizing b m2 with
  | nil data => cases hs; cases h2; rfl
  | step hf1 _ ih =>
    cases hs with
    | cons hfg hab =>
      cases h2 with
      | step hf2 h2 =>
        obtain ⟨rfl, hsh⟩ := frameStep_shape hfg hf1 hf2
        exact ih (hsh.append hab) h2

/-- `DecodeRawBytes` inside a validated item: a fresh validation of the next item ends where the
    enclosing validation finishes that item -/
theorem Run.skip_item {f : Frame} (hf : ItemFrame f) {s : List Frame} {data out rest : Bytes}
    (h : Run (f :: s) data out) (hw : wfNext data = some rest) : Run (afterItem f s) rest out := by
  obtain ⟨n1, r1, hs1, h⟩ := h.item_step hf
  obtain ⟨mid, hm1, hm2⟩ := h.split
  obtain ⟨n2, r2, hs2, hw⟩ := (Run.of_wfRun hw).item_step (.items 0 0)
  obtain ⟨rfl, hsh⟩ := stepNew_shape hs1 hs2
  rw [afterItem, popItem, List.append_nil] at hw
  cases Run.sameShape hsh hm1 hw
  exact hm2

end Atree.Codec

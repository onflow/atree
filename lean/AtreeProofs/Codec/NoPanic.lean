import AtreeProofs.Codec.DM
import AtreeProofs.Codec.CborLemmas
/-
  `Safe` (no panic, allocation bound, post-condition) for every transcribed decoder function,
  bottom-up, ending with `safe_decodeSlabFlat`.  The bounds conditions of the slice expressions are
  discharged from the length checks the Go code makes first and from the CBOR library's contract
  (`DecInv`, `decodeArrayHead_new_bound`).
-/
namespace Atree.Codec
open DM Atree.Gen

/-- an element of the flat model: a slab reference has the size of `SlabIDStorable` -/
def ElemRefOK (e : Elem) : Prop := ∀ id, e.pay = .ref id → e.size = slabIDStorableSize

theorem elemRefOK_tvFromBytes (b : Bytes) (extra : Nat) : ElemRefOK (tvFromBytes b extra) := by
  intro id h
  simp [tvFromBytes] at h

/-- slab references of the flat model have the size Go's `SlabIDStorable.ByteSize()` returns -/
def Slab.refSizeOK : Slab → Prop
  | .storable _ e => ∀ id, e.pay = .ref id → e.size = slabIDStorableSize
  | _ => True

theorem safe_newHeadFromData (d : Bytes) : Safe (newHeadFromData d) 0 (fun _ => True) := by
  unfold newHeadFromData
  split
  · exact Safe.pure trivial
  · exact Safe.fail

theorem safe_headOf (data : Bytes) : Safe (headOf data) 0 (fun _ => True) := by
  unfold headOf
  apply Safe.ite
  · intro _; exact Safe.fail
  · intro h
    exact Safe.bind_le (Safe.sliceTo (Nat.le_of_not_lt h)) (fun _ _ => safe_newHeadFromData _) (Nat.le_refl _)

theorem safe_newSlabIDFromRawBytes (b : Bytes) : Safe (newSlabIDFromRawBytes b) 0 (fun _ => True) := by
  unfold newSlabIDFromRawBytes
  apply Safe.ite
  · intro _; exact Safe.fail
  · intro h
    have h8 : SlabAddressLength ≤ b.length := by
      simp only [SlabIDLength, SlabAddressLength] at *; omega
    exact Safe.bind_le (Safe.sliceFrom h8) (fun _ _ => Safe.pure trivial) (Nat.le_refl _)

theorem safe_decodeSlabIDStorable_refSize {t : Nat} {d : Dec} (hi : DecInv t d) :
    Safe (decodeSlabIDStorable d) 0 (fun r => DecInv t r.2 ∧ ElemRefOK r.1) := by
  unfold decodeSlabIDStorable
  refine Safe.bind0 (Safe.liftOpt _) ?_
  intro ⟨b, d'⟩ hb
  dsimp only
  refine Safe.bind0 (safe_newSlabIDFromRawBytes b) ?_
  intro id _
  exact Safe.pure ⟨decodeBytes_inv hi hb, fun _ _ => rfl⟩

theorem safe_decodeSlabIDStorable {t : Nat} {d : Dec} (hi : DecInv t d) :
    Safe (decodeSlabIDStorable d) 0 (fun r => DecInv t r.2) :=
  (safe_decodeSlabIDStorable_refSize hi).weaken (Nat.le_refl _) fun _ h => h.1

theorem safe_decodeElem {t : Nat} {d : Dec} (hi : DecInv t d) :
    Safe (decodeElem d) 0 (fun r => DecInv t r.2 ∧ ElemRefOK r.1) := by
  unfold decodeElem
  refine Safe.bind0 (Safe.liftOpt _) ?_
  intro ⟨ty, d1⟩ h1
  have hi1 := nextType_inv hi h1
  dsimp only
  split
  · refine Safe.bind0 (Safe.liftOpt _) ?_
    intro ⟨b, d2⟩ h2
    exact Safe.pure ⟨decodeBytes_inv hi1 h2, elemRefOK_tvFromBytes b 0⟩
  · refine Safe.bind0 (Safe.liftOpt _) ?_
    intro ⟨n, d2⟩ h2
    have hi2 := decodeHeadOf_inv hi1 h2
    dsimp only
    repeat' apply Safe.ite <;> intro _
    · exact Safe.fail
    · exact safe_decodeSlabIDStorable_refSize hi2
    · refine Safe.bind0 (Safe.liftOpt _) ?_
      intro ⟨b, d3⟩ h3
      exact Safe.pure ⟨decodeBytes_inv hi2 h3, elemRefOK_tvFromBytes b 2⟩
    · exact Safe.fail
    · exact Safe.fail
  · exact Safe.fail

theorem safe_decodeTypeInfo {t : Nat} {d : Dec} (hi : DecInv t d) :
    Safe (decodeTypeInfo d) 0 (fun r => DecInv t r.2) := by
  unfold decodeTypeInfo
  refine Safe.bind0 (Safe.liftOpt _) ?_
  intro ⟨ty, d1⟩ h1
  have hi1 := nextType_inv hi h1
  dsimp only
  apply Safe.ite <;> intro _
  · refine Safe.bind0 (Safe.liftOpt _) ?_
    intro ⟨n, d2⟩ h2
    have hi2 := decodeHeadOf_inv hi1 h2
    dsimp only
    apply Safe.ite <;> intro _
    · exact Safe.fail
    · refine Safe.bind0 (Safe.liftOpt _) ?_
      intro ⟨v, d3⟩ h3
      exact Safe.pure (decodeHeadOf_inv hi2 h3)
  · refine Safe.bind0 (Safe.liftOpt _) ?_
    intro ⟨v, d3⟩ h3
    exact Safe.pure (decodeHeadOf_inv hi1 h3)

theorem safe_newArrayExtraData {t : Nat} {d : Dec} (hi : DecInv t d) :
    Safe (newArrayExtraData d) 0 (fun r => DecInv t r.2) := by
  unfold newArrayExtraData
  refine Safe.bind0 (Safe.liftOpt _) ?_
  intro ⟨n, d1⟩ h1
  have hi1 := decodeHeadOf_inv hi h1
  dsimp only
  apply Safe.ite <;> intro _
  · exact Safe.fail
  · exact safe_decodeTypeInfo hi1

theorem safe_newArrayExtraDataFromData (data : Bytes) :
    Safe (newArrayExtraDataFromData data) 0 (fun r => r.2.length ≤ data.length) := by
  unfold newArrayExtraDataFromData
  refine Safe.bind0 (safe_newArrayExtraData (DecInv.new data)) ?_
  intro ⟨ty, d⟩ hd
  dsimp only at hd ⊢
  refine Safe.bind0 (Safe.sliceFrom hd.consumed_le) ?_
  intro rest hr
  refine Safe.pure ?_
  subst hr
  simp only [List.length_drop]; omega

theorem safe_decodeElems {t : Nat} : ∀ (n : Nat) (d : Dec) (size : Nat), DecInv t d →
    Safe (decodeElems n d size) 0 (fun r => DecInv t r.2.2) := by
  intro n
  induction n with
  | zero => intro d size hi; unfold decodeElems; exact Safe.pure hi
  | succ n ih =>
    intro d size hi
    unfold decodeElems
    refine Safe.bind0 (safe_decodeElem hi) ?_
    intro ⟨e, d1⟩ h1
    dsimp only at h1 ⊢
    apply Safe.ite <;> intro _
    · exact Safe.fail
    · refine Safe.bind0 (ih d1 _ h1.1) ?_
      intro ⟨es, sz, d2⟩ h2
      exact Safe.pure h2

theorem safe_decodeDataContent (id : SlabID) (isRoot : Bool) (ty : Option TyInfo) (next : SlabID)
    (checkEOF : Bool) (data : Bytes) :
    Safe (decodeDataContent id isRoot ty next checkEOF data) data.length Slab.refSizeOK := by
  unfold decodeDataContent
  apply Safe.ite <;> intro _
  · exact Safe.weaken Safe.fail (Nat.zero_le _) (fun _ h => h)
  · refine Safe.bind0 (Safe.liftOpt _) ?_
    intro ⟨n, d1⟩ h1
    have hb := decodeArrayHead_new_bound h1
    have hi1 : DecInv data.length d1 := decodeHeadOf_inv (DecInv.new data) h1
    dsimp only
    apply Safe.ite <;> intro _
    · exact Safe.weaken Safe.fail (Nat.zero_le _) (fun _ h => h)
    · refine Safe.bind_le (Safe.alloc n) ?_ (k2 := 0) (by omega)
      intro _ _
      refine Safe.bind0 (safe_decodeElems n d1 _ hi1) ?_
      intro r _
      unfold finishData
      apply Safe.ite <;> intro _
      · exact Safe.fail
      · exact Safe.pure trivial

theorem safe_failK {α : Type} {e : DErr} {k : Nat} {P : α → Prop} : Safe (DM.fail e : DM α) k P :=
  Safe.weaken Safe.fail (Nat.zero_le _) (fun _ h => h)

theorem safe_newArrayDataSlabFromDataV0 (id : SlabID) (h : SlabHead) (data : Bytes) :
    Safe (newArrayDataSlabFromDataV0 id h data) data.length Slab.refSizeOK := by
  unfold newArrayDataSlabFromDataV0
  apply Safe.ite <;> intro _
  · refine Safe.bind0 (safe_newArrayExtraDataFromData data) ?_
    intro ⟨ty, rest⟩ hr
    dsimp only at hr ⊢
    apply Safe.ite <;> intro hlen
    · exact safe_failK
    · refine Safe.bind0 (Safe.sliceFrom (Nat.le_of_not_lt hlen)) ?_
      intro rest2 h2
      refine Safe.weaken (safe_decodeDataContent _ _ _ _ _ _) ?_ (fun _ h => h)
      subst h2; simp only [List.length_drop]; omega
  · apply Safe.ite <;> intro hlen
    · exact safe_failK
    · refine Safe.bind0 (safe_newSlabIDFromRawBytes data) ?_
      intro next _
      refine Safe.bind0 (Safe.sliceFrom (Nat.le_of_not_lt hlen)) ?_
      intro rest2 h2
      refine Safe.weaken (safe_decodeDataContent _ _ _ _ _ _) ?_ (fun _ h => h)
      subst h2; simp only [List.length_drop]; omega

theorem safe_dataV1AfterExtra (id : SlabID) (h : SlabHead) (ty : Option TyInfo) (data : Bytes) :
    Safe (dataV1AfterExtra id h ty data) data.length Slab.refSizeOK := by
  unfold dataV1AfterExtra
  apply Safe.ite <;> intro _
  · exact safe_failK
  · apply Safe.ite <;> intro _
    · -- `NewSlabIDFromRawBytes` has checked `len(data) >= SlabIDLength` before `data[SlabIDLength:]`
      unfold newSlabIDFromRawBytes
      by_cases hlen : data.length < SlabIDLength
      · rw [if_pos hlen]
        refine Safe.bind0 (P := fun _ => False) safe_failK ?_
        intro _ hf; exact hf.elim
      · rw [if_neg hlen]
        have h8 : SlabAddressLength ≤ data.length := by
          simp only [SlabIDLength, SlabAddressLength] at *; omega
        refine Safe.bind0 (Safe.bind0 (Safe.sliceFrom h8) (fun _ _ => Safe.pure (P := fun _ => True) trivial)) ?_
        intro next _
        refine Safe.bind0 (Safe.sliceFrom (Nat.le_of_not_lt hlen)) ?_
        intro rest2 h2
        refine Safe.weaken (safe_decodeDataContent _ _ _ _ _ _) ?_ (fun _ h => h)
        subst h2; simp only [List.length_drop]; omega
    · exact safe_decodeDataContent _ _ _ _ _ _

theorem safe_newArrayDataSlabFromDataV1 (id : SlabID) (h : SlabHead) (data : Bytes) :
    Safe (newArrayDataSlabFromDataV1 id h data) data.length Slab.refSizeOK := by
  unfold newArrayDataSlabFromDataV1
  apply Safe.ite <;> intro _
  · refine Safe.bind0 (safe_newArrayExtraDataFromData data) ?_
    intro ⟨ty, rest⟩ hr
    dsimp only at hr ⊢
    exact Safe.weaken (safe_dataV1AfterExtra _ _ _ _) hr (fun _ h => h)
  · exact safe_dataV1AfterExtra _ _ _ _

theorem safe_newArrayDataSlabFromData (id : SlabID) (data : Bytes) :
    Safe (newArrayDataSlabFromData id data) data.length Slab.refSizeOK := by
  unfold newArrayDataSlabFromData
  apply Safe.ite <;> intro hlen
  · exact safe_failK
  · refine Safe.bind0 (Safe.sliceTo (Nat.le_of_not_lt hlen)) ?_
    intro hb _
    refine Safe.bind0 (safe_newHeadFromData hb) ?_
    intro h _
    apply Safe.ite <;> intro _
    · exact safe_failK
    · refine Safe.bind0 (Safe.sliceFrom (Nat.le_of_not_lt hlen)) ?_
      intro rest hr
      have hle : rest.length ≤ data.length := by subst hr; simp only [List.length_drop]; omega
      apply Safe.ite <;> intro _
      · exact Safe.weaken (safe_newArrayDataSlabFromDataV0 _ _ _) hle (fun _ h => h)
      · apply Safe.ite <;> intro _
        · exact Safe.weaken (safe_newArrayDataSlabFromDataV1 _ _ _) hle (fun _ h => h)
        · exact safe_failK

theorem safe_metaLoopV0 (data : Bytes) : ∀ (n offset total : Nat),
    offset + newArrayMetaDataSlabFromDataV0_arraySlabHeaderSizeV0 * n ≤ data.length →
    Safe (metaLoopV0 data n offset total) 0 (fun _ => True) := by
  intro n
  induction n with
  | zero => intro offset total _; unfold metaLoopV0; exact Safe.pure trivial
  | succ n ih =>
    intro offset total hb
    simp only [newArrayMetaDataSlabFromDataV0_arraySlabHeaderSizeV0] at hb
    unfold metaLoopV0
    refine Safe.bind0 (Safe.sliceFrom (by omega)) ?_
    intro b _
    refine Safe.bind0 (safe_newSlabIDFromRawBytes b) ?_
    intro sid _
    refine Safe.field Safe.be32 (by simp only [SlabIDLength]; omega) fun count => ?_
    refine Safe.field Safe.be32 (by simp only [SlabIDLength]; omega) fun size => ?_
    apply Safe.ite <;> intro _
    · exact Safe.fail
    · refine Safe.bind0 (ih _ _ (by simp only [newArrayMetaDataSlabFromDataV0_arraySlabHeaderSizeV0]; omega)) ?_
      intro ⟨hs, sums⟩ _
      exact Safe.pure trivial

theorem safe_metaLoopV1 (data : Bytes) (addr : Nat) : ∀ (n offset total : Nat),
    offset + arraySlabHeaderSize * n ≤ data.length →
    Safe (metaLoopV1 data addr n offset total) 0 (fun _ => True) := by
  intro n
  induction n with
  | zero => intro offset total _; unfold metaLoopV1; exact Safe.pure trivial
  | succ n ih =>
    intro offset total hb
    simp only [arraySlabHeaderSize] at hb
    unfold metaLoopV1
    refine Safe.bind0 (Safe.sliceFrom (by omega)) ?_
    intro ib _
    refine Safe.field Safe.be32 (by simp only [SlabIndexLength]; omega) fun count => ?_
    refine Safe.field Safe.be16 (by simp only [SlabIndexLength]; omega) fun size => ?_
    apply Safe.ite <;> intro _
    · exact Safe.fail
    · refine Safe.bind0 (ih _ _ (by simp only [arraySlabHeaderSize, SlabIndexLength]; omega)) ?_
      intro ⟨hs, sums⟩ _
      exact Safe.pure trivial

theorem safe_metaV0AfterExtra (id : SlabID) (ty : Option TyInfo) (data : Bytes) :
    Safe (metaV0AfterExtra id ty data) data.length Slab.refSizeOK := by
  unfold metaV0AfterExtra
  apply Safe.ite <;> intro hlen
  · exact safe_failK
  · simp only [newArrayMetaDataSlabFromDataV0_arrayMetaDataArrayHeadSizeV0] at hlen
    refine Safe.bind0 (Safe.be16 (by omega)) ?_
    intro cnt _
    refine Safe.bind0 (Safe.sliceFrom (by simp only [newArrayMetaDataSlabFromDataV0_arrayMetaDataArrayHeadSizeV0]; omega)) ?_
    intro rest hr
    apply Safe.ite <;> intro hne
    · exact safe_failK
    · have heq : rest.length = newArrayMetaDataSlabFromDataV0_arraySlabHeaderSizeV0 * cnt := by
        simpa using hne
      have hrl : rest.length ≤ data.length := by subst hr; simp only [List.length_drop]; omega
      have h24 : 2 * cnt ≤ data.length := by
        simp only [newArrayMetaDataSlabFromDataV0_arraySlabHeaderSizeV0] at heq; omega
      refine Safe.bind_le (Safe.alloc cnt) (k2 := cnt) ?_ (by omega)
      intro _ _
      refine Safe.bind_le (Safe.alloc cnt) (k2 := 0) ?_ (by omega)
      intro _ _
      refine Safe.bind0 (safe_metaLoopV0 rest cnt 0 0 (by omega)) ?_
      intro ⟨hs, sums⟩ _
      exact Safe.pure trivial

theorem safe_newArrayMetaDataSlabFromDataV0 (id : SlabID) (h : SlabHead) (data : Bytes) :
    Safe (newArrayMetaDataSlabFromDataV0 id h data) data.length Slab.refSizeOK := by
  unfold newArrayMetaDataSlabFromDataV0
  apply Safe.ite <;> intro _
  · refine Safe.bind0 (safe_newArrayExtraDataFromData data) ?_
    intro ⟨ty, rest⟩ hr
    dsimp only at hr ⊢
    apply Safe.ite <;> intro hlen
    · exact safe_failK
    · refine Safe.bind0 (Safe.sliceFrom (Nat.le_of_not_lt hlen)) ?_
      intro rest2 h2
      refine Safe.weaken (safe_metaV0AfterExtra _ _ _) ?_ (fun _ h => h)
      subst h2; simp only [List.length_drop]; omega
  · exact safe_metaV0AfterExtra _ _ _

theorem safe_metaV1AfterExtra (id : SlabID) (ty : Option TyInfo) (data : Bytes) :
    Safe (metaV1AfterExtra id ty data) data.length Slab.refSizeOK := by
  unfold metaV1AfterExtra
  apply Safe.ite <;> intro hlen
  · exact safe_failK
  · simp only [arrayMetaDataSlabPrefixSize, versionAndFlagSize] at hlen
    refine Safe.bind0 (Safe.sliceFrom (Nat.zero_le _)) ?_
    intro ab _
    refine Safe.field Safe.be16 (by simp only [SlabAddressLength]; omega) fun cnt => ?_
    refine Safe.bind0 (Safe.sliceFrom (by
      simp only [SlabAddressLength, newArrayMetaDataSlabFromDataV1_arrayHeaderSize]; omega)) ?_
    intro tail ht
    apply Safe.ite <;> intro hne
    · exact safe_failK
    · have heq : tail.length = arraySlabHeaderSize * cnt := by simpa using hne
      have htl : tail.length + 10 = data.length := by
        subst ht
        simp only [List.length_drop, SlabAddressLength, newArrayMetaDataSlabFromDataV1_arrayHeaderSize]
        omega
      have h14 : 2 * cnt ≤ data.length := by
        simp only [arraySlabHeaderSize] at heq; omega
      refine Safe.bind_le (Safe.alloc cnt) (k2 := cnt) ?_ (by omega)
      intro _ _
      refine Safe.bind_le (Safe.alloc cnt) (k2 := 0) ?_ (by omega)
      intro _ _
      refine Safe.bind0 (safe_metaLoopV1 data _ cnt _ 0 (by
        simp only [SlabAddressLength, newArrayMetaDataSlabFromDataV1_arrayHeaderSize]; omega)) ?_
      intro ⟨hs, sums⟩ _
      exact Safe.pure trivial

theorem safe_newArrayMetaDataSlabFromDataV1 (id : SlabID) (h : SlabHead) (data : Bytes) :
    Safe (newArrayMetaDataSlabFromDataV1 id h data) data.length Slab.refSizeOK := by
  unfold newArrayMetaDataSlabFromDataV1
  apply Safe.ite <;> intro _
  · refine Safe.bind0 (safe_newArrayExtraDataFromData data) ?_
    intro ⟨ty, rest⟩ hr
    dsimp only at hr ⊢
    exact Safe.weaken (safe_metaV1AfterExtra _ _ _) hr (fun _ h => h)
  · exact safe_metaV1AfterExtra _ _ _

theorem safe_newArrayMetaDataSlabFromData_refSize (id : SlabID) (data : Bytes) :
    Safe (newArrayMetaDataSlabFromData id data) data.length Slab.refSizeOK := by
  unfold newArrayMetaDataSlabFromData
  apply Safe.ite <;> intro hlen
  · exact safe_failK
  · refine Safe.bind0 (Safe.sliceTo (Nat.le_of_not_lt hlen)) ?_
    intro hb _
    refine Safe.bind0 (safe_newHeadFromData hb) ?_
    intro h _
    apply Safe.ite <;> intro _
    · exact safe_failK
    · refine Safe.bind0 (Safe.sliceFrom (Nat.le_of_not_lt hlen)) ?_
      intro rest hr
      have hle : rest.length ≤ data.length := by subst hr; simp only [List.length_drop]; omega
      apply Safe.ite <;> intro _
      · exact Safe.weaken (safe_newArrayMetaDataSlabFromDataV0 _ _ _) hle (fun _ h => h)
      · apply Safe.ite <;> intro _
        · exact Safe.weaken (safe_newArrayMetaDataSlabFromDataV1 _ _ _) hle (fun _ h => h)
        · exact safe_failK

/-- The first part of `DecodeSlab` never panics and allocates at most one slice element per input byte (for the
    whole decoder the constant is two: `decodeSlab_alloc_le`, BudgetSlab.lean). -/
theorem safe_decodeSlabFlat_refSize (id : SlabID) (data : Bytes) :
    Safe (decodeSlabFlat id data) data.length Slab.refSizeOK := by
  unfold decodeSlabFlat
  apply Safe.ite <;> intro hlen
  · exact safe_failK
  · refine Safe.bind0 (Safe.sliceTo (Nat.le_of_not_lt hlen)) ?_
    intro hb _
    refine Safe.bind0 (safe_newHeadFromData hb) ?_
    intro h _
    split
    · split
      · exact safe_newArrayDataSlabFromData id data
      · exact safe_newArrayMetaDataSlabFromData_refSize id data
      · exact safe_failK
    · exact safe_failK
    · refine Safe.bind0 (Safe.sliceFrom (Nat.le_of_not_lt hlen)) ?_
      intro rest _
      refine Safe.bind0 (safe_decodeElem (DecInv.new rest)) ?_
      intro ⟨e, d⟩ he
      exact Safe.weaken (Safe.pure he.2) (Nat.zero_le _) (fun _ h => h)
    · exact safe_failK

theorem safe_newArrayMetaDataSlabFromData (id : SlabID) (data : Bytes) :
    Safe (newArrayMetaDataSlabFromData id data) data.length (fun _ => True) :=
  (safe_newArrayMetaDataSlabFromData_refSize id data).weaken (Nat.le_refl _) fun _ _ => trivial

theorem safe_decodeSlabFlat (id : SlabID) (data : Bytes) :
    Safe (decodeSlabFlat id data) data.length (fun _ => True) :=
  (safe_decodeSlabFlat_refSize id data).weaken (Nat.le_refl _) fun _ _ => trivial

end Atree.Codec

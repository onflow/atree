import AtreeProofs.Codec.DecodersSpec
import AtreeProofs.Codec.FuelSchedule
/-
  The SECOND part of the decoder (`decodeSlabGen`: general storables, map slabs, inlined slabs, the
  inlined-extra-data section): one specification per function, in the triple of `Triple.lean`.
  Each says that the function does not panic, what is known of a value it returns (the bookkeeping
  invariant of the stream decoder, well-formed extra-data entries `XDWf`, `Slab.refSizeOK`), and,
  for the functions that hand a fuel down, that two sufficient fuels cannot be told apart.  The
  callers of the mutually recursive decoders are specified in their form with a fuel schedule
  (`FuelSchedule.lean`), of which the model's functions are the instance `fun L => L + 1`.
  The allocation bound of the second part is proved separately, in the `Budget*` files — except for
  the functions that never touch a stream decoder (the type-info helpers, the raw-byte part of map
  index slabs): those are specified with `Safe`, as in the first part, which says both.
-/
namespace Atree.Codec
open DM Atree.Gen

section
variable {c : Prop}

theorem tri_decodeTypeInfo {t : Nat} {d : Dec} (hi : DecInv t d) :
    Tri₁ c (decodeTypeInfo d) (fun r => DecInv t r.2) := Tri.of_safe (safe_decodeTypeInfo hi)

/-! The type-info helpers read raw bytes only and do not allocate: `Safe` within a budget of 0 says both. -/

theorem safe_typeInfoAsIs (raw : Bytes) : Safe (typeInfoAsIs raw) 0 (fun _ => True) := by
  unfold typeInfoAsIs
  refine Safe.bind0 (safe_decodeTypeInfo (DecInv.new raw)) ?_
  intro ⟨ty, _⟩ _
  exact Safe.pure trivial

theorem safe_typeInfoByRef (tis : List TyInfo) (raw : Bytes) (hl : 2 < raw.length) :
    Safe (typeInfoByRef tis raw) 0 (fun _ => True) := by
  unfold typeInfoByRef
  refine Safe.bind0 (Safe.sliceFrom (by omega)) ?_
  intro r _
  refine Safe.bind0 (Safe.liftOpt _) ?_
  intro index _
  apply Safe.ite <;> intro hge
  · exact Safe.fail
  · have : index < tis.length := by omega
    rw [List.getElem?_eq_getElem this]
    exact Safe.pure trivial

theorem safe_typeInfoOfRaw (tis : List TyInfo) (raw : Bytes) : Safe (typeInfoOfRaw tis raw) 0 (fun _ => True) := by
  unfold typeInfoOfRaw
  apply Safe.ite <;> intro hl
  · refine Safe.bind0 (Safe.sliceTo (by omega)) ?_
    intro p _
    apply Safe.ite <;> intro _
    · exact safe_typeInfoByRef tis raw hl
    · exact safe_typeInfoAsIs raw
  · exact safe_typeInfoAsIs raw

theorem tri_decodeTypeInfoRef {t : Nat} (tis : List TyInfo) {d : Dec} (hi : DecInv t d) :
    Tri₁ c (decodeTypeInfoRef tis d) (fun r => DecInv t r.2) := by
  unfold decodeTypeInfoRef
  apply Tri.ite <;> intro _
  · exact tri_decodeTypeInfo hi
  · refine Tri.rawBytes hi fun raw d1 h1 => ?_
    dsimp only
    refine Tri.bind (Tri.of_safe (safe_typeInfoOfRaw tis raw)) ?_
    intro ty _
    exact Tri.pure h1.1

theorem tri_newMapExtraData {t : Nat} (tis : List TyInfo) {d : Dec} (hi : DecInv t d) :
    Tri₁ c (newMapExtraData tis d) (fun r => DecInv t r.2) := by
  unfold newMapExtraData
  refine Tri.head hi fun n d1 h1 => ?_
  have hi1 := h1.1
  dsimp only
  apply Tri.ite <;> intro _
  · exact Tri.fail
  · refine Tri.bind (tri_decodeTypeInfoRef tis hi1) ?_
    intro ⟨ty, d2⟩ hi2
    dsimp only at hi2 ⊢
    refine Tri.head hi2 fun c d3 h3 => ?_
    have hi3 := h3.1
    dsimp only
    exact Tri.head hi3 fun sd d4 h4 => Tri.pure h4.1

theorem tri_newMapExtraDataFromData (data : Bytes) :
    Tri₁ c (newMapExtraDataFromData data) (fun r => r.2.length ≤ data.length) := by
  unfold newMapExtraDataFromData
  refine Tri.bind (tri_newMapExtraData [] (DecInv.new data)) ?_
  intro ⟨x, d⟩ hd
  dsimp only at hd ⊢
  refine Tri.bind (Tri.of_safe (Safe.sliceFrom hd.consumed_le)) ?_
  intro rest hr
  refine Tri.pure ?_
  subst hr
  simp only [List.length_drop]; omega

theorem tri_newArrayExtraDataRef {t : Nat} (tis : List TyInfo) {d : Dec} (hi : DecInv t d) :
    Tri₁ c (newArrayExtraDataRef tis d) (fun r => DecInv t r.2) := by
  unfold newArrayExtraDataRef
  refine Tri.head hi fun n d1 h1 => ?_
  have hi1 := h1.1
  dsimp only
  apply Tri.ite <;> intro _
  · exact Tri.fail
  · exact tri_decodeTypeInfoRef tis hi1

/-- compact-map entries as `newCompactMapExtraData` builds them: one digest per key -/
def XDWf1 : XD → Prop
  | .cmap _ hkeys keys => hkeys.length = keys.length
  | _ => True

def XDWf (xs : List XD) : Prop := ∀ x ∈ xs, XDWf1 x

theorem xdwf_nil : XDWf [] := fun _ h => absurd h List.not_mem_nil

theorem digestsOf_length : ∀ (n : Nat) (b : Bytes), (digestsOf n b).length = n
  | 0, _ => rfl
  | n + 1, b => by simp [digestsOf, digestsOf_length n]

end

/-! The decoders of the inlined-extra-data section that take a fuel: on a decoder over an input of
    `t` bytes, run with two fuels.  No panic, the entries are well formed, and two fuels above `t`
    cannot be told apart. -/

section
variable {t f1 f2 : Nat}

theorem tri_decCompactKeys : ∀ (n : Nat) (d : Dec), DecInv t d →
    Tri (t + 1 ≤ f1 ∧ t + 1 ≤ f2) (decCompactKeys f1 n d) (decCompactKeys f2 n d)
      (fun r => DecInv t r.2 ∧ r.1.length = n) := by
  intro n
  induction n with
  | zero => intro d hi; unfold decCompactKeys; exact Tri.pure ⟨hi, rfl⟩
  | succ n ih =>
    intro d hi
    unfold decCompactKeys
    refine Tri.bind ((tri_decStG_fuels 0 0 [] hi).cond fun h => ⟨Nat.le_trans (Nat.succ_le_succ hi.len_le) h.1, Nat.le_trans (Nat.succ_le_succ hi.len_le) h.2⟩) ?_
    intro ⟨k, d1⟩ h1
    dsimp only at h1 ⊢
    split
    · refine Tri.bind (ih _ h1.1) ?_
      intro ⟨ks, d2⟩ h2
      exact Tri.pure ⟨h2.1, congrArg Nat.succ h2.2⟩
    · exact Tri.fail

theorem tri_newCompactMapExtraData (tis : List TyInfo) {d : Dec} (hi : DecInv t d) :
    Tri (t + 1 ≤ f1 ∧ t + 1 ≤ f2) (newCompactMapExtraData f1 tis d) (newCompactMapExtraData f2 tis d)
      (fun r => DecInv t r.2 ∧ XDWf1 r.1) := by
  unfold newCompactMapExtraData
  refine Tri.head hi fun n d1 h1 => ?_
  dsimp only
  apply Tri.ite <;> intro _
  · exact Tri.fail
  · refine Tri.bind (tri_newMapExtraData tis h1.1) ?_
    intro ⟨x, d2⟩ hi2
    dsimp only at hi2 ⊢
    refine Tri.bytes hi2 fun db d3 h3 => ?_
    dsimp only
    apply Tri.ite <;> intro _
    · exact Tri.fail
    · apply Tri.ite <;> intro _
      · exact Tri.fail
      · refine Tri.head h3.1 fun kc d4 h4 => ?_
        dsimp only
        apply Tri.ite <;> intro hk
        · exact Tri.fail
        · refine Tri.alloc (Tri.alloc ?_)
          refine Tri.bind (tri_decCompactKeys _ _ h4.1) ?_
          intro ⟨keys, d5⟩ h5
          refine Tri.pure ⟨h5.1, ?_⟩
          have hk2 : keys.length = kc := h5.2
          simp only [XDWf1, digestsOf_length]
          omega

theorem tri_decXD (tis : List TyInfo) {d : Dec} (hi : DecInv t d) :
    Tri (t + 1 ≤ f1 ∧ t + 1 ≤ f2) (decXD f1 tis d) (decXD f2 tis d)
      (fun r => DecInv t r.2 ∧ XDWf1 r.1) := by
  unfold decXD
  refine Tri.head hi fun tg d1 h1 => ?_
  dsimp only
  apply Tri.ite <;> intro _
  · refine Tri.bind (tri_newArrayExtraDataRef tis h1.1) ?_
    intro ⟨ty, d2⟩ h2
    exact Tri.pure ⟨h2, trivial⟩
  · apply Tri.ite <;> intro _
    · refine Tri.bind (tri_newMapExtraData tis h1.1) ?_
      intro ⟨mx, d2⟩ h2
      exact Tri.pure ⟨h2, trivial⟩
    · apply Tri.ite <;> intro _
      · exact tri_newCompactMapExtraData tis h1.1
      · exact Tri.fail

theorem tri_decXDs (tis : List TyInfo) : ∀ (n : Nat) (d : Dec), DecInv t d →
    Tri (t + 1 ≤ f1 ∧ t + 1 ≤ f2) (decXDs f1 tis n d) (decXDs f2 tis n d)
      (fun r => DecInv t r.2 ∧ XDWf r.1) := by
  intro n
  induction n with
  | zero => intro d hi; unfold decXDs; exact Tri.pure ⟨hi, xdwf_nil⟩
  | succ n ih =>
    intro d hi
    unfold decXDs
    refine Tri.bind (tri_decXD tis hi) ?_
    intro ⟨x, d2⟩ h2
    dsimp only at h2 ⊢
    refine Tri.bind (ih _ h2.1) ?_
    intro ⟨rest, d3⟩ h3
    refine Tri.pure ⟨h3.1, ?_⟩
    have hxs := h3.2
    intro y hy
    simp only [List.mem_cons] at hy
    rcases hy with rfl | hy
    · exact h2.2
    · exact hxs y hy

end

/-- both fuel schedules give every caller enough fuel -/
def Sched (φ₁ φ₂ : Nat → Nat) : Prop := ∀ L, L + 1 ≤ φ₁ L ∧ L + 1 ≤ φ₂ L

section
variable {c : Prop} {φ₁ φ₂ : Nat → Nat}

theorem tri_decTypeInfos {t : Nat} : ∀ (n : Nat) (d : Dec), DecInv t d →
    Tri₁ c (decTypeInfos n d) (fun r => DecInv t r.2) := by
  intro n
  induction n with
  | zero => intro d hi; unfold decTypeInfos; exact Tri.pure hi
  | succ n ih =>
    intro d hi
    unfold decTypeInfos
    refine Tri.bind (tri_decodeTypeInfo hi) ?_
    intro ⟨ty, d1⟩ h1
    dsimp only at h1 ⊢
    refine Tri.bind (ih _ h1) ?_
    intro ⟨ts, d2⟩ h2
    exact Tri.pure h2

theorem tri_newInlinedExtraDataFromDataF (data : Bytes) :
    Tri (Sched φ₁ φ₂) (newInlinedExtraDataFromDataF φ₁ data) (newInlinedExtraDataFromDataF φ₂ data)
      (fun r => r.2.length ≤ data.length ∧ XDWf r.1) := by
  unfold newInlinedExtraDataFromDataF
  dsimp only
  refine Tri.head (DecInv.new data) fun cnt d1 h1 => ?_
  dsimp only
  apply Tri.ite <;> intro _
  · exact Tri.fail
  · refine Tri.head h1.1 fun tc d2 h2 => ?_
    dsimp only
    apply Tri.ite <;> intro _
    · exact Tri.fail
    · refine Tri.alloc ?_
      refine Tri.bind (tri_decTypeInfos _ _ h2.1) ?_
      intro ⟨tis, d3⟩ hi3
      dsimp only at hi3 ⊢
      refine Tri.head hi3 fun xc d4 h4 => ?_
      dsimp only
      apply Tri.ite <;> intro _
      · exact Tri.fail
      · apply Tri.ite <;> intro _
        · exact Tri.fail
        · refine Tri.alloc ?_
          refine Tri.bind ((tri_decXDs tis _ _ h4.1).cond fun h => h data.length) ?_
          intro ⟨xs, d5⟩ h5
          dsimp only at h5 ⊢
          refine Tri.bind (Tri.of_safe (Safe.sliceFrom h5.1.consumed_le)) ?_
          intro rest hr
          refine Tri.pure ⟨?_, h5.2⟩
          subst hr
          simp only [List.length_drop]; omega

theorem tri_newInlinedExtraDataFromData (data : Bytes) :
    Tri₁ c (newInlinedExtraDataFromData data) (fun r => r.2.length ≤ data.length ∧ XDWf r.1) :=
  (tri_newInlinedExtraDataFromDataF (φ₁ := fun L => L + 1) (φ₂ := fun L => L + 1) data).right

theorem tri_mapDataContentF (id : SlabID) (h : SlabHead) (extra : Option MapExtra) (next : SlabID)
    (xs : List XD) (data : Bytes) :
    Tri (Sched φ₁ φ₂) (mapDataContentF φ₁ id h extra next xs data) (mapDataContentF φ₂ id h extra next xs data)
      Slab.refSizeOK := by
  unfold mapDataContentF
  refine Tri.bind ((tri_decMElsG_fuels _ _ _ (DecInv.new data)).cond fun h => h data.length) ?_
  intro ⟨els, d⟩ _
  dsimp only
  apply Tri.ite <;> intro _
  · exact Tri.fail
  · apply Tri.ite <;> intro _
    · exact Tri.fail
    · exact Tri.pure trivial

theorem tri_nextThen {α : Type} {P : α → Prop} (data : Bytes) (f₁ f₂ : SlabID → Bytes → DM α)
    (hf : ∀ next rest, Tri c (f₁ next rest) (f₂ next rest) P) (hlen : ¬ data.length < SlabIDLength) :
    Tri c (do let next ← newSlabIDFromRawBytes data; let rest ← sliceFrom data SlabIDLength; f₁ next rest)
      (do let next ← newSlabIDFromRawBytes data; let rest ← sliceFrom data SlabIDLength; f₂ next rest) P := by
  refine Tri.bind (Tri.of_safe (safe_newSlabIDFromRawBytes data)) ?_
  intro next _
  refine Tri.bind (Tri.of_safe (Safe.sliceFrom (Nat.le_of_not_lt hlen))) ?_
  intro rest _
  exact hf next rest

theorem tri_newMapDataSlabFromDataV0F (id : SlabID) (h : SlabHead) (data : Bytes) :
    Tri (Sched φ₁ φ₂) (newMapDataSlabFromDataV0F φ₁ id h data) (newMapDataSlabFromDataV0F φ₂ id h data)
      Slab.refSizeOK := by
  unfold newMapDataSlabFromDataV0F
  apply Tri.ite <;> intro _
  · refine Tri.bind (tri_newMapExtraDataFromData data) ?_
    intro ⟨x, rest⟩ _
    dsimp only
    apply Tri.ite <;> intro hlen
    · exact Tri.fail
    · refine Tri.bind (Tri.of_safe (Safe.sliceFrom (Nat.le_of_not_lt hlen))) ?_
      intro rest2 _
      exact tri_mapDataContentF _ _ _ _ _ _
  · apply Tri.ite <;> intro hlen
    · exact Tri.fail
    · exact tri_nextThen data _ _ (fun _ _ => tri_mapDataContentF _ _ _ _ _ _) hlen

theorem tri_mapDataV1AfterIEDF (id : SlabID) (h : SlabHead) (extra : Option MapExtra) (xs : List XD) (data : Bytes) :
    Tri (Sched φ₁ φ₂) (mapDataV1AfterIEDF φ₁ id h extra xs data) (mapDataV1AfterIEDF φ₂ id h extra xs data)
      Slab.refSizeOK := by
  unfold mapDataV1AfterIEDF
  apply Tri.ite <;> intro _
  · apply Tri.ite <;> intro hlen
    · exact Tri.fail
    · exact tri_nextThen data _ _ (fun _ _ => tri_mapDataContentF _ _ _ _ _ _) hlen
  · exact tri_mapDataContentF _ _ _ _ _ _

theorem tri_mapDataV1AfterExtraF (id : SlabID) (h : SlabHead) (extra : Option MapExtra) (data : Bytes) :
    Tri (Sched φ₁ φ₂) (mapDataV1AfterExtraF φ₁ id h extra data) (mapDataV1AfterExtraF φ₂ id h extra data)
      Slab.refSizeOK := by
  unfold mapDataV1AfterExtraF
  apply Tri.ite <;> intro _
  · refine Tri.bind (tri_newInlinedExtraDataFromDataF data) ?_
    intro ⟨xs, rest⟩ _
    exact tri_mapDataV1AfterIEDF _ _ _ _ _
  · exact tri_mapDataV1AfterIEDF _ _ _ _ _

theorem tri_newMapDataSlabFromDataV1F (id : SlabID) (h : SlabHead) (data : Bytes) :
    Tri (Sched φ₁ φ₂) (newMapDataSlabFromDataV1F φ₁ id h data) (newMapDataSlabFromDataV1F φ₂ id h data)
      Slab.refSizeOK := by
  unfold newMapDataSlabFromDataV1F
  apply Tri.ite <;> intro _
  · refine Tri.bind (tri_newMapExtraDataFromData data) ?_
    intro ⟨x, rest⟩ _
    exact tri_mapDataV1AfterExtraF _ _ _ _
  · exact tri_mapDataV1AfterExtraF _ _ _ _

theorem tri_newMapDataSlabFromDataF (id : SlabID) (data : Bytes) :
    Tri (Sched φ₁ φ₂) (newMapDataSlabFromDataF φ₁ id data) (newMapDataSlabFromDataF φ₂ id data)
      Slab.refSizeOK := by
  unfold newMapDataSlabFromDataF
  apply Tri.ite <;> intro hlen
  · exact Tri.fail
  · refine Tri.bind (Tri.of_safe (Safe.sliceTo (Nat.le_of_not_lt hlen))) ?_
    intro hb _
    refine Tri.bind (Tri.of_safe (safe_newHeadFromData hb)) ?_
    intro h _
    apply Tri.ite <;> intro _
    · exact Tri.fail
    · refine Tri.bind (Tri.of_safe (Safe.sliceFrom (Nat.le_of_not_lt hlen))) ?_
      intro rest _
      apply Tri.ite <;> intro _
      · exact tri_newMapDataSlabFromDataV0F _ _ _
      · apply Tri.ite <;> intro _
        · exact tri_newMapDataSlabFromDataV1F _ _ _
        · exact Tri.fail

theorem safe_mapMetaLoopV0 (data : Bytes) : ∀ (n offset : Nat),
    offset + newMapMetaDataSlabFromDataV0_mapSlabHeaderSizeV0 * n ≤ data.length →
    Safe (mapMetaLoopV0 data n offset) 0 (fun _ => True) := by
  intro n
  induction n with
  | zero => intro offset _; unfold mapMetaLoopV0; exact Safe.pure trivial
  | succ n ih =>
    intro offset hb
    simp only [newMapMetaDataSlabFromDataV0_mapSlabHeaderSizeV0] at hb
    unfold mapMetaLoopV0
    refine Safe.bind0 (Safe.sliceFrom (by omega)) ?_
    intro b _
    refine Safe.bind0 (safe_newSlabIDFromRawBytes b) ?_
    intro sid _
    refine Safe.field Safe.be64 (by simp only [SlabIDLength]; omega) fun fk => ?_
    refine Safe.field Safe.be32 (by simp only [SlabIDLength, digestSize]; omega) fun size => ?_
    refine Safe.bind0 (ih _ (by simp only [newMapMetaDataSlabFromDataV0_mapSlabHeaderSizeV0]; omega)) ?_
    intro hs _
    exact Safe.pure trivial

theorem safe_mapMetaLoopV1 (data : Bytes) (addr : Nat) : ∀ (n offset : Nat),
    offset + mapSlabHeaderSize * n ≤ data.length →
    Safe (mapMetaLoopV1 data addr n offset) 0 (fun _ => True) := by
  intro n
  induction n with
  | zero => intro offset _; unfold mapMetaLoopV1; exact Safe.pure trivial
  | succ n ih =>
    intro offset hb
    simp only [mapSlabHeaderSize] at hb
    unfold mapMetaLoopV1
    refine Safe.bind0 (Safe.sliceFrom (by omega)) ?_
    intro ib _
    refine Safe.field Safe.be64 (by simp only [SlabIndexLength]; omega) fun fk => ?_
    refine Safe.field Safe.be16 (by simp only [SlabIndexLength, digestSize]; omega) fun size => ?_
    refine Safe.bind0 (ih _ (by simp only [mapSlabHeaderSize, SlabIndexLength, digestSize]; omega)) ?_
    intro hs _
    exact Safe.pure trivial

theorem safe_mapMetaV0AfterExtra (id : SlabID) (extra : Option MapExtra) (data : Bytes) :
    Safe (mapMetaV0AfterExtra id extra data) data.length Slab.refSizeOK := by
  unfold mapMetaV0AfterExtra
  apply Safe.ite <;> intro hlen
  · exact safe_failK
  · simp only [newMapMetaDataSlabFromDataV0_mapMetaDataArrayHeadSizeV0] at hlen
    refine Safe.bind0 (Safe.be16 (by omega)) ?_
    intro cnt _
    refine Safe.bind0 (Safe.sliceFrom (by simp only [newMapMetaDataSlabFromDataV0_mapMetaDataArrayHeadSizeV0]; omega)) ?_
    intro rest hr
    apply Safe.ite <;> intro hne
    · exact safe_failK
    · have heq : rest.length = newMapMetaDataSlabFromDataV0_mapSlabHeaderSizeV0 * cnt := by
        simpa using hne
      have hrl : rest.length ≤ data.length := by subst hr; simp only [List.length_drop]; omega
      refine Safe.bind_le (Safe.alloc cnt) (k2 := 0) ?_ (by
        simp only [newMapMetaDataSlabFromDataV0_mapSlabHeaderSizeV0] at heq; omega)
      intro _ _
      refine Safe.bind0 (safe_mapMetaLoopV0 rest cnt 0 (by omega)) ?_
      intro hs _
      exact Safe.pure trivial

theorem tri_newMapMetaDataSlabFromDataV0 (id : SlabID) (h : SlabHead) (data : Bytes) :
    Tri₁ c (newMapMetaDataSlabFromDataV0 id h data) Slab.refSizeOK := by
  unfold newMapMetaDataSlabFromDataV0
  apply Tri.ite <;> intro _
  · refine Tri.bind (tri_newMapExtraDataFromData data) ?_
    intro ⟨x, rest⟩ _
    dsimp only
    apply Tri.ite <;> intro hlen
    · exact Tri.fail
    · refine Tri.bind (Tri.of_safe (Safe.sliceFrom (Nat.le_of_not_lt hlen))) ?_
      intro rest2 _
      exact Tri.of_safe (safe_mapMetaV0AfterExtra _ _ _)
  · exact Tri.of_safe (safe_mapMetaV0AfterExtra _ _ _)

theorem safe_mapMetaV1AfterExtra (id : SlabID) (extra : Option MapExtra) (data : Bytes) :
    Safe (mapMetaV1AfterExtra id extra data) data.length Slab.refSizeOK := by
  unfold mapMetaV1AfterExtra
  apply Safe.ite <;> intro hlen
  · exact safe_failK
  · simp only [mapMetaDataSlabPrefixSize, versionAndFlagSize] at hlen
    refine Safe.bind0 (Safe.sliceFrom (Nat.zero_le _)) ?_
    intro ab _
    refine Safe.field Safe.be16 (by simp only [SlabAddressLength]; omega) fun cnt => ?_
    refine Safe.bind0 (Safe.sliceFrom (by
      simp only [SlabAddressLength, newMapMetaDataSlabFromDataV1_arrayHeaderSize]; omega)) ?_
    intro tail ht
    apply Safe.ite <;> intro hne
    · exact safe_failK
    · have heq : tail.length = mapSlabHeaderSize * cnt := by simpa using hne
      have htl : tail.length + 10 = data.length := by
        subst ht
        simp only [List.length_drop, SlabAddressLength, newMapMetaDataSlabFromDataV1_arrayHeaderSize]
        omega
      refine Safe.bind_le (Safe.alloc cnt) (k2 := 0) ?_ (by simp only [mapSlabHeaderSize] at heq; omega)
      intro _ _
      refine Safe.bind0 (safe_mapMetaLoopV1 data _ cnt _ (by
        simp only [SlabAddressLength, newMapMetaDataSlabFromDataV1_arrayHeaderSize]; omega)) ?_
      intro hs _
      exact Safe.pure trivial

theorem tri_newMapMetaDataSlabFromDataV1 (id : SlabID) (h : SlabHead) (data : Bytes) :
    Tri₁ c (newMapMetaDataSlabFromDataV1 id h data) Slab.refSizeOK := by
  unfold newMapMetaDataSlabFromDataV1
  apply Tri.ite <;> intro _
  · refine Tri.bind (tri_newMapExtraDataFromData data) ?_
    intro ⟨x, rest⟩ _
    exact Tri.of_safe (safe_mapMetaV1AfterExtra _ _ _)
  · exact Tri.of_safe (safe_mapMetaV1AfterExtra _ _ _)

theorem tri_newMapMetaDataSlabFromData (id : SlabID) (data : Bytes) :
    Tri₁ c (newMapMetaDataSlabFromData id data) Slab.refSizeOK := by
  unfold newMapMetaDataSlabFromData
  apply Tri.ite <;> intro hlen
  · exact Tri.fail
  · refine Tri.bind (Tri.of_safe (Safe.sliceTo (Nat.le_of_not_lt hlen))) ?_
    intro hb _
    refine Tri.bind (Tri.of_safe (safe_newHeadFromData hb)) ?_
    intro h _
    apply Tri.ite <;> intro _
    · exact Tri.fail
    · refine Tri.bind (Tri.of_safe (Safe.sliceFrom (Nat.le_of_not_lt hlen))) ?_
      intro rest _
      apply Tri.ite <;> intro _
      · exact tri_newMapMetaDataSlabFromDataV0 _ _ _
      · apply Tri.ite <;> intro _
        · exact tri_newMapMetaDataSlabFromDataV1 _ _ _
        · exact Tri.fail

theorem tri_arrDataContentGF (id : SlabID) (isRoot : Bool) (ty : Option TyInfo) (next : SlabID)
    (checkEOF : Bool) (xs : List XD) (data : Bytes) :
    Tri (Sched φ₁ φ₂) (arrDataContentGF φ₁ id isRoot ty next checkEOF xs data) (arrDataContentGF φ₂ id isRoot ty next checkEOF xs data)
      Slab.refSizeOK := by
  unfold arrDataContentGF
  apply Tri.ite <;> intro _
  · exact Tri.fail
  · refine Tri.head (DecInv.new data) fun n d1 h1 => ?_
    dsimp only
    apply Tri.ite <;> intro _
    · exact Tri.fail
    · refine Tri.alloc ?_
      refine Tri.bind ((tri_decStsG_fuels _ _ _ _ _ h1.1).cond fun h => ?_) ?_
      · have := h data.length; have : d1.len < data.length := h1.2; omega
      intro ⟨es, sz, d2⟩ _
      dsimp only
      apply Tri.ite <;> intro _
      · exact Tri.fail
      · exact Tri.pure trivial

theorem tri_newArrayExtraDataFromData (data : Bytes) :
    Tri₁ c (newArrayExtraDataFromData data) (fun r => r.2.length ≤ data.length) :=
  Tri.of_safe (safe_newArrayExtraDataFromData data)

theorem tri_newArrayDataSlabFromDataV0GF (id : SlabID) (h : SlabHead) (data : Bytes) :
    Tri (Sched φ₁ φ₂) (newArrayDataSlabFromDataV0GF φ₁ id h data) (newArrayDataSlabFromDataV0GF φ₂ id h data)
      Slab.refSizeOK := by
  unfold newArrayDataSlabFromDataV0GF
  apply Tri.ite <;> intro _
  · refine Tri.bind (tri_newArrayExtraDataFromData data) ?_
    intro ⟨ty, rest⟩ _
    dsimp only
    apply Tri.ite <;> intro hlen
    · exact Tri.fail
    · refine Tri.bind (Tri.of_safe (Safe.sliceFrom (Nat.le_of_not_lt hlen))) ?_
      intro rest2 _
      exact tri_arrDataContentGF _ _ _ _ _ _ _
  · apply Tri.ite <;> intro hlen
    · exact Tri.fail
    · exact tri_nextThen data _ _ (fun _ _ => tri_arrDataContentGF _ _ _ _ _ _ _) hlen

theorem tri_arrDataV1AfterIEDGF (id : SlabID) (h : SlabHead) (ty : Option TyInfo) (xs : List XD) (data : Bytes) :
    Tri (Sched φ₁ φ₂) (arrDataV1AfterIEDGF φ₁ id h ty xs data) (arrDataV1AfterIEDGF φ₂ id h ty xs data)
      Slab.refSizeOK := by
  unfold arrDataV1AfterIEDGF
  apply Tri.ite <;> intro _
  · -- `NewSlabIDFromRawBytes` has checked `len(data) >= SlabIDLength` before `data[SlabIDLength:]`
    unfold newSlabIDFromRawBytes
    by_cases hlen : data.length < SlabIDLength
    · rw [if_pos hlen]
      refine Tri.bind (P := fun _ => False) Tri.fail ?_
      intro _ hf; exact hf.elim
    · rw [if_neg hlen]
      have h8 : SlabAddressLength ≤ data.length := by
        simp only [SlabIDLength, SlabAddressLength] at *; omega
      refine Tri.bind (Tri.bind (Tri.of_safe (Safe.sliceFrom h8)) (fun _ _ => Tri.pure (P := fun _ => True) trivial)) ?_
      intro next _
      refine Tri.bind (Tri.of_safe (Safe.sliceFrom (Nat.le_of_not_lt hlen))) ?_
      intro rest2 _
      exact tri_arrDataContentGF _ _ _ _ _ _ _
  · exact tri_arrDataContentGF _ _ _ _ _ _ _

theorem tri_arrDataV1AfterExtraGF (id : SlabID) (h : SlabHead) (ty : Option TyInfo) (data : Bytes) :
    Tri (Sched φ₁ φ₂) (arrDataV1AfterExtraGF φ₁ id h ty data) (arrDataV1AfterExtraGF φ₂ id h ty data)
      Slab.refSizeOK := by
  unfold arrDataV1AfterExtraGF
  apply Tri.ite <;> intro _
  · refine Tri.bind (tri_newInlinedExtraDataFromDataF data) ?_
    intro ⟨xs, rest⟩ _
    exact tri_arrDataV1AfterIEDGF _ _ _ _ _
  · exact tri_arrDataV1AfterIEDGF _ _ _ _ _

theorem tri_newArrayDataSlabFromDataV1GF (id : SlabID) (h : SlabHead) (data : Bytes) :
    Tri (Sched φ₁ φ₂) (newArrayDataSlabFromDataV1GF φ₁ id h data) (newArrayDataSlabFromDataV1GF φ₂ id h data)
      Slab.refSizeOK := by
  unfold newArrayDataSlabFromDataV1GF
  apply Tri.ite <;> intro _
  · refine Tri.bind (tri_newArrayExtraDataFromData data) ?_
    intro ⟨ty, rest⟩ _
    exact tri_arrDataV1AfterExtraGF _ _ _ _
  · exact tri_arrDataV1AfterExtraGF _ _ _ _

theorem tri_newArrayDataSlabFromDataGF (id : SlabID) (data : Bytes) :
    Tri (Sched φ₁ φ₂) (newArrayDataSlabFromDataGF φ₁ id data) (newArrayDataSlabFromDataGF φ₂ id data)
      Slab.refSizeOK := by
  unfold newArrayDataSlabFromDataGF
  apply Tri.ite <;> intro hlen
  · exact Tri.fail
  · refine Tri.bind (Tri.of_safe (Safe.sliceTo (Nat.le_of_not_lt hlen))) ?_
    intro hb _
    refine Tri.bind (Tri.of_safe (safe_newHeadFromData hb)) ?_
    intro h _
    apply Tri.ite <;> intro _
    · exact Tri.fail
    · refine Tri.bind (Tri.of_safe (Safe.sliceFrom (Nat.le_of_not_lt hlen))) ?_
      intro rest _
      apply Tri.ite <;> intro _
      · exact tri_newArrayDataSlabFromDataV0GF _ _ _
      · apply Tri.ite <;> intro _
        · exact tri_newArrayDataSlabFromDataV1GF _ _ _
        · exact Tri.fail

theorem tri_decodeSlabGenF (id : SlabID) (data : Bytes) : Tri (Sched φ₁ φ₂) (decodeSlabGenF φ₁ id data) (decodeSlabGenF φ₂ id data)
      Slab.refSizeOK := by
  unfold decodeSlabGenF
  apply Tri.ite <;> intro hlen
  · exact Tri.fail
  · refine Tri.bind (Tri.of_safe (Safe.sliceTo (Nat.le_of_not_lt hlen))) ?_
    intro hb _
    refine Tri.bind (Tri.of_safe (safe_newHeadFromData hb)) ?_
    intro h _
    split
    · split
      · exact tri_newArrayDataSlabFromDataGF id data
      · exact Tri.of_safe (safe_newArrayMetaDataSlabFromData_refSize id data)
      · exact Tri.fail
    · split
      · exact tri_newMapDataSlabFromDataF id data
      · exact tri_newMapMetaDataSlabFromData id data
      · exact tri_newMapDataSlabFromDataF id data
      · exact Tri.fail
    · refine Tri.bind (Tri.of_safe (Safe.sliceFrom (Nat.le_of_not_lt hlen))) ?_
      intro rest _
      refine Tri.bind ((tri_decStG_fuels _ _ _ (DecInv.new rest)).cond fun h => h rest.length) ?_
      intro ⟨s, d⟩ _
      exact Tri.pure trivial
    · exact Tri.fail

/-! with the model's schedule `fun L => L + 1` (`decodeSlabGenF_model`) -/

theorem tri_decodeSlabGen (id : SlabID) (data : Bytes) : Tri₁ c (decodeSlabGen id data) Slab.refSizeOK :=
  (tri_decodeSlabGenF (φ₁ := fun L => L + 1) (φ₂ := fun L => L + 1) id data).right

end

/-- `DecodeSlab` never panics: every slab kind, both parts of the decoder. -/
theorem np_decodeSlab (id : SlabID) (data : Bytes) : NP (decodeSlab id data) (fun _ => True) := by
  intro n
  unfold decodeSlab
  have h1 := safe_decodeSlabFlat id data n
  have h2 := (tri_decodeSlabGen (c := True) id data).np n
  cases hf : decodeSlabFlat id data n with
  | ok s k => trivial
  | error e k =>
    cases e with
    | decoding => trivial
    | unsupported =>
      simp only
      cases hg : decodeSlabGen id data n with
      | ok s k => trivial
      | error e k => trivial
      | panic => rw [hg] at h2; exact h2
  | panic => rw [hf] at h1; exact h1

end Atree.Codec

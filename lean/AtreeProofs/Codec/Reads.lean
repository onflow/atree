import AtreeModel.Codec.Decode
/-
  `d.Reads b d'`: the stream decoder `d'` is `d` after the block `b` of a validated item has been
  read.  The decoder run on the encoder's output is stated with it: "if `d.Reads (enc x) d'` then
  `dec d = ok (x, d')`".  The encoding of a composite value is an append; `Reads.split` hands each
  part to the decoder that reads it, so neither the bytes that follow, nor the budget of the item,
  nor the count of bytes consumed is ever written out.
-/
namespace Atree.Codec
open Atree

structure Dec.Reads (d : Dec) (b : Bytes) (d' : Dec) : Prop where
  data : d.data = b ++ d'.data
  rem : d.remaining = b.length + d'.remaining
  cons : d'.consumed = d.consumed + b.length

namespace Dec.Reads
variable {d d' : Dec} {a b : Bytes}

/-- the states written out: `b` in front of `rest`, inside an item with `R` bytes to go -/
theorem of_le (b rest : Bytes) {R : Nat} (c : Nat) (h : b.length ≤ R) :
    Dec.Reads { data := b ++ rest, remaining := R, consumed := c } b
      { data := rest, remaining := R - b.length, consumed := c + b.length } :=
  ⟨rfl, (Nat.add_sub_cancel' h).symm, rfl⟩

/-- A fresh decoder whose first item is `b`, in the state in which the first operation's `prepareNext`
    leaves it (`decodeHeadOf_new` and its like): the item is read from there. -/
theorem item {data b rest : Bytes} (e : data = b ++ rest) :
    Dec.Reads ⟨data, data.length - rest.length, 0⟩ b ⟨rest, 0, b.length⟩ := by
  subst e; exact ⟨rfl, by simp, (Nat.zero_add _).symm⟩

theorem nil (h : d.Reads [] d') : d = d' := by
  obtain ⟨h1, h2, h3⟩ := h
  obtain ⟨dd, dr, dc⟩ := d
  obtain ⟨dd', dr', dc'⟩ := d'
  simp only [List.nil_append, List.length_nil, Nat.zero_add, Nat.add_zero] at h1 h2 h3
  subst h1; subst h2; subst h3; rfl

theorem split (h : d.Reads (a ++ b) d') : ∃ d1, d.Reads a d1 ∧ d1.Reads b d' :=
  ⟨{ data := b ++ d'.data, remaining := b.length + d'.remaining, consumed := d.consumed + a.length },
    ⟨by rw [h.data, List.append_assoc], by rw [h.rem, List.length_append, Nat.add_assoc], rfl⟩,
    ⟨rfl, rfl, by rw [h.cons, List.length_append, Nat.add_assoc]⟩⟩

theorem pos (h : d.Reads b d') (hne : b ≠ []) : 0 < d.remaining := by
  rw [h.rem]; exact Nat.lt_of_lt_of_le (List.length_pos_iff.2 hne) (Nat.le_add_right _ _)

/-- the step of the stream decoder to the bytes behind `b` -/
theorem advance (h : d.Reads b d') : d.advance d'.data = some d' := by
  obtain ⟨h1, h2, h3⟩ := h
  obtain ⟨dd, dr, dc⟩ := d
  obtain ⟨dd', dr', dc'⟩ := d'
  simp only at h1 h2 h3
  subst h1; subst h2; subst h3
  simp only [Dec.advance, List.length_append, Nat.add_sub_cancel, Nat.add_sub_cancel_left, gt_iff_lt]
  rw [if_neg (Nat.not_lt.2 (Nat.le_add_right _ _))]

end Dec.Reads
end Atree.Codec

import AtreeProofs.Codec.DecOps
/-
  Round trip at slab level: `DecodeSlab` run on the encoder's output (followed by arbitrary extra
  bytes) for data slabs, index slabs and large-value slabs, including the extra-data section, the
  head bytes and the fixed-width big-endian fields (slab IDs, child headers; read with `sliceFrom_at`,
  `be16_beBytes` … of DecLemmas.lean).
-/
namespace Atree.Codec
open Atree Atree.Gen

/-- a type info the harness can produce: the number fits `uint64` -/
def validTy : TyInfo → Prop
  | .plain n => n < 2 ^ 64
  | .composite n => n < 2 ^ 64

theorem head_tagCompositeTI : head 6 tagCompositeTI = [0xd8, 160] := by decide

theorem length_encodeTy_pos (ty : TyInfo) : 0 < (encodeTy ty).length := by
  cases ty with
  | plain n => rw [encodeTy, length_head]; exact headLen_pos n
  | composite n => rw [encodeTy, List.length_append]; exact Nat.lt_of_lt_of_le (by decide) (Nat.le_add_right _ _)

theorem ctypeOf_uint {b : Nat} (h : b / 32 % 8 = 0) : ctypeOf b = .uint := by
  unfold ctypeOf; rw [h]; rfl

theorem decodeTypeInfo_reads (ty : TyInfo) (hv : validTy ty) {d d' : Dec} (h : d.Reads (encodeTy ty) d') :
    decodeTypeInfo d = pure (ty, d') := by
  unfold decodeTypeInfo
  cases ty with
  | plain n =>
    simp only [validTy] at hv
    simp only [encodeTy] at h
    obtain ⟨b, hb, hnt⟩ := Dec.Reads.nextType_head (m := 0) (bs := []) (by omega) hv (by rw [List.append_nil]; exact h)
    rw [hnt]
    simp only [DM.liftOpt_some, DM.pure_bind, ctypeOf_uint hb, reduceCtorEq, ↓reduceIte]
    rw [decodeUint64_reads hv h]
    simp only [DM.liftOpt_some, DM.pure_bind]
  | composite n =>
    simp only [validTy] at hv
    simp only [encodeTy, head_tagCompositeTI] at h
    obtain ⟨d1, h1, h2⟩ := h.split
    rw [h1.nextType]
    simp only [DM.liftOpt_some, DM.pure_bind, ctypeOf_d8, ↓reduceIte]
    rw [decodeTagNumber_reads _ h1]
    simp only [DM.liftOpt_some, DM.pure_bind, tagCompositeTI, ne_eq, not_true_eq_false, ↓reduceIte]
    rw [decodeUint64_reads hv h2]
    simp only [DM.liftOpt_some, DM.pure_bind]

theorem acc_encodeTy (ty : TyInfo) (hv : validTy ty) : Acc (encodeTy ty) 1 := by
  cases ty with
  | plain n => exact (Acc.uint hv).mono (by omega)
  | composite n =>
    simp only [encodeTy, head_tagCompositeTI, List.cons_append, List.nil_append]
    exact Acc.tag8 _ (Acc.uint hv)

theorem acc_encodeExtraData (ty : TyInfo) (hv : validTy ty) : Acc (encodeExtraData ty) 2 := by
  have := Acc.array (l := [encodeTy ty]) (by simp [maxArrayElements])
    (fun b hb => by rw [List.mem_singleton.1 hb]; exact acc_encodeTy ty hv)
  simpa [encodeExtraData, arrayExtraDataLength] using this

theorem newArrayExtraDataFromData_enc (ty : TyInfo) (hv : validTy ty) (rest : Bytes) :
    newArrayExtraDataFromData (encodeExtraData ty ++ rest) = pure (ty, rest) := by
  have hw := wfNext_of_acc (acc_encodeExtraData ty hv) (by decide) rest
  have hE : encodeExtraData ty = head 4 1 ++ encodeTy ty := by simp [encodeExtraData, arrayExtraDataLength]
  obtain ⟨d1, h1, h2⟩ := (Dec.Reads.item (congrArg (· ++ rest) hE)).split
  unfold newArrayExtraDataFromData newArrayExtraData
  rw [show (Dec.new (encodeExtraData ty ++ rest)).decodeArrayHead = _ from decodeHeadOf_new hw,
    show Dec.decodeHeadOf 4 _ = _ from decodeArrayHead_reads (by omega) h1]
  simp only [DM.liftOpt_some, DM.pure_bind, arrayExtraDataLength, ne_eq, not_true_eq_false, ↓reduceIte]
  rw [decodeTypeInfo_reads ty hv h2]
  simp only [DM.pure_bind, Dec.numBytesDecoded]
  unfold sliceFrom
  rw [← hE, if_pos (by simp)]
  simp only [DM.pure_bind, List.drop_left]

theorem head_data_facts (hasNext ptr root : Bool) :
    let h : SlabHead := ⟨ArrayDataSlab_Encode_version * 16 ||| flagIf hasNext maskHasNextSlabID,
                         maskArrayData ||| flagIf ptr maskSlabHasPointers ||| flagIf root maskSlabRoot⟩
    h.slabType = .array ∧ h.arrayType = .data ∧ h.version = 1 ∧ h.isRoot = root ∧ h.hasPointers = ptr ∧
      h.hasSizeLimit = true ∧ h.hasInlinedSlabs = false ∧ h.hasNextSlabID = hasNext := by
  revert hasNext ptr root
  decide +kernel

theorem head_meta_facts (root : Bool) :
    let h : SlabHead := ⟨ArrayMetaDataSlab_Encode_version * 16, maskArrayMeta ||| flagIf root maskSlabRoot⟩
    h.slabType = .array ∧ h.arrayType = .index ∧ h.version = 1 ∧ h.isRoot = root ∧ h.hasPointers = false ∧
      h.hasSizeLimit = true := by
  revert root
  decide +kernel

theorem head_storable_facts (ptr : Bool) :
    let h : SlabHead := ⟨StorableSlab_Encode_version * 16,
                         maskStorable ||| maskSlabAnySize ||| flagIf ptr maskSlabHasPointers⟩
    h.slabType = .storable ∧ h.isRoot = false ∧ h.hasPointers = ptr ∧ h.hasSizeLimit = false := by
  revert ptr
  decide +kernel

/-- both halves of `s.next` fit their 8-byte fields (`SlabID.undef` does) -/
def validNext (id : SlabID) : Prop := id.addr < 2 ^ 64 ∧ id.idx < 2 ^ 64

/-- the next-slab-ID field, read off the front of the data -/
theorem nextID_reads {α : Type} (next : SlabID) (hnext : validNext next) (body : Bytes) (k : SlabID → Bytes → DM α) :
    (do let nx ← newSlabIDFromRawBytes (encodeSlabID next ++ body)
        let data ← sliceFrom (encodeSlabID next ++ body) SlabIDLength
        k nx data) = k next body := by
  rw [newSlabIDFromRawBytes_enc_append next hnext.1 hnext.2]
  simp only [DM.pure_bind]
  rw [sliceFrom_at _ _ (by simp [length_encodeSlabID, SlabIDLength])]
  rfl

/-- the root's extra-data section in front of `data` (present exactly at a root), for any decoder `dec` of
    it that gives back what `enc` wrote -/
theorem rootExtra_reads {β γ : Type} {dec : Bytes → DM (β × Bytes)} {enc : Option β → Bytes} (henc : enc none = [])
    {isRoot : Bool} (x : Option β) (hroot : isRoot = x.isSome)
    (hdec : ∀ y, x = some y → ∀ rest, dec (enc (some y) ++ rest) = pure (y, rest))
    (k : Option β → Bytes → DM γ) (data : Bytes) :
    (if isRoot = true then dec (enc x ++ data) >>= fun p => k (some p.1) p.2 else k none (enc x ++ data))
      = k x data := by
  subst hroot
  cases x with
  | none => simp only [Option.isSome_none, Bool.false_eq_true, ↓reduceIte, henc, List.nil_append]
  | some y => simp only [Option.isSome_some, ↓reduceIte, hdec y rfl, DM.pure_bind]

/-- the optional next-slab-ID section of a version-1 array data slab (first part of the decoder) -/
theorem dataV1AfterExtra_next (id : SlabID) (h : SlabHead) (ty : Option TyInfo) (next : SlabID)
    (hinl : h.hasInlinedSlabs = false) (hnx : h.hasNextSlabID = decide (next ≠ SlabID.undef))
    (hnext : validNext next) (body : Bytes) :
    dataV1AfterExtra id h ty ((if decide (next ≠ SlabID.undef) = true then encodeSlabID next else []) ++ body)
      = decodeDataContent id h.isRoot ty next true body := by
  unfold dataV1AfterExtra
  rw [hinl, hnx]
  by_cases hn : next = SlabID.undef
  · subst hn
    simp only [ne_eq, not_true_eq_false, decide_false, Bool.false_eq_true, ↓reduceIte, List.nil_append]
  · simp only [ne_eq, hn, not_false_eq_true, decide_true, Bool.false_eq_true, ↓reduceIte]
    exact nextID_reads next hnext body _

/-- What the encoder relies on for a standalone data slab (all of it follows from the array
    invariant of C05 and the `uint64`/`uint32` field widths: `E2E.stored_ok`, E2E/Bytes.lean).
    `4294967295` is `math.MaxUint32`, spelt as the first part of the decoder model spells it. -/
structure DataOK (ty : TyInfo) (s : DataSlab) : Prop where
  elems : ∀ e ∈ s.elems, validElem e
  count16 : s.elems.length < 65536
  notInlined : s.inlined = false
  count : s.hdr.count = s.elems.length
  size : s.hdr.size = s.prefixSize + sumSizes s.elems
  size32 : s.hdr.size ≤ 4294967295
  next : validNext s.next
  ty : s.root = true → validTy ty

theorem slabHead_cons2 {α : Type} (b0 b1 : Nat) (tail : Bytes) (k : SlabHead → DM α) :
    (if (b0 :: b1 :: tail).length < versionAndFlagSize then DM.fail
      else do
        let hb ← sliceTo (b0 :: b1 :: tail) versionAndFlagSize
        let h ← newHeadFromData hb
        k h) = k ⟨b0, b1⟩ := by
  have h2 : ¬ (b0 :: b1 :: tail).length < versionAndFlagSize := by simp [versionAndFlagSize]
  rw [if_neg h2]
  unfold sliceTo
  rw [if_pos (by simp [versionAndFlagSize])]
  simp only [DM.pure_bind, versionAndFlagSize, List.take_succ_cons, List.take_zero, newHeadFromData]

theorem sliceFrom_cons2 (b0 b1 : Nat) (tail : Bytes) :
    sliceFrom (b0 :: b1 :: tail) versionAndFlagSize = pure tail := by
  unfold sliceFrom
  rw [if_pos (by simp [versionAndFlagSize])]
  rfl

theorem decodeSlabFlat_cons2 (id : SlabID) (b0 b1 : Nat) (tail : Bytes) :
    decodeSlabFlat id (b0 :: b1 :: tail) =
      match (⟨b0, b1⟩ : SlabHead).slabType with
      | .array =>
        match (⟨b0, b1⟩ : SlabHead).arrayType with
        | .data => newArrayDataSlabFromData id (b0 :: b1 :: tail)
        | .index => newArrayMetaDataSlabFromData id (b0 :: b1 :: tail)
        | _ => DM.fail
      | .map => DM.fail .unsupported
      | .storable => do
        let (e, _) ← decodeElem (Dec.new tail)
        pure (.storable id e)
      | .undefined => DM.fail := by
  unfold decodeSlabFlat
  rw [slabHead_cons2]
  simp only [sliceFrom_cons2, DM.pure_bind]
  generalize (SlabHead.mk b0 b1).slabType = st
  generalize (SlabHead.mk b0 b1).arrayType = aty
  cases st <;> cases aty <;> rfl

theorem newArrayDataSlabFromData_cons2 (id : SlabID) (b0 b1 : Nat) (tail : Bytes) :
    newArrayDataSlabFromData id (b0 :: b1 :: tail) =
      if (⟨b0, b1⟩ : SlabHead).arrayType ≠ .data then DM.fail
      else if (⟨b0, b1⟩ : SlabHead).version = 0 then newArrayDataSlabFromDataV0 id ⟨b0, b1⟩ tail
      else if (⟨b0, b1⟩ : SlabHead).version = 1 then newArrayDataSlabFromDataV1 id ⟨b0, b1⟩ tail
      else DM.fail := by
  unfold newArrayDataSlabFromData
  rw [slabHead_cons2]
  simp only [sliceFrom_cons2, DM.pure_bind]

/-- the first part of the decoder on the register of a version-1 array data slab, after the two head bytes -/
theorem decodeSlabFlat_adataV1 (id : SlabID) (h : SlabHead) (tail : Bytes)
    (h1 : h.slabType = .array) (h2 : h.arrayType = .data) (h3 : h.version = 1) :
    decodeSlabFlat id (h.b0 :: h.b1 :: tail) = newArrayDataSlabFromDataV1 id h tail := by
  obtain ⟨b0, b1⟩ := h
  rw [decodeSlabFlat_cons2, h1]
  simp only [h2]
  rw [newArrayDataSlabFromData_cons2, h2, h3]
  simp only [ne_eq, not_true_eq_false, ↓reduceIte, show ¬ ((1 : Nat) = 0) by decide]

theorem newArrayMetaDataSlabFromData_cons2 (id : SlabID) (b0 b1 : Nat) (tail : Bytes) :
    newArrayMetaDataSlabFromData id (b0 :: b1 :: tail) =
      if (⟨b0, b1⟩ : SlabHead).arrayType ≠ .index then DM.fail
      else if (⟨b0, b1⟩ : SlabHead).version = 0 then newArrayMetaDataSlabFromDataV0 id ⟨b0, b1⟩ tail
      else if (⟨b0, b1⟩ : SlabHead).version = 1 then newArrayMetaDataSlabFromDataV1 id ⟨b0, b1⟩ tail
      else DM.fail := by
  unfold newArrayMetaDataSlabFromData
  rw [slabHead_cons2]
  simp only [sliceFrom_cons2, DM.pure_bind]

/-- `DecodeSlab` on the encoding of a data slab followed by `extra` bytes -/
theorem decodeSlabFlat_encodeDataSlab (ty : TyInfo) (s : DataSlab) (ok : DataOK ty s) (extra : Bytes) (n : Nat) :
    decodeSlabFlat s.hdr.id (encodeDataSlab ty s ++ extra) n =
      if extra ≠ [] then .error .decoding (n + s.elems.length)
      else .ok (.data (if s.root then some ty else none) s) (n + s.elems.length) := by
  obtain ⟨hdr, next, elems, root, inlined⟩ := s
  obtain ⟨id, size, count⟩ := hdr
  have hv := ok.elems; have hn := ok.count16; have hinl := ok.notInlined
  have hcount := ok.count; have hsize := ok.size; have hs32 := ok.size32
  have hnext := ok.next; have hty := ok.ty
  simp only at hv hn hinl hcount hsize hs32 hnext hty ⊢
  subst hinl; subst hcount
  simp only [DataSlab.prefixSize, Bool.false_eq_true, ↓reduceIte] at hsize
  unfold encodeDataSlab
  simp only
  have hf := head_data_facts (decide (next ≠ SlabID.undef)) (elems.any elemIsRef) root
  simp only at hf
  obtain ⟨hf1, hf2, hf3, hf4, -, -, hf7, hf8⟩ := hf
  generalize hb0 : ArrayDataSlab_Encode_version * 16 ||| flagIf (decide (next ≠ SlabID.undef)) maskHasNextSlabID = b0 at *
  generalize hb1 : maskArrayData ||| flagIf (elems.any elemIsRef) maskSlabHasPointers ||| flagIf root maskSlabRoot = b1 at *
  have hsz32 : (if root = true then arrayRootDataSlabPrefixSize else arrayDataSlabPrefixSize) + sumSizes elems
      ≤ 4294967295 := by
    rw [← hsize]; exact hs32
  have htail : ∀ (tyo : Option TyInfo), tyo.isSome = root →
      dataV1AfterExtra id ⟨b0, b1⟩ tyo
        ((if decide (next ≠ SlabID.undef) = true then encodeSlabID next else []) ++ (encodeElements elems ++ extra)) n =
      if extra ≠ [] then .error .decoding (n + elems.length)
      else .ok (.data tyo { hdr := { id := id, size := size, count := elems.length }, next := next,
                            elems := elems, root := root, inlined := false }) (n + elems.length) := by
    intro tyo htyo
    rw [dataV1AfterExtra_next _ _ _ _ hf7 hf8 hnext, hf4, decodeDataContent_enc _ _ _ _ _ elems hv hn hsz32, ← hsize, htyo]
    simp
  simp only [List.cons_append, List.nil_append]
  rw [decodeSlabFlat_adataV1 _ ⟨b0, b1⟩ _ hf1 hf2 hf3]
  unfold newArrayDataSlabFromDataV1
  rw [hf4]
  cases root with
  | true =>
    simp only [↓reduceIte, List.append_assoc]
    rw [newArrayExtraDataFromData_enc ty (hty rfl)]
    simp only [DM.pure_bind]
    exact htail (some ty) rfl
  | false =>
    simp only [Bool.false_eq_true, ↓reduceIte, List.nil_append, List.append_assoc]
    exact htail none rfl

theorem wfNext_elem (e : Elem) (hv : validElem e) (extra : Bytes) :
    wfNext (encodeElem e ++ extra) = some extra :=
  wfNext_of_acc (acc_encodeElem e hv) (by decide) extra

theorem decodeElem_new (data rest' : Bytes) (hw : wfNext data = some rest') :
    decodeElem (Dec.new data)
      = decodeElem { data := data, remaining := data.length - rest'.length, consumed := 0 } := by
  conv => lhs; unfold decodeElem
  conv => rhs; unfold decodeElem
  rw [nextType_new hw]

theorem decodeElem_enc_new (e : Elem) (hv : validElem e) (extra : Bytes) :
    decodeElem (Dec.new (encodeElem e ++ extra))
      = pure (e, { data := extra, remaining := 0, consumed := e.size }) := by
  rw [decodeElem_new _ _ (wfNext_elem e hv extra), decodeElem_reads e hv (Dec.Reads.item rfl),
    elem_size_eq_enc_len e hv]

/-- `DecodeSlab` on the encoding of a large-value slab; trailing bytes are NOT rejected
    (decode.go has no end-of-data check in the `slabStorable` branch). -/
theorem decodeSlabFlat_encodeStorableSlab (id : SlabID) (e : Elem) (hv : validElem e) (extra : Bytes) (n : Nat) :
    decodeSlabFlat id (encodeStorableSlab e ++ extra) n = .ok (.storable id e) n := by
  unfold encodeStorableSlab
  have hf := head_storable_facts (elemIsRef e)
  simp only at hf
  simp only [List.cons_append, List.nil_append]
  rw [decodeSlabFlat_cons2, hf.1]
  simp only
  rw [decodeElem_enc_new e hv extra]
  rfl

/-- a child header as the encoder can write it -/
def validChildHdr (addr : Nat) (h : Hdr) : Prop :=
  h.id.addr = addr ∧ h.id.idx < 2 ^ 64 ∧ h.count < 2 ^ 32 ∧ h.size < 65536

theorem metaLoopV1_enc (addr : Nat) : ∀ (hdrs : List Hdr) (pre : Bytes) (off total : Nat), off = pre.length →
    (∀ h ∈ hdrs, validChildHdr addr h) →
    total + MetaSlab.sumCounts hdrs ≤ 4294967295 →
    metaLoopV1 (pre ++ hdrs.flatMap encodeChildHdr) addr hdrs.length off total
      = pure (hdrs, MetaSlab.prefixSums hdrs total)
  | [], pre, off, total, _, _, _ => by simp [metaLoopV1, MetaSlab.prefixSums]
  | h :: hs, pre, off, total, hoff, hv, hsum => by
    obtain ⟨ha, hi, hc, hsz⟩ := hv h (List.mem_cons_self ..)
    have hsc : MetaSlab.sumCounts (h :: hs) = h.count + MetaSlab.sumCounts hs := by simp [MetaSlab.sumCounts]
    rw [hsc] at hsum
    simp only [List.flatMap_cons, List.length_cons, metaLoopV1, encodeChildHdr, List.append_assoc]
    rw [sliceFrom_at pre _ hoff]
    simp only [DM.pure_bind]
    rw [beVal_copyN_beBytes (by simpa [SlabIndexLength] using hi), ← List.append_assoc pre,
      sliceFrom_at _ _ (by simp [hoff])]
    simp only [DM.pure_bind]
    rw [be32_beBytes hc, ← List.append_assoc (pre ++ _), sliceFrom_at _ _ (by simp [hoff, Nat.add_assoc])]
    simp only [DM.pure_bind]
    rw [be16_beBytes hsz]
    simp only [DM.pure_bind]
    rw [if_neg (by omega), ← List.append_assoc (pre ++ _ ++ _),
      metaLoopV1_enc addr hs _ _ (total + h.count) (by simp [hoff, Nat.add_assoc])
        (fun x hx => hv x (List.mem_cons_of_mem _ hx)) (by omega)]
    simp only [DM.pure_bind, MetaSlab.prefixSums]
    have : ({ addr := addr, idx := h.id.idx } : SlabID) = h.id := by
      cases hid : h.id with
      | mk a i => rw [hid] at ha; simp at ha; simp [ha]
    rw [this]

/-- the part of `newArrayMetaDataSlabFromDataV1` after the root's extra data, on what the encoder writes
    there: address, child count, child headers; trailing bytes are rejected -/
theorem metaV1AfterExtra_enc (id : SlabID) (tyo : Option TyInfo) (hdrs : List Hdr) (extra : Bytes)
    (haddr : id.addr < 2 ^ 64) (hv : ∀ h ∈ hdrs, validChildHdr id.addr h) (hn : hdrs.length < 65536)
    (ht32 : MetaSlab.sumCounts hdrs ≤ 4294967295) (n : Nat) :
    metaV1AfterExtra id tyo
        (beBytes SlabAddressLength id.addr ++ (beBytes 2 hdrs.length ++ (hdrs.flatMap encodeChildHdr ++ extra))) n =
      if extra ≠ [] then .error .decoding n
      else .ok (mkMeta id tyo hdrs.length hdrs (MetaSlab.prefixSums hdrs 0)) (n + hdrs.length + hdrs.length) := by
  unfold metaV1AfterExtra
  rw [if_neg (by simp [SlabAddressLength, arrayMetaDataSlabPrefixSize, versionAndFlagSize]; omega), sliceFrom_zero]
  simp only [DM.pure_bind]
  rw [beVal_copyN_beBytes (by simpa [SlabAddressLength] using haddr),
    sliceFrom_at (beBytes SlabAddressLength id.addr) _ (by simp)]
  simp only [DM.pure_bind]
  rw [be16_beBytes hn, ← List.append_assoc,
    sliceFrom_at _ _ (by simp [SlabAddressLength, newArrayMetaDataSlabFromDataV1_arrayHeaderSize])]
  simp only [DM.pure_bind]
  by_cases hex : extra = []
  · subst hex
    simp only [List.append_nil, length_flatMap_encodeChildHdr, ne_eq, not_true_eq_false, ↓reduceIte]
    rw [DM.alloc_bind]
    simp only
    rw [DM.alloc_bind]
    simp only
    rw [metaLoopV1_enc id.addr hdrs _ _ 0 (by simp [SlabAddressLength, newArrayMetaDataSlabFromDataV1_arrayHeaderSize])
      hv (by omega)]
    rfl
  · have hne : (hdrs.flatMap encodeChildHdr ++ extra).length ≠ arraySlabHeaderSize * hdrs.length := by
      have : 0 < extra.length := List.length_pos_iff.2 hex
      simp only [List.length_append, length_flatMap_encodeChildHdr]; omega
    rw [if_pos hne, if_pos hex]
    rfl

/-- What the encoder relies on for an index slab. -/
structure MetaOK (ty : TyInfo) (m : MetaSlab Unit) : Prop where
  addr : m.hdr.id.addr < 2 ^ 64
  hdrs : ∀ h ∈ m.childHdrs, validChildHdr m.hdr.id.addr h
  n16 : m.childHdrs.length < 65536
  sums : m.countSum = MetaSlab.prefixSums m.childHdrs 0
  count : m.hdr.count = m.countSum.getLastD 0
  total32 : MetaSlab.sumCounts m.childHdrs ≤ 4294967295
  size : m.hdr.size = arrayMetaDataSlabPrefixSize + arraySlabHeaderSize * m.childHdrs.length
  noChildren : m.children = []
  ty : m.root = true → validTy ty

/-- `DecodeSlab` on the encoding of an index slab followed by `extra` bytes -/
theorem decodeSlabFlat_encodeMetaSlab (ty : TyInfo) (m : MetaSlab Unit) (ok : MetaOK ty m) (extra : Bytes) (n : Nat) :
    decodeSlabFlat m.hdr.id (encodeMetaSlab ty m ++ extra) n =
      if extra ≠ [] then .error .decoding n
      else .ok (.index (if m.root then some ty else none) m) (n + m.childHdrs.length + m.childHdrs.length) := by
  obtain ⟨hdr, childHdrs, countSum, children, root⟩ := m
  obtain ⟨id, size, count⟩ := hdr
  have haddr := ok.addr; have hv := ok.hdrs; have hn := ok.n16; have hsums := ok.sums
  have hcount := ok.count; have ht32 := ok.total32; have hsize := ok.size
  have hnc := ok.noChildren; have hty := ok.ty
  simp only at haddr hv hn hsums hcount ht32 hsize hnc hty ⊢
  subst hnc
  unfold encodeMetaSlab
  simp only
  have hf := head_meta_facts root
  simp only at hf
  obtain ⟨hf1, hf2, hf3, hf4, -, -⟩ := hf
  generalize hb0 : ArrayMetaDataSlab_Encode_version * 16 = b0 at *
  generalize hb1 : maskArrayMeta ||| flagIf root maskSlabRoot = b1 at *
  have htail : ∀ (tyo : Option TyInfo), tyo.isSome = root →
      metaV1AfterExtra id tyo
        (beBytes SlabAddressLength id.addr ++ (beBytes 2 childHdrs.length ++
          (childHdrs.flatMap encodeChildHdr ++ extra))) n =
      if extra ≠ [] then .error .decoding n
      else .ok (.index tyo { hdr := { id := id, size := size, count := count }, childHdrs := childHdrs,
                             countSum := countSum, children := [], root := root })
             (n + childHdrs.length + childHdrs.length) := by
    intro tyo htyo
    rw [metaV1AfterExtra_enc id tyo childHdrs extra haddr hv hn ht32 n, mkMeta, ← hsums, ← hcount, ← hsize, htyo]
  simp only [List.cons_append, List.nil_append, List.append_assoc]
  rw [decodeSlabFlat_cons2, hf1]
  simp only [hf2]
  rw [newArrayMetaDataSlabFromData_cons2, hf2, hf3]
  simp only [ne_eq, not_true_eq_false, ↓reduceIte, show ¬ ((1 : Nat) = 0) by decide]
  unfold newArrayMetaDataSlabFromDataV1
  rw [hf4]
  cases root with
  | true =>
    simp only [↓reduceIte]
    rw [newArrayExtraDataFromData_enc ty (hty rfl)]
    simp only [DM.pure_bind]
    exact htail (some ty) rfl
  | false =>
    simp only [Bool.false_eq_true, ↓reduceIte, List.nil_append]
    exact htail none rfl

theorem decodeSlab_of_flat_ok {id : SlabID} {data : Bytes} {n k : Nat} {s : Slab}
    (h : decodeSlabFlat id data n = .ok s k) : decodeSlab id data n = .ok s k := by
  unfold decodeSlab; rw [h]

theorem decodeSlab_of_flat_err {id : SlabID} {data : Bytes} {n k : Nat}
    (h : decodeSlabFlat id data n = .error .decoding k) : decodeSlab id data n = .error .decoding k := by
  unfold decodeSlab; rw [h]

theorem decodeSlab_of_flat_unsupported {id : SlabID} {data : Bytes} {n k : Nat}
    (h : decodeSlabFlat id data n = .error .unsupported k) : decodeSlab id data n = decodeSlabGen id data n := by
  unfold decodeSlab; rw [h]

theorem decodeSlab_encodeDataSlab (ty : TyInfo) (s : DataSlab) (ok : DataOK ty s) (extra : Bytes) (n : Nat) :
    decodeSlab s.hdr.id (encodeDataSlab ty s ++ extra) n =
      if extra ≠ [] then .error .decoding (n + s.elems.length)
      else .ok (.data (if s.root then some ty else none) s) (n + s.elems.length) := by
  have h := decodeSlabFlat_encodeDataSlab ty s ok extra n
  by_cases hex : extra ≠ []
  · rw [if_pos hex] at h ⊢; exact decodeSlab_of_flat_err h
  · rw [if_neg hex] at h ⊢; exact decodeSlab_of_flat_ok h

theorem decodeSlab_encodeStorableSlab (id : SlabID) (e : Elem) (hv : validElem e) (extra : Bytes) (n : Nat) :
    decodeSlab id (encodeStorableSlab e ++ extra) n = .ok (.storable id e) n :=
  decodeSlab_of_flat_ok (decodeSlabFlat_encodeStorableSlab id e hv extra n)

theorem decodeSlab_encodeMetaSlab (ty : TyInfo) (m : MetaSlab Unit) (ok : MetaOK ty m) (extra : Bytes) (n : Nat) :
    decodeSlab m.hdr.id (encodeMetaSlab ty m ++ extra) n =
      if extra ≠ [] then .error .decoding n
      else .ok (.index (if m.root then some ty else none) m) (n + m.childHdrs.length + m.childHdrs.length) := by
  have h := decodeSlabFlat_encodeMetaSlab ty m ok extra n
  by_cases hex : extra ≠ []
  · rw [if_pos hex] at h ⊢; exact decodeSlab_of_flat_err h
  · rw [if_neg hex] at h ⊢; exact decodeSlab_of_flat_ok h

/-- What the encoder relies on, per slab kind of the first part (array data / index slabs and
    large-value slabs whose elements are plain values and slab references); the optional type info
    is present exactly for roots.  The kinds of the second part (`adata`, `mdata`, `mindex`,
    `storableG`) have their own predicates and theorems (collected in `SlabOKG`, SlabAll.lean): their length law
    has further terms (the inlined-extra-data section, the compact-map saving), so they are not
    instances of the statements phrased with `SlabOK`. -/
def SlabOK : Slab → Prop
  | .data ty s => DataOK (ty.getD default) s ∧ ty.isSome = s.root
  | .index ty m => MetaOK (ty.getD default) m ∧ ty.isSome = m.root
  | .storable _ e => validElem e
  | .adata _ => False
  | .mdata _ => False
  | .mindex _ => False
  | .storableG _ _ => False

/-- number of slice elements the decoder allocates for a slab of the first part -/
def Slab.decodeAllocs : Slab → Nat
  | .data _ s => s.elems.length
  | .index _ m => m.childHdrs.length + m.childHdrs.length
  | .storable _ _ => 0
  | _ => 0

/-- a slab carries its type info exactly when it is a root: the decoder's `if root then some ty else none`
    is the option the slab came with -/
theorem ite_some_getD {α : Type} [Inhabited α] (o : Option α) {b : Bool} (h : o.isSome = b) :
    (if b = true then some (o.getD default) else none) = o := by
  subst h; cases o <;> rfl

/-- `DecodeSlab (EncodeSlab s) = s` for every slab kind of the first part -/
theorem decodeSlab_encodeSlab (s : Slab) (ok : SlabOK s) (n : Nat) :
    decodeSlab s.id (encodeSlab s) n = .ok s (n + s.decodeAllocs) := by
  cases s with
  | data ty d =>
    obtain ⟨hok, hty⟩ := ok
    have := decodeSlab_encodeDataSlab (ty.getD default) d hok [] n
    simp only [List.append_nil, ne_eq, not_true_eq_false, ↓reduceIte] at this
    simp only [Slab.id, encodeSlab, Slab.decodeAllocs]
    rw [this, ite_some_getD ty hty]
  | index ty m =>
    obtain ⟨hok, hty⟩ := ok
    have := decodeSlab_encodeMetaSlab (ty.getD default) m hok [] n
    simp only [List.append_nil, ne_eq, not_true_eq_false, ↓reduceIte] at this
    simp only [Slab.id, encodeSlab, Slab.decodeAllocs]
    rw [this, ite_some_getD ty hty, Nat.add_assoc]
  | storable id e =>
    have := decodeSlab_encodeStorableSlab id e ok [] n
    simp only [List.append_nil] at this
    simp only [Slab.id, encodeSlab, Slab.decodeAllocs, Nat.add_zero]
    exact this
  | adata _ => exact ok.elim
  | mdata _ => exact ok.elim
  | mindex _ => exact ok.elim
  | storableG _ _ => exact ok.elim

end Atree.Codec

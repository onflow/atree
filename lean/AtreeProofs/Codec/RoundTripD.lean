import AtreeProofs.Codec.RoundTripM
/-
  Map data / collision-group slabs without inlined slabs: the hypotheses `MapDataOK`, the step of
  `decodeSlabGen` into the map data decoder, and that decoder's phases for the root's extra data and
  the next-slab ID.
-/
namespace Atree.Codec
open Atree Atree.Gen DM

theorem decMElsG_new (fuel cdepth : Nat) (data rest' : Bytes) (addr : Nat) (xs : List XD)
    (hw : wfNext data = some rest') :
    decMElsG fuel cdepth (Dec.new data) addr xs
      = decMElsG fuel cdepth { data := data, remaining := data.length - rest'.length, consumed := 0 } addr xs := by
  cases fuel with
  | zero => simp [decMElsG]
  | succ f =>
    conv => lhs; unfold decMElsG
    conv => rhs; unfold decMElsG
    have : (Dec.new data).decodeArrayHead
        = ({ data := data, remaining := data.length - rest'.length, consumed := 0 } : Dec).decodeArrayHead :=
      decodeHeadOf_new hw
    rw [this]

/-- What the encoder and the decoder rely on for a map data slab without inlined slabs. -/
structure MapDataOK (s : MapData) : Prop where
  rt : s.els.RT
  noInl : s.els.noInl
  nest : s.els.vneed ≤ maxNestedLevels
  next : validNext s.next
  extra : ∀ x, s.extra = some x → validMapExtra x
  size : s.size ≤ maxUint32

theorem newMapDataSlabFromData_cons2 (id : SlabID) (b0 b1 : Nat) (tail : Bytes) :
    newMapDataSlabFromData id (b0 :: b1 :: tail) =
      if (⟨b0, b1⟩ : SlabHead).mapType ≠ .data ∧ (⟨b0, b1⟩ : SlabHead).mapType ≠ .collisionGroup then DM.fail
      else if (⟨b0, b1⟩ : SlabHead).version = 0 then newMapDataSlabFromDataV0 id ⟨b0, b1⟩ tail
      else if (⟨b0, b1⟩ : SlabHead).version = 1 then newMapDataSlabFromDataV1 id ⟨b0, b1⟩ tail
      else DM.fail := by
  unfold newMapDataSlabFromData
  rw [slabHead_cons2]
  simp only [sliceFrom_cons2, DM.pure_bind]

/-- the second part of the decoder on the register of a version-1 map data / collision-group slab, after the two
    head bytes -/
theorem decodeSlabGen_mdataV1 (id : SlabID) (h : SlabHead) (tail : Bytes) (h1 : h.slabType = .map)
    (h2 : h.mapType = .data ∨ h.mapType = .collisionGroup) (h3 : h.version = 1) :
    decodeSlabGen id (h.b0 :: h.b1 :: tail) = newMapDataSlabFromDataV1 id h tail := by
  obtain ⟨b0, b1⟩ := h
  rw [decodeSlabGen_cons2, h1]
  rcases h2 with h | h <;> simp only [h] <;> rw [newMapDataSlabFromData_cons2, h, h3] <;>
    simp only [ne_eq, not_true_eq_false, false_and, and_false, reduceCtorEq, not_false_eq_true, ↓reduceIte,
      show ¬ ((1 : Nat) = 0) by decide]

/-- the root's extra-data section -/
def mapExtraBytes : Option MapExtra → Bytes
  | some x => encodeMapExtra x
  | none => []

theorem mapExtraBytes_eq (extra : Option MapExtra) :
    (match extra with | some x => encodeMapExtra x | none => []) = mapExtraBytes extra := by
  cases extra <;> rfl

/-- the root's extra-data section -/
theorem newMapDataSlabFromDataV1_extra (id : SlabID) (h : SlabHead) (extra : Option MapExtra)
    (hroot : h.isRoot = extra.isSome) (hextra : ∀ x, extra = some x → validMapExtra x) (data : Bytes) :
    newMapDataSlabFromDataV1 id h (mapExtraBytes extra ++ data) = mapDataV1AfterExtra id h extra data := by
  unfold newMapDataSlabFromDataV1
  exact rootExtra_reads (enc := mapExtraBytes) rfl extra hroot
    (fun x hx rest => newMapExtraDataFromData_enc x (hextra x hx) rest) _ data

/-- the optional next-slab-ID section -/
theorem mapDataV1AfterIED_next (id : SlabID) (h : SlabHead) (extra : Option MapExtra) (xs : List XD) (next : SlabID)
    (hnx : h.hasNextSlabID = decide (next ≠ SlabID.undef)) (hnext : validNext next) (body : Bytes) :
    mapDataV1AfterIED id h extra xs ((if decide (next ≠ SlabID.undef) = true then encodeSlabID next else []) ++ body)
      = mapDataContent id h extra next xs body := by
  unfold mapDataV1AfterIED
  rw [hnx]
  by_cases hn : next = SlabID.undef
  · subst hn
    simp only [ne_eq, not_true_eq_false, decide_false, Bool.false_eq_true, ↓reduceIte, List.nil_append]
  · simp only [ne_eq, hn, not_false_eq_true, decide_true, ↓reduceIte]
    rw [if_neg (by simp [length_encodeSlabID, SlabIDLength])]
    exact nextID_reads next hnext body _

end Atree.Codec

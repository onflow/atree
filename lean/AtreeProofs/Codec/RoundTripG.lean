import AtreeProofs.Codec.Accept
import AtreeProofs.Codec.EncLemmasG
/-
  Values WITHOUT inlined slabs — plain values, slab references and (nested) wrappers of these; map
  elements with inline and external collision groups and last-level element lists.  The predicates
  and measures the statements about them are phrased with (`noInl`, `RT`, `vneed`, `fuelNeed`,
  `allocs`), and what `noInl` gives of the encoder: it leaves its extra-data state as it is, writes
  the same bytes from any state, and nothing in the compact form (`noCompact_of_noInl`).
-/
namespace Atree.Codec
open Atree Atree.Gen DM

mutual
/-- no inlined array / map inside -/
def Stor.noInl : Stor → Prop
  | .val _ _ => True
  | .ref _ => True
  | .some s => s.noInl
  | .arr _ _ _ => False
  | .map _ _ _ => False
def SEl.noInl : SEl → Prop
  | .mk k v => k.noInl ∧ v.noInl
def MEl.noInl : MEl → Prop
  | .single e => e.noInl
  | .inl els => els.noInl
  | .ext _ => True
def MEls.noInl : MEls → Prop
  | .hkey _ _ es => noInlMElList es
  | .single _ es => noInlSElList es
def noInlMElList : List MEl → Prop
  | [] => True
  | e :: es => e.noInl ∧ noInlMElList es
def noInlSElList : List SEl → Prop
  | [] => True
  | e :: es => e.noInl ∧ noInlSElList es
end

def noInlSts : List Stor → Prop
  | [] => True
  | s :: ss => s.noInl ∧ noInlSts ss

mutual
/-- values the encoder and the decoder agree on: plain values of the harness, slab IDs that fit 16
    bytes, sizes that fit `uint32`, counts that fit the fixed-width heads, digest levels below 24
    (the encoder writes the level as one byte; Go refuses levels above `maxDigestLevel`).  It asks
    nothing of `.arr` / `.map`: it stands next to `noInl`, which excludes them (with them: `RTI`,
    InlDefs.lean) -/
def Stor.RT : Stor → Prop
  | .val size pay => validElem { size := size, pay := .val pay }
  | .ref id => id.addr < 2 ^ 64 ∧ id.idx < 2 ^ 64
  | .some s => s.RT
  | .arr _ _ _ => True
  | .map _ _ _ => True
def SEl.RT : SEl → Prop
  | .mk k v => k.RT ∧ v.RT ∧ singleElementPrefixSize + k.size + v.size ≤ maxUint32
def MEl.RT : MEl → Prop
  | .single e => e.RT
  | .inl els => els.RT
  | .ext id => id.addr < 2 ^ 64 ∧ id.idx < 2 ^ 64
def MEls.RT : MEls → Prop
  | .hkey level hkeys es =>
    level < 24 ∧ hkeys.length = es.length ∧ es.length < 8192 ∧ (∀ h ∈ hkeys, h < 2 ^ 64) ∧ rtMElList es ∧
      hkeyElementsPrefixSize + sizeMEl es ≤ maxUint32
  | .single level es =>
    level < 24 ∧ es ≠ [] ∧ es.length < 65536 ∧ rtSElList es ∧ singleElementsPrefixSize + sizeSEl es ≤ maxUint32
def rtMElList : List MEl → Prop
  | [] => True
  | e :: es => e.RT ∧ rtMElList es
def rtSElList : List SEl → Prop
  | [] => True
  | e :: es => e.RT ∧ rtSElList es
end

mutual
/-- nesting levels the CBOR validator needs for the encoding (its limit is 32): nested tag numbers
    (wrappers) and arrays (elements, single elements, collision groups) -/
def Stor.vneed : Stor → Nat
  | .val _ _ => 1
  | .ref _ => 1
  | .some s => s.vneed + 1
  | .arr _ _ _ => 0
  | .map _ _ _ => 0
def SEl.vneed : SEl → Nat
  | .mk k v => max k.vneed v.vneed + 1
def MEl.vneed : MEl → Nat
  | .single e => e.vneed
  | .inl els => els.vneed + 1
  | .ext _ => 2
def MEls.vneed : MEls → Nat
  | .hkey _ _ es => vneedMElList es + 2
  | .single _ es => vneedSElList es + 2
def vneedMElList : List MEl → Nat
  | [] => 0
  | e :: es => max e.vneed (vneedMElList es)
def vneedSElList : List SEl → Nat
  | [] => 0
  | e :: es => max e.vneed (vneedSElList es)
end

def vneedSts : List Stor → Nat
  | [] => 0
  | s :: ss => max s.vneed (vneedSts ss)

/-- fuel the storable decoder needs -/
def Stor.fuelNeed : Stor → Nat
  | .some s => s.fuelNeed + 1
  | _ => 1

def SEl.fuelNeed : SEl → Nat
  | .mk k v => max k.fuelNeed v.fuelNeed + 1

def fuelSElList : List SEl → Nat
  | [] => 0
  | e :: es => max e.fuelNeed (fuelSElList es) + 1

mutual
def MEl.fuelNeed : MEl → Nat
  | .single e => e.fuelNeed + 1
  | .inl els => els.fuelNeed + 1
  | .ext _ => 2
def MEls.fuelNeed : MEls → Nat
  | .hkey _ _ es => fuelMElList es + 1
  | .single _ es => fuelSElList es + 1
def fuelMElList : List MEl → Nat
  | [] => 0
  | e :: es => max e.fuelNeed (fuelMElList es) + 1
end

mutual
/-- slice elements the decoder allocates.  `decMElsG` makes the digest slice, empty for a last-level
    list, before the element slice: `0 + es.length` is the shape its counter has -/
def MEl.allocs : MEl → Nat
  | .single _ => 0
  | .inl els => els.allocs
  | .ext _ => 0
def MEls.allocs : MEls → Nat
  | .hkey _ hkeys es => hkeys.length + es.length + allocsMElList es
  | .single _ es => 0 + es.length
def allocsMElList : List MEl → Nat
  | [] => 0
  | e :: es => e.allocs + allocsMElList es
end

/-- bytes of the elements of a list, without the digests -/
def bytesMEl : List MEl → Nat
  | [] => 0
  | e :: es => e.size + bytesMEl es

theorem sizeMEl_eq : ∀ (l : List MEl), sizeMEl l = bytesMEl l + 8 * l.length
  | [] => rfl
  | e :: es => by simp only [sizeMEl, bytesMEl, sizeMEl_eq es, List.length_cons, digestSize]; omega

/-! Without inlined slabs the encoder's state does not matter: it is handed back as it came, and the bytes
    are those written from the empty state. -/

mutual
theorem encSt_eq_noInl : (s : Stor) → (xs : List XD) → s.noInl → encSt s xs = ((encSt s []).1, xs)
  | .val _ _, xs, _ => by simp only [encSt]
  | .ref _, xs, _ => by simp only [encSt]
  | .some s, xs, h => by simp only [encSt]; rw [encSt_eq_noInl s xs h]
  | .arr _ _ _, _, h => h.elim
  | .map _ _ _, _, h => h.elim
theorem encSEl_eq_noInl : (e : SEl) → (xs : List XD) → e.noInl → encSEl e xs = ((encSEl e []).1, xs)
  | .mk k v, xs, h => by
    simp only [encSEl]
    rw [encSt_eq_noInl k xs h.1, encSt_eq_noInl k [] h.1, encSt_eq_noInl v xs h.2, encSt_eq_noInl v [] h.2]
theorem encMEl_eq_noInl : (e : MEl) → (xs : List XD) → e.noInl → encMEl e xs = ((encMEl e []).1, xs)
  | .single e, xs, h => by simp only [encMEl]; exact encSEl_eq_noInl e xs h
  | .inl els, xs, h => by simp only [encMEl]; rw [encMEls_eq_noInl els xs h]
  | .ext _, xs, _ => by simp only [encMEl]
theorem encMEls_eq_noInl : (els : MEls) → (xs : List XD) → els.noInl → encMEls els xs = ((encMEls els []).1, xs)
  | .hkey _ _ es, xs, h => by simp only [encMEls]; rw [encMElList_eq_noInl es xs h]
  | .single _ es, xs, h => by simp only [encMEls]; rw [encSElList_eq_noInl es xs h]
theorem encMElList_eq_noInl : (l : List MEl) → (xs : List XD) → noInlMElList l →
    encMElList l xs = ((encMElList l []).1, xs)
  | [], xs, _ => by simp only [encMElList]
  | e :: es, xs, h => by
    simp only [encMElList]
    rw [encMEl_eq_noInl e xs h.1, encMEl_eq_noInl e [] h.1, encMElList_eq_noInl es xs h.2, encMElList_eq_noInl es [] h.2]
theorem encSElList_eq_noInl : (l : List SEl) → (xs : List XD) → noInlSElList l →
    encSElList l xs = ((encSElList l []).1, xs)
  | [], xs, _ => by simp only [encSElList]
  | e :: es, xs, h => by
    simp only [encSElList]
    rw [encSEl_eq_noInl e xs h.1, encSEl_eq_noInl e [] h.1, encSElList_eq_noInl es xs h.2, encSElList_eq_noInl es [] h.2]
end

theorem encSts_eq_noInl : (l : List Stor) → (xs : List XD) → noInlSts l → encSts l xs = ((encSts l []).1, xs)
  | [], xs, _ => by simp only [encSts]
  | s :: ss, xs, h => by
    simp only [encSts]
    rw [encSt_eq_noInl s xs h.1, encSt_eq_noInl s [] h.1, encSts_eq_noInl ss xs h.2, encSts_eq_noInl ss [] h.2]

theorem encSt_noInl (s : Stor) (xs : List XD) (h : s.noInl) : (encSt s xs).2 = xs :=
  congrArg Prod.snd (encSt_eq_noInl s xs h)

theorem encSts_noInl (l : List Stor) (xs : List XD) (h : noInlSts l) : (encSts l xs).2 = xs :=
  congrArg Prod.snd (encSts_eq_noInl l xs h)

theorem encMEl_noInl : (e : MEl) → (xs : List XD) → e.noInl → (encMEl e xs).2 = xs :=
  fun e xs h => congrArg Prod.snd (encMEl_eq_noInl e xs h)

theorem encMEls_noInl (els : MEls) (xs : List XD) (h : els.noInl) : (encMEls els xs).2 = xs :=
  congrArg Prod.snd (encMEls_eq_noInl els xs h)

theorem encMElList_noInl : (l : List MEl) → (xs : List XD) → noInlMElList l → (encMElList l xs).2 = xs :=
  fun l xs h => congrArg Prod.snd (encMElList_eq_noInl l xs h)

mutual
theorem Stor.noCompact_of_noInl : (s : Stor) → s.noInl → s.noCompact
  | .val _ _, _ => trivial
  | .ref _, _ => trivial
  | .some s, h => Stor.noCompact_of_noInl s h
  | .arr _ _ _, h => h.elim
  | .map _ _ _, h => h.elim
theorem SEl.noCompact_of_noInl : (e : SEl) → e.noInl → e.noCompact
  | .mk k v, h => ⟨Stor.noCompact_of_noInl k h.1, Stor.noCompact_of_noInl v h.2⟩
theorem MEl.noCompact_of_noInl : (e : MEl) → e.noInl → e.noCompact
  | .single e, h => SEl.noCompact_of_noInl e h
  | .inl els, h => MEls.noCompact_of_noInl els h
  | .ext _, _ => trivial
theorem MEls.noCompact_of_noInl : (els : MEls) → els.noInl → els.noCompact
  | .hkey _ _ es, h => noCompactMElList_of_noInl es h
  | .single _ es, h => noCompactSElList_of_noInl es h
theorem noCompactMElList_of_noInl : (l : List MEl) → noInlMElList l → noCompactMElList l
  | [], _ => trivial
  | e :: es, h => ⟨MEl.noCompact_of_noInl e h.1, noCompactMElList_of_noInl es h.2⟩
theorem noCompactSElList_of_noInl : (l : List SEl) → noInlSElList l → noCompactSElList l
  | [], _ => trivial
  | e :: es, h => ⟨SEl.noCompact_of_noInl e h.1, noCompactSElList_of_noInl es h.2⟩
end

theorem noCompactSts_of_noInl : (l : List Stor) → noInlSts l → noCompactSts l
  | [], _ => trivial
  | s :: ss, h => ⟨Stor.noCompact_of_noInl s h.1, noCompactSts_of_noInl ss h.2⟩

theorem flatten_pair (a b : Bytes) : [a, b].flatten = a ++ b := by simp

theorem flatten_triple (a b c : Bytes) : [a, b, c].flatten = a ++ (b ++ c) := by simp

end Atree.Codec

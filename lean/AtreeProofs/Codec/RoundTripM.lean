import AtreeProofs.Codec.HeadG
import AtreeProofs.Codec.RoundTrip
/-
  Round trip of the map extra-data section and of map index slabs (`MapMetaOK`: what the encoder relies
  on there); `decodeSlabGen_cons2`: the second part of the decoder dispatches on the two head bytes.
-/
namespace Atree.Codec
open Atree Atree.Gen DM

/-! The encoder finds a type info in its extra data by comparing encodings, which tells valid type infos apart. -/

theorem head0_inj {a b : Nat} (ha : a < 2 ^ 64) (hb : b < 2 ^ 64) (h : head 0 a = head 0 b) : a = b := by
  have h1 := wfHead_head (major := 0) (by omega) ha []
  have h2 := wfHead_head (major := 0) (by omega) hb []
  rw [h] at h1
  rw [h1] at h2
  simp only [Option.some.injEq, Prod.mk.injEq, Head.mk.injEq] at h2
  exact h2.1.2.2

theorem encodeTy_inj {a b : TyInfo} (ha : validTy a) (hb : validTy b) (h : encodeTy a = encodeTy b) : a = b := by
  cases a with
  | plain x =>
    cases b with
    | plain y => simp only [encodeTy] at h; rw [head0_inj ha hb h]
    | composite y =>
      simp only [encodeTy, head_tagCompositeTI] at h
      have h1 := wfHead_head (major := 0) (by omega) ha []
      rw [h] at h1
      simp [wfHead] at h1
  | composite x =>
    cases b with
    | plain y =>
      simp only [encodeTy, head_tagCompositeTI] at h
      have h1 := wfHead_head (major := 0) (by omega) hb []
      rw [← h] at h1
      simp [wfHead] at h1
    | composite y =>
      simp only [encodeTy, head_tagCompositeTI, List.cons_append, List.nil_append, List.cons.injEq, true_and] at h
      rw [head0_inj ha hb h]

/-- a `MapExtraData` the encoder and the decoder agree on -/
def validMapExtra (x : MapExtra) : Prop := validTy x.ty ∧ x.count < 2 ^ 64 ∧ x.seed < 2 ^ 64

/-- a map's extra data `[type info, count, seed]`, whichever way the type info is written -/
theorem acc_encodeMapExtraWith {f : TyInfo → Bytes} {x : MapExtra} (hf : Acc (f x.ty) 1) (hc : x.count < 2 ^ 64)
    (hs : x.seed < 2 ^ 64) : Acc (encodeMapExtraWith f x) 2 := by
  have hl : AccList [f x.ty, head 0 x.count, head 0 x.seed] 1 := by
    intro b hb
    simp only [List.mem_cons, List.not_mem_nil, or_false] at hb
    rcases hb with rfl | rfl | rfl
    · exact hf
    · exact (Acc.uint hc).mono (by omega)
    · exact (Acc.uint hs).mono (by omega)
  have := Acc.array (by simp [maxArrayElements]) hl
  simpa [encodeMapExtraWith, mapExtraDataLength, flatten_triple, List.append_assoc] using this

theorem acc_encodeMapExtra (x : MapExtra) (hv : validMapExtra x) : Acc (encodeMapExtra x) 2 :=
  acc_encodeMapExtraWith (acc_encodeTy _ hv.1) hv.2.1 hv.2.2

/-- `newMapExtraData`, given what its type-info decoder answers on the type info as it is written -/
theorem newMapExtraData_reads_of {f : TyInfo → Bytes} (tis : List TyInfo) (m : MapExtra)
    (hty : ∀ {d d' : Dec}, d.Reads (f m.ty) d' → decodeTypeInfoRef tis d = pure (m.ty, d'))
    (hc : m.count < 2 ^ 64) (hs : m.seed < 2 ^ 64) {d d' : Dec} (h : d.Reads (encodeMapExtraWith f m) d') :
    newMapExtraData tis d = pure (m, d') := by
  simp only [encodeMapExtraWith, List.append_assoc] at h
  obtain ⟨d1, h1, h⟩ := h.split
  obtain ⟨d2, h2, h⟩ := h.split
  obtain ⟨d3, h3, h4⟩ := h.split
  unfold newMapExtraData
  rw [decodeArrayHead_reads (by simp [mapExtraDataLength]) h1]
  simp only [DM.liftOpt_some, DM.pure_bind, ne_eq, not_true_eq_false, ↓reduceIte]
  rw [hty h2]
  simp only [DM.pure_bind]
  rw [decodeUint64_reads hc h3]
  simp only [DM.liftOpt_some, DM.pure_bind]
  rw [decodeUint64_reads hs h4]
  rfl

theorem newMapExtraDataFromData_enc (x : MapExtra) (hv : validMapExtra x) (rest : Bytes) :
    newMapExtraDataFromData (encodeMapExtra x ++ rest) = pure (x, rest) := by
  have hw := wfNext_of_acc (acc_encodeMapExtra x hv) (by decide) rest
  have hnew : newMapExtraData [] (Dec.new (encodeMapExtra x ++ rest)) = newMapExtraData []
      { data := encodeMapExtra x ++ rest, remaining := (encodeMapExtra x ++ rest).length - rest.length, consumed := 0 } := by
    unfold newMapExtraData
    rw [show (Dec.new (encodeMapExtra x ++ rest)).decodeArrayHead = _ from decodeHeadOf_new hw]
    rfl
  have hr := Dec.Reads.item (data := encodeMapExtra x ++ rest) (b := encodeMapExtra x) rfl
  unfold newMapExtraDataFromData
  rw [hnew, newMapExtraData_reads_of (f := encodeTy) [] x
    (fun h => by unfold decodeTypeInfoRef; exact decodeTypeInfo_reads x.ty hv.1 h) hv.2.1 hv.2.2 hr]
  simp only [DM.pure_bind, Dec.numBytesDecoded]
  rw [sliceFrom_at _ _ rfl]
  rfl

/-- a child header as the encoder can write it -/
def validMChildHdr (addr : Nat) (h : MChildHdr) : Prop :=
  h.id.addr = addr ∧ h.id.idx < 2 ^ 64 ∧ h.firstKey < 2 ^ 64 ∧ h.size < 65536

theorem mapMetaLoopV1_enc (addr : Nat) : ∀ (hdrs : List MChildHdr) (pre : Bytes) (off : Nat), off = pre.length →
    (∀ h ∈ hdrs, validMChildHdr addr h) →
    mapMetaLoopV1 (pre ++ hdrs.flatMap encodeMChildHdr) addr hdrs.length off = pure hdrs
  | [], pre, off, _, _ => by simp [mapMetaLoopV1]
  | h :: hs, pre, off, hoff, hv => by
    obtain ⟨ha, hi, hk, hsz⟩ := hv h (List.mem_cons_self ..)
    simp only [List.flatMap_cons, List.length_cons, mapMetaLoopV1, encodeMChildHdr, digestSize, List.append_assoc]
    rw [sliceFrom_at pre _ hoff]
    simp only [DM.pure_bind]
    rw [beVal_copyN_beBytes (by simpa [SlabIndexLength] using hi), ← List.append_assoc pre,
      sliceFrom_at _ _ (by simp [hoff])]
    simp only [DM.pure_bind]
    rw [be64_beBytes hk, ← List.append_assoc (pre ++ _), sliceFrom_at _ _ (by simp [hoff, Nat.add_assoc])]
    simp only [DM.pure_bind]
    rw [be16_beBytes hsz]
    simp only [DM.pure_bind]
    rw [← List.append_assoc (pre ++ _ ++ _),
      mapMetaLoopV1_enc addr hs _ _ (by simp [hoff, Nat.add_assoc]) (fun x hx => hv x (List.mem_cons_of_mem _ hx))]
    simp only [DM.pure_bind]
    have : ({ addr := addr, idx := h.id.idx } : SlabID) = h.id := by
      cases hid : h.id with
      | mk a i => rw [hid] at ha; simp at ha; simp [ha]
    rw [this]

/-- the part of `newMapMetaDataSlabFromDataV1` after the root's extra data, on what the encoder writes
    there: address, child count, child headers; trailing bytes are rejected -/
theorem mapMetaV1AfterExtra_enc (id : SlabID) (x : Option MapExtra) (hdrs : List MChildHdr) (extra : Bytes)
    (haddr : id.addr < 2 ^ 64) (hv : ∀ h ∈ hdrs, validMChildHdr id.addr h) (hn : hdrs.length < 65536) (n : Nat) :
    mapMetaV1AfterExtra id x
        (beBytes SlabAddressLength id.addr ++ (beBytes 2 hdrs.length ++ (hdrs.flatMap encodeMChildHdr ++ extra))) n =
      if extra ≠ [] then .error .decoding n
      else .ok (.mindex { id := id, extra := x, childHdrs := hdrs }) (n + hdrs.length) := by
  unfold mapMetaV1AfterExtra
  rw [if_neg (by simp [SlabAddressLength, mapMetaDataSlabPrefixSize, versionAndFlagSize]; omega), sliceFrom_zero]
  simp only [DM.pure_bind]
  rw [beVal_copyN_beBytes (by simpa [SlabAddressLength] using haddr),
    sliceFrom_at (beBytes SlabAddressLength id.addr) _ (by simp)]
  simp only [DM.pure_bind]
  rw [be16_beBytes hn, ← List.append_assoc,
    sliceFrom_at _ _ (by simp [SlabAddressLength, newMapMetaDataSlabFromDataV1_arrayHeaderSize])]
  simp only [DM.pure_bind]
  by_cases hex : extra = []
  · subst hex
    simp only [List.append_nil, length_flatMap_encodeMChildHdr, ne_eq, not_true_eq_false, ↓reduceIte]
    rw [DM.alloc_bind]
    simp only
    rw [mapMetaLoopV1_enc id.addr hdrs _ _ (by simp [SlabAddressLength, newMapMetaDataSlabFromDataV1_arrayHeaderSize]) hv]
    rfl
  · have hne : (hdrs.flatMap encodeMChildHdr ++ extra).length ≠ mapSlabHeaderSize * hdrs.length := by
      have : 0 < extra.length := List.length_pos_iff.2 hex
      simp only [List.length_append, length_flatMap_encodeMChildHdr]; omega
    rw [if_pos hne, if_pos hex]
    rfl

/-- What the encoder relies on for a map index slab. -/
structure MapMetaOK (m : MapMeta) : Prop where
  addr : m.id.addr < 2 ^ 64
  hdrs : ∀ h ∈ m.childHdrs, validMChildHdr m.id.addr h
  n16 : m.childHdrs.length < 65536
  extra : ∀ x, m.extra = some x → validMapExtra x

theorem decodeSlabFlat_map (id : SlabID) (b0 b1 : Nat) (tail : Bytes) (n : Nat)
    (h : (⟨b0, b1⟩ : SlabHead).slabType = .map) :
    decodeSlabFlat id (b0 :: b1 :: tail) n = .error .unsupported n := by
  rw [decodeSlabFlat_cons2, h]
  rfl

theorem decodeSlabGen_cons2 (id : SlabID) (b0 b1 : Nat) (tail : Bytes) :
    decodeSlabGen id (b0 :: b1 :: tail) =
      match (⟨b0, b1⟩ : SlabHead).slabType with
      | .array =>
        match (⟨b0, b1⟩ : SlabHead).arrayType with
        | .data => newArrayDataSlabFromDataG id (b0 :: b1 :: tail)
        | .index => newArrayMetaDataSlabFromData id (b0 :: b1 :: tail)
        | _ => DM.fail
      | .map =>
        match (⟨b0, b1⟩ : SlabHead).mapType with
        | .data => newMapDataSlabFromData id (b0 :: b1 :: tail)
        | .index => newMapMetaDataSlabFromData id (b0 :: b1 :: tail)
        | .collisionGroup => newMapDataSlabFromData id (b0 :: b1 :: tail)
        | _ => DM.fail
      | .storable => do
        let (s, _) ← decStG (tail.length + 1) 0 (Dec.new tail) id.addr []
        pure (.storableG id s)
      | .undefined => DM.fail := by
  unfold decodeSlabGen
  rw [slabHead_cons2]
  simp only [sliceFrom_cons2, DM.pure_bind]
  generalize (SlabHead.mk b0 b1).slabType = st
  generalize (SlabHead.mk b0 b1).arrayType = aty
  generalize (SlabHead.mk b0 b1).mapType = mty
  cases st <;> cases aty <;> cases mty <;> rfl

theorem newMapMetaDataSlabFromData_cons2 (id : SlabID) (b0 b1 : Nat) (tail : Bytes) :
    newMapMetaDataSlabFromData id (b0 :: b1 :: tail) =
      if (⟨b0, b1⟩ : SlabHead).mapType ≠ .index then DM.fail
      else if (⟨b0, b1⟩ : SlabHead).version = 0 then newMapMetaDataSlabFromDataV0 id ⟨b0, b1⟩ tail
      else if (⟨b0, b1⟩ : SlabHead).version = 1 then newMapMetaDataSlabFromDataV1 id ⟨b0, b1⟩ tail
      else DM.fail := by
  unfold newMapMetaDataSlabFromData
  rw [slabHead_cons2]
  simp only [sliceFrom_cons2, DM.pure_bind]

/-- `DecodeSlab` on the encoding of a map index slab followed by `extra` bytes -/
theorem decodeSlab_encodeMapMeta (m : MapMeta) (ok : MapMetaOK m) (extra : Bytes) (n : Nat) :
    decodeSlab m.id (encodeMapMeta m ++ extra) n =
      if extra ≠ [] then .error .decoding n
      else .ok (.mindex m) (n + m.childHdrs.length) := by
  obtain ⟨id, ext, hdrs⟩ := m
  obtain ⟨haddr, hhdrs, hn16, hext⟩ := ok
  simp only at haddr hhdrs hn16 hext
  have hf := head_mmeta_facts ext.isSome
  simp only at hf
  obtain ⟨hf1, hf2, hf3, hf4, _, _⟩ := hf
  unfold encodeMapMeta
  simp only [List.cons_append, List.nil_append, List.append_assoc]
  rw [decodeSlab_of_flat_unsupported (decodeSlabFlat_map _ _ _ _ n hf1), decodeSlabGen_cons2, hf1]
  simp only [hf2]
  rw [newMapMetaDataSlabFromData_cons2, hf2, hf3]
  simp only [ne_eq, not_true_eq_false, ↓reduceIte, show ¬ ((1 : Nat) = 0) by decide]
  unfold newMapMetaDataSlabFromDataV1
  exact (congrFun (rootExtra_reads (enc := fun o => match o with | some x => encodeMapExtra x | none => []) rfl ext hf4
    (fun x hx rest => newMapExtraDataFromData_enc x (hext x hx) rest) (mapMetaV1AfterExtra id) _) n).trans
    (mapMetaV1AfterExtra_enc id ext hdrs extra haddr hhdrs hn16 n)

end Atree.Codec

import AtreeProofs.Codec.VDepthW
/-
  Round trip of the slabs that hold wrapped values and no inlined slab (the first part of the decoder
  gives up at the first wrapper): large-value slabs, and array data slabs whose has-inlined-slabs
  flag is clear (the exact-depth theorem of VDepthW.lean read at `ArrDataOKW`).
-/
namespace Atree.Codec
open Atree Atree.Gen DM

theorem decStG_new (fuel depth : Nat) (data rest' : Bytes) (addr : Nat) (xs : List XD)
    (hw : wfNext data = some rest') :
    decStG fuel depth (Dec.new data) addr xs
      = decStG fuel depth { data := data, remaining := data.length - rest'.length, consumed := 0 } addr xs := by
  cases fuel with
  | zero => simp [decStG]
  | succ f =>
    conv => lhs; unfold decStG
    conv => rhs; unfold decStG
    rw [nextType_new hw]

/-- `DecodeSlab` on the encoding of a large-value slab holding a wrapped value (no inlined slab: the
    Go encoder refuses those), followed by ANY `extra` bytes -/
theorem decodeSlab_encodeStorableSlabG (id : SlabID) (x : Stor) (hrt : x.RT) (hni : x.noInl)
    (hnest : x.vneed + 1 ≤ maxNestedLevels) (extra : Bytes) (n : Nat) :
    decodeSlab id (encodeStorableSlabG (.some x) ++ extra) n = .ok (.storableG id (.some x)) n := by
  have hs : (Stor.some x).RT := hrt
  have hsn : (Stor.some x).noInl := hni
  have hlen := lenSt_eq (.some x) [] (Stor.OK_of_RT _ hs hsn) (Stor.noCompact_of_noInl _ hsn)
  have hacc := Stor.vneedI_of_noInl _ hsn ▸ accStC (.some x) [] (Stor.RTI_of_RT _ hs hsn)
  have hw := wfNext_of_acc hacc (by simp only [Stor.vneed]; exact hnest) extra
  have hf := head_storable_facts (Stor.some x).hasPtr
  simp only at hf
  have hsz : 2 ≤ (Stor.some x).size := by simp only [Stor.size, someOverhead]; omega
  unfold encodeStorableSlabG
  simp only [List.cons_append, List.nil_append]
  have hrem : ((encSt (.some x) []).1 ++ extra).length - extra.length = (Stor.some x).size := by simp [hlen]
  have hflat : decodeSlabFlat id ((StorableSlab_Encode_version * 16) ::
      (maskStorable ||| maskSlabAnySize ||| flagIf (Stor.some x).hasPtr maskSlabHasPointers) ::
      ((encSt (.some x) []).1 ++ extra)) n = .error .unsupported n := by
    rw [decodeSlabFlat_cons2, hf.1]
    simp only
    rw [decodeElem_new _ _ hw, hrem]
    show (decodeElem _ >>= _) n = _
    have hE : (encSt (.some x) []).1 ++ extra = [0xd8, tagSomeValue] ++ ((encSt x []).1 ++ extra) := by
      simp only [encSt, tagHead8, List.append_assoc]
    rw [hE]
    have := decodeElem_wrapper (Dec.Reads.of_le [0xd8, tagSomeValue] ((encSt x []).1 ++ extra) 0 hsz) n
    show DM.bind' _ _ n = _
    unfold DM.bind'
    rw [this]
  rw [decodeSlab_of_flat_unsupported hflat, decodeSlabGen_cons2, hf.1]
  simp only
  rw [decStG_new _ _ _ _ _ _ hw, hrem]
  have hi := Stor.RTI_of_RT _ hs hsn
  have hdec := decStG_encI (.some x) hi (Stor.noCompact_of_noInl _ hsn) (((encSt (.some x) []).1 ++ extra).length + 1) 0
    extra (Stor.some x).size 0 id.addr [] [] n XOK.nil (by rw [encSt_noInl _ _ hsn]; exact ⟨[], rfl⟩) (Nat.zero_le _)
    (by have := Stor.fuelI_le_size _ hi; simp only [List.length_append, hlen]; omega)
    (by have := Stor.dneed_le (.some x); rw [Stor.vneedI_of_noInl _ hsn] at this
        simp only [maxDecodeDepth, maxNestedLevels, Stor.vneed] at hnest this ⊢; omega) (Nat.le_refl _)
  rw [DM.bind_ok hdec, Stor.allocsI_of_noInl _ hsn]
  rfl

/-- `DecodeSlab` on the encoding of an array data slab with wrapped elements (no inlined slab),
    followed by `extra` bytes -/
theorem decodeSlab_encodeArrDataW (a : ArrData) (ok : ArrDataOKW a) (extra : Bytes) (n : Nat) :
    decodeSlab a.id (encodeArrData a ++ extra) n =
      if extra ≠ [] then .error .decoding (n + a.elems.length + allocsISts a.elems)
      else .ok (.adata a) (n + a.elems.length + allocsISts a.elems) :=
  decodeSlab_encodeArrDataWX a ok.toX extra n

end Atree.Codec

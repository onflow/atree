import AtreeProofs.Codec.RoundTripW
/-
  The round trip, the re-encoding fixpoint and the length law for all seven slab kinds at once.
  `SlabOK` (RoundTrip.lean) is the predicate of the first part of the decoder and `False` for
  `.adata / .mdata / .mindex / .storableG`; `SlabOKG` collects the kind-specific hypotheses;
  `normSlab` is what the decoder returns (the slab itself, except that compact-encoded inlined maps
  come back in the shared entry's key order — `normMEls` / `normSts`); the theorems below dispatch
  to the kind-specific ones.
-/
namespace Atree.Codec
open Atree Atree.Gen DM

/-- `MapDataOKC` covers map data slabs without inlined children too -/
theorem MapDataOK.toC {s : MapData} (ok : MapDataOK s) : MapDataOKC s where
  rt := MEls.RTI_of_RT s.els ok.rt ok.noInl
  nodup := MEls.nodupKeys_of_noCompact s.els (MEls.noCompact_of_noInl s.els ok.noInl)
  nest := by rw [MEls.vneedI_of_noInl s.els ok.noInl]; exact ok.nest
  entries := by rw [encMEls_noInl s.els [] ok.noInl]; simp
  next := ok.next
  extra := ok.extra
  size := ok.size

/-- `DecodeSlab` on the encoding of a map data / collision-group slab followed by ANY `more` bytes:
    the slab comes back (the map data slab decoder has no end-of-data check). -/
theorem decodeSlab_encodeMapData (s : MapData) (ok : MapDataOK s) (more : Bytes) (n : Nat) :
    decodeSlab s.id (encodeMapData s ++ more) n = .ok (.mdata s) (n + s.els.allocs) := by
  have := decodeSlab_encodeMapDataX s ok.toC.toX more n
  rw [normMEls_noCompact s.els [] (MEls.noCompact_of_noInl s.els ok.noInl), encMEls_noInl s.els [] ok.noInl,
    MEls.allocsI_of_noInl s.els ok.noInl] at this
  exact this

/-! Without the compact form `noCompact` implies `nodupKeys` (EncLemmasG.lean), so the `…OKI` hypotheses
are covered too. -/

theorem MapDataOKI.toC {s : MapData} (ok : MapDataOKI s) : MapDataOKC s where
  rt := ok.rt
  nodup := MEls.nodupKeys_of_noCompact s.els ok.noCompact
  nest := ok.nest
  entries := ok.entries
  next := ok.next
  extra := ok.extra
  size := ok.size

theorem ArrDataOKI.toC {a : ArrData} (ok : ArrDataOKI a) : ArrDataOKC a where
  rt := ok.rt
  nodup := nodupKeysSts_of_noCompact a.elems ok.noCompact
  nest := ok.nest
  count := ok.count
  inlined := ok.inlined
  entries := ok.entries
  next := ok.next
  ty := ok.ty
  size := ok.size

theorem MapDataOKI.toX {s : MapData} (ok : MapDataOKI s) : MapDataOKX s := ok.toC.toX

theorem ArrDataOKI.toX {a : ArrData} (ok : ArrDataOKI a) : ArrDataOKX a := ok.toC.toX

/-- What encoder and decoder rely on, for every slab kind of the model:
    * `.data / .index / .storable` — `SlabOK` (`DataOK` / `MetaOK` / `validElem`);
    * `.adata a` — `ArrDataOKX a` (at least one inlined array / map / compact map, any depth) or
      `ArrDataOKWX a` (wrapped elements, no inlined child);
    * `.mdata m` — `MapDataOKX m` (inlined children in any form OR none);
      the nesting clause of the three is the EXACT one, `Slab.vdepth ≤ maxNestedLevels` (VDepthSlab.lean,
      VDepthW.lean): one level more and the register does not decode.  The predicates with the
      over-approximating clause `vneedI ≤ maxNestedLevels` imply them (`MapDataOKC.toX`, `MapDataOK.toC`,
      `MapDataOKI.toX`, `ArrDataOKC.toX`, `ArrDataOKI.toX`, `ArrDataOKW.toX`);
    * `.mindex m` — `MapMetaOK m`;
    * `.storableG id s` — the hypotheses of `decodeSlab_encodeStorableSlabG`: `s` is a wrapper
      (`isFlat = false`, no inlined slab: the Go encoder refuses those in a large-value slab) of
      valid values nested within the CBOR library's limit. -/
def SlabOKG : Slab → Prop
  | .data ty s => SlabOK (.data ty s)
  | .index ty m => SlabOK (.index ty m)
  | .storable id e => SlabOK (.storable id e)
  | .adata a => ArrDataOKX a ∨ ArrDataOKWX a
  | .mdata m => MapDataOKX m
  | .mindex m => MapMetaOK m
  | .storableG _ s => s.RT ∧ s.noInl ∧ s.isFlat = false ∧ s.vneed ≤ maxNestedLevels

theorem SlabOKG_of_SlabOK {s : Slab} (ok : SlabOK s) : SlabOKG s := by
  cases s with
  | data ty d => exact ok
  | index ty m => exact ok
  | storable id e => exact ok
  | adata _ => exact ok.elim
  | mdata _ => exact ok.elim
  | mindex _ => exact ok.elim
  | storableG _ _ => exact ok.elim

theorem storableG_shape {s : Stor} (hn : s.noInl) (hf : s.isFlat = false) : ∃ x, s = .some x := by
  cases s with
  | val _ _ => simp [Stor.isFlat] at hf
  | ref _ => simp [Stor.isFlat] at hf
  | some x => exact ⟨x, rfl⟩
  | arr _ _ _ => exact hn.elim
  | map _ _ _ => exact hn.elim

/-- The decoded form of a slab: the slab itself, except that inlined maps written in the compact
    form come back with the shared entry's key order, digests and seed (`normSts` / `normMEls`). -/
def normSlab : Slab → Slab
  | .adata a => .adata { a with elems := normSts a.elems [] }
  | .mdata m => .mdata { m with els := normMEls m.els [] }
  | s => s

/-- no inlined map of the slab is written in the compact form -/
def Slab.noCompact : Slab → Prop
  | .adata a => noCompactSts a.elems
  | .mdata m => m.els.noCompact
  | .storableG _ s => s.noCompact
  | _ => True

theorem normSlab_noCompact (s : Slab) (nc : s.noCompact) : normSlab s = s := by
  cases s with
  | adata a => simp only [normSlab, normSts_noCompact a.elems [] nc]
  | mdata m => simp only [normSlab, normMEls_noCompact m.els [] nc]
  | data _ _ => rfl
  | index _ _ => rfl
  | storable _ _ => rfl
  | mindex _ => rfl
  | storableG _ _ => rfl

theorem normSlab_id (s : Slab) : (normSlab s).id = s.id := by
  cases s <;> rfl

/-- slice elements `DecodeSlab` allocates for the register of the slab -/
def Slab.decodeAllocsG : Slab → Nat
  | .data _ s => s.elems.length
  | .index _ m => m.childHdrs.length + m.childHdrs.length
  | .storable _ _ => 0
  | .adata a => iedAllocsC (encSts a.elems []).2 + a.elems.length + allocsISts (normSts a.elems [])
  | .mdata m => iedAllocsC (encMEls m.els []).2 + (normMEls m.els []).allocsI
  | .mindex m => m.childHdrs.length
  | .storableG _ _ => 0

/-- `DecodeSlab (EncodeSlab s) = normSlab s` for every slab kind, with the exact allocation count -/
theorem decodeSlab_encodeSlab_all (s : Slab) (ok : SlabOKG s) (n : Nat) :
    decodeSlab s.id (encodeSlab s) n = .ok (normSlab s) (n + s.decodeAllocsG) := by
  cases s with
  | data ty d =>
    have := decodeSlab_encodeSlab (.data ty d) ok n
    simpa [normSlab, Slab.decodeAllocsG, Slab.decodeAllocs] using this
  | index ty m =>
    have := decodeSlab_encodeSlab (.index ty m) ok n
    simpa [normSlab, Slab.decodeAllocsG, Slab.decodeAllocs] using this
  | storable id e =>
    have := decodeSlab_encodeSlab (.storable id e) ok n
    simpa [normSlab, Slab.decodeAllocsG, Slab.decodeAllocs] using this
  | adata a =>
    rcases ok with okc | okw
    · have := decodeSlab_encodeArrDataX a okc [] n
      simp only [List.append_nil, ne_eq, not_true_eq_false, ↓reduceIte] at this
      simp only [Slab.id, encodeSlab, normSlab, Slab.decodeAllocsG]
      rw [this]
      simp only [Nat.add_assoc]
    · have := decodeSlab_encodeArrDataWX a okw [] n
      simp only [List.append_nil, ne_eq, not_true_eq_false, ↓reduceIte] at this
      have hnc := noCompactSts_of_noInl a.elems okw.noInl
      have hxs : (encSts a.elems []).2 = [] := encSts_noInl a.elems [] okw.noInl
      simp only [Slab.id, encodeSlab, normSlab, Slab.decodeAllocsG]
      rw [this, normSts_noCompact a.elems [] hnc, hxs]
      simp only [iedAllocsC, List.isEmpty_nil, ↓reduceIte, Nat.zero_add, Nat.add_assoc]
  | mdata m =>
    have := decodeSlab_encodeMapDataX m ok [] n
    simp only [List.append_nil] at this
    simp only [Slab.id, encodeSlab, normSlab, Slab.decodeAllocsG]
    rw [this]
    simp only [Nat.add_assoc]
  | mindex m =>
    have := decodeSlab_encodeMapMeta m ok [] n
    simp only [List.append_nil, ne_eq, not_true_eq_false, ↓reduceIte] at this
    simp only [Slab.id, encodeSlab, normSlab, Slab.decodeAllocsG]
    exact this
  | storableG id x =>
    obtain ⟨hrt, hni, hfl, hnest⟩ := ok
    obtain ⟨y, rfl⟩ := storableG_shape hni hfl
    have := decodeSlab_encodeStorableSlabG id y hrt hni (by simpa [Stor.vneed] using hnest) [] n
    simp only [List.append_nil] at this
    simp only [Slab.id, encodeSlab, normSlab, Slab.decodeAllocsG, Nat.add_zero]
    exact this

/-- encoding the decoded form gives the register back -/
theorem encodeSlab_normSlab (s : Slab) (ok : SlabOKG s) : encodeSlab (normSlab s) = encodeSlab s := by
  cases s with
  | data _ _ => rfl
  | index _ _ => rfl
  | storable _ _ => rfl
  | mindex _ => rfl
  | storableG _ _ => rfl
  | adata a =>
    rcases ok with okc | okw
    · exact encodeArrData_normX a okc.pre
    · have hnc := noCompactSts_of_noInl a.elems okw.noInl
      simp only [normSlab, normSts_noCompact a.elems [] hnc]
  | mdata m => exact encodeMapData_normX m ok.pre

/-- decoding never changes the size a slab reports -/
theorem byteSize_normSlab (s : Slab) (ok : SlabOKG s) : (normSlab s).byteSize = s.byteSize := by
  cases s with
  | data _ _ => rfl
  | index _ _ => rfl
  | storable _ _ => rfl
  | mindex _ => rfl
  | storableG _ _ => rfl
  | adata a =>
    have hnd : nodupKeysSts a.elems := by
      rcases ok with okc | okw
      · exact okc.nodup
      · exact nodupKeysSts_of_noCompact a.elems (noCompactSts_of_noInl a.elems okw.noInl)
    simp only [normSlab, Slab.byteSize, ArrData.size, sizeSts_norm a.elems [] hnd]
  | mdata m =>
    simp only [normSlab, Slab.byteSize, MapData.size, size_normMEls m.els [] ok.nodup]

/-- the 16 bytes of an undefined sibling link that a non-root data slab does not write -/
def Slab.omittedNext : Slab → Nat
  | .data _ d => if d.root = false ∧ d.next = SlabID.undef then 16 else 0
  | .adata a => if a.ty.isNone ∧ a.next = SlabID.undef then 16 else 0
  | .mdata m => if m.extra.isNone ∧ m.next = SlabID.undef then 16 else 0
  | _ => 0

/-- a root has no right sibling (the three data kinds; as in every tree) -/
def Slab.rootNoSibling : Slab → Prop
  | .data _ d => d.root = true → d.next = SlabID.undef
  | .adata a => a.ty.isSome = true → a.next = SlabID.undef
  | .mdata m => m.extra.isSome = true → m.next = SlabID.undef
  | _ => True

/-- `len(EncodeSlab(s)) + omitted sibling link + bytes hoisted by compact maps
      = s.ByteSize() + extra-data sections`, for every slab kind -/
theorem enc_len_slab_all (s : Slab) (ok : SlabOKG s) (hroot : s.rootNoSibling) :
    (encodeSlab s).length + s.omittedNext + s.hoisted = s.byteSize + s.extraDataLen := by
  cases s with
  | data ty d =>
    obtain ⟨hok, _⟩ := ok
    simp only [encodeSlab, Slab.byteSize, Slab.extraDataLen, Slab.omittedNext, Slab.hoisted, Nat.add_zero]
    exact enc_len_data _ d hok.size hok.notInlined hroot hok.elems
  | index ty m =>
    obtain ⟨hok, _⟩ := ok
    simp only [encodeSlab, Slab.byteSize, Slab.extraDataLen, Slab.omittedNext, Slab.hoisted, Nat.add_zero]
    exact enc_len_meta _ m hok.size
  | storable id e =>
    simp only [encodeSlab, Slab.byteSize, Slab.extraDataLen, Slab.omittedNext, Slab.hoisted, Nat.add_zero]
    exact enc_len_storable e ok
  | adata a =>
    have hrt : rtiSts a.elems := by
      rcases ok with okc | okw
      · exact okc.rt
      · exact okw.rt
    have hnd : nodupKeysSts a.elems := by
      rcases ok with okc | okw
      · exact okc.nodup
      · exact nodupKeysSts_of_noCompact a.elems (noCompactSts_of_noInl a.elems okw.noInl)
    have := enc_len_adata_exact a (okSts_of_RTI a.elems hrt) hnd hroot
    simp only [encodeSlab, Slab.byteSize, Slab.extraDataLen, Slab.omittedNext, Slab.hoisted]
    cases hty : a.ty <;> simp only [hty] at this ⊢ <;> omega
  | mdata m =>
    have := enc_len_mdata_exact m (MEls.OK_of_RTI m.els ok.rt) ok.nodup hroot
    simp only [encodeSlab, Slab.byteSize, Slab.extraDataLen, Slab.omittedNext, Slab.hoisted]
    simp only [mapExtraLen] at this
    cases hx : m.extra <;> simp only [hx] at this ⊢ <;> omega
  | mindex m =>
    have := enc_len_mindex m
    simp only [encodeSlab, Slab.byteSize, Slab.extraDataLen, Slab.omittedNext, Slab.hoisted, Nat.add_zero]
    simp only [mapExtraLen] at this
    cases hx : m.extra <;> simp only [hx] at this ⊢ <;> exact this
  | storableG id x =>
    obtain ⟨hrt, hni, _, _⟩ := ok
    have hnc := Stor.noCompact_of_noInl x hni
    have := enc_len_storableG_exact x (Stor.OK_of_RT x hrt hni) (Stor.nodupKeys_of_noCompact x hnc)
    simp only [encodeSlab, Slab.byteSize, Slab.extraDataLen, Slab.omittedNext, Slab.hoisted, Nat.add_zero]
    exact this

end Atree.Codec

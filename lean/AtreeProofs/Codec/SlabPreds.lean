import AtreeProofs.Codec.InlDefs
/-
  What the slab-level round-trip theorems for slabs with inlined arrays / maps or wrapped elements
  assume of a slab (`MapDataOKI`, `ArrDataOKI`, `ArrDataOKW`), the measures of a storable against
  its size, the phases of the two array data decoders before their content part (one lemma per
  section of the register), and what the first part of the decoder answers on such slabs.
-/
namespace Atree.Codec
open Atree Atree.Gen DM

theorem Stor.size_pos : (s : Stor) → s.RTI → 1 ≤ s.size
  | .val size pay, h => by unfold Stor.RTI validElem at h; simp only [Stor.size]; exact h.1
  | .ref _, _ => by simp [Stor.size, slabIDStorableSize]; omega
  | .some s, _ => by simp only [Stor.size, someOverhead]; omega
  | .arr _ _ _, _ => by simp only [Stor.size, inlinedArrayDataSlabPrefixSize]; omega
  | .map _ _ _, _ => by simp only [Stor.size, inlinedMapDataSlabPrefixSize]; omega

-- A list's fuel is `max head tail + 1`, its size a sum, so the list forms (and `MEls`) read `fuel ≤ size + 1`; the prefix
-- bytes of the inlined slab or group around the list absorb the 1.  `SEl.fuelI_lt_size` has a unit to spare because
-- `MEl.single` spends one more unit of fuel on no more bytes.
mutual
theorem Stor.fuelI_le_size : (s : Stor) → s.RTI → s.fuelI ≤ s.size
  | .val size pay, h => by
    have := Stor.size_pos (.val size pay) h
    simp only [Stor.fuelI]; exact this
  | .ref _, _ => by simp [Stor.fuelI, Stor.size, slabIDStorableSize]; omega
  | .some s, h => by
    have := Stor.fuelI_le_size s h
    simp only [Stor.fuelI, Stor.size, someOverhead]; omega
  | .arr _ _ es, h => by
    have := fuelISts_le es h.2.2.2.1
    simp only [Stor.fuelI, Stor.size, inlinedArrayDataSlabPrefixSize]; omega
  | .map _ _ els, h => by
    have := MEls.fuelI_le_size els h.2.2.1
    simp only [Stor.fuelI, Stor.size, inlinedMapDataSlabPrefixSize]; omega
theorem fuelISts_le : (l : List Stor) → rtiSts l → fuelISts l ≤ sizeSts l + 1
  | [], _ => by simp [fuelISts]
  | s :: ss, h => by
    have h1 := Stor.fuelI_le_size s h.1
    have h2 := fuelISts_le ss h.2
    have h3 := Stor.size_pos s h.1
    simp only [fuelISts, sizeSts]; omega
theorem SEl.fuelI_lt_size : (e : SEl) → e.RTI → e.fuelI + 1 ≤ e.size
  | .mk k v, h => by
    have hk := Stor.fuelI_le_size k h.1
    have hv := Stor.fuelI_le_size v h.2.1
    have hk1 := Stor.size_pos k h.1
    have hv1 := Stor.size_pos v h.2.1
    simp only [SEl.fuelI, SEl.size, singleElementPrefixSize]; omega
theorem MEl.fuelI_le_size : (e : MEl) → e.RTI → e.fuelI ≤ e.size
  | .single e, h => by
    have := SEl.fuelI_lt_size e h
    simp only [MEl.fuelI, MEl.size]; omega
  | .inl els, h => by
    have := MEls.fuelI_le_size els h
    simp only [MEl.fuelI, MEl.size, inlineCollisionGroupPrefixSize]; omega
  | .ext _, _ => by
    simp [MEl.fuelI, MEl.size, externalCollisionGroupPrefixSize, slabIDStorableSize]
theorem MEls.fuelI_le_size : (els : MEls) → els.RTI → els.fuelI ≤ els.size + 1
  | .hkey _ _ es, h => by
    have h1 := fuelIMElList_le es h.2.2.2.2.1
    have h2 := sizeMEl_eq es
    simp only [MEls.fuelI, MEls.size, hkeyElementsPrefixSize]; omega
  | .single _ es, h => by
    have h1 := fuelISElList_le es h.2.2.2.1
    simp only [MEls.fuelI, MEls.size, singleElementsPrefixSize]; omega
theorem fuelIMElList_le : (l : List MEl) → rtiMElList l → fuelIMElList l ≤ bytesMEl l + 1
  | [], _ => by simp [fuelIMElList]
  | e :: es, h => by
    have h1 := MEl.fuelI_le_size e h.1
    have h2 := fuelIMElList_le es h.2
    have h3 : 1 ≤ e.fuelI := by
      cases e with
      | single e => simp [MEl.fuelI]
      | inl els => simp [MEl.fuelI]
      | ext id => simp [MEl.fuelI]
    simp only [fuelIMElList, bytesMEl]; omega
theorem fuelISElList_le : (l : List SEl) → rtiSElList l → fuelISElList l ≤ sizeSEl l + 1
  | [], _ => by simp [fuelISElList]
  | e :: es, h => by
    have h1 := SEl.fuelI_lt_size e h.1
    have h2 := fuelISElList_le es h.2
    simp only [fuelISElList, sizeSEl]; omega
end

theorem MEl.fuelNeed_le_size : (e : MEl) → e.RT → e.noInl → e.fuelNeed ≤ e.size :=
  fun e h hn => MEl.fuelI_of_noInl e hn ▸ MEl.fuelI_le_size e (MEl.RTI_of_RT e h hn)

theorem fuelMElList_le : (l : List MEl) → rtMElList l → noInlMElList l → fuelMElList l ≤ bytesMEl l + 1 :=
  fun l h hn => fuelIMElList_of_noInl l hn ▸ fuelIMElList_le l (rtiMElList_of_RT l h hn)

-- `entries ≤ 256` here and below: an inlined slab refers to its extra-data entry by a one-byte index
-- (`inlinedHead`), and the Go encoder refuses a slab with more entries.
/-- What the encoder and the decoder rely on for a map data slab, inlined arrays / maps allowed
    (not the compact form). -/
structure MapDataOKI (s : MapData) : Prop where
  rt : s.els.RTI
  noCompact : s.els.noCompact
  nest : s.els.vneedI ≤ maxNestedLevels
  entries : (encMEls s.els []).2.length ≤ 256
  next : validNext s.next
  extra : ∀ x, s.extra = some x → validMapExtra x
  size : s.size ≤ maxUint32

/-- slice elements the decoder allocates for the inlined-extra-data section -/
def iedAllocs (xs : List XD) : Nat :=
  if xs.isEmpty then 0 else (findDuplicateTypeInfo xs).length + xs.length

/-- What the encoder and the decoder rely on for an array data slab that holds at least one inlined
    array / map (not the compact form). -/
structure ArrDataOKI (a : ArrData) : Prop where
  rt : rtiSts a.elems
  noCompact : noCompactSts a.elems
  nest : vneedISts a.elems + 1 ≤ maxNestedLevels
  count : a.elems.length < 65536
  inlined : (encSts a.elems []).2 ≠ []
  entries : (encSts a.elems []).2.length ≤ 256
  next : validNext a.next
  ty : ∀ t, a.ty = some t → validTy t
  size : a.size ≤ maxUint32

theorem newArrayDataSlabFromDataG_cons2 (id : SlabID) (b0 b1 : Nat) (tail : Bytes) :
    newArrayDataSlabFromDataG id (b0 :: b1 :: tail) =
      if (⟨b0, b1⟩ : SlabHead).arrayType ≠ .data then DM.fail
      else if (⟨b0, b1⟩ : SlabHead).version = 0 then newArrayDataSlabFromDataV0G id ⟨b0, b1⟩ tail
      else if (⟨b0, b1⟩ : SlabHead).version = 1 then newArrayDataSlabFromDataV1G id ⟨b0, b1⟩ tail
      else DM.fail := by
  unfold newArrayDataSlabFromDataG
  rw [slabHead_cons2]
  simp only [sliceFrom_cons2, DM.pure_bind]

/-- the root's extra-data section of an array slab -/
def arrExtraBytes : Option TyInfo → Bytes
  | some t => encodeExtraData t
  | none => []

theorem newArrayExtraDataFromData_arr (ty : Option TyInfo) (hty : ∀ t, ty = some t → validTy t) (rest : Bytes) :
    ∀ t, ty = some t → newArrayExtraDataFromData (arrExtraBytes ty ++ rest) = pure (t, rest) := by
  intro t ht
  subst ht
  exact newArrayExtraDataFromData_enc t (hty t rfl) rest

/-- the root's extra-data section (first part of the decoder) -/
theorem newArrayDataSlabFromDataV1_extra (id : SlabID) (h : SlabHead) (ty : Option TyInfo)
    (hroot : h.isRoot = ty.isSome) (hty : ∀ t, ty = some t → validTy t) (data : Bytes) :
    newArrayDataSlabFromDataV1 id h (arrExtraBytes ty ++ data) = dataV1AfterExtra id h ty data := by
  unfold newArrayDataSlabFromDataV1
  exact rootExtra_reads (enc := arrExtraBytes) rfl ty hroot
    (fun t ht rest => newArrayExtraDataFromData_enc t (hty t ht) rest) _ data

/-- the root's extra-data section (second part of the decoder) -/
theorem newArrayDataSlabFromDataV1G_extra (id : SlabID) (h : SlabHead) (ty : Option TyInfo)
    (hroot : h.isRoot = ty.isSome) (hty : ∀ t, ty = some t → validTy t) (data : Bytes) :
    newArrayDataSlabFromDataV1G id h (arrExtraBytes ty ++ data) = arrDataV1AfterExtraG id h ty data := by
  unfold newArrayDataSlabFromDataV1G
  exact rootExtra_reads (enc := arrExtraBytes) rfl ty hroot
    (fun t ht rest => newArrayExtraDataFromData_enc t (hty t ht) rest) _ data

/-- the optional next-slab-ID section (second part of the decoder) -/
theorem arrDataV1AfterIEDG_next (id : SlabID) (h : SlabHead) (ty : Option TyInfo) (xs : List XD) (next : SlabID)
    (hnx : h.hasNextSlabID = decide (next ≠ SlabID.undef)) (hnext : validNext next) (body : Bytes) :
    arrDataV1AfterIEDG id h ty xs ((if decide (next ≠ SlabID.undef) = true then encodeSlabID next else []) ++ body)
      = arrDataContentG id h.isRoot ty next true xs body := by
  unfold arrDataV1AfterIEDG
  rw [hnx]
  by_cases hn : next = SlabID.undef
  · subst hn
    simp only [ne_eq, not_true_eq_false, decide_false, Bool.false_eq_true, ↓reduceIte, List.nil_append]
  · simp only [ne_eq, hn, not_false_eq_true, decide_true, ↓reduceIte]
    exact nextID_reads next hnext body _

/-- the second part of the decoder on the register of a version-1 array data slab, after the two head bytes -/
theorem decodeSlabGen_adataV1 (id : SlabID) (h : SlabHead) (tail : Bytes)
    (h1 : h.slabType = .array) (h2 : h.arrayType = .data) (h3 : h.version = 1) :
    decodeSlabGen id (h.b0 :: h.b1 :: tail) = newArrayDataSlabFromDataV1G id h tail := by
  obtain ⟨b0, b1⟩ := h
  rw [decodeSlabGen_cons2, h1]
  simp only [h2]
  rw [newArrayDataSlabFromDataG_cons2, h2, h3]
  simp only [ne_eq, not_true_eq_false, ↓reduceIte, show ¬ ((1 : Nat) = 0) by decide]

/-- `decodeElem` (first part of the decoder) on an encoded wrapper: not in its fragment -/
theorem decodeElem_wrapper {d d1 : Dec} (h : d.Reads [0xd8, tagSomeValue] d1) (k : Nat) :
    decodeElem d k = .error .unsupported k := by
  unfold decodeElem
  rw [h.nextType]
  simp only [DM.liftOpt_some, DM.pure_bind, ctypeOf_d8]
  rw [decodeTagNumber_reads _ h]
  simp only [DM.liftOpt_some, DM.pure_bind, CBORTagSlabID, CBORTagInlinedArray, CBORTagInlinedMap,
    CBORTagInlinedCompactMap, tagGapValue, tagSomeValue]
  simp only [show ¬ ((165 : Nat) = 250 ∨ (165 : Nat) = 251 ∨ (165 : Nat) = 252) by decide,
    show ¬ ((165 : Nat) = 255) by decide, show ¬ ((165 : Nat) = 161) by decide, ↓reduceIte]
  rfl

theorem exists_notFlat_tail {s : Stor} {ss : List Stor} (hs : s.isFlat = true)
    (hex : ∃ x ∈ s :: ss, x.isFlat = false) : ∃ x ∈ ss, x.isFlat = false := by
  obtain ⟨x, hx, hf⟩ := hex
  rcases List.mem_cons.1 hx with rfl | hx
  · rw [hs] at hf; cases hf
  · exact ⟨x, hx, hf⟩

/-- one turn of the element loop at a plain element, the rest of the loop giving up -/
theorem decodeElems_flat_step (e : Elem) (hv : validElem e) {d d1 : Dec} (h1 : d.Reads (encodeElem e) d1)
    (n size0 k : Nat) (hle : size0 + e.size ≤ 4294967295)
    (ih : decodeElems n d1 (size0 + e.size) k = .error .unsupported k) :
    decodeElems (n + 1) d size0 k = .error .unsupported k := by
  simp only [decodeElems]
  rw [decodeElem_reads e hv h1]
  simp only [DM.pure_bind, Nat.not_lt.2 hle, gt_iff_lt, ↓reduceIte]
  show DM.bind' _ _ k = _
  unfold DM.bind'
  rw [ih]

/-- the element loop of the first part of the decoder gives up at the first wrapper -/
theorem decodeElems_unsupported_reads : ∀ (l : List Stor), rtiSts l → noInlSts l → (∃ s ∈ l, s.isFlat = false) →
    ∀ {d d' : Dec} (size0 k : Nat), d.Reads (encSts l []).1 d' → size0 + sizeSts l ≤ maxUint32 →
    decodeElems l.length d size0 k = .error .unsupported k
  | [], _, _, h, _, _, _, _, _, _ => by obtain ⟨s, hs, _⟩ := h; cases hs
  | .val size pay :: ss, h, hn, hex, d, d', size0, k, hr, hS => by
    simp only [sizeSts, Stor.size, maxUint32] at hS
    simp only [encSts, encSt] at hr
    obtain ⟨d1, h1, h2⟩ := hr.split
    exact decodeElems_flat_step { size := size, pay := .val pay } h.1 h1 _ size0 k (by show size0 + size ≤ _; omega)
      (decodeElems_unsupported_reads ss h.2 hn.2 (exists_notFlat_tail rfl hex) (size0 + size) k h2
        (by simp only [maxUint32]; omega))
  | .ref id :: ss, h, hn, hex, d, d', size0, k, hr, hS => by
    simp only [sizeSts, Stor.size, maxUint32] at hS
    simp only [encSts, encSt] at hr
    obtain ⟨d1, h1, h2⟩ := hr.split
    exact decodeElems_flat_step { size := slabIDStorableSize, pay := .ref id } ⟨rfl, h.1.1, h.1.2⟩ h1 _ size0 k
      (by show size0 + slabIDStorableSize ≤ _; omega) (decodeElems_unsupported_reads ss h.2 hn.2 (exists_notFlat_tail rfl hex)
        (size0 + slabIDStorableSize) k h2 (by simp only [maxUint32]; omega))
  | .some x :: ss, _, _, _, d, d', size0, k, hr, _ => by
    simp only [encSts, encSt, tagHead8, List.append_assoc] at hr
    obtain ⟨d1, h1, _⟩ := hr.split
    simp only [List.length_cons, decodeElems]
    show DM.bind' _ _ k = _
    unfold DM.bind'
    rw [decodeElem_wrapper h1 k]
  | .arr _ _ _ :: _, _, hn, _, _, _, _, _, _, _ => hn.1.elim
  | .map _ _ _ :: _, _, hn, _, _, _, _, _, _, _ => hn.1.elim

/-- What the encoder and the decoder rely on for an array data slab with wrapped elements and no
    inlined slab. -/
structure ArrDataOKW (a : ArrData) : Prop where
  rt : rtiSts a.elems
  noInl : noInlSts a.elems
  wrapped : ∃ s ∈ a.elems, s.isFlat = false
  nest : vneedISts a.elems + 1 ≤ maxNestedLevels
  count : a.elems.length < 65536
  next : validNext a.next
  ty : ∀ t, a.ty = some t → validTy t
  size : a.size ≤ maxUint32

end Atree.Codec

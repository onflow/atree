import AtreeProofs.Codec.DM
import AtreeProofs.Codec.CborLemmas
/-
  One triple for the decoder monad `DM`.  `Tri c m₁ m₂ P`: `m₂`, started with any allocation
  counter, does not panic and returns a value satisfying `P` when it succeeds (`NP`); and if `c`
  holds, `m₁` is the same computation.  With `m₁ = m₂` (`Tri₁`) it is a Hoare triple; with two
  computations (the same decoder with two fuels) it also says when they cannot be told apart.

  Every fact a proof needs about a call into the CBOR library comes from one rule at the bind
  (`Tri.head`, `Tri.bytes`, `Tri.rawBytes`, `Tri.nextType`): the bookkeeping invariant `DecInv` is kept and the
  unread input gets shorter (`After`), or stays as it is (`Later`).
-/
namespace Atree.Codec
open DM Atree.Gen

def NP {α : Type} (m : DM α) (P : α → Prop) : Prop :=
  ∀ n, match m n with
       | .ok a _ => P a
       | .error _ _ => True
       | .panic => False

theorem NP.ne_panic {α : Type} {m : DM α} {P : α → Prop} (h : NP m P) (n : Nat) : m n ≠ .panic := by
  intro hp
  have := h n
  rw [hp] at this
  exact this

def Tri {α : Type} (c : Prop) (m₁ m₂ : DM α) (P : α → Prop) : Prop :=
  NP m₂ P ∧ (c → m₁ = m₂)

abbrev Tri₁ {α : Type} (c : Prop) (m : DM α) (P : α → Prop) : Prop := Tri c m m P

namespace Tri
variable {α β : Type} {c : Prop}

theorem np {m₁ m₂ : DM α} {P : α → Prop} (h : Tri c m₁ m₂ P) : NP m₂ P := h.1

theorem eq {m₁ m₂ : DM α} {P : α → Prop} (h : Tri c m₁ m₂ P) (hc : c) : m₁ = m₂ := h.2 hc

theorem pure {a : α} {P : α → Prop} (h : P a) : Tri c (Pure.pure a : DM α) (Pure.pure a) P :=
  ⟨fun _ => h, fun _ => rfl⟩

theorem fail {e : DErr} {P : α → Prop} : Tri c (DM.fail e : DM α) (DM.fail e) P :=
  ⟨fun _ => trivial, fun _ => rfl⟩

/-- what is known of the value of the first computation is a hypothesis of the continuation -/
theorem bind {m₁ m₂ : DM α} {f₁ f₂ : α → DM β} {P : α → Prop} {Q : β → Prop}
    (hm : Tri c m₁ m₂ P) (hf : ∀ a, P a → Tri c (f₁ a) (f₂ a) Q) : Tri c (m₁ >>= f₁) (m₂ >>= f₂) Q := by
  refine ⟨fun n => ?_, fun hc => funext fun n => ?_⟩
  · have h := hm.np n
    show match DM.bind' m₂ f₂ n with
         | .ok a _ => Q a
         | .error _ _ => True
         | .panic => False
    unfold DM.bind'
    cases hmn : m₂ n with
    | ok a n' => rw [hmn] at h; exact (hf a h).np n'
    | error e n' => trivial
    | panic => rw [hmn] at h; exact h
  · have h := hm.np n
    show DM.bind' m₁ f₁ n = DM.bind' m₂ f₂ n
    unfold DM.bind'
    rw [hm.eq hc]
    cases hmn : m₂ n with
    | ok a n' => rw [hmn] at h; exact congrFun ((hf a h).eq hc) n'
    | error e n' => rfl
    | panic => rfl

theorem mono {m₁ m₂ : DM α} {c' : Prop} {P P' : α → Prop} (h : Tri c' m₁ m₂ P) (hc : c → c')
    (hp : ∀ a, P a → P' a) : Tri c m₁ m₂ P' := by
  refine ⟨fun n => ?_, fun x => h.eq (hc x)⟩
  have h2 := h.np n
  cases hmn : m₂ n with
  | ok a n' => rw [hmn] at h2; exact hp a h2
  | error e n' => trivial
  | panic => rw [hmn] at h2; exact h2

/-- the condition under which the two computations agree may be strengthened -/
theorem cond {m₁ m₂ : DM α} {c' : Prop} {P : α → Prop} (h : Tri c' m₁ m₂ P) (hc : c → c') : Tri c m₁ m₂ P :=
  h.mono hc fun _ hp => hp

theorem right {m₁ m₂ : DM α} {c' : Prop} {P : α → Prop} (h : Tri c' m₁ m₂ P) : Tri₁ c m₂ P :=
  ⟨h.np, fun _ => rfl⟩

theorem ite {p : Prop} [Decidable p] {a₁ a₂ b₁ b₂ : DM α} {P : α → Prop}
    (ha : p → Tri c a₁ a₂ P) (hb : ¬p → Tri c b₁ b₂ P) :
    Tri c (if p then a₁ else b₁) (if p then a₂ else b₂) P := by
  by_cases h : p
  · rw [if_pos h, if_pos h]; exact ha h
  · rw [if_neg h, if_neg h]; exact hb h

theorem alloc {k : Nat} {f₁ f₂ : Unit → DM β} {Q : β → Prop} (hf : Tri c (f₁ ()) (f₂ ()) Q) :
    Tri c (DM.alloc k >>= f₁) (DM.alloc k >>= f₂) Q :=
  ⟨fun n => hf.np (n + k), fun hc => funext fun n => congrFun (hf.eq hc) (n + k)⟩

theorem liftOpt (o : Option α) : Tri₁ c (DM.liftOpt o) (fun a => o = some a) := by
  cases o with
  | none => exact fail
  | some a => exact pure rfl

theorem of_safe {m : DM α} {k : Nat} {P : α → Prop} (h : Safe m k P) : Tri₁ c m P := by
  refine ⟨fun n => ?_, fun _ => rfl⟩
  have := h n
  cases hm : m n with
  | ok a n' => rw [hm] at this; exact this.2
  | error e n' => trivial
  | panic => rw [hm] at this; exact this

end Tri

/-! ### the stream decoder after a read, relative to the decoder before it -/

abbrev Dec.len (d : Dec) : Nat := d.data.length

/-- `d'` is `d` or a later state of it, over an input of `t` bytes -/
def Later (t : Nat) (d d' : Dec) : Prop := DecInv t d' ∧ d'.len ≤ d.len
/-- `d'` is `d` after at least one byte has been read -/
def After (t : Nat) (d d' : Dec) : Prop := DecInv t d' ∧ d'.len < d.len

theorem Later.refl {t : Nat} {d : Dec} (h : DecInv t d) : Later t d d := ⟨h, Nat.le_refl _⟩
theorem After.later {t : Nat} {d d' : Dec} (h : After t d d') : Later t d d' := ⟨h.1, Nat.le_of_lt h.2⟩
theorem Later.trans {t : Nat} {a b c : Dec} (h : Later t a b) (h' : Later t b c) : Later t a c :=
  ⟨h'.1, Nat.le_trans h'.2 h.2⟩
theorem Later.after {t : Nat} {a b c : Dec} (h : Later t a b) (h' : After t b c) : After t a c :=
  ⟨h'.1, Nat.lt_of_lt_of_le h'.2 h.2⟩
theorem After.then {t : Nat} {a b c : Dec} (h : After t a b) (h' : Later t b c) : After t a c :=
  ⟨h'.1, Nat.lt_of_le_of_lt h'.2 h.2⟩

section ops
variable {β : Type} {c : Prop} {t : Nat} {d : Dec} {Q : β → Prop}

/-- `DecodeUint64`, `DecodeTagNumber`, `DecodeArrayHead` -/
theorem Tri.head {major : Nat} {f₁ f₂ : Nat × Dec → DM β} (hi : DecInv t d)
    (hf : ∀ v d', After t d d' → Tri c (f₁ (v, d')) (f₂ (v, d')) Q) :
    Tri c (DM.liftOpt (d.decodeHeadOf major) >>= f₁) (DM.liftOpt (d.decodeHeadOf major) >>= f₂) Q :=
  Tri.bind (Tri.liftOpt _) fun r h => hf r.1 r.2 (decodeHeadOf_after hi h)

/-- `DecodeBytes` -/
theorem Tri.bytes {f₁ f₂ : Bytes × Dec → DM β} (hi : DecInv t d)
    (hf : ∀ b d', After t d d' → Tri c (f₁ (b, d')) (f₂ (b, d')) Q) :
    Tri c (DM.liftOpt d.decodeBytes >>= f₁) (DM.liftOpt d.decodeBytes >>= f₂) Q :=
  Tri.bind (Tri.liftOpt _) fun r h =>
    hf r.1 r.2 ⟨(decodeBytes_after hi h).1, Nat.lt_of_le_of_lt (Nat.le_add_right _ _) (decodeBytes_after hi h).2⟩

/-- `DecodeRawBytes` -/
theorem Tri.rawBytes {f₁ f₂ : Bytes × Dec → DM β} (hi : DecInv t d)
    (hf : ∀ b d', After t d d' → Tri c (f₁ (b, d')) (f₂ (b, d')) Q) :
    Tri c (DM.liftOpt d.decodeRawBytes >>= f₁) (DM.liftOpt d.decodeRawBytes >>= f₂) Q :=
  Tri.bind (Tri.liftOpt _) fun r h => hf r.1 r.2 (decodeRawBytes_after hi h)

/-- `NextType` reads nothing -/
theorem Tri.nextType {f₁ f₂ : CType × Dec → DM β} (hi : DecInv t d)
    (hf : ∀ ty d', Later t d d' → d'.len = d.len → Tri c (f₁ (ty, d')) (f₂ (ty, d')) Q) :
    Tri c (DM.liftOpt d.nextType >>= f₁) (DM.liftOpt d.nextType >>= f₂) Q :=
  Tri.bind (Tri.liftOpt _) fun r h =>
    have hl : r.2.len = d.len := congrArg List.length (nextType_data h)
    hf r.1 r.2 ⟨nextType_inv hi h, Nat.le_of_eq hl⟩ hl

end ops

end Atree.Codec

import AtreeProofs.Codec.CmpDefs
/-
  How the exact validator depth `vd` (Limits.lean) relates to the depth of the harness's
  `decodeStorable` recursion (limit 64): `dneed ≤ vd true ≤ vd false + 1` — it is paid for by the
  validator depth (limit 32), so `vd ≤ 32` is the only nesting hypothesis needed.  (`vd ≤ vneedI`
  stands in AcceptEnc.lean.)
-/
namespace Atree.Codec
open Atree Atree.Gen DM

/-- following a tag number costs at most one level -/
theorem Stor.vd_true_le : (s : Stor) → s.vd true ≤ s.vd false + 1
  | .val _ _ => by simp only [Stor.vd]; split <;> split <;> omega
  | .ref _ => by simp [Stor.vd]
  | .some _ => by simp only [Stor.vd]; simp; omega
  | .arr _ _ _ => by simp only [Stor.vd]; simp; omega
  | .map _ _ (.hkey _ _ _) => by simp only [Stor.vd]; split <;> simp <;> omega
  | .map _ _ (.single _ _) => by simp only [Stor.vd]; simp; omega

mutual
theorem Stor.dneed_le_vd : (s : Stor) → s.dneed ≤ s.vd true
  | .val _ _ => by simp only [Stor.dneed]; omega
  | .ref _ => by simp only [Stor.dneed]; omega
  | .some s => by
    have := Stor.dneed_le_vd s
    simp only [Stor.dneed, Stor.vd, ↓reduceIte]; omega
  | .arr _ _ es => by
    have := dneedSts_le_vd es
    simp only [Stor.dneed, Stor.vd, ↓reduceIte]; omega
  | .map x _ (.hkey level hkeys elems) => by
    cases hc : compactKeys x elems with
    | none =>
      have := dneedMElList_le_vd elems
      simp only [Stor.dneed, MEls.dneed, Stor.vd, hc, MEls.vd, ↓reduceIte]; omega
    | some keys =>
      have := dneedCVals_le_vd elems keys (compactKeys_mapM hc)
      simp only [Stor.dneed, MEls.dneed, Stor.vd, hc, ↓reduceIte]; omega
  | .map x _ (.single level elems) => by
    have := dneedSElList_le_vd elems
    simp only [Stor.dneed, MEls.dneed, Stor.vd, MEls.vd, ↓reduceIte]; omega
theorem dneedSts_le_vd : (l : List Stor) → dneedSts l ≤ vdSts l + 1
  | [] => by simp [dneedSts]
  | s :: ss => by
    have h1 := Stor.dneed_le_vd s
    have h1' := Stor.vd_true_le s
    have h2 := dneedSts_le_vd ss
    simp only [dneedSts, vdSts]; omega
/-- the elements of a compact-eligible map are single elements with plain keys -/
theorem dneedCVals_le_vd : (l : List MEl) → (keys : List (Nat × Nat)) → l.mapM compactKey = some keys →
    dneedMElList l ≤ vdMElVals l + 1
  | [], _, _ => by simp [dneedMElList]
  | .single (.mk key v) :: es, keys, h => by
    obtain ⟨⟨s, p, rfl⟩, ks, hks⟩ := mapM_compactKey_single h
    have h1 := Stor.dneed_le_vd v
    have h1' := Stor.vd_true_le v
    have h2 := dneedCVals_le_vd es ks hks
    simp only [dneedMElList, MEl.dneed, SEl.dneed, Stor.dneed, vdMElVals]; omega
  | .inl _ :: es, keys, h => by simp [List.mapM_cons, compactKey] at h
  | .ext _ :: es, keys, h => by simp [List.mapM_cons, compactKey] at h
theorem SEl.dneed_le_vd : (e : SEl) → e.dneed ≤ e.vd
  | .mk k v => by
    have h1 := Stor.dneed_le_vd k
    have h1' := Stor.vd_true_le k
    have h2 := Stor.dneed_le_vd v
    have h2' := Stor.vd_true_le v
    simp only [SEl.dneed, SEl.vd]; omega
theorem MEl.dneed_le_vd : (e : MEl) → e.dneed ≤ e.vd
  | .single e => by have := SEl.dneed_le_vd e; simp only [MEl.dneed, MEl.vd]; exact this
  | .inl els => by have := MEls.dneed_le_vd els; simp only [MEl.dneed, MEl.vd]; exact this
  | .ext _ => by simp only [MEl.dneed]; omega
theorem MEls.dneed_le_vd : (els : MEls) → els.dneed ≤ els.vd
  | .hkey _ _ es => by have := dneedMElList_le_vd es; simp only [MEls.dneed, MEls.vd]; omega
  | .single _ es => by have := dneedSElList_le_vd es; simp only [MEls.dneed, MEls.vd]; omega
theorem dneedMElList_le_vd : (l : List MEl) → dneedMElList l ≤ vdMElList l
  | [] => Nat.le_refl _
  | e :: es => by
    have h1 := MEl.dneed_le_vd e
    have h2 := dneedMElList_le_vd es
    simp only [dneedMElList, vdMElList]; omega
theorem dneedSElList_le_vd : (l : List SEl) → dneedSElList l ≤ vdSElList l
  | [] => Nat.le_refl _
  | e :: es => by
    have h1 := SEl.dneed_le_vd e
    have h2 := dneedSElList_le_vd es
    simp only [dneedSElList, vdSElList]; omega
end

/-! ### the shared inlined-extra-data section never needs more than 4 levels -/

theorem foldl_max_vd_le : ∀ (xs : List XD) (m : Nat), m ≤ 2 → xs.foldl (fun m x => max m x.vd) m ≤ 2
  | [], m, hm => hm
  | x :: xs, m, hm => by
    simp only [List.foldl_cons]
    apply foldl_max_vd_le xs
    cases x <;> simp only [XD.vd] <;> omega

theorem vdIED_le (xs : List XD) : vdIED xs ≤ 4 := by
  unfold vdIED
  split
  · omega
  · have := foldl_max_vd_le xs 0 (by omega); omega

/-- the depth of a map data slab is that of its elements, as soon as that is 4 or more -/
theorem vdepth_mdata_le_iff (s : MapData) {L : Nat} (hL : 4 ≤ L) :
    (Slab.mdata s).vdepth ≤ L ↔ s.els.vd ≤ L := by
  have h1 := vdIED_le (encMEls s.els []).2
  simp only [Slab.vdepth]
  constructor
  · intro h; omega
  · intro h; split <;> omega

theorem vdepth_adata_le_iff (a : ArrData) {L : Nat} (hL : 4 ≤ L) :
    (Slab.adata a).vdepth ≤ L ↔ vdSts a.elems + 1 ≤ L := by
  have h1 := vdIED_le (encSts a.elems []).2
  simp only [Slab.vdepth]
  constructor
  · intro h; omega
  · intro h; split <;> omega

end Atree.Codec

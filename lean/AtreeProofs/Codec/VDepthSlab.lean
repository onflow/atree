import AtreeProofs.Codec.DecodeEnc
import AtreeProofs.Codec.AcceptEnc
import AtreeProofs.Codec.SlabPreds
import AtreeProofs.Codec.RoundTripD
import AtreeProofs.Codec.VDepthIneq
import AtreeProofs.Codec.CmpFix
/-
  `DecodeSlab` on encoded map data / collision-group slabs and array data slabs with inlined children
  in any form, under the EXACT nesting hypothesis `Slab.vdepth ≤ maxNestedLevels`, and the converse:
  one level more and the register does not decode (the validator rejects the elements item).

  A register is the two head bytes followed by optional sections — the root's extra data, the inlined
  extra data, the next-slab ID — and the elements item (`encodeMapData_sections`,
  `encodeArrData_sections`); each decoder reads one section per phase (one lemma per decoder and
  section, here and in SlabPreds.lean / RoundTripD.lean).  So the decoders are first reduced, without
  any nesting hypothesis, to their "content" part (`mapDataContent`, `arrDataContentG`) run on the
  elements item; that part starts with the single validation of the item (`prepareNext`), which `ExX`
  decides exactly.
-/
namespace Atree.Codec
open Atree Atree.Gen DM

/-- the two head bytes `MapDataSlab.Encode` writes -/
def mapDataHead (s : MapData) : SlabHead :=
  ⟨MapDataSlab_Encode_version * 16 ||| flagIf (decide (s.next ≠ SlabID.undef)) maskHasNextSlabID |||
      flagIf (!(encMEls s.els []).2.isEmpty) maskHasInlinedSlabs,
   (if s.group then maskCollisionGroup else maskMapData) ||| flagIf s.els.hasPtr maskSlabHasPointers |||
      flagIf s.anySize maskSlabAnySize ||| flagIf s.extra.isSome maskSlabRoot⟩

/-- What the encoder and the decoder rely on for a map data slab — `MapDataOKC` without its nesting
    hypothesis. -/
structure MapDataPre (s : MapData) : Prop where
  rt : s.els.RTI
  nodup : s.els.nodupKeys
  entries : (encMEls s.els []).2.length ≤ 256
  next : validNext s.next
  extra : ∀ x, s.extra = some x → validMapExtra x
  size : s.size ≤ maxUint32

/-- `MapDataOKC` with the EXACT nesting hypothesis: the validator depth of the register is within the
    limit of the `DecMode` (the model constant 32 of the default `cbor.DecOptions{}`). -/
structure MapDataOKX (s : MapData) : Prop where
  rt : s.els.RTI
  nodup : s.els.nodupKeys
  nest : (Slab.mdata s).vdepth ≤ maxNestedLevels
  entries : (encMEls s.els []).2.length ≤ 256
  next : validNext s.next
  extra : ∀ x, s.extra = some x → validMapExtra x
  size : s.size ≤ maxUint32

theorem MapDataOKX.pre {s : MapData} (ok : MapDataOKX s) : MapDataPre s :=
  ⟨ok.rt, ok.nodup, ok.entries, ok.next, ok.extra, ok.size⟩

theorem MapDataOKC.pre {s : MapData} (ok : MapDataOKC s) : MapDataPre s :=
  ⟨ok.rt, ok.nodup, ok.entries, ok.next, ok.extra, ok.size⟩

/-- the over-approximating nesting hypothesis implies the exact one -/
theorem MapDataOKC.toX {s : MapData} (ok : MapDataOKC s) : MapDataOKX s :=
  ⟨ok.rt, ok.nodup,
   (vdepth_mdata_le_iff s (by decide)).2 (Nat.le_trans (MEls.vd_le_vneedI s.els) ok.nest),
   ok.entries, ok.next, ok.extra, ok.size⟩

/-- the content part on the elements item, given that the validator accepts it -/
theorem mapDataContent_encX (id : SlabID) (h : SlabHead) (extra : Option MapExtra) (next : SlabID)
    (els : MEls) (hrt : els.RTI) (hnd : els.nodupKeys) (more : Bytes)
    (hw : wfNext ((encMEls els []).1 ++ more) = some more) (hdn : els.dneed ≤ maxDecodeDepth)
    (h256 : (encMEls els []).2.length ≤ 256)
    (hsz : versionAndFlagSize + els.size + (if h.isRoot then 0 else SlabIDLength) ≤ maxUint32) (n : Nat) :
    mapDataContent id h extra next (encMEls els []).2 ((encMEls els []).1 ++ more) n =
      .ok (.mdata { id := id, next := next, extra := extra, els := normMEls els [], anySize := !h.hasSizeLimit,
                    group := decide (h.mapType = .collisionGroup) }) (n + (normMEls els []).allocsI) := by
  unfold mapDataContent
  rw [decMElsG_new _ _ _ _ _ _ hw]
  rw [DM.bind_ok (decMElsG_enc_norm els hrt hnd (((encMEls els []).1 ++ more).length + 1) 0
    id.addr [] (encMEls els []).2 n XOKC.nil ⟨[], by simp⟩ h256
    (Nat.le_trans (MEls.fuelI_norm_le_len els [] hrt hnd) (by simp only [List.length_append]; omega))
    (by omega) (Dec.Reads.item rfl))]
  simp only [size_normMEls els [] hnd]
  have h1 : ¬ (versionAndFlagSize + els.size > maxUint32) := by split at hsz <;> omega
  have h2 : ¬ (¬ h.isRoot = true ∧ versionAndFlagSize + els.size + SlabIDLength > maxUint32) := by
    intro hc
    rw [if_neg hc.1] at hsz
    omega
  rw [DM.ite_apply, if_neg h1, DM.ite_apply, if_neg h2]
  rfl

/-- the content part on data whose first item the validator rejects -/
theorem mapDataContent_rej (id : SlabID) (h : SlabHead) (extra : Option MapExtra) (next : SlabID)
    (xs : List XD) (data : Bytes) (hw : wfNext data = none) (n : Nat) :
    mapDataContent id h extra next xs data n = .error .decoding n := by
  unfold mapDataContent
  have : decMElsG (data.length + 1) 0 (Dec.new data) id.addr xs n = .error .decoding n := by
    unfold decMElsG
    have : (Dec.new data).decodeArrayHead = none := decodeHeadOf_new_none hw
    rw [this]
    rfl
  show DM.bind' _ _ n = _
  unfold DM.bind'
  rw [this]

/-- the inlined-extra-data section, present exactly when the encoder's final state is not empty -/
theorem mapDataV1AfterExtra_ied (id : SlabID) (h : SlabHead) (extra : Option MapExtra) (xs : List XD)
    (hinl : h.hasInlinedSlabs = !xs.isEmpty) (hxok : XOKC xs) (h256 : xs.length ≤ 256) (data : Bytes) (n : Nat) :
    mapDataV1AfterExtra id h extra (encodeIEDSection xs ++ data) n
      = mapDataV1AfterIED id h extra xs data (n + iedAllocsC xs) := by
  unfold mapDataV1AfterExtra
  rw [hinl]
  cases xs with
  | nil => rfl
  | cons x xs =>
    simp only [List.isEmpty_cons, Bool.not_false, ↓reduceIte, encodeIEDSection, iedAllocsC, Bool.false_eq_true]
    rw [DM.bind_ok (newInlinedExtraDataFromData_encC (x :: xs) hxok (List.cons_ne_nil _ _) h256 _ n)]
    simp only [Nat.add_assoc]

theorem mapDataHead_facts (s : MapData) :
    (mapDataHead s).slabType = .map ∧
      ((mapDataHead s).mapType = .data ∨ (mapDataHead s).mapType = .collisionGroup) ∧ (mapDataHead s).version = 1 ∧
      (mapDataHead s).isRoot = s.extra.isSome ∧ (mapDataHead s).hasInlinedSlabs = !(encMEls s.els []).2.isEmpty ∧
      (mapDataHead s).hasNextSlabID = decide (s.next ≠ SlabID.undef) ∧ (!(mapDataHead s).hasSizeLimit) = s.anySize ∧
      decide ((mapDataHead s).mapType = .collisionGroup) = s.group := by
  have hf := head_mdata_facts (decide (s.next ≠ SlabID.undef)) (!(encMEls s.els []).2.isEmpty) s.group s.els.hasPtr
    s.anySize s.extra.isSome
  simp only at hf
  obtain ⟨hf1, hf2, hf3, hf4, _, hf6, hf7, hf8⟩ := hf
  refine ⟨hf1, ?_, hf3, hf4, hf7, hf8, ?_, ?_⟩
  · show (mapDataHead s).mapType = .data ∨ (mapDataHead s).mapType = .collisionGroup
    unfold mapDataHead; rw [hf2]; cases s.group <;> simp
  · show (!(mapDataHead s).hasSizeLimit) = s.anySize
    unfold mapDataHead; rw [hf6]; simp
  · show decide ((mapDataHead s).mapType = .collisionGroup) = s.group
    unfold mapDataHead; rw [hf2]; cases s.group <;> simp

/-- the register of a map data / collision-group slab, section by section -/
theorem encodeMapData_sections (s : MapData) (more : Bytes) :
    encodeMapData s ++ more = (mapDataHead s).b0 :: (mapDataHead s).b1 :: (mapExtraBytes s.extra ++
      (encodeIEDSection (encMEls s.els []).2 ++
        ((if decide (s.next ≠ SlabID.undef) = true then encodeSlabID s.next else []) ++ ((encMEls s.els []).1 ++ more)))) := by
  unfold encodeMapData mapDataHead
  cases s.extra <;> simp only [mapExtraBytes, List.cons_append, List.nil_append, List.append_assoc]

/-- `DecodeSlab` on the encoding of a map data / collision-group slab, followed by ANY `more` bytes, is
    the content part run on the elements item; no nesting hypothesis -/
theorem decodeSlab_encodeMapData_red (s : MapData) (hrt : s.els.RTI) (h256 : (encMEls s.els []).2.length ≤ 256)
    (hnext : validNext s.next) (hextra : ∀ x, s.extra = some x → validMapExtra x) (more : Bytes) (n : Nat) :
    decodeSlab s.id (encodeMapData s ++ more) n
      = mapDataContent s.id (mapDataHead s) s.extra s.next (encMEls s.els []).2 ((encMEls s.els []).1 ++ more)
          (n + iedAllocsC (encMEls s.els []).2) := by
  obtain ⟨h1, h2, h3, h4, h7, h8, _, _⟩ := mapDataHead_facts s
  rw [encodeMapData_sections, decodeSlab_of_flat_unsupported (decodeSlabFlat_map _ (mapDataHead s).b0 (mapDataHead s).b1 _ n h1),
    decodeSlabGen_mdataV1 _ _ _ h1 h2 h3, newMapDataSlabFromDataV1_extra _ _ _ h4 hextra,
    mapDataV1AfterExtra_ied _ _ _ _ h7 ((encMEls_appends s.els [] hrt).stateC XOKC.nil).2 h256,
    mapDataV1AfterIED_next _ _ _ _ _ h8 hnext]

/-- the elements item of a map data slab, exactly -/
theorem exX_mapElements (s : MapData) (hrt : s.els.RTI) (hnd : s.els.nodupKeys) :
    ExX (encMEls s.els []).1 (fun _ => s.els.vd) := exMElsX s.els [] hrt hnd

/-- `DecodeSlab` on the encoding of a map data / collision-group slab with inlined arrays / maps
    (any depth, the compact form included) whose validator depth is within the limit -/
theorem decodeSlab_encodeMapDataX (s : MapData) (ok : MapDataOKX s) (more : Bytes) (n : Nat) :
    decodeSlab s.id (encodeMapData s ++ more) n
      = .ok (.mdata { s with els := normMEls s.els [] })
          (n + iedAllocsC (encMEls s.els []).2 + (normMEls s.els []).allocsI) := by
  have hvd : s.els.vd ≤ maxNestedLevels := (vdepth_mdata_le_iff s (by decide)).1 ok.nest
  have hw := wfNext_of_exX (exX_mapElements s ok.rt ok.nodup) hvd more
  have hdn : s.els.dneed ≤ maxDecodeDepth := by
    have := MEls.dneed_le_vd s.els
    simp only [maxDecodeDepth, maxNestedLevels] at hvd ⊢; omega
  obtain ⟨_, _, _, hroot, _, _, hany, hgrp⟩ := mapDataHead_facts s
  rw [decodeSlab_encodeMapData_red s ok.rt ok.entries ok.next ok.extra more n,
    mapDataContent_encX s.id (mapDataHead s) s.extra s.next s.els ok.rt ok.nodup more hw hdn ok.entries
      (by rw [hroot]; have := ok.size; simpa [MapData.size] using this), hany, hgrp]

/-- … and one level above the limit: the register does NOT decode — `prepareNext` fails on the elements
    item, after the extra-data sections have been decoded (hence the allocation count) -/
theorem decodeSlab_encodeMapData_tooDeep (s : MapData) (pre : MapDataPre s)
    (h : maxNestedLevels < (Slab.mdata s).vdepth) (more : Bytes) (n : Nat) :
    decodeSlab s.id (encodeMapData s ++ more) n = .error .decoding (n + iedAllocsC (encMEls s.els []).2) := by
  have hvd : maxNestedLevels < s.els.vd := by
    have := (vdepth_mdata_le_iff s (L := maxNestedLevels) (by decide)).2
    by_cases hc : s.els.vd ≤ maxNestedLevels
    · have := this hc; omega
    · omega
  have hw := wfNext_none_of_exX (exX_mapElements s pre.rt pre.nodup) hvd more
  rw [decodeSlab_encodeMapData_red s pre.rt pre.entries pre.next pre.extra more n,
    mapDataContent_rej _ _ _ _ _ _ hw]

/-- the two head bytes `ArrayDataSlab.Encode` writes -/
def arrDataHead (a : ArrData) : SlabHead :=
  ⟨ArrayDataSlab_Encode_version * 16 ||| flagIf (decide (a.next ≠ SlabID.undef)) maskHasNextSlabID |||
      flagIf (!(encSts a.elems []).2.isEmpty) maskHasInlinedSlabs,
   maskArrayData ||| flagIf (anyPtrSts a.elems) maskSlabHasPointers ||| flagIf a.ty.isSome maskSlabRoot⟩

/-- `ArrDataOKC` without its nesting hypothesis -/
structure ArrDataPre (a : ArrData) : Prop where
  rt : rtiSts a.elems
  nodup : nodupKeysSts a.elems
  count : a.elems.length < 65536
  inlined : (encSts a.elems []).2 ≠ []
  entries : (encSts a.elems []).2.length ≤ 256
  next : validNext a.next
  ty : ∀ t, a.ty = some t → validTy t
  size : a.size ≤ maxUint32

/-- `ArrDataOKC` with the EXACT nesting hypothesis -/
structure ArrDataOKX (a : ArrData) : Prop where
  rt : rtiSts a.elems
  nodup : nodupKeysSts a.elems
  nest : (Slab.adata a).vdepth ≤ maxNestedLevels
  count : a.elems.length < 65536
  inlined : (encSts a.elems []).2 ≠ []
  entries : (encSts a.elems []).2.length ≤ 256
  next : validNext a.next
  ty : ∀ t, a.ty = some t → validTy t
  size : a.size ≤ maxUint32

theorem ArrDataOKX.pre {a : ArrData} (ok : ArrDataOKX a) : ArrDataPre a :=
  ⟨ok.rt, ok.nodup, ok.count, ok.inlined, ok.entries, ok.next, ok.ty, ok.size⟩

theorem ArrDataOKC.pre {a : ArrData} (ok : ArrDataOKC a) : ArrDataPre a :=
  ⟨ok.rt, ok.nodup, ok.count, ok.inlined, ok.entries, ok.next, ok.ty, ok.size⟩

theorem ArrDataOKC.toX {a : ArrData} (ok : ArrDataOKC a) : ArrDataOKX a :=
  ⟨ok.rt, ok.nodup,
   (vdepth_adata_le_iff a (by decide)).2 (by have := vdSts_le_vneedI a.elems; have := ok.nest; omega),
   ok.count, ok.inlined, ok.entries, ok.next, ok.ty, ok.size⟩

/-- the element array of an array data slab, exactly -/
theorem exX_arrElements (elems : List Stor) (hrt : rtiSts elems) (hnd : nodupKeysSts elems)
    (hcount : elems.length < 65536) :
    ExX (arrayHead16 elems.length ++ (encSts elems []).1) (fun _ => vdSts elems + 1) := by
  have := ExX.array16 (l := encStPartsX elems []) (N := vdSts elems)
    (by rw [encStPartsX_length]; exact hcount) (exStPartsX elems [] hrt hnd) (isMax_encStPartsX elems [])
  exact this.cast (by rw [encStPartsX_length, encStPartsX_fst, encStParts_flatten]) (fun _ => rfl)

/-- the validator's verdict on the element array of an array data slab whose depth is within the limit:
    accepted, and the elements are within the depth limit of the decoders' own recursion -/
theorem wfNext_arrElements (a : ArrData) (hrt : rtiSts a.elems) (hnd : nodupKeysSts a.elems)
    (hcount : a.elems.length < 65536) (h : (Slab.adata a).vdepth ≤ maxNestedLevels) (extra : Bytes) :
    wfNext (arrayHead16 a.elems.length ++ ((encSts a.elems []).1 ++ extra)) = some extra ∧
      dneedSts a.elems ≤ maxDecodeDepth := by
  have hvd : vdSts a.elems + 1 ≤ maxNestedLevels := (vdepth_adata_le_iff a (by decide)).1 h
  have hw := wfNext_of_exX (exX_arrElements a.elems hrt hnd hcount) hvd extra
  rw [List.append_assoc] at hw
  refine ⟨hw, ?_⟩
  have := dneedSts_le_vd a.elems
  simp only [maxDecodeDepth, maxNestedLevels] at hvd ⊢; omega

/-- … and one level above the limit: rejected -/
theorem wfNext_arrElements_none (a : ArrData) (hrt : rtiSts a.elems) (hnd : nodupKeysSts a.elems)
    (hcount : a.elems.length < 65536) (h : maxNestedLevels < (Slab.adata a).vdepth) (extra : Bytes) :
    wfNext (arrayHead16 a.elems.length ++ ((encSts a.elems []).1 ++ extra)) = none := by
  have hvd : maxNestedLevels < vdSts a.elems + 1 :=
    Nat.lt_of_not_le fun hc => Nat.not_le_of_lt h ((vdepth_adata_le_iff a (by decide)).2 hc)
  have hw := wfNext_none_of_exX (exX_arrElements a.elems hrt hnd hcount) hvd extra
  rw [List.append_assoc] at hw
  exact hw

theorem arrDataContentG_encX (id : SlabID) (isRoot : Bool) (ty : Option TyInfo) (next : SlabID)
    (elems : List Stor) (hrt : rtiSts elems) (hnd : nodupKeysSts elems) (extra : Bytes)
    (hw : wfNext (arrayHead16 elems.length ++ ((encSts elems []).1 ++ extra)) = some extra)
    (hdn : dneedSts elems ≤ maxDecodeDepth) (hcount : elems.length < 65536)
    (h256 : (encSts elems []).2.length ≤ 256)
    (hsz : (if isRoot then arrayRootDataSlabPrefixSize else arrayDataSlabPrefixSize) + sizeSts elems ≤ maxUint32)
    (n : Nat) :
    arrDataContentG id isRoot ty next true (encSts elems []).2
        (arrayHead16 elems.length ++ ((encSts elems []).1 ++ extra)) n =
      if extra ≠ [] then .error .decoding (n + elems.length + allocsISts (normSts elems []))
      else .ok (.adata { id := id, next := next, ty := ty, elems := normSts elems [] })
        (n + elems.length + allocsISts (normSts elems [])) := by
  have hL : (arrayHead16 elems.length ++ ((encSts elems []).1 ++ extra)).length
      = 3 + (encSts elems []).1.length + extra.length := by
    simp only [List.length_append, length_arrayHead16]; omega
  unfold arrDataContentG
  rw [if_neg (by rw [hL]; simp only [arrayDataSlabElementHeadSize]; omega)]
  obtain ⟨d1, h1, h2⟩ := (Dec.Reads.item (b := arrayHead16 elems.length ++ (encSts elems []).1)
    (List.append_assoc _ _ extra).symm).split
  have hhead : (Dec.new (arrayHead16 elems.length ++ ((encSts elems []).1 ++ extra))).decodeArrayHead
      = some (elems.length, d1) := by
    show Dec.decodeHeadOf 4 _ = _
    rw [decodeHeadOf_new hw]
    exact decodeArrayHead_reads16 hcount h1
  rw [hhead]
  simp only [DM.liftOpt_some, DM.pure_bind]
  have hc1 : ¬ (elems.length > maxUint32) := by simp only [maxUint32]; omega
  simp only [hc1, ↓reduceIte]
  rw [DM.alloc_bind]
  simp only
  rw [DM.bind_ok (decStsG_enc_norm elems hrt hnd ((arrayHead16 elems.length ++ ((encSts elems []).1 ++ extra)).length + 1) 0
    id.addr [] (encSts elems []).2
    (if isRoot then arrayRootDataSlabPrefixSize else arrayDataSlabPrefixSize) (n + elems.length)
    XOKC.nil ⟨[], by simp⟩ h256 (Nat.le_trans (fuelISts_norm_le_len elems [] hrt hnd) (by rw [hL]; omega))
    (by omega) h2 hsz)]
  have hcons : (arrayHead16 elems.length ++ (encSts elems []).1).length = 3 + (encSts elems []).1.length := by
    rw [List.length_append, length_arrayHead16]
  simp only [Dec.numBytesDecoded, hcons]
  by_cases hex : extra = []
  · subst hex
    have hc : ¬ (True ∧ 3 + (encSts elems []).1.length < (arrayHead16 elems.length ++ ((encSts elems []).1 ++ [])).length) := by
      rw [hL]; simp
    simp only [hc, ↓reduceIte, ne_eq, not_true_eq_false]
    rfl
  · have hpos : 0 < extra.length := List.length_pos_iff.2 hex
    have hc : 3 + (encSts elems []).1.length < (arrayHead16 elems.length ++ ((encSts elems []).1 ++ extra)).length := by
      rw [hL]; omega
    simp only [true_and, hc, ↓reduceIte, ne_eq, hex, not_false_eq_true]
    rfl

/-- the content part on data (at least the three bytes of an array head) whose first item the validator
    rejects -/
theorem arrDataContentG_rej (id : SlabID) (isRoot : Bool) (ty : Option TyInfo) (next : SlabID) (checkEOF : Bool)
    (xs : List XD) (data : Bytes) (hlen : arrayDataSlabElementHeadSize ≤ data.length)
    (hw : wfNext data = none) (n : Nat) :
    arrDataContentG id isRoot ty next checkEOF xs data n = .error .decoding n := by
  unfold arrDataContentG
  rw [if_neg (by omega)]
  have : (Dec.new data).decodeArrayHead = none := decodeHeadOf_new_none hw
  rw [this]
  rfl

/-- the inlined-extra-data section, present exactly when the encoder's final state is not empty -/
theorem arrDataV1AfterExtraG_ied (id : SlabID) (h : SlabHead) (ty : Option TyInfo) (xs : List XD)
    (hinl : h.hasInlinedSlabs = !xs.isEmpty) (hxok : XOKC xs) (h256 : xs.length ≤ 256) (data : Bytes) (n : Nat) :
    arrDataV1AfterExtraG id h ty (encodeIEDSection xs ++ data) n
      = arrDataV1AfterIEDG id h ty xs data (n + iedAllocsC xs) := by
  unfold arrDataV1AfterExtraG
  rw [hinl]
  cases xs with
  | nil => rfl
  | cons x xs =>
    simp only [List.isEmpty_cons, Bool.not_false, ↓reduceIte, encodeIEDSection, iedAllocsC, Bool.false_eq_true]
    rw [DM.bind_ok (newInlinedExtraDataFromData_encC (x :: xs) hxok (List.cons_ne_nil _ _) h256 _ n)]
    simp only [Nat.add_assoc]

theorem arrDataHead_facts (a : ArrData) :
    (arrDataHead a).slabType = .array ∧ (arrDataHead a).arrayType = .data ∧ (arrDataHead a).version = 1 ∧
      (arrDataHead a).isRoot = a.ty.isSome ∧ (arrDataHead a).hasInlinedSlabs = !(encSts a.elems []).2.isEmpty ∧
      (arrDataHead a).hasNextSlabID = decide (a.next ≠ SlabID.undef) := by
  have hf := head_adata_facts (decide (a.next ≠ SlabID.undef)) (!(encSts a.elems []).2.isEmpty) (anyPtrSts a.elems)
    a.ty.isSome
  exact ⟨hf.1, hf.2.1, hf.2.2.1, hf.2.2.2.1, hf.2.2.2.2.2.2.1, hf.2.2.2.2.2.2.2⟩

/-- the register of an array data slab, section by section -/
theorem encodeArrData_sections (a : ArrData) (extra : Bytes) :
    encodeArrData a ++ extra = (arrDataHead a).b0 :: (arrDataHead a).b1 :: (arrExtraBytes a.ty ++
      (encodeIEDSection (encSts a.elems []).2 ++
        ((if decide (a.next ≠ SlabID.undef) = true then encodeSlabID a.next else []) ++
          (arrayHead16 a.elems.length ++ ((encSts a.elems []).1 ++ extra))))) := by
  unfold encodeArrData arrDataHead
  cases a.ty <;> simp only [arrExtraBytes, List.cons_append, List.nil_append, List.append_assoc]

/-- the second part of the decoder on the register of ANY array data slab (with or without an
    inlined-extra-data section), followed by `extra` bytes, is its content part run on the element array; no
    nesting hypothesis -/
theorem decodeSlabGen_encodeArrData (a : ArrData) (hxok : XOKC (encSts a.elems []).2)
    (h256 : (encSts a.elems []).2.length ≤ 256) (hnext : validNext a.next) (hty : ∀ t, a.ty = some t → validTy t)
    (extra : Bytes) (n : Nat) :
    decodeSlabGen a.id (encodeArrData a ++ extra) n =
      arrDataContentG a.id a.ty.isSome a.ty a.next true (encSts a.elems []).2
        (arrayHead16 a.elems.length ++ ((encSts a.elems []).1 ++ extra)) (n + iedAllocsC (encSts a.elems []).2) := by
  obtain ⟨h1, h2, h3, h4, h7, h8⟩ := arrDataHead_facts a
  rw [encodeArrData_sections, decodeSlabGen_adataV1 _ _ _ h1 h2 h3, newArrayDataSlabFromDataV1G_extra _ _ _ h4 hty,
    arrDataV1AfterExtraG_ied _ _ _ _ h7 hxok h256, arrDataV1AfterIEDG_next _ _ _ _ _ h8 hnext, h4]

/-- the first part of the decoder gives up on an array data slab that holds an inlined child: at the
    has-inlined-slabs flag -/
theorem decodeSlabFlat_encodeArrData_inlined (a : ArrData) (hinl : (encSts a.elems []).2 ≠ [])
    (hty : ∀ t, a.ty = some t → validTy t) (extra : Bytes) (n : Nat) :
    decodeSlabFlat a.id (encodeArrData a ++ extra) n = .error .unsupported n := by
  obtain ⟨h1, h2, h3, h4, h7, _⟩ := arrDataHead_facts a
  rw [encodeArrData_sections, decodeSlabFlat_adataV1 _ _ _ h1 h2 h3, newArrayDataSlabFromDataV1_extra _ _ _ h4 hty]
  unfold dataV1AfterExtra
  rw [h7, List.isEmpty_eq_false_iff.2 hinl]
  rfl

/-- `DecodeSlab` on the encoding of an array data slab that holds inlined children, followed by
    `extra` bytes, is the content part run on the element array; no nesting hypothesis -/
theorem decodeSlab_encodeArrData_red_of_xok (a : ArrData) (hxok : XOKC (encSts a.elems []).2) (hinl : (encSts a.elems []).2 ≠ [])
    (h256 : (encSts a.elems []).2.length ≤ 256) (hnext : validNext a.next) (hty : ∀ t, a.ty = some t → validTy t)
    (extra : Bytes) (n : Nat) :
    decodeSlab a.id (encodeArrData a ++ extra) n =
      arrDataContentG a.id a.ty.isSome a.ty a.next true (encSts a.elems []).2
        (arrayHead16 a.elems.length ++ ((encSts a.elems []).1 ++ extra)) (n + iedAllocsC (encSts a.elems []).2) := by
  rw [decodeSlab_of_flat_unsupported (decodeSlabFlat_encodeArrData_inlined a hinl hty extra n),
    decodeSlabGen_encodeArrData a hxok h256 hnext hty]

theorem decodeSlab_encodeArrData_red (a : ArrData) (hrt : rtiSts a.elems) (hinl : (encSts a.elems []).2 ≠ [])
    (h256 : (encSts a.elems []).2.length ≤ 256) (hnext : validNext a.next) (hty : ∀ t, a.ty = some t → validTy t)
    (extra : Bytes) (n : Nat) :
    decodeSlab a.id (encodeArrData a ++ extra) n =
      arrDataContentG a.id a.ty.isSome a.ty a.next true (encSts a.elems []).2
        (arrayHead16 a.elems.length ++ ((encSts a.elems []).1 ++ extra)) (n + iedAllocsC (encSts a.elems []).2) :=
  decodeSlab_encodeArrData_red_of_xok a ((encSts_appends a.elems [] hrt).stateC XOKC.nil).2 hinl h256 hnext hty extra n

/-- `DecodeSlab` on the encoding of an array data slab that holds inlined arrays / maps (any depth,
    the compact form included) whose validator depth is within the limit, followed by `extra` bytes -/
theorem decodeSlab_encodeArrDataX (a : ArrData) (ok : ArrDataOKX a) (extra : Bytes) (n : Nat) :
    decodeSlab a.id (encodeArrData a ++ extra) n =
      if extra ≠ [] then
        .error .decoding (n + iedAllocsC (encSts a.elems []).2 + a.elems.length + allocsISts (normSts a.elems []))
      else .ok (.adata { a with elems := normSts a.elems [] })
        (n + iedAllocsC (encSts a.elems []).2 + a.elems.length + allocsISts (normSts a.elems [])) := by
  obtain ⟨hw, hdn⟩ := wfNext_arrElements a ok.rt ok.nodup ok.count ok.nest extra
  rw [decodeSlab_encodeArrData_red a ok.rt ok.inlined ok.entries ok.next ok.ty extra n,
    arrDataContentG_encX a.id a.ty.isSome a.ty a.next a.elems ok.rt ok.nodup extra hw hdn ok.count ok.entries
      (by have := ok.size; simpa [ArrData.size] using this)]

/-- … and one level above the limit the register does NOT decode -/
theorem decodeSlab_encodeArrData_tooDeep (a : ArrData) (pre : ArrDataPre a)
    (h : maxNestedLevels < (Slab.adata a).vdepth) (extra : Bytes) (n : Nat) :
    decodeSlab a.id (encodeArrData a ++ extra) n = .error .decoding (n + iedAllocsC (encSts a.elems []).2) := by
  have hw := wfNext_arrElements_none a pre.rt pre.nodup pre.count h extra
  rw [decodeSlab_encodeArrData_red a pre.rt pre.inlined pre.entries pre.next pre.ty extra n,
    arrDataContentG_rej _ _ _ _ _ _ _ (by simp [arrayDataSlabElementHeadSize, length_arrayHead16]) hw]

theorem encodeMapData_normX (s : MapData) (pre : MapDataPre s) :
    encodeMapData { s with els := normMEls s.els [] } = encodeMapData s := by
  unfold encodeMapData
  simp only [encMEls_norm s.els [] pre.rt pre.nodup XOKC.nil, hasPtr_normMEls s.els [] pre.nodup]

theorem encodeArrData_normX (a : ArrData) (pre : ArrDataPre a) :
    encodeArrData { a with elems := normSts a.elems [] } = encodeArrData a := by
  unfold encodeArrData
  simp only [encSts_norm a.elems [] pre.rt pre.nodup XOKC.nil, anyPtrSts_norm a.elems [] pre.nodup, length_normSts]

/-- `DecodeSlab` on the encoding of a map data / collision-group slab with inlined arrays / maps
    (any depth, shared and repeated type infos, the compact form included), followed by ANY `more` bytes:
    the decoded slab holds the elements as `normMEls` describes them -/
theorem decodeSlab_encodeMapDataC (s : MapData) (ok : MapDataOKC s) (more : Bytes) (n : Nat) :
    decodeSlab s.id (encodeMapData s ++ more) n
      = .ok (.mdata { s with els := normMEls s.els [] })
          (n + iedAllocsC (encMEls s.els []).2 + (normMEls s.els []).allocsI) :=
  decodeSlab_encodeMapDataX s ok.toX more n

/-- `DecodeSlab` on the encoding of an array data slab that holds inlined arrays / maps (any depth,
    shared and repeated type infos, the compact form included), followed by `extra` bytes: the decoded
    slab holds the elements as `normSts` describes them -/
theorem decodeSlab_encodeArrDataC (a : ArrData) (ok : ArrDataOKC a) (extra : Bytes) (n : Nat) :
    decodeSlab a.id (encodeArrData a ++ extra) n =
      if extra ≠ [] then
        .error .decoding (n + iedAllocsC (encSts a.elems []).2 + a.elems.length + allocsISts (normSts a.elems []))
      else .ok (.adata { a with elems := normSts a.elems [] })
        (n + iedAllocsC (encSts a.elems []).2 + a.elems.length + allocsISts (normSts a.elems [])) :=
  decodeSlab_encodeArrDataX a ok.toX extra n

end Atree.Codec

import AtreeProofs.Codec.VDepthSlab
/-
  `DecodeSlab` on encoded array data slabs with WRAPPED elements and no inlined child, under the EXACT
  nesting hypothesis `Slab.vdepth ≤ maxNestedLevels` (`ArrDataOKWX`), instead of the over-approximation
  `vneedISts + 1 ≤ maxNestedLevels` of `ArrDataOKW` (SlabPreds.lean).

  The lemmas take the only consequence of the nesting hypothesis they use — the validator accepts the
  element array, `wfNext … = some extra` — as their hypothesis; the exact validator depth
  (`wfNext_arrElements`, VDepthSlab.lean) then supplies it.
-/
namespace Atree.Codec
open Atree Atree.Gen DM

/-- `ArrDataOKW` with the EXACT nesting hypothesis -/
structure ArrDataOKWX (a : ArrData) : Prop where
  rt : rtiSts a.elems
  noInl : noInlSts a.elems
  wrapped : ∃ s ∈ a.elems, s.isFlat = false
  nest : (Slab.adata a).vdepth ≤ maxNestedLevels
  count : a.elems.length < 65536
  next : validNext a.next
  ty : ∀ t, a.ty = some t → validTy t
  size : a.size ≤ maxUint32

theorem ArrDataOKW.toX {a : ArrData} (ok : ArrDataOKW a) : ArrDataOKWX a :=
  ⟨ok.rt, ok.noInl, ok.wrapped,
   (vdepth_adata_le_iff a (by decide)).2 (by have := vdSts_le_vneedI a.elems; have := ok.nest; omega),
   ok.count, ok.next, ok.ty, ok.size⟩

theorem ArrDataOKWX.nodup {a : ArrData} (ok : ArrDataOKWX a) : nodupKeysSts a.elems :=
  nodupKeysSts_of_noCompact a.elems (noCompactSts_of_noInl a.elems ok.noInl)

theorem decodeDataContent_unsupportedX (id : SlabID) (isRoot : Bool) (ty : Option TyInfo) (next : SlabID)
    (checkEOF : Bool) (elems : List Stor) (hrt : rtiSts elems) (hni : noInlSts elems)
    (hw : ∃ s ∈ elems, s.isFlat = false) (extra : Bytes)
    (hwf : wfNext (arrayHead16 elems.length ++ ((encSts elems []).1 ++ extra)) = some extra)
    (hcount : elems.length < 65536)
    (hsz : (if isRoot then arrayRootDataSlabPrefixSize else arrayDataSlabPrefixSize) + sizeSts elems ≤ maxUint32)
    (n : Nat) :
    decodeDataContent id isRoot ty next checkEOF (arrayHead16 elems.length ++ ((encSts elems []).1 ++ extra)) n
      = .error .unsupported (n + elems.length) := by
  unfold decodeDataContent
  rw [if_neg (by simp only [List.length_append, length_arrayHead16, arrayDataSlabElementHeadSize]; omega)]
  obtain ⟨d1, h1, h2⟩ := (Dec.Reads.item (b := arrayHead16 elems.length ++ (encSts elems []).1)
    (List.append_assoc _ _ extra).symm).split
  have hhead : (Dec.new (arrayHead16 elems.length ++ ((encSts elems []).1 ++ extra))).decodeArrayHead
      = some (elems.length, d1) := by
    show Dec.decodeHeadOf 4 _ = _
    rw [decodeHeadOf_new hwf]
    exact decodeArrayHead_reads16 hcount h1
  rw [hhead]
  simp only [DM.liftOpt_some, DM.pure_bind]
  have hc1 : ¬ (elems.length > 4294967295) := by omega
  simp only [hc1, ↓reduceIte]
  rw [DM.alloc_bind]
  simp only
  have hun := decodeElems_unsupported_reads elems hrt hni hw
    (if isRoot then arrayRootDataSlabPrefixSize else arrayDataSlabPrefixSize) (n + elems.length) h2
    (by simpa [maxUint32] using hsz)
  show DM.bind' _ _ (n + elems.length) = _
  unfold DM.bind'
  rw [hun]

/-- the first part of the decoder gives up on an array data slab with wrapped elements: at the first wrapper,
    after the element array has been allocated -/
theorem decodeSlabFlat_encodeArrData_wrapped (a : ArrData) (hrt : rtiSts a.elems) (hni : noInlSts a.elems)
    (hw : ∃ s ∈ a.elems, s.isFlat = false) (extra : Bytes)
    (hwf : wfNext (arrayHead16 a.elems.length ++ ((encSts a.elems []).1 ++ extra)) = some extra)
    (hcount : a.elems.length < 65536) (hnext : validNext a.next) (hty : ∀ t, a.ty = some t → validTy t)
    (hsz : a.size ≤ maxUint32) (n : Nat) :
    decodeSlabFlat a.id (encodeArrData a ++ extra) n = .error .unsupported (n + a.elems.length) := by
  obtain ⟨h1, h2, h3, h4, h7, h8⟩ := arrDataHead_facts a
  rw [encSts_noInl a.elems [] hni] at h7
  rw [encodeArrData_sections, decodeSlabFlat_adataV1 _ _ _ h1 h2 h3, newArrayDataSlabFromDataV1_extra _ _ _ h4 hty,
    encSts_noInl a.elems [] hni]
  simp only [encodeIEDSection, List.isEmpty_nil, ↓reduceIte, List.nil_append]
  rw [dataV1AfterExtra_next _ _ _ _ h7 h8 hnext, h4]
  exact decodeDataContent_unsupportedX _ _ _ _ true a.elems hrt hni hw extra hwf hcount
    (by simpa [ArrData.size] using hsz) n

/-- `DecodeSlab` on the encoding of an array data slab with wrapped elements (no inlined slab) whose
    validator depth is within the limit, followed by `extra` bytes -/
theorem decodeSlab_encodeArrDataWX (a : ArrData) (ok : ArrDataOKWX a) (extra : Bytes) (n : Nat) :
    decodeSlab a.id (encodeArrData a ++ extra) n =
      if extra ≠ [] then .error .decoding (n + a.elems.length + allocsISts a.elems)
      else .ok (.adata a) (n + a.elems.length + allocsISts a.elems) := by
  obtain ⟨hwf, hdn⟩ := wfNext_arrElements a ok.rt ok.nodup ok.count ok.nest extra
  have hxs : (encSts a.elems []).2 = [] := encSts_noInl a.elems [] ok.noInl
  rw [decodeSlab_of_flat_unsupported
      (decodeSlabFlat_encodeArrData_wrapped a ok.rt ok.noInl ok.wrapped extra hwf ok.count ok.next ok.ty ok.size n),
    decodeSlabGen_encodeArrData a (by rw [hxs]; exact XOKC.nil) (by rw [hxs]; simp) ok.next ok.ty,
    arrDataContentG_encX a.id a.ty.isSome a.ty a.next a.elems ok.rt ok.nodup extra hwf hdn ok.count (by rw [hxs]; simp)
      (by have := ok.size; simpa [ArrData.size] using this),
    hxs, normSts_noCompact a.elems [] (noCompactSts_of_noInl a.elems ok.noInl)]
  rfl

/-- … and one level above the limit the register does NOT decode.  (The first part of the decoder,
    `decodeSlabFlat`, fails with a decoding error — not "unsupported" — so `DecodeSlab` does not even
    reach the general decoder.)  Stated for the general decoder's verdict: the validator rejects the
    element array. -/
theorem wfNext_arrElements_tooDeep (a : ArrData) (hrt : rtiSts a.elems) (hnd : nodupKeysSts a.elems)
    (hcount : a.elems.length < 65536) (h : maxNestedLevels < (Slab.adata a).vdepth) (extra : Bytes) :
    wfNext (arrayHead16 a.elems.length ++ ((encSts a.elems []).1 ++ extra)) = none :=
  wfNext_arrElements_none a hrt hnd hcount h extra

end Atree.Codec

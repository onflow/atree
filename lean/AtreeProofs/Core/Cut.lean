import AtreeProofs.ListAt
/-
  Re-dividing the contents of two adjacent slabs, for arrays and maps alike.  A slab with entry sizes
  `L` has size `p + L.sum` (`p` its prefix); split, lend and borrow cut a list of sizes at some `n`,
  and `Cut L n x y` names the two sums, so that statements about a loop speak of `x` and `y` only.
  After lend or borrow all anybody needs is that both parts reach the lower threshold: one slab was
  within the band and the other below it, so the upper threshold follows from the unchanged total
  (`band_of_min`).  No fact about a threshold is used here.
-/
namespace Atree

/-- `n` cuts the sizes `L` into a part summing to `x` and a part summing to `y` -/
structure Cut (L : List Nat) (n x y : Nat) : Prop where
  le : n ≤ L.length
  left : (L.take n).sum = x
  right : (L.drop n).sum = y

namespace Cut
variable {L : List Nat} {n x y : Nat}

theorem of_le (h : n ≤ L.length) : Cut L n (L.take n).sum (L.drop n).sum := ⟨h, rfl, rfl⟩

theorem zero (L : List Nat) : Cut L 0 0 L.sum := ⟨Nat.zero_le _, rfl, rfl⟩

theorem cons (c : Cut L n x y) (a : Nat) : Cut (a :: L) (n + 1) (a + x) y :=
  ⟨Nat.succ_le_succ c.le, by rw [List.take_succ_cons, List.sum_cons, c.left], c.right⟩

theorem sum (c : Cut L n x y) : x + y = L.sum := by
  rw [← c.left, ← c.right]; exact sum_take_add_drop L n

/-- taking `j` entries from the back is the cut at `length - j` -/
theorem of_reverse (L : List Nat) (j : Nat) :
    Cut L (L.length - j) (L.sum - (L.reverse.take j).sum) (L.reverse.take j).sum := by
  have e : (L.reverse.take j).sum = (L.drop (L.length - j)).sum := by rw [List.take_reverse, List.sum_reverse]
  refine ⟨Nat.sub_le _ _, ?_, e.symm⟩
  rw [e]; exact Nat.eq_sub_of_add_eq (sum_take_add_drop L _)

/-- a side with a positive sum is not empty -/
theorem pos (c : Cut L n x y) (hx : 0 < x) : 1 ≤ n := by
  rcases Nat.eq_zero_or_pos n with h | h
  · have := c.left; rw [h, List.take_zero, List.sum_nil] at this; omega
  · exact h

theorem lt (c : Cut L n x y) (hy : 0 < y) : n < L.length := by
  rcases Nat.lt_or_ge n L.length with h | h
  · exact h
  · have := c.right; rw [List.drop_of_length_le h, List.sum_nil] at this; omega

end Cut

/-- Two parts that both reach `m` and together do not exceed `m + M` are both at most `M`. -/
theorem band_of_min {m M a b : Nat} (ha : m ≤ a) (hb : m ≤ b) (h : a + b ≤ m + M) : a ≤ M ∧ b ≤ M :=
  ⟨by omega, by omega⟩

/-! Index slabs: one with `n` children has size `p + hs * n` (`p` the prefix, `hs` the size of a child
    header).  `LendToRight` / `BorrowFromRight` give each side half of the children. -/

/-- If some way of dividing `a + b` leaves both parts at least `c`, halving does. -/
theorem half_ge {a b c : Nat} (ha : c ≤ a) (hb : c ≤ b) : c ≤ (a + b) / 2 ∧ c ≤ a + b - (a + b) / 2 := by
  omega

/-- `⌈w / hs⌉` headers cover `w` bytes -/
theorem le_mul_ceil {hs : Nat} (h : 0 < hs) (w : Nat) : w ≤ hs * ((w + hs - 1) / hs) := by
  have := Nat.lt_mul_div_succ (w + hs - 1) h
  rw [Nat.mul_succ] at this
  omega

/-- If some division `a' + b'` of the children of two index slabs leaves both at least `m`, the
    balanced one does, and both halves are at most `M` when the two sizes together are at most
    `m + M`.  Only the monotonicity of `hs * ·` is used, so `hs` and `p` are variables. -/
theorem idx_half_band {hs p m M a b a' b' : Nat} (hn : a' + b' = a + b) (ha : m ≤ p + hs * a')
    (hb : m ≤ p + hs * b') (htot : (p + hs * a) + (p + hs * b) ≤ m + M) :
    m ≤ p + hs * ((a + b) / 2) ∧ p + hs * ((a + b) / 2) ≤ M ∧
    m ≤ p + hs * (a + b - (a + b) / 2) ∧ p + hs * (a + b - (a + b) / 2) ≤ M := by
  obtain ⟨g1, g2⟩ := half_ge (c := min a' b') (Nat.min_le_left ..) (Nat.min_le_right ..)
  rw [hn] at g1 g2
  have hmin : m ≤ p + hs * min a' b' := by
    rcases Nat.le_total a' b' with h | h
    · rw [Nat.min_eq_left h]; exact ha
    · rw [Nat.min_eq_right h]; exact hb
  have l1 := Nat.le_trans hmin (Nat.add_le_add_left (Nat.mul_le_mul_left hs g1) p)
  have l2 := Nat.le_trans hmin (Nat.add_le_add_left (Nat.mul_le_mul_left hs g2) p)
  have e : hs * ((a + b) / 2) + hs * (a + b - (a + b) / 2) = hs * a + hs * b := by
    rw [← Nat.mul_add, ← Nat.mul_add, Nat.add_sub_cancel' (Nat.div_le_self _ _)]
  obtain ⟨u1, u2⟩ := band_of_min (M := M) l1 l2 (by omega)
  exact ⟨l1, u1, l2, u2⟩

/-- What `canLend` of an index slab says, as a division of the children: the lender (`cl` children)
    keeps more than `m` after giving `k` headers, and these lift the receiver (`cr` children) to
    `m`.  Then rebalancing leaves both within the band; the last two conjuncts say on which side
    of the middle the two old counts lie. -/
theorem idx_rebal_band {hs p m M cl cr k : Nat} (hl2 : p + hs * cl ≤ M)
    (hr : p + hs * cr < m) (h1 : hs * k ≤ p + hs * cl) (h2 : m < p + hs * cl - hs * k)
    (hk : m ≤ p + hs * cr + hs * k) :
    m ≤ p + hs * ((cl + cr) / 2) ∧ p + hs * ((cl + cr) / 2) ≤ M ∧
    m ≤ p + hs * (cl + cr - (cl + cr) / 2) ∧ p + hs * (cl + cr - (cl + cr) / 2) ≤ M ∧
    (cl + cr) / 2 ≤ cl ∧ cr ≤ (cl + cr) / 2 := by
  have hka : k ≤ cl := by
    refine Nat.le_of_lt_succ (Nat.lt_of_mul_lt_mul_left (a := hs) ?_)
    rw [Nat.mul_succ]; omega
  have hlt : cr < cl := Nat.lt_of_mul_lt_mul_left (a := hs) (by omega)
  have e1 : hs * (cl - k) + hs * k = hs * cl := by rw [← Nat.mul_add, Nat.sub_add_cancel hka]
  have e2 : hs * (cr + k) = hs * cr + hs * k := Nat.mul_add ..
  obtain ⟨g1, g2, g3, g4⟩ := idx_half_band (hs := hs) (p := p) (m := m) (M := M) (a := cl) (b := cr) (a' := cl - k) (b' := cr + k)
    (by omega) (by omega) (by omega) (by omega)
  exact ⟨g1, g2, g3, g4, by omega, by omega⟩

end Atree

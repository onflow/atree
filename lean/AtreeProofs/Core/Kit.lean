import AtreeProofs.Core.Plan
/-
  The repair of a child of an index slab after an update (`SplitChildSlab` when it is over-full,
  `MergeOrRebalanceChildSlab` when it is under-full), at the level of the list of children, for
  any container.  `Kit` is what an index slab uses of the subtrees one level down; `Laws` is what
  a container proves about them; `Step` lists what the repair can do to the children;
  `Laws.repair_spec` is one level of every updating descent: some `Step` applies, afterwards all
  children are in the size band again and replace the old ones admissibly.  `Kit.tailPair` with
  `Laws.tail_spec` is the same for the last slab of a level in a bulk build.
-/
namespace Atree.Core

/-- the operations of the subtrees of one depth that an index slab calls -/
structure Kit (α : Type) where
  size : α → Nat
  canL : α → Nat → Bool
  canR : α → Nat → Bool
  merge : α → α → α
  lend : α → α → Option (α × α)
  borrow : α → α → Option (α × α)
  split : α → Option (α × α)

variable {α : Type}

/-- the plan for the under-full child `x` between `A` and `B` (`lo` = the minimum size) -/
def Kit.planFor (K : Kit α) (lo : Nat) (A B : List α) (x : α) : Plan α :=
  plan (K.canL · (lo - K.size x)) (K.canR · (lo - K.size x)) K.size A.getLast? B.head?

/-- What the repair of the updated child `x` between `A` and `B` does, by its size and the plan:
    `Step … n cs` = the children afterwards are `cs` and `n` slabs were allocated.  `W n X X'` is the
    container's notion of "the adjacent siblings `X` may be replaced by `X'` at the cost of `n`
    freshly allocated slabs". -/
inductive Step (K : Kit α) (lo hi : Nat) (W : Nat → List α → List α → Prop) (A B : List α) (x : α) :
    Nat → List α → Prop
  | same : lo ≤ K.size x → K.size x ≤ hi → Step K lo hi W A B x 0 (A ++ x :: B)
  | split {l r : α} : hi < K.size x → K.split x = some (l, r) → W 1 [x] [l, r] →
      Step K lo hi W A B x 1 (A ++ l :: r :: B)
  | rebalL {A' : List α} {l l' x' : α} : K.size x < lo → A = A' ++ [l] → K.planFor lo A B x = .rebalL l →
      K.lend l x = some (l', x') → W 0 [l, x] [l', x'] → Step K lo hi W A B x 0 (A' ++ l' :: x' :: B)
  | rebalR {B' : List α} {r x' r' : α} : K.size x < lo → B = r :: B' → K.planFor lo A B x = .rebalR r →
      K.borrow x r = some (x', r') → W 0 [x, r] [x', r'] → Step K lo hi W A B x 0 (A ++ x' :: r' :: B')
  | mergeL {A' : List α} {l : α} : K.size x < lo → A = A' ++ [l] → K.planFor lo A B x = .mergeL l →
      W 0 [l, x] [K.merge l x] → Step K lo hi W A B x 0 (A' ++ K.merge l x :: B)
  | mergeR {B' : List α} {r : α} : K.size x < lo → B = r :: B' → K.planFor lo A B x = .mergeR r →
      W 0 [x, r] [K.merge x r] → Step K lo hi W A B x 0 (A ++ K.merge x r :: B')

/-- the number of children after a step (`k` before): one more exactly on a split, when one slab is
    allocated; fewer only for an under-full child, then by one -/
theorem Step.length {K : Kit α} {lo hi : Nat} {W : Nat → List α → List α → Prop} {A B : List α} {x : α}
    {n k : Nat} {cs : List α} (h : Step K lo hi W A B x n cs) (hlh : lo ≤ hi)
    (hk : k = A.length + 1 + B.length) :
    n = (if hi < K.size x then 1 else 0) ∧ (hi < K.size x → cs.length = k + 1) ∧
      (lo ≤ K.size x → k ≤ cs.length) ∧ (K.size x ≤ hi → cs.length ≤ k) ∧
      k ≤ cs.length + 1 ∧ cs.length ≤ k + 1 := by
  -- the three ways the number can change, with the size that goes with each
  have more : ∀ {s len : Nat}, hi < s → len = k + 1 → 1 = (if hi < s then 1 else 0) ∧
      (hi < s → len = k + 1) ∧ (lo ≤ s → k ≤ len) ∧ (s ≤ hi → len ≤ k) ∧ k ≤ len + 1 ∧ len ≤ k + 1 :=
    fun h e => ⟨(if_pos h).symm, fun _ => e, fun _ => by rw [e]; exact Nat.le_succ k,
      fun h' => absurd h (Nat.not_lt.2 h'), by rw [e]; exact Nat.le_add_right k 2,
      by rw [e]; exact Nat.le_refl _⟩
  have same : ∀ {s len : Nat}, s ≤ hi → len = k → 0 = (if hi < s then 1 else 0) ∧
      (hi < s → len = k + 1) ∧ (lo ≤ s → k ≤ len) ∧ (s ≤ hi → len ≤ k) ∧ k ≤ len + 1 ∧ len ≤ k + 1 :=
    fun h e => ⟨(if_neg (Nat.not_lt.2 h)).symm, fun h' => absurd h' (Nat.not_lt.2 h),
      fun _ => by rw [e]; exact Nat.le_refl _, fun _ => by rw [e]; exact Nat.le_refl _,
      by rw [e]; exact Nat.le_succ k, by rw [e]; exact Nat.le_succ k⟩
  have less : ∀ {s len : Nat}, s < lo → len + 1 = k → 0 = (if hi < s then 1 else 0) ∧
      (hi < s → len = k + 1) ∧ (lo ≤ s → k ≤ len) ∧ (s ≤ hi → len ≤ k) ∧ k ≤ len + 1 ∧ len ≤ k + 1 :=
    fun h e =>
      have hs := Nat.le_of_lt (Nat.lt_of_lt_of_le h hlh)
      ⟨(if_neg (Nat.not_lt.2 hs)).symm, fun h' => absurd h' (Nat.not_lt.2 hs),
        fun h' => absurd h (Nat.not_lt.2 h'), fun _ => by rw [← e]; exact Nat.le_succ _,
        by rw [e]; exact Nat.le_refl _, by rw [← e]; exact Nat.le_add_right _ 2⟩
  subst hk
  cases h with
  | same _ h2 => exact same h2 (by simp only [List.length_append, List.length_cons]; omega)
  | split h1 => exact more h1 (by simp only [List.length_append, List.length_cons]; omega)
  | rebalL hu hA =>
    exact same (Nat.le_of_lt (Nat.lt_of_lt_of_le hu hlh))
      (by subst hA; simp only [List.length_append, List.length_cons, List.length_nil]; omega)
  | rebalR hu hB =>
    exact same (Nat.le_of_lt (Nat.lt_of_lt_of_le hu hlh)) (by subst hB; simp only [List.length_append, List.length_cons]; omega)
  | mergeL hu hA =>
    exact less hu (by subst hA; simp only [List.length_append, List.length_cons, List.length_nil]; omega)
  | mergeR hu hB =>
    exact less hu (by subst hB; simp only [List.length_append, List.length_cons]; omega)

/-- What a container proves about the subtrees of one depth.  `lo`/`hi` is the size band, `g` what a
    merge saves, `sl` how far above `hi` an updated subtree can be.  `Tight` is the invariant of a
    non-root subtree, `Loose` the same without the band; `Adj l r` what adjacent siblings owe each
    other (same owner; for maps also the order of their digests); `W` as in `Step` (same content,
    links and identifiers in order). -/
structure Laws (K : Kit α) (lo hi g sl : Nat) (Tight Loose : α → Prop) (Adj : α → α → Prop)
    (W : Nat → List α → List α → Prop) : Prop where
  tight_iff : ∀ t, Tight t ↔ Loose t ∧ lo ≤ K.size t ∧ K.size t ≤ hi
  same : ∀ t, Loose t → W 0 [t] [t]
  ctx : ∀ n P Q X X', W n X X' → W n (P ++ X ++ Q) (P ++ X' ++ Q)
  merge : ∀ l r, Loose l → Loose r → Adj l r →
    Loose (K.merge l r) ∧ K.size (K.merge l r) + g = K.size l + K.size r ∧ W 0 [l, r] [K.merge l r]
  /-- merge happens only when lending in one direction is refused (`plan`), and a sibling that cannot
      spare the missing `lo - size u` bytes is small enough for the merged slab to fit the band -/
  band : ∀ s u, Tight s → Loose u → K.size u < lo →
    (K.canL s (lo - K.size u) = false ∨ K.canR s (lo - K.size u) = false) →
    lo + g ≤ K.size s + K.size u ∧ K.size s + K.size u ≤ hi + g
  lend : ∀ l u, Tight l → Loose u → K.size u < lo → Adj l u → K.canL l (lo - K.size u) = true →
    ∃ l' u', K.lend l u = some (l', u') ∧ Tight l' ∧ Tight u' ∧ W 0 [l, u] [l', u']
  borrow : ∀ u r, Loose u → Tight r → K.size u < lo → Adj u r → K.canR r (lo - K.size u) = true →
    ∃ u' r', K.borrow u r = some (u', r') ∧ Tight u' ∧ Tight r' ∧ W 0 [u, r] [u', r']
  split : ∀ t, Loose t → hi < K.size t → K.size t ≤ hi + sl →
    ∃ l r, K.split t = some (l, r) ∧ Tight l ∧ Tight r ∧ W 1 [t] [l, r]

variable {K : Kit α} {lo hi g sl : Nat} {Tight Loose : α → Prop} {Adj : α → α → Prop}
  {W : Nat → List α → List α → Prop}

namespace Laws

/-- a replacement inside the zipper, in cons form -/
theorem ctx_assoc (L : Laws K lo hi g sl Tight Loose Adj W) {n : Nat} {X X' : List α} (h : W n X X')
    (P Q : List α) : W n (P ++ (X ++ Q)) (P ++ (X' ++ Q)) := by
  have := L.ctx n P Q X X' h
  rwa [List.append_assoc, List.append_assoc] at this

theorem merge_tight (L : Laws K lo hi g sl Tight Loose Adj W) {l r : α} (hl : Loose l) (hr : Loose r)
    (ha : Adj l r) (hb : lo + g ≤ K.size l + K.size r ∧ K.size l + K.size r ≤ hi + g) :
    Tight (K.merge l r) ∧ W 0 [l, r] [K.merge l r] := by
  obtain ⟨h1, h2, h3⟩ := L.merge l r hl hr ha
  exact ⟨(L.tight_iff _).2 ⟨h1, by omega, by omega⟩, h3⟩

/-- One level of every updating descent.  The updated child `x` (still `Loose`, at most `sl` over the
    band) is split, merged, rebalanced or left alone (siblings matter only when it is under-full):
    some `Step` applies, never a failure; afterwards all children are in the band and replace the
    old ones admissibly. -/
theorem repair_spec (L : Laws K lo hi g sl Tight Loose Adj W) {A B : List α} {x : α}
    (hA : ∀ t ∈ A, Tight t) (hB : ∀ t ∈ B, Tight t) (hx : Loose x) (hle : K.size x ≤ hi + sl)
    (hsib : K.size x < lo → 1 ≤ A.length + B.length)
    (haL : K.size x < lo → ∀ l ∈ A.getLast?, Adj l x) (haR : K.size x < lo → ∀ r ∈ B.head?, Adj x r) :
    ∃ n cs, Step K lo hi W A B x n cs ∧ (∀ t ∈ cs, Tight t) ∧ W n (A ++ x :: B) cs := by
  by_cases hfull : hi < K.size x
  · obtain ⟨l, r, he, h1, h2, h3⟩ := L.split x hx hfull hle
    exact ⟨1, _, .split hfull he h3, forall_mem_mid hA h1 (List.forall_mem_cons.2 ⟨h2, hB⟩), L.ctx_assoc h3 A B⟩
  by_cases hu : K.size x < lo
  · refine plan_zip (K.canL · (lo - K.size x)) (K.canR · (lo - K.size x)) K.size
      (Q := fun p => K.planFor lo A B x = p →
        ∃ n cs, Step K lo hi W A B x n cs ∧ (∀ t ∈ cs, Tight t) ∧ W n (A ++ x :: B) cs)
      ?_ ?_ ?_ ?_ ?_ rfl
    · rintro rfl rfl
      exact absurd (hsib hu) (by simp)
    · rintro A' l rfl hc hp
      obtain ⟨l', u', he, h1, h2, h3⟩ := L.lend l x (hA l (by simp)) hx hu (haL hu l (by simp)) hc
      refine ⟨0, _, .rebalL hu rfl hp he h3, forall_mem_mid (fun t ht => hA t (by simp [ht])) h1 (List.forall_mem_cons.2 ⟨h2, hB⟩), ?_⟩
      simpa using L.ctx_assoc h3 A' B
    · rintro B' r rfl hc hp
      obtain ⟨u', r', he, h1, h2, h3⟩ := L.borrow x r hx (hB r (by simp)) hu (haR hu r (by simp)) hc
      exact ⟨0, _, .rebalR hu rfl hp he h3, forall_mem_mid hA h1 (List.forall_mem_cons.2 ⟨h2, (fun t ht => hB t (by simp [ht]))⟩),
        L.ctx_assoc h3 A B'⟩
    · rintro A' l rfl hc hp
      have hl := hA l (by simp)
      obtain ⟨h1, h2⟩ := L.merge_tight ((L.tight_iff l).1 hl).1 hx (haL hu l (by simp))
        (L.band l x hl hx hu (Or.inl hc))
      refine ⟨0, _, .mergeL hu rfl hp h2, forall_mem_mid (fun t ht => hA t (by simp [ht])) h1 hB, ?_⟩
      simpa using L.ctx_assoc h2 A' B
    · rintro B' r rfl hc hp
      have hr := hB r (by simp)
      have hb := L.band r x hr hx hu (Or.inr hc)
      obtain ⟨h1, h2⟩ := L.merge_tight hx ((L.tight_iff r).1 hr).1 (haR hu r (by simp)) (by omega)
      exact ⟨0, _, .mergeR hu rfl hp h2, forall_mem_mid hA h1 (fun t ht => hB t (by simp [ht])),
        L.ctx_assoc h2 A B'⟩
  · have hlo : lo ≤ K.size x := Nat.not_lt.1 hu
    have hhi : K.size x ≤ hi := Nat.not_lt.1 hfull
    exact ⟨0, _, .same hlo hhi, forall_mem_mid hA ((L.tight_iff _).2 ⟨hx, hlo, hhi⟩) hB,
      L.ctx_assoc (L.same x hx) A B⟩

end Laws

/-- "Rebalance last slab if needed" of the bulk builds (`NewArrayFromBatchData`,
    `NewMapFromBatchData`) on the last two slabs `l`, `x` of a level: the repair of a last child,
    which has no right sibling — lend from the left if it can, merge otherwise. -/
def Kit.tailPair (K : Kit α) (lo : Nat) (l x : α) : Option (List α) :=
  if K.size x < lo then
    if K.canL l (lo - K.size x) = true then (K.lend l x).map fun p => [p.1, p.2]
    else some [K.merge l x]
  else some [l, x]

namespace Laws

/-- The tail step never fails when the last slab is `Loose` and not above the band; afterwards
    every slab is in the band and the pair is replaced admissibly. -/
theorem tailPair_spec (L : Laws K lo hi g sl Tight Loose Adj W) {l x : α}
    (hl : Tight l) (hx : Loose x) (hhi : K.size x ≤ hi) (ha : Adj l x) :
    ∃ cs, K.tailPair lo l x = some cs ∧ cs ≠ [] ∧ (∀ t ∈ cs, Tight t) ∧ W 0 [l, x] cs := by
  unfold Kit.tailPair
  by_cases hu : K.size x < lo
  · rw [if_pos hu]
    by_cases hc : K.canL l (lo - K.size x) = true
    · obtain ⟨l', x', he, h1, h2, h3⟩ := L.lend l x hl hx hu ha hc
      refine ⟨[l', x'], by rw [if_pos hc, he]; rfl, by simp, ?_, h3⟩
      intro t ht
      simp only [List.mem_cons, List.not_mem_nil, or_false] at ht
      rcases ht with rfl | rfl <;> assumption
    · obtain ⟨h1, h2⟩ := L.merge_tight ((L.tight_iff l).1 hl).1 hx ha
        (L.band l x hl hx hu (Or.inl (Bool.eq_false_iff.2 hc)))
      exact ⟨_, by rw [if_neg hc], by simp, fun t ht => List.mem_singleton.1 ht ▸ h1, h2⟩
  · rw [if_neg hu]
    refine ⟨_, rfl, by simp, ?_, ?_⟩
    · intro t ht
      simp only [List.mem_cons, List.not_mem_nil, or_false] at ht
      rcases ht with rfl | rfl
      · exact hl
      · exact (L.tight_iff _).2 ⟨hx, Nat.not_lt.1 hu, hhi⟩
    · simpa using L.ctx 0 [l] [] [x] [x] (L.same x hx)

/-- the tail step on a whole level `A ++ [l, x]` -/
theorem tail_spec (L : Laws K lo hi g sl Tight Loose Adj W) {A : List α} {l x : α}
    (hA : ∀ t ∈ A, Tight t) (hl : Tight l) (hx : Loose x) (hhi : K.size x ≤ hi) (ha : Adj l x) :
    ∃ cs, K.tailPair lo l x = some cs ∧ cs ≠ [] ∧ (∀ t ∈ A ++ cs, Tight t) ∧
      W 0 (A ++ [l, x]) (A ++ cs) := by
  obtain ⟨cs, he, hne, h1, h2⟩ := L.tailPair_spec hl hx hhi ha
  refine ⟨cs, he, hne, fun t ht => (List.mem_append.1 ht).elim (hA t) (h1 t), ?_⟩
  simpa using L.ctx_assoc h2 A []

end Laws

end Atree.Core

import AtreeProofs.ListAt
/-
  The repair decision of an index slab (`MergeOrRebalanceChildSlab` of array_metadata_slab.go and of
  map_metadata_slab.go: the two Go functions are the same table), once for both containers.
  Nothing here mentions a slab type: `α` is "subtree of one depth", `canL l` = the left sibling can
  lend to the right, `canR r` = the right sibling can lend to the left, `size` the header size.
-/
namespace Atree.Core

/-- what `MergeOrRebalanceChildSlab` decides to do with the under-full child: rebalance with, or
    merge into, the left (`L`) or right (`R`) sibling; `panic` is Go's failure without siblings -/
inductive Plan (α : Type) where
  | panic
  | rebalL (l : α)
  | rebalR (r : α)
  | mergeL (l : α)
  | mergeR (r : α)

variable {α : Type}

/-- the decision table, written as the Go function is -/
def plan (canL canR : α → Bool) (size : α → Nat) (L R : Option α) : Plan α :=
  let lc := match L with | some l => canL l | none => false
  let rc := match R with | some r => canR r | none => false
  if lc || rc then
    match L, R with
    | some l, some r =>
      if !lc then .rebalR r else if !rc then .rebalL l
      else if size l > size r then .rebalL l else .rebalR r
    | some l, none => .rebalL l
    | none, some r => .rebalR r
    | none, none => .panic
  else
    match L, R with
    | none, some r => .mergeR r
    | some l, none => .mergeL l
    | some l, some r => if size l < size r then .mergeL l else .mergeR r
    | none, none => .panic

/-- A function of the plan, pushed to the leaves of the table.  The right side is the shape in which
    the model functions and the storage accounts of the translation are written; each of them is
    `f (plan ..)` for its own `f` by this equation and `cases L <;> cases R <;> rfl` (their `match`es
    are separate matcher constants, which reduce once `L` and `R` are constructors). -/
theorem plan_comm {β : Type} (f : Plan α → β) (canL canR : α → Bool) (size : α → Nat) (L R : Option α) :
    f (plan canL canR size L R) =
      (let lc := match L with | some l => canL l | none => false
       let rc := match R with | some r => canR r | none => false
       if lc || rc then
         match L, R with
         | some l, some r =>
           if !lc then f (.rebalR r) else if !rc then f (.rebalL l)
           else if size l > size r then f (.rebalL l) else f (.rebalR r)
         | some l, none => f (.rebalL l)
         | none, some r => f (.rebalR r)
         | none, none => f .panic
       else
         match L, R with
         | none, some r => f (.mergeR r)
         | some l, none => f (.mergeL l)
         | some l, some r => if size l < size r then f (.mergeL l) else f (.mergeR r)
         | none, none => f .panic) := by
  unfold plan
  rcases L with _ | l <;> rcases R with _ | r
  · rfl
  · cases hr : canR r <;> simp [hr]
  · cases hl : canL l <;> simp [hl]
  · cases hl : canL l <;> cases hr : canR r
    · by_cases hs : size l < size r <;> simp [hl, hr, hs]
    · simp [hl, hr]
    · simp [hl, hr]
    · by_cases hs : size l > size r <;> simp [hl, hr, hs]

/-- The table read backwards: a sibling that can lend is borrowed from, otherwise the child is merged
    with a sibling and then NEITHER can lend; it fails only without siblings. -/
theorem plan_cases (canL canR : α → Bool) (size : α → Nat) (L R : Option α) {Q : Plan α → Prop}
    (hpanic : L = none → R = none → Q .panic)
    (hrebL : ∀ l, L = some l → canL l = true → Q (.rebalL l))
    (hrebR : ∀ r, R = some r → canR r = true → Q (.rebalR r))
    (hmrgL : ∀ l, L = some l → canL l = false → (∀ r, R = some r → canR r = false) → Q (.mergeL l))
    (hmrgR : ∀ r, R = some r → canR r = false → (∀ l, L = some l → canL l = false) → Q (.mergeR r)) :
    Q (plan canL canR size L R) := by
  unfold plan
  cases L with
  | none =>
    cases R with
    | none => exact hpanic rfl rfl
    | some r =>
      cases hr : canR r with
      | true => simpa [hr] using hrebR r rfl hr
      | false => simpa [hr] using hmrgR r rfl hr (fun _ h => nomatch h)
  | some l =>
    cases R with
    | none =>
      cases hl : canL l with
      | true => simpa [hl] using hrebL l rfl hl
      | false => simpa [hl] using hmrgL l rfl hl (fun _ h => nomatch h)
    | some r =>
      cases hl : canL l <;> cases hr : canR r
      · by_cases hs : size l < size r
        · simpa [hl, hr, hs] using hmrgL l rfl hl (fun _ h => Option.some.inj h ▸ hr)
        · simpa [hl, hr, hs] using hmrgR r rfl hr (fun _ h => Option.some.inj h ▸ hl)
      · simpa [hl, hr] using hrebR r rfl hr
      · simpa [hl, hr] using hrebL l rfl hl
      · by_cases hs : size l > size r
        · simpa [hl, hr, hs] using hrebL l rfl hl
        · simpa [hl, hr, hs] using hrebR r rfl hr

/-- Whatever the plan, the sibling it names is the one both Go functions read: child `k - 1` (only
    when `k > 0`) or child `k + 1` (only when that index is below `n`). -/
theorem plan_sibs (canL canR : α → Bool) (size : α → Nat) (cs : List α) (k n : Nat) {Q : Plan α → Prop}
    (hpanic : Q .panic)
    (hL : ∀ l, k - 1 + 1 = k → cs[k - 1]? = some l → Q (.rebalL l) ∧ Q (.mergeL l))
    (hR : ∀ r, cs[k + 1]? = some r → Q (.rebalR r) ∧ Q (.mergeR r)) :
    Q (plan canL canR size (if k > 0 then cs[k - 1]? else none)
      (if k + 1 < n then cs[k + 1]? else none)) := by
  have hl : ∀ l, (if k > 0 then cs[k - 1]? else none) = some l → Q (.rebalL l) ∧ Q (.mergeL l) := by
    intro l; split
    · exact hL l (by omega)
    · exact fun h => nomatch h
  have hr : ∀ r, (if k + 1 < n then cs[k + 1]? else none) = some r → Q (.rebalR r) ∧ Q (.mergeR r) := by
    intro r; split
    · exact hR r
    · exact fun h => nomatch h
  exact plan_cases _ _ _ _ _ (fun _ _ => hpanic) (fun l h _ => (hl l h).1) (fun r h _ => (hr r h).1)
    (fun l h _ _ => (hl l h).2) (fun r h _ _ => (hr r h).2)

/-- The pair of siblings that `plan_sibs` names (the child `x` at `k` with its right neighbour, or its
    left neighbour at `li` with it) is an adjacent pair `P ++ l :: r :: Q` of the zipper. -/
theorem pair_of_sibs {cs A B : List α} {x l r : α} {k li : Nat} (hch : cs = A ++ x :: B)
    (hk : A.length = k)
    (hpos : (li = k ∧ l = x ∧ cs[k + 1]? = some r) ∨ (li + 1 = k ∧ cs[li]? = some l ∧ r = x)) :
    ∃ P Q, cs = P ++ l :: r :: Q ∧ P.length = li := by
  subst hch
  rcases hpos with ⟨rfl, rfl, hr⟩ | ⟨hli, hl, rfl⟩
  · obtain ⟨B', rfl⟩ := right_sib_at hk hr
    exact ⟨A, B', rfl, hk⟩
  · obtain ⟨P, rfl, hP⟩ := left_sib_at (hk.trans hli.symm) hl
    exact ⟨P, B, by rw [List.append_assoc]; rfl, hP⟩

/-- the two guarded look-ups, in terms of the zipper `A ++ x :: B` around child `k` -/
theorem sibs_of_zip {cs A B : List α} {x : α} {k n : Nat} (hch : cs = A ++ x :: B)
    (hk : A.length = k) (hn : n = cs.length) :
    (if k > 0 then cs[k - 1]? else none) = A.getLast? ∧
    (if k + 1 < n then cs[k + 1]? else none) = B.head? := by
  subst hch hk hn
  constructor
  · rcases List.eq_nil_or_concat A with rfl | ⟨A', l, rfl⟩
    · simp
    · simp [List.concat_eq_append]
  · cases B with
    | nil => simp
    | cons r B' =>
      have : A.length + 1 < (A ++ x :: r :: B').length := by simp
      rw [if_pos this, List.getElem?_append_right (by omega)]
      simp

/-- The decision table on the zipper `A ++ x :: B`: the cases a caller has to treat, with the chosen
    sibling exposed at the end of `A` resp. the head of `B`. -/
theorem plan_zip (canL canR : α → Bool) (size : α → Nat) {A B : List α} {Q : Plan α → Prop}
    (hpanic : A = [] → B = [] → Q .panic)
    (hrebL : ∀ A' l, A = A' ++ [l] → canL l = true → Q (.rebalL l))
    (hrebR : ∀ B' r, B = r :: B' → canR r = true → Q (.rebalR r))
    (hmrgL : ∀ A' l, A = A' ++ [l] → canL l = false → Q (.mergeL l))
    (hmrgR : ∀ B' r, B = r :: B' → canR r = false → Q (.mergeR r)) :
    Q (plan canL canR size A.getLast? B.head?) :=
  plan_cases canL canR size _ _
    (fun hA hB => hpanic (List.getLast?_eq_none_iff.1 hA) (List.head?_eq_none_iff.1 hB))
    (fun l h hc => (List.getLast?_eq_some_iff.1 h).elim fun A' e => hrebL A' l e hc)
    (fun r h hc => (List.head?_eq_some_iff.1 h).elim fun B' e => hrebR B' r e hc)
    (fun l h hc _ => (List.getLast?_eq_some_iff.1 h).elim fun A' e => hmrgL A' l e hc)
    (fun r h hc _ => (List.head?_eq_some_iff.1 h).elim fun B' e => hmrgR B' r e hc)

end Atree.Core

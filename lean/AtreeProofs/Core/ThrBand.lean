/-
  What the size arguments of both containers use of a legal threshold `T`: `m`, `M` stand for
  `minThreshold`, `maxThreshold`, `E` for the largest entry of a data slab and `p` for the prefix of a
  data slab (arrays: 21 and `maxInlineArrayElementSize`; maps: 26 = 18 + 8 and
  `maxInlineMapElementSize + digestSize`), tied to `T` by linear inequalities only.  Lend and
  borrow need none of it (`Core/Cut.lean`); split and merge do.
-/
namespace Atree

structure ThrBand (p T m M E : Nat) : Prop where
  lo : 256 ≤ T
  min_le : 2 * m ≤ T
  min_ge : T ≤ 2 * m + 1
  max_le : 2 * M ≤ 3 * T
  max_ge : 3 * T ≤ 2 * M + 1
  ent_le : 2 * E + p ≤ T
  ent_ge : T ≤ 2 * E + p + 1

/-- `Split` of a data slab: an overfull slab (at most one entry above `M`, plus the 16 bytes by which
    the prefix of a root data slab grows when it is demoted before a split) cut into `x` and `y`,
    balanced within one entry, gives two slabs within the band: each half is at least half of more
    than `M` less half an entry (`max_ge`, `ent_le` against `min_le`) and at most half of
    `M + E + 16` plus half an entry (`max_ge`, `ent_le`, `lo`). -/
theorem ThrBand.split {p T m M E : Nat} (hb : ThrBand p T m M E) {x y : Nat} (h1 : M < p + (x + y))
    (h2 : p + (x + y) ≤ M + E + 16) (c1 : 2 * x ≤ x + y + E) (c2 : x + y ≤ 2 * x + E) :
    m ≤ p + x ∧ p + x ≤ M ∧ m ≤ p + y ∧ p + y ≤ M := by
  obtain ⟨b0, b1, b2, b3, b4, b5, -⟩ := hb
  omega

/-- `Merge`: an underfull slab (size `u`, prefix `q`) and a sibling of size `s` that cannot lend it the
    missing `m - u` bytes (`hc`: it is less than one entry and a prefix above what it would have to
    keep) merge into one slab within the band; `q` is the prefix of the two slabs, data or index.
    Below: `s ≥ m`; above: `u + s < 3 m + E + p ≤ M + q` by `min_le`, `ent_le`, `max_ge` and `hq`. -/
theorem ThrBand.merge {p T m M E q u s : Nat} (hb : ThrBand p T m M E) (hq : p ≤ 2 * q + 2) (hqu : q ≤ u)
    (hu : u < m) (hs : m ≤ s) (hc : s < m + (m - u) + E + p) : m + q ≤ u + s ∧ u + s ≤ M + q := by
  obtain ⟨b0, b1, b2, b3, b4, b5, -⟩ := hb
  omega

end Atree

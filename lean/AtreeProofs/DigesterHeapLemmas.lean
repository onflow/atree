import AtreeModel.DigesterHeap
import AtreeProofs.DigesterLemmas
/-
  Helper lemmas for the object-identity digester model (`AtreeModel/DigesterHeap.lean`): the invariant
  `HInv` between the pointer-level world and the cache-free, state-free one, what `Get` returns (`hget_spec`)
  and what keeps the invariant (`hinv_*`); the simulation itself (`step_sim_heap`, `run_sim_heap`) is in
  `Props/DigesterHeap.lean`.
-/
namespace Atree.Dig

theorem obj_setObj (w : HWorld) (a : Nat) (d : BasicDigester) (b : Nat) :
    (w.setObj a d).obj b = if b = a ∧ a < w.heap.length then d else w.obj b := by
  unfold HWorld.obj HWorld.setObj
  simp only [List.getD_eq_getElem?_getD, List.getElem?_set]
  by_cases h : a = b
  · subst h
    by_cases h2 : a < w.heap.length
    · simp [h2]
    · simp [h2]
  · have : ¬ (b = a ∧ a < w.heap.length) := fun hh => h hh.1.symm
    simp [h, this]

theorem heap_setObj_length (w : HWorld) (a : Nat) (d : BasicDigester) :
    (w.setObj a d).heap.length = w.heap.length := by
  simp [HWorld.setObj]

theorem obj_alloc_old (w : HWorld) (b : Nat) (hb : b < w.heap.length) : w.alloc.2.obj b = w.obj b := by
  simp [HWorld.obj, HWorld.alloc, List.getD_eq_getElem?_getD, List.getElem?_append_left hb]

theorem obj_alloc_new (w : HWorld) : w.alloc.2.obj w.heap.length = BasicDigester.fresh := by
  simp [HWorld.obj, HWorld.alloc, List.getD_eq_getElem?_getD]

theorem find_filter_ne (l : List (Nat × SpecDigester)) (a b : Nat) :
    (l.filter (fun p => p.1 != a)).find? (fun p => p.1 == b) =
      if b = a then none else l.find? (fun p => p.1 == b) := by
  induction l with
  | nil => simp
  | cons x xs ih =>
    by_cases hx : x.1 = a
    · have : (x.1 != a) = false := by simp [hx]
      rw [List.filter_cons_of_neg (by simp [this]), ih]
      by_cases hb : b = a
      · simp [hb]
      · have : (x.1 == b) = false := by simp [hx]; exact fun h => hb h.symm
        simp [hb, this]
    · have : (x.1 != a) = true := by simp [hx]
      rw [List.filter_cons_of_pos (by simp [this]), List.find?_cons, List.find?_cons, ih]
      by_cases hb : b = a
      · subst hb
        have : (x.1 == b) = false := by simp [hx]
        simp [this]
      · simp [hb]

theorem lookup_setOwn (s : HSpec) (a : Nat) (d : SpecDigester) (b : Nat) :
    (s.setOwn a d).lookup b = if b = a then some d else s.lookup b := by
  unfold HSpec.lookup HSpec.setOwn
  simp only [List.find?_cons]
  by_cases h : b = a
  · subst h; simp
  · have : (a == b) = false := by simp; exact fun hh => h hh.symm
    simp only [this, h, if_false]
    rw [find_filter_ne]; simp [h]

theorem lookup_dropOwn (s : HSpec) (a : Nat) (p : List Nat) (b : Nat) :
    ({ s with pool := p, own := s.own.filter (fun q => q.1 != a) } : HSpec).lookup b =
      if b = a then none else s.lookup b := by
  unfold HSpec.lookup
  simp only [find_filter_ne]
  by_cases h : b = a <;> simp [h]

structure HInv (H : Hashes) (w : HWorld) (s : HSpec) : Prop where
  next : s.next = w.heap.length
  pool : s.pool = w.pool
  poolLt : ∀ a ∈ w.pool, a < w.heap.length
  poolReset : ∀ a ∈ w.pool, IsReset (w.obj a)
  poolNodup : w.pool.Nodup
  ownNodup : w.owned.Nodup
  ownLt : ∀ a ∈ w.owned, a < w.heap.length
  disj : ∀ a ∈ w.owned, a ∉ w.pool
  own : ∀ a, a ∈ w.owned ↔ (s.lookup a).isSome
  rep : ∀ a d, s.lookup a = some d → Rep H (w.obj a) d

theorem hinv_init (H : Hashes) : HInv H {} {} := by
  refine ⟨rfl, rfl, ?_, ?_, List.nodup_nil, List.nodup_nil, ?_, ?_, ?_, ?_⟩
  · intro a ha; simp at ha
  · intro a ha; simp at ha
  · intro a ha; simp at ha
  · intro a ha; simp at ha
  · intro a; simp [HSpec.lookup]
  · intro a d h; simp [HSpec.lookup] at h

/-- what `Get` returns: the same address on both sides, a live object in reset state that is
    neither parked nor owned any more -/
theorem hget_spec {H : Hashes} {w : HWorld} {s : HSpec} (h : HInv H w s) (c : Option Nat) :
    (s.get c).1 = (w.get c).1 ∧ (w.get c).1 < (w.get c).2.heap.length ∧
    IsReset ((w.get c).2.obj (w.get c).1) ∧ (w.get c).1 ∉ (w.get c).2.pool ∧
    (w.get c).2.owned = w.owned ∧ (w.get c).1 ∉ w.owned ∧ HInv H (w.get c).2 (s.get c).2 := by
  have halloc : (s.alloc).1 = (w.alloc).1 ∧ (w.alloc).1 < (w.alloc).2.heap.length ∧
      IsReset ((w.alloc).2.obj (w.alloc).1) ∧ (w.alloc).1 ∉ (w.alloc).2.pool ∧
      (w.alloc).2.owned = w.owned ∧ (w.alloc).1 ∉ w.owned ∧ HInv H (w.alloc).2 (s.alloc).2 := by
    refine ⟨h.next, by simp [HWorld.alloc], ?_, ?_, rfl, ?_, ?_⟩
    · show IsReset (w.alloc.2.obj w.heap.length)
      rw [obj_alloc_new]; exact isReset_fresh
    · intro hm
      have := h.poolLt _ hm
      simp [HWorld.alloc] at this
    · intro hm
      have := h.ownLt _ hm
      simp [HWorld.alloc] at this
    · have hlen : w.alloc.2.heap.length = w.heap.length + 1 := by simp [HWorld.alloc]
      refine ⟨by simp [HSpec.alloc, h.next, hlen], h.pool, ?_, ?_, h.poolNodup, h.ownNodup, ?_, h.disj, h.own, ?_⟩
      · intro a ha; rw [hlen]; exact Nat.lt_succ_of_lt (h.poolLt a ha)
      · intro a ha
        show IsReset (w.alloc.2.obj a)
        rw [obj_alloc_old w a (h.poolLt a ha)]; exact h.poolReset a ha
      · intro a ha; rw [hlen]; exact Nat.lt_succ_of_lt (h.ownLt a ha)
      · intro a d hl
        have hl' : s.lookup a = some d := hl
        have hown : a ∈ w.owned := (h.own a).mpr (by rw [hl']; rfl)
        show Rep H (w.alloc.2.obj a) d
        rw [obj_alloc_old w a (h.ownLt a hown)]; exact h.rep a d hl
  cases c with
  | none => exact halloc
  | some a =>
    by_cases ha : a ∈ w.pool
    · have ha' : a ∈ s.pool := by rw [h.pool]; exact ha
      simp only [HWorld.get, HSpec.get, ha, ha', if_true]
      refine ⟨trivial, h.poolLt a ha, h.poolReset a ha, h.poolNodup.not_mem_erase, trivial, ?_, ?_⟩
      · intro hm; exact h.disj a hm ha
      · refine ⟨h.next, by simp [h.pool], ?_, ?_, h.poolNodup.erase a, h.ownNodup, h.ownLt, ?_, h.own, h.rep⟩
        · intro b hb; exact h.poolLt b (List.mem_of_mem_erase hb)
        · intro b hb; exact h.poolReset b (List.mem_of_mem_erase hb)
        · intro b hb hm; exact h.disj b hb (List.mem_of_mem_erase hm)
    · have ha' : a ∉ s.pool := by rw [h.pool]; exact ha
      simp only [HWorld.get, HSpec.get, ha, ha', if_false]
      exact halloc

/-- replacing the object at an address that is not parked, and (re)declaring what it stands for -/
theorem hinv_setObj {H : Hashes} {w : HWorld} {s s' : HSpec} (h : HInv H w s) (a : Nat) (halt : a < w.heap.length)
    (hap : a ∉ w.pool) (d' : BasicDigester) (sd : SpecDigester) (hrep : Rep H d' sd) (owned' : List Nat)
    (hown : ∀ b, b ∈ owned' ↔ (b = a ∨ b ∈ w.owned)) (hnd : owned'.Nodup)
    (hl : ∀ b, s'.lookup b = if b = a then some sd else s.lookup b) (hp : s'.pool = s.pool) (hn : s'.next = s.next) :
    HInv H { (w.setObj a d') with owned := owned' } s' := by
  have hobj : ∀ b, ({ (w.setObj a d') with owned := owned' } : HWorld).obj b = (w.setObj a d').obj b := fun _ => rfl
  refine ⟨by rw [hn, h.next]; simp [HWorld.setObj], by rw [hp, h.pool]; rfl, ?_, ?_, h.poolNodup, hnd, ?_, ?_, ?_, ?_⟩
  · intro b hb; simp only [HWorld.setObj, List.length_set]; exact h.poolLt b hb
  · intro b hb
    have hb' : b ∈ w.pool := hb
    have hne : ¬ (b = a ∧ a < w.heap.length) := fun hh => hap (hh.1 ▸ hb')
    rw [hobj, obj_setObj, if_neg hne]; exact h.poolReset b hb'
  · intro b hb
    simp only [HWorld.setObj, List.length_set]
    rcases (hown b).mp hb with rfl | hb
    · exact halt
    · exact h.ownLt b hb
  · intro b hb hm
    have hm' : b ∈ w.pool := hm
    rcases (hown b).mp hb with rfl | hb
    · exact hap hm'
    · exact h.disj b hb hm'
  · intro b
    rw [hl b]
    by_cases hba : b = a
    · simp [hba, (hown a).mpr (Or.inl rfl)]
    · simp only [hba, if_false]
      rw [← h.own b]
      constructor
      · intro hb; rcases (hown b).mp hb with h1 | h1
        · exact absurd h1 hba
        · exact h1
      · intro hb; exact (hown b).mpr (Or.inr hb)
  · intro b d hlb
    rw [hl b] at hlb
    rw [hobj, obj_setObj]
    by_cases hba : b = a
    · simp only [hba, if_true] at hlb
      injection hlb with hlb
      subst hlb
      simp [hba, halt, hrep]
    · simp only [hba, if_false] at hlb
      have : ¬ (b = a ∧ a < w.heap.length) := fun hh => hba hh.1
      rw [if_neg this]; exact h.rep b d hlb

/-- parking an address that is live, not parked and not owned (after its object was reset) -/
theorem hinv_park {H : Hashes} {w : HWorld} {s : HSpec} (h : HInv H w s) (a : Nat) (halt : a < w.heap.length)
    (hap : a ∉ w.pool) (hao : a ∉ w.owned) (d' : BasicDigester) (hd : IsReset d') :
    HInv H { (w.setObj a d') with pool := a :: w.pool } { s with pool := a :: s.pool } := by
  have hobj : ∀ b, ({ (w.setObj a d') with pool := a :: w.pool } : HWorld).obj b = (w.setObj a d').obj b := fun _ => rfl
  refine ⟨by rw [h.next]; simp [HWorld.setObj], by simp [h.pool], ?_, ?_, ?_, h.ownNodup, ?_, ?_, h.own, ?_⟩
  · intro b hb
    simp only [HWorld.setObj, List.length_set]
    rcases List.mem_cons.mp hb with rfl | hb
    · exact halt
    · exact h.poolLt b hb
  · intro b hb
    rw [hobj, obj_setObj]
    rcases List.mem_cons.mp hb with rfl | hb
    · simp [halt, hd]
    · have : ¬ (b = a ∧ a < w.heap.length) := fun hh => hap (hh.1 ▸ hb)
      rw [if_neg this]; exact h.poolReset b hb
  · exact List.nodup_cons.mpr ⟨hap, h.poolNodup⟩
  · intro b hb; simp only [HWorld.setObj, List.length_set]; exact h.ownLt b hb
  · intro b hb hm
    have hb' : b ∈ w.owned := hb
    rcases List.mem_cons.mp hm with rfl | hm
    · exact hao hb'
    · exact h.disj b hb' hm
  · intro b d hlb
    have hown : b ∈ w.owned := (h.own b).mpr (by rw [show s.lookup b = some d from hlb]; rfl)
    have hne : ¬ (b = a ∧ a < w.heap.length) := fun hh => hao (hh.1 ▸ hown)
    rw [hobj, obj_setObj, if_neg hne]; exact h.rep b d hlb

/-- an owned object is replaced and what it stands for re-declared (a call through the pointer) -/
theorem hinv_touch {H : Hashes} {w : HWorld} {s s' : HSpec} (h : HInv H w s) {a : Nat} (ha : a ∈ w.owned)
    {d' : BasicDigester} {sd : SpecDigester} (hrep : Rep H d' sd)
    (hl : ∀ b, s'.lookup b = if b = a then some sd else s.lookup b)
    (hp : s'.pool = s.pool := by rfl) (hn : s'.next = s.next := by rfl) :
    HInv H (w.setObj a d') s' :=
  hinv_setObj h a (h.ownLt a ha) (h.disj a ha) d' sd hrep w.owned
    (fun _ => ⟨Or.inr, fun hb => hb.elim (fun e => e ▸ ha) id⟩) h.ownNodup hl hp hn

/-- an owner gives up its address (the object stays where it is) -/
theorem hinv_disown {H : Hashes} {w : HWorld} {s : HSpec} (h : HInv H w s) (a : Nat) :
    HInv H { w with owned := w.owned.erase a } { s with own := s.own.filter (fun p => p.1 != a) } := by
  refine ⟨h.next, h.pool, h.poolLt, h.poolReset, h.poolNodup, h.ownNodup.erase a,
    fun b hb => h.ownLt b (List.mem_of_mem_erase hb),
    fun b hb => h.disj b (List.mem_of_mem_erase hb), ?_, ?_⟩
  · intro b
    rw [lookup_dropOwn]
    show b ∈ w.owned.erase a ↔ _
    rw [h.ownNodup.mem_erase_iff]
    by_cases hb : b = a
    · simp [hb]
    · simp [hb, h.own b]
  · intro b d hlb
    rw [lookup_dropOwn] at hlb
    by_cases hb : b = a
    · simp [hb] at hlb
    · simp only [hb, if_false] at hlb
      exact h.rep b d hlb

/-- `putDigester` by the owner: the address is given up, then parked with the object reset -/
theorem hinv_put {H : Hashes} {w : HWorld} {s : HSpec} (h : HInv H w s) {a : Nat} (ha : a ∈ w.owned) :
    HInv H (w.put a) { s with pool := a :: s.pool, own := s.own.filter (fun p => p.1 != a) } :=
  hinv_park (hinv_disown h a) a (h.ownLt a ha) (h.disj a ha)
    (fun hm => ((h.ownNodup.mem_erase_iff).1 hm).1 rfl) _ (isReset_reset _)

end Atree.Dig

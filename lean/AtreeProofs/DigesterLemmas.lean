import AtreeModel.Digester
/-
  Helper lemmas about the digester model (`AtreeModel/Digester.lean`): what `Digest` / `DigestPrefix`
  return in terms of the observable content of an object (`circleHash64` and the EFFECTIVE BLAKE3
  words), what `Reset` / the pool preserve, and the simulation between a pooled, caching history
  and the pool-free, cache-free one: `Same` (two objects show every holder the same), `Rep` (an object
  shows what a cache-free digester defines), `IsReset` / `PoolReset`, the world invariant `WInv`, `step_sim` /
  `run_sim` under `ScratchIndep`.  The property-level statements are in
  `AtreeProofs/Props/Digester.lean`.
-/
namespace Atree.Dig

theorem levels_eq : levels = 4 := rfl

/-- The BLAKE3 words a `Digest(1..3)` call is going to use: the cache if it is filled, the sum of
    the message otherwise. -/
def eff (H : Hashes) (d : BasicDigester) : B4 :=
  if d.blake3Hash = emptyBlake3Hash then blakeWords (H.sum256 d.msg) else d.blake3Hash

/-- What `Digest(l)` returns on `d` for `l < 4`. -/
def val (H : Hashes) (d : BasicDigester) (l : Nat) : UInt64 :=
  if l = 0 then d.circleHash64 else (eff H d).get (l - 1)

theorem digest_lt (H : Hashes) (d : BasicDigester) (l : Nat) (hl : l < 4) :
    d.digest H l = (.ok (val H d l), if l = 0 then d else { d with blake3Hash := eff H d }) := by
  have h4 : ¬ (l ≥ levels) := Nat.not_le_of_lt hl
  have key : (if d.blake3Hash = emptyBlake3Hash then
      { d with blake3Hash := blakeWords (H.sum256 d.msg) } else d) =
      { d with blake3Hash := eff H d } := by
    unfold eff
    by_cases h : d.blake3Hash = emptyBlake3Hash
    · rw [if_pos h, if_pos h]
    · rw [if_neg h, if_neg h]
  unfold BasicDigester.digest val
  rw [if_neg h4]
  match l, hl with
  | 0, _ => rfl
  | 1, _ => dsimp only; rw [key]; rfl
  | 2, _ => dsimp only; rw [key]; rfl
  | 3, _ => dsimp only; rw [key]; rfl

theorem digest_ge (H : Hashes) (d : BasicDigester) (l : Nat) (hl : 4 ≤ l) :
    d.digest H l = (.error .hashLevel, d) := by
  unfold BasicDigester.digest
  rw [if_pos (by rw [levels_eq]; omega)]

/-- `d'` shows every holder what `d` shows (and has the same scratch buffer and message). -/
structure Same (H : Hashes) (d d' : BasicDigester) : Prop where
  circle : d'.circleHash64 = d.circleHash64
  msg : d'.msg = d.msg
  scratch : d'.scratch = d.scratch
  eff : eff H d' = eff H d

theorem Same.refl (H : Hashes) (d : BasicDigester) : Same H d d := ⟨rfl, rfl, rfl, rfl⟩

theorem Same.trans {H : Hashes} {a b c : BasicDigester} (h1 : Same H a b) (h2 : Same H b c) : Same H a c :=
  ⟨h2.circle.trans h1.circle, h2.msg.trans h1.msg, h2.scratch.trans h1.scratch, h2.eff.trans h1.eff⟩

theorem Same.val {H : Hashes} {d d' : BasicDigester} (h : Same H d d') (l : Nat) : val H d' l = val H d l := by
  unfold Dig.val; rw [h.circle, h.eff]

theorem eff_fill (H : Hashes) (d : BasicDigester) : eff H { d with blake3Hash := eff H d } = eff H d := by
  unfold eff
  by_cases h : d.blake3Hash = emptyBlake3Hash
  · simp only [h, if_true]
    split <;> simp_all
  · simp [h]

theorem digest_same (H : Hashes) (d : BasicDigester) (l : Nat) : Same H d (d.digest H l).2 := by
  by_cases hl : l < 4
  · rw [digest_lt H d l hl]
    by_cases h0 : l = 0
    · simp only [h0, if_true]; exact Same.refl H d
    · simp only [h0, if_false]
      exact ⟨rfl, rfl, rfl, eff_fill H d⟩
  · rw [digest_ge H d l (by omega)]; exact Same.refl H d

theorem digest_fst (H : Hashes) (d : BasicDigester) (l : Nat) :
    (d.digest H l).1 = if l < 4 then .ok (val H d l) else .error .hashLevel := by
  by_cases hl : l < 4
  · rw [digest_lt H d l hl, if_pos hl]
  · rw [digest_ge H d l (by omega), if_neg hl]

theorem prefixLoop_spec (H : Hashes) (n : Nat) : ∀ (d : BasicDigester) (i : Nat) (acc : List UInt64),
    i + n ≤ 4 →
    (d.prefixLoop H i n acc).1 = .ok (acc ++ (List.range' i n).map (val H d)) ∧
    Same H d (d.prefixLoop H i n acc).2 := by
  induction n with
  | zero => intro d i acc _; simp [BasicDigester.prefixLoop, Same.refl]
  | succ n ih =>
    intro d i acc h
    have hi : i < 4 := by omega
    have hs := digest_same H d i
    unfold BasicDigester.prefixLoop
    have hd : d.digest H i = (.ok (val H d i), (d.digest H i).2) := by
      rw [digest_lt H d i hi]
    rw [hd]
    dsimp only
    obtain ⟨r1, r2⟩ := ih (d.digest H i).2 (i + 1) (acc ++ [val H d i]) (by omega)
    refine ⟨?_, hs.trans r2⟩
    have hmap : List.map (val H (d.digest H i).2) (List.range' (i + 1) n) =
        List.map (val H d) (List.range' (i + 1) n) := by
      apply List.map_congr_left
      intro l _
      exact hs.val l
    rw [r1, List.range'_succ, List.map_cons, List.append_assoc, List.singleton_append, hmap]

theorem digestPrefix_le (H : Hashes) (d : BasicDigester) (level : Nat) (h : level ≤ 4) :
    (d.digestPrefix H level).1 = .ok ((List.range level).map (val H d)) ∧
    Same H d (d.digestPrefix H level).2 := by
  unfold BasicDigester.digestPrefix
  rw [if_neg (by rw [levels_eq]; omega)]
  have := prefixLoop_spec H level d 0 [] (by omega)
  rw [List.range_eq_range']
  simpa using this

theorem digestPrefix_gt (H : Hashes) (d : BasicDigester) (level : Nat) (h : 4 < level) :
    d.digestPrefix H level = (.error .hashLevel, d) := by
  unfold BasicDigester.digestPrefix
  rw [if_pos (by rw [levels_eq]; omega)]

theorem digestPrefix_same (H : Hashes) (d : BasicDigester) (level : Nat) :
    Same H d (d.digestPrefix H level).2 := by
  by_cases h : level ≤ 4
  · exact (digestPrefix_le H d level h).2
  · rw [digestPrefix_gt H d level (by omega)]; exact Same.refl H d

/-- the object `d` shows exactly what the cache-free digester `s` defines -/
structure Rep (H : Hashes) (d : BasicDigester) (s : SpecDigester) : Prop where
  circle : d.circleHash64 = s.c
  eff : eff H d = blakeWords (H.sum256 s.msg)

theorem Rep.val {H : Hashes} {d : BasicDigester} {s : SpecDigester} (h : Rep H d s) (l : Nat) :
    val H d l = s.value H l := by
  unfold Dig.val SpecDigester.value; rw [h.circle, h.eff]

theorem Rep.of_same {H : Hashes} {d d' : BasicDigester} {s : SpecDigester} (h : Rep H d s)
    (hs : Same H d d') : Rep H d' s := ⟨hs.circle.trans h.circle, hs.eff.trans h.eff⟩

theorem Rep.digest {H : Hashes} {d : BasicDigester} {s : SpecDigester} (h : Rep H d s) (l : Nat) :
    (d.digest H l).1 = s.digest H l ∧ Rep H (d.digest H l).2 s := by
  refine ⟨?_, h.of_same (digest_same H d l)⟩
  rw [digest_fst]
  unfold SpecDigester.digest
  by_cases hl : l < 4
  · rw [if_pos hl, if_neg (by rw [levels_eq]; omega), h.val]
  · rw [if_neg hl, if_pos (by rw [levels_eq]; omega)]

theorem Rep.digestPrefix {H : Hashes} {d : BasicDigester} {s : SpecDigester} (h : Rep H d s) (l : Nat) :
    (d.digestPrefix H l).1 = s.digestPrefix H l ∧ Rep H (d.digestPrefix H l).2 s := by
  refine ⟨?_, h.of_same (digestPrefix_same H d l)⟩
  unfold SpecDigester.digestPrefix
  by_cases hl : l ≤ 4
  · rw [(digestPrefix_le H d l hl).1, if_neg (by rw [levels_eq]; omega)]
    congr 1
    apply List.map_congr_left
    intro i _; exact h.val i
  · rw [digestPrefix_gt H d l (by omega), if_pos (by rw [levels_eq]; omega)]

/-- the state `Reset` establishes: every field but the scratch buffer is the zero value -/
structure IsReset (d : BasicDigester) : Prop where
  circle : d.circleHash64 = 0
  blake : d.blake3Hash = emptyBlake3Hash
  msg : d.msg = []

theorem isReset_fresh : IsReset BasicDigester.fresh := ⟨rfl, rfl, rfl⟩

theorem isReset_reset (d : BasicDigester) : IsReset d.reset := ⟨rfl, rfl, rfl⟩

theorem reset_eq (d : BasicDigester) : d.reset = { BasicDigester.fresh with scratch := d.scratch } := rfl

theorem isReset_iff (d : BasicDigester) : IsReset d ↔ d = { BasicDigester.fresh with scratch := d.scratch } := by
  constructor
  · intro h
    cases d with
    | mk c b s m =>
      have h1 := h.circle; have h2 := h.blake; have h3 := h.msg
      simp only at h1 h2 h3
      subst h1 h2 h3
      rfl
  · intro h; rw [h]; exact ⟨rfl, rfl, rfl⟩

def PoolReset (p : Pool) : Prop := ∀ d ∈ p.free, IsReset d

theorem poolReset_empty : PoolReset {} := by intro d hd; simp at hd

theorem poolReset_put {p : Pool} (h : PoolReset p) (x : AnyDigester) : PoolReset (p.put x) := by
  cases x with
  | foreign => exact h
  | basic bd =>
    intro d hd
    simp only [Pool.put, List.mem_cons] at hd
    rcases hd with rfl | hd
    · exact isReset_reset bd
    · exact h d hd

theorem poolReset_drop {p : Pool} (h : PoolReset p) (i : Nat) : PoolReset (p.drop i) := by
  intro d hd
  exact h d (List.mem_of_mem_eraseIdx hd)

theorem poolReset_get {p : Pool} (h : PoolReset p) (choice : Option Nat) :
    IsReset (p.get choice).1 ∧ PoolReset (p.get choice).2 := by
  unfold Pool.get
  cases choice with
  | none => exact ⟨isReset_fresh, h⟩
  | some i =>
    dsimp only
    cases hi : p.free[i]? with
    | none => exact ⟨isReset_fresh, h⟩
    | some d =>
      refine ⟨h d (List.mem_of_getElem? hi), ?_⟩
      intro x hx
      exact h x (List.mem_of_mem_eraseIdx hx)

/-- the pool only ever returns an object it was given (or a new one) -/
theorem get_mem_or_fresh (p : Pool) (choice : Option Nat) :
    (p.get choice).1 ∈ p.free ∨ ((p.get choice).1 = BasicDigester.fresh ∧ (p.get choice).2 = p) := by
  unfold Pool.get
  cases choice with
  | none => exact .inr ⟨rfl, rfl⟩
  | some i =>
    dsimp only
    cases hi : p.free[i]? with
    | none => exact .inr ⟨rfl, rfl⟩
    | some d => exact .inl (List.mem_of_getElem? hi)

/-- Contract of a `HashInputProvider`: the message it returns (or its failure) does not depend on
    what the scratch buffer contained when it was called. -/
def ScratchIndep {V : Type} (hip : HIP V) : Prop := ∀ v s1 s2, (hip v s1).1 = (hip v s2).1

theorem build_seed0 {V : Type} (H : Hashes) (hip : HIP V) (k1 : UInt64) (v : V) (p : Pool) (c : Option Nat) :
    (Builder.new.setSeed 0 k1).digest H hip v p c = (.error .seedUninitialized, p) := by
  simp [Builder.digest, Builder.setSeed]

theorem build_ok {V : Type} (H : Hashes) (hip : HIP V) (k0 k1 : UInt64) (hk : k0 ≠ 0) (v : V) (p : Pool)
    (c : Option Nat) (m : Bytes) (hm : (hip v (p.get c).1.scratch).1 = .ok m) :
    (Builder.new.setSeed k0 k1).digest H hip v p c =
      (.ok { (p.get c).1 with scratch := (hip v (p.get c).1.scratch).2, msg := m, circleHash64 := H.circle m k0 },
       (p.get c).2) := by
  unfold Builder.digest Builder.setSeed
  simp only [hk, if_false]
  cases hh : hip v (p.get c).1.scratch with
  | mk r s =>
    rw [hh] at hm
    simp only at hm
    subst hm
    rfl

theorem build_ok_ex {V : Type} (H : Hashes) (hip : HIP V) (k0 k1 : UInt64) (hk : k0 ≠ 0) (v : V) (p : Pool)
    (c : Option Nat) (m : Bytes) (hm : (hip v (p.get c).1.scratch).1 = .ok m) :
    ∃ scr, (Builder.new.setSeed k0 k1).digest H hip v p c =
      (.ok ⟨H.circle m k0, (p.get c).1.blake3Hash, scr, m⟩, (p.get c).2) :=
  ⟨_, build_ok H hip k0 k1 hk v p c m hm⟩

theorem build_err {V : Type} (H : Hashes) (hip : HIP V) (k0 k1 : UInt64) (hk : k0 ≠ 0) (v : V) (p : Pool)
    (c : Option Nat) (e : Unit) (hm : (hip v (p.get c).1.scratch).1 = .error e) :
    (Builder.new.setSeed k0 k1).digest H hip v p c =
      (.error .external,
       (p.get c).2.put (.basic { (p.get c).1 with scratch := (hip v (p.get c).1.scratch).2 })) := by
  unfold Builder.digest Builder.setSeed
  simp only [hk, if_false]
  cases hh : hip v (p.get c).1.scratch with
  | mk r s =>
    rw [hh] at hm
    simp only at hm
    subst hm
    rfl

/-- An object built on a reset object represents the cache-free digester of its message. -/
theorem rep_of_build (H : Hashes) (d : BasicDigester) (hd : IsReset d) (s : Bytes) (m : Bytes) (k0 : UInt64) :
    Rep H { d with scratch := s, msg := m, circleHash64 := H.circle m k0 } (specOf H k0 m) := by
  constructor
  · rfl
  · simp [eff, hd.blake, specOf]

def SlotRel (H : Hashes) : Option BasicDigester → Option SpecDigester → Prop
  | none, none => True
  | some d, some s => Rep H d s
  | _, _ => False

structure WInv (H : Hashes) (w : DWorld) (sh : List (Option SpecDigester)) : Prop where
  pool : PoolReset w.pool
  len : w.held.length = sh.length
  slots : ∀ i, SlotRel H (getSlot w.held i) ((sh[i]?).join)

theorem winv_init (H : Hashes) : WInv H {} [] :=
  ⟨poolReset_empty, rfl, by intro i; simp [getSlot, SlotRel]⟩

theorem slot_append {α : Type} (l : List (Option α)) (x : Option α) (i : Nat) :
    (((l ++ [x])[i]?).join) = if i < l.length then (l[i]?).join else if i = l.length then x else none := by
  rcases Nat.lt_trichotomy i l.length with h | h | h
  · rw [if_pos h, List.getElem?_append_left h]
  · subst h
    rw [if_neg (Nat.lt_irrefl _), if_pos rfl, List.getElem?_append_right (Nat.le_refl _), Nat.sub_self]
    rfl
  · rw [if_neg (Nat.lt_asymm h), if_neg (Nat.ne_of_gt h),
      List.getElem?_eq_none (by rw [List.length_append]; exact h)]
    rfl

theorem slot_set {α : Type} (l : List (Option α)) (j : Nat) (x : Option α) (i : Nat) :
    (((l.set j x)[i]?).join) = if i = j ∧ j < l.length then x else (l[i]?).join := by
  rw [List.getElem?_set]
  by_cases h : j = i
  · subst h
    by_cases h2 : j < l.length
    · rw [if_pos rfl, if_pos h2, if_pos (⟨rfl, h2⟩ : j = j ∧ j < l.length)]; rfl
    · rw [if_pos rfl, if_neg h2, if_neg (fun hh : j = j ∧ j < l.length => h2 hh.2),
        List.getElem?_eq_none (Nat.le_of_not_lt h2)]
  · rw [if_neg h, if_neg (fun hh : i = j ∧ j < l.length => h hh.1.symm)]

theorem getSlot_append (l : List (Option BasicDigester)) (x : Option BasicDigester) (i : Nat) :
    getSlot (l ++ [x]) i = if i < l.length then getSlot l i else if i = l.length then x else none :=
  slot_append l x i

theorem getSlot_set (l : List (Option BasicDigester)) (j : Nat) (x : Option BasicDigester) (i : Nat) :
    getSlot (setSlot l j x) i = if i = j ∧ j < l.length then x else getSlot l i :=
  slot_set l j x i

/-- setting a slot to what it holds changes nothing -/
theorem set_slot_self {α : Type} (l : List (Option α)) (s : Nat) (x : Option α)
    (h : (l[s]?).join = x) : l.set s x = l := by
  apply List.ext_getElem?; intro i
  rw [List.getElem?_set]
  by_cases hi : s = i
  · subst hi
    by_cases hlt : s < l.length
    · simp only [hlt, if_true]
      rw [List.getElem?_eq_getElem hlt] at h ⊢
      rw [← h]; rfl
    · simp only [hlt, if_false, if_true]
      rw [List.getElem?_eq_none (Nat.le_of_not_lt hlt)]
  · simp [hi]

theorem getSlot_some_lt {l : List (Option BasicDigester)} {i : Nat} {d : BasicDigester}
    (h : getSlot l i = some d) : i < l.length := by
  unfold getSlot at h
  cases hi : l[i]? with
  | none => rw [hi] at h; simp at h
  | some x => exact (List.getElem?_eq_some_iff.mp hi).1

theorem winv_append {H : Hashes} {w : DWorld} {sh : List (Option SpecDigester)} (h : WInv H w sh)
    (p : Pool) (hp : PoolReset p) (x : Option BasicDigester) (y : Option SpecDigester) (hxy : SlotRel H x y) :
    WInv H { pool := p, held := w.held ++ [x] } (sh ++ [y]) := by
  refine ⟨hp, by simp [h.len], ?_⟩
  intro i
  show SlotRel H (getSlot (w.held ++ [x]) i) (((sh ++ [y])[i]?).join)
  rw [getSlot_append, slot_append, h.len]
  by_cases h1 : i < sh.length
  · simp only [h1, if_true]; exact h.slots i
  · simp only [h1, if_false]
    by_cases h2 : i = sh.length
    · simp only [h2, if_true]; exact hxy
    · simp only [h2, if_false]; trivial

theorem winv_set {H : Hashes} {w : DWorld} {sh : List (Option SpecDigester)} (h : WInv H w sh)
    (p : Pool) (hp : PoolReset p) (j : Nat) (x : Option BasicDigester) (y : Option SpecDigester)
    (hxy : SlotRel H x y) :
    WInv H { pool := p, held := setSlot w.held j x } (sh.set j y) := by
  refine ⟨hp, by simp [setSlot, h.len], ?_⟩
  intro i
  show SlotRel H (getSlot (setSlot w.held j x) i) (((sh.set j y)[i]?).join)
  rw [getSlot_set, slot_set, h.len]
  by_cases h1 : i = j ∧ j < sh.length
  · simp only [h1, and_self, if_true]; exact hxy
  · simp only [h1, if_false]; exact h.slots i

theorem WInv.slot_cases {H : Hashes} {w : DWorld} {sh : List (Option SpecDigester)} (h : WInv H w sh)
    (s : Nat) :
    (getSlot w.held s = none ∧ (sh[s]?).join = none) ∨
    ∃ d y, getSlot w.held s = some d ∧ (sh[s]?).join = some y ∧ Rep H d y := by
  have hs := h.slots s
  cases hd : getSlot w.held s with
  | none =>
    cases hy : (sh[s]?).join with
    | none => exact .inl ⟨rfl, rfl⟩
    | some y => rw [hd, hy] at hs; exact hs.elim
  | some d =>
    cases hy : (sh[s]?).join with
    | none => rw [hd, hy] at hs; exact hs.elim
    | some y => rw [hd, hy] at hs; exact .inr ⟨d, y, rfl, rfl, hs⟩

theorem WInv.set_same {H : Hashes} {w : DWorld} {sh : List (Option SpecDigester)} (h : WInv H w sh)
    {s : Nat} {d : BasicDigester} {y : SpecDigester} (hd : getSlot w.held s = some d)
    (hy : (sh[s]?).join = some y) (d' : BasicDigester) (hrep : Rep H d' y) :
    WInv H { pool := w.pool, held := setSlot w.held s (some d') } sh := by
  have hlt : s < sh.length := by rw [← h.len]; exact getSlot_some_lt hd
  have := winv_set h w.pool h.pool s (some d') (some y) hrep
  have hself : sh.set s (some y) = sh := set_slot_self sh s _ hy
  rwa [hself] at this

theorem step_sim {V : Type} (H : Hashes) (hip : HIP V) (hsi : ScratchIndep hip) (w : DWorld)
    (sh : List (Option SpecDigester)) (h : WInv H w sh) (e : Ev V) :
    (w.step H hip e).1 = (specStep H hip sh e).1 ∧ WInv H (w.step H hip e).2 (specStep H hip sh e).2 := by
  cases e with
  | build k0 k1 v c =>
    obtain ⟨hr, hp'⟩ := poolReset_get h.pool c
    by_cases hk : k0 = 0
    · subst hk
      simp only [DWorld.step, specStep, build_seed0, if_true]
      exact ⟨trivial, winv_append h _ h.pool none none trivial⟩
    · have hindep := hsi v (w.pool.get c).1.scratch BasicDigester.fresh.scratch
      cases hm : (hip v (w.pool.get c).1.scratch).1 with
      | ok m =>
        have hm' : (hip v BasicDigester.fresh.scratch).1 = .ok m := by rw [← hindep, hm]
        simp only [DWorld.step, specStep, build_ok H hip k0 k1 hk v w.pool c m hm, hk, if_false, hm']
        exact ⟨trivial, winv_append h _ hp' _ _ (rep_of_build H _ hr _ m k0)⟩
      | error e =>
        have hm' : (hip v BasicDigester.fresh.scratch).1 = .error e := by rw [← hindep, hm]
        simp only [DWorld.step, specStep, build_err H hip k0 k1 hk v w.pool c e hm, hk, if_false, hm']
        exact ⟨trivial, winv_append h _ (poolReset_put hp' _) none none trivial⟩
  | digest s l =>
    simp only [DWorld.step, specStep]
    rcases h.slot_cases s with ⟨hd, hy⟩ | ⟨d, y, hd, hy, hrep⟩
    · rw [hd, hy]; exact ⟨rfl, h⟩
    · rw [hd, hy]
      obtain ⟨r1, r2⟩ := hrep.digest l
      exact ⟨by simp only [r1], h.set_same hd hy _ r2⟩
  | pref s l =>
    simp only [DWorld.step, specStep]
    rcases h.slot_cases s with ⟨hd, hy⟩ | ⟨d, y, hd, hy, hrep⟩
    · rw [hd, hy]; exact ⟨rfl, h⟩
    · rw [hd, hy]
      obtain ⟨r1, r2⟩ := hrep.digestPrefix l
      exact ⟨by simp only [r1], h.set_same hd hy _ r2⟩
  | reset s =>
    simp only [DWorld.step, specStep]
    rcases h.slot_cases s with ⟨hd, hy⟩ | ⟨d, y, hd, hy, _⟩
    · rw [hd, hy]; exact ⟨rfl, h⟩
    · rw [hd, hy]
      refine ⟨rfl, winv_set h w.pool h.pool s (some d.reset) (some ⟨0, []⟩) ?_⟩
      show Rep H d.reset ⟨0, []⟩
      exact ⟨rfl, by simp [eff, BasicDigester.reset]⟩
  | put s =>
    have hs := h.slots s
    simp only [DWorld.step, specStep]
    cases hd : getSlot w.held s with
    | none =>
      refine ⟨rfl, ?_⟩
      -- the cache-free side clears a slot that is empty on both sides
      rw [hd] at hs
      have hy : (sh[s]?).join = none := by
        cases hy : (sh[s]?).join with
        | none => rfl
        | some y => rw [hy] at hs; exact absurd hs (by simp [SlotRel])
      have h2 := winv_set h w.pool h.pool s none none trivial
      have hself : setSlot w.held s none = w.held := set_slot_self w.held s none hd
      rw [hself] at h2
      exact h2
    | some d =>
      exact ⟨rfl, winv_set h _ (poolReset_put h.pool _) s none none trivial⟩
  | drop i =>
    exact ⟨rfl, ⟨poolReset_drop h.pool i, h.len, h.slots⟩⟩

theorem run_sim {V : Type} (H : Hashes) (hip : HIP V) (hsi : ScratchIndep hip) (evs : List (Ev V)) :
    ∀ (w : DWorld) (sh : List (Option SpecDigester)), WInv H w sh →
      (w.run H hip evs).1 = specRun H hip sh evs ∧ PoolReset (w.run H hip evs).2.pool := by
  induction evs with
  | nil => intro w sh h; exact ⟨rfl, h.pool⟩
  | cons e es ih =>
    intro w sh h
    obtain ⟨h1, h2⟩ := step_sim H hip hsi w sh h e
    obtain ⟨i1, i2⟩ := ih _ _ h2
    simp only [DWorld.run, specRun]
    exact ⟨by rw [h1, i1], i2⟩

end Atree.Dig

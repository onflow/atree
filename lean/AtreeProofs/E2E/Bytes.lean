import AtreeProofs.E2EBytesSpec
import AtreeProofs.E2E.Load
import AtreeProofs.Props.C07
import AtreeProofs.Props.C06
/-
  The byte codec round-trips on the stored slabs of arrays: at the slab's own key (`decS_encS`), as
  the keyed codec for every key (`keyedCodec_roundTrip`), and every slab that represents an array
  satisfying the invariant – with encodable elements and identifiers / counters within their field
  widths – meets the encoder's preconditions (`stored_ok`).
-/
namespace Atree.E2E
open Atree Atree.Codec Gen ATree

theorem ofSlab_toSlab (id : SlabID) (v : SSlab) : ofSlab (toSlab id v) = some v := by
  cases v with
  | tree t ty =>
    cases t with
    | data s => cases ty <;> rfl
    | index h chs cs root => cases ty <;> rfl
  | large e => rfl

theorem toSlab_id (id : SlabID) (v : SSlab) (h : ownId v = id ∨ ∃ e, v = .large e) :
    (toSlab id v).id = id := by
  cases v with
  | tree t ty =>
    rcases h with h | ⟨e, he⟩
    · cases t <;> exact h
    · cases he
  | large e => rfl

theorem encS_large (e : Elem) : encS (.large e) = encodeStorableSlab e := rfl

/-- Round trip at the own key: `DecodeSlab(id, EncodeSlab(slab)) = slab` for every stored slab of an
    array that meets the encoder's preconditions, `id` being the slab's ID (any `id` for a
    large-value slab, whose header holds no ID). -/
theorem decS_encS (v : SSlab) (ok : OkS v) (id : SlabID) (hid : ownId v = id ∨ ∃ e, v = .large e) :
    decS id (encS v) = some v := by
  cases v with
  | large e =>
    unfold decS
    rw [encS_large, C07.decode_encode_storable id e ok 0]
    rfl
  | tree t ty =>
    have hown : ownId (.tree t ty) = id := by
      rcases hid with h | ⟨e, he⟩
      · exact h
      · cases he
    have hsid : (toSlab (ownId (.tree t ty)) (.tree t ty)).id = id := by
      rw [toSlab_id _ _ (Or.inl rfl)]; exact hown
    have := C07.decode_encode_flat (toSlab (ownId (.tree t ty)) (.tree t ty)) ok 0
    rw [hsid] at this
    unfold decS encS
    rw [this]
    exact ofSlab_toSlab _ _

/-- The keyed byte codec satisfies the abstract round-trip law (the hypothesis `RoundTrip c` of all
    E2E / C15 / C03 / C14 / C08 theorems). -/
theorem keyedCodec_roundTrip : RoundTrip keyedCodec := by
  intro id v b h
  simp only [keyedCodec] at h ⊢
  split at h
  · rename_i ok
    cases h
    exact decS_encS v ok (ownId v) (Or.inl rfl)
  · cases h

theorem keyedCodec_enc_isSome (v : SSlab) (ok : OkS v) : (keyedCodec.enc v).isSome := by
  simp [keyedCodec, ok]

/-- under its own key, the keyed codec is `DecodeSlab(key, bytes)` -/
theorem keyedCodec_dec_own (id : SlabID) (b : Bytes) : keyedCodec.dec id (id, b) = decS id b := rfl

theorem validNext_undef : validNext SlabID.undef := by
  unfold validNext SlabID.undef; exact ⟨by decide, by decide⟩

theorem leaf_id_mem : ∀ (d : Nat) (t : ATree d) (s : DataSlab), s ∈ Arr.leaves d t → s.hdr.id ∈ slabIds d t
  | 0, t, s, h => by
    revert h; refine forall_ofData ?_ t; intro s0 h
    simp only [leaves_zero, List.mem_singleton] at h
    subst h; simp
  | d + 1, t, s, h => by
    revert h; refine forall_ofMeta ?_ t; intro m h
    simp only [leaves_succ, List.mem_flatMap] at h
    obtain ⟨c, hc, hs⟩ := h
    simp only [slabIds_succ, List.mem_cons, List.mem_flatMap]
    exact Or.inr ⟨c, hc, leaf_id_mem d c s hs⟩

/-- along a chain of leaves (`chain`: the last one points nowhere, every other one at its successor)
    the `next` pointers are valid identifiers if the leaves' own identifiers are -/
theorem chain_nexts_of {α : Type} (next id : α → SlabID) (chain : List α → Prop)
    (hlast : ∀ a, chain [a] → next a = SlabID.undef)
    (hcons : ∀ a b rest, chain (a :: b :: rest) → next a = id b ∧ chain (b :: rest)) :
    ∀ l, chain l → (∀ s ∈ l, validNext (id s)) → ∀ s ∈ l, validNext (next s)
  | [], _, _, _, hs => nomatch hs
  | [a], hch, _, s, hs => by
    rw [List.mem_singleton.1 hs, hlast a hch]; exact validNext_undef
  | a :: b :: rest, hch, hid, s, hs => by
    obtain ⟨h1, h2⟩ := hcons a b rest hch
    rcases List.mem_cons.1 hs with rfl | hs
    · rw [h1]; exact hid b (List.mem_cons_of_mem _ List.mem_cons_self)
    · exact chain_nexts_of next id chain hlast hcons _ h2 (fun x hx => hid x (List.mem_cons_of_mem _ hx)) s hs

theorem chain_nexts (l : List DataSlab) (hch : LeafChain l) (hid : ∀ s ∈ l, validNext s.hdr.id) :
    ∀ s ∈ l, validNext s.next :=
  chain_nexts_of (fun s : DataSlab => s.next) (fun s => s.hdr.id) LeafChain (fun _ h => h) (fun _ _ _ h => h) l hch hid

theorem count_le_sumCounts {d : Nat} (l : List (ATree d)) (c : ATree d) (hc : c ∈ l) :
    (hdr d c).count ≤ MetaSlab.sumCounts (l.map (hdr d)) :=
  le_sum_map_of_mem Hdr.count (List.mem_map_of_mem hc)

theorem maxThr_le {T : Nat} (hT : legalThreshold T = true) : maxThr T ≤ 49152 := by
  have F := thrFacts hT
  rw [F.maxE]; have := F.hi; omega

theorem tyInfo_isSome {ty : Option Nat} {top : Bool} (h : ty.isSome = top) : (tyInfo ty).isSome = top := by
  rw [← h]; cases ty <;> rfl

theorem tyInfo_valid {ty : Option Nat} (h : ∀ n, ty = some n → n < 2 ^ 64) : ∀ t, tyInfo ty = some t → validTy t := by
  intro t ht
  cases ty with
  | none => cases ht
  | some n => cases ht; exact h n rfl

theorem idsOk_child {addr ctr d : Nat} {m : MetaSlab (ATree d)} (hids : IdsOk addr ctr (slabIds (d + 1) (ofMeta m)))
    {c : ATree d} (hc : c ∈ m.children) : IdsOk addr ctr (slabIds d c) := by
  refine ⟨?_, fun id hid => hids.2 id (by
    simp only [slabIds_succ, List.mem_cons, List.mem_flatMap]
    exact Or.inr ⟨c, hc, hid⟩)⟩
  have hnd := hids.1
  rw [slabIds_succ] at hnd
  have hnd2 := (List.nodup_cons.1 hnd).2
  obtain ⟨A, B, hAB⟩ := List.append_of_mem hc
  rw [hAB, List.flatMap_append, List.flatMap_cons] at hnd2
  exact (List.nodup_append.1 (List.nodup_append.1 hnd2).2.1).1

theorem child_count_le {T d : Nat} {top : Bool} {m : MetaSlab (ATree d)} (hs : MShape T d top m)
    {c : ATree d} (hc : c ∈ m.children) : (hdr d c).count ≤ m.hdr.count := by
  rw [hs.count_eq, hs.hdrs_eq]
  exact count_le_sumCounts m.children c hc

/-- An index slab of the tree of a standalone array: from the shape invariant and the widths of
    the IDs, `SlabOK`. -/
theorem aindex_ok {T : Nat} (hT : legalThreshold T = true) {addr ctr : Nat} (haddr : addr < 2 ^ 64) (hctr : ctr < 2 ^ 64)
    {d : Nat} {top : Bool} {m : MetaSlab (ATree d)} (hs : MShape T d top m) (hmax : m.hdr.size ≤ maxThr T)
    (hids : IdsOk addr ctr (slabIds (d + 1) (ofMeta m))) (hcnt : m.hdr.count < 2 ^ 32)
    (ty : Option TyInfo) (hty : ty.isSome = top) (htyv : ∀ t, ty = some t → validTy t) :
    SlabOK (.index ty ⟨m.hdr, m.childHdrs, m.countSum, [], m.root⟩) := by
  have hmx : maxThr T ≤ 49152 := maxThr_le hT
  have hlen : m.childHdrs.length = m.children.length := hs.hdrs_length
  have hidm := hids.2 m.hdr.id (by rw [slabIds_succ]; exact List.mem_cons_self)
  refine ⟨⟨by rw [hidm.1]; exact haddr, ?_, ?_, hs.sums_eq, ?_, ?_, ?_, rfl, ?_⟩, ?_⟩
  · intro h hh
    rw [hs.hdrs_eq, List.mem_map] at hh
    obtain ⟨c, hc, rfl⟩ := hh
    have hidc := hids.2 (hdr d c).id (by
      simp only [slabIds_succ, List.mem_cons, List.mem_flatMap]
      exact Or.inr ⟨c, hc, hdr_id_mem_slabIds d c⟩)
    refine ⟨hs.kids_addr c hc, Nat.lt_of_le_of_lt hidc.2.2 hctr,
      Nat.lt_of_le_of_lt (child_count_le hs hc) hcnt, ?_⟩
    have := TreeInv.le_max (hs.kids_inv c hc)
    omega
  · show m.childHdrs.length < 65536
    have hksz := hs.kids_of_size
    omega
  · show m.hdr.count = m.countSum.getLastD 0
    rw [hs.sums_eq, MetaSlab.prefixSums_getLastD, hs.count_eq]; simp
  · show MetaSlab.sumCounts m.childHdrs ≤ 4294967295
    rw [← hs.count_eq]
    omega
  · show m.hdr.size = arrayMetaDataSlabPrefixSize + arraySlabHeaderSize * m.childHdrs.length
    rw [hlen]; exact hs.size_eq
  · intro hr
    cases ty with
    | none => rw [hs.root_eq] at hr; rw [← hty] at hr; cases hr
    | some n => exact htyv n rfl
  · show ty.isSome = m.root
    rw [hs.root_eq, hty]

/-- The slabs of a subtree, one by one: a property `G` of stored slabs that holds of every data slab
    (from its invariant, elements with `El`, a valid sibling link, and `R` of a root leaf) and of every
    index slab meeting the encoder's preconditions holds of every slab of a subtree satisfying the
    invariant. -/
theorem subtree_slabs {T : Nat} (hT : legalThreshold T = true) (addr ctr : Nat) (haddr : addr < 2 ^ 64)
    (hctr : ctr < 2 ^ 64) {G : SlabID → ASlab → Option Nat → Prop} {El : Elem → Prop}
    {R : Bool → DataSlab → Prop} (hRf : ∀ s, R false s)
    (leaf : ∀ (top : Bool) (s : DataSlab) (ty : Option Nat), DataInv T top s → s.inlined = false →
      ty.isSome = top → (∀ n, ty = some n → n < 2 ^ 64) → (∀ e ∈ s.elems, El e) → validNext s.next →
      R top s → G s.hdr.id (.data s) ty)
    (index : ∀ {d : Nat} (m : MetaSlab (ATree d)) (ty : Option Nat),
      SlabOK (.index (tyInfo ty) ⟨m.hdr, m.childHdrs, m.countSum, [], m.root⟩) →
      G m.hdr.id (.index m.hdr m.childHdrs m.countSum m.root) ty) :
    ∀ (d : Nat) (top : Bool) (t : ATree d) (ty : Option Nat),
      TreeInv T d top t → NotInl d t → ty.isSome = top → (∀ n, ty = some n → n < 2 ^ 64) →
      (∀ e ∈ flatten d t, El e) → IdsOk addr ctr (slabIds d t) →
      (hdr d t).count < 2 ^ 32 → (∀ s ∈ Arr.leaves d t, validNext s.next) →
      (∀ s : DataSlab, Arr.leaves d t = [s] → R top s) →
      G (hdr d t).id (ent d t) ty ∧ ∀ p ∈ sub d t, G p.1 p.2 none
  | 0, top, t, ty, hinv, hni, hty, htyb, hel, hids, hcnt, hnx, hrn => by
    revert hinv hni hel hids hcnt hnx hrn; refine forall_ofData ?_ t; intro s hinv hni hel hids hcnt hnx hrn
    exact ⟨leaf top s ty ((treeInv_zero T top s).1 hinv) hni hty htyb (fun e he => hel e (by simpa using he))
      (hnx s (by simp)) (hrn s rfl), by intro p hp; cases hp⟩
  | d + 1, top, t, ty, hinv, _, hty, htyb, hel, hids, hcnt, hnx, _ => by
    revert hinv hel hids hcnt hnx; refine forall_ofMeta ?_ t; intro m hinv hel hids hcnt hnx
    obtain ⟨hs, hmax, _, _⟩ := (treeInv_succ T d top m).1 hinv
    refine ⟨index m ty (aindex_ok hT haddr hctr hs hmax hids hcnt (tyInfo ty) (tyInfo_isSome hty)
      (tyInfo_valid htyb)), ?_⟩
    intro p hp
    simp only [sub_succ, List.mem_flatMap] at hp
    obtain ⟨c, hc, hpc⟩ := hp
    obtain ⟨g1, g2⟩ := subtree_slabs hT addr ctr haddr hctr hRf leaf index d false c none (hs.kids_inv c hc)
      (TreeInv.notInl_of_false (hs.kids_inv c hc)) rfl (fun n h => by cases h)
      (fun e he => hel e (by
        simp only [flatten_succ, List.mem_flatMap]; exact ⟨c, hc, he⟩))
      (idsOk_child hids hc) (Nat.lt_of_le_of_lt (child_count_le hs hc) hcnt)
      (fun s hs' => hnx s (by simp only [leaves_succ, List.mem_flatMap]; exact ⟨c, hc, hs'⟩))
      (fun s _ => hRf s)
    rw [slabs_eq] at hpc
    rcases List.mem_cons.1 hpc with rfl | h
    · exact g1
    · exact g2 p h

/-- Every slab of a subtree satisfying the invariant meets the encoder's preconditions. -/
theorem tree_ok {T : Nat} (hT : legalThreshold T = true) (addr ctr : Nat) (haddr : addr < 2 ^ 64)
    (hctr : ctr < 2 ^ 64) :
    ∀ (d : Nat) (top : Bool) (t : ATree d) (ty : Option Nat),
      TreeInv T d top t → NotInl d t → ty.isSome = top → (∀ n, ty = some n → n < 2 ^ 64) →
      (∀ e ∈ flatten d t, validElem e) → IdsOk addr ctr (slabIds d t) →
      (hdr d t).count < 2 ^ 32 → (∀ s ∈ Arr.leaves d t, validNext s.next) →
      OkS (.tree (ent d t) ty) ∧ ∀ p ∈ sub d t, OkS (.tree p.2 none) :=
  fun d top t ty hinv hni hty htyb hel hids hcnt hnx =>
    subtree_slabs hT addr ctr haddr hctr (G := fun _ sl ty => OkS (.tree sl ty)) (R := fun _ _ => True)
      (fun _ => trivial)
      (fun top s ty hd hni hty htyb hel hnx _ => by
        obtain ⟨_, h16b⟩ := C06.no_uint16_truncation T hT top s hd
        have hle := hd.le_max
        have hmx := maxThr_le hT
        show SlabOK (.data (tyInfo ty) s)
        refine ⟨⟨hel, h16b, hni, hd.count_eq, hd.size_eq, by omega, hnx, ?_⟩, ?_⟩
        · intro hr
          cases ty with
          | none => rw [hd.root_eq] at hr; rw [← hty] at hr; cases hr
          | some n => exact htyb n rfl
        · rw [hd.root_eq, ← hty]; cases ty <;> rfl)
      (fun _ _ h => h) d top t ty hinv hni hty htyb hel hids hcnt hnx (fun _ _ => trivial)

/-- what makes the stored slabs of an array encodable: encodable elements and large values,
    address, counter and type info within their field widths -/
structure EncOk (a : Arr) (extra : SlabID → Option Elem) (ctr : Nat) : Prop where
  elems : ∀ e ∈ a.toList, validElem e
  extra : ∀ id v, extra id = some v → validElem v
  addr : a.addr < 2 ^ 64
  ctr : ctr < 2 ^ 64
  ty : a.ty < 2 ^ 64

/-- Stored slabs are encodable.  Every slab the representation of an array puts into the storage
    meets the encoder's preconditions and is filed under its own ID (a large-value slab has none). -/
theorem stored_ok {T : Nat} (hT : legalThreshold T = true) (a : Arr) (extra : SlabID → Option Elem)
    (ctr : Nat) (hinv : ArrInv T a ctr) (henc : EncOk a extra ctr) (id : SlabID) (v : SSlab)
    (hv : stored a extra id = some v) :
    OkS v ∧ (ownId v = id ∨ ∃ e, v = .large e) := by
  cases hs : a.slabAt id with
  | none =>
    rw [stored_of_none hs] at hv
    cases he : extra id with
    | none => rw [he] at hv; cases hv
    | some e =>
      rw [he] at hv
      simp only [Option.map_some, Option.some.injEq] at hv
      subst hv
      exact ⟨henc.extra id e he, Or.inr ⟨e, rfl⟩⟩
  | some p =>
    rw [stored_of_some hs] at hv
    simp only [Option.some.injEq] at hv
    subst hv
    -- `p` is the entry of `id` in the slabs of the tree
    unfold Arr.slabAt at hs
    cases hf : AList.find? (ATree.slabs a.d a.root) id with
    | none => rw [hf] at hs; cases hs
    | some sl =>
      rw [hf] at hs
      simp only [Option.map_some, Option.some.injEq] at hs
      subst hs
      have hmem := mem_of_find? hf
      obtain ⟨d, t, ty⟩ := a
      have hnx : ∀ s ∈ Arr.leaves d t, validNext s.next := by
        apply chain_nexts _ hinv.chain
        intro s hs'
        have := hinv.ids.2 s.hdr.id (leaf_id_mem d t s hs')
        have h1 : s.hdr.id.addr < 2 ^ 64 := by rw [this.1]; exact henc.addr
        have h2 := henc.ctr
        exact ⟨h1, by omega⟩
      have hcnt : (hdr d t).count < 2 ^ 32 := by
        have := hinv.count_lt
        simp only [Arr.count, Arr.rootHdr, maxArrayElementCount] at this
        omega
      obtain ⟨g1, g2⟩ := tree_ok hT _ ctr henc.addr henc.ctr d true t (some ty) hinv.tree hinv.notInl rfl
        (fun n h => by cases h; exact henc.ty) henc.elems hinv.ids hcnt hnx
      rw [slabs_eq] at hmem
      rcases List.mem_cons.1 hmem with heq | hsub
      · -- the root slab
        simp only [Prod.mk.injEq] at heq
        obtain ⟨rfl, rfl⟩ := heq
        have hroot : (hdr d t).id = (⟨d, t, ty⟩ : Arr).rootID := rfl
        simp only [hroot, if_true]
        refine ⟨g1, Or.inl ?_⟩
        cases d with
        | zero => rfl
        | succ d => rfl
      · -- a slab below the root
        have hne : ¬ id = (⟨d, t, ty⟩ : Arr).rootID := by
          intro he
          have hnd := hinv.ids.1
          rw [slabIds_eq] at hnd
          have : id ∈ subIds d t := by
            rw [← keys_sub]; exact mem_keys_of_mem hsub
          rw [he] at this
          exact (List.nodup_cons.1 hnd).1 this
        simp only [hne, if_false]
        refine ⟨g2 (id, sl) hsub, Or.inl ?_⟩
        -- the key of an entry is the ID in the header of the slab
        have key : ∀ (d : Nat) (t : ATree d) (p : SlabID × ASlab), p ∈ ATree.slabs d t →
            ownId (.tree p.2 none) = p.1 := by
          intro d
          induction d with
          | zero =>
            intro t p hp
            revert hp; refine forall_ofData ?_ t; intro s hp
            simp only [ATree.slabs, ofData, List.mem_singleton] at hp
            subst hp; rfl
          | succ d ih =>
            intro t p hp
            revert hp; refine forall_ofMeta ?_ t; intro m hp
            simp only [ATree.slabs, ofMeta, List.mem_cons, List.mem_flatMap] at hp
            rcases hp with rfl | ⟨c, _, hc⟩
            · rfl
            · exact ih c p hc
        have := key d t (id, sl) (by rw [slabs_eq]; exact List.mem_cons_of_mem _ hsub)
        cases sl <;> exact this

end Atree.E2E

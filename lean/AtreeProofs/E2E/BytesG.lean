import AtreeProofs.E2EBytesGSpec
import AtreeProofs.E2E.Bytes
import AtreeProofs.E2E.BytesHistory
/-
  Arrays with the byte codec and large-value slabs of any supported storable (`LargeInterp`): round
  trip, stored slabs encodable, no encoding failure along histories.
-/
namespace Atree.E2E
open Atree Atree.Codec Gen ATree

variable (I : LargeInterp) {β : Type}

theorem toSlabG_tree (id : SlabID) (t : ASlab) (ty : Option Nat) :
    toSlabG I id (.tree t ty) = toSlab id (.tree t ty) := rfl

theorem ofSlabG_toSlab_tree (id : SlabID) (t : ASlab) (ty : Option Nat) :
    ofSlabG I (toSlab id (.tree t ty)) = ofSlab (toSlab id (.tree t ty)) := by
  cases t <;> rfl

theorem okG_tree (t : ASlab) (ty : Option Nat) : OkG I (.tree t ty) = OkS (.tree t ty) := rfl

/-- round trip at the own key with general large-value slabs -/
theorem decG_encG (v : SSlab) (ok : OkG I v) (id : SlabID) (hid : ownId v = id ∨ ∃ e, v = .large e) :
    decG I id (encG I v) = some v := by
  cases v with
  | large e =>
    have hok : I.ok e = true := ok
    unfold decG encG
    by_cases hf : (I.γ e).isFlat = true
    · obtain ⟨_, hv⟩ := I.flat e hok hf
      simp only [toSlabG, hf, if_true, encodeSlab]
      rw [C07.decode_encode_storable id e hv 0]
      rfl
    · have hf' : (I.γ e).isFlat = false := by cases h : (I.γ e).isFlat <;> simp_all
      obtain ⟨x, hx, h1, h2, h3⟩ := I.wrapped e hok hf'
      simp only [toSlabG, hf', Bool.false_eq_true, if_false, encodeSlab]
      rw [hx, C07.decode_encode_storable_wrapped id x h1 h2 h3 0]
      simp only [ofSlabG]
      rw [← hx, I.inv e hok]
      rfl
  | tree t ty =>
    have ok' : OkS (.tree t ty) := ok
    have hown : ownId (.tree t ty) = id := by
      rcases hid with h | ⟨e, he⟩
      · exact h
      · cases he
    have hsid : (toSlab (ownId (.tree t ty)) (.tree t ty)).id = id := by
      rw [toSlab_id _ _ (Or.inl rfl)]; exact hown
    have := C07.decode_encode_flat (toSlab (ownId (.tree t ty)) (.tree t ty)) ok' 0
    rw [hsid] at this
    unfold decG encG
    rw [toSlabG_tree, this]
    show ofSlabG I (toSlab (ownId (.tree t ty)) (.tree t ty)) = _
    rw [ofSlabG_toSlab_tree]
    exact ofSlab_toSlab _ _

/-- the keyed byte codec with general large-value slabs satisfies the abstract round-trip law -/
theorem keyedCodecG_roundTrip : RoundTrip (keyedCodecG I) := by
  intro id v b h
  simp only [keyedCodecG] at h ⊢
  split at h
  · rename_i ok
    cases h
    exact decG_encG I v ok (ownId v) (Or.inl rfl)
  · cases h

theorem keyedCodecG_enc_isSome (v : SSlab) (ok : OkG I v) : ((keyedCodecG I).enc v).isSome := by
  simp [keyedCodecG, ok]

/-- what makes the stored slabs encodable (as `EncOk`, large values through the interpretation) -/
structure EncOkG (a : Arr) (extra : SlabID → Option Elem) (ctr : Nat) : Prop where
  elems : ∀ e ∈ a.toList, validElem e
  extra : ∀ id v, extra id = some v → I.ok v = true
  addr : a.addr < 2 ^ 64
  ctr : ctr < 2 ^ 64
  ty : a.ty < 2 ^ 64

/-- stored slabs are encodable (general large-value slabs) -/
theorem stored_okG {T : Nat} (hT : legalThreshold T = true) (a : Arr) (extra : SlabID → Option Elem)
    (ctr : Nat) (hinv : ArrInv T a ctr) (henc : EncOkG I a extra ctr) (id : SlabID) (v : SSlab)
    (hv : stored a extra id = some v) :
    OkG I v ∧ (ownId v = id ∨ ∃ e, v = .large e) := by
  cases hs : a.slabAt id with
  | none =>
    rw [stored_of_none hs] at hv
    cases he : extra id with
    | none => rw [he] at hv; cases hv
    | some e =>
      rw [he] at hv
      simp only [Option.map_some, Option.some.injEq] at hv
      subst hv
      exact ⟨henc.extra id e he, Or.inr ⟨e, rfl⟩⟩
  | some p =>
    rw [stored_of_some hs] at hv
    simp only [Option.some.injEq] at hv
    subst hv
    have h0 : stored a (fun _ => none) id = some (.tree p.1 p.2) := stored_of_some hs
    have := stored_ok hT a (fun _ => none) ctr hinv
      ⟨henc.elems, (fun _ _ h => by cases h), henc.addr, henc.ctr, henc.ty⟩ id _ h0
    exact ⟨this.1, this.2⟩

structure EncStG (st : Arr × Ctx) : Prop where
  elems : ∀ e ∈ st.1.toList, ElemEnc e
  created : ∀ p ∈ st.2.created, I.ok p.2 = true
  ty : st.1.ty < 2 ^ 64

theorem Served.encStG {T : Nat} {a : Arr} {ctx : Ctx} {op : AOp} {st' : Arr × Ctx}
    (h : Served T a ctx op st') (hop : op.Ok) (henc : AOp.EncG I T op) (he : EncStG I (a, ctx)) :
    EncStG I st' :=
  have ⟨h1, h2⟩ := h.forall_stored (P := ElemEnc) (Q := fun v => I.ok v = true)
    (fun v hv => by
      have hg : (v.size ≤ maxInlineArr T → validElem v) ∧ (maxInlineArr T < v.size → I.ok v = true) := by
        cases op <;> first | (cases hv; exact henc) | cases hv
      exact (storable_toStorable T a.addr (AOp.ok_val hop v hv) ctx).forall_stored (Q := fun v => I.ok v = true)
        (fun h => elemEnc_of_valid (hg.1 h) (AOp.ok_val hop v hv).2) (fun _ => rfl) hg.2)
    he.elems he.created
  ⟨h1, h2, h.ty_eq ▸ (by cases op <;> first | exact he.ty | exact henc)⟩

theorem encStG_step (T : Nat) (hT : legalThreshold T = true) (st : Arr × Ctx) (hinv : ArrInv T st.1 st.2.ctr)
    (he : EncStG I st) (op : AOp) (hop : op.Ok) (henc : AOp.EncG I T op) : EncStG I (stepA T st op) :=
  (served_stepA hT st.1 st.2 hinv op hop).encStG I hop henc he

theorem encStG_runS (c : Codec SSlab β) (hc : RoundTrip c) (T : Nat) (hT : legalThreshold T = true) :
    ∀ (ops : List AOp) (x : (Arr × Ctx) × St SSlab β), Good c T x → EncStG I x.1 →
      (∀ op ∈ ops, op.Ok) → (∀ op ∈ ops, AOp.EncG I T op) → EncStG I (runS c T x ops).1 :=
  fun ops x hg he hok henc =>
    (foldl_sim (stepS c T) (fun (u : Unit) _ => u) (fun op => op.Ok ∧ AOp.EncG I T op)
      (fun x _ => Good c T x ∧ EncStG I x.1)
      (fun x _ op hop h => ⟨(good_stepS c hc T hT x h.1 op hop.1).1, encStG_step I T hT x.1 h.1.inv h.2 op hop.1 hop.2⟩)
      ops x () (fun o ho => ⟨hok o ho, henc o ho⟩) ⟨hg, he⟩).2

theorem encStG_new (c : Codec SSlab β) (addr ty : Nat) (hty : ty < 2 ^ 64) : EncStG I (newS c addr ty).1 := by
  refine ⟨?_, ?_, hty⟩
  · intro e he; exact absurd he (by simp [newS, Arr.new, Arr.toList, ATree.flatten])
  · intro p hp; exact absurd hp (by simp [newS, Arr.new, Ctx.alloc, Ctx.emit])

theorem encOkG_of_good (c : Codec SSlab β) (T : Nat) (x : (Arr × Ctx) × St SSlab β) (hg : Good c T x)
    (he : EncStG I x.1) (haddr : x.1.1.addr < 2 ^ 64) (hctr : x.1.2.ctr < 2 ^ 64) :
    EncOkG I x.1.1 (AList.find? x.1.2.created) x.1.2.ctr := by
  exact ⟨fun e hmem => validElem_of_elemEnc (he.elems e hmem) (hg.refs e hmem) hg.caddr hg.created_le haddr hctr,
    fun id v hv => he.created _ (mem_of_find?_some hv), haddr, hctr, he.ty⟩

/-- no encoding failure (general large-value slabs) -/
theorem noEncodeFailure_of_goodG (T : Nat) (hT : legalThreshold T = true)
    (x : (Arr × Ctx) × St SSlab (SlabID × Bytes)) (hg : Good (keyedCodecG I) T x)
    (he : EncStG I x.1) (haddr : x.1.1.addr < 2 ^ 64) (hctr : x.1.2.ctr < 2 ^ 64) :
    NoEncodeFailure (keyedCodecG I) x.2 :=
  (good_iff.1 hg).2.1.noEncodeFailure fun id v hv => keyedCodecG_enc_isSome I v
    (stored_okG I hT x.1.1 _ _ hg.inv (encOkG_of_good I (keyedCodecG I) T x hg he haddr hctr) id v
      (stored_cview _ ▸ hv)).1

end Atree.E2E

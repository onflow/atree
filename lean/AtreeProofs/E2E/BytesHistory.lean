import AtreeProofs.E2E.Bytes
import AtreeProofs.E2E.History
/-
  Histories whose values the harness can encode: the stored elements stay encodable (`EncSt`, kept by
  `Served`: the stored form of an encodable value is encodable), hence
  every slab pending in the storage meets the encoder's preconditions (`noEncodeFailure_of_good`).
-/
namespace Atree.E2E
open Atree Atree.Codec Gen ATree

variable {β : Type}

/-- the stored elements, the large values and the type info can be encoded -/
structure EncSt (st : Arr × Ctx) : Prop where
  elems : ∀ e ∈ st.1.toList, ElemEnc e
  created : ∀ p ∈ st.2.created, validElem p.2
  ty : st.1.ty < 2 ^ 64

theorem elemEnc_of_valid {e : Elem} (h : validElem e) (hv : ∃ n, e.pay = .val n) : ElemEnc e := by
  obtain ⟨n, hn⟩ := hv
  unfold ElemEnc; rw [hn]; exact h

/-- an encodable stored element is a valid element of the codec: a reference is live, so it points
    to a created slab, which is owned by the container's address and below the counter -/
theorem validElem_of_elemEnc {e : Elem} {created : List (SlabID × Elem)} {addr ctr : Nat} (h : ElemEnc e)
    (hlive : ∀ y, e.pay = .ref y → (AList.find? created y).isSome)
    (hcaddr : ∀ p ∈ created, p.1.addr = addr) (hcle : ∀ p ∈ created, p.1.idx ≤ ctr)
    (haddr : addr < 2 ^ 64) (hctr : ctr < 2 ^ 64) : validElem e := by
  unfold ElemEnc at h
  unfold validElem
  cases hp : e.pay with
  | val n => rw [hp] at h; unfold validElem at h; rw [hp] at h; exact h
  | ref y =>
    rw [hp] at h
    simp only at h ⊢
    have := hlive y hp
    cases hf : AList.find? created y with
    | none => rw [hf] at this; cases this
    | some w =>
      have hm := AList.mem_of_find? hf
      have h2 := hcaddr _ hm
      have h3 := hcle _ hm
      simp only at h2 h3
      exact ⟨h, by rw [h2]; exact haddr, by omega⟩

theorem AOp.enc_val {op : AOp} (h : op.Enc) : ∀ v, op.val? = some v → validElem v := by
  intro v hv
  cases op <;> first | (cases hv; exact h) | cases hv

theorem AOp.enc_ty {op : AOp} (h : op.Enc) {ty : Nat} (hty : ty < 2 ^ 64) : specTy ty [op] < 2 ^ 64 := by
  cases op <;> first | exact hty | exact h

theorem Served.encSt {T : Nat} {a : Arr} {ctx : Ctx} {op : AOp} {st' : Arr × Ctx}
    (h : Served T a ctx op st') (hop : op.Ok) (henc : op.Enc) (he : EncSt (a, ctx)) : EncSt st' :=
  have ⟨h1, h2⟩ := h.forall_stored (P := ElemEnc) (Q := validElem)
    (fun v hv => (storable_toStorable T a.addr (AOp.ok_val hop v hv) ctx).forall_stored
      (fun _ => elemEnc_of_valid (AOp.enc_val henc v hv) (AOp.ok_val hop v hv).2) (fun _ => rfl)
      (fun _ => AOp.enc_val henc v hv))
    he.elems he.created
  ⟨h1, h2, h.ty_eq ▸ AOp.enc_ty henc he.ty⟩

theorem encSt_step (T : Nat) (hT : legalThreshold T = true) (st : Arr × Ctx) (hinv : ArrInv T st.1 st.2.ctr)
    (he : EncSt st) (op : AOp) (hop : op.Ok) (henc : op.Enc) : EncSt (stepA T st op) :=
  (served_stepA hT st.1 st.2 hinv op hop).encSt hop henc he

theorem encSt_runS (c : Codec SSlab β) (hc : RoundTrip c) (T : Nat) (hT : legalThreshold T = true) :
    ∀ (ops : List AOp) (x : (Arr × Ctx) × St SSlab β), Good c T x → EncSt x.1 →
      (∀ op ∈ ops, op.Ok) → (∀ op ∈ ops, op.Enc) → EncSt (runS c T x ops).1 :=
  fun ops x hg he hok henc =>
    (foldl_sim (stepS c T) (fun (u : Unit) _ => u) (fun op => op.Ok ∧ op.Enc)
      (fun x _ => Good c T x ∧ EncSt x.1)
      (fun x _ op hop h => ⟨(good_stepS c hc T hT x h.1 op hop.1).1, encSt_step T hT x.1 h.1.inv h.2 op hop.1 hop.2⟩)
      ops x () (fun o ho => ⟨hok o ho, henc o ho⟩) ⟨hg, he⟩).2

theorem encSt_new (c : Codec SSlab β) (addr ty : Nat) (hty : ty < 2 ^ 64) : EncSt (newS c addr ty).1 := by
  refine ⟨?_, ?_, hty⟩
  · intro e he; exact absurd he (by simp [newS, Arr.new, Arr.toList, ATree.flatten])
  · intro p hp; exact absurd hp (by simp [newS, Arr.new, Ctx.alloc, Ctx.emit])

/-- from the history invariants to the encoder's preconditions on the final state -/
theorem encOk_of_good (c : Codec SSlab β) (T : Nat) (x : (Arr × Ctx) × St SSlab β) (hg : Good c T x)
    (he : EncSt x.1) (haddr : x.1.1.addr < 2 ^ 64) (hctr : x.1.2.ctr < 2 ^ 64) :
    EncOk x.1.1 (AList.find? x.1.2.created) x.1.2.ctr := by
  exact ⟨fun e hmem => validElem_of_elemEnc (he.elems e hmem) (hg.refs e hmem) hg.caddr hg.created_le haddr hctr,
    fun id v hv => he.created _ (mem_of_find?_some hv), haddr, hctr, he.ty⟩

/-- No encoding failure: every slab pending in a storage that represents the array can be encoded. -/
theorem noEncodeFailure_of_good (T : Nat) (hT : legalThreshold T = true)
    (x : (Arr × Ctx) × St SSlab (SlabID × Bytes)) (hg : Good keyedCodec T x)
    (he : EncSt x.1) (haddr : x.1.1.addr < 2 ^ 64) (hctr : x.1.2.ctr < 2 ^ 64) :
    NoEncodeFailure keyedCodec x.2 :=
  (good_iff.1 hg).2.1.noEncodeFailure fun id v hv => keyedCodec_enc_isSome v
    (stored_ok hT x.1.1 _ _ hg.inv (encOk_of_good keyedCodec T x hg he haddr hctr) id v (stored_cview _ ▸ hv)).1

end Atree.E2E

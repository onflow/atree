import AtreeProofs.E2E.Writes
import AtreeProofs.E2E.Created
/-
  The container as the storage sees it, for arrays and maps alike.  `CView`: the slabs of the
  tree, the owner address, how tree slabs and large values are stored.  `Holds`: the storage shows
  exactly the container and its live large-value slabs (`E2E.Rep`, `E2EM.MRep`); `Holds.step`: a log
  that is a complete account of a change keeps it.  `StepAccount`: what the model says of one request, as
  far as the storage is concerned (`store_root`, `pop`, `create`: the accounts of `SetType`, `PopIterate`
  and of the creation of the container); `StoreGood`: the storage half of the history invariants
  (`E2E.Good`, `E2EM.MGoodF`), which holds after the creation (`StoreGood.new`) and is kept by every
  accounted request (`StoreGood.step`) and by every storage-only action that keeps view, counters and
  pending stores (`StoreGood.frame`).  What is read back: `Holds.view_extra` (a live large value),
  `Holds.target_read` (a register after a complete commit), `StoreGood.noEncodeFailure`.
  Namespaces: `WE2E` holds what is stated for any type of stored slabs (as in `World/HeapWrites.lean`);
  `E2E` a few facts over bare look-up functions (`storedOf`, the common shape of `stored` and
  `E2EM.mstored`; `view_step_of`); `E2ED` the log of disposal (`rmLog`).
-/
namespace Atree.E2E
open Atree St

variable {β : Type}

theorem mem_of_find?_some {α : Type} {l : List (SlabID × α)} {k : SlabID} {v : α}
    (h : AList.find? l k = some v) : (k, v) ∈ l := AList.mem_of_find? h

theorem find?_isSome_of_mem_keys {α : Type} {l : List (SlabID × α)} {k : SlabID}
    (h : k ∈ l.map (·.1)) : (AList.find? l k).isSome := by
  have := (AList.find?_ne_none_iff l k).2 h
  cases hf : AList.find? l k with
  | none => exact absurd hf this
  | some v => rfl

theorem ne_undef_of_addr {id : SlabID} {addr : Nat} (h : id.addr = addr) (hne : addr ≠ 0) :
    id ≠ SlabID.undef := by
  intro e
  rw [e] at h
  exact hne h.symm

theorem isTemp_of_addr {id : SlabID} {addr : Nat} (h : id.addr = addr) (hne : addr ≠ 0) :
    id.isTemp = false := by
  simp [SlabID.isTemp, h, hne]

section
variable {σ P : Type}

/-- what a container with tree slabs `f` (stored through `tree`) and live large-value slabs
    `extra` shows: the common shape of `stored` and `E2EM.mstored` -/
def storedOf (f : SlabID → Option P) (tree : P → σ) (large : Elem → σ)
    (extra : SlabID → Option Elem) (id : SlabID) : Option σ :=
  match f id with
  | some p => some (tree p)
  | none => (extra id).map large

/-- The view after the log at one identifier, from the four clauses of the account at `id`; `ex'` are the live
    large-value slabs afterwards (given by `extraStep` outside the new tree). -/
theorem view_step_of (c : Codec σ β) (s : St σ β) (f f' : SlabID → Option P) (tree : P → σ)
    (large : Elem → σ) (extra ex' : SlabID → Option Elem) (E : List Eff)
    (created : List (SlabID × Elem)) (id : SlabID) (hid : id ≠ SlabID.undef)
    (hview : s.view c id = storedOf f tree large extra id)
    (hcs : (f' id).isSome → f' id ≠ f id → lastAction E id = some true)
    (hgr : (f id).isSome → (f' id).isNone → lastAction E id = some false)
    (hst : lastAction E id = some true → (f' id).isSome ∨ id ∈ created.map (·.1))
    (hrm : lastAction E id = some false → (f' id).isNone)
    (hex : (f' id).isNone → ex' id =
      match lastAction E id with
      | some true => AList.find? created id
      | some false => none
      | none => extra id) :
    (WE2E.applyEffs c s (storedOf f' tree large (AList.find? created)) E).view c id =
      storedOf f' tree large ex' id := by
  have hwf : lastAction E id = some true →
      (storedOf f' tree large (AList.find? created) id).isSome := by
    intro h
    unfold storedOf
    cases hs : f' id with
    | some p => rfl
    | none =>
      rcases hst h with h1 | h1
      · rw [hs] at h1; cases h1
      · have := find?_isSome_of_mem_keys h1
        cases hf : AList.find? created id with
        | none => rw [hf] at this; cases this
        | some v => rfl
  rw [WE2E.view_applyEffs c s _ E id hid hwf]
  unfold storedOf at hview ⊢
  cases hs' : f' id with
  | some p =>
    cases hl : lastAction E id with
    | none =>
      have heq : f' id = f id := Classical.byContradiction fun hne => by
        have := hcs (by rw [hs']; rfl) hne
        rw [hl] at this; cases this
      rw [hview, ← heq, hs']
    | some b =>
      cases b with
      | true => rfl
      | false => have := hrm hl; rw [hs'] at this; cases this
  | none =>
    have hx := hex (by rw [hs']; rfl)
    dsimp only
    rw [hx]
    cases hl : lastAction E id with
    | none =>
      have hs : f id = none := by
        cases hs : f id with
        | none => rfl
        | some p =>
          have := hgr (by rw [hs]; rfl) (by rw [hs']; rfl)
          rw [hl] at this; cases this
      rw [hview, hs]
    | some b => cases b <;> rfl

end

theorem find?_append {α : Type} (l1 l2 : List (SlabID × α)) (k : SlabID) :
    AList.find? (l1 ++ l2) k = (AList.find? l1 k).or (AList.find? l2 k) := AList.find?_append l1 l2 k

theorem allocCount_eq (addr : Nat) (E : List Eff) : allocCount addr E = nAllocAt addr E := by
  unfold allocCount nAllocAt
  congr 1

theorem newEffs_of_log {c c' : Ctx} {E : List Eff} {C : List (SlabID × Elem)} (h : Log c c' E C) :
    newEffs c c' = E := by
  unfold newEffs; rw [h.eff]; exact List.drop_left

theorem newEffs_self (c : Ctx) : newEffs c c = [] := by simp [newEffs]


end Atree.E2E

namespace Atree.E2ED
open Atree

/-- the log of a caller that disposes of large-value slabs: one `storage.Remove(id)` each -/
def rmLog (ids : List SlabID) : List Eff := ids.map Eff.remove

theorem lastAction_rm (E : List Eff) (ids : List SlabID) (id : SlabID) :
    lastAction (E ++ rmLog ids) id = if id ∈ ids then some false else lastAction E id :=
  lastAction_append_removes E ids id

theorem nAllocAt_rm (addr : Nat) (ids : List SlabID) : nAllocAt addr (rmLog ids) = 0 :=
  nAllocAt_eq_zero fun e he => by
    obtain ⟨i, _, rfl⟩ := List.mem_map.1 he
    exact Or.inr ⟨i, rfl⟩

end Atree.E2ED

namespace Atree.WE2E
open Atree St

variable {σ P β : Type}

/-- A container as the storage sees it: the slabs of its tree (`keys`: their identifiers), the owner
    address, and the stored form of a tree slab and of a large value. -/
structure CView (P σ : Type) where
  slabAt : SlabID → Option P
  addr : Nat
  keys : List SlabID
  tree : P → σ
  large : Elem → σ

/-- the slab that must be visible under `id` (`E2E.stored`, `E2EM.mstored`) -/
def CView.stored (V : CView P σ) (extra : SlabID → Option Elem) : SlabID → Option σ :=
  E2E.storedOf V.slabAt V.tree V.large extra

/-- The storage represents the container and the live large-value slabs `extra` (`E2E.Rep`,
    `E2EM.MRep`). -/
structure Holds (c : Codec σ β) (s : St σ β) (V : CView P σ) (extra : SlabID → Option Elem)
    (ctr : Nat) : Prop where
  view : ∀ id, id.addr = V.addr → s.view c id = V.stored extra id
  extra_fresh : ∀ id, (extra id).isSome → (V.slabAt id).isNone ∧ id.idx ≤ ctr

/-- What the model says of one request whose log is `E` and which created `C`, as far as the storage is
    concerned: the log is a complete account of the change of the tree (`EffectsComplete`), touches only
    old or fresh slabs, and the created large-value slabs and the allocations are accounted for. -/
structure StepAccount (V V' : CView P σ) (ctx ctx' : Ctx) (E : List Eff) (C : List (SlabID × Elem)) : Prop where
  log : Log ctx ctx' E C
  changed_stored : ∀ id, (V'.slabAt id).isSome → V'.slabAt id ≠ V.slabAt id → lastAction E id = some true
  gone_removed : ∀ id, (V.slabAt id).isSome → (V'.slabAt id).isNone → lastAction E id = some false
  stored_in_tree : ∀ id, lastAction E id = some true → (V'.slabAt id).isSome ∨ id ∈ C.map (·.1)
  removed_not_in_tree : ∀ id, lastAction E id = some false → (V'.slabAt id).isNone
  foot : ∀ id, lastAction E id ≠ none → (V.slabAt id).isSome ∨ ctx.ctr < id.idx
  new : ∀ id, (V'.slabAt id).isSome → (V.slabAt id).isSome ∨ ctx.ctr < id.idx
  keys : ∀ id, id ∉ V'.keys → (V'.slabAt id).isNone
  cr : CreatedOk V.addr ctx.ctr ctx'.ctr E (C.map (·.1)) V'.keys
  al : AllocCnt V.addr ctx ctx' E
  own : ∀ id, (V'.slabAt id).isSome → id.addr = V.addr
  addr : V'.addr = V.addr
  tree : V'.tree = V.tree
  large : V'.large = V.large

/-- The storage half of the history invariants `E2E.Good`, `E2EM.MGoodF`: the live large-value slabs are
    all that were created. -/
structure StoreGood (c : Codec σ β) (s : St σ β) (V : CView P σ) (ctx : Ctx) : Prop where
  rep : Holds c s V (AList.find? ctx.created) ctx.ctr
  st : Inv c s
  addr : V.addr ≠ 0
  sync : (AList.find? s.alloc V.addr).getD 0 = ctx.ctr
  caddr : ∀ p ∈ ctx.created, p.1.addr = V.addr
  pend : ∀ id v, AList.find? s.deltas id = some (some v) → id.addr = V.addr

theorem CView.stored_isSome (V : CView P σ) {created : List (SlabID × Elem)} {id : SlabID}
    (h : (V.slabAt id).isSome ∨ id ∈ created.map (·.1)) : (V.stored (AList.find? created) id).isSome := by
  unfold CView.stored E2E.storedOf
  cases hs : V.slabAt id with
  | some p => rfl
  | none =>
    have := E2E.find?_isSome_of_mem_keys (h.resolve_left (by rw [hs]; exact Bool.false_ne_true))
    cases hf : AList.find? created id with
    | none => rw [hf] at this; cases this
    | some v => rfl

/-- the live large-value slabs after a log, from the log alone (`E2E.extraStep`, `E2EM.extraStep`) -/
def extraStep (V' : CView P σ) (E : List Eff) (created : List (SlabID × Elem))
    (extra : SlabID → Option Elem) (id : SlabID) : Option Elem :=
  if (V'.slabAt id).isSome then none
  else
    match lastAction E id with
    | some true => AList.find? created id
    | some false => none
    | none => extra id

/-- the live large-value slabs when the container's elements refer to `R`: those among `R`
    (`E2ED.live`, `E2EMD.live`) -/
def liveOf (R : List SlabID) (created : List (SlabID × Elem)) (id : SlabID) : Option Elem :=
  if id ∈ R then AList.find? created id else none

/-! The live large-value slabs after a log.

With the footprint of the log (an event touches a slab of the old tree or a slab allocated during the
operation) and the fact that every created large-value slab is stored and stays stored, `extraStep` is
"the old ones plus the created ones". -/

/-- If the live slabs are those of `old` under the references `R`, which lie outside both trees and
    below the counter, the log touches only the old tree or fresh identifiers, and the created slabs `C`
    are stored and outside the new tree, then the live slabs afterwards are those under `R` and `C`. -/
theorem extraStep_liveOf {V V' : CView P σ} (E : List Eff) (old C : List (SlabID × Elem)) (ctr : Nat)
    (R : List SlabID)
    (hR : ∀ id ∈ R, (V.slabAt id).isNone ∧ id.idx ≤ ctr ∧ (AList.find? old id).isSome ∧ (V'.slabAt id).isNone)
    (hfoot : ∀ id, lastAction E id ≠ none → (V.slabAt id).isSome ∨ ctr < id.idx)
    (hstored : ∀ id, lastAction E id = some true → (V'.slabAt id).isSome ∨ id ∈ C.map (·.1))
    (hC : ∀ id ∈ C.map (·.1), lastAction E id = some true ∧ (V'.slabAt id).isNone) (id : SlabID) :
    extraStep V' E (old ++ C) (liveOf R old) id = liveOf (R ++ C.map (·.1)) (old ++ C) id := by
  unfold extraStep liveOf
  simp only [List.mem_append]
  by_cases hRin : id ∈ R
  · obtain ⟨h1, h2, h3, h4⟩ := hR id hRin
    have hla : lastAction E id = none := by
      apply Classical.byContradiction
      intro hne
      rcases hfoot id hne with h | h
      · exact not_isSome_of_isNone h1 h
      · exact Nat.not_lt.2 h2 h
    rw [if_neg (not_isSome_of_isNone h4), hla, if_pos (Or.inl hRin)]
    dsimp only
    rw [if_pos hRin, E2E.find?_append]
    cases hf : AList.find? old id with
    | none => rw [hf] at h3; cases h3
    | some w => rfl
  · by_cases hCin : id ∈ C.map (·.1)
    · obtain ⟨h1, h2⟩ := hC id hCin
      rw [if_neg (not_isSome_of_isNone h2), h1, if_pos (Or.inr hCin)]
    · rw [if_neg (show ¬ (id ∈ R ∨ id ∈ C.map (·.1)) from fun h => h.elim hRin hCin)]
      by_cases hns : (V'.slabAt id).isSome
      · rw [if_pos hns]
      · rw [if_neg hns]
        cases hl : lastAction E id with
        | none => exact if_neg hRin
        | some b =>
          cases b with
          | false => rfl
          | true => exact (hstored id hl).elim (fun h => absurd h hns) (fun h => absurd h hCin)

/-- `liveOf` under the keys of the list is the look-up -/
theorem liveOf_keys (l : List (SlabID × Elem)) (id : SlabID) : liveOf (l.map (·.1)) l id = AList.find? l id := by
  unfold liveOf
  by_cases h : id ∈ l.map (·.1)
  · rw [if_pos h]
  · rw [if_neg h, (AList.find?_eq_none_iff _ id).2 h]

/-- When every old large-value slab is live (outside the old tree, below the counter) and survives
    unless it is above the counter, the live slabs afterwards are the old and the created ones. -/
theorem extraStep_created {V V' : CView P σ} (E : List Eff) (old C : List (SlabID × Elem)) (ctr : Nat)
    (hold : ∀ id, (AList.find? old id).isSome → (V.slabAt id).isNone ∧ id.idx ≤ ctr)
    (hfoot : ∀ id, lastAction E id ≠ none → (V.slabAt id).isSome ∨ ctr < id.idx)
    (hstored : ∀ id, lastAction E id = some true → (V'.slabAt id).isSome ∨ id ∈ C.map (·.1))
    (hkeep : ∀ id, (V.slabAt id).isNone → ctr < id.idx ∨ (V'.slabAt id).isNone)
    (hC : ∀ id ∈ C.map (·.1), ctr < id.idx ∧ lastAction E id = some true ∧ (V'.slabAt id).isNone)
    (id : SlabID) :
    extraStep V' E (old ++ C) (AList.find? old) id = AList.find? (old ++ C) id := by
  have key := extraStep_liveOf (V := V) (V' := V') E old C ctr (old.map (·.1)) (fun j hj => ?_) hfoot hstored
    (fun j hj => (hC j hj).2) id
  · rw [← List.map_append, liveOf_keys, show liveOf (old.map (·.1)) old = AList.find? old from
      funext (liveOf_keys old)] at key
    exact key
  have hj' := E2E.find?_isSome_of_mem_keys hj
  obtain ⟨h1, h2⟩ := hold j hj'
  exact ⟨h1, h2, hj', (hkeep j h1).resolve_left (Nat.not_lt.2 h2)⟩

/-- Running a log that is a complete account of the change from `V` to `V'` keeps the representation,
    whatever the live large-value slabs `extra` are.  Stated for any list `created` and any counters, as
    `rep_step_gen` needs it; for a request with a `StepAccount`: `Holds.step_account`. -/
theorem Holds.step (c : Codec σ β) {s : St σ β} {V V' : CView P σ} {extra : SlabID → Option Elem}
    {ctr ctr' : Nat} {E : List Eff} {created : List (SlabID × Elem)} (hrep : Holds c s V extra ctr)
    (hcs : ∀ id, (V'.slabAt id).isSome → V'.slabAt id ≠ V.slabAt id → lastAction E id = some true)
    (hgr : ∀ id, (V.slabAt id).isSome → (V'.slabAt id).isNone → lastAction E id = some false)
    (hst : ∀ id, lastAction E id = some true → (V'.slabAt id).isSome ∨ id ∈ created.map (·.1))
    (hrm : ∀ id, lastAction E id = some false → (V'.slabAt id).isNone)
    (haddr : V'.addr = V.addr) (htree : V'.tree = V.tree) (hlarge : V'.large = V.large)
    (hne : V.addr ≠ 0) (hle : ctr ≤ ctr') (hcr : ∀ p ∈ created, p.1.idx ≤ ctr') :
    Holds c (applyEffs c s (V'.stored (AList.find? created)) E) V' (extraStep V' E created extra) ctr' := by
  have e : V'.stored = E2E.storedOf V'.slabAt V.tree V.large := by
    unfold CView.stored; rw [htree, hlarge]
  refine ⟨fun id hid => ?_, fun id hsome => ?_⟩
  · have hid0 : id.addr = V.addr := hid.trans haddr
    rw [e]
    exact E2E.view_step_of c s V.slabAt V'.slabAt _ _ extra _ E created id (E2E.ne_undef_of_addr hid0 hne)
      (hrep.view id hid0) (hcs id) (hgr id) (hst id) (hrm id)
      (fun h => by
        unfold extraStep
        rw [if_neg (not_isSome_of_isNone h)])
  · unfold extraStep at hsome
    split at hsome
    · cases hsome
    · rename_i hns
      refine ⟨isNone_of_not_isSome hns, ?_⟩
      split at hsome
      · cases hf : AList.find? created id with
        | none => rw [hf] at hsome; cases hsome
        | some v => exact hcr _ (E2E.mem_of_find?_some hf)
      · cases hsome
      · exact Nat.le_trans (hrep.extra_fresh id hsome).2 hle

section
variable {V V' : CView P σ} {ctx ctx' : Ctx} {E : List Eff} {C : List (SlabID × Elem)}

theorem StepAccount.created_eq (acc : StepAccount V V' ctx ctx' E C) : ctx'.created = ctx.created ++ C :=
  acc.log.created

/-- what was stored is a slab of the new tree or one of the large-value slabs created so far -/
theorem StepAccount.stored_in_created (acc : StepAccount V V' ctx ctx' E C) (id : SlabID)
    (h : lastAction E id = some true) : (V'.slabAt id).isSome ∨ id ∈ ctx'.created.map (·.1) :=
  (acc.stored_in_tree id h).imp (fun h => h) (fun h => by
    rw [acc.created_eq, List.map_append]; exact List.mem_append.2 (Or.inr h))

/-- the created large-value slabs stay below the counter -/
theorem StepAccount.created_le (acc : StepAccount V V' ctx ctx' E C)
    (hcle : ∀ p ∈ ctx.created, p.1.idx ≤ ctx.ctr) : ∀ p ∈ ctx'.created, p.1.idx ≤ ctx'.ctr := by
  intro p hp
  rw [acc.created_eq] at hp
  rcases List.mem_append.1 hp with h | h
  · exact Nat.le_trans (hcle p h) acc.log.ctr_le
  · exact acc.cr.le (List.mem_map_of_mem h)

/-- the created large-value slabs are owned by the container's address -/
theorem StepAccount.created_addr (acc : StepAccount V V' ctx ctx' E C)
    (hca : ∀ p ∈ ctx.created, p.1.addr = V.addr) : ∀ p ∈ ctx'.created, p.1.addr = V'.addr := by
  intro p hp
  rw [acc.addr]
  rw [acc.created_eq] at hp
  rcases List.mem_append.1 hp with h | h
  · exact hca p h
  · exact acc.cr.addr (List.mem_map_of_mem h)

/-- a created large-value slab is no slab of the new tree -/
theorem StepAccount.created_out (acc : StepAccount V V' ctx ctx' E C) {id : SlabID} (h : id ∈ C.map (·.1)) :
    (V'.slabAt id).isNone :=
  acc.keys id (acc.cr.not_key h)

/-- `Holds.step` for an accounted request, whatever the live large-value slabs `extra` are. -/
theorem Holds.step_account (c : Codec σ β) {s : St σ β} {extra : SlabID → Option Elem}
    (hrep : Holds c s V extra ctx.ctr) (hne : V.addr ≠ 0) (hcle : ∀ p ∈ ctx.created, p.1.idx ≤ ctx.ctr)
    (acc : StepAccount V V' ctx ctx' E C) :
    Holds c (applyEffs c s (V'.stored (AList.find? ctx'.created)) (E2E.newEffs ctx ctx')) V'
      (extraStep V' E ctx'.created extra) ctx'.ctr ∧ ∀ p ∈ ctx'.created, p.1.idx ≤ ctx'.ctr := by
  rw [E2E.newEffs_of_log acc.log]
  exact ⟨hrep.step c acc.changed_stored acc.gone_removed acc.stored_in_created acc.removed_not_in_tree
    acc.addr acc.tree acc.large hne acc.log.ctr_le (acc.created_le hcle), acc.created_le hcle⟩

end

/-- The account of a request that rewrites the root slab and nothing else (`SetType` on a standalone
    container): the log is the one store of the root. -/
theorem StepAccount.store_root {V V' : CView P σ} (ctx : Ctx) {root : SlabID}
    (hroot : (V.slabAt root).isSome)
    (hsame : ∀ id, id ≠ root → V'.slabAt id = V.slabAt id)
    (hsome : ∀ id, (V'.slabAt id).isSome = (V.slabAt id).isSome)
    (hkeys : ∀ id, id ∉ V'.keys → (V'.slabAt id).isNone)
    (hown : ∀ id, (V'.slabAt id).isSome → id.addr = V.addr)
    (haddr : V'.addr = V.addr) (htree : V'.tree = V.tree) (hlarge : V'.large = V.large) :
    StepAccount V V' ctx (ctx.emit (.store root)) [.store root] [] := by
  have hla : ∀ id, lastAction [Eff.store root] id = if root = id then some true else none := by
    intro id
    have := lastAction_concat_store [] root id
    simpa using this
  refine ⟨Log.store ctx root, ?_, ?_, ?_, ?_, ?_, fun id h => Or.inl (by rw [← hsome]; exact h), hkeys,
    CreatedOk.nil _ _ _ _ _, AllocCnt.store _ _ _, hown, haddr, htree, hlarge⟩
  · intro id _ hne
    rw [hla]
    by_cases h : root = id
    · rw [if_pos h]
    · exact absurd (hsame id (fun e => h e.symm)) hne
  · intro id h1 h2
    exact absurd ((hsome id).trans h1) (not_isSome_of_isNone h2)
  · intro id h
    rw [hla] at h
    split at h
    · rename_i he; subst he
      exact Or.inl ((hsome root).trans hroot)
    · cases h
  · intro id h
    rw [hla] at h
    split at h <;> cases h
  · intro id hne
    rw [hla] at hne
    split at hne
    · rename_i he; subst he
      exact Or.inl hroot
    · exact absurd rfl hne

/-- The account of `PopIterate` on a standalone container: the log removes the slabs of the old tree
    other than the root (`E0`: only such, and all of them) and then stores the root, which is all that
    is left; nothing is created or allocated.  The four clauses of the account are `pop_complete`. -/
theorem StepAccount.pop {V V' : CView P σ} {ctx ctx' : Ctx} {root : SlabID} {E0 : List Eff}
    (heff : ctx'.eff = ctx.eff ++ (E0 ++ [.store root])) (hcre : ctx'.created = ctx.created)
    (hctr : ctx'.ctr = ctx.ctr)
    (hE0 : ∀ e ∈ E0, ∃ i, e = Eff.remove i ∧ (V.slabAt i).isSome)
    (hall : ∀ id, (V.slabAt id).isSome → id ≠ root → Eff.remove id ∈ E0)
    (hroot : (V.slabAt root).isSome) (hV' : ∀ id, (V'.slabAt id).isSome ↔ id = root)
    (hkeys : ∀ id, id ∉ V'.keys → (V'.slabAt id).isNone)
    (hown : ∀ id, (V'.slabAt id).isSome → id.addr = V.addr)
    (haddr : V'.addr = V.addr) (htree : V'.tree = V.tree) (hlarge : V'.large = V.large) :
    StepAccount V V' ctx ctx' (E0 ++ [.store root]) [] := by
  have hrem : ∀ e ∈ E0, ∃ i, e = Eff.remove i := fun e he => by
    obtain ⟨j, rfl, _⟩ := hE0 e he; exact ⟨j, rfl⟩
  obtain ⟨⟨p1, p2, p3, p4⟩, _⟩ := pop_complete (K := V.slabAt) (K' := V'.slabAt) hrem hV' hall
  refine ⟨⟨heff, by rw [hcre, List.append_nil], Nat.le_of_eq hctr.symm, ?_⟩, p1, p2, p3, p4, ?_, ?_,
    hkeys, CreatedOk.nil _ _ _ _ _, ?_, hown, haddr, htree, hlarge⟩
  · intro addr id hm
    rcases List.mem_append.1 hm with h | h
    · obtain ⟨j, hj⟩ := hrem _ h; cases hj
    · simp at h
  · intro id hne
    left
    cases hl : lastAction (E0 ++ [.store root]) id with
    | none => exact absurd hl hne
    | some b =>
      cases b with
      | true => rw [((lastAction_pop hrem root id).1.1 hl)]; exact hroot
      | false =>
        obtain ⟨j, hje, hj⟩ := hE0 _ ((lastAction_pop hrem root id).2.1 hl).2
        cases hje
        exact hj
  · intro id hs
    rw [(hV' id).1 hs]
    exact Or.inl hroot
  · unfold AllocCnt
    rw [hctr]
    have : nAllocAt V.addr (E0 ++ [.store root]) = 0 := nAllocAt_eq_zero fun e he =>
      (List.mem_append.1 he).elim (fun h => Or.inr (hrem _ h)) fun h => Or.inl ⟨root, List.mem_singleton.1 h⟩
    omega

/-- the next identifier of the owner has no large-value slab yet -/
theorem find?_next_none {created : List (SlabID × Elem)} {ctr : Nat}
    (hle : ∀ p ∈ created, p.1.idx ≤ ctr) (addr : Nat) : AList.find? created ⟨addr, ctr + 1⟩ = none := by
  rw [AList.find?_eq_none_iff]
  intro hin
  obtain ⟨p, hp, hpe⟩ := List.mem_map.1 hin
  have := hle p hp
  rw [hpe] at this
  exact Nat.not_succ_le_self _ this

/-- the created large-value slabs are below the counter -/
theorem StoreGood.created_le {c : Codec σ β} {s : St σ β} {V : CView P σ} {ctx : Ctx}
    (hg : StoreGood c s V ctx) : ∀ p ∈ ctx.created, p.1.idx ≤ ctx.ctr := fun p hp =>
  (hg.rep.extra_fresh p.1 (E2E.find?_isSome_of_mem_keys (List.mem_map_of_mem hp))).2

/-- An accounted request keeps the storage half: the representation by `Holds.step_account`, the live
    large-value slabs being the old ones and the created ones (`extraStep_created`). -/
theorem StoreGood.step (c : Codec σ β) (hc : RoundTrip c) {s : St σ β} {V V' : CView P σ} {ctx ctx' : Ctx}
    {E : List Eff} {C : List (SlabID × Elem)} (hg : StoreGood c s V ctx) (acc : StepAccount V V' ctx ctx' E C) :
    StoreGood c (applyEffs c s (V'.stored (AList.find? ctx'.created)) (E2E.newEffs ctx ctx')) V' ctx' := by
  obtain ⟨hrep, _⟩ := hg.rep.step_account c hg.addr hg.created_le acc
  have hlive : extraStep V' E ctx'.created (AList.find? ctx.created) = AList.find? ctx'.created := by
    rw [acc.created_eq]
    exact funext (extraStep_created (V := V) E ctx.created C ctx.ctr hg.rep.extra_fresh
      acc.foot acc.stored_in_tree
      (fun id hn => by
        by_cases h : (V'.slabAt id).isSome
        · exact (acc.new id h).elim (fun h1 => absurd h1 (not_isSome_of_isNone hn)) Or.inl
        · exact Or.inr (isNone_of_not_isSome h))
      (fun id hid => ⟨acc.cr.fresh hid, acc.cr.stored hid, acc.created_out hid⟩))
  rw [hlive] at hrep
  refine ⟨hrep, ?_, acc.addr ▸ hg.addr, ?_, acc.created_addr hg.caddr, ?_⟩
  all_goals rw [E2E.newEffs_of_log acc.log]
  · exact applyEffs_inv c hc s _ _ hg.st
  · rw [acc.addr, applyEffs_alloc c s _ _ V.addr hg.addr, hg.sync, show ctx'.ctr = _ from acc.al]
    exact congrArg (ctx.ctr + ·) (E2E.allocCount_eq V.addr E)
  · intro id v hv
    rw [acc.addr]
    by_cases hu : id = SlabID.undef
    · subst hu
      rw [find?_deltas_applyEffs_undef] at hv
      exact hg.pend _ v hv
    · rw [find?_deltas_applyEffs c s _ E id hu (fun h => V'.stored_isSome (acc.stored_in_created id h))] at hv
      cases hl : lastAction E id with
      | none => rw [hl] at hv; exact hg.pend id v hv
      | some b =>
        rw [hl] at hv
        cases b with
        | false => cases hv
        | true =>
          rcases acc.stored_in_tree id hl with h | h
          · exact acc.own id h
          · exact acc.cr.addr h

/-- The creation of a container whose only slab is its root `⟨addr, 1⟩` is an accounted request on
    the container without slabs (`V0`) at the initial context: the log is the allocation and the store
    of the root. -/
theorem StepAccount.create {V0 V : CView P σ} (h0 : ∀ id, V0.slabAt id = none)
    (hroot : (V.slabAt ⟨V.addr, 1⟩).isSome) (honly : ∀ id, (V.slabAt id).isSome → id = ⟨V.addr, 1⟩)
    (hkeys : ∀ id, id ∉ V.keys → (V.slabAt id).isNone)
    (haddr : V.addr = V0.addr) (htree : V.tree = V0.tree) (hlarge : V.large = V0.large) :
    StepAccount V0 V ⟨0, [], []⟩ ⟨1, [.alloc V.addr ⟨V.addr, 1⟩, .store ⟨V.addr, 1⟩], []⟩
      [.alloc V.addr ⟨V.addr, 1⟩, .store ⟨V.addr, 1⟩] [] := by
  have hla : ∀ id, lastAction [Eff.alloc V.addr ⟨V.addr, 1⟩, .store ⟨V.addr, 1⟩] id =
      if (⟨V.addr, 1⟩ : SlabID) = id then some true else none := fun id =>
    lastAction_concat_store [Eff.alloc V.addr ⟨V.addr, 1⟩] ⟨V.addr, 1⟩ id
  have hst : ∀ id, lastAction [Eff.alloc V.addr ⟨V.addr, 1⟩, .store ⟨V.addr, 1⟩] id ≠ none →
      id = ⟨V.addr, 1⟩ := fun id h => by
    rw [hla] at h
    split at h
    · rename_i he; exact he.symm
    · exact absurd rfl h
  refine ⟨⟨rfl, rfl, Nat.zero_le 1, fun a id h => ?_⟩, fun id h _ => ?_, fun id h => ?_, fun id h => ?_,
    fun id h => ?_, fun id h => ?_, fun id h => ?_, hkeys, CreatedOk.nil _ _ _ _ _, ?_,
    fun id h => by rw [honly id h, haddr], haddr, htree, hlarge⟩
  · simp only [List.mem_cons, Eff.alloc.injEq, reduceCtorEq, List.not_mem_nil, or_false] at h
    rw [h.2]; exact ⟨Nat.zero_lt_one, Nat.le_refl 1⟩
  · rw [honly id h, hla, if_pos rfl]
  · rw [h0] at h; cases h
  · rw [hst id (by rw [h]; exact fun e => nomatch e)]; exact Or.inl hroot
  · rw [hla] at h; split at h <;> cases h
  · rw [hst id h]; exact Or.inr Nat.zero_lt_one
  · rw [honly id h]; exact Or.inr Nat.zero_lt_one
  · simp [AllocCnt, nAllocAt, isAllocAt, haddr]

/-- the empty storage holds the container without slabs -/
theorem StoreGood.init (c : Codec σ β) {V0 : CView P σ} (h0 : ∀ id, V0.slabAt id = none) (hne : V0.addr ≠ 0) :
    StoreGood c (St.init : St σ β) V0 ⟨0, [], []⟩ :=
  ⟨⟨fun id _ => by simp [St.view, St.init, St.fresh, CView.stored, E2E.storedOf, h0, AList.find?],
      fun id h => (nomatch h)⟩,
    inv_init c, hne, rfl, fun _ h => (nomatch h), fun id v h => (nomatch h)⟩

/-- The storage after the creation of a container whose only slab is its root `⟨addr, 1⟩`, on the empty
    storage: `StoreGood.step` from `StoreGood.init` along `StepAccount.create`. -/
theorem StoreGood.new (c : Codec σ β) (hc : RoundTrip c) {V : CView P σ} (hne : V.addr ≠ 0)
    (hroot : (V.slabAt ⟨V.addr, 1⟩).isSome) (honly : ∀ id, (V.slabAt id).isSome → id = ⟨V.addr, 1⟩)
    (hkeys : ∀ id, id ∉ V.keys → (V.slabAt id).isNone) :
    StoreGood c (applyEffs c St.init (V.stored (AList.find? []))
      [.alloc V.addr ⟨V.addr, 1⟩, .store ⟨V.addr, 1⟩]) V
      ⟨1, [.alloc V.addr ⟨V.addr, 1⟩, .store ⟨V.addr, 1⟩], []⟩ :=
  (StoreGood.init c (V0 := { V with slabAt := fun _ => none }) (fun _ => rfl) hne).step c hc
    (StepAccount.create (fun _ => rfl) hroot honly hkeys rfl rfl rfl)

/-- removes appended to a log: what is removed is no longer live, the rest as after the log -/
theorem extraStep_rm (V' : CView P σ) (E : List Eff) (created : List (SlabID × Elem))
    (extra : SlabID → Option Elem) (ids : List SlabID) (id : SlabID) :
    extraStep V' (E ++ E2ED.rmLog ids) created extra id =
      if id ∈ ids then none else extraStep V' E created extra id := by
  unfold extraStep
  rw [E2ED.lastAction_rm]
  by_cases h : id ∈ ids
  · rw [if_pos h, if_pos h]; split <;> rfl
  · rw [if_neg h, if_neg h]

/-- `Holds.step_account` for a log followed by the removal of identifiers outside the new tree: the four
    clauses of the account hold of the longer log as well. -/
theorem Holds.step_rm (c : Codec σ β) {s : St σ β} {V V' : CView P σ} {extra : SlabID → Option Elem}
    {ctx ctx' : Ctx} {E : List Eff} {C : List (SlabID × Elem)} (hrep : Holds c s V extra ctx.ctr)
    (hne : V.addr ≠ 0) (hcle : ∀ p ∈ ctx.created, p.1.idx ≤ ctx.ctr) (acc : StepAccount V V' ctx ctx' E C)
    {ids : List SlabID} (hids : ∀ id ∈ ids, (V'.slabAt id).isNone) :
    Holds c (applyEffs c s (V'.stored (AList.find? ctx'.created)) (E ++ E2ED.rmLog ids)) V'
      (fun id => if id ∈ ids then none else extraStep V' E ctx'.created extra id) ctx'.ctr := by
  have h := hrep.step c (V' := V') (E := E ++ E2ED.rmLog ids) (created := ctx'.created)
    (fun id h1 h2 => by
      rw [E2ED.lastAction_rm]
      split
      · rename_i hin; exact absurd h1 (not_isSome_of_isNone (hids id hin))
      · exact acc.changed_stored id h1 h2)
    (fun id h1 h2 => by
      rw [E2ED.lastAction_rm]
      split
      · rfl
      · exact acc.gone_removed id h1 h2)
    (fun id h1 => by
      rw [E2ED.lastAction_rm] at h1
      split at h1
      · cases h1
      · exact acc.stored_in_created id h1)
    (fun id h1 => by
      rw [E2ED.lastAction_rm] at h1
      split at h1
      · rename_i hin; exact hids id hin
      · exact acc.removed_not_in_tree id h1)
    acc.addr acc.tree acc.large hne acc.log.ctr_le (acc.created_le hcle)
  rw [show extraStep V' (E ++ E2ED.rmLog ids) ctx'.created extra =
      fun id => if id ∈ ids then none else extraStep V' E ctx'.created extra id from
    funext (extraStep_rm V' E ctx'.created extra ids)] at h
  exact h

/-- the representation only depends on the view of the owner's identifiers -/
theorem Holds.of_view {c : Codec σ β} {s s' : St σ β} {V : CView P σ} {extra : SlabID → Option Elem}
    {ctr : Nat} (h : Holds c s V extra ctr) (hv : ∀ id, id.addr = V.addr → s'.view c id = s.view c id) :
    Holds c s' V extra ctr :=
  ⟨fun id hid => (hv id hid).trans (h.view id hid), h.extra_fresh⟩

/-- An accounted request followed by the disposal of `ids` keeps the exact representation: the
    references `R` (outside the old tree, allocated, resolving) become `R'` (outside the new tree), what
    is created is referred to, what is disposed of is referred to no longer and is no slab of the new
    tree, and nothing else changes hands. -/
theorem Holds.step_live (c : Codec σ β) {s : St σ β} {V V' : CView P σ} {ctx ctx' : Ctx}
    {E : List Eff} {C : List (SlabID × Elem)} {R R' ids : List SlabID}
    (hrep : Holds c s V (liveOf R ctx.created) ctx.ctr) (hne : V.addr ≠ 0)
    (hcle : ∀ p ∈ ctx.created, p.1.idx ≤ ctx.ctr)
    (hres : ∀ id ∈ R, (AList.find? ctx.created id).isSome)
    (acc : StepAccount V V' ctx ctx' E C)
    (hR : ∀ id ∈ R, (V.slabAt id).isNone ∧ id.idx ≤ ctx.ctr)
    (hR' : ∀ id ∈ R', (V'.slabAt id).isNone)
    (hCr : ∀ id ∈ C.map (·.1), id ∈ R')
    (hhand : ∀ id ∈ ids, id ∉ R' ∧ (V'.slabAt id).isNone)
    (hold : ∀ id ∈ R, id ∈ ids ∨ id ∈ R') (hnewr : ∀ id ∈ R', id ∈ R ∨ id ∈ C.map (·.1)) :
    Holds c (applyEffs c s (V'.stored (AList.find? ctx'.created)) (E ++ E2ED.rmLog ids)) V'
      (liveOf R' ctx'.created) ctx'.ctr ∧
    (∀ p ∈ ctx'.created, p.1.idx ≤ ctx'.ctr) ∧
    (∀ id ∈ R', (AList.find? ctx'.created id).isSome) := by
  have hcre : ctx'.created = ctx.created ++ C := acc.created_eq
  have hcle' := acc.created_le hcle
  have hR'out : ∀ id ∈ R, (V'.slabAt id).isNone := fun id hid =>
    (hold id hid).elim (fun h => (hhand id h).2) (hR' id)
  have h := hrep.step_rm c hne hcle acc (fun id hid => (hhand id hid).2)
  have hlive : (fun id => if id ∈ ids then none
      else extraStep V' E ctx'.created (liveOf R ctx.created) id) = liveOf R' ctx'.created := by
    funext id
    have key := extraStep_liveOf (V := V) (V' := V') E ctx.created C ctx.ctr R
      (fun j hj => ⟨(hR j hj).1, (hR j hj).2, hres j hj, hR'out j hj⟩) acc.foot acc.stored_in_tree
      (fun j hj => ⟨acc.cr.stored hj, acc.created_out hj⟩) id
    rw [hcre]
    by_cases hin : id ∈ ids
    · rw [if_pos hin, liveOf, if_neg (hhand id hin).1]
    · rw [if_neg hin, key]
      unfold liveOf
      by_cases hr : id ∈ R'
      · rw [if_pos hr, if_pos (List.mem_append.2 (hnewr id hr))]
      · rw [if_neg hr, if_neg]
        intro h
        rcases List.mem_append.1 h with h | h
        · exact (hold id h).elim hin hr
        · exact hr (hCr id h)
  rw [hlive] at h
  refine ⟨h, hcle', fun id hin => ?_⟩
  rw [hcre, E2E.find?_append]
  rcases hnewr id hin with h | h
  · have := hres id h
    cases hf : AList.find? ctx.created id with
    | none => rw [hf] at this; cases this
    | some v => rfl
  · cases hf : AList.find? ctx.created id with
    | some v => rfl
    | none => exact E2E.find?_isSome_of_mem_keys h

/-- a live large-value slab is what the storage shows under its identifier -/
theorem Holds.view_extra {c : Codec σ β} {s : St σ β} {V : CView P σ} {extra : SlabID → Option Elem}
    {ctr : Nat} (h : Holds c s V extra ctr) {id : SlabID} {w : Elem} (he : extra id = some w)
    (ha : id.addr = V.addr) : s.view c id = some (V.large w) := by
  have hnone := (h.extra_fresh id (by rw [he]; rfl)).1
  rw [h.view id ha, CView.stored, E2E.storedOf]
  cases hs : V.slabAt id with
  | some q => rw [hs] at hnone; cases hnone
  | none => rw [he]; rfl

/-- What a complete commit files under an identifier of the owner (`target`), from a storage without
    ledger and cache, read by `D`: the slab that must be visible there, if `D` undoes the encoder on
    the container's slabs. -/
theorem Holds.target_read {c : Codec σ β} {s : St σ β} {V : CView P σ} {extra : SlabID → Option Elem}
    {ctr : Nat} (hrep : Holds c s V extra ctr) (hne : V.addr ≠ 0) (hbase : s.base = []) (hcache : s.cache = [])
    (D : SlabID → β → Option σ)
    (hD : ∀ id v, V.stored extra id = some v → ∃ b, c.enc v = some b ∧ D id b = some v)
    {id : SlabID} (hid : id.addr = V.addr) : (target c s id).bind (D id) = V.stored extra id := by
  have hnt : id.isTemp = false := E2E.isTemp_of_addr hid hne
  have hview := hrep.view id hid
  unfold target
  cases hd : AList.find? s.deltas id with
  | none =>
    have hv0 : s.view c id = none := by simp [St.view, hd, hbase, hcache]
    simp only [hbase]
    exact hv0.symm.trans hview
  | some ov =>
    cases ov with
    | none =>
      simp only [hnt]
      rw [← hview, view_of_deltas c s id none hd]
      rfl
    | some v =>
      simp only [hnt]
      have hv : V.stored extra id = some v := by rw [← hview, view_of_deltas c s id (some v) hd]
      obtain ⟨b, hb, hdb⟩ := hD id v hv
      rw [hv]
      simp only [Bool.false_eq_true, if_false, hb, Option.bind_some]
      exact hdb

/-- any commit attempt (with any faults) keeps the representation and the invariants -/
theorem Holds.commit_attempt (c : Codec σ β) (hc : RoundTrip c) {s : St σ β} {V : CView P σ}
    {extra : SlabID → Option Elem} {ctr : Nat} (hrep : Holds c s V extra ctr) (hI : Inv c s)
    (kind : CommitKind) (fault : Nat → Bool) (mo dlo : List SlabID) :
    Holds c (commitW c kind fault mo dlo s).st V extra ctr ∧ Inv c (commitW c kind fault mo dlo s).st ∧
    Adv c s (commitW c kind fault mo dlo s).st ∧
    (commitW c kind fault mo dlo s).st.alloc = s.alloc := by
  obtain ⟨h1, h2, _⟩ := commitW_spec c hc kind fault mo dlo s hI
  exact ⟨hrep.of_view (fun id _ => h2.view id), h1, h2, (commitW_alloc c kind fault mo dlo s).1⟩

/-- a storage reopened over the ledger of a completely committed state represents the container -/
theorem Holds.reopen {c : Codec σ β} {s s' : St σ β} {V : CView P σ} {extra : SlabID → Option Elem}
    {ctr : Nat} (hrep : Holds c s V extra ctr) (hne : V.addr ≠ 0) (hI' : Inv c s') (hadv : Adv c s s')
    (hall : ∀ id, id.isTemp = false → AList.find? s'.deltas id = none)
    (base : AList SlabID β) (hbase : base = s'.base) (alloc : AList Nat Nat) :
    Holds c (St.fresh base alloc : St σ β) V extra ctr ∧ Inv c (St.fresh base alloc : St σ β) := by
  subst hbase
  refine ⟨hrep.of_view fun id hid => ?_, inv_reopen c s' hI' alloc⟩
  rw [view_fresh]
  exact hadv.committed_eq_view hI' hall id (E2E.isTemp_of_addr hid hne)

/-- Actions on the storage alone (commit attempts, maintenance, fetches, reopening after a complete
    commit) keep the storage half if they keep the invariant, the view of permanent identifiers and
    the allocation counters, and add no pending store. -/
theorem StoreGood.frame {c : Codec σ β} {s s' : St σ β} {V : CView P σ} {ctx : Ctx}
    (hg : StoreGood c s V ctx) (hinv : Inv c s')
    (hview : ∀ id, id.isTemp = false → s'.view c id = s.view c id) (halloc : s'.alloc = s.alloc)
    (hpend : ∀ id v, AList.find? s'.deltas id = some (some v) → AList.find? s.deltas id = some (some v)) :
    StoreGood c s' V ctx :=
  ⟨hg.rep.of_view fun id hid => hview id (E2E.isTemp_of_addr hid hg.addr), hinv, hg.addr,
    halloc ▸ hg.sync, hg.caddr, fun id v hv => hg.pend id v (hpend id v hv)⟩

/-- the pending slabs of the storage half are slabs of the container: they can be encoded if those
    can -/
theorem StoreGood.noEncodeFailure {c : Codec σ β} {s : St σ β} {V : CView P σ} {ctx : Ctx}
    (hg : StoreGood c s V ctx)
    (he : ∀ id v, V.stored (AList.find? ctx.created) id = some v → (c.enc v).isSome) :
    NoEncodeFailure c s := by
  intro id v hv
  have hview := view_of_deltas c s id (some v) hv
  rw [hg.rep.view id (hg.pend id v hv)] at hview
  exact he id v hview

/-- any commit attempt keeps the storage half: a commit attempt flushes pending stores or leaves
    them (`Adv.pending`) -/
theorem StoreGood.commit_attempt (c : Codec σ β) (hc : RoundTrip c) {s : St σ β} {V : CView P σ}
    {ctx : Ctx} (hg : StoreGood c s V ctx) (kind : CommitKind) (fault : Nat → Bool)
    (mo dlo : List SlabID) :
    StoreGood c (commitW c kind fault mo dlo s).st V ctx ∧ Adv c s (commitW c kind fault mo dlo s).st := by
  obtain ⟨h1, h2, _⟩ := commitW_spec c hc kind fault mo dlo s hg.st
  refine ⟨hg.frame h1 (fun id _ => h2.view id) (commitW_alloc c kind fault mo dlo s).1 (fun id v hv => ?_), h2⟩
  rcases h2.pending id with h | ⟨h, _, _⟩
  · exact h ▸ hv
  · rw [h] at hv; cases hv

end Atree.WE2E

import AtreeProofs.Array.EffectsTop
/-
  Large-value slabs (`StorableSlab`) created by an array operation: each of them is stored, is
  never removed or overwritten afterwards within the operation, and is not a slab of the new tree
  ("no dangling reference to a large value", complement of C09 `EffectsComplete`).
  `Value.Storable` at the leaf is the only step that creates such a slab; everything after it has
  the account `arr_insert_macct` / `arr_set_macct` (nothing created, allocations counted), which
  only touches slabs of the tree it starts from or slabs it allocates itself
  (`created_then_acct`, for any slab type: maps use it too).  `Remove` creates nothing
  (`arr_remove_sum`, `E2E/Served.lean`); `PopIterate` creates and allocates nothing, whatever the tree.
-/
namespace Atree
open Gen ATree MetaSlab
variable {T d : Nat}

/-- the created slabs `C` are stored at the end of `E`, fresh w.r.t. `c`, allocated up to `c1`,
    and outside `K` (the IDs of the resulting tree) -/
def CreatedOk (addr c c1 : Nat) (E : List Eff) (C : List SlabID) (K : List SlabID) : Prop :=
  ∀ x ∈ C, lastAction E x = some true ∧ x ∉ K ∧ c < x.idx ∧ x.idx ≤ c1 ∧ x.addr = addr

theorem CreatedOk.nil (addr c c1 : Nat) (E : List Eff) (K : List SlabID) :
    CreatedOk addr c c1 E [] K := by
  intro x hx; cases hx

theorem CreatedOk.stored {addr c c1 : Nat} {E : List Eff} {C K : List SlabID}
    (h : CreatedOk addr c c1 E C K) {x : SlabID} (hx : x ∈ C) : lastAction E x = some true := (h x hx).1

theorem CreatedOk.not_key {addr c c1 : Nat} {E : List Eff} {C K : List SlabID}
    (h : CreatedOk addr c c1 E C K) {x : SlabID} (hx : x ∈ C) : x ∉ K := (h x hx).2.1

theorem CreatedOk.fresh {addr c c1 : Nat} {E : List Eff} {C K : List SlabID}
    (h : CreatedOk addr c c1 E C K) {x : SlabID} (hx : x ∈ C) : c < x.idx := (h x hx).2.2.1

theorem CreatedOk.le {addr c c1 : Nat} {E : List Eff} {C K : List SlabID}
    (h : CreatedOk addr c c1 E C K) {x : SlabID} (hx : x ∈ C) : x.idx ≤ c1 := (h x hx).2.2.2.1

theorem CreatedOk.addr {addr c c1 : Nat} {E : List Eff} {C K : List SlabID}
    (h : CreatedOk addr c c1 E C K) {x : SlabID} (hx : x ∈ C) : x.addr = addr := (h x hx).2.2.2.2

theorem Log.unique {c c' : Ctx} {E E' : List Eff} {C C' : List (SlabID × Elem)}
    (h : Log c c' E C) (h' : Log c c' E' C') : E = E' ∧ C = C' := by
  refine ⟨List.append_cancel_left (h.eff.symm.trans h'.eff), ?_⟩
  exact List.append_cancel_left (h.created.symm.trans h'.created)

/-- the large-value slab (if any) that `Value.Storable` creates for `v` -/
def crOf (T addr : Nat) (v : Elem) (c : Ctx) : List (SlabID × Elem) :=
  (toStorable T addr v c).2.created.drop c.created.length

/-- `Value.Storable` first, then a stretch that creates nothing and has a complete account: one log
    for both, with the account of the tree, and the created slab is stored, untouched by the rest,
    and not a slab afterwards -/
theorem created_then_acct {β : Type} {a : Nat} {c c1 c' : Ctx} {E' : List Eff} {S S' : List (SlabID × β)}
    (hv : ValStep a c c1) (hlog' : MLog a c1 c' E' []) (hacct' : MAcct a c1.ctr c'.ctr S S' E' [])
    (hal' : AllocCnt a c1 c' E') (hold : ∀ id ∈ AList.keys S, Old a c.ctr id) :
    ∃ Ev C, c1.created = c.created ++ C ∧ MLog a c c' (Ev ++ E') C ∧
      MAcct a c.ctr c'.ctr S S' (Ev ++ E') (C.map (·.1)) ∧
      CreatedOk a c.ctr c'.ctr (Ev ++ E') (C.map (·.1)) (AList.keys S') ∧ AllocCnt a c c' (Ev ++ E') := by
  obtain ⟨Ev, Cv, hlogv, halv, haccv, hcv⟩ := hv.created_acct
  refine ⟨Ev, Cv, hlogv.created, by simpa using hlogv.trans hlog',
    by simpa using (haccv β S).trans hacct' hold, ?_, halv.trans hal'⟩
  intro x hx
  obtain ⟨h1, h2, h3⟩ := hcv x hx
  have hnS : x ∉ AList.keys S := by
    intro hin
    have := hold x hin (by rw [h2])
    rw [h2] at this
    simp only at this
    omega
  have hnF : ¬ Fresh a c1.ctr c'.ctr x := by
    intro hf
    have := hf.2.1
    rw [h2, h3] at this
    simp only at this
    omega
  have hla : lastAction E' x = none := by
    apply Classical.byContradiction
    intro hne
    rcases hacct'.foot x hne with h | h
    · exact hnS h
    · exact hnF h
  refine ⟨by rw [lastAction_append_none hla]; exact h1, ?_, by rw [h2]; simp, ?_, by rw [h2]⟩
  · intro hin
    rcases hacct'.keys_new x hin with h | h
    · exact hnS h
    · exact hnF h
  · have := hacct'.le
    rw [h2]
    simp only
    omega

/-- `Value.Storable` at the leaf, then the tree operation proper with its account: one log with the
    account of the tree, the facts about the created slab, the allocation count, and what was created -/
theorem created_of_macct {addr : Nat} {v : Elem} {c c' : Ctx} {S S' : List (SlabID × ASlab)} {E' : List Eff}
    (hlog' : PLog addr (toStorable T addr v c).2 c' E')
    (hacct' : MAcct addr (toStorable T addr v c).2.ctr c'.ctr S S' E' [])
    (hold : ∀ id ∈ AList.keys S, Old addr c.ctr id) :
    ∃ E C, Log c c' E C ∧ Acct c.ctr S S' E (C.map (·.1)) ∧
      CreatedOk addr c.ctr c'.ctr E (C.map (·.1)) (AList.keys S') ∧
      AllocCnt addr c c' E ∧ C = crOf T addr v c := by
  obtain ⟨Ev, C, hC, g1, g2, g3, g4⟩ :=
    created_then_acct (toStorable_valStep T addr v c) hlog'.toMLog hacct' hlog'.cnt hold
  exact ⟨_, _, g1.toLog, g2.toAcct, g3, g4, by unfold crOf; rw [hC, List.drop_left]⟩

theorem arr_insert_created (hT : legalThreshold T = true) (a : Arr) (c : Ctx) (i : Nat) (v : Elem)
    (hv : ValueOk v) (h : ArrInv T a c.ctr) (a' : Arr) (c' : Ctx)
    (hr : a.insert T i v c = .ok (a', c')) :
    ∃ E C, Log c c' E C ∧ CreatedOk a.addr c.ctr c'.ctr E (C.map (·.1)) (slabIds a'.d a'.root) ∧
      AllocCnt a.addr c c' E ∧ C = crOf T a.addr v c := by
  obtain ⟨E', hlog', hacct'⟩ := arr_insert_macct hT a c i v (.of_valueOk hv) h a' c' hr
  obtain ⟨E, C, g1, _, g3, g4, g5⟩ := created_of_macct hlog' hacct' (h.ids.keys_old (Nat.le_refl _)).2
  exact ⟨E, C, g1, keys_slabs _ _ ▸ g3, g4, g5⟩

theorem arr_set_created (hT : legalThreshold T = true) (a : Arr) (c : Ctx) (i : Nat) (v : Elem)
    (hv : ValueOk v) (h : ArrInv T a c.ctr) (old : Elem) (a' : Arr) (c' : Ctx)
    (hr : a.set T i v c = .ok (old, a', c')) :
    ∃ E C, Log c c' E C ∧ CreatedOk a.addr c.ctr c'.ctr E (C.map (·.1)) (slabIds a'.d a'.root) ∧
      AllocCnt a.addr c c' E ∧ C = crOf T a.addr v c := by
  obtain ⟨E', hlog', hacct'⟩ := arr_set_macct hT a c i v (.of_valueOk hv) h old a' c' hr
  obtain ⟨E, C, g1, _, g3, g4, g5⟩ := created_of_macct hlog' hacct' (h.ids.keys_old (Nat.le_refl _)).2
  exact ⟨E, C, g1, keys_slabs _ _ ▸ g3, g4, g5⟩

/-- `PopIterate` creates no large-value slab and allocates nothing (`popIterate_after`) -/
theorem arr_popIterate_ctx (a : Arr) (c : Ctx) :
    (a.popIterate c).2.2.created = c.created ∧ (a.popIterate c).2.2.ctr = c.ctr := by
  obtain ⟨E, h, -⟩ := popIterate_after a.d a.root c
  unfold Arr.popIterate
  simp only
  split <;> simp [h, Ctx.emit]

end Atree

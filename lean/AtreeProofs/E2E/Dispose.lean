import AtreeProofs.Array.Refs
import AtreeProofs.E2E.History
/-
  Histories with disposal.  Disposal is the effect log `rmLog ids` of removes (`dispose_eq`); `GoodD` is
  the array invariant, `ARefsOk` (`WE2E.RefsAt` at the array's view: `refsAt_iff`) and the exact
  representation (`WE2E.Holds` with `liveOf`; `E2ED.live` unfolds to `liveOf` of the array's references),
  so an operation with an account followed by disposal keeps it (`goodD_step`, from
  `WE2E.Holds.step_refs`).  A served request replaces the references of the replaced segment by that of
  the value written (`splice_perm`), hence every request followed by disposal keeps `GoodD`
  (`Served.goodD`, `goodD_stepD`, `goodD_runD`) and follows the `List` semantics.
-/
namespace Atree.E2ED
open Atree Gen E2E St

variable {β : Type}

theorem dispose_eq (c : Codec SSlab β) (s : St SSlab β) (content : SlabID → Option SSlab)
    (ids : List SlabID) : dispose c s ids = applyEffs c s content (rmLog ids) := by
  unfold dispose applyEffs effOps rmLog
  congr 1
  induction ids with
  | nil => rfl
  | cons x xs ih => simp [effOp, ih]

theorem refsAt_iff {a : Arr} {ctr : Nat} : WE2E.RefsAt a.cview a.refIds ctr ↔ ARefsOk a ctr :=
  ⟨fun h => ⟨h.nodup, fun id hid => (slabAt_isNone a id).1 (h.out id hid), h.alloc⟩,
   fun h => ⟨h.nodup, fun id hid => (slabAt_isNone a id).2 (h.not_tree id hid), h.alloc⟩⟩

/-- An operation with an account (`StepSum`), followed by the disposal of `ids`, keeps `GoodD` if, up to
    order, the references were `G` (those in `ids`) and `K` and are now those of the created slabs and
    `K` (`WE2E.Holds.step_refs` at the array's view). -/
theorem goodD_step (c : Codec SSlab β) (hc : RoundTrip c) (T : Nat) (a : Arr) (ctx : Ctx)
    (s : St SSlab β) (a' : Arr) (ctx' : Ctx) (E : List Eff) (C : List (SlabID × Elem))
    (ids G K : List SlabID)
    (hg : GoodD c T ((a, ctx), s)) (sum : StepSum T a ctx a' ctx' E C)
    (old : a.refIds.Perm (G ++ K)) (new : a'.refIds.Perm (C.map (·.1) ++ K)) (hC : (C.map (·.1)).Nodup)
    (hids : ∀ id, id ∈ ids ↔ id ∈ G) :
    GoodD c T ((a', ctx'),
      dispose c (applyEffs c s (contentOf (a', ctx')) (newEffs ctx ctx')) ids) := by
  obtain ⟨hrep, hcle', hres', hR'⟩ := (rep_iff_holds.1 hg.rep).step_refs c hg.addr hg.cle hg.res
    sum.account (refsAt_iff.2 hg.refsR) old new hC hids
  rw [stored_cview, ← applyEffs_eq] at hrep
  have hstate : dispose c (applyEffs c s (contentOf (a', ctx')) (newEffs ctx ctx')) ids
      = applyEffs c s (stored a' (AList.find? ctx'.created)) (E ++ rmLog ids) := by
    rw [dispose_eq c _ (contentOf (a', ctx')), newEffs_of_log sum.log, applyEffs_append]
    rfl
  rw [hstate]
  refine ⟨sum.inv_after, refsAt_iff.1 hR', rep_iff_holds.2 hrep, applyEffs_inv c hc s _ _ hg.st,
    by show a'.addr ≠ 0; rw [sum.addr]; exact hg.addr, ?_, sum.account.created_addr hg.caddr, hcle', hres'⟩
  show (AList.find? _ a'.addr).getD 0 = ctx'.ctr
  rw [sum.addr, applyEffs_alloc c s _ _ a.addr hg.addr, allocCount_eq, nAllocAt_append, nAllocAt_rm,
    show ctx'.ctr = _ from sum.account.al, Nat.add_zero]
  exact congrArg (· + _) hg.sync

/-- a rejected request: nothing changes, nothing is handed back -/
theorem goodD_unchanged (c : Codec SSlab β) (T : Nat) (x : (Arr × Ctx) × St SSlab β)
    (hg : GoodD c T x) :
    GoodD c T (x.1, dispose c (applyEffs c x.2 (contentOf x.1) (newEffs x.1.2 x.1.2)) []) := by
  rw [newEffs_self, applyEffs_nil]
  exact hg

theorem resolves_iff (st : Arr × Ctx) : Resolves st ↔ E2E.RefsOk st := by
  constructor
  · intro h e he y hy
    exact h y (mem_refIdsOf.2 ⟨e, he, hy⟩)
  · intro h id hid
    obtain ⟨e, he, hy⟩ := mem_refIdsOf.1 hid
    exact h e he id hy

end Atree.E2ED

namespace Atree.E2E
open Atree Gen St E2ED

variable {β : Type}

/-- A served request followed by the disposal of what it hands back keeps the exact-heap invariant. -/
theorem Served.goodD (c : Codec SSlab β) (hc : RoundTrip c) {T : Nat} {a : Arr} {ctx : Ctx} {op : AOp}
    {st' : Arr × Ctx} (h : Served T a ctx op st') (hop : op.Ok) (s : St SSlab β)
    (hg : GoodD c T ((a, ctx), s)) :
    GoodD c T (st', dispose c (applyEffs c s (contentOf st') (newEffs ctx st'.2)) (handed T (a, ctx) op)) := by
  cases h with
  | rejected _ _ back => rw [back]; exact goodD_unchanged c T ((a, ctx), s) hg
  | done a' ctx' E C i j w h =>
    obtain ⟨sum, hij, hw, list, cre, _, _, _, back⟩ := h
    have hwr := written_insOf T a.addr ctx fun v hv => AOp.ok_val hop v (hw v hv)
    rw [← cre] at hwr
    refine goodD_step c hc T a ctx s a' ctx' E C _ _ (refIdsOf (a.toList.take i ++ a.toList.drop j))
      hg sum ?_ ?_ hwr.nodup back
    · unfold Arr.refIds
      rw [← refIdsOf_append]
      refine refIdsOf_perm ?_
      conv => lhs; rw [← splice_self a.toList hij]
      exact splice_perm _ _ _ _
    · unfold Arr.refIds
      rw [← hwr.refIds, list, ← refIdsOf_append]
      exact refIdsOf_perm (splice_perm _ _ _ _)

end Atree.E2E

namespace Atree.E2ED
open Atree Gen E2E St

variable {β : Type}

/-- Every request followed by disposal keeps the exact-heap invariant and follows the `List`
    semantics. -/
theorem goodD_stepD (c : Codec SSlab β) (hc : RoundTrip c) (T : Nat) (hT : legalThreshold T = true)
    (x : (Arr × Ctx) × St SSlab β) (hg : GoodD c T x) (op : AOp) (hop : op.Ok) :
    GoodD c T (stepD c T x op) ∧
    values (stepD c T x op).1 = specStep (values x.1) op ∧
    (stepD c T x op).1.1.rootID = x.1.1.rootID ∧
    (stepD c T x op).1.1.ty = specTy x.1.1.ty [op] :=
  have h := served_stepA hT x.1.1 x.1.2 hg.inv op hop
  ⟨h.goodD c hc hop x.2 hg, (h.values_refs hop ((resolves_iff x.1).1 hg.res) hg.cle).2, h.rootID_eq, h.ty_eq⟩

theorem goodD_runD (c : Codec SSlab β) (hc : RoundTrip c) (T : Nat) (hT : legalThreshold T = true) :
    ∀ (ops : List AOp) (x : (Arr × Ctx) × St SSlab β), GoodD c T x → (∀ op ∈ ops, op.Ok) →
    GoodD c T (runD c T x ops) ∧ values (runD c T x ops).1 = specRun (values x.1) ops ∧
    (runD c T x ops).1.1.rootID = x.1.1.rootID ∧ (runD c T x ops).1.1.ty = specTy x.1.1.ty ops :=
  run_spec (stepD c T) (·.1) (GoodD c T) (goodD_stepD c hc T hT)

/-- `NewArray` on an empty storage satisfies the invariant -/
theorem goodD_new (c : Codec SSlab β) (hc : RoundTrip c) (T : Nat) (hT : legalThreshold T = true)
    (addr ty : Nat) (haddr : addr ≠ 0) : GoodD c T (newS c addr ty) := by
  obtain ⟨hg, _, _, _⟩ := good_new c hc T hT addr ty haddr
  have hlive : live (newS c addr ty).1 = AList.find? (newS c addr ty).1.2.created := by
    funext id
    rfl
  refine ⟨hg.inv, ARefsOk.of_nil rfl, ?_, hg.st, hg.addr, hg.sync, hg.caddr, hg.created_le, ?_⟩
  · rw [hlive]; exact hg.rep
  · intro id hid; cases hid

end Atree.E2ED

import AtreeProofs.E2E.Served
import AtreeProofs.ScheduleLemmas
/-
  Histories of array operations run against the storage state machine: the invariant `Good`
  (array invariant, representation, storage invariant, allocation counters in step, no dangling
  reference to a large value) is kept by every request, and the values represented follow the
  `List` semantics.  `good_iff`: `Good` is the array invariant, the storage half `WE2E.StoreGood` at
  `Arr.cview` and `RefsOk`; `Served.values_refs`, `Served.good`: what a served request keeps;
  `run_spec`: the `List` semantics of a history from a step lemma, for any way of running requests
  (`good_runS`; `goodD_runD`).
-/
namespace Atree.E2E
open Atree Gen ATree WE2E

variable {β : Type}

theorem map_insertIdx' {α γ : Type} (f : α → γ) (a : α) : ∀ (l : List α) (i : Nat),
    (l.insertIdx i a).map f = (l.map f).insertIdx i (f a) := fun l i => map_insertIdx f l i a

theorem map_eraseIdx' {α γ : Type} (f : α → γ) : ∀ (l : List α) (i : Nat),
    (l.eraseIdx i).map f = (l.map f).eraseIdx i := map_eraseIdx f

theorem applyEffs_nil (c : Codec SSlab β) (s : St SSlab β) (content : SlabID → Option SSlab) :
    applyEffs c s content [] = s := rfl

/-- every reference element of the array points to a live large-value slab -/
def RefsOk (st : Arr × Ctx) : Prop :=
  ∀ e ∈ st.1.toList, ∀ y, e.pay = .ref y → (AList.find? st.2.created y).isSome

structure Good (c : Codec SSlab β) (T : Nat) (x : (Arr × Ctx) × St SSlab β) : Prop where
  inv : ArrInv T x.1.1 x.1.2.ctr
  rep : Rep c x.2 x.1.1 (AList.find? x.1.2.created) x.1.2.ctr
  st : Inv c x.2
  addr : x.1.1.addr ≠ 0
  sync : AllocSync x.2 x.1.1.addr x.1.2.ctr
  caddr : ∀ p ∈ x.1.2.created, p.1.addr = x.1.1.addr
  refs : RefsOk x.1
  /-- every pending store is owned by the array's address -/
  pend : ∀ id v, AList.find? x.2.deltas id = some (some v) → id.addr = x.1.1.addr

theorem Good.created_le {c : Codec SSlab β} {T : Nat} {x : (Arr × Ctx) × St SSlab β}
    (h : Good c T x) : ∀ p ∈ x.1.2.created, p.1.idx ≤ x.1.2.ctr := by
  intro p hp
  exact (h.rep.extra_fresh p.1 (find?_isSome_of_mem_keys (List.mem_map_of_mem hp))).2

theorem effectsComplete_mono {a a' : Arr} {E : List Eff} {cr cr0 : List SlabID}
    (h : EffectsComplete a a' E cr) : EffectsComplete a a' E (cr0 ++ cr) :=
  ⟨h.changed_stored, h.gone_removed, fun j hj => (h.stored_in_tree j hj).imp (fun h => h)
    (fun h => List.mem_append.2 (Or.inr h)), h.removed_not_in_tree⟩

theorem good_iff {c : Codec SSlab β} {T : Nat} {x : (Arr × Ctx) × St SSlab β} :
    Good c T x ↔ ArrInv T x.1.1 x.1.2.ctr ∧ StoreGood c x.2 x.1.1.cview x.1.2 ∧ RefsOk x.1 :=
  ⟨fun h => ⟨h.inv, ⟨rep_iff_holds.1 h.rep, h.st, h.addr, h.sync, h.caddr, h.pend⟩, h.refs⟩,
   fun ⟨h1, h2, h3⟩ => ⟨h1, rep_iff_holds.2 h2.rep, h2.st, h2.addr, h2.sync, h2.caddr, h3, h2.pend⟩⟩

/-- An operation with an account (`StepSum`) keeps `Good`, given `RefsOk` of the new state. -/
theorem good_step (c : Codec SSlab β) (hc : RoundTrip c) (T : Nat) (a : Arr) (ctx : Ctx)
    (s : St SSlab β) (a' : Arr) (ctx' : Ctx) (E : List Eff) (C : List (SlabID × Elem))
    (hg : Good c T ((a, ctx), s)) (sum : StepSum T a ctx a' ctx' E C)
    (hrefs : RefsOk (a', ctx')) :
    Good c T ((a', ctx'), applyEffs c s (contentOf (a', ctx')) (newEffs ctx ctx')) := by
  have h := (good_iff.1 hg).2.1.step c hc sum.account
  rw [stored_cview, ← applyEffs_eq] at h
  exact good_iff.2 ⟨sum.inv_after, h, hrefs⟩

theorem good_unchanged (c : Codec SSlab β) (T : Nat) (x : (Arr × Ctx) × St SSlab β)
    (hg : Good c T x) :
    Good c T (x.1, applyEffs c x.2 (contentOf x.1) (newEffs x.1.2 x.1.2)) := by
  rw [newEffs_self, applyEffs_nil]
  exact hg

theorem resolve_val {created : List (SlabID × Elem)} {e : Elem} (h : ∃ n, e.pay = .val n) :
    resolve created e = e := by
  obtain ⟨n, hn⟩ := h
  simp [resolve, hn]

/-- appending created slabs does not change what the existing references resolve to -/
theorem resolve_append {created C : List (SlabID × Elem)} {e : Elem}
    (h : ∀ y, e.pay = .ref y → (AList.find? created y).isSome) :
    resolve (created ++ C) e = resolve created e := by
  unfold resolve
  cases hp : e.pay with
  | val n => rfl
  | ref y =>
    simp only
    have := h y hp
    rw [find?_append]
    cases hf : AList.find? created y with
    | none => rw [hf] at this; cases this
    | some v => rfl

/-- appending created slabs keeps the references live -/
theorem refs_append {created C : List (SlabID × Elem)} {e : Elem}
    (h : ∀ y, e.pay = .ref y → (AList.find? created y).isSome) :
    ∀ y, e.pay = .ref y → (AList.find? (created ++ C) y).isSome := by
  intro y hy
  rw [find?_append]
  have := h y hy
  cases hf : AList.find? created y with
  | none => rw [hf] at this; cases this
  | some w => rfl

/-- `created_ctx` (auto-bound) is any context whose `created` is `created` (`hc`); callers pass the
    context at hand and `rfl`. -/
theorem values_append (a : Arr) (created C : List (SlabID × Elem)) (h : RefsOk (a, created_ctx))
    (hc : created_ctx.created = created) :
    a.toList.map (resolve (created ++ C)) = a.toList.map (resolve created) := by
  apply List.map_congr_left
  intro e he
  exact resolve_append (fun y hy => by have := h e he y hy; rwa [hc] at this)

/-- the stored form of a value resolves to the value, and is a live reference -/
theorem resolve_storedForm (T addr : Nat) (v : Elem) (ctx : Ctx) (hv : ValueOk v)
    (hle : ∀ p ∈ ctx.created, p.1.idx ≤ ctx.ctr) :
    resolve (ctx.created ++ crOf T addr v ctx) (toStorable T addr v ctx).1 = v ∧
    ∀ y, (toStorable T addr v ctx).1.pay = .ref y →
      (AList.find? (ctx.created ++ crOf T addr v ctx) y).isSome :=
  (storable_toStorable T addr hv ctx).resolve hle

theorem values_length (st : Arr × Ctx) : (values st).length = st.1.toList.length := by
  simp [values]

/-- A served request follows the `List` semantics on the values, and leaves no dangling reference. -/
theorem Served.values_refs {T : Nat} {a : Arr} {ctx : Ctx} {op : AOp} {st' : Arr × Ctx}
    (h : Served T a ctx op st') (hop : op.Ok) (hrefs : RefsOk (a, ctx))
    (hle : ∀ p ∈ ctx.created, p.1.idx ≤ ctx.ctr) :
    RefsOk st' ∧ values st' = specStep (values (a, ctx)) op := by
  cases h with
  | rejected spec => exact ⟨hrefs, (spec _ (values_length _)).symm⟩
  | done a' ctx' E C i j w h =>
    obtain ⟨sum, hij, hw, list, cre, spec, _⟩ := h
    have hcre : ctx'.created = ctx.created ++ creOf T a.addr ctx w := by rw [sum.log.created, cre]
    obtain ⟨hres, hlive⟩ := (written_insOf T a.addr ctx fun v hv => AOp.ok_val hop v (hw v hv)).resolve hle
    constructor
    · intro e he y hy
      simp only at he hy ⊢
      rw [hcre]
      rcases mem_splice (list ▸ he) with hm | hm
      · exact refs_append (hrefs e hm) y hy
      · exact hlive e hm y hy
    · rw [spec _ (values_length _)]
      simp only [values]
      rw [list, map_splice, hcre, values_append a ctx.created _ hrefs rfl, hres]

theorem Served.good (c : Codec SSlab β) (hc : RoundTrip c) {T : Nat} {a : Arr} {ctx : Ctx} {op : AOp}
    {st' : Arr × Ctx} (h : Served T a ctx op st') (hop : op.Ok) (s : St SSlab β)
    (hg : Good c T ((a, ctx), s)) :
    Good c T (st', applyEffs c s (contentOf st') (newEffs ctx st'.2)) := by
  have hrefs := (h.values_refs hop hg.refs hg.created_le).1
  cases h with
  | rejected => exact good_unchanged c T ((a, ctx), s) hg
  | done a' ctx' E C i j w h => exact good_step c hc T a ctx s a' ctx' E C hg h.sum hrefs

theorem good_stepS (c : Codec SSlab β) (hc : RoundTrip c) (T : Nat) (hT : legalThreshold T = true)
    (x : (Arr × Ctx) × St SSlab β) (hg : Good c T x) (op : AOp) (hop : op.Ok) :
    Good c T (stepS c T x op) ∧
    values (stepS c T x op).1 = specStep (values x.1) op ∧
    (stepS c T x op).1.1.rootID = x.1.1.rootID ∧
    (stepS c T x op).1.1.ty = specTy x.1.1.ty [op] :=
  have h := served_stepA hT x.1.1 x.1.2 hg.inv op hop
  ⟨h.good c hc hop x.2 hg, (h.values_refs hop hg.refs hg.created_le).2, h.rootID_eq, h.ty_eq⟩

theorem specTy_cons (ty : Nat) (op : AOp) (ops : List AOp) :
    specTy ty (op :: ops) = specTy (specTy ty [op]) ops := rfl

/-- The `List` semantics of a history, for any way `step` of running the requests (`stepS`, `stepD`)
    that keeps an invariant `I` and follows `specStep`, the root ID and `specTy` request by request. -/
theorem run_spec {X : Type} (step : X → AOp → X) (st : X → Arr × Ctx) (I : X → Prop)
    (hstep : ∀ x, I x → ∀ op, op.Ok → I (step x op) ∧ values (st (step x op)) = specStep (values (st x)) op ∧
      (st (step x op)).1.rootID = (st x).1.rootID ∧ (st (step x op)).1.ty = specTy (st x).1.ty [op])
    (ops : List AOp) (x : X) (hI : I x) (hok : ∀ op ∈ ops, op.Ok) :
    I (ops.foldl step x) ∧ values (st (ops.foldl step x)) = specRun (values (st x)) ops ∧
    (st (ops.foldl step x)).1.rootID = (st x).1.rootID ∧
    (st (ops.foldl step x)).1.ty = specTy (st x).1.ty ops := by
  have h := foldl_sim step
    (fun (y : List Elem × SlabID × Nat) op => (specStep y.1 op, y.2.1, specTy y.2.2 [op])) AOp.Ok
    (fun x y => I x ∧ values (st x) = y.1 ∧ (st x).1.rootID = y.2.1 ∧ (st x).1.ty = y.2.2)
    (fun x y op hop ⟨h0, h1, h2, h3⟩ => by
      obtain ⟨g0, g1, g2, g3⟩ := hstep x h0 op hop
      exact ⟨g0, by rw [g1, h1], by rw [g2, h2], by rw [g3, h3]⟩)
    ops x (values (st x), (st x).1.rootID, (st x).1.ty) hok ⟨hI, rfl, rfl, rfl⟩
  have key : ∀ (ops : List AOp) (l : List Elem) (i : SlabID) (t : Nat),
      ops.foldl (fun (y : List Elem × SlabID × Nat) op => (specStep y.1 op, y.2.1, specTy y.2.2 [op]))
        (l, i, t) = (specRun l ops, i, specTy t ops) := by
    intro ops
    induction ops with
    | nil => intro l i t; rfl
    | cons op ops ih => intro l i t; rw [List.foldl_cons, ih]; rfl
  rw [key] at h
  exact h

theorem good_runS (c : Codec SSlab β) (hc : RoundTrip c) (T : Nat) (hT : legalThreshold T = true) :
    ∀ (ops : List AOp) (x : (Arr × Ctx) × St SSlab β), Good c T x → (∀ op ∈ ops, op.Ok) →
      Good c T (runS c T x ops) ∧
      values (runS c T x ops).1 = specRun (values x.1) ops ∧
      (runS c T x ops).1.1.rootID = x.1.1.rootID ∧
      (runS c T x ops).1.1.ty = specTy x.1.1.ty ops :=
  run_spec (stepS c T) (·.1) (Good c T) (good_stepS c hc T hT)

/-- the array model's side of `runS` is `runA` -/
theorem runS_fst (c : Codec SSlab β) (T : Nat) :
    ∀ (ops : List AOp) (x : (Arr × Ctx) × St SSlab β), (runS c T x ops).1 = runA T x.1 ops :=
  fun ops x => (foldl_sim (stepS c T) (stepA T) (fun _ => True) (fun x y => x.1 = y)
    (fun _ _ _ _ h => h ▸ rfl) ops x x.1 (fun _ _ => trivial) rfl)

theorem lastAction_new (addr : Nat) (id : SlabID) :
    lastAction [Eff.alloc addr ⟨addr, 1⟩, Eff.store ⟨addr, 1⟩] id
      = if (⟨addr, 1⟩ : SlabID) = id then some true else none := by
  have := lastAction_concat_store [Eff.alloc addr ⟨addr, 1⟩] ⟨addr, 1⟩ id
  simp only [List.cons_append, List.nil_append] at this
  rw [this]
  rfl

theorem good_new (c : Codec SSlab β) (hc : RoundTrip c) (T : Nat) (hT : legalThreshold T = true)
    (addr ty : Nat) (haddr : addr ≠ 0) :
    Good c T (newS c addr ty) ∧ values (newS c addr ty).1 = [] ∧
    (newS c addr ty).1.1.rootID = ⟨addr, 1⟩ ∧ (newS c addr ty).1.1.ty = ty := by
  have hids : ATree.slabIds (newS c addr ty).1.1.d (newS c addr ty).1.1.root = [⟨addr, 1⟩] := rfl
  have hsg := StoreGood.new c hc (V := (newS c addr ty).1.1.cview) haddr
    ((slabAt_isSome _ _).2 (by rw [hids]; exact List.mem_singleton_self _))
    (fun id h => List.mem_singleton.1 (hids ▸ (slabAt_isSome _ id).1 h))
    (fun id h => (slabAt_isNone _ id).2 h)
  rw [stored_cview, ← applyEffs_eq] at hsg
  exact ⟨good_iff.2 ⟨arr_new_inv hT addr ty ⟨0, [], []⟩, hsg, fun e he => nomatch he⟩, rfl, rfl, rfl⟩

end Atree.E2E

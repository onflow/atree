import AtreeProofs.E2E.RepStep
import AtreeProofs.ArrayLemmas
/-
  Loading an array from its slabs: the tree is determined by its slabs (`loadArr_of_agree`), and
  loading through a transparent state-threading fetch (`Retrieve`) is loading from the view
  (`loadArrSt_spec`).
  `optAll_map`, `StKeep`, `optAllSt_spec`, `roOp`, `readOnly_keep` and `retrieve_after_readOnly`
  are generic in the type `σ` of stored slabs; `E2EMap/Load.lean` uses them as well.
-/
namespace Atree.E2E
open Atree Gen ATree

/-- child headers are the headers of the children, index slabs have children -/
def LoadOk : (d : Nat) → ATree d → Prop
  | 0, _ => True
  | d + 1, (m : MetaSlab (ATree d)) =>
    m.childHdrs = m.children.map (hdr d) ∧ m.children ≠ [] ∧ ∀ c ∈ m.children, LoadOk d c

theorem loadOk_succ (d : Nat) (m : MetaSlab (ATree d)) :
    LoadOk (d + 1) (ofMeta m) ↔
      (m.childHdrs = m.children.map (hdr d) ∧ m.children ≠ [] ∧ ∀ c ∈ m.children, LoadOk d c) := Iff.rfl

theorem loadOk_of_treeInv {T : Nat} (hT : legalThreshold T = true) :
    ∀ (d : Nat) (top : Bool) (t : ATree d), TreeInv T d top t → LoadOk d t
  | 0, _, _, _ => trivial
  | d + 1, top, t, h => by
    revert h; refine forall_ofMeta ?_ t; intro m h
    obtain ⟨hs, _, h1, h2⟩ := (treeInv_succ T d top m).1 h
    refine (loadOk_succ d m).2 ⟨hs.hdrs_eq, ?_, fun c hc => loadOk_of_treeInv hT d false c (hs.kids_inv c hc)⟩
    intro hnil
    cases top with
    | true => have := h2 rfl; rw [hnil] at this; simp at this
    | false =>
      have hpos := TreeInv.count_pos hT h
      simp only [hdr_succ, hs.count_eq, hs.hdrs_eq, hnil] at hpos
      simp [MetaSlab.sumCounts] at hpos

theorem optAll_map {α γ : Type} (f : α → Option γ) (g : γ → α) :
    ∀ (l : List γ), (∀ x ∈ l, f (g x) = some x) → optAll f (l.map g) = some l
  | [], _ => rfl
  | x :: xs, h => by
    simp only [List.map_cons, optAll]
    rw [h x (by simp), optAll_map f g xs (fun y hy => h y (by simp [hy]))]

/-- The subtree is rebuilt from any lookup that returns its slabs. -/
theorem loadAt_tree (look : SlabID → Option SSlab) :
    ∀ (d : Nat) (t : ATree d), LoadOk d t →
      (∀ p ∈ ATree.slabs d t, ∃ ty, look p.1 = some (.tree p.2 ty)) →
      loadAt look d (hdr d t).id = some t
  | 0, t, _, h => by
    revert h; refine forall_ofData ?_ t; intro s h
    obtain ⟨ty, hl⟩ := h (s.hdr.id, .data s) (by simp [ATree.slabs, ofData])
    simp only [hdr_zero, loadAt]
    simp only at hl
    rw [hl]
    rfl
  | d + 1, t, hok, h => by
    revert hok h; refine forall_ofMeta ?_ t; intro m hok h
    obtain ⟨h1, _, h3⟩ := (loadOk_succ d m).1 hok
    obtain ⟨ty, hl⟩ := h (m.hdr.id, .index m.hdr m.childHdrs m.countSum m.root)
      (by simp [ATree.slabs, ofMeta])
    simp only at hl
    have hkids : optAll (fun (hh : Hdr) => loadAt look d hh.id) m.childHdrs = some m.children := by
      rw [h1]
      apply optAll_map (fun (hh : Hdr) => loadAt look d hh.id) (hdr d)
      intro ch hch
      apply loadAt_tree look d ch (h3 ch hch)
      intro p hp
      apply h p
      simp only [ATree.slabs, ofMeta, List.mem_cons, List.mem_flatMap]
      exact Or.inr ⟨ch, hch, hp⟩
    simp only [hdr_succ, loadAt]
    rw [hl]
    simp only [hkids]
    rfl

/-- … and its depth is found by following the first child headers. -/
theorem findDepth_tree (look : SlabID → Option SSlab) :
    ∀ (d : Nat) (t : ATree d) (fuel : Nat), d < fuel → LoadOk d t →
      (∀ p ∈ ATree.slabs d t, ∃ ty, look p.1 = some (.tree p.2 ty)) →
      findDepth look fuel (hdr d t).id = some d
  | 0, t, fuel, hf, _, h => by
    revert h; refine forall_ofData ?_ t; intro s h
    obtain ⟨ty, hl⟩ := h (s.hdr.id, .data s) (by simp [ATree.slabs, ofData])
    simp only at hl
    obtain ⟨f, rfl⟩ : ∃ f, fuel = f + 1 := ⟨fuel - 1, by omega⟩
    simp only [hdr_zero, findDepth, hl]
  | d + 1, t, fuel, hf, hok, h => by
    revert hok h; refine forall_ofMeta ?_ t; intro m hok h
    obtain ⟨h1, h2, h3⟩ := (loadOk_succ d m).1 hok
    obtain ⟨ty, hl⟩ := h (m.hdr.id, .index m.hdr m.childHdrs m.countSum m.root)
      (by simp [ATree.slabs, ofMeta])
    simp only at hl
    obtain ⟨f, rfl⟩ : ∃ f, fuel = f + 1 := ⟨fuel - 1, by omega⟩
    match hch : m.children with
    | [] => exact absurd hch h2
    | ch :: rest =>
      have hmem : ch ∈ m.children := by rw [hch]; simp
      have ih := findDepth_tree look d ch f (by omega) (h3 ch hmem) (by
        intro p hp
        apply h p
        simp only [ATree.slabs, ofMeta, List.mem_cons, List.mem_flatMap]
        exact Or.inr ⟨ch, hmem, hp⟩)
      simp only [hdr_succ, findDepth, hl, h1, hch, List.map_cons, ih, Option.map_some]

theorem slabAt_of_mem {a : Arr} (hnd : (slabIds a.d a.root).Nodup) {p : SlabID × ASlab}
    (hp : p ∈ ATree.slabs a.d a.root) :
    a.slabAt p.1 = some (p.2, if p.1 = a.rootID then some a.ty else none) := by
  have := (AList.mem_iff_find? (ATree.slabs a.d a.root) (by rw [keys_slabs]; exact hnd) p.1 p.2).1 hp
  simp [Arr.slabAt, this]

/-- Loading: any lookup that agrees with the representation of `a` on the owner's identifiers yields
    `a` itself – same depth, same slabs with the same headers / counts / links, same elements, same
    type info. -/
theorem loadArr_of_agree {T : Nat} (hT : legalThreshold T = true) (a : Arr) (ctr : Nat)
    (hinv : ArrInv T a ctr) (extra : SlabID → Option Elem) (look : SlabID → Option SSlab)
    (hag : ∀ id, id.addr = a.addr → look id = stored a extra id) (fuel : Nat) (hf : a.d < fuel) :
    loadArr look a.rootID fuel = some a := by
  have hok := loadOk_of_treeInv hT a.d true a.root hinv.tree
  have hlook : ∀ p ∈ ATree.slabs a.d a.root, ∃ ty, look p.1 = some (.tree p.2 ty) := by
    intro p hp
    have haddr : p.1.addr = a.addr := by
      have : p.1 ∈ slabIds a.d a.root := by rw [← keys_slabs]; exact mem_keys_of_mem hp
      exact (hinv.ids.2 p.1 this).1
    rw [hag p.1 haddr, stored_of_some (slabAt_of_mem hinv.ids.1 hp)]
    exact ⟨_, rfl⟩
  have hroot : look a.rootID = some (.tree (ent a.d a.root) (some a.ty)) := by
    have hp : (a.rootID, ent a.d a.root) ∈ ATree.slabs a.d a.root := by
      rw [slabs_eq]; exact List.mem_cons_self
    rw [hag a.rootID rfl, stored_of_some (slabAt_of_mem hinv.ids.1 hp)]
    simp
  unfold loadArr
  have h1 : findDepth look fuel a.rootID = some a.d := findDepth_tree look a.d a.root fuel hf hok hlook
  have h2 : loadAt look a.d a.rootID = some a.root := loadAt_tree look a.d a.root hok hlook
  rw [h1, hroot]
  simp only [h2, Option.map_some]

variable {β : Type}

/-- `s'` is `s` after transparent reads: the relation in which `loadArrSt_spec` states what the
    storage looks like after loading an array. -/
structure Keep (c : Codec SSlab β) (s s' : St SSlab β) : Prop where
  inv : Inv c s'
  view : s'.view c = s.view c
  deltas : s'.deltas = s.deltas
  base : s'.base = s.base

section
variable {σ : Type}

/-- The same relation for any slab type.  The facts about fetches, read-only operations and the
    loaders (of arrays and of maps) are proved in it; `Keep.iff_stKeep` and `E2EM.Keep.iff_stKeep`
    carry them over to the relations of the array and map statements. -/
structure StKeep (c : Codec σ β) (s s' : St σ β) : Prop where
  inv : Inv c s'
  view : s'.view c = s.view c
  deltas : s'.deltas = s.deltas
  base : s'.base = s.base

theorem StKeep.refl {c : Codec σ β} {s : St σ β} (h : Inv c s) : StKeep c s s := ⟨h, rfl, rfl, rfl⟩

theorem StKeep.trans {c : Codec σ β} {s s' s'' : St σ β} (h1 : StKeep c s s') (h2 : StKeep c s' s'') :
    StKeep c s s'' :=
  ⟨h2.inv, h2.view.trans h1.view, h2.deltas.trans h1.deltas, h2.base.trans h1.base⟩

theorem optAllSt_spec {α γ : Type} (c : Codec σ β) (V : SlabID → Option σ)
    (f : St σ β → α → Except StErr (Option γ × St σ β)) (g : α → Option γ)
    (hf : ∀ s x, Inv c s → s.view c = V → ∃ s', f s x = .ok (g x, s') ∧ StKeep c s s') :
    ∀ (l : List α) (s : St σ β), Inv c s → s.view c = V →
      ∃ s', optAllSt f s l = .ok (optAll g l, s') ∧ StKeep c s s'
  | [], s, hI, _ => ⟨s, rfl, StKeep.refl hI⟩
  | x :: xs, s, hI, hV => by
    obtain ⟨s1, h1, k1⟩ := hf s x hI hV
    obtain ⟨s2, h2, k2⟩ := optAllSt_spec c V f g hf xs s1 k1.inv (k1.view.trans hV)
    simp only [optAllSt, h1, optAll]
    cases hg : g x with
    | none => exact ⟨s1, rfl, k1⟩
    | some y =>
      simp only [h2]
      cases hr : optAll g xs with
      | none => exact ⟨s2, rfl, k1.trans k2⟩
      | some ys => exact ⟨s2, rfl, k1.trans k2⟩

/-- the operations that `readOnlyOp` admits, for any slab type -/
def roOp : Op σ → Bool
  | .retrieve _ | .retrieveIfLoaded _ | .retrieveIgnoringDeltas _ _ | .dropCache | .preload _ => true
  | _ => false

/-- a read-only operation changes the cache only: the `cache` case of `St.step_shape` -/
theorem readOnly_keep (c : Codec σ β) (s : St σ β) (hI : Inv c s) (op : Op σ)
    (hro : roOp op = true) : StKeep c s (St.step c s op).1 :=
  St.step_shape c s (P := fun op s' => roOp op = true → StKeep c s s')
    (fun _ _ h _ => ⟨(h.inv hI).1, (h.inv hI).2, h.deltas, h.base⟩)
    (fun _ _ _ hro => nomatch hro) (fun _ _ hro => nomatch hro) (fun _ _ _ _ hro => nomatch hro)
    (fun hro => nomatch hro) (fun hro => nomatch hro) (fun _ _ _ hro => nomatch hro) op hro

theorem readOnly_run_keep (c : Codec σ β) :
    ∀ (ops : List (Op σ)) (s : St σ β), Inv c s → (∀ op ∈ ops, roOp op = true) →
      StKeep c s (St.run c s ops)
  | [], s, hI, _ => StKeep.refl hI
  | op :: ops, s, hI, h => by
    have k1 := readOnly_keep c s hI op (h op (List.mem_cons_self ..))
    have k2 := readOnly_run_keep c ops (St.step c s op).1 k1.inv
      (fun o ho => h o (List.mem_cons_of_mem _ ho))
    exact k1.trans k2

theorem retrieve_after_readOnly (c : Codec σ β) (sched : St σ β → SlabID → List (Op σ))
    (s : St σ β) (id : SlabID) (hI : Inv c s) :
    ∃ s', (St.run c s ((sched s id).filter roOp)).retrieve c id = .ok (s.view c id, s') ∧
      Inv c s' ∧ s'.view c = s.view c ∧ s'.deltas = s.deltas ∧ s'.base = s.base := by
  have k1 := readOnly_run_keep c ((sched s id).filter roOp) s hI
    (fun op hop => (List.mem_filter.1 hop).2)
  obtain ⟨s', h1, h2, h3, h4, h5⟩ := retrieve_spec c _ k1.inv id
  exact ⟨s', by rw [h1, k1.view], h2, h3.trans k1.view, h4.trans k1.deltas, h5.trans k1.base⟩

end

theorem Keep.iff_stKeep {c : Codec SSlab β} {s s' : St SSlab β} : Keep c s s' ↔ StKeep c s s' :=
  ⟨fun h => ⟨h.inv, h.view, h.deltas, h.base⟩, fun h => ⟨h.inv, h.view, h.deltas, h.base⟩⟩

theorem FetchOk.get {c : Codec SSlab β} {fetch : Fetch (St SSlab β)} (hf : FetchOk c fetch)
    (s : St SSlab β) (id : SlabID) (hI : Inv c s) :
    ∃ s', fetch s id = .ok (s.view c id, s') ∧ StKeep c s s' := by
  obtain ⟨s', h1, h2, h3, h4, h5⟩ := hf s id hI
  exact ⟨s', h1, h2, h3, h4, h5⟩

theorem loadAtSt_spec (c : Codec SSlab β) (fetch : Fetch (St SSlab β)) (hf : FetchOk c fetch)
    (V : SlabID → Option SSlab) :
    ∀ (d : Nat) (s : St SSlab β) (id : SlabID), Inv c s → s.view c = V →
      ∃ s', loadAtSt fetch d s id = .ok (loadAt V d id, s') ∧ StKeep c s s'
  | 0, s, id, hI, hV => by
    obtain ⟨s1, h1, k1⟩ := hf.get s id hI
    rw [hV] at h1
    simp only [loadAtSt, h1, loadAt]
    cases hv : V id with
    | none => exact ⟨s1, rfl, k1⟩
    | some sl =>
      cases sl with
      | large v => exact ⟨s1, rfl, k1⟩
      | tree t ty =>
        cases t with
        | data ds => exact ⟨s1, rfl, k1⟩
        | index h chs cs r => exact ⟨s1, rfl, k1⟩
  | d + 1, s, id, hI, hV => by
    obtain ⟨s1, h1, k1⟩ := hf.get s id hI
    rw [hV] at h1
    simp only [loadAtSt, h1, loadAt]
    cases hv : V id with
    | none => exact ⟨s1, rfl, k1⟩
    | some sl =>
      cases sl with
      | large v => exact ⟨s1, rfl, k1⟩
      | tree t ty =>
        cases t with
        | data ds => exact ⟨s1, rfl, k1⟩
        | index h chs cs r =>
          obtain ⟨s2, h2, k2⟩ := optAllSt_spec c V
            (fun s (hh : Hdr) => loadAtSt fetch d s hh.id) (fun (hh : Hdr) => loadAt V d hh.id)
            (fun s x hI' hV' => loadAtSt_spec c fetch hf V d s x.id hI' hV') chs s1 k1.inv
            (k1.view.trans hV)
          simp only [h2]
          cases hk : optAll (fun (hh : Hdr) => loadAt V d hh.id) chs with
          | none => exact ⟨s2, rfl, k1.trans k2⟩
          | some kids => exact ⟨s2, rfl, k1.trans k2⟩

theorem findDepthSt_spec (c : Codec SSlab β) (fetch : Fetch (St SSlab β)) (hf : FetchOk c fetch)
    (V : SlabID → Option SSlab) :
    ∀ (fuel : Nat) (s : St SSlab β) (id : SlabID), Inv c s → s.view c = V →
      ∃ s', findDepthSt fetch fuel s id = .ok (findDepth V fuel id, s') ∧ StKeep c s s'
  | 0, s, id, hI, _ => ⟨s, rfl, StKeep.refl hI⟩
  | fuel + 1, s, id, hI, hV => by
    obtain ⟨s1, h1, k1⟩ := hf.get s id hI
    rw [hV] at h1
    simp only [findDepthSt, h1, findDepth]
    cases hv : V id with
    | none => exact ⟨s1, rfl, k1⟩
    | some sl =>
      cases sl with
      | large v => exact ⟨s1, rfl, k1⟩
      | tree t ty =>
        cases t with
        | data ds => exact ⟨s1, rfl, k1⟩
        | index h chs cs r =>
          cases chs with
          | nil => exact ⟨s1, rfl, k1⟩
          | cons hh rest =>
            obtain ⟨s2, h2, k2⟩ := findDepthSt_spec c fetch hf V fuel s1 hh.id k1.inv (k1.view.trans hV)
            simp only [h2]
            exact ⟨s2, rfl, k1.trans k2⟩

/-- Loading through the storage: with a transparent fetch, `loadArrSt` returns what `loadArr` returns
    on the view, and the storage afterwards has the same view, write set and ledger. -/
theorem loadArrSt_spec (c : Codec SSlab β) (fetch : Fetch (St SSlab β)) (hf : FetchOk c fetch)
    (s : St SSlab β) (hI : Inv c s) (rootID : SlabID) (fuel : Nat) :
    ∃ s', loadArrSt fetch s rootID fuel = .ok (loadArr (s.view c) rootID fuel, s') ∧ Keep c s s' := by
  suffices h : ∃ s', loadArrSt fetch s rootID fuel = .ok (loadArr (s.view c) rootID fuel, s') ∧
      StKeep c s s' by
    obtain ⟨s', h1, k⟩ := h
    exact ⟨s', h1, Keep.iff_stKeep.2 k⟩
  obtain ⟨s1, h1, k1⟩ := findDepthSt_spec c fetch hf (s.view c) fuel s rootID hI rfl
  unfold loadArrSt loadArr
  rw [h1]
  cases hd : findDepth (s.view c) fuel rootID with
  | none => exact ⟨s1, rfl, k1⟩
  | some d =>
    obtain ⟨s2, h2, k2⟩ := hf.get s1 rootID k1.inv
    rw [k1.view] at h2
    simp only [h2]
    cases hv : s.view c rootID with
    | none => exact ⟨s2, rfl, k1.trans k2⟩
    | some sl =>
      cases sl with
      | large v => exact ⟨s2, rfl, k1.trans k2⟩
      | tree t ty =>
        cases ty with
        | none => exact ⟨s2, rfl, k1.trans k2⟩
        | some ty =>
          obtain ⟨s3, h3, k3⟩ := loadAtSt_spec c fetch hf (s.view c) d s2 rootID k2.inv
            (k2.view.trans k1.view)
          simp only [h3]
          exact ⟨s3, rfl, (k1.trans k2).trans k3⟩

theorem retrieve_fetchOk (c : Codec SSlab β) : FetchOk c (fun s id => s.retrieve c id) := by
  intro s id hI
  exact retrieve_spec c s hI id

theorem readOnlyOp_eq : readOnlyOp = roOp := by
  funext op
  cases op <;> rfl

/-- `Retrieve` preceded by any read-only operations (cache drops, preloads, other reads …) chosen
    by an arbitrary schedule is a transparent fetch (C08 at container level). -/
theorem fetchWith_fetchOk (c : Codec SSlab β) (sched : St SSlab β → SlabID → List (Op SSlab)) :
    FetchOk c (fetchWith c sched) := by
  unfold fetchWith
  rw [readOnlyOp_eq]
  exact retrieve_after_readOnly c sched

end Atree.E2E

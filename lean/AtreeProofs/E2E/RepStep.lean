import AtreeProofs.E2E.Container
/-
  The array as the storage sees it (`Arr.cview`): `Rep` is `WE2E.Holds` at this view, and one operation
  whose effect log is a complete account of the change of the tree (`EffectsComplete`, C09) keeps it:
  `rep_step_gen` (the property theorem `E2E.rep_step` of `Props/E2E.lean` is this statement).
-/
namespace Atree

def Arr.cview (a : Arr) : WE2E.CView (ASlab × Option Nat) E2E.SSlab :=
  ⟨a.slabAt, a.addr, ATree.slabIds a.d a.root, fun p => .tree p.1 p.2, .large⟩

end Atree

namespace Atree.E2E
open Atree St WE2E

variable {β : Type}

theorem stored_of_some {a : Arr} {extra : SlabID → Option Elem} {id : SlabID} {p : ASlab × Option Nat}
    (h : a.slabAt id = some p) : stored a extra id = some (.tree p.1 p.2) := by
  simp [stored, h]

theorem stored_of_none {a : Arr} {extra : SlabID → Option Elem} {id : SlabID}
    (h : a.slabAt id = none) : stored a extra id = (extra id).map .large := by
  simp [stored, h]

theorem stored_eq (a : Arr) (extra : SlabID → Option Elem) :
    stored a extra = storedOf a.slabAt (fun p => SSlab.tree p.1 p.2) SSlab.large extra := by
  funext id
  unfold stored storedOf
  cases a.slabAt id <;> rfl

theorem stored_cview (a : Arr) : a.cview.stored = stored a := by
  funext extra; exact (stored_eq a extra).symm

/-- the final content is defined for every slab whose last event is a store -/
theorem content_wf {a a' : Arr} {E : List Eff} {created : List (SlabID × Elem)}
    (heff : EffectsComplete a a' E (created.map (·.1))) (id : SlabID)
    (h : lastAction E id = some true) : (stored a' (AList.find? created) id).isSome :=
  stored_cview a' ▸ a'.cview.stored_isSome (heff.stored_in_tree id h)

theorem extraStep_cview (a' : Arr) : WE2E.extraStep a'.cview = extraStep a' := rfl

theorem rep_iff_holds {c : Codec SSlab β} {s : St SSlab β} {a : Arr} {extra : SlabID → Option Elem}
    {ctr : Nat} : Rep c s a extra ctr ↔ Holds c s a.cview extra ctr :=
  ⟨fun h => ⟨fun id hid => by rw [stored_cview]; exact h.view id hid, h.extra_fresh⟩,
   fun h => ⟨fun id hid => by rw [← stored_cview]; exact h.view id hid, h.extra_fresh⟩⟩

/-- If the storage represents `a`, and the log `E` is a complete account of the change
    from `a` to `a'` (with `created` the large-value slabs created meanwhile), then running `E`
    against the storage yields a storage that represents `a'`; the live large-value slabs are
    given by `extraStep`. -/
theorem rep_step_gen (c : Codec SSlab β) (s : St SSlab β) (a a' : Arr)
    (extra : SlabID → Option Elem) (ctr ctr' : Nat) (E : List Eff) (created : List (SlabID × Elem))
    (hrep : Rep c s a extra ctr) (heff : EffectsComplete a a' E (created.map (·.1)))
    (haddr : a'.addr = a.addr) (hne : a.addr ≠ 0) (hle : ctr ≤ ctr')
    (hcr : ∀ p ∈ created, p.1.idx ≤ ctr') :
    Rep c (applyEffs c s (stored a' (AList.find? created)) E) a' (extraStep a' E created extra) ctr' := by
  have h := (rep_iff_holds.1 hrep).step c (V' := a'.cview) heff.changed_stored heff.gone_removed
    heff.stored_in_tree heff.removed_not_in_tree haddr rfl rfl hne hle hcr
  rw [stored_cview, ← applyEffs_eq, extraStep_cview] at h
  exact rep_iff_holds.2 h

/-- `extraStep` from the lookup in the created list, for a log with footprint `foot` whose created
    slabs `C` are fresh, stored, and outside the new tree. -/
theorem extraStep_created (a a' : Arr) (E : List Eff) (old C : List (SlabID × Elem)) (ctr : Nat)
    (hold : ∀ id, (AList.find? old id).isSome → (a.slabAt id).isNone ∧ id.idx ≤ ctr)
    (hfoot : ∀ id, lastAction E id ≠ none → (a.slabAt id).isSome ∨ ctr < id.idx)
    (hstored : ∀ id, lastAction E id = some true → (a'.slabAt id).isSome ∨ id ∈ C.map (·.1))
    (hkeep : ∀ id, (a.slabAt id).isNone → ctr < id.idx ∨ (a'.slabAt id).isNone)
    (hC : ∀ id ∈ C.map (·.1), ctr < id.idx ∧ lastAction E id = some true ∧ (a'.slabAt id).isNone) :
    extraStep a' E (old ++ C) (AList.find? old) = AList.find? (old ++ C) :=
  funext (WE2E.extraStep_created (V := a.cview) (V' := a'.cview) E old C ctr hold hfoot hstored hkeep hC)

end Atree.E2E

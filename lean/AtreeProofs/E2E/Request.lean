import AtreeProofs.E2E.Container
import AtreeProofs.Storable
/-
  What a request does that arrays and maps share beyond the account (`WE2E.StepAccount`).
  `Written`: what it writes for the value handed over, if any — its stored form and the large-value
  slab created for it (`Atree.Storable`, `Storable.lean`); what the histories need of it is read off
  once (`Storable.resolve`, `Written.resolve`, `Written.refIds`, `Written.nodup`).
  `RefsAt`: the references of the elements to large-value slabs are sound (`ARefsOk`, `MRefsOk`);
  `Holds.step_refs`: a request that, up to order, replaces the references handed back by those of the
  created slabs, followed by the disposal of what it handed back, keeps the exact representation.
-/
namespace Atree.Storable

/-- the stored form resolves to the value, and is a live reference if it is one -/
theorem resolve {lim addr ctr : Nat} {v e : Elem} {C : List (SlabID × Elem)}
    (h : Storable lim addr ctr v e C) {created : List (SlabID × Elem)}
    (hle : ∀ p ∈ created, p.1.idx ≤ ctr) :
    E2E.resolve (created ++ C) e = v ∧ ∀ y, e.pay = .ref y → (AList.find? (created ++ C) y).isSome := by
  cases h with
  | inline hp _ => simp [E2E.resolve, hp]
  | large _ =>
    have hfresh := WE2E.find?_next_none hle addr
    simp [E2E.resolve, AList.find?_append, hfresh, AList.find?_cons]

end Atree.Storable

namespace Atree.WE2E
open Atree St

variable {σ P β : Type}

/-- What a request writes for the value `w` it hands over, if any: `ins` is its stored form (at most
    one element), `C` the large-value slab created for it. -/
inductive Written (addr ctr : Nat) : Option Elem → List Elem → List (SlabID × Elem) → Prop
  | none : Written addr ctr none [] []
  | some {lim : Nat} {v e : Elem} {C : List (SlabID × Elem)} (h : Storable lim addr ctr v e C) :
      Written addr ctr (some v) [e] C

namespace Written
variable {addr ctr : Nat} {w : Option Elem} {ins : List Elem} {C : List (SlabID × Elem)}

theorem resolve (h : Written addr ctr w ins C) {created : List (SlabID × Elem)}
    (hle : ∀ p ∈ created, p.1.idx ≤ ctr) :
    ins.map (E2E.resolve (created ++ C)) = w.toList ∧
    ∀ e ∈ ins, ∀ y, e.pay = .ref y → (AList.find? (created ++ C) y).isSome := by
  cases h with
  | none => exact ⟨rfl, fun _ he => nomatch he⟩
  | some h =>
    obtain ⟨h1, h2⟩ := h.resolve hle
    exact ⟨by rw [List.map_singleton, h1]; rfl, fun e he => by rw [List.mem_singleton.1 he]; exact h2⟩

theorem refIds (h : Written addr ctr w ins C) : refIdsOf ins = C.map (·.1) := by
  cases h with
  | none => rfl
  | some h => rw [← h.refId, refIdsOf, List.filterMap_cons]; cases Elem.refId? _ <;> rfl

theorem nodup (h : Written addr ctr w ins C) : (C.map (·.1)).Nodup := by
  cases h with
  | none => exact List.nodup_nil
  | some h => exact h.nodup

end Written

/-- The references `R` of a container's elements to large-value slabs, relative to the allocation
    counter: pairwise different, no slabs of the tree, owned by the container's address, allocated
    (`ARefsOk`, `MRefsOk`). -/
structure RefsAt (V : CView P σ) (R : List SlabID) (ctr : Nat) : Prop where
  nodup : R.Nodup
  out : ∀ id ∈ R, (V.slabAt id).isNone
  alloc : ∀ id ∈ R, id.addr = V.addr ∧ 1 ≤ id.idx ∧ id.idx ≤ ctr

variable {V V' : CView P σ} {ctx ctx' : Ctx} {E : List Eff} {C : List (SlabID × Elem)}

/-- an identifier below the counter that was no slab of the tree is none afterwards -/
theorem StepAccount.old_out (acc : StepAccount V V' ctx ctx' E C) {id : SlabID}
    (h1 : (V.slabAt id).isNone) (h2 : id.idx ≤ ctx.ctr) : (V'.slabAt id).isNone :=
  isNone_of_not_isSome fun h => (acc.new id h).elim (not_isSome_of_isNone h1) (Nat.not_lt.2 h2)

/-- An accounted request followed by the disposal of what it hands back (`ids`), seen on the
    references: up to order the old references are `G` (handed back) and `K` (kept), the new ones the
    identifiers of the created slabs and `K`.  The exact representation and `RefsAt` are kept: a
    created slab is above the counter, a reference is not. -/
theorem Holds.step_refs (c : Codec σ β) {s : St σ β} {R R' G K ids : List SlabID}
    (hrep : Holds c s V (liveOf R ctx.created) ctx.ctr) (hne : V.addr ≠ 0)
    (hcle : ∀ p ∈ ctx.created, p.1.idx ≤ ctx.ctr)
    (hres : ∀ id ∈ R, (AList.find? ctx.created id).isSome)
    (acc : StepAccount V V' ctx ctx' E C) (hR : RefsAt V R ctx.ctr)
    (old : R.Perm (G ++ K)) (new : R'.Perm (C.map (·.1) ++ K)) (hC : (C.map (·.1)).Nodup)
    (hids : ∀ id, id ∈ ids ↔ id ∈ G) :
    Holds c (applyEffs c s (V'.stored (AList.find? ctx'.created)) (E ++ E2ED.rmLog ids)) V'
      (liveOf R' ctx'.created) ctx'.ctr ∧
    (∀ p ∈ ctx'.created, p.1.idx ≤ ctx'.ctr) ∧
    (∀ id ∈ R', (AList.find? ctx'.created id).isSome) ∧ RefsAt V' R' ctx'.ctr := by
  have hnd : (G ++ K).Nodup := old.nodup_iff.1 hR.nodup
  have hG : ∀ id ∈ G, id ∈ R := fun id h => old.mem_iff.2 (List.mem_append.2 (Or.inl h))
  have hK : ∀ id ∈ K, id ∈ R := fun id h => old.mem_iff.2 (List.mem_append.2 (Or.inr h))
  have hout : ∀ id ∈ R, (V'.slabAt id).isNone := fun id h => acc.old_out (hR.out id h) (hR.alloc id h).2.2
  have hCR : ∀ id ∈ C.map (·.1), id ∉ R := fun id h hin =>
    Nat.lt_irrefl _ (Nat.lt_of_lt_of_le (acc.cr.fresh h) (hR.alloc id hin).2.2)
  have hR' : RefsAt V' R' ctx'.ctr := by
    refine ⟨new.nodup_iff.2 (List.nodup_append.2 ⟨hC, (List.nodup_append.1 hnd).2.1,
      fun a ha b hb e => hCR a ha (e ▸ hK b hb)⟩), fun id hid => ?_, fun id hid => ?_⟩
    · rcases List.mem_append.1 (new.mem_iff.1 hid) with h | h
      · exact acc.created_out h
      · exact hout id (hK id h)
    · rcases List.mem_append.1 (new.mem_iff.1 hid) with h | h
      · exact ⟨(acc.cr.addr h).trans acc.addr.symm, Nat.zero_lt_of_lt (acc.cr.fresh h), acc.cr.le h⟩
      · obtain ⟨h2, h3, h4⟩ := hR.alloc id (hK id h)
        exact ⟨h2.trans acc.addr.symm, h3, Nat.le_trans h4 acc.log.ctr_le⟩
  have hhand : ∀ id ∈ ids, id ∉ R' := fun id hid hin =>
    (List.mem_append.1 (new.mem_iff.1 hin)).elim (fun h => hCR id h (hG id ((hids id).1 hid)))
      (fun h => (List.nodup_append.1 hnd).2.2 id ((hids id).1 hid) id h rfl)
  obtain ⟨h1, h2, h3⟩ := hrep.step_live c (R' := R') (ids := ids) hne hcle hres acc
    (fun id hid => ⟨hR.out id hid, (hR.alloc id hid).2.2⟩) hR'.out
    (fun id h => new.mem_iff.2 (List.mem_append.2 (Or.inl h)))
    (fun id hid => ⟨hhand id hid, hout id (hG id ((hids id).1 hid))⟩)
    (fun id hid => (List.mem_append.1 (old.mem_iff.1 hid)).imp (hids id).2 fun h =>
      new.mem_iff.2 (List.mem_append.2 (Or.inr h)))
    (fun id hid => (List.mem_append.1 (new.mem_iff.1 hid)).symm.imp_left (hK id))
  exact ⟨h1, h2, h3, hR'⟩

end Atree.WE2E

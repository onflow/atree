import AtreeProofs.E2EDisposeSpec
import AtreeProofs.E2E.Load
import AtreeProofs.E2E.Request
/-
  What one request does to the array model, said once for every property of histories: `StepSum`
  (the account `WE2E.StepAccount` of a successful request at the array's view, and the invariant
  afterwards) and `Served` (rejected, or an account together with the edit of the element list as a
  `splice`); `served_stepA`: every request of `stepA` is served.  The invariants of histories
  (`Good`, `GoodD`, `EncSt`, `RefsUnique`, …) are each kept by `Served`.
-/
namespace Atree.E2E
open Atree Gen ATree WE2E

variable {β : Type}

/-- the slabs of an array satisfying the invariant are owned by its address -/
theorem own_of_inv {T : Nat} {a : Arr} {ctr : Nat} (h : ArrInv T a ctr) (id : SlabID)
    (hs : (a.slabAt id).isSome) : id.addr = a.addr :=
  (h.ids.2 id ((slabAt_isSome a id).1 hs)).1

/-- what the model-level theorems say about one successful request: its account at the array's view,
    and the invariant afterwards -/
structure StepSum (T : Nat) (a : Arr) (ctx : Ctx) (a' : Arr) (ctx' : Ctx) (E : List Eff)
    (C : List (SlabID × Elem)) : Prop where
  of_account ::
  account : StepAccount a.cview a'.cview ctx ctx' E C
  inv_after : ArrInv T a' ctx'.ctr

section
variable {T : Nat} {a a' : Arr} {ctx ctx' : Ctx} {E : List Eff} {C : List (SlabID × Elem)}

theorem StepSum.log (sum : StepSum T a ctx a' ctx' E C) : Log ctx ctx' E C := sum.account.log

theorem StepSum.addr (sum : StepSum T a ctx a' ctx' E C) : a'.addr = a.addr := sum.account.addr

end

theorem foot_of_acct {a a' : Arr} {cn : Nat} {E : List Eff} {cr : List SlabID}
    (h : Acct cn (ATree.slabs a.d a.root) (ATree.slabs a'.d a'.root) E cr) :
    (∀ id, lastAction E id ≠ none → (a.slabAt id).isSome ∨ cn < id.idx) ∧
    (∀ id, (a'.slabAt id).isSome → (a.slabAt id).isSome ∨ cn < id.idx) := by
  constructor
  · intro id hne
    rcases h.foot id hne with h1 | h1
    · left; rw [slabAt_isSome, ← keys_slabs]; exact h1
    · exact Or.inr h1
  · intro id hs
    rw [slabAt_isSome, ← keys_slabs] at hs
    rcases h.keys_new id hs with h1 | h1
    · left; rw [slabAt_isSome, ← keys_slabs]; exact h1
    · exact Or.inr h1

theorem stepSum_of_acct {T : Nat} {a a' : Arr} {ctx ctx' : Ctx} {E : List Eff} {C : List (SlabID × Elem)}
    (hinv : ArrInv T a ctx.ctr) (hlog : Log ctx ctx' E C)
    (hacct : Acct ctx.ctr (ATree.slabs a.d a.root) (ATree.slabs a'.d a'.root) E (C.map (·.1)))
    (hcr : CreatedOk a.addr ctx.ctr ctx'.ctr E (C.map (·.1)) (ATree.slabIds a'.d a'.root))
    (hal : AllocCnt a.addr ctx ctx' E) (hinv' : ArrInv T a' ctx'.ctr)
    (hid : a'.rootID = a.rootID) (hty : a'.ty = a.ty) : StepSum T a ctx a' ctx' E C :=
  have heff := effectsComplete_of_acct hacct hinv.ids.1 hid hty
  have haddr : a'.addr = a.addr := by unfold Arr.addr; rw [hid]
  { account :=
      { log := hlog, changed_stored := heff.changed_stored, gone_removed := heff.gone_removed
        stored_in_tree := heff.stored_in_tree, removed_not_in_tree := heff.removed_not_in_tree
        foot := (foot_of_acct hacct).1, new := (foot_of_acct hacct).2
        keys := fun id h => (slabAt_isNone a' id).2 h, cr := hcr, al := hal
        own := fun id h => (own_of_inv hinv' id h).trans haddr, addr := haddr, tree := rfl, large := rfl }
    inv_after := hinv' }

/-- `Remove`: nothing is created; the account of C09 and the allocation count speak of one log -/
theorem arr_remove_sum {T : Nat} (hT : legalThreshold T = true) {a a' : Arr} {ctx ctx' : Ctx} {i : Nat} {old : Elem}
    (hinv : ArrInv T a ctx.ctr) (hr : a.remove T i ctx = .ok (old, a', ctx')) (hinv' : ArrInv T a' ctx'.ctr)
    (hid : a'.rootID = a.rootID) (hty : a'.ty = a.ty) : ∃ E, StepSum T a ctx a' ctx' E [] :=
  let ⟨E, hlog, hacct⟩ := arr_remove_macct hT a ctx i hinv old a' ctx' hr
  ⟨E, stepSum_of_acct hinv hlog.toLog hacct.toAcct (CreatedOk.nil _ _ _ _ _) hlog.cnt hinv' hid hty⟩

/-- the account of `Insert` / `Set` from the one account of the tree operation after `Value.Storable`
    (`arr_insert_macct`, `arr_set_macct`) -/
theorem stepSum_of_macct {T : Nat} {a a' : Arr} {ctx ctx' : Ctx} {v : Elem} {E' : List Eff}
    (hinv : ArrInv T a ctx.ctr) (hlog' : PLog a.addr (toStorable T a.addr v ctx).2 ctx' E')
    (hacct' : MAcct a.addr (toStorable T a.addr v ctx).2.ctr ctx'.ctr (ATree.slabs a.d a.root)
      (ATree.slabs a'.d a'.root) E' [])
    (hinv' : ArrInv T a' ctx'.ctr) (hid : a'.rootID = a.rootID) (hty : a'.ty = a.ty) :
    ∃ E, StepSum T a ctx a' ctx' E (crOf T a.addr v ctx) := by
  obtain ⟨E, C, hlog, hacct, hcr, hal, rfl⟩ := created_of_macct hlog' hacct' (hinv.ids.keys_old (Nat.le_refl _)).2
  rw [keys_slabs] at hcr
  exact ⟨E, stepSum_of_acct hinv hlog hacct hcr hal hinv' hid hty⟩

theorem count_eq_length {T : Nat} {a : Arr} {ctr : Nat} (h : ArrInv T a ctr) :
    a.count = a.toList.length :=
  h.count_eq

/-- what the model says about `PopIterate`: the slabs below the root are removed, the root is stored -/
theorem arr_pop_sum {T : Nat} (hT : legalThreshold T = true) (a : Arr) (ctx : Ctx)
    (hinv : ArrInv T a ctx.ctr) :
    ∃ E0, StepSum T a ctx (a.popIterate ctx).2.1 (a.popIterate ctx).2.2 (E0 ++ [.store a.rootID]) [] := by
  obtain ⟨_, _, h3, _⟩ := arr_popIterate_refines a ctx
  obtain ⟨hcre, hctr⟩ := arr_popIterate_ctx a ctx
  obtain ⟨E0, heffs, hE1, hE2⟩ := arr_popIterate_eff a ctx hinv.standalone
  have hinv' := arr_popIterate_inv hT a ctx hinv
  have hids' : slabIds (a.popIterate ctx).2.1.d (a.popIterate ctx).2.1.root = [a.rootID] := rfl
  have haddr : (a.popIterate ctx).2.1.addr = a.addr := by unfold Arr.addr; rw [h3]
  have hbelow : ∀ id, id ∈ subIds a.d a.root → (a.slabAt id).isSome := fun id h =>
    (slabAt_isSome a id).2 (by rw [slabIds_eq]; exact List.mem_cons_of_mem _ h)
  exact ⟨E0, .of_account (StepAccount.pop (V := a.cview) (V' := (a.popIterate ctx).2.1.cview) heffs hcre hctr
    (fun e he => by obtain ⟨j, hj, rfl⟩ := hE1 e he; exact ⟨j, rfl, hbelow j hj⟩)
    (fun id hs hne => hE2 id
      ((List.mem_cons.1 (slabIds_eq a.d a.root ▸ (slabAt_isSome a id).1 hs)).resolve_left hne))
    ((slabAt_isSome a _).2 (hdr_id_mem_slabIds a.d a.root))
    (fun id => (slabAt_isSome _ id).trans (by rw [hids', List.mem_singleton]))
    (fun id h => (slabAt_isNone _ id).2 h) (fun id h => (own_of_inv hinv' id h).trans haddr) haddr rfl rfl)
    (hctr ▸ hinv')⟩

/-- what the model says about `SetType` on a standalone array: the root is stored -/
theorem arr_setType_sum {T : Nat} (a : Arr) (ctx : Ctx) (hinv : ArrInv T a ctx.ctr) (ty : Nat)
    (hres : a.setType ty ctx = ({ a with ty := ty }, ctx.emit (.store a.rootID))) :
    StepSum T a ctx { a with ty := ty } (ctx.emit (.store a.rootID)) [.store a.rootID] [] := by
  have hinv' : ArrInv T { a with ty := ty } (ctx.emit (.store a.rootID)).ctr := by
    have := arr_setType_inv a ctx ty hinv
    rw [hres] at this
    exact this
  refine .of_account (StepAccount.store_root (V := a.cview) (V' := ({ a with ty := ty } : Arr).cview) ctx
    ((slabAt_isSome a _).2 (hdr_id_mem_slabIds a.d a.root)) ?_ (fun id => by simp [Arr.cview, Arr.slabAt])
    (fun id h => (slabAt_isNone _ id).2 h) (fun id h => own_of_inv hinv' id h) rfl rfl rfl) hinv'
  intro id hne
  have hne' : ¬ id = ({ a with ty := ty } : Arr).rootID := hne
  simp only [Arr.cview, Arr.slabAt, hne, hne', if_false]

/-- the value a request hands over -/
def AOp.val? : AOp → Option Elem
  | .insert _ v | .append v | .set _ v => some v
  | _ => none

/-- the stored form of the value handed over, and the large-value slab created for it -/
def insOf (T addr : Nat) (ctx : Ctx) (w : Option Elem) : List Elem :=
  w.toList.map (fun v => (toStorable T addr v ctx).1)
def creOf (T addr : Nat) (ctx : Ctx) : Option Elem → List (SlabID × Elem)
  | some v => crOf T addr v ctx
  | none => []

/-- `Value.Storable` of arrays -/
theorem storable_toStorable (T addr : Nat) {v : Elem} (hv : ValueOk v) (ctx : Ctx) :
    Storable (maxInlineArr T) addr ctx.ctr v (toStorable T addr v ctx).1 (crOf T addr v ctx) := by
  obtain ⟨_, n, hn⟩ := hv
  obtain ⟨C, hC, _, h⟩ := storable_lim (maxInlineArr T) addr hn ctx
  rw [← toStorable_eq_lim] at hC h
  rwa [crOf, hC, List.drop_left]

theorem written_insOf (T addr : Nat) (ctx : Ctx) {w : Option Elem} (hw : ∀ v ∈ w, ValueOk v) :
    Written addr ctx.ctr w (insOf T addr ctx w) (creOf T addr ctx w) := by
  cases w with
  | none => exact .none
  | some v => exact .some (storable_toStorable T addr (hw v rfl) ctx)

/-- What a successful request does: it has an account (`sum`) and replaces the segment `[i, j)` of the
    elements by the stored form of the value `w` handed over, if any (`Insert`: `i = j`; `Set`, `Remove`:
    `j = i + 1`; `PopIterate`: everything; `SetType`: nothing), the large-value slab of `w` being all that
    is created; `spec` says the same of the `List` semantics, `back` that the references handed back to
    the caller (`E2ED.handed`) are those of the replaced segment. -/
structure Edit (T : Nat) (a : Arr) (ctx : Ctx) (op : AOp) (a' : Arr) (ctx' : Ctx) (E : List Eff)
    (C : List (SlabID × Elem)) (i j : Nat) (w : Option Elem) : Prop where
  sum : StepSum T a ctx a' ctx' E C
  hij : i ≤ j
  hw : ∀ v ∈ w, op.val? = some v
  list : a'.toList = splice a.toList i j (insOf T a.addr ctx w)
  cre : C = creOf T a.addr ctx w
  spec : ∀ l : List Elem, l.length = a.toList.length → specStep l op = splice l i j w.toList
  rootID : a'.rootID = a.rootID
  ty : a'.ty = specTy a.ty [op]
  back : ∀ id, id ∈ E2ED.handed T (a, ctx) op ↔ id ∈ refIdsOf ((a.toList.take j).drop i)

/-- What a request does to the array model: it is rejected and nothing changes, or it is an `Edit`. -/
inductive Served (T : Nat) (a : Arr) (ctx : Ctx) (op : AOp) : Arr × Ctx → Prop
  | rejected (spec : ∀ l : List Elem, l.length = a.toList.length → specStep l op = l)
      (ty : specTy a.ty [op] = a.ty) (back : E2ED.handed T (a, ctx) op = []) : Served T a ctx op (a, ctx)
  | done (a' : Arr) (ctx' : Ctx) (E : List Eff) (C : List (SlabID × Elem)) (i j : Nat) (w : Option Elem)
      (h : Edit T a ctx op a' ctx' E C i j w) : Served T a ctx op (a', ctx')

theorem AOp.ok_val {op : AOp} (h : op.Ok) : ∀ v, op.val? = some v → ValueOk v := by
  intro v hv
  cases op <;> first | (cases hv; exact h) | cases hv

theorem Served.append_of_insert {T : Nat} {a : Arr} {ctx : Ctx} {v : Elem} {st' : Arr × Ctx}
    (h : Served T a ctx (.insert a.count v) st') (hlen : a.count = a.toList.length) :
    Served T a ctx (.append v) st' := by
  have key : ∀ l : List Elem, l.length = a.toList.length →
      specStep l (.append v) = specStep l (.insert a.count v) := by
    intro l hl
    simp only [specStep, hl, hlen, Nat.le_refl, and_true]
    split
    · rw [← hl, List.insertIdx_length_self]
    · rfl
  -- `val?`, `specTy` and `handed` unfold to the same terms at `.append v` and `.insert a.count v`
  cases h with
  | rejected spec ty back => exact .rejected (fun l hl => (key l hl).trans (spec l hl)) rfl back
  | done a' ctx' E C i j w h =>
    exact .done a' ctx' E C i j w
      { h with spec := fun l hl => (key l hl).trans (h.spec l hl), hw := h.hw, ty := h.ty, back := h.back }

theorem served_insert {T : Nat} (hT : legalThreshold T = true) (a : Arr) (ctx : Ctx)
    (hinv : ArrInv T a ctx.ctr) (i : Nat) (v : Elem) (hop : ValueOk v) :
    Served T a ctx (.insert i v) (stepA T (a, ctx) (.insert i v)) := by
  simp only [stepA]
  have hlen : a.count = a.toList.length := count_eq_length hinv
  by_cases hok : a.toList.length < maxArrayElementCount ∧ i ≤ a.toList.length
  · obtain ⟨hcount, hi⟩ := hok
    obtain ⟨a', ctx', heq, hinv', hlist, hid, hty⟩ := arr_insert_ok hT a ctx i v hop hinv (by omega) hi
    rw [heq]
    obtain ⟨E', hlog', hacct'⟩ := arr_insert_macct hT a ctx i v (.of_valueOk hop) hinv a' ctx' heq
    obtain ⟨E, sum⟩ := stepSum_of_macct hinv hlog' hacct' hinv' hid hty
    exact .done a' ctx' E _ i i (some v)
      { sum := sum, hij := Nat.le_refl i, hw := fun _ h => h ▸ rfl, cre := rfl, rootID := hid, ty := hty
        list := by rw [hlist]; exact insertIdx_eq_splice _ _ _ hi
        spec := fun l hl => by
          simp only [specStep, hl, hcount, hi, and_self, if_true]
          exact insertIdx_eq_splice _ _ _ (hl ▸ hi)
        back := fun id => by simp [E2ED.handed, refIdsOf] }
  · have herr : ∃ e, a.insert T i v ctx = .error e := by
      by_cases hcount : a.count = maxArrayElementCount
      · exact ⟨_, by unfold Arr.insert; rw [if_pos hcount]⟩
      · refine ⟨_, arr_insert_err a ctx i v hinv hcount ?_⟩
        have hlt : a.count < maxArrayElementCount + 1 := hinv.count_lt
        omega
    obtain ⟨e, he⟩ := herr
    rw [he]
    exact .rejected (fun l hl => by simp only [specStep, hl, hok, if_false]) rfl rfl

theorem served_stepA {T : Nat} (hT : legalThreshold T = true) (a : Arr) (ctx : Ctx)
    (hinv : ArrInv T a ctx.ctr) (op : AOp) (hop : op.Ok) : Served T a ctx op (stepA T (a, ctx) op) := by
  cases op with
  | set i v =>
    simp only [stepA]
    by_cases hi : i < a.toList.length
    · obtain ⟨a', ctx', heq, hinv', hlist, hid, hty⟩ := arr_set_ok hT a ctx i v hop hinv hi
      rw [heq]
      obtain ⟨E', hlog', hacct'⟩ := arr_set_macct hT a ctx i v (.of_valueOk hop) hinv _ a' ctx' heq
      obtain ⟨E, sum⟩ := stepSum_of_macct hinv hlog' hacct' hinv' hid hty
      exact .done a' ctx' E _ i (i + 1) (some v)
        { sum := sum, hij := Nat.le_succ i, hw := fun _ h => h ▸ rfl, cre := rfl, rootID := hid, ty := hty
          list := by rw [hlist]; exact set_eq_splice _ _ _ hi
          spec := fun l hl => by simp only [specStep, hl, hi, if_true]; exact set_eq_splice _ _ _ (hl ▸ hi)
          back := fun id => by simp only [E2ED.handed, heq, drop_take_succ hi default] }
    · have herr := arr_set_err a ctx i v hinv (by omega)
      rw [herr]
      exact .rejected (fun l hl => by simp only [specStep, hl, hi, if_false]) rfl
        (by simp only [E2ED.handed, herr])
  | remove i =>
    simp only [stepA]
    by_cases hi : i < a.toList.length
    · obtain ⟨a', ctx', heq, hinv', hlist, hid, hty⟩ := arr_remove_ok hT a ctx i hinv hi
      rw [heq]
      obtain ⟨E, sum⟩ := arr_remove_sum hT hinv heq hinv' hid hty
      exact .done a' ctx' E [] i (i + 1) none
        { sum := sum
          hij := Nat.le_succ i, hw := fun _ h => (by cases h), cre := rfl, rootID := hid, ty := hty
          list := by rw [hlist]; exact eraseIdx_eq_splice _ _
          spec := fun l hl => by simp only [specStep, hl, hi, if_true]; exact eraseIdx_eq_splice _ _
          back := fun id => by simp only [E2ED.handed, heq, drop_take_succ hi default] }
    · have herr := arr_remove_err a ctx i hinv (by omega)
      rw [herr]
      exact .rejected (fun l hl => by simp only [specStep, hl, hi, if_false]) rfl
        (by simp only [E2ED.handed, herr])
  | insert i v => exact served_insert hT a ctx hinv i v hop
  | append v =>
    exact (served_insert hT a ctx hinv a.count v hop).append_of_insert (count_eq_length hinv)
  | popIterate =>
    obtain ⟨h1, h2, h3, h4⟩ := arr_popIterate_refines a ctx
    obtain ⟨E0, sum⟩ := arr_pop_sum hT a ctx hinv
    exact .done (a.popIterate ctx).2.1 (a.popIterate ctx).2.2 _ [] 0 a.toList.length none
      { sum := sum, hij := Nat.zero_le _, hw := fun _ h => (by cases h), cre := rfl, rootID := h3, ty := h4
        list := by rw [h2]; simp [splice, insOf]
        spec := fun l hl => by simp [specStep, splice, ← hl]
        back := fun id => by
          simp only [E2ED.handed, h1, List.take_length, List.drop_zero, refIdsOf, List.filterMap_reverse,
            List.mem_reverse] }
  | setType ty =>
    simp only [stepA]
    have hres : a.setType ty ctx = ({ a with ty := ty }, ctx.emit (.store a.rootID)) := by
      unfold Arr.setType; rw [hinv.standalone]; rfl
    rw [hres]
    exact .done _ _ _ [] 0 0 none
      { sum := arr_setType_sum a ctx hinv ty hres, hij := Nat.le_refl 0, hw := fun _ h => (by cases h)
        cre := rfl, rootID := rfl, ty := rfl
        list := by simp [splice, insOf]; rfl
        spec := fun l hl => by simp [specStep, splice]
        back := fun id => by simp [E2ED.handed, refIdsOf] }

theorem Served.ty_eq {T : Nat} {a : Arr} {ctx : Ctx} {op : AOp} {st' : Arr × Ctx}
    (h : Served T a ctx op st') : st'.1.ty = specTy a.ty [op] := by
  cases h with
  | rejected _ ty => exact ty.symm
  | done _ _ _ _ _ _ _ h => exact h.ty

theorem Served.rootID_eq {T : Nat} {a : Arr} {ctx : Ctx} {op : AOp} {st' : Arr × Ctx}
    (h : Served T a ctx op st') : st'.1.rootID = a.rootID := by
  cases h with
  | rejected => rfl
  | done _ _ _ _ _ _ _ h => exact h.rootID

/-- A property `P` of the stored elements and a property `Q` of the large values created so far are
    kept if the stored form of the value handed over has them. -/
theorem Served.forall_stored {T : Nat} {a : Arr} {ctx : Ctx} {op : AOp} {st' : Arr × Ctx}
    {P Q : Elem → Prop} (h : Served T a ctx op st')
    (hv : ∀ v, op.val? = some v → P (toStorable T a.addr v ctx).1 ∧ ∀ p ∈ crOf T a.addr v ctx, Q p.2)
    (he : ∀ e ∈ a.toList, P e) (hc : ∀ p ∈ ctx.created, Q p.2) :
    (∀ e ∈ st'.1.toList, P e) ∧ ∀ p ∈ st'.2.created, Q p.2 := by
  cases h with
  | rejected => exact ⟨he, hc⟩
  | done a' ctx' E C i j w h =>
    obtain ⟨sum, _, hw, list, cre, _⟩ := h
    refine ⟨fun e hmem => ?_, fun p hp => ?_⟩
    · rcases mem_splice (list ▸ hmem) with hm | hm
      · exact he e hm
      · cases w with
        | none => cases hm
        | some v =>
          simp only [insOf, Option.toList, List.map, List.mem_singleton] at hm
          exact hm ▸ (hv v (hw v rfl)).1
    · have hp : p ∈ ctx.created ++ C := sum.log.created ▸ hp
      rcases List.mem_append.1 hp with hm | hm
      · exact hc p hm
      · cases w with
        | none => rw [cre] at hm; cases hm
        | some v => rw [cre] at hm; exact (hv v (hw v rfl)).2 p hm

end Atree.E2E

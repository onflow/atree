import AtreeProofs.E2ESpec
import AtreeProofs.World.HeapWrites
/-
  Effect logs run against the storage state machine: the entry of an identifier in the write set
  after the run is the one written by the LAST store/remove event of that identifier
  ("last write wins"); cache and ledger are untouched; the invariant is kept.
  The definitions of `E2ESpec` are those of `WE2E` at the slab type of arrays, and the facts are
  the ones proved there.
-/
namespace Atree.E2E
open Atree St

variable {β : Type}

theorem effOp_eq : @effOp = @WE2E.effOp SSlab := by
  funext content e
  cases e with
  | store i => simp only [effOp, WE2E.effOp]; cases content i <;> rfl
  | _ => rfl

theorem effOpsI_eq : @effOpsI = @WE2E.effOpsI SSlab := by
  unfold effOpsI WE2E.effOpsI; rw [effOp_eq]

theorem effOps_eq : @effOps = @WE2E.effOps SSlab := by
  unfold effOps WE2E.effOps; rw [effOp_eq]

theorem applyEffsI_eq : @applyEffsI = @WE2E.applyEffsI SSlab := by
  unfold applyEffsI WE2E.applyEffsI; rw [effOpsI_eq]

theorem applyEffs_eq : @applyEffs = @WE2E.applyEffs SSlab := by
  unfold applyEffs WE2E.applyEffs; rw [effOps_eq]

theorem writeStep_eq : @writeStep = @WE2E.writeStep SSlab := by
  funext id acc p
  obtain ⟨e, cf⟩ := p
  cases e with
  | store i => simp only [writeStep, WE2E.writeStep]; cases cf id <;> rfl
  | _ => rfl

theorem lastWrite_eq : @lastWrite = @WE2E.lastWrite SSlab := by
  unfold lastWrite WE2E.lastWrite; rw [writeStep_eq]

theorem lastWrite_final (content : SlabID → Option SSlab) (E : List Eff) (id : SlabID)
    (hwf : lastAction E id = some true → (content id).isSome) :
    lastWrite (E.map (fun e => (e, content))) id =
      (match lastAction E id with
       | some true => some (content id)
       | some false => some none
       | none => none) := by
  rw [lastWrite_eq]; exact WE2E.lastWrite_final content E id hwf

theorem view_applyEffs (c : Codec SSlab β) (s : St SSlab β) (content : SlabID → Option SSlab)
    (E : List Eff) (id : SlabID) (hid : id ≠ SlabID.undef)
    (hwf : lastAction E id = some true → (content id).isSome) :
    (applyEffs c s content E).view c id =
      (match lastAction E id with
       | some true => content id
       | some false => none
       | none => s.view c id) := by
  rw [applyEffs_eq]; exact WE2E.view_applyEffs c s content E id hid hwf

/-- the pending entry of `id` after a log run with the final content -/
theorem find?_deltas_applyEffs (c : Codec SSlab β) (s : St SSlab β) (content : SlabID → Option SSlab)
    (E : List Eff) (id : SlabID) (hid : id ≠ SlabID.undef)
    (hwf : lastAction E id = some true → (content id).isSome) :
    AList.find? (applyEffs c s content E).deltas id =
      (match lastAction E id with
       | some true => some (content id)
       | some false => some none
       | none => AList.find? s.deltas id) := by
  rw [applyEffs_eq]; exact WE2E.find?_deltas_applyEffs c s content E id hid hwf

theorem find?_deltas_applyEffs_undef (c : Codec SSlab β) (s : St SSlab β)
    (content : SlabID → Option SSlab) (E : List Eff) :
    AList.find? (applyEffs c s content E).deltas SlabID.undef = AList.find? s.deltas SlabID.undef := by
  rw [applyEffs_eq]; exact WE2E.find?_deltas_applyEffs_undef c s content E

theorem applyEffs_frame (c : Codec SSlab β) (s : St SSlab β) (content : SlabID → Option SSlab)
    (E : List Eff) : (applyEffs c s content E).cache = s.cache ∧ (applyEffs c s content E).base = s.base := by
  rw [applyEffs_eq]; exact WE2E.applyEffs_frame c s content E

theorem applyEffs_alloc (c : Codec SSlab β) (s : St SSlab β) (content : SlabID → Option SSlab)
    (E : List Eff) (addr : Nat) (haddr : addr ≠ 0) :
    (AList.find? (applyEffs c s content E).alloc addr).getD 0 =
      (AList.find? s.alloc addr).getD 0 + allocCount addr E := by
  rw [applyEffs_eq]; exact WE2E.applyEffs_alloc c s content E addr haddr

theorem applyEffs_inv (c : Codec SSlab β) (hc : RoundTrip c) (s : St SSlab β)
    (content : SlabID → Option SSlab) (E : List Eff) (h : Inv c s) :
    Inv c (applyEffs c s content E) := inv_run c hc _ s h  -- `applyEffs` unfolds to `St.run`

theorem applyEffs_append (c : Codec SSlab β) (s : St SSlab β) (content : SlabID → Option SSlab)
    (E1 E2 : List Eff) :
    applyEffs c s content (E1 ++ E2) = applyEffs c (applyEffs c s content E1) content E2 := by
  rw [applyEffs_eq]; exact WE2E.applyEffs_append c s content E1 E2

theorem effOps_no_commit (content : SlabID → Option SSlab) (E : List Eff) :
    ∀ op ∈ effOps content E, Op.isCommit op = false := by
  rw [effOps_eq]; exact WE2E.effOps_no_commit content E

/-- `WE2E.applyEffsI_eq_applyEffs` at `SSlab`.  Last write wins, for both ways of running a log: if
    a log is run with per-event content snapshots such that, for every identifier, the last write
    agrees with the final-content version (i.e. the snapshot at the last store event of the
    identifier holds its final content), the resulting storage states agree: same pending entry
    for every identifier, same cache, same ledger, same allocation counters. -/
theorem applyEffsI_eq_applyEffs (c : Codec SSlab β) (s : St SSlab β)
    (content : SlabID → Option SSlab) (EC : List (Eff × (SlabID → Option SSlab)))
    (hlast : ∀ id, lastWrite EC id = lastWrite ((EC.map (·.1)).map (fun e => (e, content))) id) :
    (∀ id, id ≠ SlabID.undef →
      AList.find? (applyEffsI c s EC).deltas id =
        AList.find? (applyEffs c s content (EC.map (·.1))).deltas id) ∧
    (∀ id, id ≠ SlabID.undef →
      (applyEffsI c s EC).view c id = (applyEffs c s content (EC.map (·.1))).view c id) ∧
    (applyEffsI c s EC).cache = (applyEffs c s content (EC.map (·.1))).cache ∧
    (applyEffsI c s EC).base = (applyEffs c s content (EC.map (·.1))).base ∧
    (∀ addr, addr ≠ 0 → (AList.find? (applyEffsI c s EC).alloc addr).getD 0 =
      (AList.find? (applyEffs c s content (EC.map (·.1))).alloc addr).getD 0) := by
  rw [lastWrite_eq] at hlast
  rw [applyEffsI_eq, applyEffs_eq]
  exact WE2E.applyEffsI_eq_applyEffs c s content EC hlast

/-- `WE2E.LastOk` at `SSlab`, written out because the statements of the container's property file are
    about the specification's own `lastWrite` / `applyEffsI` (`lastOk_eq` identifies the two).
    A sufficient condition for `hlast`, event by event: scanning the log from the end, the first
    store/remove event of `id` met is a remove, or a store whose snapshot holds the final content of
    `id` (which exists); or there is no such event. -/
def LastOk (content : SlabID → Option SSlab) (id : SlabID) :
    List (Eff × (SlabID → Option SSlab)) → Prop
  | [] => True
  | p :: rest =>
    -- `rest` is the part of the log BEFORE `p` (the list is scanned in reverse)
    match p.1 with
    | .store i => if i = id then (p.2 id = content id ∧ (content id).isSome) else LastOk content id rest
    | .remove i => if i = id then True else LastOk content id rest
    | .alloc _ _ => LastOk content id rest

theorem lastOk_eq : @LastOk = @WE2E.LastOk SSlab := by
  funext content id R
  induction R with
  | nil => rfl
  | cons p R ih =>
    obtain ⟨e, cf⟩ := p
    cases e <;> simp only [LastOk, WE2E.LastOk, ih]

theorem lastWrite_of_lastOk (content : SlabID → Option SSlab) (id : SlabID) :
    ∀ (R : List (Eff × (SlabID → Option SSlab))), LastOk content id R →
      lastWrite R.reverse id = lastWrite ((R.reverse.map (·.1)).map (fun e => (e, content))) id := by
  rw [lastWrite_eq, lastOk_eq]; exact WE2E.lastWrite_of_lastOk content id

end Atree.E2E

import AtreeProofs.E2EBytesSpec
import AtreeProofs.Codec.RoundTripG
/-
  Arrays with the byte codec, LARGE-VALUE SLABS OF ANY STORABLE the codec model supports (plain
  values, slab references, and – beyond `E2EBytesSpec.lean` – wrapped values
  `hx.SomeStorable`, nested to any depth: `Codec.Slab.storableG`).  DEFINITIONS ONLY; theorems in
  `AtreeProofs/Props/E2EBytesG.lean`.

  The array model is parametric in what a caller value IS: an `Elem` is a size and a payload number.
  A value that fits the inline limit is stored inline and must be a plain value of the harness; a
  value that does not fit is moved to a large-value slab, and what that slab holds is given by an
  interpretation `LargeInterp`: `γ v` is the storable written to the slab of the value `v`, `δ`
  reads it back.  (`E2EBytesSpec.lean` is the special case `γ = Stor.ofElem`.)
-/
namespace Atree.E2E
open Atree Atree.Codec Gen

/-- what the large-value slab of a caller value holds, and how it is read back -/
structure LargeInterp where
  γ : Elem → Stor
  δ : Stor → Option Elem
  /-- the values whose large-value slab can be encoded -/
  ok : Elem → Bool
  /-- a flat storable is the plain encoding of the value -/
  flat : ∀ v, ok v = true → (γ v).isFlat = true → γ v = Stor.ofElem v ∧ validElem v
  /-- otherwise it is a wrapped storable without inlined slab (the Go encoder refuses those) that
      meets the encoder's preconditions, nesting within the CBOR limit -/
  wrapped : ∀ v, ok v = true → (γ v).isFlat = false →
    ∃ x, γ v = .some x ∧ x.RT ∧ x.noInl ∧ x.vneed + 1 ≤ maxNestedLevels
  inv : ∀ v, ok v = true → δ (γ v) = some v

variable (I : LargeInterp)

/-- the stored slab as the codec sees it -/
def toSlabG (id : SlabID) : SSlab → Slab
  | .large v => if (I.γ v).isFlat then .storable id v else .storableG id (I.γ v)
  | v => toSlab id v

/-- what the decoder returns, as a stored slab -/
def ofSlabG : Slab → Option SSlab
  | .storableG _ s => (I.δ s).map .large
  | sl => ofSlab sl

/-- the encoder's preconditions -/
def OkG : SSlab → Prop
  | .large v => I.ok v = true
  | v => OkS v

instance (v : SSlab) : Decidable (OkG I v) := by
  cases v with
  | tree t ty => dsimp only [OkG]; infer_instance
  | large e => dsimp only [OkG]; infer_instance

/-- `EncodeSlab` -/
def encG (v : SSlab) : Bytes := encodeSlab (toSlabG I (ownId v) v)

/-- `DecodeSlab(id, data)` -/
def decG (id : SlabID) (b : Bytes) : Option SSlab :=
  match decodeSlab id b 0 with
  | .ok sl _ => ofSlabG I sl
  | _ => none

/-- THE KEYED BYTE CODEC with general large-value slabs (see `E2E.keyedCodec`) -/
def keyedCodecG : Codec SSlab (SlabID × Bytes) :=
  { enc := fun v => if OkG I v then some (ownId v, encG I v) else none,
    dec := fun _ p => decG I p.1 p.2,
    size := fun v => (toSlabG I (ownId v) v).byteSize }

/-- a request whose value can be encoded: a value that fits the inline limit is a plain value of
    the harness, a larger one has an encodable large-value slab -/
def AOp.EncG (T : Nat) : AOp → Prop
  | .insert _ v | .append v | .set _ v =>
    (v.size ≤ maxInlineArr T → validElem v) ∧ (maxInlineArr T < v.size → I.ok v = true)
  | .setType ty => ty < 2 ^ 64
  | _ => True

instance (T : Nat) (op : AOp) : Decidable (AOp.EncG I T op) := by
  cases op <;> (dsimp only [AOp.EncG]; infer_instance)

end Atree.E2E

import AtreeProofs.E2ESpec
import AtreeProofs.ArrayRefs
/-
  END-TO-END specification with DISPOSAL (arrays).  DEFINITIONS ONLY (the theorems are
  in `AtreeProofs/Props/E2EDispose.lean`).

  C09: "After any history in which the caller disposes of every value the library hands back on
  removal or overwrite, the set of slabs in storage is exactly the set reachable from the live root
  containers ... and nothing else remains."

  `E2E.stepS` runs one request and its storage calls; the large-value slab of an overwritten /
  removed / popped element stays in storage (the library hands the element back, the CALLER owns it).
  `stepD` is the caller that disposes of it, as the harness does (`DSP` lines, `e.dispose`):
  `storage.Remove(id)` for every reference `⟨19, .ref id⟩` the request handed back.
-/
namespace Atree.E2ED
open Atree Gen E2E

variable {β : Type}

/-- The references a request hands back to the caller: `Set` the overwritten element, `Remove` the
    removed element, `PopIterate` every element; a rejected request hands back nothing. -/
def handed (T : Nat) (st : Arr × Ctx) : AOp → List SlabID
  | .set i v =>
    match st.1.set T i v st.2 with
    | .ok (old, _) => refIdsOf [old]
    | .error _ => []
  | .remove i =>
    match st.1.remove T i st.2 with
    | .ok (old, _) => refIdsOf [old]
    | .error _ => []
  | .popIterate => refIdsOf (st.1.popIterate st.2).1
  | _ => []

/-- the caller disposes of large-value slabs: one `storage.Remove(id)` each -/
def dispose (c : Codec SSlab β) (s : St SSlab β) (ids : List SlabID) : St SSlab β :=
  St.run c s (ids.map (fun id => (Op.remove id : Op SSlab)))

/-- One request, its storage calls, then disposal of what was handed back. -/
def stepD (c : Codec SSlab β) (T : Nat) (x : (Arr × Ctx) × St SSlab β) (op : AOp) :
    (Arr × Ctx) × St SSlab β :=
  let y := stepS c T x op
  (y.1, dispose c y.2 (handed T x.1 op))

def runD (c : Codec SSlab β) (T : Nat) (x : (Arr × Ctx) × St SSlab β) (ops : List AOp) :
    (Arr × Ctx) × St SSlab β := ops.foldl (stepD c T) x

/-- The LIVE large-value slabs: those referenced by a current element, with the value the
    reference resolves to. -/
def live (st : Arr × Ctx) (id : SlabID) : Option Elem :=
  if id ∈ st.1.refIds then AList.find? st.2.created id else none

/-- every reference element of the array resolves to a created large-value slab -/
def Resolves (st : Arr × Ctx) : Prop :=
  ∀ id ∈ st.1.refIds, (AList.find? st.2.created id).isSome

/-- The invariant of a history with disposal. `rep.view` is the exact-heap statement: on the
    owner address the storage holds the slabs of the tree and the large-value slabs of the CURRENT
    elements, and nothing else. -/
structure GoodD (c : Codec SSlab β) (T : Nat) (x : (Arr × Ctx) × St SSlab β) : Prop where
  inv : ArrInv T x.1.1 x.1.2.ctr
  refsR : ARefsOk x.1.1 x.1.2.ctr
  rep : Rep c x.2 x.1.1 (live x.1) x.1.2.ctr
  st : Inv c x.2
  addr : x.1.1.addr ≠ 0
  sync : AllocSync x.2 x.1.1.addr x.1.2.ctr
  caddr : ∀ p ∈ x.1.2.created, p.1.addr = x.1.1.addr
  cle : ∀ p ∈ x.1.2.created, p.1.idx ≤ x.1.2.ctr
  res : Resolves x.1

end Atree.E2ED

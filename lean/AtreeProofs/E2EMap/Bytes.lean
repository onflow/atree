import AtreeProofs.E2EMapBytesSpec
import AtreeProofs.E2E.Bytes
/-
  The byte codec round-trips on the stored slabs of maps: the decoder's output, rebuilt with
  the digest function, is the stored slab (`ofSlabM_toSlabM`); the encoder's preconditions on the
  model side imply those of the codec model (`mapDataOK_data`, `mapDataOK_group`,
  `mapMetaOK_index`); hence `decM_encM` and the abstract law for the keyed codec.
-/
namespace Atree.E2EM
open Atree Atree.Codec Gen
open Atree.E2E (optAll optAll_map tyNum)

variable {r : Nat} {L : Nat} {D : DigestFn L}

theorem stor_ofElem_size (e : Elem) (h : validElem e) : (Stor.ofElem e).size = e.size := by
  unfold Stor.ofElem
  cases hp : e.pay with
  | val p => rfl
  | ref id =>
    unfold validElem at h
    rw [hp] at h
    simp only [Stor.size]
    exact h.1.symm

theorem elemOfStor_ofElem (e : Elem) (h : validElem e) : elemOfStor (Stor.ofElem e) = some e := by
  obtain ⟨sz, pay⟩ := e
  unfold Stor.ofElem
  cases pay with
  | val p => rfl
  | ref id =>
    unfold validElem at h
    simp only at h
    simp only [elemOfStor, h.1]

theorem toSEl_size (x : SElem) (h : SElemEnc D x) : (toSEl x).size = x.size := by
  simp only [toSEl, SEl.size, keyStor, Stor.size, stor_ofElem_size x.val h.2.2.1, h.2.2.2.1]

theorem ofSEl_toSEl (x : SElem) (h : SElemEnc D x) : ofSEl D (toSEl x) = some x := by
  obtain ⟨⟨ks, kp, kd⟩, v, sz⟩ := x
  obtain ⟨h1, _, h3, h4, _⟩ := h
  simp only at h1 h3 h4
  simp only [toSEl, keyStor, ofSEl, elemOfStor_ofElem v h3, Option.map_some, ← h1, ← h4]

theorem isEmptyElems_eq : ∀ (r : Nat) (e : MElems r), IsEmptyElems r e → e = emptyElems r
  | 0, (se : SingleElems), h => by
    obtain ⟨elems, size, level⟩ := se
    obtain ⟨h1, h2, h3⟩ := h
    simp only at h1 h2 h3
    subst h2 h3
    have : elems = [] := List.eq_nil_of_length_eq_zero h1
    subst this
    rfl
  | r + 1, (he : HkeyElems (MElems r)), h => by
    obtain ⟨hkeys, elems, size, level⟩ := he
    obtain ⟨h0, h1, h2, h3⟩ := h
    simp only at h0 h1 h2 h3
    subst h0 h2 h3
    have : elems = [] := List.eq_nil_of_length_eq_zero h1
    subst this
    rfl

theorem ofMElWith_toMElWith {α : Type} (f : α → MEls) (g : MEls → Option α) (empty : α) (P E : α → Prop)
    (hP : ∀ a, P a → g (f a) = some a) (hE : ∀ a, E a → a = empty) (el : MElemF α)
    (h : ElemEncF D P E el) : ofMElWith D g empty (toMElWith f el) = some el := by
  cases el with
  | single x => simp only [toMElWith, ofMElWith, ofSEl_toSEl x h, Option.map_some]
  | inl a => simp only [toMElWith, ofMElWith, hP a h, Option.map_some]
  | ext id sz s =>
    obtain ⟨h1, _, _, h4, h5⟩ := h
    obtain ⟨hdr, elems⟩ := s
    simp only at h4 h5
    rw [hE elems h5, h4, h1]
    rfl

theorem ofMEls_toMEls : ∀ (r : Nat) (e : MElems r), ElemsEnc D r e → ofMEls D r (toMEls r e) = some e
  | 0, (se : SingleElems), h => by
    obtain ⟨_, _, _, h4, h5, _⟩ := h
    obtain ⟨elems, size, level⟩ := se
    simp only at h4 h5
    subst h5
    simp only [toMEls, ofMEls, optAll_map (ofSEl D) toSEl elems (fun x hx => ofSEl_toSEl x (h4 x hx))]
    rfl
  | r + 1, (he : HkeyElems (MElems r)), h => by
    obtain ⟨_, _, _, _, h5, h6, _⟩ := h
    obtain ⟨hkeys, elems, size, level⟩ := he
    simp only at h5 h6
    have := optAll_map (ofMElWith D (ofMEls D r) (emptyElems r)) (toMElWith (toMEls r)) elems
      (fun el hel => ofMElWith_toMElWith (toMEls r) (ofMEls D r) (emptyElems r) (ElemsEnc D r) (IsEmptyElems r)
        (fun a ha => ofMEls_toMEls r a ha) (isEmptyElems_eq r) el (h5 el hel))
    subst h6
    simp only [toMEls, ofMEls, this]
    rfl

theorem xback_mextra (x : Option (Nat × Nat × Nat)) : xback (mextra x) = x := by
  cases x with
  | none => rfl
  | some p => rfl

theorem mextra_isSome (x : Option (Nat × Nat × Nat)) : (mextra x).isSome = x.isSome := by
  cases x <;> rfl

theorem map_ofMChildHdr (chs : List MHdr) : (chs.map toMChildHdr).map ofMChildHdr = chs := by
  rw [List.map_map]
  have : ofMChildHdr ∘ toMChildHdr = id := by funext h; rfl
  rw [this, List.map_id]

/-- the decoder's output, rebuilt with `D`, is the stored slab -/
theorem ofSlabM_toSlabM (D : DigestFn (r + 1)) (id : SlabID) (v : MSSlab r) (ok : OkM D v) :
    ofSlabM D (toSlabM id v) = some v := by
  cases v with
  | large e => rfl
  | tree t x =>
    cases t with
    | data s =>
      obtain ⟨_, h2, h3, h4, h5, h6, _, _, _⟩ := ok
      obtain ⟨hdr, next, elems, root, inlined⟩ := s
      obtain ⟨hid, hsz, hfk⟩ := hdr
      simp only [MDataSlab.prefixSize] at h3 h4 h5 h6
      subst h6 h5
      simp only [toSlabM, ofSlabM, Bool.false_eq_true, if_false, ofMEls_toMEls (r + 1) elems h2,
        xback_mextra, mextra_isSome]
      rw [h3, h4]
      cases x <;> rfl
    | index h chs root =>
      obtain ⟨_, _, _, _, h5, h6, h7⟩ := ok
      obtain ⟨hid, hsz, hfk⟩ := h
      simp only at h5 h6 h7
      subst h7
      simp only [toSlabM, ofSlabM, map_ofMChildHdr, xback_mextra, mextra_isSome, List.length_map, ← h5, ← h6]
    | group g =>
      obtain ⟨_, hx, h3, h4, h5, _⟩ := ok
      obtain ⟨hdr, elems⟩ := g
      obtain ⟨hid, hsz, hfk⟩ := hdr
      simp only at h3 h4 h5
      simp only [toSlabM, ofSlabM, if_true, ofMEls_toMEls r elems h3, Option.map_some, xback_mextra, ← h4, ← h5]

theorem rtSElList_of {l : List SEl} : (∀ e ∈ l, e.RT) → rtSElList l :=
  list_of_forall (P := rtSElList) (by simp only [rtSElList]) fun _ _ h1 h2 => by simp only [rtSElList]; exact ⟨h1, h2⟩

theorem rtMElList_of {l : List MEl} : (∀ e ∈ l, e.RT) → rtMElList l :=
  list_of_forall (P := rtMElList) (by simp only [rtMElList]) fun _ _ h1 h2 => by simp only [rtMElList]; exact ⟨h1, h2⟩

theorem noInlSElList_of {l : List SEl} : (∀ e ∈ l, e.noInl) → noInlSElList l :=
  list_of_forall (P := noInlSElList) (by simp only [noInlSElList]) fun _ _ h1 h2 => by
    simp only [noInlSElList]; exact ⟨h1, h2⟩

theorem noInlMElList_of {l : List MEl} : (∀ e ∈ l, e.noInl) → noInlMElList l :=
  list_of_forall (P := noInlMElList) (by simp only [noInlMElList]) fun _ _ h1 h2 => by
    simp only [noInlMElList]; exact ⟨h1, h2⟩

theorem vneedSElList_le {n : Nat} {l : List SEl} : (∀ e ∈ l, e.vneed ≤ n) → vneedSElList l ≤ n :=
  list_of_forall (P := fun l => vneedSElList l ≤ n) (by simp only [vneedSElList]; omega) fun _ _ h1 h2 => by
    simp only [vneedSElList]; omega

theorem vneedMElList_le {n : Nat} {l : List MEl} : (∀ e ∈ l, e.vneed ≤ n) → vneedMElList l ≤ n :=
  list_of_forall (P := fun l => vneedMElList l ≤ n) (by simp only [vneedMElList]; omega) fun _ _ h1 h2 => by
    simp only [vneedMElList]; omega

theorem sizeSEl_map : ∀ (l : List SElem), (∀ x ∈ l, SElemEnc D x) →
    sizeSEl (l.map toSEl) = (l.map (·.size)).sum
  | [], _ => by simp [sizeSEl]
  | x :: l, h => by
    simp only [List.map_cons, sizeSEl, List.sum_cons]
    rw [toSEl_size x (h x (by simp)), sizeSEl_map l (fun y hy => h y (by simp [hy]))]

theorem sizeMEl_map {α : Type} (o : ElemsOps α) (f : α → MEls) : ∀ (l : List (MElemF α)),
    (∀ el ∈ l, (toMElWith f el).size = el.size o) →
    sizeMEl (l.map (toMElWith f)) = HkeyElems.elemSizes o l
  | [], _ => by simp [sizeMEl, HkeyElems.elemSizes]
  | el :: l, h => by
    have ih := sizeMEl_map o f l (fun y hy => h y (by simp [hy]))
    simp only [HkeyElems.elemSizes] at ih ⊢
    simp only [List.map_cons, sizeMEl, List.sum_cons]
    rw [h el (by simp), ih]
    omega

theorem stor_ofElem_RT (e : Elem) (h : validElem e) : (Stor.ofElem e).RT := by
  obtain ⟨sz, pay⟩ := e
  unfold Stor.ofElem
  cases pay with
  | val p => exact h
  | ref id =>
    unfold validElem at h
    simp only at h
    exact ⟨h.2.1, h.2.2⟩

theorem stor_ofElem_noInl (e : Elem) : (Stor.ofElem e).noInl := by
  unfold Stor.ofElem
  cases e.pay <;> simp [Stor.noInl]

theorem stor_ofElem_vneed (e : Elem) : (Stor.ofElem e).vneed = 1 := by
  unfold Stor.ofElem
  cases e.pay <;> simp [Stor.vneed]

theorem toSEl_facts (x : SElem) (h : SElemEnc D x) :
    (toSEl x).RT ∧ (toSEl x).noInl ∧ (toSEl x).vneed = 2 := by
  have hsz := toSEl_size x h
  obtain ⟨_, h2, h3, h4, h5⟩ := h
  refine ⟨?_, ?_, ?_⟩
  · simp only [toSEl, SEl.RT, keyStor]
    refine ⟨h2, stor_ofElem_RT _ h3, ?_⟩
    simp only [toSEl, SEl.size, keyStor] at hsz
    omega
  · simp only [toSEl, SEl.noInl, keyStor, Stor.noInl, true_and]
    exact stor_ofElem_noInl _
  · simp only [toSEl, SEl.vneed, keyStor, Stor.vneed, stor_ofElem_vneed]
    rfl

theorem ops_size_zero (se : SingleElems) : (MElems.ops 0).size se = se.size := rfl
theorem ops_size_succ (he : HkeyElems (MElems r)) : (MElems.ops (r + 1)).size he = he.size := rfl

/-- the model-side preconditions give those of the codec model, and the sizes agree -/
theorem toMEls_facts : ∀ (r : Nat) (e : MElems r), ElemsEnc D r e →
    (toMEls r e).RT ∧ (toMEls r e).noInl ∧ (toMEls r e).vneed ≤ 4 + 3 * r ∧
    (toMEls r e).size = (MElems.ops r).size e
  | 0, (se : SingleElems), h => by
    obtain ⟨h1, h2, h3, h4, h5, h6⟩ := h
    have hsz : (toMEls 0 se).size = se.size := by
      simp only [toMEls, MEls.size]
      rw [sizeSEl_map se.elems h4, h5]
    refine ⟨?_, ?_, ?_, hsz⟩
    · simp only [toMEls, MEls.size] at hsz
      simp only [toMEls, MEls.RT, List.length_map]
      refine ⟨h1, ?_, h3, rtSElList_of ?_, by omega⟩
      · intro hnil
        exact h2 (List.map_eq_nil_iff.1 hnil)
      · intro e he
        obtain ⟨x, hx, rfl⟩ := List.mem_map.1 he
        exact (toSEl_facts x (h4 x hx)).1
    · simp only [toMEls, MEls.noInl]
      apply noInlSElList_of
      intro e he
      obtain ⟨x, hx, rfl⟩ := List.mem_map.1 he
      exact (toSEl_facts x (h4 x hx)).2.1
    · simp only [toMEls, MEls.vneed]
      have : vneedSElList (se.elems.map toSEl) ≤ 2 := by
        apply vneedSElList_le
        intro e he
        obtain ⟨x, hx, rfl⟩ := List.mem_map.1 he
        rw [(toSEl_facts x (h4 x hx)).2.2]
        exact Nat.le_refl 2
      omega
  | r + 1, (he : HkeyElems (MElems r)), h => by
    obtain ⟨h1, h2, h3, h4, h5, h6, h7⟩ := h
    have hel : ∀ el ∈ he.elems, (toMElWith (toMEls r) el).RT ∧ (toMElWith (toMEls r) el).noInl ∧
        (toMElWith (toMEls r) el).vneed ≤ 5 + 3 * r ∧
        (toMElWith (toMEls r) el).size = el.size (MElems.ops r) := by
      intro el hmem
      have hE := h5 el hmem
      cases el with
      | single x =>
        obtain ⟨g1, g2, g3⟩ := toSEl_facts x hE
        refine ⟨g1, g2, ?_, toSEl_size x hE⟩
        show (toSEl x).vneed ≤ _
        rw [g3]; omega
      | inl g =>
        obtain ⟨g1, g2, g3, g4⟩ := toMEls_facts r g hE
        refine ⟨g1, g2, ?_, ?_⟩
        · show (toMEls r g).vneed + 1 ≤ _
          omega
        · show inlineCollisionGroupPrefixSize + (toMEls r g).size = _
          rw [g4]; rfl
      | ext id sz s =>
        obtain ⟨e1, e2, e3, _, _⟩ := hE
        refine ⟨⟨e2, e3⟩, trivial, ?_, ?_⟩
        · show 2 ≤ _
          omega
        · show externalCollisionGroupPrefixSize + slabIDStorableSize = sz
          exact e1.symm
    have hsz : (toMEls (r + 1) he).size = he.size := by
      simp only [toMEls, MEls.size]
      rw [sizeMEl_map (MElems.ops r) (toMEls r) he.elems (fun el hm => (hel el hm).2.2.2), h6]
    refine ⟨?_, ?_, ?_, hsz⟩
    · simp only [toMEls, MEls.size] at hsz
      simp only [toMEls, MEls.RT, List.length_map]
      refine ⟨h1, h2, h3, h4, rtMElList_of ?_, by omega⟩
      intro e he'
      obtain ⟨el, hm, rfl⟩ := List.mem_map.1 he'
      exact (hel el hm).1
    · simp only [toMEls, MEls.noInl]
      apply noInlMElList_of
      intro e he'
      obtain ⟨el, hm, rfl⟩ := List.mem_map.1 he'
      exact (hel el hm).2.1
    · simp only [toMEls, MEls.vneed]
      have : vneedMElList (he.elems.map (toMElWith (toMEls r))) ≤ 5 + 3 * r := by
        apply vneedMElList_le
        intro e he'
        obtain ⟨el, hm, rfl⟩ := List.mem_map.1 he'
        exact (hel el hm).2.2.1
      omega

theorem validMapExtra_mextra (x : Option (Nat × Nat × Nat)) (h : XOk x) :
    ∀ y, mextra x = some y → validMapExtra y := by
  intro y hy
  cases x with
  | none => cases hy
  | some p =>
    simp only [mextra, Option.map_some, Option.some.injEq] at hy
    subst hy
    exact h

/-- a stored data slab meets `Codec.MapDataOK` -/
theorem mapDataOK_data (D : DigestFn (r + 1)) (s : MDataSlab r) (x : Option (Nat × Nat × Nat))
    (ok : OkM D (.tree (.data s) x)) :
    MapDataOK { id := s.hdr.id, next := s.next, extra := mextra x, els := toMEls (r + 1) s.elems,
                anySize := false, group := false } := by
  obtain ⟨hr, h2, h3, _, h5, h6, h7, h8, h9⟩ := ok
  obtain ⟨g1, g2, g3, g4⟩ := toMEls_facts (r + 1) s.elems h2
  refine ⟨g1, g2, ?_, h7, validMapExtra_mextra x h8, ?_⟩
  · show (toMEls (r + 1) s.elems).vneed ≤ maxNestedLevels
    simp only [maxNestedLevels]
    omega
  · show versionAndFlagSize + (toMEls (r + 1) s.elems).size + (if (mextra x).isSome then 0 else SlabIDLength) ≤ maxUint32
    rw [g4, ops_size_succ, mextra_isSome]
    simp only [MDataSlab.prefixSize, h6, h5, Bool.false_eq_true, if_false] at h3
    cases hx : x.isSome <;>
      simp only [hx, Bool.false_eq_true, if_false, if_true, versionAndFlagSize, SlabIDLength,
        mapRootDataSlabPrefixSize, mapDataSlabPrefixSize] at h3 ⊢ <;> omega

/-- the slab of an external collision group meets `Codec.MapDataOK` -/
theorem mapDataOK_group (D : DigestFn (r + 1)) (g : GroupSlab (MElems r)) (x : Option (Nat × Nat × Nat))
    (ok : OkM D (.tree (.group g) x)) :
    MapDataOK { id := g.hdr.id, next := SlabID.undef, extra := mextra x, els := toMEls r g.elems,
                anySize := true, group := true } := by
  obtain ⟨hr, hx, h3, h4, _, h6⟩ := ok
  obtain ⟨g1, g2, g3, g4⟩ := toMEls_facts r g.elems h3
  have hxn : x = none := by cases x <;> simp_all
  subst hxn
  refine ⟨g1, g2, ?_, E2E.validNext_undef, (fun y hy => by cases hy), ?_⟩
  · show (toMEls r g.elems).vneed ≤ maxNestedLevels
    simp only [maxNestedLevels]
    omega
  · show versionAndFlagSize + (toMEls r g.elems).size + (if (mextra none).isSome then 0 else SlabIDLength) ≤ maxUint32
    rw [g4]
    simp only [mextra, Option.map_none, Option.isSome_none, Bool.false_eq_true, if_false, versionAndFlagSize,
      SlabIDLength, mapDataSlabPrefixSize] at h4 ⊢
    omega

/-- a stored index slab meets `Codec.MapMetaOK` -/
theorem mapMetaOK_index (D : DigestFn (r + 1)) (h : MHdr) (chs : List MHdr) (root : Bool)
    (x : Option (Nat × Nat × Nat)) (ok : OkM D (.tree (.index h chs root) x : MSSlab r)) :
    MapMetaOK { id := h.id, extra := mextra x, childHdrs := chs.map toMChildHdr } := by
  obtain ⟨h1, h2, h3, h4, _, _, _⟩ := ok
  refine ⟨h1, ?_, by simpa using h3, validMapExtra_mextra x h4⟩
  intro c hc
  obtain ⟨c0, hc0, rfl⟩ := List.mem_map.1 hc
  exact h2 c0 hc0

theorem toSlabM_id (id : SlabID) (v : MSSlab r) (h : ownIdM v = id ∨ ∃ e, v = .large e) :
    (toSlabM id v).id = id := by
  cases v with
  | tree t x =>
    rcases h with h | ⟨e, he⟩
    · cases t <;> exact h
    · cases he
  | large e => rfl

/-- Round trip at the own key: `DecodeSlab(id, EncodeSlab(slab))`, rebuilt with `D`, is the slab, for
    every stored slab of a map that meets the encoder's preconditions, `id` being the slab's ID (any
    `id` for a large-value slab, whose header holds no ID). -/
theorem decM_encM (D : DigestFn (r + 1)) (v : MSSlab r) (ok : OkM D v) (id : SlabID)
    (hid : ownIdM v = id ∨ ∃ e, v = .large e) : decM D id (encM v) = some v := by
  cases v with
  | large e =>
    unfold decM
    show (match decodeSlab id (encodeStorableSlab e) 0 with | .ok sl _ => ofSlabM D sl | _ => none) = _
    rw [C07.decode_encode_storable id e ok 0]
    rfl
  | tree t x =>
    have hown : ownIdM (.tree t x) = id := by
      rcases hid with h | ⟨e, he⟩
      · exact h
      · cases he
    cases t with
    | data s =>
      have hok := mapDataOK_data D s x ok
      have := C07.decode_encode_mdata _ hok 0
      simp only at this
      have hown' : s.hdr.id = id := hown
      rw [hown'] at this
      unfold decM encM
      simp only [toSlabM, encodeSlab]
      rw [hown', this]
      have := ofSlabM_toSlabM D id (.tree (.data s) x) ok
      simp only [toSlabM, hown'] at this
      exact this
    | index h chs root =>
      have hok := mapMetaOK_index D h chs root x ok
      have := C07.decode_encode_mindex _ hok 0
      simp only at this
      have hown' : h.id = id := hown
      rw [hown'] at this
      unfold decM encM
      simp only [toSlabM, encodeSlab]
      rw [hown', this]
      have := ofSlabM_toSlabM D id (.tree (.index h chs root) x) ok
      simp only [toSlabM, hown'] at this
      exact this
    | group g =>
      have hok := mapDataOK_group D g x ok
      have := C07.decode_encode_mdata _ hok 0
      simp only at this
      have hown' : g.hdr.id = id := hown
      rw [hown'] at this
      unfold decM encM
      simp only [toSlabM, encodeSlab]
      rw [hown', this]
      have := ofSlabM_toSlabM D id (.tree (.group g) x) ok
      simp only [toSlabM, hown'] at this
      exact this

/-- the keyed byte codec for maps satisfies the abstract round-trip law -/
theorem keyedCodecM_roundTrip (D : DigestFn (r + 1)) : RoundTrip (keyedCodecM D) := by
  intro id v b h
  simp only [keyedCodecM] at h ⊢
  split at h
  · rename_i ok
    cases h
    exact decM_encM D v ok (ownIdM v) (Or.inl rfl)
  · cases h

theorem keyedCodecM_enc_isSome (D : DigestFn (r + 1)) (v : MSSlab r) (ok : OkM D v) :
    ((keyedCodecM D).enc v).isSome := by
  simp [keyedCodecM, ok]

/-- under its own key, the keyed codec is `DecodeSlab(key, bytes)` -/
theorem keyedCodecM_dec_own (D : DigestFn (r + 1)) (id : SlabID) (b : Bytes) :
    (keyedCodecM D).dec id (id, b) = decM D id b := rfl

end Atree.E2EM

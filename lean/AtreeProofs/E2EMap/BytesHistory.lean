import AtreeProofs.E2EMap.Bytes
import AtreeProofs.E2E.BytesHistory
import AtreeProofs.E2EMap.HistoryFull
import AtreeProofs.E2EMap.BytesStored
/-
  Histories whose keys and values the harness can encode: the stored keys and values stay
  encodable (`MEncSt`), hence every slab pending in the storage meets the encoder's preconditions
  (`noEncodeFailure_of_goodF`).
-/
namespace Atree.E2EM
open Atree Atree.Codec Gen MTree
open Atree.E2E (ElemEnc)

variable {β : Type} {r : Nat}

/-- the stored keys, the stored values, the large values and the type info can be encoded -/
structure MEncSt (st : OMap r × Ctx) : Prop where
  entries : ∀ p ∈ st.1.toList, validElem ⟨p.1.size, .val p.1.pay⟩ ∧ ElemEnc p.2
  created : ∀ p ∈ st.2.created, validElem p.2
  ty : st.1.ty < 2 ^ 64

theorem MOp.enc_ty {op : MOp} (h : op.Enc) {ty : Nat} (hty : ty < 2 ^ 64) : specTyM ty [op] < 2 ^ 64 := by
  cases op <;> first | exact hty | exact h

/-- the bytes half is kept by a request that is served: the pairs of the new map are old pairs and
    the binding written, what was created is what `Value.Storable` creates -/
theorem MServed.encSt {T : Nat} {D : DigestFn (r + 1)} {cfg : MCfg} {m : OMap r} {ctx : Ctx} {op : MOp}
    {st' : OMap r × Ctx} (h : MServed T D cfg m ctx op st') (hop : op.Ok T D) (henc : op.Enc)
    (he : MEncSt (m, ctx)) : MEncSt st' := by
  cases h with
  | rejected => exact he
  | done m' ctx' E C w gone kept h =>
    obtain ⟨sum, hw, cre, dict, old, new, _, ty, seed⟩ := h
    have hwr : (∀ p ∈ wrOf cfg ctx w, validElem ⟨p.1.size, .val p.1.pay⟩ ∧ ElemEnc p.2) ∧
        ∀ p ∈ creOf cfg ctx w, validElem p.2 := by
      cases w with
      | none => exact ⟨fun _ hp => (nomatch hp), he.created⟩
      | some kv =>
        obtain rfl := MOp.eq_set hw
        obtain ⟨C', hC', hst⟩ := storable_tsv cfg kv.1 hop.2 ctx
        obtain ⟨h1, h2⟩ := hst.forall_stored (P := ElemEnc) (Q := validElem)
          (fun _ => E2E.elemEnc_of_valid henc.2 hop.2.2) (fun _ => rfl) (fun _ => henc.2)
        refine ⟨fun p hp => ?_, fun p hp => ?_⟩
        · rw [List.mem_singleton.1 hp]; exact ⟨henc.1, h1⟩
        · exact (List.mem_append.1 ((show creOf cfg ctx (some kv) = _ from hC') ▸ hp)).elim (he.created p) (h2 p)
    exact ⟨fun p hp => (mem_of_perms old new p hp).elim (hwr.1 p) (he.entries p),
      fun p hp => hwr.2 p (cre ▸ hp), by show m'.ty < _; rw [ty]; exact MOp.enc_ty henc he.ty⟩

theorem mencSt_runS (c : Codec (MSSlab r) β) (hc : RoundTrip c) (T : Nat) (hT : legalThreshold T = true)
    (D : DigestFn (r + 1)) (cfg : MCfg) :
    ∀ (ops : List MOp) (x : (OMap r × Ctx) × St (MSSlab r) β), MGoodF c T D cfg x → MEncSt x.1 →
      (∀ op ∈ ops, op.Ok T D) → (∀ op ∈ ops, op.Enc) → MEncSt (runS c cfg x ops).1 :=
  fun ops x hg he hok henc =>
    (foldl_sim (stepS c cfg) (fun (u : Unit) _ => u) (fun op => op.Ok T D ∧ op.Enc)
      (fun x _ => MGoodF c T D cfg x ∧ MEncSt x.1)
      (fun x _ op hop h => ⟨(mgoodF_stepS c hc T hT D cfg x h.1 op hop.1).1,
        (served_stepM hT x.1.1 x.1.2 h.1.model op hop.1).encSt hop.1 hop.2 h.2⟩)
      ops x () (fun o ho => ⟨hok o ho, henc o ho⟩) ⟨hg, he⟩).2

theorem mencSt_new (c : Codec (MSSlab r) β) (addr ty : Nat) (seedOf : SlabID → Nat) (hty : ty < 2 ^ 64) :
    MEncSt (newS c addr ty seedOf).1 := by
  refine ⟨?_, ?_, hty⟩
  · intro p hp; exact absurd hp (by simp [newS, OMap.new, OMap.toList, MTree.toList, HkeyElems.toList])
  · intro p hp; exact absurd hp (by simp [newS, OMap.new, Ctx.alloc, Ctx.emit])

/-- the field-width bounds on the final state that the history invariants do not give -/
structure MWidths (D : DigestFn (r + 1)) (st : OMap r × Ctx) : Prop where
  levels : r ≤ 8
  digests : ∀ p, ∀ h ∈ D.dg p, h < 2 ^ 64
  addr : st.1.addr < 2 ^ 64
  ctr : st.2.ctr < 2 ^ 64
  count : st.1.count < 2 ^ 64
  seed : st.1.seed < 2 ^ 64
  groups : GroupsFit st.1

/-- from the history invariants to the encoder's preconditions on the final state -/
theorem mencOk_of_goodF (c : Codec (MSSlab r) β) (T : Nat) (D : DigestFn (r + 1)) (cfg : MCfg)
    (x : (OMap r × Ctx) × St (MSSlab r) β) (hg : MGoodF c T D cfg x) (he : MEncSt x.1) (hw : MWidths D x.1) :
    MEncOk D x.1.1 (AList.find? x.1.2.created) x.1.2.ctr := by
  exact ⟨hw.levels, hw.digests, fun p hmem => ⟨(he.entries p hmem).1,
      E2E.validElem_of_elemEnc (he.entries p hmem).2 (hg.refs p hmem) hg.caddr hg.created_le hw.addr hw.ctr⟩,
    fun id v hv => he.created _ (AList.mem_of_find? hv), hw.addr, hw.ctr, he.ty, hw.count, hw.seed, hw.groups⟩

theorem keys_le_of_goodF (c : Codec (MSSlab r) β) (T : Nat) (D : DigestFn (r + 1)) (cfg : MCfg)
    (x : (OMap r × Ctx) × St (MSSlab r) β) (hg : MGoodF c T D cfg x) :
    ∀ id ∈ AList.keys (MTree.slabs x.1.1.d x.1.1.root), id.idx ≤ x.1.2.ctr := by
  intro id hid
  have ha := hg.aok id hid
  rw [keys_mslabs] at hid
  exact hg.ctx id hid ha

/-- No encoding failure: every slab pending in a storage that represents the map can be encoded. -/
theorem noEncodeFailure_of_goodF (T : Nat) (hT : legalThreshold T = true) (D : DigestFn (r + 1)) (cfg : MCfg)
    (x : (OMap r × Ctx) × St (MSSlab r) (SlabID × Bytes)) (hg : MGoodF (keyedCodecM D) T D cfg x)
    (he : MEncSt x.1) (hw : MWidths D x.1) :
    NoEncodeFailure (keyedCodecM D) x.2 :=
  (mgoodF_iff.1 hg).2.1.noEncodeFailure fun id v hv => keyedCodecM_enc_isSome D v
    (mstored_ok hT x.1.1 _ _ hg.inv hg.ids hg.aok (keys_le_of_goodF _ T D cfg x hg)
      (mencOk_of_goodF _ T D cfg x hg he hw) id v (mstored_cview _ ▸ hv)).1

end Atree.E2EM

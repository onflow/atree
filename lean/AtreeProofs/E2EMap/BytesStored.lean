import AtreeProofs.E2E.Bytes
import AtreeProofs.E2EMap.RepStep
import AtreeProofs.E2EMapBytesSpec
import AtreeProofs.Map.EffectsTop
/-
  Every slab that the representation of a map satisfying `MapInv` puts into the storage meets
  the encoder's preconditions (`OkM`) and is filed under its own ID (`mstored_ok`), given encodable
  keys / values and the field-width bounds `MEncOk`.
-/
namespace Atree.E2EM
open Atree Atree.Codec Gen

variable {r : Nat} {T L : Nat} {D : DigestFn L}

theorem emptyElems_isEmpty : ∀ r, IsEmptyElems r (emptyElems r)
  | 0 => ⟨rfl, rfl, rfl⟩
  | _ + 1 => ⟨rfl, rfl, rfl, rfl⟩

theorem le_sum_of_mem' : ∀ {l : List Nat} {a : Nat}, a ∈ l → a ≤ l.sum :=
  fun {l a} h => by simpa using le_sum_map_of_mem (fun n : Nat => n) h

theorem elemSizes_ge {α : Type} (o : ElemsOps α) (l : List (MElemF α)) :
    digestSize * l.length ≤ HkeyElems.elemSizes o l := by
  unfold HkeyElems.elemSizes
  have := length_mul_le_sum (n := digestSize) (l := l.map (fun e => e.size o + digestSize)) (by
    intro a ha
    obtain ⟨e, _, rfl⟩ := List.mem_map.1 ha
    omega)
  simpa using this

theorem elem_size_le {α : Type} (o : ElemsOps α) (l : List (MElemF α)) (el : MElemF α) (h : el ∈ l) :
    el.size o + digestSize ≤ HkeyElems.elemSizes o l := by
  unfold HkeyElems.elemSizes
  exact le_sum_map_of_mem (fun e => e.size o + digestSize) h

theorem selemEnc_of_ok {x : SElem} (h : SElemOk T L D x) (hkv : KVOk (x.key, x.val)) (hsz : x.size ≤ maxUint32) :
    SElemEnc D x :=
  ⟨h.1.1, hkv.1, hkv.2, h.2.2.2, hsz⟩

theorem selem_size_ge {x : SElem} (h : SElemOk T L D x) : 3 ≤ x.size := by
  have h1 := h.1.2.1
  have h2 := h.2.1
  rw [h.2.2.2]
  simp only [singleElementPrefixSize]
  omega

/-! Every digest in a digest table is a digest of some key below it. -/

/-- a non-empty `elements` holds a key with the digest prefix `path` -/
theorem elems_has_key : ∀ (r ℓ : Nat) (path : List Nat) (e : MElems r), ElemsInv T L D r ℓ path e →
    path.length = ℓ → 1 ≤ (MElems.ops r).count e →
    ∃ k : MKey, k.digs = D.dg (k.size, k.pay) ∧ k.digs.take ℓ = path
  | 0, ℓ, path, (se : SingleElems), h, _, hc => by
    obtain ⟨_, _, _, h4, _⟩ := h
    have hc' : 1 ≤ se.elems.length := hc
    cases hl : se.elems with
    | nil => rw [hl] at hc'; simp at hc'
    | cons x rest =>
      obtain ⟨h5, h6⟩ := h4 x (by rw [hl]; simp)
      exact ⟨x.key, h5.1.1, h6⟩
  | r + 1, ℓ, path, (he : HkeyElems (MElems r)), h, hp, hc => by
    have hc' : 0 < he.elems.length := hc
    obtain ⟨el, hel⟩ := List.exists_mem_of_length_pos hc'
    obtain ⟨hk, this⟩ := ((elemsInv_succ_iff T L D r ℓ path he).1 h).elemOk_of_mem hel
    have hp' : (path ++ [hk]).length = ℓ + 1 := by simp [hp]
    cases el with
    | single x =>
      exact ⟨x.key, this.1.1.1, take_of_take_succ this.2 hp⟩
    | inl g =>
      obtain ⟨k, hk1, hk2⟩ := elems_has_key r (ℓ + 1) _ g this.1 hp' this.2.1
      exact ⟨k, hk1, take_of_take_succ hk2 hp⟩
    | ext id sz s =>
      obtain ⟨k, hk1, hk2⟩ := elems_has_key r (ℓ + 1) _ s.elems this.ext_inv hp' this.ext_count
      exact ⟨k, hk1, take_of_take_succ hk2 hp⟩

/-- the digests of a digest table are digests of keys, hence below 2⁶⁴ -/
theorem hkeys_lt (hD : ∀ p, ∀ h ∈ D.dg p, h < 2 ^ 64) (r ℓ : Nat) (path : List Nat) (he : HkeyElems (MElems r))
    (h : ElemsInv T L D (r + 1) ℓ path he) (hp : path.length = ℓ) : ∀ hk ∈ he.hkeys, hk < 2 ^ 64 := by
  have H := (elemsInv_succ_iff T L D r ℓ path he).1 h
  intro hk hm
  obtain ⟨i, hi⟩ := List.mem_iff_getElem?.1 hm
  obtain ⟨el, hel⟩ := H.elem_at hi
  have := H.elemOk hi hel
  have hp' : (path ++ [hk]).length = ℓ + 1 := by simp [hp]
  have key : ∃ k : MKey, k.digs = D.dg (k.size, k.pay) ∧ k.digs.take (ℓ + 1) = path ++ [hk] := by
    cases el with
    | single x => exact ⟨x.key, this.1.1.1, this.2⟩
    | inl g => exact elems_has_key r (ℓ + 1) _ g this.1 hp' this.2.1
    | ext id sz s => exact elems_has_key r (ℓ + 1) _ s.elems this.ext_inv hp' this.ext_count
  obtain ⟨k, hk1, hk2⟩ := key
  have := mem_of_take_eq hk2
  rw [hk1] at this
  exact hD _ _ this

theorem fit_of_size : ∀ (r ℓ : Nat) (path : List Nat) (e : MElems r), ElemsInv T L D r ℓ path e →
    (MElems.ops r).size e < 65536 → Fit r e
  | 0, ℓ, path, (se : SingleElems), h, hs => by
    obtain ⟨_, _, h3, h4, _⟩ := h
    have hs' : se.size < 65536 := hs
    have := length_mul_le_sum (n := 3) (l := se.elems.map (·.size)) (by
      intro a ha
      obtain ⟨x, hx, rfl⟩ := List.mem_map.1 ha
      exact selem_size_ge (h4 x hx).1)
    rw [List.length_map] at this
    refine ⟨by omega, ?_⟩
    simp only [maxUint32]
    omega
  | r + 1, ℓ, path, (he : HkeyElems (MElems r)), h, hs => by
    have H := (elemsInv_succ_iff T L D r ℓ path he).1 h
    have h3 := H.len_eq
    have h5 := H.size_eq
    have hs' : he.size < 65536 := hs
    have hge := elemSizes_ge (MElems.ops r) he.elems
    simp only [digestSize] at hge
    refine ⟨by omega, by simp only [maxUint32]; omega, ?_⟩
    intro el hel
    cases el with
    | single x => trivial
    | ext id sz s => trivial
    | inl g =>
      obtain ⟨hk, this⟩ := H.elemOk_of_mem hel
      have hle := elem_size_le (MElems.ops r) he.elems (.inl g) hel
      simp only [MElemF.size] at hle
      exact fit_of_size r (ℓ + 1) _ g this.1 (by omega)

theorem ops_count_zero (se : SingleElems) : (MElems.ops 0).count se = se.elems.length := rfl
theorem ops_count_succ (he : HkeyElems (MElems r)) : (MElems.ops (r + 1)).count he = he.elems.length := rfl
theorem ops_toList_zero (se : SingleElems) : (MElems.ops 0).toList se = se.elems.map (fun x => (x.key, x.val)) := rfl
theorem ops_toList_succ (he : HkeyElems (MElems r)) :
    (MElems.ops (r + 1)).toList he = he.elems.flatMap (fun el => el.toList (MElems.ops r)) := rfl

/-- `elements` below the first level (no external group there) meet the encoder's preconditions -/
theorem elemsEnc_of_inv (hL : L ≤ 9) (hD : ∀ p, ∀ h ∈ D.dg p, h < 2 ^ 64) :
    ∀ (r ℓ : Nat) (path : List Nat) (e : MElems r), ElemsInv T L D r ℓ path e → 1 ≤ ℓ → path.length = ℓ →
    1 ≤ (MElems.ops r).count e → Fit r e → (∀ p ∈ (MElems.ops r).toList e, KVOk p) → ElemsEnc D r e
  | 0, ℓ, path, (se : SingleElems), h, _, _, hc, hfit, hkv => by
    obtain ⟨h1, h2, h3, h4, _⟩ := h
    obtain ⟨f1, f2⟩ := hfit
    have hc' : 1 ≤ se.elems.length := hc
    refine ⟨by omega, ?_, f1, ?_, h3, f2⟩
    · intro hnil; rw [hnil] at hc'; simp at hc'
    · intro x hx
      refine selemEnc_of_ok (h4 x hx).1 (hkv (x.key, x.val) ?_) ?_
      · rw [ops_toList_zero]; exact List.mem_map.2 ⟨x, hx, rfl⟩
      · have := le_sum_map_of_mem (·.size) hx
        omega
  | r + 1, ℓ, path, (he : HkeyElems (MElems r)), h, hℓ, hp, hc, hfit, hkv => by
    have hlt := hkeys_lt hD r ℓ path he h hp
    have H := (elemsInv_succ_iff T L D r ℓ path he).1 h
    have h1 := H.depth_eq
    have h2 := H.level_eq
    have h5 := H.size_eq
    obtain ⟨f1, f2, f3⟩ := hfit
    refine ⟨by omega, H.len_eq, f1, hlt, ?_, h5, f2⟩
    intro el hel
    obtain ⟨hk, this⟩ := H.elemOk_of_mem hel
    have hle := elem_size_le (MElems.ops r) he.elems el hel
    have hsub : ∀ p ∈ el.toList (MElems.ops r), KVOk p := by
      intro p hp'
      apply hkv
      rw [ops_toList_succ]
      exact List.mem_flatMap.2 ⟨el, hel, hp'⟩
    cases el with
    | single x =>
      refine selemEnc_of_ok this.1 (hsub (x.key, x.val) (by simp [MElemF.toList])) ?_
      simp only [MElemF.size] at hle
      omega
    | inl g =>
      exact elemsEnc_of_inv hL hD r (ℓ + 1) _ g this.1 (by omega) (by simp [hp]) this.2.1 (f3 _ hel) hsub
    | ext id sz s => exact absurd this.1 (by omega)

theorem stripElem_size {α : Type} (o : ElemsOps α) (f : MElemF α → MElemF α)
    (hf : ∀ el, (f el).size o = el.size o) (l : List (MElemF α)) :
    HkeyElems.elemSizes o (l.map f) = HkeyElems.elemSizes o l := by
  unfold HkeyElems.elemSizes
  rw [List.map_map]
  congr 1
  apply List.map_congr_left
  intro el _
  simp only [Function.comp, hf]

theorem stripElem_size_eq (el : MElemF (MElems r)) :
    (stripElem el).size (MElems.ops r) = el.size (MElems.ops r) := by
  cases el <;> rfl

/-- the elements of a data slab, external groups stripped to references, meet the encoder's
    preconditions -/
theorem data_elemsEnc {D : DigestFn (r + 1)} (hr : r ≤ 8) (hD : ∀ p, ∀ h ∈ D.dg p, h < 2 ^ 64)
    (s : MDataSlab r) (h : ElemsInv T (r + 1) D (r + 1) 0 [] s.elems) (hsz : s.elems.size ≤ 49152)
    (hkv : ∀ p ∈ HkeyElems.toList (MElems.ops r) s.elems, KVOk p)
    (hids : ∀ id ∈ AList.keys s.groupSlabs, id.addr < 2 ^ 64 ∧ id.idx < 2 ^ 64) :
    ElemsEnc D (r + 1) (stripData s).elems := by
  have hlt := hkeys_lt hD r 0 [] s.elems h rfl
  have H := (elemsInv_succ_iff T (r + 1) D r 0 [] s.elems).1 h
  have h2 := H.level_eq
  have h3 := H.len_eq
  have h5 := H.size_eq
  have hge := elemSizes_ge (MElems.ops r) s.elems.elems
  simp only [digestSize] at hge
  simp only [hkeyElementsPrefixSize] at h5
  have hE : HkeyElems.elemSizes (MElems.ops r) (s.elems.elems.map stripElem)
      = HkeyElems.elemSizes (MElems.ops r) s.elems.elems :=
    stripElem_size (MElems.ops r) stripElem stripElem_size_eq _
  refine ⟨?_, ?_, ?_, hlt, ?_, ?_, ?_⟩
  · show s.elems.level < 24
    omega
  · show s.elems.hkeys.length = (s.elems.elems.map stripElem).length
    rw [List.length_map]; exact h3
  · show (s.elems.elems.map stripElem).length < 8192
    rw [List.length_map]; omega
  · intro el' hel'
    have hel'' : el' ∈ s.elems.elems.map stripElem := hel'
    obtain ⟨el, hel, rfl⟩ := List.mem_map.1 hel''
    obtain ⟨hk, this⟩ := H.elemOk_of_mem hel
    have hle := elem_size_le (MElems.ops r) s.elems.elems el hel
    have hsub : ∀ p ∈ el.toList (MElems.ops r), KVOk p := by
      intro p hp'
      apply hkv
      exact List.mem_flatMap.2 ⟨el, hel, hp'⟩
    cases el with
    | single x =>
      refine selemEnc_of_ok this.1 (hsub (x.key, x.val) (by simp [MElemF.toList])) ?_
      simp only [MElemF.size] at hle
      simp only [maxUint32]
      omega
    | inl g =>
      simp only [MElemF.size, inlineCollisionGroupPrefixSize] at hle
      exact elemsEnc_of_inv (by omega) hD r 1 _ g this.1 (Nat.le_refl 1) (by simp) this.2.1
        (fit_of_size r 1 _ g this.1 (by omega)) hsub
    | ext id sz gs =>
      refine ⟨this.2.1, ?_, ?_, rfl, emptyElems_isEmpty r⟩
      · refine (hids id ?_).1
        rw [keys_groupSlabs]
        exact List.mem_filterMap.2 ⟨_, hel, rfl⟩
      · refine (hids id ?_).2
        rw [keys_groupSlabs]
        exact List.mem_filterMap.2 ⟨_, hel, rfl⟩
  · show s.elems.size = hkeyElementsPrefixSize + HkeyElems.elemSizes (MElems.ops r) (s.elems.elems.map stripElem)
    rw [hE]; simp only [hkeyElementsPrefixSize]; exact h5
  · show s.elems.size ≤ maxUint32
    simp only [maxUint32]; omega

theorem hdr_size_le {D : DigestFn (r + 1)} : ∀ (d : Nat) (top : Bool) (t : MTree r d), MTreeInv T D d top t →
    (MTree.hdr d t).size ≤ maxThr T
  | 0, top, (s : MDataSlab r), h => ((mtreeInv_zero_iff T D top s).mp h).le_max
  | d + 1, top, (m : MMetaSlab (MTree r d)), h => ((mtreeInv_succ_iff T D d top m).mp h).2.1

theorem headD_lt {l : List Nat} (h : ∀ a ∈ l, a < 2 ^ 64) : l.headD 0 < 2 ^ 64 := by
  cases l with
  | nil => simp
  | cons a l => exact h a (by simp)

theorem mleaves_zero (s : MDataSlab r) : MTree.leaves 0 s = [s] := MTree.leaves_zero s
theorem mleaves_succ {d : Nat} (m : MMetaSlab (MTree r d)) :
    MTree.leaves (d + 1) m = m.children.flatMap (MTree.leaves d) := MTree.leaves_succ m
theorem mtoList_succ {d : Nat} (m : MMetaSlab (MTree r d)) :
    MTree.toList (d + 1) m = m.children.flatMap (MTree.toList d) := MTree.toList_succ m
theorem mdigests0_zero (s : MDataSlab r) : MTree.digests0 0 s = s.elems.hkeys := MTree.digests0_zero s
theorem mdigests0_succ {d : Nat} (m : MMetaSlab (MTree r d)) :
    MTree.digests0 (d + 1) m = m.children.flatMap (MTree.digests0 d) := MTree.digests0_succ m

/-- a data slab and its external collision groups -/
theorem mdata_ok {D : DigestFn (r + 1)} (hT : legalThreshold T = true) (hr : r ≤ 8)
    (hD : ∀ p, ∀ h ∈ D.dg p, h < 2 ^ 64) (top : Bool) (s : MDataSlab r) (x : Option (Nat × Nat × Nat))
    (hinv : MDataInv T D top s) (hinl : s.inlined = false) (hx : x.isSome = top) (hxo : XOk x)
    (hkv : ∀ p ∈ MTree.toList 0 s, KVOk p)
    (hids : ∀ id ∈ AList.keys (MTree.slabs 0 s), id.addr < 2 ^ 64 ∧ id.idx < 2 ^ 64)
    (hnx : validNext s.next) (hfit : ∀ p ∈ MTree.slabs 0 s, FitView p.2) :
    OkM D (.tree (.data (stripData s)) x) ∧
    (∀ p ∈ s.groupSlabs, OkM D (.tree (stripView p.2) none) ∧ ownIdM (.tree (stripView p.2) none : MSSlab r) = p.1) := by
  have hmx := E2E.maxThr_le hT
  have hsz : s.elems.size ≤ 49152 := by
    have := hinv.le_max
    rw [hinv.size_eq] at this
    omega
  have hgids : ∀ id ∈ AList.keys s.groupSlabs, id.addr < 2 ^ 64 ∧ id.idx < 2 ^ 64 := by
    intro id hid
    apply hids
    rw [mslabs_zero, AList.keys_cons]
    exact List.mem_cons_of_mem _ hid
  have hE := data_elemsEnc hr hD s hinv.elems_inv hsz hkv hgids
  refine ⟨?_, ?_⟩
  · refine ⟨hr, hE, hinv.size_eq, hinv.first_eq, ?_, hinl, hnx, hxo, ?_⟩
    · show s.root = x.isSome
      rw [hinv.root_eq, hx]
    · show s.hdr.size ≤ maxUint32
      have := hinv.le_max
      simp only [maxUint32]; omega
  · intro p hp
    unfold MDataSlab.groupSlabs at hp
    obtain ⟨el, hel, hpe⟩ := List.mem_filterMap.1 hp
    cases el with
    | single x => cases hpe
    | inl g => cases hpe
    | ext id sz gs =>
      simp only [Option.some.injEq] at hpe
      subst hpe
      obtain ⟨hk, _, _, e3, e4, e5, e6, e7, _⟩ :=
        ((elemsInv_succ_iff T (r + 1) D r 0 [] s.elems).1 hinv.elems_inv).elemOk_of_mem hel
      have hf : FitView (.group gs : MSlabView r) := hfit (id, .group gs) (by
        rw [mslabs_zero]
        exact List.mem_cons_of_mem _ hp)
      have hsub : ∀ q ∈ (MElems.ops r).toList gs.elems, KVOk q := by
        intro q hq
        apply hkv
        rw [MTree.toList_zero]
        exact List.mem_flatMap.2 ⟨_, hel, hq⟩
      refine ⟨⟨hr, rfl, ?_, e4, e5, hf.2⟩, e3⟩
      exact elemsEnc_of_inv (by omega) hD r 1 _ gs.elems e6 (Nat.le_refl 1) (by simp) e7 hf.1 hsub

theorem mtreeInv_child {D : DigestFn (r + 1)} {d : Nat} {top : Bool} {m : MMetaSlab (MTree r d)}
    (h : MTreeInv T D (d + 1) top m) {c : MTree r d} (hc : c ∈ m.children) : MTreeInv T D d false c :=
  ((mtreeInv_succ_iff T D d top m).mp h).1.kid_inv c hc

/-- the first-level digests of a subtree are digests of keys, hence below 2⁶⁴ -/
theorem digests0_lt {D : DigestFn (r + 1)} (hD : ∀ p, ∀ h ∈ D.dg p, h < 2 ^ 64) :
    ∀ (d : Nat) (top : Bool) (t : MTree r d), MTreeInv T D d top t → ∀ h ∈ MTree.digests0 d t, h < 2 ^ 64
  | 0, top, (s : MDataSlab r), hinv, h, hh => by
    rw [mdigests0_zero] at hh
    exact hkeys_lt hD r 0 [] s.elems ((mtreeInv_zero_iff T D top s).mp hinv).elems_inv rfl h hh
  | d + 1, top, (m : MMetaSlab (MTree r d)), hinv, h, hh => by
    rw [mdigests0_succ] at hh
    obtain ⟨c, hc, hhc⟩ := List.mem_flatMap.1 hh
    exact digests0_lt hD d false c (mtreeInv_child hinv hc) h hhc

/-- the child headers of an index slab fit their fields, given 64-bit slab indices of the children -/
theorem mindex_hdrs {D : DigestFn (r + 1)} (hT : legalThreshold T = true) (hD : ∀ p, ∀ h ∈ D.dg p, h < 2 ^ 64)
    (d : Nat) (top : Bool) (m : MMetaSlab (MTree r d)) (hinv : MTreeInv T D (d + 1) top m)
    (hcids : ∀ c ∈ m.children, (MTree.hdr d c).id.idx < 2 ^ 64) :
    (∀ ch ∈ m.childHdrs, MHdrOk m.hdr.id.addr ch) ∧ m.childHdrs.length < 65536 ∧
      m.hdr.size = mapMetaDataSlabPrefixSize + mapSlabHeaderSize * m.childHdrs.length := by
  obtain ⟨hm, hmax, _, _⟩ := (mtreeInv_succ_iff T D d top m).mp hinv
  obtain ⟨_, m2, m3, _, m5, m6, m7, _⟩ := hm
  have hmx := E2E.maxThr_le hT
  have hlen : m.childHdrs.length = m.children.length := by rw [m2, List.length_map]
  refine ⟨?_, ?_, by rw [hlen]; exact m3⟩
  · intro ch hch
    rw [m2] at hch
    obtain ⟨c, hc, rfl⟩ := List.mem_map.1 hch
    refine ⟨m6 c hc, hcids c hc, ?_, ?_⟩
    · rw [m7 c hc]
      exact headD_lt (digests0_lt hD d false c (m5 c hc))
    · have := hdr_size_le d false c (m5 c hc)
      omega
  · rw [hlen]
    simp only [mapMetaDataSlabPrefixSize, mapSlabHeaderSize] at m3
    omega

theorem child_keys_sub {d : Nat} (m : MMetaSlab (MTree r d)) {c : MTree r d} (hc : c ∈ m.children) :
    ∀ id ∈ AList.keys (MTree.slabs d c), id ∈ AList.keys (MTree.slabs (d + 1) m) := by
  intro id hid
  rw [mslabs_succ, AList.keys_cons]
  apply List.mem_cons_of_mem
  obtain ⟨v, hv⟩ := (mem_keys_iff _ id).1 hid
  exact mem_keys_of_mem (List.mem_flatMap.2 ⟨c, hc, hv⟩)

/-- The slabs of a subtree of a map, one by one: a property `G` of stored slabs that holds of every data
    slab and its external collision groups (`leaf`: from its invariant, pairs with `KV`, 64-bit slab
    IDs, a valid sibling link, `P` of its slabs and `R` of a root leaf) and of every index slab
    (`index`) holds of every slab of a subtree satisfying the invariant: of its root slab with the
    extra data `x` (present at the root of the map), of the slabs below it without. -/
theorem msubtree_slabs {D : DigestFn (r + 1)} {G : SlabID → MSlabView r → Option (Nat × Nat × Nat) → Prop}
    {KV : MKey × Elem → Prop} {P : SlabID × MSlabView r → Prop} {R : Bool → MDataSlab r → Prop}
    (hRf : ∀ s, R false s)
    (leaf : ∀ (top : Bool) (s : MDataSlab r) (x : Option (Nat × Nat × Nat)), MDataInv T D top s →
      s.inlined = false → x.isSome = top → XOk x → (∀ p ∈ MTree.toList 0 s, KV p) →
      (∀ id ∈ AList.keys (MTree.slabs 0 s), id.addr < 2 ^ 64 ∧ id.idx < 2 ^ 64) → validNext s.next →
      (∀ p ∈ MTree.slabs 0 s, P p) → R top s →
      G s.hdr.id (.data s) x ∧ ∀ p ∈ s.groupSlabs, G p.1 p.2 none)
    (index : ∀ {d : Nat} (top : Bool) (m : MMetaSlab (MTree r d)) (x : Option (Nat × Nat × Nat)),
      MTreeInv T D (d + 1) top m →
      (∀ id ∈ AList.keys (MTree.slabs (d + 1) m), id.addr < 2 ^ 64 ∧ id.idx < 2 ^ 64) → x.isSome = top → XOk x →
      G m.hdr.id (.index m.hdr m.childHdrs m.root) x) :
    ∀ (d : Nat) (top : Bool) (t : MTree r d) (x : Option (Nat × Nat × Nat)),
      MTreeInv T D d top t → treeInl d t = false → x.isSome = top → XOk x →
      (∀ p ∈ MTree.toList d t, KV p) →
      (∀ id ∈ AList.keys (MTree.slabs d t), id.addr < 2 ^ 64 ∧ id.idx < 2 ^ 64) →
      (∀ s ∈ MTree.leaves d t, validNext s.next) → (∀ p ∈ MTree.slabs d t, P p) →
      (∀ s, MTree.leaves d t = [s] → R top s) →
      G (MTree.hdr d t).id (ment d t) x ∧ ∀ p ∈ msub d t, G p.1 p.2 none
  | 0, top, (s : MDataSlab r), x, hinv, hinl, hx, hxo, hkv, hids, hnx, hP, hR =>
    leaf top s x ((mtreeInv_zero_iff T D top s).mp hinv) hinl hx hxo hkv hids
      (hnx s (by rw [mleaves_zero]; exact List.mem_singleton_self s)) hP (hR s rfl)
  | d + 1, top, (m : MMetaSlab (MTree r d)), x, hinv, _, hx, hxo, hkv, hids, hnx, hP, _ => by
    refine ⟨index top m x hinv hids hx hxo, fun p hp => ?_⟩
    rw [msub_succ] at hp
    obtain ⟨c, hc, hpc⟩ := List.mem_flatMap.1 hp
    have hc' := mtreeInv_child hinv hc
    obtain ⟨g1, g2⟩ := msubtree_slabs hRf leaf index d false c none hc' (treeInl_of_nontop d c hc') rfl trivial
      (fun q hq => hkv q (by rw [mtoList_succ]; exact List.mem_flatMap.2 ⟨c, hc, hq⟩))
      (fun id hid => hids id (child_keys_sub m hc id hid))
      (fun s hs => hnx s (by rw [mleaves_succ]; exact List.mem_flatMap.2 ⟨c, hc, hs⟩))
      (fun q hq => hP q (by rw [mslabs_succ]; exact List.mem_cons_of_mem _ (List.mem_flatMap.2 ⟨c, hc, hq⟩)))
      (fun s _ => hRf s)
    rw [mslabs_eq] at hpc
    rcases List.mem_cons.1 hpc with rfl | h
    · exact g1
    · exact g2 p h

/-- an index slab of the tree meets the encoder's preconditions -/
theorem mindex_ok {D : DigestFn (r + 1)} (hT : legalThreshold T = true) (hD : ∀ p, ∀ h ∈ D.dg p, h < 2 ^ 64)
    {d : Nat} (top : Bool) (m : MMetaSlab (MTree r d)) (x : Option (Nat × Nat × Nat))
    (hinv : MTreeInv T D (d + 1) top m)
    (hids : ∀ id ∈ AList.keys (MTree.slabs (d + 1) m), id.addr < 2 ^ 64 ∧ id.idx < 2 ^ 64)
    (hx : x.isSome = top) (hxo : XOk x) : OkM D (.tree (.index m.hdr m.childHdrs m.root) x) := by
  obtain ⟨h1, h2, h3⟩ := mindex_hdrs hT hD d top m hinv
    (fun c hc => (hids _ (child_keys_sub m hc _ (hdr_id_mem_keys d c))).2)
  obtain ⟨⟨m1, _, _, m4, _⟩, _⟩ := (mtreeInv_succ_iff T D d top m).mp hinv
  exact ⟨(hids m.hdr.id (by rw [mslabs_succ, AList.keys_cons]; exact List.mem_cons_self)).1, h1, h2, hxo, h3, m4,
    by rw [m1, hx]⟩

theorem mleaf_id_mem : ∀ (d : Nat) (t : MTree r d) (s : MDataSlab r), s ∈ MTree.leaves d t →
    s.hdr.id ∈ AList.keys (MTree.slabs d t)
  | 0, (t : MDataSlab r), s, h => by
    rw [mleaves_zero, List.mem_singleton] at h
    subst h
    rw [mslabs_zero, AList.keys_cons]
    exact List.mem_cons_self
  | d + 1, (m : MMetaSlab (MTree r d)), s, h => by
    rw [mleaves_succ] at h
    obtain ⟨c, hc, hs⟩ := List.mem_flatMap.1 h
    have := mleaf_id_mem d c s hs
    rw [mslabs_succ, AList.keys_cons]
    apply List.mem_cons_of_mem
    obtain ⟨v, hv⟩ := (mem_keys_iff _ _).1 this
    exact mem_keys_of_mem (List.mem_flatMap.2 ⟨c, hc, hv⟩)

theorem mchain_nexts (l : List (MDataSlab r)) (hch : MLeafChain l) (hid : ∀ s ∈ l, validNext s.hdr.id) :
    ∀ s ∈ l, validNext s.next :=
  E2E.chain_nexts_of (fun s : MDataSlab r => s.next) (fun s => s.hdr.id) MLeafChain (fun _ h => h)
    (fun _ _ _ h => h) l hch hid

/-- Stored slabs are encodable (maps).  Every slab the representation of a map puts into the storage
    meets the encoder's preconditions and is filed under its own ID (a large-value slab has none). -/
theorem mstored_ok {D : DigestFn (r + 1)} (hT : legalThreshold T = true) (m : OMap r)
    (extra : SlabID → Option Elem) (ctr : Nat) (hinv : MapInv T D m) (hids : MIdsOk m) (haok : MAddrOk m)
    (hle : ∀ id ∈ AList.keys (MTree.slabs m.d m.root), id.idx ≤ ctr)
    (henc : MEncOk D m extra ctr) (id : SlabID) (v : MSSlab r) (hv : mstored m extra id = some v) :
    OkM D v ∧ (ownIdM v = id ∨ ∃ e, v = .large e) := by
  cases hs : m.slabAt id with
  | none =>
    rw [mstored_of_none hs] at hv
    cases he : extra id with
    | none => rw [he] at hv; cases hv
    | some e =>
      rw [he] at hv
      simp only [Option.map_some, Option.some.injEq] at hv
      subst hv
      exact ⟨henc.extra id e he, Or.inr ⟨e, rfl⟩⟩
  | some p =>
    rw [mstored_of_some hs] at hv
    simp only [Option.some.injEq] at hv
    subst hv
    unfold OMap.slabAt at hs
    cases hf : AList.find? (MTree.slabs m.d m.root) id with
    | none => rw [hf] at hs; cases hs
    | some sl =>
      rw [hf] at hs
      simp only [Option.map_some, Option.some.injEq] at hs
      subst hs
      have hmem := mem_of_find? hf
      have hidb : ∀ j ∈ AList.keys (MTree.slabs m.d m.root), j.addr < 2 ^ 64 ∧ j.idx < 2 ^ 64 := by
        intro j hj
        have h1 := haok j hj
        have h2 := hle j hj
        have h3 := henc.ctr
        exact ⟨by rw [h1]; exact henc.addr, by omega⟩
      have hnx : ∀ s ∈ MTree.leaves m.d m.root, validNext s.next := by
        apply mchain_nexts _ hinv.chain
        intro s hs'
        exact hidb _ (mleaf_id_mem m.d m.root s hs')
      have hinl : treeInl m.d m.root = false := by
        have := hinv.standalone
        obtain ⟨d, root, ty, cnt, seed⟩ := m
        rw [← isInlined_eq d root ty cnt seed]; exact this
      obtain ⟨g1, g2⟩ := msubtree_slabs (T := T) (D := D) (KV := KVOk) (P := fun p => FitView p.2) (R := fun _ _ => True)
        (G := fun id v x => OkM D (.tree (stripView v) x) ∧ ownIdM (.tree (stripView v) x : MSSlab r) = id)
        (fun _ => trivial)
        (fun top s x hd hinl hx hxo hkv hids hnx hfit _ =>
          have h := mdata_ok hT henc.levels henc.digests top s x hd hinl hx hxo hkv hids hnx hfit
          ⟨⟨h.1, rfl⟩, h.2⟩)
        (fun top m' x hinv hids hx hxo => ⟨mindex_ok hT henc.digests top m' x hinv hids hx hxo, rfl⟩)
        m.d true m.root (some (m.ty, m.count, m.seed))
        hinv.tree hinl rfl ⟨henc.ty, henc.count, henc.seed⟩ henc.entries hidb hnx henc.groups (fun _ _ => trivial)
      rw [mslabs_eq] at hmem
      rcases List.mem_cons.1 hmem with heq | hsub
      · simp only [Prod.mk.injEq] at heq
        obtain ⟨rfl, rfl⟩ := heq
        have hroot : (MTree.hdr m.d m.root).id = m.rootID := rfl
        simp only [hroot, if_true]
        exact ⟨g1.1, Or.inl g1.2⟩
      · have hne : ¬ id = m.rootID := by
          intro he
          have hnd : (AList.keys (MTree.slabs m.d m.root)).Nodup := hids
          rw [mslabs_eq, AList.keys_cons] at hnd
          have : id ∈ AList.keys (msub m.d m.root) := mem_keys_of_mem hsub
          rw [he] at this
          exact (List.nodup_cons.1 hnd).1 this
        simp only [hne, if_false]
        obtain ⟨h1, h2⟩ := g2 (id, sl) hsub
        exact ⟨h1, Or.inl h2⟩

/-- the slab of an external collision group is smaller than 64 KiB -/
def SmallView : MSlabView r → Prop
  | .group g => g.hdr.size < 65536
  | _ => True

instance (v : MSlabView r) : Decidable (SmallView v) := by
  cases v <;> (dsimp only [SmallView]; infer_instance)

theorem fitView_of_small {D : DigestFn (r + 1)} : ∀ (d : Nat) (top : Bool) (t : MTree r d), MTreeInv T D d top t →
    ∀ p ∈ MTree.slabs d t, SmallView p.2 → FitView p.2
  | 0, top, (s : MDataSlab r), hinv, p, hp, hsm => by
    have hd := (mtreeInv_zero_iff T D top s).mp hinv
    rw [mslabs_zero] at hp
    rcases List.mem_cons.1 hp with rfl | hp
    · trivial
    · unfold MDataSlab.groupSlabs at hp
      obtain ⟨el, hel, hpe⟩ := List.mem_filterMap.1 hp
      cases el with
      | single x => cases hpe
      | inl g => cases hpe
      | ext id sz gs =>
        simp only [Option.some.injEq] at hpe
        subst hpe
        obtain ⟨hk, _, _, _, e4, _, e6, _, _⟩ :=
          ((elemsInv_succ_iff T (r + 1) D r 0 [] s.elems).1 hd.elems_inv).elemOk_of_mem hel
        have hsm' : gs.hdr.size < 65536 := hsm
        refine ⟨fit_of_size r 1 _ gs.elems e6 ?_, by simp only [maxUint32]; omega⟩
        simp only [mapDataSlabPrefixSize] at e4
        omega
  | d + 1, top, (m : MMetaSlab (MTree r d)), hinv, p, hp, hsm => by
    rw [mslabs_succ] at hp
    rcases List.mem_cons.1 hp with rfl | hp
    · trivial
    · obtain ⟨c, hc, hpc⟩ := List.mem_flatMap.1 hp
      exact fitView_of_small d false c (mtreeInv_child hinv hc) p hpc hsm

/-- a map whose external collision groups are smaller than 64 KiB respects the field widths -/
theorem groupsFit_of_small {D : DigestFn (r + 1)} (m : OMap r) (hinv : MapInv T D m)
    (h : ∀ p ∈ MTree.slabs m.d m.root, SmallView p.2) : GroupsFit m :=
  fun p hp => fitView_of_small m.d true m.root hinv.tree p hp (h p hp)

end Atree.E2EM

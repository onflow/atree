import AtreeProofs.Map.EffectsLog
import AtreeProofs.E2E.Created
import AtreeProofs.Storable
/-
  Large-value slabs created by a map operation, and the allocation counter.

  Two invariant-free facts about `OMap.set` / `OMap.remove`, along the map core's inversions
  (`MDataSlab.set_ok_iff`, `MTree.set_succ_cases`, `OMap.set_ok_iff`, … ):
  * pre-storable (`omap_set_pre`): `Set(k, v)` run from the context `c` is the same computation as
    `Set(k, v')` run from `c₁`, where `(v', c₁) = Value.Storable(v)` at `c` (the first storage
    calls of a `Set` are those of `Value.Storable`; everything else only sees the storable);
  * plain tail (`omap_set_plain`, `omap_remove_plain`): from `c₁` on (for `Remove`: from `c` on)
    the run is `Plain` (Account/Plain.lean): no large-value slab is created, the counter advances
    by the number of allocation events, and every allocation event carries the address of the ID
    it hands out; the repairs of index slabs are `Plain` by `afterChild_plain` (Map/Repair.lean),
    the root fix-up by `rootFix_plain`.
  With the account of the second run (`omap_set_acctR`, C09Map) and `created_then_acct`
  (`E2E/Created.lean`) this gives one log with the account of the tree and the array-style facts
  (`omap_set_acct_created`; `omap_set_created`, `omap_remove_created`): a created large-value slab is
  stored, untouched afterwards, fresh, owned by the map's address, not a slab of the new tree;
  the counter advances by exactly the number of allocations for the map's address.
-/
namespace Atree.E2EM
open Atree Gen

/-- `Value.Storable(storage, address, maxInlineMapValueSize(key size))` -/
def tsv (cfg : MCfg) (k : MKey) (v : Elem) (c : Ctx) : Elem × Ctx :=
  toStorableLim (maxInlineMapValue cfg.T k.size) cfg.addr v c

/-- what `Value.Storable` stores is a reference or fits the limit, so a second call leaves it alone -/
theorem toStorableLim_idem (lim a : Nat) (v : Elem) (c : Ctx) :
    toStorableLim lim a (toStorableLim lim a v c).1 (toStorableLim lim a v c).2 = toStorableLim lim a v c := by
  cases hp : v.pay with
  | ref y => rw [toStorableLim_refR lim a v c y hp, toStorableLim_refR lim a v c y hp]
  | val n =>
    obtain ⟨C, _, _, h⟩ := storable_lim lim a hp c
    generalize toStorableLim lim a v c = p at h ⊢
    obtain ⟨e, c1⟩ := p
    cases h with
    | inline _ hs => exact toStorableLim_of_le lim a _ c1 hs
    | large _ => exact toStorableLim_refR lim a _ c1 _ rfl

theorem tsv_idem (cfg : MCfg) (k : MKey) (v : Elem) (c : Ctx) :
    tsv cfg k (tsv cfg k v c).1 (tsv cfg k v c).2 = tsv cfg k v c := toStorableLim_idem _ _ _ _

theorem findIdx_same {l : List SElem} {k : MKey} {i : Nat} {x : SElem}
    (h : l.findIdx? (fun x => x.key.same k) = some i) (hx : l[i]? = some x) : x.key.size = k.size := by
  rw [List.findIdx?_eq_some_iff_getElem] at h
  obtain ⟨hi, hp, _⟩ := h
  rw [List.getElem?_eq_getElem hi] at hx
  cases hx
  exact MKey.same_size hp

/-- `set` is pre-storable -/
def OpsPS (cfg : MCfg) {α : Type} (o : ElemsOps α) : Prop :=
  ∀ g ℓ k v c, o.set cfg g ℓ k v c = o.set cfg g ℓ k (tsv cfg k v c).1 (tsv cfg k v c).2

theorem newSingleElement_pre (cfg : MCfg) (k : MKey) (v : Elem) (c : Ctx) :
    newSingleElement cfg.T cfg.addr k (tsv cfg k v c).1 (tsv cfg k v c).2 = newSingleElement cfg.T cfg.addr k v c := by
  have := toStorableLim_idem (maxInlineMapValue cfg.T k.size) cfg.addr v c
  simp only [newSingleElement, tsv, this]

theorem newSingleElement_ctx (cfg : MCfg) (k : MKey) (v : Elem) (c : Ctx) :
    (newSingleElement cfg.T cfg.addr k v c).2 = (tsv cfg k v c).2 := rfl

theorem SingleElems.set_pre (cfg : MCfg) (e : SingleElems) (ℓ : Nat) (k : MKey) (v : Elem) (c : Ctx) :
    SingleElems.set cfg e ℓ k v c = SingleElems.set cfg e ℓ k (tsv cfg k v c).1 (tsv cfg k v c).2 := by
  by_cases hl : ℓ ≠ cfg.L
  · simp only [SingleElems.set, if_pos hl]
  · cases hf : e.elems.findIdx? (fun x => x.key.same k) with
    | none => simp only [SingleElems.set, if_neg hl, hf, newSingleElement_pre]
    | some i =>
      cases hx : e.elems[i]? with
      | none => simp only [SingleElems.set, if_neg hl, hf, hx]
      | some x =>
        have hsz := findIdx_same hf hx
        have := toStorableLim_idem (maxInlineMapValue cfg.T k.size) cfg.addr v c
        simp only [SingleElems.set, if_neg hl, hf, hx, hsz, tsv, this]

theorem SingleElems.opsPS (cfg : MCfg) : OpsPS cfg SingleElems.ops := SingleElems.set_pre cfg

section elems
variable {α : Type} {o : ElemsOps α} {cfg : MCfg}

theorem inlSet_pre (ho : OpsPS cfg o) (g : α) (ℓ : Nat) (k : MKey) (v : Elem) (c : Ctx) :
    MElemF.inlSet o cfg g ℓ k v c = MElemF.inlSet o cfg g ℓ k (tsv cfg k v c).1 (tsv cfg k v c).2 := by
  unfold MElemF.inlSet
  rw [ho g (ℓ + 1) k v c]

theorem elemSet_pre (ho : OpsPS cfg o) (el : MElemF α) (ℓ : Nat) (k : MKey) (v : Elem) (c : Ctx) :
    el.set o cfg ℓ k v c = el.set o cfg ℓ k (tsv cfg k v c).1 (tsv cfg k v c).2 := by
  cases el with
  | single x =>
    by_cases hs : x.key.same k = true
    · have hsz := MKey.same_size hs
      have := toStorableLim_idem (maxInlineMapValue cfg.T k.size) cfg.addr v c
      simp only [MElemF.set, hs, if_true, hsz, tsv, this]
    · simp only [MElemF.set, hs]
      cases o.newWith cfg (ℓ + 1) x with
      | error e => rfl
      | ok g => exact inlSet_pre ho g ℓ k v c
  | inl g => exact inlSet_pre ho g ℓ k v c
  | ext id sz s =>
    simp only [MElemF.set]
    rw [ho s.elems (ℓ + 1) k v c]

theorem insertNew_pre (cfg : MCfg) (e : HkeyElems α) (idx hk : Nat) (k : MKey) (v : Elem) (c : Ctx) :
    HkeyElems.insertNew cfg e idx hk k v c
      = HkeyElems.insertNew cfg e idx hk k (tsv cfg k v c).1 (tsv cfg k v c).2 := by
  simp only [HkeyElems.insertNew, newSingleElement_pre]

theorem hkeySet_pre (ho : OpsPS cfg o) (e : HkeyElems α) (ℓ : Nat) (k : MKey) (v : Elem) (c : Ctx) :
    HkeyElems.set o cfg e ℓ k v c = HkeyElems.set o cfg e ℓ k (tsv cfg k v c).1 (tsv cfg k v c).2 := by
  have hins : ∀ idx hk, HkeyElems.insertNew cfg e idx hk k v c
      = HkeyElems.insertNew cfg e idx hk k (tsv cfg k v c).1 (tsv cfg k v c).2 :=
    fun idx hk => insertNew_pre cfg e idx hk k v c
  have hel : ∀ el : MElemF α, MElemF.set o cfg el ℓ k v c
      = MElemF.set o cfg el ℓ k (tsv cfg k v c).1 (tsv cfg k v c).2 :=
    fun el => elemSet_pre ho el ℓ k v c
  unfold HkeyElems.set
  simp only [hins, hel]

theorem HkeyElems.opsPS (ho : OpsPS cfg o) : OpsPS cfg (HkeyElems.ops o) := hkeySet_pre ho

end elems

theorem MElems.opsPS (cfg : MCfg) : ∀ r, OpsPS cfg (MElems.ops r)
  | 0 => SingleElems.opsPS cfg
  | r + 1 => HkeyElems.opsPS (MElems.opsPS cfg r)

theorem GEv.run_plain (a : Nat) (c : Ctx) (ev : GEv) : Plain c (GEv.run a c ev) := by
  cases ev
  · exact Plain.store _ _
  · exact Plain.remove _ _
  · exact (Plain.alloc _ _).trans (Plain.store _ _)

theorem Plain.after (a : Nat) (c : Ctx) (evs : List GEv) : Plain c (c.after a evs) :=
  Ctx.after_induction (R := Plain c) (Plain.refl c) (fun c1 ev _ h1 => h1.trans (GEv.run_plain a c1 ev))

/-- `set` is plain after `Value.Storable`, `remove` is plain (`OpsCtx`: only group calls follow) -/
theorem MElems.set_plain {cfg : MCfg} {r : Nat} {g g' : MElems r} {ℓ : Nat} {k ks : MKey} {v : Elem}
    {old : Option Elem} {c c' : Ctx} (h : (MElems.ops r).set cfg g ℓ k v c = .ok (ks, old, g', c')) :
    Plain (tsv cfg k v c).2 c' := by
  obtain ⟨evs, rfl, _⟩ := (MElems.opsCtx cfg r).set h
  exact Plain.after ..

theorem MElems.remove_plain {cfg : MCfg} {r : Nat} {g g' : MElems r} {ℓ : Nat} {k rk : MKey} {rv : Elem}
    {c c' : Ctx} (h : (MElems.ops r).remove cfg g ℓ k c = .ok (rk, rv, g', c')) : Plain c c' := by
  obtain ⟨evs, rfl, _⟩ := (MElems.opsCtx cfg r).remove h
  exact Plain.after ..

section tree
variable {r : Nat}

theorem mdata_set_pre (cfg : MCfg) (s : MDataSlab r) (k : MKey) (v : Elem) (c : Ctx) :
    s.set cfg k v c = s.set cfg k (tsv cfg k v c).1 (tsv cfg k v c).2 := by
  unfold MDataSlab.set
  rw [hkeySet_pre (o := MDataSlab.eops r) (MElems.opsPS cfg r) s.elems 0 k v c]

theorem storeIfNotInlined_plain (s : MDataSlab r) (c : Ctx) : Plain c (s.storeIfNotInlined c) := by
  unfold MDataSlab.storeIfNotInlined
  split
  · exact Plain.refl c
  · exact Plain.store _ _

theorem mdata_set_plain {cfg : MCfg} {s s' : MDataSlab r} {k ks : MKey} {v : Elem} {old : Option Elem}
    {c c' : Ctx} (h : s.set cfg k v c = .ok (ks, old, s', c')) : Plain (tsv cfg k v c).2 c' := by
  obtain ⟨e, c1, hset, rfl, rfl⟩ := MDataSlab.set_ok_iff.1 h
  exact (MElems.set_plain (r := r + 1) hset).trans (storeIfNotInlined_plain _ _)

theorem mdata_remove_plain {cfg : MCfg} {s s' : MDataSlab r} {k rk : MKey} {rv : Elem}
    {c c' : Ctx} (h : s.remove cfg k c = .ok (rk, rv, s', c')) : Plain c c' := by
  obtain ⟨e, c1, hrem, rfl, rfl⟩ := MDataSlab.remove_ok_iff.1 h
  exact (MElems.remove_plain (r := r + 1) hrem).trans (storeIfNotInlined_plain _ _)

variable {d : Nat}

theorem msplit_plain {t l rr : MTree r d} {c c' : Ctx} (h : MTree.split d t c = .ok (l, rr, c')) : Plain c c' := by
  obtain ⟨_, _, _, rfl⟩ := msplit_struct d t c l rr c' h
  exact Plain.alloc _ _

theorem mtree_set_pre (cfg : MCfg) (k : MKey) (v : Elem) (c : Ctx) : ∀ (d : Nat) (t : MTree r d),
    MTree.set cfg d t k v c = MTree.set cfg d t k (tsv cfg k v c).1 (tsv cfg k v c).2
  | 0, s => mdata_set_pre cfg s k v c
  | d + 1, m => by
    have ih := mtree_set_pre cfg k v c d
    simp only [MTree.set]
    split
    · rfl
    · rename_i child _
      rw [ih child]

theorem mtree_set_plain {cfg : MCfg} : ∀ (d : Nat) {t t' : MTree r d} {k ks : MKey} {v : Elem} {old : Option Elem}
    {c c' : Ctx}, MTree.set cfg d t k v c = .ok (ks, old, t', c') → Plain (tsv cfg k v c).2 c'
  | 0, _, _, _, _, _, _, _, _, h => mdata_set_plain h
  | d + 1, t, _, _, _, _, _, _, _, h => by
    obtain ⟨i, child, child', c1, _, hchild, hs, ha⟩ := MTree.set_succ_cases t h
    exact (mtree_set_plain d hs).trans (afterChild_plain hchild ha).2

theorem mtree_remove_plain {cfg : MCfg} : ∀ (d : Nat) {t t' : MTree r d} {k rk : MKey} {rv : Elem}
    {c c' : Ctx}, MTree.remove cfg d t k c = .ok (rk, rv, t', c') → Plain c c'
  | 0, _, _, _, _, _, _, _, h => mdata_remove_plain h
  | d + 1, t, _, _, _, _, _, _, h => by
    obtain ⟨i, child, child', c1, _, hchild, hs, ha⟩ := MTree.remove_succ_cases t h
    exact (mtree_remove_plain d hs).trans (afterChild_plain hchild ha).2

end tree

section omap
variable {r : Nat}

/-- the root fix-up `OMap.set` and `OMap.remove` end with creates nothing (`promote_cases`,
    `splitRootIfFull_cases`, `splitRoot_inv`) -/
theorem rootFix_plain {T : Nat} {m m' : OMap r} {c c' : Ctx} (h : m.rootFix T c = .ok (m', c')) :
    Plain c c' := by
  unfold OMap.rootFix at h
  have hp : Plain c (m.promoteIfSingleChild c).2 := by
    rcases OMap.promote_cases m c with hp | ⟨_, _, _, _, _, _, _, _, _, _, hp⟩ <;> rw [hp]
    · exact Plain.refl c
    · exact (Plain.store _ _).trans (Plain.remove _ _)
  generalize m.promoteIfSingleChild c = p at h hp
  obtain ⟨⟨d, root, ty, cnt, seed⟩, c1⟩ := p
  refine hp.trans ?_
  rcases OMap.splitRootIfFull_cases h with hs | ⟨_, rfl⟩
  · obtain ⟨l, rr, c2, hsp, _, rfl⟩ := splitRoot_inv d root ty cnt seed c1 hs
    exact (Plain.alloc c1 _).trans ((msplit_plain hsp).trans (Plain.store3 _ _ _ _))
  · exact Plain.refl _

/-- pre-storable: `Set(k, v)` from `c` is `Set(k, v')` from `c₁` with `(v', c₁) = Value.Storable(v)` -/
theorem omap_set_pre (cfg : MCfg) (m : OMap r) (k : MKey) (v : Elem) (c : Ctx) :
    m.set cfg k v c = m.set cfg k (tsv cfg k v c).1 (tsv cfg k v c).2 := by
  unfold OMap.set
  rw [mtree_set_pre cfg k v c m.d m.root]

theorem omap_set_plain {cfg : MCfg} {m m' : OMap r} {k : MKey} {v : Elem} {old : Option Elem} {c c' : Ctx}
    (h : m.set cfg k v c = .ok (old, m', c')) : Plain (tsv cfg k v c).2 c' := by
  obtain ⟨ks, root', c1, hs, hfix⟩ := OMap.set_ok_iff.1 h
  exact (mtree_set_plain m.d hs).trans (rootFix_plain hfix)

theorem omap_remove_plain {cfg : MCfg} {m m' : OMap r} {k k0 : MKey} {v0 : Elem} {c c' : Ctx}
    (h : m.remove cfg k c = .ok (k0, v0, m', c')) : Plain c c' := by
  obtain ⟨root', c1, hs, hfix⟩ := OMap.remove_ok_iff.1 h
  exact (mtree_remove_plain m.d hs).trans (rootFix_plain hfix)

end omap

section ops
variable {r : Nat} {T : Nat} {D : DigestFn (r + 1)}

/-- `Set`: one log with the complete account of the tree (C09Map) and of the created large-value slab.
    The run is `Set(k, v')` from `c₁` (`omap_set_pre`), which `omap_set_acctR` accounts for and which
    creates nothing (`omap_set_plain`); `created_then_acct` puts `Value.Storable` in front: the created
    slab is stored, not touched afterwards, fresh, owned by the map's address, not a slab of the new
    tree; the counter advanced by the number of allocations for the map's address; what was created
    is what `Value.Storable` creates. -/
theorem omap_set_acct_created (hT : legalThreshold T = true) {cfg : MCfg} {m : OMap r} (hcfg : CfgOk cfg T m)
    (h : MapInv T D m) {k : MKey} (hk : KeyOk T (r + 1) D k) {v : Elem} (hv : ValueOkM v) (c : Ctx)
    (hc : CtxOk m c) (hids : MIdsOk m) {old : Option Elem} {m' : OMap r} {c' : Ctx}
    (hr : m.set cfg k v c = .ok (old, m', c')) :
    ∃ E C, MLog m.addr c c' E C ∧
      MAcct m.addr c.ctr c'.ctr (MTree.slabs m.d m.root) (MTree.slabs m'.d m'.root) E (C.map (·.1)) ∧
      lastAction E m.rootID = some true ∧ m'.rootID = m.rootID ∧
      CreatedOk m.addr c.ctr c'.ctr E (C.map (·.1)) (AList.keys (MTree.slabs m'.d m'.root)) ∧
      AllocCnt m.addr c c' E ∧ c.created ++ C = (tsv cfg k v c).2.created := by
  obtain ⟨hs1, hs2, hle⟩ := toStorableLim_spec (lim := maxInlineMapValue cfg.T k.size) (addr := cfg.addr) c hv
    (by rw [hcfg.1]; exact maxInlineMapValue_ge hT hk.2.2)
  have hvs : ValStep m.addr c (tsv cfg k v c).2 := hcfg.2.2 ▸ toStorableLim_valStep _ _ _ _
  have hr1 := hr
  rw [omap_set_pre] at hr1
  obtain ⟨E', C', hlog', hacct', hroot, hrid⟩ := omap_set_acctR hT hcfg h hk
    (hcfg.1 ▸ ValueOkR.of_le hs1 hs2) _ (fun id hid ha => Nat.le_trans (hc id hid ha) hle) hids hr1
  obtain ⟨hal', rfl⟩ := plain_allocCnt (omap_set_plain hr) hlog'
  obtain ⟨Ev, C, hC, g1, g2, g3, g4⟩ := created_then_acct hvs hlog' hacct' hal' (old_of_ctxOk hc)
  exact ⟨_, _, g1, g2, lastAction_append_some hroot, hrid, g3, g4, hC.symm⟩

theorem omap_set_created (hT : legalThreshold T = true) {cfg : MCfg} {m : OMap r} (hcfg : CfgOk cfg T m)
    (h : MapInv T D m) {k : MKey} (hk : KeyOk T (r + 1) D k) {v : Elem} (hv : ValueOkM v) (c : Ctx)
    (hc : CtxOk m c) (hids : MIdsOk m) {old : Option Elem} {m' : OMap r} {c' : Ctx}
    (hr : m.set cfg k v c = .ok (old, m', c')) :
    ∃ E C, MLog m.addr c c' E C ∧
      CreatedOk m.addr c.ctr c'.ctr E (C.map (·.1)) (AList.keys (MTree.slabs m'.d m'.root)) ∧
      AllocCnt m.addr c c' E ∧ c.created ++ C = (tsv cfg k v c).2.created :=
  let ⟨E, C, g1, _, _, _, g5, g6, g7⟩ := omap_set_acct_created hT hcfg h hk hv c hc hids hr
  ⟨E, C, g1, g5, g6, g7⟩

/-- `Remove`: nothing is created; the counter advanced by the number of allocations -/
theorem omap_remove_created (hT : legalThreshold T = true) {cfg : MCfg} {m : OMap r} (hcfg : CfgOk cfg T m)
    (h : MapInv T D m) {k : MKey} (hk : KeyOk T (r + 1) D k) (c : Ctx)
    (hc : CtxOk m c) (hids : MIdsOk m) {k0 : MKey} {v0 : Elem} {m' : OMap r} {c' : Ctx}
    (hr : m.remove cfg k c = .ok (k0, v0, m', c')) :
    ∃ E, MLog m.addr c c' E [] ∧ AllocCnt m.addr c c' E := by
  obtain ⟨E, C, hlog, _, _, _⟩ := omap_remove_acct hT hcfg h hk c hc hids hr
  obtain ⟨hal, rfl⟩ := plain_allocCnt (omap_remove_plain hr) hlog
  exact ⟨E, hlog, hal⟩

end ops

end Atree.E2EM

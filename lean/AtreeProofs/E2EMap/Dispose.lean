import AtreeProofs.E2EMapDisposeSpec
import AtreeProofs.E2EMap.HistoryFull
import AtreeProofs.Map.Refs
/-
  Histories with disposal run against the storage state machine: the invariant `MGoodD`
  (`E2EMapDisposeSpec.lean`; in particular the exact-heap statement `rep.view`) is kept by every
  request followed by the disposal of what it handed back.  Disposal is the log suffix
  `E2ED.rmLog ids`; `MRefsOk` is `WE2E.RefsAt` at the map's view (`refsAt_iff`), and the reference
  bookkeeping is `WE2E.Holds.step_refs` on the lists of pairs of `MServed` (`MServed.goodD`).
-/
namespace Atree.E2EMD
open Atree Gen MTree St
open Atree.E2E (newEffs newEffs_of_log newEffs_self)
open Atree.E2ED (rmLog)
open Atree.E2EM (MSSlab MGood MStepSum MServed mstored contentOf applyEffs stepM MOp wrOf creOf
  served_stepM)

variable {β : Type} {r : Nat}

theorem disposeOps_eq (content : SlabID → Option (MSSlab r)) (ids : List SlabID) :
    E2EM.effOps content (rmLog ids) = disposeOps ids := by
  induction ids with
  | nil => rfl
  | cons i ids ih =>
    have : E2EM.effOps content (rmLog (i :: ids))
        = E2EM.effOp content (.remove i) ++ E2EM.effOps content (rmLog ids) := by
      simp [E2EM.effOps, rmLog]
    rw [this, ih]
    rfl

theorem MGoodD.toMGood {c : Codec (MSSlab r) β} {T : Nat} {D : DigestFn (r + 1)} {cfg : MCfg}
    {x : (OMap r × Ctx) × St (MSSlab r) β} (h : MGoodD c T D cfg x) : MGood c T D cfg x :=
  ⟨h.inv, h.ids, h.ctx, h.cfg, h.aok, h.addr, h.st, h.cre, ⟨_, h.rep⟩⟩

theorem refsAt_iff {m : OMap r} {ctr : Nat} : WE2E.RefsAt m.cview m.refIds ctr ↔ MRefsOk m ctr :=
  ⟨fun h => ⟨h.nodup, fun id hid => ⟨(mslabAt_isNone m id).1 (h.out id hid), h.alloc id hid⟩⟩,
   fun h => ⟨h.1, fun id hid => (mslabAt_isNone m id).2 (h.2 id hid).1, fun id hid => (h.2 id hid).2⟩⟩

/-- One step, for any account: the storage calls `E` of a request with an account, then the disposal of
    `H`, if up to order the references were `G` (those in `H`) and `K` and are now those of the created
    slabs and `K`. -/
theorem mgoodD_step (c : Codec (MSSlab r) β) (hc : RoundTrip c) (T : Nat) (D : DigestFn (r + 1))
    (cfg : MCfg) (m : OMap r) (ctx : Ctx) (s : St (MSSlab r) β) (m' : OMap r) (ctx' : Ctx)
    (E : List Eff) (C : List (SlabID × Elem)) (H G K : List SlabID)
    (hg : MGoodD c T D cfg ((m, ctx), s)) (sum : MStepSum T D cfg m ctx m' ctx' E C)
    (old : m.refIds.Perm (G ++ K)) (new : m'.refIds.Perm (C.map (·.1) ++ K)) (hC : (C.map (·.1)).Nodup)
    (hids : ∀ id, id ∈ H ↔ id ∈ G) :
    MGoodD c T D cfg ((m', ctx'),
      St.run c (applyEffs c s (contentOf (m', ctx')) (newEffs ctx ctx')) (disposeOps H)) := by
  have hstate : St.run c (applyEffs c s (contentOf (m', ctx')) (newEffs ctx ctx')) (disposeOps H)
      = applyEffs c s (mstored m' (AList.find? ctx'.created)) (E ++ rmLog H) := by
    rw [← disposeOps_eq (contentOf (m', ctx')) H, newEffs_of_log sum.log, E2EM.applyEffs_append]
    rfl
  obtain ⟨hrep, hcle', hres', hR'⟩ := (E2EM.mrep_iff_holds.1 hg.rep).step_refs c hg.addr hg.cre hg.nodang
    sum.account (refsAt_iff.2 hg.refs) old new hC hids
  rw [E2EM.mstored_cview, ← E2EM.applyEffs_eq, ← hstate] at hrep
  exact ⟨sum.model_after.inv, sum.model_after.ids, sum.model_after.ctx, sum.model_after.cfg, sum.model_after.aok,
    sum.addr ▸ hg.addr, inv_run c hc _ _ (E2EM.applyEffs_inv c hc s _ _ hg.st), hcle', refsAt_iff.1 hR', hres',
    E2EM.mrep_iff_holds.2 hrep⟩

/-- a request that changes nothing and hands back nothing -/
theorem mgoodD_unchanged (c : Codec (MSSlab r) β) (T : Nat) (D : DigestFn (r + 1)) (cfg : MCfg)
    (x : (OMap r × Ctx) × St (MSSlab r) β) (hg : MGoodD c T D cfg x) :
    MGoodD c T D cfg (x.1, St.run c (applyEffs c x.2 (contentOf x.1) (newEffs x.1.2 x.1.2)) (disposeOps [])) := by
  rw [newEffs_self, E2EM.applyEffs_nil]
  exact hg

theorem refsOfVals_map_snd (l : List (MKey × Elem)) : refsOfVals (l.map (·.2)) = OMap.refsOf l := by
  simp only [refsOfVals, OMap.refsOf, List.filterMap_map]
  congr 1

theorem refsOf_eq (l : List (MKey × Elem)) : OMap.refsOf l = refIdsOf (l.map (·.2)) := by
  rw [OMap.refsOf, refIdsOf, List.filterMap_map]
  congr 1

end Atree.E2EMD

namespace Atree.E2EM
open Atree Gen MTree St E2EMD
open Atree.E2E (newEffs)

variable {β : Type} {r : Nat}

/-- The invariant with disposal is kept by a request that is served, followed by the disposal of
    what it handed back: up to order, the old references are those of the pairs that went (handed
    back) and of the pairs kept, the new ones are the created slabs and those of the pairs kept. -/
theorem MServed.goodD (c : Codec (MSSlab r) β) (hc : RoundTrip c) {T : Nat} {D : DigestFn (r + 1)}
    {cfg : MCfg} {m : OMap r} {ctx : Ctx} {op : MOp} {st' : OMap r × Ctx}
    (h : MServed T D cfg m ctx op st') (hop : op.Ok T D) (s : St (MSSlab r) β)
    (hg : MGoodD c T D cfg ((m, ctx), s)) :
    MGoodD c T D cfg (st', St.run c (applyEffs c s (contentOf st') (newEffs ctx st'.2))
      (disposeOps (refsOfVals (handedBack cfg (m, ctx) op)))) := by
  cases h with
  | rejected spec handed =>
    rw [handed]
    exact mgoodD_unchanged c T D cfg ((m, ctx), s) hg
  | done m' ctx' E C w gone kept h =>
    obtain ⟨sum, hw, cre, dict, old, new, handed, ty, seed⟩ := h
    rw [handed, refsOfVals_map_snd]
    obtain ⟨C', hC', hwr⟩ := E2EM.written_wrOf cfg ctx (w := w) fun p hp => by
      obtain rfl := E2EM.MOp.eq_set (hw.trans (Option.mem_def.1 hp))
      exact hop.2
    obtain rfl : C = C' := List.append_cancel_left ((sum.log.created.symm.trans cre).trans hC')
    refine mgoodD_step c hc T D cfg m ctx s m' ctx' E C _ _ (OMap.refsOf kept) hg sum ?_ ?_ hwr.nodup
      (fun _ => Iff.rfl)
    · rw [← OMap.refsOf_append]; exact old.filterMap _
    · rw [← hwr.refIds, ← refsOf_eq, ← OMap.refsOf_append]; exact new.filterMap _

end Atree.E2EM

namespace Atree.E2EMD
open Atree Gen MTree St
open Atree.E2E (newEffs newEffs_of_log newEffs_self)
open Atree.E2ED (rmLog)
open Atree.E2EM (MSSlab MGood MStepSum MServed mstored contentOf applyEffs stepM MOp wrOf creOf
  served_stepM)

variable {β : Type} {r : Nat}

theorem mgoodD_stepD (c : Codec (MSSlab r) β) (hc : RoundTrip c) (T : Nat) (hT : legalThreshold T = true)
    (D : DigestFn (r + 1)) (cfg : MCfg) (x : (OMap r × Ctx) × St (MSSlab r) β)
    (hg : MGoodD c T D cfg x) (op : MOp) (hop : op.Ok T D) :
    MGoodD c T D cfg (stepD c cfg x op) ∧ (stepD c cfg x op).1 = stepM cfg x.1 op :=
  ⟨(served_stepM hT x.1.1 x.1.2 hg.toMGood.model op hop).goodD c hc hop x.2 hg, rfl⟩

theorem runD_fst (c : Codec (MSSlab r) β) (cfg : MCfg) :
    ∀ (ops : List MOp) (x : (OMap r × Ctx) × St (MSSlab r) β), (runD c cfg x ops).1 = E2EM.runM cfg x.1 ops :=
  fun ops x =>
    foldl_sim (stepD c cfg) (stepM cfg) (fun _ => True) (fun s t => s.1 = t) (fun _ _ _ _ h => h ▸ rfl)
      ops x x.1 (fun _ _ => trivial) rfl

theorem mgoodD_runD (c : Codec (MSSlab r) β) (hc : RoundTrip c) (T : Nat) (hT : legalThreshold T = true)
    (D : DigestFn (r + 1)) (cfg : MCfg) :
    ∀ (ops : List MOp) (x : (OMap r × Ctx) × St (MSSlab r) β), MGoodD c T D cfg x →
      (∀ op ∈ ops, op.Ok T D) → MGoodD c T D cfg (runD c cfg x ops) :=
  fun ops x hg hok =>
    foldl_sim (stepD c cfg) (fun (u : Unit) _ => u) (MOp.Ok T D) (fun x _ => MGoodD c T D cfg x)
      (fun x _ op hop h => (mgoodD_stepD c hc T hT D cfg x h op hop).1) ops x () hok hg

theorem mgoodD_new (c : Codec (MSSlab r) β) (hc : RoundTrip c) (T : Nat) (hT : legalThreshold T = true)
    (D : DigestFn (r + 1)) (cfg : MCfg) (hcT : cfg.T = T) (hcL : cfg.L = r + 1) (haddr : cfg.addr ≠ 0)
    (ty : Nat) (seedOf : SlabID → Nat) :
    MGoodD c T D cfg (E2EM.newS c cfg.addr ty seedOf) := by
  obtain ⟨g, _, _, _, _⟩ := E2EM.mgoodF_new c hc T hT D cfg hcT hcL haddr ty seedOf
  have hcre : (E2EM.newS c cfg.addr ty seedOf).1.2.created = [] := rfl
  have hrefs : (E2EM.newS c cfg.addr ty seedOf).1.1.refIds = [] := rfl
  have hlive : live (E2EM.newS c cfg.addr ty seedOf).1 = AList.find? (E2EM.newS c cfg.addr ty seedOf).1.2.created := by
    funext id
    simp [live, hrefs, hcre]
  refine ⟨g.inv, g.ids, g.ctx, g.cfg, g.aok, g.addr, g.st, g.created_le, ?_, ?_, ?_⟩
  · exact .of_nil rfl
  · intro id hid; rw [hrefs] at hid; cases hid
  · rw [hlive]; exact g.rep

end Atree.E2EMD

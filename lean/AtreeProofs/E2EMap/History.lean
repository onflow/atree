import AtreeProofs.Map.Example
import AtreeProofs.E2E.History
import AtreeProofs.E2EMap.Served
import AtreeProofs.ScheduleLemmas
/-
  Histories of map operations run against the storage state machine: the invariant `MGood` — the
  model half `MModelGood` (`E2EMap/StepSum.lean`), the storage invariant, and the representation
  `MRep` for some live large-value slabs `extra` (the invariant `MGoodF` of `HistoryFull.lean` says
  which) — is kept by every request.  The per-request theorems are instances of `MServed.good`.
-/
namespace Atree.E2EM
open Atree Gen MTree
open Atree.E2E (newEffs newEffs_of_log newEffs_self ne_undef_of_addr)

variable {β : Type} {r : Nat}

theorem applyEffs_nil (c : Codec (MSSlab r) β) (s : St (MSSlab r) β)
    (content : SlabID → Option (MSSlab r)) : applyEffs c s content [] = s := rfl

structure MGood (c : Codec (MSSlab r) β) (T : Nat) (D : DigestFn (r + 1)) (cfg : MCfg)
    (x : (OMap r × Ctx) × St (MSSlab r) β) : Prop where
  inv : MapInv T D x.1.1
  ids : MIdsOk x.1.1
  ctx : CtxOk x.1.1 x.1.2
  cfg : CfgOk cfg T x.1.1
  aok : MAddrOk x.1.1
  addr : x.1.1.addr ≠ 0
  st : Inv c x.2
  cre : ∀ p ∈ x.1.2.created, p.1.idx ≤ x.1.2.ctr
  rep : ∃ extra, MRep c x.2 x.1.1 extra x.1.2.ctr

theorem mEffectsComplete_mono {m m' : OMap r} {E : List Eff} {cr cr0 : List SlabID}
    (h : MEffectsComplete m m' E cr) : MEffectsComplete m m' E (cr0 ++ cr) :=
  ⟨h.changed_stored, h.gone_removed, fun j hj => (h.stored_in_tree j hj).imp (fun h => h)
    (fun h => List.mem_append.2 (Or.inr h)), h.removed_not_in_tree⟩

theorem MGood.model {c : Codec (MSSlab r) β} {T : Nat} {D : DigestFn (r + 1)} {cfg : MCfg}
    {x : (OMap r × Ctx) × St (MSSlab r) β} (h : MGood c T D cfg x) : MModelGood T D cfg x.1 :=
  ⟨h.inv, h.ids, h.ctx, h.cfg, h.aok⟩

/-- an action on the storage alone keeps `MGood` if it keeps the storage invariant and the representation -/
theorem MGood.storage {c : Codec (MSSlab r) β} {T : Nat} {D : DigestFn (r + 1)} {cfg : MCfg}
    {st : OMap r × Ctx} {s s' : St (MSSlab r) β} (h : MGood c T D cfg (st, s)) (hI : Inv c s')
    (hrep : ∃ extra, MRep c s' st.1 extra st.2.ctr) : MGood c T D cfg (st, s') :=
  ⟨h.inv, h.ids, h.ctx, h.cfg, h.aok, h.addr, hI, h.cre, hrep⟩

/-- An operation with an account (`MStepSum`) keeps `MGood`: the live large-value slabs afterwards
    are those `extraStep` reads off the log. -/
theorem mgood_step (c : Codec (MSSlab r) β) (hc : RoundTrip c) (T : Nat) (D : DigestFn (r + 1))
    (cfg : MCfg) (m : OMap r) (ctx : Ctx) (s : St (MSSlab r) β) (m' : OMap r) (ctx' : Ctx)
    (E : List Eff) (C : List (SlabID × Elem))
    (hg : MGood c T D cfg ((m, ctx), s)) (sum : MStepSum T D cfg m ctx m' ctx' E C) :
    MGood c T D cfg ((m', ctx'), applyEffs c s (contentOf (m', ctx')) (newEffs ctx ctx')) := by
  obtain ⟨extra, hrep⟩ := hg.rep
  obtain ⟨hrep', hle⟩ := (mrep_iff_holds.1 hrep).step_account c hg.addr hg.cre sum.account
  rw [mstored_cview, ← applyEffs_eq] at hrep'
  exact ⟨sum.model_after.inv, sum.model_after.ids, sum.model_after.ctx, sum.model_after.cfg,
    sum.model_after.aok, sum.addr ▸ hg.addr, applyEffs_inv c hc s _ _ hg.st, hle,
    ⟨_, mrep_iff_holds.2 hrep'⟩⟩

theorem mgood_unchanged (c : Codec (MSSlab r) β) (T : Nat) (D : DigestFn (r + 1)) (cfg : MCfg)
    (x : (OMap r × Ctx) × St (MSSlab r) β) (hg : MGood c T D cfg x) :
    MGood c T D cfg (x.1, applyEffs c x.2 (contentOf x.1) (newEffs x.1.2 x.1.2)) := by
  rw [newEffs_self, applyEffs_nil]
  exact hg

theorem MServed.good (c : Codec (MSSlab r) β) (hc : RoundTrip c) {T : Nat} {D : DigestFn (r + 1)}
    {cfg : MCfg} {m : OMap r} {ctx : Ctx} {op : MOp} {st' : OMap r × Ctx}
    (h : MServed T D cfg m ctx op st') (s : St (MSSlab r) β) (hg : MGood c T D cfg ((m, ctx), s)) :
    MGood c T D cfg (st', applyEffs c s (contentOf st') (newEffs ctx st'.2)) ∧ st'.1.rootID = m.rootID := by
  cases h with
  | rejected => exact ⟨mgood_unchanged c T D cfg ((m, ctx), s) hg, rfl⟩
  | done m' ctx' E C w gone kept h => exact ⟨mgood_step c hc T D cfg m ctx s m' ctx' E C hg h.sum, h.sum.rootID⟩

theorem mgood_stepS (c : Codec (MSSlab r) β) (hc : RoundTrip c) (T : Nat) (hT : legalThreshold T = true)
    (D : DigestFn (r + 1)) (cfg : MCfg) (x : (OMap r × Ctx) × St (MSSlab r) β)
    (hg : MGood c T D cfg x) (op : MOp) (hop : op.Ok T D) :
    MGood c T D cfg (stepS c cfg x op) ∧ (stepS c cfg x op).1.1.rootID = x.1.1.rootID :=
  (served_stepM hT x.1.1 x.1.2 hg.model op hop).good c hc x.2 hg

theorem mgood_set (c : Codec (MSSlab r) β) (hc : RoundTrip c) (T : Nat) (hT : legalThreshold T = true)
    (D : DigestFn (r + 1)) (cfg : MCfg) (x : (OMap r × Ctx) × St (MSSlab r) β)
    (hg : MGood c T D cfg x) (k : MKey) (hk : KeyOk T (r + 1) D k) (v : Elem) (hv : ValueOkM v) :
    MGood c T D cfg (stepS c cfg x (.set k v)) ∧
    (stepS c cfg x (.set k v)).1.1.rootID = x.1.1.rootID :=
  mgood_stepS c hc T hT D cfg x hg (.set k v) ⟨hk, hv⟩

theorem mgood_remove (c : Codec (MSSlab r) β) (hc : RoundTrip c) (T : Nat) (hT : legalThreshold T = true)
    (D : DigestFn (r + 1)) (cfg : MCfg) (x : (OMap r × Ctx) × St (MSSlab r) β)
    (hg : MGood c T D cfg x) (k : MKey) (hk : KeyOk T (r + 1) D k) :
    MGood c T D cfg (stepS c cfg x (.remove k)) ∧
    (stepS c cfg x (.remove k)).1.1.rootID = x.1.1.rootID :=
  mgood_stepS c hc T hT D cfg x hg (.remove k) hk

theorem mgood_pop (c : Codec (MSSlab r) β) (hc : RoundTrip c) (T : Nat) (hT : legalThreshold T = true)
    (D : DigestFn (r + 1)) (cfg : MCfg) (x : (OMap r × Ctx) × St (MSSlab r) β)
    (hg : MGood c T D cfg x) :
    MGood c T D cfg (stepS c cfg x .popIterate) ∧
    (stepS c cfg x .popIterate).1.1.rootID = x.1.1.rootID :=
  mgood_stepS c hc T hT D cfg x hg .popIterate trivial

theorem mgood_setType (c : Codec (MSSlab r) β) (hc : RoundTrip c) (T : Nat)
    (D : DigestFn (r + 1)) (cfg : MCfg) (x : (OMap r × Ctx) × St (MSSlab r) β)
    (hg : MGood c T D cfg x) (ty : Nat) :
    MGood c T D cfg (stepS c cfg x (.setType ty)) ∧
    (stepS c cfg x (.setType ty)).1.1.rootID = x.1.1.rootID :=
  (served_setType x.1.1 x.1.2 hg.model ty).good c hc x.2 hg

theorem mgood_runS (c : Codec (MSSlab r) β) (hc : RoundTrip c) (T : Nat) (hT : legalThreshold T = true)
    (D : DigestFn (r + 1)) (cfg : MCfg) :
    ∀ (ops : List MOp) (x : (OMap r × Ctx) × St (MSSlab r) β), MGood c T D cfg x →
      (∀ op ∈ ops, op.Ok T D) →
      MGood c T D cfg (runS c cfg x ops) ∧ (runS c cfg x ops).1.1.rootID = x.1.1.rootID :=
  fun ops x hg hok =>
    foldl_invariant (stepS c cfg) (MOp.Ok T D) (MGood c T D cfg) (fun a b => b.1.1.rootID = a.1.1.rootID)
      (fun _ => rfl) (fun h1 h2 => h2.trans h1) (fun x op hop hg => mgood_stepS c hc T hT D cfg x hg op hop)
      ops x hok hg

theorem runS_fst (c : Codec (MSSlab r) β) (cfg : MCfg) :
    ∀ (ops : List MOp) (x : (OMap r × Ctx) × St (MSSlab r) β), (runS c cfg x ops).1 = runM cfg x.1 ops :=
  fun ops x =>
    foldl_sim (stepS c cfg) (stepM cfg) (fun _ => True) (fun s t => s.1 = t) (fun _ _ _ _ h => h ▸ rfl)
      ops x x.1 (fun _ _ => trivial) rfl

/-- the storage half after `NewMap` (`WE2E.StoreGood.new`: the only slab is the root `⟨addr, 1⟩`) -/
theorem storeGood_new (c : Codec (MSSlab r) β) (hc : RoundTrip c) (addr : Nat) (haddr : addr ≠ 0) (ty : Nat)
    (seedOf : SlabID → Nat) :
    WE2E.StoreGood c (newS c addr ty seedOf).2 (newS c addr ty seedOf).1.1.cview
      (newS c addr ty seedOf).1.2 := by
  have hkeys : AList.keys (MTree.slabs (newS c addr ty seedOf).1.1.d (newS c addr ty seedOf).1.1.root)
      = [⟨addr, 1⟩] := rfl
  have h := WE2E.StoreGood.new c hc (V := (newS c addr ty seedOf).1.1.cview) haddr
    ((mslabAt_isSome _ _).2 (by rw [hkeys]; exact List.mem_singleton_self _))
    (fun id h => List.mem_singleton.1 (hkeys ▸ (mslabAt_isSome _ id).1 h))
    (fun id h => (mslabAt_isNone _ id).2 h)
  rw [mstored_cview, ← applyEffs_eq] at h
  exact h

theorem mgood_new (c : Codec (MSSlab r) β) (hc : RoundTrip c) (T : Nat) (hT : legalThreshold T = true)
    (D : DigestFn (r + 1)) (cfg : MCfg) (hcT : cfg.T = T) (hcL : cfg.L = r + 1) (haddr : cfg.addr ≠ 0)
    (ty : Nat) (seedOf : SlabID → Nat) :
    MGood c T D cfg (newS c cfg.addr ty seedOf) ∧ (newS c cfg.addr ty seedOf).1.1.rootID = ⟨cfg.addr, 1⟩ := by
  have hG := MapExample.Good.new (r := r) (T := T) (D := D) (cfg := cfg) hT hcT hcL ty seedOf ⟨0, [], []⟩
  have hsg := storeGood_new c hc cfg.addr haddr ty seedOf
  refine ⟨⟨hG.inv, MIdsOk.new cfg.addr ty seedOf _, hG.ctx, hG.cfgok, fun id hid => ?_, haddr, hsg.st,
    fun p hp => (nomatch hp), ⟨_, mrep_iff_holds.2 hsg.rep⟩⟩, rfl⟩
  have hid' : id ∈ [(⟨cfg.addr, 1⟩ : SlabID)] := hid
  rw [List.mem_singleton.1 hid']
  rfl

end Atree.E2EM

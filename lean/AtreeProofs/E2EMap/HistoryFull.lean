import AtreeProofs.E2EMap.History
/-
  Histories of map operations run against the storage state machine, full invariant
  (`MGoodF`): as `MGood` (`E2EMap/History.lean`), and
  * the live large-value slabs are exactly the slabs created so far (`extra = find? ctx.created`),
  * the storage's allocation counter agrees with the model's (`MAllocSync`),
  * no value of the map is a dangling reference (`MRefsOk`),
  * every pending store is owned by the map's address (`pend`),
  and the dictionary of resolved values follows the dictionary semantics of the requests
  (`DictStep`).  `MGoodF` is the model half `MModelGood`, the storage half `WE2E.StoreGood` at
  `OMap.cview` and `MRefsOk` (`mgoodF_iff`); it is kept by every served request (`MServed.goodF`).
-/
namespace Atree.E2EM
open Atree Gen MTree St
open Atree.WE2E (StoreGood)
open Atree.E2E (newEffs newEffs_self find?_isSome_of_mem_keys allocCount resolve)

variable {β : Type} {r : Nat}

/-- no value of the map is a dangling reference to a large-value slab -/
def MRefsOk (st : OMap r × Ctx) : Prop :=
  ∀ p ∈ st.1.toList, ∀ y, p.2.pay = .ref y → (AList.find? st.2.created y).isSome

/-- the storage's allocation counter for the owner agrees with the map model's -/
def MAllocSync (s : St (MSSlab r) β) (addr ctr : Nat) : Prop :=
  (AList.find? s.alloc addr).getD 0 = ctr

structure MGoodF (c : Codec (MSSlab r) β) (T : Nat) (D : DigestFn (r + 1)) (cfg : MCfg)
    (x : (OMap r × Ctx) × St (MSSlab r) β) : Prop where
  inv : MapInv T D x.1.1
  ids : MIdsOk x.1.1
  ctx : CtxOk x.1.1 x.1.2
  cfg : CfgOk cfg T x.1.1
  aok : MAddrOk x.1.1
  addr : x.1.1.addr ≠ 0
  st : Inv c x.2
  rep : MRep c x.2 x.1.1 (AList.find? x.1.2.created) x.1.2.ctr
  sync : MAllocSync x.2 x.1.1.addr x.1.2.ctr
  caddr : ∀ p ∈ x.1.2.created, p.1.addr = x.1.1.addr
  refs : MRefsOk x.1
  /-- every pending store is owned by the map's address -/
  pend : ∀ id v, AList.find? x.2.deltas id = some (some v) → id.addr = x.1.1.addr

theorem MGoodF.created_le {c : Codec (MSSlab r) β} {T : Nat} {D : DigestFn (r + 1)} {cfg : MCfg}
    {x : (OMap r × Ctx) × St (MSSlab r) β} (h : MGoodF c T D cfg x) :
    ∀ p ∈ x.1.2.created, p.1.idx ≤ x.1.2.ctr := by
  intro p hp
  exact (h.rep.extra_fresh p.1 (find?_isSome_of_mem_keys (List.mem_map_of_mem hp))).2

theorem MGoodF.toMGood {c : Codec (MSSlab r) β} {T : Nat} {D : DigestFn (r + 1)} {cfg : MCfg}
    {x : (OMap r × Ctx) × St (MSSlab r) β} (h : MGoodF c T D cfg x) : MGood c T D cfg x :=
  ⟨h.inv, h.ids, h.ctx, h.cfg, h.aok, h.addr, h.st, h.created_le, ⟨_, h.rep⟩⟩

theorem MGoodF.model {c : Codec (MSSlab r) β} {T : Nat} {D : DigestFn (r + 1)} {cfg : MCfg}
    {x : (OMap r × Ctx) × St (MSSlab r) β} (h : MGoodF c T D cfg x) : MModelGood T D cfg x.1 :=
  ⟨h.inv, h.ids, h.ctx, h.cfg, h.aok⟩

theorem mgoodF_iff {c : Codec (MSSlab r) β} {T : Nat} {D : DigestFn (r + 1)} {cfg : MCfg}
    {x : (OMap r × Ctx) × St (MSSlab r) β} :
    MGoodF c T D cfg x ↔ MModelGood T D cfg x.1 ∧ StoreGood c x.2 x.1.1.cview x.1.2 ∧ MRefsOk x.1 :=
  ⟨fun h => ⟨h.model, ⟨mrep_iff_holds.1 h.rep, h.st, h.addr, h.sync, h.caddr, h.pend⟩, h.refs⟩,
   fun ⟨h1, h2, h3⟩ => ⟨h1.inv, h1.ids, h1.ctx, h1.cfg, h1.aok, h2.addr, h2.st, mrep_iff_holds.2 h2.rep,
      h2.sync, h2.caddr, h3, h2.pend⟩⟩

/-- An operation with an account (`MStepSum`) keeps `MGoodF`, given `MRefsOk` of the new state. -/
theorem mgoodF_step (c : Codec (MSSlab r) β) (hc : RoundTrip c) (T : Nat) (D : DigestFn (r + 1))
    (cfg : MCfg) (m : OMap r) (ctx : Ctx) (s : St (MSSlab r) β) (m' : OMap r) (ctx' : Ctx)
    (E : List Eff) (C : List (SlabID × Elem))
    (hg : MGoodF c T D cfg ((m, ctx), s)) (sum : MStepSum T D cfg m ctx m' ctx' E C)
    (hrefs : MRefsOk (m', ctx')) :
    MGoodF c T D cfg ((m', ctx'), applyEffs c s (contentOf (m', ctx')) (newEffs ctx ctx')) := by
  have h := (mgoodF_iff.1 hg).2.1.step c hc sum.account
  rw [mstored_cview, ← applyEffs_eq] at h
  exact mgoodF_iff.2 ⟨sum.model_after, h, hrefs⟩

theorem mgoodF_unchanged (c : Codec (MSSlab r) β) (T : Nat) (D : DigestFn (r + 1)) (cfg : MCfg)
    (x : (OMap r × Ctx) × St (MSSlab r) β) (hg : MGoodF c T D cfg x) :
    MGoodF c T D cfg (x.1, applyEffs c x.2 (contentOf x.1) (newEffs x.1.2 x.1.2)) := by
  rw [newEffs_self, applyEffs_nil]
  exact hg

/-- the value bound to `k`: the stored value, a reference resolved through the large-value slabs
    created so far -/
def lookupR (st : OMap r × Ctx) (k : MKey) : Option Elem :=
  (dictLookup st.1.toList k).map (resolve st.2.created)

/-- One request against the dictionary `f`: it is carried out (a `Remove` of an absent key changes
    nothing), or it is a `Set` of a NEW key that is refused (collision limit, C12) and nothing
    changes.  Lookups are compared on the keys the map accepts (`KeyOk`). -/
def DictStep (T : Nat) (D : DigestFn (r + 1)) (f f' : MKey → Option Elem) (op : MOp) : Prop :=
  (∀ k', KeyOk T (r + 1) D k' → f' k' = specStepM f op k') ∨
  ((∃ k v, op = .set k v ∧ f k = none) ∧ ∀ k', f' k' = f k')

theorem keyOk_same_eq {T L : Nat} {D : DigestFn L} {a b : MKey} (ha : KeyOk T L D a) (hb : KeyOk T L D b)
    (h : a.same b = true) : a = b := KeyOk.eq_of_same ha hb h

/-- The full invariant is kept by a request that is served, and the dictionary of resolved values
    follows the request: the pairs of the new map are old pairs, whose references stay live and
    resolve as before, and the binding written, whose stored form resolves to the value handed over. -/
theorem MServed.goodF (c : Codec (MSSlab r) β) (hc : RoundTrip c) {T : Nat} {D : DigestFn (r + 1)}
    {cfg : MCfg} {m : OMap r} {ctx : Ctx} {op : MOp} {st' : OMap r × Ctx}
    (h : MServed T D cfg m ctx op st') (hop : op.Ok T D) (s : St (MSSlab r) β)
    (hg : MGoodF c T D cfg ((m, ctx), s)) :
    MGoodF c T D cfg (st', applyEffs c s (contentOf st') (newEffs ctx st'.2)) ∧
    DictStep T D (lookupR (m, ctx)) (lookupR st') op ∧ st'.1.rootID = m.rootID ∧
    st'.1.ty = specTyM m.ty [op] ∧ st'.1.seed = m.seed := by
  cases h with
  | rejected spec _ =>
    refine ⟨mgoodF_unchanged c T D cfg ((m, ctx), s) hg, ?_, rfl, ?_, rfl⟩
    · rcases spec with ⟨k, v, rfl, hnone⟩ | ⟨k, rfl, hnone⟩
      · exact Or.inr ⟨⟨k, v, rfl, by simp [lookupR, hnone]⟩, fun _ => rfl⟩
      · refine Or.inl fun k' hk' => ?_
        simp only [specStepM]
        cases hs : k'.same k with
        | true =>
          have := keyOk_same_eq hk' hop hs
          subst this
          simp [lookupR, hnone]
        | false => rfl
    · rcases spec with ⟨k, v, rfl, _⟩ | ⟨k, rfl, _⟩ <;> rfl
  | done m' ctx' E C w gone kept h =>
    obtain ⟨sum, hw, cre, dict, old, new, _, ty, seed⟩ := h
    have hext : ctx'.created = ctx.created ++ C := sum.log.created
    have hold : ∀ e, (∀ y, e.pay = .ref y → (AList.find? ctx.created y).isSome) →
        (∀ y, e.pay = .ref y → (AList.find? ctx'.created y).isSome) ∧
        resolve ctx'.created e = resolve ctx.created e :=
      fun e he => ⟨hext ▸ E2E.refs_append he, hext ▸ E2E.resolve_append he⟩
    have hmem := mem_of_perms old new
    have hlk : ∀ k' e, KeyOk T (r + 1) D k' → dictLookup m.toList k' = some e →
        resolve ctx'.created e = resolve ctx.created e := fun k' e hk' he =>
      (hold e (hg.refs _ (mem_of_dictLookup_some hg.inv.allKeyOk hk' he))).2
    cases w with
    | none =>
      have hrefs : MRefsOk (m', ctx') := fun p hp =>
        (hold p.2 (hg.refs p ((hmem p hp).resolve_left (by simp [wrOf])))).1
      refine ⟨mgoodF_step c hc T D cfg m ctx s m' ctx' E C hg sum hrefs, Or.inl fun k' hk' => ?_,
        sum.rootID, ty, seed⟩
      rw [MOp.stored_of_kv?_none hw] at dict
      have hcre : ctx'.created = ctx.created := cre
      simp only [lookupR]
      rw [dict k' hk', hcre, specStepM_map _ _ hw]
      rfl
    | some p =>
      obtain ⟨k, v⟩ := p
      obtain rfl := MOp.eq_set hw
      obtain ⟨C', hC', hst⟩ := storable_tsv cfg k hop.2 ctx
      have hcre : ctx'.created = ctx.created ++ C' := cre.trans hC'
      obtain ⟨hres, hsf⟩ := hst.resolve hg.created_le
      have hrefs : MRefsOk (m', ctx') := by
        intro p hp
        rcases hmem p hp with h | h
        · simp only [wrOf, Option.toList, List.map_cons, List.map_nil, List.mem_singleton] at h
          rw [h, hcre]; exact hsf
        · exact (hold p.2 (hg.refs p h)).1
      refine ⟨mgoodF_step c hc T D cfg m ctx s m' ctx' E C hg sum hrefs, Or.inl fun k' hk' => ?_,
        sum.rootID, ty, seed⟩
      simp only [lookupR, specStepM]
      rw [dict k' hk']
      simp only [MOp.stored, specStepM]
      cases hs : k'.same k with
      | true => simp only [if_true, Option.map_some]; rw [hcre, hres]
      | false =>
        simp only [Bool.false_eq_true, if_false]
        cases hd : dictLookup m.toList k' with
        | none => rfl
        | some e => simp only [Option.map_some]; rw [hlk k' e hk' hd]

theorem mgoodF_stepS (c : Codec (MSSlab r) β) (hc : RoundTrip c) (T : Nat) (hT : legalThreshold T = true)
    (D : DigestFn (r + 1)) (cfg : MCfg) (x : (OMap r × Ctx) × St (MSSlab r) β)
    (hg : MGoodF c T D cfg x) (op : MOp) (hop : op.Ok T D) :
    MGoodF c T D cfg (stepS c cfg x op) ∧
    DictStep T D (lookupR x.1) (lookupR (stepS c cfg x op).1) op ∧
    (stepS c cfg x op).1.1.rootID = x.1.1.rootID ∧
    (stepS c cfg x op).1.1.ty = specTyM x.1.1.ty [op] ∧ (stepS c cfg x op).1.1.seed = x.1.1.seed :=
  (served_stepM hT x.1.1 x.1.2 hg.model op hop).goodF c hc hop x.2 hg

/-- a history against a dictionary: a chain of `DictStep`s -/
inductive DictRun (T : Nat) (D : DigestFn (r + 1)) : (MKey → Option Elem) → List MOp → (MKey → Option Elem) → Prop
  | nil (f : MKey → Option Elem) : DictRun T D f [] f
  | cons {f f1 f2 : MKey → Option Elem} {op : MOp} {ops : List MOp} :
      DictStep T D f f1 op → DictRun T D f1 ops f2 → DictRun T D f (op :: ops) f2

theorem DictRun.snoc {T : Nat} {D : DigestFn (r + 1)} {f f1 f2 : MKey → Option Elem} {ops : List MOp}
    {op : MOp} (h : DictRun T D f ops f1) (hs : DictStep T D f1 f2 op) : DictRun T D f (ops ++ [op]) f2 := by
  induction h with
  | nil f => exact .cons hs (.nil _)
  | cons h0 _ ih => exact .cons h0 (ih hs)

theorem specTyM_append (ty : Nat) (l1 l2 : List MOp) :
    specTyM ty (l1 ++ l2) = specTyM (specTyM ty l1) l2 := by
  induction l1 generalizing ty with
  | nil => rfl
  | cons op l1 ih => rw [List.cons_append, specTyM_cons, ih, ← specTyM_cons]

/-- Any history, from any state satisfying the full invariant.  The run is a fold from the left, so
    the chain `DictRun` is built by `snoc` over the requests served so far. -/
theorem mgoodF_runS (c : Codec (MSSlab r) β) (hc : RoundTrip c) (T : Nat) (hT : legalThreshold T = true)
    (D : DigestFn (r + 1)) (cfg : MCfg) :
    ∀ (ops : List MOp) (x : (OMap r × Ctx) × St (MSSlab r) β), MGoodF c T D cfg x →
      (∀ op ∈ ops, op.Ok T D) →
      MGoodF c T D cfg (runS c cfg x ops) ∧
      DictRun T D (lookupR x.1) ops (lookupR (runS c cfg x ops).1) ∧
      (runS c cfg x ops).1.1.rootID = x.1.1.rootID ∧
      (runS c cfg x ops).1.1.ty = specTyM x.1.1.ty ops ∧ (runS c cfg x ops).1.1.seed = x.1.1.seed := by
  intro ops x hg hok
  have h := foldl_sim (stepS c cfg) (fun (t : List MOp) op => t ++ [op]) (MOp.Ok T D)
    (fun y t => MGoodF c T D cfg y ∧ DictRun T D (lookupR x.1) t (lookupR y.1) ∧
      y.1.1.rootID = x.1.1.rootID ∧ y.1.1.ty = specTyM x.1.1.ty t ∧ y.1.1.seed = x.1.1.seed)
    (fun y t op hop ⟨h0, h1, h2, h3, h4⟩ => by
      obtain ⟨g0, g1, g2, g3, g4⟩ := mgoodF_stepS c hc T hT D cfg y h0 op hop
      exact ⟨g0, h1.snoc g1, g2.trans h2, by rw [g3, h3, specTyM_append], g4.trans h4⟩)
    ops x [] hok ⟨hg, .nil _, rfl, rfl, rfl⟩
  have key : ∀ (ops t : List MOp), ops.foldl (fun (t : List MOp) op => t ++ [op]) t = t ++ ops := by
    intro ops
    induction ops with
    | nil => intro t; exact (List.append_nil t).symm
    | cons op ops ih => intro t; rw [List.foldl_cons, ih, List.append_assoc]; rfl
  rw [key, List.nil_append] at h
  exact h

theorem mgoodF_new (c : Codec (MSSlab r) β) (hc : RoundTrip c) (T : Nat) (hT : legalThreshold T = true)
    (D : DigestFn (r + 1)) (cfg : MCfg) (hcT : cfg.T = T) (hcL : cfg.L = r + 1) (haddr : cfg.addr ≠ 0)
    (ty : Nat) (seedOf : SlabID → Nat) :
    MGoodF c T D cfg (newS c cfg.addr ty seedOf) ∧ (newS c cfg.addr ty seedOf).1.1.rootID = ⟨cfg.addr, 1⟩ ∧
    (newS c cfg.addr ty seedOf).1.1.ty = ty ∧ (newS c cfg.addr ty seedOf).1.1.seed = seedOf ⟨cfg.addr, 1⟩ ∧
    (∀ k, lookupR (newS c cfg.addr ty seedOf).1 k = none) := by
  obtain ⟨g, hrid⟩ := mgood_new c hc T hT D cfg hcT hcL haddr ty seedOf
  exact ⟨mgoodF_iff.2 ⟨g.model, storeGood_new c hc cfg.addr haddr ty seedOf, fun p hp => nomatch hp⟩,
    hrid, rfl, rfl, fun _ => rfl⟩

end Atree.E2EM

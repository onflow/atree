import AtreeProofs.E2EMap.RepStep
import AtreeProofs.E2E.Load
import AtreeProofs.Map.TreeInv2
import AtreeProofs.Map.EffectsTop
/-
  Loading a map from its slabs: the tree – external collision groups included – is
  determined by its stored slabs (`loadMap_of_agree`), and loading through a transparent
  state-threading fetch (`Retrieve`) is loading from the view (`loadMapSt_spec`).
-/
namespace Atree.E2EM
open Atree Gen MTree
open Atree.E2E (optAll optAll_map StKeep optAllSt_spec)

variable {r : Nat}

/-- child headers are the headers of the children, index slabs have children -/
def LoadOk : (d : Nat) → MTree r d → Prop
  | 0, _ => True
  | d + 1, (m : MMetaSlab (MTree r d)) =>
    m.childHdrs = m.children.map (MTree.hdr d) ∧ m.children ≠ [] ∧ ∀ c ∈ m.children, LoadOk d c

theorem loadOk_of_treeInv {T : Nat} {D : DigestFn (r + 1)} (hT : legalThreshold T = true) :
    ∀ (d : Nat) (top : Bool) (t : MTree r d), MTreeInv T D d top t → LoadOk d t
  | 0, _, _, _ => trivial
  | d + 1, top, (m : MMetaSlab (MTree r d)), h => by
    obtain ⟨hl, _, h1, h2⟩ := (mtreeInv_succ_iff T D d top m).1 h
    refine ⟨hl.hdrs_eq, ?_, fun c hc => loadOk_of_treeInv hT d false c (hl.kid_inv c hc)⟩
    intro hnil
    cases top with
    | true => have := h2 rfl; rw [hnil] at this; simp at this
    | false =>
      have := ((mtreeInv_false_iff_succ hT m).1 h).1.2
      rw [hnil] at this; simp at this

theorem loadElem_strip (look : SlabID → Option (MSSlab r)) (el : MElemF (MElems r))
    (h : ∀ id sz g, el = .ext id sz g → ∃ x, look id = some (.tree (.group g) x)) :
    loadElem look (stripElem el) = some el := by
  cases el with
  | single x => rfl
  | inl g => rfl
  | ext id sz g =>
    obtain ⟨x, hx⟩ := h id sz g rfl
    simp [stripElem, loadElem, hx]

theorem mem_groupSlabs {s : MDataSlab r} {id : SlabID} {sz : Nat} {g : GroupSlab (MElems r)}
    (h : MElemF.ext id sz g ∈ s.elems.elems) : (id, MSlabView.group g) ∈ s.groupSlabs := by
  unfold MDataSlab.groupSlabs
  rw [List.mem_filterMap]
  exact ⟨_, h, rfl⟩

theorem strip_unstrip (s : MDataSlab r) :
    ({ stripData s with elems := { (stripData s).elems with elems := s.elems.elems } } : MDataSlab r) = s := by
  obtain ⟨hdr, next, ⟨hk, el, sz, lv⟩, root, inl⟩ := s
  rfl

/-- The subtree is rebuilt from any lookup that returns the stored forms of its slabs. -/
theorem loadAt_tree (look : SlabID → Option (MSSlab r)) :
    ∀ (d : Nat) (t : MTree r d), LoadOk d t →
      (∀ p ∈ MTree.slabs d t, ∃ x, look p.1 = some (.tree (stripView p.2) x)) →
      loadAt look d (MTree.hdr d t).id = some t
  | 0, (s : MDataSlab r), _, h => by
    obtain ⟨x, hl⟩ := h (s.hdr.id, .data s) (by simp [MTree.slabs])
    simp only [stripView] at hl
    have hkids : optAll (loadElem look) (stripData s).elems.elems = some s.elems.elems := by
      show optAll (loadElem look) (s.elems.elems.map stripElem) = _
      apply optAll_map (loadElem look) stripElem
      intro el hel
      apply loadElem_strip
      intro id sz g he
      subst he
      obtain ⟨y, hy⟩ := h (id, .group g) (by
        simp only [MTree.slabs, List.mem_cons]
        exact Or.inr (mem_groupSlabs hel))
      exact ⟨y, hy⟩
    show loadAt look 0 s.hdr.id = some s
    simp only [loadAt, hl, hkids]
    exact congrArg some (strip_unstrip s)
  | d + 1, (m : MMetaSlab (MTree r d)), hok, h => by
    obtain ⟨h1, _, h3⟩ := hok
    obtain ⟨x, hl⟩ := h (m.hdr.id, .index m.hdr m.childHdrs m.root) (by simp [MTree.slabs])
    simp only [stripView] at hl
    have hkids : optAll (fun (hh : MHdr) => loadAt look d hh.id) m.childHdrs = some m.children := by
      rw [h1]
      apply optAll_map (fun (hh : MHdr) => loadAt look d hh.id) (MTree.hdr d)
      intro ch hch
      apply loadAt_tree look d ch (h3 ch hch)
      intro p hp
      apply h p
      simp only [MTree.slabs, List.mem_cons, List.mem_flatMap]
      exact Or.inr ⟨ch, hch, hp⟩
    show loadAt look (d + 1) m.hdr.id = some m
    simp only [loadAt, hl, hkids]
    rfl

theorem findDepth_tree (look : SlabID → Option (MSSlab r)) :
    ∀ (d : Nat) (t : MTree r d) (fuel : Nat), d < fuel → LoadOk d t →
      (∀ p ∈ MTree.slabs d t, ∃ x, look p.1 = some (.tree (stripView p.2) x)) →
      findDepth look fuel (MTree.hdr d t).id = some d
  | 0, (s : MDataSlab r), fuel, hf, _, h => by
    obtain ⟨x, hl⟩ := h (s.hdr.id, .data s) (by simp [MTree.slabs])
    simp only [stripView] at hl
    obtain ⟨f, rfl⟩ : ∃ f, fuel = f + 1 := ⟨fuel - 1, by omega⟩
    show findDepth look (f + 1) s.hdr.id = some 0
    simp only [findDepth, hl]
  | d + 1, (m : MMetaSlab (MTree r d)), fuel, hf, hok, h => by
    obtain ⟨h1, h2, h3⟩ := hok
    obtain ⟨x, hl⟩ := h (m.hdr.id, .index m.hdr m.childHdrs m.root) (by simp [MTree.slabs])
    simp only [stripView] at hl
    obtain ⟨f, rfl⟩ : ∃ f, fuel = f + 1 := ⟨fuel - 1, by omega⟩
    match hch : m.children with
    | [] => exact absurd hch h2
    | ch :: rest =>
      have hmem : ch ∈ m.children := by rw [hch]; simp
      have ih := findDepth_tree look d ch f (by omega) (h3 ch hmem) (by
        intro p hp
        apply h p
        simp only [MTree.slabs, List.mem_cons, List.mem_flatMap]
        exact Or.inr ⟨ch, hmem, hp⟩)
      show findDepth look (f + 1) m.hdr.id = some (d + 1)
      simp only [findDepth, hl, h1, hch, List.map_cons, ih, Option.map_some]

theorem mslabAt_of_mem {m : OMap r} (hnd : MIdsOk m) {p : SlabID × MSlabView r}
    (hp : p ∈ MTree.slabs m.d m.root) :
    m.slabAt p.1 = some (p.2, if p.1 = m.rootID then some (m.ty, m.count, m.seed) else none) := by
  have := (AList.mem_iff_find? (MTree.slabs m.d m.root) hnd p.1 p.2).1 hp
  simp [OMap.slabAt, this]

/-- Loading: any lookup that agrees with the representation of `m` on the owner's identifiers yields
    `m` itself – same depth, same slabs, same external collision groups, same entries, same type
    info, count and seed. -/
theorem loadMap_of_agree {T : Nat} {D : DigestFn (r + 1)} (hT : legalThreshold T = true) (m : OMap r)
    (hinv : MapInv T D m) (hids : MIdsOk m) (haddr : MAddrOk m) (extra : SlabID → Option Elem)
    (look : SlabID → Option (MSSlab r))
    (hag : ∀ id, id.addr = m.addr → look id = mstored m extra id) (fuel : Nat) (hf : m.d < fuel) :
    loadMap look m.rootID fuel = some m := by
  have hok := loadOk_of_treeInv hT m.d true m.root hinv.tree
  have hlook : ∀ p ∈ MTree.slabs m.d m.root, ∃ x, look p.1 = some (.tree (stripView p.2) x) := by
    intro p hp
    rw [hag p.1 (haddr p.1 (mem_keys_of_mem hp)), mstored_of_some (mslabAt_of_mem hids hp)]
    exact ⟨_, rfl⟩
  have hroot : ∃ v, look m.rootID = some (.tree v (some (m.ty, m.count, m.seed))) := by
    have hp : (m.rootID, ment m.d m.root) ∈ MTree.slabs m.d m.root := by
      rw [mslabs_eq]; exact List.mem_cons_self
    rw [hag m.rootID rfl, mstored_of_some (mslabAt_of_mem hids hp)]
    refine ⟨stripView (ment m.d m.root), ?_⟩
    simp
  obtain ⟨v, hroot⟩ := hroot
  unfold loadMap
  have h1 : findDepth look fuel m.rootID = some m.d := findDepth_tree look m.d m.root fuel hf hok hlook
  have h2 : loadAt look m.d m.rootID = some m.root := loadAt_tree look m.d m.root hok hlook
  rw [h1, hroot]
  simp only [h2, Option.map_some]

variable {β : Type}

/-- `s'` is `s` after transparent reads: the relation in which `loadMapSt_spec` states what the
    storage looks like after loading a map; proofs go through `E2E.StKeep`. -/
structure Keep (c : Codec (MSSlab r) β) (s s' : St (MSSlab r) β) : Prop where
  inv : Inv c s'
  view : s'.view c = s.view c
  deltas : s'.deltas = s.deltas
  base : s'.base = s.base

theorem Keep.iff_stKeep {c : Codec (MSSlab r) β} {s s' : St (MSSlab r) β} :
    Keep c s s' ↔ StKeep c s s' :=
  ⟨fun h => ⟨h.inv, h.view, h.deltas, h.base⟩, fun h => ⟨h.inv, h.view, h.deltas, h.base⟩⟩

theorem MFetchOk.get {c : Codec (MSSlab r) β} {fetch : MFetch r (St (MSSlab r) β)} (hf : MFetchOk c fetch)
    (s : St (MSSlab r) β) (id : SlabID) (hI : Inv c s) :
    ∃ s', fetch s id = .ok (s.view c id, s') ∧ StKeep c s s' := by
  obtain ⟨s', h1, h2, h3, h4, h5⟩ := hf s id hI
  exact ⟨s', h1, h2, h3, h4, h5⟩

theorem loadElemSt_spec (c : Codec (MSSlab r) β) (fetch : MFetch r (St (MSSlab r) β))
    (hf : MFetchOk c fetch) (V : SlabID → Option (MSSlab r)) (s : St (MSSlab r) β)
    (el : MElemF (MElems r)) (hI : Inv c s) (hV : s.view c = V) :
    ∃ s', loadElemSt fetch s el = .ok (loadElem V el, s') ∧ StKeep c s s' := by
  cases el with
  | single x => exact ⟨s, rfl, StKeep.refl hI⟩
  | inl g => exact ⟨s, rfl, StKeep.refl hI⟩
  | ext id sz g0 =>
    obtain ⟨s1, h1, k1⟩ := hf.get s id hI
    rw [hV] at h1
    simp only [loadElemSt, h1, loadElem]
    cases hv : V id with
    | none => exact ⟨s1, rfl, k1⟩
    | some sl =>
      cases sl with
      | large v => exact ⟨s1, rfl, k1⟩
      | tree t ty =>
        cases t with
        | data ds => exact ⟨s1, rfl, k1⟩
        | index h chs rt => exact ⟨s1, rfl, k1⟩
        | group g => exact ⟨s1, rfl, k1⟩

theorem loadAtSt_spec (c : Codec (MSSlab r) β) (fetch : MFetch r (St (MSSlab r) β)) (hf : MFetchOk c fetch)
    (V : SlabID → Option (MSSlab r)) :
    ∀ (d : Nat) (s : St (MSSlab r) β) (id : SlabID), Inv c s → s.view c = V →
      ∃ s', loadAtSt fetch d s id = .ok (loadAt V d id, s') ∧ StKeep c s s'
  | 0, s, id, hI, hV => by
    obtain ⟨s1, h1, k1⟩ := hf.get s id hI
    rw [hV] at h1
    simp only [loadAtSt, h1, loadAt]
    cases hv : V id with
    | none => exact ⟨s1, rfl, k1⟩
    | some sl =>
      cases sl with
      | large v => exact ⟨s1, rfl, k1⟩
      | tree t ty =>
        cases t with
        | data ds =>
          obtain ⟨s2, h2, k2⟩ := optAllSt_spec c V (loadElemSt fetch) (loadElem V)
            (fun s x hI' hV' => loadElemSt_spec c fetch hf V s x hI' hV') ds.elems.elems s1 k1.inv
            (k1.view.trans hV)
          simp only [h2]
          cases hk : E2E.optAll (loadElem V) ds.elems.elems with
          | none => exact ⟨s2, rfl, k1.trans k2⟩
          | some es => exact ⟨s2, rfl, k1.trans k2⟩
        | index h chs rt => exact ⟨s1, rfl, k1⟩
        | group g => exact ⟨s1, rfl, k1⟩
  | d + 1, s, id, hI, hV => by
    obtain ⟨s1, h1, k1⟩ := hf.get s id hI
    rw [hV] at h1
    simp only [loadAtSt, h1, loadAt]
    cases hv : V id with
    | none => exact ⟨s1, rfl, k1⟩
    | some sl =>
      cases sl with
      | large v => exact ⟨s1, rfl, k1⟩
      | tree t ty =>
        cases t with
        | data ds => exact ⟨s1, rfl, k1⟩
        | index h chs rt =>
          obtain ⟨s2, h2, k2⟩ := optAllSt_spec c V
            (fun s (hh : MHdr) => loadAtSt fetch d s hh.id) (fun (hh : MHdr) => loadAt V d hh.id)
            (fun s x hI' hV' => loadAtSt_spec c fetch hf V d s x.id hI' hV') chs s1 k1.inv
            (k1.view.trans hV)
          simp only [h2]
          cases hk : E2E.optAll (fun (hh : MHdr) => loadAt V d hh.id) chs with
          | none => exact ⟨s2, rfl, k1.trans k2⟩
          | some kids => exact ⟨s2, rfl, k1.trans k2⟩
        | group g => exact ⟨s1, rfl, k1⟩

theorem findDepthSt_spec (c : Codec (MSSlab r) β) (fetch : MFetch r (St (MSSlab r) β)) (hf : MFetchOk c fetch)
    (V : SlabID → Option (MSSlab r)) :
    ∀ (fuel : Nat) (s : St (MSSlab r) β) (id : SlabID), Inv c s → s.view c = V →
      ∃ s', findDepthSt fetch fuel s id = .ok (findDepth V fuel id, s') ∧ StKeep c s s'
  | 0, s, id, hI, _ => ⟨s, rfl, StKeep.refl hI⟩
  | fuel + 1, s, id, hI, hV => by
    obtain ⟨s1, h1, k1⟩ := hf.get s id hI
    rw [hV] at h1
    simp only [findDepthSt, h1, findDepth]
    cases hv : V id with
    | none => exact ⟨s1, rfl, k1⟩
    | some sl =>
      cases sl with
      | large v => exact ⟨s1, rfl, k1⟩
      | tree t ty =>
        cases t with
        | data ds => exact ⟨s1, rfl, k1⟩
        | index h chs rt =>
          cases chs with
          | nil => exact ⟨s1, rfl, k1⟩
          | cons hh rest =>
            obtain ⟨s2, h2, k2⟩ := findDepthSt_spec c fetch hf V fuel s1 hh.id k1.inv (k1.view.trans hV)
            simp only [h2]
            exact ⟨s2, rfl, k1.trans k2⟩
        | group g => exact ⟨s1, rfl, k1⟩

/-- Loading through the storage: with a transparent fetch, `loadMapSt` returns what `loadMap` returns
    on the view, and the storage afterwards has the same view, write set and ledger. -/
theorem loadMapSt_spec (c : Codec (MSSlab r) β) (fetch : MFetch r (St (MSSlab r) β)) (hf : MFetchOk c fetch)
    (s : St (MSSlab r) β) (hI : Inv c s) (rootID : SlabID) (fuel : Nat) :
    ∃ s', loadMapSt fetch s rootID fuel = .ok (loadMap (s.view c) rootID fuel, s') ∧ Keep c s s' := by
  suffices h : ∃ s', loadMapSt fetch s rootID fuel = .ok (loadMap (s.view c) rootID fuel, s') ∧
      StKeep c s s' by
    obtain ⟨s', h1, k⟩ := h
    exact ⟨s', h1, Keep.iff_stKeep.2 k⟩
  obtain ⟨s1, h1, k1⟩ := findDepthSt_spec c fetch hf (s.view c) fuel s rootID hI rfl
  unfold loadMapSt loadMap
  rw [h1]
  cases hd : findDepth (s.view c) fuel rootID with
  | none => exact ⟨s1, rfl, k1⟩
  | some d =>
    obtain ⟨s2, h2, k2⟩ := hf.get s1 rootID k1.inv
    rw [k1.view] at h2
    simp only [h2]
    cases hv : s.view c rootID with
    | none => exact ⟨s2, rfl, k1.trans k2⟩
    | some sl =>
      cases sl with
      | large v => exact ⟨s2, rfl, k1.trans k2⟩
      | tree t ty =>
        cases ty with
        | none => exact ⟨s2, rfl, k1.trans k2⟩
        | some ty =>
          obtain ⟨ty, cnt, seed⟩ := ty
          obtain ⟨s3, h3, k3⟩ := loadAtSt_spec c fetch hf (s.view c) d s2 rootID k2.inv
            (k2.view.trans k1.view)
          simp only [h3]
          exact ⟨s3, rfl, (k1.trans k2).trans k3⟩

theorem retrieve_fetchOk (c : Codec (MSSlab r) β) : MFetchOk c (fun s id => s.retrieve c id) := by
  intro s id hI
  exact retrieve_spec c s hI id

theorem readOnlyOp_eq : @readOnlyOp r = E2E.roOp := by
  funext op
  cases op <;> rfl

/-- `Retrieve` preceded by any read-only operations (cache drops, preloads, other reads …) chosen
    by an arbitrary schedule is a transparent fetch (C08 at container level). -/
theorem fetchWith_fetchOk (c : Codec (MSSlab r) β) (sched : St (MSSlab r) β → SlabID → List (Op (MSSlab r))) :
    MFetchOk c (fetchWith c sched) := by
  unfold fetchWith
  rw [readOnlyOp_eq]
  exact E2E.retrieve_after_readOnly c sched

end Atree.E2EM

import AtreeProofs.E2EMap.Writes
import AtreeProofs.E2E.Container
/-
  The map as the storage sees it (`OMap.cview`): `MRep` is `WE2E.Holds` at this view, and one operation
  whose effect log is a complete account of the change of the tree (`MEffectsComplete`, C09) keeps it:
  `rep_step_gen` (the property theorem `E2EM.map_rep_step` of `Props/E2EMap.lean` is this statement).
-/
namespace Atree.E2EM
open Atree St WE2E
open Atree.E2E (find?_isSome_of_mem_keys)

variable {β : Type} {r : Nat}

theorem mstored_of_some {a : OMap r} {extra : SlabID → Option Elem} {id : SlabID} {p : MSlabView r × Option (Nat × Nat × Nat)}
    (h : a.slabAt id = some p) : mstored a extra id = some (.tree (stripView p.1) p.2) := by
  simp [mstored, h]

theorem mstored_of_none {a : OMap r} {extra : SlabID → Option Elem} {id : SlabID}
    (h : a.slabAt id = none) : mstored a extra id = (extra id).map .large := by
  simp [mstored, h]

theorem mstored_eq (a : OMap r) (extra : SlabID → Option Elem) :
    mstored a extra =
      E2E.storedOf a.slabAt (fun p => MSSlab.tree (stripView p.1) p.2) MSSlab.large extra := by
  funext id
  unfold mstored E2E.storedOf
  cases a.slabAt id <;> rfl

/-- the map as the storage sees it: a data slab is stored without its embedded external groups
    (`stripView`), which are slabs of their own -/
def _root_.Atree.OMap.cview (m : OMap r) : CView (MSlabView r × Option (Nat × Nat × Nat)) (MSSlab r) :=
  ⟨m.slabAt, m.addr, AList.keys (MTree.slabs m.d m.root), fun p => .tree (stripView p.1) p.2, .large⟩

theorem mstored_cview (m : OMap r) : m.cview.stored = mstored m := by
  funext extra; exact (mstored_eq m extra).symm

/-- the final content is defined for every slab whose last event is a store -/
theorem content_wf {a a' : OMap r} {E : List Eff} {created : List (SlabID × Elem)}
    (heff : MEffectsComplete a a' E (created.map (·.1))) (id : SlabID)
    (h : lastAction E id = some true) : (mstored a' (AList.find? created) id).isSome :=
  mstored_cview a' ▸ a'.cview.stored_isSome (heff.stored_in_tree id h)

theorem extraStep_cview (m' : OMap r) : WE2E.extraStep m'.cview = extraStep m' := rfl

theorem mrep_iff_holds {c : Codec (MSSlab r) β} {s : St (MSSlab r) β} {m : OMap r}
    {extra : SlabID → Option Elem} {ctr : Nat} : MRep c s m extra ctr ↔ Holds c s m.cview extra ctr :=
  ⟨fun h => ⟨fun id hid => by rw [mstored_cview]; exact h.view id hid, h.extra_fresh⟩,
   fun h => ⟨fun id hid => by rw [← mstored_cview]; exact h.view id hid, h.extra_fresh⟩⟩

/-- If the storage represents `a`, and the log `E` is a complete account of the change
    from `a` to `a'` (with `created` the large-value slabs created meanwhile), then running `E`
    against the storage yields a storage that represents `a'`; the live large-value slabs are
    given by `extraStep`. -/
theorem rep_step_gen (c : Codec (MSSlab r) β) (s : St (MSSlab r) β) (a a' : OMap r)
    (extra : SlabID → Option Elem) (ctr ctr' : Nat) (E : List Eff) (created : List (SlabID × Elem))
    (hrep : MRep c s a extra ctr) (heff : MEffectsComplete a a' E (created.map (·.1)))
    (haddr : a'.addr = a.addr) (hne : a.addr ≠ 0) (hle : ctr ≤ ctr')
    (hcr : ∀ p ∈ created, p.1.idx ≤ ctr') :
    MRep c (applyEffs c s (mstored a' (AList.find? created)) E) a' (extraStep a' E created extra) ctr' := by
  have h := (mrep_iff_holds.1 hrep).step c (V' := a'.cview) heff.changed_stored heff.gone_removed
    heff.stored_in_tree heff.removed_not_in_tree haddr rfl rfl hne hle hcr
  rw [mstored_cview, ← applyEffs_eq, extraStep_cview] at h
  exact mrep_iff_holds.2 h

end Atree.E2EM

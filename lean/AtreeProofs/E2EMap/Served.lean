import AtreeProofs.E2EMap.Created
import AtreeProofs.E2EMap.StepSum
import AtreeProofs.E2E.Request
import AtreeProofs.E2EMapDisposeSpec
/-
  The request relation for ordered maps (twin of `E2E.Served`): what one request of the map model
  does, said once, in the form in which every run invariant (`MGood`, `MGoodF`, `MGoodD`, `MEncSt`,
  `RefsUniqueM`) consumes it.  A request is rejected and nothing changes (`Set` of a new key refused
  by the collision limit, `Remove` of an absent key), or it is an `MEdit`: it has an account `MStepSum`, the dictionary
  follows the request with the value handed over in its stored form, and what was created is what
  `Value.Storable` creates for that value.  The map core's theorems are consulted in `served_stepM`
  only.
-/
namespace Atree.E2EM
open Atree Gen MTree

variable {r : Nat}

/-- dictionary semantics of one request that is carried out -/
def specStepM (f : MKey → Option Elem) (op : MOp) (k' : MKey) : Option Elem :=
  match op with
  | .set k v => if k'.same k then some v else f k'
  | .remove k => if k'.same k then none else f k'
  | .popIterate => none
  | .setType _ => f k'

/-- the type info after a history -/
def specTyM (ty : Nat) : List MOp → Nat
  | [] => ty
  | .setType t :: ops => specTyM t ops
  | _ :: ops => specTyM ty ops

theorem specTyM_cons (ty : Nat) (op : MOp) (ops : List MOp) :
    specTyM ty (op :: ops) = specTyM (specTyM ty [op]) ops := by
  cases op <;> rfl

/-- the key and value a request hands over -/
def MOp.kv? : MOp → Option (MKey × Elem)
  | .set k v => some (k, v)
  | _ => none

theorem MOp.eq_set {op : MOp} {k : MKey} {v : Elem} (h : op.kv? = some (k, v)) : op = .set k v := by
  cases op <;> cases h
  rfl

/-- the request as the tree carries it out: the value handed over in its stored form -/
def MOp.stored (cfg : MCfg) (ctx : Ctx) : MOp → MOp
  | .set k v => .set k (tsv cfg k v ctx).1
  | op => op

theorem MOp.stored_of_kv?_none {cfg : MCfg} {ctx : Ctx} {op : MOp} (h : op.kv? = none) :
    op.stored cfg ctx = op := by
  cases op <;> first | rfl | cases h

/-- a request that hands over no value commutes with any map over the values -/
theorem specStepM_map (g : Elem → Elem) (f : MKey → Option Elem) {op : MOp} (h : op.kv? = none)
    (k' : MKey) : (specStepM f op k').map g = specStepM (fun k => (f k).map g) op k' := by
  cases op with
  | set k v => cases h
  | remove k => simp only [specStepM]; split <;> rfl
  | popIterate => rfl
  | setType ty => rfl

/-- the binding written for the key and value handed over: the value in its stored form -/
def wrOf (cfg : MCfg) (ctx : Ctx) (w : Option (MKey × Elem)) : List (MKey × Elem) :=
  w.toList.map fun p => (p.1, (tsv cfg p.1 p.2 ctx).1)

/-- the large-value slabs after `Value.Storable` on the value handed over -/
def creOf (cfg : MCfg) (ctx : Ctx) : Option (MKey × Elem) → List (SlabID × Elem)
  | some (k, v) => (tsv cfg k v ctx).2.created
  | none => ctx.created

/-- `Value.Storable` of maps -/
theorem storable_tsv (cfg : MCfg) (k : MKey) {v : Elem} (hv : ValueOkM v) (ctx : Ctx) :
    ∃ C, (tsv cfg k v ctx).2.created = ctx.created ++ C ∧
      Storable (maxInlineMapValue cfg.T k.size) cfg.addr ctx.ctr v (tsv cfg k v ctx).1 C :=
  let ⟨_, _, hn⟩ := hv
  let ⟨C, hC, _, h⟩ := storable_lim (maxInlineMapValue cfg.T k.size) cfg.addr hn ctx
  ⟨C, hC, h⟩

theorem written_wrOf (cfg : MCfg) (ctx : Ctx) {w : Option (MKey × Elem)} (hw : ∀ p ∈ w, ValueOkM p.2) :
    ∃ C, creOf cfg ctx w = ctx.created ++ C ∧
      WE2E.Written cfg.addr ctx.ctr (w.map (·.2)) ((wrOf cfg ctx w).map (·.2)) C := by
  cases w with
  | none => exact ⟨[], (List.append_nil _).symm, .none⟩
  | some p =>
    obtain ⟨C, hC, h⟩ := storable_tsv cfg p.1 (hw p rfl) ctx
    exact ⟨C, hC, .some h⟩

/-- What a successful request does to the map model: it has an account (`sum`); `w` is the key and
    value handed over; the dictionary follows the request with the value in its stored form; up to
    order, the old pairs are the pairs `gone` (their values are what is handed back to the caller) and
    the pairs `kept`, the new pairs are the binding written and the pairs `kept`. -/
structure MEdit (T : Nat) (D : DigestFn (r + 1)) (cfg : MCfg) (m : OMap r) (ctx : Ctx) (op : MOp) (m' : OMap r)
    (ctx' : Ctx) (E : List Eff) (C : List (SlabID × Elem)) (w : Option (MKey × Elem))
    (gone kept : List (MKey × Elem)) : Prop where
  sum : MStepSum T D cfg m ctx m' ctx' E C
  hw : op.kv? = w
  cre : ctx'.created = creOf cfg ctx w
  dict : ∀ k', KeyOk T (r + 1) D k' →
    dictLookup m'.toList k' = specStepM (dictLookup m.toList) (op.stored cfg ctx) k'
  old : m.toList.Perm (gone ++ kept)
  new : m'.toList.Perm (wrOf cfg ctx w ++ kept)
  handed : E2EMD.handedBack cfg (m, ctx) op = gone.map (·.2)
  ty : m'.ty = specTyM m.ty [op]
  seed : m'.seed = m.seed

/-- What a request does to the map model: it is rejected and nothing changes (a `Set` of a new key that
    is refused by the collision limit, C12, or a `Remove` of an absent key), or it is an `MEdit`. -/
inductive MServed (T : Nat) (D : DigestFn (r + 1)) (cfg : MCfg) (m : OMap r) (ctx : Ctx) (op : MOp) :
    OMap r × Ctx → Prop
  | rejected (spec : (∃ k v, op = .set k v ∧ dictLookup m.toList k = none) ∨
        (∃ k, op = .remove k ∧ dictLookup m.toList k = none))
      (handed : E2EMD.handedBack cfg (m, ctx) op = []) : MServed T D cfg m ctx op (m, ctx)
  | done (m' : OMap r) (ctx' : Ctx) (E : List Eff) (C : List (SlabID × Elem)) (w : Option (MKey × Elem))
      (gone kept : List (MKey × Elem)) (h : MEdit T D cfg m ctx op m' ctx' E C w gone kept) :
      MServed T D cfg m ctx op (m', ctx')

/-- `SetType` is served (no condition on the threshold) -/
theorem served_setType {T : Nat} {D : DigestFn (r + 1)} {cfg : MCfg} (m : OMap r) (ctx : Ctx)
    (hg : MModelGood T D cfg (m, ctx)) (ty : Nat) :
    MServed T D cfg m ctx (.setType ty) (stepM cfg (m, ctx) (.setType ty)) := by
  obtain ⟨hres, sum⟩ := omap_setType_sum m ctx hg ty
  simp only [stepM]
  rw [hres]
  exact .done _ _ _ [] none [] m.toList
    { sum := sum, hw := rfl, cre := rfl, dict := fun _ _ => rfl, old := List.Perm.refl _, new := List.Perm.refl _
      handed := rfl, ty := rfl, seed := rfl }

theorem served_stepM {T : Nat} (hT : legalThreshold T = true) {D : DigestFn (r + 1)} {cfg : MCfg}
    (m : OMap r) (ctx : Ctx) (hg : MModelGood T D cfg (m, ctx)) (op : MOp) (hop : op.Ok T D) :
    MServed T D cfg m ctx op (stepM cfg (m, ctx) op) := by
  have hinv : MapInv T D m := hg.inv
  have hcfg : CfgOk cfg T m := hg.cfg
  have hctx : CtxOk m ctx := hg.ctx
  have hids : MIdsOk m := hg.ids
  cases op with
  | set k v =>
    simp only [stepM]
    cases hr : m.set cfg k v ctx with
    | error e =>
      refine .rejected (Or.inl ⟨k, v, rfl, ?_⟩) (by simp only [E2EMD.handedBack, hr])
      exact (OMap.set_refused hT hcfg hinv hop.1 (hop.2.okR T k.size) hr).2
    | ok res =>
      obtain ⟨old, m', ctx'⟩ := res
      have hp := (OMap.set_post hT hcfg hinv hop.1 (hop.2.okR T k.size) hr).1
      obtain ⟨E, C, hlog, hacct, hroot, _, hcr, hal, hC⟩ :=
        omap_set_acct_created hT hcfg hinv hop.1 hop.2 ctx hctx hids hr
      obtain ⟨kept, hold, hnew⟩ := hp.eff.perms
      exact .done m' ctx' E C (some (k, v)) _ kept
        { sum := msum_of_acct hg hlog.toLog hacct hroot hcr hal hp.inv (hp.ctx hctx) hp.rootID
          hw := rfl, cre := by rw [hlog.created]; exact hC
          dict := (hp.eff.spec hinv.allKeyOk hinv.distinct hop.1).2.2.2
          old := hold, new := hnew, ty := hp.ty, seed := hp.seed
          handed := by simp only [E2EMD.handedBack, hr]; cases old <;> rfl }
  | remove k =>
    simp only [stepM]
    cases hr : m.remove cfg k ctx with
    | error e =>
      refine .rejected (Or.inr ⟨k, rfl, ?_⟩) (by simp only [E2EMD.handedBack, hr])
      exact (OMap.remove_refused hT hcfg hinv hop hctx hr).2
    | ok res =>
      obtain ⟨k0, v0, m', ctx'⟩ := res
      obtain ⟨_, _, hp, _⟩ := OMap.remove_post hT hcfg hinv hop hctx hr
      obtain ⟨E, C, hlog, hacct, hroot, _⟩ := omap_remove_acct hT hcfg hinv hop ctx hctx hids hr
      obtain ⟨hal, rfl⟩ := plain_allocCnt (omap_remove_plain hr) hlog
      obtain ⟨A, B, hA, hB⟩ := hp.eff
      exact .done m' ctx' E [] none [(k, v0)] (A ++ B)
        { sum := msum_of_acct hg hlog.toLog hacct hroot (CreatedOk.nil _ _ _ _ _) hal hp.inv hp.ctx hp.rootID
          hw := rfl, cre := by rw [hlog.created, List.append_nil]; rfl
          dict := (hp.eff.spec hinv.allKeyOk hinv.distinct hop).2.2.2
          old := hA ▸ List.perm_middle, new := hB ▸ List.Perm.refl _, ty := hp.ty, seed := hp.seed
          handed := by simp only [E2EMD.handedBack, hr]; rfl }
  | popIterate =>
    obtain ⟨hall, hlist, _, _, _⟩ := OMap.popIterate_spec hT hinv ctx
    obtain ⟨_, hcre⟩ := omap_popKeep m ctx
    obtain ⟨E0, sum⟩ := omap_pop_sum hT m ctx hg
    have hdict : ∀ k', KeyOk T (r + 1) D k' → dictLookup (m.popIterate ctx).2.1.toList k' =
        specStepM (dictLookup m.toList) .popIterate k' := fun k' _ => by rw [hlist]; rfl
    have hperm : (m.popIterate ctx).2.1.toList.Perm (wrOf cfg ctx none ++ []) := by
      rw [hlist]; exact List.Perm.refl _
    exact .done _ _ _ [] none (m.popIterate ctx).1 []
      { sum := sum, hw := rfl, cre := hcre, dict := hdict, new := hperm, handed := rfl, ty := rfl, seed := rfl
        old := by rw [hall, List.append_nil]; exact (List.reverse_perm _).symm }
  | setType ty => exact served_setType m ctx hg ty

end Atree.E2EM

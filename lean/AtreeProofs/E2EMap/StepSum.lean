import AtreeProofs.Map.Requests
import AtreeProofs.Map.EffectsTop
import AtreeProofs.E2EMap.RepStep
/-
  The account of one successful map request, in the form the run invariants consume (`MStepSum`, the
  twin of `E2E.StepSum`): the account `WE2E.StepAccount` at the map's view, the model invariants
  (`MModelGood`) of the new state and the root identifier.
  `msum_of_acct` gives it for `Set` / `Remove` from the map core's `MAcct`; `omap_pop_sum` and
  `omap_setType_sum` give it for `PopIterate` and `SetType`.
-/
namespace Atree.E2EM
open Atree Gen MTree St WE2E

variable {r : Nat}

/-- The map-model half of the run invariants `MGood`, `MGoodF`, `MGoodD`: map invariant, distinct slab
    IDs, the counter is at or above every slab index used under the map's address, the configuration
    matches the map, every slab is owned by the map's address. -/
structure MModelGood (T : Nat) (D : DigestFn (r + 1)) (cfg : MCfg) (st : OMap r × Ctx) : Prop where
  inv : MapInv T D st.1
  ids : MIdsOk st.1
  ctx : CtxOk st.1 st.2
  cfg : CfgOk cfg T st.1
  aok : MAddrOk st.1

/-- what the model-level theorems say about one successful request: its account at the map's view, the
    model invariants afterwards, the root identifier -/
structure MStepSum (T : Nat) (D : DigestFn (r + 1)) (cfg : MCfg) (m : OMap r) (ctx : Ctx) (m' : OMap r)
    (ctx' : Ctx) (E : List Eff) (C : List (SlabID × Elem)) : Prop where
  of_account ::
  account : StepAccount m.cview m'.cview ctx ctx' E C
  model_after : MModelGood T D cfg (m', ctx')
  rootID : m'.rootID = m.rootID

section
variable {T : Nat} {D : DigestFn (r + 1)} {cfg : MCfg} {m m' : OMap r} {ctx ctx' : Ctx} {E : List Eff}
  {C : List (SlabID × Elem)}

theorem MStepSum.log (sum : MStepSum T D cfg m ctx m' ctx' E C) : Log ctx ctx' E C := sum.account.log

theorem MStepSum.addr (sum : MStepSum T D cfg m ctx m' ctx' E C) : m'.addr = m.addr := sum.account.addr

end

/-- new slabs are owned by the map's address -/
theorem maddrOk_of_acct {m m' : OMap r} {c c' : Nat} {E : List Eff} {cr : List SlabID}
    (h : MAcct m.addr c c' (MTree.slabs m.d m.root) (MTree.slabs m'.d m'.root) E cr)
    (haok : MAddrOk m) (hrid : m'.rootID = m.rootID) : MAddrOk m' := by
  intro id hid
  rw [OMap.addr_of_rootID hrid]
  rcases h.keys_new id hid with h1 | h1
  · exact haok id h1
  · exact h1.1

theorem mfoot_of_acct {m m' : OMap r} {a cn cn' : Nat} {E : List Eff} {cr : List SlabID}
    (h : MAcct a cn cn' (MTree.slabs m.d m.root) (MTree.slabs m'.d m'.root) E cr) :
    (∀ id, lastAction E id ≠ none → (m.slabAt id).isSome ∨ cn < id.idx) ∧
    (∀ id, (m'.slabAt id).isSome → (m.slabAt id).isSome ∨ cn < id.idx) := by
  constructor
  · intro id hne
    rcases h.foot id hne with h1 | h1
    · left; rw [mslabAt_isSome]; exact h1
    · exact Or.inr h1.2.1
  · intro id hs
    rw [mslabAt_isSome] at hs
    rcases h.keys_new id hs with h1 | h1
    · left; rw [mslabAt_isSome]; exact h1
    · exact Or.inr h1.2.1

/-- `Set` / `Remove`: from the map core's account and the account of the created slabs
    (`omap_set_acct_created`; `omap_remove_acct` with `plain_allocCnt`) -/
theorem msum_of_acct {T : Nat} {D : DigestFn (r + 1)} {cfg : MCfg} {m m' : OMap r} {ctx ctx' : Ctx}
    {E : List Eff} {C : List (SlabID × Elem)} (hg : MModelGood T D cfg (m, ctx)) (hlog : Log ctx ctx' E C)
    (hacct : MAcct m.addr ctx.ctr ctx'.ctr (MTree.slabs m.d m.root) (MTree.slabs m'.d m'.root) E (C.map (·.1)))
    (hroot : lastAction E m.rootID = some true)
    (hcr : CreatedOk m.addr ctx.ctr ctx'.ctr E (C.map (·.1)) (AList.keys (MTree.slabs m'.d m'.root)))
    (hal : AllocCnt m.addr ctx ctx' E) (hinv' : MapInv T D m') (hctx' : CtxOk m' ctx')
    (hrid : m'.rootID = m.rootID) : MStepSum T D cfg m ctx m' ctx' E C :=
  have heff := mEffectsComplete_of_acct hacct hg.ids hrid hroot
  have haok := maddrOk_of_acct hacct hg.aok hrid
  have haddr : m'.addr = m.addr := OMap.addr_of_rootID hrid
  { account :=
      { log := hlog, changed_stored := heff.changed_stored, gone_removed := heff.gone_removed
        stored_in_tree := heff.stored_in_tree, removed_not_in_tree := heff.removed_not_in_tree
        foot := (mfoot_of_acct hacct).1, new := (mfoot_of_acct hacct).2
        keys := fun id h => (mslabAt_isNone m' id).2 h, cr := hcr, al := hal
        own := fun id h => (haok id ((mslabAt_isSome m' id).1 h)).trans haddr, addr := haddr
        tree := rfl, large := rfl }
    model_after := ⟨hinv', hacct.nodup hg.ids, hctx', hg.cfg.of_rootID hrid, haok⟩
    rootID := hrid }

/-! `PopIterate` and `SetType`: readings of `mtree_pop_removed` (the context after `PopIterate` on
the tree is the old one with slabs below the root removed) and of the accounts `StepAccount.pop` /
`StepAccount.store_root` of the container layer. -/

theorem omap_popKeep (m : OMap r) (c : Ctx) :
    (m.popIterate c).2.2.ctr = c.ctr ∧ (m.popIterate c).2.2.created = c.created := by
  obtain ⟨ids, h, _, _⟩ := mtree_pop_removed m.d m.root c
  simp only [OMap.popIterate]
  split <;> simp [h, Ctx.emit, Ctx.removed_ctr, Ctx.removed_created]

/-- `PopIterate` removes slabs of the map only, then stores the root -/
theorem omap_pop_foot {T : Nat} {D : DigestFn (r + 1)} (m : OMap r) (c : Ctx) (hinv : MapInv T D m) :
    ∃ E, (m.popIterate c).2.2.eff = c.eff ++ E ++ [.store m.rootID] ∧
      ∀ x ∈ E, ∃ i, x = Eff.remove i ∧ i ∈ AList.keys (msub m.d m.root) := by
  obtain ⟨ids, h, _, z⟩ := mtree_pop_removed m.d m.root c
  refine ⟨ids.map Eff.remove, ?_, fun x hx => ?_⟩
  · simp only [OMap.popIterate, hinv.standalone, Bool.false_eq_true, if_false, Ctx.emit, h, Ctx.removed_eff]
  · obtain ⟨i, hi, rfl⟩ := List.mem_map.1 hx
    exact ⟨i, rfl, z hinv.tree i hi⟩

/-- what the model says about `PopIterate` on a map: the slabs below the root are removed, the
    root slab is stored, nothing is allocated, only the root slab is left -/
theorem omap_pop_sum {T : Nat} (hT : legalThreshold T = true) {D : DigestFn (r + 1)} {cfg : MCfg}
    (m : OMap r) (ctx : Ctx) (hg : MModelGood T D cfg (m, ctx)) :
    ∃ E0, MStepSum T D cfg m ctx (m.popIterate ctx).2.1 (m.popIterate ctx).2.2 (E0 ++ [.store m.rootID]) [] := by
  have hinv : MapInv T D m := hg.inv
  obtain ⟨_, _, _, hinv', hrid⟩ := OMap.popIterate_spec hT hinv ctx
  obtain ⟨hctr, hcre⟩ := omap_popKeep m ctx
  obtain ⟨ids, h, hcov, hin⟩ := mtree_pop_removed m.d m.root ctx
  have heffs : (m.popIterate ctx).2.2.eff = ctx.eff ++ (ids.map Eff.remove ++ [.store m.rootID]) := by
    simp only [OMap.popIterate, hinv.standalone, Bool.false_eq_true, if_false, Ctx.emit, h, Ctx.removed_eff,
      List.append_assoc]
  have hkeys' : AList.keys (MTree.slabs (m.popIterate ctx).2.1.d (m.popIterate ctx).2.1.root) = [m.rootID] :=
    rfl
  have hroot_old : m.rootID ∈ AList.keys (MTree.slabs m.d m.root) := hdr_id_mem_keys m.d m.root
  have hkeys : AList.keys (MTree.slabs m.d m.root) = m.rootID :: AList.keys (msub m.d m.root) := by
    rw [mslabs_eq, AList.keys_cons]; rfl
  have hV' : ∀ id, ((m.popIterate ctx).2.1.slabAt id).isSome ↔ id = m.rootID := fun id =>
    (mslabAt_isSome _ id).trans (by rw [hkeys', List.mem_singleton])
  refine ⟨ids.map Eff.remove, .of_account (StepAccount.pop (V := m.cview) (V' := (m.popIterate ctx).2.1.cview)
    heffs hcre hctr
    (fun e he => by
      obtain ⟨i, hi, rfl⟩ := List.mem_map.1 he
      exact ⟨i, rfl, (mslabAt_isSome m i).2 (hkeys ▸ List.mem_cons_of_mem _ (hin hinv.tree i hi))⟩)
    (fun id hs hne => List.mem_map_of_mem
      (hcov id ((List.mem_cons.1 (hkeys ▸ (mslabAt_isSome m id).1 hs)).resolve_left hne)))
    ((mslabAt_isSome m _).2 hroot_old) hV'
    (fun id h => (mslabAt_isNone _ id).2 h) (fun id h => by rw [(hV' id).1 h]; rfl)
    (OMap.addr_of_rootID hrid) rfl rfl)
    ⟨hinv', ?_, ?_, hg.cfg.of_rootID hrid, ?_⟩ hrid⟩
  · show (AList.keys (MTree.slabs (m.popIterate ctx).2.1.d (m.popIterate ctx).2.1.root)).Nodup
    rw [hkeys']; simp
  · intro id hid ha
    have hid' : id ∈ AList.keys (MTree.slabs (m.popIterate ctx).2.1.d (m.popIterate ctx).2.1.root) := by
      rw [keys_mslabs]; exact hid
    rw [hkeys', List.mem_singleton] at hid'
    rw [hctr, hid']
    refine hg.ctx m.rootID ?_ rfl
    have := hroot_old
    rw [keys_mslabs] at this
    exact this
  · intro id hid
    rw [hkeys', List.mem_singleton] at hid
    rw [hid]
    show m.rootID.addr = (m.popIterate ctx).2.1.rootID.addr
    rw [hrid]

/-- what the model says about `SetType` on a map: the root slab is stored, nothing else changes -/
theorem omap_setType_sum {T : Nat} {D : DigestFn (r + 1)} {cfg : MCfg} (m : OMap r) (ctx : Ctx)
    (hg : MModelGood T D cfg (m, ctx)) (ty : Nat) :
    m.setType ty ctx = ({ m with ty := ty }, ctx.emit (.store m.rootID)) ∧
    MStepSum T D cfg m ctx { m with ty := ty } (ctx.emit (.store m.rootID)) [.store m.rootID] [] := by
  have hinv : MapInv T D m := hg.inv
  have hres : m.setType ty ctx = ({ m with ty := ty }, ctx.emit (.store m.rootID)) := by
    unfold OMap.setType; rw [hinv.standalone]; rfl
  have hinv' : MapInv T D { m with ty := ty } :=
    ⟨hinv.tree, hinv.chain, hinv.count_eq, hinv.distinct, by
      have := hinv.standalone
      obtain ⟨d, root, ty0, cnt, seed⟩ := m
      cases d <;> exact this⟩
  refine ⟨hres, .of_account (StepAccount.store_root (V := m.cview)
    (V' := ({ m with ty := ty } : OMap r).cview) ctx
    ((mslabAt_isSome m _).2 (hdr_id_mem_keys m.d m.root)) ?_ (fun id => by simp [OMap.cview, OMap.slabAt])
    (fun id h => (mslabAt_isNone _ id).2 h) (fun id h => hg.aok id ((mslabAt_isSome ({ m with ty := ty } : OMap r) id).1 h)) rfl rfl rfl)
    ⟨hinv', hg.ids, hg.ctx, hg.cfg, hg.aok⟩ rfl⟩
  intro id hne
  have hne' : ¬ id = ({ m with ty := ty } : OMap r).rootID := hne
  simp only [OMap.cview, OMap.slabAt, hne, hne', if_false]

end Atree.E2EM

import AtreeProofs.E2EMapSpec
import AtreeProofs.E2EBytesSpec
/-
  The byte-level codec (`AtreeModel/Codec`) on the stored slabs of ordered maps (`E2EM.MSSlab r`).
  DEFINITIONS ONLY; theorems in `AtreeProofs/Props/E2EMapBytes.lean`.

  COVERED SLAB SHAPES (every slab a map of plain keys and plain values occupies):
  * map data slabs – root (with the extra data type / count / seed) and non-root, with or without
    sibling link – whose first-level elements are single elements, INLINE collision groups (nested
    to the number of digest levels, ending in last-level element lists) and REFERENCES to external
    collision groups (`Codec.Slab.mdata`, `group = false`);
  * map index slabs (`Codec.Slab.mindex`);
  * the slabs of EXTERNAL collision groups (`Codec.Slab.mdata` with `group = true`, `anySize`);
  * large-value slabs of plain values (`Codec.Slab.storable`);
  keys are plain values, values are plain values or references to large-value slabs.
  NOT COVERED: nested containers as values / inlined children / wrapped values (`Stor.arr`,
  `Stor.map`, `Stor.some`, `storableG`): maps of the `OMap` model never contain them (nested
  containers live in the World model).

  The stored form of the model carries data the bytes do not: the size fields (recomputed by the
  decoders), the first-key fields, the `root` / `inlined` flags, and the DIGESTS OF THE KEYS (the Go
  code re-hashes a key when it needs its digests).  `ofSlabM` rebuilds all of them, the digests
  with the digest function `D`; the keyed codec therefore depends on `D`, and its encoder refuses
  (`OkM`) a slab whose keys do not carry the digests `D` assigns to them.
  The type info of the map model is a number; it is encoded as the harness's plain type info.
-/
namespace Atree.E2EM
open Atree Atree.Codec Gen

variable {r : Nat}

/-- a key as the codec sees it: a plain value of the harness -/
def keyStor (k : MKey) : Stor := .val k.size k.pay

def toSEl (x : SElem) : SEl := .mk (keyStor x.key) (Stor.ofElem x.val)

def toMElWith {α : Type} (f : α → MEls) : MElemF α → MEl
  | .single x => .single (toSEl x)
  | .inl g => .inl (f g)
  | .ext id _ _ => .ext id

/-- `elements` -/
def toMEls : (r : Nat) → MElems r → MEls
  | 0, (se : SingleElems) => .single se.level (se.elems.map toSEl)
  | r + 1, (he : HkeyElems (MElems r)) => .hkey he.level he.hkeys (he.elems.map (toMElWith (toMEls r)))

def mextra (x : Option (Nat × Nat × Nat)) : Option MapExtra :=
  x.map (fun p => ⟨.plain p.1, p.2.1, p.2.2⟩)

def toMChildHdr (h : MHdr) : MChildHdr := ⟨h.id, h.size, h.firstKey⟩

/-- the ID a stored slab carries in its own header (`undef` for a large-value slab, which has none) -/
def ownIdM : MSSlab r → SlabID
  | .tree (.data s) _ => s.hdr.id
  | .tree (.index h _ _) _ => h.id
  | .tree (.group g) _ => g.hdr.id
  | .large _ => SlabID.undef

/-- the stored slab as the codec sees it; `id` is only used for a large-value slab -/
def toSlabM (id : SlabID) : MSSlab r → Slab
  | .tree (.data s) x =>
    .mdata { id := s.hdr.id, next := s.next, extra := mextra x, els := toMEls (r + 1) s.elems,
             anySize := false, group := false }
  | .tree (.index h chs _) x =>
    .mindex { id := h.id, extra := mextra x, childHdrs := chs.map toMChildHdr }
  | .tree (.group g) x =>
    .mdata { id := g.hdr.id, next := SlabID.undef, extra := mextra x, els := toMEls r g.elems,
             anySize := true, group := true }
  | .large v => .storable id v

/-! From the codec's slabs back to the model: what the decoders rebuild. -/

def elemOfStor : Stor → Option Elem
  | .val s p => some ⟨s, .val p⟩
  | .ref id => some ⟨slabIDStorableSize, .ref id⟩
  | _ => none

/-- a single element: sizes recomputed, the key re-hashed with `D` -/
def ofSEl {L : Nat} (D : DigestFn L) : SEl → Option SElem
  | .mk (.val ks kp) v =>
    (elemOfStor v).map (fun ve =>
      { key := ⟨ks, kp, D.dg (ks, kp)⟩, val := ve, size := singleElementPrefixSize + ks + ve.size })
  | _ => none

def ofMElWith {L : Nat} (D : DigestFn L) {α : Type} (f : MEls → Option α) (empty : α) : MEl → Option (MElemF α)
  | .single e => (ofSEl D e).map .single
  | .inl els => (f els).map .inl
  | .ext id => some (.ext id (externalCollisionGroupPrefixSize + slabIDStorableSize) ⟨⟨id, 0, 0⟩, empty⟩)

/-- `elements` with `r` digest levels left (`none` if the nesting does not have that shape) -/
def ofMEls {L : Nat} (D : DigestFn L) : (r : Nat) → MEls → Option (MElems r)
  | 0, .single level es =>
    (E2E.optAll (ofSEl D) es).map (fun xs =>
      ({ elems := xs, size := singleElementsPrefixSize + (xs.map (·.size)).sum, level := level } : SingleElems))
  | 0, .hkey _ _ _ => none
  | r + 1, .hkey level hkeys es =>
    (E2E.optAll (ofMElWith D (ofMEls D r) (emptyElems r)) es).map (fun els =>
      ({ hkeys := hkeys, elems := els,
         size := hkeyElementsPrefixSize + HkeyElems.elemSizes (MElems.ops r) els, level := level } :
        HkeyElems (MElems r)))
  | _ + 1, .single _ _ => none

def xback (x : Option MapExtra) : Option (Nat × Nat × Nat) :=
  x.map (fun e => (E2E.tyNum e.ty, e.count, e.seed))

def ofMChildHdr (h : MChildHdr) : MHdr := ⟨h.id, h.size, h.firstKey⟩

/-- what the decoder returns, as a stored slab (`none` for the slab kinds that are not covered) -/
def ofSlabM (D : DigestFn (r + 1)) : Slab → Option (MSSlab r)
  | .mdata md =>
    if md.group then
      (ofMEls D r md.els).map (fun e =>
        .tree (.group ⟨⟨md.id, mapDataSlabPrefixSize + (MElems.ops r).size e, (MElems.ops r).firstKey e⟩, e⟩)
          (xback md.extra))
    else
      (ofMEls D (r + 1) md.els).map (fun (e : HkeyElems (MElems r)) =>
        .tree (.data { hdr := ⟨md.id, (if md.extra.isSome then mapRootDataSlabPrefixSize else mapDataSlabPrefixSize)
                                + e.size, e.firstKey⟩,
                       next := md.next, elems := e, root := md.extra.isSome, inlined := false })
          (xback md.extra))
  | .mindex m =>
    some (.tree (.index ⟨m.id, mapMetaDataSlabPrefixSize + mapSlabHeaderSize * m.childHdrs.length,
                        ((m.childHdrs.map ofMChildHdr).headD default).firstKey⟩
                  (m.childHdrs.map ofMChildHdr) m.extra.isSome) (xback m.extra))
  | .storable _ e => some (.large e)
  | _ => none

/-! The encoder's preconditions, on the model side (decidable). -/

/-- one stored key/value pair: the key carries the digests of `D`, key and value are values the
    harness can encode (a reference has the size the library gives it and a 16-byte ID), the size
    bookkeeping is exact -/
def SElemEnc {L : Nat} (D : DigestFn L) (x : SElem) : Prop :=
  x.key.digs = D.dg (x.key.size, x.key.pay) ∧ validElem ⟨x.key.size, .val x.key.pay⟩ ∧ validElem x.val ∧
  x.size = singleElementPrefixSize + x.key.size + x.val.size ∧ x.size ≤ maxUint32

/-- the placeholder of the stored form (`stripElem`) -/
def IsEmptyElems : (r : Nat) → MElems r → Prop
  | 0, (se : SingleElems) => se.elems.length = 0 ∧ se.size = 0 ∧ se.level = 0
  | _ + 1, (he : HkeyElems (MElems _)) => he.hkeys = [] ∧ he.elems.length = 0 ∧ he.size = 0 ∧ he.level = 0

def ElemEncF {L : Nat} (D : DigestFn L) {α : Type} (P E : α → Prop) : MElemF α → Prop
  | .single x => SElemEnc D x
  | .inl g => P g
  | .ext id sz s =>
    sz = externalCollisionGroupPrefixSize + slabIDStorableSize ∧ id.addr < 2 ^ 64 ∧ id.idx < 2 ^ 64 ∧
    s.hdr = ⟨id, 0, 0⟩ ∧ E s.elems

/-- `elements` in stored form: levels below 24, one digest (< 2⁶⁴) per element and fewer than 8192
    of them, last-level lists non-empty with fewer than 65536 entries, sizes exact and within
    `uint32`, external groups referenced by placeholder -/
def ElemsEnc {L : Nat} (D : DigestFn L) : (r : Nat) → MElems r → Prop
  | 0, (se : SingleElems) =>
    se.level < 24 ∧ se.elems ≠ [] ∧ se.elems.length < 65536 ∧ (∀ x ∈ se.elems, SElemEnc D x) ∧
    se.size = singleElementsPrefixSize + (se.elems.map (·.size)).sum ∧ se.size ≤ maxUint32
  | r + 1, (he : HkeyElems (MElems r)) =>
    he.level < 24 ∧ he.hkeys.length = he.elems.length ∧ he.elems.length < 8192 ∧
    (∀ h ∈ he.hkeys, h < 2 ^ 64) ∧ (∀ el ∈ he.elems, ElemEncF D (ElemsEnc D r) (IsEmptyElems r) el) ∧
    he.size = hkeyElementsPrefixSize + HkeyElems.elemSizes (MElems.ops r) he.elems ∧ he.size ≤ maxUint32

/-- the extra data of a root fits its fields -/
def XOk (x : Option (Nat × Nat × Nat)) : Prop :=
  match x with
  | none => True
  | some p => p.1 < 2 ^ 64 ∧ p.2.1 < 2 ^ 64 ∧ p.2.2 < 2 ^ 64

def MHdrOk (addr : Nat) (c : MHdr) : Prop :=
  c.id.addr = addr ∧ c.id.idx < 2 ^ 64 ∧ c.firstKey < 2 ^ 64 ∧ c.size < 65536

/-- THE ENCODER'S PRECONDITIONS for a stored map slab (they imply `Codec.MapDataOK` /
    `Codec.MapMetaOK` / `validElem` of `toSlabM`, and that the redundant fields of the stored form –
    sizes, first keys, flags, digests – are the ones the decoder recomputes).  `r ≤ 8`: at most nine
    digest levels, so that the nesting of collision groups stays within the CBOR library's limit
    of 32 levels. -/
def OkM (D : DigestFn (r + 1)) : MSSlab r → Prop
  | .tree (.data s) x =>
    r ≤ 8 ∧ ElemsEnc D (r + 1) s.elems ∧ s.hdr.size = s.prefixSize + s.elems.size ∧
    s.hdr.firstKey = s.elems.firstKey ∧ s.root = x.isSome ∧ s.inlined = false ∧ validNext s.next ∧ XOk x ∧
    s.hdr.size ≤ maxUint32
  | .tree (.index h chs root) x =>
    h.id.addr < 2 ^ 64 ∧ (∀ c ∈ chs, MHdrOk h.id.addr c) ∧ chs.length < 65536 ∧ XOk x ∧
    h.size = mapMetaDataSlabPrefixSize + mapSlabHeaderSize * chs.length ∧
    h.firstKey = (chs.headD default).firstKey ∧ root = x.isSome
  | .tree (.group g) x =>
    r ≤ 8 ∧ x.isNone = true ∧ ElemsEnc D r g.elems ∧
    g.hdr.size = mapDataSlabPrefixSize + (MElems.ops r).size g.elems ∧
    g.hdr.firstKey = (MElems.ops r).firstKey g.elems ∧ g.hdr.size ≤ maxUint32
  | .large v => validElem v

instance {L : Nat} (D : DigestFn L) (x : SElem) : Decidable (SElemEnc D x) := by
  unfold SElemEnc; infer_instance

def decIsEmptyElems : (r : Nat) → (e : MElems r) → Decidable (IsEmptyElems r e)
  | 0, (se : SingleElems) =>
    inferInstanceAs (Decidable (se.elems.length = 0 ∧ se.size = 0 ∧ se.level = 0))
  | _ + 1, (he : HkeyElems (MElems _)) =>
    inferInstanceAs (Decidable (he.hkeys = [] ∧ he.elems.length = 0 ∧ he.size = 0 ∧ he.level = 0))

instance (r : Nat) (e : MElems r) : Decidable (IsEmptyElems r e) := decIsEmptyElems r e

def decElemEncF {L : Nat} (D : DigestFn L) {α : Type} (P E : α → Prop) (dP : ∀ a, Decidable (P a))
    (dE : ∀ a, Decidable (E a)) : (el : MElemF α) → Decidable (ElemEncF D P E el)
  | .single x => inferInstanceAs (Decidable (SElemEnc D x))
  | .inl g => dP g
  | .ext id sz s =>
    have := dE s.elems
    inferInstanceAs (Decidable (sz = externalCollisionGroupPrefixSize + slabIDStorableSize ∧ id.addr < 2 ^ 64 ∧
      id.idx < 2 ^ 64 ∧ s.hdr = ⟨id, 0, 0⟩ ∧ E s.elems))

def decElemsEnc {L : Nat} (D : DigestFn L) : (r : Nat) → (e : MElems r) → Decidable (ElemsEnc D r e)
  | 0, (se : SingleElems) =>
    inferInstanceAs (Decidable (se.level < 24 ∧ se.elems ≠ [] ∧ se.elems.length < 65536 ∧
      (∀ x ∈ se.elems, SElemEnc D x) ∧
      se.size = singleElementsPrefixSize + (se.elems.map (·.size)).sum ∧ se.size ≤ maxUint32))
  | r + 1, (he : HkeyElems (MElems r)) =>
    have : ∀ el, Decidable (ElemEncF D (ElemsEnc D r) (IsEmptyElems r) el) :=
      decElemEncF D _ _ (decElemsEnc D r) (decIsEmptyElems r)
    inferInstanceAs (Decidable (he.level < 24 ∧ he.hkeys.length = he.elems.length ∧ he.elems.length < 8192 ∧
      (∀ h ∈ he.hkeys, h < 2 ^ 64) ∧ (∀ el ∈ he.elems, ElemEncF D (ElemsEnc D r) (IsEmptyElems r) el) ∧
      he.size = hkeyElementsPrefixSize + HkeyElems.elemSizes (MElems.ops r) he.elems ∧ he.size ≤ maxUint32))

instance {L : Nat} (D : DigestFn L) (r : Nat) (e : MElems r) : Decidable (ElemsEnc D r e) := decElemsEnc D r e

instance (x : Option (Nat × Nat × Nat)) : Decidable (XOk x) := by
  unfold XOk; cases x <;> infer_instance

instance (addr : Nat) (c : MHdr) : Decidable (MHdrOk addr c) := by unfold MHdrOk; infer_instance

instance (D : DigestFn (r + 1)) (v : MSSlab r) : Decidable (OkM D v) := by
  cases v with
  | tree t x =>
    cases t with
    | data s =>
      have : Decidable (ElemsEnc D (r + 1) s.elems) := decElemsEnc D (r + 1) s.elems
      dsimp only [OkM]; infer_instance
    | index h chs root => dsimp only [OkM]; infer_instance
    | group g => dsimp only [OkM]; infer_instance
  | large e => dsimp only [OkM]; infer_instance

/-! What makes the stored slabs of a map encodable (hypotheses of the theorems). -/

/-- a key/value pair the harness can encode -/
def KVOk (p : MKey × Elem) : Prop := validElem ⟨p.1.size, .val p.1.pay⟩ ∧ validElem p.2

def FitEl {α : Type} (P : α → Prop) : MElemF α → Prop
  | .inl g => P g
  | _ => True

/-- `elements` (of an external collision group) respect the field widths of the encoding: fewer than
    8192 digests per digest table (their byte string has a 16-bit length), fewer than 65536 entries
    per last-level list, sizes within `uint32`.  (The library does not check these; with the default
    collision limit of 255 entries per first-level digest they cannot be exceeded.) -/
def Fit : (r : Nat) → MElems r → Prop
  | 0, (se : SingleElems) => se.elems.length < 65536 ∧ se.size ≤ maxUint32
  | r + 1, (he : HkeyElems (MElems r)) =>
    he.elems.length < 8192 ∧ he.size ≤ maxUint32 ∧ ∀ el ∈ he.elems, FitEl (Fit r) el

def FitView : MSlabView r → Prop
  | .group g => Fit r g.elems ∧ g.hdr.size ≤ maxUint32
  | _ => True

/-- every external collision group of the map respects the field widths (see `Fit`; an external
    group smaller than 64 KiB always does: `E2EM.groupsFit_of_small`) -/
def GroupsFit (m : OMap r) : Prop := ∀ p ∈ MTree.slabs m.d m.root, FitView p.2

/-- what makes the stored slabs of a map encodable: at most nine digest levels, digests, address,
    counter, type info, count and seed within 64 bits, encodable keys, values and large values,
    external collision groups within the field widths -/
structure MEncOk (D : DigestFn (r + 1)) (m : OMap r) (extra : SlabID → Option Elem) (ctr : Nat) : Prop where
  levels : r ≤ 8
  digests : ∀ p, ∀ h ∈ D.dg p, h < 2 ^ 64
  entries : ∀ p ∈ m.toList, KVOk p
  extra : ∀ id v, extra id = some v → validElem v
  addr : m.addr < 2 ^ 64
  ctr : ctr < 2 ^ 64
  ty : m.ty < 2 ^ 64
  count : m.count < 2 ^ 64
  seed : m.seed < 2 ^ 64
  groups : GroupsFit m

def decFit : (r : Nat) → (e : MElems r) → Decidable (Fit r e)
  | 0, (se : SingleElems) => inferInstanceAs (Decidable (se.elems.length < 65536 ∧ se.size ≤ maxUint32))
  | r + 1, (he : HkeyElems (MElems r)) =>
    have : ∀ el, Decidable (FitEl (Fit r) el) := fun el =>
      match el with
      | .single _ => isTrue trivial
      | .inl g => decFit r g
      | .ext _ _ _ => isTrue trivial
    inferInstanceAs (Decidable (he.elems.length < 8192 ∧ he.size ≤ maxUint32 ∧ ∀ el ∈ he.elems, FitEl (Fit r) el))

instance (r : Nat) (e : MElems r) : Decidable (Fit r e) := decFit r e

instance (v : MSlabView r) : Decidable (FitView v) := by
  cases v <;> (dsimp only [FitView]; infer_instance)

instance (m : OMap r) : Decidable (GroupsFit m) := by unfold GroupsFit; infer_instance

instance (p : MKey × Elem) : Decidable (KVOk p) := by unfold KVOk; infer_instance

/-- `EncodeSlab` -/
def encM (v : MSSlab r) : Bytes := encodeSlab (toSlabM (ownIdM v) v)

/-- `DecodeSlab(id, data)`, the result rebuilt with the digest function `D` -/
def decM (D : DigestFn (r + 1)) (id : SlabID) (b : Bytes) : Option (MSSlab r) :=
  match decodeSlab id b 0 with
  | .ok sl _ => ofSlabM D sl
  | _ => none

/-- THE KEYED BYTE CODEC FOR MAPS (see `E2E.keyedCodec`): a register is the ledger entry
    `(key, bytes)`: `EncodeSlab` of a slab that meets the encoder's preconditions (an encoding error
    otherwise), filed under the slab's own ID; decoding an entry is `DecodeSlab(key of the entry,
    bytes)`, keys re-hashed with `D`. -/
def keyedCodecM (D : DigestFn (r + 1)) : Codec (MSSlab r) (SlabID × Bytes) :=
  { enc := fun v => if OkM D v then some (ownIdM v, encM v) else none,
    dec := fun _ p => decM D p.1 p.2,
    size := fun v => (toSlabM (ownIdM v) v).byteSize }

/-- a request whose key and value can be encoded by the harness -/
def MOp.Enc : MOp → Prop
  | .set k v => validElem ⟨k.size, .val k.pay⟩ ∧ validElem v
  | .setType ty => ty < 2 ^ 64
  | _ => True

instance (op : MOp) : Decidable op.Enc := by
  cases op <;> (dsimp only [MOp.Enc]; infer_instance)

end Atree.E2EM

import AtreeProofs.E2EMapSpec
import AtreeProofs.MapRefs
import AtreeProofs.Map.EffectsTop
/-
  END-TO-END specification (ordered maps) WITH DISPOSAL: a caller that, after every request,
  removes from storage the large-value slab of every reference the request handed back to it
  (`Set` overwrite: the old value; `Remove`: the removed value; `PopIterate`: every value) - what
  the harness does (`DSP` lines).  DEFINITIONS ONLY; theorems in `Props/E2EMapDispose.lean`.
  `stepD` is defined on top of `E2EM.stepS`.
  (Array analogue: `E2EDisposeSpec.lean`, namespace `Atree.E2ED`.)
-/
namespace Atree.E2EMD
open Atree Gen

variable {r : Nat} {β : Type}

/-- the ids of the references among values handed to the caller, in order -/
def refsOfVals (l : List Elem) : List SlabID :=
  l.filterMap (fun e => match e.pay with | .ref id => some id | .val _ => none)

/-- The values a request hands back to the caller: the overwritten value of a `Set`, the removed
    value of a `Remove`, every value of a `PopIterate`; nothing for a request that is refused. -/
def handedBack (cfg : MCfg) (st : OMap r × Ctx) : E2EM.MOp → List Elem
  | .set k v =>
    match st.1.set cfg k v st.2 with
    | .ok (some old, _) => [old]
    | _ => []
  | .remove k =>
    match st.1.remove cfg k st.2 with
    | .ok (_, v, _) => [v]
    | .error _ => []
  | .popIterate => (st.1.popIterate st.2).1.map (·.2)
  | .setType _ => []

/-- `storage.Remove(id)` for each id -/
def disposeOps (ids : List SlabID) : List (Op (E2EM.MSSlab r)) := ids.map Op.remove

/-- One request (model + its storage calls: `E2EM.stepS`), then the caller disposes of what the
    request handed back: `storage.Remove(id)` for every `.ref id` among the returned values. -/
def stepD (c : Codec (E2EM.MSSlab r) β) (cfg : MCfg) (x : (OMap r × Ctx) × St (E2EM.MSSlab r) β)
    (op : E2EM.MOp) : (OMap r × Ctx) × St (E2EM.MSSlab r) β :=
  let y := E2EM.stepS c cfg x op
  (y.1, St.run c y.2 (disposeOps (refsOfVals (handedBack cfg x.1 op))))

def runD (c : Codec (E2EM.MSSlab r) β) (cfg : MCfg) (x : (OMap r × Ctx) × St (E2EM.MSSlab r) β)
    (ops : List E2EM.MOp) : (OMap r × Ctx) × St (E2EM.MSSlab r) β := ops.foldl (stepD c cfg) x

/-- The LIVE large-value slabs of a state: `live st id = some v` iff some pair of the map holds
    the value `.ref id`, and `v` is the value that reference resolves to (the slab created for
    it, `ctx.created`). -/
def live (st : OMap r × Ctx) (id : SlabID) : Option Elem :=
  if id ∈ st.1.refIds then AList.find? st.2.created id else none

/-- The invariant of a history with disposal.  `rep.view` is the EXACT-HEAP statement: on the
    owner's address the storage's view is the stored forms of the tree slabs (data slabs, index
    slabs, external collision groups) plus the large-value slabs of the CURRENT pairs - nothing
    else. -/
structure MGoodD (c : Codec (E2EM.MSSlab r) β) (T : Nat) (D : DigestFn (r + 1)) (cfg : MCfg)
    (x : (OMap r × Ctx) × St (E2EM.MSSlab r) β) : Prop where
  inv : MapInv T D x.1.1
  ids : MIdsOk x.1.1
  ctx : CtxOk x.1.1 x.1.2
  cfg : CfgOk cfg T x.1.1
  aok : E2EM.MAddrOk x.1.1
  addr : x.1.1.addr ≠ 0
  st : Inv c x.2
  /-- created slabs have indices the allocator handed out -/
  cre : ∀ p ∈ x.1.2.created, p.1.idx ≤ x.1.2.ctr
  refs : MRefsOk x.1.1 x.1.2.ctr
  /-- no reference of the map dangles: its slab was created -/
  nodang : ∀ id ∈ x.1.1.refIds, (AList.find? x.1.2.created id).isSome
  rep : E2EM.MRep c x.2 x.1.1 (live x.1) x.1.2.ctr

/-- The answer of the request `op` issued in state `st` is the dictionary's answer (C02): `Set`
    returns the value bound to the key before (or is refused with the collision-limit error for a
    key that is absent), `Remove` returns the value bound to the key (key-not-found iff absent),
    `PopIterate` returns every pair, last to first. -/
def AnswerOk (cfg : MCfg) (st : OMap r × Ctx) : E2EM.MOp → Prop
  | .set k v =>
    (∃ m' c', st.1.set cfg k v st.2 = .ok (dictLookup st.1.toList k, m', c')) ∨
    (st.1.set cfg k v st.2 = .error .collisionLimit ∧ dictLookup st.1.toList k = none)
  | .remove k =>
    match dictLookup st.1.toList k with
    | none => st.1.remove cfg k st.2 = .error .keyNotFound
    | some w => ∃ k0 m' c', st.1.remove cfg k st.2 = .ok (k0, w, m', c') ∧ k0.same k = true
  | .popIterate => (st.1.popIterate st.2).1 = st.1.toList.reverse
  | .setType _ => True

end Atree.E2EMD

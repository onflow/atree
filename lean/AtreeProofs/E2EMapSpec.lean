import AtreeModel.StorageOps
import AtreeProofs.Storage.Basic
import AtreeProofs.MapHeapSpec
import AtreeProofs.MapInv
import AtreeProofs.MapLemmas
import AtreeProofs.E2ESpec
/-
  END-TO-END specification (ordered maps): the map model, its effect logs, the storage state
  machine, commit / reopen and lazy slab loading tied together.  Same shape as
  `AtreeProofs/E2ESpec.lean` (arrays).  DEFINITIONS ONLY; theorems in `AtreeProofs/Props/E2EMap.lean`.

  Differences with arrays:
  * three kinds of tree slabs are stored: data slabs, index slabs, and EXTERNAL COLLISION-GROUP
    slabs (separate stored slabs referenced from a first-level element of a data slab);
  * the model embeds the content of an external group in the element that references it; the
    STORED form of a data slab does not: `stripData` replaces the embedded group by a placeholder,
    and the loader (`loadAt`) fetches the group slab through its ID and puts it back;
  * the root slab carries the map's extra data (type info, count, seed).
-/
namespace Atree.E2EM
open Atree Gen

variable {r : Nat}

/-- What the storage holds under one slab ID of a map's owner: a slab of the map (data slab, index
    slab or external collision-group slab; with the extra data `(type, count, seed)` iff it is the
    root), or a large-value slab. -/
inductive MSSlab (r : Nat) where
  | tree (s : MSlabView r) (x : Option (Nat × Nat × Nat))
  | large (v : Elem)

def emptyElems : (r : Nat) → MElems r
  | 0 => ({ elems := [], size := 0, level := 0 } : SingleElems)
  | r + 1 => ({ hkeys := [], elems := [], size := 0, level := 0 } : HkeyElems (MElems r))

/-- a reference to an external collision group, without the group -/
def stripElem : MElemF (MElems r) → MElemF (MElems r)
  | .ext id sz _ => .ext id sz ⟨⟨id, 0, 0⟩, emptyElems r⟩
  | e => e

/-- the stored form of a data slab: external groups are referenced, not contained -/
def stripData (s : MDataSlab r) : MDataSlab r :=
  { s with elems := { s.elems with elems := s.elems.elems.map stripElem } }

def stripView : MSlabView r → MSlabView r
  | .data s => .data (stripData s)
  | v => v

/-- the slab that must be visible under `id` when the map is `m` and the live large-value slabs
    are `extra` -/
def mstored (m : OMap r) (extra : SlabID → Option Elem) (id : SlabID) : Option (MSSlab r) :=
  match m.slabAt id with
  | some p => some (.tree (stripView p.1) p.2)
  | none => (extra id).map .large

/-! Effect logs against the storage state machine, as for arrays (`AtreeProofs/E2ESpec.lean`). -/

def effOp (content : SlabID → Option (MSSlab r)) : Eff → List (Op (MSSlab r))
  | .alloc addr _ => [.genID addr]
  | .store id =>
    match content id with
    | some v => [.store id v]
    | none => []
  | .remove id => [.remove id]

def effOpsI (EC : List (Eff × (SlabID → Option (MSSlab r)))) : List (Op (MSSlab r)) :=
  EC.flatMap (fun p => effOp p.2 p.1)

def effOps (content : SlabID → Option (MSSlab r)) (E : List Eff) : List (Op (MSSlab r)) :=
  E.flatMap (effOp content)

variable {β : Type}

def applyEffsI (c : Codec (MSSlab r) β) (s : St (MSSlab r) β)
    (EC : List (Eff × (SlabID → Option (MSSlab r)))) : St (MSSlab r) β :=
  St.run c s (effOpsI EC)

def applyEffs (c : Codec (MSSlab r) β) (s : St (MSSlab r) β) (content : SlabID → Option (MSSlab r))
    (E : List Eff) : St (MSSlab r) β :=
  St.run c s (effOps content E)

def writeStep (id : SlabID) (acc : Option (Option (MSSlab r)))
    (p : Eff × (SlabID → Option (MSSlab r))) : Option (Option (MSSlab r)) :=
  match p.1 with
  | .store i =>
    if i = id then
      match p.2 id with
      | some v => some (some v)
      | none => acc
    else acc
  | .remove i => if i = id then some none else acc
  | .alloc _ _ => acc

def lastWrite (EC : List (Eff × (SlabID → Option (MSSlab r)))) (id : SlabID) :
    Option (Option (MSSlab r)) :=
  EC.foldl (writeStep id) none

/-- The storage `s` represents the map `m`: restricted to the owner's address, the view is exactly
    the (stored forms of the) slabs of the map plus the live large-value slabs `extra`. -/
structure MRep (c : Codec (MSSlab r) β) (s : St (MSSlab r) β) (m : OMap r)
    (extra : SlabID → Option Elem) (ctr : Nat) : Prop where
  view : ∀ id, id.addr = m.addr → s.view c id = mstored m extra id
  extra_fresh : ∀ id, (extra id).isSome → (m.slabAt id).isNone ∧ id.idx ≤ ctr

/-- the live large-value slabs after an operation, from the log alone -/
def extraStep (m' : OMap r) (E : List Eff) (created : List (SlabID × Elem))
    (extra : SlabID → Option Elem) (id : SlabID) : Option Elem :=
  if (m'.slabAt id).isSome then none
  else
    match lastAction E id with
    | some true => AList.find? created id
    | some false => none
    | none => extra id

/-- every slab of the map (external collision groups included) is owned by the map's address -/
def MAddrOk (m : OMap r) : Prop := ∀ id ∈ AList.keys (MTree.slabs m.d m.root), id.addr = m.addr

/-- put the external group back into the element that references it -/
def loadElem (look : SlabID → Option (MSSlab r)) : MElemF (MElems r) → Option (MElemF (MElems r))
  | .ext id sz _ =>
    match look id with
    | some (.tree (.group g) _) => some (.ext id sz g)
    | _ => none
  | e => some e

def loadAt (look : SlabID → Option (MSSlab r)) : (d : Nat) → SlabID → Option (MTree r d)
  | 0, id =>
    match look id with
    | some (.tree (.data s) _) =>
      match E2E.optAll (loadElem look) s.elems.elems with
      | some es => some ({ s with elems := { s.elems with elems := es } } : MDataSlab r)
      | none => none
    | _ => none
  | d + 1, id =>
    match look id with
    | some (.tree (.index hdr chs root) _) =>
      match E2E.optAll (fun (h : MHdr) => loadAt look d h.id) chs with
      | some kids =>
        some ({ hdr := hdr, childHdrs := chs, children := kids, root := root } : MMetaSlab (MTree r d))
      | none => none
    | _ => none

def findDepth (look : SlabID → Option (MSSlab r)) : Nat → SlabID → Option Nat
  | 0, _ => none
  | fuel + 1, id =>
    match look id with
    | some (.tree (.data _) _) => some 0
    | some (.tree (.index _ chs _) _) =>
      match chs with
      | [] => none
      | h :: _ => (findDepth look fuel h.id).map (· + 1)
    | _ => none

/-- `NewMapWithRootID(storage, rootID, digesterBuilder)` followed by loading every slab -/
def loadMap (look : SlabID → Option (MSSlab r)) (rootID : SlabID) (fuel : Nat) : Option (OMap r) :=
  match findDepth look fuel rootID, look rootID with
  | some d, some (.tree _ (some (ty, cnt, seed))) =>
    (loadAt look d rootID).map (fun t => (⟨d, t, ty, cnt, seed⟩ : OMap r))
  | _, _ => none

/-! The same through a state-threading fetch. -/

section Stateful
variable {S : Type}

abbrev MFetch (r : Nat) (S : Type) := S → SlabID → Except StErr (Option (MSSlab r) × S)

def loadElemSt (fetch : MFetch r S) (s : S) :
    MElemF (MElems r) → Except StErr (Option (MElemF (MElems r)) × S)
  | .ext id sz _ =>
    match fetch s id with
    | .error e => .error e
    | .ok (some (.tree (.group g) _), s') => .ok (some (.ext id sz g), s')
    | .ok (_, s') => .ok (none, s')
  | e => .ok (some e, s)

def loadAtSt (fetch : MFetch r S) : (d : Nat) → S → SlabID → Except StErr (Option (MTree r d) × S)
  | 0, s, id =>
    match fetch s id with
    | .error e => .error e
    | .ok (some (.tree (.data sl) _), s') =>
      match E2E.optAllSt (loadElemSt fetch) s' sl.elems.elems with
      | .error e => .error e
      | .ok (some es, s'') => .ok (some ({ sl with elems := { sl.elems with elems := es } } : MDataSlab r), s'')
      | .ok (none, s'') => .ok (none, s'')
    | .ok (_, s') => .ok (none, s')
  | d + 1, s, id =>
    match fetch s id with
    | .error e => .error e
    | .ok (some (.tree (.index hdr chs root) _), s') =>
      match E2E.optAllSt (fun s (h : MHdr) => loadAtSt fetch d s h.id) s' chs with
      | .error e => .error e
      | .ok (some kids, s'') =>
        .ok (some ({ hdr := hdr, childHdrs := chs, children := kids, root := root } :
          MMetaSlab (MTree r d)), s'')
      | .ok (none, s'') => .ok (none, s'')
    | .ok (_, s') => .ok (none, s')

def findDepthSt (fetch : MFetch r S) : Nat → S → SlabID → Except StErr (Option Nat × S)
  | 0, s, _ => .ok (none, s)
  | fuel + 1, s, id =>
    match fetch s id with
    | .error e => .error e
    | .ok (some (.tree (.data _) _), s') => .ok (some 0, s')
    | .ok (some (.tree (.index _ chs _) _), s') =>
      match chs with
      | [] => .ok (none, s')
      | h :: _ =>
        match findDepthSt fetch fuel s' h.id with
        | .error e => .error e
        | .ok (res, s'') => .ok (res.map (· + 1), s'')
    | .ok (_, s') => .ok (none, s')

def loadMapSt (fetch : MFetch r S) (s : S) (rootID : SlabID) (fuel : Nat) :
    Except StErr (Option (OMap r) × S) :=
  match findDepthSt fetch fuel s rootID with
  | .error e => .error e
  | .ok (none, s1) => .ok (none, s1)
  | .ok (some d, s1) =>
    match fetch s1 rootID with
    | .error e => .error e
    | .ok (some (.tree _ (some (ty, cnt, seed))), s2) =>
      match loadAtSt fetch d s2 rootID with
      | .error e => .error e
      | .ok (res, s3) => .ok (res.map (fun t => (⟨d, t, ty, cnt, seed⟩ : OMap r)), s3)
    | .ok (_, s2) => .ok (none, s2)

end Stateful

/-- a transparent fetch (see `E2E.FetchOk`) -/
def MFetchOk (c : Codec (MSSlab r) β) (fetch : MFetch r (St (MSSlab r) β)) : Prop :=
  ∀ s id, Inv c s → ∃ s', fetch s id = .ok (s.view c id, s') ∧ Inv c s' ∧ s'.view c = s.view c ∧
    s'.deltas = s.deltas ∧ s'.base = s.base

def readOnlyOp : Op (MSSlab r) → Bool
  | .retrieve _ | .retrieveIfLoaded _ | .retrieveIgnoringDeltas _ _ | .dropCache | .preload _ => true
  | _ => false

def fetchWith (c : Codec (MSSlab r) β) (sched : St (MSSlab r) β → SlabID → List (Op (MSSlab r))) :
    MFetch r (St (MSSlab r) β) :=
  fun s id => (St.run c s ((sched s id).filter readOnlyOp)).retrieve c id

inductive MOp where
  | set (k : MKey) (v : Elem)
  | remove (k : MKey)
  | popIterate
  | setType (ty : Nat)

/-- keys carry the digests of the digest function and respect the key size limit; values are plain
    values of at least one byte (any size) -/
def MOp.Ok (T : Nat) (D : DigestFn (r + 1)) : MOp → Prop
  | .set k v => KeyOk T (r + 1) D k ∧ ValueOkM v
  | .remove k => KeyOk T (r + 1) D k
  | _ => True

/-- One request on the map model; a rejected request (key not found, collision limit) changes
    nothing. -/
def stepM (cfg : MCfg) (st : OMap r × Ctx) : MOp → OMap r × Ctx
  | .set k v =>
    match st.1.set cfg k v st.2 with
    | .ok (_, res) => res
    | .error _ => st
  | .remove k =>
    match st.1.remove cfg k st.2 with
    | .ok (_, _, res) => res
    | .error _ => st
  | .popIterate => (st.1.popIterate st.2).2
  | .setType ty => st.1.setType ty st.2

def runM (cfg : MCfg) (st : OMap r × Ctx) (ops : List MOp) : OMap r × Ctx := ops.foldl (stepM cfg) st

def contentOf (st : OMap r × Ctx) : SlabID → Option (MSSlab r) :=
  mstored st.1 (AList.find? st.2.created)

/-- One request on the map model AND its storage calls on the storage state machine. -/
def stepS (c : Codec (MSSlab r) β) (cfg : MCfg) (x : (OMap r × Ctx) × St (MSSlab r) β) (op : MOp) :
    (OMap r × Ctx) × St (MSSlab r) β :=
  let st' := stepM cfg x.1 op
  (st', applyEffs c x.2 (contentOf st') (E2E.newEffs x.1.2 st'.2))

def runS (c : Codec (MSSlab r) β) (cfg : MCfg) (x : (OMap r × Ctx) × St (MSSlab r) β)
    (ops : List MOp) : (OMap r × Ctx) × St (MSSlab r) β := ops.foldl (stepS c cfg) x

/-- `NewMap(storage, addr, digesterBuilder, ty)` on an empty storage -/
def newS (c : Codec (MSSlab r) β) (addr ty : Nat) (seedOf : SlabID → Nat) :
    (OMap r × Ctx) × St (MSSlab r) β :=
  let st := OMap.new (r := r) addr ty seedOf ⟨0, [], []⟩
  (st, applyEffs c (St.init : St (MSSlab r) β) (contentOf st) st.2.eff)

end Atree.E2EM

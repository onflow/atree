import AtreeModel.StorageOps
import AtreeProofs.Storage.Basic
import AtreeProofs.HeapSpec
import AtreeProofs.ArrayInv
/-
  END-TO-END specification (arrays): the three models tied together.

    array model  --effect log-->  storage state machine  --commit / reopen-->  ledger
         ^                                                                        |
         +------------------------- loadArr (lazy slab loading) <-----------------+

  Definitions only; the theorems are in `AtreeProofs/Props/E2E.lean`.
-/
namespace Atree.E2E
open Atree Gen

/-- What the storage holds under one slab ID of an array's owner: a slab of the array's tree
    (`ASlab`, with the type info iff it is the root slab: `ArrayExtraData`), or a large-value slab
    (`StorableSlab`) created by `Value.Storable` for an element too large to inline. -/
inductive SSlab where
  | tree (s : ASlab) (ty : Option Nat)
  | large (v : Elem)

/-- The slab that must be visible under `id` when the array is `a` and the live large-value slabs
    are `extra`. -/
def stored (a : Arr) (extra : SlabID → Option Elem) (id : SlabID) : Option SSlab :=
  match a.slabAt id with
  | some p => some (.tree p.1 p.2)
  | none => (extra id).map .large

/-! Effect logs against the storage state machine.

One event of the effect log becomes one storage operation:
  `.alloc addr _` ↦ `GenerateSlabID(addr)`, `.store id` ↦ `Store(id, content id)`,
  `.remove id` ↦ `Remove(id)`.

The array model keeps the tree, not the intermediate versions of the slabs, so the content passed
to `Store` is the content of `id` in the tree AFTER the operation (`content`).  This yields the same
final storage state as storing the intermediate contents: `Store`/`Remove` only overwrite the entry
of `id` in `deltas` (`AList.insert`), so the entry of `id` at the end is the one written by the LAST
store/remove event of `id`, and (`EffectsComplete`) the slab written by the last store event of `id`
is the final content.  A store event of a slab that does not exist at the end (`content id = none`)
is always followed by a remove event of the same slab; it is skipped.  `effOpsI` is the version with
a content snapshot per event; `E2E.applyEffsI_eq_applyEffs` proves the equivalence. -/

def effOp (content : SlabID → Option SSlab) : Eff → List (Op SSlab)
  | .alloc addr _ => [.genID addr]
  | .store id =>
    match content id with
    | some v => [.store id v]
    | none => []
  | .remove id => [.remove id]

/-- events with their own content snapshot -/
def effOpsI (EC : List (Eff × (SlabID → Option SSlab))) : List (Op SSlab) :=
  EC.flatMap (fun p => effOp p.2 p.1)

/-- all events with the final content -/
def effOps (content : SlabID → Option SSlab) (E : List Eff) : List (Op SSlab) :=
  E.flatMap (effOp content)

variable {β : Type}

def applyEffsI (c : Codec SSlab β) (s : St SSlab β) (EC : List (Eff × (SlabID → Option SSlab))) :
    St SSlab β :=
  St.run c s (effOpsI EC)

def applyEffs (c : Codec SSlab β) (s : St SSlab β) (content : SlabID → Option SSlab)
    (E : List Eff) : St SSlab β :=
  St.run c s (effOps content E)

/-- the entry a log with snapshots leaves in `deltas` for `id` (`none` = it does not touch `id`) -/
def writeStep (id : SlabID) (acc : Option (Option SSlab))
    (p : Eff × (SlabID → Option SSlab)) : Option (Option SSlab) :=
  match p.1 with
  | .store i =>
    if i = id then
      match p.2 id with
      | some v => some (some v)
      | none => acc
    else acc
  | .remove i => if i = id then some none else acc
  | .alloc _ _ => acc

def lastWrite (EC : List (Eff × (SlabID → Option SSlab))) (id : SlabID) : Option (Option SSlab) :=
  EC.foldl (writeStep id) none

/-- number of `GenerateSlabID(addr)` calls in a log -/
def allocCount (addr : Nat) (E : List Eff) : Nat :=
  (E.filter (fun e => match e with | .alloc a _ => a == addr | _ => false)).length

/-- The storage `s` represents the array `a`: restricted to the array's owner address, the view
    (latest store/remove, else cache, else ledger) is exactly the slabs of the tree plus the live
    large-value slabs `extra`.  `ctr` is the allocation counter of the array model; the large-value
    slabs are disjoint from the tree and were allocated before `ctr`. -/
structure Rep (c : Codec SSlab β) (s : St SSlab β) (a : Arr) (extra : SlabID → Option Elem)
    (ctr : Nat) : Prop where
  view : ∀ id, id.addr = a.addr → s.view c id = stored a extra id
  extra_fresh : ∀ id, (extra id).isSome → (a.slabAt id).isNone ∧ id.idx ≤ ctr

/-- the storage's allocation counter for the owner agrees with the array model's -/
def AllocSync (s : St SSlab β) (addr ctr : Nat) : Prop :=
  (AList.find? s.alloc addr).getD 0 = ctr

/-- The live large-value slabs after an operation with log `E` that created `created`, computed
    from the log alone (what `EffectsComplete` determines). -/
def extraStep (a' : Arr) (E : List Eff) (created : List (SlabID × Elem))
    (extra : SlabID → Option Elem) (id : SlabID) : Option Elem :=
  if (a'.slabAt id).isSome then none
  else
    match lastAction E id with
    | some true => AList.find? created id
    | some false => none
    | none => extra id

def optAll {α γ : Type} (f : α → Option γ) : List α → Option (List γ)
  | [] => some []
  | x :: xs =>
    match f x, optAll f xs with
    | some y, some ys => some (y :: ys)
    | _, _ => none

/-- Load the subtree of depth `d` rooted at `id`: a data slab at depth 0, an index slab whose
    children are loaded through its child headers otherwise. -/
def loadAt (look : SlabID → Option SSlab) : (d : Nat) → SlabID → Option (ATree d)
  | 0, id =>
    match look id with
    | some (.tree (.data s) _) => some s
    | _ => none
  | d + 1, id =>
    match look id with
    | some (.tree (.index hdr chs cs root) _) =>
      match optAll (fun (h : Hdr) => loadAt look d h.id) chs with
      | some kids =>
        some ({ hdr := hdr, childHdrs := chs, countSum := cs, children := kids, root := root } :
          MetaSlab (ATree d))
      | none => none
    | _ => none

/-- the depth of the tree under `id`, found by following the first child headers -/
def findDepth (look : SlabID → Option SSlab) : Nat → SlabID → Option Nat
  | 0, _ => none
  | fuel + 1, id =>
    match look id with
    | some (.tree (.data _) _) => some 0
    | some (.tree (.index _ chs _ _) _) =>
      match chs with
      | [] => none
      | h :: _ => (findDepth look fuel h.id).map (· + 1)
    | _ => none

/-- `NewArrayWithRootID(storage, rootID)` followed by loading every slab: the root slab gives the
    type info, the child headers give the children.  `fuel` only bounds the search for the depth. -/
def loadArr (look : SlabID → Option SSlab) (rootID : SlabID) (fuel : Nat) : Option Arr :=
  match findDepth look fuel rootID, look rootID with
  | some d, some (.tree _ (some ty)) => (loadAt look d rootID).map (fun t => (⟨d, t, ty⟩ : Arr))
  | _, _ => none

/-! The same through a state-threading fetch (`PersistentSlabStorage.Retrieve`). -/

section Stateful
variable {S : Type}

/-- a fetch: reads one slab, may change the storage state (cache fill) or fail -/
abbrev Fetch (S : Type) := S → SlabID → Except StErr (Option SSlab × S)

def optAllSt {α γ : Type} (f : S → α → Except StErr (Option γ × S)) :
    S → List α → Except StErr (Option (List γ) × S)
  | s, [] => .ok (some [], s)
  | s, x :: xs =>
    match f s x with
    | .error e => .error e
    | .ok (none, s') => .ok (none, s')
    | .ok (some y, s') =>
      match optAllSt f s' xs with
      | .error e => .error e
      | .ok (none, s'') => .ok (none, s'')
      | .ok (some ys, s'') => .ok (some (y :: ys), s'')

def loadAtSt (fetch : Fetch S) : (d : Nat) → S → SlabID → Except StErr (Option (ATree d) × S)
  | 0, s, id =>
    match fetch s id with
    | .error e => .error e
    | .ok (some (.tree (.data sl) _), s') => .ok (some sl, s')
    | .ok (_, s') => .ok (none, s')
  | d + 1, s, id =>
    match fetch s id with
    | .error e => .error e
    | .ok (some (.tree (.index hdr chs cs root) _), s') =>
      match optAllSt (fun s (h : Hdr) => loadAtSt fetch d s h.id) s' chs with
      | .error e => .error e
      | .ok (some kids, s'') =>
        .ok (some ({ hdr := hdr, childHdrs := chs, countSum := cs, children := kids, root := root } :
          MetaSlab (ATree d)), s'')
      | .ok (none, s'') => .ok (none, s'')
    | .ok (_, s') => .ok (none, s')

def findDepthSt (fetch : Fetch S) : Nat → S → SlabID → Except StErr (Option Nat × S)
  | 0, s, _ => .ok (none, s)
  | fuel + 1, s, id =>
    match fetch s id with
    | .error e => .error e
    | .ok (some (.tree (.data _) _), s') => .ok (some 0, s')
    | .ok (some (.tree (.index _ chs _ _) _), s') =>
      match chs with
      | [] => .ok (none, s')
      | h :: _ =>
        match findDepthSt fetch fuel s' h.id with
        | .error e => .error e
        | .ok (r, s'') => .ok (r.map (· + 1), s'')
    | .ok (_, s') => .ok (none, s')

/-- `loadArr` through a fetch: the depth search, the root slab (type info), then the tree. -/
def loadArrSt (fetch : Fetch S) (s : S) (rootID : SlabID) (fuel : Nat) :
    Except StErr (Option Arr × S) :=
  match findDepthSt fetch fuel s rootID with
  | .error e => .error e
  | .ok (none, s1) => .ok (none, s1)
  | .ok (some d, s1) =>
    match fetch s1 rootID with
    | .error e => .error e
    | .ok (some (.tree _ (some ty)), s2) =>
      match loadAtSt fetch d s2 rootID with
      | .error e => .error e
      | .ok (r, s3) => .ok (r.map (fun t => (⟨d, t, ty⟩ : Arr)), s3)
    | .ok (_, s2) => .ok (none, s2)

end Stateful

/-- A fetch is transparent for the storage: it returns the visible slab and changes neither the
    view, nor the write set, nor the ledger, and keeps the storage invariant.  (`Retrieve` is one;
    so is `Retrieve` preceded by cache drops, preloads and other reads.) -/
def FetchOk (c : Codec SSlab β) (fetch : Fetch (St SSlab β)) : Prop :=
  ∀ s id, Inv c s → ∃ s', fetch s id = .ok (s.view c id, s') ∧ Inv c s' ∧ s'.view c = s.view c ∧
    s'.deltas = s.deltas ∧ s'.base = s.base

/-- maintenance / read operations that may be interleaved anywhere (C08) -/
def readOnlyOp : Op SSlab → Bool
  | .retrieve _ | .retrieveIfLoaded _ | .retrieveIgnoringDeltas _ _ | .dropCache | .preload _ => true
  | _ => false

/-- `Retrieve` preceded by arbitrary read-only operations chosen by a schedule -/
def fetchWith (c : Codec SSlab β) (sched : St SSlab β → SlabID → List (Op SSlab)) :
    Fetch (St SSlab β) :=
  fun s id => (St.run c s ((sched s id).filter readOnlyOp)).retrieve c id

/-- One request on an array. -/
inductive AOp where
  | insert (i : Nat) (v : Elem)
  | append (v : Elem)
  | set (i : Nat) (v : Elem)
  | remove (i : Nat)
  | popIterate
  | setType (ty : Nat)

/-- the values handed over are plain values of at least one byte (any size) -/
def AOp.Ok : AOp → Prop
  | .insert _ v | .append v | .set _ v => ValueOk v
  | _ => True

/-- One request on the array model; a rejected request (error) changes nothing. -/
def stepA (T : Nat) (st : Arr × Ctx) : AOp → Arr × Ctx
  | .insert i v =>
    match st.1.insert T i v st.2 with
    | .ok r => r
    | .error _ => st
  | .append v =>
    match st.1.append T v st.2 with
    | .ok r => r
    | .error _ => st
  | .set i v =>
    match st.1.set T i v st.2 with
    | .ok (_, r) => r
    | .error _ => st
  | .remove i =>
    match st.1.remove T i st.2 with
    | .ok (_, r) => r
    | .error _ => st
  | .popIterate => (st.1.popIterate st.2).2
  | .setType ty => st.1.setType ty st.2

def runA (T : Nat) (st : Arr × Ctx) (ops : List AOp) : Arr × Ctx := ops.foldl (stepA T) st

/-- what a run appended to the effect log -/
def newEffs (c c' : Ctx) : List Eff := c'.eff.drop c.eff.length

/-- the content of the stored slabs after an operation: the new tree, else a large-value slab -/
def contentOf (st : Arr × Ctx) : SlabID → Option SSlab := stored st.1 (AList.find? st.2.created)

/-- One request on the array model AND its storage calls on the storage state machine. -/
def stepS (c : Codec SSlab β) (T : Nat) (x : (Arr × Ctx) × St SSlab β) (op : AOp) :
    (Arr × Ctx) × St SSlab β :=
  let st' := stepA T x.1 op
  (st', applyEffs c x.2 (contentOf st') (newEffs x.1.2 st'.2))

def runS (c : Codec SSlab β) (T : Nat) (x : (Arr × Ctx) × St SSlab β) (ops : List AOp) :
    (Arr × Ctx) × St SSlab β := ops.foldl (stepS c T) x

/-- `NewArray(storage, addr, ty)` on an empty storage -/
def newS (c : Codec SSlab β) (addr ty : Nat) : (Arr × Ctx) × St SSlab β :=
  let st := Arr.new addr ty ⟨0, [], []⟩
  (st, applyEffs c (St.init : St SSlab β) (contentOf st) st.2.eff)

/-- The `List` semantics of a request, on the VALUES (a large value is the value itself, not the
    reference that replaces it in the slab): out-of-range requests and insertions into a full
    array (`maxArrayElementCount`) are rejected and change nothing. -/
def specStep (l : List Elem) : AOp → List Elem
  | .insert i v => if l.length < maxArrayElementCount ∧ i ≤ l.length then l.insertIdx i v else l
  | .append v => if l.length < maxArrayElementCount then l ++ [v] else l
  | .set i v => if i < l.length then l.set i v else l
  | .remove i => if i < l.length then l.eraseIdx i else l
  | .popIterate => []
  | .setType _ => l

def specRun (l : List Elem) (ops : List AOp) : List Elem := ops.foldl specStep l

/-- the type info after a history -/
def specTy (ty : Nat) (ops : List AOp) : Nat :=
  ops.foldl (fun t op => match op with | .setType t' => t' | _ => t) ty

/-- the value an element stands for: a reference to a large-value slab is the value in that slab -/
def resolve (created : List (SlabID × Elem)) (e : Elem) : Elem :=
  match e.pay with
  | .ref id => (AList.find? created id).getD e
  | .val _ => e

/-- the sequence of values the array represents -/
def values (st : Arr × Ctx) : List Elem := st.1.toList.map (resolve st.2.created)

end Atree.E2E

import AtreeProofs.Health.Forest
import AtreeProofs.HeapSpec
import AtreeProofs.ArrayInv
import AtreeProofs.Array.Effects
/-
  C20 for arrays: the heap (`Health.Heap`) of ONE array — the slabs of its tree plus its
  large-value slabs — is `Healthy`, and its roots are the array's root slab and the large-value
  slabs no element refers to any more.

  `arrHeap_healthy` is stated on a single array value (`ArrInv` + facts about the reference
  elements and the created large-value slabs); `AtreeProofs/Health/ArrayHistory.lean` discharges
  these hypotheses for every array produced by a valid history.
-/
namespace Atree
open Gen ATree

namespace Health

/-- the slab references among the elements (`SlabIDStorable`s), in order -/
def elemRefs (l : List Elem) : List SlabID :=
  l.filterMap (fun e => match e.pay with | .ref id => some id | .val _ => none)

end Health

/-- the slab references `ChildStorables` finds in one array slab: the reference elements of a data
    slab, the child headers of an index slab -/
def ASlab.refs : ASlab → List SlabID
  | .data s => Health.elemRefs s.elems
  | .index _ chs _ _ => chs.map (·.id)

namespace Health

/-- the heap of one array: the slabs of its tree and its large-value slabs (which reference nothing) -/
def arrHeap (a : Arr) (created : List (SlabID × Elem)) : Heap :=
  (ATree.slabs a.d a.root).map (fun p => (p.1, ⟨p.1, p.2.refs⟩)) ++ created.map (fun p => (p.1, ⟨p.1, []⟩))

theorem elemRefs_append (l₁ l₂ : List Elem) : elemRefs (l₁ ++ l₂) = elemRefs l₁ ++ elemRefs l₂ :=
  List.filterMap_append

theorem elemRefs_nil : elemRefs [] = [] := rfl

theorem elemRefs_flatMap {α : Type} (L : List α) (f : α → List Elem) :
    elemRefs (L.flatMap f) = L.flatMap (fun x => elemRefs (f x)) := by
  unfold elemRefs
  exact List.filterMap_flatMap

theorem mem_elemRefs (l : List Elem) (y : SlabID) : y ∈ elemRefs l ↔ ∃ e ∈ l, e.pay = .ref y := by
  unfold elemRefs
  rw [List.mem_filterMap]
  constructor
  · rintro ⟨e, he, h⟩
    refine ⟨e, he, ?_⟩
    cases hp : e.pay with
    | val n => rw [hp] at h; cases h
    | ref id => rw [hp] at h; cases h; rfl
  · rintro ⟨e, he, h⟩
    exact ⟨e, he, by rw [h]⟩

theorem elemRefs_val {e : Elem} (h : ∃ n, e.pay = .val n) : elemRefs [e] = [] := by
  obtain ⟨n, hn⟩ := h
  simp [elemRefs, hn]

theorem elemRefs_ref {e : Elem} {y : SlabID} (h : e.pay = .ref y) : elemRefs [e] = [y] := by
  simp [elemRefs, h]

theorem flatMap_append_perm {α β : Type} (L : List α) (f g : α → List β) :
    (L.flatMap (fun x => f x ++ g x)).Perm (L.flatMap f ++ L.flatMap g) := by
  induction L with
  | nil => exact List.Perm.refl _
  | cons x L ih =>
    rw [List.flatMap_cons, List.flatMap_cons, List.flatMap_cons]
    refine ((List.Perm.refl (f x ++ g x)).append ih).trans ?_
    rw [List.append_assoc, List.append_assoc]
    refine List.Perm.append_left (f x) ?_
    rw [← List.append_assoc, ← List.append_assoc]
    exact List.Perm.append_right _ List.perm_append_comm

/-- the slabs `S` of a tree, each reduced to its ID and the references `refs` finds in it, followed
    by the large-value slabs (which reference nothing); `arrHeap` and `mapHeap` are instances -/
def treeHeap {σ : Type} (refs : σ → List SlabID) (S : List (SlabID × σ)) (created : List (SlabID × Elem)) :
    Heap :=
  S.map (fun p => (p.1, ⟨p.1, refs p.2⟩)) ++ created.map (fun p => (p.1, ⟨p.1, []⟩))

section TreeHeap
variable {σ : Type} (refs : σ → List SlabID) (S : List (SlabID × σ)) (created : List (SlabID × Elem))

theorem arrHeap_eq (a : Arr) (created : List (SlabID × Elem)) :
    arrHeap a created = treeHeap ASlab.refs (ATree.slabs a.d a.root) created := rfl

theorem keys_treeHeap : AList.keys (treeHeap refs S created) = AList.keys S ++ created.map (·.1) := by
  simp [treeHeap, AList.keys, List.map_map, Function.comp_def]

theorem edges_treeHeap : edges (treeHeap refs S created) = edges (treeHeap refs S []) := by
  have hcr : edges (created.map (fun p => ((p.1, ⟨p.1, []⟩) : SlabID × HSlab))) = [] := by
    induction created with
    | nil => rfl
    | cons p cr ih => rw [List.map_cons, edges_cons, ih]; rfl
  unfold treeHeap
  rw [edges_append, edges_append, hcr]
  rfl

theorem targets_treeHeap : targets (treeHeap refs S created) = S.flatMap (fun p => refs p.2) := by
  have h0 : targets (treeHeap refs S []) = S.flatMap (fun p => refs p.2) := by
    induction S with
    | nil => rfl
    | cons p S ih =>
      show targets ((p.1, ⟨p.1, refs p.2⟩) :: treeHeap refs S []) = _
      rw [targets_cons, ih, List.flatMap_cons]
  unfold targets
  rw [edges_treeHeap]
  exact h0

theorem mem_edges_treeHeap (p q : SlabID) :
    (p, q) ∈ edges (treeHeap refs S created) ↔ ∃ s, (p, s) ∈ S ∧ q ∈ refs s := by
  rw [edges_treeHeap, mem_edges, treeHeap, List.map_nil, List.append_nil]
  constructor
  · rintro ⟨hs, hm, hq⟩
    obtain ⟨⟨k, s⟩, hks, heq⟩ := List.mem_map.mp hm
    obtain ⟨rfl, rfl⟩ := Prod.mk.inj heq
    exact ⟨s, hks, hq⟩
  · rintro ⟨s, hm, hq⟩
    exact ⟨⟨p, refs s⟩, List.mem_map.mpr ⟨(p, s), hm, rfl⟩, hq⟩

theorem self_of_mem_treeHeap : ∀ p ∈ treeHeap refs S created, p.2.self = p.1 := by
  intro p hp
  rcases List.mem_append.1 hp with h | h
  · obtain ⟨q, _, rfl⟩ := List.mem_map.1 h; rfl
  · obtain ⟨q, _, rfl⟩ := List.mem_map.1 h; rfl

end TreeHeap

theorem keys_arrHeap (a : Arr) (created : List (SlabID × Elem)) :
    AList.keys (arrHeap a created) = slabIds a.d a.root ++ created.map (·.1) := by
  rw [arrHeap_eq, keys_treeHeap, keys_slabs]

theorem self_of_find {h : Heap} (hs : ∀ p ∈ h, p.2.self = p.1) {k : SlabID} {s : HSlab}
    (hf : AList.find? h k = some s) : s.self = k := by
  induction h with
  | nil => cases hf
  | cons e rest ih =>
    obtain ⟨k', v⟩ := e
    rw [AList.find?_cons] at hf
    split at hf
    · rename_i hk
      cases hf
      rw [← hk]
      exact hs (k', s) (by simp)
    · exact ih (fun p hp => hs p (by simp [hp])) hf

def treeTargets (d : Nat) (t : ATree d) : List SlabID := (ATree.slabs d t).flatMap (fun p => p.2.refs)

theorem treeTargets_zero (s : DataSlab) : treeTargets 0 (ofData s) = elemRefs s.elems := by
  simp [treeTargets, ofData, ATree.slabs, ASlab.refs]

theorem treeTargets_succ (d : Nat) (m : MetaSlab (ATree d)) :
    treeTargets (d + 1) (ofMeta m) = m.childHdrs.map (·.id) ++ m.children.flatMap (treeTargets d) := by
  show (ASlab.index m.hdr m.childHdrs m.countSum m.root).refs
      ++ (m.children.flatMap (ATree.slabs d)).flatMap (fun p => p.2.refs) = _
  rw [List.flatMap_assoc]
  rfl

/-- The references of a tree are: one reference to each slab below the root (the child headers),
    and the reference elements. -/
theorem treeTargets_perm (T : Nat) : ∀ (d : Nat) (top : Bool) (t : ATree d), TreeInv T d top t →
    (treeTargets d t).Perm (subIds d t ++ elemRefs (flatten d t))
  | 0, top, t => by
    refine forall_ofData ?_ t; intro s _
    rw [treeTargets_zero, subIds_zero, flatten_zero, List.nil_append]
  | d + 1, top, t => by
    refine forall_ofMeta ?_ t; intro m hinv
    rw [treeInv_succ] at hinv
    obtain ⟨hsh, _⟩ := hinv
    rw [treeTargets_succ, subIds_succ, flatten_succ, elemRefs_flatMap, hsh.hdrs_eq, List.map_map]
    have ih : (m.children.flatMap (treeTargets d)).Perm
        (m.children.flatMap (fun c => subIds d c ++ elemRefs (flatten d c))) :=
      flatMap_perm_of_mem (fun c hc => treeTargets_perm T d false c (hsh.kids_inv c hc))
    have h2 := flatMap_append_perm m.children (subIds d) (fun c => elemRefs (flatten d c))
    have h3 : (m.children.flatMap (slabIds d)).Perm
        (m.children.map (fun c => (hdr d c).id) ++ m.children.flatMap (subIds d)) := by
      have : m.children.flatMap (slabIds d)
          = m.children.flatMap (fun c => [(hdr d c).id] ++ subIds d c) := by
        congr 1; funext c; rw [slabIds_eq]; rfl
      rw [this]
      refine (flatMap_append_perm m.children (fun c => [(hdr d c).id]) (subIds d)).trans ?_
      rw [← List.map_eq_flatMap]
    refine ((List.Perm.refl _).append (ih.trans h2)).trans ?_
    rw [← List.append_assoc]
    exact List.Perm.append_right _ h3.symm

/-- every slab of a tree is reachable from its root in any heap containing the tree's edges -/
theorem reach_tree (T : Nat) (h : Heap) : ∀ (d : Nat) (top : Bool) (t : ATree d), TreeInv T d top t →
    (∀ p s, (p, s) ∈ ATree.slabs d t → ∀ q ∈ s.refs, (p, q) ∈ edges h) →
    ∀ r, Reach h r (hdr d t).id → ∀ id ∈ slabIds d t, Reach h r id
  | 0, top, t => by
    refine forall_ofData ?_ t; intro s _ _ r hr id hid
    rw [slabIds_zero, List.mem_singleton] at hid
    subst hid; exact hr
  | d + 1, top, t => by
    refine forall_ofMeta ?_ t; intro m hinv hed r hr id hid
    rw [treeInv_succ] at hinv
    obtain ⟨hsh, _⟩ := hinv
    rw [slabIds_succ, List.mem_cons] at hid
    rcases hid with rfl | hid
    · exact hr
    · obtain ⟨c, hc, hidc⟩ := List.mem_flatMap.1 hid
      have hroot : (m.hdr.id, ASlab.index m.hdr m.childHdrs m.countSum m.root)
          ∈ ATree.slabs (d + 1) (ofMeta m) := by
        simp [ofMeta, ATree.slabs]
      have hedge : (m.hdr.id, (hdr d c).id) ∈ edges h := by
        refine hed _ _ hroot _ ?_
        show (hdr d c).id ∈ m.childHdrs.map (·.id)
        rw [hsh.hdrs_eq, List.map_map]
        exact List.mem_map.mpr ⟨c, hc, rfl⟩
      refine reach_tree T h d false c (hsh.kids_inv c hc) ?_ r (Reach.step hr hedge) id hidc
      intro p s hps q hq
      refine hed p s ?_ q hq
      show (p, s) ∈ (m.hdr.id, ASlab.index m.hdr m.childHdrs m.countSum m.root)
        :: m.children.flatMap (ATree.slabs d)
      exact List.mem_cons_of_mem _ (List.mem_flatMap.mpr ⟨c, hc, hps⟩)

/-- A tree heap is healthy, and its roots are the tree's root and the large-value slabs nobody
    refers to, when: the IDs of the tree's slabs are `root :: sub`, pairwise distinct and at `addr`;
    the references found in the tree's slabs are, up to order, `sub` (one to each slab below the
    root) and `vrefs`; every slab of the tree is reachable from `root` along these references; and
    `vrefs` are distinct large-value slabs among `created`, which have distinct IDs at `addr` outside
    the tree.  (`hreach` speaks of every heap that holds the tree's edges: this is what the inductions
    over the tree, `reach_tree` and `reach_mtree`, give; it is used at `treeHeap refs S created`.) -/
theorem treeHeap_healthy {σ : Type} (refs : σ → List SlabID) (S : List (SlabID × σ))
    (created : List (SlabID × Elem)) (root : SlabID) (sub vrefs : List SlabID) (addr : Nat)
    (hkeys : AList.keys S = root :: sub) (hids : (AList.keys S).Nodup)
    (haddr : ∀ id ∈ AList.keys S, id.addr = addr)
    (hperm : (S.flatMap (fun p => refs p.2)).Perm (sub ++ vrefs))
    (hreach : ∀ h : Heap, (∀ p s, (p, s) ∈ S → ∀ q ∈ refs s, (p, q) ∈ edges h) →
      ∀ id ∈ AList.keys S, Reach h root id)
    (hrefsIn : ∀ y ∈ vrefs, y ∈ created.map (·.1))
    (hnd : vrefs.Nodup) (hcnd : (created.map (·.1)).Nodup)
    (hcr : ∀ p ∈ created, p.1.addr = addr ∧ p.1 ∉ AList.keys S) :
    (AList.keys (treeHeap refs S created)).Nodup ∧
    Healthy (treeHeap refs S created) (rootsOf (treeHeap refs S created)) ∧
    (∀ id, id ∈ rootsOf (treeHeap refs S created) ↔
      (id = root ∨ (id ∈ created.map (·.1) ∧ id ∉ vrefs))) := by
  have hcrOut : ∀ y ∈ created.map (·.1), y ∉ AList.keys S := by
    intro y hy
    obtain ⟨p, hp, rfl⟩ := List.mem_map.1 hy
    exact (hcr p hp).2
  have hcrAddr : ∀ y ∈ created.map (·.1), y.addr = addr := by
    intro y hy
    obtain ⟨p, hp, rfl⟩ := List.mem_map.1 hy
    exact (hcr p hp).1
  have hsubIn : ∀ y ∈ sub, y ∈ AList.keys S := fun y hy => by rw [hkeys]; exact List.mem_cons_of_mem _ hy
  have hrootK : root ∈ AList.keys S := by rw [hkeys]; exact List.mem_cons_self
  have hperm' : (targets (treeHeap refs S created)).Perm (sub ++ vrefs) := by
    rw [targets_treeHeap]; exact hperm
  have hmemT : ∀ y, y ∈ targets (treeHeap refs S created) ↔ (y ∈ sub ∨ y ∈ vrefs) := by
    intro y; rw [hperm'.mem_iff, List.mem_append]
  have hkeysH := keys_treeHeap refs S created
  have hmemK : ∀ y, AList.contains (treeHeap refs S created) y = true ↔
      (y ∈ AList.keys S ∨ y ∈ created.map (·.1)) := by
    intro y; rw [AList.contains_iff_mem_keys, hkeysH, List.mem_append]
  have hkAddr : ∀ y, AList.contains (treeHeap refs S created) y = true → y.addr = addr := by
    intro y hy
    rcases (hmemK y).1 hy with h | h
    · exact haddr y h
    · exact hcrAddr y h
  have hknd : (AList.keys (treeHeap refs S created)).Nodup := by
    rw [hkeysH, List.nodup_append]
    refine ⟨hids, hcnd, ?_⟩
    rintro x hx y hy rfl
    exact hcrOut x hy hx
  have hres : ∀ e ∈ edges (treeHeap refs S created),
      AList.contains (treeHeap refs S created) e.2 = true := by
    intro e he
    have : e.2 ∈ targets (treeHeap refs S created) := List.mem_map_of_mem he
    rw [hmemK]
    rcases (hmemT e.2).1 this with h | h
    · exact Or.inl (hsubIn _ h)
    · exact Or.inr (hrefsIn _ h)
  rw [hkeys, List.nodup_cons] at hids
  have hsingle : ((edges (treeHeap refs S created)).map (·.2)).Nodup := by
    rw [targets_def, hperm'.nodup_iff, List.nodup_append]
    refine ⟨hids.2, hnd, ?_⟩
    rintro x hx y hy rfl
    exact hcrOut x (hrefsIn x hy) (hsubIn x hx)
  have hself := self_of_mem_treeHeap refs S created
  have hroots : ∀ id, id ∈ rootsOf (treeHeap refs S created) ↔
      (id = root ∨ (id ∈ created.map (·.1) ∧ id ∉ vrefs)) := by
    intro id
    rw [mem_rootsOf, targets_def, hmemK, hmemT, hkeys, List.mem_cons]
    constructor
    · rintro ⟨(h1 | h1) | h1, h2⟩
      · exact Or.inl h1
      · exact absurd (Or.inl h1) h2
      · exact Or.inr ⟨h1, fun h3 => h2 (Or.inr h3)⟩
    · rintro (rfl | ⟨h1, h2⟩)
      · refine ⟨Or.inl (Or.inl rfl), ?_⟩
        rintro (h3 | h3)
        · exact hids.1 h3
        · exact hcrOut _ (hrefsIn _ h3) hrootK
      · refine ⟨Or.inr h1, ?_⟩
        rintro (h3 | h3)
        · exact hcrOut _ h1 (hsubIn _ h3)
        · exact h2 h3
  refine ⟨hknd, ⟨hres, hsingle, ?_, mem_rootsOf _, List.Nodup.sublist List.filter_sublist hknd, ?_⟩, hroots⟩
  · intro e he p c hp hc
    rw [self_of_find hself hp, self_of_find hself hc,
      hkAddr e.1 ((AList.contains_iff_mem_keys _ _).mpr (source_mem_keys _ e.1 e.2 he)),
      hkAddr e.2 (hres e he)]
  · have hrootIn : root ∈ rootsOf (treeHeap refs S created) := (hroots _).2 (Or.inl rfl)
    have htree := hreach (treeHeap refs S created)
      (fun p s hps q hq => (mem_edges_treeHeap refs S created p q).2 ⟨s, hps, hq⟩)
    intro id hid
    by_cases ht : id ∈ targets (treeHeap refs S created)
    · obtain ⟨p, he⟩ := (mem_targets _ id).1 ht
      obtain ⟨s, hps, _⟩ := (mem_edges_treeHeap refs S created p id).1 he
      exact ⟨root, hrootIn, Reach.step (htree p (List.mem_map.mpr ⟨(p, s), hps, rfl⟩)) he⟩
    · exact ⟨id, (mem_rootsOf _ id).2 ⟨hid, ht⟩, Reach.refl id⟩

/-- The heap of one array is healthy.  For an array satisfying the array invariant whose reference
    elements point to distinct large-value slabs among `created`, the `created` slabs having
    distinct IDs at the array's address outside the tree: the heap made of the tree's slabs and the
    large-value slabs has unique keys and is `Healthy`; its roots are the array's root slab and the
    large-value slabs no element refers to. -/
theorem arrHeap_healthy (T : Nat) (a : Arr) (ctr : Nat) (created : List (SlabID × Elem))
    (hinv : ArrInv T a ctr)
    (hrefs : ∀ e ∈ a.toList, ∀ y, e.pay = .ref y → y ∈ created.map (·.1))
    (hnd : (elemRefs a.toList).Nodup)
    (hcnd : (created.map (·.1)).Nodup)
    (hcr : ∀ p ∈ created, p.1.addr = a.addr ∧ p.1 ∉ ATree.slabIds a.d a.root) :
    (AList.keys (arrHeap a created)).Nodup ∧
    Healthy (arrHeap a created) (rootsOf (arrHeap a created)) ∧
    (∀ id, id ∈ rootsOf (arrHeap a created) ↔
      (id = a.rootID ∨ (id ∈ created.map (·.1) ∧ id ∉ elemRefs a.toList))) := by
  have hk : AList.keys (ATree.slabs a.d a.root) = slabIds a.d a.root := keys_slabs _ _
  rw [← hk] at hcr
  refine treeHeap_healthy ASlab.refs (ATree.slabs a.d a.root) created a.rootID (subIds a.d a.root)
    (elemRefs a.toList) a.addr (hk.trans (slabIds_eq a.d a.root)) (hk ▸ hinv.ids.1) ?_
    (treeTargets_perm T a.d true a.root hinv.tree) ?_ ?_ hnd hcnd hcr
  · intro id hid
    rw [hk] at hid
    exact (hinv.ids.2 id hid).1
  · intro h hed id hid
    rw [hk] at hid
    exact reach_tree T h a.d true a.root hinv.tree hed a.rootID (Reach.refl _) id hid
  · intro y hy
    obtain ⟨e, he, hp⟩ := (mem_elemRefs _ y).1 hy
    exact hrefs e he y hp

end Health
end Atree

import AtreeProofs.Health.ArrayHeap
import AtreeProofs.Props.E2E
import AtreeProofs.Health.Check
/-
  C20 for arrays: the storage produced by any valid history of array requests is `Healthy`.

  * `Health.refs_add` — the reference bookkeeping of `Value.Storable` (`Storable`, `WE2E.Written`), for arrays and
    maps alike: a container is seen through the list of its stored values.
  * `RefsUnique` — the additional history invariant: no two elements refer to the same large-value
    slab, no two large-value slabs share an ID; kept by every request (`Served.refsUnique`).
  * `array_history_healthy` — for every history from `NewArray` on an empty storage, the heap
    `arrHeap a created` (tree slabs + large-value slabs) has unique keys, is `Healthy`, has the
    array's root among its roots, and is exactly what the storage holds at the owner's address
    (`Rep.view`).  `array_run_healthy` — the same from any `Good` state satisfying `RefsUnique`.
  * `array_history_check_accepts` — hence (`Health.check_complete`) `CheckStorageHealth` accepts it.
-/
namespace Atree.Health
open Atree

/-- A container seen through the list `l` of its stored values: a request that replaces `l` by a
    permutation of "stored form of the value written, if any, then a sublist of `l`" keeps the references
    pairwise different and the created slabs' IDs distinct. -/
theorem refs_add {addr ctr : Nat} {w : Option Elem} {ins : List Elem} {cr created : List (SlabID × Elem)}
    (hwr : WE2E.Written addr ctr w ins cr) {l l0 l' : List Elem} (hsub : l0.Sublist l)
    (hperm : l'.Perm (ins ++ l0)) (hnd : (elemRefs l).Nodup) (hcnd : (created.map (·.1)).Nodup)
    (hin : ∀ y ∈ elemRefs l, y ∈ created.map (·.1)) (hle : ∀ p ∈ created, p.1.idx ≤ ctr) :
    (elemRefs l').Nodup ∧ ((created ++ cr).map (·.1)).Nodup := by
  have hp : (elemRefs l').Perm (elemRefs ins ++ elemRefs l0) := by
    rw [← elemRefs_append]; exact hperm.filterMap _
  have hsub' : (elemRefs l0).Sublist (elemRefs l) := hsub.filterMap _
  have hnd0 : (elemRefs l0).Nodup := hnd.sublist hsub'
  have hfresh : (⟨addr, ctr + 1⟩ : SlabID) ∉ created.map (·.1) := by
    intro hm
    obtain ⟨p, hp, hpe⟩ := List.mem_map.1 hm
    have := hle p hp
    rw [hpe] at this
    simp only at this
    omega
  rw [hp.nodup_iff]
  cases hwr with
  | none => rw [List.append_nil]; exact ⟨hnd0, hcnd⟩
  | some hst =>
    cases hst with
    | inline hv _ => rw [List.append_nil, elemRefs_val ⟨_, hv⟩]; exact ⟨hnd0, hcnd⟩
    | large _ =>
      constructor
      · rw [elemRefs_ref rfl, List.singleton_append, List.nodup_cons]
        exact ⟨fun hm => hfresh (hin _ (hsub'.subset hm)), hnd0⟩
      · rw [List.map_append, List.nodup_append]
        refine ⟨hcnd, by simp, ?_⟩
        intro x hx y hy hxy
        simp only [List.map_cons, List.map_nil, List.mem_singleton] at hy
        subst hy; subst hxy
        exact hfresh hx

end Atree.Health

namespace Atree.E2E
open Atree Gen ATree Health

variable {β : Type}

/-- no two elements refer to the same large-value slab; the large-value slabs have distinct IDs -/
def RefsUnique (st : Arr × Ctx) : Prop :=
  (elemRefs st.1.toList).Nodup ∧ (st.2.created.map (·.1)).Nodup

/-- a stored slab as the health check sees it: its ID and the slab references it contains -/
def SSlab.toH (id : SlabID) : SSlab → HSlab
  | .tree s _ => ⟨id, s.refs⟩
  | .large _ => ⟨id, []⟩

theorem refsIn_of_refsOk {st : Arr × Ctx} (h : RefsOk st) :
    ∀ y ∈ elemRefs st.1.toList, y ∈ st.2.created.map (·.1) := fun y hy =>
  let ⟨e, he, hp⟩ := (mem_elemRefs _ y).1 hy
  (AList.contains_iff_mem_keys _ _).1 (h e he y hp)

/-- a served request keeps the references unique -/
theorem Served.refsUnique {T : Nat} {a : Arr} {ctx : Ctx} {op : AOp} {st' : Arr × Ctx}
    (h : Served T a ctx op st') (hop : op.Ok) (hrefs : RefsOk (a, ctx))
    (hle : ∀ p ∈ ctx.created, p.1.idx ≤ ctx.ctr) (hu : RefsUnique (a, ctx)) : RefsUnique st' := by
  cases h with
  | rejected => exact hu
  | done a' ctx' E C i j w h =>
    show (elemRefs a'.toList).Nodup ∧ (ctx'.created.map (·.1)).Nodup
    rw [h.sum.log.created, h.cre, h.list]
    exact refs_add (written_insOf T a.addr ctx fun v hv => AOp.ok_val hop v (h.hw v hv))
      (splice_sublist a.toList h.hij) (splice_perm _ _ _ _) hu.1 hu.2 (refsIn_of_refsOk hrefs) hle

/-- Any history, from any good state with unique references: both invariants are kept. -/
theorem refsUnique_runS (c : Codec SSlab β) (hc : RoundTrip c) (T : Nat) (hT : legalThreshold T = true) :
    ∀ (ops : List AOp) (x : (Arr × Ctx) × St SSlab β), Good c T x → RefsUnique x.1 →
      (∀ op ∈ ops, op.Ok) → Good c T (runS c T x ops) ∧ RefsUnique (runS c T x ops).1 :=
  fun ops x hg hu hok =>
    foldl_sim (stepS c T) (fun (u : Unit) _ => u) AOp.Ok (fun x _ => Good c T x ∧ RefsUnique x.1)
      (fun x _ op hop h => ⟨(good_stepS c hc T hT x h.1 op hop).1,
        (served_stepA hT x.1.1 x.1.2 h.1.inv op hop).refsUnique hop h.1.refs h.1.created_le h.2⟩)
      ops x () hok ⟨hg, hu⟩

theorem refsUnique_new (c : Codec SSlab β) (addr ty : Nat) : RefsUnique (newS c addr ty).1 :=
  ⟨List.nodup_nil, List.nodup_nil⟩

theorem find?_map_val {α γ : Type} (f : SlabID → α → γ) (l : List (SlabID × α)) (k : SlabID) :
    AList.find? (l.map (fun p => (p.1, f p.1 p.2))) k = (AList.find? l k).map (f k) := by
  induction l with
  | nil => rfl
  | cons p l ih =>
    obtain ⟨k', v⟩ := p
    rw [List.map_cons, AList.find?_cons, AList.find?_cons]
    split
    · rename_i hk; subst hk; rfl
    · exact ih

/-- an entry of a tree heap: the slab of the tree under that ID with its references, else the
    large-value slab created under it -/
theorem _root_.Atree.Health.find?_treeHeap {σ : Type} (refs : σ → List SlabID) (S : List (SlabID × σ))
    (created : List (SlabID × Elem)) (id : SlabID) :
    AList.find? (treeHeap refs S created) id =
      ((AList.find? S id).map fun s => (⟨id, refs s⟩ : HSlab)).or
        ((AList.find? created id).map fun _ => (⟨id, []⟩ : HSlab)) := by
  unfold treeHeap
  rw [AList.find?_append, find?_map_val (fun k (s : σ) => (⟨k, refs s⟩ : HSlab)),
    find?_map_val (fun k (_ : Elem) => (⟨k, []⟩ : HSlab))]

/-- the health-check view of the slab the storage must hold under `id` is the heap's entry -/
theorem stored_toH (a : Arr) (created : List (SlabID × Elem)) (id : SlabID) :
    (stored a (AList.find? created) id).map (SSlab.toH id) = AList.find? (arrHeap a created) id := by
  rw [arrHeap_eq, find?_treeHeap]
  unfold stored Arr.slabAt
  cases AList.find? (ATree.slabs a.d a.root) id with
  | some s => rfl
  | none => cases AList.find? created id <;> rfl

/-- From any state satisfying the history invariants (`Good`, `RefsUnique`): the heap of the array
    has unique keys, is healthy, its roots are the array's root slab and the large-value slabs no
    element refers to, and it is what the storage holds at the owner's address. -/
theorem array_state_healthy (c : Codec SSlab β) (T : Nat) (x : (Arr × Ctx) × St SSlab β)
    (hg : Good c T x) (hu : RefsUnique x.1) :
    (AList.keys (arrHeap x.1.1 x.1.2.created)).Nodup ∧
    Healthy (arrHeap x.1.1 x.1.2.created) (rootsOf (arrHeap x.1.1 x.1.2.created)) ∧
    (∀ id, id ∈ rootsOf (arrHeap x.1.1 x.1.2.created) ↔
      (id = x.1.1.rootID ∨ (id ∈ x.1.2.created.map (·.1) ∧ id ∉ elemRefs x.1.1.toList))) ∧
    (∀ id, id.addr = x.1.1.addr →
      (x.2.view c id).map (SSlab.toH id) = AList.find? (arrHeap x.1.1 x.1.2.created) id) := by
  obtain ⟨h1, h2, h3⟩ := arrHeap_healthy T x.1.1 x.1.2.ctr x.1.2.created hg.inv
    (fun e he y hy => (AList.contains_iff_mem_keys _ _).1 (hg.refs e he y hy))
    hu.1 hu.2
    (fun p hp => ⟨hg.caddr p hp, by
      have := (hg.rep.extra_fresh p.1 (find?_isSome_of_mem_keys (List.mem_map_of_mem hp))).1
      exact (slabAt_isNone x.1.1 p.1).1 this⟩)
  refine ⟨h1, h2, h3, ?_⟩
  intro id hid
  rw [hg.rep.view id hid]
  exact stored_toH _ _ id

/-- Any history from any `Good` state with unique references (e.g. the state after a commit). -/
theorem array_run_healthy (c : Codec SSlab β) (hc : RoundTrip c) (T : Nat) (hT : legalThreshold T = true)
    (x0 : (Arr × Ctx) × St SSlab β) (hg : Good c T x0) (hu : RefsUnique x0.1)
    (ops : List AOp) (hops : ∀ op ∈ ops, op.Ok) :
    let x := runS c T x0 ops
    let a := x.1.1
    let created := x.1.2.created
    (AList.keys (arrHeap a created)).Nodup ∧
    Healthy (arrHeap a created) (rootsOf (arrHeap a created)) ∧
    a.rootID ∈ rootsOf (arrHeap a created) ∧
    (∀ id, id ∈ rootsOf (arrHeap a created) ↔
      (id = a.rootID ∨ (id ∈ created.map (·.1) ∧ id ∉ elemRefs a.toList))) ∧
    (∀ id, id.addr = x0.1.1.addr →
      (x.2.view c id).map (SSlab.toH id) = AList.find? (arrHeap a created) id) ∧
    RefsUnique x.1 := by
  intro x a created
  obtain ⟨g, u⟩ := refsUnique_runS c hc T hT ops x0 hg hu hops
  obtain ⟨_, _, r, _⟩ := good_runS c hc T hT ops x0 hg hops
  obtain ⟨h1, h2, h3, h4⟩ := array_state_healthy c T x g u
  have haddr : a.addr = x0.1.1.addr := by
    show x.1.1.rootID.addr = x0.1.1.rootID.addr
    rw [r]
  refine ⟨h1, h2, (h3 _).2 (Or.inl rfl), h3, ?_, u⟩
  intro id hid
  exact h4 id (hid.trans haddr.symm)

/-- The storage of any valid array history is healthy.  For every list of requests (insert / append
    / set / remove / popIterate / setType; any positions; values of any size ≥ 1) starting from
    `NewArray` on an empty storage: the heap made of the slabs of the array's tree and of the
    large-value slabs created so far has unique keys, is `Healthy`, the array's root slab is one of
    its roots, and — slab by slab — it is what the storage holds at the owner's address. -/
theorem array_history_healthy (c : Codec SSlab β) (hc : RoundTrip c) (T : Nat)
    (hT : legalThreshold T = true) (addr ty : Nat) (haddr : addr ≠ 0) (ops : List AOp)
    (hops : ∀ op ∈ ops, op.Ok) :
    let x := runS c T (newS c addr ty) ops
    let a := x.1.1
    let created := x.1.2.created
    (AList.keys (arrHeap a created)).Nodup ∧
    Healthy (arrHeap a created) (rootsOf (arrHeap a created)) ∧
    a.rootID ∈ rootsOf (arrHeap a created) ∧
    (∀ id, id.addr = addr →
      (x.2.view c id).map (SSlab.toH id) = AList.find? (arrHeap a created) id) := by
  intro x a created
  obtain ⟨g0, _, r0, _⟩ := good_new c hc T hT addr ty haddr
  obtain ⟨h1, h2, h3, _, h5, _⟩ :=
    array_run_healthy c hc T hT (newS c addr ty) g0 (refsUnique_new c addr ty) ops hops
  refine ⟨h1, h2, h3, ?_⟩
  intro id hid
  refine h5 id ?_
  show id.addr = (newS c addr ty).1.1.rootID.addr
  rw [r0]; exact hid

/-- the roots after a history: the array's root slab and the orphaned large-value slabs -/
theorem array_history_roots (c : Codec SSlab β) (hc : RoundTrip c) (T : Nat)
    (hT : legalThreshold T = true) (addr ty : Nat) (haddr : addr ≠ 0) (ops : List AOp)
    (hops : ∀ op ∈ ops, op.Ok) :
    let x := runS c T (newS c addr ty) ops
    let a := x.1.1
    let created := x.1.2.created
    ∀ id, id ∈ rootsOf (arrHeap a created) ↔
      (id = ⟨addr, 1⟩ ∨ (id ∈ created.map (·.1) ∧ id ∉ elemRefs a.toList)) := by
  intro x a created
  obtain ⟨g0, _, r0, _⟩ := good_new c hc T hT addr ty haddr
  obtain ⟨_, _, _, h4, _, _⟩ :=
    array_run_healthy c hc T hT (newS c addr ty) g0 (refsUnique_new c addr ty) ops hops
  obtain ⟨_, _, r, _⟩ := good_runS c hc T hT ops (newS c addr ty) g0 hops
  intro id
  rw [h4 id]
  show (id = x.1.1.rootID ∨ _) ↔ _
  rw [r, r0]

/-- an accepted heap is also accepted with the number of roots found as the expected count -/
theorem check_some_of_none (h : Heap) (R : List SlabID) (hR : Health.check h none = .ok R) :
    Health.check h (some R.length) = .ok R :=
  Health.check_ok_expected hR _ fun n hn => by cases hn; rfl

/-- a healthy heap is accepted for "any number of roots" and for the number of its roots, with the same
    answer: its roots -/
theorem _root_.Atree.Health.check_accepts_rootsOf (h : Heap) (hk : (AList.keys h).Nodup)
    (hh : Healthy h (rootsOf h)) :
    ∃ R, Health.check h none = .ok R ∧ Health.check h (some (rootsOf h).length) = .ok R ∧
      (∀ id, id ∈ R ↔ id ∈ rootsOf h) ∧ R.length = (rootsOf h).length := by
  obtain ⟨R, hR, hmem, hlen⟩ := Health.check_complete h hk _ hh none (fun n hn => by cases hn)
  exact ⟨R, hR, hlen ▸ check_some_of_none h R hR, hmem, hlen⟩

/-- Hence `CheckStorageHealth` (with the right expected root count, or `-1`) ACCEPTS the storage of
    every valid array history, and returns exactly the roots: the array's root slab and the
    orphaned large-value slabs. -/
theorem array_history_check_accepts (c : Codec SSlab β) (hc : RoundTrip c) (T : Nat)
    (hT : legalThreshold T = true) (addr ty : Nat) (haddr : addr ≠ 0) (ops : List AOp)
    (hops : ∀ op ∈ ops, op.Ok) :
    let x := runS c T (newS c addr ty) ops
    let h := arrHeap x.1.1 x.1.2.created
    ∃ R, Health.check h none = .ok R ∧ Health.check h (some (rootsOf h).length) = .ok R ∧
      (∀ id, id ∈ R ↔ id ∈ rootsOf h) ∧ R.length = (rootsOf h).length := by
  intro x h
  obtain ⟨h1, h2, _, _⟩ := array_history_healthy c hc T hT addr ty haddr ops hops
  exact Health.check_accepts_rootsOf h h1 h2

/-! ### Non-vacuity

`hist` / `xH` of `Props/E2E.lean` (T = 256, identity codec): an index slab 1 over the data slabs 2
and 3, element 2 is a reference to the large-value slab 5.  `hist2` then overwrites that element:
slab 5 stays in storage, unreferenced, and becomes a second root. -/
section NonVacuity
open Atree.Example

/-- overwrite the large value -/
def hist2 : List AOp := hist ++ [.set 2 (elem 7)]

theorem hist2_ok : ∀ op ∈ hist2, op.Ok := by
  intro op hop
  rcases List.mem_append.1 hop with h | h
  · exact hist_ok op h
  · simp only [List.mem_singleton] at h
    subst h
    exact value_ok _

def xH2 : (Arr × Ctx) × St SSlab SSlab := runS idCodec T0 (newS idCodec 1 0) hist2

/-- the theorem applies to `hist` … -/
example :
    (AList.keys (arrHeap xH.1.1 xH.1.2.created)).Nodup ∧
    Healthy (arrHeap xH.1.1 xH.1.2.created) (rootsOf (arrHeap xH.1.1 xH.1.2.created)) ∧
    xH.1.1.rootID ∈ rootsOf (arrHeap xH.1.1 xH.1.2.created) ∧
    (∀ id, id.addr = 1 → (xH.2.view idCodec id).map (SSlab.toH id)
      = AList.find? (arrHeap xH.1.1 xH.1.2.created) id) :=
  array_history_healthy idCodec idCodec_roundTrip T0 legal 1 0 (by decide) hist hist_ok

/-- The heaps after `hist` and after `hist2`, by evaluation (one conjunction, so that the common
    history is evaluated once); the `rootsOf` / `Health.check` examples below are computed from
    these eight entries. -/
theorem xH_heap :
    arrHeap xH.1.1 xH.1.2.created =
      [(⟨1, 1⟩, ⟨⟨1, 1⟩, [⟨1, 2⟩, ⟨1, 3⟩]⟩), (⟨1, 2⟩, ⟨⟨1, 2⟩, [⟨1, 5⟩]⟩), (⟨1, 3⟩, ⟨⟨1, 3⟩, []⟩),
       (⟨1, 5⟩, ⟨⟨1, 5⟩, []⟩)] ∧
    arrHeap xH2.1.1 xH2.1.2.created =
      [(⟨1, 1⟩, ⟨⟨1, 1⟩, [⟨1, 2⟩, ⟨1, 3⟩]⟩), (⟨1, 2⟩, ⟨⟨1, 2⟩, []⟩), (⟨1, 3⟩, ⟨⟨1, 3⟩, []⟩),
       (⟨1, 5⟩, ⟨⟨1, 5⟩, []⟩)] := by decide +kernel

/-- … whose heap is: -/
example : arrHeap xH.1.1 xH.1.2.created =
    [(⟨1, 1⟩, ⟨⟨1, 1⟩, [⟨1, 2⟩, ⟨1, 3⟩]⟩), (⟨1, 2⟩, ⟨⟨1, 2⟩, [⟨1, 5⟩]⟩), (⟨1, 3⟩, ⟨⟨1, 3⟩, []⟩),
     (⟨1, 5⟩, ⟨⟨1, 5⟩, []⟩)] := xH_heap.1
example : rootsOf (arrHeap xH.1.1 xH.1.2.created) = [⟨1, 1⟩] := by rw [xH_heap.1]; decide +kernel
/-- `CheckStorageHealth(storage, 1)` accepts it (and rejects any other root count) -/
example : Health.check (arrHeap xH.1.1 xH.1.2.created) (some 1) = .ok [⟨1, 1⟩] := by
  rw [xH_heap.1]; decide +kernel
example : Health.check (arrHeap xH.1.1 xH.1.2.created) (some 2) = .error .rootCount := by
  rw [xH_heap.1]; decide +kernel
/-- the storage holds exactly these slabs at address 1 -/
example : ([1, 2, 3, 4, 5, 6].map (fun i => (xH.2.view idCodec ⟨1, i⟩).map (SSlab.toH ⟨1, i⟩)))
    = [1, 2, 3, 4, 5, 6].map (fun i => AList.find? (arrHeap xH.1.1 xH.1.2.created) ⟨1, i⟩) :=
  List.map_congr_left fun i _ =>
    (array_history_healthy idCodec idCodec_roundTrip T0 legal 1 0 (by decide) hist hist_ok).2.2.2 ⟨1, i⟩ rfl

example :
    (AList.keys (arrHeap xH2.1.1 xH2.1.2.created)).Nodup ∧
    Healthy (arrHeap xH2.1.1 xH2.1.2.created) (rootsOf (arrHeap xH2.1.1 xH2.1.2.created)) ∧
    xH2.1.1.rootID ∈ rootsOf (arrHeap xH2.1.1 xH2.1.2.created) ∧
    (∀ id, id.addr = 1 → (xH2.2.view idCodec id).map (SSlab.toH id)
      = AList.find? (arrHeap xH2.1.1 xH2.1.2.created) id) := by
  unfold xH2
  exact array_history_healthy idCodec idCodec_roundTrip T0 legal 1 0 (by decide) hist2 hist2_ok

/-- the large-value slab 5 is still stored, nobody refers to it: a second root -/
example : arrHeap xH2.1.1 xH2.1.2.created =
    [(⟨1, 1⟩, ⟨⟨1, 1⟩, [⟨1, 2⟩, ⟨1, 3⟩]⟩), (⟨1, 2⟩, ⟨⟨1, 2⟩, []⟩), (⟨1, 3⟩, ⟨⟨1, 3⟩, []⟩),
     (⟨1, 5⟩, ⟨⟨1, 5⟩, []⟩)] := xH_heap.2
example : Health.check (arrHeap xH2.1.1 xH2.1.2.created) (some 2) = .ok [⟨1, 5⟩, ⟨1, 1⟩] := by
  rw [xH_heap.2]; decide +kernel
example : Health.check (arrHeap xH2.1.1 xH2.1.2.created) (some 1) = .error .rootCount := by
  rw [xH_heap.2]; decide +kernel
example : rootsOf (arrHeap xH2.1.1 xH2.1.2.created) = [⟨1, 1⟩, ⟨1, 5⟩] := by
  rw [xH_heap.2]; decide +kernel
example : ∀ id, id ∈ rootsOf (arrHeap xH2.1.1 xH2.1.2.created) ↔
    (id = ⟨1, 1⟩ ∨ (id ∈ xH2.1.2.created.map (·.1) ∧ id ∉ elemRefs xH2.1.1.toList)) := by
  unfold xH2
  exact array_history_roots idCodec idCodec_roundTrip T0 legal 1 0 (by decide) hist2 hist2_ok

end NonVacuity

end Atree.E2E

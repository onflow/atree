import AtreeProofs.Health.Climb
/-
  C20 helper lemmas: `Reach`, the parent map (`IsParentMap`, what `scan` returns: `scan_result`),
  consequences of `Healthy`, and soundness / completeness of `Health.check` (`check_ok_iff`, `check_sound`,
  `check_complete`).
-/
namespace Atree
namespace Health

theorem Reach.trans {h : Heap} {a b c : SlabID} (h1 : Reach h a b) (h2 : Reach h b c) :
    Reach h a c := by
  induction h2 with
  | refl => exact h1
  | step _ he ih => exact Reach.step ih he

theorem Reach.head {h : Heap} {a b c : SlabID} (he : (a, b) ∈ edges h) (h2 : Reach h b c) :
    Reach h a c :=
  Reach.trans (Reach.step (Reach.refl a) he) h2

theorem Reach.cases_head {h : Heap} {a c : SlabID} (h1 : Reach h a c) :
    a = c ∨ ∃ b, (a, b) ∈ edges h ∧ Reach h b c := by
  induction h1 with
  | refl => exact Or.inl rfl
  | @step b c _ he ih =>
    rcases ih with rfl | ⟨b', he', hr⟩
    · exact Or.inr ⟨c, he, Reach.refl c⟩
    · exact Or.inr ⟨b', he', Reach.step hr he⟩

def IsParentMap (h : Heap) (po : AList SlabID SlabID) : Prop :=
  ∀ c p, AList.find? po c = some p ↔ (p, c) ∈ edges h

theorem IsParentMap.none_iff {h : Heap} {po : AList SlabID SlabID} (hpo : IsParentMap h po)
    (c : SlabID) : AList.find? po c = none ↔ c ∉ targets h := by
  rw [mem_targets]
  constructor
  · rintro hn ⟨p, he⟩
    rw [(hpo c p).mpr he] at hn
    cases hn
  · intro hn
    cases hf : AList.find? po c with
    | none => rfl
    | some p => exact absurd ⟨p, (hpo c p).mp hf⟩ hn

theorem Chain.reach {h : Heap} {po : AList SlabID SlabID} (hpo : IsParentMap h po)
    {x r : SlabID} {l : List SlabID} (hc : Chain h po x l r) : Reach h r x := by
  induction hc with
  | root _ => exact Reach.refl _
  | step hx _ _ _ _ ih => exact Reach.step ih ((hpo _ _).mp hx)

theorem check_of_scan_error (h : Heap) (e : Option Nat) (k : HErr) (hs : scan h [] [] = .error k) :
    check h e = .error k := by
  simp [check, hs]

theorem check_of_unresolved (h : Heap) (e : Option Nat) (po : AList SlabID SlabID) (lv : List SlabID)
    (hs : scan h [] [] = .ok (po, lv)) (hr : allResolve h po = false) :
    check h e = .error .slabNotFound := by
  simp [check, hs, hr]

theorem check_of_climb_error (h : Heap) (e : Option Nat) (po : AList SlabID SlabID)
    (lv : List SlabID) (k : HErr) (hs : scan h [] [] = .ok (po, lv)) (hr : allResolve h po = true)
    (hc : climbAll h po lv [] [] = .error k) : check h e = .error k := by
  simp [check, hs, hr, hc]

theorem check_of_climb_ok (h : Heap) (e : Option Nat) (po : AList SlabID SlabID) (lv v r : List SlabID)
    (hs : scan h [] [] = .ok (po, lv)) (hr : allResolve h po = true)
    (hc : climbAll h po lv [] [] = .ok (v, r)) :
    check h e =
      if v.length ≠ h.length then .error .unreachable
      else match e with
        | some n => if r.length ≠ n then .error .rootCount else .ok r
        | none => .ok r := by
  unfold check
  rw [hs]
  simp only [hr, Bool.not_true, Bool.false_eq_true, if_false, hc]
  rfl

theorem check_ok_iff (h : Heap) (expected : Option Nat) (R : List SlabID) :
    check h expected = .ok R ↔
      ∃ po leaves visited, scan h [] [] = .ok (po, leaves) ∧ allResolve h po = true ∧
        climbAll h po leaves [] [] = .ok (visited, R) ∧ visited.length = h.length ∧
        ∀ n, expected = some n → R.length = n := by
  cases hs : scan h [] [] with
  | error k =>
    rw [check_of_scan_error h expected k hs]
    exact ⟨fun hh => (by cases hh), fun ⟨_, _, _, h1, _⟩ => by cases h1⟩
  | ok pl =>
    obtain ⟨po, lv⟩ := pl
    cases hr : allResolve h po with
    | false =>
      rw [check_of_unresolved h expected po lv hs hr]
      refine ⟨fun hh => (by cases hh), ?_⟩
      rintro ⟨_, _, _, h1, h2, _⟩
      cases h1; rw [hr] at h2; cases h2
    | true =>
      cases hc : climbAll h po lv [] [] with
      | error k =>
        rw [check_of_climb_error h expected po lv k hs hr hc]
        refine ⟨fun hh => (by cases hh), ?_⟩
        rintro ⟨_, _, _, h1, _, h3, _⟩
        cases h1; rw [hc] at h3; cases h3
      | ok vr =>
        obtain ⟨v, r⟩ := vr
        rw [check_of_climb_ok h expected po lv v r hs hr hc]
        constructor
        · intro hok
          by_cases hl : v.length ≠ h.length
          · rw [if_pos hl] at hok; cases hok
          · rw [if_neg hl] at hok
            cases expected with
            | none =>
              cases hok
              exact ⟨po, lv, v, rfl, hr, hc, Classical.not_not.mp hl, fun n hn => by cases hn⟩
            | some n =>
              by_cases hn : r.length ≠ n
              · simp only [if_pos hn] at hok; cases hok
              · simp only [if_neg hn] at hok
                cases hok
                exact ⟨po, lv, v, rfl, hr, hc, Classical.not_not.mp hl,
                  fun m hm => by cases hm; exact Classical.not_not.mp hn⟩
        · rintro ⟨_, _, _, h1, _, h3, h4, h5⟩
          cases h1; rw [hc] at h3; cases h3
          rw [if_neg (Classical.not_not.mpr h4)]
          cases expected with
          | none => rfl
          | some n => simp only [if_neg (Classical.not_not.mpr (h5 n rfl))]

/-- what the two loops establish, given that every slab was visited -/
theorem healthy_of_parts (h : Heap) (po : AList SlabID SlabID)
    (visited roots : List SlabID)
    (hnd : (targets h).Nodup) (hpo : IsParentMap h po)
    (hres : ∀ c p, AList.find? po c = some p → AList.contains h c = true)
    (hv : ∀ x, x ∈ visited ↔
      ∃ leaf ∈ leavesOf h, ∃ l r, Chain h po leaf l r ∧ (x = leaf ∨ x ∈ l))
    (hr : ∀ x, x ∈ roots ↔ ∃ leaf ∈ leavesOf h, ∃ l, Chain h po leaf l x)
    (hrn : roots.Nodup) (hall : ∀ x ∈ AList.keys h, x ∈ visited) :
    Healthy h roots := by
  -- every slab has its own chain, ending in a recorded root
  have hchain : ∀ x ∈ AList.keys h, ∃ l r, Chain h po x l r ∧ r ∈ roots := by
    intro x hx
    obtain ⟨leaf, hleaf, l, r, hc, hxl⟩ := (hv x).mp (hall x hx)
    obtain ⟨l2, hc2⟩ := hc.sub hxl
    exact ⟨l2, r, hc2, (hr r).mpr ⟨leaf, hleaf, l, hc⟩⟩
  refine ⟨?_, hnd, ?_, ?_, hrn, ?_⟩
  · rintro ⟨p, c⟩ he
    exact hres c p ((hpo c p).mpr he)
  · rintro ⟨p, c⟩ he ps cs hfp hfc
    have hck : c ∈ AList.keys h := by
      rw [← AList.find?_ne_none_iff]; simp only at hfc; rw [hfc]; simp
    obtain ⟨l, r, hc, _⟩ := hchain c hck
    have hpc := (hpo c p).mpr he
    cases hc with
    | root hx => rw [hpc] at hx; cases hx
    | step hx hfc' hfp' ho _ =>
      rw [hpc] at hx
      cases hx
      simp only at hfp hfc
      rw [hfc] at hfc'
      rw [hfp] at hfp'
      cases hfc'; cases hfp'
      exact ho.symm
  · intro id
    rw [hr id, targets_def, AList.contains_iff_mem_keys]
    constructor
    · rintro ⟨leaf, hleaf, l, hc⟩
      refine ⟨?_, (hpo.none_iff id).mp hc.root_none⟩
      rcases hc.end_mem with rfl | hm
      · exact leaf_mem_keys _ hleaf
      · exact hc.mem_keys _ hm
    · rintro ⟨hkey, hnt⟩
      obtain ⟨leaf, hleaf, l, r, hc, hxl⟩ := (hv id).mp (hall id hkey)
      obtain ⟨l2, hc2⟩ := hc.sub hxl
      have hnone := (hpo.none_iff id).mpr hnt
      cases hc2 with
      | root _ => exact ⟨leaf, hleaf, l, hc⟩
      | step hx _ _ _ _ => rw [hnone] at hx; cases hx
  · intro id hid
    obtain ⟨l, r, hc, hrm⟩ := hchain id ((AList.contains_iff_mem_keys h id).mp hid)
    exact ⟨r, hrm, hc.reach hpo⟩

/-- what the first loop returns: the parent map of the heap and its leaves (no slab has two parents) -/
theorem scan_result {h : Heap} {po : AList SlabID SlabID} {lv : List SlabID}
    (hs : scan h [] [] = .ok (po, lv)) : (targets h).Nodup ∧ IsParentMap h po ∧ lv = leavesOf h := by
  obtain ⟨hnd, _, hfind, hlv⟩ := scan_ok _ _ _ _ _ hs
  exact ⟨hnd, fun c p => by rw [hfind c p]; simp, by simpa using hlv⟩

/-- what the second loop returns when run over all leaves: the slabs on the parent chains of the
    leaves, and the ends of these chains -/
theorem climbAll_leaves {h : Heap} {po : AList SlabID SlabID} {visited roots : List SlabID}
    (hok : climbAll h po (leavesOf h) [] [] = .ok (visited, roots)) :
    (∀ x, x ∈ visited ↔ ∃ leaf ∈ leavesOf h, ∃ l r, Chain h po leaf l r ∧ (x = leaf ∨ x ∈ l)) ∧
    (∀ x, x ∈ roots ↔ ∃ leaf ∈ leavesOf h, ∃ l, Chain h po leaf l x) ∧
    visited.Nodup ∧ roots.Nodup ∧ visited ⊆ AList.keys h := by
  obtain ⟨hv, hr, hvn, hrn⟩ := climbAll_sound _ _ _ _ _ hok
  simp only [List.not_mem_nil, false_or] at hv hr
  refine ⟨hv, hr, hvn List.nodup_nil, hrn List.nodup_nil, fun x hx => ?_⟩
  obtain ⟨leaf, hleaf, l, r, hc, hxl⟩ := (hv x).mp hx
  rcases hxl with rfl | hm
  · exact leaf_mem_keys _ hleaf
  · exact hc.mem_keys _ hm

theorem check_sound (h : Heap) (expected : Option Nat)
    (R : List SlabID) (hok : check h expected = .ok R) :
    Healthy h R ∧ (∀ n, expected = some n → R.length = n) := by
  obtain ⟨po, leaves, visited, hscan, hres, hclimb, hlen, hexp⟩ :=
    (check_ok_iff h expected R).mp hok
  refine ⟨?_, hexp⟩
  obtain ⟨hnd, hpo, rfl⟩ := scan_result hscan
  obtain ⟨hv, hr, hvn, hrn, hsub⟩ := climbAll_leaves hclimb
  have hall : AList.keys h ⊆ visited :=
    subset_of_nodup_length_le hvn hsub (by simp [AList.keys, hlen])
  exact healthy_of_parts h po visited R hnd hpo ((allResolve_iff h po).mp hres) hv hr
    hrn (fun x hx => hall hx)

section HealthyFacts
variable {h : Heap} {R : List SlabID} {po : AList SlabID SlabID}

theorem chain_step_of_edge (hh : Healthy h R) (hpo : IsParentMap h po) {b c r : SlabID}
    {l : List SlabID} (he : (b, c) ∈ edges h) (hc : Chain h po b l r) :
    Chain h po c (b :: l) r := by
  obtain ⟨cs, hfc⟩ := (AList.contains_iff_find h c).mp (hh.resolves _ he)
  have hbk : AList.contains h b = true :=
    (AList.contains_iff_mem_keys h b).mpr (source_mem_keys h b c he)
  obtain ⟨bs, hfb⟩ := (AList.contains_iff_find h b).mp hbk
  exact Chain.step ((hpo c b).mpr he) hfc hfb (hh.owner _ he bs cs hfb hfc).symm hc

theorem root_no_parent (hh : Healthy h R) (hpo : IsParentMap h po) {r : SlabID} (hr : r ∈ R) :
    AList.find? po r = none :=
  (hpo.none_iff r).mpr ((hh.roots_iff r).mp hr).2

theorem chain_of_reach (hh : Healthy h R) (hpo : IsParentMap h po) {r x : SlabID}
    (hr : AList.find? po r = none) (hreach : Reach h r x) : ∃ l, Chain h po x l r := by
  induction hreach with
  | refl => exact ⟨[], Chain.root hr⟩
  | step _ he ih =>
    obtain ⟨l, hc⟩ := ih
    exact ⟨_, chain_step_of_edge hh hpo he hc⟩

theorem chain_exists (hh : Healthy h R) (hpo : IsParentMap h po) {x : SlabID}
    (hx : x ∈ AList.keys h) : ∃ l r, Chain h po x l r ∧ r ∈ R := by
  obtain ⟨r, hr, hreach⟩ := hh.reach x ((AList.contains_iff_mem_keys h x).mpr hx)
  obtain ⟨l, hc⟩ := chain_of_reach hh hpo (root_no_parent hh hpo hr) hreach
  exact ⟨l, r, hc, hr⟩

/-- reaching `b` from `a` extends the chain of `a` -/
theorem chain_extend_of_reach (hh : Healthy h R) (hpo : IsParentMap h po) {a b r : SlabID}
    {la : List SlabID} (hc : Chain h po a la r) (hreach : Reach h a b) :
    ∃ l', Chain h po b (l' ++ la) r := by
  induction hreach with
  | refl => exact ⟨[], hc⟩
  | @step b c _ he ih =>
    obtain ⟨l', hc'⟩ := ih
    exact ⟨b :: l', chain_step_of_edge hh hpo he hc'⟩

/-- walking down along references from any slab ends in a leaf: every slab is on the chain of
    some leaf -/
theorem on_leaf_chain (hh : Healthy h R) (hpo : IsParentMap h po) {x r : SlabID} {l : List SlabID}
    (hc : Chain h po x l r) (hx : x ∈ AList.keys h) :
    ∃ leaf ∈ leavesOf h, ∃ l' r', Chain h po leaf l' r' ∧ (x = leaf ∨ x ∈ l') := by
  -- every step down makes the chain one longer, and a chain is shorter than the heap (`Chain.length_lt`):
  -- induction on a bound `k` of `h.length - l.length`
  suffices key : ∀ (k : Nat) (x r : SlabID) (l : List SlabID), Chain h po x l r → x ∈ AList.keys h →
      h.length - l.length ≤ k →
      ∃ leaf ∈ leavesOf h, ∃ l' r', Chain h po leaf l' r' ∧ (x = leaf ∨ x ∈ l') from
    key _ x r l hc hx (Nat.le_refl _)
  clear hc hx
  intro k
  induction k with
  | zero =>
    intro x r l hc hx hlen
    have := hc.length_lt hx
    omega
  | succ k ih =>
    intro x r l hc hx hlen
    obtain ⟨⟨x', s⟩, hm, hx'⟩ := List.mem_map.mp hx
    simp only at hx'
    subst hx'
    cases hrefs : s.refs with
    | nil =>
      exact ⟨x', (mem_leavesOf h x').mpr ⟨s, hm, hrefs⟩, l, r, hc, Or.inl rfl⟩
    | cons c cs =>
      have he : (x', c) ∈ edges h := (mem_edges h x' c).mpr ⟨s, hm, by simp [hrefs]⟩
      have hc' := chain_step_of_edge hh hpo he hc
      have hck : c ∈ AList.keys h := (AList.contains_iff_mem_keys h c).mp (hh.resolves _ he)
      obtain ⟨leaf, hleaf, l', r', hcl, hmem⟩ := ih c r (x' :: l) hc' hck (by simp; omega)
      refine ⟨leaf, hleaf, l', r', hcl, Or.inr ?_⟩
      rcases hmem with rfl | hmem
      · obtain ⟨rfl, _⟩ := hcl.det hc'
        exact List.mem_cons_self ..
      · obtain ⟨l1, l2, rfl, hc2⟩ := hcl.suffix hmem
        obtain ⟨rfl, _⟩ := hc2.det hc'
        simp

theorem leaf_not_parent (hk : (AList.keys h).Nodup) (hpo : IsParentMap h po) {leaf : SlabID}
    (hl : leaf ∈ leavesOf h) (c : SlabID) : AList.find? po c ≠ some leaf := by
  intro hf
  obtain ⟨s', hm', hc⟩ := (mem_edges h leaf c).mp ((hpo c leaf).mp hf)
  obtain ⟨s, hm, hs⟩ := (mem_leavesOf h leaf).mp hl
  have h1 := (AList.mem_iff_find? h hk leaf s).mp hm
  have h2 := (AList.mem_iff_find? h hk leaf s').mp hm'
  rw [h1] at h2
  cases h2
  rw [hs] at hc
  cases hc

end HealthyFacts

/-- the expected root count is only compared with the number of roots found -/
theorem check_ok_expected {h : Heap} {e : Option Nat} {R : List SlabID} (hok : check h e = .ok R)
    (e' : Option Nat) (hn : ∀ n, e' = some n → R.length = n) : check h e' = .ok R := by
  obtain ⟨po, leaves, visited, h1, h2, h3, h4, _⟩ := (check_ok_iff h e R).mp hok
  exact (check_ok_iff h e' R).mpr ⟨po, leaves, visited, h1, h2, h3, h4, hn⟩

theorem check_complete_none (h : Heap) (hk : (AList.keys h).Nodup) (R : List SlabID)
    (hh : Healthy h R) : ∃ R', check h none = .ok R' := by
  obtain ⟨po, lv, hscan⟩ := scan_succeeds h [] [] hh.single (by intro t _; rfl)
  obtain ⟨_, hpo, rfl⟩ := scan_result hscan
  obtain ⟨visited, roots, hclimb⟩ := climbAll_succeeds (h := h) (po := po) (leavesOf h) [] []
    (leavesOf_nodup h hk) (by intro _ _ hm; cases hm)
    (fun leaf hl c => leaf_not_parent hk hpo hl c)
    (by
      intro leaf hl
      obtain ⟨l, r, hc, _⟩ := chain_exists hh hpo (leaf_mem_keys leaf hl)
      exact ⟨l, r, hc, Nat.le_of_lt (hc.length_lt (leaf_mem_keys leaf hl))⟩)
  obtain ⟨hv, _, hvn, _, hsub⟩ := climbAll_leaves hclimb
  have hall : AList.keys h ⊆ visited := by
    intro x hx
    obtain ⟨l, r, hc, _⟩ := chain_exists hh hpo hx
    exact (hv x).mpr (on_leaf_chain hh hpo hc hx)
  have hlen : visited.length = h.length := by
    have h1 := hvn.length_le_of_subset hsub
    have h2 := hk.length_le_of_subset hall
    simp [AList.keys] at h1 h2
    omega
  refine ⟨roots, (check_ok_iff h none roots).mpr ⟨po, leavesOf h, visited, hscan, ?_, hclimb, hlen,
    by intro n hn; cases hn⟩⟩
  rw [allResolve_iff]
  intro c p hf
  exact hh.resolves _ ((hpo c p).mp hf)

theorem healthy_roots_unique {h : Heap} {R R' : List SlabID} (h1 : Healthy h R)
    (h2 : Healthy h R') : (∀ id, id ∈ R' ↔ id ∈ R) ∧ R'.length = R.length := by
  have hm : ∀ id, id ∈ R' ↔ id ∈ R := fun id => by rw [h1.roots_iff, h2.roots_iff]
  exact ⟨hm, ((List.perm_ext_iff_of_nodup h2.roots_nodup h1.roots_nodup).mpr hm).length_eq⟩

theorem check_complete (h : Heap) (hk : (AList.keys h).Nodup) (R : List SlabID)
    (hh : Healthy h R) (expected : Option Nat) (hn : ∀ n, expected = some n → R.length = n) :
    ∃ R', check h expected = .ok R' ∧ (∀ id, id ∈ R' ↔ id ∈ R) ∧ R'.length = R.length := by
  obtain ⟨R', hok⟩ := check_complete_none h hk R hh
  have hh' := (check_sound h none R' hok).1
  obtain ⟨hm, hlen⟩ := healthy_roots_unique hh hh'
  exact ⟨R', check_ok_expected hok expected fun n hn' => by rw [hlen]; exact hn n hn', hm, hlen⟩

/-- decidable equality of check results, for `decide` on concrete heaps -/
instance decEqCheckResult {α : Type} [DecidableEq α] : DecidableEq (Except HErr α)
  | .ok a, .ok b =>
    if hab : a = b then isTrue (by rw [hab]) else isFalse (by intro e; cases e; exact hab rfl)
  | .error a, .error b =>
    if hab : a = b then isTrue (by rw [hab]) else isFalse (by intro e; cases e; exact hab rfl)
  | .ok _, .error _ => isFalse (by intro e; cases e)
  | .error _, .ok _ => isFalse (by intro e; cases e)

end Health
end Atree

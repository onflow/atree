import AtreeProofs.Health.Scan
/-
  C20 helper lemmas: parent chains and the exact behaviour of the second loop of the
  health check (`climb`, `climbAll`).
-/
namespace Atree
namespace Health

theorem mem_setInsert (l : List SlabID) (a x : SlabID) : x ∈ setInsert l a ↔ x = a ∨ x ∈ l := by
  unfold setInsert
  split
  · rename_i hc
    have : a ∈ l := by simpa using hc
    constructor
    · exact Or.inr
    · rintro (rfl | hx)
      · exact this
      · exact hx
  · simp

theorem nodup_setInsert (l : List SlabID) (a : SlabID) (hl : l.Nodup) : (setInsert l a).Nodup := by
  unfold setInsert
  split
  · exact hl
  · rename_i hc
    have : a ∉ l := by simpa using hc
    exact List.nodup_cons.mpr ⟨this, hl⟩

theorem mem_foldl_setInsert (l v : List SlabID) (x : SlabID) :
    x ∈ l.foldl setInsert v ↔ x ∈ v ∨ x ∈ l := by
  induction l generalizing v with
  | nil => simp
  | cons a t ih =>
    rw [List.foldl_cons, ih, mem_setInsert, List.mem_cons]
    constructor
    · rintro ((h | h) | h)
      · exact Or.inr (Or.inl h)
      · exact Or.inl h
      · exact Or.inr (Or.inr h)
    · rintro (h | h | h)
      · exact Or.inl (Or.inr h)
      · exact Or.inl (Or.inl h)
      · exact Or.inr h

theorem nodup_foldl_setInsert (l v : List SlabID) (hv : v.Nodup) :
    (l.foldl setInsert v).Nodup := by
  induction l generalizing v with
  | nil => exact hv
  | cons a t ih => exact ih _ (nodup_setInsert v a hv)

/-- `Chain h po x l r`: following `po` upwards from `x` visits exactly the slabs `l` (in order) and
    ends at `r`, which has no parent; every step passes the checks made by `climb`. -/
inductive Chain (h : Heap) (po : AList SlabID SlabID) : SlabID → List SlabID → SlabID → Prop where
  | root {x : SlabID} : AList.find? po x = none → Chain h po x [] x
  | step {x p r : SlabID} {l : List SlabID} {c ps : HSlab} :
      AList.find? po x = some p → AList.find? h x = some c → AList.find? h p = some ps →
      c.self.addr = ps.self.addr → Chain h po p l r → Chain h po x (p :: l) r

variable {h : Heap} {po : AList SlabID SlabID}

theorem Chain.det {x r r' : SlabID} {l l' : List SlabID} (h1 : Chain h po x l r)
    (h2 : Chain h po x l' r') : l = l' ∧ r = r' := by
  induction h1 generalizing l' r' with
  | root hx =>
    cases h2 with
    | root _ => exact ⟨rfl, rfl⟩
    | step hx' _ _ _ _ => rw [hx] at hx'; cases hx'
  | step hx _ _ _ _ ih =>
    cases h2 with
    | root hx' => rw [hx] at hx'; cases hx'
    | step hx' _ _ _ hc' =>
      rw [hx] at hx'
      cases hx'
      obtain ⟨rfl, rfl⟩ := ih hc'
      exact ⟨rfl, rfl⟩

theorem Chain.root_none {x r : SlabID} {l : List SlabID} (h1 : Chain h po x l r) :
    AList.find? po r = none := by
  induction h1 with
  | root hx => exact hx
  | step _ _ _ _ _ ih => exact ih

theorem Chain.suffix {x r y : SlabID} {l : List SlabID} (h1 : Chain h po x l r) (hy : y ∈ l) :
    ∃ l1 l2, l = l1 ++ y :: l2 ∧ Chain h po y l2 r := by
  induction h1 with
  | root _ => cases hy
  | @step x p r l c ps hx hc hp ho hch ih =>
    rcases List.mem_cons.mp hy with rfl | hy'
    · exact ⟨[], l, rfl, hch⟩
    · obtain ⟨l1, l2, rfl, h2⟩ := ih hy'
      exact ⟨p :: l1, l2, rfl, h2⟩

theorem Chain.not_mem {x r : SlabID} {l : List SlabID} (h1 : Chain h po x l r) : x ∉ l := by
  intro hx
  obtain ⟨l1, l2, hl, h2⟩ := h1.suffix hx
  have := (h1.det h2).1
  rw [this] at hl
  have := congrArg List.length hl
  simp at this
  omega

theorem Chain.nodup {x r : SlabID} {l : List SlabID} (h1 : Chain h po x l r) :
    (x :: l).Nodup := by
  induction h1 with
  | root _ => simp
  | step hx hc hp ho hch ih =>
    exact List.nodup_cons.mpr ⟨(Chain.step hx hc hp ho hch).not_mem, ih⟩

theorem Chain.mem_keys {x r : SlabID} {l : List SlabID} (h1 : Chain h po x l r) :
    ∀ y ∈ l, y ∈ AList.keys h := by
  induction h1 with
  | root _ => intro y hy; cases hy
  | step hx hc hp ho hch ih =>
    intro y hy
    rcases List.mem_cons.mp hy with rfl | hy'
    · rw [← AList.find?_ne_none_iff, hp]; simp
    · exact ih y hy'

theorem Chain.is_parent {x r : SlabID} {l : List SlabID} (h1 : Chain h po x l r) :
    ∀ y ∈ l, ∃ c, AList.find? po c = some y := by
  induction h1 with
  | root _ => intro y hy; cases hy
  | @step x p r l c ps hx hc hp ho hch ih =>
    intro y hy
    rcases List.mem_cons.mp hy with rfl | hy'
    · exact ⟨x, hx⟩
    · exact ih y hy'

theorem Chain.end_mem {x r : SlabID} {l : List SlabID} (h1 : Chain h po x l r) :
    r = x ∨ r ∈ l := by
  induction h1 with
  | root _ => exact Or.inl rfl
  | step hx hc hp ho hch ih =>
    rcases ih with rfl | hm
    · exact Or.inr (List.mem_cons_self ..)
    · exact Or.inr (List.mem_cons_of_mem _ hm)

/-- every slab on a chain has its own chain to the same end -/
theorem Chain.sub {x r y : SlabID} {l : List SlabID} (h1 : Chain h po x l r)
    (hy : y = x ∨ y ∈ l) : ∃ l2, Chain h po y l2 r := by
  rcases hy with rfl | hy
  · exact ⟨l, h1⟩
  · obtain ⟨l1, l2, rfl, h2⟩ := h1.suffix hy
    exact ⟨l2, h2⟩

/-- a chain is shorter than the heap -/
theorem Chain.length_lt {x r : SlabID} {l : List SlabID} (h1 : Chain h po x l r)
    (hx : x ∈ AList.keys h) : l.length < h.length := by
  have hsub : (x :: l) ⊆ AList.keys h := by
    intro y hy
    rcases List.mem_cons.mp hy with rfl | hy'
    · exact hx
    · exact h1.mem_keys y hy'
  have := h1.nodup.length_le_of_subset hsub
  simp [AList.keys] at this
  omega

theorem climb_sound (fuel : Nat) (x : SlabID) (v rts v' r' : List SlabID)
    (hok : climb h po fuel x v rts = .ok (v', r')) :
    ∃ l r, Chain h po x l r ∧ l.length < fuel ∧ v' = l.foldl setInsert v ∧
      r' = setInsert rts r := by
  induction fuel generalizing x v with
  | zero => simp [climb] at hok
  | succ fuel ih =>
    rw [climb] at hok
    split at hok
    · rename_i hpx
      simp only [Except.ok.injEq, Prod.mk.injEq] at hok
      exact ⟨[], x, Chain.root hpx, by simp, by simp [hok.1], hok.2.symm⟩
    · rename_i p hpx
      split at hok
      · rename_i c ps hc hp
        split at hok
        · cases hok
        · rename_i hown
          have hown' : c.self.addr = ps.self.addr := by simpa using hown
          obtain ⟨l, r, hch, hlen, hv, hr⟩ := ih _ _ hok
          exact ⟨p :: l, r, Chain.step hpx hc hp hown' hch, by simp; omega, by simpa using hv, hr⟩
      · cases hok

theorem climb_complete {x r : SlabID} {l : List SlabID} (hch : Chain h po x l r) (fuel : Nat)
    (hf : l.length < fuel) (v rts : List SlabID) :
    climb h po fuel x v rts = .ok (l.foldl setInsert v, setInsert rts r) := by
  induction hch generalizing fuel v with
  | root hx =>
    cases fuel with
    | zero => simp at hf
    | succ fuel => simp [climb, hx]
  | @step x p r l c ps hx hc hp ho hch ih =>
    cases fuel with
    | zero => simp at hf
    | succ fuel =>
      have := ih fuel (by simp at hf; omega) (setInsert v p)
      simp [climb, hx, hc, hp, ho, this]

theorem climbAll_sound (lv v rts v' r' : List SlabID)
    (hok : climbAll h po lv v rts = .ok (v', r')) :
    (∀ x, x ∈ v' ↔ x ∈ v ∨ ∃ leaf ∈ lv, ∃ l r, Chain h po leaf l r ∧ (x = leaf ∨ x ∈ l)) ∧
    (∀ x, x ∈ r' ↔ x ∈ rts ∨ ∃ leaf ∈ lv, ∃ l, Chain h po leaf l x) ∧
    (v.Nodup → v'.Nodup) ∧ (rts.Nodup → r'.Nodup) := by
  induction lv generalizing v rts with
  | nil =>
    simp only [climbAll, Except.ok.injEq, Prod.mk.injEq] at hok
    obtain ⟨rfl, rfl⟩ := hok
    simp
  | cons leaf rest ih =>
    rw [climbAll] at hok
    split at hok
    · cases hok
    · rename_i hnc
      have hnv : leaf ∉ v := by simpa using hnc
      split at hok
      · cases hok
      · rename_i v1 r1 hcl
        obtain ⟨l, r, hch, _, rfl, rfl⟩ := climb_sound _ _ _ _ _ _ hcl
        obtain ⟨hv, hr, hvn, hrn⟩ := ih _ _ hok
        refine ⟨?_, ?_, ?_, ?_⟩
        · intro x
          rw [hv x, mem_foldl_setInsert, List.mem_cons]
          constructor
          · rintro (((h1 | h1) | h1) | h1)
            · exact Or.inr ⟨leaf, List.mem_cons_self .., l, r, hch, Or.inl h1⟩
            · exact Or.inl h1
            · exact Or.inr ⟨leaf, List.mem_cons_self .., l, r, hch, Or.inr h1⟩
            · obtain ⟨lf, hlf, rest'⟩ := h1
              exact Or.inr ⟨lf, List.mem_cons_of_mem _ hlf, rest'⟩
          · rintro (h1 | ⟨lf, hlf, l', r'', hch', hx⟩)
            · exact Or.inl (Or.inl (Or.inr h1))
            · rcases List.mem_cons.mp hlf with rfl | hlf'
              · obtain ⟨rfl, rfl⟩ := hch.det hch'
                rcases hx with hx | hx
                · exact Or.inl (Or.inl (Or.inl hx))
                · exact Or.inl (Or.inr hx)
              · exact Or.inr ⟨lf, hlf', l', r'', hch', hx⟩
        · intro x
          rw [hr x, mem_setInsert]
          constructor
          · rintro ((h1 | h1) | ⟨lf, hlf, rest'⟩)
            · subst h1
              exact Or.inr ⟨leaf, List.mem_cons_self .., l, hch⟩
            · exact Or.inl h1
            · exact Or.inr ⟨lf, List.mem_cons_of_mem _ hlf, rest'⟩
          · rintro (h1 | ⟨lf, hlf, l', hch'⟩)
            · exact Or.inl (Or.inr h1)
            · rcases List.mem_cons.mp hlf with rfl | hlf'
              · exact Or.inl (Or.inl (hch.det hch').2.symm)
              · exact Or.inr ⟨lf, hlf', l', hch'⟩
        · intro hvnd
          exact hvn (nodup_foldl_setInsert _ _ (List.nodup_cons.mpr ⟨hnv, hvnd⟩))
        · intro hrnd
          exact hrn (nodup_setInsert _ _ hrnd)

/-- after the climb from `leaf` the leaves still to come are still unvisited: none of them is `leaf`,
    was visited before, or is a parent -/
theorem Chain.rest_unvisited {leaf r : SlabID} {l rest v : List SlabID} (hc : Chain h po leaf l r)
    (hleaf : leaf ∉ rest) (hnv : ∀ lf ∈ rest, lf ∉ v)
    (hnp : ∀ lf ∈ rest, ∀ c, AList.find? po c ≠ some lf) :
    ∀ lf ∈ rest, lf ∉ l.foldl setInsert (leaf :: v) := by
  intro lf hlf hmem
  rw [mem_foldl_setInsert, List.mem_cons] at hmem
  rcases hmem with (h1 | h1) | h1
  · exact hleaf (h1 ▸ hlf)
  · exact hnv lf hlf h1
  · obtain ⟨c, hc'⟩ := hc.is_parent lf h1
    exact hnp lf hlf c hc'

theorem climbAll_succeeds (lv v rts : List SlabID) (hnd : lv.Nodup)
    (hnv : ∀ leaf ∈ lv, leaf ∉ v)
    (hnp : ∀ leaf ∈ lv, ∀ c, AList.find? po c ≠ some leaf)
    (hch : ∀ leaf ∈ lv, ∃ l r, Chain h po leaf l r ∧ l.length ≤ h.length) :
    ∃ v' r', climbAll h po lv v rts = .ok (v', r') := by
  induction lv generalizing v rts with
  | nil => exact ⟨v, rts, rfl⟩
  | cons leaf rest ih =>
    rw [List.nodup_cons] at hnd
    obtain ⟨l, r, hc, hlen⟩ := hch leaf (List.mem_cons_self ..)
    have hcl := climb_complete hc (h.length + 1) (by omega) (leaf :: v) rts
    have hnc : v.contains leaf = false := by
      have := hnv leaf (List.mem_cons_self ..)
      simpa using this
    rw [climbAll]
    simp only [hnc, Bool.false_eq_true, if_false, hcl]
    apply ih _ _ hnd.2
    · exact hc.rest_unvisited hnd.1 (fun lf hlf => hnv lf (List.mem_cons_of_mem _ hlf))
        fun lf hlf => hnp lf (List.mem_cons_of_mem _ hlf)
    · intro lf hlf
      exact hnp lf (List.mem_cons_of_mem _ hlf)
    · intro lf hlf
      exact hch lf (List.mem_cons_of_mem _ hlf)

end Health
end Atree

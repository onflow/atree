import AtreeProofs.Health.Check
/-
  C20 helper lemmas: facts about corrupted heaps (a slab erased, a slab added).
-/
namespace Atree
namespace Health

theorem mem_edges_erase (h : Heap) (id p c : SlabID) (he : (p, c) ∈ edges h) (hne : p ≠ id) :
    (p, c) ∈ edges (AList.erase h id) := by
  obtain ⟨s, hm, hc⟩ := (mem_edges h p c).mp he
  refine (mem_edges _ p c).mpr ⟨s, ?_, hc⟩
  unfold AList.erase
  rw [List.mem_filter]
  exact ⟨hm, by simpa using hne⟩

theorem no_self_loop {h : Heap} {R : List SlabID} (hh : Healthy h R) (x : SlabID) :
    (x, x) ∉ edges h := by
  intro he
  have hx : AList.contains h x = true := hh.resolves _ he
  obtain ⟨r, hr, hreach⟩ := hh.reach x hx
  have key : ∀ y, Reach h r y → y = x → r = x := by
    intro y hy
    induction hy with
    | refl => exact id
    | @step b c _ hbc ih =>
      rintro rfl
      exact ih (parent_unique h hh.single hbc he)
  have := key x hreach rfl
  subst this
  exact ((hh.roots_iff r).mp hr).2 ((mem_targets h r).mpr ⟨r, he⟩)

end Health
end Atree

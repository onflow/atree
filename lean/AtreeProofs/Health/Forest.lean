import AtreeProofs.Health.Scan
/-
  C20 helper lemmas: how to ESTABLISH `Healthy` for a heap given as a forest.

  `healthy_of_ranked`: a heap with unique keys in which every reference resolves, no slab is
  referenced twice, owners agree along references and some rank strictly increases along every
  reference (so there is no reference cycle) is healthy; its roots are the keys nobody references.

  `rootsOf h`: the keys nobody references.  `healthy_append`, `healthy_join`: the union of two / of any
  number of healthy heaps with disjoint keys is healthy (several independent containers in one storage).
-/
namespace Atree
namespace Health

/-- the keys nobody references, in heap order -/
def rootsOf (h : Heap) : List SlabID := (AList.keys h).filter (fun k => decide (k ∉ targets h))

theorem mem_rootsOf (h : Heap) (id : SlabID) :
    id ∈ rootsOf h ↔ (AList.contains h id = true ∧ id ∉ (edges h).map (·.2)) := by
  unfold rootsOf
  rw [List.mem_filter, AList.contains_iff_mem_keys, targets_def]
  simp

theorem healthy_of_ranked (h : Heap) (hk : (AList.keys h).Nodup)
    (hres : ∀ e ∈ edges h, AList.contains h e.2 = true)
    (hsingle : ((edges h).map (·.2)).Nodup)
    (howner : ∀ e ∈ edges h, ∀ p c, AList.find? h e.1 = some p → AList.find? h e.2 = some c →
      p.self.addr = c.self.addr)
    (rk : SlabID → Nat) (hrk : ∀ e ∈ edges h, rk e.1 < rk e.2) :
    Healthy h (rootsOf h) where
  resolves := hres
  single := hsingle
  owner := howner
  roots_iff := mem_rootsOf h
  roots_nodup := List.Nodup.sublist List.filter_sublist hk
  reach := by
    have key : ∀ n id, rk id = n → AList.contains h id = true → ∃ r ∈ rootsOf h, Reach h r id := by
      intro n
      induction n using Nat.strongRecOn with
      | _ n ih =>
        intro id hn hid
        by_cases ht : id ∈ targets h
        · obtain ⟨p, he⟩ := (mem_targets h id).mp ht
          have hp : AList.contains h p = true :=
            (AList.contains_iff_mem_keys h p).mpr (source_mem_keys h p id he)
          have hlt : rk p < n := by have := hrk _ he; simp only at this; omega
          obtain ⟨r, hr, hreach⟩ := ih (rk p) hlt p rfl hp
          exact ⟨r, hr, Reach.step hreach he⟩
        · exact ⟨id, (mem_rootsOf h id).mpr ⟨hid, ht⟩, Reach.refl id⟩
    intro id hid
    exact key (rk id) id rfl hid

theorem edges_append (h₁ h₂ : Heap) : edges (h₁ ++ h₂) = edges h₁ ++ edges h₂ := by
  simp [edges]

theorem targets_append (h₁ h₂ : Heap) : targets (h₁ ++ h₂) = targets h₁ ++ targets h₂ := by
  simp [targets, edges_append]

theorem Reach.mono {h h' : Heap} (hsub : ∀ e ∈ edges h, e ∈ edges h') {a b : SlabID}
    (hr : Reach h a b) : Reach h' a b := by
  induction hr with
  | refl => exact Reach.refl _
  | step _ he ih => exact Reach.step ih (hsub _ he)

/-- Two healthy heaps over disjoint sets of slab IDs form a healthy heap; its roots are the roots of
    both. -/
theorem healthy_append (h₁ h₂ : Heap) (R₁ R₂ : List SlabID) (hh₁ : Healthy h₁ R₁) (hh₂ : Healthy h₂ R₂)
    (hdisj : ∀ x, AList.contains h₁ x = true → AList.contains h₂ x = false) :
    Healthy (h₁ ++ h₂) (R₁ ++ R₂) := by
  have ht₁ : ∀ x, x ∈ targets h₁ → AList.contains h₁ x = true := by
    intro x hx
    obtain ⟨p, he⟩ := (mem_targets h₁ x).mp hx
    exact hh₁.resolves _ he
  have ht₂ : ∀ x, x ∈ targets h₂ → AList.contains h₂ x = true := by
    intro x hx
    obtain ⟨p, he⟩ := (mem_targets h₂ x).mp hx
    exact hh₂.resolves _ he
  have hsrc₁ : ∀ e ∈ edges h₁, AList.contains h₁ e.1 = true := fun e he =>
    (AList.contains_iff_mem_keys h₁ e.1).mpr (source_mem_keys h₁ e.1 e.2 he)
  have hsrc₂ : ∀ e ∈ edges h₂, AList.contains h₂ e.1 = true := fun e he =>
    (AList.contains_iff_mem_keys h₂ e.1).mpr (source_mem_keys h₂ e.1 e.2 he)
  have hno₂ : ∀ x, AList.contains h₂ x = true → AList.contains h₁ x = false := by
    intro x hx
    cases hc : AList.contains h₁ x with
    | false => rfl
    | true => rw [hdisj x hc] at hx; cases hx
  refine ⟨?_, ?_, ?_, ?_, ?_, ?_⟩
  · intro e he
    rw [edges_append, List.mem_append] at he
    rw [AList.contains_append]
    rcases he with he | he
    · exact Or.inl (hh₁.resolves e he)
    · exact Or.inr (hh₂.resolves e he)
  · rw [targets_def, targets_append, List.nodup_append]
    refine ⟨hh₁.targets_nodup, hh₂.targets_nodup, ?_⟩
    rintro a ha b hb rfl
    have := hdisj a (ht₁ a ha)
    rw [ht₂ a hb] at this
    cases this
  · intro e he p c hp hc
    rw [edges_append, List.mem_append] at he
    rcases he with he | he
    · obtain ⟨p', hp'⟩ := (AList.contains_iff_find h₁ e.1).mp (hsrc₁ e he)
      obtain ⟨c', hc'⟩ := (AList.contains_iff_find h₁ e.2).mp (hh₁.resolves e he)
      rw [AList.find?_append_of_some hp' h₂] at hp
      rw [AList.find?_append_of_some hc' h₂] at hc
      cases hp; cases hc
      exact hh₁.owner e he _ _ hp' hc'
    · rw [AList.find?_append_of_none (AList.find?_eq_none_of_contains (hno₂ _ (hsrc₂ e he))) h₂] at hp
      rw [AList.find?_append_of_none (AList.find?_eq_none_of_contains (hno₂ _ (hh₂.resolves e he))) h₂] at hc
      exact hh₂.owner e he _ _ hp hc
  · intro id
    rw [List.mem_append, hh₁.mem_roots, hh₂.mem_roots, AList.contains_append, targets_def, targets_append,
      List.mem_append]
    constructor
    · rintro (⟨h1, h2⟩ | ⟨h1, h2⟩)
      · refine ⟨Or.inl h1, ?_⟩
        rintro (h3 | h3)
        · exact h2 h3
        · have := hdisj id h1; rw [ht₂ id h3] at this; cases this
      · refine ⟨Or.inr h1, ?_⟩
        rintro (h3 | h3)
        · have := hdisj id (ht₁ id h3); rw [h1] at this; cases this
        · exact h2 h3
    · rintro ⟨h1 | h1, h2⟩
      · exact Or.inl ⟨h1, fun h3 => h2 (Or.inl h3)⟩
      · exact Or.inr ⟨h1, fun h3 => h2 (Or.inr h3)⟩
  · rw [List.nodup_append]
    refine ⟨hh₁.roots_nodup, hh₂.roots_nodup, ?_⟩
    rintro a ha b hb rfl
    have h1 := ((hh₁.roots_iff a).mp ha).1
    have h2 := ((hh₂.roots_iff a).mp hb).1
    rw [hdisj a h1] at h2
    cases h2
  · intro id hid
    rw [AList.contains_append] at hid
    rcases hid with hid | hid
    · obtain ⟨r, hr, hreach⟩ := hh₁.reach id hid
      exact ⟨r, List.mem_append_left _ hr,
        hreach.mono (fun e he => by rw [edges_append]; exact List.mem_append_left _ he)⟩
    · obtain ⟨r, hr, hreach⟩ := hh₂.reach id hid
      exact ⟨r, List.mem_append_right _ hr,
        hreach.mono (fun e he => by rw [edges_append]; exact List.mem_append_right _ he)⟩

theorem healthy_nil : Healthy ([] : Heap) [] where
  resolves := by intro e he; cases he
  single := List.nodup_nil
  owner := by intro e he; cases he
  roots_iff := by
    intro id
    constructor
    · intro h; cases h
    · rintro ⟨h, _⟩; cases h
  roots_nodup := List.nodup_nil
  reach := by intro id h; cases h

/-- Several independent containers: any number of healthy heaps over pairwise disjoint sets of slab
    IDs (e.g. containers at different addresses, or the trees of different root slabs) form a
    healthy heap; its roots are all their roots. -/
theorem healthy_join : ∀ (hs : List (Heap × List SlabID)),
    (∀ p ∈ hs, Healthy p.1 p.2) →
    hs.Pairwise (fun p q => ∀ x, AList.contains p.1 x = true → AList.contains q.1 x = false) →
    Healthy (hs.flatMap (·.1)) (hs.flatMap (·.2))
  | [], _, _ => healthy_nil
  | p :: rest, hall, hpw => by
    rw [List.pairwise_cons] at hpw
    have ih := healthy_join rest (fun q hq => hall q (List.mem_cons_of_mem _ hq)) hpw.2
    rw [List.flatMap_cons, List.flatMap_cons]
    refine healthy_append p.1 _ p.2 _ (hall p (List.mem_cons_self ..)) ih ?_
    intro x hx
    cases hc : AList.contains (rest.flatMap (·.1)) x with
    | false => rfl
    | true =>
      exfalso
      rw [AList.contains_iff_mem_keys] at hc
      obtain ⟨⟨k, s⟩, hm, hk⟩ := List.mem_map.mp hc
      obtain ⟨q, hq, hmq⟩ := List.mem_flatMap.mp hm
      have hcq : AList.contains q.1 x = true := by
        rw [AList.contains_iff_mem_keys]
        exact List.mem_map.mpr ⟨(k, s), hmq, hk⟩
      rw [hpw.1 q hq x hx] at hcq
      cases hcq

end Health
end Atree

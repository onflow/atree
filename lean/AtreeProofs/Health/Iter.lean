import AtreeProofs.Health.Scan
import AtreeProofs.Storage.Basic
/-
  C20 helper lemmas: `PersistentSlabStorage.SlabIterator` (`Health.slabIterator`) on the
  storage state machine, and `CheckStorageHealth` run on what it yields (`Health.checkStorage`).

  * `loadedLive s`  – the non-nil entries of the write set, then the non-nil entries of the cache
                      that the write set does not shadow;
  * `slabIterator_sound` (every state whose write set has distinct keys): whatever is yielded is the slab VISIBLE under that ID
    (`St.view`); in particular an ID whose entry in the write set or in the cache is nil (a pending
    or committed deletion) is never yielded, and it is never fetched from the ledger either: the
    iterator cannot notice a reference to a deleted slab, `CheckStorageHealth` has to
    (`allResolve`; DESIGN finding F1);
  * `slabIterator_allLoaded` (all slabs loaded): the iterator yields exactly `loadedLive s`, i.e.
    exactly the live slabs of the view, each once (`mem_loadedLive_iff_view`, `loadedLive_nodup`),
    provided every reference held by a live slab is loaded; otherwise it fails with
    `SlabNotFoundError` ("slab not found during slab iteration");
  * `checkYield_eq_check`, `checkStorage_allLoaded`: on such a storage `CheckStorageHealth` is
    `Health.check` on the heap of the live slabs; the `duplicate slab` test never fires.
-/
namespace Atree
namespace Health
-- `RefsLoaded` and `EntriesLoaded` are tested by `if` in statements only, never computed
open Classical

variable {σ β : Type}

/-- the non-nil entries of a write set / cache -/
def liveOf (m : AList SlabID (Option σ)) : List (SlabID × σ) :=
  m.filterMap (fun p => p.2.map (fun v => (p.1, v)))

/-- the cache entries the write set does not shadow -/
def unshadowed (s : St σ β) : AList SlabID (Option σ) :=
  s.cache.filter (fun p => !AList.contains s.deltas p.1)

/-- what the iterator takes from the write set and the cache -/
def loadedLive (s : St σ β) : List (SlabID × σ) := liveOf s.deltas ++ liveOf (unshadowed s)

/-- `id` is a key of the write set or of the cache (with whatever value, nil included) -/
def IsLoaded (s : St σ β) (id : SlabID) : Prop :=
  AList.contains s.deltas id = true ∨ AList.contains s.cache id = true

/-- "with all slabs loaded": every register of the ledger is a key of the cache or the write set -/
def AllLoaded (s : St σ β) : Prop := ∀ id, AList.contains s.base id = true → IsLoaded s id

/-- every reference held by a live loaded slab is loaded -/
def RefsLoaded (abs : SlabID → σ → HSlab) (s : St σ β) : Prop :=
  ∀ p ∈ loadedLive s, ∀ r ∈ (abs p.1 p.2).refs, IsLoaded s r

theorem liveOf_nil : liveOf ([] : AList SlabID (Option σ)) = [] := rfl

theorem liveOf_cons_none (id : SlabID) (m : AList SlabID (Option σ)) :
    liveOf ((id, none) :: m) = liveOf m := by simp [liveOf]

theorem liveOf_cons_some (id : SlabID) (v : σ) (m : AList SlabID (Option σ)) :
    liveOf ((id, some v) :: m) = (id, v) :: liveOf m := by simp [liveOf]

theorem mem_liveOf (m : AList SlabID (Option σ)) (id : SlabID) (v : σ) :
    (id, v) ∈ liveOf m ↔ (id, some v) ∈ m := by
  simp only [liveOf, List.mem_filterMap]
  constructor
  · rintro ⟨⟨k, o⟩, hm, ho⟩
    cases o with
    | none => simp at ho
    | some w =>
      simp only [Option.map_some, Option.some.injEq, Prod.mk.injEq] at ho
      obtain ⟨rfl, rfl⟩ := ho
      exact hm
  · intro hm
    exact ⟨(id, some v), hm, rfl⟩

theorem keys_liveOf_sublist (m : AList SlabID (Option σ)) :
    ((liveOf m).map (·.1)).Sublist (AList.keys m) := by
  induction m with
  | nil => exact List.Sublist.slnil
  | cons p rest ih =>
    obtain ⟨k, o⟩ := p
    cases o with
    | none => rw [liveOf_cons_none]; exact List.Sublist.cons _ ih
    | some v => rw [liveOf_cons_some]; exact List.Sublist.cons_cons _ ih

theorem iterLevel_loaded (c : Codec σ β) (abs : SlabID → σ → HSlab) (s : St σ β) (l : List SlabID)
    (acc : List (SlabID × σ)) (next : List SlabID) (hl : ∀ r ∈ l, IsLoaded s r) :
    iterLevel c abs s l acc next = .ok (acc, next) := by
  induction l with
  | nil => rfl
  | cons r rest ih =>
    rw [iterLevel]
    have ihr := ih (fun x hx => hl x (List.mem_cons_of_mem _ hx))
    rcases hl r (List.mem_cons_self ..) with h1 | h1
    · rw [if_pos h1]; exact ihr
    · by_cases h2 : AList.contains s.deltas r = true
      · rw [if_pos h2]; exact ihr
      · rw [if_neg h2, if_pos h1]; exact ihr

theorem iterChildren_loaded (c : Codec σ β) (abs : SlabID → σ → HSlab) (s : St σ β) (fuel : Nat)
    (l : List SlabID) (acc : List (SlabID × σ)) (hl : ∀ r ∈ l, IsLoaded s r) :
    iterChildren c abs s (fuel + 1) l acc = .ok acc := by
  cases l with
  | nil => simp [iterChildren]
  | cons r rs =>
    rw [iterChildren, iterLevel_loaded c abs s (r :: rs) acc [] hl]
    cases fuel <;> simp [iterChildren]

theorem iterAppend_loaded (c : Codec σ β) (abs : SlabID → σ → HSlab) (s : St σ β)
    (acc : List (SlabID × σ)) (id : SlabID) (v : σ) (hl : ∀ r ∈ (abs id v).refs, IsLoaded s r) :
    iterAppend c abs s acc id v = .ok (acc ++ [(id, v)]) :=
  iterChildren_loaded c abs s _ _ _ hl

theorem retrieveIgnoringDeltas_unloaded (c : Codec σ β) (s : St σ β) (hall : AllLoaded s)
    (r : SlabID) (hr : ¬ IsLoaded s r) :
    s.retrieveIgnoringDeltas c r false = .ok (none, s) := by
  have h1 := AList.find?_eq_none_of_contains (Bool.eq_false_iff.mpr fun h => hr (.inr h))
  have h2 := AList.find?_eq_none_of_contains (Bool.eq_false_iff.mpr fun h => hr (hall r h))
  simp [St.retrieveIgnoringDeltas, h1, h2]

theorem iterLevel_unloaded (c : Codec σ β) (abs : SlabID → σ → HSlab) (s : St σ β) (hall : AllLoaded s)
    (l : List SlabID) (acc : List (SlabID × σ)) (next : List SlabID)
    (hl : ¬ ∀ r ∈ l, IsLoaded s r) :
    iterLevel c abs s l acc next = .error .slabNotFound := by
  induction l with
  | nil => exact absurd (fun r hr => by cases hr) hl
  | cons r rest ih =>
    rw [iterLevel]
    by_cases hr : IsLoaded s r
    · have hrest : ¬ ∀ x ∈ rest, IsLoaded s x := by
        intro h
        apply hl
        intro x hx
        rcases List.mem_cons.mp hx with rfl | hx
        · exact hr
        · exact h x hx
      rcases hr with h1 | h1
      · rw [if_pos h1]; exact ih hrest
      · by_cases h2 : AList.contains s.deltas r = true
        · rw [if_pos h2]; exact ih hrest
        · rw [if_neg h2, if_pos h1]; exact ih hrest
    · have h1 : ¬ AList.contains s.deltas r = true := fun h => hr (Or.inl h)
      have h2 : ¬ AList.contains s.cache r = true := fun h => hr (Or.inr h)
      rw [if_neg h1, if_neg h2, retrieveIgnoringDeltas_unloaded c s hall r hr]

theorem iterAppend_unloaded (c : Codec σ β) (abs : SlabID → σ → HSlab) (s : St σ β) (hall : AllLoaded s)
    (acc : List (SlabID × σ)) (id : SlabID) (v : σ) (hl : ¬ ∀ r ∈ (abs id v).refs, IsLoaded s r) :
    iterAppend c abs s acc id v = .error .slabNotFound := by
  unfold iterAppend
  cases hrefs : (abs id v).refs with
  | nil => rw [hrefs] at hl; exact absurd (fun r hr => by cases hr) hl
  | cons r rs =>
    rw [hrefs] at hl
    rw [iterChildren, iterLevel_unloaded c abs s hall (r :: rs) _ [] hl]

/-- all live entries of `m` hold loaded references only -/
def EntriesLoaded (abs : SlabID → σ → HSlab) (s : St σ β) (m : AList SlabID (Option σ)) : Prop :=
  ∀ p ∈ liveOf m, ∀ r ∈ (abs p.1 p.2).refs, IsLoaded s r

theorem entriesLoaded_cons_none (abs : SlabID → σ → HSlab) (s : St σ β) (id : SlabID)
    (m : AList SlabID (Option σ)) : EntriesLoaded abs s ((id, none) :: m) ↔ EntriesLoaded abs s m := by
  simp only [EntriesLoaded, liveOf_cons_none]

theorem entriesLoaded_cons_some (abs : SlabID → σ → HSlab) (s : St σ β) (id : SlabID) (v : σ)
    (m : AList SlabID (Option σ)) :
    EntriesLoaded abs s ((id, some v) :: m) ↔
      (∀ r ∈ (abs id v).refs, IsLoaded s r) ∧ EntriesLoaded abs s m := by
  simp only [EntriesLoaded, liveOf_cons_some, List.forall_mem_cons]

/-- One live entry `(id, v)` of either loop, all slabs loaded: `appendSlab` fetches nothing, and the
    loop goes on over the remaining entries `m` exactly when the references of `v` are loaded. -/
theorem iterAppend_step (c : Codec σ β) (abs : SlabID → σ → HSlab) (s : St σ β) (hall : AllLoaded s)
    (acc : List (SlabID × σ)) (id : SlabID) (v : σ) (m : AList SlabID (Option σ))
    (k : List (SlabID × σ) → Except HErr (List (SlabID × σ)))
    (hk : ∀ acc, k acc = if EntriesLoaded abs s m then .ok (acc ++ liveOf m) else .error .slabNotFound) :
    (match iterAppend c abs s acc id v with
      | .error e => Except.error e
      | .ok acc' => k acc') =
      if EntriesLoaded abs s ((id, some v) :: m) then .ok (acc ++ liveOf ((id, some v) :: m))
      else .error .slabNotFound := by
  by_cases hv : ∀ r ∈ (abs id v).refs, IsLoaded s r
  · rw [iterAppend_loaded c abs s acc id v hv]
    simp only [hk, entriesLoaded_cons_some, and_iff_right hv, liveOf_cons_some, List.append_assoc,
      List.singleton_append]
  · rw [iterAppend_unloaded c abs s hall acc id v hv, if_neg fun h => hv ((entriesLoaded_cons_some ..).mp h).1]

theorem iterDeltas_allLoaded (c : Codec σ β) (abs : SlabID → σ → HSlab) (s : St σ β) (hall : AllLoaded s)
    (D : AList SlabID (Option σ)) (acc : List (SlabID × σ)) :
    iterDeltas c abs s D acc =
      if EntriesLoaded abs s D then .ok (acc ++ liveOf D) else .error .slabNotFound := by
  induction D generalizing acc with
  | nil => simp [iterDeltas, liveOf_nil, EntriesLoaded]
  | cons p rest ih =>
    obtain ⟨id, o⟩ := p
    cases o with
    | none => rw [iterDeltas, ih, liveOf_cons_none]; simp only [entriesLoaded_cons_none]
    | some v => rw [iterDeltas]; exact iterAppend_step c abs s hall acc id v rest _ ih

theorem iterCache_allLoaded (c : Codec σ β) (abs : SlabID → σ → HSlab) (s : St σ β) (hall : AllLoaded s)
    (hnd : (AList.keys s.cache).Nodup) (C : AList SlabID (Option σ))
    (hC : ∀ p ∈ C, p ∈ s.cache) (acc : List (SlabID × σ)) :
    iterCache c abs s (AList.keys C) acc =
      if EntriesLoaded abs s (C.filter (fun p => !AList.contains s.deltas p.1)) then
        .ok (acc ++ liveOf (C.filter (fun p => !AList.contains s.deltas p.1)))
      else .error .slabNotFound := by
  induction C generalizing acc with
  | nil => simp [iterCache, AList.keys, liveOf_nil, EntriesLoaded]
  | cons p rest ih =>
    obtain ⟨id, o⟩ := p
    have hfind : AList.find? s.cache id = some o :=
      (AList.mem_iff_find? s.cache hnd id o).mp (hC _ (List.mem_cons_self ..))
    have ihr := fun acc => ih (fun p hp => hC p (List.mem_cons_of_mem _ hp)) acc
    rw [AList.keys_cons, iterCache, hfind]
    by_cases hd : AList.contains s.deltas id = true
    · cases o <;> simp [hd, ihr]
    · have hfil : ((id, o) :: rest).filter (fun p => !AList.contains s.deltas p.1)
          = (id, o) :: rest.filter (fun p => !AList.contains s.deltas p.1) := by
        simp [hd]
      rw [hfil]
      cases o with
      | none => simp only [ihr, liveOf_cons_none, entriesLoaded_cons_none]
      | some v =>
        simp only [if_neg hd]
        exact iterAppend_step c abs s hall acc id v _ _ ihr

theorem refsLoaded_iff (abs : SlabID → σ → HSlab) (s : St σ β) :
    RefsLoaded abs s ↔ (EntriesLoaded abs s s.deltas ∧ EntriesLoaded abs s (unshadowed s)) := by
  simp only [RefsLoaded, loadedLive, EntriesLoaded, List.mem_append]
  constructor
  · intro h
    exact ⟨fun p hp => h p (Or.inl hp), fun p hp => h p (Or.inr hp)⟩
  · rintro ⟨h1, h2⟩ p (hp | hp)
    · exact h1 p hp
    · exact h2 p hp

/-- All slabs loaded.  The iterator yields exactly the non-nil entries of the write set followed
    by the non-nil cache entries the write set does not shadow - nothing is fetched - provided the
    references of these slabs are loaded; if one of them is not (a reference to a slab that was
    deleted physically), it fails with `SlabNotFoundError`. -/
theorem slabIterator_allLoaded (c : Codec σ β) (abs : SlabID → σ → HSlab) (s : St σ β)
    (hnd : (AList.keys s.cache).Nodup) (hall : AllLoaded s) :
    slabIterator c abs s =
      if RefsLoaded abs s then .ok (loadedLive s) else .error .slabNotFound := by
  unfold slabIterator
  rw [iterDeltas_allLoaded c abs s hall]
  by_cases h1 : EntriesLoaded abs s s.deltas
  · rw [if_pos h1]
    simp only
    rw [iterCache_allLoaded c abs s hall hnd s.cache (fun p hp => hp)]
    by_cases h2 : EntriesLoaded abs s (unshadowed s)
    · have h2' : EntriesLoaded abs s (s.cache.filter (fun p => !AList.contains s.deltas p.1)) := h2
      rw [if_pos h2', if_pos ((refsLoaded_iff abs s).mpr ⟨h1, h2⟩)]
      simp [loadedLive, unshadowed]
    · have h2' : ¬ EntriesLoaded abs s (s.cache.filter (fun p => !AList.contains s.deltas p.1)) := h2
      rw [if_neg h2', if_neg (fun h => h2 ((refsLoaded_iff abs s).mp h).2)]
  · rw [if_neg h1, if_neg (fun h => h1 ((refsLoaded_iff abs s).mp h).1)]

theorem mem_unshadowed (s : St σ β) (id : SlabID) (o : Option σ) :
    (id, o) ∈ unshadowed s ↔ ((id, o) ∈ s.cache ∧ AList.contains s.deltas id = false) := by
  simp [unshadowed]

theorem loadedLive_nodup (s : St σ β) (hd : (AList.keys s.deltas).Nodup)
    (hc : (AList.keys s.cache).Nodup) : ((loadedLive s).map (·.1)).Nodup := by
  unfold loadedLive
  rw [List.map_append, List.nodup_append]
  refine ⟨(keys_liveOf_sublist s.deltas).nodup hd, ?_, ?_⟩
  · refine ((keys_liveOf_sublist (unshadowed s)).nodup ?_)
    exact List.Nodup.sublist (List.Sublist.map _ List.filter_sublist) hc
  · rintro a ha b hb rfl
    obtain ⟨⟨k, v⟩, hm, rfl⟩ := List.mem_map.mp ha
    obtain ⟨⟨k', v'⟩, hm', hk⟩ := List.mem_map.mp hb
    simp only at hk
    subst hk
    have h1 := (mem_liveOf s.deltas k' v).mp hm
    have h2 := ((mem_unshadowed s k' (some v')).mp ((mem_liveOf _ k' v').mp hm')).2
    have : k' ∈ AList.keys s.deltas := List.mem_map.mpr ⟨_, h1, rfl⟩
    exact (AList.find?_ne_none_iff _ _).mpr this (AList.find?_eq_none_of_contains h2)

/-- an entry taken from the write set or the cache is the slab visible under its ID -/
theorem view_of_mem_loadedLive (c : Codec σ β) (s : St σ β) (hd : (AList.keys s.deltas).Nodup)
    (hc : (AList.keys s.cache).Nodup) (id : SlabID) (v : σ) (hm : (id, v) ∈ loadedLive s) :
    s.view c id = some v := by
  unfold loadedLive at hm
  rcases List.mem_append.mp hm with hm | hm
  · have := (AList.mem_iff_find? s.deltas hd id (some v)).mp ((mem_liveOf _ id v).mp hm)
    simp [St.view, this]
  · obtain ⟨h1, h2⟩ := (mem_unshadowed s id (some v)).mp ((mem_liveOf _ id v).mp hm)
    have hf := (AList.mem_iff_find? s.cache hc id (some v)).mp h1
    simp [St.view, AList.find?_eq_none_of_contains h2, hf]

/-- with all slabs loaded, the entries taken are EXACTLY the live slabs of the view -/
theorem mem_loadedLive_iff_view (c : Codec σ β) (s : St σ β) (hd : (AList.keys s.deltas).Nodup)
    (hc : (AList.keys s.cache).Nodup) (hall : AllLoaded s) (id : SlabID) (v : σ) :
    (id, v) ∈ loadedLive s ↔ s.view c id = some v := by
  refine ⟨view_of_mem_loadedLive c s hd hc id v, ?_⟩
  intro hv
  unfold loadedLive
  rw [List.mem_append]
  unfold St.view at hv
  cases hdf : AList.find? s.deltas id with
  | some o =>
    rw [hdf] at hv
    simp only at hv
    subst hv
    exact Or.inl ((mem_liveOf _ id v).mpr ((AList.mem_iff_find? s.deltas hd id (some v)).mpr hdf))
  | none =>
    rw [hdf] at hv
    simp only at hv
    have hdc : AList.contains s.deltas id = false := by rw [AList.contains_eq, hdf]; rfl
    cases hcf : AList.find? s.cache id with
    | some o =>
      rw [hcf] at hv
      simp only at hv
      subst hv
      exact Or.inr ((mem_liveOf _ id v).mpr ((mem_unshadowed s id (some v)).mpr
        ⟨(AList.mem_iff_find? s.cache hc id (some v)).mpr hcf, hdc⟩))
    | none =>
      rw [hcf] at hv
      simp only at hv
      -- served from the ledger: impossible when everything is loaded
      exfalso
      have hb : AList.contains s.base id = true := by
        rw [AList.contains_eq]
        cases hbf : AList.find? s.base id with
        | none => rw [hbf] at hv; cases hv
        | some b => rfl
      rcases hall id hb with h1 | h1
      · rw [hdc] at h1; cases h1
      · rw [AList.contains_eq, hcf] at h1; cases h1

/-- every entry of the list is the slab visible under its ID -/
def Visible (c : Codec σ β) (s : St σ β) (l : List (SlabID × σ)) : Prop :=
  ∀ p ∈ l, s.view c p.1 = some p.2

/-- a slab fetched under an ID that is a key of neither map is the slab visible under that ID -/
theorem view_of_fetched {c : Codec σ β} {s s' : St σ β} {r : SlabID} {v : σ}
    (hd : ¬ AList.contains s.deltas r = true) (hc : ¬ AList.contains s.cache r = true)
    (hret : s.retrieveIgnoringDeltas c r false = .ok (some v, s')) : s.view c r = some v := by
  have hd0 := AList.find?_eq_none_of_contains (Bool.eq_false_iff.mpr hd)
  have hc0 := AList.find?_eq_none_of_contains (Bool.eq_false_iff.mpr hc)
  rcases retrieveIgnoringDeltas_cases c s r false with ⟨he, _⟩ | ⟨_, h, _⟩
  · rw [he] at hret; cases hret
  · rw [h, hc0] at hret
    have hv : s.committed c r = some v := (Prod.mk.inj (Except.ok.inj hret)).1
    simp only [St.view, hd0, hc0]
    exact hv

theorem iterLevel_visible (c : Codec σ β) (abs : SlabID → σ → HSlab) (s : St σ β) (l : List SlabID)
    (acc acc' : List (SlabID × σ)) (next next' : List SlabID) (hacc : Visible c s acc)
    (hok : iterLevel c abs s l acc next = .ok (acc', next')) : Visible c s acc' := by
  induction l generalizing acc next with
  | nil =>
    simp only [iterLevel, Except.ok.injEq, Prod.mk.injEq] at hok
    rw [← hok.1]; exact hacc
  | cons r rest ih =>
    rw [iterLevel] at hok
    split at hok
    · exact ih _ _ hacc hok
    · rename_i hdn
      split at hok
      · exact ih _ _ hacc hok
      · rename_i hcn
        split at hok
        · cases hok
        · cases hok
        · rename_i v s' hret
          refine ih _ _ ?_ hok
          intro p hp
          rcases List.mem_append.mp hp with hp | hp
          · exact hacc p hp
          · rw [List.mem_singleton.mp hp]
            exact view_of_fetched hdn hcn hret

theorem iterChildren_visible (c : Codec σ β) (abs : SlabID → σ → HSlab) (s : St σ β) (fuel : Nat)
    (l : List SlabID) (acc acc' : List (SlabID × σ)) (hacc : Visible c s acc)
    (hok : iterChildren c abs s fuel l acc = .ok acc') : Visible c s acc' := by
  induction fuel generalizing l acc with
  | zero =>
    cases l with
    | nil => simp only [iterChildren, Except.ok.injEq] at hok; rw [← hok]; exact hacc
    | cons r rs => simp [iterChildren] at hok
  | succ fuel ih =>
    cases l with
    | nil => simp only [iterChildren, Except.ok.injEq] at hok; rw [← hok]; exact hacc
    | cons r rs =>
      rw [iterChildren] at hok
      split at hok
      · cases hok
      · rename_i acc1 next hlev
        exact ih next acc1 (iterLevel_visible c abs s _ _ _ _ _ hacc hlev) hok

theorem iterAppend_visible (c : Codec σ β) (abs : SlabID → σ → HSlab) (s : St σ β)
    (acc acc' : List (SlabID × σ)) (id : SlabID) (v : σ) (hacc : Visible c s acc)
    (hv : s.view c id = some v) (hok : iterAppend c abs s acc id v = .ok acc') : Visible c s acc' := by
  refine iterChildren_visible c abs s _ _ _ _ ?_ hok
  intro p hp
  rcases List.mem_append.mp hp with hp | hp
  · exact hacc p hp
  · simp only [List.mem_singleton] at hp
    subst hp
    exact hv

theorem iterDeltas_visible (c : Codec σ β) (abs : SlabID → σ → HSlab) (s : St σ β)
    (D : AList SlabID (Option σ)) (hD : ∀ p ∈ D, s.view c p.1 = p.2)
    (acc acc' : List (SlabID × σ)) (hacc : Visible c s acc)
    (hok : iterDeltas c abs s D acc = .ok acc') : Visible c s acc' := by
  induction D generalizing acc with
  | nil => simp only [iterDeltas, Except.ok.injEq] at hok; rw [← hok]; exact hacc
  | cons p rest ih =>
    obtain ⟨id, o⟩ := p
    have hrest : ∀ p ∈ rest, s.view c p.1 = p.2 := fun p hp => hD p (List.mem_cons_of_mem _ hp)
    cases o with
    | none => rw [iterDeltas] at hok; exact ih hrest _ hacc hok
    | some v =>
      rw [iterDeltas] at hok
      split at hok
      · cases hok
      · rename_i acc1 happ
        exact ih hrest _ (iterAppend_visible c abs s _ _ id v hacc
          (hD (id, some v) (List.mem_cons_self ..)) happ) hok

theorem iterCache_visible (c : Codec σ β) (abs : SlabID → σ → HSlab) (s : St σ β) (K : List SlabID)
    (acc acc' : List (SlabID × σ)) (hacc : Visible c s acc)
    (hok : iterCache c abs s K acc = .ok acc') : Visible c s acc' := by
  induction K generalizing acc with
  | nil => simp only [iterCache, Except.ok.injEq] at hok; rw [← hok]; exact hacc
  | cons id rest ih =>
    rw [iterCache] at hok
    split at hok
    · exact ih _ hacc hok
    · exact ih _ hacc hok
    · rename_i v hcf
      split at hok
      · exact ih _ hacc hok
      · rename_i hdn
        split at hok
        · cases hok
        · rename_i acc1 happ
          refine ih _ (iterAppend_visible c abs s _ _ id v hacc ?_ happ) hok
          have hd0 := AList.find?_eq_none_of_contains (Bool.eq_false_iff.mpr hdn)
          simp [St.view, hd0, hcf]

/-- Soundness, every state with distinct write-set keys (slabs may have to be fetched from the ledger): whatever the iterator
    yields under an ID is the slab visible under that ID. -/
theorem slabIterator_sound (c : Codec σ β) (abs : SlabID → σ → HSlab) (s : St σ β)
    (hd : (AList.keys s.deltas).Nodup) (ys : List (SlabID × σ))
    (hok : slabIterator c abs s = .ok ys) : ∀ p ∈ ys, s.view c p.1 = some p.2 := by
  unfold slabIterator at hok
  split at hok
  · cases hok
  · rename_i acc hdl
    refine iterCache_visible c abs s _ _ _ ?_ hok
    refine iterDeltas_visible c abs s s.deltas ?_ [] acc (fun p hp => by cases hp) hdl
    intro p hp
    obtain ⟨id, o⟩ := p
    have := (AList.mem_iff_find? s.deltas hd id o).mp hp
    simp [St.view, this]

/-- A deleted slab (a nil entry of the write set, or of the cache when the write set has no entry:
    the view is `none`) is never yielded - neither from the maps nor by a fetch. -/
theorem slabIterator_skips_deleted (c : Codec σ β) (abs : SlabID → σ → HSlab) (s : St σ β)
    (hd : (AList.keys s.deltas).Nodup) (ys : List (SlabID × σ))
    (hok : slabIterator c abs s = .ok ys) (id : SlabID) (hv : s.view c id = none) :
    id ∉ ys.map (·.1) := by
  intro hm
  obtain ⟨⟨k, v⟩, hp, rfl⟩ := List.mem_map.mp hm
  have := slabIterator_sound c abs s hd ys hok _ hp
  simp only at this
  rw [hv] at this
  cases this

theorem scanD_eq_scan (ys : Heap) (seen : List SlabID) (po : AList SlabID SlabID)
    (lv : List SlabID) (hk : (AList.keys ys).Nodup) (hs : ∀ k ∈ AList.keys ys, k ∉ seen) :
    scanD ys seen po lv = scan ys po lv := by
  induction ys generalizing seen po lv with
  | nil => rfl
  | cons e rest ih =>
    obtain ⟨id, s⟩ := e
    rw [AList.keys_cons, List.nodup_cons] at hk
    have hid : id ∉ seen := hs id (by rw [AList.keys_cons]; exact List.mem_cons_self ..)
    have hcont : seen.contains id = false := by
      cases hx : seen.contains id with
      | false => rfl
      | true => exact absurd (by simpa using hx) hid
    rw [scanD, scan, hcont]
    simp only [Bool.false_eq_true, if_false]
    cases scanRefs id s.refs po with
    | error e => rfl
    | ok po' =>
      simp only
      apply ih _ _ _ hk.2
      intro k hkr hks
      rcases List.mem_cons.mp hks with rfl | hks
      · exact hk.1 hkr
      · exact hs k (by rw [AList.keys_cons]; exact List.mem_cons_of_mem _ hkr) hks

/-- when no ID is yielded twice, the `duplicate slab` test is idle -/
theorem checkYield_eq_check (ys : Heap) (hk : (AList.keys ys).Nodup) (expected : Option Nat) :
    checkYield ys expected = check ys expected := by
  unfold checkYield check
  rw [scanD_eq_scan ys [] [] [] hk (fun _ _ h => by cases h)]

/-- the heap of the live loaded slabs -/
def heapOfLoaded (abs : SlabID → σ → HSlab) (s : St σ β) : Heap :=
  (loadedLive s).map (fun p => (p.1, abs p.1 p.2))

theorem keys_heapOfLoaded (abs : SlabID → σ → HSlab) (s : St σ β) :
    AList.keys (heapOfLoaded abs s) = (loadedLive s).map (·.1) := by
  simp [heapOfLoaded, AList.keys]

/-- All slabs loaded: `CheckStorageHealth(storage, n)` is the check of the first part of the model
    (`Health.check`, about which the C20 theorems speak) on the heap of the live slabs of the view;
    a reference to a slab that is in neither map nor in the ledger makes the iteration fail with
    `SlabNotFoundError`. -/
theorem checkStorage_allLoaded (c : Codec σ β) (abs : SlabID → σ → HSlab) (s : St σ β)
    (hd : (AList.keys s.deltas).Nodup) (hc : (AList.keys s.cache).Nodup) (hall : AllLoaded s)
    (expected : Option Nat) :
    checkStorage c abs s expected =
      if RefsLoaded abs s then check (heapOfLoaded abs s) expected else .error .slabNotFound := by
  unfold checkStorage
  rw [slabIterator_allLoaded c abs s hc hall]
  by_cases h : RefsLoaded abs s
  · rw [if_pos h, if_pos h]
    simp only
    have hk : (AList.keys (heapOfLoaded abs s)).Nodup := by
      rw [keys_heapOfLoaded]; exact loadedLive_nodup s hd hc
    exact checkYield_eq_check (heapOfLoaded abs s) hk expected
  · rw [if_neg h, if_neg h]

end Health
end Atree

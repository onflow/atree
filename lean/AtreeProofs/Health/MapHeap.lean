import AtreeProofs.Health.ArrayHeap
import AtreeProofs.MapHeapSpec
import AtreeProofs.MapInv
import AtreeProofs.Map.EffectsTop
import AtreeProofs.Map.Example
/-
  C20 for ordered maps: the heap (`Health.Heap`) of ONE map — the slabs of its tree (data
  slabs, index slabs, external collision-group slabs) plus its large-value slabs — is `Healthy`,
  and its roots are the map's root slab and the large-value slabs no value refers to any more.

  The references of a stored map slab are defined the way `ChildStorables` finds them
  (`MSlabView.refs`):
  * data slab: for every first-level element — `.single e`: the `.ref` payload of the value of `e`
    (a key `MKey` has a plain payload `pay : Nat`, the type does not allow a reference there);
    `.inl g`: the references inside the inline group `g`, recursively through `MElems r`;
    `.ext id _ _`: the ID `id` of the external collision-group slab;
  * index slab: the IDs of the child headers;
  * collision-group slab: the references inside its elements.
  The type `MElems r` allows `.ext` below the first level; `MElems.refs` treats it as a reference to
  its ID there as well.  The invariant excludes it (`ElemsInv`: `.ext` only at `level = 0`, used here
  through `firstOk_of_inv` / `NoExt`).

  `mapHeap_healthy` is stated on a single map value (`MapInv`, `MIdsOk`, owner addresses + facts
  about the value references and the created large-value slabs);
  `AtreeProofs/Health/MapHistory.lean` discharges these hypotheses for every map produced by a
  valid history.
-/
namespace Atree
open Gen

/-- the slab references in one key/value pair (`singleElement`): those of the value; the key of
    the model (`MKey`, payload `Nat`) cannot be a reference -/
def SElem.refs (e : SElem) : List SlabID := Health.elemRefs [e.val]

/-- the slab references `ChildStorables` finds in one element, given those of a nested group -/
def MElemF.refs {α : Type} (f : α → List SlabID) : MElemF α → List SlabID
  | .single e => e.refs
  | .inl g => f g
  | .ext id _ _ => [id]

/-- the slab references inside `elements` with `r` digest levels left -/
def MElems.refs : (r : Nat) → MElems r → List SlabID
  | 0, (e : SingleElems) => e.elems.flatMap SElem.refs
  | r + 1, (e : HkeyElems (MElems r)) => e.elems.flatMap (MElemF.refs (MElems.refs r))

/-- the slab references `ChildStorables` finds in one stored map slab -/
def MSlabView.refs {r : Nat} : MSlabView r → List SlabID
  | .data s => MElems.refs (r + 1) s.elems
  | .index _ chs _ => chs.map (·.id)
  | .group g => MElems.refs r g.elems

namespace Health

variable {r : Nat}

/-- the slab references among the values of a list of key/value pairs, in order -/
def valRefs (l : List (MKey × Elem)) : List SlabID := elemRefs (l.map (·.2))

/-- the heap of one map: the slabs of its tree (external collision groups included) and its
    large-value slabs (which reference nothing) -/
def mapHeap (m : OMap r) (created : List (SlabID × Elem)) : Heap :=
  (MTree.slabs m.d m.root).map (fun p => (p.1, ⟨p.1, p.2.refs⟩)) ++ created.map (fun p => (p.1, ⟨p.1, []⟩))

theorem valRefs_nil : valRefs [] = [] := rfl

theorem valRefs_append (l₁ l₂ : List (MKey × Elem)) : valRefs (l₁ ++ l₂) = valRefs l₁ ++ valRefs l₂ := by
  unfold valRefs; rw [List.map_append, elemRefs_append]

theorem valRefs_cons (p : MKey × Elem) (l : List (MKey × Elem)) :
    valRefs (p :: l) = elemRefs [p.2] ++ valRefs l := by
  unfold valRefs; rw [List.map_cons, ← elemRefs_append]; rfl

theorem valRefs_flatMap {α : Type} (L : List α) (f : α → List (MKey × Elem)) :
    valRefs (L.flatMap f) = L.flatMap (fun x => valRefs (f x)) := by
  induction L with
  | nil => rfl
  | cons x L ih => rw [List.flatMap_cons, List.flatMap_cons, valRefs_append, ih]

theorem mem_valRefs (l : List (MKey × Elem)) (y : SlabID) :
    y ∈ valRefs l ↔ ∃ p ∈ l, p.2.pay = .ref y := by
  unfold valRefs
  rw [mem_elemRefs]
  constructor
  · rintro ⟨e, he, h⟩
    obtain ⟨p, hp, rfl⟩ := List.mem_map.1 he
    exact ⟨p, hp, h⟩
  · rintro ⟨p, hp, h⟩
    exact ⟨p.2, List.mem_map_of_mem hp, h⟩

theorem single_refs_eq (e : SingleElems) :
    MElems.refs 0 e = valRefs ((MElems.ops 0).toList e) := by
  show e.elems.flatMap SElem.refs = valRefs (e.elems.map (fun x => (x.key, x.val)))
  generalize e.elems = l
  induction l with
  | nil => rfl
  | cons x l ih => rw [List.flatMap_cons, List.map_cons, valRefs_cons, ih]; rfl

/-- without external groups, the references inside `elements` are the value references of its
    key/value pairs -/
theorem melems_refs_eq : ∀ (r : Nat) (e : MElems r), NoExt r e →
    MElems.refs r e = valRefs ((MElems.ops r).toList e)
  | 0, e, _ => single_refs_eq e
  | r + 1, (e : HkeyElems (MElems r)), h => by
    show e.elems.flatMap (MElemF.refs (MElems.refs r))
      = valRefs (e.elems.flatMap (fun el => el.toList (MElems.ops r)))
    rw [valRefs_flatMap]
    have h' : ∀ el ∈ e.elems, ElP (NoExt r) el := h
    generalize e.elems = l at h'
    induction l with
    | nil => rfl
    | cons el l ih =>
      rw [List.flatMap_cons, List.flatMap_cons, ih (fun x hx => h' x (List.mem_cons_of_mem _ hx))]
      congr 1
      have hel := h' el List.mem_cons_self
      cases el with
      | single x => show elemRefs [x.val] = valRefs [(x.key, x.val)]; rfl
      | inl g => exact melems_refs_eq r g hel
      | ext id sz s => exact absurd hel (by simp [ElP])

/-- the group slabs referenced from a list of first-level elements (as `MDataSlab.groupSlabs`) -/
def gslabs (l : List (MElemF (MElems r))) : List (SlabID × MSlabView r) :=
  l.filterMap (fun el =>
    match el with
    | .ext id _ g => some (id, .group g)
    | _ => none)

theorem groupSlabs_eq_gslabs (s : MDataSlab r) : s.groupSlabs = gslabs s.elems.elems := rfl

theorem gslabs_single (x : SElem) (l : List (MElemF (MElems r))) : gslabs (.single x :: l) = gslabs l := rfl
theorem gslabs_inl (g : MElems r) (l : List (MElemF (MElems r))) : gslabs (.inl g :: l) = gslabs l := rfl
theorem gslabs_ext (id : SlabID) (sz : Nat) (s : GroupSlab (MElems r)) (l : List (MElemF (MElems r))) :
    gslabs (.ext id sz s :: l) = (id, .group s) :: gslabs l := rfl

/-- The references found in a data slab and in its group slabs are: one reference to each group
    slab, and the value references of its key/value pairs. -/
theorem first_refs_perm : ∀ (l : List (MElemF (MElems r))), (∀ el ∈ l, FirstOk (NoExt r) el) →
    (l.flatMap (MElemF.refs (MElems.refs r)) ++ (gslabs l).flatMap (fun p => p.2.refs)).Perm
      (AList.keys (gslabs l) ++ valRefs (l.flatMap (fun el => el.toList (MElems.ops r))))
  | [], _ => List.Perm.refl _
  | el :: l, h => by
    have ih := first_refs_perm l (fun x hx => h x (List.mem_cons_of_mem _ hx))
    have hel := h el List.mem_cons_self
    rw [List.flatMap_cons, List.flatMap_cons, valRefs_append]
    cases el with
    | single x =>
      rw [gslabs_single, List.append_assoc]
      show (elemRefs [x.val] ++ _).Perm (_ ++ (valRefs [(x.key, x.val)] ++ _))
      exact ((List.Perm.refl _).append ih).trans (List.perm_append_comm_assoc _ _ _)
    | inl g =>
      rw [gslabs_inl, List.append_assoc]
      show (MElems.refs r g ++ _).Perm (_ ++ (valRefs ((MElems.ops r).toList g) ++ _))
      rw [melems_refs_eq r g hel]
      exact ((List.Perm.refl _).append ih).trans (List.perm_append_comm_assoc _ _ _)
    | ext id sz s =>
      rw [gslabs_ext, List.flatMap_cons, AList.keys_cons]
      show (([id] ++ _) ++ (MElems.refs r s.elems ++ _)).Perm
        ((id :: _) ++ (valRefs ((MElems.ops r).toList s.elems) ++ _))
      rw [melems_refs_eq r s.elems hel.2, List.append_assoc, List.singleton_append, List.cons_append]
      refine List.Perm.cons id ?_
      refine (List.perm_append_comm_assoc _ _ _).trans ?_
      exact ((List.Perm.refl _).append ih).trans (List.perm_append_comm_assoc _ _ _)

theorem mem_refs_of_mem_gslabs (l : List (MElemF (MElems r))) (id : SlabID)
    (h : id ∈ AList.keys (gslabs l)) : id ∈ l.flatMap (MElemF.refs (MElems.refs r)) := by
  induction l with
  | nil => cases h
  | cons el l ih =>
    rw [List.flatMap_cons, List.mem_append]
    cases el with
    | single x => exact Or.inr (ih h)
    | inl g => exact Or.inr (ih h)
    | ext id' sz s =>
      rw [gslabs_ext, AList.keys_cons, List.mem_cons] at h
      rcases h with rfl | h
      · exact Or.inl List.mem_cons_self
      · exact Or.inr (ih h)

theorem mapHeap_eq (m : OMap r) (created : List (SlabID × Elem)) :
    mapHeap m created = treeHeap MSlabView.refs (MTree.slabs m.d m.root) created := rfl

theorem keys_mapHeap (m : OMap r) (created : List (SlabID × Elem)) :
    AList.keys (mapHeap m created) = AList.keys (MTree.slabs m.d m.root) ++ created.map (·.1) :=
  keys_treeHeap _ _ _

def mtreeTargets (d : Nat) (t : MTree r d) : List SlabID := (MTree.slabs d t).flatMap (fun p => p.2.refs)

theorem mtreeTargets_zero (s : MDataSlab r) :
    mtreeTargets 0 s = s.elems.elems.flatMap (MElemF.refs (MElems.refs r))
      ++ (gslabs s.elems.elems).flatMap (fun p => p.2.refs) := by
  unfold mtreeTargets
  rw [mslabs_zero, List.flatMap_cons]
  rfl

theorem mtreeTargets_succ (d : Nat) (m : MMetaSlab (MTree r d)) :
    mtreeTargets (d + 1) m = m.childHdrs.map (·.id) ++ m.children.flatMap (mtreeTargets d) := by
  unfold mtreeTargets
  rw [mslabs_succ, List.flatMap_cons, List.flatMap_assoc]
  rfl

theorem keys_msub_succ (d : Nat) (m : MMetaSlab (MTree r d)) :
    AList.keys (msub (d + 1) m)
      = m.children.flatMap (fun c => [(MTree.hdr d c).id] ++ AList.keys (msub d c)) := by
  rw [msub_succ]
  refine keys_flatMap _ _ _ ?_
  intro c _
  rw [mslabs_eq, AList.keys_cons]
  rfl

/-- The references of a tree are: one reference to each slab below the root (child headers, group
    references), and the value references. -/
theorem mtreeTargets_perm (T : Nat) (D : DigestFn (r + 1)) :
    ∀ (d : Nat) (top : Bool) (t : MTree r d), MTreeInv T D d top t →
    (mtreeTargets d t).Perm (AList.keys (msub d t) ++ valRefs (MTree.toList d t))
  | 0, top, (s : MDataSlab r), hinv => by
    have hF := firstOk_of_inv ((mtreeInv_zero_iff T D top s).mp hinv).elems_inv
    rw [mtreeTargets_zero, msub_zero, groupSlabs_eq_gslabs]
    exact first_refs_perm s.elems.elems hF
  | d + 1, top, (m : MMetaSlab (MTree r d)), hinv => by
    have hm := ((mtreeInv_succ_iff T D d top m).mp hinv).1
    have hhdrs : m.childHdrs = m.children.map (MTree.hdr d) := hm.hdrs_eq
    have hkids : ∀ c ∈ m.children, MTreeInv T D d false c := hm.kid_inv
    have htl : MTree.toList (d + 1) m = m.children.flatMap (MTree.toList d) := rfl
    rw [mtreeTargets_succ, keys_msub_succ, hhdrs, List.map_map, htl, valRefs_flatMap]
    have ih : (m.children.flatMap (mtreeTargets d)).Perm
        (m.children.flatMap (fun c => AList.keys (msub d c) ++ valRefs (MTree.toList d c))) :=
      flatMap_perm_of_mem (fun c hc => mtreeTargets_perm T D d false c (hkids c hc))
    have h2 := flatMap_append_perm m.children (fun c => AList.keys (msub d c))
      (fun c => valRefs (MTree.toList d c))
    have h3 : (m.children.flatMap (fun c => [(MTree.hdr d c).id] ++ AList.keys (msub d c))).Perm
        (m.children.map (fun c => (MTree.hdr d c).id) ++ m.children.flatMap (fun c => AList.keys (msub d c))) := by
      refine (flatMap_append_perm m.children (fun c => [(MTree.hdr d c).id])
        (fun c => AList.keys (msub d c))).trans ?_
      rw [← List.map_eq_flatMap]
    refine ((List.Perm.refl _).append (ih.trans h2)).trans ?_
    rw [← List.append_assoc]
    exact List.Perm.append_right _ h3.symm

/-- every slab of a tree (external collision groups included) is reachable from its root in any
    heap containing the tree's edges -/
theorem reach_mtree (T : Nat) (D : DigestFn (r + 1)) (h : Heap) :
    ∀ (d : Nat) (top : Bool) (t : MTree r d), MTreeInv T D d top t →
    (∀ p s, (p, s) ∈ MTree.slabs d t → ∀ q ∈ s.refs, (p, q) ∈ edges h) →
    ∀ r0, Reach h r0 (MTree.hdr d t).id → ∀ id ∈ AList.keys (MTree.slabs d t), Reach h r0 id
  | 0, top, (s : MDataSlab r), _, hed, r0, hr, id, hid => by
    rw [mslabs_zero, AList.keys_cons, List.mem_cons] at hid
    rcases hid with rfl | hid
    · exact hr
    · have hroot : (s.hdr.id, MSlabView.data s) ∈ MTree.slabs 0 s := by
        rw [mslabs_zero]; exact List.mem_cons_self
      refine Reach.step hr (hed _ _ hroot id ?_)
      exact mem_refs_of_mem_gslabs s.elems.elems id hid
  | d + 1, top, (m : MMetaSlab (MTree r d)), hinv, hed, r0, hr, id, hid => by
    have hm := ((mtreeInv_succ_iff T D d top m).mp hinv).1
    have hhdrs : m.childHdrs = m.children.map (MTree.hdr d) := hm.hdrs_eq
    have hkids : ∀ c ∈ m.children, MTreeInv T D d false c := hm.kid_inv
    rw [mslabs_succ, AList.keys_cons, List.mem_cons] at hid
    rcases hid with rfl | hid
    · exact hr
    · have hid' : id ∈ m.children.flatMap (fun c => AList.keys (MTree.slabs d c)) := by
        rw [← keys_flatMap _ _ _ (fun _ _ => rfl)]; exact hid
      obtain ⟨c, hc, hidc⟩ := List.mem_flatMap.1 hid'
      have hroot : (m.hdr.id, MSlabView.index m.hdr m.childHdrs m.root) ∈ MTree.slabs (d + 1) m := by
        rw [mslabs_succ]; exact List.mem_cons_self
      have hedge : (m.hdr.id, (MTree.hdr d c).id) ∈ edges h := by
        refine hed _ _ hroot _ ?_
        show (MTree.hdr d c).id ∈ m.childHdrs.map (·.id)
        rw [hhdrs, List.map_map]
        exact List.mem_map.mpr ⟨c, hc, rfl⟩
      refine reach_mtree T D h d false c (hkids c hc) ?_ r0 (Reach.step hr hedge) id hidc
      intro p s hps q hq
      refine hed p s ?_ q hq
      rw [mslabs_succ]
      exact List.mem_cons_of_mem _ (List.mem_flatMap.mpr ⟨c, hc, hps⟩)

/-- The heap of one map is healthy.  For a map satisfying the map invariant whose slab IDs (data
    slabs, index slabs, external collision-group slabs) are pairwise distinct and owned by the
    map's address, whose value references point to distinct large-value slabs among `created`, the
    `created` slabs having distinct IDs at the map's address outside the tree: the heap made of
    the tree's slabs and the large-value slabs has unique keys and is `Healthy`; its roots are the
    map's root slab and the large-value slabs no value refers to. -/
theorem mapHeap_healthy (T : Nat) (D : DigestFn (r + 1)) (m : OMap r) (created : List (SlabID × Elem))
    (hinv : MapInv T D m) (hids : MIdsOk m)
    (haok : ∀ id ∈ AList.keys (MTree.slabs m.d m.root), id.addr = m.addr)
    (hrefs : ∀ p ∈ m.toList, ∀ y, p.2.pay = .ref y → y ∈ created.map (·.1))
    (hnd : (valRefs m.toList).Nodup)
    (hcnd : (created.map (·.1)).Nodup)
    (hcr : ∀ p ∈ created, p.1.addr = m.addr ∧ p.1 ∉ AList.keys (MTree.slabs m.d m.root)) :
    (AList.keys (mapHeap m created)).Nodup ∧
    Healthy (mapHeap m created) (rootsOf (mapHeap m created)) ∧
    (∀ id, id ∈ rootsOf (mapHeap m created) ↔
      (id = m.rootID ∨ (id ∈ created.map (·.1) ∧ id ∉ valRefs m.toList))) := by
  refine treeHeap_healthy MSlabView.refs (MTree.slabs m.d m.root) created m.rootID
    (AList.keys (msub m.d m.root)) (valRefs m.toList) m.addr (by rw [mslabs_eq, AList.keys_cons]; rfl) hids haok
    (mtreeTargets_perm T D m.d true m.root hinv.tree) ?_ ?_ hnd hcnd hcr
  · intro h hed
    exact reach_mtree T D h m.d true m.root hinv.tree hed m.rootID (Reach.refl _)
  · intro y hy
    obtain ⟨p, hp, hpay⟩ := (mem_valRefs _ y).1 hy
    exact hrefs p hp y hpay

/-! ### Non-vacuity

The example map `run` of `Map/Example.lean` (two digest levels, T = 256, owner address 7): an index
slab 7.1 over the data slabs 7.3 and 7.4, data slab 7.3 refers to the external collision-group slab
7.2; no large values. -/
section NonVacuity
open MapExample

/-- `run` evaluated: its heap, its owner and its value references; the hypotheses below are read off
    these three values -/
theorem run_eval :
    mapHeap run.1 [] =
      [(⟨7, 1⟩, ⟨⟨7, 1⟩, [⟨7, 3⟩, ⟨7, 4⟩]⟩), (⟨7, 3⟩, ⟨⟨7, 3⟩, [⟨7, 2⟩]⟩), (⟨7, 2⟩, ⟨⟨7, 2⟩, []⟩),
       (⟨7, 4⟩, ⟨⟨7, 4⟩, []⟩)] ∧
    run.1.addr = 7 ∧ valRefs run.1.toList = [] := by decide +kernel

/-- without large-value slabs the IDs of the tree's slabs are the keys of the heap -/
theorem keys_mslabs_of_heap {m : OMap r} {H : Heap} (h : mapHeap m [] = H) :
    AList.keys (MTree.slabs m.d m.root) = AList.keys H := by
  rw [← h, keys_mapHeap]
  exact (List.append_nil _).symm

example : (AList.keys (mapHeap run.1 [])).Nodup ∧ Healthy (mapHeap run.1 []) (rootsOf (mapHeap run.1 [])) ∧
    (∀ id, id ∈ rootsOf (mapHeap run.1 []) ↔ (id = run.1.rootID ∨ (id ∈ [] ∧ id ∉ valRefs run.1.toList))) :=
  mapHeap_healthy 256 D2 run.1 [] run_good.inv
    (by show (AList.keys _).Nodup; rw [keys_mslabs_of_heap run_eval.1]; decide)
    (by rw [keys_mslabs_of_heap run_eval.1, run_eval.2.1]; decide)
    (fun p hp y hy => by
      have hm : y ∈ valRefs run.1.toList := (mem_valRefs _ y).2 ⟨p, hp, hy⟩
      rw [run_eval.2.2] at hm
      cases hm)
    (by rw [run_eval.2.2]; exact List.nodup_nil) List.nodup_nil (fun _ h => by cases h)

example : mapHeap run.1 [] =
    [(⟨7, 1⟩, ⟨⟨7, 1⟩, [⟨7, 3⟩, ⟨7, 4⟩]⟩), (⟨7, 3⟩, ⟨⟨7, 3⟩, [⟨7, 2⟩]⟩), (⟨7, 2⟩, ⟨⟨7, 2⟩, []⟩),
     (⟨7, 4⟩, ⟨⟨7, 4⟩, []⟩)] := run_eval.1
example : Health.check (mapHeap run.1 []) (some 1) = .ok [⟨7, 1⟩] := by rw [run_eval.1]; rfl

end NonVacuity

end Health
end Atree

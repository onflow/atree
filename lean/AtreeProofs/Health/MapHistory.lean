import AtreeProofs.Health.MapHeap
import AtreeProofs.Health.ArrayHistory
import AtreeProofs.E2EMap.HistoryFull
import AtreeProofs.Props.E2EMap
/-
  C20 for ordered maps: the storage produced by any valid history of map requests is
  `Healthy`.

  * `RefsUniqueM` — the additional history invariant: no two values refer to the same large-value
    slab, no two large-value slabs share an ID; kept by every request (`MServed.refsUnique`).
  * `map_history_healthy` — for every history from `NewMap` on an empty storage (hypotheses of
    `map_rep_history`), the heap `mapHeap m created` (tree slabs incl. external collision groups +
    large-value slabs) has unique keys, is `Healthy`, has the map's root among its roots, and is
    exactly what the storage holds at the owner's address (`MRep.view`; the stored form of a data
    slab is stripped of the embedded groups, its references are the same: `stripView_refs`).
    `map_run_healthy` — the same from any `MGoodF` state satisfying `RefsUniqueM`.
  * `map_history_check_accepts` — hence (`Health.check_complete`) `CheckStorageHealth` accepts it.
-/
namespace Atree.E2EM
open Atree Gen Health
open Atree.E2E (find?_isSome_of_mem_keys)

variable {β : Type} {r : Nat}

/-- no two values refer to the same large-value slab; the large-value slabs have distinct IDs -/
def RefsUniqueM (st : OMap r × Ctx) : Prop :=
  (valRefs st.1.toList).Nodup ∧ (st.2.created.map (·.1)).Nodup

/-- a stored slab as the health check sees it: its ID and the slab references it contains -/
def MSSlab.toH (id : SlabID) : MSSlab r → HSlab
  | .tree s _ => ⟨id, s.refs⟩
  | .large _ => ⟨id, []⟩

theorem stripElem_refs (el : MElemF (MElems r)) :
    MElemF.refs (MElems.refs r) (stripElem el) = MElemF.refs (MElems.refs r) el := by
  cases el <;> rfl

/-- stripping the embedded collision groups keeps the references (the `.ext` element keeps its ID) -/
theorem stripView_refs (v : MSlabView r) : (stripView v).refs = v.refs := by
  cases v with
  | data s =>
    show (s.elems.elems.map stripElem).flatMap (MElemF.refs (MElems.refs r))
      = s.elems.elems.flatMap (MElemF.refs (MElems.refs r))
    generalize s.elems.elems = l
    induction l with
    | nil => rfl
    | cons el l ih => rw [List.map_cons, List.flatMap_cons, List.flatMap_cons, ih, stripElem_refs]
  | index h chs root => rfl
  | group g => rfl

theorem valRefs_perm {l₁ l₂ : List (MKey × Elem)} (h : l₁.Perm l₂) : (valRefs l₁).Perm (valRefs l₂) := by
  unfold valRefs elemRefs
  exact (h.map _).filterMap _

theorem refsIn_of_mrefsOk {st : OMap r × Ctx} (h : MRefsOk st) :
    ∀ y ∈ valRefs st.1.toList, y ∈ st.2.created.map (·.1) := fun y hy =>
  let ⟨p, hp, hpay⟩ := (mem_valRefs _ y).1 hy
  (AList.contains_iff_mem_keys _ _).1 (h p hp y hpay)

/-- unique references are kept by a request that is served: the pairs of the new map are, up to order,
    some of the old pairs and the binding written (map model side; the storage plays no role) -/
theorem MServed.refsUnique {T : Nat} {D : DigestFn (r + 1)} {cfg : MCfg} {m : OMap r} {ctx : Ctx}
    {op : MOp} {st' : OMap r × Ctx} (h : MServed T D cfg m ctx op st') (hop : op.Ok T D)
    (hrefs : MRefsOk (m, ctx)) (hle : ∀ p ∈ ctx.created, p.1.idx ≤ ctx.ctr) (hu : RefsUniqueM (m, ctx)) :
    RefsUniqueM st' := by
  cases h with
  | rejected => exact hu
  | done m' ctx' E C w gone kept h =>
    have hu1 : (valRefs (gone ++ kept)).Nodup := (valRefs_perm h.old).nodup_iff.1 hu.1
    obtain ⟨cr, hcr, hwr⟩ := written_wrOf cfg ctx (w := w) fun p hp => by
      obtain rfl := MOp.eq_set (h.hw.trans (Option.mem_def.1 hp))
      exact hop.2
    show (valRefs m'.toList).Nodup ∧ (ctx'.created.map (·.1)).Nodup
    rw [h.cre, hcr]
    exact refs_add hwr ((List.sublist_append_right gone kept).map Prod.snd)
      (by rw [← List.map_append]; exact h.new.map Prod.snd) hu1 hu.2
      (fun y hy => refsIn_of_mrefsOk hrefs y ((valRefs_perm h.old).mem_iff.2 hy)) hle

/-- Any history, from any good state with unique references: both invariants are kept. -/
theorem refsUniqueM_runS (c : Codec (MSSlab r) β) (hc : RoundTrip c) (T : Nat)
    (hT : legalThreshold T = true) (D : DigestFn (r + 1)) (cfg : MCfg) :
    ∀ (ops : List MOp) (x : (OMap r × Ctx) × St (MSSlab r) β), MGoodF c T D cfg x → RefsUniqueM x.1 →
      (∀ op ∈ ops, op.Ok T D) → MGoodF c T D cfg (runS c cfg x ops) ∧ RefsUniqueM (runS c cfg x ops).1 :=
  fun ops x hg hu hok =>
    foldl_sim (stepS c cfg) (fun (u : Unit) _ => u) (MOp.Ok T D) (fun x _ => MGoodF c T D cfg x ∧ RefsUniqueM x.1)
      (fun x _ op hop h => ⟨(mgoodF_stepS c hc T hT D cfg x h.1 op hop).1,
        (served_stepM hT x.1.1 x.1.2 h.1.model op hop).refsUnique hop h.1.refs h.1.created_le h.2⟩)
      ops x () hok ⟨hg, hu⟩

theorem refsUniqueM_new (c : Codec (MSSlab r) β) (addr ty : Nat) (seedOf : SlabID → Nat) :
    RefsUniqueM (newS c addr ty seedOf).1 :=
  ⟨List.nodup_nil, List.nodup_nil⟩

/-- the health-check view of the slab the storage must hold under `id` (the STORED form: data
    slabs stripped of their embedded groups) is the heap's entry -/
theorem mstored_toH (m : OMap r) (created : List (SlabID × Elem)) (id : SlabID) :
    (mstored m (AList.find? created) id).map (MSSlab.toH id) = AList.find? (mapHeap m created) id := by
  rw [mapHeap_eq, find?_treeHeap]
  unfold mstored OMap.slabAt
  cases AList.find? (MTree.slabs m.d m.root) id with
  | some s =>
    show some (⟨id, (stripView s).refs⟩ : HSlab) = _
    rw [stripView_refs]
    rfl
  | none => cases AList.find? created id <;> rfl

/-- From any state satisfying the history invariants (`MGoodF`, `RefsUniqueM`): the heap of the map
    has unique keys, is healthy, its roots are the map's root slab and the large-value slabs no
    value refers to, and it is what the storage holds at the owner's address. -/
theorem map_state_healthy (c : Codec (MSSlab r) β) (T : Nat) (D : DigestFn (r + 1)) (cfg : MCfg)
    (x : (OMap r × Ctx) × St (MSSlab r) β) (hg : MGoodF c T D cfg x) (hu : RefsUniqueM x.1) :
    (AList.keys (mapHeap x.1.1 x.1.2.created)).Nodup ∧
    Healthy (mapHeap x.1.1 x.1.2.created) (rootsOf (mapHeap x.1.1 x.1.2.created)) ∧
    (∀ id, id ∈ rootsOf (mapHeap x.1.1 x.1.2.created) ↔
      (id = x.1.1.rootID ∨ (id ∈ x.1.2.created.map (·.1) ∧ id ∉ valRefs x.1.1.toList))) ∧
    (∀ id, id.addr = x.1.1.addr →
      (x.2.view c id).map (MSSlab.toH id) = AList.find? (mapHeap x.1.1 x.1.2.created) id) := by
  obtain ⟨h1, h2, h3⟩ := mapHeap_healthy T D x.1.1 x.1.2.created hg.inv hg.ids hg.aok
    (fun p hp y hy => (AList.contains_iff_mem_keys _ _).1 (hg.refs p hp y hy))
    hu.1 hu.2
    (fun p hp => ⟨hg.caddr p hp, by
      have := (hg.rep.extra_fresh p.1 (find?_isSome_of_mem_keys (List.mem_map_of_mem hp))).1
      exact (mslabAt_isNone x.1.1 p.1).1 this⟩)
  refine ⟨h1, h2, h3, ?_⟩
  intro id hid
  rw [hg.rep.view id hid]
  exact mstored_toH _ _ id

/-- Any history from any `MGoodF` state with unique references (e.g. the state after a commit). -/
theorem map_run_healthy (c : Codec (MSSlab r) β) (hc : RoundTrip c) (T : Nat)
    (hT : legalThreshold T = true) (D : DigestFn (r + 1)) (cfg : MCfg)
    (x0 : (OMap r × Ctx) × St (MSSlab r) β) (hg : MGoodF c T D cfg x0) (hu : RefsUniqueM x0.1)
    (ops : List MOp) (hops : ∀ op ∈ ops, op.Ok T D) :
    let x := runS c cfg x0 ops
    let m := x.1.1
    let created := x.1.2.created
    (AList.keys (mapHeap m created)).Nodup ∧
    Healthy (mapHeap m created) (rootsOf (mapHeap m created)) ∧
    m.rootID ∈ rootsOf (mapHeap m created) ∧
    (∀ id, id ∈ rootsOf (mapHeap m created) ↔
      (id = m.rootID ∨ (id ∈ created.map (·.1) ∧ id ∉ valRefs m.toList))) ∧
    (∀ id, id.addr = x0.1.1.addr →
      (x.2.view c id).map (MSSlab.toH id) = AList.find? (mapHeap m created) id) ∧
    RefsUniqueM x.1 := by
  intro x m created
  obtain ⟨g, u⟩ := refsUniqueM_runS c hc T hT D cfg ops x0 hg hu hops
  obtain ⟨_, _, rid, _⟩ := mgoodF_runS c hc T hT D cfg ops x0 hg hops
  obtain ⟨h1, h2, h3, h4⟩ := map_state_healthy c T D cfg x g u
  have haddr : m.addr = x0.1.1.addr := by
    show x.1.1.rootID.addr = x0.1.1.rootID.addr
    rw [rid]
  refine ⟨h1, h2, (h3 _).2 (Or.inl rfl), h3, ?_, u⟩
  intro id hid
  exact h4 id (hid.trans haddr.symm)

/-- The storage of any valid map history is healthy.  For every list of requests (set / remove /
    popIterate / setType; keys of any digests — the digest function `D` is arbitrary —, values of
    any size ≥ 1; rejected requests change nothing) starting from `NewMap` on an empty storage: the
    heap made of the slabs of the map's tree (data slabs, index slabs, external collision-group
    slabs) and of the large-value slabs created so far has unique keys, is `Healthy`, the map's
    root slab is one of its roots, and — slab by slab — it is what the storage holds at the
    owner's address. -/
theorem map_history_healthy (c : Codec (MSSlab r) β) (hc : RoundTrip c) (T : Nat)
    (hT : legalThreshold T = true) (D : DigestFn (r + 1)) (cfg : MCfg) (hcT : cfg.T = T)
    (hcL : cfg.L = r + 1) (haddr : cfg.addr ≠ 0) (ty : Nat) (seedOf : SlabID → Nat)
    (ops : List MOp) (hops : ∀ op ∈ ops, op.Ok T D) :
    let x := runS c cfg (newS c cfg.addr ty seedOf) ops
    let m := x.1.1
    let created := x.1.2.created
    (AList.keys (mapHeap m created)).Nodup ∧
    Healthy (mapHeap m created) (rootsOf (mapHeap m created)) ∧
    m.rootID ∈ rootsOf (mapHeap m created) ∧
    (∀ id, id.addr = cfg.addr →
      (x.2.view c id).map (MSSlab.toH id) = AList.find? (mapHeap m created) id) := by
  intro x m created
  obtain ⟨g0, r0, _⟩ := mgoodF_new c hc T hT D cfg hcT hcL haddr ty seedOf
  obtain ⟨h1, h2, h3, _, h5, _⟩ :=
    map_run_healthy c hc T hT D cfg (newS c cfg.addr ty seedOf) g0 (refsUniqueM_new c cfg.addr ty seedOf)
      ops hops
  refine ⟨h1, h2, h3, ?_⟩
  intro id hid
  refine h5 id ?_
  show id.addr = (newS c cfg.addr ty seedOf).1.1.rootID.addr
  rw [r0]; exact hid

/-- the roots after a history: the map's root slab and the orphaned large-value slabs -/
theorem map_history_roots (c : Codec (MSSlab r) β) (hc : RoundTrip c) (T : Nat)
    (hT : legalThreshold T = true) (D : DigestFn (r + 1)) (cfg : MCfg) (hcT : cfg.T = T)
    (hcL : cfg.L = r + 1) (haddr : cfg.addr ≠ 0) (ty : Nat) (seedOf : SlabID → Nat)
    (ops : List MOp) (hops : ∀ op ∈ ops, op.Ok T D) :
    let x := runS c cfg (newS c cfg.addr ty seedOf) ops
    let m := x.1.1
    let created := x.1.2.created
    ∀ id, id ∈ rootsOf (mapHeap m created) ↔
      (id = ⟨cfg.addr, 1⟩ ∨ (id ∈ created.map (·.1) ∧ id ∉ valRefs m.toList)) := by
  intro x m created
  obtain ⟨g0, r0, _⟩ := mgoodF_new c hc T hT D cfg hcT hcL haddr ty seedOf
  obtain ⟨_, _, _, h4, _, _⟩ :=
    map_run_healthy c hc T hT D cfg (newS c cfg.addr ty seedOf) g0 (refsUniqueM_new c cfg.addr ty seedOf)
      ops hops
  obtain ⟨_, _, rid, _⟩ := mgoodF_runS c hc T hT D cfg ops (newS c cfg.addr ty seedOf) g0 hops
  intro id
  rw [h4 id]
  show (id = x.1.1.rootID ∨ _) ↔ _
  rw [rid, r0]

/-- Hence `CheckStorageHealth` (with the right expected root count, or `-1`) ACCEPTS the storage of
    every valid map history, and returns exactly the roots: the map's root slab and the orphaned
    large-value slabs. -/
theorem map_history_check_accepts (c : Codec (MSSlab r) β) (hc : RoundTrip c) (T : Nat)
    (hT : legalThreshold T = true) (D : DigestFn (r + 1)) (cfg : MCfg) (hcT : cfg.T = T)
    (hcL : cfg.L = r + 1) (haddr : cfg.addr ≠ 0) (ty : Nat) (seedOf : SlabID → Nat)
    (ops : List MOp) (hops : ∀ op ∈ ops, op.Ok T D) :
    let x := runS c cfg (newS c cfg.addr ty seedOf) ops
    let h := mapHeap x.1.1 x.1.2.created
    ∃ R, Health.check h none = .ok R ∧ Health.check h (some (rootsOf h).length) = .ok R ∧
      (∀ id, id ∈ R ↔ id ∈ rootsOf h) ∧ R.length = (rootsOf h).length := by
  intro x h
  obtain ⟨h1, h2, _, _⟩ := map_history_healthy c hc T hT D cfg hcT hcL haddr ty seedOf ops hops
  exact Health.check_accepts_rootsOf h h1 h2

/-! ### Non-vacuity

`mhist` / `xM` of `Props/E2EMap.lean` (two digest levels, T = 256, identity codec, owner address 7;
19 `set`s, a `remove`, a value of 5000 bytes, a rejected removal, `SetType`): an index slab 7.1 over
the data slabs 7.3 and 7.4; data slab 7.3 refers to the external collision-group slab 7.2; the value
of key 999 (in 7.4) is a reference to the LARGE-VALUE slab 7.5.  `mhist2` then overwrites that
value: slab 7.5 stays in storage, unreferenced, and becomes a second root. -/
section NonVacuity
open MapExample

/-- overwrite the large value -/
def mhist2 : List MOp := mhist ++ [.set (key 999) (val 20)]

theorem mhist2_ok : ∀ op ∈ mhist2, op.Ok 256 D2 := by
  intro op hop
  rcases List.mem_append.1 hop with h | h
  · exact mhist_ok op h
  · simp only [List.mem_singleton] at h
    subst h
    exact ⟨key_ok _, val_ok _⟩

def xM2 : (OMap 1 × Ctx) × St (MSSlab 1) (MSSlab 1) :=
  runS idCodecM cfg2 (newS idCodecM cfg2.addr 0 (fun id => id.idx)) mhist2

/-- the theorem applies to `mhist` … -/
example :
    (AList.keys (mapHeap xM.1.1 xM.1.2.created)).Nodup ∧
    Healthy (mapHeap xM.1.1 xM.1.2.created) (rootsOf (mapHeap xM.1.1 xM.1.2.created)) ∧
    xM.1.1.rootID ∈ rootsOf (mapHeap xM.1.1 xM.1.2.created) ∧
    (∀ id, id.addr = 7 → (xM.2.view idCodecM id).map (MSSlab.toH id)
      = AList.find? (mapHeap xM.1.1 xM.1.2.created) id) :=
  map_history_healthy idCodecM idCodecM_roundTrip 256 legal256 D2 cfg2 rfl rfl (by decide) 0
    (fun id => id.idx) mhist mhist_ok

/-- The heaps after `mhist` and after `mhist2`, by evaluation (one conjunction, so that the common
    history is evaluated once); the `rootsOf` / `Health.check` examples below are computed from
    these ten entries. -/
theorem xM_heap :
    mapHeap xM.1.1 xM.1.2.created =
      [(⟨7, 1⟩, ⟨⟨7, 1⟩, [⟨7, 3⟩, ⟨7, 4⟩]⟩), (⟨7, 3⟩, ⟨⟨7, 3⟩, [⟨7, 2⟩]⟩), (⟨7, 2⟩, ⟨⟨7, 2⟩, []⟩),
       (⟨7, 4⟩, ⟨⟨7, 4⟩, [⟨7, 5⟩]⟩), (⟨7, 5⟩, ⟨⟨7, 5⟩, []⟩)] ∧
    mapHeap xM2.1.1 xM2.1.2.created =
      [(⟨7, 1⟩, ⟨⟨7, 1⟩, [⟨7, 3⟩, ⟨7, 4⟩]⟩), (⟨7, 3⟩, ⟨⟨7, 3⟩, [⟨7, 2⟩]⟩), (⟨7, 2⟩, ⟨⟨7, 2⟩, []⟩),
       (⟨7, 4⟩, ⟨⟨7, 4⟩, []⟩), (⟨7, 5⟩, ⟨⟨7, 5⟩, []⟩)] := by decide +kernel

/-- … whose heap is: -/
example : mapHeap xM.1.1 xM.1.2.created =
    [(⟨7, 1⟩, ⟨⟨7, 1⟩, [⟨7, 3⟩, ⟨7, 4⟩]⟩), (⟨7, 3⟩, ⟨⟨7, 3⟩, [⟨7, 2⟩]⟩), (⟨7, 2⟩, ⟨⟨7, 2⟩, []⟩),
     (⟨7, 4⟩, ⟨⟨7, 4⟩, [⟨7, 5⟩]⟩), (⟨7, 5⟩, ⟨⟨7, 5⟩, []⟩)] := xM_heap.1
example : rootsOf (mapHeap xM.1.1 xM.1.2.created) = [⟨7, 1⟩] := by rw [xM_heap.1]; decide +kernel
/-- `CheckStorageHealth(storage, 1)` accepts it (and rejects any other root count) -/
example : Health.check (mapHeap xM.1.1 xM.1.2.created) (some 1) = .ok [⟨7, 1⟩] := by
  rw [xM_heap.1]; decide +kernel
example : Health.check (mapHeap xM.1.1 xM.1.2.created) (some 2) = .error .rootCount := by
  rw [xM_heap.1]; decide +kernel
/-- the storage holds exactly these slabs at address 7 (the stored data slab 7.3 is the STRIPPED
    one: its `.ext` element carries the ID 7.2 but not the group) -/
example : ([1, 2, 3, 4, 5, 6].map (fun i => (xM.2.view idCodecM ⟨7, i⟩).map (MSSlab.toH ⟨7, i⟩)))
    = [1, 2, 3, 4, 5, 6].map (fun i => AList.find? (mapHeap xM.1.1 xM.1.2.created) ⟨7, i⟩) :=
  List.map_congr_left fun i _ =>
    (map_history_healthy idCodecM idCodecM_roundTrip 256 legal256 D2 cfg2 rfl rfl (by decide) 0
      (fun id => id.idx) mhist mhist_ok).2.2.2 ⟨7, i⟩ rfl

example :
    (AList.keys (mapHeap xM2.1.1 xM2.1.2.created)).Nodup ∧
    Healthy (mapHeap xM2.1.1 xM2.1.2.created) (rootsOf (mapHeap xM2.1.1 xM2.1.2.created)) ∧
    xM2.1.1.rootID ∈ rootsOf (mapHeap xM2.1.1 xM2.1.2.created) ∧
    (∀ id, id.addr = 7 → (xM2.2.view idCodecM id).map (MSSlab.toH id)
      = AList.find? (mapHeap xM2.1.1 xM2.1.2.created) id) := by
  unfold xM2
  exact map_history_healthy idCodecM idCodecM_roundTrip 256 legal256 D2 cfg2 rfl rfl (by decide) 0
    (fun id => id.idx) mhist2 mhist2_ok

/-- the large-value slab 7.5 is still stored, nobody refers to it: a second root -/
example : mapHeap xM2.1.1 xM2.1.2.created =
    [(⟨7, 1⟩, ⟨⟨7, 1⟩, [⟨7, 3⟩, ⟨7, 4⟩]⟩), (⟨7, 3⟩, ⟨⟨7, 3⟩, [⟨7, 2⟩]⟩), (⟨7, 2⟩, ⟨⟨7, 2⟩, []⟩),
     (⟨7, 4⟩, ⟨⟨7, 4⟩, []⟩), (⟨7, 5⟩, ⟨⟨7, 5⟩, []⟩)] := xM_heap.2
example : Health.check (mapHeap xM2.1.1 xM2.1.2.created) (some 2) = .ok [⟨7, 5⟩, ⟨7, 1⟩] := by
  rw [xM_heap.2]; decide +kernel
example : Health.check (mapHeap xM2.1.1 xM2.1.2.created) (some 1) = .error .rootCount := by
  rw [xM_heap.2]; decide +kernel
example : rootsOf (mapHeap xM2.1.1 xM2.1.2.created) = [⟨7, 1⟩, ⟨7, 5⟩] := by
  rw [xM_heap.2]; decide +kernel
example : ∀ id, id ∈ rootsOf (mapHeap xM2.1.1 xM2.1.2.created) ↔
    (id = ⟨7, 1⟩ ∨ (id ∈ xM2.1.2.created.map (·.1) ∧ id ∉ valRefs xM2.1.1.toList)) := by
  unfold xM2
  exact map_history_roots idCodecM idCodecM_roundTrip 256 legal256 D2 cfg2 rfl rfl (by decide) 0
    (fun id => id.idx) mhist2 mhist2_ok
example := map_history_check_accepts idCodecM idCodecM_roundTrip 256 legal256 D2 cfg2 rfl rfl (by decide) 0
  (fun id => id.idx) mhist2 mhist2_ok

end NonVacuity

end Atree.E2EM

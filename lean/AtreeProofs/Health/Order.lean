import AtreeProofs.Health.Check
/-
  C20 helper lemmas: the outcome of `Health.check` does not depend on the ORDER in which the
  slabs are visited (Go iterates maps in random order; the model iterates the association list).

  `check_order_independent`: for two orders `h ~ h'` of one heap with unique keys
    * if one run accepts, so does the other, with the same set of roots;
    * if both fail and neither diverges, the SAME check fired.
  This is what allows the replayer to compare error kinds exactly.  (Divergence is the only outcome
  that can compete with another one: an owner mismatch on one parent chain and a reference cycle on
  another are met in iteration order.)
-/
namespace Atree
namespace Health

theorem scanRefs_error (id : SlabID) (rs : List SlabID) (po : AList SlabID SlabID) (e : HErr)
    (h : scanRefs id rs po = .error e) : e = .twoParents := by
  induction rs generalizing po with
  | nil => simp [scanRefs] at h
  | cons r rs ih =>
    rw [scanRefs] at h
    split at h
    · cases h; rfl
    · exact ih _ h

theorem scan_error (h : Heap) (po : AList SlabID SlabID) (lv : List SlabID) (e : HErr)
    (hs : scan h po lv = .error e) : e = .twoParents := by
  induction h generalizing po lv with
  | nil => simp [scan] at hs
  | cons p rest ih =>
    obtain ⟨id, s⟩ := p
    rw [scan] at hs
    split at hs
    · rename_i e' he
      cases hs
      exact scanRefs_error _ _ _ _ he
    · exact ih _ _ hs

theorem scan_of_not_nodup (h : Heap) (hn : ¬ (targets h).Nodup) :
    scan h [] [] = .error .twoParents := by
  cases hs : scan h [] [] with
  | error e => rw [scan_error _ _ _ _ hs]
  | ok r =>
    obtain ⟨po, lv⟩ := r
    exact absurd (scan_ok _ _ _ _ _ hs).1 hn

variable {h : Heap} {po : AList SlabID SlabID}

theorem climb_error_kind (hpo : IsParentMap h po) (fuel : Nat) (x : SlabID) (v rts : List SlabID)
    (e : HErr) (hx : x ∈ AList.keys h) (herr : climb h po fuel x v rts = .error e) :
    e = .owner ∨ e = .diverges := by
  induction fuel generalizing x v with
  | zero =>
    simp only [climb, Except.error.injEq] at herr
    exact Or.inr herr.symm
  | succ fuel ih =>
    rw [climb] at herr
    split at herr
    · cases herr
    · rename_i p hpx
      have hedge : (p, x) ∈ edges h := (hpo x p).mp hpx
      have hpk : p ∈ AList.keys h := source_mem_keys h p x hedge
      split at herr
      · rename_i c ps hc hp
        split at herr
        · cases herr; exact Or.inl rfl
        · exact ih p _ hpk herr
      · rename_i hnot
        exfalso
        obtain ⟨c, hc⟩ := (AList.contains_iff_find h x).mp ((AList.contains_iff_mem_keys h x).mpr hx)
        obtain ⟨ps, hp⟩ := (AList.contains_iff_find h p).mp ((AList.contains_iff_mem_keys h p).mpr hpk)
        exact hnot c ps hc hp

/-- the second loop either succeeds - exactly when every leaf has a parent chain that passes the
    owner test and ends in a root - or fails with `owner` or `diverges` -/
theorem climbAll_cases (hk : (AList.keys h).Nodup) (hpo : IsParentMap h po) (lv v rts : List SlabID)
    (hsub : ∀ leaf ∈ lv, leaf ∈ leavesOf h) (hnd : lv.Nodup) (hnv : ∀ leaf ∈ lv, leaf ∉ v) :
    ((∀ leaf ∈ lv, ∃ l r, Chain h po leaf l r) →
      ∃ v' r', climbAll h po lv v rts = .ok (v', r')) ∧
    (¬ (∀ leaf ∈ lv, ∃ l r, Chain h po leaf l r) →
      climbAll h po lv v rts = .error .owner ∨ climbAll h po lv v rts = .error .diverges) := by
  constructor
  · intro hch
    refine climbAll_succeeds lv v rts hnd hnv
      (fun leaf hl c => leaf_not_parent hk hpo (hsub leaf hl) c) ?_
    intro leaf hl
    obtain ⟨l, r, hc⟩ := hch leaf hl
    exact ⟨l, r, hc, Nat.le_of_lt (hc.length_lt (leaf_mem_keys leaf (hsub leaf hl)))⟩
  · intro hnch
    induction lv generalizing v rts with
    | nil => exact absurd (fun leaf hl => by cases hl) hnch
    | cons leaf rest ih =>
      rw [List.nodup_cons] at hnd
      have hnc : v.contains leaf = false := by
        have := hnv leaf (List.mem_cons_self ..)
        simpa using this
      rw [climbAll]
      simp only [hnc, Bool.false_eq_true, if_false]
      cases hcl : climb h po (h.length + 1) leaf (leaf :: v) rts with
      | error e =>
        simp only
        rcases climb_error_kind hpo _ _ _ _ e
          (leaf_mem_keys leaf (hsub leaf (List.mem_cons_self ..))) hcl with rfl | rfl
        · exact Or.inl rfl
        · exact Or.inr rfl
      | ok res =>
        obtain ⟨v1, r1⟩ := res
        simp only
        obtain ⟨l, r, hc, _, hv1, _⟩ := climb_sound _ _ _ _ _ _ hcl
        refine ih _ _ (fun lf hlf => hsub lf (List.mem_cons_of_mem _ hlf)) hnd.2 ?_ ?_
        · rw [hv1]
          exact hc.rest_unvisited hnd.1 (fun lf hlf => hnv lf (List.mem_cons_of_mem _ hlf))
            fun lf hlf => leaf_not_parent hk hpo (hsub lf (List.mem_cons_of_mem _ hlf))
        · intro hall
          apply hnch
          intro lf hlf
          rcases List.mem_cons.mp hlf with rfl | hlf
          · exact ⟨l, r, hc⟩
          · exact hall lf hlf

theorem edges_perm {h h' : Heap} (hp : h.Perm h') : (edges h).Perm (edges h') := by
  unfold edges
  exact hp.flatMap_right _

theorem leavesOf_perm {h h' : Heap} (hp : h.Perm h') : (leavesOf h).Perm (leavesOf h') := by
  unfold leavesOf
  exact (hp.filter _).map _

theorem Chain.transfer {h h' : Heap} {po po' : AList SlabID SlabID}
    (hf : ∀ k, AList.find? h' k = AList.find? h k) (hpf : ∀ c, AList.find? po' c = AList.find? po c)
    {x r : SlabID} {l : List SlabID} (hc : Chain h po x l r) : Chain h' po' x l r := by
  induction hc with
  | root hx => exact Chain.root (by rw [hpf]; exact hx)
  | step hx hfc hfp ho _ ih =>
    exact Chain.step (by rw [hpf]; exact hx) (by rw [hf]; exact hfc) (by rw [hf]; exact hfp) ho ih

theorem Chain.congr {h h' : Heap} {po po' : AList SlabID SlabID}
    (hf : ∀ k, AList.find? h' k = AList.find? h k) (hpf : ∀ c, AList.find? po' c = AList.find? po c)
    {x r : SlabID} {l : List SlabID} : Chain h' po' x l r ↔ Chain h po x l r :=
  ⟨Chain.transfer (fun k => (hf k).symm) (fun c => (hpf c).symm), Chain.transfer hf hpf⟩

theorem allResolve_transfer {h h' : Heap} {po po' : AList SlabID SlabID}
    (hf : ∀ k, AList.find? h' k = AList.find? h k) (hpf : ∀ c, AList.find? po' c = AList.find? po c)
    (hr : allResolve h po = true) : allResolve h' po' = true := by
  rw [allResolve_iff] at hr ⊢
  intro c p hcp
  rw [hpf] at hcp
  have := hr c p hcp
  rw [AList.contains_eq] at this ⊢
  rw [hf]
  exact this

/-- two outcomes that are the same error compare as `check_order_one_way` wants -/
theorem same_outcome_of_error {A B : Except HErr (List SlabID)} {x : HErr} (h1 : A = .error x)
    (h2 : B = .error x) :
    (∀ R, A = .ok R → ∃ R', B = .ok R' ∧ ∀ id, id ∈ R' ↔ id ∈ R) ∧
    (∀ k k', A = .error k → B = .error k' → k ≠ .diverges → k' ≠ .diverges → k' = k) := by
  subst h1 h2
  exact ⟨fun R hR => (by cases hR), fun k k' hk1 hk2 _ _ => by cases hk1; cases hk2; rfl⟩

/-- so do two successes with the same set of roots -/
theorem same_outcome_of_ok {A B : Except HErr (List SlabID)} {r r' : List SlabID} (h1 : A = .ok r)
    (h2 : B = .ok r') (hm : ∀ id, id ∈ r' ↔ id ∈ r) :
    (∀ R, A = .ok R → ∃ R', B = .ok R' ∧ ∀ id, id ∈ R' ↔ id ∈ R) ∧
    (∀ k k', A = .error k → B = .error k' → k ≠ .diverges → k' ≠ .diverges → k' = k) := by
  subst h1 h2
  exact ⟨fun R hR => (by cases hR; exact ⟨r', rfl, hm⟩), fun k k' hk1 _ _ _ => by cases hk1⟩

/-- one direction of the comparison (the statement is symmetric in the two orders) -/
theorem check_order_one_way (h h' : Heap) (hk : (AList.keys h).Nodup) (hp : h.Perm h')
    (e : Option Nat) :
    (∀ R, check h e = .ok R → ∃ R', check h' e = .ok R' ∧ ∀ id, id ∈ R' ↔ id ∈ R) ∧
    (∀ k k', check h e = .error k → check h' e = .error k' → k ≠ .diverges → k' ≠ .diverges → k' = k) := by
  have hkp : (AList.keys h).Perm (AList.keys h') := hp.map _
  have hk' : (AList.keys h').Nodup := hkp.nodup_iff.mp hk
  have hf : ∀ k, AList.find? h' k = AList.find? h k := fun k => (AList.find?_perm hp hk' k).symm
  have hep := edges_perm hp
  have htp : (targets h).Perm (targets h') := hep.map _
  have hlen : h'.length = h.length := hp.length_eq.symm
  by_cases hnd : ¬ (targets h).Nodup
  · -- a slab with two parents: the first loop fails, whatever the order
    exact same_outcome_of_error (check_of_scan_error h e _ (scan_of_not_nodup h hnd))
      (check_of_scan_error h' e _ (scan_of_not_nodup h' (fun hn => hnd (htp.nodup_iff.mpr hn))))
  · have hnd : (targets h).Nodup := Classical.not_not.mp hnd
    obtain ⟨po, lv, hs⟩ := scan_succeeds h [] [] hnd (by intro t _; rfl)
    obtain ⟨po', lv', hs'⟩ := scan_succeeds h' [] [] (htp.nodup_iff.mp hnd) (by intro t _; rfl)
    obtain ⟨_, hpo, rfl⟩ := scan_result hs
    obtain ⟨_, hpo', rfl⟩ := scan_result hs'
    have hpf : ∀ c, AList.find? po' c = AList.find? po c := by
      intro c
      cases hx : AList.find? po c with
      | some p => exact (hpo' c p).mpr (hep.mem_iff.mp ((hpo c p).mp hx))
      | none =>
        cases hx' : AList.find? po' c with
        | none => rfl
        | some p =>
          have := (hpo c p).mpr (hep.mem_iff.mpr ((hpo' c p).mp hx'))
          rw [hx] at this
          cases this
    have hpf' : ∀ c, AList.find? po c = AList.find? po' c := fun c => (hpf c).symm
    have hf' : ∀ k, AList.find? h k = AList.find? h' k := fun k => (hf k).symm
    cases hr : allResolve h po with
    | false =>
      -- a reference to a slab that is not there
      have hr' : allResolve h' po' = false := by
        cases hx : allResolve h' po' with
        | false => rfl
        | true => rw [allResolve_transfer hf' hpf' hx] at hr; cases hr
      exact same_outcome_of_error (check_of_unresolved h e po _ hs hr)
        (check_of_unresolved h' e po' _ hs' hr')
    | true =>
      have hr' := allResolve_transfer hf hpf hr
      have hlp := leavesOf_perm hp
      have hc1 := climbAll_cases hk hpo (leavesOf h) [] [] (fun _ hl => hl) (leavesOf_nodup h hk)
        (fun _ _ hm => by cases hm)
      have hc2 := climbAll_cases hk' hpo' (leavesOf h') [] [] (fun _ hl => hl) (leavesOf_nodup h' hk')
        (fun _ _ hm => by cases hm)
      by_cases hch : ¬ ∀ leaf ∈ leavesOf h, ∃ l r, Chain h po leaf l r
      · -- some leaf has no admissible parent chain: owner mismatch or cycle, in both orders
        have hch' : ¬ ∀ leaf ∈ leavesOf h', ∃ l r, Chain h' po' leaf l r := by
          simpa only [Chain.congr hf hpf, ← hlp.mem_iff] using hch
        have e1 := hc1.2 hch
        have e2 := hc2.2 hch'
        refine ⟨fun R hR => ?_, fun k k' hk1 hk2 hn1 hn2 => ?_⟩
        · rcases e1 with e1 | e1 <;> rw [check_of_climb_error h e po _ _ hs hr e1] at hR <;> cases hR
        · have a1 : k = .owner := by
            rcases e1 with e1 | e1 <;> rw [check_of_climb_error h e po _ _ hs hr e1] at hk1 <;> cases hk1
            · rfl
            · exact absurd rfl hn1
          have a2 : k' = .owner := by
            rcases e2 with e2 | e2 <;> rw [check_of_climb_error h' e po' _ _ hs' hr' e2] at hk2 <;> cases hk2
            · rfl
            · exact absurd rfl hn2
          rw [a1, a2]
      · -- both second loops succeed; what they visit and the roots they find are the same sets
        have hch : ∀ leaf ∈ leavesOf h, ∃ l r, Chain h po leaf l r := Classical.not_not.mp hch
        have hch' : ∀ leaf ∈ leavesOf h', ∃ l r, Chain h' po' leaf l r := by
          simpa only [Chain.congr hf hpf, ← hlp.mem_iff] using hch
        obtain ⟨v, r, hcl⟩ := hc1.1 hch
        obtain ⟨v', r', hcl'⟩ := hc2.1 hch'
        obtain ⟨hv, hrm, hvn, hrn, _⟩ := climbAll_leaves hcl
        obtain ⟨hv', hrm', hvn', hrn', _⟩ := climbAll_leaves hcl'
        have hvmem : ∀ x, x ∈ v' ↔ x ∈ v := fun x => by
          simp only [hv x, hv' x, Chain.congr hf hpf, ← hlp.mem_iff]
        have hrmem : ∀ x, x ∈ r' ↔ x ∈ r := fun x => by
          simp only [hrm x, hrm' x, Chain.congr hf hpf, ← hlp.mem_iff]
        have hvl : v'.length = v.length :=
          ((List.perm_ext_iff_of_nodup hvn' hvn).mpr hvmem).length_eq
        have hrl : r'.length = r.length :=
          ((List.perm_ext_iff_of_nodup hrn' hrn).mpr hrmem).length_eq
        have h1 := check_of_climb_ok h e po _ v r hs hr hcl
        have h2 := check_of_climb_ok h' e po' _ v' r' hs' hr' hcl'
        rw [hvl, hlen, hrl] at h2
        by_cases hun : v.length ≠ h.length
        · rw [if_pos hun] at h1 h2
          exact same_outcome_of_error h1 h2
        · rw [if_neg hun] at h1 h2
          cases e with
          | none =>
            exact same_outcome_of_ok h1 h2 hrmem
          | some n =>
            simp only at h1 h2
            by_cases hcnt : r.length ≠ n
            · rw [if_pos hcnt] at h1 h2
              exact same_outcome_of_error h1 h2
            · rw [if_neg hcnt] at h1 h2
              exact same_outcome_of_ok h1 h2 hrmem

/-- Order independence.  Two orders of one heap with unique keys: the check accepts both or
    neither, with the same set of roots; and when both runs fail without diverging, the same check
    fired. -/
theorem check_order_independent (h h' : Heap) (hk : (AList.keys h).Nodup) (hp : h.Perm h')
    (e : Option Nat) :
    (∀ R, check h e = .ok R → ∃ R', check h' e = .ok R' ∧ ∀ id, id ∈ R' ↔ id ∈ R) ∧
    (∀ R', check h' e = .ok R' → ∃ R, check h e = .ok R ∧ ∀ id, id ∈ R ↔ id ∈ R') ∧
    (∀ k k', check h e = .error k → check h' e = .error k' → k ≠ .diverges → k' ≠ .diverges → k' = k) := by
  have hk' : (AList.keys h').Nodup := (hp.map _).nodup_iff.mp hk
  obtain ⟨a1, a2⟩ := check_order_one_way h h' hk hp e
  obtain ⟨b1, _⟩ := check_order_one_way h' h hk' hp.symm e
  exact ⟨a1, b1, a2⟩

end Health
end Atree

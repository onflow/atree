import AtreeProofs.HealthSpec
import AtreeProofs.AListLemmas
/-
  C20 helper lemmas: list facts, `edges`/`targets`, and the exact behaviour of the first
  loop of the health check (`scanRefs`, `scan`, `allResolve`).
-/
namespace Atree
namespace Health

theorem subset_of_nodup_length_le {α : Type} {l₁ l₂ : List α} (h₁ : l₁.Nodup) (hsub : l₁ ⊆ l₂)
    (hlen : l₂.length ≤ l₁.length) : l₂ ⊆ l₁ := by
  intro x hx
  apply Classical.byContradiction
  intro hnx
  have hnd : (x :: l₁).Nodup := List.nodup_cons.mpr ⟨hnx, h₁⟩
  have hs : (x :: l₁) ⊆ l₂ := by
    intro y hy
    rcases List.mem_cons.mp hy with rfl | hy
    · exact hx
    · exact hsub hy
  have := hnd.length_le_of_subset hs
  simp at this
  omega

theorem eq_of_nodup_map {α β : Type} (f : α → β) {l : List α} (h : (l.map f).Nodup) {x y : α}
    (hx : x ∈ l) (hy : y ∈ l) (hf : f x = f y) : x = y := by
  induction l with
  | nil => cases hx
  | cons a t ih =>
    rw [List.map_cons, List.nodup_cons] at h
    rcases List.mem_cons.mp hx with hxa | hxt <;> rcases List.mem_cons.mp hy with hya | hyt
    · rw [hxa, hya]
    · subst hxa
      exact absurd (hf ▸ List.mem_map_of_mem hyt) h.1
    · subst hya
      exact absurd (hf ▸ List.mem_map_of_mem hxt) h.1
    · exact ih h.2 hxt hyt

/-- the referenced slab IDs, in heap order -/
def targets (h : Heap) : List SlabID := (edges h).map (·.2)

theorem targets_def (h : Heap) : (edges h).map (·.2) = targets h := rfl

/-- the two clauses of `Healthy` that speak of the referenced IDs, over `targets` -/
theorem Healthy.mem_roots {h : Heap} {R : List SlabID} (hh : Healthy h R) (id : SlabID) :
    id ∈ R ↔ (AList.contains h id = true ∧ id ∉ targets h) := hh.roots_iff id

theorem Healthy.targets_nodup {h : Heap} {R : List SlabID} (hh : Healthy h R) : (targets h).Nodup :=
  hh.single

@[simp] theorem edges_nil : edges [] = [] := rfl

theorem edges_cons (id : SlabID) (s : HSlab) (rest : Heap) :
    edges ((id, s) :: rest) = s.refs.map (fun r => (id, r)) ++ edges rest := by
  simp [edges]

@[simp] theorem targets_nil : targets [] = [] := rfl

theorem targets_cons (id : SlabID) (s : HSlab) (rest : Heap) :
    targets ((id, s) :: rest) = s.refs ++ targets rest := by
  simp [targets, edges_cons, List.map_map, Function.comp_def]

theorem mem_edges (h : Heap) (p c : SlabID) :
    (p, c) ∈ edges h ↔ ∃ s, (p, s) ∈ h ∧ c ∈ s.refs := by
  simp only [edges, List.mem_flatMap, List.mem_map, Prod.mk.injEq]
  constructor
  · rintro ⟨⟨k, s⟩, hm, r, hr, rfl, rfl⟩
    exact ⟨s, hm, hr⟩
  · rintro ⟨s, hm, hr⟩
    exact ⟨(p, s), hm, c, hr, rfl, rfl⟩

theorem mem_edges_find (h : Heap) (hk : (AList.keys h).Nodup) (p c : SlabID) :
    (p, c) ∈ edges h ↔ ∃ s, AList.find? h p = some s ∧ c ∈ s.refs := by
  rw [mem_edges]
  constructor
  · rintro ⟨s, hm, hr⟩
    exact ⟨s, (AList.mem_iff_find? h hk p s).mp hm, hr⟩
  · rintro ⟨s, hm, hr⟩
    exact ⟨s, (AList.mem_iff_find? h hk p s).mpr hm, hr⟩

theorem mem_targets (h : Heap) (c : SlabID) : c ∈ targets h ↔ ∃ p, (p, c) ∈ edges h := by
  simp only [targets, List.mem_map]
  constructor
  · rintro ⟨⟨p, c'⟩, hm, rfl⟩
    exact ⟨p, hm⟩
  · rintro ⟨p, hm⟩
    exact ⟨(p, c), hm, rfl⟩

theorem source_mem_keys (h : Heap) (p c : SlabID) (he : (p, c) ∈ edges h) : p ∈ AList.keys h := by
  obtain ⟨s, hm, _⟩ := (mem_edges h p c).mp he
  exact List.mem_map.mpr ⟨(p, s), hm, rfl⟩

/-- with unique targets every slab has at most one parent -/
theorem parent_unique (h : Heap) (hs : (targets h).Nodup) {a b c : SlabID}
    (ha : (a, c) ∈ edges h) (hb : (b, c) ∈ edges h) : a = b := by
  have := eq_of_nodup_map (fun e : SlabID × SlabID => e.2) (l := edges h) hs ha hb rfl
  exact congrArg Prod.fst this

theorem scanRefs_ok (id : SlabID) (rs : List SlabID) (po po' : AList SlabID SlabID)
    (hok : scanRefs id rs po = .ok po') :
    rs.Nodup ∧ (∀ r ∈ rs, AList.find? po r = none) ∧
      ∀ c, AList.find? po' c = if c ∈ rs then some id else AList.find? po c := by
  induction rs generalizing po with
  | nil =>
    simp only [scanRefs, Except.ok.injEq] at hok
    subst hok
    simp
  | cons r rs ih =>
    rw [scanRefs] at hok
    split at hok
    · cases hok
    · rename_i hc
      obtain ⟨hnd, hnone, hfind⟩ := ih _ hok
      have hr : AList.find? po r = none := by
        rw [AList.contains_eq] at hc
        cases hf : AList.find? po r <;> simp_all
      have hr' : r ∉ rs := by
        intro hmem
        have := hnone r hmem
        rw [AList.find?_insert] at this
        simp at this
      refine ⟨List.nodup_cons.mpr ⟨hr', hnd⟩, ?_, ?_⟩
      · intro x hx
        rcases List.mem_cons.mp hx with rfl | hx
        · exact hr
        · have := hnone x hx
          rw [AList.find?_insert] at this
          split at this
          · cases this
          · exact this
      · intro c
        rw [hfind c, AList.find?_insert]
        by_cases h1 : c ∈ rs
        · simp [h1]
        · by_cases h2 : r = c
          · subst h2; simp [h1]
          · have h3 : ¬ c = r := fun e => h2 e.symm
            simp [h1, h2, h3]

theorem scanRefs_succeeds (id : SlabID) (rs : List SlabID) (po : AList SlabID SlabID)
    (hnd : rs.Nodup) (hnone : ∀ r ∈ rs, AList.find? po r = none) :
    ∃ po', scanRefs id rs po = .ok po' := by
  induction rs generalizing po with
  | nil => exact ⟨po, rfl⟩
  | cons r rs ih =>
    rw [List.nodup_cons] at hnd
    have hr : AList.contains po r = false := by
      rw [AList.contains_eq, hnone r (List.mem_cons_self ..)]; rfl
    rw [scanRefs]
    simp only [hr, Bool.false_eq_true, if_false]
    apply ih _ hnd.2
    intro x hx
    rw [AList.find?_insert]
    have : r ≠ x := fun e => hnd.1 (e ▸ hx)
    simp [this, hnone x (List.mem_cons_of_mem _ hx)]

/-- keys of the slabs without references, in heap order -/
def leavesOf (h : Heap) : List SlabID := (h.filter (fun p => p.2.refs.isEmpty)).map (·.1)

theorem leavesOf_cons (id : SlabID) (s : HSlab) (rest : Heap) :
    leavesOf ((id, s) :: rest) = (if s.refs.isEmpty then [id] else []) ++ leavesOf rest := by
  unfold leavesOf
  by_cases h : s.refs.isEmpty <;> simp [h]

theorem mem_leavesOf (h : Heap) (x : SlabID) :
    x ∈ leavesOf h ↔ ∃ s, (x, s) ∈ h ∧ s.refs = [] := by
  simp only [leavesOf, List.mem_map, List.mem_filter, List.isEmpty_iff]
  constructor
  · rintro ⟨⟨k, s⟩, ⟨hm, he⟩, rfl⟩
    exact ⟨s, hm, he⟩
  · rintro ⟨s, hm, he⟩
    exact ⟨(x, s), ⟨hm, he⟩, rfl⟩

theorem leaf_mem_keys {h : Heap} (leaf : SlabID) (hl : leaf ∈ leavesOf h) : leaf ∈ AList.keys h := by
  obtain ⟨s, hm, _⟩ := (mem_leavesOf h leaf).mp hl
  exact List.mem_map.mpr ⟨(leaf, s), hm, rfl⟩

theorem leavesOf_nodup (h : Heap) (hk : (AList.keys h).Nodup) : (leavesOf h).Nodup := by
  unfold leavesOf
  exact List.Nodup.sublist (List.Sublist.map _ List.filter_sublist) hk

theorem scan_ok (h : Heap) (po : AList SlabID SlabID) (lv : List SlabID)
    (po' : AList SlabID SlabID) (lv' : List SlabID) (hok : scan h po lv = .ok (po', lv')) :
    (targets h).Nodup ∧ (∀ t ∈ targets h, AList.find? po t = none) ∧
      (∀ c p, AList.find? po' c = some p ↔ ((p, c) ∈ edges h ∨ AList.find? po c = some p)) ∧
      lv' = lv ++ leavesOf h := by
  induction h generalizing po lv with
  | nil =>
    simp only [scan, Except.ok.injEq, Prod.mk.injEq] at hok
    obtain ⟨rfl, rfl⟩ := hok
    simp [leavesOf]
  | cons e rest ih =>
    obtain ⟨id, s⟩ := e
    rw [scan] at hok
    split at hok
    · cases hok
    · rename_i po1 hsr
      obtain ⟨hnd1, hnone1, hfind1⟩ := scanRefs_ok _ _ _ _ hsr
      obtain ⟨hnd2, hnone2, hfind2, hlv⟩ := ih _ _ hok
      rw [targets_cons]
      refine ⟨?_, ?_, ?_, ?_⟩
      · rw [List.nodup_append]
        refine ⟨hnd1, hnd2, ?_⟩
        rintro a ha b hb rfl
        have := hnone2 a hb
        rw [hfind1 a] at this
        simp [ha] at this
      · intro t ht
        rcases List.mem_append.mp ht with ht | ht
        · exact hnone1 t ht
        · have := hnone2 t ht
          rw [hfind1 t] at this
          split at this
          · cases this
          · exact this
      · intro c p
        rw [hfind2 c p, hfind1 c, edges_cons, List.mem_append, List.mem_map]
        by_cases hc : c ∈ s.refs
        · have hn := hnone1 c hc
          simp only [hc, if_true, Option.some.injEq, hn]
          constructor
          · rintro (h1 | h1)
            · exact Or.inl (Or.inr h1)
            · exact Or.inl (Or.inl ⟨c, hc, by rw [h1]⟩)
          · rintro ((⟨r, _, hr⟩ | h1) | h1)
            · exact Or.inr (by cases hr; rfl)
            · exact Or.inl h1
            · cases h1
        · simp only [hc, if_false]
          constructor
          · rintro (h1 | h1)
            · exact Or.inl (Or.inr h1)
            · exact Or.inr h1
          · rintro ((⟨r, hr, hr'⟩ | h1) | h1)
            · cases hr'; exact absurd hr hc
            · exact Or.inl h1
            · exact Or.inr h1
      · rw [hlv, leavesOf_cons]
        by_cases he : s.refs.isEmpty <;> simp [he]

theorem scan_succeeds (h : Heap) (po : AList SlabID SlabID) (lv : List SlabID)
    (hnd : (targets h).Nodup) (hnone : ∀ t ∈ targets h, AList.find? po t = none) :
    ∃ po' lv', scan h po lv = .ok (po', lv') := by
  induction h generalizing po lv with
  | nil => exact ⟨po, lv, rfl⟩
  | cons e rest ih =>
    obtain ⟨id, s⟩ := e
    rw [targets_cons, List.nodup_append] at hnd
    rw [targets_cons] at hnone
    obtain ⟨po1, h1⟩ := scanRefs_succeeds id s.refs po hnd.1
      (fun r hr => hnone r (List.mem_append_left _ hr))
    obtain ⟨_, _, hfind1⟩ := scanRefs_ok _ _ _ _ h1
    rw [scan, h1]
    apply ih _ _ hnd.2.1
    intro t ht
    rw [hfind1 t]
    have : t ∉ s.refs := fun hm => hnd.2.2 t hm t ht rfl
    simp [this, hnone t (List.mem_append_right _ ht)]

theorem allResolve_iff (h : Heap) (po : AList SlabID SlabID) :
    allResolve h po = true ↔ ∀ c p, AList.find? po c = some p → AList.contains h c = true := by
  unfold allResolve
  rw [List.all_eq_true]
  constructor
  · intro hall c p hf
    have hc : c ∈ AList.keys po := by
      rw [← AList.find?_ne_none_iff, hf]; simp
    obtain ⟨⟨c', p'⟩, hm, rfl⟩ := List.mem_map.mp hc
    exact hall _ hm
  · rintro hall ⟨c, p⟩ hm
    have hc : c ∈ AList.keys po := List.mem_map.mpr ⟨(c, p), hm, rfl⟩
    rw [← AList.find?_ne_none_iff] at hc
    cases hf : AList.find? po c with
    | none => exact absurd hf hc
    | some p' => exact hall c p' hf

end Health
end Atree

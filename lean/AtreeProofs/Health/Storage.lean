import AtreeProofs.Health.Iter
import AtreeProofs.Health.ArrayHistory
import AtreeProofs.Health.Order
/-
  C20 helper lemmas: from the models of containers to `CheckStorageHealth` on the storage.

  * `Healthy.of_find_eq` – `Healthy` depends on the heap as a finite map only (not on the order of
    the association list);
  * `find?_heapOfLoaded` – with all slabs loaded the heap the health check works on is the view;
  * `array_state_storage_check`, `array_history_storage_check` – end to end for one array: after
    any valid history the real pipeline (slab iteration over write set / cache, then the check)
    accepts the storage and returns the array's root and the unreferenced large-value slabs.
-/
namespace Atree
namespace Health

/-- two association lists with unique keys that hold the same slab under every ID are healthy
    together, with the same roots -/
theorem Healthy.of_find_eq {h h' : Heap} {R : List SlabID} (hh : Healthy h R)
    (hk : (AList.keys h).Nodup) (hk' : (AList.keys h').Nodup)
    (hf : ∀ id, AList.find? h' id = AList.find? h id) : Healthy h' R := by
  have hp := AList.perm_of_find_eq h h' hk hk' hf
  have hep := edges_perm hp
  have hmem : ∀ e, e ∈ edges h' ↔ e ∈ edges h := fun e => hep.mem_iff
  have hcont : ∀ id, AList.contains h' id = AList.contains h id := by
    intro id; rw [AList.contains_eq, AList.contains_eq, hf]
  have htg : ((edges h').map (·.2)).Perm ((edges h).map (·.2)) := hep.map _
  refine ⟨?_, ?_, ?_, ?_, hh.roots_nodup, ?_⟩
  · intro e he
    rw [hcont]
    exact hh.resolves e ((hmem e).mp he)
  · exact htg.nodup_iff.mpr hh.single
  · intro e he p c hp' hc'
    rw [hf] at hp' hc'
    exact hh.owner e ((hmem e).mp he) p c hp' hc'
  · intro id
    rw [hh.roots_iff, hcont, htg.mem_iff]
  · intro id hid
    rw [hcont] at hid
    obtain ⟨r, hr, hreach⟩ := hh.reach id hid
    exact ⟨r, hr, hreach.mono (fun e he => (hmem e).mpr he)⟩

variable {σ β : Type}

theorem find?_heapOfLoaded (c : Codec σ β) (abs : SlabID → σ → HSlab) (s : St σ β)
    (hd : (AList.keys s.deltas).Nodup) (hc : (AList.keys s.cache).Nodup) (hall : AllLoaded s)
    (id : SlabID) :
    AList.find? (heapOfLoaded abs s) id = (s.view c id).map (abs id) := by
  have hk : (AList.keys (heapOfLoaded abs s)).Nodup := by
    rw [keys_heapOfLoaded]; exact loadedLive_nodup s hd hc
  cases hv : s.view c id with
  | some v =>
    have hm := (mem_loadedLive_iff_view c s hd hc hall id v).mpr hv
    have : (id, abs id v) ∈ heapOfLoaded abs s := List.mem_map.mpr ⟨(id, v), hm, rfl⟩
    rw [(AList.mem_iff_find? _ hk id _).mp this]
    rfl
  | none =>
    simp only [Option.map_none]
    rw [AList.find?_eq_none_iff, keys_heapOfLoaded]
    intro hm
    obtain ⟨⟨k, v⟩, hp, rfl⟩ := List.mem_map.mp hm
    have := view_of_mem_loadedLive c s hd hc k v hp
    simp only at hv
    rw [hv] at this
    cases this

theorem isLoaded_of_contains_heapOfLoaded (abs : SlabID → σ → HSlab) (s : St σ β) (id : SlabID)
    (h : AList.contains (heapOfLoaded abs s) id = true) : IsLoaded s id := by
  rw [AList.contains_iff_mem_keys, keys_heapOfLoaded] at h
  obtain ⟨⟨k, v⟩, hp, rfl⟩ := List.mem_map.mp h
  unfold loadedLive at hp
  rcases List.mem_append.mp hp with hp | hp
  · left
    have := (mem_liveOf _ k v).mp hp
    rw [AList.contains_iff_mem_keys]
    exact List.mem_map.mpr ⟨_, this, rfl⟩
  · right
    have := ((mem_unshadowed s k (some v)).mp ((mem_liveOf _ k v).mp hp)).1
    rw [AList.contains_iff_mem_keys]
    exact List.mem_map.mpr ⟨_, this, rfl⟩

theorem refsLoaded_of_resolves (abs : SlabID → σ → HSlab) (s : St σ β)
    (hres : ∀ e ∈ edges (heapOfLoaded abs s), AList.contains (heapOfLoaded abs s) e.2 = true) :
    RefsLoaded abs s := by
  intro p hp r hr
  apply isLoaded_of_contains_heapOfLoaded abs s r
  apply hres (p.1, r)
  rw [mem_edges]
  exact ⟨abs p.1 p.2, List.mem_map.mpr ⟨p, hp, rfl⟩, hr⟩

/-- The generic end-to-end step.  If, with all slabs loaded, the view of the storage is a healthy heap
    `h` (slab by slab), then `CheckStorageHealth` - slab iteration followed by the check - accepts
    the storage for the right root count and for "any", and returns the roots of `h`. -/
theorem checkStorage_accepts (c : Codec σ β) (abs : SlabID → σ → HSlab) (s : St σ β)
    (hd : (AList.keys s.deltas).Nodup) (hc : (AList.keys s.cache).Nodup) (hall : AllLoaded s)
    (h : Heap) (R : List SlabID) (hk : (AList.keys h).Nodup) (hh : Healthy h R)
    (hview : ∀ id, (s.view c id).map (abs id) = AList.find? h id)
    (expected : Option Nat) (hn : ∀ n, expected = some n → R.length = n) :
    ∃ R', checkStorage c abs s expected = .ok R' ∧ (∀ id, id ∈ R' ↔ id ∈ R) ∧ R'.length = R.length := by
  have hk' : (AList.keys (heapOfLoaded abs s)).Nodup := by
    rw [keys_heapOfLoaded]; exact loadedLive_nodup s hd hc
  have hf : ∀ id, AList.find? (heapOfLoaded abs s) id = AList.find? h id := by
    intro id; rw [find?_heapOfLoaded c abs s hd hc hall, hview]
  have hh' : Healthy (heapOfLoaded abs s) R := hh.of_find_eq hk hk' hf
  rw [checkStorage_allLoaded c abs s hd hc hall, if_pos (refsLoaded_of_resolves abs s hh'.resolves)]
  exact check_complete _ hk' R hh' expected hn

/-! ### a storage that is only a write set (empty ledger, empty cache) -/

theorem allLoaded_of_base_nil {s : St σ β} (hb : s.base = []) : AllLoaded s := by
  intro id hid
  rw [hb] at hid
  cases hid

/-- its view shows nothing under an ID for which the write set holds no slab -/
theorem view_none_of_deltas {c : Codec σ β} {s : St σ β} (hb : s.base = []) (hc : s.cache = [])
    {id : SlabID} (hd : ∀ v, AList.find? s.deltas id ≠ some (some v)) : s.view c id = none := by
  unfold St.view
  rw [hc, hb]
  cases h : AList.find? s.deltas id with
  | none => rfl
  | some o =>
    cases o with
    | none => rfl
    | some v => exact absurd h (hd v)

/-- what `CheckStorageHealth` is run on: the slabs the iterator yields, each reduced by `abs` -/
def yieldHeap (c : Codec σ β) (abs : SlabID → σ → HSlab) (s : St σ β) : Except HErr Heap :=
  (slabIterator c abs s).map (List.map fun p => (p.1, abs p.1 p.2))

theorem checkStorage_of_yield {c : Codec σ β} {abs : SlabID → σ → HSlab} {s : St σ β} {H : Heap}
    (h : yieldHeap c abs s = .ok H) (expected : Option Nat) :
    checkStorage c abs s expected = checkYield H expected := by
  unfold yieldHeap at h
  unfold checkStorage
  cases hs : slabIterator c abs s with
  | error e => rw [hs] at h; cases h
  | ok ys => rw [hs] at h; cases h; rfl

theorem slabIterator_ids_of_yield {c : Codec σ β} {abs : SlabID → σ → HSlab} {s : St σ β} {H : Heap}
    (h : yieldHeap c abs s = .ok H) :
    (slabIterator c abs s).map (fun ys => ys.map (·.1)) = .ok (AList.keys H) := by
  unfold yieldHeap at h
  cases hs : slabIterator c abs s with
  | error e => rw [hs] at h; cases h
  | ok ys =>
    rw [hs] at h; cases h
    show Except.ok _ = Except.ok _
    rw [AList.keys, List.map_map]
    rfl

end Health

namespace E2E
open Atree.Health

variable {β : Type}

/-- From any state of a run (`Good`, `RefsUnique`) whose storage has all slabs loaded and holds
    nothing outside the array's address: `CheckStorageHealth` accepts, and returns the array's root
    and the large-value slabs no element refers to any more. -/
theorem array_state_storage_check (c : Codec SSlab β) (T : Nat) (x : (Arr × Ctx) × St SSlab β)
    (hg : Good c T x) (hu : RefsUnique x.1) (hall : AllLoaded x.2)
    (hother : ∀ id, id.addr ≠ x.1.1.addr → x.2.view c id = none)
    (expected : Option Nat)
    (hn : ∀ n, expected = some n → (rootsOf (arrHeap x.1.1 x.1.2.created)).length = n) :
    ∃ R, checkStorage c SSlab.toH x.2 expected = .ok R ∧
      (∀ id, id ∈ R ↔ (id = x.1.1.rootID ∨
        (id ∈ x.1.2.created.map (·.1) ∧ id ∉ elemRefs x.1.1.toList))) := by
  obtain ⟨hk, hh, hroots, hview⟩ := array_state_healthy c T x hg hu
  have hview' : ∀ id, (x.2.view c id).map (SSlab.toH id) = AList.find? (arrHeap x.1.1 x.1.2.created) id := by
    intro id
    by_cases ha : id.addr = x.1.1.addr
    · exact hview id ha
    · rw [hother id ha]
      symm
      rw [Option.map_none, AList.find?_eq_none_iff]
      intro hm
      rw [keys_arrHeap, List.mem_append] at hm
      rcases hm with hm | hm
      · exact ha (hg.inv.ids.2 id hm).1
      · obtain ⟨p, hp, rfl⟩ := List.mem_map.mp hm
        exact ha (hg.caddr p hp)
  obtain ⟨R, hok, hmem, _⟩ := checkStorage_accepts c SSlab.toH x.2 hg.st.deltasNodup hg.st.cacheNodup
    hall _ _ hk hh hview' expected hn
  exact ⟨R, hok, fun id => (hmem id).trans (hroots id)⟩

/-- End to end, one array: after any valid history starting with `NewArray` on an empty storage
    (requests of any kind, out-of-range ones included; values of any size), `CheckStorageHealth` -
    the slab iterator over write set and cache followed by the checks - ACCEPTS the storage, both
    for "any number of roots" and for the true number, and returns exactly the array's root slab
    and the large-value slabs no element refers to any more (the model's histories never delete
    those; a caller that deletes them leaves the array's root as the only root). -/
theorem array_history_storage_check (c : Codec SSlab β) (hc : RoundTrip c) (T : Nat)
    (hT : legalThreshold T = true) (addr ty : Nat) (haddr : addr ≠ 0) (ops : List AOp)
    (hops : ∀ op ∈ ops, op.Ok) :
    let x := runS c T (newS c addr ty) ops
    let h := arrHeap x.1.1 x.1.2.created
    (∃ R, checkStorage c SSlab.toH x.2 none = .ok R ∧
      (∀ id, id ∈ R ↔ (id = ⟨addr, 1⟩ ∨
        (id ∈ x.1.2.created.map (·.1) ∧ id ∉ elemRefs x.1.1.toList)))) ∧
    (∃ R, checkStorage c SSlab.toH x.2 (some (rootsOf h).length) = .ok R ∧
      (∀ id, id ∈ R ↔ (id = ⟨addr, 1⟩ ∨
        (id ∈ x.1.2.created.map (·.1) ∧ id ∉ elemRefs x.1.1.toList)))) := by
  intro x h
  obtain ⟨g0, _, r0, _⟩ := good_new c hc T hT addr ty haddr
  obtain ⟨hg, hu⟩ := refsUnique_runS c hc T hT ops (newS c addr ty) g0 (refsUnique_new c addr ty) hops
  obtain ⟨_, _, hroot, _⟩ := good_runS c hc T hT ops (newS c addr ty) g0 hops
  have hrootID : x.1.1.rootID = ⟨addr, 1⟩ := hroot.trans r0
  have hbase : x.2.base = [] := by
    show (runS c T (newS c addr ty) ops).2.base = []
    rw [runS_base c T ops]
    exact (applyEffs_frame c St.init _ _).2
  have hcache : x.2.cache = [] := by
    show (runS c T (newS c addr ty) ops).2.cache = []
    rw [(runS_frame c T ops _).1]
    exact (applyEffs_frame c St.init _ _).1
  have hall : AllLoaded x.2 := allLoaded_of_base_nil hbase
  have hother : ∀ id, id.addr ≠ x.1.1.addr → x.2.view c id = none := fun id hne =>
    view_none_of_deltas hbase hcache fun v hd => hne (hg.pend id v hd)
  obtain ⟨R, hok, hmem⟩ := array_state_storage_check c T x hg hu hall hother none
    (fun n hn => by cases hn)
  obtain ⟨R', hok', hmem'⟩ := array_state_storage_check c T x hg hu hall hother
    (some (rootsOf h).length) (fun n hn => by cases hn; rfl)
  exact ⟨⟨R, hok, fun id => by rw [hmem id, hrootID]⟩, ⟨R', hok', fun id => by rw [hmem' id, hrootID]⟩⟩

/-! ### Non-vacuity: the pipeline evaluated on the storages of two concrete histories -/
section NonVacuity
open Atree.Example

/-- `hist` (Props/E2E.lean): a root index slab over two leaves, one element is a reference to the
    large-value slab 5; slab 4 is a pending deletion (a nil entry of the write set).  What the
    iterator yields on its storage, on that storage after `Remove(1.3)`, and on the storage of
    `hist2` (one conjunction, so that the common part of the histories is evaluated once); the
    examples below are computed from these three lists. -/
theorem xH_yield :
    yieldHeap idCodec SSlab.toH xH.2 =
      .ok [(⟨1, 1⟩, ⟨⟨1, 1⟩, [⟨1, 2⟩, ⟨1, 3⟩]⟩), (⟨1, 2⟩, ⟨⟨1, 2⟩, [⟨1, 5⟩]⟩), (⟨1, 5⟩, ⟨⟨1, 5⟩, []⟩),
        (⟨1, 3⟩, ⟨⟨1, 3⟩, []⟩)] ∧
    yieldHeap idCodec SSlab.toH (St.run idCodec xH.2 [.remove ⟨1, 3⟩]) =
      .ok [(⟨1, 1⟩, ⟨⟨1, 1⟩, [⟨1, 2⟩, ⟨1, 3⟩]⟩), (⟨1, 2⟩, ⟨⟨1, 2⟩, [⟨1, 5⟩]⟩), (⟨1, 5⟩, ⟨⟨1, 5⟩, []⟩)] ∧
    yieldHeap idCodec SSlab.toH xH2.2 =
      .ok [(⟨1, 1⟩, ⟨⟨1, 1⟩, [⟨1, 2⟩, ⟨1, 3⟩]⟩), (⟨1, 2⟩, ⟨⟨1, 2⟩, []⟩), (⟨1, 5⟩, ⟨⟨1, 5⟩, []⟩),
        (⟨1, 3⟩, ⟨⟨1, 3⟩, []⟩)] := by decide +kernel

example : (Health.slabIterator idCodec SSlab.toH xH.2).map (fun ys => ys.map (·.1))
    = .ok [⟨1, 1⟩, ⟨1, 2⟩, ⟨1, 5⟩, ⟨1, 3⟩] := slabIterator_ids_of_yield xH_yield.1
example : Health.checkStorage idCodec SSlab.toH xH.2 (some 1) = .ok [⟨1, 1⟩] := by
  rw [checkStorage_of_yield xH_yield.1]; decide +kernel
example : Health.checkStorage idCodec SSlab.toH xH.2 none = .ok [⟨1, 1⟩] := by
  rw [checkStorage_of_yield xH_yield.1]; decide +kernel
example : Health.checkStorage idCodec SSlab.toH xH.2 (some 2) = .error .rootCount := by
  rw [checkStorage_of_yield xH_yield.1]; decide +kernel

/-- the theorem applies (its hypotheses hold for `hist`) -/
example := array_history_storage_check idCodec idCodec_roundTrip T0 legal 1 0 (by decide) hist hist_ok

/-- `hist2`: the large value was overwritten, its slab is a second root -/
example : Health.checkStorage idCodec SSlab.toH xH2.2 (some 2) = .ok [⟨1, 5⟩, ⟨1, 1⟩] := by
  rw [checkStorage_of_yield xH_yield.2.2]; decide +kernel

/-- removing a referenced slab from that storage (`Remove(1.3)`: a nil entry in the write set)
    makes the pipeline fail (`allResolve`) although the iterator does not notice anything
    (DESIGN finding F1) -/
example : (Health.slabIterator idCodec SSlab.toH (St.run idCodec xH.2 [.remove ⟨1, 3⟩])).map
    (fun ys => ys.map (·.1)) = .ok [⟨1, 1⟩, ⟨1, 2⟩, ⟨1, 5⟩] := slabIterator_ids_of_yield xH_yield.2.1
example : Health.checkStorage idCodec SSlab.toH (St.run idCodec xH.2 [.remove ⟨1, 3⟩]) none
    = .error .slabNotFound := by
  rw [checkStorage_of_yield xH_yield.2.1]; decide +kernel

end NonVacuity

end E2E
end Atree


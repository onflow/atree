import AtreeProofs.Health.Storage
import AtreeProofs.Health.MapHistory
/-
  C20, end to end for one ordered map (the analogue of
  `E2E.array_history_storage_check`): after any valid history the slab iterator followed by the
  checks accepts the storage and returns the map's root and the unreferenced large-value slabs.
-/
namespace Atree
namespace E2EM
open Atree.Health

variable {r : Nat} {β : Type}

/-- From any state of a run (`MGoodF`, `RefsUniqueM`) whose storage has all slabs loaded and holds
    nothing outside the map's address. -/
theorem map_state_storage_check (c : Codec (MSSlab r) β) (T : Nat) (D : DigestFn (r + 1)) (cfg : MCfg)
    (x : (OMap r × Ctx) × St (MSSlab r) β) (hg : MGoodF c T D cfg x) (hu : RefsUniqueM x.1)
    (hall : AllLoaded x.2) (hother : ∀ id, id.addr ≠ x.1.1.addr → x.2.view c id = none)
    (expected : Option Nat)
    (hn : ∀ n, expected = some n → (rootsOf (mapHeap x.1.1 x.1.2.created)).length = n) :
    ∃ R, checkStorage c MSSlab.toH x.2 expected = .ok R ∧
      (∀ id, id ∈ R ↔ (id = x.1.1.rootID ∨
        (id ∈ x.1.2.created.map (·.1) ∧ id ∉ valRefs x.1.1.toList))) := by
  obtain ⟨hk, hh, hroots, hview⟩ := map_state_healthy c T D cfg x hg hu
  have hview' : ∀ id, (x.2.view c id).map (MSSlab.toH id) = AList.find? (mapHeap x.1.1 x.1.2.created) id := by
    intro id
    by_cases ha : id.addr = x.1.1.addr
    · exact hview id ha
    · rw [hother id ha]
      symm
      rw [Option.map_none, AList.find?_eq_none_iff]
      intro hm
      rw [keys_mapHeap, List.mem_append] at hm
      rcases hm with hm | hm
      · exact ha (hg.aok id hm)
      · obtain ⟨p, hp, rfl⟩ := List.mem_map.mp hm
        exact ha (hg.caddr p hp)
  obtain ⟨R, hok, hmem, _⟩ := checkStorage_accepts c MSSlab.toH x.2 hg.st.deltasNodup hg.st.cacheNodup
    hall _ _ hk hh hview' expected hn
  exact ⟨R, hok, fun id => (hmem id).trans (hroots id)⟩

/-- End to end, one ordered map: after any valid history starting with `NewMap` on an empty storage
    (set / remove / popIterate / setType, keys and digests of any kind the map theorems admit, values
    of any size), `CheckStorageHealth` - the slab iterator over write set and cache followed by the
    checks - ACCEPTS the storage and returns exactly the map's root slab and the large-value slabs no
    entry refers to any more.  External collision-group slabs are slabs of the tree (referenced from
    their data slab). -/
theorem map_history_storage_check (c : Codec (MSSlab r) β) (hc : RoundTrip c) (T : Nat)
    (hT : legalThreshold T = true) (D : DigestFn (r + 1)) (cfg : MCfg) (hcT : cfg.T = T)
    (hcL : cfg.L = r + 1) (haddr : cfg.addr ≠ 0) (ty : Nat) (seedOf : SlabID → Nat)
    (ops : List MOp) (hops : ∀ op ∈ ops, op.Ok T D) :
    let x := runS c cfg (newS c cfg.addr ty seedOf) ops
    let h := mapHeap x.1.1 x.1.2.created
    (∃ R, checkStorage c MSSlab.toH x.2 none = .ok R ∧
      (∀ id, id ∈ R ↔ (id = ⟨cfg.addr, 1⟩ ∨
        (id ∈ x.1.2.created.map (·.1) ∧ id ∉ valRefs x.1.1.toList)))) ∧
    (∃ R, checkStorage c MSSlab.toH x.2 (some (rootsOf h).length) = .ok R ∧
      (∀ id, id ∈ R ↔ (id = ⟨cfg.addr, 1⟩ ∨
        (id ∈ x.1.2.created.map (·.1) ∧ id ∉ valRefs x.1.1.toList)))) := by
  intro x h
  obtain ⟨g0, r0, _⟩ := mgoodF_new c hc T hT D cfg hcT hcL haddr ty seedOf
  obtain ⟨hg, hu⟩ := refsUniqueM_runS c hc T hT D cfg ops (newS c cfg.addr ty seedOf) g0
    (refsUniqueM_new c cfg.addr ty seedOf) hops
  obtain ⟨_, _, hroot, _⟩ := mgoodF_runS c hc T hT D cfg ops (newS c cfg.addr ty seedOf) g0 hops
  have hrootID : x.1.1.rootID = ⟨cfg.addr, 1⟩ := hroot.trans r0
  have hbase : x.2.base = [] := by
    show (runS c cfg (newS c cfg.addr ty seedOf) ops).2.base = []
    rw [runS_base c cfg ops]
    exact (applyEffs_frame c St.init _ _).2
  have hcache : x.2.cache = [] := by
    show (runS c cfg (newS c cfg.addr ty seedOf) ops).2.cache = []
    rw [(runS_frame c cfg ops _).1]
    exact (applyEffs_frame c St.init _ _).1
  have hall : AllLoaded x.2 := allLoaded_of_base_nil hbase
  have hother : ∀ id, id.addr ≠ x.1.1.addr → x.2.view c id = none := fun id hne =>
    view_none_of_deltas hbase hcache fun v hd => hne (hg.pend id v hd)
  obtain ⟨R, hok, hmem⟩ := map_state_storage_check c T D cfg x hg hu hall hother none
    (fun n hn => by cases hn)
  obtain ⟨R', hok', hmem'⟩ := map_state_storage_check c T D cfg x hg hu hall hother
    (some (rootsOf h).length) (fun n hn => by cases hn; rfl)
  exact ⟨⟨R, hok, fun id => by rw [hmem id, hrootID]⟩, ⟨R', hok', fun id => by rw [hmem' id, hrootID]⟩⟩

section NonVacuity
open MapExample

/-- `mhist` (Props/E2EMap.lean): index slab 7.1 over data slabs 7.3 and 7.4, external collision
    group 7.2 referenced from 7.3, large-value slab 7.5 referenced from 7.4.  What the iterator
    yields on its storage and on that storage after `Remove(7.2)` (one conjunction, one evaluation); the examples
    below are computed from these two lists. -/
theorem xM_yield :
    yieldHeap idCodecM MSSlab.toH xM.2 =
      .ok [(⟨7, 1⟩, ⟨⟨7, 1⟩, [⟨7, 3⟩, ⟨7, 4⟩]⟩), (⟨7, 4⟩, ⟨⟨7, 4⟩, [⟨7, 5⟩]⟩), (⟨7, 5⟩, ⟨⟨7, 5⟩, []⟩),
        (⟨7, 3⟩, ⟨⟨7, 3⟩, [⟨7, 2⟩]⟩), (⟨7, 2⟩, ⟨⟨7, 2⟩, []⟩)] ∧
    yieldHeap idCodecM MSSlab.toH (St.run idCodecM xM.2 [.remove ⟨7, 2⟩]) =
      .ok [(⟨7, 1⟩, ⟨⟨7, 1⟩, [⟨7, 3⟩, ⟨7, 4⟩]⟩), (⟨7, 4⟩, ⟨⟨7, 4⟩, [⟨7, 5⟩]⟩), (⟨7, 5⟩, ⟨⟨7, 5⟩, []⟩),
        (⟨7, 3⟩, ⟨⟨7, 3⟩, [⟨7, 2⟩]⟩)] := by decide +kernel

example : Health.checkStorage idCodecM MSSlab.toH xM.2 (some 1) = .ok [⟨7, 1⟩] := by
  rw [checkStorage_of_yield xM_yield.1]; decide +kernel
example : Health.checkStorage idCodecM MSSlab.toH xM.2 (some 0) = .error .rootCount := by
  rw [checkStorage_of_yield xM_yield.1]; decide +kernel
example := map_history_storage_check idCodecM idCodecM_roundTrip 256 legal256 D2 cfg2 rfl rfl (by decide) 0
    (fun id => id.idx) mhist mhist_ok
/-- deleting the external collision-group slab makes the pipeline fail -/
example : Health.checkStorage idCodecM MSSlab.toH (St.run idCodecM xM.2 [.remove ⟨7, 2⟩]) none
    = .error .slabNotFound := by
  rw [checkStorage_of_yield xM_yield.2]; decide +kernel

end NonVacuity

end E2EM
end Atree

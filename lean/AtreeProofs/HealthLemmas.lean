import AtreeProofs.HealthSpec
import AtreeProofs.Health.Scan
import AtreeProofs.Health.Climb
import AtreeProofs.Health.Check
import AtreeProofs.Health.ChildRefs
import AtreeProofs.Health.Corrupt
import AtreeProofs.Health.Order
/-
  The health-check model (C20), as far as `Props/C20.lean` needs it:
  * `Scan`      – `edges`/`targets`, exact behaviour of `scanRefs`, `scan`, `allResolve`;
  * `Climb`     – parent chains (`Chain`), exact behaviour of `climb`, `climbAll`;
  * `Check`     – `Reach` lemmas, `check_ok_iff`, `check_sound`, `check_complete`;
  * `ChildRefs` – the breadth-first `childRefs` query on every heap (levels, paths, divergence);
  * `Corrupt`   – erased / added slabs;
  * `Order`     – the outcome of `check` does not depend on the order of the heap.
  The other modules of `AtreeProofs/Health/` (forests, the slab iterator, storages produced by
  histories) are imported by `Props/C20Storage.lean` directly.
-/

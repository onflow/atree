import AtreeModel.Array.Iter
import AtreeProofs.ArrayInv
import AtreeProofs.ArrayLemmas
/-
  C13, arrays: the loaded-value traversal is a sublist of the full enumeration (equal to it when
  every slab is loaded); range iteration (read-only and mutable) is the slice of the enumeration;
  invalid ranges are rejected with the exact error kinds.
-/
namespace Atree
namespace IterA
open Gen ATree MetaSlab

variable {T : Nat}

theorem loadedValue_eq {loaded : SlabID → Bool} {e v : Elem} (h : e.loadedValue loaded = some v) : v = e := by
  unfold Elem.loadedValue at h
  split at h
  · split at h
    · cases h; rfl
    · cases h
  · cases h; rfl

theorem loadedValue_all {loaded : SlabID → Bool} (hall : ∀ id, loaded id = true) (e : Elem) :
    e.loadedValue loaded = some e := by
  unfold Elem.loadedValue
  split
  · rw [hall]; rfl
  · rfl

theorem loadedElems_sublist (loaded : SlabID → Bool) (s : DataSlab) :
    (s.loadedElems loaded).Sublist s.elems := by
  unfold DataSlab.loadedElems DataSlab.loadedFrom
  rw [List.drop_zero]
  simpa using filterMap_sublist_map _ id (fun _ _ h => loadedValue_eq h) _

theorem loadedElems_all {loaded : SlabID → Bool} (hall : ∀ id, loaded id = true) (s : DataSlab) :
    s.loadedElems loaded = s.elems := by
  unfold DataSlab.loadedElems DataSlab.loadedFrom
  rw [List.drop_zero]
  simpa using filterMap_eq_map _ id (loadedValue_all hall) _

theorem iterLoaded_zero (loaded : SlabID → Bool) (s : DataSlab) :
    ATree.iterLoaded loaded 0 (ofData s) = s.loadedElems loaded := rfl

theorem iterLoaded_succ (loaded : SlabID → Bool) (d : Nat) (m : MetaSlab (ATree d)) :
    ATree.iterLoaded loaded (d + 1) (ofMeta m) =
      (m.childHdrs.zip m.children).flatMap
        (fun hc => if loaded hc.1.id then ATree.iterLoaded loaded d hc.2 else []) := rfl

/-- Any loaded predicate: the loaded-value traversal is an in-order sublist of the enumeration
    (no hypothesis on the tree). -/
theorem iterLoaded_sublist (loaded : SlabID → Bool) : ∀ (d : Nat) (t : ATree d),
    (ATree.iterLoaded loaded d t).Sublist (flatten d t)
  | 0, t => by
    refine forall_ofData ?_ t; intro s
    rw [iterLoaded_zero, flatten_zero]
    exact loadedElems_sublist loaded s
  | d + 1, t => by
    refine forall_ofMeta ?_ t; intro m
    rw [iterLoaded_succ, flatten_succ]
    refine zip_flatMap_sublist _ _ _ _ ?_
    intro h c _
    by_cases hl : loaded h.id = true
    · simp only [hl, if_true]; exact iterLoaded_sublist loaded d c
    · simp only [hl]; exact List.nil_sublist _

/-- every slab loaded: the loaded-value traversal is the enumeration -/
theorem iterLoaded_all {loaded : SlabID → Bool} (hall : ∀ id, loaded id = true) :
    ∀ (d : Nat) (top : Bool) (t : ATree d), TreeInv T d top t → ATree.iterLoaded loaded d t = flatten d t
  | 0, _, t, _ => by
    refine forall_ofData ?_ t; intro s
    rw [iterLoaded_zero, flatten_zero]
    exact loadedElems_all hall s
  | d + 1, top, t, h => by
    revert h; refine forall_ofMeta ?_ t; intro m h
    obtain ⟨hs, _⟩ := (treeInv_succ T d top m).1 h
    rw [iterLoaded_succ, flatten_succ, hs.hdrs_eq]
    refine zip_map_flatMap _ _ _ _ ?_
    intro c hc
    simp only [hall, if_true]
    exact iterLoaded_all hall d false c (hs.kids_inv c hc)

theorem checkRange_ok (a : Arr) (lo hi : Nat) (h1 : lo ≤ hi) (h2 : hi ≤ a.count) :
    a.checkRange lo hi = .ok () := by
  unfold Arr.checkRange
  have e1 : (decide (lo > a.count) || decide (hi > a.count)) = false := by
    simp only [Bool.or_eq_false_iff, decide_eq_false_iff_not]; omega
  rw [e1]
  simp only [Bool.false_eq_true, if_false]
  rw [if_neg (by omega)]

theorem checkRange_oob (a : Arr) (lo hi : Nat) (h : a.count < lo ∨ a.count < hi) :
    a.checkRange lo hi = .error .sliceOutOfBounds := by
  unfold Arr.checkRange
  have e1 : (decide (lo > a.count) || decide (hi > a.count)) = true := by
    simp only [Bool.or_eq_true, decide_eq_true_eq]; omega
  rw [e1]; rfl

theorem checkRange_inverted (a : Arr) (lo hi : Nat) (h1 : lo ≤ a.count) (h2 : hi ≤ a.count) (h3 : hi < lo) :
    a.checkRange lo hi = .error .invalidSliceIndex := by
  unfold Arr.checkRange
  have e1 : (decide (lo > a.count) || decide (hi > a.count)) = false := by
    simp only [Bool.or_eq_false_iff, decide_eq_false_iff_not]; omega
  rw [e1]
  simp only [Bool.false_eq_true, if_false]
  rw [if_pos (by omega)]

theorem dataSlabWithIndex_zero (s : DataSlab) (i : Nat) :
    Arr.dataSlabWithIndex 0 (ofData s) i =
      if i ≥ s.elems.length then .error .indexOutOfBounds else .ok (s, i) := rfl

theorem dataSlabWithIndex_succ_ok {d : Nat} (m : MetaSlab (ATree d)) (i k adj : Nat) (child : ATree d)
    (h1 : m.childSlabIndexInfo i = .ok (k, adj)) (h2 : m.children[k]? = some child) :
    Arr.dataSlabWithIndex (d + 1) (ofMeta m) i = Arr.dataSlabWithIndex d child adj := by
  show (m.childSlabIndexInfo i >>= fun p => match m.children[p.1]? with
      | none => Except.error AErr.slabNotFound
      | some child => Arr.dataSlabWithIndex d child p.2) = _
  rw [h1]
  show (match m.children[k]? with
      | none => Except.error AErr.slabNotFound
      | some child => Arr.dataSlabWithIndex d child adj) = _
  rw [h2]

/-- `getArrayDataSlabWithIndex` returns the leaf holding position `i` and the offset inside it. -/
theorem dataSlabWithIndex_spec (hT : legalThreshold T = true) : ∀ (d : Nat) (t : ATree d) (top : Bool) (i : Nat),
    Shape T d top t → i < (flatten d t).length →
    ∃ pre s rest off, Arr.leaves d t = pre ++ s :: rest ∧
      i = (pre.flatMap (·.elems)).length + off ∧ off < s.elems.length ∧
      Arr.dataSlabWithIndex d t i = .ok (s, off)
  | 0, t, top, i => by
    refine forall_ofData ?_ t; intro s _ hi
    have hi : i < s.elems.length := hi
    exact ⟨[], s, [], i, rfl, (Nat.zero_add i).symm, hi,
      by rw [dataSlabWithIndex_zero, if_neg (Nat.not_le.2 hi)]⟩
  | d + 1, t, top, i => by
    refine forall_ofMeta ?_ t; intro m hs hi
    have hs := (shape_succ T d top m).1 hs
    have hlen := hs.flat_length
    rw [flatten_succ] at hi
    obtain ⟨A, child, B, adj, hch, h1, h2, h3, h4⟩ := route_flat hT hs i (by omega)
    have hc : TreeInv T d false child := hs.kids_inv child (by rw [hch]; simp)
    obtain ⟨pre, s, rest, off, hl, hadj, hlt, hds⟩ :=
      dataSlabWithIndex_spec hT d child false adj hc.shape_false h3
    have hA : (A.flatMap (Arr.leaves d)).flatMap (·.elems) = A.flatMap (flatten d) := by
      rw [List.flatMap_assoc]
      congr 1; funext x; exact leaves_flatMap_elems d x
    refine ⟨A.flatMap (Arr.leaves d) ++ pre, s, rest ++ B.flatMap (Arr.leaves d), off, ?_, ?_, hlt, ?_⟩
    · rw [leaves_succ, hch, List.flatMap_append, List.flatMap_cons, hl, List.append_assoc,
        List.append_assoc]
      rfl
    · rw [List.flatMap_append, List.length_append, hA, h2, hadj, Nat.add_assoc]
    · rw [dataSlabWithIndex_succ_ok m i _ adj child h1 h4, hds]

theorem leaves_ne_nil_of_elems {d : Nat} {t : ATree d} (h : 0 < (flatten d t).length) : Arr.leaves d t ≠ [] := by
  intro hnil
  have := leaves_flatMap_elems d t
  rw [hnil] at this
  simp at this
  rw [this] at h
  simp at h

/-- facts about the leaves that the read-only iterator needs -/
theorem leaves_facts {a : Arr} {ctr : Nat} (h : ArrInv T a ctr) :
    ((Arr.leaves a.d a.root).map (·.hdr.id)).Nodup ∧
    (∀ s ∈ Arr.leaves a.d a.root, s.hdr.id ≠ SlabID.undef) ∧ LeafChain (Arr.leaves a.d a.root) := by
  refine ⟨h.ids.1.sublist (leaves_ids_sublist a.d a.root), ?_, h.chain⟩
  intro s hs heq
  have hm : s.hdr.id ∈ slabIds a.d a.root :=
    (leaves_ids_sublist a.d a.root).subset (List.mem_map.2 ⟨s, hs, rfl⟩)
  have := (h.ids.2 _ hm).2.1
  rw [heq] at this
  simp [SlabID.undef] at this

theorem leafChain_tail : ∀ (pre : List DataSlab) (s : DataSlab) (rest : List DataSlab),
    LeafChain (pre ++ s :: rest) → LeafChain (s :: rest)
  | [], _, _, h => h
  | [p], s, rest, h => by
    obtain ⟨_, h2⟩ : p.next = s.hdr.id ∧ LeafChain (s :: rest) := h
    exact h2
  | p :: q :: pre, s, rest, h => by
    obtain ⟨_, h2⟩ : p.next = q.hdr.id ∧ LeafChain (q :: (pre ++ s :: rest)) := h
    exact leafChain_tail (q :: pre) s rest h2

/-- the enumeration from position `idx` of leaf `s` on: the rest of `s`, then the leaves after it -/
theorem toList_drop_at (a : Arr) {pre : List DataSlab} {s : DataSlab} {rest : List DataSlab}
    (hl : Arr.leaves a.d a.root = pre ++ s :: rest) {idx : Nat} (hidx : idx ≤ s.elems.length) :
    a.toList.drop ((pre.flatMap (·.elems)).length + idx) = s.elems.drop idx ++ rest.flatMap (·.elems) := by
  have hfl : a.toList = (pre ++ s :: rest).flatMap (·.elems) := by
    rw [← hl]; exact (leaves_flatMap_elems a.d a.root).symm
  rw [hfl, List.flatMap_append, List.flatMap_cons, ← List.drop_drop, List.drop_left,
    List.drop_append_of_le_length hidx]

/-- the read-only iterator started at leaf `s`, offset `idx`, for `n` elements -/
theorem roIter_at {a : Arr} {ctr : Nat} (h : ArrInv T a ctr) (pre : List DataSlab) (s : DataSlab)
    (rest : List DataSlab) (hl : Arr.leaves a.d a.root = pre ++ s :: rest) (idx n : Nat)
    (hidx : idx ≤ s.elems.length) :
    Arr.roIterFrom (Arr.leaves a.d a.root) ((Arr.leaves a.d a.root).length + 1) s idx n
      = ((a.toList.drop ((pre.flatMap (·.elems)).length + idx))).take n := by
  obtain ⟨hnd, hdef, hchain⟩ := leaves_facts h
  rw [hl] at hnd hdef hchain
  have := roIterFrom_spec rest pre s ((pre ++ s :: rest).length + 1) idx n
    (leafChain_tail pre s rest hchain) hnd hdef (by simp; omega) hidx
  rw [hl, this, toList_drop_at a hl hidx]

/-- `IterateReadOnlyRange(lo, hi)` of a valid range is the slice `[lo, hi)` of the enumeration. -/
theorem iterReadOnlyRange_eq (hT : legalThreshold T = true) (a : Arr) (ctr : Nat) (h : ArrInv T a ctr)
    (lo hi : Nat) (h1 : lo ≤ hi) (h2 : hi ≤ a.count) :
    a.iterReadOnlyRange lo hi = .ok ((a.toList.drop lo).take (hi - lo)) := by
  have hcnt := h.count_eq
  unfold Arr.iterReadOnlyRange
  rw [checkRange_ok a lo hi h1 h2]
  show (if hi - lo = 0 then (pure [] : Except AErr (List Elem)) else _) = _
  by_cases h0 : hi - lo = 0
  · rw [if_pos h0, h0]; simp; rfl
  · rw [if_neg h0]
    obtain ⟨d, t, ty⟩ := a
    cases d with
    | zero =>
      revert h hcnt h2; refine forall_ofData ?_ t; intro s h h2 hcnt
      show (pure (Arr.roIterFrom (Arr.leaves 0 (ofData s)) ((Arr.leaves 0 (ofData s)).length + 1) s lo (hi - lo))
        : Except AErr (List Elem)) = _
      have hl : Arr.leaves (⟨0, ofData s, ty⟩ : Arr).d (⟨0, ofData s, ty⟩ : Arr).root = [] ++ s :: [] := rfl
      have hlen : (flatten 0 (ofData s)).length = s.elems.length := rfl
      have := roIter_at h [] s [] hl lo (hi - lo) (Nat.le_trans h1 (Nat.le_trans h2 (Nat.le_of_eq hcnt)))
      simp only [List.flatMap_nil, List.length_nil, Nat.zero_add] at this
      exact congrArg _ this
    | succ d =>
      revert h hcnt h2; refine forall_ofMeta ?_ t; intro m h h2 hcnt
      show (if lo = 0 then
          (match Arr.leaves (d + 1) (ofMeta m) with
           | [] => (pure [] : Except AErr (List Elem))
           | first :: _ => pure (Arr.roIterFrom (Arr.leaves (d + 1) (ofMeta m))
               ((Arr.leaves (d + 1) (ofMeta m)).length + 1) first 0 (hi - lo)))
        else
          (Arr.dataSlabWithIndex (d + 1) (ofMeta m) lo >>= fun p =>
            pure (Arr.roIterFrom (Arr.leaves (d + 1) (ofMeta m))
               ((Arr.leaves (d + 1) (ofMeta m)).length + 1) p.1 p.2 (hi - lo)))) = _
      have hlt : lo < (flatten (d + 1) (ofMeta m)).length :=
        Nat.lt_of_lt_of_le (Nat.lt_of_sub_ne_zero h0) (Nat.le_trans h2 (Nat.le_of_eq hcnt))
      have hlenpos : 0 < (flatten (d + 1) (ofMeta m)).length := Nat.lt_of_le_of_lt (Nat.zero_le _) hlt
      by_cases hlo : lo = 0
      · rw [if_pos hlo]
        match hl : Arr.leaves (d + 1) (ofMeta m) with
        | [] => exact absurd hl (leaves_ne_nil_of_elems hlenpos)
        | first :: rest =>
          simp only
          have hl' : Arr.leaves (⟨d + 1, ofMeta m, ty⟩ : Arr).d (⟨d + 1, ofMeta m, ty⟩ : Arr).root
              = [] ++ first :: rest := hl
          have := roIter_at h [] first rest hl' 0 (hi - lo) (Nat.zero_le _)
          simp only [List.flatMap_nil, List.length_nil, Nat.zero_add] at this
          rw [hlo]
          rw [hlo] at this
          rw [← hl]
          exact congrArg _ this
      · rw [if_neg hlo]
        have hs : Shape T (d + 1) true (ofMeta m) := h.shape
        obtain ⟨pre, s, rest, off, hl, hoff, hlt, hds⟩ := dataSlabWithIndex_spec hT (d + 1) (ofMeta m) true lo hs hlt
        rw [hds, hoff]
        exact congrArg _ (roIter_at h pre s rest hl off _ (Nat.le_of_lt hlt))

/-- `IterateRange(lo, hi)` (mutable range iterator) of a valid range is the same slice. -/
theorem iterMutableRange_eq (hT : legalThreshold T = true) (a : Arr) (ctr : Nat) (h : ArrInv T a ctr)
    (lo hi : Nat) (h1 : lo ≤ hi) (h2 : hi ≤ a.count) :
    a.iterMutableRange lo hi = .ok ((a.toList.drop lo).take (hi - lo)) := by
  have hcnt := h.count_eq
  unfold Arr.iterMutableRange
  rw [checkRange_ok a lo hi h1 h2]
  obtain ⟨d, t, ty⟩ := a
  have hget : ∀ j ∈ List.range (hi - lo),
      Arr.get ⟨d, t, ty⟩ (lo + j) = .ok ((flatten d t).getD (lo + j) default) := by
    intro j hj
    simp only [List.mem_range] at hj
    exact (get_gen hT d t true (lo + j) h.shape).1 (Nat.lt_of_lt_of_le (Nat.add_lt_of_lt_sub' hj) (Nat.le_trans h2 (Nat.le_of_eq hcnt)))
  show (List.range (hi - lo)).mapM (fun j => Arr.get ⟨d, t, ty⟩ (lo + j)) = _
  rw [mapM_ok _ _ _ hget]
  congr 1
  show _ = ((flatten d t).drop lo).take (hi - lo)
  have hlen : hi ≤ (flatten d t).length := Nat.le_trans h2 (Nat.le_of_eq hcnt)
  apply List.ext_getElem
  · simp only [List.length_map, List.length_range, List.length_take, List.length_drop]; omega
  · intro i hi1 hi2
    simp only [List.length_map, List.length_range] at hi1
    simp only [List.getElem_map, List.getElem_range, List.getElem_take, List.getElem_drop,
      List.getD_eq_getElem?_getD]
    rw [List.getElem?_eq_getElem (by omega)]
    rfl

end IterA
end Atree

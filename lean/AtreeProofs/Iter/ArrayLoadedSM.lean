import AtreeProofs.Iter.ArrayIter
import AtreeProofs.Iter.LoadedSM
/-
  The iterator object of the loaded-value iteration (`LoadedIter`: stack of index-slab cursors and a
  data-slab cursor, `Next()` with its loops) yields exactly the structural traversal
  `ATree.iterLoaded`, on every tree and for every `loaded` predicate (no invariant needed).
-/
namespace Atree
namespace IterA
open ATree LoadedIter LoadedSM

variable (loaded : SlabID → Bool)

/-- what a data-slab cursor will still yield -/
def remData : Option (DataSlab × Nat) → List Elem
  | none => []
  | some (s, idx) => s.loadedFrom loaded idx

/-- what an index-slab cursor will still yield -/
def remCursor (p : LoadedSlabCursor) : List Elem :=
  remAt (fun h => loaded h.id) (ATree.iterLoaded loaded p.d) p.slab.childHdrs p.slab.children p.idx

def remParents (ps : List LoadedSlabCursor) : List Elem := ps.flatMap (remCursor loaded)

def rem (it : LoadedIter) : List Elem := remData loaded it.data ++ remParents loaded it.parents

/-- termination weight of a cursor: 1 + twice the number of slabs below the unvisited children -/
def wCursor (p : LoadedSlabCursor) : Nat := wAt (slabCount p.d) p.slab.children p.idx

def wParents (ps : List LoadedSlabCursor) : Nat := (ps.map wCursor).sum

theorem slabCount_pos : ∀ (d : Nat) (t : ATree d), 1 ≤ slabCount d t
  | 0, _ => Nat.le_refl _
  | _ + 1, _ => by unfold slabCount; omega

theorem elemNext_spec (s : DataSlab) : ∀ (fuel idx : Nat), s.elems.length - idx < fuel →
    match elemNext loaded s fuel idx with
    | none => s.loadedFrom loaded idx = []
    | some (v, idx') => s.loadedFrom loaded idx = v :: s.loadedFrom loaded idx'
  | 0, _, h => by omega
  | fuel + 1, idx, h => by
    unfold elemNext
    cases he : s.elems[idx]? with
    | none =>
      simp only
      unfold DataSlab.loadedFrom
      rw [drop_of_none he]; rfl
    | some e =>
      simp only
      have hlt : idx < s.elems.length := (List.getElem?_eq_some_iff.1 he).1
      cases hv : e.loadedValue loaded with
      | some v =>
        simp only
        unfold DataSlab.loadedFrom
        rw [drop_of_some he, List.filterMap_cons, hv]
      | none =>
        simp only
        have ih := elemNext_spec s fuel (idx + 1) (by omega)
        have hstep : s.loadedFrom loaded idx = s.loadedFrom loaded (idx + 1) := by
          unfold DataSlab.loadedFrom
          rw [drop_of_some he, List.filterMap_cons, hv]
        rw [hstep]
        exact ih

theorem wCursor_zero (d : Nat) (m : MetaSlab (ATree d)) :
    wCursor ⟨d, m, 0⟩ + 1 = 2 * slabCount (d + 1) (ofMeta m) :=
  wAt_zero (slabCount d) m.children

theorem wCursor_pos (p : LoadedSlabCursor) : 1 ≤ wCursor p := Nat.le_add_right _ _

/-- outcome of `slabNext` in terms of what the cursors still yield, with the weights -/
def SlabNextPost (p : LoadedSlabCursor) : ChildRes → Prop
  | .done => remCursor loaded p = []
  | .leaf s p' => remCursor loaded p = s.loadedElems loaded ++ remCursor loaded p' ∧
      wCursor p' + 1 ≤ wCursor p
  | .inner c p' => remCursor loaded p = remCursor loaded c ++ remCursor loaded p' ∧
      wCursor c + wCursor p' + 1 ≤ wCursor p

theorem childRes_post {p p' : LoadedSlabCursor} : ∀ (d : Nat) (child : ATree d),
    remCursor loaded p = ATree.iterLoaded loaded d child ++ remCursor loaded p' →
    2 * slabCount d child + wCursor p' ≤ wCursor p → SlabNextPost loaded p (childRes d child p')
  | 0, child, hrem, hw => ⟨hrem, by have := slabCount_pos 0 child; omega⟩
  | d + 1, child, hrem, hw => by
    revert hrem hw; refine forall_ofMeta ?_ child; intro cm hrem hw
    have := wCursor_zero d cm
    exact ⟨hrem, by show wCursor ⟨d, cm, 0⟩ + _ + 1 ≤ _; omega⟩

theorem slabNext_spec (fuel : Nat) (p : LoadedSlabCursor) (h : p.slab.childHdrs.length - p.idx < fuel) :
    SlabNextPost loaded p (slabNext loaded fuel p) := by
  obtain ⟨d, m, idx⟩ := p
  rcases scan_spec (ok := fun h => loaded h.id) (it := ATree.iterLoaded loaded d) (cnt := slabCount d)
      (hs := m.childHdrs) (cs := m.children)
      .done (fun j c => childRes d c ⟨d, m, j + 1⟩) (fun f i => slabNext loaded f ⟨d, m, i⟩)
      (fun f i hh => by rw [slabNext]; simp only [hh])
      (fun f i h hh hl => by rw [slabNext]; simp only [hh, hl, Bool.false_eq_true, if_false])
      (fun f i h hh hl hc => by rw [slabNext]; simp only [hh, hl, if_true, hc])
      (fun f i h c hh hl hc => by rw [slabNext]; simp only [hh, hl, if_true, hc])
      fuel idx h with ⟨e, hr⟩ | ⟨j, c, e, hr, hw⟩
  · rw [e]; exact hr
  · rw [e]; exact childRes_post loaded d c hr hw

theorem nextData_spec (fuel : Nat) (ps : List LoadedSlabCursor) (h : wParents ps < fuel) :
    WalkPost (remCursor loaded) wCursor (DataSlab.loadedElems loaded) ps (nextData loaded fuel ps) := by
  refine walk_spec (nextData loaded) wCursor_pos (fun f => by rw [nextData]) (fun f p ps => ?_) fuel ps h
  have hs := slabNext_spec loaded (p.slab.childHdrs.length + 1) p (by omega)
  rw [nextData]
  revert hs
  cases slabNext loaded (p.slab.childHdrs.length + 1) p with
  | done => exact fun hs => .inl ⟨hs, rfl⟩
  | leaf s p' => exact fun hs => .inr (.inl ⟨s, p', hs, rfl⟩)
  | inner c p' => exact fun hs => .inr (.inr ⟨c, p', hs, rfl⟩)

theorem next_spec (N fuel : Nat) (it : LoadedIter) (hf : wParents it.parents < fuel)
    (hN : wParents it.parents < N) :
    NextPost (w := wCursor) (rem loaded) (·.parents) it (next loaded N fuel it) := by
  refine LoadedSM.next_spec (nextData loaded N) N (nextData_spec loaded N)
    (fun ps s => ⟨ps, some (s, 0)⟩) (fun ps s => ⟨rfl, rfl⟩) (next loaded N) (fun f it => ?_) fuel it hf hN
  obtain ⟨ps, data⟩ := it
  cases data with
  | none =>
    refine .inr ⟨rfl, fun ps' h => ?_, fun s ps' h => ?_⟩ <;> rw [next] <;> simp only [h]
  | some sd =>
    obtain ⟨s, idx⟩ := sd
    have he := elemNext_spec loaded s (s.elems.length + 1) idx (by omega)
    revert he
    cases hen : elemNext loaded s (s.elems.length + 1) idx with
    | some r =>
      obtain ⟨v, idx'⟩ := r
      intro he
      refine .inl ⟨v, ⟨ps, some (s, idx')⟩, by rw [next]; simp only [hen], ?_, rfl⟩
      show s.loadedFrom loaded idx ++ _ = _
      rw [show s.loadedFrom loaded idx = v :: s.loadedFrom loaded idx' from he]; rfl
    | none =>
      intro he
      refine .inr ⟨?_, fun ps' h => ?_, fun s ps' h => ?_⟩
      · show s.loadedFrom loaded idx ++ _ = _
        rw [show s.loadedFrom loaded idx = [] from he]; rfl
      · rw [next]; simp only [hen, h]
      · rw [next]; simp only [hen, h]

theorem run_spec (N : Nat) : ∀ (fuel : Nat) (it : LoadedIter),
    (rem loaded it).length < fuel → wParents it.parents < N →
    run loaded N fuel it = rem loaded it
  | 0, _, h, _ => by omega
  | fuel + 1, it, hf, hN => by
    unfold run
    have hn := next_spec loaded N N it hN hN
    revert hn
    cases next loaded N N it with
    | none => exact fun hn => Eq.symm hn
    | some r =>
      obtain ⟨v, it'⟩ := r
      intro hn
      obtain ⟨h1, h2⟩ : rem loaded it = _ ∧ wParents it'.parents ≤ wParents it.parents := hn
      simp only
      rw [h1, run_spec N fuel it' (by rw [h1, List.length_cons] at hf; omega) (by omega)]

theorem loadedIterator_spec (a : Arr) :
    rem loaded a.loadedIterator = a.iterLoaded loaded ∧
    wParents a.loadedIterator.parents < 2 * ATree.slabCount a.d a.root + 2 := by
  obtain ⟨d, t, ty⟩ := a
  cases d with
  | zero =>
    refine forall_ofData ?_ t; intro s
    exact ⟨List.append_nil _, Nat.succ_pos _⟩
  | succ d =>
    refine forall_ofMeta ?_ t; intro m
    constructor
    · show [] ++ ([⟨d, m, 0⟩] : List LoadedSlabCursor).flatMap (remCursor loaded) = _
      rw [List.nil_append, List.flatMap_cons, List.flatMap_nil, List.append_nil]
      rfl
    · show wCursor ⟨d, m, 0⟩ + 0 < 2 * slabCount (d + 1) (ofMeta m) + 2
      have := wCursor_zero d m
      omega

/-- The iterator object and the structural traversal yield the same elements, on every array. -/
theorem iterLoadedSM_eq (a : Arr) : a.iterLoadedSM loaded = a.iterLoaded loaded := by
  obtain ⟨hrem, hw⟩ := loadedIterator_spec loaded a
  have hsub : (a.iterLoaded loaded).length ≤ a.toList.length :=
    (iterLoaded_sublist loaded a.d a.root).length_le
  unfold Arr.iterLoadedSM
  rw [run_spec loaded _ _ _ (by rw [hrem]; omega) hw]
  exact hrem

end IterA
end Atree

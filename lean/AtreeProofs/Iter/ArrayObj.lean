import AtreeProofs.Iter.ObjGeneric
import AtreeProofs.Iter.ArrayLoadedSM
/-
  C13, arrays: the iterator objects of Array/IterObj.lean (`ArrIter`: empty / mutable / read-only /
  loaded-value, made by `Iterator`, `ReadOnlyIterator`, `RangeIterator`, `ReadOnlyRangeIterator`,
  `ReadOnlyLoadedValueIterator`) hand out, step by step, the list forms the C13 theorems speak about.
  `RArr a loaded it l` = "object `it` on array `a` still has to hand out `l`"; it is kept by `Next()`
  (`next_tracks`), and the freshly made objects satisfy it with `toList` / the slice / `iterLoaded`.
-/
namespace Atree
namespace IterAO
open Gen ATree IterObj

theorem roNext_zero (all : List DataSlab) (it : ROArrIter) (h : it.remainingCount = 0) :
    ArrIter.roNext all it = .ok (none, it) := by
  unfold ArrIter.roNext
  rw [if_pos h]

theorem roNext_here (all : List DataSlab) (it : ROArrIter) (e : Elem) (h0 : it.remainingCount ≠ 0)
    (he : it.dataSlab.elems[it.indexInDataSlab]? = some e) :
    ArrIter.roNext all it = .ok (some e, { it with indexInDataSlab := it.indexInDataSlab + 1,
                                                   remainingCount := it.remainingCount - 1 }) := by
  have hlt : it.indexInDataSlab < it.dataSlab.elems.length := (List.getElem?_eq_some_iff.1 he).1
  unfold ArrIter.roNext
  rw [if_neg h0]
  simp only
  rw [if_neg (by omega)]
  simp only [he]

theorem roNext_adv (all : List DataSlab) (it : ROArrIter) (nxt : DataSlab) (e : Elem) (es : List Elem)
    (h0 : it.remainingCount ≠ 0) (hge : it.indexInDataSlab ≥ it.dataSlab.elems.length)
    (hnext : it.dataSlab.next ≠ SlabID.undef)
    (hfind : all.find? (fun s => s.hdr.id == it.dataSlab.next) = some nxt) (hn : nxt.elems = e :: es) :
    ArrIter.roNext all it = .ok (some e, { dataSlab := nxt, indexInDataSlab := 1,
                                           remainingCount := it.remainingCount - 1 }) := by
  unfold ArrIter.roNext
  rw [if_neg h0]
  simp only
  rw [if_pos hge, if_neg hnext, hfind]
  simp only [hn, List.length_cons]
  rw [if_neg (by omega)]
  simp only [hn, List.getElem?_cons_zero]

/-- the facts about the leaf list the read-only object relies on (all follow from `ArrInv`) -/
structure LeavesOk (all : List DataSlab) : Prop where
  nodup : (all.map (·.hdr.id)).Nodup
  defd  : ∀ s ∈ all, s.hdr.id ≠ SlabID.undef
  chain : LeafChain all
  tail_nonempty : ∀ s ∈ all.tail, s.elems ≠ []

/-- the read-only object `r` stands in leaf `r.dataSlab` of `all` at offset `r.indexInDataSlab`, and
    the `r.remainingCount` elements it may still hand out are there: `l` is that run of elements -/
def ROk (all : List DataSlab) (r : ROArrIter) (l : List Elem) : Prop :=
  ∃ pre rest, all = pre ++ r.dataSlab :: rest ∧
    l.length = r.remainingCount ∧
    l <+: r.dataSlab.elems.drop r.indexInDataSlab ++ rest.flatMap (·.elems)

theorem roNext_tracks {all : List DataSlab} (L : LeavesOk all) :
    Tracks (ArrIter.roNext all) (ROk all) where
  nil := by
    intro it h
    obtain ⟨pre, rest, hall, hlen, _⟩ := h
    exact ⟨it, roNext_zero all it (by simpa using hlen.symm), pre, rest, hall, hlen, List.nil_prefix⟩
  cons := by
    intro it v l h
    obtain ⟨pre, rest, hall, hlen, hp⟩ := h
    have h0 : it.remainingCount ≠ 0 := by rw [← hlen]; simp
    by_cases hlt : it.indexInDataSlab < it.dataSlab.elems.length
    · -- the element is in the current data slab
      have hd := List.drop_eq_getElem_cons hlt
      rw [hd, List.cons_append, List.cons_prefix_cons] at hp
      refine ⟨_, roNext_here all it v h0 (by rw [List.getElem?_eq_getElem hlt, hp.1]), pre, rest, hall, ?_, hp.2⟩
      simp only [List.length_cons] at hlen
      show l.length = it.remainingCount - 1
      omega
    · -- the current data slab is used up: follow `next`
      rw [List.drop_of_length_le (by omega), List.nil_append] at hp
      cases rest with
      | nil => simp at hp
      | cons nxt rest =>
        have hchain : LeafChain (it.dataSlab :: nxt :: rest) := by
          have := L.chain; rw [hall] at this
          exact IterA.leafChain_tail pre _ _ this
        obtain ⟨hnext, _⟩ : it.dataSlab.next = nxt.hdr.id ∧ LeafChain (nxt :: rest) := hchain
        have hnu : nxt.hdr.id ≠ SlabID.undef := L.defd nxt (by rw [hall]; simp)
        have hfind : all.find? (fun s => s.hdr.id == it.dataSlab.next) = some nxt := by
          rw [hnext, hall]
          exact find?_next pre rest it.dataSlab nxt (by rw [← hall]; exact L.nodup)
        have hne : nxt.elems ≠ [] := L.tail_nonempty nxt (mem_tail_of_split hall (by simp))
        cases hn : nxt.elems with
        | nil => exact absurd hn hne
        | cons e es =>
          rw [List.flatMap_cons, hn, List.cons_append, List.cons_prefix_cons] at hp
          refine ⟨_, roNext_adv all it nxt v es h0 (by omega) (by rw [hnext]; exact hnu) hfind
            (by rw [hn, hp.1]), pre ++ [it.dataSlab], rest, by rw [hall]; simp, ?_, ?_⟩
          · simp only [List.length_cons] at hlen
            show l.length = it.remainingCount - 1
            omega
          · show l <+: nxt.elems.drop 1 ++ rest.flatMap (·.elems)
            rw [hn]; exact hp.2

/-- `RArr a loaded it l`: the object `it` on array `a` still has to hand out exactly `l`.
    * the empty iterator: nothing;
    * the mutable iterator at `nextIndex = i`, `lastIndex = last`: positions `i … last-1` of the array
      (on an array whose `Get` agrees with the enumeration: from `ArrInv`);
    * the read-only iterator: `ROk` (the run of `remainingCount` elements from its cursor; on an array
      whose leaf list is linked, has pairwise different defined IDs and no empty non-first leaf:
      `LeavesOk`, from `ArrInv`);
    * the loaded-value iterator: what its cursors still cover (`IterA.rem`), with the weight bound
      that makes the fuel of `ArrIter.next` sufficient. -/
def RArr (a : Arr) (loaded : SlabID → Bool) : ArrIter → List Elem → Prop
  | .empty _, l => l = []
  | .mut i last, l => (∀ j, j < a.toList.length → a.get j = .ok (a.toList.getD j default)) ∧
      i ≤ last ∧ last ≤ a.toList.length ∧ l = (a.toList.drop i).take (last - i)
  | .ro r, l => LeavesOk (Arr.leaves a.d a.root) ∧ ROk (Arr.leaves a.d a.root) r l
  | .loaded it, l => IterA.rem loaded it = l ∧
      IterA.wParents it.parents < 2 * ATree.slabCount a.d a.root + 2

variable {T : Nat}

theorem leavesOk (hT : legalThreshold T = true) {a : Arr} {ctr : Nat} (h : ArrInv T a ctr) :
    LeavesOk (Arr.leaves a.d a.root) := by
  obtain ⟨hnd, hdef, hchain⟩ := IterA.leaves_facts h
  refine ⟨hnd, hdef, hchain, ?_⟩
  obtain ⟨d, t, ty⟩ := a
  cases d with
  | zero =>
    intro s hs
    have : Arr.leaves 0 t = [t] := rfl
    rw [this] at hs
    cases hs
  | succ d =>
    have htree : TreeInv T (d + 1) true t := h.tree
    obtain ⟨_, _, _, _, _, h6, _⟩ := htree
    intro s hs
    obtain ⟨c, hc, hsc⟩ := List.mem_flatMap.mp (List.mem_of_mem_tail hs)
    exact TreeInv.leaves_ne_nil hT d c (h6 c hc) s hsc

theorem next_tracks (a : Arr) (loaded : SlabID → Bool) : Tracks (ArrIter.next a loaded) (RArr a loaded) where
  cons := by
    intro it v l hR
    cases it with
    | empty ro => cases (show v :: l = [] from hR)
    | «mut» i last =>
      obtain ⟨hg, h1, h2, h3⟩ : (∀ j, j < a.toList.length → a.get j = .ok (a.toList.getD j default)) ∧
        i ≤ last ∧ last ≤ a.toList.length ∧ v :: l = (a.toList.drop i).take (last - i) := hR
      obtain ⟨hlt, hv, hl⟩ := slice_cons h3
      refine ⟨.mut (i + 1) last, ?_, hg, hlt, h2, hl⟩
      simp only [ArrIter.next]
      rw [if_neg (Nat.ne_of_lt hlt), hg i (Nat.lt_of_lt_of_le hlt h2), List.getD_eq_getElem?_getD, hv]
      rfl
    | ro r =>
      obtain ⟨L, hR⟩ : LeavesOk (Arr.leaves a.d a.root) ∧ _ := hR
      obtain ⟨r', hr, hR'⟩ := (roNext_tracks L).cons r v l hR
      exact ⟨.ro r', by simp only [ArrIter.next, hr], L, hR'⟩
    | loaded it =>
      obtain ⟨hrem, hw⟩ : IterA.rem loaded it = v :: l ∧ _ := hR
      obtain ⟨it', hn, hl, hw'⟩ := (IterA.next_spec loaded _ _ it hw hw).cons hrem
      exact ⟨.loaded it', by simp only [ArrIter.next, hn], hl, Nat.lt_of_le_of_lt hw' hw⟩
  nil := by
    intro it hR
    cases it with
    | empty ro => exact ⟨.empty ro, rfl, rfl⟩
    | «mut» i last =>
      obtain ⟨hg, h1, h2, h3⟩ : (∀ j, j < a.toList.length → a.get j = .ok (a.toList.getD j default)) ∧
        i ≤ last ∧ last ≤ a.toList.length ∧ [] = (a.toList.drop i).take (last - i) := hR
      refine ⟨.mut i last, ?_, hg, h1, h2, h3⟩
      simp only [ArrIter.next]
      rw [if_pos (slice_nil h3 h1 h2)]
    | ro r =>
      obtain ⟨L, hR⟩ : LeavesOk (Arr.leaves a.d a.root) ∧ _ := hR
      obtain ⟨r', hr, hR'⟩ := (roNext_tracks L).nil r hR
      exact ⟨.ro r', by simp only [ArrIter.next, hr], L, hR'⟩
    | loaded it =>
      obtain ⟨hrem, hw⟩ : IterA.rem loaded it = [] ∧ _ := hR
      have hn := (IterA.next_spec loaded _ _ it hw hw).nil hrem
      exact ⟨.loaded it, by simp only [ArrIter.next, hn], hrem, hw⟩

theorem firstDataSlab_spec (hT : legalThreshold T = true) : ∀ (d : Nat) (top : Bool) (t : ATree d),
    TreeInv T d top t → ∃ f rest, Arr.leaves d t = f :: rest ∧ Arr.firstDataSlab d t = .ok f
  | 0, _, (t : DataSlab), _ => ⟨t, [], rfl, rfl⟩
  | d + 1, top, (m : MetaSlab (ATree d)), h => by
    have hne := TreeInv.children_ne_nil hT h
    obtain ⟨_, _, _, _, _, h6, _⟩ := h
    cases hc : m.children with
    | nil => exact absurd hc hne
    | cons child cs =>
      obtain ⟨f, rest, h1, h2⟩ := firstDataSlab_spec hT d false child (h6 child (by rw [hc]; simp))
      refine ⟨f, rest ++ cs.flatMap (Arr.leaves d), ?_, ?_⟩
      · show m.children.flatMap (Arr.leaves d) = _
        rw [hc, List.flatMap_cons, h1]; rfl
      · show (match m.children with
          | [] => (Except.error AErr.goPanic : Except AErr DataSlab)
          | c :: _ => Arr.firstDataSlab d c) = _
        rw [hc]; exact h2

/-- a read-only object placed at leaf `s`, offset `idx`, with `n` elements to go -/
theorem rok_at (a : Arr) (pre : List DataSlab) (s : DataSlab) (rest : List DataSlab)
    (hl : Arr.leaves a.d a.root = pre ++ s :: rest) (idx n : Nat) (hidx : idx ≤ s.elems.length)
    (hn : (pre.flatMap (·.elems)).length + idx + n ≤ a.toList.length) :
    ROk (Arr.leaves a.d a.root) ⟨s, idx, n⟩
      ((a.toList.drop ((pre.flatMap (·.elems)).length + idx)).take n) := by
  refine ⟨pre, rest, hl, ?_, ?_⟩
  · rw [List.length_take, List.length_drop]
    show min n _ = n
    omega
  · rw [IterA.toList_drop_at a hl hidx]
    exact List.take_prefix _ _

theorem expected_length_le (a : Arr) (ctr : Nat) (h : ArrInv T a ctr)
    (loaded : SlabID → Bool) (f : Arr.Flavour) : (f.expected a loaded).length ≤ a.count := by
  rw [h.count_eq]
  cases f with
  | «mut» => exact Nat.le_refl _
  | ro => exact Nat.le_refl _
  | mutRange lo hi => simp only [Arr.Flavour.expected, List.length_take, List.length_drop]; omega
  | roRange lo hi => simp only [Arr.Flavour.expected, List.length_take, List.length_drop]; omega
  | loaded => exact (IterA.iterLoaded_sublist loaded a.d a.root).length_le

theorem makeLoaded_spec (loaded : SlabID → Bool) (a : Arr) :
    ∃ it, a.makeIterator .loaded = .ok it ∧ RArr a loaded it (a.iterLoaded loaded) ∧ it.canMutate = false := by
  obtain ⟨h1, h2⟩ := IterA.loadedIterator_spec loaded a
  exact ⟨.loaded a.loadedIterator, rfl, ⟨h1, h2⟩, rfl⟩

/-- every way of making an iterator object succeeds (valid range) and the object has the list form
    of its flavour to hand out; `CanMutate()` is as the flavour says -/
theorem makeIterator_spec (hT : legalThreshold T = true) (a : Arr) (ctr : Nat) (h : ArrInv T a ctr)
    (loaded : SlabID → Bool) (f : Arr.Flavour) (hf : f.Valid a) :
    ∃ it, a.makeIterator f = .ok it ∧ RArr a loaded it (f.expected a loaded) ∧
      it.canMutate = f.mutable := by
  have hcnt := h.count_eq
  have hL := leavesOk hT h
  have hg : ∀ j, j < a.toList.length → a.get j = .ok (a.toList.getD j default) :=
    fun j => (arr_get_spec hT a ctr h j).1
  cases f with
  | «mut» =>
    show ∃ it, Except.ok a.iterator = .ok it ∧ _
    unfold Arr.iterator
    by_cases h0 : a.count = 0
    · refine ⟨.empty false, by rw [if_pos h0], ?_, rfl⟩
      show a.toList = []
      exact List.eq_nil_of_length_eq_zero (hcnt.symm.trans h0)
    · refine ⟨.mut 0 a.count, by rw [if_neg h0], ⟨hg, Nat.zero_le _, Nat.le_of_eq hcnt, ?_⟩, rfl⟩
      show a.toList = _
      rw [List.drop_zero, Nat.sub_zero, hcnt, List.take_length]
  | ro =>
    show ∃ it, a.readOnlyIterator = .ok it ∧ _
    unfold Arr.readOnlyIterator
    by_cases h0 : a.count = 0
    · refine ⟨.empty true, by rw [if_pos h0], ?_, rfl⟩
      show a.toList = []
      exact List.eq_nil_of_length_eq_zero (hcnt.symm.trans h0)
    · obtain ⟨first, rest, hl, hfirst⟩ := firstDataSlab_spec hT a.d true a.root h.tree
      refine ⟨.ro ⟨first, 0, a.count⟩, ?_, ⟨hL, ?_⟩, rfl⟩
      · rw [if_neg h0, hfirst]; rfl
      · have := rok_at a [] first rest hl 0 a.count (Nat.zero_le _)
          (by simp only [List.flatMap_nil, List.length_nil, Nat.zero_add]; exact Nat.le_of_eq hcnt)
        simp only [List.flatMap_nil, List.length_nil, Nat.add_zero, List.drop_zero] at this
        rw [hcnt, List.take_length] at this
        rw [← hcnt] at this
        exact this
  | mutRange lo hi =>
    obtain ⟨h1, h2⟩ : lo ≤ hi ∧ hi ≤ a.count := hf
    show ∃ it, a.rangeIterator lo hi = .ok it ∧ _
    unfold Arr.rangeIterator
    rw [IterA.checkRange_ok a lo hi h1 h2]
    by_cases he : hi = lo
    · refine ⟨.empty false, ?_, ?_, rfl⟩
      · show (if hi = lo then (pure (.empty false) : Except AErr ArrIter) else _) = _
        rw [if_pos he]; rfl
      · show (a.toList.drop lo).take (hi - lo) = []
        rw [he, Nat.sub_self, List.take_zero]
    · refine ⟨.mut lo hi, ?_, ⟨hg, h1, hcnt ▸ h2, rfl⟩, rfl⟩
      show (if hi = lo then (pure (.empty false) : Except AErr ArrIter) else _) = _
      rw [if_neg he]; rfl
  | roRange lo hi =>
    obtain ⟨h1, h2⟩ : lo ≤ hi ∧ hi ≤ a.count := hf
    show ∃ it, a.readOnlyRangeIterator lo hi = .ok it ∧ _
    unfold Arr.readOnlyRangeIterator
    rw [IterA.checkRange_ok a lo hi h1 h2]
    by_cases he : hi - lo = 0
    · refine ⟨.empty true, ?_, ?_, rfl⟩
      · show (if hi - lo = 0 then (pure (.empty true) : Except AErr ArrIter) else _) = _
        rw [if_pos he]; rfl
      · show (a.toList.drop lo).take (hi - lo) = []
        rw [he, List.take_zero]
    · show ∃ it, (if hi - lo = 0 then (pure (.empty true) : Except AErr ArrIter) else _) = .ok it ∧ _
      rw [if_neg he]
      clear hg
      obtain ⟨d, t, ty⟩ := a
      cases d with
      | zero =>
        revert h hcnt h2 hL; refine forall_ofData ?_ t; intro s h hcnt hL h2
        have hl : Arr.leaves (⟨0, ofData s, ty⟩ : Arr).d (⟨0, ofData s, ty⟩ : Arr).root = [] ++ s :: [] := rfl
        have hlen : (⟨0, ofData s, ty⟩ : Arr).toList.length = s.elems.length := rfl
        refine ⟨.ro ⟨s, lo, hi - lo⟩, rfl, ⟨hL, ?_⟩, rfl⟩
        have := rok_at (⟨0, ofData s, ty⟩ : Arr) [] s [] hl lo (hi - lo)
          (Nat.le_trans h1 (Nat.le_trans h2 (Nat.le_of_eq hcnt)))
          (by simp only [List.flatMap_nil, List.length_nil, Nat.zero_add]
              rw [Nat.add_sub_of_le h1]; exact Nat.le_trans h2 (Nat.le_of_eq hcnt))
        simp only [List.flatMap_nil, List.length_nil, Nat.zero_add] at this
        exact this
      | succ d =>
        revert h hcnt h2 hL; refine forall_ofMeta ?_ t; intro m h hcnt hL h2
        show ∃ it, (if lo = 0 then
            (Arr.firstDataSlab (d + 1) (ofMeta m) >>= fun s =>
              (pure (.ro ⟨s, 0, hi - lo⟩) : Except AErr ArrIter))
          else
            (Arr.dataSlabWithIndex (d + 1) (ofMeta m) lo >>= fun p =>
              (pure (.ro ⟨p.1, p.2, hi - lo⟩) : Except AErr ArrIter))) = .ok it ∧ _
        by_cases hlo : lo = 0
        · rw [if_pos hlo]
          obtain ⟨first, rest, hl, hfirst⟩ := firstDataSlab_spec hT (d + 1) true (ofMeta m) h.tree
          rw [hfirst]
          refine ⟨.ro ⟨first, 0, hi - lo⟩, rfl, ⟨hL, ?_⟩, rfl⟩
          have := rok_at (⟨d + 1, ofMeta m, ty⟩ : Arr) [] first rest hl 0 (hi - lo) (Nat.zero_le _)
            (by simp only [List.flatMap_nil, List.length_nil, Nat.zero_add]
                exact Nat.le_trans (Nat.sub_le _ _) (Nat.le_trans h2 (Nat.le_of_eq hcnt)))
          simp only [List.flatMap_nil, List.length_nil, Nat.add_zero] at this
          show ROk _ _ (((⟨d + 1, ofMeta m, ty⟩ : Arr).toList.drop lo).take (hi - lo))
          rw [show (⟨d + 1, ofMeta m, ty⟩ : Arr).toList.drop lo = (⟨d + 1, ofMeta m, ty⟩ : Arr).toList.drop 0 by rw [hlo]]
          exact this
        · rw [if_neg hlo]
          have hs : Shape T (d + 1) true (ofMeta m) := h.shape
          have hlen : (⟨d + 1, ofMeta m, ty⟩ : Arr).toList = flatten (d + 1) (ofMeta m) := rfl
          obtain ⟨pre, s, rest, off, hl, hoff, hlt, hds⟩ :=
            IterA.dataSlabWithIndex_spec hT (d + 1) (ofMeta m) true lo hs
              (by rw [← hlen]
                  exact Nat.lt_of_lt_of_le (Nat.lt_of_sub_ne_zero he) (Nat.le_trans h2 (Nat.le_of_eq hcnt)))
          rw [hds]
          refine ⟨.ro ⟨s, off, hi - lo⟩, rfl, ⟨hL, ?_⟩, rfl⟩
          have := rok_at (⟨d + 1, ofMeta m, ty⟩ : Arr) pre s rest hl off (hi - lo) (Nat.le_of_lt hlt)
            (by rw [← hoff, Nat.add_sub_of_le h1]; exact Nat.le_trans h2 (Nat.le_of_eq hcnt))
          rw [← hoff] at this
          exact this
  | loaded =>
    obtain ⟨h1, h2⟩ := IterA.loadedIterator_spec loaded a
    exact ⟨.loaded a.loadedIterator, rfl, ⟨h1, h2⟩, rfl⟩

end IterAO
end Atree

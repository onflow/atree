import AtreeModel.Array.Iter
import AtreeProofs.Array.Top
/-
  C13, arrays: the mutable iterator whose callback overwrites the current element neither skips
  nor repeats — it hands out exactly the elements the array had when the iteration started, in
  index order, and leaves a well-formed array of the same length.
-/
namespace Atree
namespace IterA
open Gen ATree

variable {T : Nat}

theorem iterMutableWith_zero (upd : Nat → Elem → Option Elem) (i : Nat) (a : Arr) (c : Ctx) :
    Arr.iterMutableWith T upd 0 i a c = .ok ([], a, c) := rfl

theorem iterMutableWith_succ_none (upd : Nat → Elem → Option Elem) (n i : Nat) (a : Arr) (c : Ctx) (e : Elem)
    (hg : a.get i = .ok e) (hu : upd i e = none) :
    Arr.iterMutableWith T upd (n + 1) i a c =
      (Arr.iterMutableWith T upd n (i + 1) a c >>= fun r => pure (e :: r.1, r.2.1, r.2.2)) := by
  rw [Arr.iterMutableWith]
  simp only [hg, hu, bind, Except.bind, pure, Except.pure]

theorem iterMutableWith_succ_some (upd : Nat → Elem → Option Elem) (n i : Nat) (a : Arr) (c : Ctx) (e v old : Elem)
    (a' : Arr) (c' : Ctx) (hg : a.get i = .ok e) (hu : upd i e = some v) (hs : a.set T i v c = .ok (old, a', c')) :
    Arr.iterMutableWith T upd (n + 1) i a c =
      (Arr.iterMutableWith T upd n (i + 1) a' c' >>= fun r => pure (e :: r.1, r.2.1, r.2.2)) := by
  rw [Arr.iterMutableWith]
  simp only [hg, hu, hs, bind, Except.bind, pure, Except.pure]

theorem iterMutableWith_spec (hT : legalThreshold T = true) (upd : Nat → Elem → Option Elem)
    (hupd : ∀ i e v, upd i e = some v → ValueOk v) :
    ∀ (n i : Nat) (a : Arr) (c : Ctx), ArrInv T a c.ctr → i + n = a.toList.length →
      ∃ a' c', Arr.iterMutableWith T upd n i a c = .ok (a.toList.drop i, a', c') ∧
        ArrInv T a' c'.ctr ∧ a'.toList.length = a.toList.length ∧ a'.rootID = a.rootID
  | 0, i, a, c, h, hlen => by
    refine ⟨a, c, ?_, h, rfl, rfl⟩
    rw [iterMutableWith_zero, List.drop_of_length_le (by omega)]
  | n + 1, i, a, c, h, hlen => by
    have hi : i < a.toList.length := by omega
    have hg : a.get i = .ok (a.toList.getD i default) := by
      obtain ⟨d, t, ty⟩ := a
      exact (get_gen hT d t true i h.shape).1 hi
    have hdrop : a.toList.drop i = a.toList.getD i default :: a.toList.drop (i + 1) := by
      rw [List.drop_eq_getElem_cons hi]
      congr 1
      rw [List.getD_eq_getElem?_getD, List.getElem?_eq_getElem hi]; rfl
    cases hu : upd i (a.toList.getD i default) with
    | none =>
      obtain ⟨a', c', h1, h2, h3, h4⟩ := iterMutableWith_spec hT upd hupd n (i + 1) a c h (by omega)
      refine ⟨a', c', ?_, h2, h3, h4⟩
      rw [iterMutableWith_succ_none upd n i a c _ hg hu, h1, hdrop]
      rfl
    | some v =>
      obtain ⟨a2, c2, hset, hinv, hl, hid, _⟩ := arr_set_ok hT a c i v (hupd _ _ _ hu) h hi
      have hlen2 : a2.toList.length = a.toList.length := by rw [hl]; simp
      obtain ⟨a', c', h1, h2, h3, h4⟩ := iterMutableWith_spec hT upd hupd n (i + 1) a2 c2 hinv (by omega)
      refine ⟨a', c', ?_, h2, by omega, by rw [h4, hid]⟩
      rw [iterMutableWith_succ_some upd n i a c _ v _ a2 c2 hg hu hset, h1, hdrop, hl]
      have : (a.toList.set i ((toStorable T a.addr v c).1)).drop (i + 1) = a.toList.drop (i + 1) := by
        rw [List.drop_set_of_lt (by omega)]
      rw [this]
      rfl

/-- `Iterate` with overwrites of the current element hands out exactly the original sequence. -/
theorem iterateWith_spec (hT : legalThreshold T = true) (upd : Nat → Elem → Option Elem)
    (hupd : ∀ i e v, upd i e = some v → ValueOk v) (a : Arr) (c : Ctx) (h : ArrInv T a c.ctr) :
    ∃ a' c', a.iterateWith T upd c = .ok (a.toList, a', c') ∧ ArrInv T a' c'.ctr ∧
      a'.toList.length = a.toList.length ∧ a'.rootID = a.rootID := by
  have hc := h.count_eq
  obtain ⟨a', c', h1, h2, h3, h4⟩ := iterMutableWith_spec hT upd hupd a.count 0 a c h (by omega)
  exact ⟨a', c', h1, h2, h3, h4⟩

end IterA
end Atree

import AtreeProofs.ListAt
/-
  What the loaded-value iterator objects of arrays and of maps have in common: a cursor into the
  zipped header and child lists of an index slab (`remAt`, `wAt`; the search for the next loaded
  child, `scan_spec`), the walk over the stack of such cursors (Go `nextDataIterator`; `walk_spec`)
  and the recursion of `Next()` through that walk (`next_spec`).  The three loops are stated over
  any functions that unfold the way the model's do; Iter/ArrayLoadedSM.lean and
  Iter/MapLoadedSM.lean supply the unfolding equations.
-/
namespace Atree
namespace LoadedSM

variable {γ : Type}

/-! ### the cursor into one index slab

`hs` / `cs` are the header and child lists of the slab, `ok h` says whether the slab of header `h` is
loaded, `it c` is what child `c` yields, `cnt c` the number of slabs of `c`. -/

section Cursor
variable {H K R : Type} (ok : H → Bool) (it : K → List γ) (cnt : K → Nat)

/-- what a cursor at position `i` of an index slab with headers `hs` and children `cs` will still
    yield: the children from `i` on whose header is loaded -/
def remAt (hs : List H) (cs : List K) (i : Nat) : List γ :=
  ((hs.zip cs).drop i).flatMap fun hc => if ok hc.1 then it hc.2 else []

/-- termination weight of the cursor: 1 + twice the count of the unvisited children -/
def wAt (cs : List K) (i : Nat) : Nat := 1 + 2 * ((cs.drop i).map cnt).sum

variable {ok it cnt} {hs : List H} {cs : List K}

/-- a fresh cursor weighs twice the slab and its subtrees, less one -/
theorem wAt_zero (cnt : K → Nat) (cs : List K) : wAt cnt cs 0 + 1 = 2 * (1 + (cs.map cnt).sum) := by
  rw [wAt, List.drop_zero]; omega

/-- `sn` looks for the first child from `i` on whose header is loaded (the four hypotheses are its
    unfolding): it is `done` when the cursor yields nothing, and otherwise `hit j c` for a child `c` at
    `j` that splits the yield and the weight. -/
theorem scan_spec (done : R) (hit : Nat → K → R) (sn : Nat → Nat → R)
    (hnone : ∀ f i, hs[i]? = none → sn (f + 1) i = done)
    (hskip : ∀ f i h, hs[i]? = some h → ok h = false → sn (f + 1) i = sn f (i + 1))
    (hend : ∀ f i h, hs[i]? = some h → ok h = true → cs[i]? = none → sn (f + 1) i = done)
    (hhit : ∀ f i h c, hs[i]? = some h → ok h = true → cs[i]? = some c → sn (f + 1) i = hit i c) :
    ∀ (fuel i : Nat), hs.length - i < fuel →
      (sn fuel i = done ∧ remAt ok it hs cs i = []) ∨
      ∃ j c, sn fuel i = hit j c ∧
        remAt ok it hs cs i = it c ++ remAt ok it hs cs (j + 1) ∧
        2 * cnt c + wAt cnt cs (j + 1) ≤ wAt cnt cs i
  | 0, _, h => absurd h (Nat.not_lt_zero _)
  | fuel + 1, i, h => by
    cases hh : hs[i]? with
    | none => exact .inl ⟨hnone fuel i hh, by rw [remAt, drop_zip_of_none_left _ hh]; rfl⟩
    | some hd =>
      have hlt : i < hs.length := (List.getElem?_eq_some_iff.1 hh).1
      have ih := scan_spec done hit sn hnone hskip hend hhit fuel (i + 1) (by omega)
      cases hc : cs[i]? with
      | none =>
        have hr : remAt ok it hs cs i = [] := by rw [remAt, drop_zip_of_none_right _ hc]; rfl
        cases hl : ok hd with
        | true => exact .inl ⟨hend fuel i hd hh hl hc, hr⟩
        | false =>
          -- a skipped header without child: nothing is left here or later
          have hr' : remAt ok it hs cs (i + 1) = [] := by
            rw [remAt, drop_zip_of_none_right _ (getElem?_succ_of_none hc)]; rfl
          rw [hskip fuel i hd hh hl]
          rcases ih with ⟨e, _⟩ | ⟨j, c, e, hr2, hw⟩
          · exact .inl ⟨e, hr⟩
          · exact .inr ⟨j, c, e, hr.trans (hr'.symm.trans hr2), Nat.le_trans hw
              (Nat.add_le_add_left (Nat.mul_le_mul_left _ (sum_map_drop_le cnt cs i)) _)⟩
      | some c =>
        have hr : remAt ok it hs cs i = (if ok hd then it c else []) ++ remAt ok it hs cs (i + 1) := by
          rw [remAt, drop_zip_of_some hh hc, List.flatMap_cons]; rfl
        have hw : wAt cnt cs i = 2 * cnt c + wAt cnt cs (i + 1) := by
          rw [wAt, wAt, sum_map_drop_of_some _ hc]; omega
        cases hl : ok hd with
        | true =>
          rw [hl, if_pos rfl] at hr
          exact .inr ⟨i, c, hhit fuel i hd c hh hl hc, hr, Nat.le_of_eq hw.symm⟩
        | false =>
          rw [hl, if_neg Bool.false_ne_true, List.nil_append] at hr
          rw [hskip fuel i hd hh hl, hr]
          rcases ih with ih | ⟨j, c', e, hr2, hw'⟩
          · exact .inl ih
          · exact .inr ⟨j, c', e, hr2, by omega⟩

end Cursor

/-! ### the walk over the stack of cursors

`remC p` is what cursor `p` will still yield, `w p` its weight, `leaf s` what data slab `s` yields. -/

section Walk
variable {C S : Type} (remC : C → List γ) (w : C → Nat) (leaf : S → List γ)

/-- the result of the walk: either nothing is left, or a data slab and the cursors after it -/
def WalkPost (ps : List C) : Option S × List C → Prop
  | (none, _) => ps.flatMap remC = []
  | (some s, ps') => ps.flatMap remC = leaf s ++ ps'.flatMap remC ∧
      (ps'.map w).sum + 1 ≤ (ps.map w).sum

variable {remC w leaf}

theorem WalkPost.mono {ps qs : List C} {res : Option S × List C}
    (hr : ps.flatMap remC = qs.flatMap remC) (hw : (qs.map w).sum ≤ (ps.map w).sum)
    (h : WalkPost remC w leaf qs res) : WalkPost remC w leaf ps res := by
  obtain ⟨o, ps'⟩ := res
  cases o with
  | none => exact hr.trans h
  | some s => exact ⟨hr.trans h.1, Nat.le_trans h.2 hw⟩

/-- `nd` pops a finished cursor, hands out a data slab, or pushes the cursor of an index slab,
    where each cursor step splits what the cursor yields and lowers the weight. -/
theorem walk_spec (nd : Nat → List C → Option S × List C) (hw : ∀ p, 1 ≤ w p)
    (hnil : ∀ f, nd (f + 1) [] = (none, []))
    (hcons : ∀ f p ps,
      (remC p = [] ∧ nd (f + 1) (p :: ps) = nd f ps) ∨
      (∃ s p', (remC p = leaf s ++ remC p' ∧ w p' + 1 ≤ w p) ∧
        nd (f + 1) (p :: ps) = (some s, p' :: ps)) ∨
      (∃ c p', (remC p = remC c ++ remC p' ∧ w c + w p' + 1 ≤ w p) ∧
        nd (f + 1) (p :: ps) = nd f (c :: p' :: ps))) :
    ∀ (fuel : Nat) (ps : List C), (ps.map w).sum < fuel → WalkPost remC w leaf ps (nd fuel ps)
  | 0, _, h => absurd h (Nat.not_lt_zero _)
  | f + 1, [], _ => by rw [hnil]; exact rfl
  | f + 1, p :: ps, h => by
    rw [List.map_cons, List.sum_cons] at h
    rcases hcons f p ps with ⟨h1, he⟩ | ⟨s, p', ⟨h1, h2⟩, he⟩ | ⟨c, p', ⟨h1, h2⟩, he⟩ <;> rw [he]
    · refine (walk_spec nd hw hnil hcons f ps (by have := hw p; omega)).mono ?_ ?_
      · rw [List.flatMap_cons, h1, List.nil_append]
      · rw [List.map_cons, List.sum_cons]; exact Nat.le_add_left _ _
    · refine ⟨?_, ?_⟩
      · rw [List.flatMap_cons, List.flatMap_cons, h1, List.append_assoc]
      · rw [List.map_cons, List.sum_cons, List.map_cons, List.sum_cons]; omega
    · refine (walk_spec nd hw hnil hcons f (c :: p' :: ps) ?_).mono ?_ ?_
      · rw [List.map_cons, List.sum_cons, List.map_cons, List.sum_cons]; omega
      · rw [List.flatMap_cons, List.flatMap_cons, List.flatMap_cons, h1, List.append_assoc]
      · simp only [List.map_cons, List.sum_cons]; omega

/-! ### `Next()`

`remI it` is what the iterator object `it` will still yield, `par it` its stack of cursors,
`mk ps s` the object that has just entered data slab `s`. -/

variable {I : Type} (remI : I → List γ) (par : I → List C)

/-- the result of `Next()`: nothing is left, or the head of what was left is handed out and the
    stack has not grown heavier (the walk's strict decrease is spent on entering the data slab) -/
def NextPost (it : I) : Option (γ × I) → Prop
  | none => remI it = []
  | some (v, it') => remI it = v :: remI it' ∧ ((par it').map w).sum ≤ ((par it).map w).sum

variable {remI par}

theorem NextPost.cons {it : I} {v : γ} {l : List γ} {res : Option (γ × I)}
    (h : NextPost (w := w) remI par it res) (hrem : remI it = v :: l) :
    ∃ it', res = some (v, it') ∧ remI it' = l ∧ ((par it').map w).sum ≤ ((par it).map w).sum := by
  cases res with
  | none => exact absurd (hrem.symm.trans h) (List.cons_ne_nil _ _)
  | some q =>
    obtain ⟨v', it'⟩ := q
    obtain ⟨h1, h2⟩ : _ ∧ _ := h
    obtain ⟨rfl, rfl⟩ := List.cons.inj (hrem.symm.trans h1)
    exact ⟨it', rfl, rfl, h2⟩

theorem NextPost.nil {it : I} {res : Option (γ × I)}
    (h : NextPost (w := w) remI par it res) (hrem : remI it = []) : res = none := by
  cases res with
  | none => rfl
  | some q =>
    obtain ⟨v', it'⟩ := q
    exact absurd (h.1.symm.trans hrem) (List.cons_ne_nil _ _)

/-- `nx` hands out the next element of the current data slab, or, when there is none, walks the
    stack to the next data slab and calls itself. -/
theorem next_spec (nd : List C → Option S × List C) (N : Nat)
    (hnd : ∀ ps, (ps.map w).sum < N → WalkPost remC w leaf ps (nd ps))
    (mk : List C → S → I)
    (hmk : ∀ ps s, remI (mk ps s) = leaf s ++ ps.flatMap remC ∧ par (mk ps s) = ps)
    (nx : Nat → I → Option (γ × I))
    (hnx : ∀ f it,
      (∃ v it', nx (f + 1) it = some (v, it') ∧ remI it = v :: remI it' ∧ par it' = par it) ∨
      (remI it = (par it).flatMap remC ∧
        (∀ ps', nd (par it) = (none, ps') → nx (f + 1) it = none) ∧
        (∀ s ps', nd (par it) = (some s, ps') → nx (f + 1) it = nx f (mk ps' s)))) :
    ∀ (fuel : Nat) (it : I), ((par it).map w).sum < fuel → ((par it).map w).sum < N →
      NextPost (w := w) remI par it (nx fuel it)
  | 0, _, h, _ => absurd h (Nat.not_lt_zero _)
  | f + 1, it, hf, hN => by
    rcases hnx f it with ⟨v, it', he, h1, h2⟩ | ⟨h1, hnone, hsome⟩
    · rw [he]; exact ⟨h1, by rw [h2]; exact Nat.le_refl _⟩
    · have hd := hnd (par it) hN
      revert hd
      cases hn : nd (par it) with
      | mk o ps' =>
        cases o with
        | none => intro hd; rw [hnone ps' hn]; exact h1.trans hd
        | some s =>
          intro hd
          obtain ⟨d1, d2⟩ : _ ∧ _ := hd
          obtain ⟨m1, m2⟩ := hmk ps' s
          have hrem : remI it = remI (mk ps' s) := h1.trans (d1.trans m1.symm)
          have ih := next_spec nd N hnd mk hmk nx hnx f (mk ps' s) (by rw [m2]; omega) (by rw [m2]; omega)
          rw [hsome s ps' hn]
          revert ih
          cases nx f (mk ps' s) with
          | none => intro ih; exact hrem.trans ih
          | some r =>
            obtain ⟨v, it'⟩ := r
            intro ih
            obtain ⟨i1, i2⟩ : _ ∧ _ := ih
            exact ⟨hrem.trans i1, by rw [m2] at i2; omega⟩

end Walk

end LoadedSM
end Atree

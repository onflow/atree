import AtreeModel.Map.Iter
import AtreeProofs.MapInv
import AtreeProofs.Map.HkeySpec
/-
  C13, maps, `elements` level: what `getElementAndNextKey`, `firstKeyInElements`, the element
  iterator and the loaded-element iterator compute, in terms of the pair list `toList`, for one
  `elements` value satisfying its invariant.  Stated once over a record (`IterSpec`) and tied by
  recursion on the number of remaining digest levels, like `OpsSpec`.
-/
namespace Atree
open Gen

/-- What the iterator operations of one `elements` value compute, relative to `toList`. -/
structure IterSpec (T L : Nat) (D : DigestFn L) (cfg : MCfg) {α : Type} (o : ElemsOps α) (io : IterOps α)
    (Inv : Nat → List Nat → α → Prop) : Prop where
  /-- `firstKeyInElements` is the key of the first pair -/
  firstKey : ∀ {ℓ path e}, Inv ℓ path e → io.firstKey e = (o.toList e).head?.map (·.1)
  /-- the element iterator yields the pair list -/
  elemIter : ∀ {ℓ path e}, Inv ℓ path e → io.elemIter e = o.toList e
  /-- `getElementAndNextKey` of the key of a pair returns that pair and the key of the following
      pair of the same elements (`none` at the end) -/
  getNext : ∀ {ℓ path e A p B}, Inv ℓ path e → o.toList e = A ++ p :: B →
    io.getNext cfg e ℓ p.1 = .ok (p.1, p.2, B.head?.map (·.1))
  /-- the loaded-element iterator yields an in-order sublist, for any `loaded` and any value -/
  loaded_sub : ∀ ld e, (io.loaded ld e).Sublist (o.toList e)
  /-- … and everything when every slab is loaded -/
  loaded_all : ∀ ld e, (∀ id, ld id = true) → io.loaded ld e = o.toList e

theorem loadedPair_eq {ld : SlabID → Bool} {x : SElem} {p : MKey × Elem} (h : x.loadedPair ld = some p) :
    p = (x.key, x.val) := by
  unfold SElem.loadedPair at h
  split at h
  · split at h
    · cases h; rfl
    · cases h
  · cases h; rfl

theorem loadedPair_all {ld : SlabID → Bool} (hall : ∀ id, ld id = true) (x : SElem) :
    x.loadedPair ld = some (x.key, x.val) := by
  unfold SElem.loadedPair
  split
  · rw [hall]; rfl
  · rfl

namespace SingleElems
variable {T L : Nat} {D : DigestFn L} {cfg : MCfg}

theorem iterSpec (hc : CfgFor cfg T L) :
    IterSpec T L D cfg SingleElems.ops SingleElems.iops (ElemsInv T L D 0) where
  firstKey := by
    intro ℓ path e _
    show e.elems.head?.map (·.key) = (e.elems.map pairOf).head?.map (·.1)
    cases e.elems <;> rfl
  elemIter := by intro ℓ path e _; rfl
  getNext := by
    intro ℓ path e A p B h hl
    have hℓ : ¬ (ℓ ≠ cfg.L) := by rw [hc.hL]; simp [inv_last h]
    obtain ⟨A', x, B', hel, hA, hx, hB⟩ := map_eq_append_cons pairOf e.elems A p B hl
    have hd := inv_distinct h
    rw [hel, List.map_append, List.map_cons, KeysDistinct.append_iff] at hd
    have hA' : ∀ a ∈ A', (fun y : SElem => y.key.same p.1) a = false := by
      intro a ha
      have := hd.2.2 (pairOf a) (List.mem_map_of_mem ha) (pairOf x) List.mem_cons_self
      rw [← hx]; exact this
    have hxs : (fun y : SElem => y.key.same p.1) x = true := by
      rw [← hx]; exact MKey.same_self _
    have hidx : e.elems.findIdx? (fun y => y.key.same p.1) = some A'.length := by
      rw [hel]; exact findIdx?_at hA' hxs
    have hget : e.elems[A'.length]? = some x := by rw [hel]; exact get_at rfl
    have hnext : e.elems[A'.length + 1]? = B'.head? := by
      rw [hel, List.getElem?_append_right (by omega)]
      have : A'.length + 1 - A'.length = 1 := by omega
      rw [this]
      cases B' <;> rfl
    show SingleElems.getNext cfg e ℓ p.1 = _
    unfold SingleElems.getNext
    rw [if_neg hℓ, hidx]
    simp only [hget, hnext]
    rw [← hx, ← hB]
    cases B' <;> rfl
  loaded_sub := by
    intro ld e
    exact filterMap_sublist_map _ _ (fun _ _ h => loadedPair_eq h) _
  loaded_all := by
    intro ld e hall
    exact filterMap_eq_map _ _ (loadedPair_all hall) _

end SingleElems

namespace MElemOk
variable {T L : Nat} {D : DigestFn L} {cfg : MCfg} {α : Type} {o : ElemsOps α} {io : IterOps α}
  {Inv : Nat → List Nat → α → Prop} {rr : Nat}

theorem firstKey (I : IterSpec T L D cfg o io Inv) {ℓ : Nat} {path : List Nat} {hk : Nat} {e : MElemF α}
    (h : MElemOk T L D o Inv ℓ path hk e) : e.firstKey io = (e.toList o).head?.map (·.1) := by
  cases e with
  | single x => rfl
  | inl g => exact I.firstKey h.1
  | ext id sz s => exact I.firstKey h.ext_inv

theorem getNext (I : IterSpec T L D cfg o io Inv) (hc : CfgFor cfg T L) {ℓ : Nat} {path : List Nat} {hk : Nat}
    {e : MElemF α} (hℓ : ℓ + rr + 1 = L) (h : MElemOk T L D o Inv ℓ path hk e)
    {A : List (MKey × Elem)} {p : MKey × Elem} {B : List (MKey × Elem)} (hl : e.toList o = A ++ p :: B) :
    e.getNext io cfg ℓ p.1 = .ok (p.1, p.2, B.head?.map (·.1)) := by
  have hlev : ¬ (ℓ + 1 > cfg.L) := by rw [hc.hL]; omega
  cases e with
  | single x =>
    have hl' : [(x.key, x.val)] = A ++ p :: B := hl
    cases A with
    | nil =>
      simp only [List.nil_append, List.cons.injEq] at hl'
      obtain ⟨hp, hB⟩ := hl'
      subst hp; subst hB
      simp [MElemF.getNext, MKey.same_self]
    | cons a A => simp at hl'
  | inl g =>
    simp only [MElemF.getNext, if_neg hlev]
    exact I.getNext h.1 hl
  | ext id sz s =>
    simp only [MElemF.getNext, if_neg hlev]
    exact I.getNext h.ext_inv hl

end MElemOk

namespace HInv
variable {T L : Nat} {D : DigestFn L} {cfg : MCfg} {α : Type} {o : ElemsOps α} {io : IterOps α}
  {Inv : Nat → List Nat → α → Prop} {rr : Nat} {ℓ : Nat} {path : List Nat} {he : HkeyElems α}

theorem firstKeyIn (S : OpsSpec T L D cfg o Inv rr) (I : IterSpec T L D cfg o io Inv)
    (H : HInv T L D o Inv rr ℓ path he) :
    HkeyElems.firstKeyIn io he = (HkeyElems.toList o he).head?.map (·.1) := by
  unfold HkeyElems.firstKeyIn HkeyElems.toList
  cases hh : he.elems with
  | nil => rfl
  | cons el rest =>
    obtain ⟨hk, hok⟩ := H.elemOk_of_mem (el := el) (by rw [hh]; simp)
    simp only
    rw [head?_flatMap_of_ne_nil _ _ _ (hok.toList_ne_nil S.toOpsStruct)]
    exact hok.firstKey I

theorem elemIterList_eq (S : OpsSpec T L D cfg o Inv rr) (I : IterSpec T L D cfg o io Inv) :
    ∀ (l : List (MElemF α)), (∀ el ∈ l, ∃ hk, MElemOk T L D o Inv ℓ path hk el) →
      HkeyElems.elemIterList io l = l.flatMap (MElemF.toList o)
  | [], _ => rfl
  | el :: rest, h => by
    obtain ⟨hk, hok⟩ := h el (by simp)
    have ih := elemIterList_eq S I rest (fun e he => h e (by simp [he]))
    have hne := hok.toList_ne_nil S.toOpsStruct
    rw [List.flatMap_cons]
    cases el with
    | single x =>
      show (x.key, x.val) :: HkeyElems.elemIterList io rest = _
      rw [ih]; rfl
    | inl g =>
      have hg : io.elemIter g = o.toList g := I.elemIter hok.1
      have hne' : o.toList g ≠ [] := hne
      unfold HkeyElems.elemIterList
      rw [hg, ih]
      cases hq : o.toList g with
      | nil => exact absurd hq hne'
      | cons q qs => simp only [MElemF.toList, hq]
    | ext id sz s =>
      have hg : io.elemIter s.elems = o.toList s.elems := I.elemIter hok.ext_inv
      have hne' : o.toList s.elems ≠ [] := hne
      unfold HkeyElems.elemIterList
      rw [hg, ih]
      cases hq : o.toList s.elems with
      | nil => exact absurd hq hne'
      | cons q qs => simp only [MElemF.toList, hq]

theorem elemIter_eq (S : OpsSpec T L D cfg o Inv rr) (I : IterSpec T L D cfg o io Inv)
    (H : HInv T L D o Inv rr ℓ path he) : HkeyElems.elemIter io he = HkeyElems.toList o he :=
  elemIterList_eq S I he.elems (fun _ hel => H.elemOk_of_mem hel)

theorem getNext (S : OpsSpec T L D cfg o Inv rr) (I : IterSpec T L D cfg o io Inv) (hc : CfgFor cfg T L)
    (H : HInv T L D o Inv rr ℓ path he) {A : List (MKey × Elem)} {p : MKey × Elem} {B : List (MKey × Elem)}
    (hl : HkeyElems.toList o he = A ++ p :: B) :
    HkeyElems.getNext io cfg he ℓ p.1 = .ok (p.1, p.2, B.head?.map (·.1)) := by
  have hlev : ¬ (ℓ ≥ cfg.L) := by rw [hc.hL]; have := H.level_lt; omega
  obtain ⟨E1, el, E2, A2, B2, hE, hel, hA, hB⟩ := flatMap_eq_append_cons _ _ _ _ _ hl
  have hi : he.elems[E1.length]? = some el := by rw [hE]; exact get_at rfl
  obtain ⟨hk, hhk⟩ := H.hkey_at hi
  have hok := H.elemOk hhk hi
  have hpm : p ∈ el.toList o := by rw [hel]; simp
  have hdig : p.1.dig ℓ = hk := (H.keys_at S hhk hi p hpm).2.2
  -- the binary search finds this index
  have hsp := HkeyElems.findEq_spec (p.1.dig ℓ) H.sorted
  have hfind : HkeyElems.findEq he.hkeys (p.1.dig ℓ) 0 he.hkeys.length (he.hkeys.length + 1) = some E1.length := by
    cases hr : HkeyElems.findEq he.hkeys (p.1.dig ℓ) 0 he.hkeys.length (he.hkeys.length + 1) with
    | none =>
      rw [hr] at hsp
      exact absurd (by rw [hhk, hdig]) (hsp E1.length)
    | some j =>
      rw [hr] at hsp
      rw [hdig] at hsp
      rw [sorted_get_inj H.sorted hsp hhk]
  have hgn := hok.getNext I hc H.1 hel
  have hnext : he.elems[E1.length + 1]? = E2.head? := by
    rw [hE, List.getElem?_append_right (by omega)]
    have : E1.length + 1 - E1.length = 1 := by omega
    rw [this]
    cases E2 <;> rfl
  unfold HkeyElems.getNext
  rw [if_neg hlev, hfind]
  simp only [hi]
  show (el.getNext io cfg ℓ p.1 >>= fun r => _) = _
  rw [hgn]
  show (match B2.head?.map (·.1) with
    | some nk => (pure (p.1, p.2, some nk) : Except MErr _)
    | none => match he.elems[E1.length + 1]? with
      | some nel => pure (p.1, p.2, nel.firstKey io)
      | none => pure (p.1, p.2, none)) = _
  rw [hB]
  cases B2 with
  | cons b B2 => rfl
  | nil =>
    simp only [List.head?_nil, Option.map_none, List.nil_append, hnext]
    cases E2 with
    | nil => rfl
    | cons nel E2 =>
      simp only [List.head?_cons]
      obtain ⟨hk', hok'⟩ := H.elemOk_of_mem (el := nel) (by rw [hE]; simp)
      rw [head?_flatMap_of_ne_nil _ _ _ (hok'.toList_ne_nil S.toOpsStruct), hok'.firstKey I]
      rfl

theorem loaded_sub (hsub : ∀ ld e, (io.loaded ld e).Sublist (o.toList e)) (ld : SlabID → Bool)
    (he : HkeyElems α) : (HkeyElems.loadedIter io ld he).Sublist (HkeyElems.toList o he) := by
  unfold HkeyElems.loadedIter HkeyElems.toList
  refine flatMap_sublist_of_mem ?_
  intro el _
  cases el with
  | single x =>
    show (x.loadedPair ld).toList.Sublist [(x.key, x.val)]
    cases h : x.loadedPair ld with
    | none => simp
    | some p => rw [loadedPair_eq h]; simp
  | inl g => exact hsub ld g
  | ext id sz s =>
    show (if ld id = true then io.loaded ld s.elems else []).Sublist (o.toList s.elems)
    split
    · exact hsub ld s.elems
    · exact List.nil_sublist _

theorem loaded_all (hall' : ∀ ld e, (∀ id, ld id = true) → io.loaded ld e = o.toList e)
    (ld : SlabID → Bool) (hall : ∀ id, ld id = true) (he : HkeyElems α) :
    HkeyElems.loadedIter io ld he = HkeyElems.toList o he := by
  unfold HkeyElems.loadedIter HkeyElems.toList
  congr 1
  funext el
  cases el with
  | single x => show (x.loadedPair ld).toList = _; rw [loadedPair_all hall]; rfl
  | inl g => exact hall' ld g hall
  | ext id sz s =>
    show (if ld id = true then io.loaded ld s.elems else []) = o.toList s.elems
    rw [if_pos (hall id)]; exact hall' ld s.elems hall

theorem iterSpec (S : OpsSpec T L D cfg o Inv rr) (I : IterSpec T L D cfg o io Inv) (hc : CfgFor cfg T L) :
    IterSpec T L D cfg (HkeyElems.ops o) (HkeyElems.iops io) (HInv T L D o Inv rr) where
  firstKey := by intro ℓ path e H; exact H.firstKeyIn S I
  elemIter := by intro ℓ path e H; exact H.elemIter_eq S I
  getNext := by intro ℓ path e A p B H hl; exact H.getNext S I hc hl
  loaded_sub := by intro ld e; exact loaded_sub I.loaded_sub ld e
  loaded_all := by intro ld e hall; exact loaded_all I.loaded_all ld hall e

end HInv

/-- The iterator operations of `MElems r` meet their specification, for every number of levels. -/
theorem MElems.iterSpec {T L : Nat} (D : DigestFn L) {cfg : MCfg} (hT : legalThreshold T = true)
    (hc : CfgFor cfg T L) : ∀ r, IterSpec T L D cfg (MElems.ops r) (MElems.iops r) (ElemsInv T L D r)
  | 0 => SingleElems.iterSpec hc
  | r + 1 => by
    rw [elemsInv_succ_eq]
    exact HInv.iterSpec (MElems.opsSpec D hT hc r) (MElems.iterSpec D hT hc r) hc

/-- the loaded-element iterator yields an in-order sublist of the pair list: every number of
    levels, every value (no invariant), every `loaded` -/
theorem MElems.loaded_sub : ∀ (r : Nat) (ld : SlabID → Bool) (e : MElems r),
    ((MElems.iops r).loaded ld e).Sublist ((MElems.ops r).toList e)
  | 0 => fun _ (e : SingleElems) => filterMap_sublist_map _ _ (fun _ _ h => loadedPair_eq h) e.elems
  | r + 1 => fun ld (e : HkeyElems (MElems r)) => HInv.loaded_sub (MElems.loaded_sub r) ld e

theorem MElems.loaded_all : ∀ (r : Nat) (ld : SlabID → Bool) (e : MElems r), (∀ id, ld id = true) →
    (MElems.iops r).loaded ld e = (MElems.ops r).toList e
  | 0 => fun _ (e : SingleElems) hall => filterMap_eq_map _ _ (loadedPair_all hall) e.elems
  | r + 1 => fun ld (e : HkeyElems (MElems r)) hall => HInv.loaded_all (MElems.loaded_all r) ld hall e

/-- bulk pop of an `elements` value hands out the pair list backwards (no invariant needed) -/
theorem MElems.popIter_fst : ∀ (r : Nat) (e : MElems r) (c : Ctx),
    ((MElems.ops r).popIter e c).1 = ((MElems.ops r).toList e).reverse
  | 0 => fun (e : SingleElems) c => by
    show e.elems.reverse.map _ = (e.elems.map _).reverse
    rw [List.map_reverse]
  | r + 1 => fun (he : HkeyElems (MElems r)) c => by
    have hel : ∀ (el : MElemF (MElems r)) c, (el.popIter (MElems.ops r) c).1 = (el.toList (MElems.ops r)).reverse := by
      intro el c
      cases el with
      | single x => rfl
      | inl g => exact MElems.popIter_fst r g c
      | ext id sz s =>
        simp only [MElemF.popIter, MElemF.toList]; exact MElems.popIter_fst r s.elems c
    have hfold : ∀ (l : List (MElemF (MElems r))) (acc : List (MKey × Elem)) (c : Ctx),
        (l.foldl (fun (acc : List (MKey × Elem) × Ctx) el =>
          ((acc.1 ++ (el.popIter (MElems.ops r) acc.2).1, (el.popIter (MElems.ops r) acc.2).2) : List (MKey × Elem) × Ctx)) (acc, c)).1
          = acc ++ l.flatMap (fun el => (el.toList (MElems.ops r)).reverse) := by
      intro l
      induction l with
      | nil => intro acc c; simp
      | cons a l ih =>
        intro acc c
        rw [List.foldl_cons, ih, hel]
        simp
    show (HkeyElems.popIter (MElems.ops r) he c).1 = (HkeyElems.toList (MElems.ops r) he).reverse
    unfold HkeyElems.popIter HkeyElems.toList
    rw [List.reverse_flatMap]
    have := hfold he.elems.reverse [] c
    simp only [List.nil_append] at this
    exact this

end Atree

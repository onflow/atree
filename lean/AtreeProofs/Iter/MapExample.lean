import AtreeModel.Map.Iter
import AtreeProofs.Map.ElemsSpec
/-
  A concrete map (T = 256, two digest levels) obtained by running the model: three keys, two of
  which collide at the first level and live in an inline collision group.  `map3_inv` proves
  `MapInv` for it directly from the definitions, so the hypotheses of the map theorems of C13 are
  satisfiable by a tree with a collision group (non-vacuity).
-/
namespace Atree.IterExample
open Atree Gen

def T0 : Nat := 256

/-- digest of a key: the decimal digits of its payload (two levels) -/
def D : DigestFn 2 := ⟨fun p => [p.2 / 10, p.2 % 10], fun _ => rfl⟩

def k (n : Nat) : MKey := ⟨9, n, [n / 10, n % 10]⟩
def v (n : Nat) : Elem := ⟨10, .val n⟩
def cfg : MCfg := ⟨256, 2, 255, 1⟩

/-- NewMap, then Set of keys 11, 25 and 12: the third collides with the first at level 0 and
    turns the element into an inline collision group. -/
def run3 : Except MErr (OMap 1 × Nat) := do
  let (m, c) := (OMap.new 1 0 (fun _ => 0) ⟨0, [], []⟩ : OMap 1 × Ctx)
  let (_, m, c) ← m.set cfg (k 11) (v 1) c
  let (_, m, c) ← m.set cfg (k 25) (v 2) c
  let (_, m, c) ← m.set cfg (k 12) (v 3) c
  return (m, c.ctr)

def x11 : SElem := ⟨k 11, v 1, 20⟩
def x12 : SElem := ⟨k 12, v 3, 20⟩
def x25 : SElem := ⟨k 25, v 2, 20⟩

def grp : HkeyElems (MElems 0) := { hkeys := [1, 2], elems := [.single x11, .single x12], size := 64, level := 1 }

def rootElems : HkeyElems (MElems 1) := { hkeys := [1, 2], elems := [.inl grp, .single x25], size := 110, level := 0 }

def rootSlab : MDataSlab 1 :=
  { hdr := ⟨⟨1, 1⟩, 112, 1⟩, next := SlabID.undef, elems := rootElems, root := true, inlined := false }

def map3 : OMap 1 := ⟨0, rootSlab, 0, 3, 0⟩

/-- running the model produces this tree -/
theorem run3_eq : run3 = .ok (map3, 1) := by rfl

theorem map3_toList : map3.toList = [(k 11, v 1), (k 12, v 3), (k 25, v 2)] := by rfl

theorem legal : legalThreshold T0 = true := by decide

theorem cfg_ok : CfgOk cfg T0 map3 := ⟨rfl, rfl, rfl⟩

theorem selem_ok (n w : Nat) : SElemOk T0 2 D ⟨k n, v w, 20⟩ := by
  refine ⟨⟨rfl, ?_, ?_⟩, ?_, ?_, ?_⟩
  · show 1 ≤ 9; decide
  · show 9 ≤ maxInlineMapKey 256; decide
  · show 1 ≤ 10; decide
  · show 10 ≤ maxInlineMapValue 256 9; decide
  · show 20 = singleElementPrefixSize + 9 + 10; decide

theorem grp_inv : ElemsInv T0 2 D 1 1 [1] grp := by
  rw [elemsInv_succ_iff]
  refine ⟨rfl, rfl, rfl, by decide, by decide, ?_⟩
  intro i hk el hi hel
  match i with
  | 0 =>
    simp only [grp, List.getElem?_cons_zero, Option.some.injEq] at hi hel
    subst hi; subst hel
    exact ⟨selem_ok 11 1, rfl⟩
  | 1 =>
    simp only [grp, List.getElem?_cons_succ, List.getElem?_cons_zero, Option.some.injEq] at hi hel
    subst hi; subst hel
    exact ⟨selem_ok 12 3, rfl⟩
  | n + 2 => simp [grp] at hi

theorem root_elems_inv : ElemsInv T0 2 D 2 0 [] rootElems := by
  rw [elemsInv_succ_iff]
  refine ⟨rfl, rfl, rfl, by decide, by decide, ?_⟩
  intro i hk el hi hel
  match i with
  | 0 =>
    simp only [rootElems, List.getElem?_cons_zero, Option.some.injEq] at hi hel
    subst hi; subst hel
    exact ⟨grp_inv, by decide, rfl, fun _ => by decide⟩
  | 1 =>
    simp only [rootElems, List.getElem?_cons_succ, List.getElem?_cons_zero, Option.some.injEq] at hi hel
    subst hi; subst hel
    exact ⟨selem_ok 25 2, rfl⟩
  | n + 2 => simp [rootElems] at hi

/-- the invariant holds for the example, shown directly from the definitions -/
theorem map3_inv : MapInv T0 D map3 := by
  refine ⟨?_, rfl, rfl, ?_, rfl⟩
  rotate_left
  · unfold KeysDistinct
    rw [map3_toList]
    decide
  show MDataInv T0 D true rootSlab
  refine ⟨root_elems_inv, by decide, rfl, rfl, fun _ => rfl, by decide, (fun h => by cases h),
    (fun h => by cases h), ?_⟩
  intro el hel
  simp only [rootSlab, rootElems, List.mem_cons, List.not_mem_nil, or_false] at hel
  rcases hel with rfl | rfl <;> decide

theorem map3_ids : map3.leafIdsOk = true := by decide

end Atree.IterExample

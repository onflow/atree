import AtreeProofs.Iter.LoadedSM
import AtreeModel.Map.IterObj
import AtreeProofs.Iter.MapTree
/-
  The iterator object of the loaded-value iteration of maps (`MLoadedIter`: stack of index-slab
  cursors and the pairs of the current data slab still to hand out, `Next()` with its loops) yields
  exactly the structural traversal `MTree.iterLoaded`, on every tree and for every `ld` predicate
  (no invariant needed).  Map twin of `ArrayLoadedSM.lean`.
-/
namespace Atree
namespace IterML
open MTree MLoadedIter IterM LoadedSM

variable {r : Nat} (ld : SlabID → Bool)

/-- what the data cursor will still yield -/
def remData : Option (List (MKey × Elem)) → List (MKey × Elem)
  | none => []
  | some l => l

/-- what an index-slab cursor will still yield -/
def remCursor (p : MLoadedSlabCursor r) : List (MKey × Elem) :=
  remAt (fun h => ld h.id) (MTree.iterLoaded ld p.d) p.slab.childHdrs p.slab.children p.idx

def remParents (ps : List (MLoadedSlabCursor r)) : List (MKey × Elem) := ps.flatMap (remCursor ld)

def rem (it : MLoadedIter r) : List (MKey × Elem) := remData it.data ++ remParents ld it.parents

/-- termination weight of a cursor: 1 + twice the number of slabs below the unvisited children -/
def wCursor (p : MLoadedSlabCursor r) : Nat := wAt (slabCount p.d) p.slab.children p.idx

def wParents (ps : List (MLoadedSlabCursor r)) : Nat := (ps.map wCursor).sum

theorem slabCount_pos : ∀ (d : Nat) (t : MTree r d), 1 ≤ slabCount d t
  | 0, _ => Nat.le_refl _
  | _ + 1, _ => by unfold slabCount; omega

theorem wCursor_zero (d : Nat) (m : MMetaSlab (MTree r d)) :
    wCursor ⟨d, m, 0⟩ + 1 = 2 * slabCount (d + 1) (ofM m) :=
  wAt_zero (slabCount d) m.children

theorem wCursor_pos (p : MLoadedSlabCursor r) : 1 ≤ wCursor p := Nat.le_add_right _ _

/-- what a data slab yields -/
abbrev leafElems (s : MDataSlab r) : List (MKey × Elem) := HkeyElems.loadedIter (MElems.iops r) ld s.elems

/-- outcome of `slabNext` in terms of what the cursors still yield, with the weights -/
def SlabNextPost (p : MLoadedSlabCursor r) : ChildRes r → Prop
  | .done => remCursor ld p = []
  | .leaf s p' => remCursor ld p = leafElems ld s ++ remCursor ld p' ∧ wCursor p' + 1 ≤ wCursor p
  | .inner c p' => remCursor ld p = remCursor ld c ++ remCursor ld p' ∧
      wCursor c + wCursor p' + 1 ≤ wCursor p

theorem childRes_post {p p' : MLoadedSlabCursor r} : ∀ (d : Nat) (child : MTree r d),
    remCursor ld p = MTree.iterLoaded ld d child ++ remCursor ld p' →
    2 * slabCount d child + wCursor p' ≤ wCursor p → SlabNextPost ld p (childRes d child p')
  | 0, child, hrem, hw => ⟨hrem, by have := slabCount_pos 0 child; omega⟩
  | d + 1, child, hrem, hw => by
    revert hrem hw; refine forall_ofM ?_ child; intro cm hrem hw
    have := wCursor_zero d cm
    exact ⟨hrem, by show wCursor ⟨d, cm, 0⟩ + _ + 1 ≤ _; omega⟩

theorem slabNext_spec (fuel : Nat) (p : MLoadedSlabCursor r) (h : p.slab.childHdrs.length - p.idx < fuel) :
    SlabNextPost ld p (slabNext ld fuel p) := by
  obtain ⟨d, m, idx⟩ := p
  rcases scan_spec (ok := fun h => ld h.id) (it := MTree.iterLoaded ld d) (cnt := slabCount d)
      (hs := m.childHdrs) (cs := m.children)
      .done (fun j c => childRes d c ⟨d, m, j + 1⟩) (fun f i => slabNext ld f ⟨d, m, i⟩)
      (fun f i hh => by rw [slabNext]; simp only [hh])
      (fun f i h hh hl => by rw [slabNext]; simp only [hh, hl, Bool.false_eq_true, if_false])
      (fun f i h hh hl hc => by rw [slabNext]; simp only [hh, hl, if_true, hc])
      (fun f i h c hh hl hc => by rw [slabNext]; simp only [hh, hl, if_true, hc])
      fuel idx h with ⟨e, hr⟩ | ⟨j, c, e, hr, hw⟩
  · rw [e]; exact hr
  · rw [e]; exact childRes_post ld d c hr hw

theorem nextData_spec (fuel : Nat) (ps : List (MLoadedSlabCursor r)) (h : wParents ps < fuel) :
    WalkPost (remCursor ld) wCursor (leafElems ld) ps (nextData ld fuel ps) := by
  refine walk_spec (nextData ld) wCursor_pos (fun f => by rw [nextData]) (fun f p ps => ?_) fuel ps h
  have hs := slabNext_spec ld (p.slab.childHdrs.length + 1) p (by omega)
  rw [nextData]
  revert hs
  cases slabNext ld (p.slab.childHdrs.length + 1) p with
  | done => exact fun hs => .inl ⟨hs, rfl⟩
  | leaf s p' => exact fun hs => .inr (.inl ⟨s, p', hs, rfl⟩)
  | inner c p' => exact fun hs => .inr (.inr ⟨c, p', hs, rfl⟩)

theorem next_spec (N fuel : Nat) (it : MLoadedIter r) (hf : wParents it.parents < fuel)
    (hN : wParents it.parents < N) :
    NextPost (w := wCursor) (rem ld) (·.parents) it (next ld N fuel it) := by
  refine LoadedSM.next_spec (nextData ld N) N (nextData_spec ld N)
    (fun ps s => ⟨ps, some (leafElems ld s)⟩) (fun ps s => ⟨rfl, rfl⟩) (next ld N) (fun f it => ?_)
    fuel it hf hN
  obtain ⟨ps, data⟩ := it
  cases data with
  | none =>
    refine .inr ⟨rfl, fun ps' h => ?_, fun s ps' h => ?_⟩ <;> rw [next] <;> simp only [h]
  | some l =>
    cases l with
    | nil => refine .inr ⟨rfl, fun ps' h => ?_, fun s ps' h => ?_⟩ <;> rw [next] <;> simp only [h]
    | cons p rest => exact .inl ⟨p, ⟨ps, some rest⟩, by rw [next], rfl, rfl⟩

theorem loadedIterator_spec (m : OMap r) :
    ∃ l0 : MLoadedIter r, m.loadedIterator ld = .loaded l0 ∧ rem ld l0 = m.iterLoaded ld ∧
      wParents l0.parents < 2 * MTree.slabCount m.d m.root + 2 := by
  obtain ⟨d, t, ty, cnt, seed⟩ := m
  cases d with
  | zero =>
    refine forall_ofD ?_ t; intro s
    exact ⟨⟨[], some (leafElems ld s)⟩, rfl, List.append_nil _, Nat.succ_pos _⟩
  | succ d =>
    refine forall_ofM ?_ t; intro ms
    refine ⟨⟨[⟨d, ms, 0⟩], none⟩, rfl, ?_, ?_⟩
    · show [] ++ ([⟨d, ms, 0⟩] : List (MLoadedSlabCursor r)).flatMap (remCursor ld) = _
      rw [List.nil_append, List.flatMap_cons, List.flatMap_nil, List.append_nil]
      rfl
    · show wCursor ⟨d, ms, 0⟩ + 0 < 2 * slabCount (d + 1) (ofM ms) + 2
      have := wCursor_zero d ms
      omega

end IterML
end Atree

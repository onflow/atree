import AtreeProofs.Iter.ObjGeneric
import AtreeProofs.Iter.MapLoadedSM
import AtreeProofs.Map.Ids
/-
  C13, maps: the iterator objects of Map/IterObj.lean (`MapIter`: empty / mutable / read-only /
  loaded-value, with the three step methods `Next / NextKey / NextValue`) hand out, call by call and
  for any interleaving of the three methods, the pair list of their flavour.
  `RMap cfg m ld it l` = "object `it` on map `m` still has to hand out the pairs `l`".
-/
namespace Atree
namespace IterMO
open Gen IterObj IterM

variable {r : Nat}

theorem roNext_some_cons (all : List (MDataSlab r)) (f : Nat) (it : ROMapIter) (p : MKey × Elem)
    (ps : List (MKey × Elem)) (h : it.elemIterator = some (p :: ps)) :
    MapIter.roNext all (f + 1) it = .ok (some p, { it with elemIterator := some ps }) := by
  unfold MapIter.roNext
  simp only [h]

theorem roNext_some_nil (all : List (MDataSlab r)) (f : Nat) (it : ROMapIter) (h : it.elemIterator = some []) :
    MapIter.roNext all (f + 1) it = MapIter.roNext all f { it with elemIterator := none } := by
  conv => lhs; unfold MapIter.roNext
  simp only [h]

theorem roNext_none_undef (all : List (MDataSlab r)) (f : Nat) (it : ROMapIter) (h : it.elemIterator = none)
    (hu : it.nextDataSlabID = SlabID.undef) : MapIter.roNext all (f + 1) it = .ok (none, it) := by
  unfold MapIter.roNext
  simp only [h, hu, if_true]

theorem roNext_none_adv_cons (all : List (MDataSlab r)) (f : Nat) (it : ROMapIter) (s : MDataSlab r)
    (p : MKey × Elem) (ps : List (MKey × Elem)) (h : it.elemIterator = none)
    (hu : it.nextDataSlabID ≠ SlabID.undef)
    (hfind : all.find? (fun x => x.hdr.id == it.nextDataSlabID) = some s) (hs : leafIter s = p :: ps) :
    MapIter.roNext all (f + 1) it = .ok (some p, { nextDataSlabID := s.next, elemIterator := some ps }) := by
  unfold MapIter.roNext MapIter.roAdvance
  simp only [h, hu, if_false, hfind]
  rw [show HkeyElems.elemIter (MElems.iops r) s.elems = p :: ps from hs]

theorem roNext_none_adv_nil (all : List (MDataSlab r)) (f : Nat) (it : ROMapIter) (s : MDataSlab r)
    (h : it.elemIterator = none) (hu : it.nextDataSlabID ≠ SlabID.undef)
    (hfind : all.find? (fun x => x.hdr.id == it.nextDataSlabID) = some s) (hs : leafIter s = []) :
    MapIter.roNext all (f + 1) it = MapIter.roNext all f { nextDataSlabID := s.next, elemIterator := none } := by
  conv => lhs; unfold MapIter.roNext MapIter.roAdvance
  simp only [h, hu, if_false, hfind]
  rw [show HkeyElems.elemIter (MElems.iops r) s.elems = [] from hs]

/-- the `next` link `id` names the first slab of `rest`, whose own links continue the same way;
    after the last slab the link is undefined -/
def ChainFrom : SlabID → List (MDataSlab r) → Prop
  | id, [] => id = SlabID.undef
  | id, s :: rest => id = s.hdr.id ∧ ChainFrom s.next rest

theorem chainFrom_of_leafChain : ∀ (rest : List (MDataSlab r)) (cur : MDataSlab r),
    MLeafChain (cur :: rest) → ChainFrom cur.next rest
  | [], _, h => h
  | nxt :: rest, cur, h => by
    obtain ⟨h1, h2⟩ : cur.next = nxt.hdr.id ∧ MLeafChain (nxt :: rest) := h
    exact ⟨h1, chainFrom_of_leafChain rest nxt h2⟩

/-- what the read-only object needs of the data slabs to find the next one by identifier; the
    chain of `next` links is carried by `ChainFrom` in `ROkM`, from the cursor on -/
structure MLeavesOk (all : List (MDataSlab r)) : Prop where
  nodup : (all.map (·.hdr.id)).Nodup
  defd  : ∀ s ∈ all, s.hdr.id ≠ SlabID.undef

/-- the read-only object has the rest of its element iterator and then the data slabs its `next`
    link leads to still to hand out -/
def ROkM (all : List (MDataSlab r)) (it : ROMapIter) (l : List (MKey × Elem)) : Prop :=
  ∃ pre rest, all = pre ++ rest ∧ ChainFrom it.nextDataSlabID rest ∧
    l = it.elemIterator.getD [] ++ rest.flatMap leafIter

/-- the element iterator is nil: the object advances along the `next` links, skipping data slabs
    whose element iterator yields nothing -/
theorem roNext_none {all : List (MDataSlab r)} (L : MLeavesOk all) :
    ∀ (rest pre : List (MDataSlab r)) (it : ROMapIter) (fuel : Nat), all = pre ++ rest →
      it.elemIterator = none → ChainFrom it.nextDataSlabID rest → rest.length + 1 ≤ fuel →
      (rest.flatMap leafIter = [] → ∃ it', MapIter.roNext all fuel it = .ok (none, it') ∧ ROkM all it' []) ∧
      (∀ p l, rest.flatMap leafIter = p :: l →
        ∃ it', MapIter.roNext all fuel it = .ok (some p, it') ∧ ROkM all it' l)
  | [], pre, it, fuel, hall, hnone, hch, hf => by
    obtain ⟨f, rfl⟩ := Nat.exists_eq_add_one_of_ne_zero (Nat.ne_zero_of_lt hf)
    have hu : it.nextDataSlabID = SlabID.undef := hch
    constructor
    · intro _
      exact ⟨it, roNext_none_undef all f it hnone hu, pre, [], hall, hch, by simp [hnone]⟩
    · intro p l h; simp at h
  | s :: rest, pre, it, fuel, hall, hnone, hch, hf => by
    obtain ⟨f, rfl⟩ := Nat.exists_eq_add_one_of_ne_zero (Nat.ne_zero_of_lt hf)
    obtain ⟨hid, hch'⟩ : it.nextDataSlabID = s.hdr.id ∧ ChainFrom s.next rest := hch
    have hu : it.nextDataSlabID ≠ SlabID.undef := by rw [hid]; exact L.defd s (by rw [hall]; simp)
    have hfind : all.find? (fun x => x.hdr.id == it.nextDataSlabID) = some s := by
      rw [hid, hall]
      exact find?_key_at (fun x : MDataSlab r => x.hdr.id) pre s rest (by rw [← hall]; exact L.nodup)
    have hall' : all = (pre ++ [s]) ++ rest := by rw [hall]; simp
    cases hs : leafIter s with
    | nil =>
      have ih := roNext_none L rest (pre ++ [s]) { nextDataSlabID := s.next, elemIterator := none } f hall' rfl
        hch' (by simp at hf; omega)
      rw [roNext_none_adv_nil all f it s hnone hu hfind hs, List.flatMap_cons, hs, List.nil_append]
      exact ih
    | cons q qs =>
      rw [roNext_none_adv_cons all f it s q qs hnone hu hfind hs, List.flatMap_cons, hs]
      constructor
      · intro h; simp at h
      · intro p l h
        obtain ⟨hp, hl⟩ := List.cons.inj h
        subst hp
        exact ⟨_, rfl, pre ++ [s], rest, hall', hch', hl.symm⟩

theorem roNext_tracks {all : List (MDataSlab r)} (L : MLeavesOk all) (fuel : Nat) (hfuel : all.length + 2 ≤ fuel) :
    Tracks (MapIter.roNext all fuel) (ROkM all) := by
  obtain ⟨f, rfl⟩ := Nat.exists_eq_add_one_of_ne_zero (Nat.ne_zero_of_lt hfuel)
  have hlen : ∀ pre rest : List (MDataSlab r), all = pre ++ rest → rest.length ≤ all.length := by
    intro pre rest h; rw [h]; simp
  constructor
  · intro it v l hR
    obtain ⟨pre, rest, hall, hch, hl⟩ := hR
    cases he : it.elemIterator with
    | none =>
      rw [he] at hl
      simp only [Option.getD_none, List.nil_append] at hl
      exact (roNext_none L rest pre it (f + 1) hall he hch (by have := hlen pre rest hall; omega)).2 v l hl.symm
    | some here =>
      rw [he] at hl
      simp only [Option.getD_some] at hl
      cases here with
      | cons p ps =>
        rw [List.cons_append] at hl
        obtain ⟨hp, hl'⟩ := List.cons.inj hl
        subst hp
        exact ⟨_, roNext_some_cons all f it v ps he, pre, rest, hall, hch, by simp [hl']⟩
      | nil =>
        rw [List.nil_append] at hl
        rw [roNext_some_nil all f it he]
        exact (roNext_none L rest pre { it with elemIterator := none } f hall rfl hch
          (by have := hlen pre rest hall; omega)).2 v l hl.symm
  · intro it hR
    obtain ⟨pre, rest, hall, hch, hl⟩ := hR
    cases he : it.elemIterator with
    | none =>
      rw [he] at hl
      simp only [Option.getD_none, List.nil_append] at hl
      exact (roNext_none L rest pre it (f + 1) hall he hch (by have := hlen pre rest hall; omega)).1 hl.symm
    | some here =>
      rw [he] at hl
      simp only [Option.getD_some] at hl
      have hhere : here = [] := (List.append_eq_nil_iff.1 hl.symm).1
      have hrest : rest.flatMap leafIter = [] := (List.append_eq_nil_iff.1 hl.symm).2
      subst hhere
      rw [roNext_some_nil all f it he]
      exact (roNext_none L rest pre { it with elemIterator := none } f hall rfl hch
        (by have := hlen pre rest hall; omega)).1 hrest

/-- an object with a family of step methods indexed by `MapCall`: whichever method is called, a
    state that has `p :: l` to hand out answers the component of `p` the method keeps and goes to a state
    that has `l` to hand out; a state with nothing left answers nil and stays such a state.
    (`IterObj.Tracks` does not fit: the answer depends on which method is called.) -/
structure MTracks {σ ε : Type} (step : MapCall → σ → Except ε (MapRet × σ))
    (R : σ → List (MKey × Elem) → Prop) : Prop where
  cons : ∀ st p l, R st (p :: l) → ∀ c, ∃ st', step c st = .ok (project c p, st') ∧ R st' l
  nil  : ∀ st, R st [] → ∀ c, ∃ st', step c st = .ok (.nil, st') ∧ R st' []

theorem mapAnswers_nil (l : List (MKey × Elem)) : mapAnswers l [] = [] := rfl

theorem mapAnswers_cons_cons (p : MKey × Elem) (l : List (MKey × Elem)) (c : MapCall) (cs : List MapCall) :
    mapAnswers (p :: l) (c :: cs) = project c p :: mapAnswers l cs := by
  simp [mapAnswers, List.mapIdx_cons]

theorem mapAnswers_nil_cons (c : MapCall) (cs : List MapCall) :
    mapAnswers [] (c :: cs) = MapRet.nil :: mapAnswers [] cs := by
  simp [mapAnswers, List.mapIdx_cons]

theorem mapAnswers_length (l : List (MKey × Elem)) (calls : List MapCall) :
    (mapAnswers l calls).length = calls.length := by simp [mapAnswers]

theorem project_ne_nil (c : MapCall) (p : MKey × Elem) : project c p ≠ MapRet.nil := by
  cases c <;> intro h <;> cases h

theorem mapAnswers_getElem? (l : List (MKey × Elem)) (calls : List MapCall) (i : Nat) (h : i < calls.length) :
    (mapAnswers l calls)[i]? = some (match l[i]? with
      | some p => project calls[i] p
      | none => MapRet.nil) := by
  unfold mapAnswers
  rw [List.getElem?_mapIdx, List.getElem?_eq_getElem h]
  rfl

/-- once a call has answered nil, every later call answers nil -/
theorem mapAnswers_after_end (l : List (MKey × Elem)) (calls : List MapCall) (i j : Nat) (hij : i ≤ j)
    (hj : j < calls.length) (hi : (mapAnswers l calls)[i]? = some MapRet.nil) :
    (mapAnswers l calls)[j]? = some MapRet.nil := by
  rw [mapAnswers_getElem? l calls i (by omega)] at hi
  rw [mapAnswers_getElem? l calls j hj]
  have hli : l[i]? = none := by
    cases hl : l[i]? with
    | none => rfl
    | some p => rw [hl] at hi; exact absurd (Option.some.inj hi) (project_ne_nil _ _)
  have hlj : l[j]? = none := by
    rw [List.getElem?_eq_none_iff] at hli ⊢; omega
  rw [hlj]

/-- `RMap cfg m ld it l`: the object `it` on map `m` still has to hand out exactly the pairs `l`.
    * the empty iterator: nothing;
    * the mutable iterator: `l` is a tail of the enumeration and the remembered key is the key of its
      head (on a map whose lookups return the successor key: `NextKeyOk`, from `MapInv`);
    * the read-only iterator: `ROkM` (on a map whose data-slab IDs are pairwise different and defined:
      `MLeavesOk`, from `MapIdsOk`);
    * the loaded-value iterator: what its cursors still cover (`IterML.rem`), with the weight bound
      that makes the fuel of `MapIter.step` sufficient. -/
def RMap (cfg : MCfg) (m : OMap r) (ld : SlabID → Bool) : MapIter r → List (MKey × Elem) → Prop
  | .empty _, l => l = []
  | .mut nk, l => NextKeyOk cfg m ∧ (∃ A, m.toList = A ++ l) ∧ nk = l.head?.map (·.1)
  | .ro it, l => MLeavesOk (MTree.dataSlabs m.d m.root) ∧ ROkM (MTree.dataSlabs m.d m.root) it l
  | .loaded it, l => IterML.rem ld it = l ∧
      IterML.wParents it.parents < 2 * MTree.slabCount m.d m.root + 2

theorem step_tracks (cfg : MCfg) (m : OMap r) (ld : SlabID → Bool) :
    MTracks (MapIter.step cfg m ld) (RMap cfg m ld) where
  cons := by
    intro it p l hR c
    cases it with
    | empty ro => cases (show p :: l = [] from hR)
    | «mut» nk =>
      obtain ⟨hn, ⟨A, hA⟩, hnk⟩ :
        NextKeyOk cfg m ∧ (∃ A, m.toList = A ++ p :: l) ∧ nk = (p :: l).head?.map (·.1) := hR
      have hnk : nk = some p.1 := hnk
      subst hnk
      have hget := hn A p l hA
      refine ⟨.mut (l.head?.map (·.1)), ?_, hn, ⟨A ++ [p], by rw [hA]; simp⟩, rfl⟩
      simp only [MapIter.step, hget]
      cases c <;> rfl
    | ro it =>
      obtain ⟨L, hR⟩ : MLeavesOk (MTree.dataSlabs m.d m.root) ∧ _ := hR
      obtain ⟨it', hr, hR'⟩ := (roNext_tracks L _ (Nat.le_refl _)).cons it p l hR
      refine ⟨.ro it', ?_, L, hR'⟩
      simp only [MapIter.step, hr]
      cases c <;> rfl
    | loaded it =>
      obtain ⟨hrem, hw⟩ : IterML.rem ld it = p :: l ∧ _ := hR
      obtain ⟨it', hnx, hl, hw'⟩ := (IterML.next_spec ld _ _ it hw hw).cons hrem
      refine ⟨.loaded it', ?_, hl, Nat.lt_of_le_of_lt hw' hw⟩
      simp only [MapIter.step, hnx]
      cases c <;> rfl
  nil := by
    intro it hR c
    cases it with
    | empty ro => exact ⟨.empty ro, rfl, rfl⟩
    | «mut» nk =>
      obtain ⟨hn, hA, hnk⟩ :
        NextKeyOk cfg m ∧ (∃ A, m.toList = A ++ []) ∧ nk = ([] : List (MKey × Elem)).head?.map (·.1) := hR
      have hnk : nk = none := hnk
      subst hnk
      exact ⟨.mut none, rfl, hn, hA, rfl⟩
    | ro it =>
      obtain ⟨L, hR⟩ : MLeavesOk (MTree.dataSlabs m.d m.root) ∧ _ := hR
      obtain ⟨it', hr, hR'⟩ := (roNext_tracks L _ (Nat.le_refl _)).nil it hR
      refine ⟨.ro it', ?_, L, hR'⟩
      simp only [MapIter.step, hr]
    | loaded it =>
      obtain ⟨hrem, hw⟩ : IterML.rem ld it = [] ∧ _ := hR
      have hnx := (IterML.next_spec ld _ _ it hw hw).nil hrem
      exact ⟨.loaded it, by simp only [MapIter.step, hnx], hrem, hw⟩

/-- Any interleaving of the three step methods on one object -/
theorem go_tracks {cfg : MCfg} {m : OMap r} {ld : SlabID → Bool} :
    ∀ (calls : List MapCall) (it : MapIter r) (l : List (MKey × Elem)), RMap cfg m ld it l →
      OMap.stepCalls.go cfg m ld calls it = .ok (mapAnswers l calls)
  | [], _, _, _ => rfl
  | c :: cs, it, [], h => by
    obtain ⟨it', h1, h2⟩ := (step_tracks cfg m ld).nil it h c
    unfold OMap.stepCalls.go
    rw [h1]
    simp only
    rw [go_tracks cs it' [] h2, mapAnswers_nil_cons]
  | c :: cs, it, p :: l, h => by
    obtain ⟨it', h1, h2⟩ := (step_tracks cfg m ld).cons it p l h c
    unfold OMap.stepCalls.go
    rw [h1]
    simp only
    rw [go_tracks cs it' l h2, mapAnswers_cons_cons]

/-- the step the callback loops `iterateMap / iterateMapKeys / iterateMapValues` use -/
theorem loopStep_tracks (cfg : MCfg) (m : OMap r) (ld : SlabID → Bool) (c : MapCall) :
    Tracks (OMap.loopStep cfg m ld c) (fun it L => ∃ l, RMap cfg m ld it l ∧ L = l.map (project c)) where
  cons := by
    intro it x L hR
    obtain ⟨l, hR, hL⟩ := hR
    cases l with
    | nil => cases hL
    | cons p l =>
      obtain ⟨hx, hL'⟩ := List.cons.inj hL
      obtain ⟨it', h1, h2⟩ := (step_tracks cfg m ld).cons it p l hR c
      refine ⟨it', ?_, l, h2, hL'⟩
      unfold OMap.loopStep
      rw [h1, hx]
      cases c <;> rfl
  nil := by
    intro it hR
    obtain ⟨l, hR, hL⟩ := hR
    cases l with
    | cons p l => cases hL
    | nil =>
      obtain ⟨it', h1, h2⟩ := (step_tracks cfg m ld).nil it hR c
      refine ⟨it', ?_, [], h2, rfl⟩
      unfold OMap.loopStep
      rw [h1]

variable {T : Nat} {D : DigestFn (r + 1)} {cfg : MCfg}

theorem mleavesOk {m : OMap r} {ctr : Nat} (h : MapIdsOk m ctr) : MLeavesOk (MTree.dataSlabs m.d m.root) := by
  obtain ⟨h1, h2⟩ := (leafIdsOk_iff m).1 h.leafIdsOk
  exact ⟨h1, h2⟩

theorem leaves_flatMap_leafIter (hT : legalThreshold T = true) (m : OMap r) (hcfg : CfgOk cfg T m)
    (h : MapInv T D m) : (MTree.dataSlabs m.d m.root).flatMap leafIter = m.toList := by
  have hc := cfgFor_of_cfgOk hcfg
  show _ = MTree.toList m.d m.root
  rw [toList_eq_leaves]
  apply flatMap_eq_of_mem
  intro x hx
  obtain ⟨top', hx'⟩ := leaf_inv m.d true m.root h.tree x hx
  exact (leaf_hinv hx').elemIter_eq (MElems.opsSpec D hT hc r) (MElems.iterSpec D hT hc r)

theorem expected_length_le (m : OMap r) (h : MapInv T D m) (ld : SlabID → Bool) (f : OMap.IterFlavour) :
    (f.expected m ld).length ≤ m.count := by
  rw [h.count_eq]
  cases f with
  | «mut» => exact Nat.le_refl _
  | ro => exact Nat.le_refl _
  | loaded => exact (iterLoaded_sublist ld m.d m.root).length_le

theorem makeLoaded_spec (cfg : MCfg) (m : OMap r) (ld : SlabID → Bool) :
    ∃ it, m.makeIterator ld .loaded = .ok it ∧ RMap cfg m ld it (m.iterLoaded ld) ∧ it.canMutate = false := by
  obtain ⟨l0, h1, h2, h3⟩ := IterML.loadedIterator_spec ld m
  exact ⟨.loaded l0, by show Except.ok (m.loadedIterator ld) = _; rw [h1], ⟨h2, h3⟩, rfl⟩

/-- every way of making a map iterator object succeeds and the object has the pair list of its
    flavour to hand out; `CanMutate()` is as the flavour says -/
theorem makeIterator_spec (hT : legalThreshold T = true) (m : OMap r) (hcfg : CfgOk cfg T m) (ctr : Nat)
    (h : MapInvI T D m ctr) (ld : SlabID → Bool) (f : OMap.IterFlavour) :
    ∃ it, m.makeIterator ld f = .ok it ∧ RMap cfg m ld it (f.expected m ld) ∧ it.canMutate = f.mutable := by
  obtain ⟨hinv, hids⟩ := h
  have hcnt := hinv.count_eq
  cases f with
  | «mut» =>
    show ∃ it, m.iterator = .ok it ∧ _
    unfold OMap.iterator
    by_cases h0 : m.count = 0
    · refine ⟨.empty false, by rw [if_pos h0], ?_, rfl⟩
      show m.toList = []
      exact List.eq_nil_of_length_eq_zero (by omega)
    · rw [if_neg h0, iteratorStart_spec hT m hcfg hinv]
      exact ⟨.mut (m.toList.head?.map (·.1)), rfl, ⟨nextKeyOk hT m hcfg hinv, ⟨[], rfl⟩, rfl⟩, rfl⟩
  | ro =>
    show ∃ it, m.readOnlyIterator = .ok it ∧ _
    unfold OMap.readOnlyIterator
    by_cases h0 : m.count = 0
    · refine ⟨.empty true, by rw [if_pos h0], ?_, rfl⟩
      show m.toList = []
      exact List.eq_nil_of_length_eq_zero (by omega)
    · obtain ⟨s, rest, hl, hf⟩ := firstDataSlab_spec hT m.d true m.root hinv.tree
      rw [if_neg h0, hf]
      refine ⟨_, rfl, ?_, rfl⟩
      have hchain : MLeafChain (MTree.dataSlabs m.d m.root) := by rw [dataSlabs_eq_leaves]; exact hinv.chain
      rw [hl] at hchain
      refine ⟨mleavesOk hids, [s], rest, by rw [hl]; rfl, chainFrom_of_leafChain rest s hchain, ?_⟩
      show m.toList = leafIter s ++ rest.flatMap leafIter
      rw [← leaves_flatMap_leafIter hT m hcfg hinv, hl, List.flatMap_cons]
  | loaded => exact makeLoaded_spec cfg m ld

end IterMO
end Atree

import AtreeProofs.Iter.MapTop
import AtreeProofs.Map.Overwrite
/-
  C13, maps: the mutable iterator whose callback overwrites the value of the current key neither
  skips nor repeats.  The one fact about `Set` that the loop needs is that overwriting an existing key
  replaces the pair where it stands (`OMap.set_overwrite` in AtreeProofs/Map/Overwrite.lean, which
  covers whole trees with their splits and merges of slabs).
-/
namespace Atree
namespace IterM
open Gen

variable {T r : Nat} {D : DigestFn (r + 1)} {cfg : MCfg}

/-- One round of the loop: the callback leaves the current pair in its place, possibly with a new
    value (`OMap.set_overwrite`), and the loop goes on from the key after it. -/
theorem iterMutableWith_succ (hT : legalThreshold T = true)
    (upd : MKey → Elem → Option Elem) (hupd : ∀ k v v', upd k v = some v' → ValueOkM v')
    (f : Nat) (m : OMap r) (c : Ctx) (h : MapInv T D m) (hcfg : CfgOk cfg T m)
    {A B : List (MKey × Elem)} {p : MKey × Elem} (hl : m.toList = A ++ p :: B) :
    ∃ m1 c1 v1, MapInv T D m1 ∧ CfgOk cfg T m1 ∧ m1.toList = A ++ (p.1, v1) :: B ∧
      OMap.iterMutableWith cfg upd (f + 1) p.1 m c =
        match B with
        | [] => .ok ([p], m1, c1)
        | b :: _ =>
          match OMap.iterMutableWith cfg upd f b.1 m1 c1 with
          | .error e => .error e
          | .ok (rest, m'', c'') => .ok (p :: rest, m'', c'') := by
  rw [OMap.iterMutableWith, nextKeyOk hT m hcfg h A p B hl]
  simp only
  cases hu : upd p.1 p.2 with
  | none => exact ⟨m, c, p.2, h, hcfg, hl, by cases B <;> rfl⟩
  | some v' =>
    obtain ⟨m', c', hs, hinv, hcfg', _, hl', _⟩ := OMap.set_overwrite hT hcfg h hl (hupd _ _ _ hu) c
    exact ⟨m', c', _, hinv, hcfg', hl', by simp only [hs]; cases B <;> rfl⟩

theorem iterMutableWith_spec (hT : legalThreshold T = true)
    (upd : MKey → Elem → Option Elem) (hupd : ∀ k v v', upd k v = some v' → ValueOkM v')
    (fuel : Nat) (A B : List (MKey × Elem)) (p : MKey × Elem) (m : OMap r) (c : Ctx)
    (h : MapInv T D m) (hcfg : CfgOk cfg T m) (hl : m.toList = A ++ p :: B) (hf : B.length < fuel) :
    ∃ m' c', OMap.iterMutableWith cfg upd fuel p.1 m c = .ok (p :: B, m', c') ∧ MapInv T D m' ∧
      m'.toList.map (·.1) = m.toList.map (·.1) := by
  induction fuel generalizing A B p m c with
  | zero => omega
  | succ f ih =>
    obtain ⟨m1, c1, v1, hinv, hcfg1, hl1, hs⟩ := iterMutableWith_succ hT upd hupd f m c h hcfg hl
    have hk : m1.toList.map (·.1) = m.toList.map (·.1) := by rw [hl1, hl]; simp
    rw [hs]
    cases B with
    | nil => exact ⟨m1, c1, rfl, hinv, hk⟩
    | cons b B =>
      obtain ⟨m', c', h1, h2, h3⟩ := ih (A ++ [(p.1, v1)]) B b m1 c1 hinv hcfg1
        (by rw [hl1, List.append_assoc]; rfl) (Nat.lt_of_succ_lt_succ hf)
      exact ⟨m', c', by simp only [h1], h2, h3.trans hk⟩

/-- `Iterate` with overwrites of the current entry: exactly the original pair list, same keys after. -/
theorem iterateWith_spec (hT : legalThreshold T = true)
    (upd : MKey → Elem → Option Elem) (hupd : ∀ k v v', upd k v = some v' → ValueOkM v')
    (m : OMap r) (c : Ctx) (h : MapInv T D m) (hcfg : CfgOk cfg T m) :
    ∃ m' c', m.iterateWith cfg upd c = .ok (m.toList, m', c') ∧ MapInv T D m' ∧
      m'.toList.map (·.1) = m.toList.map (·.1) := by
  unfold OMap.iterateWith
  rw [iteratorStart_spec hT m hcfg h]
  cases hl : m.toList with
  | nil => exact ⟨m, c, rfl, h, by rw [hl]⟩
  | cons p B =>
    obtain ⟨m', c', h1, h2, h3⟩ := iterMutableWith_spec hT upd hupd (m.count + 1) [] B p m c h hcfg hl (by
      rw [h.count_eq, hl, List.length_cons]; omega)
    exact ⟨m', c', h1, h2, by rw [h3, hl]⟩

end IterM
end Atree

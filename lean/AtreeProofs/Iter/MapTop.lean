import AtreeProofs.Iter.MapTree
import AtreeProofs.AListLemmas
/-
  C13, maps, top level: the mutable iterator (next-key lookups), the read-only iterator (leaf chain;
  a slab is found by its identifier, `find?_key_at`), keys-only / values-only flavours and the
  loaded-value traversal, for an `OMap` satisfying `MapInv`.
-/
namespace Atree
namespace IterM
open Gen

variable {T r : Nat} {D : DigestFn (r + 1)} {cfg : MCfg}

theorem cfgFor_of_cfgOk {m : OMap r} (h : CfgOk cfg T m) : CfgFor cfg T (r + 1) := ⟨h.1, h.2.1⟩

/-- what the iterator needs from the lookup: the pair and the key of its successor -/
def NextKeyOk (cfg : MCfg) (m : OMap r) : Prop :=
  ∀ (A : List (MKey × Elem)) (p : MKey × Elem) (B : List (MKey × Elem)), m.toList = A ++ p :: B →
    m.getElementAndNextKey cfg p.1 = .ok (p.1, p.2, B.head?.map (·.1))

theorem nextKeyOk (hT : legalThreshold T = true) (m : OMap r) (hcfg : CfgOk cfg T m) (h : MapInv T D m) :
    NextKeyOk cfg m := by
  have hc := cfgFor_of_cfgOk hcfg
  intro A p B hl
  exact getNext_spec hT hc (MElems.opsSpec D hT hc r) (MElems.iterSpec D hT hc r) m.d true m.root h.tree A p B hl

theorem mutLoop_spec (m : OMap r) (hn : NextKeyOk cfg m) :
    ∀ (B A : List (MKey × Elem)) (p : MKey × Elem) (fuel : Nat), m.toList = A ++ p :: B → B.length < fuel →
      OMap.mutLoop cfg m fuel p.1 = .ok (p :: B)
  | [], A, p, fuel, hl, hf => by
    obtain ⟨f, rfl⟩ := Nat.exists_eq_add_one_of_ne_zero (Nat.ne_zero_of_lt hf)
    unfold OMap.mutLoop
    rw [hn A p [] hl]
    rfl
  | b :: B, A, p, fuel, hl, hf => by
    obtain ⟨f, rfl⟩ := Nat.exists_eq_add_one_of_ne_zero (Nat.ne_zero_of_lt hf)
    unfold OMap.mutLoop
    rw [hn A p (b :: B) hl]
    simp only [List.head?_cons, Option.map_some]
    rw [mutLoop_spec m hn B (A ++ [p]) b f (by rw [hl]; simp) (by simp at hf; omega)]

theorem mutKeyLoop_spec (m : OMap r) (hn : NextKeyOk cfg m) :
    ∀ (B A : List (MKey × Elem)) (p : MKey × Elem) (fuel : Nat), m.toList = A ++ p :: B → B.length < fuel →
      OMap.mutKeyLoop cfg m fuel p.1 = .ok ((p :: B).map (·.1))
  | [], A, p, fuel, hl, hf => by
    obtain ⟨f, rfl⟩ := Nat.exists_eq_add_one_of_ne_zero (Nat.ne_zero_of_lt hf)
    unfold OMap.mutKeyLoop
    rw [hn A p [] hl]
    rfl
  | b :: B, A, p, fuel, hl, hf => by
    obtain ⟨f, rfl⟩ := Nat.exists_eq_add_one_of_ne_zero (Nat.ne_zero_of_lt hf)
    unfold OMap.mutKeyLoop
    rw [hn A p (b :: B) hl]
    simp only [List.head?_cons, Option.map_some]
    rw [mutKeyLoop_spec m hn B (A ++ [p]) b f (by rw [hl]; simp) (by simp at hf; omega)]
    rfl

theorem iteratorStart_spec (hT : legalThreshold T = true) (m : OMap r) (hcfg : CfgOk cfg T m) (h : MapInv T D m) :
    m.iteratorStart = .ok (m.toList.head?.map (·.1)) := by
  have hc := cfgFor_of_cfgOk hcfg
  unfold OMap.iteratorStart
  by_cases h0 : m.count = 0
  · rw [if_pos h0]
    have : m.toList = [] := List.eq_nil_of_length_eq_zero (by rw [← h.count_eq]; exact h0)
    rw [this]; rfl
  · rw [if_neg h0]
    have hfk := firstKey_spec hT (MElems.opsSpec D hT hc r) (MElems.iterSpec D hT hc r) m.d true m.root h.tree
    rw [hfk]
    have hlen : m.toList.length ≠ 0 := by rw [← h.count_eq]; exact h0
    have e : m.toList = MTree.toList m.d m.root := rfl
    rw [e] at hlen ⊢
    cases hl : MTree.toList m.d m.root with
    | nil => rw [hl] at hlen; exact absurd rfl hlen
    | cons p B => rfl

/-- `Iterate`: the `getElementAndNextKey`-driven iteration visits exactly `toList`. -/
theorem iterMutable_eq (hT : legalThreshold T = true) (m : OMap r) (hcfg : CfgOk cfg T m) (h : MapInv T D m) :
    m.iterMutable cfg = .ok m.toList := by
  unfold OMap.iterMutable
  rw [iteratorStart_spec hT m hcfg h]
  cases hl : m.toList with
  | nil => rfl
  | cons p B =>
    simp only [List.head?_cons, Option.map_some]
    exact mutLoop_spec m (nextKeyOk hT m hcfg h) B [] p (m.count + 1) hl (by
      rw [h.count_eq, hl]; simp only [List.length_cons]; omega)

theorem iterMutableKeys_eq (hT : legalThreshold T = true) (m : OMap r) (hcfg : CfgOk cfg T m) (h : MapInv T D m) :
    m.iterMutableKeys cfg = .ok (m.toList.map (·.1)) := by
  unfold OMap.iterMutableKeys
  rw [iteratorStart_spec hT m hcfg h]
  cases hl : m.toList with
  | nil => rfl
  | cons p B =>
    simp only [List.head?_cons, Option.map_some]
    exact mutKeyLoop_spec m (nextKeyOk hT m hcfg h) B [] p (m.count + 1) hl (by
      rw [h.count_eq, hl]; simp only [List.length_cons]; omega)

theorem iterMutableValues_eq (hT : legalThreshold T = true) (m : OMap r) (hcfg : CfgOk cfg T m) (h : MapInv T D m) :
    m.iterMutableValues cfg = .ok (m.toList.map (·.2)) := by
  unfold OMap.iterMutableValues
  rw [iterMutable_eq hT m hcfg h]

theorem find?_next {α : Type} (id : α → SlabID) (pre rest : List α) (cur nxt : α)
    (hnd : ((pre ++ cur :: nxt :: rest).map id).Nodup) :
    (pre ++ cur :: nxt :: rest).find? (fun s => id s == id nxt) = some nxt := by
  rw [List.append_cons] at hnd ⊢
  exact find?_key_at id _ nxt rest hnd

abbrev leafIter (s : MDataSlab r) : List (MKey × Elem) := HkeyElems.elemIter (MElems.iops r) s.elems

theorem roIterFrom_spec : ∀ (rest pre : List (MDataSlab r)) (cur : MDataSlab r) (fuel : Nat),
    MLeafChain (cur :: rest) → ((pre ++ cur :: rest).map (·.hdr.id)).Nodup →
    (∀ s ∈ pre ++ cur :: rest, s.hdr.id ≠ SlabID.undef) → rest.length + 1 ≤ fuel →
    OMap.roIterFrom (pre ++ cur :: rest) fuel cur = .ok ((cur :: rest).flatMap leafIter)
  | [], pre, cur, fuel, hchain, _, _, hfuel => by
    obtain ⟨f, rfl⟩ := Nat.exists_eq_add_one_of_ne_zero (Nat.ne_zero_of_lt hfuel)
    have hnext : cur.next = SlabID.undef := hchain
    unfold OMap.roIterFrom
    simp [hnext, leafIter]
  | nxt :: rest, pre, cur, fuel, hchain, hnd, hdef, hfuel => by
    obtain ⟨f, rfl⟩ := Nat.exists_eq_add_one_of_ne_zero (Nat.ne_zero_of_lt hfuel)
    obtain ⟨hnext, hchain'⟩ : cur.next = nxt.hdr.id ∧ MLeafChain (nxt :: rest) := hchain
    have hnu : ¬ nxt.hdr.id = SlabID.undef := hdef nxt (by simp)
    have hsplit : pre ++ cur :: nxt :: rest = (pre ++ [cur]) ++ nxt :: rest := by simp
    unfold OMap.roIterFrom
    simp only [hnext, hnu, if_false]
    rw [find?_next (fun s : MDataSlab r => s.hdr.id) pre rest cur nxt hnd]
    simp only
    rw [hsplit, roIterFrom_spec rest (pre ++ [cur]) nxt f hchain' (by rw [← hsplit]; exact hnd)
      (by rw [← hsplit]; exact hdef) (by simp at hfuel ⊢; omega)]
    simp [leafIter]

theorem toList_eq_leaves : ∀ (d : Nat) (t : MTree r d),
    MTree.toList d t = (MTree.dataSlabs d t).flatMap leafList
  | 0, t => by refine forall_ofD ?_ t; intro s; simp
  | d + 1, t => by
    refine forall_ofM ?_ t; intro m
    rw [toList_succ, dataSlabs_succ, List.flatMap_assoc]
    congr 1; funext c; exact toList_eq_leaves d c

theorem leaf_inv : ∀ (d : Nat) (top : Bool) (t : MTree r d), MTreeInv T D d top t →
    ∀ s ∈ MTree.dataSlabs d t, ∃ top', MDataInv T D top' s
  | 0, top, t => by
    refine forall_ofD ?_ t; intro s h s' hs'
    simp only [dataSlabs_zero, List.mem_singleton] at hs'
    rw [hs']
    exact ⟨top, (inv_zero D top s).1 h⟩
  | d + 1, top, t => by
    refine forall_ofM ?_ t; intro m h s hs
    have F := inv_succ D d top m h
    rw [dataSlabs_succ] at hs
    obtain ⟨c, hc, hsc⟩ := List.mem_flatMap.1 hs
    exact leaf_inv d false c (F.kids_inv c hc) s hsc

theorem firstDataSlab_spec (hT : legalThreshold T = true) : ∀ (d : Nat) (top : Bool) (t : MTree r d),
    MTreeInv T D d top t → ∃ s rest, MTree.dataSlabs d t = s :: rest ∧ MTree.firstDataSlab d t = .ok s
  | 0, top, t => by
    refine forall_ofD ?_ t; intro s _
    exact ⟨s, [], rfl, rfl⟩
  | d + 1, top, t => by
    refine forall_ofM ?_ t; intro m h
    have F := inv_succ D d top m h
    have hpos := F.kids_pos hT
    cases hh : m.children with
    | nil => rw [hh] at hpos; simp at hpos
    | cons c cs =>
      have hhd : m.childHdrs = MTree.hdr d c :: cs.map (MTree.hdr d) := by rw [F.hdrs_eq, hh]; rfl
      obtain ⟨s, rest, h1, h2⟩ := firstDataSlab_spec hT d false c (F.kids_inv c (by rw [hh]; simp))
      refine ⟨s, rest ++ cs.flatMap (MTree.dataSlabs d), ?_, ?_⟩
      · rw [dataSlabs_succ, hh, List.flatMap_cons, h1]; rfl
      · rw [firstDataSlab_succ m _ _ c cs hhd hh, h2]

theorem leafIdsOk_iff (m : OMap r) : m.leafIdsOk = true ↔
    ((MTree.dataSlabs m.d m.root).map (·.hdr.id)).Nodup ∧
    ∀ s ∈ MTree.dataSlabs m.d m.root, s.hdr.id ≠ SlabID.undef := by
  unfold OMap.leafIdsOk
  simp only [decide_eq_true_eq, List.mem_map, forall_exists_index, and_imp, forall_apply_eq_imp_iff₂]

/-- `IterateReadOnly`: walking the `next` links of the data slabs and the nested collision groups
    yields `toList`. -/
theorem iterReadOnly_eq (hT : legalThreshold T = true) (m : OMap r) (hcfg : CfgOk cfg T m) (h : MapInv T D m)
    (hids : m.leafIdsOk = true) : m.iterReadOnly = .ok m.toList := by
  have hc := cfgFor_of_cfgOk hcfg
  obtain ⟨hnd, hdef⟩ := (leafIdsOk_iff m).1 hids
  unfold OMap.iterReadOnly
  by_cases h0 : m.count = 0
  · rw [if_pos h0]
    have : m.toList = [] := List.eq_nil_of_length_eq_zero (by rw [← h.count_eq]; exact h0)
    rw [this]
  · rw [if_neg h0]
    obtain ⟨s, rest, hl, hf⟩ := firstDataSlab_spec hT m.d true m.root h.tree
    show (MTree.firstDataSlab m.d m.root >>= fun first =>
      OMap.roIterFrom (MTree.dataSlabs m.d m.root) ((MTree.dataSlabs m.d m.root).length + 1) first) = _
    rw [hf]
    show OMap.roIterFrom (MTree.dataSlabs m.d m.root) ((MTree.dataSlabs m.d m.root).length + 1) s = _
    have hchain : MLeafChain (MTree.dataSlabs m.d m.root) := by rw [dataSlabs_eq_leaves]; exact h.chain
    rw [hl] at hnd hdef hchain
    have := roIterFrom_spec rest [] s ((s :: rest).length + 1) hchain (by simpa using hnd)
      (by simpa using hdef) (by simp)
    rw [List.nil_append] at this
    rw [hl, this]
    congr 1
    show _ = MTree.toList m.d m.root
    rw [toList_eq_leaves, hl]
    apply flatMap_eq_of_mem
    intro x hx
    obtain ⟨top', hx'⟩ := leaf_inv m.d true m.root h.tree x (by rw [hl]; exact hx)
    exact (leaf_hinv hx').elemIter_eq (MElems.opsSpec D hT hc r) (MElems.iterSpec D hT hc r)

theorem iterLoaded_zero (ld : SlabID → Bool) (s : MDataSlab r) :
    MTree.iterLoaded ld 0 (ofD s) = HkeyElems.loadedIter (MElems.iops r) ld s.elems := rfl

theorem iterLoaded_succ (ld : SlabID → Bool) (d : Nat) (m : MMetaSlab (MTree r d)) :
    MTree.iterLoaded ld (d + 1) (ofM m) =
      (m.childHdrs.zip m.children).flatMap (fun hc => if ld hc.1.id then MTree.iterLoaded ld d hc.2 else []) := rfl

/-- Any loaded predicate, any tree: an in-order sublist of the enumeration -/
theorem iterLoaded_sublist (ld : SlabID → Bool) : ∀ (d : Nat) (t : MTree r d),
    (MTree.iterLoaded ld d t).Sublist (MTree.toList d t)
  | 0, t => by
    refine forall_ofD ?_ t; intro s
    rw [iterLoaded_zero, toList_zero]
    exact HInv.loaded_sub (MElems.loaded_sub r) ld s.elems
  | d + 1, t => by
    refine forall_ofM ?_ t; intro m
    rw [iterLoaded_succ, toList_succ]
    refine zip_flatMap_sublist _ _ _ _ ?_
    intro h c _
    by_cases hl : ld h.id = true
    · simp only [hl, if_true]; exact iterLoaded_sublist ld d c
    · simp only [hl]; exact List.nil_sublist _

theorem iterLoaded_all {ld : SlabID → Bool} (hall : ∀ id, ld id = true) :
    ∀ (d : Nat) (top : Bool) (t : MTree r d), MTreeInv T D d top t → MTree.iterLoaded ld d t = MTree.toList d t
  | 0, _, t, _ => by
    refine forall_ofD ?_ t; intro s
    rw [iterLoaded_zero, toList_zero]
    exact HInv.loaded_all (MElems.loaded_all r) ld hall s.elems
  | d + 1, top, t, h => by
    revert h; refine forall_ofM ?_ t; intro m h
    have F := inv_succ D d top m h
    rw [iterLoaded_succ, toList_succ, F.hdrs_eq]
    refine zip_map_flatMap _ _ _ _ ?_
    intro c hc
    simp only [hall, if_true]
    exact iterLoaded_all hall d false c (F.kids_inv c hc)

end IterM
end Atree

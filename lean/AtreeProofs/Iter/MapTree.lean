import AtreeProofs.Iter.MapElems
import AtreeProofs.Map.Route
/-
  C13, maps, tree level: routing of `getElementAndNextKey` through the index slabs
  (`findChild_route`, a corollary of `route` in Map/Route.lean), the first data slab and the first
  key of a subtree, `getNext_spec`.
-/
namespace Atree
namespace IterM
open Gen

variable {T r : Nat}

def ofD (s : MDataSlab r) : MTree r 0 := s
def ofM {d : Nat} (m : MMetaSlab (MTree r d)) : MTree r (d + 1) := m

@[elab_as_elim]
theorem forall_ofD {P : MTree r 0 → Prop} (h : ∀ s, P (ofD s)) (t : MTree r 0) : P t := h t
@[elab_as_elim]
theorem forall_ofM {d : Nat} {P : MTree r (d + 1) → Prop} (h : ∀ m, P (ofM m)) (t : MTree r (d + 1)) : P t := h t

abbrev leafList (s : MDataSlab r) : List (MKey × Elem) := HkeyElems.toList (MElems.ops r) s.elems

@[simp] theorem toList_zero (s : MDataSlab r) : MTree.toList 0 (ofD s) = leafList s := rfl
@[simp] theorem toList_succ (d : Nat) (m : MMetaSlab (MTree r d)) :
    MTree.toList (d + 1) (ofM m) = m.children.flatMap (MTree.toList d) := rfl
@[simp] theorem hdr_zero (s : MDataSlab r) : MTree.hdr 0 (ofD s) = s.hdr := rfl
@[simp] theorem hdr_succ (d : Nat) (m : MMetaSlab (MTree r d)) : MTree.hdr (d + 1) (ofM m) = m.hdr := rfl
@[simp] theorem digests0_zero (s : MDataSlab r) : MTree.digests0 0 (ofD s) = s.elems.hkeys := rfl
@[simp] theorem digests0_succ (d : Nat) (m : MMetaSlab (MTree r d)) :
    MTree.digests0 (d + 1) (ofM m) = m.children.flatMap (MTree.digests0 d) := rfl
@[simp] theorem dataSlabs_zero (s : MDataSlab r) : MTree.dataSlabs 0 (ofD s) = [s] := rfl
@[simp] theorem dataSlabs_succ (d : Nat) (m : MMetaSlab (MTree r d)) :
    MTree.dataSlabs (d + 1) (ofM m) = m.children.flatMap (MTree.dataSlabs d) := rfl
@[simp] theorem leaves_zero (s : MDataSlab r) : MTree.leaves 0 (ofD s) = [s] := rfl
@[simp] theorem leaves_succ (d : Nat) (m : MMetaSlab (MTree r d)) :
    MTree.leaves (d + 1) (ofM m) = m.children.flatMap (MTree.leaves d) := rfl

theorem dataSlabs_eq_leaves : ∀ (d : Nat) (t : MTree r d), MTree.dataSlabs d t = MTree.leaves d t
  | 0, t => by refine forall_ofD ?_ t; intro s; rfl
  | d + 1, t => by
    refine forall_ofM ?_ t; intro m
    rw [dataSlabs_succ, leaves_succ]
    congr 1; funext c; exact dataSlabs_eq_leaves d c

theorem inv_zero (D : DigestFn (r + 1)) (top : Bool) (s : MDataSlab r) :
    MTreeInv T D 0 top (ofD s) ↔ MDataInv T D top s := Iff.rfl

/-- the part of the index-slab invariant used here -/
structure MetaFacts (T : Nat) (D : DigestFn (r + 1)) (d : Nat) (top : Bool) (m : MMetaSlab (MTree r d)) : Prop where
  hdrs_eq : m.childHdrs = m.children.map (MTree.hdr d)
  size_eq : m.hdr.size = mapMetaDataSlabPrefixSize + mapSlabHeaderSize * m.children.length
  kids_inv : ∀ c ∈ m.children, MTreeInv T D d false c
  kids_first : ∀ c ∈ m.children, (MTree.hdr d c).firstKey = (MTree.digests0 d c).headD 0
  sorted : (m.children.flatMap (MTree.digests0 d)).Pairwise (· < ·)
  ge_min : top = false → minThr T ≤ m.hdr.size
  top_kids : top = true → 2 ≤ m.children.length

theorem inv_succ (D : DigestFn (r + 1)) (d : Nat) (top : Bool) (m : MMetaSlab (MTree r d))
    (h : MTreeInv T D (d + 1) top (ofM m)) : MetaFacts T D d top m := by
  obtain ⟨_, h2, h3, _, h5, _, h7, h8, _, h10, h11⟩ : _ ∧ _ ∧ _ ∧ _ ∧ _ ∧ _ ∧ _ ∧ _ ∧ _ ∧ _ ∧ _ := h
  exact ⟨h2, h3, h5, h7, h8, h10, h11⟩

theorem MetaFacts.kids_pos (hT : legalThreshold T = true) {D : DigestFn (r + 1)} {d : Nat} {top : Bool}
    {m : MMetaSlab (MTree r d)} (h : MetaFacts T D d top m) : 1 ≤ m.children.length := by
  cases top with
  | true => have := h.top_kids rfl; omega
  | false =>
    have h1 := h.ge_min rfl
    have h2 := h.size_eq
    have := map_legal_bounds hT
    simp only [minThr, mapMetaDataSlabPrefixSize, mapSlabHeaderSize] at h1 h2
    rcases Nat.eq_zero_or_pos m.children.length with h0 | h0
    · rw [h0] at h2; omega
    · exact h0

theorem MetaFacts.hdrs_length {D : DigestFn (r + 1)} {d : Nat} {top : Bool}
    {m : MMetaSlab (MTree r d)} (h : MetaFacts T D d top m) : m.childHdrs.length = m.children.length := by
  rw [h.hdrs_eq]; simp

section Leaf
variable {D : DigestFn (r + 1)} {cfg : MCfg}

theorem leaf_hinv {top : Bool} {s : MDataSlab r} (h : MDataInv T D top s) :
    HInv T (r + 1) D (MElems.ops r) (ElemsInv T (r + 1) D r) r 0 [] s.elems :=
  (elemsInv_succ_iff T (r + 1) D r 0 [] s.elems).1 h.elems_inv

end Leaf

section Tree
variable {D : DigestFn (r + 1)} {cfg : MCfg}

theorem mem_digests0 (S : OpsSpec T (r + 1) D cfg (MElems.ops r) (ElemsInv T (r + 1) D r) r) :
    ∀ (d : Nat) (top : Bool) (t : MTree r d), MTreeInv T D d top t →
      ∀ p ∈ MTree.toList d t, p.1.dig 0 ∈ MTree.digests0 d t
  | 0, top, t => by
    refine forall_ofD ?_ t; intro s h p hp
    have H := leaf_hinv ((inv_zero D top s).1 h)
    obtain ⟨i, hk, el, hi, hel, hpel⟩ := H.mem_toList hp
    have := (H.keys_at S hi hel p hpel).2.2
    rw [digests0_zero, this]
    exact List.mem_of_getElem? hi
  | d + 1, top, t => by
    refine forall_ofM ?_ t; intro m h p hp
    have F := inv_succ D d top m h
    rw [toList_succ] at hp
    obtain ⟨c, hc, hpc⟩ := List.mem_flatMap.1 hp
    rw [digests0_succ]
    exact List.mem_flatMap.2 ⟨c, hc, mem_digests0 S d false c (F.kids_inv c hc) p hpc⟩

theorem toList_ne_nil (hT : legalThreshold T = true)
    (S : OpsSpec T (r + 1) D cfg (MElems.ops r) (ElemsInv T (r + 1) D r) r) :
    ∀ (d : Nat) (t : MTree r d), MTreeInv T D d false t → MTree.toList d t ≠ []
  | 0, t => by
    refine forall_ofD ?_ t; intro s h
    have hd := (inv_zero D false s).1 h
    have H := leaf_hinv hd
    rw [toList_zero]
    refine (H.count_pos S).1 ?_
    have := hd.nonempty rfl
    cases hh : s.elems.elems with
    | nil => exact absurd hh this
    | cons _ _ => simp
  | d + 1, t => by
    refine forall_ofM ?_ t; intro m h
    have F := inv_succ D d false m h
    have hpos := F.kids_pos hT
    rw [toList_succ]
    cases hh : m.children with
    | nil => rw [hh] at hpos; simp at hpos
    | cons c rest =>
      have := toList_ne_nil hT S d c (F.kids_inv c (by rw [hh]; simp))
      rw [List.flatMap_cons]
      intro hnil
      exact this (List.append_eq_nil_iff.1 hnil).1

/-- a digest held below child `c` is routed to `c` (`route`, Map/Route.lean: everything left of the child
    chosen is smaller, everything right of it larger) -/
theorem findChild_route (hT : legalThreshold T = true) {d : Nat} {top : Bool} {m : MMetaSlab (MTree r d)}
    (hm : MetaLoose T D d top m) {C1 : List (MTree r d)} {c : MTree r d} {C2 : List (MTree r d)}
    (hch : m.children = C1 ++ c :: C2) {hkey : Nat} (hk : hkey ∈ MTree.digests0 d c) :
    MMetaSlab.findChild m.childHdrs hkey 0 m.childHdrs.length none (m.childHdrs.length + 1) = some C1.length := by
  have hget : m.children[C1.length]? = some c := by rw [hch]; exact get_at rfl
  have h := route hT hm (by rw [hch, List.length_append, List.length_cons]; omega) hkey
  revert h
  cases MMetaSlab.findChild m.childHdrs hkey 0 m.childHdrs.length none (m.childHdrs.length + 1) with
  | none =>
    intro ⟨hall, _⟩
    exact absurd (hall hkey (List.mem_flatMap.2 ⟨c, by rw [hch]; simp, hk⟩)) (Nat.lt_irrefl _)
  | some i =>
    intro ⟨A, child, B, R, _⟩
    rw [R.ch] at hget
    rcases Nat.lt_trichotomy C1.length A.length with hlt | heq | hgt
    · rw [List.getElem?_append_left hlt] at hget
      exact absurd (R.lo hkey (List.mem_flatMap.2 ⟨c, List.mem_of_getElem? hget, hk⟩)) (Nat.lt_irrefl _)
    · rw [← R.len, heq]
    · rw [List.getElem?_append_right (Nat.le_of_lt hgt)] at hget
      obtain ⟨k, hk'⟩ : ∃ k, C1.length - A.length = k + 1 := ⟨C1.length - A.length - 1, by omega⟩
      rw [hk', List.getElem?_cons_succ] at hget
      exact absurd (R.hi hkey (List.mem_flatMap.2 ⟨c, List.mem_of_getElem? hget, hk⟩)) (Nat.lt_irrefl _)

theorem firstDataSlab_zero (s : MDataSlab r) : MTree.firstDataSlab 0 (ofD s) = .ok s := rfl

theorem firstDataSlab_succ {d : Nat} (m : MMetaSlab (MTree r d)) (h : MHdr) (hs : List MHdr) (c : MTree r d)
    (cs : List (MTree r d)) (h1 : m.childHdrs = h :: hs) (h2 : m.children = c :: cs) :
    MTree.firstDataSlab (d + 1) (ofM m) = MTree.firstDataSlab d c := by
  show (match m.childHdrs, m.children with
    | [], _ => Except.error MErr.goPanic
    | _ :: _, [] => Except.error MErr.slabNotFound
    | _ :: _, c :: _ => MTree.firstDataSlab d c) = _
  rw [h1, h2]

theorem firstKey_zero (s : MDataSlab r) :
    MTree.firstKey 0 (ofD s) = .ok (HkeyElems.firstKeyIn (MElems.iops r) s.elems) := rfl

theorem firstKey_succ {d : Nat} (m : MMetaSlab (MTree r d)) (h : MHdr) (hs : List MHdr) (c : MTree r d)
    (cs : List (MTree r d)) (h1 : m.childHdrs = h :: hs) (h2 : m.children = c :: cs) :
    MTree.firstKey (d + 1) (ofM m) = MTree.firstKey d c := by
  unfold MTree.firstKey
  rw [firstDataSlab_succ m h hs c cs h1 h2]

/-- `firstKeyInMapSlab` is the key of the first pair of the subtree -/
theorem firstKey_spec (hT : legalThreshold T = true)
    (S : OpsSpec T (r + 1) D cfg (MElems.ops r) (ElemsInv T (r + 1) D r) r)
    (I : IterSpec T (r + 1) D cfg (MElems.ops r) (MElems.iops r) (ElemsInv T (r + 1) D r)) :
    ∀ (d : Nat) (top : Bool) (t : MTree r d), MTreeInv T D d top t →
      MTree.firstKey d t = .ok ((MTree.toList d t).head?.map (·.1))
  | 0, top, t => by
    refine forall_ofD ?_ t; intro s h
    have H := leaf_hinv ((inv_zero D top s).1 h)
    rw [firstKey_zero, toList_zero, H.firstKeyIn S I]
  | d + 1, top, t => by
    refine forall_ofM ?_ t; intro m h
    have F := inv_succ D d top m h
    have hpos := F.kids_pos hT
    cases hh : m.children with
    | nil => rw [hh] at hpos; simp at hpos
    | cons c cs =>
      have hhd : m.childHdrs = MTree.hdr d c :: cs.map (MTree.hdr d) := by rw [F.hdrs_eq, hh]; rfl
      have hc := F.kids_inv c (by rw [hh]; simp)
      rw [firstKey_succ m _ _ c cs hhd hh, firstKey_spec hT S I d false c hc, toList_succ, hh,
        head?_flatMap_of_ne_nil _ _ _ (toList_ne_nil hT S d c hc)]

theorem getNext_zero (s : MDataSlab r) (k : MKey) :
    MTree.getNext cfg 0 (ofD s) k = HkeyElems.getNext (MElems.iops r) cfg s.elems 0 k := rfl

theorem getNext_succ {d : Nat} (m : MMetaSlab (MTree r d)) (k : MKey) (i : Nat) (child : MTree r d)
    (h1 : MMetaSlab.findChild m.childHdrs (k.dig 0) 0 m.childHdrs.length none (m.childHdrs.length + 1) = some i)
    (h2 : m.children[i]? = some child) (ks : MKey) (v : Elem) (nk : Option MKey)
    (h3 : MTree.getNext cfg d child k = .ok (ks, v, nk)) :
    MTree.getNext cfg (d + 1) (ofM m) k =
      match nk with
      | some nk => .ok (ks, v, some nk)
      | none =>
        if i + 1 < m.childHdrs.length then
          match m.children[i + 1]? with
          | none => .error .slabNotFound
          | some nc => (MTree.firstKey d nc >>= fun fk => pure (ks, v, fk))
        else .ok (ks, v, none) := by
  show (match MMetaSlab.findChild m.childHdrs (k.dig 0) 0 m.childHdrs.length none (m.childHdrs.length + 1) with
    | none => Except.error MErr.keyNotFound
    | some i =>
      match m.children[i]? with
      | none => Except.error MErr.slabNotFound
      | some child => (MTree.getNext cfg d child k >>= fun res =>
        match res.2.2 with
        | some nk => pure (res.1, res.2.1, some nk)
        | none =>
          if i + 1 < m.childHdrs.length then
            match m.children[i + 1]? with
            | none => Except.error MErr.slabNotFound
            | some nc => (MTree.firstKey d nc >>= fun fk => pure (res.1, res.2.1, fk))
          else pure (res.1, res.2.1, none))) = _
  rw [h1]
  simp only [h2, h3]
  cases nk <;> rfl

/-- `getElementAndNextKey` of the key of a pair of the subtree returns the pair and the key of
    the pair that follows it in the subtree's enumeration. -/
theorem getNext_spec (hT : legalThreshold T = true) (hc : CfgFor cfg T (r + 1))
    (S : OpsSpec T (r + 1) D cfg (MElems.ops r) (ElemsInv T (r + 1) D r) r)
    (I : IterSpec T (r + 1) D cfg (MElems.ops r) (MElems.iops r) (ElemsInv T (r + 1) D r)) :
    ∀ (d : Nat) (top : Bool) (t : MTree r d), MTreeInv T D d top t →
      ∀ (A : List (MKey × Elem)) (p : MKey × Elem) (B : List (MKey × Elem)), MTree.toList d t = A ++ p :: B →
      MTree.getNext cfg d t p.1 = .ok (p.1, p.2, B.head?.map (·.1))
  | 0, top, t => by
    refine forall_ofD ?_ t; intro s h A p B hl
    have H := leaf_hinv ((inv_zero D top s).1 h)
    rw [getNext_zero]
    exact H.getNext S I hc hl
  | d + 1, top, t => by
    refine forall_ofM ?_ t; intro m h A p B hl
    have F := inv_succ D d top m h
    rw [toList_succ] at hl
    obtain ⟨C1, c, C2, A2, B2, hch, hcl, hA, hB⟩ := flatMap_eq_append_cons _ _ _ _ _ hl
    have hcm : c ∈ m.children := by rw [hch]; simp
    have hci := F.kids_inv c hcm
    have hdig : p.1.dig 0 ∈ MTree.digests0 d c :=
      mem_digests0 S d false c hci p (by rw [hcl]; simp)
    have hroute := findChild_route hT ((mtreeInv_succ_iff T D d top m).1 h).1 hch hdig
    have hget : m.children[C1.length]? = some c := by rw [hch]; exact get_at rfl
    have ih := getNext_spec hT hc S I d false c hci A2 p B2 hcl
    rw [getNext_succ m p.1 C1.length c hroute hget p.1 p.2 _ ih, hB]
    cases B2 with
    | cons b B2 => rfl
    | nil =>
      simp only [List.head?_nil, Option.map_none, List.nil_append]
      have hlen : m.childHdrs.length = C1.length + 1 + C2.length := by
        rw [F.hdrs_length, hch, List.length_append, List.length_cons, Nat.add_assoc, Nat.add_comm 1]
      cases C2 with
      | nil =>
        rw [if_neg (by rw [hlen]; exact Nat.lt_irrefl _)]
        rfl
      | cons nc C2 =>
        rw [if_pos (by rw [hlen]; exact Nat.lt_add_of_pos_right (Nat.succ_pos _))]
        have hnget : m.children[C1.length + 1]? = some nc := by
          rw [hch, List.getElem?_append_right (Nat.le_add_right _ 1), Nat.add_sub_cancel_left]; rfl
        have hnc := F.kids_inv nc (List.mem_of_getElem? hnget)
        simp only [hnget]
        rw [firstKey_spec hT S I d false nc hnc, head?_flatMap_of_ne_nil _ _ _ (toList_ne_nil hT S d nc hnc)]
        rfl

end Tree
end IterM
end Atree

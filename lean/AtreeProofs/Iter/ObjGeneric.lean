import AtreeProofs.Iter.ObjSpec
/-
  Iterator objects, generic part (C13).

  An iterator object is a state `σ` with a step function `next : σ → Except ε (Option α × σ)`
  (`none` = the nil value).  `Tracks next R` says that the relation `R st l` ("state `st` still has to
  hand out exactly the list `l`") is kept by every step: a state that has `v :: l` to hand out answers
  `v` (no error) and goes to a state that has `l` to hand out; a state with nothing left answers nil
  and stays a state with nothing left.

  Consequences (used for every array iterator type and for the callback loops of the map iterators;
  call-by-call stepping of a map iterator, whose answer depends on the method called, has its own
  `IterMO.MTracks` / `go_tracks` in Iter/MapObj.lean):
  * `stepN_tracks`: `n` successive `Next()` calls return `l[0]?, l[1]?, …, l[n-1]?`: call `i` returns
    the `i`-th element, every call from the end on returns nil, no call fails;
  * `iterateLoop_tracks`: the callback loop with a never-stopping callback delivers exactly `l`
    (any fuel > length of `l`).
  `iterateLoop_succ_ok` (any step function, any callback) says what one round of a callback loop
  that did not fail consists of.
-/
namespace Atree.IterObj
open Atree

variable {σ ε α : Type}

structure Tracks (next : σ → Except ε (Option α × σ)) (R : σ → List α → Prop) : Prop where
  cons : ∀ st v l, R st (v :: l) → ∃ st', next st = .ok (some v, st') ∧ R st' l
  nil  : ∀ st, R st [] → ∃ st', next st = .ok (none, st') ∧ R st' []

theorem answers_zero (l : List α) : answers l 0 = [] := rfl

theorem answers_succ_cons (v : α) (l : List α) (n : Nat) :
    answers (v :: l) (n + 1) = some v :: answers l n := by
  unfold answers
  rw [List.range_succ_eq_map, List.map_cons, List.map_map]
  rfl

theorem answers_succ_nil (n : Nat) : answers ([] : List α) (n + 1) = none :: answers [] n := by
  unfold answers
  rw [List.range_succ_eq_map, List.map_cons, List.map_map]
  simp

theorem answers_nil (n : Nat) : answers ([] : List α) n = List.replicate n none := by
  induction n with
  | zero => rfl
  | succ n ih => rw [answers_succ_nil, ih, List.replicate_succ]

theorem answers_length (l : List α) (n : Nat) : (answers l n).length = n := by simp [answers]

theorem getElem?_answers (l : List α) (n i : Nat) (h : i < n) : (answers l n)[i]? = some l[i]? := by
  simp [answers, h]

/-- exactly the elements, then nil for ever -/
theorem answers_eq (l : List α) (n : Nat) :
    answers l n = (l.map some ++ List.replicate (n - l.length) none).take n := by
  induction l generalizing n with
  | nil => simp [answers_nil]
  | cons v l ih =>
    cases n with
    | zero => simp [answers_zero]
    | succ n =>
      rw [answers_succ_cons, ih]
      simp

theorem stepN_tracks {next : σ → Except ε (Option α × σ)} {R : σ → List α → Prop} (T : Tracks next R) :
    ∀ (n : Nat) (st : σ) (l : List α), R st l → stepN next n st = .ok (answers l n)
  | 0, _, _, _ => rfl
  | n + 1, st, [], h => by
    obtain ⟨st', h1, h2⟩ := T.nil st h
    unfold stepN
    rw [h1]
    simp only
    rw [stepN_tracks T n st' [] h2, answers_succ_nil]
  | n + 1, st, v :: l, h => by
    obtain ⟨st', h1, h2⟩ := T.cons st v l h
    unfold stepN
    rw [h1]
    simp only
    rw [stepN_tracks T n st' l h2, answers_succ_cons]

/-- one round of a callback loop that did not fail: `next` answered nil and nothing was delivered, or
    it answered `v` and the callback stopped there, or resumed and the loop went on from the next state -/
theorem iterateLoop_succ_ok {next : σ → Except ε (Option α × σ)} {resume : Nat → α → Bool} {fuel i : Nat}
    {st : σ} {l : List α} (h : iterateLoop next resume (fuel + 1) i st = .ok l) :
    (∃ st', next st = .ok (none, st') ∧ l = []) ∨
    ∃ v st', next st = .ok (some v, st') ∧
      ((resume i v = false ∧ l = [v]) ∨
        ∃ rest, resume i v = true ∧ iterateLoop next resume fuel (i + 1) st' = .ok rest ∧ l = v :: rest) := by
  simp only [iterateLoop] at h
  cases hn : next st with
  | error e => rw [hn] at h; cases h
  | ok r =>
    obtain ⟨v, st'⟩ := r
    rw [hn] at h
    cases v with
    | none => cases h; exact .inl ⟨st', rfl, rfl⟩
    | some v =>
      dsimp only at h
      cases hres : resume i v with
      | false => rw [hres] at h; cases h; exact .inr ⟨v, st', rfl, .inl ⟨hres, rfl⟩⟩
      | true =>
        rw [hres, if_pos rfl] at h
        cases hr : iterateLoop next resume fuel (i + 1) st' with
        | error e => rw [hr] at h; cases h
        | ok rest => rw [hr] at h; cases h; exact .inr ⟨v, st', rfl, .inr ⟨rest, hres, hr, rfl⟩⟩

theorem iterateLoop_tracks {next : σ → Except ε (Option α × σ)} {R : σ → List α → Prop} (T : Tracks next R) :
    ∀ (l : List α) (fuel i : Nat) (st : σ), R st l → l.length < fuel →
      iterateLoop next (neverStop α) fuel i st = .ok l
  | [], fuel, i, st, h, hf => by
    obtain ⟨f, rfl⟩ := Nat.exists_eq_add_one_of_ne_zero (Nat.ne_zero_of_lt hf)
    obtain ⟨st', h1, _⟩ := T.nil st h
    unfold iterateLoop
    rw [h1]
  | v :: l, fuel, i, st, h, hf => by
    obtain ⟨f, rfl⟩ := Nat.exists_eq_add_one_of_ne_zero (Nat.ne_zero_of_lt hf)
    obtain ⟨st', h1, h2⟩ := T.cons st v l h
    unfold iterateLoop
    rw [h1]
    simp only
    rw [if_pos (show neverStop α i v = true from rfl),
      iterateLoop_tracks T l f (i + 1) st' h2 (by simp at hf; omega)]

end Atree.IterObj

import AtreeProofs.Map.TreeOps
/-
  The repair step of an index slab after one of its children has been updated
  (`MMetaSlab.afterChild`: split / merge / rebalance of the child): the views of a list of siblings,
  the postcondition `ACPost` (`afterChild_post` in `RepairKit.lean` builds it) and small facts about the step.
-/
namespace Atree
open Gen

variable {T : Nat} {r : Nat} {D : DigestFn (r + 1)} {d : Nat}

/-- shorthand for the concatenated views of a list of sibling subtrees -/
abbrev prs (l : List (MTree r d)) : List (MKey × Elem) := l.flatMap (MTree.toList d)
abbrev dgs (l : List (MTree r d)) : List Nat := l.flatMap (MTree.digests0 d)
abbrev lvs (l : List (MTree r d)) : List (MDataSlab r) := l.flatMap (MTree.leaves d)
abbrev idl (l : List (MTree r d)) : List SlabID := l.flatMap (CtxOk.mapSlabIds d)

theorem mctx_emit_ctr (c : Ctx) (e : Eff) : (c.emit e).ctr = c.ctr := rfl
theorem mctx_alloc_ctr (c : Ctx) (a : Nat) : (c.alloc a).2.ctr = c.ctr + 1 := rfl
theorem mctx_alloc_idx (c : Ctx) (a : Nat) : (c.alloc a).1.idx = c.ctr + 1 := rfl
theorem mctx_alloc_addr (c : Ctx) (a : Nat) : (c.alloc a).1.addr = a := rfl

theorem MTreeInv.fk (hT : legalThreshold T = true) {c : MTree r d} (h : MTreeInv T D d false c) :
    (MTree.hdr d c).firstKey = (MTree.digests0 d c).headD 0 :=
  SInv.firstKey_eq hT d false c (MTreeInv.sinv hT h)

theorem headD_map_cons {α β : Type} (f : α → β) (a : α) (l : List α) (b : β) : ((a :: l).map f).headD b = f a := rfl

/-- postcondition of the repair step; `A`, `B` are the untouched siblings left and right of the
    updated child `child'` -/
structure ACPost (T : Nat) (D : DigestFn (r + 1)) (d : Nat) (top : Bool) (m : MMetaSlab (MTree r d))
    (A B : List (MTree r d)) (child' : MTree r d) (c : Ctx) (m' : MMetaSlab (MTree r d)) (c' : Ctx) : Prop where
  loose : MetaLoose T D d top m'
  len1 : 1 ≤ m'.children.length
  len_le : m'.children.length ≤ m.children.length + 1
  id_eq : m'.hdr.id = m.hdr.id
  pairs : prs m'.children = prs A ++ (MTree.toList d child' ++ prs B)
  digs : dgs m'.children = dgs A ++ (MTree.digests0 d child' ++ dgs B)
  leaves : LeafRel (lvs A ++ (MTree.leaves d child' ++ lvs B)) (lvs m'.children)
  ids : ∀ id ∈ idl m'.children, id ∈ idl A ++ (CtxOk.mapSlabIds d child' ++ idl B) ∨ id.idx ≤ c'.ctr
  ctr : c.ctr ≤ c'.ctr

/-- what is known about the index slab with the updated child put in place -/
structure M1 (T : Nat) (D : DigestFn (r + 1)) (d : Nat) (top : Bool) (m1 : MMetaSlab (MTree r d))
    (A B : List (MTree r d)) (child' : MTree r d) : Prop where
  root : m1.root = top
  ch : m1.children = A ++ child' :: B
  hdrs : m1.childHdrs = m1.children.map (MTree.hdr d)
  size : m1.hdr.size = mapMetaDataSlabPrefixSize + mapSlabHeaderSize * m1.children.length
  fk : m1.hdr.firstKey = (m1.childHdrs.headD default).firstKey
  tightA : ∀ c ∈ A, MTreeInv T D d false c
  tightB : ∀ c ∈ B, MTreeInv T D d false c
  addr : ∀ c ∈ m1.children, (MTree.hdr d c).id.addr = m1.hdr.id.addr
  sorted : (dgs m1.children).Pairwise (· < ·)
  child : SInv T D d false child'

theorem mtree_isFull_iff (T : Nat) : ∀ (d : Nat) (t : MTree r d), MTree.isFull T d t = true ↔ maxThr T < (MTree.hdr d t).size
  | 0, s => by show decide (s.hdr.size > maxThr T) = true ↔ _; simp
  | d + 1, m => by show decide (m.hdr.size > maxThr T) = true ↔ _; simp

theorem mtree_isUnderflow_eq (T : Nat) : ∀ (d : Nat) (t : MTree r d), MTree.isUnderflow T d t =
    if minThr T > (MTree.hdr d t).size then some (minThr T - (MTree.hdr d t).size) else none
  | 0, _ => rfl
  | _ + 1, _ => rfl

theorem sorted_adjacent {P Q : List (MTree r d)} {x y : MTree r d}
    (h : (dgs (P ++ (x :: y :: Q))).Pairwise (· < ·)) :
    ∀ a ∈ MTree.digests0 d x, ∀ b ∈ MTree.digests0 d y, a < b := by
  simp only [dgs, List.flatMap_append, List.flatMap_cons] at h
  rw [List.pairwise_append] at h
  have h2 := h.2.1
  rw [List.pairwise_append] at h2
  intro a ha b hb
  exact h2.2.2 a ha b (List.mem_append_left _ hb)

theorem rebalanceChildren_eq (m : MMetaSlab (MTree r d)) (left right : MTree r d) (li ri : Nat) (flag : Bool)
    (c : Ctx) {l' r' : MTree r d}
    (heq : (if flag then MTree.borrowFromRight T d left right else MTree.lendToRight T d left right) = .ok (l', r')) :
    m.rebalanceChildren T left right li ri flag c = .ok
      ({ m with childHdrs := (m.childHdrs.set li (MTree.hdr d l')).set ri (MTree.hdr d r'),
                children := (m.children.set li l').set ri r',
                hdr := { m.hdr with firstKey := if li == 0 then (MTree.hdr d l').firstKey else m.hdr.firstKey } },
       ((c.emit (.store (MTree.hdr d l').id)).emit (.store (MTree.hdr d r').id)).emit (.store m.hdr.id)) := by
  cases flag
  · simp only [Bool.false_eq_true, if_false] at heq
    simp only [MMetaSlab.rebalanceChildren, Bool.false_eq_true, if_false, heq, bind, Except.bind, pure, Except.pure]
  · simp only [if_true] at heq
    simp only [MMetaSlab.rebalanceChildren, if_true, heq, bind, Except.bind, pure, Except.pure]

end Atree

import AtreeProofs.Map.Basics
/-
  Threshold arithmetic (the inline limits), `toStorableLim`, and `ValueOkR`: the values a map accepts,
  references included.
-/
namespace Atree
open Gen

theorem map_legal_bounds {T : Nat} (hT : legalThreshold T = true) : 256 ≤ T ∧ T ≤ 32768 := by
  simp only [legalThreshold, minSlabSize, maxSlabSize, Bool.and_eq_true] at hT
  exact ⟨of_decide_eq_true hT.1, of_decide_eq_true hT.2⟩

theorem maxInlineMapElem_eq (T : Nat) : maxInlineMapElem T = (T - 26) / 2 - 8 := by
  simp [maxInlineMapElem, mapDataSlabPrefixSize, hkeyElementsPrefixSize, minElementCountInSlab, digestSize]
  omega

theorem maxInlineMapKey_eq (T : Nat) : maxInlineMapKey T = (maxInlineMapElem T - 1) / 2 := by
  simp [maxInlineMapKey, singleElementPrefixSize]

theorem maxInlineMapValue_eq (T ks : Nat) : maxInlineMapValue T ks = maxInlineMapElem T - ks - 1 := by
  simp [maxInlineMapValue, singleElementPrefixSize]

theorem maxInlineMapElem_ge {T : Nat} (hT : legalThreshold T = true) : 107 ≤ maxInlineMapElem T := by
  have := map_legal_bounds hT; rw [maxInlineMapElem_eq]; omega

theorem slabIDStorableSize_eq : slabIDStorableSize = 19 := by
  simp [slabIDStorableSize, SlabIDLength]

theorem maxInlineMapValue_ge {T ks : Nat} (hT : legalThreshold T = true) (hk : ks ≤ maxInlineMapKey T) :
    slabIDStorableSize ≤ maxInlineMapValue T ks := by
  have := maxInlineMapElem_ge hT
  rw [maxInlineMapKey_eq] at hk
  rw [maxInlineMapValue_eq, slabIDStorableSize_eq]; omega

theorem single_size_le {T ks vs : Nat} (hT : legalThreshold T = true) (hk : ks ≤ maxInlineMapKey T)
    (hv : vs ≤ maxInlineMapValue T ks) : singleElementPrefixSize + ks + vs ≤ maxInlineMapElem T := by
  have := maxInlineMapElem_ge hT
  rw [maxInlineMapKey_eq] at hk
  rw [maxInlineMapValue_eq] at hv
  simp only [singleElementPrefixSize]; omega

theorem ext_size_le {T : Nat} (hT : legalThreshold T = true) :
    externalCollisionGroupPrefixSize + slabIDStorableSize ≤ maxInlineMapElem T := by
  have := maxInlineMapElem_ge hT
  rw [slabIDStorableSize_eq]; simp only [externalCollisionGroupPrefixSize]; omega

theorem toStorableLim_spec {lim addr : Nat} {v : Elem} (c : Ctx) (hv : ValueOkM v)
    (hlim : slabIDStorableSize ≤ lim) :
    1 ≤ (toStorableLim lim addr v c).1.size ∧ (toStorableLim lim addr v c).1.size ≤ lim ∧
    c.ctr ≤ (toStorableLim lim addr v c).2.ctr := by
  obtain ⟨h1, n, hn⟩ := hv
  unfold toStorableLim
  rw [hn]
  simp only
  split
  · simp [Ctx.alloc, Ctx.emit, slabIDStorableSize_eq] at *
    omega
  · simp; omega

/-- a value the map can store next to a key of size `ks`: a plain value of any size (it is externalised
    when too large), or any value (e.g. a reference to a child container) that fits the inline limit -/
def ValueOkR (T ks : Nat) (v : Elem) : Prop :=
  1 ≤ v.size ∧ ((∃ n, v.pay = .val n) ∨ v.size ≤ maxInlineMapValue T ks)

theorem ValueOkM.okR {v : Elem} (h : ValueOkM v) (T ks : Nat) : ValueOkR T ks v := ⟨h.1, Or.inl h.2⟩

theorem ValueOkR.of_le {T ks : Nat} {v : Elem} (h1 : 1 ≤ v.size) (h2 : v.size ≤ maxInlineMapValue T ks) :
    ValueOkR T ks v := ⟨h1, Or.inr h2⟩

theorem toStorableLim_refR (lim addr : Nat) (v : Elem) (c : Ctx) (r : SlabID) (h : v.pay = .ref r) :
    toStorableLim lim addr v c = (v, c) := by
  unfold toStorableLim; rw [h]

theorem toStorableLim_of_le (lim addr : Nat) (v : Elem) (c : Ctx) (h : v.size ≤ lim) :
    toStorableLim lim addr v c = (v, c) := by
  unfold toStorableLim
  split
  · rfl
  · rw [if_neg (by omega)]

theorem storedValue_ref (cfg : MCfg) (k : MKey) (v : Elem) (c : Ctx) (r : SlabID) (h : v.pay = .ref r) :
    storedValue cfg k v c = v := by
  simp only [storedValue, toStorableLim_refR _ _ v c r h]

theorem toStorableLim_specR {T ks addr : Nat} {v : Elem} (c : Ctx) (hv : ValueOkR T ks v)
    (hlim : slabIDStorableSize ≤ maxInlineMapValue T ks) :
    1 ≤ (toStorableLim (maxInlineMapValue T ks) addr v c).1.size ∧
    (toStorableLim (maxInlineMapValue T ks) addr v c).1.size ≤ maxInlineMapValue T ks ∧
    c.ctr ≤ (toStorableLim (maxInlineMapValue T ks) addr v c).2.ctr := by
  obtain ⟨h1, h2 | h2⟩ := hv
  · exact toStorableLim_spec c ⟨h1, h2⟩ hlim
  · rw [toStorableLim_of_le _ _ _ _ h2]
    exact ⟨h1, h2, Nat.le_refl _⟩

end Atree

import AtreeProofs.MapLemmas
import AtreeProofs.ListAt
/-
  Basic lemmas for the map proofs: strictly sorted `List Nat`, key equality (`MKey.same`, `KeyOk`), digest prefixes.
-/
namespace Atree
open Gen

/-- the owner's address is that of the root identifier -/
theorem OMap.addr_of_rootID {r : Nat} {m m' : OMap r} (h : m'.rootID = m.rootID) : m'.addr = m.addr :=
  congrArg SlabID.addr h

theorem CfgOk.of_rootID {r : Nat} {cfg : MCfg} {T : Nat} {m m' : OMap r} (hcfg : CfgOk cfg T m)
    (h : m'.rootID = m.rootID) : CfgOk cfg T m' :=
  ⟨hcfg.1, hcfg.2.1, hcfg.2.2.trans (OMap.addr_of_rootID h).symm⟩

theorem take_succ_getD {l : List Nat} {n : Nat} (h : n < l.length) :
    l.take (n + 1) = l.take n ++ [l.getD n 0] := by
  rw [List.take_add_one, List.getD_eq_getElem?_getD, List.getElem?_eq_getElem h]; rfl

theorem sorted_get_lt {l : List Nat} (h : l.Pairwise (· < ·)) {i j a b : Nat}
    (hi : l[i]? = some a) (hj : l[j]? = some b) (hij : i < j) : a < b := by
  have h1 := lt_length_of_getElem? hi
  have h2 := lt_length_of_getElem? hj
  rw [List.getElem?_eq_getElem h1] at hi
  rw [List.getElem?_eq_getElem h2] at hj
  have := (List.pairwise_iff_getElem.mp h) i j h1 h2 hij
  simp at hi hj; omega

theorem sorted_get_inj {l : List Nat} (h : l.Pairwise (· < ·)) {i j a : Nat}
    (hi : l[i]? = some a) (hj : l[j]? = some a) : i = j := by
  rcases Nat.lt_trichotomy i j with h1 | h1 | h1
  · have := sorted_get_lt h hi hj h1; omega
  · exact h1
  · have := sorted_get_lt h hj hi h1; omega

/-- inserting `x` at a position `q` that separates smaller from larger entries keeps the table
    strictly increasing -/
theorem sorted_insertIdx {l : List Nat} (h : l.Pairwise (· < ·)) {q x : Nat} (hq : q ≤ l.length)
    (hlt : ∀ p a, p < q → l[p]? = some a → a < x) (hgt : ∀ p a, q ≤ p → l[p]? = some a → x < a) :
    (l.insertIdx q x).Pairwise (· < ·) := by
  rw [insertIdx_eq hq]
  rw [← List.take_append_drop q l] at h
  rw [List.pairwise_append] at h ⊢
  obtain ⟨h1, h2, h3⟩ := h
  refine ⟨h1, ?_, ?_⟩
  · rw [List.pairwise_cons]
    refine ⟨?_, h2⟩
    intro a ha
    obtain ⟨j, hj, hja⟩ := mem_drop_get ha
    exact hgt j a hj hja
  · intro a ha b hb
    obtain ⟨j, hj, hja⟩ := mem_take_get ha
    have hax := hlt j a hj hja
    rcases List.mem_cons.mp hb with rfl | hb
    · exact hax
    · obtain ⟨j', hj', hjb⟩ := mem_drop_get hb
      have := hgt j' b hj' hjb
      omega

theorem headD_mem {l : List Nat} (h : l ≠ []) : l.headD 0 ∈ l := by
  cases l with
  | nil => exact absurd rfl h
  | cons a _ => simp

/-- the first entries of the non-empty pieces of a strictly sorted concatenation are strictly sorted -/
theorem heads_sorted {α : Type} (f : α → List Nat) (L : List α) (hs : (L.flatMap f).Pairwise (· < ·))
    (hne : ∀ x ∈ L, f x ≠ []) : (L.map (fun x => (f x).headD 0)).Pairwise (· < ·) := by
  rw [List.pairwise_flatMap] at hs
  rw [List.pairwise_map]
  exact hs.2.imp_of_mem fun ha hb hab => hab _ (headD_mem (hne _ ha)) _ (headD_mem (hne _ hb))

theorem MKey.same_iff (a b : MKey) : a.same b = true ↔ a.size = b.size ∧ a.pay = b.pay := by
  simp [MKey.same]

theorem MKey.same_size {a b : MKey} (h : a.same b = true) : a.size = b.size := ((MKey.same_iff a b).1 h).1

theorem MKey.same_self (a : MKey) : a.same a = true := by simp [MKey.same]

section Keys
variable {T L : Nat} {D : DigestFn L}

theorem KeyOk.eq_of_same {a b : MKey} (ha : KeyOk T L D a) (hb : KeyOk T L D b)
    (h : a.same b = true) : a = b := by
  rw [MKey.same_iff] at h
  have h1 := ha.1; have h2 := hb.1
  rw [h.1, h.2] at h1
  cases a; cases b; simp_all

theorem KeyOk.same_iff {a b : MKey} (ha : KeyOk T L D a) (hb : KeyOk T L D b) :
    a.same b = true ↔ a = b :=
  ⟨KeyOk.eq_of_same ha hb, fun h => h ▸ MKey.same_self a⟩

theorem KeyOk.same_false_iff {a b : MKey} (ha : KeyOk T L D a) (hb : KeyOk T L D b) :
    a.same b = false ↔ a ≠ b := by
  have := KeyOk.same_iff ha hb
  cases h : a.same b <;> simp_all

theorem KeyOk.digs_length {k : MKey} (h : KeyOk T L D k) : k.digs.length = L := by
  rw [h.1]; exact D.len _

theorem KeyOk.take_succ {k : MKey} (h : KeyOk T L D k) {ℓ : Nat} (hℓ : ℓ < L) :
    k.digs.take (ℓ + 1) = k.digs.take ℓ ++ [k.dig ℓ] := by
  unfold MKey.dig
  exact take_succ_getD (by rw [h.digs_length]; exact hℓ)

/-- keys below different digests are different -/
theorem ne_of_prefix_ne {a b : MKey} {n : Nat} {p : List Nat} {x y : Nat}
    (ha : a.digs.take n = p ++ [x]) (hb : b.digs.take n = p ++ [y]) (hxy : x ≠ y) : a ≠ b := by
  intro h; subst h
  rw [ha] at hb
  have := List.append_cancel_left hb
  simp at this; exact hxy this

theorem lex_of_prefix {a b : List Nat} {n : Nat} {p : List Nat} {x y : Nat}
    (ha : a.take n = p ++ [x]) (hb : b.take n = p ++ [y]) (hxy : x < y) : List.Lex (· < ·) a b := by
  have ha' : a = p ++ (x :: a.drop n) := by
    conv => lhs; rw [← List.take_append_drop n a, ha]
    simp
  have hb' : b = p ++ (y :: b.drop n) := by
    conv => lhs; rw [← List.take_append_drop n b, hb]
    simp
  rw [ha', hb']
  clear ha hb ha' hb'
  induction p with
  | nil => exact List.Lex.rel hxy
  | cons q p ih => exact List.Lex.cons ih

end Keys

theorem pairwise_le_getLast {l : List Nat} (h : l.Pairwise (· < ·)) {x : Nat} (hl : l.getLast? = some x) :
    ∀ a ∈ l, a ≤ x := by
  intro a ha
  rw [List.getLast?_eq_getElem?] at hl
  obtain ⟨i, hi⟩ := List.mem_iff_getElem?.mp ha
  have hlt := lt_length_of_getElem? hi
  by_cases hlast : i = l.length - 1
  · subst hlast; rw [hl] at hi; cases hi; exact Nat.le_refl _
  · exact Nat.le_of_lt (sorted_get_lt h hi hl (by omega))

end Atree

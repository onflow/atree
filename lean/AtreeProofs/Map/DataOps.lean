import AtreeProofs.Map.TreeInv2
import AtreeProofs.Map.Loops
import AtreeProofs.Map.HkeySeg
/-
  `MDataSlab.split / merge / lendToRight / borrowFromRight` and `canLend`.

  Each of split, lend and borrow cuts the concatenated entries of the slab(s) at a position `n` found
  by a loop over the entry sizes.  The arithmetic is done once on `List Nat` (`*_cut`: the loop's
  result is `(n, sum of the first n sizes)` and both sides are within the band) with the thresholds
  as variables: `lend_cut` and `borrow_cut` use no fact about them (`band_of_min`), `split_cut`
  takes the linear facts `ThrBand`.

  In the size arithmetic 26 = `mapDataSlabPrefixSize` (18) + `hkeyElementsPrefixSize` (8): a data slab
  whose entries sum to `x` has size `26 + x`.  Each layer has its own `merge_band` (`MDataSlab.` here,
  `MMetaSlab.` and `MTree.` above, all from `ThrBand.merge`): merging an underfull slab with a
  sibling that cannot lend stays within the band.
-/
namespace Atree
open Gen

variable {T : Nat} {r : Nat} {D : DigestFn (r + 1)}

namespace HkeyElems
variable {m M E : Nat}

/-- `splitLoop` cuts the entry sizes `L` of an overfull slab into two parts within the band -/
theorem split_cut (hb : ThrBand 26 T m M E) (L : List Nat) (hE : ∀ x ∈ L, x ≤ E) (h1 : M < 26 + L.sum)
    (h2 : 26 + L.sum ≤ M + E + 16) :
    ∃ n, 1 ≤ n ∧ n < L.length ∧ splitLoop ((L.sum + 1) / 2) L.sum L 0 0 = (n, (L.take n).sum) ∧
      m ≤ 26 + (L.take n).sum ∧ 26 + (L.take n).sum ≤ M ∧
      m ≤ 26 + (L.drop n).sum ∧ 26 + (L.drop n).sum ≤ M := by
  have h0 : 26 < m := by have := hb.lo; have := hb.min_ge; omega
  obtain ⟨n, x, y, c, heq, c1, c2⟩ := splitLoop_cut ((L.sum + 1) / 2) L.sum E rfl L 0 0 hE (Nat.zero_add _)
    (by have := hb.lo; have := hb.max_ge; omega)
  simp only [Nat.zero_add] at heq c1 c2
  have hs := c.sum
  rw [← hs] at h1 h2 c1 c2
  have g := hb.split h1 h2 c1 c2
  obtain ⟨-, rfl, rfl⟩ := id c
  exact ⟨n, c.pos (by omega), c.lt (by omega), heq, g⟩

/-- the offsets between what `canLend` and what `lendToRight` / `borrowFromRight` pass to their
    loops (`canLend` counts the table's prefix 8 in, the other two do not): `u` the entries of the
    underfull slab, `m` the lower threshold -/
theorem rebal_offsets {m u : Nat} (h : 26 + u < m) :
    u + (m - (26 + u)) = m - 18 - 8 ∧ ∀ s, m - 18 - 8 + (8 + s) ≤ s + (m - 18) :=
  ⟨by omega, fun s => by omega⟩

/-- `lendLoop` moves a suffix of the entries `L` of a slab that can lend to an underfull right
    sibling holding `rd` bytes of entries; afterwards both are within the band -/
theorem lend_cut (L : List Nat) (rd : Nat) (hl : 26 + L.sum ≤ M) (hr : 26 + rd < m)
    (hcan : canLendLoop (m - 18) (8 + L.sum) (m - (26 + rd)) L.reverse 0 = true) :
    ∃ n, 1 ≤ n ∧ n ≤ L.length ∧
      lendLoop (m - 18 - 8) (L.sum + rd) ((L.sum + rd + 1) / 2) L.reverse L.length L.sum = (n, (L.take n).sum) ∧
      m ≤ 26 + (L.take n).sum ∧ 26 + (L.take n).sum ≤ M ∧
      m ≤ 26 + ((L.drop n).sum + rd) ∧ 26 + ((L.drop n).sum + rd) ≤ M := by
  obtain ⟨o1, o2⟩ := rebal_offsets hr
  obtain ⟨n, x, y, c, heq, -, c1, c2⟩ := lendLoop_cut (p := 0) (rs := rd) L hcan (Nat.sub_pos_of_lt hr)
    (Nat.zero_add _).symm rfl o1 (Nat.le_add_left _ _) (o2 _)
  rw [Nat.zero_add] at heq c1
  have hs := c.sum
  have g1 : m ≤ 26 + x := by omega
  have g2 : m ≤ 26 + (y + rd) := by omega
  obtain ⟨u1, u2⟩ := band_of_min g1 g2 (M := M) (by omega)
  obtain ⟨-, rfl, rfl⟩ := id c
  exact ⟨n, c.pos (by omega), c.le, heq, g1, u1, g2, u2⟩

/-- `borrowLoop` moves a prefix of the entries `L` of a slab that can lend to an underfull left
    sibling holding `ld` bytes of entries; afterwards both are within the band -/
theorem borrow_cut (L : List Nat) (ld lc : Nat) (hl : 26 + ld < m) (hr2 : 26 + L.sum ≤ M)
    (hcan : canLendLoop (m - 18) (8 + L.sum) (m - (26 + ld)) L 0 = true) :
    ∃ n, n ≤ L.length ∧
      borrowLoop (m - 18 - 8) (ld + L.sum) ((ld + L.sum + 1) / 2) L lc ld = (lc + n, ld + (L.take n).sum) ∧
      m ≤ 26 + (ld + (L.take n).sum) ∧ 26 + (ld + (L.take n).sum) ≤ M ∧
      m ≤ 26 + (L.drop n).sum ∧ 26 + (L.drop n).sum ≤ M := by
  obtain ⟨o1, o2⟩ := rebal_offsets hl
  obtain ⟨n, x, y, c, heq, -, c1, c2⟩ := borrowLoop_cut (p := 0) (ls := ld) (lc := lc) L hcan (Nat.sub_pos_of_lt hl)
    (Nat.zero_add _).symm rfl o1 (Nat.le_add_left _ _) (o2 _)
  rw [Nat.zero_add] at c2
  have hs := c.sum
  have g1 : m ≤ 26 + (ld + x) := by omega
  have g2 : m ≤ 26 + y := by omega
  obtain ⟨u1, u2⟩ := band_of_min g1 g2 (M := M) (by omega)
  obtain ⟨-, rfl, rfl⟩ := id c
  exact ⟨n, c.le, heq, g1, u1, g2, u2⟩

end HkeyElems

/-- a non-root slab whose table satisfies `HInv`, whose header agrees with it and whose size is in the
    band satisfies `MDataInv` -/
theorem MDataInv.of_hinv (hT : legalThreshold T = true) {s : MDataSlab r}
    (H : HInv T (r + 1) D (MElems.ops r) (ElemsInv T (r + 1) D r) r 0 [] s.elems)
    (hroot : s.root = false) (hinl : s.inlined = false) (hfk : s.hdr.firstKey = s.elems.firstKey)
    (hsz : s.hdr.size = mapDataSlabPrefixSize + s.elems.size)
    (h1 : minThr T ≤ 26 + HkeyElems.elemSizes (MElems.ops r) s.elems.elems)
    (h2 : 26 + HkeyElems.elemSizes (MElems.ops r) s.elems.elems ≤ maxThr T) : MDataInv T D false s := by
  have hs : s.hdr.size = 26 + HkeyElems.elemSizes (MElems.ops r) s.elems.elems := by
    rw [hsz, H.size_eq]; exact (Nat.add_assoc 18 8 _).symm
  refine (mdataInv_iff hT false s).mpr ⟨⟨(elemsInv_succ_iff ..).mpr H, ?_, hfk, hroot, ?_⟩, hs ▸ h2, fun _ => hs ▸ h1⟩
  · rw [hsz, MDataSlab.prefixSize, hinl, hroot]; rfl
  · intro h; rw [hinl] at h; cases h

namespace MDataSlab

/-- the entry sizes (element + digest) of a data slab -/
def sizes (s : MDataSlab r) : List Nat :=
  s.elems.elems.map (fun el => MElemF.size (MElems.ops r) el + digestSize)

theorem elemSizes_eq (s : MDataSlab r) : HkeyElems.elemSizes (MElems.ops r) s.elems.elems = s.sizes.sum := rfl

theorem elemSizes_take_eq (s : MDataSlab r) (j : Nat) :
    HkeyElems.elemSizes (MElems.ops r) (s.elems.elems.take j) = (s.sizes.take j).sum :=
  HkeyElems.elemSizes_take _ _ _

theorem elemSizes_drop_eq (s : MDataSlab r) (j : Nat) :
    HkeyElems.elemSizes (MElems.ops r) (s.elems.elems.drop j) = (s.sizes.drop j).sum := by
  simp only [HkeyElems.elemSizes, sizes, List.map_drop]

theorem sizes_length (s : MDataSlab r) : s.sizes.length = s.elems.elems.length := List.length_map _

theorem size_nontop {s : MDataSlab r} (h : MDataLoose T D false s) :
    s.hdr.size = 26 + s.sizes.sum ∧ s.elems.size = 8 + s.sizes.sum := by
  have h2 : s.elems.size = 8 + s.sizes.sum := h.hinv.size_eq
  refine ⟨?_, h2⟩
  rw [h.size_eq, h.prefix_nontop, h2]; exact (Nat.add_assoc 18 8 _).symm

theorem sizes_le (hT : legalThreshold T = true) {top : Bool} {s : MDataSlab r} (h : MDataLoose T D top s) :
    ∀ x ∈ s.sizes, x ≤ maxEntry T := h.sizes_le hT

theorem split_spec (hT : legalThreshold T = true) {s : MDataSlab r} (hs : MDataLoose T D false s)
    (hfull : maxThr T < s.hdr.size) (hle : s.hdr.size ≤ maxThr T + maxEntry T + 16) (c : Ctx) :
    ∃ l rr, s.split c = .ok (l, rr, (c.alloc s.hdr.id.addr).2) ∧
      MDataInv T D false l ∧ MDataInv T D false rr ∧
      s.elems.hkeys = l.elems.hkeys ++ rr.elems.hkeys ∧ s.elems.elems = l.elems.elems ++ rr.elems.elems ∧
      l.hdr.id = s.hdr.id ∧ rr.hdr.id = (c.alloc s.hdr.id.addr).1 ∧ l.next = rr.hdr.id ∧ rr.next = s.next := by
  obtain ⟨hsz, hesz⟩ := size_nontop hs
  have H := hs.hinv
  rw [hsz] at hfull hle
  obtain ⟨n, n1, n2, heq, g1, g2, g3, g4⟩ := HkeyElems.split_cut (mapBand hT) s.sizes (sizes_le hT hs) hfull hle
  have hlen2 : ¬ (s.elems.elems.length < 2) := by rw [← sizes_length]; omega
  have hdata : s.elems.size - hkeyElementsPrefixSize = s.sizes.sum := by
    rw [hesz]; exact Nat.add_sub_cancel_left 8 _
  have hdr : s.sizes.sum - (s.sizes.take n).sum = (s.sizes.drop n).sum :=
    Nat.sub_eq_of_eq_add' (sum_take_add_drop _ n).symm
  rw [← elemSizes_take_eq] at g1 g2
  rw [← elemSizes_drop_eq] at g3 g4
  have heq' : HkeyElems.splitLoop ((s.sizes.sum + 1) / 2) s.sizes.sum
      (List.map (fun el => MElemF.size (MElems.ops r) el + digestSize) s.elems.elems) 0 0 = (n, (s.sizes.take n).sum) := heq
  simp only [MDataSlab.split, if_neg hlen2, HkeyElems.split, eops, hdata, heq', hdr]
  refine ⟨_, _, rfl, ?_, ?_, (List.take_append_drop n _).symm, (List.take_append_drop n _).symm, rfl, rfl, rfl, rfl⟩
  · refine MDataInv.of_hinv hT (H.take n H.level_eq rfl rfl ?_) hs.root_eq hs.inlined_nontop ?_ rfl g1 g2
    · exact congrArg _ (elemSizes_take_eq s n).symm
    · exact hs.first_eq.trans (headD_take_of_pos 0 n1).symm
  · refine MDataInv.of_hinv hT (H.drop n H.level_eq rfl rfl ?_) rfl rfl rfl rfl g3 g4
    exact (Nat.add_comm _ _).trans (congrArg _ (elemSizes_drop_eq s n).symm)

theorem merge_spec {l rr : MDataSlab r} (hl : MDataLoose T D false l) (hr : MDataLoose T D false rr)
    (hlt : ∀ a ∈ l.elems.hkeys, ∀ b ∈ rr.elems.hkeys, a < b) :
    MDataLoose T D false (MDataSlab.merge l rr) ∧
    (MDataSlab.merge l rr).hdr.size + 26 = l.hdr.size + rr.hdr.size ∧
    (MDataSlab.merge l rr).elems.hkeys = l.elems.hkeys ++ rr.elems.hkeys ∧
    (MDataSlab.merge l rr).elems.elems = l.elems.elems ++ rr.elems.elems ∧
    (MDataSlab.merge l rr).hdr.id = l.hdr.id ∧ (MDataSlab.merge l rr).next = rr.next := by
  obtain ⟨hsz1, hesz1⟩ := size_nontop hl
  obtain ⟨hsz2, hesz2⟩ := size_nontop hr
  have hsz : (HkeyElems.merge l.elems rr.elems).size = 8 + (l.sizes.sum + rr.sizes.sum) := by
    show l.elems.size + (rr.elems.size - 8) = _
    rw [hesz1, hesz2, Nat.add_sub_cancel_left, Nat.add_assoc]
  refine ⟨⟨?_, ?_, rfl, hl.root_eq, hl.inl_root⟩, ?_, rfl, rfl, rfl, rfl⟩
  · rw [elemsInv_succ_iff]
    refine hl.hinv.append hr.hinv hlt hl.hinv.level_eq rfl rfl ?_
    rw [HkeyElems.elemSizes_append]; exact hsz
  · show _ = l.prefixSize + _
    rw [hl.prefix_nontop]; rfl
  · show 18 + (HkeyElems.merge l.elems rr.elems).size + 26 = _
    rw [hsz, hsz1, hsz2]; omega

theorem canLend_loop {s : MDataSlab r} {want : Nat} {fromBack : Bool}
    (h : HkeyElems.canLend (MElems.ops r) T s.elems want fromBack = true) :
    HkeyElems.canLendLoop (minThr T - 18) s.elems.size want (if fromBack then s.sizes.reverse else s.sizes) 0 =
      true := by
  simp only [HkeyElems.canLend] at h
  split at h
  · cases h
  · split at h
    · cases h
    · exact h

/-- a sibling that cannot lend `want` bytes is small -/
theorem cannot_lend_bound (hT : legalThreshold T = true) {s : MDataSlab r} (hs : MDataLoose T D false s)
    {want : Nat} {fromBack : Bool} (hw : 0 < want)
    (h : HkeyElems.canLend (MElems.ops r) T s.elems want fromBack = false) :
    s.hdr.size < minThr T + want + maxEntry T + 26 := by
  have hE := sizes_le hT hs
  obtain ⟨h1, h2⟩ := size_nontop hs
  have := HkeyElems.cannot_lend_lt (c := minThr T - 18) (e := s.elems.size) (E := maxEntry T) (q := 8)
    (n := s.elems.elems.length) (L := if fromBack then s.sizes.reverse else s.sizes)
    (by intro x hx; cases fromBack <;> simp at hx <;> exact hE x hx)
    (by rw [h2]; cases fromBack <;> simp)
    (by cases fromBack <;> simp [sizes_length]) hw h
  rw [h2] at this
  omega

/-- merging an underflowing slab with a sibling that cannot lend stays within the band -/
theorem merge_band (hT : legalThreshold T = true) {u sib : MDataSlab r} (hu : MDataLoose T D false u)
    (hs : MDataInv T D false sib) (hunder : u.hdr.size < minThr T) {fromBack : Bool}
    (h : HkeyElems.canLend (MElems.ops r) T sib.elems (minThr T - u.hdr.size) fromBack = false) :
    minThr T + 26 ≤ u.hdr.size + sib.hdr.size ∧ u.hdr.size + sib.hdr.size ≤ maxThr T + 26 :=
  (mapBand hT).merge (by decide) ((size_nontop hu).1 ▸ Nat.le_add_right 26 _) hunder (hs.ge_min rfl)
    (cannot_lend_bound hT hs.loose (Nat.sub_pos_of_lt hunder) h)

theorem lendToRight_spec (hT : legalThreshold T = true) {l rr : MDataSlab r} (hl : MDataInv T D false l)
    (hr : MDataLoose T D false rr) (hunder : rr.hdr.size < minThr T)
    (hcan : l.canLendToRight T (minThr T - rr.hdr.size) = true)
    (hlt : ∀ a ∈ l.elems.hkeys, ∀ b ∈ rr.elems.hkeys, a < b) :
    ∃ l' r', MDataSlab.lendToRight T l rr = .ok (l', r') ∧ MDataInv T D false l' ∧ MDataInv T D false r' ∧
      l.elems.hkeys ++ rr.elems.hkeys = l'.elems.hkeys ++ r'.elems.hkeys ∧
      l.elems.elems ++ rr.elems.elems = l'.elems.elems ++ r'.elems.elems ∧
      l'.hdr.id = l.hdr.id ∧ r'.hdr.id = rr.hdr.id ∧ l'.next = l.next ∧ r'.next = rr.next := by
  have hll := hl.loose
  obtain ⟨h1, h2⟩ := size_nontop hll
  obtain ⟨h3, h4⟩ := size_nontop hr
  have hcan' := canLend_loop hcan
  have hmax := hl.le_max
  rw [h3] at hunder hcan'
  rw [h1] at hmax
  rw [h2, if_pos rfl] at hcan'
  obtain ⟨n, n1, n2, heq, g1, g2, g3, g4⟩ :=
    HkeyElems.lend_cut l.sizes rr.sizes.sum hmax hunder hcan'
  have hlev : ¬ (l.elems.level ≠ rr.elems.level) := by rw [hll.hinv.level_eq, hr.hinv.level_eq]; simp
  have hsize : l.elems.size + rr.elems.size - hkeyElementsPrefixSize * 2 = l.sizes.sum + rr.sizes.sum := by
    rw [h2, h4]; show 8 + _ + (8 + _) - 16 = _; omega
  have hls : l.elems.size - hkeyElementsPrefixSize = l.sizes.sum := by
    rw [h2]; exact Nat.add_sub_cancel_left 8 _
  have hdr : l.sizes.sum + rr.sizes.sum - (l.sizes.take n).sum = (l.sizes.drop n).sum + rr.sizes.sum := by
    rw [← sum_take_add_drop l.sizes n, Nat.add_assoc, Nat.add_sub_cancel_left]
  rw [sizes_length] at heq
  rw [← elemSizes_take_eq] at g1 g2
  have heq' : HkeyElems.lendLoop (minThr T - mapDataSlabPrefixSize - hkeyElementsPrefixSize)
      (l.sizes.sum + rr.sizes.sum) ((l.sizes.sum + rr.sizes.sum + 1) / 2)
      (List.map (fun el => MElemF.size (MElems.ops r) el + digestSize) l.elems.elems).reverse l.elems.elems.length
      l.sizes.sum = (n, (l.sizes.take n).sum) := heq
  simp only [MDataSlab.lendToRight, HkeyElems.lendToRight, eops, if_neg hlev, hsize, hls, heq', hdr, bind, Except.bind,
    pure, Except.pure]
  refine ⟨_, _, rfl, ?_, ?_, ?_, ?_, rfl, rfl, rfl, rfl⟩
  · refine MDataInv.of_hinv hT (hll.hinv.take n hll.hinv.level_eq rfl rfl ?_) hll.root_eq hll.inlined_nontop ?_ rfl g1 g2
    · exact congrArg _ (elemSizes_take_eq l n).symm
    · exact hll.first_eq.trans (headD_take_of_pos 0 n1).symm
  · have hes : HkeyElems.elemSizes (MElems.ops r) (l.elems.elems.drop n ++ rr.elems.elems) =
        (l.sizes.drop n).sum + rr.sizes.sum := by
      rw [HkeyElems.elemSizes_append, elemSizes_drop_eq, elemSizes_eq]
    have Hd : HInv T (r + 1) D (MElems.ops r) (ElemsInv T (r + 1) D r) r 0 []
        ({ l.elems with hkeys := l.elems.hkeys.drop n, elems := l.elems.elems.drop n,
                        size := hkeyElementsPrefixSize + HkeyElems.elemSizes (MElems.ops r) (l.elems.elems.drop n) } :
          HkeyElems (MElems r)) :=
      hll.hinv.drop n hll.hinv.level_eq rfl rfl rfl
    refine MDataInv.of_hinv hT (Hd.append hr.hinv ?_ hr.hinv.level_eq rfl rfl ?_) hr.root_eq hr.inlined_nontop rfl rfl
      (hes ▸ g3) (hes ▸ g4)
    · intro a ha b hb'; exact hlt a (List.mem_of_mem_drop ha) b hb'
    · exact (Nat.add_comm _ _).trans (congrArg _ hes.symm)
  · show _ = l.elems.hkeys.take n ++ (l.elems.hkeys.drop n ++ _)
    rw [← List.append_assoc, List.take_append_drop]
  · show _ = l.elems.elems.take n ++ (l.elems.elems.drop n ++ _)
    rw [← List.append_assoc, List.take_append_drop]

theorem borrowFromRight_spec (hT : legalThreshold T = true) {l rr : MDataSlab r} (hl : MDataLoose T D false l)
    (hr : MDataInv T D false rr) (hunder : l.hdr.size < minThr T)
    (hcan : rr.canLendToLeft T (minThr T - l.hdr.size) = true)
    (hlt : ∀ a ∈ l.elems.hkeys, ∀ b ∈ rr.elems.hkeys, a < b) :
    ∃ l' r', MDataSlab.borrowFromRight T l rr = .ok (l', r') ∧ MDataInv T D false l' ∧ MDataInv T D false r' ∧
      l.elems.hkeys ++ rr.elems.hkeys = l'.elems.hkeys ++ r'.elems.hkeys ∧
      l.elems.elems ++ rr.elems.elems = l'.elems.elems ++ r'.elems.elems ∧
      l'.hdr.id = l.hdr.id ∧ r'.hdr.id = rr.hdr.id ∧ l'.next = l.next ∧ r'.next = rr.next := by
  have hrl := hr.loose
  obtain ⟨h1, h2⟩ := size_nontop hl
  obtain ⟨h3, h4⟩ := size_nontop hrl
  have hcan' := canLend_loop hcan
  have hmin := hr.ge_min rfl
  have hmax := hr.le_max
  rw [h1] at hunder hcan'
  rw [h3] at hmin hmax
  rw [h4] at hcan'
  obtain ⟨n, n2, heq, g1, g2, g3, g4⟩ :=
    HkeyElems.borrow_cut rr.sizes l.sizes.sum l.elems.elems.length hunder hmax hcan'
  have hlev : ¬ (l.elems.level ≠ rr.elems.level) := by rw [hl.hinv.level_eq, hrl.hinv.level_eq]; simp
  have hsize : l.elems.size + rr.elems.size - hkeyElementsPrefixSize * 2 = l.sizes.sum + rr.sizes.sum := by
    rw [h2, h4]; show 8 + _ + (8 + _) - 16 = _; omega
  have hls : l.elems.size - hkeyElementsPrefixSize = l.sizes.sum := by
    rw [h2]; exact Nat.add_sub_cancel_left 8 _
  have hdr : l.sizes.sum + rr.sizes.sum - (l.sizes.sum + (rr.sizes.take n).sum) = (rr.sizes.drop n).sum := by
    rw [← sum_take_add_drop rr.sizes n, ← Nat.add_assoc, Nat.add_sub_cancel_left]
  rw [← elemSizes_drop_eq] at g3 g4
  have heq' : HkeyElems.borrowLoop (minThr T - mapDataSlabPrefixSize - hkeyElementsPrefixSize)
      (l.sizes.sum + rr.sizes.sum) ((l.sizes.sum + rr.sizes.sum + 1) / 2)
      (List.map (fun el => MElemF.size (MElems.ops r) el + digestSize) rr.elems.elems) l.elems.elems.length
      l.sizes.sum = (l.elems.elems.length + n, l.sizes.sum + (rr.sizes.take n).sum) := heq
  simp only [MDataSlab.borrowFromRight, HkeyElems.borrowFromRight, eops, if_neg hlev, hsize, hls, heq', hdr, bind,
    Except.bind, pure, Except.pure, Nat.add_sub_cancel_left]
  refine ⟨_, _, rfl, ?_, ?_, ?_, ?_, rfl, rfl, rfl, rfl⟩
  · have hes : HkeyElems.elemSizes (MElems.ops r) (l.elems.elems ++ rr.elems.elems.take n) =
        l.sizes.sum + (rr.sizes.take n).sum := by
      rw [HkeyElems.elemSizes_append, elemSizes_take_eq, elemSizes_eq]
    have Ht : HInv T (r + 1) D (MElems.ops r) (ElemsInv T (r + 1) D r) r 0 []
        ({ rr.elems with hkeys := rr.elems.hkeys.take n, elems := rr.elems.elems.take n,
                         size := hkeyElementsPrefixSize + HkeyElems.elemSizes (MElems.ops r) (rr.elems.elems.take n) } :
          HkeyElems (MElems r)) :=
      hrl.hinv.take n hrl.hinv.level_eq rfl rfl rfl
    refine MDataInv.of_hinv hT (hl.hinv.append Ht ?_ hl.hinv.level_eq rfl rfl ?_) hl.root_eq hl.inlined_nontop rfl rfl
      (hes ▸ g1) (hes ▸ g2)
    · intro a ha b hb'; exact hlt a ha b (List.mem_of_mem_take hb')
    · exact (Nat.add_comm _ _).trans (congrArg _ hes.symm)
  · refine MDataInv.of_hinv hT (hrl.hinv.drop n hrl.hinv.level_eq rfl rfl ?_) hrl.root_eq hrl.inlined_nontop rfl rfl g3 g4
    exact (Nat.add_comm _ _).trans (congrArg _ (elemSizes_drop_eq rr n).symm)
  · show _ = l.elems.hkeys ++ rr.elems.hkeys.take n ++ _
    rw [List.append_assoc, List.take_append_drop]
  · show _ = l.elems.elems ++ rr.elems.elems.take n ++ _
    rw [List.append_assoc, List.take_append_drop]

end MDataSlab
end Atree

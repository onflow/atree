import AtreeProofs.Map.TreeDefs
import AtreeProofs.Map.HkeySpec
/-
  `MDataSlab.get / set / remove` on a slab satisfying `MDataLoose`.
-/
namespace Atree
open Gen

namespace MDataSlab
variable {T : Nat} {r : Nat} {D : DigestFn (r + 1)} {cfg : MCfg}

abbrev pairs (s : MDataSlab r) : List (MKey × Elem) := HkeyElems.toList (MElems.ops r) s.elems

theorem toList_eq (s : MDataSlab r) : MTree.toList 0 s = s.pairs := rfl

theorem storeIfNotInlined_ctr (s : MDataSlab r) (c : Ctx) : (s.storeIfNotInlined c).ctr = c.ctr := by
  unfold storeIfNotInlined; split <;> rfl

theorem get_spec (hT : legalThreshold T = true) (hc : CfgFor cfg T (r + 1)) {top : Bool} {s : MDataSlab r}
    (hs : MDataLoose T D top s) {k : MKey} (hk : KeyOk T (r + 1) D k) :
    (∀ v, (k, v) ∈ s.pairs → s.get cfg k = .ok (k, v)) ∧
    ((∀ p ∈ s.pairs, p.1 ≠ k) → s.get cfg k = .error .keyNotFound) :=
  hs.hinv.get (MElems.opsSpec D hT hc r) hc hk rfl

/-- postcondition of a successful `MDataSlab.set` -/
structure SetPost (T : Nat) (D : DigestFn (r + 1)) (top : Bool) (s s' : MDataSlab r) (k : MKey) (sv : Elem)
    (old : Option Elem) (c c' : Ctx) : Prop where
  loose : MDataLoose T D top s'
  eff : SetEffect s.pairs s'.pairs k sv old
  ctr : c.ctr ≤ c'.ctr
  ids : ∀ id ∈ extIds s'.elems.elems, id ∈ extIds s.elems.elems ∨ id.idx ≤ c'.ctr
  hk_new : ∀ x ∈ s'.elems.hkeys, x ∈ s.elems.hkeys ∨ x = k.dig 0
  hk_old : ∀ x ∈ s.elems.hkeys, x ∈ s'.elems.hkeys
  hk_mem : k.dig 0 ∈ s'.elems.hkeys
  id_eq : s'.hdr.id = s.hdr.id
  next_eq : s'.next = s.next
  inl_eq : s'.inlined = s.inlined
  size_le : s'.hdr.size ≤ s.hdr.size + maxEntry T
  size_ge : s.hdr.size ≤ s'.hdr.size + maxInlineMapElem T

theorem set_spec_ref (hT : legalThreshold T = true) (hc : CfgFor cfg T (r + 1)) {top : Bool} {s : MDataSlab r}
    (hs : MDataLoose T D top s) {k : MKey} (hk : KeyOk T (r + 1) D k) {v : Elem} (hv : ValueOkR T k.size v) (c : Ctx) :
    (Limited (MElems.ops r) cfg s.elems 0 k → s.set cfg k v c = .error .collisionLimit) ∧
    (¬ Limited (MElems.ops r) cfg s.elems 0 k → ∃ old s' c', s.set cfg k v c = .ok (k, old, s', c') ∧
        SetPost T D top s s' k (storedValue cfg k v c) old c c') := by
  obtain ⟨h1, h2⟩ := hs.hinv.set (MElems.opsSpec D hT hc r) hT hc hk rfl hv ((MElems.setSpecR D hT hc r).set hk hv) c
  constructor
  · intro hl
    have := h1 hl
    simp only [MDataSlab.set, eops, this, bind, Except.bind]
  · intro hnl
    obtain ⟨⟨rk, old, e', c'⟩, hres, hpost⟩ := h2 hnl
    obtain ⟨p1, p2, p3, p4, p5, p6, p7, p8, p9⟩ := hpost
    simp only at p1 p2 p3 p4 p5 p6 p7 p8 p9
    subst p1
    have hp := p9 trivial
    refine ⟨old, s.withElems e', _, set_ok_iff.2 ⟨e', c', hres, rfl, rfl⟩, ?_⟩
    refine ⟨⟨(elemsInv_succ_iff T (r + 1) D r 0 [] e').mpr p2, rfl, rfl, hs.root_eq, hs.inl_root⟩,
      p3, ?_, ?_, p6, p7, p8, rfl, rfl, rfl, ?_, ?_⟩
    · rw [storeIfNotInlined_ctr]; exact p4
    · intro id hid
      rcases p5 id hid with h | h
      · exact Or.inl h
      · right; rw [storeIfNotInlined_ctr]; exact h
    · simp only [maxEntry]; rw [hs.size_eq]; show s.prefixSize + e'.size ≤ _; omega
    · rw [hs.size_eq]; show _ ≤ s.prefixSize + e'.size + _; omega

theorem set_spec (hT : legalThreshold T = true) (hc : CfgFor cfg T (r + 1)) {top : Bool} {s : MDataSlab r}
    (hs : MDataLoose T D top s) {k : MKey} (hk : KeyOk T (r + 1) D k) {v : Elem} (hv : ValueOkM v) (c : Ctx) :
    (Limited (MElems.ops r) cfg s.elems 0 k → s.set cfg k v c = .error .collisionLimit) ∧
    (¬ Limited (MElems.ops r) cfg s.elems 0 k → ∃ old s' c', s.set cfg k v c = .ok (k, old, s', c') ∧
        SetPost T D top s s' k (storedValue cfg k v c) old c c') :=
  set_spec_ref hT hc hs hk (hv.okR T k.size) c

/-- postcondition of a successful `MDataSlab.remove` -/
structure RemPost (T : Nat) (D : DigestFn (r + 1)) (top : Bool) (s s' : MDataSlab r) (k : MKey) (v : Elem)
    (c c' : Ctx) : Prop where
  loose : MDataLoose T D top s'
  eff : RemEffect s.pairs s'.pairs k v
  ctr : c'.ctr = c.ctr
  ids : ∀ id ∈ extIds s'.elems.elems, id ∈ extIds s.elems.elems
  hk_new : ∀ x ∈ s'.elems.hkeys, x ∈ s.elems.hkeys
  id_eq : s'.hdr.id = s.hdr.id
  next_eq : s'.next = s.next
  inl_eq : s'.inlined = s.inlined
  size_le : s'.hdr.size ≤ s.hdr.size + maxInlineMapElem T
  size_ge : s.hdr.size ≤ s'.hdr.size + maxEntry T

theorem remove_spec (hT : legalThreshold T = true) (hc : CfgFor cfg T (r + 1)) {top : Bool} {s : MDataSlab r}
    (hs : MDataLoose T D top s) {k : MKey} (hk : KeyOk T (r + 1) D k) (c : Ctx) :
    ((∀ p ∈ s.pairs, p.1 ≠ k) → s.remove cfg k c = .error .keyNotFound) ∧
    (∀ v, (k, v) ∈ s.pairs → ∃ s' c', s.remove cfg k c = .ok (k, v, s', c') ∧ RemPost T D top s s' k v c c') := by
  obtain ⟨h1, h2⟩ := hs.hinv.remove (MElems.opsSpec D hT hc r) hT hc hk rfl c
  constructor
  · intro hne
    have := h1 hne
    simp only [MDataSlab.remove, eops, this, bind, Except.bind]
  · intro v hm
    obtain ⟨⟨rk, rv, e', c'⟩, hres, hpost⟩ := h2 v hm
    obtain ⟨p1, p2, p3, p4, p5, p6, p7, p8, p9⟩ := hpost
    simp only at p1 p2 p3 p4 p5 p6 p7 p8 p9
    subst p1 p2
    have hp := p9 trivial
    refine ⟨s.withElems e', _, remove_ok_iff.2 ⟨e', c', hres, rfl, rfl⟩, ?_⟩
    refine ⟨⟨(elemsInv_succ_iff T (r + 1) D r 0 [] e').mpr p3, rfl, rfl, hs.root_eq, hs.inl_root⟩,
      p4, ?_, p6, p7, rfl, rfl, rfl, ?_, ?_⟩
    · rw [storeIfNotInlined_ctr]; exact p5
    · rw [hs.size_eq]; show s.prefixSize + e'.size ≤ _; omega
    · simp only [maxEntry]; rw [hs.size_eq]; show _ ≤ s.prefixSize + e'.size + _; omega

end MDataSlab
end Atree

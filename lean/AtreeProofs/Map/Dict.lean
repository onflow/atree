import AtreeProofs.Map.Basics
/-
  The dictionary a pair list represents; the effect of set / remove on it is one slot update
  (`SlotEffect`), of which `SetEffect` and `RemEffect` are the instances.
-/
namespace Atree
open Gen

section Dict
variable {T L : Nat} {D : DigestFn L}

def AllKeyOk (T L : Nat) (D : DigestFn L) (l : List (MKey × Elem)) : Prop := ∀ p ∈ l, KeyOk T L D p.1

theorem MKey.same_comm (a b : MKey) : a.same b = b.same a := by
  simp only [MKey.same]
  rw [Bool.eq_iff_iff]; simp only [Bool.and_eq_true, beq_iff_eq]
  constructor <;> (intro h; exact ⟨h.1.symm, h.2.symm⟩)

theorem MKey.same_trans {a b c : MKey} (h1 : a.same b = true) (h2 : b.same c = true) : a.same c = true := by
  simp only [MKey.same, Bool.and_eq_true, beq_iff_eq] at *
  exact ⟨h1.1.trans h2.1, h1.2.trans h2.2⟩

theorem MKey.same_congr_right {a b c : MKey} (h : b.same c = true) : a.same b = a.same c := by
  cases h1 : a.same b <;> cases h2 : a.same c <;> try rfl
  · have := MKey.same_trans h2 (by rw [MKey.same_comm]; exact h)
    rw [h1] at this; cases this
  · have := MKey.same_trans h1 h
    rw [h2] at this; cases this

theorem dictLookup_nil (k : MKey) : dictLookup [] k = none := rfl

theorem dictLookup_cons (p : MKey × Elem) (l : List (MKey × Elem)) (k : MKey) :
    dictLookup (p :: l) k = if p.1.same k then some p.2 else dictLookup l k := by
  unfold dictLookup
  rw [List.find?_cons]
  cases h : p.1.same k <;> simp

theorem dictLookup_append_of_none {A B : List (MKey × Elem)} {k : MKey} (h : dictLookup A k = none) :
    dictLookup (A ++ B) k = dictLookup B k := by
  induction A with
  | nil => rfl
  | cons p A ih =>
    rw [dictLookup_cons] at h
    rw [List.cons_append, dictLookup_cons]
    cases hp : p.1.same k
    · rw [hp] at h; simp at h; simp [ih h]
    · rw [hp] at h; simp at h

theorem dictLookup_none_of {l : List (MKey × Elem)} {k : MKey} (h : ∀ p ∈ l, p.1.same k = false) :
    dictLookup l k = none := by
  induction l with
  | nil => rfl
  | cons p l ih =>
    rw [dictLookup_cons, h p (List.mem_cons_self)]
    simp; exact ih (fun q hq => h q (List.mem_cons_of_mem _ hq))

theorem dictLookup_none_iff {l : List (MKey × Elem)} {k : MKey} (hl : AllKeyOk T L D l) (hk : KeyOk T L D k) :
    dictLookup l k = none ↔ ∀ p ∈ l, p.1 ≠ k := by
  induction l with
  | nil => simp [dictLookup_nil]
  | cons p l ih =>
    have hp : KeyOk T L D p.1 := hl p List.mem_cons_self
    have hl' : AllKeyOk T L D l := fun q hq => hl q (List.mem_cons_of_mem _ hq)
    rw [dictLookup_cons]
    cases h : p.1.same k
    · have := (KeyOk.same_false_iff hp hk).mp h
      simp [ih hl', this]
    · have := (KeyOk.same_iff hp hk).mp h
      simp [this]

theorem dictLookup_skip {A B : List (MKey × Elem)} {k k' : MKey} {v : Elem} (h : k.same k' = false) :
    dictLookup (A ++ (k, v) :: B) k' = dictLookup (A ++ B) k' := by
  induction A with
  | nil => simp [dictLookup_cons, h]
  | cons p A ih => simp only [List.cons_append, dictLookup_cons, ih]

theorem KeysDistinct.append_iff {A B : List (MKey × Elem)} :
    KeysDistinct (A ++ B) ↔ KeysDistinct A ∧ KeysDistinct B ∧ ∀ a ∈ A, ∀ b ∈ B, a.1.same b.1 = false := by
  unfold KeysDistinct; exact List.pairwise_append

theorem KeysDistinct.cons_iff {p : MKey × Elem} {B : List (MKey × Elem)} :
    KeysDistinct (p :: B) ↔ (∀ b ∈ B, p.1.same b.1 = false) ∧ KeysDistinct B := by
  unfold KeysDistinct; exact List.pairwise_cons

theorem dictLookup_zipper {A B : List (MKey × Elem)} {k : MKey} {v : Elem}
    (hd : KeysDistinct (A ++ (k, v) :: B)) : dictLookup (A ++ (k, v) :: B) k = some v := by
  rw [KeysDistinct.append_iff] at hd
  have hA : dictLookup A k = none := dictLookup_none_of (fun p hp => hd.2.2 p hp (k, v) List.mem_cons_self)
  rw [dictLookup_append_of_none hA, dictLookup_cons]
  simp [MKey.same_self]

/-- the effect of `set k v` on the pair list: a new pair is inserted somewhere (the key was
    absent), or the value of the pair with key `k` is replaced in place -/
def SetEffect (l l' : List (MKey × Elem)) (k : MKey) (v : Elem) (old : Option Elem) : Prop :=
  (old = none ∧ (∀ p ∈ l, p.1 ≠ k) ∧ ∃ A B, l = A ++ B ∧ l' = A ++ (k, v) :: B) ∨
  (∃ v0 A B, old = some v0 ∧ l = A ++ (k, v0) :: B ∧ l' = A ++ (k, v) :: B)

/-- the effect of `remove k` returning `v`: that pair disappears, everything else stays in order -/
def RemEffect (l l' : List (MKey × Elem)) (k : MKey) (v : Elem) : Prop :=
  ∃ A B, l = A ++ (k, v) :: B ∧ l' = A ++ B

/-- the pair of key `k`, if there is one -/
def slotOf (k : MKey) (x : Option Elem) : List (MKey × Elem) := (x.map (Prod.mk k)).toList

/-- One slot update: the (at most one) pair of key `k` is replaced, in place, by (at most one) pair
    of key `k`.  Insertion (`none`, `some`), overwriting (`some`, `some`) and removal (`some`, `none`)
    are its instances; `SetEffect` adds to the first that the key was absent. -/
def SlotEffect (l l' : List (MKey × Elem)) (k : MKey) (old new : Option Elem) : Prop :=
  ∃ A B, l = A ++ (slotOf k old ++ B) ∧ l' = A ++ (slotOf k new ++ B)

theorem setEffect_iff {l l' : List (MKey × Elem)} {k : MKey} {v : Elem} {old : Option Elem} :
    SetEffect l l' k v old ↔ SlotEffect l l' k old (some v) ∧ (old = none → ∀ p ∈ l, p.1 ≠ k) := by
  constructor
  · rintro (⟨rfl, hne, A, B, rfl, rfl⟩ | ⟨v0, A, B, rfl, rfl, rfl⟩)
    · exact ⟨⟨A, B, rfl, rfl⟩, fun _ => hne⟩
    · exact ⟨⟨A, B, rfl, rfl⟩, fun h => nomatch h⟩
  · rintro ⟨⟨A, B, rfl, rfl⟩, hne⟩
    cases old with
    | none => exact Or.inl ⟨rfl, hne rfl, A, B, rfl, rfl⟩
    | some v0 => exact Or.inr ⟨v0, A, B, rfl, rfl, rfl⟩

theorem remEffect_iff {l l' : List (MKey × Elem)} {k : MKey} {v : Elem} :
    RemEffect l l' k v ↔ SlotEffect l l' k (some v) none :=
  ⟨fun ⟨A, B, h1, h2⟩ => ⟨A, B, h1, h2⟩, fun ⟨A, B, h1, h2⟩ => ⟨A, B, h1, h2⟩⟩

/-- a slot update up to order: the pairs that stay, with the old resp. the new pair of `k` -/
theorem SlotEffect.perms {l l' : List (MKey × Elem)} {k : MKey} {old new : Option Elem}
    (h : SlotEffect l l' k old new) : ∃ kept, l.Perm (slotOf k old ++ kept) ∧ l'.Perm (slotOf k new ++ kept) := by
  obtain ⟨A, B, rfl, rfl⟩ := h
  exact ⟨A ++ B, List.perm_append_comm_assoc .., List.perm_append_comm_assoc ..⟩

theorem SetEffect.perms {l l' : List (MKey × Elem)} {k : MKey} {v : Elem}
    {old : Option Elem} (h : SetEffect l l' k v old) :
    ∃ kept, l.Perm ((old.map fun v0 => (k, v0)).toList ++ kept) ∧ l'.Perm ((k, v) :: kept) :=
  (setEffect_iff.1 h).1.perms

namespace SlotEffect
variable {l l' : List (MKey × Elem)} {k : MKey} {old new : Option Elem}

theorem lift (h : SlotEffect l l' k old new) (P S : List (MKey × Elem)) :
    SlotEffect (P ++ (l ++ S)) (P ++ (l' ++ S)) k old new := by
  obtain ⟨A, B, rfl, rfl⟩ := h
  exact ⟨P ++ A, B ++ S, by simp, by simp⟩

theorem length (h : SlotEffect l l' k old new) :
    l'.length + old.toList.length = l.length + new.toList.length := by
  obtain ⟨A, B, rfl, rfl⟩ := h
  cases old <;> cases new <;> simp [slotOf] <;> omega

theorem mem (h : SlotEffect l l' k old new) : ∀ p ∈ l', p ∈ slotOf k new ∨ p ∈ l := by
  obtain ⟨A, B, rfl, rfl⟩ := h
  intro p hp
  simp only [List.mem_append] at hp ⊢
  rcases hp with hp | hp | hp
  · exact Or.inr (Or.inl hp)
  · exact Or.inl hp
  · exact Or.inr (Or.inr (Or.inr hp))

end SlotEffect

/-- looking up around a slot none of whose neighbours has the key `k` -/
theorem dictLookup_slot {A B : List (MKey × Elem)} {k : MKey}
    (hA : ∀ a ∈ A, a.1.same k = false) (hB : ∀ b ∈ B, b.1.same k = false) (x : Option Elem) (k' : MKey) :
    dictLookup (A ++ (slotOf k x ++ B)) k' = if k'.same k then x else dictLookup (A ++ B) k' := by
  cases hs : k'.same k
  · cases x with
    | none => simp [slotOf]
    | some v =>
      simp only [slotOf, Option.map_some, Option.toList_some, List.singleton_append, Bool.false_eq_true, if_false]
      exact dictLookup_skip (by rwa [MKey.same_comm])
  · have hk : ∀ a : MKey, a.same k' = a.same k := fun a => MKey.same_congr_right hs
    have hA' : dictLookup A k' = none := dictLookup_none_of (fun p hp => by rw [hk]; exact hA p hp)
    rw [dictLookup_append_of_none hA', if_pos rfl]
    cases x with
    | none => exact dictLookup_none_of (fun p hp => by rw [hk]; exact hB p hp)
    | some v => simp [slotOf, dictLookup_cons, MKey.same_comm k k', hs]

/-- Dictionary semantics of one slot update: the key held `old` and holds `new` afterwards, every
    other key is untouched, the list stays a dictionary -/
theorem SlotEffect.spec {l l' : List (MKey × Elem)} {k : MKey} {old new : Option Elem}
    (hl : AllKeyOk T L D l) (hd : KeysDistinct l) (hk : KeyOk T L D k)
    (habs : old = none → ∀ p ∈ l, p.1 ≠ k) (h : SlotEffect l l' k old new) :
    dictLookup l k = old ∧ AllKeyOk T L D l' ∧ KeysDistinct l' ∧
    (∀ k', dictLookup l' k' = if k'.same k then new else dictLookup l k') := by
  obtain ⟨A, B, rfl, rfl⟩ := h
  -- no neighbour of the slot has the key: by absence, or because the old pair is distinct from them
  have hAB : (∀ a ∈ A, a.1.same k = false) ∧ (∀ b ∈ B, b.1.same k = false) := by
    cases old with
    | none =>
      have hne := habs rfl
      exact ⟨fun a ha => (KeyOk.same_false_iff (hl a (by simp [ha])) hk).2 (hne a (by simp [ha])),
        fun b hb => (KeyOk.same_false_iff (hl b (by simp [hb])) hk).2 (hne b (by simp [hb]))⟩
    | some v0 =>
      have hd' : KeysDistinct (A ++ (k, v0) :: B) := hd
      rw [KeysDistinct.append_iff, KeysDistinct.cons_iff] at hd'
      exact ⟨fun a ha => hd'.2.2 a ha (k, v0) List.mem_cons_self,
        fun b hb => by rw [MKey.same_comm]; exact hd'.2.1.1 b hb⟩
  have hdAB : KeysDistinct (A ++ B) :=
    List.Pairwise.sublist (List.Sublist.append (List.Sublist.refl A) (List.sublist_append_right _ B)) hd
  refine ⟨?_, ?_, ?_, ?_⟩
  · rw [dictLookup_slot hAB.1 hAB.2, if_pos (MKey.same_self k)]
  · intro p hp
    simp only [List.mem_append] at hp
    rcases hp with hp | hp | hp
    · exact hl p (by simp [hp])
    · cases new with
      | none => simp [slotOf] at hp
      | some v => simp [slotOf] at hp; rw [hp]; exact hk
    · exact hl p (by simp [hp])
  · cases new with
    | none => simpa [slotOf] using hdAB
    | some v =>
      rw [KeysDistinct.append_iff] at hdAB ⊢
      refine ⟨hdAB.1, ?_, ?_⟩
      · show KeysDistinct ((k, v) :: B)
        rw [KeysDistinct.cons_iff]
        exact ⟨fun b hb => by rw [MKey.same_comm]; exact hAB.2 b hb, hdAB.2.1⟩
      · intro a ha b hb
        rcases List.mem_cons.mp hb with rfl | hb
        · exact hAB.1 a ha
        · exact hdAB.2.2 a ha b hb
  · intro k'
    rw [dictLookup_slot hAB.1 hAB.2, dictLookup_slot hAB.1 hAB.2]
    split <;> rfl

theorem SetEffect.lift {l l' : List (MKey × Elem)} {k : MKey} {v : Elem} {old : Option Elem}
    (h : SetEffect l l' k v old) (P S : List (MKey × Elem))
    (hP : ∀ p ∈ P, p.1 ≠ k) (hS : ∀ p ∈ S, p.1 ≠ k) :
    SetEffect (P ++ (l ++ S)) (P ++ (l' ++ S)) k v old := by
  obtain ⟨h1, h2⟩ := setEffect_iff.1 h
  refine setEffect_iff.2 ⟨h1.lift P S, fun ho p hp => ?_⟩
  simp only [List.mem_append] at hp
  rcases hp with hp | hp | hp
  · exact hP p hp
  · exact h2 ho p hp
  · exact hS p hp

theorem RemEffect.lift {l l' : List (MKey × Elem)} {k : MKey} {v : Elem}
    (h : RemEffect l l' k v) (P S : List (MKey × Elem)) :
    RemEffect (P ++ (l ++ S)) (P ++ (l' ++ S)) k v :=
  remEffect_iff.2 ((remEffect_iff.1 h).lift P S)

theorem SetEffect.length {l l' : List (MKey × Elem)} {k : MKey} {v : Elem} {old : Option Elem}
    (h : SetEffect l l' k v old) : l'.length = if old.isSome then l.length else l.length + 1 := by
  have := (setEffect_iff.1 h).1.length
  cases old <;> simp at this ⊢ <;> omega

theorem SetEffect.length_ge {l l' : List (MKey × Elem)} {k : MKey} {v : Elem} {old : Option Elem}
    (h : SetEffect l l' k v old) : l.length ≤ l'.length := by
  rw [h.length]; split <;> omega

theorem RemEffect.length {l l' : List (MKey × Elem)} {k : MKey} {v : Elem}
    (h : RemEffect l l' k v) : l'.length + 1 = l.length := by
  have := (remEffect_iff.1 h).length
  simpa using this

theorem RemEffect.mem {l l' : List (MKey × Elem)} {k : MKey} {v : Elem}
    (h : RemEffect l l' k v) : ∀ p ∈ l', p ∈ l :=
  fun p hp => ((remEffect_iff.1 h).mem p hp).elim (fun h => nomatch h) id

theorem SetEffect.mem {l l' : List (MKey × Elem)} {k : MKey} {v : Elem} {old : Option Elem}
    (h : SetEffect l l' k v old) : ∀ p ∈ l', p = (k, v) ∨ p ∈ l :=
  fun p hp => ((setEffect_iff.1 h).1.mem p hp).imp List.mem_singleton.1 id

theorem SetEffect.spec {l l' : List (MKey × Elem)} {k : MKey} {v : Elem} {old : Option Elem}
    (hl : AllKeyOk T L D l) (hd : KeysDistinct l) (hk : KeyOk T L D k) (h : SetEffect l l' k v old) :
    old = dictLookup l k ∧ AllKeyOk T L D l' ∧ KeysDistinct l' ∧
    (∀ k', KeyOk T L D k' → dictLookup l' k' = if k'.same k then some v else dictLookup l k') :=
  have ⟨h1, h2, h3, h4⟩ := SlotEffect.spec hl hd hk (setEffect_iff.1 h).2 (setEffect_iff.1 h).1
  ⟨h1.symm, h2, h3, fun k' _ => h4 k'⟩

theorem RemEffect.spec {l l' : List (MKey × Elem)} {k : MKey} {v : Elem}
    (hl : AllKeyOk T L D l) (hd : KeysDistinct l) (hk : KeyOk T L D k) (h : RemEffect l l' k v) :
    dictLookup l k = some v ∧ AllKeyOk T L D l' ∧ KeysDistinct l' ∧
    (∀ k', KeyOk T L D k' → dictLookup l' k' = if k'.same k then none else dictLookup l k') :=
  have ⟨h1, h2, h3, h4⟩ := SlotEffect.spec (old := some v) hl hd hk (fun h => nomatch h) (remEffect_iff.1 h)
  ⟨h1, h2, h3, fun k' _ => h4 k'⟩

theorem dictLookup_some_of_mem {l : List (MKey × Elem)} {k : MKey} {v : Elem}
    (hd : KeysDistinct l) (hm : (k, v) ∈ l) : dictLookup l k = some v := by
  obtain ⟨A, B, rfl⟩ := List.append_of_mem hm
  exact dictLookup_zipper hd

theorem mem_of_dictLookup_some {l : List (MKey × Elem)} {k : MKey} {v : Elem}
    (hl : AllKeyOk T L D l) (hk : KeyOk T L D k) (h : dictLookup l k = some v) : (k, v) ∈ l := by
  induction l with
  | nil => simp [dictLookup_nil] at h
  | cons p l ih =>
    rw [dictLookup_cons] at h
    cases hs : p.1.same k
    · rw [hs] at h; simp at h
      exact List.mem_cons_of_mem _ (ih (fun q hq => hl q (List.mem_cons_of_mem _ hq)) h)
    · rw [hs] at h; simp at h
      have := (KeyOk.same_iff (hl p List.mem_cons_self) hk).mp hs
      have : p = (k, v) := by cases p; simp_all
      rw [this]; exact List.mem_cons_self

theorem dictLookup_map_val (g : Elem → Elem) (l : List (MKey × Elem)) (k : MKey) :
    dictLookup (l.map (fun p => (p.1, g p.2))) k = (dictLookup l k).map g := by
  induction l with
  | nil => rfl
  | cons p l ih =>
    rw [List.map_cons, dictLookup_cons, dictLookup_cons, ih]
    cases p.1.same k <;> simp

theorem keysDistinct_reverse {l : List (MKey × Elem)} (h : KeysDistinct l) : KeysDistinct l.reverse := by
  unfold KeysDistinct at h ⊢
  rw [List.pairwise_reverse]
  exact h.imp (fun hab => by rw [MKey.same_comm]; exact hab)

theorem dictLookup_reverse {l : List (MKey × Elem)} (hl : AllKeyOk T L D l)
    (hd : KeysDistinct l) {k : MKey} (hk : KeyOk T L D k) : dictLookup l.reverse k = dictLookup l k := by
  have hl' : AllKeyOk T L D l.reverse := fun p hp => hl p (List.mem_reverse.mp hp)
  cases h : dictLookup l k with
  | none =>
    rw [dictLookup_none_iff hl hk] at h
    rw [dictLookup_none_iff hl' hk]
    exact fun p hp => h p (List.mem_reverse.mp hp)
  | some v =>
    have := mem_of_dictLookup_some hl hk h
    exact dictLookup_some_of_mem (keysDistinct_reverse hd) (List.mem_reverse.mpr this)

theorem nodup_keys_of_distinct {l : List (MKey × Elem)} (h : KeysDistinct l) : (l.map (·.1)).Nodup :=
  List.pairwise_map.2 (h.imp fun hab he => by rw [he, MKey.same_self] at hab; cases hab)

/-- two dictionaries that bind the same keys have the same keys -/
theorem keys_perm_of_lookups {l1 l2 : List (MKey × Elem)} (h1 : AllKeyOk T L D l1)
    (h2 : AllKeyOk T L D l2) (d1 : KeysDistinct l1) (d2 : KeysDistinct l2)
    (h : ∀ k, KeyOk T L D k → (dictLookup l1 k).isSome = (dictLookup l2 k).isSome) :
    (l1.map (·.1)).Perm (l2.map (·.1)) := by
  have key : ∀ {la lb : List (MKey × Elem)}, AllKeyOk T L D la → AllKeyOk T L D lb →
      (∀ k, KeyOk T L D k → (dictLookup la k).isSome = (dictLookup lb k).isSome) →
      ∀ a ∈ la.map (·.1), a ∈ lb.map (·.1) := by
    intro la lb ha hb hab a hmem
    obtain ⟨p, hp, rfl⟩ := List.mem_map.1 hmem
    have hk := ha p hp
    have hsome : (dictLookup lb p.1).isSome = true := by
      rw [← hab _ hk]
      cases hl : dictLookup la p.1 with
      | some _ => rfl
      | none => exact absurd rfl ((dictLookup_none_iff ha hk).1 hl p hp)
    cases hl : dictLookup lb p.1 with
    | none => rw [hl] at hsome; cases hsome
    | some v => exact List.mem_map.2 ⟨_, mem_of_dictLookup_some hb hk hl, rfl⟩
  exact (List.perm_ext_iff_of_nodup (nodup_keys_of_distinct d1) (nodup_keys_of_distinct d2)).2 fun a =>
    ⟨key h1 h2 h a, key h2 h1 (fun k hk => (h k hk).symm) a⟩

end Dict
end Atree

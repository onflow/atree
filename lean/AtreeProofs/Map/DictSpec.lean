import AtreeProofs.Map.Dict
/-
  The reference dictionary of C02's history theorem: an association list with the three textbook
  operations (`dictLookup` of MapInv.lean, `dictSet`, `dictErase`) and their laws.  Nothing here
  mentions slabs, digests or sizes.
-/
namespace Atree
open Gen

/-- bind `k` to `v`: overwrite the pair whose key equals `k` under the comparator, otherwise add a
    new pair at the end -/
def dictSet (l : List (MKey × Elem)) (k : MKey) (v : Elem) : List (MKey × Elem) :=
  if (dictLookup l k).isSome then l.map (fun p => if p.1.same k then (p.1, v) else p) else l ++ [(k, v)]

/-- drop the pair(s) whose key equals `k` under the comparator -/
def dictErase (l : List (MKey × Elem)) (k : MKey) : List (MKey × Elem) :=
  l.filter (fun p => !p.1.same k)

theorem dictLookup_append (A B : List (MKey × Elem)) (k : MKey) :
    dictLookup (A ++ B) k = (dictLookup A k).or (dictLookup B k) := by
  induction A with
  | nil => simp [dictLookup_nil]
  | cons p A ih =>
    rw [List.cons_append, dictLookup_cons, dictLookup_cons]
    cases p.1.same k <;> simp [ih]

theorem dictLookup_map_replace (l : List (MKey × Elem)) (k k' : MKey) (v : Elem) :
    dictLookup (l.map (fun p => if p.1.same k then (p.1, v) else p)) k' =
      if k'.same k then (dictLookup l k').map (fun _ => v) else dictLookup l k' := by
  induction l with
  | nil => simp [dictLookup_nil]
  | cons p l ih =>
    rw [List.map_cons, dictLookup_cons, dictLookup_cons, ih]
    cases hk : p.1.same k
    · simp only [Bool.false_eq_true, if_false]
      cases hk' : p.1.same k'
      · simp
      · simp only [if_true]
        have : k'.same k = false := by
          cases h : k'.same k
          · rfl
          · have := MKey.same_trans hk' h; rw [hk] at this; cases this
        simp [this]
    · simp only [if_true]
      cases hk' : p.1.same k'
      · simp
      · have : k'.same k = true := MKey.same_trans (by rw [MKey.same_comm]; exact hk') hk
        simp [this]

theorem dictLookup_dictSet (l : List (MKey × Elem)) (k k' : MKey) (v : Elem) :
    dictLookup (dictSet l k v) k' = if k'.same k then some v else dictLookup l k' := by
  unfold dictSet
  cases hl : dictLookup l k with
  | none =>
    simp only [Option.isSome_none, Bool.false_eq_true, if_false]
    rw [dictLookup_append, dictLookup_cons, dictLookup_nil]
    cases hs : k'.same k
    · have : k.same k' = false := by rw [MKey.same_comm]; exact hs
      simp [this]
    · have h1 : k.same k' = true := by rw [MKey.same_comm]; exact hs
      have h2 : dictLookup l k' = none := by
        unfold dictLookup at hl ⊢
        rw [Option.map_eq_none_iff, List.find?_eq_none] at hl ⊢
        intro p hp
        rw [MKey.same_congr_right hs]
        exact hl p hp
      simp [h1, h2]
  | some w =>
    simp only [Option.isSome_some, if_true]
    rw [dictLookup_map_replace]
    cases hs : k'.same k
    · simp
    · simp only [if_true]
      have : dictLookup l k' = some w := by
        unfold dictLookup at hl ⊢
        have : (fun p : MKey × Elem => p.1.same k') = (fun p => p.1.same k) := by
          funext p; exact MKey.same_congr_right hs
        rw [this]; exact hl
      rw [this]; rfl

theorem length_dictSet (l : List (MKey × Elem)) (k : MKey) (v : Elem) :
    (dictSet l k v).length = if (dictLookup l k).isSome then l.length else l.length + 1 := by
  unfold dictSet
  split <;> simp

theorem dictLookup_dictErase (l : List (MKey × Elem)) (k k' : MKey) :
    dictLookup (dictErase l k) k' = if k'.same k then none else dictLookup l k' := by
  unfold dictErase
  induction l with
  | nil => simp [dictLookup_nil]
  | cons p l ih =>
    rw [List.filter_cons]
    cases hk : p.1.same k
    · simp only [Bool.not_false, if_true]
      rw [dictLookup_cons, dictLookup_cons, ih]
      cases hk' : p.1.same k'
      · simp
      · have : k'.same k = false := by
          cases h : k'.same k
          · rfl
          · have := MKey.same_trans hk' h; rw [hk] at this; cases this
        simp [this]
    · simp only [Bool.not_true, Bool.false_eq_true, if_false]
      rw [ih, dictLookup_cons]
      cases hk' : p.1.same k'
      · simp
      · have : k'.same k = true := MKey.same_trans (by rw [MKey.same_comm]; exact hk') hk
        simp [this]

theorem length_dictErase {l : List (MKey × Elem)} {k : MKey} {v : Elem} (hd : KeysDistinct l)
    (h : dictLookup l k = some v) : (dictErase l k).length + 1 = l.length := by
  unfold dictErase
  induction l with
  | nil => simp [dictLookup_nil] at h
  | cons p l ih =>
    rw [KeysDistinct.cons_iff] at hd
    rw [dictLookup_cons] at h
    rw [List.filter_cons]
    cases hk : p.1.same k
    · rw [hk] at h
      simp only [Bool.false_eq_true, if_false] at h
      simp only [Bool.not_false, if_true, List.length_cons]
      have := ih hd.2 h
      omega
    · simp only [Bool.not_true, Bool.false_eq_true, if_false, List.length_cons]
      have : l.filter (fun q => !q.1.same k) = l := by
        rw [List.filter_eq_self]
        intro q hq
        have h1 := hd.1 q hq
        have : q.1.same k = false := by
          cases h2 : q.1.same k
          · rfl
          · have := MKey.same_trans hk (by rw [MKey.same_comm]; exact h2)
            rw [h1] at this; cases this
        simp [this]
      rw [this]

section
variable {T L : Nat} {D : DigestFn L}

theorem allKeyOk_dictSet {l : List (MKey × Elem)} {k : MKey} {v : Elem} (hl : AllKeyOk T L D l)
    (hk : KeyOk T L D k) : AllKeyOk T L D (dictSet l k v) := by
  unfold dictSet
  split
  · intro p hp
    obtain ⟨q, hq, rfl⟩ := List.mem_map.mp hp
    split <;> exact hl q hq
  · intro p hp
    rcases List.mem_append.mp hp with hp | hp
    · exact hl p hp
    · simp only [List.mem_singleton] at hp; subst hp; exact hk

theorem keysDistinct_dictSet {l : List (MKey × Elem)} {k : MKey} {v : Elem} (hd : KeysDistinct l) :
    KeysDistinct (dictSet l k v) := by
  unfold dictSet
  split
  · unfold KeysDistinct at hd ⊢
    rw [List.pairwise_map]
    refine hd.imp ?_
    intro a b hab
    split <;> split <;> exact hab
  · rename_i hno
    rw [KeysDistinct.append_iff]
    refine ⟨hd, List.pairwise_singleton _ _, ?_⟩
    intro a ha b hb
    simp only [List.mem_singleton] at hb; subst hb
    simp only [Option.not_isSome_iff_eq_none] at hno
    unfold dictLookup at hno
    rw [Option.map_eq_none_iff, List.find?_eq_none] at hno
    simpa using hno a ha

theorem allKeyOk_dictErase {l : List (MKey × Elem)} {k : MKey} (hl : AllKeyOk T L D l) :
    AllKeyOk T L D (dictErase l k) := fun p hp => hl p (List.mem_filter.mp hp).1

theorem keysDistinct_dictErase {l : List (MKey × Elem)} {k : MKey} (hd : KeysDistinct l) :
    KeysDistinct (dictErase l k) := List.Pairwise.filter _ hd

end

end Atree

import AtreeProofs.Map.EffectsElems
import AtreeProofs.Account.OwnerLists
import AtreeProofs.ListAt
import AtreeProofs.MapHeapSpec
/-
  First level of a data slab (C09): the group slabs `grp` of its entries (`MDataSlab.groupSlabs` of
  MapHeapSpec.lean is their list: `groupSlabs_eq`), the account of
  `hkeyElements.Set / Remove` at level 0 over them (`set0_acct`, `remove0_acct`), and `OpsPop`:
  what `popIter` does to the context, exactly.
-/
namespace Atree
open Gen

section grp
variable {α : Type}

/-- the external collision-group slabs referenced from a list of elements -/
def grp (l : List (MElemF α)) : List (SlabID × GroupSlab α) :=
  l.filterMap (fun el => match el with | .ext id _ s => some (id, s) | _ => none)

theorem grp_append (A B : List (MElemF α)) : grp (A ++ B) = grp A ++ grp B := by
  simp [grp, List.filterMap_append]

@[simp] theorem grp_nil : grp ([] : List (MElemF α)) = [] := rfl
theorem grp_cons_single (x : SElem) (l : List (MElemF α)) : grp (.single x :: l) = grp l := by simp [grp]
theorem grp_cons_inl (g : α) (l : List (MElemF α)) : grp (.inl g :: l) = grp l := by simp [grp]
theorem grp_cons_ext (id : SlabID) (sz : Nat) (s : GroupSlab α) (l : List (MElemF α)) :
    grp (.ext id sz s :: l) = (id, s) :: grp l := by simp [grp]

theorem grp_insertIdx_single (l : List (MElemF α)) (x : SElem) : ∀ idx, grp (l.insertIdx idx (.single x)) = grp l := by
  induction l with
  | nil =>
    intro idx
    cases idx with
    | zero => simp [grp]
    | succ n => simp [grp]
  | cons e l ih =>
    intro idx
    cases idx with
    | zero => rw [List.insertIdx_zero, grp_cons_single]
    | succ n =>
      rw [List.insertIdx_succ_cons]
      have := ih n
      simp only [grp, List.filterMap_cons] at this ⊢
      rw [this]

/-- an entry that is no external group contributes no group slab -/
theorem grp_mid_noExt (A B : List (MElemF α)) (el : MElemF α) (h : ElP (fun _ => True) el) :
    grp (A ++ el :: B) = grp A ++ grp B := by
  rw [grp_append]
  cases el with
  | single x => rw [grp_cons_single]
  | inl g => rw [grp_cons_inl]
  | ext _ _ _ => exact absurd h (by simp [ElP])

theorem grp_mid_ext (A B : List (MElemF α)) (id : SlabID) (sz : Nat) (s : GroupSlab α) :
    grp (A ++ .ext id sz s :: B) = grp A ++ (id, s) :: grp B := by
  rw [grp_append, grp_cons_ext]

theorem groupSlabs_eq {r : Nat} (s : MDataSlab r) :
    s.groupSlabs = (grp s.elems.elems).map (fun p => (p.1, MSlabView.group p.2)) := by
  simp only [MDataSlab.groupSlabs, grp, List.map_filterMap]
  congr 1
  funext el
  cases el <;> rfl

/-- an element of the first level: as `ElP P`, except that it may be an external group, whose slab
    then carries the element's ID and whose `elements` satisfy `P` -/
def FirstOk (P : α → Prop) : MElemF α → Prop
  | .single _ => True
  | .inl g => P g
  | .ext id _ s => s.hdr.id = id ∧ P s.elems

end grp

section level0
variable {α : Type} {o : ElemsOps α} {cfg : MCfg} {P : α → Prop}

theorem set0_acct (hE : OpsEff cfg o P) {he : HkeyElems α} (hF : ∀ el ∈ he.elems, FirstOk P el)
    {k : MKey} {v : Elem} {c : Ctx} {res : MKey × Option Elem × HkeyElems α × Ctx}
    (hnd : (AList.keys (grp he.elems)).Nodup)
    (hold : ∀ id ∈ AList.keys (grp he.elems), Old cfg.addr c.ctr id)
    (h : HkeyElems.set o cfg he 0 k v c = .ok res) :
    ∃ E C, MLog cfg.addr c res.2.2.2 E C ∧
      MAcct cfg.addr c.ctr res.2.2.2.ctr (grp he.elems) (grp res.2.2.1.elems) E (C.map (·.1)) := by
  rcases HkeyElems.set_inv h with ⟨idx, _, hres⟩ | ⟨i, el, el', hel, hs, he'⟩
  · have hv := insertNew_valStep cfg he idx (k.dig 0) k v c
    obtain ⟨E, C, hl, ha⟩ := hv.acct
    have hg : grp res.2.2.1.elems = grp he.elems := by
      rw [hres]; simp only [HkeyElems.insertNew]; exact grp_insertIdx_single _ _ _
    rw [hg, hres]
    exact ⟨E, C, hl, ha _ _⟩
  · obtain ⟨A, B, hAB, hlen⟩ := split_at hel
    have hFel := hF el (List.mem_of_getElem? hel)
    rw [he', hAB, set_at hlen]
    rw [hAB] at hnd hold
    -- the value step, then the call for the group of this element, if any
    rcases MElemF.set_cases hs with ⟨x, rfl, _, _, _, hc, rfl⟩ | ⟨g, hg, hin⟩ |
        ⟨id, sz, s, g', c1, rfl, hset, rfl, hc⟩
    · obtain ⟨E, C, hl, ha⟩ := (hc ▸ toStorableLim_valStep _ cfg.addr v c : ValStep cfg.addr c res.2.2.2).acct
      rw [grp_mid_noExt _ _ (.single x) trivial, grp_mid_noExt _ _ (.single _) trivial]
      exact ⟨E, C, hl, ha _ _⟩
    · have hPg : P g ∧ ElP (fun _ => True) el := by
        rcases hg with rfl | ⟨x, rfl, _, hn⟩
        · exact ⟨hFel, trivial⟩
        · exact ⟨hE.newWith hn, trivial⟩
      obtain ⟨g', c1, hset, hcase⟩ := MElemF.inlSet_cases hin
      have hv := hE.set hPg.1 (Nat.le_refl 1) hset
      rw [grp_mid_noExt A B el hPg.2] at hnd hold ⊢
      rcases hcase with ⟨_, rfl, hc⟩ | ⟨_, _, rfl, hc⟩
      · obtain ⟨E, C, hl, ha⟩ := (hc ▸ hv : ValStep cfg.addr c res.2.2.2).acct
        rw [grp_mid_noExt _ _ (.inl g') trivial]
        exact ⟨E, C, hl, ha _ _⟩
      · rw [grp_mid_ext, hc]
        refine hv.then_acct (E2 := [.alloc cfg.addr ⟨cfg.addr, c1.ctr + 1⟩, .store ⟨cfg.addr, c1.ctr + 1⟩])
          ?_ (by rw [← grp_append] at hold ⊢; exact hold) ?_
        · have := (MLog.alloc cfg.addr c1).trans (MLog.store cfg.addr (c1.alloc cfg.addr).2 (c1.alloc cfg.addr).1)
          simpa [Ctx.alloc, GEv.run] using this
        · intro hold1
          have := MAcct.add (a := cfg.addr) (c := c1.ctr) (grp A) (grp B)
            (⟨⟨(c1.alloc cfg.addr).1, mapDataSlabPrefixSize + o.size g', o.firstKey g'⟩, g'⟩ : GroupSlab α) hold1
          simpa [Ctx.alloc, Ctx.emit, GEv.run] using this
    · have hid : s.hdr.id = id := hFel.1
      have hv := hE.set hFel.2 (Nat.le_refl 1) hset
      rw [grp_mid_ext] at hnd hold ⊢
      rw [grp_mid_ext, hc, hid]
      refine hv.then_acct (E2 := [.store id]) (MLog.store _ _ _) hold ?_
      intro hold1
      exact MAcct.replace (grp A) (grp B) id s _ hnd hold1

theorem remove0_acct (hE : OpsEff cfg o P) {he : HkeyElems α} (hF : ∀ el ∈ he.elems, FirstOk P el)
    {k : MKey} {c : Ctx} {res : MKey × Elem × HkeyElems α × Ctx}
    (hnd : (AList.keys (grp he.elems)).Nodup)
    (hold : ∀ id ∈ AList.keys (grp he.elems), Old cfg.addr c.ctr id)
    (h : HkeyElems.remove o cfg he 0 k c = .ok res) :
    ∃ E, MLog cfg.addr c res.2.2.2 E [] ∧
      MAcct cfg.addr c.ctr res.2.2.2.ctr (grp he.elems) (grp res.2.2.1.elems) E [] := by
  obtain ⟨i, el, el', hel, hr, he'⟩ := HkeyElems.remove_inv h
  obtain ⟨A, B, hAB, hlen⟩ := split_at hel
  have hFel := hF el (List.mem_of_getElem? hel)
  rw [he', hAB]
  rw [hAB] at hnd hold
  rcases MElemF.remove_cases hr with ⟨x, rfl, _, _, _, rfl, hc⟩ | ⟨g, g', rfl, hrem, hcase⟩ |
      ⟨id, sz, s, g', c1, rfl, hrem, hcase⟩
  · simp only
    rw [erase_at hlen, grp_mid_noExt _ _ (.single x) trivial, grp_append, hc]
    exact ⟨[], MLog.refl _ _, MAcct.refl _ _ _⟩
  · rw [hE.remove hFel hrem]
    rcases hcase with ⟨x, _, rfl⟩ | ⟨_, rfl⟩
    · simp only
      rw [set_at hlen, grp_mid_noExt _ _ (.inl g) trivial, grp_mid_noExt _ _ (.single x) trivial]
      exact ⟨[], MLog.refl _ _, MAcct.refl _ _ _⟩
    · simp only
      rw [set_at hlen, grp_mid_noExt _ _ (.inl g) trivial, grp_mid_noExt _ _ (.inl g') trivial]
      exact ⟨[], MLog.refl _ _, MAcct.refl _ _ _⟩
  · have hid : s.hdr.id = id := hFel.1
    have hc1 : c1 = c := hE.remove hFel.2 hrem
    subst hc1
    rw [grp_mid_ext] at hnd hold ⊢
    rcases hcase with ⟨x, _, rfl, hc⟩ | ⟨_, rfl, hc⟩
    · simp only
      rw [set_at hlen, grp_mid_noExt _ _ (.single x) trivial, hc, hid]
      refine ⟨[.store id, .remove id], ?_, ?_⟩
      · exact (MLog.store cfg.addr c1 id).trans (MLog.remove cfg.addr (c1.emit (.store id)) id)
      · exact MAcct.drop (grp A) (grp B) id s hnd hold
    · simp only
      rw [set_at hlen, grp_mid_ext, hc, hid]
      exact ⟨[.store id], MLog.store _ _ _, MAcct.replace (grp A) (grp B) id s _ hnd hold⟩

end level0

/-- the context after the slabs `ids` have been removed, in this order -/
def Ctx.removed (c : Ctx) (ids : List SlabID) : Ctx := ids.foldl (fun c id => c.emit (.remove id)) c

namespace Ctx

theorem removed_append (c : Ctx) (x y : List SlabID) : c.removed (x ++ y) = (c.removed x).removed y :=
  List.foldl_append ..

theorem removed_eff (c : Ctx) (ids : List SlabID) : (c.removed ids).eff = c.eff ++ ids.map Eff.remove := by
  induction ids generalizing c with
  | nil => exact (List.append_nil _).symm
  | cons id ids ih => exact (ih _).trans (List.append_assoc ..)

/-- a context that differs by the removal of exactly the slabs `ks`, as a log -/
theorem removed_log {c : Ctx} {ids ks : List SlabID} (m : ∀ id ∈ ks, id ∈ ids) (z : ∀ id ∈ ids, id ∈ ks) :
    ∃ E, (c.removed ids).eff = c.eff ++ E ∧ (∀ x ∈ E, ∃ i ∈ ks, x = Eff.remove i) ∧ ∀ id ∈ ks, Eff.remove id ∈ E := by
  refine ⟨ids.map Eff.remove, removed_eff c ids, fun x hx => ?_, fun id hid => List.mem_map_of_mem (m id hid)⟩
  obtain ⟨i, hi, rfl⟩ := List.mem_map.1 hx
  exact ⟨i, z i hi, rfl⟩

theorem removed_ctr (c : Ctx) (ids : List SlabID) : (c.removed ids).ctr = c.ctr := by
  induction ids generalizing c with
  | nil => rfl
  | cons id ids ih => exact ih _

theorem removed_created (c : Ctx) (ids : List SlabID) : (c.removed ids).created = c.created := by
  induction ids generalizing c with
  | nil => rfl
  | cons id ids ih => exact ih _

end Ctx

section pop
variable {α : Type} {o : ElemsOps α} {P : α → Prop}

/-- the context after `popIter`, exactly: slabs are removed and nothing else is done; on values
    satisfying `P` (no external group) nothing is done at all -/
def OpsPop (o : ElemsOps α) (P : α → Prop) : Prop :=
  ∀ e c, ∃ ids, (o.popIter e c).2 = c.removed ids ∧ (P e → ids = [])

theorem grp_of_elP {l : List (MElemF α)} (h : ∀ el ∈ l, ElP P el) : grp l = [] := by
  induction l with
  | nil => rfl
  | cons el l ih =>
    have hl := ih (fun x hx => h x (List.mem_cons_of_mem _ hx))
    cases el with
    | single x => rw [grp_cons_single, hl]
    | inl g => rw [grp_cons_inl, hl]
    | ext id sz s => exact absurd (h _ List.mem_cons_self) (by simp [ElP])

theorem FirstOk.of_elP {el : MElemF α} (h : ElP P el) : FirstOk P el := by
  cases el with
  | single x => trivial
  | inl g => exact h
  | ext id sz s => exact absurd h (by simp [ElP])

/-- an element removes what the groups inside it remove, then the slab of its own group; a
    first-level element (`FirstOk`) has nothing inside to remove -/
theorem MElemF.popIter_removed (ho : OpsPop o P) (el : MElemF α) (c : Ctx) :
    ∃ ids, (el.popIter o c).2 = c.removed ids ∧ (∀ id ∈ AList.keys (grp [el]), id ∈ ids) ∧
      (FirstOk P el → ids = AList.keys (grp [el])) := by
  cases el with
  | single x => exact ⟨[], rfl, fun _ h => h, fun _ => rfl⟩
  | inl g =>
    obtain ⟨ids, h, h0⟩ := ho g c
    exact ⟨ids, h, fun _ h => (List.not_mem_nil h).elim, fun hF => h0 hF⟩
  | ext id sz s =>
    obtain ⟨ids, h, h0⟩ := ho s.elems c
    refine ⟨ids ++ [id], ?_, fun j hj => ?_, fun hF => ?_⟩
    · rw [Ctx.removed_append, ← h]; rfl
    · exact List.mem_append_right _ hj
    · rw [h0 hF.2]; rfl

theorem HkeyElems.popIter_removed (ho : OpsPop o P) (e : HkeyElems α) (c : Ctx) :
    ∃ ids, (HkeyElems.popIter o e c).2 = c.removed ids ∧ (∀ id ∈ AList.keys (grp e.elems.reverse), id ∈ ids) ∧
      ((∀ el ∈ e.elems, FirstOk P el) → ids = AList.keys (grp e.elems.reverse)) := by
  have key : ∀ (l : List (MElemF α)) (acc : List (MKey × Elem) × Ctx), ∃ ids,
      (l.foldl (fun (acc : List (MKey × Elem) × Ctx) el => (acc.1 ++ (el.popIter o acc.2).1, (el.popIter o acc.2).2)) acc).2
        = acc.2.removed ids ∧ (∀ id ∈ AList.keys (grp l), id ∈ ids) ∧
      ((∀ el ∈ l, FirstOk P el) → ids = AList.keys (grp l)) := by
    intro l
    induction l with
    | nil => exact fun acc => ⟨[], rfl, fun _ h => h, fun _ => rfl⟩
    | cons el l ih =>
      intro acc
      obtain ⟨ids1, h1, m1, z1⟩ := MElemF.popIter_removed ho el acc.2
      obtain ⟨ids2, h2, m2, z2⟩ := ih (acc.1 ++ (el.popIter o acc.2).1, (el.popIter o acc.2).2)
      have hg : AList.keys (grp (el :: l)) = AList.keys (grp [el]) ++ AList.keys (grp l) := by
        rw [← AList.keys_append, ← grp_append]; rfl
      refine ⟨ids1 ++ ids2, ?_, fun id hid => ?_, fun h => ?_⟩
      · rw [List.foldl_cons, h2, Ctx.removed_append, ← h1]
      · rw [hg] at hid
        exact (List.mem_append.1 hid).elim (fun h => List.mem_append_left _ (m1 id h))
          (fun h => List.mem_append_right _ (m2 id h))
      · rw [hg, z1 (h el List.mem_cons_self), z2 (fun x hx => h x (List.mem_cons_of_mem _ hx))]
  obtain ⟨ids, h1, m, z⟩ := key e.elems.reverse ([], c)
  exact ⟨ids, h1, m, fun h => z (fun el hel => h el (List.mem_reverse.1 hel))⟩

theorem HkeyElems.opsPop (ho : OpsPop o P) : OpsPop (HkeyElems.ops o) (HP P) := by
  intro e c
  obtain ⟨ids, h, _, z⟩ := HkeyElems.popIter_removed ho e c
  refine ⟨ids, h, fun hP => ?_⟩
  rw [z (fun el hel => FirstOk.of_elP (hP el hel)),
    grp_of_elP (P := P) (fun el hel => hP el (List.mem_reverse.1 hel))]; rfl

theorem MElems.opsPop : ∀ r, OpsPop (MElems.ops r) (NoExt r)
  | 0 => fun _ _ => ⟨[], rfl, fun _ => rfl⟩
  | r + 1 => HkeyElems.opsPop (MElems.opsPop r)

end pop

end Atree

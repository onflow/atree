import AtreeProofs.Storable
import AtreeProofs.Map.HkeySpec
/-
  What `set` / `remove` of an `elements` value do to the storage context, exactly and at every
  digest level (`OpsCtx`, `MElems.opsCtx`; from the paths of `Map/Paths.lean`), and its reading
  where there is no external group (`OpsEff`, C09).
-/
namespace Atree
open Gen

theorem newSingleElement_valStep (T a : Nat) (k : MKey) (v : Elem) (c : Ctx) :
    ValStep a c (newSingleElement T a k v c).2 := by
  simp only [newSingleElement]
  exact toStorableLim_valStep _ a v c

/-- the element is no external group, and the inline group in it (if it is one) satisfies `P` -/
def ElP {α : Type} (P : α → Prop) : MElemF α → Prop
  | .single _ => True
  | .inl g => P g
  | .ext _ _ _ => False

/-- no entry of the table is an external group, and the inline groups in it satisfy `P` -/
def HP {α : Type} (P : α → Prop) (he : HkeyElems α) : Prop := ∀ el ∈ he.elems, ElP P el

theorem insertNew_valStep {α : Type} (cfg : MCfg) (e : HkeyElems α) (idx hk : Nat) (k : MKey) (v : Elem) (c : Ctx) :
    ValStep cfg.addr c (HkeyElems.insertNew cfg e idx hk k v c).2.2.2 := by
  simp only [HkeyElems.insertNew]
  exact newSingleElement_valStep _ _ _ _ _

def Ctx.after (a : Nat) (c : Ctx) (evs : List GEv) : Ctx := evs.foldl (GEv.run a) c

theorem Ctx.after_append (a : Nat) (c : Ctx) (x y : List GEv) :
    c.after a (x ++ y) = (c.after a x).after a y := List.foldl_append ..

theorem Ctx.after_snoc (a : Nat) (c : Ctx) (evs : List GEv) (ev : GEv) :
    c.after a (evs ++ [ev]) = GEv.run a (c.after a evs) ev := Ctx.after_append ..

/-- what holds of the context before the group calls and is kept by each of them holds after -/
theorem Ctx.after_induction {a : Nat} {R : Ctx → Prop} {c : Ctx} {evs : List GEv} (h0 : R c)
    (hs : ∀ c, ∀ ev ∈ evs, R c → R (GEv.run a c ev)) : R (c.after a evs) := by
  induction evs generalizing c with
  | nil => exact h0
  | cons ev evs ih =>
    exact ih (hs c ev List.mem_cons_self h0) (fun c ev' h => hs c ev' (List.mem_cons_of_mem _ h))

/-- the context after an `elements` operation, exactly: `set` leaves the context of `Value.Storable`
    followed by the calls for the external groups on the path, `remove` those calls alone; on values
    satisfying `P` below the first level there are none. -/
structure OpsCtx (cfg : MCfg) {α : Type} (o : ElemsOps α) (P : α → Prop) : Prop where
  set : ∀ {e : α} {ℓ : Nat} {k : MKey} {v : Elem} {c : Ctx} {ks : MKey} {old : Option Elem} {e' : α} {c' : Ctx},
    o.set cfg e ℓ k v c = .ok (ks, old, e', c') →
      ∃ evs, c' = (storeCtx cfg k v c).after cfg.addr evs ∧ (P e → 1 ≤ ℓ → evs = [])
  remove : ∀ {e : α} {ℓ : Nat} {k : MKey} {c : Ctx} {rk : MKey} {rv : Elem} {e' : α} {c' : Ctx},
    o.remove cfg e ℓ k c = .ok (rk, rv, e', c') → ∃ evs, c' = c.after cfg.addr evs ∧ (P e → evs = [])
  newWith : ∀ {ℓ : Nat} {x : SElem} {g : α}, o.newWith cfg ℓ x = .ok g → P g

/-- below the first level the operations of `o` on values satisfying `P` only create large-value
    slabs (`set`) or leave storage alone (`remove`) -/
structure OpsEff (cfg : MCfg) {α : Type} (o : ElemsOps α) (P : α → Prop) : Prop where
  set : ∀ {e : α} {ℓ : Nat} {k : MKey} {v : Elem} {c : Ctx} {ks : MKey} {old : Option Elem} {e' : α} {c' : Ctx},
    P e → 1 ≤ ℓ → o.set cfg e ℓ k v c = .ok (ks, old, e', c') → ValStep cfg.addr c c'
  remove : ∀ {e : α} {ℓ : Nat} {k : MKey} {c : Ctx} {rk : MKey} {rv : Elem} {e' : α} {c' : Ctx},
    P e → o.remove cfg e ℓ k c = .ok (rk, rv, e', c') → c' = c
  newWith : ∀ {ℓ : Nat} {x : SElem} {g : α}, o.newWith cfg ℓ x = .ok g → P g

namespace OpsCtx
variable {cfg : MCfg} {α : Type} {o : ElemsOps α} {P : α → Prop}

theorem set_eq (hC : OpsCtx cfg o P) {e : α} {ℓ : Nat} {k : MKey} {v : Elem} {c : Ctx} {ks : MKey}
    {old : Option Elem} {e' : α} {c' : Ctx} (hP : P e) (h1 : 1 ≤ ℓ)
    (h : o.set cfg e ℓ k v c = .ok (ks, old, e', c')) : c' = storeCtx cfg k v c := by
  obtain ⟨evs, rfl, h0⟩ := hC.set h
  rw [h0 hP h1]; rfl

theorem remove_eq (hC : OpsCtx cfg o P) {e : α} {ℓ : Nat} {k : MKey} {c : Ctx} {rk : MKey} {rv : Elem}
    {e' : α} {c' : Ctx} (hP : P e) (h : o.remove cfg e ℓ k c = .ok (rk, rv, e', c')) : c' = c := by
  obtain ⟨evs, rfl, h0⟩ := hC.remove h
  rw [h0 hP]; rfl

/-- `OpsEff` is what `OpsCtx` says where there is no external group -/
theorem eff (hC : OpsCtx cfg o P) : OpsEff cfg o P where
  set := fun hP h1 h => hC.set_eq hP h1 h ▸ toStorableLim_valStep _ _ _ _
  remove := fun hP h => hC.remove_eq hP h
  newWith := hC.newWith

end OpsCtx

theorem SingleElems.opsCtx (cfg : MCfg) : OpsCtx cfg SingleElems.ops (fun _ => True) where
  set := by
    intro e ℓ k v c ks old e' c' h
    rcases SingleElems.set_cases (show SingleElems.set cfg e ℓ k v c = .ok (ks, old, e', c') from h) with
      ⟨_, _, _, _, _, _, _, rfl⟩ | ⟨_, _, _, rfl⟩ <;> exact ⟨[], rfl, fun _ _ => rfl⟩
  remove := by
    intro e ℓ k c rk rv e' c' h
    obtain ⟨_, _, _, _, _, _, _, rfl⟩ :=
      SingleElems.remove_cases (show SingleElems.remove cfg e ℓ k c = .ok (rk, rv, e', c') from h)
    exact ⟨[], rfl, fun _ => rfl⟩
  newWith := by intros; trivial

section level
variable {α : Type} {o : ElemsOps α} {cfg : MCfg} {P : α → Prop}

theorem MElemF.set_ctx (hC : OpsCtx cfg o P) {el : MElemF α} {ℓ : Nat} {k : MKey} {v : Elem} {c : Ctx}
    {el' : MElemF α} {ks : MKey} {old : Option Elem} {c' : Ctx}
    (h : el.set o cfg ℓ k v c = .ok (el', ks, old, c')) :
    ∃ evs, c' = (storeCtx cfg k v c).after cfg.addr evs ∧ (ElP P el → 1 ≤ ℓ → evs = []) := by
  rcases MElemF.set_cases h with ⟨x, _, _, _, _, rfl, _⟩ | ⟨g, hg, hin⟩ | ⟨id, sz, s, g', c1, rfl, hset, _, rfl⟩
  · exact ⟨[], rfl, fun _ _ => rfl⟩
  · obtain ⟨g', c1, hset, hcase⟩ := MElemF.inlSet_cases hin
    obtain ⟨evs, rfl, hevs⟩ := hC.set hset
    have hPg : ElP P el → P g := by
      rcases hg with rfl | ⟨x, _, _, hn⟩
      · exact id
      · exact fun _ => hC.newWith hn
    rcases hcase with ⟨_, _, rfl⟩ | ⟨h0, _, _, rfl⟩
    · exact ⟨evs, rfl, fun hP _ => hevs (hPg hP) (Nat.le_add_left 1 ℓ)⟩
    · exact ⟨evs ++ [.export], (Ctx.after_snoc ..).symm, fun _ h1 => absurd h0 (by omega)⟩
  · obtain ⟨evs, rfl, _⟩ := hC.set hset
    exact ⟨evs ++ [.store s.hdr.id], (Ctx.after_snoc ..).symm, fun hP => absurd hP (by simp [ElP])⟩

theorem MElemF.remove_ctx (hC : OpsCtx cfg o P) {el : MElemF α} {ℓ : Nat} {k : MKey} {c : Ctx} {rk : MKey}
    {rv : Elem} {el' : Option (MElemF α)} {c' : Ctx} (h : el.remove o cfg ℓ k c = .ok (rk, rv, el', c')) :
    ∃ evs, c' = c.after cfg.addr evs ∧ (ElP P el → evs = []) := by
  rcases MElemF.remove_cases h with ⟨x, _, _, _, _, _, rfl⟩ | ⟨g, g', rfl, hrem, _⟩ |
    ⟨id, sz, s, g', c1, rfl, hrem, hcase⟩
  · exact ⟨[], rfl, fun _ => rfl⟩
  · exact hC.remove hrem
  · obtain ⟨evs, rfl, _⟩ := hC.remove hrem
    rcases hcase with ⟨_, _, _, rfl⟩ | ⟨_, _, rfl⟩
    · exact ⟨evs ++ [.store s.hdr.id] ++ [.drop id], by rw [Ctx.after_snoc, Ctx.after_snoc],
        fun hP => absurd hP (by simp [ElP])⟩
    · exact ⟨evs ++ [.store s.hdr.id], (Ctx.after_snoc ..).symm, fun hP => absurd hP (by simp [ElP])⟩

theorem HkeyElems.opsCtx (hC : OpsCtx cfg o P) : OpsCtx cfg (HkeyElems.ops o) (HP P) where
  set := by
    intro e ℓ k v c ks old e' c' h
    rcases HkeyElems.set_inv (o := o) h with ⟨idx, _, hres⟩ | ⟨i, el, el', hel, hs, _⟩
    · exact ⟨[], congrArg (·.2.2.2) hres, fun _ _ => rfl⟩
    · obtain ⟨evs, h1, h2⟩ := MElemF.set_ctx hC hs
      exact ⟨evs, h1, fun hP => h2 (hP el (List.mem_of_getElem? hel))⟩
  remove := by
    intro e ℓ k c rk rv e' c' h
    obtain ⟨i, el, el', hel, hr, _⟩ := HkeyElems.remove_inv (o := o) h
    obtain ⟨evs, h1, h2⟩ := MElemF.remove_ctx hC hr
    exact ⟨evs, h1, fun hP => h2 (hP el (List.mem_of_getElem? hel))⟩
  newWith := by
    intro ℓ x g h
    simp only [HkeyElems.ops] at h
    split at h
    · cases h
    · cases h
      intro el hel
      simp only [List.mem_singleton] at hel
      subst hel
      trivial

end level

/-- no external group anywhere -/
def NoExt : (r : Nat) → MElems r → Prop
  | 0, _ => True
  | r + 1, (he : HkeyElems (MElems r)) => HP (NoExt r) he

theorem MElems.opsCtx (cfg : MCfg) : ∀ r, OpsCtx cfg (MElems.ops r) (NoExt r)
  | 0 => SingleElems.opsCtx cfg
  | r + 1 => HkeyElems.opsCtx (MElems.opsCtx cfg r)

theorem MElems.opsEff (cfg : MCfg) (r : Nat) : OpsEff cfg (MElems.ops r) (NoExt r) := (MElems.opsCtx cfg r).eff

/-- below the first level there are no external groups -/
theorem noExt_of_inv {T L : Nat} {D : DigestFn L} : ∀ (r ℓ : Nat) (path : List Nat) (e : MElems r),
    ElemsInv T L D r ℓ path e → 1 ≤ ℓ → NoExt r e
  | 0, _, _, _, _, _ => trivial
  | r + 1, ℓ, path, he, h, hℓ => by
    intro el hmem
    obtain ⟨hk, this⟩ := ((elemsInv_succ_iff T L D r ℓ path he).mp h).elemOk_of_mem hmem
    cases el with
    | single x => trivial
    | inl g => exact noExt_of_inv r (ℓ + 1) _ g this.1 (by omega)
    | ext id sz s => exact absurd this.1 (by omega)

end Atree

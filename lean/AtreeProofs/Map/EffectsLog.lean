import AtreeProofs.Map.EffectsTop
/-
  Effect-log accounting for maps (C09): the allocations made by `OMap.set` (all for the owner
  address, with indices above the old counter) WITHOUT assuming distinct slab IDs.  Used for
  `allocated_ids_fresh`.
-/
namespace Atree
open Gen

variable {r : Nat} {T : Nat} {D : DigestFn (r + 1)}

/-- the log was extended; every allocation in the extension is for the address `a`, above the old
    counter and at most the new one -/
def ALog (a : Nat) (c c' : Ctx) : Prop :=
  c.ctr ≤ c'.ctr ∧ ∃ E, c'.eff = c.eff ++ E ∧
    ∀ ad id, Eff.alloc ad id ∈ E → id.addr = a ∧ c.ctr < id.idx ∧ id.idx ≤ c'.ctr

namespace ALog

theorem of_mlog {a : Nat} {c c' : Ctx} {E : List Eff} {C : List (SlabID × Elem)} (h : MLog a c c' E C) :
    ALog a c c' :=
  ⟨h.ctr_le, E, h.eff, fun ad id hm => ⟨h.addr ad id hm, h.allocs ad id hm⟩⟩

theorem refl (a : Nat) (c : Ctx) : ALog a c c := of_mlog (MLog.refl a c)

theorem trans {a : Nat} {c c1 c2 : Ctx} (h1 : ALog a c c1) (h2 : ALog a c1 c2) : ALog a c c2 := by
  obtain ⟨l1, E1, e1, a1⟩ := h1
  obtain ⟨l2, E2, e2, a2⟩ := h2
  refine ⟨Nat.le_trans l1 l2, E1 ++ E2, by rw [e2, e1, List.append_assoc], ?_⟩
  intro ad id hm
  rcases List.mem_append.1 hm with h | h
  · obtain ⟨x, y, z⟩ := a1 ad id h; exact ⟨x, y, by omega⟩
  · obtain ⟨x, y, z⟩ := a2 ad id h; exact ⟨x, by omega, z⟩

theorem store (a : Nat) (c : Ctx) (i : SlabID) : ALog a c (c.emit (.store i)) := of_mlog (MLog.store a c i)
theorem remove (a : Nat) (c : Ctx) (i : SlabID) : ALog a c (c.emit (.remove i)) := of_mlog (MLog.remove a c i)
theorem alloc (a : Nat) (c : Ctx) : ALog a c (c.alloc a).2 := of_mlog (MLog.alloc a c)

theorem store3 (a : Nat) (c : Ctx) (i1 i2 i3 : SlabID) :
    ALog a c (((c.emit (.store i1)).emit (.store i2)).emit (.store i3)) := of_mlog (MLog.store3 a c i1 i2 i3)

end ALog

theorem ValStep.alog {a : Nat} {c c' : Ctx} (h : ValStep a c c') : ALog a c c' := by
  obtain ⟨E, C, hl, _⟩ := h.acct
  exact ALog.of_mlog hl

theorem GEv.run_alog (a : Nat) (c : Ctx) (ev : GEv) : ALog a c (GEv.run a c ev) := by
  cases ev
  · exact ALog.store a c _
  · exact ALog.remove a c _
  · exact (ALog.alloc a c).trans (ALog.store a _ _)

theorem MElems.set_alog {cfg : MCfg} {r : Nat} {g g' : MElems r} {ℓ : Nat} {k ks : MKey} {v : Elem}
    {old : Option Elem} {c c' : Ctx} (h : (MElems.ops r).set cfg g ℓ k v c = .ok (ks, old, g', c')) :
    ALog cfg.addr c c' := by
  obtain ⟨evs, rfl, _⟩ := (MElems.opsCtx cfg r).set h
  exact Ctx.after_induction (R := ALog cfg.addr c) (toStorableLim_valStep _ _ _ _).alog
    (fun c1 ev _ h1 => h1.trans (GEv.run_alog _ c1 ev))

theorem mdata_set_alog {cfg : MCfg} (s s' : MDataSlab r) {k : MKey} {v : Elem} {c c' : Ctx} {ks : MKey}
    {old : Option Elem} (h : s.set cfg k v c = .ok (ks, old, s', c')) :
    s'.hdr.id = s.hdr.id ∧ ALog cfg.addr c c' := by
  obtain ⟨e, c1, hset, rfl, rfl⟩ := MDataSlab.set_ok_iff.1 h
  refine ⟨rfl, ?_⟩
  have h1 := MElems.set_alog (r := r + 1) hset
  simp only [MDataSlab.storeIfNotInlined]
  split
  · exact h1
  · exact h1.trans (ALog.store _ _ _)

theorem afterChild_alog {a : Nat} {d : Nat} {m m2 : MMetaSlab (MTree r d)} {child child' : MTree r d} {k : Nat}
    {c c2 : Ctx} (hchild : m.children[k]? = some child) (haddr : (MTree.hdr d child').id.addr = a)
    (h : m.afterChild T child' k c = .ok (m2, c2)) : ALog a c c2 := by
  obtain ⟨A, B, hch, hk⟩ := split_at hchild
  obtain ⟨E, hrep, he, -, hcr⟩ := afterChild_repair hch hk haddr h
  exact .of_mlog (hrep.plog rfl he hcr).toMLog

theorem mset_hdr_id {cfg : MCfg} {k : MKey} {v : Elem} {ks : MKey} {old : Option Elem} {c : Ctx}
    (d : Nat) (t t' : MTree r d) (c' : Ctx) (h : MTree.set cfg d t k v c = .ok (ks, old, t', c')) :
    (MTree.hdr d t').id = (MTree.hdr d t).id :=
  MTree.set_induction (P := fun d t _ t' _ => (MTree.hdr d t').id = (MTree.hdr d t).id)
    (fun s s' _ _ h => by
      obtain ⟨e, c1, -, rfl, -⟩ := MDataSlab.set_ok_iff.1 h
      rfl)
    (fun _ _ _ _ _ _ _ _ _ hchild _ _ ha => (afterChild_plain hchild ha).1) d t t' c c' h

theorem child_inv_addr {d : Nat} {a : Nat} {top : Bool} {m : MMetaSlab (MTree r d)} {i : Nat} {child : MTree r d}
    (hinv : MTreeInv T D (d + 1) top m) (haddr : m.hdr.id.addr = a) (hchild : m.children[i]? = some child) :
    MTreeInv T D d false child ∧ (MTree.hdr d child).id.addr = a := by
  have hm := ((mtreeInv_succ_iff T D d top m).mp hinv).1
  have hmem : child ∈ m.children := List.mem_of_getElem? hchild
  exact ⟨hm.kid_inv child hmem, by rw [hm.kid_addr child hmem]; exact haddr⟩

theorem mset_alog {cfg : MCfg} {k : MKey} {v : Elem} {ks : MKey} {old : Option Elem} {c : Ctx}
    (d : Nat) (t t' : MTree r d) (top : Bool) (c' : Ctx) (hinv : MTreeInv T D d top t)
    (haddr : (MTree.hdr d t).id.addr = cfg.addr) (h : MTree.set cfg d t k v c = .ok (ks, old, t', c')) :
    ALog cfg.addr c c' :=
  MTree.set_induction
    (P := fun d t c _ c' => ∀ top, MTreeInv T D d top t → (MTree.hdr d t).id.addr = cfg.addr → ALog cfg.addr c c')
    (fun s s' _ _ h top hinv _ =>
      (mdata_set_alog s s' h).2)
    (fun d _ _ _ child child' _ c1 _ hchild hs ih ha top hinv haddr => by
      obtain ⟨hci, hcaddr⟩ := child_inv_addr hinv haddr hchild
      exact (ih false hci hcaddr).trans
        (afterChild_alog hchild (by rw [mset_hdr_id d child child' c1 hs]; exact hcaddr) ha))
    d t t' c c' h top hinv haddr

/-- the root fix-up allocates only in a split of the root: two identifiers for the root's address -/
theorem rootfix_alog {a T' : Nat} {m m3 : OMap r} {c1 c3 : Ctx} (haddr : m.rootID.addr = a)
    (h : m.rootFix T' c1 = .ok (m3, c3)) : ALog a c1 c3 := by
  unfold OMap.rootFix at h
  have hp : ALog a c1 (m.promoteIfSingleChild c1).2 ∧ (m.promoteIfSingleChild c1).1.rootID = m.rootID := by
    rcases OMap.promote_cases m c1 with hp | ⟨d, x, ty, cnt, seed, hd, child, rfl, -, -, hp⟩
    · rw [hp]; exact ⟨ALog.refl a c1, rfl⟩
    · rw [hp]; exact ⟨(ALog.store a c1 _).trans (ALog.remove a _ _), hdr_enroot d child x.hdr.id⟩
  generalize m.promoteIfSingleChild c1 = p at h hp
  obtain ⟨⟨d, root, ty, cnt, seed⟩, c2⟩ := p
  rcases OMap.splitRootIfFull_cases h with hsp | ⟨-, rfl⟩
  · obtain ⟨l, rr, c4, hs, -, rfl⟩ := splitRoot_inv d root ty cnt seed c2 hsp
    rw [show (MTree.hdr d root).id.addr = a from (congrArg SlabID.addr hp.2).trans haddr] at hs
    obtain ⟨-, -, -, hc4⟩ := msplit_struct _ _ _ l rr c4 hs
    rw [hdr_deroot] at hc4
    subst hc4
    exact hp.1.trans (((ALog.alloc a _).trans (ALog.alloc a _)).trans (ALog.store3 a _ _ _ _))
  · exact hp.1

theorem omap_set_alog {cfg : MCfg} {m : OMap r} (hcfg : CfgOk cfg T m) (h : MapInv T D m) {k : MKey} {v : Elem}
    {c : Ctx} {old : Option Elem} {m' : OMap r} {c' : Ctx}
    (hr : m.set cfg k v c = .ok (old, m', c')) : ALog m.addr c c' := by
  have haddr : m.addr = cfg.addr := hcfg.2.2.symm
  rw [haddr]
  obtain ⟨ks, root', c1, h1, hfix⟩ := OMap.set_ok_iff.1 hr
  refine (mset_alog m.d m.root root' true c1 h.tree haddr h1).trans (rootfix_alog ?_ hfix)
  show (MTree.hdr m.d root').id.addr = cfg.addr
  rw [mset_hdr_id m.d m.root root' c1 h1]
  exact haddr

end Atree

import AtreeProofs.Map.EffectsTree
import AtreeProofs.Map.MapOps
/-
  Effect-log accounting for maps (C09), top layer: the root fix-up (`rootfix_acct`, on
  `OMap.promote_cases` / `splitRootIfFull_cases`), `OMap.set` and `OMap.remove` (the account of the
  descent, then `omap_fix_acct`), `OMap.popIterate`, and the passage from accounts to
  `MEffectsComplete`.
-/
namespace Atree
open Gen

variable {r : Nat} {T : Nat} {D : DigestFn (r + 1)}

theorem msplitRoot_acct {a : Nat} (d : Nat) (root : MTree r d) (ty cnt seed : Nat) (c : Ctx) {m3 : OMap r} {c3 : Ctx}
    (haddr : (MTree.hdr d root).id.addr = a)
    (hnd : (AList.keys (MTree.slabs d root)).Nodup)
    (hold : ∀ id ∈ AList.keys (MTree.slabs d root), Old a c.ctr id)
    (h : OMap.splitRoot (⟨d, root, ty, cnt, seed⟩ : OMap r) c = .ok (m3, c3)) :
    ∃ E, MLog a c c3 E [] ∧ MAcct a c.ctr c3.ctr (MTree.slabs d root) (MTree.slabs m3.d m3.root) E [] ∧
      lastAction E (MTree.hdr d root).id = some true := by
  obtain ⟨l, rr, c2, hsp, rfl, rfl⟩ := splitRoot_inv d root ty cnt seed c h
  rw [haddr] at hsp
  obtain ⟨hs1, hs2, hs3, hc2⟩ := msplit_struct d _ _ l rr c2 hsp
  rw [hdr_deroot] at hs2 hs3 hc2
  rw [msub_deroot] at hs1
  subst hc2
  refine ⟨[.alloc a ⟨a, c.ctr + 1⟩, .alloc a ⟨a, c.ctr + 2⟩, .store (MTree.hdr d l).id, .store (MTree.hdr d rr).id,
    .store (MTree.hdr d root).id], ?_, ?_, ?_⟩
  · have := ((MLog.alloc a c).trans (MLog.alloc a (c.alloc a).2)).trans
      (MLog.store3 a ((c.alloc a).2.alloc a).2 (MTree.hdr d l).id (MTree.hdr d rr).id (MTree.hdr d root).id)
    simpa [Ctx.alloc] using this
  · show MAcct a c.ctr (c.ctr + 2) (MTree.slabs d root) (MTree.slabs (d + 1) (newRootOf d _ l rr)) _ _
    rw [mslabs_succ, ← mforest_slabs]
    rw [← mforest_slabs] at hnd hold
    exact Forest.rootSplit_macct _ hs1 hs2 hs3 hnd hold
  · exact lastAction_store_last [.alloc a ⟨a, c.ctr + 1⟩, .alloc a ⟨a, c.ctr + 2⟩, .store (MTree.hdr d l).id,
      .store (MTree.hdr d rr).id] (MTree.hdr d root).id

theorem splitIfFull_acct {a : Nat} (T' d : Nat) (root : MTree r d) (ty cnt seed : Nat) (c : Ctx) {m3 : OMap r}
    {c3 : Ctx} (haddr : (MTree.hdr d root).id.addr = a)
    (hnd : (AList.keys (MTree.slabs d root)).Nodup)
    (hold : ∀ id ∈ AList.keys (MTree.slabs d root), Old a c.ctr id)
    (h : OMap.splitRootIfFull T' (⟨d, root, ty, cnt, seed⟩ : OMap r) c = .ok (m3, c3)) :
    ∃ E, MLog a c c3 E [] ∧ MAcct a c.ctr c3.ctr (MTree.slabs d root) (MTree.slabs m3.d m3.root) E [] ∧
      lastAction E (MTree.hdr d root).id ≠ some false ∧ m3.rootID = (MTree.hdr d root).id := by
  rcases OMap.splitRootIfFull_cases h with h | ⟨rfl, rfl⟩
  · obtain ⟨E, h1, h2, h3⟩ := msplitRoot_acct d root ty cnt seed c haddr hnd hold h
    obtain ⟨l, rr, c2, _, hm3, _⟩ := splitRoot_inv d root ty cnt seed c h
    exact ⟨E, h1, h2, by rw [h3]; simp, by rw [hm3]; rfl⟩
  · exact ⟨[], MLog.refl a _, MAcct.refl a _ _, by simp, rfl⟩

theorem mpromote_acct {a : Nat} (d : Nat) (x : MMetaSlab (MTree r d)) (c : Ctx) {child : MTree r d}
    (hc : x.children = [child])
    (hnd : (AList.keys (MTree.slabs (d + 1) x)).Nodup)
    (hold : ∀ id ∈ AList.keys (MTree.slabs (d + 1) x), Old a c.ctr id) :
    MLog a c ((c.emit (.store x.hdr.id)).emit (.remove (MTree.hdr d child).id))
      [.store x.hdr.id, .remove (MTree.hdr d child).id] [] ∧
    MAcct a c.ctr c.ctr (MTree.slabs (d + 1) x) (MTree.slabs d (enroot d child x.hdr.id))
      [.store x.hdr.id, .remove (MTree.hdr d child).id] [] ∧
    lastAction [.store x.hdr.id, .remove (MTree.hdr d child).id] x.hdr.id = some true := by
  rw [mslabs_succ, hc, ← mforest_slabs] at hnd hold
  obtain ⟨hacct, hne⟩ := Forest.rootPromote_macct (msub_enroot d child x.hdr.id) (hdr_enroot d child x.hdr.id) hnd hold
  refine ⟨?_, ?_, ?_⟩
  · have := (MLog.store a c x.hdr.id).trans (MLog.remove a _ (MTree.hdr d child).id)
    simpa using this
  · rw [mslabs_succ, hc, ← mforest_slabs]
    exact hacct
  · have hne' : (MTree.hdr d child).id ≠ x.hdr.id := hne.symm
    rw [lastAction_pair]
    simp [actStep, hne']

/-- the account of the root fix-up: a promotion if the root has a single child, then a split if
    the root is full -/
theorem rootfix_acct {a : Nat} (T' : Nat) (d : Nat) (root : MTree r d) (ty cnt seed : Nat) (c1 : Ctx)
    (m3 : OMap r) (c3 : Ctx) (hS : SInv T D d true root) (haddr : (MTree.hdr d root).id.addr = a)
    (hnd : (AList.keys (MTree.slabs d root)).Nodup) (hold : ∀ id ∈ AList.keys (MTree.slabs d root), Old a c1.ctr id)
    (h : OMap.rootFix T' (⟨d, root, ty, cnt, seed⟩ : OMap r) c1 = .ok (m3, c3)) :
    ∃ E, MLog a c1 c3 E [] ∧ MAcct a c1.ctr c3.ctr (MTree.slabs d root) (MTree.slabs m3.d m3.root) E [] ∧
      lastAction E (MTree.hdr d root).id ≠ some false ∧ m3.rootID = (MTree.hdr d root).id := by
  unfold OMap.rootFix at h
  rcases OMap.promote_cases (⟨d, root, ty, cnt, seed⟩ : OMap r) c1 with hp | ⟨d', x, _, _, _, hd, child, hm, hh, hc, hp⟩
  · rw [hp] at h
    exact splitIfFull_acct T' d root ty cnt seed c1 haddr hnd hold h
  · cases hm
    rw [hp] at h
    have hhd : hd = MTree.hdr d' child := by
      have := hS.1.hdrs_eq
      rw [hh, hc] at this
      exact List.head_eq_of_cons_eq this
    subst hhd
    obtain ⟨hlog2, hacct2, hla2⟩ := mpromote_acct (a := a) d' x c1 hc hnd hold
    obtain ⟨E3, hlog3, hacct3, hla3, hid3⟩ := splitIfFull_acct T' d' (enroot d' child x.hdr.id) ty cnt seed
      ((c1.emit (.store x.hdr.id)).emit (.remove (MTree.hdr d' child).id))
      (by rw [hdr_enroot]; exact haddr) (hacct2.nodup hnd) (hacct2.old hold) h
    rw [hdr_enroot] at hla3 hid3
    refine ⟨[.store x.hdr.id, .remove (MTree.hdr d' child).id] ++ E3, hlog2.trans hlog3, ?_, ?_, hid3⟩
    · simpa using hacct2.trans hacct3 hold
    · show lastAction _ x.hdr.id ≠ some false
      rw [lastAction_keep hla2 hla3]; simp

/-- all slab IDs of the map (data slabs, index slabs, external collision groups) are distinct -/
def MIdsOk (m : OMap r) : Prop := ((MTree.slabs m.d m.root).map (·.1)).Nodup

theorem MIdsOk.new (addr ty : Nat) (seedOf : SlabID → Nat) (c : Ctx) :
    MIdsOk (OMap.new (r := r) addr ty seedOf c).1 := by
  simp [MIdsOk, OMap.new, mslabs_zero, MDataSlab.groupSlabs]

instance (m : OMap r) : Decidable (MIdsOk m) := by unfold MIdsOk; infer_instance

/-- `MIdsOk` in the vocabulary of the accounts -/
theorem mIdsOk_iff (m : OMap r) : MIdsOk m ↔ (AList.keys (MTree.slabs m.d m.root)).Nodup := Iff.rfl

theorem old_of_ctxOk {m : OMap r} {c : Ctx} (hc : CtxOk m c) :
    ∀ id ∈ AList.keys (MTree.slabs m.d m.root), Old m.addr c.ctr id := by
  intro id hid ha
  rw [keys_mslabs] at hid
  exact hc id hid ha

/-- what `set` and `remove` share: the account of the descent on the root, then the root fix-up -/
theorem omap_fix_acct {a T' d : Nat} {root root' : MTree r d} {ty cnt' seed : Nat} {c c1 c' : Ctx} {m' : OMap r}
    (hS : SInv T D d true root') (haddr : (MTree.hdr d root).id.addr = a)
    (hnd : (AList.keys (MTree.slabs d root)).Nodup) (hold : ∀ id ∈ AList.keys (MTree.slabs d root), Old a c.ctr id)
    (h1 : (MTree.hdr d root').id = (MTree.hdr d root).id ∧ ∃ E C, MLog a c c1 E C ∧
      MAcct a c.ctr c1.ctr (MTree.slabs d root) (MTree.slabs d root') E (C.map (·.1)) ∧
      lastAction E (MTree.hdr d root).id = some true)
    (hfix : OMap.rootFix T' (⟨d, root', ty, cnt', seed⟩ : OMap r) c1 = .ok (m', c')) :
    ∃ E C, MLog a c c' E C ∧ MAcct a c.ctr c'.ctr (MTree.slabs d root) (MTree.slabs m'.d m'.root) E (C.map (·.1)) ∧
      lastAction E (MTree.hdr d root).id = some true ∧ m'.rootID = (MTree.hdr d root).id := by
  obtain ⟨hid, E1, C1, hlog1, hacct1, hla1⟩ := h1
  obtain ⟨E2, hlog2, hacct2, hla2, hid2⟩ := rootfix_acct (T := T) (D := D) T' d root' ty cnt' seed c1 m' c' hS
    (by rw [hid]; exact haddr) (hacct1.nodup hnd) (hacct1.old hold) hfix
  rw [hid] at hla2 hid2
  exact ⟨E1 ++ E2, C1, by simpa using hlog1.trans hlog2, by simpa using hacct1.trans hacct2 hold,
    lastAction_keep hla1 hla2, hid2⟩

theorem omap_set_acctR (hT : legalThreshold T = true) {cfg : MCfg} {m : OMap r} (hcfg : CfgOk cfg T m)
    (h : MapInv T D m) {k : MKey} (hk : KeyOk T (r + 1) D k) {v : Elem} (hv : ValueOkR T k.size v) (c : Ctx)
    (hc : CtxOk m c) (hids : MIdsOk m) {old : Option Elem} {m' : OMap r} {c' : Ctx}
    (hr : m.set cfg k v c = .ok (old, m', c')) :
    ∃ E C, MLog m.addr c c' E C ∧
      MAcct m.addr c.ctr c'.ctr (MTree.slabs m.d m.root) (MTree.slabs m'.d m'.root) E (C.map (·.1)) ∧
      lastAction E m.rootID = some true ∧ m'.rootID = m.rootID := by
  have hc' : CfgFor cfg T (r + 1) := ⟨hcfg.1, hcfg.2.1⟩
  have hold := old_of_ctxOk hc
  have haddr : cfg.addr = m.addr := hcfg.2.2
  rw [← haddr] at hold ⊢
  obtain ⟨d, root, ty, cnt, seed⟩ := m
  obtain ⟨ks, root', c1, h1, hfix⟩ := OMap.set_ok_iff.1 hr
  have hinl : treeInl d root = false := by
    rw [← isInlined_eq d root ty cnt seed]; exact h.standalone
  have hnd := (mIdsOk_iff _).1 hids
  exact omap_fix_acct (MTree.set_post hT hc' hk hv h.tree h1).2.sinv haddr.symm hnd hold
    (mset_acct d root root' true c1 h.tree hinl haddr.symm hnd hold h1) hfix

theorem omap_set_acct (hT : legalThreshold T = true) {cfg : MCfg} {m : OMap r} (hcfg : CfgOk cfg T m)
    (h : MapInv T D m) {k : MKey} (hk : KeyOk T (r + 1) D k) {v : Elem} (hv : ValueOkM v) (c : Ctx)
    (hc : CtxOk m c) (hids : MIdsOk m) {old : Option Elem} {m' : OMap r} {c' : Ctx}
    (hr : m.set cfg k v c = .ok (old, m', c')) :
    ∃ E C, MLog m.addr c c' E C ∧
      MAcct m.addr c.ctr c'.ctr (MTree.slabs m.d m.root) (MTree.slabs m'.d m'.root) E (C.map (·.1)) ∧
      lastAction E m.rootID = some true ∧ m'.rootID = m.rootID :=
  omap_set_acctR hT hcfg h hk (hv.okR T k.size) c hc hids hr

theorem omap_remove_acct (hT : legalThreshold T = true) {cfg : MCfg} {m : OMap r} (hcfg : CfgOk cfg T m)
    (h : MapInv T D m) {k : MKey} (hk : KeyOk T (r + 1) D k) (c : Ctx)
    (hc : CtxOk m c) (hids : MIdsOk m) {k0 : MKey} {v0 : Elem} {m' : OMap r} {c' : Ctx}
    (hr : m.remove cfg k c = .ok (k0, v0, m', c')) :
    ∃ E C, MLog m.addr c c' E C ∧
      MAcct m.addr c.ctr c'.ctr (MTree.slabs m.d m.root) (MTree.slabs m'.d m'.root) E (C.map (·.1)) ∧
      lastAction E m.rootID = some true ∧ m'.rootID = m.rootID := by
  have hc' : CfgFor cfg T (r + 1) := ⟨hcfg.1, hcfg.2.1⟩
  have hold := old_of_ctxOk hc
  have haddr : cfg.addr = m.addr := hcfg.2.2
  rw [← haddr] at hold ⊢
  obtain ⟨d, root, ty, cnt, seed⟩ := m
  obtain ⟨root', c1, h1, hfix⟩ := OMap.remove_ok_iff.1 hr
  have hinl : treeInl d root = false := by
    rw [← isInlined_eq d root ty cnt seed]; exact h.standalone
  have hnd := (mIdsOk_iff _).1 hids
  exact omap_fix_acct (MTree.remove_post hT hc' hk h.tree h1).2.2.sinv haddr.symm hnd hold
    (mremove_acct d root root' true c1 h.tree hinl haddr.symm hnd hold h1) hfix

theorem mslabAt_isSome (m : OMap r) (id : SlabID) :
    (m.slabAt id).isSome ↔ id ∈ AList.keys (MTree.slabs m.d m.root) := by
  unfold OMap.slabAt
  rw [Option.isSome_map, ← AList.find?_ne_none_iff]
  cases AList.find? (MTree.slabs m.d m.root) id <;> simp

theorem mslabAt_isNone (m : OMap r) (id : SlabID) :
    (m.slabAt id).isNone ↔ id ∉ AList.keys (MTree.slabs m.d m.root) := by
  rw [← mslabAt_isSome]
  cases m.slabAt id <;> simp

theorem mEffectsComplete_of_acct {m m' : OMap r} {a c c' : Nat} {E : List Eff} {cr : List SlabID}
    (h : MAcct a c c' (MTree.slabs m.d m.root) (MTree.slabs m'.d m'.root) E cr)
    (hnd : MIdsOk m) (hid : m'.rootID = m.rootID)
    (hroot : lastAction E m.rootID = some true) :
    MEffectsComplete m m' E cr := by
  obtain ⟨p1, p2, p3, p4⟩ := (MAcct.iff_account.1 h).2.1.complete
    (K := AList.find? (MTree.slabs m.d m.root)) (K' := AList.find? (MTree.slabs m'.d m'.root))
    (fun id s => (AList.mem_iff_find? _ hnd id s).symm) (fun _ _ => mem_of_find?)
    (fun id hs => Option.isSome_iff_ne_none.2 ((AList.find?_ne_none_iff _ id).2 ((exists_entry _ id).1 hs)))
  refine ⟨fun id hs hne => ?_, fun id h1 h2 => p2 id ?_ ?_, fun id hl => (p3 id hl).imp_left fun hs => ?_,
    fun id hl => ?_⟩
  · by_cases hr : id = m.rootID
    · rw [hr]; exact hroot
    · refine p1 id (by rwa [OMap.slabAt, Option.isSome_map] at hs) (fun he => hne ?_)
      unfold OMap.slabAt
      rw [he, hid, if_neg hr, if_neg hr]
  · rwa [OMap.slabAt, Option.isSome_map] at h1
  · rwa [OMap.slabAt, Option.isNone_map] at h2
  · rwa [OMap.slabAt, Option.isSome_map]
  · rw [OMap.slabAt, Option.isNone_map]; exact p4 id hl

theorem keys_grp_reverse {α : Type} (l : List (MElemF α)) (id : SlabID) :
    id ∈ AList.keys (grp l.reverse) ↔ id ∈ AList.keys (grp l) := by
  simp only [mem_keys_iff, grp, List.mem_filterMap, List.mem_reverse]

/-- `MapDataSlab.PopIterate` removes slabs and does nothing else: every slab of an external group
    of the data slab and, when there are no groups below the first level, only those -/
theorem mdata_pop_removed (s : MDataSlab r) (c : Ctx) :
    ∃ ids, (MDataSlab.popIterate s c).2.2 = c.removed ids ∧ (∀ id ∈ AList.keys (msub 0 s), id ∈ ids) ∧
      ((∀ el ∈ s.elems.elems, FirstOk (NoExt r) el) → ∀ id ∈ ids, id ∈ AList.keys (msub 0 s)) := by
  obtain ⟨ids, h, m, z⟩ := HkeyElems.popIter_removed (MElems.opsPop r) s.elems c
  have hk : ∀ id, id ∈ AList.keys (msub 0 s) ↔ id ∈ AList.keys (grp s.elems.elems.reverse) := by
    intro id
    rw [msub_zero, groupSlabs_eq, AList.keys_map_val, keys_grp_reverse]
  exact ⟨ids, h, fun id hid => m id ((hk id).1 hid), fun hF id hid => (hk id).2 (z hF ▸ hid)⟩

theorem keys_flatMap_reverse {d : Nat} (l : List (MTree r d)) (id : SlabID) :
    id ∈ AList.keys (l.reverse.flatMap (MTree.slabs d)) ↔ id ∈ AList.keys (l.flatMap (MTree.slabs d)) := by
  simp only [mem_keys_iff, List.mem_flatMap, List.mem_reverse]

/-- `PopIterate` on a subtree removes slabs and does nothing else: every slab below the root of
    the subtree and, under the tree invariant, only those -/
theorem mtree_pop_removed : ∀ (d : Nat) (t : MTree r d) (c : Ctx),
    ∃ ids, (MTree.popIterate d t c).2.2 = c.removed ids ∧ (∀ id ∈ AList.keys (msub d t), id ∈ ids) ∧
      ∀ {T : Nat} {D : DigestFn (r + 1)} {top : Bool}, MTreeInv T D d top t →
        ∀ id ∈ ids, id ∈ AList.keys (msub d t)
  | 0, (s : MDataSlab r), c => by
    obtain ⟨ids, h, m, z⟩ := mdata_pop_removed s c
    exact ⟨ids, h, m, fun {T D top} hinv => z (firstOk_of_inv ((mtreeInv_zero_iff T D top s).mp hinv).elems_inv)⟩
  | d + 1, (m : MMetaSlab (MTree r d)), c => by
    -- each child removes what is below it, then the child's own slab is removed
    have key : ∀ (l : List (MTree r d)) (acc : List (MKey × Elem) × Ctx), ∃ ids,
        (l.foldl (fun (acc : List (MKey × Elem) × Ctx) child =>
          let (es, _, c) := MTree.popIterate d child acc.2
          (acc.1 ++ es, c.emit (.remove (MTree.hdr d child).id))) acc).2 = acc.2.removed ids ∧
        (∀ id ∈ AList.keys (l.flatMap (MTree.slabs d)), id ∈ ids) ∧
        ∀ {T : Nat} {D : DigestFn (r + 1)}, (∀ t ∈ l, MTreeInv T D d false t) →
          ∀ id ∈ ids, id ∈ AList.keys (l.flatMap (MTree.slabs d)) := by
      intro l
      induction l with
      | nil => exact fun acc => ⟨[], rfl, fun _ h => h, fun _ _ h => h⟩
      | cons t l ihl =>
        intro acc
        obtain ⟨ids1, h1, m1, z1⟩ := mtree_pop_removed d t acc.2
        obtain ⟨ids2, h2, m2, z2⟩ := ihl (acc.1 ++ (MTree.popIterate d t acc.2).1,
          (MTree.popIterate d t acc.2).2.2.emit (.remove (MTree.hdr d t).id))
        have hk : AList.keys ((t :: l).flatMap (MTree.slabs d))
            = ((MTree.hdr d t).id :: AList.keys (msub d t)) ++ AList.keys (l.flatMap (MTree.slabs d)) := by
          rw [List.flatMap_cons, keys_append, mslabs_eq, AList.keys_cons]
        refine ⟨ids1 ++ [(MTree.hdr d t).id] ++ ids2, ?_, fun id hid => ?_, fun {T D} hl id hid => ?_⟩
        · rw [List.foldl_cons, h2, Ctx.removed_append, Ctx.removed_append, ← h1]; rfl
        · rw [hk] at hid
          simp only [List.mem_append, List.mem_cons, List.not_mem_nil, or_false] at hid ⊢
          rcases hid with (h | h) | h
          · exact Or.inl (Or.inr h)
          · exact Or.inl (Or.inl (m1 id h))
          · exact Or.inr (m2 id h)
        · rw [hk]
          simp only [List.mem_append, List.mem_cons, List.not_mem_nil, or_false] at hid ⊢
          rcases hid with (h | h) | h
          · exact Or.inl (Or.inr (z1 (hl t List.mem_cons_self) id h))
          · exact Or.inl (Or.inl h)
          · exact Or.inr (z2 (fun t' ht' => hl t' (List.mem_cons_of_mem _ ht')) id h)
    obtain ⟨ids, h, m0, z⟩ := key m.children.reverse ([], c)
    refine ⟨ids, ?_, fun id hid => ?_, fun {T D top} hinv id hid => ?_⟩
    · simp only [MTree.popIterate]
      exact h
    · exact m0 id ((keys_flatMap_reverse _ id).2 hid)
    · have hm := ((mtreeInv_succ_iff T D d top m).mp hinv).1
      exact (keys_flatMap_reverse _ id).1 (z (fun t ht => hm.kid_inv t (List.mem_reverse.1 ht)) id hid)

theorem mtree_pop_log (d : Nat) (t : MTree r d) (c : Ctx) :
    ∃ E, (MTree.popIterate d t c).2.2.eff = c.eff ++ E ∧ (∀ x ∈ E, ∃ i, x = Eff.remove i) ∧
      ∀ id ∈ AList.keys (msub d t), Eff.remove id ∈ E := by
  obtain ⟨ids, h, m, _⟩ := mtree_pop_removed d t c
  obtain ⟨E, h1, h2, h3⟩ := Ctx.removed_log (c := c) (ids := ids) (ks := ids) (fun _ hi => hi) (fun _ hi => hi)
  exact ⟨E, h ▸ h1, fun x hx => (h2 x hx).imp fun _ hi => hi.2, fun id hid => h3 id (m id hid)⟩

theorem omap_pop_log (m : OMap r) (c : Ctx) (hinl : m.isInlined = false) :
    ∃ E, (m.popIterate c).2.2.eff = c.eff ++ E ++ [.store m.rootID] ∧ (∀ x ∈ E, ∃ i, x = Eff.remove i) ∧
      ∀ id ∈ AList.keys (msub m.d m.root), Eff.remove id ∈ E := by
  obtain ⟨E, h1, h2, h3⟩ := mtree_pop_log m.d m.root c
  refine ⟨E, ?_, h2, h3⟩
  simp only [OMap.popIterate, hinl, Bool.false_eq_true, if_false, Ctx.emit, h1]

/-- the account of a bulk pop, for the removals `E` its log consists of: every slab but the root
    (children of index slabs and external collision groups included) is removed, the root is stored -/
theorem omap_pop_complete (m : OMap r) (c : Ctx) (hinl : m.isInlined = false) {E : List Eff}
    (heff : (m.popIterate c).2.2.eff = c.eff ++ E ++ [.store m.rootID]) :
    MEffectsComplete m (m.popIterate c).2.1 (E ++ [.store m.rootID]) [] ∧
    ∀ id ∈ AList.keys (MTree.slabs m.d m.root), id ≠ m.rootID →
      lastAction (E ++ [.store m.rootID]) id = some false := by
  obtain ⟨E', heff', hE1, hE2⟩ := omap_pop_log m c hinl
  obtain rfl : E = E' := by
    rw [heff] at heff'
    exact List.append_cancel_left (List.append_cancel_right heff')
  have hids' : AList.keys (MTree.slabs (m.popIterate c).2.1.d (m.popIterate c).2.1.root) = [m.rootID] := rfl
  obtain ⟨⟨p1, p2, p3, p4⟩, hg⟩ := pop_complete (K := m.slabAt) (K' := (m.popIterate c).2.1.slabAt) hE1
    (fun id => by rw [mslabAt_isSome, hids', List.mem_singleton])
    (fun id hid hne => hE2 id (by
      rw [mslabAt_isSome, mslabs_eq, AList.keys_cons] at hid
      exact (List.mem_cons.1 hid).resolve_left hne))
  exact ⟨⟨p1, p2, p3, p4⟩, fun id hid hne => hg id ((mslabAt_isSome m id).2 hid) hne⟩

end Atree

import AtreeProofs.Account.Forest
import AtreeProofs.Map.Repair
import AtreeProofs.Map.EffectsData
import AtreeProofs.Map.TreeSet
/-
  Effect-log accounting for maps (C09), tree layer: the log appended by `MTree.set / remove` on an
  arbitrary subtree is a complete account of how the slabs of the subtree (data slabs, index
  slabs, external collision groups) changed, along the path of the operation (`MTree.set_induction` /
  `remove_induction`; the repair of a parent is read off `afterChild_repair`).
-/
namespace Atree
open Gen

variable {r : Nat} {T : Nat} {D : DigestFn (r + 1)}

theorem firstOk_of_inv {L : Nat} {DL : DigestFn L} {he : HkeyElems (MElems r)}
    (h : ElemsInv T L DL (r + 1) 0 [] he) : ∀ el ∈ he.elems, FirstOk (NoExt r) el := by
  intro el hmem
  obtain ⟨hk, this⟩ := ((elemsInv_succ_iff T L DL r 0 [] he).mp h).elemOk_of_mem hmem
  cases el with
  | single x => trivial
  | inl g => exact noExt_of_inv r 1 _ g this.1 (Nat.le_refl 1)
  | ext id sz s =>
    exact ⟨this.ext_id, noExt_of_inv r 1 _ s.elems this.ext_inv (Nat.le_refl 1)⟩

/-- the group slabs of a data slab are rewritten, then the data slab itself is stored -/
theorem mdata_acct {a : Nat} {c c1 : Ctx} {E : List Eff} {C : List (SlabID × Elem)} (s s' : MDataSlab r)
    (hid : s'.hdr.id = s.hdr.id)
    (hnd : (AList.keys (MTree.slabs 0 s)).Nodup) (hold : ∀ id ∈ AList.keys (MTree.slabs 0 s), Old a c.ctr id)
    (hlog : MLog a c c1 E C)
    (hacct : MAcct a c.ctr c1.ctr (grp s.elems.elems) (grp s'.elems.elems) E (C.map (·.1))) :
    MLog a c (c1.emit (.store s.hdr.id)) (E ++ [.store s.hdr.id]) C ∧
      MAcct a c.ctr (c1.emit (.store s.hdr.id)).ctr (MTree.slabs 0 s) (MTree.slabs 0 s')
        (E ++ [.store s.hdr.id]) (C.map (·.1)) ∧
      lastAction (E ++ [.store s.hdr.id]) s.hdr.id = some true := by
  refine ⟨by simpa using hlog.trans (MLog.store a c1 s.hdr.id), ?_, lastAction_store_last E s.hdr.id⟩
  rw [mslabs_zero, mslabs_zero, hid, groupSlabs_eq s, groupSlabs_eq s']
  rw [mslabs_zero, groupSlabs_eq s] at hnd hold
  have h1 := hacct.map (fun g => MSlabView.group g)
  refine h1.with_root s.hdr.id _ _ ?_ ?_ ?_
  · rw [AList.keys_cons] at hnd
    exact (List.nodup_cons.1 hnd).1
  · exact hold _ (by rw [AList.keys_cons]; exact List.mem_cons_self)
  · intro id hid'
    exact hold id (by rw [AList.keys_cons]; exact List.mem_cons_of_mem _ hid')

theorem keys_grp_nodup {s : MDataSlab r} (hnd : (AList.keys (MTree.slabs 0 s)).Nodup) :
    (AList.keys (grp s.elems.elems)).Nodup := by
  rw [mslabs_zero, groupSlabs_eq s, AList.keys_cons] at hnd
  have := (List.nodup_cons.1 hnd).2
  rwa [AList.keys_map_val] at this

theorem keys_grp_old {a c : Nat} {s : MDataSlab r} (hold : ∀ id ∈ AList.keys (MTree.slabs 0 s), Old a c id) :
    ∀ id ∈ AList.keys (grp s.elems.elems), Old a c id := by
  intro id hid
  apply hold
  rw [mslabs_zero, groupSlabs_eq s, AList.keys_cons]
  apply List.mem_cons_of_mem
  rwa [AList.keys_map_val]

theorem mdata_set_acct {cfg : MCfg} (s s' : MDataSlab r) {k : MKey} {v : Elem} {c c' : Ctx} {ks : MKey}
    {old : Option Elem} (hinl : s.inlined = false)
    (hF : ∀ el ∈ s.elems.elems, FirstOk (NoExt r) el)
    (hnd : (AList.keys (MTree.slabs 0 s)).Nodup)
    (hold : ∀ id ∈ AList.keys (MTree.slabs 0 s), Old cfg.addr c.ctr id)
    (h : s.set cfg k v c = .ok (ks, old, s', c')) :
    s'.hdr.id = s.hdr.id ∧ ∃ E C, MLog cfg.addr c c' E C ∧
      MAcct cfg.addr c.ctr c'.ctr (MTree.slabs 0 s) (MTree.slabs 0 s') E (C.map (·.1)) ∧
      lastAction E s.hdr.id = some true := by
  obtain ⟨elems, c1, hset, rfl, rfl⟩ := MDataSlab.set_ok_iff.1 h
  refine ⟨rfl, ?_⟩
  have hE : OpsEff cfg (MDataSlab.eops r) (NoExt r) := MElems.opsEff cfg r
  obtain ⟨E, C, hlog, hacct⟩ := set0_acct hE hF (keys_grp_nodup hnd) (keys_grp_old hold) hset
  rw [MDataSlab.withElems_store s elems _ hinl]
  exact ⟨_, _, mdata_acct s _ rfl hnd hold hlog hacct⟩

theorem mdata_remove_acct {cfg : MCfg} (s s' : MDataSlab r) {k : MKey} {c c' : Ctx} {rk : MKey}
    {rv : Elem} (hinl : s.inlined = false)
    (hF : ∀ el ∈ s.elems.elems, FirstOk (NoExt r) el)
    (hnd : (AList.keys (MTree.slabs 0 s)).Nodup)
    (hold : ∀ id ∈ AList.keys (MTree.slabs 0 s), Old cfg.addr c.ctr id)
    (h : s.remove cfg k c = .ok (rk, rv, s', c')) :
    s'.hdr.id = s.hdr.id ∧ ∃ E C, MLog cfg.addr c c' E C ∧
      MAcct cfg.addr c.ctr c'.ctr (MTree.slabs 0 s) (MTree.slabs 0 s') E (C.map (·.1)) ∧
      lastAction E s.hdr.id = some true := by
  obtain ⟨elems, c1, hrem, rfl, rfl⟩ := MDataSlab.remove_ok_iff.1 h
  refine ⟨rfl, ?_⟩
  have hE : OpsEff cfg (MDataSlab.eops r) (NoExt r) := MElems.opsEff cfg r
  obtain ⟨E, hlog, hacct⟩ := remove0_acct hE hF (keys_grp_nodup hnd) (keys_grp_old hold) hrem
  rw [MDataSlab.withElems_store s elems _ hinl]
  exact ⟨_, [], mdata_acct s _ rfl hnd hold hlog hacct⟩

variable {d : Nat}

theorem slabs_child_split {m : MMetaSlab (MTree r d)} {A B : List (MTree r d)} {child : MTree r d}
    (hch : m.children = A ++ child :: B) :
    MTree.slabs (d + 1) m
      = ((m.hdr.id, ment (d + 1) m) :: A.flatMap (MTree.slabs d)) ++ MTree.slabs d child ++ B.flatMap (MTree.slabs d) := by
  rw [mslabs_succ, hch]; simp [List.flatMap_append, ment_succ]

/-- one node: the child has been updated (with account), then `afterChild` repairs the parent -/
theorem mnode_acct {a : Nat} {m t' : MMetaSlab (MTree r d)} {i : Nat} {child child' : MTree r d} {c c1 c' : Ctx}
    {E1 : List Eff} {C1 : List (SlabID × Elem)}
    (hchild : m.children[i]? = some child)
    (haddr : (MTree.hdr d child).id.addr = a)
    (hid : (MTree.hdr d child').id = (MTree.hdr d child).id)
    (hnd : (AList.keys (MTree.slabs (d + 1) m)).Nodup)
    (hold : ∀ id ∈ AList.keys (MTree.slabs (d + 1) m), Old a c.ctr id)
    (hlog1 : MLog a c c1 E1 C1)
    (hacct1 : MAcct a c.ctr c1.ctr (MTree.slabs d child) (MTree.slabs d child') E1 (C1.map (·.1)))
    (ha : m.afterChild T child' i c1 = .ok (t', c')) :
    ∃ E C, MLog a c c' E C ∧
      MAcct a c.ctr c'.ctr (MTree.slabs (d + 1) m) (MTree.slabs (d + 1) t') E (C.map (·.1)) ∧
      lastAction E m.hdr.id = some true := by
  obtain ⟨A, B, hch, hk⟩ := split_at hchild
  have hch1 : (m.withChild child' i).children = A ++ child' :: B := by
    rw [withChild_children, hch, set_at hk]
  rw [mslabs_succ, ← ment_succ, hch] at hnd hold ⊢
  rw [← mforest_slabs d] at hnd hold hacct1 ⊢
  have hframe := Forest.child_macct hnd hold hacct1
  have hnd1 := hframe.nodup hnd
  have hold1 := hframe.old hold
  obtain ⟨E2, hrep, he2, hid2, hcr2⟩ := afterChild_repair (a := a) hch hk (hid ▸ haddr) ha
  have hlog2 := (hrep.plog rfl he2 hcr2).toMLog
  have hacct2 := hrep.macct (ment (d + 1) m) (ment (d + 1) t') hnd1 hold1
  have hla := hrep.last (ment (d + 1) m) hnd1
  rw [mslabs_succ t', ← ment_succ, hid2, ← mforest_slabs d]
  exact ⟨E1 ++ E2, C1, by simpa using hlog1.trans hlog2, by simpa using hframe.trans hacct2 hold,
    lastAction_append_some hla⟩

/-- the facts about a child needed by the induction -/
theorem child_facts {a c : Nat} {top : Bool} {m : MMetaSlab (MTree r d)} {i : Nat} {child : MTree r d}
    (hinv : MTreeInv T D (d + 1) top m) (haddr : m.hdr.id.addr = a)
    (hnd : (AList.keys (MTree.slabs (d + 1) m)).Nodup)
    (hold : ∀ id ∈ AList.keys (MTree.slabs (d + 1) m), Old a c id)
    (hchild : m.children[i]? = some child) :
    MTreeInv T D d false child ∧ treeInl d child = false ∧ (MTree.hdr d child).id.addr = a ∧
    (AList.keys (MTree.slabs d child)).Nodup ∧ ∀ id ∈ AList.keys (MTree.slabs d child), Old a c id := by
  have hm := ((mtreeInv_succ_iff T D d top m).mp hinv).1
  have hmem : child ∈ m.children := List.mem_of_getElem? hchild
  have hci := hm.kid_inv child hmem
  obtain ⟨A, B, hch, _⟩ := split_at hchild
  rw [slabs_child_split hch] at hnd hold
  exact ⟨hci, treeInl_of_nontop d child hci, by rw [hm.kid_addr child hmem]; exact haddr,
    nodup_mid hnd, old_mid hold⟩

/-- what the induction along the path of `set` / `remove` carries: on a standalone subtree with distinct
    old slab IDs, the step from `(t, c)` to `(t', c')` keeps the ID of the subtree's root and comes with a
    complete account of the slabs of the subtree -/
def SubtreeAcct (T : Nat) (D : DigestFn (r + 1)) (a : Nat) (d : Nat) (t : MTree r d) (c : Ctx) (t' : MTree r d)
    (c' : Ctx) : Prop :=
  ∀ top, MTreeInv T D d top t → treeInl d t = false → (MTree.hdr d t).id.addr = a →
    (AList.keys (MTree.slabs d t)).Nodup → (∀ id ∈ AList.keys (MTree.slabs d t), Old a c.ctr id) →
    (MTree.hdr d t').id = (MTree.hdr d t).id ∧ ∃ E C, MLog a c c' E C ∧
      MAcct a c.ctr c'.ctr (MTree.slabs d t) (MTree.slabs d t') E (C.map (·.1)) ∧
      lastAction E (MTree.hdr d t).id = some true

theorem SubtreeAcct.node {a T' : Nat} {m t' : MMetaSlab (MTree r d)} {i : Nat} {child child' : MTree r d} {c c1 c' : Ctx}
    (hchild : m.children[i]? = some child) (ih : SubtreeAcct T D a d child c child' c1)
    (ha : m.afterChild T' child' i c1 = .ok (t', c')) : SubtreeAcct T D a (d + 1) m c t' c' := by
  intro top hinv _ haddr hnd hold
  obtain ⟨hci, hcinl, hcaddr, hcnd, hcold⟩ := child_facts hinv haddr hnd hold hchild
  obtain ⟨hid, E1, C1, hlog1, hacct1, _⟩ := ih false hci hcinl hcaddr hcnd hcold
  exact ⟨(afterChild_plain hchild ha).1, mnode_acct hchild hcaddr hid hnd hold hlog1 hacct1 ha⟩

theorem mset_acct {cfg : MCfg} {k : MKey} {v : Elem} {ks : MKey} {old : Option Elem} {c : Ctx} :
    ∀ (d : Nat) (t t' : MTree r d) (top : Bool) (c' : Ctx),
    MTreeInv T D d top t → treeInl d t = false → (MTree.hdr d t).id.addr = cfg.addr →
    (AList.keys (MTree.slabs d t)).Nodup → (∀ id ∈ AList.keys (MTree.slabs d t), Old cfg.addr c.ctr id) →
    MTree.set cfg d t k v c = .ok (ks, old, t', c') →
    (MTree.hdr d t').id = (MTree.hdr d t).id ∧ ∃ E C, MLog cfg.addr c c' E C ∧
      MAcct cfg.addr c.ctr c'.ctr (MTree.slabs d t) (MTree.slabs d t') E (C.map (·.1)) ∧
      lastAction E (MTree.hdr d t).id = some true
  := fun d t t' top c' hinv hinl haddr hnd hold h =>
  MTree.set_induction (P := SubtreeAcct T D cfg.addr)
    (fun s s' _ _ h top hinv hinl _ hnd hold =>
      mdata_set_acct s s' hinl (firstOk_of_inv ((mtreeInv_zero_iff T D top s).mp hinv).elems_inv) hnd hold h)
    (fun _ _ _ _ _ _ _ _ _ hchild _ ih ha => ih.node hchild ha)
    d t t' c c' h top hinv hinl haddr hnd hold

theorem mremove_acct {cfg : MCfg} {k : MKey} {rk : MKey} {rv : Elem} {c : Ctx} :
    ∀ (d : Nat) (t t' : MTree r d) (top : Bool) (c' : Ctx),
    MTreeInv T D d top t → treeInl d t = false → (MTree.hdr d t).id.addr = cfg.addr →
    (AList.keys (MTree.slabs d t)).Nodup → (∀ id ∈ AList.keys (MTree.slabs d t), Old cfg.addr c.ctr id) →
    MTree.remove cfg d t k c = .ok (rk, rv, t', c') →
    (MTree.hdr d t').id = (MTree.hdr d t).id ∧ ∃ E C, MLog cfg.addr c c' E C ∧
      MAcct cfg.addr c.ctr c'.ctr (MTree.slabs d t) (MTree.slabs d t') E (C.map (·.1)) ∧
      lastAction E (MTree.hdr d t).id = some true
  := fun d t t' top c' hinv hinl haddr hnd hold h =>
  MTree.remove_induction (P := SubtreeAcct T D cfg.addr)
    (fun s s' _ _ h top hinv hinl _ hnd hold =>
      mdata_remove_acct s s' hinl (firstOk_of_inv ((mtreeInv_zero_iff T D top s).mp hinv).elems_inv) hnd hold h)
    (fun _ _ _ _ _ _ _ _ _ hchild _ ih ha => ih.node hchild ha)
    d t t' c c' h top hinv hinl haddr hnd hold

end Atree

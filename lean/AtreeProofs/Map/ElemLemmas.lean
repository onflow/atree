import AtreeProofs.Map.ElemsSpec
/-
  Generic lemmas about one element (`MElemF.get/set/remove`), parameterised by the specification
  of the operations of the nested level.
-/
namespace Atree
open Gen

namespace MElemOk
variable {T L : Nat} {D : DigestFn L} {cfg : MCfg} {α : Type} {o : ElemsOps α}
  {Inv : Nat → List Nat → α → Prop} {rr : Nat}

theorem keys (S : OpsStruct T L D o Inv rr) {ℓ : Nat} {path : List Nat} {hk : Nat} {e : MElemF α}
    (h : MElemOk T L D o Inv ℓ path hk e) :
    ∀ p ∈ e.toList o, KeyOk T L D p.1 ∧ p.1.digs.take (ℓ + 1) = path ++ [hk] := by
  cases e with
  | single x => intro p hp; simp [MElemF.toList] at hp; subst hp; exact ⟨h.1.1, h.2⟩
  | inl g => exact S.keys h.1
  | ext id sz s => exact S.keys h.ext_inv

theorem distinct (S : OpsStruct T L D o Inv rr) {ℓ : Nat} {path : List Nat} {hk : Nat} {e : MElemF α}
    (h : MElemOk T L D o Inv ℓ path hk e) : KeysDistinct (e.toList o) := by
  cases e with
  | single x => simp [MElemF.toList, KeysDistinct]
  | inl g => exact S.distinct h.1
  | ext id sz s => exact S.distinct h.ext_inv

theorem ordered (S : OpsStruct T L D o Inv rr) {ℓ : Nat} {path : List Nat} {hk : Nat} {e : MElemF α}
    (h : MElemOk T L D o Inv ℓ path hk e) :
    ((e.toList o).map (fun p => p.1.digs)).Pairwise (fun a b => a = b ∨ List.Lex (· < ·) a b) := by
  cases e with
  | single x => simp [MElemF.toList]
  | inl g => exact S.ordered h.1
  | ext id sz s => exact S.ordered h.ext_inv

theorem toList_ne_nil (S : OpsStruct T L D o Inv rr) {ℓ : Nat} {path : List Nat} {hk : Nat} {e : MElemF α}
    (h : MElemOk T L D o Inv ℓ path hk e) : e.toList o ≠ [] := by
  cases e with
  | single x => simp [MElemF.toList]
  | inl g => exact (S.count_pos h.1).mp h.2.1
  | ext id sz s => exact (S.count_pos h.ext_inv).mp h.ext_count

theorem count_pos {ℓ : Nat} {path : List Nat} {hk : Nat} {e : MElemF α}
    (h : MElemOk T L D o Inv ℓ path hk e) : 1 ≤ e.count o := by
  cases e with
  | single x => simp [MElemF.count]
  | inl g => exact h.2.1
  | ext id sz s => exact h.ext_count

theorem size_le (hT : legalThreshold T = true) {ℓ : Nat} {path : List Nat} {hk : Nat} {e : MElemF α}
    (h : MElemOk T L D o Inv ℓ path hk e) (h0 : ℓ = 0) : e.size o ≤ maxInlineMapElem T := by
  cases e with
  | single x =>
    obtain ⟨⟨hk, h1, h2, h3⟩, _⟩ := h
    show x.size ≤ _
    rw [h3]; exact single_size_le hT hk.2.2 h2
  | inl g => exact h.2.2.2 h0
  | ext id sz s => show sz ≤ _; rw [h.2.1]; exact ext_size_le hT

theorem get (S : OpsSpec T L D cfg o Inv rr) (hc : CfgFor cfg T L) {ℓ : Nat} {path : List Nat} {hk : Nat}
    {e : MElemF α} (hℓ : ℓ + rr + 1 = L) (h : MElemOk T L D o Inv ℓ path hk e) {k : MKey} (hkk : KeyOk T L D k)
    (hp : k.digs.take (ℓ + 1) = path ++ [hk]) :
    (∀ v, (k, v) ∈ e.toList o → e.get o cfg ℓ k = .ok (k, v)) ∧
    ((∀ p ∈ e.toList o, p.1 ≠ k) → e.get o cfg ℓ k = .error .keyNotFound) := by
  have hlev : ¬ (ℓ + 1 > cfg.L) := by rw [hc.hL]; omega
  cases e with
  | single x =>
    constructor
    · intro v hm
      simp [MElemF.toList] at hm
      simp [MElemF.get, ← hm.1, ← hm.2, MKey.same_self]
    · intro hne
      have := hne (x.key, x.val) (by simp [MElemF.toList])
      have hs : x.key.same k = false := (KeyOk.same_false_iff h.1.1 hkk).mpr this
      simp [MElemF.get, hs]
  | inl g =>
    simp only [MElemF.get, if_neg hlev, MElemF.toList]
    exact S.get h.1 hkk hp
  | ext id sz s =>
    simp only [MElemF.get, if_neg hlev, MElemF.toList]
    exact S.get h.ext_inv hkk hp

theorem grp_of_two (S : OpsStruct T L D o Inv rr) {ℓ : Nat} {path : List Nat} {g : α} (hg : Inv ℓ path g)
    (hlen : 2 ≤ (o.toList g).length) : 1 ≤ o.count g ∧ o.soleSingle g = none := by
  constructor
  · apply (S.count_pos hg).mpr
    intro h; rw [h] at hlen; simp at hlen
  · cases hs : o.soleSingle g with
    | none => rfl
    | some y =>
      have := (S.sole hg hs).2.1
      rw [this] at hlen; simp at hlen

theorem inlSet_spec (S : OpsStruct T L D o Inv rr) (hc : CfgFor cfg T L) {ℓ : Nat} {path : List Nat} {hk : Nat}
    (hℓ : ℓ + rr + 1 = L) {g : α} (hg : Inv (ℓ + 1) (path ++ [hk]) g) {k : MKey}
    (h2 : 2 ≤ (o.toList g).length ∨ (∃ x, o.toList g = [x] ∧ x.1 ≠ k))
    (hp : k.digs.take (ℓ + 1) = path ++ [hk]) {v : Elem} (hs : SetsAt cfg o Inv k v) (c : Ctx) :
    ∃ e' old c', MElemF.inlSet o cfg g ℓ k v c = .ok (e', k, old, c') ∧ MElemOk T L D o Inv ℓ path hk e' ∧
      SetEffect (o.toList g) (e'.toList o) k (storedValue cfg k v c) old ∧ c.ctr ≤ c'.ctr ∧
      (∀ id, e'.extId? = some id → id.idx ≤ c'.ctr) := by
  have hlev : ¬ (ℓ + 1 > cfg.L) := by rw [hc.hL]; omega
  obtain ⟨old, g', c', hset, hinv', heff, hctr⟩ := hs c hg (by omega) hp
  have hlen : 2 ≤ (o.toList g').length := by
    rcases h2 with h2 | ⟨x, hx, hxk⟩
    · have := heff.length_ge; omega
    · rcases heff with ⟨_, _, A, B, hAB, hAB'⟩ | ⟨v0, A, B, _, hAB, _⟩
      · rw [hAB', List.length_append, List.length_cons]
        have : (A ++ B).length = 1 := by rw [← hAB, hx]; rfl
        rw [List.length_append] at this; omega
      · exfalso
        rw [hx] at hAB
        have hm : (k, v0) ∈ [x] := by rw [hAB]; simp
        simp at hm; rw [← hm] at hxk; exact hxk rfl
  obtain ⟨hcnt, hsole⟩ := grp_of_two S hinv' hlen
  simp only [MElemF.inlSet, hset, if_neg hlev, bind, Except.bind, pure, Except.pure]
  split
  · rename_i hbig
    refine ⟨_, _, _, rfl, ?_, heff, ?_, ?_⟩
    · simp only [Bool.and_eq_true, beq_iff_eq, decide_eq_true_eq] at hbig
      exact ⟨by omega, rfl, rfl, rfl, rfl, hinv', hcnt, hsole⟩
    · simp [Ctx.alloc, Ctx.emit]; omega
    · intro id hid
      simp [MElemF.extId?] at hid
      subst hid
      simp [Ctx.alloc, Ctx.emit]
  · rename_i hbig
    refine ⟨_, _, _, rfl, ?_, heff, hctr, ?_⟩
    · refine ⟨hinv', hcnt, hsole, ?_⟩
      intro h0
      simp only [Bool.and_eq_true, beq_iff_eq, decide_eq_true_eq, not_and, Nat.not_lt] at hbig
      have := hbig (by omega)
      rw [hc.hT] at this; omega
    · intro id hid; simp [MElemF.extId?] at hid

theorem setR (S : OpsSpec T L D cfg o Inv rr) (hT : legalThreshold T = true) (hc : CfgFor cfg T L)
    {ℓ : Nat} {path : List Nat} {hk : Nat} {e : MElemF α} (hℓ : ℓ + rr + 1 = L)
    (h : MElemOk T L D o Inv ℓ path hk e) {k : MKey} (hkk : KeyOk T L D k)
    (hp : k.digs.take (ℓ + 1) = path ++ [hk]) {v : Elem} (hv : ValueOkR T k.size v)
    (hset : SetsAt cfg o Inv k v) (c : Ctx) :
    ∃ e' old c', e.set o cfg ℓ k v c = .ok (e', k, old, c') ∧ MElemOk T L D o Inv ℓ path hk e' ∧
      SetEffect (e.toList o) (e'.toList o) k (storedValue cfg k v c) old ∧ c.ctr ≤ c'.ctr ∧
      (∀ id, e'.extId? = some id → e.extId? = some id ∨ id.idx ≤ c'.ctr) := by
  have hlev : ¬ (ℓ + 1 > cfg.L) := by rw [hc.hL]; omega
  cases e with
  | single x =>
    obtain ⟨hx, hxp⟩ := h
    cases hs : x.key.same k with
    | true =>
      have hxk := (KeyOk.same_iff hx.1 hkk).mp hs
      rcases hts : toStorableLim (maxInlineMapValue cfg.T k.size) cfg.addr v c with ⟨vs, c1⟩
      have hsv : storedValue cfg k v c = vs := by simp [storedValue, hts]
      have hspec := toStorableLim_specR (T := cfg.T) (ks := k.size) (addr := cfg.addr) c (by rw [hc.hT]; exact hv)
        (by rw [hc.hT]; exact maxInlineMapValue_ge hT hkk.2.2)
      rw [hts, hc.hT] at hspec
      subst hxk
      simp only [MElemF.set, hs, if_true, hts, hsv]
      refine ⟨_, _, _, rfl, ⟨⟨hx.1, hspec.1, hspec.2.1, rfl⟩, hxp⟩, ?_, hspec.2.2, ?_⟩
      · right; exact ⟨x.val, [], [], rfl, rfl, rfl⟩
      · intro id hid; simp [MElemF.extId?] at hid
    | false =>
      have hxk := (KeyOk.same_false_iff hx.1 hkk).mp hs
      obtain ⟨g, hnew, hginv, hgl⟩ := S.newWith (ℓ := ℓ + 1) (by omega) hx hxp
      obtain ⟨e', old, c', h1, h2, h3, h4, h5⟩ := inlSet_spec S.toOpsStruct hc hℓ hginv
        (Or.inr ⟨(x.key, x.val), hgl, hxk⟩) hp hset c
      simp only [MElemF.set, hs, Bool.false_eq_true, if_false, hnew, bind, Except.bind, h1]
      refine ⟨_, _, _, rfl, h2, ?_, h4, fun id hid => Or.inr (h5 id hid)⟩
      rw [hgl] at h3; exact h3
  | inl g =>
    obtain ⟨hg, hcnt, hsole, _⟩ := h
    obtain ⟨e', old, c', h1, h2, h3, h4, h5⟩ := inlSet_spec S.toOpsStruct hc hℓ hg
      (Or.inl (S.two_keys hg hcnt hsole)) hp hset c
    simp only [MElemF.set, h1]
    exact ⟨_, _, _, rfl, h2, h3, h4, fun id hid => Or.inr (h5 id hid)⟩
  | ext id sz s =>
    obtain ⟨h0, hsz, hid, hsize, hfk, hg, hcnt, hsole⟩ := h
    obtain ⟨old, g', c', hset, hinv', heff, hctr⟩ := hset c hg (by omega) hp
    have hlen : 2 ≤ (o.toList g').length := by
      have := heff.length_ge; have := S.two_keys hg hcnt hsole; omega
    obtain ⟨hcnt', hsole'⟩ := grp_of_two S.toOpsStruct hinv' hlen
    simp only [MElemF.set, if_neg hlev, hset, bind, Except.bind, pure, Except.pure, MElemF.groupSlabUpdate]
    refine ⟨_, _, _, rfl, ⟨h0, hsz, hid, rfl, rfl, hinv', hcnt', hsole'⟩, heff, ?_, ?_⟩
    · simp [Ctx.emit]; exact hctr
    · intro id' hid'; left; exact hid'

theorem set (S : OpsSpec T L D cfg o Inv rr) (hT : legalThreshold T = true) (hc : CfgFor cfg T L)
    {ℓ : Nat} {path : List Nat} {hk : Nat} {e : MElemF α} (hℓ : ℓ + rr + 1 = L)
    (h : MElemOk T L D o Inv ℓ path hk e) {k : MKey} (hkk : KeyOk T L D k)
    (hp : k.digs.take (ℓ + 1) = path ++ [hk]) {v : Elem} (hv : ValueOkM v) (c : Ctx) :
    ∃ e' old c', e.set o cfg ℓ k v c = .ok (e', k, old, c') ∧ MElemOk T L D o Inv ℓ path hk e' ∧
      SetEffect (e.toList o) (e'.toList o) k (storedValue cfg k v c) old ∧ c.ctr ≤ c'.ctr ∧
      (∀ id, e'.extId? = some id → e.extId? = some id ∨ id.idx ≤ c'.ctr) :=
  setR S hT hc hℓ h hkk hp (hv.okR T k.size) (S.setsAt hkk hv) c

theorem count_pos_of_rem (S : OpsStruct T L D o Inv rr) {ℓ : Nat} {path : List Nat} {g' : α} (hg' : Inv ℓ path g')
    {n : Nat} (hlen : (o.toList g').length + 1 = n) (h2 : 2 ≤ n) : 1 ≤ o.count g' :=
  (S.count_pos hg').mpr (fun hnil => by rw [hnil] at hlen; subst hlen; exact absurd h2 (by decide))

theorem remove (S : OpsSpec T L D cfg o Inv rr) (hc : CfgFor cfg T L)
    {ℓ : Nat} {path : List Nat} {hk : Nat} {e : MElemF α} (hℓ : ℓ + rr + 1 = L)
    (h : MElemOk T L D o Inv ℓ path hk e) {k : MKey} (hkk : KeyOk T L D k)
    (hp : k.digs.take (ℓ + 1) = path ++ [hk]) (c : Ctx) :
    ((∀ p ∈ e.toList o, p.1 ≠ k) → e.remove o cfg ℓ k c = .error .keyNotFound) ∧
    (∀ v, (k, v) ∈ e.toList o → ∃ r c', e.remove o cfg ℓ k c = .ok (k, v, r, c') ∧ c'.ctr = c.ctr ∧
      match r with
      | none => e.toList o = [(k, v)]
      | some e' => MElemOk T L D o Inv ℓ path hk e' ∧ RemEffect (e.toList o) (e'.toList o) k v ∧
          (∀ id, e'.extId? = some id → e.extId? = some id) ∧ (1 ≤ ℓ → e'.size o ≤ e.size o)) := by
  have hlev : ¬ (ℓ + 1 > cfg.L) := by rw [hc.hL]; omega
  cases e with
  | single x =>
    constructor
    · intro hne
      have := hne (x.key, x.val) (by simp [MElemF.toList])
      have hs : x.key.same k = false := (KeyOk.same_false_iff h.1.1 hkk).mpr this
      simp [MElemF.remove, hs]
    · intro v hm
      simp [MElemF.toList] at hm
      refine ⟨none, c, ?_, rfl, ?_⟩
      · simp [MElemF.remove, ← hm.1, ← hm.2, MKey.same_self]
      · simp [MElemF.toList, hm.1, hm.2]
  | inl g =>
    obtain ⟨hg, hcnt, hsole, hsz⟩ := h
    obtain ⟨hrem1, hrem2⟩ := S.remove c hg (Nat.le_add_left 1 ℓ) hkk hp
    constructor
    · intro hne
      simp only [MElemF.remove, if_neg hlev, hrem1 hne, bind, Except.bind]
    · intro v hm
      obtain ⟨g', c', hr, hinv', heff, hsize, hctr⟩ := hrem2 v hm
      have hlen := heff.length
      have h2 := S.two_keys hg hcnt hsole
      simp only [MElemF.remove, if_neg hlev, hr, bind, Except.bind, pure, Except.pure]
      cases hs : o.soleSingle g' with
      | some x =>
        obtain ⟨hxok, hxl, hxs⟩ := S.sole hinv' hs
        have hxp := (S.keys hinv' (x.key, x.val) (by rw [hxl]; simp)).2
        refine ⟨_, _, rfl, hctr, ⟨hxok, hxp⟩, ?_, ?_, ?_⟩
        · simp only [MElemF.toList]; rw [← hxl]; exact heff
        · intro id hid; cases hid
        · exact fun _ => Nat.le_trans hxs (Nat.le_trans hsize (Nat.le_add_left _ _))
      | none =>
        have hcnt' : 1 ≤ o.count g' := count_pos_of_rem S.toOpsStruct hinv' hlen h2
        refine ⟨_, _, rfl, hctr, ⟨hinv', hcnt', hs, ?_⟩, heff, ?_, ?_⟩
        · exact fun h0 => Nat.le_trans (Nat.add_le_add_left hsize _) (hsz h0)
        · intro id hid; cases hid
        · exact fun _ => Nat.add_le_add_left hsize _
  | ext id sz s =>
    obtain ⟨h0, hsz, hid, hsize, hfk, hg, hcnt, hsole⟩ := h
    obtain ⟨hrem1, hrem2⟩ := S.remove c hg (Nat.le_add_left 1 ℓ) hkk hp
    constructor
    · intro hne
      simp only [MElemF.remove, if_neg hlev, hrem1 hne, bind, Except.bind]
    · intro v hm
      obtain ⟨g', c', hr, hinv', heff, hsize', hctr⟩ := hrem2 v hm
      have hlen := heff.length
      have h2 := S.two_keys hg hcnt hsole
      simp only [MElemF.remove, if_neg hlev, hr, bind, Except.bind, pure, Except.pure, MElemF.groupSlabUpdate]
      cases hs : o.soleSingle g' with
      | some x =>
        obtain ⟨hxok, hxl, hxs⟩ := S.sole hinv' hs
        have hxp := (S.keys hinv' (x.key, x.val) (by rw [hxl]; simp)).2
        refine ⟨_, _, rfl, ?_, ⟨hxok, hxp⟩, ?_, ?_, ?_⟩
        · simp [Ctx.emit]; exact hctr
        · simp only [MElemF.toList]; rw [← hxl]; exact heff
        · intro id hid; cases hid
        · exact fun h1 => absurd (h0 ▸ h1) (by decide)
      | none =>
        have hcnt' : 1 ≤ o.count g' := count_pos_of_rem S.toOpsStruct hinv' hlen h2
        refine ⟨_, _, rfl, ?_, ⟨h0, hsz, hid, rfl, rfl, hinv', hcnt', hs⟩, heff, ?_, ?_⟩
        · simp [Ctx.emit]; exact hctr
        · intro id' hid'; exact hid'
        · exact fun _ => Nat.le_refl _

end MElemOk
end Atree

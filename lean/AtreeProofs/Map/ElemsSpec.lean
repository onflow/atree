import AtreeProofs.Map.Dict
import AtreeProofs.Map.Arith
/-
  Specification of an `ElemsOps` record (`OpsSpec`: behaves like a dictionary and preserves `Inv`;
  `SetsAt`: its `set` clause for one key and one value, `SetSpecR`: that clause for every `ValueOkR`
  value), the per-element invariant and the generic invariant of a digest table over such elements.
  `OpsSpec.set` speaks of plain values (`ValueOkM`), `SetSpecR.set` of the larger class `ValueOkR`
  (`ValueOkM.okR`); every `MElems.ops r` satisfies both (`MElems.opsSpec`, `MElems.setSpecR` in
  `Map/HkeySpec.lean`), the second being proved at each level from the first for the level below.
-/
namespace Atree
open Gen

structure CfgFor (cfg : MCfg) (T L : Nat) : Prop where
  hT : cfg.T = T
  hL : cfg.L = L

/-- structural facts about the values satisfying `Inv level path`; `rr` is the number of digest
    levels below (`level + rr = L`). -/
structure OpsStruct (T L : Nat) (D : DigestFn L) {α : Type} (o : ElemsOps α)
    (Inv : Nat → List Nat → α → Prop) (rr : Nat) : Prop where
  level_eq : ∀ {ℓ path e}, Inv ℓ path e → ℓ + rr = L
  keys : ∀ {ℓ path e}, Inv ℓ path e → ∀ p ∈ o.toList e, KeyOk T L D p.1 ∧ p.1.digs.take ℓ = path
  distinct : ∀ {ℓ path e}, Inv ℓ path e → KeysDistinct (o.toList e)
  ordered : ∀ {ℓ path e}, Inv ℓ path e →
    ((o.toList e).map (fun p => p.1.digs)).Pairwise (fun a b => a = b ∨ List.Lex (· < ·) a b)
  count_pos : ∀ {ℓ path e}, Inv ℓ path e → (1 ≤ o.count e ↔ o.toList e ≠ [])
  two_keys : ∀ {ℓ path e}, Inv ℓ path e → 1 ≤ o.count e → o.soleSingle e = none → 2 ≤ (o.toList e).length
  sole : ∀ {ℓ path e x}, Inv ℓ path e → o.soleSingle e = some x →
    SElemOk T L D x ∧ o.toList e = [(x.key, x.val)] ∧ x.size ≤ o.size e
  popIter : ∀ e c, (o.popIter e c).1 = (o.toList e).reverse

/-- `o` implements a dictionary on values satisfying `Inv level path`. -/
structure OpsSpec (T L : Nat) (D : DigestFn L) (cfg : MCfg) {α : Type} (o : ElemsOps α)
    (Inv : Nat → List Nat → α → Prop) (rr : Nat) : Prop extends OpsStruct T L D o Inv rr where
  newWith : ∀ {ℓ path x}, ℓ + rr = L → SElemOk T L D x → x.key.digs.take ℓ = path →
    ∃ g, o.newWith cfg ℓ x = .ok g ∧ Inv ℓ path g ∧ o.toList g = [(x.key, x.val)]
  get : ∀ {ℓ path e k}, Inv ℓ path e → KeyOk T L D k → k.digs.take ℓ = path →
    (∀ v, (k, v) ∈ o.toList e → o.get cfg e ℓ k = .ok (k, v)) ∧
    ((∀ p ∈ o.toList e, p.1 ≠ k) → o.get cfg e ℓ k = .error .keyNotFound)
  set : ∀ {ℓ path e k v} (c : Ctx), Inv ℓ path e → 1 ≤ ℓ → KeyOk T L D k → k.digs.take ℓ = path → ValueOkM v →
    ∃ old e' c', o.set cfg e ℓ k v c = .ok (k, old, e', c') ∧ Inv ℓ path e' ∧
      SetEffect (o.toList e) (o.toList e') k (storedValue cfg k v c) old ∧ c.ctr ≤ c'.ctr
  remove : ∀ {ℓ path e k} (c : Ctx), Inv ℓ path e → 1 ≤ ℓ → KeyOk T L D k → k.digs.take ℓ = path →
    ((∀ p ∈ o.toList e, p.1 ≠ k) → o.remove cfg e ℓ k c = .error .keyNotFound) ∧
    (∀ v, (k, v) ∈ o.toList e → ∃ e' c', o.remove cfg e ℓ k c = .ok (k, v, e', c') ∧ Inv ℓ path e' ∧
      RemEffect (o.toList e) (o.toList e') k v ∧ o.size e' ≤ o.size e ∧ c'.ctr = c.ctr)

instance {T L : Nat} {D : DigestFn L} {cfg : MCfg} {α : Type} {o : ElemsOps α}
    {Inv : Nat → List Nat → α → Prop} {rr : Nat} :
    CoeOut (OpsSpec T L D cfg o Inv rr) (OpsStruct T L D o Inv rr) := ⟨fun s => s.toOpsStruct⟩

/-- `o.set` of the key `k` and the value `v` succeeds on everything satisfying `Inv`: what the lemmas about
    one level need of the level below, whatever makes `v` acceptable -/
def SetsAt (cfg : MCfg) {α : Type} (o : ElemsOps α) (Inv : Nat → List Nat → α → Prop) (k : MKey) (v : Elem) : Prop :=
  ∀ {ℓ path e} (c : Ctx), Inv ℓ path e → 1 ≤ ℓ → k.digs.take ℓ = path →
    ∃ old e' c', o.set cfg e ℓ k v c = .ok (k, old, e', c') ∧ Inv ℓ path e' ∧
      SetEffect (o.toList e) (o.toList e') k (storedValue cfg k v c) old ∧ c.ctr ≤ c'.ctr

theorem OpsSpec.setsAt {T L : Nat} {D : DigestFn L} {cfg : MCfg} {α : Type} {o : ElemsOps α}
    {Inv : Nat → List Nat → α → Prop} {rr : Nat} (S : OpsSpec T L D cfg o Inv rr) {k : MKey} {v : Elem}
    (hk : KeyOk T L D k) (hv : ValueOkM v) : SetsAt cfg o Inv k v :=
  fun c h h1 hp => S.set c h h1 hk hp hv

/-- the `set` field of `OpsSpec` for `ValueOkR` values -/
structure SetSpecR (T L : Nat) (D : DigestFn L) (cfg : MCfg) {α : Type} (o : ElemsOps α)
    (Inv : Nat → List Nat → α → Prop) : Prop where
  set : ∀ {k v}, KeyOk T L D k → ValueOkR T k.size v → SetsAt cfg o Inv k v

/-- invariant of one element of a digest table at `level`, below digest `hk` -/
def MElemOk (T L : Nat) (D : DigestFn L) {α : Type} (o : ElemsOps α) (Inv : Nat → List Nat → α → Prop)
    (ℓ : Nat) (path : List Nat) (hk : Nat) : MElemF α → Prop
  | .single x => SElemOk T L D x ∧ x.key.digs.take (ℓ + 1) = path ++ [hk]
  | .inl g => Inv (ℓ + 1) (path ++ [hk]) g ∧ 1 ≤ o.count g ∧ o.soleSingle g = none ∧
      (ℓ = 0 → inlineCollisionGroupPrefixSize + o.size g ≤ maxInlineMapElem T)
  | .ext id sz s => ℓ = 0 ∧ sz = externalCollisionGroupPrefixSize + slabIDStorableSize ∧ s.hdr.id = id ∧
      s.hdr.size = mapDataSlabPrefixSize + o.size s.elems ∧ s.hdr.firstKey = o.firstKey s.elems ∧
      Inv (ℓ + 1) (path ++ [hk]) s.elems ∧ 1 ≤ o.count s.elems ∧ o.soleSingle s.elems = none

section
variable {T L : Nat} {D : DigestFn L} {α : Type} {o : ElemsOps α} {Inv : Nat → List Nat → α → Prop}
  {ℓ hk : Nat} {path : List Nat} {id : SlabID} {sz : Nat} {s : GroupSlab α}

theorem MElemOk.ext_inv (h : MElemOk T L D o Inv ℓ path hk (.ext id sz s)) : Inv (ℓ + 1) (path ++ [hk]) s.elems :=
  h.2.2.2.2.2.1
theorem MElemOk.ext_count (h : MElemOk T L D o Inv ℓ path hk (.ext id sz s)) : 1 ≤ o.count s.elems :=
  h.2.2.2.2.2.2.1
theorem MElemOk.ext_sole (h : MElemOk T L D o Inv ℓ path hk (.ext id sz s)) : o.soleSingle s.elems = none :=
  h.2.2.2.2.2.2.2
theorem MElemOk.ext_id (h : MElemOk T L D o Inv ℓ path hk (.ext id sz s)) : s.hdr.id = id := h.2.2.1
end

/-- generic form of `ElemsInv … (r+1)` -/
def HInv (T L : Nat) (D : DigestFn L) {α : Type} (o : ElemsOps α) (Inv : Nat → List Nat → α → Prop) (rr : Nat)
    (ℓ : Nat) (path : List Nat) (he : HkeyElems α) : Prop :=
  ℓ + rr + 1 = L ∧ he.level = ℓ ∧ he.hkeys.length = he.elems.length ∧ he.hkeys.Pairwise (· < ·) ∧
  he.size = hkeyElementsPrefixSize + HkeyElems.elemSizes o he.elems ∧
  ∀ (i hk : Nat) (el : MElemF α), he.hkeys[i]? = some hk → he.elems[i]? = some el → MElemOk T L D o Inv ℓ path hk el

theorem elemsInv_succ_iff (T L : Nat) (D : DigestFn L) (r ℓ : Nat) (path : List Nat) (he : HkeyElems (MElems r)) :
    ElemsInv T L D (r + 1) ℓ path he ↔ HInv T L D (MElems.ops r) (ElemsInv T L D r) r ℓ path he := by
  simp only [ElemsInv, HInv]
  constructor
  · rintro ⟨h1, h2, h3, h4, h5, h6⟩
    refine ⟨h1, h2, h3, h4, h5, ?_⟩
    intro i hk el hi he'
    have := h6 i hk el hi he'
    cases el <;> exact this
  · rintro ⟨h1, h2, h3, h4, h5, h6⟩
    refine ⟨h1, h2, h3, h4, h5, ?_⟩
    intro i hk el hi he'
    have := h6 i hk el hi he'
    cases el <;> exact this

/-- the IDs of the external collision groups among first-level elements -/
def extIds {α : Type} (l : List (MElemF α)) : List SlabID :=
  l.filterMap (fun el => match el with | .ext id _ _ => some id | _ => none)

def MElemF.extId? {α : Type} : MElemF α → Option SlabID
  | .ext id _ _ => some id
  | _ => none

end Atree

import AtreeProofs.Map.Limit
import AtreeProofs.Map.Empty
/-
  A concrete map built by running the model (used by the `NonVacuity` sections of C02 / C12):
  two digest levels (`r = 1`), threshold 256, collision limit 1, a digest function with a tiny
  alphabet (the decimal digits of the key payload), so that an inline collision group, an external
  collision group and last-level lists all occur.
-/
namespace Atree
open Gen

namespace MapExample

/-- running a `set` / `remove`; a refused operation leaves the state unchanged -/
def stepSet {r : Nat} (cfg : MCfg) (st : OMap r × Ctx) (k : MKey) (v : Elem) : OMap r × Ctx :=
  match st.1.set cfg k v st.2 with
  | .ok (_, m', c') => (m', c')
  | .error _ => st

def stepRemove {r : Nat} (cfg : MCfg) (st : OMap r × Ctx) (k : MKey) : OMap r × Ctx :=
  match st.1.remove cfg k st.2 with
  | .ok (_, _, m', c') => (m', c')
  | .error _ => st

theorem stepSet_of_ok {r : Nat} {cfg : MCfg} {st : OMap r × Ctx} {k : MKey} {v : Elem} {o : Option Elem}
    {st' : OMap r × Ctx} (h : st.1.set cfg k v st.2 = .ok (o, st'.1, st'.2)) : stepSet cfg st k v = st' := by
  unfold stepSet; rw [h]

theorem stepRemove_of_ok {r : Nat} {cfg : MCfg} {st : OMap r × Ctx} {k k0 : MKey} {v0 : Elem}
    {st' : OMap r × Ctx} (h : st.1.remove cfg k st.2 = .ok (k0, v0, st'.1, st'.2)) :
    stepRemove cfg st k = st' := by
  unfold stepRemove; rw [h]

/-- the state (map + allocation context) is well-formed -/
structure Good {r : Nat} (T : Nat) (D : DigestFn (r + 1)) (cfg : MCfg) (st : OMap r × Ctx) : Prop where
  inv : MapInv T D st.1
  ctx : CtxOk st.1 st.2
  cfgok : CfgOk cfg T st.1

variable {r : Nat} {T : Nat} {D : DigestFn (r + 1)} {cfg : MCfg}

theorem Good.new (hT : legalThreshold T = true) (hcT : cfg.T = T) (hcL : cfg.L = r + 1) (ty : Nat)
    (seedOf : SlabID → Nat) (c : Ctx) : Good T D cfg (OMap.new (r := r) cfg.addr ty seedOf c) := by
  refine ⟨emptyMap_inv hT _ _ _, ?_, ⟨hcT, hcL, rfl⟩⟩
  intro id hid _
  have : id ∈ CtxOk.mapSlabIds 0 (emptyRoot r (c.alloc cfg.addr).1) := hid
  rw [mapSlabIds_zero] at this
  simp [emptyRoot, extIds] at this
  rw [this]
  simp [OMap.new, Ctx.alloc, Ctx.emit]

theorem Good.set (hT : legalThreshold T = true) {st : OMap r × Ctx} (h : Good T D cfg st) {k : MKey}
    (hk : KeyOk T (r + 1) D k) {v : Elem} (hv : ValueOkM v) : Good T D cfg (stepSet cfg st k v) := by
  have hs := OMap.set_spec hT h.cfgok h.inv hk hv st.2
  unfold stepSet
  by_cases hl : TLimited cfg st.1.d st.1.root k
  · rw [hs.1 hl]; exact h
  · obtain ⟨old, m', c', heq, hp⟩ := hs.2 hl
    rw [heq]
    exact ⟨hp.inv, hp.ctx h.ctx, h.cfgok.of_rootID hp.rootID⟩

theorem Good.remove (hT : legalThreshold T = true) {st : OMap r × Ctx} (h : Good T D cfg st) {k : MKey}
    (hk : KeyOk T (r + 1) D k) : Good T D cfg (stepRemove cfg st k) := by
  have hs := OMap.remove_spec hT h.cfgok h.inv hk st.2 h.ctx
  unfold stepRemove
  by_cases hex : ∃ v, (k, v) ∈ st.1.toList
  · obtain ⟨v, hv⟩ := hex
    obtain ⟨m', c', heq, hp⟩ := hs.2 v hv
    rw [heq]
    exact ⟨hp.inv, hp.ctx, h.cfgok.of_rootID hp.rootID⟩
  · have : ∀ p ∈ st.1.toList, p.1 ≠ k := by
      intro p hp hpk; exact hex ⟨p.2, by rw [← hpk]; exact hp⟩
    rw [hs.1 this]; exact h

/-- digests: the hundreds and the tens digit of the payload -/
def D2 : DigestFn 2 := ⟨fun p => [p.2 / 100 % 10, p.2 / 10 % 10], fun _ => rfl⟩

/-- the digests of `D2` are decimal digits, in particular 64-bit numbers -/
theorem D2_lt : ∀ p, ∀ h ∈ D2.dg p, h < 2 ^ 64 := fun _ =>
  List.forall_mem_cons.2 ⟨Nat.lt_of_lt_of_le (Nat.mod_lt _ (by decide)) (by decide),
    List.forall_mem_singleton.2 (Nat.lt_of_lt_of_le (Nat.mod_lt _ (by decide)) (by decide))⟩

def cfg2 : MCfg := { T := 256, L := 2, climit := 1, addr := 7 }

/-- a key of 10 bytes with payload `n` -/
def key (n : Nat) : MKey := { size := 10, pay := n, digs := D2.dg (10, n) }

/-- a value of 10 bytes -/
def val (n : Nat) : Elem := { size := 10, pay := .val n }

theorem key_ok (n : Nat) : KeyOk 256 2 D2 (key n) :=
  ⟨rfl, (by decide : 1 ≤ 10), (by decide : 10 ≤ maxInlineMapKey 256)⟩

theorem val_ok (n : Nat) : ValueOkM (val n) := ⟨(by decide : 1 ≤ 10), n, rfl⟩

def st0 : OMap 1 × Ctx := OMap.new (r := 1) cfg2.addr 0 (fun id => id.idx) { ctr := 0, eff := [] }

/-- nineteen insertions (inline group under digest 1 with a last-level list, external group under
    digest 3, plain entries; the root data slab is split on the way) and one removal -/
def run : OMap 1 × Ctx :=
  let s := st0
  let s := stepSet cfg2 s (key 211) (val 1)
  let s := stepSet cfg2 s (key 111) (val 2)
  let s := stepSet cfg2 s (key 112) (val 3)
  let s := stepSet cfg2 s (key 121) (val 4)
  let s := stepSet cfg2 s (key 311) (val 5)
  let s := stepSet cfg2 s (key 312) (val 6)
  let s := stepSet cfg2 s (key 313) (val 7)
  let s := stepSet cfg2 s (key 314) (val 8)
  let s := stepSet cfg2 s (key 321) (val 9)
  let s := stepSet cfg2 s (key 411) (val 10)
  let s := stepSet cfg2 s (key 511) (val 11)
  let s := stepSet cfg2 s (key 611) (val 12)
  let s := stepRemove cfg2 s (key 411)
  let s := stepSet cfg2 s (key 711) (val 13)
  let s := stepSet cfg2 s (key 811) (val 14)
  let s := stepSet cfg2 s (key 911) (val 15)
  let s := stepSet cfg2 s (key 11) (val 16)
  let s := stepSet cfg2 s (key 521) (val 17)
  let s := stepSet cfg2 s (key 621) (val 18)
  stepSet cfg2 s (key 221) (val 19)

theorem legal256 : legalThreshold 256 = true := by decide

theorem run_good : Good 256 D2 cfg2 run := by
  unfold run
  simp only
  iterate 7 refine Good.set legal256 ?_ (key_ok _) (val_ok _)
  refine Good.remove legal256 ?_ (key_ok _)
  iterate 12 refine Good.set legal256 ?_ (key_ok _) (val_ok _)
  exact Good.new legal256 rfl rfl _ _ _

/-! ### the state reached by `run`, written out

Sections that inspect this state rewrite with `run_eq` first, so that the twenty requests are run
once, here, and not once per inspected fact. -/

/-- the single element `key k ↦ val v` (1 byte of prefix, 10 + 10 bytes of payload) -/
def se (k v : Nat) : SElem := ⟨key k, val v, 21⟩

/-- index slab `7.1` over the data slabs `7.3` (digests 0–3; an inline group with a last-level list
    under 1, an inline group under 2, the external group `7.2` under 3) and `7.4` (digests 5–9) -/
def runMap : OMap 1 :=
  ⟨1, (⟨⟨⟨7, 1⟩, 48, 0⟩, [⟨⟨7, 3⟩, 265, 0⟩, ⟨⟨7, 4⟩, 265, 5⟩],
    [⟨⟨⟨7, 3⟩, 265, 0⟩, ⟨7, 4⟩,
      ⟨[0, 1, 2, 3],
       [.single (se 11 16),
        .inl ⟨[1, 2], [.inl ⟨[se 111 2, se 112 3], 48, 2⟩, .single (se 121 4)], 95, 1⟩,
        .inl ⟨[1, 2], [.single (se 211 1), .single (se 221 19)], 66, 1⟩,
        .ext ⟨7, 2⟩ 21 ⟨⟨⟨7, 2⟩, 155, 1⟩,
          ⟨[1, 2], [.inl ⟨[se 311 5, se 312 6, se 313 7, se 314 8], 90, 2⟩, .single (se 321 9)], 137, 1⟩⟩],
       247, 0⟩, false, false⟩,
     ⟨⟨⟨7, 4⟩, 265, 5⟩, ⟨0, 0⟩,
      ⟨[5, 6, 7, 8, 9],
       [.inl ⟨[1, 2], [.single (se 511 11), .single (se 521 17)], 66, 1⟩,
        .inl ⟨[1, 2], [.single (se 611 12), .single (se 621 18)], 66, 1⟩,
        .single (se 711 13), .single (se 811 14), .single (se 911 15)],
       247, 0⟩, false, false⟩], true⟩ : MMetaSlab (MDataSlab 1)), 0, 18, 1⟩

/-- four identifiers handed out; the storage calls of the twenty requests in order -/
def runCtx : Ctx :=
  ⟨4, [.alloc 7 ⟨7, 1⟩, .store ⟨7, 1⟩, .store ⟨7, 1⟩, .store ⟨7, 1⟩, .store ⟨7, 1⟩, .store ⟨7, 1⟩,
    .store ⟨7, 1⟩, .store ⟨7, 1⟩, .store ⟨7, 1⟩, .alloc 7 ⟨7, 2⟩, .store ⟨7, 2⟩, .store ⟨7, 1⟩,
    .store ⟨7, 2⟩, .store ⟨7, 1⟩, .store ⟨7, 1⟩, .store ⟨7, 1⟩, .store ⟨7, 1⟩, .store ⟨7, 1⟩,
    .store ⟨7, 1⟩, .store ⟨7, 1⟩, .store ⟨7, 1⟩, .store ⟨7, 1⟩, .store ⟨7, 1⟩, .alloc 7 ⟨7, 3⟩,
    .alloc 7 ⟨7, 4⟩, .store ⟨7, 3⟩, .store ⟨7, 4⟩, .store ⟨7, 1⟩, .store ⟨7, 4⟩, .store ⟨7, 1⟩,
    .store ⟨7, 3⟩, .store ⟨7, 1⟩], []⟩

theorem run_eq : run = (runMap, runCtx) := by rfl

/-- the kinds of the first-level elements of a single-slab map -/
def kinds (m : OMap 1) : List String :=
  (MTree.leaves m.d m.root).flatMap (fun s => s.elems.elems.map (fun el =>
    match el with
    | .single _ => "single"
    | .inl _ => "inline"
    | .ext _ _ _ => "external"))

end MapExample
end Atree

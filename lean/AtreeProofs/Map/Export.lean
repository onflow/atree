import AtreeProofs.Map.Paths
/-
  C12: WHEN a collision group lives in a slab of its own.  Pure facts about the code of
  `element.Set` / `element.Remove` / `hkeyElements.Set` / `hkeyElements.Remove` (no invariant is
  assumed): how the KIND of a first-level element (single element / inline collision group /
  external collision group) can change in one request.
-/
namespace Atree
open Gen

variable {α : Type}

/-- `el ↦ el'` by one `Set` at the first level.
    * an external group stays external, with the same slab (it is NOT re-inlined, whatever its size);
    * a single element that is overwritten stays a single element;
    * otherwise (a group is born from a single element, or an inline group is updated) the result is a
      group `g'`, and it is EXTERNAL EXACTLY WHEN `inlineCollisionGroupPrefixSize + size g'` exceeds
      the element limit: external ⇒ larger than the limit (with a well-formed new slab), inline ⇒
      within the limit. -/
def SetKindRel (T : Nat) (o : ElemsOps α) (el el' : MElemF α) : Prop :=
  match el, el' with
  | .ext id sz _, .ext id' sz' _ => id' = id ∧ sz' = sz
  | .ext _ _ _, _ => False
  | .single _, .single _ => True
  | .inl _, .single _ => False
  | _, .inl g' => inlineCollisionGroupPrefixSize + o.size g' ≤ maxInlineMapElem T
  | _, .ext _ sz' s' =>
    inlineCollisionGroupPrefixSize + o.size s'.elems > maxInlineMapElem T ∧
    sz' = externalCollisionGroupPrefixSize + slabIDStorableSize ∧
    s'.hdr.size = mapDataSlabPrefixSize + o.size s'.elems

/-- `el ↦ el'?` by one `Remove` at the first level (`none` = the element is gone).
    * a single element disappears;
    * an inline group stays inline or collapses to its last single element;
    * an external group stays external (same slab) or collapses to its last single element – it is
      never turned back into an inline group. -/
def RemoveKindRel (el : MElemF α) (el' : Option (MElemF α)) : Prop :=
  match el, el' with
  | .single _, none => True
  | .single _, some _ => False
  | _, none => False
  | .inl _, some (.inl _) => True
  | .inl _, some (.single _) => True
  | .inl _, some (.ext _ _ _) => False
  | .ext id sz _, some (.ext id' sz' _) => id' = id ∧ sz' = sz
  | .ext _ _ _, some (.single _) => True
  | .ext _ _ _, some (.inl _) => False

namespace MElemF

/-- `element.Set` at the first level -/
theorem set_kind (o : ElemsOps α) (cfg : MCfg) (el : MElemF α) (k : MKey) (v : Elem) (c : Ctx)
    {el' : MElemF α} {ks : MKey} {old : Option Elem} {c' : Ctx}
    (h : el.set o cfg 0 k v c = .ok (el', ks, old, c')) : SetKindRel cfg.T o el el' := by
  rcases set_cases h with ⟨x, rfl, _, _, _, _, rfl⟩ | ⟨g, hg, hin⟩ | ⟨id, sz, s, g', c1, rfl, _, rfl, _⟩
  · trivial
  · obtain ⟨g', c1, _, hcase⟩ := inlSet_cases hin
    -- the group is inline exactly when it is within the element limit
    rcases hcase with ⟨hle, rfl, _⟩ | ⟨_, hgt, rfl, _⟩
    · have hle : inlineCollisionGroupPrefixSize + o.size g' ≤ maxInlineMapElem cfg.T :=
        Nat.le_of_not_lt fun hh => hle ⟨rfl, hh⟩
      rcases hg with rfl | ⟨x, rfl, _⟩ <;> exact hle
    · rcases hg with rfl | ⟨x, rfl, _⟩ <;> exact ⟨hgt, rfl, rfl⟩
  · exact ⟨rfl, rfl⟩

/-- `element.Remove` at the first level -/
theorem remove_kind (o : ElemsOps α) (cfg : MCfg) (el : MElemF α) (level : Nat) (k : MKey) (c : Ctx)
    {rk : MKey} {rv : Elem} {el' : Option (MElemF α)} {c' : Ctx}
    (h : el.remove o cfg level k c = .ok (rk, rv, el', c')) : RemoveKindRel el el' := by
  rcases remove_cases h with ⟨x, rfl, _, _, _, rfl, _⟩ | ⟨g, g', rfl, _, hcase⟩ | ⟨id, sz, s, g', c1, rfl, _, hcase⟩
  · trivial
  · rcases hcase with ⟨x, _, rfl⟩ | ⟨_, rfl⟩ <;> trivial
  · rcases hcase with ⟨x, _, rfl, _⟩ | ⟨_, rfl, _⟩
    · trivial
    · exact ⟨rfl, rfl⟩

end MElemF

/-- what one `Set` does to the list of first-level elements: a new single element is inserted, or
    exactly one element changes, according to `SetKindRel` -/
def SetElemsRel (T : Nat) (o : ElemsOps α) (l l' : List (MElemF α)) : Prop :=
  (∃ A B x, l = A ++ B ∧ l' = A ++ .single x :: B) ∨
  (∃ A B el el', l = A ++ el :: B ∧ l' = A ++ el' :: B ∧ SetKindRel T o el el')

/-- what one `Remove` does to the list of first-level elements -/
def RemoveElemsRel (l l' : List (MElemF α)) : Prop :=
  ∃ A B el el', l = A ++ el :: B ∧ l' = A ++ el'.toList ++ B ∧ RemoveKindRel el el'

theorem SetElemsRel.lift {T : Nat} {o : ElemsOps α} {l l' : List (MElemF α)} (h : SetElemsRel T o l l')
    (P S : List (MElemF α)) : SetElemsRel T o (P ++ (l ++ S)) (P ++ (l' ++ S)) := by
  rcases h with ⟨A, B, x, rfl, rfl⟩ | ⟨A, B, el, el', rfl, rfl, hk⟩
  · exact Or.inl ⟨P ++ A, B ++ S, x, by simp, by simp⟩
  · exact Or.inr ⟨P ++ A, B ++ S, el, el', by simp, by simp, hk⟩

theorem RemoveElemsRel.lift {l l' : List (MElemF α)} (h : RemoveElemsRel l l')
    (P S : List (MElemF α)) : RemoveElemsRel (P ++ (l ++ S)) (P ++ (l' ++ S)) := by
  obtain ⟨A, B, el, el', rfl, rfl, hk⟩ := h
  exact ⟨P ++ A, B ++ S, el, el', by simp, by simp, hk⟩

namespace HkeyElems

/-- `hkeyElements.Set` at the first level, on the element list (`hlen`: one digest per element, part of
    every invariant of the digest tables) -/
theorem set_elems (o : ElemsOps α) (cfg : MCfg) (e : HkeyElems α) (k : MKey) (v : Elem) (c : Ctx)
    (hlen : e.hkeys.length = e.elems.length)
    {ks : MKey} {old : Option Elem} {e' : HkeyElems α} {c' : Ctx}
    (h : set o cfg e 0 k v c = .ok (ks, old, e', c')) : SetElemsRel cfg.T o e.elems e'.elems := by
  rcases set_inv h with ⟨idx, hidx, hres⟩ | ⟨i, el, el', hel, hs, he'⟩
  · have he' : e' = (insertNew cfg e idx (k.dig 0) k v c).2.2.1 := congrArg (·.2.2.1) hres
    exact he' ▸ Or.inl ⟨_, _, _, (List.take_append_drop idx e.elems).symm, insertIdx_eq (hlen ▸ hidx)⟩
  · obtain ⟨A, B, hAB, hA⟩ := split_at hel
    have he' : e'.elems = e.elems.set i el' := congrArg (·.elems) he'
    exact Or.inr ⟨A, B, el, el', hAB, by rw [he', hAB, set_at hA], MElemF.set_kind o cfg el k v c hs⟩

/-- `hkeyElements.Remove`, on the element list -/
theorem remove_elems (o : ElemsOps α) (cfg : MCfg) (e : HkeyElems α) (level : Nat) (k : MKey) (c : Ctx)
    {rk : MKey} {rv : Elem} {e' : HkeyElems α} {c' : Ctx}
    (h : remove o cfg e level k c = .ok (rk, rv, e', c')) : RemoveElemsRel e.elems e'.elems := by
  obtain ⟨i, el, el', hel, hr, he'⟩ := remove_inv h
  obtain ⟨A, B, hAB, hA⟩ := split_at hel
  refine ⟨A, B, el, el', hAB, ?_, MElemF.remove_kind o cfg el level k c hr⟩
  simp only at he'
  rw [he', hAB]
  cases el' with
  | none => exact (erase_at hA).trans (List.append_nil _ ▸ rfl)
  | some el2 => simp [set_at hA]

end HkeyElems

end Atree

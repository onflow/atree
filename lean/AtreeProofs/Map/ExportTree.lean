import AtreeProofs.Map.Export
import AtreeProofs.Map.Repair
import AtreeProofs.Map.Root
/-
  C12: the first-level elements of a whole map (`elems0`: all leaves, left to right) and what one
  `Set` / `Remove` does to them.  `elems0` is a `LeafView`, so the repair of an index slab
  (`afterChild_view`) and the root fix-up (`LeafView.rootFix`) only move elements between slabs, without
  any invariant; the leaf operation changes exactly one element according to `SetKindRel` /
  `RemoveKindRel`.
-/
namespace Atree
open Gen

variable {r : Nat}

/-- all first-level elements of a subtree, in order -/
def MTree.elems0 : (d : Nat) → MTree r d → List (MElemF (MElems r))
  | 0, (s : MDataSlab r) => s.elems.elems
  | d + 1, (m : MMetaSlab (MTree r d)) => m.children.flatMap (MTree.elems0 d)

/-- one digest per element in every leaf (part of `MapInv`) -/
def MTree.LenOk : (d : Nat) → MTree r d → Prop
  | 0, (s : MDataSlab r) => s.elems.hkeys.length = s.elems.elems.length
  | d + 1, (m : MMetaSlab (MTree r d)) => ∀ c ∈ m.children, MTree.LenOk d c

namespace MTree

theorem elems0_zero (s : MDataSlab r) : elems0 0 s = s.elems.elems := rfl
theorem elems0_succ {d : Nat} (m : MMetaSlab (MTree r d)) : elems0 (d + 1) m = m.children.flatMap (elems0 d) := rfl

theorem elems0_setId : ∀ (d : Nat) (t : MTree r d) (id : SlabID), elems0 d (setId d t id) = elems0 d t
  | 0, _, _ => rfl
  | _ + 1, _, _ => rfl

theorem elems0_setRoot : ∀ (d : Nat) (t : MTree r d) (b : Bool), elems0 d (setRoot d t b) = elems0 d t
  | 0, _, _ => rfl
  | _ + 1, _, _ => rfl

/-- `elems0` as a view of subtrees -/
def elems0View : LeafView r (MElemF (MElems r)) :=
  { V := elems0, f := id, W := elems0, zero := fun _ => rfl, add := fun _ _ => rfl, succ := fun _ _ => rfl }

end MTree

/-- all first-level elements of the map, in iteration order -/
def OMap.elems0 (m : OMap r) : List (MElemF (MElems r)) := MTree.elems0 m.d m.root

namespace MTree

theorem lenOk_of_inv {T : Nat} {D : DigestFn (r + 1)} : ∀ (d : Nat) (top : Bool) (t : MTree r d),
    MTreeInv T D d top t → LenOk d t
  | 0, _, _, h => ((mtreeInv_zero_iff T D _ _).mp h).loose.hinv.len_eq
  | d + 1, top, m, h => fun c hc => lenOk_of_inv d false c (((mtreeInv_succ_iff T D d top m).mp h).1.kid_inv c hc)

/-- `MapSlab.Set` on the first-level elements of the subtree -/
theorem set_elems0 {cfg : MCfg} {k : MKey} {v : Elem} {ks : MKey} {old : Option Elem} {d : Nat} {t t' : MTree r d}
    {c c' : Ctx} (hlen : LenOk d t) (h : set cfg d t k v c = .ok (ks, old, t', c')) :
    SetElemsRel cfg.T (MElems.ops r) (elems0 d t) (elems0 d t') :=
  set_induction (P := fun d t _ t' _ => LenOk d t → SetElemsRel cfg.T (MElems.ops r) (elems0 d t) (elems0 d t'))
    (fun s _ c _ h hlen => by
      obtain ⟨e, c1, hs, rfl, -⟩ := MDataSlab.set_ok_iff.1 h
      exact HkeyElems.set_elems (MElems.ops r) cfg s.elems k v c hlen hs)
    (fun d m t' _ child _ _ _ _ hch _ ih ha hlen => by
      obtain ⟨A, B, hAB, hk⟩ := split_at hch
      have e : elems0 (d + 1) t' = _ := afterChild_view elems0View hAB hk ha
      rw [e, elems0_succ, hAB, flatMap_at]
      exact (ih (hlen child (List.mem_of_getElem? hch))).lift _ _)
    d t t' c c' h hlen

/-- `MapSlab.Remove` on the first-level elements of the subtree -/
theorem remove_elems0 {cfg : MCfg} {k rk : MKey} {rv : Elem} {d : Nat} {t t' : MTree r d} {c c' : Ctx}
    (h : remove cfg d t k c = .ok (rk, rv, t', c')) : RemoveElemsRel (elems0 d t) (elems0 d t') :=
  remove_induction (P := fun d t _ t' _ => RemoveElemsRel (elems0 d t) (elems0 d t'))
    (fun s _ c _ h => by
      obtain ⟨e, c1, hs, rfl, -⟩ := MDataSlab.remove_ok_iff.1 h
      exact HkeyElems.remove_elems (MElems.ops r) cfg s.elems 0 k c hs)
    (fun d m t' _ child _ _ _ _ hch _ ih ha => by
      obtain ⟨A, B, hAB, hk⟩ := split_at hch
      have e : elems0 (d + 1) t' = _ := afterChild_view elems0View hAB hk ha
      rw [e, elems0_succ, hAB, flatMap_at]
      exact ih.lift _ _)
    d t t' c c' h

end MTree

/-- No re-inlining on shrink (one `Remove` on a whole map).  The first-level elements after a successful
    `Remove` are those before it except for exactly one element, which (`RemoveKindRel`) disappeared if it
    was a single element; stayed an inline group or collapsed to its last single element if it was an
    inline group; stayed an EXTERNAL group with the same slab, whatever its size, or collapsed to its last
    single element if it was an external group.  An external group never becomes an inline group. -/
theorem OMap.remove_elems0 (cfg : MCfg) (m m' : OMap r) (k : MKey) (c c' : Ctx) (rk : MKey) (rv : Elem)
    (hs : m.remove cfg k c = .ok (rk, rv, m', c')) : RemoveElemsRel m.elems0 m'.elems0 := by
  obtain ⟨root', c1, h1, hfix⟩ := OMap.remove_ok_iff.1 hs
  have e : m'.elems0 = MTree.elems0 m.d root' := MTree.elems0View.rootFix rfl hfix
  rw [e]
  exact MTree.remove_elems0 h1

/-- Export exactly when oversized (one `Set` on a whole map).  The first-level elements of the map after
    a successful `Set` are those before it, except that EITHER one new single element was inserted, OR
    exactly one element changed, and then (`SetKindRel`): an external collision group stayed external
    with the same slab; an overwritten single element stayed single; and in every other case the
    resulting collision group is external (with a well-formed slab) if and only if
    `inlineCollisionGroupPrefixSize + size` exceeds `maxInlineMapElementSize`, inline otherwise.
    In particular no other element is exported, inlined, or touched at all. -/
theorem OMap.set_elems0 {T : Nat} {D : DigestFn (r + 1)} (cfg : MCfg) (m m' : OMap r) (h : MapInv T D m)
    (k : MKey) (v : Elem) (c c' : Ctx) (old : Option Elem) (hs : m.set cfg k v c = .ok (old, m', c')) :
    SetElemsRel cfg.T (MElems.ops r) m.elems0 m'.elems0 := by
  obtain ⟨ks, root', c1, h1, hfix⟩ := OMap.set_ok_iff.1 hs
  have e : m'.elems0 = MTree.elems0 m.d root' := MTree.elems0View.rootFix rfl hfix
  rw [e]
  exact MTree.set_elems0 (MTree.lenOk_of_inv m.d true m.root h.tree) h1

end Atree

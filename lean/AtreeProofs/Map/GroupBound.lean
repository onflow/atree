import AtreeProofs.Map.Limit
import AtreeProofs.Map.HkeySpec
/-
  The count the collision-limit check looks at (`groupCount`: the number of entries of the
  first-level element below a digest) is at most the number of KEYS of the map that share that
  first-level digest.  So a refusal by the limit implies, in terms of the dictionary alone, that more
  than `climit` keys already share the first-level digest of the new key.
-/
namespace Atree
open Gen

variable {T : Nat} {r : Nat} {D : DigestFn (r + 1)}

theorem MElems.count_le_toList {L : Nat} (D : DigestFn L) : ∀ (r ℓ : Nat) (path : List Nat) (e : MElems r),
    ElemsInv T L D r ℓ path e → (MElems.ops r).count e ≤ ((MElems.ops r).toList e).length
  | 0, _, _, e, _ => by
    show e.elems.length ≤ (e.elems.map (fun x => (x.key, x.val))).length
    simp
  | r + 1, ℓ, path, e, h => by
    have H := (elemsInv_succ_iff T L D r ℓ path e).mp h
    exact H.length_le_toList (MElems.opsStruct T D r)

/-- the keys of the map that share the first-level digest `hk` -/
def sameFirstDigest (l : List (MKey × Elem)) (hk : Nat) : Nat := l.countP (fun p => p.1.dig 0 == hk)

/-- the element count the limit check uses is bounded by the number of keys below that digest -/
theorem groupCount_le {d : Nat} {top : Bool} {t : MTree r d} (h : MTreeInv T D d top t) (hk : Nat) :
    groupCount d t hk ≤ sameFirstDigest (MTree.toList d t) hk := by
  unfold groupCount
  cases hg : groupAt d t hk with
  | none => exact Nat.zero_le _
  | some z =>
    obtain ⟨a, el⟩ := z
    simp only
    obtain ⟨s, hs, hf⟩ := List.exists_of_findSome?_eq_some hg
    have hz1 := List.find?_some hf
    have hz2 := List.mem_of_find?_eq_some hf
    simp only [beq_iff_eq] at hz1
    subst hz1
    obtain ⟨i, hi⟩ := List.mem_iff_getElem?.mp hz2
    obtain ⟨hi1, hi2⟩ := List.getElem?_zip_eq_some.mp hi
    obtain ⟨top', hloose⟩ := leaf_loose d top t h s hs
    have H := hloose.hinv
    have hEl := H.elemOk hi1 hi2
    -- the entries of the element are pairs of the map with that first-level digest
    have hkeys := H.keys_at (MElems.opsStruct T D r) hi1 hi2
    have hsub : (el.toList (MElems.ops r)).Sublist (MTree.toList d t) :=
      (sublist_flatMap_of_getElem? (MElemF.toList (MElems.ops r)) hi2).trans (leaf_pairs_sublist d t s hs)
    have hall : (el.toList (MElems.ops r)).countP (fun p => p.1.dig 0 == a) = (el.toList (MElems.ops r)).length := by
      rw [List.countP_eq_length]
      intro p hp
      simp only [beq_iff_eq]
      exact (hkeys p hp).2.2
    have hcnt : MElemF.count (MElems.ops r) el ≤ (el.toList (MElems.ops r)).length := by
      cases el with
      | single x => exact Nat.le_refl 1
      | inl g => exact MElems.count_le_toList D r _ _ g hEl.1
      | ext id sz sl => exact MElems.count_le_toList D r _ _ sl.elems hEl.ext_inv
    have := hsub.countP_le (p := fun p => p.1.dig 0 == a)
    unfold sameFirstDigest
    omega

end Atree

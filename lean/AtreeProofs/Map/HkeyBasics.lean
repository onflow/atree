import AtreeProofs.Map.ElemLemmas
/-
  Generic lemmas about a digest table (`HkeyElems α`) under `HInv`: structure, lookup, and the one
  slot update (`HkeyElems.Slot`) that `HInv` survives (`HInv.slot`).
-/
namespace Atree
open Gen

theorem mem_extIds {α : Type} {l : List (MElemF α)} {id : SlabID} :
    id ∈ extIds l ↔ ∃ e ∈ l, e.extId? = some id := by
  unfold extIds
  rw [List.mem_filterMap]
  constructor
  · rintro ⟨e, he, h⟩; refine ⟨e, he, ?_⟩; cases e <;> simp_all [MElemF.extId?]
  · rintro ⟨e, he, h⟩; refine ⟨e, he, ?_⟩; cases e <;> simp_all [MElemF.extId?]

theorem prefix_of_succ {T L : Nat} {D : DigestFn L} {k : MKey} (hkk : KeyOk T L D k) {ℓ : Nat} (hℓ : ℓ < L)
    {path : List Nat} {hk : Nat} (h : k.digs.take (ℓ + 1) = path ++ [hk]) :
    k.digs.take ℓ = path ∧ k.dig ℓ = hk := by
  rw [hkk.take_succ hℓ] at h
  have := List.append_inj' h rfl
  exact ⟨this.1, by simpa using this.2⟩

namespace HkeyElems
variable {α : Type} (o : ElemsOps α) {l : List (MElemF α)} {i : Nat} {el el' : MElemF α}

theorem elemSizes_set (h : l[i]? = some el) :
    elemSizes o (l.set i el') + (el.size o + digestSize) = elemSizes o l + (el'.size o + digestSize) :=
  sum_map_set _ h

theorem elemSizes_eraseIdx (h : l[i]? = some el) :
    elemSizes o (l.eraseIdx i) + (el.size o + digestSize) = elemSizes o l :=
  sum_map_eraseIdx _ h

theorem elemSizes_insertIdx (h : i ≤ l.length) :
    elemSizes o (l.insertIdx i el) = elemSizes o l + (el.size o + digestSize) :=
  sum_map_insertIdx _ h

end HkeyElems

namespace HInv
variable {T L : Nat} {D : DigestFn L} {cfg : MCfg} {α : Type} {o : ElemsOps α}
  {Inv : Nat → List Nat → α → Prop} {rr : Nat} {ℓ : Nat} {path : List Nat} {he : HkeyElems α}

theorem depth_eq (H : HInv T L D o Inv rr ℓ path he) : ℓ + rr + 1 = L := H.1

theorem level_eq (H : HInv T L D o Inv rr ℓ path he) : he.level = ℓ := H.2.1

theorem level_lt (H : HInv T L D o Inv rr ℓ path he) : ℓ < L := by have := H.depth_eq; omega

theorem sorted (H : HInv T L D o Inv rr ℓ path he) : he.hkeys.Pairwise (· < ·) := H.2.2.2.1

theorem len_eq (H : HInv T L D o Inv rr ℓ path he) : he.hkeys.length = he.elems.length := H.2.2.1

theorem size_eq (H : HInv T L D o Inv rr ℓ path he) :
    he.size = hkeyElementsPrefixSize + HkeyElems.elemSizes o he.elems := H.2.2.2.2.1

theorem elemOk (H : HInv T L D o Inv rr ℓ path he) {i hk : Nat} {el : MElemF α}
    (hi : he.hkeys[i]? = some hk) (hel : he.elems[i]? = some el) : MElemOk T L D o Inv ℓ path hk el :=
  H.2.2.2.2.2 i hk el hi hel

end HInv

namespace HkeyElems
variable {α : Type} {he he' : HkeyElems α} {hk : Nat} {old new : Option (MElemF α)}

/-- One slot update of a digest table: the (at most one) entry under digest `hk` is replaced, in
    place, by (at most one) entry under `hk`; nothing else changes but the size field.  Inserting a
    new element, putting back a changed one and erasing one are its instances. -/
def Slot (he he' : HkeyElems α) (hk : Nat) (old new : Option (MElemF α)) : Prop :=
  he'.level = he.level ∧ ∃ HA HB A B, HA.length = A.length ∧
    he.hkeys = HA ++ ((old.map fun _ => hk).toList ++ HB) ∧ he.elems = A ++ (old.toList ++ B) ∧
    he'.hkeys = HA ++ ((new.map fun _ => hk).toList ++ HB) ∧ he'.elems = A ++ (new.toList ++ B)

theorem Slot.insert {q : Nat} (hq : q ≤ he.hkeys.length) (hlen : he.hkeys.length = he.elems.length)
    (el : MElemF α) (s : Nat) :
    Slot he { he with hkeys := he.hkeys.insertIdx q hk, elems := he.elems.insertIdx q el, size := s }
      hk none (some el) := by
  refine ⟨rfl, he.hkeys.take q, he.hkeys.drop q, he.elems.take q, he.elems.drop q, ?_,
    (List.take_append_drop ..).symm, (List.take_append_drop ..).symm, ?_, ?_⟩
  · rw [List.length_take, List.length_take, hlen]
  · exact insertIdx_eq hq
  · exact insertIdx_eq (hlen ▸ hq)

theorem Slot.replace {i : Nat} {el : MElemF α} (hi : he.hkeys[i]? = some hk) (hel : he.elems[i]? = some el)
    (el' : MElemF α) (s : Nat) :
    Slot he { he with elems := he.elems.set i el', size := s } hk (some el) (some el') := by
  obtain ⟨HA, HB, h1, hA⟩ := split_at hi
  obtain ⟨A, B, h2, hB⟩ := split_at hel
  exact ⟨rfl, HA, HB, A, B, hA.trans hB.symm, h1, h2, h1, by rw [h2]; exact set_at hB el'⟩

theorem Slot.erase {i : Nat} {el : MElemF α} (hi : he.hkeys[i]? = some hk) (hel : he.elems[i]? = some el)
    (s : Nat) :
    Slot he { he with elems := he.elems.eraseIdx i, hkeys := he.hkeys.eraseIdx i, size := s } hk (some el) none := by
  obtain ⟨HA, HB, h1, hA⟩ := split_at hi
  obtain ⟨A, B, h2, hB⟩ := split_at hel
  exact ⟨rfl, HA, HB, A, B, hA.trans hB.symm, h1, h2, by rw [h1]; exact erase_at hA, by rw [h2]; exact erase_at hB⟩

theorem Slot.mem_extIds (h : Slot he he' hk old new) {id : SlabID} (hid : id ∈ extIds he'.elems) :
    id ∈ extIds he.elems ∨ ∃ el ∈ new, el.extId? = some id := by
  obtain ⟨_, HA, HB, A, B, _, _, h2, _, h4⟩ := h
  rw [Atree.mem_extIds] at hid ⊢
  obtain ⟨e, he, hide⟩ := hid
  rw [h4] at he
  rw [h2]
  simp only [List.mem_append, Option.mem_toList] at he ⊢
  rcases he with he | he | he
  · exact Or.inl ⟨e, Or.inl he, hide⟩
  · exact Or.inr ⟨e, he, hide⟩
  · exact Or.inl ⟨e, Or.inr (Or.inr he), hide⟩

theorem Slot.mem_hkeys (h : Slot he he' hk old new) {x : Nat} (hx : x ∈ he'.hkeys) : x ∈ he.hkeys ∨ x = hk := by
  obtain ⟨_, HA, HB, A, B, _, h1, _, h3, _⟩ := h
  rw [h3] at hx
  rw [h1]
  simp only [List.mem_append, Option.mem_toList, Option.map_eq_some_iff] at hx ⊢
  rcases hx with hx | ⟨_, _, hx⟩ | hx
  · exact Or.inl (Or.inl hx)
  · exact Or.inr hx.symm
  · exact Or.inl (Or.inr (Or.inr hx))

end HkeyElems

namespace HInv
variable {T L : Nat} {D : DigestFn L} {cfg : MCfg} {α : Type} {o : ElemsOps α}
  {Inv : Nat → List Nat → α → Prop} {rr : Nat} {ℓ : Nat} {path : List Nat} {he : HkeyElems α}

/-- the last clause of `HInv`, over the pairs (digest, entry) -/
theorem forall_zip_iff {β γ : Type} {Q : β → γ → Prop} (l1 : List β) (l2 : List γ) :
    (∀ p ∈ l1.zip l2, Q p.1 p.2) ↔ ∀ (i : Nat) a b, l1[i]? = some a → l2[i]? = some b → Q a b := by
  constructor
  · intro h i a b h1 h2
    exact h (a, b) (List.mem_iff_getElem?.2 ⟨i, List.getElem?_zip_eq_some.2 ⟨h1, h2⟩⟩)
  · intro h p hp
    obtain ⟨i, hi⟩ := List.mem_iff_getElem?.1 hp
    obtain ⟨h1, h2⟩ := List.getElem?_zip_eq_some.1 hi
    exact h i _ _ h1 h2

/-- `HInv` survives a slot update whose new entry is in order, provided the digests stay sorted
    (automatic unless an entry is inserted) and the size field is right -/
theorem slot (H : HInv T L D o Inv rr ℓ path he) {he' : HkeyElems α} {hk : Nat} {old new : Option (MElemF α)}
    (hS : HkeyElems.Slot he he' hk old new) (hsorted : he'.hkeys.Pairwise (· < ·))
    (hsize : he'.size = hkeyElementsPrefixSize + HkeyElems.elemSizes o he'.elems)
    (hnew : ∀ el ∈ new, MElemOk T L D o Inv ℓ path hk el) : HInv T L D o Inv rr ℓ path he' := by
  obtain ⟨hlev, HA, HB, A, B, hAB, h1, h2, h3, h4⟩ := hS
  have hlen := H.len_eq
  have hmidlen : ∀ x : Option (MElemF α), (x.map fun _ => hk).toList.length = x.toList.length := by
    intro x; cases x <;> rfl
  have hB : HB.length = B.length := by
    rw [h1, h2] at hlen
    simp only [List.length_append, hmidlen] at hlen
    omega
  have hmid : ∀ x : Option (MElemF α), ((x.map fun _ => hk).toList ++ HB).zip (x.toList ++ B) =
      (x.map fun e => (hk, e)).toList ++ HB.zip B := by
    intro x; cases x <;> rfl
  refine ⟨H.depth_eq, hlev.trans H.level_eq, ?_, hsorted, hsize, ?_⟩
  · rw [h3, h4]
    simp only [List.length_append, hmidlen, hAB, hB]
  · have hall := (forall_zip_iff (Q := MElemOk T L D o Inv ℓ path) he.hkeys he.elems).2 H.2.2.2.2.2
    rw [h1, h2, List.zip_append hAB, hmid] at hall
    apply (forall_zip_iff (Q := MElemOk T L D o Inv ℓ path) he'.hkeys he'.elems).1
    rw [h3, h4, List.zip_append hAB, hmid]
    intro p hp
    simp only [List.mem_append, Option.mem_toList, Option.map_eq_some_iff] at hp
    rcases hp with hp | ⟨e, he, rfl⟩ | hp
    · exact hall p (List.mem_append_left _ hp)
    · exact hnew e he
    · exact hall p (List.mem_append_right _ (List.mem_append_right _ hp))

theorem hkey_at (H : HInv T L D o Inv rr ℓ path he) {i : Nat} {el : MElemF α}
    (hel : he.elems[i]? = some el) : ∃ hk, he.hkeys[i]? = some hk := by
  have := lt_length_of_getElem? hel
  rw [← H.len_eq] at this
  exact ⟨he.hkeys[i], List.getElem?_eq_getElem this⟩

/-- the clause of `HInv` for an entry of the table, by membership -/
theorem elemOk_of_mem (H : HInv T L D o Inv rr ℓ path he) {el : MElemF α} (hmem : el ∈ he.elems) :
    ∃ hk, MElemOk T L D o Inv ℓ path hk el := by
  obtain ⟨i, hel⟩ := List.mem_iff_getElem?.1 hmem
  obtain ⟨hk, hi⟩ := H.hkey_at hel
  exact ⟨hk, H.elemOk hi hel⟩

theorem elem_at (H : HInv T L D o Inv rr ℓ path he) {i hk : Nat}
    (hi : he.hkeys[i]? = some hk) : ∃ el, he.elems[i]? = some el := by
  have := lt_length_of_getElem? hi
  rw [H.len_eq] at this
  exact ⟨he.elems[i], List.getElem?_eq_getElem this⟩

theorem keys_at (S : OpsStruct T L D o Inv rr) (H : HInv T L D o Inv rr ℓ path he) {i hk : Nat} {el : MElemF α}
    (hi : he.hkeys[i]? = some hk) (hel : he.elems[i]? = some el) :
    ∀ p ∈ el.toList o, KeyOk T L D p.1 ∧ p.1.digs.take ℓ = path ∧ p.1.dig ℓ = hk := by
  intro p hp
  have := (H.elemOk hi hel).keys S p hp
  have h2 := prefix_of_succ this.1 H.level_lt this.2
  exact ⟨this.1, h2.1, h2.2⟩

theorem mem_toList (H : HInv T L D o Inv rr ℓ path he) {p : MKey × Elem} (hp : p ∈ HkeyElems.toList o he) :
    ∃ (i hk : Nat) (el : MElemF α), he.hkeys[i]? = some hk ∧ he.elems[i]? = some el ∧ p ∈ el.toList o := by
  unfold HkeyElems.toList at hp
  obtain ⟨el, hel, hpel⟩ := List.mem_flatMap.mp hp
  obtain ⟨i, hi⟩ := List.mem_iff_getElem?.mp hel
  obtain ⟨hk, hhk⟩ := H.hkey_at hi
  exact ⟨i, hk, el, hhk, hi, hpel⟩

theorem keys (S : OpsStruct T L D o Inv rr) (H : HInv T L D o Inv rr ℓ path he) :
    ∀ p ∈ HkeyElems.toList o he, KeyOk T L D p.1 ∧ p.1.digs.take ℓ = path := by
  intro p hp
  obtain ⟨i, hk, el, hi, hel, hpel⟩ := H.mem_toList hp
  have := H.keys_at S hi hel p hpel
  exact ⟨this.1, this.2.1⟩

/-- a key whose digest at this level is absent from the table is absent from the elements -/
theorem absent_of_dig (S : OpsStruct T L D o Inv rr) (H : HInv T L D o Inv rr ℓ path he) {k : MKey}
    (hno : ∀ j : Nat, he.hkeys[j]? ≠ some (k.dig ℓ)) : ∀ p ∈ HkeyElems.toList o he, p.1 ≠ k := by
  intro p hp hpk
  obtain ⟨i, hk, el, hi, hel, hpel⟩ := H.mem_toList hp
  have := (H.keys_at S hi hel p hpel).2.2
  rw [hpk] at this
  exact hno i (by rw [hi, this])

/-- the pair list splits around the element below the digest of `k`; `k` does not occur elsewhere -/
theorem locate (S : OpsStruct T L D o Inv rr) (H : HInv T L D o Inv rr ℓ path he) {k : MKey} {i : Nat}
    (hi : he.hkeys[i]? = some (k.dig ℓ)) {el : MElemF α} (hel : he.elems[i]? = some el) :
    HkeyElems.toList o he = (he.elems.take i).flatMap (MElemF.toList o) ++
        (el.toList o ++ (he.elems.drop (i + 1)).flatMap (MElemF.toList o)) ∧
    (∀ p ∈ (he.elems.take i).flatMap (MElemF.toList o), p.1 ≠ k) ∧
    (∀ p ∈ (he.elems.drop (i + 1)).flatMap (MElemF.toList o), p.1 ≠ k) := by
  refine ⟨flatMap_split _ hel, ?_, ?_⟩
  · intro p hp hpk
    obtain ⟨el', hel', hpel⟩ := List.mem_flatMap.mp hp
    obtain ⟨j, hj, hjel⟩ := mem_take_get hel'
    obtain ⟨hk', hhk'⟩ := H.hkey_at hjel
    have := (H.keys_at S hhk' hjel p hpel).2.2
    rw [hpk] at this; rw [← this] at hhk'
    have := sorted_get_inj H.sorted hhk' hi
    omega
  · intro p hp hpk
    obtain ⟨el', hel', hpel⟩ := List.mem_flatMap.mp hp
    obtain ⟨j, hj, hjel⟩ := mem_drop_get hel'
    obtain ⟨hk', hhk'⟩ := H.hkey_at hjel
    have := (H.keys_at S hhk' hjel p hpel).2.2
    rw [hpk] at this; rw [← this] at hhk'
    have := sorted_get_inj H.sorted hhk' hi
    omega

theorem distinct (S : OpsStruct T L D o Inv rr) (H : HInv T L D o Inv rr ℓ path he) :
    KeysDistinct (HkeyElems.toList o he) := by
  unfold KeysDistinct HkeyElems.toList
  rw [List.pairwise_flatMap]
  constructor
  · intro el hel
    obtain ⟨i, hi⟩ := List.mem_iff_getElem?.mp hel
    obtain ⟨hk, hhk⟩ := H.hkey_at hi
    exact (H.elemOk hhk hi).distinct S
  · rw [List.pairwise_iff_getElem]
    intro i j hi hj hij x hx y hy
    have hi' : he.elems[i]? = some he.elems[i] := List.getElem?_eq_getElem hi
    have hj' : he.elems[j]? = some he.elems[j] := List.getElem?_eq_getElem hj
    obtain ⟨hk1, hhk1⟩ := H.hkey_at hi'
    obtain ⟨hk2, hhk2⟩ := H.hkey_at hj'
    have h1 := H.keys_at S hhk1 hi' x hx
    have h2 := H.keys_at S hhk2 hj' y hy
    have hlt := sorted_get_lt H.sorted hhk1 hhk2 hij
    rw [KeyOk.same_false_iff h1.1 h2.1]
    intro heq
    rw [heq] at h1
    omega

theorem ordered (S : OpsStruct T L D o Inv rr) (H : HInv T L D o Inv rr ℓ path he) :
    ((HkeyElems.toList o he).map (fun p => p.1.digs)).Pairwise (fun a b => a = b ∨ List.Lex (· < ·) a b) := by
  unfold HkeyElems.toList
  rw [List.map_flatMap, List.pairwise_flatMap]
  constructor
  · intro el hel
    obtain ⟨i, hi⟩ := List.mem_iff_getElem?.mp hel
    obtain ⟨hk, hhk⟩ := H.hkey_at hi
    exact (H.elemOk hhk hi).ordered S
  · rw [List.pairwise_iff_getElem]
    intro i j hi hj hij x hx y hy
    have hi' : he.elems[i]? = some he.elems[i] := List.getElem?_eq_getElem hi
    have hj' : he.elems[j]? = some he.elems[j] := List.getElem?_eq_getElem hj
    obtain ⟨hk1, hhk1⟩ := H.hkey_at hi'
    obtain ⟨hk2, hhk2⟩ := H.hkey_at hj'
    obtain ⟨p, hp, rfl⟩ := List.mem_map.mp hx
    obtain ⟨q, hq, rfl⟩ := List.mem_map.mp hy
    have h1 := (H.elemOk hhk1 hi').keys S p hp
    have h2 := (H.elemOk hhk2 hj').keys S q hq
    have hlt := sorted_get_lt H.sorted hhk1 hhk2 hij
    right
    exact lex_of_prefix h1.2 h2.2 hlt

theorem elem_ne_nil (S : OpsStruct T L D o Inv rr) (H : HInv T L D o Inv rr ℓ path he) :
    ∀ el ∈ he.elems, el.toList o ≠ [] := by
  intro el hel
  obtain ⟨i, hi⟩ := List.mem_iff_getElem?.mp hel
  obtain ⟨hk, hhk⟩ := H.hkey_at hi
  exact (H.elemOk hhk hi).toList_ne_nil S

theorem count_pos (S : OpsStruct T L D o Inv rr) (H : HInv T L D o Inv rr ℓ path he) :
    1 ≤ he.elems.length ↔ HkeyElems.toList o he ≠ [] := by
  have hne := H.elem_ne_nil S
  unfold HkeyElems.toList
  cases hh : he.elems with
  | nil => simp
  | cons a l =>
    rw [hh] at hne
    have := hne a List.mem_cons_self
    simp [this]

theorem length_le_toList (S : OpsStruct T L D o Inv rr) (H : HInv T L D o Inv rr ℓ path he) :
    he.elems.length ≤ (HkeyElems.toList o he).length := by
  have hne := H.elem_ne_nil S
  unfold HkeyElems.toList
  generalize he.elems = l at hne
  induction l with
  | nil => simp
  | cons a l ih =>
    have h1 := hne a List.mem_cons_self
    have h2 := ih (fun e he => hne e (List.mem_cons_of_mem _ he))
    have : 1 ≤ (MElemF.toList o a).length := by
      cases h : MElemF.toList o a with
      | nil => exact absurd h h1
      | cons _ _ => simp
    simp only [List.flatMap_cons, List.length_append, List.length_cons]; omega

theorem popIter_fst (S : OpsStruct T L D o Inv rr) (he : HkeyElems α) (c : Ctx) :
    (HkeyElems.popIter o he c).1 = (HkeyElems.toList o he).reverse := by
  have hel : ∀ (el : MElemF α) c, (el.popIter o c).1 = (el.toList o).reverse := by
    intro el c
    cases el with
    | single x => rfl
    | inl g => exact S.popIter g c
    | ext id sz s => simp only [MElemF.popIter, MElemF.toList]; exact S.popIter s.elems c
  have hfold : ∀ (l : List (MElemF α)) (acc : List (MKey × Elem)) (c : Ctx),
      (l.foldl (fun (acc : List (MKey × Elem) × Ctx) el =>
        ((acc.1 ++ (el.popIter o acc.2).1, (el.popIter o acc.2).2) : List (MKey × Elem) × Ctx)) (acc, c)).1
        = acc ++ l.flatMap (fun el => (el.toList o).reverse) := by
    intro l
    induction l with
    | nil => intro acc c; simp
    | cons a l ih =>
      intro acc c
      rw [List.foldl_cons, ih, hel]
      simp
  unfold HkeyElems.popIter HkeyElems.toList
  rw [List.reverse_flatMap]
  have := hfold he.elems.reverse [] c
  simp only [List.nil_append] at this
  exact this

end HInv
end Atree

import AtreeProofs.Map.Paths
import AtreeProofs.Map.Search
import AtreeProofs.Map.HkeyBasics
/-
  `HkeyElems.get` under `HInv`; for `set`: its postcondition `SetPost`, the insertion of a new single
  element (`insertNew_spec`), and the two forward equations `set_eq_setAt` (the digest is present) and
  `set_absent` (it is not).  `HkeySet.lean` and `HkeyRemove.lean` hold `HInv.set` and `HInv.remove`.
-/
namespace Atree
open Gen

theorem sorted_ends {l : List Nat} (hs : l.Pairwise (· < ·)) {i a : Nat} (hi : l[i]? = some a) :
    ∃ first last, l.head? = some first ∧ l.getLast? = some last ∧ first ≤ a ∧ a ≤ last ∧
      l[0]? = some first ∧ l[l.length - 1]? = some last := by
  have hlt := lt_length_of_getElem? hi
  have hpos : 0 < l.length := Nat.lt_of_le_of_lt (Nat.zero_le _) hlt
  have hlast : l.length - 1 < l.length := Nat.sub_lt hpos Nat.one_pos
  have h0 : l[0]? = some (l[0]'hpos) := List.getElem?_eq_getElem hpos
  have hn : l[l.length - 1]? = some (l[l.length - 1]'hlast) := List.getElem?_eq_getElem hlast
  refine ⟨l[0]'hpos, l[l.length - 1]'hlast, by rw [List.head?_eq_getElem?, h0], by rw [List.getLast?_eq_getElem?, hn], ?_, ?_, h0, hn⟩
  · rcases Nat.eq_zero_or_pos i with h | h
    · exact Nat.le_of_eq (Option.some.inj ((h ▸ hi).symm.trans h0)).symm
    · exact Nat.le_of_lt (sorted_get_lt hs h0 hi h)
  · rcases Nat.lt_or_ge i (l.length - 1) with h | h
    · exact Nat.le_of_lt (sorted_get_lt hs hi hn h)
    · have : i = l.length - 1 := Nat.le_antisymm (Nat.le_sub_one_of_lt hlt) h
      exact Nat.le_of_eq (Option.some.inj ((this ▸ hi).symm.trans hn))

namespace HInv
variable {T L : Nat} {D : DigestFn L} {cfg : MCfg} {α : Type} {o : ElemsOps α}
  {Inv : Nat → List Nat → α → Prop} {rr : Nat} {ℓ : Nat} {path : List Nat} {he : HkeyElems α}

theorem get (S : OpsSpec T L D cfg o Inv rr) (hc : CfgFor cfg T L) (H : HInv T L D o Inv rr ℓ path he)
    {k : MKey} (hkk : KeyOk T L D k) (hpath : k.digs.take ℓ = path) :
    (∀ v, (k, v) ∈ HkeyElems.toList o he → HkeyElems.get o cfg he ℓ k = .ok (k, v)) ∧
    ((∀ p ∈ HkeyElems.toList o he, p.1 ≠ k) → HkeyElems.get o cfg he ℓ k = .error .keyNotFound) := by
  have hlev : ¬ (ℓ ≥ cfg.L) := by rw [hc.hL]; have := H.level_lt; omega
  have hp1 : k.digs.take (ℓ + 1) = path ++ [k.dig ℓ] := by rw [hkk.take_succ H.level_lt, hpath]
  have hsp := HkeyElems.findEq_spec (k.dig ℓ) H.sorted
  cases hr : HkeyElems.findEq he.hkeys (k.dig ℓ) 0 he.hkeys.length (he.hkeys.length + 1) with
  | none =>
    rw [hr] at hsp
    have habs := H.absent_of_dig S hsp
    constructor
    · intro v hm; exact absurd rfl (habs _ hm)
    · intro _; simp only [HkeyElems.get, if_neg hlev, hr]
  | some i =>
    rw [hr] at hsp
    obtain ⟨el, hel⟩ := H.elem_at hsp
    obtain ⟨hloc, hP, hQ⟩ := H.locate S hsp hel
    have hg := (H.elemOk hsp hel).get S hc H.depth_eq hkk hp1
    simp only [HkeyElems.get, if_neg hlev, hr, hel]
    constructor
    · intro v hm
      rw [hloc] at hm
      rcases List.mem_append.mp hm with hm | hm
      · exact absurd rfl (hP _ hm)
      · rcases List.mem_append.mp hm with hm | hm
        · exact hg.1 v hm
        · exact absurd rfl (hQ _ hm)
    · intro hne
      apply hg.2
      intro p hp
      apply hne
      rw [hloc]; exact List.mem_append_right _ (List.mem_append_left _ hp)

/-- postcondition of a successful `set` -/
def SetPost (T L : Nat) (D : DigestFn L) (o : ElemsOps α) (Inv : Nat → List Nat → α → Prop) (rr ℓ : Nat)
    (path : List Nat) (he : HkeyElems α) (k : MKey) (sv : Elem) (c : Ctx)
    (res : MKey × Option Elem × HkeyElems α × Ctx) : Prop :=
  res.1 = k ∧ HInv T L D o Inv rr ℓ path res.2.2.1 ∧
  SetEffect (HkeyElems.toList o he) (HkeyElems.toList o res.2.2.1) k sv res.2.1 ∧ c.ctr ≤ res.2.2.2.ctr ∧
  (∀ id ∈ extIds res.2.2.1.elems, id ∈ extIds he.elems ∨ id.idx ≤ res.2.2.2.ctr) ∧
  (∀ x ∈ res.2.2.1.hkeys, x ∈ he.hkeys ∨ x = k.dig ℓ) ∧ (∀ x ∈ he.hkeys, x ∈ res.2.2.1.hkeys) ∧
  k.dig ℓ ∈ res.2.2.1.hkeys ∧
  (ℓ = 0 → res.2.2.1.size ≤ he.size + (maxInlineMapElem T + digestSize) ∧
           he.size ≤ res.2.2.1.size + maxInlineMapElem T)

theorem insertNew_spec (S : OpsSpec T L D cfg o Inv rr) (hT : legalThreshold T = true) (hc : CfgFor cfg T L)
    (H : HInv T L D o Inv rr ℓ path he) {k : MKey} (hkk : KeyOk T L D k) (hpath : k.digs.take ℓ = path)
    {v : Elem} (hv : ValueOkR T k.size v) (c : Ctx) {q : Nat} (hq : q ≤ he.hkeys.length)
    (hlt : ∀ p a, p < q → he.hkeys[p]? = some a → a < k.dig ℓ)
    (hgt : ∀ p a, q ≤ p → he.hkeys[p]? = some a → k.dig ℓ < a) :
    SetPost T L D o Inv rr ℓ path he k (storedValue cfg k v c) c (HkeyElems.insertNew cfg he q (k.dig ℓ) k v c) := by
  have hp1 : k.digs.take (ℓ + 1) = path ++ [k.dig ℓ] := by rw [hkk.take_succ H.level_lt, hpath]
  rcases hts : toStorableLim (maxInlineMapValue cfg.T k.size) cfg.addr v c with ⟨vs, c1⟩
  have hsv : storedValue cfg k v c = vs := by simp [storedValue, hts]
  have hspec := toStorableLim_specR (T := cfg.T) (ks := k.size) (addr := cfg.addr) c (by rw [hc.hT]; exact hv)
    (by rw [hc.hT]; exact maxInlineMapValue_ge hT hkk.2.2)
  rw [hts, hc.hT] at hspec
  have hq' : q ≤ he.elems.length := by rw [← H.len_eq]; exact hq
  have hno : ∀ j : Nat, he.hkeys[j]? ≠ some (k.dig ℓ) := by
    intro j hj
    rcases Nat.lt_or_ge j q with h | h
    · exact Nat.lt_irrefl _ (hlt j _ h hj)
    · exact Nat.lt_irrefl _ (hgt j _ h hj)
  have habs := H.absent_of_dig S hno
  simp only [HkeyElems.insertNew, newSingleElement, hts, hsv, SetPost]
  have hS := HkeyElems.Slot.insert (he := he) (hk := k.dig ℓ) hq H.len_eq
    (.single ⟨k, vs, singleElementPrefixSize + k.size + vs.size⟩)
    (he.size + digestSize + (singleElementPrefixSize + k.size + vs.size))
  refine ⟨trivial, ?_, ?_, hspec.2.2, ?_, fun x hx => hS.mem_hkeys hx, ?_, ?_, ?_⟩
  · refine H.slot hS (sorted_insertIdx H.sorted hq hlt hgt) ?_ ?_
    · show he.size + digestSize + _ = _
      rw [HkeyElems.elemSizes_insertIdx o hq', H.size_eq]
      simp only [MElemF.size]; omega
    · intro el hel
      cases hel
      exact ⟨⟨hkk, hspec.1, hspec.2.1, rfl⟩, hp1⟩
  · left
    refine ⟨rfl, habs, (he.elems.take q).flatMap (MElemF.toList o), (he.elems.drop q).flatMap (MElemF.toList o), ?_, ?_⟩
    · exact flatMap_take_drop q _
    · simp only [HkeyElems.toList]
      rw [flatMap_insertIdx _ hq']; rfl
  · intro id hid
    rcases hS.mem_extIds hid with h | ⟨el, hel, h⟩
    · exact Or.inl h
    · cases hel
      simp [MElemF.extId?] at h
  · intro x hx; rw [List.mem_insertIdx hq]; exact Or.inr hx
  · rw [List.mem_insertIdx hq]; exact Or.inl rfl
  · intro _
    have := single_size_le hT hkk.2.2 hspec.2.1
    simp only [digestSize] at this ⊢
    omega

end HInv

namespace HkeyElems
variable {α : Type}

theorem set_eq_setAt (o : ElemsOps α) (cfg : MCfg) (e : HkeyElems α) (level : Nat) (k : MKey) (v : Elem) (c : Ctx)
    (hs : e.hkeys.Pairwise (· < ·)) (hlev : ¬ (level ≥ cfg.L)) {i : Nat} {el : MElemF α}
    (hi : e.hkeys[i]? = some (k.dig level)) (hel : e.elems[i]? = some el) :
    HkeyElems.set o cfg e level k v c = setAt o cfg e level k v c i el := by
  obtain ⟨first, last, hh, hl, h1, h2, _, _⟩ := sorted_ends hs hi
  simp only [HkeyElems.set, if_neg hlev, hh, hl]
  rw [if_neg (by omega), if_neg (by omega)]
  rcases hr : findEqLt e.hkeys (k.dig level) 0 e.hkeys.length 0 (e.hkeys.length + 1) with ⟨_ | i', lt⟩
  · exfalso
    obtain ⟨q, _, _, hlo, hhi⟩ := findEqLt_none hs _ _ _ _ (Nat.zero_le _) (Nat.le_refl _) (Nat.lt_succ_self _)
      (fun p a hp => absurd hp (Nat.not_lt_zero p))
      (fun p a hp hpa => absurd (lt_length_of_getElem? hpa) (Nat.not_lt_of_le hp)) (Or.inr rfl) hr
    rcases Nat.lt_or_ge i q with h | h
    · exact Nat.lt_irrefl _ (hlo i _ h hi)
    · exact Nat.lt_irrefl _ (hhi i _ h hi)
  · have := findEqLt_some _ _ _ _ (Nat.le_refl _) hr
    have hii := sorted_get_inj hs this hi
    subst hii
    simp only [hel]
    rfl

theorem ends_of_ne_nil {l : List Nat} (h : l ≠ []) :
    ∃ first last, l.head? = some first ∧ l.getLast? = some last ∧ l[0]? = some first ∧
      l[l.length - 1]? = some last := by
  have hlen : 0 < l.length := List.length_pos_iff.mpr h
  have hlast : l.length - 1 < l.length := Nat.sub_lt hlen Nat.one_pos
  have h0 : l[0]? = some (l[0]'hlen) := List.getElem?_eq_getElem hlen
  have hn : l[l.length - 1]? = some (l[l.length - 1]'hlast) := List.getElem?_eq_getElem hlast
  exact ⟨l[0]'hlen, l[l.length - 1]'hlast, by rw [List.head?_eq_getElem?, h0], by rw [List.getLast?_eq_getElem?, hn], h0, hn⟩

theorem set_absent (o : ElemsOps α) (cfg : MCfg) (e : HkeyElems α) (level : Nat) (k : MKey) (v : Elem) (c : Ctx)
    (hs : e.hkeys.Pairwise (· < ·)) (hlev : ¬ (level ≥ cfg.L))
    (hno : ∀ j : Nat, e.hkeys[j]? ≠ some (k.dig level)) :
    ∃ q, q ≤ e.hkeys.length ∧ (∀ p a, p < q → e.hkeys[p]? = some a → a < k.dig level) ∧
      (∀ p a, q ≤ p → e.hkeys[p]? = some a → k.dig level < a) ∧
      HkeyElems.set o cfg e level k v c = .ok (insertNew cfg e q (k.dig level) k v c) := by
  by_cases hnil : e.hkeys = []
  · refine ⟨0, Nat.zero_le _, fun p a hp => absurd hp (Nat.not_lt_zero p), ?_, ?_⟩
    · intro p a _ hpa; rw [hnil] at hpa; simp at hpa
    · simp only [HkeyElems.set, if_neg hlev, hnil, List.head?_nil]
  · obtain ⟨first, last, hh, hl, h0, hn⟩ := ends_of_ne_nil hnil
    have hlen : 0 < e.hkeys.length := List.length_pos_iff.mpr hnil
    simp only [HkeyElems.set, if_neg hlev, hh, hl]
    by_cases h1 : k.dig level < first
    · rw [if_pos h1]
      refine ⟨0, Nat.zero_le _, fun p a hp => absurd hp (Nat.not_lt_zero p), ?_, rfl⟩
      intro p a _ hpa
      rcases Nat.eq_zero_or_pos p with hp | hp
      · subst hp; rw [h0] at hpa; cases hpa; exact h1
      · exact Nat.lt_trans h1 (sorted_get_lt hs h0 hpa hp)
    · rw [if_neg h1]
      by_cases h2 : k.dig level > last
      · rw [if_pos h2]
        refine ⟨e.hkeys.length, Nat.le_refl _, ?_, ?_, rfl⟩
        · intro p a hp hpa
          rcases Nat.lt_or_ge p (e.hkeys.length - 1) with h | h
          · have := sorted_get_lt hs hpa hn h; omega
          · have : p = e.hkeys.length - 1 := by omega
            subst this; rw [hn] at hpa; cases hpa; omega
        · intro p a hp hpa; exact absurd (lt_length_of_getElem? hpa) (Nat.not_lt_of_le hp)
      · rw [if_neg h2]
        rcases hr : findEqLt e.hkeys (k.dig level) 0 e.hkeys.length 0 (e.hkeys.length + 1) with ⟨_ | i', lt⟩
        · obtain ⟨q, hq, hor, hlo, hhi⟩ := findEqLt_none hs _ _ _ _ (Nat.zero_le _) (Nat.le_refl _) (Nat.lt_succ_self _)
            (fun p a hp => absurd hp (Nat.not_lt_zero p))
            (fun p a hp hpa => absurd (lt_length_of_getElem? hpa) (Nat.not_lt_of_le hp)) (Or.inr rfl) hr
          have hlt : lt = q := by
            rcases hor with h | h
            · exact h
            · exfalso
              have := hlo (e.hkeys.length - 1) last (by omega) hn
              omega
          subst hlt
          exact ⟨lt, hq, hlo, hhi, rfl⟩
        · exact absurd (findEqLt_some _ _ _ _ (Nat.le_refl _) hr) (hno i')

end HkeyElems
end Atree

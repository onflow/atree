import AtreeProofs.Map.HkeyOps
/-
  `HkeyElems.remove` under `HInv`.
-/
namespace Atree
open Gen

namespace HkeyElems
variable {α : Type}

theorem remove_eq_removeAt (o : ElemsOps α) (cfg : MCfg) (e : HkeyElems α) (level : Nat) (k : MKey) (c : Ctx)
    (hs : e.hkeys.Pairwise (· < ·)) (hlev : ¬ (level ≥ cfg.L)) {i : Nat} {el : MElemF α}
    (hi : e.hkeys[i]? = some (k.dig level)) (hel : e.elems[i]? = some el) :
    HkeyElems.remove o cfg e level k c = removeAt o cfg e level k c i el := by
  obtain ⟨first, last, hh, hl, h1, h2, _, _⟩ := sorted_ends hs hi
  have hsp := findEq_spec (k.dig level) hs
  simp only [HkeyElems.remove, if_neg hlev, hh, hl]
  have hb : (decide (k.dig level < first) || decide (k.dig level > last)) = false := by
    simp; omega
  rw [hb]
  cases hr : findEq e.hkeys (k.dig level) 0 e.hkeys.length (e.hkeys.length + 1) with
  | none => rw [hr] at hsp; exact absurd hi (hsp i)
  | some i' =>
    rw [hr] at hsp
    have hii := sorted_get_inj hs hsp hi
    subst hii
    simp only [hel]
    rfl

theorem remove_absent (o : ElemsOps α) (cfg : MCfg) (e : HkeyElems α) (level : Nat) (k : MKey) (c : Ctx)
    (hs : e.hkeys.Pairwise (· < ·)) (hlev : ¬ (level ≥ cfg.L))
    (hno : ∀ j : Nat, e.hkeys[j]? ≠ some (k.dig level)) :
    HkeyElems.remove o cfg e level k c = .error .keyNotFound := by
  have hsp := findEq_spec (k.dig level) hs
  simp only [HkeyElems.remove, if_neg hlev]
  cases hr : findEq e.hkeys (k.dig level) 0 e.hkeys.length (e.hkeys.length + 1) with
  | none => split <;> (try rfl); split <;> rfl
  | some i' => rw [hr] at hsp; exact absurd hsp (hno i')

end HkeyElems

/-- the size bookkeeping of `removeAt` (`s` the table size, `e` / `e'` the element before / after, `d` the
    digest size, `M` the element limit), with the truncated subtractions of the code -/
theorem size_erased {s d e M : Nat} (h : e ≤ M) : s - (d + e) ≤ s + M ∧ s ≤ s - (d + e) + (M + d) :=
  ⟨Nat.le_trans (Nat.sub_le _ _) (Nat.le_add_right _ _),
   Nat.le_trans (Nat.le_add_of_sub_le (Nat.le_refl _))
     (Nat.add_le_add_left (Nat.add_comm e d ▸ Nat.add_le_add_right h d) _)⟩

theorem size_replaced {s d e e' M : Nat} (h : e ≤ M) (h' : e' ≤ M) :
    s + e' - e ≤ s + M ∧ s ≤ s + e' - e + (M + d) :=
  ⟨Nat.sub_le_of_le_add (Nat.le_trans (Nat.add_le_add_left h' s) (Nat.le_add_right _ e)),
   Nat.le_trans (Nat.le_add_right s e') (Nat.le_trans (Nat.le_add_of_sub_le (Nat.le_refl _))
     (Nat.add_le_add_left (Nat.le_trans h (Nat.le_add_right M d)) _))⟩

theorem size_replaced_eq {s p d e e' E E' : Nat} (hs : s = p + E) (h : E' + (e + d) = E + (e' + d)) :
    s + e' - e = p + E' := Nat.sub_eq_of_eq_add (by omega)

namespace HInv
variable {T L : Nat} {D : DigestFn L} {cfg : MCfg} {α : Type} {o : ElemsOps α}
  {Inv : Nat → List Nat → α → Prop} {rr : Nat} {ℓ : Nat} {path : List Nat} {he : HkeyElems α}

/-- postcondition of a successful `remove` -/
def RemPost (T L : Nat) (D : DigestFn L) (o : ElemsOps α) (Inv : Nat → List Nat → α → Prop) (rr ℓ : Nat)
    (path : List Nat) (he : HkeyElems α) (k : MKey) (v : Elem) (c : Ctx)
    (res : MKey × Elem × HkeyElems α × Ctx) : Prop :=
  res.1 = k ∧ res.2.1 = v ∧ HInv T L D o Inv rr ℓ path res.2.2.1 ∧
  RemEffect (HkeyElems.toList o he) (HkeyElems.toList o res.2.2.1) k v ∧ res.2.2.2.ctr = c.ctr ∧
  (∀ id ∈ extIds res.2.2.1.elems, id ∈ extIds he.elems) ∧
  (∀ x ∈ res.2.2.1.hkeys, x ∈ he.hkeys) ∧
  (1 ≤ ℓ → res.2.2.1.size ≤ he.size) ∧
  (ℓ = 0 → res.2.2.1.size ≤ he.size + maxInlineMapElem T ∧
           he.size ≤ res.2.2.1.size + (maxInlineMapElem T + digestSize))

theorem remove (S : OpsSpec T L D cfg o Inv rr) (hT : legalThreshold T = true) (hc : CfgFor cfg T L)
    (H : HInv T L D o Inv rr ℓ path he) {k : MKey} (hkk : KeyOk T L D k) (hpath : k.digs.take ℓ = path) (c : Ctx) :
    ((∀ p ∈ HkeyElems.toList o he, p.1 ≠ k) → HkeyElems.remove o cfg he ℓ k c = .error .keyNotFound) ∧
    (∀ v, (k, v) ∈ HkeyElems.toList o he → ∃ res, HkeyElems.remove o cfg he ℓ k c = .ok res ∧
        RemPost T L D o Inv rr ℓ path he k v c res) := by
  have hlev : ¬ (ℓ ≥ cfg.L) := by rw [hc.hL]; have := H.level_lt; omega
  have hp1 : k.digs.take (ℓ + 1) = path ++ [k.dig ℓ] := by rw [hkk.take_succ H.level_lt, hpath]
  by_cases hex : ∃ i : Nat, he.hkeys[i]? = some (k.dig ℓ)
  · obtain ⟨i, hi⟩ := hex
    obtain ⟨el, hel⟩ := H.elem_at hi
    rw [HkeyElems.remove_eq_removeAt o cfg he ℓ k c H.sorted hlev hi hel]
    have hEl := H.elemOk hi hel
    obtain ⟨hloc, hP, hQ⟩ := H.locate S hi hel
    obtain ⟨hrem1, hrem2⟩ := hEl.remove S hc H.depth_eq hkk hp1 c
    constructor
    · intro hne
      have : ∀ p ∈ el.toList o, p.1 ≠ k := by
        intro p hp; apply hne; rw [hloc]; exact List.mem_append_right _ (List.mem_append_left _ hp)
      simp only [HkeyElems.removeAt, hrem1 this, bind, Except.bind]
    · intro v hm
      have hm' : (k, v) ∈ el.toList o := by
        rw [hloc] at hm
        rcases List.mem_append.mp hm with hm | hm
        · exact absurd rfl (hP _ hm)
        · rcases List.mem_append.mp hm with hm | hm
          · exact hm
          · exact absurd rfl (hQ _ hm)
      obtain ⟨r, c', hr, hctr, hpost⟩ := hrem2 v hm'
      have hsize := H.size_eq
      cases r with
      | none =>
        simp only at hpost
        simp only [HkeyElems.removeAt, hr, bind, Except.bind, pure, Except.pure]
        have h3 := HkeyElems.elemSizes_eraseIdx o hel
        have hS := HkeyElems.Slot.erase hi hel (he.size - (digestSize + MElemF.size o el))
        refine ⟨_, rfl, rfl, rfl, ?_, ?_, hctr, ?_, fun x hx => ?_, ?_, ?_⟩
        · refine H.slot hS (H.sorted.eraseIdx i) ?_ (fun _ h => nomatch h)
          show he.size - (digestSize + MElemF.size o el) =
            hkeyElementsPrefixSize + HkeyElems.elemSizes o (he.elems.eraseIdx i)
          rw [hsize, ← h3, Nat.add_comm (MElemF.size o el), ← Nat.add_assoc]; exact Nat.add_sub_cancel _ _
        · refine ⟨(he.elems.take i).flatMap (MElemF.toList o), (he.elems.drop (i + 1)).flatMap (MElemF.toList o), ?_, ?_⟩
          · rw [hloc, hpost]; rfl
          · simp only [HkeyElems.toList]; exact flatMap_eraseIdx _
        · intro id hid
          exact (hS.mem_extIds hid).elim (fun h => h) (fun ⟨_, h, _⟩ => nomatch h)
        · exact List.mem_of_mem_eraseIdx hx
        · intro _; exact Nat.sub_le _ _
        · intro h0
          exact size_erased (hEl.size_le hT h0)
      | some el' =>
        obtain ⟨hEl', heff, hids, hsz⟩ := hpost
        simp only [HkeyElems.removeAt, hr, bind, Except.bind, pure, Except.pure]
        have h3 := HkeyElems.elemSizes_set o (el' := el') hel
        have hS := HkeyElems.Slot.replace hi hel el' (he.size + MElemF.size o el' - MElemF.size o el)
        refine ⟨_, rfl, rfl, rfl, ?_, ?_, hctr, ?_, ?_, ?_, ?_⟩
        · exact H.slot hS H.sorted (size_replaced_eq hsize h3) (fun e he => Option.some.inj he ▸ hEl')
        · simp only
          have : HkeyElems.toList o { he with elems := he.elems.set i el', size := he.size + MElemF.size o el' - MElemF.size o el }
              = (he.elems.take i).flatMap (MElemF.toList o) ++ (el'.toList o ++ (he.elems.drop (i + 1)).flatMap (MElemF.toList o)) := by
            simp only [HkeyElems.toList]; exact flatMap_set _ hel
          rw [this, hloc]
          exact heff.lift _ _
        · intro id hid
          rcases hS.mem_extIds hid with h | ⟨e, he, hide⟩
          · exact h
          · cases he
            exact mem_extIds.2 ⟨el, List.mem_of_getElem? hel, hids id hide⟩
        · intro x hx; exact hx
        · intro h1
          exact Nat.sub_le_of_le_add (Nat.add_le_add_left (hsz h1) _)
        · intro h0
          exact size_replaced (hEl.size_le hT h0) (hEl'.size_le hT h0)
  · have hno : ∀ j : Nat, he.hkeys[j]? ≠ some (k.dig ℓ) := fun j hj => hex ⟨j, hj⟩
    have habs := H.absent_of_dig S hno
    constructor
    · intro _; exact HkeyElems.remove_absent o cfg he ℓ k c H.sorted hlev hno
    · intro v hm; exact absurd rfl (habs _ hm)

end HInv
end Atree

import AtreeProofs.Map.HkeyBasics
/-
  Cutting and concatenating digest tables (split / merge / lend / borrow) preserves `HInv`.
-/
namespace Atree
open Gen

namespace HInv
variable {T L : Nat} {D : DigestFn L} {α : Type} {o : ElemsOps α}
  {Inv : Nat → List Nat → α → Prop} {rr : Nat} {ℓ : Nat} {path : List Nat}

/-- a table all of whose (digest, element) pairs come from tables satisfying `HInv` -/
theorem of_pieces {he' : HkeyElems α} (hlev : ℓ + rr + 1 = L) (hl : he'.level = ℓ)
    (hlen : he'.hkeys.length = he'.elems.length) (hs : he'.hkeys.Pairwise (· < ·))
    (hsz : he'.size = hkeyElementsPrefixSize + HkeyElems.elemSizes o he'.elems)
    (hsrc : ∀ (i hk : Nat) (el : MElemF α), he'.hkeys[i]? = some hk → he'.elems[i]? = some el →
      ∃ (h : HkeyElems α) (j : Nat), HInv T L D o Inv rr ℓ path h ∧ h.hkeys[j]? = some hk ∧ h.elems[j]? = some el) :
    HInv T L D o Inv rr ℓ path he' := by
  refine ⟨hlev, hl, hlen, hs, hsz, ?_⟩
  intro i hk el hi hel
  obtain ⟨h, j, H, hj, hjel⟩ := hsrc i hk el hi hel
  exact H.elemOk hj hjel

theorem take {he he' : HkeyElems α} (H : HInv T L D o Inv rr ℓ path he) (n : Nat) (hl : he'.level = ℓ)
    (hk : he'.hkeys = he.hkeys.take n) (hel : he'.elems = he.elems.take n)
    (hsz : he'.size = hkeyElementsPrefixSize + HkeyElems.elemSizes o (he.elems.take n)) :
    HInv T L D o Inv rr ℓ path he' := by
  apply of_pieces H.depth_eq hl
  · rw [hk, hel, List.length_take, List.length_take, H.len_eq]
  · rw [hk]; exact H.sorted.sublist (List.take_sublist _ _)
  · rw [hsz, hel]
  · intro i hk' el hi hiel
    rw [hk, List.getElem?_take] at hi
    rw [hel, List.getElem?_take] at hiel
    split at hi
    · rename_i h; rw [if_pos h] at hiel; exact ⟨he, i, H, hi, hiel⟩
    · cases hi

theorem drop {he he' : HkeyElems α} (H : HInv T L D o Inv rr ℓ path he) (n : Nat) (hl : he'.level = ℓ)
    (hk : he'.hkeys = he.hkeys.drop n) (hel : he'.elems = he.elems.drop n)
    (hsz : he'.size = hkeyElementsPrefixSize + HkeyElems.elemSizes o (he.elems.drop n)) :
    HInv T L D o Inv rr ℓ path he' := by
  apply of_pieces H.depth_eq hl
  · rw [hk, hel, List.length_drop, List.length_drop, H.len_eq]
  · rw [hk]; exact H.sorted.sublist (List.drop_sublist _ _)
  · rw [hsz, hel]
  · intro i hk' el hi hiel
    rw [hk, List.getElem?_drop] at hi
    rw [hel, List.getElem?_drop] at hiel
    exact ⟨he, n + i, H, hi, hiel⟩

theorem append {l r he' : HkeyElems α} (Hl : HInv T L D o Inv rr ℓ path l) (Hr : HInv T L D o Inv rr ℓ path r)
    (hlt : ∀ a ∈ l.hkeys, ∀ b ∈ r.hkeys, a < b) (hlv : he'.level = ℓ)
    (hk : he'.hkeys = l.hkeys ++ r.hkeys) (hel : he'.elems = l.elems ++ r.elems)
    (hsz : he'.size = hkeyElementsPrefixSize + HkeyElems.elemSizes o (l.elems ++ r.elems)) :
    HInv T L D o Inv rr ℓ path he' := by
  apply of_pieces Hl.1 hlv
  · rw [hk, hel, List.length_append, List.length_append, Hl.len_eq, Hr.len_eq]
  · rw [hk, List.pairwise_append]; exact ⟨Hl.sorted, Hr.sorted, hlt⟩
  · rw [hsz, hel]
  · intro i hk' el hi hiel
    rw [hk, List.getElem?_append] at hi
    rw [hel, List.getElem?_append] at hiel
    rw [Hl.len_eq] at hi
    split at hi
    · rename_i h; rw [if_pos h] at hiel; exact ⟨l, i, Hl, hi, hiel⟩
    · rename_i h; rw [if_neg h] at hiel; exact ⟨r, _, Hr, by rw [← Hl.len_eq] at hi; rw [Hl.len_eq] at hi; exact hi, hiel⟩

end HInv

namespace HkeyElems
variable {α : Type} (o : ElemsOps α)

theorem elemSizes_append (a b : List (MElemF α)) : elemSizes o (a ++ b) = elemSizes o a + elemSizes o b := by
  simp [elemSizes, List.sum_append]

theorem elemSizes_take_drop (l : List (MElemF α)) (n : Nat) :
    elemSizes o (l.take n) + elemSizes o (l.drop n) = elemSizes o l := by
  rw [← elemSizes_append, List.take_append_drop]

theorem elemSizes_take (l : List (MElemF α)) (n : Nat) :
    elemSizes o (l.take n) = ((l.map (fun el => el.size o + digestSize)).take n).sum := by
  simp [elemSizes, List.map_take]

theorem toList_of_elems {a b : HkeyElems α} (h : a.elems = b.elems) : toList o a = toList o b := by
  simp [toList, h]

end HkeyElems
end Atree

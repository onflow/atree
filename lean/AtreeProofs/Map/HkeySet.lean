import AtreeProofs.Map.HkeyOps
/-
  `HkeyElems.set` under `HInv`, including the collision-limit check of the first level.
-/
namespace Atree
open Gen

/-- the collision limit refuses the insertion of `k` -/
def Limited {α : Type} (o : ElemsOps α) (cfg : MCfg) (he : HkeyElems α) (ℓ : Nat) (k : MKey) : Prop :=
  ℓ = 0 ∧ ∃ (i : Nat) (el : MElemF α), he.hkeys[i]? = some (k.dig ℓ) ∧ he.elems[i]? = some el ∧
    cfg.climit ≤ el.count o - 1 ∧ ∀ p ∈ HkeyElems.toList o he, p.1 ≠ k

namespace HkeyElems
variable {α : Type} {o : ElemsOps α} {cfg : MCfg} {he : HkeyElems α}

theorem setAt_limited {ℓ : Nat} (el : MElemF α) (k : MKey) (v : Elem) (c : Ctx) (i : Nat) (h0 : he.level = 0)
    (hn : 1 ≤ el.count o) (hcl : cfg.climit ≤ el.count o - 1) (hg : el.get o cfg ℓ k = .error .keyNotFound) :
    HkeyElems.setAt o cfg he ℓ k v c i el = .error .collisionLimit := by
  have hn0 : (el.count o == 0) = false := by simp; omega
  simp [HkeyElems.setAt, h0, hn0, hg, hcl, bind, Except.bind, throw, throwThe, MonadExceptOf.throw]

theorem setAt_ok {ℓ : Nat} (el : MElemF α) (k : MKey) (v : Elem) (c : Ctx) (i : Nat)
    (hlim : he.level = 0 → 1 ≤ el.count o ∧ (cfg.climit ≤ el.count o - 1 → ∃ r, el.get o cfg ℓ k = .ok r))
    {el' : MElemF α} {ks : MKey} {old : Option Elem} {c' : Ctx} (hs : el.set o cfg ℓ k v c = .ok (el', ks, old, c')) :
    HkeyElems.setAt o cfg he ℓ k v c i el =
      .ok (ks, old, { he with elems := he.elems.set i el',
                              size := hkeyElementsPrefixSize + elemSizes o (he.elems.set i el') }, c') := by
  by_cases h0 : he.level = 0
  · obtain ⟨hn, hg⟩ := hlim h0
    have hn0 : (el.count o == 0) = false := by simp; omega
    by_cases hcl : cfg.climit ≤ el.count o - 1
    · obtain ⟨r, hr⟩ := hg hcl
      simp [HkeyElems.setAt, h0, hn0, hr, hcl, hs, bind, Except.bind, pure, Except.pure]
    · simp [HkeyElems.setAt, h0, hn0, hcl, hs, bind, Except.bind, pure, Except.pure]
  · have h0' : (he.level == 0) = false := by simp [h0]
    simp [HkeyElems.setAt, h0', hs, bind, Except.bind, pure, Except.pure]

end HkeyElems

namespace HInv
variable {T L : Nat} {D : DigestFn L} {cfg : MCfg} {α : Type} {o : ElemsOps α}
  {Inv : Nat → List Nat → α → Prop} {rr : Nat} {ℓ : Nat} {path : List Nat} {he : HkeyElems α}

theorem set (S : OpsSpec T L D cfg o Inv rr) (hT : legalThreshold T = true) (hc : CfgFor cfg T L)
    (H : HInv T L D o Inv rr ℓ path he) {k : MKey} (hkk : KeyOk T L D k) (hpath : k.digs.take ℓ = path)
    {v : Elem} (hv : ValueOkR T k.size v) (hset : SetsAt cfg o Inv k v) (c : Ctx) :
    (Limited o cfg he ℓ k → HkeyElems.set o cfg he ℓ k v c = .error .collisionLimit) ∧
    (¬ Limited o cfg he ℓ k → ∃ res, HkeyElems.set o cfg he ℓ k v c = .ok res ∧
        SetPost T L D o Inv rr ℓ path he k (storedValue cfg k v c) c res) := by
  have hlev : ¬ (ℓ ≥ cfg.L) := by rw [hc.hL]; have := H.level_lt; omega
  have hp1 : k.digs.take (ℓ + 1) = path ++ [k.dig ℓ] := by rw [hkk.take_succ H.level_lt, hpath]
  by_cases hex : ∃ i : Nat, he.hkeys[i]? = some (k.dig ℓ)
  · obtain ⟨i, hi⟩ := hex
    obtain ⟨el, hel⟩ := H.elem_at hi
    rw [HkeyElems.set_eq_setAt o cfg he ℓ k v c H.sorted hlev hi hel]
    have hEl := H.elemOk hi hel
    obtain ⟨hloc, hP, hQ⟩ := H.locate S hi hel
    have hget := hEl.get S hc H.depth_eq hkk hp1
    obtain ⟨el', old, c', hs, hEl', heff, hctr, hids⟩ := hEl.setR S hT hc H.depth_eq hkk hp1 hv hset c
    have hcnt := hEl.count_pos
    have habs_iff : (∀ p ∈ HkeyElems.toList o he, p.1 ≠ k) ↔ (∀ p ∈ el.toList o, p.1 ≠ k) := by
      constructor
      · intro h p hp; apply h; rw [hloc]; exact List.mem_append_right _ (List.mem_append_left _ hp)
      · intro h p hp
        rw [hloc] at hp
        rcases List.mem_append.mp hp with hp | hp
        · exact hP p hp
        · rcases List.mem_append.mp hp with hp | hp
          · exact h p hp
          · exact hQ p hp
    constructor
    · rintro ⟨h0, i2, el2, hi2, hel2, hcl, habs⟩
      have := sorted_get_inj H.sorted hi2 hi
      subst this
      rw [hel] at hel2; cases hel2
      exact HkeyElems.setAt_limited el k v c i2 (by rw [H.level_eq]; exact h0) hcnt hcl (hget.2 (habs_iff.mp habs))
    · intro hnl
      have hlim : he.level = 0 → 1 ≤ el.count o ∧ (cfg.climit ≤ el.count o - 1 → ∃ r, el.get o cfg ℓ k = .ok r) := by
        intro h0
        refine ⟨hcnt, ?_⟩
        intro hcl
        by_cases hpres : ∃ v0, (k, v0) ∈ el.toList o
        · obtain ⟨v0, hv0⟩ := hpres
          exact ⟨_, hget.1 v0 hv0⟩
        · exfalso
          apply hnl
          refine ⟨by rw [← H.level_eq]; exact h0, i, el, hi, hel, hcl, habs_iff.mpr ?_⟩
          intro p hp hpk
          exact hpres ⟨p.2, by rw [← hpk]; exact hp⟩
      rw [HkeyElems.setAt_ok el k v c i hlim hs]
      have hS := HkeyElems.Slot.replace hi hel el' (hkeyElementsPrefixSize + HkeyElems.elemSizes o (he.elems.set i el'))
      refine ⟨_, rfl, rfl, ?_, ?_, hctr, ?_, ?_, ?_, ?_, ?_⟩
      · exact H.slot hS H.sorted rfl (fun e he => Option.some.inj he ▸ hEl')
      · simp only
        have : HkeyElems.toList o { he with elems := he.elems.set i el', size := hkeyElementsPrefixSize + HkeyElems.elemSizes o (he.elems.set i el') }
            = (he.elems.take i).flatMap (MElemF.toList o) ++ (el'.toList o ++ (he.elems.drop (i + 1)).flatMap (MElemF.toList o)) := by
          simp only [HkeyElems.toList]; exact flatMap_set _ hel
        rw [this, hloc]
        exact heff.lift _ _ hP hQ
      · intro id hid
        rcases hS.mem_extIds hid with h | ⟨e, he, hide⟩
        · exact Or.inl h
        · cases he
          exact (hids id hide).imp (fun h => mem_extIds.2 ⟨el, List.mem_of_getElem? hel, h⟩) (fun h => h)
      · intro x hx; left; exact hx
      · intro x hx; exact hx
      · exact List.mem_of_getElem? hi
      · intro h0
        simp only
        have h1 := hEl.size_le hT h0
        have h2 := hEl'.size_le hT h0
        have h3 := sum_map_set (fun e => MElemF.size o e + digestSize) (b := el') hel
        rw [H.size_eq]
        simp only [HkeyElems.elemSizes, digestSize] at *
        omega
  · have hno : ∀ j : Nat, he.hkeys[j]? ≠ some (k.dig ℓ) := fun j hj => hex ⟨j, hj⟩
    constructor
    · rintro ⟨_, i, _, hi, _⟩; exact absurd hi (hno i)
    · intro _
      obtain ⟨q, hq, hlt, hgt, heq⟩ := HkeyElems.set_absent o cfg he ℓ k v c H.sorted hlev hno
      exact ⟨_, heq, insertNew_spec S hT hc H hkk hpath hv c hq hlt hgt⟩

/-- beyond the first level there is no collision limit: `set` passes from `o` to `HkeyElems.ops o` -/
theorem setsAt (S : OpsSpec T L D cfg o Inv rr) (hT : legalThreshold T = true) (hc : CfgFor cfg T L)
    {k : MKey} (hkk : KeyOk T L D k) {v : Elem} (hv : ValueOkR T k.size v) (hset : SetsAt cfg o Inv k v) :
    SetsAt cfg (HkeyElems.ops o) (HInv T L D o Inv rr) k v := by
  intro ℓ path e c H h1 hp
  have hnl : ¬ Limited o cfg e ℓ k := by rintro ⟨h0, _⟩; omega
  obtain ⟨⟨rk, old, e', c'⟩, hres, hk', h2, h3, h4, _⟩ := (H.set S hT hc hkk hp hv hset c).2 hnl
  simp only at hk' h2 h3 h4
  subst hk'
  exact ⟨old, e', c', hres, h2, h3, h4⟩

end HInv
end Atree

import AtreeProofs.Map.HkeySet
import AtreeProofs.Map.HkeyRemove
import AtreeProofs.Map.SingleLemmas
/-
  `OpsSpec` is inherited by `HkeyElems.ops`; hence `MElems.ops r` satisfies it for every `r`.
-/
namespace Atree
open Gen

namespace HInv
variable {T L : Nat} {D : DigestFn L} {cfg : MCfg} {α : Type} {o : ElemsOps α}
  {Inv : Nat → List Nat → α → Prop} {rr : Nat}

theorem opsStruct (S : OpsStruct T L D o Inv rr) :
    OpsStruct T L D (HkeyElems.ops o) (HInv T L D o Inv rr) (rr + 1) where
  level_eq := by intro ℓ path e H; have := H.depth_eq; omega
  keys := by intro ℓ path e H; exact H.keys S
  distinct := by intro ℓ path e H; exact H.distinct S
  ordered := by intro ℓ path e H; exact H.ordered S
  count_pos := by intro ℓ path e H; exact H.count_pos S
  two_keys := by
    intro ℓ path e H h1 h2
    show 2 ≤ (HkeyElems.toList o e).length
    have h1' : 1 ≤ e.elems.length := h1
    have h2' : (match e.elems with | [.single x] => some x | _ => none) = none := h2
    have hle := H.length_le_toList S
    rcases hel : e.elems with _ | ⟨a, _ | ⟨b, l⟩⟩
    · rw [hel] at h1'; simp at h1'
    · rw [hel] at h2'
      have h0 : e.elems[0]? = some a := by rw [hel]; rfl
      obtain ⟨hk, hhk⟩ := H.hkey_at h0
      have hEl := H.elemOk hhk h0
      have ht : HkeyElems.toList o e = a.toList o := by simp [HkeyElems.toList, hel]
      rw [ht]
      cases a with
      | single x => simp at h2'
      | inl g => exact S.two_keys hEl.1 hEl.2.1 hEl.2.2.1
      | ext id sz s => exact S.two_keys hEl.ext_inv hEl.ext_count hEl.ext_sole
    · rw [hel] at hle; simp at hle; omega
  sole := by
    intro ℓ path e x H hs
    have hs' : (match e.elems with | [.single x] => some x | _ => none) = some x := hs
    rcases hel : e.elems with _ | ⟨a, _ | ⟨b, l⟩⟩
    · rw [hel] at hs'; simp at hs'
    · rw [hel] at hs'
      cases a with
      | single y =>
        simp at hs'; subst hs'
        have h0 : e.elems[0]? = some (.single y) := by rw [hel]; rfl
        obtain ⟨hk, hhk⟩ := H.hkey_at h0
        have hEl := H.elemOk hhk h0
        refine ⟨hEl.1, by simp [HkeyElems.ops, HkeyElems.toList, hel, MElemF.toList], ?_⟩
        show y.size ≤ e.size
        rw [H.size_eq, hel]; simp [HkeyElems.elemSizes, MElemF.size]; omega
      | inl g => simp at hs'
      | ext id sz s => simp at hs'
    · rw [hel] at hs'; simp at hs'
  popIter := by intro e c; exact HInv.popIter_fst S e c

theorem opsSpec (S : OpsSpec T L D cfg o Inv rr) (hT : legalThreshold T = true) (hc : CfgFor cfg T L) :
    OpsSpec T L D cfg (HkeyElems.ops o) (HInv T L D o Inv rr) (rr + 1) where
  toOpsStruct := opsStruct S.toOpsStruct
  newWith := by
    intro ℓ path x hℓ hx hp
    have hlev : ¬ (ℓ ≥ cfg.L) := by rw [hc.hL]; omega
    refine ⟨{ level := ℓ, hkeys := [x.key.dig ℓ], elems := [.single x],
              size := hkeyElementsPrefixSize + digestSize + x.size }, ?_, ?_, ?_⟩
    · show (if ℓ ≥ cfg.L then _ else _) = _
      rw [if_neg hlev]
    · refine ⟨by omega, rfl, rfl, by simp, ?_, ?_⟩
      · simp [HkeyElems.elemSizes, MElemF.size]; omega
      · intro i hk el hi hel
        cases i with
        | zero =>
          simp at hi hel; subst hi; subst hel
          exact ⟨hx, by rw [hx.1.take_succ (by omega), hp]⟩
        | succ i => simp at hi
    · simp [HkeyElems.ops, HkeyElems.toList, MElemF.toList]
  get := by intro ℓ path e k H hk hp; exact H.get S hc hk hp
  set := by
    intro ℓ path e k v c H h1 hk hp hv
    exact setsAt S hT hc hk (hv.okR T k.size) (S.setsAt hk hv) c H h1 hp
  remove := by
    intro ℓ path e k c H h1 hk hp
    obtain ⟨hr1, hr2⟩ := H.remove S hT hc hk hp c
    refine ⟨hr1, ?_⟩
    intro v hm
    obtain ⟨res, hres, hpost⟩ := hr2 v hm
    obtain ⟨rk, rv, e', c'⟩ := res
    obtain ⟨h1', h2, h3, h4, h5, _, _, h6, _⟩ := hpost
    simp only at h1' h2 h3 h4 h5 h6
    subst h1' h2
    exact ⟨e', c', hres, h3, h4, h6 h1, h5⟩

end HInv

/-- the invariant of `MElems r` as a predicate usable with `OpsSpec` -/
theorem elemsInv_succ_eq (T L : Nat) (D : DigestFn L) (r : Nat) :
    ElemsInv T L D (r + 1) = HInv T L D (MElems.ops r) (ElemsInv T L D r) r := by
  funext ℓ path he
  exact propext (elemsInv_succ_iff T L D r ℓ path he)

theorem MElems.opsStruct (T : Nat) {L : Nat} (D : DigestFn L) :
    ∀ r, OpsStruct T L D (MElems.ops r) (ElemsInv T L D r) r
  | 0 => SingleElems.opsStruct
  | r + 1 => by
    rw [elemsInv_succ_eq]
    exact HInv.opsStruct (MElems.opsStruct T D r)

theorem MElems.opsSpec {T L : Nat} (D : DigestFn L) {cfg : MCfg} (hT : legalThreshold T = true)
    (hc : CfgFor cfg T L) : ∀ r, OpsSpec T L D cfg (MElems.ops r) (ElemsInv T L D r) r
  | 0 => SingleElems.opsSpec hT hc
  | r + 1 => by
    rw [elemsInv_succ_eq]
    exact HInv.opsSpec (MElems.opsSpec D hT hc r) hT hc

theorem MElems.setSpecR {T L : Nat} (D : DigestFn L) {cfg : MCfg} (hT : legalThreshold T = true)
    (hc : CfgFor cfg T L) : ∀ r, SetSpecR T L D cfg (MElems.ops r) (ElemsInv T L D r)
  | 0 => SingleElems.setSpecR hT hc
  | r + 1 => by
    rw [elemsInv_succ_eq]
    exact ⟨fun hk hv => HInv.setsAt (MElems.opsSpec D hT hc r) hT hc hk hv ((MElems.setSpecR D hT hc r).set hk hv)⟩

end Atree

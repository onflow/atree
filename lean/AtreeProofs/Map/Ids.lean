import AtreeProofs.MapIds
import AtreeProofs.E2EMap.History
import AtreeProofs.Iter.MapTop
/-
  Helper lemmas for `MapIdsOk` (AtreeProofs/MapIds.lean): what it implies (`MIdsOk`, `MAddrOk`,
  `CtxOk`, `leafIdsOk`, defined-ness) and its preservation by every map operation, from the
  effect accounts `MAcct` of AtreeProofs/Map/Effects*.lean.
-/
namespace Atree
open Gen

variable {r : Nat} {T : Nat} {D : DigestFn (r + 1)}

theorem OMap.slabIds_eq_keys (m : OMap r) : m.slabIds = AList.keys (MTree.slabs m.d m.root) :=
  (keys_mslabs m.d m.root).symm

theorem OMap.rootID_mem_slabIds (m : OMap r) : m.rootID ∈ m.slabIds := by
  rw [OMap.slabIds_eq_keys]; exact hdr_id_mem_keys m.d m.root

instance (m : OMap r) (ctr : Nat) : Decidable (MapIdsOk m ctr) := by
  unfold MapIdsOk IdsOk; infer_instance

namespace MapIdsOk

theorem ctxOk {m : OMap r} {c : Ctx} (h : MapIdsOk m c.ctr) : CtxOk m c :=
  fun id hid _ => (h.2 id hid).2.2

theorem mIdsOk {m : OMap r} {ctr : Nat} (h : MapIdsOk m ctr) : MIdsOk m := by
  have := h.1
  rw [OMap.slabIds_eq_keys] at this
  exact this

theorem mAddrOk {m : OMap r} {ctr : Nat} (h : MapIdsOk m ctr) : E2EM.MAddrOk m := by
  intro id hid
  rw [← OMap.slabIds_eq_keys] at hid
  exact (h.2 id hid).1

theorem ne_undef {m : OMap r} {ctr : Nat} (h : MapIdsOk m ctr) : ∀ id ∈ m.slabIds, id ≠ SlabID.undef := by
  intro id hid he
  have := (h.2 id hid).2.1
  rw [he] at this
  exact absurd this (by decide)

theorem mono {m : OMap r} {c c' : Nat} (h : MapIdsOk m c) (hle : c ≤ c') : MapIdsOk m c' :=
  ⟨h.1, fun id hid => ⟨(h.2 id hid).1, (h.2 id hid).2.1, Nat.le_trans (h.2 id hid).2.2 hle⟩⟩

end MapIdsOk

theorem leafIds_sublist : ∀ (d : Nat) (t : MTree r d),
    ((MTree.dataSlabs d t).map (·.hdr.id)).Sublist (CtxOk.mapSlabIds d t)
  | 0, t => by
    refine IterM.forall_ofD ?_ t; intro s
    rw [IterM.dataSlabs_zero]
    show [s.hdr.id].Sublist (CtxOk.mapSlabIds 0 s)
    rw [mapSlabIds_zero]
    exact List.Sublist.cons_cons _ (List.nil_sublist _)
  | d + 1, t => by
    refine IterM.forall_ofM ?_ t; intro m
    rw [IterM.dataSlabs_succ]
    show List.Sublist _ (CtxOk.mapSlabIds (d + 1) m)
    rw [mapSlabIds_succ, List.map_flatMap]
    exact List.Sublist.cons _ (flatMap_sublist_of_mem (fun c _ => leafIds_sublist d c))

theorem MapIdsOk.leafIdsOk {m : OMap r} {ctr : Nat} (h : MapIdsOk m ctr) : m.leafIdsOk = true := by
  rw [IterM.leafIdsOk_iff]
  have hsub := leafIds_sublist m.d m.root
  refine ⟨hsub.nodup h.1, ?_⟩
  intro s hs
  exact h.ne_undef _ (hsub.subset (List.mem_map_of_mem hs))

theorem mapIdsOk_of_acct {m m' : OMap r} {c c' : Nat} {E : List Eff} {cr : List SlabID}
    (hacct : MAcct m.addr c c' (MTree.slabs m.d m.root) (MTree.slabs m'.d m'.root) E cr)
    (h : MapIdsOk m c) (hrid : m'.rootID = m.rootID) : MapIdsOk m' c' := by
  have haddr : m'.addr = m.addr := OMap.addr_of_rootID hrid
  refine ⟨?_, ?_⟩
  · rw [OMap.slabIds_eq_keys]
    exact hacct.nodup h.mIdsOk
  · intro id hid
    rw [OMap.slabIds_eq_keys] at hid
    rw [haddr]
    rcases hacct.keys_new id hid with h1 | h1
    · rw [← OMap.slabIds_eq_keys] at h1
      obtain ⟨a1, a2, a3⟩ := h.2 id h1
      exact ⟨a1, a2, Nat.le_trans a3 hacct.le⟩
    · exact ⟨h1.1, by have := h1.2.1; omega, h1.2.2⟩

theorem mapIdsOk_set (hT : legalThreshold T = true) {cfg : MCfg} {m : OMap r} (hcfg : CfgOk cfg T m)
    (h : MapInv T D m) {k : MKey} (hk : KeyOk T (r + 1) D k) {v : Elem} (hv : ValueOkM v) (c : Ctx)
    (hids : MapIdsOk m c.ctr) {old : Option Elem} {m' : OMap r} {c' : Ctx}
    (hr : m.set cfg k v c = .ok (old, m', c')) :
    MapIdsOk m' c'.ctr ∧ m'.rootID = m.rootID ∧ c.ctr ≤ c'.ctr := by
  obtain ⟨E, C, _, hacct, _, hrid⟩ := omap_set_acct hT hcfg h hk hv c hids.ctxOk hids.mIdsOk hr
  exact ⟨mapIdsOk_of_acct hacct hids hrid, hrid, hacct.le⟩

theorem mapIdsOk_remove (hT : legalThreshold T = true) {cfg : MCfg} {m : OMap r} (hcfg : CfgOk cfg T m)
    (h : MapInv T D m) {k : MKey} (hk : KeyOk T (r + 1) D k) (c : Ctx)
    (hids : MapIdsOk m c.ctr) {k0 : MKey} {v0 : Elem} {m' : OMap r} {c' : Ctx}
    (hr : m.remove cfg k c = .ok (k0, v0, m', c')) :
    MapIdsOk m' c'.ctr ∧ m'.rootID = m.rootID ∧ c.ctr ≤ c'.ctr := by
  obtain ⟨E, C, _, hacct, _, hrid⟩ := omap_remove_acct hT hcfg h hk c hids.ctxOk hids.mIdsOk hr
  exact ⟨mapIdsOk_of_acct hacct hids hrid, hrid, hacct.le⟩

theorem slabIds_pop (m : OMap r) (c : Ctx) : (m.popIterate c).2.1.slabIds = [m.rootID] := by
  rw [OMap.slabIds_eq_keys]; rfl

theorem mapIdsOk_pop {m : OMap r} (c : Ctx) (hids : MapIdsOk m c.ctr) :
    MapIdsOk (m.popIterate c).2.1 (m.popIterate c).2.2.ctr ∧ (m.popIterate c).2.1.rootID = m.rootID ∧
      (m.popIterate c).2.2.ctr = c.ctr := by
  have hrid : (m.popIterate c).2.1.rootID = m.rootID := rfl
  have hctr := (E2EM.omap_popKeep m c).1
  refine ⟨⟨by rw [slabIds_pop]; simp, ?_⟩, hrid, hctr⟩
  intro id hid
  rw [slabIds_pop, List.mem_singleton] at hid
  subst hid
  have haddr : (m.popIterate c).2.1.addr = m.addr := OMap.addr_of_rootID hrid
  rw [haddr, hctr]
  exact hids.2 _ m.rootID_mem_slabIds

theorem mapIdsOk_setType {m : OMap r} (ty : Nat) (c : Ctx) (hids : MapIdsOk m c.ctr) :
    MapIdsOk (m.setType ty c).1 (m.setType ty c).2.ctr ∧ (m.setType ty c).1.rootID = m.rootID ∧
      (m.setType ty c).2.ctr = c.ctr := by
  have hctr : (m.setType ty c).2.ctr = c.ctr := by
    unfold OMap.setType; split <;> rfl
  refine ⟨?_, rfl, hctr⟩
  rw [hctr]
  exact hids

theorem mapIdsOk_new (addr ty : Nat) (seedOf : SlabID → Nat) (c : Ctx) :
    MapIdsOk (OMap.new (r := r) addr ty seedOf c).1 (OMap.new (r := r) addr ty seedOf c).2.ctr ∧
      (OMap.new (r := r) addr ty seedOf c).1.rootID = ⟨addr, c.ctr + 1⟩ ∧
      (OMap.new (r := r) addr ty seedOf c).2.ctr = c.ctr + 1 := by
  have hids : (OMap.new (r := r) addr ty seedOf c).1.slabIds = [⟨addr, c.ctr + 1⟩] := by
    rw [OMap.slabIds_eq_keys]; rfl
  refine ⟨⟨by rw [hids]; simp, ?_⟩, rfl, rfl⟩
  intro id hid
  rw [hids, List.mem_singleton] at hid
  subst hid
  exact ⟨rfl, by simp, Nat.le_refl _⟩

/-- `SetType` keeps the map invariant (only the type information changes) -/
theorem mapInv_setType {m : OMap r} (h : MapInv T D m) (ty : Nat) (c : Ctx) :
    MapInv T D (m.setType ty c).1 ∧ (m.setType ty c).1.toList = m.toList ∧
      (m.setType ty c).1.count = m.count ∧ (m.setType ty c).1.ty = ty ∧ (m.setType ty c).1.seed = m.seed := by
  refine ⟨⟨h.tree, h.chain, h.count_eq, h.distinct, ?_⟩, rfl, rfl, rfl, rfl⟩
  have := h.standalone
  obtain ⟨d, root, ty0, cnt, seed⟩ := m
  cases d <;> exact this

end Atree

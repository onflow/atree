import AtreeProofs.Map.TreeTop
import AtreeProofs.Map.MapOps
/-
  C12: WHERE a new key goes.  A `Set` that returns no previous value (the key is new) puts the new
  pair BEHIND every pair with the same digest vector (`NewLast`): fully colliding keys keep their
  order of insertion, because the list used when the digests are exhausted only ever appends.
  Proved level by level (`OrdSpec`), then through the slab tree and the root fix-up.
-/
namespace Atree
open Gen

/-- `l'` is `l` with one pair of key `k` inserted, and no pair behind it has the digest vector of `k` -/
def NewLast (l l' : List (MKey × Elem)) (k : MKey) : Prop :=
  ∃ A B sv, l = A ++ B ∧ l' = A ++ (k, sv) :: B ∧ ∀ p ∈ B, p.1.digs ≠ k.digs

theorem NewLast.lift {l l' : List (MKey × Elem)} {k : MKey} (h : NewLast l l' k) (P S : List (MKey × Elem))
    (hS : ∀ p ∈ S, p.1.digs ≠ k.digs) : NewLast (P ++ (l ++ S)) (P ++ (l' ++ S)) k := by
  obtain ⟨A, B, sv, rfl, rfl, hB⟩ := h
  refine ⟨P ++ A, B ++ S, sv, by simp, by simp, ?_⟩
  intro p hp
  rcases List.mem_append.mp hp with hp | hp
  · exact hB p hp
  · exact hS p hp

theorem digs_ne_of_dig_ne {a b : MKey} {ℓ : Nat} (h : a.dig ℓ ≠ b.dig ℓ) : a.digs ≠ b.digs := by
  intro e; apply h; simp only [MKey.dig, e]

/-- what the induction carries from one digest level to the next -/
structure OrdSpec (T L : Nat) (D : DigestFn L) (cfg : MCfg) {α : Type} (o : ElemsOps α)
    (Inv : Nat → List Nat → α → Prop) : Prop where
  set : ∀ {ℓ path e k v} (c : Ctx) {ks : MKey} {e' : α} {c' : Ctx}, Inv ℓ path e → KeyOk T L D k →
    k.digs.take ℓ = path → o.set cfg e ℓ k v c = .ok (ks, none, e', c') → NewLast (o.toList e) (o.toList e') k

theorem SingleElems.ordSpec (T L : Nat) (D : DigestFn L) (cfg : MCfg) :
    OrdSpec T L D cfg SingleElems.ops (ElemsInv T L D 0) := by
  constructor
  intro ℓ path e k v c ks e' c' _ _ _ h
  rcases SingleElems.set_cases (show SingleElems.set cfg e ℓ k v c = .ok (ks, none, e', c') from h) with
    ⟨_, _, _, _, _, hold, _⟩ | ⟨_, _, he', _⟩
  · cases hold
  · refine ⟨e.elems.map (fun x => (x.key, x.val)), [], (newSingleElement cfg.T cfg.addr k v c).1.val,
      by simp [SingleElems.ops], ?_, by simp⟩
    simp [SingleElems.ops, he', newSingleElement]

namespace MElemF
variable {α : Type} {o : ElemsOps α}

variable {T L : Nat} {D : DigestFn L} {cfg : MCfg} {Inv : Nat → List Nat → α → Prop} {rr : Nat}

/-- `element.Set` of a new key, for an element below digest `hk = k.dig ℓ` -/
theorem set_newLast (S : OpsSpec T L D cfg o Inv rr) (O : OrdSpec T L D cfg o Inv) {ℓ : Nat} {path : List Nat}
    {el : MElemF α} (hℓ : ℓ + 1 + rr = L) {k : MKey} (hk : KeyOk T L D k) (hp1 : k.digs.take (ℓ + 1) = path ++ [k.dig ℓ])
    (hEl : MElemOk T L D o Inv ℓ path (k.dig ℓ) el) {v : Elem} {c : Ctx} {el' : MElemF α} {ks : MKey} {c' : Ctx}
    (h : el.set o cfg ℓ k v c = .ok (el', ks, none, c')) : NewLast (el.toList o) (el'.toList o) k := by
  rcases set_cases h with ⟨x, _, _, _, ho, _⟩ | ⟨g, hg, hin⟩ | ⟨id, sz, s, g', c1, rfl, hs, rfl, _⟩
  · cases ho
  · obtain ⟨g', c1, hset, hcase⟩ := inlSet_cases hin
    -- inline or exported, the group lists the pairs of `g'`
    have htl : el'.toList o = o.toList g' := by rcases hcase with ⟨_, rfl, _⟩ | ⟨_, _, rfl, _⟩ <;> rfl
    rw [htl]
    rcases hg with rfl | ⟨x, rfl, _, hg⟩
    · exact O.set c hEl.1 hk hp1 hset
    · -- the group born from the resident element holds that element alone
      obtain ⟨g0, hg0, hinv, hgl⟩ := S.newWith (ℓ := ℓ + 1) (path := path ++ [k.dig ℓ]) (x := x) hℓ hEl.1 hEl.2
      rw [hg] at hg0
      cases hg0
      have := O.set c hinv hk hp1 hset
      rwa [hgl] at this
  · exact O.set c hEl.ext_inv hk hp1 hs

end MElemF

namespace HInv
variable {T L : Nat} {D : DigestFn L} {cfg : MCfg} {α : Type} {o : ElemsOps α}
  {Inv : Nat → List Nat → α → Prop} {rr : Nat} {ℓ : Nat} {path : List Nat} {he : HkeyElems α}

/-- the pairs of the elements behind position `q` have another digest at this level than `k` when all
    digests from `q` on differ from `k`'s -/
theorem later_digs (S : OpsStruct T L D o Inv rr) (H : HInv T L D o Inv rr ℓ path he) {k : MKey} {q : Nat}
    (hne : ∀ j a, q ≤ j → he.hkeys[j]? = some a → a ≠ k.dig ℓ) :
    ∀ p ∈ (he.elems.drop q).flatMap (MElemF.toList o), p.1.digs ≠ k.digs := by
  intro p hp
  obtain ⟨el, hel, hpel⟩ := List.mem_flatMap.mp hp
  obtain ⟨j, hj⟩ := List.mem_iff_getElem?.mp hel
  rw [List.getElem?_drop] at hj
  obtain ⟨a, ha⟩ := H.hkey_at hj
  have hd := (H.keys_at S ha hj p hpel).2.2
  apply digs_ne_of_dig_ne (ℓ := ℓ)
  rw [hd]
  exact hne _ a (by omega) ha

theorem setAt_ok {i : Nat} {el : MElemF α} {k : MKey} {v : Elem} {c : Ctx} {ks : MKey} {old : Option Elem}
    {e' : HkeyElems α} {c' : Ctx} (h : HkeyElems.setAt o cfg he ℓ k v c i el = .ok (ks, old, e', c')) :
    ∃ el', el.set o cfg ℓ k v c = .ok (el', ks, old, c') ∧ e'.elems = he.elems.set i el' := by
  obtain ⟨el', ks', old', c1, hs, hres⟩ := HkeyElems.setAt_cases h
  cases hres
  exact ⟨el', hs, rfl⟩

/-- `hkeyElements.Set` of a new key -/
theorem set_newLast (S : OpsSpec T L D cfg o Inv rr) (O : OrdSpec T L D cfg o Inv) (hc : CfgFor cfg T L)
    (H : HInv T L D o Inv rr ℓ path he) {k : MKey} (hkk : KeyOk T L D k) (hpath : k.digs.take ℓ = path)
    {v : Elem} {c : Ctx} {ks : MKey} {e' : HkeyElems α} {c' : Ctx}
    (h : HkeyElems.set o cfg he ℓ k v c = .ok (ks, none, e', c')) :
    NewLast (HkeyElems.toList o he) (HkeyElems.toList o e') k := by
  have hlev : ¬ (ℓ ≥ cfg.L) := by rw [hc.hL]; have := H.level_lt; omega
  have hp1 : k.digs.take (ℓ + 1) = path ++ [k.dig ℓ] := by rw [hkk.take_succ H.level_lt, hpath]
  by_cases hex : ∃ i : Nat, he.hkeys[i]? = some (k.dig ℓ)
  · obtain ⟨i, hi⟩ := hex
    obtain ⟨el, hel⟩ := H.elem_at hi
    rw [HkeyElems.set_eq_setAt o cfg he ℓ k v c H.sorted hlev hi hel] at h
    obtain ⟨el', hset, helems⟩ := setAt_ok h
    have hEl := H.elemOk hi hel
    have hℓ : ℓ + 1 + rr = L := by have := H.depth_eq; omega
    have hnl := MElemF.set_newLast S O hℓ hkk hp1 hEl hset
    have hloc := flatMap_split (MElemF.toList o) hel
    have htl : HkeyElems.toList o e' = (he.elems.take i).flatMap (MElemF.toList o) ++
        (el'.toList o ++ (he.elems.drop (i + 1)).flatMap (MElemF.toList o)) := by
      simp only [HkeyElems.toList, helems]
      exact flatMap_set _ hel
    rw [htl]
    show NewLast (he.elems.flatMap (MElemF.toList o)) _ k
    rw [hloc]
    refine hnl.lift _ _ (later_digs S.toOpsStruct H ?_)
    intro j a hj ha hak
    have := sorted_get_inj H.sorted (by rw [hak] at ha; exact ha) hi
    omega
  · have hno : ∀ j : Nat, he.hkeys[j]? ≠ some (k.dig ℓ) := fun j hj => hex ⟨j, hj⟩
    obtain ⟨q, hq, hlt, hgt, heq⟩ := HkeyElems.set_absent o cfg he ℓ k v c H.sorted hlev hno
    rw [heq] at h
    simp only [HkeyElems.insertNew, Except.ok.injEq, Prod.mk.injEq] at h
    have hq' : q ≤ he.elems.length := by rw [← H.len_eq]; exact hq
    rw [← h.2.2.1]
    refine ⟨(he.elems.take q).flatMap (MElemF.toList o), (he.elems.drop q).flatMap (MElemF.toList o),
      (newSingleElement cfg.T cfg.addr k v c).1.val, flatMap_take_drop q _, ?_, later_digs S.toOpsStruct H ?_⟩
    · simp only [HkeyElems.toList]
      rw [flatMap_insertIdx _ hq']
      rfl
    · intro j a hj ha hak
      have := hgt j a hj ha
      omega

theorem ordSpec (S : OpsSpec T L D cfg o Inv rr) (O : OrdSpec T L D cfg o Inv) (hc : CfgFor cfg T L) :
    OrdSpec T L D cfg (HkeyElems.ops o) (HInv T L D o Inv rr) :=
  ⟨by intro ℓ path e k v c ks e' c' H hk hp h; exact set_newLast S O hc H hk hp h⟩

end HInv

theorem MElems.ordSpec {T L : Nat} (D : DigestFn L) {cfg : MCfg} (hT : legalThreshold T = true)
    (hc : CfgFor cfg T L) : ∀ r, OrdSpec T L D cfg (MElems.ops r) (ElemsInv T L D r)
  | 0 => SingleElems.ordSpec T L D cfg
  | r + 1 => by
    rw [elemsInv_succ_eq]
    exact HInv.ordSpec (MElems.opsSpec D hT hc r) (MElems.ordSpec D hT hc r) hc

variable {T : Nat} {r : Nat} {D : DigestFn (r + 1)} {cfg : MCfg}

/-- `MapSlab.Set` of a new key -/
theorem MTree.set_newLast (hT : legalThreshold T = true) (hc : CfgFor cfg T (r + 1)) {k : MKey}
    (hk : KeyOk T (r + 1) D k) : ∀ (d : Nat) (top : Bool) (t t' : MTree r d) (v : Elem) (c c' : Ctx) (ks : MKey),
    MTreeInv T D d top t → MTree.set cfg d t k v c = .ok (ks, none, t', c') →
    NewLast (MTree.toList d t) (MTree.toList d t') k
  | 0, top, (s : MDataSlab r), t', v, c, c', ks, hinv, h => by
    have hloose := ((mtreeInv_zero_iff T D top s).mp hinv).loose
    obtain ⟨e, c1, hs, rfl, -⟩ := MDataSlab.set_ok_iff.1 (show MDataSlab.set cfg s k v c = .ok (ks, none, t', c') from h)
    exact HInv.set_newLast (MElems.opsSpec D hT hc r) (MElems.ordSpec D hT hc r) hc hloose.hinv hk rfl hs
  | d + 1, top, (m : MMetaSlab (MTree r d)), t', v, c, c', ks, hinv, h => by
    have hm := ((mtreeInv_succ_iff T D d top m).mp hinv).1
    have hlen : 1 ≤ m.children.length := by
      cases top
      · exact (MTreeInv.sinv hT hinv).2
      · exact (MTreeInv.sinv_top (d + 1) m hinv).2
    obtain ⟨i, child, child', c1, hidx, h2, hs, ha⟩ := MTree.set_succ_cases m h
    obtain ⟨A, child0, B, hrt⟩ := route_set hT hm hlen (k.dig 0)
    rw [hidx] at hrt
    cases ((hrt.ch ▸ get_at hrt.len : m.children[i]? = some child0).symm.trans h2)
    have hchild : MTreeInv T D d false child := hm.kid_inv child (List.mem_of_getElem? h2)
    have ih := MTree.set_newLast hT hc hk d false child child' v c c1 ks hchild hs
    show NewLast (m.children.flatMap (MTree.toList d)) (t'.children.flatMap (MTree.toList d)) k
    rw [show t'.children.flatMap (MTree.toList d) = _ from afterChild_view MTree.toListView hrt.ch hrt.len ha,
      hrt.ch, flatMap_at]
    refine ih.lift _ _ ?_
    -- the pairs of the later children have a larger first-level digest
    intro p hp
    obtain ⟨cb, hcb, hpcb⟩ := List.mem_flatMap.mp hp
    have hcbm : cb ∈ m.children := by rw [hrt.ch]; exact List.mem_append_right _ (List.mem_cons_of_mem _ hcb)
    have hpo := MTreeInv.pairs_ok d false cb (hm.kid_inv cb hcbm) p hpcb
    have hgt := hrt.hi (p.1.dig 0) (List.mem_flatMap.mpr ⟨cb, hcb, hpo.2⟩)
    exact digs_ne_of_dig_ne (ℓ := 0) (by omega)

/-- Full collisions keep their insertion order (one `Set` on a whole map).  When `Set` returns no
    previous value (the key is new), the iteration order of the map afterwards is the order before
    it with the new pair inserted BEHIND every pair that has the same digest vector as the new key. -/
theorem OMap.set_newLast (hT : legalThreshold T = true) {m m' : OMap r} (hcfg : CfgOk cfg T m) (h : MapInv T D m)
    {k : MKey} (hk : KeyOk T (r + 1) D k) {v : Elem} {c c' : Ctx}
    (hs : m.set cfg k v c = .ok (none, m', c')) : NewLast m.toList m'.toList k := by
  have hc : CfgFor cfg T (r + 1) := ⟨hcfg.1, hcfg.2.1⟩
  obtain ⟨ks, root', c1, h1, hfix⟩ := OMap.set_ok_iff.1 hs
  rw [show m'.toList = MTree.toList m.d root' from MTree.toListView.rootFix rfl hfix]
  exact MTree.set_newLast hT hc hk m.d true m.root root' v c c1 ks h.tree h1

end Atree

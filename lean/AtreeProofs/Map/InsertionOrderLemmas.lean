import AtreeProofs.Map.InsertionOrderSpec
import AtreeProofs.Map.Dict
/-
  C13 — list lemmas behind `Props/C13Order.lean`: how `SameCollisionOrder` moves along the four
  kinds of steps, why a digest-sorted key list is DETERMINED by its classes of fully colliding keys,
  and that the stable merge sort by digest vector has exactly those classes.
-/
namespace Atree.C13
open Atree Gen

theorem any_same_iff_mem {T L : Nat} {D : DigestFn L} {l : List MKey} {k : MKey} (hl : ∀ x ∈ l, KeyOk T L D x)
    (hk : KeyOk T L D k) : l.any (fun k' => k'.same k) = true ↔ k ∈ l := by
  rw [List.any_eq_true]
  constructor
  · rintro ⟨x, hx, hs⟩
    rw [← KeyOk.eq_of_same (hl x hx) hk hs]; exact hx
  · intro h; exact ⟨k, h, MKey.same_self k⟩

theorem filter_not_same_of_absent {T L : Nat} {D : DigestFn L} {l : List MKey} {k : MKey}
    (hl : ∀ x ∈ l, KeyOk T L D x) (hk : KeyOk T L D k) (h : k ∉ l) :
    l.filter (fun k' => !k'.same k) = l := by
  rw [List.filter_eq_self]
  intro x hx
  cases hs : x.same k with
  | false => rfl
  | true => exact absurd (KeyOk.eq_of_same (hl x hx) hk hs ▸ hx) h

/-- in a list of pairwise different keys, taking `k` out is filtering by the comparator -/
theorem erase_eq_filter_not_same {A B : List MKey} {k : MKey}
    (hd : (A ++ k :: B).Pairwise (fun a b => a.same b = false)) :
    A ++ B = (A ++ k :: B).filter (fun k' => !k'.same k) := by
  rw [List.pairwise_append] at hd
  obtain ⟨_, hB, hAB⟩ := hd
  rw [List.pairwise_cons] at hB
  have hA' : A.filter (fun k' => !k'.same k) = A := by
    rw [List.filter_eq_self]
    intro x hx
    rw [hAB x hx k (by simp)]; rfl
  have hB' : B.filter (fun k' => !k'.same k) = B := by
    rw [List.filter_eq_self]
    intro x hx
    have := hB.1 x hx
    rw [MKey.same_comm, this]; rfl
  rw [List.filter_append, List.filter_cons, hA', hB']
  simp [MKey.same_self]

theorem SameCollisionOrder.refl (K : List MKey) : SameCollisionOrder K K := fun _ => rfl

theorem SameCollisionOrder.mem_iff {K l : List MKey} (h : SameCollisionOrder K l) (k : MKey) : k ∈ K ↔ k ∈ l := by
  have h1 : k ∈ K ↔ k ∈ K.filter (fun x => x.digs == k.digs) := by simp [List.mem_filter]
  have h2 : k ∈ l ↔ k ∈ l.filter (fun x => x.digs == k.digs) := by simp [List.mem_filter]
  rw [h1, h2, h k.digs]

/-- a NEW key put behind every key with its digest vector ↦ appended to the association list -/
theorem SameCollisionOrder.insert_last {A B l : List MKey} {k : MKey} (h : SameCollisionOrder (A ++ B) l)
    (hB : ∀ b ∈ B, b.digs ≠ k.digs) : SameCollisionOrder (A ++ k :: B) (l ++ [k]) := by
  intro d
  have hd := h d
  rw [List.filter_append] at hd
  rw [List.filter_append, List.filter_cons, List.filter_append, ← hd]
  by_cases e : k.digs = d
  · subst e
    have hBf : B.filter (fun x => x.digs == k.digs) = [] := by
      rw [List.filter_eq_nil_iff]
      intro b hb
      simpa using hB b hb
    simp [hBf]
  · have : (k.digs == d) = false := by simpa using e
    simp [this]

theorem SameCollisionOrder.filter {K l : List MKey} (h : SameCollisionOrder K l) (p : MKey → Bool) :
    SameCollisionOrder (K.filter p) (l.filter p) := by
  intro d
  rw [List.filter_filter, List.filter_filter]
  have := congrArg (List.filter p) (h d)
  rw [List.filter_filter, List.filter_filter] at this
  simpa only [Bool.and_comm] using this

/-- ascending digest vectors (the conclusion of `C13.map_order_canonical`, on the key list) -/
def DigSorted (K : List MKey) : Prop := K.Pairwise (fun a b => a.digs = b.digs ∨ a.digs < b.digs)

theorem digSorted_unique : ∀ (K1 K2 : List MKey), DigSorted K1 → DigSorted K2 → SameCollisionOrder K1 K2 → K1 = K2
  | [], K2, _, _, h => by
    cases K2 with
    | nil => rfl
    | cons b K2' =>
      have := h b.digs
      simp at this
  | a :: K1', [], _, _, h => by
    have := h a.digs
    simp at this
  | a :: K1', b :: K2', s1, s2, h => by
    have hab : a = b := by
      by_cases e : b.digs = a.digs
      · have := h a.digs
        simp only [List.filter_cons, beq_self_eq_true, if_true, e] at this
        exact (List.cons.inj this).1
      · exfalso
        -- `b` is in `K1'`, `a` is in `K2'`: contradiction with the two orders
        have hb : b ∈ a :: K1' := (h.mem_iff b).mpr (by simp)
        have ha : a ∈ b :: K2' := (h.mem_iff a).mp (by simp)
        have hb' : b ∈ K1' := by
          rcases List.mem_cons.mp hb with hb | hb
          · exact absurd (by rw [hb]) e
          · exact hb
        have ha' : a ∈ K2' := by
          rcases List.mem_cons.mp ha with ha | ha
          · exact absurd (by rw [ha]) e
          · exact ha
        have o1 := (List.pairwise_cons.mp s1).1 b hb'
        have o2 := (List.pairwise_cons.mp s2).1 a ha'
        rcases o1 with o1 | o1
        · exact e o1.symm
        · rcases o2 with o2 | o2
          · exact e o2
          · exact List.lt_asymm o1 o2
    subst hab
    have hrest : SameCollisionOrder K1' K2' := by
      intro d
      have := h d
      simp only [List.filter_cons] at this
      split at this
      · exact (List.cons.inj this).2
      · exact this
    rw [digSorted_unique K1' K2' (List.pairwise_cons.mp s1).2 (List.pairwise_cons.mp s2).2 hrest]

theorem digLe_iff (a b : MKey) : digLe a b = true ↔ a.digs = b.digs ∨ a.digs < b.digs := by
  simp only [digLe, decide_eq_true_eq]
  rw [List.le_iff_lt_or_eq]
  exact Or.comm

theorem digLe_trans (a b c : MKey) (h1 : digLe a b = true) (h2 : digLe b c = true) : digLe a c = true := by
  rw [digLe_iff] at *
  rcases h1 with h1 | h1
  · rw [h1]; exact h2
  · rcases h2 with h2 | h2
    · rw [← h2]; exact Or.inr h1
    · exact Or.inr (List.lt_trans h1 h2)

theorem digLe_total (a b : MKey) : (digLe a b || digLe b a) = true := by
  simp only [digLe, Bool.or_eq_true, decide_eq_true_eq]
  exact List.le_total _ _

theorem digSorted_mergeSort (l : List MKey) : DigSorted (l.mergeSort digLe) := by
  have := List.pairwise_mergeSort digLe_trans digLe_total l
  exact this.imp (fun {a b} h => (digLe_iff a b).mp h)

/-- STABILITY: the sort keeps every class of fully colliding keys in its original order -/
theorem sameCollisionOrder_mergeSort (l : List MKey) : SameCollisionOrder (l.mergeSort digLe) l := by
  intro d
  have hsub : (l.filter (fun k => k.digs == d)).Sublist (l.mergeSort digLe) := by
    refine List.sublist_mergeSort digLe_trans digLe_total ?_ List.filter_sublist
    rw [List.pairwise_iff_forall_sublist]
    intro a b hab
    have ha : a ∈ l.filter (fun k => k.digs == d) := hab.subset (by simp)
    have hb : b ∈ l.filter (fun k => k.digs == d) := hab.subset (by simp)
    simp only [List.mem_filter, beq_iff_eq] at ha hb
    rw [digLe_iff]
    left
    rw [ha.2, hb.2]
  have hsub' : (l.filter (fun k => k.digs == d)).Sublist ((l.mergeSort digLe).filter (fun k => k.digs == d)) := by
    have := hsub.filter (fun k => k.digs == d)
    rw [List.filter_filter] at this
    simpa only [Bool.and_self] using this
  have hlen : (l.filter (fun k => k.digs == d)).length = ((l.mergeSort digLe).filter (fun k => k.digs == d)).length :=
    ((List.mergeSort_perm l digLe).filter _).length_eq.symm
  exact (hsub'.eq_of_length hlen).symm

end Atree.C13

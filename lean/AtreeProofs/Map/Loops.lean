import AtreeModel.Map.Elems
import AtreeProofs.Core.Cut
/-
  The split / lend / borrow / can-lend loops of `hkeyElements` on lists of `Nat` (the array data slabs
  run the same loops on their element sizes), each as a statement about the cut it computes:
  `∃ n x y, Cut L n x y ∧ loop … = (…n…, …x…) ∧` what the two sums satisfy.  `splitLoop` balances the
  two sides within one entry `E`; `lendLoop` and `borrowLoop`, run after `canLendLoop` said yes, leave
  both sides at least `minSize` (that they also balance is not stated: no caller needs it).  The
  offsets between what the callers pass to `canLendLoop` and to the other two loops (with or without
  the slab prefix `p`) are linear hypotheses of `lendLoop_cut` / `borrowLoop_cut`.
  `cannot_lend_lt`: a data slab whose `CanLendToLeft / Right` says no is small (arrays and maps).
-/
namespace Atree
namespace HkeyElems

theorem sum_take_le (l : List Nat) (j : Nat) : (l.take j).sum ≤ l.sum :=
  Nat.le.intro (sum_take_add_drop l j)

theorem splitLoop_cut (mid data E : Nat) (hmid : mid = (data + 1) / 2) :
    ∀ (rest : List Nat) (i ls : Nat), (∀ x ∈ rest, x ≤ E) → ls + rest.sum = data → ls < mid →
    ∃ n x y, Cut rest n x y ∧ splitLoop mid data rest i ls = (i + n, ls + x) ∧
      2 * (ls + x) ≤ data + E ∧ data ≤ 2 * (ls + x) + E := by
  have hm1 : 2 * mid ≤ data + 1 := by omega
  have hm2 : data ≤ 2 * mid := by omega
  clear hmid
  intro rest
  induction rest with
  | nil => intro i ls _ hsum hlt; rw [List.sum_nil] at hsum; omega
  | cons es rest ih =>
    intro i ls hE hsum hlt
    have hes : es ≤ E := hE es List.mem_cons_self
    rw [List.sum_cons] at hsum
    unfold splitLoop
    by_cases hge : ls + es ≥ mid
    · rw [if_pos hge]
      by_cases hle : ls ≤ data - ls - es
      · rw [if_pos hle]
        exact ⟨1, es + 0, _, (Cut.zero rest).cons es, rfl, by omega, by omega⟩
      · rw [if_neg hle]
        exact ⟨0, 0, _, Cut.zero _, rfl, by omega, by omega⟩
    · rw [if_neg hge]
      obtain ⟨j, x, y, c, a2, a3, a4⟩ := ih (i + 1) (ls + es)
        (fun x hx => hE x (List.mem_cons_of_mem _ hx)) (by omega) (by omega)
      refine ⟨j + 1, es + x, y, c.cons es, ?_⟩
      rw [a2, Nat.add_assoc i, Nat.add_comm 1 j, ← Nat.add_assoc ls]
      exact ⟨rfl, a3, a4⟩

/-- `canLendLoop` succeeded: some nonempty prefix reaches `want` and leaves at least `minSize`;
    the prefix one shorter does not reach `want`. -/
theorem canLendLoop_true (minSize esize want : Nat) :
    ∀ (l : List Nat) (lend : Nat), lend < want → canLendLoop minSize esize want l lend = true →
    ∃ j, 1 ≤ j ∧ j ≤ l.length ∧ want ≤ lend + (l.take j).sum ∧ minSize ≤ esize - (lend + (l.take j).sum) ∧
      lend + (l.take (j - 1)).sum < want
  | [], _, _, h => by simp [canLendLoop] at h
  | es :: rest, lend, hlt, h => by
    simp only [canLendLoop] at h
    split at h
    · cases h
    · split at h
      · refine ⟨1, by omega, by simp, ?_, ?_, ?_⟩ <;> simp <;> omega
      · obtain ⟨j, h1, h2, h3, h4, h5⟩ := canLendLoop_true minSize esize want rest (lend + es) (by omega) h
        refine ⟨j + 1, by omega, by simp; omega, ?_, ?_, ?_⟩
        · simp only [List.take_succ_cons, List.sum_cons]; omega
        · simp only [List.take_succ_cons, List.sum_cons]; omega
        · have : j + 1 - 1 = (j - 1) + 1 := by omega
          rw [this]; simp only [List.take_succ_cons, List.sum_cons]; omega

/-- `canLendLoop` failed: the lender is small. -/
theorem canLendLoop_false (minSize esize want E : Nat) :
    ∀ (l : List Nat) (lend : Nat), (∀ x ∈ l, x ≤ E) → lend < want →
    canLendLoop minSize esize want l lend = false →
    esize < minSize + want + E ∨ lend + l.sum < want
  | [], lend, _, hlt, _ => by right; simpa using hlt
  | es :: rest, lend, hE, hlt, h => by
    have hes : es ≤ E := hE es List.mem_cons_self
    simp only [canLendLoop] at h
    split at h
    · left; omega
    · split at h
      · cases h
      · rcases canLendLoop_false minSize esize want E rest (lend + es)
          (fun x hx => hE x (List.mem_cons_of_mem _ hx)) (by omega) h with h' | h'
        · left; exact h'
        · right; simp only [List.sum_cons]; omega

/-- `CanLendToLeft` / `CanLendToRight` of a data slab of size `e = q + L.sum` (`L` its entries in the
    order scanned, `n` their number): a slab that cannot lend `w` bytes is less than one entry above
    what it would have to keep. -/
theorem cannot_lend_lt {c e w E q n : Nat} {L : List Nat} (hE : ∀ x ∈ L, x ≤ E) (he : e = q + L.sum)
    (hn : n = L.length) (hw : 0 < w)
    (h : (if n < 2 then false else if e - w < c then false else canLendLoop c e w L 0) = false) :
    e < c + w + E + q := by
  split at h
  · rename_i hlt
    subst hn
    have : L.sum ≤ E := by
      match L, hE, hlt with
      | [], _, _ => exact Nat.zero_le _
      | [a], hE, _ => simpa using hE a (by simp)
      | _ :: _ :: _, _, hlt => simp at hlt; omega
    omega
  · split at h
    · omega
    · rcases canLendLoop_false c e w E L 0 hE hw h with h' | h' <;> omega

/-- `lendLoop` with the receiver's size `rs` carried along (`ls + rs = size`): if moving the first
    `j0` entries of `rest` is the least move that lifts the receiver to `minSize`, and it leaves the
    lender `minSize`, the loop stops with both sides at least `minSize`. -/
theorem lendLoop_min (minSize size mid : Nat) (hm2 : size ≤ 2 * mid) :
    ∀ (rest : List Nat) (lc ls rs j0 : Nat), rest.sum ≤ ls → ls + rs = size → j0 ≤ rest.length →
    minSize ≤ rs + (rest.take j0).sum → minSize + (rest.take j0).sum ≤ ls →
    (1 ≤ j0 → rs + (rest.take (j0 - 1)).sum < minSize) →
    ∃ j, j ≤ rest.length ∧ lendLoop minSize size mid rest lc ls = (lc - j, ls - (rest.take j).sum) ∧
      minSize + (rest.take j).sum ≤ ls ∧ minSize ≤ rs + (rest.take j).sum := by
  intro rest
  induction rest with
  | nil =>
    intro lc ls rs j0 _ _ hj0 h1 h2 _
    obtain rfl : j0 = 0 := Nat.le_zero.mp hj0
    exact ⟨0, Nat.le_refl _, rfl, h2, h1⟩
  | cons es rest ih =>
    intro lc ls rs j0 hsum hsz hj0 h1 h2 h4
    rw [List.sum_cons] at hsum
    have hrs : size - ls = rs := by omega
    unfold lendLoop
    rw [hrs]
    -- one more entry moved: an answer for `rest` is one for `es :: rest`
    have step : ∀ j0', j0' ≤ rest.length → minSize ≤ rs + es + (rest.take j0').sum →
        minSize + (rest.take j0').sum ≤ ls - es → (1 ≤ j0' → rs + es + (rest.take (j0' - 1)).sum < minSize) →
        ∃ j, j ≤ (es :: rest).length ∧
          lendLoop minSize size mid rest (lc - 1) (ls - es) = (lc - j, ls - ((es :: rest).take j).sum) ∧
          minSize + ((es :: rest).take j).sum ≤ ls ∧ minSize ≤ rs + ((es :: rest).take j).sum := by
      intro j0' a b c d
      obtain ⟨j, a2, a3, a4, a5⟩ := ih (lc - 1) (ls - es) (rs + es) j0' (by omega) (by omega) a b c d
      refine ⟨j + 1, Nat.succ_le_succ a2, ?_⟩
      rw [List.take_succ_cons, List.sum_cons, a3, Nat.sub_sub, Nat.sub_sub, Nat.add_comm 1 j]
      exact ⟨rfl, by omega, by omega⟩
    cases j0 with
    | zero =>
      rw [List.take_zero, List.sum_nil, Nat.add_zero] at h1 h2
      by_cases hstop : ls - es < mid
      · rw [if_pos (by rw [Bool.and_eq_true, decide_eq_true_eq, decide_eq_true_eq]; exact ⟨hstop, h1⟩)]
        exact ⟨0, Nat.zero_le _, rfl, h2, h1⟩
      · rw [if_neg (by rw [Bool.and_eq_true, decide_eq_true_eq]; exact fun h => hstop h.1)]
        refine step 0 (Nat.zero_le _) ?_ ?_ (fun h => absurd h (by omega))
        · rw [List.take_zero, List.sum_nil]; omega
        · rw [List.take_zero, List.sum_nil]; omega
    | succ j0 =>
      have h4' := h4 (Nat.succ_le_succ (Nat.zero_le _))
      rw [List.take_succ_cons, List.sum_cons] at h1 h2
      have hlt : rs < minSize := by
        cases j0 with
        | zero => rwa [Nat.add_sub_cancel, List.take_zero, List.sum_nil, Nat.add_zero] at h4'
        | succ j0 => rw [Nat.add_sub_cancel, List.take_succ_cons, List.sum_cons] at h4'; omega
      rw [if_neg (by rw [Bool.and_eq_true, decide_eq_true_eq, decide_eq_true_eq]; exact fun h => absurd h.2 (by omega))]
      refine step j0 (Nat.le_of_succ_le_succ hj0) (by omega) (by omega) (fun h1' => ?_)
      obtain ⟨k, rfl⟩ : ∃ k, j0 = k + 1 := ⟨j0 - 1, by omega⟩
      rw [Nat.add_sub_cancel, List.take_succ_cons, List.sum_cons] at h4'
      rw [Nat.add_sub_cancel]
      omega

/-- `borrowLoop`, likewise: if taking the first `j0` entries leaves both sides at least `minSize`,
    the loop stops with both sides at least `minSize`. -/
theorem borrowLoop_min (minSize size mid : Nat) (hm1 : 2 * mid ≤ size + 1) (hm2 : size ≤ 2 * mid) :
    ∀ (rest : List Nat) (lc ls j0 : Nat), ls + rest.sum ≤ size → j0 ≤ rest.length →
    minSize ≤ ls + (rest.take j0).sum → minSize + (ls + (rest.take j0).sum) ≤ size →
    ∃ j, j ≤ rest.length ∧ borrowLoop minSize size mid rest lc ls = (lc + j, ls + (rest.take j).sum) ∧
      minSize ≤ ls + (rest.take j).sum ∧ minSize + (ls + (rest.take j).sum) ≤ size := by
  intro rest
  induction rest with
  | nil =>
    intro lc ls j0 _ hj0 h1 h2
    obtain rfl : j0 = 0 := Nat.le_zero.mp hj0
    exact ⟨0, Nat.le_refl _, rfl, h1, h2⟩
  | cons es rest ih =>
    intro lc ls j0 hsum hj0 h1 h2
    rw [List.sum_cons] at hsum
    have hj : (j0 = 0 ∧ ((es :: rest).take j0).sum = 0) ∨
        (∃ k, j0 = k + 1 ∧ ((es :: rest).take j0).sum = es + (rest.take k).sum) := by
      cases j0 with
      | zero => exact Or.inl ⟨rfl, rfl⟩
      | succ k => exact Or.inr ⟨k, rfl, by rw [List.take_succ_cons, List.sum_cons]⟩
    unfold borrowLoop
    by_cases hgt : ls + es > mid
    · rw [if_pos hgt]
      by_cases htake : size - ls - es ≥ minSize
      · rw [if_pos htake]
        refine ⟨1, Nat.succ_le_succ (Nat.zero_le _), ?_⟩
        rw [List.take_succ_cons, List.take_zero, List.sum_cons, List.sum_nil, Nat.add_zero]
        exact ⟨rfl, by omega, by omega⟩
      · rw [if_neg htake]
        refine ⟨0, Nat.zero_le _, ?_⟩
        rw [List.take_zero, List.sum_nil, Nat.add_zero]
        refine ⟨rfl, ?_, by omega⟩
        rcases hj with ⟨_, hj⟩ | ⟨k, _, hj⟩ <;> rw [hj] at h1 h2 <;> omega
    · rw [if_neg hgt]
      have hk : ∃ k, k ≤ rest.length ∧ minSize ≤ ls + es + (rest.take k).sum ∧
          minSize + (ls + es + (rest.take k).sum) ≤ size := by
        rcases hj with ⟨_, hj⟩ | ⟨k, rfl, hj⟩ <;> rw [hj] at h1 h2
        · refine ⟨0, Nat.zero_le _, ?_⟩
          rw [List.take_zero, List.sum_nil]
          omega
        · exact ⟨k, Nat.le_of_succ_le_succ hj0, by omega, by omega⟩
      obtain ⟨k, hk, hk1, hk2⟩ := hk
      obtain ⟨j, a1, a2, a3, a4⟩ := ih (lc + 1) (ls + es) k (by omega) hk hk1 hk2
      refine ⟨j + 1, Nat.succ_le_succ a1, ?_⟩
      rw [List.take_succ_cons, List.sum_cons, a2, Nat.add_assoc lc, Nat.add_comm 1 j, ← Nat.add_assoc ls]
      exact ⟨rfl, a3, a4⟩

/-- `lendLoop` after `canLendLoop` said yes.  The lender's entries are `L`; its loop variable starts
    at `ls = p + L.sum` (arrays count the prefix `p` in, maps do not), the receiver holds `rs`; `c`,
    `e`, `w` are what `canLendLoop` was asked, tied to `minSize`, `ls`, `rs` by linear facts.
    The loop cuts `L` so that both sides reach `minSize`. -/
theorem lendLoop_cut {c e w minSize size p ls rs : Nat} (L : List Nat)
    (hcan : canLendLoop c e w L.reverse 0 = true) (hw : 0 < w)
    (hls : ls = p + L.sum) (hsz : ls + rs = size) (hrs : rs + w = minSize) (he : L.sum ≤ e)
    (hc : minSize + e ≤ ls + c) :
    ∃ n x y, Cut L n x y ∧ lendLoop minSize size ((size + 1) / 2) L.reverse L.length ls = (n, p + x) ∧
      size - (p + x) = rs + y ∧ minSize ≤ p + x ∧ minSize ≤ rs + y := by
  obtain ⟨j0, j1, j2, j3, j4, j5⟩ := canLendLoop_true c e w L.reverse 0 hw hcan
  have hle0 := sum_take_le L.reverse j0
  rw [List.sum_reverse] at hle0
  rw [Nat.zero_add] at j3 j4 j5
  obtain ⟨j, -, heq, c1, c2⟩ := lendLoop_min minSize size ((size + 1) / 2) (by omega) L.reverse L.length ls rs j0
    (by rw [List.sum_reverse, hls]; exact Nat.le_add_left _ _) hsz j2 (by omega) (by omega) (fun _ => by omega)
  have C := Cut.of_reverse L j
  have hs := C.sum
  generalize (L.reverse.take j).sum = y at *
  generalize L.sum - y = x at *
  refine ⟨_, x, y, C, ?_, ?_, ?_, c2⟩
  · rw [heq]; congr 1; omega
  · omega
  · omega

/-- `borrowLoop` after `canLendLoop` said yes: the lender's entries `L` (it holds `rs = p + L.sum`),
    the receiver's loop variable starts at `ls`.  The loop cuts `L` so that both sides reach
    `minSize`. -/
theorem borrowLoop_cut {c e w minSize size p ls rs lc : Nat} (L : List Nat)
    (hcan : canLendLoop c e w L 0 = true) (hw : 0 < w)
    (hrs : rs = p + L.sum) (hsz : ls + rs = size) (hlw : ls + w = minSize) (he : L.sum ≤ e)
    (hc : minSize + e ≤ rs + c) :
    ∃ n x y, Cut L n x y ∧ borrowLoop minSize size ((size + 1) / 2) L lc ls = (lc + n, ls + x) ∧
      size - (ls + x) = p + y ∧ minSize ≤ ls + x ∧ minSize ≤ p + y := by
  obtain ⟨j0, -, j2, j3, j4, -⟩ := canLendLoop_true c e w L 0 hw hcan
  have hle0 := sum_take_le L j0
  rw [Nat.zero_add] at j3 j4
  obtain ⟨n, hn, heq, c1, c2⟩ := borrowLoop_min minSize size ((size + 1) / 2) (by omega) (by omega) L lc ls j0
    (by omega) j2 (by omega) (by omega)
  have C := Cut.of_le hn
  have hs := C.sum
  generalize (L.take n).sum = x at *
  generalize (L.drop n).sum = y at *
  exact ⟨n, x, y, C, heq, by omega, c1, by omega⟩

end HkeyElems
end Atree

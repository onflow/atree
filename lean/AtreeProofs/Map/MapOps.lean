import AtreeProofs.Map.Root
/-
  `OMap.set` and `OMap.remove` on a map satisfying `MapInv`.  `set_spec_ref` is `set_spec` for every
  `ValueOkR` value (references included); the names ending in `C` (`set_spec_refC`, `remove_specC`) add
  `c.ctr ≤ c'.ctr` to the conclusion, the others are their corollaries.
-/
namespace Atree
open Gen

variable {T : Nat} {r : Nat} {D : DigestFn (r + 1)} {cfg : MCfg}

theorem MapInv.of_rootPost {m1 m3 : OMap r} {c c3 : Ctx} (hp : RootPost T D m1 m3 c c3)
    (hcount : m3.count = m3.toList.length) : MapInv T D m3 :=
  ⟨hp.tree, hp.chain, hcount, MTreeInv.distinct m3.d true m3.root hp.tree, hp.inl⟩

theorem ctxOk_of {m m3 : OMap r} {c c3 : Ctx} (hc : CtxOk m c) (hctr : c.ctr ≤ c3.ctr)
    (hroot : m3.rootID = m.rootID)
    (hids : ∀ id ∈ CtxOk.mapSlabIds m3.d m3.root, id ∈ CtxOk.mapSlabIds m.d m.root ∨ id.idx ≤ c3.ctr) :
    CtxOk m3 c3 := by
  intro id hid haddr
  have hid' : id ∈ CtxOk.mapSlabIds m3.d m3.root := hid
  rcases hids id hid' with h | h
  · have := hc id h (by rw [haddr]; simp only [OMap.addr, hroot])
    omega
  · exact h

/-- result of a successful `OMap.set` -/
structure OSetPost (T : Nat) (D : DigestFn (r + 1)) (cfg : MCfg) (m m' : OMap r) (k : MKey) (v : Elem)
    (old : Option Elem) (c c' : Ctx) : Prop where
  eff : SetEffect m.toList m'.toList k (storedValue cfg k v c) old
  inv : MapInv T D m'
  /-- an implication: `set_spec` does not assume `CtxOk m c` -/
  ctx : CtxOk m c → CtxOk m' c'
  rootID : m'.rootID = m.rootID
  ty : m'.ty = m.ty
  seed : m'.seed = m.seed
  count : m'.count = if old.isNone then m.count + 1 else m.count

/-- the tail shared by `set` and `remove`: the root fix-up after a step on the root slab that kept the
    loose invariant, the leaf chain, the root ID and the bound on new slab IDs -/
theorem root_fixup_step (hT : legalThreshold T = true) {d : Nat} {root root' : MTree r d} {ty cnt seed : Nat}
    {c c1 : Ctx} (cnt' : Nat) (h : MapInv T D (⟨d, root, ty, cnt, seed⟩ : OMap r))
    (hsinv : SInv T D d true root') (hsz : (MTree.hdr d root').size ≤ (MTree.hdr d root).size + slack1 T d)
    (hctr : c.ctr ≤ c1.ctr)
    (hids : ∀ id ∈ CtxOk.mapSlabIds d root', id ∈ CtxOk.mapSlabIds d root ∨ id.idx ≤ c1.ctr)
    (hid : (MTree.hdr d root').id = (MTree.hdr d root).id)
    (hleaves : LeafRel (MTree.leaves d root) (MTree.leaves d root')) (hinl : treeInl d root' = treeInl d root)
    (hcnt : cnt' = (MTree.toList d root').length) :
    ∃ m3 c3, OMap.rootFix T (⟨d, root', ty, cnt', seed⟩ : OMap r) c1 = .ok (m3, c3) ∧
      m3.toList = MTree.toList d root' ∧ MapInv T D m3 ∧
      (CtxOk (⟨d, root, ty, cnt, seed⟩ : OMap r) c → CtxOk m3 c3) ∧
      m3.rootID = (⟨d, root, ty, cnt, seed⟩ : OMap r).rootID ∧ m3.ty = ty ∧ m3.seed = seed ∧ m3.count = cnt' ∧
      c.ctr ≤ c3.ctr := by
  have hinl' : treeInl d root' = false := by
    rw [hinl, ← isInlined_eq d root ty cnt seed]; exact h.standalone
  have hle : (MTree.hdr d root').size ≤ maxThr T + slack1 T d := by
    have := MTreeInv.le_max d true root h.tree; omega
  have hchain : ChainTo (MTree.leaves d root') SlabID.undef :=
    hleaves.2.2.2 _ ((mLeafChain_iff _).mp h.chain)
  obtain ⟨m3, c3, heq3, hpost⟩ := root_fixup hT d root' ty cnt' seed c1 hsinv hinl' hle hchain
  have htl : m3.toList = MTree.toList d root' := hpost.toList
  have hrid : m3.rootID = (⟨d, root, ty, cnt, seed⟩ : OMap r).rootID := by
    rw [hpost.rootID]; exact hid
  have hc3 := hpost.ctr
  refine ⟨m3, c3, heq3, htl, MapInv.of_rootPost hpost (by rw [hpost.count, htl]; exact hcnt), ?_, hrid,
    hpost.ty, hpost.seed, hpost.count, by omega⟩
  intro hc
  refine ctxOk_of hc (by omega) hrid ?_
  intro id hid'
  rcases hpost.ids id hid' with h' | h'
  · rcases hids id h' with h'' | h''
    · exact Or.inl h''
    · right; omega
  · exact Or.inr h'

/-- `OMap.set` of a `ValueOkR` value fails with `collisionLimit` or succeeds with `OSetPost`, and the
    slab-ID counter does not go down -/
theorem OMap.set_spec_refC (hT : legalThreshold T = true) {m : OMap r} (hcfg : CfgOk cfg T m) (h : MapInv T D m)
    {k : MKey} (hk : KeyOk T (r + 1) D k) {v : Elem} (hv : ValueOkR T k.size v) (c : Ctx) :
    (TLimited cfg m.d m.root k → m.set cfg k v c = .error .collisionLimit) ∧
    (¬ TLimited cfg m.d m.root k → ∃ old m' c', m.set cfg k v c = .ok (old, m', c') ∧
      OSetPost T D cfg m m' k v old c c' ∧ c.ctr ≤ c'.ctr) := by
  have hc' : CfgFor cfg T (r + 1) := ⟨hcfg.1, hcfg.2.1⟩
  obtain ⟨d, root, ty, cnt, seed⟩ := m
  obtain ⟨h1, h2⟩ := MTree.set_spec_ref hT hc' hk hv d true root c h.tree
  constructor
  · intro hl
    have := h1 hl
    simp only [OMap.set, this, bind, Except.bind]
  · intro hnl
    obtain ⟨old, root', c1, heq, hp⟩ := h2 hnl
    have hcnt : cnt = (MTree.toList d root).length := h.count_eq
    obtain ⟨m3, c3, heq3, htl, hinv3, hctx, hrid, hty, hseed, hcount, hc3⟩ :=
      root_fixup_step hT (if old.isNone then cnt + 1 else cnt) h hp.sinv hp.size_le hp.ctr hp.ids hp.id_eq
        hp.leaves hp.inl (by rw [hp.eff.length]; cases old <;> simp [hcnt])
    exact ⟨old, m3, c3, OMap.set_ok_iff.2 ⟨k, root', c1, heq, hcfg.1 ▸ heq3⟩,
      ⟨by rw [htl]; exact hp.eff, hinv3, hctx, hrid, hty, hseed, hcount⟩, hc3⟩

theorem OMap.set_spec_ref (hT : legalThreshold T = true) {m : OMap r} (hcfg : CfgOk cfg T m) (h : MapInv T D m)
    {k : MKey} (hk : KeyOk T (r + 1) D k) {v : Elem} (hv : ValueOkR T k.size v) (c : Ctx) :
    (TLimited cfg m.d m.root k → m.set cfg k v c = .error .collisionLimit) ∧
    (¬ TLimited cfg m.d m.root k → ∃ old m' c', m.set cfg k v c = .ok (old, m', c') ∧
      OSetPost T D cfg m m' k v old c c') :=
  (OMap.set_spec_refC hT hcfg h hk hv c).imp id fun h2 hnl =>
    let ⟨old, m', c', heq, hp, _⟩ := h2 hnl
    ⟨old, m', c', heq, hp⟩

theorem OMap.set_spec (hT : legalThreshold T = true) {m : OMap r} (hcfg : CfgOk cfg T m) (h : MapInv T D m)
    {k : MKey} (hk : KeyOk T (r + 1) D k) {v : Elem} (hv : ValueOkM v) (c : Ctx) :
    (TLimited cfg m.d m.root k → m.set cfg k v c = .error .collisionLimit) ∧
    (¬ TLimited cfg m.d m.root k → ∃ old m' c', m.set cfg k v c = .ok (old, m', c') ∧
      OSetPost T D cfg m m' k v old c c') :=
  OMap.set_spec_ref hT hcfg h hk (hv.okR T k.size) c

/-- `OMap.set_spec_refC` read from a success -/
theorem OMap.set_post (hT : legalThreshold T = true) {m m' : OMap r} (hcfg : CfgOk cfg T m) (h : MapInv T D m)
    {k : MKey} (hk : KeyOk T (r + 1) D k) {v : Elem} (hv : ValueOkR T k.size v) {c c' : Ctx} {old : Option Elem}
    (hr : m.set cfg k v c = .ok (old, m', c')) : OSetPost T D cfg m m' k v old c c' ∧ c.ctr ≤ c'.ctr := by
  obtain ⟨h1, h2⟩ := OMap.set_spec_refC hT hcfg h hk hv c
  by_cases hl : TLimited cfg m.d m.root k
  · rw [h1 hl] at hr; cases hr
  · obtain ⟨_, _, _, heq, hp⟩ := h2 hl
    rw [heq] at hr; cases hr
    exact hp

/-- a reference stored through `OMap.set` ends up in the map as it is -/
theorem OSetPost.mem_ref {m m' : OMap r} {k : MKey} {v : Elem} {old : Option Elem} {c c' : Ctx}
    (hp : OSetPost T D cfg m m' k v old c c') (id : SlabID) (h : v.pay = .ref id) : (k, v) ∈ m'.toList := by
  have heff := hp.eff
  rw [storedValue_ref cfg k v c id h] at heff
  rcases heff with ⟨_, _, A, B, _, hl⟩ | ⟨v0, A, B, _, _, hl⟩ <;> rw [hl] <;> simp

/-- result of a successful `OMap.remove` -/
structure ORemPost (T : Nat) (D : DigestFn (r + 1)) (m m' : OMap r) (k : MKey) (v : Elem) (c c' : Ctx) : Prop where
  eff : RemEffect m.toList m'.toList k v
  inv : MapInv T D m'
  /-- unconditional: `remove_spec` has `CtxOk m c` as a hypothesis -/
  ctx : CtxOk m' c'
  rootID : m'.rootID = m.rootID
  ty : m'.ty = m.ty
  seed : m'.seed = m.seed
  count : m'.count = m.count - 1

/-- `OMap.remove` fails with `keyNotFound` or succeeds with `ORemPost`, and the slab-ID counter does not
    go down -/
theorem OMap.remove_specC (hT : legalThreshold T = true) {m : OMap r} (hcfg : CfgOk cfg T m) (h : MapInv T D m)
    {k : MKey} (hk : KeyOk T (r + 1) D k) (c : Ctx) (hc : CtxOk m c) :
    ((∀ p ∈ m.toList, p.1 ≠ k) → m.remove cfg k c = .error .keyNotFound) ∧
    (∀ v, (k, v) ∈ m.toList → ∃ m' c', m.remove cfg k c = .ok (k, v, m', c') ∧ ORemPost T D m m' k v c c' ∧
      c.ctr ≤ c'.ctr) := by
  have hc' : CfgFor cfg T (r + 1) := ⟨hcfg.1, hcfg.2.1⟩
  obtain ⟨d, root, ty, cnt, seed⟩ := m
  obtain ⟨h1, h2⟩ := MTree.remove_spec hT hc' hk d true root c h.tree
  constructor
  · intro hne
    have := h1 hne
    simp only [OMap.remove, this, bind, Except.bind]
  · intro v hv
    obtain ⟨root', c1, heq, hp⟩ := h2 v hv
    have hcnt : cnt = (MTree.toList d root).length := h.count_eq
    obtain ⟨m3, c3, heq3, htl, hinv3, hctx, hrid, hty, hseed, hcount, hc3⟩ :=
      root_fixup_step hT (cnt - 1) h hp.sinv hp.size_le hp.ctr hp.ids hp.id_eq hp.leaves hp.inl
        (by have := hp.eff.length; omega)
    exact ⟨m3, c3, OMap.remove_ok_iff.2 ⟨root', c1, heq, hcfg.1 ▸ heq3⟩,
      ⟨by rw [htl]; exact hp.eff, hinv3, hctx hc, hrid, hty, hseed, hcount⟩, hc3⟩

theorem OMap.remove_spec (hT : legalThreshold T = true) {m : OMap r} (hcfg : CfgOk cfg T m) (h : MapInv T D m)
    {k : MKey} (hk : KeyOk T (r + 1) D k) (c : Ctx) (hc : CtxOk m c) :
    ((∀ p ∈ m.toList, p.1 ≠ k) → m.remove cfg k c = .error .keyNotFound) ∧
    (∀ v, (k, v) ∈ m.toList → ∃ m' c', m.remove cfg k c = .ok (k, v, m', c') ∧ ORemPost T D m m' k v c c') :=
  (OMap.remove_specC hT hcfg h hk c hc).imp id fun h2 v hv =>
    let ⟨m', c', heq, hp, _⟩ := h2 v hv
    ⟨m', c', heq, hp⟩

/-- `OMap.remove_specC` read from a success -/
theorem OMap.remove_post (hT : legalThreshold T = true) {m m' : OMap r} (hcfg : CfgOk cfg T m) (h : MapInv T D m)
    {k : MKey} (hk : KeyOk T (r + 1) D k) {c c' : Ctx} (hc : CtxOk m c) {k0 : MKey} {v0 : Elem}
    (hr : m.remove cfg k c = .ok (k0, v0, m', c')) :
    k0 = k ∧ (k, v0) ∈ m.toList ∧ ORemPost T D m m' k v0 c c' ∧ c.ctr ≤ c'.ctr := by
  obtain ⟨h1, h2⟩ := OMap.remove_specC hT hcfg h hk c hc
  by_cases hex : ∃ w, (k, w) ∈ m.toList
  · obtain ⟨w, hw⟩ := hex
    obtain ⟨_, _, heq, hp⟩ := h2 w hw
    rw [heq] at hr; cases hr
    exact ⟨rfl, hw, hp⟩
  · rw [h1 fun p hp hpk => hex ⟨p.2, hpk ▸ hp⟩] at hr; cases hr

end Atree

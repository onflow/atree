import AtreeProofs.Map.TreeInv2
import AtreeProofs.Core.Cut
/-
  `MMetaSlab.split / merge / lendToRight / borrowFromRight / canLend`.

  Every result slab holds a segment (`take`, `drop`, `++`) of the children of the argument(s);
  `MTreeInv.of_children` builds the invariant of such a slab from facts about its children, and the
  `meta_*_band` lemmas give the sizes from the child counts.
-/
namespace Atree
open Gen

variable {T : Nat} {r : Nat} {D : DigestFn (r + 1)} {d : Nat}

theorem headD_append_left {α : Type} {l₁ l₂ : List α} (a : α) (h : l₁ ≠ []) : (l₁ ++ l₂).headD a = l₁.headD a := by
  cases l₁ with
  | nil => exact absurd rfl h
  | cons x l => simp

theorem sorted_take_drop {l : List (MTree r d)} (n : Nat)
    (h : (l.flatMap (MTree.digests0 d)).Pairwise (· < ·)) :
    ((l.take n).flatMap (MTree.digests0 d)).Pairwise (· < ·) ∧
    ((l.drop n).flatMap (MTree.digests0 d)).Pairwise (· < ·) ∧
    (∀ a ∈ (l.take n).flatMap (MTree.digests0 d), ∀ b ∈ (l.drop n).flatMap (MTree.digests0 d), a < b) := by
  rw [flatMap_take_drop n, List.pairwise_append] at h
  exact h

theorem mem_flatMap_of_sub {α β : Type} {f : α → List β} {xs ys : List α} (h : ∀ x ∈ xs, x ∈ ys) {b : β}
    (hb : b ∈ xs.flatMap f) : b ∈ ys.flatMap f := by
  obtain ⟨c, hc, hbc⟩ := List.mem_flatMap.mp hb
  exact List.mem_flatMap.mpr ⟨c, h c hc, hbc⟩

namespace MetaLoose
variable {top : Bool} {m : MMetaSlab (MTree r d)}

/-- `MetaLoose` from the clauses about the slab itself and, per child, the three facts `MetaLoose.child` hands out -/
theorem of_child {top : Bool} {m' : MMetaSlab (MTree r d)} (hroot : m'.root = top)
    (hh : m'.childHdrs = m'.children.map (MTree.hdr d))
    (hsz : m'.hdr.size = mapMetaDataSlabPrefixSize + mapSlabHeaderSize * m'.children.length)
    (hfk : m'.hdr.firstKey = (m'.childHdrs.headD default).firstKey)
    (hc : ∀ c ∈ m'.children, MTreeInv T D d false c ∧ (MTree.hdr d c).id.addr = m'.hdr.id.addr ∧
      (MTree.hdr d c).firstKey = (MTree.digests0 d c).headD 0)
    (hs : (m'.children.flatMap (MTree.digests0 d)).Pairwise (· < ·)) : MetaLoose T D d top m' :=
  ⟨hroot, hh, hsz, hfk, fun c h => (hc c h).1, fun c h => (hc c h).2.1, fun c h => (hc c h).2.2, hs⟩

theorem child {top : Bool} {m : MMetaSlab (MTree r d)} (h : MetaLoose T D d top m) :
    ∀ c ∈ m.children, MTreeInv T D d false c ∧ (MTree.hdr d c).id.addr = m.hdr.id.addr ∧
      (MTree.hdr d c).firstKey = (MTree.digests0 d c).headD 0 :=
  fun c hc => ⟨h.kid_inv c hc, h.kid_addr c hc, h.kid_fk c hc⟩

theorem sorted {top : Bool} {m : MMetaSlab (MTree r d)} (h : MetaLoose T D d top m) :
    (m.children.flatMap (MTree.digests0 d)).Pairwise (· < ·) := h.2.2.2.2.2.2.2

theorem size_eq {top : Bool} {m : MMetaSlab (MTree r d)} (h : MetaLoose T D d top m) :
    m.hdr.size = 12 + 18 * m.children.length := h.2.2.1

theorem hdrs_eq (h : MetaLoose T D d top m) : m.childHdrs = m.children.map (MTree.hdr d) := h.2.1

theorem fk_eq (h : MetaLoose T D d top m) : m.hdr.firstKey = (m.childHdrs.headD default).firstKey := h.2.2.2.1

theorem hdrs_len {top : Bool} {m : MMetaSlab (MTree r d)} (h : MetaLoose T D d top m) :
    m.childHdrs.length = m.children.length := by rw [h.2.1, List.length_map]

theorem hdrs_ne_nil (h : MetaLoose T D d top m) (h1 : 1 ≤ m.children.length) : m.childHdrs ≠ [] := by
  intro e; have := h.hdrs_len; rw [e] at this; simp at this; omega

/-- children of another slab at the same address serve as children of `m` -/
theorem child_of {m' : MMetaSlab (MTree r d)} (h : MetaLoose T D d top m) (haddr : m.hdr.id.addr = m'.hdr.id.addr) :
    ∀ c ∈ m.children, MTreeInv T D d false c ∧ (MTree.hdr d c).id.addr = m'.hdr.id.addr ∧
      (MTree.hdr d c).firstKey = (MTree.digests0 d c).headD 0 :=
  fun c hc => ⟨(h.child c hc).1, (h.child c hc).2.1.trans haddr, (h.child c hc).2.2⟩

/-- the same children under another identifier of the owner's address, as a root or not -/
theorem withId {top top' : Bool} {m : MMetaSlab (MTree r d)} (h : MetaLoose T D d top m) {sid : SlabID}
    (haddr : sid.addr = m.hdr.id.addr) :
    MetaLoose T D d top' ({ m with hdr := { m.hdr with id := sid }, root := top' } : MMetaSlab (MTree r d)) :=
  of_child rfl h.hdrs_eq h.size_eq h.fk_eq
    (fun c hc => ⟨h.kid_inv c hc, (h.kid_addr c hc).trans haddr.symm, h.kid_fk c hc⟩) h.sorted

end MetaLoose

/-- a non-root index slab with `k` sound children, consistent header, within the band -/
theorem MTreeInv.of_children (hT : legalThreshold T = true) {m : MMetaSlab (MTree r d)} {k : Nat}
    (hlen : m.children.length = k) (hroot : m.root = false)
    (hh : m.childHdrs = m.children.map (MTree.hdr d)) (hsz : m.hdr.size = 12 + 18 * k)
    (hfk : m.hdr.firstKey = (m.childHdrs.headD default).firstKey)
    (hc : ∀ c ∈ m.children, MTreeInv T D d false c ∧ (MTree.hdr d c).id.addr = m.hdr.id.addr ∧
      (MTree.hdr d c).firstKey = (MTree.digests0 d c).headD 0)
    (hs : (m.children.flatMap (MTree.digests0 d)).Pairwise (· < ·))
    (h1 : minThr T ≤ 12 + 18 * k) (h2 : 12 + 18 * k ≤ maxThr T) : MTreeInv T D (d + 1) false m := by
  subst hlen
  have hm := map_minThr_ge hT
  exact (mtreeInv_false_iff_succ hT m).mpr ⟨⟨MetaLoose.of_child hroot hh hsz hfk hc hs, by omega⟩, hsz ▸ h1, hsz ▸ h2⟩

namespace MMetaSlab
variable {m M E : Nat}

theorem meta_split_band {p : Nat} (hb : ThrBand p T m M E) {n : Nat} (h1 : M < 12 + 18 * n) (h2 : 12 + 18 * n ≤ M + 18) :
    m ≤ 12 + 18 * ((n + 1) / 2) ∧ 12 + 18 * ((n + 1) / 2) ≤ M ∧
    m ≤ 12 + 18 * (n - (n + 1) / 2) ∧ 12 + 18 * (n - (n + 1) / 2) ≤ M ∧
    1 ≤ (n + 1) / 2 ∧ (n + 1) / 2 < n := by
  obtain ⟨b0, b1, b2, b3, b4, -, -⟩ := hb
  omega

theorem split_spec (hT : legalThreshold T = true) {m : MMetaSlab (MTree r d)} (hm : MetaLoose T D d false m)
    (hfull : maxThr T < m.hdr.size) (hle : m.hdr.size ≤ maxThr T + mapSlabHeaderSize) (c : Ctx) :
    ∃ l rr : MMetaSlab (MTree r d), m.split c = .ok (l, rr, (c.alloc m.hdr.id.addr).2) ∧
      MTreeInv T D (d + 1) false l ∧ MTreeInv T D (d + 1) false rr ∧
      m.children = l.children ++ rr.children ∧
      l.hdr.id = m.hdr.id ∧ rr.hdr.id = (c.alloc m.hdr.id.addr).1 ∧ l.hdr.firstKey = m.hdr.firstKey := by
  have hsz := hm.size_eq
  rw [hsz] at hfull hle
  obtain ⟨g1, g2, g3, g4, g5, g6⟩ := meta_split_band (mapBand hT) hfull hle
  have hlen := hm.hdrs_len
  have hn2 : ¬ (m.children.length < 2) := by omega
  obtain ⟨s1, s2, -⟩ := sorted_take_drop ((m.children.length + 1) / 2) hm.sorted
  simp only [MMetaSlab.split, if_neg hn2, hlen]
  refine ⟨_, _, rfl, ?_, ?_, (List.take_append_drop _ _).symm, rfl, rfl, rfl⟩
  · refine MTreeInv.of_children hT (List.length_take_of_le (Nat.le_of_lt g6)) hm.1 ?_ ?_ ?_ ?_ s1 g1 g2
    · exact (congrArg (List.take _) hm.hdrs_eq).trans List.map_take.symm
    · exact congrArg (12 + ·) (Nat.mul_comm _ 18)
    · exact hm.fk_eq.trans (congrArg MHdr.firstKey (headD_take_of_pos _ g5).symm)
    · intro c hc; exact hm.child c (List.mem_of_mem_take hc)
  · refine MTreeInv.of_children hT List.length_drop rfl ?_ ?_ rfl ?_ s2 g3 g4
    · exact (congrArg (List.drop _) hm.hdrs_eq).trans List.map_drop.symm
    · show m.hdr.size - (m.children.length + 1) / 2 * 18 = _
      rw [hsz]; omega
    · intro c hc
      have := hm.child c (List.mem_of_mem_drop hc)
      exact ⟨this.1, this.2.1, this.2.2⟩

theorem sorted_append {xs ys : List (MTree r d)}
    (h1 : (xs.flatMap (MTree.digests0 d)).Pairwise (· < ·)) (h2 : (ys.flatMap (MTree.digests0 d)).Pairwise (· < ·))
    (hlt : ∀ a ∈ xs.flatMap (MTree.digests0 d), ∀ b ∈ ys.flatMap (MTree.digests0 d), a < b) :
    ((xs ++ ys).flatMap (MTree.digests0 d)).Pairwise (· < ·) := by
  rw [List.flatMap_append, List.pairwise_append]; exact ⟨h1, h2, hlt⟩

theorem merge_spec {l rr : MMetaSlab (MTree r d)} (hl : MetaLoose T D d false l) (hr : MetaLoose T D d false rr)
    (hl1 : 1 ≤ l.children.length) (haddr : rr.hdr.id.addr = l.hdr.id.addr)
    (hlt : ∀ a ∈ MTree.digests0 (d + 1) l, ∀ b ∈ MTree.digests0 (d + 1) rr, a < b) :
    MetaLoose T D d false (MMetaSlab.merge l rr) ∧
    (MMetaSlab.merge l rr).hdr.size + 12 = l.hdr.size + rr.hdr.size ∧
    (MMetaSlab.merge l rr).children = l.children ++ rr.children ∧
    (MMetaSlab.merge l rr).hdr.id = l.hdr.id ∧ (MMetaSlab.merge l rr).hdr.firstKey = l.hdr.firstKey := by
  have h1 := hl.size_eq
  have h2 := hr.size_eq
  have hsz : (MMetaSlab.merge l rr).hdr.size = l.hdr.size + (rr.hdr.size - 12) := rfl
  refine ⟨MetaLoose.of_child hl.1 ?_ ?_ ?_ ?_ (sorted_append hl.sorted hr.sorted hlt), ?_, rfl, rfl, rfl⟩
  · show l.childHdrs ++ rr.childHdrs = (l.children ++ rr.children).map _
    rw [hl.hdrs_eq, hr.hdrs_eq, List.map_append]
  · show _ = 12 + 18 * (l.children ++ rr.children).length
    rw [hsz, h1, h2, List.length_append]; omega
  · exact hl.fk_eq.trans (congrArg MHdr.firstKey (headD_append_left _ (hl.hdrs_ne_nil hl1)).symm)
  · intro c hc
    rcases List.mem_append.mp hc with hc | hc
    · exact hl.child c hc
    · exact hr.child_of haddr c hc
  · rw [hsz, h1, h2]; omega

theorem canLend_iff (m : MMetaSlab (MTree r d)) (want : Nat) :
    m.canLend T want = true ↔
      18 * ((want + 17) / 18) ≤ m.hdr.size ∧ minThr T < m.hdr.size - 18 * ((want + 17) / 18) := by
  simp only [MMetaSlab.canLend, mapSlabHeaderSize, show want + 18 - 1 = want + 17 by omega]
  split
  · rename_i h; simp; exact fun _ => h
  · rename_i h; simp; intro h'; exact absurd h' h

/-- a slab with `cl` children that can lend to an underfull sibling with `cr` children: after
    rebalancing to `(cl + cr) / 2` and the rest, both are within the band -/
theorem meta_lend_band {cl cr : Nat} (hl2 : 12 + 18 * cl ≤ M) (hr : 12 + 18 * cr < m)
    (h1 : 18 * ((m - (12 + 18 * cr) + 17) / 18) ≤ 12 + 18 * cl)
    (h2 : m < 12 + 18 * cl - 18 * ((m - (12 + 18 * cr) + 17) / 18)) :
    m ≤ 12 + 18 * ((cl + cr) / 2) ∧ 12 + 18 * ((cl + cr) / 2) ≤ M ∧
    m ≤ 12 + 18 * (cl + cr - (cl + cr) / 2) ∧ 12 + 18 * (cl + cr - (cl + cr) / 2) ≤ M ∧
    (cl + cr) / 2 ≤ cl ∧ cr ≤ (cl + cr) / 2 :=
  idx_rebal_band hl2 hr h1 h2 (Nat.sub_le_iff_le_add'.mp (le_mul_ceil (hs := 18) (by decide) _))

/-- merging an underflowing index slab with a sibling that cannot lend stays within the band -/
theorem merge_band (hT : legalThreshold T = true) {u sib : MMetaSlab (MTree r d)} (hu : MetaLoose T D d false u)
    (hs : MTreeInv T D (d + 1) false sib) (hunder : u.hdr.size < minThr T)
    (h : sib.canLend T (minThr T - u.hdr.size) = false) :
    minThr T + 12 ≤ u.hdr.size + sib.hdr.size ∧ u.hdr.size + sib.hdr.size ≤ maxThr T + 12 := by
  obtain ⟨-, hs1, -⟩ := (mtreeInv_false_iff_succ hT sib).mp hs
  have hn : ¬ (sib.canLend T (minThr T - u.hdr.size) = true) := by rw [h]; simp
  rw [canLend_iff] at hn
  -- the sibling is less than one header above what it would have to keep
  refine (mapBand hT).merge (by decide) (hu.size_eq ▸ Nat.le_add_right 12 _) hunder hs1 ?_
  omega

theorem lendToRight_spec (hT : legalThreshold T = true) {l rr : MMetaSlab (MTree r d)}
    (hl : MTreeInv T D (d + 1) false l) (hr : MetaLoose T D d false rr) (hunder : rr.hdr.size < minThr T)
    (hcan : l.canLend T (minThr T - rr.hdr.size) = true) (haddr : rr.hdr.id.addr = l.hdr.id.addr)
    (hlt : ∀ a ∈ MTree.digests0 (d + 1) l, ∀ b ∈ MTree.digests0 (d + 1) rr, a < b) :
    MTreeInv T D (d + 1) false (MMetaSlab.lendToRight l rr).1 ∧
    MTreeInv T D (d + 1) false (MMetaSlab.lendToRight l rr).2 ∧
    l.children ++ rr.children = (MMetaSlab.lendToRight l rr).1.children ++ (MMetaSlab.lendToRight l rr).2.children ∧
    (MMetaSlab.lendToRight l rr).1.hdr.id = l.hdr.id ∧ (MMetaSlab.lendToRight l rr).2.hdr.id = rr.hdr.id := by
  obtain ⟨⟨hll, _⟩, hl1, hl2⟩ := (mtreeInv_false_iff_succ hT l).mp hl
  have h1 := hll.size_eq
  have h2 := hr.size_eq
  rw [canLend_iff] at hcan
  rw [h1] at hl1 hl2
  rw [h2] at hunder
  rw [h1, h2] at hcan
  obtain ⟨g1, g2, g3, g4, g5, g6⟩ := meta_lend_band hl2 hunder hcan.1 hcan.2
  have hm := map_minThr_ge hT
  clear hcan hunder hl1 hl2
  have g7 : 1 ≤ (l.children.length + rr.children.length) / 2 := by omega
  obtain ⟨s1, s2, -⟩ := sorted_take_drop ((l.children.length + rr.children.length) / 2) hll.sorted
  simp only [MMetaSlab.lendToRight, hll.hdrs_len, hr.hdrs_len]
  refine ⟨?_, ?_, ?_, trivial, trivial⟩
  · refine MTreeInv.of_children hT (List.length_take_of_le g5) hll.1 ?_ ?_ ?_ ?_ s1 g1 g2
    · exact (congrArg (List.take _) hll.hdrs_eq).trans List.map_take.symm
    · exact congrArg (12 + ·) (Nat.mul_comm _ 18)
    · exact hll.fk_eq.trans (congrArg MHdr.firstKey (headD_take_of_pos _ g7).symm)
    · intro c hc; exact hll.child c (List.mem_of_mem_take hc)
  · refine MTreeInv.of_children hT (k := l.children.length + rr.children.length -
        (l.children.length + rr.children.length) / 2) ?_ hr.1 ?_ ?_ rfl ?_ ?_ g3 g4
    · show (l.children.drop _ ++ rr.children).length = _
      rw [List.length_append, List.length_drop]; omega
    · show l.childHdrs.drop _ ++ rr.childHdrs = (l.children.drop _ ++ rr.children).map _
      rw [hll.hdrs_eq, hr.hdrs_eq, List.map_append, List.map_drop]
    · exact congrArg (12 + ·) (Nat.mul_comm _ 18)
    · intro c hc
      rcases List.mem_append.mp hc with hc | hc
      · exact hll.child_of haddr.symm c (List.mem_of_mem_drop hc)
      · exact hr.child c hc
    · exact sorted_append s2 hr.sorted
        (fun a ha b hb => hlt a (mem_flatMap_of_sub (fun _ => List.mem_of_mem_drop) ha) b hb)
  · show _ = l.children.take _ ++ (l.children.drop _ ++ _)
    rw [← List.append_assoc, List.take_append_drop]

theorem borrowFromRight_spec (hT : legalThreshold T = true) {l rr : MMetaSlab (MTree r d)}
    (hl : MetaLoose T D d false l) (hl1 : 1 ≤ l.children.length) (hr : MTreeInv T D (d + 1) false rr)
    (hunder : l.hdr.size < minThr T)
    (hcan : rr.canLend T (minThr T - l.hdr.size) = true) (haddr : rr.hdr.id.addr = l.hdr.id.addr)
    (hlt : ∀ a ∈ MTree.digests0 (d + 1) l, ∀ b ∈ MTree.digests0 (d + 1) rr, a < b) :
    MTreeInv T D (d + 1) false (MMetaSlab.borrowFromRight l rr).1 ∧
    MTreeInv T D (d + 1) false (MMetaSlab.borrowFromRight l rr).2 ∧
    l.children ++ rr.children =
      (MMetaSlab.borrowFromRight l rr).1.children ++ (MMetaSlab.borrowFromRight l rr).2.children ∧
    (MMetaSlab.borrowFromRight l rr).1.hdr.id = l.hdr.id ∧ (MMetaSlab.borrowFromRight l rr).2.hdr.id = rr.hdr.id ∧
    (MMetaSlab.borrowFromRight l rr).1.hdr.firstKey = l.hdr.firstKey := by
  obtain ⟨⟨hrl, _⟩, hr1, hr2⟩ := (mtreeInv_false_iff_succ hT rr).mp hr
  have h1 := hl.size_eq
  have h2 := hrl.size_eq
  rw [canLend_iff] at hcan
  rw [h2] at hr1 hr2
  rw [h1] at hunder
  rw [h1, h2] at hcan
  obtain ⟨g1, g2, g3, g4, g5, g6⟩ := meta_lend_band hr2 hunder hcan.1 hcan.2
  rw [Nat.add_comm rr.children.length] at g1 g2 g3 g4 g5 g6
  clear hcan hunder hr1 hr2
  obtain ⟨s1, s2, -⟩ := sorted_take_drop
    ((l.children.length + rr.children.length) / 2 - l.children.length) hrl.sorted
  simp only [MMetaSlab.borrowFromRight, hl.hdrs_len, hrl.hdrs_len]
  refine ⟨?_, ?_, ?_, trivial, trivial, trivial⟩
  · refine MTreeInv.of_children hT (k := (l.children.length + rr.children.length) / 2) ?_ hl.1 ?_ ?_ ?_ ?_ ?_ g1 g2
    · show (l.children ++ rr.children.take _).length = _
      rw [List.length_append, List.length_take]; omega
    · show l.childHdrs ++ rr.childHdrs.take _ = (l.children ++ rr.children.take _).map _
      rw [hl.hdrs_eq, hrl.hdrs_eq, List.map_append, List.map_take]
    · exact congrArg (12 + ·) (Nat.mul_comm _ 18)
    · exact hl.fk_eq.trans (congrArg MHdr.firstKey (headD_append_left _ (hl.hdrs_ne_nil hl1)).symm)
    · intro c hc
      rcases List.mem_append.mp hc with hc | hc
      · exact hl.child c hc
      · exact hrl.child_of haddr c (List.mem_of_mem_take hc)
    · exact sorted_append hl.sorted s1
        (fun a ha b hb => hlt a ha b (mem_flatMap_of_sub (fun _ => List.mem_of_mem_take) hb))
  · refine MTreeInv.of_children hT (k := l.children.length + rr.children.length -
        (l.children.length + rr.children.length) / 2) ?_ hrl.1 ?_ ?_ rfl ?_ s2 g3 g4
    · show (rr.children.drop _).length = _
      rw [List.length_drop]; omega
    · exact (congrArg (List.drop _) hrl.hdrs_eq).trans List.map_drop.symm
    · exact congrArg (12 + ·) (Nat.mul_comm _ 18)
    · intro c hc; exact hrl.child c (List.mem_of_mem_drop hc)
  · show _ = l.children ++ rr.children.take _ ++ _
    rw [List.append_assoc, List.take_append_drop]

end MMetaSlab
end Atree

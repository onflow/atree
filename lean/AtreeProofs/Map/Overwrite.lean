import AtreeProofs.Map.TreeTop
import AtreeProofs.Map.Limit
/-
  Overwriting the value of a PRESENT key: `OMap.set` succeeds and replaces the pair in place
  (exported for the iterator proofs, C13).  No `CtxOk` hypothesis is needed.
-/
namespace Atree
open Gen

variable {T : Nat} {r : Nat} {D : DigestFn (r + 1)} {cfg : MCfg}

/-- in a list with distinct keys the position of a key is unique -/
theorem zipper_unique {A A' B B' : List (MKey × Elem)} {k : MKey} {v v' : Elem}
    (hd : KeysDistinct (A ++ (k, v) :: B)) (h : A ++ (k, v) :: B = A' ++ (k, v') :: B') :
    A = A' ∧ v = v' ∧ B = B' := by
  induction A generalizing A' with
  | nil =>
    cases A' with
    | nil => simp at h; exact ⟨rfl, h.1, h.2⟩
    | cons a A'' =>
      exfalso
      simp only [List.nil_append, List.cons_append, List.cons.injEq] at h
      obtain ⟨_, hB⟩ := h
      rw [List.nil_append, KeysDistinct.cons_iff] at hd
      have := hd.1 (k, v') (by rw [hB]; simp)
      simp [MKey.same_self] at this
  | cons a A ih =>
    cases A' with
    | nil =>
      exfalso
      simp only [List.nil_append, List.cons_append, List.cons.injEq] at h
      obtain ⟨ha, hB⟩ := h
      rw [List.cons_append, KeysDistinct.cons_iff] at hd
      have := hd.1 (k, v) (by simp)
      rw [ha] at this
      simp [MKey.same_self] at this
    | cons a' A'' =>
      simp only [List.cons_append, List.cons.injEq] at h
      rw [List.cons_append, KeysDistinct.cons_iff] at hd
      obtain ⟨h1, h2, h3⟩ := ih hd.2 h.2
      exact ⟨by rw [h.1, h1], h2, h3⟩

/-- `set` on a present key: succeeds, returns the old value, replaces the pair in place -/
theorem OMap.set_overwrite (hT : legalThreshold T = true) {m : OMap r} (hcfg : CfgOk cfg T m) (h : MapInv T D m)
    {A B : List (MKey × Elem)} {k : MKey} {v0 : Elem} (htl : m.toList = A ++ (k, v0) :: B)
    {v : Elem} (hv : ValueOkM v) (c : Ctx) :
    ∃ m' c', m.set cfg k v c = .ok (some v0, m', c') ∧ MapInv T D m' ∧ CfgOk cfg T m' ∧
      (CtxOk m c → CtxOk m' c') ∧ m'.toList = A ++ (k, storedValue cfg k v c) :: B ∧
      m'.rootID = m.rootID ∧ m'.count = m.count := by
  have hmem : (k, v0) ∈ m.toList := by rw [htl]; simp
  have hk : KeyOk T (r + 1) D k := h.allKeyOk _ hmem
  have hs := OMap.set_spec hT hcfg h hk hv c
  have hnl : ¬ TLimited cfg m.d m.root k := fun hl =>
    tlimited_absent hT m.d true m.root h.sinv hl _ hmem rfl
  obtain ⟨old, m', c', heq, hp⟩ := hs.2 hnl
  have hd : KeysDistinct (A ++ (k, v0) :: B) := by rw [← htl]; exact h.distinct
  rcases hp.eff with ⟨_, habs, _⟩ | ⟨v1, A', B', ho, h1, h2⟩
  · exact absurd rfl (habs _ hmem)
  · rw [htl] at h1
    obtain ⟨e1, e2, e3⟩ := zipper_unique hd h1
    subst e1 e2 e3 ho
    exact ⟨m', c', heq, hp.inv, hcfg.of_rootID hp.rootID, hp.ctx, h2, hp.rootID, by rw [hp.count]; rfl⟩

end Atree

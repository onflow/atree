import AtreeProofs.ExceptLemmas
import AtreeProofs.Map.Search
/-
  The paths through `singleElements.Set / Remove` (`SingleElems.set_cases`, `remove_cases`), `element.Set /
  Remove` (`MElemF.set_cases`, `inlSet_cases`, `remove_cases`) and
  `hkeyElements.Set / Remove` (`HkeyElems.set_inv`, `remove_inv`), read off the code (no invariant),
  each with the call one level down and the context it leaves (`storeCtx`, the group calls `GEv`): a
  successful `HkeyElems.set` either inserts a new single element or runs `setAt` on the element found, a
  successful `remove` runs `removeAt`.  Then the data slab (`MDataSlab.set_ok_iff / remove_ok_iff`), one
  level of `MTree.set / remove` (`*_succ_cases`), the inductions along the descent `set_induction /
  remove_induction` (the whole map: `OMap.set_ok_iff` in `Map/Root.lean`), and `LeafView`: every list
  view additive over first-level elements / children is preserved by split, merge, lend and borrow
  (`split_view / merge_view / lend_view / borrow_view`; by the repair of an index slab:
  `afterChild_view` in `Map/Repair.lean`).
-/
namespace Atree
open Gen

/-- the context `Value.Storable` leaves when `v` is stored next to key `k` (`storedValue` is the
    value it returns) -/
def storeCtx (cfg : MCfg) (k : MKey) (v : Elem) (c : Ctx) : Ctx :=
  (toStorableLim (maxInlineMapValue cfg.T k.size) cfg.addr v c).2

/-- the storage calls made for an external collision group: its slab is stored again after a
    change inside, removed when the group collapses to its last element, or allocated and stored
    when an inline group is exported -/
inductive GEv where
  | store (id : SlabID)
  | drop (id : SlabID)
  | export

def GEv.run (a : Nat) (c : Ctx) : GEv → Ctx
  | .store id => c.emit (.store id)
  | .drop id => c.emit (.remove id)
  | .export => (c.alloc a).2.emit (.store (c.alloc a).1)

/-- a single element around a new stored value -/
def SElem.withVal (x : SElem) (vs : Elem) : SElem :=
  { x with val := vs, size := singleElementPrefixSize + x.key.size + vs.size }

namespace SingleElems
variable {cfg : MCfg} {ℓ : Nat} {k : MKey} {c : Ctx}

/-- the paths of `singleElements.Set` (the list at the last digest level): the element with the
    caller's key is overwritten in place, or a new element is appended -/
theorem set_cases {e e' : SingleElems} {v : Elem} {ks : MKey} {old : Option Elem} {c' : Ctx}
    (h : set cfg e ℓ k v c = .ok (ks, old, e', c')) :
    (∃ i x, e.elems[i]? = some x ∧ x.key.same k = true ∧ ks = x.key ∧ old = some x.val ∧
      e'.elems = e.elems.set i (x.withVal (storedValue cfg k v c)) ∧ c' = storeCtx cfg k v c) ∨
    (old = none ∧ ks = k ∧ e'.elems = e.elems ++ [(newSingleElement cfg.T cfg.addr k v c).1] ∧
      c' = storeCtx cfg k v c) := by
  unfold set at h
  split at h
  · cases h
  · split at h
    · rename_i i hi
      split at h
      · cases h
      · rename_i x hx
        obtain ⟨hlt, hp, -⟩ := List.findIdx?_eq_some_iff_getElem.1 hi
        obtain rfl : e.elems[i] = x := Option.some.inj ((List.getElem?_eq_getElem hlt).symm.trans hx)
        simp only [Except.ok.injEq, Prod.mk.injEq] at h
        obtain ⟨rfl, rfl, rfl, rfl⟩ := h
        -- the element found has the caller's key, so the inline limit is that of `k`
        have hsz := MKey.same_size hp
        exact Or.inl ⟨i, _, hx, hp, rfl, rfl, by simp only [SElem.withVal, storedValue, hsz],
          by simp only [storeCtx, hsz]⟩
    · simp only [Except.ok.injEq, Prod.mk.injEq] at h
      obtain ⟨rfl, rfl, rfl, rfl⟩ := h
      exact Or.inr ⟨rfl, rfl, rfl, rfl⟩

theorem remove_cases {e e' : SingleElems} {rk : MKey} {rv : Elem} {c' : Ctx}
    (h : remove cfg e ℓ k c = .ok (rk, rv, e', c')) :
    ∃ i x, e.elems[i]? = some x ∧ x.key.same k = true ∧ rk = x.key ∧ rv = x.val ∧
      e' = { e with elems := e.elems.eraseIdx i, size := e.size - x.size } ∧ c' = c := by
  unfold remove at h
  split at h
  · cases h
  · split at h
    · rename_i i hi
      split at h
      · cases h
      · rename_i x hx
        obtain ⟨hlt, hp, -⟩ := List.findIdx?_eq_some_iff_getElem.1 hi
        obtain rfl : e.elems[i] = x := Option.some.inj ((List.getElem?_eq_getElem hlt).symm.trans hx)
        simp only [Except.ok.injEq, Prod.mk.injEq] at h
        obtain ⟨rfl, rfl, rfl, rfl⟩ := h
        exact ⟨i, _, hx, hp, rfl, rfl, rfl, rfl⟩
    · cases h

end SingleElems

namespace MElemF
variable {α : Type} {o : ElemsOps α} {cfg : MCfg} {ℓ : Nat} {k : MKey} {c : Ctx}

/-- a successful `inlSet` set inside the group; the group stays inline unless it sits at the first
    level and has outgrown the element limit, in which case it is exported to a slab of its own -/
theorem inlSet_cases {g : α} {v : Elem} {el' : MElemF α} {ks : MKey} {old : Option Elem} {c' : Ctx}
    (h : inlSet o cfg g ℓ k v c = .ok (el', ks, old, c')) :
    ∃ g' c1, o.set cfg g (ℓ + 1) k v c = .ok (ks, old, g', c1) ∧
      ((¬ (ℓ = 0 ∧ maxInlineMapElem cfg.T < inlineCollisionGroupPrefixSize + o.size g') ∧
          el' = .inl g' ∧ c' = c1) ∨
       (ℓ = 0 ∧ maxInlineMapElem cfg.T < inlineCollisionGroupPrefixSize + o.size g' ∧
          el' = .ext (c1.alloc cfg.addr).1 (externalCollisionGroupPrefixSize + slabIDStorableSize)
            ⟨⟨(c1.alloc cfg.addr).1, mapDataSlabPrefixSize + o.size g', o.firstKey g'⟩, g'⟩ ∧
          c' = GEv.run cfg.addr c1 .export)) := by
  unfold inlSet at h
  by_cases hl : ℓ + 1 > cfg.L
  · simp [hl, bind, Except.bind, throw, throwThe, MonadExceptOf.throw] at h
  · simp only [hl, if_false, bind, Except.bind, pure, Except.pure] at h
    cases hs : o.set cfg g (ℓ + 1) k v c with
    | error e => simp [hs] at h
    | ok p =>
      obtain ⟨ks', old', g', c1⟩ := p
      simp only [hs] at h
      split at h
      · rename_i hc
        simp only [Except.ok.injEq, Prod.mk.injEq] at h
        obtain ⟨rfl, rfl, rfl, rfl⟩ := h
        simp only [Bool.and_eq_true, beq_iff_eq, decide_eq_true_eq] at hc
        exact ⟨g', c1, rfl, Or.inr ⟨by omega, hc.2, rfl, rfl⟩⟩
      · rename_i hc
        simp only [Except.ok.injEq, Prod.mk.injEq] at h
        obtain ⟨rfl, rfl, rfl, rfl⟩ := h
        simp only [Bool.and_eq_true, beq_iff_eq, decide_eq_true_eq] at hc
        exact ⟨g', c1, rfl, Or.inl ⟨fun hh => hc ⟨by omega, hh.2⟩, rfl, rfl⟩⟩

/-- the paths of `element.Set`: a resident single element with the caller's key is overwritten in
    place; or `set` runs inside the inline group (possibly just born from a colliding single
    element), see `inlSet_cases`; or it runs inside the external group, whose slab is stored again -/
theorem set_cases {el el' : MElemF α} {v : Elem} {ks : MKey} {old : Option Elem} {c' : Ctx}
    (h : el.set o cfg ℓ k v c = .ok (el', ks, old, c')) :
    (∃ x, el = .single x ∧ x.key.same k = true ∧ ks = x.key ∧ old = some x.val ∧ c' = storeCtx cfg k v c ∧
        el' = .single { x with val := storedValue cfg k v c,
                               size := singleElementPrefixSize + x.key.size + (storedValue cfg k v c).size }) ∨
    (∃ g, (el = .inl g ∨ ∃ x, el = .single x ∧ x.key.same k = false ∧ o.newWith cfg (ℓ + 1) x = .ok g) ∧
        inlSet o cfg g ℓ k v c = .ok (el', ks, old, c')) ∨
    (∃ id sz s g' c1, el = .ext id sz s ∧ o.set cfg s.elems (ℓ + 1) k v c = .ok (ks, old, g', c1) ∧
        el' = .ext id sz (groupSlabUpdate o s g' c1).1 ∧ c' = GEv.run cfg.addr c1 (.store s.hdr.id)) := by
  cases el with
  | single x =>
    simp only [set] at h
    split at h
    · rename_i hs
      -- the resident key has the size of the caller's key, so the inline limit is that of `k`
      have hsz := MKey.same_size hs
      simp only [Except.ok.injEq, Prod.mk.injEq] at h
      obtain ⟨rfl, rfl, rfl, rfl⟩ := h
      refine Or.inl ⟨x, rfl, hs, rfl, rfl, ?_, ?_⟩ <;> simp only [storeCtx, storedValue, ← hsz]
    · rename_i hs
      obtain ⟨g, hg, h⟩ := bind_eq_ok h
      exact Or.inr (Or.inl ⟨g, Or.inr ⟨x, rfl, by simpa using hs, hg⟩, h⟩)
  | inl g =>
    simp only [set] at h
    exact Or.inr (Or.inl ⟨g, Or.inl rfl, h⟩)
  | ext id sz s =>
    simp only [set] at h
    by_cases hl : ℓ + 1 > cfg.L
    · simp [hl, bind, Except.bind, throw, throwThe, MonadExceptOf.throw] at h
    · simp only [hl, if_false, bind, Except.bind, pure, Except.pure] at h
      cases hs : o.set cfg s.elems (ℓ + 1) k v c with
      | error e => simp [hs] at h
      | ok p =>
        obtain ⟨ks', old', g', c1⟩ := p
        simp only [hs, Except.ok.injEq, Prod.mk.injEq] at h
        obtain ⟨rfl, rfl, rfl, rfl⟩ := h
        exact Or.inr (Or.inr ⟨id, sz, s, g', c1, rfl, hs, rfl, rfl⟩)

/-- the paths of `element.Remove`: a single element with the caller's key goes; a group from which
    the key was removed stays, or collapses to its last single element (the slab of an external
    group is stored first and, on collapse, removed) -/
theorem remove_cases {el : MElemF α} {rk : MKey} {rv : Elem} {el' : Option (MElemF α)} {c' : Ctx}
    (h : el.remove o cfg ℓ k c = .ok (rk, rv, el', c')) :
    (∃ x, el = .single x ∧ x.key.same k = true ∧ rk = x.key ∧ rv = x.val ∧ el' = none ∧ c' = c) ∨
    (∃ g g', el = .inl g ∧ o.remove cfg g (ℓ + 1) k c = .ok (rk, rv, g', c') ∧
        ((∃ x, o.soleSingle g' = some x ∧ el' = some (.single x)) ∨
         (o.soleSingle g' = none ∧ el' = some (.inl g')))) ∨
    (∃ id sz s g' c1, el = .ext id sz s ∧ o.remove cfg s.elems (ℓ + 1) k c = .ok (rk, rv, g', c1) ∧
        ((∃ x, o.soleSingle g' = some x ∧ el' = some (.single x) ∧
            c' = GEv.run cfg.addr (GEv.run cfg.addr c1 (.store s.hdr.id)) (.drop id)) ∨
         (o.soleSingle g' = none ∧ el' = some (.ext id sz (groupSlabUpdate o s g' c1).1) ∧
            c' = GEv.run cfg.addr c1 (.store s.hdr.id)))) := by
  cases el with
  | single x =>
    simp only [remove] at h
    split at h
    · rename_i hs
      simp only [Except.ok.injEq, Prod.mk.injEq] at h
      obtain ⟨rfl, rfl, rfl, rfl⟩ := h
      exact Or.inl ⟨x, rfl, hs, rfl, rfl, rfl, rfl⟩
    · cases h
  | inl g =>
    simp only [remove] at h
    by_cases hl : ℓ + 1 > cfg.L
    · simp [hl, bind, Except.bind, throw, throwThe, MonadExceptOf.throw] at h
    · simp only [hl, if_false, bind, Except.bind, pure, Except.pure] at h
      cases hs : o.remove cfg g (ℓ + 1) k c with
      | error e => simp [hs] at h
      | ok p =>
        obtain ⟨rk', rv', g', c1⟩ := p
        simp only [hs] at h
        split at h
        · rename_i x hx
          simp only [Except.ok.injEq, Prod.mk.injEq] at h
          obtain ⟨rfl, rfl, rfl, rfl⟩ := h
          exact Or.inr (Or.inl ⟨g, g', rfl, hs, Or.inl ⟨x, hx, rfl⟩⟩)
        · rename_i hx
          simp only [Except.ok.injEq, Prod.mk.injEq] at h
          obtain ⟨rfl, rfl, rfl, rfl⟩ := h
          exact Or.inr (Or.inl ⟨g, g', rfl, hs, Or.inr ⟨hx, rfl⟩⟩)
  | ext id sz s =>
    simp only [remove] at h
    by_cases hl : ℓ + 1 > cfg.L
    · simp [hl, bind, Except.bind, throw, throwThe, MonadExceptOf.throw] at h
    · simp only [hl, if_false, bind, Except.bind, pure, Except.pure] at h
      cases hs : o.remove cfg s.elems (ℓ + 1) k c with
      | error e => simp [hs] at h
      | ok p =>
        obtain ⟨rk', rv', g', c1⟩ := p
        simp only [hs] at h
        split at h
        · rename_i x hx
          simp only [Except.ok.injEq, Prod.mk.injEq] at h
          obtain ⟨rfl, rfl, rfl, rfl⟩ := h
          exact Or.inr (Or.inr ⟨id, sz, s, g', c1, rfl, hs, Or.inl ⟨x, hx, rfl, rfl⟩⟩)
        · rename_i hx
          simp only [Except.ok.injEq, Prod.mk.injEq] at h
          obtain ⟨rfl, rfl, rfl, rfl⟩ := h
          exact Or.inr (Or.inr ⟨id, sz, s, g', c1, rfl, hs, Or.inr ⟨hx, rfl, rfl⟩⟩)

end MElemF

namespace HkeyElems
variable {α : Type}

/-- the part of `HkeyElems.set` that runs once the digest has been found at index `i` -/
def setAt (o : ElemsOps α) (cfg : MCfg) (e : HkeyElems α) (level : Nat) (k : MKey) (v : Elem) (c : Ctx)
    (i : Nat) (el : MElemF α) : Except MErr (MKey × Option Elem × HkeyElems α × Ctx) := do
  if e.level == 0 then
    let n := el.count o
    if n == 0 then throw .mapElementCount
    if n - 1 ≥ cfg.climit then
      match el.get o cfg level k with
      | .error .keyNotFound => throw .collisionLimit
      | _ => pure ()
  let (el', ks, old, c) ← el.set o cfg level k v c
  let elems := e.elems.set i el'
  return (ks, old, { e with elems := elems, size := hkeyElementsPrefixSize + elemSizes o elems }, c)

/-- the part of `HkeyElems.remove` that runs once the digest has been found at index `i` -/
def removeAt (o : ElemsOps α) (cfg : MCfg) (e : HkeyElems α) (level : Nat) (k : MKey) (c : Ctx)
    (i : Nat) (el : MElemF α) : Except MErr (MKey × Elem × HkeyElems α × Ctx) := do
  let oldSize := el.size o
  let (rk, rv, el', c) ← el.remove o cfg level k c
  match el' with
  | none =>
    return (rk, rv, { e with elems := e.elems.eraseIdx i, hkeys := e.hkeys.eraseIdx i,
                             size := e.size - (digestSize + oldSize) }, c)
  | some el' =>
    return (rk, rv, { e with elems := e.elems.set i el', size := e.size + el'.size o - oldSize }, c)

theorem findEqLt_snd_le (hkeys : List Nat) (hkey n : Nat) : ∀ (fuel i j lt : Nat), j ≤ n → lt ≤ n →
    (findEqLt hkeys hkey i j lt fuel).2 ≤ n
  | 0, _, _, _, _, hlt => hlt
  | fuel + 1, i, j, lt, hj, hlt => by
    simp only [findEqLt]
    split
    · rename_i hij
      have hm := Nat.le_trans (Nat.le_of_lt (mid_bounds hij).2) hj
      split
      · exact findEqLt_snd_le hkeys hkey n fuel i _ _ hm hm
      · split
        · exact findEqLt_snd_le hkeys hkey n fuel _ j lt hj hlt
        · exact hlt
    · exact hlt

variable {o : ElemsOps α} {cfg : MCfg} {e : HkeyElems α} {ℓ : Nat} {k : MKey} {c : Ctx}

theorem set_cases {v : Elem} {res : MKey × Option Elem × HkeyElems α × Ctx}
    (h : set o cfg e ℓ k v c = .ok res) :
    (∃ idx, idx ≤ e.hkeys.length ∧ res = insertNew cfg e idx (k.dig ℓ) k v c) ∨
    (∃ i el, e.elems[i]? = some el ∧ setAt o cfg e ℓ k v c i el = .ok res) := by
  have fresh : ∀ idx, idx ≤ e.hkeys.length →
      (Except.ok (insertNew cfg e idx (k.dig ℓ) k v c) : Except MErr _) = .ok res →
      (∃ idx, idx ≤ e.hkeys.length ∧ res = insertNew cfg e idx (k.dig ℓ) k v c) ∨
      (∃ i el, e.elems[i]? = some el ∧ setAt o cfg e ℓ k v c i el = .ok res) :=
    fun idx hi hh => Or.inl ⟨idx, hi, (Except.ok.inj hh).symm⟩
  simp only [set] at h
  by_cases hl : ℓ ≥ cfg.L
  · rw [if_pos hl] at h; cases h
  rw [if_neg hl] at h
  cases hh : e.hkeys.head? with
  | none => rw [hh] at h; exact fresh 0 (Nat.zero_le _) h
  | some first =>
    cases hla : e.hkeys.getLast? with
    | none => rw [hh, hla] at h; exact fresh 0 (Nat.zero_le _) h
    | some last =>
      rw [hh, hla] at h
      simp only at h
      by_cases h1 : k.dig ℓ < first
      · rw [if_pos h1] at h; exact fresh 0 (Nat.zero_le _) h
      rw [if_neg h1] at h
      by_cases h2 : k.dig ℓ > last
      · rw [if_pos h2] at h; exact fresh _ (Nat.le_refl _) h
      rw [if_neg h2] at h
      have hlt := findEqLt_snd_le e.hkeys (k.dig ℓ) e.hkeys.length (e.hkeys.length + 1) 0 e.hkeys.length 0
        (Nat.le_refl _) (Nat.zero_le _)
      rcases hf : findEqLt e.hkeys (k.dig ℓ) 0 e.hkeys.length 0 (e.hkeys.length + 1) with ⟨_ | i, lt⟩
      · rw [hf] at h hlt; exact fresh lt hlt h
      · rw [hf] at h
        simp only at h
        cases hel : e.elems[i]? with
        | none => rw [hel] at h; cases h
        | some el => rw [hel] at h; exact Or.inr ⟨i, el, hel, h⟩

theorem remove_cases {res : MKey × Elem × HkeyElems α × Ctx} (h : remove o cfg e ℓ k c = .ok res) :
    ∃ i el, e.elems[i]? = some el ∧ removeAt o cfg e ℓ k c i el = .ok res := by
  simp only [remove] at h
  by_cases hl : ℓ ≥ cfg.L
  · rw [if_pos hl] at h; cases h
  rw [if_neg hl] at h
  cases hh : e.hkeys.head? with
  | none => rw [hh] at h; cases h
  | some first =>
    cases hla : e.hkeys.getLast? with
    | none => rw [hh, hla] at h; cases h
    | some last =>
      rw [hh, hla] at h
      simp only at h
      split at h
      · cases h
      · cases hf : findEq e.hkeys (k.dig ℓ) 0 e.hkeys.length (e.hkeys.length + 1) with
        | none => rw [hf] at h; cases h
        | some i =>
          rw [hf] at h
          simp only at h
          cases hel : e.elems[i]? with
          | none => rw [hel] at h; cases h
          | some el => rw [hel] at h; exact ⟨i, el, hel, h⟩

/-- a successful `setAt` went through `el.set` -/
theorem setAt_cases {v : Elem} {i : Nat} {el : MElemF α} {res : MKey × Option Elem × HkeyElems α × Ctx}
    (h : setAt o cfg e ℓ k v c i el = .ok res) :
    ∃ el' ks old c', el.set o cfg ℓ k v c = .ok (el', ks, old, c') ∧
      res = (ks, old, { e with elems := e.elems.set i el',
                               size := hkeyElementsPrefixSize + elemSizes o (e.elems.set i el') }, c') := by
  unfold setAt at h
  extract_lets jp at h
  -- every path to a success ends in the join point `jp`, which runs `el.set`
  suffices hjp : ∃ r, jp r = .ok res by
    obtain ⟨r, hr⟩ := hjp
    obtain ⟨⟨el', ks, old, c'⟩, hs, hr⟩ := bind_eq_ok hr
    exact ⟨el', ks, old, c', hs, (Except.ok.inj hr).symm⟩
  clear_value jp
  split at h
  · rename_i n jp2 _
    have key2 : ∀ r, jp2 r = .ok res → ∃ r, jp r = .ok res := by
      intro r hr
      simp only [jp2] at hr
      split at hr
      · split at hr
        · obtain ⟨_, ht, _⟩ := bind_eq_ok hr
          cases ht
        · exact ⟨_, hr⟩
      · exact ⟨_, hr⟩
    split at h
    · obtain ⟨_, ht, _⟩ := bind_eq_ok h
      cases ht
    · exact key2 () h
  · exact ⟨_, h⟩

/-- a successful `removeAt` went through `el.remove` -/
theorem removeAt_cases {i : Nat} {el : MElemF α} {res : MKey × Elem × HkeyElems α × Ctx}
    (h : removeAt o cfg e ℓ k c i el = .ok res) :
    ∃ el' c', el.remove o cfg ℓ k c = .ok (res.1, res.2.1, el', c') ∧ res.2.2.2 = c' ∧
      res.2.2.1 = (match el' with
        | none => { e with elems := e.elems.eraseIdx i, hkeys := e.hkeys.eraseIdx i,
                           size := e.size - (digestSize + el.size o) }
        | some x => { e with elems := e.elems.set i x, size := e.size + x.size o - el.size o }) := by
  obtain ⟨⟨rk, rv, el', c'⟩, hr, h⟩ := bind_eq_ok h
  cases el' <;>
  · cases h; exact ⟨_, c', hr, rfl, rfl⟩

/-- the paths of `hkeyElements.Set`: a new single element is inserted at a position of the digest
    list, or `el.set` ran on the entry under the digest found and its result was put back -/
theorem set_inv {v : Elem} {res : MKey × Option Elem × HkeyElems α × Ctx}
    (h : set o cfg e ℓ k v c = .ok res) :
    (∃ idx, idx ≤ e.hkeys.length ∧ res = insertNew cfg e idx (k.dig ℓ) k v c) ∨
    (∃ i, ∃ (el el' : MElemF α), e.elems[i]? = some el ∧ el.set o cfg ℓ k v c = .ok (el', res.1, res.2.1, res.2.2.2) ∧
      res.2.2.1 = { e with elems := e.elems.set i el',
                           size := hkeyElementsPrefixSize + elemSizes o (e.elems.set i el') }) := by
  rcases set_cases h with h | ⟨i, el, hel, hat⟩
  · exact Or.inl h
  · obtain ⟨el', ks, old, c', hs, rfl⟩ := setAt_cases hat
    exact Or.inr ⟨i, el, el', hel, hs, rfl⟩

/-- the path of `hkeyElements.Remove`: `el.remove` ran on the entry under the digest found, which
    is erased or replaced by what is left of it -/
theorem remove_inv {res : MKey × Elem × HkeyElems α × Ctx} (h : remove o cfg e ℓ k c = .ok res) :
    ∃ i, ∃ (el : MElemF α) (el' : Option (MElemF α)), e.elems[i]? = some el ∧
      el.remove o cfg ℓ k c = .ok (res.1, res.2.1, el', res.2.2.2) ∧
      res.2.2.1 = (match el' with
        | none => { e with elems := e.elems.eraseIdx i, hkeys := e.hkeys.eraseIdx i,
                           size := e.size - (digestSize + el.size o) }
        | some x => { e with elems := e.elems.set i x, size := e.size + x.size o - el.size o }) := by
  obtain ⟨i, el, hel, hat⟩ := remove_cases h
  obtain ⟨el', c', hr, rfl, he'⟩ := removeAt_cases hat
  exact ⟨i, el, el', hel, hr, he'⟩

end HkeyElems

namespace MDataSlab
variable {r : Nat} {cfg : MCfg} {k : MKey} {c c' : Ctx}

/-- the data slab around a new digest table: what `Set` and `Remove` write back -/
def withElems (s : MDataSlab r) (e : HkeyElems (MElems r)) : MDataSlab r :=
  { s with elems := e, hdr := { s.hdr with firstKey := e.firstKey, size := s.prefixSize + e.size } }

theorem withElems_store (s : MDataSlab r) (e : HkeyElems (MElems r)) (c : Ctx) (h : s.inlined = false) :
    (s.withElems e).storeIfNotInlined c = c.emit (.store s.hdr.id) := by
  simp only [storeIfNotInlined, withElems, h, Bool.false_eq_true, if_false]

/-- a successful `set` on a data slab is `hkeyElements.Set` at level 0; the slab is rebuilt around the
    new table and stored unless it is inlined -/
theorem set_ok_iff {s s' : MDataSlab r} {v : Elem} {ks : MKey} {old : Option Elem} :
    s.set cfg k v c = .ok (ks, old, s', c') ↔
    ∃ e c1, HkeyElems.set (eops r) cfg s.elems 0 k v c = .ok (ks, old, e, c1) ∧
      s' = s.withElems e ∧ c' = s'.storeIfNotInlined c1 := by
  constructor
  · intro h
    unfold set at h
    obtain ⟨⟨ks', old', e, c1⟩, hs, h⟩ := bind_eq_ok h
    simp only [pure, Except.pure, Except.ok.injEq, Prod.mk.injEq] at h
    obtain ⟨rfl, rfl, rfl, rfl⟩ := h
    exact ⟨e, c1, hs, rfl, rfl⟩
  · rintro ⟨e, c1, hs, rfl, rfl⟩
    simp only [set, hs, bind, Except.bind, pure, Except.pure, withElems]

theorem remove_ok_iff {s s' : MDataSlab r} {rk : MKey} {rv : Elem} :
    s.remove cfg k c = .ok (rk, rv, s', c') ↔
    ∃ e c1, HkeyElems.remove (eops r) cfg s.elems 0 k c = .ok (rk, rv, e, c1) ∧
      s' = s.withElems e ∧ c' = s'.storeIfNotInlined c1 := by
  constructor
  · intro h
    unfold remove at h
    obtain ⟨⟨rk', rv', e, c1⟩, hs, h⟩ := bind_eq_ok h
    simp only [pure, Except.pure, Except.ok.injEq, Prod.mk.injEq] at h
    obtain ⟨rfl, rfl, rfl, rfl⟩ := h
    exact ⟨e, c1, hs, rfl, rfl⟩
  · rintro ⟨e, c1, hs, rfl, rfl⟩
    simp only [remove, hs, bind, Except.bind, pure, Except.pure, withElems]

end MDataSlab

namespace MTree
variable {r d : Nat} {cfg : MCfg} {k : MKey} {c c' : Ctx}

/-- a successful `set` on an index slab: the child at the index found by the search was set, then
    the parent repaired by `afterChild` -/
theorem set_succ_cases (m : MMetaSlab (MTree r d)) {v : Elem} {ks : MKey} {old : Option Elem}
    {t' : MMetaSlab (MTree r d)} (h : set cfg (d + 1) m k v c = .ok (ks, old, t', c')) :
    ∃ i child child' c1,
      (MMetaSlab.findChild m.childHdrs (k.dig 0) 0 m.childHdrs.length (some 0) (m.childHdrs.length + 1)).getD 0 = i ∧
      m.children[i]? = some child ∧ set cfg d child k v c = .ok (ks, old, child', c1) ∧
      m.afterChild cfg.T child' i c1 = .ok (t', c') := by
  simp only [set] at h
  split at h
  · cases h
  · rename_i child hchild
    obtain ⟨⟨ks', old', child', c1⟩, hs, h⟩ := bind_eq_ok h
    obtain ⟨⟨m', c2⟩, ha, h⟩ := bind_eq_ok h
    cases h
    exact ⟨_, child, child', c1, rfl, hchild, hs, ha⟩

theorem remove_succ_cases (m : MMetaSlab (MTree r d)) {rk : MKey} {rv : Elem} {t' : MMetaSlab (MTree r d)}
    (h : remove cfg (d + 1) m k c = .ok (rk, rv, t', c')) :
    ∃ i child child' c1,
      MMetaSlab.findChild m.childHdrs (k.dig 0) 0 m.childHdrs.length none (m.childHdrs.length + 1) = some i ∧
      m.children[i]? = some child ∧ remove cfg d child k c = .ok (rk, rv, child', c1) ∧
      m.afterChild cfg.T child' i c1 = .ok (t', c') := by
  simp only [remove] at h
  split at h
  · cases h
  · rename_i i hi
    split at h
    · cases h
    · rename_i child hchild
      obtain ⟨⟨rk', rv', child', c1⟩, hs, h⟩ := bind_eq_ok h
      obtain ⟨⟨m', c2⟩, ha, h⟩ := bind_eq_ok h
      cases h
      exact ⟨i, child, child', c1, hi, hchild, hs, ha⟩

/-- induction along the path of a successful `set`: `leaf` for the data slab reached, `node` for every
    index slab on the way back (the child was set, then the parent repaired by `afterChild`) -/
theorem set_induction {v : Elem} {ks : MKey} {old : Option Elem}
    {P : (d : Nat) → MTree r d → Ctx → MTree r d → Ctx → Prop}
    (leaf : ∀ (s s' : MDataSlab r) (c c' : Ctx), MDataSlab.set cfg s k v c = .ok (ks, old, s', c') → P 0 s c s' c')
    (node : ∀ (d : Nat) (m t' : MMetaSlab (MTree r d)) (i : Nat) (child child' : MTree r d) (c c1 c' : Ctx),
      m.children[i]? = some child → set cfg d child k v c = .ok (ks, old, child', c1) →
      P d child c child' c1 → m.afterChild cfg.T child' i c1 = .ok (t', c') → P (d + 1) m c t' c') :
    ∀ (d : Nat) (t t' : MTree r d) (c c' : Ctx), set cfg d t k v c = .ok (ks, old, t', c') → P d t c t' c'
  | 0, s, s', c, c', h => leaf s s' c c' h
  | d + 1, m, t', c, c', h => by
    obtain ⟨i, child, child', c1, -, hch, hs, ha⟩ := set_succ_cases m h
    exact node d m t' i child child' c c1 c' hch hs (set_induction leaf node d child child' c c1 hs) ha

theorem remove_induction {rk : MKey} {rv : Elem}
    {P : (d : Nat) → MTree r d → Ctx → MTree r d → Ctx → Prop}
    (leaf : ∀ (s s' : MDataSlab r) (c c' : Ctx), MDataSlab.remove cfg s k c = .ok (rk, rv, s', c') → P 0 s c s' c')
    (node : ∀ (d : Nat) (m t' : MMetaSlab (MTree r d)) (i : Nat) (child child' : MTree r d) (c c1 c' : Ctx),
      m.children[i]? = some child → remove cfg d child k c = .ok (rk, rv, child', c1) →
      P d child c child' c1 → m.afterChild cfg.T child' i c1 = .ok (t', c') → P (d + 1) m c t' c') :
    ∀ (d : Nat) (t t' : MTree r d) (c c' : Ctx), remove cfg d t k c = .ok (rk, rv, t', c') → P d t c t' c'
  | 0, s, s', c, c', h => leaf s s' c c' h
  | d + 1, m, t', c, c', h => by
    obtain ⟨i, child, child', c1, -, hch, hs, ha⟩ := remove_succ_cases m h
    exact node d m t' i child child' c c1 c' hch hs (remove_induction leaf node d child child' c c1 hs) ha

/-- a list-valued view of subtrees that is additive in the first-level elements of a data slab
    and concatenates some per-child list over the children of an index slab -/
structure LeafView (r : Nat) (β : Type) where
  V : (d : Nat) → MTree r d → List β
  f : List (MElemF (MElems r)) → List β
  W : (d : Nat) → MTree r d → List β
  zero : ∀ s : MDataSlab r, V 0 s = f s.elems.elems
  add : ∀ a b, f (a ++ b) = f a ++ f b
  succ : ∀ (d : Nat) (m : MMetaSlab (MTree r d)), V (d + 1) m = m.children.flatMap (W d)

/-! `split`, `merge`, `lendToRight`, `borrowFromRight` only move first-level elements (data slabs)
    or children (index slabs) between the two slabs, so every `LeafView` is preserved; the IDs stay. -/
section views
variable {β : Type} (w : LeafView r β)

theorem split_view : ∀ (d : Nat) (t : MTree r d) (c : Ctx) (l rr : MTree r d) (c' : Ctx),
    split d t c = .ok (l, rr, c') →
    w.V d l ++ w.V d rr = w.V d t ∧ (hdr d l).id = (hdr d t).id ∧
    (hdr d rr).id = ⟨(hdr d t).id.addr, c.ctr + 1⟩ ∧ c' = (c.alloc (hdr d t).id.addr).2
  | 0, (s : MDataSlab r), c, l, rr, c', h => by
    have h : MDataSlab.split s c = .ok (l, rr, c') := h
    unfold MDataSlab.split at h
    split at h
    · cases h
    · cases h
      refine ⟨?_, rfl, rfl, rfl⟩
      rw [w.zero, w.zero, w.zero, ← w.add]
      exact congrArg w.f (List.take_append_drop _ _)
  | d + 1, (m : MMetaSlab (MTree r d)), c, l, rr, c', h => by
    have h : MMetaSlab.split m c = .ok (l, rr, c') := h
    unfold MMetaSlab.split at h
    split at h
    · cases h
    · cases h
      refine ⟨?_, rfl, rfl, rfl⟩
      rw [w.succ, w.succ, w.succ, ← List.flatMap_append]
      exact congrArg (List.flatMap (w.W d)) (List.take_append_drop _ _)

theorem merge_view : ∀ (d : Nat) (l rr : MTree r d),
    w.V d (merge d l rr) = w.V d l ++ w.V d rr ∧ (hdr d (merge d l rr)).id = (hdr d l).id
  | 0, (l : MDataSlab r), (rr : MDataSlab r) => by
    refine ⟨?_, rfl⟩
    show w.V 0 (MDataSlab.merge l rr) = _
    rw [w.zero, w.zero, w.zero, ← w.add]; rfl
  | d + 1, (l : MMetaSlab (MTree r d)), (rr : MMetaSlab (MTree r d)) => by
    refine ⟨?_, rfl⟩
    show w.V (d + 1) (MMetaSlab.merge l rr) = _
    rw [w.succ, w.succ, w.succ, ← List.flatMap_append]; rfl

theorem lend_view (T : Nat) : ∀ (d : Nat) (l rr l' r' : MTree r d), lendToRight T d l rr = .ok (l', r') →
    w.V d l' ++ w.V d r' = w.V d l ++ w.V d rr ∧
    (hdr d l').id = (hdr d l).id ∧ (hdr d r').id = (hdr d rr).id
  | 0, (l : MDataSlab r), (rr : MDataSlab r), l', r', h => by
    have h : MDataSlab.lendToRight T l rr = .ok (l', r') := h
    unfold MDataSlab.lendToRight at h
    obtain ⟨⟨le, re⟩, hl, h⟩ := bind_eq_ok h
    cases h
    unfold HkeyElems.lendToRight at hl
    split at hl
    · cases hl
    · cases hl
      refine ⟨?_, rfl, rfl⟩
      rw [w.zero, w.zero, w.zero, w.zero, ← w.add, ← w.add]
      exact congrArg w.f ((List.append_assoc ..).symm.trans (congrArg (· ++ _) (List.take_append_drop _ _)))
  | d + 1, (l : MMetaSlab (MTree r d)), (rr : MMetaSlab (MTree r d)), l', r', h => by
    have h : Except.ok (MMetaSlab.lendToRight l rr) = Except.ok (l', r') := h
    cases h
    refine ⟨?_, rfl, rfl⟩
    rw [w.succ, w.succ, w.succ, w.succ, ← List.flatMap_append, ← List.flatMap_append]
    exact congrArg (List.flatMap (w.W d))
      ((List.append_assoc ..).symm.trans (congrArg (· ++ _) (List.take_append_drop _ _)))

theorem borrow_view (T : Nat) : ∀ (d : Nat) (l rr l' r' : MTree r d), borrowFromRight T d l rr = .ok (l', r') →
    w.V d l' ++ w.V d r' = w.V d l ++ w.V d rr ∧
    (hdr d l').id = (hdr d l).id ∧ (hdr d r').id = (hdr d rr).id
  | 0, (l : MDataSlab r), (rr : MDataSlab r), l', r', h => by
    have h : MDataSlab.borrowFromRight T l rr = .ok (l', r') := h
    unfold MDataSlab.borrowFromRight at h
    obtain ⟨⟨le, re⟩, hl, h⟩ := bind_eq_ok h
    cases h
    unfold HkeyElems.borrowFromRight at hl
    split at hl
    · cases hl
    · cases hl
      refine ⟨?_, rfl, rfl⟩
      rw [w.zero, w.zero, w.zero, w.zero, ← w.add, ← w.add]
      exact congrArg w.f ((List.append_assoc ..).trans (congrArg (_ ++ ·) (List.take_append_drop _ _)))
  | d + 1, (l : MMetaSlab (MTree r d)), (rr : MMetaSlab (MTree r d)), l', r', h => by
    have h : Except.ok (MMetaSlab.borrowFromRight l rr) = Except.ok (l', r') := h
    cases h
    refine ⟨?_, rfl, rfl⟩
    rw [w.succ, w.succ, w.succ, w.succ, ← List.flatMap_append, ← List.flatMap_append]
    exact congrArg (List.flatMap (w.W d))
      ((List.append_assoc ..).trans (congrArg (_ ++ ·) (List.take_append_drop _ _)))

end views

/-- the pairs of a subtree, as a view -/
def toListView : LeafView r (MKey × Elem) :=
  { V := toList, f := List.flatMap (MElemF.toList (MElems.ops r)), W := toList,
    zero := fun _ => rfl, add := fun _ _ => List.flatMap_append, succ := fun _ _ => rfl }

end MTree
end Atree

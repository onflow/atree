import AtreeProofs.MapRefs
import AtreeProofs.E2EMap.Created
import AtreeProofs.Storable
/-
  Helper lemmas for `MRefsOk` (references of a map to large-value slabs): the reference ids of a
  pair list under a slot update (`SlotEffect`: set / remove), what `Value.Storable` returns, and the
  preservation of `MRefsOk` by every map operation (`Props/C09MapRefs.lean` states the results).
-/
namespace Atree
open Gen

/-- replacing at most one member of a duplicate-free list, in place, by at most one new member -/
theorem nodup_slot {α : Type} {X Y : List α} {o n : Option α} (hnd : (X ++ (o.toList ++ Y)).Nodup)
    (hnew : ∀ a ∈ n, a ∉ X ++ (o.toList ++ Y)) :
    (X ++ (n.toList ++ Y)).Nodup ∧ ∀ b ∈ o, b ∉ X ++ (n.toList ++ Y) := by
  have hXY : (X ++ Y).Nodup :=
    hnd.sublist (List.Sublist.append (List.Sublist.refl X) (List.sublist_append_right _ Y))
  rw [List.nodup_append] at hXY
  constructor
  · cases n with
    | none => rw [Option.toList_none, List.nil_append, List.nodup_append]; exact hXY
    | some a =>
      have ha := hnew a rfl
      simp only [List.mem_append, not_or] at ha
      rw [Option.toList_some, List.singleton_append, List.nodup_append, List.nodup_cons]
      refine ⟨hXY.1, ⟨ha.2.2, hXY.2.1⟩, ?_⟩
      intro x hx y hy
      rcases List.mem_cons.1 hy with rfl | hy
      · exact fun e => ha.1 (e ▸ hx)
      · exact hXY.2.2 x hx y hy
  · rintro b rfl
    rw [Option.toList_some, List.singleton_append, List.nodup_append, List.nodup_cons] at hnd
    intro hm
    simp only [List.mem_append] at hm
    rcases hm with hm | hm | hm
    · exact hnd.2.2 b hm b List.mem_cons_self rfl
    · cases n with
      | none => simp at hm
      | some a =>
        simp only [Option.toList_some, List.mem_singleton] at hm
        exact hnew a rfl (by simp [hm])
    · exact hnd.2.1.1 hm

namespace OMap

theorem refsOf_nil : refsOf [] = [] := rfl

theorem refsOf_append (A B : List (MKey × Elem)) : refsOf (A ++ B) = refsOf A ++ refsOf B := by
  simp [refsOf, List.filterMap_append]

theorem refsOf_cons (p : MKey × Elem) (B : List (MKey × Elem)) :
    refsOf (p :: B) = (refOf p).toList ++ refsOf B := by
  simp only [refsOf, List.filterMap_cons]
  cases refOf p <;> rfl

theorem refsOf_zip (A B : List (MKey × Elem)) (p : MKey × Elem) :
    refsOf (A ++ p :: B) = refsOf A ++ ((refOf p).toList ++ refsOf B) := by
  rw [refsOf_append, refsOf_cons]

theorem refsOf_reverse (l : List (MKey × Elem)) : refsOf l.reverse = (refsOf l).reverse := by
  simp [refsOf, List.filterMap_reverse]

theorem mem_refsOf {l : List (MKey × Elem)} {id : SlabID} :
    id ∈ refsOf l ↔ ∃ p ∈ l, p.2.pay = .ref id := by
  simp only [refsOf, List.mem_filterMap, refOf]
  constructor
  · rintro ⟨p, hp, h⟩
    refine ⟨p, hp, ?_⟩
    cases hpay : p.2.pay with
    | ref y => rw [hpay] at h; simp only [Option.some.injEq] at h; rw [h]
    | val n => rw [hpay] at h; cases h
  · rintro ⟨p, hp, h⟩
    exact ⟨p, hp, by rw [h]⟩

theorem refOf_eq_some {p : MKey × Elem} {id : SlabID} : refOf p = some id ↔ p.2.pay = .ref id := by
  unfold refOf
  cases p.2.pay with
  | ref y => simp
  | val n => simp

theorem refOf_val {k : MKey} {v : Elem} {n : Nat} (h : v.pay = .val n) : refOf (k, v) = none := by
  simp [refOf, h]

theorem refOf_key (k k' : MKey) (v : Elem) : refOf (k, v) = refOf (k', v) := rfl

/-- the reference a value holds, if it is one -/
def refOfVal (x : Option Elem) : Option SlabID := x.bind fun v => refOf ((default : MKey), v)

/-- the references of a pair list see a slot update as a slot update -/
theorem refsOf_slot (A B : List (MKey × Elem)) (k : MKey) (x : Option Elem) :
    refsOf (A ++ (slotOf k x ++ B)) = refsOf A ++ ((refOfVal x).toList ++ refsOf B) := by
  cases x with
  | none => simp [slotOf, refOfVal, refsOf_append]
  | some v => simp only [slotOf, Option.map_some, Option.toList_some, List.singleton_append, refsOf_zip]; rfl

theorem refsOf_setEffect {l l' : List (MKey × Elem)} {k : MKey} {sv : Elem} {old : Option Elem}
    (h : SetEffect l l' k sv old) (hnd : (refsOf l).Nodup)
    (hnew : ∀ id, refOf (k, sv) = some id → id ∉ refsOf l) :
    (refsOf l').Nodup ∧ (∀ id ∈ refsOf l', id ∈ refsOf l ∨ refOf (k, sv) = some id) ∧
    (∀ id, refOf (k, sv) = some id → id ∈ refsOf l') ∧
    (∀ v0 id, old = some v0 → v0.pay = .ref id → id ∈ refsOf l ∧ id ∉ refsOf l') ∧
    (∀ id ∈ refsOf l, id ∈ refsOf l' ∨ ∃ v0, old = some v0 ∧ v0.pay = .ref id) := by
  obtain ⟨⟨A, B, rfl, rfl⟩, -⟩ := setEffect_iff.1 h
  rw [refsOf_slot] at hnd hnew ⊢
  rw [refsOf_slot]
  obtain ⟨h1, h2⟩ := nodup_slot (n := refOfVal (some sv)) hnd (fun a ha => hnew a ha)
  refine ⟨h1, ?_, ?_, ?_, ?_⟩
  · intro id hid
    simp only [List.mem_append, Option.mem_toList] at hid ⊢
    rcases hid with h | h | h
    · exact Or.inl (Or.inl h)
    · exact Or.inr h
    · exact Or.inl (Or.inr (Or.inr h))
  · intro id hid
    simp only [List.mem_append, Option.mem_toList]
    exact Or.inr (Or.inl hid)
  · rintro v0 id rfl hp
    have ho : refOfVal (some v0) = some id := (refOf_eq_some (p := (default, v0))).2 hp
    exact ⟨by simp only [List.mem_append, Option.mem_toList]; exact Or.inr (Or.inl ho), h2 id ho⟩
  · intro id hid
    simp only [List.mem_append, Option.mem_toList] at hid ⊢
    rcases hid with h | h | h
    · exact Or.inl (Or.inl h)
    · cases old with
      | none => cases h
      | some v0 => exact Or.inr ⟨v0, rfl, (refOf_eq_some (p := (default, v0))).1 h⟩
    · exact Or.inl (Or.inr (Or.inr h))

theorem refsOf_remEffect {l l' : List (MKey × Elem)} {k : MKey} {v : Elem}
    (h : RemEffect l l' k v) (hnd : (refsOf l).Nodup) :
    (refsOf l').Nodup ∧ (∀ id ∈ refsOf l', id ∈ refsOf l) ∧
    (∀ id, v.pay = .ref id → id ∈ refsOf l ∧ id ∉ refsOf l') ∧
    (∀ id ∈ refsOf l, id ∈ refsOf l' ∨ v.pay = .ref id) := by
  obtain ⟨A, B, rfl, rfl⟩ := remEffect_iff.1 h
  rw [refsOf_slot] at hnd ⊢
  rw [refsOf_slot, show refOfVal none = none from rfl]
  obtain ⟨h1, h2⟩ := nodup_slot (n := none) hnd (fun _ h => nomatch h)
  have hv : ∀ id, v.pay = .ref id ↔ refOfVal (some v) = some id :=
    fun id => (refOf_eq_some (p := (default, v))).symm
  refine ⟨h1, ?_, ?_, ?_⟩
  · intro id hid
    simp only [List.mem_append, Option.toList_none, List.not_mem_nil, false_or] at hid ⊢
    exact hid.imp (fun h => h) Or.inr
  · intro id hp
    exact ⟨by rw [(hv id).1 hp]; simp, h2 id ((hv id).1 hp)⟩
  · intro id hid
    simp only [List.mem_append, Option.mem_toList, Option.toList_none, List.not_mem_nil, false_or] at hid ⊢
    rcases hid with h | h | h
    · exact Or.inl (Or.inl h)
    · exact Or.inr ((hv id).2 h)
    · exact Or.inl (Or.inr h)

end OMap

/-- the stored form of a caller's value: the value itself (small), or a reference to the slab
    `⟨cfg.addr, c.ctr + 1⟩` created for it (large) -/
theorem storedValue_cases (cfg : MCfg) (k : MKey) (v : Elem) (c : Ctx) (hv : ValueOkM v) :
    (storedValue cfg k v c = v ∧ (E2EM.tsv cfg k v c).2.created = c.created) ∨
    (storedValue cfg k v c = ⟨slabIDStorableSize, .ref ⟨cfg.addr, c.ctr + 1⟩⟩ ∧
      maxInlineMapValue cfg.T k.size < v.size ∧
      (E2EM.tsv cfg k v c).2.created = c.created ++ [(⟨cfg.addr, c.ctr + 1⟩, v)]) := by
  obtain ⟨_, n, hn⟩ := hv
  obtain ⟨C, hC, _, hS⟩ := storable_lim (maxInlineMapValue cfg.T k.size) cfg.addr hn c
  generalize hse : (toStorableLim (maxInlineMapValue cfg.T k.size) cfg.addr v c).1 = se at hS
  cases hS with
  | inline _ _ => exact Or.inl ⟨hse, hC.trans (List.append_nil _)⟩
  | large hgt => exact Or.inr ⟨hse, hgt, hC⟩

variable {r : Nat} {T : Nat} {D : DigestFn (r + 1)}

theorem OMap.refIds_eq (m : OMap r) : m.refIds = OMap.refsOf m.toList := rfl

/-- a map without references -/
theorem MRefsOk.of_nil {m : OMap r} {ctr : Nat} (h : m.refIds = []) : MRefsOk m ctr := by
  unfold MRefsOk
  rw [h]
  exact ⟨List.nodup_nil, fun _ hid => by cases hid⟩

/-- an old reference is not a slab of the new tree (which consists of old tree slabs and
    freshly allocated ones) -/
theorem ref_not_in_new_tree {β : Type} {a cn cn' : Nat} {S S' : List (SlabID × β)} {E : List Eff}
    {cr : List SlabID} (hacct : MAcct a cn cn' S S' E cr) {id : SlabID}
    (h1 : id ∉ AList.keys S) (h2 : id.idx ≤ cn) : id ∉ AList.keys S' := by
  intro hin
  rcases hacct.keys_new id hin with h | h
  · exact h1 h
  · have := h.2.1; omega

/-- `Set`, the core statement: `MRefsOk` is preserved, the overwritten reference is handed back,
    the new reference is fresh. -/
theorem omap_set_refs (hT : legalThreshold T = true) {cfg : MCfg} {m : OMap r} (hcfg : CfgOk cfg T m)
    (h : MapInv T D m) {k : MKey} (hk : KeyOk T (r + 1) D k) {v : Elem} (hv : ValueOkM v) (c : Ctx)
    (hc : CtxOk m c) (hids : MIdsOk m) (hrefs : MRefsOk m c.ctr) {old : Option Elem} {m' : OMap r} {c' : Ctx}
    (hr : m.set cfg k v c = .ok (old, m', c')) :
    MRefsOk m' c'.ctr ∧ c.ctr ≤ c'.ctr ∧
    (∀ id ∈ m'.refIds, id ∈ m.refIds ∨ (storedValue cfg k v c).pay = .ref id) ∧
    (∀ v0 id, old = some v0 → v0.pay = .ref id →
      id ∈ m.refIds ∧ id ∉ m'.refIds ∧ id ∉ AList.keys (MTree.slabs m'.d m'.root)) ∧
    (∀ id, (storedValue cfg k v c).pay = .ref id →
      id = ⟨m.addr, c.ctr + 1⟩ ∧ id ∈ m'.refIds ∧ id ∉ m.refIds ∧
      id ∉ AList.keys (MTree.slabs m.d m.root) ∧ id ∉ AList.keys (MTree.slabs m'.d m'.root) ∧
      (E2EM.tsv cfg k v c).2.created = c.created ++ [(id, v)]) ∧
    (∀ id ∈ m.refIds, id ∈ m'.refIds ∨ ∃ v0, old = some v0 ∧ v0.pay = .ref id) ∧
    c'.created = (E2EM.tsv cfg k v c).2.created := by
  have hp := (OMap.set_post hT hcfg h hk (hv.okR T k.size) hr).1
  obtain ⟨E, C, hlog, hacct, _, hrid⟩ := omap_set_acct hT hcfg h hk hv c hc hids hr
  obtain ⟨E', C', hlog', hcr, _, hC⟩ := E2EM.omap_set_created hT hcfg h hk hv c hc hids hr
  have haddr' : m'.addr = m.addr := OMap.addr_of_rootID hrid
  have hle : c.ctr ≤ c'.ctr := hacct.le
  have hnewref : ∀ id, (storedValue cfg k v c).pay = .ref id →
      id = ⟨m.addr, c.ctr + 1⟩ ∧ id ∉ m.refIds ∧ id ∉ AList.keys (MTree.slabs m.d m.root) ∧
      id ∉ AList.keys (MTree.slabs m'.d m'.root) ∧
      (E2EM.tsv cfg k v c).2.created = c.created ++ [(id, v)] := by
    intro id hid
    rcases storedValue_cases cfg k v c hv with ⟨h1, _⟩ | ⟨h1, _, h3⟩
    · obtain ⟨_, n, hn⟩ := hv
      rw [h1, hn] at hid; cases hid
    · rw [h1] at hid
      simp only [Pay.ref.injEq] at hid
      subst hid
      rw [h3] at hC
      have hC' : C' = [((⟨cfg.addr, c.ctr + 1⟩ : SlabID), v)] := List.append_cancel_left hC
      obtain ⟨_, g2, g3, _, _⟩ := hcr ⟨cfg.addr, c.ctr + 1⟩ (by rw [hC']; simp)
      refine ⟨by rw [hcfg.2.2], ?_, ?_, g2, h3⟩
      · intro hin
        have := (hrefs.2 _ hin).2.2.2
        simp only at this
        omega
      · intro hin
        have := old_of_ctxOk hc _ hin (by rw [hcfg.2.2])
        simp only at this
        omega
  have hnew' : ∀ id, OMap.refOf (k, storedValue cfg k v c) = some id → id ∉ OMap.refsOf m.toList := by
    intro id hid
    exact (hnewref id (OMap.refOf_eq_some.1 hid)).2.1
  obtain ⟨g1, g2, g3, g4, g6⟩ := OMap.refsOf_setEffect hp.eff hrefs.1 hnew'
  have hold_ok : ∀ id ∈ m.refIds, id ∉ AList.keys (MTree.slabs m'.d m'.root) := by
    intro id hid
    obtain ⟨h1, _, _, h4⟩ := hrefs.2 id hid
    exact ref_not_in_new_tree hacct h1 h4
  refine ⟨⟨g1, ?_⟩, hle, ?_, ?_, ?_, g6, by rw [hlog'.created]; exact hC⟩
  · intro id hid
    rcases g2 id hid with h1 | h1
    · obtain ⟨_, q2, q3, q4⟩ := hrefs.2 id h1
      exact ⟨hold_ok id h1, by rw [haddr']; exact q2, q3, by omega⟩
    · obtain ⟨e, _, _, q3, _⟩ := hnewref id (OMap.refOf_eq_some.1 h1)
      have hcle : c.ctr + 1 ≤ c'.ctr := by
        rcases storedValue_cases cfg k v c hv with ⟨h1', _⟩ | ⟨_, _, h3⟩
        · obtain ⟨_, n, hn⟩ := hv
          have := OMap.refOf_eq_some.1 h1
          rw [h1', hn] at this; cases this
        · rw [h3] at hC
          have hC' : C' = [((⟨cfg.addr, c.ctr + 1⟩ : SlabID), v)] := List.append_cancel_left hC
          obtain ⟨_, _, _, q, _⟩ := hcr ⟨cfg.addr, c.ctr + 1⟩ (by rw [hC']; simp)
          exact q
      subst e
      exact ⟨q3, haddr'.symm ▸ rfl, by simp, hcle⟩
  · intro id hid
    rcases g2 id hid with h1 | h1
    · exact Or.inl h1
    · exact Or.inr (OMap.refOf_eq_some.1 h1)
  · intro v0 id ho hpay
    obtain ⟨q1, q2⟩ := g4 v0 id ho hpay
    exact ⟨q1, q2, hold_ok id q1⟩
  · intro id hid
    obtain ⟨q1, q2, q3, q4, q5⟩ := hnewref id hid
    exact ⟨q1, g3 id (OMap.refOf_eq_some.2 hid), q2, q3, q4, q5⟩

/-- `Remove`: `MRefsOk` is preserved and the removed reference is handed back. -/
theorem omap_remove_refs (hT : legalThreshold T = true) {cfg : MCfg} {m : OMap r} (hcfg : CfgOk cfg T m)
    (h : MapInv T D m) {k : MKey} (hk : KeyOk T (r + 1) D k) (c : Ctx)
    (hc : CtxOk m c) (hids : MIdsOk m) (hrefs : MRefsOk m c.ctr) {k0 : MKey} {v0 : Elem} {m' : OMap r} {c' : Ctx}
    (hr : m.remove cfg k c = .ok (k0, v0, m', c')) :
    MRefsOk m' c'.ctr ∧ c.ctr ≤ c'.ctr ∧ c'.created = c.created ∧
    (∀ id ∈ m'.refIds, id ∈ m.refIds) ∧
    (∀ id, v0.pay = .ref id →
      id ∈ m.refIds ∧ id ∉ m'.refIds ∧ id ∉ AList.keys (MTree.slabs m'.d m'.root)) ∧
    (∀ id ∈ m.refIds, id ∈ m'.refIds ∨ v0.pay = .ref id) := by
  obtain ⟨rfl, _, hp, _⟩ := OMap.remove_post hT hcfg h hk hc hr
  obtain ⟨E, C, hlog, hacct, _, hrid⟩ := omap_remove_acct hT hcfg h hk c hc hids hr
  obtain ⟨E', hlog', _⟩ := E2EM.omap_remove_created hT hcfg h hk c hc hids hr
  have hcre : c'.created = c.created := by rw [hlog'.created]; simp
  have haddr' : m'.addr = m.addr := OMap.addr_of_rootID hrid
  have hle : c.ctr ≤ c'.ctr := hacct.le
  obtain ⟨g1, g2, g3, g4⟩ := OMap.refsOf_remEffect hp.eff hrefs.1
  have hold_ok : ∀ id ∈ m.refIds, id ∉ AList.keys (MTree.slabs m'.d m'.root) := by
    intro id hid
    obtain ⟨h1, _, _, h4⟩ := hrefs.2 id hid
    exact ref_not_in_new_tree hacct h1 h4
  refine ⟨⟨g1, ?_⟩, hle, hcre, g2, ?_, g4⟩
  · intro id hid
    have h1 := g2 id hid
    obtain ⟨_, q2, q3, q4⟩ := hrefs.2 id h1
    exact ⟨hold_ok id h1, by rw [haddr']; exact q2, q3, by omega⟩
  · intro id hpay
    obtain ⟨q1, q2⟩ := g3 id hpay
    exact ⟨q1, q2, hold_ok id q1⟩

end Atree

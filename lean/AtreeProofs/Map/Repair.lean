import AtreeProofs.MapHeapSpec
import AtreeProofs.Map.RepairKit
import AtreeProofs.Map.Paths
import AtreeProofs.Account.Repair
import AtreeProofs.AListLemmas
/-
  The slabs of a map tree as root entry + slabs below (`ment`, `msub`: for a data slab the slabs
  below are its external collision groups; `msubIds`: their identifiers as `CtxOk` lists them, so
  `MTree.slabs` is filed under `CtxOk.mapSlabIds`: `keys_mslabs`), i.e. the trees of one depth as a
  `Forest` (`mforest`);
  what `split`, `merge` and the rebalancing moves do to them; and `afterChild`, by inversion, as a
  `Forest.Repair` (`afterChild_repair`), which keeps every `LeafView` of the children
  (`afterChild_view`).  Nothing here needs an invariant of the tree.
-/
namespace Atree
open Gen

variable {r : Nat}

/-- content of the root slab of a tree -/
def ment : (d : Nat) → MTree r d → MSlabView r
  | 0, (s : MDataSlab r) => .data s
  | _ + 1, (m : MMetaSlab _) => .index m.hdr m.childHdrs m.root

/-- slabs strictly below the root slab: external groups of a data slab, subtrees of an index slab -/
def msub : (d : Nat) → MTree r d → List (SlabID × MSlabView r)
  | 0, (s : MDataSlab r) => s.groupSlabs
  | d + 1, (m : MMetaSlab (MTree r d)) => m.children.flatMap (MTree.slabs d)

theorem msub_zero (s : MDataSlab r) : msub 0 s = s.groupSlabs := rfl
theorem msub_succ {d : Nat} (m : MMetaSlab (MTree r d)) : msub (d + 1) m = m.children.flatMap (MTree.slabs d) := rfl
theorem ment_zero (s : MDataSlab r) : ment 0 s = .data s := rfl
theorem ment_succ {d : Nat} (m : MMetaSlab (MTree r d)) : ment (d + 1) m = .index m.hdr m.childHdrs m.root := rfl
theorem mslabs_zero (s : MDataSlab r) : MTree.slabs 0 s = (s.hdr.id, .data s) :: s.groupSlabs := rfl
theorem mslabs_succ {d : Nat} (m : MMetaSlab (MTree r d)) :
    MTree.slabs (d + 1) m = (m.hdr.id, .index m.hdr m.childHdrs m.root) :: m.children.flatMap (MTree.slabs d) := rfl

theorem mslabs_eq : ∀ (d : Nat) (t : MTree r d), MTree.slabs d t = ((MTree.hdr d t).id, ment d t) :: msub d t
  | 0, _ => rfl
  | _ + 1, _ => rfl

/-- the slabs below the root of a subtree, as a view of subtrees -/
def msubView : MTree.LeafView r (SlabID × MSlabView r) :=
  { V := msub,
    f := List.filterMap (fun el => match el with | .ext id _ g => some (id, .group g) | _ => none),
    W := MTree.slabs, zero := fun _ => rfl, add := fun _ _ => List.filterMap_append, succ := fun _ _ => rfl }

/-- identifiers of the strict descendants and of the external groups of a data slab -/
def msubIds : (d : Nat) → MTree r d → List SlabID
  | 0, (s : MDataSlab r) => extIds s.elems.elems
  | d + 1, (m : MMetaSlab (MTree r d)) => m.children.flatMap (CtxOk.mapSlabIds d)

theorem mapSlabIds_eq : ∀ (d : Nat) (t : MTree r d), CtxOk.mapSlabIds d t = (MTree.hdr d t).id :: msubIds d t
  | 0, s => mapSlabIds_zero (r := r) s
  | _ + 1, m => mapSlabIds_succ (r := r) m

/-- `msubIds` as a view of subtrees -/
def msubIdsView : MTree.LeafView r SlabID :=
  { V := msubIds, f := extIds, W := CtxOk.mapSlabIds, zero := fun _ => rfl, add := extIds_append,
    succ := fun _ _ => rfl }

theorem keys_groupSlabs (s : MDataSlab r) : AList.keys s.groupSlabs = extIds s.elems.elems := by
  simp only [MDataSlab.groupSlabs, extIds, AList.keys, List.map_filterMap]
  congr 1
  funext el
  cases el <;> rfl

theorem keys_mslabs_zero (s : MDataSlab r) : AList.keys (MTree.slabs 0 s) = CtxOk.mapSlabIds 0 s := by
  rw [mslabs_zero, AList.keys_cons, keys_groupSlabs, mapSlabIds_zero]

theorem keys_mslabs_succ {d : Nat} (m : MMetaSlab (MTree r d))
    (ih : ∀ x : MTree r d, AList.keys (MTree.slabs d x) = CtxOk.mapSlabIds d x) :
    AList.keys (MTree.slabs (d + 1) m) = CtxOk.mapSlabIds (d + 1) m := by
  rw [mslabs_succ, AList.keys_cons, mapSlabIds_succ, keys_flatMap _ (CtxOk.mapSlabIds d) _ (fun x _ => ih x)]

theorem keys_mslabs : ∀ (d : Nat) (t : MTree r d), AList.keys (MTree.slabs d t) = CtxOk.mapSlabIds d t
  | 0, s => keys_mslabs_zero s
  | d + 1, m => keys_mslabs_succ m (keys_mslabs d)

theorem hdr_id_mem_keys (d : Nat) (t : MTree r d) : (MTree.hdr d t).id ∈ AList.keys (MTree.slabs d t) := by
  rw [mslabs_eq, AList.keys_cons]; exact List.mem_cons_self

theorem msplit_struct : ∀ (d : Nat) (t : MTree r d) (c : Ctx) (l rr : MTree r d) (c' : Ctx),
    MTree.split d t c = .ok (l, rr, c') →
    msub d l ++ msub d rr = msub d t ∧ (MTree.hdr d l).id = (MTree.hdr d t).id ∧
    (MTree.hdr d rr).id = ⟨(MTree.hdr d t).id.addr, c.ctr + 1⟩ ∧ c' = (c.alloc (MTree.hdr d t).id.addr).2 :=
  MTree.split_view msubView

theorem mmerge_struct : ∀ (d : Nat) (l rr : MTree r d),
    msub d (MTree.merge d l rr) = msub d l ++ msub d rr ∧ (MTree.hdr d (MTree.merge d l rr)).id = (MTree.hdr d l).id :=
  MTree.merge_view msubView

section
variable {T d : Nat}

/-- the subtrees of depth `d` as a forest of slabs -/
def mforest (d : Nat) : Forest (MTree r d) (MSlabView r) := ⟨fun t => ((MTree.hdr d t).id, ment d t), msub d⟩

theorem mforest_slabs (d : Nat) : (mforest (r := r) d).slabs = MTree.slabs d :=
  funext fun t => (mslabs_eq d t).symm

theorem memit_log3 (c : Ctx) (e1 e2 e3 : Eff) : (((c.emit e1).emit e2).emit e3).eff = c.eff ++ [e1, e2, e3] :=
  emit_log3 c e1 e2 e3

theorem afterChild_inv {m m2 : MMetaSlab (MTree r d)} {child' : MTree r d} {k : Nat} {c c2 : Ctx}
    (h : m.afterChild T child' k c = .ok (m2, c2)) :
    (m.withChild child' k).splitChildSlab child' k c = .ok (m2, c2) ∨
    (∃ u, (m.withChild child' k).mergeOrRebalanceChildSlab T child' k u c = .ok (m2, c2)) ∨
    (m2 = m.withChild child' k ∧ c2 = c.emit (.store (m.withChild child' k).hdr.id)) := by
  rw [afterChild_eq] at h
  split at h
  · exact Or.inl h
  · split at h
    · exact Or.inr (Or.inl ⟨_, h⟩)
    · simp only [Except.ok.injEq, Prod.mk.injEq] at h
      exact Or.inr (Or.inr ⟨h.1.symm, h.2.symm⟩)

theorem withChild_children (m : MMetaSlab (MTree r d)) (child : MTree r d) (k : Nat) :
    (m.withChild child k).children = m.children.set k child := rfl

theorem mrebal_inv {m1 m2 : MMetaSlab (MTree r d)} {l rr : MTree r d} {li ri : Nat} {flag : Bool} {c c2 : Ctx}
    (h : m1.rebalanceChildren T l rr li ri flag c = .ok (m2, c2)) :
    ∃ l' r', ((∀ {β : Type} (w : MTree.LeafView r β), w.V d l' ++ w.V d r' = w.V d l ++ w.V d rr) ∧
      (MTree.hdr d l').id = (MTree.hdr d l).id ∧ (MTree.hdr d r').id = (MTree.hdr d rr).id) ∧
      m2.children = (m1.children.set li l').set ri r' ∧ m2.hdr.id = m1.hdr.id ∧
      c2 = ((c.emit (.store (MTree.hdr d l').id)).emit (.store (MTree.hdr d r').id)).emit (.store m1.hdr.id) := by
  unfold MMetaSlab.rebalanceChildren at h
  extract_lets src jp at h
  have key : ∀ p, jp p = .ok (m2, c2) → m2.children = (m1.children.set li p.1).set ri p.2 ∧ m2.hdr.id = m1.hdr.id ∧
      c2 = ((c.emit (.store (MTree.hdr d p.1).id)).emit (.store (MTree.hdr d p.2).id)).emit (.store m1.hdr.id) := by
    rintro ⟨l', r'⟩ hp
    simp only [jp, src, pure, Except.pure, Except.ok.injEq, Prod.mk.injEq] at hp
    obtain ⟨rfl, rfl⟩ := hp
    exact ⟨rfl, rfl, rfl⟩
  clear_value jp
  split at h
  · obtain ⟨⟨l', r'⟩, hlr, h⟩ := bind_eq_ok h
    obtain ⟨h1, h2, h3⟩ := key _ h
    exact ⟨l', r', ⟨fun w => (MTree.borrow_view w T d l rr l' r' hlr).1, (MTree.borrow_view msubView T d l rr l' r' hlr).2⟩,
      h1, h2, h3⟩
  · obtain ⟨⟨l', r'⟩, hlr, h⟩ := bind_eq_ok h
    obtain ⟨h1, h2, h3⟩ := key _ h
    exact ⟨l', r', ⟨fun w => (MTree.lend_view w T d l rr l' r' hlr).1, (MTree.lend_view msubView T d l rr l' r' hlr).2⟩,
      h1, h2, h3⟩

theorem mmerge_children (m : MMetaSlab (MTree r d)) (l rr : MTree r d) (li ri : Nat) (c : Ctx) :
    (m.mergeChildren l rr li ri c).1.children = (m.children.set li (MTree.merge d l rr)).eraseIdx ri := by
  simp only [MMetaSlab.mergeChildren]
theorem mmerge_hdr_id (m : MMetaSlab (MTree r d)) (l rr : MTree r d) (li ri : Nat) (c : Ctx) :
    (m.mergeChildren l rr li ri c).1.hdr.id = m.hdr.id := by
  simp only [MMetaSlab.mergeChildren]
theorem mmerge_ctx (m : MMetaSlab (MTree r d)) (l rr : MTree r d) (li ri : Nat) (c : Ctx) :
    (m.mergeChildren l rr li ri c).2
      = ((c.emit (.store (MTree.hdr d (MTree.merge d l rr)).id)).emit (.store m.hdr.id)).emit
          (.remove (MTree.hdr d rr).id) := by
  simp only [MMetaSlab.mergeChildren]

/-- every list-valued view of the subtrees `X` (`LeafView`: the slabs below them, the first-level
    elements, the values held locally, …) is that of `X'` -/
def MTree.SameViews (d : Nat) (X X' : List (MTree r d)) : Prop :=
  ∀ {β : Type} (w : MTree.LeafView r β), X'.flatMap (w.V d) = X.flatMap (w.V d)

/-- `afterChild`, by inversion (no invariant): which `Forest.Repair` a successful step is, what it
    appends to the log; the parent keeps its identifier and no large-value slab is created. -/
theorem afterChild_repair {m m2 : MMetaSlab (MTree r d)} {A B : List (MTree r d)} {child child' : MTree r d}
    {k a : Nat} {c c2 : Ctx} (hch : m.children = A ++ child :: B) (hk : A.length = k)
    (haddr : (MTree.hdr d child').id.addr = a) (h : m.afterChild T child' k c = .ok (m2, c2)) :
    ∃ E, (mforest d).Repair (MTree.SameViews d) a c.ctr m.hdr.id (A ++ child' :: B) m2.children E c2.ctr ∧
      c2.eff = c.eff ++ E ∧ m2.hdr.id = m.hdr.id ∧ c2.created = c.created := by
  have hch1 : (m.withChild child' k).children = A ++ child' :: B := by
    rw [withChild_children, hch, set_at hk]
  rcases afterChild_inv h with hsp | ⟨u, hmr⟩ | ⟨rfl, rfl⟩
  · unfold MMetaSlab.splitChildSlab at hsp
    obtain ⟨⟨l, rr, cs⟩, hs, hsp⟩ := bind_eq_ok hsp
    simp only [pure, Except.pure, Except.ok.injEq, Prod.mk.injEq] at hsp
    obtain ⟨rfl, rfl⟩ := hsp
    obtain ⟨hs1, hs2, hs3, rfl⟩ := msplit_struct d child' c l rr cs hs
    rw [haddr] at hs3 ⊢
    refine ⟨[.alloc a ⟨a, c.ctr + 1⟩, .store (MTree.hdr d l).id, .store (MTree.hdr d rr).id, .store m.hdr.id],
      ?_, ?_, rfl, rfl⟩
    · show Forest.Repair _ _ _ _ _ _ (((m.withChild child' k).children.set k l).insertIdx (k + 1) rr) _ _
      rw [hch1, set_at hk, insert_succ_at hk]
      exact .split (F := mforest d) hs1 hs2 hs3
        (fun w => by simpa using (MTree.split_view w d child' c l rr _ hs).1)
    · rw [emit_log3]; exact List.append_assoc _ _ _
  · obtain ⟨P, Q, l, rr, hch', hact⟩ := mmor_zip hch1 hk hmr
    rcases hact with ⟨flag, heq⟩ | heq
    · obtain ⟨l', r', ⟨hview, hl, hr⟩, hkids, hid, rfl⟩ := mrebal_inv heq
      refine ⟨[.store (MTree.hdr d l).id, .store (MTree.hdr d rr).id, .store m.hdr.id], ?_,
        by rw [emit_log3, hl, hr]; rfl, hid, rfl⟩
      rw [hkids, hch', set_at rfl, set_succ_at rfl, hch1.symm.trans hch']
      exact .rebal (F := mforest d) (hview msubView) hl hr (fun w => by simpa using hview w)
    · obtain ⟨hs1, hs2⟩ := mmerge_struct d l rr
      obtain ⟨rfl, rfl⟩ : m2 = ((m.withChild child' k).mergeChildren l rr P.length (P.length + 1) c).1 ∧
          c2 = ((m.withChild child' k).mergeChildren l rr P.length (P.length + 1) c).2 :=
        ⟨congrArg Prod.fst heq, congrArg Prod.snd heq⟩
      refine ⟨[.store (MTree.hdr d l).id, .store m.hdr.id] ++ [.remove (MTree.hdr d rr).id], ?_,
        by rw [mmerge_ctx, emit_log3, hs2]; rfl, mmerge_hdr_id _ _ _ _ _ _, by rw [mmerge_ctx]; rfl⟩
      rw [mmerge_children, hch', set_at rfl, erase_succ_at rfl, hch1.symm.trans hch']
      exact .merge (F := mforest d) hs1 hs2 (fun w => by simpa using (MTree.merge_view w d l rr).1)
  · exact ⟨[.store m.hdr.id], hch1 ▸ .plain _, rfl, rfl, rfl⟩

theorem MTree.SameViews.window {X X' : List (MTree r d)} (h : MTree.SameViews d X X') (P Q : List (MTree r d)) :
    MTree.SameViews d (P ++ (X ++ Q)) (P ++ (X' ++ Q)) := fun w => by
  simp only [List.flatMap_append, h w]

/-- a repair only moves things between neighbours: every view of the children is kept -/
theorem MTree.SameViews.of_repair {a n n' : Nat} {rid : SlabID} {cs cs' : List (MTree r d)} {E : List Eff}
    (h : (mforest d).Repair (MTree.SameViews d) a n rid cs cs' E n') : MTree.SameViews d cs cs' := by
  cases h with
  | plain => exact fun _ => rfl
  | @split A B _ _ _ _ _ _ hV => exact hV.window A B
  | @rebal P Q _ _ _ _ _ _ _ hV => exact hV.window P Q
  | @merge P Q _ _ _ _ _ hV => exact hV.window P Q

/-- `afterChild` on any view of the children: the updated child stands where the old one stood -/
theorem afterChild_view {β : Type} (w : MTree.LeafView r β) {m m2 : MMetaSlab (MTree r d)}
    {A B : List (MTree r d)} {child child' : MTree r d} {k : Nat} {c c2 : Ctx}
    (hch : m.children = A ++ child :: B) (hk : A.length = k) (h : m.afterChild T child' k c = .ok (m2, c2)) :
    m2.children.flatMap (w.V d) = A.flatMap (w.V d) ++ (w.V d child' ++ B.flatMap (w.V d)) := by
  obtain ⟨E, hrep, -⟩ := afterChild_repair hch hk rfl h
  exact (MTree.SameViews.of_repair hrep w).trans (flatMap_at _ A B child')

/-- one level of `Set` / `Remove`: the parent keeps its identifier, and its repair is `Plain` -/
theorem afterChild_plain {m m2 : MMetaSlab (MTree r d)} {child child' : MTree r d} {k : Nat} {c c2 : Ctx}
    (hchild : m.children[k]? = some child) (h : m.afterChild T child' k c = .ok (m2, c2)) :
    m2.hdr.id = m.hdr.id ∧ E2EM.Plain c c2 := by
  obtain ⟨A, B, hch, hk⟩ := split_at hchild
  obtain ⟨E, hrep, he, hid, hcr⟩ := afterChild_repair hch hk rfl h
  exact ⟨hid, hrep.ctx_plain rfl he hcr⟩

end

end Atree

import AtreeProofs.Core.Kit
import AtreeProofs.Map.RepairPlan
import AtreeProofs.Map.AfterChild
/-
  Map subtrees of one depth as an instance of the container-independent repair of an index slab's
  child (`Core.Laws`): `mkit`, the admissible replacement of siblings `MSibRepl`, `mkit_laws`.
  `afterChild_step`: each `Core.Step` is what `afterChild` does, with the index slab's own
  bookkeeping (`MBook`, `*_book`); `afterChild_post` assembles `ACPost` from `Laws.repair_spec`,
  `afterChild_step` and `Step.length`.
-/
namespace Atree
open Gen Core

variable {T : Nat} {r : Nat} {D : DigestFn (r + 1)} {d : Nat}

/-- the slab `m` with the updated child put in place (first step of `afterChild`) -/
def MMetaSlab.withChild (m : MMetaSlab (MTree r d)) (child : MTree r d) (k : Nat) : MMetaSlab (MTree r d) :=
  { m with childHdrs := m.childHdrs.set k (MTree.hdr d child), children := m.children.set k child,
           hdr := { m.hdr with firstKey := if k == 0 then (MTree.hdr d child).firstKey else m.hdr.firstKey } }

theorem afterChild_eq (m : MMetaSlab (MTree r d)) (child : MTree r d) (k : Nat) (c : Ctx) :
    m.afterChild T child k c =
      if MTree.isFull T d child then (m.withChild child k).splitChildSlab child k c
      else match MTree.isUnderflow T d child with
        | some u => (m.withChild child k).mergeOrRebalanceChildSlab T child k u c
        | none => .ok (m.withChild child k, c.emit (.store (m.withChild child k).hdr.id)) := rfl

/-- map subtrees of depth `d` as seen by their index slab; `c` is the context a split allocates in -/
def mkit (T d : Nat) (c : Ctx) : Kit (MTree r d) where
  size t := (MTree.hdr d t).size
  canL := MTree.canLendToRight T d
  canR := MTree.canLendToLeft T d
  merge := MTree.merge d
  lend l u := (MTree.lendToRight T d l u).toOption
  borrow u x := (MTree.borrowFromRight T d u x).toOption
  split t := (MTree.split d t c).toOption.map fun p => (p.1, p.2.1)

/-- adjacent siblings: same owner, digests in order -/
def MAdj (d : Nat) (l x : MTree r d) : Prop :=
  (MTree.hdr d x).id.addr = (MTree.hdr d l).id.addr ∧
  ∀ a ∈ MTree.digests0 d l, ∀ b ∈ MTree.digests0 d x, a < b

/-- The adjacent siblings `X` may be replaced by `X'`: same pairs and first-level digests, leaf links in
    order, every slab identifier old or at most `n` above the counter `c`, same owner. -/
def MSibRepl (d c n : Nat) (X X' : List (MTree r d)) : Prop :=
  prs X' = prs X ∧ dgs X' = dgs X ∧ LeafRel (lvs X) (lvs X') ∧
  (∀ id ∈ idl X', id ∈ idl X ∨ id.idx ≤ c + n) ∧
  ∀ a, (∀ t ∈ X, (MTree.hdr d t).id.addr = a) → ∀ t ∈ X', (MTree.hdr d t).id.addr = a

theorem MSibRepl.ctx {c n : Nat} {X X' : List (MTree r d)} (h : MSibRepl d c n X X') (P Q : List (MTree r d)) :
    MSibRepl d c n (P ++ X ++ Q) (P ++ X' ++ Q) := by
  obtain ⟨h1, h2, h3, h4, h5⟩ := h
  have h1' : X'.flatMap (MTree.toList d) = X.flatMap (MTree.toList d) := h1
  have h2' : X'.flatMap (MTree.digests0 d) = X.flatMap (MTree.digests0 d) := h2
  refine ⟨?_, ?_, ?_, ?_, ?_⟩
  · simp only [prs, List.flatMap_append, h1']
  · simp only [dgs, List.flatMap_append, h2']
  · simp only [lvs, List.flatMap_append, List.append_assoc]
    exact h3.lift _ _
  · intro id hid
    simp only [idl, List.flatMap_append, List.mem_append] at hid ⊢
    rcases hid with (hid | hid) | hid
    · exact Or.inl (Or.inl (Or.inl hid))
    · exact (h4 id hid).imp (fun h => Or.inl (Or.inr h)) (fun h => h)
    · exact Or.inl (Or.inr hid)
  · intro a ha t ht
    simp only [List.mem_append] at ha ht
    rcases ht with (ht | ht) | ht
    · exact ha t (Or.inl (Or.inl ht))
    · exact h5 a (fun t ht => ha t (Or.inl (Or.inr ht))) t ht
    · exact ha t (Or.inr ht)

theorem MSibRepl.of_mergeSpec {c : Nat} {l x : MTree r d} (h : MTree.MergeSpec T D d l x) :
    MSibRepl d c 0 [l, x] [MTree.merge d l x] := by
  obtain ⟨_, _, hid, hp, hdg, hlv, hids⟩ := h
  refine ⟨by simp [prs, hp], by simp [dgs, hdg], by simpa [lvs] using hlv, ?_, ?_⟩
  · intro id hi
    exact Or.inl (by simpa [idl] using hids id (by simpa [idl] using hi))
  · intro a ha t ht
    rw [List.mem_singleton.1 ht, hid]; exact ha l (by simp)

theorem MSibRepl.of_rebSpec {c : Nat} {l x l' x' : MTree r d} (h : MTree.RebSpec T D d l x l' x') :
    MSibRepl d c 0 [l, x] [l', x'] := by
  obtain ⟨_, _, hid1, hid2, hp, hdg, hlv, hids⟩ := h
  refine ⟨by simp [prs, hp], by simp [dgs, hdg], by simpa [lvs] using hlv, ?_, ?_⟩
  · intro id hi
    exact Or.inl (by simpa [idl] using hids id (by simpa [idl] using hi))
  · intro a ha t ht
    simp only [List.mem_cons, List.not_mem_nil, or_false] at ht
    rcases ht with rfl | rfl
    · rw [hid1]; exact ha l (by simp)
    · rw [hid2]; exact ha x (by simp)

theorem mkit_laws (hT : legalThreshold T = true) (D : DigestFn (r + 1)) (d : Nat) (c : Ctx) :
    Laws (mkit (r := r) T d c) (minThr T) (maxThr T) (mergeGain d) (slack T d) (MTreeInv T D d false)
      (SInv T D d false) (MAdj d) (MSibRepl d c.ctr) where
  tight_iff := mtreeInv_false_iff hT d
  same t ht := by
    refine ⟨rfl, rfl, LeafRel.refl ?_, fun id h => Or.inl h, fun a h => h⟩
    simpa [lvs] using SInv.leaves_ne_nil hT d false t ht
  ctx n P Q X X' h := h.ctx P Q
  merge l x hl hx ha :=
    have h := MTree.merge_spec hT d l x hl hx ha.1 ha.2
    ⟨h.1, h.2.1, MSibRepl.of_mergeSpec h⟩
  band s u hs hu hlt hc := by
    have := MTree.merge_band hT d u s hu hs hlt hc.symm
    show minThr T + mergeGain d ≤ (MTree.hdr d s).size + (MTree.hdr d u).size ∧
      (MTree.hdr d s).size + (MTree.hdr d u).size ≤ maxThr T + mergeGain d
    omega
  lend l u hl hu hlt ha hc := by
    obtain ⟨l', u', he, h⟩ := MTree.lend_spec hT d l u hl hu hlt hc ha.1 ha.2
    exact ⟨l', u', by simp [mkit, he, Except.toOption], h.1, h.2.1, MSibRepl.of_rebSpec h⟩
  borrow u x hu hx hlt ha hc := by
    obtain ⟨u', x', he, h⟩ := MTree.borrow_spec hT d u x hu hx hlt hc ha.1 ha.2
    exact ⟨u', x', by simp [mkit, he, Except.toOption], h.1, h.2.1, MSibRepl.of_rebSpec h⟩
  split t ht hlo hhi := by
    obtain ⟨l, x, he, hl, hx, hid1, hid2, hp, hdg, hlv, hids⟩ := MTree.split_spec hT d t c ht hlo hhi
    refine ⟨l, x, by simp [mkit, he, Except.toOption], hl, hx, by simp [prs, hp], by simp [dgs, hdg],
      by simpa [lvs] using hlv, ?_, ?_⟩
    · intro id hi
      rcases hids id (by simpa [idl] using hi) with h | h
      · exact Or.inl (by simpa [idl] using h)
      · exact Or.inr (by rw [h, hid2, mctx_alloc_idx]; exact Nat.le_refl _)
    · intro a ha y hy
      simp only [List.mem_cons, List.not_mem_nil, or_false] at hy
      rcases hy with rfl | rfl
      · rw [hid1]; exact ha t (by simp)
      · rw [hid2, mctx_alloc_addr]; exact ha t (by simp)

/-- the index slab's own bookkeeping: header copies in step with the children, size by their number,
    first key that of the first child header -/
structure MBook (m : MMetaSlab (MTree r d)) : Prop where
  hdrs_eq : m.childHdrs = m.children.map (MTree.hdr d)
  size_eq : m.hdr.size = mapMetaDataSlabPrefixSize + mapSlabHeaderSize * m.children.length
  fk_eq : m.hdr.firstKey = (m.childHdrs.headD default).firstKey

theorem MetaLoose.book {top : Bool} {m : MMetaSlab (MTree r d)} (h : MetaLoose T D d top m) : MBook m :=
  ⟨h.hdrs_eq, h.size_eq, h.fk_eq⟩

theorem MBook.withChild {m : MMetaSlab (MTree r d)} {A B : List (MTree r d)} {x0 : MTree r d}
    (hb : MBook m) (hch : m.children = A ++ x0 :: B) (x : MTree r d) :
    MBook (m.withChild x A.length) ∧ (m.withChild x A.length).children = A ++ x :: B := by
  have hch1 : (m.withChild x A.length).children = A ++ x :: B := by
    simp only [MMetaSlab.withChild]; rw [hch, set_at rfl]
  have hh1 : (m.withChild x A.length).childHdrs = (m.withChild x A.length).children.map (MTree.hdr d) := by
    simp only [MMetaSlab.withChild, hb.hdrs_eq, List.map_set]
  refine ⟨⟨hh1, ?_, ?_⟩, hch1⟩
  · simp only [MMetaSlab.withChild, List.length_set]; exact hb.size_eq
  · rw [hh1, hch1]
    cases A with
    | nil => rfl
    | cons a A =>
      show m.hdr.firstKey = _
      rw [hb.fk_eq, hb.hdrs_eq, hch]; rfl

/-- first key after a rebalance or merge at position `P.length` -/
theorem MBook.fk_at {m1 : MMetaSlab (MTree r d)} (hb : MBook m1) {P R0 : List (MTree r d)} {l : MTree r d}
    (hP : m1.children = P ++ l :: R0) (y : MTree r d) (R : List (MTree r d)) :
    (if P.length == 0 then (MTree.hdr d y).firstKey else m1.hdr.firstKey)
      = (((P ++ y :: R).map (MTree.hdr d)).headD default).firstKey := by
  cases P with
  | nil => rfl
  | cons a P =>
    show m1.hdr.firstKey = _
    rw [hb.fk_eq, hb.hdrs_eq, hP]; rfl

theorem splitChildSlab_book {m1 : MMetaSlab (MTree r d)} {A B : List (MTree r d)} {x l rr : MTree r d}
    {c cs : Ctx} (hb : MBook m1) (hch : m1.children = A ++ x :: B) (hsp : MTree.split d x c = .ok (l, rr, cs)) :
    ∃ m' c', m1.splitChildSlab x A.length c = .ok (m', c') ∧ m'.children = A ++ l :: rr :: B ∧ MBook m' ∧
      m'.hdr.id = m1.hdr.id ∧ m'.root = m1.root ∧ c'.ctr = c.ctr + 1 := by
  obtain ⟨hlfk, hctr⟩ := MTree.split_left d x c l rr cs hsp
  have hk2 : (m1.children.set A.length l).insertIdx (A.length + 1) rr = A ++ l :: rr :: B := by
    rw [hch, set_at rfl, insert_succ_at rfl]
  simp only [MMetaSlab.splitChildSlab, hsp, bind, Except.bind, pure, Except.pure]
  refine ⟨_, _, rfl, hk2, ⟨?_, ?_, ?_⟩, rfl, rfl, by simp only [mctx_emit_ctr, hctr]⟩
  · show (m1.childHdrs.set _ _).insertIdx _ _ = ((m1.children.set _ _).insertIdx _ _).map _
    rw [hb.hdrs_eq, map_insertIdx, List.map_set]
  · show m1.hdr.size + mapSlabHeaderSize = _ + _ * ((m1.children.set _ _).insertIdx _ _).length
    rw [hk2, hb.size_eq, hch]
    simp only [List.length_append, List.length_cons, mapSlabHeaderSize]; omega
  · show m1.hdr.firstKey = (((m1.childHdrs.set _ _).insertIdx _ _).headD default).firstKey
    rw [hb.hdrs_eq, ← List.map_set, ← map_insertIdx, hk2, hb.fk_eq, hb.hdrs_eq, hch]
    cases A with
    | nil => exact hlfk.symm
    | cons a A => rfl

theorem rebalanceChildren_book {m1 : MMetaSlab (MTree r d)} {P Q : List (MTree r d)} {l y l' y' : MTree r d}
    {flag : Bool} (c : Ctx) (hb : MBook m1) (hch : m1.children = P ++ l :: y :: Q)
    (hop : (if flag then MTree.borrowFromRight T d l y else MTree.lendToRight T d l y) = .ok (l', y')) :
    ∃ m' c', m1.rebalanceChildren T l y P.length (P.length + 1) flag c = .ok (m', c') ∧
      m'.children = P ++ l' :: y' :: Q ∧ MBook m' ∧ m'.hdr.id = m1.hdr.id ∧ m'.root = m1.root ∧
      c'.ctr = c.ctr := by
  have hk2 : (m1.children.set P.length l').set (P.length + 1) y' = P ++ l' :: y' :: Q := by
    rw [hch, set_at rfl, set_succ_at rfl]
  rw [rebalanceChildren_eq m1 l y _ _ flag c hop]
  refine ⟨_, _, rfl, hk2, ⟨?_, ?_, ?_⟩, rfl, rfl, by simp only [mctx_emit_ctr]⟩
  · show (m1.childHdrs.set _ _).set _ _ = ((m1.children.set _ _).set _ _).map _
    rw [hb.hdrs_eq, List.map_set, List.map_set]
  · show m1.hdr.size = _ + _ * ((m1.children.set _ _).set _ _).length
    rw [List.length_set, List.length_set]; exact hb.size_eq
  · show (if P.length == 0 then (MTree.hdr d l').firstKey else m1.hdr.firstKey)
      = (((m1.childHdrs.set _ _).set _ _).headD default).firstKey
    rw [hb.hdrs_eq, ← List.map_set, ← List.map_set, hk2]
    exact hb.fk_at hch l' (y' :: Q)

theorem mergeChildren_book {m1 : MMetaSlab (MTree r d)} {P Q : List (MTree r d)} {l y : MTree r d}
    (c : Ctx) (hb : MBook m1) (hch : m1.children = P ++ l :: y :: Q) :
    (m1.mergeChildren l y P.length (P.length + 1) c).1.children = P ++ MTree.merge d l y :: Q ∧
      MBook (m1.mergeChildren l y P.length (P.length + 1) c).1 ∧
      (m1.mergeChildren l y P.length (P.length + 1) c).1.hdr.id = m1.hdr.id ∧
      (m1.mergeChildren l y P.length (P.length + 1) c).1.root = m1.root ∧
      (m1.mergeChildren l y P.length (P.length + 1) c).2.ctr = c.ctr := by
  have hk2 : (m1.children.set P.length (MTree.merge d l y)).eraseIdx (P.length + 1)
      = P ++ MTree.merge d l y :: Q := by
    rw [hch, set_at rfl, erase_succ_at rfl]
  refine ⟨hk2, ⟨?_, ?_, ?_⟩, rfl, rfl, by simp only [MMetaSlab.mergeChildren, mctx_emit_ctr]⟩
  · show (m1.childHdrs.set _ _).eraseIdx _ = ((m1.children.set _ _).eraseIdx _).map _
    rw [hb.hdrs_eq, map_eraseIdx, List.map_set]
  · show m1.hdr.size - mapSlabHeaderSize = _ + _ * ((m1.children.set _ _).eraseIdx _).length
    rw [hk2, hb.size_eq, hch]
    simp only [List.length_append, List.length_cons, mapSlabHeaderSize, mapMetaDataSlabPrefixSize]
    omega
  · show (if P.length == 0 then (MTree.hdr d (MTree.merge d l y)).firstKey else m1.hdr.firstKey)
      = (((m1.childHdrs.set _ _).eraseIdx _).headD default).firstKey
    rw [hb.hdrs_eq, ← List.map_set, ← map_eraseIdx, hk2]
    exact hb.fk_at hch (MTree.merge d l y) Q

/-- the under-full branch of `afterChild` carries out the plan of `mkit` for the zipper around the child -/
theorem afterChild_under_plan {m : MMetaSlab (MTree r d)} {A B : List (MTree r d)} {x : MTree r d} (c : Ctx)
    (hch1 : (m.withChild x A.length).children = A ++ x :: B)
    (hlen : (m.withChild x A.length).childHdrs.length = (m.withChild x A.length).children.length)
    (hfull : ¬ MTree.isFull T d x = true) (hu : (MTree.hdr d x).size < minThr T) :
    m.afterChild T x A.length c
      = (m.withChild x A.length).exec T x A.length c ((mkit T d c).planFor (minThr T) A B x) := by
  obtain ⟨eL, eR⟩ := sibs_of_zip hch1 rfl hlen
  rw [afterChild_eq, if_neg hfull, mtree_isUnderflow_eq, if_pos hu]
  show MMetaSlab.mergeOrRebalanceChildSlab T _ x A.length _ c = _
  rw [MMetaSlab.mor_eq_plan, eL, eR]
  rfl

/-- Each `Core.Step` of `mkit` is what `afterChild` does, with the bookkeeping of the model function
    that carries it out: the result has the step's children, keeps `MBook`, identifier and root
    flag, the counter moves by the slabs allocated. -/
theorem afterChild_step (hlh : minThr T ≤ maxThr T) {m : MMetaSlab (MTree r d)} {A B : List (MTree r d)}
    {x0 x : MTree r d} (c : Ctx) {n : Nat} {cs : List (MTree r d)} (hb : MBook m)
    (hch : m.children = A ++ x0 :: B)
    (hstep : Step (mkit T d c) (minThr T) (maxThr T) (MSibRepl d c.ctr) A B x n cs) :
    ∃ m' c', m.afterChild T x A.length c = .ok (m', c') ∧ m'.children = cs ∧ MBook m' ∧
      m'.hdr.id = m.hdr.id ∧ m'.root = m.root ∧ c'.ctr = c.ctr + n := by
  obtain ⟨hb1, hch1⟩ := hb.withChild hch x
  have hlen : (m.withChild x A.length).childHdrs.length = (m.withChild x A.length).children.length := by
    rw [hb1.hdrs_eq, List.length_map]
  have notFull : (MTree.hdr d x).size < minThr T → ¬ MTree.isFull T d x = true := fun hu h => by
    have := (mtree_isFull_iff T d x).1 h; omega
  cases hstep with
  | same hlo hhi =>
    replace hhi : (MTree.hdr d x).size ≤ maxThr T := hhi
    replace hlo : minThr T ≤ (MTree.hdr d x).size := hlo
    have hfull : ¬ MTree.isFull T d x = true := fun h => by
      have := (mtree_isFull_iff T d x).1 h; omega
    refine ⟨m.withChild x A.length, c.emit (.store (m.withChild x A.length).hdr.id), ?_, hch1, hb1, rfl,
      rfl, rfl⟩
    rw [afterChild_eq, if_neg hfull, mtree_isUnderflow_eq, if_neg (by omega)]
  | @split l rr hfull he hW =>
    obtain ⟨⟨l0, r0, cs0⟩, hsp, hlr⟩ := eq_ok_of_toOption_map he
    obtain ⟨rfl, rfl⟩ := Prod.mk.inj hlr
    obtain ⟨m', c', heq, h1, h2, h3, h4, h5⟩ := splitChildSlab_book hb1 hch1 hsp
    exact ⟨m', c', by rw [afterChild_eq, if_pos ((mtree_isFull_iff T d x).2 hfull)]; exact heq,
      h1, h2, h3, h4, h5⟩
  | @rebalL A' l l' x' hu hA' hp he hW =>
    subst hA'
    have hop : MTree.lendToRight T d l x = .ok (l', x') := eq_ok_of_toOption he
    obtain ⟨m', c', heq, h1, h2, h3, h4, h5⟩ := rebalanceChildren_book (flag := false) c hb1
      (by rw [hch1, List.append_assoc]; rfl) hop
    refine ⟨m', c', ?_, h1, h2, h3, h4, h5⟩
    rw [afterChild_under_plan c hch1 hlen (notFull hu) hu, hp, ← heq]
    simp only [MMetaSlab.exec, List.length_append, List.length_cons, List.length_nil, Nat.zero_add,
      Nat.add_sub_cancel]
  | @rebalR B' y x' y' hu hB' hp he hW =>
    subst hB'
    have hop : MTree.borrowFromRight T d x y = .ok (x', y') := eq_ok_of_toOption he
    obtain ⟨m', c', heq, h1, h2, h3, h4, h5⟩ := rebalanceChildren_book (flag := true) c hb1 hch1 hop
    exact ⟨m', c', by rw [afterChild_under_plan c hch1 hlen (notFull hu) hu, hp]; exact heq,
      h1, h2, h3, h4, h5⟩
  | @mergeL A' l hu hA' hp hW =>
    subst hA'
    obtain ⟨h1, h2, h3, h4, h5⟩ := mergeChildren_book c hb1 (l := l) (y := x) (P := A') (Q := B)
      (by rw [hch1, List.append_assoc]; rfl)
    refine ⟨_, _, ?_, h1, h2, h3, h4, h5⟩
    rw [afterChild_under_plan c hch1 hlen (notFull hu) hu, hp]
    simp only [MMetaSlab.exec, List.length_append, List.length_cons, List.length_nil, Nat.zero_add,
      Nat.add_sub_cancel]
  | @mergeR B' y hu hB' hp hW =>
    subst hB'
    obtain ⟨h1, h2, h3, h4, h5⟩ := mergeChildren_book c hb1 hch1
    exact ⟨_, _, by rw [afterChild_under_plan c hch1 hlen (notFull hu) hu, hp]; rfl, h1, h2, h3, h4, h5⟩

/-- The repair step after child `k` was replaced by `child'` (still `SInv`, at most `slack` above the
    band, same identifier, digests still in order): it succeeds and leaves `ACPost`. -/
theorem afterChild_post (hT : legalThreshold T = true) {top : Bool} {m : MMetaSlab (MTree r d)}
    {A B : List (MTree r d)} {child child' : MTree r d} (hm : MetaLoose T D d top m)
    (hch : m.children = A ++ child :: B) (h2 : 2 ≤ m.children.length)
    {k : Nat} (hk : A.length = k) (hc' : SInv T D d false child')
    (hsz : (MTree.hdr d child').size ≤ maxThr T + slack T d)
    (hid : (MTree.hdr d child').id = (MTree.hdr d child).id)
    (hsorted : (dgs (A ++ child' :: B)).Pairwise (· < ·)) (c : Ctx) :
    ∃ m' c', m.afterChild T child' k c = .ok (m', c') ∧ ACPost T D d top m A B child' c m' c' := by
  subst hk
  have hlh : minThr T ≤ maxThr T := by
    have b := mapBand hT
    have := b.lo; have := b.min_le; have := b.max_ge; omega
  have hlen : m.children.length = A.length + 1 + B.length := by
    rw [hch]; simp only [List.length_append, List.length_cons]; omega
  have hA : ∀ t ∈ A, MTreeInv T D d false t := fun t ht => hm.kid_inv t (by rw [hch]; simp [ht])
  have hB : ∀ t ∈ B, MTreeInv T D d false t := fun t ht => hm.kid_inv t (by rw [hch]; simp [ht])
  have haddr : ∀ t ∈ A ++ child' :: B, (MTree.hdr d t).id.addr = m.hdr.id.addr := by
    intro t ht
    rcases List.mem_append.1 ht with h | h
    · exact hm.kid_addr t (by rw [hch]; simp [h])
    · rcases List.mem_cons.1 h with rfl | h
      · rw [hid]; exact hm.kid_addr child (by rw [hch]; simp)
      · exact hm.kid_addr t (by rw [hch]; simp [h])
  obtain ⟨n, cs, hstep, htight, hp, hdg, hlv, hids, had⟩ :=
    (mkit_laws hT D d c).repair_spec hA hB hc' hsz (fun _ => by omega)
      (fun _ l hl => by
        obtain ⟨A', rfl⟩ := List.getLast?_eq_some_iff.1 hl
        exact ⟨by rw [haddr child' (by simp), haddr l (by simp)],
          sorted_adjacent (P := A') (Q := B) (by simpa using hsorted)⟩)
      (fun _ y hy => by
        obtain ⟨B', rfl⟩ := List.head?_eq_some_iff.1 hy
        exact ⟨by rw [haddr child' (by simp), haddr y (by simp)], sorted_adjacent (P := A) (Q := B') hsorted⟩)
  obtain ⟨m', c', he, rfl, hb', bid, broot, bctr⟩ := afterChild_step hlh c hm.book hch hstep
  obtain ⟨-, -, -, -, l4, l5⟩ := hstep.length hlh hlen
  have hdg' : m'.children.flatMap (MTree.digests0 d) = (A ++ child' :: B).flatMap (MTree.digests0 d) := hdg
  refine ⟨m', c', he, ?_, by omega, l5, bid, ?_, ?_, ?_, ?_, by omega⟩
  · exact MetaLoose.of_child (broot.trans hm.1) hb'.hdrs_eq hb'.size_eq hb'.fk_eq
      (fun t ht => ⟨htight t ht, by rw [bid]; exact had _ haddr t ht, (htight t ht).fk hT⟩)
      (by rw [hdg']; exact hsorted)
  · rw [hp]; simp [prs]
  · rw [hdg]; simp [dgs]
  · have : lvs (A ++ child' :: B) = lvs A ++ (MTree.leaves d child' ++ lvs B) := by simp [lvs]
    rw [← this]; exact hlv
  · intro id hi
    have : idl (A ++ child' :: B) = idl A ++ (CtxOk.mapSlabIds d child' ++ idl B) := by simp [idl]
    rw [← this, bctr]
    exact hids id hi

end Atree

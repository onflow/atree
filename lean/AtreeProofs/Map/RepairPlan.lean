import AtreeModel.Map.Tree
import AtreeProofs.Core.Plan
/-
  `MapMetaDataSlab.MergeOrRebalanceChildSlab` runs the decision table shared with arrays
  (`Core.plan`): `mor_eq_plan`; a successful run acts on two adjacent children (`mmor_cases`, on the
  zipper `mmor_zip`).  No invariant is involved.
-/
namespace Atree
open Gen Core

variable {T : Nat} {r : Nat} {d : Nat}

/-- what the map index slab does with a plan -/
def MMetaSlab.exec (T : Nat) (m : MMetaSlab (MTree r d)) (child : MTree r d) (k : Nat) (c : Ctx) :
    Plan (MTree r d) → Except MErr (MMetaSlab (MTree r d) × Ctx)
  | .panic => .error .goPanic
  | .rebalL l => m.rebalanceChildren T l child (k - 1) k false c
  | .rebalR x => m.rebalanceChildren T child x k (k + 1) true c
  | .mergeL l => .ok (m.mergeChildren l child (k - 1) k c)
  | .mergeR x => .ok (m.mergeChildren child x k (k + 1) c)

theorem MMetaSlab.mor_eq_plan (m : MMetaSlab (MTree r d)) (child : MTree r d) (k u : Nat) (c : Ctx) :
    m.mergeOrRebalanceChildSlab T child k u c =
      m.exec T child k c (plan (MTree.canLendToRight T d · u) (MTree.canLendToLeft T d · u)
        (fun t => (MTree.hdr d t).size)
        (if k > 0 then m.children[k - 1]? else none)
        (if k + 1 < m.childHdrs.length then m.children[k + 1]? else none)) := by
  rw [plan_comm (m.exec T child k c)]
  unfold MMetaSlab.mergeOrRebalanceChildSlab
  generalize (if k > 0 then m.children[k - 1]? else none) = L
  generalize (if k + 1 < m.childHdrs.length then m.children[k + 1]? else none) = R
  rcases L with _ | l <;> rcases R with _ | x <;> rfl

/-- which repair action `mergeOrRebalanceChildSlab` takes: a rebalance or a merge of the child with
    one of its two neighbours -/
theorem mmor_cases (m : MMetaSlab (MTree r d)) (child : MTree r d) (k u : Nat) (c : Ctx)
    (m2 : MMetaSlab (MTree r d)) (c2 : Ctx)
    (h : m.mergeOrRebalanceChildSlab T child k u c = .ok (m2, c2)) :
    ∃ l rr li, ((li = k ∧ l = child ∧ m.children[k + 1]? = some rr) ∨
               (li + 1 = k ∧ m.children[li]? = some l ∧ rr = child)) ∧
      ((∃ flag, m.rebalanceChildren T l rr li (li + 1) flag c = .ok (m2, c2)) ∨
        (m2, c2) = m.mergeChildren l rr li (li + 1) c) := by
  rw [MMetaSlab.mor_eq_plan] at h
  revert h
  refine plan_sibs (Q := fun p => m.exec T child k c p = .ok (m2, c2) → _) _ _ _ _ _ _
    (fun h => nomatch h) ?_ ?_
  · intro l e hg
    exact ⟨fun he => ⟨l, child, k - 1, Or.inr ⟨e, hg, rfl⟩, Or.inl ⟨false, by rw [e]; exact he⟩⟩,
      fun he => ⟨l, child, k - 1, Or.inr ⟨e, hg, rfl⟩, Or.inr (by rw [e]; exact (Except.ok.inj he).symm)⟩⟩
  · intro x hg
    exact ⟨fun he => ⟨child, x, k, Or.inl ⟨rfl, rfl, hg⟩, Or.inl ⟨true, he⟩⟩,
      fun he => ⟨child, x, k, Or.inl ⟨rfl, rfl, hg⟩, Or.inr (Except.ok.inj he).symm⟩⟩

/-- `mmor_cases` on the zipper: the two slabs acted on are adjacent children `P ++ l :: x :: Q` -/
theorem mmor_zip {m m2 : MMetaSlab (MTree r d)} {A B : List (MTree r d)} {child : MTree r d} {k u : Nat}
    {c c2 : Ctx} (hch : m.children = A ++ child :: B) (hk : A.length = k)
    (h : m.mergeOrRebalanceChildSlab T child k u c = .ok (m2, c2)) :
    ∃ P Q l x, m.children = P ++ l :: x :: Q ∧
      ((∃ flag, m.rebalanceChildren T l x P.length (P.length + 1) flag c = .ok (m2, c2)) ∨
        (m2, c2) = m.mergeChildren l x P.length (P.length + 1) c) := by
  obtain ⟨l, x, li, hpos, hact⟩ := mmor_cases m child k u c m2 c2 h
  obtain ⟨P, Q, hch', rfl⟩ := pair_of_sibs hch hk hpos
  exact ⟨P, Q, l, x, hch', hact⟩

end Atree

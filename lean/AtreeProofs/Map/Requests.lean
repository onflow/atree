import AtreeProofs.Map.TreeTop
import AtreeProofs.Map.Limit
import AtreeProofs.Map.Empty
/-
  What a request of an `OMap` under `MapInv` tells when its result is read, beside `OMap.set_post` /
  `remove_post` (`Map/MapOps.lean`): a refused `set` / `remove` names the one possible error and says the
  key was absent; `OSetPost.dict` / `ORemPost.dict` read a post-condition as a dictionary update;
  `popIterate_spec`.  The dictionary theorems of `Props/C02.lean` and the request relation of
  `E2EMap/Served.lean` are assembled from these.
-/
namespace Atree
open Gen

variable {T : Nat} {r : Nat} {D : DigestFn (r + 1)} {cfg : MCfg} {m m' : OMap r} {k : MKey} {v : Elem}
  {old : Option Elem} {c c' : Ctx}

namespace OMap

/-- `set` is refused for one reason only, and only for a key that is not in the map -/
theorem set_refused (hT : legalThreshold T = true) (hcfg : CfgOk cfg T m) (h : MapInv T D m)
    (hk : KeyOk T (r + 1) D k) (hv : ValueOkR T k.size v) {e : MErr} (hr : m.set cfg k v c = .error e) :
    e = .collisionLimit ∧ dictLookup m.toList k = none := by
  obtain ⟨h1, h2⟩ := OMap.set_spec_ref hT hcfg h hk hv c
  by_cases hl : TLimited cfg m.d m.root k
  · rw [h1 hl] at hr; cases hr
    exact ⟨rfl, (dictLookup_none_iff h.allKeyOk hk).mpr (tlimited_absent hT m.d true m.root h.sinv hl)⟩
  · obtain ⟨_, _, _, heq, _⟩ := h2 hl
    rw [heq] at hr; cases hr

/-- `remove` is refused for one reason only, and only for a key that is not in the map -/
theorem remove_refused (hT : legalThreshold T = true) (hcfg : CfgOk cfg T m) (h : MapInv T D m)
    (hk : KeyOk T (r + 1) D k) (hc : CtxOk m c) {e : MErr} (hr : m.remove cfg k c = .error e) :
    e = .keyNotFound ∧ dictLookup m.toList k = none := by
  have hs := OMap.remove_spec hT hcfg h hk c hc
  cases hd : dictLookup m.toList k with
  | none => rw [hs.1 ((dictLookup_none_iff h.allKeyOk hk).mp hd)] at hr; cases hr; exact ⟨rfl, rfl⟩
  | some w =>
    obtain ⟨_, _, heq, _⟩ := hs.2 w (mem_of_dictLookup_some h.allKeyOk hk hd)
    rw [heq] at hr; cases hr

/-- Bulk pop: every pair exactly once, in reverse iteration order; what is left is the empty map on the
    same root. -/
theorem popIterate_spec (hT : legalThreshold T = true) (h : MapInv T D m) (c : Ctx) :
    (m.popIterate c).1 = m.toList.reverse ∧ (m.popIterate c).2.1.toList = [] ∧ (m.popIterate c).2.1.count = 0 ∧
    MapInv T D (m.popIterate c).2.1 ∧ (m.popIterate c).2.1.rootID = m.rootID := by
  have hres : (m.popIterate c).2.1 = ⟨0, emptyRoot r m.rootID, m.ty, 0, m.seed⟩ := by
    simp only [OMap.popIterate, h.standalone, emptyRoot]
    rfl
  refine ⟨?_, ?_, ?_, ?_, ?_⟩
  · simp only [OMap.popIterate, OMap.toList]
    exact MTree.popIterate_fst m.d m.root c
  · rw [hres]; rfl
  · rw [hres]
  · rw [hres]; exact emptyMap_inv hT _ _ _
  · rw [hres]; rfl

end OMap

/-- a successful `set` as a dictionary update -/
theorem OSetPost.dict (hp : OSetPost T D cfg m m' k v old c c') (h : MapInv T D m) (hk : KeyOk T (r + 1) D k) :
    old = dictLookup m.toList k ∧
    (∀ k', KeyOk T (r + 1) D k' →
      dictLookup m'.toList k' = if k'.same k then some (storedValue cfg k v c) else dictLookup m.toList k') ∧
    m'.count = (if (dictLookup m.toList k).isSome then m.count else m.count + 1) := by
  obtain ⟨e1, _, _, e4⟩ := hp.eff.spec h.allKeyOk h.distinct hk
  refine ⟨e1, e4, ?_⟩
  rw [hp.count, ← e1]
  cases old <;> simp

/-- a successful `remove` as a dictionary update; the count without truncated subtraction -/
theorem ORemPost.dict (hp : ORemPost T D m m' k v c c') (h : MapInv T D m) (hk : KeyOk T (r + 1) D k) :
    dictLookup m.toList k = some v ∧
    (∀ k', KeyOk T (r + 1) D k' → dictLookup m'.toList k' = if k'.same k then none else dictLookup m.toList k') ∧
    m'.count + 1 = m.count := by
  obtain ⟨e1, _, _, e4⟩ := hp.eff.spec h.allKeyOk h.distinct hk
  refine ⟨e1, e4, ?_⟩
  have := hp.eff.length
  rw [hp.count, h.count_eq]; omega

end Atree

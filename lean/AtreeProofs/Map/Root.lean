import AtreeProofs.Map.TreeRemove
import AtreeProofs.Map.Repair
/-
  The root layer: `promoteIfSingleChild`, `splitRootIfFull`.  Forward, under the invariant: `root_fixup`.
  Without invariant: `OMap.set_ok_iff` / `remove_ok_iff` (a success is the descent on
  the root, then `OMap.rootFix`), `OMap.promote_cases` (with `promote_eq`, `promote_id`),
  `OMap.splitRootIfFull_cases`, `OMap.splitRoot_eq` (with `splitRoot_ok`, `splitRoot_inv`), the fix-up of a
  single-slab map (`OMap.rootFix_inl`, `rootFix_single`), and `MTree.LeafView.rootFix` (the fix-up keeps every
  view that looks the same one level down; `deroot` and `enroot` change the header only:
  `LeafView.deroot / enroot`, `ids_deroot / ids_enroot`).
-/
namespace Atree
open Gen

variable {T : Nat} {r : Nat} {D : DigestFn (r + 1)}

/-- postcondition of the root fix-up after an update -/
structure RootPost (T : Nat) (D : DigestFn (r + 1)) (m1 m3 : OMap r) (c c3 : Ctx) : Prop where
  tree : MTreeInv T D m3.d true m3.root
  chain : MLeafChain (MTree.leaves m3.d m3.root)
  toList : m3.toList = m1.toList
  inl : m3.isInlined = false
  rootID : m3.rootID = m1.rootID
  ty : m3.ty = m1.ty
  seed : m3.seed = m1.seed
  count : m3.count = m1.count
  ctr : c.ctr ≤ c3.ctr
  ids : ∀ id ∈ CtxOk.mapSlabIds m3.d m3.root, id ∈ CtxOk.mapSlabIds m1.d m1.root ∨ id.idx ≤ c3.ctr

/-- the root fix-up `OMap.set` and `OMap.remove` end with -/
def OMap.rootFix (T : Nat) (m : OMap r) (c : Ctx) : Except MErr (OMap r × Ctx) :=
  (m.promoteIfSingleChild c).1.splitRootIfFull T (m.promoteIfSingleChild c).2

theorem isInlined_eq (d : Nat) (root : MTree r d) (ty cnt seed : Nat) :
    OMap.isInlined (⟨d, root, ty, cnt, seed⟩ : OMap r) = treeInl d root := by
  cases d <;> rfl

/-- a root within its band needs no fix-up.  "An index-slab root has two children" is said of every
    `m` that `root` is (`d = d' + 1`, `HEq root m`): `root : MTree r d` has children only once `d` is a
    successor, and the callers know `d` as a variable or as `0`. -/
theorem mtreeInv_top_of (hT : legalThreshold T = true) : ∀ (d : Nat) (root : MTree r d),
    SInv T D d true root → (MTree.hdr d root).size ≤ maxThr T →
    (∀ d' (m : MMetaSlab (MTree r d')), d = d' + 1 → HEq root m → 2 ≤ m.children.length) →
    MTreeInv T D d true root
  | 0, s, hs, hle, _ =>
    (mtreeInv_zero_iff T D true s).mpr ((mdataInv_iff hT true s).mpr ⟨hs, hle, fun h => absurd h (by decide)⟩)
  | d + 1, m, hs, hle, h2 =>
    (mtreeInv_succ_iff T D d true m).mpr ⟨hs.1, hle, fun h => absurd h (by decide), fun _ => h2 d m rfl HEq.rfl⟩

/-- the root slab turned into a non-root slab with a fresh ID (first step of `splitRoot`) -/
def deroot : (d : Nat) → MTree r d → SlabID → MTree r d
  | 0, (s : MDataSlab r), sid =>
    ({ s with hdr := { s.hdr with size := s.hdr.size - mapRootDataSlabPrefixSize + mapDataSlabPrefixSize, id := sid },
              root := false } : MDataSlab r)
  | _ + 1, (x : MMetaSlab _), sid => ({ x with hdr := { x.hdr with id := sid }, root := false } : MMetaSlab _)

theorem hdr_deroot : ∀ (d : Nat) (t : MTree r d) (sid : SlabID), (MTree.hdr d (deroot d t sid)).id = sid
  | 0, _, _ => rfl
  | _ + 1, _, _ => rfl

/-- de-rooting changes the header only: every view is kept -/
theorem MTree.LeafView.deroot {β : Type} (w : MTree.LeafView r β) :
    ∀ (d : Nat) (t : MTree r d) (sid : SlabID), w.V d (deroot d t sid) = w.V d t
  | 0, (s : MDataSlab r), _ => (w.zero _).trans (w.zero s).symm
  | _ + 1, (x : MMetaSlab _), _ => (w.succ _ _).trans (w.succ _ x).symm

theorem msub_deroot (d : Nat) (t : MTree r d) (sid : SlabID) : msub d (deroot d t sid) = msub d t :=
  msubView.deroot d t sid

/-- the identifiers of the de-rooted copy: the fresh one, then those below the root -/
theorem ids_deroot (d : Nat) (t : MTree r d) (sid : SlabID) :
    ∀ id ∈ CtxOk.mapSlabIds d (deroot d t sid), id = sid ∨ id ∈ CtxOk.mapSlabIds d t := by
  intro id hid
  rw [mapSlabIds_eq, hdr_deroot, show msubIds d (deroot d t sid) = msubIds d t from msubIdsView.deroot d t sid] at hid
  rw [mapSlabIds_eq]
  exact (List.mem_cons.1 hid).imp_right (List.mem_cons_of_mem _)

/-- the new root index slab built by `splitRoot` -/
def newRootOf (d : Nat) (rootID : SlabID) (l rr : MTree r d) : MMetaSlab (MTree r d) :=
  { hdr := { id := rootID, size := mapMetaDataSlabPrefixSize + mapSlabHeaderSize * 2,
             firstKey := (MTree.hdr d l).firstKey },
    childHdrs := [MTree.hdr d l, MTree.hdr d rr], children := [l, rr], root := true }

/-- `splitRoot` as one equation: the de-rooted copy of the root is split, the halves go under a new root -/
theorem OMap.splitRoot_eq (d : Nat) (root : MTree r d) (ty cnt seed : Nat) (c : Ctx) :
    OMap.splitRoot (⟨d, root, ty, cnt, seed⟩ : OMap r) c =
      (MTree.split d (deroot d root (c.alloc (MTree.hdr d root).id.addr).1) (c.alloc (MTree.hdr d root).id.addr).2 >>=
        fun p => pure ((⟨d + 1, newRootOf d (MTree.hdr d root).id p.1 p.2.1, ty, cnt, seed⟩ : OMap r),
          ((p.2.2.emit (.store (MTree.hdr d p.1).id)).emit (.store (MTree.hdr d p.2.1).id)).emit
            (.store (MTree.hdr d root).id))) := by
  cases d <;> rfl

theorem splitRoot_inv (d : Nat) (root : MTree r d) (ty cnt seed : Nat) (c : Ctx) {m3 : OMap r} {c3 : Ctx}
    (h : OMap.splitRoot (⟨d, root, ty, cnt, seed⟩ : OMap r) c = .ok (m3, c3)) :
    ∃ l rr c2, MTree.split d (deroot d root (c.alloc (MTree.hdr d root).id.addr).1)
        (c.alloc (MTree.hdr d root).id.addr).2 = .ok (l, rr, c2) ∧
      m3 = ⟨d + 1, newRootOf d (MTree.hdr d root).id l rr, ty, cnt, seed⟩ ∧
      c3 = ((c2.emit (.store (MTree.hdr d l).id)).emit (.store (MTree.hdr d rr).id)).emit
            (.store (MTree.hdr d root).id) := by
  rw [OMap.splitRoot_eq] at h
  obtain ⟨⟨l, rr, c2⟩, hs, h⟩ := bind_eq_ok h
  simp only [pure, Except.pure, Except.ok.injEq, Prod.mk.injEq] at h
  exact ⟨l, rr, c2, hs, h.1.symm, h.2.symm⟩

theorem splitRoot_ok (d : Nat) (root : MTree r d) (ty cnt seed : Nat) (c : Ctx) {l rr : MTree r d} {c2 : Ctx}
    (h : MTree.split d (deroot d root (c.alloc (MTree.hdr d root).id.addr).1) (c.alloc (MTree.hdr d root).id.addr).2
      = .ok (l, rr, c2)) :
    OMap.splitRoot (⟨d, root, ty, cnt, seed⟩ : OMap r) c =
      .ok ((⟨d + 1, newRootOf d (MTree.hdr d root).id l rr, ty, cnt, seed⟩ : OMap r),
          ((c2.emit (.store (MTree.hdr d l).id)).emit (.store (MTree.hdr d rr).id)).emit
            (.store (MTree.hdr d root).id)) := by
  rw [OMap.splitRoot_eq, h]; rfl

/-- facts about the de-rooted copy of the root slab -/
structure DerootFacts (T : Nat) (D : DigestFn (r + 1)) (d : Nat) (root : MTree r d) (sid : SlabID) : Prop where
  sinv : SInv T D d false (deroot d root sid)
  full : maxThr T < (MTree.hdr d root).size → maxThr T < (MTree.hdr d (deroot d root sid)).size
  le : (MTree.hdr d root).size ≤ maxThr T + slack1 T d → (MTree.hdr d (deroot d root sid)).size ≤ maxThr T + slack T d
  id : (MTree.hdr d (deroot d root sid)).id = sid
  toList : MTree.toList d (deroot d root sid) = MTree.toList d root
  digs : MTree.digests0 d (deroot d root sid) = MTree.digests0 d root
  chain : ∀ nxt, ChainTo (MTree.leaves d root) nxt → ChainTo (MTree.leaves d (deroot d root sid)) nxt
  ids : ∀ id ∈ CtxOk.mapSlabIds d (deroot d root sid), id = sid ∨ id ∈ CtxOk.mapSlabIds d root

theorem deroot_zero (s : MDataSlab r) (sid : SlabID) (hs : MDataLoose T D true s) (hinl : s.inlined = false) :
    DerootFacts T D 0 s sid := by
  have hpre : s.prefixSize = mapRootDataSlabPrefixSize := by
    simp [MDataSlab.prefixSize, hinl, hs.root_eq]
  have hsz := hs.size_eq
  rw [hpre] at hsz
  refine ⟨⟨hs.elems_inv, ?_, hs.first_eq, rfl, ?_⟩, ?_, ?_, rfl, rfl, rfl, ?_, ?_⟩
  · simp only [deroot, MDataSlab.prefixSize, hinl]
    simp only [Bool.false_eq_true, if_false]
    rw [hsz]; simp only [mapRootDataSlabPrefixSize, mapDataSlabPrefixSize]; omega
  · intro h; simp only [deroot] at h; rw [hinl] at h; cases h
  · intro h
    show maxThr T < s.hdr.size - mapRootDataSlabPrefixSize + mapDataSlabPrefixSize
    have : maxThr T < s.hdr.size := h
    simp only [mapRootDataSlabPrefixSize, mapDataSlabPrefixSize] at *; omega
  · intro h
    show s.hdr.size - mapRootDataSlabPrefixSize + mapDataSlabPrefixSize ≤ maxThr T + (maxEntry T + 16)
    have : s.hdr.size ≤ maxThr T + maxEntry T := h
    simp only [mapRootDataSlabPrefixSize, mapDataSlabPrefixSize] at *; omega
  · intro nxt h
    show ChainTo [deroot 0 s sid] nxt
    have h' : ChainTo [s] nxt := h
    simp only [ChainTo] at h' ⊢
    exact h'
  · exact ids_deroot 0 s sid

theorem deroot_succ {d : Nat} (x : MMetaSlab (MTree r d)) (sid : SlabID) (hs : MetaLoose T D d true x)
    (hlen : 1 ≤ x.children.length) (haddr : sid.addr = x.hdr.id.addr) : DerootFacts T D (d + 1) x sid := by
  refine ⟨⟨hs.withId haddr, hlen⟩, fun h => h, fun h => h, rfl, rfl, rfl, fun _ h => h, ?_⟩
  · exact ids_deroot (d + 1) x sid

theorem deroot_facts : ∀ (d : Nat) (root : MTree r d) (sid : SlabID), SInv T D d true root →
    treeInl d root = false → sid.addr = (MTree.hdr d root).id.addr → DerootFacts T D d root sid
  | 0, s, sid, hs, hinl, _ => deroot_zero s sid hs hinl
  | _ + 1, x, sid, hs, _, haddr => deroot_succ x sid hs.1 hs.2 haddr

theorem hdr_id_mem_zero (s : MDataSlab r) : s.hdr.id ∈ CtxOk.mapSlabIds 0 s := by
  rw [mapSlabIds_zero]; exact List.mem_cons_self

theorem hdr_id_mem_succ {d : Nat} (m : MMetaSlab (MTree r d)) : m.hdr.id ∈ CtxOk.mapSlabIds (d + 1) m := by
  rw [mapSlabIds_succ]; exact List.mem_cons_self

theorem hdr_id_mem : ∀ (d : Nat) (t : MTree r d), (MTree.hdr d t).id ∈ CtxOk.mapSlabIds d t
  | 0, s => hdr_id_mem_zero s
  | _ + 1, m => hdr_id_mem_succ m

/-- the root is over-full: it is split and a new root index slab is put on top -/
theorem splitRoot_post (hT : legalThreshold T = true) (d : Nat) (root : MTree r d) (ty cnt seed : Nat) (c : Ctx)
    (hS : SInv T D d true root) (hinl : treeInl d root = false) (hfull : maxThr T < (MTree.hdr d root).size)
    (hle : (MTree.hdr d root).size ≤ maxThr T + slack1 T d)
    (hchain : ChainTo (MTree.leaves d root) SlabID.undef) :
    ∃ m3 c3, OMap.splitRoot (⟨d, root, ty, cnt, seed⟩ : OMap r) c = .ok (m3, c3) ∧
      RootPost T D ⟨d, root, ty, cnt, seed⟩ m3 c c3 := by
  have F := deroot_facts (T := T) (D := D) d root (c.alloc (MTree.hdr d root).id.addr).1 hS hinl rfl
  obtain ⟨l, rr, heq, hl, hr, hid1, hid2, hp, hdg, hlv, hids⟩ := MTree.split_spec hT d
    (deroot d root (c.alloc (MTree.hdr d root).id.addr).1) (c.alloc (MTree.hdr d root).id.addr).2
    F.sinv (F.full hfull) (F.le hle)
  rw [splitRoot_ok d root ty cnt seed c heq]
  refine ⟨_, _, rfl, ?_⟩
  have hb := map_legal_bounds hT
  have ha1 : (MTree.hdr d l).id.addr = (MTree.hdr d root).id.addr := by rw [hid1, F.id]; rfl
  have ha2 : (MTree.hdr d rr).id.addr = (MTree.hdr d root).id.addr := by rw [hid2, F.id]; rfl
  refine ⟨?_, ?_, ?_, rfl, rfl, rfl, rfl, rfl, ?_, ?_⟩
  · show MTreeInv T D (d + 1) true (newRootOf d (MTree.hdr d root).id l rr)
    rw [mtreeInv_succ_iff]
    refine ⟨MetaLoose.of_child rfl rfl rfl rfl ?_ ?_, ?_, fun h => absurd h (by decide), fun _ => Nat.le_refl 2⟩
    · intro x hx
      have hx' : x ∈ [l, rr] := hx
      simp only [List.mem_cons, List.mem_nil_iff, or_false] at hx'
      rcases hx' with rfl | rfl
      · exact ⟨hl, ha1, hl.fk hT⟩
      · exact ⟨hr, ha2, hr.fk hT⟩
    · show (dgs [l, rr]).Pairwise (· < ·)
      have : dgs [l, rr] = MTree.digests0 d root := by
        simp only [dgs, List.flatMap_cons, List.flatMap_nil, List.append_nil]
        rw [← hdg, F.digs]
      rw [this]; exact SInv.sorted d true root hS
    · show mapMetaDataSlabPrefixSize + mapSlabHeaderSize * 2 ≤ maxThr T
      simp only [mapMetaDataSlabPrefixSize, mapSlabHeaderSize, maxThr]; omega
  · rw [mLeafChain_iff]
    show ChainTo (lvs [l, rr]) SlabID.undef
    have : lvs [l, rr] = MTree.leaves d l ++ MTree.leaves d rr := by simp [lvs]
    rw [this]
    exact hlv.2.2.2 _ (F.chain _ hchain)
  · show prs [l, rr] = MTree.toList d root
    simp only [prs, List.flatMap_cons, List.flatMap_nil, List.append_nil]
    rw [← hp, F.toList]
  · simp [mctx_emit_ctr, mctx_alloc_ctr]; omega
  · intro id hid
    have hid' : id ∈ (MTree.hdr d root).id :: idl [l, rr] := by
      have := mapSlabIds_succ (newRootOf d (MTree.hdr d root).id l rr)
      rw [this] at hid; exact hid
    rcases List.mem_cons.mp hid' with h | h
    · left; rw [h]; exact hdr_id_mem d root
    · have h' : id ∈ CtxOk.mapSlabIds d l ++ CtxOk.mapSlabIds d rr := by simpa [idl] using h
      rcases hids id h' with h1 | h1
      · rcases F.ids id h1 with h2 | h2
        · right; rw [h2]; simp [mctx_emit_ctr, mctx_alloc_ctr, mctx_alloc_idx]
        · left; exact h2
      · right; rw [h1, hid2]; simp [mctx_emit_ctr, mctx_alloc_ctr, mctx_alloc_idx]

theorem rootPost_refl (hT : legalThreshold T = true) (d : Nat) (root : MTree r d) (ty cnt seed : Nat) (c : Ctx)
    (hS : SInv T D d true root) (hinl : treeInl d root = false) (hle : (MTree.hdr d root).size ≤ maxThr T)
    (hchain : ChainTo (MTree.leaves d root) SlabID.undef)
    (h2 : ∀ d' (m : MMetaSlab (MTree r d')), d = d' + 1 → HEq root m → 2 ≤ m.children.length) :
    RootPost T D (⟨d, root, ty, cnt, seed⟩ : OMap r) ⟨d, root, ty, cnt, seed⟩ c c :=
  ⟨mtreeInv_top_of hT d root hS hle h2, (mLeafChain_iff _).mpr hchain, rfl, by rw [isInlined_eq]; exact hinl,
    rfl, rfl, rfl, rfl, Nat.le_refl _, fun _ h => Or.inl h⟩

theorem splitRootIfFull_post (hT : legalThreshold T = true) (d : Nat) (root : MTree r d) (ty cnt seed : Nat) (c : Ctx)
    (hS : SInv T D d true root) (hinl : treeInl d root = false)
    (hle : (MTree.hdr d root).size ≤ maxThr T + slack1 T d)
    (hchain : ChainTo (MTree.leaves d root) SlabID.undef)
    (h2 : ∀ d' (m : MMetaSlab (MTree r d')), d = d' + 1 → HEq root m → 2 ≤ m.children.length) :
    ∃ m3 c3, OMap.splitRootIfFull T (⟨d, root, ty, cnt, seed⟩ : OMap r) c = .ok (m3, c3) ∧
      RootPost T D ⟨d, root, ty, cnt, seed⟩ m3 c c3 := by
  simp only [OMap.splitRootIfFull]
  by_cases hfull : MTree.isFull T d root = true
  · rw [if_pos hfull]
    exact splitRoot_post hT d root ty cnt seed c hS hinl ((mtree_isFull_iff T d root).mp hfull) hle hchain
  · rw [if_neg hfull]
    have : ¬ maxThr T < (MTree.hdr d root).size := fun h => hfull ((mtree_isFull_iff T d root).mpr h)
    exact ⟨_, _, rfl, rootPost_refl hT d root ty cnt seed c hS hinl (by omega) hchain h2⟩

/-- the only child of the root index slab turned into the new root (`promoteChildAsNewRoot`) -/
def enroot : (d : Nat) → MTree r d → SlabID → MTree r d
  | 0, (s : MDataSlab r), rid =>
    ({ s with hdr := { s.hdr with size := s.hdr.size - mapDataSlabPrefixSize + mapRootDataSlabPrefixSize, id := rid },
              root := true } : MDataSlab r)
  | _ + 1, (y : MMetaSlab _), rid => ({ y with hdr := { y.hdr with id := rid }, root := true } : MMetaSlab _)

theorem hdr_enroot : ∀ (d : Nat) (t : MTree r d) (rid : SlabID), (MTree.hdr d (enroot d t rid)).id = rid
  | 0, _, _ => rfl
  | _ + 1, _, _ => rfl

theorem MTree.LeafView.enroot {β : Type} (w : MTree.LeafView r β) :
    ∀ (d : Nat) (t : MTree r d) (rid : SlabID), w.V d (enroot d t rid) = w.V d t
  | 0, (s : MDataSlab r), _ => (w.zero _).trans (w.zero s).symm
  | _ + 1, (x : MMetaSlab _), _ => (w.succ _ _).trans (w.succ _ x).symm

theorem msub_enroot (d : Nat) (t : MTree r d) (rid : SlabID) : msub d (enroot d t rid) = msub d t :=
  msubView.enroot d t rid

theorem ids_enroot (d : Nat) (t : MTree r d) (rid : SlabID) :
    ∀ id ∈ CtxOk.mapSlabIds d (enroot d t rid), id = rid ∨ id ∈ CtxOk.mapSlabIds d t := by
  intro id hid
  rw [mapSlabIds_eq, hdr_enroot, show msubIds d (enroot d t rid) = msubIds d t from msubIdsView.enroot d t rid] at hid
  rw [mapSlabIds_eq]
  exact (List.mem_cons.1 hid).imp_right (List.mem_cons_of_mem _)

theorem promote_eq (d : Nat) (x : MMetaSlab (MTree r d)) (ty cnt seed : Nat) (c : Ctx) {h : MHdr} {child : MTree r d}
    (hh : x.childHdrs = [h]) (hc : x.children = [child]) :
    OMap.promoteIfSingleChild (⟨d + 1, x, ty, cnt, seed⟩ : OMap r) c =
      (⟨d, enroot d child x.hdr.id, ty, cnt, seed⟩, (c.emit (.store x.hdr.id)).emit (.remove h.id)) := by
  cases d with
  | zero => simp only [OMap.promoteIfSingleChild, hh, hc, enroot, MTree.setRoot, MTree.setId]
  | succ d => simp only [OMap.promoteIfSingleChild, hh, hc, enroot, MTree.setRoot, MTree.setId]

/-- `promoteIfSingleChild` by inversion: nothing happens, or the root is an index slab with exactly
    one child, which becomes the root -/
theorem OMap.promote_cases (m : OMap r) (c : Ctx) :
    m.promoteIfSingleChild c = (m, c) ∨
    ∃ (d : Nat) (x : MMetaSlab (MTree r d)) (ty cnt seed : Nat) (h : MHdr) (child : MTree r d),
      m = ⟨d + 1, x, ty, cnt, seed⟩ ∧ x.childHdrs = [h] ∧ x.children = [child] ∧
      m.promoteIfSingleChild c =
        (⟨d, enroot d child x.hdr.id, ty, cnt, seed⟩, (c.emit (.store x.hdr.id)).emit (.remove h.id)) := by
  obtain ⟨d, root, ty, cnt, seed⟩ := m
  cases d with
  | zero => exact Or.inl rfl
  | succ d =>
    obtain ⟨x, rfl⟩ : ∃ x : MMetaSlab (MTree r d), x = root := ⟨root, rfl⟩
    rcases hh : x.childHdrs with _ | ⟨h, _ | ⟨h2, hs⟩⟩
    · exact Or.inl (by simp only [OMap.promoteIfSingleChild, hh])
    · rcases hc : x.children with _ | ⟨child, _ | ⟨b, cs⟩⟩
      · exact Or.inl (by simp only [OMap.promoteIfSingleChild, hh, hc])
      · exact Or.inr ⟨d, x, ty, cnt, seed, h, child, rfl, hh, hc, promote_eq d x ty cnt seed c hh hc⟩
      · exact Or.inl (by simp only [OMap.promoteIfSingleChild, hh, hc])
    · exact Or.inl (by simp only [OMap.promoteIfSingleChild, hh])

theorem promote_id (d : Nat) (x : MMetaSlab (MTree r d)) (ty cnt seed : Nat) (c : Ctx) (h2 : 2 ≤ x.children.length) :
    OMap.promoteIfSingleChild (⟨d + 1, x, ty, cnt, seed⟩ : OMap r) c = (⟨d + 1, x, ty, cnt, seed⟩, c) := by
  rcases OMap.promote_cases (⟨d + 1, x, ty, cnt, seed⟩ : OMap r) c with h | ⟨_, _, _, _, _, _, child, hm, -, hc, -⟩
  · exact h
  · cases hm
    rw [hc] at h2
    exact absurd h2 (Nat.lt_irrefl 1)

/-- facts about the promoted child -/
structure EnrootFacts (T : Nat) (D : DigestFn (r + 1)) (d : Nat) (child : MTree r d) (rid : SlabID) : Prop where
  tree : MTreeInv T D d true (enroot d child rid)
  id : (MTree.hdr d (enroot d child rid)).id = rid
  toList : MTree.toList d (enroot d child rid) = MTree.toList d child
  chain : ∀ nxt, ChainTo (MTree.leaves d child) nxt → ChainTo (MTree.leaves d (enroot d child rid)) nxt
  ids : ∀ id ∈ CtxOk.mapSlabIds d (enroot d child rid), id = rid ∨ id ∈ CtxOk.mapSlabIds d child
  inl : treeInl d (enroot d child rid) = false

theorem enroot_zero (hT : legalThreshold T = true) (s : MDataSlab r) (rid : SlabID) (hs : MDataInv T D false s) :
    EnrootFacts T D 0 s rid := by
  have hl := hs.loose
  have hinl : s.inlined = false := by
    cases hi : s.inlined with
    | false => rfl
    | true => have := hs.inl_root hi; cases this
  have hsz := hl.size_eq
  rw [hl.prefix_nontop] at hsz
  have hle := hs.le_max
  refine ⟨?_, rfl, rfl, ?_, ?_, hinl⟩
  · show MTreeInv T D 0 true (enroot 0 s rid)
    refine (mtreeInv_zero_iff T D true _).mpr ((mdataInv_iff hT true _).mpr ⟨⟨hl.elems_inv, ?_, hl.first_eq, rfl, fun _ => rfl⟩, ?_, fun h => absurd h (by decide)⟩)
    · simp only [enroot, MDataSlab.prefixSize, hinl]
      simp only [Bool.false_eq_true, if_false, if_true]
      rw [hsz]; simp only [mapRootDataSlabPrefixSize, mapDataSlabPrefixSize]; omega
    · show s.hdr.size - mapDataSlabPrefixSize + mapRootDataSlabPrefixSize ≤ maxThr T
      simp only [mapRootDataSlabPrefixSize, mapDataSlabPrefixSize] at *; omega
  · intro nxt h
    show ChainTo [enroot 0 s rid] nxt
    have h' : ChainTo [s] nxt := h
    simp only [ChainTo] at h' ⊢
    exact h'
  · exact ids_enroot 0 s rid

theorem enroot_succ (hT : legalThreshold T = true) {d : Nat} (y : MMetaSlab (MTree r d)) (rid : SlabID)
    (hy : MTreeInv T D (d + 1) false y) (haddr : rid.addr = y.hdr.id.addr) : EnrootFacts T D (d + 1) y rid := by
  obtain ⟨hs, h2, hle⟩ := MTreeInv.two_children hT hy
  refine ⟨?_, rfl, rfl, fun _ h => h, ?_, rfl⟩
  · show MTreeInv T D (d + 1) true (enroot (d + 1) y rid)
    exact (mtreeInv_succ_iff T D d true _).mpr ⟨hs.withId haddr, hle, fun h => absurd h (by decide), fun _ => h2⟩
  · exact ids_enroot (d + 1) y rid

theorem enroot_facts (hT : legalThreshold T = true) : ∀ (d : Nat) (child : MTree r d) (rid : SlabID),
    MTreeInv T D d false child → rid.addr = (MTree.hdr d child).id.addr → EnrootFacts T D d child rid
  | 0, s, rid, hs, _ => enroot_zero hT s rid ((mtreeInv_zero_iff T D _ _).mp hs)
  | _ + 1, y, rid, hy, haddr => enroot_succ hT y rid hy haddr

theorem MTreeInv.le_max : ∀ (d : Nat) (top : Bool) (t : MTree r d), MTreeInv T D d top t →
    (MTree.hdr d t).size ≤ maxThr T
  | 0, _, _, h => ((mtreeInv_zero_iff T D _ _).mp h).le_max
  | _ + 1, _, _, h => ((mtreeInv_succ_iff T D _ _ _).mp h).2.1

theorem root_fixup_succ (hT : legalThreshold T = true) {d : Nat} (x : MMetaSlab (MTree r d)) (ty cnt seed : Nat)
    (c : Ctx) (hS : MetaLoose T D d true x ∧ 1 ≤ x.children.length)
    (hle : x.hdr.size ≤ maxThr T + mapSlabHeaderSize)
    (hchain : ChainTo (MTree.leaves (d + 1) x) SlabID.undef) :
    ∃ m3 c3, OMap.rootFix T (⟨d + 1, x, ty, cnt, seed⟩ : OMap r) c = .ok (m3, c3) ∧
      RootPost T D ⟨d + 1, x, ty, cnt, seed⟩ m3 c c3 := by
  unfold OMap.rootFix
  have hm : MetaLoose T D d true x := hS.1
  have hlen : 1 ≤ x.children.length := hS.2
  rcases hc : x.children with _ | ⟨child, _ | ⟨b, rest⟩⟩
  · rw [hc] at hlen; simp at hlen
  · have hh : x.childHdrs = [MTree.hdr d child] := by rw [hm.2.1, hc]; rfl
    have hcm : child ∈ x.children := by rw [hc]; simp
    have F := enroot_facts hT d child x.hdr.id (hm.kid_inv child hcm) (hm.kid_addr child hcm).symm
    rw [promote_eq d x ty cnt seed c hh hc]
    have hnf : ¬ MTree.isFull T d (enroot d child x.hdr.id) = true := by
      intro h
      have := (mtree_isFull_iff T d _).mp h
      have := MTreeInv.le_max d true _ F.tree
      omega
    simp only [OMap.splitRootIfFull]
    rw [if_neg hnf]
    refine ⟨_, _, rfl, ⟨F.tree, ?_, ?_, ?_, F.id, rfl, rfl, rfl, ?_, ?_⟩⟩
    · rw [mLeafChain_iff]
      apply F.chain
      have : MTree.leaves (d + 1) x = MTree.leaves d child := by
        rw [MTree.leaves_succ, hc]; simp
      rw [← this]; exact hchain
    · show MTree.toList d (enroot d child x.hdr.id) = MTree.toList (d + 1) x
      rw [F.toList, MTree.toList_succ, hc]; simp
    · rw [isInlined_eq]; exact F.inl
    · simp [mctx_emit_ctr]
    · intro id hid
      left
      show id ∈ CtxOk.mapSlabIds (d + 1) x
      rw [mapSlabIds_succ, hc]
      rcases F.ids id hid with h | h
      · rw [h]; exact List.mem_cons_self
      · apply List.mem_cons_of_mem; simpa using h
  · have h2 : 2 ≤ x.children.length := by rw [hc]; simp
    rw [promote_id d x ty cnt seed c h2]
    refine splitRootIfFull_post hT (d + 1) x ty cnt seed c hS rfl hle hchain ?_
    intro d' m hd hheq
    have : d = d' := by omega
    subst this
    cases hheq
    exact h2

/-- the root fix-up performed by `OMap.set` / `OMap.remove` after the tree update -/
theorem root_fixup (hT : legalThreshold T = true) : ∀ (d : Nat) (root : MTree r d) (ty cnt seed : Nat) (c : Ctx),
    SInv T D d true root → treeInl d root = false → (MTree.hdr d root).size ≤ maxThr T + slack1 T d →
    ChainTo (MTree.leaves d root) SlabID.undef →
    ∃ m3 c3, OMap.rootFix T (⟨d, root, ty, cnt, seed⟩ : OMap r) c = .ok (m3, c3) ∧
      RootPost T D ⟨d, root, ty, cnt, seed⟩ m3 c c3
  | 0, s, ty, cnt, seed, c, hS, hinl, hle, hchain =>
    splitRootIfFull_post hT 0 s ty cnt seed c hS hinl hle hchain (fun d' m h => by omega)
  | _ + 1, x, ty, cnt, seed, c, hS, _, hle, hchain => root_fixup_succ hT x ty cnt seed c hS hle hchain

/-! The top level without invariant (`set_ok_iff`, `remove_ok_iff`): a successful `OMap.set` / `OMap.remove` is the descent
    `MTree.set` / `MTree.remove` on the root followed by the root fix-up `rootFix`, which promotes
    the single child of the root or leaves it (`promote_cases`) and then splits a full root
    (`splitRoot_inv`) or leaves it (`splitRootIfFull_cases`). -/

theorem OMap.set_ok_iff {cfg : MCfg} {m m' : OMap r} {k : MKey} {v : Elem} {old : Option Elem} {c c' : Ctx} :
    m.set cfg k v c = .ok (old, m', c') ↔
    ∃ ks root' c1, MTree.set cfg m.d m.root k v c = .ok (ks, old, root', c1) ∧
      OMap.rootFix cfg.T { m with root := root', count := if old.isNone then m.count + 1 else m.count } c1
        = .ok (m', c') := by
  constructor
  · intro h
    unfold OMap.set at h
    obtain ⟨⟨ks, old1, root', c1⟩, hs, h⟩ := bind_eq_ok h
    simp only at h
    obtain ⟨⟨m3, c3⟩, h3, h⟩ := bind_eq_ok h
    simp only [pure, Except.pure, Except.ok.injEq, Prod.mk.injEq] at h
    obtain ⟨rfl, rfl, rfl⟩ := h
    exact ⟨ks, root', c1, hs, h3⟩
  · rintro ⟨ks, root', c1, hs, h3⟩
    unfold OMap.rootFix at h3
    simp only [OMap.set, hs, bind, Except.bind, pure, Except.pure]
    simp only [h3]

theorem OMap.remove_ok_iff {cfg : MCfg} {m m' : OMap r} {k rk : MKey} {rv : Elem} {c c' : Ctx} :
    m.remove cfg k c = .ok (rk, rv, m', c') ↔
    ∃ root' c1, MTree.remove cfg m.d m.root k c = .ok (rk, rv, root', c1) ∧
      OMap.rootFix cfg.T { m with root := root', count := m.count - 1 } c1 = .ok (m', c') := by
  constructor
  · intro h
    unfold OMap.remove at h
    obtain ⟨⟨rk1, rv1, root', c1⟩, hs, h⟩ := bind_eq_ok h
    simp only at h
    obtain ⟨⟨m3, c3⟩, h3, h⟩ := bind_eq_ok h
    simp only [pure, Except.pure, Except.ok.injEq, Prod.mk.injEq] at h
    obtain ⟨rfl, rfl, rfl, rfl⟩ := h
    exact ⟨root', c1, hs, h3⟩
  · rintro ⟨root', c1, hs, h3⟩
    unfold OMap.rootFix at h3
    simp only [OMap.remove, hs, bind, Except.bind, pure, Except.pure]
    simp only [h3]

theorem OMap.splitRootIfFull_cases {T' : Nat} {m m3 : OMap r} {c c3 : Ctx} (h : m.splitRootIfFull T' c = .ok (m3, c3)) :
    m.splitRoot c = .ok (m3, c3) ∨ (m3 = m ∧ c3 = c) := by
  unfold OMap.splitRootIfFull at h
  split at h
  · exact Or.inl h
  · cases h; exact Or.inr ⟨rfl, rfl⟩

theorem OMap.splitRoot_notInl {m m' : OMap r} {c c' : Ctx} (h : m.splitRoot c = .ok (m', c')) :
    m'.isInlined = false := by
  obtain ⟨d, root, ty, cnt, seed⟩ := m
  obtain ⟨l, rr, c2, _, rfl, _⟩ := splitRoot_inv d root ty cnt seed c h
  rfl

/-- the root fix-up of a one-slab map whose result is inlined does nothing (a split root is standalone) -/
theorem OMap.rootFix_inl {T' : Nat} {s : MDataSlab r} {ty cnt seed : Nat} {m' : OMap r} {c c' : Ctx}
    (h : OMap.rootFix T' (⟨0, s, ty, cnt, seed⟩ : OMap r) c = .ok (m', c')) (hinl' : m'.isInlined = true) :
    m' = ⟨0, s, ty, cnt, seed⟩ ∧ c' = c := by
  rcases OMap.splitRootIfFull_cases (show OMap.splitRootIfFull T' (⟨0, s, ty, cnt, seed⟩ : OMap r) c = _ from h) with
    hsp | h
  · rw [OMap.splitRoot_notInl hsp] at hinl'
    cases hinl'
  · exact h

/-- a single-slab root that is not full passes the root fix-up unchanged -/
theorem OMap.rootFix_single {T' : Nat} (t' : MDataSlab r) (ty cnt seed : Nat) (c1 : Ctx)
    (hnf : ¬ MTree.isFull T' 0 t' = true) :
    OMap.rootFix T' (⟨0, t', ty, cnt, seed⟩ : OMap r) c1 = .ok (⟨0, t', ty, cnt, seed⟩, c1) := by
  show OMap.splitRootIfFull T' (⟨0, t', ty, cnt, seed⟩ : OMap r) c1 = _
  simp only [OMap.splitRootIfFull]
  rw [if_neg hnf]

namespace MTree.LeafView
variable {β : Type} (w : MTree.LeafView r β)

/-- the root fix-up keeps every view that is the same view one level down: the root's content is
    only moved to other slabs -/
theorem rootFix (hW : w.W = w.V) {T' : Nat} {m m' : OMap r} {c c' : Ctx} (h : m.rootFix T' c = .ok (m', c')) :
    w.V m'.d m'.root = w.V m.d m.root := by
  unfold OMap.rootFix at h
  have hp : w.V (m.promoteIfSingleChild c).1.d (m.promoteIfSingleChild c).1.root = w.V m.d m.root := by
    rcases OMap.promote_cases m c with h | ⟨d, x, ty, cnt, seed, hd, child, rfl, -, hc, h⟩
    · rw [h]
    · rw [h]
      show w.V d (Atree.enroot d child x.hdr.id) = w.V (d + 1) x
      rw [w.enroot, w.succ, hc, hW, List.flatMap_cons, List.flatMap_nil, List.append_nil]
  generalize m.promoteIfSingleChild c = p at h hp
  obtain ⟨⟨d1, root1, ty, cnt, seed⟩, c1⟩ := p
  rcases OMap.splitRootIfFull_cases h with hsp | ⟨rfl, -⟩
  · obtain ⟨l, rr, c2, hs, rfl, -⟩ := splitRoot_inv d1 root1 ty cnt seed c1 hsp
    show w.V (d1 + 1) (newRootOf d1 _ l rr) = _
    rw [← hp, w.succ, hW]
    show [l, rr].flatMap (w.V d1) = _
    rw [List.flatMap_cons, List.flatMap_cons, List.flatMap_nil, List.append_nil,
      (MTree.split_view w d1 _ _ l rr c2 hs).1, w.deroot]
  · exact hp

end MTree.LeafView

end Atree

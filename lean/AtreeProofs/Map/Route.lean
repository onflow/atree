import AtreeProofs.Map.RepairKit
/-
  Routing by first-level digest (`findChild`) in an index slab.
-/
namespace Atree
open Gen

variable {T : Nat} {r : Nat} {D : DigestFn (r + 1)} {d : Nat}

section Route
variable {top : Bool} {m : MMetaSlab (MTree r d)}

theorem cross_lt (hm : MetaLoose T D d top m) {i j : Nat} {ci cj : MTree r d}
    (hi : m.children[i]? = some ci) (hj : m.children[j]? = some cj) (hij : i < j) :
    ∀ a ∈ MTree.digests0 d ci, ∀ b ∈ MTree.digests0 d cj, a < b := by
  have hs := hm.sorted
  rw [List.pairwise_flatMap] at hs
  have h1 := lt_length_of_getElem? hi
  have h2 := lt_length_of_getElem? hj
  have := (List.pairwise_iff_getElem.mp hs.2) i j h1 h2 hij
  rw [List.getElem?_eq_getElem h1] at hi
  rw [List.getElem?_eq_getElem h2] at hj
  cases hi; cases hj
  exact this

theorem firstKeys_sorted (hT : legalThreshold T = true) (hm : MetaLoose T D d top m) :
    (m.childHdrs.map (·.firstKey)).Pairwise (· < ·) := by
  rw [hm.2.1, List.map_map, List.pairwise_iff_getElem]
  intro i j hi hj hij
  simp only [List.length_map] at hi hj
  simp only [List.getElem_map, Function.comp]
  have hi' : m.children[i]? = some m.children[i] := List.getElem?_eq_getElem hi
  have hj' : m.children[j]? = some m.children[j] := List.getElem?_eq_getElem hj
  have ti := hm.kid_inv _ (List.getElem_mem hi)
  have tj := hm.kid_inv _ (List.getElem_mem hj)
  exact cross_lt hm hi' hj' hij _
    (SInv.firstKey_mem hT (MTreeInv.sinv hT ti) (MTreeInv.digests_ne_nil hT d _ ti)) _
    (SInv.firstKey_mem hT (MTreeInv.sinv hT tj) (MTreeInv.digests_ne_nil hT d _ tj))

/-- result of routing digest `hkey`: the children split as `A ++ child :: B` with all digests of
    `A` below and all digests of `B` above `hkey` -/
structure Routed (d : Nat) (m : MMetaSlab (MTree r d)) (hkey : Nat) (i : Nat) (A : List (MTree r d))
    (child : MTree r d) (B : List (MTree r d)) : Prop where
  ch : m.children = A ++ child :: B
  len : A.length = i
  lo : ∀ a ∈ dgs A, a < hkey
  hi : ∀ b ∈ dgs B, hkey < b

theorem route (hT : legalThreshold T = true) (hm : MetaLoose T D d top m) (hlen : 1 ≤ m.children.length) (hkey : Nat) :
    match MMetaSlab.findChild m.childHdrs hkey 0 m.childHdrs.length none (m.childHdrs.length + 1) with
    | none => (∀ x ∈ dgs m.children, hkey < x) ∧ ∃ child B, Routed d m hkey 0 [] child B
    | some i => ∃ A child B, Routed d m hkey i A child B ∧ (MTree.hdr d child).firstKey ≤ hkey := by
  have hs := firstKeys_sorted hT hm
  have hhl := hm.hdrs_len
  have hgt : ∀ (p : Nat) (c : MTree r d), m.children[p]? = some c → hkey < (MTree.hdr d c).firstKey →
      ∀ x ∈ MTree.digests0 d c, hkey < x := by
    intro p c hp hlt x hx
    have tc := hm.kid_inv c (List.mem_of_getElem? hp)
    have := SInv.firstKey_le hT (MTreeInv.sinv hT tc) x hx
    omega
  have hhd : ∀ (p : Nat) (c : MTree r d), m.children[p]? = some c → m.childHdrs[p]? = some (MTree.hdr d c) := by
    intro p c hp; rw [hm.2.1, List.getElem?_map, hp]; rfl
  obtain ⟨q, hq, hres, hlo, hhi⟩ := MMetaSlab.findChild_spec hs (m.childHdrs.length + 1) 0 m.childHdrs.length none
    (res := MMetaSlab.findChild m.childHdrs hkey 0 m.childHdrs.length none (m.childHdrs.length + 1))
    (Nat.zero_le _) (Nat.le_refl _) (by omega) (by intro p h hp; omega)
    (by intro p h hp hph; have := lt_length_of_getElem? hph; omega) rfl rfl
  cases hr : MMetaSlab.findChild m.childHdrs hkey 0 m.childHdrs.length none (m.childHdrs.length + 1) with
  | none =>
    rw [hr] at hres
    simp only at hres ⊢
    subst hres
    have hall : ∀ x ∈ dgs m.children, hkey < x := by
      intro x hx
      obtain ⟨c, hc, hxc⟩ := List.mem_flatMap.mp hx
      obtain ⟨p, hp⟩ := List.mem_iff_getElem?.mp hc
      exact hgt p c hp (hhi p _ (Nat.zero_le _) (hhd p c hp)) x hxc
    refine ⟨hall, ?_⟩
    cases hc : m.children with
    | nil => rw [hc] at hlen; simp at hlen
    | cons c0 B =>
      refine ⟨c0, B, by simpa using hc, rfl, by intro a ha; simp [dgs] at ha, ?_⟩
      intro b hb
      apply hall b
      rw [hc]; simp only [dgs, List.flatMap_cons]; exact List.mem_append_right _ hb
  | some i =>
    rw [hr] at hres
    simp only at hres ⊢
    have hi : i < m.children.length := by omega
    have hci : m.children[i]? = some m.children[i] := List.getElem?_eq_getElem hi
    obtain ⟨A, B, hAB, hAl⟩ := split_at hci
    refine ⟨A, m.children[i], B, ⟨hAB, hAl, ?_, ?_⟩, hlo i _ (by omega) (hhd i _ hci)⟩
    · intro a ha
      obtain ⟨c, hc, hac⟩ := List.mem_flatMap.mp ha
      obtain ⟨p, hp⟩ := List.mem_iff_getElem?.mp hc
      have hpl := lt_length_of_getElem? hp
      have hp' : m.children[p]? = some c := by
        rw [hAB, List.getElem?_append_left hpl]; exact hp
      have ti := hm.kid_inv _ (List.getElem_mem hi)
      have hfk := SInv.firstKey_mem hT (MTreeInv.sinv hT ti) (MTreeInv.digests_ne_nil hT d _ ti)
      have := cross_lt hm hp' hci (by omega) a hac _ hfk
      have := hlo i _ (by omega) (hhd i _ hci)
      omega
    · intro b hb
      obtain ⟨c, hc, hbc⟩ := List.mem_flatMap.mp hb
      obtain ⟨p, hp⟩ := List.mem_iff_getElem?.mp hc
      have hp' : m.children[A.length + 1 + p]? = some c := by
        rw [hAB]
        rw [List.getElem?_append_right (by omega)]
        have : A.length + 1 + p - A.length = p + 1 := by omega
        rw [this]; simpa using hp
      exact hgt _ c hp' (hhi _ _ (by omega) (hhd _ c hp')) b hbc

/-- the index `MTree.set` descends at (`findChild` started with the default `some 0`: a digest below
    every first key goes to the first child) routes the digest -/
theorem route_set (hT : legalThreshold T = true) (hm : MetaLoose T D d top m) (hlen : 1 ≤ m.children.length)
    (hkey : Nat) : ∃ A child B, Routed d m hkey
      ((MMetaSlab.findChild m.childHdrs hkey 0 m.childHdrs.length (some 0) (m.childHdrs.length + 1)).getD 0)
      A child B := by
  have hroute := route hT hm hlen hkey
  rw [MMetaSlab.findChild_some0, Option.getD_some]
  cases hr : MMetaSlab.findChild m.childHdrs hkey 0 m.childHdrs.length none (m.childHdrs.length + 1) with
  | none =>
    rw [hr] at hroute
    obtain ⟨_, child, B, hrt⟩ := hroute
    exact ⟨[], child, B, hrt⟩
  | some i =>
    rw [hr] at hroute
    obtain ⟨A, child, B, hrt, _⟩ := hroute
    exact ⟨A, child, B, hrt⟩

end Route
end Atree

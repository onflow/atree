import AtreeProofs.Map.Basics
/-
  The three binary searches, on strictly increasing tables; `findChild` with and without a default.
-/
namespace Atree
open Gen

namespace HkeyElems

theorem getD_of_get {l : List Nat} {i a : Nat} (h : l[i]? = some a) : l.getD i 0 = a := by
  rw [List.getD_eq_getElem?_getD, h]; rfl

/-- the midpoint of a nonempty range lies in it (later steps need no division) -/
theorem mid_bounds {i j : Nat} (h : i < j) : i ≤ (i + j) / 2 ∧ (i + j) / 2 < j := by omega

theorem findEqLt_succ (hkeys : List Nat) (hkey i j lt fuel : Nat) :
    findEqLt hkeys hkey i j lt (fuel + 1) =
      if i < j then
        if hkeys.getD ((i + j) / 2) 0 > hkey then findEqLt hkeys hkey i ((i + j) / 2) ((i + j) / 2) fuel
        else if hkeys.getD ((i + j) / 2) 0 < hkey then findEqLt hkeys hkey ((i + j) / 2 + 1) j lt fuel
        else (some ((i + j) / 2), lt)
      else (none, lt) := rfl

theorem findEqLt_some {hkeys : List Nat} {hkey : Nat} : ∀ (fuel i j lt : Nat) {h lt' : Nat}, j ≤ hkeys.length →
    findEqLt hkeys hkey i j lt fuel = (some h, lt') → hkeys[h]? = some hkey
  | 0, _, _, _, _, _, _, hr => by simp [findEqLt] at hr
  | fuel + 1, i, j, lt, h, lt', hj, hr => by
    rw [findEqLt_succ] at hr
    by_cases hij : i < j
    · rw [if_pos hij] at hr
      obtain ⟨-, hm⟩ := mid_bounds hij
      by_cases hgt : hkeys.getD ((i + j) / 2) 0 > hkey
      · rw [if_pos hgt] at hr
        exact findEqLt_some fuel _ _ _ (Nat.le_trans (Nat.le_of_lt hm) hj) hr
      · rw [if_neg hgt] at hr
        by_cases hlt : hkeys.getD ((i + j) / 2) 0 < hkey
        · rw [if_pos hlt] at hr
          exact findEqLt_some fuel _ _ _ hj hr
        · rw [if_neg hlt] at hr
          cases hr
          rw [getD_getElem? _ _ 0 (Nat.lt_of_lt_of_le hm hj)]
          exact congrArg some (Nat.le_antisymm (Nat.le_of_not_gt hgt) (Nat.le_of_not_gt hlt))
    · rw [if_neg hij] at hr; cases hr

/-- when the search fails, the returned `lt` is the insertion point (unless nothing larger than
    `hkey` was ever seen, in which case the whole table is smaller than `hkey`) -/
theorem findEqLt_none {hkeys : List Nat} {hkey : Nat} (hs : hkeys.Pairwise (· < ·)) :
    ∀ (fuel i j lt : Nat) {lt' : Nat}, i ≤ j → j ≤ hkeys.length → j - i < fuel →
    (∀ p a, p < i → hkeys[p]? = some a → a < hkey) →
    (∀ p a, j ≤ p → hkeys[p]? = some a → hkey < a) →
    (lt = j ∨ j = hkeys.length) →
    findEqLt hkeys hkey i j lt fuel = (none, lt') →
    ∃ q, q ≤ hkeys.length ∧ (lt' = q ∨ q = hkeys.length) ∧
      (∀ p a, p < q → hkeys[p]? = some a → a < hkey) ∧
      (∀ p a, q ≤ p → hkeys[p]? = some a → hkey < a)
  | 0, _, _, _, _, _, _, hf, _, _, _, _ => by omega
  | fuel + 1, i, j, lt, lt', hij, hj, hf, hlo, hhi, hlt, hr => by
    rw [findEqLt_succ] at hr
    by_cases hij' : i < j
    · rw [if_pos hij'] at hr
      obtain ⟨hm1, hm2⟩ := mid_bounds hij'
      have hh := getD_getElem? _ _ 0 (Nat.lt_of_lt_of_le hm2 hj)
      generalize (i + j) / 2 = h at hm1 hm2 hh hr
      by_cases hgt : hkeys.getD h 0 > hkey
      · rw [if_pos hgt] at hr
        refine findEqLt_none hs fuel _ _ _ hm1 (by omega) (by omega) hlo ?_ (Or.inl rfl) hr
        intro p a hp hpa
        rcases Nat.eq_or_lt_of_le hp with h2 | h2
        · rw [← h2] at hpa; rw [hpa] at hh; cases hh; exact hgt
        · exact Nat.lt_trans hgt (sorted_get_lt hs hh hpa h2)
      · rw [if_neg hgt] at hr
        by_cases hlt' : hkeys.getD h 0 < hkey
        · rw [if_pos hlt'] at hr
          refine findEqLt_none hs fuel _ _ _ hm2 hj (by omega) ?_ hhi hlt hr
          intro p a hp hpa
          rcases Nat.eq_or_lt_of_le (Nat.le_of_lt_succ hp) with h2 | h2
          · rw [h2] at hpa; rw [hpa] at hh; cases hh; exact hlt'
          · exact Nat.lt_trans (sorted_get_lt hs hpa hh h2) hlt'
        · rw [if_neg hlt'] at hr; cases hr
    · rw [if_neg hij'] at hr
      have : i = j := by omega
      subst this
      cases hr
      exact ⟨i, hj, by omega, hlo, hhi⟩

theorem findEq_eq_fst (hkeys : List Nat) (hkey : Nat) : ∀ (fuel i j lt : Nat),
    findEq hkeys hkey i j fuel = (findEqLt hkeys hkey i j lt fuel).1
  | 0, _, _, _ => rfl
  | fuel + 1, i, j, lt => by
    simp only [findEq, findEqLt]
    split
    · split
      · exact findEq_eq_fst hkeys hkey fuel _ _ _
      · split
        · exact findEq_eq_fst hkeys hkey fuel _ _ _
        · rfl
    · rfl

theorem findEq_some {hkeys : List Nat} {hkey : Nat} (fuel i j : Nat) {h : Nat} (hj : j ≤ hkeys.length)
    (hr : findEq hkeys hkey i j fuel = some h) : hkeys[h]? = some hkey :=
  findEqLt_some fuel i j 0 hj (Prod.ext ((findEq_eq_fst hkeys hkey fuel i j 0).symm.trans hr) rfl)

theorem findEq_spec {hkeys : List Nat} (hkey : Nat) (hs : hkeys.Pairwise (· < ·)) :
    match findEq hkeys hkey 0 hkeys.length (hkeys.length + 1) with
    | some h => hkeys[h]? = some hkey
    | none => ∀ p : Nat, hkeys[p]? ≠ some hkey := by
  split
  · rename_i h hr; exact findEq_some _ _ _ (Nat.le_refl _) hr
  · rename_i hr
    rw [findEq_eq_fst hkeys hkey _ _ _ 0] at hr
    obtain ⟨q, -, -, hlo, hhi⟩ := findEqLt_none hs (hkeys.length + 1) 0 hkeys.length 0 (Nat.zero_le _) (Nat.le_refl _)
      (Nat.lt_succ_self _) (fun p a hp => absurd hp (Nat.not_lt_zero p))
      (fun p a hp hpa => absurd (lt_length_of_getElem? hpa) (Nat.not_lt_of_le hp)) (Or.inr rfl)
      (Prod.ext hr rfl)
    intro p hp
    rcases Nat.lt_or_ge p q with h | h
    · exact Nat.lt_irrefl _ (hlo p _ h hp)
    · exact Nat.lt_irrefl _ (hhi p _ h hp)

end HkeyElems

namespace MMetaSlab

theorem findChild_succ (hdrs : List MHdr) (hkey i j : Nat) (ans : Option Nat) (fuel : Nat) :
    findChild hdrs hkey i j ans (fuel + 1) =
      if i < j then
        if (hdrs.getD ((i + j) / 2) default).firstKey > hkey then findChild hdrs hkey i ((i + j) / 2) ans fuel
        else findChild hdrs hkey ((i + j) / 2 + 1) j (some ((i + j) / 2)) fuel
      else ans := rfl

/-- `findChild`: the last index whose first key is `≤ hkey` -/
theorem findChild_spec {hdrs : List MHdr} {hkey : Nat} (hs : (hdrs.map (·.firstKey)).Pairwise (· < ·)) :
    ∀ (fuel i j : Nat) (ans : Option Nat) {res : Option Nat}, i ≤ j → j ≤ hdrs.length → j - i < fuel →
    (∀ p h, p < i → hdrs[p]? = some h → h.firstKey ≤ hkey) →
    (∀ p h, j ≤ p → hdrs[p]? = some h → hkey < h.firstKey) →
    (match ans with | some a => a + 1 = i | none => i = 0) →
    findChild hdrs hkey i j ans fuel = res →
    ∃ q, q ≤ hdrs.length ∧ (match res with | some a => a + 1 = q | none => q = 0) ∧
      (∀ p h, p < q → hdrs[p]? = some h → h.firstKey ≤ hkey) ∧
      (∀ p h, q ≤ p → hdrs[p]? = some h → hkey < h.firstKey)
  | 0, _, _, _, _, _, _, hf, _, _, _, _ => by omega
  | fuel + 1, i, j, ans, res, hij, hj, hf, hlo, hhi, hans, hr => by
    rw [findChild_succ] at hr
    by_cases hij' : i < j
    · rw [if_pos hij'] at hr
      obtain ⟨hm1, hm2⟩ := HkeyElems.mid_bounds hij'
      have hlen : (i + j) / 2 < hdrs.length := Nat.lt_of_lt_of_le hm2 hj
      have hh : hdrs[(i + j) / 2]? = some (hdrs.getD ((i + j) / 2) default) := by
        rw [List.getD_eq_getElem?_getD, List.getElem?_eq_getElem hlen]; rfl
      generalize (i + j) / 2 = h at hm1 hm2 hh hr
      have hmono : ∀ (p q : Nat) (a b : MHdr), hdrs[p]? = some a → hdrs[q]? = some b → p < q → a.firstKey < b.firstKey := by
        intro p q a b hp hq hpq
        refine sorted_get_lt hs (i := p) (j := q) ?_ ?_ hpq
        · rw [List.getElem?_map, hp]; rfl
        · rw [List.getElem?_map, hq]; rfl
      by_cases hgt : (hdrs.getD h default).firstKey > hkey
      · rw [if_pos hgt] at hr
        refine findChild_spec hs fuel _ _ _ hm1 (by omega) (by omega) hlo ?_ hans hr
        intro p a hp hpa
        rcases Nat.eq_or_lt_of_le hp with h2 | h2
        · rw [← h2] at hpa; rw [hpa] at hh; cases hh; exact hgt
        · exact Nat.lt_trans hgt (hmono _ _ _ _ hh hpa h2)
      · rw [if_neg hgt] at hr
        refine findChild_spec hs fuel _ _ _ hm2 hj (by omega) ?_ hhi rfl hr
        intro p a hp hpa
        rcases Nat.eq_or_lt_of_le (Nat.le_of_lt_succ hp) with h2 | h2
        · rw [h2] at hpa; rw [hpa] at hh; cases hh; exact Nat.le_of_not_gt hgt
        · exact Nat.le_trans (Nat.le_of_lt (hmono _ _ _ _ hpa hh h2)) (Nat.le_of_not_gt hgt)
    · rw [if_neg hij'] at hr
      have : i = j := by omega
      subst this
      subst hr
      exact ⟨i, hj, hans, hlo, hhi⟩

theorem findChild_isSome (hdrs : List MHdr) (hkey : Nat) : ∀ (fuel i j a : Nat),
    (findChild hdrs hkey i j (some a) fuel).isSome = true
  | 0, _, _, _ => rfl
  | fuel + 1, i, j, a => by
    simp only [findChild]
    split
    · split
      · exact findChild_isSome hdrs hkey fuel _ _ _
      · exact findChild_isSome hdrs hkey fuel _ _ _
    · rfl

theorem findChild_some0 (hdrs : List MHdr) (hkey : Nat) : ∀ (fuel i j a : Nat),
    findChild hdrs hkey i j (some a) fuel = some ((findChild hdrs hkey i j none fuel).getD a)
  | 0, _, _, _ => rfl
  | fuel + 1, i, j, a => by
    simp only [findChild]
    split
    · split
      · exact findChild_some0 hdrs hkey fuel _ _ _
      · have := findChild_isSome hdrs hkey fuel ((i + j) / 2 + 1) j ((i + j) / 2)
        cases h : findChild hdrs hkey ((i + j) / 2 + 1) j (some ((i + j) / 2)) fuel with
        | none => rw [h] at this; cases this
        | some y => rfl
    · rfl

/-- the search returns the answer it was started with or a position of the range -/
theorem findChild_lt (hdrs : List MHdr) (hkey : Nat) : ∀ (fuel i j : Nat) (a : Option Nat) (n : Nat),
    findChild hdrs hkey i j a fuel = some n → a = some n ∨ (i ≤ n ∧ n < j)
  | 0, _, _, _, _, h => Or.inl h
  | fuel + 1, i, j, a, n, h => by
    simp only [findChild] at h
    split at h
    · split at h
      · rcases findChild_lt hdrs hkey fuel _ _ _ _ h with h' | h'
        · exact Or.inl h'
        · exact Or.inr (by omega)
      · rcases findChild_lt hdrs hkey fuel _ _ _ _ h with h' | h'
        · injection h' with h'; exact Or.inr (by omega)
        · exact Or.inr (by omega)
    · exact Or.inl h

end MMetaSlab
end Atree

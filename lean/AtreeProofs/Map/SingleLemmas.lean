import AtreeProofs.Map.ElemsSpec
/-
  `SingleElems.ops` (the insertion-ordered list at the last digest level) satisfies `OpsSpec`, and
  `SetSpecR` (its `set` accepts every `ValueOkR` value, references included).
-/
namespace Atree
open Gen

namespace SingleElems
variable {T L : Nat} {D : DigestFn L} {cfg : MCfg}

def pairOf (x : SElem) : MKey × Elem := (x.key, x.val)

theorem toList_eq (e : SingleElems) : SingleElems.ops.toList e = e.elems.map pairOf := rfl

theorem inv_iff (ℓ : Nat) (path : List Nat) (e : SingleElems) :
    ElemsInv T L D 0 ℓ path e ↔
    (ℓ = L ∧ e.level = ℓ ∧ e.size = singleElementsPrefixSize + (e.elems.map (·.size)).sum ∧
      (∀ x ∈ e.elems, SElemOk T L D x ∧ x.key.digs.take ℓ = path) ∧ KeysDistinct (e.elems.map pairOf)) := by
  simp only [ElemsInv]; rfl

section
variable {ℓ : Nat} {path : List Nat} {e : SingleElems} (h : ElemsInv T L D 0 ℓ path e)
include h

theorem inv_last : ℓ = L := ((inv_iff ℓ path e).mp h).1
theorem inv_level : e.level = ℓ := ((inv_iff ℓ path e).mp h).2.1
theorem inv_size : e.size = singleElementsPrefixSize + (e.elems.map (·.size)).sum := ((inv_iff ℓ path e).mp h).2.2.1
theorem inv_elemOk : ∀ x ∈ e.elems, SElemOk T L D x ∧ x.key.digs.take ℓ = path := ((inv_iff ℓ path e).mp h).2.2.2.1
theorem inv_distinct : KeysDistinct (e.elems.map pairOf) := ((inv_iff ℓ path e).mp h).2.2.2.2
end

/-- decomposition at the element holding key `k` -/
theorem split_of_mem {e : SingleElems} {ℓ : Nat} {path : List Nat} (h : ElemsInv T L D 0 ℓ path e)
    {k : MKey} {v : Elem} (hm : (k, v) ∈ e.elems.map pairOf) :
    ∃ A x B, e.elems = A ++ x :: B ∧ x.key = k ∧ x.val = v ∧ (∀ a ∈ A, a.key.same k = false) ∧
      (∀ b ∈ B, b.key.same k = false) := by
  rw [inv_iff] at h
  obtain ⟨_, _, _, _, hd⟩ := h
  obtain ⟨x, hx, hxe⟩ := List.mem_map.mp hm
  obtain ⟨A, B, hAB⟩ := List.append_of_mem hx
  simp only [pairOf, Prod.mk.injEq] at hxe
  rw [hAB, List.map_append, List.map_cons, KeysDistinct.append_iff, KeysDistinct.cons_iff] at hd
  refine ⟨A, x, B, hAB, hxe.1, hxe.2, ?_, ?_⟩
  · intro a ha
    have := hd.2.2 (pairOf a) (List.mem_map_of_mem ha) (pairOf x) List.mem_cons_self
    rw [← hxe.1]; exact this
  · intro b hb
    have := hd.2.1.1 (pairOf b) (List.mem_map_of_mem hb)
    rw [MKey.same_comm, ← hxe.1]; exact this

theorem absent {e : SingleElems} {ℓ : Nat} {path : List Nat} (h : ElemsInv T L D 0 ℓ path e)
    {k : MKey} (hk : KeyOk T L D k) (hne : ∀ p ∈ e.elems.map pairOf, p.1 ≠ k) :
    ∀ x ∈ e.elems, x.key.same k = false := by
  intro x hx
  rw [KeyOk.same_false_iff (inv_elemOk h x hx).1.1 hk]
  exact hne (pairOf x) (List.mem_map_of_mem hx)

theorem get_spec (hc : CfgFor cfg T L) {e : SingleElems} {ℓ : Nat} {path : List Nat}
    (h : ElemsInv T L D 0 ℓ path e) {k : MKey} (hk : KeyOk T L D k) :
    (∀ v, (k, v) ∈ e.elems.map pairOf → SingleElems.get cfg e ℓ k = .ok (k, v)) ∧
    ((∀ p ∈ e.elems.map pairOf, p.1 ≠ k) → SingleElems.get cfg e ℓ k = .error .keyNotFound) := by
  have hℓ : (ℓ ≠ cfg.L) ↔ False := by rw [hc.hL]; simp [inv_last h]
  constructor
  · intro v hm
    obtain ⟨A, x, B, hAB, hxk, hxv, hA, hB⟩ := split_of_mem h hm
    have hf : e.elems.find? (fun x => x.key.same k) = some x := by
      rw [hAB]; exact find?_at hA (by rw [hxk]; exact MKey.same_self k)
    simp only [SingleElems.get, hℓ, if_false, hf, hxk, hxv]
  · intro hne
    have hf : e.elems.find? (fun x => x.key.same k) = none := by
      rw [List.find?_eq_none]; intro x hx; simp [absent h hk hne x hx]
    simp only [SingleElems.get, hℓ, if_false, hf]

theorem allKeyOk {e : SingleElems} {ℓ : Nat} {path : List Nat} (h : ElemsInv T L D 0 ℓ path e) :
    AllKeyOk T L D (e.elems.map pairOf) := by
  intro p hp
  obtain ⟨x, hx, rfl⟩ := List.mem_map.mp hp
  exact (inv_elemOk h x hx).1.1

theorem set_spec_ref (hT : legalThreshold T = true) (hc : CfgFor cfg T L) {e : SingleElems} {ℓ : Nat} {path : List Nat}
    (h : ElemsInv T L D 0 ℓ path e) {k : MKey} (hk : KeyOk T L D k) (hp : k.digs.take ℓ = path)
    {v : Elem} (hv : ValueOkR T k.size v) (c : Ctx) :
    ∃ old e' c', SingleElems.set cfg e ℓ k v c = .ok (k, old, e', c') ∧ ElemsInv T L D 0 ℓ path e' ∧
      SetEffect (e.elems.map pairOf) (e'.elems.map pairOf) k (storedValue cfg k v c) old ∧ c.ctr ≤ c'.ctr := by
  have hℓ : (ℓ ≠ cfg.L) ↔ False := by rw [hc.hL]; simp [inv_last h]
  have hcT := hc.hT
  rcases hts : toStorableLim (maxInlineMapValue cfg.T k.size) cfg.addr v c with ⟨vs, c1⟩
  have hsv : storedValue cfg k v c = vs := by simp [storedValue, hts]
  have hspec := toStorableLim_specR (T := cfg.T) (ks := k.size) (addr := cfg.addr) c (by rw [hcT]; exact hv)
    (by rw [hcT]; exact maxInlineMapValue_ge hT hk.2.2)
  rw [hts, hcT] at hspec
  rw [hsv]
  have hall := allKeyOk h
  by_cases hex : ∃ v0, (k, v0) ∈ e.elems.map pairOf
  · obtain ⟨v0, hm⟩ := hex
    obtain ⟨A, x, B, hAB, hxk, hxv, hA, hB⟩ := split_of_mem h hm
    have hf : e.elems.findIdx? (fun x => x.key.same k) = some A.length := by
      rw [hAB]; exact findIdx?_at hA (by rw [hxk]; exact MKey.same_self k)
    have hg : e.elems[A.length]? = some x := by rw [hAB]; exact get_at rfl
    subst hxk
    have heff : SetEffect (e.elems.map pairOf) ((A ++ { x with val := vs, size := singleElementPrefixSize + x.key.size + vs.size } :: B).map pairOf)
        x.key vs (some x.val) := by
      right
      refine ⟨x.val, A.map pairOf, B.map pairOf, rfl, ?_, ?_⟩
      · rw [hAB]; simp [pairOf]
      · simp [pairOf]
    simp only [SingleElems.set, hℓ, if_false, hf, hg, hts]
    refine ⟨_, _, _, rfl, ?_, ?_, hspec.2.2⟩
    · rw [inv_iff]
      simp only
      rw [hAB, set_at rfl]
      refine ⟨inv_last h, inv_level h, trivial, ?_, ?_⟩
      · intro y hy
        rcases List.mem_append.mp hy with hy | hy
        · exact inv_elemOk h y (by rw [hAB]; exact List.mem_append_left _ hy)
        · rcases List.mem_cons.mp hy with rfl | hy
          · have hx := inv_elemOk h x (by rw [hAB]; simp)
            exact ⟨⟨hx.1.1, hspec.1, hspec.2.1, rfl⟩, hx.2⟩
          · exact inv_elemOk h y (by rw [hAB]; simp [hy])
      · exact (SetEffect.spec hall (inv_distinct h) hk heff).2.2.1
    · simp only
      rw [hAB, set_at rfl, ← hAB]
      rw [hxv]; rw [hxv] at heff; exact heff
  · have hne : ∀ p ∈ e.elems.map pairOf, p.1 ≠ k := by
      intro p hp hpk
      exact hex ⟨p.2, by rw [← hpk]; exact hp⟩
    have hf : e.elems.findIdx? (fun x => x.key.same k) = none := by
      rw [List.findIdx?_eq_none_iff]; intro x hx; simp [absent h hk hne x hx]
    have heff : SetEffect (e.elems.map pairOf) ((e.elems ++ [({ key := k, val := vs, size := singleElementPrefixSize + k.size + vs.size } : SElem)]).map pairOf)
        k vs none := by
      left
      refine ⟨rfl, hne, e.elems.map pairOf, [], by simp, by simp [pairOf]⟩
    simp only [SingleElems.set, hℓ, if_false, hf, newSingleElement, hts]
    refine ⟨_, _, _, rfl, ?_, heff, hspec.2.2⟩
    rw [inv_iff]
    simp only
    refine ⟨inv_last h, inv_level h, ?_, ?_, ?_⟩
    · rw [inv_size h]; simp [List.sum_append]; omega
    · intro y hy
      rcases List.mem_append.mp hy with hy | hy
      · exact inv_elemOk h y hy
      · simp only [List.mem_singleton] at hy
        subst hy
        exact ⟨⟨hk, hspec.1, hspec.2.1, rfl⟩, hp⟩
    · exact (SetEffect.spec hall (inv_distinct h) hk heff).2.2.1

theorem set_spec (hT : legalThreshold T = true) (hc : CfgFor cfg T L) {e : SingleElems} {ℓ : Nat} {path : List Nat}
    (h : ElemsInv T L D 0 ℓ path e) {k : MKey} (hk : KeyOk T L D k) (hp : k.digs.take ℓ = path)
    {v : Elem} (hv : ValueOkM v) (c : Ctx) :
    ∃ old e' c', SingleElems.set cfg e ℓ k v c = .ok (k, old, e', c') ∧ ElemsInv T L D 0 ℓ path e' ∧
      SetEffect (e.elems.map pairOf) (e'.elems.map pairOf) k (storedValue cfg k v c) old ∧ c.ctr ≤ c'.ctr :=
  set_spec_ref hT hc h hk hp (hv.okR T k.size) c

theorem remove_spec (hc : CfgFor cfg T L) {e : SingleElems} {ℓ : Nat} {path : List Nat}
    (h : ElemsInv T L D 0 ℓ path e) {k : MKey} (hk : KeyOk T L D k) (c : Ctx) :
    ((∀ p ∈ e.elems.map pairOf, p.1 ≠ k) → SingleElems.remove cfg e ℓ k c = .error .keyNotFound) ∧
    (∀ v, (k, v) ∈ e.elems.map pairOf → ∃ e' c', SingleElems.remove cfg e ℓ k c = .ok (k, v, e', c') ∧
      ElemsInv T L D 0 ℓ path e' ∧ RemEffect (e.elems.map pairOf) (e'.elems.map pairOf) k v ∧
      e'.size ≤ e.size ∧ c'.ctr = c.ctr) := by
  have hℓ : (ℓ ≠ cfg.L) ↔ False := by rw [hc.hL]; simp [inv_last h]
  have hall := allKeyOk h
  constructor
  · intro hne
    have hf : e.elems.findIdx? (fun x => x.key.same k) = none := by
      rw [List.findIdx?_eq_none_iff]; intro x hx; simp [absent h hk hne x hx]
    simp only [SingleElems.remove, hℓ, if_false, hf]
  · intro v hm
    obtain ⟨A, x, B, hAB, hxk, hxv, hA, hB⟩ := split_of_mem h hm
    have hf : e.elems.findIdx? (fun x => x.key.same k) = some A.length := by
      rw [hAB]; exact findIdx?_at hA (by rw [hxk]; exact MKey.same_self k)
    have hg : e.elems[A.length]? = some x := by rw [hAB]; exact get_at rfl
    subst hxk hxv
    have heff : RemEffect (e.elems.map pairOf) ((A ++ B).map pairOf) x.key x.val :=
      ⟨A.map pairOf, B.map pairOf, by rw [hAB]; simp [pairOf], by simp⟩
    simp only [SingleElems.remove, hℓ, if_false, hf, hg]
    refine ⟨_, _, rfl, ?_, ?_, ?_, rfl⟩
    · rw [inv_iff]
      simp only
      rw [hAB, erase_at rfl]
      refine ⟨inv_last h, inv_level h, ?_, ?_, ?_⟩
      · rw [inv_size h, hAB]; simp [List.sum_append]; omega
      · intro y hy
        exact inv_elemOk h y (by rw [hAB]; rcases List.mem_append.mp hy with hy | hy <;> simp [hy])
      · exact (RemEffect.spec hall (inv_distinct h) hk heff).2.2.1
    · simp only; rw [hAB, erase_at rfl, ← hAB]; exact heff
    · simp only; omega

theorem opsStruct : OpsStruct T L D SingleElems.ops (ElemsInv T L D 0) 0 where
  level_eq := by
    intro ℓ path e h; have := inv_last h; omega
  keys := by
    intro ℓ path e h p hp
    obtain ⟨x, hx, rfl⟩ := List.mem_map.mp hp
    have := inv_elemOk h x hx
    exact ⟨this.1.1, this.2⟩
  distinct := by
    intro ℓ path e h; exact inv_distinct h
  ordered := by
    intro ℓ path e h
    show ((e.elems.map pairOf).map _).Pairwise _
    rw [List.map_map, List.pairwise_map]
    apply List.Pairwise.imp_of_mem (R := fun _ _ => True)
    · intro a b ha hb _
      left
      have h1 := inv_elemOk h a ha
      have h2 := inv_elemOk h b hb
      have l1 := h1.1.1.digs_length
      have l2 := h2.1.1.digs_length
      simp only [Function.comp, pairOf]
      rw [← List.take_of_length_le (Nat.le_of_eq l1), ← List.take_of_length_le (Nat.le_of_eq l2),
        ← inv_last h, h1.2, h2.2]
    · exact List.pairwise_of_forall (fun _ _ => trivial)
  count_pos := by
    intro ℓ path e h
    show 1 ≤ e.elems.length ↔ e.elems.map pairOf ≠ []
    cases e.elems <;> simp
  two_keys := by
    intro ℓ path e h h1 h2
    show 2 ≤ (e.elems.map pairOf).length
    have h2' : (match e.elems with | [x] => some x | _ => none) = none := h2
    have h1' : 1 ≤ e.elems.length := h1
    rcases he : e.elems with _ | ⟨x, _ | ⟨y, r⟩⟩
    · rw [he] at h1'; simp at h1'
    · rw [he] at h2'; simp at h2'
    · simp
  sole := by
    intro ℓ path e x h hs
    have hs' : (match e.elems with | [x] => some x | _ => none) = some x := hs
    rcases he : e.elems with _ | ⟨y, _ | ⟨z, r⟩⟩
    · rw [he] at hs'; simp at hs'
    · rw [he] at hs'; simp at hs'; subst hs'
      refine ⟨(inv_elemOk h y (by rw [he]; simp)).1, ?_, ?_⟩
      · show e.elems.map pairOf = _; rw [he]; rfl
      · show y.size ≤ e.size; rw [inv_size h, he]; simp
    · rw [he] at hs'; simp at hs'
  popIter := by
    intro e c
    show e.elems.reverse.map _ = (e.elems.map _).reverse
    rw [List.map_reverse]

theorem opsSpec (hT : legalThreshold T = true) (hc : CfgFor cfg T L) :
    OpsSpec T L D cfg SingleElems.ops (ElemsInv T L D 0) 0 where
  toOpsStruct := opsStruct
  newWith := by
    intro ℓ path x hℓ hx hp
    have hℓ' : ℓ = cfg.L := by rw [hc.hL]; omega
    refine ⟨{ level := ℓ, size := singleElementsPrefixSize + x.size, elems := [x] }, ?_, ?_, rfl⟩
    · show (if ℓ ≠ cfg.L then _ else _) = _
      simp [hℓ']
    · rw [inv_iff]
      refine ⟨by omega, rfl, by simp, ?_, by simp [KeysDistinct]⟩
      intro y hy; simp at hy; subst hy; exact ⟨hx, hp⟩
  get := by
    intro ℓ path e k h hk _
    exact get_spec hc h hk
  set := by
    intro ℓ path e k v c h _ hk hp hv
    exact set_spec hT hc h hk hp hv c
  remove := by
    intro ℓ path e k c h _ hk _
    exact remove_spec hc h hk c

theorem setSpecR (hT : legalThreshold T = true) (hc : CfgFor cfg T L) :
    SetSpecR T L D cfg SingleElems.ops (ElemsInv T L D 0) :=
  ⟨fun hk hv _ _ _ c h _ hp => set_spec_ref hT hc h hk hp hv c⟩

end SingleElems
end Atree

import AtreeProofs.Map.DataSlab
/-
  Structural consequences of `MTreeInv` (no operations): keys, routing digests, order, distinctness.
-/
namespace Atree
open Gen

variable {T : Nat} {r : Nat} {D : DigestFn (r + 1)}

namespace MDataLoose
variable {top : Bool} {s : MDataSlab r}

theorem pairs_ok (h : MDataLoose T D top s) :
    ∀ p ∈ s.pairs, KeyOk T (r + 1) D p.1 ∧ p.1.dig 0 ∈ s.elems.hkeys := by
  intro p hp
  have H := h.hinv
  obtain ⟨i, hk, el, hi, hel, hpel⟩ := H.mem_toList hp
  have := H.keys_at (MElems.opsStruct T D r) hi hel p hpel
  exact ⟨this.1, by rw [this.2.2]; exact List.mem_of_getElem? hi⟩

theorem ordered (h : MDataLoose T D top s) :
    (s.pairs.map (fun p => p.1.digs)).Pairwise (fun a b => a = b ∨ List.Lex (· < ·) a b) :=
  h.hinv.ordered (MElems.opsStruct T D r)

theorem distinct (h : MDataLoose T D top s) : KeysDistinct s.pairs :=
  h.hinv.distinct (MElems.opsStruct T D r)

theorem sorted (h : MDataLoose T D top s) : s.elems.hkeys.Pairwise (· < ·) := h.hinv.sorted

theorem nonempty_iff (h : MDataLoose T D top s) : s.elems.elems ≠ [] ↔ s.elems.hkeys ≠ [] := by
  have := h.hinv.len_eq
  constructor
  · intro h1 h2; rw [h2] at this; simp at this; exact h1 (List.eq_nil_of_length_eq_zero this.symm)
  · intro h1 h2; rw [h2] at this; simp at this; exact h1 this

end MDataLoose

theorem dig0_lt_imp {a b : MKey} (ha : KeyOk T (r + 1) D a) (hb : KeyOk T (r + 1) D b) (h : a.dig 0 < b.dig 0) :
    a ≠ b ∧ List.Lex (· < ·) a.digs b.digs := by
  have h1 := ha.take_succ (ℓ := 0) (by omega)
  have h2 := hb.take_succ (ℓ := 0) (by omega)
  simp only [List.take_zero, List.nil_append] at h1 h2
  refine ⟨?_, lex_of_prefix (p := []) h1 h2 h⟩
  intro e; subst e; omega

namespace MTreeInv

theorem sorted : ∀ (d : Nat) (top : Bool) (t : MTree r d), MTreeInv T D d top t →
    (MTree.digests0 d t).Pairwise (· < ·)
  | 0, _, _, h => ((mtreeInv_zero_iff T D _ _).mp h).loose.sorted
  | _ + 1, _, _, h => ((mtreeInv_succ_iff T D _ _ _).mp h).1.2.2.2.2.2.2.2

theorem pairs_ok : ∀ (d : Nat) (top : Bool) (t : MTree r d), MTreeInv T D d top t →
    ∀ p ∈ MTree.toList d t, KeyOk T (r + 1) D p.1 ∧ p.1.dig 0 ∈ MTree.digests0 d t
  | 0, _, _, h => ((mtreeInv_zero_iff T D _ _).mp h).loose.pairs_ok
  | d + 1, top, m, h => by
    have hm := ((mtreeInv_succ_iff T D d top m).mp h).1
    intro p hp
    obtain ⟨c, hc, hpc⟩ := List.mem_flatMap.mp hp
    have := pairs_ok d false c (hm.kid_inv c hc) p hpc
    exact ⟨this.1, List.mem_flatMap.mpr ⟨c, hc, this.2⟩⟩

/-- pairs of different children are separated by their first-level digest -/
theorem children_sep {d : Nat} {top : Bool} {m : MMetaSlab (MTree r d)} (hm : MetaLoose T D d top m) :
    m.children.Pairwise (fun c1 c2 => ∀ x ∈ MTree.toList d c1, ∀ y ∈ MTree.toList d c2,
      KeyOk T (r + 1) D x.1 ∧ KeyOk T (r + 1) D y.1 ∧ x.1.dig 0 < y.1.dig 0) := by
  have hs : (m.children.flatMap (MTree.digests0 d)).Pairwise (· < ·) := hm.2.2.2.2.2.2.2
  rw [List.pairwise_flatMap] at hs
  refine hs.2.imp_of_mem ?_
  intro c1 c2 h1 h2 hlt x hx y hy
  have hx' := pairs_ok d false c1 (hm.kid_inv c1 h1) x hx
  have hy' := pairs_ok d false c2 (hm.kid_inv c2 h2) y hy
  exact ⟨hx'.1, hy'.1, hlt _ hx'.2 _ hy'.2⟩

theorem ordered : ∀ (d : Nat) (top : Bool) (t : MTree r d), MTreeInv T D d top t →
    ((MTree.toList d t).map (fun p => p.1.digs)).Pairwise (fun a b => a = b ∨ List.Lex (· < ·) a b)
  | 0, _, _, h => ((mtreeInv_zero_iff T D _ _).mp h).loose.ordered
  | d + 1, top, m, h => by
    have hm := ((mtreeInv_succ_iff T D d top m).mp h).1
    show ((m.children.flatMap (MTree.toList d)).map _).Pairwise _
    rw [List.map_flatMap, List.pairwise_flatMap]
    constructor
    · intro c hc; exact ordered d false c (hm.kid_inv c hc)
    · refine (children_sep hm).imp ?_
      intro c1 c2 hsep a ha b hb
      obtain ⟨x, hx, rfl⟩ := List.mem_map.mp ha
      obtain ⟨y, hy, rfl⟩ := List.mem_map.mp hb
      obtain ⟨k1, k2, hlt⟩ := hsep x hx y hy
      exact Or.inr (dig0_lt_imp k1 k2 hlt).2

theorem distinct : ∀ (d : Nat) (top : Bool) (t : MTree r d), MTreeInv T D d top t →
    KeysDistinct (MTree.toList d t)
  | 0, _, _, h => ((mtreeInv_zero_iff T D _ _).mp h).loose.distinct
  | d + 1, top, m, h => by
    have hm := ((mtreeInv_succ_iff T D d top m).mp h).1
    show KeysDistinct (m.children.flatMap (MTree.toList d))
    unfold KeysDistinct
    rw [List.pairwise_flatMap]
    constructor
    · intro c hc; exact distinct d false c (hm.kid_inv c hc)
    · refine (children_sep hm).imp ?_
      intro c1 c2 hsep x hx y hy
      obtain ⟨k1, k2, hlt⟩ := hsep x hx y hy
      rw [KeyOk.same_false_iff k1 k2]
      exact (dig0_lt_imp k1 k2 hlt).1

end MTreeInv
end Atree

import AtreeProofs.Map.HkeyBasics
/-
  Definitions for the slab and tree level: invariants without the size band ("loose"), leaf
  chains with an open end, slab-ID lists.
-/
namespace Atree
open Gen

variable {r : Nat}

theorem mapSlabIds_zero (s : MDataSlab r) : CtxOk.mapSlabIds 0 s = s.hdr.id :: extIds s.elems.elems := by
  simp only [CtxOk.mapSlabIds, extIds]
  congr 2
  funext el
  cases el <;> rfl

theorem mapSlabIds_succ {d : Nat} (x : MMetaSlab (MTree r d)) :
    CtxOk.mapSlabIds (d + 1) x = x.hdr.id :: x.children.flatMap (CtxOk.mapSlabIds d) := by
  simp only [CtxOk.mapSlabIds]

/-- the largest size of a first-level entry (element + digest) -/
def maxEntry (T : Nat) : Nat := maxInlineMapElem T + digestSize

/-- data slab invariant without the size band -/
structure MDataLoose (T : Nat) (D : DigestFn (r + 1)) (top : Bool) (s : MDataSlab r) : Prop where
  elems_inv : ElemsInv T (r + 1) D (r + 1) 0 [] s.elems
  size_eq   : s.hdr.size = s.prefixSize + s.elems.size
  first_eq  : s.hdr.firstKey = s.elems.firstKey
  root_eq   : s.root = top
  inl_root  : s.inlined = true → top = true

theorem MDataLoose.hinv {T : Nat} {D : DigestFn (r + 1)} {top : Bool} {s : MDataSlab r} (h : MDataLoose T D top s) :
    HInv T (r + 1) D (MElems.ops r) (ElemsInv T (r + 1) D r) r 0 [] s.elems :=
  (elemsInv_succ_iff T (r + 1) D r 0 [] s.elems).mp h.elems_inv

theorem MDataLoose.inlined_nontop {T : Nat} {D : DigestFn (r + 1)} {s : MDataSlab r} (h : MDataLoose T D false s) :
    s.inlined = false := by
  cases hi : s.inlined with
  | false => rfl
  | true => exact absurd (h.inl_root hi) (by simp)

theorem MDataLoose.prefix_nontop {T : Nat} {D : DigestFn (r + 1)} {s : MDataSlab r} (h : MDataLoose T D false s) :
    s.prefixSize = mapDataSlabPrefixSize := by
  simp [MDataSlab.prefixSize, h.inlined_nontop, h.root_eq]

theorem MDataInv.loose {T : Nat} {D : DigestFn (r + 1)} {top : Bool} {s : MDataSlab r} (h : MDataInv T D top s) :
    MDataLoose T D top s := ⟨h.elems_inv, h.size_eq, h.first_eq, h.root_eq, h.inl_root⟩

/-- index slab invariant without the size band -/
def MetaLoose (T : Nat) (D : DigestFn (r + 1)) (d : Nat) (top : Bool) (m : MMetaSlab (MTree r d)) : Prop :=
  m.root = top ∧
  m.childHdrs = m.children.map (MTree.hdr d) ∧
  m.hdr.size = mapMetaDataSlabPrefixSize + mapSlabHeaderSize * m.children.length ∧
  m.hdr.firstKey = (m.childHdrs.headD default).firstKey ∧
  (∀ c ∈ m.children, MTreeInv T D d false c) ∧
  (∀ c ∈ m.children, (MTree.hdr d c).id.addr = m.hdr.id.addr) ∧
  (∀ c ∈ m.children, (MTree.hdr d c).firstKey = (MTree.digests0 d c).headD 0) ∧
  (MTree.digests0 (d + 1) m).Pairwise (· < ·)

namespace MetaLoose
variable {T : Nat} {D : DigestFn (r + 1)} {d : Nat} {top : Bool} {m : MMetaSlab (MTree r d)}

theorem kid_inv (h : MetaLoose T D d top m) : ∀ c ∈ m.children, MTreeInv T D d false c := h.2.2.2.2.1

theorem kid_addr (h : MetaLoose T D d top m) : ∀ c ∈ m.children, (MTree.hdr d c).id.addr = m.hdr.id.addr :=
  h.2.2.2.2.2.1

theorem kid_fk (h : MetaLoose T D d top m) :
    ∀ c ∈ m.children, (MTree.hdr d c).firstKey = (MTree.digests0 d c).headD 0 := h.2.2.2.2.2.2.1

end MetaLoose

theorem mtreeInv_succ_iff (T : Nat) (D : DigestFn (r + 1)) (d : Nat) (top : Bool) (m : MMetaSlab (MTree r d)) :
    MTreeInv T D (d + 1) top m ↔
      MetaLoose T D d top m ∧ m.hdr.size ≤ maxThr T ∧ (top = false → minThr T ≤ m.hdr.size) ∧
      (top = true → 2 ≤ m.children.length) := by
  simp only [MTreeInv, MetaLoose]
  constructor
  · rintro ⟨h1, h2, h3, h4, h5, h6, h7, h8, h9, h10, h11⟩
    exact ⟨⟨h1, h2, h3, h4, h5, h6, h7, h8⟩, h9, h10, h11⟩
  · rintro ⟨⟨h1, h2, h3, h4, h5, h6, h7, h8⟩, h9, h10, h11⟩
    exact ⟨h1, h2, h3, h4, h5, h6, h7, h8, h9, h10, h11⟩

theorem mtreeInv_zero_iff (T : Nat) (D : DigestFn (r + 1)) (top : Bool) (s : MDataSlab r) :
    MTreeInv T D 0 top s ↔ MDataInv T D top s := by
  simp only [MTreeInv]

/-- tree invariant with a relaxed size band (the state of a subtree right after an update, before
    its parent has repaired it) -/
def LInv (T : Nat) (D : DigestFn (r + 1)) : (d : Nat) → Bool → MTree r d → Prop
  | 0, top, (s : MDataSlab r) => MDataLoose T D top s ∧ s.hdr.size ≤ maxThr T + maxEntry T
  | d + 1, top, (m : MMetaSlab (MTree r d)) =>
    MetaLoose T D d top m ∧ m.hdr.size ≤ maxThr T + mapSlabHeaderSize ∧ 1 ≤ m.children.length

/-- the sibling links of consecutive leaves; the last leaf links to `nxt` -/
def ChainTo : List (MDataSlab r) → SlabID → Prop
  | [], _ => True
  | [s], nxt => s.next = nxt
  | s :: t :: rest, nxt => s.next = t.hdr.id ∧ ChainTo (t :: rest) nxt

def firstId (l : List (MDataSlab r)) (dflt : SlabID) : SlabID :=
  match l with
  | [] => dflt
  | s :: _ => s.hdr.id

theorem chainTo_cons (s : MDataSlab r) (l : List (MDataSlab r)) (nxt : SlabID) :
    ChainTo (s :: l) nxt ↔ s.next = firstId l nxt ∧ ChainTo l nxt := by
  cases l with
  | nil => simp [ChainTo, firstId]
  | cons t rest => simp [ChainTo, firstId]

theorem chainTo_append (A B : List (MDataSlab r)) (nxt : SlabID) :
    ChainTo (A ++ B) nxt ↔ ChainTo A (firstId B nxt) ∧ ChainTo B nxt := by
  induction A with
  | nil => simp [ChainTo]
  | cons s A ih =>
    rw [List.cons_append, chainTo_cons, chainTo_cons, ih]
    have : firstId (A ++ B) nxt = firstId A (firstId B nxt) := by
      cases A <;> simp [firstId]
    rw [this]
    constructor
    · rintro ⟨h1, h2, h3⟩; exact ⟨⟨h1, h2⟩, h3⟩
    · rintro ⟨⟨h1, h2⟩, h3⟩; exact ⟨h1, h2, h3⟩

theorem firstId_append (A B : List (MDataSlab r)) (nxt : SlabID) :
    firstId (A ++ B) nxt = firstId A (firstId B nxt) := by
  cases A <;> simp [firstId]

theorem mLeafChain_iff (l : List (MDataSlab r)) : MLeafChain l ↔ ChainTo l SlabID.undef := by
  induction l with
  | nil => simp [MLeafChain, ChainTo]
  | cons s l ih =>
    cases l with
    | nil => simp [MLeafChain, ChainTo]
    | cons t rest => simp only [MLeafChain, ChainTo, ih]

/-- the effect of an update on the leaves of a subtree: same first ID, same chaining behaviour -/
def LeafRel (old new : List (MDataSlab r)) : Prop :=
  old ≠ [] ∧ new ≠ [] ∧ (∀ dflt, firstId new dflt = firstId old dflt) ∧
  (∀ nxt, ChainTo old nxt → ChainTo new nxt)

theorem LeafRel.refl {l : List (MDataSlab r)} (h : l ≠ []) : LeafRel l l :=
  ⟨h, h, fun _ => rfl, fun _ h => h⟩

theorem LeafRel.lift {old new : List (MDataSlab r)} (h : LeafRel old new) (A B : List (MDataSlab r)) :
    LeafRel (A ++ (old ++ B)) (A ++ (new ++ B)) := by
  obtain ⟨h1, h2, h3, h4⟩ := h
  refine ⟨by simp [h1], by simp [h2], ?_, ?_⟩
  · intro dflt
    rw [firstId_append, firstId_append, firstId_append, firstId_append, h3]
  · intro nxt
    rw [chainTo_append, chainTo_append, chainTo_append, chainTo_append, firstId_append, firstId_append, h3]
    rintro ⟨ha, ho, hb⟩
    exact ⟨ha, h4 _ ho, hb⟩

end Atree

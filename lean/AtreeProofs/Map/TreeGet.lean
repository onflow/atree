import AtreeProofs.Map.Route
/-
  `MTree.get` by induction on the depth.
-/
namespace Atree
open Gen

variable {T : Nat} {r : Nat} {D : DigestFn (r + 1)} {d : Nat} {cfg : MCfg}

theorem absent_of_digs {l : List (MTree r d)} (hl : ∀ c ∈ l, MTreeInv T D d false c) {k : MKey}
    (hno : k.dig 0 ∉ dgs l) : ∀ p ∈ prs l, p.1 ≠ k := by
  intro p hp hpk
  obtain ⟨c, hc, hpc⟩ := List.mem_flatMap.mp hp
  have := (MTreeInv.pairs_ok d false c (hl c hc) p hpc).2
  rw [hpk] at this
  exact hno (List.mem_flatMap.mpr ⟨c, hc, this⟩)

theorem Routed.absent {m : MMetaSlab (MTree r d)} {top : Bool} (hm : MetaLoose T D d top m) {k : MKey} {i : Nat}
    {A B : List (MTree r d)} {child : MTree r d} (hr : Routed d m (k.dig 0) i A child B) :
    (∀ p ∈ prs A, p.1 ≠ k) ∧ (∀ p ∈ prs B, p.1 ≠ k) := by
  have hA : ∀ c ∈ A, MTreeInv T D d false c := fun c hc =>
    hm.kid_inv c (by rw [hr.ch]; exact List.mem_append_left _ hc)
  have hB : ∀ c ∈ B, MTreeInv T D d false c := fun c hc =>
    hm.kid_inv c (by rw [hr.ch]; exact List.mem_append_right _ (List.mem_cons_of_mem _ hc))
  constructor
  · exact absent_of_digs hA (fun h => by have := hr.lo _ h; omega)
  · exact absent_of_digs hB (fun h => by have := hr.hi _ h; omega)

theorem Routed.toList_eq {m : MMetaSlab (MTree r d)} {hkey i : Nat}
    {A B : List (MTree r d)} {child : MTree r d} (hr : Routed d m hkey i A child B) :
    MTree.toList (d + 1) m = prs A ++ (MTree.toList d child ++ prs B) := by
  rw [MTree.toList_succ, hr.ch]; simp [prs, List.flatMap_append]

theorem get_spec_succ (hT : legalThreshold T = true) {top : Bool} (m : MMetaSlab (MTree r d))
    (hm : MetaLoose T D d top m) (hlen : 1 ≤ m.children.length) {k : MKey}
    (ih : ∀ c ∈ m.children,
      (∀ v, (k, v) ∈ MTree.toList d c → MTree.get cfg d c k = .ok (k, v)) ∧
      ((∀ p ∈ MTree.toList d c, p.1 ≠ k) → MTree.get cfg d c k = .error .keyNotFound)) :
    (∀ v, (k, v) ∈ MTree.toList (d + 1) m → MTree.get cfg (d + 1) m k = .ok (k, v)) ∧
    ((∀ p ∈ MTree.toList (d + 1) m, p.1 ≠ k) → MTree.get cfg (d + 1) m k = .error .keyNotFound) := by
  have hroute := route hT hm hlen (k.dig 0)
  cases hr : MMetaSlab.findChild m.childHdrs (k.dig 0) 0 m.childHdrs.length none (m.childHdrs.length + 1) with
  | none =>
    rw [hr] at hroute
    have habs : ∀ p ∈ MTree.toList (d + 1) m, p.1 ≠ k := by
      rw [MTree.toList_succ]
      exact absent_of_digs hm.kid_inv (fun h => by have := hroute.1 _ h; omega)
    constructor
    · intro v hv; exact absurd rfl (habs _ hv)
    · intro _; simp only [MTree.get, hr]
  | some i =>
    rw [hr] at hroute
    obtain ⟨A, child, B, hrt, _⟩ := hroute
    have hci : m.children[i]? = some child := by rw [hrt.ch]; exact get_at hrt.len
    obtain ⟨hA, hB⟩ := hrt.absent hm (k := k)
    have hih := ih child (List.mem_of_getElem? hci)
    have htl := hrt.toList_eq
    simp only [MTree.get, hr, hci]
    constructor
    · intro v hv
      rw [htl] at hv
      rcases List.mem_append.mp hv with h | h
      · exact absurd rfl (hA _ h)
      · rcases List.mem_append.mp h with h | h
        · exact hih.1 v h
        · exact absurd rfl (hB _ h)
    · intro hne
      apply hih.2
      intro p hp
      apply hne
      rw [htl]; exact List.mem_append_right _ (List.mem_append_left _ hp)

theorem MTree.get_spec (hT : legalThreshold T = true) (hc : CfgFor cfg T (r + 1)) :
    ∀ (d : Nat) (top : Bool) (t : MTree r d), SInv T D d top t → ∀ {k : MKey}, KeyOk T (r + 1) D k →
    (∀ v, (k, v) ∈ MTree.toList d t → MTree.get cfg d t k = .ok (k, v)) ∧
    ((∀ p ∈ MTree.toList d t, p.1 ≠ k) → MTree.get cfg d t k = .error .keyNotFound)
  | 0, _, _, h, _, hk => MDataSlab.get_spec hT hc h hk
  | d + 1, _, m, h, _, hk =>
    get_spec_succ hT m h.1 h.2 (fun c hcm =>
      MTree.get_spec hT hc d false c (MTreeInv.sinv hT (h.1.kid_inv c hcm)) hk)

end Atree

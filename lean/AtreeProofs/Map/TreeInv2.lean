import AtreeProofs.Map.TreeBasics
import AtreeProofs.Core.ThrBand
/-
  Structural tree invariant `SInv` (no size band), its relation to `MTreeInv`, facts about first
  keys and routing digests; `mapBand`: the thresholds of a map as an instance of `ThrBand`
  (`Core/ThrBand.lean`).
-/
namespace Atree
open Gen

variable {T : Nat} {r : Nat} {D : DigestFn (r + 1)}

section Zipper
variable {α : Type}

theorem headD_take_of_pos {α : Type} {l : List α} {n : Nat} (a : α) (hn : 1 ≤ n) : (l.take n).headD a = l.headD a := by
  cases l with
  | nil => simp
  | cons x l => cases n with
    | zero => omega
    | succ n => simp

theorem zip_get_pred (A B : List α) (x : α) (h : 0 < A.length) :
    ∃ A' l, A = A' ++ [l] ∧ (A ++ x :: B)[A.length - 1]? = some l := by
  have hne : A ≠ [] := by intro h'; rw [h'] at h; simp at h
  refine ⟨A.dropLast, A.getLast hne, (List.dropLast_concat_getLast hne).symm, ?_⟩
  rw [List.getElem?_append_left (by omega)]
  rw [List.getLast_eq_getElem]
  exact List.getElem?_eq_getElem (by omega)

end Zipper

/-- the tree invariant without any size band -/
def SInv (T : Nat) (D : DigestFn (r + 1)) : (d : Nat) → Bool → MTree r d → Prop
  | 0, top, (s : MDataSlab r) => MDataLoose T D top s
  | d + 1, top, (m : MMetaSlab (MTree r d)) => MetaLoose T D d top m ∧ 1 ≤ m.children.length

theorem map_minThr_ge (hT : legalThreshold T = true) : 128 ≤ minThr T := by
  have := map_legal_bounds hT; simp only [minThr]; omega

theorem map_maxThr_eq (T : Nat) : maxThr T = 3 * T / 2 := rfl

theorem maxEntry_eq (hT : legalThreshold T = true) : maxEntry T = (T - 26) / 2 := by
  have := map_legal_bounds hT
  simp only [maxEntry, maxInlineMapElem_eq, digestSize]; omega

theorem mapBand (hT : legalThreshold T = true) : ThrBand 26 T (minThr T) (maxThr T) (maxEntry T) := by
  have := map_legal_bounds hT
  rw [maxEntry_eq hT]
  constructor <;> (try simp only [minThr, maxThr]) <;> omega

theorem MDataLoose.elem_le (hT : legalThreshold T = true) {top : Bool} {s : MDataSlab r} (h : MDataLoose T D top s) :
    ∀ el ∈ s.elems.elems, MElemF.size (MElems.ops r) el ≤ maxInlineMapElem T := by
  intro el hel
  obtain ⟨i, hi⟩ := List.mem_iff_getElem?.mp hel
  obtain ⟨hk, hhk⟩ := h.hinv.hkey_at hi
  exact (h.hinv.elemOk hhk hi).size_le hT rfl

theorem MDataLoose.sizes_le (hT : legalThreshold T = true) {top : Bool} {s : MDataSlab r} (h : MDataLoose T D top s) :
    ∀ x ∈ s.elems.elems.map (fun el => MElemF.size (MElems.ops r) el + digestSize), x ≤ maxEntry T := by
  intro x hx
  obtain ⟨el, hel, rfl⟩ := List.mem_map.mp hx
  have := h.elem_le hT el hel
  simp only [maxEntry]; omega

theorem mdataInv_iff (hT : legalThreshold T = true) (top : Bool) (s : MDataSlab r) :
    MDataInv T D top s ↔ MDataLoose T D top s ∧ s.hdr.size ≤ maxThr T ∧ (top = false → minThr T ≤ s.hdr.size) := by
  constructor
  · intro h; exact ⟨h.loose, h.le_max, h.ge_min⟩
  · rintro ⟨h, h1, h2⟩
    refine ⟨h.elems_inv, h.size_eq, h.first_eq, h.root_eq, h.inl_root, h1, h2, ?_, h.elem_le hT⟩
    intro htop hnil
    subst htop
    have := h2 rfl
    have hm := map_minThr_ge hT
    have hsz := h.hinv.size_eq
    rw [h.size_eq, h.prefix_nontop, hsz, hnil] at this
    simp [HkeyElems.elemSizes, mapDataSlabPrefixSize, hkeyElementsPrefixSize] at this
    omega

theorem mtreeInv_false_iff_zero (hT : legalThreshold T = true) (s : MDataSlab r) :
    MTreeInv T D 0 false s ↔ MDataLoose T D false s ∧ minThr T ≤ s.hdr.size ∧ s.hdr.size ≤ maxThr T := by
  rw [mtreeInv_zero_iff, mdataInv_iff hT]
  constructor
  · rintro ⟨h, h1, h2⟩; exact ⟨h, h2 rfl, h1⟩
  · rintro ⟨h, h1, h2⟩; exact ⟨h, h2, fun _ => h1⟩

theorem mtreeInv_false_iff_succ (hT : legalThreshold T = true) {d : Nat} (m : MMetaSlab (MTree r d)) :
    MTreeInv T D (d + 1) false m ↔
      (MetaLoose T D d false m ∧ 1 ≤ m.children.length) ∧ minThr T ≤ m.hdr.size ∧ m.hdr.size ≤ maxThr T := by
  rw [mtreeInv_succ_iff]
  constructor
  · rintro ⟨h, h1, h2, _⟩
    refine ⟨⟨h, ?_⟩, h2 rfl, h1⟩
    have := h2 rfl
    have hm := map_minThr_ge hT
    rw [h.2.2.1] at this
    simp only [mapMetaDataSlabPrefixSize, mapSlabHeaderSize] at this
    omega
  · rintro ⟨⟨h, _⟩, h1, h2⟩
    exact ⟨h, h2, fun _ => h1, fun h => by cases h⟩

theorem mtreeInv_false_iff (hT : legalThreshold T = true) : ∀ (d : Nat) (t : MTree r d),
    MTreeInv T D d false t ↔ SInv T D d false t ∧ minThr T ≤ (MTree.hdr d t).size ∧ (MTree.hdr d t).size ≤ maxThr T
  | 0, s => mtreeInv_false_iff_zero hT s
  | _ + 1, m => mtreeInv_false_iff_succ hT m

theorem MTreeInv.sinv (hT : legalThreshold T = true) {d : Nat} {t : MTree r d} (h : MTreeInv T D d false t) :
    SInv T D d false t := ((mtreeInv_false_iff hT d t).mp h).1

namespace SInv

theorem sorted : ∀ (d : Nat) (top : Bool) (t : MTree r d), SInv T D d top t → (MTree.digests0 d t).Pairwise (· < ·)
  | 0, _, _, h => MDataLoose.sorted h
  | _ + 1, _, _, h => h.1.2.2.2.2.2.2.2

end SInv

theorem digests_ne_nil_succ {d : Nat} (m : MMetaSlab (MTree r d)) (hlen : 1 ≤ m.children.length)
    (ih : ∀ c ∈ m.children, MTree.digests0 d c ≠ []) : MTree.digests0 (d + 1) m ≠ [] := by
  show m.children.flatMap (MTree.digests0 d) ≠ []
  cases hc : m.children with
  | nil => rw [hc] at hlen; simp at hlen
  | cons c cs =>
    have := ih c (by rw [hc]; simp)
    simp [this]

/-- non-root subtrees hold at least one first-level digest -/
theorem MTreeInv.digests_ne_nil (hT : legalThreshold T = true) : ∀ (d : Nat) (t : MTree r d),
    MTreeInv T D d false t → MTree.digests0 d t ≠ []
  | 0, s, h => by
    have h' := (mtreeInv_zero_iff T D _ _).mp h
    exact (h'.loose.nonempty_iff).mp (h'.nonempty rfl)
  | d + 1, m, h =>
    have hs := (mtreeInv_false_iff_succ hT m).mp h
    digests_ne_nil_succ m hs.1.2 (fun c hc => MTreeInv.digests_ne_nil hT d c (hs.1.1.kid_inv c hc))

theorem firstKey_eq_succ (hT : legalThreshold T = true) {d : Nat} {top : Bool} (m : MMetaSlab (MTree r d))
    (hm : MetaLoose T D d top m) (hlen : 1 ≤ m.children.length) :
    m.hdr.firstKey = (MTree.digests0 (d + 1) m).headD 0 := by
  show m.hdr.firstKey = (m.children.flatMap (MTree.digests0 d)).headD 0
  rw [hm.2.2.2.1, hm.2.1]
  cases hc : m.children with
  | nil => rw [hc] at hlen; simp at hlen
  | cons c cs =>
    have hne := MTreeInv.digests_ne_nil hT d c (hm.kid_inv c (by rw [hc]; simp))
    have hfk := hm.kid_fk c (by rw [hc]; simp)
    simp only [List.map_cons, List.headD_cons, List.flatMap_cons]
    rw [hfk]
    cases hd : MTree.digests0 d c with
    | nil => exact absurd hd hne
    | cons x xs => simp

/-- the header's first key is the smallest first-level digest -/
theorem SInv.firstKey_eq (hT : legalThreshold T = true) : ∀ (d : Nat) (top : Bool) (t : MTree r d), SInv T D d top t →
    (MTree.hdr d t).firstKey = (MTree.digests0 d t).headD 0
  | 0, _, _, h => MDataLoose.first_eq h
  | _ + 1, _, m, h => firstKey_eq_succ hT m h.1 h.2

/-- all first-level digests of a subtree are at least its first key -/
theorem SInv.firstKey_le (hT : legalThreshold T = true) {d : Nat} {top : Bool} {t : MTree r d} (h : SInv T D d top t) :
    ∀ x ∈ MTree.digests0 d t, (MTree.hdr d t).firstKey ≤ x := by
  intro x hx
  rw [SInv.firstKey_eq hT d top t h]
  have hs := SInv.sorted d top t h
  cases hd : MTree.digests0 d t with
  | nil => rw [hd] at hx; simp at hx
  | cons y ys =>
    rw [hd] at hx hs
    simp only [List.headD_cons]
    rcases List.mem_cons.mp hx with rfl | hx
    · omega
    · have := (List.pairwise_cons.mp hs).1 x hx; omega

theorem SInv.firstKey_mem (hT : legalThreshold T = true) {d : Nat} {top : Bool} {t : MTree r d} (h : SInv T D d top t)
    (hne : MTree.digests0 d t ≠ []) : (MTree.hdr d t).firstKey ∈ MTree.digests0 d t := by
  rw [SInv.firstKey_eq hT d top t h]
  cases hd : MTree.digests0 d t with
  | nil => exact absurd hd hne
  | cons y ys => simp

end Atree

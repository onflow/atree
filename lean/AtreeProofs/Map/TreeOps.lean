import AtreeProofs.Map.DataOps
import AtreeProofs.Map.MetaOps
/-
  Depth-uniform specifications of `MTree.split / merge / lendToRight / borrowFromRight` (`SplitSpec`,
  `MergeSpec`, `RebSpec`) and the size of a merge (`merge_band`); `slack`, `mergeGain`; the accessor
  equations `*_zero / *_succ`.
-/
namespace Atree
open Gen

variable {T : Nat} {r : Nat} {D : DigestFn (r + 1)}

theorem extIds_append {α : Type} (a b : List (MElemF α)) : extIds (a ++ b) = extIds a ++ extIds b := by
  simp [extIds, List.filterMap_append]

theorem MDataSlab.pairs_of_elems {s l rr : MDataSlab r} (h : s.elems.elems = l.elems.elems ++ rr.elems.elems) :
    s.pairs = l.pairs ++ rr.pairs := by
  simp only [MDataSlab.pairs, HkeyElems.toList, h, List.flatMap_append]

theorem MTreeInv.leaves_ne_nil (hT : legalThreshold T = true) : ∀ (d : Nat) (t : MTree r d),
    MTreeInv T D d false t → MTree.leaves d t ≠ []
  | 0, s, _ => by simp [MTree.leaves]
  | d + 1, m, h => by
    have hs := (mtreeInv_false_iff_succ hT m).mp h
    show m.children.flatMap (MTree.leaves d) ≠ []
    cases hc : m.children with
    | nil => have := hs.1.2; rw [hc] at this; simp at this
    | cons c cs =>
      have := MTreeInv.leaves_ne_nil hT d c (hs.1.1.kid_inv c (by rw [hc]; simp))
      simp [this]

theorem SInv.leaves_ne_nil (hT : legalThreshold T = true) : ∀ (d : Nat) (top : Bool) (t : MTree r d),
    SInv T D d top t → MTree.leaves d t ≠ []
  | 0, _, s, _ => by simp [MTree.leaves]
  | d + 1, _, m, h => by
    show m.children.flatMap (MTree.leaves d) ≠ []
    cases hc : m.children with
    | nil => have := h.2; rw [hc] at this; simp at this
    | cons c cs =>
      have := MTreeInv.leaves_ne_nil hT d c (h.1.kid_inv c (by rw [hc]; simp))
      simp [this]

/-- the slack by which a subtree may exceed `maxThr` right after an update (plus, at depth 0, the
    16 bytes by which a root data slab grows when it becomes a non-root slab) -/
def slack (T : Nat) : Nat → Nat
  | 0 => maxEntry T + 16
  | _ + 1 => mapSlabHeaderSize

/-- the prefix bytes saved by a merge -/
def mergeGain : Nat → Nat
  | 0 => 26
  | _ + 1 => 12

namespace MTree

section Unfold
variable {d : Nat}
theorem hdr_zero (s : MDataSlab r) : hdr 0 s = s.hdr := rfl
theorem hdr_succ (m : MMetaSlab (MTree r d)) : hdr (d + 1) m = m.hdr := rfl
theorem toList_zero (s : MDataSlab r) : toList 0 s = s.pairs := rfl
theorem toList_succ (m : MMetaSlab (MTree r d)) : toList (d + 1) m = m.children.flatMap (toList d) := rfl
theorem digests0_zero (s : MDataSlab r) : digests0 0 s = s.elems.hkeys := rfl
theorem digests0_succ (m : MMetaSlab (MTree r d)) : digests0 (d + 1) m = m.children.flatMap (digests0 d) := rfl
theorem leaves_zero (s : MDataSlab r) : leaves 0 s = [s] := rfl
theorem leaves_succ (m : MMetaSlab (MTree r d)) : leaves (d + 1) m = m.children.flatMap (leaves d) := rfl
end Unfold

/-- specification of `MTree.split` -/
def SplitSpec (T : Nat) (D : DigestFn (r + 1)) (d : Nat) (t : MTree r d) (c : Ctx) : Prop :=
  ∃ l rr, MTree.split d t c = .ok (l, rr, (c.alloc (hdr d t).id.addr).2) ∧
    MTreeInv T D d false l ∧ MTreeInv T D d false rr ∧
    (hdr d l).id = (hdr d t).id ∧ (hdr d rr).id = (c.alloc (hdr d t).id.addr).1 ∧
    toList d t = toList d l ++ toList d rr ∧ digests0 d t = digests0 d l ++ digests0 d rr ∧
    LeafRel (leaves d t) (leaves d l ++ leaves d rr) ∧
    (∀ id ∈ CtxOk.mapSlabIds d l ++ CtxOk.mapSlabIds d rr, id ∈ CtxOk.mapSlabIds d t ∨ id = (hdr d rr).id)

theorem split_spec_zero (hT : legalThreshold T = true) (s : MDataSlab r) (c : Ctx)
    (hs : MDataLoose T D false s) (h1 : maxThr T < s.hdr.size) (h2 : s.hdr.size ≤ maxThr T + maxEntry T + 16) :
    SplitSpec T D 0 s c := by
  obtain ⟨l, rr, heq, hl, hr, hk, hel, hid1, hid2, hn1, hn2⟩ := MDataSlab.split_spec hT (s := s) hs h1 h2 c
  refine ⟨l, rr, heq, (mtreeInv_zero_iff T D _ _).mpr hl, (mtreeInv_zero_iff T D _ _).mpr hr, hid1, hid2,
    MDataSlab.pairs_of_elems hel, hk, ?_, ?_⟩
  · rw [leaves_zero, leaves_zero, leaves_zero]
    refine ⟨by simp, by simp, ?_, ?_⟩
    · intro dflt; simp [firstId, hid1]
    · intro nxt h
      simp only [List.cons_append, List.nil_append, ChainTo] at h ⊢
      exact ⟨hn1, by rw [hn2]; exact h⟩
  · intro id hid
    rw [mapSlabIds_zero, mapSlabIds_zero] at hid
    rw [mapSlabIds_zero, hel, extIds_append, hdr_zero]
    simp only [List.mem_append, List.mem_cons] at hid ⊢
    rcases hid with (h | h) | (h | h)
    · left; left; rw [h]; exact hid1
    · left; right; left; exact h
    · right; exact h
    · left; right; right; exact h

theorem split_spec_succ (hT : legalThreshold T = true) {d : Nat} (m : MMetaSlab (MTree r d)) (c : Ctx)
    (hs : MetaLoose T D d false m ∧ 1 ≤ m.children.length) (h1 : maxThr T < m.hdr.size)
    (h2 : m.hdr.size ≤ maxThr T + mapSlabHeaderSize) : SplitSpec T D (d + 1) m c := by
  obtain ⟨l, rr, heq, hl, hr, hch, hid1, hid2, _⟩ := MMetaSlab.split_spec hT (m := m) hs.1 h1 h2 c
  refine ⟨l, rr, heq, hl, hr, hid1, hid2, ?_, ?_, ?_, ?_⟩
  · rw [toList_succ, toList_succ, toList_succ, hch, List.flatMap_append]
  · rw [digests0_succ, digests0_succ, digests0_succ, hch, List.flatMap_append]
  · have : leaves (d + 1) m = leaves (d + 1) l ++ leaves (d + 1) rr := by
      rw [leaves_succ, leaves_succ, leaves_succ, hch, List.flatMap_append]
    rw [← this]
    exact LeafRel.refl (SInv.leaves_ne_nil hT (d + 1) false m hs)
  · intro id hid
    rw [mapSlabIds_succ, mapSlabIds_succ] at hid
    rw [mapSlabIds_succ, hch, List.flatMap_append, hdr_succ]
    simp only [List.mem_append, List.mem_cons] at hid ⊢
    rcases hid with (h | h) | (h | h)
    · left; left; rw [h]; exact hid1
    · left; right; left; exact h
    · right; exact h
    · left; right; right; exact h

theorem split_spec (hT : legalThreshold T = true) : ∀ (d : Nat) (t : MTree r d) (c : Ctx),
    SInv T D d false t → maxThr T < (hdr d t).size → (hdr d t).size ≤ maxThr T + slack T d →
    SplitSpec T D d t c
  | 0, s, c, hs, h1, h2 => split_spec_zero hT s c hs h1 (Nat.add_assoc _ _ _ ▸ h2)
  | _ + 1, m, c, hs, h1, h2 => split_spec_succ hT m c hs h1 h2

/-- a split keeps the first key of the left half and allocates one slab -/
theorem split_left : ∀ (d : Nat) (t : MTree r d) (c : Ctx) (l rr : MTree r d) (c' : Ctx),
    MTree.split d t c = .ok (l, rr, c') → (hdr d l).firstKey = (hdr d t).firstKey ∧ c'.ctr = c.ctr + 1
  | 0, (s : MDataSlab r), c, l, rr, c', h => by
    have h : MDataSlab.split s c = .ok (l, rr, c') := h
    unfold MDataSlab.split at h
    split at h
    · cases h
    · cases h; exact ⟨rfl, rfl⟩
  | d + 1, (m : MMetaSlab (MTree r d)), c, l, rr, c', h => by
    have h : MMetaSlab.split m c = .ok (l, rr, c') := h
    unfold MMetaSlab.split at h
    split at h
    · cases h
    · cases h; exact ⟨rfl, rfl⟩

/-- specification of `MTree.merge` -/
def MergeSpec (T : Nat) (D : DigestFn (r + 1)) (d : Nat) (l rr : MTree r d) : Prop :=
  SInv T D d false (merge d l rr) ∧
  (hdr d (merge d l rr)).size + mergeGain d = (hdr d l).size + (hdr d rr).size ∧
  (hdr d (merge d l rr)).id = (hdr d l).id ∧
  toList d (merge d l rr) = toList d l ++ toList d rr ∧
  digests0 d (merge d l rr) = digests0 d l ++ digests0 d rr ∧
  LeafRel (leaves d l ++ leaves d rr) (leaves d (merge d l rr)) ∧
  (∀ id ∈ CtxOk.mapSlabIds d (merge d l rr), id ∈ CtxOk.mapSlabIds d l ++ CtxOk.mapSlabIds d rr)

theorem merge_spec_zero (l rr : MDataSlab r) (hl : MDataLoose T D false l) (hr : MDataLoose T D false rr)
    (hlt : ∀ a ∈ l.elems.hkeys, ∀ b ∈ rr.elems.hkeys, a < b) : MergeSpec T D 0 l rr := by
  obtain ⟨h1, h2, h3, h4, h5, h6⟩ := MDataSlab.merge_spec (l := l) (rr := rr) hl hr hlt
  refine ⟨h1, h2, h5, MDataSlab.pairs_of_elems h4, h3, ?_, ?_⟩
  · show LeafRel ([l] ++ [rr]) [MDataSlab.merge l rr]
    refine ⟨by simp, by simp, ?_, ?_⟩
    · intro dflt; simp only [List.cons_append, List.nil_append, firstId]; exact h5
    · intro nxt h
      simp only [List.cons_append, List.nil_append, ChainTo] at h ⊢
      rw [h6]; exact h.2
  · intro id hid
    have hid' : id ∈ (MDataSlab.merge l rr).hdr.id :: extIds (MDataSlab.merge l rr).elems.elems := by
      rw [← mapSlabIds_zero]; exact hid
    rw [mapSlabIds_zero, mapSlabIds_zero]
    rw [h4, extIds_append, h5] at hid'
    simp only [List.mem_append, List.mem_cons] at hid' ⊢
    rcases hid' with h | h | h
    · left; left; exact h
    · left; right; exact h
    · right; right; exact h

theorem merge_spec_succ (hT : legalThreshold T = true) {d : Nat} (l rr : MMetaSlab (MTree r d))
    (hl : MetaLoose T D d false l ∧ 1 ≤ l.children.length) (hr : MetaLoose T D d false rr ∧ 1 ≤ rr.children.length)
    (haddr : rr.hdr.id.addr = l.hdr.id.addr)
    (hlt : ∀ a ∈ digests0 (d + 1) l, ∀ b ∈ digests0 (d + 1) rr, a < b) : MergeSpec T D (d + 1) l rr := by
  obtain ⟨h1, h2, h3, h4, _⟩ := MMetaSlab.merge_spec (l := l) (rr := rr) hl.1 hr.1 hl.2 haddr hlt
  have hlen : 1 ≤ (MMetaSlab.merge l rr).children.length := by
    rw [h3, List.length_append]; have := hl.2; omega
  refine ⟨⟨h1, hlen⟩, h2, h4, ?_, ?_, ?_, ?_⟩
  · show (MMetaSlab.merge l rr).children.flatMap _ = l.children.flatMap _ ++ rr.children.flatMap _
    rw [h3, List.flatMap_append]
  · show (MMetaSlab.merge l rr).children.flatMap _ = l.children.flatMap _ ++ rr.children.flatMap _
    rw [h3, List.flatMap_append]
  · have : leaves (d + 1) (merge (d + 1) l rr) = leaves (d + 1) l ++ leaves (d + 1) rr := by
      show (MMetaSlab.merge l rr).children.flatMap _ = l.children.flatMap _ ++ rr.children.flatMap _
      rw [h3, List.flatMap_append]
    rw [this]
    refine LeafRel.refl ?_
    have := SInv.leaves_ne_nil hT (d + 1) false l hl
    simp [this]
  · intro id hid
    have hid' : id ∈ (MMetaSlab.merge l rr).hdr.id :: (MMetaSlab.merge l rr).children.flatMap (CtxOk.mapSlabIds d) := by
      rw [← mapSlabIds_succ]; exact hid
    rw [mapSlabIds_succ, mapSlabIds_succ]
    rw [h3, List.flatMap_append, h4] at hid'
    simp only [List.mem_append, List.mem_cons] at hid' ⊢
    rcases hid' with h | h | h
    · left; left; exact h
    · left; right; exact h
    · right; right; exact h

theorem merge_spec (hT : legalThreshold T = true) : ∀ (d : Nat) (l rr : MTree r d),
    SInv T D d false l → SInv T D d false rr → (hdr d rr).id.addr = (hdr d l).id.addr →
    (∀ a ∈ digests0 d l, ∀ b ∈ digests0 d rr, a < b) → MergeSpec T D d l rr
  | 0, l, rr, hl, hr, _, hlt => merge_spec_zero l rr hl hr hlt
  | _ + 1, l, rr, hl, hr, haddr, hlt => merge_spec_succ hT l rr hl hr haddr hlt


/-- specification of a rebalance of two adjacent siblings -/
def RebSpec (T : Nat) (D : DigestFn (r + 1)) (d : Nat) (l rr l' r' : MTree r d) : Prop :=
  MTreeInv T D d false l' ∧ MTreeInv T D d false r' ∧
  (hdr d l').id = (hdr d l).id ∧ (hdr d r').id = (hdr d rr).id ∧
  toList d l ++ toList d rr = toList d l' ++ toList d r' ∧
  digests0 d l ++ digests0 d rr = digests0 d l' ++ digests0 d r' ∧
  LeafRel (leaves d l ++ leaves d rr) (leaves d l' ++ leaves d r') ∧
  (∀ id ∈ CtxOk.mapSlabIds d l' ++ CtxOk.mapSlabIds d r', id ∈ CtxOk.mapSlabIds d l ++ CtxOk.mapSlabIds d rr)

theorem pairs_append_of_elems {l rr l' r' : MDataSlab r}
    (h : l.elems.elems ++ rr.elems.elems = l'.elems.elems ++ r'.elems.elems) :
    l.pairs ++ rr.pairs = l'.pairs ++ r'.pairs := by
  simp only [MDataSlab.pairs, HkeyElems.toList, ← List.flatMap_append, h]

theorem rebSpec_zero {l rr l' r' : MDataSlab r} (hl : MDataInv T D false l') (hr : MDataInv T D false r')
    (hk : l.elems.hkeys ++ rr.elems.hkeys = l'.elems.hkeys ++ r'.elems.hkeys)
    (hel : l.elems.elems ++ rr.elems.elems = l'.elems.elems ++ r'.elems.elems)
    (hid1 : l'.hdr.id = l.hdr.id) (hid2 : r'.hdr.id = rr.hdr.id) (hn1 : l'.next = l.next) (hn2 : r'.next = rr.next) :
    RebSpec T D 0 l rr l' r' := by
  refine ⟨(mtreeInv_zero_iff T D _ _).mpr hl, (mtreeInv_zero_iff T D _ _).mpr hr, hid1, hid2,
    pairs_append_of_elems hel, hk, ?_, ?_⟩
  · show LeafRel ([l] ++ [rr]) ([l'] ++ [r'])
    refine ⟨by simp, by simp, ?_, ?_⟩
    · intro dflt; simp only [List.cons_append, List.nil_append, firstId]; exact hid1
    · intro nxt h
      simp only [List.cons_append, List.nil_append, ChainTo] at h ⊢
      rw [hn1, hn2, hid2]; exact h
  · intro id hid
    rw [mapSlabIds_zero, mapSlabIds_zero] at hid ⊢
    have h1 : extIds l'.elems.elems ++ extIds r'.elems.elems = extIds l.elems.elems ++ extIds rr.elems.elems := by
      rw [← extIds_append, ← extIds_append, hel]
    have h2 : ∀ x, x ∈ extIds l'.elems.elems ++ extIds r'.elems.elems ↔ x ∈ extIds l.elems.elems ++ extIds rr.elems.elems := by
      intro x; rw [h1]
    have h3 := h2 id
    simp only [List.mem_append, List.mem_cons] at hid h3 ⊢
    rcases hid with (h | h) | (h | h)
    · left; left; rw [h]; exact hid1
    · rcases h3.mp (Or.inl h) with h' | h'
      · left; right; exact h'
      · right; right; exact h'
    · right; left; rw [h]; exact hid2
    · rcases h3.mp (Or.inr h) with h' | h'
      · left; right; exact h'
      · right; right; exact h'

theorem rebSpec_succ (hT : legalThreshold T = true) {d : Nat} {l rr l' r' : MMetaSlab (MTree r d)}
    (hl0 : SInv T D (d + 1) false l)
    (hl : MTreeInv T D (d + 1) false l') (hr : MTreeInv T D (d + 1) false r')
    (hch : l.children ++ rr.children = l'.children ++ r'.children)
    (hid1 : l'.hdr.id = l.hdr.id) (hid2 : r'.hdr.id = rr.hdr.id) :
    RebSpec T D (d + 1) l rr l' r' := by
  have hfm : ∀ {β : Type} (f : MTree r d → List β),
      l.children.flatMap f ++ rr.children.flatMap f = l'.children.flatMap f ++ r'.children.flatMap f := by
    intro β f; rw [← List.flatMap_append, ← List.flatMap_append, hch]
  refine ⟨hl, hr, hid1, hid2, hfm _, hfm _, ?_, ?_⟩
  · have : leaves (d + 1) l' ++ leaves (d + 1) r' = leaves (d + 1) l ++ leaves (d + 1) rr := (hfm _).symm
    rw [this]
    refine LeafRel.refl ?_
    have := SInv.leaves_ne_nil hT (d + 1) false l hl0
    simp [this]
  · intro id hid
    rw [mapSlabIds_succ, mapSlabIds_succ] at hid ⊢
    have h2 : ∀ x, x ∈ l'.children.flatMap (CtxOk.mapSlabIds d) ++ r'.children.flatMap (CtxOk.mapSlabIds d) ↔
        x ∈ l.children.flatMap (CtxOk.mapSlabIds d) ++ rr.children.flatMap (CtxOk.mapSlabIds d) := by
      intro x; rw [hfm]
    have h3 := h2 id
    simp only [List.mem_append, List.mem_cons] at hid h3 ⊢
    rcases hid with (h | h) | (h | h)
    · left; left; rw [h]; exact hid1
    · rcases h3.mp (Or.inl h) with h' | h'
      · left; right; exact h'
      · right; right; exact h'
    · right; left; rw [h]; exact hid2
    · rcases h3.mp (Or.inr h) with h' | h'
      · left; right; exact h'
      · right; right; exact h'

theorem lend_spec (hT : legalThreshold T = true) : ∀ (d : Nat) (l rr : MTree r d),
    MTreeInv T D d false l → SInv T D d false rr → (hdr d rr).size < minThr T →
    canLendToRight T d l (minThr T - (hdr d rr).size) = true →
    (hdr d rr).id.addr = (hdr d l).id.addr →
    (∀ a ∈ digests0 d l, ∀ b ∈ digests0 d rr, a < b) →
    ∃ l' r', lendToRight T d l rr = .ok (l', r') ∧ RebSpec T D d l rr l' r'
  | 0, l, rr, hl, hr, hu, hcan, _, hlt => by
    obtain ⟨l', r', heq, h1, h2, h3, h4, h5, h6, h7, h8⟩ :=
      MDataSlab.lendToRight_spec hT (l := l) (rr := rr) ((mtreeInv_zero_iff T D _ _).mp hl) hr hu hcan hlt
    exact ⟨l', r', heq, rebSpec_zero h1 h2 h3 h4 h5 h6 h7 h8⟩
  | d + 1, l, rr, hl, hr, hu, hcan, haddr, hlt => by
    obtain ⟨h1, h2, h3, h4, h5⟩ := MMetaSlab.lendToRight_spec hT (l := l) (rr := rr) hl hr.1 hu hcan haddr hlt
    exact ⟨_, _, rfl, rebSpec_succ hT (MTreeInv.sinv hT hl) h1 h2 h3 h4 h5⟩

theorem borrow_spec (hT : legalThreshold T = true) : ∀ (d : Nat) (l rr : MTree r d),
    SInv T D d false l → MTreeInv T D d false rr → (hdr d l).size < minThr T →
    canLendToLeft T d rr (minThr T - (hdr d l).size) = true →
    (hdr d rr).id.addr = (hdr d l).id.addr →
    (∀ a ∈ digests0 d l, ∀ b ∈ digests0 d rr, a < b) →
    ∃ l' r', borrowFromRight T d l rr = .ok (l', r') ∧ RebSpec T D d l rr l' r'
  | 0, l, rr, hl, hr, hu, hcan, _, hlt => by
    obtain ⟨l', r', heq, h1, h2, h3, h4, h5, h6, h7, h8⟩ :=
      MDataSlab.borrowFromRight_spec hT (l := l) (rr := rr) hl ((mtreeInv_zero_iff T D _ _).mp hr) hu hcan hlt
    exact ⟨l', r', heq, rebSpec_zero h1 h2 h3 h4 h5 h6 h7 h8⟩
  | d + 1, l, rr, hl, hr, hu, hcan, haddr, hlt => by
    obtain ⟨h1, h2, h3, h4, h5, _⟩ := MMetaSlab.borrowFromRight_spec hT (l := l) (rr := rr) hl.1 hl.2 hr hu hcan haddr hlt
    exact ⟨_, _, rfl, rebSpec_succ hT hl h1 h2 h3 h4 h5⟩

/-- merging an underflowing subtree with a sibling that cannot lend stays within the band -/
theorem merge_band (hT : legalThreshold T = true) : ∀ (d : Nat) (u sib : MTree r d),
    SInv T D d false u → MTreeInv T D d false sib → (hdr d u).size < minThr T →
    (canLendToLeft T d sib (minThr T - (hdr d u).size) = false ∨
     canLendToRight T d sib (minThr T - (hdr d u).size) = false) →
    minThr T + mergeGain d ≤ (hdr d u).size + (hdr d sib).size ∧
    (hdr d u).size + (hdr d sib).size ≤ maxThr T + mergeGain d
  | 0, u, sib, hu, hs, hlt, hcan => by
    rcases hcan with h | h
    · exact MDataSlab.merge_band hT (u := u) (sib := sib) hu ((mtreeInv_zero_iff T D _ _).mp hs) hlt h
    · exact MDataSlab.merge_band hT (u := u) (sib := sib) hu ((mtreeInv_zero_iff T D _ _).mp hs) hlt h
  | d + 1, u, sib, hu, hs, hlt, hcan => by
    rcases hcan with h | h
    · exact MMetaSlab.merge_band hT (u := u) (sib := sib) hu.1 hs hlt h
    · exact MMetaSlab.merge_band hT (u := u) (sib := sib) hu.1 hs hlt h

end MTree
end Atree

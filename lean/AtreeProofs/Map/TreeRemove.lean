import AtreeProofs.Map.TreeSet
/-
  `MTree.remove` by induction on the depth, on `descend_step` / `leaf_step` of `TreeSet.lean`.
-/
namespace Atree
open Gen

variable {T : Nat} {r : Nat} {D : DigestFn (r + 1)} {d : Nat} {cfg : MCfg}

/-- postcondition of a successful `MTree.remove` -/
structure TRemPost (T : Nat) (D : DigestFn (r + 1)) (d : Nat) (top : Bool) (t t' : MTree r d) (k : MKey)
    (v : Elem) (c c' : Ctx) : Prop where
  sinv : SInv T D d top t'
  size_le : (MTree.hdr d t').size ≤ (MTree.hdr d t).size + slack1 T d
  eff : RemEffect (MTree.toList d t) (MTree.toList d t') k v
  ctr : c.ctr ≤ c'.ctr
  ids : ∀ id ∈ CtxOk.mapSlabIds d t', id ∈ CtxOk.mapSlabIds d t ∨ id.idx ≤ c'.ctr
  digs : ∀ x ∈ MTree.digests0 d t', x ∈ MTree.digests0 d t
  id_eq : (MTree.hdr d t').id = (MTree.hdr d t).id
  leaves : LeafRel (MTree.leaves d t) (MTree.leaves d t')
  inl : treeInl d t' = treeInl d t

theorem TRemPost.post {top : Bool} {t t' : MTree r d} {k : MKey} {v : Elem} {c c' : Ctx}
    (h : TRemPost T D d top t t' k v c c') :
    TPost T D d top t t' (fun l l' => RemEffect l l' k v) (fun _ => False) c c' :=
  ⟨h.sinv, h.size_le, h.eff, h.ctr, h.ids, fun x hx => Or.inl (h.digs x hx), h.id_eq, h.leaves⟩

theorem TPost.remove {top : Bool} {t t' : MTree r d} {k : MKey} {v : Elem} {c c' : Ctx}
    (h : TPost T D d top t t' (fun l l' => RemEffect l l' k v) (fun _ => False) c c')
    (hinl : treeInl d t' = treeInl d t) : TRemPost T D d top t t' k v c c' :=
  ⟨h.sinv, h.size_le, h.eff, h.ctr, h.ids, fun x hx => (h.digs x hx).resolve_right id, h.id_eq, h.leaves,
    hinl⟩

theorem remove_spec_zero (hT : legalThreshold T = true) (hc : CfgFor cfg T (r + 1)) {top : Bool} (s : MDataSlab r)
    (hs : MDataLoose T D top s) {k : MKey} (hk : KeyOk T (r + 1) D k) (c : Ctx) :
    ((∀ p ∈ MTree.toList 0 s, p.1 ≠ k) → MTree.remove cfg 0 s k c = .error .keyNotFound) ∧
    (∀ v, (k, v) ∈ MTree.toList 0 s → ∃ t' c', MTree.remove cfg 0 s k c = .ok (k, v, t', c') ∧
      TRemPost T D 0 top s t' k v c c') := by
  obtain ⟨h1, h2⟩ := MDataSlab.remove_spec hT hc hs hk c
  refine ⟨h1, ?_⟩
  intro v hv
  obtain ⟨s', c', heq, hp⟩ := h2 v hv
  obtain ⟨hids, hlv⟩ := leaf_step (ctr := c'.ctr) hp.id_eq hp.next_eq (fun id h => Or.inl (hp.ids id h))
  refine ⟨s', c', heq, ⟨hp.loose, ?_, hp.eff, by rw [hp.ctr]; exact Nat.le_refl _, hids, hp.hk_new, hp.id_eq,
    hlv, hp.inl_eq⟩⟩
  have := hp.size_le
  show s'.hdr.size ≤ s.hdr.size + maxEntry T
  simp only [maxEntry]; omega

theorem remove_spec_succ (hT : legalThreshold T = true) (hcT : cfg.T = T) {top : Bool} (m : MMetaSlab (MTree r d))
    (hm : MetaLoose T D d top m) (h2 : 2 ≤ m.children.length) {k : MKey} (c : Ctx)
    (ih : ∀ ch ∈ m.children,
      ((∀ p ∈ MTree.toList d ch, p.1 ≠ k) → MTree.remove cfg d ch k c = .error .keyNotFound) ∧
      (∀ v, (k, v) ∈ MTree.toList d ch → ∃ t' c', MTree.remove cfg d ch k c = .ok (k, v, t', c') ∧
        TRemPost T D d false ch t' k v c c')) :
    ((∀ p ∈ MTree.toList (d + 1) m, p.1 ≠ k) → MTree.remove cfg (d + 1) m k c = .error .keyNotFound) ∧
    (∀ v, (k, v) ∈ MTree.toList (d + 1) m → ∃ t' c', MTree.remove cfg (d + 1) m k c = .ok (k, v, t', c') ∧
      TRemPost T D (d + 1) top m t' k v c c') := by
  have hroute := route hT hm (by omega) (k.dig 0)
  cases hr : MMetaSlab.findChild m.childHdrs (k.dig 0) 0 m.childHdrs.length none (m.childHdrs.length + 1) with
  | none =>
    rw [hr] at hroute
    have habs : ∀ p ∈ MTree.toList (d + 1) m, p.1 ≠ k := by
      rw [MTree.toList_succ]
      exact absent_of_digs hm.kid_inv (fun h => by have := hroute.1 _ h; omega)
    constructor
    · intro _; simp only [MTree.remove, hr]; rfl
    · intro v hv; exact absurd rfl (habs _ hv)
  | some i =>
    rw [hr] at hroute
    obtain ⟨A, child, B, hrt, _⟩ := hroute
    have hci : m.children[i]? = some child := by rw [hrt.ch]; exact get_at hrt.len
    have hmem : child ∈ m.children := List.mem_of_getElem? hci
    obtain ⟨ih1, ih2⟩ := ih child hmem
    obtain ⟨hA, hB⟩ := hrt.absent hm (k := k)
    have htl := hrt.toList_eq
    constructor
    · intro hne
      have : ∀ p ∈ MTree.toList d child, p.1 ≠ k := by
        intro p hp; apply hne; rw [htl]; exact List.mem_append_right _ (List.mem_append_left _ hp)
      simp only [MTree.remove, hr, hci, ih1 this, bind, Except.bind]
    · intro v hv
      have hv' : (k, v) ∈ MTree.toList d child := by
        rw [htl] at hv
        rcases List.mem_append.mp hv with h | h
        · exact absurd rfl (hA _ h)
        · rcases List.mem_append.mp h with h | h
          · exact h
          · exact absurd rfl (hB _ h)
      obtain ⟨child', c1, heq, hp⟩ := ih2 v hv'
      obtain ⟨m', c', heq2, hpost⟩ := descend_step hT hm h2 hrt hp.post (fun _ h => h.elim)
        (hp.eff.lift _ _)
      simp only [MTree.remove, hr, hci, heq, hcT, heq2, bind, Except.bind, pure, Except.pure]
      exact ⟨m', c', rfl, hpost.remove rfl⟩

theorem MTree.remove_spec (hT : legalThreshold T = true) (hc : CfgFor cfg T (r + 1)) {k : MKey}
    (hk : KeyOk T (r + 1) D k) :
    ∀ (d : Nat) (top : Bool) (t : MTree r d) (c : Ctx), MTreeInv T D d top t →
    ((∀ p ∈ MTree.toList d t, p.1 ≠ k) → MTree.remove cfg d t k c = .error .keyNotFound) ∧
    (∀ v, (k, v) ∈ MTree.toList d t → ∃ t' c', MTree.remove cfg d t k c = .ok (k, v, t', c') ∧
      TRemPost T D d top t t' k v c c')
  | 0, _, s, c, h => remove_spec_zero hT hc s ((mtreeInv_zero_iff T D _ _).mp h).loose hk c
  | d + 1, _, m, c, h =>
    have h' := MTreeInv.two_children hT h
    remove_spec_succ hT hc.hT m h'.1 h'.2.1 c
      (fun ch hch => MTree.remove_spec hT hc hk d false ch c (h'.1.kid_inv ch hch))

/-- `MTree.remove_spec` read from a success -/
theorem MTree.remove_post (hT : legalThreshold T = true) (hc : CfgFor cfg T (r + 1)) {k : MKey}
    (hk : KeyOk T (r + 1) D k) {d : Nat} {top : Bool} {t t' : MTree r d} {c c' : Ctx} {rk : MKey} {rv : Elem}
    (hinv : MTreeInv T D d top t) (h : MTree.remove cfg d t k c = .ok (rk, rv, t', c')) :
    rk = k ∧ (k, rv) ∈ MTree.toList d t ∧ TRemPost T D d top t t' k rv c c' := by
  obtain ⟨h1, h2⟩ := MTree.remove_spec hT hc hk d top t c hinv
  by_cases hex : ∃ v, (k, v) ∈ MTree.toList d t
  · obtain ⟨v, hv⟩ := hex
    obtain ⟨_, _, heq, hp⟩ := h2 v hv
    rw [heq] at h; cases h
    exact ⟨rfl, hv, hp⟩
  · rw [h1 fun p hp he => hex ⟨p.2, he ▸ hp⟩] at h; cases h

end Atree

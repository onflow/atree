import AtreeProofs.Map.TreeGet
/-
  What `MTree.set` and `MTree.remove` share (`TPost`, one level above the updated child `descend_step`,
  the leaf level `leaf_step`, `TLimited`, `sorted_replace`), and `MTree.set` by induction on the depth.
-/
namespace Atree
open Gen

variable {T : Nat} {r : Nat} {D : DigestFn (r + 1)} {d : Nat} {cfg : MCfg}

theorem LeafRel.trans {a b c : List (MDataSlab r)} (h1 : LeafRel a b) (h2 : LeafRel b c) : LeafRel a c :=
  let ⟨ha, _, hfirst1, hchain1⟩ := h1
  let ⟨_, hc, hfirst2, hchain2⟩ := h2
  ⟨ha, hc, fun dflt => by rw [hfirst2, hfirst1], fun nxt h => hchain2 nxt (hchain1 nxt h)⟩

theorem leaf_hkeys_sub : ∀ (d : Nat) (t : MTree r d) (s : MDataSlab r), s ∈ MTree.leaves d t →
    ∀ x ∈ s.elems.hkeys, x ∈ MTree.digests0 d t
  | 0, t, s, hs, x, hx => by
    have : s = t := List.mem_singleton.mp hs
    subst this; exact hx
  | d + 1, m, s, hs, x, hx => by
    obtain ⟨c, hc, hsc⟩ := List.mem_flatMap.mp hs
    exact List.mem_flatMap.mpr ⟨c, hc, leaf_hkeys_sub d c s hsc x hx⟩

/-- the collision limit refuses the insertion of `k` somewhere in the subtree -/
def TLimited (cfg : MCfg) (d : Nat) (t : MTree r d) (k : MKey) : Prop :=
  ∃ s ∈ MTree.leaves d t, Limited (MElems.ops r) cfg s.elems 0 k

theorem Limited.dig_mem {s : MDataSlab r} {k : MKey} (h : Limited (MElems.ops r) cfg s.elems 0 k) :
    k.dig 0 ∈ s.elems.hkeys := by
  obtain ⟨_, i, el, hi, _⟩ := h
  exact List.mem_of_getElem? hi

theorem tlimited_routed {m : MMetaSlab (MTree r d)} {k : MKey} {i : Nat} {A B : List (MTree r d)}
    {child : MTree r d} (hr : Routed d m (k.dig 0) i A child B) :
    TLimited cfg (d + 1) m k ↔ TLimited cfg d child k := by
  constructor
  · rintro ⟨s, hs, hl⟩
    have hdig := hl.dig_mem
    rw [MTree.leaves_succ, hr.ch] at hs
    simp only [List.flatMap_append, List.flatMap_cons, List.mem_append] at hs
    rcases hs with hs | hs | hs
    · exfalso
      obtain ⟨c, hc, hsc⟩ := List.mem_flatMap.mp hs
      have := hr.lo _ (List.mem_flatMap.mpr ⟨c, hc, leaf_hkeys_sub d c s hsc _ hdig⟩)
      omega
    · exact ⟨s, hs, hl⟩
    · exfalso
      obtain ⟨c, hc, hsc⟩ := List.mem_flatMap.mp hs
      have := hr.hi _ (List.mem_flatMap.mpr ⟨c, hc, leaf_hkeys_sub d c s hsc _ hdig⟩)
      omega
  · rintro ⟨s, hs, hl⟩
    refine ⟨s, ?_, hl⟩
    rw [MTree.leaves_succ, hr.ch]
    simp only [List.flatMap_append, List.flatMap_cons, List.mem_append]
    exact Or.inr (Or.inl hs)

/-- the slack a subtree gains in one update -/
def slack1 (T : Nat) : Nat → Nat
  | 0 => maxEntry T
  | _ + 1 => mapSlabHeaderSize

theorem slack1_le (T d : Nat) : slack1 T d ≤ slack T d := by
  cases d <;> simp [slack1, slack]

/-- `inlined` flag of a tree (only a root data slab can be inlined) -/
def treeInl : (d : Nat) → MTree r d → Bool
  | 0, (s : MDataSlab r) => s.inlined
  | _ + 1, _ => false

theorem treeInl_of_nontop : ∀ (d : Nat) (t : MTree r d), MTreeInv T D d false t → treeInl d t = false
  | 0, s, h => by
    have hs := (mtreeInv_zero_iff T D false s).mp h
    show s.inlined = false
    cases hi : s.inlined with
    | false => rfl
    | true => have := hs.inl_root hi; cases this
  | _ + 1, _, _ => rfl

/-- postcondition of a successful `MTree.set` -/
structure TSetPost (T : Nat) (D : DigestFn (r + 1)) (d : Nat) (top : Bool) (t t' : MTree r d) (k : MKey)
    (sv : Elem) (old : Option Elem) (c c' : Ctx) : Prop where
  sinv : SInv T D d top t'
  size_le : (MTree.hdr d t').size ≤ (MTree.hdr d t).size + slack1 T d
  eff : SetEffect (MTree.toList d t) (MTree.toList d t') k sv old
  ctr : c.ctr ≤ c'.ctr
  ids : ∀ id ∈ CtxOk.mapSlabIds d t', id ∈ CtxOk.mapSlabIds d t ∨ id.idx ≤ c'.ctr
  digs : ∀ x ∈ MTree.digests0 d t', x ∈ MTree.digests0 d t ∨ x = k.dig 0
  id_eq : (MTree.hdr d t').id = (MTree.hdr d t).id
  leaves : LeafRel (MTree.leaves d t) (MTree.leaves d t')
  inl : treeInl d t' = treeInl d t

/-- What `TSetPost` and `TRemPost` have in common, with the difference as parameters: `E` the effect
    on the pairs, `Q` the first-level digests that may be new. -/
structure TPost (T : Nat) (D : DigestFn (r + 1)) (d : Nat) (top : Bool) (t t' : MTree r d)
    (E : List (MKey × Elem) → List (MKey × Elem) → Prop) (Q : Nat → Prop) (c c' : Ctx) : Prop where
  sinv : SInv T D d top t'
  size_le : (MTree.hdr d t').size ≤ (MTree.hdr d t).size + slack1 T d
  eff : E (MTree.toList d t) (MTree.toList d t')
  ctr : c.ctr ≤ c'.ctr
  ids : ∀ id ∈ CtxOk.mapSlabIds d t', id ∈ CtxOk.mapSlabIds d t ∨ id.idx ≤ c'.ctr
  digs : ∀ x ∈ MTree.digests0 d t', x ∈ MTree.digests0 d t ∨ Q x
  id_eq : (MTree.hdr d t').id = (MTree.hdr d t).id
  leaves : LeafRel (MTree.leaves d t) (MTree.leaves d t')

theorem TSetPost.post {top : Bool} {t t' : MTree r d} {k : MKey} {sv : Elem} {old : Option Elem} {c c' : Ctx}
    (h : TSetPost T D d top t t' k sv old c c') :
    TPost T D d top t t' (fun l l' => SetEffect l l' k sv old) (· = k.dig 0) c c' :=
  ⟨h.sinv, h.size_le, h.eff, h.ctr, h.ids, h.digs, h.id_eq, h.leaves⟩

theorem TPost.set {top : Bool} {t t' : MTree r d} {k : MKey} {sv : Elem} {old : Option Elem} {c c' : Ctx}
    (h : TPost T D d top t t' (fun l l' => SetEffect l l' k sv old) (· = k.dig 0) c c')
    (hinl : treeInl d t' = treeInl d t) : TSetPost T D d top t t' k sv old c c' :=
  ⟨h.sinv, h.size_le, h.eff, h.ctr, h.ids, h.digs, h.id_eq, h.leaves, hinl⟩

theorem sorted_replace {A B : List (MTree r d)} {child child' : MTree r d} {hkey : Nat}
    (hs : (dgs (A ++ child :: B)).Pairwise (· < ·)) (hs' : (MTree.digests0 d child').Pairwise (· < ·))
    (hsub : ∀ x ∈ MTree.digests0 d child', x ∈ MTree.digests0 d child ∨ x = hkey)
    (hlo : ∀ a ∈ dgs A, a < hkey) (hhi : ∀ b ∈ dgs B, hkey < b) :
    (dgs (A ++ child' :: B)).Pairwise (· < ·) := by
  simp only [dgs, List.flatMap_append, List.flatMap_cons] at hs ⊢
  rw [List.pairwise_append] at hs ⊢
  obtain ⟨h1, h2, h3⟩ := hs
  rw [List.pairwise_append] at h2 ⊢
  obtain ⟨h4, h5, h6⟩ := h2
  refine ⟨h1, ⟨hs', h5, ?_⟩, ?_⟩
  · intro a ha b hb
    rcases hsub a ha with h | h
    · exact h6 a h b hb
    · rw [h]; exact hhi b hb
  · intro a ha b hb
    rcases List.mem_append.mp hb with hb | hb
    · rcases hsub b hb with h | h
      · exact h3 a ha b (List.mem_append_left _ h)
      · rw [h]; exact hlo a ha
    · exact h3 a ha b (List.mem_append_right _ hb)

/-- One level of `set` / `remove` above the updated child, whatever the update was.  The child routed
    to by `hkey` was replaced by `child'` with `TPost` (new digests only `Q`, which `hkey` satisfies
    alone); the repair step then succeeds and the parent has `TPost` for the same effect. -/
theorem descend_step (hT : legalThreshold T = true) {top : Bool} {m : MMetaSlab (MTree r d)}
    {A B : List (MTree r d)} {child child' : MTree r d} {hkey i : Nat} {Q : Nat → Prop}
    {E : List (MKey × Elem) → List (MKey × Elem) → Prop} {c c1 : Ctx}
    (hm : MetaLoose T D d top m) (h2 : 2 ≤ m.children.length) (hrt : Routed d m hkey i A child B)
    (hp : TPost T D d false child child' E Q c c1) (hQ : ∀ x, Q x → x = hkey)
    (heff : E (prs A ++ (MTree.toList d child ++ prs B)) (prs A ++ (MTree.toList d child' ++ prs B))) :
    ∃ m' c', m.afterChild T child' i c1 = .ok (m', c') ∧ TPost T D (d + 1) top m m' E Q c c' := by
  obtain ⟨hsinv, hsize, -, hctr, hids, hdigs, hid, hleaves⟩ := hp
  have hch := hrt.ch
  have hmem : child ∈ m.children := by rw [hch]; simp
  have hsorted : (dgs (A ++ child' :: B)).Pairwise (· < ·) := by
    have := hm.sorted
    rw [hch] at this
    exact sorted_replace this (SInv.sorted d false child' hsinv)
      (fun x hx => (hdigs x hx).imp_right (hQ x)) hrt.lo hrt.hi
  -- the old child is in the band, the new one at most `slack1 ≤ slack` larger
  have hcs : (MTree.hdr d child).size ≤ maxThr T :=
    ((mtreeInv_false_iff hT d child).mp (hm.kid_inv child hmem)).2.2
  obtain ⟨m', c', heq, hpost⟩ := afterChild_post hT hm hch h2 hrt.len hsinv
    (Nat.le_trans hsize (Nat.add_le_add hcs (slack1_le T d))) hid hsorted c1
  have hmid : ∀ {β : Type} (f : MTree r d → List β),
      m.children.flatMap f = A.flatMap f ++ (f child ++ B.flatMap f) := fun f => by
    rw [hch]; simp [List.flatMap_append]
  refine ⟨m', c', heq, ⟨hpost.loose, hpost.len1⟩, ?_, ?_, Nat.le_trans hctr hpost.ctr, ?_, ?_,
    hpost.id_eq, ?_⟩
  · show m'.hdr.size ≤ m.hdr.size + mapSlabHeaderSize
    rw [hpost.loose.size_eq, hm.size_eq]
    have := hpost.len_le
    simp only [mapSlabHeaderSize]; omega
  · rw [MTree.toList_succ, MTree.toList_succ, hmid]
    show E _ (prs m'.children)
    rw [hpost.pairs]; exact heff
  · intro id hid
    rw [mapSlabIds_succ] at hid ⊢
    rcases List.mem_cons.mp hid with h | h
    · left; rw [h, hpost.id_eq]; exact List.mem_cons_self
    · have old : ∀ {l : List SlabID}, id ∈ l → l.Sublist (A.flatMap (CtxOk.mapSlabIds d) ++
          (CtxOk.mapSlabIds d child ++ B.flatMap (CtxOk.mapSlabIds d))) →
          id ∈ m.hdr.id :: m.children.flatMap (CtxOk.mapSlabIds d) ∨ id.idx ≤ c'.ctr := fun hi hs =>
        Or.inl (List.mem_cons_of_mem _ (by rw [hmid]; exact hs.subset hi))
      rcases hpost.ids id h with h' | h'
      · rcases List.mem_append.mp h' with h'' | h''
        · exact old h'' (List.sublist_append_left _ _)
        · rcases List.mem_append.mp h'' with h3 | h3
          · rcases hids id h3 with h4 | h4
            · exact old h4 ((List.sublist_append_left _ _).trans (List.sublist_append_right _ _))
            · right; exact Nat.le_trans h4 hpost.ctr
          · exact old h3 ((List.sublist_append_right _ _).trans (List.sublist_append_right _ _))
      · right; exact h'
  · intro x hx
    rw [MTree.digests0_succ] at hx ⊢
    have hx' : x ∈ dgs m'.children := hx
    rw [hpost.digs] at hx'
    rw [hmid]
    rcases List.mem_append.mp hx' with h | h
    · left; exact List.mem_append_left _ h
    · rcases List.mem_append.mp h with h | h
      · exact (hdigs x h).imp_left fun h' => List.mem_append_right _ (List.mem_append_left _ h')
      · left; exact List.mem_append_right _ (List.mem_append_right _ h)
  · rw [MTree.leaves_succ, MTree.leaves_succ, hmid]
    exact (hleaves.lift _ _).trans hpost.leaves

/-- the leaf level of `set` / `remove`: a data slab rewritten in place (same identifier and link, groups
    old or fresh) keeps the slab IDs and the leaf chain -/
theorem leaf_step {s s' : MDataSlab r} {ctr : Nat} (hid : s'.hdr.id = s.hdr.id) (hnext : s'.next = s.next)
    (hids : ∀ id ∈ extIds s'.elems.elems, id ∈ extIds s.elems.elems ∨ id.idx ≤ ctr) :
    (∀ id ∈ CtxOk.mapSlabIds 0 s', id ∈ CtxOk.mapSlabIds 0 s ∨ id.idx ≤ ctr) ∧
      LeafRel (MTree.leaves 0 s) (MTree.leaves 0 s') := by
  constructor
  · intro id h
    rw [mapSlabIds_zero] at h ⊢
    rcases List.mem_cons.mp h with h | h
    · left; rw [h, hid]; exact List.mem_cons_self
    · exact (hids id h).imp_left (List.mem_cons_of_mem _)
  · show LeafRel [s] [s']
    refine ⟨by simp, by simp, fun _ => ?_, fun nxt h => ?_⟩
    · simp only [firstId]; exact hid
    · simp only [ChainTo] at h ⊢; rw [hnext]; exact h

theorem set_spec_zero_ref (hT : legalThreshold T = true) (hc : CfgFor cfg T (r + 1)) {top : Bool} (s : MDataSlab r)
    (hs : MDataLoose T D top s) {k : MKey} (hk : KeyOk T (r + 1) D k) {v : Elem} (hv : ValueOkR T k.size v) (c : Ctx) :
    (TLimited cfg 0 s k → MTree.set cfg 0 s k v c = .error .collisionLimit) ∧
    (¬ TLimited cfg 0 s k → ∃ old t' c', MTree.set cfg 0 s k v c = .ok (k, old, t', c') ∧
      TSetPost T D 0 top s t' k (storedValue cfg k v c) old c c') := by
  have hiff : TLimited cfg 0 s k ↔ Limited (MElems.ops r) cfg s.elems 0 k := by
    constructor
    · rintro ⟨s', hs', hl⟩
      have : s' = s := by simpa [MTree.leaves] using hs'
      subst this; exact hl
    · intro hl; exact ⟨s, by simp [MTree.leaves], hl⟩
  obtain ⟨h1, h2⟩ := MDataSlab.set_spec_ref hT hc hs hk hv c
  constructor
  · intro hl; exact h1 (hiff.mp hl)
  · intro hnl
    obtain ⟨old, s', c', heq, hp⟩ := h2 (fun h => hnl (hiff.mpr h))
    obtain ⟨hids, hlv⟩ := leaf_step hp.id_eq hp.next_eq hp.ids
    exact ⟨old, s', c', heq, ⟨hp.loose, hp.size_le, hp.eff, hp.ctr, hids, hp.hk_new, hp.id_eq, hlv, hp.inl_eq⟩⟩

theorem set_spec_zero (hT : legalThreshold T = true) (hc : CfgFor cfg T (r + 1)) {top : Bool} (s : MDataSlab r)
    (hs : MDataLoose T D top s) {k : MKey} (hk : KeyOk T (r + 1) D k) {v : Elem} (hv : ValueOkM v) (c : Ctx) :
    (TLimited cfg 0 s k → MTree.set cfg 0 s k v c = .error .collisionLimit) ∧
    (¬ TLimited cfg 0 s k → ∃ old t' c', MTree.set cfg 0 s k v c = .ok (k, old, t', c') ∧
      TSetPost T D 0 top s t' k (storedValue cfg k v c) old c c') :=
  set_spec_zero_ref hT hc s hs hk (hv.okR T k.size) c

theorem set_spec_succ (hT : legalThreshold T = true) (hcT : cfg.T = T) {top : Bool} (m : MMetaSlab (MTree r d))
    (hm : MetaLoose T D d top m) (h2 : 2 ≤ m.children.length) {k : MKey} {v : Elem} {sv : Elem} (c : Ctx)
    (ih : ∀ ch ∈ m.children,
      (TLimited cfg d ch k → MTree.set cfg d ch k v c = .error .collisionLimit) ∧
      (¬ TLimited cfg d ch k → ∃ old t' c', MTree.set cfg d ch k v c = .ok (k, old, t', c') ∧
        TSetPost T D d false ch t' k sv old c c')) :
    (TLimited cfg (d + 1) m k → MTree.set cfg (d + 1) m k v c = .error .collisionLimit) ∧
    (¬ TLimited cfg (d + 1) m k → ∃ old t' c', MTree.set cfg (d + 1) m k v c = .ok (k, old, t', c') ∧
      TSetPost T D (d + 1) top m t' k sv old c c') := by
  obtain ⟨A, child, B, hrt⟩ := route_set hT hm (by omega) (k.dig 0)
  generalize hi : (MMetaSlab.findChild m.childHdrs (k.dig 0) 0 m.childHdrs.length (some 0)
    (m.childHdrs.length + 1)).getD 0 = i at hrt
  have hci : m.children[i]? = some child := by rw [hrt.ch]; exact get_at hrt.len
  have hmem : child ∈ m.children := List.mem_of_getElem? hci
  obtain ⟨ih1, ih2⟩ := ih child hmem
  have hlim := tlimited_routed (cfg := cfg) hrt
  obtain ⟨hA, hB⟩ := hrt.absent hm (k := k)
  constructor
  · intro hl
    have := ih1 (hlim.mp hl)
    simp only [MTree.set, hi, hci, this, bind, Except.bind]
  · intro hnl
    obtain ⟨old, child', c1, heq, hp⟩ := ih2 (fun h => hnl (hlim.mpr h))
    obtain ⟨m', c', heq2, hpost⟩ := descend_step hT hm h2 hrt hp.post (fun _ h => h)
      (hp.eff.lift _ _ hA hB)
    simp only [MTree.set, hi, hci, heq, hcT, heq2, bind, Except.bind, pure, Except.pure]
    exact ⟨old, m', c', rfl, hpost.set rfl⟩

theorem MTreeInv.two_children (hT : legalThreshold T = true) {top : Bool} {m : MMetaSlab (MTree r d)}
    (h : MTreeInv T D (d + 1) top m) : MetaLoose T D d top m ∧ 2 ≤ m.children.length ∧ m.hdr.size ≤ maxThr T := by
  obtain ⟨hm, h1, h2, h3⟩ := (mtreeInv_succ_iff T D d top m).mp h
  refine ⟨hm, ?_, h1⟩
  cases top with
  | true => exact h3 rfl
  | false =>
    have := h2 rfl
    have hmin := map_minThr_ge hT
    rw [hm.size_eq] at this
    omega

theorem MTree.set_spec_ref (hT : legalThreshold T = true) (hc : CfgFor cfg T (r + 1)) {k : MKey}
    (hk : KeyOk T (r + 1) D k) {v : Elem} (hv : ValueOkR T k.size v) :
    ∀ (d : Nat) (top : Bool) (t : MTree r d) (c : Ctx), MTreeInv T D d top t →
    (TLimited cfg d t k → MTree.set cfg d t k v c = .error .collisionLimit) ∧
    (¬ TLimited cfg d t k → ∃ old t' c', MTree.set cfg d t k v c = .ok (k, old, t', c') ∧
      TSetPost T D d top t t' k (storedValue cfg k v c) old c c')
  | 0, _, s, c, h => set_spec_zero_ref hT hc s ((mtreeInv_zero_iff T D _ _).mp h).loose hk hv c
  | d + 1, _, m, c, h =>
    have h' := MTreeInv.two_children hT h
    set_spec_succ hT hc.hT m h'.1 h'.2.1 c
      (fun ch hch => MTree.set_spec_ref hT hc hk hv d false ch c (h'.1.kid_inv ch hch))

/-- `MTree.set_spec_ref` read from a success -/
theorem MTree.set_post (hT : legalThreshold T = true) (hc : CfgFor cfg T (r + 1)) {k : MKey}
    (hk : KeyOk T (r + 1) D k) {v : Elem} (hv : ValueOkR T k.size v) {d : Nat} {top : Bool} {t t' : MTree r d}
    {c c' : Ctx} {ks : MKey} {old : Option Elem} (hinv : MTreeInv T D d top t)
    (h : MTree.set cfg d t k v c = .ok (ks, old, t', c')) :
    ks = k ∧ TSetPost T D d top t t' k (storedValue cfg k v c) old c c' := by
  obtain ⟨h1, h2⟩ := MTree.set_spec_ref hT hc hk hv d top t c hinv
  by_cases hl : TLimited cfg d t k
  · rw [h1 hl] at h; cases h
  · obtain ⟨_, _, _, heq, hp⟩ := h2 hl
    rw [heq] at h; cases h
    exact ⟨rfl, hp⟩

theorem MTree.set_spec (hT : legalThreshold T = true) (hc : CfgFor cfg T (r + 1)) {k : MKey}
    (hk : KeyOk T (r + 1) D k) {v : Elem} (hv : ValueOkM v) :
    ∀ (d : Nat) (top : Bool) (t : MTree r d) (c : Ctx), MTreeInv T D d top t →
    (TLimited cfg d t k → MTree.set cfg d t k v c = .error .collisionLimit) ∧
    (¬ TLimited cfg d t k → ∃ old t' c', MTree.set cfg d t k v c = .ok (k, old, t', c') ∧
      TSetPost T D d top t t' k (storedValue cfg k v c) old c c') :=
  MTree.set_spec_ref hT hc hk (hv.okR T k.size)

end Atree

import AtreeProofs.Map.TreeGet
/-
  What `MapInv` gives of a whole map: the structural invariant of its root (`MapInv.sinv`), sound keys
  (`MapInv.allKeyOk`), and `OMap.get` as a lookup in the dictionary the map represents (`OMap.get_spec`).
-/
namespace Atree
open Gen

variable {T : Nat} {r : Nat} {D : DigestFn (r + 1)}

theorem MTreeInv.sinv_top : ∀ (d : Nat) (t : MTree r d), MTreeInv T D d true t → SInv T D d true t
  | 0, _, h => ((mtreeInv_zero_iff T D _ _).mp h).loose
  | _ + 1, m, h => by
    have := (mtreeInv_succ_iff T D _ true m).mp h
    exact ⟨this.1, by have := this.2.2.2 rfl; omega⟩

theorem MapInv.sinv {m : OMap r} (h : MapInv T D m) : SInv T D m.d true m.root := MTreeInv.sinv_top m.d m.root h.tree

theorem MapInv.allKeyOk {m : OMap r} (h : MapInv T D m) : AllKeyOk T (r + 1) D m.toList :=
  fun p hp => (MTreeInv.pairs_ok m.d true m.root h.tree p hp).1

theorem OMap.get_spec (hT : legalThreshold T = true) {cfg : MCfg} {m : OMap r} (hcfg : CfgOk cfg T m)
    (h : MapInv T D m) {k : MKey} (hk : KeyOk T (r + 1) D k) :
    match dictLookup m.toList k with
    | some v => m.get cfg k = .ok (k, v)
    | none => m.get cfg k = .error .keyNotFound := by
  have hc : CfgFor cfg T (r + 1) := ⟨hcfg.1, hcfg.2.1⟩
  have hg := MTree.get_spec hT hc m.d true m.root h.sinv hk
  cases hd : dictLookup m.toList k with
  | none =>
    simp only
    exact hg.2 ((dictLookup_none_iff h.allKeyOk hk).mp hd)
  | some v =>
    simp only
    exact hg.1 v (mem_of_dictLookup_some h.allKeyOk hk hd)

end Atree

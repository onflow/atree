import AtreeModel.StorageOps
import AtreeModel.SlabIdBytes
import AtreeModel.Codec.Encode
import AtreeProofs.AListLemmas
/-
  The insertion sorts of the model (`St.insertSorted`, `SlabIdB.insertSortedB`, `Codec.insertBytes`, `Codec.insertKey`:
  each models a `sort.Slice` / `sort.Strings` call) are one function `insBy lt` of the comparison; what holds for
  every comparison (permutation, membership, `map`, sortedness under a strict total order) is proved for `insBy` and reaches the four through `*_eq_insBy`.
  Then the key orders of the commit functions: `SlabID.lt` is a strict total order, `sortIDs` (`sortedOwnedDeltaKeys`)
  sorts by it, and `normOrder` (re-validation of caller supplied orders).
-/
namespace Atree

/-- insertion before the first element that `k` is less than -/
def insBy {α : Type} (lt : α → α → Bool) (k : α) : List α → List α
  | [] => [k]
  | x :: xs => if lt k x then k :: x :: xs else x :: insBy lt k xs

section insBy
variable {α : Type} (lt : α → α → Bool)

theorem insBy_perm (k : α) : ∀ l : List α, (insBy lt k l).Perm (k :: l)
  | [] => .refl _
  | x :: xs => by
    unfold insBy
    split
    · exact .refl _
    · exact ((insBy_perm k xs).cons x).trans (List.Perm.swap k x xs)

theorem mem_insBy {k y : α} {l : List α} : y ∈ insBy lt k l ↔ y = k ∨ y ∈ l := by
  rw [(insBy_perm lt k l).mem_iff, List.mem_cons]

theorem foldr_insBy_perm : ∀ l : List α, (l.foldr (insBy lt) []).Perm l
  | [] => .refl _
  | x :: xs => (insBy_perm lt x _).trans ((foldr_insBy_perm xs).cons x)

theorem map_insBy {β : Type} (f : α → β) {lt' : β → β → Bool} (h : ∀ a b, lt' (f a) (f b) = lt a b) (k : α) :
    ∀ l : List α, (insBy lt k l).map f = insBy lt' (f k) (l.map f)
  | [] => rfl
  | x :: xs => by
    simp only [insBy, List.map_cons, h]
    split
    · rfl
    · rw [List.map_cons, map_insBy f h k xs]

theorem map_foldr_insBy {β : Type} (f : α → β) {lt' : β → β → Bool} (h : ∀ a b, lt' (f a) (f b) = lt a b) :
    ∀ l : List α, (l.foldr (insBy lt) []).map f = (l.map f).foldr (insBy lt') []
  | [] => rfl
  | x :: xs => by rw [List.foldr_cons, map_insBy lt f h, map_foldr_insBy f h xs]; rfl

section sorted
variable (hirr : ∀ a, lt a a = false)
  (htrans : ∀ {a b c : α}, lt a b = true → lt b c = true → lt a c = true)
include hirr htrans

/-- Inserting keeps a list sorted by a strict order `lt` in the weak sense: no element is `lt` an earlier one
    (equal elements may repeat). -/
theorem insBy_sorted (k : α) :
    ∀ l : List α, l.Pairwise (fun a b => lt b a = false) → (insBy lt k l).Pairwise (fun a b => lt b a = false)
  | [], _ => by simp [insBy]
  | x :: xs, h => by
    rw [List.pairwise_cons] at h
    unfold insBy
    split
    · rename_i hkx
      refine List.pairwise_cons.mpr ⟨fun y hy => ?_, List.pairwise_cons.mpr h⟩
      -- `k < x`, and `x` is not after `y`: were `y < k`, then `y < x`
      cases hyk : lt y k with
      | false => rfl
      | true =>
        have hyx := htrans hyk hkx
        rcases List.mem_cons.mp hy with rfl | hy
        · rw [hirr] at hyx; cases hyx
        · rw [h.1 y hy] at hyx; cases hyx
    · rename_i hkx
      refine List.pairwise_cons.mpr ⟨fun y hy => ?_, insBy_sorted k xs h.2⟩
      rcases (mem_insBy lt).mp hy with rfl | hy
      · exact Bool.eq_false_iff.mpr hkx
      · exact h.1 y hy

theorem foldr_insBy_sorted : ∀ l : List α, (l.foldr (insBy lt) []).Pairwise (fun a b => lt b a = false)
  | [] => List.Pairwise.nil
  | x :: xs => insBy_sorted lt hirr htrans x _ (foldr_insBy_sorted xs)

/-- An insertion sort forgets the order of its input, when two elements neither of which is `lt` the
    other are equal. -/
theorem foldr_insBy_eq_of_perm (hconn : ∀ {a b : α}, lt a b = false → lt b a = false → a = b)
    {l₁ l₂ : List α} (h : l₁.Perm l₂) : l₁.foldr (insBy lt) [] = l₂.foldr (insBy lt) [] :=
  List.Perm.eq_of_pairwise (fun _ _ _ _ hab hba => hconn hba hab)
    (foldr_insBy_sorted lt hirr htrans l₁) (foldr_insBy_sorted lt hirr htrans l₂)
    ((foldr_insBy_perm lt l₁).trans (h.trans (foldr_insBy_perm lt l₂).symm))

/-- … and sorts distinct elements of a total order strictly. -/
theorem foldr_insBy_pairwise (htotal : ∀ {a b : α}, a ≠ b → lt a b = true ∨ lt b a = true)
    {l : List α} (hnd : l.Nodup) : (l.foldr (insBy lt) []).Pairwise (fun a b => lt a b = true) :=
  ((foldr_insBy_sorted lt hirr htrans l).and ((foldr_insBy_perm lt l).nodup_iff.mpr hnd)).imp
    fun ⟨hba, hne⟩ => (htotal hne).resolve_right (by rw [hba]; nofun)

end sorted

end insBy

theorem St.insertSorted_eq_insBy (k : SlabID) : ∀ l, St.insertSorted k l = insBy SlabID.lt k l
  | [] => rfl
  | x :: xs => by simp only [St.insertSorted, insBy, St.insertSorted_eq_insBy k xs]

theorem SlabIdB.insertSortedB_eq_insBy (k : SlabIDB) :
    ∀ l, SlabIdB.insertSortedB k l = insBy SlabIdB.sortedKeysLess k l
  | [] => rfl
  | x :: xs => by simp only [SlabIdB.insertSortedB, insBy, SlabIdB.insertSortedB_eq_insBy k xs]

theorem Codec.insertBytes_eq_insBy (k : Bytes) : ∀ l, Codec.insertBytes k l = insBy Codec.bytesLt k l
  | [] => rfl
  | x :: xs => by simp only [Codec.insertBytes, insBy, Codec.insertBytes_eq_insBy k xs]

/-- `insertKey` tests `keyLess x k`, the other way round: it inserts before the first `x` that is not less than `k` -/
theorem Codec.insertKey_eq_insBy (k : Nat × Nat) :
    ∀ l, Codec.insertKey k l = insBy (fun a b => !Codec.keyLess b a) k l
  | [] => rfl
  | x :: xs => by
    simp only [Codec.insertKey, insBy, Codec.insertKey_eq_insBy k xs]
    by_cases h : Codec.keyLess x k = true <;> simp [h]

theorem SlabID.eq_of_addr_idx {a b : SlabID} (h1 : a.addr = b.addr) (h2 : a.idx = b.idx) : a = b := by
  cases a; cases b; simp_all

theorem SlabID.lt_iff (a b : SlabID) :
    SlabID.lt a b = true ↔ (a.addr < b.addr ∨ (a.addr = b.addr ∧ a.idx < b.idx)) := by
  unfold SlabID.lt
  by_cases h : a.addr = b.addr
  · simp [h]
  · simp [h]

theorem SlabID.lt_irrefl (a : SlabID) : SlabID.lt a a = false := by
  cases h : SlabID.lt a a with
  | false => rfl
  | true => rw [SlabID.lt_iff] at h; omega

theorem SlabID.lt_trans {a b d : SlabID} (h1 : SlabID.lt a b = true) (h2 : SlabID.lt b d = true) :
    SlabID.lt a d = true := by
  rw [SlabID.lt_iff] at *
  rcases h1 with h1 | ⟨e1, h1⟩ <;> rcases h2 with h2 | ⟨e2, h2⟩
  · exact .inl (Nat.lt_trans h1 h2)
  · exact .inl (e2 ▸ h1)
  · exact .inl (e1 ▸ h2)
  · exact .inr ⟨e1.trans e2, Nat.lt_trans h1 h2⟩

theorem SlabID.lt_total {a b : SlabID} (h : a ≠ b) : SlabID.lt a b = true ∨ SlabID.lt b a = true := by
  rw [SlabID.lt_iff, SlabID.lt_iff]
  rcases Nat.lt_trichotomy a.addr b.addr with h1 | h1 | h1
  · exact .inl (.inl h1)
  · rcases Nat.lt_trichotomy a.idx b.idx with h2 | h2 | h2
    · exact .inl (.inr ⟨h1, h2⟩)
    · exact absurd (SlabID.eq_of_addr_idx h1 h2) h
    · exact .inr (.inr ⟨h1.symm, h2⟩)
  · exact .inr (.inl h1)

theorem SlabID.lt_connex {a b : SlabID} (hab : SlabID.lt a b = false) (hba : SlabID.lt b a = false) : a = b :=
  Classical.byContradiction fun hne => by
    rcases SlabID.lt_total hne with h | h
    · rw [hab] at h; cases h
    · rw [hba] at h; cases h

theorem Codec.sortBytes_eq_insBy (l : List Bytes) : Codec.sortBytes l = l.foldr (insBy Codec.bytesLt) [] :=
  congrArg (fun f => l.foldr f []) (funext fun k => funext (Codec.insertBytes_eq_insBy k))

theorem Codec.sortBytes_perm (l : List Bytes) : (Codec.sortBytes l).Perm l := by
  rw [Codec.sortBytes_eq_insBy]; exact foldr_insBy_perm _ l

theorem Codec.sortKeys_eq_insBy (l : List (Nat × Nat)) :
    Codec.sortKeys l = l.foldr (insBy fun a b => !Codec.keyLess b a) [] :=
  congrArg (fun f => l.foldr f []) (funext fun k => funext (Codec.insertKey_eq_insBy k))

theorem Codec.sortKeys_perm (l : List (Nat × Nat)) : (Codec.sortKeys l).Perm l := by
  rw [Codec.sortKeys_eq_insBy]; exact foldr_insBy_perm _ l

namespace St

theorem insertSorted_perm (k : SlabID) (l : List SlabID) : (insertSorted k l).Perm (k :: l) := by
  rw [insertSorted_eq_insBy]; exact insBy_perm _ k l

theorem sortIDs_eq_insBy (l : List SlabID) : sortIDs l = l.foldr (insBy SlabID.lt) [] :=
  congrArg (fun f => l.foldr f []) (funext fun k => funext (insertSorted_eq_insBy k))

theorem sortIDs_perm (l : List SlabID) : (sortIDs l).Perm l := by
  rw [sortIDs_eq_insBy]; exact foldr_insBy_perm _ l

theorem mem_sortIDs (l : List SlabID) (k : SlabID) : k ∈ sortIDs l ↔ k ∈ l :=
  (sortIDs_perm l).mem_iff

theorem nodup_sortIDs (l : List SlabID) (h : l.Nodup) : (sortIDs l).Nodup :=
  (sortIDs_perm l).nodup_iff.mpr h

/-- `sort.Slice` in `sortedOwnedDeltaKeys` forgets the order in which the keys arrive -/
theorem sortIDs_eq_of_perm {l₁ l₂ : List SlabID} (h : l₁.Perm l₂) : sortIDs l₁ = sortIDs l₂ := by
  rw [sortIDs_eq_insBy, sortIDs_eq_insBy]
  exact foldr_insBy_eq_of_perm _ SlabID.lt_irrefl SlabID.lt_trans SlabID.lt_connex h

theorem mem_normOrder (want given : List SlabID) (k : SlabID) :
    k ∈ normOrder want given ↔ k ∈ want := by
  simp only [normOrder, List.mem_append, List.mem_filter, List.mem_eraseDups,
    List.contains_iff_mem, Bool.not_eq_eq_eq_not, Bool.not_true]
  by_cases h1 : k ∈ want <;> by_cases h2 : k ∈ given <;> simp [h1, h2]

theorem nodup_normOrder (want given : List SlabID) (h : want.Nodup) :
    (normOrder want given).Nodup := by
  simp only [normOrder]
  rw [List.nodup_append]
  refine ⟨nodup_eraseDups _, h.sublist List.filter_sublist, ?_⟩
  intro a ha b hb hab
  subst hab
  simp only [List.mem_eraseDups, List.mem_filter, List.contains_iff_mem] at ha
  simp [List.mem_filter, ha.1, ha.2] at hb

theorem mem_insertSorted (k : SlabID) (l : List SlabID) (j : SlabID) :
    j ∈ insertSorted k l ↔ j = k ∨ j ∈ l := by
  rw [insertSorted_eq_insBy]; exact mem_insBy _

theorem pairwise_sortIDs (l : List SlabID) (hnd : l.Nodup) :
    (sortIDs l).Pairwise (fun a b => SlabID.lt a b = true) := by
  rw [sortIDs_eq_insBy]
  exact foldr_insBy_pairwise _ SlabID.lt_irrefl SlabID.lt_trans SlabID.lt_total hnd

theorem pairwise_sortedOwnedDeltaKeys {σ β : Type} (s : St σ β) (hnd : (AList.keys s.deltas).Nodup) :
    (sortedOwnedDeltaKeys s).Pairwise (fun a b => SlabID.lt a b = true) :=
  pairwise_sortIDs _ (hnd.sublist List.filter_sublist)

end St
end Atree

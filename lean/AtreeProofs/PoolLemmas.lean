import AtreeModel.Commit
import AtreeProofs.ScheduleLemmas
import AtreeProofs.ListAt
/-
  Lemmas about the message-passing model of the worker pools (`AtreeModel/Commit.lean`):
  * conservation: at every moment `results ++ held jobs ++ queue` is a permutation of the jobs and
    every result is `(j, f j)`;
  * progress: a scheduler step is a no-op or decreases `2 * |queue| + |held|` by one; a full
    round-robin round is a no-op only on a finished pool.
-/
namespace Atree
namespace Pool

variable {ι ρ : Type}

def held (h : List (Option ι)) : List ι := h.filterMap id

theorem held_nil : held ([] : List (Option ι)) = [] := rfl
theorem held_cons_none (h : List (Option ι)) : held (none :: h) = held h := rfl
theorem held_cons_some (j : ι) (h : List (Option ι)) : held (some j :: h) = j :: held h := rfl

theorem held_replicate_none (n : Nat) : held (List.replicate n (none : Option ι)) = [] := by
  induction n with
  | zero => rfl
  | succ n ih => rw [List.replicate_succ, held_cons_none, ih]

theorem held_set_none (h : List (Option ι)) (w : Nat) (j : ι) (hw : h[w]? = some (some j)) :
    (held h).Perm (j :: held (h.set w none)) := by
  obtain ⟨A, B, rfl, hk⟩ := split_at hw
  rw [set_at hk]
  simp only [held, List.filterMap_append, List.filterMap_cons, id]
  exact List.perm_middle

theorem held_set_some (h : List (Option ι)) (w : Nat) (j : ι) (hw : h[w]? = some none) :
    (held (h.set w (some j))).Perm (j :: held h) := by
  obtain ⟨A, B, rfl, hk⟩ := split_at hw
  rw [set_at hk]
  simp only [held, List.filterMap_append, List.filterMap_cons, id]
  exact List.perm_middle

theorem length_filter_isSome (h : List (Option ι)) :
    (h.filter (·.isSome)).length = (held h).length := by
  induction h with
  | nil => rfl
  | cons a as ih =>
    cases a with
    | none => simpa [held_cons_none] using ih
    | some x => simpa [held_cons_some] using ih

theorem held_eq_nil_of_all_isNone (h : List (Option ι)) (hall : h.all (·.isNone) = true) :
    held h = [] := by
  unfold held
  rw [List.filterMap_eq_nil_iff]
  intro a ha
  have := List.all_eq_true.mp hall a ha
  cases a with
  | none => rfl
  | some x => simp at this

/-- Nothing is lost, duplicated or invented. -/
structure PInv (f : ι → ρ) (jobs : List ι) (s : PState ι ρ) : Prop where
  perm : (s.results.map (·.1) ++ (held s.holding ++ s.queue)).Perm jobs
  res : ∀ r ∈ s.results, r = (r.1, f r.1)

theorem pinv_init (f : ι → ρ) (jobs : List ι) (workers : Nat) :
    PInv f jobs (initState jobs workers : PState ι ρ) := by
  constructor
  · simp [initState, held_replicate_none]
  · intro r hr; simp [initState] at hr

theorem pinv_step (f : ι → ρ) (jobs : List ι) (s : PState ι ρ) (w : Nat) (h : PInv f jobs s) :
    PInv f jobs (stepWorker f s w) := by
  unfold stepWorker
  split
  · exact h
  · rename_i j hj
    constructor
    · dsimp only
      refine List.Perm.trans ?_ h.perm
      rw [List.map_append, List.append_assoc]
      apply List.Perm.append_left
      show (j :: (held (s.holding.set w none) ++ s.queue)).Perm (held s.holding ++ s.queue)
      exact (List.Perm.append_right s.queue (held_set_none s.holding w j hj)).symm
    · intro r hr
      dsimp only at hr
      rcases List.mem_append.mp hr with hr | hr
      · exact h.res r hr
      · simp only [List.mem_singleton] at hr
        rw [hr]
  · rename_i hj
    split
    · exact h
    · rename_i j rest hq
      constructor
      · dsimp only
        refine List.Perm.trans ?_ h.perm
        apply List.Perm.append_left
        rw [hq]
        refine List.Perm.trans (List.Perm.append_right rest (held_set_some s.holding w j hj)) ?_
        exact (List.perm_middle (a := j) (l₁ := held s.holding) (l₂ := rest)).symm
      · exact h.res

theorem pinv_run (f : ι → ρ) (jobs : List ι) (sched : List Nat) (s : PState ι ρ)
    (h : PInv f jobs s) : PInv f jobs (runSchedule f s sched) := by
  induction sched generalizing s with
  | nil => exact h
  | cons w ws ih => exact ih _ (pinv_step f jobs s w h)

theorem finished_iff (s : PState ι ρ) :
    finished s = true ↔ s.queue = [] ∧ s.holding.all (·.isNone) = true := by
  simp [finished, List.isEmpty_iff]

/-- A finished pool has delivered exactly the jobs, each with its result. -/
theorem pinv_finished (f : ι → ρ) (jobs : List ι) (s : PState ι ρ) (h : PInv f jobs s)
    (hfin : finished s = true) : s.results.Perm (jobs.map (fun j => (j, f j))) := by
  obtain ⟨hq, hh⟩ := (finished_iff s).mp hfin
  have hp := h.perm
  rw [hq, held_eq_nil_of_all_isNone _ hh, List.append_nil, List.append_nil] at hp
  have hm : s.results = (s.results.map (·.1)).map (fun j => (j, f j)) := by
    rw [List.map_map]
    conv => lhs; rw [← List.map_id s.results]
    apply List.map_congr_left
    intro r hr
    exact h.res r hr
  rw [hm]
  exact hp.map _

theorem pinv_count (f : ι → ρ) (jobs : List ι) (s : PState ι ρ) (h : PInv f jobs s) :
    s.results.length + (s.holding.filter (·.isSome)).length + s.queue.length = jobs.length := by
  have := h.perm.length_eq
  simp only [List.length_append, List.length_map] at this
  rw [length_filter_isSome]
  omega

def mu (s : PState ι ρ) : Nat := 2 * s.queue.length + (held s.holding).length

theorem step_holding_length (f : ι → ρ) (s : PState ι ρ) (w : Nat) :
    (stepWorker f s w).holding.length = s.holding.length := by
  unfold stepWorker
  split
  · rfl
  · simp
  · split
    · rfl
    · simp

theorem step_cases (f : ι → ρ) (s : PState ι ρ) (w : Nat) :
    stepWorker f s w = s ∨ mu (stepWorker f s w) + 1 = mu s := by
  unfold stepWorker
  split
  · exact Or.inl rfl
  · rename_i j hj
    right
    have := (held_set_none s.holding w j hj).length_eq
    simp only [List.length_cons] at this
    simp only [mu]
    omega
  · rename_i hj
    split
    · exact Or.inl rfl
    · rename_i j rest hq
      right
      have := (held_set_some s.holding w j hj).length_eq
      simp only [List.length_cons] at this
      simp only [mu, hq, List.length_cons]
      omega

theorem step_fix (f : ι → ρ) (s : PState ι ρ) (w : Nat) (hw : w < s.holding.length)
    (h : stepWorker f s w = s) : s.holding[w]? = some none ∧ s.queue = [] := by
  unfold stepWorker at h
  split at h
  · rename_i hn
    rw [List.getElem?_eq_none_iff] at hn
    omega
  · have := congrArg (fun t => t.results.length) h
    simp at this
  · rename_i hj
    split at h
    · rename_i hq
      exact ⟨hj, hq⟩
    · rename_i j rest hq
      have := congrArg (fun t => t.queue.length) h
      simp [hq] at this

theorem finished_of_all_fix (f : ι → ρ) (s : PState ι ρ) (hpos : 0 < s.holding.length)
    (h : ∀ w, w < s.holding.length → stepWorker f s w = s) : finished s = true := by
  rw [finished_iff]
  refine ⟨(step_fix f s 0 hpos (h 0 hpos)).2, ?_⟩
  rw [List.all_eq_true]
  intro x hx
  obtain ⟨i, hi, hget⟩ := List.mem_iff_getElem.mp hx
  have := (step_fix f s i hi (h i hi)).1
  rw [List.getElem?_eq_getElem hi, hget] at this
  simp only [Option.some.injEq] at this
  rw [this]
  rfl

/-- The pool finishes under the round-robin schedule: the measure `mu` is at most `2 * jobs.length` at the
    start, every round that changes anything lowers it, and a round that changes nothing means finished;
    hence the `2 * jobs + 2` rounds of `roundRobin`. -/
theorem roundRobin_finishes (f : ι → ρ) (jobs : List ι) (workers : Nat) (hw : 1 ≤ workers) :
    finished (runSchedule f (initState jobs workers) (roundRobin workers jobs.length)) = true := by
  have hlen : (initState jobs workers : PState ι ρ).holding.length = workers := by
    simp [initState]
  rcases rounds_measure (μ := mu) (I := fun s : PState ι ρ => s.holding.length = workers)
      (fin := fun s => finished s = true) (round := List.range workers)
      (fun s w => (step_cases f s w).imp id fun h => Nat.lt_of_succ_le (Nat.le_of_eq h))
      (fun s w h => (step_holding_length f s w).trans h)
      (fun s hs hfix => finished_of_all_fix f s (hs ▸ hw)
        fun w hw' => hfix w (List.mem_range.mpr (hs ▸ hw')))
      (List.range (2 * jobs.length + 2)) (initState jobs workers) hlen with h | h
  · exact h
  · have hmu : mu (initState jobs workers : PState ι ρ) = 2 * jobs.length := by
      simp [mu, initState, held_replicate_none]
    rw [hmu, List.length_range] at h
    omega

end Pool
end Atree

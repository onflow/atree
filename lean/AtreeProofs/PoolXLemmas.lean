import AtreeModel.CommitPool
import AtreeProofs.ScheduleLemmas
import AtreeProofs.ListAt
/-
  Lemmas about the message-passing model `AtreeModel/CommitPool.lean` (`Atree.PoolX`) of the
  worker pools of `FastCommit` / `NondeterministicFastCommit` with main goroutine, `done` channel
  and deferred closure:
  * `DataInv`  (conservation): results received ++ results buffered ++ jobs held ++ queued ++ unsent
    ++ dropped is a permutation of the jobs; every result is `(j, f j)`.  Preserved by every step for
    every parameter value (also for values other than the Go code's, `Real`).
  * `CtlInv`   (control): the relations between main's phase, the channel flags and the encoder
    states; needs `waitBeforeClose = true`.
  * `measure`  : decreases on every step that changes the state.
  * `progress` : in a reachable non-final state some actor is enabled (hence its step decreases the
    measure, `measure_of_enabled`).
  * `Reach` (`reach_init`, `reach_run`): what the clients carry along a schedule, `DataInv ∧ CtlInv` and the
    number of encoders, under the Go code's parameter values `Real`; `roundRobin_final`: round robin ends in
    the final state; `all_received`, `received_perm`, `stop_of_error`, `error_of_stop`: what main has
    received when it leaves the receive loop.
  (`PoolX` is the pool of `PoolLemmas.lean` with main, the `done` channel and the deferred closure made
  explicit; `PoolX.measure`, `PoolX.DataInv`, `PoolX.held`, `PoolX.step_cases` are not the core `measure`,
  `Atree.DataInv` of the array invariant, `Pool.held`, `Pool.step_cases`.)
-/
namespace Atree
namespace PoolX

variable {ι ρ : Type}

def wjob : WState ι → List ι
  | .took j => [j]
  | .sending j => [j]
  | _ => []

/-- the jobs held by encoders (taken from `jobs`, result not yet sent, not dropped) -/
def held (ws : List (WState ι)) : List ι := ws.flatMap wjob

/-- weight of an encoder state in the termination measure -/
def wt : WState ι → Nat
  | .idle => 1
  | .took _ => 4
  | .sending _ => 3
  | .exited => 0

theorem count_held_set [DecidableEq ι] (a : ι) (ws : List (WState ι)) (w : Nat) (old new : WState ι)
    (h : ws[w]? = some old) :
    (held (ws.set w new)).count a + (wjob old).count a = (held ws).count a + (wjob new).count a := by
  unfold held
  rw [List.count_flatMap, List.count_flatMap]
  exact sum_map_set (List.count a ∘ wjob) h

theorem length_held_set (ws : List (WState ι)) (w : Nat) (old new : WState ι)
    (h : ws[w]? = some old) :
    (held (ws.set w new)).length + (wjob old).length = (held ws).length + (wjob new).length := by
  unfold held
  rw [List.length_flatMap, List.length_flatMap]
  exact sum_map_set (fun x => (wjob x).length) h

theorem wt_set (ws : List (WState ι)) (w : Nat) (old new : WState ι) (h : ws[w]? = some old) :
    ((ws.set w new).map wt).sum + wt old = (ws.map wt).sum + wt new :=
  sum_map_set wt h

theorem held_replicate_idle (n : Nat) : held (List.replicate n (WState.idle : WState ι)) = [] := by
  induction n with
  | zero => rfl
  | succ n ih => rw [List.replicate_succ]; unfold held at *; rw [List.flatMap_cons, ih]; rfl

theorem allExited_iff (ws : List (WState ι)) : allExited ws = true ↔ ∀ x ∈ ws, x = .exited := by
  unfold allExited
  rw [List.all_eq_true]
  constructor
  · intro h x hx
    have := h x hx
    cases x <;> simp_all
  · intro h x hx
    rw [h x hx]

theorem held_of_allExited (ws : List (WState ι)) (h : ∀ x ∈ ws, x = .exited) : held ws = [] := by
  unfold held
  rw [List.flatMap_eq_nil_iff]
  intro x hx
  rw [h x hx]
  rfl

/-- where every job is: received, buffered in `results`, held by an encoder, queued in `jobs`,
    still to be sent, or dropped -/
def jobList (s : XState ι ρ) : List ι :=
  (s.received ++ s.results).map Prod.fst ++ (held s.workers ++ (s.queue ++ (s.unsent ++ s.dropped)))

structure DataInv (P : Params ι ρ) (jobs : List ι) (s : XState ι ρ) : Prop where
  perm : (jobList s).Perm jobs
  vals : ∀ r ∈ s.received ++ s.results, r.2 = P.f r.1

theorem DataInv.of_eq {P : Params ι ρ} {jobs : List ι} {s s' : XState ι ρ} (h : DataInv P jobs s)
    (h1 : s'.received = s.received) (h2 : s'.results = s.results) (h3 : s'.workers = s.workers)
    (h4 : s'.queue = s.queue) (h5 : s'.unsent = s.unsent) (h6 : s'.dropped = s.dropped) :
    DataInv P jobs s' := by
  constructor
  · have := h.perm
    unfold jobList at *
    rw [h1, h2, h3, h4, h5, h6]
    exact this
  · rw [h1, h2]
    exact h.vals

/-- main receives the oldest buffered result -/
theorem DataInv.recv {P : Params ι ρ} {jobs : List ι} {s s' : XState ι ρ} (h : DataInv P jobs s)
    (r : ι × ρ) (rest : List (ι × ρ)) (hr : s.results = r :: rest)
    (h1 : s'.received = s.received ++ [r]) (h2 : s'.results = rest) (h3 : s'.workers = s.workers)
    (h4 : s'.queue = s.queue) (h5 : s'.unsent = s.unsent) (h6 : s'.dropped = s.dropped) :
    DataInv P jobs s' := by
  have e : s'.received ++ s'.results = s.received ++ s.results := by
    rw [h1, h2, hr, List.append_assoc]; rfl
  constructor
  · have := h.perm
    unfold jobList at *
    rw [e, h3, h4, h5, h6]
    exact this
  · rw [e]
    exact h.vals

theorem data_init (P : Params ι ρ) (jobs : List ι) (workers : Nat) :
    DataInv P jobs (init P jobs workers) := by
  unfold init
  split
  · constructor
    · simp [jobList, initNondet, held_replicate_idle]
    · simp [initNondet]
  · constructor
    · simp [jobList, initFast, held_replicate_idle]
    · simp [initFast]

/-- Encoder `w` goes from `old` to `new` while `results`, `queue` and `dropped` change so that,
    counted together with the job the encoder holds, every job keeps its number of places; a new
    result is `(j, f j)`. -/
theorem DataInv.worker [DecidableEq ι] {P : Params ι ρ} {jobs : List ι} {s s' : XState ι ρ}
    (h : DataInv P jobs s) {w : Nat} {old new : WState ι} (hw : s.workers[w]? = some old)
    (hws : s'.workers = s.workers.set w new) (hrec : s'.received = s.received)
    (hun : s'.unsent = s.unsent)
    (hcount : ∀ a, (s'.results.map Prod.fst).count a + (wjob new).count a + s'.queue.count a +
        s'.dropped.count a =
      (s.results.map Prod.fst).count a + (wjob old).count a + s.queue.count a + s.dropped.count a)
    (hvals : ∀ r ∈ s'.results, r ∈ s.results ∨ r.2 = P.f r.1) : DataInv P jobs s' := by
  constructor
  · have hp := h.perm
    rw [List.perm_iff_count] at hp ⊢
    intro a
    have hc := count_held_set a s.workers w old new hw
    have := hcount a
    rw [← hp a]
    simp only [jobList, hws, hrec, hun, List.map_append, List.count_append]
    omega
  · intro r hr
    rw [hrec] at hr
    rcases List.mem_append.mp hr with hr | hr
    · exact h.vals r (List.mem_append_left _ hr)
    · rcases hvals r hr with hr | hr
      · exact h.vals r (List.mem_append_right _ hr)
      · exact hr

theorem data_encoder (P : Params ι ρ) (jobs : List ι) (s : XState ι ρ) (w : Nat)
    (h : DataInv P jobs s) : DataInv P jobs (encoderStep P s w) := by
  classical
  unfold encoderStep
  split
  · exact h
  · exact h
  · rename_i hw
    split
    · rename_i j rest hq
      exact h.worker hw rfl rfl rfl
        (fun a => by simp only [hq, wjob, List.count_cons, List.count_nil]; omega) fun _ hr => .inl hr
    · split
      · exact h.worker hw rfl rfl rfl (fun a => by simp [wjob]) fun _ hr => .inl hr
      · exact h
  · rename_i j hw
    split
    · exact h.worker hw rfl rfl rfl
        (fun a => by simp only [wjob, List.count_cons, List.count_nil]; omega) fun _ hr => .inl hr
    · exact h.worker hw rfl rfl rfl (fun a => by simp [wjob]) fun _ hr => .inl hr
  · rename_i j hw
    split
    · exact h.of_eq rfl rfl rfl rfl rfl rfl
    · split
      · refine h.worker hw rfl rfl rfl (fun a => ?_) fun r hr => ?_
        · simp only [wjob, List.map_append, List.map_cons, List.map_nil, List.count_append,
            List.count_cons, List.count_nil]
          omega
        · rcases List.mem_append.mp hr with hr | hr
          · exact .inl hr
          · rw [List.mem_singleton.mp hr]; exact .inr rfl
      · exact h

/-- What main's next operation does to the places a job can be in: nothing, or it receives the
    oldest buffered result, or it sends the next job; it never touches the encoders. -/
def MainMoves (s s' : XState ι ρ) : Prop :=
  s'.workers = s.workers ∧ s'.dropped = s.dropped ∧
  ((s'.received = s.received ∧ s'.results = s.results ∧ s'.queue = s.queue ∧ s'.unsent = s.unsent) ∨
   (∃ r rest, s.results = r :: rest ∧ s'.received = s.received ++ [r] ∧ s'.results = rest ∧
      s'.queue = s.queue ∧ s'.unsent = s.unsent) ∨
   (∃ j rest, s.unsent = j :: rest ∧ s'.unsent = rest ∧ s'.queue = s.queue ++ [j] ∧
      s'.received = s.received ∧ s'.results = s.results))

theorem mainStep_moves (P : Params ι ρ) (s : XState ι ρ) : MainMoves s (mainStep P s) := by
  unfold mainStep
  split
  · unfold deferredStep
    split
    · split <;> exact ⟨rfl, rfl, .inl ⟨rfl, rfl, rfl, rfl⟩⟩
    · exact ⟨rfl, rfl, .inl ⟨rfl, rfl, rfl, rfl⟩⟩
    · exact ⟨rfl, rfl, .inl ⟨rfl, rfl, rfl, rfl⟩⟩
  · unfold deferredStep
    split
    · split <;> exact ⟨rfl, rfl, .inl ⟨rfl, rfl, rfl, rfl⟩⟩
    · exact ⟨rfl, rfl, .inl ⟨rfl, rfl, rfl, rfl⟩⟩
    · exact ⟨rfl, rfl, .inl ⟨rfl, rfl, rfl, rfl⟩⟩
  · exact ⟨rfl, rfl, .inl ⟨rfl, rfl, rfl, rfl⟩⟩
  · split
    · unfold nondetMainStep
      split
      · split
        · rename_i j rest hu
          exact ⟨rfl, rfl, .inr (.inr ⟨j, rest, hu, rfl, rfl, rfl, rfl⟩)⟩
        · exact ⟨rfl, rfl, .inl ⟨rfl, rfl, rfl, rfl⟩⟩
      · exact ⟨rfl, rfl, .inl ⟨rfl, rfl, rfl, rfl⟩⟩
      · split <;> exact ⟨rfl, rfl, .inl ⟨rfl, rfl, rfl, rfl⟩⟩
      · split
        · exact ⟨rfl, rfl, .inl ⟨rfl, rfl, rfl, rfl⟩⟩
        · split
          · exact ⟨rfl, rfl, .inl ⟨rfl, rfl, rfl, rfl⟩⟩
          · rename_i r rest hr
            dsimp only
            split
            · exact ⟨rfl, rfl, .inr (.inl ⟨r, rest, hr, rfl, rfl, rfl, rfl⟩)⟩
            · split
              · exact ⟨rfl, rfl, .inr (.inl ⟨r, rest, hr, rfl, rfl, rfl, rfl⟩)⟩
              · split <;> exact ⟨rfl, rfl, .inr (.inl ⟨r, rest, hr, rfl, rfl, rfl, rfl⟩)⟩
      · exact ⟨rfl, rfl, .inl ⟨rfl, rfl, rfl, rfl⟩⟩
    · unfold fastCommitMainStep
      split
      · split
        · exact ⟨rfl, rfl, .inl ⟨rfl, rfl, rfl, rfl⟩⟩
        · split
          · exact ⟨rfl, rfl, .inl ⟨rfl, rfl, rfl, rfl⟩⟩
          · rename_i r rest hr
            dsimp only
            split <;> exact ⟨rfl, rfl, .inr (.inl ⟨r, rest, hr, rfl, rfl, rfl, rfl⟩)⟩
      · exact ⟨rfl, rfl, .inl ⟨rfl, rfl, rfl, rfl⟩⟩
      · exact ⟨rfl, rfl, .inl ⟨rfl, rfl, rfl, rfl⟩⟩

theorem data_main (P : Params ι ρ) (jobs : List ι) (s : XState ι ρ)
    (h : DataInv P jobs s) : DataInv P jobs (mainStep P s) := by
  obtain ⟨hw, hd, ⟨h1, h2, h3, h4⟩ | ⟨r, rest, hr, h1, h2, h3, h4⟩ | ⟨j, rest, hu, h1, h2, h3, h4⟩⟩ :=
    mainStep_moves P s
  · exact h.of_eq h1 h2 hw h3 h4 hd
  · exact h.recv r rest hr h1 h2 hw h3 h4 hd
  · refine ⟨?_, by rw [h3, h4]; exact h.vals⟩
    have hp := h.perm
    unfold jobList at hp ⊢
    rw [h3, h4, hw, h2, h1, hd]
    rw [hu] at hp
    refine .trans ?_ hp
    refine .append_left _ (.append_left _ ?_)
    rw [List.append_assoc]
    exact .append_left _ List.perm_middle.symm

theorem data_step (P : Params ι ρ) (jobs : List ι) (s : XState ι ρ) (a : Actor)
    (h : DataInv P jobs s) : DataInv P jobs (step P s a) := by
  unfold step
  split
  · exact h
  · cases a with
    | main => exact data_main P jobs s h
    | worker w => exact data_encoder P jobs s w h

theorem data_run (P : Params ι ρ) (jobs : List ι) (sched : List Actor) (s : XState ι ρ)
    (h : DataInv P jobs s) : DataInv P jobs (run P s sched) := by
  induction sched generalizing s with
  | nil => exact h
  | cons a as ih => exact ih _ (data_step P jobs s a h)

/-- the parameter values of the Go code: `results` has capacity = number of jobs, the deferred
    closure waits before closing -/
def Real (P : Params ι ρ) (jobs : List ι) : Prop := P.cap = jobs.length ∧ P.waitBeforeClose = true

/-- main has not yet left its loops -/
def Phase.pre : Phase → Bool
  | .sendJobs | .deleting _ | .receiving | .applying => true
  | _ => false

structure CtlInv (P : Params ι ρ) (jobs : List ι) (s : XState ι ρ) : Prop where
  /-- not panicked: nobody has sent on the closed `results` channel -/
  np : s.panicked = false
  /-- `results` is closed only once main has returned -/
  closedRet : s.resultsClosed = true → s.phase = .returned
  /-- once main is past `wg.Wait()` every encoder has returned -/
  lateExited : s.phase = .closing ∨ s.phase = .returned → ∀ x ∈ s.workers, x = .exited
  /-- `jobs` is open exactly while main is sending jobs -/
  jc : s.jobsClosed = false ↔ s.phase = .sendJobs
  /-- after the send loop nothing is unsent -/
  us : s.phase ≠ .sendJobs → s.unsent = []
  /-- no job is dropped before `done` is closed -/
  noDrop : s.doneClosed = false → s.dropped = []
  /-- before `done` is closed an encoder returns only from a closed and drained `jobs` channel -/
  exitedQ : s.doneClosed = false → .exited ∈ s.workers → s.queue = [] ∧ s.jobsClosed = true
  /-- `done` is closed exactly when a stop reason is recorded -/
  doneStop : s.doneClosed = s.stop.isSome
  /-- while main is in its loops no stop reason is recorded -/
  pre : s.phase.pre = true → s.stop = none
  /-- without a stop: iterations of the receive loop left + results received = number of jobs -/
  rem : s.stop = none → s.remaining + s.received.length = jobs.length
  /-- without a stop the receive loop has run out once main is past it -/
  remLate : s.stop = none → s.phase ≠ .sendJobs → (∀ k, s.phase ≠ .deleting k) →
    s.phase ≠ .receiving → s.remaining = 0
  /-- without a stop no received result is an error -/
  recvOk : s.stop = none → ∀ r ∈ s.received, P.isErr r.2 = false
  /-- `FastCommit` stops for an encoding error only -/
  fastStop : P.nondet = false → s.stop = none ∨ s.stop = some .encodeErr
  /-- a stop for an encoding error has received an erroneous result -/
  errRecv : s.stop = some .encodeErr → ∃ r ∈ s.received, P.isErr r.2 = true
  /-- `FastCommit` has no send / delete phases, the nondeterministic commit no applying phase -/
  mode : (P.nondet = false → s.phase ≠ .sendJobs ∧ ∀ k, s.phase ≠ .deleting k) ∧
    (P.nondet = true → s.phase ≠ .applying)

/-- An encoder step changes only `queue`, `workers`, `results` and `dropped`; `CtlInv` reads these
    in `lateExited`, `noDrop` and `exitedQ` only. -/
theorem CtlInv.encoder_frame {P : Params ι ρ} {jobs : List ι} {s : XState ι ρ}
    (h : CtlInv P jobs s) (q : List ι) (ws : List (WState ι)) (rs : List (ι × ρ)) (d : List ι)
    (hl : s.phase = .closing ∨ s.phase = .returned → ∀ x ∈ ws, x = .exited)
    (hn : s.doneClosed = false → d = [])
    (he : s.doneClosed = false → .exited ∈ ws → q = [] ∧ s.jobsClosed = true) :
    CtlInv P jobs { s with queue := q, workers := ws, results := rs, dropped := d } :=
  { h with lateExited := hl, noDrop := hn, exitedQ := he }

theorem CtlInv.jobsClosed_of_ne {P : Params ι ρ} {jobs : List ι} {s : XState ι ρ}
    (h : CtlInv P jobs s) (hsj : s.phase ≠ .sendJobs) : s.jobsClosed = true := by
  cases hj : s.jobsClosed
  · exact absurd (h.jc.mp hj) hsj
  · rfl

/-- `close(done); return` from one of main's loops after `jobs` is closed. -/
theorem CtlInv.exitEarly {P : Params ι ρ} {jobs : List ι} {s : XState ι ρ} (h : CtlInv P jobs s)
    (why : Stop) (rs rc : List (ι × ρ)) (nc : Nat)
    (hpre : s.phase.pre = true) (hsj : s.phase ≠ .sendJobs)
    (hf : P.nondet = false → why = .encodeErr)
    (he : why = .encodeErr → ∃ r ∈ rc, P.isErr r.2 = true) :
    CtlInv P jobs (earlyExit { s with results := rs, received := rc, ncalls := nc } why) :=
  { np := h.np
    closedRet := fun hc => by
      have := h.closedRet hc
      rw [this] at hpre
      cases hpre
    lateExited := fun hp => by rcases hp with hp | hp <;> cases hp
    jc := iff_of_false (fun e => nomatch (h.jobsClosed_of_ne hsj).symm.trans e) nofun
    us := fun _ => h.us hsj
    noDrop := nofun
    exitedQ := nofun
    doneStop := rfl
    pre := nofun
    rem := nofun
    remLate := nofun
    recvOk := nofun
    fastStop := fun hn => Or.inr (congrArg some (hf hn))
    errRecv := fun e => he (Option.some.inj e)
    mode := ⟨fun _ => ⟨nofun, fun _ => nofun⟩, fun _ => nofun⟩ }

/-- main receives a result that is no error and goes on receiving. -/
theorem CtlInv.recv {P : Params ι ρ} {jobs : List ι} {s : XState ι ρ} (h : CtlInv P jobs s)
    (r : ι × ρ) (rs : List (ι × ρ)) (n nc : Nat)
    (hph : s.phase = .receiving) (hrem : s.remaining = n + 1) (he : P.isErr r.2 = false) :
    CtlInv P jobs
      { s with results := rs, received := s.received ++ [r], remaining := n, ncalls := nc } :=
  { h with
    rem := fun hs => by
      have := h.rem hs
      show n + (s.received ++ [r]).length = jobs.length
      rw [List.length_append, List.length_singleton]
      omega
    remLate := fun _ _ _ hr => absurd hph hr
    recvOk := fun hs x hx => (List.mem_append.mp hx).elim (h.recvOk hs x)
      fun e => by rw [List.mem_singleton.mp e]; exact he
    errRecv := fun hs => (h.errRecv hs).imp fun _ hx => ⟨List.mem_append_left _ hx.1, hx.2⟩ }

/-- main moves on to phase `ph` without touching a channel. -/
theorem CtlInv.advance {P : Params ι ρ} {jobs : List ι} {s : XState ι ρ} (h : CtlInv P jobs s)
    (ph : Phase) (nc : Nat)
    (hret : s.phase ≠ .returned) (hsj : s.phase ≠ .sendJobs) (hsj' : ph ≠ .sendJobs)
    (hpre : ph.pre = true → s.phase.pre = true)
    (hlate : ph = .closing ∨ ph = .returned → ∀ x ∈ s.workers, x = .exited)
    (hrem : s.stop = none → (∀ k, ph ≠ .deleting k) → ph ≠ .receiving → s.remaining = 0)
    (hmode : (P.nondet = false → ∀ k, ph ≠ .deleting k) ∧ (P.nondet = true → ph ≠ .applying)) :
    CtlInv P jobs { s with phase := ph, ncalls := nc } :=
  { h with
    closedRet := fun hc => absurd (h.closedRet hc) hret
    lateExited := hlate
    jc := iff_of_false (fun e => nomatch (h.jobsClosed_of_ne hsj).symm.trans e) hsj'
    us := fun _ => h.us hsj
    pre := fun hp => h.pre (hpre hp)
    remLate := fun hs _ hk hr => hrem hs hk hr
    mode := ⟨fun hn => ⟨hsj', hmode.1 hn⟩, hmode.2⟩ }


theorem ctl_fast (P : Params ι ρ) (jobs : List ι) (s : XState ι ρ) (hn : P.nondet = false)
    (h : CtlInv P jobs s) : CtlInv P jobs (fastCommitMainStep P s) := by
  have hmode : ∀ ph : Phase, (∀ k, ph ≠ .deleting k) → (P.nondet = false → ∀ k, ph ≠ .deleting k) ∧
      (P.nondet = true → ph ≠ .applying) :=
    fun _ hk => ⟨fun _ => hk, fun ht => (by rw [hn] at ht; cases ht)⟩
  unfold fastCommitMainStep
  split
  · rename_i hph
    have hpre : s.phase.pre = true := by rw [hph]; rfl
    have hret : s.phase ≠ .returned := by rw [hph]; nofun
    have hsj : s.phase ≠ .sendJobs := by rw [hph]; nofun
    split
    · rename_i hrem
      exact h.advance .applying s.ncalls hret hsj nofun (fun _ => hpre)
        (fun hp => by rcases hp with hp | hp <;> cases hp) (fun _ _ _ => hrem) (hmode _ nofun)
    · rename_i n hrem
      split
      · exact h
      · rename_i r rest hr
        dsimp only
        split
        · rename_i he
          exact h.exitEarly .encodeErr rest _ s.ncalls hpre hsj (fun _ => rfl)
            fun _ => ⟨r, List.mem_append_right _ (List.mem_singleton_self r), he⟩
        · rename_i he
          exact h.recv r rest n s.ncalls hph hrem (Bool.eq_false_iff.mpr he)
  · rename_i hph
    exact h.advance .waiting s.ncalls (by rw [hph]; nofun) (by rw [hph]; nofun) nofun nofun
      (fun hp => by rcases hp with hp | hp <;> cases hp)
      (fun hs _ _ => h.remLate hs (by rw [hph]; nofun) (by rw [hph]; nofun) (by rw [hph]; nofun))
      (hmode _ nofun)
  · exact h

theorem ctl_nondet (P : Params ι ρ) (jobs : List ι) (s : XState ι ρ) (hn : P.nondet = true)
    (h : CtlInv P jobs s) : CtlInv P jobs (nondetMainStep P s) := by
  have hmode : ∀ ph : Phase, ph ≠ .applying → (P.nondet = false → ∀ k, ph ≠ .deleting k) ∧
      (P.nondet = true → ph ≠ .applying) :=
    fun _ ha => ⟨fun hf => (by rw [hn] at hf; cases hf), fun _ => ha⟩
  unfold nondetMainStep
  split
  · rename_i hph
    have hjc : s.jobsClosed = false := h.jc.mpr hph
    split
    · rename_i j rest hu
      exact { h with
        us := fun hp => absurd hph hp
        exitedQ := fun hd hx => by rw [(h.exitedQ hd hx).2] at hjc; cases hjc }
    · rename_i hu
      exact { h with
        closedRet := fun hc => by rw [h.closedRet hc] at hph; cases hph
        lateExited := fun hp => by rcases hp with hp | hp <;> cases hp
        jc := iff_of_false nofun nofun
        us := fun _ => hu
        exitedQ := fun hd hx => ⟨(h.exitedQ hd hx).1, rfl⟩
        pre := fun _ => h.pre (by rw [hph]; rfl)
        remLate := fun _ _ hk => absurd rfl (hk P.dels)
        mode := ⟨fun hf => (by rw [hn] at hf; cases hf), fun _ => nofun⟩ }
  · rename_i hph
    exact h.advance .receiving s.ncalls (by rw [hph]; nofun) (by rw [hph]; nofun) nofun
      (fun _ => by rw [hph]; rfl) (fun hp => by rcases hp with hp | hp <;> cases hp)
      (fun _ _ hr => absurd rfl hr) (hmode _ nofun)
  · rename_i k hph
    have hpre : s.phase.pre = true := by rw [hph]; rfl
    have hsj : s.phase ≠ .sendJobs := by rw [hph]; nofun
    split
    · exact h.exitEarly .removeFailed s.results s.received _ hpre hsj
        (fun hf => by rw [hn] at hf; cases hf) nofun
    · exact h.advance (.deleting k) _ (by rw [hph]; nofun) hsj nofun (fun _ => hpre)
        (fun hp => by rcases hp with hp | hp <;> cases hp) (fun _ hk => absurd rfl (hk k))
        (hmode _ nofun)
  · rename_i hph
    have hpre : s.phase.pre = true := by rw [hph]; rfl
    have hsj : s.phase ≠ .sendJobs := by rw [hph]; nofun
    have hf : ∀ why : Stop, P.nondet = false → why = .encodeErr :=
      fun _ hf => by rw [hn] at hf; cases hf
    split
    · rename_i hrem
      exact h.advance .waiting s.ncalls (by rw [hph]; nofun) hsj nofun nofun
        (fun hp => by rcases hp with hp | hp <;> cases hp) (fun _ _ _ => hrem) (hmode _ nofun)
    · rename_i n hrem
      split
      · exact h
      · rename_i r rest hr
        dsimp only
        split
        · rename_i he
          exact h.exitEarly .encodeErr rest _ s.ncalls hpre hsj (hf _)
            fun _ => ⟨r, List.mem_append_right _ (List.mem_singleton_self r), he⟩
        · rename_i he
          split
          · exact h.exitEarly .nilData rest _ s.ncalls hpre hsj (hf _) nofun
          · split
            · exact h.exitEarly .storeFailed rest _ _ hpre hsj (hf _) nofun
            · exact h.recv r rest n _ hph hrem (Bool.eq_false_iff.mpr he)
  · exact h

theorem ctl_deferred (P : Params ι ρ) (jobs : List ι) (s : XState ι ρ) (hw : P.waitBeforeClose = true)
    (h : CtlInv P jobs s) : CtlInv P jobs (deferredStep P s) := by
  unfold deferredStep
  split
  · rename_i hph
    split
    · exact h
    · rename_i hx
      rw [hw, Bool.true_and, Bool.not_eq_true, Bool.not_eq_false', allExited_iff] at hx
      exact h.advance .closing s.ncalls (by rw [hph]; nofun) (by rw [hph]; nofun) nofun nofun
        (fun _ => hx)
        (fun hs _ _ => h.remLate hs (by rw [hph]; nofun) (by rw [hph]; nofun) (by rw [hph]; nofun))
        ⟨fun _ => nofun, fun _ => nofun⟩
  · rename_i hph
    have hsj : s.phase ≠ .sendJobs := by rw [hph]; nofun
    exact { h with
      closedRet := fun _ => rfl
      lateExited := fun _ => h.lateExited (Or.inl hph)
      jc := iff_of_false (fun e => nomatch (h.jobsClosed_of_ne hsj).symm.trans e) nofun
      us := fun _ => h.us hsj
      pre := nofun
      remLate := fun hs _ _ _ =>
        h.remLate hs hsj (by rw [hph]; nofun) (by rw [hph]; nofun)
      mode := ⟨fun _ => ⟨nofun, fun _ => nofun⟩, fun _ => nofun⟩ }
  · exact h

theorem exited_mem_of_set {ws : List (WState ι)} {w : Nat} {x : WState ι}
    (h : .exited ∈ ws.set w x) (hx : x ≠ .exited) : .exited ∈ ws :=
  (List.mem_or_eq_of_mem_set h).resolve_right (Ne.symm hx)

theorem ctl_encoder (P : Params ι ρ) (jobs : List ι) (s : XState ι ρ) (w : Nat)
    (h : CtlInv P jobs s) : CtlInv P jobs (encoderStep P s w) := by
  unfold encoderStep
  split
  · exact h
  · exact h
  · rename_i hw
    have hmem := List.mem_of_getElem? hw
    split
    · rename_i j rest hq
      exact h.encoder_frame rest _ s.results s.dropped
        (fun hp => nomatch h.lateExited hp _ hmem) h.noDrop
        fun hd hx => by
          have := (h.exitedQ hd (exited_mem_of_set hx nofun)).1
          rw [hq] at this
          cases this
    · rename_i hq
      split
      · rename_i hjc
        exact h.encoder_frame s.queue _ s.results s.dropped
          (fun hp x hx => (List.mem_or_eq_of_mem_set hx).elim (h.lateExited hp x) id) h.noDrop
          fun _ _ => ⟨hq, hjc⟩
      · exact h
  · rename_i j hw
    have hmem := List.mem_of_getElem? hw
    have hl : ∀ ws : List (WState ι), s.phase = .closing ∨ s.phase = .returned →
        ∀ x ∈ ws, x = .exited := fun _ hp => nomatch h.lateExited hp _ hmem
    split
    · rename_i hd
      exact h.encoder_frame s.queue _ s.results _ (hl _)
        (fun hd' => by rw [hd] at hd'; cases hd') (fun hd' => by rw [hd] at hd'; cases hd')
    · exact h.encoder_frame s.queue _ s.results s.dropped (hl _) h.noDrop
        fun hd hx => h.exitedQ hd (exited_mem_of_set hx nofun)
  · rename_i j hw
    have hmem := List.mem_of_getElem? hw
    split
    · rename_i hc
      exact nomatch h.lateExited (Or.inr (h.closedRet hc)) _ hmem
    · split
      · exact h.encoder_frame s.queue _ _ s.dropped (fun hp => nomatch h.lateExited hp _ hmem)
          h.noDrop fun hd hx => h.exitedQ hd (exited_mem_of_set hx nofun)
      · exact h


theorem ctl_init (P : Params ι ρ) (jobs : List ι) (workers : Nat) :
    CtlInv P jobs (init P jobs workers) := by
  unfold init
  split
  · constructor <;> simp_all [initNondet, Phase.pre]
  · constructor <;> simp_all [initFast, Phase.pre]

theorem ctl_main (P : Params ι ρ) (jobs : List ι) (s : XState ι ρ) (hw : P.waitBeforeClose = true)
    (h : CtlInv P jobs s) : CtlInv P jobs (mainStep P s) := by
  unfold mainStep
  split
  · exact ctl_deferred P jobs s hw h
  · exact ctl_deferred P jobs s hw h
  · exact h
  · split
    · rename_i hn; exact ctl_nondet P jobs s hn h
    · rename_i hn; exact ctl_fast P jobs s (by simpa using hn) h

theorem ctl_step (P : Params ι ρ) (jobs : List ι) (s : XState ι ρ) (a : Actor)
    (hw : P.waitBeforeClose = true) (h : CtlInv P jobs s) : CtlInv P jobs (step P s a) := by
  unfold step
  split
  · exact h
  · cases a with
    | main => exact ctl_main P jobs s hw h
    | worker w => exact ctl_encoder P jobs s w h

/-- main's phase as a number: it decreases whenever the phase advances -/
def rank (P : Params ι ρ) : Phase → Nat
  | .sendJobs => P.dels + 6
  | .deleting k => k + 5
  | .receiving => 4
  | .applying => 3
  | .waiting => 2
  | .closing => 1
  | .returned => 0

/-- the weight of `panicked` in the measure: 1 until the process panicked -/
def pw (b : Bool) : Nat := if b then 0 else 1

/-- every job is moved at most five times (unsent → queue → took → sending → results → received),
    every encoder returns once, main's phase only advances, the process panics at most once -/
def measure (P : Params ι ρ) (s : XState ι ρ) : Nat :=
  5 * s.unsent.length + 4 * s.queue.length + (s.workers.map wt).sum + s.results.length +
    rank P s.phase + pw s.panicked

/-- the actor's next operation does not block (and the process is alive) -/
def enabled (P : Params ι ρ) (s : XState ι ρ) : Actor → Bool
  | .main =>
    !s.panicked && (match s.phase with
      | .sendJobs => P.nondet
      | .deleting _ => P.nondet
      | .receiving => s.remaining == 0 || !s.results.isEmpty
      | .applying => !P.nondet
      | .waiting => !P.waitBeforeClose || allExited s.workers
      | .closing => true
      | .returned => false)
  | .worker w =>
    !s.panicked && (match s.workers[w]? with
      | some .idle => !s.queue.isEmpty || s.jobsClosed
      | some (.took _) => true
      | some (.sending _) => s.resultsClosed || decide (s.results.length < P.cap)
      | _ => false)

/-- Encoder `w` goes from `old` to `new`; of the other terms of the measure only `queue` and
    `results` move. -/
theorem measure_worker (P : Params ι ρ) {s s' : XState ι ρ} {w : Nat} {old new : WState ι}
    (hw : s.workers[w]? = some old) (hws : s'.workers = s.workers.set w new)
    (hun : s'.unsent = s.unsent) (hph : s'.phase = s.phase) (hpk : s'.panicked = s.panicked)
    (hlt : 4 * s'.queue.length + wt new + s'.results.length <
      4 * s.queue.length + wt old + s.results.length) : measure P s' < measure P s := by
  have := wt_set s.workers w old new hw
  simp only [measure, hws, hun, hph, hpk]
  omega

theorem encoder_cases (P : Params ι ρ) (s : XState ι ρ) (w : Nat) (hnp : s.panicked = false) :
    (enabled P s (.worker w) = false ∧ encoderStep P s w = s) ∨
    (enabled P s (.worker w) = true ∧ measure P (encoderStep P s w) < measure P s) := by
  cases hw : s.workers[w]? with
  | none => left; simp [enabled, encoderStep, hw]
  | some x =>
    cases x with
    | exited => left; simp [enabled, encoderStep, hw]
    | idle =>
      cases hq : s.queue with
      | cons j rest =>
        refine .inr ⟨by simp [enabled, hw, hq, hnp], ?_⟩
        simp only [encoderStep, hw, hq]
        exact measure_worker P hw rfl rfl rfl rfl (by simp [wt, hq]; omega)
      | nil =>
        cases hj : s.jobsClosed with
        | true =>
          refine .inr ⟨by simp [enabled, hw, hq, hnp, hj], ?_⟩
          simp only [encoderStep, hw, hq, hj, if_true]
          exact measure_worker P hw rfl rfl rfl rfl (by simp [wt])
        | false => left; simp [enabled, encoderStep, hw, hq, hj]
    | took j =>
      refine .inr ⟨by simp [enabled, hw, hnp], ?_⟩
      cases hd : s.doneClosed with
      | true =>
        simp only [encoderStep, hw, hd, if_true]
        exact measure_worker P hw rfl rfl rfl rfl (by simp [wt])
      | false =>
        simp only [encoderStep, hw, hd, Bool.false_eq_true, if_false]
        exact measure_worker P hw rfl rfl rfl rfl (by simp [wt])
    | sending j =>
      cases hc : s.resultsClosed with
      | true =>
        right
        simp [enabled, encoderStep, hw, hnp, hc, measure, pw]
      | false =>
        by_cases hl : s.results.length < P.cap
        · refine .inr ⟨by simp [enabled, hw, hnp, hc, hl], ?_⟩
          simp only [encoderStep, hw, hc, hl, Bool.false_eq_true, if_false, if_true]
          exact measure_worker P hw rfl rfl rfl rfl (by simp [wt]; omega)
        · left; simp [enabled, encoderStep, hw, hc, hl]

/-- main is blocked and its step changes nothing, or its step lowers the measure: a job sent moves from
    `unsent` (weight 5) to `queue` (4), a result received leaves `results` (1), every other move lowers
    `rank` of the phase. -/
theorem main_cases (P : Params ι ρ) (s : XState ι ρ) (hnp : s.panicked = false) :
    (enabled P s .main = false ∧ mainStep P s = s) ∨
    (enabled P s .main = true ∧ measure P (mainStep P s) < measure P s) := by
  cases hph : s.phase with
  | sendJobs =>
    cases hn : P.nondet with
    | false => left; simp [enabled, mainStep, fastCommitMainStep, hph, hn]
    | true =>
      right
      cases hu : s.unsent with
      | nil => simp [enabled, mainStep, nondetMainStep, hph, hn, hu, hnp, measure, rank]
      | cons j rest =>
        simp [enabled, mainStep, nondetMainStep, hph, hn, hu, hnp, measure, rank]
        omega
  | deleting k =>
    cases hn : P.nondet with
    | false => left; simp [enabled, mainStep, fastCommitMainStep, hph, hn]
    | true =>
      right
      cases k with
      | zero => simp [enabled, mainStep, nondetMainStep, hph, hn, hnp, measure, rank]
      | succ k =>
        by_cases hf : P.fault s.ncalls = true
        · simp [enabled, mainStep, nondetMainStep, hph, hn, hnp, hf, measure, rank, earlyExit]
        · simp [enabled, mainStep, nondetMainStep, hph, hn, hnp, hf, measure, rank]
  | receiving =>
    cases hr : s.remaining with
    | zero =>
      right
      cases hn : P.nondet <;>
        simp [enabled, mainStep, nondetMainStep, fastCommitMainStep, hph, hn, hr, hnp, measure, rank]
    | succ n =>
      cases hres : s.results with
      | nil =>
        left
        cases hn : P.nondet <;>
          simp [enabled, mainStep, nondetMainStep, fastCommitMainStep, hph, hn, hr, hres]
      | cons r rest =>
        right
        cases hn : P.nondet with
        | false =>
          by_cases he : P.isErr r.2 = true
          · simp [enabled, mainStep, fastCommitMainStep, hph, hn, hr, hres, hnp, he, measure, rank,
              earlyExit]
            omega
          · simp [enabled, mainStep, fastCommitMainStep, hph, hn, hr, hres, hnp, he, measure, rank]
        | true =>
          by_cases he : P.isErr r.2 = true
          · simp [enabled, mainStep, nondetMainStep, hph, hn, hr, hres, hnp, he, measure, rank,
              earlyExit]
            omega
          · by_cases hnil : P.isNil r.2 = true
            · simp [enabled, mainStep, nondetMainStep, hph, hn, hr, hres, hnp, he, hnil, measure, rank,
                earlyExit]
              omega
            · by_cases hf : P.fault s.ncalls = true
              · simp [enabled, mainStep, nondetMainStep, hph, hn, hr, hres, hnp, he, hnil, hf, measure,
                  rank, earlyExit]
                omega
              · simp [enabled, mainStep, nondetMainStep, hph, hn, hr, hres, hnp, he, hnil, hf, measure,
                  rank]
  | applying =>
    cases hn : P.nondet with
    | false =>
      right; simp [enabled, mainStep, fastCommitMainStep, hph, hn, hnp, measure, rank]
    | true => left; simp [enabled, mainStep, nondetMainStep, hph, hn]
  | waiting =>
    by_cases hb : (P.waitBeforeClose && !allExited s.workers) = true
    · left
      simp only [Bool.and_eq_true, Bool.not_eq_true'] at hb
      simp [enabled, mainStep, deferredStep, hph, hb.1, hb.2]
    · right
      have hb' : (!P.waitBeforeClose || allExited s.workers) = true := by
        revert hb
        cases P.waitBeforeClose <;> cases allExited s.workers <;> simp
      simp [enabled, mainStep, deferredStep, hph, hnp, hb, hb', measure, rank]
  | closing => right; simp [enabled, mainStep, deferredStep, hph, hnp, measure, rank]
  | returned => left; simp [enabled, mainStep, hph]

theorem step_cases (P : Params ι ρ) (s : XState ι ρ) (a : Actor) :
    (enabled P s a = false ∧ step P s a = s) ∨
    (enabled P s a = true ∧ measure P (step P s a) < measure P s) := by
  unfold step
  cases hp : s.panicked with
  | true => left; cases a <;> simp [enabled, hp]
  | false =>
    cases a with
    | main => simpa using main_cases P s hp
    | worker w => simpa using encoder_cases P s w hp

theorem step_of_not_enabled (P : Params ι ρ) (s : XState ι ρ) (a : Actor)
    (h : enabled P s a = false) : step P s a = s := by
  rcases step_cases P s a with h' | h'
  · exact h'.2
  · rw [h] at h'; cases h'.1

theorem measure_of_enabled (P : Params ι ρ) (s : XState ι ρ) (a : Actor)
    (h : enabled P s a = true) : measure P (step P s a) < measure P s := by
  rcases step_cases P s a with h' | h'
  · rw [h] at h'; cases h'.1
  · exact h'.2

theorem step_ne_iff_enabled (P : Params ι ρ) (s : XState ι ρ) (a : Actor) :
    step P s a ≠ s ↔ enabled P s a = true := by
  constructor
  · intro hne
    cases he : enabled P s a with
    | true => rfl
    | false => exact absurd (step_of_not_enabled P s a he) hne
  · intro he heq
    have := measure_of_enabled P s a he
    rw [heq] at this
    exact Nat.lt_irrefl _ this

theorem wjob_length_le_held (ws : List (WState ι)) (w : Nat) (x : WState ι) (h : ws[w]? = some x) :
    (wjob x).length ≤ (held ws).length := by
  have := length_held_set ws w x .idle h
  have h0 : (wjob (WState.idle : WState ι)).length = 0 := rfl
  rw [h0] at this
  omega

theorem jobList_length (s : XState ι ρ) :
    (jobList s).length = s.received.length + s.results.length + (held s.workers).length +
      s.queue.length + s.unsent.length + s.dropped.length := by
  simp only [jobList, List.length_append, List.length_map]
  omega

/-- With `cap` = number of jobs: buffered results + jobs held by encoders ≤ `cap`. -/
theorem results_held_le_cap {P : Params ι ρ} {jobs : List ι} {s : XState ι ρ} (hR : Real P jobs)
    (hd : DataInv P jobs s) : s.results.length + (held s.workers).length ≤ P.cap := by
  have := hd.perm.length_eq
  rw [jobList_length] at this
  rw [hR.1]
  omega

theorem sending_has_room {P : Params ι ρ} {jobs : List ι} {s : XState ι ρ} (hR : Real P jobs)
    (hd : DataInv P jobs s) (w : Nat) (j : ι) (hw : s.workers[w]? = some (.sending j)) :
    s.results.length < P.cap := by
  have h1 := results_held_le_cap hR hd
  have h2 := wjob_length_le_held s.workers w _ hw
  simp only [wjob, List.length_cons, List.length_nil] at h2
  omega

theorem mem_actors_main (n : Nat) : Actor.main ∈ actors n := by simp [actors]

theorem mem_actors_worker (n w : Nat) (h : w < n) : Actor.worker w ∈ actors n := by
  simp only [actors, List.mem_cons, List.mem_map, List.mem_range]
  exact Or.inr ⟨w, h, rfl⟩

theorem exists_holder (ws : List (WState ι)) (h : held ws ≠ []) :
    ∃ (w : Nat) (x : WState ι), ws[w]? = some x ∧ wjob x ≠ [] := by
  apply Classical.byContradiction
  intro hno
  apply h
  unfold held
  rw [List.flatMap_eq_nil_iff]
  intro x hx
  apply Classical.byContradiction
  intro hne
  obtain ⟨w, hw⟩ := List.getElem?_of_mem hx
  exact hno ⟨w, x, hw, hne⟩

theorem exists_not_exited (ws : List (WState ι)) (h : allExited ws = false) :
    ∃ (w : Nat) (x : WState ι), ws[w]? = some x ∧ x ≠ .exited := by
  apply Classical.byContradiction
  intro hno
  have : allExited ws = true := by
    rw [allExited_iff]
    intro x hx
    apply Classical.byContradiction
    intro hne
    obtain ⟨w, hw⟩ := List.getElem?_of_mem hx
    exact hno ⟨w, x, hw, hne⟩
  rw [this] at h
  cases h

/-- a non-exited encoder that is not blocked on an empty open `jobs` channel can move -/
theorem worker_enabled {P : Params ι ρ} {jobs : List ι} {s : XState ι ρ} (hR : Real P jobs)
    (hd : DataInv P jobs s) (hc : CtlInv P jobs s) (w : Nat) (x : WState ι)
    (hw : s.workers[w]? = some x) (hx : x ≠ .exited) (hq : s.queue ≠ [] ∨ s.jobsClosed = true) :
    enabled P s (.worker w) = true := by
  have hnp := hc.np
  cases x with
  | exited => exact absurd rfl hx
  | idle =>
    rcases hq with hq | hq
    · cases hq' : s.queue with
      | nil => exact absurd hq' hq
      | cons a as => simp [enabled, hw, hnp, hq']
    · simp [enabled, hw, hnp, hq]
  | took j => simp [enabled, hw, hnp]
  | sending j =>
    have := sending_has_room hR hd w j hw
    simp [enabled, hw, hnp, this]

/-- In a reachable state that is not final, some actor can move. -/
theorem progress {P : Params ι ρ} {jobs : List ι} {s : XState ι ρ} (hR : Real P jobs)
    (hd : DataInv P jobs s) (hc : CtlInv P jobs s) (hpos : 0 < s.workers.length)
    (hnf : final s = false) : ∃ a ∈ actors s.workers.length, enabled P s a = true := by
  have hnp := hc.np
  cases hph : s.phase with
  | sendJobs =>
    refine ⟨.main, mem_actors_main _, ?_⟩
    have : P.nondet = true := by
      cases hn : P.nondet with
      | true => rfl
      | false => exact absurd hph (hc.mode.1 hn).1
    simp [enabled, hph, hnp, this]
  | deleting k =>
    refine ⟨.main, mem_actors_main _, ?_⟩
    have : P.nondet = true := by
      cases hn : P.nondet with
      | true => rfl
      | false => exact absurd hph ((hc.mode.1 hn).2 k)
    simp [enabled, hph, hnp, this]
  | applying =>
    refine ⟨.main, mem_actors_main _, ?_⟩
    have : P.nondet = false := by
      cases hn : P.nondet with
      | false => rfl
      | true => exact absurd hph (hc.mode.2 hn)
    simp [enabled, hph, hnp, this]
  | closing => exact ⟨.main, mem_actors_main _, by simp [enabled, hph, hnp]⟩
  | returned =>
    exfalso
    have := (allExited_iff s.workers).mpr (hc.lateExited (Or.inr hph))
    simp [final, hph, this] at hnf
  | waiting =>
    cases hall : allExited s.workers with
    | true => exact ⟨.main, mem_actors_main _, by simp [enabled, hph, hnp, hall]⟩
    | false =>
      obtain ⟨w, x, hw, hne⟩ := exists_not_exited s.workers hall
      exact ⟨.worker w, mem_actors_worker _ _ (lt_length_of_getElem? hw),
        worker_enabled hR hd hc w x hw hne (Or.inr (hc.jobsClosed_of_ne (by rw [hph]; nofun)))⟩
  | receiving =>
    cases hr : s.remaining with
    | zero => exact ⟨.main, mem_actors_main _, by simp [enabled, hph, hnp, hr]⟩
    | succ n =>
      cases hres : s.results with
      | cons r rest => exact ⟨.main, mem_actors_main _, by simp [enabled, hph, hnp, hres]⟩
      | nil =>
        have hstop : s.stop = none := hc.pre (by rw [hph]; rfl)
        have hdone : s.doneClosed = false := by rw [hc.doneStop, hstop]; rfl
        have hjc : s.jobsClosed = true := hc.jobsClosed_of_ne (by rw [hph]; nofun)
        have hlen := hd.perm.length_eq
        rw [jobList_length, hres, hc.us (by rw [hph]; intro h; cases h), hc.noDrop hdone] at hlen
        have hrem := hc.rem hstop
        simp only [List.length_nil] at hlen
        by_cases hq : s.queue = []
        · have hh : held s.workers ≠ [] := by
            intro h0
            rw [h0, hq] at hlen
            simp only [List.length_nil] at hlen
            omega
          obtain ⟨w, x, hw, hx⟩ := exists_holder s.workers hh
          have hne : x ≠ .exited := by
            intro h; rw [h] at hx; exact hx rfl
          exact ⟨.worker w, mem_actors_worker _ _ (lt_length_of_getElem? hw),
            worker_enabled hR hd hc w x hw hne (Or.inr hjc)⟩
        · have hw : s.workers[0]? = some s.workers[0] := List.getElem?_eq_getElem hpos
          have hne : s.workers[0] ≠ .exited := by
            intro h
            have hm : WState.exited ∈ s.workers := h ▸ List.getElem_mem hpos
            exact hq (hc.exitedQ hdone hm).1
          exact ⟨.worker 0, mem_actors_worker _ _ hpos,
            worker_enabled hR hd hc 0 _ hw hne (Or.inl hq)⟩

/-- everything that holds in the states reachable with the parameter values of the Go code -/
structure Reach (P : Params ι ρ) (jobs : List ι) (n : Nat) (s : XState ι ρ) : Prop where
  data : DataInv P jobs s
  ctl : CtlInv P jobs s
  nworkers : s.workers.length = n

theorem encoder_workers_length (P : Params ι ρ) (s : XState ι ρ) (w : Nat) :
    (encoderStep P s w).workers.length = s.workers.length := by
  unfold encoderStep
  split <;> try rfl
  · split
    · simp
    · split <;> simp
  · split <;> simp
  · split
    · rfl
    · split <;> simp

theorem main_workers (P : Params ι ρ) (s : XState ι ρ) : (mainStep P s).workers = s.workers :=
  (mainStep_moves P s).1

theorem step_workers_length (P : Params ι ρ) (s : XState ι ρ) (a : Actor) :
    (step P s a).workers.length = s.workers.length := by
  unfold step
  split
  · rfl
  · cases a with
    | main => rw [main_workers]
    | worker w => exact encoder_workers_length P s w

theorem reach_init (P : Params ι ρ) (jobs : List ι) (n : Nat) : Reach P jobs n (init P jobs n) := by
  refine ⟨data_init P jobs n, ctl_init P jobs n, ?_⟩
  unfold init
  split <;> simp [initNondet, initFast]

theorem reach_step {P : Params ι ρ} {jobs : List ι} {n : Nat} {s : XState ι ρ} (hR : Real P jobs)
    (h : Reach P jobs n s) (a : Actor) : Reach P jobs n (step P s a) :=
  ⟨data_step P jobs s a h.data, ctl_step P jobs s a hR.2 h.ctl,
    by rw [step_workers_length]; exact h.nworkers⟩

theorem reach_run {P : Params ι ρ} {jobs : List ι} {n : Nat} (hR : Real P jobs) (sched : List Actor)
    (s : XState ι ρ) (h : Reach P jobs n s) : Reach P jobs n (run P s sched) := by
  induction sched generalizing s with
  | nil => exact h
  | cons a as ih => exact ih _ (reach_step hR h a)

theorem final_not_enabled (P : Params ι ρ) (s : XState ι ρ) (a : Actor) (h : final s = true) :
    enabled P s a = false := by
  unfold final at h
  split at h
  · rename_i hph
    cases a with
    | main => simp [enabled, hph]
    | worker w =>
      cases hw : s.workers[w]? with
      | none => simp [enabled, hw]
      | some x =>
        have := (allExited_iff s.workers).mp h x (List.mem_of_getElem? hw)
        subst this
        simp [enabled, hw]
  · cases h

theorem final_run (P : Params ι ρ) (sched : List Actor) (s : XState ι ρ) (h : final s = true) :
    run P s sched = s := by
  induction sched with
  | nil => rfl
  | cons a as ih =>
    show run P (step P s a) as = s
    rw [step_of_not_enabled P s a (final_not_enabled P s a h), ih]

/-- The number of state-changing steps of a schedule (= steps of actors that were not blocked). -/
def effective (P : Params ι ρ) : XState ι ρ → List Actor → Nat
  | _, [] => 0
  | s, a :: as => (if enabled P s a then 1 else 0) + effective P (step P s a) as

theorem effective_le (P : Params ι ρ) (sched : List Actor) (s : XState ι ρ) :
    effective P s sched + measure P (run P s sched) ≤ measure P s := by
  induction sched generalizing s with
  | nil => simp [effective, run]
  | cons a as ih =>
    have hrun : run P s (a :: as) = run P (step P s a) as := rfl
    have := ih (step P s a)
    rw [hrun]
    unfold effective
    rcases step_cases P s a with ⟨hne, he⟩ | ⟨hen, hlt⟩
    · rw [he] at this
      rw [hne, he]
      simp only [Bool.false_eq_true, if_false]
      omega
    · rw [hen]
      simp only [if_true]
      omega

theorem measure_pos (P : Params ι ρ) (s : XState ι ρ) (h : s.panicked = false) : 1 ≤ measure P s := by
  unfold measure
  rw [h]
  simp [pw]

/-- Round robin for as many rounds as the measure of the initial state ends in the final state: a round in
    which nothing moves is final (`progress`), every other round lowers the measure, and the measure
    stays positive until the process panics, which it does not (`CtlInv.np`). -/
theorem roundRobin_final {P : Params ι ρ} {jobs : List ι} {n : Nat} (hR : Real P jobs) (hpos : 0 < n) :
    final (run P (init P jobs n) (roundRobin n (measure P (init P jobs n)))) = true := by
  have hreach := reach_run hR (roundRobin n (measure P (init P jobs n))) _ (reach_init P jobs n)
  rcases rounds_measure (μ := measure P) (I := Reach P jobs n) (fin := fun s => final s = true)
      (round := actors n)
      (fun s a => (step_cases P s a).imp And.right And.right) (fun s a h => reach_step hR h a)
      (fun s h hfix => by
        cases hf : final s with
        | true => rfl
        | false =>
          obtain ⟨a, ha, hen⟩ := progress hR h.data h.ctl (by rw [h.nworkers]; exact hpos) hf
          rw [h.nworkers] at ha
          exact absurd (hfix a ha) ((step_ne_iff_enabled P s a).mpr hen))
      (List.range (measure P (init P jobs n))) (init P jobs n) (reach_init P jobs n) with h | h
  · exact h
  · exfalso
    rw [List.length_range] at h
    have := measure_pos P _ hreach.ctl.np
    unfold roundRobin run at this
    omega

/-- main has left the receive loop (normally or early) -/
def mainDone (s : XState ι ρ) : Bool :=
  match s.phase with
  | .sendJobs | .deleting _ | .receiving => false
  | _ => true

theorem mainDone_of_final (s : XState ι ρ) (h : final s = true) : mainDone s = true := by
  unfold final at h
  split at h
  · rename_i hph; simp [mainDone, hph]
  · cases h

/-- When main has left the receive loop without an early exit, it has received every result:
    nothing is buffered, held, queued, unsent or dropped. -/
theorem all_received {P : Params ι ρ} {jobs : List ι} {n : Nat} {s : XState ι ρ}
    (h : Reach P jobs n s) (hdone : mainDone s = true) (hstop : s.stop = none) :
    s.results = [] ∧ held s.workers = [] ∧ s.queue = [] ∧ s.unsent = [] ∧ s.dropped = [] := by
  have hrem := h.ctl.rem hstop
  have h0 : s.remaining = 0 := by
    apply h.ctl.remLate hstop
    · intro hp; simp [mainDone, hp] at hdone
    · intro k hp; simp [mainDone, hp] at hdone
    · intro hp; simp [mainDone, hp] at hdone
  have hlen := h.data.perm.length_eq
  rw [jobList_length] at hlen
  have h5 : s.results.length = 0 ∧ (held s.workers).length = 0 ∧ s.queue.length = 0 ∧
      s.unsent.length = 0 ∧ s.dropped.length = 0 := by omega
  exact ⟨List.eq_nil_of_length_eq_zero h5.1, List.eq_nil_of_length_eq_zero h5.2.1,
    List.eq_nil_of_length_eq_zero h5.2.2.1, List.eq_nil_of_length_eq_zero h5.2.2.2.1,
    List.eq_nil_of_length_eq_zero h5.2.2.2.2⟩

theorem received_perm {P : Params ι ρ} {jobs : List ι} {n : Nat} {s : XState ι ρ}
    (h : Reach P jobs n s) (hdone : mainDone s = true) (hstop : s.stop = none) :
    (s.received.map Prod.fst).Perm jobs ∧ s.received.Perm (jobs.map (fun j => (j, P.f j))) := by
  obtain ⟨h1, h2, h3, h4, h5⟩ := all_received h hdone hstop
  have hp := h.data.perm
  unfold jobList at hp
  rw [h1, h2, h3, h4, h5] at hp
  simp only [List.append_nil] at hp
  refine ⟨hp, ?_⟩
  have hv : s.received = (s.received.map Prod.fst).map (fun j => (j, P.f j)) := by
    rw [List.map_map]
    have : ∀ r ∈ s.received, ((fun j => (j, P.f j)) ∘ Prod.fst) r = r := by
      intro r hr
      have := h.data.vals r (List.mem_append_left _ hr)
      show (r.1, P.f r.1) = r
      rw [← this]
    rw [List.map_congr_left this, List.map_id']
  rw [hv]
  exact hp.map _

theorem received_extends {P : Params ι ρ} {jobs : List ι} {s : XState ι ρ} (h : DataInv P jobs s) :
    ∃ rest, (s.received.map Prod.fst ++ rest).Perm jobs := by
  refine ⟨s.results.map Prod.fst ++ (held s.workers ++ (s.queue ++ (s.unsent ++ s.dropped))), ?_⟩
  have := h.perm
  unfold jobList at this
  rw [List.map_append, List.append_assoc] at this
  exact this

/-- If some job's result is an error and main has left the receive loop, main made an early exit. -/
theorem stop_of_error {P : Params ι ρ} {jobs : List ι} {n : Nat} {s : XState ι ρ}
    (h : Reach P jobs n s) (hdone : mainDone s = true) (j : ι) (hj : j ∈ jobs)
    (he : P.isErr (P.f j) = true) : s.stop ≠ none := by
  intro hstop
  obtain ⟨_, hp⟩ := received_perm h hdone hstop
  have hm : (j, P.f j) ∈ s.received := by
    rw [hp.mem_iff, List.mem_map]
    exact ⟨j, hj, rfl⟩
  have := h.ctl.recvOk hstop _ hm
  rw [he] at this
  cases this

/-- An early exit on an encoding error happens only if some job's result is an error. -/
theorem error_of_stop {P : Params ι ρ} {jobs : List ι} {n : Nat} {s : XState ι ρ}
    (h : Reach P jobs n s) (hs : s.stop = some .encodeErr) :
    ∃ j ∈ jobs, (j, P.f j) ∈ s.received ∧ P.isErr (P.f j) = true := by
  obtain ⟨r, hr, he⟩ := h.ctl.errRecv hs
  have hv := h.data.vals r (List.mem_append_left _ hr)
  have hm : r.1 ∈ jobs := by
    rw [← h.data.perm.mem_iff]
    unfold jobList
    simp only [List.mem_append, List.mem_map]
    exact Or.inl ⟨r, Or.inl hr, rfl⟩
  refine ⟨r.1, hm, ?_, ?_⟩
  · rw [← hv]; exact hr
  · rw [← hv]; exact he

end PoolX
end Atree

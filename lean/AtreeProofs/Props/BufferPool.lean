import AtreeModel.BufferPool
import AtreeModel.Gen.Facts
import AtreeProofs.BufferPoolLemmas
/-
  C04 / C16 — the process-wide buffer pools (`bufferPool`, `typeIDBufferPool`; buffer.go,
  extradata.go:400-418) cannot influence a result: "object-pool reuse" (C04), "despite the library's
  process-wide buffer … pools" (C16).

  The pool invariant is "every parked buffer is empty"; under it what a holder copies out of its
  buffer is the concatenation of its own writes, for every interleaving of holders and every choice
  of the pool.  Counterexamples: a `putBuffer` without `e.Reset()`, a `put` that is not the last action, a
  `Bytes()` slice that is kept.  `source_premises`: the code has the shape the model assumes
  (extractor facts).

  Not covered: data races on one `*bytes.Buffer` (two goroutines holding the same object) — excluded
  by the source premises (one holder, no use after put), not by the model; `sync.Pool`'s internals.
-/
namespace Atree.Buf

/-- **The pool invariant** "every parked buffer is empty": true of the empty pool, preserved by `Get`
    (ANY choice, any `New` size), by `putBuffer` of ANY buffer in ANY state (whatever its holder wrote),
    and by the pool discarding objects; and under it `Get` returns an empty buffer. -/
theorem pool_invariant (G : Growth) :
    PoolEmpty {} ∧
    (∀ p c n, PoolEmpty p → (p.get G c n).1.data = [] ∧ PoolEmpty (p.get G c n).2) ∧
    (∀ p b, PoolEmpty p → PoolEmpty (p.put b)) ∧
    (∀ p i, PoolEmpty p → PoolEmpty (p.drop i)) :=
  ⟨poolEmpty_empty, fun _ c n h => poolEmpty_get G h c n, fun _ b h => poolEmpty_put h b,
   fun _ i h => poolEmpty_drop h i⟩

/-- **`Reset` keeps the capacity and nothing else**: a recycled buffer differs from a new one only in
    the size of its underlying array, which no method the library calls on it reveals
    (`Gen.bufferPoolUses`: `Bytes()`, `String()`, writes). -/
theorem reset_keeps_only_capacity (b : Buffer) : b.reset = { data := [], cap := b.cap } := rfl

/-- **A holder's result is what it wrote.**  Take any pool whose parked buffers are empty (the
    invariant), let `Get` return ANY of them or a new one of any size, let the holder write `ws` and
    copy the contents out (`elementBuf.Bytes()` into the slab encoder, `b.String()`): the result is the
    concatenation of `ws` — it does not depend on the pool, on the choice or on the capacity — an early
    error return copies nothing out, and in both cases the deferred `put` restores the invariant. -/
theorem holder_result_is_what_it_wrote (G : Growth) (p : Pool) (hp : PoolEmpty p) (choice : Option Nat)
    (n : Nat) (ws : List Bytes) (completes : Bool) :
    (useBuffer G p choice n ws completes).1 = (if completes then some ws.flatten else none) ∧
    PoolEmpty (useBuffer G p choice n ws completes).2 := by
  obtain ⟨hd, hp'⟩ := poolEmpty_get G hp choice n
  unfold useBuffer
  refine ⟨?_, poolEmpty_put hp' _⟩
  simp only [Buffer.bytes, foldl_write_data, hd, List.nil_append]

/-- **Pooled histories refine the pool-free definition.**  For EVERY finite history of events of any
    number of holders, interleaved in any way — `getBuffer` with the pool handing out ANY parked object
    or a new one, writes, reads, the deferred `putBuffer`, the pool dropping objects — every read
    equals the read in the world without a pool, where each `get` starts from an empty byte string;
    and the pool invariant holds afterwards. -/
theorem pooled_history_refines_spec (G : Growth) (evs : List Ev) :
    (World.run G {} evs).1 = specRun [] evs ∧ PoolEmpty (World.run G {} evs).2.pool :=
  run_sim G evs {} poolEmpty_empty

/-- After ANY history, whatever the pool hands out next is an empty buffer. -/
theorem every_pooled_buffer_is_empty (G : Growth) (evs : List Ev) (c : Option Nat) (n : Nat) :
    (((World.run G {} evs).2.pool.get G c n).1).data = [] :=
  (poolEmpty_get G (pooled_history_refines_spec G evs).2 c n).1

/-- Two histories that differ only in what the pool does (which object each `Get` returns, the sizes
    `New` grows to — i.e. the value of the `maxThreshold` setting at that moment —, which objects it
    drops and when) give the same reads. -/
theorem reads_independent_of_pool_choices (G G' : Growth) (evs evs' : List Ev)
    (h : specRun [] evs = specRun [] evs') :
    (World.run G {} evs).1 = (World.run G' {} evs').1 := by
  rw [(pooled_history_refines_spec G evs).1, (pooled_history_refines_spec G' evs').1, h]

/-- **A `putBuffer` that forgets `e.Reset()` hands the previous holder's bytes to the next one**: holder 1
    writes `a` and puts the buffer back; holder 2 is handed that object, writes `b` and reads `a ++ b`. -/
theorem bad_put_leaks_previous_bytes (G : Growth) (a b : Bytes) (n : Nat) :
    (World.runWith Pool.badPut G {}
      [.get none n, .write 0 a, .put 0, .get (some 0) n, .write 1 b, .read 1]).1.getLast? =
      some (.read (a ++ b)) := by
  simp [World.runWith, World.stepWith, Pool.get, Pool.badPut, getSlot, Buffer.write, Buffer.bytes,
    Buffer.fresh]

/-- …with the real `putBuffer` the same history gives holder 2 exactly its own bytes. -/
theorem good_put_right_bytes (G : Growth) (a b : Bytes) (n : Nat) :
    (World.run G {}
      [.get none n, .write 0 a, .put 0, .get (some 0) n, .write 1 b, .read 1]).1.getLast? =
      some (.read b) := by
  simp [World.run, World.runWith, World.stepWith, Pool.get, Pool.put, getSlot, Buffer.write, Buffer.bytes,
    Buffer.fresh, Buffer.reset]

/-- **Why the `put` must be the holder's LAST action** (`Gen.bufferGetIsFollowedByDeferredPut`: it is
    the deferred call placed directly after the `get`).  With object identity (`HWorld`): holder 1 gets a
    buffer, writes `a`, puts it back but keeps its pointer; holder 2 is handed the same object and writes
    `b`; holder 1 writes `c` through its stale pointer; holder 2 reads `b ++ c`, not `b`. -/
theorem use_after_put_corrupts_next_holder (G : Growth) (a b c : Bytes) (n : Nat) :
    let w0 : HWorld := {}
    let (p1, w1) := w0.get G n
    let w2 := (w1.write G p1 a).put p1
    let (p2, w3) := w2.get G n
    let w4 := (w3.write G p2 b).write G p1 c
    p1 = p2 ∧ w4.read p2 = b ++ c := by
  simp [HWorld.get, HWorld.put, HWorld.write, HWorld.read, Buffer.write, Buffer.reset, Buffer.bytes,
    Buffer.fresh, List.modify]

/-- **Why `Bytes()` must be copied at once** (`Gen.bufferPoolUses`: it is the direct argument of
    `EncodeRawBytes`, which copies).  Holder 1 writes `a`, keeps the slice `Bytes()` (modelled as its
    pointer), puts the buffer back; holder 2 is handed the same object and writes `b`; what holder 1 now
    reads through the slice it kept is `b`, not the `a` it encoded. -/
theorem kept_bytes_slice_sees_next_holder (G : Growth) (a b : Bytes) (n : Nat) :
    let w0 : HWorld := {}
    let (p1, w1) := w0.get G n
    let w2 := (w1.write G p1 a).put p1
    let (p2, w3) := w2.get G n
    let w4 := w3.write G p2 b
    (w1.write G p1 a).read p1 = a ∧ w4.read p1 = b := by
  simp [HWorld.get, HWorld.put, HWorld.write, HWorld.read, Buffer.write, Buffer.reset, Buffer.bytes,
    Buffer.fresh, List.modify]

/-- The source-level premises of the buffer-pool model (regenerated from the Go sources on every run):
    * the only functions that mention a pool variable are its `get*` / `put*` helper pair;
    * `getBuffer` / `getTypeIDBuffer` are `return <pool>.Get().(*bytes.Buffer)`, `New` of both pools is
      `e := new(bytes.Buffer); e.Grow(…); return e` (an empty buffer), every `put*` helper calls
      `x.Reset()` and then `pool.Put(x)` on the same identifier, unconditionally
      (`Gen.putResetsTheObjectItPuts`);
    * the holders are `ArrayDataSlab.Encode`, `MapDataSlab.Encode` and `getEncodedTypeInfo`; in each the
      getter is called exactly once, as `x := get()` at the top level of the body, and the NEXT statement
      is `defer put(x)` with the matching helper — the buffer goes back on every path, after the last use;
    * every other occurrence of `x`: it is made the `io.Writer` of a local encoder, and its contents
      leave the function only as a COPY — `x.Bytes()` is the direct argument of
      `enc.CBOR.EncodeRawBytes` (fxamacker/cbor `StreamEncoder.EncodeRawBytes` copies into its own
      buffer), `x.String()` allocates a new string.  `x` is not returned, stored, sent, captured by a
      closure or a goroutine, reassigned, nor is its address taken;
    * the local encoders made from `x` are passed to `encodeElements` / `ti.Encode` (which run before
      the function returns) and otherwise only flushed and asked for their inlined extra data; they are
      not returned or stored.
    What these facts do NOT cover: a caller-supplied `Storable.Encode` / `TypeInfo.Encode` that keeps the
    encoder it is handed beyond the call. -/
theorem source_premises :
    Gen.poolVarRefs = [
      ("getBasicDigester", "basicDigesterPool"), ("getBuffer", "bufferPool"),
      ("getTypeIDBuffer", "typeIDBufferPool"), ("putBuffer", "bufferPool"),
      ("putDigester", "basicDigesterPool"), ("putTypeIDBuffer", "typeIDBufferPool")] ∧
    Gen.bufferGetShapeOk = true ∧ Gen.bufferPoolNewIsEmptyBuffer = true ∧
    Gen.putResetsTheObjectItPuts = true ∧
    Gen.bufferGetterRefs = [
      ("ArrayDataSlab.Encode", "getBuffer"), ("MapDataSlab.Encode", "getBuffer"),
      ("getEncodedTypeInfo", "getTypeIDBuffer")] ∧
    Gen.bufferGetIsFollowedByDeferredPut = true ∧
    Gen.bufferPoolUses = [
      ("ArrayDataSlab.Encode", "getBuffer",
        ["Bytes() copied by enc.CBOR.EncodeRawBytes", "defer putBuffer", "writer of NewEncoder"]),
      ("MapDataSlab.Encode", "getBuffer",
        ["Bytes() copied by enc.CBOR.EncodeRawBytes", "defer putBuffer", "writer of NewEncoder"]),
      ("getEncodedTypeInfo", "getTypeIDBuffer",
        ["copied by String()", "defer putTypeIDBuffer", "writer of cbor.NewStreamEncoder"])] ∧
    Gen.bufferPoolEncoderUses = [
      ("ArrayDataSlab.Encode", "elementEnc := NewEncoder(elementBuf, …)",
        ["argument of a.encodeElements", "call elementEnc.CBOR.Flush", "call elementEnc.hasInlinedExtraData",
         "call elementEnc.inlinedExtraData().Encode"]),
      ("MapDataSlab.Encode", "elemEnc := NewEncoder(elementBuf, …)",
        ["argument of m.encodeElements", "call elemEnc.hasInlinedExtraData",
         "call elemEnc.inlinedExtraData().Encode"]),
      ("getEncodedTypeInfo", "enc := cbor.NewStreamEncoder(b, …)",
        ["argument of ti.Encode", "call enc.Flush"])] := by
  exact ⟨rfl, rfl, rfl, rfl, rfl, rfl, rfl, rfl⟩

section NonVacuity

/-- a growth policy for the examples: double until it fits -/
def toyG : Growth := fun cap need => max (2 * cap) need

/-- Three holders on one pool, interleaved: A (slot 0) and B (slot 1) hold buffers at the same time;
    A writes `[1,2]`, B writes `[9]`, A writes `[3]`; both read; A puts; C (slot 2) is handed A's old
    object, writes `[7]` and reads; B puts; the pool drops an object. -/
def toyHistory : List Ev :=
  [.get none 4, .get none 4, .write 0 [1, 2], .write 1 [9], .write 0 [3], .read 0, .read 1, .put 0,
   .get (some 0) 4, .write 2 [7], .read 2, .put 1, .drop 0, .read 0]

/-- what that history shows: C reads `[7]`, not `[1,2,3,7]`; a read on a slot that was given up is
    nothing; after B's put one (empty, capacity 4) object is parked, which the pool then drops. -/
example :
    (World.run toyG {} toyHistory).1 =
      [.none, .none, .none, .none, .none, .read [1, 2, 3], .read [9], .none,
       .none, .none, .read [7], .none, .none, .none] ∧
    (World.run toyG {} (toyHistory.take 12)).2.pool.free = [{ data := [], cap := 4 }] ∧
    (World.run toyG {} toyHistory).2.pool.free = [] ∧
    specRun [] toyHistory = (World.run toyG {} toyHistory).1 := by decide +kernel

example := pooled_history_refines_spec toyG toyHistory

/-- the pool really recycles: C's buffer IS A's old object (its capacity, 4, was reached by A) -/
example :
    (World.run toyG {} (toyHistory.take 9)).2.held =
      [none, some { data := [9], cap := 4 }, some { data := [], cap := 4 }] := by decide

/-- `holder_result_is_what_it_wrote` on a pool that holds two empty buffers of different capacity: the
    result is the same for every choice; a pool with a NON-empty buffer (excluded by the hypothesis)
    gives a different result. -/
example :
    let p : Pool := { free := [{ data := [], cap := 100 }, { data := [], cap := 7 }] }
    (useBuffer toyG p (some 0) 4 [[1], [2, 3]] true).1 = some [1, 2, 3] ∧
    (useBuffer toyG p (some 1) 4 [[1], [2, 3]] true).1 = some [1, 2, 3] ∧
    (useBuffer toyG p none 4 [[1], [2, 3]] true).1 = some [1, 2, 3] ∧
    (useBuffer toyG p (some 1) 4 [[1], [2, 3]] false).1 = none ∧
    (useBuffer toyG { free := [{ data := [5], cap := 7 }] } (some 0) 4 [[1], [2, 3]] true).1
      = some [5, 1, 2, 3] := by decide

/-- the defective put helper, concretely -/
example :
    (World.runWith Pool.badPut toyG {}
      [.get none 4, .write 0 [1, 2], .put 0, .get (some 0) 4, .write 1 [7], .read 1]).1.getLast? =
      some (.read [1, 2, 7]) := by decide

end NonVacuity

end Atree.Buf

import AtreeProofs.ArrayInv
import AtreeProofs.ArrayLemmas
/-
  C01 — Array behaves as a plain sequence under every operation history.
  Property theorems: refinement of `Arr` operations to `List` operations, for an arbitrary legal
  threshold, arbitrary values (any size ≥ 1), arbitrary positions; plus totality on in-range
  requests and root-ID stability.
-/
namespace Atree.C01
open Atree Gen

/-- What a value becomes when stored: itself if it fits, a 19-byte reference otherwise. -/
def storedForm (T : Nat) (a : Arr) (v : Elem) (c : Ctx) : Elem := (toStorable T a.addr v c).1

theorem get_refines (T : Nat) (hT : legalThreshold T = true) (a : Arr) (ctr : Nat) (h : ArrInv T a ctr) (i : Nat) :
    (i < a.toList.length → a.get i = .ok (a.toList.getD i default)) ∧
    (a.toList.length ≤ i → a.get i = .error .indexOutOfBounds) :=
  arr_get_spec hT a ctr h i

theorem insert_refines (T : Nat) (hT : legalThreshold T = true) (a : Arr) (c : Ctx) (i : Nat) (v : Elem)
    (hv : ValueOk v) (h : ArrInv T a c.ctr) (hcount : a.count < maxArrayElementCount) :
    (i ≤ a.toList.length →
      ∃ a' c', a.insert T i v c = .ok (a', c') ∧
        a'.toList = a.toList.insertIdx i (storedForm T a v c) ∧
        a'.rootID = a.rootID ∧ a'.ty = a.ty) ∧
    (a.toList.length < i → a.insert T i v c = .error .indexOutOfBounds) := by
  constructor
  · intro hi
    obtain ⟨a2, c2, heq, _, hl, hid, hty⟩ := arr_insert_ok hT a c i v hv h hcount hi
    exact ⟨a2, c2, heq, hl, hid, hty⟩
  · intro hi
    exact arr_insert_err a c i v h (by omega) hi

theorem set_refines (T : Nat) (hT : legalThreshold T = true) (a : Arr) (c : Ctx) (i : Nat) (v : Elem)
    (hv : ValueOk v) (h : ArrInv T a c.ctr) :
    (i < a.toList.length →
      ∃ a' c', a.set T i v c = .ok (a.toList.getD i default, a', c') ∧
        a'.toList = a.toList.set i (storedForm T a v c) ∧
        a'.rootID = a.rootID ∧ a'.ty = a.ty) ∧
    (a.toList.length ≤ i → a.set T i v c = .error .indexOutOfBounds) := by
  constructor
  · intro hi
    obtain ⟨a2, c2, heq, _, hl, hid, hty⟩ := arr_set_ok hT a c i v hv h hi
    exact ⟨a2, c2, heq, hl, hid, hty⟩
  · intro hi
    exact arr_set_err a c i v h hi

theorem remove_refines (T : Nat) (hT : legalThreshold T = true) (a : Arr) (c : Ctx) (i : Nat)
    (h : ArrInv T a c.ctr) :
    (i < a.toList.length →
      ∃ a' c', a.remove T i c = .ok (a.toList.getD i default, a', c') ∧
        a'.toList = a.toList.eraseIdx i ∧
        a'.rootID = a.rootID ∧ a'.ty = a.ty) ∧
    (a.toList.length ≤ i → a.remove T i c = .error .indexOutOfBounds) := by
  constructor
  · intro hi
    obtain ⟨a2, c2, heq, _, hl, hid, hty⟩ := arr_remove_ok hT a c i h hi
    exact ⟨a2, c2, heq, hl, hid, hty⟩
  · intro hi
    exact arr_remove_err a c i h hi

/-- `PopIterate` hands out the elements in reverse order and leaves an empty array with the same root ID
    and type.  Holds for every `Arr`: the hypotheses `hT` and `h` are not used. -/
theorem pop_refines (T : Nat) (hT : legalThreshold T = true) (a : Arr) (c : Ctx) (h : ArrInv T a c.ctr) :
    (a.popIterate c).1 = a.toList.reverse ∧
    (a.popIterate c).2.1.toList = [] ∧
    (a.popIterate c).2.1.rootID = a.rootID ∧ (a.popIterate c).2.1.ty = a.ty := by
  have _ := hT; have _ := h
  exact arr_popIterate_refines a c

theorem count_refines (T : Nat) (a : Arr) (ctr : Nat) (h : ArrInv T a ctr) :
    a.count = a.toList.length :=
  h.count_eq

/-- `SetType` changes the type only: same elements, same root ID.  Holds for every `Arr` and every `T`
    (`T` is not used). -/
theorem setType_refines (T : Nat) (a : Arr) (c : Ctx) (ty : Nat) :
    (a.setType ty c).1.toList = a.toList ∧ (a.setType ty c).1.ty = ty ∧
    (a.setType ty c).1.rootID = a.rootID := by
  have _ := T
  exact ⟨rfl, rfl, rfl⟩

/-- The two routing branches of `childSlabIndexInfo` (linear scan / binary search) agree on every
    valid cumulative-count table, so the answer does not depend on the number of children. -/
theorem route_linear_eq_binary (cs : List Nat) (index : Nat)
    (hmono : cs.Pairwise (· < ·)) (hin : ∃ last ∈ cs.getLast?, index < last) :
    MetaSlab.scanLinear index cs 0 = MetaSlab.scanBinary index cs 0 cs.length (cs.length + 1) := by
  have hb := MetaSlab.scanBinary_spec index cs hmono hin (cs.length + 1) 0 cs.length
    (Nat.zero_le _) (Nat.le_refl _) (by omega) (by intro j hj; omega) (by intro j h1 h2; omega)
  rw [MetaSlab.scanLinear_of_ans index cs 0 _ hb]; omega

/-! ### Non-vacuity

The theorems above instantiated on `Atree.Example.arr4`, the two-level array (root index slab over
two data slabs, `T = 256`) produced by running the model, for which `ArrInv` is proved directly. -/
section NonVacuity
open Atree.Example

example : run4 = .ok (arr4, 3) := run4_eq
example : arr4.d = 1 := rfl
example : ArrInv T0 arr4 3 := arr4_inv
example : arr4.toList = [elem 0, elem 1, elem 2, elem 3] := rfl

example : arr4.get 2 = .ok (elem 2) := (get_refines T0 legal arr4 3 arr4_inv 2).1 (by decide)
example : arr4.get 4 = .error .indexOutOfBounds := (get_refines T0 legal arr4 3 arr4_inv 4).2 (by decide)
example : arr4.count = 4 := count_refines T0 arr4 3 arr4_inv

/-- insertion in the middle of the two-level tree refines `List.insertIdx` -/
example : ∃ a' c', arr4.insert T0 2 (elem 9) ⟨3, [], []⟩ = .ok (a', c') ∧
    a'.toList = [elem 0, elem 1, elem 9, elem 2, elem 3] ∧ a'.rootID = ⟨1, 1⟩ := by
  obtain ⟨a', c', h1, h2, h3, _⟩ :=
    (insert_refines T0 legal arr4 ⟨3, [], []⟩ 2 (elem 9) (value_ok 9) arr4_inv (by decide)).1 (by decide)
  exact ⟨a', c', h1, h2, h3⟩

/-- removal at the head of the two-level tree refines `List.eraseIdx` -/
example : ∃ a' c', arr4.remove T0 0 ⟨3, [], []⟩ = .ok (elem 0, a', c') ∧
    a'.toList = [elem 1, elem 2, elem 3] := by
  obtain ⟨a', c', h1, h2, _⟩ := (remove_refines T0 legal arr4 ⟨3, [], []⟩ 0 arr4_inv).1 (by decide)
  exact ⟨a', c', h1, h2⟩

/-- a value too large to inline is stored as a 19-byte reference -/
example : storedForm T0 arr4 ⟨5000, .val 7⟩ ⟨3, [], []⟩ = ⟨19, .ref ⟨1, 4⟩⟩ := by decide

example : MetaSlab.scanLinear 5 [2, 4, 7, 9] 0 = MetaSlab.scanBinary 5 [2, 4, 7, 9] 0 4 5 :=
  route_linear_eq_binary [2, 4, 7, 9] 5 (by decide) ⟨9, by simp, by decide⟩

end NonVacuity

end Atree.C01

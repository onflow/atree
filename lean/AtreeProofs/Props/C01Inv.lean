import AtreeProofs.ArrayInv
import AtreeProofs.ArrayLemmas
/-
  What a SUCCESSFUL array request tells: the position was in range (and the array not full), and
  the result is the one `arr_insert_ok` / `arr_set_ok` / `arr_remove_ok` describe.
-/
namespace Atree
open Gen

variable {T : Nat} {a a' : Arr} {c c' : Ctx} {i : Nat} {v old : Elem}

theorem arr_insert_of_ok (hT : legalThreshold T = true) (hv : ValueOk v) (h : ArrInv T a c.ctr)
    (hr : a.insert T i v c = .ok (a', c')) :
    i ≤ a.toList.length ∧ a.count < maxArrayElementCount ∧ ArrInv T a' c'.ctr ∧
    a'.toList = a.toList.insertIdx i (toStorable T a.addr v c).1 ∧ a'.rootID = a.rootID ∧ a'.ty = a.ty := by
  have hne : a.count ≠ maxArrayElementCount := by
    intro heq
    unfold Arr.insert at hr
    rw [if_pos heq] at hr
    cases hr
  have hlt : a.count < maxArrayElementCount := by have := h.count_lt; omega
  rcases Nat.lt_or_ge a.toList.length i with hi | hi
  · rw [arr_insert_err a c i v h hne hi] at hr; cases hr
  · obtain ⟨a2, c2, heq, hp⟩ := arr_insert_ok hT a c i v hv h hlt hi
    rw [heq] at hr
    cases hr
    exact ⟨hi, hlt, hp⟩

theorem arr_set_of_ok (hT : legalThreshold T = true) (hv : ValueOk v) (h : ArrInv T a c.ctr)
    (hr : a.set T i v c = .ok (old, a', c')) :
    i < a.toList.length ∧ old = a.toList.getD i default ∧ ArrInv T a' c'.ctr ∧
    a'.toList = a.toList.set i (toStorable T a.addr v c).1 ∧ a'.rootID = a.rootID ∧ a'.ty = a.ty := by
  rcases Nat.lt_or_ge i a.toList.length with hi | hi
  · obtain ⟨a2, c2, heq, hp⟩ := arr_set_ok hT a c i v hv h hi
    rw [heq] at hr
    cases hr
    exact ⟨hi, rfl, hp⟩
  · rw [arr_set_err a c i v h hi] at hr; cases hr

theorem arr_remove_of_ok (hT : legalThreshold T = true) (h : ArrInv T a c.ctr)
    (hr : a.remove T i c = .ok (old, a', c')) :
    i < a.toList.length ∧ old = a.toList.getD i default ∧ ArrInv T a' c'.ctr ∧
    a'.toList = a.toList.eraseIdx i ∧ a'.rootID = a.rootID ∧ a'.ty = a.ty := by
  rcases Nat.lt_or_ge i a.toList.length with hi | hi
  · obtain ⟨a2, c2, heq, hp⟩ := arr_remove_ok hT a c i h hi
    rw [heq] at hr
    cases hr
    exact ⟨hi, rfl, hp⟩
  · rw [arr_remove_err a c i h hi] at hr; cases hr

end Atree

import AtreeModel.Array.Partial
import AtreeProofs.ArrayInv
import AtreeProofs.Array.Iter
import AtreeProofs.Array.Example
import AtreeProofs.Array.Top
/-
  C01 / C13 — the array model is TOTAL where Go panics or returns an error, OUTSIDE the invariant.
  `AtreeModel/Array/Partial.lean` has `Except`-valued transcriptions of the same Go functions with
  the failure exits written out.  This file proves

  * INSIDE the invariant nothing changes: the `E`-version returns `.ok` of what the total function
    returns (so every theorem about the total functions is a theorem about the code paths that do
    not fail);
  * the failure conditions, exactly (`↔` where possible);
  * concrete states outside the invariant where the total model returns a value and Go panics /
    returns an error.
-/
namespace Atree.C01P
open Atree Gen ATree

variable {α : Type}

/-- the part of `TreeInv` that matters here: the count sums run parallel to the child headers -/
def SumsParallel (m : MetaSlab α) : Prop := m.countSum.length = m.childHdrs.length

theorem sumsParallel_of_treeInv {T d : Nat} {top : Bool} {m : MetaSlab (ATree d)} (h : TreeInv T (d + 1) top m) :
    SumsParallel m := by
  obtain ⟨_, _, h3, _⟩ := h
  unfold SumsParallel
  rw [h3, MetaSlab.prefixSums_length]

/-- `LendToRight` moves `n - (n - h)` of the left slab's `n` children, computed in `int`: the slice
    index is `h` when `h ≤ n`, and out of range otherwise -/
theorem lend_index {n h : Nat} (hle : h ≤ n) : ((n : Int) - ((n : Int) - (h : Int))).toNat = h := by omega

theorem lend_in_range {n h : Nat} (hle : h ≤ n) :
    ¬ ((n : Int) - ((n : Int) - (h : Int)) < 0 ∨ (n : Int) < (n : Int) - ((n : Int) - (h : Int))) := by omega

theorem lend_out_of_range {n h : Nat} (hlt : n < h) :
    (n : Int) - ((n : Int) - (h : Int)) < 0 ∨ (n : Int) < (n : Int) - ((n : Int) - (h : Int)) := by omega

/-- **LendToRight, inside its precondition.**  When the left slab has at least half of the children
    (and its count sums are not shorter than that), the explicit version does not fail and returns
    what the total model returns. -/
theorem lendToRightE_eq (l r : MetaSlab α)
    (h1 : (l.childHdrs.length + r.childHdrs.length) / 2 ≤ l.childHdrs.length)
    (h2 : (l.childHdrs.length + r.childHdrs.length) / 2 ≤ l.countSum.length) :
    MetaSlab.lendToRightE l r = .ok (MetaSlab.lendToRight l r) := by
  have hidx := lend_index h1
  have hno := lend_in_range h1
  have hno2 : ¬ l.countSum.length < (l.childHdrs.length + r.childHdrs.length) / 2 := Nat.not_lt.mpr h2
  simp only [MetaSlab.lendToRightE, sliceLendToRightE, hno, if_false, hidx, hno2, bind, Except.bind, pure, Except.pure,
    MetaSlab.lendToRight]

/-- **LendToRight, outside: Go panics.**  Exactly when the left slab has fewer children than half of
    the total (or its count sums are too short) – where the total model silently keeps all children on
    the left and writes a header size for MORE children than there are. -/
theorem lendToRightE_panics_iff (l r : MetaSlab α) :
    MetaSlab.lendToRightE l r = .error .goPanic ↔
      l.childHdrs.length < (l.childHdrs.length + r.childHdrs.length) / 2 ∨
      l.countSum.length < (l.childHdrs.length + r.childHdrs.length) / 2 := by
  constructor
  · intro h
    by_cases h1 : (l.childHdrs.length + r.childHdrs.length) / 2 ≤ l.childHdrs.length
    · by_cases h2 : (l.childHdrs.length + r.childHdrs.length) / 2 ≤ l.countSum.length
      · rw [lendToRightE_eq l r h1 h2] at h; cases h
      · right; omega
    · left; omega
  · intro h
    by_cases h1 : (l.childHdrs.length + r.childHdrs.length) / 2 ≤ l.childHdrs.length
    · have h2 : l.countSum.length < (l.childHdrs.length + r.childHdrs.length) / 2 := by omega
      have hno := lend_in_range h1
      simp only [MetaSlab.lendToRightE, sliceLendToRightE, hno, if_false, h2, if_true, bind, Except.bind, throw, throwThe,
        MonadExceptOf.throw]
    · have hyes := lend_out_of_range (Nat.lt_of_not_le h1)
      simp only [MetaSlab.lendToRightE, sliceLendToRightE, hyes, if_true, bind, Except.bind]

/-- `BorrowFromRight` moves `h - n` of the right slab's `m` children, computed in `int` -/
theorem borrow_index (h n : Nat) : ((h : Int) - (n : Int)).toNat = h - n := by omega

theorem borrow_in_range {n m h : Nat} (h1 : n ≤ h) (h2 : h ≤ n + m) :
    ¬ ((h : Int) - (n : Int) < 0 ∨ (m : Int) < (h : Int) - (n : Int)) := by omega

theorem borrow_out_of_range {n m h : Nat} (hlt : h < n) :
    (h : Int) - (n : Int) < 0 ∨ (m : Int) < (h : Int) - (n : Int) := by omega

/-- **BorrowFromRight, inside its precondition** (the left slab has at most half of the children, the
    right slab's count sums are parallel to its headers). -/
theorem borrowFromRightE_eq (l r : MetaSlab α)
    (h1 : l.childHdrs.length ≤ (l.childHdrs.length + r.childHdrs.length) / 2)
    (h2 : r.childHdrs.length ≤ r.countSum.length) :
    MetaSlab.borrowFromRightE l r = .ok (MetaSlab.borrowFromRight l r) := by
  have hidx := borrow_index ((l.childHdrs.length + r.childHdrs.length) / 2) l.childHdrs.length
  have hno := borrow_in_range (m := r.childHdrs.length) h1 (Nat.div_le_self _ 2)
  have hno2 : ¬ r.countSum.length < (r.childHdrs.drop ((l.childHdrs.length + r.childHdrs.length) / 2 - l.childHdrs.length)).length := by
    rw [List.length_drop]; exact Nat.not_lt.mpr (Nat.le_trans (Nat.sub_le _ _) h2)
  simp only [MetaSlab.borrowFromRightE, sliceBorrowFromRightE, hno, if_false, hidx, hno2, bind, Except.bind, pure, Except.pure,
    MetaSlab.borrowFromRight]

/-- **BorrowFromRight, outside: Go panics** when the left slab has more children than half of the total
    (negative `moveCount`; the total model moves nothing and writes a header size for FEWER children
    than the left slab has). -/
theorem borrowFromRightE_panics (l r : MetaSlab α)
    (h : (l.childHdrs.length + r.childHdrs.length) / 2 < l.childHdrs.length) :
    MetaSlab.borrowFromRightE l r = .error .goPanic := by
  have hyes := borrow_out_of_range (m := r.childHdrs.length) h
  simp only [MetaSlab.borrowFromRightE, sliceBorrowFromRightE, hyes, if_true, bind, Except.bind]

/-- **Merge**: fails exactly when the left slab has no count sums; otherwise it is the total model. -/
theorem mergeE_eq (l r : MetaSlab α) (h : l.countSum ≠ []) : MetaSlab.mergeE l r = .ok (MetaSlab.merge l r) := by
  unfold MetaSlab.mergeE MetaSlab.merge
  cases hg : l.countSum.getLast? with
  | none => exact absurd (List.getLast?_eq_none_iff.mp hg) h
  | some b =>
    have : l.countSum.getLastD 0 = b := by
      rw [List.getLastD_eq_getLast?, hg]; rfl
    simp only [this]

theorem mergeE_panics_iff (l r : MetaSlab α) : MetaSlab.mergeE l r = .error .goPanic ↔ l.countSum = [] := by
  constructor
  · intro h
    by_cases hn : l.countSum = []
    · exact hn
    · rw [mergeE_eq l r hn] at h; cases h
  · intro h
    unfold MetaSlab.mergeE
    rw [h]; rfl

/-! ### the preconditions hold where the tree code calls these functions

`MergeOrRebalanceChildSlab` calls `LendToRight(left sibling, child)` only if the sibling
`CanLendToRight(underflowSize)` and the child `IsUnderflow`; `BorrowFromRight(child, right sibling)`
only if the sibling `CanLendToLeft`; `Merge(left, right)` on non-root index slabs.  With the size
bookkeeping of `TreeInv` (`size = 12 + 14 · #children`) that gives the preconditions. -/

/-- the size of an index slab is that of its header list -/
def SizeExact (m : MetaSlab α) : Prop :=
  m.hdr.size = arrayMetaDataSlabPrefixSize + arraySlabHeaderSize * m.childHdrs.length

theorem sizeExact_of_treeInv {T d : Nat} {top : Bool} {m : MetaSlab (ATree d)} (h : TreeInv T (d + 1) top m) :
    SizeExact m := by
  obtain ⟨_, h2, _, _, h5, _⟩ := h
  unfold SizeExact
  rw [h5, h2, List.length_map]

/-- a slab that can lend to an underflowing slab has more children than it -/
theorem more_children_of_canLend {T : Nat} {l r : MetaSlab α} {u : Nat} (hl : SizeExact l) (hr : SizeExact r)
    (hu : MetaSlab.isUnderflow T r = some u) (hc : MetaSlab.canLend T l u = true) :
    r.childHdrs.length < l.childHdrs.length := by
  unfold SizeExact at hl hr
  simp only [MetaSlab.isUnderflow] at hu
  split at hu
  · rename_i hmin
    simp only [MetaSlab.canLend] at hc
    split at hc
    · simp only [decide_eq_true_eq] at hc
      simp only [arraySlabHeaderSize, arrayMetaDataSlabPrefixSize] at *
      omega
    · cases hc
  · cases hu

/-- **in context: LendToRight does not panic** (left sibling can lend, child underflows) -/
theorem lendToRightE_in_context {T : Nat} (l r : MetaSlab α) (u : Nat) (hl : SizeExact l) (hr : SizeExact r)
    (hsl : SumsParallel l) (hu : MetaSlab.isUnderflow T r = some u) (hc : MetaSlab.canLend T l u = true) :
    MetaSlab.lendToRightE l r = .ok (MetaSlab.lendToRight l r) := by
  have := more_children_of_canLend hl hr hu hc
  unfold SumsParallel at hsl
  exact lendToRightE_eq l r (by omega) (by omega)

/-- **in context: BorrowFromRight does not panic** (child underflows, right sibling can lend) -/
theorem borrowFromRightE_in_context {T : Nat} (l r : MetaSlab α) (u : Nat) (hl : SizeExact l) (hr : SizeExact r)
    (hsr : SumsParallel r) (hu : MetaSlab.isUnderflow T l = some u) (hc : MetaSlab.canLend T r u = true) :
    MetaSlab.borrowFromRightE l r = .ok (MetaSlab.borrowFromRight l r) := by
  have := more_children_of_canLend hr hl hu hc
  unfold SumsParallel at hsr
  exact borrowFromRightE_eq l r (by omega) (by omega)

/-- **in context: Merge does not panic** on an index slab with at least one child whose count sums
    are parallel to its headers – in particular on every slab satisfying `TreeInv` that is not an
    empty root. -/
theorem mergeE_in_context (l r : MetaSlab α) (hs : SumsParallel l) (hne : l.childHdrs ≠ []) :
    MetaSlab.mergeE l r = .ok (MetaSlab.merge l r) := by
  refine mergeE_eq l r ?_
  intro h
  unfold SumsParallel at hs
  rw [h] at hs
  exact hne (List.eq_nil_of_length_eq_zero hs.symm)

theorem mergeE_of_treeInv {T d : Nat} (hT : legalThreshold T = true) {l : MetaSlab (ATree d)} (r : MetaSlab (ATree d))
    (h : TreeInv T (d + 1) false l) : MetaSlab.mergeE l r = .ok (MetaSlab.merge l r) := by
  refine mergeE_in_context l r (sumsParallel_of_treeInv h) ?_
  have hsz := sizeExact_of_treeInv h
  obtain ⟨_, _, _, _, _, _, _, _, hmin, _⟩ := h
  have hmin' := hmin rfl
  intro hnil
  unfold SizeExact at hsz
  rw [hnil] at hsz
  have F := thrFacts hT
  have h1 := F.lo
  rw [F.minE] at hmin'
  simp only [arrayMetaDataSlabPrefixSize, List.length_nil, Nat.mul_zero, Nat.add_zero] at hsz
  omega

theorem data_nonempty {T : Nat} (hT : legalThreshold T = true) {s : DataSlab} (h : DataInv T false s) : s.elems ≠ [] :=
  h.elems_ne_nil hT

theorem children_nonempty {T d : Nat} (hT : legalThreshold T = true) {top : Bool} {m : MetaSlab (ATree d)}
    (h : TreeInv T (d + 1) top m) : m.children ≠ [] :=
  TreeInv.children_ne_nil hT h

theorem leaves_nonempty {T : Nat} (hT : legalThreshold T = true) : ∀ (d : Nat) (t : ATree d), TreeInv T d false t →
    ∀ s ∈ Arr.leaves d t, s.elems ≠ [] :=
  fun d t h => TreeInv.leaves_ne_nil hT d t h

theorem first_leaf {T : Nat} (hT : legalThreshold T = true) : ∀ (d : Nat) (top : Bool) (t : ATree d), TreeInv T d top t →
    ∃ f rest, Arr.leaves d t = f :: rest ∧ Arr.firstDataSlabE d t = .ok f
  | 0, _, (t : DataSlab), _ => ⟨t, [], rfl, rfl⟩
  | d + 1, top, (m : MetaSlab (ATree d)), h => by
    have hne := children_nonempty hT h
    obtain ⟨_, _, _, _, _, h6, _⟩ := h
    cases hc : m.children with
    | nil => exact absurd hc hne
    | cons child cs =>
      obtain ⟨f, rest, h1, h2⟩ := first_leaf hT d false child (h6 child (by rw [hc]; simp))
      refine ⟨f, rest ++ cs.flatMap (Arr.leaves d), ?_, ?_⟩
      · show m.children.flatMap (Arr.leaves d) = _
        rw [hc, List.flatMap_cons, h1]; rfl
      · show (match m.children with
          | [] => (Except.error IterErr.goPanic : Except IterErr DataSlab)
          | child :: _ => Arr.firstDataSlabE d child) = _
        rw [hc]; exact h2

theorem length_le_flatMap_elems : ∀ (L : List DataSlab), (∀ s ∈ L, s.elems ≠ []) →
    L.length ≤ (L.flatMap (·.elems)).length
  | [], _ => Nat.le_refl _
  | s :: L, h => by
    have h1 : 1 ≤ s.elems.length := by
      cases he : s.elems with
      | nil => exact absurd he (h s (by simp))
      | cons _ _ => simp
    have h2 := length_le_flatMap_elems L (fun x hx => h x (by simp [hx]))
    simp only [List.flatMap_cons, List.length_append, List.length_cons]
    omega

theorem roIterFromE_spec : ∀ (rest pre : List DataSlab) (cur : DataSlab) (fuel idx remaining : Nat),
    LeafChain (cur :: rest) → ((pre ++ cur :: rest).map (·.hdr.id)).Nodup →
    (∀ s ∈ pre ++ cur :: rest, s.hdr.id ≠ SlabID.undef) → (∀ s ∈ rest, s.elems ≠ []) →
    rest.length + 1 ≤ fuel →
    Arr.roIterFromE (pre ++ cur :: rest) fuel cur idx remaining
      = .ok ((cur.elems.drop idx ++ rest.flatMap (·.elems)).take remaining) := by
  intro rest
  induction rest with
  | nil =>
    intro pre cur fuel idx remaining hchain _ _ _ hfuel
    obtain ⟨f, rfl⟩ : ∃ f, fuel = f + 1 := Nat.exists_eq_add_one.mpr (Nat.lt_of_lt_of_le (Nat.succ_pos _) hfuel)
    have hnext : cur.next = SlabID.undef := hchain
    unfold Arr.roIterFromE
    by_cases h0 : remaining = 0
    · simp [h0]
    · simp only [h0, if_false, List.flatMap_nil, List.append_nil]
      by_cases h1 : (cur.elems.drop idx).length ≥ remaining
      · simp only [h1, if_true]
      · simp only [h1, if_false, hnext, if_true]
        rw [List.take_of_length_le (by omega)]
  | cons nxt rest ih =>
    intro pre cur fuel idx remaining hchain hnd hdef hne hfuel
    obtain ⟨f, rfl⟩ : ∃ f, fuel = f + 1 := Nat.exists_eq_add_one.mpr (Nat.lt_of_lt_of_le (Nat.succ_pos _) hfuel)
    obtain ⟨hnext, hchain'⟩ : cur.next = nxt.hdr.id ∧ LeafChain (nxt :: rest) := hchain
    have hnu : ¬ nxt.hdr.id = SlabID.undef := hdef nxt (by simp)
    have hnz : ¬ nxt.elems.length = 0 := by
      intro h0
      exact hne nxt (by simp) (List.eq_nil_of_length_eq_zero h0)
    unfold Arr.roIterFromE
    by_cases h0 : remaining = 0
    · simp [h0]
    · simp only [h0, if_false]
      by_cases h1 : (cur.elems.drop idx).length ≥ remaining
      · simp only [h1, if_true]
        rw [List.take_append_of_le_length h1]
      · simp only [h1, if_false, hnext, hnu, find?_next pre rest cur nxt hnd, hnz]
        have hsplit : pre ++ cur :: nxt :: rest = (pre ++ [cur]) ++ nxt :: rest := by simp
        rw [hsplit, ih (pre ++ [cur]) nxt f 0 _ hchain' (by rw [← hsplit]; exact hnd)
          (by rw [← hsplit]; exact hdef) (fun s hs => hne s (List.mem_cons_of_mem _ hs)) (Nat.le_of_succ_le_succ hfuel)]
        simp only [List.drop_zero, List.flatMap_cons]
        rw [List.take_append (l₁ := cur.elems.drop idx),
          List.take_of_length_le (l := cur.elems.drop idx) (by omega)]

/-- Inside the invariant the read-only iterator does not fail and yields what the total model yields
    (`toList`): no missing `next` slab, no empty non-root slab, no childless index slab, and the
    fuel `count + 2` is enough. -/
theorem iterReadOnlyE_of_inv (T : Nat) (hT : legalThreshold T = true) (a : Arr) (ctr : Nat) (h : ArrInv T a ctr) :
    a.iterReadOnlyE = .ok a.iterReadOnly ∧ a.iterReadOnlyE = .ok a.toList := by
  rw [iterReadOnly_eq a ctr h]
  suffices hE : a.iterReadOnlyE = .ok a.toList from ⟨hE, hE⟩
  obtain ⟨d, t, ty⟩ := a
  have hfl := leaves_flatMap_elems d t
  have hcount : (hdr d t).count = (flatten d t).length := h.shape.count_eq_length
  have hnd : ((Arr.leaves d t).map (·.hdr.id)).Nodup := h.ids.1.sublist (leaves_ids_sublist d t)
  have hdef : ∀ s ∈ Arr.leaves d t, s.hdr.id ≠ SlabID.undef := by
    intro s hs heq
    have hm : s.hdr.id ∈ slabIds d t :=
      (leaves_ids_sublist d t).subset (List.mem_map.2 ⟨s, hs, rfl⟩)
    have := (h.ids.2 _ hm).2.1
    rw [heq] at this
    simp [SlabID.undef] at this
  have hchain : LeafChain (Arr.leaves d t) := h.chain
  have htree : TreeInv T d true t := h.tree
  obtain ⟨first, rest, hl, hfirst⟩ := first_leaf hT d true t htree
  have hrest : ∀ s ∈ rest, s.elems ≠ [] := by
    cases d with
    | zero =>
      have : Arr.leaves 0 t = [t] := rfl
      rw [this] at hl
      have : rest = [] := (List.cons.inj hl).2.symm
      intro s hs; rw [this] at hs; cases hs
    | succ d' =>
      obtain ⟨_, _, _, _, _, h6, _⟩ := htree
      intro s hs
      have hs' : s ∈ Arr.leaves (d' + 1) t := by rw [hl]; simp [hs]
      obtain ⟨c, hc, hsc⟩ := List.mem_flatMap.mp hs'
      exact leaves_nonempty hT d' c (h6 c hc) s hsc
  show (if (hdr d t).count = 0 then (Except.ok [] : Except IterErr (List Elem))
    else match Arr.firstDataSlabE d t with
      | Except.error e => Except.error e
      | Except.ok first => Arr.roIterFromE (Arr.leaves d t) ((hdr d t).count + 2) first 0 (hdr d t).count)
    = Except.ok (flatten d t)
  by_cases h0 : (hdr d t).count = 0
  · rw [if_pos h0]
    have : (flatten d t).length = 0 := hcount.symm.trans h0
    rw [List.eq_nil_of_length_eq_zero this]
  · rw [if_neg h0, hfirst]
    simp only
    rw [hl] at hnd hdef hchain hfl
    have hlen := length_le_flatMap_elems rest hrest
    have hflen : (flatten d t).length = first.elems.length + (rest.flatMap (·.elems)).length := by
      rw [← hfl]; simp
    have := roIterFromE_spec rest [] first ((hdr d t).count + 2) 0 (hdr d t).count hchain
      hnd hdef hrest (by omega)
    simp only [List.nil_append, List.drop_zero] at this
    rw [hl, this, ← List.flatMap_cons (f := fun s : DataSlab => s.elems), hfl, hcount]
    rw [List.take_of_length_le (Nat.le_refl _)]

/-- the error exits, one step of the iterator: the current slab is used up, more elements are
    expected, `next` is defined and no slab has that ID ⇒ `SlabNotFoundError`; the slab with that ID is
    empty ⇒ `SlabDataError` -/
theorem roIterFromE_missing_next (all : List DataSlab) (fuel : Nat) (cur : DataSlab) (idx remaining : Nat)
    (h1 : (cur.elems.drop idx).length < remaining) (h2 : cur.next ≠ SlabID.undef)
    (h3 : all.find? (fun s => s.hdr.id == cur.next) = none) :
    Arr.roIterFromE all (fuel + 1) cur idx remaining = .error .slabNotFound := by
  have h0 : ¬ remaining = 0 := by omega
  have h1' : ¬ (cur.elems.drop idx).length ≥ remaining := by omega
  unfold Arr.roIterFromE
  simp only [h0, if_false, h1', h2, h3]

theorem roIterFromE_empty_next (all : List DataSlab) (fuel : Nat) (cur nxt : DataSlab) (idx remaining : Nat)
    (h1 : (cur.elems.drop idx).length < remaining) (h2 : cur.next ≠ SlabID.undef)
    (h3 : all.find? (fun s => s.hdr.id == cur.next) = some nxt) (h4 : nxt.elems = []) :
    Arr.roIterFromE all (fuel + 1) cur idx remaining = .error .slabData := by
  have h0 : ¬ remaining = 0 := by omega
  have h1' : ¬ (cur.elems.drop idx).length ≥ remaining := by omega
  unfold Arr.roIterFromE
  simp only [h0, if_false, h1', h2, h3, h4, List.length_nil, if_true]

section MetaExamples

def h (i n : Nat) : Hdr := ⟨⟨1, i⟩, 221, n⟩
/-- an index slab with ONE child -/
def small : MetaSlab Unit := ⟨⟨⟨1, 10⟩, 26, 2⟩, [h 11 2], [2], [()], false⟩
/-- an index slab with THREE children -/
def big : MetaSlab Unit := ⟨⟨⟨1, 20⟩, 54, 6⟩, [h 21 2, h 22 2, h 23 2], [2, 4, 6], [(), (), ()], false⟩
/-- an index slab without children and count sums (only an emptied root can look like this) -/
def empty : MetaSlab Unit := ⟨⟨⟨1, 30⟩, 12, 0⟩, [], [], [], false⟩

/-- `small.LendToRight(big)`: Go computes `moveCount = 1 - 2 = -1` and panics in `lendToRight` … -/
example : MetaSlab.lendToRightE small big = .error .goPanic :=
  (lendToRightE_panics_iff small big).mpr (Or.inl (by decide))
/-- … the total model keeps the one child on the left and writes a header size for TWO children -/
example : (MetaSlab.lendToRight small big).1.childHdrs.length = 1 ∧
    (MetaSlab.lendToRight small big).1.hdr.size = arrayMetaDataSlabPrefixSize + 2 * arraySlabHeaderSize := by decide

/-- `big.BorrowFromRight(small)`: `moveCount = 2 - 3 = -1`, Go panics at `right[:count]` … -/
example : MetaSlab.borrowFromRightE big small = .error .goPanic := borrowFromRightE_panics big small (by decide)
/-- … the total model moves nothing and writes a header size for TWO children on a slab that has three -/
example : (MetaSlab.borrowFromRight big small).1.childHdrs.length = 3 ∧
    (MetaSlab.borrowFromRight big small).1.hdr.size = arrayMetaDataSlabPrefixSize + 2 * arraySlabHeaderSize := by decide

/-- `empty.Merge(big)`: `a.childrenCountSum[len-1]` is index −1, Go panics … -/
example : MetaSlab.mergeE empty big = .error .goPanic := (mergeE_panics_iff empty big).mpr rfl
/-- … the total model takes 0 as the base -/
example : (MetaSlab.merge empty big).countSum = [2, 4, 6] := by decide

/-- and the good direction: `big.LendToRight(small)` and `small.BorrowFromRight(big)` are the model's -/
example : MetaSlab.lendToRightE big small = .ok (MetaSlab.lendToRight big small) :=
  lendToRightE_eq big small (by decide) (by decide)
example : MetaSlab.borrowFromRightE small big = .ok (MetaSlab.borrowFromRight small big) :=
  borrowFromRightE_eq small big (by decide) (by decide)
example : MetaSlab.mergeE small big = .ok (MetaSlab.merge small big) := mergeE_eq small big (by decide)

end MetaExamples

section IterExamples
open Atree.Example

/-- on the two-level example array (`ArrInv` holds: `Example.arr4_inv`) nothing fails and the result is
    the total model's, which is `toList` -/
example : arr4.iterReadOnlyE = .ok arr4.iterReadOnly := by rfl
example : arr4.iterReadOnlyE = .ok arr4.toList := by rfl

/-- the left leaf points to a slab that does not exist (`next = 1.9`) -/
def leftBadNext : DataSlab := { Example.left with next := ⟨1, 9⟩ }
def arrBadNext : Arr := ⟨1, ofMeta { rootSlab with children := [ofData leftBadNext, ofData Example.right] }, 0⟩
/-- Go: `SlabNotFoundError` after the first two elements; the total model: those two elements, no error -/
example : arrBadNext.iterReadOnlyE = .error .slabNotFound := by rfl
example : arrBadNext.iterReadOnly = [elem 0, elem 1] := by rfl

/-- the right leaf is empty (the index slab still counts four elements) -/
def rightEmpty : DataSlab := { Example.right with elems := [] }
def arrEmptyLeaf : Arr := ⟨1, ofMeta { rootSlab with children := [ofData Example.left, ofData rightEmpty] }, 0⟩
/-- Go: `SlabDataError("data slab contains 0 elements, expect more")`; the total model: the prefix -/
example : arrEmptyLeaf.iterReadOnlyE = .error .slabData := by rfl
example : arrEmptyLeaf.iterReadOnly = [elem 0, elem 1] := by rfl

/-- a root index slab that claims four elements and has no children -/
def arrNoChildren : Arr := ⟨1, ofMeta { rootSlab with children := [], childHdrs := [], countSum := [] }, 0⟩
/-- Go: `slab.childrenHeaders[0]` panics in `firstArrayDataSlab`; the total model: the empty list -/
example : arrNoChildren.iterReadOnlyE = .error .goPanic := by rfl
example : arrNoChildren.iterReadOnly = [] := by rfl

/-- a CYCLE: the right leaf points back to the left one, the root claims ten elements.  Go follows the
    links until `remainingCount` is used up (ten elements, no error); the total model's fuel (number
    of leaves + 1) stops after three visits. -/
def rightCycle : DataSlab := { Example.right with next := ⟨1, 2⟩ }
def arrCycle : Arr :=
  ⟨1, ofMeta { rootSlab with hdr := { rootSlab.hdr with count := 10 },
                             children := [ofData Example.left, ofData rightCycle] }, 0⟩
example : arrCycle.iterReadOnlyE =
    .ok [elem 0, elem 1, elem 2, elem 3, elem 0, elem 1, elem 2, elem 3, elem 0, elem 1] := by rfl
example : arrCycle.iterReadOnly = [elem 0, elem 1, elem 2, elem 3, elem 0, elem 1] := by decide

/-- the count is larger than what the chain holds and the chain ENDS (`next` undefined): Go's `Next`
    returns `nil, nil` – the iteration ends early WITHOUT an error; both models agree -/
def arrShort : Arr := ⟨1, ofMeta { rootSlab with hdr := { rootSlab.hdr with count := 9 } }, 0⟩
example : arrShort.iterReadOnlyE = .ok [elem 0, elem 1, elem 2, elem 3] := by rfl
example : arrShort.iterReadOnly = [elem 0, elem 1, elem 2, elem 3] := by rfl

end IterExamples

end Atree.C01P

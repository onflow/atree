import AtreeProofs.MapInv
import AtreeProofs.MapLemmas
import AtreeProofs.Map.Requests
import AtreeProofs.Map.Example
/-
  C02 — Ordered map behaves as a dictionary under every operation history.
  Property theorems: refinement of `OMap` operations to dictionary operations, for an arbitrary
  legal threshold `T`, an ARBITRARY digest function (any hash distribution, any collisions), any
  number of digest levels `r + 1`, arbitrary values (any size ≥ 1), keys up to the inline key limit.
-/
namespace Atree.C02
open Atree Gen

variable {r : Nat}

/-- `set_refines` for every value `OMap.set` accepts (`ValueOkR`: references included) -/
theorem set_refines_ref {T : Nat} {D : DigestFn (r + 1)} {cfg : MCfg} {m : OMap r} {k : MKey} {v : Elem} {c : Ctx}
    (hT : legalThreshold T = true) (hcfg : CfgOk cfg T m) (h : MapInv T D m)
    (hk : KeyOk T (r + 1) D k) (hv : ValueOkR T k.size v) (hc : CtxOk m c) :
    (∃ old m' c', m.set cfg k v c = .ok (old, m', c') ∧
        old = dictLookup m.toList k ∧
        (∀ k', KeyOk T (r + 1) D k' →
           dictLookup m'.toList k' = if k'.same k then some (storedValue cfg k v c) else dictLookup m.toList k') ∧
        m'.count = (if (dictLookup m.toList k).isSome then m.count else m.count + 1) ∧
        MapInv T D m' ∧ CtxOk m' c' ∧ m'.rootID = m.rootID ∧ m'.ty = m.ty ∧ m'.seed = m.seed) ∨
    (m.set cfg k v c = .error .collisionLimit ∧ dictLookup m.toList k = none) := by
  cases hr : m.set cfg k v c with
  | error e =>
    obtain ⟨rfl, hnone⟩ := OMap.set_refused hT hcfg h hk hv hr
    exact .inr ⟨rfl, hnone⟩
  | ok res =>
    obtain ⟨old, m', c'⟩ := res
    have hp := (OMap.set_post hT hcfg h hk hv hr).1
    obtain ⟨e1, e2, e3⟩ := hp.dict h hk
    exact .inl ⟨old, m', c', rfl, e1, e2, e3, hp.inv, hp.ctx hc, hp.rootID, hp.ty, hp.seed⟩

theorem inv_new (T : Nat) (hT : legalThreshold T = true) (D : DigestFn (r + 1)) (addr ty : Nat)
    (seedOf : SlabID → Nat) (c : Ctx) :
    MapInv T D (OMap.new (r := r) addr ty seedOf c).1 ∧ (OMap.new (r := r) addr ty seedOf c).1.toList = [] := by
  constructor
  · exact emptyMap_inv hT _ _ _
  · rfl

/-- Lookup: the value of a present key, key-not-found for an absent one; never any other error. -/
theorem get_refines (T : Nat) (hT : legalThreshold T = true) (D : DigestFn (r + 1)) (cfg : MCfg) (m : OMap r)
    (hcfg : CfgOk cfg T m) (h : MapInv T D m) (k : MKey) (hk : KeyOk T (r + 1) D k) :
    match dictLookup m.toList k with
    | some v => ∃ k', m.get cfg k = .ok (k', v) ∧ k'.same k = true
    | none => m.get cfg k = .error .keyNotFound := by
  have hg := OMap.get_spec hT hcfg h hk
  cases hd : dictLookup m.toList k with
  | none => rw [hd] at hg; exact hg
  | some v => rw [hd] at hg; exact ⟨k, hg, MKey.same_self k⟩

theorem has_refines (T : Nat) (hT : legalThreshold T = true) (D : DigestFn (r + 1)) (cfg : MCfg) (m : OMap r)
    (hcfg : CfgOk cfg T m) (h : MapInv T D m) (k : MKey) (hk : KeyOk T (r + 1) D k) :
    m.has cfg k = .ok (dictLookup m.toList k).isSome := by
  have hg := OMap.get_spec hT hcfg h hk
  cases hd : dictLookup m.toList k with
  | none => rw [hd] at hg; simp only [OMap.has, hg]; rfl
  | some v => rw [hd] at hg; simp only [OMap.has, hg]; rfl

/-- Insert / overwrite: succeeds unless the collision limit refuses a NEW key (C12); returns the
    previous value; afterwards the dictionary is the old one updated at `k`; the count follows;
    the invariant is preserved; root ID, type and seed are unchanged. -/
theorem set_refines (T : Nat) (hT : legalThreshold T = true) (D : DigestFn (r + 1)) (cfg : MCfg) (m : OMap r)
    (hcfg : CfgOk cfg T m) (h : MapInv T D m) (k : MKey) (hk : KeyOk T (r + 1) D k)
    (v : Elem) (hv : ValueOkM v) (c : Ctx) (hc : CtxOk m c) :
    (∃ old m' c', m.set cfg k v c = .ok (old, m', c') ∧
        old = dictLookup m.toList k ∧
        (∀ k', KeyOk T (r + 1) D k' →
           dictLookup m'.toList k' = if k'.same k then some (storedValue cfg k v c) else dictLookup m.toList k') ∧
        m'.count = (if (dictLookup m.toList k).isSome then m.count else m.count + 1) ∧
        MapInv T D m' ∧ CtxOk m' c' ∧ m'.rootID = m.rootID ∧ m'.ty = m.ty ∧ m'.seed = m.seed) ∨
    (m.set cfg k v c = .error .collisionLimit ∧ dictLookup m.toList k = none) :=
  set_refines_ref hT hcfg h hk (hv.okR T k.size) hc

/-- Removal: key-not-found for an absent key (and nothing else can go wrong); otherwise returns the
    stored key and value and the dictionary loses exactly that key; the count goes down by exactly
    one (stated without truncated subtraction: `m'.count + 1 = m.count`). -/
theorem remove_refines (T : Nat) (hT : legalThreshold T = true) (D : DigestFn (r + 1)) (cfg : MCfg) (m : OMap r)
    (hcfg : CfgOk cfg T m) (h : MapInv T D m) (k : MKey) (hk : KeyOk T (r + 1) D k) (c : Ctx) (hc : CtxOk m c) :
    match dictLookup m.toList k with
    | none => m.remove cfg k c = .error .keyNotFound
    | some v =>
      ∃ k0 m' c', m.remove cfg k c = .ok (k0, v, m', c') ∧ k0.same k = true ∧
        (∀ k', KeyOk T (r + 1) D k' →
           dictLookup m'.toList k' = if k'.same k then none else dictLookup m.toList k') ∧
        m'.count + 1 = m.count ∧ MapInv T D m' ∧ CtxOk m' c' ∧
        m'.rootID = m.rootID ∧ m'.ty = m.ty ∧ m'.seed = m.seed := by
  cases hr : m.remove cfg k c with
  | error e =>
    obtain ⟨rfl, hnone⟩ := OMap.remove_refused hT hcfg h hk hc hr
    rw [hnone]
  | ok res =>
    obtain ⟨k0, v, m', c'⟩ := res
    obtain ⟨rfl, _, hp, _⟩ := OMap.remove_post hT hcfg h hk hc hr
    obtain ⟨e1, e2, e3⟩ := hp.dict h hk
    rw [e1]
    exact ⟨k0, m', c', rfl, MKey.same_self k0, e2, e3, hp.inv, hp.ctx, hp.rootID, hp.ty, hp.seed⟩

/-- Bulk pop: every pair exactly once (in reverse iteration order), the map ends up empty.  The
    hypothesis `hc` is not used. -/
theorem pop_refines (T : Nat) (hT : legalThreshold T = true) (D : DigestFn (r + 1)) (m : OMap r)
    (h : MapInv T D m) (c : Ctx) (hc : CtxOk m c) :
    (m.popIterate c).1 = m.toList.reverse ∧ (m.popIterate c).2.1.toList = [] ∧ (m.popIterate c).2.1.count = 0 ∧
    MapInv T D (m.popIterate c).2.1 ∧ (m.popIterate c).2.1.rootID = m.rootID := by
  have _ := hc
  exact OMap.popIterate_spec hT h c

theorem count_refines (T : Nat) (D : DigestFn (r + 1)) (m : OMap r) (h : MapInv T D m) :
    m.count = m.toList.length := h.count_eq

/-! ### Non-vacuity

A concrete map is built by RUNNING the model: two digest levels (`r = 1`), threshold 256, a digest
function that maps a key to the hundreds and tens digit of its payload (so collisions at the
first level, at both levels, and none all occur), collision limit 1; 19 `set`s and one `remove`
(`MapExample.run`).  The invariant and the context hypothesis hold for it, the map has an index
slab root over several data slabs, an inline group, an external group and last-level lists, so
the hypotheses of the theorems above are satisfiable in a non-trivial state. -/
section NonVacuity
open MapExample
/- `run.1.root : MTree 1 run.1.d`: while `run` unfolds, elaborating any statement that mentions the
   root runs the twenty requests (to see whether that type is a function type). -/
attribute [local irreducible] run

example : MapInv 256 D2 run.1 := run_good.inv
example : CtxOk run.1 run.2 := run_good.ctx
example : CfgOk cfg2 256 run.1 := run_good.cfgok

/-- the root has been split: an index slab over data slabs -/
example : run.1.d = 1 := by rw [run_eq]; decide +kernel
example : run.1.count = 18 := by rw [run_eq]; decide +kernel
/-- first-level elements, leaf by leaf: singles, inline groups and one external group -/
example : kinds run.1 =
    ["single", "inline", "inline", "external", "inline", "inline", "single", "single", "single"] := by rw [run_eq]; decide +kernel
/-- iteration order = digest order; the fully colliding keys 311..314 in insertion order -/
example : run.1.toList.map (fun p => p.1.pay) =
    [11, 111, 112, 121, 211, 221, 311, 312, 313, 314, 321, 511, 521, 611, 621, 711, 811, 911] := by rw [run_eq]; decide +kernel

/-- the theorems apply to this state (all hypotheses discharged) -/
example := get_refines 256 legal256 D2 cfg2 run.1 run_good.cfgok run_good.inv (key 313) (key_ok _)
example := set_refines 256 legal256 D2 cfg2 run.1 run_good.cfgok run_good.inv (key 122) (key_ok _) (val 0)
  (val_ok _) run.2 run_good.ctx
example := remove_refines 256 legal256 D2 cfg2 run.1 run_good.cfgok run_good.inv (key 313) (key_ok _) run.2
  run_good.ctx
example := pop_refines 256 legal256 D2 run.1 run_good.inv run.2 run_good.ctx

/-- and the model agrees with them on concrete instances -/
example : dictLookup run.1.toList (key 313) = some (val 7) := by rw [run_eq]; decide +kernel
example : (run.1.has cfg2 (key 313)).toOption = some true := by rw [run_eq]; decide +kernel
example : (run.1.has cfg2 (key 315)).toOption = some false := by rw [run_eq]; decide +kernel

end NonVacuity

end Atree.C02

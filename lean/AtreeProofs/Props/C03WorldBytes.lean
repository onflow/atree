import AtreeProofs.WorldCodec.BytesHist
import AtreeProofs.Props.C07World
/-
  C03 / C10 for nested containers at byte level.  Property theorems.

  "After any successful commit, a brand-new storage reconstructs every live container with exactly
  the content it had at commit time, using nothing but those registers" — for a World of nested
  containers, with the real byte codec:

  * the requests of a history (`WC.Req`: the World operations through current handles, with their
    whole parent-callback chains) are run against the storage state machine (`WC.HistB`: write set,
    cache, ledger; commits of either kind with any fault plan anywhere), every stored slab being
    `EncodeSlab` of its codec-level form `World.toCodec` (inlined children embedded);
  * `world_bytes_commit_reopen`: after any such history, a fault-free commit succeeds, and a
    BRAND-NEW storage over the same ledger (empty write set, empty cache) shows, by `DecodeSlab` on
    the registers alone, exactly `World.toCodec` of the reopened world for every slab ID: the deep
    content of every live container (every inlined child at every depth is part of the decoded slab
    of its host), and no register for anything else.

  Hypotheses: the side conditions of `Props/C07World.lean` on the FINAL world (`LeafOk`, `SideAt`) — they make every pending slab encodable (`NoEncodeFailure` is DERIVED, not
  assumed) — and `DeepSteps D`: the deep account of every request ("a slab whose embedded child changed
  was stored"), which is `Props/C10Deep.lean` (`C03WBF.world_bytes_commit_reopen` has no such hypothesis).
-/
namespace Atree.C03WB
open Atree Atree.Codec Gen World St C10Persist WC C07W

/-- every pending slab encodes: derived from the invariant and the side conditions of the world -/
theorem no_encode_failure {D : SlabID → DigestFn 4} (hdeep : DeepSteps D) {w : World} {cx : Ctx}
    {s : St Slab (SlabID × Bytes)} (h : HistB D w cx s)
    (L : LeafOk w cx.ctr) (hside : ∀ id, SideAt w id) :
    NoEncodeFailure worldCodec s := by
  obtain ⟨hrep, _, hund, _⟩ := histB_rep hdeep h
  obtain ⟨H, Hh, _⟩ := C09W.world_heap_exact D w cx h.hist
  intro id v hv
  have hne : id ≠ SlabID.undef := by
    intro e; rw [e, hund] at hv; cases hv
  have hview : s.view worldCodec id = some v := view_of_deltas worldCodec s id (some v) hv
  rw [hrep id hne] at hview
  obtain ⟨ok, _⟩ := worldOk_codec_ok D w cx.ctr H Hh L id v hview (hside id)
  rw [worldCodec_enc_of_ok v ok]
  rfl

/-- The commit / reopen theorem of C03 for nested containers at byte level, under the hypothesis `DeepSteps`
    (`C03WBF.world_bytes_commit_reopen` is the same without it; its docstring describes the conclusion). -/
theorem world_bytes_commit_reopen {D : SlabID → DigestFn 4} (hdeep : DeepSteps D) {w : World} {cx : Ctx}
    {s : St Slab (SlabID × Bytes)} (h : HistB D w cx s)
    (L : LeafOk w cx.ctr) (hside : ∀ id, SideAt w id)
    (kind : CommitKind) (mo dlo : List SlabID) :
    (St.step worldCodec s (.commit kind [] mo dlo)).2 = .unit ∧
    let reopened := St.run worldCodec s [.commit kind [] mo dlo, .recreate]
    reopened.deltas = [] ∧ reopened.cache = [] ∧
    (∀ id, id.isTemp = false → reopened.view worldCodec id = w.reopen.toCodec id) ∧
    -- the registers themselves: `DecodeSlab(id, register)` is the codec-level slab of the world, and
    -- there is a register exactly for the slabs of the heap
    (∀ id, id.isTemp = false →
      (AList.find? reopened.base id).bind (fun p =>
        match decodeSlab p.1 p.2 0 with
        | .ok sl _ => some sl
        | _ => none) = w.toCodec id) ∧
    (∀ id, id.isTemp = false → ((AList.find? reopened.base id).isSome ↔ (w.slabAt id).isSome)) ∧
    -- … spelled out: the register of a heap slab is filed under its ID and `DecodeSlab(id, bytes)` is the slab
    (∀ id sl, id.isTemp = false → w.toCodec id = some sl →
      ∃ bytes k, AList.find? reopened.base id = some (id, bytes) ∧ decodeSlab id bytes 0 = .ok sl k) := by
  obtain ⟨hrep, hI, _, _⟩ := histB_rep hdeep h
  have hkeyed := (histB_rep hdeep (HistB.commit kind [] mo dlo h)).2.2.2
  have hne := no_encode_failure hdeep h L hside
  obtain ⟨k1, k2⟩ := rep_commit_reopen worldCodec worldCodec_roundTrip s _ hrep hI hne kind mo dlo
  refine ⟨k1, ?_⟩
  intro reopened
  obtain ⟨k3, k4, k5, k6⟩ := k2
  have hreg : ∀ id, id.isTemp = false →
      (AList.find? reopened.base id).bind (fun p =>
        match decodeSlab p.1 p.2 0 with
        | .ok sl _ => some sl
        | _ => none) = w.toCodec id := by
    intro id ht
    have := k6 id ht
    unfold St.view at this
    rw [k3, k4] at this
    exact this
  have hbase : reopened.base = (St.step worldCodec s (.commit kind [] mo dlo)).1.base := by
    show (St.run worldCodec s [.commit kind [] mo dlo, .recreate]).base = _
    simp only [St.run, List.foldl_cons, List.foldl_nil]
    rfl
  refine ⟨k3, k4, fun id ht => by rw [k6 id ht]; exact (congrFun (toCodec_of_conts (w := w) (w' := w.reopen) rfl) id).symm,
    hreg, ?_, ?_⟩
  rotate_left
  · intro id sl ht hsl
    have h1 := hreg id ht
    rw [hsl] at h1
    cases hb : AList.find? reopened.base id with
    | none => rw [hb] at h1; cases h1
    | some p =>
      rw [hb] at h1
      simp only [Option.bind_some] at h1
      have hp1 : p.1 = id := hkeyed id p (by rw [← hbase]; exact hb)
      obtain ⟨pid, bytes⟩ := p
      simp only at hp1
      subst hp1
      simp only at h1
      cases hd : decodeSlab pid bytes 0 with
      | ok sl' k =>
        rw [hd] at h1
        simp only [Option.some.injEq] at h1
        subst h1
        exact ⟨bytes, k, rfl, hd⟩
      | error e k => rw [hd] at h1; cases h1
      | panic => rw [hd] at h1; cases h1
  intro id ht
  have h1 := hreg id ht
  constructor
  · intro hb
    obtain ⟨b, hb'⟩ := Option.isSome_iff_exists.1 hb
    have hdec := k5.baseDecodes id b hb'
    rw [hb'] at h1
    simp only [Option.bind_some] at h1
    have : (w.toCodec id).isSome := by
      rw [← h1]
      exact hdec
    rwa [toCodec_isSome] at this
  · intro hs
    rw [← toCodec_isSome] at hs
    rw [← h1] at hs
    cases hb : AList.find? reopened.base id with
    | none => rw [hb] at hs; cases hs
    | some b => rfl

end Atree.C03WB

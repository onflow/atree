import AtreeProofs.Props.C03WorldBytes
import AtreeProofs.Props.C10Deep
/-
  C03 / C10 for nested containers at byte level, without the hypothesis `DeepSteps`: the deep account
  of every request (`Props/C10Deep.lean`: a slab whose embedded child changed was stored — carried along
  the whole parent-callback chain from the core lemmas "`Array.set` / `OrderedMap.set` store the slab
  that holds the slot they write", `World/StoreHolderArr.lean`, `World/StoreHolderMap.lean`) plugged
  into `Props/C03WorldBytes.lean`.  Property theorems.
-/
namespace Atree.C03WBF
open Atree Atree.Codec Gen World St C10Persist WC C07W

/-- The deep account of every request -/
theorem deepSteps (D : SlabID → DigestFn 4) : DeepSteps D := by
  intro w w' cx cx' h r
  cases r with
  | newArr ty => exact C10Deep.newArr_deepStored D ty h
  | newMap ty seed => exact C10Deep.newMap_deepStored D ty seed h
  | arrInsert hh hv hr => exact C10Deep.arrInsert_deepStored D h hh hv hr
  | arrSet hh hv hr => exact C10Deep.arrSet_deepStored D h hh hv hr
  | arrRemove hh hr => exact C10Deep.arrRemove_deepStored D h hh hr
  | mapSet hh hk hv hr => exact C10Deep.mapSet_deepStored D h hh hk hv hr
  | mapRemove hh hk hr => exact C10Deep.mapRemove_deepStored D h hh hk hr
  | setType hh hr => exact C10Deep.setType_deepStored D h hh hr
  | arrGet hh hr => exact C10Deep.arrGet_deepStored D h hh hr _
  | mapGet hh hk hr => exact C10Deep.mapGet_deepStored D h hh hk hr _
  | reopen => exact C10Deep.reopen_deepStored w _

/-- Along every history run against the storage with the byte codec (commits, failing or not,
    anywhere): the storage shows — through write set, cache and ledger — exactly the codec-level
    content `World.toCodec` of the world, i.e. every stored slab WITH the full content of every
    inlined container embedded in it.  No hypothesis. -/
theorem history_rep (D : SlabID → DigestFn 4) {w : World} {cx : Ctx} {s : St Slab (SlabID × Bytes)}
    (h : HistB D w cx s) : Rep worldCodec s w.toCodec ∧ Inv worldCodec s :=
  ⟨(histB_rep (deepSteps D) h).1, (histB_rep (deepSteps D) h).2.1⟩

/-- every pending slab encodes (under the side conditions of the current world) -/
theorem no_encode_failure (D : SlabID → DigestFn 4) {w : World} {cx : Ctx} {s : St Slab (SlabID × Bytes)}
    (h : HistB D w cx s) (L : LeafOk w cx.ctr) (hside : ∀ id, SideAt w id) : NoEncodeFailure worldCodec s :=
  C03WB.no_encode_failure (deepSteps D) h L hside

/-- The byte-level commit / reopen theorem for nested containers (C03, C10 "persisted by the next
    commit", deep content, real byte codec).  After ANY history of requests through current handles
    — arrays and maps nested in arrays and maps at any depth, children inlined and un-inlined as they
    grow and shrink, mutations at any depth propagated by the parent callbacks — run against the
    storage state machine with commits of either kind (failing or not) anywhere: if the final world
    meets the decidable side conditions (`LeafOk`, `SideAt`: harness values, 64-bit fields, CBOR
    nesting ≤ 32, ≤ 256 shared extra-data entries, group slabs within their field widths), then a
    fault-free commit SUCCEEDS and a BRAND-NEW storage over the same ledger (empty write set, empty
    cache) shows, by `DecodeSlab` on the registers alone, for every slab ID exactly `World.toCodec`
    of the reopened world: every standalone slab with every inlined container embedded in it at
    every depth; a register exists exactly for the slabs of the heap, each filed under its ID. -/
theorem world_bytes_commit_reopen (D : SlabID → DigestFn 4) {w : World} {cx : Ctx}
    {s : St Slab (SlabID × Bytes)} (h : HistB D w cx s)
    (L : LeafOk w cx.ctr) (hside : ∀ id, SideAt w id) (kind : CommitKind) (mo dlo : List SlabID) :
    (St.step worldCodec s (.commit kind [] mo dlo)).2 = .unit ∧
    let reopened := St.run worldCodec s [.commit kind [] mo dlo, .recreate]
    reopened.deltas = [] ∧ reopened.cache = [] ∧
    (∀ id, id.isTemp = false → reopened.view worldCodec id = w.reopen.toCodec id) ∧
    (∀ id, id.isTemp = false → ((AList.find? reopened.base id).isSome ↔ (w.slabAt id).isSome)) ∧
    (∀ id sl, id.isTemp = false → w.toCodec id = some sl →
      ∃ bytes k, AList.find? reopened.base id = some (id, bytes) ∧ decodeSlab id bytes 0 = .ok sl k) := by
  obtain ⟨h1, h2⟩ := C03WB.world_bytes_commit_reopen (deepSteps D) h L hside kind mo dlo
  exact ⟨h1, h2.1, h2.2.1, h2.2.2.1, h2.2.2.2.2.1, h2.2.2.2.2.2⟩

end Atree.C03WBF

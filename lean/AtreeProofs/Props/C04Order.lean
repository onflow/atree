import AtreeProofs.OrderLemmas
import AtreeProofs.AListLemmas
import AtreeProofs.StorageExample2
/-
  C04 — Ledger state is a deterministic function of the operation history: independence of the
  deterministic commit from Go's map iteration order.

  In the model the Go map `s.deltas` is an association LIST; the order of the list stands for the
  (random) order in which `for k := range s.deltas` of `sortedOwnedDeltaKeys` (storage.go) meets the
  keys.  This file proves that `FastCommit` does not see that order: two states whose write sets are
  permutations of each other issue the same base-storage calls in the same order, fail (or not) in
  the same way and leave the same ledger, the same read cache and the same remaining write set (up to
  order again).
-/
namespace Atree.C04
open Atree St

variable {σ β : Type}

/-- The `sort.Slice` of `sortedOwnedDeltaKeys` (storage.go) forgets the order in which Go's map
    iteration delivered the keys: two enumerations of the same distinct identifiers sort to the
    same list. -/
theorem sortIDs_perm (l1 l2 : List SlabID) (hp : l1.Perm l2) (hnd : l1.Nodup) :
    St.sortIDs l1 = St.sortIDs l2 := by
  have _ := hnd   -- (not needed: the sort is order-independent for repeated identifiers too)
  exact St.sortIDs_eq_of_perm hp

/-- Go's `delete(m, k)` maps permuted association lists to permuted association lists. -/
theorem erase_perm {α : Type} {m1 m2 : AList SlabID α} (hp : List.Perm m1 m2) (k : SlabID) :
    List.Perm (AList.erase m1 k) (AList.erase m2 k) :=
  hp.filter _

/-- The key list handed to the commit loop by `sortedOwnedDeltaKeys` (storage.go) is the same for
    every order in which Go's map iteration enumerates the write set `s.deltas`. -/
theorem sortedOwnedDeltaKeys_order_independent (s1 s2 : St σ β)
    (hp : List.Perm s1.deltas s2.deltas) (hnd : (AList.keys s1.deltas).Nodup) :
    sortedOwnedDeltaKeys s1 = sortedOwnedDeltaKeys s2 := by
  unfold sortedOwnedDeltaKeys
  exact sortIDs_perm _ _ ((AList.keys_perm hp).filter _) (hnd.sublist List.filter_sublist)

/-- Two storage states are the same Go state seen under two map iteration orders: the write sets
    are permutations of each other (with distinct keys), everything else is equal. -/
structure SameUpToOrder (s1 s2 : St σ β) : Prop where
  perm : List.Perm s1.deltas s2.deltas
  nodup : (AList.keys s1.deltas).Nodup
  cache : s1.cache = s2.cache
  base : s1.base = s2.base
  tempIx : s1.tempIx = s2.tempIx
  alloc : s1.alloc = s2.alloc

/-- Two commit-loop states that differ only in the order of the remaining write set. -/
structure SameRes (r1 r2 : CommitRes σ β) : Prop where
  st : SameUpToOrder r1.st r2.st
  err : r1.err = r2.err
  log : r1.log = r2.log
  n : r1.n = r2.n

theorem SameUpToOrder.find? {s1 s2 : St σ β} (h : SameUpToOrder s1 s2) (id : SlabID) :
    AList.find? s1.deltas id = AList.find? s2.deltas id :=
  (AList.find?_perm h.perm.symm h.nodup id).symm

/-- What a reader sees under an identifier is the same under both map orders. -/
theorem SameUpToOrder.view (c : Codec σ β) {s1 s2 : St σ β} (h : SameUpToOrder s1 s2)
    (id : SlabID) : s1.view c id = s2.view c id := by
  unfold St.view
  rw [h.find? id, h.cache, h.base]

/-- Deleting a committed key from the write set and changing cache and ledger in the same way
    keeps two states equal up to the order of the write set. -/
theorem SameUpToOrder.step {s1 s2 : St σ β} (h : SameUpToOrder s1 s2) (id : SlabID)
    (fb : AList SlabID β → AList SlabID β)
    (fc : AList SlabID (Option σ) → AList SlabID (Option σ)) :
    SameUpToOrder
      { s1 with base := fb s1.base, cache := fc s1.cache, deltas := AList.erase s1.deltas id }
      { s2 with base := fb s2.base, cache := fc s2.cache, deltas := AList.erase s2.deltas id } where
  perm := erase_perm h.perm id
  nodup := AList.nodup_keys_erase _ id h.nodup
  cache := by rw [h.cache]
  base := by rw [h.base]
  tempIx := h.tempIx
  alloc := h.alloc

/-- One iteration of the commit loop of `FastCommit` / `commit` (storage.go) acts in the same way
    on two states that differ only in map order: same call, same error, again equal up to order. -/
theorem commitKey_sameRes (c : Codec σ β) (fault : Nat → Bool) {r1 r2 : CommitRes σ β}
    (h : SameRes r1 r2) (id : SlabID) :
    SameRes (commitKey c fault r1 id) (commitKey c fault r2 id) := by
  obtain ⟨st1, err1, log1, n1⟩ := r1
  obtain ⟨st2, err2, log2, n2⟩ := r2
  obtain ⟨hs, he, hl, hn⟩ := h
  simp only at hs he hl hn
  subst he hl hn
  have hf := hs.find? id
  unfold commitKey
  cases err1 with
  | some e => exact ⟨hs, rfl, rfl, rfl⟩
  | none =>
    simp only [hf]
    cases hd : AList.find? st2.deltas id with
    | none =>
      simp only
      cases fault n1 with
      | true =>
        simp only [if_true]
        exact ⟨hs, rfl, rfl, rfl⟩
      | false =>
        simp only [Bool.false_eq_true, if_false]
        exact ⟨hs.step id (fun m => AList.erase m id) (fun m => AList.insert m id none), rfl, rfl, rfl⟩
    | some o =>
      cases o with
      | none =>
        simp only
        cases fault n1 with
        | true =>
          simp only [if_true]
          exact ⟨hs, rfl, rfl, rfl⟩
        | false =>
          simp only [Bool.false_eq_true, if_false]
          exact ⟨hs.step id (fun m => AList.erase m id) (fun m => AList.insert m id none), rfl, rfl, rfl⟩
      | some v =>
        simp only
        cases c.enc v with
        | none => exact ⟨hs, rfl, rfl, rfl⟩
        | some b =>
          simp only
          cases fault n1 with
          | true =>
            simp only [if_true]
            exact ⟨hs, rfl, rfl, rfl⟩
          | false =>
            simp only [Bool.false_eq_true, if_false]
            exact ⟨hs.step id (fun m => AList.insert m id b) (fun m => AList.insert m id (some v)),
              rfl, rfl, rfl⟩

theorem foldl_commitKey_sameRes (c : Codec σ β) (fault : Nat → Bool) (keys : List SlabID) :
    ∀ {r1 r2 : CommitRes σ β}, SameRes r1 r2 →
      SameRes (keys.foldl (commitKey c fault) r1) (keys.foldl (commitKey c fault) r2) := by
  induction keys with
  | nil => intro r1 r2 h; exact h
  | cons k ks ih => intro r1 r2 h; exact ih (commitKey_sameRes c fault h k)

/-- The encoding pre-pass of `FastCommit` (storage.go) finds an encoding failure under one map
    order iff it finds one under the other. -/
theorem anyEncodeFails_sameUpToOrder (c : Codec σ β) {s1 s2 : St σ β} (h : SameUpToOrder s1 s2)
    (keys : List SlabID) : anyEncodeFails c s1 keys = anyEncodeFails c s2 keys := by
  unfold anyEncodeFails
  congr 1
  funext id
  rw [h.find? id]

/-- `FastCommit` (storage.go) run on two states that differ only in map order gives results that
    differ only in map order. -/
theorem fastCommit_sameRes (c : Codec σ β) (fault : Nat → Bool) {s1 s2 : St σ β}
    (h : SameUpToOrder s1 s2) : SameRes (s1.fastCommit c fault) (s2.fastCommit c fault) := by
  unfold fastCommit
  simp only [sortedOwnedDeltaKeys_order_independent s1 s2 h.perm h.nodup,
    anyEncodeFails_sameUpToOrder c h]
  split
  · exact ⟨h, rfl, rfl, rfl⟩
  · exact foldl_commitKey_sameRes c fault _ ⟨h, rfl, rfl, rfl⟩

/-- `FastCommit` (storage.go) does not depend on Go's map iteration order: if two states differ only
    in the order in which the write set `s.deltas` is enumerated, then for every codec and every
    pattern of failing base-storage calls the two commits issue exactly the same `Store`/`Remove`
    calls in the same order, end with the same error and call count, leave the ledger and the read
    cache EQUAL (entry by entry, in the same order), and leave the same remaining write set up to
    order; consequently every lookup and every slab view agrees afterwards. -/
theorem fastcommit_independent_of_map_order (s1 s2 : St σ β)
    (hperm : List.Perm s1.deltas s2.deltas) (hnd : (AList.keys s1.deltas).Nodup)
    (hcache : s1.cache = s2.cache) (hbase : s1.base = s2.base)
    (htemp : s1.tempIx = s2.tempIx) (halloc : s1.alloc = s2.alloc)
    (c : Codec σ β) (fault : Nat → Bool) :
    let r1 := s1.fastCommit c fault
    let r2 := s2.fastCommit c fault
    r1.log = r2.log ∧ r1.err = r2.err ∧ r1.n = r2.n ∧
    r1.st.base = r2.st.base ∧ r1.st.cache = r2.st.cache ∧
    r1.st.tempIx = r2.st.tempIx ∧ r1.st.alloc = r2.st.alloc ∧
    List.Perm r1.st.deltas r2.st.deltas ∧ (AList.keys r1.st.deltas).Nodup ∧
    (∀ id, AList.find? r1.st.deltas id = AList.find? r2.st.deltas id) ∧
    (∀ id, r1.st.view c id = r2.st.view c id) := by
  intro r1 r2
  have h : SameRes r1 r2 :=
    fastCommit_sameRes c fault ⟨hperm, hnd, hcache, hbase, htemp, halloc⟩
  exact ⟨h.log, h.err, h.n, h.st.base, h.st.cache, h.st.tempIx, h.st.alloc, h.st.perm,
    h.st.nodup, h.st.find?, h.st.view c⟩

/-- After `FastCommit` (storage.go) the ledger answers every register lookup in the same way,
    whatever order Go's map iteration enumerated the write set in — also when the storage is
    reopened over that ledger (`NewPersistentSlabStorage`), where only the ledger survives. -/
theorem fastcommit_ledger_independent_of_map_order (s1 s2 : St σ β)
    (hperm : List.Perm s1.deltas s2.deltas) (hnd : (AList.keys s1.deltas).Nodup)
    (hcache : s1.cache = s2.cache) (hbase : s1.base = s2.base)
    (htemp : s1.tempIx = s2.tempIx) (halloc : s1.alloc = s2.alloc)
    (c : Codec σ β) (fault : Nat → Bool) :
    let r1 := s1.fastCommit c fault
    let r2 := s2.fastCommit c fault
    (∀ id, AList.find? r1.st.base id = AList.find? r2.st.base id) ∧
    (∀ id, r1.st.committed c id = r2.st.committed c id) ∧
    (St.fresh r1.st.base r1.st.alloc : St σ β) = St.fresh r2.st.base r2.st.alloc := by
  intro r1 r2
  obtain ⟨-, -, -, hb, -, -, ha, -⟩ :=
    fastcommit_independent_of_map_order s1 s2 hperm hnd hcache hbase htemp halloc c fault
  refine ⟨fun id => ?_, fun id => ?_, ?_⟩
  · show AList.find? (s1.fastCommit c fault).st.base id = AList.find? (s2.fastCommit c fault).st.base id
    rw [hb]
  · show (s1.fastCommit c fault).st.committed c id = (s2.fastCommit c fault).st.committed c id
    unfold St.committed
    rw [hb]
  · show St.fresh (s1.fastCommit c fault).st.base (s1.fastCommit c fault).st.alloc =
      St.fresh (s2.fastCommit c fault).st.base (s2.fastCommit c fault).st.alloc
    rw [hb, ha]

/-! ### Non-vacuity

`Example.poolSt` (AtreeProofs/StorageExample2.lean) is a reachable state whose write set is
`0.1 ↦ 8, 1.1 ↦ 5, 1.2 (deletion), 1.5 ↦ 2, 2.1 ↦ 4`, enumerated in this order.  `poolStRev` is the
same state with the write set enumerated backwards, `poolStRot` with the enumeration rotated by two
places: two other outcomes of Go's map iteration. -/
section NonVacuity
open Atree.Example

def poolStRev : St Nat Nat := { poolSt with deltas := poolSt.deltas.reverse }

def poolStRot : St Nat Nat := { poolSt with deltas := poolSt.deltas.rotateLeft 2 }

/-- The hypotheses hold for the pair `poolSt`, `poolStRev`. -/
theorem poolStRev_sameUpToOrder : SameUpToOrder poolSt poolStRev :=
  ⟨(List.reverse_perm _).symm, poolInv.deltasNodup, rfl, rfl, rfl, rfl⟩

/-- The hypotheses hold for the pair `poolSt`, `poolStRot`. -/
theorem poolStRot_sameUpToOrder : SameUpToOrder poolSt poolStRot :=
  ⟨by decide, poolInv.deltasNodup, rfl, rfl, rfl, rfl⟩

/-- The two write sets really are in different orders, and so are the key enumerations that
    `sortedOwnedDeltaKeys` sees BEFORE it sorts. -/
example : poolSt.deltas ≠ poolStRev.deltas ∧ poolSt.deltas ≠ poolStRot.deltas := by decide
example : AList.keys poolSt.deltas = [⟨0, 1⟩, ⟨1, 1⟩, ⟨1, 2⟩, ⟨1, 5⟩, ⟨2, 1⟩] ∧
    AList.keys poolStRev.deltas = [⟨2, 1⟩, ⟨1, 5⟩, ⟨1, 2⟩, ⟨1, 1⟩, ⟨0, 1⟩] ∧
    AList.keys poolStRot.deltas = [⟨1, 2⟩, ⟨1, 5⟩, ⟨2, 1⟩, ⟨0, 1⟩, ⟨1, 1⟩] := by decide +kernel
example :
    (AList.keys poolSt.deltas).filter (fun k => !k.isTemp) ≠
      (AList.keys poolStRev.deltas).filter (fun k => !k.isTemp) := by decide

/-- `sortIDs_perm` / `sortedOwnedDeltaKeys_order_independent` compared with evaluation. -/
example : sortedOwnedDeltaKeys poolSt = [⟨1, 1⟩, ⟨1, 2⟩, ⟨1, 5⟩, ⟨2, 1⟩] ∧
    sortedOwnedDeltaKeys poolStRev = [⟨1, 1⟩, ⟨1, 2⟩, ⟨1, 5⟩, ⟨2, 1⟩] ∧
    sortedOwnedDeltaKeys poolStRot = [⟨1, 1⟩, ⟨1, 2⟩, ⟨1, 5⟩, ⟨2, 1⟩] := by decide +kernel
example := sortIDs_perm [⟨2, 1⟩, ⟨1, 5⟩, ⟨1, 1⟩] [⟨1, 5⟩, ⟨1, 1⟩, ⟨2, 1⟩] (by decide) (by decide)
example := sortedOwnedDeltaKeys_order_independent poolSt poolStRev
  poolStRev_sameUpToOrder.perm poolStRev_sameUpToOrder.nodup

/-- Fault-free commits: the same four calls in the same order, the same ledger and cache (as
    lists), nothing left in the owned part of the write set. -/
example :
    let r1 := poolSt.fastCommit natCodec (fun _ => false)
    let r2 := poolStRev.fastCommit natCodec (fun _ => false)
    r1.log.map callRepr = [(⟨1, 1⟩, some 5), (⟨1, 2⟩, none), (⟨1, 5⟩, some 2), (⟨2, 1⟩, some 4)] ∧
    r2.log.map callRepr = r1.log.map callRepr ∧
    r1.st.base = [(⟨2, 1⟩, 4), (⟨1, 5⟩, 2), (⟨1, 1⟩, 5)] ∧ r2.st.base = r1.st.base ∧
    r2.st.cache = r1.st.cache ∧ r1.err = none ∧ r2.err = none ∧
    r1.st.deltas = [(⟨0, 1⟩, some 8)] ∧ r2.st.deltas = [(⟨0, 1⟩, some 8)] := by decide +kernel

/-- With the third base-storage call failing: the same three calls, the same error, the same
    partially written ledger; the remaining write sets are equal only up to order. -/
example :
    let r1 := poolSt.fastCommit natCodec (faultPlan [2])
    let r2 := poolStRev.fastCommit natCodec (faultPlan [2])
    r1.log.map callRepr = [(⟨1, 1⟩, some 5), (⟨1, 2⟩, none), (⟨1, 5⟩, some 2)] ∧
    r2.log.map callRepr = r1.log.map callRepr ∧
    r1.err = some .external ∧ r2.err = some .external ∧ r1.n = 3 ∧ r2.n = 3 ∧
    r1.st.base = [(⟨1, 1⟩, 5)] ∧ r2.st.base = r1.st.base ∧ r2.st.cache = r1.st.cache ∧
    r1.st.deltas = [(⟨0, 1⟩, some 8), (⟨1, 5⟩, some 2), (⟨2, 1⟩, some 4)] ∧
    r2.st.deltas = [(⟨2, 1⟩, some 4), (⟨1, 5⟩, some 2), (⟨0, 1⟩, some 8)] := by decide +kernel

/-- The rotated enumeration, second call failing. -/
example :
    let r1 := poolSt.fastCommit natCodec (faultPlan [1])
    let r2 := poolStRot.fastCommit natCodec (faultPlan [1])
    r2.log.map callRepr = r1.log.map callRepr ∧ r2.st.base = r1.st.base ∧ r2.err = r1.err ∧
    r1.st.deltas ≠ r2.st.deltas := by decide +kernel

/-- The theorems instantiated on the two pairs. -/
example := fastcommit_independent_of_map_order poolSt poolStRev
  poolStRev_sameUpToOrder.perm poolStRev_sameUpToOrder.nodup rfl rfl rfl rfl natCodec (faultPlan [2])
example := fastcommit_independent_of_map_order poolSt poolStRot
  poolStRot_sameUpToOrder.perm poolStRot_sameUpToOrder.nodup rfl rfl rfl rfl natCodec (faultPlan [1])
example := fastcommit_ledger_independent_of_map_order poolSt poolStRev
  poolStRev_sameUpToOrder.perm poolStRev_sameUpToOrder.nodup rfl rfl rfl rfl natCodec (fun _ => false)

/-- The hypothesis "keys are distinct" (true of every Go map) is needed: an association list with a
    repeated key and its reversal are permutations of each other, yet the commit writes a different
    value to the ledger (the first entry of a repeated key shadows the second in `find?`). -/
def dupSt : St Nat Nat :=
  { deltas := [(⟨1, 1⟩, some 5), (⟨1, 1⟩, some 6)], cache := [], base := [], tempIx := 0, alloc := [] }
def dupStRev : St Nat Nat := { dupSt with deltas := dupSt.deltas.reverse }

example : List.Perm dupSt.deltas dupStRev.deltas ∧ ¬ (AList.keys dupSt.deltas).Nodup :=
  ⟨(List.reverse_perm _).symm, by decide⟩
example :
    (dupSt.fastCommit natCodec (fun _ => false)).log.map callRepr =
      [(⟨1, 1⟩, some 5), (⟨1, 1⟩, none)] ∧
    (dupStRev.fastCommit natCodec (fun _ => false)).log.map callRepr =
      [(⟨1, 1⟩, some 6), (⟨1, 1⟩, none)] ∧
    (dupSt.fastCommit natCodec (faultPlan [1])).st.base = [(⟨1, 1⟩, 5)] ∧
    (dupStRev.fastCommit natCodec (faultPlan [1])).st.base = [(⟨1, 1⟩, 6)] := by decide

end NonVacuity

end Atree.C04

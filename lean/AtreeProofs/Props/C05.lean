import AtreeProofs.Props.C01Inv
/-
  C05 — Slab trees stay well-formed and every register stays inside its size band (arrays).
  Property theorems.  For an ARBITRARY legal threshold `T` (256 … 32768), arbitrary element
  payloads and sizes, arbitrary operation histories.
-/
namespace Atree.C05
open Atree Gen

/-- A freshly created array satisfies the invariant. -/
theorem inv_new (T addr ty : Nat) (c : Ctx) (hT : legalThreshold T = true) :
    ArrInv T (Arr.new addr ty c).1 (Arr.new addr ty c).2.ctr :=
  arr_new_inv hT addr ty c

theorem inv_insert (T : Nat) (hT : legalThreshold T = true) (a : Arr) (c : Ctx) (i : Nat) (v : Elem)
    (hv : ValueOk v) (h : ArrInv T a c.ctr) (a' : Arr) (c' : Ctx)
    (hr : a.insert T i v c = .ok (a', c')) : ArrInv T a' c'.ctr :=
  (arr_insert_of_ok hT hv h hr).2.2.1

theorem inv_set (T : Nat) (hT : legalThreshold T = true) (a : Arr) (c : Ctx) (i : Nat) (v : Elem)
    (hv : ValueOk v) (h : ArrInv T a c.ctr) (old : Elem) (a' : Arr) (c' : Ctx)
    (hr : a.set T i v c = .ok (old, a', c')) : ArrInv T a' c'.ctr :=
  (arr_set_of_ok hT hv h hr).2.2.1

theorem inv_remove (T : Nat) (hT : legalThreshold T = true) (a : Arr) (c : Ctx) (i : Nat)
    (h : ArrInv T a c.ctr) (old : Elem) (a' : Arr) (c' : Ctx)
    (hr : a.remove T i c = .ok (old, a', c')) : ArrInv T a' c'.ctr :=
  (arr_remove_of_ok hT h hr).2.2.1

theorem inv_popIterate (T : Nat) (hT : legalThreshold T = true) (a : Arr) (c : Ctx)
    (h : ArrInv T a c.ctr) : ArrInv T (a.popIterate c).2.1 (a.popIterate c).2.2.ctr := by
  exact arr_popIterate_inv hT a c h

theorem inv_setType (T : Nat) (a : Arr) (c : Ctx) (ty : Nat) (h : ArrInv T a c.ctr) :
    ArrInv T (a.setType ty c).1 (a.setType ty c).2.ctr :=
  arr_setType_inv a c ty h

/-! ### Consequences that the property names explicitly -/

/-- A data slab whose size reaches the target size `T` holds at least two elements: from its size equation
    (`hs`) and the per-element limit (`he`), both clauses of `ArrInv`; the invariant itself is not assumed. -/
theorem full_slab_has_two_elems (T : Nat) (hT : legalThreshold T = true) (s : DataSlab)
    (hs : s.hdr.size = s.prefixSize + sumSizes s.elems) (he : ∀ e ∈ s.elems, ElemOk T e)
    (hfull : T ≤ s.hdr.size) : 2 ≤ s.elems.length := by
  refine DataSlab.two_le_of_full T hT s ?_ he hfull
  rw [hs]
  have : s.prefixSize ≤ arrayDataSlabPrefixSize := by
    unfold DataSlab.prefixSize
    split
    · simp [inlinedArrayDataSlabPrefixSize, arrayDataSlabPrefixSize]
    · split
      · simp [arrayRootDataSlabPrefixSize, arrayDataSlabPrefixSize]
      · exact Nat.le_refl _
  omega

/-- Two maximal elements always fit into one slab of the target size. -/
theorem two_max_elems_fit (T : Nat) (hT : legalThreshold T = true) :
    arrayDataSlabPrefixSize + 2 * maxInlineArr T ≤ T := by
  exact Atree.two_max_elems_fit T hT

/-- Index data agrees with the data it summarises: positional access through the index slabs
    and sequential traversal along the sibling links enumerate the same elements. -/
theorem access_agree (T : Nat) (hT : legalThreshold T = true) (a : Arr) (ctr : Nat) (h : ArrInv T a ctr) :
    a.iterReadOnly = a.toList ∧ a.iterMutable = .ok a.toList ∧ a.count = a.toList.length ∧
    (∀ i, i < a.count → a.get i = .ok (a.toList.getD i default)) := by
  refine ⟨iterReadOnly_eq a ctr h, iterMutable_eq hT a ctr h, ?_, ?_⟩
  · exact h.count_eq
  · exact fun i hi => (arr_get_spec hT a ctr h i).1 (h.count_eq ▸ hi)

/-! ### Non-vacuity

`Atree.Example.arr4` is the array obtained by running the model for `T = 256`: `NewArray`, then four
appends of 100-byte elements; the fourth append splits the root, so `arr4` has a root index slab
over two data slabs.  `arr4_inv` proves `ArrInv 256 arr4 3` directly from the definitions, so the
hypotheses of the theorems above are satisfiable by a multi-slab tree. -/
section NonVacuity
open Atree.Example

example : run4 = .ok (arr4, 3) := run4_eq
example : arr4.d = 1 := rfl
example : arr4.toList = [elem 0, elem 1, elem 2, elem 3] := rfl
example : legalThreshold T0 = true := legal
example : ArrInv T0 arr4 3 := arr4_inv

/-- `inv_new` applies, and agrees with the first step of the run. -/
example : ArrInv T0 (Arr.new 1 0 ctx0).1 (Arr.new 1 0 ctx0).2.ctr := inv_new T0 1 0 ctx0 legal

/-- The hypotheses of `inv_insert` are met by `arr4`; the insert succeeds and preserves `ArrInv`. -/
example : ∃ a' c', arr4.insert T0 2 (elem 9) ⟨3, [], []⟩ = .ok (a', c') ∧ ArrInv T0 a' c'.ctr := by
  obtain ⟨a', c', h1, _⟩ := arr_insert_ok legal arr4 ⟨3, [], []⟩ 2 (elem 9) (value_ok 9) arr4_inv
    (by decide) (by decide)
  exact ⟨a', c', h1, inv_insert T0 legal arr4 _ 2 (elem 9) (value_ok 9) arr4_inv a' c' h1⟩

/-- Same for `inv_set` (overwriting with a value too large to inline) and `inv_remove`. -/
example : ∃ old a' c', arr4.set T0 3 ⟨5000, .val 7⟩ ⟨3, [], []⟩ = .ok (old, a', c') ∧
    ArrInv T0 a' c'.ctr := by
  obtain ⟨a', c', h1, _⟩ := arr_set_ok legal arr4 ⟨3, [], []⟩ 3 ⟨5000, .val 7⟩
    ⟨by decide, 7, rfl⟩ arr4_inv (by decide)
  exact ⟨_, a', c', h1, inv_set T0 legal arr4 _ 3 _ ⟨by decide, 7, rfl⟩ arr4_inv _ a' c' h1⟩

example : ∃ old a' c', arr4.remove T0 0 ⟨3, [], []⟩ = .ok (old, a', c') ∧ ArrInv T0 a' c'.ctr := by
  obtain ⟨a', c', h1, _⟩ := arr_remove_ok legal arr4 ⟨3, [], []⟩ 0 arr4_inv (by decide)
  exact ⟨_, a', c', h1, inv_remove T0 legal arr4 _ 0 arr4_inv _ a' c' h1⟩

example : arr4.iterReadOnly = arr4.toList := (access_agree T0 legal arr4 3 arr4_inv).1

/-- a data slab of 321 ≥ T bytes with three 100-byte elements -/
example : 2 ≤ (⟨⟨⟨1, 2⟩, 321, 3⟩, SlabID.undef, [elem 0, elem 1, elem 2], false, false⟩ : DataSlab).elems.length :=
  full_slab_has_two_elems T0 legal _ (by decide) (fun e he => by
    simp only [List.mem_cons, List.not_mem_nil, or_false] at he
    rcases he with rfl | rfl | rfl <;> exact elem_ok _) (by decide)

end NonVacuity

end Atree.C05

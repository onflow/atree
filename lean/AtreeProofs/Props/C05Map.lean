import AtreeProofs.Props.C02
/-
  C05 — Slab trees stay well-formed and every register stays inside its size band (maps).
  Property theorems.  `MapInv` (AtreeProofs/MapInv.lean) is the structural invariant of map slab
  trees: sizes, bands, per-element inline limit, sorted unique first-level digests, index data =
  summary of the children, sibling chain, collision-group shape.  It is preserved by every
  operation (for an ARBITRARY legal threshold, digest function, operation history), and the
  clauses of the property text follow from it for every slab of the tree.
-/
namespace Atree.C05
open Atree Gen

variable {r : Nat}

theorem map_inv_new (T : Nat) (hT : legalThreshold T = true) (D : DigestFn (r + 1)) (addr ty : Nat)
    (seedOf : SlabID → Nat) (c : Ctx) : MapInv T D (OMap.new (r := r) addr ty seedOf c).1 :=
  (C02.inv_new T hT D addr ty seedOf c).1

theorem map_inv_set (T : Nat) (hT : legalThreshold T = true) (D : DigestFn (r + 1)) (cfg : MCfg) (m : OMap r)
    (hcfg : CfgOk cfg T m) (h : MapInv T D m) (k : MKey) (hk : KeyOk T (r + 1) D k)
    (v : Elem) (hv : ValueOkM v) (c : Ctx) (hc : CtxOk m c)
    (old : Option Elem) (m' : OMap r) (c' : Ctx) (hr : m.set cfg k v c = .ok (old, m', c')) :
    MapInv T D m' ∧ CtxOk m' c' :=
  have hp := (OMap.set_post hT hcfg h hk (hv.okR T k.size) hr).1
  ⟨hp.inv, hp.ctx hc⟩

theorem map_inv_remove (T : Nat) (hT : legalThreshold T = true) (D : DigestFn (r + 1)) (cfg : MCfg) (m : OMap r)
    (hcfg : CfgOk cfg T m) (h : MapInv T D m) (k : MKey) (hk : KeyOk T (r + 1) D k) (c : Ctx) (hc : CtxOk m c)
    (k0 : MKey) (v : Elem) (m' : OMap r) (c' : Ctx) (hr : m.remove cfg k c = .ok (k0, v, m', c')) :
    MapInv T D m' ∧ CtxOk m' c' :=
  have hp := (OMap.remove_post hT hcfg h hk hc hr).2.2.1
  ⟨hp.inv, hp.ctx⟩

theorem map_inv_popIterate (T : Nat) (hT : legalThreshold T = true) (D : DigestFn (r + 1)) (m : OMap r)
    (h : MapInv T D m) (c : Ctx) (hc : CtxOk m c) : MapInv T D (m.popIterate c).2.1 :=
  (C02.pop_refines T hT D m h c hc).2.2.2.1

/-- Every DATA slab of the tree: at most 1.5× the slab size; a non-root one at least half of it and
    non-empty; its recorded size is its prefix plus its elements; its first key is its smallest
    digest; every first-level element (single pair, inline group, external-group pointer) is
    within the per-element inline limit. -/
theorem map_data_slabs_in_band (T : Nat) (D : DigestFn (r + 1)) :
    ∀ (d : Nat) (top : Bool) (t : MTree r d), MTreeInv T D d top t →
    ∀ s ∈ MTree.leaves d t,
      s.hdr.size ≤ maxThr T ∧ (s.root = false → minThr T ≤ s.hdr.size ∧ s.elems.elems ≠ []) ∧
      s.hdr.size = s.prefixSize + s.elems.size ∧ s.hdr.firstKey = s.elems.firstKey ∧
      (∀ el ∈ s.elems.elems, MElemF.size (MElems.ops r) el ≤ maxInlineMapElem T)
  | 0, top, t, h, s, hs => by
    have : s = t := List.mem_singleton.mp hs
    subst this
    have hi : MDataInv T D top s := (mtreeInv_zero_iff T D _ _).mp h
    refine ⟨hi.le_max, ?_, hi.size_eq, hi.first_eq, hi.elem_le⟩
    intro hroot
    have htop : top = false := by rw [← hi.root_eq]; exact hroot
    exact ⟨hi.ge_min htop, hi.nonempty htop⟩
  | d + 1, top, m, h, s, hs => by
    obtain ⟨c, hc, hsc⟩ := List.mem_flatMap.mp hs
    exact map_data_slabs_in_band T D d false c
      (((mtreeInv_succ_iff T D d top m).mp h).1.2.2.2.2.1 c hc) s hsc

/-- Every INDEX slab: the child headers are exactly the children's headers (index data = summary),
    the size is prefix + header-size × children, within the band, and a root index slab has at
    least two children; the first-level digests below it are strictly increasing (sorted, unique). -/
theorem map_index_slab_wellformed (T : Nat) (D : DigestFn (r + 1)) (d : Nat) (top : Bool)
    (m : MMetaSlab (MTree r d)) (h : MTreeInv T D (d + 1) top m) :
    m.childHdrs = m.children.map (MTree.hdr d) ∧
    m.hdr.size = mapMetaDataSlabPrefixSize + mapSlabHeaderSize * m.children.length ∧
    m.hdr.size ≤ maxThr T ∧ (top = false → minThr T ≤ m.hdr.size) ∧
    (top = true → 2 ≤ m.children.length) ∧
    (MTree.digests0 (d + 1) m).Pairwise (· < ·) ∧
    (∀ c ∈ m.children, (MTree.hdr d c).firstKey = (MTree.digests0 d c).headD 0) ∧
    (∀ c ∈ m.children, MTreeInv T D d false c) := by
  have h' := (mtreeInv_succ_iff T D d top m).mp h
  obtain ⟨⟨_, hch, hsz, _, hci, _, hfk, hpw⟩, hle, hge, htwo⟩ := h'
  exact ⟨hch, hsz, hle, hge, htwo, hpw, hfk, hci⟩

/-- The whole map: every data slab is in its band (root excepted from the lower bound), the
    sibling links chain the leaves left to right, and the element count is the number of entries. -/
theorem map_wellformed (T : Nat) (D : DigestFn (r + 1)) (m : OMap r) (h : MapInv T D m) :
    (∀ s ∈ MTree.leaves m.d m.root,
       s.hdr.size ≤ maxThr T ∧ (s.root = false → minThr T ≤ s.hdr.size ∧ s.elems.elems ≠ [])) ∧
    MLeafChain (MTree.leaves m.d m.root) ∧ m.count = m.toList.length := by
  refine ⟨fun s hs => ?_, h.chain, h.count_eq⟩
  have := map_data_slabs_in_band T D m.d true m.root h.tree s hs
  exact ⟨this.1, this.2.1⟩

/-! ### Non-vacuity: the multi-slab example map of C02 (index-slab root, inline group, external
    group, last-level lists) satisfies `MapInv`. -/
section NonVacuity
open MapExample
example : MapInv 256 D2 run.1 := run_good.inv
example : run.1.d = 1 := by rw [run_eq]; decide +kernel
example := map_wellformed 256 D2 run.1 run_good.inv
example := map_inv_set 256 legal256 D2 cfg2 run.1 run_good.cfgok run_good.inv (key 122) (key_ok _) (val 0)
  (val_ok _) run.2 run_good.ctx
end NonVacuity

end Atree.C05

import AtreeProofs.Props.C09Map
import AtreeProofs.Map.Ids
import AtreeProofs.ScheduleLemmas
import AtreeProofs.Props.C05Map
/-
  C05 / C09 / C13 (maps) — slab identifiers are part of the preserved invariant.
  Property theorems.  `MapInvI T D m ctr` (AtreeProofs/MapIds.lean) = `MapInv T D m` ∧ `MapIdsOk m ctr`:
  besides the structural invariant, ALL slab identifiers of the map (data slabs, index slabs,
  external collision-group slabs) are pairwise different, belong to the map's owner address, have an
  index ≥ 1 (hence are never the undefined identifier) and ≤ the owner's allocation counter.

  * `mapIds_new / _set / _remove / _popIterate / _setType`: every operation takes `MapInvI` w.r.t.
    the counter before to `MapInvI` w.r.t. the counter after, keeps the root identifier and the
    owner address, and the counter never decreases; `mapIds_step`: the same for an arbitrary
    request INCLUDING rejected ones (collision limit reached, key not found), which change nothing.
  * `mapIdsOk_implies`: `MapIdsOk` subsumes the separate predicates `MIdsOk` (distinct),
    `MAddrOk` (owner address), `CtxOk` (counter) and the hypothesis `leafIdsOk` of the read-only
    iterator theorem (C13) and gives defined-ness without any `addr ≠ 0` hypothesis.
  * `map_history_wellformed`: after EVERY prefix of EVERY history of requests from `NewMap`.
  * the remaining members of the C05 map family (`map_inv_setType`, `_full` variants, size facts,
    `map_access_agree`) and `C09Map.tree_ownership`.
-/
namespace Atree.C05
open Atree Gen

variable {r : Nat}

/-- `NewMap`: the new map satisfies the invariant with identifiers w.r.t. the advanced counter; its
    only slab is the root, whose identifier is the one just allocated (`counter + 1` of `addr`). -/
theorem mapIds_new (T : Nat) (hT : legalThreshold T = true) (D : DigestFn (r + 1)) (addr ty : Nat)
    (seedOf : SlabID → Nat) (c : Ctx) :
    MapInvI T D (OMap.new (r := r) addr ty seedOf c).1 (OMap.new (r := r) addr ty seedOf c).2.ctr ∧
    (OMap.new (r := r) addr ty seedOf c).1.rootID = ⟨addr, c.ctr + 1⟩ ∧
    (OMap.new (r := r) addr ty seedOf c).1.addr = addr ∧
    (OMap.new (r := r) addr ty seedOf c).2.ctr = c.ctr + 1 ∧
    (OMap.new (r := r) addr ty seedOf c).1.slabIds = [⟨addr, c.ctr + 1⟩] ∧
    (OMap.new (r := r) addr ty seedOf c).1.toList = [] ∧ (OMap.new (r := r) addr ty seedOf c).1.count = 0 := by
  obtain ⟨h1, h2, h3⟩ := mapIdsOk_new (r := r) addr ty seedOf c
  refine ⟨⟨(C02.inv_new T hT D addr ty seedOf c).1, h1⟩, h2, rfl, h3, ?_, rfl, rfl⟩
  rw [OMap.slabIds_eq_keys]; rfl

/-- `map_inv_set` with root identifier and count relation (same hypotheses as `map_inv_set`). -/
theorem map_inv_set_full (T : Nat) (hT : legalThreshold T = true) (D : DigestFn (r + 1)) (cfg : MCfg) (m : OMap r)
    (hcfg : CfgOk cfg T m) (h : MapInv T D m) (k : MKey) (hk : KeyOk T (r + 1) D k)
    (v : Elem) (hv : ValueOkM v) (c : Ctx) (hc : CtxOk m c)
    (old : Option Elem) (m' : OMap r) (c' : Ctx) (hr : m.set cfg k v c = .ok (old, m', c')) :
    MapInv T D m' ∧ CtxOk m' c' ∧ m'.rootID = m.rootID ∧ CfgOk cfg T m' ∧
    m'.count = (if old.isSome then m.count else m.count + 1) ∧ m'.ty = m.ty ∧ m'.seed = m.seed := by
  have hp := (OMap.set_post hT hcfg h hk (hv.okR T k.size) hr).1
  refine ⟨hp.inv, hp.ctx hc, hp.rootID, hcfg.of_rootID hp.rootID, ?_, hp.ty, hp.seed⟩
  rw [hp.count]
  cases old <;> rfl

/-- `map_inv_remove` with root identifier and count relation (same hypotheses as `map_inv_remove`). -/
theorem map_inv_remove_full (T : Nat) (hT : legalThreshold T = true) (D : DigestFn (r + 1)) (cfg : MCfg) (m : OMap r)
    (hcfg : CfgOk cfg T m) (h : MapInv T D m) (k : MKey) (hk : KeyOk T (r + 1) D k) (c : Ctx) (hc : CtxOk m c)
    (k0 : MKey) (v : Elem) (m' : OMap r) (c' : Ctx) (hr : m.remove cfg k c = .ok (k0, v, m', c')) :
    MapInv T D m' ∧ CtxOk m' c' ∧ m'.rootID = m.rootID ∧ CfgOk cfg T m' ∧ m'.count = m.count - 1 ∧
    m'.ty = m.ty ∧ m'.seed = m.seed := by
  have hp := (OMap.remove_post hT hcfg h hk hc hr).2.2.1
  exact ⟨hp.inv, hp.ctx, hp.rootID, hcfg.of_rootID hp.rootID, hp.count, hp.ty, hp.seed⟩

/-- `Set` (insert or overwrite; any splits / group creation it causes). -/
theorem mapIds_set (T : Nat) (hT : legalThreshold T = true) (D : DigestFn (r + 1)) (cfg : MCfg) (m : OMap r)
    (hcfg : CfgOk cfg T m) (k : MKey) (hk : KeyOk T (r + 1) D k) (v : Elem) (hv : ValueOkM v) (c : Ctx)
    (h : MapInvI T D m c.ctr)
    (old : Option Elem) (m' : OMap r) (c' : Ctx) (hr : m.set cfg k v c = .ok (old, m', c')) :
    MapInvI T D m' c'.ctr ∧ m'.rootID = m.rootID ∧ m'.addr = m.addr ∧ c.ctr ≤ c'.ctr ∧ CfgOk cfg T m' ∧
    m'.count = (if old.isSome then m.count else m.count + 1) ∧ m'.ty = m.ty ∧ m'.seed = m.seed := by
  obtain ⟨hids', hrid, hle⟩ := mapIdsOk_set hT hcfg h.1 hk hv c h.2 hr
  obtain ⟨hinv, _, _, hcfg', hcnt, hty, hseed⟩ :=
    map_inv_set_full T hT D cfg m hcfg h.1 k hk v hv c h.2.ctxOk old m' c' hr
  exact ⟨⟨hinv, hids'⟩, hrid, OMap.addr_of_rootID hrid, hle, hcfg', hcnt, hty, hseed⟩

/-- `Remove` (any merges / rebalancing / group collapse it causes). -/
theorem mapIds_remove (T : Nat) (hT : legalThreshold T = true) (D : DigestFn (r + 1)) (cfg : MCfg) (m : OMap r)
    (hcfg : CfgOk cfg T m) (k : MKey) (hk : KeyOk T (r + 1) D k) (c : Ctx) (h : MapInvI T D m c.ctr)
    (k0 : MKey) (v0 : Elem) (m' : OMap r) (c' : Ctx) (hr : m.remove cfg k c = .ok (k0, v0, m', c')) :
    MapInvI T D m' c'.ctr ∧ m'.rootID = m.rootID ∧ m'.addr = m.addr ∧ c.ctr ≤ c'.ctr ∧ CfgOk cfg T m' ∧
    m'.count = m.count - 1 ∧ 1 ≤ m.count ∧ m'.ty = m.ty ∧ m'.seed = m.seed := by
  obtain ⟨hids', hrid, hle⟩ := mapIdsOk_remove hT hcfg h.1 hk c h.2 hr
  obtain ⟨hinv, _, _, hcfg', hcnt, hty, hseed⟩ :=
    map_inv_remove_full T hT D cfg m hcfg h.1 k hk c h.2.ctxOk k0 v0 m' c' hr
  refine ⟨⟨hinv, hids'⟩, hrid, OMap.addr_of_rootID hrid, hle, hcfg', hcnt, ?_, hty, hseed⟩
  rw [h.1.count_eq]
  exact List.length_pos_of_mem (OMap.remove_post hT hcfg h.1 hk h.2.ctxOk hr).2.1

/-- `PopIterate`: afterwards the map is the empty root data slab under the SAME identifier; the
    allocation counter is unchanged. -/
theorem mapIds_popIterate (T : Nat) (hT : legalThreshold T = true) (D : DigestFn (r + 1)) (m : OMap r) (c : Ctx)
    (h : MapInvI T D m c.ctr) :
    MapInvI T D (m.popIterate c).2.1 (m.popIterate c).2.2.ctr ∧ (m.popIterate c).2.1.rootID = m.rootID ∧
    (m.popIterate c).2.1.addr = m.addr ∧ (m.popIterate c).2.2.ctr = c.ctr ∧
    (m.popIterate c).2.1.slabIds = [m.rootID] ∧ (m.popIterate c).2.1.count = 0 ∧
    (m.popIterate c).2.1.ty = m.ty ∧ (m.popIterate c).2.1.seed = m.seed := by
  obtain ⟨h1, h2, h3⟩ := mapIdsOk_pop c h.2
  obtain ⟨_, _, hcnt, hinv, _⟩ := C02.pop_refines T hT D m h.1 c h.2.ctxOk
  exact ⟨⟨hinv, h1⟩, h2, OMap.addr_of_rootID h2, h3, slabIds_pop m c, hcnt, rfl, rfl⟩

/-- `SetType`: only the type information changes. -/
theorem mapIds_setType (T : Nat) (D : DigestFn (r + 1)) (m : OMap r) (ty : Nat) (c : Ctx)
    (h : MapInvI T D m c.ctr) :
    MapInvI T D (m.setType ty c).1 (m.setType ty c).2.ctr ∧ (m.setType ty c).1.rootID = m.rootID ∧
    (m.setType ty c).1.addr = m.addr ∧ (m.setType ty c).2.ctr = c.ctr ∧
    (m.setType ty c).1.toList = m.toList ∧ (m.setType ty c).1.count = m.count ∧ (m.setType ty c).1.ty = ty ∧
    (m.setType ty c).1.seed = m.seed := by
  obtain ⟨h1, h2, h3⟩ := mapIdsOk_setType ty c h.2
  obtain ⟨g1, g2, g3, g4, g5⟩ := mapInv_setType h.1 ty c
  exact ⟨⟨g1, h1⟩, h2, rfl, h3, g2, g3, g4, g5⟩

/-- Any request of a history (`E2EM.stepM`: set / remove / popIterate / setType; a REJECTED request —
    collision limit reached for a new key, key not found — leaves map and counter as they were):
    `MapInvI` w.r.t. the current counter is kept, and so are root identifier, owner address and the
    configuration match; the counter never decreases. -/
theorem mapIds_step (T : Nat) (hT : legalThreshold T = true) (D : DigestFn (r + 1)) (cfg : MCfg)
    (st : OMap r × Ctx) (hcfg : CfgOk cfg T st.1) (h : MapInvI T D st.1 st.2.ctr)
    (op : E2EM.MOp) (hop : op.Ok T D) :
    MapInvI T D (E2EM.stepM cfg st op).1 (E2EM.stepM cfg st op).2.ctr ∧
    (E2EM.stepM cfg st op).1.rootID = st.1.rootID ∧ (E2EM.stepM cfg st op).1.addr = st.1.addr ∧
    st.2.ctr ≤ (E2EM.stepM cfg st op).2.ctr ∧ CfgOk cfg T (E2EM.stepM cfg st op).1 ∧
    (E2EM.stepM cfg st op).1.seed = st.1.seed := by
  obtain ⟨m, c⟩ := st
  cases op with
  | set k v =>
    simp only [E2EM.stepM]
    cases hr : m.set cfg k v c with
    | error e => exact ⟨h, rfl, rfl, Nat.le_refl _, hcfg, rfl⟩
    | ok res =>
      obtain ⟨old, m', c'⟩ := res
      obtain ⟨a1, a2, a3, a4, a5, _, _, a8⟩ := mapIds_set T hT D cfg m hcfg k hop.1 v hop.2 c h old m' c' hr
      exact ⟨a1, a2, a3, a4, a5, a8⟩
  | remove k =>
    simp only [E2EM.stepM]
    cases hr : m.remove cfg k c with
    | error e => exact ⟨h, rfl, rfl, Nat.le_refl _, hcfg, rfl⟩
    | ok res =>
      obtain ⟨k0, v0, m', c'⟩ := res
      obtain ⟨a1, a2, a3, a4, a5, _, _, _, a9⟩ := mapIds_remove T hT D cfg m hcfg k hop c h k0 v0 m' c' hr
      exact ⟨a1, a2, a3, a4, a5, a9⟩
  | popIterate =>
    obtain ⟨a1, a2, a3, a4, _⟩ := mapIds_popIterate T hT D m c h
    exact ⟨a1, a2, a3, Nat.le_of_eq a4.symm, ⟨hcfg.1, hcfg.2.1, by rw [hcfg.2.2]; exact a3.symm⟩, rfl⟩
  | setType ty =>
    obtain ⟨a1, a2, a3, a4, _⟩ := mapIds_setType T D m ty c h
    exact ⟨a1, a2, a3, Nat.le_of_eq a4.symm, ⟨hcfg.1, hcfg.2.1, by rw [hcfg.2.2]; exact a3.symm⟩, rfl⟩

/-- What the identifier clause gives: the separate predicates (`MIdsOk`: pairwise different,
    `E2EM.MAddrOk`: one owner address, `CtxOk`: at or below the counter), the hypothesis `leafIdsOk`
    of the read-only iterator, and no slab identifier is the undefined one — with NO hypothesis on
    the owner address. -/
theorem mapIdsOk_implies (m : OMap r) (c : Ctx) (h : MapIdsOk m c.ctr) :
    MIdsOk m ∧ E2EM.MAddrOk m ∧ CtxOk m c ∧ m.leafIdsOk = true ∧ (∀ id ∈ m.slabIds, id ≠ SlabID.undef) ∧
    m.rootID ∈ m.slabIds :=
  ⟨h.mIdsOk, h.mAddrOk, h.ctxOk, h.leafIdsOk, h.ne_undef, m.rootID_mem_slabIds⟩

/-- Every history of requests issued against a new map (any legal threshold `T`, ANY digest
    function, any number of digest levels, any owner address, any initial allocation counter;
    requests that are rejected included): after EVERY prefix of the history the map satisfies the
    structural invariant AND the identifier clause w.r.t. the current allocation counter, its root
    identifier is still the first identifier allocated by `NewMap`, and its seed is still the seed
    chosen at creation. -/
theorem map_history_wellformed (T : Nat) (hT : legalThreshold T = true) (D : DigestFn (r + 1)) (cfg : MCfg)
    (hcT : cfg.T = T) (hcL : cfg.L = r + 1) (ty : Nat) (seedOf : SlabID → Nat) (c0 : Ctx)
    (ops : List E2EM.MOp) (hok : ∀ op ∈ ops, op.Ok T D) (n : Nat) :
    MapInv T D (E2EM.runM cfg (OMap.new (r := r) cfg.addr ty seedOf c0) (ops.take n)).1 ∧
    MapIdsOk (E2EM.runM cfg (OMap.new (r := r) cfg.addr ty seedOf c0) (ops.take n)).1
      (E2EM.runM cfg (OMap.new (r := r) cfg.addr ty seedOf c0) (ops.take n)).2.ctr ∧
    (E2EM.runM cfg (OMap.new (r := r) cfg.addr ty seedOf c0) (ops.take n)).1.rootID = ⟨cfg.addr, c0.ctr + 1⟩ ∧
    c0.ctr + 1 ≤ (E2EM.runM cfg (OMap.new (r := r) cfg.addr ty seedOf c0) (ops.take n)).2.ctr ∧
    (E2EM.runM cfg (OMap.new (r := r) cfg.addr ty seedOf c0) (ops.take n)).1.seed = seedOf ⟨cfg.addr, c0.ctr + 1⟩ := by
  obtain ⟨h1, h2, h3, h4, _⟩ := mapIds_new (r := r) T hT D cfg.addr ty seedOf c0
  -- invariant `CfgOk ∧ MapInvI`; root identifier and seed stay, the counter does not decrease
  obtain ⟨⟨_, g1⟩, g2, g3, g4⟩ := foldl_invariant_take (E2EM.stepM cfg) (·.Ok T D)
    (fun st => CfgOk cfg T st.1 ∧ MapInvI T D st.1 st.2.ctr)
    (fun s t => t.1.rootID = s.1.rootID ∧ s.2.ctr ≤ t.2.ctr ∧ t.1.seed = s.1.seed)
    (fun _ => ⟨rfl, Nat.le_refl _, rfl⟩)
    (fun ⟨a1, a2, a3⟩ ⟨b1, b2, b3⟩ => ⟨b1.trans a1, Nat.le_trans a2 b2, b3.trans a3⟩)
    (fun st op hop ⟨hcfg, h⟩ =>
      have ⟨a1, a2, _, a4, a5, a6⟩ := mapIds_step T hT D cfg st hcfg h op hop
      ⟨⟨a5, a1⟩, a2, a4, a6⟩)
    ops (OMap.new (r := r) cfg.addr ty seedOf c0) hok ⟨⟨hcT, hcL, h3.symm⟩, h1⟩ n
  exact ⟨g1.1, g1.2, g2.trans h2, by rw [← h4]; exact g3, g4⟩

/-- The same for the histories run against the storage state machine (`E2EM.newS` / `runS`, the
    setting of `E2EM.mgood_runS` and `E2EM.map_rep_history`): the map component of the run satisfies
    `MapInvI` w.r.t. the run's allocation counter and keeps the root identifier `⟨addr, 1⟩` — without
    the `cfg.addr ≠ 0` hypothesis those theorems need. -/
theorem mapIds_runS {β : Type} (c : Codec (E2EM.MSSlab r) β) (T : Nat) (hT : legalThreshold T = true)
    (D : DigestFn (r + 1)) (cfg : MCfg) (hcT : cfg.T = T) (hcL : cfg.L = r + 1) (ty : Nat) (seedOf : SlabID → Nat)
    (ops : List E2EM.MOp) (hok : ∀ op ∈ ops, op.Ok T D) :
    MapInvI T D (E2EM.runS c cfg (E2EM.newS c cfg.addr ty seedOf) ops).1.1
      (E2EM.runS c cfg (E2EM.newS c cfg.addr ty seedOf) ops).1.2.ctr ∧
    (E2EM.runS c cfg (E2EM.newS c cfg.addr ty seedOf) ops).1.1.rootID = ⟨cfg.addr, 1⟩ := by
  rw [E2EM.runS_fst]
  have h := map_history_wellformed T hT D cfg hcT hcL ty seedOf ⟨0, [], []⟩ ops hok ops.length
  rw [List.take_length] at h
  exact ⟨⟨h.1, h.2.1⟩, h.2.2.1⟩

/-- `SetType` keeps `MapInv` and the counter hypothesis; root identifier, entries and count unchanged. -/
theorem map_inv_setType (T : Nat) (D : DigestFn (r + 1)) (m : OMap r) (h : MapInv T D m) (ty : Nat) (c : Ctx)
    (hc : CtxOk m c) :
    MapInv T D (m.setType ty c).1 ∧ CtxOk (m.setType ty c).1 (m.setType ty c).2 ∧
    (m.setType ty c).1.rootID = m.rootID ∧ (m.setType ty c).1.toList = m.toList ∧
    (m.setType ty c).1.count = m.count ∧ (m.setType ty c).1.ty = ty := by
  obtain ⟨g1, g2, g3, g4, _⟩ := mapInv_setType h ty c
  have hctr : (m.setType ty c).2.ctr = c.ctr := by unfold OMap.setType; split <;> rfl
  refine ⟨g1, ?_, rfl, g2, g3, g4⟩
  intro id hid ha
  rw [hctr]
  exact hc id hid ha

/-- `map_inv_new` with everything the construction establishes: counter hypothesis, root
    identifier = the identifier just allocated, no entries. -/
theorem map_inv_new_full (T : Nat) (hT : legalThreshold T = true) (D : DigestFn (r + 1)) (addr ty : Nat)
    (seedOf : SlabID → Nat) (c : Ctx) :
    MapInv T D (OMap.new (r := r) addr ty seedOf c).1 ∧
    CtxOk (OMap.new (r := r) addr ty seedOf c).1 (OMap.new (r := r) addr ty seedOf c).2 ∧
    (OMap.new (r := r) addr ty seedOf c).1.rootID = ⟨addr, c.ctr + 1⟩ ∧
    (OMap.new (r := r) addr ty seedOf c).1.toList = [] ∧ (OMap.new (r := r) addr ty seedOf c).1.count = 0 := by
  obtain ⟨h1, h2, _⟩ := mapIds_new (r := r) T hT D addr ty seedOf c
  exact ⟨h1.1, h1.2.ctxOk, h2, rfl, rfl⟩

/-- `map_inv_popIterate` with the counter hypothesis, the root identifier, and emptiness. -/
theorem map_inv_popIterate_full (T : Nat) (hT : legalThreshold T = true) (D : DigestFn (r + 1)) (m : OMap r)
    (h : MapInv T D m) (c : Ctx) (hc : CtxOk m c) :
    MapInv T D (m.popIterate c).2.1 ∧ CtxOk (m.popIterate c).2.1 (m.popIterate c).2.2 ∧
    (m.popIterate c).2.1.rootID = m.rootID ∧ (m.popIterate c).2.1.slabIds = [m.rootID] ∧
    (m.popIterate c).2.1.toList = [] ∧ (m.popIterate c).2.1.count = 0 := by
  obtain ⟨_, htl, hcnt, hinv, hrid⟩ := C02.pop_refines T hT D m h c hc
  refine ⟨hinv, ?_, hrid, slabIds_pop m c, htl, hcnt⟩
  intro id hid ha
  have hid' : id ∈ (m.popIterate c).2.1.slabIds := hid
  rw [slabIds_pop, List.mem_singleton] at hid'
  subst hid'
  rw [(E2EM.omap_popKeep m c).1]
  exact hc _ m.rootID_mem_slabIds (ha.trans (OMap.addr_of_rootID hrid))

/-- Two maximal first-level entries (digest + element at the per-element inline limit) always fit
    into one data slab of the target size. -/
theorem map_two_max_elems_fit (T : Nat) (hT : legalThreshold T = true) :
    mapDataSlabPrefixSize + hkeyElementsPrefixSize + 2 * (digestSize + maxInlineMapElem T) ≤ T := by
  have := map_legal_bounds hT
  rw [maxInlineMapElem_eq]
  simp only [mapDataSlabPrefixSize, hkeyElementsPrefixSize, digestSize]
  omega

/-- A data slab whose size reaches the target size holds at least two first-level elements (so a
    full slab can always be split into two non-empty halves). -/
theorem map_full_slab_has_two_elems (T : Nat) (hT : legalThreshold T = true) (D : DigestFn (r + 1)) (top : Bool)
    (s : MDataSlab r) (h : MDataInv T D top s) (hfull : T ≤ s.hdr.size) : 2 ≤ s.elems.elems.length := by
  have hb := map_legal_bounds hT
  have hsz : s.elems.size = hkeyElementsPrefixSize + HkeyElems.elemSizes (MElems.ops r) s.elems.elems :=
    h.loose.hinv.2.2.2.2.1
  have hpre : s.prefixSize ≤ mapDataSlabPrefixSize := by
    unfold MDataSlab.prefixSize
    cases s.inlined <;> cases s.root <;> decide
  have hsize := h.size_eq
  have hel := h.elem_le
  have hme := maxInlineMapElem_eq T
  simp only [mapDataSlabPrefixSize, hkeyElementsPrefixSize] at hpre hsz
  rcases hl : s.elems.elems with _ | ⟨e1, _ | ⟨e2, rest⟩⟩
  · rw [hl] at hsz
    simp only [HkeyElems.elemSizes, List.map_nil, List.sum_nil] at hsz
    omega
  · rw [hl] at hsz hel
    have h1 := hel e1 (by simp)
    simp only [HkeyElems.elemSizes, List.map_cons, List.map_nil, List.sum_cons, List.sum_nil, digestSize] at hsz
    omega
  · simp

/-- Index data agrees with the data it summarises (maps): the traversal along the sibling links,
    the traversal by successive lookups from the root, the count, and `Get` by key of every pair of
    the enumeration all agree. -/
theorem map_access_agree (T : Nat) (hT : legalThreshold T = true) (D : DigestFn (r + 1)) (cfg : MCfg) (m : OMap r)
    (hcfg : CfgOk cfg T m) (ctr : Nat) (h : MapInvI T D m ctr) :
    m.iterReadOnly = .ok m.toList ∧ m.iterMutable cfg = .ok m.toList ∧ m.count = m.toList.length ∧
    (∀ p ∈ m.toList, m.get cfg p.1 = .ok (p.1, p.2) ∧ m.has cfg p.1 = .ok true) := by
  refine ⟨IterM.iterReadOnly_eq hT m hcfg h.1 h.2.leafIdsOk, IterM.iterMutable_eq hT m hcfg h.1, h.1.count_eq, ?_⟩
  intro p hp
  have hk : KeyOk T (r + 1) D p.1 := h.1.allKeyOk p hp
  have hl : dictLookup m.toList p.1 = some p.2 := dictLookup_some_of_mem h.1.distinct hp
  have hg := OMap.get_spec hT hcfg h.1 hk
  rw [hl] at hg
  refine ⟨hg, ?_⟩
  have := C02.has_refines T hT D cfg m hcfg h.1 p.1 hk
  rw [hl] at this
  exact this

/-! Non-vacuity; and two states that `MapInv` admits are excluded by the identifier clause. -/
section NonVacuity
open MapExample E2EM
/- `run.1.root : MTree 1 run.1.d`: while `run` unfolds, elaborating any statement that mentions the
   root runs the twenty requests (to see whether that type is a function type). -/
attribute [local irreducible] run

/-- the multi-slab example map of C02 (index-slab root `7.1` over the data slabs `7.3`, `7.4`; one
    external collision group `7.2` inside the first; allocation counter 4) satisfies `MapInvI` -/
example : run.1.slabIds = [⟨7, 1⟩, ⟨7, 3⟩, ⟨7, 2⟩, ⟨7, 4⟩] := by rw [run_eq]; decide +kernel
example : run.2.ctr = 4 := by rw [run_eq]; decide +kernel
theorem run_invI : MapInvI 256 D2 run.1 run.2.ctr := ⟨run_good.inv, by rw [run_eq]; decide +kernel⟩
example := mapIds_set 256 legal256 D2 cfg2 run.1 run_good.cfgok (key 122) (key_ok _) (val 0) (val_ok _) run.2 run_invI
example := mapIds_popIterate 256 legal256 D2 run.1 run.2 run_invI
example := mapIdsOk_implies run.1 run.2 run_invI.2
example := map_access_agree 256 legal256 D2 cfg2 run.1 run_good.cfgok _ run_invI
example := map_inv_setType 256 D2 run.1 run_good.inv 9 run.2 run_good.ctx
/-- both data slabs of `run.1` have reached the target size 256 (265 bytes each): the hypotheses of
    `map_full_slab_has_two_elems` hold for them -/
theorem run_leaves_full : ∀ s ∈ MTree.leaves run.1.d run.1.root, 256 ≤ s.hdr.size := by rw [run_eq]; decide +kernel
example (s : MDataSlab 1) (hs : s ∈ MTree.leaves run.1.d run.1.root) : 2 ≤ s.elems.elems.length := by
  obtain ⟨top', h⟩ := IterM.leaf_inv run.1.d true run.1.root run_good.inv.tree s
    (by rw [IterM.dataSlabs_eq_leaves]; exact hs)
  exact map_full_slab_has_two_elems 256 legal256 D2 top' s h (run_leaves_full s hs)
example := map_inv_popIterate_full 256 legal256 D2 run.1 run_good.inv run.2 run_good.ctx

/-- a history with 25 requests: the 20 of `MapExample.run`, then a `remove` of an absent key
    (REJECTED: key not found), a `set` of a fifth fully colliding key (REJECTED: collision limit),
    `setType`, `popIterate`, and a `set` into the emptied map -/
def hist : List MOp :=
  [.set (key 211) (val 1), .set (key 111) (val 2), .set (key 112) (val 3), .set (key 121) (val 4),
   .set (key 311) (val 5), .set (key 312) (val 6), .set (key 313) (val 7), .set (key 314) (val 8),
   .set (key 321) (val 9), .set (key 411) (val 10), .set (key 511) (val 11), .set (key 611) (val 12),
   .remove (key 411), .set (key 711) (val 13), .set (key 811) (val 14), .set (key 911) (val 15),
   .set (key 11) (val 16), .set (key 521) (val 17), .set (key 621) (val 18), .set (key 221) (val 19),
   .remove (key 999), .set (key 315) (val 20), .setType 5, .popIterate, .set (key 1) (val 1)]

theorem hist_ok : ∀ op ∈ hist, op.Ok 256 D2 := by
  intro op hop
  simp only [hist, List.mem_cons, List.not_mem_nil, or_false] at hop
  rcases hop with h | h | h | h | h | h | h | h | h | h | h | h | h | h | h | h | h | h | h | h | h | h | h | h | h <;>
    subst h <;> first | exact ⟨key_ok _, val_ok _⟩ | exact key_ok _ | trivial

def stN (n : Nat) : OMap 1 × Ctx :=
  runM cfg2 (OMap.new (r := 1) cfg2.addr 0 (fun id => id.idx) ⟨0, [], []⟩) (hist.take n)

theorem runM_take {r : Nat} (cfg : MCfg) (s : OMap r × Ctx) (l : List MOp) {k n : Nat} (h : k ≤ n) :
    runM cfg s (l.take n) = runM cfg (runM cfg s (l.take k)) ((l.take n).drop k) := by
  have e : l.take k = (l.take n).take k := by rw [List.take_take, Nat.min_eq_left h]
  rw [runM, runM, runM, ← List.foldl_append, e, List.take_append_drop]

theorem stepM_set {r : Nat} (cfg : MCfg) (s : OMap r × Ctx) (k : MKey) (v : Elem) :
    stepM cfg s (.set k v) = stepSet cfg s k v := by
  simp only [stepM, stepSet]
  cases s.1.set cfg k v s.2 <;> rfl

theorem stepM_remove {r : Nat} (cfg : MCfg) (s : OMap r × Ctx) (k : MKey) :
    stepM cfg s (.remove k) = stepRemove cfg s k := by
  simp only [stepM, stepRemove]
  cases s.1.remove cfg k s.2 <;> rfl

/-- the first 20 requests are those of `MapExample.run` -/
theorem stN_20 : stN 20 = (runMap, runCtx) := by
  rw [← run_eq]
  unfold run st0
  simp only [stN, hist, List.take_succ_cons, List.take_zero, runM, List.foldl_cons, List.foldl_nil, stepM_set,
    stepM_remove]

theorem stN_from20 {n : Nat} (h : 20 ≤ n) : stN n = runM cfg2 (runMap, runCtx) ((hist.take n).drop 20) :=
  (runM_take cfg2 _ hist h).trans (congrArg (runM cfg2 · ((hist.take n).drop 20)) stN_20)

/-- the history theorem applies to every prefix … -/
example (n : Nat) := map_history_wellformed 256 legal256 D2 cfg2 rfl rfl 0 (fun id => id.idx) ⟨0, [], []⟩ hist hist_ok n
/-- … whose states are non-trivial: four slabs after 20 requests, -/
example : (stN 20).1.slabIds = [⟨7, 1⟩, ⟨7, 3⟩, ⟨7, 2⟩, ⟨7, 4⟩] ∧ (stN 20).2.ctr = 4 ∧ (stN 20).1.count = 18 := by rw [stN_20]; decide +kernel
/-- requests 21 and 22 are rejected by the model and change nothing, -/
example : (match (stN 20).1.remove cfg2 (key 999) (stN 20).2 with | .ok _ => true | .error _ => false) = false := by
  rw [stN_20]; decide +kernel
example : (match (stN 21).1.set cfg2 (key 315) (val 20) (stN 21).2 with | .ok _ => true | .error _ => false) = false := by
  rw [stN_from20 (by decide)]; decide +kernel
example : (stN 22).1.slabIds = (stN 20).1.slabIds ∧ (stN 22).2.ctr = 4 ∧ (stN 22).1.count = 18 := by
  rw [stN_from20 (by decide), stN_20]; decide +kernel
/-- and the bulk pop leaves the root alone, under the old identifier and the old counter. -/
example : (stN 24).1.slabIds = [⟨7, 1⟩] ∧ (stN 24).2.ctr = 4 ∧ (stN 24).1.count = 0 := by
  rw [stN_from20 (by decide)]; decide +kernel
example : (stN 25).1.count = 1 := by rw [stN_from20 (by decide)]; decide +kernel

/-! Both data slabs of `run.1` relabelled `7.2` (the identifier of the external collision group of
    the first one), the `next` links and the parent's header table adjusted so that `MLeafChain`
    and `childHdrs = children.map hdr` still hold.  `MapInv` does not look at identifiers, `leafIdsOk` is false, the read-only
    iterator does not return `toList`.  The state violates `MapIdsOk` for EVERY counter. -/
def relabelLeaves (x : SlabID) : List (MDataSlab 1) → List (MDataSlab 1)
  | [] => []
  | [s] => [{ s with hdr := { s.hdr with id := x }, next := SlabID.undef }]
  | s :: t :: rest => { s with hdr := { s.hdr with id := x }, next := x } :: relabelLeaves x (t :: rest)

def dup : OMap 1 :=
  match run.1 with
  | ⟨1, (m : MMetaSlab (MDataSlab 1)), ty, cnt, seed⟩ =>
    let kids := relabelLeaves ⟨7, 2⟩ m.children
    ⟨1, ({ m with children := kids, childHdrs := kids.map (·.hdr) } : MMetaSlab (MDataSlab 1)), ty, cnt, seed⟩
  | o => o

example : dup.slabIds = [⟨7, 1⟩, ⟨7, 2⟩, ⟨7, 2⟩, ⟨7, 2⟩] := by rw [dup, run_eq]; decide +kernel
example : dup.leafIdsOk = false := by rw [dup, run_eq]; decide +kernel
example : dup.toList = run.1.toList := by rw [dup, run_eq]; decide +kernel
/-- the read-only iterator returns the first leaf three times (it stops on fuel; Go would not stop) -/
example : (match dup.iterReadOnly with | .ok l => l.map (fun (p : MKey × Elem) => p.1.pay) | .error _ => [])
    = [11, 111, 112, 121, 211, 221, 311, 312, 313, 314, 321, 11, 111, 112, 121, 211, 221, 311, 312, 313, 314, 321,
       11, 111, 112, 121, 211, 221, 311, 312, 313, 314, 321] := by rw [dup, run_eq]; decide +kernel
example : dup.toList.map (fun (p : MKey × Elem) => p.1.pay)
    = [11, 111, 112, 121, 211, 221, 311, 312, 313, 314, 321, 511, 521, 611, 621, 711, 811, 911] := by rw [dup, run_eq]; decide +kernel
theorem dup_excluded (ctr : Nat) : ¬ MapIdsOk dup ctr := fun h => absurd h.1 (by rw [dup, run_eq]; decide +kernel)

/-! The fourth fully colliding key inserted into `C09Map.s7` with a configuration whose owner
    address is 9 (the configuration of the request disagrees
    with the map: `CfgOk` violated): the exported collision group becomes slab `9.2` under the root
    `7.1`.  `MIdsOk` holds (the identifiers are distinct), `MapIdsOk` does not, for EVERY counter. -/
def cfg9 : MCfg := { cfg2 with addr := 9 }
def x8 : OMap 1 := (stepSet cfg9 C09Map.s7 (key 314) (val 8)).1

example : x8.slabIds = [⟨7, 1⟩, ⟨9, 2⟩] := by decide +kernel
example : MIdsOk x8 := by decide +kernel
theorem x8_excluded (ctr : Nat) : ¬ MapIdsOk x8 ctr := fun h => absurd (h.2 ⟨9, 2⟩ (by decide)).1 (by decide)

end NonVacuity

end Atree.C05

namespace Atree.C09Map
open Atree Gen

variable {r : Nat}

/-- (maps) Inside a valid tree no slab is owned twice, every slab — data slab, index slab, external
    collision group — is owned by the map's address, the stored slabs are exactly the listed
    identifiers, none is the undefined identifier, and all are at or below the allocation counter. -/
theorem tree_ownership (T : Nat) (D : DigestFn (r + 1)) (m : OMap r) (ctr : Nat) (h : MapInvI T D m ctr) :
    m.slabIds.Nodup ∧
    (∀ id ∈ m.slabIds, id.addr = m.addr) ∧
    (AList.keys (MTree.slabs m.d m.root) = m.slabIds) ∧
    (∀ id ∈ m.slabIds, id ≠ SlabID.undef ∧ 1 ≤ id.idx ∧ id.idx ≤ ctr) ∧
    m.rootID ∈ m.slabIds :=
  ⟨h.2.1, fun id hid => (h.2.2 id hid).1, (OMap.slabIds_eq_keys m).symm,
    fun id hid => ⟨h.2.ne_undef id hid, (h.2.2 id hid).2⟩, m.rootID_mem_slabIds⟩

example := tree_ownership 256 MapExample.D2 MapExample.run.1 _ C05.run_invI

/-! ### the C09 map theorems from the ONE preserved invariant `MapInvI` (as the array theorems of
    `Props/C09.lean` are stated from `ArrInv`): the hypotheses `MIdsOk` and `CtxOk` of
    `set_effects_complete`, `remove_effects_complete`, `pop_releases_all`, `allocated_ids_fresh` are
    discharged, and the invariant is returned for the result. -/

theorem set_effects_complete_I (T : Nat) (hT : legalThreshold T = true) (D : DigestFn (r + 1)) (cfg : MCfg)
    (m : OMap r) (hcfg : CfgOk cfg T m) (k : MKey) (hk : KeyOk T (r + 1) D k) (v : Elem) (hv : ValueOkM v)
    (c : Ctx) (h : MapInvI T D m c.ctr)
    (old : Option Elem) (m' : OMap r) (c' : Ctx) (hr : m.set cfg k v c = .ok (old, m', c')) :
    c'.eff = c.eff ++ newEffects c c' ∧ MEffectsComplete m m' (newEffects c c') (newCreated c c') ∧
    (∀ addr id, Eff.alloc addr id ∈ newEffects c c' → id ∉ m.slabIds ∧ c.ctr < id.idx ∧ id.idx ≤ c'.ctr) ∧
    MapInvI T D m' c'.ctr ∧ m'.rootID = m.rootID := by
  obtain ⟨h1, h2⟩ := set_effects_complete T hT D cfg m hcfg h.1 h.2.mIdsOk k hk v hv c h.2.ctxOk old m' c' hr
  have h3 := allocated_ids_fresh T hT D cfg m hcfg h.1 k hk v hv c h.2.ctxOk old m' c' hr
  obtain ⟨h4, h5, _⟩ := C05.mapIds_set T hT D cfg m hcfg k hk v hv c h old m' c' hr
  refine ⟨h1, h2, ?_, h4, h5⟩
  intro addr id hmem
  obtain ⟨a1, a2, a3⟩ := h3 addr id hmem
  exact ⟨by rw [OMap.slabIds_eq_keys]; exact a1, a2, a3⟩

theorem remove_effects_complete_I (T : Nat) (hT : legalThreshold T = true) (D : DigestFn (r + 1)) (cfg : MCfg)
    (m : OMap r) (hcfg : CfgOk cfg T m) (k : MKey) (hk : KeyOk T (r + 1) D k) (c : Ctx) (h : MapInvI T D m c.ctr)
    (k0 : MKey) (v0 : Elem) (m' : OMap r) (c' : Ctx) (hr : m.remove cfg k c = .ok (k0, v0, m', c')) :
    c'.eff = c.eff ++ newEffects c c' ∧ MEffectsComplete m m' (newEffects c c') (newCreated c c') ∧
    MapInvI T D m' c'.ctr ∧ m'.rootID = m.rootID := by
  obtain ⟨h1, h2⟩ := remove_effects_complete T hT D cfg m hcfg h.1 h.2.mIdsOk k hk c h.2.ctxOk k0 v0 m' c' hr
  obtain ⟨h4, h5, _⟩ := C05.mapIds_remove T hT D cfg m hcfg k hk c h k0 v0 m' c' hr
  exact ⟨h1, h2, h4, h5⟩

theorem pop_releases_all_I (T : Nat) (hT : legalThreshold T = true) (D : DigestFn (r + 1)) (m : OMap r) (c : Ctx)
    (h : MapInvI T D m c.ctr) :
    MEffectsComplete m (m.popIterate c).2.1 (newEffects c (m.popIterate c).2.2) [] ∧
    (m.popIterate c).2.1.slabIds = [m.rootID] ∧
    (∀ id ∈ m.slabIds, id ≠ m.rootID → lastAction (newEffects c (m.popIterate c).2.2) id = some false) ∧
    MapInvI T D (m.popIterate c).2.1 (m.popIterate c).2.2.ctr ∧ (m.popIterate c).2.2.ctr = c.ctr := by
  obtain ⟨h1, _, h3⟩ := pop_releases_all T hT D m h.1 c h.2.ctxOk
  obtain ⟨g1, _, _, g4, g5, _⟩ := C05.mapIds_popIterate T hT D m c h
  refine ⟨h1, g5, ?_, g1, g4⟩
  intro id hid hne
  exact h3 id (by rw [OMap.slabIds_eq_keys] at hid; exact hid) hne

example := set_effects_complete_I 256 MapExample.legal256 MapExample.D2 MapExample.cfg2 MapExample.run.1
  MapExample.run_good.cfgok (MapExample.key 122) (MapExample.key_ok _) (MapExample.val 0) (MapExample.val_ok _)
  MapExample.run.2 C05.run_invI
example := pop_releases_all_I 256 MapExample.legal256 MapExample.D2 MapExample.run.1 MapExample.run.2 C05.run_invI

end Atree.C09Map

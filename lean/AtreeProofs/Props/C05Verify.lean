import AtreeProofs.Verify.ArrayVerify
/-
  C05 (and the oracle of C10 / C17) — the library's own structural checker `VerifyArray`
  (array_verify.go), transcribed in `AtreeModel/Verify/Array.lean`, related to the proved invariant
  `ArrInv`.  Property-level theorems.

  * `arrInv_implies_verify_ok`: the checker accepts every state the invariant describes — as an
    oracle it never raises a false alarm on a valid tree.
  * `verify_ok_iff`: `verifyArray` returns `ok` exactly on the trees satisfying `ArrVerified`
    (`AtreeProofs/Verify/ArraySpec.lean`), the conjunction of the checks it makes.
  * `arrInv_iff_verify_ok_and_unchecked`: `ArrInv` is `verifyArray = ok` plus five facts the
    checker does not look at; `unchecked_*` give, for each of them, a concrete tree the checker
    accepts although exactly that fact is false.  This is the precise distance between the
    library's checker and the invariant (the defects only the invariant / `invOk` can see).
-/
namespace Atree.C05V
open Atree Gen ATree Verify

/-- **The library's checker accepts every state the invariant describes.**  `v` is any verifier
    set up for the threshold in force and the array's address (the storage it looks at is
    irrelevant: nothing in a valid standalone array is inlined); the expected type is either not
    given or the array's. -/
theorem arrInv_implies_verify_ok (T : Nat) (a : Arr) (ctr : Nat) (h : ArrInv T a ctr)
    (hT : legalThreshold T = true) (v : AVerifier) (hvT : v.T = T) (hva : v.address = a.addr)
    (typeInfo : Option Nat) (hty : ∀ ty, typeInfo = some ty → a.ty = ty) :
    verifyArray v typeInfo a = .ok () := by
  subst hvT
  exact (verifyArray_ok_iff v hT typeInfo a (aligned_of_treeInv a.d true a.root h.tree)).2
    (arrVerified_of_arrInv h v rfl hva typeInfo hty)

/-- the same for the verifier exactly as the harness calls it (`standaloneVerifier`), with the
    array's own type as the expected one -/
theorem arrInv_implies_verify_ok_standalone (T : Nat) (a : Arr) (ctr : Nat) (h : ArrInv T a ctr)
    (hT : legalThreshold T = true) :
    verifyArray (standaloneVerifier T a) (some a.ty) a = .ok () :=
  arrInv_implies_verify_ok T a ctr h hT _ rfl rfl _ (fun _ hty => by cases hty; rfl)

/-- **Exact characterisation of the checker**: `ok` iff every check it makes holds.
    (`Aligned`: one embedded child per child header — see `ArraySpec.lean`.) -/
theorem verify_ok_iff (v : AVerifier) (hT : legalThreshold v.T = true) (typeInfo : Option Nat) (a : Arr)
    (hal : Aligned a.d a.root) :
    verifyArray v typeInfo a = .ok () ↔ ArrVerified v typeInfo a :=
  verifyArray_ok_iff v hT typeInfo a hal

/-- **The converse, as far as it holds.**  From `ok` follow, in the vocabulary of `ArrInv`: the
    whole tree invariant `TreeInv` except `1 ≤ e.size` (i.e. under the extra hypotheses that
    elements are not empty and the root is not inlined), uniqueness of the slab IDs and their
    address; not the leaf chain, the bounds on the slab indices, `standalone`, `count_lt`. -/
theorem verify_ok_implies (v : AVerifier) (hT : legalThreshold v.T = true) (typeInfo : Option Nat) (a : Arr)
    (hal : Aligned a.d a.root) (hok : verifyArray v typeInfo a = .ok ()) :
    (a.isInlined = false → ElemsPos a → TreeInv v.T a.d true a.root) ∧
    (slabIds a.d a.root).Nodup ∧ (∀ id ∈ slabIds a.d a.root, id.addr = a.addr) ∧
    (leafIds a.d a.root).tail = definedNexts (Arr.leaves a.d a.root) ∧
    (∀ ty, typeInfo = some ty → a.ty = ty) := by
  have h := (verifyArray_ok_iff v hT typeInfo a hal).1 hok
  refine ⟨fun hst hpos => ?_, h.ids_nodup, fun id hid => ?_, h.chain, h.type_ok⟩
  · obtain ⟨d, t, ty0⟩ := a
    exact treeInv_of_checked v d 0 true t h.tree (by simp) h.extra ((isInlined_iff d t ty0).1 hst) hpos
  · rw [checked_addr v a.d 0 a.root h.tree id hid, h.addr]

/-- **How much weaker the library's checker is than the invariant, exactly.**
    `ArrInv` = accepted by `VerifyArray` + five facts `VerifyArray` does not check:
    no empty element, the leaf chain, the bounds on the slab indices (not zero, not beyond the
    allocation counter), not inlined, the count below 2³². -/
theorem arrInv_iff_verify_ok_and_unchecked (T : Nat) (hT : legalThreshold T = true) (a : Arr) (ctr : Nat) :
    ArrInv T a ctr ↔
      (Aligned a.d a.root ∧ verifyArray (standaloneVerifier T a) none a = .ok () ∧
       ElemsPos a ∧ LeafChain (Arr.leaves a.d a.root) ∧
       (∀ id ∈ slabIds a.d a.root, 1 ≤ id.idx ∧ id.idx ≤ ctr) ∧
       a.isInlined = false ∧ a.count < maxArrayElementCount + 1) := by
  constructor
  · intro h
    have hal := aligned_of_treeInv a.d true a.root h.tree
    refine ⟨hal, arrInv_implies_verify_ok T a ctr h hT _ rfl rfl none (by simp), ?_, h.chain,
      fun id hid => (h.ids.2 id hid).2, h.standalone, h.count_lt⟩
    intro e he
    exact (elemOk_of_treeInv a.d true a.root h.tree e he).1
  · rintro ⟨hal, hok, hpos, hchain, hidx, hst, hcnt⟩
    have h := (verifyArray_ok_iff (standaloneVerifier T a) hT none a hal).1 hok
    exact arrInv_of_arrVerified h hpos hchain hidx hst hcnt


/-- **A dead check in `verifyArray`.**  "root slab %d count %d is wrong, want %d" can never be
    reported, whatever the tree: `verifySlab` returns the root's header count, and `a.Count()`
    reads the same header field.  (In `verifyMap` the corresponding check compares with the count
    kept in the extra data and is live.) -/
theorem root_count_check_is_dead (v : AVerifier) (typeInfo : Option Nat) (a : Arr) :
    verifyArray v typeInfo a ≠ .error .rootCountWrong :=
  verifyArray_ne_rootCountWrong v typeInfo a

/-! ### Defects the library's checker cannot see

For each conjunct of `ArrInv` that `VerifyArray` does not check: a concrete tree (T = 256) that
`verifyArray` accepts, that satisfies all the other unchecked conjuncts, and violates exactly this
one.  All are variations of `Example.arr4` (root index slab 1.1 over the data slabs 1.2 and 1.3,
four 100-byte elements). -/
section Unchecked
open Atree.Example

/-- (1) an empty element (`size = 0`): a root data slab holding one element of zero bytes.
    `VerifyArray` only bounds element sizes from above. -/
def wEmptyElem : Arr := ⟨0, ofData ⟨⟨⟨1, 1⟩, 5, 1⟩, SlabID.undef, [⟨0, .val 0⟩], true, false⟩, 0⟩

theorem unchecked_elem_size_pos :
    verifyArray (standaloneVerifier 256 wEmptyElem) none wEmptyElem = .ok () ∧
    ¬ ElemsPos wEmptyElem ∧
    LeafChain (Arr.leaves wEmptyElem.d wEmptyElem.root) ∧
    (∀ id ∈ slabIds wEmptyElem.d wEmptyElem.root, 1 ≤ id.idx ∧ id.idx ≤ 1) ∧
    wEmptyElem.isInlined = false ∧ wEmptyElem.count < maxArrayElementCount + 1 := by
  refine ⟨rfl, ?_, rfl, by decide, rfl, by decide⟩
  intro h
  have := h ⟨0, .val 0⟩ (by decide)
  exact absurd this (by decide)

/-- the example elements (`Example.elem n`, 100 bytes) are not empty -/
theorem elemsPos_of_elems {a : Arr} (ns : List Nat) (h : a.toList = ns.map elem) : ElemsPos a := by
  intro e he
  rw [h] at he
  obtain ⟨n, _, rfl⟩ := List.mem_map.mp he
  exact (by decide : 1 ≤ 100)

/-- (2) a broken leaf chain: the first leaf has no `next`, the second leaf points to itself.
    `VerifyArray` compares the list of defined `next` links with the IDs of leaves 2…n, which
    forgets which leaf each link belongs to. -/
def wChainLeft : DataSlab := { Example.left with next := SlabID.undef }
def wChainRight : DataSlab := { Example.right with next := ⟨1, 3⟩ }
def wChain : Arr :=
  ⟨1, ofMeta ⟨⟨⟨1, 1⟩, 40, 4⟩, [wChainLeft.hdr, wChainRight.hdr], [2, 4],
      [ofData wChainLeft, ofData wChainRight], true⟩, 0⟩

theorem unchecked_leaf_chain :
    verifyArray (standaloneVerifier 256 wChain) none wChain = .ok () ∧
    ¬ LeafChain (Arr.leaves wChain.d wChain.root) ∧
    ElemsPos wChain ∧
    (∀ id ∈ slabIds wChain.d wChain.root, 1 ≤ id.idx ∧ id.idx ≤ 3) ∧
    wChain.isInlined = false ∧ wChain.count < maxArrayElementCount + 1 := by
  refine ⟨rfl, ?_, ?_, by decide, rfl, by decide⟩
  · intro h
    have h1 : wChainLeft.next = wChainRight.hdr.id := h.1
    exact absurd h1 (by decide)
  · exact elemsPos_of_elems [0, 1, 2, 3] rfl

/-- … and the defect is observable: on that accepted tree the read-only iterator (which follows
    the `next` links) yields two of the four elements. -/
theorem unchecked_leaf_chain_observable :
    wChain.iterReadOnly = [elem 0, elem 1] ∧ wChain.toList = [elem 0, elem 1, elem 2, elem 3] :=
  ⟨rfl, rfl⟩

/-- (3) a slab whose index is 0 (the index `GenerateSlabID` never hands out): the right leaf is
    registered as 1.0. -/
def wIdxLeft : DataSlab := { Example.left with next := ⟨1, 0⟩ }
def wIdxRight : DataSlab := { Example.right with hdr := { Example.right.hdr with id := ⟨1, 0⟩ } }
def wIdx0 : Arr :=
  ⟨1, ofMeta ⟨⟨⟨1, 1⟩, 40, 4⟩, [wIdxLeft.hdr, wIdxRight.hdr], [2, 4],
      [ofData wIdxLeft, ofData wIdxRight], true⟩, 0⟩

theorem unchecked_slab_index_pos :
    verifyArray (standaloneVerifier 256 wIdx0) none wIdx0 = .ok () ∧
    ¬ (∀ id ∈ slabIds wIdx0.d wIdx0.root, 1 ≤ id.idx) ∧
    (∀ id ∈ slabIds wIdx0.d wIdx0.root, id.idx ≤ 3) ∧
    ElemsPos wIdx0 ∧ LeafChain (Arr.leaves wIdx0.d wIdx0.root) ∧
    wIdx0.isInlined = false ∧ wIdx0.count < maxArrayElementCount + 1 := by
  refine ⟨rfl, ?_, by decide, ?_, ⟨rfl, rfl⟩, rfl, by decide⟩
  · intro h
    exact absurd (h ⟨1, 0⟩ (by decide)) (by decide)
  · exact elemsPos_of_elems [0, 1, 2, 3] rfl

/-- (4) a slab index beyond the allocation counter: `arr4` itself is valid for the counter 3 and
    accepted; the same tree violates `ArrInv` for the counter 2 (the next `GenerateSlabID` would
    hand out 1.3 a second time).  The allocator is not visible to `VerifyArray`. -/
theorem unchecked_slab_index_le_ctr :
    verifyArray (standaloneVerifier 256 arr4) none arr4 = .ok () ∧
    ¬ (∀ id ∈ slabIds arr4.d arr4.root, id.idx ≤ 2) ∧ ¬ ArrInv 256 arr4 2 := by
  refine ⟨rfl, ?_, ?_⟩
  · intro h; exact absurd (h ⟨1, 3⟩ (by decide)) (by decide)
  · intro h; exact absurd (h.ids.2 ⟨1, 3⟩ (by decide)).2.2 (by decide)

/-- (5) an inlined root (accepted by `VerifyArray` when the slab is not in storage: it has
    different rules for inlined arrays, while `ArrInv` describes standalone arrays). -/
def wInlined : Arr :=
  ⟨0, ofData ⟨⟨⟨1, 1⟩, 117, 1⟩, SlabID.undef, [elem 0], true, true⟩, 0⟩

theorem unchecked_standalone :
    verifyArray ⟨256, fun _ => false, 1⟩ none wInlined = .ok () ∧
    wInlined.isInlined = true ∧
    ElemsPos wInlined ∧ LeafChain (Arr.leaves wInlined.d wInlined.root) ∧
    (∀ id ∈ slabIds wInlined.d wInlined.root, 1 ≤ id.idx ∧ id.idx ≤ 1) ∧
    wInlined.count < maxArrayElementCount + 1 := by
  exact ⟨rfl, rfl, elemsPos_of_elems [0] rfl, rfl, by decide, by decide⟩

/-- … and the verifier as the harness uses it (every slab of the tree is in storage) rejects it
    with "inlined slab %s is in storage". -/
theorem inlined_root_in_storage_rejected :
    verifyArray (standaloneVerifier 256 wInlined) none wInlined = .error .inlinedSlabInStorage := rfl

/- (6) `count_lt` (`a.count < 2³²`): in Go the count is a `uint32`, the bound is a fact of the
   type; a model tree violating it would need 2³² elements, no finite witness is given. -/

/-- (7) a modelling artefact, not a weakness of the Go code: an index slab with an embedded child
    that no child header refers to.  `verifyArray` never looks at it (in Go it would be a slab in
    storage nobody references: the business of the storage health check). -/
def wExtraChild : Arr :=
  ⟨1, ofMeta ⟨⟨⟨1, 1⟩, 40, 4⟩, [Example.left.hdr, Example.right.hdr], [2, 4],
      [ofData Example.left, ofData Example.right, ofData Example.right], true⟩, 0⟩

theorem unchecked_extra_embedded_child :
    verifyArray (standaloneVerifier 256 wExtraChild) none wExtraChild = .ok () ∧
    ¬ Aligned wExtraChild.d wExtraChild.root ∧ ¬ ArrInv 256 wExtraChild 3 := by
  refine ⟨rfl, ?_, ?_⟩
  · intro h
    have := ((aligned_succ 0 _).1 h).1
    exact absurd this (by decide)
  · intro h
    have := ((aligned_succ 0 _).1 (aligned_of_treeInv _ true _ h.tree)).1
    exact absurd this (by decide)

end Unchecked

/-! ### Rejections (the checker is not trivially `ok`) and non-vacuity -/
section NonVacuity
open Atree.Example

/-- `arr4` (a root index slab over two data slabs) meets the hypotheses of
    `arrInv_implies_verify_ok`, and the conclusion agrees with plain evaluation. -/
example : verifyArray (standaloneVerifier T0 arr4) (some arr4.ty) arr4 = .ok () :=
  arrInv_implies_verify_ok_standalone T0 arr4 3 arr4_inv legal
example : verifyArray (standaloneVerifier T0 arr4) (some 0) arr4 = .ok () := rfl
example : Aligned arr4.d arr4.root := aligned_of_treeInv _ true _ arr4_inv.tree
example : ArrVerified (standaloneVerifier T0 arr4) none arr4 :=
  (verify_ok_iff _ legal none arr4 (aligned_of_treeInv _ true _ arr4_inv.tree)).1 rfl

/-- the checker rejects: a wrong expected type, a wrong expected address, a threshold under which
    the leaves underflow, a corrupted `childrenCountSum`, a corrupted child header copy -/
example : verifyArray (standaloneVerifier T0 arr4) (some 7) arr4 = .error .typeInfoWrong := rfl
example : verifyArray { standaloneVerifier T0 arr4 with address := 2 } none arr4 = .error .arrayAddress := rfl
example : verifyArray (standaloneVerifier 1024 arr4) none arr4 = .error .underflow := rfl
example : verifyArray (standaloneVerifier T0 arr4) none
    ⟨1, ofMeta { rootSlab with countSum := [2, 5] }, 0⟩ = .error .countSumWrong := rfl
example : verifyArray (standaloneVerifier T0 arr4) none
    ⟨1, ofMeta { rootSlab with childHdrs := [left.hdr, { right.hdr with size := 222 }] }, 0⟩ =
    .error .headerMismatch := rfl

end NonVacuity

end Atree.C05V

import AtreeProofs.Props.C05VerifyMap
import AtreeProofs.Props.C05MapIds
/-
  C05 (maps) — the library's own checker `VerifyMap` accepts the map after every history.
  Property theorems.  `C05V.mapInv_implies_verify_ok` needs, besides `MapInv`, hypotheses about slab
  identifiers and the seed (`Verify.MapIdsOk`: tree identifiers pairwise different, of the
  verifier's address, defined; seed ≠ 0).  The preserved identifier clause
  `Atree.MapIdsOk` (AtreeProofs/MapIds.lean) implies the identifier part, the seed is the one chosen at
  creation (`C05.map_history_wellformed`), so for histories from `NewMap` only `seed ≠ 0` remains — a
  hypothesis about the caller-supplied seed function (Go: `NewMap` draws random seeds until non-zero
  … the harness recomputes it), not about the tree.
  Note on names: `Atree.Verify.MapIdsOk v m` (verifier-relative, no counter, no group slabs, with
  the seed) and `Atree.MapIdsOk m ctr` (the preserved invariant) are different predicates in
  different namespaces; `verifyIdsOk_of_mapIdsOk` is the bridge.
-/
namespace Atree.C05V
open Atree Gen Verify

variable {r : Nat}

/-- the identifiers `VerifyMap` walks over (data and index slabs) are a sublist of all identifiers
    (which also contain the external collision-group slabs) -/
theorem mapTreeIds_sublist : ∀ (d : Nat) (t : MTree r d), (mapTreeIds d t).Sublist (CtxOk.mapSlabIds d t)
  | 0, t => by
    refine IterM.forall_ofD ?_ t; intro s
    show [s.hdr.id].Sublist (CtxOk.mapSlabIds 0 s)
    rw [mapSlabIds_zero]
    exact List.Sublist.cons_cons _ (List.nil_sublist _)
  | d + 1, t => by
    refine IterM.forall_ofM ?_ t; intro m
    show (m.hdr.id :: m.children.flatMap (mapTreeIds d)).Sublist (CtxOk.mapSlabIds (d + 1) m)
    rw [mapSlabIds_succ]
    exact List.Sublist.cons_cons _ (flatMap_sublist_of_mem (fun c _ => mapTreeIds_sublist d c))

/-- The preserved identifier clause discharges the identifier hypotheses of the checker theorem. -/
theorem verifyIdsOk_of_mapIdsOk (v : MVerifier) (m : OMap r) (ctr : Nat) (h : Atree.MapIdsOk m ctr)
    (hva : v.address = m.addr) (hseed : m.seed ≠ 0) : Verify.MapIdsOk v m := by
  have hsub := mapTreeIds_sublist m.d m.root
  refine ⟨hsub.nodup h.1, ?_, ?_, hseed⟩
  · intro id hid
    rw [hva]
    exact (h.2 id (hsub.subset hid)).1
  · intro id hid
    exact h.ne_undef id (hsub.subset hid)

/-- `VerifyMap` accepts every state satisfying the invariant with identifiers (`MapInvI`) and a
    non-zero seed. -/
theorem mapInvI_implies_verify_ok (T : Nat) (hT : legalThreshold T = true) (D : DigestFn (r + 1))
    (m : OMap r) (ctr : Nat) (h : MapInvI T D m ctr) (hseed : m.seed ≠ 0)
    (v : MVerifier) (hvT : v.T = T) (hvL : v.L = r + 1) (hvd : v.dg = D.dg) (hva : v.address = m.addr)
    (typeInfo : Option Nat) (hty : ∀ ty, typeInfo = some ty → m.ty = ty) :
    verifyMap v typeInfo m = .ok () :=
  mapInv_implies_verify_ok T hT D m h.1 v hvT hvL hvd hva (verifyIdsOk_of_mapIdsOk v m ctr h.2 hva hseed)
    typeInfo hty

/-- After every prefix of every history of requests from `NewMap` (any legal threshold, any digest
    function, rejected requests included) the library's checker — set up for the threshold, the
    digester and the owner address in force, asked about no type or the current type — accepts the
    map, provided the seed chosen at creation is non-zero. -/
theorem map_history_verify_ok (T : Nat) (hT : legalThreshold T = true) (D : DigestFn (r + 1)) (cfg : MCfg)
    (hcT : cfg.T = T) (hcL : cfg.L = r + 1) (ty : Nat) (seedOf : SlabID → Nat) (c0 : Ctx)
    (hseed : seedOf ⟨cfg.addr, c0.ctr + 1⟩ ≠ 0)
    (ops : List E2EM.MOp) (hok : ∀ op ∈ ops, op.Ok T D) (n : Nat)
    (v : MVerifier) (hvT : v.T = T) (hvL : v.L = r + 1) (hvd : v.dg = D.dg) (hva : v.address = cfg.addr) :
    ∀ m, m = (E2EM.runM cfg (OMap.new (r := r) cfg.addr ty seedOf c0) (ops.take n)).1 →
      verifyMap v none m = .ok () ∧ verifyMap v (some m.ty) m = .ok () := by
  intro m hm
  obtain ⟨hinv, hids, hrid, _, hsd⟩ := C05.map_history_wellformed T hT D cfg hcT hcL ty seedOf c0 ops hok n
  rw [← hm] at hinv hids hrid hsd
  have haddr : v.address = m.addr := by rw [hva]; unfold OMap.addr; rw [hrid]
  have hs : m.seed ≠ 0 := by rw [hsd]; exact hseed
  exact ⟨mapInvI_implies_verify_ok T hT D m _ ⟨hinv, hids⟩ hs v hvT hvL hvd haddr none (fun _ h => by cases h),
    mapInvI_implies_verify_ok T hT D m _ ⟨hinv, hids⟩ hs v hvT hvL hvd haddr (some m.ty)
      (fun _ h => by cases h; rfl)⟩

/-! ### Non-vacuity: the 25-request history `C05.hist` (seed function `id.idx`, so the seed is 1);
    the theorem applies to every prefix and agrees with plain evaluation of the transcription. -/
section NonVacuity
open MapExample

example (n : Nat) := map_history_verify_ok 256 legal256 D2 cfg2 rfl rfl 0 (fun id => id.idx) ⟨0, [], []⟩ (by decide)
  C05.hist C05.hist_ok n exVerifier rfl rfl rfl rfl _ rfl
example : verifyMap exVerifier none (C05.stN 20).1 = .ok () := by
  rw [C05.stN_20]; decide +kernel
example : verifyMap exVerifier (some 5) (C05.stN 23).1 = .ok () := by
  rw [C05.stN_from20 (by decide)]; decide +kernel
/-- the state with duplicated data-slab identifiers (`C05.dup`) is rejected by the checker as well … -/
example : verifyMap exVerifier none C05.dup = .error .duplicateSlabID := by rw [C05.dup, run_eq]; decide +kernel
/-- … but the state whose external collision-group slab belongs to a foreign address (`9.2` under the
    root `7.1`) is accepted by `VerifyMap` (it never looks at the identifier of a group slab):
    `MapIdsOk` is strictly stronger than what the library's checker sees (`C05.x8_excluded`). -/
example : verifyMap exVerifier none C05.x8 = .ok () := by decide +kernel

end NonVacuity

end Atree.C05V

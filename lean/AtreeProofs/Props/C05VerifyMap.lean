import AtreeProofs.Verify.MapVerify
import AtreeModel.Verify.MapCorrupt
import AtreeProofs.Map.Example
/-
  C05 (and the oracle of C02 / C10 / C12 / C17) — the library's own structural checker `VerifyMap`
  (map_verify.go), transcribed in `AtreeModel/Verify/Map.lean`, related to the proved invariant
  `MapInv`.  Property-level theorems.

  * `mapInv_implies_verify_ok`: the checker accepts every state the invariant describes (given what
    the invariant does not talk about: slab IDs pairwise different, of the map's address and
    defined, a non-zero seed — `MapIdsOk`).  As an oracle it never false-alarms on a valid map.
  * `ids_hypotheses_needed`: those extra hypotheses are needed — `MapInv` does not mention the seed,
    and the checker rejects a zero seed.
  * `unchecked_*`: concrete maps the checker accepts although a conjunct of `MapInv` is false —
    the defects only the invariant can see.  Most notably the slab of an external collision group
    is never looked at (its header may claim any size / first key / ID).

  Not proved (the array side has it, `C05V.verify_ok_iff`): an exact
  characterisation `verifyMap = ok ↔ …`.  What is proved for maps is the direction
  invariant ⟹ accepted, plus the counterexamples to the converse.
-/
namespace Atree.C05V
open Atree Gen Verify

-- so that acceptance and rejection by the checker can be decided by evaluating it
deriving instance DecidableEq for Except

/-- **The library's map checker accepts every state the invariant describes.**  `v` is any
    verifier set up for the threshold in force, the digester of the invariant (`r + 1` levels, the
    digest function `D`) and the map's address. -/
theorem mapInv_implies_verify_ok {r : Nat} (T : Nat) (hT : legalThreshold T = true) (D : DigestFn (r + 1))
    (m : OMap r) (h : MapInv T D m) (v : MVerifier) (hvT : v.T = T) (hvL : v.L = r + 1)
    (hvd : v.dg = D.dg) (hva : v.address = m.addr) (hids : MapIdsOk v m)
    (typeInfo : Option Nat) (hty : ∀ ty, typeInfo = some ty → m.ty = ty) :
    verifyMap v typeInfo m = .ok () :=
  verifyMap_ok_of_mapInv ⟨hT, hvT, hvL, hvd⟩ m h hids hva typeInfo hty

/-! ### a small valid map (one digest level, T = 256)

root data slab 7.1 holding, under the digests 1, 2, 3, 4: an inline collision group of two pairs, a
single pair, an external collision group (slab 7.2) of two pairs with 80-byte values, a single
pair.  It is the map the model builds from six `Set` calls (checked in the scratch evaluation
quoted in INTEGRATION-verifier.md), written out so that the corrupted variants below are readable. -/
section Witnesses

def D1 : DigestFn 1 := ⟨fun p => [p.2 / 10], fun _ => rfl⟩
def wKey (n : Nat) : MKey := ⟨10, n, [n / 10]⟩
/-- key `kn`, value payload `vn` of `vs` bytes -/
def wPair (kn vn vs : Nat) : SElem := ⟨wKey kn, ⟨vs, .val vn⟩, 1 + 10 + vs⟩
def wInlGroup : SingleElems := ⟨[wPair 11 1 10, wPair 12 2 10], 48, 1⟩
def wExtGroup : SingleElems := ⟨[wPair 31 4 80, wPair 32 5 80], 188, 1⟩
def wGroupSlab : GroupSlab SingleElems := ⟨⟨⟨7, 2⟩, 206, 0⟩, wExtGroup⟩
def wTable (g : SingleElems) (gs : GroupSlab SingleElems) (size : Nat) : HkeyElems SingleElems :=
  ⟨[1, 2, 3, 4], [.inl g, .single (wPair 25 3 10), .ext ⟨7, 2⟩ 21 gs, .single (wPair 40 6 10)], size, 0⟩
def wRoot (tbl : HkeyElems SingleElems) (size : Nat) : MDataSlab 0 :=
  ⟨⟨⟨7, 1⟩, size, 1⟩, SlabID.undef, tbl, true, false⟩
def wMap : OMap 0 := ⟨0, wRoot (wTable wInlGroup wGroupSlab 153) 155, 0, 6, 1⟩
def wVerifier : MVerifier := { T := 256, L := 1, inStorage := fun _ => true, address := 7, dg := D1.dg }

/-- the valid map is accepted -/
theorem wMap_ok : verifyMap wVerifier none wMap = .ok () := by decide +kernel

/-- **The hypotheses `MapIdsOk` are needed**: `MapInv` does not mention the seed (nor the slab IDs);
    the same tree with seed 0 satisfies exactly the same `MapInv` and is rejected. -/
theorem ids_hypotheses_needed :
    verifyMap wVerifier none { wMap with seed := 0 } = .error .seedUninitialized ∧
    (∀ T D, MapInv T D wMap → MapInv T (r := 0) D { wMap with seed := 0 }) :=
  ⟨rfl, fun _ _ h => ⟨h.tree, h.chain, h.count_eq, h.distinct, h.standalone⟩⟩

/-- (1) the slab of an external collision group is never looked at.  `VerifyMap` calls
    `e.Elements(storage)` and verifies the elements; the group slab's own header may claim any
    size, any first key and any ID (here: 100000 bytes, first key 77, ID 9.9 of a foreign
    address).  `MapInv` (`ElemsInv`, `.ext` case) requires `s.hdr.id = id`,
    `s.hdr.size = 18 + size of the elements`, `s.hdr.firstKey = …`. -/
def wBadGroupSlab : GroupSlab SingleElems := ⟨⟨⟨9, 9⟩, 100000, 77⟩, wExtGroup⟩
def wMapBadGroupSlab : OMap 0 := ⟨0, wRoot (wTable wInlGroup wBadGroupSlab 153) 155, 0, 6, 1⟩

theorem unchecked_group_slab_header :
    verifyMap wVerifier none wMapBadGroupSlab = .ok () ∧ ∀ T D, ¬ MapInv T (r := 0) D wMapBadGroupSlab := by
  refine ⟨by decide +kernel, fun T D h => ?_⟩
  have h1 : MDataInv T D true (wRoot (wTable wInlGroup wBadGroupSlab 153) 155) := h.tree
  have h2 := h1.elems_inv
  simp only [ElemsInv] at h2
  have h3 := h2.2.2.2.2.2 2 3 (.ext ⟨7, 2⟩ 21 wBadGroupSlab) rfl rfl
  exact absurd h3.2.2.1 (by decide)

/-- (2) the same key twice in a last-level list (a `singleElements`): nothing compares keys. -/
def wDupGroup : SingleElems := ⟨[wPair 11 1 10, wPair 11 2 10], 48, 1⟩
def wMapDupKey : OMap 0 := ⟨0, wRoot (wTable wDupGroup wGroupSlab 153) 155, 0, 6, 1⟩

theorem unchecked_distinct_keys :
    verifyMap wVerifier none wMapDupKey = .ok () ∧ ¬ KeysDistinct wMapDupKey.toList := by
  refine ⟨rfl, ?_⟩
  intro h
  have : wMapDupKey.toList = [(wKey 11, ⟨10, .val 1⟩), (wKey 11, ⟨10, .val 2⟩), (wKey 25, ⟨10, .val 3⟩),
      (wKey 31, ⟨80, .val 4⟩), (wKey 32, ⟨80, .val 5⟩), (wKey 40, ⟨10, .val 6⟩)] := rfl
  rw [this] at h
  have := (List.pairwise_cons.1 h).1 _ (List.mem_cons_self)
  exact absurd this (by decide)

/-- (3) A collision group of one pair (the code collapses such a group into a single element;
    `ElemsInv` demands `soleSingle g = none`). -/
def wSoleGroup : SingleElems := ⟨[wPair 11 1 10], 27, 1⟩
def wMapSoleGroup : OMap 0 := ⟨0, wRoot (wTable wSoleGroup wGroupSlab 132) 134, 0, 5, 1⟩

theorem unchecked_group_of_one :
    verifyMap wVerifier none wMapSoleGroup = .ok () ∧ ∀ T D, ¬ MapInv T (r := 0) D wMapSoleGroup := by
  refine ⟨by decide +kernel, fun T D h => ?_⟩
  have h1 : MDataInv T D true (wRoot (wTable wSoleGroup wGroupSlab 132) 134) := h.tree
  have h2 := h1.elems_inv
  simp only [ElemsInv] at h2
  have h3 := h2.2.2.2.2.2 0 1 (.inl wSoleGroup) rfl rfl
  exact absurd h3.2.2.1 (by decide)

/-- (4) an empty value (0 bytes): sizes are only bounded from above. -/
def wMapEmptyValue : OMap 0 :=
  ⟨0, wRoot ⟨[1], [.single (wPair 11 3 0)], 27, 0⟩ 29, 0, 1, 1⟩

theorem unchecked_value_size_pos :
    verifyMap wVerifier none wMapEmptyValue = .ok () ∧ ∀ T D, ¬ MapInv T (r := 0) D wMapEmptyValue := by
  refine ⟨by decide +kernel, fun T D h => ?_⟩
  have h1 : MDataInv T D true (wRoot ⟨[1], [.single (wPair 11 3 0)], 27, 0⟩ 29) := h.tree
  have h2 := h1.elems_inv
  simp only [ElemsInv] at h2
  have h3 := h2.2.2.2.2.2 0 1 (.single (wPair 11 3 0)) rfl rfl
  exact absurd h3.1.2.1 (by decide)

/-- (5) an inlined root is accepted when it is not in storage (`MapInv` describes standalone maps). -/
def wMapInlined : OMap 0 :=
  ⟨0, ⟨⟨⟨7, 1⟩, 41, 2⟩, SlabID.undef, ⟨[2], [.single (wPair 25 3 0)], 27, 0⟩, true, true⟩, 0, 1, 1⟩

theorem unchecked_standalone_map :
    verifyMap { wVerifier with inStorage := fun _ => false } none wMapInlined = .ok () ∧
    wMapInlined.isInlined = true ∧
    verifyMap wVerifier none wMapInlined = .error .inlinedSlabInStorage := ⟨rfl, rfl, rfl⟩

end Witnesses

/-! ### broken sibling links (the same weakness as for arrays), on the two-level example of C02 -/
section Chain
open MapExample

def exVerifier : MVerifier := { T := 256, L := 2, inStorage := fun _ => true, address := 7, dg := D2.dg }

/-- `MapExample.run` (root index slab 7.1 over the data slabs 7.3 → 7.4) with the links overwritten:
    7.3 has no `next`, 7.4 points to itself.  Accepted; `MLeafChain` is false. -/
def runBrokenChain : Option (OMap 1) :=
  (corruptMap run.1 ⟨7, 3⟩ "next" [] 0 0 0 SlabID.undef).bind
    (fun m => corruptMap m ⟨7, 4⟩ "next" [] 0 0 0 ⟨7, 4⟩)

theorem unchecked_map_leaf_chain :
    ∃ m, runBrokenChain = some m ∧ verifyMap exVerifier (some 0) m = .ok () ∧
      ¬ MLeafChain (MTree.leaves m.d m.root) := by
  rw [runBrokenChain, run_eq]
  refine ⟨_, rfl, rfl, ?_⟩
  intro h
  have h1 := h.1
  exact absurd h1 (by decide)

end Chain

section NonVacuity
open MapExample

theorem run_ids_ok : MapIdsOk exVerifier run.1 := by
  rw [run_eq]; exact ⟨by decide +kernel, by decide +kernel, by decide +kernel, by decide +kernel⟩

/-- the two-level example map of C02 (index-slab root, inline group, external group, last-level
    lists) meets every hypothesis of `mapInv_implies_verify_ok`; the conclusion agrees with plain
    evaluation of the transcription -/
example : verifyMap exVerifier (some 0) run.1 = .ok () :=
  mapInv_implies_verify_ok 256 legal256 D2 run.1 run_good.inv exVerifier rfl rfl rfl (by rw [run_eq]; rfl) run_ids_ok
    (some 0) (fun _ h => by cases h; rw [run_eq]; rfl)
example : verifyMap exVerifier (some 0) run.1 = .ok () := by rw [run_eq]; decide +kernel

/-- rejections: wrong type, wrong address, wrong threshold, wrong digester, wrong number of levels,
    wrong count -/
example : verifyMap exVerifier (some 5) run.1 = .error .typeInfoWrong := by rw [run_eq]; decide +kernel
example : verifyMap { exVerifier with address := 8 } none run.1 = .error .mapAddress := by rw [run_eq]; decide +kernel
example : verifyMap { exVerifier with T := 1024 } none run.1 = .error .underflow := by rw [run_eq]; decide +kernel
example : verifyMap { exVerifier with dg := fun _ => [0, 0] } none run.1 = .error .digestWrong := by rw [run_eq]; decide +kernel
example : verifyMap { exVerifier with L := 3 } none run.1 = .error .singleDigestLevelWrong := by rw [run_eq]; decide +kernel
example : verifyMap exVerifier none { run.1 with count := 3 } = .error .rootCountWrong := by rw [run_eq]; decide +kernel

end NonVacuity

end Atree.C05V

import AtreeProofs.Codec.SlabAll
import AtreeProofs.ArrayInv
import AtreeProofs.Array.Arith
/-
  C06 — Reported slab sizes equal the bytes actually written.
  PROPERTY THEOREMS about the byte-level model (`AtreeModel/Codec`).

  First part: standalone array data slabs (root / non-root), array index slabs, large-value slabs,
  with the harness's elements (byte strings of every CBOR head width, the three gap sizes, slab
  references) and type infos.  For these kinds the only deviation between encoded length and
  reported size is the omitted 16-byte sibling link of a non-root data slab with undefined `next`,
  plus the root's extra-data section.  `SlabOK` (the hypotheses of these three kinds, used by the
  E2E proofs) is `False` for the other slab kinds (`adata`, `mdata`, `mindex`, `storableG`); the
  general statements `enc_len` / `decoded_size_eq` are phrased with `SlabOKG` (Codec/SlabAll.lean),
  which per kind is the hypothesis of the kind-specific theorem (array / map data slabs with general
  elements: with the exact nesting clause `Slab.vdepth ≤ maxNestedLevels`), and hold for all SEVEN
  kinds (`enc_len_flat` / `decoded_size_eq_flat` are the three-kind statements; `SlabOK s → SlabOKG s`).

  Second part: map data / index / collision-group slabs, inlined arrays and maps, wrappers, the
  shared inlined-extra-data section and compact maps; the model's sizes of these
  kinds are functions of the content (`Stor.size`, `MEls.size`, `MapData.size`, …) and the trace
  replayer checks on every `ENC` line that every size the implementation keeps in a header field
  equals the computed one and that the EXACT length law holds (`Slab.hoisted`, Props/C06Exact.lean:
  written + omitted sibling link + bytes hoisted by compact maps = reported + extra-data sections).
-/
namespace Atree.C06
open Atree Atree.Codec Atree.Gen

/-- For every valid element (all CBOR head widths, the three gap sizes 25 / 258 / 65539, slab
    references) the encoded length is the size the element reports. -/
theorem elem_size_eq_enc_len (e : Elem) (hv : validElem e) : (encodeElem e).length = e.size :=
  Codec.elem_size_eq_enc_len e hv

/-- Data slab: encoded length, plus 16 exactly when a non-root slab has no right sibling, equals the
    reported size plus the extra-data section.  (`hroot`: a root has no sibling, as in every tree.) -/
theorem enc_len_data (ty : TyInfo) (s : DataSlab)
    (hsize : s.hdr.size = s.prefixSize + sumSizes s.elems)
    (hinl : s.inlined = false)
    (hroot : s.root = true → s.next = SlabID.undef)
    (hv : ∀ e ∈ s.elems, validElem e) :
    (encodeDataSlab ty s).length + (if s.root = false ∧ s.next = SlabID.undef then 16 else 0)
      = s.hdr.size + (if s.root then (encodeExtraData ty).length else 0) :=
  Codec.enc_len_data ty s hsize hinl hroot hv

/-- Index slab: encoded length = reported size + extra-data section. -/
theorem enc_len_meta {α : Type} (ty : TyInfo) (m : MetaSlab α)
    (hsize : m.hdr.size = arrayMetaDataSlabPrefixSize + arraySlabHeaderSize * m.childHdrs.length) :
    (encodeMetaSlab ty m).length = m.hdr.size + (if m.root then (encodeExtraData ty).length else 0) :=
  Codec.enc_len_meta ty m hsize

/-- Large-value slab: encoded length = `ByteSize()` = 2 + size of the value. -/
theorem enc_len_storable (e : Elem) (hv : validElem e) :
    (encodeStorableSlab e).length = versionAndFlagSize + e.size :=
  Codec.enc_len_storable e hv

/-- The three kinds of the first part at once (`SlabOK`), in the form of the first oracle:
    `len(EncodeSlab(s)) + omittedNext(s) = s.ByteSize() + extraDataLen(s)`. -/
theorem enc_len_flat (s : Slab) (ok : SlabOK s)
    (hroot : ∀ ty d, s = .data ty d → d.root = true → d.next = SlabID.undef) :
    (encodeSlab s).length +
        (match s with
         | .data _ d => if d.root = false ∧ d.next = SlabID.undef then 16 else 0
         | _ => 0)
      = s.byteSize + s.extraDataLen := by
  cases s with
  | data ty d =>
    obtain ⟨hok, _⟩ := ok
    simp only [encodeSlab, Slab.byteSize, Slab.extraDataLen]
    exact Codec.enc_len_data _ d hok.size hok.notInlined (hroot ty d rfl) hok.elems
  | index ty m =>
    obtain ⟨hok, _⟩ := ok
    simp only [encodeSlab, Slab.byteSize, Slab.extraDataLen, Nat.add_zero]
    exact Codec.enc_len_meta _ m hok.size
  | storable id e =>
    simp only [encodeSlab, Slab.byteSize, Slab.extraDataLen, Nat.add_zero]
    exact Codec.enc_len_storable e ok
  | adata _ => exact ok.elim
  | mdata _ => exact ok.elim
  | mindex _ => exact ok.elim
  | storableG _ _ => exact ok.elim

/-- ALL SEVEN slab kinds at once, in the form of the oracle (and of the replayer's check on every
    `ENC` line): encoded length, plus the 16 bytes of an omitted sibling link, plus the bytes that
    compact-encoded inlined maps hoist into the shared section, equals `ByteSize()` plus the root's
    extra-data section plus the shared inlined-extra-data section.  `SlabOKG`: per kind the hypotheses
    of the kind-specific theorem (never `False`); `rootNoSibling`: a root has no sibling. -/
theorem enc_len (s : Slab) (ok : SlabOKG s) (hroot : s.rootNoSibling) :
    (encodeSlab s).length + s.omittedNext + s.hoisted = s.byteSize + s.extraDataLen :=
  enc_len_slab_all s ok hroot

/-- The three kinds of the first part: a slab decoded from its register reports the same size. -/
theorem decoded_size_eq_flat (s : Slab) (ok : SlabOK s) (n : Nat) :
    ∃ s' k, decodeSlab s.id (encodeSlab s) n = .ok s' k ∧ s'.byteSize = s.byteSize :=
  ⟨s, _, decodeSlab_encodeSlab s ok n, rfl⟩

/-- ALL SEVEN kinds: a slab decoded from its register reports the same size as the slab that produced
    the register — including the non-root data slab whose sibling link was omitted from the register
    and the slab whose compact children come back in their decoded form. -/
theorem decoded_size_eq (s : Slab) (ok : SlabOKG s) (n : Nat) :
    ∃ s' k, decodeSlab s.id (encodeSlab s) n = .ok s' k ∧ s'.byteSize = s.byteSize :=
  ⟨normSlab s, _, decodeSlab_encodeSlab_all s ok n, byteSize_normSlab s ok⟩

/-- The `uint16` casts of the encoders never truncate on slabs satisfying the tree invariant of C05:
    size and element count of a data slab stay below 65536 for every legal threshold. -/
theorem no_uint16_truncation (T : Nat) (hT : legalThreshold T = true) (top : Bool) (s : DataSlab)
    (h : DataInv T top s) : s.hdr.size < 65536 ∧ s.elems.length < 65536 := by
  have hmax := h.le_max
  have hT' : T ≤ 32768 := by
    unfold legalThreshold at hT
    simp only [Bool.and_eq_true, maxSlabSize] at hT
    exact of_decide_eq_true hT.2
  have hs : s.hdr.size < 65536 := by unfold maxThr at hmax; omega
  refine ⟨hs, ?_⟩
  have hl := Atree.length_le_sumSizes s.elems (fun e he => (h.elems_ok e he).1)
  have := h.size_eq
  omega

/-! ## Second part of the model: map slabs, inlined children, wrappers, compact maps

  Sizes of these kinds are functions of the content (`Stor.size`, `MEls.size`, `MapData.size`,
  `ArrData.size`, `MapMeta.size`: what the decoders compute); that the implementation's header
  fields hold these values is checked on every `ENC` line of the `codec` stream.  Hypotheses:
  `Stor.OK` / `MEls.OK` (plain values are values of the harness, one digest per element of an
  `hkeyElements`), `noCompact` (no inlined map is written in the compact form) resp. `nodupKeys`
  (the keys of a compact-encoded map are distinct).  `hroot`: a root has no sibling. -/

/-- A storable of any shape (wrapped, inlined array / map at any depth, collision groups) that holds
    no compact map: the bytes written in place are exactly its computed size. -/
theorem enc_len_stor (s : Stor) (xs : List XD) (ok : s.OK) (nc : s.noCompact) :
    (encSt s xs).1.length = s.size :=
  lenSt_eq s xs ok nc

/-- With compact maps (keys and digests hoisted into the shared section): at most the computed size. -/
theorem enc_len_stor_compact (s : Stor) (xs : List XD) (ok : s.OK) (nd : s.nodupKeys) :
    (encSt s xs).1.length ≤ s.size :=
  lenSt_le s xs ok nd

/-- `hkeyElements` / `singleElements` with inline and external collision groups. -/
theorem enc_len_elements (els : MEls) (xs : List XD) (ok : els.OK) (nc : els.noCompact) :
    (encMEls els xs).1.length = els.size :=
  lenMEls_eq els xs ok nc

/-- Map index slab: encoded length = computed size + extra-data section. -/
theorem enc_len_mindex (m : MapMeta) : (encodeMapMeta m).length = m.size + mapExtraLen m.extra :=
  Codec.enc_len_mindex m

/-- Map data slab (root / non-root / external collision group), inlined children allowed, no compact
    map: encoded length, plus 16 exactly when a non-root slab has no right sibling, equals the
    computed size plus the root's extra-data section plus the shared inlined-extra-data section. -/
theorem enc_len_mdata (s : MapData) (ok : s.els.OK) (nc : s.els.noCompact)
    (hroot : s.extra.isSome = true → s.next = SlabID.undef) :
    (encodeMapData s).length + (if s.extra.isNone ∧ s.next = SlabID.undef then 16 else 0)
      = s.size + mapExtraLen s.extra + (encodeIEDSection (encMEls s.els []).2).length :=
  Codec.enc_len_mdata s ok nc hroot

/-- The same with compact maps: the written bytes are at most what is reported (the hoisted keys and
    digests are in the shared section, which is accounted on the right-hand side). -/
theorem enc_len_mdata_compact (s : MapData) (ok : s.els.OK) (nd : s.els.nodupKeys)
    (hroot : s.extra.isSome = true → s.next = SlabID.undef) :
    (encodeMapData s).length + (if s.extra.isNone ∧ s.next = SlabID.undef then 16 else 0)
      ≤ s.size + mapExtraLen s.extra + (encodeIEDSection (encMEls s.els []).2).length :=
  Codec.enc_len_mdata_le s ok nd hroot

/-- Array data slab whose elements are general storables (wrapped values, inlined arrays / maps). -/
theorem enc_len_adata (a : ArrData) (ok : okSts a.elems) (nc : noCompactSts a.elems)
    (hroot : a.ty.isSome = true → a.next = SlabID.undef) :
    (encodeArrData a).length + (if a.ty.isNone ∧ a.next = SlabID.undef then 16 else 0)
      = a.size + (match a.ty with | some t => (encodeExtraData t).length | none => 0) +
          (encodeIEDSection (encSts a.elems []).2).length :=
  Codec.enc_len_adata a ok nc hroot

theorem enc_len_adata_compact (a : ArrData) (ok : okSts a.elems) (nd : nodupKeysSts a.elems)
    (hroot : a.ty.isSome = true → a.next = SlabID.undef) :
    (encodeArrData a).length + (if a.ty.isNone ∧ a.next = SlabID.undef then 16 else 0)
      ≤ a.size + (match a.ty with | some t => (encodeExtraData t).length | none => 0) +
          (encodeIEDSection (encSts a.elems []).2).length :=
  Codec.enc_len_adata_le a ok nd hroot

/-- Large-value slab holding a wrapped value. -/
theorem enc_len_storableG (s : Stor) (ok : s.OK) (nc : s.noCompact) :
    (encodeStorableSlabG s).length = versionAndFlagSize + s.size :=
  Codec.enc_len_storableG s ok nc

end Atree.C06

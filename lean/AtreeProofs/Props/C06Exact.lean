import AtreeProofs.Codec.EncLemmasG
/-
  C06 — Reported slab sizes equal the bytes actually written: the EXACT law with compact maps.

  `C06.enc_len_stor_compact` / `enc_len_mdata_compact` / `enc_len_adata_compact` only say
  `written ≤ reported` when an inlined map is written in the compact form: an encoder that drops
  values satisfies them.  Here the saving is an exact term, `hoisted`
  (AtreeModel/Codec/Limits.lean): per compact-encoded map the 8-byte `hkeyElements` head that is
  replaced by a plain array head of the values, and per key its digest (8 bytes), the single-element
  array head (1 byte) and the key itself; recursively for the values.

      written in place + hoisted = computed size

  Hypotheses as in C06.lean: `Stor.OK` / `MEls.OK` (plain values are values of the harness, one
  digest per element of an `hkeyElements`), `nodupKeys` (the keys of a compact-encoded map are
  distinct — the cached key order of the shared extra-data entry is then a permutation of the map's
  own, so every value is written exactly once).  `hroot`: a root has no sibling.
-/
namespace Atree.C06
open Atree Atree.Codec Atree.Gen

/-- A storable of any shape (wrapped, inlined array / map / compact map at any depth, collision
    groups): bytes written in place plus the bytes the compact form hoists = its computed size. -/
theorem enc_len_stor_exact (s : Stor) (xs : List XD) (ok : s.OK) (nd : s.nodupKeys) :
    (encSt s xs).1.length + s.hoisted = s.size :=
  lenSt_exact s xs ok nd

/-- `hkeyElements` / `singleElements` with inline and external collision groups, compact maps inside. -/
theorem enc_len_elements_exact (els : MEls) (xs : List XD) (ok : els.OK) (nd : els.nodupKeys) :
    (encMEls els xs).1.length + els.hoisted = els.size :=
  lenMEls_exact els xs ok nd

/-- Map data slab (root / non-root / external collision group), inlined children in any form: encoded
    length, plus 16 exactly when a non-root slab has no right sibling, plus the bytes hoisted by
    compact maps, equals the computed size plus the root's extra-data section plus the shared
    inlined-extra-data section. -/
theorem enc_len_mdata_exact (s : MapData) (ok : s.els.OK) (nd : s.els.nodupKeys)
    (hroot : s.extra.isSome = true → s.next = SlabID.undef) :
    (encodeMapData s).length + (if s.extra.isNone ∧ s.next = SlabID.undef then 16 else 0) + s.els.hoisted
      = s.size + mapExtraLen s.extra + (encodeIEDSection (encMEls s.els []).2).length :=
  Codec.enc_len_mdata_exact s ok nd hroot

/-- The same for an array data slab whose elements are general storables. -/
theorem enc_len_adata_exact (a : ArrData) (ok : okSts a.elems) (nd : nodupKeysSts a.elems)
    (hroot : a.ty.isSome = true → a.next = SlabID.undef) :
    (encodeArrData a).length + (if a.ty.isNone ∧ a.next = SlabID.undef then 16 else 0) + hoistedSts a.elems
      = a.size + (match a.ty with | some t => (encodeExtraData t).length | none => 0) +
          (encodeIEDSection (encSts a.elems []).2).length :=
  Codec.enc_len_adata_exact a ok nd hroot

/-- … and for a large-value slab (the Go encoder refuses a storable with an inlined slab there, so in
    every register it writes `hoisted = 0`; the byte-level statement holds regardless). -/
theorem enc_len_storableG_exact (s : Stor) (ok : s.OK) (nd : s.nodupKeys) :
    (encodeStorableSlabG s).length + s.hoisted = versionAndFlagSize + s.size :=
  Codec.enc_len_storableG_exact s ok nd

/-- Without compact maps nothing is hoisted (and `nodupKeys` holds), so the exact law contains the
    `noCompact` one (`enc_len_stor`, `enc_len_mdata`, `enc_len_adata`, `enc_len_storableG`). -/
theorem hoisted_zero_of_noCompact :
    (∀ (s : Stor), s.noCompact → s.hoisted = 0 ∧ s.nodupKeys) ∧
    (∀ (els : MEls), els.noCompact → els.hoisted = 0 ∧ els.nodupKeys) ∧
    (∀ (l : List Stor), noCompactSts l → hoistedSts l = 0 ∧ nodupKeysSts l) :=
  ⟨fun s nc => ⟨Stor.hoisted_noCompact s nc, Stor.nodupKeys_of_noCompact s nc⟩,
   fun els nc => ⟨MEls.hoisted_noCompact els nc, MEls.nodupKeys_of_noCompact els nc⟩,
   fun l nc => ⟨hoistedSts_noCompact l nc, nodupKeysSts_of_noCompact l nc⟩⟩

/-- the `noCompact` law as a corollary of the exact one -/
theorem enc_len_stor_of_exact (s : Stor) (xs : List XD) (ok : s.OK) (nc : s.noCompact) :
    (encSt s xs).1.length = s.size :=
  lenSt_eq s xs ok nc

/-- … and the `≤` law: the exact law is the stronger statement. -/
theorem enc_len_stor_le_of_exact (s : Stor) (xs : List XD) (ok : s.OK) (nd : s.nodupKeys) :
    (encSt s xs).1.length ≤ s.size :=
  lenSt_le s xs ok nd

/-! ### non-vacuity: two same-typed compact maps, the second with its keys in the other order -/

/-- a composite-typed inlined map with the two plain keys `(2,5)`, `(2,6)`; values: a plain value and
    a wrapped one -/
def exCompact1 : Stor :=
  .map { ty := .composite 7, count := 2, seed := 11 } 3
    (.hkey 0 [100, 200]
      [.single (.mk (.val 2 5) (.val 3 9)), .single (.mk (.val 2 6) (.some (.val 2 1)))])

/-- the same type and key set, keys in the other order (its values are written in the first map's
    cached key order) -/
def exCompact2 : Stor :=
  .map { ty := .composite 7, count := 2, seed := 12 } 4
    (.hkey 0 [300, 400]
      [.single (.mk (.val 2 6) (.val 4 70000)), .single (.mk (.val 2 5) (.val 2 3))])

/-- a root map data slab holding both as values -/
def exCompactSlab : MapData :=
  { id := ⟨1, 2⟩, next := SlabID.undef, extra := some { ty := .plain 1, count := 2, seed := 5 },
    els := .hkey 0 [10, 20] [.single (.mk (.val 2 1) exCompact1), .single (.mk (.val 2 2) exCompact2)],
    anySize := false, group := false }

theorem exCompact1_keys :
    compactKeys { ty := .composite 7, count := 2, seed := 11 }
      [.single (.mk (.val 2 5) (.val 3 9)), .single (.mk (.val 2 6) (.some (.val 2 1)))]
      = some [(2, 5), (2, 6)] := by decide

theorem exCompact2_keys :
    compactKeys { ty := .composite 7, count := 2, seed := 12 }
      [.single (.mk (.val 2 6) (.val 4 70000)), .single (.mk (.val 2 5) (.val 2 3))]
      = some [(2, 6), (2, 5)] := by decide

theorem exCompact1_nodup : exCompact1.nodupKeys := by
  refine ⟨?_, ⟨trivial, trivial⟩, ⟨trivial, trivial⟩, trivial⟩
  intro keys h
  rw [exCompact1_keys] at h
  cases h
  decide

theorem exCompact2_nodup : exCompact2.nodupKeys := by
  refine ⟨?_, ⟨trivial, trivial⟩, ⟨trivial, trivial⟩, trivial⟩
  intro keys h
  rw [exCompact2_keys] at h
  cases h
  decide

theorem exCompact1_ok : exCompact1.OK := by
  refine ⟨rfl, ⟨?_, ?_⟩, ⟨?_, ?_⟩, trivial⟩ <;> (simp only [Stor.OK]; decide)

theorem exCompact2_ok : exCompact2.OK := by
  refine ⟨rfl, ⟨?_, ?_⟩, ⟨?_, ?_⟩, trivial⟩ <;> (simp only [Stor.OK]; decide)

theorem exCompactSlab_ok : exCompactSlab.els.OK :=
  ⟨rfl, ⟨by simp only [Stor.OK]; decide, exCompact1_ok⟩, ⟨by simp only [Stor.OK]; decide, exCompact2_ok⟩, trivial⟩

theorem exCompactSlab_nodup : exCompactSlab.els.nodupKeys :=
  ⟨⟨trivial, exCompact1_nodup⟩, ⟨trivial, exCompact2_nodup⟩, trivial⟩

/-- the hypotheses of `enc_len_mdata_exact` are met by a slab with two compact maps sharing one
    extra-data entry, and the saving is not zero: 29 bytes per map (7 for the replaced head, 2 × 11
    for digests, element heads and keys) -/
theorem enc_len_mdata_exact_nonvacuous :
    exCompactSlab.els.OK ∧ exCompactSlab.els.nodupKeys ∧
    (exCompactSlab.extra.isSome = true → exCompactSlab.next = SlabID.undef) ∧
    exCompactSlab.els.hoisted = 58 ∧ exCompact1.hoisted = 29 ∧
    (encMEls exCompactSlab.els []).2.length = 1 :=
  ⟨exCompactSlab_ok, exCompactSlab_nodup, fun _ => rfl, by decide, by decide, by decide⟩

example : (encSt exCompact1 []).1.length + 29 = exCompact1.size := by
  have := enc_len_stor_exact exCompact1 [] exCompact1_ok exCompact1_nodup
  rw [enc_len_mdata_exact_nonvacuous.2.2.2.2.1] at this
  exact this

end Atree.C06

import AtreeModel.Codec.Encode
/-
  C06 — the size limit of the large-value slab (`StorableSlab`, storable_slab.go).

  `StorableSlab.ByteSize()` is `versionAndFlagSize + storable.ByteSize()`, a `uint32`.
  `NewStorableSlab` refuses a storable larger than `maxStorableSizeInStorableSlab` (settings.go):
  that constant has to be EXACTLY the largest size for which the sum still is a `uint32`, otherwise
  either a slab is created whose reported size wraps around (constant too large) or a storable whose
  slab could report its size truthfully is refused (constant too small).

  `Gen.maxStorableSizeInStorableSlab` and `Gen.versionAndFlagSize` are regenerated from the Go
  sources by harness/cmd/extract on every check run, so these theorems stop compiling when either
  changes inconsistently (e.g. to `maxStorableSizeInStorableSlab = math.MaxUint32`).
  The comparison operator of `NewStorableSlab` (`>`, not `>=`) is not a constant; it is
  checked against the real code by the directed program of the codec stream
  (harness/cmd/trace/codecstorslab.go: requests at limit-2 .. MaxUint32 through the `storableSize`
  argument, the limit computed by the harness as `MaxUint32 - versionAndFlagSize`).
-/
namespace Atree.C06
open Atree Atree.Codec Atree.Gen

/-- The limit is `MaxUint32` minus the 2-byte head every slab starts with. -/
theorem storable_slab_limit_eq :
    maxStorableSizeInStorableSlab = 2 ^ 32 - 1 - versionAndFlagSize := by decide

/-- A storable size is within the limit exactly when head + size fits a `uint32`: the limit is
    neither too large (wrap-around of the reported size) nor too small (needless refusal). -/
theorem storable_slab_size_fits_iff (n : Nat) :
    n ≤ maxStorableSizeInStorableSlab ↔ versionAndFlagSize + n < 2 ^ 32 := by
  have h := storable_slab_limit_eq
  have hv : versionAndFlagSize = 2 := by decide
  omega

/-- The size a `StorableSlab` within the limit reports as a `uint32` (`% 2^32`) is its size. -/
theorem storable_slab_byteSize_no_wrap (id : SlabID) (e : Elem)
    (h : e.size ≤ maxStorableSizeInStorableSlab) :
    (Slab.storable id e).byteSize % 2 ^ 32 = versionAndFlagSize + e.size := by
  have := (storable_slab_size_fits_iff e.size).mp h
  simp only [Slab.byteSize]
  exact Nat.mod_eq_of_lt this

/-- ... and so for the general form (wrapped values, references). -/
theorem storable_slab_byteSize_no_wrap_G (id : SlabID) (s : Stor)
    (h : s.size ≤ maxStorableSizeInStorableSlab) :
    (Slab.storableG id s).byteSize % 2 ^ 32 = versionAndFlagSize + s.size := by
  have := (storable_slab_size_fits_iff s.size).mp h
  simp only [Slab.byteSize]
  exact Nat.mod_eq_of_lt this

/-- Tightness / non-vacuity: the limit itself fits, one byte more does not. -/
theorem storable_slab_limit_tight :
    versionAndFlagSize + maxStorableSizeInStorableSlab < 2 ^ 32 ∧
    ¬ versionAndFlagSize + (maxStorableSizeInStorableSlab + 1) < 2 ^ 32 := by decide

end Atree.C06

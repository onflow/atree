import AtreeProofs.Codec.InlSlab
import AtreeProofs.Codec.SlabAll
/-
  C07 — Slab encoding is canonical, self-describing and round-trips exactly.
  PROPERTY THEOREMS about the byte-level model (`AtreeModel/Codec`).

  Round trip / re-encoding: standalone array data slabs (root / non-root, with or without sibling
  link), array index slabs and large-value slabs (`SlabOK`, `decode_encode_flat`), and — the
  general statements `decode_encode` / `reencode_fixpoint` — ALL SEVEN slab kinds under `SlabOKG`
  (Codec/SlabAll.lean: per kind the hypotheses of the kind-specific theorem below, for `.adata` /
  `.mdata` with the EXACT nesting clause `Slab.vdepth ≤ maxNestedLevels` — `MapDataOKX`, `ArrDataOKX`,
  `ArrDataOKWX`, implied by the `…OKC` / `…OKI` / `…OKW` / `MapDataOK` predicates below; never
  `False`; `SlabOK s → SlabOKG s`).  A client uses the general statements; the kind-specific ones at
  the weaker hypothesis levels are what they say there.  The hypotheses `DataOK` / `MetaOK` /
  `validElem` collect what the encoder relies on (field widths, `count = len(elements)`,
  `size = prefix + Σ sizes`, children share the parent's address, …); they follow from the tree
  invariant of C05 (`C06.no_uint16_truncation` for the two `uint16` casts).

  Header flags (`flags_truthful`): ALL slab kinds of the model, without hypothesis — array and map
  data / index slabs, collision-group slabs, large-value slabs, with inlined children and wrappers;
  "has pointers" means a slab reference anywhere inside an element (inside a wrapper, inside an
  inlined array or map at any depth, or an external collision group).
-/
namespace Atree.C07
open Atree Atree.Codec Atree.Gen

/-- Decoding the encoding of a data slab gives the slab back (with `make(n)` for its `n` elements). -/
theorem decode_encode_data (ty : TyInfo) (s : DataSlab) (ok : DataOK ty s) (n : Nat) :
    decodeSlab s.hdr.id (encodeDataSlab ty s) n
      = .ok (.data (if s.root then some ty else none) s) (n + s.elems.length) := by
  have := decodeSlab_encodeDataSlab ty s ok [] n
  simpa using this

/-- Decoding the encoding of an index slab gives the slab back. -/
theorem decode_encode_meta (ty : TyInfo) (m : MetaSlab Unit) (ok : MetaOK ty m) (n : Nat) :
    decodeSlab m.hdr.id (encodeMetaSlab ty m) n
      = .ok (.index (if m.root then some ty else none) m) (n + m.childHdrs.length + m.childHdrs.length) := by
  have := decodeSlab_encodeMetaSlab ty m ok [] n
  simpa using this

/-- Decoding the encoding of a large-value slab gives the slab back. -/
theorem decode_encode_storable (id : SlabID) (e : Elem) (hv : validElem e) (n : Nat) :
    decodeSlab id (encodeStorableSlab e) n = .ok (.storable id e) n := by
  have := decodeSlab_encodeStorableSlab id e hv [] n
  simpa using this

/-- Round trip for the three kinds of the first part (`SlabOK`). -/
theorem decode_encode_flat (s : Slab) (ok : SlabOK s) (n : Nat) :
    decodeSlab s.id (encodeSlab s) n = .ok s (n + s.decodeAllocs) :=
  decodeSlab_encodeSlab s ok n

/-- Round trip for ALL SEVEN slab kinds: decoding the register the encoder wrote gives the slab back
    — in its decoded form `normSlab s`, which is `s` itself unless an inlined map is written in the
    compact form (the documented exception: `normSlab_eq_of_noCompact`, `compact_child_shape`,
    `compact_child_extensional`); allocation count exact. -/
theorem decode_encode (s : Slab) (ok : SlabOKG s) (n : Nat) :
    decodeSlab s.id (encodeSlab s) n = .ok (normSlab s) (n + s.decodeAllocsG) :=
  decodeSlab_encodeSlab_all s ok n

/-- Re-encoding whatever the decoder returns for a register produced by the encoder yields the
    identical byte string: ALL SEVEN slab kinds, compact maps included. -/
theorem reencode_fixpoint (s : Slab) (ok : SlabOKG s) (n : Nat) (s' : Slab) (k : Nat)
    (h : decodeSlab s.id (encodeSlab s) n = .ok s' k) : encodeSlab s' = encodeSlab s := by
  rw [decodeSlab_encodeSlab_all s ok n] at h
  cases h
  exact encodeSlab_normSlab s ok

/-- is the slab the root of a value (does it carry extra data) -/
def isRoot : Slab → Bool
  | .data _ s => s.root
  | .index _ m => m.root
  | .storable _ _ => false
  | .adata a => a.ty.isSome
  | .mdata m => m.extra.isSome
  | .mindex m => m.extra.isSome
  | .storableG _ _ => false

/-- does some *element* of the slab refer to another slab (`SlabIDStorable`); an index slab has no
    elements — its children are named in child headers, and `ArrayMetaDataSlab.Encode` never sets
    the flag -/
def hasRefElem : Slab → Bool
  | .data _ s => s.elems.any elemIsRef
  | .index _ _ => false
  | .storable _ e => elemIsRef e
  -- the kinds of the second part: a reference anywhere inside an element — directly, inside a wrapper,
  -- inside an inlined array / map at any depth, or an external collision group (`Stor.hasPtr`)
  | .adata a => anyPtrSts a.elems
  | .mdata m => m.els.hasPtr
  | .mindex _ => false
  | .storableG _ s => s.hasPtr

/-- is the slab exempt from the size limit: a large-value slab, or — among the kinds of the second
    part — a map data slab flagged `anySize` (the slab of an external collision group) -/
def isStorable : Slab → Bool
  | .storable _ _ => true
  | .storableG _ _ => true
  | .mdata m => m.anySize
  | _ => false

/-- the three header queries read the two head bytes only -/
theorem flags_of_head {b0 b1 : Nat} {tail : Bytes} {r p l : Bool} (hr : SlabHead.isRoot ⟨b0, b1⟩ = r)
    (hp : SlabHead.hasPointers ⟨b0, b1⟩ = p) (hl : SlabHead.hasSizeLimit ⟨b0, b1⟩ = l) (n : Nat) :
    isRootOfAnObject (b0 :: b1 :: tail) n = .ok r n ∧ hasPointers (b0 :: b1 :: tail) n = .ok p n ∧
    hasSizeLimit (b0 :: b1 :: tail) n = .ok l n := by
  simp only [isRootOfAnObject, Codec.hasPointers, hasSizeLimit, headOf_cons2', DM.pure_bind, hr, hp, hl]
  exact ⟨rfl, rfl, rfl⟩

/-- The three header queries on the raw register describe the slab's content: root flag ⇔ the
    slab carries extra data, has-pointers ⇔ some element is a slab reference, size-limit ⇔ the slab
    is not a large-value slab.  (No hypothesis on the slab: only the two head bytes matter.) -/
theorem flags_truthful (s : Slab) (n : Nat) :
    isRootOfAnObject (encodeSlab s) n = .ok (isRoot s) n ∧
    hasPointers (encodeSlab s) n = .ok (hasRefElem s) n ∧
    hasSizeLimit (encodeSlab s) n = .ok (!isStorable s) n := by
  cases s with
  | data ty d =>
    have hf := head_data_facts (decide (d.next ≠ SlabID.undef)) (d.elems.any elemIsRef) d.root
    exact flags_of_head hf.2.2.2.1 hf.2.2.2.2.1 hf.2.2.2.2.2.1 n
  | index ty m =>
    have hf := head_meta_facts m.root
    exact flags_of_head hf.2.2.2.1 hf.2.2.2.2.1 hf.2.2.2.2.2 n
  | storable id e =>
    have hf := head_storable_facts (elemIsRef e)
    exact flags_of_head hf.2.1 hf.2.2.1 hf.2.2.2 n
  | adata a =>
    have hf := head_adata_facts (decide (a.next ≠ SlabID.undef)) (!(encSts a.elems []).2.isEmpty)
      (anyPtrSts a.elems) a.ty.isSome
    exact flags_of_head hf.2.2.2.1 hf.2.2.2.2.1 hf.2.2.2.2.2.1 n
  | mdata m =>
    have hf := head_mdata_facts (decide (m.next ≠ SlabID.undef)) (!(encMEls m.els []).2.isEmpty)
      m.group m.els.hasPtr m.anySize m.extra.isSome
    exact flags_of_head hf.2.2.2.1 hf.2.2.2.2.1 hf.2.2.2.2.2.1 n
  | mindex m =>
    have hf := head_mmeta_facts m.extra.isSome
    exact flags_of_head hf.2.2.2.1 hf.2.2.2.2.1 hf.2.2.2.2.2 n
  | storableG id x =>
    have hf := head_storable_facts x.hasPtr
    exact flags_of_head hf.2.1 hf.2.2.1 hf.2.2.2 n

/-- A version-1 data slab register with extra bytes after the elements is rejected
    ("Check if data reached EOF", array_data_slab_decode.go). -/
theorem decode_rejects_trailing (ty : TyInfo) (s : DataSlab) (ok : DataOK ty s) (extra : Bytes)
    (hex : extra ≠ []) (n : Nat) :
    decodeSlab s.hdr.id (encodeDataSlab ty s ++ extra) n = .error .decoding (n + s.elems.length) := by
  rw [decodeSlab_encodeDataSlab ty s ok extra n, if_pos hex]

/-- An index slab register with extra bytes after the child headers is rejected (length check). -/
theorem decode_rejects_trailing_meta (ty : TyInfo) (m : MetaSlab Unit) (ok : MetaOK ty m) (extra : Bytes)
    (hex : extra ≠ []) (n : Nat) :
    decodeSlab m.hdr.id (encodeMetaSlab ty m ++ extra) n = .error .decoding n := by
  rw [decodeSlab_encodeMetaSlab ty m ok extra n, if_pos hex]

/-- OBSERVATION (not a violation of the property, which is about registers the library produced):
    a large-value slab register followed by arbitrary extra bytes is ACCEPTED and decodes to the
    same slab — the `slabStorable` branch of `DecodeSlab` has no end-of-data check, so this kind
    has more than one accepted byte string per slab. -/
theorem storable_accepts_trailing (id : SlabID) (e : Elem) (hv : validElem e) (extra : Bytes) (n : Nat) :
    decodeSlab id (encodeStorableSlab e ++ extra) n = .ok (.storable id e) n :=
  decodeSlab_encodeStorableSlab id e hv extra n

/-! ## Second part of the model: map slabs

  `MapMetaOK` / `MapDataOK` collect what encoder and decoder rely on: slab IDs, digests, counts and
  seeds fit their fixed-width fields; sizes fit `uint32`; children of an index slab share its
  address; an `hkeyElements` has one digest per element and fewer than 8192 of them, a
  `singleElements` is not empty; digest levels are below 24 (Go refuses levels above
  `maxDigestLevel`); the nesting of collision groups and wrappers stays within the CBOR library's
  limit of 32 levels (`MEls.vneed`); plain values are values of the harness.
  `MapDataOK.noInl`: keys and values are plain values, slab references and wrapped ones; slabs with
  inlined arrays / maps follow in the next section. -/

/-- Decoding the encoding of a map index slab gives the slab back. -/
theorem decode_encode_mindex (m : MapMeta) (ok : MapMetaOK m) (n : Nat) :
    decodeSlab m.id (encodeMapMeta m) n = .ok (.mindex m) (n + m.childHdrs.length) := by
  have := decodeSlab_encodeMapMeta m ok [] n
  simpa using this

/-- A map index slab register with extra bytes after the child headers is rejected (length check). -/
theorem decode_rejects_trailing_mindex (m : MapMeta) (ok : MapMetaOK m) (extra : Bytes) (hex : extra ≠ [])
    (n : Nat) : decodeSlab m.id (encodeMapMeta m ++ extra) n = .error .decoding n := by
  rw [decodeSlab_encodeMapMeta m ok extra n, if_pos hex]

/-- Decoding the encoding of a map data slab — root, non-root with or without sibling link, or the
    slab of an external collision group; `hkeyElements` with single elements, inline collision
    groups (nested), references to external collision groups; last-level `singleElements`; keys and
    values plain, slab references or wrapped — gives the slab back. -/
theorem decode_encode_mdata (s : MapData) (ok : MapDataOK s) (n : Nat) :
    decodeSlab s.id (encodeMapData s) n = .ok (.mdata s) (n + s.els.allocs) := by
  have := decodeSlab_encodeMapData s ok [] n
  simpa using this

/-- Re-encoding whatever the decoder returns for a register of a map slab yields the identical bytes. -/
theorem reencode_fixpoint_mdata (s : MapData) (ok : MapDataOK s) (n : Nat) (s' : Slab) (k : Nat)
    (h : decodeSlab s.id (encodeMapData s) n = .ok s' k) : encodeSlab s' = encodeMapData s := by
  rw [decode_encode_mdata s ok n] at h
  cases h
  rfl

theorem reencode_fixpoint_mindex (m : MapMeta) (ok : MapMetaOK m) (n : Nat) (s' : Slab) (k : Nat)
    (h : decodeSlab m.id (encodeMapMeta m) n = .ok s' k) : encodeSlab s' = encodeMapMeta m := by
  rw [decode_encode_mindex m ok n] at h
  cases h
  rfl

/-- A slab decoded from its register reports the same size as the slab that produced the register —
    including the non-root map data slab whose sibling link was omitted from the register (C06). -/
theorem decoded_size_eq_mdata (s : MapData) (ok : MapDataOK s) (n : Nat) :
    ∃ s' k, decodeSlab s.id (encodeMapData s) n = .ok s' k ∧ s'.byteSize = s.size :=
  ⟨_, _, decode_encode_mdata s ok n, rfl⟩

/-- OBSERVATION (not a violation of the property, which is about registers the library produced):
    a map data slab register followed by arbitrary extra bytes is ACCEPTED and decodes to the same
    slab — unlike the array data slab decoder ("Check if data reached EOF"), `newMapDataSlabFromDataV1`
    has no end-of-data check, so this kind has more than one accepted byte string per slab. -/
theorem mdata_accepts_trailing (s : MapData) (ok : MapDataOK s) (extra : Bytes) (n : Nat) :
    decodeSlab s.id (encodeMapData s ++ extra) n = .ok (.mdata s) (n + s.els.allocs) :=
  decodeSlab_encodeMapData s ok extra n

/-! ## Second part of the model: inlined arrays and maps, the shared inlined-extra-data section

  `MapDataOKI` / `ArrDataOKI`: as above, with `Stor.RTI` instead of `Stor.RT` (inlined slabs: valid
  type infos, slab indexes, counts, seeds; sizes fit `uint32`; element counts fit the fixed-width
  heads), `noCompact` (no inlined map is written in the compact form), at most 256 entries in the
  shared section (the extra-data index is one byte; Go refuses more), nesting within the CBOR
  library's limit (`vneedI`).  Inlined arrays and maps nest to any depth, inside wrappers, inside
  collision groups, as keys or values; array extra data is shared between same-typed children and a
  type info that occurs in more than one entry is written once and referred to by
  `CBORTagTypeInfoRef` — `newInlinedExtraDataFromData_enc` is the round trip of that section.
  The decoder is handed the complete entry list while the encoder assigned indexes to a growing
  list; `decStG_encI` relates the two. -/

/-- Decoding the encoding of a map data slab with inlined arrays / maps gives the slab back. -/
theorem decode_encode_mdata_inlined (s : MapData) (ok : MapDataOKI s) (n : Nat) :
    decodeSlab s.id (encodeMapData s) n
      = .ok (.mdata s) (n + iedAllocs (encMEls s.els []).2 + s.els.allocsI) := by
  have := decodeSlab_encodeMapDataI s ok [] n
  simpa using this

/-- Decoding the encoding of an array data slab with inlined arrays / maps gives the slab back. -/
theorem decode_encode_adata_inlined (a : ArrData) (ok : ArrDataOKI a) (n : Nat) :
    decodeSlab a.id (encodeArrData a) n
      = .ok (.adata a) (n + iedAllocs (encSts a.elems []).2 + a.elems.length + allocsISts a.elems) := by
  have := decodeSlab_encodeArrDataI a ok [] n
  simpa using this

/-- … and one with wrapped elements but no inlined slab (the has-inlined-slabs flag is clear). -/
theorem decode_encode_adata_wrapped (a : ArrData) (ok : ArrDataOKW a) (n : Nat) :
    decodeSlab a.id (encodeArrData a) n = .ok (.adata a) (n + a.elems.length + allocsISts a.elems) := by
  have := decodeSlab_encodeArrDataW a ok [] n
  simpa using this

/-- A large-value slab holding a wrapped value. -/
theorem decode_encode_storable_wrapped (id : SlabID) (x : Stor) (hrt : x.RT) (hni : x.noInl)
    (hnest : x.vneed + 1 ≤ maxNestedLevels) (n : Nat) :
    decodeSlab id (encodeStorableSlabG (.some x)) n = .ok (.storableG id (.some x)) n := by
  have := decodeSlab_encodeStorableSlabG id x hrt hni hnest [] n
  simpa using this

/-- An array data slab register with inlined children followed by extra bytes is rejected. -/
theorem decode_rejects_trailing_adata_inlined (a : ArrData) (ok : ArrDataOKI a) (extra : Bytes)
    (hex : extra ≠ []) (n : Nat) :
    decodeSlab a.id (encodeArrData a ++ extra) n
      = .error .decoding (n + iedAllocs (encSts a.elems []).2 + a.elems.length + allocsISts a.elems) := by
  rw [decodeSlab_encodeArrDataI a ok extra n, if_pos hex]

/-- Re-encoding whatever the decoder returns for a register of a slab with inlined children yields
    the identical byte string. -/
theorem reencode_fixpoint_mdata_inlined (s : MapData) (ok : MapDataOKI s) (n : Nat) (s' : Slab) (k : Nat)
    (h : decodeSlab s.id (encodeMapData s) n = .ok s' k) : encodeSlab s' = encodeMapData s := by
  rw [decode_encode_mdata_inlined s ok n] at h
  cases h
  rfl

theorem reencode_fixpoint_adata_inlined (a : ArrData) (ok : ArrDataOKI a) (n : Nat) (s' : Slab) (k : Nat)
    (h : decodeSlab a.id (encodeArrData a) n = .ok s' k) : encodeSlab s' = encodeArrData a := by
  rw [decode_encode_adata_inlined a ok n] at h
  cases h
  rfl

/-- The shared inlined-extra-data section round-trips: array and map extra data in first-use order,
    duplicated type infos written once and referred to by `CBORTagTypeInfoRef`. -/
theorem decode_encode_inlined_extra_data (xs : List XD) (hx : XOK xs) (hne : xs ≠ []) (hlen : xs.length ≤ 256)
    (rest : Bytes) (n : Nat) :
    newInlinedExtraDataFromData (encodeIED xs ++ rest) n
      = .ok (xs, rest) (n + (findDuplicateTypeInfo xs).length + xs.length) :=
  newInlinedExtraDataFromData_enc xs hx hne hlen rest n

/-- Both non-compact round trips, as one statement ("partial": without the compact form of inlined
    maps).  `decode_encode_mdata_compact` / `decode_encode_adata_compact` below subsume it
    (`normMEls_noCompact` / `normSts_noCompact`); their result for compact maps is the documented
    exception: shared seed, digests and key order. -/
theorem decode_encode_inlined_partial :
    (∀ (s : MapData), MapDataOKI s → ∀ n, decodeSlab s.id (encodeMapData s) n
        = .ok (.mdata s) (n + iedAllocs (encMEls s.els []).2 + s.els.allocsI)) ∧
    (∀ (a : ArrData), ArrDataOKI a → ∀ n, decodeSlab a.id (encodeArrData a) n
        = .ok (.adata a) (n + iedAllocs (encSts a.elems []).2 + a.elems.length + allocsISts a.elems)) :=
  ⟨decode_encode_mdata_inlined, decode_encode_adata_inlined⟩

/-! ### the compact form of inlined maps (tag 252) — the documented exception

  An inlined map of a composite type whose elements are all single elements with plain keys is
  written as `[extra-data index, slab index, [values …]]`.  Keys, digests, count, seed and type info
  live in ONE extra-data entry per (type, key set), created by the first such map the encoder meets
  (`addCompactXD`); later maps of the group write their values in the FIRST map's key order
  (`encFind`).  `DecodeSlab` therefore does not give the encoded value back: every map of a group
  comes back with the first map's key order, digests and seed (the count and the type are equal
  anyway), and with level 0.  `normSt s xs` (Codec/CmpDefs.lean) is that decoded value as a function
  of the value `s` and the encoder's extra-data state `xs` before `s`; `normSts` / `normMEls` thread
  the state through element lists.  Without compact maps it is the identity (`norm_id_of_noCompact`);
  it never changes sizes (`decoded_size_eq_compact`); `compact_child_shape` says what a compact child
  looks like after decoding.

  `MapDataOKC` / `ArrDataOKC`: `MapDataOKI` / `ArrDataOKI` with `nodupKeys` (the keys of every
  compact-eligible map are distinct — the library's maps have distinct keys) instead of `noCompact`.
  So these two theorems cover EVERY shape of inlined child, at any depth, in any mixture. -/

/-- Decoding the encoding of a map data / collision-group slab whose elements contain inlined slabs
    in any form (inlined arrays, inlined maps, compact maps) gives the slab with its elements as
    `normMEls` describes them; allocation count exact. -/
theorem decode_encode_mdata_compact (s : MapData) (ok : MapDataOKC s) (n : Nat) :
    decodeSlab s.id (encodeMapData s) n
      = .ok (.mdata { s with els := normMEls s.els [] })
          (n + iedAllocsC (encMEls s.els []).2 + (normMEls s.els []).allocsI) := by
  have := decodeSlab_encodeMapDataC s ok [] n
  simpa using this

/-- The same for an array data slab. -/
theorem decode_encode_adata_compact (a : ArrData) (ok : ArrDataOKC a) (n : Nat) :
    decodeSlab a.id (encodeArrData a) n
      = .ok (.adata { a with elems := normSts a.elems [] })
          (n + iedAllocsC (encSts a.elems []).2 + a.elems.length + allocsISts (normSts a.elems [])) := by
  have := decodeSlab_encodeArrDataC a ok [] n
  simpa using this

/-- … and followed by extra bytes it is rejected. -/
theorem decode_rejects_trailing_adata_compact (a : ArrData) (ok : ArrDataOKC a) (extra : Bytes)
    (hex : extra ≠ []) (n : Nat) :
    decodeSlab a.id (encodeArrData a ++ extra) n
      = .error .decoding (n + iedAllocsC (encSts a.elems []).2 + a.elems.length + allocsISts (normSts a.elems [])) := by
  rw [decodeSlab_encodeArrDataC a ok extra n, if_pos hex]

/-- Without compact maps the decoded value is the encoded value (so the two theorems above contain
    `decode_encode_mdata_inlined` / `decode_encode_adata_inlined`). -/
theorem norm_id_of_noCompact :
    (∀ (els : MEls) (xs : List XD), els.noCompact → normMEls els xs = els) ∧
    (∀ (l : List Stor) (xs : List XD), noCompactSts l → normSts l xs = l) :=
  ⟨normMEls_noCompact, normSts_noCompact⟩

/-- Decoding never changes sizes: the decoded elements have the byte sizes of the encoded ones (so
    the slab's computed size, its split / merge decisions and its header size fields are unaffected
    by the exception). -/
theorem decoded_size_eq_compact :
    (∀ (els : MEls) (xs : List XD), els.nodupKeys → (normMEls els xs).size = els.size) ∧
    (∀ (l : List Stor) (xs : List XD), nodupKeysSts l → sizeSts (normSts l xs) = sizeSts l) :=
  ⟨size_normMEls, sizeSts_norm⟩

/-- What a compact child looks like after decoding: the slab index is its own; type and count are its
    own; seed and digests are those of the shared entry (`x'`, `hk'`); the elements are single
    elements, one per cached key — a permutation of its own keys — each holding the decoded form of
    the value it stored under that key; the level is 0. -/
theorem compact_child_shape (x : MapExtra) (idx level : Nat) (hkeys : List Nat) (elems : List MEl)
    (keys : List (Nat × Nat)) (xs : List XD) (hx : XOKC xs) (h : (Stor.map x idx (.hkey level hkeys elems)).RTI)
    (hc : compactKeys x elems = some keys) :
    ∃ (x' : MapExtra) (hk' : List Nat) (cached : List (Nat × Nat)) (st : List XD),
      normSt (.map x idx (.hkey level hkeys elems)) xs = .map x' idx (.hkey 0 hk' (normVals elems cached st)) ∧
      cached.Perm keys ∧ x'.ty = x.ty ∧ x'.count = x.count ∧ hk'.length = cached.length := by
  have hv := cmap_validC h.1 h.2.2.1 hc
  obtain ⟨_, hxa, x', hk', hget⟩ := addCompactXD_specC xs x hkeys keys hx hv
  have hperm := addCompactXD_perm xs x hkeys keys
  have hent : (XD.cmap x' hk' (addCompactXD xs x hkeys keys).2.1).validC := hxa _ (List.mem_of_getElem? hget)
  refine ⟨x', hk', (addCompactXD xs x hkeys keys).2.1, (addCompactXD xs x hkeys keys).2.2, ?_, hperm,
    addCompactXD_entry_ty xs x hkeys keys hx hv hget, ?_, hent.2.1⟩
  · rw [normSt_compact hc, hget]
  · have h1 := hent.2.2.2.2.2.2
    have h2 := hv.2.2.2.2.2.2
    have := hperm.length_eq
    omega

/-- The shared inlined-extra-data section with compact-map entries round-trips. -/
theorem decode_encode_inlined_extra_data_compact (xs : List XD) (hx : XOKC xs) (hne : xs ≠ [])
    (hlen : xs.length ≤ 256) (rest : Bytes) (n : Nat) :
    newInlinedExtraDataFromData (encodeIED xs ++ rest) n
      = .ok (xs, rest) (n + (findDuplicateTypeInfo xs).length + xs.length + (xs.map xdAllocs).sum) :=
  newInlinedExtraDataFromData_encC xs hx hne hlen rest n

/-- Re-encoding whatever the decoder returns for the register of a slab with inlined children in any
    form, compact maps included, yields the identical byte string: although a decoded compact child
    differs from the encoded one (seed, digests, key order, level), it encodes to the same bytes and
    asks for the same shared extra-data entries in the same order. -/
theorem reencode_fixpoint_mdata_compact (s : MapData) (ok : MapDataOKC s) (n : Nat) (s' : Slab) (k : Nat)
    (h : decodeSlab s.id (encodeMapData s) n = .ok s' k) : encodeSlab s' = encodeMapData s := by
  rw [decode_encode_mdata_compact s ok n] at h
  cases h
  exact encodeMapData_norm s ok

theorem reencode_fixpoint_adata_compact (a : ArrData) (ok : ArrDataOKC a) (n : Nat) (s' : Slab) (k : Nat)
    (h : decodeSlab a.id (encodeArrData a) n = .ok s' k) : encodeSlab s' = encodeArrData a := by
  rw [decode_encode_adata_compact a ok n] at h
  cases h
  exact encodeArrData_norm a ok

/-- The element level of the same fact: the decoded form of a storable encodes, from the same
    extra-data state, to the same bytes and leaves the same state. -/
theorem reencode_decoded_storable (s : Stor) (xs : List XD) (h : s.RTI) (nd : s.nodupKeys) (hx : XOKC xs) :
    encSt (normSt s xs) xs = encSt s xs :=
  encSt_norm s xs h nd hx

/-- The has-pointers flag of the decoded elements is that of the encoded ones. -/
theorem decoded_hasPtr_eq_compact :
    (∀ (els : MEls) (xs : List XD), els.nodupKeys → (normMEls els xs).hasPtr = els.hasPtr) ∧
    (∀ (l : List Stor) (xs : List XD), nodupKeysSts l → anyPtrSts (normSts l xs) = anyPtrSts l) :=
  ⟨hasPtr_normMEls, anyPtrSts_norm⟩

end Atree.C07

import AtreeProofs.Codec.VDepthSlab
import AtreeProofs.Props.C07
/-
  C07 — the nesting limit of the CBOR validator, EXACTLY.

  The round-trip theorems of C07 for slabs with inlined children carry a nesting hypothesis; those of
  Props/C07.lean (`MapDataOKC.nest`, `ArrDataOKC.nest`, …) phrase it with `vneedI`, which charges 3 levels per
  inlined array and 5 per inlined map where the library's validator needs 2 and 4.  Here the hypothesis
  is `Slab.vdepth ≤ maxNestedLevels` (`Slab.vdepth`: AtreeModel/Codec/Limits.lean — one level per
  definite-length array, one per tag number that DIRECTLY follows a tag number), it is implied by the
  `vneedI` one, and it is TIGHT: with every other hypothesis in place a register whose `vdepth` exceeds the
  limit does not decode (`decode_rejects_too_deep_*`), so the register decodes iff `vdepth ≤ 32`
  (`decodes_iff_depth_*`).

  `maxNestedLevels` is the model constant 32 = `MaxNestedLevels` of the default `cbor.DecOptions{}` the
  library and the harness decode with; that the storage's `DecMode` has this limit is an ASSUMPTION
  ABOUT THE CALLER (a `DecMode` with a larger limit accepts deeper registers; the validator model
  `wfRun` is stated for the constant, not generalised over the limit).

  Consequence, observed on the real library as well: 16 nested inlined arrays / 8 nested inlined maps
  are encoded (and commit) but do not reload — `nesting_bound_tight_*`.
-/
namespace Atree.C07
open Atree Atree.Codec Atree.Gen

/-- The validator accepts what the element encoders write EXACTLY up to the depth `vd`: started at an
    item frame of depth `d` (within the limit) it accepts the bytes iff `d + vd ≤ 32`, where for a
    storable `vd` depends on whether the item directly follows a tag number. -/
theorem validator_exact :
    (∀ (s : Stor) (xs : List XD), s.RTI → s.nodupKeys → ExX (encSt s xs).1 s.vd) ∧
    (∀ (els : MEls) (xs : List XD), els.RTI → els.nodupKeys → ExX (encMEls els xs).1 (fun _ => els.vd)) ∧
    (∀ (e : MEl) (xs : List XD), e.RTI → e.nodupKeys → ExF (encMEl e xs).1 e.vd) ∧
    (∀ (e : SEl) (xs : List XD), e.RTI → e.nodupKeys → ExX (encSEl e xs).1 (fun _ => e.vd)) ∧
    (∀ (l : List Stor), rtiSts l → nodupKeysSts l → l.length < 65536 →
      ExX (arrayHead16 l.length ++ (encSts l []).1) (fun _ => vdSts l + 1)) :=
  ⟨exStX, exMElsX, exMElX, exSElX, exX_arrElements⟩

/-- As the next top-level item of a stream decoder (`prepareNext`): validated iff `vd false ≤ 32`. -/
theorem validates_iff_depth (s : Stor) (xs : List XD) (h : s.RTI) (nd : s.nodupKeys) (rest : Bytes) :
    wfNext ((encSt s xs).1 ++ rest) = some rest ↔ s.vd false ≤ maxNestedLevels :=
  wfNext_exX_iff (exStX s xs h nd) rest

/-- The exact depth never exceeds the over-approximation `vneedI`, so every theorem stated with `vneedI`
    follows from its `vdepth` version. -/
theorem vdepth_le_vneed :
    (∀ (s : Stor) (t : Bool), s.vd t ≤ s.vneedI) ∧ (∀ (els : MEls), els.vd ≤ els.vneedI) ∧
    (∀ (l : List Stor), vdSts l ≤ vneedISts l) ∧
    (∀ (s : MapData), s.els.vneedI ≤ maxNestedLevels → (Slab.mdata s).vdepth ≤ maxNestedLevels) ∧
    (∀ (a : ArrData), vneedISts a.elems + 1 ≤ maxNestedLevels → (Slab.adata a).vdepth ≤ maxNestedLevels) := by
  refine ⟨Stor.vd_le_vneedI, MEls.vd_le_vneedI, vdSts_le_vneedI, ?_, ?_⟩
  · intro s h
    exact (vdepth_mdata_le_iff s (by decide)).2 (Nat.le_trans (MEls.vd_le_vneedI s.els) h)
  · intro a h
    exact (vdepth_adata_le_iff a (by decide)).2 (by have := vdSts_le_vneedI a.elems; omega)

/-- the `vneedI` hypotheses imply the `vdepth` ones -/
theorem okc_implies_okx : (∀ s, MapDataOKC s → MapDataOKX s) ∧ (∀ a, ArrDataOKC a → ArrDataOKX a) :=
  ⟨fun _ ok => ok.toX, fun _ ok => ok.toX⟩

/-- … also those of the theorems for slabs without the compact form (`noCompact` implies `nodupKeys`) -/
theorem oki_implies_okx : (∀ s, MapDataOKI s → MapDataOKX s) ∧ (∀ a, ArrDataOKI a → ArrDataOKX a) :=
  ⟨fun _ ok => ok.toX, fun _ ok => ok.toX⟩

/-- The validator depth also pays for the depth of the harness's `decodeStorable` recursion (limit
    `maxDecodeDepth = 64`): no separate hypothesis is needed for it. -/
theorem decode_depth_le_vdepth :
    (∀ (s : Stor), s.dneed ≤ s.vd true ∧ s.vd true ≤ s.vd false + 1) ∧
    (∀ (els : MEls), els.dneed ≤ els.vd) ∧ (∀ (l : List Stor), dneedSts l ≤ vdSts l + 1) :=
  ⟨fun s => ⟨Stor.dneed_le_vd s, Stor.vd_true_le s⟩, MEls.dneed_le_vd, dneedSts_le_vd⟩

/-- Decoding the encoding of a map data / collision-group slab whose elements contain inlined slabs
    in any form gives the slab with its elements as `normMEls` describes them, provided the validator
    depth of the register is within the limit. -/
theorem decode_encode_mdata_exact (s : MapData) (ok : MapDataOKX s) (n : Nat) :
    decodeSlab s.id (encodeMapData s) n
      = .ok (.mdata { s with els := normMEls s.els [] })
          (n + iedAllocsC (encMEls s.els []).2 + (normMEls s.els []).allocsI) := by
  have := decodeSlab_encodeMapDataX s ok [] n
  simpa using this

/-- The same for an array data slab. -/
theorem decode_encode_adata_exact (a : ArrData) (ok : ArrDataOKX a) (n : Nat) :
    decodeSlab a.id (encodeArrData a) n
      = .ok (.adata { a with elems := normSts a.elems [] })
          (n + iedAllocsC (encSts a.elems []).2 + a.elems.length + allocsISts (normSts a.elems [])) := by
  have := decodeSlab_encodeArrDataX a ok [] n
  simpa using this

/-- Without compact maps the slab itself comes back (the exact-bound version of
    `decode_encode_mdata_inlined` / `decode_encode_adata_inlined`). -/
theorem decode_encode_mdata_inlined_exact (s : MapData) (ok : MapDataOKX s) (nc : s.els.noCompact) (n : Nat) :
    decodeSlab s.id (encodeMapData s) n
      = .ok (.mdata s) (n + iedAllocsC (encMEls s.els []).2 + s.els.allocsI) := by
  have := decode_encode_mdata_exact s ok n
  rw [normMEls_noCompact s.els [] nc] at this
  exact this

theorem decode_encode_adata_inlined_exact (a : ArrData) (ok : ArrDataOKX a) (nc : noCompactSts a.elems) (n : Nat) :
    decodeSlab a.id (encodeArrData a) n
      = .ok (.adata a) (n + iedAllocsC (encSts a.elems []).2 + a.elems.length + allocsISts a.elems) := by
  have := decode_encode_adata_exact a ok n
  rw [normSts_noCompact a.elems [] nc] at this
  exact this

/-- … and followed by extra bytes it is rejected. -/
theorem decode_rejects_trailing_adata_exact (a : ArrData) (ok : ArrDataOKX a) (extra : Bytes)
    (hex : extra ≠ []) (n : Nat) :
    decodeSlab a.id (encodeArrData a ++ extra) n
      = .error .decoding (n + iedAllocsC (encSts a.elems []).2 + a.elems.length + allocsISts (normSts a.elems [])) := by
  rw [decodeSlab_encodeArrDataX a ok extra n, if_pos hex]

/-- Re-encoding whatever the decoder returns for the register yields the identical byte string. -/
theorem reencode_fixpoint_mdata_exact (s : MapData) (ok : MapDataOKX s) (n : Nat) (s' : Slab) (k : Nat)
    (h : decodeSlab s.id (encodeMapData s) n = .ok s' k) : encodeSlab s' = encodeMapData s := by
  rw [decode_encode_mdata_exact s ok n] at h
  cases h
  exact encodeMapData_normX s ok.pre

theorem reencode_fixpoint_adata_exact (a : ArrData) (ok : ArrDataOKX a) (n : Nat) (s' : Slab) (k : Nat)
    (h : decodeSlab a.id (encodeArrData a) n = .ok s' k) : encodeSlab s' = encodeArrData a := by
  rw [decode_encode_adata_exact a ok n] at h
  cases h
  exact encodeArrData_normX a ok.pre

/-- A map data slab that meets every hypothesis of `decode_encode_mdata_exact` except the nesting bound
    does NOT decode: after the extra-data sections (hence the allocation count) the validation of the
    elements item fails. -/
theorem decode_rejects_too_deep_mdata (s : MapData) (pre : MapDataPre s)
    (h : maxNestedLevels < (Slab.mdata s).vdepth) (n : Nat) :
    decodeSlab s.id (encodeMapData s) n = .error .decoding (n + iedAllocsC (encMEls s.els []).2) := by
  have := decodeSlab_encodeMapData_tooDeep s pre h [] n
  simpa using this

theorem decode_rejects_too_deep_adata (a : ArrData) (pre : ArrDataPre a)
    (h : maxNestedLevels < (Slab.adata a).vdepth) (n : Nat) :
    decodeSlab a.id (encodeArrData a) n = .error .decoding (n + iedAllocsC (encSts a.elems []).2) := by
  have := decodeSlab_encodeArrData_tooDeep a pre h [] n
  simpa using this

theorem decode_rejects_too_deep_mdata_exists (s : MapData) (pre : MapDataPre s)
    (h : maxNestedLevels < (Slab.mdata s).vdepth) (n : Nat) :
    ∃ e k, decodeSlab s.id (encodeMapData s) n = .error e k :=
  ⟨_, _, decode_rejects_too_deep_mdata s pre h n⟩

theorem decode_rejects_too_deep_adata_exists (a : ArrData) (pre : ArrDataPre a)
    (h : maxNestedLevels < (Slab.adata a).vdepth) (n : Nat) :
    ∃ e k, decodeSlab a.id (encodeArrData a) n = .error e k :=
  ⟨_, _, decode_rejects_too_deep_adata a pre h n⟩

/-- The register of a map data slab decodes IFF its validator depth is within the limit. -/
theorem decodes_iff_depth_mdata (s : MapData) (pre : MapDataPre s) (n : Nat) :
    (∃ s' k, decodeSlab s.id (encodeMapData s) n = .ok s' k) ↔ (Slab.mdata s).vdepth ≤ maxNestedLevels := by
  constructor
  · rintro ⟨s', k, hd⟩
    by_cases hc : (Slab.mdata s).vdepth ≤ maxNestedLevels
    · exact hc
    · rw [decode_rejects_too_deep_mdata s pre (by omega) n] at hd; cases hd
  · intro hc
    exact ⟨_, _, decode_encode_mdata_exact s ⟨pre.rt, pre.nodup, hc, pre.entries, pre.next, pre.extra, pre.size⟩ n⟩

theorem decodes_iff_depth_adata (a : ArrData) (pre : ArrDataPre a) (n : Nat) :
    (∃ s' k, decodeSlab a.id (encodeArrData a) n = .ok s' k) ↔ (Slab.adata a).vdepth ≤ maxNestedLevels := by
  constructor
  · rintro ⟨s', k, hd⟩
    by_cases hc : (Slab.adata a).vdepth ≤ maxNestedLevels
    · exact hc
    · rw [decode_rejects_too_deep_adata a pre (by omega) n] at hd; cases hd
  · intro hc
    exact ⟨_, _, decode_encode_adata_exact a
      ⟨pre.rt, pre.nodup, hc, pre.count, pre.inlined, pre.entries, pre.next, pre.ty, pre.size⟩ n⟩

/-! The concrete families (non-vacuity of both directions).

  `arrNest k`: `k` inlined arrays inside one another around a plain value; `mapNest k`: `k` inlined maps
  inside one another (plain type, so never the compact form).  On the real library 16 nested arrays /
  8 nested maps commit and do not reload. -/

def arrNest : Nat → List Stor
  | 0 => [.val 2 7]
  | k + 1 => [.arr (.plain 1) (k + 2) (arrNest k)]

def mapNest : Nat → MEls
  | 0 => .hkey 0 [5] [.single (.mk (.val 2 1) (.val 2 7))]
  | k + 1 => .hkey 0 [5] [.single (.mk (.val 2 1) (.map ⟨.plain 1, 1, 9⟩ (k + 2) (mapNest k)))]

/-- a root array data slab holding `arrNest k` -/
def ad (k : Nat) : ArrData := { id := ⟨1, 1⟩, next := SlabID.undef, ty := some (.plain 1), elems := arrNest k }
/-- a root map data slab holding `mapNest k` -/
def md (k : Nat) : MapData :=
  { id := ⟨1, 1⟩, next := SlabID.undef, extra := some ⟨.plain 1, 1, 9⟩, els := mapNest k, anySize := false, group := false }

theorem length_arrNest : ∀ k, (arrNest k).length = 1
  | 0 => rfl
  | _ + 1 => rfl

theorem vdSts_arrNest : ∀ k, vdSts (arrNest k) = 2 * k
  | 0 => by decide
  | k + 1 => by simp only [arrNest, vdSts, Stor.vd, vdSts_arrNest k]; simp; omega

theorem vneedISts_arrNest : ∀ k, vneedISts (arrNest k) = 1 + 3 * k
  | 0 => by decide
  | k + 1 => by simp only [arrNest, vneedISts, Stor.vneedI, vneedISts_arrNest k]; omega

theorem sizeSts_arrNest : ∀ k, sizeSts (arrNest k) = 2 + 17 * k
  | 0 => by decide
  | k + 1 => by
    simp only [arrNest, sizeSts, Stor.size, sizeSts_arrNest k, inlinedArrayDataSlabPrefixSize]; omega

theorem validElem_2_7 : validElem { size := 2, pay := .val 7 } := by decide
theorem validElem_2_1 : validElem { size := 2, pay := .val 1 } := by decide

theorem rtiSts_arrNest : ∀ k, k < 2 ^ 20 → rtiSts (arrNest k)
  | 0, _ => ⟨validElem_2_7, trivial⟩
  | k + 1, hk => by
    refine ⟨⟨?_, ?_, ?_, rtiSts_arrNest k (by omega), ?_⟩, trivial⟩
    · show (1 : Nat) < 2 ^ 64; decide
    · omega
    · rw [length_arrNest]; decide
    · rw [sizeSts_arrNest]; simp only [inlinedArrayDataSlabPrefixSize, maxUint32]; omega

theorem nodupKeysSts_arrNest : ∀ k, nodupKeysSts (arrNest k)
  | 0 => ⟨trivial, trivial⟩
  | k + 1 => ⟨nodupKeysSts_arrNest k, trivial⟩

theorem addArrayXD_plain1 : addArrayXD [.arr (.plain 1)] (.plain 1) = (0, [.arr (.plain 1)]) := by decide

theorem encSts_arrNest_state : ∀ k, (encSts (arrNest k) [.arr (.plain 1)]).2 = [.arr (.plain 1)]
  | 0 => rfl
  | k + 1 => by
    simp only [arrNest, encSts, encSt, addArrayXD_plain1]
    exact encSts_arrNest_state k

theorem encSts_arrNest_xs (k : Nat) : (encSts (arrNest (k + 1)) []).2 = [.arr (.plain 1)] := by
  have h0 : addArrayXD [] (.plain 1) = (0, [.arr (.plain 1)]) := by decide
  simp only [arrNest, encSts, encSt, h0]
  exact encSts_arrNest_state k

theorem arrDataPre_ad (k : Nat) (hk : k + 1 < 2 ^ 20) : ArrDataPre (ad (k + 1)) where
  rt := rtiSts_arrNest (k + 1) hk
  nodup := nodupKeysSts_arrNest (k + 1)
  count := by show (arrNest (k + 1)).length < 65536; rw [length_arrNest]; decide
  inlined := by show (encSts (arrNest (k + 1)) []).2 ≠ []; rw [encSts_arrNest_xs]; simp
  entries := by show (encSts (arrNest (k + 1)) []).2.length ≤ 256; rw [encSts_arrNest_xs]; decide
  next := by show (SlabID.undef.addr < 2 ^ 64 ∧ SlabID.undef.idx < 2 ^ 64); decide
  ty := by intro t ht; cases ht; show (1 : Nat) < 2 ^ 64; decide
  size := by
    show (ad (k + 1)).size ≤ maxUint32
    simp only [ArrData.size, ad, Option.isSome_some, ↓reduceIte, sizeSts_arrNest, arrayRootDataSlabPrefixSize, maxUint32]
    omega

theorem vdepth_ad_le_iff (k : Nat) : (Slab.adata (ad k)).vdepth ≤ maxNestedLevels ↔ k ≤ 15 := by
  rw [vdepth_adata_le_iff (ad k) (by decide)]
  show vdSts (arrNest k) + 1 ≤ maxNestedLevels ↔ k ≤ 15
  rw [vdSts_arrNest]; simp only [maxNestedLevels]; omega

/-- `k = 0`: no inlined child at all — the register is that of a plain data slab (first part of the model) -/
def ad0Flat : DataSlab :=
  { hdr := ⟨⟨1, 1⟩, arrayRootDataSlabPrefixSize + 2, 1⟩, next := SlabID.undef, elems := [⟨2, .val 7⟩], root := true,
    inlined := false }

theorem encode_ad0 : encodeArrData (ad 0) = encodeDataSlab (.plain 1) ad0Flat := by decide

theorem ad0_decodes (n : Nat) : ∃ s' m, decodeSlab (ad 0).id (encodeArrData (ad 0)) n = .ok s' m := by
  rw [encode_ad0]
  refine ⟨_, _, decode_encode_data (.plain 1) ad0Flat ?_ n⟩
  refine ⟨?_, by decide, rfl, rfl, by decide, by decide,
    (by show (SlabID.undef.addr < 2 ^ 64 ∧ SlabID.undef.idx < 2 ^ 64); decide),
    fun _ => (by show (1 : Nat) < 2 ^ 64; decide)⟩
  intro e he
  simp only [ad0Flat, List.mem_cons, List.not_mem_nil, or_false] at he
  subst he; exact validElem_2_7

/-- the element array of `ad k` needs exactly `2 k + 1` levels — directly by induction on `k`, for EVERY `k`
    (the general theorem asks for sizes within `uint32`, which the validator does not look at) -/
theorem exX_arrNest : ∀ (k : Nat) (xs : List XD),
    ExX (arrayHead16 (arrNest k).length ++ (encSts (arrNest k) xs).1) (fun _ => 2 * k + 1)
  | 0, xs => by
    have hleaf := (exX_encodeVal 2 7 validElem_2_7).toF
    have := ExX.array16 (l := [((encodeElem { size := 2, pay := .val 7 }), 0)]) (N := 0) (by decide)
      (by intro p hp; simp only [List.mem_cons, List.not_mem_nil, or_false] at hp; subst hp; exact hleaf.cast rfl (by decide))
      ⟨by intro p hp; simp only [List.mem_cons, List.not_mem_nil, or_false] at hp; subst hp; exact Nat.le_refl _,
       fun _ => Or.inl rfl⟩
    exact this.cast (by simp [arrNest, encSts, encSt]) (fun _ => rfl)
  | k + 1, xs => by
    have ih := exX_arrNest k (addArrayXD xs (.plain 1)).2
    have hin := (exX_inlined CBORTagInlinedArray (addArrayXD xs (.plain 1)).1 (k + 2) ih.toF).toF
    have := ExX.array16
      (l := [(inlinedHead CBORTagInlinedArray (addArrayXD xs (.plain 1)).1 ++ encodeIdx (k + 2) ++
              (arrayHead16 (arrNest k).length ++ (encSts (arrNest k) (addArrayXD xs (.plain 1)).2).1), 2 * k + 1 + 1)])
      (N := 2 * k + 1 + 1) (by simp)
      (by intro p hp; simp only [List.mem_cons, List.not_mem_nil, or_false] at hp; subst hp
          exact hin.cast rfl (by simp))
      ⟨by intro p hp; simp only [List.mem_cons, List.not_mem_nil, or_false] at hp; subst hp; exact Nat.le_refl _,
       fun _ => Or.inr ⟨_, List.mem_cons_self .., rfl⟩⟩
    exact this.cast (by simp [arrNest, encSts, encSt, List.append_assoc]) (fun _ => by omega)

/-- 16 or more nested arrays — ANY number: the register is rejected -/
theorem ad_rejected (k : Nat) (hk : 16 ≤ k) (n : Nat) :
    decodeSlab (ad k).id (encodeArrData (ad k)) n = .error .decoding (n + 1) := by
  obtain ⟨j, rfl⟩ : ∃ j, k = j + 1 := ⟨k - 1, by omega⟩
  have hx : (encSts (ad (j + 1)).elems []).2 = [.arr (.plain 1)] := encSts_arrNest_xs j
  have hxok : XOKC (encSts (ad (j + 1)).elems []).2 := by
    rw [hx]; exact XOKC.single (by show (1 : Nat) < 2 ^ 64; decide)
  have hw := wfNext_none_of_exX (exX_arrNest (j + 1) []) (by simp only [maxNestedLevels]; omega) []
  have hred := decodeSlab_encodeArrData_red_of_xok (ad (j + 1)) hxok (by rw [hx]; simp) (by rw [hx]; decide)
    (by show (SlabID.undef.addr < 2 ^ 64 ∧ SlabID.undef.idx < 2 ^ 64); decide)
    (by intro t ht; cases ht; show (1 : Nat) < 2 ^ 64; decide) [] n
  simp only [List.append_nil] at hred hw
  rw [hred, hx]
  exact arrDataContentG_rej _ _ _ _ _ _ _ (by simp [arrayDataSlabElementHeadSize, length_arrayHead16]) hw _

/-- `k` nested inlined arrays, for EVERY `k`: the register decodes iff `k ≤ 15` (the library commits 16 and
    fails to reload them). -/
theorem nesting_bound_tight_arrays (k : Nat) (n : Nat) :
    (∃ s' m, decodeSlab (ad k).id (encodeArrData (ad k)) n = .ok s' m) ↔ k ≤ 15 := by
  by_cases hk : k ≤ 15
  · refine ⟨fun _ => hk, fun _ => ?_⟩
    cases k with
    | zero => exact ad0_decodes n
    | succ j =>
      exact (decodes_iff_depth_adata (ad (j + 1)) (arrDataPre_ad j (by omega)) n).2 ((vdepth_ad_le_iff (j + 1)).2 hk)
  · refine ⟨fun ⟨s', m, hd⟩ => ?_, fun h => absurd h hk⟩
    rw [ad_rejected k (by omega) n] at hd; cases hd

/-- `arrNest 15` meets the exact hypotheses … -/
theorem arrDataOKX_ad15 : ArrDataOKX (ad 15) :=
  have pre := arrDataPre_ad 14 (by decide)
  ⟨pre.rt, pre.nodup, (vdepth_ad_le_iff 15).2 (by decide), pre.count, pre.inlined, pre.entries, pre.next, pre.ty, pre.size⟩

/-- … but NOT the `vneedI` ones (`vneedISts (arrNest 15) + 1 = 47`): it is outside `decode_encode_adata_compact`. -/
theorem not_arrDataOKC_ad15 : ¬ ArrDataOKC (ad 15) := by
  intro ok
  have := ok.nest
  have h : vneedISts (ad 15).elems = 1 + 3 * 15 := vneedISts_arrNest 15
  rw [h] at this
  simp only [maxNestedLevels] at this
  omega

/-- 16 nested arrays: every other hypothesis holds, the register is rejected -/
theorem ad16_rejected (n : Nat) :
    decodeSlab (ad 16).id (encodeArrData (ad 16)) n = .error .decoding (n + 1) :=
  ad_rejected 16 (Nat.le_refl 16) n

theorem compactKeys_plain (c s : Nat) (es : List MEl) : compactKeys ⟨.plain 1, c, s⟩ es = none := by
  simp [compactKeys, TyInfo.isComposite]

theorem vd_mapNest : ∀ k, (mapNest k).vd = 3 + 4 * k
  | 0 => by decide
  | k + 1 => by
    simp only [mapNest, MEls.vd, vdMElList, MEl.vd, SEl.vd, Stor.vd]
    have h := vd_mapNest k
    cases hk : mapNest k with
    | hkey l hs es =>
      rw [hk] at h
      simp only [Stor.vd, compactKeys_plain]
      simp [h]; omega
    | single l es =>
      rw [hk] at h
      simp only [Stor.vd]
      simp [h]; omega

theorem vneedI_mapNest : ∀ k, (mapNest k).vneedI = 4 + 5 * k
  | 0 => by decide
  | k + 1 => by
    simp only [mapNest, MEls.vneedI, vneedIMElList, MEl.vneedI, SEl.vneedI, Stor.vneedI, vneedI_mapNest k]
    omega

theorem size_mapNest : ∀ k, (mapNest k).size = 21 + 33 * k
  | 0 => by decide
  | k + 1 => by
    simp only [mapNest, MEls.size, sizeMEl, MEl.size, SEl.size, Stor.size, size_mapNest k, hkeyElementsPrefixSize,
      digestSize, singleElementPrefixSize, inlinedMapDataSlabPrefixSize]
    omega

theorem rti_mapNest : ∀ k, k < 2 ^ 20 → (mapNest k).RTI
  | 0, _ => by
    refine ⟨by decide, rfl, by decide, by decide, ⟨⟨validElem_2_1, validElem_2_7, by decide⟩, trivial⟩, by decide⟩
  | k + 1, hk => by
    have ih := rti_mapNest k (by omega)
    have hs := size_mapNest k
    refine ⟨by decide, rfl, by simp, by decide, ⟨⟨validElem_2_1, ⟨⟨?_, ?_, ?_⟩, ?_, ih, ?_⟩, ?_⟩, trivial⟩, ?_⟩
    · show (1 : Nat) < 2 ^ 64; decide
    · show (1 : Nat) < 2 ^ 64; decide
    · show (9 : Nat) < 2 ^ 64; decide
    · omega
    · rw [hs]; simp only [inlinedMapDataSlabPrefixSize, maxUint32]; omega
    · simp only [Stor.size, hs, singleElementPrefixSize, inlinedMapDataSlabPrefixSize, maxUint32]; omega
    · simp only [sizeMEl, MEl.size, SEl.size, Stor.size, hs, hkeyElementsPrefixSize, digestSize,
        singleElementPrefixSize, inlinedMapDataSlabPrefixSize, maxUint32]; omega

theorem nodupKeys_mapNest : ∀ k, (mapNest k).nodupKeys
  | 0 => ⟨⟨trivial, trivial⟩, trivial⟩
  | k + 1 => by
    have ih := nodupKeys_mapNest k
    refine ⟨⟨trivial, ?_⟩, trivial⟩
    cases hk : mapNest k with
    | hkey l hs es =>
      rw [hk] at ih
      exact ⟨fun keys hc => (by rw [compactKeys_plain] at hc; cases hc), ih⟩
    | single l es =>
      rw [hk] at ih
      exact ih

theorem encMEls_mapNest_len : ∀ k (xs : List XD), (encMEls (mapNest k) xs).2.length = xs.length + k
  | 0, xs => rfl
  | k + 1, xs => by
    have ih := encMEls_mapNest_len k (addMapXD xs ⟨.plain 1, 1, 9⟩).2
    cases hk : mapNest k with
    | hkey l hs es =>
      rw [hk] at ih
      simp only [mapNest, hk, encMEls, encMElList, encMEl, encSEl, encSt, compactKeys_plain] at ih ⊢
      rw [ih]; simp [addMapXD]; omega
    | single l es =>
      rw [hk] at ih
      simp only [mapNest, hk, encMEls, encMElList, encMEl, encSEl, encSt] at ih ⊢
      rw [ih]; simp [addMapXD]; omega

theorem mapDataPre_md (k : Nat) (hk : k ≤ 256) : MapDataPre (md k) where
  rt := rti_mapNest k (by omega)
  nodup := nodupKeys_mapNest k
  entries := by show (encMEls (mapNest k) []).2.length ≤ 256; rw [encMEls_mapNest_len]; simpa using hk
  next := by show (SlabID.undef.addr < 2 ^ 64 ∧ SlabID.undef.idx < 2 ^ 64); decide
  extra := by
    intro x hx; cases hx
    exact ⟨by show (1 : Nat) < 2 ^ 64; decide, by decide, by decide⟩
  size := by
    show (md k).size ≤ maxUint32
    simp only [MapData.size, md, Option.isSome_some, ↓reduceIte, size_mapNest, versionAndFlagSize, maxUint32]
    omega

theorem vdepth_md_le_iff (k : Nat) : (Slab.mdata (md k)).vdepth ≤ maxNestedLevels ↔ k ≤ 7 := by
  rw [vdepth_mdata_le_iff (md k) (by decide)]
  show (mapNest k).vd ≤ maxNestedLevels ↔ k ≤ 7
  rw [vd_mapNest]; simp only [maxNestedLevels]; omega

/-- `k` nested inlined maps: the register decodes iff `k ≤ 7` (the library commits 8 and fails to reload
    them).  For every `k` the encoder accepts (`k ≤ 256`: one extra-data entry per inlined map, and the
    extra-data index is one byte). -/
theorem nesting_bound_tight_maps (k : Nat) (hk : k ≤ 256) (n : Nat) :
    (∃ s' m, decodeSlab (md k).id (encodeMapData (md k)) n = .ok s' m) ↔ k ≤ 7 := by
  rw [decodes_iff_depth_mdata (md k) (mapDataPre_md k hk) n, vdepth_md_le_iff]

/-- `mapNest 7` meets the exact hypotheses … -/
theorem mapDataOKX_md7 : MapDataOKX (md 7) :=
  have pre := mapDataPre_md 7 (by decide)
  ⟨pre.rt, pre.nodup, (vdepth_md_le_iff 7).2 (by decide), pre.entries, pre.next, pre.extra, pre.size⟩

/-- … but NOT the `vneedI` ones (`(mapNest 7).vneedI = 39`): it is outside `decode_encode_mdata_compact`. -/
theorem not_mapDataOKC_md7 : ¬ MapDataOKC (md 7) := by
  intro ok
  have := ok.nest
  have h : (md 7).els.vneedI = 4 + 5 * 7 := vneedI_mapNest 7
  rw [h] at this
  simp only [maxNestedLevels] at this
  omega

/-- 8 nested maps: every other hypothesis holds, the register is rejected -/
theorem md8_rejected (n : Nat) : ∃ e m, decodeSlab (md 8).id (encodeMapData (md 8)) n = .error e m :=
  decode_rejects_too_deep_mdata_exists (md 8) (mapDataPre_md 8 (by decide))
    (by have := (vdepth_md_le_iff 8); omega) n

end Atree.C07

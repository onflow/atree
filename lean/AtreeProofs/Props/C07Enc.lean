import AtreeProofs.Codec.SlabAll
/-
  C06 / C07 — the error exits of `EncodeSlab`.

  `encodeSlab` (AtreeModel/Codec/Encode.lean) is total: where the Go encoder returns an error its
  bytes are unspecified.  `encodeSlabE` (AtreeModel/Codec/Limits.lean) is `EncodeSlab` with its
  three error exits — an extra-data index above `maxInlinedExtraDataIndex`, a digest level above
  `maxDigestLevel`, a large-value slab whose storable contains an inlined slab.  The trace replayer
  requires `encodeSlabE` to succeed with the implementation's bytes on every `ENC` line and to fail
  with the implementation's error kind on every `ENCERR` line, so "Go errors ⇔ model errors" is tied
  on every slab of the `codec` stream, including the directed programs with 257+ inlined children
  in one slab (T = 8192 / 32768) and with a 9-level digester.
-/
namespace Atree.C07
open Atree Atree.Codec Atree.Gen

/-- When the model's encoder succeeds its bytes are those of `encodeSlab` (the function all the
    round-trip and length theorems are about). -/
theorem encodeSlabE_eq (s : Slab) (b : Bytes) (h : encodeSlabE s = .ok b) : b = encodeSlab s := by
  unfold encodeSlabE at h
  split at h
  · cases h
  · split at h
    · cases h
    · split at h
      · split at h
        · cases h
        · cases h; rfl
      · cases h; rfl

/-- The encoder succeeds exactly when every digest level it looks at is within `maxDigestLevel`, the
    shared inlined-extra-data section has at most 256 entries (indexes 0..255 fit one byte) and a
    large-value slab has none. -/
theorem encodeSlabE_ok_iff (s : Slab) :
    (∃ b, encodeSlabE s = .ok b) ↔
      (s.levelsOK = true ∧ s.xdCount ≤ maxInlinedExtraDataIndex + 1 ∧
        (∀ id x, s = .storableG id x → s.xdCount = 0)) := by
  unfold encodeSlabE
  constructor
  · rintro ⟨b, h⟩
    split at h
    · cases h
    · rename_i hl
      split at h
      · cases h
      · rename_i hx
        refine ⟨by simpa using hl, by omega, ?_⟩
        intro id x hs
        subst hs
        simp only at h
        split at h
        · cases h
        · omega
  · rintro ⟨hl, hx, hs⟩
    rw [if_neg (by simp [hl]), if_neg (by omega)]
    cases s with
    | storableG id x =>
      have := hs id x rfl
      simp only
      rw [if_neg (by omega)]
      exact ⟨_, rfl⟩
    | data _ _ => exact ⟨_, rfl⟩
    | index _ _ => exact ⟨_, rfl⟩
    | storable _ _ => exact ⟨_, rfl⟩
    | adata _ => exact ⟨_, rfl⟩
    | mdata _ => exact ⟨_, rfl⟩
    | mindex _ => exact ⟨_, rfl⟩

/-- More than 256 entries: the encoder refuses (it never writes a truncated index). -/
theorem encodeSlabE_refuses_257 (s : Slab) (h : maxInlinedExtraDataIndex + 1 < s.xdCount) :
    ∀ b, encodeSlabE s ≠ .ok b := by
  intro b hb
  have := (encodeSlabE_ok_iff s).1 ⟨b, hb⟩
  omega

/-- Under the hypotheses of the general theorems (`SlabOKG`) the only error exit left is the digest
    level: `SlabOKG` bounds levels by 24 (what the one-byte head can hold), the Go encoder by
    `maxDigestLevel = 8`. -/
theorem encodeSlabE_of_slabOKG (s : Slab) (ok : SlabOKG s) (hl : s.levelsOK = true) :
    encodeSlabE s = .ok (encodeSlab s) := by
  have hex : ∃ b, encodeSlabE s = .ok b := by
    rw [encodeSlabE_ok_iff]
    refine ⟨hl, ?_, ?_⟩
    · cases s with
      | data _ _ => simp [Slab.xdCount]
      | index _ _ => simp [Slab.xdCount]
      | storable _ _ => simp [Slab.xdCount]
      | mindex _ => simp [Slab.xdCount]
      | mdata m =>
        have h : MapDataOKX m := ok
        simpa [Slab.xdCount, maxInlinedExtraDataIndex] using h.entries
      | adata a =>
        have h : ArrDataOKX a ∨ ArrDataOKWX a := ok
        rcases h with h | h
        · simpa [Slab.xdCount, maxInlinedExtraDataIndex] using h.entries
        · simp [Slab.xdCount, encSts_noInl a.elems [] h.noInl]
      | storableG id x =>
        have h : x.RT ∧ x.noInl ∧ x.isFlat = false ∧ x.vneed ≤ maxNestedLevels := ok
        simp [Slab.xdCount, encSt_noInl x [] h.2.1]
    · intro id x hs
      subst hs
      have h : x.RT ∧ x.noInl ∧ x.isFlat = false ∧ x.vneed ≤ maxNestedLevels := ok
      simp [Slab.xdCount, encSt_noInl x [] h.2.1]
  obtain ⟨b, hb⟩ := hex
  rw [hb, encodeSlabE_eq s b hb]

end Atree.C07

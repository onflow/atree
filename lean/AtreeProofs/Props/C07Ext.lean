import AtreeProofs.Props.C06Exact
import AtreeProofs.Codec.CmpExt
/-
  C07 — the compact-map exception, extensionally.

  `C07.compact_child_shape` describes the decoded compact child through `normVals elems cached st`,
  whose entries are found by a totalised lookup (`normFind`, default `.val 0 0`): read alone it does
  not exclude a decoder that loses or invents values.  `compact_child_extensional` states what the
  decoded child IS in terms of the encoded one: same slab index, type and count; the same number of
  elements; the same key set, each key once (in the shared entry's order, a permutation of its own);
  under every key the decoded form of the value the original stored under THAT key, and nothing
  else; a value that holds no compact map itself comes back unchanged — so a compact child whose
  values hold no compact maps comes back as a permutation of its own elements.
-/
namespace Atree.C07
open Atree Atree.Codec Atree.Gen

/-- The decoded compact child, extensionally (hypotheses of `compact_child_shape` plus distinct keys).
    `st` in the third clause is the encoder's extra-data state at the moment it wrote the value: an
    extension of `xs` by valid entries (`StateOKC xs st`); `normSt v st` is the decoded form of `v`
    (`v` itself when `v` holds no compact map, fourth clause). -/
theorem compact_child_extensional (x : MapExtra) (idx level : Nat) (hkeys : List Nat) (elems : List MEl)
    (keys : List (Nat × Nat)) (xs : List XD) (hx : XOKC xs)
    (h : (Stor.map x idx (.hkey level hkeys elems)).RTI)
    (nd : (Stor.map x idx (.hkey level hkeys elems)).nodupKeys)
    (hc : compactKeys x elems = some keys) :
    ∃ (x' : MapExtra) (hk' : List Nat) (es' : List MEl),
      normSt (.map x idx (.hkey level hkeys elems)) xs = .map x' idx (.hkey 0 hk' es') ∧
      x'.ty = x.ty ∧ x'.count = x.count ∧ hk'.length = es'.length ∧
      -- same number of elements; same key set, each key once
      es'.length = elems.length ∧
      (∃ keys', es'.mapM compactKey = some keys' ∧ keys'.Perm keys ∧ keys'.Nodup) ∧
      -- under every key the decoded form of the value stored under it …
      (∀ s p v, MEl.single (.mk (.val s p) v) ∈ elems →
          ∃ st, StateOKC xs st ∧ MEl.single (.mk (.val s p) (normSt v st)) ∈ es') ∧
      -- … and nothing else
      (∀ e ∈ es', ∃ s p v st,
          e = MEl.single (.mk (.val s p) (normSt v st)) ∧ MEl.single (.mk (.val s p) v) ∈ elems) ∧
      -- values without compact maps inside come back unchanged
      (∀ s p v, MEl.single (.mk (.val s p) v) ∈ elems → v.noCompact → MEl.single (.mk (.val s p) v) ∈ es') ∧
      ((∀ s p v, MEl.single (.mk (.val s p) v) ∈ elems → v.noCompact) → es'.Perm elems) := by
  have hv := cmap_validC h.1 h.2.2.1 hc
  have hes : rtiMElList elems := h.2.2.1.2.2.2.2.1
  obtain ⟨ha, hxa, x', hk', hget⟩ := addCompactXD_specC xs x hkeys keys hx hv
  have hperm := addCompactXD_perm xs x hkeys keys
  have hent : (XD.cmap x' hk' (addCompactXD xs x hkeys keys).2.1).validC := hxa _ (List.mem_of_getElem? hget)
  have hm := compactKeys_mapM hc
  have hnd : keys.Nodup := nd.1 keys hc
  obtain ⟨hlen, ⟨hkeys', hnodup⟩, hfwd, hbwd, hpermEl⟩ :=
    normVals_extensional elems keys (addCompactXD xs x hkeys keys).2.1 (addCompactXD xs x hkeys keys).2.2 hm hnd hperm
  refine ⟨x', hk', normVals elems (addCompactXD xs x hkeys keys).2.1 (addCompactXD xs x hkeys keys).2.2, ?_,
    addCompactXD_entry_ty xs x hkeys keys hx hv hget, ?_, ?_, hlen, ⟨_, hkeys', hperm, hnodup⟩, ?_, hbwd, ?_, hpermEl⟩
  · rw [normSt_compact hc, hget]
  · have h1 := hent.2.2.2.2.2.2
    have h2 := hv.2.2.2.2.2.2
    have := hperm.length_eq
    omega
  · rw [length_normVals]; exact hent.2.1
  · intro s p v hin
    obtain ⟨pre, post, _, hmem⟩ := hfwd s p v hin
    exact ⟨_, StateOKC.trans ⟨ha, hxa⟩ ((encVals_appends elems hes pre _).stateC hxa), hmem⟩
  · intro s p v hin hnc
    obtain ⟨pre, post, _, hmem⟩ := hfwd s p v hin
    rw [normSt_noCompact v _ hnc] at hmem
    exact hmem

/-! ### non-vacuity: the second of two same-typed compact maps comes back in the first one's key order -/

open Atree.C06 in
/-- the encoder's state after the first map `exCompact1` (keys `(2,5)`, `(2,6)`): one shared entry -/
theorem ex_state : (encSt exCompact1 []).2
    = [.cmap { ty := .composite 7, count := 2, seed := 11 } [100, 200] [(2, 5), (2, 6)]] := by decide

open Atree.C06 in
/-- `exCompact2` stores `(2,6) ↦ val 4 70000`, `(2,5) ↦ val 2 3` with seed 12 and digests `[300,400]`;
    decoded after `exCompact1` it has the first map's seed, digests and key ORDER, and under each key
    its own value -/
theorem ex_decoded : normSt exCompact2 (encSt exCompact1 []).2
    = .map { ty := .composite 7, count := 2, seed := 11 } 4
        (.hkey 0 [100, 200] [.single (.mk (.val 2 5) (.val 2 3)), .single (.mk (.val 2 6) (.val 4 70000))]) := by
  rw [ex_state]; rfl

open Atree.C06 in
/-- the hypotheses of `compact_child_extensional` hold for that second map in that state -/
theorem compact_child_extensional_nonvacuous :
    XOKC (encSt exCompact1 []).2 ∧ exCompact2.RTI ∧ exCompact2.nodupKeys ∧
    compactKeys { ty := .composite 7, count := 2, seed := 12 }
      [.single (.mk (.val 2 6) (.val 4 70000)), .single (.mk (.val 2 5) (.val 2 3))] = some [(2, 6), (2, 5)] := by
  refine ⟨?_, ?_, exCompact2_nodup, exCompact2_keys⟩
  · rw [ex_state]
    intro y hy
    simp only [List.mem_cons, List.not_mem_nil, or_false] at hy
    subst hy
    simp only [XD.validC, validMapExtra, validTy]
    decide
  · simp only [exCompact2, Stor.RTI, MEls.RTI, rtiMElList, MEl.RTI, SEl.RTI, validMapExtra, validTy, sizeMEl,
      MEl.size, SEl.size, Stor.size, MEls.size]
    decide

end Atree.C07

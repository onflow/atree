import AtreeProofs.Codec.HypB
import AtreeProofs.Props.C06
import AtreeProofs.Props.C07
import AtreeProofs.Props.SlabAllDepth
/-
  C07 (and the C06 statements that share its hypotheses) — the hypotheses of the codec theorems are
  EVALUATED by the trace replayer on every slab the implementation encodes
  (`Codec.Slab.hypReport`, `AtreeModel/Codec/Hyp.lean`).  This file says what a passed check means:

  * `hyp_sound_…`: each Bool checker implies (indeed, is equivalent to) the Prop-valued hypothesis
    of the corresponding theorem of `Props/C07.lean` / `Props/C07Depth.lean`;
  * `hyp_sound`: if every REQUIRED clause of `hypReport` holds (`Slab.hypOK`), the slab satisfies
    `SlabOKG` (Codec/SlabAll.lean), THE hypothesis of the general theorems `C07.decode_encode`,
    `C07.reencode_fixpoint`, `C06.enc_len`, `C06.decoded_size_eq` — for array / map data slabs with the
    EXACT nesting clause `Slab.vdepth ≤ maxNestedLevels` (entry `nest-exact`) — and conversely
    (`hyp_complete`): `hypOK_iff`;
  * `hyp_roundtrip`: so on such a slab the model decoder accepts the model encoder's bytes, the decoded
    slab re-encodes to the same bytes and reports the same size (an instance of the general theorems).
-/
namespace Atree.C07
open Atree Atree.Codec Atree.Gen

/-- the check on a map data slab passed ⇒ it is in the domain of `decode_encode_mdata_compact` -/
theorem hyp_sound_mdata (m : MapData) : mapDataOKCB m = true → MapDataOKC m := (mapDataOKCB_iff m).1
/-- … of `decode_encode_adata_compact` -/
theorem hyp_sound_adata (a : ArrData) : arrDataOKCB a = true → ArrDataOKC a := (arrDataOKCB_iff a).1
/-- … of `decode_encode_adata_wrapped` -/
theorem hyp_sound_adata_wrapped (a : ArrData) : arrDataOKWB a = true → ArrDataOKW a := (arrDataOKWB_iff a).1
/-- … of `decode_encode_mdata_inlined` -/
theorem hyp_sound_mdata_inlined (m : MapData) : mapDataOKIB m = true → MapDataOKI m := (mapDataOKIB_iff m).1
/-- … of `decode_encode_adata_inlined` -/
theorem hyp_sound_adata_inlined (a : ArrData) : arrDataOKIB a = true → ArrDataOKI a := (arrDataOKIB_iff a).1
/-- … of `decode_encode_mdata` (no inlined slab) -/
theorem hyp_sound_mdata_flat (m : MapData) : mapDataOKB m = true → MapDataOK m := (mapDataOKB_iff m).1
/-- … of `decode_encode_mindex` -/
theorem hyp_sound_mindex (m : MapMeta) : mapMetaOKB m = true → MapMetaOK m := (mapMetaOKB_iff m).1
/-- … of `decode_encode_data` -/
theorem hyp_sound_data (ty : TyInfo) (s : DataSlab) : dataOKB ty s = true → DataOK ty s := (dataOKB_iff ty s).1
/-- … of `decode_encode_meta` -/
theorem hyp_sound_meta (ty : TyInfo) (m : MetaSlab Unit) : metaOKB ty m = true → MetaOK ty m := (metaOKB_iff ty m).1
/-- … of `decode_encode_storable` -/
theorem hyp_sound_storable (e : Elem) : validElemB e = true → validElem e := (validElemB_iff e).1
/-- … of `decode_encode_storable_wrapped` -/
theorem hyp_sound_storable_wrapped (s : Stor) :
    storableGOKB s = true → ∃ x, s = .some x ∧ x.RT ∧ x.noInl ∧ x.vneed + 1 ≤ maxNestedLevels :=
  (storableGOKB_iff s).1
/-- … of `decode_encode_mdata_exact` (Props/C07Depth.lean): the exact nesting clause -/
theorem hyp_sound_mdata_exact (m : MapData) : mapDataOKXB m = true → MapDataOKX m := (mapDataOKXB_iff m).1
/-- … of `decode_encode_adata_exact` -/
theorem hyp_sound_adata_exact (a : ArrData) : arrDataOKXB a = true → ArrDataOKX a := (arrDataOKXB_iff a).1
/-- … of `decodeSlab_encodeArrDataWX` (wrapped elements, exact nesting clause) -/
theorem hyp_sound_adata_wrapped_exact (a : ArrData) : arrDataOKWXB a = true → ArrDataOKWX a :=
  (arrDataOKWXB_iff a).1
/-- the state checks: `XOK` / `XOKC` of `decode_encode_inlined_extra_data(_compact)`, `reencode_decoded_storable` -/
theorem hyp_sound_xok (xs : List XD) : xokB xs = true → XOK xs := (xokB_iff xs).1
theorem hyp_sound_xokc (xs : List XD) : xokcB xs = true → XOKC xs := (xokcB_iff xs).1

/-- The checkers DECIDE the hypotheses (both directions), so a failed check on a slab of the trace
    means the slab is outside the theorem's domain — it is not an artefact of the checker. -/
theorem hyp_checkers_exact :
    (∀ m, mapDataOKCB m = true ↔ MapDataOKC m) ∧ (∀ a, arrDataOKCB a = true ↔ ArrDataOKC a) ∧
    (∀ a, arrDataOKWB a = true ↔ ArrDataOKW a) ∧ (∀ m, mapDataOKIB m = true ↔ MapDataOKI m) ∧
    (∀ a, arrDataOKIB a = true ↔ ArrDataOKI a) ∧ (∀ m, mapDataOKB m = true ↔ MapDataOK m) ∧
    (∀ m, mapMetaOKB m = true ↔ MapMetaOK m) ∧ (∀ ty s, dataOKB ty s = true ↔ DataOK ty s) ∧
    (∀ ty m, metaOKB ty m = true ↔ MetaOK ty m) ∧ (∀ e, validElemB e = true ↔ validElem e) :=
  ⟨mapDataOKCB_iff, arrDataOKCB_iff, arrDataOKWB_iff, mapDataOKIB_iff, arrDataOKIB_iff, mapDataOKB_iff,
    mapMetaOKB_iff, dataOKB_iff, metaOKB_iff, validElemB_iff⟩

/-- … also the checkers of the predicates with the exact nesting clause -/
theorem hyp_checkers_exact_depth :
    (∀ m, mapDataOKXB m = true ↔ MapDataOKX m) ∧ (∀ a, arrDataOKXB a = true ↔ ArrDataOKX a) ∧
    (∀ a, arrDataOKWXB a = true ↔ ArrDataOKWX a) :=
  ⟨mapDataOKXB_iff, arrDataOKXB_iff, arrDataOKWXB_iff⟩

/-- `SlabOKG`, unfolded per kind (what the required clauses of `hypReq` spell out). -/
theorem slabOKG_unfold (s : Slab) :
    SlabOKG s ↔
      match s with
      | .data ty s => DataOK (ty.getD default) s ∧ ty.isSome = s.root
      | .index ty m => MetaOK (ty.getD default) m ∧ ty.isSome = m.root
      | .storable _ e => validElem e
      | .adata a => ArrDataOKX a ∨ ArrDataOKWX a
      | .mdata m => MapDataOKX m
      | .mindex m => MapMetaOK m
      | .storableG _ s => ∃ x, s = .some x ∧ x.RT ∧ x.noInl ∧ x.vneed + 1 ≤ maxNestedLevels := by
  cases s with
  | data _ _ => exact Iff.rfl
  | index _ _ => exact Iff.rfl
  | storable _ _ => exact Iff.rfl
  | adata _ => exact Iff.rfl
  | mdata _ => exact Iff.rfl
  | mindex _ => exact Iff.rfl
  | storableG id x =>
    constructor
    · rintro ⟨hrt, hni, hfl, hnest⟩
      obtain ⟨y, rfl⟩ := storableG_shape hni hfl
      exact ⟨y, rfl, hrt, hni, by simpa [Stor.vneed] using hnest⟩
    · rintro ⟨y, rfl, hrt, hni, hnest⟩
      exact ⟨hrt, hni, rfl, by simpa [Stor.vneed] using hnest⟩

theorem hypOK_data (ty : Option TyInfo) (s : DataSlab) :
    (Slab.data ty s).hypOK = (dataOKB (ty.getD default) s && (ty.isSome == s.root)) := by
  simp only [Slab.hypOK, Slab.hypReq, List.all_cons, List.all_nil, Bool.and_true, dataOKB, Bool.and_assoc]

theorem hypOK_index (ty : Option TyInfo) (m : MetaSlab Unit) :
    (Slab.index ty m).hypOK = (metaOKB (ty.getD default) m && (ty.isSome == m.root)) := by
  simp only [Slab.hypOK, Slab.hypReq, List.all_cons, List.all_nil, Bool.and_true, metaOKB, Bool.and_assoc]

theorem hypOK_storable (id : SlabID) (e : Elem) : (Slab.storable id e).hypOK = validElemB e := by
  simp only [Slab.hypOK, Slab.hypReq, List.all_cons, List.all_nil, Bool.and_true]

theorem hypOK_mdata (m : MapData) : (Slab.mdata m).hypOK = mapDataOKXB m := by
  simp only [Slab.hypOK, Slab.hypReq, List.all_cons, List.all_nil, Bool.and_true, mapDataOKXB]

theorem hypOK_mindex (m : MapMeta) : (Slab.mindex m).hypOK = mapMetaOKB m := by
  simp only [Slab.hypOK, Slab.hypReq, List.all_cons, List.all_nil, Bool.and_true, mapMetaOKB]

theorem hypOK_storableG (id : SlabID) (s : Stor) : (Slab.storableG id s).hypOK = storableGOKB s := by
  cases s <;>
    simp only [Slab.hypOK, Slab.hypReq, List.all_cons, List.all_nil, Bool.and_true, Bool.true_and, storableGOKB]

/-- an array data slab: the clauses `ArrDataOKX` and `ArrDataOKWX` share, and one of the two ways of
    not being a flat data slab -/
theorem hypOK_adata (a : ArrData) :
    (Slab.adata a).hypOK = (rtiStsB a.elems && (nodupKeysStsB a.elems &&
      (decide ((Slab.adata a).vdepth ≤ maxNestedLevels) && (decide (a.elems.length < 65536) &&
        ((!(encSts a.elems []).2.isEmpty || (noInlStsB a.elems && a.elems.any (fun s => !s.isFlat))) &&
          (decide ((encSts a.elems []).2.length ≤ 256) && (validNextB a.next &&
            (optAllB validTyB a.ty && decide (a.size ≤ maxUint32))))))))) := by
  simp only [Slab.hypOK, Slab.hypReq, List.all_cons, List.all_nil, Bool.and_true]

theorem hypOK_adata_iff (a : ArrData) : (Slab.adata a).hypOK = true ↔ (ArrDataOKX a ∨ ArrDataOKWX a) := by
  rw [hypOK_adata]
  simp only [Bool.and_eq_true, Bool.or_eq_true, decide_eq_true_eq, rtiStsB_iff, nodupKeysStsB_iff,
    not_isEmpty_iff, noInlStsB_iff, anyNotFlat_iff, validNextB_iff, optAllB_iff validTyB_iff]
  constructor
  · rintro ⟨h1, h2, h3, h4, h5, h6, h7, h8, h9⟩
    rcases h5 with h5 | ⟨h5, h5'⟩
    · exact Or.inl ⟨h1, h2, h3, h4, h5, h6, h7, h8, h9⟩
    · exact Or.inr ⟨h1, h5, h5', h3, h4, h7, h8, h9⟩
  · rintro (ok | ok)
    · exact ⟨ok.rt, ok.nodup, ok.nest, ok.count, Or.inl ok.inlined, ok.entries, ok.next, ok.ty, ok.size⟩
    · refine ⟨ok.rt, nodupKeysSts_of_noCompact _ (noCompactSts_of_noInl _ ok.noInl), ok.nest, ok.count,
        Or.inr ⟨ok.noInl, ok.wrapped⟩, ?_, ok.next, ok.ty, ok.size⟩
      rw [encSts_noInl a.elems [] ok.noInl]
      simp

/-- THE CHECK IS EXACT: every required clause of `hypReport` holds on a slab iff the slab satisfies
    `SlabOKG`, the hypothesis of the general theorems (`C07.decode_encode`, `C07.reencode_fixpoint`,
    `C06.enc_len`, `C06.decoded_size_eq`). -/
theorem hypOK_iff (s : Slab) : s.hypOK = true ↔ SlabOKG s := by
  rw [slabOKG_unfold]
  cases s with
  | data ty d =>
    rw [hypOK_data]
    simp only [Bool.and_eq_true, beq_iff_eq, dataOKB_iff]
  | index ty m =>
    rw [hypOK_index]
    simp only [Bool.and_eq_true, beq_iff_eq, metaOKB_iff]
  | storable id e => rw [hypOK_storable]; exact validElemB_iff e
  | adata a => exact hypOK_adata_iff a
  | mdata m => rw [hypOK_mdata]; exact mapDataOKXB_iff m
  | mindex m => rw [hypOK_mindex]; exact mapMetaOKB_iff m
  | storableG id x => rw [hypOK_storableG]; exact storableGOKB_iff x

/-- "The Bool check passed on this slab" means "this slab is in the domain of the general theorems". -/
theorem hyp_sound (s : Slab) (h : s.hypOK = true) : SlabOKG s := (hypOK_iff s).1 h

/-- … and a slab in the domain passes the check. -/
theorem hyp_complete (s : Slab) (h : SlabOKG s) : s.hypOK = true := (hypOK_iff s).2 h

/-- for the kinds of the first part of the model `SlabOK` is enough -/
theorem hypOK_of_slabOK (s : Slab) (h : SlabOK s) : s.hypOK = true := hyp_complete s (SlabOKG_of_SlabOK h)

/-- the `vneedI` predicates pass the check too (their nesting clause implies `nest-exact`) -/
theorem hypOK_of_okc :
    (∀ m, MapDataOKC m → (Slab.mdata m).hypOK = true) ∧ (∀ a, ArrDataOKC a → (Slab.adata a).hypOK = true) ∧
    (∀ a, ArrDataOKW a → (Slab.adata a).hypOK = true) :=
  ⟨fun m h => hyp_complete _ (slabOKG_covers.2.2.1 m h), fun a h => hyp_complete _ (slabOKG_covers.2.2.2.2.2.1 a h),
   fun a h => hyp_complete _ (slabOKG_covers.2.2.2.2.2.2.2.1 a h)⟩

/-- What the passed check buys, for EVERY slab kind of the model: the model decoder accepts the
    model encoder's bytes (which the replayer has compared with the implementation's), the slab it
    returns re-encodes to the same bytes, and reports the same size. -/
theorem hyp_roundtrip (s : Slab) (h : s.hypOK = true) (n : Nat) :
    ∃ s' k, decodeSlab s.id (encodeSlab s) n = .ok s' k ∧ encodeSlab s' = encodeSlab s ∧
      s'.byteSize = s.byteSize := by
  have ok := hyp_sound s h
  obtain ⟨s', k, hd, hsz⟩ := C06.decoded_size_eq s ok n
  exact ⟨s', k, hd, reencode_fixpoint s ok n s' k hd, hsz⟩

/-- … with the decoder's result and allocation count spelt out, and the exact length law -/
theorem hyp_roundtrip_all (s : Slab) (h : s.hypOK = true) (n : Nat) :
    decodeSlab s.id (encodeSlab s) n = .ok (normSlab s) (n + s.decodeAllocsG) ∧
      encodeSlab (normSlab s) = encodeSlab s ∧ (normSlab s).byteSize = s.byteSize ∧
      (s.rootNoSibling → (encodeSlab s).length + s.omittedNext + s.hoisted = s.byteSize + s.extraDataLen) :=
  have ok := hyp_sound s h
  ⟨decode_encode s ok n, encodeSlab_normSlab s ok, byteSize_normSlab s ok, C06.enc_len s ok⟩

/-- … and when moreover the informative `noCompact` entry is true, the decoded slab IS the encoded one
    (map data slabs; array data slabs alike) -/
theorem hyp_roundtrip_exact_mdata (m : MapData) (h : (Slab.mdata m).hypOK = true) (hc : m.els.noCompactB = true)
    (n : Nat) : ∃ k, decodeSlab m.id (encodeMapData m) n = .ok (.mdata m) k := by
  have := decode_encode (.mdata m) (hyp_sound (.mdata m) h) n
  rw [normSlab_noCompact (.mdata m) ((MEls.noCompactB_iff m.els).1 hc)] at this
  exact ⟨_, this⟩

theorem hyp_roundtrip_exact_adata (a : ArrData) (h : (Slab.adata a).hypOK = true)
    (hc : noCompactStsB a.elems = true) (n : Nat) :
    ∃ k, decodeSlab a.id (encodeArrData a) n = .ok (.adata a) k := by
  have := decode_encode (.adata a) (hyp_sound (.adata a) h) n
  rw [normSlab_noCompact (.adata a) ((noCompactStsB_iff a.elems).1 hc)] at this
  exact ⟨_, this⟩

/-! ### non-vacuity: concrete slabs on which the check passes / fails -/

/-- a root map data slab whose one value is an inlined map of a composite type, written in the COMPACT
    form (count 2 = two single elements with plain keys), one of whose values is an inlined array
    holding a wrapped value -/
def exMap : MapData :=
  { id := ⟨1, 1⟩, next := ⟨0, 0⟩, extra := some ⟨.plain 1, 1, 7⟩,
    els := .hkey 0 [5] [.single (.mk (.val 9 3)
      (.map ⟨.composite 1, 2, 7⟩ 4 (.hkey 0 [0, 1]
        [.single (.mk (.val 9 3) (.val 6 10)),
         .single (.mk (.val 9 4) (.arr (.plain 24) 5 [.some (.val 5 11)]))])))],
    anySize := false, group := false }

/-- the same with the second key equal to the first: `nodupKeys` fails -/
def exMapDup : MapData :=
  { exMap with
    els := .hkey 0 [5] [.single (.mk (.val 9 3)
      (.map ⟨.composite 1, 2, 7⟩ 4 (.hkey 0 [0, 1]
        [.single (.mk (.val 9 3) (.val 6 10)),
         .single (.mk (.val 9 3) (.arr (.plain 24) 5 [.some (.val 5 11)]))])))] }

/-- an array data slab holding the inlined compact map and a slab reference -/
def exArr : ArrData :=
  { id := ⟨1, 1⟩, next := ⟨1, 2⟩, ty := none,
    elems := [.map ⟨.composite 1, 1, 7⟩ 4 (.hkey 0 [0] [.single (.mk (.val 9 3) (.val 6 10))]), .ref ⟨1, 9⟩] }

/-- an array data slab with a wrapped element and no inlined slab -/
def exArrW : ArrData :=
  { id := ⟨1, 1⟩, next := ⟨0, 0⟩, ty := some (.plain 3), elems := [.some (.some (.val 5 11)), .val 9 3] }

theorem exMap_report :
    (Slab.mdata exMap).hypReport =
      [("rt", true), ("nodupKeys", true), ("nest-exact", true), ("entries", true), ("next", true),
       ("extra", true), ("size", true), ("nest-vneed", true), ("noCompact", false), ("noInl", false),
       ("xokc", true)] := by decide +kernel

theorem exMap_hypOK : (Slab.mdata exMap).hypOK = true := by decide +kernel
theorem exMap_ok : MapDataOKC exMap := hyp_sound_mdata exMap (by decide)
theorem exMap_okx : MapDataOKX exMap := hyp_sound_mdata_exact exMap (by decide)
theorem exMapDup_fails : (Slab.mdata exMapDup).hypFailed = ["nodupKeys"] := by decide +kernel
theorem exMapDup_not_ok : ¬ MapDataOKC exMapDup := fun ok => by
  have := (mapDataOKCB_iff exMapDup).2 ok
  revert this; decide
theorem exArr_ok : ArrDataOKC exArr := hyp_sound_adata exArr (by decide)
theorem exArr_okx : ArrDataOKX exArr := hyp_sound_adata_exact exArr (by decide)
theorem exArr_hypOK : (Slab.adata exArr).hypOK = true := by decide
theorem exArrW_ok : ArrDataOKW exArrW := hyp_sound_adata_wrapped exArrW (by decide)
theorem exArrW_hypOK : (Slab.adata exArrW).hypOK = true := by decide
theorem exStorableG_hypOK : (Slab.storableG ⟨1, 2⟩ (.some (.some (.val 300 11)))).hypOK = true := by decide

/-- 15 nested inlined arrays / 7 nested inlined maps (Props/C07Depth.lean): the check PASSES — the
    required nesting clause is the exact one — while the informative clause `nest-vneed` fails;
    the default `hypFailed` reports nothing; one level more and the required clause fails (and the
    register does not decode: `ad16_rejected`, `md8_rejected`) -/
theorem ad15_hypOK : (Slab.adata (ad 15)).hypOK = true := hyp_complete _ slabOKG_ad15
theorem md7_hypOK : (Slab.mdata (md 7)).hypOK = true := hyp_complete _ slabOKG_md7
theorem ad15_md7_vneed_fails :
    (Slab.adata (ad 15)).hypInfo.lookup "nest-vneed" = some false ∧
    (Slab.mdata (md 7)).hypInfo.lookup "nest-vneed" = some false := by decide +kernel
theorem ad15_md7_hypFailed : (Slab.adata (ad 15)).hypFailed = [] ∧ (Slab.mdata (md 7)).hypFailed = [] := by decide +kernel
theorem ad16_md8_hypFailed :
    (Slab.adata (ad 16)).hypFailed = ["nest-exact"] ∧ (Slab.mdata (md 8)).hypFailed = ["nest-exact"] := by decide +kernel
/-- a value under 32 wrappers: passes; `ArrDataOKW` does not hold -/
theorem aw32_hypOK : (Slab.adata aw32).hypOK = true := hyp_complete _ slabOKG_aw32
/-- a large-value slab's required nesting clause is `nest-vneed`; the default `optional` list does not hide it -/
theorem exStorableG_deep_hypFailed : (Slab.storableG ⟨1, 2⟩ (wrapN 32)).hypFailed = ["nest-vneed"] := by decide +kernel

theorem exMindex_hypOK :
    (Slab.mindex { id := ⟨1, 1⟩, extra := some ⟨.plain 1, 5, 7⟩,
                   childHdrs := [⟨⟨1, 2⟩, 100, 0⟩, ⟨⟨1, 3⟩, 120, 77⟩] }).hypOK = true := by decide

end Atree.C07

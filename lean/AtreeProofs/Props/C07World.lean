import AtreeProofs.WorldCodec.WorldGoal
import AtreeProofs.Props.C09WHist
/-
  C07 / C06 for slabs with children, discharged from the world invariant.  Property theorems.

  `AtreeModel/Codec/World.lean` translates every slab a World of nested containers keeps in storage
  into the slab the byte-level codec sees (`World.toCodec`: inlined children embedded recursively,
  wrappers, references, type infos, map extra data, external collision groups); the nested stream
  checks on every stored slab that this translation IS the implementation's slab.  The byte-level
  codec theorems (`Props/C06.lean`, `Props/C07.lean`) take predicates (`ArrDataOKI`, `MapDataOKI`, …)
  that nothing else produces for slabs with children.  Here they are DERIVED from the
  global invariant of nested containers `WorldOk'` (which holds along every history:
  `C10Hist.history_invariant`, `C09W.world_heap_exact`) and from explicit, decidable side conditions
  — the real assumptions:

  * `WC.LeafOk w ctr`  — the leaves are values of the harness and the fields fit their widths: every
    stored element that is not a reference to a live container is a `validElem` (plain value with
    1 ≤ size < 2³², size ≠ 65540, payload within its content bytes; or a 19-byte reference to a
    large-value slab), every map key is a value of the harness and carries 64-bit digests, address /
    allocation counter / type infos / counts / seeds are below 2⁶⁴;
  * `WC.Side sl`       — per stored slab: the CBOR nesting of its register stays within the validator's
    limit of 32 levels (`cbor.DecOptions` default; 16 nested arrays or 8 nested maps exceed it) and
    the shared inlined-extra-data section has at most 256 entries (Go refuses more);
  * `WSlab.GroupFit`   — an external collision-group slab (no size band applies to it) has fewer than
    8192 digests per digest table and fewer than 65536 entries per last-level list (`E2EM.Fit`; true
    of every group slab below 64 KiB).
  The nested replayer evaluates `Side` on every stored slab of every run (tags `SLB:side:*`) and, when
  it holds, the conclusions of the theorems below on the translation (`SLB:thm`).

  What follows from the invariant (not assumed): every size field is the computed size of the
  embedded form at every depth (`WC.storOf_ok`: `(stor e).size = e.size`, the parent's bookkeeping
  `ElemSync` carried down to bytes), counts fit their fixed-width heads, one digest per element,
  non-empty last-level lists, levels < 24, sizes < 2³², a root has no sibling, the has-inlined-slabs
  flag, slab IDs within 16 bytes, no compact form (type infos of the World model are plain).
-/
namespace Atree.C07W
open Atree Atree.Codec Gen World WC

/-- the side conditions of the slab stored under `id` -/
def SideAt (w : World) (id : SlabID) : Prop :=
  ∀ ws, w.slabAt id = some ws → Side (ws.toCodec w.stor) ∧ ws.GroupFit

instance (w : World) (id : SlabID) : Decidable (SideAt w id) := by
  unfold SideAt
  cases h : w.slabAt id with
  | none => exact isTrue (fun ws hws => by cases hws)
  | some ws0 =>
    exact decidable_of_iff (Side (ws0.toCodec w.stor) ∧ ws0.GroupFit)
      ⟨fun hh ws hws => by cases hws; exact hh, fun hh => hh ws0 rfl⟩

/-- In a world that satisfies the global invariant, every stored slab's
    translation meets the predicates of the codec theorems, carries the ID it is stored under, and
    reports (`Slab.byteSize`) the size the model keeps in the slab's header. -/
theorem worldOk_codec_ok (D : SlabID → DigestFn 4) (w : World) (ctr : Nat)
    (H : WorldOk' D w ctr) (Hh : HeapOk w ctr) (L : LeafOk w ctr)
    (id : SlabID) (sl : Slab) (hsl : w.toCodec id = some sl) (hside : SideAt w id) :
    OKAll sl ∧ RootNoNext sl ∧ sl.id = id ∧ ∃ ws, w.slabAt id = some ws ∧ sl.byteSize = ws.size := by
  rw [toCodec_eq] at hsl
  cases hs : w.slabAt id with
  | none => rw [hs] at hsl; cases hsl
  | some ws =>
    rw [hs] at hsl
    simp only [Option.map_some, Option.some.injEq] at hsl
    subst hsl
    obtain ⟨s1, s2⟩ := hside ws hs
    obtain ⟨g1, g2, g3, g4⟩ := slab_goal_of_worldOk' H Hh L id ws hs s1 s2
    exact ⟨g1, g2, g4, ws, rfl, g3⟩

/-- C07 for slabs with children: `DecodeSlab(id, EncodeSlab(slab)) = slab`, exactly (the compact-map
    exception cannot occur: type infos are plain), for every stored slab of a valid world. -/
theorem world_decode_encode (D : SlabID → DigestFn 4) (w : World) (ctr : Nat)
    (H : WorldOk' D w ctr) (Hh : HeapOk w ctr) (L : LeafOk w ctr)
    (id : SlabID) (sl : Slab) (hsl : w.toCodec id = some sl) (hside : SideAt w id) (n : Nat) :
    ∃ k, decodeSlab id (encodeSlab sl) n = .ok sl k := by
  obtain ⟨ok, _, hid, _⟩ := worldOk_codec_ok D w ctr H Hh L id sl hsl hside
  rw [← hid]
  exact decode_encode_all sl ok n

/-- … hence re-encoding what the decoder returns reproduces the register byte for byte. -/
theorem world_reencode_fixpoint (D : SlabID → DigestFn 4) (w : World) (ctr : Nat)
    (H : WorldOk' D w ctr) (Hh : HeapOk w ctr) (L : LeafOk w ctr)
    (id : SlabID) (sl : Slab) (hsl : w.toCodec id = some sl) (hside : SideAt w id) (n : Nat)
    (sl' : Slab) (k : Nat) (h : decodeSlab id (encodeSlab sl) n = .ok sl' k) : encodeSlab sl' = encodeSlab sl := by
  obtain ⟨k', hk'⟩ := world_decode_encode D w ctr H Hh L id sl hsl hside n
  rw [hk'] at h
  cases h
  rfl

/-- C06 for slabs with children: the bytes written for a stored slab (+ 16 for the omitted link of
    a last non-root data slab) are exactly the size the container code reports for it (the header
    field of the model, which the nested stream compares with `ByteSize()` on every dumped slab) +
    the extra-data sections — an EQUALITY at every nesting depth. -/
theorem world_enc_len (D : SlabID → DigestFn 4) (w : World) (ctr : Nat)
    (H : WorldOk' D w ctr) (Hh : HeapOk w ctr) (L : LeafOk w ctr)
    (id : SlabID) (ws : WSlab) (hws : w.slabAt id = some ws) (hside : SideAt w id) :
    (encodeSlab (ws.toCodec w.stor)).length + omittedNext (ws.toCodec w.stor)
      = ws.size + (ws.toCodec w.stor).extraDataLen := by
  obtain ⟨s1, s2⟩ := hside ws hws
  obtain ⟨g1, g2, g3, _⟩ := slab_goal_of_worldOk' H Hh L id ws hws s1 s2
  rw [← g3]
  exact enc_len_all _ g1 g2

/-- the parent's size bookkeeping, down to bytes: the storable embedded for a stored element
    (inlined child with everything inlined in it, wrappers) has exactly the size the parent
    accounts for the element -/
theorem world_elem_size (D : SlabID → DigestFn 4) (w : World) (ctr : Nat)
    (H : WorldOk' D w ctr) (Hh : HeapOk w ctr) (L : LeafOk w ctr)
    (x : SlabID) (c : Cont) (hx : w.cont? x = some c) (e : Elem) (he : e ∈ c.storedElems) :
    (w.stor e).size = e.size ∧ (encSt (w.stor e) []).1.length = e.size := by
  have E := env_of_worldOk' H Hh L
  obtain ⟨h1, h2, h3⟩ := stor_ok E e (good_of_stored (CInv.of_worldOk H) L hx e he)
  exact ⟨h1, by rw [lenSt_eq _ _ (Stor.OK_of_RTI _ h2) h3, h1]⟩

/-- Along every history from the empty world (any interleaving of requests through current handles,
    `C09W.Hist`): the invariant hypotheses are discharged; only the side conditions remain. -/
theorem hist_decode_encode (D : SlabID → DigestFn 4) (w : World) (cx : Ctx) (h : C09W.Hist D w cx)
    (L : LeafOk w cx.ctr)
    (id : SlabID) (sl : Slab) (hsl : w.toCodec id = some sl) (hside : SideAt w id) (n : Nat) :
    (∃ k, decodeSlab id (encodeSlab sl) n = .ok sl k) ∧
    (encodeSlab sl).length + omittedNext sl = sl.byteSize + sl.extraDataLen := by
  obtain ⟨H, Hh, _⟩ := C09W.world_heap_exact D w cx h
  obtain ⟨ok, hr, _, _⟩ := worldOk_codec_ok D w cx.ctr H Hh L id sl hsl hside
  exact ⟨world_decode_encode D w cx.ctr H Hh L id sl hsl hside n, enc_len_all sl ok hr⟩

end Atree.C07W

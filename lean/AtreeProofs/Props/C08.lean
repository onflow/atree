import AtreeModel.StorageOps
import AtreeProofs.Storage.Commit
import AtreeProofs.Props.C03
/-
  C08 — The read cache is transparent (storage level, value-level model; clients re-fetch their
  handles after a cache drop — see DESIGN.md for the pointer-aliasing part that is exercised by the
  harness only).
-/
namespace Atree.C08
open Atree St

variable {σ β : Type} (c : Codec σ β)

/-- Maintenance actions that a schedule may insert between operations. -/
inductive Maint where
  | commit (kind : CommitKind) (mo dlo : List SlabID)   -- a fault-free commit
  | dropCache
  | commitAndReopen                                     -- fault-free commit, then reopen from the ledger
deriving Repr

def applyMaint (s : St σ β) : Maint → St σ β
  | .commit .det _ _ => (s.fastCommit c (fun _ => false)).st
  | .commit .nondet mo dlo =>
      (s.nondetCommit c (fun _ => false) (normOrder s.modifiedOwned mo) (normOrder s.deletedOwned dlo)).st
  | .dropCache => s.dropCache
  | .commitAndReopen =>
      let r := (s.fastCommit c (fun _ => false)).st
      { (St.fresh r.base r.alloc : St σ β) with tempIx := r.tempIx }

/-- Operations whose outcome the property speaks about (what containers use). -/
def clientOp : Op σ → Bool
  | .store _ _ | .remove _ | .retrieve _ | .genID _ => true
  | _ => false

/-- run a history with a maintenance schedule: before operation `i` the actions `sched i` happen -/
def runWith (s : St σ β) : List (Op σ × List Maint) → St σ β × List (Obs σ)
  | [] => (s, [])
  | (op, ms) :: rest =>
    let s1 := ms.foldl (applyMaint c) s
    let (s2, o) := St.step c s1 op
    let (s3, os) := runWith s2 rest
    (s3, o :: os)

/-- No pending change is owned by the temporary address (containers under test live at real
    addresses; a reopen necessarily forgets uncommitted temporary slabs). -/
def NoTemp (ops : List (Op σ)) : Prop :=
  ∀ op ∈ ops, match op with
    | .store id _ => id.isTemp = false
    | .remove id => id.isTemp = false
    | .genID a => a ≠ 0
    | _ => True

/-- the slab handed to `Store` by this operation (if it is one) can be encoded -/
def EncOp : Op σ → Prop
  | .store _ v => (c.enc v).isSome
  | _ => True

/-- Every slab the history hands to `Store` can be encoded.  This is what real codecs offer: their
    encoder is PARTIAL (it refuses slabs that violate its preconditions, e.g. `E2E.keyedCodec` on a
    slab that is not `OkS`), so a total encoder must not be assumed; the containers only ever store
    slabs that meet the preconditions (`E2E.stored_slabs_encodable`). -/
def StoresEncodable (ops : List (Op σ)) : Prop := ∀ op ∈ ops, EncOp c op

/-- no pending change under the temporary address -/
def NoTempDeltas (s : St σ β) : Prop := ∀ id, id.isTemp = true → AList.find? s.deltas id = none

/-- What maintenance actions (and reads) preserve. -/
structure Keeps (s s' : St σ β) : Prop where
  inv : Inv c s'
  view : ∀ id, s'.view c id = s.view c id
  target : ∀ id, target c s' id = target c s id
  alloc : s'.alloc = s.alloc
  noTemp : NoTempDeltas s'
  noEnc : NoEncodeFailure c s'

theorem applyMaint_commit_eq (s : St σ β) (kind : CommitKind) (mo dlo : List SlabID) :
    applyMaint c s (.commit kind mo dlo) = (commitW c kind (fun _ => false) mo dlo s).st := by
  cases kind <;> rfl

theorem noEnc_of_total (hEnc : ∀ v : σ, (c.enc v).isSome) (s : St σ β) : NoEncodeFailure c s :=
  fun _ v _ => hEnc v

theorem applyMaint_keeps (hc : RoundTrip c) (s : St σ β)
    (hI : Inv c s) (hnt : NoTempDeltas s) (hne : NoEncodeFailure c s) (m : Maint) :
    Keeps c s (applyMaint c s m) := by
  cases m with
  | commit kind mo dlo =>
    rw [applyMaint_commit_eq]
    obtain ⟨h1, h2, _⟩ := commitW_spec c hc kind (fun _ => false) mo dlo s hI
    exact ⟨h1, h2.view, h2.target, (commitW_alloc c kind _ mo dlo s).1,
      fun id ht => (h2.temp id ht).trans (hnt id ht), h2.noEncodeFailure hne⟩
  | dropCache =>
    exact ⟨inv_dropCache c s hI, view_dropCache c s hI, fun _ => rfl, rfl, hnt, hne⟩
  | commitAndReopen =>
    obtain ⟨h1, h2, _⟩ := commitW_spec c hc .det (fun _ => false) [] [] s hI
    obtain ⟨_, g2, g3⟩ := commitW_complete c hc .det (fun _ => false) (fun _ => rfl) [] [] s hI hne
    have hres : applyMaint c s .commitAndReopen =
        { (St.fresh (commitW c .det (fun _ => false) [] [] s).st.base
            (commitW c .det (fun _ => false) [] [] s).st.alloc : St σ β) with
          tempIx := (commitW c .det (fun _ => false) [] [] s).st.tempIx } := rfl
    have halloc := (commitW_alloc c .det (fun _ => false) [] [] s).1
    generalize (commitW c .det (fun _ => false) [] [] s).st = r at h1 h2 g2 g3 hres halloc
    rw [hres]
    have hall : ∀ id, AList.find? r.deltas id = none := by
      intro id
      cases ht : id.isTemp with
      | true => exact (h2.temp id ht).trans (hnt id ht)
      | false => exact g2 id ht
    refine ⟨inv_setCounters c _ (inv_fresh c r h1) r.tempIx r.alloc, ?_, ?_, ?_, fun _ _ => rfl, ?_⟩
    · intro id
      rw [← h2.view id, view_of_not_pending c r h1 id (hall id)]
      simp [St.view, St.fresh, St.committed]
    · intro id
      rw [← g3 id]
      simp [target, St.fresh]
    · exact halloc
    · intro id v hv
      simp [St.fresh] at hv

theorem Keeps.refl (s : St σ β) (hI : Inv c s) (hnt : NoTempDeltas s) (hne : NoEncodeFailure c s) :
    Keeps c s s :=
  ⟨hI, fun _ => rfl, fun _ => rfl, rfl, hnt, hne⟩

theorem foldl_applyMaint_keeps (hc : RoundTrip c)
    (ms : List Maint) (s : St σ β) (hI : Inv c s) (hnt : NoTempDeltas s) (hne : NoEncodeFailure c s) :
    Keeps c s (ms.foldl (applyMaint c) s) := by
  induction ms generalizing s with
  | nil => exact Keeps.refl c s hI hnt hne
  | cons m ms ih =>
    have h1 := applyMaint_keeps c hc s hI hnt hne m
    have h2 := ih (applyMaint c s m) h1.inv h1.noTemp h1.noEnc
    exact ⟨h2.inv, fun id => (h2.view id).trans (h1.view id),
      fun id => (h2.target id).trans (h1.target id), h2.alloc.trans h1.alloc, h2.noTemp, h2.noEnc⟩

structure Sim (s1 s2 : St σ β) : Prop where
  inv1 : Inv c s1
  inv2 : Inv c s2
  nt1 : NoTempDeltas s1
  nt2 : NoTempDeltas s2
  ne1 : NoEncodeFailure c s1
  ne2 : NoEncodeFailure c s2
  view : ∀ id, s1.view c id = s2.view c id
  target : ∀ id, target c s1 id = target c s2 id
  alloc : ∀ a, AList.find? s1.alloc a = AList.find? s2.alloc a

theorem Sim.init : Sim c (St.init : St σ β) (St.init : St σ β) :=
  ⟨inv_init c, inv_init c, fun _ _ => rfl, fun _ _ => rfl, fun _ _ h => by simp [St.init, St.fresh] at h,
    fun _ _ h => by simp [St.init, St.fresh] at h, fun _ => rfl, fun _ => rfl, fun _ => rfl⟩

theorem Sim.of_keeps {s1 s2 s1' s2' : St σ β} (h : Sim c s1 s2) (k1 : Keeps c s1 s1')
    (k2 : Keeps c s2 s2') : Sim c s1' s2' :=
  ⟨k1.inv, k2.inv, k1.noTemp, k2.noTemp, k1.noEnc, k2.noEnc,
    fun id => ((k1.view id).trans (h.view id)).trans (k2.view id).symm,
    fun id => ((k1.target id).trans (h.target id)).trans (k2.target id).symm,
    fun a => by rw [k1.alloc, k2.alloc]; exact h.alloc a⟩

theorem Sim.insertDelta {s1 s2 : St σ β} (h : Sim c s1 s2) (id : SlabID) (hid : id.isTemp = false)
    (ov : Option σ) (hov : ∀ v, ov = some v → (c.enc v).isSome) :
    Sim c { s1 with deltas := AList.insert s1.deltas id ov }
          { s2 with deltas := AList.insert s2.deltas id ov } := by
  have hnt : ∀ (s : St σ β), NoTempDeltas s →
      NoTempDeltas ({ s with deltas := AList.insert s.deltas id ov } : St σ β) := by
    intro s hs j hj
    have hne : ¬ id = j := fun e => by rw [e, hj] at hid; cases hid
    show AList.find? (AList.insert s.deltas id ov) j = none
    rw [AList.find?_insert]
    simp only [hne, if_false]
    exact hs j hj
  have hne : ∀ (s : St σ β), NoEncodeFailure c s →
      NoEncodeFailure c ({ s with deltas := AList.insert s.deltas id ov } : St σ β) := by
    intro s hs j v hj
    have hj' : AList.find? (AList.insert s.deltas id ov) j = some (some v) := hj
    rw [AList.find?_insert] at hj'
    split at hj'
    · exact hov v (Option.some.inj hj')
    · exact hs j v hj'
  refine ⟨inv_setDeltas c s1 h.inv1 _ (AList.nodup_keys_insert _ _ _ h.inv1.deltasNodup),
    inv_setDeltas c s2 h.inv2 _ (AList.nodup_keys_insert _ _ _ h.inv2.deltasNodup),
    hnt s1 h.nt1, hnt s2 h.nt2, hne s1 h.ne1, hne s2 h.ne2, ?_, ?_, h.alloc⟩
  · intro j
    rw [view_insertDelta, view_insertDelta, h.view j]
  · intro j
    rw [target_insertDelta c s1 id hid, target_insertDelta c s2 id hid, h.target j]

theorem not_undef_of_owned (id : SlabID) (hid : id.isTemp = false) : id ≠ SlabID.undef := by
  intro e
  rw [e, SlabID.isTemp_undef] at hid
  cases hid

theorem retrieve_keeps (s : St σ β) (hI : Inv c s) (hnt : NoTempDeltas s) (hne : NoEncodeFailure c s)
    (id : SlabID) :
    ∃ s', St.step c s (.retrieve id) = (s', .slab (s.view c id)) ∧ Keeps c s s' := by
  obtain ⟨s', h1, h2, h3, h4, h5⟩ := retrieve_spec c s hI id
  refine ⟨s', by simp [St.step, h1], h2, fun j => by rw [h3], target_congr c s s' h4 h5,
    (retrieve_cacheOnly c s s' id _ h1).alloc, ?_, ?_⟩
  · intro j hj
    rw [h4]
    exact hnt j hj
  · intro j v hj
    rw [h4] at hj
    exact hne j v hj

/-- One client operation from related states: same observation, related states. -/
theorem step_sim {s1 s2 : St σ β} (h : Sim c s1 s2) (op : Op σ)
    (hnt : match op with
      | .store id _ => id.isTemp = false
      | .remove id => id.isTemp = false
      | .genID a => a ≠ 0
      | _ => True)
    (henc : EncOp c op) (hcl : clientOp op = true) :
    (St.step c s1 op).2 = (St.step c s2 op).2 ∧ Sim c (St.step c s1 op).1 (St.step c s2 op).1 := by
  cases op with
  | store id v =>
    have hu := not_undef_of_owned id hnt
    simp only [St.step, St.store, hu, if_false]
    exact ⟨by trivial, h.insertDelta c id hnt (some v) (fun w hw => by cases hw; exact henc)⟩
  | remove id =>
    have hu := not_undef_of_owned id hnt
    simp only [St.step, St.remove, hu, if_false]
    exact ⟨by trivial, h.insertDelta c id hnt none (fun w hw => by cases hw)⟩
  | retrieve id =>
    obtain ⟨t1, e1, k1⟩ := retrieve_keeps c s1 h.inv1 h.nt1 h.ne1 id
    obtain ⟨t2, e2, k2⟩ := retrieve_keeps c s2 h.inv2 h.nt2 h.ne2 id
    rw [e1, e2]
    exact ⟨by rw [h.view id], h.of_keeps c k1 k2⟩
  | genID a =>
    have ha : a ≠ 0 := hnt
    simp only [St.step, St.generateSlabID, ha, if_false]
    refine ⟨by rw [h.alloc a], inv_setCounters c s1 h.inv1 s1.tempIx _, inv_setCounters c s2 h.inv2 s2.tempIx _,
      h.nt1, h.nt2, h.ne1, h.ne2, h.view, h.target, ?_⟩
    intro b
    show AList.find? (AList.insert s1.alloc a _) b = AList.find? (AList.insert s2.alloc a _) b
    rw [AList.find?_insert, AList.find?_insert, h.alloc a, h.alloc b]
  | retrieveIfLoaded id => simp [clientOp] at hcl
  | retrieveIgnoringDeltas id ch => simp [clientOp] at hcl
  | commit kind faults mo dlo => simp [clientOp] at hcl
  | dropDeltas => simp [clientOp] at hcl
  | dropCache => simp [clientOp] at hcl
  | preload ids => simp [clientOp] at hcl
  | recreate => simp [clientOp] at hcl

theorem runWith_cons (s : St σ β) (op : Op σ) (ms : List Maint) (rest : List (Op σ × List Maint)) :
    runWith c s ((op, ms) :: rest) =
      ((runWith c (St.step c (ms.foldl (applyMaint c) s) op).1 rest).1,
       (St.step c (ms.foldl (applyMaint c) s) op).2 ::
         (runWith c (St.step c (ms.foldl (applyMaint c) s) op).1 rest).2) := rfl

/-- The two runs stay related and produce the same observations. -/
theorem runWith_sim (hc : RoundTrip c)
    (ops : List (Op σ)) (hEnc : StoresEncodable c ops) (hcl : ∀ op ∈ ops, clientOp op = true) (hnt : NoTemp ops)
    (sched1 sched2 : List (List Maint)) (h1 : sched1.length = ops.length) (h2 : sched2.length = ops.length)
    (s1 s2 : St σ β) (h : Sim c s1 s2) :
    (runWith c s1 (ops.zip sched1)).2 = (runWith c s2 (ops.zip sched2)).2 ∧
    Sim c (runWith c s1 (ops.zip sched1)).1 (runWith c s2 (ops.zip sched2)).1 := by
  induction ops generalizing sched1 sched2 s1 s2 with
  | nil => exact ⟨rfl, h⟩
  | cons op ops ih =>
    cases sched1 with
    | nil => simp at h1
    | cons ms1 sched1 =>
      cases sched2 with
      | nil => simp at h2
      | cons ms2 sched2 =>
        simp only [List.length_cons, Nat.add_right_cancel_iff] at h1 h2
        rw [List.zip_cons_cons, List.zip_cons_cons, runWith_cons, runWith_cons]
        have k1 := foldl_applyMaint_keeps c hc ms1 s1 h.inv1 h.nt1 h.ne1
        have k2 := foldl_applyMaint_keeps c hc ms2 s2 h.inv2 h.nt2 h.ne2
        have hsim := h.of_keeps c k1 k2
        obtain ⟨hobs, hsim'⟩ := step_sim c hsim op (hnt op (List.mem_cons_self ..))
          (hEnc op (List.mem_cons_self ..)) (hcl op (List.mem_cons_self ..))
        obtain ⟨g1, g2⟩ := ih (fun o ho => hEnc o (List.mem_cons_of_mem _ ho))
          (fun o ho => hcl o (List.mem_cons_of_mem _ ho))
          (fun o ho => hnt o (List.mem_cons_of_mem _ ho)) sched1 sched2 h1 h2 _ _ hsim'
        dsimp only
        exact ⟨by rw [hobs, g1], g2⟩

/-- Whether a slab is served from the write set, the cache or freshly decoded from the ledger never
    changes what is read. -/
theorem reload_is_identity (hc : RoundTrip c) (s : St σ β) (h : Inv c s) (hne : NoEncodeFailure c s)
    (m : Maint) (id : SlabID) (hown : id.isTemp = false) :
    (applyMaint c s m).view c id = s.view c id := by
  cases m with
  | commit kind mo dlo =>
    rw [applyMaint_commit_eq]
    exact (commitW_spec c hc kind (fun _ => false) mo dlo s h).2.1.view id
  | dropCache => exact view_dropCache c s h id
  | commitAndReopen =>
    have hv := (C03.view_fresh_fastCommit c hc s h hne).2.2 (s.fastCommit c (fun _ => false)).st.alloc id hown
    unfold St.view at hv ⊢
    exact hv

/-- Schedule independence of outcomes: the same client history under ANY two maintenance
    schedules yields the same observations and the same final view.  The encoder may be partial
    (real codecs are): it is only required that the slabs the history stores can be encoded
    (`StoresEncodable`), not that every value of the slab type can. -/
theorem schedule_independent_outcomes (hc : RoundTrip c)
    (ops : List (Op σ)) (hEnc : StoresEncodable c ops) (hcl : ∀ op ∈ ops, clientOp op = true) (hnt : NoTemp ops)
    (sched1 sched2 : List (List Maint)) (h1 : sched1.length = ops.length) (h2 : sched2.length = ops.length) :
    let r1 := runWith c (St.init : St σ β) (ops.zip sched1)
    let r2 := runWith c (St.init : St σ β) (ops.zip sched2)
    r1.2 = r2.2 ∧ (∀ id, r1.1.view c id = r2.1.view c id) := by
  intro r1 r2
  obtain ⟨g1, g2⟩ := runWith_sim c hc ops hEnc hcl hnt sched1 sched2 h1 h2 _ _ (Sim.init c)
  exact ⟨g1, g2.view⟩

/-- After a final commit the ledger registers, too, are identical (as a function of the identifier)
    under any two maintenance schedules (same hypothesis on the encoder: partial, but defined on
    what the history stores). -/
theorem schedule_independent_ledger (hc : RoundTrip c)
    (ops : List (Op σ)) (hEnc : StoresEncodable c ops) (hcl : ∀ op ∈ ops, clientOp op = true) (hnt : NoTemp ops)
    (sched1 sched2 : List (List Maint)) (h1 : sched1.length = ops.length) (h2 : sched2.length = ops.length) :
    let f1 := ((runWith c (St.init : St σ β) (ops.zip sched1)).1.fastCommit c (fun _ => false)).st
    let f2 := ((runWith c (St.init : St σ β) (ops.zip sched2)).1.fastCommit c (fun _ => false)).st
    ∀ id, AList.find? f1.base id = AList.find? f2.base id := by
  intro f1 f2 id
  obtain ⟨_, g2⟩ := runWith_sim c hc ops hEnc hcl hnt sched1 sched2 h1 h2 _ _ (Sim.init c)
  obtain ⟨_, _, a3⟩ := commitW_complete c hc .det (fun _ => false) (fun _ => rfl) [] []
    (runWith c (St.init : St σ β) (ops.zip sched1)).1 g2.inv1 g2.ne1
  obtain ⟨_, _, b3⟩ := commitW_complete c hc .det (fun _ => false) (fun _ => rfl) [] []
    (runWith c (St.init : St σ β) (ops.zip sched2)).1 g2.inv2 g2.ne2
  show AList.find? (commitW c .det (fun _ => false) [] []
      (runWith c (St.init : St σ β) (ops.zip sched1)).1).st.base id =
    AList.find? (commitW c .det (fun _ => false) [] []
      (runWith c (St.init : St σ β) (ops.zip sched2)).1).st.base id
  rw [a3 id, b3 id, g2.target id]

/-- A total encoder is a special case of `StoresEncodable`. -/
theorem storesEncodable_of_total (hEnc : ∀ v : σ, (c.enc v).isSome) (ops : List (Op σ)) :
    StoresEncodable c ops := by
  intro op _
  cases op <;> first | exact hEnc _ | trivial

/-! ### Non-vacuity

A 5-operation client history is run under two different maintenance schedules (none at all, versus
cache drops, commits of both kinds and reopen-from-ledger between the operations); the theorems are
instantiated on it and compared with direct evaluation of the model. -/
section NonVacuity
open Atree.Example

deriving instance DecidableEq for Obs

def exHist : List (Op Nat) :=
  [.genID 1, .store ⟨1, 1⟩ 5, .store ⟨1, 2⟩ 6, .remove ⟨1, 2⟩, .retrieve ⟨1, 1⟩]

/-- no maintenance at all -/
def schedA : List (List Maint) := [[], [], [], [], []]
/-- maintenance before every operation -/
def schedB : List (List Maint) :=
  [[.dropCache], [.commit .det [] []], [.commitAndReopen], [.commit .nondet [⟨1, 2⟩] [], .dropCache],
   [.commitAndReopen, .dropCache]]

theorem natEnc : ∀ v : Nat, (natCodec.enc v).isSome := fun _ => rfl

/-- a PARTIAL codec on `Nat` (the encoder refuses 13), as real codecs are: the theorems apply to it
    for histories that do not store 13, and the hypothesis is necessary (see the last example). -/
def oddCodec : Codec Nat Nat := { natCodec with enc := fun v => if v = 13 then none else some v }
theorem oddCodec_roundTrip : RoundTrip oddCodec := by
  intro id v b h
  simp only [oddCodec] at h
  split at h
  · cases h
  · cases h; rfl
theorem exHist_enc : StoresEncodable oddCodec exHist := by
  intro op hop
  simp only [exHist, List.mem_cons, List.not_mem_nil, or_false] at hop
  rcases hop with rfl | rfl | rfl | rfl | rfl <;> first | trivial | decide
example : ¬ (∀ v : Nat, (oddCodec.enc v).isSome) := fun h => by have := h 13; revert this; decide

example : (∀ op ∈ exHist, clientOp op = true) ∧ schedA.length = exHist.length ∧
    schedB.length = exHist.length := by decide
theorem exHist_noTemp : NoTemp exHist := by
  intro op hop
  simp only [exHist, List.mem_cons, List.not_mem_nil, or_false] at hop
  rcases hop with rfl | rfl | rfl | rfl | rfl <;> simp [SlabID.isTemp]

/-- The two runs are internally very different: under `schedA` nothing ever reaches the ledger and
    everything is pending, under `schedB` the write set is empty and the ledger holds `1.1`. -/
example :
    let r1 := runWith natCodec (St.init : St Nat Nat) (exHist.zip schedA)
    let r2 := runWith natCodec (St.init : St Nat Nat) (exHist.zip schedB)
    r1.1.base = [] ∧ r1.1.deltas = [(⟨1, 2⟩, none), (⟨1, 1⟩, some 5)] ∧
    r2.1.base = [(⟨1, 1⟩, 5)] ∧ r2.1.deltas = [] ∧ r2.1.cache = [(⟨1, 1⟩, some 5)] := by decide +kernel

/-- … yet the observations and the final views agree (evaluation, then the theorem's instance). -/
example :
    let r1 := runWith natCodec (St.init : St Nat Nat) (exHist.zip schedA)
    let r2 := runWith natCodec (St.init : St Nat Nat) (exHist.zip schedB)
    r1.2 = [.id ⟨1, 1⟩, .unit, .unit, .unit, .slab (some 5)] ∧ r2.2 = r1.2 ∧
    r1.1.view natCodec ⟨1, 1⟩ = some 5 ∧ r2.1.view natCodec ⟨1, 1⟩ = some 5 ∧
    r1.1.view natCodec ⟨1, 2⟩ = none ∧ r2.1.view natCodec ⟨1, 2⟩ = none := by decide +kernel
example := schedule_independent_outcomes natCodec roundTrip exHist (storesEncodable_of_total natCodec natEnc _)
  (by decide) exHist_noTemp schedA schedB rfl rfl
example := schedule_independent_outcomes oddCodec oddCodec_roundTrip exHist exHist_enc
  (by decide) exHist_noTemp schedA schedB rfl rfl

/-- `schedule_independent_ledger`: after a final commit both ledgers hold exactly `1.1 ↦ 5`. -/
example :
    let f1 := ((runWith natCodec (St.init : St Nat Nat) (exHist.zip schedA)).1.fastCommit natCodec (fun _ => false)).st
    let f2 := ((runWith natCodec (St.init : St Nat Nat) (exHist.zip schedB)).1.fastCommit natCodec (fun _ => false)).st
    f1.base = [(⟨1, 1⟩, 5)] ∧ f2.base = [(⟨1, 1⟩, 5)] := by decide +kernel
example := schedule_independent_ledger natCodec roundTrip exHist (storesEncodable_of_total natCodec natEnc _)
  (by decide) exHist_noTemp schedA schedB rfl rfl
example := schedule_independent_ledger oddCodec oddCodec_roundTrip exHist exHist_enc
  (by decide) exHist_noTemp schedA schedB rfl rfl

/-- `StoresEncodable` is a necessary hypothesis: if the history stores a slab the encoder refuses,
    a commit-and-reopen in the schedule fails to persist it and the read that follows sees the
    schedule (without maintenance the slab is served from the write set). -/
example :
    let hist : List (Op Nat) := [.store ⟨1, 1⟩ 13, .retrieve ⟨1, 1⟩]
    (runWith oddCodec (St.init : St Nat Nat) (hist.zip [[], []])).2 = [.unit, .slab (some 13)] ∧
    (runWith oddCodec (St.init : St Nat Nat) (hist.zip [[], [.commitAndReopen]])).2 = [.unit, .slab none] := by
  decide

/-- `NoTemp` is a necessary hypothesis: a slab stored under the temporary address is forgotten by
    a reopen, so the read that follows observes the schedule. -/
example :
    let hist : List (Op Nat) := [.store ⟨0, 1⟩ 8, .retrieve ⟨0, 1⟩]
    (runWith natCodec (St.init : St Nat Nat) (hist.zip [[], []])).2 = [.unit, .slab (some 8)] ∧
    (runWith natCodec (St.init : St Nat Nat) (hist.zip [[], [.commitAndReopen]])).2 = [.unit, .slab none] := by
  decide

/-- `reload_is_identity` on `exSt` for every kind of maintenance action (the pending store `1.1`,
    the pending deletion `1.2` of a committed register, the cached `1.3`, the committed `1.4`). -/
example : ∀ m ∈ [Maint.commit .det [] [], .commit .nondet [] [], .dropCache, .commitAndReopen],
    ∀ id ∈ [(⟨1, 1⟩ : SlabID), ⟨1, 2⟩, ⟨1, 3⟩, ⟨1, 4⟩],
      (applyMaint natCodec exSt m).view natCodec id = exSt.view natCodec id := by decide +kernel
example := reload_is_identity natCodec roundTrip exSt inv (noEncodeFailure exSt) .commitAndReopen ⟨1, 2⟩ rfl
/-- … and the restriction to owned identifiers is necessary for `commitAndReopen`. -/
example : exSt.view natCodec ⟨0, 1⟩ = some 8 ∧
    (applyMaint natCodec exSt .commitAndReopen).view natCodec ⟨0, 1⟩ = none := by decide

end NonVacuity

end Atree.C08

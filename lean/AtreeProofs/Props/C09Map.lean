import AtreeProofs.MapHeapSpec
import AtreeProofs.MapInv
import AtreeProofs.MapLemmas
import AtreeProofs.Map.EffectsLog
import AtreeProofs.Map.Example
import AtreeProofs.Props.C09
/-
  C09 (maps) — the storage calls a map operation makes are a COMPLETE account of how its slab
  tree (data slabs, index slabs, external collision-group slabs) changed; emptying a map releases
  every auxiliary slab.  Same shape as C09.lean for arrays.

  Hypothesis `MIdsOk m`: the slab IDs of the map (data slabs, index slabs AND external
  collision-group slabs) are pairwise distinct.
  `MapInv` does not say so, and without it `set_effects_complete` / `remove_effects_complete` are
  false (two external groups that share an ID: collapsing one removes the ID that the other still
  uses — see `Counterexample` below).  `MIdsOk` holds for a new map and is preserved by `set` and
  `remove` (`new_idsOk`, `set_preserves_idsOk`, `remove_preserves_idsOk`), so it holds in every
  reachable state.  `allocated_ids_fresh` and `pop_releases_all` do not need it.

  Proofs: `AtreeProofs/Map/Effects*.lean` (generic accounting `MAcct` with owner addresses and ID
  multiplicities, elements layer, first level of a data slab, repair steps of an index slab,
  induction over the depth, root fix-up, pop).
-/
namespace Atree.C09Map
open Atree Gen

def newEffects (c c' : Ctx) : List Eff := c'.eff.drop c.eff.length
def newCreated (c c' : Ctx) : List SlabID := (c'.created.drop c.created.length).map (·.1)

variable {r : Nat}

/-- `newEffects` / `newCreated` are what a run appended (`Log`) -/
theorem newEffects_of_log {c c' : Ctx} {E : List Eff} {C : List (SlabID × Elem)} (h : Log c c' E C) :
    c'.eff = c.eff ++ newEffects c c' ∧ newEffects c c' = E ∧ newCreated c c' = C.map (·.1) :=
  C09.newEffects_of_log h

/-- A new map has distinct slab IDs. -/
theorem new_idsOk (addr ty : Nat) (seedOf : SlabID → Nat) (c : Ctx) :
    MIdsOk (OMap.new (r := r) addr ty seedOf c).1 :=
  MIdsOk.new addr ty seedOf c

theorem set_effects_complete (T : Nat) (hT : legalThreshold T = true) (D : DigestFn (r + 1)) (cfg : MCfg) (m : OMap r)
    (hcfg : CfgOk cfg T m) (h : MapInv T D m) (hids : MIdsOk m) (k : MKey) (hk : KeyOk T (r + 1) D k)
    (v : Elem) (hv : ValueOkM v) (c : Ctx) (hc : CtxOk m c)
    (old : Option Elem) (m' : OMap r) (c' : Ctx) (hr : m.set cfg k v c = .ok (old, m', c')) :
    c'.eff = c.eff ++ newEffects c c' ∧ MEffectsComplete m m' (newEffects c c') (newCreated c c') := by
  obtain ⟨E, C, hlog, hacct, hroot, hrid⟩ := omap_set_acct hT hcfg h hk hv c hc hids hr
  obtain ⟨h1, h2, h3⟩ := newEffects_of_log hlog.toLog
  refine ⟨h1, ?_⟩
  rw [h2, h3]
  exact mEffectsComplete_of_acct hacct hids hrid hroot

/-- `set` preserves the distinctness of the slab IDs. -/
theorem set_preserves_idsOk (T : Nat) (hT : legalThreshold T = true) (D : DigestFn (r + 1)) (cfg : MCfg) (m : OMap r)
    (hcfg : CfgOk cfg T m) (h : MapInv T D m) (hids : MIdsOk m) (k : MKey) (hk : KeyOk T (r + 1) D k)
    (v : Elem) (hv : ValueOkM v) (c : Ctx) (hc : CtxOk m c)
    (old : Option Elem) (m' : OMap r) (c' : Ctx) (hr : m.set cfg k v c = .ok (old, m', c')) : MIdsOk m' := by
  obtain ⟨E, C, _, hacct, _⟩ := omap_set_acct hT hcfg h hk hv c hc hids hr
  exact hacct.nodup hids

theorem remove_effects_complete (T : Nat) (hT : legalThreshold T = true) (D : DigestFn (r + 1)) (cfg : MCfg) (m : OMap r)
    (hcfg : CfgOk cfg T m) (h : MapInv T D m) (hids : MIdsOk m) (k : MKey) (hk : KeyOk T (r + 1) D k) (c : Ctx)
    (hc : CtxOk m c)
    (k0 : MKey) (v0 : Elem) (m' : OMap r) (c' : Ctx) (hr : m.remove cfg k c = .ok (k0, v0, m', c')) :
    c'.eff = c.eff ++ newEffects c c' ∧ MEffectsComplete m m' (newEffects c c') (newCreated c c') := by
  obtain ⟨E, C, hlog, hacct, hroot, hrid⟩ := omap_remove_acct hT hcfg h hk c hc hids hr
  obtain ⟨h1, h2, h3⟩ := newEffects_of_log hlog.toLog
  refine ⟨h1, ?_⟩
  rw [h2, h3]
  exact mEffectsComplete_of_acct hacct hids hrid hroot

/-- `remove` preserves the distinctness of the slab IDs. -/
theorem remove_preserves_idsOk (T : Nat) (hT : legalThreshold T = true) (D : DigestFn (r + 1)) (cfg : MCfg) (m : OMap r)
    (hcfg : CfgOk cfg T m) (h : MapInv T D m) (hids : MIdsOk m) (k : MKey) (hk : KeyOk T (r + 1) D k) (c : Ctx)
    (hc : CtxOk m c)
    (k0 : MKey) (v0 : Elem) (m' : OMap r) (c' : Ctx) (hr : m.remove cfg k c = .ok (k0, v0, m', c')) : MIdsOk m' := by
  obtain ⟨E, C, _, hacct, _⟩ := omap_remove_acct hT hcfg h hk c hc hids hr
  exact hacct.nodup hids

/-- Emptying a map releases every slab except the root (children of index slabs and external
    collision groups included), and the root is rewritten. -/
theorem pop_releases_all (T : Nat) (hT : legalThreshold T = true) (D : DigestFn (r + 1)) (m : OMap r)
    (h : MapInv T D m) (c : Ctx) (hc : CtxOk m c) :
    let res := m.popIterate c
    MEffectsComplete m res.2.1 (newEffects c res.2.2) [] ∧
    (MTree.slabs res.2.1.d res.2.1.root).map (·.1) = [m.rootID] ∧
    ∀ id ∈ (MTree.slabs m.d m.root).map (·.1), id ≠ m.rootID → lastAction (newEffects c res.2.2) id = some false := by
  intro res
  have _ := hT
  have _ := hc
  obtain ⟨E, heff, _, _⟩ := omap_pop_log m c h.standalone
  have hnew : newEffects c res.2.2 = E ++ [.store m.rootID] := by
    unfold newEffects
    show (m.popIterate c).2.2.eff.drop _ = _
    rw [heff, List.append_assoc]; exact List.drop_left
  rw [hnew]
  obtain ⟨hc, hg⟩ := omap_pop_complete m c h.standalone heff
  exact ⟨hc, rfl, hg⟩

/-- Slab IDs handed out during a set are fresh. -/
theorem allocated_ids_fresh (T : Nat) (hT : legalThreshold T = true) (D : DigestFn (r + 1)) (cfg : MCfg) (m : OMap r)
    (hcfg : CfgOk cfg T m) (h : MapInv T D m) (k : MKey) (hk : KeyOk T (r + 1) D k)
    (v : Elem) (hv : ValueOkM v) (c : Ctx) (hc : CtxOk m c)
    (old : Option Elem) (m' : OMap r) (c' : Ctx) (hr : m.set cfg k v c = .ok (old, m', c')) :
    ∀ addr id, Eff.alloc addr id ∈ newEffects c c' → id ∉ (MTree.slabs m.d m.root).map (·.1) ∧ c.ctr < id.idx ∧ id.idx ≤ c'.ctr := by
  obtain ⟨_, E, heff, hall⟩ := omap_set_alog hcfg h hr
  have hE : newEffects c c' = E := by
    unfold newEffects; rw [heff]; exact List.drop_left
  rw [hE]
  intro addr id hmem
  obtain ⟨ha, h3, h4⟩ := hall addr id hmem
  refine ⟨fun hin => ?_, h3, h4⟩
  have := old_of_ctxOk hc id hin ha
  omega

/-! ### Non-vacuity

Concrete runs of the model on the example map of `AtreeProofs/Map/Example.lean` (`r = 1`, T = 256,
owner address 7): what `newEffects` is (by `decide`), and `MEffectsComplete` for these runs,
obtained from the theorems above (their hypotheses are satisfiable: `Good`, `MIdsOk` by `decide`). -/
section NonVacuity
open MapExample

/-! The states below are written out once (`s7_eq`, …) and then sealed: `s.1.root : MTree 1 s.1.d`,
so merely elaborating a statement about the root of an unsealed state runs the requests again (to
see whether that type is a function type), and so does every `decide` that starts from `s`. -/

/-- the colliding keys `es` (`sz` bytes) of one first-level digest as a group of their own … -/
def grp (es : List SElem) (sz : Nat) : HkeyElems SingleElems := ⟨[1], [.inl ⟨es, sz, 2⟩], sz + 18, 1⟩
/-- … in the external collision-group slab `7.2` -/
def ext2 (es : List SElem) (sz : Nat) : MElemF (HkeyElems SingleElems) :=
  .ext ⟨7, 2⟩ 21 ⟨⟨⟨7, 2⟩, sz + 36, 1⟩, grp es sz⟩
/-- a single root data slab `7.1` with `n` entries in `sz` bytes: an inline group under digest 1,
    key 211 under digest 2, then `es` under the digests `hs` -/
def mapOf (hs : List Nat) (es : List (MElemF (HkeyElems SingleElems))) (sz n : Nat) : OMap 1 :=
  ⟨0, (⟨⟨⟨7, 1⟩, sz + 2, 1⟩, ⟨0, 0⟩,
    ⟨1 :: 2 :: hs, .inl ⟨[1, 2], [.inl ⟨[se 111 2, se 112 3], 48, 2⟩, .single (se 121 4)], 95, 1⟩
      :: .single (se 211 1) :: es, sz, 0⟩, true, false⟩ : MDataSlab 1), 0, n, 1⟩
/-- the four keys colliding under digest 3 -/
def k3 : List SElem := [se 311 5, se 312 6, se 313 7, se 314 8]
/-- the storage calls up to `s8` -/
def log8 : List Eff :=
  .alloc 7 ⟨7, 1⟩ :: List.replicate 8 (.store ⟨7, 1⟩) ++ [.alloc 7 ⟨7, 2⟩, .store ⟨7, 2⟩, .store ⟨7, 1⟩]

/-- seven insertions into the root data slab `7.1`: an inline group under digest 1, a single
    element under digest 2, and an inline group with the colliding keys 311, 312, 313 under digest 3 -/
def s7 : OMap 1 × Ctx :=
  let s := st0
  let s := stepSet cfg2 s (key 211) (val 1)
  let s := stepSet cfg2 s (key 111) (val 2)
  let s := stepSet cfg2 s (key 112) (val 3)
  let s := stepSet cfg2 s (key 121) (val 4)
  let s := stepSet cfg2 s (key 311) (val 5)
  let s := stepSet cfg2 s (key 312) (val 6)
  stepSet cfg2 s (key 313) (val 7)

theorem s7_good : Good 256 D2 cfg2 s7 := by
  unfold s7
  simp only
  iterate 7 refine Good.set legal256 ?_ (key_ok _) (val_ok _)
  exact Good.new legal256 rfl rfl _ _ _

theorem s7_eq : s7 = (mapOf [3] [.inl (grp (k3.take 3) 69)] 239 7, ⟨1, log8.take 9, []⟩) := by rfl
attribute [local irreducible] s7 run

example : kinds s7.1 = ["inline", "single", "inline"] := by rw [s7_eq]; decide +kernel
example : (MTree.slabs s7.1.d s7.1.root).map (·.1) = [⟨7, 1⟩] := by rw [s7_eq]; decide +kernel
theorem s7_ids : MIdsOk s7.1 := by rw [s7_eq]; decide +kernel

/-- the fourth colliding key makes the inline group under digest 3 too large: it is EXPORTED to a
    new external collision-group slab `7.2` (allocated, stored), and the data slab is stored -/
def s8 : OMap 1 × Ctx := stepSet cfg2 s7 (key 314) (val 8)
def v8 : OMap 1 × Ctx := (mapOf [3] [ext2 k3 90] 171 8, ⟨2, log8, []⟩)
theorem step8v : s7.1.set cfg2 (key 314) (val 8) s7.2 = .ok (none, v8.1, v8.2) := by rw [s7_eq]; rfl
theorem s8_eq : s8 = v8 := stepSet_of_ok step8v
theorem step8 : s7.1.set cfg2 (key 314) (val 8) s7.2 = .ok (none, s8.1, s8.2) := s8_eq ▸ step8v
theorem s8_good : Good 256 D2 cfg2 s8 := Good.set legal256 s7_good (key_ok _) (val_ok _)
attribute [local irreducible] s8

example : kinds s8.1 = ["inline", "single", "external"] := by rw [s8_eq]; decide +kernel
example : (MTree.slabs s8.1.d s8.1.root).map (·.1) = [⟨7, 1⟩, ⟨7, 2⟩] := by rw [s8_eq]; decide +kernel
example : newEffects s7.2 s8.2 = [.alloc 7 ⟨7, 2⟩, .store ⟨7, 2⟩, .store ⟨7, 1⟩] := by rw [s7_eq, s8_eq]; decide +kernel
example : newCreated s7.2 s8.2 = [] := by rw [s7_eq, s8_eq]; decide +kernel
example : [⟨7, 1⟩, ⟨7, 2⟩].map (lastAction (newEffects s7.2 s8.2)) = [some true, some true] := by
  rw [s7_eq, s8_eq]; decide +kernel
example : MEffectsComplete s7.1 s8.1 (newEffects s7.2 s8.2) (newCreated s7.2 s8.2) :=
  (set_effects_complete 256 legal256 D2 cfg2 s7.1 s7_good.cfgok s7_good.inv s7_ids (key 314) (key_ok _)
    (val 8) (val_ok _) s7.2 s7_good.ctx none s8.1 s8.2 step8).2
example : ∀ addr id, Eff.alloc addr id ∈ newEffects s7.2 s8.2 →
    id ∉ (MTree.slabs s7.1.d s7.1.root).map (·.1) ∧ s7.2.ctr < id.idx ∧ id.idx ≤ s8.2.ctr :=
  allocated_ids_fresh 256 legal256 D2 cfg2 s7.1 s7_good.cfgok s7_good.inv (key 314) (key_ok _)
    (val 8) (val_ok _) s7.2 s7_good.ctx none s8.1 s8.2 step8
theorem s8_ids : MIdsOk s8.1 :=
  set_preserves_idsOk 256 legal256 D2 cfg2 s7.1 s7_good.cfgok s7_good.inv s7_ids (key 314) (key_ok _)
    (val 8) (val_ok _) s7.2 s7_good.ctx none s8.1 s8.2 step8

/-- a set that goes through the external group rewrites the group slab and the data slab -/
def s9 : OMap 1 × Ctx := stepSet cfg2 s8 (key 313) (val 70)
def v9 : OMap 1 × Ctx :=
  (mapOf [3] [ext2 (k3.set 2 (se 313 70)) 90] 171 8, ⟨2, log8 ++ [.store ⟨7, 2⟩, .store ⟨7, 1⟩], []⟩)
theorem step9v : s8.1.set cfg2 (key 313) (val 70) s8.2 = .ok (some (val 7), v9.1, v9.2) := by rw [s8_eq]; rfl
theorem s9_eq : s9 = v9 := stepSet_of_ok step9v
theorem step9 : s8.1.set cfg2 (key 313) (val 70) s8.2 = .ok (some (val 7), s9.1, s9.2) := s9_eq ▸ step9v
attribute [local irreducible] s9
example : newEffects s8.2 s9.2 = [.store ⟨7, 2⟩, .store ⟨7, 1⟩] := by rw [s8_eq, s9_eq]; decide +kernel
example : MEffectsComplete s8.1 s9.1 (newEffects s8.2 s9.2) (newCreated s8.2 s9.2) :=
  (set_effects_complete 256 legal256 D2 cfg2 s8.1 s8_good.cfgok s8_good.inv s8_ids (key 313) (key_ok _)
    (val 70) (val_ok _) s8.2 s8_good.ctx _ s9.1 s9.2 step9).2

/-- removing three of the four colliding keys: the last removal leaves a single element in the
    external group, which COLLAPSES — the group slab `7.2` is stored one last time and removed -/
def r2 : OMap 1 × Ctx := stepRemove cfg2 (stepRemove cfg2 s8 (key 314)) (key 313)
theorem r2_good : Good 256 D2 cfg2 r2 :=
  Good.remove legal256 (Good.remove legal256 s8_good (key_ok _)) (key_ok _)
theorem r2_eq : r2 = (mapOf [3] [ext2 (k3.take 2) 48] 171 6,
    ⟨2, log8 ++ [.store ⟨7, 2⟩, .store ⟨7, 1⟩, .store ⟨7, 2⟩, .store ⟨7, 1⟩], []⟩) := by
  unfold r2; rw [s8_eq]; rfl
attribute [local irreducible] r2
theorem r2_ids : MIdsOk r2.1 := by rw [r2_eq]; decide +kernel
def r3 : OMap 1 × Ctx := stepRemove cfg2 r2 (key 312)
def w3 : OMap 1 × Ctx :=
  (mapOf [3] [.single (se 311 5)] 171 5, ⟨2, log8 ++ [.store ⟨7, 2⟩, .store ⟨7, 1⟩, .store ⟨7, 2⟩,
    .store ⟨7, 1⟩, .store ⟨7, 2⟩, .remove ⟨7, 2⟩, .store ⟨7, 1⟩], []⟩)
theorem stepRv : r2.1.remove cfg2 (key 312) r2.2 = .ok (key 312, val 6, w3.1, w3.2) := by rw [r2_eq]; rfl
theorem r3_eq : r3 = w3 := stepRemove_of_ok stepRv
theorem stepR : r2.1.remove cfg2 (key 312) r2.2 = .ok (key 312, val 6, r3.1, r3.2) := r3_eq ▸ stepRv
attribute [local irreducible] r3

example : kinds r2.1 = ["inline", "single", "external"] := by rw [r2_eq]; decide +kernel
example : kinds r3.1 = ["inline", "single", "single"] := by rw [r3_eq]; decide +kernel
example : (MTree.slabs r3.1.d r3.1.root).map (·.1) = [⟨7, 1⟩] := by rw [r3_eq]; decide +kernel
example : newEffects r2.2 r3.2 = [.store ⟨7, 2⟩, .remove ⟨7, 2⟩, .store ⟨7, 1⟩] := by rw [r2_eq, r3_eq]; decide +kernel
example : [⟨7, 1⟩, ⟨7, 2⟩].map (lastAction (newEffects r2.2 r3.2)) = [some true, some false] := by
  rw [r2_eq, r3_eq]; decide +kernel
example : MEffectsComplete r2.1 r3.1 (newEffects r2.2 r3.2) (newCreated r2.2 r3.2) :=
  (remove_effects_complete 256 legal256 D2 cfg2 r2.1 r2_good.cfgok r2_good.inv r2_ids (key 312) (key_ok _)
    r2.2 r2_good.ctx _ _ r3.1 r3.2 stepR).2

/-- the large example map `run` (index slab root `7.1` over the data slabs `7.3` and `7.4`, one
    external group `7.2` referenced from `7.3`): emptying it removes all of them and rewrites the root -/
example : (MTree.slabs run.1.d run.1.root).map (·.1) = [⟨7, 1⟩, ⟨7, 3⟩, ⟨7, 2⟩, ⟨7, 4⟩] := by rw [run_eq]; decide +kernel
example : MIdsOk run.1 := by rw [run_eq]; decide +kernel
example : newEffects run.2 (run.1.popIterate run.2).2.2
    = [.remove ⟨7, 4⟩, .remove ⟨7, 2⟩, .remove ⟨7, 3⟩, .store ⟨7, 1⟩] := by rw [run_eq]; decide +kernel
example : MEffectsComplete run.1 (run.1.popIterate run.2).2.1 (newEffects run.2 (run.1.popIterate run.2).2.2) [] :=
  (pop_releases_all 256 legal256 D2 run.1 run_good.inv run.2 run_good.ctx).1

end NonVacuity

/-! ### Why `MIdsOk` is needed

`MapInv` and `CtxOk` do not exclude two external collision groups with the same slab ID.  Such a
map is built here by running the model with a reset allocation counter (so that the second export
re-issues the ID `7.2`); it satisfies `MapInv`, `CtxOk` (for a large enough counter) and `CfgOk`.
Collapsing one of the two groups removes slab `7.2` although the other group still lives there:
`remove_effects_complete` WITHOUT the hypothesis `MIdsOk` is false. -/
section Counterexample
open MapExample

/-- `OMap.set` preserves `MapInv` whatever the allocation counter is (`OMap.set_spec` asks for no `CtxOk`) -/
theorem set_inv_any_ctx {T : Nat} (hT : legalThreshold T = true) {D : DigestFn (r + 1)} {cfg : MCfg} {m : OMap r}
    (hcfg : CfgOk cfg T m) (h : MapInv T D m) {k : MKey} (hk : KeyOk T (r + 1) D k) {v : Elem} (hv : ValueOkM v)
    (c : Ctx) : MapInv T D (stepSet cfg (m, c) k v).1 ∧ (stepSet cfg (m, c) k v).1.rootID = m.rootID := by
  have hs := OMap.set_spec hT hcfg h hk hv c
  unfold stepSet
  by_cases hl : TLimited cfg m.d m.root k
  · rw [show (m, c).1.set cfg k v (m, c).2 = _ from hs.1 hl]; exact ⟨h, rfl⟩
  · obtain ⟨old, m', c', heq, hp⟩ := hs.2 hl
    rw [show (m, c).1.set cfg k v (m, c).2 = _ from heq]; exact ⟨hp.inv, hp.rootID⟩

/-- `s8` (external group `7.2` under digest 3) plus three colliding keys under digest 5 -/
def b0 : OMap 1 × Ctx :=
  stepSet cfg2 (stepSet cfg2 (stepSet cfg2 s8 (key 511) (val 21)) (key 512) (val 22)) (key 513) (val 23)
theorem b0_good : Good 256 D2 cfg2 b0 := by
  unfold b0
  iterate 3 refine Good.set legal256 ?_ (key_ok _) (val_ok _)
  exact s8_good

/-- the fourth colliding key under digest 5, inserted with the allocation counter RESET to 1: the
    exported group gets the ID `7.2` a second time -/
def b1 : OMap 1 := (stepSet cfg2 (b0.1, { ctr := 1, eff := [], created := [] }) (key 514) (val 24)).1
def c10 : Ctx := { ctr := 10, eff := [], created := [] }

/-- the four keys colliding under digest 5 -/
def k5 : List SElem := [se 511 21, se 512 22, se 513 23, se 514 24]
theorem b1_eq : b1 = mapOf [3, 5] [ext2 k3 90, ext2 k5 90] 200 12 := by unfold b1 b0; rw [s8_eq]; rfl

attribute [local irreducible] b1

theorem b1_good : Good 256 D2 cfg2 (b1, c10) := by
  have hc : CtxOk b1 c10 := by rw [b1_eq]; unfold CtxOk CtxOk.Dump_ids; decide +kernel
  have ha : cfg2.addr = b1.addr := by rw [b1_eq]; rfl
  have h : MapInv 256 D2 b1 := by
    have := (set_inv_any_ctx legal256 b0_good.cfgok b0_good.inv (key_ok 514) (val_ok 24) ⟨1, [], []⟩).1
    unfold b1; exact this
  exact @Good.mk 1 256 D2 cfg2 (b1, c10) h hc ⟨rfl, rfl, ha⟩

example : kinds b1 = ["inline", "single", "external", "external"] := by rw [b1_eq]; decide +kernel
example : (MTree.slabs b1.d b1.root).map (·.1) = [⟨7, 1⟩, ⟨7, 2⟩, ⟨7, 2⟩] := by rw [b1_eq]; decide +kernel
example : ¬ MIdsOk b1 := by rw [b1_eq]; decide +kernel

/-- two of the four keys of the second group are removed … -/
def b3 : OMap 1 × Ctx := stepRemove cfg2 (stepRemove cfg2 (b1, c10) (key 514)) (key 513)
theorem b3_good : Good 256 D2 cfg2 b3 :=
  Good.remove legal256 (Good.remove legal256 b1_good (key_ok _)) (key_ok _)
theorem b3_eq : b3 = (mapOf [3, 5] [ext2 k3 90, ext2 (k5.take 2) 48] 200 10,
    ⟨10, [.store ⟨7, 2⟩, .store ⟨7, 1⟩, .store ⟨7, 2⟩, .store ⟨7, 1⟩], []⟩) := by
  unfold b3; rw [b1_eq]; rfl
attribute [local irreducible] b3

/-- … and the third removal collapses the second group: slab `7.2` is removed -/
def b4 : OMap 1 × Ctx := stepRemove cfg2 b3 (key 512)
def u4 : OMap 1 × Ctx :=
  (mapOf [3, 5] [ext2 k3 90, .single (se 511 21)] 200 9, ⟨10, [.store ⟨7, 2⟩, .store ⟨7, 1⟩, .store ⟨7, 2⟩,
    .store ⟨7, 1⟩, .store ⟨7, 2⟩, .remove ⟨7, 2⟩, .store ⟨7, 1⟩], []⟩)
theorem stepBv : b3.1.remove cfg2 (key 512) b3.2 = .ok (key 512, val 22, u4.1, u4.2) := by rw [b3_eq]; rfl
theorem b4_eq : b4 = u4 := stepRemove_of_ok stepBv
theorem stepB : b3.1.remove cfg2 (key 512) b3.2 = .ok (key 512, val 22, b4.1, b4.2) := b4_eq ▸ stepBv
attribute [local irreducible] b4

example : kinds b3.1 = ["inline", "single", "external", "external"] := by rw [b3_eq]; decide +kernel
example : kinds b4.1 = ["inline", "single", "external", "single"] := by rw [b4_eq]; decide +kernel
example : newEffects b3.2 b4.2 = [.store ⟨7, 2⟩, .remove ⟨7, 2⟩, .store ⟨7, 1⟩] := by rw [b3_eq, b4_eq]; decide +kernel
/-- … although the first group still lives under that ID -/
example : (b4.1.slabAt ⟨7, 2⟩).isSome = true := by rw [b4_eq]; decide +kernel

/-- `remove_effects_complete` without `MIdsOk` is false: all its other hypotheses hold for this
    removal, its conclusion does not (`removed_not_in_tree` fails for slab `7.2`). -/
theorem remove_effects_complete_needs_idsOk :
    ∃ (m : OMap 1) (c : Ctx) (k k0 : MKey) (v0 : Elem) (m' : OMap 1) (c' : Ctx),
      CfgOk cfg2 256 m ∧ MapInv 256 D2 m ∧ KeyOk 256 2 D2 k ∧ CtxOk m c ∧
      m.remove cfg2 k c = .ok (k0, v0, m', c') ∧
      ¬ MEffectsComplete m m' (newEffects c c') (newCreated c c') := by
  refine ⟨b3.1, b3.2, key 512, key 512, val 22, b4.1, b4.2, b3_good.cfgok, b3_good.inv, key_ok _, b3_good.ctx,
    stepB, ?_⟩
  intro h
  rw [b3_eq, b4_eq] at h
  exact absurd (h.removed_not_in_tree ⟨7, 2⟩ (by decide +kernel)) (by decide +kernel)

end Counterexample

end Atree.C09Map

import AtreeProofs.Props.E2EMapDispose
/-
  C09 / C05 (maps) - per-step history statement: the exact-heap statement and the invariants hold
  after EVERY prefix of a history with disposal, and the answer of the NEXT request is the
  dictionary's answer (C02).  `E2EM.map_rep_history` and `E2EMD.heap_exact_after_disposal` are stated
  for the final state of an arbitrary history; here the quantification over the prefixes is explicit
  and the observation of each request is part of the statement.  (The dictionary semantics of the
  RESOLVED values along the history is `E2EM.DictRun`, part of `heap_exact_after_disposal`; the
  list-of-observations form is `C02.run_refines`.)
-/
namespace Atree.C09Map
open Atree Gen St
open Atree.E2EM (MSSlab MOp mstored)
open Atree.E2EMD (runD live AnswerOk)

variable {β : Type} {r : Nat}

/-- the answer of a request in a good state is the dictionary's answer -/
theorem answer_ok (T : Nat) (hT : legalThreshold T = true) (D : DigestFn (r + 1)) (cfg : MCfg)
    (st : OMap r × Ctx) (hcfg : CfgOk cfg T st.1) (h : MapInv T D st.1) (hc : CtxOk st.1 st.2)
    (op : MOp) (hop : op.Ok T D) : AnswerOk cfg st op := by
  obtain ⟨m, c⟩ := st
  cases op with
  | set k v =>
    rcases C02.set_refines T hT D cfg m hcfg h k hop.1 v hop.2 c hc with
      ⟨old, m', c', heq, hold, _⟩ | ⟨herr, hnone⟩
    · exact Or.inl ⟨m', c', by rw [heq, hold]⟩
    · exact Or.inr ⟨herr, hnone⟩
  | remove k =>
    have := C02.remove_refines T hT D cfg m hcfg h k hop c hc
    show match dictLookup m.toList k with
      | none => m.remove cfg k c = .error .keyNotFound
      | some w => ∃ k0 m' c', m.remove cfg k c = .ok (k0, w, m', c') ∧ k0.same k = true
    cases hd : dictLookup m.toList k with
    | none => rw [hd] at this; exact this
    | some w =>
      rw [hd] at this
      obtain ⟨k0, m', c', heq, hk0, _⟩ := this
      exact ⟨k0, m', c', heq, hk0⟩
  | popIterate => exact (C02.pop_refines T hT D m h c hc).1
  | setType ty => trivial

/-- Every prefix.  For every history `ops` (set / remove / popIterate / setType; refused requests
    included) issued to a new map on an empty storage by a caller that disposes of every reference
    handed back, and EVERY split `ops = pre ++ suf`: in the state after `pre`
    * the model state is `runM … pre`, the root id is the one allocated by `NewMap`,
    * `MapInv`, `MIdsOk`, `MRefsOk`, `CtxOk`, `MAddrOk`, the storage invariant `Inv` hold,
    * for EVERY id of the owner's address the storage's view is the tree slab with that id, else the
      large-value slab referenced by a CURRENT pair, else nothing (`live` characterised as in
      `E2EMD.heap_exact_after_disposal`),
    * the answer of the NEXT request (the head of `suf`) is the dictionary's answer (`AnswerOk`). -/
theorem history_heap_exact_every_prefix (c : Codec (MSSlab r) β) (hc : RoundTrip c) (T : Nat)
    (hT : legalThreshold T = true) (D : DigestFn (r + 1)) (cfg : MCfg) (hcT : cfg.T = T)
    (hcL : cfg.L = r + 1) (haddr : cfg.addr ≠ 0) (ty : Nat) (seedOf : SlabID → Nat)
    (ops : List MOp) (hops : ∀ op ∈ ops, op.Ok T D) (pre suf : List MOp) (hsplit : ops = pre ++ suf) :
    let x := runD c cfg (E2EM.newS c cfg.addr ty seedOf) pre
    let m := x.1.1
    let ctx := x.1.2
    let s := x.2
    x.1 = E2EM.runM cfg (OMap.new (r := r) cfg.addr ty seedOf ⟨0, [], []⟩) pre ∧
    m.rootID = ⟨cfg.addr, 1⟩ ∧
    MapInv T D m ∧ MIdsOk m ∧ MRefsOk m ctx.ctr ∧ CtxOk m ctx ∧ E2EM.MAddrOk m ∧ Inv c s ∧
    (∀ id, id.addr = cfg.addr → s.view c id = mstored m (live x.1) id) ∧
    (∀ id v, live x.1 id = some v ↔
      (∃ p ∈ m.toList, p.2.pay = .ref id) ∧ AList.find? ctx.created id = some v) ∧
    (∀ p ∈ m.toList, ∀ id, p.2.pay = .ref id → (live x.1 id).isSome) ∧
    (∀ op rest, suf = op :: rest → AnswerOk cfg x.1 op) := by
  intro x m ctx s
  have hpre : ∀ op ∈ pre, op.Ok T D := fun op hop => hops op (by rw [hsplit]; exact List.mem_append.2 (Or.inl hop))
  obtain ⟨h1, _, h3, h4, h5, h6, h7, h8, h9, h10, h11, h12⟩ :=
    E2EMD.heap_exact_after_disposal c hc T hT D cfg hcT hcL haddr ty seedOf pre hpre
  refine ⟨h1, h9, h3, h4, h5, h6, h7, h8, h10, h11, h12, ?_⟩
  intro op rest hsuf
  have hop : op.Ok T D := hops op (by rw [hsplit, hsuf]; simp)
  have g := E2EMD.mgoodD_runD c hc T hT D cfg pre _
    (E2EMD.mgoodD_new c hc T hT D cfg hcT hcL haddr ty seedOf) hpre
  exact answer_ok T hT D cfg x.1 g.cfg g.inv g.ctx op hop

/-! ### Non-vacuity: the history `E2EMD.dhist ++ [popIterate]`, every prefix -/
section NonVacuity
open MapExample Atree.E2EM Atree.E2EMD

example (pre suf : List MOp) (h : dhist ++ [MOp.popIterate] = pre ++ suf) :=
  history_heap_exact_every_prefix idCodecM idCodecM_roundTrip 256 legal256 D2 cfg2 rfl rfl (by decide) 0
    (fun id => id.idx) (dhist ++ [MOp.popIterate]) dhist_ok pre suf h

/-- the slabs in storage (indices 1..5 of address 7) after each prefix of the history:
    new; set big (7.2); overwrite (7.3 in, 7.2 disposed); set big (7.4); set small; remove (7.4
    disposed); refused remove; pop (7.3 disposed) -/
example : (List.range 8).map (fun n =>
      [1, 2, 3, 4, 5].filter (fun i =>
        ((runD idCodecM cfg2 (newS idCodecM cfg2.addr 0 (fun id => id.idx))
          ((dhist ++ [MOp.popIterate]).take n)).2.view idCodecM ⟨7, i⟩).isSome))
    = [[1], [1, 2], [1, 3], [1, 3, 4], [1, 3, 4], [1, 3], [1, 3], [1]] := by decide +kernel

end NonVacuity

end Atree.C09Map

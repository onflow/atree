import AtreeProofs.Props.C02
import AtreeProofs.MapRefs
import AtreeProofs.Map.Refs
import AtreeProofs.Props.C09Map
import AtreeProofs.E2EMapSpec
import AtreeProofs.E2EMap.History
/-
  C09 (maps, also C02 / C05) - references to large-value slabs.

  A value above the inline limit is externalised: the pair stores `⟨19, .ref id⟩` and the value
  lives in a slab of its own.  `MapInv` / `MIdsOk` / `CtxOk` constrain the slab ids of the TREE only
  (the last example below is a map satisfying all of them in which two different keys hold the
  SAME reference `7.10`).  `MRefsOk m ctr` (`AtreeProofs/MapRefs.lean`) is
  the invariant about references: the referenced ids are pairwise different, are not slabs of the tree, are
  owned by the map's address and were handed out by the allocator (`1 ≤ idx ≤ ctr`).

  This file: `MRefsOk` holds for a new map and is preserved by `Set` (new key / overwrite, any value
  size; a refused `Set` changes nothing), `Remove`, `PopIterate`, `SetType`, with respect to the NEW
  allocation counter; what `Set` (overwrite) and `Remove` hand back is no longer referenced and is
  not a slab of the new map (ownership passes to the caller exactly once); ids allocated by `Set`
  are fresh against the tree AND the references.  Hypotheses as in `C09Map.set_effects_complete`.

  Keys are plain values in the model (`MKey.pay : Nat`), they are never references.
  Proofs: `AtreeProofs/Map/Refs.lean`.
-/
namespace Atree.C09Map
open Atree Gen

variable {r : Nat}

/-- A new map holds no reference. -/
theorem refs_new (addr ty : Nat) (seedOf : SlabID → Nat) (c : Ctx) :
    (OMap.new (r := r) addr ty seedOf c).1.refIds = [] ∧
    MRefsOk (OMap.new (r := r) addr ty seedOf c).1 (OMap.new (r := r) addr ty seedOf c).2.ctr :=
  ⟨rfl, .of_nil rfl⟩

/-- `Set` (new key or overwrite, value of any size) preserves `MRefsOk` w.r.t. the new counter.
    The references of the new map are the old ones and possibly the reference created for `v`;
    an OVERWRITTEN reference (`old = some ⟨_, .ref id⟩`) was one of the old references, is NOT a
    reference of the new map and NOT a slab of the new tree: it is handed to the caller;
    a CREATED reference is `⟨m.addr, c.ctr + 1⟩`, is held by the new map, was not referenced
    before, and is a slab neither of the old nor of the new tree; NO reference is lost: every old
    reference is still held by the map or is the one handed back. -/
theorem refs_set (T : Nat) (hT : legalThreshold T = true) (D : DigestFn (r + 1)) (cfg : MCfg) (m : OMap r)
    (hcfg : CfgOk cfg T m) (h : MapInv T D m) (hids : MIdsOk m) (k : MKey) (hk : KeyOk T (r + 1) D k)
    (v : Elem) (hv : ValueOkM v) (c : Ctx) (hc : CtxOk m c) (hrefs : MRefsOk m c.ctr)
    (old : Option Elem) (m' : OMap r) (c' : Ctx) (hr : m.set cfg k v c = .ok (old, m', c')) :
    MRefsOk m' c'.ctr ∧ c.ctr ≤ c'.ctr ∧
    (∀ id ∈ m'.refIds, id ∈ m.refIds ∨ (storedValue cfg k v c).pay = .ref id) ∧
    (∀ v0 id, old = some v0 → v0.pay = .ref id →
      id ∈ m.refIds ∧ id ∉ m'.refIds ∧ id ∉ AList.keys (MTree.slabs m'.d m'.root)) ∧
    (∀ id, (storedValue cfg k v c).pay = .ref id →
      id = ⟨m.addr, c.ctr + 1⟩ ∧ id ∈ m'.refIds ∧ id ∉ m.refIds ∧
      id ∉ AList.keys (MTree.slabs m.d m.root) ∧ id ∉ AList.keys (MTree.slabs m'.d m'.root)) ∧
    (∀ id ∈ m.refIds, id ∈ m'.refIds ∨ ∃ v0, old = some v0 ∧ v0.pay = .ref id) := by
  obtain ⟨g1, g2, g3, g4, g5, g6, _⟩ := omap_set_refs hT hcfg h hk hv c hc hids hrefs hr
  refine ⟨g1, g2, g3, g4, ?_, g6⟩
  intro id hid
  obtain ⟨q1, q2, q3, q4, q5, _⟩ := g5 id hid
  exact ⟨q1, q2, q3, q4, q5⟩

/-- A `Set` that is not carried out is refused with the collision-limit error (C12) - the only
    way `Set` fails under the invariant; the operation returns no new map, the caller keeps `m`
    (and `MRefsOk m c.ctr`). -/
theorem refs_set_refused (T : Nat) (hT : legalThreshold T = true) (D : DigestFn (r + 1)) (cfg : MCfg) (m : OMap r)
    (hcfg : CfgOk cfg T m) (h : MapInv T D m) (k : MKey) (hk : KeyOk T (r + 1) D k)
    (v : Elem) (hv : ValueOkM v) (c : Ctx) (e : MErr) (hr : m.set cfg k v c = .error e) :
    e = .collisionLimit := by
  have hs := OMap.set_spec hT hcfg h hk hv c
  by_cases hl : TLimited cfg m.d m.root k
  · rw [hs.1 hl] at hr
    simp only [Except.error.injEq] at hr
    exact hr.symm
  · obtain ⟨old, m', c', heq, _⟩ := hs.2 hl
    rw [heq] at hr; cases hr

/-- `Remove` preserves `MRefsOk`; nothing is created; a removed reference was one of the old
    references, is NOT a reference of the new map and NOT a slab of the new tree; every other old
    reference is still held by the map. -/
theorem refs_remove (T : Nat) (hT : legalThreshold T = true) (D : DigestFn (r + 1)) (cfg : MCfg) (m : OMap r)
    (hcfg : CfgOk cfg T m) (h : MapInv T D m) (hids : MIdsOk m) (k : MKey) (hk : KeyOk T (r + 1) D k) (c : Ctx)
    (hc : CtxOk m c) (hrefs : MRefsOk m c.ctr)
    (k0 : MKey) (v0 : Elem) (m' : OMap r) (c' : Ctx) (hr : m.remove cfg k c = .ok (k0, v0, m', c')) :
    MRefsOk m' c'.ctr ∧ c.ctr ≤ c'.ctr ∧ c'.created = c.created ∧
    (∀ id ∈ m'.refIds, id ∈ m.refIds) ∧
    (∀ id, v0.pay = .ref id →
      id ∈ m.refIds ∧ id ∉ m'.refIds ∧ id ∉ AList.keys (MTree.slabs m'.d m'.root)) ∧
    (∀ id ∈ m.refIds, id ∈ m'.refIds ∨ v0.pay = .ref id) :=
  omap_remove_refs hT hcfg h hk c hc hids hrefs hr

/-- `PopIterate`: the emptied map holds no reference (`MRefsOk` w.r.t. the unchanged counter);
    the pairs handed to the caller are the old pairs in reverse order, so the references handed
    back are exactly the old references: pairwise different and none of them a slab of the
    emptied map (which is its root slab only). -/
theorem refs_popIterate (T : Nat) (hT : legalThreshold T = true) (D : DigestFn (r + 1)) (m : OMap r)
    (h : MapInv T D m) (c : Ctx) (hc : CtxOk m c) (hrefs : MRefsOk m c.ctr) :
    let res := m.popIterate c
    res.2.1.refIds = [] ∧ MRefsOk res.2.1 res.2.2.ctr ∧ res.2.2.ctr = c.ctr ∧ res.2.2.created = c.created ∧
    res.1 = m.toList.reverse ∧ OMap.refsOf res.1 = m.refIds.reverse ∧ (OMap.refsOf res.1).Nodup ∧
    AList.keys (MTree.slabs res.2.1.d res.2.1.root) = [m.rootID] ∧
    ∀ id ∈ OMap.refsOf res.1, id ∉ AList.keys (MTree.slabs res.2.1.d res.2.1.root) := by
  intro res
  obtain ⟨h1, h2, _, _, _⟩ := C02.pop_refines T hT D m h c hc
  obtain ⟨_, hkeys, _⟩ := pop_releases_all T hT D m h c hc
  obtain ⟨hctr, hcre⟩ := E2EM.omap_popKeep m c
  have hkeys' : AList.keys (MTree.slabs res.2.1.d res.2.1.root) = [m.rootID] := hkeys
  have hnil : res.2.1.refIds = [] := by
    show OMap.refsOf res.2.1.toList = []
    rw [show res.2.1.toList = [] from h2]; rfl
  have hrefs1 : OMap.refsOf res.1 = m.refIds.reverse := by
    rw [show res.1 = m.toList.reverse from h1, OMap.refsOf_reverse]; rfl
  refine ⟨hnil, ?_, hctr, hcre, h1, hrefs1, ?_, hkeys', ?_⟩
  · unfold MRefsOk
    rw [hnil]
    exact ⟨List.nodup_nil, fun _ hid => by cases hid⟩
  · rw [hrefs1]; exact nodup_reverse hrefs.1
  · intro id hid
    rw [hrefs1, List.mem_reverse] at hid
    rw [hkeys', List.mem_singleton]
    intro he
    exact (hrefs.2 id hid).1 (he ▸ hdr_id_mem_keys m.d m.root)

/-- `SetType` changes neither the pairs nor the slab ids nor the counter. -/
theorem refs_setType (m : OMap r) (ty : Nat) (c : Ctx) (ctr : Nat) (hrefs : MRefsOk m ctr) :
    MRefsOk (m.setType ty c).1 ctr ∧ (m.setType ty c).2.ctr = c.ctr ∧ (m.setType ty c).2.created = c.created ∧
    (m.setType ty c).1.refIds = m.refIds := by
  refine ⟨hrefs, ?_, ?_, rfl⟩
  · unfold OMap.setType; simp only; split <;> rfl
  · unfold OMap.setType; simp only; split <;> rfl

/-- Every request of a history (`E2EM.stepM`: a refused request changes nothing) preserves
    `MRefsOk` w.r.t. the allocation counter. -/
theorem refs_stepM (T : Nat) (hT : legalThreshold T = true) (D : DigestFn (r + 1)) (cfg : MCfg)
    (st : OMap r × Ctx) (hcfg : CfgOk cfg T st.1) (h : MapInv T D st.1) (hids : MIdsOk st.1)
    (hc : CtxOk st.1 st.2) (hrefs : MRefsOk st.1 st.2.ctr) (op : E2EM.MOp) (hop : op.Ok T D) :
    MRefsOk (E2EM.stepM cfg st op).1 (E2EM.stepM cfg st op).2.ctr := by
  obtain ⟨m, c⟩ := st
  cases op with
  | set k v =>
    simp only [E2EM.stepM]
    cases hr : m.set cfg k v c with
    | error e => exact hrefs
    | ok res =>
      obtain ⟨old, m', c'⟩ := res
      exact (refs_set T hT D cfg m hcfg h hids k hop.1 v hop.2 c hc hrefs old m' c' hr).1
  | remove k =>
    simp only [E2EM.stepM]
    cases hr : m.remove cfg k c with
    | error e => exact hrefs
    | ok res =>
      obtain ⟨k0, v0, m', c'⟩ := res
      exact (refs_remove T hT D cfg m hcfg h hids k hop c hc hrefs k0 v0 m' c' hr).1
  | popIterate => exact (refs_popIterate T hT D m h c hc hrefs).2.1
  | setType ty =>
    obtain ⟨g1, g2, _⟩ := refs_setType m ty c c.ctr hrefs
    show MRefsOk (m.setType ty c).1 (m.setType ty c).2.ctr
    rw [g2]; exact g1

/-- Slab ids handed out during a `Set` are fresh against the TREE and against the REFERENCES
    (strengthening of `allocated_ids_fresh`). -/
theorem allocated_ids_fresh_refs (T : Nat) (hT : legalThreshold T = true) (D : DigestFn (r + 1)) (cfg : MCfg)
    (m : OMap r) (hcfg : CfgOk cfg T m) (h : MapInv T D m) (k : MKey) (hk : KeyOk T (r + 1) D k)
    (v : Elem) (hv : ValueOkM v) (c : Ctx) (hc : CtxOk m c) (hrefs : MRefsOk m c.ctr)
    (old : Option Elem) (m' : OMap r) (c' : Ctx) (hr : m.set cfg k v c = .ok (old, m', c')) :
    ∀ addr id, Eff.alloc addr id ∈ newEffects c c' →
      id ∉ AList.keys (MTree.slabs m.d m.root) ∧ id ∉ m.refIds ∧ c.ctr < id.idx ∧ id.idx ≤ c'.ctr := by
  intro addr id hmem
  obtain ⟨h1, h2, h3⟩ := allocated_ids_fresh T hT D cfg m hcfg h k hk v hv c hc old m' c' hr addr id hmem
  refine ⟨h1, ?_, h2, h3⟩
  intro hin
  have := (hrefs.2 id hin).2.2.2
  omega

/-! Non-vacuity; and the state with a doubly held reference is excluded. -/
section NonVacuity
open MapExample

/-- a 200-byte value: above `maxInlineMapValue 256 10`, so it is externalised -/
def big (n : Nat) : Elem := { size := 200, pay := .val n }
theorem big_ok (n : Nat) : ValueOkM (big n) := ⟨(by decide : 1 ≤ 200), n, rfl⟩

/-- new map `7.1`; key 111 := big value (slab `7.2`); key 222 := big value (slab `7.3`);
    key 333 := small value -/
def g1 : OMap 1 × Ctx := stepSet cfg2 st0 (key 111) (big 1)
def g2 : OMap 1 × Ctx := stepSet cfg2 g1 (key 222) (big 2)
def g3 : OMap 1 × Ctx := stepSet cfg2 g2 (key 333) (val 3)

theorem g1_good : Good 256 D2 cfg2 g1 := Good.set legal256 (Good.new legal256 rfl rfl _ _ _) (key_ok _) (big_ok _)
theorem g2_good : Good 256 D2 cfg2 g2 := Good.set legal256 g1_good (key_ok _) (big_ok _)
theorem g3_good : Good 256 D2 cfg2 g3 := Good.set legal256 g2_good (key_ok _) (val_ok _)

example : g3.1.toList.map (fun p => (p.1.pay, p.2.pay)) =
    [(111, .ref ⟨7, 2⟩), (222, .ref ⟨7, 3⟩), (333, .val 3)] := by decide +kernel
example : g3.1.refIds = [⟨7, 2⟩, ⟨7, 3⟩] := by decide
example : AList.keys (MTree.slabs g3.1.d g3.1.root) = [⟨7, 1⟩] := by decide
example : g3.2.ctr = 3 := by decide
/-- a state holding two real references satisfies the invariant -/
theorem g3_refs : MRefsOk g3.1 g3.2.ctr := by decide
theorem g2_refs : MRefsOk g2.1 g2.2.ctr := by decide
theorem g2_ids : MIdsOk g2.1 := by decide
theorem g3_ids : MIdsOk g3.1 := by decide

/-- overwriting key 111 (reference `7.2`) with another big value: `7.2` is handed back, the new
    reference is `7.4` -/
def g4 : OMap 1 × Ctx := stepSet cfg2 g3 (key 111) (big 4)
theorem step4 : g3.1.set cfg2 (key 111) (big 4) g3.2 = .ok (some ⟨19, .ref ⟨7, 2⟩⟩, g4.1, g4.2) := by rfl
example : g4.1.refIds = [⟨7, 4⟩, ⟨7, 3⟩] := by decide +kernel
/-- `refs_set` instantiated on this step -/
theorem g4_refs : MRefsOk g4.1 g4.2.ctr :=
  (refs_set 256 legal256 D2 cfg2 g3.1 g3_good.cfgok g3_good.inv g3_ids (key 111) (key_ok _) (big 4) (big_ok _)
    g3.2 g3_good.ctx g3_refs _ g4.1 g4.2 step4).1
example : (⟨7, 2⟩ : SlabID) ∉ g4.1.refIds ∧ (⟨7, 2⟩ : SlabID) ∉ AList.keys (MTree.slabs g4.1.d g4.1.root) :=
  ((refs_set 256 legal256 D2 cfg2 g3.1 g3_good.cfgok g3_good.inv g3_ids (key 111) (key_ok _) (big 4) (big_ok _)
    g3.2 g3_good.ctx g3_refs _ g4.1 g4.2 step4).2.2.2.1 _ ⟨7, 2⟩ rfl rfl).2

/-- removing key 222 hands back the reference `7.3` -/
def g5 : OMap 1 × Ctx := stepRemove cfg2 g3 (key 222)
theorem step5 : g3.1.remove cfg2 (key 222) g3.2 = .ok (key 222, ⟨19, .ref ⟨7, 3⟩⟩, g5.1, g5.2) := by rfl
example : g5.1.refIds = [⟨7, 2⟩] := by decide
theorem g5_refs : MRefsOk g5.1 g5.2.ctr :=
  (refs_remove 256 legal256 D2 cfg2 g3.1 g3_good.cfgok g3_good.inv g3_ids (key 222) (key_ok _)
    g3.2 g3_good.ctx g3_refs _ _ g5.1 g5.2 step5).1

def c9 : Ctx := { ctr := 9, eff := [], created := [] }
/-- key 111 := big value with the counter at 9: value slab `7.10` -/
def a1 : OMap 1 × Ctx := stepSet cfg2 (st0.1, c9) (key 111) (big 1)
/-- the counter is put back to 9 (`CtxOk` only looks at TREE slab ids) and key 222 := another big
    value: slab `7.10` again -/
def a2 : OMap 1 × Ctx := stepSet cfg2 (a1.1, c9) (key 222) (big 2)

/-- two DIFFERENT keys whose stored values are the SAME large-value slab reference … -/
example : a2.1.toList.map (fun p => p.2.pay) = [.ref ⟨7, 10⟩, .ref ⟨7, 10⟩] := by decide
/-- … this state satisfies `MIdsOk` (and `MapInv`, `CtxOk`) but NOT `MRefsOk`, for any counter -/
example : MIdsOk a2.1 := by decide
theorem audit_state_excluded : ∀ ctr, ¬ MRefsOk a2.1 ctr := by
  intro ctr h
  have h1 := h.1
  revert h1
  decide
/-- and the step that produced it started from a state violating `MRefsOk` w.r.t. ITS counter (the
    reference `7.10` is above the reset counter 9): `refs_set` does not apply to it -/
example : a1.1.refIds = [⟨7, 10⟩] ∧ ¬ MRefsOk a1.1 c9.ctr := by decide

end NonVacuity

end Atree.C09Map

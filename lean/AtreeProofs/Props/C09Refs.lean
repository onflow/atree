import AtreeProofs.ArrayRefs
import AtreeProofs.Array.Refs
import AtreeProofs.E2E.Created
import AtreeProofs.Props.C01
import AtreeProofs.Props.C05
import AtreeProofs.Props.C09
/-
  C09 / C01 / C05 — references to large-value slabs (arrays).

  `ArrInv` constrains the slab IDs of the TREE only; an element `⟨19, .ref id⟩` (what `toStorable`
  leaves behind for a value too large to inline) is constrained by nothing in it, so the per-step
  theorems `C01.insert_refines`, `C05.inv_insert`, `C09.insert_effects_complete` alone admit a state
  in which the next allocated ID is already referenced by an element (`clashArr` below: two elements
  end up owning one slab).  `ARefsOk` (AtreeProofs/ArrayRefs.lean) excludes it:

  Property theorems
  * `refs_new / refs_insert / refs_append / refs_set / refs_remove / refs_popIterate / refs_setType`:
    every operation preserves `ARefsOk` relative to the new allocation counter;
  * `refs_set`, `refs_remove`: a reference handed back to the caller (overwritten / removed element)
    is no longer referenced by the array and is not a slab of the new tree: ownership passes to the
    caller exactly once;  `refs_popIterate`: every element is handed back, their references are
    pairwise different, are exactly the old references, and none is the remaining root slab;
  * `allocated_ids_fresh_refs(_set)`: IDs allocated by an insert / set are fresh against the tree AND
    against the references;
  * `created_fresh(_set)`: the large-value slab created by an insert / set is not a slab of the new
    tree, not a slab of the old tree, was not referenced before and is referenced afterwards.
-/
namespace Atree.C09R
open Atree Gen ATree

theorem addr_of_rootID {a a' : Arr} (h : a'.rootID = a.rootID) : a'.addr = a.addr := by
  unfold Arr.addr; rw [h]

/-- `NewArray`: no references. -/
theorem refs_new (addr ty : Nat) (c : Ctx) : ARefsOk (Arr.new addr ty c).1 (Arr.new addr ty c).2.ctr :=
  ARefsOk.of_nil rfl

/-- `Insert` preserves `ARefsOk`; the new references are the old ones plus the reference (if any)
    that stands for the inserted value. -/
theorem refs_insert (T : Nat) (hT : legalThreshold T = true) (a : Arr) (c : Ctx) (i : Nat) (v : Elem)
    (hv : ValueOk v) (h : ArrInv T a c.ctr) (hR : ARefsOk a c.ctr) (a' : Arr) (c' : Ctx)
    (hr : a.insert T i v c = .ok (a', c')) :
    ARefsOk a' c'.ctr ∧ a'.refIds.Perm (refIdsOf [C01.storedForm T a v c] ++ a.refIds) := by
  obtain ⟨hk', hnew⟩ := arr_insert_ids_above hT a c i v hv h a' c' hr
  obtain ⟨hi, _, _, hl, hid, _⟩ := arr_insert_of_ok hT hv h hr
  have hperm' : a'.refIds.Perm (refIdsOf [(toStorable T a.addr v c).1] ++ refIdsOf a.toList) := by
    unfold Arr.refIds
    rw [hl, ← refIdsOf_cons]
    exact refIdsOf_perm (List.perm_insertIdx _ _ hi)
  exact ⟨(refs_step (olds := []) hR h.ids_le (List.Perm.refl _) hperm'
    (news_of_toStorable T a.addr v c hv) (toStorable_ctr_le T a.addr v c) hk'
    (addr_of_rootID hid) hnew).1, hperm'⟩

/-- `Append` preserves `ARefsOk`. -/
theorem refs_append (T : Nat) (hT : legalThreshold T = true) (a : Arr) (c : Ctx) (v : Elem)
    (hv : ValueOk v) (h : ArrInv T a c.ctr) (hR : ARefsOk a c.ctr) (a' : Arr) (c' : Ctx)
    (hr : a.append T v c = .ok (a', c')) :
    ARefsOk a' c'.ctr ∧ a'.refIds.Perm (refIdsOf [C01.storedForm T a v c] ++ a.refIds) :=
  refs_insert T hT a c a.count v hv h hR a' c' hr

/-- `Set` preserves `ARefsOk`; a reference handed back (the overwritten element) was owned by the
    array, is owned by it no longer, and is not a slab of the new tree. -/
theorem refs_set (T : Nat) (hT : legalThreshold T = true) (a : Arr) (c : Ctx) (i : Nat) (v : Elem)
    (hv : ValueOk v) (h : ArrInv T a c.ctr) (hR : ARefsOk a c.ctr) (old : Elem) (a' : Arr) (c' : Ctx)
    (hr : a.set T i v c = .ok (old, a', c')) :
    ARefsOk a' c'.ctr ∧
    ∀ id, old.pay = .ref id → id ∈ a.refIds ∧ id ∉ a'.refIds ∧ id ∉ slabIds a'.d a'.root := by
  obtain ⟨hk', hnew⟩ := arr_set_ids_above hT a c i v hv h old a' c' hr
  obtain ⟨hi, rfl, _, hl, hid, _⟩ := arr_set_of_ok hT hv h hr
  have hperm' : a'.refIds.Perm
      (refIdsOf [(toStorable T a.addr v c).1] ++ refIdsOf (a.toList.eraseIdx i)) := by
    unfold Arr.refIds
    rw [hl, ← refIdsOf_cons]
    exact refIdsOf_perm (perm_set_eraseIdx _ _ _ hi)
  obtain ⟨g1, g2⟩ := refs_step hR h.ids_le (refIds_perm_old hi) hperm'
    (news_of_toStorable T a.addr v c hv) (toStorable_ctr_le T a.addr v c) hk'
    (addr_of_rootID hid) hnew
  exact ⟨g1, fun id hp => g2 id (mem_refIdsOf.2 ⟨_, by simp, hp⟩)⟩

/-- `Remove` preserves `ARefsOk`; a reference handed back (the removed element) was owned by the
    array, is owned by it no longer, and is not a slab of the new tree. -/
theorem refs_remove (T : Nat) (hT : legalThreshold T = true) (a : Arr) (c : Ctx) (i : Nat)
    (h : ArrInv T a c.ctr) (hR : ARefsOk a c.ctr) (old : Elem) (a' : Arr) (c' : Ctx)
    (hr : a.remove T i c = .ok (old, a', c')) :
    ARefsOk a' c'.ctr ∧
    ∀ id, old.pay = .ref id → id ∈ a.refIds ∧ id ∉ a'.refIds ∧ id ∉ slabIds a'.d a'.root := by
  obtain ⟨E, C, hlog, hacct⟩ := arr_remove_acct hT a c i h old a' c' hr
  have hnew : ∀ id ∈ slabIds a'.d a'.root, id ∈ slabIds a.d a.root ∨ c.ctr < id.idx := by
    intro id hid
    have := hacct.keys_new id (by rw [keys_slabs]; exact hid)
    rwa [keys_slabs] at this
  obtain ⟨hi, rfl, _, hl, hid, _⟩ := arr_remove_of_ok hT h hr
  have hperm' : a'.refIds.Perm ([] ++ refIdsOf (a.toList.eraseIdx i)) := by
    unfold Arr.refIds
    rw [hl]
    exact List.Perm.refl _
  obtain ⟨g1, g2⟩ := refs_step (k := c.ctr) hR h.ids_le (refIds_perm_old hi) hperm' (Or.inl rfl)
    (Nat.le_refl _) hlog.ctr_le (addr_of_rootID hid) hnew
  exact ⟨g1, fun id hp => g2 id (mem_refIdsOf.2 ⟨_, by simp, hp⟩)⟩

/-- `PopIterate`: every element is handed back (last to first); the references among them are
    pairwise different, are exactly the references the array owned, none of them is the slab that
    remains (the emptied root); the emptied array owns no reference. -/
theorem refs_popIterate (T : Nat) (hT : legalThreshold T = true) (a : Arr) (c : Ctx)
    (h : ArrInv T a c.ctr) (hR : ARefsOk a c.ctr) :
    let r := a.popIterate c
    ARefsOk r.2.1 r.2.2.ctr ∧ r.2.1.refIds = [] ∧
    r.1 = a.toList.reverse ∧ (refIdsOf r.1).Nodup ∧
    (∀ id, id ∈ refIdsOf r.1 ↔ id ∈ a.refIds) ∧
    ∀ id ∈ refIdsOf r.1, id ∉ slabIds r.2.1.d r.2.1.root := by
  intro r
  have _ := hT; have _ := h
  obtain ⟨h1, h2, _, _⟩ := arr_popIterate_refines a c
  have hrefs : r.2.1.refIds = [] := by
    show refIdsOf (a.popIterate c).2.1.toList = []
    rw [h2]; rfl
  have hrev : refIdsOf r.1 = a.refIds.reverse := by
    show refIdsOf (a.popIterate c).1 = _
    rw [h1, refIdsOf_reverse]; rfl
  have hids' : slabIds r.2.1.d r.2.1.root = [a.rootID] := rfl
  refine ⟨ARefsOk.of_nil hrefs, hrefs, h1, ?_, ?_, ?_⟩
  · rw [hrev]; exact (List.reverse_perm _).nodup_iff.2 hR.nodup
  · intro id; rw [hrev]; exact List.mem_reverse
  · intro id hid
    rw [hrev, List.mem_reverse] at hid
    rw [hids', List.mem_singleton]
    intro heq
    exact hR.not_tree id hid (heq ▸ by
      show (hdr a.d a.root).id ∈ slabIds a.d a.root
      exact hdr_id_mem_slabIds a.d a.root)

/-- `SetType` preserves `ARefsOk`. -/
theorem refs_setType (a : Arr) (c : Ctx) (ty : Nat) (hR : ARefsOk a c.ctr) :
    ARefsOk (a.setType ty c).1 (a.setType ty c).2.ctr := by
  have hc : (a.setType ty c).2.ctr = c.ctr := by
    unfold Arr.setType; simp only; split <;> rfl
  rw [hc]
  exact ⟨hR.nodup, hR.not_tree, hR.alloc⟩

/-- The invariant including references is preserved by `Insert` (C05 form). -/
theorem invR_insert (T : Nat) (hT : legalThreshold T = true) (a : Arr) (c : Ctx) (i : Nat) (v : Elem)
    (hv : ValueOk v) (h : ArrInvR T a c.ctr) (a' : Arr) (c' : Ctx)
    (hr : a.insert T i v c = .ok (a', c')) : ArrInvR T a' c'.ctr :=
  ⟨C05.inv_insert T hT a c i v hv h.inv a' c' hr,
   (refs_insert T hT a c i v hv h.inv h.refs a' c' hr).1⟩

/-- Slab IDs handed out during an `Insert` are fresh against the tree AND the references. -/
theorem allocated_ids_fresh_refs (T : Nat) (hT : legalThreshold T = true) (a : Arr) (c : Ctx) (i : Nat)
    (v : Elem) (hv : ValueOk v) (h : ArrInv T a c.ctr) (hR : ARefsOk a c.ctr) (a' : Arr) (c' : Ctx)
    (hr : a.insert T i v c = .ok (a', c')) :
    ∀ addr id, Eff.alloc addr id ∈ C09.newEffects c c' →
      id ∉ slabIds a.d a.root ∧ id ∉ a.refIds ∧ c.ctr < id.idx ∧ id.idx ≤ c'.ctr := by
  intro addr id hmem
  obtain ⟨h1, h2, h3⟩ := C09.allocated_ids_fresh T hT a c i v hv h a' c' hr addr id hmem
  refine ⟨h1, fun hin => ?_, h2, h3⟩
  have := (hR.alloc id hin).2.2
  omega

/-- Slab IDs handed out during a `Set` are fresh against the tree AND the references. -/
theorem allocated_ids_fresh_refs_set (T : Nat) (hT : legalThreshold T = true) (a : Arr) (c : Ctx) (i : Nat)
    (v : Elem) (hv : ValueOk v) (h : ArrInv T a c.ctr) (hR : ARefsOk a c.ctr) (old : Elem) (a' : Arr)
    (c' : Ctx) (hr : a.set T i v c = .ok (old, a', c')) :
    ∀ addr id, Eff.alloc addr id ∈ C09.newEffects c c' →
      id ∉ slabIds a.d a.root ∧ id ∉ a.refIds ∧ c.ctr < id.idx ∧ id.idx ≤ c'.ctr := by
  obtain ⟨E, C, hlog, _⟩ := arr_set_acct hT a c i v hv h old a' c' hr
  obtain ⟨_, h2, _⟩ := C09.newEffects_of_log hlog
  rw [h2]
  intro addr id hmem
  obtain ⟨h3, h4⟩ := hlog.allocs addr id hmem
  refine ⟨fun hin => ?_, fun hin => ?_, h3, h4⟩
  · have := (h.ids.2 id hin).2.2; omega
  · have := (hR.alloc id hin).2.2; omega

/-- the created slab is the one the stored form refers to -/
theorem crOf_ids (T addr : Nat) (v : Elem) (c : Ctx) (hv : ValueOk v) :
    (crOf T addr v c).map (·.1) = refIdsOf [(toStorable T addr v c).1] :=
  toStorable_created_ids T addr v c hv

/-- The large-value slab created by an `Insert` is not a slab of the new tree, not a slab of the
    old tree, was referenced by no element before and is referenced by an element afterwards. -/
theorem created_fresh (T : Nat) (hT : legalThreshold T = true) (a : Arr) (c : Ctx) (i : Nat)
    (v : Elem) (hv : ValueOk v) (h : ArrInv T a c.ctr) (hR : ARefsOk a c.ctr) (a' : Arr) (c' : Ctx)
    (hr : a.insert T i v c = .ok (a', c')) :
    ∀ id ∈ C09.newCreated c c',
      id ∉ slabIds a'.d a'.root ∧ id ∉ slabIds a.d a.root ∧ id ∉ a.refIds ∧ id ∈ a'.refIds := by
  obtain ⟨E, C, hlog, hcr, _, hC⟩ := arr_insert_created hT a c i v hv h a' c' hr
  obtain ⟨_, _, h3⟩ := C09.newEffects_of_log hlog
  rw [h3]
  intro id hid
  obtain ⟨_, g2, g3, _, _⟩ := hcr id hid
  refine ⟨g2, fun hin => ?_, fun hin => ?_, ?_⟩
  · have := (h.ids.2 id hin).2.2; omega
  · have := (hR.alloc id hin).2.2; omega
  · rw [hC, crOf_ids T a.addr v c hv] at hid
    exact (refs_insert T hT a c i v hv h hR a' c' hr).2.mem_iff.2 (List.mem_append.2 (Or.inl hid))

/-- The same for `Set`. -/
theorem created_fresh_set (T : Nat) (hT : legalThreshold T = true) (a : Arr) (c : Ctx) (i : Nat)
    (v : Elem) (hv : ValueOk v) (h : ArrInv T a c.ctr) (hR : ARefsOk a c.ctr) (old : Elem) (a' : Arr)
    (c' : Ctx) (hr : a.set T i v c = .ok (old, a', c')) :
    ∀ id ∈ C09.newCreated c c',
      id ∉ slabIds a'.d a'.root ∧ id ∉ slabIds a.d a.root ∧ id ∉ a.refIds ∧ id ∈ a'.refIds := by
  obtain ⟨E, C, hlog, hcr, _, hC⟩ := arr_set_created hT a c i v hv h old a' c' hr
  obtain ⟨_, _, h3⟩ := C09.newEffects_of_log hlog
  rw [h3]
  intro id hid
  obtain ⟨_, g2, g3, _, _⟩ := hcr id hid
  refine ⟨g2, fun hin => ?_, fun hin => ?_, ?_⟩
  · have := (h.ids.2 id hin).2.2; omega
  · have := (hR.alloc id hin).2.2; omega
  · rw [hC, crOf_ids T a.addr v c hv] at hid
    obtain ⟨hi, _, _, hl, _⟩ := arr_set_of_ok hT hv h hr
    unfold Arr.refIds
    rw [hl]
    have hp := refIdsOf_perm (perm_set_eraseIdx a.toList i (toStorable T a.addr v c).1 hi)
    rw [refIdsOf_cons] at hp
    exact hp.mem_iff.2 (List.mem_append.2 (Or.inl hid))

/-! Non-vacuity; and the state whose next allocated ID is already referenced is excluded. -/
section NonVacuity
open Atree.Example Atree.C09

/-- `arrS` (Props/C09.lean): `arr4` after overwriting element 3 with a 5000-byte value; its last
    element is a real reference to the large-value slab 1.4, the counter is 4. -/
example : arrS.refIds = [⟨1, 4⟩] := by decide
theorem arrS_inv : ArrInv T0 arrS cS.ctr := by
  obtain ⟨a', c', h1, h2, _⟩ := arr_set_ok legal arr4 c3 3 ⟨5000, .val 7⟩ ⟨by decide, 7, rfl⟩ arr4_inv
    (by decide)
  rw [stepS] at h1; cases h1; exact h2
theorem arr4_refs : ARefsOk arr4 c3.ctr := ARefsOk.of_nil (by decide)
/-- a state holding a real reference satisfies `ARefsOk` (obtained from the theorem, and directly) -/
theorem arrS_refs : ARefsOk arrS cS.ctr :=
  (refs_set T0 legal arr4 c3 3 ⟨5000, .val 7⟩ ⟨by decide, 7, rfl⟩ arr4_inv arr4_refs (elem 3) arrS cS stepS).1
example : arrS.refIds.Nodup ∧ (∀ id ∈ arrS.refIds, id ∉ slabIds arrS.d arrS.root) ∧
    (∀ id ∈ arrS.refIds, id.addr = arrS.addr ∧ 1 ≤ id.idx ∧ id.idx ≤ cS.ctr) := by decide

/-- overwriting the reference again hands it back: slab 1.4 is no longer owned by the array -/
def arrS2 : Arr := okArr' (arrS.set T0 3 (elem 5) cS)
def cS2 : Ctx := okCtx' (arrS.set T0 3 (elem 5) cS)
theorem stepS2 : arrS.set T0 3 (elem 5) cS = .ok (⟨19, .ref ⟨1, 4⟩⟩, arrS2, cS2) := by rfl
example : (⟨1, 4⟩ : SlabID) ∈ arrS.refIds ∧ (⟨1, 4⟩ : SlabID) ∉ arrS2.refIds ∧
    (⟨1, 4⟩ : SlabID) ∉ slabIds arrS2.d arrS2.root :=
  (refs_set T0 legal arrS cS 3 (elem 5) (value_ok 5) arrS_inv arrS_refs _ arrS2 cS2 stepS2).2 ⟨1, 4⟩ rfl

/-- A single-slab array whose only element refers to slab 1.3
    while the allocation counter is 2.  It satisfies `ArrInv 256 a0 2` but NOT `ARefsOk a0 2`. -/
def clashSlab : DataSlab := ⟨⟨⟨1, 1⟩, 5 + 19, 1⟩, SlabID.undef, [⟨19, .ref ⟨1, 3⟩⟩], true, false⟩
def clashArr : Arr := ⟨0, clashSlab, 0⟩
example : ¬ ARefsOk clashArr 2 := by
  intro h
  have := (h.alloc ⟨1, 3⟩ (by decide)).2.2
  simp at this
/-- with the counter that really covers the reference the state is fine -/
example : ARefsOk clashArr 3 := ⟨by decide, by decide, by decide⟩

end NonVacuity

end Atree.C09R

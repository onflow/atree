import AtreeProofs.WorldHeap
import AtreeProofs.World.HeapOpsMisc
import AtreeProofs.Props.C09
import AtreeProofs.Props.C10WPop
/-
  C09 at world level — nested containers: no leaked, dangling or doubly-owned slabs across the
  inline <-> standalone transitions and the parent-callback chain.  Property theorems.

  Specification: `AtreeProofs/WorldHeap.lean` (`World.heapOf` = the slabs that must be in storage:
  the whole tree of every standalone container, the tree WITHOUT the root slab for an inlined one;
  `HeapOk` = every slab ID belongs to the tree of exactly one container; `WEffectsComplete` = the
  World-level `EffectsComplete` of C09).

  `*_effects_complete`: for the operations that change the table of containers (`newArr`, `newMap`,
  `arrInsert`, `arrSet`, `arrRemove`, `mapSet`, `mapRemove`, `setType`; the bulk pops are in
  Props/C09WPop.lean; the reads and `reopen` leave the heap as it is: `heap_of_same_conts`, of another
  shape), under the global invariant `WorldOk'`
  (C10W, proved preserved by every operation) and `HeapOk`: the effect log appended by the operation
  — the inline / un-inline of the value handed in, the core operation on the target container, the
  WHOLE callback chain up to the outermost container (`notifyParent`, every ancestor re-`set`,
  each possibly flipping its child between inline and standalone), the un-inlining of the value
  handed back — is a complete account of the change of the heap: every slab whose content changed
  was stored, every slab that left the heap was removed, nothing else was touched; and `HeapOk`
  holds again.  No `HandleOk` hypothesis: a stale closure only stops the chain, it cannot make the
  log incomplete.

  Proofs: `AtreeProofs/World/Heap*.lean`.
-/
namespace Atree.C09W
open Atree Gen World
open Atree.C09 (newEffects newCreated newEffects_of_log)

variable {D : SlabID → DigestFn 4}

/-- the value handed in is below the target in a suitable rank -/
theorem wvalH_of_ok {rank : SlabID → Nat} {w : World} {ctr : Nat} (H : WorldOkPK D rank (fun _ => False) w ctr)
    {p : SlabID} {lim : Nat} {v : WVal} (hv : WValOk w p lim v) :
    ∃ rank', CRank rank' w ∧ WValH rank' w p lim v := by
  cases v with
  | plain e =>
    obtain ⟨⟨h1, n, h2⟩, h3⟩ := hv
    exact ⟨rank, H.rank, h1, h3, n, h2⟩
  | child x wr =>
    obtain ⟨h1, h2, h3, h4⟩ := hv
    obtain ⟨rank', hr, hlt⟩ := rank_insert H.rank H.unique h2 h3
    exact ⟨rank', hr, fun e => h3 (e ▸ Anc.refl), hlt.1, h4, h1⟩

/-- what an operation theorem of `World/HeapMutation.lean`, `HeapOpsMisc.lean` delivers, in the vocabulary of C09 -/
theorem complete_of_post {w w' : World} {cx cx' : Ctx} (h : Post w cx w' cx') (Hh : HeapOk w cx.ctr) :
    cx'.eff = cx.eff ++ newEffects cx cx' ∧
    WEffectsComplete w w' (newEffects cx cx') (newCreated cx cx') ∧ HeapOk w' cx'.ctr ∧ cx.ctr ≤ cx'.ctr := by
  obtain ⟨E, C, hlog, hacct, hheap, _⟩ := h
  obtain ⟨h1, h2, h3⟩ := newEffects_of_log hlog
  rw [h2, h3]
  exact ⟨by rw [← h2]; exact h1, hacct.effectsComplete Hh hheap, hheap, hlog.ctr_le⟩

theorem heapOk_new (T addr ctr : Nat) : HeapOk { T := T, addr := addr } ctr := by
  have hn : ∀ x, ({ T := T, addr := addr } : World).cont? x = none := fun _ => rfl
  refine ⟨?_, ?_, ?_, ?_⟩
  · intro x c x' c' id h; rw [hn] at h; cases h
  · intro x c h; rw [hn] at h; cases h
  · intro x c id h; rw [hn] at h; cases h
  · intro x c id h; rw [hn] at h; cases h

theorem newArr_effects_complete (D : SlabID → DigestFn 4) (w : World) (ty : Nat) (cx : Ctx)
    (H : WorldOk' D w cx.ctr) (Hh : HeapOk w cx.ctr) :
    (w.newArr ty cx).2.2.eff = cx.eff ++ newEffects cx (w.newArr ty cx).2.2 ∧
    WEffectsComplete w (w.newArr ty cx).2.1 (newEffects cx (w.newArr ty cx).2.2) (newCreated cx (w.newArr ty cx).2.2) ∧
    HeapOk (w.newArr ty cx).2.1 (w.newArr ty cx).2.2.ctr ∧ cx.ctr ≤ (w.newArr ty cx).2.2.ctr := by
  obtain ⟨rank, H0⟩ := H
  exact complete_of_post (newArr_heap (HInv.of_pk H0) Hh) Hh

theorem newMap_effects_complete (D : SlabID → DigestFn 4) (w : World) (ty seed : Nat) (cx : Ctx)
    (H : WorldOk' D w cx.ctr) (Hh : HeapOk w cx.ctr) :
    (w.newMap ty seed cx).2.2.eff = cx.eff ++ newEffects cx (w.newMap ty seed cx).2.2 ∧
    WEffectsComplete w (w.newMap ty seed cx).2.1 (newEffects cx (w.newMap ty seed cx).2.2)
      (newCreated cx (w.newMap ty seed cx).2.2) ∧
    HeapOk (w.newMap ty seed cx).2.1 (w.newMap ty seed cx).2.2.ctr ∧ cx.ctr ≤ (w.newMap ty seed cx).2.2.ctr := by
  obtain ⟨rank, H0⟩ := H
  exact complete_of_post (newMap_heap (HInv.of_pk H0) Hh) Hh

/-- `Array.Insert` of a plain value or of a child container (inlined or un-inlined as it fits),
    through the handle of a container at any depth -/
theorem arrInsert_effects_complete (D : SlabID → DigestFn 4) (w : World) (p : SlabID) (i : Nat) (v : WVal)
    (cx : Ctx) (w' : World) (cx' : Ctx) (H : WorldOk' D w cx.ctr) (Hh : HeapOk w cx.ctr)
    (hv : WValOk w p (maxInlineArr w.T) v) (h : w.arrInsert p i v cx = .ok (w', cx')) :
    cx'.eff = cx.eff ++ newEffects cx cx' ∧
    WEffectsComplete w w' (newEffects cx cx') (newCreated cx cx') ∧ HeapOk w' cx'.ctr ∧ cx.ctr ≤ cx'.ctr := by
  obtain ⟨rank, H0⟩ := H
  obtain ⟨rank', hr, hv'⟩ := wvalH_of_ok H0 hv
  exact complete_of_post (arrInsert_heap ((HInv.of_pk H0).with_rank hr) Hh hv' h) Hh

/-- `Array.Set`: the overwritten value is handed back, un-inlined if it was an inlined child -/
theorem arrSet_effects_complete (D : SlabID → DigestFn 4) (w : World) (p : SlabID) (i : Nat) (v : WVal)
    (cx : Ctx) (old : Elem) (w' : World) (cx' : Ctx) (H : WorldOk' D w cx.ctr) (Hh : HeapOk w cx.ctr)
    (hv : WValOk w p (maxInlineArr w.T) v) (h : w.arrSet p i v cx = .ok (old, w', cx')) :
    cx'.eff = cx.eff ++ newEffects cx cx' ∧
    WEffectsComplete w w' (newEffects cx cx') (newCreated cx cx') ∧ HeapOk w' cx'.ctr ∧ cx.ctr ≤ cx'.ctr := by
  obtain ⟨rank, H0⟩ := H
  obtain ⟨rank', hr, hv'⟩ := wvalH_of_ok H0 hv
  exact complete_of_post (arrSet_heap ((HInv.of_pk H0).with_rank hr) Hh hv' h) Hh

theorem arrRemove_effects_complete (D : SlabID → DigestFn 4) (w : World) (p : SlabID) (i : Nat)
    (cx : Ctx) (old : Elem) (w' : World) (cx' : Ctx) (H : WorldOk' D w cx.ctr) (Hh : HeapOk w cx.ctr)
    (h : w.arrRemove p i cx = .ok (old, w', cx')) :
    cx'.eff = cx.eff ++ newEffects cx cx' ∧
    WEffectsComplete w w' (newEffects cx cx') (newCreated cx cx') ∧ HeapOk w' cx'.ctr ∧ cx.ctr ≤ cx'.ctr := by
  obtain ⟨rank, H0⟩ := H
  exact complete_of_post (arrRemove_heap (HInv.of_pk H0) Hh h) Hh

theorem mapSet_effects_complete (D : SlabID → DigestFn 4) (w : World) (p : SlabID) (k : MKey) (v : WVal)
    (cx : Ctx) (old : Option Elem) (w' : World) (cx' : Ctx) (H : WorldOk' D w cx.ctr) (Hh : HeapOk w cx.ctr)
    (hk : KeyOk w.T 4 (D p) k) (hv : WValOk w p (maxInlineMapValue w.T k.size) v)
    (h : w.mapSet p k v cx = .ok (old, w', cx')) :
    cx'.eff = cx.eff ++ newEffects cx cx' ∧
    WEffectsComplete w w' (newEffects cx cx') (newCreated cx cx') ∧ HeapOk w' cx'.ctr ∧ cx.ctr ≤ cx'.ctr := by
  obtain ⟨rank, H0⟩ := H
  obtain ⟨rank', hr, hv'⟩ := wvalH_of_ok H0 hv
  exact complete_of_post (mapSet_heap ((HInv.of_pk H0).with_rank hr) Hh hk hv' h) Hh

theorem mapRemove_effects_complete (D : SlabID → DigestFn 4) (w : World) (p : SlabID) (k : MKey)
    (cx : Ctx) (rk : MKey) (rv : Elem) (w' : World) (cx' : Ctx) (H : WorldOk' D w cx.ctr) (Hh : HeapOk w cx.ctr)
    (hk : KeyOk w.T 4 (D p) k) (h : w.mapRemove p k cx = .ok (rk, rv, w', cx')) :
    cx'.eff = cx.eff ++ newEffects cx cx' ∧
    WEffectsComplete w w' (newEffects cx cx') (newCreated cx cx') ∧ HeapOk w' cx'.ctr ∧ cx.ctr ≤ cx'.ctr := by
  obtain ⟨rank, H0⟩ := H
  exact complete_of_post (mapRemove_heap (HInv.of_pk H0) Hh hk h) Hh

/-- `SetType` through the handle of a container: a standalone root is stored; for an inlined one
    the slab that embeds it is (the callback chain) -/
theorem setType_effects_complete (D : SlabID → DigestFn 4) (w : World) (p : SlabID) (ty : Nat)
    (cx : Ctx) (w' : World) (cx' : Ctx) (H : WorldOk' D w cx.ctr) (Hh : HeapOk w cx.ctr)
    (h : w.setType p ty cx = .ok (w', cx')) :
    cx'.eff = cx.eff ++ newEffects cx cx' ∧
    WEffectsComplete w w' (newEffects cx cx') (newCreated cx cx') ∧ HeapOk w' cx'.ctr ∧ cx.ctr ≤ cx'.ctr := by
  obtain ⟨rank, H0⟩ := H
  exact complete_of_post (setType_heap (HInv.of_pk H0) Hh h) Hh

/-- reads (`arrGet`, `mapGet`) and `reopen` do not touch the table of containers: same heap -/
theorem heap_of_same_conts (w w' : World) (ctr : Nat) (h : ∀ z, w'.cont? z = w.cont? z) (ha : w'.addr = w.addr)
    (Hh : HeapOk w ctr) : HeapOk w' ctr ∧ ∀ id, w'.slabAt id = w.slabAt id := by
  have Hh' := Hh.congr h ha
  refine ⟨Hh', fun id => ?_⟩
  cases hs : w.slabAt id with
  | none =>
    have := (World.slabAt_isNone w id).1 (by rw [hs]; rfl)
    have h2 : ¬ w'.InHeap id := by rw [inHeap_congr h]; exact this
    have := (World.slabAt_isNone w' id).2 h2
    cases h3 : w'.slabAt id with
    | none => rfl
    | some _ => rw [h3] at this; cases this
  | some s =>
    rw [Hh.slabAt_eq_some] at hs
    rw [Hh'.slabAt_eq_some, hasSlab_congr h]
    exact hs

/-- "applying the effect log of the operation to the heap of the old world gives the heap of the new
    world" (the final content of every stored slab being its content in the new world, as in
    `E2E.applyEffs`) -/
theorem applyLog_eq_heap {w w' : World} {E : List Eff} {cr : List SlabID} (h : WEffectsComplete w w' E cr) :
    applyLog w.slabAt w'.slabAt E = w'.slabAt := h.applyLog

/-! ### ownership (C09 "every non-root slab is referenced exactly once … one owner") -/

/-- every slab ID of the heap belongs to exactly one container tree, all slabs are owned by the
    world's address, and the list of heap IDs has no duplicate -/
theorem heap_ownership (w : World) (ctr : Nat) (Hh : HeapOk w ctr) :
    w.heapIds.Nodup ∧
    (∀ id, id ∈ w.heapIds ↔ ∃ x c, w.cont? x = some c ∧ id ∈ c.heapIds) ∧
    (∀ id x c x' c', w.cont? x = some c → w.cont? x' = some c' → id ∈ c.heapIds → id ∈ c'.heapIds → x = x') ∧
    (∀ id ∈ w.heapIds, id.addr = w.addr ∧ id.idx ≤ ctr) := by
  refine ⟨Hh.nodup_heapIds, fun id => mem_heapIds_iff w id, ?_, ?_⟩
  · intro id x c x' c' hx hx' h1 h2
    exact Hh.own x c x' c' id hx hx' (c.heapIds_sub_treeIds id h1) (c'.heapIds_sub_treeIds id h2)
  · intro id hid
    obtain ⟨x, c, hx, hm⟩ := (mem_heapIds_iff w id).1 hid
    exact ⟨Hh.addr x c id hx (c.heapIds_sub_treeIds id hm), Hh.below x c id hx (c.heapIds_sub_treeIds id hm)⟩

/-- an inlined container owns no slab of its own root: its value ID is NOT in the heap, while a
    standalone container's is -/
theorem root_in_heap_iff_standalone (w : World) (ctr : Nat) (Hh : HeapOk w ctr) (hids : World.IdsOk w)
    (x : SlabID) (c : Cont) (hx : w.cont? x = some c) : x ∈ w.heapIds ↔ c.isInlined = false := by
  rw [mem_heapIds_iff]
  have hv : c.vid = x := hids x c hx
  constructor
  · rintro ⟨x', c', hx', hm⟩
    have e : x' = x := Hh.own x' c' x c x hx' hx (c'.heapIds_sub_treeIds x hm) (hv ▸ Cont.vid_mem_treeIds c)
    rw [e, hx] at hx'; cases hx'
    cases hi : c.isInlined
    · rfl
    · exfalso
      rw [Cont.heapIds_of_inlined hi, Cont.treeIds_cons] at hm
      have hnd := Hh.nodup x c hx
      rw [Cont.treeIds_cons] at hnd
      rw [hv] at hnd hm
      exact (List.nodup_cons.1 hnd).1 hm
  · intro hi
    exact ⟨x, c, hx, by rw [Cont.heapIds_of_standalone hi]; exact hv ▸ Cont.vid_mem_treeIds c⟩

/-- every container that is referenced — inlined or standalone — is referenced by exactly one
    element of one container (`UniqueRef` of `WorldOk'`); an inlined one IS referenced -/
theorem child_referenced_once (D : SlabID → DigestFn 4) (w : World) (ctr : Nat) (H : WorldOk' D w ctr)
    (x : SlabID) (c : Cont) (hx : w.cont? x = some c) :
    (∀ p p' pc pc' (i j : Nat), w.cont? p = some pc → w.cont? p' = some pc' →
      pc.pays[i]? = some (Pay.ref x) → pc'.pays[j]? = some (Pay.ref x) → p = p' ∧ i = j) ∧
    (c.isInlined = true → ∃ p, Holds w p x) := by
  obtain ⟨rank, H0⟩ := H
  refine ⟨fun p p' pc pc' i j h1 h2 h3 h4 => H0.unique p p' pc pc' i j x h1 h2 h3 h4 (by rw [hx]; rfl), ?_⟩
  intro hi
  exact H0.inlRef x c hx hi (fun h => h)

end Atree.C09W

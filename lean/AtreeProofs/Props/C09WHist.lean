import AtreeProofs.Props.C09W
import AtreeProofs.Props.C10WPopOps
/-
  C09 at world level, histories: along any history of World operations from the empty world, issued
  through current handles (`HandleOk`, the `HandlesCurrent` hypothesis of C10) with valid values
  (`WValOk`, `KeyOk`), the set of slab IDs in storage — the IDs whose last event in the whole effect
  log is a store — is exactly the heap of the world (plus the large-value slabs created, of which
  the World operations create none under `WValOk`; the model keeps the list `created` anyway).
  Property theorems.
-/
namespace Atree.C09W
open Atree Gen World
open Atree.C09 (newEffects newCreated)

/-- a history of World operations from the empty world (`ctx` = the context threaded through:
    allocation counter, the WHOLE effect log, the large-value slabs created) -/
inductive Hist (D : SlabID → DigestFn 4) : World → Ctx → Prop
  | new (T addr : Nat) (hT : legalThreshold T = true) : Hist D { T := T, addr := addr } ⟨0, [], []⟩
  | newArr {w cx} (ty : Nat) : Hist D w cx → Hist D (w.newArr ty cx).2.1 (w.newArr ty cx).2.2
  | newMap {w cx} (ty seed : Nat) : Hist D w cx → Hist D (w.newMap ty seed cx).2.1 (w.newMap ty seed cx).2.2
  | arrInsert {w cx p i v w' cx'} : Hist D w cx → HandleOk w p → WValOk w p (maxInlineArr w.T) v →
      w.arrInsert p i v cx = .ok (w', cx') → Hist D w' cx'
  | arrSet {w cx p i v old w' cx'} : Hist D w cx → HandleOk w p → WValOk w p (maxInlineArr w.T) v →
      w.arrSet p i v cx = .ok (old, w', cx') → Hist D w' cx'
  | arrRemove {w cx p i old w' cx'} : Hist D w cx → HandleOk w p →
      w.arrRemove p i cx = .ok (old, w', cx') → Hist D w' cx'
  | mapSet {w cx p k v old w' cx'} : Hist D w cx → HandleOk w p → KeyOk w.T 4 (D p) k →
      WValOk w p (maxInlineMapValue w.T k.size) v → w.mapSet p k v cx = .ok (old, w', cx') → Hist D w' cx'
  | mapRemove {w cx p k rk rv w' cx'} : Hist D w cx → HandleOk w p → KeyOk w.T 4 (D p) k →
      w.mapRemove p k cx = .ok (rk, rv, w', cx') → Hist D w' cx'
  | setType {w cx p ty w' cx'} : Hist D w cx → HandleOk w p → w.setType p ty cx = .ok (w', cx') → Hist D w' cx'
  | arrGet {w cx p i el w'} : Hist D w cx → HandleOk w p → w.arrGet p i = .ok (el, w') → Hist D w' cx
  | mapGet {w cx p k el w'} : Hist D w cx → HandleOk w p → KeyOk w.T 4 (D p) k →
      w.mapGet p k = .ok (el, w') → Hist D w' cx
  | reopen {w cx} : Hist D w cx → Hist D w.reopen cx

/-- the slab IDs in storage after the log `E` was run from an empty storage -/
def Stored (E : List Eff) (id : SlabID) : Prop := lastAction E id = some true

/-- storage = heap (+ large-value slabs) -/
def HeapExact (w : World) (cx : Ctx) : Prop :=
  (∀ id, id ∈ w.heapIds → Stored cx.eff id) ∧
  (∀ id, Stored cx.eff id → id ∈ w.heapIds ∨ id ∈ cx.created.map (·.1))

theorem heapExact_step {w w' : World} {cx cx' : Ctx} (hp : Post w cx w' cx') (h : HeapExact w cx) :
    HeapExact w' cx' := by
  obtain ⟨E, C, hlog, hacct, _, _⟩ := hp
  obtain ⟨h1, h2⟩ := h
  unfold HeapExact Stored at *
  rw [hlog.eff, hlog.created]
  constructor
  · intro id hid
    rw [mem_heapIds_iff, inHeap_iff] at hid
    obtain ⟨s, hs⟩ := hid
    rcases hacct.kept id s hs with h3 | h3
    · have h4 := h1 id ((mem_heapIds_iff w id).2 h3.inHeap)
      cases hl : lastAction E id with
      | none => rw [lastAction_append_none hl]; exact h4
      | some b =>
        cases b with
        | true => exact lastAction_append_some hl
        | false => exact absurd hs.inHeap (hacct.removed id hl)
    · exact lastAction_append_some h3
  · intro id hid
    cases hl : lastAction E id with
    | none =>
      rw [lastAction_append_none hl] at hid
      rcases h2 id hid with h3 | h3
      · by_cases h4 : w'.InHeap id
        · exact Or.inl ((mem_heapIds_iff w' id).2 h4)
        · have := hacct.gone id ((mem_heapIds_iff w id).1 h3) h4
          rw [hl] at this; cases this
      · right; rw [List.map_append]; exact List.mem_append.2 (Or.inl h3)
    | some b =>
      rw [lastAction_append_some hl] at hid
      cases hid
      rcases hacct.stored id hl with h3 | h3
      · exact Or.inl ((mem_heapIds_iff w' id).2 h3)
      · right; rw [List.map_append]; exact List.mem_append.2 (Or.inr h3)

theorem heapExact_congr {w w' : World} {cx : Ctx} (hc : ∀ z, w'.cont? z = w.cont? z) (h : HeapExact w cx) :
    HeapExact w' cx := by
  unfold HeapExact at *
  simp only [mem_heapIds_iff, inHeap_congr hc]
  simpa only [mem_heapIds_iff] using h

/-- Along any history from the empty world: the global invariant `WorldOk'`, the
    ownership invariant `HeapOk`, and storage = heap. -/
theorem world_heap_exact (D : SlabID → DigestFn 4) (w : World) (cx : Ctx) (h : Hist D w cx) :
    WorldOk' D w cx.ctr ∧ HeapOk w cx.ctr ∧ HeapExact w cx := by
  induction h with
  | new T addr hT =>
    refine ⟨C10W.worldOk'_new D T addr 0 hT, heapOk_new T addr 0, ?_, ?_⟩
    · intro id hid
      rw [mem_heapIds_iff] at hid
      obtain ⟨x, c, hx, _⟩ := hid
      cases hx
    · intro id hid; cases hid
  | newArr ty _ ih =>
    obtain ⟨H, Hh, He⟩ := ih
    obtain ⟨rank, H0⟩ := H
    have hp := newArr_heap (ty := ty) (HInv.of_pk H0) Hh
    exact ⟨(C10W.worldOk'_newArr D _ ty _ ⟨rank, H0⟩).1, hp.heapOk, heapExact_step hp He⟩
  | newMap ty seed _ ih =>
    obtain ⟨H, Hh, He⟩ := ih
    obtain ⟨rank, H0⟩ := H
    have hp := newMap_heap (ty := ty) (seed := seed) (HInv.of_pk H0) Hh
    exact ⟨(C10W.worldOk'_newMap D _ ty seed _ ⟨rank, H0⟩).1, hp.heapOk, heapExact_step hp He⟩
  | arrInsert _ hh hv hr ih =>
    obtain ⟨H, Hh, He⟩ := ih
    have H' := (C10W.worldOk'_arrInsert D _ _ _ _ _ _ _ H hh hv hr).1
    obtain ⟨rank, H0⟩ := H
    obtain ⟨rank', hrk, hv'⟩ := wvalH_of_ok H0 hv
    have hp := arrInsert_heap ((HInv.of_pk H0).with_rank hrk) Hh hv' hr
    exact ⟨H', hp.heapOk, heapExact_step hp He⟩
  | arrSet _ hh hv hr ih =>
    obtain ⟨H, Hh, He⟩ := ih
    have H' := (C10W.worldOk'_arrSet D _ _ _ _ _ _ _ _ H hh hv hr).1
    obtain ⟨rank, H0⟩ := H
    obtain ⟨rank', hrk, hv'⟩ := wvalH_of_ok H0 hv
    have hp := arrSet_heap ((HInv.of_pk H0).with_rank hrk) Hh hv' hr
    exact ⟨H', hp.heapOk, heapExact_step hp He⟩
  | arrRemove _ hh hr ih =>
    obtain ⟨H, Hh, He⟩ := ih
    have H' := (C10W.worldOk'_arrRemove D _ _ _ _ _ _ _ H hh hr).1
    obtain ⟨rank, H0⟩ := H
    have hp := arrRemove_heap (HInv.of_pk H0) Hh hr
    exact ⟨H', hp.heapOk, heapExact_step hp He⟩
  | mapSet _ hh hk hv hr ih =>
    obtain ⟨H, Hh, He⟩ := ih
    have H' := (C10W.worldOk'_mapSet D _ _ _ _ _ _ _ _ H hh hk hv hr).1
    obtain ⟨rank, H0⟩ := H
    obtain ⟨rank', hrk, hv'⟩ := wvalH_of_ok H0 hv
    have hp := mapSet_heap ((HInv.of_pk H0).with_rank hrk) Hh hk hv' hr
    exact ⟨H', hp.heapOk, heapExact_step hp He⟩
  | mapRemove _ hh hk hr ih =>
    obtain ⟨H, Hh, He⟩ := ih
    have H' := (C10W.worldOk'_mapRemove D _ _ _ _ _ _ _ _ H hh hk hr).1
    obtain ⟨rank, H0⟩ := H
    have hp := mapRemove_heap (HInv.of_pk H0) Hh hk hr
    exact ⟨H', hp.heapOk, heapExact_step hp He⟩
  | setType _ hh hr ih =>
    obtain ⟨H, Hh, He⟩ := ih
    have H' := (C10W.worldOk'_setType D _ _ _ _ _ _ H hh hr).1
    obtain ⟨rank, H0⟩ := H
    have hp := setType_heap (HInv.of_pk H0) Hh hr
    exact ⟨H', hp.heapOk, heapExact_step hp He⟩
  | @arrGet _ cx _ _ _ _ _ hh hr ih =>
    obtain ⟨H, Hh, He⟩ := ih
    obtain ⟨H', hc, _⟩ := C10W.worldOk'_arrGet D _ _ _ _ _ _ H hh hr
    exact ⟨H', Hh.congr hc (DomRel.steps (arrGet_steps cx hr)).addr, heapExact_congr hc He⟩
  | @mapGet _ cx _ _ _ _ _ hh hk hr ih =>
    obtain ⟨H, Hh, He⟩ := ih
    obtain ⟨H', hc, _⟩ := C10W.worldOk'_mapGet D _ _ _ _ _ _ H hh hk hr
    exact ⟨H', Hh.congr hc (DomRel.steps (mapGet_steps cx hr)).addr, heapExact_congr hc He⟩
  | reopen _ ih =>
    obtain ⟨H, Hh, He⟩ := ih
    obtain ⟨H', hc, _⟩ := C10W.worldOk'_reopen D _ _ H
    exact ⟨C10W.worldOk'_of_worldOk H', Hh.congr hc rfl, heapExact_congr hc He⟩

end Atree.C09W

import AtreeProofs.Props.C09W
import AtreeProofs.World.HeapPop
import AtreeProofs.Props.C10Get
/-
  C09 AT WORLD LEVEL, BULK POP AND DISPOSAL ("emptying a container releases every slab it used",
  under the property's premise that the caller disposes of every value it is handed).
  PROPERTY THEOREMS.

  `World.forget` / the `forgetElems` inside `arrPop` make no storage call: in Go the slabs of a value
  handed to the caller are removed BY THE CALLER.  `World.dropLog w1 w2` is that disposal: one
  `remove` for every slab in the heap of `w1` that is not in the heap of `w2`.

  * `forget_effects_complete`: disposing of any container `k` (and everything below it): the caller's
    removes are a complete account; `HeapOk` is kept.
  * `arrPopKeep_effects_complete` / `arrPop_effects_complete`: `Array.PopIterate` through the handle
    of a container at any depth.  The library's log splits as `E1 ++ E2` (emptying the array: every
    slab of its tree but the root is removed, the root rewritten — then the parent notification
    chain); the caller's disposal `Dsp` of the popped values happens in between (inside the
    `PopIterate` callback).  `E1 ++ Dsp ++ E2` is a complete account of the change of the heap;
    every slab the caller removes is indeed no longer in the heap, and every slab of a container
    that was dropped is among the caller's removes: nothing leaks.

  * `mapPopKeep_effects_complete` / `mapPop_effects_complete`: the same for `OrderedMap.PopIterate`
    (standalone: every data / index / external collision-group slab but the root is removed; inlined:
    the external group slabs are removed).  Uses `mtree_pop_removed` (`Map/EffectsTop.lean`): the map
    pop removes EXACTLY the slabs of the tree — below the first level there is no external group.
-/
namespace Atree.C09W
open Atree Gen World
open Atree.C09 (newEffects newCreated newEffects_of_log)

/-- disposal of a container and of everything below it -/
theorem forget_effects_complete (w : World) (ctr : Nat) (Hh : HeapOk w ctr) (k : SlabID) :
    WEffectsComplete w (forget w.fuelOf w k) (dropLog w (forget w.fuelOf w k)) [] ∧
    HeapOk (forget w.fuelOf w k) ctr ∧
    (∀ e ∈ dropLog w (forget w.fuelOf w k), ∃ id, e = Eff.remove id ∧ w.InHeap id ∧
      ¬ (forget w.fuelOf w k).InHeap id) := by
  obtain ⟨h1, h2⟩ := forget_heap Hh k
  refine ⟨h1.effectsComplete Hh h2, h2, ?_⟩
  intro e he
  obtain ⟨i, rfl⟩ := dropLog_removes _ _ e he
  exact ⟨i, rfl, (mem_dropLog _ _ i).1 he⟩

/-- `Array.PopIterate` through a handle, the caller keeping the popped containers `keep` -/
theorem arrPopKeep_effects_complete (D : SlabID → DigestFn 4) (w : World) (h : SlabID) (keep : List SlabID)
    (cx : Ctx) (es : List Elem) (w' : World) (cx' : Ctx) (H : WorldOk' D w cx.ctr) (Hh : HeapOk w cx.ctr)
    (hp : w.arrPopKeep h keep cx = .ok (es, w', cx')) :
    ∃ (a : Arr) (E1 E2 : List Eff), w.cont? h = some (.arr a) ∧ newEffects cx cx' = E1 ++ E2 ∧
      let w1 := (w.setCont h (.arr (a.popIterate cx).2.1)).setIdx h []
      let w2 := w1.forgetElems (disposed keep es)
      let Dsp := dropLog w1 w2
      WEffectsComplete w w' (E1 ++ Dsp ++ E2) (newCreated cx cx') ∧ HeapOk w' cx'.ctr ∧
      (∀ id, Eff.remove id ∈ Dsp → ¬ w'.InHeap id) ∧
      (∀ x c, w1.cont? x = some c → w2.cont? x = none → ∀ id ∈ c.heapIds, Eff.remove id ∈ Dsp) ∧
      (∀ el ∈ disposed keep es, ∀ v x, el.pay = .ref v → Reach w1 v x → w2.cont? x = none) := by
  obtain ⟨rank, H0⟩ := H
  obtain ⟨a, _, hc, hes, rfl, hn⟩ := arrPopKeep_ok_iff.mp hp
  have hok := H0.conts h _ hc
  obtain ⟨E1, E2, C, hlog, hacct, hheap, g1, g2⟩ := popKeep_heap (HInv.of_pk H0) Hh hc (PopIter.arr H0.legal a cx hok)
    (cstep_arr_pop (c := cx) hok (Hh.nodup h _ hc)) (emptied_arr hc cx)
    (fun e he => by rw [← hes]; exact (List.mem_filter.1 he).1) hn
  obtain ⟨_, k2, k3⟩ := newEffects_of_log hlog
  refine ⟨a, E1, E2, hc, k2, ?_⟩
  intro w1 w2 Dsp
  rw [k3]
  exact ⟨hacct.effectsComplete Hh hheap, hheap, g1, g2, fun el hel v x hpv hr => forgetElems_reach_none hel hpv hr⟩

/-- `Array.PopIterate` through a handle, everything popped being disposed of -/
theorem arrPop_effects_complete (D : SlabID → DigestFn 4) (w : World) (h : SlabID)
    (cx : Ctx) (es : List Elem) (w' : World) (cx' : Ctx) (H : WorldOk' D w cx.ctr) (Hh : HeapOk w cx.ctr)
    (hp : w.arrPop h cx = .ok (es, w', cx')) :
    ∃ (a : Arr) (E1 E2 : List Eff), w.cont? h = some (.arr a) ∧ newEffects cx cx' = E1 ++ E2 ∧
      let w1 := (w.setCont h (.arr (a.popIterate cx).2.1)).setIdx h []
      let w2 := w1.forgetElems (disposed [] es)
      let Dsp := dropLog w1 w2
      WEffectsComplete w w' (E1 ++ Dsp ++ E2) (newCreated cx cx') ∧ HeapOk w' cx'.ctr ∧
      (∀ id, Eff.remove id ∈ Dsp → ¬ w'.InHeap id) ∧
      (∀ x c, w1.cont? x = some c → w2.cont? x = none → ∀ id ∈ c.heapIds, Eff.remove id ∈ Dsp) ∧
      (∀ el ∈ disposed [] es, ∀ v x, el.pay = .ref v → Reach w1 v x → w2.cont? x = none) := by
  rw [← C10Get.arrPopKeep_nil] at hp
  exact arrPopKeep_effects_complete D w h [] cx es w' cx' H Hh hp


/-- `OrderedMap.PopIterate` through a handle, the caller keeping the popped containers `keep` -/
theorem mapPopKeep_effects_complete (D : SlabID → DigestFn 4) (w : World) (h : SlabID) (keep : List SlabID)
    (cx : Ctx) (kvs : List (MKey × Elem)) (w' : World) (cx' : Ctx) (H : WorldOk' D w cx.ctr) (Hh : HeapOk w cx.ctr)
    (hp : w.mapPopKeep h keep cx = .ok (kvs, w', cx')) :
    ∃ (m : OMap 3) (E1 E2 : List Eff), w.cont? h = some (.map m) ∧ newEffects cx cx' = E1 ++ E2 ∧
      let w1 := w.setCont h (.map (m.popIterate cx).2.1)
      let w2 := w1.forgetElems (disposed keep (kvs.map (·.2)))
      let Dsp := dropLog w1 w2
      WEffectsComplete w w' (E1 ++ Dsp ++ E2) (newCreated cx cx') ∧ HeapOk w' cx'.ctr ∧
      (∀ id, Eff.remove id ∈ Dsp → ¬ w'.InHeap id) ∧
      (∀ x c, w1.cont? x = some c → w2.cont? x = none → ∀ id ∈ c.heapIds, Eff.remove id ∈ Dsp) ∧
      (∀ el ∈ disposed keep (kvs.map (·.2)), ∀ v x, el.pay = .ref v → Reach w1 v x → w2.cont? x = none) := by
  obtain ⟨rank, H0⟩ := H
  obtain ⟨m, _, hc, hes, rfl, hn⟩ := mapPopKeep_ok_iff.mp hp
  have hok := H0.conts h _ hc
  obtain ⟨E1, E2, C, hlog, hacct, hheap, g1, g2⟩ := popKeep_heap (HInv.of_pk H0) Hh hc (PopIter.map H0.legal m cx hok)
    (cstep_map_pop (c := cx) hok (Hh.nodup h _ hc)) (emptied_map hc cx)
    (fun e he => by rw [← hes]; exact (List.mem_filter.1 he).1) hn
  obtain ⟨_, k2, k3⟩ := newEffects_of_log hlog
  refine ⟨m, E1, E2, hc, k2, ?_⟩
  intro w1 w2 Dsp
  rw [k3]
  exact ⟨hacct.effectsComplete Hh hheap, hheap, g1, g2, fun el hel v x hpv hr => forgetElems_reach_none hel hpv hr⟩

/-- `OrderedMap.PopIterate` through a handle, everything popped being disposed of -/
theorem mapPop_effects_complete (D : SlabID → DigestFn 4) (w : World) (h : SlabID)
    (cx : Ctx) (kvs : List (MKey × Elem)) (w' : World) (cx' : Ctx) (H : WorldOk' D w cx.ctr) (Hh : HeapOk w cx.ctr)
    (hp : w.mapPop h cx = .ok (kvs, w', cx')) :
    ∃ (m : OMap 3) (E1 E2 : List Eff), w.cont? h = some (.map m) ∧ newEffects cx cx' = E1 ++ E2 ∧
      let w1 := w.setCont h (.map (m.popIterate cx).2.1)
      let w2 := w1.forgetElems (disposed [] (kvs.map (·.2)))
      let Dsp := dropLog w1 w2
      WEffectsComplete w w' (E1 ++ Dsp ++ E2) (newCreated cx cx') ∧ HeapOk w' cx'.ctr ∧
      (∀ id, Eff.remove id ∈ Dsp → ¬ w'.InHeap id) ∧
      (∀ x c, w1.cont? x = some c → w2.cont? x = none → ∀ id ∈ c.heapIds, Eff.remove id ∈ Dsp) ∧
      (∀ el ∈ disposed [] (kvs.map (·.2)), ∀ v x, el.pay = .ref v → Reach w1 v x → w2.cont? x = none) := by
  rw [← C10Get.mapPopKeep_nil] at hp
  exact mapPopKeep_effects_complete D w h [] cx kvs w' cx' H Hh hp

end Atree.C09W

import AtreeProofs.World.DeepOpsMisc
import AtreeProofs.Props.C09WHist
/-
  C10 "… is persisted by the next commit", the deep account (`WC.DeepStoredC`, definitions in
  `AtreeProofs/WorldCodec/DeepDefs.lean`): for EVERY operation of a history `C09W.Hist`, a slab that is
  in the heap before and after the operation with the same SHALLOW content (`World.slabAt`: a child
  is `{size, ref vid}` whether inlined or not) but whose DEEP content differs — the storable
  `World.stor e` of one of its local elements, which embeds the inlined children recursively — has a
  store as its last action in the log of the operation.  Property theorems.

  This discharges the hypothesis `DeepStored` of `C10Persist.deep_op_persisted`, in the form of the
  codec translation.  Together with the shallow account
  (`C09W.*_effects_complete`: every slab whose shallow content changed or that is new was stored,
  every slab that left the heap was removed) it says: the log of an operation is a complete account
  of the change of the BYTES of every register.

  Proof (files `AtreeProofs/World/Deep*.lean`):
  * `Deep.not_deepSame` — if `stor` of a local element of a slab differs, a container reached from
    the slab through inlined containers has a different entry and is inlined before or after;
  * `Deep.notifyDeep` — the callback chain, link by link (`World.notify_induction`) along `World.notifyHeap`: every
    `Array.set` / `OrderedMap.set` of the chain on a parent that owns the slab holding the reference
    to the notifying child stores that slab (`arr_set_holds`, `omap_set_holds`, and
    `Deep.omapInl_set_holds` for the external collision groups of an INLINED map); identification
    of "the slab the core lemma stored" with "the slab in question" by `UniqueRef` and
    `leaf_two_pos` / `mslab_vals_perm`; the chain does not stop below the standalone host because
    the handle is current (`HandleOk`);
  * `Deep.deep_of_track` — the operations: the value handed in was referenced by nobody, the value
    handed back is referenced by nobody, everything else that changed is on the chain.

  The eight operations that change the table of containers come in two forms: `*_deepStored` with
  the hypotheses of the constructors of `C09W.Hist`, `*_deepStored_ok` with `WorldOk'` and `HeapOk`
  only.  `arrGet`, `mapGet` and `reopen` leave the table as it is: one form each.
-/
namespace Atree.C10Deep
open Atree Gen World
open Atree.C09 (newEffects)
open Atree.Deep

variable (D : SlabID → DigestFn 4)

theorem arrInsert_deepStored_ok {w : World} {cx : Ctx} {p : SlabID} {i : Nat} {v : WVal} {w' : World} {cx' : Ctx}
    (H : WorldOk' D w cx.ctr) (Hh : HeapOk w cx.ctr) (hh : HandleOk w p) (hv : WValOk w p (maxInlineArr w.T) v)
    (hr : w.arrInsert p i v cx = .ok (w', cx')) : WC.DeepStoredC w w' (newEffects cx cx') := by
  obtain ⟨rank, H0⟩ := H
  obtain ⟨rank', hrk, hv'⟩ := C09W.wvalH_of_ok H0 hv
  exact deepStoredC_of Hh (arrInsert_heap ((HInv.of_pk H0).with_rank hrk) Hh hv' hr) (arrInsert_deepM H0 Hh hh hv hr)

theorem arrSet_deepStored_ok {w : World} {cx : Ctx} {p : SlabID} {i : Nat} {v : WVal} {old : Elem} {w' : World} {cx' : Ctx}
    (H : WorldOk' D w cx.ctr) (Hh : HeapOk w cx.ctr) (hh : HandleOk w p) (hv : WValOk w p (maxInlineArr w.T) v)
    (hr : w.arrSet p i v cx = .ok (old, w', cx')) : WC.DeepStoredC w w' (newEffects cx cx') := by
  obtain ⟨rank, H0⟩ := H
  obtain ⟨rank', hrk, hv'⟩ := C09W.wvalH_of_ok H0 hv
  exact deepStoredC_of Hh (arrSet_heap ((HInv.of_pk H0).with_rank hrk) Hh hv' hr) (arrSet_deepM H0 Hh hh hv hr)

theorem arrRemove_deepStored_ok {w : World} {cx : Ctx} {p : SlabID} {i : Nat} {old : Elem} {w' : World} {cx' : Ctx}
    (H : WorldOk' D w cx.ctr) (Hh : HeapOk w cx.ctr) (hh : HandleOk w p)
    (hr : w.arrRemove p i cx = .ok (old, w', cx')) : WC.DeepStoredC w w' (newEffects cx cx') := by
  obtain ⟨rank, H0⟩ := H
  exact deepStoredC_of Hh (arrRemove_heap (HInv.of_pk H0) Hh hr) (arrRemove_deepM H0 Hh hh hr)

theorem mapSet_deepStored_ok {w : World} {cx : Ctx} {p : SlabID} {k : MKey} {v : WVal} {old : Option Elem} {w' : World}
    {cx' : Ctx} (H : WorldOk' D w cx.ctr) (Hh : HeapOk w cx.ctr) (hh : HandleOk w p) (hk : KeyOk w.T 4 (D p) k)
    (hv : WValOk w p (maxInlineMapValue w.T k.size) v)
    (hr : w.mapSet p k v cx = .ok (old, w', cx')) : WC.DeepStoredC w w' (newEffects cx cx') := by
  obtain ⟨rank, H0⟩ := H
  obtain ⟨rank', hrk, hv'⟩ := C09W.wvalH_of_ok H0 hv
  exact deepStoredC_of Hh (mapSet_heap ((HInv.of_pk H0).with_rank hrk) Hh hk hv' hr) (mapSet_deepM H0 Hh hh hk hv hr)

theorem mapRemove_deepStored_ok {w : World} {cx : Ctx} {p : SlabID} {k rk : MKey} {rv : Elem} {w' : World} {cx' : Ctx}
    (H : WorldOk' D w cx.ctr) (Hh : HeapOk w cx.ctr) (hh : HandleOk w p) (hk : KeyOk w.T 4 (D p) k)
    (hr : w.mapRemove p k cx = .ok (rk, rv, w', cx')) : WC.DeepStoredC w w' (newEffects cx cx') := by
  obtain ⟨rank, H0⟩ := H
  exact deepStoredC_of Hh (mapRemove_heap (HInv.of_pk H0) Hh hk hr) (mapRemove_deepM H0 Hh hh hk hr)

theorem setType_deepStored_ok {w : World} {cx : Ctx} {p : SlabID} {ty : Nat} {w' : World} {cx' : Ctx}
    (H : WorldOk' D w cx.ctr) (Hh : HeapOk w cx.ctr) (hh : HandleOk w p)
    (hr : w.setType p ty cx = .ok (w', cx')) : WC.DeepStoredC w w' (newEffects cx cx') := by
  obtain ⟨rank, H0⟩ := H
  exact deepStoredC_of Hh (setType_heap (HInv.of_pk H0) Hh hr) (setType_deepM H0 Hh hh hr)

theorem newArr_deepStored_ok {w : World} {cx : Ctx} (ty : Nat) (H : WorldOk' D w cx.ctr) (Hh : HeapOk w cx.ctr) :
    WC.DeepStoredC w (w.newArr ty cx).2.1 (newEffects cx (w.newArr ty cx).2.2) := by
  obtain ⟨rank, H0⟩ := H
  exact deepStoredC_of Hh (newArr_heap (ty := ty) (HInv.of_pk H0) Hh) (newArr_deepM H0)

theorem newMap_deepStored_ok {w : World} {cx : Ctx} (ty seed : Nat) (H : WorldOk' D w cx.ctr) (Hh : HeapOk w cx.ctr) :
    WC.DeepStoredC w (w.newMap ty seed cx).2.1 (newEffects cx (w.newMap ty seed cx).2.2) := by
  obtain ⟨rank, H0⟩ := H
  exact deepStoredC_of Hh (newMap_heap (ty := ty) (seed := seed) (HInv.of_pk H0) Hh) (newMap_deepM H0)

theorem arrInsert_deepStored {w : World} {cx : Ctx} {p : SlabID} {i : Nat} {v : WVal} {w' : World} {cx' : Ctx}
    (h : C09W.Hist D w cx) (hh : HandleOk w p) (hv : WValOk w p (maxInlineArr w.T) v)
    (hr : w.arrInsert p i v cx = .ok (w', cx')) : WC.DeepStoredC w w' (newEffects cx cx') := by
  obtain ⟨H, Hh, _⟩ := C09W.world_heap_exact D w cx h
  exact arrInsert_deepStored_ok D H Hh hh hv hr

theorem arrSet_deepStored {w : World} {cx : Ctx} {p : SlabID} {i : Nat} {v : WVal} {old : Elem} {w' : World} {cx' : Ctx}
    (h : C09W.Hist D w cx) (hh : HandleOk w p) (hv : WValOk w p (maxInlineArr w.T) v)
    (hr : w.arrSet p i v cx = .ok (old, w', cx')) : WC.DeepStoredC w w' (newEffects cx cx') := by
  obtain ⟨H, Hh, _⟩ := C09W.world_heap_exact D w cx h
  exact arrSet_deepStored_ok D H Hh hh hv hr

theorem arrRemove_deepStored {w : World} {cx : Ctx} {p : SlabID} {i : Nat} {old : Elem} {w' : World} {cx' : Ctx}
    (h : C09W.Hist D w cx) (hh : HandleOk w p)
    (hr : w.arrRemove p i cx = .ok (old, w', cx')) : WC.DeepStoredC w w' (newEffects cx cx') := by
  obtain ⟨H, Hh, _⟩ := C09W.world_heap_exact D w cx h
  exact arrRemove_deepStored_ok D H Hh hh hr

theorem mapSet_deepStored {w : World} {cx : Ctx} {p : SlabID} {k : MKey} {v : WVal} {old : Option Elem} {w' : World}
    {cx' : Ctx} (h : C09W.Hist D w cx) (hh : HandleOk w p) (hk : KeyOk w.T 4 (D p) k)
    (hv : WValOk w p (maxInlineMapValue w.T k.size) v)
    (hr : w.mapSet p k v cx = .ok (old, w', cx')) : WC.DeepStoredC w w' (newEffects cx cx') := by
  obtain ⟨H, Hh, _⟩ := C09W.world_heap_exact D w cx h
  exact mapSet_deepStored_ok D H Hh hh hk hv hr

theorem mapRemove_deepStored {w : World} {cx : Ctx} {p : SlabID} {k rk : MKey} {rv : Elem} {w' : World} {cx' : Ctx}
    (h : C09W.Hist D w cx) (hh : HandleOk w p) (hk : KeyOk w.T 4 (D p) k)
    (hr : w.mapRemove p k cx = .ok (rk, rv, w', cx')) : WC.DeepStoredC w w' (newEffects cx cx') := by
  obtain ⟨H, Hh, _⟩ := C09W.world_heap_exact D w cx h
  exact mapRemove_deepStored_ok D H Hh hh hk hr

theorem setType_deepStored {w : World} {cx : Ctx} {p : SlabID} {ty : Nat} {w' : World} {cx' : Ctx}
    (h : C09W.Hist D w cx) (hh : HandleOk w p)
    (hr : w.setType p ty cx = .ok (w', cx')) : WC.DeepStoredC w w' (newEffects cx cx') := by
  obtain ⟨H, Hh, _⟩ := C09W.world_heap_exact D w cx h
  exact setType_deepStored_ok D H Hh hh hr

/-- `NewArray`: no existing container changes -/
theorem newArr_deepStored {w : World} {cx : Ctx} (ty : Nat) (h : C09W.Hist D w cx) :
    WC.DeepStoredC w (w.newArr ty cx).2.1 (newEffects cx (w.newArr ty cx).2.2) := by
  obtain ⟨H, Hh, _⟩ := C09W.world_heap_exact D w cx h
  exact newArr_deepStored_ok D ty H Hh

theorem newMap_deepStored {w : World} {cx : Ctx} (ty seed : Nat) (h : C09W.Hist D w cx) :
    WC.DeepStoredC w (w.newMap ty seed cx).2.1 (newEffects cx (w.newMap ty seed cx).2.2) := by
  obtain ⟨H, Hh, _⟩ := C09W.world_heap_exact D w cx h
  exact newMap_deepStored_ok D ty seed H Hh

/-- `Array.Get` (and the mutable iterator): the table of containers is unchanged, whatever the log -/
theorem arrGet_deepStored {w : World} {cx : Ctx} {p : SlabID} {i : Nat} {el : Elem} {w' : World}
    (h : C09W.Hist D w cx) (hh : HandleOk w p) (hr : w.arrGet p i = .ok (el, w')) (E : List Eff) :
    WC.DeepStoredC w w' E := by
  obtain ⟨H, _, _⟩ := C09W.world_heap_exact D w cx h
  exact deepStoredC_of_conts (C10W.worldOk'_arrGet D w p i el w' cx.ctr H hh hr).2.1 E

theorem mapGet_deepStored {w : World} {cx : Ctx} {p : SlabID} {k : MKey} {el : Elem} {w' : World}
    (h : C09W.Hist D w cx) (hh : HandleOk w p) (hk : KeyOk w.T 4 (D p) k) (hr : w.mapGet p k = .ok (el, w'))
    (E : List Eff) : WC.DeepStoredC w w' E := by
  obtain ⟨H, _, _⟩ := C09W.world_heap_exact D w cx h
  exact deepStoredC_of_conts (C10W.worldOk'_mapGet D w p k el w' cx.ctr H hh hk hr).2.1 E

/-- reopening drops the handles only -/
theorem reopen_deepStored (w : World) (E : List Eff) : WC.DeepStoredC w w.reopen E :=
  deepStoredC_of_conts (w := w) (w' := w.reopen) (fun _ => rfl) E

/-- two worlds with the same table of containers give every element the same storable (`Deep.stor_congr_conts`,
    the fact behind `deepStoredC_of_conts`, which the three read-only operations use) -/
theorem stor_congr_conts {w w' : World} (h : ∀ z, w'.cont? z = w.cont? z) (e : Elem) : w'.stor e = w.stor e :=
  Deep.stor_congr_conts h e

/-! ### consequence: the log is a complete account of the deep content (`C10Persist.Complete`) -/

/-- The deep content of the slab stored under `id` as the codec sees it: the shallow slab together with
    the storables of its local elements (inlined children embedded recursively) -/
def deepC (w : World) (id : SlabID) : Option (WSlab × List Codec.Stor) :=
  (w.slabAt id).map (fun s => (s, (C10Persist.slabElems s).map w.stor))

/-- the shallow account and the deep account together: a complete account of the deep content -/
theorem deepC_complete {w w' : World} {E : List Eff} (h : WEffectsComplete w w' E []) (hd : WC.DeepStoredC w w' E) :
    C10Persist.Complete (deepC w) (deepC w') E :=
  (C10Persist.complete_of_world h).map _ _ fun id s hs' hs hne =>
    hd id s hs' hs fun hsame => hne (congrArg (Prod.mk s) (List.map_congr_left hsame))

/-- One operation (whose log satisfies the shallow and the deep account — both are theorems for every
    operation of a history), then commit, then reopen: the new storage holds, for every heap slab, the
    slab AND the storables of its local elements as of the new world.  (`C10Persist.deep_op_persisted`
    with its hypothesis `DeepStored` discharged, for the deep content in codec form.) -/
theorem deepC_op_persisted {β : Type} (c : Codec (WSlab × List Codec.Stor) β) (hc : RoundTrip c)
    (s : St (WSlab × List Codec.Stor) β) (w w' : World) (E : List Eff)
    (hrep : C10Persist.Rep c s (deepC w)) (hI : Atree.Inv c s) (hcomp : WEffectsComplete w w' E [])
    (hdeep : WC.DeepStoredC w w' E) (kind : CommitKind) (mo dlo : List SlabID) :
    let s' := WE2E.applyEffs c s (deepC w') E
    C10Persist.Rep c s' (deepC w') ∧ Atree.Inv c s' ∧
    (NoEncodeFailure c s' →
      (St.step c s' (.commit kind [] mo dlo)).2 = .unit ∧
      let reopened := St.run c s' [.commit kind [] mo dlo, .recreate]
      reopened.deltas = [] ∧ reopened.cache = [] ∧
      ∀ id, id.isTemp = false → reopened.view c id = (deepC w') id) :=
  (deepC_complete hcomp hdeep).persisted c hc s hrep hI kind mo dlo

end Atree.C10Deep

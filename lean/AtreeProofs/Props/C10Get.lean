import AtreeProofs.Props.C10
import AtreeProofs.Props.C11
/-
  C10 — handles obtained by lookup or mutable iteration, and after reopening the storage.
  Property theorems.  `Array.Get` / `OrderedMap.Get` and the mutable iterators install on the new
  handle exactly the closure that `notify_updates_array_parent` (and its map analogue) assume:
  the recorded parent, slot (index in `mutableElementIndex`, or key), wrapper depth and the inline
  budget recomputed by the parent's `set`.  They change nothing else: containers, elements and the
  closures / indexes of all other children are untouched, and no storage effect is produced.
-/
namespace Atree.C10Get
open Atree Gen World

/-- `Array.Get(i)` that yields a child container `x`: -/
theorem arrGet_installs_callback (w : World) (p : SlabID) (i : Nat) (el : Elem) (w' : World)
    (h : w.arrGet p i = .ok (el, w')) (x : SlabID) (hx : el.pay = .ref x) (c : Cont)
    (hc : w.cont? x = some c) :
    ∃ a, w.cont? p = some (.arr a) ∧ a.get i = .ok el ∧
      -- the closure: parent, no key, wrapper depth, and the budget `Array.set` recomputes (`hmax`)
      AList.find? w'.hinfo x =
        some { parent := p, key := none, maxInline := maxInlineArr w.T - 2 * wrapDepth c el, wrap := wrapDepth c el } ∧
      -- the index is recorded (`hidx`)
      AList.find? (w'.idxOf p) x = some i ∧
      -- nothing else changes
      w'.conts = w.conts ∧ w'.T = w.T ∧
      (∀ y, y ≠ x → AList.find? w'.hinfo y = AList.find? w.hinfo y) ∧
      (∀ q, q ≠ p → w'.idxOf q = w.idxOf q) ∧
      (∀ y, y ≠ x → AList.find? (w'.idxOf p) y = AList.find? (w.idxOf p) y) := by
  obtain ⟨a, hpa, hget, ⟨_, hn⟩ | ⟨x', c', hx', hc', rfl⟩⟩ := arrGet_ok_iff.mp h
  · rw [hn x hx] at hc; cases hc
  rw [hx] at hx'; cases hx'
  rw [hc] at hc'; cases hc'
  refine ⟨a, hpa, hget, by rw [hinfo_setCallbackArr, if_pos rfl],
    by rw [idxOf_setCallbackArr, if_pos ⟨rfl, rfl⟩], conts_setCallbackArr _ _ _ _, rfl,
    fun y hy => hinfo_setCallbackArr_ne _ _ _ _ _ (fun _ e => hy (by cases e; rfl)),
    fun q hq => ?_, fun y hy => by rw [idxOf_setCallbackArr, if_neg (fun e => hy e.2.symm)]⟩
  simp only [setCallbackArr, idxOf, setIdx, AList.find?_insert, if_neg (Ne.symm hq)]

/-- `Array.Get(i)` that yields a plain value (or a reference to a large-value slab) changes nothing. -/
theorem arrGet_plain_noop (w : World) (p : SlabID) (i : Nat) (el : Elem) (w' : World)
    (h : w.arrGet p i = .ok (el, w')) (hx : ∀ x, el.pay = .ref x → w.cont? x = none) : w' = w := by
  obtain ⟨_, _, _, ⟨rfl, _⟩ | ⟨x, c, hpay, hc, _⟩⟩ := arrGet_ok_iff.mp h
  · rfl
  · rw [hx x hpay] at hc; cases hc

/-- `OrderedMap.Get(key)` that yields a child container `x`: the closure records the parent, the
    key, the wrapper depth and the budget `OrderedMap.set` recomputes from the STORED key's size. -/
theorem mapGet_installs_callback (w : World) (p : SlabID) (k : MKey) (el : Elem) (w' : World)
    (h : w.mapGet p k = .ok (el, w')) (x : SlabID) (hx : el.pay = .ref x) (c : Cont)
    (hc : w.cont? x = some c) :
    ∃ m k', w.cont? p = some (.map m) ∧ m.get w.mcfg k = .ok (k', el) ∧
      AList.find? w'.hinfo x =
        some { parent := p, key := some k', maxInline := maxInlineMapValue w.T k'.size - 2 * wrapDepth c el,
               wrap := wrapDepth c el } ∧
      w'.conts = w.conts ∧ w'.T = w.T ∧ w'.mutIdx = w.mutIdx ∧
      (∀ y, y ≠ x → AList.find? w'.hinfo y = AList.find? w.hinfo y) := by
  obtain ⟨m, k', hpm, hget, ⟨_, hn⟩ | ⟨x', c', hx', hc', rfl⟩⟩ := mapGet_ok_iff.mp h
  · rw [hn x hx] at hc; cases hc
  rw [hx] at hx'; cases hx'
  rw [hc] at hc'; cases hc'
  exact ⟨m, k', hpm, hget, by rw [hinfo_setCallbackMap, if_pos rfl], conts_setCallbackMap _ _ _ _, rfl,
    mutIdx_setCallbackMap _ _ _ _,
    fun y hy => hinfo_setCallbackMap_ne _ _ _ _ _ (fun _ e => hy (by cases e; rfl))⟩

/-- Reopening on a fresh storage keeps every container and drops every closure and index: until a
    child is fetched again, mutating it through a handle opened by its own root ID notifies nobody. -/
theorem reopen_spec (w : World) :
    w.reopen.conts = w.conts ∧ w.reopen.T = w.T ∧ w.reopen.hinfo = [] ∧ (∀ p, w.reopen.idxOf p = []) ∧
    (∀ fuel x cx, notifyParent (fuel + 1) w.reopen x cx = .ok (w.reopen, cx)) := by
  refine ⟨rfl, rfl, rfl, fun p => rfl, fun fuel x cx => ?_⟩
  exact notifyParent_of_no_closure cx rfl

/-- nothing kept = everything handed out is disposed of -/
theorem disposed_nil (es : List Elem) : disposed [] es = es := World.disposed_nil es

/-- The bulk pop with kept containers generalises the plain one (about which `C10Pop` speaks). -/
theorem arrPopKeep_nil (w : World) (h : SlabID) (cx : Ctx) : w.arrPopKeep h [] cx = w.arrPop h cx :=
  World.arrPopKeep_nil w h cx

theorem mapPopKeep_nil (w : World) (h : SlabID) (cx : Ctx) : w.mapPopKeep h [] cx = w.mapPop h cx :=
  World.mapPopKeep_nil w h cx

/-- A popped INLINED child that the caller keeps still names its former parent `h` in its closure;
    `h` (an array) has forgotten every index, so the child's next notification finds nothing,
    changes no container and only drops the closure (C11 for containers handed out by a bulk pop). -/
theorem kept_child_notification_is_noop (fuel : Nat) (w : World) (x h : SlabID) (hi : HInfo) (cx : Ctx)
    (c : Cont) (pa : Arr)
    (hh : AList.find? w.hinfo x = some hi) (hp : hi.parent = h) (hc : w.cont? x = some c)
    (hpa : w.cont? h = some (.arr pa)) (hidx : w.idxOf h = []) :
    notifyParent (fuel + 1) w x cx = .ok (w, cx) ∨
    notifyParent (fuel + 1) w x cx = .ok ({ w with hinfo := AList.erase w.hinfo x }, cx) := by
  subst hp
  exact C11.detached_array_child_leaves_parent_unchanged fuel w x hi cx c pa hh hc hpa (by rw [hidx]; rfl)

/-! ### Non-vacuity: the scenario world of `World/Scenario.lean` (root array `R` holding child array
    `X`, standalone after six inserts), reopened and fetched again through `R`. -/
section NonVacuity
open Atree.Scenario

/-- after reopening, the lookup `R.Get(0)` hands out `X` and installs exactly the closure and index
    that the insertion had installed (budget 117 = `maxInlineArr 256`, no wrapper) -/
example : ∃ el w', s9.1.reopen.arrGet R 0 = .ok (el, w') ∧ el.pay = .ref X ∧
    AList.find? w'.hinfo X = some ⟨R, none, 117, 0⟩ ∧ AList.find? (w'.idxOf R) X = some 0 ∧
    AList.find? s9.1.hinfo X = some ⟨R, none, 117, 0⟩ := by
  refine ⟨_, _, rfl, by decide, by decide, by decide, by decide⟩

example : (s9.1.reopen.hinfo = []) ∧ (s9.1.reopen.conts = s9.1.conts) := ⟨rfl, rfl⟩

end NonVacuity

end Atree.C10Get

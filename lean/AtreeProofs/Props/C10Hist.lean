import AtreeProofs.World.History
import AtreeProofs.Props.C10WPopOps
import AtreeProofs.Props.C10WPop
/-
  C10 — histories.  Property theorems.

  `history_invariant`: for EVERY history of requests made through handles the client holds
  (`World.Run`, AtreeProofs/WorldHistory.lean: creations, inserts / overwrites / removals of plain
  values and of child containers, lookups, type changes, bulk pops, disposals, reopening — in any
  interleaving, through any of the handles obtained so far, at any depth), starting from the empty
  world, the global invariant `WorldOk'` holds and EVERY handle the client holds is current
  (`HandleOk`) and names a live container.  No hypothesis `HandleOk` is made along the way: that
  a handle obtained on creation / by lookup / by being handed a container back stays current while
  OTHER handles are used is what the operation theorems `worldOk'_*_all` (`HandlesKept`) provide.

  `history_refines`: the table of signatures of the final world (kind, keys, payloads of every
  container: all that reading through references looks at) is what the SPECIFICATION `SpecRun` —
  arrays as sequences, maps as key / payload lists, each request changing only the container it
  addresses — yields for the same requests, and every returned payload is the specification's.

  `history_read_through`: the deep value read through any container of the final world is the deep
  value of the specification's table; and every reference element met on the way has the size of
  the current form of the container it refers to, that container being inline exactly when it fits
  the slot (read-through, `C10W.read_through_arrInsert`, at history level).
-/
namespace Atree.C10Hist
open Atree Gen World

/-- the invariant of histories: `WorldOk'`, and every handle held is current and live.  A predicate on
    history states `HState`, unrelated to the light heap invariant `World.HInv` (World/HeapStorable.lean)
    on worlds: in this namespace `HInv` is this one. -/
def HInv (D : SlabID → DigestFn 4) (s : HState) : Prop :=
  WorldOk' D s.w s.cx.ctr ∧ ∀ z, s.hs z → HandleOk s.w z ∧ (s.w.cont? z).isSome

/-- every request of a history is a sequence of elementary steps -/
theorem steps_of_step {D : SlabID → DigestFn 4} {s s' : HState} {op : WOp} {ob : WObs} (h : Step D s op ob s') :
    Steps AnyStep s.w s.cx s'.w s'.cx := by
  cases h with
  | newArr ty => exact .one trivial (.newArr _ _ ty)
  | newMap ty seed => exact .one trivial (.newMap _ _ ty seed)
  | arrInsert p i v w' cx' _ _ hop => exact (arrInsert_steps hop).mono fun _ _ => trivial
  | arrSet p i v old w' cx' _ _ hop => exact (arrSet_steps hop).mono fun _ _ => trivial
  | arrRemove p i old w' cx' _ hop => exact (arrRemove_steps hop).mono fun _ _ => trivial
  | mapSet p k v old w' cx' _ _ _ hop => exact (mapSet_steps hop).mono fun _ _ => trivial
  | mapRemove p k rk rv w' cx' _ _ hop => exact (mapRemove_steps hop).mono fun _ _ => trivial
  | arrGet p i el w' _ hop => exact (arrGet_steps s.cx hop).mono fun _ _ => trivial
  | mapGet p k el w' _ _ hop => exact (mapGet_steps s.cx hop).mono fun _ _ => trivial
  | setType p ty w' cx' _ hop => exact (setType_steps hop).mono fun _ _ => trivial
  | arrPop p es w' cx' _ hop => exact (arrPop_steps hop).mono fun _ _ => trivial
  | mapPop p kvs w' cx' _ hop => exact (mapPop_steps hop).mono fun _ _ => trivial
  | dispose k _ _ => exact (forget_steps _ _ _ _).mono fun _ _ => trivial
  | reopen roots => exact .one trivial (.reopen _ _)

/-- a fresh empty container `x` joins the table: the handles held stay current and live, and `x` is one more -/
private theorem handles_new {w w' : World} {hs : SlabID → Prop} {x : SlabID} {c : Cont}
    (hh : ∀ z, hs z → HandleOk w z ∧ (w.cont? z).isSome) (hnew : w.cont? x = none) (hx : w'.cont? x = some c)
    (hc : c.pays = []) (hco : ∀ z, z ≠ x → w'.cont? z = w.cont? z) (hi : w'.hinfo = w.hinfo)
    (hm : w'.mutIdx = w.mutIdx) (hxh : HandleOk w' x) :
    ∀ z, hs z ∨ z = x → HandleOk w' z ∧ (w'.cont? z).isSome := by
  rintro z (hz | rfl)
  · obtain ⟨k1, k2⟩ := hh z hz
    have hzx : z ≠ x := fun he => by rw [he, hnew] at k2; cases k2
    exact ⟨handleOk_new hnew hx hc hco hi hm k1, by rw [hco z hzx]; exact k2⟩
  · exact ⟨hxh, by rw [hx]; rfl⟩

/-- a mutation through `p` keeps the handles held current and live -/
private theorem handles_kept {w w' : World} {p z : SlabID} (hf : SigFrame w w' p) (hk : HandlesKept w w')
    (hp : (w'.cont? p).isSome) (h : HandleOk w z ∧ (w.cont? z).isSome) : HandleOk w' z ∧ (w'.cont? z).isSome :=
  ⟨hk z h.1 (hf.live_at hp h.2), hf.live_at hp h.2⟩

theorem step_invariant (D : SlabID → DigestFn 4) {s s' : HState} {op : WOp} {ob : WObs} (I : HInv D s)
    (h : Step D s op ob s') : HInv D s' := by
  obtain ⟨H, hh⟩ := I
  cases h with
  | newArr ty =>
    obtain ⟨g1, _, g3, ⟨a, ga, gl, _⟩, g5, g6⟩ := C10W.worldOk'_newArr D s.w ty s.cx H
    exact ⟨g1, handles_new hh g3 ga (by simp [Cont.pays, Cont.storedElems, gl]) g5 rfl rfl g6⟩
  | newMap ty seed =>
    obtain ⟨g1, _, g3, ⟨m, ga, gl, _⟩, g5, g6⟩ := C10W.worldOk'_newMap D s.w ty seed s.cx H
    exact ⟨g1, handles_new hh g3 ga (by simp [Cont.pays, Cont.storedElems, gl]) g5 rfl rfl g6⟩
  | arrInsert p i v w' cx' hp hv hop =>
    obtain ⟨g1, _, g3, _, g5, g6, _⟩ := C10W.worldOk'_arrInsert_all D s.w p i v s.cx w' cx' H (hh p hp).1 hv hop
    exact ⟨g1, fun z hz => handles_kept g5 g6 g3.live (hh z hz)⟩
  | arrSet p i v old w' cx' hp hv hop =>
    obtain ⟨g1, _, g3, _, g5, g6, _⟩ := C10W.worldOk'_arrSet_all D s.w p i v s.cx old w' cx' H (hh p hp).1 hv hop
    exact ⟨g1, fun z hz => hz.elim (fun hz => handles_kept g5 g6 g3.live (hh z hz)) fun hz => g3.handle_back hz.1 hz.2⟩
  | arrRemove p i old w' cx' hp hop =>
    obtain ⟨g1, _, g3, _, g5, g6, _⟩ := C10W.worldOk'_arrRemove_all D s.w p i s.cx old w' cx' H (hh p hp).1 hop
    exact ⟨g1, fun z hz => hz.elim (fun hz => handles_kept g5 g6 g3.live (hh z hz)) fun hz => g3.handle_back hz.1 hz.2⟩
  | mapSet p k v old w' cx' hp hk hv hop =>
    obtain ⟨g1, _, g3, _, g5, g6, _⟩ :=
      C10W.worldOk'_mapSet_all D s.w p k v s.cx old w' cx' H (hh p hp).1 hk hv hop
    exact ⟨g1, fun z hz => hz.elim (fun hz => handles_kept g5 g6 g3.live (hh z hz))
      fun ⟨_, ho, hz1, hz2⟩ => g3.handle_back ho hz1 hz2⟩
  | mapRemove p k rk rv w' cx' hp hk hop =>
    obtain ⟨g1, _, g3, _, g5, g6, _⟩ :=
      C10W.worldOk'_mapRemove_all D s.w p k s.cx rk rv w' cx' H (hh p hp).1 hk hop
    exact ⟨g1, fun z hz => hz.elim (fun hz => handles_kept g5 g6 g3.live (hh z hz)) fun hz => g3.handle_back hz.1 hz.2⟩
  | arrGet p i el w' hp hop =>
    obtain ⟨g1, g2, _, g4, g5⟩ := C10W.worldOk'_arrGet D s.w p i el w' s.cx.ctr H (hh p hp).1 hop
    refine ⟨g1, fun z hz => ?_⟩
    rcases hz with hz | ⟨hz1, hz2⟩
    · exact ⟨g4 z (hh z hz).1, by rw [g2]; exact (hh z hz).2⟩
    · exact ⟨g5 z hz1 hz2, by rw [g2]; exact hz2⟩
  | mapGet p k el w' hp hk hop =>
    obtain ⟨g1, g2, _, g4, g5⟩ := C10W.worldOk'_mapGet D s.w p k el w' s.cx.ctr H (hh p hp).1 hk hop
    refine ⟨g1, fun z hz => ?_⟩
    rcases hz with hz | ⟨hz1, hz2⟩
    · exact ⟨g4 z (hh z hz).1, by rw [g2]; exact (hh z hz).2⟩
    · exact ⟨g5 z hz1 hz2, by rw [g2]; exact hz2⟩
  | setType p ty w' cx' hp hop =>
    obtain ⟨g1, _, _, _, g5, g6, _⟩ := C10W.worldOk'_setType_all D s.w p ty s.cx w' cx' H (hh p hp).1 hop
    exact ⟨g1, fun z hz => ⟨g6 z (hh z hz).1 (by rw [g5.isSome]; exact (hh z hz).2),
      by rw [g5.isSome]; exact (hh z hz).2⟩⟩
  | arrPop p es w' cx' hp hop =>
    obtain ⟨a, _, _, g1, _, _, _, _, g8⟩ := C10W.worldOk_arrPop D s.w p s.cx es w' cx' H (hh p hp).1 hop
    exact ⟨g1, fun z hz => ⟨g8 z (hh z hz.1).1 hz.2, hz.2⟩⟩
  | mapPop p kvs w' cx' hp hop =>
    obtain ⟨m, _, _, g1, _, _, _, _, g8⟩ := C10W.worldOk_mapPop D s.w p s.cx kvs w' cx' H (hh p hp).1 hop
    exact ⟨g1, fun z hz => ⟨g8 z (hh z hz.1).1 hz.2, hz.2⟩⟩
  | dispose k hk hd =>
    obtain ⟨g1, g2⟩ := C10W.worldOk_forget D s.w k s.cx.ctr H hd
    exact ⟨g1, fun z hz => ⟨handleOk_forget g2 (hh z hz.1).1 hz.2, hz.2⟩⟩
  | reopen roots =>
    obtain ⟨g1, g2, g3⟩ := C10W.worldOk'_reopen D s.w s.cx.ctr H
    exact ⟨C10W.worldOk'_of_worldOk g1, fun z hz => ⟨g3 z hz.2.2, by rw [g2]; exact hz.2.1⟩⟩

theorem run_invariant (D : SlabID → DigestFn 4) {s s' : HState} {tr : List (WOp × WObs)} (I : HInv D s)
    (h : Run D s tr s') : HInv D s' := by
  induction h with
  | nil => exact I
  | cons hs _ ih => exact ih (step_invariant D I hs)

/-- Along every history of requests through handles the client holds, from
    the empty world: the global invariant holds, and every handle the client holds — obtained on
    creation, by lookup, by being handed a container back, by opening a root after a reopen; not
    invalidated by a pop / disposal of its container — is current and names a live container. -/
theorem history_invariant (D : SlabID → DigestFn 4) (T addr : Nat) (cx0 : Ctx) (hT : legalThreshold T = true)
    (tr : List (WOp × WObs)) (s : HState) (h : Run D (HState.init T addr cx0) tr s) :
    WorldOk' D s.w s.cx.ctr ∧ ∀ z, s.hs z → HandleOk s.w z ∧ (s.w.cont? z).isSome :=
  run_invariant D ⟨C10W.worldOk'_new D T addr cx0.ctr hT, fun _ hz => absurd hz id⟩ h

/-- after any history, for every handle `p` the client holds: `WorldOk'` and `HandleOk s.w p`, the
    hypotheses of the operation theorems for a request through `p` -/
theorem history_next_handle_current (D : SlabID → DigestFn 4) (T addr : Nat) (cx0 : Ctx)
    (hT : legalThreshold T = true) (tr : List (WOp × WObs)) (s : HState)
    (h : Run D (HState.init T addr cx0) tr s) (p : SlabID) (hp : s.hs p) :
    WorldOk' D s.w s.cx.ctr ∧ HandleOk s.w p :=
  ⟨(history_invariant D T addr cx0 hT tr s h).1, ((history_invariant D T addr cx0 hT tr s h).2 p hp).1⟩

/-- the frame of a bulk pop that keeps nothing, read on the table of signatures -/
private theorem disposed_of_popFrame {w w' : World} {p : SlabID} {c : Cont} (F : PopFrame w w' p c []) :
    Disposed (absTab w) (absTab w') (c.sig.2.map (·.2)) p := by
  obtain ⟨F1, F2, _, F4⟩ := F
  have hps : (c.sig.2).map (·.2) = c.pays := (Cont.pays_eq_sig _).symm
  refine ⟨fun v x hv hr => ?_, fun z hz hnb => ?_, fun z hz => ?_⟩
  · rw [hps] at hv
    obtain ⟨e, he, hp'⟩ := mem_pays_iff.mp hv
    have := F1 e (by unfold disposedOf; rw [C10Get.disposed_nil]; exact he) v x hp' ((reach_iff_treach _ _ _).mpr hr)
    unfold absTab; rw [this]; rfl
  · refine F2 z hz (fun e he v hp' hr => ?_)
    unfold disposedOf at he; rw [C10Get.disposed_nil] at he
    exact hnb v (by rw [hps]; exact mem_pays_iff.mpr ⟨e, he, hp'⟩) ((reach_iff_treach _ _ _).mp hr)
  · rw [absTab_isSome] at hz ⊢
    exact F4 z hz

theorem step_refines (D : SlabID → DigestFn 4) {s s' : HState} {op : WOp} {ob : WObs} (I : HInv D s)
    (h : Step D s op ob s') : SpecStep (absTab s.w) op ob (absTab s'.w) := by
  obtain ⟨H, hh⟩ := I
  cases h with
  | newArr ty =>
    obtain ⟨_, _, g3, ⟨a, ga, gl, _⟩, g5, _⟩ := C10W.worldOk'_newArr D s.w ty s.cx H
    show SpecStep (absTab s.w) _ _ (absTab (s.w.newArr ty s.cx).2.1)
    rw [absTab_upd (w := s.w) (fun z hz => by rw [g5 z hz]) ga, sig_arr, gl]
    exact SpecStep.newArr (absTab s.w) ty _ (by unfold absTab; rw [g3]; rfl)
  | newMap ty seed =>
    obtain ⟨_, _, g3, ⟨m, ga, gl, _⟩, g5, _⟩ := C10W.worldOk'_newMap D s.w ty seed s.cx H
    show SpecStep (absTab s.w) _ _ (absTab (s.w.newMap ty seed s.cx).2.1)
    rw [absTab_upd (w := s.w) (fun z hz => by rw [g5 z hz]) ga, sig_map, gl]
    exact SpecStep.newMap (absTab s.w) ty seed _ (by unfold absTab; rw [g3]; rfl)
  | arrInsert p i v w' cx' hp hv hop =>
    obtain ⟨_, _, g3, _, g5⟩ := C10W.worldOk'_arrInsert D s.w p i v s.cx w' cx' H (hh p hp).1 hv hop
    obtain ⟨a, a', h1, h2, h3, e1⟩ := g3.sig
    show SpecStep (absTab s.w) _ _ (absTab w')
    rw [absTab_upd g5 h2, e1]
    exact SpecStep.arrInsert _ p i v _ (absTab_of h1) (by simpa using h3)
  | arrSet p i v old w' cx' hp hv hop =>
    obtain ⟨_, _, g3, _, g5⟩ := C10W.worldOk'_arrSet D s.w p i v s.cx old w' cx' H (hh p hp).1 hv hop
    obtain ⟨a, a', old0, h1, h2, h3, h5, e1⟩ := g3.sig
    show SpecStep (absTab s.w) _ _ (absTab w')
    rw [absTab_upd g5 h2, e1, h5]
    exact SpecStep.arrSet _ p i v _ _ (absTab_of h1) (by rw [List.getElem?_map, h3]; rfl)
  | arrRemove p i old w' cx' hp hop =>
    obtain ⟨_, _, g3, _, g5⟩ := C10W.worldOk'_arrRemove D s.w p i s.cx old w' cx' H (hh p hp).1 hop
    obtain ⟨a, a', old0, h1, h2, h3, h5, e1⟩ := g3.sig
    show SpecStep (absTab s.w) _ _ (absTab w')
    rw [absTab_upd g5 h2, e1, h5]
    exact SpecStep.arrRemove _ p i _ _ (absTab_of h1) (by rw [List.getElem?_map, h3]; rfl)
  | mapSet p k v old w' cx' hp hk hv hop =>
    obtain ⟨_, _, g3, _, g5⟩ := C10W.worldOk'_mapSet D s.w p k v s.cx old w' cx' H (hh p hp).1 hk hv hop
    obtain ⟨m, m', e, oldo, h1, h2, h3, hpay, hold⟩ := g3.effect
    show SpecStep (absTab s.w) _ (.opay (old.map (·.pay))) (absTab w')
    rw [absTab_upd g5 h2, sig_map, hold]
    rcases h3 with ⟨ho, hne, A, B, hA, hB⟩ | ⟨v0, A, B, ho, hA, hB⟩
    · rw [ho, hB, List.map_append, List.map_cons, hpay]
      refine SpecStep.mapSetNew _ p k v _ _ (by rw [absTab_of h1, sig_map, hA, List.map_append]) ?_
      intro t ht
      rw [← List.map_append, ← hA] at ht
      obtain ⟨q, hq, rfl⟩ := List.mem_map.mp ht
      intro he
      exact hne q hq (by simpa using he)
    · rw [ho, hB, List.map_append, List.map_cons, hpay]
      exact SpecStep.mapSetOld _ p k v _ _ _ (by rw [absTab_of h1, sig_map, hA, List.map_append]; rfl)
  | mapRemove p k rk rv w' cx' hp hk hop =>
    obtain ⟨_, _, g3, _, g5⟩ := C10W.worldOk'_mapRemove D s.w p k s.cx rk rv w' cx' H (hh p hp).1 hk hop
    obtain ⟨m, m', rv0, h1, h2, ⟨A, B, hA, hB⟩, h5⟩ := g3.effect
    show SpecStep (absTab s.w) _ _ (absTab w')
    rw [absTab_upd g5 h2, sig_map, hB, List.map_append, h5]
    exact SpecStep.mapRemove _ p k _ _ _ (by rw [absTab_of h1, sig_map, hA, List.map_append]; rfl)
  | arrGet p i el w' hp hop =>
    obtain ⟨_, g2, ⟨a, ha, hel⟩, _⟩ := C10W.worldOk'_arrGet D s.w p i el w' s.cx.ctr H (hh p hp).1 hop
    show SpecStep (absTab s.w) _ _ (absTab w')
    rw [absTab_eq_of_conts g2]
    exact SpecStep.arrGet _ p i _ _ (absTab_of ha) (by rw [List.getElem?_map, hel]; rfl)
  | mapGet p k el w' hp hk hop =>
    obtain ⟨_, g2, ⟨m, hm, hmem⟩, _⟩ := C10W.worldOk'_mapGet D s.w p k el w' s.cx.ctr H (hh p hp).1 hk hop
    show SpecStep (absTab s.w) _ _ (absTab w')
    rw [absTab_eq_of_conts g2]
    exact SpecStep.mapGet _ p k _ _ (absTab_of hm) (List.mem_map.mpr ⟨(k, el), hmem, rfl⟩)
  | setType p ty w' cx' hp hop =>
    obtain ⟨_, _, _, _, g5, _⟩ := C10W.worldOk'_setType_all D s.w p ty s.cx w' cx' H (hh p hp).1 hop
    have e1 : absTab w' = absTab s.w := by funext z; exact g5.sig z
    show SpecStep (absTab s.w) _ _ (absTab w')
    rw [e1]
    exact SpecStep.setType _ p ty (by rw [absTab_isSome]; exact (hh p hp).2)
  | arrPop p es w' cx' hp hop =>
    obtain ⟨a, hc, hes, _, _, ⟨c', hc', hsig, _, _⟩, F, _⟩ :=
      C10W.worldOk_arrPop D s.w p s.cx es w' cx' H (hh p hp).1 hop
    have hobs : es.map (·.pay) = (((Cont.arr a).sig.2).map (·.2)).reverse := by
      rw [← Cont.pays_eq_sig, hes, List.map_reverse]; rfl
    show SpecStep (absTab s.w) _ (.pays (es.map (·.pay))) (absTab w')
    rw [hobs]
    exact SpecStep.arrPop _ _ p _ (absTab_of hc) (by rw [absTab_of hc', hsig]; rfl) (disposed_of_popFrame F)
  | mapPop p kvs w' cx' hp hop =>
    obtain ⟨m, hc, hes, _, _, ⟨c', hc', hsig, _, _⟩, F, _⟩ :=
      C10W.worldOk_mapPop D s.w p s.cx kvs w' cx' H (hh p hp).1 hop
    show SpecStep (absTab s.w) _ _ (absTab w')
    refine SpecStep.mapPop _ _ p (Cont.map m).sig.2 _ (absTab_of hc) ?_ (by rw [absTab_of hc', hsig]; rfl)
      (disposed_of_popFrame F)
    show m.toList.map (fun p => (some p.1, p.2.pay)) = _
    rw [hes]
    simp [List.map_reverse, List.map_map, Function.comp_def]
  | dispose k hk hd =>
    obtain ⟨f1, f2, _, _⟩ := C10W.forget_removes_exactly_the_subtree s.w k
    show SpecStep (absTab s.w) _ _ (absTab (World.forget s.w.fuelOf s.w k))
    refine SpecStep.dispose _ _ k (fun x hx => ?_) (fun z hz => ?_)
    · unfold absTab; rw [(f1 x ((reach_iff_treach _ _ _).mpr hx)).1]; rfl
    · unfold absTab; rw [(f2 z (fun hr => hz ((reach_iff_treach _ _ _).mp hr))).1]
  | reopen roots => exact SpecStep.reopen _ roots

theorem run_refines (D : SlabID → DigestFn 4) {s s' : HState} {tr : List (WOp × WObs)} (I : HInv D s)
    (h : Run D s tr s') : SpecRun (absTab s.w) tr (absTab s'.w) := by
  induction h with
  | nil => exact SpecRun.nil _
  | cons hs _ ih => exact SpecRun.cons (step_refines D I hs) (ih (step_invariant D I hs))

/-- The table of signatures of the world reached by a
    history (kind, keys and payloads of every container) is a result of the specification for the same
    requests, with the same returned payloads. -/
theorem history_refines (D : SlabID → DigestFn 4) (T addr : Nat) (cx0 : Ctx) (hT : legalThreshold T = true)
    (tr : List (WOp × WObs)) (s : HState) (h : Run D (HState.init T addr cx0) tr s) :
    SpecRun (fun _ => none) tr (absTab s.w) :=
  run_refines D ⟨C10W.worldOk'_new D T addr cx0.ctr hT, fun _ hz => absurd hz id⟩ h

/-- Read-through at history level.  After any history:
    * the deep value read through any container `r` (following references, to any depth) is the deep
      value of a table the specification yields for the same requests;
    * for every reference met on the way — `p` holds an element referring to the live container `x` —
      the element has the size of `x`'s CURRENT form behind its wrappers, `x` is filed under its
      value ID, and `x` is inline exactly when it fits the per-element limit of that slot. -/
theorem history_read_through (D : SlabID → DigestFn 4) (T addr : Nat) (cx0 : Ctx) (hT : legalThreshold T = true)
    (tr : List (WOp × WObs)) (s : HState) (h : Run D (HState.init T addr cx0) tr s) :
    (∃ A, SpecRun (fun _ => none) tr A ∧ ∀ fuel r, deepVal s.w fuel r = deepPay A fuel (.ref r)) ∧
    (∀ p pc lim e x c, s.w.cont? p = some pc → (lim, e) ∈ pc.slots s.w.T → e.pay = .ref x → s.w.cont? x = some c →
      c.vid = x ∧ ∃ wrap, slabIDStorableSize + 2 * wrap ≤ lim ∧ e.size = slotSize c wrap ∧
        c.isInlined = c.inlinable (lim - 2 * wrap)) := by
  obtain ⟨H, _⟩ := history_invariant D T addr cx0 hT tr s h
  refine ⟨⟨absTab s.w, history_refines D T addr cx0 hT tr s h, fun _ _ => rfl⟩, ?_⟩
  intro p pc lim e x c hp hle hx hc
  exact ⟨(C10W.worldOk'_contOk H x c hc).2, C10W.worldOk'_inline_iff_fits H p pc hp lim e hle x c hx hc⟩

end Atree.C10Hist

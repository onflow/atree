import AtreeProofs.Props.C10Hist
import AtreeProofs.Props.C10IdxW
/-
  C10 / C01 — the index tables at history level: in every world reached by a history of requests
  (`World.Run`) the index tables are duplicate-free (`IdxNodup`) and the global invariant holds, so
  the fatal branches of `incrementIndexFrom` / `decrementIndexFrom` (array.go:732,748) are
  unreachable — no hypothesis is left.  Property theorems.
-/
namespace Atree.C10Hist
open Atree Gen World

theorem step_idxNodup (D : SlabID → DigestFn 4) {s s' : HState} {op : WOp} {ob : WObs} (I : IdxNodup s.w)
    (h : Step D s op ob s') : IdxNodup s'.w :=
  IdxNodup.steps (steps_of_step h) I

theorem run_idxNodup (D : SlabID → DigestFn 4) {s s' : HState} {tr : List (WOp × WObs)} (I : IdxNodup s.w)
    (h : Run D s tr s') : IdxNodup s'.w := by
  induction h with
  | nil => exact I
  | cons hs _ ih => exact ih (step_idxNodup D I hs)

theorem history_idxNodup (D : SlabID → DigestFn 4) (T addr : Nat) (cx0 : Ctx) (tr : List (WOp × WObs)) (s : HState)
    (h : Run D (HState.init T addr cx0) tr s) : IdxNodup s.w :=
  run_idxNodup D (C10Idx.idxNodup_new T addr) h

/-- The fatal branches of `incrementIndexFrom` / `decrementIndexFrom` are unreachable: in every world
    reached by a history, for every array `p`, every insertion position `i` and every removal
    position, the conditions under which the Go code returns its fatal errors are false, and every
    entry of `mutableElementIndex` records the position of the element that refers to that child. -/
theorem history_index_shifts_never_fail (D : SlabID → DigestFn 4) (T addr : Nat) (cx0 : Ctx)
    (hT : legalThreshold T = true) (tr : List (WOp × WObs)) (s : HState) (h : Run D (HState.init T addr cx0) tr s)
    (p : SlabID) (a : Arr) (hp : s.w.cont? p = some (.arr a)) :
    (∀ i, C10Idx.incrementFails s.w p i (a.count + 1) = false) ∧
    (∀ i, C10Idx.decrementFails s.w p i = false) ∧
    (∀ x j, (x, j) ∈ s.w.idxOf p → ∃ e, a.toList[j]? = some e ∧ e.pay = .ref x) := by
  have H := (history_invariant D T addr cx0 hT tr s h).1
  have N := history_idxNodup D T addr cx0 tr s h
  exact ⟨fun i => C10Idx.increment_never_fails' D s.w s.cx.ctr H N p a hp i,
    fun i => C10Idx.decrement_never_fails s.w p i,
    fun x j hm => C10Idx.recorded_index_points_at_child D s.w s.cx.ctr H N p a hp x j hm⟩

end Atree.C10Hist

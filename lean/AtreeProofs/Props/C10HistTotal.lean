import AtreeProofs.Props.C10Hist
import AtreeProofs.Props.C10Total
/-
  C10 / C01 / C02 — total correctness at history level.  Property theorems.

  `Props/C10Total.lean` proves that an in-range request through a CURRENT handle succeeds in a world
  that satisfies `WorldOk'` and `KeyedClosures` (a closure that names a live map carries a key: not a
  clause of `WorldOk'`, see `C10Total.fatal_without_keyedClosures`, but an invariant of every
  operation).  `Props/C10Hist.lean` proves that along every history the invariant holds and every
  handle the client holds is current.  Together no hypothesis is left:
  `history_progress`: after ANY history, ANY well-formed in-range request through ANY handle the
  client holds is answered successfully (the history can be extended by it);
  `history_no_internal_failure`: whatever the arguments, such a request never answers `.fatal`,
  `.outOfFuel` or `.unknownContainer`.
-/
namespace Atree.C10Hist
open Atree Gen World

theorem step_keyed (D : SlabID → DigestFn 4) {s s' : HState} {op : WOp} {ob : WObs} (I : HInv D s)
    (K : KeyedClosures s.w) (h : Step D s op ob s') : KeyedClosures s'.w := by
  cases h with
  | newArr ty => exact keyed_newArr ty s.cx K
  | newMap ty seed => exact (C10Total.keyedClosures_init D).2.2.1 s.w ty seed s.cx I.1 K
  | arrInsert p i v w' cx' _ _ hop => exact (kstep_arrInsert hop).2 K
  | arrSet p i v old w' cx' _ _ hop => exact (kstep_arrSet hop).2 K
  | arrRemove p i old w' cx' _ hop => exact (kstep_arrRemove hop).2 K
  | mapSet p k v old w' cx' _ _ _ hop => exact (kstep_mapSet hop).2 K
  | mapRemove p k rk rv w' cx' _ _ hop => exact (kstep_mapRemove hop).2 K
  | arrGet p i el w' _ hop => exact (kstep_arrGet hop).2 K
  | mapGet p k el w' _ _ hop => exact (kstep_mapGet hop).2 K
  | setType p ty w' cx' _ hop => exact (kstep_setType hop).2 K
  | arrPop p es w' cx' _ hop => exact (kstep_arrPopKeep (by rw [C10Get.arrPopKeep_nil]; exact hop)).2 K
  | mapPop p kvs w' cx' _ hop => exact (kstep_mapPopKeep (by rw [C10Get.mapPopKeep_nil]; exact hop)).2 K
  | dispose k _ _ => exact (kstep_forget s.w k).2 K
  | reopen roots => exact keyed_reopen s.w

theorem run_keyed (D : SlabID → DigestFn 4) {s s' : HState} {tr : List (WOp × WObs)} (I : HInv D s)
    (K : KeyedClosures s.w) (h : Run D s tr s') : KeyedClosures s'.w := by
  induction h with
  | nil => exact K
  | cons hs _ ih => exact ih (step_invariant D I hs) (step_keyed D I K hs)

theorem history_keyed (D : SlabID → DigestFn 4) (T addr : Nat) (cx0 : Ctx) (hT : legalThreshold T = true)
    (tr : List (WOp × WObs)) (s : HState) (h : Run D (HState.init T addr cx0) tr s) : KeyedClosures s.w :=
  run_keyed D ⟨C10W.worldOk'_new D T addr cx0.ctr hT, fun _ hz => absurd hz id⟩
    (keyed_empty T addr) h

/-- Progress.  After any history, every well-formed in-range request through any handle `p` the
    client holds is answered successfully: the history can be extended by it.  (Arrays: position
    within / at the end and array not full; maps: the collision limit does not refuse a NEW key —
    an existing key is never refused, `C10Total.present_key_not_limited` —, the key to remove or
    look up is present; `SetType` and the bulk pops: always.) -/
theorem history_progress (D : SlabID → DigestFn 4) (T addr : Nat) (cx0 : Ctx) (hT : legalThreshold T = true)
    (tr : List (WOp × WObs)) (s : HState) (h : Run D (HState.init T addr cx0) tr s) (p : SlabID) (hp : s.hs p) :
    (∀ a i v, s.w.cont? p = some (.arr a) → WValOk s.w p (maxInlineArr s.w.T) v → i ≤ a.toList.length →
      a.count < maxArrayElementCount → ∃ s', Step D s (.arrInsert p i v) .unit s') ∧
    (∀ a i v, s.w.cont? p = some (.arr a) → WValOk s.w p (maxInlineArr s.w.T) v → i < a.toList.length →
      ∃ ob s', Step D s (.arrSet p i v) ob s') ∧
    (∀ a i, s.w.cont? p = some (.arr a) → i < a.toList.length → ∃ ob s', Step D s (.arrRemove p i) ob s') ∧
    (∀ m k v, s.w.cont? p = some (.map m) → KeyOk s.w.T 4 (D p) k → WValOk s.w p (maxInlineMapValue s.w.T k.size) v →
      ¬ TLimited s.w.mcfg m.d m.root k → ∃ ob s', Step D s (.mapSet p k v) ob s') ∧
    (∀ m k rv, s.w.cont? p = some (.map m) → KeyOk s.w.T 4 (D p) k → (k, rv) ∈ m.toList →
      ∃ ob s', Step D s (.mapRemove p k) ob s') ∧
    (∀ ty, ∃ s', Step D s (.setType p ty) .unit s') ∧
    (∀ a, s.w.cont? p = some (.arr a) → ∃ s', Step D s (.arrPop p) (.pays (a.toList.reverse.map (·.pay))) s') ∧
    (∀ m, s.w.cont? p = some (.map m) →
      ∃ s', Step D s (.mapPop p) (.kpays (m.toList.reverse.map (fun kv => (kv.1, kv.2.pay)))) s') ∧
    (∀ a i el, s.w.cont? p = some (.arr a) → a.toList[i]? = some el → ∃ s', Step D s (.arrGet p i) (.pay el.pay) s') ∧
    (∀ m k el, s.w.cont? p = some (.map m) → KeyOk s.w.T 4 (D p) k → (k, el) ∈ m.toList →
      ∃ s', Step D s (.mapGet p k) (.pay el.pay) s') := by
  obtain ⟨H, hh⟩ := history_invariant D T addr cx0 hT tr s h
  have K := history_keyed D T addr cx0 hT tr s h
  obtain ⟨hcur, hlive⟩ := hh p hp
  refine ⟨fun a i v hpa hv hi hc => ?_, fun a i v hpa hv hi => ?_, fun a i hpa hi => ?_,
    fun m k v hpm hk hv hnl => ?_, fun m k rv hpm hk hmem => ?_, fun ty => ?_, fun a hpa => ?_, fun m hpm => ?_,
    fun a i el hpa hel => ?_, fun m k el hpm hk hmem => ?_⟩
  · obtain ⟨w', cx', hop⟩ := C10Total.arrInsert_total D s.w p i v s.cx a H K hcur hv hpa hi hc
    exact ⟨_, Step.arrInsert s p i v w' cx' hp hv hop⟩
  · obtain ⟨old, w', cx', hop⟩ := C10Total.arrSet_total D s.w p i v s.cx a H K hcur hv hpa hi
    exact ⟨_, _, Step.arrSet s p i v old w' cx' hp hv hop⟩
  · obtain ⟨old, w', cx', hop⟩ := C10Total.arrRemove_total D s.w p i s.cx a H K hcur hpa hi
    exact ⟨_, _, Step.arrRemove s p i old w' cx' hp hop⟩
  · obtain ⟨old, w', cx', hop⟩ := C10Total.mapSet_total D s.w p k v s.cx m H K hcur hk hv hpm hnl
    exact ⟨_, _, Step.mapSet s p k v old w' cx' hp hk hv hop⟩
  · obtain ⟨rv', w', cx', hop⟩ := C10Total.mapRemove_total D s.w p k s.cx m rv H K hcur hk hpm hmem
    exact ⟨_, _, Step.mapRemove s p k k rv' w' cx' hp hk hop⟩
  · obtain ⟨w', cx', hop⟩ := C10Total.setType_total D s.w p ty s.cx H K hcur hlive
    exact ⟨_, Step.setType s p ty w' cx' hp hop⟩
  · obtain ⟨w', cx', hop⟩ := C10Total.arrPop_total D s.w p s.cx a H K hcur hpa
    exact ⟨_, Step.arrPop s p _ w' cx' hp hop⟩
  · obtain ⟨w', cx', hop⟩ := C10Total.mapPop_total D s.w p s.cx m H K hcur hpm
    exact ⟨_, Step.mapPop s p _ w' cx' hp hop⟩
  · obtain ⟨w', hop⟩ := (C10Total.arrGet_total D s.w p i a s.cx.ctr H hpa).1 el hel
    exact ⟨_, Step.arrGet s p i el w' hp hop⟩
  · obtain ⟨w', hop⟩ := (C10Total.mapGet_total D s.w p k m s.cx.ctr H hk hpm).1 el hmem
    exact ⟨_, Step.mapGet s p k el w' hp hk hop⟩

/-- No internal failure: after any history, a request through a handle the client holds — whatever
    its arguments, as long as the value / key is well-formed — never answers `.fatal`, `.outOfFuel`
    or `.unknownContainer`: an error is an argument error of the array / map model. -/
theorem history_no_internal_failure (D : SlabID → DigestFn 4) (T addr : Nat) (cx0 : Ctx) (hT : legalThreshold T = true)
    (tr : List (WOp × WObs)) (s : HState) (h : Run D (HState.init T addr cx0) tr s) (p : SlabID) (hp : s.hs p) :
    (∀ a i v e, s.w.cont? p = some (.arr a) → WValOk s.w p (maxInlineArr s.w.T) v →
      (s.w.arrInsert p i v s.cx = .error e → ¬ C10Total.Internal e) ∧
      (s.w.arrSet p i v s.cx = .error e → ¬ C10Total.Internal e)) ∧
    (∀ a i e, s.w.cont? p = some (.arr a) → s.w.arrRemove p i s.cx = .error e → ¬ C10Total.Internal e) ∧
    (∀ m k v e, s.w.cont? p = some (.map m) → KeyOk s.w.T 4 (D p) k → WValOk s.w p (maxInlineMapValue s.w.T k.size) v →
      s.w.mapSet p k v s.cx = .error e → ¬ C10Total.Internal e) ∧
    (∀ m k e, s.w.cont? p = some (.map m) → KeyOk s.w.T 4 (D p) k → s.w.mapRemove p k s.cx = .error e →
      ¬ C10Total.Internal e) := by
  obtain ⟨H, hh⟩ := history_invariant D T addr cx0 hT tr s h
  have K := history_keyed D T addr cx0 hT tr s h
  obtain ⟨g1, g2, g3, g4, _⟩ := C10Total.no_internal_failure D s.w s.cx H K p (hh p hp).1
  exact ⟨g1, g2, g3, g4⟩

end Atree.C10Hist

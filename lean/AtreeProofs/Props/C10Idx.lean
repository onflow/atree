import AtreeProofs.WorldInv
import AtreeProofs.AListLemmas
/-
  C10 / C01 — the failure branches of `incrementIndexFrom` / `decrementIndexFrom`.

  `Array.Insert` shifts the recorded indexes of child containers at or after the insertion point
  (`incrementIndexFrom`) and fails with a FATAL error "new index exceeds array count" when a shifted
  index would reach the new element count; `Array.Remove` shifts them down (`decrementIndexFrom`) and
  fails when an index to be decremented is 0.  The World model has no such branches (`shiftIdx` is
  total).  These theorems justify that: whenever `mutableElementIndex` is correct (`MutIdxOk`, an
  invariant of every reachable world — `C10W.worldOk_mutIdxOk`), the failure conditions of the Go
  code are false.  (They were TRUE on the unrepaired code after `PopIterate`: finding F4.)
-/
namespace Atree.C10Idx
open Atree World

/-- the condition under which Go's `incrementIndexFrom(i)` returns its fatal error, evaluated after
    the element has been inserted (the array then has `newCount` elements) -/
def incrementFails (w : World) (p : SlabID) (i newCount : Nat) : Bool :=
  (w.idxOf p).any (fun e => decide (e.2 ≥ i) && decide (e.2 + 1 ≥ newCount))

/-- the condition under which Go's `decrementIndexFrom(i)` returns its fatal error -/
def decrementFails (w : World) (p : SlabID) (i : Nat) : Bool :=
  (w.idxOf p).any (fun e => decide (e.2 > i) && decide (e.2 ≤ 0))

theorem find?_of_mem {α : Type} (m : AList SlabID α) (x : SlabID) (j : α) (h : (x, j) ∈ m) :
    ∃ j', AList.find? m x = some j' := by
  induction m with
  | nil => cases h
  | cons q m ih =>
    obtain ⟨k, v⟩ := q
    rw [AList.find?_cons]
    by_cases hk : k = x
    · exact ⟨v, by simp [hk]⟩
    · simp only [hk, if_false]
      rcases List.mem_cons.mp h with h | h
      · cases h; exact absurd rfl hk
      · exact ih h

/-- Every recorded index is a valid position of the parent array, PROVIDED the association list
    has no duplicate keys (so that `find?` sees every entry).
    `recorded_index_in_range'` (Props/C10IdxW.lean) states it from `WorldOk'` and `IdxNodup` only,
    `C10Hist.history_index_shifts_never_fail` for every world reached by a history. -/
theorem recorded_index_in_range (w : World) (hmi : MutIdxOk w) (p : SlabID) (a : Arr)
    (hp : w.cont? p = some (.arr a)) (hnd : (AList.keys (w.idxOf p)).Nodup)
    (x : SlabID) (j : Nat) (hmem : (x, j) ∈ w.idxOf p) : j < a.toList.length := by
  have hf : AList.find? (w.idxOf p) x = some j := (AList.mem_iff_find? _ hnd x j).mp hmem
  obtain ⟨e, he, _⟩ := hmi p a hp x j hf
  have := (List.getElem?_eq_some_iff.mp he).1
  exact this

/-- `incrementIndexFrom` cannot fail after an in-range insert: every shifted index stays below the
    new count.
    `increment_never_fails'` (Props/C10IdxW.lean) has `hmi`, `hnd`, `hcnt` discharged from `WorldOk'`
    and `IdxNodup`; `C10Hist.history_index_shifts_never_fail` states it for every world reached by a
    history, without hypotheses. -/
theorem increment_never_fails (w : World) (hmi : MutIdxOk w) (p : SlabID) (a : Arr)
    (hp : w.cont? p = some (.arr a)) (hnd : (AList.keys (w.idxOf p)).Nodup)
    (hcnt : a.count = a.toList.length) (i : Nat) :
    incrementFails w p i (a.count + 1) = false := by
  unfold incrementFails
  rw [List.any_eq_false]
  intro e he
  obtain ⟨x, j⟩ := e
  have hj := recorded_index_in_range w hmi p a hp hnd x j he
  simp only [Bool.and_eq_true, decide_eq_true_eq, not_and]
  intro _
  omega

/-- `decrementIndexFrom` cannot fail: an index greater than `i` is not 0. -/
theorem decrement_never_fails (w : World) (p : SlabID) (i : Nat) : decrementFails w p i = false := by
  unfold decrementFails
  rw [List.any_eq_false]
  intro e _
  simp only [Bool.and_eq_true, decide_eq_true_eq, not_and]
  intro h
  omega

/-- F4 as a formal counterexample: with a stale entry (index 0 recorded for an array that is now
    empty) the failure condition of `incrementIndexFrom(0)` holds after inserting one element. -/
example : incrementFails
    { T := 256, addr := 1, mutIdx := [(⟨1, 1⟩, [(⟨1, 2⟩, 0)])] } ⟨1, 1⟩ 0 1 = true := by decide

end Atree.C10Idx

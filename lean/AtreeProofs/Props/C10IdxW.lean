import AtreeProofs.Props.C10
import AtreeProofs.Props.C10Idx
import AtreeProofs.Props.C10WPop
import AtreeProofs.World.IdxNodup
/-
  C10 / C01 — the fatal branches of `incrementIndexFrom` / `decrementIndexFrom` (array.go:732,748)
  are unreachable: the `Nodup` hypothesis of `C10Idx.recorded_index_in_range`,
  `C10Idx.increment_never_fails` and `C10.index_shift_order_independent` discharged.
  Property theorems.

  Go's `mutableElementIndex` is a Go map (`map[ValueID]uint64`): a value ID occurs in it at most
  once, and `incrementIndexFrom` / `decrementIndexFrom` range over ALL its entries.  The World model
  keeps the table of each array as an association list (`World.mutIdx`), read with `AList.find?`,
  which sees only the FIRST entry of a key.  `MutIdxOk` (a clause of `WorldOk` / `WorldOk'`) speaks
  through `find?`, so by itself it says nothing about a shadowed second entry of a key, while
  `C10Idx.incrementFails` ranges over all entries as Go does: the theorems of
  `Props/C10Idx.lean` therefore carry the hypothesis `(AList.keys (w.idxOf p)).Nodup`.

  `World.IdxNodup w` ("no table of `w.mutIdx` lists a key twice") is the statement that the
  association lists ARE Go maps.  It holds in the empty world and is preserved by EVERY operation
  of the World model UNCONDITIONALLY — from any world, for any arguments, without `WorldOk`
  (`idxNodup_new`, `idxNodup_<op>` below; proofs in `AtreeProofs/World/IdxNodup.lean`): the
  operations write a table only through `AList.insert` (= cons ∘ erase: `setCallbackWithChild`),
  `AList.erase` (`Array.Set` / `Array.Remove` dropping the entry of the child handed back), a map
  over the values (`shiftIdx`), the empty table (`PopIterate`), or drop whole tables (`forget`,
  `reopen`).  Hence every world built by the operations satisfies `IdxNodup`, and in every such
  world that satisfies the global invariant `WorldOk'` (itself preserved by every operation:
  `C10W.worldOk'_<op>`, `C10W.worldOk_arrPop`, …)

    * every recorded index is a valid position of its array (`recorded_index_in_range'`),
    * the condition under which `incrementIndexFrom` returns its fatal error "new index exceeds
      array count" is false (`increment_never_fails'`; array.go:732),
    * the condition under which `decrementIndexFrom` returns its fatal error is false in every
      world whatsoever (`C10Idx.decrement_never_fails`; array.go:748),

  which is why the model's `shiftIdx` is total and has no such branches.  The result of the shift
  does not depend on the order in which Go ranges over its map (`index_shift_order_independent'`).
-/
namespace Atree.C10Idx
open Atree Gen World

theorem idxNodup_new (T addr : Nat) : IdxNodup { T := T, addr := addr } := idxNodup_empty T addr

theorem idxNodup_newArr (w : World) (ty : Nat) (cx : Ctx) (h : IdxNodup w) : IdxNodup (w.newArr ty cx).2.1 :=
  IdxNodup.estep (.newArr w cx ty) h

theorem idxNodup_newMap (w : World) (ty seed : Nat) (cx : Ctx) (h : IdxNodup w) :
    IdxNodup (w.newMap ty seed cx).2.1 :=
  IdxNodup.estep (.newMap w cx ty seed) h

theorem idxNodup_arrInsert (w : World) (p : SlabID) (i : Nat) (v : WVal) (cx : Ctx) (w' : World) (cx' : Ctx)
    (h : IdxNodup w) (run : w.arrInsert p i v cx = .ok (w', cx')) : IdxNodup w' :=
  IdxNodup.steps (arrInsert_steps run) h

theorem idxNodup_arrSet (w : World) (p : SlabID) (i : Nat) (v : WVal) (cx : Ctx) (old : Elem) (w' : World)
    (cx' : Ctx) (h : IdxNodup w) (run : w.arrSet p i v cx = .ok (old, w', cx')) : IdxNodup w' :=
  IdxNodup.steps (arrSet_steps run) h

theorem idxNodup_arrRemove (w : World) (p : SlabID) (i : Nat) (cx : Ctx) (old : Elem) (w' : World) (cx' : Ctx)
    (h : IdxNodup w) (run : w.arrRemove p i cx = .ok (old, w', cx')) : IdxNodup w' :=
  IdxNodup.steps (arrRemove_steps run) h

theorem idxNodup_mapSet (w : World) (p : SlabID) (k : MKey) (v : WVal) (cx : Ctx) (old : Option Elem)
    (w' : World) (cx' : Ctx) (h : IdxNodup w) (run : w.mapSet p k v cx = .ok (old, w', cx')) : IdxNodup w' :=
  IdxNodup.steps (mapSet_steps run) h

theorem idxNodup_mapRemove (w : World) (p : SlabID) (k : MKey) (cx : Ctx) (rk : MKey) (rv : Elem)
    (w' : World) (cx' : Ctx) (h : IdxNodup w) (run : w.mapRemove p k cx = .ok (rk, rv, w', cx')) : IdxNodup w' :=
  IdxNodup.steps (mapRemove_steps run) h

/-- `Array.Get` / the mutable array iterator -/
theorem idxNodup_arrGet (w : World) (p : SlabID) (i : Nat) (el : Elem) (w' : World)
    (h : IdxNodup w) (run : w.arrGet p i = .ok (el, w')) : IdxNodup w' :=
  IdxNodup.steps (arrGet_steps ⟨0, [], []⟩ run) h

/-- `OrderedMap.Get` / the mutable map iterator -/
theorem idxNodup_mapGet (w : World) (p : SlabID) (k : MKey) (el : Elem) (w' : World)
    (h : IdxNodup w) (run : w.mapGet p k = .ok (el, w')) : IdxNodup w' :=
  IdxNodup.steps (mapGet_steps ⟨0, [], []⟩ run) h

/-- reopening on a fresh storage (no hypothesis at all: every table is gone) -/
theorem idxNodup_reopen (w : World) : IdxNodup w.reopen := World.idxNodup_reopen w

theorem idxNodup_setType (w : World) (x : SlabID) (ty : Nat) (cx : Ctx) (w' : World) (cx' : Ctx)
    (h : IdxNodup w) (run : w.setType x ty cx = .ok (w', cx')) : IdxNodup w' :=
  IdxNodup.steps (setType_steps run) h

theorem idxNodup_arrPop (w : World) (x : SlabID) (cx : Ctx) (es : List Elem) (w' : World) (cx' : Ctx)
    (h : IdxNodup w) (run : w.arrPop x cx = .ok (es, w', cx')) : IdxNodup w' :=
  IdxNodup.steps (arrPop_steps run) h

theorem idxNodup_mapPop (w : World) (x : SlabID) (cx : Ctx) (kvs : List (MKey × Elem)) (w' : World) (cx' : Ctx)
    (h : IdxNodup w) (run : w.mapPop x cx = .ok (kvs, w', cx')) : IdxNodup w' :=
  IdxNodup.steps (mapPop_steps run) h

/-- `Array.PopIterate`, the caller keeping some popped containers -/
theorem idxNodup_arrPopKeep (w : World) (x : SlabID) (keep : List SlabID) (cx : Ctx) (es : List Elem)
    (w' : World) (cx' : Ctx) (h : IdxNodup w) (run : w.arrPopKeep x keep cx = .ok (es, w', cx')) : IdxNodup w' :=
  IdxNodup.steps (arrPopKeep_steps run) h

/-- `OrderedMap.PopIterate`, the caller keeping some popped containers -/
theorem idxNodup_mapPopKeep (w : World) (x : SlabID) (keep : List SlabID) (cx : Ctx) (kvs : List (MKey × Elem))
    (w' : World) (cx' : Ctx) (h : IdxNodup w) (run : w.mapPopKeep x keep cx = .ok (kvs, w', cx')) : IdxNodup w' :=
  IdxNodup.steps (mapPopKeep_steps run) h

/-- disposal of a container and everything nested in it (any fuel) -/
theorem idxNodup_forget (fuel : Nat) (w : World) (vid : SlabID) (h : IdxNodup w) :
    IdxNodup (World.forget fuel w vid) :=
  IdxNodup.steps (forget_steps fuel w ⟨0, [], []⟩ vid) h

/-- disposal of the containers among popped elements -/
theorem idxNodup_forgetElems (w : World) (es : List Elem) (h : IdxNodup w) : IdxNodup (w.forgetElems es) :=
  IdxNodup.steps (forgetElems_steps w ⟨0, [], []⟩ es) h

/-- `notifyParentIfNeeded` (any fuel) -/
theorem idxNodup_notifyParent (fuel : Nat) (w : World) (x : SlabID) (cx : Ctx) (w' : World) (cx' : Ctx)
    (h : IdxNodup w) (run : notifyParent fuel w x cx = .ok (w', cx')) : IdxNodup w' :=
  IdxNodup.steps (notifyParent_steps run) h

/-- the private `Array.set` (any fuel) -/
theorem idxNodup_arrSetRaw (fuel : Nat) (w : World) (p : SlabID) (i : Nat) (v : WVal) (cx : Ctx) (old : Elem)
    (w' : World) (cx' : Ctx) (h : IdxNodup w) (run : arrSetRaw fuel w p i v cx = .ok (old, w', cx')) :
    IdxNodup w' :=
  IdxNodup.steps ((mutual_steps fuel).2.1 run) h

/-- the private `OrderedMap.set` (any fuel) -/
theorem idxNodup_mapSetRaw (fuel : Nat) (w : World) (p : SlabID) (k : MKey) (v : WVal) (cx : Ctx)
    (old : Option Elem) (w' : World) (cx' : Ctx) (h : IdxNodup w)
    (run : mapSetRaw fuel w p k v cx = .ok (old, w', cx')) : IdxNodup w' :=
  IdxNodup.steps ((mutual_steps fuel).2.2 run) h

theorem count_eq_of_worldOk' {D : SlabID → DigestFn 4} {w : World} {ctr : Nat} (H : WorldOk' D w ctr)
    {p : SlabID} {a : Arr} (hp : w.cont? p = some (.arr a)) : a.count = a.toList.length :=
  ArrOk.count_eq (T := w.T) (ctr := ctr) (C10W.worldOk'_contOk H p (.arr a) hp).1

/-- Every entry of `mutableElementIndex` — every entry, not only those `find?` sees — records a
    valid position of the parent array. -/
theorem recorded_index_in_range' (D : SlabID → DigestFn 4) (w : World) (ctr : Nat) (H : WorldOk' D w ctr)
    (hnd : IdxNodup w) (p : SlabID) (a : Arr) (hp : w.cont? p = some (.arr a))
    (x : SlabID) (j : Nat) (hmem : (x, j) ∈ w.idxOf p) : j < a.toList.length :=
  recorded_index_in_range w (C10W.worldOk'_mutIdxOk H) p a hp (hnd p) x j hmem

theorem recorded_index_points_at_child (D : SlabID → DigestFn 4) (w : World) (ctr : Nat) (H : WorldOk' D w ctr)
    (hnd : IdxNodup w) (p : SlabID) (a : Arr) (hp : w.cont? p = some (.arr a))
    (x : SlabID) (j : Nat) (hmem : (x, j) ∈ w.idxOf p) : ∃ e, a.toList[j]? = some e ∧ e.pay = .ref x :=
  C10W.worldOk'_mutIdxOk H p a hp x j ((AList.mem_iff_find? _ (hnd p) x j).mp hmem)

/-- `incrementIndexFrom` cannot take its fatal branch (array.go:732) in `Array.Insert`: in a world
    that satisfies the global invariant and `IdxNodup`, every shifted index stays below the new
    element count.  No other hypothesis. -/
theorem increment_never_fails' (D : SlabID → DigestFn 4) (w : World) (ctr : Nat) (H : WorldOk' D w ctr)
    (hnd : IdxNodup w) (p : SlabID) (a : Arr) (hp : w.cont? p = some (.arr a)) (i : Nat) :
    incrementFails w p i (a.count + 1) = false :=
  increment_never_fails w (C10W.worldOk'_mutIdxOk H) p a hp (hnd p) (count_eq_of_worldOk' H hp) i

/-- the failure conditions read `mutIdx` only: `Array.Insert` evaluates `incrementIndexFrom` after
    `Storable()` (which may inline / un-inline the inserted child) and after the element has been
    inserted; neither touches an index table -/
theorem incrementFails_congr {w w' : World} (hm : w'.mutIdx = w.mutIdx) (p : SlabID) (i n : Nat) :
    incrementFails w' p i n = incrementFails w p i n := by
  unfold incrementFails idxOf; rw [hm]

/-- `incrementIndexFrom` / `decrementIndexFrom` range over a Go map in random order: the result
    does not depend on the order (C04).  `C10.index_shift_order_independent` with its `Nodup`
    hypothesis replaced by the invariant `IdxNodup` (`WorldOk'` is not needed for this one). -/
theorem index_shift_order_independent' (w : World) (hnd : IdxNodup w) (p : SlabID) (f : Nat → Nat)
    (perm : AList SlabID Nat) (hperm : perm.Perm (w.idxOf p)) (x : SlabID) :
    AList.find? (perm.map (fun e => (e.1, f e.2))) x = AList.find? ((w.shiftIdx p f).idxOf p) x :=
  C10.index_shift_order_independent w p f perm hperm x (hnd p)

open Atree.OkScenario in
/-- `IdxNodup` of the three-level scenario world, obtained by chaining the preservation theorems
    along the run that built it (4 `New…`, 9 `Array.Insert`, 1 `OrderedMap.Set`) -/
theorem scenario_idxNodup : IdxNodup t14.1 := by
  have h0 : IdxNodup Scenario.w0 := idxNodup_new 256 1
  have h1 : IdxNodup t1.2.1 := idxNodup_newArr _ 7 _ h0
  have h2 : IdxNodup t2.2.1 := idxNodup_newMap _ 8 5 _ h1
  have h3 : IdxNodup t3.2.1 := idxNodup_newArr _ 9 _ h2
  have h4 : IdxNodup t4.2.1 := idxNodup_newArr _ 10 _ h3
  have h5 := IdxNodup.steps (arrInsert_steps (Scenario.ok_pair run5)) h4
  have h6 := IdxNodup.steps (mapSet_steps (Scenario.ok_triple run6)) h5
  have h7 := IdxNodup.steps (arrInsert_steps (Scenario.ok_pair run7)) h6
  have h8 := IdxNodup.steps (arrInsert_steps (Scenario.ok_pair run8)) h7
  have h9 := IdxNodup.steps (arrInsert_steps (Scenario.ok_pair run9)) h8
  have h10 := IdxNodup.steps (arrInsert_steps (Scenario.ok_pair run10)) h9
  have h11 := IdxNodup.steps (arrInsert_steps (Scenario.ok_pair run11)) h10
  have h12 := IdxNodup.steps (arrInsert_steps (Scenario.ok_pair run12)) h11
  have h13 := IdxNodup.steps (arrInsert_steps (Scenario.ok_pair run13)) h12
  exact IdxNodup.steps (arrInsert_steps (Scenario.ok_pair run14)) h13

open Atree.OkScenario in
/-- the index table of the root array `R` of the scenario world: two children, in slots 1 and 0 -/
theorem scenario_idx : t14.1.idxOf R = [(B, 1), (M, 0)] := by decide +kernel

open Atree.OkScenario in
/-- The hypotheses of `recorded_index_in_range'` / `increment_never_fails'` are met by a world with
    a NON-EMPTY index table: the scenario world satisfies `WorldOk'` and `IdxNodup`, `R` is an array
    with two tracked children, and the conclusions hold there. -/
theorem scenario_increment_never_fails :
    WorldOk' D t14.1 t14.2.ctr ∧ IdxNodup t14.1 ∧ t14.1.idxOf R = [(B, 1), (M, 0)] ∧
    ∃ a, t14.1.cont? R = some (.arr a) ∧ a.toList.length = 2 ∧
      (∀ x j, (x, j) ∈ t14.1.idxOf R → j < a.toList.length) ∧
      ∀ i, incrementFails t14.1 R i (a.count + 1) = false := by
  have H : WorldOk' D t14.1 t14.2.ctr := C10W.worldOk'_of_worldOk C10W.scenario_worldOk.1
  have hk : (t14.1.cont? R).map (fun c => (c.isArr, c.pays.length)) = some (true, 2) := by decide +kernel
  refine ⟨H, scenario_idxNodup, scenario_idx, ?_⟩
  cases hc : t14.1.cont? R with
  | none => rw [hc] at hk; cases hk
  | some c =>
    rw [hc] at hk
    cases c with
    | map m => simp [Cont.isArr] at hk
    | arr a =>
      have hlen : a.toList.length = 2 := by
        simpa [Cont.isArr, Cont.pays, Cont.storedElems] using hk
      exact ⟨a, rfl, hlen,
        fun x j hm => recorded_index_in_range' D _ _ H scenario_idxNodup R a hc x j hm,
        fun i => increment_never_fails' D _ _ H scenario_idxNodup R a hc i⟩

/-- `IdxNodup` is not vacuous either: a table listing a key twice violates it (and this is the
    kind of table for which `MutIdxOk` alone would not bound the shadowed entry). -/
example : ¬ IdxNodup { T := 256, addr := 1, mutIdx := [(⟨1, 1⟩, [(⟨1, 2⟩, 0), (⟨1, 2⟩, 7)])] } := by
  intro h
  have := h ⟨1, 1⟩
  revert this
  decide

end Atree.C10Idx

import AtreeProofs.Props.C09WHist
import AtreeProofs.World.HeapWrites
/-
  C10 "… is persisted by the next commit" (and C03 for nested containers): the World model, its effect
  logs, and the storage state machine (`PersistentSlabStorage`: write set, cache, ledger; commit;
  reopen) tied together.  Generic layer: any content function `K : SlabID → Option σ` — `Rep` is kept
  by a log that is a complete account (`rep_step`), a complete account
  of `K` is one of every decoration `(K id).map f` whose changes were stored (`Complete.map`), and one
  log, a commit and a reopen show the new content (`Complete.persisted`).  World layer:
  `K w := w.slabAt` (the heap of `AtreeProofs/WorldHeap.lean`: every slab of every standalone
  container, root slabs with their extra data) and its decorations `deepAt`, `C10Deep.deepC`,
  `World.toCodec`.

  What is and is not covered.  `w.slabAt id` is the slab with the elements AS THE PARENT STORES THEM:
  an element referring to a child is `{size, ref vid}` whether the child is inlined or standalone.
  So `op_persisted` / `history_persisted` say: after the commit the ledger holds every slab of every standalone
  container with the right elements, sizes, headers and extra data — in particular every change to a
  STANDALONE child and every inline <-> standalone flip is persisted.  For an INLINED child the
  bytes of the child travel inside the slab of its (outermost standalone) host; that this slab is
  re-stored whenever the inlined child changes is the statement `DeepStored` below.  The shallow
  account covers every change of the child's size, of the element or of the form; the case it does
  not see — the child's content changes while its inlined SIZE does not — rests on the core lemmas
  "`Array.set` / `OrderedMap.set` store the data slab that holds the slot they write"
  (`arr_set_holds`, `omap_set_holds`, `World/StoreHolder*.lean`).
  What is proved where.  This file: `deepComplete_of`, `deep_op_persisted`, over the deep content
  `deepAt` (the table of embedded inlined containers), with `DeepStored` as an explicit hypothesis.
  `Props/C10Deep.lean`: the same hypothesis over the deep content in codec form (`WC.DeepStoredC`:
  the storables `World.stor e` of the local elements) is a theorem for every operation of a history
  (`*_deepStored`), and `C10Deep.deepC_op_persisted` is `deep_op_persisted` over that content: both
  of its hypotheses on the log hold for every operation of a history.  `DeepStored` itself (over
  `deepAt`) is proved nowhere.
-/
namespace Atree.C10Persist
open Atree Gen World St
open Atree.C09 (newEffects newCreated)

variable {σ β : Type}

/-- `E` is a complete account of the change from the content `K` to the content `K'` -/
structure Complete (K K' : SlabID → Option σ) (E : List Eff) : Prop where
  changed_stored : ∀ id, (K' id).isSome → K' id ≠ K id → lastAction E id = some true
  gone_removed : ∀ id, (K id).isSome → (K' id).isNone → lastAction E id = some false
  stored_in : ∀ id, lastAction E id = some true → (K' id).isSome
  removed_out : ∀ id, lastAction E id = some false → (K' id).isNone

/-- the storage shows exactly `K` (through write set, cache and ledger) -/
def Rep (c : Codec σ β) (s : St σ β) (K : SlabID → Option σ) : Prop :=
  ∀ id, id ≠ SlabID.undef → s.view c id = K id

/-- If the storage represents `K` and the log `E` is a complete account of the change from `K` to
    `K'`, running `E` (every store writing the content `K'`) gives a storage that represents `K'`. -/
theorem rep_step (c : Codec σ β) (s : St σ β) (K K' : SlabID → Option σ) (E : List Eff)
    (hrep : Rep c s K) (h : Complete K K' E) : Rep c (WE2E.applyEffs c s K' E) K' := by
  intro id hid
  rw [WE2E.view_applyEffs c s K' E id hid (h.stored_in id)]
  cases hl : lastAction E id with
  | none =>
    simp only
    rw [hrep id hid]
    cases hk' : K' id with
    | none =>
      cases hk : K id with
      | none => rfl
      | some v =>
        have := h.gone_removed id (by rw [hk]; rfl) (by rw [hk']; rfl)
        rw [hl] at this; cases this
    | some v' =>
      by_cases he : K' id = K id
      · rw [← he, hk']
      · have := h.changed_stored id (by rw [hk']; rfl) he
        rw [hl] at this; cases this
  | some b =>
    cases b with
    | true => rfl
    | false =>
      have := h.removed_out id hl
      simp only
      cases hk' : K' id with
      | none => rfl
      | some v => rw [hk'] at this; cases this

/-- Commit, reopen: the new storage shows exactly `K` -/
theorem rep_commit_reopen (c : Codec σ β) (hc : RoundTrip c) (s : St σ β) (K : SlabID → Option σ)
    (hrep : Rep c s K) (hI : Inv c s) (henc : NoEncodeFailure c s)
    (kind : CommitKind) (mo dlo : List SlabID) :
    (St.step c s (.commit kind [] mo dlo)).2 = .unit ∧
    let reopened := St.run c s [.commit kind [] mo dlo, .recreate]
    reopened.deltas = [] ∧ reopened.cache = [] ∧ Inv c reopened ∧
    ∀ id, id.isTemp = false → reopened.view c id = K id := by
  obtain ⟨g, p⟩ := WE2E.commit_reopen_view c hc s hI henc kind mo dlo
  refine ⟨g, ?_⟩
  intro reopened
  obtain ⟨p1, p2, p3, p4⟩ := p
  refine ⟨p1, p2, p3, fun id ht => (p4 id ht).trans (hrep id ?_)⟩
  intro e; rw [e] at ht; cases ht

/-- the empty storage shows the empty content -/
theorem rep_init (c : Codec σ β) : Rep c (St.init : St σ β) (fun _ => none) := by
  intro id _
  simp [St.view, St.init, St.fresh]

/-- A complete account of `K ↦ K'` is a complete account of every content that decorates the entries
    (by `f` before, `f'` after), provided an entry that stays while its decoration changes was stored. -/
theorem Complete.map {τ : Type} {K K' : SlabID → Option τ} {E : List Eff} (h : Complete K K' E) (f f' : τ → σ)
    (hd : ∀ id s, K' id = some s → K id = some s → f' s ≠ f s → lastAction E id = some true) :
    Complete (fun id => (K id).map f) (fun id => (K' id).map f') E := by
  refine ⟨fun id h1 h2 => ?_, fun id h1 h2 => ?_, fun id hl => ?_, fun id hl => ?_⟩
  · rw [Option.isSome_map] at h1
    by_cases he : K' id = K id
    · obtain ⟨s, hs⟩ := Option.isSome_iff_exists.1 h1
      refine hd id s hs (he ▸ hs) fun hf => h2 ?_
      rw [← he, hs, Option.map_some, Option.map_some, hf]
    · exact h.changed_stored id h1 he
  · rw [Option.isSome_map] at h1; rw [Option.isNone_map] at h2
    exact h.gone_removed id h1 h2
  · rw [Option.isSome_map]; exact h.stored_in id hl
  · rw [Option.isNone_map]; exact h.removed_out id hl

/-- One log, then commit, then reopen, for any content: if the storage shows `K` and `E` is a complete
    account of the change to `K'`, then after `E` it shows `K'`, and so does a brand-new storage after a
    commit that meets no encoding failure. -/
theorem Complete.persisted (c : Codec σ β) (hc : RoundTrip c) (s : St σ β) {K K' : SlabID → Option σ}
    {E : List Eff} (hrep : Rep c s K) (hI : Inv c s) (h : Complete K K' E)
    (kind : CommitKind) (mo dlo : List SlabID) :
    let s' := WE2E.applyEffs c s K' E
    Rep c s' K' ∧ Inv c s' ∧
    (NoEncodeFailure c s' →
      (St.step c s' (.commit kind [] mo dlo)).2 = .unit ∧
      let reopened := St.run c s' [.commit kind [] mo dlo, .recreate]
      reopened.deltas = [] ∧ reopened.cache = [] ∧
      ∀ id, id.isTemp = false → reopened.view c id = K' id) := by
  intro s'
  have hrep' : Rep c s' K' := rep_step c s _ _ _ hrep h
  have hI' : Inv c s' := WE2E.applyEffs_inv c hc s _ _ hI
  refine ⟨hrep', hI', fun henc => ?_⟩
  obtain ⟨k1, k2⟩ := rep_commit_reopen c hc s' _ hrep' hI' henc kind mo dlo
  exact ⟨k1, k2.1, k2.2.1, k2.2.2.2⟩

/-- a complete World account (no large-value slab created) is a complete account of `slabAt` -/
theorem complete_of_world {w w' : World} {E : List Eff} (h : WEffectsComplete w w' E []) :
    Complete w.slabAt w'.slabAt E := by
  refine ⟨h.changed_stored, h.gone_removed, ?_, h.removed_not_in_heap⟩
  intro id hl
  rcases h.stored_in_heap id hl with h1 | h1
  · exact h1
  · cases h1

/-- every heap slab is owned by the world's (non-temporary) address -/
theorem heap_not_temp {w : World} {ctr : Nat} (Hh : HeapOk w ctr) (ha : w.addr ≠ 0) (id : SlabID)
    (h : (w.slabAt id).isSome) : id.isTemp = false := by
  have := (World.slabAt_isSome w id).1 h
  obtain ⟨x, c, hx, hm⟩ := this
  have := Hh.addr x c id hx (c.heapIds_sub_treeIds id hm)
  simp [SlabID.isTemp, this, ha]

/-- One operation, then commit, then reopen: `hcomp` is what every operation theorem of C09W
    delivers (`*_effects_complete`); `hcr`: the operation created no large-value slab. -/
theorem op_persisted (c : Codec WSlab β) (hc : RoundTrip c) (s : St WSlab β) (w w' : World) (cx cx' : Ctx)
    (hrep : Rep c s w.slabAt) (hI : Inv c s)
    (hcomp : WEffectsComplete w w' (newEffects cx cx') (newCreated cx cx')) (hcr : newCreated cx cx' = [])
    (kind : CommitKind) (mo dlo : List SlabID) :
    let s' := WE2E.applyEffs c s w'.slabAt (newEffects cx cx')
    Rep c s' w'.slabAt ∧ Inv c s' ∧
    (NoEncodeFailure c s' →
      (St.step c s' (.commit kind [] mo dlo)).2 = .unit ∧
      let reopened := St.run c s' [.commit kind [] mo dlo, .recreate]
      reopened.deltas = [] ∧ reopened.cache = [] ∧
      ∀ id, id.isTemp = false → reopened.view c id = w'.reopen.slabAt id) := by
  rw [hcr] at hcomp
  exact (complete_of_world hcomp).persisted c hc s hrep hI kind mo dlo

/-- a history of World operations (`C09W.Hist`) together with the storage it was run against:
    every operation's storage calls are applied to the storage state machine -/
inductive HistS (D : SlabID → DigestFn 4) (c : Codec WSlab β) : World → Ctx → St WSlab β → Prop
  | new (T addr : Nat) (hT : legalThreshold T = true) : HistS D c { T := T, addr := addr } ⟨0, [], []⟩ St.init
  | step {w cx s w' cx'} : HistS D c w cx s → C09W.Hist D w' cx' →
      WEffectsComplete w w' (newEffects cx cx') (newCreated cx cx') → newCreated cx cx' = [] →
      HistS D c w' cx' (WE2E.applyEffs c s w'.slabAt (newEffects cx cx'))
  | commit {w cx s} (kind : CommitKind) (faults : List Nat) (mo dlo : List SlabID) : HistS D c w cx s →
      HistS D c w cx (St.step c s (.commit kind faults mo dlo)).1

/-- Any history, with commits (failing or not) anywhere: the storage represents the heap of the world
    and satisfies the storage invariant; hence (`rep_commit_reopen`) a successful commit followed by
    a reopen yields exactly the heap of `w.reopen`. -/
theorem history_persisted (D : SlabID → DigestFn 4) (c : Codec WSlab β) (hc : RoundTrip c)
    (w : World) (cx : Ctx) (s : St WSlab β) (h : HistS D c w cx s) :
    Rep c s w.slabAt ∧ Inv c s ∧
    ∀ (kind : CommitKind) (mo dlo : List SlabID), NoEncodeFailure c s →
      (St.step c s (.commit kind [] mo dlo)).2 = .unit ∧
      let reopened := St.run c s [.commit kind [] mo dlo, .recreate]
      reopened.deltas = [] ∧ reopened.cache = [] ∧
      ∀ id, id.isTemp = false → reopened.view c id = w.reopen.slabAt id := by
  have key : Rep c s w.slabAt ∧ Inv c s := by
    induction h with
    | new T addr hT => exact ⟨rep_init c, inv_init c⟩
    | step _ _ hcomp hcr ih =>
      obtain ⟨h1, h2⟩ := ih
      rw [hcr] at hcomp
      exact ⟨rep_step c _ _ _ _ h1 (complete_of_world hcomp), WE2E.applyEffs_inv c hc _ _ _ h2⟩
    | commit kind faults mo dlo _ ih =>
      obtain ⟨h1, h2⟩ := ih
      rw [step_commit]
      obtain ⟨k1, k2, _⟩ := commitW_spec c hc kind (faultPlan faults) mo dlo _ h2
      exact ⟨fun id hid => by rw [k2.view id]; exact h1 id hid, k1⟩
  refine ⟨key.1, key.2, fun kind mo dlo henc => ?_⟩
  obtain ⟨k1, k2⟩ := rep_commit_reopen c hc s _ key.1 key.2 henc kind mo dlo
  refine ⟨k1, ?_⟩
  intro reopened
  obtain ⟨k3, k4, _, k5⟩ := k2
  exact ⟨k3, k4, fun id ht => by rw [k5 id ht]; rfl⟩

/-! The deep statement: inlined children travel inside the slab of their host. -/

/-- the elements stored in one slab (for a map data slab: its single elements and inline collision
    groups — the elements of an EXTERNAL group are in the group's own slab) -/
def localVals : (r : Nat) → MElems r → List Elem
  | 0, (e : SingleElems) => e.elems.map (·.val)
  | r + 1, (he : HkeyElems (MElems r)) =>
    he.elems.flatMap (fun el =>
      match el with
      | .single x => [x.val]
      | .inl g => localVals r g
      | .ext _ _ _ => [])

def slabElems : WSlab → List Elem
  | .arr (.data s) _ => s.elems
  | .arr (.index ..) _ => []
  | .map (.data s) _ => localVals 4 s.elems
  | .map (.index ..) _ => []
  | .map (.group g) _ => localVals 3 g.elems

/-- container `x` is INLINED and embedded, directly or through other inlined containers, in a slab
    whose elements are `es` -/
inductive EmbIn (w : World) : List Elem → SlabID → Prop
  | direct {es : List Elem} {e : Elem} {x : SlabID} {cx : Cont} : e ∈ es → e.pay = .ref x → w.cont? x = some cx →
      cx.isInlined = true → EmbIn w es x
  | nested {es : List Elem} {y x : SlabID} {cy : Cont} : EmbIn w es y → w.cont? y = some cy →
      EmbIn w cy.storedElems x → EmbIn w es x

/-- The deep content of the slab stored under `id`: the slab and every inlined container embedded in
    it (each with its whole content) — what the bytes of the register encode -/
noncomputable def deepAt (w : World) (id : SlabID) : Option (WSlab × (SlabID → Option Cont)) :=
  (w.slabAt id).map (fun s => (s, fun x => by
    classical exact if EmbIn w (slabElems s) x then w.cont? x else none))

/-- the hypothesis about the core `set` operations that the deep statement needs: a slab that is
    still in the heap with the same (shallow) content, but in which an embedded inlined container
    changed, was stored -/
def DeepStored (w w' : World) (E : List Eff) : Prop :=
  ∀ id, (w'.slabAt id).isSome → w'.slabAt id = w.slabAt id → (deepAt w') id ≠ (deepAt w) id → lastAction E id = some true

/-- with `DeepStored`, a complete World account is a complete account of the DEEP content -/
theorem deepComplete_of {w w' : World} {E : List Eff} (h : WEffectsComplete w w' E []) (hd : DeepStored w w' E) :
    Complete (deepAt w) (deepAt w') E :=
  (complete_of_world h).map _ _ fun id s hs' hs hne =>
    hd id (hs' ▸ rfl) (hs'.trans hs.symm) (by unfold deepAt; rw [hs', hs]; exact fun he => hne (Option.some.inj he))

/-- DEEP: one operation, commit, reopen — the new storage holds, for every heap slab, the slab AND
    the full content of every inlined container embedded in it, as of the new world. -/
theorem deep_op_persisted (c : Codec (WSlab × (SlabID → Option Cont)) β) (hc : RoundTrip c)
    (s : St (WSlab × (SlabID → Option Cont)) β) (w w' : World) (E : List Eff)
    (hrep : Rep c s (deepAt w)) (hI : Inv c s) (hcomp : WEffectsComplete w w' E []) (hdeep : DeepStored w w' E)
    (kind : CommitKind) (mo dlo : List SlabID) :
    let s' := WE2E.applyEffs c s (deepAt w') E
    Rep c s' (deepAt w') ∧ Inv c s' ∧
    (NoEncodeFailure c s' →
      (St.step c s' (.commit kind [] mo dlo)).2 = .unit ∧
      let reopened := St.run c s' [.commit kind [] mo dlo, .recreate]
      reopened.deltas = [] ∧ reopened.cache = [] ∧
      ∀ id, id.isTemp = false → reopened.view c id = (deepAt w') id) :=
  (deepComplete_of hcomp hdeep).persisted c hc s hrep hI kind mo dlo

/-
  `DeepStored` stays a hypothesis in this file.  Its codec form `WC.DeepStoredC` is proved for every
  operation of a history in `Props/C10Deep.lean` (from `arr_set_holds` / `omap_set_holds` along the
  callback chain of `World.notifyHeap`), where `deepC_op_persisted` is the statement above over
  `deepC`.  The real code at the case the shallow account does not see (content of an inlined child
  changes, its size does not): `harness/cmd/probe_deepstored`.
-/

end Atree.C10Persist

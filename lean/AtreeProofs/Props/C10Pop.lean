import AtreeProofs.Props.C10
import AtreeProofs.World.PopThm
import AtreeProofs.World.LogGrows
import AtreeProofs.World.PopMapParent
import AtreeProofs.World.PopScenario
import AtreeProofs.Array.EffectsTop
import AtreeProofs.Array.Iter
import AtreeProofs.Map.EffectsTop
import AtreeProofs.Map.Empty
/-
  C10 (continued) — `Array.PopIterate` / `OrderedMap.PopIterate` called THROUGH THE HANDLE of a
  (possibly nested) container `h`: `World.arrPop` / `World.mapPop`.
  PROPERTY THEOREMS about the World model (value-level, one current handle per container).

  The model of the pop is: empty `h` in place (`Arr.popIterate` / `OMap.popIterate`), reset the
  index table of `h` (arrays), dispose of everything that was handed out (`forgetElems`: the
  popped child containers and everything nested below them vanish from all tables), then the
  ordinary parent notification.  Two defects of the Go code were repaired to match it:
  F3 (PopIterate did not notify the parent: the theorems `…_updates_array_parent` /
  `…_updates_map_parent` are what it violated),
  F4 (Array.PopIterate kept stale `mutableElementIndex` entries: `arrPop_clears_index`).

  Contents: A `…_result`, B `arrPop_clears_index` / `…_mutIdxOk`, C `…_updates_array_parent` /
  `…_updates_map_parent`, D `…_forgets_exactly_the_subtree` / `…_releases_own_slabs`,
  E `…_of_detached_leaves_former_parent_unchanged`; then counterexamples showing that the two
  hypotheses `hfree` and `hsync` cannot be dropped, and non-vacuity on concrete runs of the model.

  Helper lemmas, `AtreeProofs/World/`: `Pop` (`forget` / `forgetElems` drop exactly the reachable
  containers), `PopFrame` (index-table frame of a notification, `LogExt`), `PopOps` (shape of
  a pop), `PopThm` (the statements, generically for arrays and maps, and for a parent of either kind:
  `pop_updates_parent_g`, from `World.notify_updates_parent`), `PopMapParent` (`OMap.set_get_single`,
  the premise `hset` on the maps of the runs), `PopLog` / `LogGrows` (every step of an operation only appends to
  the effect log, for every tree), `PopEval` / `PopScenario` (evaluable copies, concrete runs).

  Vocabulary (`AtreeProofs/World/Pop*.lean`):
  * `Reach w v x`      — `x` is the known container `v` or is nested, at any depth, below it
  * `NotBelow w es x`  — `x` is not nested below (and is not) any container referenced by `es`
  * `RefRankOk rank w` — element references strictly increase `rank` (acyclic nesting)
  * `Detached w h hi`  — the callback `hi` of `h` finds nothing in the recorded parent
  * `arrPopMid` / `mapPopMid` — the state at the call of `notifyParent` inside the pop
  * `LogExt c c'`      — the effect log of `c'` extends the one of `c`
  The hypothesis "`h` is not nested below its own elements" (`NotBelow w a.toList h`) follows from
  a rank function on references: `not_below_of_ref_rank`.
-/
namespace Atree.C10Pop
open Atree Gen World

/-- `arrPop` is: the container-level pop, then exactly ONE ordinary parent notification from the
    emptied container (fuel `conts.length + 2`) in the state `arrPopMid` where the popped subtree
    has been disposed of.  Hence whether the emptied container ends up inline is decided by
    `notifyParent` as for any other mutation (`C10.notify_updates_array_parent`,
    `C10.storable_inline_decision`). -/
theorem arrPop_is_notification (w : World) (h : SlabID) (cx : Ctx) (a : Arr)
    (hc : w.cont? h = some (.arr a))
    (es : List Elem) (w' : World) (cx' : Ctx) (hpop : w.arrPop h cx = .ok (es, w', cx')) :
    es = (a.popIterate cx).1 ∧
    notifyParent (arrPopMid w h a cx).fuelOf (arrPopMid w h a cx) h (a.popIterate cx).2.2 = .ok (w', cx') :=
  arrPop_ok hc hpop

/-- the same for `mapPop` -/
theorem mapPop_is_notification (w : World) (h : SlabID) (cx : Ctx) (m : OMap 3)
    (hc : w.cont? h = some (.map m))
    (kvs : List (MKey × Elem)) (w' : World) (cx' : Ctx) (hpop : w.mapPop h cx = .ok (kvs, w', cx')) :
    kvs = (m.popIterate cx).1 ∧
    notifyParent (mapPopMid w h m cx).fuelOf (mapPopMid w h m cx) h (m.popIterate cx).2.2 = .ok (w', cx') :=
  mapPop_ok hc hpop

/-- A pop succeeds only through the handle of a container of the right kind. -/
theorem pop_needs_container (w : World) (h : SlabID) (cx : Ctx) :
    (∀ es w' cx', w.arrPop h cx = .ok (es, w', cx') → ∃ a, w.cont? h = some (.arr a)) ∧
    (∀ kvs w' cx', w.mapPop h cx = .ok (kvs, w', cx') → ∃ m, w.cont? h = some (.map m)) :=
  ⟨fun _ _ _ hp => arrPop_isArr hp, fun _ _ _ hp => mapPop_isMap hp⟩

/-- "`x` is not nested below the elements `es`" follows from a rank function on references:
    if every reference goes up in rank and every container referenced by `es` ranks above `x`,
    then `x` is below none of them.  (For `x = h` and `es` the elements of `h`, the second
    hypothesis is an instance of the first.) -/
theorem not_below_of_ref_rank (rank : SlabID → Nat) (w : World) (hrr : RefRankOk rank w)
    (es : List Elem) (x : SlabID)
    (hx : ∀ e ∈ es, ∀ v, e.pay = .ref v → (w.cont? v).isSome → rank x < rank v) :
    NotBelow w es x :=
  notBelow_of_rank hrr hx

/-- … in particular a container is not nested below its own elements, nor is anything that
    ranks at most as high as it (its parent, its ancestors). -/
theorem not_below_own_elements (rank : SlabID → Nat) (w : World) (hrr : RefRankOk rank w)
    (h : SlabID) (c : Cont) (hc : w.cont? h = some c) (x : SlabID) (hx : rank x ≤ rank h) :
    NotBelow w c.storedElems x :=
  notBelow_of_rank hrr (fun e he v hp hv => by have := hrr h c hc e he v hp hv; omega)

private theorem arr_pop_fst (a : Arr) (cx : Ctx) : (a.popIterate cx).1 = a.toList.reverse :=
  (arr_popIterate_refines a cx).1

private theorem map_pop_fst (m : OMap 3) (cx : Ctx) : (m.popIterate cx).1 = m.toList.reverse :=
  MTree.popIterate_fst m.d m.root cx

/-- `NotBelow` looks at the popped elements only through membership: they are the stored ones -/
private theorem arr_popped_free {w : World} {a : Arr} {x : SlabID} (h : NotBelow w a.toList x) (cx : Ctx) :
    NotBelow w (a.popIterate cx).1 x := by
  rw [arr_pop_fst]; exact fun e he => h e (List.mem_reverse.mp he)

private theorem map_popped_free {w : World} {m : OMap 3} {x : SlabID} (h : NotBelow w (m.toList.map (·.2)) x)
    (cx : Ctx) : NotBelow w ((m.popIterate cx).1.map (·.2)) x := by
  rw [map_pop_fst, List.map_reverse]; exact fun e he => h e (List.mem_reverse.mp he)

/-- a parent element in sync with a standalone child is in sync with every standalone form of it -/
private theorem sync_of_standalone {c c0 : Cont} {el : Elem} {wrap : Nat} (hsync : el.size = World.slotSize c wrap)
    (hc : c.isInlined = false) (h0 : c0.isInlined = false) : el.size = World.slotSize c0 wrap := by
  rw [hsync]; simp [World.slotSize, hc, h0]

/-! ### A. what a pop returns and leaves behind -/

/-- `Array.PopIterate` through the handle `h`: hands out every element, last to first; `h` is
    still an array filed under the same value ID (root slab ID unchanged), now empty; every
    container keeps being filed under its value ID; and if `h` has no parent callback, nothing
    else happens: the final state is `arrPopMid`, the inline flag of `h` is unchanged and the
    only storage effects are the ones of the container-level pop.
    (With a callback, the inline status is decided by the notification: `arrPop_is_notification`,
    `arrPop_updates_array_parent`.)
    Hypotheses: the parent pointers are acyclic (`rank`, as in `C10.notify_updates_array_parent`;
    otherwise the notification could come back to `h`), and `h` is not nested below its own
    elements (otherwise the disposal of the popped elements would dispose of `h` itself;
    `not_below_own_elements` derives it from a rank on references). -/
theorem arrPop_result (w : World) (h : SlabID) (cx : Ctx) (a : Arr)
    (hc : w.cont? h = some (.arr a)) (hids : World.IdsOk w)
    (rank : SlabID → Nat)
    (hacyc : ∀ y hi, AList.find? w.hinfo y = some hi → rank hi.parent < rank y)
    (hfree : NotBelow w a.toList h)
    (es : List Elem) (w' : World) (cx' : Ctx) (hpop : w.arrPop h cx = .ok (es, w', cx')) :
    es = a.toList.reverse ∧
    ∃ a', w'.cont? h = some (.arr a') ∧ a'.toList = [] ∧ a'.rootID = h ∧
      (Cont.arr a').storedElems = [] ∧ (Cont.arr a').vid = h ∧ World.IdsOk w' ∧
      (AList.find? w.hinfo h = none →
        w' = arrPopMid w h a cx ∧ cx' = (a.popIterate cx).2.2 ∧ a'.isInlined = a.isInlined) := by
  obtain ⟨he, hn⟩ := arrPop_ok hc hpop
  have hid : a.rootID = h := hids h _ hc
  have E := emptied_arr hc cx
  have hfree' := arr_popped_free hfree cx
  obtain ⟨⟨c', hc', hs⟩, _, hno, hids'⟩ := pop_result_g E hacyc hfree' hn
  obtain ⟨a', rfl, h1, h2, _⟩ := hs.arr
  refine ⟨he.trans (arr_pop_fst a cx), a', hc', h1, h2.trans hid, h1, h2.trans hid, hids' hids hid, ?_⟩
  intro hnone
  obtain ⟨e1, e2⟩ := hno hnone
  refine ⟨e1, e2, ?_⟩
  subst e1
  have := (E.mid_h hfree').1
  rw [this] at hc'
  cases hc'
  rfl

/-- `OrderedMap.PopIterate` through the handle `h`: the same (`kvs = m.toList.reverse`). -/
theorem mapPop_result (w : World) (h : SlabID) (cx : Ctx) (m : OMap 3)
    (hc : w.cont? h = some (.map m)) (hids : World.IdsOk w)
    (rank : SlabID → Nat)
    (hacyc : ∀ y hi, AList.find? w.hinfo y = some hi → rank hi.parent < rank y)
    (hfree : NotBelow w (m.toList.map (·.2)) h)
    (kvs : List (MKey × Elem)) (w' : World) (cx' : Ctx) (hpop : w.mapPop h cx = .ok (kvs, w', cx')) :
    kvs = m.toList.reverse ∧
    ∃ m', w'.cont? h = some (.map m') ∧ m'.toList = [] ∧ m'.rootID = h ∧
      (Cont.map m').storedElems = [] ∧ (Cont.map m').vid = h ∧ World.IdsOk w' ∧
      (AList.find? w.hinfo h = none →
        w' = mapPopMid w h m cx ∧ cx' = (m.popIterate cx).2.2 ∧ m'.isInlined = m.isInlined) := by
  obtain ⟨he, hn⟩ := mapPop_ok hc hpop
  have hid : m.rootID = h := hids h _ hc
  have E := emptied_map hc cx
  have hfree' := map_popped_free hfree cx
  obtain ⟨⟨c', hc', hs⟩, _, hno, hids'⟩ := pop_result_g E hacyc hfree' hn
  obtain ⟨m', rfl, h1, h2, _⟩ := hs.map
  refine ⟨he.trans (map_pop_fst m cx), m', hc', h1, h2.trans hid, by show m'.toList.map (·.2) = []; rw [h1]; rfl,
    h2.trans hid, hids' hids hid, ?_⟩
  intro hnone
  obtain ⟨e1, e2⟩ := hno hnone
  refine ⟨e1, e2, ?_⟩
  subst e1
  have := (E.mid_h hfree').1
  rw [this] at hc'
  cases hc'
  rfl

/-! ### B. (F4) the emptied array tracks no child index -/

/-- After `Array.PopIterate` through `h`, the `mutableElementIndex` of `h` is empty: no stale
    index of a removed child survives (the unrepaired Go code kept them all, so that a later
    `Insert(0, child)` shifted stale entries beyond the new element count). -/
theorem arrPop_clears_index (w : World) (h : SlabID) (cx : Ctx) (a : Arr)
    (hc : w.cont? h = some (.arr a))
    (rank : SlabID → Nat)
    (hacyc : ∀ y hi, AList.find? w.hinfo y = some hi → rank hi.parent < rank y)
    (hfree : NotBelow w a.toList h)
    (es : List Elem) (w' : World) (cx' : Ctx) (hpop : w.arrPop h cx = .ok (es, w', cx')) :
    w'.idxOf h = [] ∧ ∀ x, AList.find? (w'.idxOf h) x = none := by
  obtain ⟨_, hn⟩ := arrPop_ok hc hpop
  have E := emptied_arr hc cx
  obtain ⟨_, hidx, _, _⟩ := pop_result_g E hacyc (arr_popped_free hfree cx) hn
  have : w'.idxOf h = [] := by
    rw [hidx]; simp [World.setIdx, AList.find?_insert]
  exact ⟨this, fun x => by rw [this]; rfl⟩

/-- `mutableElementIndex` stays correct through `Array.PopIterate`: every recorded index of every
    array still holds a reference to its child afterwards.  As in `C10.mutIdx_ok_arrInsert`, the
    list-level behaviour of the array operations is taken as hypotheses relative to an invariant
    `I` of arrays; `hpopI`: the emptied array satisfies `I`. -/
theorem arrPop_mutIdxOk (w : World) (h : SlabID) (cx : Ctx)
    (es : List Elem) (w' : World) (cx' : Ctx) (hpop : w.arrPop h cx = .ok (es, w', cx'))
    (hmi : MutIdxOk w)
    (I : Arr → Prop) (hI : ∀ q a, w.cont? q = some (.arr a) → I a)
    (hpopI : ∀ (a : Arr) (c : Ctx), I a → I (a.popIterate c).2.1)
    (hsetL : ∀ (a a' : Arr) (c c' : Ctx) (j : Nat) (e old : Elem), I a → a.set w.T j e c = .ok (old, a', c') →
      (∃ r, e.pay = .ref r) → I a' ∧ a'.toList = a.toList.set j e)
    (hinsL : ∀ (a a' : Arr) (c c' : Ctx) (j : Nat) (e : Elem), I a → a.insert w.T j e c = .ok (a', c') →
      I a' ∧ j ≤ a.toList.length ∧ ∃ e', a'.toList = a.toList.insertIdx j e' ∧ (∀ r, e.pay = .ref r → e' = e))
    (hgetL : ∀ (a : Arr) (j : Nat) (el : Elem), I a → a.get j = .ok el → a.toList[j]? = some el)
    (hform : ∀ (a a' : Arr), a'.toList = a.toList → a'.rootID = a.rootID → (∀ i, a'.get i = a.get i) → I a → I a') :
    MutIdxOk w' ∧ ∀ q a, w'.cont? q = some (.arr a) → I a := by
  obtain ⟨a, hc⟩ := arrPop_isArr hpop
  obtain ⟨_, hn⟩ := arrPop_ok hc hpop
  have F : ArrFacts w.T I := ⟨hsetL, hinsL, hgetL, hform⟩
  have := pop_mInv_g (emptied_arr hc cx) F ⟨hI, hmi⟩
    (fun a0 h0 => by cases h0; exact ⟨hpopI a cx (hI h a hc), by simp⟩) hn
  exact ⟨this.2, this.1⟩

/-- the same for `OrderedMap.PopIterate` (no array is written except by the notification) -/
theorem mapPop_mutIdxOk (w : World) (h : SlabID) (cx : Ctx)
    (kvs : List (MKey × Elem)) (w' : World) (cx' : Ctx) (hpop : w.mapPop h cx = .ok (kvs, w', cx'))
    (hmi : MutIdxOk w)
    (I : Arr → Prop) (hI : ∀ q a, w.cont? q = some (.arr a) → I a)
    (hsetL : ∀ (a a' : Arr) (c c' : Ctx) (j : Nat) (e old : Elem), I a → a.set w.T j e c = .ok (old, a', c') →
      (∃ r, e.pay = .ref r) → I a' ∧ a'.toList = a.toList.set j e)
    (hinsL : ∀ (a a' : Arr) (c c' : Ctx) (j : Nat) (e : Elem), I a → a.insert w.T j e c = .ok (a', c') →
      I a' ∧ j ≤ a.toList.length ∧ ∃ e', a'.toList = a.toList.insertIdx j e' ∧ (∀ r, e.pay = .ref r → e' = e))
    (hgetL : ∀ (a : Arr) (j : Nat) (el : Elem), I a → a.get j = .ok el → a.toList[j]? = some el)
    (hform : ∀ (a a' : Arr), a'.toList = a.toList → a'.rootID = a.rootID → (∀ i, a'.get i = a.get i) → I a → I a') :
    MutIdxOk w' ∧ ∀ q a, w'.cont? q = some (.arr a) → I a := by
  obtain ⟨m, hc⟩ := mapPop_isMap hpop
  obtain ⟨_, hn⟩ := mapPop_ok hc hpop
  have F : ArrFacts w.T I := ⟨hsetL, hinsL, hgetL, hform⟩
  have := pop_mInv_g (emptied_map hc cx) F ⟨hI, hmi⟩ (fun a0 h0 => by cases h0) hn
  exact ⟨this.2, this.1⟩

/-! ### C. (F3) the pop reaches the parent -/

/-- The analogue of `C10.notify_updates_array_parent` for `Array.PopIterate` through the handle of
    a child `h` that sits in slot `idx` of an ARRAY parent `p`: if the parent's element was in sync
    with the child before (`hsync`), it is in sync with the EMPTIED child afterwards — slot `idx`
    still refers to `h` and its size is `World.slotSize c' hi.wrap` for the final form `c'` of the
    child — and the child is inline exactly when the emptied container fits the slot's budget.
    This is what the unrepaired Go code violated (F3): it left the parent's element (e.g. the
    94-byte inlined child of the example below) untouched while the child had shrunk to 17 bytes.
    Hypotheses `hmax`, `rank`/`hacyc`, `hset` as in `C10.notify_updates_array_parent`; `hfree`,
    `hpfree`: neither `h` nor its parent is nested below the popped elements (both follow from
    a common rank for references and parent pointers: `not_below_own_elements`). -/
theorem arrPop_updates_array_parent (w : World) (h p : SlabID) (hi : HInfo) (cx : Ctx)
    (a : Arr) (pa : Arr) (idx : Nat) (el : Elem)
    (hh : AList.find? w.hinfo h = some hi) (hp : hi.parent = p)
    (hc : w.cont? h = some (.arr a)) (hid : a.rootID = h)
    (hpa : w.cont? p = some (.arr pa)) (hidx : AList.find? (w.idxOf p) h = some idx)
    (hget : pa.get idx = .ok el) (hel : el.pay = .ref h)
    (hsync : el.size = World.slotSize (.arr a) hi.wrap)
    (hmax : hi.maxInline = maxInlineArr w.T - 2 * hi.wrap)
    (rank : SlabID → Nat)
    (hacyc : ∀ y hi, AList.find? w.hinfo y = some hi → rank hi.parent < rank y)
    (hset : ∀ (e : Elem) (c0 : Ctx) (old : Elem) (a' : Arr) (c1 : Ctx), e.pay = .ref h →
        pa.set w.T idx e c0 = .ok (old, a', c1) → a'.get idx = .ok e)
    (hfree : NotBelow w a.toList h) (hpfree : NotBelow w a.toList p)
    (es : List Elem) (w' : World) (cx' : Ctx) (hpop : w.arrPop h cx = .ok (es, w', cx')) :
    ∃ c' pa' el', w'.cont? h = some c' ∧ c'.vid = h ∧ c'.storedElems = [] ∧
      w'.cont? p = some (.arr pa') ∧
      pa'.get idx = .ok el' ∧ el'.pay = .ref h ∧ el'.size = World.slotSize c' hi.wrap ∧
      -- the emptied child stays a separate slab: nothing else happens
      (a.isInlined = false ∧ (Cont.arr (a.popIterate cx).2.1).inlinable hi.maxInline = false →
        w' = arrPopMid w h a cx ∧ cx' = (a.popIterate cx).2.2) ∧
      (¬ (a.isInlined = false ∧ (Cont.arr (a.popIterate cx).2.1).inlinable hi.maxInline = false) →
        c'.isInlined = (Cont.arr (a.popIterate cx).2.1).inlinable hi.maxInline) := by
  obtain ⟨_, hn⟩ := arrPop_ok hc hpop
  have E := emptied_arr hc cx
  exact pop_updates_array_parent_g E hh hp ((arr_popIterate_refines a cx).2.2.1.trans hid) hpa hidx hget hel
    (fun hinl => sync_of_standalone hsync hinl hinl)
    hmax rank hacyc hset (arr_popped_free hfree cx) (arr_popped_free hpfree cx) hn

/-- The same for `OrderedMap.PopIterate` through the handle of a MAP child `h` that sits in slot
    `idx` of an array parent `p`. -/
theorem mapPop_updates_array_parent (w : World) (h p : SlabID) (hi : HInfo) (cx : Ctx)
    (m : OMap 3) (pa : Arr) (idx : Nat) (el : Elem)
    (hh : AList.find? w.hinfo h = some hi) (hp : hi.parent = p)
    (hc : w.cont? h = some (.map m)) (hid : m.rootID = h)
    (hpa : w.cont? p = some (.arr pa)) (hidx : AList.find? (w.idxOf p) h = some idx)
    (hget : pa.get idx = .ok el) (hel : el.pay = .ref h)
    (hsync : el.size = World.slotSize (.map m) hi.wrap)
    (hmax : hi.maxInline = maxInlineArr w.T - 2 * hi.wrap)
    (rank : SlabID → Nat)
    (hacyc : ∀ y hi, AList.find? w.hinfo y = some hi → rank hi.parent < rank y)
    (hset : ∀ (e : Elem) (c0 : Ctx) (old : Elem) (a' : Arr) (c1 : Ctx), e.pay = .ref h →
        pa.set w.T idx e c0 = .ok (old, a', c1) → a'.get idx = .ok e)
    (hfree : NotBelow w (m.toList.map (·.2)) h) (hpfree : NotBelow w (m.toList.map (·.2)) p)
    (kvs : List (MKey × Elem)) (w' : World) (cx' : Ctx) (hpop : w.mapPop h cx = .ok (kvs, w', cx')) :
    ∃ c' pa' el', w'.cont? h = some c' ∧ c'.vid = h ∧ c'.storedElems = [] ∧
      w'.cont? p = some (.arr pa') ∧
      pa'.get idx = .ok el' ∧ el'.pay = .ref h ∧ el'.size = World.slotSize c' hi.wrap ∧
      (m.isInlined = false ∧ (Cont.map (m.popIterate cx).2.1).inlinable hi.maxInline = false →
        w' = mapPopMid w h m cx ∧ cx' = (m.popIterate cx).2.2) ∧
      (¬ (m.isInlined = false ∧ (Cont.map (m.popIterate cx).2.1).inlinable hi.maxInline = false) →
        c'.isInlined = (Cont.map (m.popIterate cx).2.1).inlinable hi.maxInline) := by
  obtain ⟨_, hn⟩ := mapPop_ok hc hpop
  have E := emptied_map hc cx
  exact pop_updates_array_parent_g E hh hp hid hpa hidx hget hel
    (fun hinl => sync_of_standalone hsync hinl hinl)
    hmax rank hacyc hset (map_popped_free hfree cx) (map_popped_free hpfree cx) hn

/-- The MAP-parent analogue: `Array.PopIterate` through the handle of a child `h` that sits under
    key `k` of a map parent `p`.  If the parent's value under `k` was in sync with the child before,
    it is in sync with the emptied child afterwards, and the child is inline exactly when the
    emptied container fits the budget of a map value under `k`.  Hypotheses as in
    `World.notify_updates_parent` (`AtreeProofs/World/Frame.lean`: the statement of
    `C10.notify_updates_array_parent` for a parent of either kind). -/
theorem arrPop_updates_map_parent (w : World) (h p : SlabID) (hi : HInfo) (cx : Ctx)
    (a : Arr) (pm : OMap 3) (k k0 : MKey) (el : Elem)
    (hh : AList.find? w.hinfo h = some hi) (hp : hi.parent = p) (hk : hi.key = some k)
    (hc : w.cont? h = some (.arr a)) (hid : a.rootID = h)
    (hpm : w.cont? p = some (.map pm)) (hget : pm.get w.mcfg k = .ok (k0, el)) (hel : el.pay = .ref h)
    (hsync : el.size = World.slotSize (.arr a) hi.wrap)
    (hmax : hi.maxInline = maxInlineMapValue w.T k.size - 2 * hi.wrap)
    (rank : SlabID → Nat)
    (hacyc : ∀ y hi, AList.find? w.hinfo y = some hi → rank hi.parent < rank y)
    (hset : ∀ (e : Elem) (c0 : Ctx) (old : Option Elem) (m' : OMap 3) (c1 : Ctx), e.pay = .ref h →
        pm.set w.mcfg k e c0 = .ok (old, m', c1) → ∃ k1, m'.get w.mcfg k = .ok (k1, e))
    (hfree : NotBelow w a.toList h) (hpfree : NotBelow w a.toList p)
    (es : List Elem) (w' : World) (cx' : Ctx) (hpop : w.arrPop h cx = .ok (es, w', cx')) :
    ∃ c' pm' k1 el', w'.cont? h = some c' ∧ c'.vid = h ∧ c'.storedElems = [] ∧
      w'.cont? p = some (.map pm') ∧
      pm'.get w.mcfg k = .ok (k1, el') ∧ el'.pay = .ref h ∧ el'.size = World.slotSize c' hi.wrap ∧
      (a.isInlined = false ∧ (Cont.arr (a.popIterate cx).2.1).inlinable hi.maxInline = false →
        w' = arrPopMid w h a cx ∧ cx' = (a.popIterate cx).2.2) ∧
      (¬ (a.isInlined = false ∧ (Cont.arr (a.popIterate cx).2.1).inlinable hi.maxInline = false) →
        c'.isInlined = (Cont.arr (a.popIterate cx).2.1).inlinable hi.maxInline) := by
  obtain ⟨_, hn⟩ := arrPop_ok hc hpop
  have E := emptied_arr hc cx
  exact pop_updates_map_parent_g E hh hp hk ((arr_popIterate_refines a cx).2.2.1.trans hid) hpm hget hel
    (fun hinl => sync_of_standalone hsync hinl hinl)
    hmax rank hacyc hset (arr_popped_free hfree cx) (arr_popped_free hpfree cx) hn

/-- … and `OrderedMap.PopIterate` through the handle of a MAP child under key `k` of a map parent. -/
theorem mapPop_updates_map_parent (w : World) (h p : SlabID) (hi : HInfo) (cx : Ctx)
    (m : OMap 3) (pm : OMap 3) (k k0 : MKey) (el : Elem)
    (hh : AList.find? w.hinfo h = some hi) (hp : hi.parent = p) (hk : hi.key = some k)
    (hc : w.cont? h = some (.map m)) (hid : m.rootID = h)
    (hpm : w.cont? p = some (.map pm)) (hget : pm.get w.mcfg k = .ok (k0, el)) (hel : el.pay = .ref h)
    (hsync : el.size = World.slotSize (.map m) hi.wrap)
    (hmax : hi.maxInline = maxInlineMapValue w.T k.size - 2 * hi.wrap)
    (rank : SlabID → Nat)
    (hacyc : ∀ y hi, AList.find? w.hinfo y = some hi → rank hi.parent < rank y)
    (hset : ∀ (e : Elem) (c0 : Ctx) (old : Option Elem) (m' : OMap 3) (c1 : Ctx), e.pay = .ref h →
        pm.set w.mcfg k e c0 = .ok (old, m', c1) → ∃ k1, m'.get w.mcfg k = .ok (k1, e))
    (hfree : NotBelow w (m.toList.map (·.2)) h) (hpfree : NotBelow w (m.toList.map (·.2)) p)
    (kvs : List (MKey × Elem)) (w' : World) (cx' : Ctx) (hpop : w.mapPop h cx = .ok (kvs, w', cx')) :
    ∃ c' pm' k1 el', w'.cont? h = some c' ∧ c'.vid = h ∧ c'.storedElems = [] ∧
      w'.cont? p = some (.map pm') ∧
      pm'.get w.mcfg k = .ok (k1, el') ∧ el'.pay = .ref h ∧ el'.size = World.slotSize c' hi.wrap ∧
      (m.isInlined = false ∧ (Cont.map (m.popIterate cx).2.1).inlinable hi.maxInline = false →
        w' = mapPopMid w h m cx ∧ cx' = (m.popIterate cx).2.2) ∧
      (¬ (m.isInlined = false ∧ (Cont.map (m.popIterate cx).2.1).inlinable hi.maxInline = false) →
        c'.isInlined = (Cont.map (m.popIterate cx).2.1).inlinable hi.maxInline) := by
  obtain ⟨_, hn⟩ := mapPop_ok hc hpop
  have E := emptied_map hc cx
  exact pop_updates_map_parent_g E hh hp hk hid hpm hget hel
    (fun hinl => sync_of_standalone hsync hinl hinl)
    hmax rank hacyc hset (map_popped_free hfree cx) (map_popped_free hpfree cx) hn

/-! ### D. (C09) exactly the popped subtree is forgotten, and `h`'s own slabs are released -/

/-- After `Array.PopIterate` through `h`: every container referenced by a popped element, and
    everything nested below it at any depth, is gone from the container table; every container
    NOT nested below the popped elements is still there (`h` itself, its parent, its siblings,
    unrelated containers) — and nothing new appears.  No acyclicity of parent pointers needed. -/
theorem arrPop_forgets_exactly_the_subtree (w : World) (h : SlabID) (cx : Ctx) (a : Arr)
    (hc : w.cont? h = some (.arr a)) (hfree : NotBelow w a.toList h)
    (es : List Elem) (w' : World) (cx' : Ctx) (hpop : w.arrPop h cx = .ok (es, w', cx')) :
    (∀ e ∈ a.toList, ∀ v x, e.pay = .ref v → Reach w v x → w'.cont? x = none) ∧
    (∀ x, NotBelow w a.toList x → (w'.cont? x).isSome = (w.cont? x).isSome) := by
  obtain ⟨_, hn⟩ := arrPop_ok hc hpop
  obtain ⟨g1, g2⟩ := pop_forgets_g (emptied_arr hc cx) (arr_popped_free hfree cx) hn
  refine ⟨fun e he v x hp hr => g1 e (by rw [arr_pop_fst]; exact List.mem_reverse.mpr he) v x hp hr,
    fun x hx => g2 x (arr_popped_free hx cx)⟩

/-- the same for `OrderedMap.PopIterate` (the popped elements are the VALUES of the map) -/
theorem mapPop_forgets_exactly_the_subtree (w : World) (h : SlabID) (cx : Ctx) (m : OMap 3)
    (hc : w.cont? h = some (.map m)) (hfree : NotBelow w (m.toList.map (·.2)) h)
    (kvs : List (MKey × Elem)) (w' : World) (cx' : Ctx) (hpop : w.mapPop h cx = .ok (kvs, w', cx')) :
    (∀ e ∈ m.toList.map (·.2), ∀ v x, e.pay = .ref v → Reach w v x → w'.cont? x = none) ∧
    (∀ x, NotBelow w (m.toList.map (·.2)) x → (w'.cont? x).isSome = (w.cont? x).isSome) := by
  obtain ⟨_, hn⟩ := mapPop_ok hc hpop
  obtain ⟨g1, g2⟩ := pop_forgets_g (emptied_map hc cx) (map_popped_free hfree cx) hn
  refine ⟨fun e he v x hp hr => g1 e ?_ v x hp hr, fun x hx => g2 x (map_popped_free hx cx)⟩
  rw [map_pop_fst, List.map_reverse]
  exact List.mem_reverse.mpr he

/-- Storage effects of `Array.PopIterate` through `h` (lift of `C09.pop_releases_all`, for inlined
    `h` too): among the effects appended to the log (`C09.newEffects cx cx'`) there is a
    `remove id` for every slab of `h`'s own tree other than its root, and — if `h` is not inlined —
the `store` of the emptied root; and the log has only been extended (`LogExt cx cx'`).
    The notification only appends to the log, after the effects of the container-level pop
    (`pop_log_grows`; every step of an operation only appends to the log, for every tree:
    `AtreeProofs/World/LogGrows.lean`). -/
theorem arrPop_releases_own_slabs (w : World) (h : SlabID) (cx : Ctx) (a : Arr)
    (hc : w.cont? h = some (.arr a))
    (es : List Elem) (w' : World) (cx' : Ctx) (hpop : w.arrPop h cx = .ok (es, w', cx')) :
    (∀ id ∈ ATree.slabIds a.d a.root, id ≠ a.rootID → Eff.remove id ∈ cx'.eff.drop cx.eff.length) ∧
    (a.isInlined = false → Eff.store a.rootID ∈ cx'.eff.drop cx.eff.length) ∧
    LogExt cx cx' := by
  have hlog : LogExt (a.popIterate cx).2.2 cx' :=
    notifyParent_logExt (arrPop_ok hc hpop).2
  obtain ⟨E, h1, _, h3⟩ := popIterate_log a.d a.root cx
  have hmid : (a.popIterate cx).2.2.eff = cx.eff ++ (E ++ if a.isInlined then [] else [.store a.rootID]) := by
    show (if a.isInlined = true then (ATree.popIterate a.d a.root cx).2.2
          else (ATree.popIterate a.d a.root cx).2.2.emit _).eff = _
    cases a.isInlined <;> simp [Ctx.emit, h1]
  refine ⟨fun id hid hne => ?_, fun hinl => ?_, LogExt.trans ⟨_, hmid⟩ hlog⟩
  · rw [slabIds_eq] at hid
    rcases List.mem_cons.1 hid with h0 | h0
    · exact absurd h0 hne
    · exact LogExt.mem_new hmid hlog (List.mem_append.mpr (Or.inl (h3 id h0)))
  · exact LogExt.mem_new hmid hlog (List.mem_append.mpr (Or.inr (by simp [hinl])))

/-- the same for `OrderedMap.PopIterate` (children of index slabs and external collision groups) -/
theorem mapPop_releases_own_slabs (w : World) (h : SlabID) (cx : Ctx) (m : OMap 3)
    (hc : w.cont? h = some (.map m))
    (kvs : List (MKey × Elem)) (w' : World) (cx' : Ctx) (hpop : w.mapPop h cx = .ok (kvs, w', cx')) :
    (∀ id ∈ (MTree.slabs m.d m.root).map (·.1), id ≠ m.rootID → Eff.remove id ∈ cx'.eff.drop cx.eff.length) ∧
    (m.isInlined = false → Eff.store m.rootID ∈ cx'.eff.drop cx.eff.length) ∧
    LogExt cx cx' := by
  have hlog : LogExt (m.popIterate cx).2.2 cx' :=
    notifyParent_logExt (mapPop_ok hc hpop).2
  obtain ⟨E, h1, _, h3⟩ := mtree_pop_log m.d m.root cx
  have hmid : (m.popIterate cx).2.2.eff = cx.eff ++ (E ++ if m.isInlined then [] else [.store m.rootID]) := by
    show (if m.isInlined = true then (MTree.popIterate m.d m.root cx).2.2
          else (MTree.popIterate m.d m.root cx).2.2.emit _).eff = _
    cases m.isInlined <;> simp [Ctx.emit, h1]
  refine ⟨fun id hid hne => ?_, fun hinl => ?_, LogExt.trans ⟨_, hmid⟩ hlog⟩
  · rw [mslabs_eq] at hid
    rcases List.mem_cons.1 hid with h0 | h0
    · exact absurd h0 hne
    · exact LogExt.mem_new hmid hlog (List.mem_append.mpr (Or.inl (h3 id h0)))
  · exact LogExt.mem_new hmid hlog (List.mem_append.mpr (Or.inr (by simp [hinl])))

/-- The notification inside a pop only appends to the effect log (after the effects of the
    container-level pop): nothing the pop logged is lost or reordered. -/
theorem pop_log_grows (w : World) (h : SlabID) (cx : Ctx) :
    (∀ a es w' cx', w.cont? h = some (.arr a) → w.arrPop h cx = .ok (es, w', cx') →
        LogExt (a.popIterate cx).2.2 cx') ∧
    (∀ m kvs w' cx', w.cont? h = some (.map m) → w.mapPop h cx = .ok (kvs, w', cx') →
        LogExt (m.popIterate cx).2.2 cx') :=
  ⟨fun _ _ _ _ hc hpop => notifyParent_logExt (arrPop_ok hc hpop).2,
   fun _ _ _ _ hc hpop => notifyParent_logExt (mapPop_ok hc hpop).2⟩

/-! ### E. (C11) popping a detached container leaves the former parent alone -/

/-- If the callback of `h` finds nothing in the recorded parent (`Detached w h hi`: the parent is
    gone; or it is an array whose index table does not know `h`, or knows a slot that now holds
    something else; or it is a map where the recorded key is absent or holds something else — the
    hypotheses of `C11.detached_array_child_leaves_parent_unchanged`,
    `C11.replaced_slot_leaves_parent_unchanged`, `C11.detached_map_child_leaves_parent_unchanged`),
    then `Array.PopIterate` through `h` writes nothing but `h`: the former parent's container and
    index table are unchanged, so is every other container outside the popped subtree, and the
    only storage effects are those of the container-level pop.
    `hpfree`: the former parent is not itself nested below the popped elements (a stale parent
    pointer does not exclude it); `hne`: `h` is not its own recorded parent. -/
theorem arrPop_of_detached_leaves_former_parent_unchanged (w : World) (h : SlabID) (cx : Ctx) (a : Arr)
    (hi : HInfo) (hc : w.cont? h = some (.arr a)) (hh : AList.find? w.hinfo h = some hi)
    (hd : Detached w h hi) (hne : hi.parent ≠ h)
    (hfree : NotBelow w a.toList h) (hpfree : NotBelow w a.toList hi.parent)
    (es : List Elem) (w' : World) (cx' : Ctx) (hpop : w.arrPop h cx = .ok (es, w', cx')) :
    w'.cont? hi.parent = w.cont? hi.parent ∧ w'.idxOf hi.parent = w.idxOf hi.parent ∧
    cx' = (a.popIterate cx).2.2 ∧ w'.cont? h = some (.arr (a.popIterate cx).2.1) ∧
    (∀ x, x ≠ h → NotBelow w a.toList x → w'.cont? x = w.cont? x ∧ w'.idxOf x = w.idxOf x) := by
  obtain ⟨_, hn⟩ := arrPop_ok hc hpop
  obtain ⟨g1, g2, g3, g4, g5⟩ := pop_detached_g (emptied_arr hc cx) hh hd hne (arr_popped_free hfree cx) (arr_popped_free hpfree cx) hn
  exact ⟨g3, g4, g1, g2, fun x hx hnb => g5 x hx (arr_popped_free hnb cx)⟩

/-- the same for `OrderedMap.PopIterate` -/
theorem mapPop_of_detached_leaves_former_parent_unchanged (w : World) (h : SlabID) (cx : Ctx) (m : OMap 3)
    (hi : HInfo) (hc : w.cont? h = some (.map m)) (hh : AList.find? w.hinfo h = some hi)
    (hd : Detached w h hi) (hne : hi.parent ≠ h)
    (hfree : NotBelow w (m.toList.map (·.2)) h) (hpfree : NotBelow w (m.toList.map (·.2)) hi.parent)
    (kvs : List (MKey × Elem)) (w' : World) (cx' : Ctx) (hpop : w.mapPop h cx = .ok (kvs, w', cx')) :
    w'.cont? hi.parent = w.cont? hi.parent ∧ w'.idxOf hi.parent = w.idxOf hi.parent ∧
    cx' = (m.popIterate cx).2.2 ∧ w'.cont? h = some (.map (m.popIterate cx).2.1) ∧
    (∀ x, x ≠ h → NotBelow w (m.toList.map (·.2)) x → w'.cont? x = w.cont? x ∧ w'.idxOf x = w.idxOf x) := by
  obtain ⟨_, hn⟩ := mapPop_ok hc hpop
  obtain ⟨g1, g2, g3, g4, g5⟩ := pop_detached_g (emptied_map hc cx) hh hd hne (map_popped_free hfree cx) (map_popped_free hpfree cx) hn
  exact ⟨g3, g4, g1, g2, fun x hx hnb => g5 x hx (map_popped_free hnb cx)⟩

section Counterexamples
/-! Two hypotheses are needed beyond those of `C10.notify_updates_array_parent`: `hfree` (the
    container is not nested below its own elements) and, for C, `hsync` (the parent's element was
    in sync before the pop).  Each is shown necessary on a concrete (hand-built) World: the
    statement without it is refuted. -/
open Atree.C10 (mkArr cxA)
open Atree.PopScenario (okL eq_okL)

/-- CE 1 (for A, B, C, D, E): an array `X` that holds a reference to ITSELF (element references
    are cyclic: `NotBelow wSelf [ref X] X` fails).  The caller disposes of what was popped, hence
    of `X`: after the pop `X` is not a container any more. -/
def wSelf : World :=
  { T := 256, addr := 1, conts := [(C10.X, .arr (mkArr C10.X false [⟨19, .ref C10.X⟩]))] }
def rSelf : List Elem × World × Ctx := okL (wSelf.arrPopS C10.X cxA)

/-- `arrPop_result` without `hfree` -/
def ResultWithoutFree : Prop :=
  ∀ (w : World) (h : SlabID) (cx : Ctx) (a : Arr), w.cont? h = some (.arr a) → World.IdsOk w →
    ∀ (rank : SlabID → Nat), (∀ y hi, AList.find? w.hinfo y = some hi → rank hi.parent < rank y) →
    ∀ (es : List Elem) (w' : World) (cx' : Ctx), w.arrPop h cx = .ok (es, w', cx') →
    ∃ a', w'.cont? h = some (.arr a')

theorem resultWithoutFree_false : ¬ ResultWithoutFree := by
  intro H
  have hr : wSelf.arrPop C10.X cxA = .ok (rSelf.1, rSelf.2.1, rSelf.2.2) := by
    rw [arrPop_eq_S]; exact eq_okL _ (by decide)
  obtain ⟨a', ha'⟩ := H wSelf C10.X cxA _ rfl (idsOk_of_B (by decide)) (fun _ => 0)
    (fun y hi hy => by cases hy) rSelf.1 rSelf.2.1 rSelf.2.2 hr
  have : (rSelf.2.1.cont? C10.X).isSome = false := by decide
  rw [ha'] at this
  cases this

/-- CE 2 (for C): the child `X` sits, standalone, in slot 0 of `P` behind 59 wrappers, so that
    its inline budget is 0: the emptied `X` (17 bytes when inlined) stays a separate slab and the
    notification writes nothing.  The parent's element had the WRONG size 27 before the pop (instead
    of `19 + 2 * 59`), and still has it afterwards: without `hsync` ("in sync before") the
    conclusion "in sync after" fails. -/
def wSync : World :=
  { T := 256, addr := 1,
    conts := [(C10.P, .arr (mkArr C10.P false [⟨27, .ref C10.X⟩])), (C10.X, .arr (mkArr C10.X false [⟨10, .val 0⟩]))],
    hinfo := [(C10.X, ⟨C10.P, none, 0, 59⟩)],
    mutIdx := [(C10.P, [(C10.X, 0)])] }
def rSync : List Elem × World × Ctx := okL (wSync.arrPopS C10.X cxA)

/-- `arrPop_updates_array_parent` without `hsync` -/
def UpdatesWithoutSync : Prop :=
  ∀ (w : World) (h p : SlabID) (hi : HInfo) (cx : Ctx) (a : Arr) (pa : Arr) (idx : Nat) (el : Elem),
    AList.find? w.hinfo h = some hi → hi.parent = p → w.cont? h = some (.arr a) → a.rootID = h →
    w.cont? p = some (.arr pa) → AList.find? (w.idxOf p) h = some idx → pa.get idx = .ok el → el.pay = .ref h →
    hi.maxInline = maxInlineArr w.T - 2 * hi.wrap →
    ∀ (rank : SlabID → Nat), (∀ y hi, AList.find? w.hinfo y = some hi → rank hi.parent < rank y) →
    (∀ (e : Elem) (c0 : Ctx) (old : Elem) (a' : Arr) (c1 : Ctx), e.pay = .ref h →
        pa.set w.T idx e c0 = .ok (old, a', c1) → a'.get idx = .ok e) →
    NotBelow w a.toList h → NotBelow w a.toList p →
    ∀ (es : List Elem) (w' : World) (cx' : Ctx), w.arrPop h cx = .ok (es, w', cx') →
    ∃ c' pa' el', w'.cont? h = some c' ∧ w'.cont? p = some (.arr pa') ∧
      pa'.get idx = .ok el' ∧ el'.pay = .ref h ∧ el'.size = World.slotSize c' hi.wrap

theorem updatesWithoutSync_false : ¬ UpdatesWithoutSync := by
  intro H
  have hr : wSync.arrPop C10.X cxA = .ok (rSync.1, rSync.2.1, rSync.2.2) := by
    rw [arrPop_eq_S]; exact eq_okL _ (by decide)
  have hacyc : ∀ y hi, AList.find? wSync.hinfo y = some hi → C10.rankA hi.parent < C10.rankA y := by
    intro y hi hy
    simp only [wSync, AList.find?] at hy
    split at hy
    · rename_i hxy; cases hy; subst hxy; decide
    · cases hy
  have hnb : ∀ x, NotBelow wSync (mkArr C10.X false [⟨10, .val 0⟩]).toList x := by
    intro x e he v hv
    have : e = ⟨10, .val 0⟩ := by simpa [mkArr, Arr.toList, ATree.flatten] using he
    subst this; cases hv
  obtain ⟨c', pa', el', hc', hpa', hg, _, hsz⟩ := H wSync C10.X C10.P ⟨C10.P, none, 0, 59⟩ cxA
    (mkArr C10.X false [⟨10, .val 0⟩]) (mkArr C10.P false [⟨27, .ref C10.X⟩]) 0 ⟨27, .ref C10.X⟩
    rfl rfl rfl rfl rfl rfl rfl rfl (by decide) C10.rankA hacyc
    (fun e c0 old a' c1 he hs => Arr.set_get_single 256 0 _ _ rfl e C10.X he c0 old a' c1 hs)
    (hnb _) (hnb _) rSync.1 rSync.2.1 rSync.2.2 hr
  have h1 : (rSync.2.1.cont? C10.X).map (fun c => World.slotSize c 59) = some 137 := by decide
  have h2 : (rSync.2.1.cont? C10.P).map (fun c => match c with
      | .arr a => (match a.get 0 with | .ok e => some e.size | .error _ => none)
      | .map _ => none) = some (some 27) := by decide
  rw [hc'] at h1
  rw [hpa'] at h2
  simp only [Option.map_some, Option.some.injEq, hg] at h1 h2
  have hsz' : el'.size = World.slotSize c' 59 := hsz
  omega

end Counterexamples

section NonVacuity
/-! Concrete runs of the model (`AtreeProofs/World/PopScenario.lean`, T = 256).
    Run A: root array `R` ∋ inlined child array `X` ∋ [value, inlined grandchild array `Y` ∋ [value],
    value]; state `a8`; `aP` = result of `arrPop X`.  `a9`: `X` removed from `R`; `aD` = result of
    `arrPop X` on the detached `X`.  Run B: the same with a standalone two-level `X` (slabs
    `X`, ⟨1,4⟩, ⟨1,5⟩); `bP`.  Run M: `R` ∋ inlined child map `M` ∋ {k1 ↦ value, k2 ↦ inlined array
    `Y`}; `mP` = result of `mapPop M`; `m8`/`mD`: the detached variant.  Run N: root MAP `M0` ∋
    {k1 ↦ inlined array `X` ∋ [value, `Y`]}; `nP` = result of `arrPop X`.  Run Q: `M0` ∋ {k1 ↦ standalone
    map `M` ∋ {k2 ↦ value, k1 ↦ `Y`}}; `qP` = result of `mapPop M`. -/
open Atree.Scenario (R X arrOf)
open Atree.PopScenario

/-- `R` < `X` = `M` < everything else (`Y`, the data slabs of `X`) -/
def rk : SlabID → Nat := fun z => if z = R then 0 else if z = X then 1 else 2

/-- what the runs look like -/
theorem run_facts :
    -- before the pop: `X` is inline in `R` (94 bytes), `Y` inline in `X` (37 bytes)
    (a8.1.cont? R).map Cont.storedElems = some [⟨94, .ref X⟩] ∧
    (a8.1.cont? X).map Cont.storedElems = some [⟨20, .val 1⟩, ⟨37, .ref Y⟩, ⟨20, .val 3⟩] ∧
    (a8.1.cont? X).map Cont.isInlined = some true ∧ (a8.1.cont? Y).map Cont.isInlined = some true ∧
    a8.1.idxOf X = [(Y, 1)] ∧
    -- after `arrPop X`: all elements handed out, `Y` gone, `X` empty and inline (17 bytes) in `R`,
    -- whose element has been rewritten (F3) and stored; `X` tracks no index (F4)
    aP.1 = [⟨20, .val 3⟩, ⟨37, .ref Y⟩, ⟨20, .val 1⟩] ∧
    (aP.2.1.cont? Y).isSome = false ∧
    (aP.2.1.cont? X).map Cont.storedElems = some [] ∧ (aP.2.1.cont? X).map Cont.isInlined = some true ∧
    (aP.2.1.cont? R).map Cont.storedElems = some [⟨17, .ref X⟩] ∧
    aP.2.1.idxOf X = [] ∧ AList.find? aP.2.1.hinfo Y = none ∧
    aP.2.2.eff = a8.2.eff ++ [.store R] ∧
    -- run B: the standalone two-level `X` releases its two data slabs, is stored empty, and is
    -- then inlined into `R` by the notification
    (b10.1.cont? X).map Cont.isInlined = some false ∧
    (b10.1.cont? R).map Cont.storedElems = some [⟨19, .ref X⟩] ∧
    ATree.slabIds (arrOf b10.1 X).d (arrOf b10.1 X).root = [X, ⟨1, 4⟩, ⟨1, 5⟩] ∧
    bP.2.2.eff = b10.2.eff ++ [.remove ⟨1, 5⟩, .remove ⟨1, 4⟩, .store X, .remove X, .store R] ∧
    (bP.2.1.cont? R).map Cont.storedElems = some [⟨17, .ref X⟩] ∧
    -- run M: the same through a map child
    (m7.1.cont? R).map Cont.storedElems = some [⟨117, .ref M⟩] ∧
    (m7.1.cont? M).map Cont.storedElems = some [⟨20, .val 1⟩, ⟨37, .ref Y⟩] ∧
    mP.1 = [(k2, ⟨37, .ref Y⟩), (k1, ⟨20, .val 1⟩)] ∧
    (mP.2.1.cont? Y).isSome = false ∧ (mP.2.1.cont? M).map Cont.storedElems = some [] ∧
    (mP.2.1.cont? R).map Cont.storedElems = some [⟨22, .ref M⟩] ∧
    -- the index tables are correct before and after (executable check of `MutIdxOk`)
    Scenario.mutIdxOkB a8.1 = true ∧ Scenario.mutIdxOkB aP.2.1 = true ∧
    Scenario.mutIdxOkB b10.1 = true ∧ Scenario.mutIdxOkB bP.2.1 = true ∧
    Scenario.mutIdxOkB m7.1 = true ∧ Scenario.mutIdxOkB mP.2.1 = true := by
  rw [a8_eq, aP_eq, m7_eq, mP_eq]
  decide +kernel

/-- the invariants used as hypotheses hold in the states where the pops are performed -/
theorem invariants_hold :
    World.IdsOk a8.1 ∧ RankOk rk a8.1 ∧ RefRankOk rk a8.1 ∧
    World.IdsOk a9.2.1 ∧ RankOk rk a9.2.1 ∧ RefRankOk rk a9.2.1 ∧
    World.IdsOk b10.1 ∧ RankOk rk b10.1 ∧ RefRankOk rk b10.1 ∧
    World.IdsOk m7.1 ∧ RankOk rk m7.1 ∧ RefRankOk rk m7.1 ∧
    World.IdsOk m8.2.1 ∧ RankOk rk m8.2.1 ∧ RefRankOk rk m8.2.1 := by
  rw [a8_eq, a9_eq, m7_eq, m8_eq]
  exact ⟨idsOk_of_B (by decide), rankOk_of_B (by decide), refRankOk_of_B (by decide),
   idsOk_of_B (by decide), rankOk_of_B (by decide), refRankOk_of_B (by decide),
   idsOk_of_B (by decide), rankOk_of_B (by decide), refRankOk_of_B (by decide),
   idsOk_of_B (by decide), rankOk_of_B (by decide), refRankOk_of_B (by decide),
   idsOk_of_B (by decide), rankOk_of_B (by decide), refRankOk_of_B (by decide)⟩

/-- `X` and `R` are not nested below the elements of `X` (derived from the ranks) -/
theorem free_a8 : NotBelow a8.1 (arrOf a8.1 X).toList X ∧ NotBelow a8.1 (arrOf a8.1 X).toList R := by
  have hr := invariants_hold.2.2.1
  rw [a8_eq] at *
  exact ⟨not_below_own_elements rk A8.1 hr X (.arr (arrOf A8.1 X)) rfl X (by decide),
   not_below_own_elements rk A8.1 hr X (.arr (arrOf A8.1 X)) rfl R (by decide)⟩

/-- … and `M`, `R` not below the elements of `M` in run M -/
theorem free_m7 : NotBelow m7.1 (Cont.map (mapOf m7.1 M)).storedElems M ∧
    NotBelow m7.1 (Cont.map (mapOf m7.1 M)).storedElems R := by
  have hr := invariants_hold.2.2.2.2.2.2.2.2.2.2.2.1
  rw [m7_eq] at *
  exact ⟨not_below_own_elements rk M7.1 hr M (.map (mapOf M7.1 M)) rfl M (by decide),
   not_below_own_elements rk M7.1 hr M (.map (mapOf M7.1 M)) rfl R (by decide)⟩

/-- A / B: `arrPop_result`, `arrPop_clears_index` apply to `arrPop X` in state `a8` -/
example : aP.1 = (arrOf a8.1 X).toList.reverse ∧
    ∃ a', aP.2.1.cont? X = some (.arr a') ∧ a'.toList = [] ∧ a'.rootID = X ∧
      (Cont.arr a').storedElems = [] ∧ (Cont.arr a').vid = X ∧ World.IdsOk aP.2.1 := by
  have hi := invariants_hold; have hf := free_a8.1; have hp := runA_ok.2.2.2.2.2.2.2.2.1
  rw [a8_eq, aP_eq] at *
  obtain ⟨h1, a', h2, h3, h4, h5, h6, h7, _⟩ :=
    arrPop_result A8.1 X A8.2 (arrOf A8.1 X) rfl hi.1 rk hi.2.1 hf AP.1 AP.2.1 AP.2.2 hp
  exact ⟨h1, a', h2, h3, h4, h5, h6, h7⟩

example : aP.2.1.idxOf X = [] ∧ ∀ x, AList.find? (aP.2.1.idxOf X) x = none := by
  have hi := invariants_hold.2.1; have hf := free_a8.1; have hp := runA_ok.2.2.2.2.2.2.2.2.1
  rw [a8_eq, aP_eq] at *
  exact arrPop_clears_index A8.1 X A8.2 (arrOf A8.1 X) rfl rk hi hf AP.1 AP.2.1 AP.2.2 hp

/-- the `no callback` clause of `arrPop_result` is exercised by popping the ROOT `R` in state `a8`
    (it forgets `X` and `Y`) -/
example : AList.find? a8.1.hinfo R = none ∧ (a8.1.arrPop R a8.2).toBool = true := by
  rw [a8_eq]
  constructor
  · decide
  · rw [arrPop_eq_S]; decide

/-- C: all hypotheses of `arrPop_updates_array_parent` are met in state `a8` (child `X` in slot 0 of
    `R`, the 94-byte element in sync with the inlined child) … -/
theorem updates_hyps_met :
    ∃ (pa : Arr) (el : Elem),
      AList.find? a8.1.hinfo X = some ⟨R, none, 117, 0⟩ ∧
      a8.1.cont? X = some (.arr (arrOf a8.1 X)) ∧ (arrOf a8.1 X).rootID = X ∧
      a8.1.cont? R = some (.arr pa) ∧ AList.find? (a8.1.idxOf R) X = some 0 ∧
      pa.get 0 = .ok el ∧ el.pay = .ref X ∧ el.size = World.slotSize (.arr (arrOf a8.1 X)) 0 ∧
      (117 : Nat) = maxInlineArr a8.1.T - 2 * 0 ∧
      (∀ y hi, AList.find? a8.1.hinfo y = some hi → rk hi.parent < rk y) ∧
      (∀ (e : Elem) (c0 : Ctx) (old : Elem) (a' : Arr) (c1 : Ctx), e.pay = .ref X →
          pa.set a8.1.T 0 e c0 = .ok (old, a', c1) → a'.get 0 = .ok e) ∧
      NotBelow a8.1 (arrOf a8.1 X).toList X ∧ NotBelow a8.1 (arrOf a8.1 X).toList R ∧
      a8.1.arrPop X a8.2 = .ok aP ∧
      ¬ ((arrOf a8.1 X).isInlined = false ∧
          (Cont.arr ((arrOf a8.1 X).popIterate a8.2).2.1).inlinable 117 = false) := by
  have hi := invariants_hold.2.1; have hf := free_a8; have hp := runA_ok.2.2.2.2.2.2.2.2.1
  rw [a8_eq] at *
  refine ⟨arrOf A8.1 R, ⟨94, .ref X⟩, by decide, rfl, by decide, rfl, by decide, rfl, rfl, by decide, by decide,
    hi, ?_, hf.1, hf.2, hp, by decide⟩
  intro e c0 old a' c1 he hs
  exact Arr.set_get_single 256 7 _ _ rfl e X he c0 old a' c1 hs

/-- … hence its conclusion: after the pop, slot 0 of `R` holds the 17-byte inlined empty `X`. -/
theorem updates_conclusion_at_a8 :
    ∃ c' pa', aP.2.1.cont? X = some c' ∧ c'.storedElems = [] ∧ c'.isInlined = true ∧
      aP.2.1.cont? R = some (.arr pa') ∧ pa'.get 0 = .ok ⟨17, .ref X⟩ := by
  obtain ⟨pa, el, hh, hc, hid, hpa, hidx, hget, hel, hsync, hmax, hacyc, hset, hf1, hf2, hpop, hn⟩ := updates_hyps_met
  rw [a8_eq, aP_eq] at *
  obtain ⟨c', pa', el', hc', _, hse, hpa', hg, hp', hs', _, hgo⟩ :=
    arrPop_updates_array_parent A8.1 X R ⟨R, none, 117, 0⟩ A8.2 (arrOf A8.1 X) pa 0 el hh rfl hc hid hpa hidx
      hget hel hsync hmax rk hacyc hset hf1 hf2 AP.1 AP.2.1 AP.2.2 hpop
  have hinl : c'.isInlined = true := by rw [hgo hn]; decide
  have hrs : (AP.2.1.cont? X).map Cont.rootSize = some 17 := by decide
  rw [hc'] at hrs
  simp only [Option.map_some, Option.some.injEq] at hrs
  refine ⟨c', pa', hc', hse, hinl, hpa', ?_⟩
  rw [hg]
  cases el' with
  | mk sz py =>
    simp only at hp' hs'
    simp only [World.slotSize, hinl, hrs] at hs'
    subst hp'; subst hs'; rfl

/-- C for a map child: `mapPop_updates_array_parent` applies to `mapPop M` in state `m7` -/
example : ∃ c' pa' el', mP.2.1.cont? M = some c' ∧ c'.vid = M ∧ c'.storedElems = [] ∧
      mP.2.1.cont? R = some (.arr pa') ∧ pa'.get 0 = .ok el' ∧ el'.pay = .ref M ∧
      el'.size = World.slotSize c' 0 := by
  have hi := invariants_hold.2.2.2.2.2.2.2.2.2.2.1; have hf := free_m7; have hp := runM_ok.2.2.2.2.2.2.1
  rw [m7_eq, mP_eq] at *
  obtain ⟨c', pa', el', h1, h2, h3, h4, h5, h6, h7, _⟩ := mapPop_updates_array_parent M7.1 M R ⟨R, none, 117, 0⟩ M7.2 (mapOf M7.1 M) (arrOf M7.1 R) 0 ⟨117, .ref M⟩
    (by decide) rfl rfl (by decide) rfl (by decide) rfl rfl (by decide) (by decide) rk hi
    (fun e c0 old a' c1 he hs => Arr.set_get_single 256 7 _ _ rfl e M he c0 old a' c1 hs)
    hf.1 hf.2 MP.1 MP.2.1 MP.2.2 hp
  exact ⟨c', pa', el', h1, h2, h3, h4, h5, h6, h7⟩

/-- C for a map PARENT: all hypotheses of `arrPop_updates_map_parent` are met in state `n7` of run N
    (array `X` under key `k1` of the root map `M0`; the 74-byte value in sync with the inlined
    child), and after the pop the key holds the 17-byte inlined empty `X`. -/
theorem map_parent_updates_at_n7 :
    ∃ c' pm' k1' el', nP.2.1.cont? X = some c' ∧ c'.storedElems = [] ∧ c'.isInlined = true ∧
      nP.2.1.cont? M0 = some (.map pm') ∧ pm'.get n7.1.mcfg k1 = .ok (k1', el') ∧ el'.pay = .ref X ∧
      el'.size = 17 := by
  have hrr : RefRankOk rk n7.1 := refRankOk_of_B (by decide)
  obtain ⟨c', pm', k1', el', hc', _, hse, hpm', hg, hp', hs', _, hgo⟩ :=
    arrPop_updates_map_parent n7.1 X M0 ⟨M0, some k1, 96, 0⟩ n7.2 (arrOf n7.1 X) (mapOf n7.1 M0) k1 k1 ⟨74, .ref X⟩
      (by decide) rfl rfl rfl (by decide) rfl rfl rfl (by decide) (by decide) rk (rankOk_of_B (by decide))
      (fun e c0 old m' c1 he hs =>
        ⟨_, OMap.set_get_single n7.1.mcfg (by decide) (by decide) _ 7 1 5 _ k1 rfl rfl rfl (by decide)
          e X he c0 old m' c1 hs⟩)
      (not_below_own_elements rk n7.1 hrr X (.arr (arrOf n7.1 X)) rfl X (by decide))
      (not_below_own_elements rk n7.1 hrr X (.arr (arrOf n7.1 X)) rfl M0 (by decide))
      nP.1 nP.2.1 nP.2.2 runN_ok.2.2.2.2.2.2.2
  have hinl : c'.isInlined = true := by rw [hgo (by decide)]; decide
  have hrs : (nP.2.1.cont? X).map Cont.rootSize = some 17 := by decide
  rw [hc'] at hrs
  simp only [Option.map_some, Option.some.injEq] at hrs
  refine ⟨c', pm', k1', el', hc', hse, hinl, hpm', hg, hp', ?_⟩
  simpa [World.slotSize, hinl, hrs] using hs'

/-- C for a map child under a map parent: `mapPop_updates_map_parent` in state `q7` of run Q (the
    standalone 105-byte map `M` under key `k1` of `M0`, 19-byte reference): after the pop the key
    holds the 22-byte inlined empty `M`. -/
theorem map_in_map_updates_at_q7 :
    ∃ c' pm' k1' el', qP.2.1.cont? M = some c' ∧ c'.storedElems = [] ∧ c'.isInlined = true ∧
      qP.2.1.cont? M0 = some (.map pm') ∧ pm'.get q7.1.mcfg k1 = .ok (k1', el') ∧ el'.pay = .ref M ∧
      el'.size = 22 := by
  have hrr : RefRankOk rk q7.1 := refRankOk_of_B (by decide)
  obtain ⟨c', pm', k1', el', hc', _, hse, hpm', hg, hp', hs', _, hgo⟩ :=
    mapPop_updates_map_parent q7.1 M M0 ⟨M0, some k1, 96, 0⟩ q7.2 (mapOf q7.1 M) (mapOf q7.1 M0) k1 k1 ⟨19, .ref M⟩
      (by decide) rfl rfl rfl (by decide) rfl rfl rfl (by decide) (by decide) rk (rankOk_of_B (by decide))
      (fun e c0 old m' c1 he hs =>
        ⟨_, OMap.set_get_single q7.1.mcfg (by decide) (by decide) _ 7 1 5 _ k1 rfl rfl rfl (by decide)
          e M he c0 old m' c1 hs⟩)
      (not_below_own_elements rk q7.1 hrr M (.map (mapOf q7.1 M)) rfl M (by decide))
      (not_below_own_elements rk q7.1 hrr M (.map (mapOf q7.1 M)) rfl M0 (by decide))
      qP.1 qP.2.1 qP.2.2 runQ_ok.2.2.2.2.2.2
  have hinl : c'.isInlined = true := by rw [hgo (by decide)]; decide
  have hrs : (qP.2.1.cont? M).map Cont.rootSize = some 22 := by decide
  rw [hc'] at hrs
  simp only [Option.map_some, Option.some.injEq] at hrs
  refine ⟨c', pm', k1', el', hc', hse, hinl, hpm', hg, hp', ?_⟩
  simpa [World.slotSize, hinl, hrs] using hs'

/-- what runs N and Q look like -/
theorem run_facts_map_parent :
    (n7.1.cont? M0).map Cont.storedElems = some [⟨74, .ref X⟩] ∧
    (n7.1.cont? X).map Cont.isInlined = some true ∧
    (nP.2.1.cont? M0).map Cont.storedElems = some [⟨17, .ref X⟩] ∧ (nP.2.1.cont? Y).isSome = false ∧
    nP.2.2.eff = n7.2.eff ++ [.store M0] ∧
    (q7.1.cont? M0).map Cont.storedElems = some [⟨19, .ref M⟩] ∧
    (q7.1.cont? M).map Cont.isInlined = some false ∧ (q7.1.cont? M).map Cont.rootSize = some 105 ∧
    (qP.2.1.cont? M0).map Cont.storedElems = some [⟨22, .ref M⟩] ∧ (qP.2.1.cont? Y).isSome = false ∧
    qP.2.2.eff = q7.2.eff ++ [.store M, .remove M, .store M0] := by
  decide +kernel

/-- A for maps -/
example : mP.1 = (mapOf m7.1 M).toList.reverse := by
  have hi := invariants_hold.2.2.2.2.2.2.2.2.2; have hf := free_m7.1; have hp := runM_ok.2.2.2.2.2.2.1
  rw [m7_eq, mP_eq] at *
  exact And.left <| mapPop_result M7.1 M M7.2 (mapOf M7.1 M) rfl hi.1 rk hi.2.1 hf MP.1 MP.2.1 MP.2.2 hp

/-- D: `Y` is nested below the popped element `⟨37, ref Y⟩` of `X`, so it is forgotten; `R` and `X`
    are not, so they stay. -/
example : aP.2.1.cont? Y = none ∧ (aP.2.1.cont? R).isSome = (a8.1.cont? R).isSome ∧
    (aP.2.1.cont? X).isSome = (a8.1.cont? X).isSome := by
  have hf := free_a8; have hp := runA_ok.2.2.2.2.2.2.2.2.1
  rw [a8_eq, aP_eq] at *
  obtain ⟨g1, g2⟩ := arrPop_forgets_exactly_the_subtree A8.1 X A8.2 (arrOf A8.1 X) rfl hf.1 AP.1 AP.2.1 AP.2.2 hp
  exact ⟨g1 ⟨37, .ref Y⟩ (by decide) Y Y rfl (Reach.refl (by decide)), g2 R hf.2, g2 X hf.1⟩

example : mP.2.1.cont? Y = none := by
  have hf := free_m7.1; have hp := runM_ok.2.2.2.2.2.2.1
  rw [m7_eq, mP_eq] at *
  obtain ⟨g1, _⟩ := mapPop_forgets_exactly_the_subtree M7.1 M M7.2 (mapOf M7.1 M) rfl hf MP.1 MP.2.1 MP.2.2 hp
  exact g1 ⟨37, .ref Y⟩ (by decide) Y Y rfl (Reach.refl (by decide))

/-- D, effects: in run B the two data slabs of `X` are removed (and the emptied root stored); the
    notification then appended `[remove X, store R]` (see `run_facts`). -/
example : Eff.remove ⟨1, 4⟩ ∈ bP.2.2.eff.drop b10.2.eff.length ∧
    Eff.remove ⟨1, 5⟩ ∈ bP.2.2.eff.drop b10.2.eff.length ∧
    Eff.store X ∈ bP.2.2.eff.drop b10.2.eff.length := by
  obtain ⟨g1, g2, _⟩ := arrPop_releases_own_slabs b10.1 X b10.2 (arrOf b10.1 X) rfl bP.1 bP.2.1 bP.2.2
    runB_ok.2.2.2.2.2.2
  exact ⟨g1 ⟨1, 4⟩ (by decide) (by decide), g1 ⟨1, 5⟩ (by decide) (by decide), g2 (by decide)⟩

example : LogExt m7.2 mP.2.2 := by
  have hp := runM_ok.2.2.2.2.2.2.1
  rw [m7_eq, mP_eq] at *
  exact (mapPop_releases_own_slabs M7.1 M M7.2 (mapOf M7.1 M) rfl MP.1 MP.2.1 MP.2.2 hp).2.2

/-- E: in state `a9` the child `X` has been removed from `R` but still has its callback; `arrPop X`
    leaves `R` alone. -/
theorem detached_hyps_met :
    AList.find? a9.2.1.hinfo X = some ⟨R, none, 117, 0⟩ ∧ Detached a9.2.1 X ⟨R, none, 117, 0⟩ ∧
    a9.2.1.cont? X = some (.arr (arrOf a9.2.1 X)) ∧
    NotBelow a9.2.1 (arrOf a9.2.1 X).toList X ∧ NotBelow a9.2.1 (arrOf a9.2.1 X).toList R ∧
    a9.2.1.arrPop X a9.2.2 = .ok aD := by
  have hi := invariants_hold.2.2.2.2.2.1; have hp := runA_ok.2.2.2.2.2.2.2.2.2.2
  rw [a9_eq] at *
  exact ⟨by decide, Or.inr (Or.inl ⟨arrOf A9.2.1 R, rfl, Or.inl (by decide)⟩), rfl,
   not_below_own_elements rk A9.2.1 hi X (.arr (arrOf A9.2.1 X)) rfl X (by decide),
   not_below_own_elements rk A9.2.1 hi X (.arr (arrOf A9.2.1 X)) rfl R (by decide), hp⟩

example : aD.2.1.cont? R = a9.2.1.cont? R ∧ aD.2.1.idxOf R = a9.2.1.idxOf R := by
  obtain ⟨hh, hd, hc, hf1, hf2, hpop⟩ := detached_hyps_met
  rw [a9_eq, aD_eq] at *
  have := arrPop_of_detached_leaves_former_parent_unchanged A9.2.1 X A9.2.2 (arrOf A9.2.1 X) ⟨R, none, 117, 0⟩
    hc hh hd (by decide) hf1 hf2 AD.1 AD.2.1 AD.2.2 hpop
  exact ⟨this.1, this.2.1⟩

/-- E for maps: the detached map `M` of state `m8` -/
example : mD.2.1.cont? R = m8.2.1.cont? R ∧ mD.2.1.idxOf R = m8.2.1.idxOf R := by
  have hi := invariants_hold.2.2.2.2.2.2.2.2.2.2.2.2.2.2; have hp := runM_ok.2.2.2.2.2.2.2.2
  rw [m8_eq, mD_eq] at *
  have := mapPop_of_detached_leaves_former_parent_unchanged M8.2.1 M M8.2.2 (mapOf M8.2.1 M) ⟨R, none, 117, 0⟩
    rfl (by decide) (Or.inr (Or.inl ⟨arrOf M8.2.1 R, rfl, Or.inl (by decide)⟩)) (by decide)
    (not_below_own_elements rk M8.2.1 hi M (.map (mapOf M8.2.1 M)) rfl M (by decide))
    (not_below_own_elements rk M8.2.1 hi M (.map (mapOf M8.2.1 M)) rfl R (by decide)) MD.1 MD.2.1 MD.2.2 hp
  exact ⟨this.1, this.2.1⟩

/-- what happened in the detached runs: only `X` (resp. `M`) was stored, the stale callbacks are gone -/
theorem detached_run_facts :
    aD.2.2.eff = a9.2.2.eff ++ [.store X] ∧ aD.2.1.hinfo = [] ∧ (aD.2.1.cont? Y).isSome = false ∧
    (aD.2.1.cont? R).map Cont.storedElems = some [] ∧
    mD.2.2.eff = m8.2.2.eff ++ [.store M] ∧ mD.2.1.hinfo = [] ∧ (mD.2.1.cont? Y).isSome = false := by
  rw [a9_eq, aD_eq, m8_eq, mD_eq]
  decide +kernel

end NonVacuity

end Atree.C10Pop

import AtreeProofs.World.TotalReject
import AtreeProofs.World.TotalScenario
import AtreeProofs.Props.C10WPop
/-
  C10 / C01 / C02 — total correctness of the operations on nested containers.
  Property theorems.

  The operation theorems of `Props/C10W.lean`, `Props/C10WPopOps.lean`, `Props/C10WPop.lean` all have
  the hypothesis `w.op … = .ok …`: they say what a SUCCESSFUL operation did.  The theorems here say
  that an operation through a current handle, with well-formed arguments, SUCCEEDS — the parent
  notification (`notifyParent`, the model of `notifyParentIfNeeded` / `setCallbackWithChild`)
  terminates within the fuel the operations pass and answers none of its internal errors — and
  that it answers an ARGUMENT error exactly when the underlying array / map model rejects the
  argument (index out of range, array full, collision limit, key not found).

  Invariant: `WorldOk'` (AtreeProofs/WorldOkPop.lean), the invariant of all operations.
  Hypotheses shared by the operation theorems:
  * `HandleOk w p` — the operation goes through a current handle;
  * `WValOk w p lim v` — the value stored is well-formed (`Props/C10W.lean`); `KeyOk` for map keys;
  * `KeyedClosures w` — a closure that names a live MAP carries a key.  This is NOT a clause of
    `WorldOk` / `WorldOk'` (which only say: IF the closure of a map parent has a key, the key is
    usable).  It is an invariant of every operation, from the empty world on (`keyedClosures_init`,
    `keyedClosures_kept`), and it is NEEDED: `fatal_without_keyedClosures` is a world that satisfies `WorldOk` on which an in-range
    `arrInsert` through the current handle of a root answers `.fatal` (the world is unreachable —
    in the Go code the closure of an array parent and of a map parent are different functions; the
    model's `HInfo` is their untyped union).

  Termination (`notify_total`, `fuelOf_suffices`) rests on `CRank` — the acyclicity of the relation
  "is an element of" — and not on the closure pointers (which may form cycles in a valid world,
  `C10W.closure_pointers_may_cycle`): each recursive call of the notification moves from a
  container to a container that HOLDS it, of smaller rank; the live containers ranked below the
  starting point are a duplicate-free set, of at most `w.conts.length` members.
-/
namespace Atree.C10Total
open Atree Gen World

/-- The notification never fails.  `WorldOkGen D rank (some y) O w ctr`: the global invariant except
    that the parent slot of `y` may be out of date (`y` has just been mutated) and the bookkeeping
    of the containers of `O` is pending; `FuelOk rank w y fuel`: every duplicate-free list of live
    containers ranked below `y` is shorter than `fuel`. -/
theorem notify_total (D : SlabID → DigestFn 4) (rank : SlabID → Nat) (O : SlabID → Prop) (fuel : Nat)
    (w : World) (y : SlabID) (cx : Ctx)
    (H : WorldOkGen D rank (some y) O w cx.ctr) (hh : HandleOk w y)
    (hO : ∀ z, O z → (w.cont? z).isSome → rank y < rank z) (hlive : (w.cont? y).isSome)
    (hK : KeyedClosures w) (hF : FuelOk rank w y fuel) :
    ∃ w' cx', notifyParent fuel w y cx = .ok (w', cx') :=
  World.notify_total D rank O fuel w y cx H hh hO hlive hK hF

/-- the fuel the public operations pass (`fuelOf w = w.conts.length + 2`) suffices, for every
    container of every world (and every rank function) -/
theorem fuelOf_suffices (rank : SlabID → Nat) (w : World) (y : SlabID) : FuelOk rank w y w.fuelOf :=
  fuelOk_fuelOf rank w y

/-- the fuel bound is about the nesting depth: one step up the containment chain (to a live
    container of smaller rank — `CRank`) consumes one unit -/
theorem fuel_step (rank : SlabID → Nat) (w w2 : World) (y p : SlabID) (fuel : Nat)
    (hF : FuelOk rank w y (fuel + 1)) (hlive : ∀ z, (w2.cont? z).isSome → (w.cont? z).isSome)
    (hp : (w.cont? p).isSome) (hrk : rank p < rank y) : FuelOk rank w2 p fuel :=
  hF.step hlive hp hrk

theorem arrInsert_total_worldOk (D : SlabID → DigestFn 4) (w : World) (p : SlabID) (i : Nat) (v : WVal) (cx : Ctx)
    (a : Arr) (H : WorldOk D w cx.ctr) (hK : KeyedClosures w) (hh : HandleOk w p)
    (hv : WValOk w p (maxInlineArr w.T) v) (hpa : w.cont? p = some (.arr a))
    (hi : i ≤ a.toList.length) (hcount : a.count < maxArrayElementCount) :
    ∃ w' cx', w.arrInsert p i v cx = .ok (w', cx') :=
  arrInsert_succeeds H hK hh hv hpa hi hcount

theorem mapSet_total_worldOk (D : SlabID → DigestFn 4) (w : World) (p : SlabID) (k : MKey) (v : WVal) (cx : Ctx)
    (m : OMap 3) (H : WorldOk D w cx.ctr) (hK : KeyedClosures w) (hh : HandleOk w p)
    (hk : KeyOk w.T 4 (D p) k) (hv : WValOk w p (maxInlineMapValue w.T k.size) v)
    (hpm : w.cont? p = some (.map m)) (hnl : ¬ TLimited w.mcfg m.d m.root k) :
    ∃ old w' cx', w.mapSet p k v cx = .ok (old, w', cx') :=
  mapSet_succeeds H hK hh hk hv hpm hnl

theorem keyed_prune {w : World} (h : KeyedClosures w) : KeyedClosures w.prune :=
  fun x hi pm hx hp => h x hi pm (find?_prune_some.mp hx).1 hp

/-- `Array.Insert(i, v)` through a current handle: index in range, array not full ⇒ success -/
theorem arrInsert_total (D : SlabID → DigestFn 4) (w : World) (p : SlabID) (i : Nat) (v : WVal) (cx : Ctx)
    (a : Arr) (H : WorldOk' D w cx.ctr) (hK : KeyedClosures w) (hh : HandleOk w p)
    (hv : WValOk w p (maxInlineArr w.T) v) (hpa : w.cont? p = some (.arr a))
    (hi : i ≤ a.toList.length) (hcount : a.count < maxArrayElementCount) :
    ∃ w' cx', w.arrInsert p i v cx = .ok (w', cx') := by
  obtain ⟨H0, S⟩ := H.down
  obtain ⟨w0', cx', h0⟩ := arrInsert_succeeds H0 (keyed_prune hK) (S.handleOk_down hh) (S.wValOk hv)
    (by rw [S.cont?]; exact hpa) hi hcount
  obtain ⟨w', h, _⟩ := rsim_arrInsert S h0
  exact ⟨w', cx', h⟩

/-- `Array.Set(i, v)`: index in range ⇒ success -/
theorem arrSet_total (D : SlabID → DigestFn 4) (w : World) (p : SlabID) (i : Nat) (v : WVal) (cx : Ctx)
    (a : Arr) (H : WorldOk' D w cx.ctr) (hK : KeyedClosures w) (hh : HandleOk w p)
    (hv : WValOk w p (maxInlineArr w.T) v) (hpa : w.cont? p = some (.arr a)) (hi : i < a.toList.length) :
    ∃ old w' cx', w.arrSet p i v cx = .ok (old, w', cx') := by
  obtain ⟨H0, S⟩ := H.down
  obtain ⟨old, w0', cx', h0⟩ := arrSet_succeeds H0 (keyed_prune hK) (S.handleOk_down hh) (S.wValOk hv)
    (by rw [S.cont?]; exact hpa) hi
  obtain ⟨w', h, _⟩ := rsim_arrSet S h0
  exact ⟨old, w', cx', h⟩

/-- `Array.Remove(i)`: index in range ⇒ success -/
theorem arrRemove_total (D : SlabID → DigestFn 4) (w : World) (p : SlabID) (i : Nat) (cx : Ctx)
    (a : Arr) (H : WorldOk' D w cx.ctr) (hK : KeyedClosures w) (hh : HandleOk w p)
    (hpa : w.cont? p = some (.arr a)) (hi : i < a.toList.length) :
    ∃ old w' cx', w.arrRemove p i cx = .ok (old, w', cx') := by
  obtain ⟨H0, S⟩ := H.down
  obtain ⟨old, w0', cx', h0⟩ := arrRemove_succeeds H0 (keyed_prune hK) (S.handleOk_down hh)
    (by rw [S.cont?]; exact hpa) hi
  obtain ⟨w', h, _⟩ := rsim_arrRemove S h0
  exact ⟨old, w', cx', h⟩

/-- `OrderedMap.Set(k, v)`: success unless the collision limit refuses the (new) key -/
theorem mapSet_total (D : SlabID → DigestFn 4) (w : World) (p : SlabID) (k : MKey) (v : WVal) (cx : Ctx)
    (m : OMap 3) (H : WorldOk' D w cx.ctr) (hK : KeyedClosures w) (hh : HandleOk w p)
    (hk : KeyOk w.T 4 (D p) k) (hv : WValOk w p (maxInlineMapValue w.T k.size) v)
    (hpm : w.cont? p = some (.map m)) (hnl : ¬ TLimited w.mcfg m.d m.root k) :
    ∃ old w' cx', w.mapSet p k v cx = .ok (old, w', cx') := by
  obtain ⟨H0, S⟩ := H.down
  obtain ⟨old, w0', cx', h0⟩ := mapSet_succeeds H0 (keyed_prune hK) (S.handleOk_down hh) hk (S.wValOk hv)
    (by rw [S.cont?]; exact hpm) hnl
  obtain ⟨w', h, _⟩ := rsim_mapSet S h0
  exact ⟨old, w', cx', h⟩

/-- a key that is present is never refused by the collision limit: overwriting always succeeds -/
theorem present_key_not_limited (D : SlabID → DigestFn 4) (w : World) (p : SlabID) (k : MKey) (el : Elem)
    (m : OMap 3) (ctr : Nat) (H : WorldOk' D w ctr) (hpm : w.cont? p = some (.map m))
    (hmem : (k, el) ∈ m.toList) : ¬ TLimited w.mcfg m.d m.root k := by
  obtain ⟨rank, H0⟩ := H
  have hmok : MapOk w.T (D p) m ctr := H0.conts p _ hpm
  exact hmok.not_limited_of_mem H0.legal hmem

/-- `OrderedMap.Remove(k)`: key present ⇒ success, and the key handed back is `k` -/
theorem mapRemove_total (D : SlabID → DigestFn 4) (w : World) (p : SlabID) (k : MKey) (cx : Ctx)
    (m : OMap 3) (rv : Elem) (H : WorldOk' D w cx.ctr) (hK : KeyedClosures w) (hh : HandleOk w p)
    (hk : KeyOk w.T 4 (D p) k) (hpm : w.cont? p = some (.map m)) (hmem : (k, rv) ∈ m.toList) :
    ∃ rv' w' cx', w.mapRemove p k cx = .ok (k, rv', w', cx') := by
  obtain ⟨H0, S⟩ := H.down
  obtain ⟨rv', w0', cx', h0⟩ := mapRemove_succeeds H0 (keyed_prune hK) (S.handleOk_down hh) hk
    (by rw [S.cont?]; exact hpm) hmem
  obtain ⟨w', h, _⟩ := rsim_mapRemove S h0
  exact ⟨rv', w', cx', h⟩

/-- `SetType` through a current handle of a live container always succeeds -/
theorem setType_total (D : SlabID → DigestFn 4) (w : World) (p : SlabID) (ty : Nat) (cx : Ctx)
    (H : WorldOk' D w cx.ctr) (hK : KeyedClosures w) (hh : HandleOk w p) (hlive : (w.cont? p).isSome) :
    ∃ w' cx', w.setType p ty cx = .ok (w', cx') := by
  obtain ⟨H0, S⟩ := H.down
  obtain ⟨w0', cx', h0⟩ := setType_succeeds (ty := ty) H0 (keyed_prune hK) (S.handleOk_down hh)
    (by rw [S.cont?]; exact hlive)
  obtain ⟨w', h, _⟩ := rsim_setType S h0
  exact ⟨w', cx', h⟩

/-- `Array.PopIterate` through a current handle, the caller keeping the children `keep`: always
    succeeds, and hands out the elements last to first -/
theorem arrPopKeep_total (D : SlabID → DigestFn 4) (w : World) (h : SlabID) (keep : List SlabID) (cx : Ctx)
    (a : Arr) (H : WorldOk' D w cx.ctr) (hK : KeyedClosures w) (hh : HandleOk w h)
    (hc : w.cont? h = some (.arr a)) :
    ∃ w' cx', w.arrPopKeep h keep cx = .ok (a.toList.reverse, w', cx') :=
  arrPopKeep_succeeds H hK hh hc

/-- `OrderedMap.PopIterate` through a current handle, the caller keeping the children `keep` -/
theorem mapPopKeep_total (D : SlabID → DigestFn 4) (w : World) (h : SlabID) (keep : List SlabID) (cx : Ctx)
    (m : OMap 3) (H : WorldOk' D w cx.ctr) (hK : KeyedClosures w) (hh : HandleOk w h)
    (hc : w.cont? h = some (.map m)) :
    ∃ w' cx', w.mapPopKeep h keep cx = .ok (m.toList.reverse, w', cx') :=
  mapPopKeep_succeeds H hK hh hc

/-- `Array.PopIterate` through a current handle always succeeds -/
theorem arrPop_total (D : SlabID → DigestFn 4) (w : World) (h : SlabID) (cx : Ctx)
    (a : Arr) (H : WorldOk' D w cx.ctr) (hK : KeyedClosures w) (hh : HandleOk w h)
    (hc : w.cont? h = some (.arr a)) :
    ∃ w' cx', w.arrPop h cx = .ok (a.toList.reverse, w', cx') := by
  rw [← C10Get.arrPopKeep_nil]
  exact arrPopKeep_succeeds H hK hh hc

/-- `OrderedMap.PopIterate` through a current handle always succeeds -/
theorem mapPop_total (D : SlabID → DigestFn 4) (w : World) (h : SlabID) (cx : Ctx)
    (m : OMap 3) (H : WorldOk' D w cx.ctr) (hK : KeyedClosures w) (hh : HandleOk w h)
    (hc : w.cont? h = some (.map m)) :
    ∃ w' cx', w.mapPop h cx = .ok (m.toList.reverse, w', cx') := by
  rw [← C10Get.mapPopKeep_nil]
  exact mapPopKeep_succeeds H hK hh hc

/-- `Array.Get(i)`: in range ⇒ the element; out of range ⇒ `IndexOutOfBoundsError` -/
theorem arrGet_total (D : SlabID → DigestFn 4) (w : World) (p : SlabID) (i : Nat) (a : Arr) (ctr : Nat)
    (H : WorldOk' D w ctr) (hpa : w.cont? p = some (.arr a)) :
    (∀ el, a.toList[i]? = some el → ∃ w', w.arrGet p i = .ok (el, w')) ∧
    (a.toList.length ≤ i → w.arrGet p i = .error (.arr .indexOutOfBounds)) := by
  obtain ⟨rank, H0⟩ := H
  have hok : ArrOk w.T a ctr := H0.conts p _ hpa
  exact ⟨fun el hel => arrGet_succeeds H0.legal hok hpa hel, fun hi => arrGet_oob H0.legal hok hpa hi⟩

/-- `OrderedMap.Get(k)`: key present ⇒ its value; absent ⇒ `KeyNotFoundError` -/
theorem mapGet_total (D : SlabID → DigestFn 4) (w : World) (p : SlabID) (k : MKey) (m : OMap 3) (ctr : Nat)
    (H : WorldOk' D w ctr) (hk : KeyOk w.T 4 (D p) k) (hpm : w.cont? p = some (.map m)) :
    (∀ el, (k, el) ∈ m.toList → ∃ w', w.mapGet p k = .ok (el, w')) ∧
    ((∀ q ∈ m.toList, q.1 ≠ k) → w.mapGet p k = .error (.map .keyNotFound)) := by
  obtain ⟨rank, H0⟩ := H
  have hok : MapOk w.T (D p) m ctr := H0.conts p _ hpm
  have hcfg := H0.cfgOk hpm
  exact ⟨fun el hel => mapGet_succeeds H0.legal hok hcfg hk hpm hel,
    fun habs => mapGet_absent H0.legal hok hcfg hk hpm habs⟩

/-- `Array.Insert` beyond the end: `IndexOutOfBoundsError` -/
theorem arrInsert_rejects_index (D : SlabID → DigestFn 4) (w : World) (p : SlabID) (i : Nat) (v : WVal) (cx : Ctx)
    (a : Arr) (H : WorldOk' D w cx.ctr) (hpa : w.cont? p = some (.arr a)) (hi : a.toList.length < i) :
    w.arrInsert p i v cx = .error (.arr .indexOutOfBounds) := by
  obtain ⟨rank, H0⟩ := H
  exact arrInsert_oob v cx (H0.conts p _ hpa) hpa hi

/-- `Array.Insert` into a full array (index in range): what `Arr.insert` answers,
    `ArrayElementCannotExceedMaxElementCountError` -/
theorem arrInsert_rejects_full (D : SlabID → DigestFn 4) (w : World) (p : SlabID) (i : Nat) (v : WVal) (cx : Ctx)
    (a : Arr) (H : WorldOk' D w cx.ctr) (hv : WValOk w p (maxInlineArr w.T) v)
    (hpa : w.cont? p = some (.arr a)) (hi : i ≤ a.toList.length) (hfull : a.count = maxArrayElementCount) :
    w.arrInsert p i v cx = .error (.arr .maxElementCount) := by
  obtain ⟨rank, H0⟩ := H
  exact arrInsert_full (H0.conts p _ hpa) hpa hv hi hfull

/-- `Array.Set` / `Array.Remove` at or beyond the end: `IndexOutOfBoundsError` -/
theorem arrSet_rejects_index (D : SlabID → DigestFn 4) (w : World) (p : SlabID) (i : Nat) (v : WVal) (cx : Ctx)
    (a : Arr) (H : WorldOk' D w cx.ctr) (hpa : w.cont? p = some (.arr a)) (hi : a.toList.length ≤ i) :
    w.arrSet p i v cx = .error (.arr .indexOutOfBounds) := by
  obtain ⟨rank, H0⟩ := H
  exact arrSet_oob v cx (H0.conts p _ hpa) hpa hi

theorem arrRemove_rejects_index (D : SlabID → DigestFn 4) (w : World) (p : SlabID) (i : Nat) (cx : Ctx)
    (a : Arr) (H : WorldOk' D w cx.ctr) (hpa : w.cont? p = some (.arr a)) (hi : a.toList.length ≤ i) :
    w.arrRemove p i cx = .error (.arr .indexOutOfBounds) := by
  obtain ⟨rank, H0⟩ := H
  exact arrRemove_oob cx (H0.conts p _ hpa) hpa hi

/-- `OrderedMap.Set` of a key the collision limit refuses: `CollisionLimitError` -/
theorem mapSet_rejects_limited (D : SlabID → DigestFn 4) (w : World) (p : SlabID) (k : MKey) (v : WVal) (cx : Ctx)
    (m : OMap 3) (H : WorldOk' D w cx.ctr) (hk : KeyOk w.T 4 (D p) k)
    (hv : WValOk w p (maxInlineMapValue w.T k.size) v) (hpm : w.cont? p = some (.map m))
    (hl : TLimited w.mcfg m.d m.root k) :
    w.mapSet p k v cx = .error (.map .collisionLimit) :=
  mapSet_limited H hk hv hpm hl

/-- `OrderedMap.Remove` of an absent key: `KeyNotFoundError` -/
theorem mapRemove_rejects_absent (D : SlabID → DigestFn 4) (w : World) (p : SlabID) (k : MKey) (cx : Ctx)
    (m : OMap 3) (H : WorldOk' D w cx.ctr) (hk : KeyOk w.T 4 (D p) k) (hpm : w.cont? p = some (.map m))
    (habs : ∀ q ∈ m.toList, q.1 ≠ k) :
    w.mapRemove p k cx = .error (.map .keyNotFound) := by
  obtain ⟨rank, H0⟩ := H
  exact mapRemove_absent cx H0.legal (H0.conts p _ hpm) (H0.cfgOk hpm) hk hpm habs

/-- a handle that names no container of the right kind: `unknownContainer` (six mutators) -/
theorem unknown_container (w : World) (p : SlabID) :
    ((∀ a, w.cont? p ≠ some (.arr a)) →
      (∀ i v cx, w.arrInsert p i v cx = .error .unknownContainer) ∧
      (∀ i v cx, w.arrSet p i v cx = .error .unknownContainer) ∧
      (∀ i cx, w.arrRemove p i cx = .error .unknownContainer)) ∧
    ((∀ m, w.cont? p ≠ some (.map m)) →
      (∀ k v cx, w.mapSet p k v cx = .error .unknownContainer) ∧
      (∀ k cx, w.mapRemove p k cx = .error .unknownContainer)) ∧
    (w.cont? p = none → ∀ ty cx, w.setType p ty cx = .error .unknownContainer) :=
  ⟨fun h => ⟨fun i v cx => arrInsert_unknown i v cx h, fun i v cx => arrSet_unknown i v cx h,
      fun i cx => arrRemove_unknown i cx h⟩,
    fun h => ⟨fun k v cx => mapSet_unknown k v cx h, fun k cx => mapRemove_unknown k cx h⟩,
    fun h ty cx => setType_unknown ty cx h⟩

/-- `Array.Insert`: an error is `IndexOutOfBounds` (index beyond the end) or `MaxElementCount`
    (array full) — never `.fatal`, `.outOfFuel`, `.unknownContainer` or any other -/
theorem arrInsert_errors (D : SlabID → DigestFn 4) (w : World) (p : SlabID) (i : Nat) (v : WVal) (cx : Ctx)
    (a : Arr) (e : WErr) (H : WorldOk' D w cx.ctr) (hK : KeyedClosures w) (hh : HandleOk w p)
    (hv : WValOk w p (maxInlineArr w.T) v) (hpa : w.cont? p = some (.arr a))
    (herr : w.arrInsert p i v cx = .error e) :
    (a.toList.length < i ∧ e = .arr .indexOutOfBounds) ∨
    (i ≤ a.toList.length ∧ a.count = maxArrayElementCount ∧ e = .arr .maxElementCount) := by
  rcases Nat.lt_or_ge a.toList.length i with hi | hi
  · rw [arrInsert_rejects_index D w p i v cx a H hpa hi] at herr
    cases herr; exact Or.inl ⟨hi, rfl⟩
  · by_cases hfull : a.count = maxArrayElementCount
    · rw [arrInsert_rejects_full D w p i v cx a H hv hpa hi hfull] at herr
      cases herr; exact Or.inr ⟨hi, hfull, rfl⟩
    · have hc : a.count < maxArrayElementCount := by
        obtain ⟨rank, H0⟩ := H
        exact ArrOk.count_lt (T := w.T) (H0.conts p _ hpa) hfull
      obtain ⟨w', cx', hok⟩ := arrInsert_total D w p i v cx a H hK hh hv hpa hi hc
      rw [hok] at herr; cases herr

theorem arrSet_errors (D : SlabID → DigestFn 4) (w : World) (p : SlabID) (i : Nat) (v : WVal) (cx : Ctx)
    (a : Arr) (e : WErr) (H : WorldOk' D w cx.ctr) (hK : KeyedClosures w) (hh : HandleOk w p)
    (hv : WValOk w p (maxInlineArr w.T) v) (hpa : w.cont? p = some (.arr a))
    (herr : w.arrSet p i v cx = .error e) : a.toList.length ≤ i ∧ e = .arr .indexOutOfBounds := by
  rcases Nat.lt_or_ge i a.toList.length with hi | hi
  · obtain ⟨old, w', cx', hok⟩ := arrSet_total D w p i v cx a H hK hh hv hpa hi
    rw [hok] at herr; cases herr
  · rw [arrSet_rejects_index D w p i v cx a H hpa hi] at herr
    cases herr; exact ⟨hi, rfl⟩

theorem arrRemove_errors (D : SlabID → DigestFn 4) (w : World) (p : SlabID) (i : Nat) (cx : Ctx)
    (a : Arr) (e : WErr) (H : WorldOk' D w cx.ctr) (hK : KeyedClosures w) (hh : HandleOk w p)
    (hpa : w.cont? p = some (.arr a)) (herr : w.arrRemove p i cx = .error e) :
    a.toList.length ≤ i ∧ e = .arr .indexOutOfBounds := by
  rcases Nat.lt_or_ge i a.toList.length with hi | hi
  · obtain ⟨old, w', cx', hok⟩ := arrRemove_total D w p i cx a H hK hh hpa hi
    rw [hok] at herr; cases herr
  · rw [arrRemove_rejects_index D w p i cx a H hpa hi] at herr
    cases herr; exact ⟨hi, rfl⟩

theorem mapSet_errors (D : SlabID → DigestFn 4) (w : World) (p : SlabID) (k : MKey) (v : WVal) (cx : Ctx)
    (m : OMap 3) (e : WErr) (H : WorldOk' D w cx.ctr) (hK : KeyedClosures w) (hh : HandleOk w p)
    (hk : KeyOk w.T 4 (D p) k) (hv : WValOk w p (maxInlineMapValue w.T k.size) v)
    (hpm : w.cont? p = some (.map m)) (herr : w.mapSet p k v cx = .error e) :
    TLimited w.mcfg m.d m.root k ∧ e = .map .collisionLimit := by
  classical
  by_cases hl : TLimited w.mcfg m.d m.root k
  · rw [mapSet_rejects_limited D w p k v cx m H hk hv hpm hl] at herr
    cases herr; exact ⟨hl, rfl⟩
  · obtain ⟨old, w', cx', hok⟩ := mapSet_total D w p k v cx m H hK hh hk hv hpm hl
    rw [hok] at herr; cases herr

theorem mapRemove_errors (D : SlabID → DigestFn 4) (w : World) (p : SlabID) (k : MKey) (cx : Ctx)
    (m : OMap 3) (e : WErr) (H : WorldOk' D w cx.ctr) (hK : KeyedClosures w) (hh : HandleOk w p)
    (hk : KeyOk w.T 4 (D p) k) (hpm : w.cont? p = some (.map m)) (herr : w.mapRemove p k cx = .error e) :
    (∀ q ∈ m.toList, q.1 ≠ k) ∧ e = .map .keyNotFound := by
  classical
  by_cases hex : ∃ rv, (k, rv) ∈ m.toList
  · obtain ⟨rv, hmem⟩ := hex
    obtain ⟨rv', w', cx', hok⟩ := mapRemove_total D w p k cx m rv H hK hh hk hpm hmem
    rw [hok] at herr; cases herr
  · have habs : ∀ q ∈ m.toList, q.1 ≠ k := by
      intro q hq he
      exact hex ⟨q.2, by rw [← he]; exact hq⟩
    rw [mapRemove_rejects_absent D w p k cx m H hk hpm habs] at herr
    cases herr; exact ⟨habs, rfl⟩

/-- the internal errors of the World model: the notification ran out of fuel, one of the fatal
    branches of the callbacks / `Inline` / `Uninline`, a container that should be there is not -/
def Internal : WErr → Prop
  | .fatal => True
  | .outOfFuel => True
  | .unknownContainer => True
  | _ => False

/-- No internal failure: under `WorldOk'` (and `KeyedClosures`), an operation through a current
    handle of a live container of the right kind, with a well-formed value / key, never answers
    an internal error: it succeeds, or answers the error of the array / map model for its argument
    (`*_errors`, `*_rejects_*`); `setType` and the bulk pops always succeed (`*_total`). -/
theorem no_internal_failure (D : SlabID → DigestFn 4) (w : World) (cx : Ctx)
    (H : WorldOk' D w cx.ctr) (hK : KeyedClosures w) (p : SlabID) (hh : HandleOk w p) :
    (∀ a i v e, w.cont? p = some (.arr a) → WValOk w p (maxInlineArr w.T) v →
      (w.arrInsert p i v cx = .error e → ¬ Internal e) ∧ (w.arrSet p i v cx = .error e → ¬ Internal e)) ∧
    (∀ a i e, w.cont? p = some (.arr a) → w.arrRemove p i cx = .error e → ¬ Internal e) ∧
    (∀ m k v e, w.cont? p = some (.map m) → KeyOk w.T 4 (D p) k → WValOk w p (maxInlineMapValue w.T k.size) v →
      w.mapSet p k v cx = .error e → ¬ Internal e) ∧
    (∀ m k e, w.cont? p = some (.map m) → KeyOk w.T 4 (D p) k → w.mapRemove p k cx = .error e → ¬ Internal e) ∧
    ((w.cont? p).isSome → ∀ ty e, w.setType p ty cx ≠ .error e) ∧
    (∀ a keep e, w.cont? p = some (.arr a) → w.arrPopKeep p keep cx ≠ .error e ∧ w.arrPop p cx ≠ .error e) ∧
    (∀ m keep e, w.cont? p = some (.map m) → w.mapPopKeep p keep cx ≠ .error e ∧ w.mapPop p cx ≠ .error e) := by
  refine ⟨fun a i v e hpa hv => ⟨fun herr => ?_, fun herr => ?_⟩, fun a i e hpa herr => ?_,
    fun m k v e hpm hk hv herr => ?_, fun m k e hpm hk herr => ?_, fun hl ty e herr => ?_,
    fun a keep e hpa => ⟨fun herr => ?_, fun herr => ?_⟩, fun m keep e hpm => ⟨fun herr => ?_, fun herr => ?_⟩⟩
  · rcases arrInsert_errors D w p i v cx a e H hK hh hv hpa herr with ⟨_, rfl⟩ | ⟨_, _, rfl⟩ <;> exact id
  · obtain ⟨_, rfl⟩ := arrSet_errors D w p i v cx a e H hK hh hv hpa herr; exact id
  · obtain ⟨_, rfl⟩ := arrRemove_errors D w p i cx a e H hK hh hpa herr; exact id
  · obtain ⟨_, rfl⟩ := mapSet_errors D w p k v cx m e H hK hh hk hv hpm herr; exact id
  · obtain ⟨_, rfl⟩ := mapRemove_errors D w p k cx m e H hK hh hk hpm herr; exact id
  · obtain ⟨w', cx', hok⟩ := setType_total D w p ty cx H hK hh hl
    rw [hok] at herr; cases herr
  · obtain ⟨w', cx', hok⟩ := arrPopKeep_total D w p keep cx a H hK hh hpa
    rw [hok] at herr; cases herr
  · obtain ⟨w', cx', hok⟩ := arrPop_total D w p cx a H hK hh hpa
    rw [hok] at herr; cases herr
  · obtain ⟨w', cx', hok⟩ := mapPopKeep_total D w p keep cx m H hK hh hpm
    rw [hok] at herr; cases herr
  · obtain ⟨w', cx', hok⟩ := mapPop_total D w p cx m H hK hh hpm
    rw [hok] at herr; cases herr

/-- the empty world; `NewArray`; `NewMap` (no closure names the ID about to be allocated:
    `HinfoBelow`, a clause of `WorldOk'`); `reopen` -/
theorem keyedClosures_init (D : SlabID → DigestFn 4) :
    (∀ T addr, KeyedClosures { T := T, addr := addr }) ∧
    (∀ w ty cx, KeyedClosures w → KeyedClosures (w.newArr ty cx).2.1) ∧
    (∀ w ty seed cx, WorldOk' D w cx.ctr → KeyedClosures w → KeyedClosures (w.newMap ty seed cx).2.1) ∧
    (∀ w : World, KeyedClosures w.reopen) :=
  ⟨keyed_empty, fun w ty cx h => keyed_newArr ty cx h,
    fun w ty seed cx H h => by obtain ⟨rank, H0⟩ := H; exact keyed_newMap ty seed cx h H0.hinfoBelow,
    keyed_reopen⟩

/-- every successful operation keeps `KeyedClosures` (no hypothesis on the world) -/
theorem keyedClosures_kept (w : World) (hK : KeyedClosures w) :
    (∀ p i v cx w' cx', w.arrInsert p i v cx = .ok (w', cx') → KeyedClosures w') ∧
    (∀ p i v cx old w' cx', w.arrSet p i v cx = .ok (old, w', cx') → KeyedClosures w') ∧
    (∀ p i cx old w' cx', w.arrRemove p i cx = .ok (old, w', cx') → KeyedClosures w') ∧
    (∀ p k v cx old w' cx', w.mapSet p k v cx = .ok (old, w', cx') → KeyedClosures w') ∧
    (∀ p k cx rk rv w' cx', w.mapRemove p k cx = .ok (rk, rv, w', cx') → KeyedClosures w') ∧
    (∀ p ty cx w' cx', w.setType p ty cx = .ok (w', cx') → KeyedClosures w') ∧
    (∀ h keep cx es w' cx', w.arrPopKeep h keep cx = .ok (es, w', cx') → KeyedClosures w') ∧
    (∀ h keep cx kvs w' cx', w.mapPopKeep h keep cx = .ok (kvs, w', cx') → KeyedClosures w') ∧
    (∀ h cx es w' cx', w.arrPop h cx = .ok (es, w', cx') → KeyedClosures w') ∧
    (∀ h cx kvs w' cx', w.mapPop h cx = .ok (kvs, w', cx') → KeyedClosures w') ∧
    (∀ p i el w', w.arrGet p i = .ok (el, w') → KeyedClosures w') ∧
    (∀ p k el w', w.mapGet p k = .ok (el, w') → KeyedClosures w') ∧
    (∀ k, KeyedClosures (forget w.fuelOf w k)) :=
  ⟨fun _ _ _ _ _ _ h => (kstep_arrInsert h).2 hK, fun _ _ _ _ _ _ _ h => (kstep_arrSet h).2 hK,
    fun _ _ _ _ _ _ h => (kstep_arrRemove h).2 hK, fun _ _ _ _ _ _ _ h => (kstep_mapSet h).2 hK,
    fun _ _ _ _ _ _ _ h => (kstep_mapRemove h).2 hK, fun _ _ _ _ _ h => (kstep_setType h).2 hK,
    fun _ _ _ _ _ _ h => (kstep_arrPopKeep h).2 hK, fun _ _ _ _ _ _ h => (kstep_mapPopKeep h).2 hK,
    fun _ _ _ _ _ h => (kstep_arrPopKeep (by rw [C10Get.arrPopKeep_nil]; exact h)).2 hK,
    fun _ _ _ _ _ h => (kstep_mapPopKeep (by rw [C10Get.mapPopKeep_nil]; exact h)).2 hK,
    fun _ _ _ _ h => (kstep_arrGet h).2 hK, fun _ _ _ _ h => (kstep_mapGet h).2 hK,
    fun k => (kstep_forget w k).2 hK⟩

/-- `KeyedClosures` IS NEEDED (it does not follow from `WorldOk`): the world `wbad` — two fresh roots,
    the array `R` and the map `M`, and a key-less closure of `R` that names `M` — satisfies
    `WorldOk`; the handle of the root `R` is current; inserting the plain 20-byte value at index 0
    of the empty array `R` is in range; the answer is the INTERNAL error `.fatal` (the branch
    `hi.key = none` of `notifyParent`).  The world is unreachable (`keyedClosures_kept`). -/
theorem fatal_without_keyedClosures :
    WorldOk OkScenario.D OkScenario.wbad OkScenario.t2.2.2.ctr ∧
    HandleOk OkScenario.wbad OkScenario.R ∧
    WValOk OkScenario.wbad OkScenario.R (maxInlineArr OkScenario.wbad.T) (OkScenario.pl 1) ∧
    (∃ a, OkScenario.wbad.cont? OkScenario.R = some (.arr a) ∧ a.toList = []) ∧
    OkScenario.wbad.arrInsert OkScenario.R 0 (OkScenario.pl 1) OkScenario.t2.2.2 = .error .fatal ∧
    ¬ KeyedClosures OkScenario.wbad := by
  obtain ⟨f1, f2, f3, f4⟩ := OkScenario.wbad_facts
  obtain ⟨a, ha⟩ := cont_arr_of f3
  refine ⟨OkScenario.wbad_worldOk, f1, f2, ⟨a, ha, ?_⟩, OkScenario.wbad_fatal, OkScenario.wbad_not_keyed⟩
  rw [ha] at f4
  simp only [Option.map_some, Option.some.injEq, Cont.storedElems] at f4
  exact List.eq_nil_of_length_eq_zero f4

/-! Non-vacuity: the hypotheses hold in the depth-3 world of `World/OkScenario.lean`

`t7`: the array `A` (one value) is inlined, behind one wrapper, in the map `M`, itself inlined in
the root array `R`.  A mutation through `A` notifies `M` (map parent) and then `R` (array parent). -/

/-- `arrInsert_total` applies at depth 3: inserting through the handle of `A` (inside `M` inside `R`)
    succeeds — obtained from the theorem, not by running the model -/
theorem arrInsert_total_at_depth3 :
    Holds OkScenario.t7.1 OkScenario.R OkScenario.M ∧ Holds OkScenario.t7.1 OkScenario.M OkScenario.A ∧
    ∃ w' cx', OkScenario.t7.1.arrInsert OkScenario.A 1 (OkScenario.pl 5) OkScenario.t7.2 = .ok (w', cx') := by
  obtain ⟨s1, s2, s3, _, s5, _, _⟩ := OkScenario.t7_shape
  obtain ⟨a, ha⟩ := cont_arr_of s3
  have hlen : a.toList.length = 1 := by
    rw [ha] at s5
    simpa [Cont.storedElems] using s5
  have H' := C10W.worldOk'_of_worldOk OkScenario.ok7.1
  have hcount : a.count < maxArrayElementCount := by
    obtain ⟨rank, H0⟩ := H'
    have hok : ArrOk OkScenario.t7.1.T a OkScenario.t7.2.ctr := H0.conts _ _ ha
    rw [hok.count_eq, hlen]
    decide
  exact ⟨s1, s2, arrInsert_total OkScenario.D _ _ 1 _ _ a H' OkScenario.t7_keyed OkScenario.t7_handles.1
    ⟨⟨by decide, 5, rfl⟩, by decide⟩ ha (by rw [hlen]; exact Nat.le_refl _) hcount⟩

/-- `mapSet_total` applies in the same world: storing a new key through the handle of the map `M`
    (which holds `A` and is inlined in `R`) succeeds -/
theorem mapSet_total_at_depth3 :
    ∃ old w' cx', OkScenario.t7.1.mapSet OkScenario.M OkScenario.K2 (OkScenario.pl 5) OkScenario.t7.2
      = .ok (old, w', cx') := by
  obtain ⟨_, _, _, s4, _, _, _⟩ := OkScenario.t7_shape
  obtain ⟨m, hm⟩ := cont_map_of s4
  have hnl : ¬ TLimited OkScenario.t7.1.mcfg m.d m.root OkScenario.K2 := by
    have := OkScenario.t7_notLim
    rw [hm] at this
    simp only [Option.map_some, Option.some.injEq] at this
    exact notLimB_sound this
  exact mapSet_total OkScenario.D _ _ OkScenario.K2 _ _ m (C10W.worldOk'_of_worldOk OkScenario.ok7.1)
    OkScenario.t7_keyed OkScenario.t7_handles.2.1 OkScenario.keyOk_K2 ⟨⟨by decide, 5, rfl⟩, by decide⟩ hm hnl

end Atree.C10Total

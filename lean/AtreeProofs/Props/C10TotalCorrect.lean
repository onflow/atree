import AtreeProofs.Props.C10Total
import AtreeProofs.Props.C10WPopOps
/-
  C10 — total correctness, assembled: success (`Props/C10Total.lean`) together with what the
  successful operation did (`Props/C10WPopOps.lean`, `Props/C10WPop.lean`) and the invariance of
  `KeyedClosures`.  Property theorems.  The pair `WorldOk' ∧ KeyedClosures` is an invariant of
  every operation, from the empty world on; under it, an operation through a current handle with
  in-range / well-formed arguments succeeds and has its list-level effect: the statements below are
  the unconditional forms ("there is a result, and it is the right one") of the operation theorems
  of `C10WPopOps` (which start from `w.op … = .ok …`).
-/
namespace Atree.C10Total
open Atree Gen World

/-- the invariant of the totality theorems -/
def Inv (D : SlabID → DigestFn 4) (w : World) (ctr : Nat) : Prop := WorldOk' D w ctr ∧ KeyedClosures w

theorem inv_new (D : SlabID → DigestFn 4) (T addr ctr : Nat) (hT : legalThreshold T = true) :
    Inv D { T := T, addr := addr } ctr :=
  ⟨C10W.worldOk'_new D T addr ctr hT, keyed_empty T addr⟩

theorem inv_newArr (D : SlabID → DigestFn 4) (w : World) (ty : Nat) (cx : Ctx) (H : Inv D w cx.ctr) :
    Inv D (w.newArr ty cx).2.1 (w.newArr ty cx).2.2.ctr :=
  ⟨(C10W.worldOk'_newArr D w ty cx H.1).1, keyed_newArr ty cx H.2⟩

theorem inv_newMap (D : SlabID → DigestFn 4) (w : World) (ty seed : Nat) (cx : Ctx) (H : Inv D w cx.ctr) :
    Inv D (w.newMap ty seed cx).2.1 (w.newMap ty seed cx).2.2.ctr :=
  ⟨(C10W.worldOk'_newMap D w ty seed cx H.1).1, (keyedClosures_init D).2.2.1 w ty seed cx H.1 H.2⟩

/-- `Array.Insert` through a current handle, index in range, array not full: SUCCEEDS, keeps the
    invariant, inserts the element at `i` (`InsertedAt`), keeps the handle current and every other
    container's content -/
theorem arrInsert_total_correct (D : SlabID → DigestFn 4) (w : World) (p : SlabID) (i : Nat) (v : WVal) (cx : Ctx)
    (a : Arr) (H : Inv D w cx.ctr) (hh : HandleOk w p) (hv : WValOk w p (maxInlineArr w.T) v)
    (hpa : w.cont? p = some (.arr a)) (hi : i ≤ a.toList.length) (hcount : a.count < maxArrayElementCount) :
    ∃ w' cx', w.arrInsert p i v cx = .ok (w', cx') ∧ Inv D w' cx'.ctr ∧ cx.ctr ≤ cx'.ctr ∧
      InsertedAt w w' p i v ∧ HandleOk w' p ∧ SigFrame w w' p := by
  obtain ⟨w', cx', h⟩ := arrInsert_total D w p i v cx a H.1 H.2 hh hv hpa hi hcount
  obtain ⟨g1, g2, g3, g4, g5⟩ := C10W.worldOk'_arrInsert D w p i v cx w' cx' H.1 hh hv h
  exact ⟨w', cx', h, ⟨g1, (kstep_arrInsert h).2 H.2⟩, g2, g3, g4, g5⟩

/-- `Array.Set`, index in range -/
theorem arrSet_total_correct (D : SlabID → DigestFn 4) (w : World) (p : SlabID) (i : Nat) (v : WVal) (cx : Ctx)
    (a : Arr) (H : Inv D w cx.ctr) (hh : HandleOk w p) (hv : WValOk w p (maxInlineArr w.T) v)
    (hpa : w.cont? p = some (.arr a)) (hi : i < a.toList.length) :
    ∃ old w' cx', w.arrSet p i v cx = .ok (old, w', cx') ∧ Inv D w' cx'.ctr ∧ cx.ctr ≤ cx'.ctr ∧
      SetAt w w' p i v old ∧ HandleOk w' p ∧ SigFrame w w' p := by
  obtain ⟨old, w', cx', h⟩ := arrSet_total D w p i v cx a H.1 H.2 hh hv hpa hi
  obtain ⟨g1, g2, g3, g4, g5⟩ := C10W.worldOk'_arrSet D w p i v cx old w' cx' H.1 hh hv h
  exact ⟨old, w', cx', h, ⟨g1, (kstep_arrSet h).2 H.2⟩, g2, g3, g4, g5⟩

/-- `Array.Remove`, index in range -/
theorem arrRemove_total_correct (D : SlabID → DigestFn 4) (w : World) (p : SlabID) (i : Nat) (cx : Ctx)
    (a : Arr) (H : Inv D w cx.ctr) (hh : HandleOk w p)
    (hpa : w.cont? p = some (.arr a)) (hi : i < a.toList.length) :
    ∃ old w' cx', w.arrRemove p i cx = .ok (old, w', cx') ∧ Inv D w' cx'.ctr ∧ cx.ctr ≤ cx'.ctr ∧
      RemovedAt w w' p i old ∧ HandleOk w' p ∧ SigFrame w w' p := by
  obtain ⟨old, w', cx', h⟩ := arrRemove_total D w p i cx a H.1 H.2 hh hpa hi
  obtain ⟨g1, g2, g3, g4, g5⟩ := C10W.worldOk'_arrRemove D w p i cx old w' cx' H.1 hh h
  exact ⟨old, w', cx', h, ⟨g1, (kstep_arrRemove h).2 H.2⟩, g2, g3, g4, g5⟩

/-- `OrderedMap.Set`, unless the collision limit refuses the key -/
theorem mapSet_total_correct (D : SlabID → DigestFn 4) (w : World) (p : SlabID) (k : MKey) (v : WVal) (cx : Ctx)
    (m : OMap 3) (H : Inv D w cx.ctr) (hh : HandleOk w p) (hk : KeyOk w.T 4 (D p) k)
    (hv : WValOk w p (maxInlineMapValue w.T k.size) v) (hpm : w.cont? p = some (.map m))
    (hnl : ¬ TLimited w.mcfg m.d m.root k) :
    ∃ old w' cx', w.mapSet p k v cx = .ok (old, w', cx') ∧ Inv D w' cx'.ctr ∧ cx.ctr ≤ cx'.ctr ∧
      MapSetAt w w' p k v old ∧ HandleOk w' p ∧ SigFrame w w' p := by
  obtain ⟨old, w', cx', h⟩ := mapSet_total D w p k v cx m H.1 H.2 hh hk hv hpm hnl
  obtain ⟨g1, g2, g3, g4, g5⟩ := C10W.worldOk'_mapSet D w p k v cx old w' cx' H.1 hh hk hv h
  exact ⟨old, w', cx', h, ⟨g1, (kstep_mapSet h).2 H.2⟩, g2, g3, g4, g5⟩

/-- `OrderedMap.Remove`, key present -/
theorem mapRemove_total_correct (D : SlabID → DigestFn 4) (w : World) (p : SlabID) (k : MKey) (cx : Ctx)
    (m : OMap 3) (rv : Elem) (H : Inv D w cx.ctr) (hh : HandleOk w p) (hk : KeyOk w.T 4 (D p) k)
    (hpm : w.cont? p = some (.map m)) (hmem : (k, rv) ∈ m.toList) :
    ∃ rv' w' cx', w.mapRemove p k cx = .ok (k, rv', w', cx') ∧ Inv D w' cx'.ctr ∧ cx.ctr ≤ cx'.ctr ∧
      MapRemovedAt w w' p k k rv' ∧ HandleOk w' p ∧ SigFrame w w' p := by
  obtain ⟨rv', w', cx', h⟩ := mapRemove_total D w p k cx m rv H.1 H.2 hh hk hpm hmem
  obtain ⟨g1, g2, g3, g4, g5⟩ := C10W.worldOk'_mapRemove D w p k cx k rv' w' cx' H.1 hh hk h
  exact ⟨rv', w', cx', h, ⟨g1, (kstep_mapRemove h).2 H.2⟩, g2, g3, g4, g5⟩

/-- `SetType` through a current handle of a live container -/
theorem setType_total_correct (D : SlabID → DigestFn 4) (w : World) (p : SlabID) (ty : Nat) (cx : Ctx)
    (H : Inv D w cx.ctr) (hh : HandleOk w p) (hlive : (w.cont? p).isSome) :
    ∃ w' cx', w.setType p ty cx = .ok (w', cx') ∧ Inv D w' cx'.ctr ∧ cx.ctr ≤ cx'.ctr ∧ HandleOk w' p := by
  obtain ⟨w', cx', h⟩ := setType_total D w p ty cx H.1 H.2 hh hlive
  obtain ⟨g1, g2, _, g4⟩ := C10W.worldOk'_setType D w p ty cx w' cx' H.1 hh h
  exact ⟨w', cx', h, ⟨g1, (kstep_setType h).2 H.2⟩, g2, g4⟩

/-- `Array.PopIterate` through a current handle -/
theorem arrPop_total_correct (D : SlabID → DigestFn 4) (w : World) (h : SlabID) (cx : Ctx)
    (a : Arr) (H : Inv D w cx.ctr) (hh : HandleOk w h) (hc : w.cont? h = some (.arr a)) :
    ∃ w' cx', w.arrPop h cx = .ok (a.toList.reverse, w', cx') ∧ Inv D w' cx'.ctr ∧ cx.ctr ≤ cx'.ctr ∧
      PoppedAt w' h (.arr a) ∧ PopFrame w w' h (.arr a) [] ∧ HandleOk w' h := by
  obtain ⟨w', cx', hp⟩ := arrPop_total D w h cx a H.1 H.2 hh hc
  obtain ⟨a2, g1, _, g3, g4, g5, g6, g7, _⟩ := C10W.worldOk_arrPop D w h cx _ w' cx' H.1 hh hp
  rw [hc] at g1; cases g1
  exact ⟨w', cx', hp, ⟨g3, (kstep_arrPopKeep (by rw [C10Get.arrPopKeep_nil]; exact hp)).2 H.2⟩, g4, g5, g6, g7⟩

/-- `OrderedMap.PopIterate` through a current handle -/
theorem mapPop_total_correct (D : SlabID → DigestFn 4) (w : World) (h : SlabID) (cx : Ctx)
    (m : OMap 3) (H : Inv D w cx.ctr) (hh : HandleOk w h) (hc : w.cont? h = some (.map m)) :
    ∃ w' cx', w.mapPop h cx = .ok (m.toList.reverse, w', cx') ∧ Inv D w' cx'.ctr ∧ cx.ctr ≤ cx'.ctr ∧
      PoppedAt w' h (.map m) ∧ PopFrame w w' h (.map m) [] ∧ HandleOk w' h := by
  obtain ⟨w', cx', hp⟩ := mapPop_total D w h cx m H.1 H.2 hh hc
  obtain ⟨m2, g1, _, g3, g4, g5, g6, g7, _⟩ := C10W.worldOk_mapPop D w h cx _ w' cx' H.1 hh hp
  rw [hc] at g1; cases g1
  exact ⟨w', cx', hp, ⟨g3, (kstep_mapPopKeep (by rw [C10Get.mapPopKeep_nil]; exact hp)).2 H.2⟩, g4, g5, g6, g7⟩

end Atree.C10Total

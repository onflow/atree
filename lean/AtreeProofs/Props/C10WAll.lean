import AtreeProofs.Props.C10WPopOps
/-
  C10 / C11 — the `*_all` forms of the operation theorems (`HandlesKept`, `AncFrame`) stand with their
  short forms in `Props/C10WPopOps.lean`.
-/

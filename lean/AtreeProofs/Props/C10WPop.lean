import AtreeProofs.WorldOkPop
import AtreeProofs.World.WPopMid
import AtreeProofs.World.WPopCont
import AtreeProofs.World.WPopForget
import AtreeProofs.World.DetachedRoot
import AtreeProofs.Props.C10W
import AtreeProofs.Props.C10Get
/-
  C10 — THE GLOBAL INVARIANT of nested containers survives the BULK POPS through a handle
  (`World.arrPop`, `World.mapPop`, and their variants `arrPopKeep` / `mapPopKeep` where the caller
  keeps some of the popped child containers alive) and the DISPOSAL of containers (`World.forget`).
  PROPERTY THEOREMS.  The operation theorems of `Props/C10W.lean` cover every operation except these.

  The invariant.  `WorldOk` as defined cannot survive a pop: its clause `hinfoLive` ("the parent
  recorded by every closure is live") is FALSE after popping a container that has a nested
  container `F` whose former element `X` was handed back to the caller earlier — the stale closure
  of the live `X` still names `F`, which the pop disposes of (`hinfoLive_fails_after_pop`, a run of
  the model).  All other clauses survive.  `WorldOk'` (AtreeProofs/WorldOkPop.lean) replaces
  `hinfoLive` by `hinfoBelow` ("the recorded parent has been allocated") and keeps every other
  clause verbatim; `WorldOk → WorldOk'` (`worldOk'_of_worldOk`), `WorldOk'` is `WorldOk` of the
  world without the closures whose parent is gone (`worldOk'_iff_prune`), it yields all the
  extraction lemmas of `C10W` (`worldOk'_idsOk`, …), and it is preserved by EVERY operation
  (`Props/C10WPopOps.lean`: the `C10W` operation theorems transported along the simulation
  `World.Sim`; non-vacuity and the counterexample: `Props/C10WPopEx.lean`).

  Hypotheses of the operation theorems: `WorldOk'`, and `HandleOk w h` — the pop goes through a
  current handle — exactly as in `C10W`.
-/
namespace Atree.C10W
open Atree Gen World

/-! ### 1. `WorldOk'` -/

theorem worldOk'_of_worldOk {D : SlabID → DigestFn 4} {w : World} {ctr : Nat} (H : WorldOk D w ctr) :
    WorldOk' D w ctr := by
  obtain ⟨rank, H0⟩ := H
  exact ⟨rank, WorldOkPK.of_gen H0⟩

/-- … and what is lost is exactly `hinfoLive`: a world that satisfies `WorldOk'` and whose closures
    all name live parents satisfies `WorldOk` -/
theorem worldOk_of_worldOk' {D : SlabID → DigestFn 4} {w : World} {ctr : Nat} (H : WorldOk' D w ctr)
    (hl : HinfoLive w) : WorldOk D w ctr := by
  obtain ⟨rank, H0⟩ := H
  exact ⟨rank, H0.to_sim (Sim.refl ctr w) hl⟩

/-- `WorldOk'` is `WorldOk` up to the closures whose recorded parent has been disposed of -/
theorem worldOk'_iff_prune {D : SlabID → DigestFn 4} {w : World} {ctr : Nat} :
    WorldOk' D w ctr ↔ WorldOk D w.prune ctr ∧ HinfoBelow w ctr := by
  constructor
  · rintro ⟨rank, H0⟩
    exact ⟨⟨rank, H0.prune⟩, H0.hinfoBelow⟩
  · rintro ⟨⟨rank, H0⟩, hb⟩
    exact ⟨rank, WorldOkPK.of_sim H0 (sim_prune hb) (Nat.le_refl _) H0.mutIdx (fun _ h => absurd h id)⟩

/-- the kept containers all being standalone (or gone), `WorldOkKept` is `WorldOk'` -/
theorem worldOk'_of_kept {D : SlabID → DigestFn 4} {K : SlabID → Prop} {w : World} {ctr : Nat}
    (H : WorldOkKept D K w ctr) (hK : ∀ x c, K x → w.cont? x = some c → c.isInlined = false) :
    WorldOk' D w ctr := by
  obtain ⟨rank, H0⟩ := H
  refine ⟨rank, H0.legal, H0.ids, H0.addr, H0.conts, H0.slots, H0.band, H0.unique, ?_, H0.mutIdx, H0.closure,
    H0.rank, H0.below, H0.idxLive, H0.hinfoBelow⟩
  intro x c hx hi _
  refine H0.inlRef x c hx hi (fun hk => ?_)
  rw [hK x c hk hx] at hi; cases hi

/-- every container is filed under its value ID -/
theorem worldOk'_idsOk {D : SlabID → DigestFn 4} {w : World} {ctr : Nat} (H : WorldOk' D w ctr) : World.IdsOk w := by
  obtain ⟨_, H0⟩ := H; exact H0.ids

theorem worldOk'_elemSync {D : SlabID → DigestFn 4} {w : World} {ctr : Nat} (H : WorldOk' D w ctr) : ElemSync w :=
  (worldOk_elemSync (worldOk'_iff_prune.mp H).1 : ElemSync w.prune)

theorem worldOk'_mutIdxOk {D : SlabID → DigestFn 4} {w : World} {ctr : Nat} (H : WorldOk' D w ctr) : MutIdxOk w :=
  (worldOk_mutIdxOk (worldOk'_iff_prune.mp H).1 : MutIdxOk w.prune)

/-- every container is structurally valid in its form -/
theorem worldOk'_contOk {D : SlabID → DigestFn 4} {w : World} {ctr : Nat} (H : WorldOk' D w ctr) (x : SlabID) (c : Cont)
    (hc : w.cont? x = some c) : ContOk w.T (D x) ctr c ∧ c.vid = x :=
  worldOk_contOk (worldOk'_iff_prune.mp H).1 x c hc

/-- "a child is stored inline exactly when it occupies one slab that fits the slot's limit" -/
theorem worldOk'_inline_iff_fits {D : SlabID → DigestFn 4} {w : World} {ctr : Nat} (H : WorldOk' D w ctr)
    (p : SlabID) (pc : Cont) (hp : w.cont? p = some pc) (lim : Nat) (e : Elem) (hle : (lim, e) ∈ pc.slots w.T)
    (x : SlabID) (c : Cont) (hx : e.pay = .ref x) (hc : w.cont? x = some c) :
    ∃ wrap, slabIDStorableSize + 2 * wrap ≤ lim ∧ e.size = slotSize c wrap ∧
      c.isInlined = c.inlinable (lim - 2 * wrap) :=
  worldOk_inline_iff_fits (worldOk'_iff_prune.mp H).1 p pc hp lim e hle x c hx hc

/-- an inlined container is referenced by exactly one element of one live container -/
theorem worldOk'_inlined_referenced_once {D : SlabID → DigestFn 4} {w : World} {ctr : Nat} (H : WorldOk' D w ctr)
    (x : SlabID) (c : Cont) (hc : w.cont? x = some c) (hi : c.isInlined = true) :
    (∃ p, Holds w p x) ∧
    ∀ p p' pc pc' (i j : Nat), w.cont? p = some pc → w.cont? p' = some pc' →
      pc.pays[i]? = some (Pay.ref x) → pc'.pays[j]? = some (Pay.ref x) → p = p' ∧ i = j :=
  worldOk_inlined_referenced_once (worldOk'_iff_prune.mp H).1 x c hc hi

/-! ### 2. The bulk pops keep the invariant -/

/-- `arrPopKeep` = emptying in place, disposal of what is not kept, ordinary parent notification:
    `World.pop_core` for the array at `h`, with the rank function of the caller's choice -/
private theorem arrPop_core {D : SlabID → DigestFn 4} {rank : SlabID → Nat} {w : World} {h : SlabID}
    {keep : List SlabID} {cx : Ctx} {es : List Elem} {w' : World} {cx' : Ctx}
    (H0 : WorldOkPK D rank (fun _ => False) w cx.ctr) (hh : HandleOk w h)
    (hpop : w.arrPopKeep h keep cx = .ok (es, w', cx')) :
    ∃ a, w.cont? h = some (.arr a) ∧ es = a.toList.reverse ∧
      WorldOkPK D rank (fun x => KeptOf keep (.arr a) x ∧ (w.cont? x).isSome) w' cx'.ctr ∧ cx.ctr ≤ cx'.ctr ∧
      PoppedAt w' h (.arr a) ∧ PopFrame w w' h (.arr a) keep ∧ HandleOk w' h ∧
      (∀ z, HandleOk w z → (w'.cont? z).isSome → HandleOk w' z) ∧
      (∀ z, z ≠ h → rank h ≤ rank z → NotBelow w (disposedOf keep (.arr a)) z → w'.cont? z = w.cont? z) := by
  obtain ⟨a, _, hc, hes, rfl, hn⟩ := arrPopKeep_ok_iff.mp hpop
  rw [hes] at hn
  exact ⟨a, hc, hes.trans (arr_popIterate_refines a cx).1, pop_core (keep := keep) H0 hh hc
    (PopIter.arr H0.legal a cx (H0.conts h _ hc)) (emptied_arr hc cx) (fun x => by simp) hn⟩

/-- `mapPopKeep`: `World.pop_core` for the map at `h` (the popped elements are the VALUES) -/
private theorem mapPop_core {D : SlabID → DigestFn 4} {rank : SlabID → Nat} {w : World} {h : SlabID}
    {keep : List SlabID} {cx : Ctx} {kvs : List (MKey × Elem)} {w' : World} {cx' : Ctx}
    (H0 : WorldOkPK D rank (fun _ => False) w cx.ctr) (hh : HandleOk w h)
    (hpop : w.mapPopKeep h keep cx = .ok (kvs, w', cx')) :
    ∃ m, w.cont? h = some (.map m) ∧ kvs = m.toList.reverse ∧
      WorldOkPK D rank (fun x => KeptOf keep (.map m) x ∧ (w.cont? x).isSome) w' cx'.ctr ∧ cx.ctr ≤ cx'.ctr ∧
      PoppedAt w' h (.map m) ∧ PopFrame w w' h (.map m) keep ∧ HandleOk w' h ∧
      (∀ z, HandleOk w z → (w'.cont? z).isSome → HandleOk w' z) ∧
      (∀ z, z ≠ h → rank h ≤ rank z → NotBelow w (disposedOf keep (.map m)) z → w'.cont? z = w.cont? z) := by
  obtain ⟨m, _, hc, hes, rfl, hn⟩ := mapPopKeep_ok_iff.mp hpop
  rw [hes] at hn
  exact ⟨m, hc, hes.trans (MTree.popIterate_fst m.d m.root cx), pop_core (keep := keep) H0 hh hc
    (PopIter.map H0.legal m cx (H0.conts h _ hc)) (emptied_map hc cx) (emptied_map_idx H0.idxLive hc cx) hn⟩

/-- `Array.PopIterate` THROUGH A CURRENT HANDLE `h`, the caller keeping the popped child containers
    `keep` (`[]`: `worldOk_arrPop`).  Afterwards:
    * the invariant holds, except that a kept popped child that was inlined is an in-memory slab
      referenced by nobody (`WorldOkKept`: only the clause "every inlined container is referenced"
      is relaxed, and only for the kept popped children);
    * the popped elements are the array's, last to first; the emptied array is still filed under
      `h` (`PoppedAt`);
    * every container reachable from a disposed element is gone, every other container keeps its
      content, the kept children are detached roots (`PopFrame`);
    * the handle used, and every current handle of a container that is still there, is current. -/
theorem worldOk_arrPopKeep (D : SlabID → DigestFn 4) (w : World) (h : SlabID) (keep : List SlabID) (cx : Ctx)
    (es : List Elem) (w' : World) (cx' : Ctx) (H : WorldOk' D w cx.ctr) (hh : HandleOk w h)
    (hpop : w.arrPopKeep h keep cx = .ok (es, w', cx')) :
    ∃ a, w.cont? h = some (.arr a) ∧ es = a.toList.reverse ∧
      WorldOkKept D (KeptOf keep (.arr a)) w' cx'.ctr ∧ cx.ctr ≤ cx'.ctr ∧
      PoppedAt w' h (.arr a) ∧ PopFrame w w' h (.arr a) keep ∧ HandleOk w' h ∧
      (∀ z, HandleOk w z → (w'.cont? z).isSome → HandleOk w' z) := by
  obtain ⟨rank, H0⟩ := H
  obtain ⟨a, hc, hes, g1, g2, g3, g4, g5, g6, _⟩ := arrPop_core H0 hh hpop
  exact ⟨a, hc, hes, ⟨rank, g1.mono_K (fun x hx _ => hx.1)⟩, g2, g3, g4, g5, g6⟩

/-- `OrderedMap.PopIterate` through a current handle, the caller keeping the popped child
    containers `keep`: as `worldOk_arrPopKeep` (the popped elements are the VALUES of the map). -/
theorem worldOk_mapPopKeep (D : SlabID → DigestFn 4) (w : World) (h : SlabID) (keep : List SlabID) (cx : Ctx)
    (kvs : List (MKey × Elem)) (w' : World) (cx' : Ctx) (H : WorldOk' D w cx.ctr) (hh : HandleOk w h)
    (hpop : w.mapPopKeep h keep cx = .ok (kvs, w', cx')) :
    ∃ m, w.cont? h = some (.map m) ∧ kvs = m.toList.reverse ∧
      WorldOkKept D (KeptOf keep (.map m)) w' cx'.ctr ∧ cx.ctr ≤ cx'.ctr ∧
      PoppedAt w' h (.map m) ∧ PopFrame w w' h (.map m) keep ∧ HandleOk w' h ∧
      (∀ z, HandleOk w z → (w'.cont? z).isSome → HandleOk w' z) := by
  obtain ⟨rank, H0⟩ := H
  obtain ⟨m, hc, hes, g1, g2, g3, g4, g5, g6, _⟩ := mapPop_core H0 hh hpop
  exact ⟨m, hc, hes, ⟨rank, g1.mono_K (fun x hx _ => hx.1)⟩, g2, g3, g4, g5, g6⟩

/-- `Array.PopIterate` through a current handle keeps the global invariant: every popped element is
    handed out (last to first), the emptied array is still filed under `h`, every container
    reachable from a popped element is gone and every other container keeps its content. -/
theorem worldOk_arrPop (D : SlabID → DigestFn 4) (w : World) (h : SlabID) (cx : Ctx)
    (es : List Elem) (w' : World) (cx' : Ctx) (H : WorldOk' D w cx.ctr) (hh : HandleOk w h)
    (hpop : w.arrPop h cx = .ok (es, w', cx')) :
    ∃ a, w.cont? h = some (.arr a) ∧ es = a.toList.reverse ∧
      WorldOk' D w' cx'.ctr ∧ cx.ctr ≤ cx'.ctr ∧
      PoppedAt w' h (.arr a) ∧ PopFrame w w' h (.arr a) [] ∧ HandleOk w' h ∧
      (∀ z, HandleOk w z → (w'.cont? z).isSome → HandleOk w' z) := by
  rw [← arrPopKeep_nil] at hpop
  obtain ⟨a, g1, g2, g3, g4, g5, g6, g7, g8⟩ := worldOk_arrPopKeep D w h [] cx es w' cx' H hh hpop
  refine ⟨a, g1, g2, worldOk'_of_kept g3 (fun x c hk _ => ?_), g4, g5, g6, g7, g8⟩
  exact absurd hk.1 (by simp)

/-- `OrderedMap.PopIterate` through a current handle keeps the global invariant. -/
theorem worldOk_mapPop (D : SlabID → DigestFn 4) (w : World) (h : SlabID) (cx : Ctx)
    (kvs : List (MKey × Elem)) (w' : World) (cx' : Ctx) (H : WorldOk' D w cx.ctr) (hh : HandleOk w h)
    (hpop : w.mapPop h cx = .ok (kvs, w', cx')) :
    ∃ m, w.cont? h = some (.map m) ∧ kvs = m.toList.reverse ∧
      WorldOk' D w' cx'.ctr ∧ cx.ctr ≤ cx'.ctr ∧
      PoppedAt w' h (.map m) ∧ PopFrame w w' h (.map m) [] ∧ HandleOk w' h ∧
      (∀ z, HandleOk w z → (w'.cont? z).isSome → HandleOk w' z) := by
  rw [← mapPopKeep_nil] at hpop
  obtain ⟨m, g1, g2, g3, g4, g5, g6, g7, g8⟩ := worldOk_mapPopKeep D w h [] cx kvs w' cx' H hh hpop
  refine ⟨m, g1, g2, worldOk'_of_kept g3 (fun x c hk _ => ?_), g4, g5, g6, g7, g8⟩
  exact absurd hk.1 (by simp)

private theorem pk_with_rank {D : SlabID → DigestFn 4} {rank rank' : SlabID → Nat} {K : SlabID → Prop}
    {w : World} {ctr : Nat} (H : WorldOkPK D rank K w ctr) (hr : CRank rank' w) : WorldOkPK D rank' K w ctr :=
  ⟨H.legal, H.ids, H.addr, H.conts, H.slots, H.band, H.unique, H.inlRef, H.mutIdx, H.closure, hr, H.below,
    H.idxLive, H.hinfoBelow⟩

/-- THE STRONG FRAME of `Array.PopIterate` through a current handle `h` (the caller keeping the popped
    containers `keep`): a container that is neither `h`, nor one of the containers `h` is nested in,
    nor below a popped element that is disposed of, is UNTOUCHED — same entry in the container table
    (content, sizes, form).  (`PopFrame` only says that kinds, keys and payloads are unchanged.) -/
theorem arrPopKeep_strong_frame (D : SlabID → DigestFn 4) (w : World) (h : SlabID) (keep : List SlabID) (cx : Ctx)
    (es : List Elem) (w' : World) (cx' : Ctx) (H : WorldOk' D w cx.ctr) (hh : HandleOk w h)
    (hpop : w.arrPopKeep h keep cx = .ok (es, w', cx')) :
    ∃ a, w.cont? h = some (.arr a) ∧
      ∀ z, ¬ Anc w z h → NotBelow w (disposedOf keep (.arr a)) z → w'.cont? z = w.cont? z := by
  obtain ⟨rank0, R0⟩ := H
  obtain ⟨rank, hr, hle⟩ := rank_raise R0.rank h
  obtain ⟨a, hc, _, _, _, _, _, _, _, g7⟩ := arrPop_core (pk_with_rank R0 hr) hh hpop
  exact ⟨a, hc, fun z hz hnb => g7 z (fun he => hz (he ▸ Anc.refl)) (hle z hz) hnb⟩

/-- THE STRONG FRAME of `OrderedMap.PopIterate` -/
theorem mapPopKeep_strong_frame (D : SlabID → DigestFn 4) (w : World) (h : SlabID) (keep : List SlabID) (cx : Ctx)
    (kvs : List (MKey × Elem)) (w' : World) (cx' : Ctx) (H : WorldOk' D w cx.ctr) (hh : HandleOk w h)
    (hpop : w.mapPopKeep h keep cx = .ok (kvs, w', cx')) :
    ∃ m, w.cont? h = some (.map m) ∧
      ∀ z, ¬ Anc w z h → NotBelow w (disposedOf keep (.map m)) z → w'.cont? z = w.cont? z := by
  obtain ⟨rank0, R0⟩ := H
  obtain ⟨rank, hr, hle⟩ := rank_raise R0.rank h
  obtain ⟨m, hc, _, _, _, _, _, _, _, g7⟩ := mapPop_core (pk_with_rank R0 hr) hh hpop
  exact ⟨m, hc, fun z hz hnb => g7 z (fun he => hz (he ▸ Anc.refl)) (hle z hz) hnb⟩

/-! ### 3. Disposal of containers -/

/-- `World.forget` applied to ANY container `k` of ANY world removes exactly the containers reachable
    from `k` (through element references) from the three tables and touches nothing else. -/
theorem forget_removes_exactly_the_subtree (w : World) (k : SlabID) :
    ForgetFrame w (World.forget w.fuelOf w k) k :=
  forget_frame w k

/-- Disposing of a DETACHED ROOT `k` — a live container that no element refers to (a container
    handed back by `Remove` / `Set`, a popped child that was kept, a root the caller drops) — keeps
    the global invariant, and removes exactly the containers reachable from `k`. -/
theorem worldOk_forget (D : SlabID → DigestFn 4) (w : World) (k : SlabID) (ctr : Nat) (H : WorldOk' D w ctr)
    (hk : DetachedRoot w k) :
    WorldOk' D (World.forget w.fuelOf w k) ctr ∧ ForgetFrame w (World.forget w.fuelOf w k) k := by
  obtain ⟨rank, H0⟩ := H
  obtain ⟨h1, h2⟩ := forget_ok H0 hk
  exact ⟨⟨rank, h1.mono_K (fun x hx _ => hx.1)⟩, h2⟩

/-- The same while other popped containers are still kept by the caller: the disposed container
    leaves the set of relaxed containers. -/
theorem worldOk_forget_kept (D : SlabID → DigestFn 4) (K : SlabID → Prop) (w : World) (k : SlabID) (ctr : Nat)
    (H : WorldOkKept D K w ctr) (hk : DetachedRoot w k) :
    WorldOkKept D (fun x => K x ∧ x ≠ k) (World.forget w.fuelOf w k) ctr ∧
      ForgetFrame w (World.forget w.fuelOf w k) k := by
  obtain ⟨rank, H0⟩ := H
  obtain ⟨h1, h2⟩ := forget_ok H0 hk
  exact ⟨⟨rank, h1⟩, h2⟩

/-! ### 4. Popped containers kept by the caller (C11 for containers handed out by a bulk pop)

After `arrPopKeep` / `mapPopKeep` a kept popped child `k` is a DETACHED ROOT: live, with everything
below it, and referenced by nobody (`PopFrame`).  If it was standalone the invariant simply holds.
If it was INLINED it is now an in-memory slab outside every parent: the state violates exactly the
clause "every inlined container is referenced" of the invariant, at `k` and nowhere else
(`WorldOkKept`); the caller's disposal `World.forget … k` restores the invariant — also when `k` has
been mutated through its handle in between, a mutation that changes no other container. -/

/-- One kept popped child `k` (say of the array or map `c` filed under `h`), after the pop:
    * `k` is a detached root, and it and everything below it are unchanged (also in form);
    * if `k` is standalone, the invariant holds;
    * if `k` is inlined, the invariant does NOT hold — no element refers to the inlined `k` —
      and that is the only defect (`H`);
    * in both cases disposing of `k` gives the invariant back and removes exactly what was below
      `k`. -/
theorem kept_child_after_pop (D : SlabID → DigestFn 4) (w w' : World) (h k : SlabID) (c ck : Cont) (ctr : Nat)
    (H : WorldOkKept D (KeptOf [k] c) w' ctr) (hF : PopFrame w w' h c [k])
    (hkc : Pay.ref k ∈ c.pays) (hck : w.cont? k = some ck) :
    w'.cont? k = some ck ∧ DetachedRoot w' k ∧ (∀ z, Reach w k z → w'.cont? z = w.cont? z) ∧
    (ck.isInlined = false → WorldOk' D w' ctr) ∧
    (ck.isInlined = true → (¬ ∃ p, Holds w' p k) ∧ ∀ ctr', ¬ WorldOk' D w' ctr') ∧
    WorldOk' D (World.forget w'.fuelOf w' k) ctr ∧ ForgetFrame w' (World.forget w'.fuelOf w' k) k := by
  have hK : KeptOf [k] c k := ⟨by simp, hkc⟩
  have hkl : (w.cont? k).isSome := by rw [hck]; rfl
  obtain ⟨hroot, hsub⟩ := hF.2.2.1 k hK hkl
  have hk' : w'.cont? k = some ck := by rw [hsub k (Reach.refl hkl)]; exact hck
  obtain ⟨f1, f2⟩ := worldOk_forget_kept D _ w' k ctr H hroot
  refine ⟨hk', hroot, hsub, fun hst => ?_, fun hinl => ⟨fun ⟨p, hp⟩ => hroot.2 p hp, fun ctr' H' => ?_⟩, ?_, f2⟩
  · refine worldOk'_of_kept H (fun x cx hx hcx => ?_)
    have : x = k := by simpa using hx.1
    subst this
    rw [hk'] at hcx; cases hcx; exact hst
  · obtain ⟨⟨p, hp⟩, _⟩ := worldOk'_inlined_referenced_once H' k ck hk' hinl
    exact hroot.2 p hp
  · obtain ⟨rank, F1⟩ := f1
    refine ⟨rank, F1.mono_K (fun x hx _ => ?_)⟩
    have : x = k := by simpa using hx.1.1
    exact hx.2 this

/-- The notification of a detached root (its closure still names the container it was popped or
    removed from) finds nothing: no container, index table or storage effect changes; at most the
    stale closure is dropped.  (`C10Get.kept_child_notification_is_noop` and the `C11` theorems
    assume that the recorded slot is empty; here this follows from the invariant.) -/
theorem detached_root_notification_is_noop (D : SlabID → DigestFn 4) (K : SlabID → Prop) (fuel : Nat)
    (w : World) (k : SlabID) (cx : Ctx) (w' : World) (cx' : Ctx) (ctr : Nat)
    (H : WorldOkKept D K w ctr) (hk : DetachedRoot w k) (h : notifyParent fuel w k cx = .ok (w', cx')) :
    cx' = cx ∧ (w' = w ∨ w' = { w with hinfo := AList.erase w.hinfo k }) := by
  obtain ⟨rank, H0⟩ := H
  exact notify_finds_nothing (fun hi qc s el hh hf => hk.2 _ (H0.finds_holds hh hf)) h

/-- `Array.Insert` of a plain value through the handle of a kept popped child `k` (inlined or not)
    — more generally of any detached root — inserts the element and changes NO other container,
    closure or index table; and disposing of `k` afterwards restores the global invariant (when `k`
    is the only kept container) and removes exactly what is below `k`. -/
theorem kept_child_arrInsert (D : SlabID → DigestFn 4) (K : SlabID → Prop) (w : World) (k : SlabID) (i : Nat)
    (e : Elem) (cx : Ctx) (w'' : World) (cx'' : Ctx)
    (H : WorldOkKept D K w cx.ctr) (hk : DetachedRoot w k) (hv : ValueOk e ∧ e.size ≤ maxInlineArr w.T)
    (h : w.arrInsert k i (.plain e) cx = .ok (w'', cx'')) :
    (∃ a a'', w.cont? k = some (.arr a) ∧ w''.cont? k = some (.arr a'') ∧ i ≤ a.toList.length ∧
      a''.toList = a.toList.insertIdx i e) ∧
    SigFrame w w'' k ∧
    (∀ z, z ≠ k → w''.cont? z = w.cont? z ∧ AList.find? w''.hinfo z = AList.find? w.hinfo z ∧
      AList.find? w''.mutIdx z = AList.find? w.mutIdx z) ∧
    cx.ctr ≤ cx''.ctr ∧
    ((∀ x, K x → x = k) → WorldOk' D (World.forget w''.fuelOf w'' k) cx''.ctr) ∧
    ForgetFrame w'' (World.forget w''.fuelOf w'' k) k := by
  obtain ⟨rank, H0⟩ := H
  obtain ⟨a, a'', hc, hc2, hi, hl, hT, ha, hctr, hoth⟩ := root_arrInsert_plain H0 hk ⟨hv.1.1, hv.2⟩ h
  replace hoth := fun z hz => hoth z hz (fun h => by cases h)
  refine ⟨⟨a, a'', hc, hc2, hi, hl⟩, SigFrame.of_conts (fun z hz => (hoth z hz).1), hoth, hctr, fun hK => ?_,
    forget_frame w'' k⟩
  have hrefs : ∀ y, (w.cont? y).isSome → (Pay.ref y ∈ (Cont.arr a'').pays ↔ Pay.ref y ∈ (Cont.arr a).pays) := by
    intro y _
    obtain ⟨n, hn⟩ := hv.1.2
    simp only [Cont.pays, Cont.storedElems, hl, List.mem_map]
    constructor
    · rintro ⟨e', he', hp'⟩
      rcases (List.mem_insertIdx hi).mp he' with rfl | hm
      · rw [hn] at hp'; cases hp'
      · exact ⟨e', hm, hp'⟩
    · rintro ⟨e', he', hp'⟩
      exact ⟨e', (List.mem_insertIdx hi).mpr (Or.inr he'), hp'⟩
  have := forget_after_mutation H0 hk hT ha hoth hc hc2 hrefs
  exact ⟨rank, (this.mono_K (fun x hx _ => hx.2 (hK x hx.1))).mono_ctr hctr⟩

/-- `OrderedMap.Set` of a plain value through the handle of a kept popped child `k` (a map): no
    other container's content changes.  `hself`: the closure of `k` does not name `k` itself. -/
theorem kept_child_mapSet_frame (D : SlabID → DigestFn 4) (K : SlabID → Prop) (w : World) (k : SlabID) (key : MKey)
    (e : Elem) (cx : Ctx) (old : Option Elem) (w'' : World) (cx'' : Ctx) (ctr : Nat)
    (H : WorldOkKept D K w ctr) (hk : DetachedRoot w k)
    (hself : ∀ hi, AList.find? w.hinfo k = some hi → hi.parent ≠ k)
    (h : w.mapSet k key (.plain e) cx = .ok (old, w'', cx'')) : SigFrame w w'' k := by
  obtain ⟨rank, H0⟩ := H
  exact (root_mapSet_plain H0 hk hself h).1

end Atree.C10W

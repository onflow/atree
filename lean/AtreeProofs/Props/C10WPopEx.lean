import AtreeProofs.World.WPopScenario
/-
  C10 — NON-VACUITY of `Props/C10WPop.lean`, on worlds obtained by running the model (T = 256;
  `AtreeProofs/World/WPopScenario.lean`), and the counterexample that forces the weakening of
  `WorldOk` to `WorldOk'`.  PROPERTY THEOREMS.
-/
namespace Atree.C10W
open Atree Gen World
open Atree.PopOkScenario

/-- COUNTEREXAMPLE (a run of the model).  Root array `R` holds the inlined array `F`, which holds
    `X`; `X` is removed from `F` through the handle of `F` (`X` is handed back; its closure keeps
    naming `F`); then `R` is popped through its handle.  The world before the pop satisfies the FULL
    invariant `WorldOk`, the handle is current, the pop succeeds — and `WorldOk` fails afterwards:
    the closure of the live `X` names `F`, which the pop has disposed of (clause `hinfoLive`).
    `WorldOk'` holds.  Hence `worldOk_arrPop` cannot conclude `WorldOk`. -/
theorem hinfoLive_fails_after_pop :
    WorldOk OkScenario.D h6.2.1 h6.2.2.ctr ∧ HandleOk h6.2.1 PopOkScenario.R ∧
    h6.2.1.arrPop PopOkScenario.R h6.2.2 = .ok h7 ∧
    ¬ HinfoLive h7.2.1 ∧ (∀ ctr, ¬ WorldOk OkScenario.D h7.2.1 ctr) ∧ WorldOk' OkScenario.D h7.2.1 h7.2.2.ctr :=
  hinfoLive_fails

/-- Non-vacuity of `worldOk_mapPop`: in the depth-3 world of `C10W.scenario_worldOk` (`R` ∋ inlined
    map `M` ∋ inlined wrapped array `A`; `R` ∋ standalone `B`) the map `M` is popped through its
    (current) handle.  The run succeeds; `A` is gone; `M` is an empty map, still inlined in `R`,
    whose element has shrunk to 22 bytes; `B` is untouched; and the invariant holds — by
    `worldOk_mapPop`, whose hypotheses are met. -/
theorem scenario_mapPop :
    WorldOk' OkScenario.D v0.1 v0.2.ctr ∧ HandleOk v0.1 OkScenario.M ∧ v0.1.mapPop OkScenario.M v0.2 = .ok p1 ∧
    WorldOk' OkScenario.D p1.2.1 p1.2.2.ctr ∧ HandleOk p1.2.1 OkScenario.M ∧
    (p1.2.1.cont? OkScenario.A).isSome = false ∧
    (p1.2.1.cont? OkScenario.M).map Cont.pays = some [] ∧
    (p1.2.1.cont? OkScenario.M).map Cont.isInlined = some true ∧
    (p1.2.1.cont? OkScenario.R).map (fun c => c.storedElems.map (·.size)) = some [22, 19] :=
  ⟨okV0, handleM, runP1, okP1.1, okP1.2.1, p1_facts.1, p1_facts.2.1, p1_facts.2.2.1, p1_facts.2.2.2.2.1⟩

/-- Non-vacuity of `worldOk_mapPopKeep`, `kept_child_after_pop`, `kept_child_arrInsert`: the same
    pop, the caller keeping the inlined child `A`.  After the pop `A` is an in-memory slab referenced
    by nobody: `WorldOkKept`, and the invariant `WorldOk'` FAILS (at `A` only).  A value is inserted
    through the handle of `A`: no other container changes.  `A` is disposed of (`World.forget`):
    the invariant holds again. -/
theorem scenario_mapPopKeep :
    v0.1.mapPopKeep OkScenario.M [OkScenario.A] v0.2 = .ok k1 ∧
    (∃ m, v0.1.cont? OkScenario.M = some (.map m) ∧
      WorldOkKept OkScenario.D (KeptOf [OkScenario.A] (.map m)) k1.2.1 k1.2.2.ctr) ∧
    DetachedRoot k1.2.1 OkScenario.A ∧ (k1.2.1.cont? OkScenario.A).map Cont.isInlined = some true ∧
    (∀ ctr, ¬ WorldOk' OkScenario.D k1.2.1 ctr) ∧
    k1.2.1.arrInsert OkScenario.A 1 (OkScenario.pl 9) k1.2.2 = .ok k2 ∧
    SigFrame k1.2.1 k2.1 OkScenario.A ∧
    (k2.1.cont? OkScenario.A).map Cont.pays = some [.val 1, .val 9] ∧
    WorldOk' OkScenario.D (World.forget k2.1.fuelOf k2.1 OkScenario.A) k2.2.ctr ∧
    ((World.forget k2.1.fuelOf k2.1 OkScenario.A).cont? OkScenario.A).isSome = false :=
  ⟨runK1, okK.1, okK.2.1, k_facts.1, okK.2.2.1, runK2, okK.2.2.2.1, k_facts.2.2.2.2.1, okK.2.2.2.2,
    k_facts.2.2.2.2.2.2.2.1⟩

/-- Non-vacuity of the operation theorems for `WorldOk'` (`Props/C10WPopOps.lean`):
    (1) in the world of `hinfoLive_fails_after_pop`, where `WorldOk` FAILS, a value is inserted through
    the handle of `X`: `worldOk'_arrInsert` applies; the notification of `X` finds no parent and
    drops the stale closure, after which even `WorldOk` holds again;
    (2) after the pop of `scenario_mapPop`, a value is stored in the emptied map `M` through its
    handle, which the pop has kept current: the invariant holds and the parent `R` accounts 61
    bytes for `M`. -/
theorem scenario_ops_after_pop :
    (h7.2.1.arrInsert PopOkScenario.X 0 (OkScenario.pl 1) h7.2.2 = .ok h8 ∧
      WorldOk' OkScenario.D h8.1 h8.2.ctr ∧ AList.find? h8.1.hinfo PopOkScenario.X = none ∧
      WorldOk OkScenario.D h8.1 h8.2.ctr) ∧
    (p1.2.1.mapSet OkScenario.M OkScenario.K1 (OkScenario.pl 5) p1.2.2 = .ok p2 ∧
      WorldOk' OkScenario.D p2.2.1 p2.2.2.ctr ∧ (p2.2.1.cont? OkScenario.M).map Cont.pays = some [.val 5] ∧
      (p2.2.1.cont? OkScenario.R).map (fun c => c.storedElems.map (·.size)) = some [61, 19]) :=
  ⟨⟨runH8, okH8.1, okH8.2.1, okH8.2.2⟩, ⟨runP2, okP2.1, okP2.2.1, okP2.2.2⟩⟩

end Atree.C10W

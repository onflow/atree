import AtreeProofs.Props.C10WPop
import AtreeProofs.WorldOkFrame
import AtreeProofs.World.WPopAll
/-
  C10 — EVERY operation theorem of `Props/C10W.lean` holds for the invariant `WorldOk'`
  (AtreeProofs/WorldOkPop.lean: `WorldOk` with `hinfoLive` weakened to `hinfoBelow`), with the same
  hypotheses and the same conclusions.  PROPERTY THEOREMS.  Together with `Props/C10WPop.lean`
  (bulk pops, disposal) this makes `WorldOk'` an invariant of ALL the operations of the World
  model, from the empty world on.

  Proof: a world `w` that satisfies `WorldOk'` and the world `w.prune` without the closures whose
  recorded parent has been disposed of behave alike under every operation (`World.Sim`,
  `World/WPopSim.lean`, `World/WPopOps.lean`: such closures are inert — a notification through one
  of them finds no parent and drops it); `w.prune` satisfies `WorldOk`, to which the theorem of
  `C10W` applies; its conclusions are transported back.

  C10 / C11 — EVERY mutating operation through a current handle keeps ALL current handles current
  and leaves everything that is not above the target untouched.  PROPERTY THEOREMS.

  The operation theorems of `Props/C10W.lean` and the short forms `worldOk'_arrInsert` … here return
  current-ness only for the handle used (`HandleOk w' p`), so they do not chain along a history that
  switches handles.  The `*_all` theorems have the same hypotheses and conclude in addition
  * `HandlesKept w w'` — every current handle of a container that is still there is current
    afterwards (the stored child becomes a current child handle, a container handed back becomes a
    current root handle, the children of `p` whose index shifted are still current, …);
  * `AncFrame w w' p M` — the STRONG FRAME: a container that is neither the target `p`, nor one of
    the containers `p` is nested in, nor moved by the operation (`M = Moved v old`: the stored child,
    the container handed back) has the SAME entry in the container table (content, element sizes,
    header size, inlined / standalone form, type), and no index table other than `p`'s changes.
    (`SigFrame` only says that kinds, keys and payloads are unchanged.)
  `*_all` are the deciding statements; `worldOk(')_arrInsert` … are their projections.
-/
namespace Atree.C10W
open Atree Gen World

theorem worldOk'_new (D : SlabID → DigestFn 4) (T addr ctr : Nat) (hT : legalThreshold T = true) :
    WorldOk' D { T := T, addr := addr } ctr :=
  worldOk'_of_worldOk (worldOk_new D T addr ctr hT)

/-- `NewArray`: a new standalone array — fresh value ID, empty, current handle -/
theorem worldOk'_newArr (D : SlabID → DigestFn 4) (w : World) (ty : Nat) (cx : Ctx) (H : WorldOk' D w cx.ctr) :
    WorldOk' D (w.newArr ty cx).2.1 (w.newArr ty cx).2.2.ctr ∧ (w.newArr ty cx).2.2.ctr = cx.ctr + 1 ∧
      w.cont? (w.newArr ty cx).1 = none ∧
      (∃ a, (w.newArr ty cx).2.1.cont? (w.newArr ty cx).1 = some (.arr a) ∧ a.toList = [] ∧ a.isInlined = false) ∧
      (∀ z, z ≠ (w.newArr ty cx).1 → (w.newArr ty cx).2.1.cont? z = w.cont? z) ∧
      HandleOk (w.newArr ty cx).2.1 (w.newArr ty cx).1 := by
  obtain ⟨H0, S⟩ := H.down
  obtain ⟨g1, g2, g3, g4, g5, g6⟩ := newArr_ok (ty := ty) H0
  have S' : Sim cx.ctr (w.prune.newArr ty cx).2.1 (w.newArr ty cx).2.1 :=
    S.setCont_new (v := (w.newArr ty cx).1) (by show cx.ctr < cx.ctr + 1; omega) _
  have g2' : (w.newArr ty cx).2.2.ctr = cx.ctr + 1 := g2
  exact ⟨WorldOk'.up g1 S' (by rw [g2']; omega), g2, g3, g4, g5, S'.handleOk_up g6⟩

theorem worldOk'_newMap (D : SlabID → DigestFn 4) (w : World) (ty seed : Nat) (cx : Ctx) (H : WorldOk' D w cx.ctr) :
    WorldOk' D (w.newMap ty seed cx).2.1 (w.newMap ty seed cx).2.2.ctr ∧ (w.newMap ty seed cx).2.2.ctr = cx.ctr + 1 ∧
      w.cont? (w.newMap ty seed cx).1 = none ∧
      (∃ m, (w.newMap ty seed cx).2.1.cont? (w.newMap ty seed cx).1 = some (.map m) ∧ m.toList = [] ∧ m.isInlined = false) ∧
      (∀ z, z ≠ (w.newMap ty seed cx).1 → (w.newMap ty seed cx).2.1.cont? z = w.cont? z) ∧
      HandleOk (w.newMap ty seed cx).2.1 (w.newMap ty seed cx).1 := by
  obtain ⟨H0, S⟩ := H.down
  obtain ⟨g1, g2, g3, g4, g5, g6⟩ := newMap_ok (ty := ty) (seed := seed) H0
  have S' : Sim cx.ctr (w.prune.newMap ty seed cx).2.1 (w.newMap ty seed cx).2.1 :=
    S.setCont_new (v := (w.newMap ty seed cx).1) (by show cx.ctr < cx.ctr + 1; omega) _
  have g2' : (w.newMap ty seed cx).2.2.ctr = cx.ctr + 1 := g2
  exact ⟨WorldOk'.up g1 S' (by rw [g2']; omega), g2, g3, g4, g5, S'.handleOk_up g6⟩

theorem worldOk_arrInsert_all (D : SlabID → DigestFn 4) (w : World) (p : SlabID) (i : Nat) (v : WVal) (cx : Ctx)
    (w' : World) (cx' : Ctx) (H : WorldOk D w cx.ctr) (hh : HandleOk w p)
    (hv : WValOk w p (maxInlineArr w.T) v) (h : w.arrInsert p i v cx = .ok (w', cx')) :
    WorldOk D w' cx'.ctr ∧ cx.ctr ≤ cx'.ctr ∧ InsertedAt w w' p i v ∧ HandleOk w' p ∧ SigFrame w w' p ∧
      HandlesKept w w' ∧ AncFrame w w' p (Moved (some v) none) := by
  obtain ⟨rank0, R0⟩ := H
  obtain ⟨g1, g2, g3, g4, g5, _⟩ := arrInsert_okA R0 hh hv h
  obtain ⟨k1, k2⟩ := all_of_opFrame R0 (fun r Hr => (arrInsert_okA Hr hh hv h).2.2.2.2.2)
  exact ⟨g1, g2, g3, g4, g5, k1, k2⟩

theorem worldOk_arrSet_all (D : SlabID → DigestFn 4) (w : World) (p : SlabID) (i : Nat) (v : WVal) (cx : Ctx)
    (old : Elem) (w' : World) (cx' : Ctx) (H : WorldOk D w cx.ctr) (hh : HandleOk w p)
    (hv : WValOk w p (maxInlineArr w.T) v) (h : w.arrSet p i v cx = .ok (old, w', cx')) :
    WorldOk D w' cx'.ctr ∧ cx.ctr ≤ cx'.ctr ∧ SetAt w w' p i v old ∧ HandleOk w' p ∧ SigFrame w w' p ∧
      HandlesKept w w' ∧ AncFrame w w' p (Moved (some v) (some old)) := by
  obtain ⟨rank0, R0⟩ := H
  obtain ⟨g1, g2, g3, g4, g5, _⟩ := arrSet_okA R0 hh hv h
  obtain ⟨k1, k2⟩ := all_of_opFrame R0 (fun r Hr => (arrSet_okA Hr hh hv h).2.2.2.2.2)
  exact ⟨g1, g2, g3, g4, g5, k1, k2⟩

theorem worldOk_arrRemove_all (D : SlabID → DigestFn 4) (w : World) (p : SlabID) (i : Nat) (cx : Ctx)
    (old : Elem) (w' : World) (cx' : Ctx) (H : WorldOk D w cx.ctr) (hh : HandleOk w p)
    (h : w.arrRemove p i cx = .ok (old, w', cx')) :
    WorldOk D w' cx'.ctr ∧ cx.ctr ≤ cx'.ctr ∧ RemovedAt w w' p i old ∧ HandleOk w' p ∧ SigFrame w w' p ∧
      HandlesKept w w' ∧ AncFrame w w' p (Moved none (some old)) := by
  obtain ⟨rank0, R0⟩ := H
  obtain ⟨g1, g2, g3, g4, g5, _⟩ := arrRemove_okA R0 hh h
  obtain ⟨k1, k2⟩ := all_of_opFrame R0 (fun r Hr => (arrRemove_okA Hr hh h).2.2.2.2.2)
  exact ⟨g1, g2, g3, g4, g5, k1, k2⟩

theorem worldOk_mapSet_all (D : SlabID → DigestFn 4) (w : World) (p : SlabID) (k : MKey) (v : WVal) (cx : Ctx)
    (old : Option Elem) (w' : World) (cx' : Ctx) (H : WorldOk D w cx.ctr) (hh : HandleOk w p)
    (hk : KeyOk w.T 4 (D p) k) (hv : WValOk w p (maxInlineMapValue w.T k.size) v)
    (h : w.mapSet p k v cx = .ok (old, w', cx')) :
    WorldOk D w' cx'.ctr ∧ cx.ctr ≤ cx'.ctr ∧ MapSetAt w w' p k v old ∧ HandleOk w' p ∧ SigFrame w w' p ∧
      HandlesKept w w' ∧ AncFrame w w' p (Moved (some v) old) := by
  obtain ⟨rank0, R0⟩ := H
  obtain ⟨g1, g2, g3, g4, g5, _⟩ := mapSet_okA R0 hh hk hv h
  obtain ⟨k1, k2⟩ := all_of_opFrame R0 (fun r Hr => (mapSet_okA Hr hh hk hv h).2.2.2.2.2)
  exact ⟨g1, g2, g3, g4, g5, k1, k2⟩

theorem worldOk_mapRemove_all (D : SlabID → DigestFn 4) (w : World) (p : SlabID) (k : MKey) (cx : Ctx)
    (rk : MKey) (rv : Elem) (w' : World) (cx' : Ctx) (H : WorldOk D w cx.ctr) (hh : HandleOk w p)
    (hk : KeyOk w.T 4 (D p) k) (h : w.mapRemove p k cx = .ok (rk, rv, w', cx')) :
    WorldOk D w' cx'.ctr ∧ cx.ctr ≤ cx'.ctr ∧ MapRemovedAt w w' p k rk rv ∧ HandleOk w' p ∧ SigFrame w w' p ∧
      HandlesKept w w' ∧ AncFrame w w' p (Moved none (some rv)) := by
  obtain ⟨rank0, R0⟩ := H
  obtain ⟨g1, g2, g3, g4, g5, _⟩ := mapRemove_okA R0 hh hk h
  obtain ⟨k1, k2⟩ := all_of_opFrame R0 (fun r Hr => (mapRemove_okA Hr hh hk h).2.2.2.2.2)
  exact ⟨g1, g2, g3, g4, g5, k1, k2⟩

theorem worldOk_setType_all (D : SlabID → DigestFn 4) (w : World) (p : SlabID) (ty : Nat) (cx : Ctx) (w' : World)
    (cx' : Ctx) (H : WorldOk D w cx.ctr) (hh : HandleOk w p) (h : w.setType p ty cx = .ok (w', cx')) :
    WorldOk D w' cx'.ctr ∧ cx.ctr ≤ cx'.ctr ∧
      (∃ c c', w.cont? p = some c ∧ w'.cont? p = some c' ∧ c'.storedElems = c.storedElems ∧ c'.vid = c.vid) ∧
      HandleOk w' p ∧ ContsSig w w' ∧ HandlesKept w w' ∧ AncFrame w w' p (Moved none none) := by
  obtain ⟨rank0, R0⟩ := H
  obtain ⟨g1, g2, g3, g4, g5, _⟩ := setType_okA R0 hh h
  obtain ⟨k1, k2⟩ := all_of_opFrame R0 (fun r Hr => (setType_okA Hr hh h).2.2.2.2.2)
  exact ⟨g1, g2, g3, g4, g5, k1, k2⟩

/-- `Array.Insert` through a current handle: `WorldOk'`, the list-level result, ALL current handles
    stay current, and everything that is not `p`, above `p`, or the stored child is untouched. -/
theorem worldOk'_arrInsert_all (D : SlabID → DigestFn 4) (w : World) (p : SlabID) (i : Nat) (v : WVal) (cx : Ctx)
    (w' : World) (cx' : Ctx) (H : WorldOk' D w cx.ctr) (hh : HandleOk w p)
    (hv : WValOk w p (maxInlineArr w.T) v) (h : w.arrInsert p i v cx = .ok (w', cx')) :
    WorldOk' D w' cx'.ctr ∧ cx.ctr ≤ cx'.ctr ∧ InsertedAt w w' p i v ∧ HandleOk w' p ∧ SigFrame w w' p ∧
      HandlesKept w w' ∧ AncFrame w w' p (Moved (some v) none) := by
  obtain ⟨H0, S⟩ := H.down
  obtain ⟨w0', h0, S'⟩ := sim_arrInsert S h
  obtain ⟨g1, g2, g3, g4, g5, k1, k2⟩ :=
    worldOk_arrInsert_all D _ p i v cx _ cx' H0 (S.handleOk_down hh) (S.wValOk hv) h0
  exact ⟨WorldOk'.up g1 S' g2, g2, S.insertedAt S' g3, S'.handleOk_up g4, S.sigFrame S' g5,
    S.handlesKept S' k1, S.ancFrame S' k2⟩

theorem worldOk'_arrSet_all (D : SlabID → DigestFn 4) (w : World) (p : SlabID) (i : Nat) (v : WVal) (cx : Ctx)
    (old : Elem) (w' : World) (cx' : Ctx) (H : WorldOk' D w cx.ctr) (hh : HandleOk w p)
    (hv : WValOk w p (maxInlineArr w.T) v) (h : w.arrSet p i v cx = .ok (old, w', cx')) :
    WorldOk' D w' cx'.ctr ∧ cx.ctr ≤ cx'.ctr ∧ SetAt w w' p i v old ∧ HandleOk w' p ∧ SigFrame w w' p ∧
      HandlesKept w w' ∧ AncFrame w w' p (Moved (some v) (some old)) := by
  obtain ⟨H0, S⟩ := H.down
  obtain ⟨w0', h0, S'⟩ := sim_arrSet S h
  obtain ⟨g1, g2, g3, g4, g5, k1, k2⟩ :=
    worldOk_arrSet_all D _ p i v cx old _ cx' H0 (S.handleOk_down hh) (S.wValOk hv) h0
  exact ⟨WorldOk'.up g1 S' g2, g2, S.setAt S' g3, S'.handleOk_up g4, S.sigFrame S' g5,
    S.handlesKept S' k1, S.ancFrame S' k2⟩

theorem worldOk'_arrRemove_all (D : SlabID → DigestFn 4) (w : World) (p : SlabID) (i : Nat) (cx : Ctx)
    (old : Elem) (w' : World) (cx' : Ctx) (H : WorldOk' D w cx.ctr) (hh : HandleOk w p)
    (h : w.arrRemove p i cx = .ok (old, w', cx')) :
    WorldOk' D w' cx'.ctr ∧ cx.ctr ≤ cx'.ctr ∧ RemovedAt w w' p i old ∧ HandleOk w' p ∧ SigFrame w w' p ∧
      HandlesKept w w' ∧ AncFrame w w' p (Moved none (some old)) := by
  obtain ⟨H0, S⟩ := H.down
  obtain ⟨w0', h0, S'⟩ := sim_arrRemove S h
  obtain ⟨g1, g2, g3, g4, g5, k1, k2⟩ := worldOk_arrRemove_all D _ p i cx old _ cx' H0 (S.handleOk_down hh) h0
  exact ⟨WorldOk'.up g1 S' g2, g2, S.removedAt S' g3, S'.handleOk_up g4, S.sigFrame S' g5,
    S.handlesKept S' k1, S.ancFrame S' k2⟩

theorem worldOk'_mapSet_all (D : SlabID → DigestFn 4) (w : World) (p : SlabID) (k : MKey) (v : WVal) (cx : Ctx)
    (old : Option Elem) (w' : World) (cx' : Ctx) (H : WorldOk' D w cx.ctr) (hh : HandleOk w p)
    (hk : KeyOk w.T 4 (D p) k) (hv : WValOk w p (maxInlineMapValue w.T k.size) v)
    (h : w.mapSet p k v cx = .ok (old, w', cx')) :
    WorldOk' D w' cx'.ctr ∧ cx.ctr ≤ cx'.ctr ∧ MapSetAt w w' p k v old ∧ HandleOk w' p ∧ SigFrame w w' p ∧
      HandlesKept w w' ∧ AncFrame w w' p (Moved (some v) old) := by
  obtain ⟨H0, S⟩ := H.down
  obtain ⟨w0', h0, S'⟩ := sim_mapSet S h
  obtain ⟨g1, g2, g3, g4, g5, k1, k2⟩ :=
    worldOk_mapSet_all D _ p k v cx old _ cx' H0 (S.handleOk_down hh) hk (S.wValOk hv) h0
  exact ⟨WorldOk'.up g1 S' g2, g2, S.mapSetAt S' g3, S'.handleOk_up g4, S.sigFrame S' g5,
    S.handlesKept S' k1, S.ancFrame S' k2⟩

theorem worldOk'_mapRemove_all (D : SlabID → DigestFn 4) (w : World) (p : SlabID) (k : MKey) (cx : Ctx)
    (rk : MKey) (rv : Elem) (w' : World) (cx' : Ctx) (H : WorldOk' D w cx.ctr) (hh : HandleOk w p)
    (hk : KeyOk w.T 4 (D p) k) (h : w.mapRemove p k cx = .ok (rk, rv, w', cx')) :
    WorldOk' D w' cx'.ctr ∧ cx.ctr ≤ cx'.ctr ∧ MapRemovedAt w w' p k rk rv ∧ HandleOk w' p ∧ SigFrame w w' p ∧
      HandlesKept w w' ∧ AncFrame w w' p (Moved none (some rv)) := by
  obtain ⟨H0, S⟩ := H.down
  obtain ⟨w0', h0, S'⟩ := sim_mapRemove S h
  obtain ⟨g1, g2, g3, g4, g5, k1, k2⟩ := worldOk_mapRemove_all D _ p k cx rk rv _ cx' H0 (S.handleOk_down hh) hk h0
  exact ⟨WorldOk'.up g1 S' g2, g2, S.mapRemovedAt S' g3, S'.handleOk_up g4, S.sigFrame S' g5,
    S.handlesKept S' k1, S.ancFrame S' k2⟩

theorem worldOk'_setType_all (D : SlabID → DigestFn 4) (w : World) (p : SlabID) (ty : Nat) (cx : Ctx) (w' : World)
    (cx' : Ctx) (H : WorldOk' D w cx.ctr) (hh : HandleOk w p) (h : w.setType p ty cx = .ok (w', cx')) :
    WorldOk' D w' cx'.ctr ∧ cx.ctr ≤ cx'.ctr ∧
      (∃ c c', w.cont? p = some c ∧ w'.cont? p = some c' ∧ c'.storedElems = c.storedElems ∧ c'.vid = c.vid) ∧
      HandleOk w' p ∧ ContsSig w w' ∧ HandlesKept w w' ∧ AncFrame w w' p (Moved none none) := by
  obtain ⟨H0, S⟩ := H.down
  obtain ⟨w0', h0, S'⟩ := sim_setType S h
  obtain ⟨g1, g2, ⟨c, c', g3, g4, g5, g6⟩, g7, g8, k1, k2⟩ :=
    worldOk_setType_all D _ p ty cx _ cx' H0 (S.handleOk_down hh) h0
  exact ⟨WorldOk'.up g1 S' g2, g2, ⟨c, c', by rw [← S.cont?]; exact g3, by rw [← S'.cont?]; exact g4, g5, g6⟩,
    S'.handleOk_up g7, ⟨by rw [← S'.T, g8.T, S.T], fun q => by rw [← S'.cont?, g8.sig q, S.cont?]⟩,
    S.handlesKept S' k1, S.ancFrame S' k2⟩

theorem worldOk'_arrInsert (D : SlabID → DigestFn 4) (w : World) (p : SlabID) (i : Nat) (v : WVal) (cx : Ctx)
    (w' : World) (cx' : Ctx) (H : WorldOk' D w cx.ctr) (hh : HandleOk w p)
    (hv : WValOk w p (maxInlineArr w.T) v) (h : w.arrInsert p i v cx = .ok (w', cx')) :
    WorldOk' D w' cx'.ctr ∧ cx.ctr ≤ cx'.ctr ∧ InsertedAt w w' p i v ∧ HandleOk w' p ∧ SigFrame w w' p :=
  let ⟨g1, g2, g3, g4, g5, _⟩ := worldOk'_arrInsert_all D w p i v cx w' cx' H hh hv h
  ⟨g1, g2, g3, g4, g5⟩

theorem worldOk'_arrSet (D : SlabID → DigestFn 4) (w : World) (p : SlabID) (i : Nat) (v : WVal) (cx : Ctx)
    (old : Elem) (w' : World) (cx' : Ctx) (H : WorldOk' D w cx.ctr) (hh : HandleOk w p)
    (hv : WValOk w p (maxInlineArr w.T) v) (h : w.arrSet p i v cx = .ok (old, w', cx')) :
    WorldOk' D w' cx'.ctr ∧ cx.ctr ≤ cx'.ctr ∧ SetAt w w' p i v old ∧ HandleOk w' p ∧ SigFrame w w' p :=
  let ⟨g1, g2, g3, g4, g5, _⟩ := worldOk'_arrSet_all D w p i v cx old w' cx' H hh hv h
  ⟨g1, g2, g3, g4, g5⟩

theorem worldOk'_arrRemove (D : SlabID → DigestFn 4) (w : World) (p : SlabID) (i : Nat) (cx : Ctx)
    (old : Elem) (w' : World) (cx' : Ctx) (H : WorldOk' D w cx.ctr) (hh : HandleOk w p)
    (h : w.arrRemove p i cx = .ok (old, w', cx')) :
    WorldOk' D w' cx'.ctr ∧ cx.ctr ≤ cx'.ctr ∧ RemovedAt w w' p i old ∧ HandleOk w' p ∧ SigFrame w w' p :=
  let ⟨g1, g2, g3, g4, g5, _⟩ := worldOk'_arrRemove_all D w p i cx old w' cx' H hh h
  ⟨g1, g2, g3, g4, g5⟩

theorem worldOk'_mapSet (D : SlabID → DigestFn 4) (w : World) (p : SlabID) (k : MKey) (v : WVal) (cx : Ctx)
    (old : Option Elem) (w' : World) (cx' : Ctx) (H : WorldOk' D w cx.ctr) (hh : HandleOk w p)
    (hk : KeyOk w.T 4 (D p) k) (hv : WValOk w p (maxInlineMapValue w.T k.size) v)
    (h : w.mapSet p k v cx = .ok (old, w', cx')) :
    WorldOk' D w' cx'.ctr ∧ cx.ctr ≤ cx'.ctr ∧ MapSetAt w w' p k v old ∧ HandleOk w' p ∧ SigFrame w w' p :=
  let ⟨g1, g2, g3, g4, g5, _⟩ := worldOk'_mapSet_all D w p k v cx old w' cx' H hh hk hv h
  ⟨g1, g2, g3, g4, g5⟩

theorem worldOk'_mapRemove (D : SlabID → DigestFn 4) (w : World) (p : SlabID) (k : MKey) (cx : Ctx)
    (rk : MKey) (rv : Elem) (w' : World) (cx' : Ctx) (H : WorldOk' D w cx.ctr) (hh : HandleOk w p)
    (hk : KeyOk w.T 4 (D p) k) (h : w.mapRemove p k cx = .ok (rk, rv, w', cx')) :
    WorldOk' D w' cx'.ctr ∧ cx.ctr ≤ cx'.ctr ∧ MapRemovedAt w w' p k rk rv ∧ HandleOk w' p ∧ SigFrame w w' p :=
  let ⟨g1, g2, g3, g4, g5, _⟩ := worldOk'_mapRemove_all D w p k cx rk rv w' cx' H hh hk h
  ⟨g1, g2, g3, g4, g5⟩

/-- `Array.Get` (also: the mutable iterator arriving at index `i`) -/
theorem worldOk'_arrGet (D : SlabID → DigestFn 4) (w : World) (p : SlabID) (i : Nat) (el : Elem) (w' : World)
    (ctr : Nat) (H : WorldOk' D w ctr) (hh : HandleOk w p) (h : w.arrGet p i = .ok (el, w')) :
    WorldOk' D w' ctr ∧ (∀ z, w'.cont? z = w.cont? z) ∧
      (∃ a, w.cont? p = some (.arr a) ∧ a.toList[i]? = some el) ∧
      (∀ z, HandleOk w z → HandleOk w' z) ∧
      (∀ x, el.pay = .ref x → (w.cont? x).isSome → HandleOk w' x) := by
  obtain ⟨H0, S⟩ := H.down
  obtain ⟨w0', h0, S'⟩ := sim_arrGet S h
  obtain ⟨g1, g2, ⟨a, g3, g3'⟩, g4, g5⟩ := arrGet_ok H0 (S.handleOk_down hh) h0
  refine ⟨WorldOk'.up g1 S' (Nat.le_refl _), fun z => by rw [← S'.cont?, g2, S.cont?],
    ⟨a, by rw [← S.cont?]; exact g3, g3'⟩, fun z hz => S'.handleOk_up (g4 z (S.handleOk_down hz)),
    fun x hx hl => S'.handleOk_up (g5 x hx (by rw [S.cont?]; exact hl))⟩

theorem worldOk'_mapGet (D : SlabID → DigestFn 4) (w : World) (p : SlabID) (k : MKey) (el : Elem) (w' : World)
    (ctr : Nat) (H : WorldOk' D w ctr) (hh : HandleOk w p) (hk : KeyOk w.T 4 (D p) k)
    (h : w.mapGet p k = .ok (el, w')) :
    WorldOk' D w' ctr ∧ (∀ z, w'.cont? z = w.cont? z) ∧
      (∃ m, w.cont? p = some (.map m) ∧ (k, el) ∈ m.toList) ∧
      (∀ z, HandleOk w z → HandleOk w' z) ∧
      (∀ x, el.pay = .ref x → (w.cont? x).isSome → HandleOk w' x) := by
  obtain ⟨H0, S⟩ := H.down
  obtain ⟨w0', h0, S'⟩ := sim_mapGet S h
  obtain ⟨g1, g2, ⟨m, g3, g3'⟩, g4, g5⟩ := mapGet_ok H0 (S.handleOk_down hh) hk h0
  refine ⟨WorldOk'.up g1 S' (Nat.le_refl _), fun z => by rw [← S'.cont?, g2, S.cont?],
    ⟨m, by rw [← S.cont?]; exact g3, g3'⟩, fun z hz => S'.handleOk_up (g4 z (S.handleOk_down hz)),
    fun x hx hl => S'.handleOk_up (g5 x hx (by rw [S.cont?]; exact hl))⟩

/-- reopening the storage: every closure is dropped, so the FULL invariant `WorldOk` holds again -/
theorem worldOk'_reopen (D : SlabID → DigestFn 4) (w : World) (ctr : Nat) (H : WorldOk' D w ctr) :
    WorldOk D w.reopen ctr ∧ (∀ z, w.reopen.cont? z = w.cont? z) ∧
      (∀ z, (∀ q, ¬ Holds w q z) → HandleOk w.reopen z) := by
  obtain ⟨H0, S⟩ := H.down
  obtain ⟨g1, g2, g3⟩ := reopen_ok H0
  have e : w.prune.reopen = w.reopen := rfl
  rw [e] at g1 g3
  exact ⟨g1, fun z => rfl, fun z hz => g3 z (fun q hq => hz q hq)⟩

theorem worldOk'_setType (D : SlabID → DigestFn 4) (w : World) (p : SlabID) (ty : Nat) (cx : Ctx) (w' : World)
    (cx' : Ctx) (H : WorldOk' D w cx.ctr) (hh : HandleOk w p) (h : w.setType p ty cx = .ok (w', cx')) :
    WorldOk' D w' cx'.ctr ∧ cx.ctr ≤ cx'.ctr ∧
      (∃ c c', w.cont? p = some c ∧ w'.cont? p = some c' ∧ c'.storedElems = c.storedElems ∧ c'.vid = c.vid) ∧
      HandleOk w' p :=
  let ⟨g1, g2, g3, g4, _⟩ := worldOk'_setType_all D w p ty cx w' cx' H hh h
  ⟨g1, g2, g3, g4⟩

end Atree.C10W

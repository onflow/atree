import AtreeProofs.WorldInv
import AtreeProofs.WorldLemmas
import AtreeProofs.World.PopOps
/-
  C11 — Detached containers and stale handles cannot corrupt a former parent.
  PROPERTY THEOREMS about the World model.
-/
namespace Atree.C11
open Atree Gen World

/-- A child whose recorded slot in its former ARRAY parent is gone (index unknown) notifies
    nobody: the callback answers "not found" before any write; every container, every index table
    and the effect log are untouched; only the child's own callback is cleared. -/
theorem detached_array_child_leaves_parent_unchanged (fuel : Nat) (w : World) (x : SlabID) (hi : HInfo) (cx : Ctx)
    (c : Cont) (pa : Arr)
    (hh : AList.find? w.hinfo x = some hi) (hc : w.cont? x = some c)
    (hpa : w.cont? hi.parent = some (.arr pa))
    (hgone : AList.find? (w.idxOf hi.parent) x = none) :
    notifyParent (fuel + 1) w x cx = .ok (w, cx) ∨
    notifyParent (fuel + 1) w x cx = .ok ({ w with hinfo := AList.erase w.hinfo x }, cx) :=
  notify_detached hh hc (.inr (.inl ⟨pa, hpa, .inl hgone⟩))

/-- … and the same when the recorded slot now holds something else (another value or another
    container): the identity check precedes the write.
    VACUOUS ON VALID WORLDS: `hidx`, `hget`, `hother` contradict `MutIdxOk`, a clause
    of the invariant (`C11.replaced_slot_hyps_contradict_invariant`) — `Array.Set` erases the index
    of the child it overwrites, so "the slot holds ANOTHER container" reaches the callback
    through the index-unknown branch; that case is `C11.overwritten_child_leaves_parent_unchanged`
    (Props/C11Slot.lean) and `C11.detached_by_arrSet` + `C11.detached_*` (Props/C11W.lean).  This is a
    reading of the identity check of the Go callback (the closure installed by
    `Array.setCallbackWithChild`), which guards states with a second, stale index (the dual-handle
    findings F2b). -/
theorem replaced_slot_leaves_parent_unchanged (fuel : Nat) (w : World) (x : SlabID) (hi : HInfo) (cx : Ctx)
    (c : Cont) (pa : Arr) (idx : Nat) (el : Elem)
    (hh : AList.find? w.hinfo x = some hi) (hc : w.cont? x = some c)
    (hpa : w.cont? hi.parent = some (.arr pa))
    (hidx : AList.find? (w.idxOf hi.parent) x = some idx) (hget : pa.get idx = .ok el) (hother : el.pay ≠ .ref x) :
    notifyParent (fuel + 1) w x cx = .ok (w, cx) ∨
    notifyParent (fuel + 1) w x cx = .ok ({ w with hinfo := AList.erase w.hinfo x }, cx) :=
  notify_detached hh hc (.inr (.inl ⟨pa, hpa, .inr ⟨idx, el, hidx, hget, hother⟩⟩))

/-- MAP parent: the key is absent, or holds something else: same conclusion. -/
theorem detached_map_child_leaves_parent_unchanged (fuel : Nat) (w : World) (x : SlabID) (hi : HInfo) (cx : Ctx)
    (c : Cont) (pm : OMap 3) (k : MKey)
    (hh : AList.find? w.hinfo x = some hi) (hc : w.cont? x = some c) (hk : hi.key = some k)
    (hpm : w.cont? hi.parent = some (.map pm))
    (hslot : pm.get w.mcfg k = .error .keyNotFound ∨ ∃ k' el, pm.get w.mcfg k = .ok (k', el) ∧ el.pay ≠ .ref x) :
    notifyParent (fuel + 1) w x cx = .ok (w, cx) ∨
    notifyParent (fuel + 1) w x cx = .ok ({ w with hinfo := AList.erase w.hinfo x }, cx) :=
  notify_detached hh hc (.inr (.inr ⟨pm, k, hpm, hk, hslot⟩))

/-- Removing a child from an array parent forgets its index, so later mutations of the child fall
    under `detached_array_child_leaves_parent_unchanged`. -/
theorem remove_forgets_index (w : World) (p : SlabID) (i : Nat) (cx : Ctx) (old : Elem) (x : SlabID)
    (w' : World) (cx' : Ctx) (h : w.arrRemove p i cx = .ok (old, w', cx')) (hx : old.pay = .ref x)
    (hcont : (w.cont? x).isSome) :
    AList.find? (w'.idxOf p) x = none := by
  obtain ⟨a, old1, a', cx1, _, w3, cx3, ov, w4, hpa, hrem, rfl, hnp, hun, rfl⟩ := arrRemove_ok_iff.mp h
  have hsome : (w3.cont? x).isSome :=
    (DomRel.steps (((self_step hpa (.arrRemove hrem)).trans (.mut1 (.shift _ _ p _))).trans
      (notifyParent_steps hnp))).keeps_isSome hcont
  obtain ⟨hpay, _, _, _, _, hcase⟩ := uninlineIfNeeded_ok hun
  have hx1 : old1.pay = .ref x := by rw [← hpay]; exact hx
  rcases hcase with ⟨_, _, _, _, hnone⟩ | ⟨x', c, hov, hp', _, _⟩
  · rw [hnone x hx1] at hsome; cases hsome
  · rw [hx1] at hp'; cases hp'; subst hov
    simp [AList.find?_erase]

section NonVacuity
/-! Same run as in C10 (`AtreeProofs/World/Scenario.lean`).  `mid11` is the state at the call of
    `notifyParent` inside the removal of a value from the DETACHED child `X` (after `X` has been
    removed from `R`): `X` still has its callback, would fit inline again, but its slot is gone. -/
open Atree.Scenario

/-- The hypotheses of `detached_array_child_leaves_parent_unchanged` are met at `mid11`, and the
    second alternative of its conclusion is the one that happens (the callback is cleared). -/
theorem detached_hyps_met :
    ∃ (c : Cont) (pa : Arr),
      AList.find? mid11.1.hinfo X = some ⟨R, none, 117, 0⟩ ∧ mid11.1.cont? X = some c ∧
      mid11.1.cont? R = some (.arr pa) ∧ AList.find? (mid11.1.idxOf R) X = none ∧
      notifyParent (3 + 1) mid11.1 X mid11.2 =
        .ok ({ mid11.1 with hinfo := AList.erase mid11.1.hinfo X }, mid11.2) ∧
      ¬ (c.isInlined = false ∧ c.inlinable 117 = false) := by
  refine ⟨.arr (arrOf mid11.1 X), arrOf mid11.1 R, by decide, rfl, rfl, by decide, ?_, by decide⟩
  rw [notifyParent_eq_notifyS]; rfl

/-- what the operations return around the detachment: the removal hands back the 19-byte reference
    and forgets the index; the later mutation of the detached child writes only the child
    (`store X`), leaves `R` empty and clears the stale callback -/
theorem detached_run_facts :
    s9.1.arrRemove R 0 s9.2 = .ok s10 ∧ s10.1.pay = .ref X ∧ (s9.1.cont? X).isSome = true ∧
    AList.find? (s10.2.1.idxOf R) X = none ∧
    s10.2.1.arrRemove X 0 s10.2.2 = .ok s11 ∧
    s11.1 = ⟨20, .val 1⟩ ∧ s11.2.2.eff = s10.2.2.eff ++ [.store X] ∧
    (s11.2.1.cont? R).map Cont.storedElems = (s10.2.1.cont? R).map Cont.storedElems ∧
    (s11.2.1.cont? R).map Cont.rootSize = (s10.2.1.cont? R).map Cont.rootSize ∧
    s11.2.1.hinfo = [] ∧ s10.2.1.hinfo = [(X, ⟨R, none, 117, 0⟩)] := by
  refine ⟨run_ok.2.2.2.2.2.2.2.1, by decide, by decide, by decide, run_ok.2.2.2.2.2.2.2.2,
    by decide, by decide, by decide, by decide, by decide, by decide⟩

/-- `remove_forgets_index` applies to the removal of `X` from `R` -/
theorem remove_forgets_index_applies : AList.find? (s10.2.1.idxOf R) X = none :=
  remove_forgets_index s9.1 R 0 s9.2 s10.1 X s10.2.1 s10.2.2 detached_run_facts.1 (by decide) (by decide)

end NonVacuity

end Atree.C11

import AtreeProofs.Props.C11
import AtreeProofs.Props.C10WPopOps
import AtreeProofs.World.C11Aux
import AtreeProofs.World.C11Scenario
/-
  C11 — Detached containers and stale handles cannot corrupt a former parent: the WHOLE-OPERATION
  statements.  PROPERTY THEOREMS about the World model.

  `Props/C11.lean` unfolds ONE step of `notifyParent` under hypotheses about the slot the closure
  recorded.  This file connects those hypotheses to the operations that detach a container: after the
  detaching operation (through a current handle, in a valid world) the container handed back is a
  `DetachedRoot`; it stays one under every later operation that does not store it; every notification
  from it is a no-op; a whole operation through its handle writes nothing but the container itself.
  In the model, as in the Go code, `Array.Set` deletes the `mutableElementIndex`
  entry of the child it overwrites, so "the slot holds another container" reaches the callback
  through the INDEX-UNKNOWN branch (`C11.detached_array_child_leaves_parent_unchanged`), never
  through the identity check.
  Non-vacuity: runs of the model (`AtreeProofs/World/C11Scenario.lean`), the invariant being
  established by chaining the operation theorems from the empty world.
-/
namespace Atree.C11
open Atree Gen World

/-- The hypotheses `hpa hidx hget hother` of `C11.replaced_slot_leaves_parent_unchanged` contradict
    the global invariant: in a valid world the index recorded for `x` in an array holds a
    reference to `x`. -/
theorem replaced_slot_hyps_contradict_invariant (D : SlabID → DigestFn 4) (w : World) (ctr : Nat)
    (x parent : SlabID) (pa : Arr) (idx : Nat) (el : Elem)
    (H : WorldOk' D w ctr)
    (hpa : w.cont? parent = some (.arr pa))
    (hidx : AList.find? (w.idxOf parent) x = some idx) (hget : pa.get idx = .ok el)
    (hother : el.pay ≠ .ref x) : False := by
  obtain ⟨e, he, hpay⟩ := C10W.worldOk'_mutIdxOk H parent pa hpa x idx hidx
  have hok : ArrOk w.T pa ctr := (C10W.worldOk'_contOk H parent _ hpa).1
  obtain ⟨rank, H0⟩ := H
  have hlt : idx < pa.toList.length := (List.getElem?_eq_some_iff.mp he).1
  have hg := (hok.get_spec H0.legal idx).1 hlt
  rw [hg] at hget
  cases hget
  apply hother
  rw [← hpay]
  congr 1
  rw [List.getD_eq_getElem?_getD, he]; rfl

/-- Overwriting a child in an array parent (by anything but the same container) forgets its index
    (the `delete(a.mutableElementIndex, …)` of `Array.Set`), so later mutations of the child fall under
    `C11.detached_array_child_leaves_parent_unchanged`.  Purely functional: no invariant needed. -/
theorem set_forgets_index (w : World) (p : SlabID) (i : Nat) (v : WVal) (cx : Ctx) (old : Elem) (x : SlabID)
    (w' : World) (cx' : Ctx) (h : w.arrSet p i v cx = .ok (old, w', cx')) (hx : old.pay = .ref x)
    (hcont : (w.cont? x).isSome) (hv : ∀ wr, v ≠ .child x wr) :
    AList.find? (w'.idxOf p) x = none := by
  obtain ⟨old1, w1, cx1, ov, w2, hraw, hun, _, hne, _⟩ := arrSet_ok_cases h
  have hsome : (w1.cont? x).isSome := (DomRel.steps ((mutual_steps _).2.1 hraw)).keeps_isSome hcont
  obtain ⟨hpay, _, _, _, _, hcase⟩ := uninlineIfNeeded_ok hun
  have hx1 : old1.pay = .ref x := by rw [← hpay]; exact hx
  rcases hcase with ⟨_, _, _, _, hnone⟩ | ⟨x', c, hov, hp', _, _⟩
  · rw [hnone x hx1] at hsome; cases hsome
  · rw [hx1] at hp'; cases hp'
    rw [hne x hov hv]
    simp [AList.find?_erase]

/-- The dual (the guard `existingValueID != newValue.ValueID()` of `Array.Set`): overwriting a slot with the SAME container keeps
    (re-records) its index.  (Purely functional; in a valid world the Go API forbids storing a
    container that is already referenced — `WValOk` — so this is the model's transcription of the
    guard, not a reachable use.) -/
theorem set_same_keeps_index (w : World) (p : SlabID) (i : Nat) (wr : Nat) (cx : Ctx) (old : Elem) (x : SlabID)
    (w' : World) (cx' : Ctx) (h : w.arrSet p i (.child x wr) cx = .ok (old, w', cx')) (hx : old.pay = .ref x) :
    AList.find? (w'.idxOf p) x = some i := by
  obtain ⟨old1, w1, cx1, ov, w2, hraw, hun, hnone, _, hsame⟩ := arrSet_ok_cases h
  -- the raw set installs the callback: index of `x` recorded as `i`
  have h1 : AList.find? (w1.idxOf p) x = some i := by
    obtain ⟨_, _, _, _, _, _, _, _, _, _, _, _, rfl⟩ := arrSetRaw_ok_iff.mp hraw
    simp [World.setCallbackArr, World.idxOf, World.setIdx, AList.find?_insert]
  obtain ⟨hpay, _, hm, _, _, hcase⟩ := uninlineIfNeeded_ok hun
  have h2 : AList.find? (w2.idxOf p) x = some i := by
    unfold World.idxOf at h1 ⊢; rw [hm]; exact h1
  rcases hcase with ⟨hov, _⟩ | ⟨x', c, hov, hp', _, _⟩
  · rw [hnone hov]; exact h2
  · have : old1.pay = .ref x := by rw [← hpay]; exact hx
    rw [this] at hp'; cases hp'
    rw [hsame x wr hov rfl]; exact h2

/-- In a valid world every notification from a detached root (a live container that nobody refers
    to) is a no-op: no container, no index table, no storage effect changes; at most the stale
    closure of the notifier is dropped. -/
theorem detached_root_notification_is_noop (D : SlabID → DigestFn 4) (w : World) (ctr : Nat) (x : SlabID)
    (H : WorldOk' D w ctr) (hx : DetachedRoot w x) :
    ∀ fuel cx2 w2 cx2', notifyParent fuel w x cx2 = .ok (w2, cx2') →
      cx2' = cx2 ∧ (w2 = w ∨ w2 = { w with hinfo := AList.erase w.hinfo x }) :=
  fun fuel cx2 w2 cx2' h =>
    C10W.detached_root_notification_is_noop D (fun _ => False) fuel w x cx2 w2 cx2' ctr H hx h

/-- RESTATEMENT of `C11.replaced_slot_leaves_parent_unchanged` with hypotheses that reachable worlds
    satisfy.  A child container `x` of the array `p` is OVERWRITTEN by another container `y`
    (`Array.Set` through a current handle, in a valid world; `y` an unreferenced live container):
    (a) slot `i` of `p` now holds ANOTHER container (`y ≠ x`);
    (b) the `mutableElementIndex` entry of `x` is gone (deleted by `Array.Set`);
    (c) `x` is a detached root: live, referenced by nobody, standalone, same data, same value ID;
    (d) the global invariant holds afterwards;
    (e) EVERY later notification from `x` (whatever its stale closure says) changes no container,
        no index table and no storage effect: the former parent's content, size bookkeeping and
        persisted form are untouched; at most the closure of `x` is cleared. -/
theorem overwritten_child_leaves_parent_unchanged (D : SlabID → DigestFn 4) (w : World) (p : SlabID) (i : Nat)
    (y : SlabID) (wr : Nat) (cx : Ctx) (old : Elem) (w' : World) (cx' : Ctx) (x : SlabID) (c : Cont)
    (H : WorldOk' D w cx.ctr) (hh : HandleOk w p) (hv : WValOk w p (maxInlineArr w.T) (.child y wr))
    (h : w.arrSet p i (.child y wr) cx = .ok (old, w', cx')) (hx : old.pay = .ref x) (hc : w.cont? x = some c) :
    (∃ a' e, w'.cont? p = some (.arr a') ∧ a'.toList[i]? = some e ∧ e.pay = .ref y ∧ y ≠ x) ∧
    AList.find? (w'.idxOf p) x = none ∧
    (DetachedRoot w' x ∧ ∃ c', w'.cont? x = some c' ∧ c'.isInlined = false ∧ c'.vid = c.vid ∧
      c'.storedElems = c.storedElems) ∧
    WorldOk' D w' cx'.ctr ∧
    (∀ fuel cx2 w2 cx2', notifyParent fuel w' x cx2 = .ok (w2, cx2') →
      cx2' = cx2 ∧ (w2 = w' ∨ w2 = { w' with hinfo := AList.erase w'.hinfo x })) := by
  obtain ⟨H', _, hset, _, _⟩ := C10W.worldOk'_arrSet D w p i _ cx old w' cx' H hh hv h
  obtain ⟨a, a', old0, e, hpa, hpa', hold0, hl, hpay, hb, _, hch⟩ := hset
  have hx0 : old0.pay = .ref x := by rw [← hpay]; exact hx
  have hlt : i < a.toList.length := (List.getElem?_eq_some_iff.mp hold0).1
  -- `x` is referenced (by `p`), `y` is not
  have hyx : y ≠ x := by
    rintro rfl
    exact hv.2.1 p (holds_arr_of_mem hpa (List.mem_of_getElem? hold0) hx0)
  have hdet := hb.detached hx0 hc
  refine ⟨⟨a', e, hpa', ?_, (hch y wr rfl).1, hyx⟩, ?_, hdet, H', detached_root_notification_is_noop D w' _ x H' hdet.1⟩
  · rw [hl, List.getElem?_set_self hlt]
  · refine set_forgets_index w p i _ cx old x w' cx' h hx (by rw [hc]; rfl) (fun wr' he => ?_)
    cases he; exact hyx rfl

/-- `Array.Remove` of a child container `x` from the array `p` (current handle, valid world):
    (a) `p` holds the remaining elements, none of which refers to `x`;
    (b) the `mutableElementIndex` entry of `x` is gone (deleted by `Array.Remove`);
    (c) `x` is a detached root: live, referenced by nobody, standalone, same data, same value ID;
    (d) the global invariant holds afterwards;
    (e) every later notification from `x` changes no container, no index table and no storage
        effect; at most the closure of `x` is cleared. -/
theorem removed_child_leaves_parent_unchanged (D : SlabID → DigestFn 4) (w : World) (p : SlabID) (i : Nat)
    (cx : Ctx) (old : Elem) (w' : World) (cx' : Ctx) (x : SlabID) (c : Cont)
    (H : WorldOk' D w cx.ctr) (hh : HandleOk w p)
    (h : w.arrRemove p i cx = .ok (old, w', cx')) (hx : old.pay = .ref x) (hc : w.cont? x = some c) :
    (∃ a a', w.cont? p = some (.arr a) ∧ w'.cont? p = some (.arr a') ∧ a'.toList = a.toList.eraseIdx i ∧
      ∀ e ∈ a'.toList, e.pay ≠ .ref x) ∧
    AList.find? (w'.idxOf p) x = none ∧
    (DetachedRoot w' x ∧ ∃ c', w'.cont? x = some c' ∧ c'.isInlined = false ∧ c'.vid = c.vid ∧
      c'.storedElems = c.storedElems) ∧
    WorldOk' D w' cx'.ctr ∧
    (∀ fuel cx2 w2 cx2', notifyParent fuel w' x cx2 = .ok (w2, cx2') →
      cx2' = cx2 ∧ (w2 = w' ∨ w2 = { w' with hinfo := AList.erase w'.hinfo x })) := by
  obtain ⟨H', _, hrem, _, _⟩ := C10W.worldOk'_arrRemove D w p i cx old w' cx' H hh h
  obtain ⟨a, a', old0, hpa, hpa', hold0, hl, hpay, hb⟩ := hrem
  have hx0 : old0.pay = .ref x := by rw [← hpay]; exact hx
  have hdet := hb.detached hx0 hc
  refine ⟨⟨a, a', hpa, hpa', hl, fun e he hpe => hdet.1.2 p (holds_arr_of_mem hpa' he hpe)⟩,
    remove_forgets_index w p i cx old x w' cx' h hx (by rw [hc]; rfl), hdet, H',
    detached_root_notification_is_noop D w' _ x H' hdet.1⟩

/-! ### Map parents: the slot hypothesis of `C11.detached_map_child_leaves_parent_unchanged`

`hslot` of that lemma says: under the key the closure recorded, the former parent holds nothing, or
something that is not a reference to the child.  The two lemmas below produce it from the detaching
operation.  (Keys: the key handed back by `OrderedMap.Remove` and the key stored by
`OrderedMap.Set` ARE the argument `k` in the model — `MapRemovedAt … rk = k`, `SetEffect` stores
`(k, e)` — and two proper keys that are equal for the comparator `MKey.same` are equal, their
digests being a function of `(size, pay)`; so no statement "up to `same`" is needed.) -/

/-- After `OrderedMap.Remove p k` the key is absent: reading it (as the callback of a child that was
    stored under it does: the closure installed by `OrderedMap.setCallbackWithChild`) answers
    `KeyNotFound`; the same for the key handed back. -/
theorem mapRemove_key_absent (D : SlabID → DigestFn 4) (w : World) (p : SlabID) (k : MKey) (cx : Ctx)
    (rk : MKey) (rv : Elem) (w' : World) (cx' : Ctx) (H : WorldOk' D w cx.ctr) (hh : HandleOk w p)
    (hk : KeyOk w.T 4 (D p) k) (h : w.mapRemove p k cx = .ok (rk, rv, w', cx')) :
    ∃ pm', w'.cont? p = some (.map pm') ∧ pm'.get w'.mcfg k = .error .keyNotFound ∧
      pm'.get w'.mcfg rk = .error .keyNotFound := by
  obtain ⟨H', _, hrem, _, _⟩ := C10W.worldOk'_mapRemove D w p k cx rk rv w' cx' H hh hk h
  obtain ⟨m, m', rv0, hpm, hpm', hrk, ⟨A, B, hl, hl'⟩, _, _⟩ := hrem
  have hT : w'.T = w.T := (DomRel.steps (mapRemove_steps h)).1
  have hd := keysDistinct_of_worldOk' H hpm
  rw [hl] at hd
  have hno : ∀ q ∈ m'.toList, q.1 ≠ k := by rw [hl']; exact keysDistinct_zipper hd
  have := get_absent_of_worldOk' H' hpm' (k := k) (by rw [hT]; exact hk) hno
  exact ⟨m', hpm', this, by rw [hrk]; exact this⟩

/-- After `OrderedMap.Set p k v` that OVERWRITES a child container `x` (the old value handed back
    refers to the live `x`), the key is occupied by the new value, which is not a reference to `x`. -/
theorem mapSet_key_reoccupied (D : SlabID → DigestFn 4) (w : World) (p : SlabID) (k : MKey) (v : WVal) (cx : Ctx)
    (o : Elem) (w' : World) (cx' : Ctx) (x : SlabID) (H : WorldOk' D w cx.ctr) (hh : HandleOk w p)
    (hk : KeyOk w.T 4 (D p) k) (hv : WValOk w p (maxInlineMapValue w.T k.size) v)
    (h : w.mapSet p k v cx = .ok (some o, w', cx')) (hx : o.pay = .ref x) (hc : (w.cont? x).isSome) :
    ∃ pm' el, w'.cont? p = some (.map pm') ∧ pm'.get w'.mcfg k = .ok (k, el) ∧ el.pay ≠ .ref x := by
  obtain ⟨H', _, hset, _, _⟩ := C10W.worldOk'_mapSet D w p k v cx (some o) w' cx' H hh hk hv h
  obtain ⟨m, m', e, oldo, hpm, hpm', heff, hsome, hnone, _, _⟩ := hset
  have hT : w'.T = w.T := (DomRel.steps (mapSet_steps h)).1
  cases oldo with
  | none => cases hnone rfl
  | some o0 =>
    obtain ⟨o', ho', hpay, hb⟩ := hsome o0 rfl
    cases ho'
    have hx0 : o0.pay = .ref x := by rw [← hpay]; exact hx
    obtain ⟨c, hc'⟩ := Option.isSome_iff_exists.mp hc
    have hdet := hb.detached hx0 hc'
    rcases heff with ⟨hn, _⟩ | ⟨v0, A, B, _, _, hl'⟩
    · cases hn
    · have hmem : (k, e) ∈ m'.toList := by rw [hl']; simp
      refine ⟨m', e, hpm', get_present_of_worldOk' H' hpm' (by rw [hT]; exact hk) hmem, fun hpe => ?_⟩
      exact hdet.1.2 p (holds_map_of_mem hpm' hmem hpe)

/-- `OrderedMap.Set` overwriting the child container `x` of the map `p` (current handle, valid
    world, any new value `v` that may be stored):
    (a) the key now holds the new value, not a reference to `x` (the slot hypothesis of
        `C11.detached_map_child_leaves_parent_unchanged`);
    (b) `x` is a detached root: live, referenced by nobody, standalone, same data, same value ID;
    (c) the global invariant holds afterwards;
    (d) every later notification from `x` changes no container, no index table and no storage
        effect; at most the closure of `x` is cleared. -/
theorem map_overwritten_child_leaves_parent_unchanged (D : SlabID → DigestFn 4) (w : World) (p : SlabID) (k : MKey)
    (v : WVal) (cx : Ctx) (o : Elem) (w' : World) (cx' : Ctx) (x : SlabID) (c : Cont)
    (H : WorldOk' D w cx.ctr) (hh : HandleOk w p)
    (hk : KeyOk w.T 4 (D p) k) (hv : WValOk w p (maxInlineMapValue w.T k.size) v)
    (h : w.mapSet p k v cx = .ok (some o, w', cx')) (hx : o.pay = .ref x) (hc : w.cont? x = some c) :
    (∃ pm' el, w'.cont? p = some (.map pm') ∧ pm'.get w'.mcfg k = .ok (k, el) ∧ el.pay ≠ .ref x) ∧
    (DetachedRoot w' x ∧ ∃ c', w'.cont? x = some c' ∧ c'.isInlined = false ∧ c'.vid = c.vid ∧
      c'.storedElems = c.storedElems) ∧
    WorldOk' D w' cx'.ctr ∧
    (∀ fuel cx2 w2 cx2', notifyParent fuel w' x cx2 = .ok (w2, cx2') →
      cx2' = cx2 ∧ (w2 = w' ∨ w2 = { w' with hinfo := AList.erase w'.hinfo x })) := by
  have hslot := mapSet_key_reoccupied D w p k v cx o w' cx' x H hh hk hv h hx (by rw [hc]; rfl)
  obtain ⟨H', _, hset, _, _⟩ := C10W.worldOk'_mapSet D w p k v cx (some o) w' cx' H hh hk hv h
  obtain ⟨m, m', e, oldo, _, _, _, hsome, hnone, _, _⟩ := hset
  cases oldo with
  | none => cases hnone rfl
  | some o0 =>
    obtain ⟨o', ho', hpay, hb⟩ := hsome o0 rfl
    cases ho'
    have hdet := hb.detached (by rw [← hpay]; exact hx) hc
    exact ⟨hslot, hdet, H', detached_root_notification_is_noop D w' _ x H' hdet.1⟩

/-- `OrderedMap.Remove` of the child container `x` of the map `p` (current handle, valid world):
    (a) the key is absent afterwards (the slot hypothesis of
        `C11.detached_map_child_leaves_parent_unchanged`), and no value of `p` refers to `x`;
    (b) `x` is a detached root: live, referenced by nobody, standalone, same data, same value ID;
    (c) the global invariant holds afterwards;
    (d) every later notification from `x` changes no container, no index table and no storage
        effect; at most the closure of `x` is cleared. -/
theorem map_removed_child_leaves_parent_unchanged (D : SlabID → DigestFn 4) (w : World) (p : SlabID) (k : MKey)
    (cx : Ctx) (rk : MKey) (rv : Elem) (w' : World) (cx' : Ctx) (x : SlabID) (c : Cont)
    (H : WorldOk' D w cx.ctr) (hh : HandleOk w p) (hk : KeyOk w.T 4 (D p) k)
    (h : w.mapRemove p k cx = .ok (rk, rv, w', cx')) (hx : rv.pay = .ref x) (hc : w.cont? x = some c) :
    (∃ pm', w'.cont? p = some (.map pm') ∧ pm'.get w'.mcfg k = .error .keyNotFound ∧
      pm'.get w'.mcfg rk = .error .keyNotFound ∧ ∀ q ∈ pm'.toList, q.2.pay ≠ .ref x) ∧
    (DetachedRoot w' x ∧ ∃ c', w'.cont? x = some c' ∧ c'.isInlined = false ∧ c'.vid = c.vid ∧
      c'.storedElems = c.storedElems) ∧
    WorldOk' D w' cx'.ctr ∧
    (∀ fuel cx2 w2 cx2', notifyParent fuel w' x cx2 = .ok (w2, cx2') →
      cx2' = cx2 ∧ (w2 = w' ∨ w2 = { w' with hinfo := AList.erase w'.hinfo x })) := by
  obtain ⟨pm', hpm', hg1, hg2⟩ := mapRemove_key_absent D w p k cx rk rv w' cx' H hh hk h
  obtain ⟨H', _, hrem, _, _⟩ := C10W.worldOk'_mapRemove D w p k cx rk rv w' cx' H hh hk h
  obtain ⟨m, m', rv0, _, _, _, _, hpay, hb⟩ := hrem
  have hdet := hb.detached (by rw [← hpay]; exact hx) hc
  exact ⟨⟨pm', hpm', hg1, hg2, fun q hq hpe => hdet.1.2 p (holds_map_of_mem hpm' (k := q.1) hq hpe)⟩, hdet, H',
    detached_root_notification_is_noop D w' _ x H' hdet.1⟩

/-! ### A detached root stays a detached root

"The detached container … can be mutated, disposed of or attached to another parent": until it IS
attached to a parent (stored as a value: `v = .child x _`), no operation through a current handle
— to another container OR to `x` itself — makes any container refer to `x`, and `x` stays live.  So
the no-op statement `detached_root_notification_is_noop` applies to `x` after any number of such
operations (each of which keeps `WorldOk'`). -/

theorem detachedRoot_arrInsert (D : SlabID → DigestFn 4) (w : World) (p : SlabID) (i : Nat) (v : WVal) (cx : Ctx)
    (w' : World) (cx' : Ctx) (x : SlabID) (H : WorldOk' D w cx.ctr) (hh : HandleOk w p)
    (hv : WValOk w p (maxInlineArr w.T) v) (h : w.arrInsert p i v cx = .ok (w', cx'))
    (hx : DetachedRoot w x) (hvx : ∀ wr, v ≠ .child x wr) : DetachedRoot w' x := by
  obtain ⟨_, _, hins, _, hS⟩ := C10W.worldOk'_arrInsert D w p i v cx w' cx' H hh hv h
  obtain ⟨a, a', e, hpa, hpa', hi, hl, h1, h2⟩ := hins
  refine hx.of_frame hS (by rw [hpa']; rfl) (fun c' hc' hm => ?_)
  rw [hpa'] at hc'; cases hc'
  obtain ⟨e', he', hpe⟩ := mem_pays_iff.mp hm
  have he'' : e' ∈ a.toList.insertIdx i e := by rw [← hl]; exact he'
  rcases (List.mem_insertIdx hi).mp he'' with rfl | hmem
  · exact hv.new_elem_not_ref hvx h1 (fun y wr hy => (h2 y wr hy).1) hpe
  · exact hx.2 p (holds_arr_of_mem hpa hmem hpe)

theorem detachedRoot_arrSet (D : SlabID → DigestFn 4) (w : World) (p : SlabID) (i : Nat) (v : WVal) (cx : Ctx)
    (old : Elem) (w' : World) (cx' : Ctx) (x : SlabID) (H : WorldOk' D w cx.ctr) (hh : HandleOk w p)
    (hv : WValOk w p (maxInlineArr w.T) v) (h : w.arrSet p i v cx = .ok (old, w', cx'))
    (hx : DetachedRoot w x) (hvx : ∀ wr, v ≠ .child x wr) : DetachedRoot w' x := by
  obtain ⟨_, _, hset, _, hS⟩ := C10W.worldOk'_arrSet D w p i v cx old w' cx' H hh hv h
  obtain ⟨a, a', old0, e, hpa, hpa', _, hl, _, _, h1, h2⟩ := hset
  refine hx.of_frame hS (by rw [hpa']; rfl) (fun c' hc' hm => ?_)
  rw [hpa'] at hc'; cases hc'
  obtain ⟨e', he', hpe⟩ := mem_pays_iff.mp hm
  have he'' : e' ∈ a.toList.set i e := by rw [← hl]; exact he'
  rcases List.mem_or_eq_of_mem_set he'' with hmem | rfl
  · exact hx.2 p (holds_arr_of_mem hpa hmem hpe)
  · exact hv.new_elem_not_ref hvx h1 (fun y wr hy => (h2 y wr hy).1) hpe

theorem detachedRoot_arrRemove (D : SlabID → DigestFn 4) (w : World) (p : SlabID) (i : Nat) (cx : Ctx)
    (old : Elem) (w' : World) (cx' : Ctx) (x : SlabID) (H : WorldOk' D w cx.ctr) (hh : HandleOk w p)
    (h : w.arrRemove p i cx = .ok (old, w', cx')) (hx : DetachedRoot w x) : DetachedRoot w' x := by
  obtain ⟨_, _, hrem, _, hS⟩ := C10W.worldOk'_arrRemove D w p i cx old w' cx' H hh h
  obtain ⟨a, a', old0, hpa, hpa', _, hl, _, _⟩ := hrem
  refine hx.of_frame hS (by rw [hpa']; rfl) (fun c' hc' hm => ?_)
  rw [hpa'] at hc'; cases hc'
  obtain ⟨e', he', hpe⟩ := mem_pays_iff.mp hm
  have he'' : e' ∈ a.toList.eraseIdx i := by rw [← hl]; exact he'
  exact hx.2 p (holds_arr_of_mem hpa (List.mem_of_mem_eraseIdx he'') hpe)

theorem detachedRoot_mapSet (D : SlabID → DigestFn 4) (w : World) (p : SlabID) (k : MKey) (v : WVal) (cx : Ctx)
    (old : Option Elem) (w' : World) (cx' : Ctx) (x : SlabID) (H : WorldOk' D w cx.ctr) (hh : HandleOk w p)
    (hk : KeyOk w.T 4 (D p) k) (hv : WValOk w p (maxInlineMapValue w.T k.size) v)
    (h : w.mapSet p k v cx = .ok (old, w', cx'))
    (hx : DetachedRoot w x) (hvx : ∀ wr, v ≠ .child x wr) : DetachedRoot w' x := by
  obtain ⟨_, _, hset, _, hS⟩ := C10W.worldOk'_mapSet D w p k v cx old w' cx' H hh hk hv h
  obtain ⟨m, m', e, oldo, hpm, hpm', heff, _, _, h1, h2⟩ := hset
  refine hx.of_frame hS (by rw [hpm']; rfl) (fun c' hc' hm => ?_)
  rw [hpm'] at hc'; cases hc'
  obtain ⟨e', he', hpe⟩ := mem_pays_iff.mp hm
  obtain ⟨q, hq, rfl⟩ := List.mem_map.mp he'
  rcases heff.mem q hq with rfl | hmem
  · exact hv.new_elem_not_ref hvx h1 (fun y wr hy => (h2 y wr hy).1) hpe
  · exact hx.2 p (holds_map_of_mem hpm (k := q.1) hmem hpe)

theorem detachedRoot_mapRemove (D : SlabID → DigestFn 4) (w : World) (p : SlabID) (k : MKey) (cx : Ctx)
    (rk : MKey) (rv : Elem) (w' : World) (cx' : Ctx) (x : SlabID) (H : WorldOk' D w cx.ctr) (hh : HandleOk w p)
    (hk : KeyOk w.T 4 (D p) k) (h : w.mapRemove p k cx = .ok (rk, rv, w', cx'))
    (hx : DetachedRoot w x) : DetachedRoot w' x := by
  obtain ⟨_, _, hrem, _, hS⟩ := C10W.worldOk'_mapRemove D w p k cx rk rv w' cx' H hh hk h
  obtain ⟨m, m', rv0, hpm, hpm', _, heff, _, _⟩ := hrem
  refine hx.of_frame hS (by rw [hpm']; rfl) (fun c' hc' hm => ?_)
  rw [hpm'] at hc'; cases hc'
  obtain ⟨e', he', hpe⟩ := mem_pays_iff.mp hm
  obtain ⟨q, hq, rfl⟩ := List.mem_map.mp he'
  exact hx.2 p (holds_map_of_mem hpm (k := q.1) (heff.mem q hq) hpe)

/-- `Array.Get` / `OrderedMap.Get` (and the mutable iterators): no container changes -/
theorem detachedRoot_of_conts_eq (w w' : World) (x : SlabID) (hc : ∀ z, w'.cont? z = w.cont? z)
    (hx : DetachedRoot w x) : DetachedRoot w' x := by
  refine ⟨by rw [hc]; exact hx.1, fun q ⟨c, hq, hm⟩ => hx.2 q ⟨c, by rw [← hc]; exact hq, hm⟩⟩

theorem detachedRoot_arrGet (D : SlabID → DigestFn 4) (w : World) (p : SlabID) (i : Nat) (el : Elem) (w' : World)
    (ctr : Nat) (x : SlabID) (H : WorldOk' D w ctr) (hh : HandleOk w p) (h : w.arrGet p i = .ok (el, w'))
    (hx : DetachedRoot w x) : DetachedRoot w' x :=
  detachedRoot_of_conts_eq w w' x (C10W.worldOk'_arrGet D w p i el w' ctr H hh h).2.1 hx

theorem detachedRoot_mapGet (D : SlabID → DigestFn 4) (w : World) (p : SlabID) (k : MKey) (el : Elem) (w' : World)
    (ctr : Nat) (x : SlabID) (H : WorldOk' D w ctr) (hh : HandleOk w p) (hk : KeyOk w.T 4 (D p) k)
    (h : w.mapGet p k = .ok (el, w')) (hx : DetachedRoot w x) : DetachedRoot w' x :=
  detachedRoot_of_conts_eq w w' x (C10W.worldOk'_mapGet D w p k el w' ctr H hh hk h).2.1 hx

/-- `SetType` (through a current handle to any container, `x` included): no signature changes -/
theorem detachedRoot_setType (D : SlabID → DigestFn 4) (w : World) (p : SlabID) (ty : Nat) (cx : Ctx) (w' : World)
    (cx' : Ctx) (x : SlabID) (H : WorldOk' D w cx.ctr) (hh : HandleOk w p)
    (h : w.setType p ty cx = .ok (w', cx')) (hx : DetachedRoot w x) : DetachedRoot w' x := by
  have hs := setType_sig_worldOk' H hh h
  have hS : SigFrame w w' x := fun z _ => hs z
  obtain ⟨c, hc⟩ := Option.isSome_iff_exists.mp hx.1
  have hsx := hs x
  rw [hc] at hsx
  cases hc' : w'.cont? x with
  | none => rw [hc'] at hsx; cases hsx
  | some c' =>
    rw [hc'] at hsx
    simp only [Option.map_some, Option.some.injEq] at hsx
    refine hx.of_frame hS (by rw [hc']; rfl) (fun c'' hc'' hm => ?_)
    rw [hc'] at hc''; cases hc''
    exact hx.2 x ⟨c, hc, by rw [← Cont.sig_pays hsx]; exact hm⟩

/-! ### A mutation through the handle of a detached root writes nothing but the container itself

The whole-operation statement ("no other container, closure or index table changes") for
`Array.Remove`, `Array.Set`, `OrderedMap.Set`, `OrderedMap.Remove`, `SetType` through the handle of a
detached root `x` (for `Array.Insert` of a plain value: `C10W.kept_child_arrInsert`), in a world
that satisfies the invariant (`WorldOkKept D K` ⊇ `WorldOk'`; `x` may be a kept popped child).
Conclusion shape: the container-level operation on `x` (`Arr.remove`, …) that was
performed; every entry of the container table, of the closure table and of the index tables other
than those of `x` — and of the child `y` of `x` that is handed back, which is un-inlined, never
the former parent — is the SAME (so the former parent keeps content, sizes and form); the storage
effects are those of the container-level operation on `x`, plus `store y` if `y` was inlined:
the notification contributes nothing. -/

/-- `Array.Remove` through the handle of a detached root -/
theorem detached_arrRemove_writes_only_self (D : SlabID → DigestFn 4) (K : SlabID → Prop) (w : World) (x : SlabID)
    (i : Nat) (cx : Ctx) (old : Elem) (w' : World) (cx' : Ctx)
    (H : WorldOkKept D K w cx.ctr) (hx : DetachedRoot w x) (h : w.arrRemove x i cx = .ok (old, w', cx')) :
    ∃ a a' old1 cx1 ov, w.cont? x = some (.arr a) ∧ a.remove w.T i cx = .ok (old1, a', cx1) ∧
      a.toList[i]? = some old1 ∧ a'.toList = a.toList.eraseIdx i ∧ old.pay = old1.pay ∧
      (∀ y, ov = some y → old1.pay = .ref y) ∧
      (cx' = cx1 ∨ ∃ y, ov = some y ∧ cx' = cx1.emit (.store y)) ∧
      (∀ z, z ≠ x → some z ≠ ov → w'.cont? z = w.cont? z ∧ AList.find? w'.hinfo z = AList.find? w.hinfo z ∧
        AList.find? w'.mutIdx z = AList.find? w.mutIdx z) := by
  obtain ⟨rank, H0⟩ := H
  exact root_arrRemove H0 hx h

/-- `Array.Set` of a plain value through the handle of a detached root -/
theorem detached_arrSet_writes_only_self (D : SlabID → DigestFn 4) (K : SlabID → Prop) (w : World) (x : SlabID)
    (i : Nat) (e : Elem) (cx : Ctx) (old : Elem) (w' : World) (cx' : Ctx)
    (H : WorldOkKept D K w cx.ctr) (hx : DetachedRoot w x) (hv : ValueOk e ∧ e.size ≤ maxInlineArr w.T)
    (h : w.arrSet x i (.plain e) cx = .ok (old, w', cx')) :
    ∃ a a' old1 cx1 ov, w.cont? x = some (.arr a) ∧ a.set w.T i e cx = .ok (old1, a', cx1) ∧
      a.toList[i]? = some old1 ∧ a'.toList = a.toList.set i e ∧ old.pay = old1.pay ∧
      (∀ y, ov = some y → old1.pay = .ref y) ∧
      (cx' = cx1 ∨ ∃ y, ov = some y ∧ cx' = cx1.emit (.store y)) ∧
      (∀ z, z ≠ x → some z ≠ ov → w'.cont? z = w.cont? z ∧ AList.find? w'.hinfo z = AList.find? w.hinfo z ∧
        AList.find? w'.mutIdx z = AList.find? w.mutIdx z) := by
  obtain ⟨rank, H0⟩ := H
  exact root_arrSet_plain H0 hx ⟨hv.1.1, hv.2⟩ h

/-- `OrderedMap.Remove` through the handle of a detached root.  `hself`: the closure of `x` does not
    name `x` itself (closures are installed by the holder of a child, so this holds in every run;
    it is not a clause of the invariant — same hypothesis as `C10W.kept_child_mapSet_frame`). -/
theorem detached_mapRemove_writes_only_self (D : SlabID → DigestFn 4) (K : SlabID → Prop) (w : World) (x : SlabID)
    (k : MKey) (cx : Ctx) (rk : MKey) (rv : Elem) (w' : World) (cx' : Ctx) (ctr : Nat)
    (H : WorldOkKept D K w ctr) (hx : DetachedRoot w x)
    (hself : ∀ hi, AList.find? w.hinfo x = some hi → hi.parent ≠ x)
    (h : w.mapRemove x k cx = .ok (rk, rv, w', cx')) :
    ∃ m m' rv1 cx1 ov, w.cont? x = some (.map m) ∧ m.remove w.mcfg k cx = .ok (rk, rv1, m', cx1) ∧
      rv.pay = rv1.pay ∧ (∀ y, ov = some y → rv1.pay = .ref y) ∧
      (cx' = cx1 ∨ ∃ y, ov = some y ∧ cx' = cx1.emit (.store y)) ∧
      (∀ z, z ≠ x → some z ≠ ov → w'.cont? z = w.cont? z ∧ AList.find? w'.hinfo z = AList.find? w.hinfo z ∧
        AList.find? w'.mutIdx z = AList.find? w.mutIdx z) := by
  obtain ⟨rank, H0⟩ := H
  exact root_mapRemove H0 hx hself h

/-- `OrderedMap.Set` of a plain value through the handle of a detached root -/
theorem detached_mapSet_writes_only_self (D : SlabID → DigestFn 4) (K : SlabID → Prop) (w : World) (x : SlabID)
    (k : MKey) (e : Elem) (cx : Ctx) (old : Option Elem) (w' : World) (cx' : Ctx) (ctr : Nat)
    (H : WorldOkKept D K w ctr) (hx : DetachedRoot w x)
    (hself : ∀ hi, AList.find? w.hinfo x = some hi → hi.parent ≠ x)
    (h : w.mapSet x k (.plain e) cx = .ok (old, w', cx')) :
    ∃ m m' old1 cx1 ov, w.cont? x = some (.map m) ∧ m.set w.mcfg k e cx = .ok (old1, m', cx1) ∧
      old.map (·.pay) = old1.map (·.pay) ∧ (∀ y, ov = some y → ∃ o, old1 = some o ∧ o.pay = .ref y) ∧
      (cx' = cx1 ∨ ∃ y, ov = some y ∧ cx' = cx1.emit (.store y)) ∧
      (∀ z, z ≠ x → some z ≠ ov → w'.cont? z = w.cont? z ∧ AList.find? w'.hinfo z = AList.find? w.hinfo z ∧
        AList.find? w'.mutIdx z = AList.find? w.mutIdx z) := by
  obtain ⟨rank, H0⟩ := H
  exact (root_mapSet_plain H0 hx hself h).2

/-- `SetType` through the handle of a detached root (under `WorldOk'` a detached root is
    standalone): only the type field of `x` changes, the one storage effect is `store x`, no other
    container, closure or index table changes. -/
theorem detached_setType_writes_only_self (D : SlabID → DigestFn 4) (w : World) (x : SlabID) (ty : Nat) (cx : Ctx)
    (w' : World) (cx' : Ctx) (ctr : Nat) (H : WorldOk' D w ctr) (hx : DetachedRoot w x)
    (h : w.setType x ty cx = .ok (w', cx')) :
    ∃ c c', w.cont? x = some c ∧ w' = w.setCont x c' ∧ c'.storedElems = c.storedElems ∧ c'.vid = c.vid ∧
      c'.isInlined = false ∧ cx' = cx.emit (.store x) ∧
      (∀ z, z ≠ x → w'.cont? z = w.cont? z) ∧ w'.hinfo = w.hinfo ∧ w'.mutIdx = w.mutIdx := by
  obtain ⟨c, hc⟩ := Option.isSome_iff_exists.mp hx.1
  have hst : c.isInlined = false := by
    cases hi : c.isInlined with
    | false => rfl
    | true =>
      obtain ⟨⟨p, hp⟩, _⟩ := C10W.worldOk'_inlined_referenced_once H x c hc hi
      exact absurd hp (hx.2 p)
  obtain ⟨⟨c', h1, h2, h3, h4⟩, h5, h6, h7, h8⟩ := root_setType hc hst h
  have hvid : c.vid = x := (C10W.worldOk'_contOk H x c hc).2
  exact ⟨c, c', hc, h1, h2, h3, h4, by rw [h5, hvid], h6, h7, h8⟩

/-- What a detached root `x` of a valid world can be used for (the second sentence of property C11: "The
    detached container itself remains an intact, independently stored value with unchanged identity
    that can be reloaded, mutated, disposed of or attached to another parent"; the first three items restate `C10W.worldOk'_reopen`, `HandleOk.root`, `C10W.worldOk_forget` for `x`):
    * RELOADED — after reopening the storage the full invariant holds, `x` is the same container
      and its (new) handle is current;
    * MUTATED — its handle is current, so every operation theorem `C10W.worldOk'_*` applies to
      operations through it (and `detachedRoot_*`, `detached_*_writes_only_self` above say what
      they do not touch);
    * DISPOSED OF — `World.forget` keeps the invariant and removes exactly what is below `x`;
    * ATTACHED TO ANOTHER PARENT — `x` is a legal value (`WValOk`) for any container `q` it is not
      an ancestor of, in any slot its wrapped reference fits. -/
theorem detached_root_lifecycle (D : SlabID → DigestFn 4) (w : World) (ctr : Nat) (x : SlabID)
    (H : WorldOk' D w ctr) (hx : DetachedRoot w x) :
    (WorldOk D w.reopen ctr ∧ w.reopen.cont? x = w.cont? x ∧ HandleOk w.reopen x ∧ DetachedRoot w.reopen x) ∧
    HandleOk w x ∧
    (WorldOk' D (World.forget w.fuelOf w x) ctr ∧ ForgetFrame w (World.forget w.fuelOf w x) x) ∧
    (∀ q lim wr, ¬ Anc w x q → slabIDStorableSize + 2 * wr ≤ lim → WValOk w q lim (.child x wr)) := by
  obtain ⟨r1, r2, r3⟩ := C10W.worldOk'_reopen D w ctr H
  exact ⟨⟨r1, r2 x, r3 x hx.2, detachedRoot_of_conts_eq w w.reopen x r2 hx⟩, HandleOk.root x hx.2,
    C10W.worldOk_forget D w x ctr H hx, fun q lim wr ha hl => ⟨hx.1, hx.2, ha, hl⟩⟩

/-! ### Non-vacuity, run A (`AtreeProofs/World/C11Scenario.lean`, T = 256)

Root array `R`; array `X` INLINED in slot 0 of `R` (one value); `Array.Set R 0 Y` overwrites `X` by
the array `Y`; then `Array.Insert X 1 …` through the handle of the detached `X`. -/
section NonVacuityA
open Atree.C11Scenario
open Atree.OkScenario (D pl cont?_getD)

/-- The hypotheses of `overwritten_child_leaves_parent_unchanged` are met by the overwrite step of
    run A (the invariant by chaining the operation theorems from the empty world); `X` is inlined
    in `R` before the overwrite. -/
theorem overwritten_hyps_met :
    WorldOk' D c5.1 c5.2.ctr ∧ HandleOk c5.1 R ∧ WValOk c5.1 R (maxInlineArr c5.1.T) (.child Y 0) ∧
    c5.1.arrSet R 0 (.child Y 0) c5.2 = .ok c6 ∧ c6.1.pay = .ref X ∧
    (c5.1.cont? R).map Cont.pays = some [.ref X] ∧
    (c5.1.cont? X).map Cont.isInlined = some true ∧ (c5.1.cont? X).map Cont.pays = some [.val 1] :=
  ⟨okA5, handleR5, valY5, runA6, by decide, by decide, by decide, by decide⟩

/-- … so its conclusions hold of the state `c6` after the overwrite. -/
theorem overwritten_instance :
    ∃ c, c5.1.cont? X = some c ∧
    (∃ a' e, c6.2.1.cont? R = some (.arr a') ∧ a'.toList[0]? = some e ∧ e.pay = .ref Y ∧ Y ≠ X) ∧
    AList.find? (c6.2.1.idxOf R) X = none ∧
    (DetachedRoot c6.2.1 X ∧ ∃ c', c6.2.1.cont? X = some c' ∧ c'.isInlined = false ∧ c'.vid = c.vid ∧
      c'.storedElems = c.storedElems) ∧
    WorldOk' D c6.2.1 c6.2.2.ctr ∧
    (∀ fuel cx2 w2 cx2', notifyParent fuel c6.2.1 X cx2 = .ok (w2, cx2') →
      cx2' = cx2 ∧ (w2 = c6.2.1 ∨ w2 = { c6.2.1 with hinfo := AList.erase c6.2.1.hinfo X })) := by
  have hc := cont?_getD (w := c5.1) (x := X) (.arr (Arr.new 0 0 Scenario.cx0).1) (by decide)
  exact ⟨_, hc, overwritten_child_leaves_parent_unchanged D c5.1 R 0 Y 0 c5.2 c6.1 c6.2.1 c6.2.2 X _
    okA5 handleR5 valY5 runA6 overwritten_hyps_met.2.2.2.2.1 hc⟩

/-- What the run looks like around the detachment.  After the overwrite: slot 0 of `R` holds `Y`
    (inlined: 17 bytes), the reference to `X` was handed back (19 bytes), `X` has been un-inlined
    (`store X`), KEEPS its closure naming `R` (the Go object keeps its `parentUpdater`), and its
    index entry is gone.  The later `Array.Insert` through the handle of `X` is a successful run of
    the model operation; it writes `X` only (`store X`); `R` — content, root size, index table —
    is unchanged; the stale closure of `X` has been cleared. -/
theorem overwritten_run_facts :
    (c6.2.1.cont? R).map Cont.storedElems = some [⟨17, .ref Y⟩] ∧ c6.1 = ⟨19, .ref X⟩ ∧
    c6.2.2.eff = c5.2.eff ++ [.remove Y, .store R, .store X] ∧
    AList.find? c6.2.1.hinfo X = some ⟨R, none, 117, 0⟩ ∧
    AList.find? (c6.2.1.idxOf R) X = none ∧ AList.find? (c6.2.1.idxOf R) Y = some 0 ∧
    c6.2.1.arrInsert X 1 (pl 2) c6.2.2 = .ok c7 ∧
    c7.2.eff = c6.2.2.eff ++ [.store X] ∧
    (c7.1.cont? R).map Cont.storedElems = (c6.2.1.cont? R).map Cont.storedElems ∧
    (c7.1.cont? R).map Cont.rootSize = (c6.2.1.cont? R).map Cont.rootSize ∧
    (c7.1.cont? R).map Cont.isInlined = (c6.2.1.cont? R).map Cont.isInlined ∧
    c7.1.idxOf R = c6.2.1.idxOf R ∧
    (c7.1.cont? X).map Cont.pays = some [.val 1, .val 2] ∧
    AList.find? c7.1.hinfo X = none := by
  refine ⟨by decide, by decide, by decide, by decide, by decide, by decide, runA7, by decide, by decide,
    by decide, by decide, by decide, by decide, by decide⟩

/-- `set_forgets_index` applies to the overwrite of `X` -/
theorem set_forgets_index_applies : AList.find? (c6.2.1.idxOf R) X = none :=
  set_forgets_index c5.1 R 0 (.child Y 0) c5.2 c6.1 X c6.2.1 c6.2.2 runA6 (by decide) (by decide)
    (fun wr h => by cases h)

/-- Inside the later `Array.Insert` through `X` (state `mid7` at the call of `notifyParent`): the
    hypotheses of `C11.detached_array_child_leaves_parent_unchanged` are met — closure present and
    naming the live array `R`, index unknown — the callback is NOT short-cut (`X` is standalone but
    would fit inline), slot 0 of the former parent holds another container, and the second
    alternative of the conclusion happens (the closure is cleared). -/
theorem overwritten_detached_hyps_met :
    ∃ (c : Cont) (pa : Arr),
      AList.find? mid7.1.hinfo X = some ⟨R, none, 117, 0⟩ ∧ mid7.1.cont? X = some c ∧
      mid7.1.cont? R = some (.arr pa) ∧ AList.find? (mid7.1.idxOf R) X = none ∧
      pa.toList.map (·.pay) = [.ref Y] ∧
      notifyParent (3 + 1) mid7.1 X mid7.2 =
        .ok ({ mid7.1 with hinfo := AList.erase mid7.1.hinfo X }, mid7.2) ∧
      ¬ (c.isInlined = false ∧ c.inlinable 117 = false) := by
  refine ⟨.arr (Scenario.arrOf mid7.1 X), Scenario.arrOf mid7.1 R, by decide, rfl, rfl, by decide, by decide, ?_,
    by decide⟩
  rw [notifyParent_eq_notifyS]; rfl

end NonVacuityA

/-! ### Non-vacuity, run B (map parent)

Root map `P`; array `X` INLINED under the key `K1` (one value).  B1: `OrderedMap.Remove P K1`;
B2: `OrderedMap.Set P K1 Y` (another array).  In both branches `Array.Insert X 1 …` follows through
the handle of the detached `X`.  These are the two instances of the slot hypothesis of
`C11.detached_map_child_leaves_parent_unchanged`: key absent, key re-occupied by another value. -/
section NonVacuityB
open Atree.C11Scenario
open Atree.OkScenario (D pl cont?_getD K1)

/-- B1: the hypotheses of `map_removed_child_leaves_parent_unchanged` are met. -/
theorem map_removed_hyps_met :
    WorldOk' D d5.1 d5.2.ctr ∧ HandleOk d5.1 P ∧ KeyOk d5.1.T 4 (D P) K1 ∧
    d5.1.mapRemove P K1 d5.2 = .ok d6 ∧ d6.2.1.pay = .ref X ∧
    (d5.1.cont? P).map Cont.pays = some [.ref X] ∧
    (d5.1.cont? X).map Cont.isInlined = some true ∧ (d5.1.cont? X).map Cont.pays = some [.val 1] :=
  ⟨okB5, handleP5, keyP5, runB6, by decide, by decide, by decide, by decide⟩

/-- … so its conclusions hold of the state `d6` after the removal. -/
theorem map_removed_instance :
    ∃ c, d5.1.cont? X = some c ∧
    (∃ pm', d6.2.2.1.cont? P = some (.map pm') ∧ pm'.get d6.2.2.1.mcfg K1 = .error .keyNotFound ∧
      pm'.get d6.2.2.1.mcfg d6.1 = .error .keyNotFound ∧ ∀ q ∈ pm'.toList, q.2.pay ≠ .ref X) ∧
    (DetachedRoot d6.2.2.1 X ∧ ∃ c', d6.2.2.1.cont? X = some c' ∧ c'.isInlined = false ∧ c'.vid = c.vid ∧
      c'.storedElems = c.storedElems) ∧
    WorldOk' D d6.2.2.1 d6.2.2.2.ctr ∧
    (∀ fuel cx2 w2 cx2', notifyParent fuel d6.2.2.1 X cx2 = .ok (w2, cx2') →
      cx2' = cx2 ∧ (w2 = d6.2.2.1 ∨ w2 = { d6.2.2.1 with hinfo := AList.erase d6.2.2.1.hinfo X })) := by
  have hc := cont?_getD (w := d5.1) (x := X) (.arr (Arr.new 0 0 Scenario.cx0).1) (by decide)
  exact ⟨_, hc, map_removed_child_leaves_parent_unchanged D d5.1 P K1 d5.2 d6.1 d6.2.1 d6.2.2.1 d6.2.2.2 X _
    okB5 handleP5 keyP5 runB6 map_removed_hyps_met.2.2.2.2.1 hc⟩

/-- B1, KEY ABSENT: inside the later `Array.Insert` through `X` (state `midB1` at the call of
    `notifyParent`) the hypotheses of `C11.detached_map_child_leaves_parent_unchanged` are met with
    the first alternative of `hslot`: the closure of `X` names the live map `P` and the key `K1`,
    `P.Get(K1)` answers `KeyNotFound`; the callback is not short-cut (`X` would fit inline); the
    closure is cleared and nothing else changes. -/
theorem map_removed_detached_hyps_met :
    ∃ (c : Cont) (pm : OMap 3),
      AList.find? midB1.1.hinfo X = some ⟨P, some K1, 96, 0⟩ ∧ midB1.1.cont? X = some c ∧
      midB1.1.cont? P = some (.map pm) ∧ pm.get midB1.1.mcfg K1 = .error .keyNotFound ∧
      notifyParent (3 + 1) midB1.1 X midB1.2 =
        .ok ({ midB1.1 with hinfo := AList.erase midB1.1.hinfo X }, midB1.2) ∧
      ¬ (c.isInlined = false ∧ c.inlinable 96 = false) := by
  refine ⟨.arr (Scenario.arrOf midB1.1 X), mapOf midB1.1 P, by decide, rfl, rfl, by decide, ?_, by decide⟩
  rw [notifyParent_eq_notifyS]; rfl

/-- B1: the run.  The removal hands back the 19-byte reference, empties `P`, un-inlines `X`
    (`store P`, `store X`) and leaves the closure of `X` in place; the later insert through `X` is
    a successful run of the model operation that writes `X` only; `P` (content, root size) is
    unchanged and the stale closure is cleared. -/
theorem map_removed_run_facts :
    d6.1 = K1 ∧ d6.2.1 = ⟨19, .ref X⟩ ∧ (d6.2.2.1.cont? P).map Cont.storedElems = some [] ∧
    d6.2.2.2.eff = d5.2.eff ++ [.store P, .store X] ∧
    AList.find? d6.2.2.1.hinfo X = some ⟨P, some K1, 96, 0⟩ ∧
    d6.2.2.1.arrInsert X 1 (pl 2) d6.2.2.2 = .ok d7 ∧
    d7.2.eff = d6.2.2.2.eff ++ [.store X] ∧
    (d7.1.cont? P).map Cont.storedElems = (d6.2.2.1.cont? P).map Cont.storedElems ∧
    (d7.1.cont? P).map Cont.rootSize = (d6.2.2.1.cont? P).map Cont.rootSize ∧
    (d7.1.cont? X).map Cont.pays = some [.val 1, .val 2] ∧
    AList.find? d7.1.hinfo X = none :=
  ⟨by decide, by decide, by decide, by decide, by decide, runB7, by decide, by decide, by decide, by decide,
    by decide⟩

/-- B2: the hypotheses of `map_overwritten_child_leaves_parent_unchanged` are met. -/
theorem map_overwritten_hyps_met :
    WorldOk' D d5.1 d5.2.ctr ∧ HandleOk d5.1 P ∧ KeyOk d5.1.T 4 (D P) K1 ∧
    WValOk d5.1 P (maxInlineMapValue d5.1.T K1.size) (.child Y 0) ∧
    d5.1.mapSet P K1 (.child Y 0) d5.2 = .ok e6 ∧ e6.1 = some ⟨19, .ref X⟩ :=
  ⟨okB5, handleP5, keyP5, valYP5, runE6, by decide⟩

/-- … so its conclusions hold of the state `e6` after the overwrite. -/
theorem map_overwritten_instance :
    ∃ c, d5.1.cont? X = some c ∧
    (∃ pm' el, e6.2.1.cont? P = some (.map pm') ∧ pm'.get e6.2.1.mcfg K1 = .ok (K1, el) ∧ el.pay ≠ .ref X) ∧
    (DetachedRoot e6.2.1 X ∧ ∃ c', e6.2.1.cont? X = some c' ∧ c'.isInlined = false ∧ c'.vid = c.vid ∧
      c'.storedElems = c.storedElems) ∧
    WorldOk' D e6.2.1 e6.2.2.ctr ∧
    (∀ fuel cx2 w2 cx2', notifyParent fuel e6.2.1 X cx2 = .ok (w2, cx2') →
      cx2' = cx2 ∧ (w2 = e6.2.1 ∨ w2 = { e6.2.1 with hinfo := AList.erase e6.2.1.hinfo X })) := by
  have hc := cont?_getD (w := d5.1) (x := X) (.arr (Arr.new 0 0 Scenario.cx0).1) (by decide)
  have hrun : d5.1.mapSet P K1 (.child Y 0) d5.2 = .ok (some ⟨19, .ref X⟩, e6.2.1, e6.2.2) := by
    rw [runE6]
    have : e6.1 = some ⟨19, .ref X⟩ := by decide
    rw [← this]
  exact ⟨_, hc, map_overwritten_child_leaves_parent_unchanged D d5.1 P K1 _ d5.2 _ e6.2.1 e6.2.2 X _
    okB5 handleP5 keyP5 valYP5 hrun rfl hc⟩

/-- B2, KEY RE-OCCUPIED: inside the later `Array.Insert` through `X` (state `midB2`) the hypotheses
    of `C11.detached_map_child_leaves_parent_unchanged` are met with the second alternative of
    `hslot`: `P.Get(K1)` answers the inlined `Y`, which is not `X`. -/
theorem map_overwritten_detached_hyps_met :
    ∃ (c : Cont) (pm : OMap 3),
      AList.find? midB2.1.hinfo X = some ⟨P, some K1, 96, 0⟩ ∧ midB2.1.cont? X = some c ∧
      midB2.1.cont? P = some (.map pm) ∧ pm.get midB2.1.mcfg K1 = .ok (K1, ⟨17, .ref Y⟩) ∧
      (⟨17, .ref Y⟩ : Elem).pay ≠ .ref X ∧
      notifyParent (3 + 1) midB2.1 X midB2.2 =
        .ok ({ midB2.1 with hinfo := AList.erase midB2.1.hinfo X }, midB2.2) ∧
      ¬ (c.isInlined = false ∧ c.inlinable 96 = false) := by
  refine ⟨.arr (Scenario.arrOf midB2.1 X), mapOf midB2.1 P, by decide, rfl, rfl, by decide, by decide, ?_,
    by decide⟩
  rw [notifyParent_eq_notifyS]; rfl

/-- B2: the run.  The overwrite inlines `Y` (`remove Y`), stores `P`, un-inlines `X` (`store X`);
    the later insert through `X` writes `X` only; `P` still holds `Y` under `K1` with the same root
    size; the stale closure of `X` is cleared, the closure of `Y` stays. -/
theorem map_overwritten_run_facts :
    (e6.2.1.cont? P).map Cont.storedElems = some [⟨17, .ref Y⟩] ∧
    e6.2.2.eff = d5.2.eff ++ [.remove Y, .store P, .store X] ∧
    AList.find? e6.2.1.hinfo X = some ⟨P, some K1, 96, 0⟩ ∧
    e6.2.1.arrInsert X 1 (pl 2) e6.2.2 = .ok e7 ∧
    e7.2.eff = e6.2.2.eff ++ [.store X] ∧
    (e7.1.cont? P).map Cont.storedElems = (e6.2.1.cont? P).map Cont.storedElems ∧
    (e7.1.cont? P).map Cont.rootSize = (e6.2.1.cont? P).map Cont.rootSize ∧
    (e7.1.cont? X).map Cont.pays = some [.val 1, .val 2] ∧
    AList.find? e7.1.hinfo X = none ∧ AList.find? e7.1.hinfo Y = some ⟨P, some K1, 96, 0⟩ :=
  ⟨by decide, by decide, by decide, runE7, by decide, by decide, by decide, by decide, by decide, by decide⟩

end NonVacuityB

/-! ### Non-vacuity of `detachedRoot_*` and `detached_*_writes_only_self`

Run A continued (`Array.Remove`, `Array.Set`, `SetType` through the handle of the detached array `X`,
from the state `c6`) and run C (a detached MAP root `M`: `OrderedMap.Set`, `OrderedMap.Remove`). -/
section NonVacuityC
open Atree.C11Scenario
open Atree.OkScenario (D pl cont?_getD K1 keyOk_K1)

/-- the state after the overwrite satisfies the hypotheses of `detached_*_writes_only_self` for `X` -/
theorem detached_X_hyps : WorldOk' D c6.2.1 c6.2.2.ctr ∧ DetachedRoot c6.2.1 X := by
  obtain ⟨_, _, _, _, h3, h4, _⟩ := overwritten_instance
  exact ⟨h4, h3.1⟩

/-- `detached_arrRemove_writes_only_self`, `detached_arrSet_writes_only_self`,
    `detached_setType_writes_only_self` apply to the three continuations of run A; in each of them
    the former parent `R` is untouched — container (content, sizes, form), closure, index table —
    and the only storage effect is `store X`. -/
theorem detached_X_instances :
    (c6.2.1.arrRemove X 0 c6.2.2 = .ok c8 ∧ c8.2.2.eff = c6.2.2.eff ++ [.store X] ∧
      c8.2.1.cont? R = c6.2.1.cont? R ∧ AList.find? c8.2.1.hinfo R = AList.find? c6.2.1.hinfo R ∧
      AList.find? c8.2.1.mutIdx R = AList.find? c6.2.1.mutIdx R) ∧
    (c6.2.1.arrSet X 0 (pl 9) c6.2.2 = .ok c9 ∧ c9.2.2.eff = c6.2.2.eff ++ [.store X] ∧
      c9.2.1.cont? R = c6.2.1.cont? R ∧ AList.find? c9.2.1.hinfo R = AList.find? c6.2.1.hinfo R ∧
      AList.find? c9.2.1.mutIdx R = AList.find? c6.2.1.mutIdx R) ∧
    (c6.2.1.setType X 5 c6.2.2 = .ok c10 ∧ c10.2.eff = c6.2.2.eff ++ [.store X] ∧
      c10.1.cont? R = c6.2.1.cont? R ∧ c10.1.hinfo = c6.2.1.hinfo ∧ c10.1.mutIdx = c6.2.1.mutIdx) := by
  obtain ⟨H, hx⟩ := detached_X_hyps
  have HK : WorldOkKept D (fun _ => False) c6.2.1 c6.2.2.ctr := H
  have hRX : R ≠ X := by decide
  refine ⟨?_, ?_, ?_⟩
  · obtain ⟨a, a', old1, cx1, ov, _, _, hold1, _, _, hov, _, hS⟩ :=
      detached_arrRemove_writes_only_self D _ c6.2.1 X 0 c6.2.2 c8.1 c8.2.1 c8.2.2 HK hx runA8
    have hR : some R ≠ ov := by
      intro he
      have h1 := hov R he.symm
      have h2 : c8.1.pay = .val 1 := by decide
      have h3 : c8.1.pay = old1.pay := by assumption
      rw [h3, h1] at h2; cases h2
    exact ⟨runA8, by decide, (hS R hRX hR).1, (hS R hRX hR).2.1, (hS R hRX hR).2.2⟩
  · obtain ⟨a, a', old1, cx1, ov, _, _, hold1, _, _, hov, _, hS⟩ :=
      detached_arrSet_writes_only_self D _ c6.2.1 X 0 ⟨20, .val 9⟩ c6.2.2 c9.1 c9.2.1 c9.2.2 HK hx
        ⟨⟨by decide, 9, rfl⟩, by decide⟩ runA9
    have hR : some R ≠ ov := by
      intro he
      have h1 := hov R he.symm
      have h2 : c9.1.pay = .val 1 := by decide
      have h3 : c9.1.pay = old1.pay := by assumption
      rw [h3, h1] at h2; cases h2
    exact ⟨runA9, by decide, (hS R hRX hR).1, (hS R hRX hR).2.1, (hS R hRX hR).2.2⟩
  · obtain ⟨c, c', _, _, _, _, _, he, hz, hh, hm⟩ :=
      detached_setType_writes_only_self D c6.2.1 X 5 c6.2.2 c10.1 c10.2 _ H hx runA10
    exact ⟨runA10, by rw [he]; rfl, hz R hRX, hh, hm⟩

/-- `detachedRoot_arrInsert` applies along run A: `X` is still a detached root after the later
    insert through its own handle, the invariant still holds, so every later notification from
    `X` is a no-op too. -/
theorem detached_X_stays_detached :
    WorldOk' D c7.1 c7.2.ctr ∧ DetachedRoot c7.1 X ∧
    (∀ fuel cx2 w2 cx2', notifyParent fuel c7.1 X cx2 = .ok (w2, cx2') →
      cx2' = cx2 ∧ (w2 = c7.1 ∨ w2 = { c7.1 with hinfo := AList.erase c7.1.hinfo X })) := by
  obtain ⟨H, hx⟩ := detached_X_hyps
  have hh : HandleOk c6.2.1 X := HandleOk.root _ hx.2
  have hv : WValOk c6.2.1 X (maxInlineArr c6.2.1.T) (pl 2) := ⟨⟨by decide, 2, rfl⟩, by decide⟩
  have H' := (C10W.worldOk'_arrInsert D _ X 1 _ _ _ _ H hh hv runA7).1
  have hx' := detachedRoot_arrInsert D _ X 1 _ _ _ _ X H hh hv runA7 hx (fun wr h => by cases h)
  exact ⟨H', hx', detached_root_notification_is_noop D _ _ X H' hx'⟩

/-- "Attached to another parent": in run A the detached `X` is a legal value for `Y` (the container
    that replaced it, inlined in `R`) by `detached_root_lifecycle`; `Array.Insert Y 0 X` is a
    successful run of the model operation, keeps the invariant, and `X` — inlined again, now in
    `Y` — has a current handle. -/
theorem detached_X_reattached :
    WValOk c6.2.1 Y (maxInlineArr c6.2.1.T) (.child X 0) ∧
    c6.2.1.arrInsert Y 0 (.child X 0) c6.2.2 = .ok c11 ∧
    WorldOk' D c11.1 c11.2.ctr ∧ HandleOk c11.1 X ∧
    (c11.1.cont? Y).map Cont.pays = some [.ref X] ∧ (c11.1.cont? X).map Cont.isInlined = some true ∧
    (c11.1.cont? R).map Cont.pays = some [.ref Y] ∧
    AList.find? c11.1.hinfo X = some ⟨Y, none, 117, 0⟩ := by
  obtain ⟨H, hx⟩ := detached_X_hyps
  have hv := (detached_root_lifecycle D _ _ X H hx).2.2.2 Y (maxInlineArr c6.2.1.T) 0 not_anc_X_Y (by decide)
  -- the handle of `Y` is current: it was installed by the overwrite
  have hY : HandleOk c6.2.1 Y := by
    obtain ⟨_, _, hset, _, _⟩ := C10W.worldOk'_arrSet D c5.1 R 0 _ c5.2 c6.1 c6.2.1 c6.2.2 okA5 handleR5 valY5 runA6
    obtain ⟨_, _, _, _, _, _, _, _, _, _, _, hch⟩ := hset
    exact (hch Y 0 rfl).2.1
  obtain ⟨h1, _, h3, _, _⟩ := C10W.worldOk'_arrInsert D _ Y 0 _ _ _ _ H hY hv runA11
  obtain ⟨_, _, _, _, _, _, _, _, hch⟩ := h3
  exact ⟨hv, runA11, h1, (hch X 0 rfl).2.1, by decide, by decide, by decide, by decide⟩

/-- Run C: `Array.Remove R 0` detaches the inlined map `M`; the hypotheses of
    `removed_child_leaves_parent_unchanged` are met, hence `M` is a detached root in a valid world,
    and its closure names `R`, not `M` (`hself`). -/
theorem detached_M_hyps :
    WorldOk' D g5.2.1 g5.2.2.ctr ∧ DetachedRoot g5.2.1 M ∧
    (∀ hi, AList.find? g5.2.1.hinfo M = some hi → hi.parent ≠ M) ∧
    (g4.2.1.cont? M).map Cont.isInlined = some true := by
  have hc := cont?_getD (w := g4.2.1) (x := M) (.arr (Arr.new 0 0 Scenario.cx0).1) (by decide)
  obtain ⟨_, _, h3, h4, _⟩ := removed_child_leaves_parent_unchanged D g4.2.1 R 0 g4.2.2 g5.1 g5.2.1 g5.2.2 M _
    okC4 handleR4 runC5 (by decide) hc
  refine ⟨h4, h3.1, fun hi hh => ?_, by decide⟩
  have : AList.find? g5.2.1.hinfo M = some ⟨R, none, 117, 0⟩ := by decide
  rw [this] at hh; cases hh
  decide

/-- `detached_mapSet_writes_only_self` / `detached_mapRemove_writes_only_self` apply to the two
    continuations of run C: the former parent `R` is untouched and the only storage effect is
    `store M`. -/
theorem detached_M_instances :
    (g5.2.1.mapSet M K1 (pl 2) g5.2.2 = .ok g6 ∧ g6.2.2.eff = g5.2.2.eff ++ [.store M] ∧
      g6.2.1.cont? R = g5.2.1.cont? R ∧ AList.find? g6.2.1.hinfo R = AList.find? g5.2.1.hinfo R ∧
      AList.find? g6.2.1.mutIdx R = AList.find? g5.2.1.mutIdx R) ∧
    (g5.2.1.mapRemove M K1 g5.2.2 = .ok g7 ∧ g7.2.2.2.eff = g5.2.2.eff ++ [.store M] ∧
      g7.2.2.1.cont? R = g5.2.1.cont? R ∧ AList.find? g7.2.2.1.hinfo R = AList.find? g5.2.1.hinfo R ∧
      AList.find? g7.2.2.1.mutIdx R = AList.find? g5.2.1.mutIdx R) := by
  obtain ⟨H, hx, hself, _⟩ := detached_M_hyps
  have HK : WorldOkKept D (fun _ => False) g5.2.1 g5.2.2.ctr := H
  have hRM : R ≠ M := by decide
  refine ⟨?_, ?_⟩
  · obtain ⟨m, m', old1, cx1, ov, _, _, hpay, hov, _, hS⟩ :=
      detached_mapSet_writes_only_self D _ g5.2.1 M K1 ⟨20, .val 2⟩ g5.2.2 g6.1 g6.2.1 g6.2.2 _ HK hx hself runC6
    have hR : some R ≠ ov := by
      intro he
      obtain ⟨o, ho, hpo⟩ := hov R he.symm
      have h2 : g6.1.map (·.pay) = some (.val 1) := by decide
      rw [hpay, ho] at h2
      simp only [Option.map_some, Option.some.injEq] at h2
      rw [hpo] at h2; cases h2
    exact ⟨runC6, by decide, (hS R hRM hR).1, (hS R hRM hR).2.1, (hS R hRM hR).2.2⟩
  · obtain ⟨m, m', rv1, cx1, ov, _, _, hpay, hov, _, hS⟩ :=
      detached_mapRemove_writes_only_self D _ g5.2.1 M K1 g5.2.2 g7.1 g7.2.1 g7.2.2.1 g7.2.2.2 _ HK hx hself runC7
    have hR : some R ≠ ov := by
      intro he
      have h1 := hov R he.symm
      have h2 : g7.2.1.pay = .val 1 := by decide
      rw [hpay, h1] at h2; cases h2
    exact ⟨runC7, by decide, (hS R hRM hR).1, (hS R hRM hR).2.1, (hS R hRM hR).2.2⟩

end NonVacuityC

end Atree.C11

import AtreeProofs.Props.C10WAll
import AtreeProofs.Props.C10WPop
import AtreeProofs.Props.C11Slot
/-
  C11 — WHOLE-OPERATION theorems through a handle into a DETACHED container.
  PROPERTY THEOREMS.

  Setting: `k` is a detached root (`DetachedRoot w k`: live, referenced by nobody — a container
  removed from / overwritten in its parent, a popped child that was kept) and the operation goes
  through the current handle of `x`, where `x` is `k` itself OR ANY CONTAINER NESTED IN `k`, at any
  depth (`Anc w k x`).  For EVERY mutator — `Array.Insert` / `Set` / `Remove`, `OrderedMap.Set` /
  `Remove`, `SetType`, the bulk pops; values plain or child containers — the operation
  * keeps the global invariant and yields the list-level result in `x` (the operation theorems of
    C10: the detached container behaves as any standalone root),
  * leaves `k` a detached root,
  * and leaves EVERY container outside the subtree of `k` — the former parent, its ancestors, all
    unrelated containers — UNTOUCHED: same entry in the container table (content, element sizes,
    header size, inlined / standalone form), apart from the containers the operation moves (the
    stored child, the child handed back) and, for the pops, what is disposed of.
  No hypothesis about closures (`hself` of `C11.detached_mapSet_writes_only_self`) is needed: the
  statements follow from the strong frame `AncFrame` of `Props/C10WAll.lean` and the fact that in a
  valid world the containers a container below `k` is nested in all lie below `k`.
-/
namespace Atree.C11
open Atree Gen World

/-- In a valid world the reference structure is a forest: if `x` lies below the root `k`, every
    container `x` is nested in lies below `k` too. -/
theorem anc_below_root (D : SlabID → DigestFn 4) (w : World) (ctr : Nat) (H : WorldOk' D w ctr) (k x : SlabID)
    (hk : ∀ q, ¬ Holds w q k) (hkx : Anc w k x) (hx : (w.cont? x).isSome) : ∀ z, Anc w z x → Anc w k z := by
  obtain ⟨rank, H0⟩ := H
  intro z hz
  induction hz with
  | refl => exact hkx
  | @step p' x' _ hpx ih =>
    cases hkx with
    | refl => exact absurd hpx (hk p')
    | @step p'' _ hkp hpx' =>
      obtain ⟨pc', hpc', hm'⟩ := id hpx
      obtain ⟨pc'', hpc'', hm''⟩ := id hpx'
      obtain ⟨i, hi⟩ := List.mem_iff_getElem?.mp hm'
      obtain ⟨j, hj⟩ := List.mem_iff_getElem?.mp hm''
      have := (H0.unique p'' p' pc'' pc' j i x' hpc'' hpc' hj hi hx).1
      subst this
      exact ih hkp (by rw [hpc']; rfl)

/-- THE FRAME for an operation through a handle into the detached subtree of `k`: everything outside
    that subtree, other than the containers the operation moves, is untouched. -/
theorem detached_subtree_untouched (D : SlabID → DigestFn 4) (w w' : World) (ctr : Nat) (H : WorldOk' D w ctr)
    (k x : SlabID) (hk : DetachedRoot w k) (hkx : Anc w k x) (hx : (w.cont? x).isSome) (M : SlabID → Prop)
    (F : AncFrame w w' x M) : ∀ z, ¬ Anc w k z → ¬ M z → w'.cont? z = w.cont? z :=
  fun z hz hM => F.1 z (fun ha => hz (anc_below_root D w ctr H k x hk.2 hkx hx z ha)) hM

/-- what is reachable from a container below `k` lies below `k` -/
theorem anc_of_reach {w : World} {k v z : SlabID} (hkv : Anc w k v) (hr : Reach w v z) : Anc w k z := by
  induction hr with
  | refl _ => exact hkv
  | step hc he' hp _ ih => exact ih (Anc.step hkv ⟨_, hc, mem_pays_iff.mpr ⟨_, he', hp⟩⟩)

private theorem value_not_root {w : World} {k x : SlabID} {lim : Nat} {v : WVal} (hkx : Anc w k x)
    (hv : WValOk w x lim v) : ∀ wr, v ≠ .child k wr := by
  intro wr he
  subst he
  exact hv.2.2.1 hkx

private theorem live_of_handle_target {w : World} {x : SlabID} {a : Cont} (h : w.cont? x = some a) :
    (w.cont? x).isSome := by rw [h]; rfl

/-- `Array.Insert` (plain value or child container) through a handle into a detached subtree -/
theorem detached_arrInsert (D : SlabID → DigestFn 4) (w : World) (k x : SlabID) (i : Nat) (v : WVal) (cx : Ctx)
    (w' : World) (cx' : Ctx) (H : WorldOk' D w cx.ctr) (hk : DetachedRoot w k) (hkx : Anc w k x)
    (hh : HandleOk w x) (hv : WValOk w x (maxInlineArr w.T) v) (h : w.arrInsert x i v cx = .ok (w', cx')) :
    WorldOk' D w' cx'.ctr ∧ InsertedAt w w' x i v ∧ HandlesKept w w' ∧ DetachedRoot w' k ∧
      ∀ z, ¬ Anc w k z → ¬ Moved (some v) none z → w'.cont? z = w.cont? z := by
  obtain ⟨g1, _, g3, _, _, g6, g7⟩ := C10W.worldOk'_arrInsert_all D w x i v cx w' cx' H hh hv h
  obtain ⟨a, _, _, ha, _⟩ := id g3
  exact ⟨g1, g3, g6, detachedRoot_arrInsert D w x i v cx w' cx' k H hh hv h hk (value_not_root hkx hv),
    detached_subtree_untouched D w w' cx.ctr H k x hk hkx (live_of_handle_target ha) _ g7⟩

/-- `Array.Set` -/
theorem detached_arrSet (D : SlabID → DigestFn 4) (w : World) (k x : SlabID) (i : Nat) (v : WVal) (cx : Ctx)
    (old : Elem) (w' : World) (cx' : Ctx) (H : WorldOk' D w cx.ctr) (hk : DetachedRoot w k) (hkx : Anc w k x)
    (hh : HandleOk w x) (hv : WValOk w x (maxInlineArr w.T) v) (h : w.arrSet x i v cx = .ok (old, w', cx')) :
    WorldOk' D w' cx'.ctr ∧ SetAt w w' x i v old ∧ HandlesKept w w' ∧ DetachedRoot w' k ∧
      ∀ z, ¬ Anc w k z → ¬ Moved (some v) (some old) z → w'.cont? z = w.cont? z := by
  obtain ⟨g1, _, g3, _, _, g6, g7⟩ := C10W.worldOk'_arrSet_all D w x i v cx old w' cx' H hh hv h
  obtain ⟨a, _, _, _, ha, _⟩ := id g3
  exact ⟨g1, g3, g6, detachedRoot_arrSet D w x i v cx old w' cx' k H hh hv h hk (value_not_root hkx hv),
    detached_subtree_untouched D w w' cx.ctr H k x hk hkx (live_of_handle_target ha) _ g7⟩

/-- `Array.Remove` -/
theorem detached_arrRemove (D : SlabID → DigestFn 4) (w : World) (k x : SlabID) (i : Nat) (cx : Ctx)
    (old : Elem) (w' : World) (cx' : Ctx) (H : WorldOk' D w cx.ctr) (hk : DetachedRoot w k) (hkx : Anc w k x)
    (hh : HandleOk w x) (h : w.arrRemove x i cx = .ok (old, w', cx')) :
    WorldOk' D w' cx'.ctr ∧ RemovedAt w w' x i old ∧ HandlesKept w w' ∧ DetachedRoot w' k ∧
      ∀ z, ¬ Anc w k z → ¬ Moved none (some old) z → w'.cont? z = w.cont? z := by
  obtain ⟨g1, _, g3, _, _, g6, g7⟩ := C10W.worldOk'_arrRemove_all D w x i cx old w' cx' H hh h
  obtain ⟨a, _, _, ha, _⟩ := id g3
  exact ⟨g1, g3, g6, detachedRoot_arrRemove D w x i cx old w' cx' k H hh h hk,
    detached_subtree_untouched D w w' cx.ctr H k x hk hkx (live_of_handle_target ha) _ g7⟩

/-- `OrderedMap.Set` -/
theorem detached_mapSet (D : SlabID → DigestFn 4) (w : World) (k x : SlabID) (key : MKey) (v : WVal) (cx : Ctx)
    (old : Option Elem) (w' : World) (cx' : Ctx) (H : WorldOk' D w cx.ctr) (hk : DetachedRoot w k)
    (hkx : Anc w k x) (hh : HandleOk w x) (hkey : KeyOk w.T 4 (D x) key)
    (hv : WValOk w x (maxInlineMapValue w.T key.size) v) (h : w.mapSet x key v cx = .ok (old, w', cx')) :
    WorldOk' D w' cx'.ctr ∧ MapSetAt w w' x key v old ∧ HandlesKept w w' ∧ DetachedRoot w' k ∧
      ∀ z, ¬ Anc w k z → ¬ Moved (some v) old z → w'.cont? z = w.cont? z := by
  obtain ⟨g1, _, g3, _, _, g6, g7⟩ := C10W.worldOk'_mapSet_all D w x key v cx old w' cx' H hh hkey hv h
  obtain ⟨m, _, _, _, hm, _⟩ := id g3
  exact ⟨g1, g3, g6, detachedRoot_mapSet D w x key v cx old w' cx' k H hh hkey hv h hk (value_not_root hkx hv),
    detached_subtree_untouched D w w' cx.ctr H k x hk hkx (live_of_handle_target hm) _ g7⟩

/-- `OrderedMap.Remove` -/
theorem detached_mapRemove (D : SlabID → DigestFn 4) (w : World) (k x : SlabID) (key : MKey) (cx : Ctx)
    (rk : MKey) (rv : Elem) (w' : World) (cx' : Ctx) (H : WorldOk' D w cx.ctr) (hk : DetachedRoot w k)
    (hkx : Anc w k x) (hh : HandleOk w x) (hkey : KeyOk w.T 4 (D x) key)
    (h : w.mapRemove x key cx = .ok (rk, rv, w', cx')) :
    WorldOk' D w' cx'.ctr ∧ MapRemovedAt w w' x key rk rv ∧ HandlesKept w w' ∧ DetachedRoot w' k ∧
      ∀ z, ¬ Anc w k z → ¬ Moved none (some rv) z → w'.cont? z = w.cont? z := by
  obtain ⟨g1, _, g3, _, _, g6, g7⟩ := C10W.worldOk'_mapRemove_all D w x key cx rk rv w' cx' H hh hkey h
  obtain ⟨m, _, _, hm, _⟩ := id g3
  exact ⟨g1, g3, g6, detachedRoot_mapRemove D w x key cx rk rv w' cx' k H hh hkey h hk,
    detached_subtree_untouched D w w' cx.ctr H k x hk hkx (live_of_handle_target hm) _ g7⟩

/-- `SetType`: nothing but the containers from `x` up to `k` changes, and only in type info / form -/
theorem detached_setType (D : SlabID → DigestFn 4) (w : World) (k x : SlabID) (ty : Nat) (cx : Ctx)
    (w' : World) (cx' : Ctx) (H : WorldOk' D w cx.ctr) (hk : DetachedRoot w k) (hkx : Anc w k x)
    (hh : HandleOk w x) (h : w.setType x ty cx = .ok (w', cx')) :
    WorldOk' D w' cx'.ctr ∧ ContsSig w w' ∧ HandlesKept w w' ∧ DetachedRoot w' k ∧
      ∀ z, ¬ Anc w k z → w'.cont? z = w.cont? z := by
  obtain ⟨g1, _, ⟨c, _, hc, _⟩, _, g5, g6, g7⟩ := C10W.worldOk'_setType_all D w x ty cx w' cx' H hh h
  refine ⟨g1, g5, g6, detachedRoot_setType D w x ty cx w' cx' k H hh h hk, fun z hz => ?_⟩
  exact detached_subtree_untouched D w w' cx.ctr H k x hk hkx (live_of_handle_target hc) _ g7 z hz
    (by rintro (⟨wr, h⟩ | ⟨o, h, _⟩) <;> cases h)

/-- `Array.PopIterate` through a handle into a detached subtree (the caller keeping the popped
    containers `keep`): what lies outside the subtree of `k` is untouched. -/
theorem detached_arrPopKeep (D : SlabID → DigestFn 4) (w : World) (k x : SlabID) (keep : List SlabID) (cx : Ctx)
    (es : List Elem) (w' : World) (cx' : Ctx) (H : WorldOk' D w cx.ctr) (hk : DetachedRoot w k) (hkx : Anc w k x)
    (hh : HandleOk w x) (hpop : w.arrPopKeep x keep cx = .ok (es, w', cx')) :
    ∀ z, ¬ Anc w k z → w'.cont? z = w.cont? z := by
  obtain ⟨a, ha, F⟩ := C10W.arrPopKeep_strong_frame D w x keep cx es w' cx' H hh hpop
  intro z hz
  refine F z (fun h => hz (anc_below_root D w cx.ctr H k x hk.2 hkx (live_of_handle_target ha) z h)) ?_
  -- what is disposed of lies below `x`, hence below `k`
  intro e he v hv hr
  have hex : e ∈ (Cont.arr a).storedElems := (mem_disposed.mp he).1
  have hxv : Holds w x v := ⟨_, ha, mem_pays_iff.mpr ⟨e, hex, hv⟩⟩
  exact hz (anc_of_reach (Anc.step hkx hxv) hr)

/-- `OrderedMap.PopIterate` through a handle into a detached subtree -/
theorem detached_mapPopKeep (D : SlabID → DigestFn 4) (w : World) (k x : SlabID) (keep : List SlabID) (cx : Ctx)
    (kvs : List (MKey × Elem)) (w' : World) (cx' : Ctx) (H : WorldOk' D w cx.ctr) (hk : DetachedRoot w k)
    (hkx : Anc w k x) (hh : HandleOk w x) (hpop : w.mapPopKeep x keep cx = .ok (kvs, w', cx')) :
    ∀ z, ¬ Anc w k z → w'.cont? z = w.cont? z := by
  obtain ⟨m, hm, F⟩ := C10W.mapPopKeep_strong_frame D w x keep cx kvs w' cx' H hh hpop
  intro z hz
  refine F z (fun h => hz (anc_below_root D w cx.ctr H k x hk.2 hkx (live_of_handle_target hm) z h)) ?_
  intro e he v hv hr
  have hex : e ∈ (Cont.map m).storedElems := (mem_disposed.mp he).1
  have hxv : Holds w x v := ⟨_, hm, mem_pays_iff.mpr ⟨e, hex, hv⟩⟩
  exact hz (anc_of_reach (Anc.step hkx hxv) hr)

/-! ### the former parent

`f` held `k`; an operation through the handle of `f` detached `k` (removal, overwrite).  In the world
`w` after the detachment `k` is a detached root and `f` does NOT lie below `k`: so every `detached_*`
theorem above applies with `z := f` — whatever is done through handles into `k` afterwards leaves
the former parent's content, size bookkeeping and form exactly as they are. -/

/-- acyclicity: after an operation through the handle of `f` that changes no other container's
    references, the former holder `f` of `k` does not lie below `k` -/
theorem former_parent_not_below (D : SlabID → DigestFn 4) (w1 w : World) (ctr : Nat) (H1 : WorldOk' D w1 ctr)
    (f k : SlabID) (hfk : Holds w1 f k) (hk1 : (w1.cont? k).isSome) (hS : SigFrame w1 w f) : ¬ Anc w k f := by
  obtain ⟨rank1, R1⟩ := H1
  have hrfk := R1.rank f k hfk hk1
  have key : ∀ z, Anc w k z → z ≠ f ∧ ((w1.cont? z).isSome → z = k ∨ rank1 k < rank1 z) := by
    intro z hz
    induction hz with
    | refl => exact ⟨fun h => by rw [h] at hrfk; omega, fun _ => Or.inl rfl⟩
    | @step p z' _ hpz ih =>
      obtain ⟨hpf, hp⟩ := ih
      have hp1 : Holds w1 p z' := hS.holds_rev hpf hpz
      have hpl : (w1.cont? p).isSome := by obtain ⟨pc, hpc, _⟩ := hp1; rw [hpc]; rfl
      have hkp : rank1 k ≤ rank1 p := by
        rcases hp hpl with h | h
        · rw [h]; exact Nat.le_refl _
        · omega
      refine ⟨fun h => ?_, fun hl => Or.inr ?_⟩
      · subst h
        have := R1.rank p z' hp1 (by obtain ⟨pc, hpc, _⟩ := hfk; rw [hpc]; rfl)
        omega
      · have := R1.rank p z' hp1 hl
        omega
  exact fun ha => (key f ha).1 rfl

/-- detachment by `Array.Remove` -/
theorem detached_by_arrRemove (D : SlabID → DigestFn 4) (w1 : World) (f : SlabID) (i : Nat) (cx1 : Ctx) (old : Elem)
    (w : World) (cx : Ctx) (k : SlabID) (H1 : WorldOk' D w1 cx1.ctr) (hf : HandleOk w1 f)
    (hrem : w1.arrRemove f i cx1 = .ok (old, w, cx)) (hold : old.pay = .ref k) (hk1 : (w1.cont? k).isSome) :
    WorldOk' D w cx.ctr ∧ DetachedRoot w k ∧ HandleOk w k ∧ ¬ Anc w k f := by
  obtain ⟨g1, _, ⟨a, a', old0, ha, _, hold0, _, hpay, hb⟩, _, g5⟩ := C10W.worldOk'_arrRemove D w1 f i cx1 old w cx H1 hf hrem
  obtain ⟨c, hc⟩ := Option.isSome_iff_exists.mp hk1
  have hd := (hb.detached (by rw [← hpay]; exact hold) hc).1
  exact ⟨g1, hd, HandleOk.root k hd.2,
    former_parent_not_below D w1 w cx1.ctr H1 f k
      (holds_arr_of_mem ha (List.mem_of_getElem? hold0) (by rw [← hpay]; exact hold)) hk1 g5⟩

/-- detachment by `Array.Set` (overwrite by a plain value or by ANOTHER container) -/
theorem detached_by_arrSet (D : SlabID → DigestFn 4) (w1 : World) (f : SlabID) (i : Nat) (v : WVal) (cx1 : Ctx)
    (old : Elem) (w : World) (cx : Ctx) (k : SlabID) (H1 : WorldOk' D w1 cx1.ctr) (hf : HandleOk w1 f)
    (hv : WValOk w1 f (maxInlineArr w1.T) v) (hset : w1.arrSet f i v cx1 = .ok (old, w, cx))
    (hold : old.pay = .ref k) (hk1 : (w1.cont? k).isSome) :
    WorldOk' D w cx.ctr ∧ DetachedRoot w k ∧ HandleOk w k ∧ ¬ Anc w k f := by
  obtain ⟨g1, _, ⟨a, a', old0, e, ha, _, hold0, _, hpay, hb, _⟩, _, g5⟩ :=
    C10W.worldOk'_arrSet D w1 f i v cx1 old w cx H1 hf hv hset
  obtain ⟨c, hc⟩ := Option.isSome_iff_exists.mp hk1
  have hd := (hb.detached (by rw [← hpay]; exact hold) hc).1
  exact ⟨g1, hd, HandleOk.root k hd.2,
    former_parent_not_below D w1 w cx1.ctr H1 f k
      (holds_arr_of_mem ha (List.mem_of_getElem? hold0) (by rw [← hpay]; exact hold)) hk1 g5⟩

/-- detachment by `OrderedMap.Remove` -/
theorem detached_by_mapRemove (D : SlabID → DigestFn 4) (w1 : World) (f : SlabID) (key : MKey) (cx1 : Ctx)
    (rk : MKey) (rv : Elem) (w : World) (cx : Ctx) (k : SlabID) (H1 : WorldOk' D w1 cx1.ctr) (hf : HandleOk w1 f)
    (hkey : KeyOk w1.T 4 (D f) key) (hrem : w1.mapRemove f key cx1 = .ok (rk, rv, w, cx))
    (hold : rv.pay = .ref k) (hk1 : (w1.cont? k).isSome) :
    WorldOk' D w cx.ctr ∧ DetachedRoot w k ∧ HandleOk w k ∧ ¬ Anc w k f := by
  obtain ⟨g1, _, ⟨m, m', rv0, hm, _, _, ⟨A, B, hA, _⟩, hpay, hb⟩, _, g5⟩ :=
    C10W.worldOk'_mapRemove D w1 f key cx1 rk rv w cx H1 hf hkey hrem
  obtain ⟨c, hc⟩ := Option.isSome_iff_exists.mp hk1
  have hd := (hb.detached (by rw [← hpay]; exact hold) hc).1
  exact ⟨g1, hd, HandleOk.root k hd.2,
    former_parent_not_below D w1 w cx1.ctr H1 f k
      (holds_map_of_mem (k := key) (e := rv0) hm (by rw [hA]; simp) (by rw [← hpay]; exact hold)) hk1 g5⟩

/-- detachment by `OrderedMap.Set` (overwrite) -/
theorem detached_by_mapSet (D : SlabID → DigestFn 4) (w1 : World) (f : SlabID) (key : MKey) (v : WVal) (cx1 : Ctx)
    (o : Elem) (w : World) (cx : Ctx) (k : SlabID) (H1 : WorldOk' D w1 cx1.ctr) (hf : HandleOk w1 f)
    (hkey : KeyOk w1.T 4 (D f) key) (hv : WValOk w1 f (maxInlineMapValue w1.T key.size) v)
    (hset : w1.mapSet f key v cx1 = .ok (some o, w, cx)) (hold : o.pay = .ref k) (hk1 : (w1.cont? k).isSome) :
    WorldOk' D w cx.ctr ∧ DetachedRoot w k ∧ HandleOk w k ∧ ¬ Anc w k f := by
  obtain ⟨g1, _, ⟨m, m', e, oldo, hm, _, heff, h4, h5, _⟩, _, g5⟩ :=
    C10W.worldOk'_mapSet D w1 f key v cx1 (some o) w cx H1 hf hkey hv hset
  obtain ⟨c, hc⟩ := Option.isSome_iff_exists.mp hk1
  cases hoo : oldo with
  | none => have := h5 hoo; cases this
  | some o0 =>
    obtain ⟨o', ho', hpay, hb⟩ := h4 o0 hoo
    cases ho'
    have hd := (hb.detached (by rw [← hpay]; exact hold) hc).1
    have hmem : (key, o0) ∈ m.toList := by
      rcases heff with ⟨hn, _⟩ | ⟨v0, A, B, hs, hA, _⟩
      · rw [hoo] at hn; cases hn
      · rw [hoo] at hs; cases hs; rw [hA]; simp
    exact ⟨g1, hd, HandleOk.root k hd.2,
      former_parent_not_below D w1 w cx1.ctr H1 f k
        (holds_map_of_mem hm hmem (by rw [← hpay]; exact hold)) hk1 g5⟩

end Atree.C11

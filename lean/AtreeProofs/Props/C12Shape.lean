import AtreeProofs.Map.ExportTree
import AtreeProofs.Map.InsertOrder
import AtreeProofs.Map.Example
/-
  C12 — the SHAPE of collision groups, as step theorems.

  `ElemsInv` (MapInv.lean) bounds inline groups at the first level but puts NO condition on external
  groups – rightly so, because the code never re-inlines an external group: after removals an external
  group may be smaller than the element limit.  So "a group lives in a slab of its own exactly when it
  is larger than the element limit" is not an invariant of states; what is true is a statement
  about STEPS:

    * `export_exactly_when_oversized`  one `Set` changes at most one first-level element, and a
      collision group that is born or updated by it ends up external if and only if
      `inlineCollisionGroupPrefixSize + size` exceeds `maxInlineMapElementSize`; an external group
      stays external (same slab); nothing else is exported, inlined or touched;
    * `no_reinline_on_shrink`           one `Remove` changes exactly one first-level element: a
      single element disappears, an inline group stays inline or collapses to its last single
      element, an external group stays external – whatever its size – or collapses to its last single
      element (and never becomes an inline group).

  Both are about the first-level elements of the WHOLE map (`OMap.elems0`: all data slabs, in
  order): splitting / merging / re-balancing slabs, promoting and splitting the root only move
  elements.  No digest, no size band is assumed beyond `MapInv`'s "one digest per element".
-/
namespace Atree.C12
open Atree Gen

variable {r : Nat}

/-- Export exactly when oversized: after a successful `Set`, the list of first-level elements of the
    map is the list before it with EITHER one new single element inserted, OR exactly one element
    `el` replaced by `el'` where (`SetKindRel`):
      * `el` external  ⇒ `el'` external with the same slab ID and element size;
      * `el` single, `el'` single (the value of that key was overwritten);
      * otherwise `el'` is a collision group `g'` (born from a single element and the new key, or the
        updated inline group), and
          `el'` is external  ⇒  `inlineCollisionGroupPrefixSize + size g' > maxInlineMapElem T`
                               (and its new slab has size `mapDataSlabPrefixSize + size g'`),
          `el'` is inline    ⇒  `inlineCollisionGroupPrefixSize + size g' ≤ maxInlineMapElem T`. -/
theorem export_exactly_when_oversized (T : Nat) (D : DigestFn (r + 1)) (cfg : MCfg) (m m' : OMap r)
    (h : MapInv T D m) (k : MKey) (v : Elem) (c c' : Ctx) (old : Option Elem)
    (hs : m.set cfg k v c = .ok (old, m', c')) :
    SetElemsRel cfg.T (MElems.ops r) m.elems0 m'.elems0 :=
  OMap.set_elems0 cfg m m' h k v c c' old hs

/-- the group size of an element that is a group -/
def groupSize (o : ElemsOps α) : MElemF α → Nat
  | .single _ => 0
  | .inl g => o.size g
  | .ext _ _ s => o.size s.elems

/-- the "if and only if" in one line: when the element that `Set` worked on was not already external
    and the result is a group, the group is external exactly when it is oversized -/
theorem SetKindRel.ext_iff {α : Type} {T : Nat} {o : ElemsOps α} {el el' : MElemF α} (h : SetKindRel T o el el')
    (hnot : ∀ id sz s, el ≠ .ext id sz s) (hgrp : el'.isGroup = true) :
    (∃ id sz s, el' = .ext id sz s) ↔ inlineCollisionGroupPrefixSize + groupSize o el' > maxInlineMapElem T := by
  cases el with
  | ext id sz s => exact absurd rfl (hnot id sz s)
  | single x =>
    cases el' with
    | single y => cases hgrp
    | inl g' =>
      have h' : inlineCollisionGroupPrefixSize + o.size g' ≤ maxInlineMapElem T := h
      constructor
      · rintro ⟨_, _, _, he⟩; cases he
      · intro hgt; simp only [groupSize] at hgt; omega
    | ext id' sz' s' =>
      have h' : inlineCollisionGroupPrefixSize + o.size s'.elems > maxInlineMapElem T ∧ _ := h
      exact ⟨fun _ => h'.1, fun _ => ⟨_, _, _, rfl⟩⟩
  | inl g =>
    cases el' with
    | single y => cases hgrp
    | inl g' =>
      have h' : inlineCollisionGroupPrefixSize + o.size g' ≤ maxInlineMapElem T := h
      constructor
      · rintro ⟨_, _, _, he⟩; cases he
      · intro hgt; simp only [groupSize] at hgt; omega
    | ext id' sz' s' =>
      have h' : inlineCollisionGroupPrefixSize + o.size s'.elems > maxInlineMapElem T ∧ _ := h
      exact ⟨fun _ => h'.1, fun _ => ⟨_, _, _, rfl⟩⟩

/-- No re-inlining on shrink: after a successful `Remove`, exactly one first-level element `el` of
    the map was replaced by `el'?` (`none` = gone) where (`RemoveKindRel`): a single element is gone; an
    inline group is still an inline group or has collapsed to its last single element; an external
    group is still external with the same slab ID – even if it would now fit inline – or has
    collapsed to its last single element; it is never turned back into an inline group. -/
theorem no_reinline_on_shrink (cfg : MCfg) (m m' : OMap r) (k : MKey) (c c' : Ctx) (rk : MKey) (rv : Elem)
    (hs : m.remove cfg k c = .ok (rk, rv, m', c')) : RemoveElemsRel m.elems0 m'.elems0 :=
  OMap.remove_elems0 cfg m m' k c c' rk rv hs

/-- Full collisions keep their insertion order: when `Set` returns no previous value (the key is new),
    the iteration order afterwards is the order before with the new pair inserted BEHIND every pair that
    has the same digest vector as the new key (`NewLast`): together with `order_canonical` (ascending
    digest vectors) this fixes the position of the new pair completely – after the last fully colliding
    key, before the first larger digest vector. -/
theorem full_collisions_keep_insertion_order (T : Nat) (hT : legalThreshold T = true) (D : DigestFn (r + 1))
    (cfg : MCfg) (m m' : OMap r) (hcfg : CfgOk cfg T m) (h : MapInv T D m) (k : MKey) (hk : KeyOk T (r + 1) D k)
    (v : Elem) (c c' : Ctx) (hs : m.set cfg k v c = .ok (none, m', c')) : NewLast m.toList m'.toList k :=
  OMap.set_newLast hT hcfg h hk hs

/-- the same, restricted to the keys that collide with `k` on every level: the new key is APPENDED -/
theorem new_colliding_key_is_appended (T : Nat) (hT : legalThreshold T = true) (D : DigestFn (r + 1))
    (cfg : MCfg) (m m' : OMap r) (hcfg : CfgOk cfg T m) (h : MapInv T D m) (k : MKey) (hk : KeyOk T (r + 1) D k)
    (v : Elem) (c c' : Ctx) (hs : m.set cfg k v c = .ok (none, m', c')) :
    ∃ sv, m'.toList.filter (fun p => p.1.digs == k.digs) = m.toList.filter (fun p => p.1.digs == k.digs) ++ [(k, sv)] := by
  obtain ⟨A, B, sv, hl, hl', hB⟩ := full_collisions_keep_insertion_order T hT D cfg m m' hcfg h k hk v c c' hs
  refine ⟨sv, ?_⟩
  have hBf : B.filter (fun p => p.1.digs == k.digs) = [] := by
    rw [List.filter_eq_nil_iff]
    intro p hp
    simp only [beq_iff_eq]
    exact hB p hp
  rw [hl, hl']
  simp [List.filter_append, List.filter_cons, hBf]

/-! ### Non-vacuity

`MapExample` (two digest levels, T = 256): after seven insertions the element under first-level
digest 3 is an INLINE group (keys 311, 312, 313); inserting 314 makes it 4 × 21 + 5 + … bytes, over the
element limit 107, and the same `Set` exports it.  The kinds are computed by running the model. -/
section NonVacuity
open MapExample

/-- the first seven insertions of `MapExample.run` -/
def before : OMap 1 × Ctx :=
  [(211, 1), (111, 2), (112, 3), (121, 4), (311, 5), (312, 6), (313, 7)].foldl
    (fun s p => stepSet cfg2 s (key p.1) (val p.2)) st0

theorem before_good : Good 256 D2 cfg2 before := by
  unfold before
  simp only [List.foldl]
  iterate 7 refine Good.set legal256 ?_ (key_ok _) (val_ok _)
  exact Good.new legal256 rfl rfl _ _ _

example : kinds before.1 = ["inline", "single", "inline"] := by decide +kernel
example : kinds (stepSet cfg2 before (key 314) (val 8)).1 = ["inline", "single", "external"] := by decide +kernel
example : maxInlineMapElem 256 = 107 := by decide

/-- the theorem applies to that step -/
example (old : Option Elem) (m' : OMap 1) (c' : Ctx)
    (hs : before.1.set cfg2 (key 314) (val 8) before.2 = .ok (old, m', c')) :=
  export_exactly_when_oversized 256 D2 cfg2 before.1 m' before_good.inv (key 314) (val 8) before.2 c' old hs

/-- and a removal from the external group of `MapExample.run` keeps it external although it shrinks -/
example : kinds (stepRemove cfg2 MapExample.run (key 314)).1 =
    ["single", "inline", "inline", "external", "inline", "inline", "single", "single", "single"] := by
  rw [run_eq]; decide +kernel

/-- the keys 311 … 314 of `MapExample.run` collide on both levels; a fifth such key (with a collision
    limit that admits it) is appended behind them -/
def cfg255 : MCfg := { cfg2 with climit := 255 }

example : (MapExample.run.1.toList.filter (fun p => p.1.digs == (key 315).digs)).map (fun p => p.1.pay) =
    [311, 312, 313, 314] := by rw [run_eq]; decide +kernel

example : ((stepSet cfg255 MapExample.run (key 315) (val 0)).1.toList.filter
    (fun p => p.1.digs == (key 315).digs)).map (fun p => p.1.pay) = [311, 312, 313, 314, 315] := by
  rw [run_eq]; decide +kernel

example (m' : OMap 1) (c' : Ctx) (hs : MapExample.run.1.set cfg255 (key 315) (val 0) MapExample.run.2 = .ok (none, m', c')) :=
  new_colliding_key_is_appended 256 legal256 D2 cfg255 MapExample.run.1 m' run_good.cfgok run_good.inv (key 315) (key_ok _)
    (val 0) MapExample.run.2 c' hs

end NonVacuity

end Atree.C12

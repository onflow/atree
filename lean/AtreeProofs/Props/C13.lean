import AtreeProofs.Props.C05
import AtreeProofs.Props.C12
import AtreeProofs.Iter.ArrayIter
import AtreeProofs.Iter.ArrayLoadedSM
import AtreeProofs.Iter.ArrayOverwrite
import AtreeProofs.Iter.MapTop
import AtreeProofs.Iter.MapOverwrite
import AtreeProofs.Iter.MapExample
import AtreeProofs.Map.Ids
/-
  C13 — Every iterator yields exactly the elements once, in canonical order.
  Property theorems about the iterator models of AtreeModel/Array/Ops.lean (read-only, mutable,
  range), AtreeModel/Array/Iter.lean (loaded values, overwrite during iteration) and
  AtreeModel/Map/Iter.lean (mutable by next-key lookups, read-only along the `next` links,
  keys-only / values-only, loaded values, overwrite during iteration), for arbitrary trees
  satisfying the invariants `ArrInv` / `MapInv`, arbitrary legal thresholds, arbitrary digest
  functions (any collisions), arbitrary `loaded` predicates.

  "Exactly once, in order" is expressed by equality with `toList` (the sequence / pair list the
  container represents: C01, C02; its keys are pairwise different by `MapInv.distinct`, and it is in
  canonical digest order by `map_order_canonical`).
-/
namespace Atree.C13
open Atree Gen

/-- (re-export of C05) The read-only iterator (sibling links) and the mutable iterator
    (positional access) both yield `toList`; the count is its length; `Get(i)` is its `i`-th
    element: all flavours agree with each other and with lookups. -/
theorem arr_ro_mut_iter_eq_toList (T : Nat) (hT : legalThreshold T = true) (a : Arr) (ctr : Nat)
    (h : ArrInv T a ctr) :
    a.iterReadOnly = a.toList ∧ a.iterMutable = .ok a.toList ∧ a.count = a.toList.length ∧
    (∀ i, i < a.count → a.get i = .ok (a.toList.getD i default)) :=
  C05.access_agree T hT a ctr h

/-- All slabs loaded: the loaded-value iteration is the full enumeration (the stored elements;
    references resolve through the loaded large-value slabs exactly as for the other iterators). -/
theorem arr_loaded_all_eq_toList (T : Nat) (a : Arr) (ctr : Nat) (h : ArrInv T a ctr)
    (loaded : SlabID → Bool) (hall : ∀ id, loaded id = true) :
    a.iterLoaded loaded = a.toList :=
  IterA.iterLoaded_all hall a.d true a.root h.tree

/-- Any set of loaded slabs: a partially loaded array yields an in-order sublist of the full
    enumeration (no hypothesis on the tree is needed). -/
theorem arr_loaded_subset_is_sublist (loaded : SlabID → Bool) (a : Arr) :
    (a.iterLoaded loaded).Sublist a.toList :=
  IterA.iterLoaded_sublist loaded a.d a.root

/-- The iterator object of the Go code (stack of index-slab cursors, data-slab cursor, `Next()`)
    yields exactly the structural traversal the two theorems above talk about: on every array,
    for every `loaded`. -/
theorem arr_loaded_iterator_object_eq (loaded : SlabID → Bool) (a : Arr) :
    a.iterLoadedSM loaded = a.iterLoaded loaded :=
  IterA.iterLoadedSM_eq loaded a

/-- Range iteration over a valid range `[lo, hi)` is that slice of the enumeration, for the
    read-only range iterator (start slab located through the index slabs, then sibling links,
    bounded by the remaining count) and for the mutable one (positional access). -/
theorem arr_range_iter_eq_slice (T : Nat) (hT : legalThreshold T = true) (a : Arr) (ctr : Nat)
    (h : ArrInv T a ctr) (lo hi : Nat) (h1 : lo ≤ hi) (h2 : hi ≤ a.count) :
    a.iterReadOnlyRange lo hi = .ok ((a.toList.drop lo).take (hi - lo)) ∧
    a.iterMutableRange lo hi = .ok ((a.toList.drop lo).take (hi - lo)) :=
  ⟨IterA.iterReadOnlyRange_eq hT a ctr h lo hi h1 h2, IterA.iterMutableRange_eq hT a ctr h lo hi h1 h2⟩

/-- Invalid ranges are rejected, with the exact error kinds, by both range iterators, on any
    array: a bound past the count is `SliceOutOfBoundsError`, an inverted range within the count
    is `InvalidSliceIndexError`. -/
theorem bad_range_rejected (a : Arr) (lo hi : Nat) :
    ((a.count < lo ∨ a.count < hi) →
      a.iterReadOnlyRange lo hi = .error .sliceOutOfBounds ∧
      a.iterMutableRange lo hi = .error .sliceOutOfBounds) ∧
    ((lo ≤ a.count ∧ hi ≤ a.count ∧ hi < lo) →
      a.iterReadOnlyRange lo hi = .error .invalidSliceIndex ∧
      a.iterMutableRange lo hi = .error .invalidSliceIndex) := by
  constructor
  · intro h
    have := IterA.checkRange_oob a lo hi h
    constructor
    · unfold Arr.iterReadOnlyRange; rw [this]; rfl
    · unfold Arr.iterMutableRange; rw [this]; rfl
  · rintro ⟨h1, h2, h3⟩
    have := IterA.checkRange_inverted a lo hi h1 h2 h3
    constructor
    · unfold Arr.iterReadOnlyRange; rw [this]; rfl
    · unfold Arr.iterMutableRange; rw [this]; rfl

/-- Reverse-order bulk pop hands out the enumeration backwards (and empties the array). -/
theorem arr_pop_eq_reverse (a : Arr) (c : Ctx) :
    (a.popIterate c).1 = a.toList.reverse ∧ (a.popIterate c).2.1.toList = [] :=
  ⟨(arr_popIterate_refines a c).1, (arr_popIterate_refines a c).2.1⟩

/-- Overwriting the current element from inside the callback of the mutable iterator neither
    skips nor repeats: the iteration hands out exactly the original sequence in index order and
    leaves a well-formed array of the same length under the same root ID (whatever splits and
    merges the overwrites cause). -/
theorem arr_mut_iter_overwrite_current_no_skip_no_repeat (T : Nat) (hT : legalThreshold T = true)
    (upd : Nat → Elem → Option Elem) (hupd : ∀ i e v, upd i e = some v → ValueOk v)
    (a : Arr) (c : Ctx) (h : ArrInv T a c.ctr) :
    ∃ a' c', a.iterateWith T upd c = .ok (a.toList, a', c') ∧ ArrInv T a' c'.ctr ∧
      a'.toList.length = a.toList.length ∧ a'.rootID = a.rootID :=
  IterA.iterateWith_spec hT upd hupd a c h

variable {r : Nat}

/-- (re-export of C12) The enumeration is in canonical order: ascending lexicographic order of
    the digest vectors, pairs with identical digest vectors in their (insertion) order of `toList`. -/
theorem map_order_canonical (T : Nat) (D : DigestFn (r + 1)) (m : OMap r) (h : MapInv T D m) :
    (m.toList.map (fun p => p.1.digs)).Pairwise (fun a b => a = b ∨ List.Lex (· < ·) a b) :=
  C12.order_canonical T D m h

/-- The lookup the mutable iterator is built on: for every pair of the enumeration,
    `getElementAndNextKey` of its key returns that pair and the key of the pair that follows
    (`none` after the last), across elements, collision groups (inline, external, last-level
    lists) and slab boundaries. -/
theorem map_lookup_and_successor (T : Nat) (hT : legalThreshold T = true) (D : DigestFn (r + 1)) (cfg : MCfg)
    (m : OMap r) (hcfg : CfgOk cfg T m) (h : MapInv T D m)
    (A : List (MKey × Elem)) (p : MKey × Elem) (B : List (MKey × Elem)) (hl : m.toList = A ++ p :: B) :
    m.getElementAndNextKey cfg p.1 = .ok (p.1, p.2, B.head?.map (·.1)) :=
  IterM.nextKeyOk hT m hcfg h A p B hl

/-- The mutable iterator (`Iterate`: start at the first key, repeatedly look up the current key
    and its successor from the root) visits exactly `toList`. -/
theorem map_mut_iter_eq_toList (T : Nat) (hT : legalThreshold T = true) (D : DigestFn (r + 1)) (cfg : MCfg)
    (m : OMap r) (hcfg : CfgOk cfg T m) (h : MapInv T D m) :
    m.iterMutable cfg = .ok m.toList :=
  IterM.iterMutable_eq hT m hcfg h

/-- The read-only iterator (element iterator nested through the collision groups, then the
    `next` link to the following data slab) visits exactly `toList`.  Besides `MapInv` this needs
    the identifier clause `MapIdsOk` (AtreeProofs/MapIds.lean: slab identifiers pairwise different,
    of the owner's address, index between 1 and the allocation counter) — the sibling invariant that
    is preserved by every operation (`C05.mapIds_*`, `C05.map_history_wellformed`) and holds after
    every history from `NewMap` (`C13.map_ro_iter_history` in Props/C13Ids.lean has no hypothesis
    about identifiers at all).  What the proof uses of it is `m.leafIdsOk = true`
    (`C05.mapIdsOk_implies`). -/
theorem map_ro_iter_eq_toList (T : Nat) (hT : legalThreshold T = true) (D : DigestFn (r + 1)) (cfg : MCfg)
    (m : OMap r) (hcfg : CfgOk cfg T m) (ctr : Nat) (h : MapInvI T D m ctr) :
    m.iterReadOnly = .ok m.toList :=
  IterM.iterReadOnly_eq hT m hcfg h.1 h.2.leafIdsOk

/-- Keys-only and values-only flavours are the projections of the enumeration, for the mutable
    iterator (`IterateKeys` goes through `getNextKey`, `IterateValues` through
    `getElementAndNextKey`) and for the read-only one (the latter under the preserved identifier
    clause `MapIdsOk`, see `map_ro_iter_eq_toList`). -/
theorem map_keys_values_projections (T : Nat) (hT : legalThreshold T = true) (D : DigestFn (r + 1)) (cfg : MCfg)
    (m : OMap r) (hcfg : CfgOk cfg T m) (h : MapInv T D m) :
    m.iterMutableKeys cfg = .ok (m.toList.map (·.1)) ∧
    m.iterMutableValues cfg = .ok (m.toList.map (·.2)) ∧
    (∀ ctr, MapIdsOk m ctr →
      m.iterReadOnlyKeys = .ok (m.toList.map (·.1)) ∧ m.iterReadOnlyValues = .ok (m.toList.map (·.2))) := by
  refine ⟨IterM.iterMutableKeys_eq hT m hcfg h, IterM.iterMutableValues_eq hT m hcfg h, ?_⟩
  intro ctr hids
  have := IterM.iterReadOnly_eq hT m hcfg h hids.leafIdsOk
  constructor
  · unfold OMap.iterReadOnlyKeys; rw [this]; rfl
  · unfold OMap.iterReadOnlyValues; rw [this]; rfl

/-- All slabs loaded: the loaded-value iteration is the full enumeration. -/
theorem map_loaded_all_eq_toList (T : Nat) (D : DigestFn (r + 1)) (m : OMap r) (h : MapInv T D m)
    (loaded : SlabID → Bool) (hall : ∀ id, loaded id = true) :
    m.iterLoaded loaded = m.toList :=
  IterM.iterLoaded_all hall m.d true m.root h.tree

/-- Any set of loaded slabs (index slabs, data slabs, external collision groups, large-value
    slabs): a partially loaded map yields an in-order sublist of the full enumeration (no
    hypothesis on the tree is needed). -/
theorem map_loaded_subset_is_sublist (loaded : SlabID → Bool) (m : OMap r) :
    (m.iterLoaded loaded).Sublist m.toList :=
  IterM.iterLoaded_sublist loaded m.d m.root

/-- Reverse-order bulk pop hands out the enumeration backwards (on any tree). -/
theorem map_pop_eq_reverse (m : OMap r) (c : Ctx) : (m.popIterate c).1 = m.toList.reverse :=
  MTree.popIterate_fst m.d m.root c

/-- Overwriting the value of the current key from inside the callback of the mutable iterator
    neither skips nor repeats: the iteration hands out exactly the original pair list (the iterator
    has fetched the next key before the callback runs and looks every key up in the current tree,
    whatever splits and merges the overwrites cause), the invariant is preserved and the key
    sequence is unchanged.  (Uses `OMap.set_overwrite`, the in-place effect of `Set` on a present key.) -/
theorem map_mut_iter_overwrite_current_no_skip_no_repeat (T : Nat) (hT : legalThreshold T = true)
    (D : DigestFn (r + 1)) (cfg : MCfg)
    (upd : MKey → Elem → Option Elem) (hupd : ∀ k v v', upd k v = some v' → ValueOkM v')
    (m : OMap r) (c : Ctx) (h : MapInv T D m) (hcfg : CfgOk cfg T m) :
    ∃ m' c', m.iterateWith cfg upd c = .ok (m.toList, m', c') ∧ MapInv T D m' ∧
      m'.toList.map (·.1) = m.toList.map (·.1) :=
  IterM.iterateWith_spec hT upd hupd m c h hcfg

/-! ## Non-vacuity

`Atree.Example.arr4` (AtreeProofs/Array/Example.lean) is a two-level array produced by the model
(`T = 256`, an index slab over two data slabs) with a direct proof of `ArrInv`;
`Atree.IterExample.map3` (AtreeProofs/Iter/MapExample.lean) is a map produced by the model (`T = 256`,
two digest levels) whose first element is an inline collision group, with a direct proof of
`MapInv`.  The theorems above apply to them, and the iterators compute what the theorems say. -/
section NonVacuity
open Atree.Example Atree.IterExample

example : ArrInv Example.T0 arr4 3 := arr4_inv
example : arr4.toList = [elem 0, elem 1, elem 2, elem 3] := rfl

/-- the right data slab `1.3` not loaded: the loaded-value iterator yields the left half … -/
example : arr4.iterLoaded (fun id => id != ⟨1, 3⟩) = [elem 0, elem 1] := by decide
/-- … the iterator object agrees … -/
example : arr4.iterLoadedSM (fun id => id != ⟨1, 3⟩) = [elem 0, elem 1] :=
  (arr_loaded_iterator_object_eq _ arr4).trans (by decide)
/-- … and that is a sublist of the enumeration, by the theorem. -/
example : (arr4.iterLoaded (fun id => id != ⟨1, 3⟩)).Sublist arr4.toList :=
  arr_loaded_subset_is_sublist _ arr4
example : arr4.iterLoaded (fun _ => true) = arr4.toList :=
  arr_loaded_all_eq_toList Example.T0 arr4 3 arr4_inv _ (fun _ => rfl)

/-- a range that crosses the slab boundary -/
example : arr4.iterReadOnlyRange 1 3 = .ok [elem 1, elem 2] :=
  (arr_range_iter_eq_slice Example.T0 Example.legal arr4 3 arr4_inv 1 3 (by decide) (by decide)).1
example : arr4.iterMutableRange 1 3 = .ok [elem 1, elem 2] :=
  (arr_range_iter_eq_slice Example.T0 Example.legal arr4 3 arr4_inv 1 3 (by decide) (by decide)).2
example : arr4.iterReadOnlyRange 2 5 = .error .sliceOutOfBounds :=
  ((bad_range_rejected arr4 2 5).1 (Or.inr (by decide))).1
example : arr4.iterMutableRange 3 1 = .error .invalidSliceIndex :=
  ((bad_range_rejected arr4 3 1).2 ⟨by decide, by decide, by decide⟩).2

example : MapInv IterExample.T0 IterExample.D map3 := map3_inv
example : run3 = .ok (map3, 1) := run3_eq
example : map3.toList = [(k 11, v 1), (k 12, v 3), (k 25, v 2)] := map3_toList

/-- the mutable iterator walks through the collision group and on to the next element -/
example : map3.iterMutable IterExample.cfg = .ok [(k 11, v 1), (k 12, v 3), (k 25, v 2)] :=
  map_mut_iter_eq_toList IterExample.T0 IterExample.legal IterExample.D IterExample.cfg map3 cfg_ok map3_inv
/-- the successor of the last key of the group is the first key of the next element -/
example : map3.getElementAndNextKey IterExample.cfg (k 12) = .ok (k 12, v 3, some (k 25)) :=
  map_lookup_and_successor IterExample.T0 IterExample.legal IterExample.D IterExample.cfg map3 cfg_ok map3_inv
    [(k 11, v 1)] (k 12, v 3) [(k 25, v 2)] map3_toList
example : map3.iterReadOnly = .ok map3.toList :=
  map_ro_iter_eq_toList IterExample.T0 IterExample.legal IterExample.D IterExample.cfg map3 cfg_ok 1 ⟨map3_inv, by decide⟩
example : map3.iterLoaded (fun _ => true) = map3.toList :=
  map_loaded_all_eq_toList IterExample.T0 IterExample.D map3 map3_inv _ (fun _ => rfl)

end NonVacuity

end Atree.C13

import AtreeProofs.Props.C13
import AtreeProofs.Props.C05MapIds
/-
  C13 (maps) — the read-only iterator after every history, with no hypothesis about slab
  identifiers.  Property theorem.  `C13.map_ro_iter_eq_toList` / `map_keys_values_projections`
  need the identifier clause `MapIdsOk` for the read-only iterator (it follows the `next` links by
  identifier); `C05.map_history_wellformed` shows that clause after every prefix of every history
  from `NewMap`; composed here.
-/
namespace Atree.C13
open Atree Gen

variable {r : Nat}

/-- what the iterator theorems need of a map, after every prefix of every history from `NewMap` -/
theorem map_history_invI_cfgOk (T : Nat) (hT : legalThreshold T = true) (D : DigestFn (r + 1)) (cfg : MCfg)
    (hcT : cfg.T = T) (hcL : cfg.L = r + 1) (ty : Nat) (seedOf : SlabID → Nat) (c0 : Ctx)
    (ops : List E2EM.MOp) (hok : ∀ op ∈ ops, op.Ok T D) (n : Nat) :
    MapInvI T D (E2EM.runM cfg (OMap.new (r := r) cfg.addr ty seedOf c0) (ops.take n)).1
      (E2EM.runM cfg (OMap.new (r := r) cfg.addr ty seedOf c0) (ops.take n)).2.ctr ∧
    CfgOk cfg T (E2EM.runM cfg (OMap.new (r := r) cfg.addr ty seedOf c0) (ops.take n)).1 :=
  have ⟨hinv, hids, hrid, _⟩ := C05.map_history_wellformed T hT D cfg hcT hcL ty seedOf c0 ops hok n
  ⟨⟨hinv, hids⟩, hcT, hcL, (congrArg SlabID.addr hrid).symm⟩

/-- For every history of requests (set / remove / popIterate / setType, rejected requests included)
    issued against a new map — any legal threshold, any digest function, any owner address, any
    initial allocation counter — and after every prefix of it: the read-only iterator (sibling
    links) visits exactly `toList`, its keys-only and values-only flavours are the projections, and
    the mutable iterator (lookups from the root) yields the same enumeration. -/
theorem map_ro_iter_history (T : Nat) (hT : legalThreshold T = true) (D : DigestFn (r + 1)) (cfg : MCfg)
    (hcT : cfg.T = T) (hcL : cfg.L = r + 1) (ty : Nat) (seedOf : SlabID → Nat) (c0 : Ctx)
    (ops : List E2EM.MOp) (hok : ∀ op ∈ ops, op.Ok T D) (n : Nat) :
    ∀ m, m = (E2EM.runM cfg (OMap.new (r := r) cfg.addr ty seedOf c0) (ops.take n)).1 →
      m.iterReadOnly = .ok m.toList ∧
      m.iterReadOnlyKeys = .ok (m.toList.map (·.1)) ∧
      m.iterReadOnlyValues = .ok (m.toList.map (·.2)) ∧
      m.iterMutable cfg = .ok m.toList := by
  rintro m rfl
  obtain ⟨hI, hcfg⟩ := map_history_invI_cfgOk T hT D cfg hcT hcL ty seedOf c0 ops hok n
  obtain ⟨h3, h4⟩ := (map_keys_values_projections T hT D cfg _ hcfg hI.1).2.2 _ hI.2
  exact ⟨map_ro_iter_eq_toList T hT D cfg _ hcfg _ hI, h3, h4, map_mut_iter_eq_toList T hT D cfg _ hcfg hI.1⟩

/-! ### Non-vacuity: the 25-request history of `C05.hist` (multi-slab map with an external collision
    group, two rejected requests, a bulk pop); the theorem applies to every prefix, and the model
    computes what it says. -/
section NonVacuity
open MapExample

example (n : Nat) := map_ro_iter_history 256 legal256 D2 cfg2 rfl rfl 0 (fun id => id.idx) ⟨0, [], []⟩
  C05.hist C05.hist_ok n _ rfl
example : (match (C05.stN 20).1.iterReadOnly with | .ok l => l.map (fun (p : MKey × Elem) => p.1.pay) | .error _ => [])
    = [11, 111, 112, 121, 211, 221, 311, 312, 313, 314, 321, 511, 521, 611, 621, 711, 811, 911] := by
  rw [C05.stN_20]; decide +kernel

end NonVacuity

end Atree.C13

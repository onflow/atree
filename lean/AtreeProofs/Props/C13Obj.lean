import AtreeModel.Array.IterObj
import AtreeModel.Map.IterObj
import AtreeProofs.Array.Example
import AtreeProofs.Iter.ObjGeneric
/-
  C13, iterator objects and the callback loop with its `resume` flag.

  `iterateLoop` (Array/IterObj.lean) is the transcription of the six Go callback loops
  (`iterateArray`, the loop of `Array.IterateReadOnlyLoadedValues`, `iterateMap`, `iterateMapKeys`,
  `iterateMapValues`, the loop of `OrderedMap.IterateReadOnlyLoadedValues`): it calls the iterator's
  step, hands the value to the callback and stops when the callback answers `resume = false`.
  Early stop is proved once for every iterator (any step function, any state; both inductions read
  `IterObj.iterateLoop_succ_ok`, Iter/ObjGeneric.lean) and instantiated for
  the five array flavours and the seven map flavours; `Next()` beyond the end for arrays.
-/
namespace Atree.C13Obj
open Atree

variable {σ ε α : Type}

/-- general form: started at call number `i ≤ k` -/
theorem early_stop_from (next : σ → Except ε (Option α × σ)) (k : Nat) :
    ∀ (fuel i : Nat) (st : σ) (l : List α), i ≤ k →
      iterateLoop next (neverStop α) fuel i st = .ok l →
      iterateLoop next (stopAt α k) fuel i st = .ok (l.take (k + 1 - i)) := by
  intro fuel
  induction fuel with
  | zero => intro i st l _ h; cases h; exact congrArg Except.ok List.take_nil.symm
  | succ fuel ih =>
    intro i st l hik h
    rcases IterObj.iterateLoop_succ_ok h with ⟨st', hn, rfl⟩ | ⟨v, st', hn, ⟨hf, _⟩ | ⟨rest, _, hr, rfl⟩⟩
    · simp only [iterateLoop, hn, List.take_nil]
    · cases hf
    · simp only [iterateLoop, hn]
      by_cases hlt : i < k
      · rw [if_pos (by simp [stopAt, hlt]), ih (i + 1) st' rest hlt hr,
          show k + 1 - i = (k + 1 - (i + 1)) + 1 by rw [Nat.add_sub_add_right, Nat.succ_sub hik],
          List.take_succ_cons]
      · rw [if_neg (by simp [stopAt, hlt]),
          show k + 1 - i = 1 by rw [Nat.le_antisymm hik (Nat.le_of_not_lt hlt)]; exact Nat.add_sub_cancel_left ..]
        rfl

/-- Early stop (any iterator): the callback that answers `resume = false` at its `k`-th call
    (counting from 0) receives exactly the first `k + 1` values of the full enumeration. -/
theorem early_stop_eq_take (next : σ → Except ε (Option α × σ)) (k fuel : Nat) (st : σ) (l : List α)
    (h : iterateLoop next (neverStop α) fuel 0 st = .ok l) :
    iterateLoop next (stopAt α k) fuel 0 st = .ok (l.take (k + 1)) := by
  simpa using early_stop_from next k fuel 0 st l (Nat.zero_le _) h

/-- whatever the callback answers, what it receives is a prefix of the full enumeration -/
theorem early_stop_never_more (next : σ → Except ε (Option α × σ)) (resume : Nat → α → Bool) :
    ∀ (fuel i : Nat) (st : σ) (l : List α),
      iterateLoop next (neverStop α) fuel i st = .ok l →
      ∃ l', iterateLoop next resume fuel i st = .ok l' ∧ l' <+: l := by
  intro fuel
  induction fuel with
  | zero => intro i st l h; cases h; exact ⟨[], rfl, List.prefix_refl _⟩
  | succ fuel ih =>
    intro i st l h
    rcases IterObj.iterateLoop_succ_ok h with ⟨st', hn, rfl⟩ | ⟨v, st', hn, ⟨hf, _⟩ | ⟨rest, _, hr, rfl⟩⟩
    · exact ⟨[], by simp only [iterateLoop, hn], List.prefix_refl _⟩
    · cases hf
    · obtain ⟨l', hl', hp⟩ := ih (i + 1) st' rest hr
      by_cases hres : resume i v = true
      · exact ⟨v :: l', by simp only [iterateLoop, hn, if_pos hres, hl'], (List.prefix_cons_inj v).mpr hp⟩
      · exact ⟨[v], by simp only [iterateLoop, hn, if_neg hres], rest, rfl⟩

/-- Early stop, arrays: `Iterate`, `IterateReadOnly`, `IterateRange`, `IterateReadOnlyRange` and
    `IterateReadOnlyLoadedValues` (for any set of loaded slabs) with a callback that stops at its
    `k`-th call deliver the first `k + 1` elements of what the never-stopping callback receives. -/
theorem arr_early_stop_eq_take (a : Arr) (loaded : SlabID → Bool) (f : Arr.Flavour) (k : Nat) (l : List Elem)
    (h : a.iterateFlavour loaded f (neverStop Elem) = .ok l) :
    a.iterateFlavour loaded f (stopAt Elem k) = .ok (l.take (k + 1)) := by
  unfold Arr.iterateFlavour at h ⊢
  cases hm : a.makeIterator f with
  | error e => rw [hm] at h; cases h
  | ok it =>
    rw [hm] at h
    exact early_stop_eq_take _ k _ it l h

/-- Early stop, maps: `Iterate / IterateReadOnly / IterateReadOnlyLoadedValues` (call = next),
    `IterateKeys / IterateReadOnlyKeys` (nextKey), `IterateValues / IterateReadOnlyValues` (nextValue). -/
theorem map_early_stop_eq_take {r : Nat} (cfg : MCfg) (m : OMap r) (loaded : SlabID → Bool)
    (f : OMap.IterFlavour) (call : MapCall) (k : Nat) (l : List MapRet)
    (h : m.iterateFlavour cfg loaded f call (neverStop MapRet) = .ok l) :
    m.iterateFlavour cfg loaded f call (stopAt MapRet k) = .ok (l.take (k + 1)) := by
  unfold OMap.iterateFlavour at h ⊢
  cases hm : m.makeIterator loaded f with
  | error e => rw [hm] at h; cases h
  | ok it =>
    rw [hm] at h
    exact early_stop_eq_take _ k _ it l h

/-- `roNext` answers nil only through the two exits that return the iterator itself -/
theorem roNext_nil_stable {all : List DataSlab} {r r' : ROArrIter}
    (h : ArrIter.roNext all r = .ok (none, r')) : r' = r := by
  unfold ArrIter.roNext at h
  by_cases h0 : r.remainingCount = 0
  · rw [if_pos h0] at h; cases h; rfl
  · rw [if_neg h0] at h
    dsimp only at h
    generalize (if r.indexInDataSlab ≥ r.dataSlab.elems.length then _ else _ :
      Except AIterErr (Option ROArrIter)) = adv at h
    match adv, h with
    | .error e, h => cases h
    | .ok none, h => cases h; rfl
    | .ok (some it), h =>
      dsimp only at h
      cases hg : it.dataSlab.elems[it.indexInDataSlab]? <;> rw [hg] at h <;> cases h

/-- an array iterator object that answers nil is left unchanged by that call … -/
theorem arr_next_nil_stable (a : Arr) (loaded : SlabID → Bool) (it it' : ArrIter)
    (h : ArrIter.next a loaded it = .ok (none, it')) : it' = it := by
  cases it with
  | empty ro => simp [ArrIter.next] at h; exact h.symm
  | «mut» i last =>
    simp only [ArrIter.next] at h
    split at h
    · cases h; rfl
    · split at h <;> cases h
  | ro r =>
    simp only [ArrIter.next] at h
    cases hr : ArrIter.roNext (Arr.leaves a.d a.root) r with
    | error e => rw [hr] at h; cases h
    | ok p =>
      obtain ⟨v, r'⟩ := p
      rw [hr] at h
      simp only at h
      cases h
      rw [roNext_nil_stable hr]
  | loaded l =>
    simp only [ArrIter.next] at h
    split at h <;> cases h
    rfl

/-- … hence `Next()` after the end answers nil for ever (all four array iterator types). -/
theorem arr_next_after_end (a : Arr) (loaded : SlabID → Bool) (it it' : ArrIter) (n : Nat)
    (h : ArrIter.next a loaded it = .ok (none, it')) :
    stepN (ArrIter.next a loaded) n it' = .ok (List.replicate n none) := by
  have hs := arr_next_nil_stable a loaded it it' h
  subst hs
  induction n with
  | zero => rfl
  | succ n ih => simp [stepN, h, ih, List.replicate_succ]

/-! ### Non-vacuity: the four-element example array `Example.arr4` (Array/Example.lean) -/

open Atree.Example in
example : arr4.iterateFlavour (fun _ => true) .ro (neverStop Elem) = .ok arr4.toList := by rfl

open Atree.Example in
example : arr4.iterateFlavour (fun _ => true) .ro (stopAt Elem 1) = .ok (arr4.toList.take 2) := by rfl

open Atree.Example in
example : arr4.iterateFlavour (fun _ => true) (.mutRange 1 4) (stopAt Elem 0) = .ok [elem 1] := by rfl

open Atree.Example in
example : (arr4.stepFlavour (fun _ => true) .ro 6).map (·.2.length) = .ok 6 := by rfl

end Atree.C13Obj

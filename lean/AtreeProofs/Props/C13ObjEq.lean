import AtreeProofs.Props.C01Partial
import AtreeProofs.Props.C13Obj
import AtreeProofs.Iter.ArrayObj
import AtreeProofs.Iter.MapObj
import AtreeProofs.Props.C13Ids
/-
  C13 — the iterator objects equal the list forms.

  The Go iterator objects are transcribed as state machines (Array/IterObj.lean, Map/IterObj.lean:
  `Next()` with every exit of the Go code, incl. `SlabNotFoundError` / `SlabDataError` of the read-only
  iterators); Props/C13Obj.lean has early stop and `Next()` after the end.  Here: an object driven to
  its end yields the lists the C13 theorems speak about, for every array satisfying `ArrInv` / every
  map satisfying `MapInvI`, every legal threshold, every digest function, every `loaded` predicate,
  every number / interleaving of calls:

  * the `i`-th call on an object returns the `i`-th element of the list form of its flavour
    (`Arr.Flavour.expected`, `OMap.IterFlavour.expected` in Iter/ObjSpec.lean) and nil from the end on
    (`IterObj.answers`, `IterObj.mapAnswers`), so no error exit is ever taken inside the invariant;
  * `CanMutate()` is what the Go constructors say;
  * the callback loops deliver the list form (never-stopping callback) resp. its first `k+1` elements.
-/
namespace Atree.C13
open Atree Gen IterObj

/-- Array iterator objects, call by call.  For the objects made by `Iterator`, `ReadOnlyIterator`,
    `RangeIterator(lo,hi)`, `ReadOnlyRangeIterator(lo,hi)` (valid range) and
    `ReadOnlyLoadedValueIterator` (any set of loaded slabs) on an array satisfying `ArrInv`:
    making the object succeeds, `CanMutate()` is true exactly for the first and third, and `n`
    successive `Next()` calls - for every `n` - return `l[0]?, …, l[n-1]?` where `l` is the enumeration
    `toList`, the slice `(toList.drop lo).take (hi-lo)`, resp. the structural loaded traversal
    `iterLoaded loaded` (an in-order sublist of `toList`, `= toList` when everything is loaded):
    every element exactly once, in order, nil for ever afterwards, and none of the error exits of
    `readOnlyArrayIterator.Next` (`SlabNotFoundError`, `SlabDataError`) or of `Array.Get` is taken. -/
theorem arr_iterator_object_steps (T : Nat) (hT : legalThreshold T = true) (a : Arr) (ctr : Nat)
    (h : ArrInv T a ctr) (loaded : SlabID → Bool) (f : Arr.Flavour) (hf : f.Valid a) (n : Nat) :
    a.stepFlavour loaded f n = .ok (f.mutable, answers (f.expected a loaded) n) := by
  obtain ⟨it, hm, hR, hcm⟩ := IterAO.makeIterator_spec hT a ctr h loaded f hf
  unfold Arr.stepFlavour
  rw [hm]
  simp only
  rw [stepN_tracks (IterAO.next_tracks a loaded) n it _ hR, hcm]

/-- Array iterator objects, driven by the callback loops `Iterate`, `IterateReadOnly`, `IterateRange`,
    `IterateReadOnlyRange`, `IterateReadOnlyLoadedValues`: a callback that never stops receives
    exactly the list form of the flavour; one that answers `resume = false` at its `k`-th call
    receives exactly its first `k+1` elements. -/
theorem arr_iterator_object_run (T : Nat) (hT : legalThreshold T = true) (a : Arr) (ctr : Nat)
    (h : ArrInv T a ctr) (loaded : SlabID → Bool) (f : Arr.Flavour) (hf : f.Valid a) :
    a.iterateFlavour loaded f (neverStop Elem) = .ok (f.expected a loaded) ∧
    ∀ k, a.iterateFlavour loaded f (stopAt Elem k) = .ok ((f.expected a loaded).take (k + 1)) := by
  have hrun : a.iterateFlavour loaded f (neverStop Elem) = .ok (f.expected a loaded) := by
    obtain ⟨it, hm, hR, _⟩ := IterAO.makeIterator_spec hT a ctr h loaded f hf
    unfold Arr.iterateFlavour
    rw [hm]
    exact iterateLoop_tracks (IterAO.next_tracks a loaded) _ _ 0 it hR
      (Nat.lt_succ_of_le (IterAO.expected_length_le a ctr h loaded f))
  exact ⟨hrun, fun k => C13Obj.arr_early_stop_eq_take a loaded f k _ hrun⟩

/-- The loaded-value array iterator object on every array, for every set of loaded slabs (no invariant
    needed), call by call: the `i`-th `Next()` returns the `i`-th element of the structural traversal
    `iterLoaded loaded` and nil from its end on.  (`arr_loaded_iterator_object_eq` of Props/C13.lean is the
    run-to-the-end form of this; `arr_loaded_subset_is_sublist` / `arr_loaded_all_eq_toList` say what
    `iterLoaded` is.) -/
theorem arr_loaded_iterator_object_steps (a : Arr) (loaded : SlabID → Bool) (n : Nat) :
    a.stepFlavour loaded .loaded n = .ok (false, answers (a.iterLoaded loaded) n) := by
  obtain ⟨it, hm, hR, hcm⟩ := IterAO.makeLoaded_spec loaded a
  unfold Arr.stepFlavour
  rw [hm]
  simp only
  rw [stepN_tracks (IterAO.next_tracks a loaded) n it _ hR, hcm]

/-- The objects and the list functions the other C13 theorems are stated for agree (so every one of
    those theorems is a theorem about the objects): read-only object = `iterReadOnly` = the
    `Except`-valued `iterReadOnlyE` of Array/Partial.lean (error exits written out) = `toList`;
    mutable object = `iterMutable`; range objects = `iterReadOnlyRange` / `iterMutableRange`;
    loaded-value object = `iterLoaded` = `iterLoadedSM`. -/
theorem arr_iterator_object_eq_list_forms (T : Nat) (hT : legalThreshold T = true) (a : Arr) (ctr : Nat)
    (h : ArrInv T a ctr) (loaded : SlabID → Bool) :
    a.iterateFlavour loaded .ro (neverStop Elem) = .ok a.iterReadOnly ∧
    (a.iterateFlavour loaded .ro (neverStop Elem)).toOption = a.iterReadOnlyE.toOption ∧
    (a.iterateFlavour loaded .mut (neverStop Elem)).toOption = a.iterMutable.toOption ∧
    (∀ lo hi, lo ≤ hi → hi ≤ a.count →
      (a.iterateFlavour loaded (.roRange lo hi) (neverStop Elem)).toOption = (a.iterReadOnlyRange lo hi).toOption ∧
      (a.iterateFlavour loaded (.mutRange lo hi) (neverStop Elem)).toOption = (a.iterMutableRange lo hi).toOption) ∧
    a.iterateFlavour loaded .loaded (neverStop Elem) = .ok (a.iterLoaded loaded) ∧
    a.iterateFlavour loaded .loaded (neverStop Elem) = .ok (a.iterLoadedSM loaded) := by
  have hacc := arr_ro_mut_iter_eq_toList T hT a ctr h
  refine ⟨?_, ?_, ?_, ?_, ?_, ?_⟩
  · rw [hacc.1]; exact (arr_iterator_object_run T hT a ctr h loaded .ro trivial).1
  · rw [(arr_iterator_object_run T hT a ctr h loaded .ro trivial).1,
      (C01P.iterReadOnlyE_of_inv T hT a ctr h).2]; rfl
  · rw [(arr_iterator_object_run T hT a ctr h loaded .mut trivial).1, hacc.2.1]; rfl
  · intro lo hi h1 h2
    have hs := arr_range_iter_eq_slice T hT a ctr h lo hi h1 h2
    rw [(arr_iterator_object_run T hT a ctr h loaded (.roRange lo hi) ⟨h1, h2⟩).1,
      (arr_iterator_object_run T hT a ctr h loaded (.mutRange lo hi) ⟨h1, h2⟩).1, hs.1, hs.2]
    exact ⟨rfl, rfl⟩
  · exact (arr_iterator_object_run T hT a ctr h loaded .loaded trivial).1
  · rw [arr_loaded_iterator_object_eq]
    exact (arr_iterator_object_run T hT a ctr h loaded .loaded trivial).1

/-! ### Non-vacuity (arrays): the two-level array `Example.arr4`, two data slabs `1.2 → 1.3` -/
section NonVacuityArr
open Atree.Example

/-- six calls on the read-only object: the four elements across the slab boundary, then nil, nil -/
example : arr4.stepFlavour (fun _ => true) .ro 6 =
    .ok (false, [some (elem 0), some (elem 1), some (elem 2), some (elem 3), none, none]) :=
  (arr_iterator_object_steps Example.T0 Example.legal arr4 3 arr4_inv _ .ro trivial 6).trans (by rfl)

/-- the mutable object can mutate; a range object that crosses the slab boundary -/
example : arr4.stepFlavour (fun _ => true) .mut 5 =
    .ok (true, [some (elem 0), some (elem 1), some (elem 2), some (elem 3), none]) :=
  (arr_iterator_object_steps Example.T0 Example.legal arr4 3 arr4_inv _ .mut trivial 5).trans (by rfl)
example : arr4.stepFlavour (fun _ => true) (.roRange 1 3) 3 = .ok (false, [some (elem 1), some (elem 2), none]) :=
  (arr_iterator_object_steps Example.T0 Example.legal arr4 3 arr4_inv _ (.roRange 1 3)
    ⟨by decide, by decide⟩ 3).trans (by rfl)
example : arr4.iterateFlavour (fun _ => true) (.mutRange 1 4) (neverStop Elem) = .ok [elem 1, elem 2, elem 3] :=
  (arr_iterator_object_run Example.T0 Example.legal arr4 3 arr4_inv _ (.mutRange 1 4)
    ⟨by decide, by decide⟩).1.trans (by rfl)
/-- the right data slab not loaded: the loaded-value object hands out the left half, then nil -/
example : arr4.stepFlavour (fun id => id != ⟨1, 3⟩) .loaded 3 = .ok (false, [some (elem 0), some (elem 1), none]) :=
  (arr_iterator_object_steps Example.T0 Example.legal arr4 3 arr4_inv _ .loaded trivial 3).trans (by rfl)

/-- Outside the invariant the error exits are taken (two states).
    (1) the right data slab is missing from the tree while the left one still links to it: the third
    `Next()` of the read-only object fails with `SlabNotFoundError` … -/
def arrMissing : Arr :=
  ⟨1, ofMeta ⟨⟨⟨1, 1⟩, 40, 4⟩, [left.hdr], [2], [ofData left], true⟩, 0⟩
example : arrMissing.stepFlavour (fun _ => true) .ro 3 = .error (.op .slabNotFound) := by rfl
/-- … and that state is excluded by `ArrInv` (the leaf chain must end with an undefined `next`). -/
example (ctr : Nat) : ¬ ArrInv Example.T0 arrMissing ctr := by
  intro h
  have hc : LeafChain [left] := h.chain
  have : left.next = SlabID.undef := hc
  exact absurd this (by decide)

/-- (2) the next data slab exists but is empty while elements are still expected: `SlabDataError` … -/
def rightEmpty : DataSlab := ⟨⟨⟨1, 3⟩, 21, 0⟩, SlabID.undef, [], false, false⟩
def arrEmptyLeaf : Arr :=
  ⟨1, ofMeta ⟨⟨⟨1, 1⟩, 40, 4⟩, [left.hdr, rightEmpty.hdr], [2, 2],
    [ofData left, ofData rightEmpty], true⟩, 0⟩
example : arrEmptyLeaf.stepFlavour (fun _ => true) .ro 3 = .error .slabData := by rfl
/-- … excluded by `ArrInv` as well (a non-root data slab is at least half full, hence not empty). -/
example (ctr : Nat) : ¬ ArrInv Example.T0 arrEmptyLeaf ctr := by
  intro h
  have hm : rightEmpty ∈ (Arr.leaves arrEmptyLeaf.d arrEmptyLeaf.root).tail := by
    show rightEmpty ∈ [rightEmpty]
    simp
  exact (IterAO.leavesOk Example.legal h).tail_nonempty rightEmpty hm rfl

end NonVacuityArr

variable {r : Nat}

/-- Map iterator objects, call by call, any interleaving of `Next / NextKey / NextValue`.  For the
    objects made by `Iterator`, `ReadOnlyIterator` and `ReadOnlyLoadedValueIterator` (any set of loaded
    slabs) on a map satisfying `MapInvI` (= `MapInv` + the preserved identifier clause): making the
    object succeeds, `CanMutate()` is true exactly for the first, and for every list `calls` of step
    methods call `i` returns the component it asks for (`Next`: the pair, `NextKey`: the key,
    `NextValue`: the value) of the `i`-th pair of `l`, and nil from the end of `l` on, where `l` is the
    enumeration `toList` resp. the structural loaded traversal `iterLoaded ld`.  So the keys-only and
    values-only flavours are projections of the same object stepping (not `map fst/snd` by
    definition), every pair is consumed exactly once whichever method consumes it, and no error exit
    (`SlabNotFoundError` of `advance`, errors of the successor lookup) is taken. -/
theorem map_iterator_object_steps (T : Nat) (hT : legalThreshold T = true) (D : DigestFn (r + 1)) (cfg : MCfg)
    (m : OMap r) (hcfg : CfgOk cfg T m) (ctr : Nat) (h : MapInvI T D m ctr) (ld : SlabID → Bool)
    (f : OMap.IterFlavour) (calls : List MapCall) :
    m.stepCalls cfg ld f calls = .ok (f.mutable, mapAnswers (f.expected m ld) calls) := by
  obtain ⟨it, hm, hR, hcm⟩ := IterMO.makeIterator_spec hT m hcfg ctr h ld f
  unfold OMap.stepCalls
  rw [hm]
  simp only
  rw [IterMO.go_tracks calls it _ hR, hcm]

/-- The loaded-value map iterator object (`MapLoadedValueIterator`: stack of index-slab cursors,
    `nextDataIterator`, the element iterator of the current data slab) on every map and for every
    `ld : SlabID → Bool` (partial loads; no invariant needed), under any interleaving of the three step
    methods, hands out exactly the structural traversal `OMap.iterLoaded ld m`, which is an in-order
    subsequence of the enumeration, and the whole enumeration when every slab is loaded. -/
theorem map_loaded_iterator_object_eq (cfg : MCfg) (m : OMap r) (ld : SlabID → Bool) :
    (∀ calls, m.stepCalls cfg ld .loaded calls = .ok (false, mapAnswers (m.iterLoaded ld) calls)) ∧
    (m.iterLoaded ld).Sublist m.toList ∧
    (∀ T (D : DigestFn (r + 1)), MapInv T D m → (∀ id, ld id = true) → m.iterLoaded ld = m.toList) := by
  refine ⟨?_, map_loaded_subset_is_sublist ld m, fun T D h hall => map_loaded_all_eq_toList T D m h ld hall⟩
  intro calls
  obtain ⟨it, hm, hR, hcm⟩ := IterMO.makeLoaded_spec cfg m ld
  unfold OMap.stepCalls
  rw [hm]
  simp only
  rw [IterMO.go_tracks calls it _ hR, hcm]

/-- Map iterator objects driven by the callback loops: `Iterate / IterateReadOnly /
    IterateReadOnlyLoadedValues` (`c = next`), `IterateKeys / IterateReadOnlyKeys` (`c = nextKey`),
    `IterateValues / IterateReadOnlyValues` (`c = nextValue`) - nine combinations, seven of them Go
    functions.  A callback that never stops receives exactly the `c`-projection of the pair list of the
    flavour; one that answers `resume = false` at its `k`-th call receives its first `k+1` members. -/
theorem map_iterator_object_run (T : Nat) (hT : legalThreshold T = true) (D : DigestFn (r + 1)) (cfg : MCfg)
    (m : OMap r) (hcfg : CfgOk cfg T m) (ctr : Nat) (h : MapInvI T D m ctr) (ld : SlabID → Bool)
    (f : OMap.IterFlavour) (c : MapCall) :
    m.iterateFlavour cfg ld f c (neverStop MapRet) = .ok ((f.expected m ld).map (project c)) ∧
    ∀ k, m.iterateFlavour cfg ld f c (stopAt MapRet k) = .ok (((f.expected m ld).map (project c)).take (k + 1)) := by
  have hrun : m.iterateFlavour cfg ld f c (neverStop MapRet) = .ok ((f.expected m ld).map (project c)) := by
    obtain ⟨it, hm, hR, _⟩ := IterMO.makeIterator_spec hT m hcfg ctr h ld f
    unfold OMap.iterateFlavour
    rw [hm]
    exact iterateLoop_tracks (IterMO.loopStep_tracks cfg m ld c) _ _ 0 it ⟨_, hR, rfl⟩
      (by rw [List.length_map]; exact Nat.lt_succ_of_le (IterMO.expected_length_le m h.1 ld f))
  exact ⟨hrun, fun k => C13Obj.map_early_stop_eq_take cfg m ld f c k _ hrun⟩

/-- The objects and the list functions the other C13 map theorems are stated for agree: the mutable
    object under `Next / NextKey / NextValue` = `iterMutable / iterMutableKeys / iterMutableValues`, the
    read-only object = `iterReadOnly / iterReadOnlyKeys / iterReadOnlyValues`, the loaded-value object =
    `iterLoaded` (each up to the constructor `project c` wraps around the component). -/
theorem map_iterator_object_eq_list_forms (T : Nat) (hT : legalThreshold T = true) (D : DigestFn (r + 1))
    (cfg : MCfg) (m : OMap r) (hcfg : CfgOk cfg T m) (ctr : Nat) (h : MapInvI T D m ctr) (ld : SlabID → Bool) :
    (∃ l, m.iterMutable cfg = .ok l ∧
      m.iterateFlavour cfg ld .mut .next (neverStop MapRet) = .ok (l.map (project .next))) ∧
    (∃ l, m.iterMutableKeys cfg = .ok l ∧
      m.iterateFlavour cfg ld .mut .nextKey (neverStop MapRet) = .ok (l.map MapRet.key)) ∧
    (∃ l, m.iterMutableValues cfg = .ok l ∧
      m.iterateFlavour cfg ld .mut .nextValue (neverStop MapRet) = .ok (l.map MapRet.value)) ∧
    (∃ l, m.iterReadOnly = .ok l ∧
      m.iterateFlavour cfg ld .ro .next (neverStop MapRet) = .ok (l.map (project .next))) ∧
    (∃ l, m.iterReadOnlyKeys = .ok l ∧
      m.iterateFlavour cfg ld .ro .nextKey (neverStop MapRet) = .ok (l.map MapRet.key)) ∧
    (∃ l, m.iterReadOnlyValues = .ok l ∧
      m.iterateFlavour cfg ld .ro .nextValue (neverStop MapRet) = .ok (l.map MapRet.value)) ∧
    m.iterateFlavour cfg ld .loaded .next (neverStop MapRet) = .ok ((m.iterLoaded ld).map (project .next)) := by
  have R := fun f c => (map_iterator_object_run T hT D cfg m hcfg ctr h ld f c).1
  obtain ⟨k1, k2, k3⟩ := map_keys_values_projections T hT D cfg m hcfg h.1
  obtain ⟨k4, k5⟩ := k3 ctr h.2
  refine ⟨⟨_, map_mut_iter_eq_toList T hT D cfg m hcfg h.1, R .mut .next⟩, ⟨_, k1, ?_⟩, ⟨_, k2, ?_⟩,
    ⟨_, map_ro_iter_eq_toList T hT D cfg m hcfg ctr h, R .ro .next⟩, ⟨_, k4, ?_⟩, ⟨_, k5, ?_⟩, R .loaded .next⟩
  · rw [R .mut .nextKey, List.map_map]; rfl
  · rw [R .mut .nextValue, List.map_map]; rfl
  · rw [R .ro .nextKey, List.map_map]; rfl
  · rw [R .ro .nextValue, List.map_map]; rfl

/-- Map twin of `arr_next_after_end`: once a call on a map iterator object (any of the three types,
    any of the three methods) has answered nil, every later call - of any method - answers nil. -/
theorem map_next_after_end (T : Nat) (hT : legalThreshold T = true) (D : DigestFn (r + 1)) (cfg : MCfg)
    (m : OMap r) (hcfg : CfgOk cfg T m) (ctr : Nat) (h : MapInvI T D m ctr) (ld : SlabID → Bool)
    (f : OMap.IterFlavour) (calls : List MapCall) (b : Bool) (rets : List MapRet)
    (hs : m.stepCalls cfg ld f calls = .ok (b, rets)) (i j : Nat) (hij : i ≤ j) (hj : j < calls.length)
    (hi : rets[i]? = some MapRet.nil) : rets[j]? = some MapRet.nil := by
  rw [map_iterator_object_steps T hT D cfg m hcfg ctr h ld f calls] at hs
  obtain ⟨_, hr⟩ := Prod.mk.inj (Except.ok.inj hs)
  subst hr
  exact IterMO.mapAnswers_after_end _ calls i j hij hj hi

/-- the same for the loaded-value object on any map (no invariant) -/
theorem map_loaded_next_after_end (cfg : MCfg) (m : OMap r) (ld : SlabID → Bool) (calls : List MapCall)
    (b : Bool) (rets : List MapRet) (hs : m.stepCalls cfg ld .loaded calls = .ok (b, rets)) (i j : Nat)
    (hij : i ≤ j) (hj : j < calls.length) (hi : rets[i]? = some MapRet.nil) : rets[j]? = some MapRet.nil := by
  rw [(map_loaded_iterator_object_eq cfg m ld).1 calls] at hs
  obtain ⟨_, hr⟩ := Prod.mk.inj (Except.ok.inj hs)
  subst hr
  exact IterMO.mapAnswers_after_end _ calls i j hij hj hi

/-- Along histories, no hypothesis about the map at all: for every history of requests (set / remove /
    popIterate / setType, rejected requests included) issued against a new map - any legal threshold,
    any digest function, any owner address, any initial allocation counter - and after every prefix of
    it, every iterator object of the map (three types), under every interleaving of `Next / NextKey /
    NextValue`, hands out the enumeration (resp. the loaded traversal) call by call, and every callback
    loop delivers the corresponding projection. -/
theorem map_iterator_object_history (T : Nat) (hT : legalThreshold T = true) (D : DigestFn (r + 1)) (cfg : MCfg)
    (hcT : cfg.T = T) (hcL : cfg.L = r + 1) (ty : Nat) (seedOf : SlabID → Nat) (c0 : Ctx)
    (ops : List E2EM.MOp) (hok : ∀ op ∈ ops, op.Ok T D) (n : Nat) (ld : SlabID → Bool) (f : OMap.IterFlavour) :
    ∀ m, m = (E2EM.runM cfg (OMap.new (r := r) cfg.addr ty seedOf c0) (ops.take n)).1 →
      (∀ calls, m.stepCalls cfg ld f calls = .ok (f.mutable, mapAnswers (f.expected m ld) calls)) ∧
      (∀ c, m.iterateFlavour cfg ld f c (neverStop MapRet) = .ok ((f.expected m ld).map (project c))) := by
  rintro m rfl
  obtain ⟨hI, hcfg⟩ := map_history_invI_cfgOk T hT D cfg hcT hcL ty seedOf c0 ops hok n
  exact ⟨fun calls => map_iterator_object_steps T hT D cfg _ hcfg _ hI ld f calls,
    fun c => (map_iterator_object_run T hT D cfg _ hcfg _ hI ld f c).1⟩

/-! ### Non-vacuity (maps)

`IterExample.map3`: one data slab whose first element is an inline collision group (keys 11, 12) followed
by key 25.  `(C05.stN 20).1`: the map after 20 requests of the history `C05.hist` - a root index slab
over two data slabs (`7.3 → 7.4` by `next`) and an external collision group (slab `7.2`), 18 pairs;
`MapInvI` holds for it by the history theorem `C05.map_history_wellformed`. -/
section NonVacuityMap
open Atree.IterExample

/-- seven interleaved calls on one read-only object over the collision group and on: key of the first
    pair, value of the second, the third pair, then nil whatever is asked -/
example : map3.stepCalls IterExample.cfg (fun _ => true) .ro [.nextKey, .nextValue, .next, .nextKey, .next, .nextValue, .nextKey] =
    .ok (false, [.key (k 11), .value (v 3), .pair (k 25) (v 2), .nil, .nil, .nil, .nil]) :=
  (map_iterator_object_steps IterExample.T0 IterExample.legal IterExample.D IterExample.cfg map3 cfg_ok 1
    ⟨map3_inv, by decide⟩ _ .ro _).trans (by rfl)
/-- the same interleaving on the mutable object (successor-key lookups from the root) -/
example : map3.stepCalls IterExample.cfg (fun _ => true) .mut [.nextKey, .nextValue, .next, .nextKey] =
    .ok (true, [.key (k 11), .value (v 3), .pair (k 25) (v 2), .nil]) :=
  (map_iterator_object_steps IterExample.T0 IterExample.legal IterExample.D IterExample.cfg map3 cfg_ok 1
    ⟨map3_inv, by decide⟩ _ .mut _).trans (by rfl)
example : map3.iterateFlavour IterExample.cfg (fun _ => true) .ro .nextValue (neverStop MapRet) =
    .ok [.value (v 1), .value (v 3), .value (v 2)] :=
  (map_iterator_object_run IterExample.T0 IterExample.legal IterExample.D IterExample.cfg map3 cfg_ok 1
    ⟨map3_inv, by decide⟩ (fun _ => true) .ro .nextValue).1.trans (by rfl)

end NonVacuityMap

section NonVacuityMap2
open Atree.MapExample

theorem stN_wf (n : Nat) : MapInvI 256 D2 (C05.stN n).1 (C05.stN n).2.ctr ∧ CfgOk cfg2 256 (C05.stN n).1 :=
  map_history_invI_cfgOk 256 legal256 D2 cfg2 rfl rfl 0 (fun id => id.idx) ⟨0, [], []⟩ C05.hist C05.hist_ok n

theorem st20_inv : MapInvI 256 D2 (C05.stN 20).1 (C05.stN 20).2.ctr := (stN_wf 20).1

theorem st20_cfg : CfgOk cfg2 256 (C05.stN 20).1 := (stN_wf 20).2

/-- the multi-slab map: 20 calls `N K V N K V …` on one read-only object walk through both data slabs
    and the external collision group; calls 18 and 19 (past the 18 pairs) answer nil -/
example : ((C05.stN 20).1.stepCalls cfg2 (fun _ => true) .ro
      [.next, .nextKey, .nextValue, .next, .nextKey, .nextValue, .next, .nextKey, .nextValue, .next,
       .nextKey, .nextValue, .next, .nextKey, .nextValue, .next, .nextKey, .nextValue, .next, .nextKey]) =
    .ok (false, mapAnswers (C05.stN 20).1.toList
      [.next, .nextKey, .nextValue, .next, .nextKey, .nextValue, .next, .nextKey, .nextValue, .next,
       .nextKey, .nextValue, .next, .nextKey, .nextValue, .next, .nextKey, .nextValue, .next, .nextKey]) :=
  map_iterator_object_steps 256 legal256 D2 cfg2 _ st20_cfg _ st20_inv _ .ro _
example : (mapAnswers (C05.stN 20).1.toList [.nextKey, .nextValue, .nextKey]) =
    [.key (key 11), .value (val 2), .key (key 112)] := by rw [C05.stN_20]; decide +kernel
example : ((C05.stN 20).1.toList.map (fun p => p.1.pay)) =
    [11, 111, 112, 121, 211, 221, 311, 312, 313, 314, 321, 511, 521, 611, 621, 711, 811, 911] := by
  rw [C05.stN_20]; decide +kernel

example (n : Nat) (calls : List MapCall) :=
  (map_iterator_object_history 256 legal256 D2 cfg2 rfl rfl 0 (fun id => id.idx) ⟨0, [], []⟩
    C05.hist C05.hist_ok n (fun _ => true) .mut _ rfl).1 calls

/-- partial load: the second data slab `7.4` is not loaded - the loaded-value object hands out the
    pairs of the first data slab only (a proper in-order subsequence), then nil -/
example : ((C05.stN 20).1.iterLoaded (fun id => id != ⟨7, 4⟩)).map (fun p => p.1.pay) =
    [11, 111, 112, 121, 211, 221, 311, 312, 313, 314, 321] := by rw [C05.stN_20]; decide +kernel
/-- … and with the external collision group `7.2` (first-level digest 3: keys 311-314, 321) not loaded either -/
example : ((C05.stN 20).1.iterLoaded (fun id => id != ⟨7, 4⟩ && id != ⟨7, 2⟩)).map (fun p => p.1.pay) =
    [11, 111, 112, 121, 211, 221] := by rw [C05.stN_20]; decide +kernel
example (calls : List MapCall) := (map_loaded_iterator_object_eq cfg2 (C05.stN 20).1 (fun id => id != ⟨7, 4⟩)).1 calls

end NonVacuityMap2

end Atree.C13

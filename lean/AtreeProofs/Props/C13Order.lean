import AtreeProofs.Props.C13
import AtreeProofs.Props.C13Ids
import AtreeProofs.Props.C12Shape
import AtreeProofs.Map.InsertionOrderSpec
import AtreeProofs.Map.InsertionOrderLemmas
/-
  C13 — "… maps in ascending order of their digest sequence with fully colliding keys in insertion
  order".

  `C13.map_order_canonical` says only that the digest vectors of `toList` ascend (equal vectors
  allowed); it says nothing about the order inside a class of keys with identical digest vectors.
  This file closes that gap, for every history of requests from the empty map, any digest function,
  any number of digest levels, any legal threshold:

  * step facts: a `Set` of a new key puts it behind every key with the same digest vector
    (`C12.full_collisions_keep_insertion_order`); an overwriting `Set` keeps the key sequence; a `Remove` takes
    exactly that key's pair out and keeps the relative order of all others; `PopIterate` empties;
    `SetType` changes nothing.
  * history theorem `map_full_collisions_in_insertion_order`: after any history, for
    every digest vector `d`, the keys of `toList` with digest vector `d` are, in this order, the keys
    with digest vector `d` of `insertionOrderObs` – a plain association list kept on the
    specification side (`Map/InsertionOrderSpec.lean`: a new key is appended, an overwrite keeps the
    position, a remove deletes, pop clears; no digests, no tree).
  * `map_enumeration_determined`: together with `map_order_canonical` the enumeration order is
    determined completely by the observed history: the key sequence of `toList` is the stable sort of
    the insertion-order list by digest vector (`List.mergeSort` with `digLe`).
  * `toList` is what every iterator flavour yields (`C13.map_mut_iter_eq_toList`,
    `map_ro_iter_eq_toList`, `map_keys_values_projections`, `map_loaded_all_eq_toList`;
    `map_pop_eq_reverse` for the reverse): corollary `map_iterators_in_insertion_order` states the
    result for `iterMutable`, `iterMutableKeys`, `iterReadOnly`, `iterReadOnlyKeys` and the loaded-value
    iterator, with no hypothesis about slab identifiers (`C13.map_ro_iter_history`, Props/C13Ids.lean).

  The only way a `Set` is refused is the collision limit; the caller sees the refusal as an error, so
  the specification is a function of the observed history (`observe`: requests with their
  served/refused flags).  When nothing was refused it is a function of the requests alone
  (`insertionOrder`, theorem `map_enumeration_determined_no_refusal`).
-/
namespace Atree.C13
open Atree Gen E2EM MapExample

variable {r : Nat}

/-- the key sequence a map represents -/
abbrev keysOf (m : OMap r) : List MKey := m.toList.map (·.1)

/-- (re-export of `C12.new_colliding_key_is_appended`) `Set` of a new key (no previous value): among
    the pairs with the digest vector of the new key, the new pair is appended. -/
theorem map_set_new_key_appended_among_collisions (T : Nat) (hT : legalThreshold T = true) (D : DigestFn (r + 1))
    (cfg : MCfg) (m m' : OMap r) (hcfg : CfgOk cfg T m) (h : MapInv T D m) (k : MKey) (hk : KeyOk T (r + 1) D k)
    (v : Elem) (c c' : Ctx) (hs : m.set cfg k v c = .ok (none, m', c')) :
    ∃ sv, m'.toList.filter (fun p => p.1.digs == k.digs) = m.toList.filter (fun p => p.1.digs == k.digs) ++ [(k, sv)] :=
  C12.new_colliding_key_is_appended T hT D cfg m m' hcfg h k hk v c c' hs

/-- `Set` of a new key, whole enumeration: the list before, with the new pair inserted at a place
    behind which no pair has the digest vector of the new key; every other pair stays where it was. -/
theorem map_set_new_key_position (T : Nat) (hT : legalThreshold T = true) (D : DigestFn (r + 1))
    (cfg : MCfg) (m m' : OMap r) (hcfg : CfgOk cfg T m) (h : MapInv T D m) (k : MKey) (hk : KeyOk T (r + 1) D k)
    (v : Elem) (c c' : Ctx) (hs : m.set cfg k v c = .ok (none, m', c')) :
    ∃ A B sv, m.toList = A ++ B ∧ m'.toList = A ++ (k, sv) :: B ∧ ∀ p ∈ B, p.1.digs ≠ k.digs :=
  C12.full_collisions_keep_insertion_order T hT D cfg m m' hcfg h k hk v c c' hs

/-- An overwrite (`Set` returning a previous value) replaces the value of that key's pair in place:
    every pair keeps its position, the key sequence is unchanged. -/
theorem map_set_overwrite_keeps_order (T : Nat) (hT : legalThreshold T = true) (D : DigestFn (r + 1))
    (cfg : MCfg) (m m' : OMap r) (hcfg : CfgOk cfg T m) (h : MapInv T D m) (k : MKey) (hk : KeyOk T (r + 1) D k)
    (v : Elem) (hv : ValueOkM v) (c c' : Ctx) (old : Elem) (hs : m.set cfg k v c = .ok (some old, m', c')) :
    (∃ A B, m.toList = A ++ (k, old) :: B ∧ m'.toList = A ++ (k, storedValue cfg k v c) :: B) ∧
    keysOf m' = keysOf m := by
  have hsp := OMap.set_spec hT hcfg h hk hv c
  by_cases hl : TLimited cfg m.d m.root k
  · rw [hsp.1 hl] at hs; cases hs
  · obtain ⟨old', m'', c'', heq, hp⟩ := hsp.2 hl
    rw [heq] at hs
    simp only [Except.ok.injEq, Prod.mk.injEq] at hs
    obtain ⟨ho, hm, _⟩ := hs
    subst ho hm
    rcases hp.eff with ⟨ho, _⟩ | ⟨v0, A, B, ho, h1, h2⟩
    · cases ho
    · cases ho
      refine ⟨⟨A, B, h1, h2⟩, ?_⟩
      simp only [keysOf, h1, h2, List.map_append, List.map_cons]

/-- A `Remove` that is served takes exactly the pair of that key out of the enumeration; all other
    pairs keep their relative order.  (The returned key is the stored key, the returned value its
    value.) -/
theorem map_remove_erases_exactly (T : Nat) (hT : legalThreshold T = true) (D : DigestFn (r + 1))
    (cfg : MCfg) (m m' : OMap r) (hcfg : CfgOk cfg T m) (h : MapInv T D m) (k : MKey) (hk : KeyOk T (r + 1) D k)
    (c c' : Ctx) (hc : CtxOk m c) (rk : MKey) (rv : Elem) (hs : m.remove cfg k c = .ok (rk, rv, m', c')) :
    rk = k ∧ (∃ A B, m.toList = A ++ (k, rv) :: B ∧ m'.toList = A ++ B) ∧
    keysOf m' = (keysOf m).filter (fun k' => !k'.same k) := by
  have hsp := OMap.remove_spec hT hcfg h hk c hc
  by_cases hex : ∃ v, (k, v) ∈ m.toList
  · obtain ⟨v, hv⟩ := hex
    obtain ⟨m'', c'', heq, hp⟩ := hsp.2 v hv
    rw [heq] at hs
    simp only [Except.ok.injEq, Prod.mk.injEq] at hs
    obtain ⟨hk', hv', hm, _⟩ := hs
    subst hk' hv' hm
    obtain ⟨A, B, h1, h2⟩ := hp.eff
    refine ⟨rfl, ⟨A, B, h1, h2⟩, ?_⟩
    have hd : (keysOf m).Pairwise (fun a b => a.same b = false) := by
      have := h.distinct
      unfold KeysDistinct at this
      exact List.pairwise_map.mpr this
    simp only [keysOf, h1, h2, List.map_append, List.map_cons] at hd ⊢
    exact erase_eq_filter_not_same hd
  · have : ∀ p ∈ m.toList, p.1 ≠ k := by
      intro p hp hpk; exact hex ⟨p.2, by rw [← hpk]; exact hp⟩
    rw [hsp.1 this] at hs; cases hs

/-- A `Remove` of a key that is not there is refused (`KeyNotFoundError`): nothing changes. -/
theorem map_remove_absent_refused (T : Nat) (hT : legalThreshold T = true) (D : DigestFn (r + 1))
    (cfg : MCfg) (m : OMap r) (hcfg : CfgOk cfg T m) (h : MapInv T D m) (k : MKey) (hk : KeyOk T (r + 1) D k)
    (c : Ctx) (hc : CtxOk m c) (habs : k ∉ keysOf m) : m.remove cfg k c = .error .keyNotFound := by
  refine (OMap.remove_spec hT hcfg h hk c hc).1 ?_
  intro p hp hpk
  exact habs (List.mem_map.mpr ⟨p, hp, hpk⟩)

/-- `PopIterate` hands out the enumeration backwards and leaves the empty enumeration. -/
theorem map_pop_empties (T : Nat) (hT : legalThreshold T = true) (D : DigestFn (r + 1)) (m : OMap r)
    (h : MapInv T D m) (c : Ctx) (hc : CtxOk m c) :
    (m.popIterate c).1 = m.toList.reverse ∧ (m.popIterate c).2.1.toList = [] := by
  obtain ⟨h1, h2, _⟩ := C02.pop_refines T hT D m h c hc
  exact ⟨h1, h2⟩

/-- `SetType` does not touch the enumeration. -/
theorem map_setType_keeps_order (m : OMap r) (ty : Nat) (c : Ctx) : (m.setType ty c).1.toList = m.toList := rfl

/-- what every request keeps (`C05.mapIds_step`) gives the well-formedness the step facts use
    (`MapExample.Good`: `MapInv`, `CtxOk`, `CfgOk`) -/
theorem good_of_invI {T : Nat} {D : DigestFn (r + 1)} {cfg : MCfg} {st : OMap r × Ctx} (hcfg : CfgOk cfg T st.1)
    (h : MapInvI T D st.1 st.2.ctr) : Good T D cfg st :=
  ⟨h.1, h.2.ctxOk, hcfg⟩

theorem good_history (T : Nat) (hT : legalThreshold T = true) (D : DigestFn (r + 1)) (cfg : MCfg)
    (hcT : cfg.T = T) (hcL : cfg.L = r + 1) (ty : Nat) (seedOf : SlabID → Nat) (c0 : Ctx)
    (ops : List MOp) (hok : ∀ op ∈ ops, op.Ok T D) :
    Good T D cfg (runM cfg (OMap.new (r := r) cfg.addr ty seedOf c0) ops) := by
  have ⟨hI, hcfg⟩ := map_history_invI_cfgOk T hT D cfg hcT hcL ty seedOf c0 ops hok ops.length
  rw [List.take_length] at hI hcfg
  exact good_of_invI hcfg hI

/-- One observed request keeps the agreement between the map's key sequence and the specification's
    association list, class by class of fully colliding keys. -/
theorem sameCollisionOrder_step (T : Nat) (hT : legalThreshold T = true) (D : DigestFn (r + 1)) (cfg : MCfg)
    (st : OMap r × Ctx) (hg : Good T D cfg st) (op : MOp) (hop : op.Ok T D) (l : List MKey)
    (hl : SameCollisionOrder (keysOf st.1) l) :
    SameCollisionOrder (keysOf (stepM cfg st op).1) (orderStep l (op, served cfg st op)) := by
  obtain ⟨m, c⟩ := st
  have hKok : ∀ x ∈ keysOf m, KeyOk T (r + 1) D x := by
    intro x hx
    obtain ⟨p, hp, rfl⟩ := List.mem_map.mp hx
    exact hg.inv.allKeyOk p hp
  have hlok : ∀ x ∈ l, KeyOk T (r + 1) D x := fun x hx => hKok x ((hl.mem_iff x).mpr hx)
  cases op with
  | set k v =>
    obtain ⟨hk, hv⟩ := hop
    have hsp := OMap.set_spec hT hg.cfgok hg.inv hk hv c
    by_cases hlim : TLimited cfg m.d m.root k
    · -- refused: nothing changes, and the specification does not append
      have heq : m.set cfg k v c = .error .collisionLimit := hsp.1 hlim
      have e1 : stepM cfg (m, c) (.set k v) = (m, c) := by simp only [stepM, heq]
      have e2 : served cfg (m, c) (.set k v) = false := by simp only [served, heq]
      rw [e1, e2]
      simp only [orderStep, Bool.false_eq_true, if_false, ite_self]
      exact hl
    · obtain ⟨old, m', c', heq, hp⟩ := hsp.2 hlim
      have heq' : m.set cfg k v c = .ok (old, m', c') := heq
      have e1 : stepM cfg (m, c) (.set k v) = (m', c') := by simp only [stepM, heq']
      have e2 : served cfg (m, c) (.set k v) = true := by simp only [served, heq']
      rw [e1, e2]
      simp only [orderStep, if_true]
      rcases hp.eff with ⟨ho, habs, _⟩ | ⟨v0, A, B, ho, h1, h2⟩
      · -- a new key
        subst ho
        have hnot : k ∉ l := by
          intro hkl
          obtain ⟨p, hp', hpk⟩ := List.mem_map.mp ((hl.mem_iff k).mpr hkl)
          exact habs p hp' hpk
        have hany : l.any (fun k' => k'.same k) = false := by
          rw [← Bool.not_eq_true, any_same_iff_mem hlok hk]; exact hnot
        rw [hany]
        simp only [Bool.false_eq_true, if_false]
        obtain ⟨A, B, sv, e1, e2, hB⟩ := OMap.set_newLast hT hg.cfgok hg.inv hk heq
        have hl' : SameCollisionOrder (A.map (·.1) ++ B.map (·.1)) l := by
          have := hl
          simp only [keysOf, e1, List.map_append] at this
          exact this
        have := hl'.insert_last (k := k) (by
          intro b hb
          obtain ⟨p, hp', rfl⟩ := List.mem_map.mp hb
          exact hB p hp')
        simpa only [keysOf, e2, List.map_append, List.map_cons] using this
      · -- an overwrite
        have hin : k ∈ l := by
          refine (hl.mem_iff k).mp ?_
          simp only [keysOf, h1, List.map_append, List.map_cons]
          simp
        have hany : l.any (fun k' => k'.same k) = true := (any_same_iff_mem hlok hk).mpr hin
        rw [hany]
        simp only [if_true]
        have : keysOf m' = keysOf m := by simp only [keysOf, h1, h2, List.map_append, List.map_cons]
        rw [this]; exact hl
  | remove k =>
    have hk : KeyOk T (r + 1) D k := hop
    simp only [orderStep]
    have hsp := OMap.remove_spec hT hg.cfgok hg.inv hk c hg.ctx
    have key : keysOf (stepM cfg (m, c) (.remove k)).1 = (keysOf m).filter (fun k' => !k'.same k) := by
      by_cases hex : ∃ v, (k, v) ∈ m.toList
      · obtain ⟨v, hv⟩ := hex
        obtain ⟨m', c', heq, _⟩ := hsp.2 v hv
        have heq' : m.remove cfg k c = .ok (k, v, m', c') := heq
        have e1 : stepM cfg (m, c) (.remove k) = (m', c') := by simp only [stepM, heq']
        rw [e1]
        exact (map_remove_erases_exactly T hT D cfg m m' hg.cfgok hg.inv k hk c c' hg.ctx k v heq).2.2
      · have habs : ∀ p ∈ m.toList, p.1 ≠ k := by
          intro p hp hpk; exact hex ⟨p.2, by rw [← hpk]; exact hp⟩
        have heq' : m.remove cfg k c = .error .keyNotFound := hsp.1 habs
        have e1 : stepM cfg (m, c) (.remove k) = (m, c) := by simp only [stepM, heq']
        rw [e1]
        refine (filter_not_same_of_absent hKok hk ?_).symm
        intro hmem
        obtain ⟨p, hp, hpk⟩ := List.mem_map.mp hmem
        exact habs p hp hpk
    rw [key]
    exact hl.filter _
  | popIterate =>
    simp only [stepM, orderStep]
    have : keysOf (m.popIterate c).2.1 = [] := by
      simp only [keysOf, (map_pop_empties T hT D m hg.inv c hg.ctx).2, List.map_nil]
    rw [this]
    exact SameCollisionOrder.refl []
  | setType ty => exact hl

/-- what the served/refused flag of the observed history means: a `Set` is refused exactly when the
    library returns `CollisionLimitError` (no other failure exists inside the invariant), and then the
    key was absent; a `Remove` is refused exactly when the key is absent. -/
theorem served_flag_meaning (T : Nat) (hT : legalThreshold T = true) (D : DigestFn (r + 1)) (cfg : MCfg)
    (st : OMap r × Ctx) (hg : Good T D cfg st) (k : MKey) (hk : KeyOk T (r + 1) D k) :
    (∀ v, ValueOkM v → (served cfg st (.set k v) = false ↔ st.1.set cfg k v st.2 = .error .collisionLimit) ∧
      (served cfg st (.set k v) = false → k ∉ keysOf st.1)) ∧
    (served cfg st (.remove k) = false ↔ k ∉ keysOf st.1) := by
  obtain ⟨m, c⟩ := st
  constructor
  · intro v hv
    have hsp := OMap.set_spec hT hg.cfgok hg.inv hk hv c
    by_cases hlim : TLimited cfg m.d m.root k
    · have heq : m.set cfg k v c = .error .collisionLimit := hsp.1 hlim
      refine ⟨⟨fun _ => heq, fun _ => by simp only [served, heq]⟩, ?_⟩
      intro _ hmem
      obtain ⟨p, hp, hpk⟩ := List.mem_map.mp hmem
      exact tlimited_absent hT m.d true m.root hg.inv.sinv hlim p hp hpk
    · obtain ⟨old, m', c', heq, _⟩ := hsp.2 hlim
      have heq' : m.set cfg k v c = .ok (old, m', c') := heq
      have e : served cfg (m, c) (.set k v) = true := by simp only [served, heq']
      have hne : served cfg (m, c) (.set k v) ≠ false := by rw [e]; exact Bool.noConfusion
      have hne' : m.set cfg k v c ≠ .error .collisionLimit := by rw [heq']; intro hcontra; cases hcontra
      exact ⟨⟨fun h => absurd h hne, fun h => absurd h hne'⟩, fun h => absurd h hne⟩
  · have hsp := OMap.remove_spec hT hg.cfgok hg.inv hk c hg.ctx
    by_cases hex : ∃ v, (k, v) ∈ m.toList
    · obtain ⟨v, hv⟩ := hex
      obtain ⟨m', c', heq, _⟩ := hsp.2 v hv
      have heq' : m.remove cfg k c = .ok (k, v, m', c') := heq
      have e : served cfg (m, c) (.remove k) = true := by simp only [served, heq']
      have hne : served cfg (m, c) (.remove k) ≠ false := by rw [e]; exact Bool.noConfusion
      exact ⟨fun h => absurd h hne, fun h => absurd (List.mem_map.mpr ⟨(k, v), hv, rfl⟩) h⟩
    · have habs : ∀ p ∈ m.toList, p.1 ≠ k := by
        intro p hp hpk; exact hex ⟨p.2, by rw [← hpk]; exact hp⟩
      have heq' : m.remove cfg k c = .error .keyNotFound := hsp.1 habs
      refine ⟨fun _ hmem => ?_, fun _ => by simp only [served, heq']⟩
      obtain ⟨p, hp, hpk⟩ := List.mem_map.mp hmem
      exact habs p hp hpk

/-- histories, from any well-formed state and any association list that agrees with it -/
theorem sameCollisionOrder_run (T : Nat) (hT : legalThreshold T = true) (D : DigestFn (r + 1)) (cfg : MCfg) :
    ∀ (ops : List MOp) (st : OMap r × Ctx), CfgOk cfg T st.1 → MapInvI T D st.1 st.2.ctr →
      (∀ op ∈ ops, op.Ok T D) → ∀ (l : List MKey), SameCollisionOrder (keysOf st.1) l →
      SameCollisionOrder (keysOf (runM cfg st ops).1) (insertionOrderFrom l (observe cfg st ops))
  | [], _, _, _, _, _, hl => hl
  | op :: ops, st, hcfg, hI, hok, l, hl =>
    have ⟨hI', _, _, _, hcfg', _⟩ := C05.mapIds_step T hT D cfg st hcfg hI op (hok op (by simp))
    sameCollisionOrder_run T hT D cfg ops (stepM cfg st op) hcfg' hI' (fun o ho => hok o (by simp [ho])) _
      (sameCollisionOrder_step T hT D cfg st (good_of_invI hcfg hI) op (hok op (by simp)) l hl)

/-- … and from the empty map -/
theorem sameCollisionOrder_history (T : Nat) (hT : legalThreshold T = true) (D : DigestFn (r + 1))
    (cfg : MCfg) (hcT : cfg.T = T) (hcL : cfg.L = r + 1) (ty : Nat) (seedOf : SlabID → Nat) (c0 : Ctx)
    (ops : List MOp) (hok : ∀ op ∈ ops, op.Ok T D) :
    SameCollisionOrder (keysOf (runM cfg (OMap.new (r := r) cfg.addr ty seedOf c0) ops).1)
      (insertionOrderObs (observe cfg (OMap.new (r := r) cfg.addr ty seedOf c0) ops)) :=
  have ⟨hI, _, haddr, _⟩ := C05.mapIds_new (r := r) T hT D cfg.addr ty seedOf c0
  sameCollisionOrder_run T hT D cfg ops _ ⟨hcT, hcL, haddr.symm⟩ hI hok [] (SameCollisionOrder.refl [])

/-- **fully colliding keys are enumerated in insertion order.**  For every history `ops` of
    `Set` / `Remove` / `PopIterate` / `SetType` from the empty map (`OMap.new`), any legal threshold, any
    digest function (any collisions), and every digest vector `d`: the keys with digest vector `d` in the
    final enumeration `toList` are – in this order – the keys with digest vector `d` of the
    specification's insertion-order list (`insertionOrderObs (observe …)`: new key appended, overwrite
    keeps its position, remove deletes – so a removed and re-inserted key moves to the end – pop
    clears, a `Set` refused by the collision limit does nothing). -/
theorem map_full_collisions_in_insertion_order (T : Nat) (hT : legalThreshold T = true) (D : DigestFn (r + 1))
    (cfg : MCfg) (hcT : cfg.T = T) (hcL : cfg.L = r + 1) (ty : Nat) (seedOf : SlabID → Nat) (c0 : Ctx)
    (ops : List MOp) (hok : ∀ op ∈ ops, op.Ok T D) (d : List Nat) :
    let st0 : OMap r × Ctx := OMap.new cfg.addr ty seedOf c0
    ((runM cfg st0 ops).1.toList.filter (fun p => p.1.digs == d)).map (·.1) =
      (insertionOrderObs (observe cfg st0 ops)).filter (fun k => k.digs == d) := by
  intro st0
  rw [← sameCollisionOrder_history T hT D cfg hcT hcL ty seedOf c0 ops hok d, keysOf, List.filter_map]
  rfl

/-- **the enumeration order is determined by the observed history.**  The key sequence of the final
    enumeration is the stable sort (`List.mergeSort`, which keeps equal elements in their original
    order) of the specification's insertion-order list by digest vector: ascending digest vectors
    (`map_order_canonical`), insertion order inside every class of fully colliding keys
    (`map_full_collisions_in_insertion_order`) – and these two facts leave no freedom
    (`digSorted_unique`). -/
theorem map_enumeration_determined (T : Nat) (hT : legalThreshold T = true) (D : DigestFn (r + 1))
    (cfg : MCfg) (hcT : cfg.T = T) (hcL : cfg.L = r + 1) (ty : Nat) (seedOf : SlabID → Nat) (c0 : Ctx)
    (ops : List MOp) (hok : ∀ op ∈ ops, op.Ok T D) :
    let st0 : OMap r × Ctx := OMap.new cfg.addr ty seedOf c0
    (runM cfg st0 ops).1.toList.map (·.1) = (insertionOrderObs (observe cfg st0 ops)).mergeSort digLe := by
  intro st0
  have hsorted : DigSorted (keysOf (runM cfg st0 ops).1) := by
    have := map_order_canonical T D _ (good_history T hT D cfg hcT hcL ty seedOf c0 ops hok).inv
    unfold DigSorted keysOf
    rw [List.pairwise_map] at this ⊢
    exact this
  refine digSorted_unique _ _ hsorted (digSorted_mergeSort _) fun d => ?_
  rw [sameCollisionOrder_history T hT D cfg hcT hcL ty seedOf c0 ops hok d]
  exact (sameCollisionOrder_mergeSort _ d).symm

/-- the observed flags of a history in which every request is served -/
theorem observe_all_served (cfg : MCfg) : ∀ (ops : List MOp) (st : OMap r × Ctx),
    (∀ n, n < ops.length → served cfg (runM cfg st (ops.take n)) (ops.getD n .popIterate) = true) →
    observe cfg st ops = ops.map (fun op => (op, true))
  | [], _, _ => rfl
  | op :: ops, st, h => by
    have h0 := h 0 (by simp)
    simp only [List.take_zero, runM, List.foldl_nil, List.getD_cons_zero] at h0
    simp only [observe, List.map_cons, h0]
    congr 1
    refine observe_all_served cfg ops (stepM cfg st op) ?_
    intro n hn
    have := h (n + 1) (by simpa using hn)
    simpa only [List.take_succ_cons, runM, List.foldl_cons, List.getD_cons_succ] using this

/-- When no request of the history is refused (no `Set` hits the collision limit, no `Remove` names
    an absent key) the enumeration order is a function of the requests alone. -/
theorem map_enumeration_determined_no_refusal (T : Nat) (hT : legalThreshold T = true) (D : DigestFn (r + 1))
    (cfg : MCfg) (hcT : cfg.T = T) (hcL : cfg.L = r + 1) (ty : Nat) (seedOf : SlabID → Nat) (c0 : Ctx)
    (ops : List MOp) (hok : ∀ op ∈ ops, op.Ok T D)
    (hserved : ∀ n, n < ops.length →
      served cfg (runM cfg (OMap.new (r := r) cfg.addr ty seedOf c0) (ops.take n)) (ops.getD n .popIterate) = true) :
    (runM cfg (OMap.new (r := r) cfg.addr ty seedOf c0) ops).1.toList.map (·.1) = (insertionOrder ops).mergeSort digLe := by
  have := map_enumeration_determined T hT D cfg hcT hcL ty seedOf c0 ops hok
  simp only at this
  rw [this, observe_all_served cfg ops _ hserved]
  rfl

/-- The same for what the iterators yield after the history (they all yield `toList`): the mutable
    iterator and its keys-only flavour; the loaded-value iterator with everything loaded; and the
    read-only iterator and its keys-only flavour (no identifier hypothesis: the slab IDs of a map
    reached by a history are distinct and defined, `C13.map_ro_iter_history`). -/
theorem map_iterators_in_insertion_order (T : Nat) (hT : legalThreshold T = true) (D : DigestFn (r + 1))
    (cfg : MCfg) (hcT : cfg.T = T) (hcL : cfg.L = r + 1) (ty : Nat) (seedOf : SlabID → Nat) (c0 : Ctx)
    (ops : List MOp) (hok : ∀ op ∈ ops, op.Ok T D) :
    let st0 : OMap r × Ctx := OMap.new cfg.addr ty seedOf c0
    let m := (runM cfg st0 ops).1
    let order := (insertionOrderObs (observe cfg st0 ops)).mergeSort digLe
    (∃ L, m.iterMutable cfg = .ok L ∧ L.map (·.1) = order) ∧
    m.iterMutableKeys cfg = .ok order ∧
    (∀ loaded : SlabID → Bool, (∀ id, loaded id = true) → (m.iterLoaded loaded).map (·.1) = order) ∧
    (∃ L, m.iterReadOnly = .ok L ∧ L.map (·.1) = order) ∧ m.iterReadOnlyKeys = .ok order := by
  intro st0 m order
  have hg := good_history T hT D cfg hcT hcL ty seedOf c0 ops hok
  have hdet : m.toList.map (·.1) = order := map_enumeration_determined T hT D cfg hcT hcL ty seedOf c0 ops hok
  have hkv := map_keys_values_projections T hT D cfg m hg.cfgok hg.inv
  refine ⟨⟨m.toList, map_mut_iter_eq_toList T hT D cfg m hg.cfgok hg.inv, hdet⟩, ?_, ?_, ?_, ?_⟩
  · rw [hkv.1, hdet]
  · intro loaded hall
    rw [map_loaded_all_eq_toList T D m hg.inv loaded hall, hdet]
  · obtain ⟨hro, hrok, _, _⟩ := map_ro_iter_history T hT D cfg hcT hcL ty seedOf c0 ops hok ops.length m
      (by rw [List.take_length])
    exact ⟨m.toList, hro, hdet⟩
  · obtain ⟨_, hrok, _, _⟩ := map_ro_iter_history T hT D cfg hcT hcL ty seedOf c0 ops hok ops.length m
      (by rw [List.take_length])
    rw [hrok, hdet]

/-! ## Non-vacuity

`MapExample` (two digest levels, `T = 256`, digests = hundreds and tens digit of the payload, collision
limit 1 at the first level).  The keys 313, 311, 312 collide on both levels and are inserted in that
(non-sorted) order; 311 is overwritten (keeps its place), then removed and inserted again: it is now
the last of its class.  Then come a `Set` that is served, a `Set` that is refused by the collision limit
and a `Remove` of an absent key.  Everything is computed by running the model. -/
section NonVacuity

def hist : List MOp :=
  [.set (key 313) (val 1), .set (key 311) (val 2), .set (key 211) (val 3), .set (key 312) (val 4),
   .set (key 311) (val 5), .remove (key 311), .setType 9, .set (key 311) (val 8), .set (key 321) (val 6),
   .set (key 331) (val 7), .remove (key 999)]

theorem hist_ok : ∀ op ∈ hist, op.Ok 256 D2 := by
  intro op hop
  simp only [hist, List.mem_cons, List.not_mem_nil, or_false] at hop
  rcases hop with rfl | rfl | rfl | rfl | rfl | rfl | rfl | rfl | rfl | rfl | rfl
  all_goals first
    | exact ⟨key_ok _, val_ok _⟩
    | exact key_ok _
    | trivial

/-- what the caller observes: the tenth request (a third second-level digest under first-level digest 3,
    collision limit 1) is refused, and so is the removal of the absent key 999 -/
example : (observe cfg2 st0 hist).map (·.2) =
    [true, true, true, true, true, true, true, true, true, false, false] := by decide +kernel

/-- the specification's association list: 311 was removed and re-inserted, so it comes last;
    the refused 331 is not in it -/
example : (insertionOrderObs (observe cfg2 st0 hist)).map (·.pay) = [313, 211, 312, 311, 321] := by decide +kernel

/-- the digest vectors: 313, 312, 311 collide fully -/
example : (insertionOrderObs (observe cfg2 st0 hist)).map (·.digs) = [[3, 1], [2, 1], [3, 1], [3, 1], [3, 2]] := by
  decide +kernel

/-- the enumeration of the model's final tree: ascending digest vectors, and inside the class `[3, 1]`
    the order 313, 312, 311 of (latest) insertion – not the order of the payloads -/
example : (runM cfg2 st0 hist).1.toList.map (·.1.pay) = [211, 313, 312, 311, 321] := by decide +kernel

/-- the theorems apply to this history (all hypotheses discharged) -/
theorem hist_determined :
    (runM cfg2 st0 hist).1.toList.map (·.1) = (insertionOrderObs (observe cfg2 st0 hist)).mergeSort digLe :=
  map_enumeration_determined 256 legal256 D2 cfg2 rfl rfl 0 (fun id => id.idx) { ctr := 0, eff := [] } hist hist_ok

/-- so that is what the stable sort of the association list by digest vector is -/
example : ((insertionOrderObs (observe cfg2 st0 hist)).mergeSort digLe).map (·.pay) = [211, 313, 312, 311, 321] := by
  rw [← hist_determined, List.map_map]
  decide +kernel

example : ((runM cfg2 st0 hist).1.toList.filter (fun p => p.1.digs == [3, 1])).map (·.1) =
    (insertionOrderObs (observe cfg2 st0 hist)).filter (fun k => k.digs == [3, 1]) :=
  map_full_collisions_in_insertion_order 256 legal256 D2 cfg2 rfl rfl 0 (fun id => id.idx) { ctr := 0, eff := [] }
    hist hist_ok [3, 1]

/-- the overwrite step of the history: the key sequence is unchanged -/
example : keysOf (runM cfg2 st0 (hist.take 5)).1 = keysOf (runM cfg2 st0 (hist.take 4)).1 := by decide +kernel

/-- the remove step: exactly 311 disappears -/
example : (keysOf (runM cfg2 st0 (hist.take 5)).1).map (·.pay) = [211, 313, 311, 312] ∧
    (keysOf (runM cfg2 st0 (hist.take 6)).1).map (·.pay) = [211, 313, 312] := by decide +kernel

/-- a history without refusals: the order is a function of the requests alone -/
example : (insertionOrder (hist.take 9)).map (·.pay) = [313, 211, 312, 311, 321] := by decide

/-- `digSorted_unique` has teeth: two different orders of one collision class are told apart by
    `SameCollisionOrder` (so "ascending digest vectors" alone does not determine the enumeration) -/
example : DigSorted [key 313, key 312] ∧ DigSorted [key 312, key 313] ∧
    ¬ SameCollisionOrder [key 313, key 312] [key 312, key 313] := by
  refine ⟨?_, ?_, ?_⟩
  · simp only [DigSorted, List.pairwise_cons]; simp [key, D2]
  · simp only [DigSorted, List.pairwise_cons]; simp [key, D2]
  · intro h
    have := h [3, 1]
    revert this
    decide

end NonVacuity

end Atree.C13

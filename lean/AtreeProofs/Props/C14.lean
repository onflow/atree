import AtreeModel.StorageOps
import AtreeProofs.Storage.Commit
import AtreeProofs.StorageExample
/-
  C14 — A failed commit loses nothing and a retry converges to the fault-free result.
  Helper lemmas: AtreeProofs/Storage/Commit.lean.
-/
namespace Atree.C14
open Atree St

variable {σ β : Type} (c : Codec σ β)

/-- The result of either commit function for given fault plan and orders. -/
def commitWith (kind : CommitKind) (fault : Nat → Bool) (mo dlo : List SlabID) (s : St σ β) : CommitRes σ β :=
  match kind with
  | .det => s.fastCommit c fault
  | .nondet => s.nondetCommit c fault (normOrder s.modifiedOwned mo) (normOrder s.deletedOwned dlo)

/-- `commitWith` is the helper `commitW` of AtreeProofs/Storage/Commit.lean. -/
theorem commitWith_eq (kind : CommitKind) (fault : Nat → Bool) (mo dlo : List SlabID) (s : St σ β) :
    commitWith c kind fault mo dlo s = commitW c kind fault mo dlo s := by
  cases kind <;> rfl

/-- If a write/deletion issued by the commit fails, the commit reports an (external) error. -/
theorem failed_commit_reports_error (kind : CommitKind) (fault : Nat → Bool) (mo dlo : List SlabID)
    (s : St σ β) (hne : NoEncodeFailure c s) :
    let r := commitWith c kind fault mo dlo s
    (∃ n, n < r.n ∧ fault n = true) → r.err = some .external := by
  intro r hf
  have hr : r = commitW c kind fault mo dlo s := commitWith_eq c kind fault mo dlo s
  rw [hr] at hf ⊢
  exact (commitW_firstFault c kind fault mo dlo s hne).external_of_fault hf

/-- Reads through the storage continue to return the latest values, whatever fails. -/
theorem failed_commit_keeps_view (hc : RoundTrip c) (kind : CommitKind) (fault : Nat → Bool)
    (mo dlo : List SlabID) (s : St σ β) (h : Inv c s) :
    let r := commitWith c kind fault mo dlo s
    (∀ id, r.st.view c id = s.view c id) ∧ Inv c r.st := by
  intro r
  have hr : r = commitW c kind fault mo dlo s := commitWith_eq c kind fault mo dlo s
  rw [hr]
  obtain ⟨h1, h2, _⟩ := commitW_spec c hc kind fault mo dlo s h
  exact ⟨h2.view, h1⟩

/-- Every change not yet durably written stays pending: an identifier leaves the write set only
    when the ledger holds its latest value; everything else is still pending, unchanged. -/
theorem failed_commit_pending_is_unwritten (hc : RoundTrip c) (kind : CommitKind) (fault : Nat → Bool)
    (mo dlo : List SlabID) (s : St σ β) (h : Inv c s) :
    let r := commitWith c kind fault mo dlo s
    ∀ id, (AList.find? r.st.deltas id = AList.find? s.deltas id) ∨
          (AList.find? r.st.deltas id = none ∧ id.isTemp = false ∧ r.st.committed c id = s.view c id) := by
  intro r
  have hr : r = commitW c kind fault mo dlo s := commitWith_eq c kind fault mo dlo s
  rw [hr]
  obtain ⟨_, h2, _⟩ := commitW_spec c hc kind fault mo dlo s h
  exact h2.pending

/-- Any list of commit attempts (each with its own kind, fault plan and orders) keeps the invariant and
    only advances the state towards the commit target. -/
theorem attempts_adv (hc : RoundTrip c) (attempts : List (CommitKind × List Nat × List SlabID × List SlabID))
    (s : St σ β) (h : Inv c s) :
    Inv c (attempts.foldl (fun s a => (commitWith c a.1 (faultPlan a.2.1) a.2.2.1 a.2.2.2 s).st) s) ∧
    Adv c s (attempts.foldl (fun s a => (commitWith c a.1 (faultPlan a.2.1) a.2.2.1 a.2.2.2 s).st) s) := by
  apply foldl_adv c _ _ attempts s h
  intro t a hIt
  rw [commitWith_eq]
  obtain ⟨h1, h2, _⟩ := commitW_spec c hc a.1 (faultPlan a.2.1) a.2.2.1 a.2.2.2 t hIt
  exact ⟨h1, h2⟩

/-- Retrying until a commit succeeds leaves the ledger identical to what one fault-free commit
    would have produced: for ANY sequence of failing attempts (each with its own commit kind, fault
    plan and orders), followed by a successful attempt of either kind. -/
theorem retry_converges (hc : RoundTrip c) (s : St σ β) (h : Inv c s) (hne : NoEncodeFailure c s)
    (attempts : List (CommitKind × List Nat × List SlabID × List SlabID))
    (kind : CommitKind) (mo dlo : List SlabID) :
    let s' := attempts.foldl (fun s a => (commitWith c a.1 (faultPlan a.2.1) a.2.2.1 a.2.2.2 s).st) s
    let final := commitWith c kind (fun _ => false) mo dlo s'
    let ref := s.fastCommit c (fun _ => false)
    final.err = none ∧ ∀ id, AList.find? final.st.base id = AList.find? ref.st.base id := by
  intro s' final ref
  obtain ⟨hI', hadv⟩ := attempts_adv c hc attempts s h
  have hne' : NoEncodeFailure c s' := hadv.noEncodeFailure hne
  have hfinal : final = commitW c kind (fun _ => false) mo dlo s' := commitWith_eq c kind _ mo dlo s'
  have href : ref = commitW c .det (fun _ => false) [] [] s := rfl
  obtain ⟨f1, _, f3⟩ := commitW_complete c hc kind (fun _ => false) (fun _ => rfl) mo dlo s' hI' hne'
  obtain ⟨_, _, r3⟩ := commitW_complete c hc .det (fun _ => false) (fun _ => rfl) [] [] s h hne
  rw [hfinal, href]
  refine ⟨f1, fun id => ?_⟩
  rw [f3 id, r3 id, hadv.target id]

/-! ### Non-vacuity

The hypotheses (`RoundTrip`, `Inv`, `NoEncodeFailure`, a faulted base call) are satisfiable on the
concrete state `Example.exSt` (AtreeProofs/StorageExample.lean): pending store `1.1`, pending
deletion `1.2`, pending temporary slab `0.1`, cached `1.3`, committed `1.2`, `1.3`, `1.4`. -/
section NonVacuity
open Atree.Example

example : RoundTrip natCodec ∧ Inv natCodec exSt ∧ NoEncodeFailure natCodec exSt :=
  ⟨roundTrip, inv, noEncodeFailure exSt⟩

/-- The premise of `failed_commit_reports_error` holds when the second base call fails; the commit
    then has written `1.1` and left the deletion of `1.2` pending (both disjuncts of
    `failed_commit_pending_is_unwritten` occur). -/
example :
    let r := commitWith natCodec .det (faultPlan [1]) [] [] exSt
    (∃ n, n < r.n ∧ faultPlan [1] n = true) ∧ r.err = some .external ∧
    AList.find? r.st.deltas ⟨1, 1⟩ = none ∧ AList.find? r.st.base ⟨1, 1⟩ = some 5 ∧
    AList.find? r.st.deltas ⟨1, 2⟩ = some none ∧ AList.find? r.st.base ⟨1, 2⟩ = some 3 ∧
    r.st.view natCodec ⟨1, 2⟩ = none :=
  ⟨⟨1, by decide, by decide⟩, by decide, by decide, by decide, by decide, by decide, by decide⟩

/-- The same for the nondeterministic commit (one modified key, so it is written first). -/
example :
    let r := commitWith natCodec .nondet (faultPlan [1]) [] [] exSt
    (∃ n, n < r.n ∧ faultPlan [1] n = true) ∧ r.err = some .external :=
  ⟨⟨1, by decide, by decide⟩, by decide⟩

example : (commitWith natCodec .det (faultPlan [1]) [] [] exSt).err = some .external :=
  failed_commit_reports_error natCodec .det (faultPlan [1]) [] [] exSt (noEncodeFailure exSt)
    ⟨1, by decide, by decide⟩

/-- `retry_converges` with two attempts that really fail (the first after one write, the second at
    once), followed by a successful nondeterministic commit. -/
example :
    let attempts : List (CommitKind × List Nat × List SlabID × List SlabID) :=
      [(.det, [1], [], []), (.nondet, [0], [], [])]
    let s1 := (commitWith natCodec .det (faultPlan [1]) [] [] exSt).st
    (commitWith natCodec .det (faultPlan [1]) [] [] exSt).err = some .external ∧
    (commitWith natCodec .nondet (faultPlan [0]) [] [] s1).err = some .external ∧
    AList.find? (attempts.foldl
      (fun s a => (commitWith natCodec a.1 (faultPlan a.2.1) a.2.2.1 a.2.2.2 s).st) exSt).deltas ⟨1, 2⟩
      = some none := by decide

example :=
  retry_converges natCodec roundTrip exSt inv (noEncodeFailure exSt)
    [(.det, [1], [], []), (.nondet, [0], [], [])] .nondet [] []

end NonVacuity

end Atree.C14

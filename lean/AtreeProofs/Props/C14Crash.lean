import AtreeModel.StorageOps
import AtreeProofs.Storage.Step
import AtreeProofs.StorageExample
import AtreeProofs.Props.C14
/-
  C14 / C03 — when exactly a commit succeeds or fails, and what a crash after FAILED commit
  attempts leaves in the ledger.
  Helper lemmas: AtreeProofs/Storage/Commit.lean and Step.lean.

  A commit issues one base-storage call per owned pending identifier and stops at the first faulted
  call; it succeeds iff no faulted position is reached.  After any list of attempts every register is
  the pre-commit value or the would-be post-commit value, the latter exactly for identifiers that
  left the write set; so a reopened storage shows per owned identifier the old committed slab or the
  slab visible at commit time, and once an attempt succeeds exactly the state at the first attempt.
  The last theorems are `C03.crash_recovers_last_commit` for histories that contain commit attempts.
-/
namespace Atree.C14
open Atree St

variable {σ β : Type} (c : Codec σ β)

/-- The attempts of `retry_converges`: each with its own commit kind, fault plan and orders. -/
abbrev Attempt := CommitKind × List Nat × List SlabID × List SlabID

/-- Run a list of commit attempts, keeping the state after each (errors are ignored, as a caller
    that retries does). -/
def runAttempts (attempts : List Attempt) (s : St σ β) : St σ β :=
  attempts.foldl (fun s a => (commitWith c a.1 (faultPlan a.2.1) a.2.2.1 a.2.2.2 s).st) s

/-- The fault-plan position of a commit equals the length of its call log; a commit issues at most
    one base-storage call per owned pending identifier, and exactly one each if it succeeds. -/
theorem commit_call_count (kind : CommitKind) (fault : Nat → Bool) (mo dlo : List SlabID)
    (s : St σ β) (hnd : (AList.keys s.deltas).Nodup) :
    let r := commitWith c kind fault mo dlo s
    r.n = r.log.length ∧ r.n ≤ (sortedOwnedDeltaKeys s).length ∧
    (r.err = none → r.n = (sortedOwnedDeltaKeys s).length) := by
  intro r
  have hr : r = commitW c kind fault mo dlo s := commitWith_eq c kind fault mo dlo s
  rw [hr]
  exact commitW_calls c kind fault mo dlo s hnd

/-- If none of the base-storage calls the commit issued was faulted (and every pending slab
    encodes), the commit reports no error.  (Converse of `failed_commit_reports_error`.) -/
theorem commit_succeeds_if_no_fault_reached (kind : CommitKind) (fault : Nat → Bool)
    (mo dlo : List SlabID) (s : St σ β) (hne : NoEncodeFailure c s) :
    let r := commitWith c kind fault mo dlo s
    (∀ n, n < r.n → fault n = false) → r.err = none := by
  intro r hf
  have hr : r = commitW c kind fault mo dlo s := commitWith_eq c kind fault mo dlo s
  rw [hr] at hf ⊢
  exact (commitW_firstFault c kind fault mo dlo s hne).err_none_of_no_fault hf

/-- Usable form: if every faulted position lies at or beyond the number of owned pending
    identifiers, the commit succeeds and issues exactly one base-storage call per owned pending
    identifier. -/
theorem commit_succeeds_if_faults_beyond_pending (kind : CommitKind) (fault : Nat → Bool)
    (mo dlo : List SlabID) (s : St σ β) (hnd : (AList.keys s.deltas).Nodup)
    (hne : NoEncodeFailure c s) :
    let r := commitWith c kind fault mo dlo s
    (∀ n, fault n = true → (sortedOwnedDeltaKeys s).length ≤ n) →
      r.err = none ∧ r.n = (sortedOwnedDeltaKeys s).length := by
  intro r hf
  obtain ⟨_, hle, hfull⟩ := commit_call_count c kind fault mo dlo s hnd
  have herr : r.err = none := by
    apply commit_succeeds_if_no_fault_reached c kind fault mo dlo s hne
    intro n hlt
    cases hfn : fault n with
    | false => rfl
    | true =>
      have h1 := hf n hfn
      have h2 : n < (sortedOwnedDeltaKeys s).length := Nat.lt_of_lt_of_le hlt hle
      omega
  exact ⟨herr, hfull herr⟩

/-- Conversely: if the first faulted position `n` is smaller than the number of owned pending
    identifiers, the commit fails with an external error exactly at that call (it issued `n + 1`
    calls: `n` successful ones and the failed one). -/
theorem commit_fails_if_fault_reached (kind : CommitKind) (fault : Nat → Bool)
    (mo dlo : List SlabID) (s : St σ β) (hnd : (AList.keys s.deltas).Nodup)
    (hne : NoEncodeFailure c s) (n : Nat) :
    let r := commitWith c kind fault mo dlo s
    n < (sortedOwnedDeltaKeys s).length → fault n = true → (∀ m, m < n → fault m = false) →
      r.err = some .external ∧ r.n = n + 1 := by
  intro r hn hfn hbefore
  have hr : r = commitW c kind fault mo dlo s := commitWith_eq c kind fault mo dlo s
  obtain ⟨keys, _, hlen, h | ⟨h, _⟩⟩ := commitW_outcome c kind fault mo dlo s hnd
  · rw [hr]
    rw [← hlen] at hn
    generalize commitW c kind fault mo dlo s = r at h ⊢
    cases h with
    | complete _ hf => rw [hf n hn] at hfn; cases hfn
    | @faulted done _ _ _ _ _ _ _ _ hf _ hp =>
      refine ⟨rfl, ?_⟩
      -- the position where the loop stopped is the first faulted one, and so is `n`
      rcases Nat.lt_trichotomy done.length n with h | h | h
      · rw [hbefore _ h] at hp; cases hp
      · rw [h]
      · rw [hf n h] at hfn; cases hfn
    | unencodable _ ha _ hd he =>
      have := ha.keeps (Φ := NoEncodeFailure c) KeyCall.noEncodeFailure hne _ _ hd
      rw [he] at this; cases this
  · exact absurd hne h

/-- After ANY commit attempt (either function, any fault plan, encode failures included) every
    register is either the pre-commit value or the would-be post-commit value; and it is the new
    value exactly for the identifiers that left the write set: an identifier is either untouched
    (same pending entry, same register) or written (no longer pending, register = commit target). -/
theorem failed_commit_registers_old_or_new (kind : CommitKind) (fault : Nat → Bool)
    (mo dlo : List SlabID) (s : St σ β) (hnd : (AList.keys s.deltas).Nodup) :
    let s' := (commitWith c kind fault mo dlo s).st
    ∀ id,
      (AList.find? s'.base id = AList.find? s.base id ∨ AList.find? s'.base id = target c s id) ∧
      ((AList.find? s'.deltas id = AList.find? s.deltas id ∧
          AList.find? s'.base id = AList.find? s.base id) ∨
       (AList.find? s'.deltas id = none ∧ AList.find? s'.base id = target c s id)) := by
  intro s' id
  have hs : s' = (commitW c kind fault mo dlo s).st := by
    show (commitWith c kind fault mo dlo s).st = _
    rw [commitWith_eq]
  rw [hs]
  have h := (commitW_oldOrNew c kind fault mo dlo s hnd).1 id
  exact ⟨h.imp And.right And.right, h⟩

theorem runAttempts_oldOrNew (attempts : List Attempt) (s : St σ β)
    (hnd : (AList.keys s.deltas).Nodup) :
    OldOrNew c s (runAttempts c attempts s) ∧
    (AList.keys (runAttempts c attempts s).deltas).Nodup := by
  apply foldl_oldOrNew c _ _ attempts s hnd
  intro t a ht
  rw [commitWith_eq]
  exact commitW_oldOrNew c a.1 (faultPlan a.2.1) a.2.2.1 a.2.2.2 t ht

/-- The same after any list of attempts (each with its own kind, fault plan and orders), relative
    to the state before the first attempt: registers are old or new per identifier, new exactly
    where the identifier left the write set. -/
theorem failed_commits_registers_old_or_new (attempts : List Attempt) (s : St σ β)
    (hnd : (AList.keys s.deltas).Nodup) :
    let s' := attempts.foldl (fun s a => (commitWith c a.1 (faultPlan a.2.1) a.2.2.1 a.2.2.2 s).st) s
    ∀ id,
      (AList.find? s'.base id = AList.find? s.base id ∨ AList.find? s'.base id = target c s id) ∧
      ((AList.find? s'.deltas id = AList.find? s.deltas id ∧
          AList.find? s'.base id = AList.find? s.base id) ∨
       (AList.find? s'.deltas id = none ∧ AList.find? s'.base id = target c s id)) := by
  intro s' id
  have h := (runAttempts_oldOrNew c attempts s hnd).1 id
  exact ⟨h.imp And.right And.right, h⟩

/-- Crash after failed commit attempts, exact form: reopen over the ledger left by any list of
    attempts.  An owned identifier that is still pending (or was never pending) shows its old
    committed slab; one that left the write set shows the slab visible at commit time.
    Identifiers of the temporary address show nothing. -/
theorem crash_after_failed_commit_exact (hc : RoundTrip c) (attempts : List Attempt) (s : St σ β)
    (h : Inv c s) :
    let s' := attempts.foldl (fun s a => (commitWith c a.1 (faultPlan a.2.1) a.2.2.1 a.2.2.2 s).st) s
    let reopened : St σ β := St.fresh s'.base s'.alloc
    (∀ id, (AList.find? s'.deltas id = AList.find? s.deltas id ∧
              reopened.view c id = s.committed c id) ∨
           (AList.find? s'.deltas id = none ∧ reopened.view c id = s.view c id)) ∧
    (∀ id, id.isTemp = true → reopened.view c id = none) := by
  intro s' reopened
  obtain ⟨hI', hadv⟩ := attempts_adv c hc attempts s h
  obtain ⟨hon, _⟩ := runAttempts_oldOrNew c attempts s h.deltasNodup
  have hview : ∀ id, reopened.view c id = s'.committed c id := fun id => view_fresh c _ _ id
  constructor
  · intro id
    rw [hview id]
    exact committed_of_oldOrNew c s _ hadv hon id
  · intro id ht
    have hb : AList.find? s'.base id = none := hI'.noTempBase id ht
    rw [hview id]
    simp [St.committed, hb]

/-- Crash after failed commit attempts: the reopened storage shows, for every owned identifier,
    either the old committed slab or the slab that was visible at commit time – never anything
    else, whatever failed and wherever; temporary identifiers show nothing. -/
theorem crash_after_failed_commit (hc : RoundTrip c) (attempts : List Attempt) (s : St σ β)
    (h : Inv c s) :
    let s' := attempts.foldl (fun s a => (commitWith c a.1 (faultPlan a.2.1) a.2.2.1 a.2.2.2 s).st) s
    let reopened : St σ β := St.fresh s'.base s'.alloc
    (∀ id, id.isTemp = false →
      reopened.view c id = s.committed c id ∨ reopened.view c id = s.view c id) ∧
    (∀ id, id.isTemp = true → reopened.view c id = none) := by
  intro s' reopened
  obtain ⟨h1, h2⟩ := crash_after_failed_commit_exact c hc attempts s h
  refine ⟨fun id _ => ?_, h2⟩
  rcases h1 id with ⟨_, hv⟩ | ⟨_, hv⟩
  · exact Or.inl hv
  · exact Or.inr hv

/-- After any attempts, as soon as ONE further attempt (of either kind, with any fault plan)
    reports success, every register is the commit target of the state before the first attempt and
    the reopened storage shows, for every owned identifier, exactly the slab visible then. -/
theorem any_successful_attempt_then_reopen (hc : RoundTrip c) (s : St σ β) (h : Inv c s)
    (attempts : List Attempt) (kind : CommitKind) (fault : Nat → Bool) (mo dlo : List SlabID) :
    let s' := attempts.foldl (fun s a => (commitWith c a.1 (faultPlan a.2.1) a.2.2.1 a.2.2.2 s).st) s
    let final := commitWith c kind fault mo dlo s'
    let reopened : St σ β := St.fresh final.st.base final.st.alloc
    final.err = none →
      (∀ id, AList.find? final.st.base id = target c s id) ∧
      (∀ id, id.isTemp = false → reopened.view c id = s.view c id) ∧
      (∀ id, id.isTemp = true → reopened.view c id = none) := by
  intro s' final reopened herr
  obtain ⟨hI', hadv⟩ := attempts_adv c hc attempts s h
  have hfinal : final = commitW c kind fault mo dlo s' := commitWith_eq c kind fault mo dlo s'
  obtain ⟨f1, f2, f3⟩ := commitW_spec c hc kind fault mo dlo s' hI'
  rw [← hfinal] at f1 f2 f3
  have hall := f3 herr
  have hadv' : Adv c s final.st := hadv.trans f2
  refine ⟨hadv'.base_eq_target hall, ?_, ?_⟩
  · intro id hown
    show (St.fresh final.st.base final.st.alloc : St σ β).view c id = s.view c id
    rw [view_fresh]
    exact hadv'.committed_eq_view f1 hall id hown
  · intro id ht
    show (St.fresh final.st.base final.st.alloc : St σ β).view c id = none
    rw [view_fresh]
    simp [f1.noTempBase id ht]

/-- Retry until success, then crash: after any failing attempts followed by a fault-free attempt
    of either kind, the attempt succeeds, every register equals the commit target of the state
    before the first attempt, and the reopened storage shows for every owned identifier exactly
    the slab that was visible then (temporary identifiers show nothing). -/
theorem retry_until_success_then_reopen (hc : RoundTrip c) (s : St σ β) (h : Inv c s)
    (hne : NoEncodeFailure c s) (attempts : List Attempt) (kind : CommitKind)
    (mo dlo : List SlabID) :
    let s' := attempts.foldl (fun s a => (commitWith c a.1 (faultPlan a.2.1) a.2.2.1 a.2.2.2 s).st) s
    let final := commitWith c kind (fun _ => false) mo dlo s'
    let reopened : St σ β := St.fresh final.st.base final.st.alloc
    final.err = none ∧
    (∀ id, AList.find? final.st.base id = target c s id) ∧
    (∀ id, id.isTemp = false → reopened.view c id = s.view c id) ∧
    (∀ id, id.isTemp = true → reopened.view c id = none) := by
  intro s' final reopened
  obtain ⟨_, hadv⟩ := attempts_adv c hc attempts s h
  have hne' : NoEncodeFailure c s' := hadv.noEncodeFailure hne
  have herr : final.err = none :=
    commit_succeeds_if_no_fault_reached c kind (fun _ => false) mo dlo s' hne' (fun _ _ => rfl)
  exact ⟨herr, any_successful_attempt_then_reopen c hc s h attempts kind (fun _ => false) mo dlo herr⟩

/-- The states at which the commit attempts of a history start. -/
def commitPoints : St σ β → List (Op σ) → List (St σ β)
  | _, [] => []
  | s, op :: ops => (if Op.isCommit op = true then [s] else []) ++ commitPoints (St.step c s op).1 ops

/-- `commitPoints` are exactly the states reached by a prefix of the history that is followed by
    a commit operation. -/
theorem mem_commitPoints (s : St σ β) (ops : List (Op σ)) (t : St σ β) :
    t ∈ commitPoints c s ops ↔
      ∃ pre op post, ops = pre ++ op :: post ∧ Op.isCommit op = true ∧ t = St.run c s pre := by
  induction ops generalizing s with
  | nil => simp [commitPoints]
  | cons o os ih =>
    rw [commitPoints, List.mem_append, ih]
    constructor
    · rintro (hm | ⟨pre, op, post, h1, h2, h3⟩)
      · by_cases ho : Op.isCommit o = true
        · rw [if_pos ho, List.mem_singleton] at hm
          exact ⟨[], o, os, rfl, ho, hm⟩
        · rw [if_neg ho] at hm
          cases hm
      · exact ⟨o :: pre, op, post, by rw [h1]; rfl, h2, h3⟩
    · rintro ⟨pre, op, post, h1, h2, h3⟩
      cases pre with
      | nil =>
        left
        simp only [List.nil_append, List.cons.injEq] at h1
        rw [h1.1, if_pos h2, List.mem_singleton]
        exact h3
      | cons p pre =>
        right
        simp only [List.cons_append, List.cons.injEq] at h1
        refine ⟨pre, op, post, h1.2, h2, ?_⟩
        rw [h3, h1.1]
        rfl

/-- Crash at any point of ANY history (stores, removes, reads, preloads, drops, re-creations, and
    commit attempts with arbitrary fault plans, succeeding or failing): for every owned
    identifier the reopened storage shows either what the ledger said at the start, or the slab
    that identifier had at the start of one of the commit attempts of the history.  Nothing that
    was never the subject of a commit attempt reaches the ledger, and what reaches it is a slab
    that really was current when an attempt started. -/
theorem crash_shows_committed_or_attempted_view (hc : RoundTrip c) (s : St σ β) (h : Inv c s)
    (ops : List (Op σ)) (id : SlabID) :
    let later := St.run c s ops
    let reopened : St σ β := St.fresh later.base later.alloc
    reopened.view c id = s.committed c id ∨
    ∃ t, t ∈ commitPoints c s ops ∧ reopened.view c id = t.view c id := by
  intro later reopened
  have hview : reopened.view c id = later.committed c id := view_fresh c _ _ id
  rw [hview]
  clear hview reopened
  induction ops generalizing s with
  | nil => exact Or.inl rfl
  | cons op ops ih =>
    have hI1 := step_inv c hc s op h
    have hstep := step_committed c hc s h op id
    rcases ih (St.step c s op).1 hI1 with h1 | ⟨t, ht, hv⟩
    · rcases hstep with h2 | ⟨hop, h2⟩
      · exact Or.inl (h1.trans h2)
      · right
        refine ⟨s, ?_, h1.trans h2⟩
        rw [commitPoints, if_pos hop]
        exact List.mem_append_left _ (List.mem_singleton.mpr rfl)
    · right
      refine ⟨t, ?_, hv⟩
      rw [commitPoints]
      exact List.mem_append_right _ ht

/-- Generalisation of `C03.crash_recovers_last_commit` to histories that contain commit attempts:
    after a successful commit, ANY history, then a crash: for every owned identifier the reopened
    storage shows the slab of the successful commit, or the slab that identifier had at the start
    of a later commit attempt. -/
theorem crash_after_commit_shows_commit_or_later_attempt (hc : RoundTrip c) (s : St σ β)
    (h : Inv c s) (hne : NoEncodeFailure c s) (ops : List (Op σ)) (id : SlabID)
    (hown : id.isTemp = false) :
    let committed := (s.fastCommit c (fun _ => false)).st
    let later := St.run c committed ops
    let reopened : St σ β := St.fresh later.base later.alloc
    reopened.view c id = s.view c id ∨
    ∃ t, t ∈ commitPoints c committed ops ∧ reopened.view c id = t.view c id := by
  intro committed later reopened
  have hr : committed = (commitW c .det (fun _ => false) [] [] s).st := rfl
  obtain ⟨h1, h2, _⟩ := commitW_spec c hc .det (fun _ => false) [] [] s h
  obtain ⟨_, g2, _⟩ := commitW_complete c hc .det (fun _ => false) (fun _ => rfl) [] [] s h hne
  rw [← hr] at h1 h2 g2
  have hcv : committed.committed c id = s.view c id := h2.committed_eq_view h1 g2 id hown
  rcases crash_shows_committed_or_attempted_view c hc committed h1 ops id with hv | hv
  · exact Or.inl (hv.trans hcv)
  · exact Or.inr hv

/-- The reopened storage shows precisely the state of the last SUCCESSFUL commit provided no owned
    identifier was stored or removed since: `t` any state satisfying the invariant, a commit
    attempt (either kind, any fault plan) that reports success, then any history of reads,
    preloads, drops, identifier generation, re-creations, stores/removes of temporary identifiers
    and further commit attempts with arbitrary fault plans, then a crash. -/
theorem crash_recovers_last_successful_commit (hc : RoundTrip c) (t : St σ β) (h : Inv c t)
    (kind : CommitKind) (fault : Nat → Bool) (mo dlo : List SlabID) (ops : List (Op σ))
    (hw : ∀ op ∈ ops, Op.writesOwned op = false) (id : SlabID) (hown : id.isTemp = false) :
    let r := commitWith c kind fault mo dlo t
    let later := St.run c r.st ops
    let reopened : St σ β := St.fresh later.base later.alloc
    r.err = none → reopened.view c id = t.view c id := by
  intro r later reopened herr
  have hr : r = commitW c kind fault mo dlo t := commitWith_eq c kind fault mo dlo t
  obtain ⟨f1, f2, f3⟩ := commitW_spec c hc kind fault mo dlo t h
  rw [← hr] at f1 f2 f3
  have hcl : Clean r.st := f3 herr
  obtain ⟨_, hbase⟩ := run_clean c hc ops r.st f1 hcl hw
  show (St.fresh later.base later.alloc : St σ β).view c id = t.view c id
  rw [view_fresh, hbase id]
  exact f2.committed_eq_view f1 hcl id hown

/-- `C03.crash_recovers_last_commit` with commit attempts allowed in the history: commit, then any
    history in which no owned identifier is stored or removed (failed or successful re-commits
    with arbitrary fault plans, reads, drops, identifier generation, re-creation are free), then a
    crash: the reopened storage shows precisely the state of the commit. -/
theorem crash_recovers_last_commit_despite_attempts (hc : RoundTrip c) (s : St σ β) (h : Inv c s)
    (hne : NoEncodeFailure c s) (ops : List (Op σ))
    (hw : ∀ op ∈ ops, Op.writesOwned op = false) (id : SlabID) (hown : id.isTemp = false) :
    let committed := (s.fastCommit c (fun _ => false)).st
    let later := St.run c committed ops
    let reopened : St σ β := St.fresh later.base later.alloc
    reopened.view c id = s.view c id := by
  intro committed later reopened
  have herr : (commitWith c .det (fun _ => false) [] [] s).err = none :=
    commit_succeeds_if_no_fault_reached c .det (fun _ => false) [] [] s hne (fun _ _ => rfl)
  exact crash_recovers_last_successful_commit c hc s h .det (fun _ => false) [] [] ops hw id hown herr

/-! ### Non-vacuity

On `Example.exSt` (pending store `1.1 ↦ 5`, pending deletion `1.2`, pending temporary slab `0.1`,
cached `1.3`, committed `1.2 ↦ 3`, `1.3 ↦ 7`, `1.4 ↦ 9`) with the second base call faulted, the
failed `FastCommit` leaves a real mix in the ledger: register `1.1` is new, register `1.2` is still
the old one although its deletion is pending. -/
section NonVacuity
open Atree.Example

example : RoundTrip natCodec ∧ Inv natCodec exSt ∧ NoEncodeFailure natCodec exSt ∧
    (AList.keys exSt.deltas).Nodup :=
  ⟨roundTrip, inv, noEncodeFailure exSt, inv.deltasNodup⟩

/-- Two owned pending identifiers; the fault-free commit issues exactly two calls. -/
example : (sortedOwnedDeltaKeys exSt).length = 2 ∧
    (commitWith natCodec .det (fun _ => false) [] [] exSt).n = 2 ∧
    (commitWith natCodec .nondet (faultPlan [2, 5]) [] [] exSt).n = 2 := by decide

example := commit_call_count natCodec .nondet (faultPlan [1]) [] [] exSt inv.deltasNodup

/-- `commit_succeeds_if_no_fault_reached`: a plan whose faults lie beyond the calls issued. -/
example : (commitWith natCodec .det (faultPlan [2, 5]) [] [] exSt).err = none :=
  commit_succeeds_if_no_fault_reached natCodec .det (faultPlan [2, 5]) [] [] exSt
    (noEncodeFailure exSt) (by decide)

/-- `commit_succeeds_if_faults_beyond_pending`: the premise holds for the plan `[2, 5]`. -/
theorem faults_beyond : ∀ n, faultPlan [2, 5] n = true → (sortedOwnedDeltaKeys exSt).length ≤ n := by
  intro n hn
  have h2 : (sortedOwnedDeltaKeys exSt).length = 2 := by decide
  rw [h2]
  simp only [faultPlan, List.contains_eq_mem, List.mem_cons, List.not_mem_nil, or_false,
    decide_eq_true_eq] at hn
  omega

example : (commitWith natCodec .nondet (faultPlan [2, 5]) [] [] exSt).err = none ∧
    (commitWith natCodec .nondet (faultPlan [2, 5]) [] [] exSt).n = (sortedOwnedDeltaKeys exSt).length :=
  commit_succeeds_if_faults_beyond_pending natCodec .nondet (faultPlan [2, 5]) [] [] exSt
    inv.deltasNodup (noEncodeFailure exSt) faults_beyond

/-- `commit_fails_if_fault_reached`: first fault at position 1 < 2. -/
example : (commitWith natCodec .det (faultPlan [1]) [] [] exSt).err = some .external ∧
    (commitWith natCodec .det (faultPlan [1]) [] [] exSt).n = 1 + 1 :=
  commit_fails_if_fault_reached natCodec .det (faultPlan [1]) [] [] exSt inv.deltasNodup
    (noEncodeFailure exSt) 1 (by decide) (by decide) (by decide)
example : (commitWith natCodec .det (faultPlan [1]) [] [] exSt).n = 2 := by decide

/-- THE REAL MIX after the failed commit: `1.1` new (`some 5`, it was absent), `1.2` still old
    (`some 3`) although its target is `none` and its deletion is still pending. -/
example :
    let s' := (commitWith natCodec .det (faultPlan [1]) [] [] exSt).st
    (commitWith natCodec .det (faultPlan [1]) [] [] exSt).err = some .external ∧
    AList.find? exSt.base ⟨1, 1⟩ = none ∧ target natCodec exSt ⟨1, 1⟩ = some 5 ∧
    AList.find? s'.base ⟨1, 1⟩ = some 5 ∧ AList.find? s'.deltas ⟨1, 1⟩ = none ∧
    AList.find? exSt.base ⟨1, 2⟩ = some 3 ∧ target natCodec exSt ⟨1, 2⟩ = none ∧
    AList.find? s'.base ⟨1, 2⟩ = some 3 ∧ AList.find? s'.deltas ⟨1, 2⟩ = some none := by decide

example := failed_commit_registers_old_or_new natCodec .det (faultPlan [1]) [] [] exSt inv.deltasNodup

/-- Two attempts that really fail (as in C14): the mix persists. -/
def failingAttempts : List Attempt := [(.det, [1], [], []), (.nondet, [0], [], [])]

example :
    let s' := runAttempts natCodec failingAttempts exSt
    AList.find? s'.base ⟨1, 1⟩ = some 5 ∧ AList.find? s'.base ⟨1, 2⟩ = some 3 ∧
    AList.find? s'.deltas ⟨1, 2⟩ = some none := by decide

example := failed_commits_registers_old_or_new natCodec failingAttempts exSt inv.deltasNodup

/-- Crash after the failed attempts: `1.1` shows the slab visible at commit time (`some 5`; the
    old committed one was `none`), `1.2` shows the OLD committed slab (`some 3`; the view at commit
    time was `none`): both disjuncts of `crash_after_failed_commit` occur.  The temporary `0.1` is
    gone. -/
example :
    let s' := runAttempts natCodec failingAttempts exSt
    let reopened : St Nat Nat := St.fresh s'.base s'.alloc
    reopened.view natCodec ⟨1, 1⟩ = some 5 ∧ exSt.view natCodec ⟨1, 1⟩ = some 5 ∧
    exSt.committed natCodec ⟨1, 1⟩ = none ∧
    reopened.view natCodec ⟨1, 2⟩ = some 3 ∧ exSt.view natCodec ⟨1, 2⟩ = none ∧
    exSt.committed natCodec ⟨1, 2⟩ = some 3 ∧
    reopened.view natCodec ⟨1, 4⟩ = some 9 ∧
    exSt.view natCodec ⟨0, 1⟩ = some 8 ∧ reopened.view natCodec ⟨0, 1⟩ = none := by decide +kernel

example := crash_after_failed_commit natCodec roundTrip failingAttempts exSt inv
example := crash_after_failed_commit_exact natCodec roundTrip failingAttempts exSt inv

/-- Retry until success, then reopen: the instance and the same facts by evaluation. -/
example := retry_until_success_then_reopen natCodec roundTrip exSt inv (noEncodeFailure exSt)
  failingAttempts .nondet [] []
example :
    let s' := runAttempts natCodec failingAttempts exSt
    let final := commitWith natCodec .nondet (fun _ => false) [] [] s'
    let reopened : St Nat Nat := St.fresh final.st.base final.st.alloc
    final.err = none ∧ reopened.view natCodec ⟨1, 1⟩ = some 5 ∧ reopened.view natCodec ⟨1, 2⟩ = none ∧
    reopened.view natCodec ⟨1, 3⟩ = some 7 ∧ reopened.view natCodec ⟨1, 4⟩ = some 9 ∧
    AList.find? final.st.base ⟨1, 2⟩ = none := by decide +kernel

/-- `any_successful_attempt_then_reopen` with a final attempt whose plan has (unreached) faults. -/
example : (commitWith natCodec .det (faultPlan [1, 7]) [] [] (runAttempts natCodec failingAttempts exSt)).err = none := by
  decide
example := any_successful_attempt_then_reopen natCodec roundTrip exSt inv failingAttempts .det
  (faultPlan [1, 7]) [] []

/-- A history after the commit of `exSt` with stores, removes AND commit attempts: `1.1 ↦ 6`,
    delete `1.4`, create `1.9`, a `FastCommit` that writes `1.1` and then fails on `1.4`,
    `1.1 ↦ 7`, a nondeterministic commit that fails at once, a read, an identifier. -/
def crashOps : List (Op Nat) :=
  [.store ⟨1, 1⟩ 6, .remove ⟨1, 4⟩, .store ⟨1, 9⟩ 1, .commit .det [1] [] [], .store ⟨1, 1⟩ 7,
   .commit .nondet [0] [] [], .retrieve ⟨1, 3⟩, .genID 1]

/-- After the crash `1.1` shows `some 6`: neither the slab of the successful commit (`some 5`) nor
    the latest one (`some 7`) but the one current at the first later attempt; `1.4` and `1.9` show
    the state of the successful commit. -/
example :
    let committed := (exSt.fastCommit natCodec (fun _ => false)).st
    let later := St.run natCodec committed crashOps
    let reopened : St Nat Nat := St.fresh later.base later.alloc
    (commitPoints natCodec committed crashOps).length = 2 ∧
    later.view natCodec ⟨1, 1⟩ = some 7 ∧ reopened.view natCodec ⟨1, 1⟩ = some 6 ∧
    exSt.view natCodec ⟨1, 1⟩ = some 5 ∧
    later.view natCodec ⟨1, 4⟩ = none ∧ reopened.view natCodec ⟨1, 4⟩ = some 9 ∧
    later.view natCodec ⟨1, 9⟩ = some 1 ∧ reopened.view natCodec ⟨1, 9⟩ = none := by decide +kernel

example := crash_after_commit_shows_commit_or_later_attempt natCodec roundTrip exSt inv
  (noEncodeFailure exSt) crashOps ⟨1, 1⟩ rfl
example := crash_shows_committed_or_attempted_view natCodec roundTrip exSt inv crashOps ⟨1, 1⟩

/-- A history without stores/removes of owned identifiers but with commit attempts (one failing
    plan, one fault-free), a temporary store, drops and a re-creation. -/
def recommitOps : List (Op Nat) :=
  [.commit .det [0] [] [], .retrieve ⟨1, 3⟩, .store ⟨0, 2⟩ 4, .preload [⟨1, 4⟩], .dropCache,
   .commit .nondet [] [] [], .dropDeltas, .recreate, .genID 1, .commit .nondet [0, 1] [] []]

example : ∀ op ∈ recommitOps, Op.writesOwned op = false := by decide
example : ∃ op ∈ recommitOps, Op.isCommit op = true := by decide

example := crash_recovers_last_commit_despite_attempts natCodec roundTrip exSt inv
  (noEncodeFailure exSt) recommitOps (by decide) ⟨1, 1⟩ rfl
example :
    let committed := (exSt.fastCommit natCodec (fun _ => false)).st
    let later := St.run natCodec committed recommitOps
    let reopened : St Nat Nat := St.fresh later.base later.alloc
    reopened.view natCodec ⟨1, 1⟩ = some 5 ∧ reopened.view natCodec ⟨1, 2⟩ = none ∧
    reopened.view natCodec ⟨1, 4⟩ = some 9 := by decide +kernel

/-- `crash_recovers_last_successful_commit` where the successful commit is the LAST of a retry
    sequence and has unreached faults in its plan. -/
example := crash_recovers_last_successful_commit natCodec roundTrip
  (runAttempts natCodec failingAttempts exSt)
  (attempts_adv natCodec roundTrip failingAttempts exSt inv).1
  .det (faultPlan [1, 7]) [] [] recommitOps (by decide) ⟨1, 1⟩ rfl (by decide)

/-- The restriction "no owned store/remove since" is necessary: see `crashOps` above, where `1.1`
    reopens as `some 6 ≠ some 5`. -/
example : ∃ op ∈ crashOps, Op.writesOwned op = true := by decide

end NonVacuity

end Atree.C14

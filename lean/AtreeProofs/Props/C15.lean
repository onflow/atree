import AtreeModel.StorageOps
import AtreeProofs.Storage.Step
import AtreeProofs.StorageExample
/-
  C15 — Slab storage is a write-back overlay: read-your-writes, last-commit recovery.

  Statements only change together with obligations.json; helper lemmas live in
  AtreeProofs/Storage/Basic.lean, Commit.lean and Step.lean.  Everything is for an arbitrary slab type `σ`, register type `β`,
  codec `c` and ANY finite sequence of operations (no bound on identifiers, versions or length).
-/
namespace Atree.C15
open Atree St

variable {σ β : Type} (c : Codec σ β)

/-- Every reachable state satisfies the storage invariant (cache coherent with the ledger, unique
    keys, nothing owned by the temporary address in the ledger, every register decodes). -/
theorem inv_reachable (hc : RoundTrip c) (ops : List (Op σ)) :
    Inv c (St.run c (St.init : St σ β) ops) := by
  exact inv_run c hc ops _ (inv_init c)

/-- The invariant is preserved by every single operation (incl. faulty commits and re-creation). -/
theorem inv_step (hc : RoundTrip c) (s : St σ β) (op : Op σ) (h : Inv c s) :
    Inv c (St.step c s op).1 := by
  exact step_inv c hc s op h

/-- Read-your-writes: `Retrieve` returns exactly the overlay view, and never changes it. -/
theorem retrieve_eq_view (s : St σ β) (h : Inv c s) (id : SlabID) :
    ∃ s', s.retrieve c id = .ok (s.view c id, s') ∧ s'.view c = s.view c ∧ Inv c s' := by
  obtain ⟨s', h1, h2, h3, _⟩ := retrieve_spec c s h id
  exact ⟨s', h1, h3, h2⟩

theorem _root_.Atree.Overlay.eq_of_pend_comm {o o' : Overlay σ} (h1 : o'.pend = o.pend) (h2 : o'.comm = o.comm) : o' = o := by
  cases o; cases o'; simp_all

theorem abs_eq_of (s s' : St σ β) (hd : s'.deltas = s.deltas) (hb : s'.base = s.base) :
    s'.abs c = s.abs c :=
  Overlay.eq_of_pend_comm (abs_pend_of_deltas c s s' hd) (abs_comm_of_base c s s' hb)

/-- a commit that has advanced `s` to `s'` and left no owned identifier pending is the
    specification's commit -/
theorem abs_commitAll {s s' : St σ β} (h : Inv c s) (h' : Inv c s') (hadv : Adv c s s')
    (hall : ∀ id, id.isTemp = false → AList.find? s'.deltas id = none) :
    s'.abs c = (s.abs c).commitAll := by
  apply Overlay.eq_of_pend_comm
  · funext id
    simp only [St.abs, Overlay.commitAll]
    cases ht : id.isTemp with
    | true => simpa using hadv.temp id ht
    | false => simpa using hall id ht
  · funext id
    have hv := abs_view c s h id
    simp only [St.abs, Overlay.commitAll] at hv ⊢
    cases ht : id.isTemp with
    | true => simp [St.committed, h'.noTempBase id ht, h.noTempBase id ht]
    | false =>
      simp only [Bool.false_eq_true, if_false]
      rw [hv]
      exact hadv.committed_eq_view h' hall id ht

/-- Main refinement: every operation acts on the abstraction `abs` exactly as the overlay
    specification says, and returns what the specification returns. -/
theorem step_refines (hc : RoundTrip c) (s : St σ β) (h : Inv c s) (op : Op σ) :
    let (s', obs) := St.step c s op
    let o := s.abs c
    let o' := s'.abs c
    match op with
    | .store id v =>
        if id = SlabID.undef then obs = .err .slabIDUndefined ∧ s' = s
        else obs = .unit ∧ o'.pend = (o.store id v).pend ∧ o'.comm = o.comm
    | .remove id =>
        if id = SlabID.undef then obs = .err .slabIDUndefined ∧ s' = s
        else obs = .unit ∧ o'.pend = (o.remove id).pend ∧ o'.comm = o.comm
    | .retrieve id => obs = .slab (o.view id) ∧ o'.pend = o.pend ∧ o'.comm = o.comm
    | .retrieveIfLoaded id =>
        s' = s ∧ obs = .slab (if AList.contains s.deltas id || AList.contains s.cache id then o.view id else none)
    | .retrieveIgnoringDeltas id _ =>
        obs = .slab (match AList.find? s.cache id with | some v => v | none => o.comm id) ∧
        o'.pend = o.pend ∧ o'.comm = o.comm
    | .commit _ faults _ _ =>
        -- any commit, with any faults: the overlay VIEW never changes
        (∀ id, o'.view id = o.view id) ∧
        -- a fault-free commit of encodable slabs is the specification's commit
        (faults = [] → NoEncodeFailure c s →
           obs = .unit ∧ (∀ id, o'.pend id = (o.commitAll).pend id) ∧ (∀ id, o'.comm id = (o.commitAll).comm id))
    | .dropDeltas => obs = .unit ∧ (∀ id, o'.pend id = none) ∧ o'.comm = o.comm
    | .dropCache => obs = .unit ∧ o'.pend = o.pend ∧ o'.comm = o.comm
    | .preload _ => o'.pend = o.pend ∧ o'.comm = o.comm ∧ (∀ id, o'.view id = o.view id)
    | .recreate => obs = .unit ∧ (∀ id, o'.pend id = none) ∧ o'.comm = o.comm
    | .genID a => o'.pend = o.pend ∧ o'.comm = o.comm ∧ (∃ i, obs = .id i ∧ i.addr = a ∧ i ≠ SlabID.undef)
    := by
  cases op with
  | store id v =>
    rw [St.step_store]
    by_cases hid : id = SlabID.undef
    · rw [if_pos hid]; exact (if_pos hid).mpr ⟨rfl, rfl⟩
    · rw [if_neg hid]
      exact (if_neg hid).mpr ⟨rfl, congrArg Overlay.pend (St.abs_insertDelta c s id (some v)), rfl⟩
  | remove id =>
    rw [St.step_remove]
    by_cases hid : id = SlabID.undef
    · rw [if_pos hid]; exact (if_pos hid).mpr ⟨rfl, rfl⟩
    · rw [if_neg hid]
      exact (if_neg hid).mpr ⟨rfl, congrArg Overlay.pend (St.abs_insertDelta c s id none), rfl⟩
  | retrieve id =>
    obtain ⟨s', h1, _, _, h4, h5⟩ := retrieve_spec c s h id
    simp only [St.step, h1]
    exact ⟨by rw [abs_view c s h id], abs_pend_of_deltas c s s' h4, abs_comm_of_base c s s' h5⟩
  | retrieveIfLoaded id =>
    simp only [St.step, true_and]
    rw [retrieveIfLoaded_eq c, abs_view c s h id]
  | retrieveIgnoringDeltas id ch =>
    obtain ⟨s', h1, _, _, h4, h5⟩ := retrieveIgnoringDeltas_spec c s h id ch
    simp only [St.step, h1]
    exact ⟨rfl, abs_pend_of_deltas c s s' h4, abs_comm_of_base c s s' h5⟩
  | commit kind faults mo dlo =>
    rw [step_commit]
    dsimp only
    obtain ⟨h1, h2, _⟩ := commitW_spec c hc kind (faultPlan faults) mo dlo s h
    refine ⟨?_, ?_⟩
    · intro id
      rw [abs_view c _ h1 id, abs_view c s h id, h2.view id]
    · intro hf hne
      subst hf
      obtain ⟨g1, g2, _⟩ := commitW_complete c hc kind (faultPlan []) faultPlan_nil mo dlo s h hne
      have := abs_commitAll c h h1 h2 g2
      exact ⟨by rw [g1], fun id => by rw [this], fun id => by rw [this]⟩
  | dropDeltas =>
    exact ⟨rfl, fun _ => rfl, rfl⟩
  | dropCache => exact ⟨rfl, rfl, rfl⟩
  | preload ids =>
    have hco := batchPreload_cacheOnly c s ids
    have hfst := step_preload_fst c s ids
    generalize St.step c s (Op.preload ids) = p at hfst ⊢
    obtain ⟨s', obs⟩ := p
    dsimp only at hfst ⊢
    subst hfst
    have hp := abs_pend_of_deltas c s _ hco.deltas
    have hcm := abs_comm_of_base c s _ hco.base
    refine ⟨hp, hcm, fun id => ?_⟩
    simp only [Overlay.view, hp, hcm]
  | recreate => exact ⟨rfl, fun _ => rfl, rfl⟩
  | genID a =>
    by_cases ha : a = 0
    · simp only [St.step, St.generateSlabID, ha, if_true]
      refine ⟨rfl, rfl, _, rfl, rfl, ?_⟩
      simp [SlabID.undef]
    · simp only [St.step, St.generateSlabID, ha, if_false]
      refine ⟨rfl, rfl, _, rfl, rfl, ?_⟩
      simp [SlabID.undef, ha]

/-- Dropping the write set and the cache reverts the view to the last commit. -/
theorem dropAll_reverts (s : St σ β) :
    (s.dropDeltas.dropCache).view c = s.committed c := by
  funext id
  simp [St.view, St.committed, St.dropDeltas, St.dropCache]

/-- Commit makes the ledger equal to the view for all owned identifiers, empties the owned write
    set, keeps temporary identifiers pending and never writes them to the ledger. -/
theorem commit_makes_base_eq_view (hc : RoundTrip c) (s : St σ β) (h : Inv c s)
    (hne : NoEncodeFailure c s) :
    let r := s.fastCommit c (fun _ => false)
    r.err = none ∧
    (∀ id, id.isTemp = false → r.st.committed c id = s.view c id) ∧
    (∀ id, id.isTemp = false → AList.find? r.st.deltas id = none) ∧
    (∀ id, id.isTemp = true → AList.find? r.st.deltas id = AList.find? s.deltas id) ∧
    (∀ id, id.isTemp = true → AList.find? r.st.base id = none) := by
  intro r
  have hr : r = commitW c .det (fun _ => false) [] [] s := rfl
  obtain ⟨h1, h2, _⟩ := commitW_spec c hc .det (fun _ => false) [] [] s h
  obtain ⟨g1, g2, _⟩ := commitW_complete c hc .det (fun _ => false) (fun _ => rfl) [] [] s h hne
  rw [hr]
  exact ⟨g1, fun id ht => h2.committed_eq_view h1 g2 id ht, g2, fun id ht => h2.temp id ht,
    h1.noTempBase⟩

/-- Auxiliary observations agree with the overlay model. -/
theorem observers_consistent (s : St σ β) (h : Inv c s) :
    s.deltasCount = (AList.keys s.deltas).length ∧ (AList.keys s.deltas).Nodup ∧
    s.deltasWithoutTemp = ((AList.keys s.deltas).filter (fun k => !k.isTemp)).length ∧
    (∀ a, s.hasUnsavedChanges a = true ↔ ∃ id, id.addr = a ∧ (s.abs c).pend id ≠ none) ∧
    (∀ id, s.retrieveIfLoaded id ≠ none → s.retrieveIfLoaded id = s.view c id) := by
  refine ⟨?_, h.deltasNodup, ?_, ?_, ?_⟩
  · simp [St.deltasCount, AList.keys]
  · simp [St.deltasWithoutTemp, AList.keys, List.filter_map, Function.comp_def]
  · intro a
    simp only [St.hasUnsavedChanges, List.any_eq_true, St.abs, AList.find?_ne_none_iff, AList.keys,
      List.mem_map, beq_iff_eq]
    constructor
    · rintro ⟨p, hp, hpa⟩
      exact ⟨p.1, hpa, p, hp, rfl⟩
    · rintro ⟨id, hid, p, hp, rfl⟩
      exact ⟨p, hp, hid⟩
  · intro id hne
    rw [retrieveIfLoaded_eq c] at hne ⊢
    split at hne
    · rw [if_pos ‹_›]
    · exact absurd rfl hne

/-- Pending changes under the temporary address are never written to the ledger, in any history. -/
theorem temp_never_in_ledger (hc : RoundTrip c) (ops : List (Op σ)) (id : SlabID) (ht : id.isTemp = true) :
    AList.find? (St.run c (St.init : St σ β) ops).base id = none := by
  exact (inv_reachable c hc ops).noTempBase id ht

/-! ### Non-vacuity

The hypotheses used above (`RoundTrip`, `Inv`, `NoEncodeFailure`) hold together on the concrete state
`Example.exSt` (AtreeProofs/StorageExample.lean): a pending store (`1.1`), a pending deletion
(`1.2`), a pending temporary slab (`0.1`), a cached entry (`1.3`) and committed entries
(`1.2`, `1.3`, `1.4`).  The theorems are instantiated on it and the instances are checked against
direct evaluation of the model. -/
section NonVacuity
open Atree.Example

example : RoundTrip natCodec ∧ Inv natCodec exSt ∧ NoEncodeFailure natCodec exSt :=
  ⟨roundTrip, inv, noEncodeFailure exSt⟩

/-- `Inv` is not trivially true: a cache entry disagreeing with the ledger violates it. -/
example : ¬ Inv natCodec { exSt with cache := [(⟨1, 3⟩, some 8)] } := by
  intro h
  have := h.coherent ⟨1, 3⟩ (some 8) (by decide)
  revert this
  decide

/-- `NoEncodeFailure` is not trivially true either. -/
example : ¬ NoEncodeFailure ({ natCodec with enc := fun _ => none } : Codec Nat Nat) exSt := by
  intro h
  have := h ⟨1, 1⟩ 5 (by decide)
  revert this
  decide

/-- `retrieve_eq_view` on the pending store and on the pending deletion. -/
example : ∃ s', exSt.retrieve natCodec ⟨1, 1⟩ = .ok (some 5, s') ∧ s'.view natCodec = exSt.view natCodec ∧
    Inv natCodec s' := retrieve_eq_view natCodec exSt inv ⟨1, 1⟩
example : ∃ s', exSt.retrieve natCodec ⟨1, 2⟩ = .ok (none, s') ∧ s'.view natCodec = exSt.view natCodec ∧
    Inv natCodec s' := retrieve_eq_view natCodec exSt inv ⟨1, 2⟩

/-- `commit_makes_base_eq_view` instantiated, and the same facts by evaluation. -/
example : (exSt.fastCommit natCodec (fun _ => false)).err = none :=
  (commit_makes_base_eq_view natCodec roundTrip exSt inv (noEncodeFailure exSt)).1
example :
    let r := exSt.fastCommit natCodec (fun _ => false)
    r.n = 2 ∧ AList.find? r.st.base ⟨1, 1⟩ = some 5 ∧ AList.find? r.st.base ⟨1, 2⟩ = none ∧
    AList.find? r.st.deltas ⟨1, 1⟩ = none ∧ AList.find? r.st.deltas ⟨0, 1⟩ = some (some 8) ∧
    AList.find? r.st.base ⟨0, 1⟩ = none := by decide +kernel

/-- `step_refines` for a commit: both antecedents of the second conjunct are satisfiable (first
    example), and a commit with a fault really fails while keeping the view (second example). -/
example : ([] : List Nat) = [] ∧ NoEncodeFailure natCodec exSt := ⟨rfl, noEncodeFailure exSt⟩
example :
    let r := exSt.fastCommit natCodec (faultPlan [0])
    r.err = some .external ∧ r.st.view natCodec ⟨1, 1⟩ = some 5 ∧
    AList.find? r.st.deltas ⟨1, 1⟩ = some (some 5) := by decide

/-- `temp_never_in_ledger` / `inv_reachable` on a non-trivial history (it builds `exSt`). -/
example : AList.find? (St.run natCodec (St.init : St Nat Nat) exOps).base ⟨0, 1⟩ = none :=
  temp_never_in_ledger natCodec roundTrip exOps ⟨0, 1⟩ rfl
example : AList.find? (St.run natCodec (St.init : St Nat Nat) exOps).deltas ⟨0, 1⟩ = some (some 8) := by
  decide

/-- `observers_consistent`: the hypothesis `retrieveIfLoaded id ≠ none` is satisfiable. -/
example : exSt.retrieveIfLoaded ⟨1, 3⟩ ≠ none ∧ exSt.hasUnsavedChanges 1 = true ∧
    exSt.deltasCount = 3 ∧ exSt.deltasWithoutTemp = 2 := by decide

end NonVacuity

end Atree.C15

import AtreeModel.CommitPool
import AtreeProofs.PoolXLemmas
import AtreeProofs.Storage.Parallel
import AtreeProofs.Props.C16
/-
  C16 — the worker pools of `FastCommit` / `NondeterministicFastCommit` with the main goroutine,
  the `done` channel, the closing of `jobs` / `results` and the deferred closure
  (`wg.Wait(); close(results)`) made explicit (`AtreeModel/CommitPool.lean`, `Atree.PoolX`).

  For EVERY schedule (a list of actors `main | worker w`, a blocked actor's step is a no-op), every
  job list, every encoder function `f`, every error predicate, every fault plan, with the
  parameter values of the Go code (`Real P jobs`: capacity of `results` = number of jobs, the
  deferred closure waits before closing):
    a. no goroutine ever sends on the closed `results` channel        `no_send_on_closed_channel`
    b. the send on `results` never blocks                              `send_never_blocks`
    c. a non-final reachable state has an enabled actor (≥ 1 encoder)  `no_deadlock`
    d. every effective step decreases a measure; round robin finishes  `step_decreases_measure`,
                                                                       `effective_steps_bounded`,
                                                                       `terminates`
    e. no result is lost, duplicated or invented                       `results_sound`,
                                                                       `results_complete`
    f. an encoding error of any job makes main report it               `encode_error_reported`,
                                                                       `fastCommitPoolX_eq_fastCommit`
  The last section shows that two mutations of the Go code falsify a. resp. c.:
    mA  delete `wg.Wait()` in the deferred closure  (`waitBeforeClose := false`)  → panic,
    mB  capacity of `results` := `numWorkers`       (`cap := workers`)            → deadlock,
  and that a pool with 0 encoders is stuck (the Go code hangs for `numWorkers = 0`: main blocks
  forever on `<-results`; for `numWorkers < 0` `wg.Add` panics).

  What is NOT covered: the Go memory model (data races), the fairness of the real scheduler, the
  capacity of the `jobs` channel (a send on it is modelled as never blocking; the capacity equals
  the number of sends), the atomicity of a single channel operation.
-/
namespace Atree.C16
open Atree PoolX
open Atree.St (sortedOwnedDeltaKeys encodeJob anyEncodeFails fastParamsX nondetParamsX faultPlan fastCommit
  commitKeys fastCommitPoolX fastCommitObserveX)

variable {ι ρ : Type}

/-- a. Whatever the schedule, no goroutine ever executes a send on the closed `results` channel
    (the process never panics): when `results` is closed every encoder has already returned. -/
theorem no_send_on_closed_channel (P : Params ι ρ) (jobs : List ι) (hR : Real P jobs) (n : Nat)
    (sched : List Actor) :
    let s := run P (init P jobs n) sched
    s.panicked = false ∧ (s.resultsClosed = true → allExited s.workers = true) := by
  intro s
  have h : Reach P jobs n s := reach_run hR sched _ (reach_init P jobs n)
  refine ⟨h.ctl.np, fun hc => ?_⟩
  rw [allExited_iff]
  exact h.ctl.lateExited (Or.inr (h.ctl.closedRet hc))

/-- b. Whatever the schedule, at every moment the number of buffered results plus the number of
    jobs held by encoders is at most the capacity of `results`; hence an encoder that is about to
    send always finds room: its step appends its result to `results` and it goes back to the head
    of its loop (the blocking branch of the send is never taken). -/
theorem send_never_blocks (P : Params ι ρ) (jobs : List ι) (hR : Real P jobs) (n : Nat)
    (sched : List Actor) :
    let s := run P (init P jobs n) sched
    s.results.length + (held s.workers).length ≤ P.cap ∧
    ∀ w j, s.workers[w]? = some (.sending j) →
      (step P s (.worker w)).results = s.results ++ [(j, P.f j)] ∧
      (step P s (.worker w)).workers = s.workers.set w .idle := by
  intro s
  have h : Reach P jobs n s := reach_run hR sched _ (reach_init P jobs n)
  refine ⟨results_held_le_cap hR h.data, fun w j hw => ?_⟩
  have hnp := h.ctl.np
  have hroom := sending_has_room hR h.data w j hw
  have hrc : s.resultsClosed = false := by
    cases hc : s.resultsClosed with
    | false => rfl
    | true =>
      have := h.ctl.lateExited (Or.inr (h.ctl.closedRet hc)) _ (List.mem_of_getElem? hw)
      cases this
  simp [step, encoderStep, hnp, hw, hrc, hroom]

/-- c. Whatever the schedule, with at least one encoder: in a reachable state that is not final
    (main returned and all encoders returned) some actor is enabled - its step changes the state
    (and decreases the termination measure).  No deadlock. -/
theorem no_deadlock (P : Params ι ρ) (jobs : List ι) (hR : Real P jobs) (n : Nat) (hn : 1 ≤ n)
    (sched : List Actor) :
    let s := run P (init P jobs n) sched
    final s = false →
    ∃ a ∈ actors n, step P s a ≠ s ∧ PoolX.measure P (step P s a) < PoolX.measure P s := by
  intro s hnf
  have h : Reach P jobs n s := reach_run hR sched _ (reach_init P jobs n)
  obtain ⟨a, ha, hen⟩ := progress hR h.data h.ctl (by rw [h.nworkers]; exact hn) hnf
  rw [h.nworkers] at ha
  exact ⟨a, ha, (step_ne_iff_enabled P s a).mpr hen, measure_of_enabled P s a hen⟩

/-- d1. In ANY state, for ANY parameter values: a scheduler step either leaves the state unchanged
    (the actor is blocked, has returned, does not exist, or the process has panicked) or strictly
    decreases the natural-number measure. -/
theorem step_decreases_measure (P : Params ι ρ) (s : XState ι ρ) (a : Actor) :
    step P s a = s ∨ PoolX.measure P (step P s a) < PoolX.measure P s := by
  rcases step_cases P s a with h | h
  · exact Or.inl h.2
  · exact Or.inr h.2

/-- d2. Every schedule performs at most `measure` state-changing steps. -/
theorem effective_steps_bounded (P : Params ι ρ) (s : XState ι ρ) (sched : List Actor) :
    effective P s sched ≤ PoolX.measure P s := by
  have := effective_le P sched s
  omega

/-- the measure of the initial states -/
theorem measure_initFast (P : Params ι ρ) (jobs : List ι) (n : Nat) :
    PoolX.measure P (initFast jobs n) = 4 * jobs.length + n + 5 := by
  simp [PoolX.measure, initFast, rank, pw, wt, List.map_replicate, List.sum_replicate_nat]

theorem measure_initNondet (P : Params ι ρ) (jobs : List ι) (n : Nat) :
    PoolX.measure P (initNondet jobs n) = 5 * jobs.length + n + P.dels + 7 := by
  simp [PoolX.measure, initNondet, rank, pw, wt, List.map_replicate, List.sum_replicate_nat]
  omega

/-- d3. With at least one encoder, the round-robin schedule over main and the encoders reaches the
    final state: main has returned, all encoders have returned (and, by a., nothing panicked).
    Together with c. and d1.: under every fair scheduler the commit functions return and leave no
    goroutine behind. -/
theorem terminates (P : Params ι ρ) (jobs : List ι) (hR : Real P jobs) (n : Nat) (hn : 1 ≤ n) :
    final (run P (init P jobs n) (roundRobin n (PoolX.measure P (init P jobs n)))) = true :=
  roundRobin_final hR hn

/-- the final state is stable: nothing moves any more -/
theorem final_stable (P : Params ι ρ) (s : XState ι ρ) (h : final s = true) (sched : List Actor) :
    run P s sched = s :=
  final_run P sched s h

/-- e1. Whatever the schedule AND whatever the parameter values (also for the mutants): at every
    moment the results received by main, those buffered in `results`, the jobs held by encoders,
    queued in `jobs`, not yet sent and dropped (by an encoder that saw `done` closed) together are
    exactly the jobs - nothing lost, nothing duplicated -, and every result is `(j, f j)`. -/
theorem results_sound (P : Params ι ρ) (jobs : List ι) (n : Nat) (sched : List Actor) :
    let s := run P (init P jobs n) sched
    (∀ r ∈ s.received ++ s.results, r.2 = P.f r.1) ∧
    ((s.received ++ s.results).map Prod.fst ++
        (held s.workers ++ (s.queue ++ (s.unsent ++ s.dropped)))).Perm jobs ∧
    ∃ rest, (s.received.map Prod.fst ++ rest).Perm jobs := by
  intro s
  have h : DataInv P jobs s := data_run P jobs sched _ (data_init P jobs n)
  exact ⟨h.vals, h.perm, received_extends h⟩

/-- e2. Whatever the schedule: when main has left the receive loop without an early exit, what it
    received is a permutation of `jobs` paired with `f job` (the statement of `pool_results_perm`,
    for the channel `results` as seen by main), nothing is left in any channel or encoder, and
    the order of the received jobs is a permutation of the jobs - i.e. a legal value of the
    parameter `modOrder` of `St.nondetCommit`. -/
theorem results_complete (P : Params ι ρ) (jobs : List ι) (hR : Real P jobs) (n : Nat)
    (sched : List Actor) :
    let s := run P (init P jobs n) sched
    mainDone s = true → s.stop = none →
    s.received.Perm (jobs.map (fun j => (j, P.f j))) ∧ (s.received.map Prod.fst).Perm jobs ∧
    s.results = [] ∧ held s.workers = [] ∧ s.queue = [] ∧ s.unsent = [] ∧ s.dropped = [] := by
  intro s hdone hstop
  have h : Reach P jobs n s := reach_run hR sched _ (reach_init P jobs n)
  obtain ⟨h1, h2⟩ := received_perm h hdone hstop
  exact ⟨h2, h1, all_received h hdone hstop⟩

/-- f1. Whatever the schedule: if the result of some job is an error and main has left the receive
    loop, then main made an early exit (`close(done)`): on the encoding error, or - only in
    `NondeterministicFastCommit` - on an earlier failure (nil data, failing `Store` / `Remove`).
    In `FastCommit` the early exit is on the encoding error.  Conversely main reports an encoding
    error only if it received the erroneous result of some job. -/
theorem encode_error_reported (P : Params ι ρ) (jobs : List ι) (hR : Real P jobs) (n : Nat)
    (sched : List Actor) :
    let s := run P (init P jobs n) sched
    (mainDone s = true → (∃ j ∈ jobs, P.isErr (P.f j) = true) →
      s.stop ≠ none ∧ s.doneClosed = true ∧ (P.nondet = false → s.stop = some .encodeErr)) ∧
    (s.stop = some .encodeErr → ∃ j ∈ jobs, (j, P.f j) ∈ s.received ∧ P.isErr (P.f j) = true) := by
  intro s
  have h : Reach P jobs n s := reach_run hR sched _ (reach_init P jobs n)
  refine ⟨fun hdone ⟨j, hj, he⟩ => ?_, error_of_stop h⟩
  have hne := stop_of_error h hdone j hj he
  refine ⟨hne, ?_, fun hn => ?_⟩
  · rw [h.ctl.doneStop]
    cases hs : s.stop with
    | none => exact absurd hs hne
    | some _ => rfl
  · rcases h.ctl.fastStop hn with h0 | h0
    · exact absurd h0 hne
    · exact h0

variable {σ β : Type} (c : Codec σ β)

theorem real_fastParamsX (s : St σ β) :
    Real (fastParamsX c s (sortedOwnedDeltaKeys s).length) (sortedOwnedDeltaKeys s) := ⟨rfl, rfl⟩

theorem real_nondetParamsX (fault : Nat → Bool) (s : St σ β) (mo : List SlabID) (d : Nat) :
    Real (nondetParamsX c fault s mo.length d) mo := ⟨rfl, rfl⟩

/-- f2. `FastCommit` with pool, main goroutine and deferred closure explicit IS the sequential
    `St.fastCommit` (state, error, call log), for every worker count and EVERY schedule under
    which the final state is reached - including the schedules where main exits early on an
    encoding error while encoders are still busy.  (`1 ≤ workers` is what makes final states
    reachable, see `terminates`; it is not needed for the equality.) -/
theorem fastCommitPoolX_eq_fastCommit (s : St σ β) (h : Inv c s) (fault : Nat → Bool)
    (workers : Nat) (sched : List Actor)
    (hfin : (s.fastCommitObserveX c workers sched).final = true) :
    s.fastCommitPoolX c fault workers sched = s.fastCommit c fault := by
  unfold fastCommitPoolX
  dsimp only
  split
  · rename_i hk
    have hk' : sortedOwnedDeltaKeys s = [] := by simpa using hk
    unfold fastCommit commitKeys anyEncodeFails
    rw [hk']
    rfl
  · have hinit : initFast (sortedOwnedDeltaKeys s) (min workers (sortedOwnedDeltaKeys s).length) =
        init (fastParamsX c s (sortedOwnedDeltaKeys s).length) (sortedOwnedDeltaKeys s)
          (min workers (sortedOwnedDeltaKeys s).length) := rfl
    have hreach := reach_run (real_fastParamsX c s) sched _
      (reach_init (fastParamsX c s (sortedOwnedDeltaKeys s).length) (sortedOwnedDeltaKeys s)
        (min workers (sortedOwnedDeltaKeys s).length))
    rw [← hinit] at hreach
    have hdone := mainDone_of_final _ hfin
    unfold fastCommitObserveX observe at hfin ⊢
    dsimp only at hfin hdone ⊢
    split
    · rename_i r hs
      rcases hreach.ctl.fastStop rfl with h0 | h0
      · rw [h0] at hs; cases hs
      · obtain ⟨j, hj, _, he⟩ := error_of_stop hreach h0
        have hany : anyEncodeFails c s (sortedOwnedDeltaKeys s) = true := by
          rw [anyEncodeFails_iff]
          refine ⟨j, hj, ?_⟩
          have he' : (encodeJob c s j).isNone = true := he
          cases hx : encodeJob c s j with
          | none => rfl
          | some _ => rw [hx] at he'; cases he'
        unfold fastCommit
        dsimp only
        rw [hany]
        rfl
    · rename_i hs
      obtain ⟨_, hp⟩ := received_perm hreach hdone hs
      exact fastCommitPool_eq_of_results c fault s h.deltasNodup _ hp

/-- f3. Consequence for `FastCommit`: if some owned modified slab fails to encode, then under every
    schedule that reaches the final state the function reports the encoding error and has issued
    no base-storage call (the first branch of `St.fastCommit`). -/
theorem fastCommitPoolX_encode_error_first (s : St σ β) (h : Inv c s) (fault : Nat → Bool)
    (workers : Nat) (sched : List Actor)
    (hfin : (s.fastCommitObserveX c workers sched).final = true)
    (hany : anyEncodeFails c s (sortedOwnedDeltaKeys s) = true) :
    let r := s.fastCommitPoolX c fault workers sched
    r.err = some .encoding ∧ r.log = [] ∧ r.st = s := by
  intro r
  have : r = s.fastCommit c fault := fastCommitPoolX_eq_fastCommit c s h fault workers sched hfin
  rw [this]
  unfold fastCommit
  dsimp only
  rw [hany]
  exact ⟨rfl, rfl, rfl⟩

/-- e3. `NondeterministicFastCommit`: whatever the schedule, the jobs received by main so far extend
    to an enumeration of the modified owned keys, and when main ran its receive loop to the end
    the received order IS a permutation of them: a legal value of the parameter `modOrder` of
    `St.nondetCommit` (which consumes the results "in arrival order"). -/
theorem nondet_arrival_is_modOrder (fault : Nat → Bool) (s : St σ β) (modOrder delOrder : List SlabID)
    (workers : Nat) (sched : List Actor) :
    let o := s.nondetCommitPoolX c fault modOrder delOrder workers sched
    (∃ rest, (o.received.map Prod.fst ++ rest).Perm modOrder) ∧
    (∀ r ∈ o.received, r.2 = encodeJob c s r.1) ∧
    (o.final = true → o.stop = none → (o.received.map Prod.fst).Perm modOrder) ∧
    o.panicked = false := by
  intro o
  have hinit : initNondet modOrder (min workers modOrder.length) =
      init (nondetParamsX c fault s modOrder.length delOrder.length) modOrder
        (min workers modOrder.length) := rfl
  have hreach := reach_run (real_nondetParamsX c fault s modOrder delOrder.length) sched _
    (reach_init (nondetParamsX c fault s modOrder.length delOrder.length) modOrder
      (min workers modOrder.length))
  rw [← hinit] at hreach
  refine ⟨received_extends hreach.data, fun r hr => hreach.data.vals r (List.mem_append_left _ hr),
    fun hfin hstop => ?_, hreach.ctl.np⟩
  exact (received_perm hreach (mainDone_of_final _ hfin) hstop).1

/-- d3'. Round robin for as many rounds as the measure of the initial state `s0` (given by name, so
    that `initFast` / `initNondet` and the closed form of their measure can be put in). -/
theorem terminates_from_named_init (P : Params ι ρ) (jobs : List ι) (hR : Real P jobs) (n : Nat) (hn : 1 ≤ n)
    (s0 : XState ι ρ) (hs0 : init P jobs n = s0) (m : Nat) (hm : PoolX.measure P s0 = m) :
    final (run P s0 (roundRobin n m)) = true ∧ (run P s0 (roundRobin n m)).panicked = false := by
  subst hs0 hm
  exact ⟨terminates P jobs hR n hn, (no_send_on_closed_channel P jobs hR n _).1⟩

/-- d4. `FastCommit(numWorkers)` with `numWorkers ≥ 1` on a storage with at least one owned pending
    identifier: under the round-robin scheduler (over main and the `min numWorkers #keys`
    encoders, `4·#keys + n + 5` rounds) main returns, all encoders return, nothing panics. -/
theorem fastCommit_pool_terminates (s : St σ β) (workers : Nat) (hw : 1 ≤ workers)
    (hk : sortedOwnedDeltaKeys s ≠ []) :
    let keys := sortedOwnedDeltaKeys s
    let n := min workers keys.length
    let o := s.fastCommitObserveX c workers (roundRobin n (4 * keys.length + n + 5))
    o.final = true ∧ o.panicked = false := by
  intro keys n o
  -- unfolded first: left to `exact`, the unifier steps through the run
  simp only [o, St.fastCommitObserveX, observe]
  exact terminates_from_named_init (fastParamsX c s keys.length) keys (real_fastParamsX c s) n
    (Nat.le_min.mpr ⟨hw, List.length_pos_iff.mpr hk⟩) (initFast keys n) rfl _ (measure_initFast _ keys n)

/-- d5. The same for `NondeterministicFastCommit(numWorkers)` with `numWorkers ≥ 1` and at least two
    modified owned slabs (the case in which it starts goroutines), for every fault plan. -/
theorem nondetCommit_pool_terminates (fault : Nat → Bool) (s : St σ β) (modOrder delOrder : List SlabID)
    (workers : Nat) (hw : 1 ≤ workers) (hk : 2 ≤ modOrder.length) :
    let n := min workers modOrder.length
    let o := s.nondetCommitPoolX c fault modOrder delOrder workers
      (roundRobin n (5 * modOrder.length + n + delOrder.length + 7))
    o.final = true ∧ o.panicked = false := by
  intro n o
  simp only [o, St.nondetCommitPoolX, observe]
  exact terminates_from_named_init (nondetParamsX c fault s modOrder.length delOrder.length) modOrder
    (real_nondetParamsX c fault s modOrder delOrder.length) n (Nat.le_min.mpr ⟨hw, by omega⟩)
    (initNondet modOrder n) rfl _ (measure_initNondet _ modOrder n)

/-! ### Non-vacuity and counterexamples

`P3 wait cap`: `FastCommit`-mode pool, jobs `10, 20, 30, 40`, `f = (· + 1)`, the result `21` (job
`20`) is an encoding error.  `sched1`: three encoders take `10, 20, 30` and pass the `done` check;
encoder 1 sends `(20, 21)`; main receives it, closes `done` and enters the deferred closure while
encoders 0 and 2 are still about to send; main is scheduled twice more (blocked in `wg.Wait()`);
then the encoders send, encoder 0 takes job `40`, sees `done` closed and returns, the others find
`jobs` drained and return; main closes `results` and returns. -/
section Teeth

def P3 (wait : Bool) (cap : Nat) : Params Nat Nat :=
  { f := (· + 1), isErr := (· == 21), isNil := fun _ => false, fault := fun _ => false, dels := 0,
    nondet := false, cap := cap, waitBeforeClose := wait }

def sched1 : List Actor :=
  [.worker 0, .worker 0, .worker 1, .worker 1, .worker 2, .worker 2, .worker 1, .main, .main, .main,
   .worker 0, .worker 2, .worker 0, .worker 0, .worker 2, .worker 1, .main, .main]

theorem real_P3 : Real (P3 true 4) [10, 20, 30, 40] := ⟨rfl, rfl⟩

/-- The real parameters: after main's early exit (10 steps) two encoders are still about to send
    and main is blocked in `wg.Wait()`; at the end of `sched1` the state is final, nothing
    panicked, main received only the failing result, job `40` was dropped, two results stay
    buffered. -/
example :
    let s := run (P3 true 4) (initFast [10, 20, 30, 40] 3) (sched1.take 10)
    s.phase = .waiting ∧ s.doneClosed = true ∧ s.workers = [.sending 10, .idle, .sending 30] ∧
    enabled (P3 true 4) s .main = false := by decide
example :
    let s := run (P3 true 4) (initFast [10, 20, 30, 40] 3) sched1
    final s = true ∧ s.panicked = false ∧ s.received = [(20, 21)] ∧ s.stop = some .encodeErr ∧
    s.dropped = [40] ∧ s.results = [(10, 11), (30, 31)] ∧ s.resultsClosed = true := by decide +kernel

/-- TEETH mA: the SAME schedule with `wg.Wait()` deleted from the deferred closure: main closes
    `results` while encoders 0 and 2 are about to send; encoder 0 sends on the closed channel:
    panic.  So `no_send_on_closed_channel` is false for the mutant. -/
example : (run (P3 false 4) (initFast [10, 20, 30, 40] 3) sched1).panicked = true := by decide

def PB (cap : Nat) : Params Nat Nat :=
  { f := (· + 1), isErr := (· == 11), isNil := fun _ => false, fault := fun _ => false, dels := 0,
    nondet := false, cap := cap, waitBeforeClose := true }

def schedB : List Actor :=
  [.worker 0, .worker 0, .worker 1, .worker 1, .worker 0, .worker 1, .worker 0, .worker 0,
   .worker 1, .worker 1, .main, .worker 0, .worker 0]

/-- TEETH mB: capacity of `results` = number of workers (2) < number of jobs (4), job `10` fails.
    Both encoders send (buffer full), take `30` and `40`, pass the `done` check; main receives the
    failing result, closes `done`, and waits in `wg.Wait()`; encoder 0 sends into the freed slot
    and returns; encoder 1 is blocked on the full channel forever; main is blocked in `wg.Wait()`
    forever: a non-final state in which NO actor can move.  So `no_deadlock` (and
    `send_never_blocks`) is false for the mutant. -/
example :
    let s := run (PB 2) (initFast [10, 20, 30, 40] 2) schedB
    final s = false ∧ s.panicked = false ∧ s.phase = .waiting ∧
    s.workers = [.exited, .sending 40] ∧ s.results.length = 2 ∧
    (∀ a ∈ actors 2, step (PB 2) s a = s) ∧ (∀ a ∈ actors 2, enabled (PB 2) s a = false) := by decide +kernel

/-- ... whereas with the real capacity the same schedule leaves encoder 1 able to send. -/
example :
    let s := run (PB 4) (initFast [10, 20, 30, 40] 2) schedB
    final s = false ∧ enabled (PB 4) s (.worker 1) = true := by decide

/-- 0 encoders (`numWorkers = 0`): main blocks in the receive loop forever - every schedule leaves
    the initial state of `FastCommit` unchanged, and it is not final.  (The Go function hangs; with
    other goroutines alive the runtime does not even report a deadlock.) -/
theorem zero_workers_stuck (P : Params ι ρ) (hn : P.nondet = false) (j : ι) (js : List ι)
    (sched : List Actor) :
    run P (init P (j :: js) 0) sched = init P (j :: js) 0 ∧ final (init P (j :: js) 0) = false := by
  have hi : init P (j :: js) 0 = initFast (j :: js) 0 := by simp [init, hn]
  rw [hi]
  refine ⟨?_, by simp [final, initFast]⟩
  induction sched with
  | nil => rfl
  | cons a as ih =>
    show run P (step P (initFast (j :: js) 0) a) as = _
    rw [step_of_not_enabled, ih]
    cases a <;> simp [enabled, initFast]

example : run (P3 true 1) (initFast [10] 0) (roundRobin 0 5) = initFast [10] 0 ∧
    final (initFast [10] 0 : XState Nat Nat) = false := by decide

/-- 0 encoders in `NondeterministicFastCommit`: main sends the jobs, closes `jobs`, performs the
    deletions and then blocks in the receive loop. -/
example :
    let P : Params Nat Nat := { P3 true 2 with nondet := true, dels := 1 }
    let s := run P (initNondet [10, 30] 0) (roundRobin 0 9)
    s.phase = .receiving ∧ s.queue = [10, 30] ∧ final s = false ∧
    (∀ a ∈ actors 0, step P s a = s) := by decide +kernel

end Teeth

section NonVacuity
open Atree.Example

/-- the hypotheses of a.-f. hold on the instance of TEETH; instances of the theorems -/
example := no_send_on_closed_channel (P3 true 4) [10, 20, 30, 40] real_P3 3 sched1
example := send_never_blocks (P3 true 4) [10, 20, 30, 40] real_P3 3 (sched1.take 10)
example := no_deadlock (P3 true 4) [10, 20, 30, 40] real_P3 3 (by decide +kernel) (sched1.take 10) (by decide +kernel)
example := terminates (P3 true 4) [10, 20, 30, 40] real_P3 3 (by decide +kernel)
example := (encode_error_reported (P3 true 4) [10, 20, 30, 40] real_P3 3 sched1).1 (by decide +kernel)
  ⟨20, by decide +kernel, by decide +kernel⟩

/-- b.: a state with one buffered result and two encoders about to send (3 ≤ 4), and the step of an
    encoder that is about to send. -/
example :
    let s := run (P3 true 4) (initFast [10, 20, 30, 40] 3) (sched1.take 7)
    s.results = [(20, 21)] ∧ (held s.workers).length = 2 ∧
    s.workers[0]? = some (.sending 10) ∧
    (step (P3 true 4) s (.worker 0)).results = [(20, 21), (10, 11)] := by decide +kernel

/-- c.: in the state after main's early exit main is blocked but encoder 0 is enabled. -/
example :
    let s := run (P3 true 4) (initFast [10, 20, 30, 40] 3) (sched1.take 10)
    final s = false ∧ step (P3 true 4) s .main = s ∧ step (P3 true 4) s (.worker 0) ≠ s := by decide +kernel

/-- d.: the measure along `sched1` (24 initially, 3 at the end; 16 of the 18 steps are effective, the
    two `main` steps blocked in `wg.Wait()` are not); the round-robin schedule of `terminates` reaches
    the final state. -/
example :
    PoolX.measure (P3 true 4) (initFast [10, 20, 30, 40] 3) = 24 ∧
    effective (P3 true 4) (initFast [10, 20, 30, 40] 3) sched1 = 16 ∧
    PoolX.measure (P3 true 4) (run (P3 true 4) (initFast [10, 20, 30, 40] 3) sched1) = 3 := by decide +kernel
example : final (run (P3 true 4) (initFast [10, 20, 30, 40] 3) (roundRobin 3 24)) = true := by decide +kernel

/-- e.: a run without failing job: main receives all four results, out of order. -/
def P4 : Params Nat Nat := { P3 true 4 with isErr := fun _ => false }
example :
    let s := run P4 (initFast [10, 20, 30, 40] 3) (roundRobin 3 12)
    final s = true ∧ s.stop = none ∧ s.received = [(10, 11), (20, 21), (30, 31), (40, 41)] := by decide +kernel
example :
    let s := run P4 (initFast [10, 20, 30, 40] 3)
      ([.worker 2, .worker 2, .worker 2, .worker 0, .worker 0, .worker 0, .main] ++ roundRobin 3 12)
    final s = true ∧ s.stop = none ∧ s.received = [(10, 11), (20, 21), (30, 31), (40, 41)] := by decide +kernel
example := results_complete P4 [10, 20, 30, 40] ⟨rfl, rfl⟩ 3 (roundRobin 3 12) (by decide +kernel) (by decide +kernel)

/-- `NondeterministicFastCommit` mode: main sends the jobs while the encoders already run, one
    deletion, then the receive loop; a failing `Remove` (fault plan position 0) closes `done` before
    any result is received, and the pool still winds down without panic. -/
def PN (faults : List Nat) : Params Nat Nat :=
  { f := (· + 1), isErr := fun _ => false, isNil := fun _ => false, fault := faultPlan faults,
    dels := 1, nondet := true, cap := 3, waitBeforeClose := true }
example :
    let s := run (PN []) (initNondet [10, 20, 30] 2) (roundRobin 2 14)
    final s = true ∧ s.stop = none ∧ s.ncalls = 4 ∧ s.received.length = 3 := by decide +kernel
example :
    let s := run (PN [0]) (initNondet [10, 20, 30] 2) (roundRobin 2 14)
    final s = true ∧ s.stop = some .removeFailed ∧ s.received = [] ∧ s.panicked = false := by decide +kernel
example :
    let s := run (PN [2]) (initNondet [10, 20, 30] 2) (roundRobin 2 14)
    final s = true ∧ s.stop = some .storeFailed ∧ s.received.length = 2 ∧ s.panicked = false := by
  decide +kernel

/-- f2./f3. on `poolSt` (four owned pending identifiers, 3 encoders, round robin): without and
    with a slab that fails to encode. -/
example : (poolSt.fastCommitObserveX natCodec 3 (roundRobin 3 12)).final = true := by decide +kernel
example := fastCommitPoolX_eq_fastCommit natCodec poolSt poolInv (faultPlan [2]) 3 (roundRobin 3 12)
  (by decide +kernel)
example :
    let r := poolSt.fastCommitPoolX natCodec (faultPlan [2]) 3 (roundRobin 3 12)
    r.err = some .external ∧ r.log.map callRepr = [(⟨1, 1⟩, some 5), (⟨1, 2⟩, none), (⟨1, 5⟩, some 2)] := by
  decide +kernel
example :
    let cBad : Codec Nat Nat := { natCodec with enc := fun v => if v = 2 then none else some v }
    let o := poolSt.fastCommitObserveX cBad 3 (roundRobin 3 12)
    let r := poolSt.fastCommitPoolX cBad (fun _ => false) 3 (roundRobin 3 12)
    o.final = true ∧ o.stop = some .encodeErr ∧ o.panicked = false ∧
    r.err = some .encoding ∧ r.log.length = 0 ∧ r.st.base = poolSt.base := by decide +kernel

example := fastCommit_pool_terminates natCodec poolSt 3 (by decide +kernel) (by decide +kernel)
example := nondetCommit_pool_terminates natCodec (faultPlan [1]) poolSt poolSt.modifiedOwned
  poolSt.deletedOwned 3 (by decide +kernel) (by decide +kernel)

/-- e3. on `poolSt`: the arrival order under round robin is a legal `modOrder`. -/
example :
    let o := poolSt.nondetCommitPoolX natCodec (fun _ => false) poolSt.modifiedOwned poolSt.deletedOwned
      2 (roundRobin 2 14)
    o.final = true ∧ o.stop = none ∧ o.received.map Prod.fst = poolSt.modifiedOwned := by decide +kernel

end NonVacuity

end Atree.C16

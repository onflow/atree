import AtreeProofs.Batch.BytesProof
import AtreeProofs.Batch.CopyMap
import AtreeProofs.Batch.MapInvBuild
/-
  C17 — Bulk build, copy and byte conversion give equivalent, valid, independent values.
  Property theorems about the transcriptions in `AtreeModel/Array/Batch.lean`,
  `AtreeModel/Map/Batch.lean`, `AtreeModel/Bytes.lean` (tied to the Go code by the `batch` stream).
  For an arbitrary legal threshold `T` (256 … 32768), arbitrary input lists, arbitrary element
  sizes (large values are externalised), arbitrary tree depth.
-/
namespace Atree.C17
open Atree Gen

/-- What a value becomes when stored by the bulk build under storage context `c`: itself if it
    fits, a reference to a fresh large-value slab otherwise (`Value.Storable`). -/
def storedForm (T addr : Nat) (v : Elem) (c : Ctx) : Elem := (toStorable T addr v c).1

/-! ## Bulk build of arrays (`NewArrayFromBatchData`) -/

/-- The build never fails, and the array holds — in input order — the stored form of every input
    value, for every input list (any length, any sizes) and every legal threshold.  `cs` are the
    storage contexts in which the successive values were turned into storables. -/
theorem batch_array_content (T addr ty : Nat) (hT : legalThreshold T = true) (vs : List Elem) (c : Ctx) :
    ∃ a c' cs, Arr.fromBatchData T addr ty vs c = .ok (a, c') ∧ cs.length = vs.length ∧
      a.toList = List.zipWith (storedForm T addr) vs cs ∧ a.ty = ty :=
  newWith_content T addr ty hT (toStorable T addr) vs c

/-- Values that fit the inline limit are stored as they are: the array content is the input. -/
theorem batch_array_content_inline (T addr ty : Nat) (hT : legalThreshold T = true) (vs : List Elem) (c : Ctx)
    (hfit : ∀ v ∈ vs, v.size ≤ maxInlineArr T) :
    ∃ a c', Arr.fromBatchData T addr ty vs c = .ok (a, c') ∧ a.toList = vs := by
  obtain ⟨a, c', cs, h1, h2, h3, _⟩ := batch_array_content T addr ty hT vs c
  refine ⟨a, c', h1, ?_⟩
  rw [h3]
  clear h1 h3
  induction vs generalizing cs with
  | nil => simp
  | cons v vs ih =>
    cases cs with
    | nil => simp at h2
    | cons c0 cs =>
      have hv := hfit v (by simp)
      have : storedForm T addr v c0 = v := by
        unfold storedForm toStorable
        cases hp : v.pay with
        | ref id => simp
        | val n => simp only; rw [if_neg (by omega)]
      simp only [List.zipWith_cons_cons, this]
      rw [ih (fun x hx => hfit x (by simp [hx])) cs (by simpa using h2)]

/-- The result satisfies the array invariant `ArrInv` — the same invariant single operations
    maintain (size bands of every slab at every level including the tail `LendToRight`-or-`Merge`
    step, header copies and cumulative counts of index slabs, sibling links, distinct slab IDs
    below the allocation counter) — for every list of values (size ≥ 1, any size) and every legal
    threshold.  (`NewArrayFromBatchData` does not check the element-count limit; the bound on the
    input length is the hypothesis under which the `uint32` count cannot overflow.) -/
theorem batch_array_inv (T addr ty : Nat) (hT : legalThreshold T = true) (vs : List Elem) (c : Ctx)
    (hvs : ∀ v ∈ vs, ValueOk v) (hlen : vs.length ≤ maxArrayElementCount) :
    ∃ a c', Arr.fromBatchData T addr ty vs c = .ok (a, c') ∧ ArrInv T a c'.ctr ∧ a.addr = addr ∧
      a.ty = ty ∧ a.count = vs.length := by
  obtain ⟨a, c', h1, hb, hto, hty, _⟩ := newWith_inv hT addr ty ValueOk (toStorable T addr)
    (toStorable_toStOk T addr hT) vs hvs (by omega) c
  refine ⟨a, c', h1, hb.inv, hb.addr_eq, hty, ?_⟩
  have hcnt : a.count = a.toList.length := by
    obtain ⟨d, t, ty'⟩ := a
    exact (hb.inv.shape).count_eq_length
  rw [hcnt, hto, List.length_zipWith, fillCtxs_length]
  simp

/-- `result_ids_fresh` for the bulk build: every slab ID of the result was allocated during the
    call (owner address `addr`, index above the counter before the call and at most the counter
    after it) — hence the result shares no slab with anything that existed before. -/
theorem batch_array_ids_fresh (T addr ty : Nat) (hT : legalThreshold T = true) (vs : List Elem) (c : Ctx)
    (hvs : ∀ v ∈ vs, ValueOk v) (hlen : vs.length ≤ maxArrayElementCount)
    (a : Arr) (c' : Ctx) (h : Arr.fromBatchData T addr ty vs c = .ok (a, c')) :
    ∀ id ∈ ATree.slabIds a.d a.root, id.addr = addr ∧ c.ctr < id.idx ∧ id.idx ≤ c'.ctr := by
  obtain ⟨a1, c1, h1, hb, _⟩ := newWith_inv hT addr ty ValueOk (toStorable T addr)
    (toStorable_toStOk T addr hT) vs hvs (by omega) c
  have : Arr.fromBatchData T addr ty vs c = ABatch.newWith T addr ty (toStorable T addr) vs c := rfl
  rw [this, h1] at h
  simp only [Except.ok.injEq, Prod.mk.injEq] at h
  obtain ⟨e1, e2⟩ := h
  subst e1 e2
  exact hb.fresh

/-! ## Bulk build of maps (`NewMapFromBatchData`) -/

/-- If the build succeeds: the seed is the caller's (non-zero) seed, type and count are recorded,
    the count is the number of input pairs, the input was sorted by first-level digest, and the
    pair sequence of the map is the one accumulated by the element loop. -/
theorem batch_map_seed_count_order {r : Nat} (cfg : MCfg) (ty seed : Nat) (kvs : List (MKey × Elem)) (c : Ctx)
    (m : OMap r) (c' : Ctx) (h : OMap.fromBatchData cfg ty seed kvs c = .ok (m, c')) :
    seed ≠ 0 ∧ m.seed = seed ∧ m.ty = ty ∧ m.count = kvs.length ∧
      (kvs.map (fun p => p.1.dig 0)).Pairwise (· ≤ ·) := by
  obtain ⟨a, b, c1, d, e, _⟩ := fromBatchData_ok_facts cfg ty seed kvs c m c' h
  exact ⟨a, b, c1, d, e⟩

/-- A stream that is not sorted by first-level digest is rejected. -/
theorem batch_rejects_unsorted {r : Nat} (cfg : MCfg) (ty seed : Nat) (kvs : List (MKey × Elem)) (c : Ctx)
    (hns : ¬ (kvs.map (fun p => p.1.dig 0)).Pairwise (· ≤ ·)) :
    ∃ e c', (OMap.fromBatchData cfg ty seed kvs c : BRes (OMap r × Ctx)) = .error (e, c') :=
  fromBatchData_rejects_unsorted cfg ty seed kvs c hns

/-- The uninitialised seed is rejected before any storage call. -/
theorem batch_rejects_seed0 {r : Nat} (cfg : MCfg) (ty : Nat) (kvs : List (MKey × Elem)) (c : Ctx) :
    (OMap.fromBatchData cfg ty 0 kvs c : BRes (OMap r × Ctx)) = .error (.seedUninitialized, c) :=
  fromBatchData_rejects_seed0 cfg ty kvs c

/-- Without first-level digest collisions (strictly increasing first-level digests) the pair
    sequence of the result is the input sequence — same pairs, same order — with every value in
    its stored form (`cs` = the storage contexts of the successive `Value.Storable` calls). -/
theorem batch_map_content_nocollision {r : Nat} (cfg : MCfg) (ty seed : Nat) (kvs : List (MKey × Elem))
    (c : Ctx) (hs : (kvs.map (fun p => p.1.dig 0)).Pairwise (· < ·))
    (m : OMap r) (c' : Ctx) (h : OMap.fromBatchData cfg ty seed kvs c = .ok (m, c')) :
    ∃ cs : List Ctx, cs.length = kvs.length ∧
      m.toList = List.zipWith (fun p c => (p.1, storedValue cfg p.1 p.2 c)) kvs cs := by
  obtain ⟨_, _, _, _, _, st, cf, hfill, hto⟩ := fromBatchData_ok_facts cfg ty seed kvs c m c' h
  obtain ⟨st', cf', hfill', hpairs⟩ := fillLoop_nocollision cfg kvs hs
    ({ id := (c.alloc cfg.addr).1, elements := MBatch.emptyElems r, slabs := [], count := 0, prevHkey := 0 } : MBatch.FillState r)
    (c.alloc cfg.addr).2 (by intro p _; left; rfl) (by intro p _; simp)
  rw [hfill] at hfill'
  simp only [Except.ok.injEq, Prod.mk.injEq] at hfill'
  obtain ⟨e1, _⟩ := hfill'
  subst e1
  refine ⟨appendCtxs cfg kvs
    ({ id := (c.alloc cfg.addr).1, elements := MBatch.emptyElems r, slabs := [], count := 0, prevHkey := 0 } : MBatch.FillState r)
    (c.alloc cfg.addr).2, appendCtxs_length cfg kvs _ _, ?_⟩
  rw [hto, hpairs]
  simp [fillPairs, MBatch.emptyElems, HkeyElems.toList]

/-- With collisions at any level (any digest assignment `D`, keys within the key limit, plain
    values of any size): if the build succeeds then the input keys were pairwise different, the
    pairs of the result are exactly the input pairs with values in stored form — as a multiset; the
    order inside a first-level collision group follows the deeper digests — and the keys of the
    result are pairwise different. -/
theorem batch_map_content {T r : Nat} (D : DigestFn (r + 1)) (hT : legalThreshold T = true) (cfg : MCfg)
    (hcT : cfg.T = T) (hcL : cfg.L = r + 1) (ty seed : Nat) (kvs : List (MKey × Elem))
    (hkv : ∀ p ∈ kvs, KeyOk T (r + 1) D p.1 ∧ ValueOkM p.2) (c : Ctx)
    (m : OMap r) (c' : Ctx) (h : OMap.fromBatchData cfg ty seed kvs c = .ok (m, c')) :
    KeysDistinct kvs ∧
    (∃ cs : List Ctx, cs.length = kvs.length ∧
      m.toList.Perm (List.zipWith (fun p c => (p.1, storedValue cfg p.1 p.2 c)) kvs cs)) ∧
    KeysDistinct m.toList :=
  fromBatchData_sound hT ⟨hcT, hcL⟩ ty seed kvs hkv c m c' h

/-- A stream in which a key occurs twice — adjacent or not, at whatever collision level — is
    rejected. -/
theorem batch_rejects_duplicates {T r : Nat} (D : DigestFn (r + 1)) (hT : legalThreshold T = true)
    (cfg : MCfg) (hcT : cfg.T = T) (hcL : cfg.L = r + 1) (ty seed : Nat) (kvs : List (MKey × Elem))
    (hkv : ∀ p ∈ kvs, KeyOk T (r + 1) D p.1 ∧ ValueOkM p.2) (c : Ctx) (hdup : ¬ KeysDistinct kvs) :
    ∃ e c', (OMap.fromBatchData cfg ty seed kvs c : BRes (OMap r × Ctx)) = .error (e, c') :=
  fromBatchData_rejects_duplicates hT ⟨hcT, hcL⟩ ty seed kvs hkv c hdup

/-- No spurious rejection: the element loop accepts every stream that is sorted by first-level
    digest and has pairwise different keys. -/
theorem batch_map_loop_accepts {T r : Nat} (D : DigestFn (r + 1)) (hT : legalThreshold T = true)
    (cfg : MCfg) (hcT : cfg.T = T) (hcL : cfg.L = r + 1) (kvs : List (MKey × Elem))
    (hkv : ∀ p ∈ kvs, KeyOk T (r + 1) D p.1 ∧ ValueOkM p.2)
    (hs : (kvs.map (fun p => p.1.dig 0)).Pairwise (· ≤ ·)) (hd : KeysDistinct kvs) (id : SlabID)
    (hid : id.addr = cfg.addr) (c : Ctx) :
    ∃ st c', MBatch.fillLoop cfg kvs
      ({ id := id, elements := MBatch.emptyElems r, slabs := [], count := 0, prevHkey := 0 } : MBatch.FillState r) c
        = .ok (st, c') := by
  obtain ⟨st, c', h, _⟩ := fillLoop_complete (D := D) hT ⟨hcT, hcL⟩ kvs hkv hs hd id hid c
  exact ⟨st, c', h⟩

/-- `batch_map_inv`: for every legal threshold, every digest assignment `D`, every stream of pairs
    that is sorted by first-level digest and has pairwise different keys (keys within the key
    limit, plain values of any size ≥ 1), and every non-zero seed, `NewMapFromBatchData` succeeds
    and its result satisfies the map invariant `MapInv` — element tables valid at every collision
    level, every data and index slab within the size band including the tail
    `LendToRight`-or-`Merge` step at every level, first keys and digest order of the index slabs,
    sibling links, count and key distinctness — keeps the seed, records type and count, and holds
    exactly the input pairs with values in stored form. -/
theorem batch_map_inv {T r : Nat} (D : DigestFn (r + 1)) (hT : legalThreshold T = true)
    (cfg : MCfg) (hcT : cfg.T = T) (hcL : cfg.L = r + 1) (ty seed : Nat) (hseed : seed ≠ 0)
    (kvs : List (MKey × Elem)) (hkv : ∀ p ∈ kvs, KeyOk T (r + 1) D p.1 ∧ ValueOkM p.2)
    (hs : (kvs.map (fun p => p.1.dig 0)).Pairwise (· ≤ ·)) (hd : KeysDistinct kvs) (c : Ctx) :
    ∃ (m : OMap r) (c' : Ctx), OMap.fromBatchData cfg ty seed kvs c = .ok (m, c') ∧ MapInv T D m ∧
      m.seed = seed ∧ m.ty = ty ∧ m.count = kvs.length ∧
      ∃ cs : List Ctx, cs.length = kvs.length ∧
        m.toList.Perm (List.zipWith (fun p c => (p.1, storedValue cfg p.1 p.2 c)) kvs cs) :=
  fromBatchData_inv hT ⟨hcT, hcL⟩ ty seed hseed kvs hkv hs hd c

/-! ## Copy (`CanCopyNonRefSimple` / `CopyNonRefSimple`) -/

/-- Arrays: the copy is offered exactly when the array is a single data slab with no right sibling
    whose elements are all plain (non-reference) values. -/
theorem can_copy_iff_array (a : Arr) :
    a.canCopyNonRefSimple = true ↔
      ∃ s, a.singleData = some s ∧ s.next = SlabID.undef ∧ ∀ e ∈ s.elems, e.isPlain :=
  Arr.canCopy_iff a

/-- Maps: the copy is offered exactly when the map is a single data slab with no right sibling,
    every key and value — through inline collision groups at every level — is a plain value, and
    there is no external collision group (`MElems.plain`, see `MElems.plain_iff`). -/
theorem can_copy_iff_map {r : Nat} (m : OMap r) :
    m.canCopyNonRefSimple = true ↔
      ∃ s, m.singleData = some s ∧ s.next = SlabID.undef ∧ MElems.plain (r + 1) s.elems :=
  OMap.canCopy_iff m

/-- `MElems.plain` spelled out: no external group anywhere, and every value is a plain value. -/
theorem plain_iff_values {r : Nat} (e : MElems r) :
    MElems.plain r e ↔ (MElems.noExt r e ∧ ∀ p ∈ (MElems.ops r).toList e, p.2.isPlain) :=
  MElems.plain_iff r e

/-- An offered copy succeeds, and a copy succeeds only when it is offered (arrays). -/
theorem copy_succeeds_when_offered_array (a : Arr) (addr : Nat) (c : Ctx) :
    (∃ a' c', a.copyNonRefSimple addr c = .ok (a', c')) ↔ a.canCopyNonRefSimple = true :=
  Arr.copy_ok_iff a addr c

/-- An offered copy succeeds, and a copy succeeds only when it is offered (maps). -/
theorem copy_succeeds_when_offered_map {r : Nat} (m : OMap r) (addr : Nat) (c : Ctx) :
    (∃ m' c', m.copyNonRefSimple addr c = .ok (m', c')) ↔ m.canCopyNonRefSimple = true :=
  OMap.copy_ok_iff m addr c

/-- The copy of an array has the elements (in order), the type and the count of the source and is
    a standalone single slab. -/
theorem copy_content_eq_array (a : Arr) (addr : Nat) (c : Ctx) (a' : Arr) (c' : Ctx)
    (h : a.copyNonRefSimple addr c = .ok (a', c')) :
    a'.toList = a.toList ∧ a'.ty = a.ty ∧ a'.count = a.count ∧ a'.isInlined = false := by
  obtain ⟨h1, h2, h3, h4, _⟩ := Arr.copy_content a addr c a' c' h
  exact ⟨h1, h2, h3, h4⟩

/-- The copy of a map has the pairs (in order), the type, the count and the seed of the source and
    is a standalone single slab. -/
theorem copy_content_eq_map {r : Nat} (m : OMap r) (addr : Nat) (c : Ctx) (m' : OMap r) (c' : Ctx)
    (h : m.copyNonRefSimple addr c = .ok (m', c')) :
    m'.toList = m.toList ∧ m'.ty = m.ty ∧ m'.count = m.count ∧ m'.seed = m.seed ∧ m'.isInlined = false := by
  obtain ⟨h1, h2, h3, h4, h5, _⟩ := OMap.copy_content m addr c m' c' h
  exact ⟨h1, h2, h3, h4, h5⟩

/-- The size of the copy is root prefix + Σ element sizes — also when the source is inlined
    (its size is then based on the inlined prefix). -/
theorem copy_size_rebased_array (a : Arr) (addr : Nat) (c : Ctx) (a' : Arr) (c' : Ctx)
    (h : a.copyNonRefSimple addr c = .ok (a', c')) (s : DataSlab) (hs : a.singleData = some s)
    (hsz : s.hdr.size = s.prefixSize + sumSizes s.elems) (hroot : s.root = true) :
    a'.rootHdr.size = arrayRootDataSlabPrefixSize + sumSizes a'.toList :=
  Arr.copy_size_rebased a addr c a' c' h s hs hsz hroot

theorem copy_size_rebased_map {r : Nat} (m : OMap r) (addr : Nat) (c : Ctx) (m' : OMap r) (c' : Ctx)
    (h : m.copyNonRefSimple addr c = .ok (m', c')) (s : MDataSlab r) (hs : m.singleData = some s)
    (hsz : s.hdr.size = s.prefixSize + s.elems.size) (hroot : s.root = true) :
    ∃ s', m'.singleData = some s' ∧ s'.hdr.size = mapRootDataSlabPrefixSize + s'.elems.size ∧
      s'.elems = s.elems :=
  OMap.copy_size_rebased m addr c m' c' h s hs hsz hroot

/-- The copy of a valid root data slab — standalone or inlined — is a valid standalone array. -/
theorem copy_inv_array (T : Nat) (a : Arr) (addr : Nat) (c : Ctx) (a' : Arr) (c' : Ctx)
    (h : a.copyNonRefSimple addr c = .ok (a', c')) (s : DataSlab) (hs : a.singleData = some s)
    (hinv : DataInv T true s) (hcnt : s.hdr.count < maxArrayElementCount + 1) : ArrInv T a' c'.ctr :=
  Arr.copy_inv T a addr c a' c' h s hs hinv hcnt

theorem copy_inv_map {r : Nat} (T : Nat) (D : DigestFn (r + 1)) (m : OMap r) (addr : Nat) (c : Ctx)
    (m' : OMap r) (c' : Ctx) (h : m.copyNonRefSimple addr c = .ok (m', c'))
    (s : MDataSlab r) (hs : m.singleData = some s) (hinv : MDataInv T D true s)
    (hcount : m.count = m.toList.length) (hdist : KeysDistinct m.toList) : MapInv T D m' :=
  OMap.copy_inv T D m addr c m' c' h s hs hinv hcount hdist

/-- `result_ids_fresh` (array copy): the copy's only slab ID was allocated during the call; source
    and copy share no slab. -/
theorem result_ids_fresh_array_copy (a : Arr) (addr : Nat) (c : Ctx) (a' : Arr) (c' : Ctx)
    (h : a.copyNonRefSimple addr c = .ok (a', c'))
    (hold : ∀ id ∈ ATree.slabIds a.d a.root, id.addr = addr → id.idx ≤ c.ctr) :
    (∀ id ∈ ATree.slabIds a'.d a'.root, id.addr = addr ∧ c.ctr < id.idx ∧ id.idx ≤ c'.ctr) ∧
    (∀ id ∈ ATree.slabIds a'.d a'.root, id ∉ ATree.slabIds a.d a.root) :=
  Arr.copy_ids_fresh a addr c a' c' h hold

/-- `result_ids_fresh` (map copy): the copy is one slab (no external collision group) whose ID was
    allocated during the call and differs from every ID in use before. -/
theorem result_ids_fresh_map_copy {r : Nat} (m : OMap r) (addr : Nat) (c : Ctx) (m' : OMap r) (c' : Ctx)
    (h : m.copyNonRefSimple addr c = .ok (m', c')) (used : List SlabID)
    (hold : ∀ id ∈ used, id.addr = addr → id.idx ≤ c.ctr) :
    m'.rootID.addr = addr ∧ c.ctr < m'.rootID.idx ∧ m'.rootID.idx ≤ c'.ctr ∧ m'.rootID ∉ used ∧
      ∃ s', m'.singleData = some s' ∧ MElems.noExt (r + 1) s'.elems :=
  OMap.copy_ids_fresh m addr c m' c' h used hold

/-! ## Byte conversion -/

/-- `ByteArrayToByteSlice (ByteSliceToByteArray bs) = bs`, and the intermediate array is valid and
    holds one element per byte — for every legal threshold, every byte list, every size estimate
    (fast path and `NewArrayFromBatchData` fallback), every byte-element size function within the
    inline limit.  `isT` is the type assertion `e.(T)` of `ByteArrayToByteSlice` (the dynamic Go
    type of an element is not part of a model element): every `T(b)` passes it. -/
theorem bytes_roundtrip (T addr ty est : Nat) (hT : legalThreshold T = true) (bsize : Nat → Nat)
    (isT : Elem → Bool) (hisT : ∀ b, isT (Bytes.byteElem bsize b) = true)
    (bs : List Nat) (hb : ∀ b ∈ bs, 1 ≤ bsize b ∧ bsize b ≤ maxInlineArr T)
    (hlen : bs.length ≤ maxArrayElementCount) (c : Ctx) :
    ∃ a c', Bytes.byteSliceToByteArray T addr ty bsize bs est c = .ok (a, c') ∧
      Bytes.byteArrayToByteSlice isT a = .ok bs ∧ ArrInv T a c'.ctr ∧
      a.toList = bs.map (Bytes.byteElem bsize) := by
  obtain ⟨a, c', h1, h2, h3, _, h5⟩ := bytes_roundtrip_full hT addr ty est bsize isT hisT bs hb (by omega) c
  exact ⟨a, c', h1, h5, h2, h3⟩

end Atree.C17

import AtreeProofs.Batch.MapIdsBuild
import AtreeProofs.Props.C17
import AtreeProofs.Props.C13
import AtreeProofs.Props.C05MapIds
import AtreeProofs.Map.Example
/-
  C17 — slab identifiers of a bulk-built map.  Property theorems about
  `OMap.fromBatchData` (`NewMapFromBatchData`, AtreeModel/Map/Batch.lean), the analogue of
  `C17.batch_array_ids_fresh` and of the `ids` clause in `C17.batch_array_inv`.

  The identifiers concerned are all slab identifiers of the result (`OMap.slabIds`: data slabs,
  index slabs, external collision-group slabs).  "Fresh" = allocated during the call: owner address
  of the call, index above the allocation counter before the call and at most the counter after
  it.  Hence the result shares no slab with anything that existed before (in particular not with
  the map the stream was read from): independence of the source.
-/
namespace Atree.C17
open Atree Gen

variable {T r : Nat}

/-- `batch_map_ids_fresh`: if `NewMapFromBatchData` succeeds (keys within the key limit, plain
    values of any size ≥ 1), the slab identifiers of the result satisfy the preserved identifier
    clause `MapIdsOk` w.r.t. the counter after the call (pairwise different, of the map's owner
    address, index ≥ 1 and ≤ the counter), the owner is the address the call was made for, and
    every slab identifier of the result has an index above the counter before the call. -/
theorem batch_map_ids_fresh (D : DigestFn (r + 1)) (hT : legalThreshold T = true) (cfg : MCfg)
    (hcT : cfg.T = T) (hcL : cfg.L = r + 1) (ty seed : Nat) (kvs : List (MKey × Elem))
    (hkv : ∀ p ∈ kvs, KeyOk T (r + 1) D p.1 ∧ ValueOkM p.2) (c : Ctx)
    (m : OMap r) (c' : Ctx) (h : OMap.fromBatchData cfg ty seed kvs c = .ok (m, c')) :
    MapIdsOk m c'.ctr ∧ m.addr = cfg.addr ∧ c.ctr < c'.ctr ∧
      ∀ id ∈ m.slabIds, id.addr = cfg.addr ∧ c.ctr < id.idx ∧ id.idx ≤ c'.ctr := by
  obtain ⟨hF, hlt, _⟩ := fromBatchData_ids (D := D) hT ⟨hcT, hcL⟩ ty seed kvs hkv c m c' h
  have hF' : FreshIds cfg.addr c.ctr c'.ctr m.slabIds :=
    hF.subperm (List.sublist_append_left _ _).subperm
  have haddr : m.addr = cfg.addr := (hF'.fresh m.rootID_mem_slabIds).1
  refine ⟨?_, haddr, hlt, fun _ => hF'.fresh⟩
  unfold MapIdsOk
  rw [haddr]
  exact hF'.idsOk

/-- `batch_map_invI`: for every legal threshold, digest assignment, non-zero seed and every stream
    that is sorted by first-level digest with pairwise different keys, `NewMapFromBatchData`
    succeeds and its result satisfies `MapInvI` — the map invariant `MapInv` together with the
    identifier clause, relative to the counter after the call — i.e. exactly the invariant that
    every single operation preserves (`C05.mapIds_set / _remove / _popIterate / _setType`); the
    configuration of the call is the configuration of the result (`CfgOk`: same owner address). -/
theorem batch_map_invI (D : DigestFn (r + 1)) (hT : legalThreshold T = true)
    (cfg : MCfg) (hcT : cfg.T = T) (hcL : cfg.L = r + 1) (ty seed : Nat) (hseed : seed ≠ 0)
    (kvs : List (MKey × Elem)) (hkv : ∀ p ∈ kvs, KeyOk T (r + 1) D p.1 ∧ ValueOkM p.2)
    (hs : (kvs.map (fun p => p.1.dig 0)).Pairwise (· ≤ ·)) (hd : KeysDistinct kvs) (c : Ctx) :
    ∃ (m : OMap r) (c' : Ctx), OMap.fromBatchData cfg ty seed kvs c = .ok (m, c') ∧
      MapInvI T D m c'.ctr ∧ CfgOk cfg T m ∧ m.seed = seed ∧ m.ty = ty ∧ m.count = kvs.length ∧
      c.ctr < c'.ctr ∧ ∀ id ∈ m.slabIds, c.ctr < id.idx := by
  obtain ⟨m, c', h1, h2, h3, h4, h5, _⟩ := batch_map_inv D hT cfg hcT hcL ty seed hseed kvs hkv hs hd c
  obtain ⟨g1, g2, g3, g4⟩ := batch_map_ids_fresh D hT cfg hcT hcL ty seed kvs hkv c m c' h1
  exact ⟨m, c', h1, ⟨h2, g1⟩, ⟨hcT, hcL, g2.symm⟩, h3, h4, h5, g3, fun id hid => (g4 id hid).2.1⟩

/-- Consequence: every theorem stated for `MapInvI` applies to a bulk-built map.  Instance: the
    read-only iterator over the result enumerates exactly its pair sequence
    (`C13.map_ro_iter_eq_toList`), and the tree-ownership facts of C09 hold
    (`C09Map.tree_ownership`). -/
theorem batch_map_iterable (D : DigestFn (r + 1)) (hT : legalThreshold T = true)
    (cfg : MCfg) (hcT : cfg.T = T) (hcL : cfg.L = r + 1) (ty seed : Nat) (hseed : seed ≠ 0)
    (kvs : List (MKey × Elem)) (hkv : ∀ p ∈ kvs, KeyOk T (r + 1) D p.1 ∧ ValueOkM p.2)
    (hs : (kvs.map (fun p => p.1.dig 0)).Pairwise (· ≤ ·)) (hd : KeysDistinct kvs) (c : Ctx) :
    ∃ (m : OMap r) (c' : Ctx), OMap.fromBatchData cfg ty seed kvs c = .ok (m, c') ∧
      m.iterReadOnly = .ok m.toList ∧
      m.slabIds.Nodup ∧ (∀ id ∈ m.slabIds, id.addr = m.addr ∧ id ≠ SlabID.undef) ∧
      AList.keys (MTree.slabs m.d m.root) = m.slabIds := by
  obtain ⟨m, c', h1, hI, hcfg, _⟩ := batch_map_invI D hT cfg hcT hcL ty seed hseed kvs hkv hs hd c
  obtain ⟨o1, o2, o3, o4, _⟩ := C09Map.tree_ownership T D m c'.ctr hI
  exact ⟨m, c', h1, C13.map_ro_iter_eq_toList T hT D cfg m hcfg c'.ctr hI, o1,
    fun id hid => ⟨o2 id hid, (o4 id hid).1⟩, o3⟩

/-- A single `Set` on a bulk-built map: the C09 account of `set_effects_complete_I` applies with
    the counter left by the build (no separate hypothesis about the identifiers). -/
theorem batch_map_then_set (D : DigestFn (r + 1)) (hT : legalThreshold T = true)
    (cfg : MCfg) (hcT : cfg.T = T) (hcL : cfg.L = r + 1) (ty seed : Nat) (hseed : seed ≠ 0)
    (kvs : List (MKey × Elem)) (hkv : ∀ p ∈ kvs, KeyOk T (r + 1) D p.1 ∧ ValueOkM p.2)
    (hs : (kvs.map (fun p => p.1.dig 0)).Pairwise (· ≤ ·)) (hd : KeysDistinct kvs) (c : Ctx)
    (k : MKey) (hk : KeyOk T (r + 1) D k) (v : Elem) (hv : ValueOkM v) :
    ∃ (m : OMap r) (c' : Ctx), OMap.fromBatchData cfg ty seed kvs c = .ok (m, c') ∧
      ∀ old m'' c'', m.set cfg k v c' = .ok (old, m'', c'') →
        MapInvI T D m'' c''.ctr ∧ m''.rootID = m.rootID ∧
        (∀ addr id, Eff.alloc addr id ∈ C09Map.newEffects c' c'' → id ∉ m.slabIds ∧ c'.ctr < id.idx) := by
  obtain ⟨m, c', h1, hI, hcfg, _⟩ := batch_map_invI D hT cfg hcT hcL ty seed hseed kvs hkv hs hd c
  refine ⟨m, c', h1, ?_⟩
  intro old m'' c'' hr
  obtain ⟨_, _, a3, a4, a5⟩ := C09Map.set_effects_complete_I T hT D cfg m hcfg k hk v hv c' hI old m'' c'' hr
  exact ⟨a4, a5, fun addr id hm => ⟨(a3 addr id hm).1, (a3 addr id hm).2.1⟩⟩

/-! ### Non-vacuity: a bulk build of two levels with an external collision group and a large value

Threshold 256, digests `D2` (hundreds and tens digit of the payload), owner 7, counter 40 before the
call: 24 pairs with 10-byte keys; the keys 311, 321, …, 391 share the first-level digest 3 (their
group is exported to a slab of its own); the value of key 500 has 300 bytes and goes to a
large-value slab. -/
section NonVacuity
open MapExample

def idsKeys : List Nat :=
  [100, 110, 120, 130, 200, 210, 220, 230, 311, 321, 331, 341, 351, 361, 371, 381, 391, 400, 410, 500, 510, 600, 610, 700]

def idsKvs : List (MKey × Elem) :=
  idsKeys.map (fun n => (key n, if n = 500 then ({ size := 300, pay := .val 500 } : Elem) else val n))

def idsCtx : Ctx := { ctr := 40, eff := [] }

def idsBuilt : BRes (OMap 1 × Ctx) := OMap.fromBatchData cfg2 0 12345 idsKvs idsCtx

theorem idsKvs_ok : ∀ p ∈ idsKvs, KeyOk 256 2 D2 p.1 ∧ ValueOkM p.2 := by
  intro p hp
  obtain ⟨n, _, rfl⟩ := List.mem_map.mp hp
  refine ⟨key_ok n, ?_⟩
  simp only
  split
  · exact ⟨by decide, _, rfl⟩
  · exact ⟨(by decide : 1 ≤ 10), _, rfl⟩

/-- the build succeeds with an index root over several data slabs, an external collision group
    and one reference to a large-value slab -/
theorem idsBuilt_shape :
    (match idsBuilt with
     | .ok (m, c') => decide (m.d = 1) && decide (5 ≤ m.slabIds.length) && decide (m.refIds.length = 1) &&
         decide (m.count = 24) && decide (40 < c'.ctr)
     | .error _ => false) = true := by
  decide +kernel

theorem idsKvs_distinct : KeysDistinct idsKvs := by
  unfold KeysDistinct; decide +kernel

/-- the hypotheses of `batch_map_ids_fresh` / `batch_map_invI` are met by this call -/
theorem idsBuilt_invI : ∃ (m : OMap 1) (c' : Ctx), idsBuilt = .ok (m, c') ∧ MapInvI 256 D2 m c'.ctr ∧
    ∀ id ∈ m.slabIds, 40 < id.idx :=
  have ⟨m, c', h1, h2, _, _, _, _, _, h8⟩ := batch_map_invI D2 legal256 cfg2 rfl rfl 0 12345
    (by decide) idsKvs idsKvs_ok (by decide +kernel) idsKvs_distinct idsCtx
  ⟨m, c', h1, h2, h8⟩

example : ∃ (m : OMap 1) (c' : Ctx), idsBuilt = .ok (m, c') ∧ MapInvI 256 D2 m c'.ctr ∧ m.d = 1 ∧
    5 ≤ m.slabIds.length ∧ m.refIds.length = 1 ∧ ∀ id ∈ m.slabIds, 40 < id.idx := by
  obtain ⟨m, c', hb, h2, h8⟩ := idsBuilt_invI
  have hs := idsBuilt_shape
  rw [hb] at hs
  simp only [Bool.and_eq_true, decide_eq_true_eq] at hs
  exact ⟨m, c', hb, h2, hs.1.1.1.1, hs.1.1.1.2, hs.1.1.2, h8⟩

end NonVacuity

end Atree.C17

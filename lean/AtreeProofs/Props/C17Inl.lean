import AtreeProofs.Props.C17
import AtreeProofs.WorldOk
import AtreeProofs.World.MapRefW
import AtreeProofs.World.ArrRef
import AtreeProofs.Map.TreeInv2
import AtreeProofs.Map.TreeBasics
import AtreeProofs.MapIds
import AtreeProofs.Props.C17Ids
/-
  C17 — the copy theorems and an inlined source.

  The copy theorems of Props/C17.lean take raw hypotheses about the single root data slab `s`
  of the source:
    `copy_size_rebased_array / _map` : `s.hdr.size = s.prefixSize + Σ element sizes`, `s.root = true`
    `copy_inv_array`                 : `DataInv T true s`, `s.hdr.count < maxArrayElementCount + 1`
    `copy_inv_map`                   : `MDataInv T D true s`, `m.count = m.toList.length`, `KeysDistinct m.toList`
    `result_ids_fresh_*`             : every identifier in use is at most the allocation counter.
  For a standalone source they are fields of `ArrInv` / `MapInv`.  For an inlined source (a child
  container stored inside its parent's slab) the World invariant `WorldOk` gives `ArrInvInl` /
  `MapInvInl` (`ContOk`, AtreeProofs/WorldOk.lean).  Below: these imply every hypothesis above
  except the upper size band `s.hdr.size ≤ maxThr T` (`DataInv.le_max` / `MDataInv.le_max`):
  `ArrInvInl` / `MapInvInl` deliberately have no band (an inlined child may exceed its budget in the
  middle of an operation); between operations the band is the `SlotSync` clause of `WorldOk`
  (`x.isInlined = x.inlinable (lim - 2 * wrap)`: an inlined child fits its slot limit, which is
  below `maxThr T`).  It is kept here as the explicit hypothesis `hband`; deriving it from
  `WorldOk` needs the parent slot and is not done.
-/
namespace Atree.C17
open Atree Gen

variable {T r : Nat}

/-- Arrays: what `ArrInvInl` (World invariant of an inlined child) gives about the source of a copy. -/
theorem inlined_array_copy_hyps (a : Arr) (ctr : Nat) (h : ArrInvInl T a ctr)
    (hband : a.rootHdr.size ≤ maxThr T) :
    ∃ s, a.singleData = some s ∧ DataInv T true s ∧ s.hdr.count < maxArrayElementCount + 1 ∧
      s.hdr.size = s.prefixSize + sumSizes s.elems ∧ s.root = true ∧ s.inlined = true ∧
      s.next = SlabID.undef ∧ (∀ id ∈ ATree.slabIds a.d a.root, id.idx ≤ ctr) := by
  obtain ⟨s, ty, rfl, h1, h2, h3, h4, h5, h6, h7, h8, h9⟩ := h
  have hp : s.prefixSize = inlinedArrayDataSlabPrefixSize := by simp [DataSlab.prefixSize, h2]
  refine ⟨s, rfl, ⟨h4, by rw [hp]; exact h5, h6, h1, fun _ => rfl, hband, fun hf => by cases hf⟩, h9,
    by rw [hp]; exact h5, h1, h2, h3, ?_⟩
  intro id hid
  have hid' : id ∈ ATree.slabIds 0 (ofData s) := hid
  have : id = s.hdr.id := by simpa using hid'
  rw [this]; exact h8

/-- The copy of an inlined array (as the World invariant describes it) that fits the band is a
    valid standalone array with the source's elements, type and count, whose size is re-based to
    the root prefix and whose only slab identifier is fresh and differs from the source's. -/
theorem copy_of_inlined_array (hT : legalThreshold T = true) (a : Arr) (addr : Nat) (c : Ctx)
    (h : ArrInvInl T a c.ctr) (hband : a.rootHdr.size ≤ maxThr T)
    (a' : Arr) (c' : Ctx) (hc : a.copyNonRefSimple addr c = .ok (a', c')) :
    ArrInv T a' c'.ctr ∧ a'.toList = a.toList ∧ a'.ty = a.ty ∧ a'.count = a.count ∧ a'.isInlined = false ∧
      a'.rootHdr.size = arrayRootDataSlabPrefixSize + sumSizes a'.toList ∧
      (∀ id ∈ ATree.slabIds a'.d a'.root, id.addr = addr ∧ c.ctr < id.idx ∧ id.idx ≤ c'.ctr) ∧
      (∀ id ∈ ATree.slabIds a'.d a'.root, id ∉ ATree.slabIds a.d a.root) := by
  have _ := hT
  obtain ⟨s, hs, hinv, hcnt, hsz, hroot, _, _, hold⟩ := inlined_array_copy_hyps a c.ctr h hband
  obtain ⟨g1, g2, g3, g4⟩ := copy_content_eq_array a addr c a' c' hc
  obtain ⟨f1, f2⟩ := result_ids_fresh_array_copy a addr c a' c' hc (fun id hid _ => hold id hid)
  exact ⟨copy_inv_array T a addr c a' c' hc s hs hinv hcnt, g1, g2, g3, g4,
    copy_size_rebased_array a addr c a' c' hc s hs hsz hroot, f1, f2⟩

/-- Maps: what `MapInvInl` gives about the source of a copy — including key distinctness and the
    count, which for an inlined map are consequences of the element-table invariant. -/
theorem inlined_map_copy_hyps (hT : legalThreshold T = true) (D : DigestFn (r + 1)) (m : OMap r) (ctr : Nat)
    (h : MapInvInl T D m ctr) (hband : m.rootHdr.size ≤ maxThr T) :
    ∃ s, m.singleData = some s ∧ MDataInv T D true s ∧ m.count = m.toList.length ∧ KeysDistinct m.toList ∧
      s.hdr.size = s.prefixSize + s.elems.size ∧ s.root = true ∧ s.inlined = true ∧ s.next = SlabID.undef ∧
      (∀ id ∈ m.slabIds, id.addr = m.addr → id.idx ≤ ctr) := by
  obtain ⟨s, ty, cnt, seed, rfl, h1, h2, h3, h4, h5, h6, h7, h8⟩ := h
  have hl := MapInvInl.loose (T := T) (D := D) (ctr := ctr)
    (⟨s, ty, cnt, seed, rfl, h1, h2, h3, h4, h5, h6, h7, h8⟩ : MapInvInl T D ⟨0, s, ty, cnt, seed⟩ ctr)
  obtain ⟨hloose, _, _, _, _⟩ := hl
  refine ⟨s, rfl, (mdataInv_iff hT true s).mpr ⟨hloose, hband, fun hf => by cases hf⟩, h7, hloose.distinct,
    hloose.size_eq, h1, h2, h3, h8⟩

/-- The copy of an inlined map that fits the band is a valid standalone map (`MapInv`) with the
    source's pairs, type, count and seed; its size is re-based to the root prefix; its only slab
    identifier is fresh and not an identifier of the source. -/
theorem copy_of_inlined_map (hT : legalThreshold T = true) (D : DigestFn (r + 1)) (m : OMap r) (c : Ctx)
    (h : MapInvInl T D m c.ctr) (hband : m.rootHdr.size ≤ maxThr T)
    (m' : OMap r) (c' : Ctx) (hc : m.copyNonRefSimple m.addr c = .ok (m', c')) :
    MapInv T D m' ∧ m'.toList = m.toList ∧ m'.ty = m.ty ∧ m'.count = m.count ∧ m'.seed = m.seed ∧
      m'.isInlined = false ∧
      (∃ s', m'.singleData = some s' ∧ s'.hdr.size = mapRootDataSlabPrefixSize + s'.elems.size) ∧
      m'.rootID.addr = m.addr ∧ c.ctr < m'.rootID.idx ∧ m'.rootID.idx ≤ c'.ctr ∧ m'.rootID ∉ m.slabIds := by
  obtain ⟨s, hs, hinv, hcnt, hdist, hsz, hroot, _, _, hold⟩ := inlined_map_copy_hyps hT D m c.ctr h hband
  obtain ⟨g1, g2, g3, g4, g5⟩ := copy_content_eq_map m m.addr c m' c' hc
  obtain ⟨s', e1, e2, _⟩ := copy_size_rebased_map m m.addr c m' c' hc s hs hsz hroot
  obtain ⟨f1, f2, f3, f4, _⟩ := result_ids_fresh_map_copy m m.addr c m' c' hc m.slabIds hold
  exact ⟨copy_inv_map T D m m.addr c m' c' hc s hs hinv hcnt hdist, g1, g2, g3, g4, g5, ⟨s', e1, e2⟩, f1, f2, f3, f4⟩

/-! ## Where inlined sources come from, and non-vacuity

`MapDataSlab.Inline` (`OMap.inlineRoot`) applied to a valid single-slab map — e.g. a bulk-built
one — gives a map satisfying `MapInvInl`: the hypotheses of `copy_of_inlined_map` are met by the
inlined form of every valid small map whose inlined size is within the band. -/

theorem inlineRoot_invInl (D : DigestFn (r + 1)) (m : OMap r) (ctr : Nat) (h : MapInvI T D m ctr)
    (hd : m.d = 0) : MapInvInl T D m.inlineRoot ctr := by
  obtain ⟨d, root, ty, cnt, seed⟩ := m
  simp only at hd
  subst hd
  obtain ⟨hinv, hids⟩ := h
  have hdata : MDataInv T D true (root : MDataSlab r) := (mtreeInv_zero_iff T D true root).mp hinv.tree
  have hnext : (root : MDataSlab r).next = SlabID.undef := hinv.chain
  refine ⟨_, ty, cnt, seed, rfl, hdata.root_eq, rfl, hnext, hdata.elems_inv, rfl, hdata.first_eq, hinv.count_eq, ?_⟩
  intro id hid _
  have hid' : id ∈ CtxOk.mapSlabIds 0 (root : MDataSlab r) := by
    rw [mapSlabIds_zero] at hid
    rw [mapSlabIds_zero (root : MDataSlab r)]
    exact hid
  exact (hids.2 id hid').2.2

section NonVacuity
open MapExample

/-- an inlined array as the World invariant describes it: two 10-byte elements, identifier 7.3 -/
def inlArr : Arr :=
  ⟨0, ofData { hdr := { id := ⟨7, 3⟩, size := 37, count := 2 }, next := SlabID.undef,
               elems := [⟨10, .val 1⟩, ⟨10, .val 2⟩], root := true, inlined := true }, 0⟩

theorem inlArr_inv : ArrInvInl 256 inlArr 5 :=
  ⟨_, 0, rfl, rfl, rfl, rfl, rfl, rfl,
    by
      intro e he
      have he' : e ∈ [(⟨10, .val 1⟩ : Elem), ⟨10, .val 2⟩] := he
      simp only [List.mem_cons, List.not_mem_nil, or_false] at he'
      rcases he' with rfl | rfl <;> exact ⟨by decide, by decide⟩,
    by decide, by decide, by decide⟩

/-- the hypotheses of `copy_of_inlined_array` are met, and the copy is offered and succeeds -/
example : ArrInvInl 256 inlArr 5 ∧ inlArr.rootHdr.size ≤ maxThr 256 ∧
    ∃ a' c', inlArr.copyNonRefSimple 7 { ctr := 5, eff := [] } = .ok (a', c') ∧ ArrInv 256 a' c'.ctr ∧
      a'.toList = inlArr.toList ∧ a'.rootHdr.size = 25 := by
  refine ⟨inlArr_inv, by decide, ?_⟩
  obtain ⟨a', c', hc⟩ := (copy_succeeds_when_offered_array inlArr 7 { ctr := 5, eff := [] }).mpr (by decide)
  obtain ⟨h1, h2, _, _, _, h6, _⟩ := copy_of_inlined_array (T := 256) (by decide) inlArr 7 { ctr := 5, eff := [] }
    inlArr_inv (by decide) a' c' hc
  refine ⟨a', c', hc, h1, h2, ?_⟩
  rw [h6, h2]; rfl

/-- a bulk-built three-pair map, inlined by `MapDataSlab.Inline` -/
def smallKvs : List (MKey × Elem) := [(key 100, val 1), (key 200, val 2), (key 300, val 3)]
def smallBuilt : BRes (OMap 1 × Ctx) := OMap.fromBatchData cfg2 0 12345 smallKvs { ctr := 40, eff := [] }

theorem smallBuilt_shape :
    (match smallBuilt with
     | .ok (m, _) => decide (m.d = 0) && decide (m.inlineRoot.rootHdr.size ≤ maxThr 256) &&
         m.inlineRoot.canCopyNonRefSimple
     | .error _ => false) = true := by
  decide

/-- the hypotheses of `copy_of_inlined_map` are met by the inlined form of a bulk-built map -/
example : ∃ (m : OMap 1) (c' : Ctx), smallBuilt = .ok (m, c') ∧ MapInvInl 256 D2 m.inlineRoot c'.ctr ∧
    m.inlineRoot.rootHdr.size ≤ maxThr 256 ∧ m.inlineRoot.canCopyNonRefSimple = true := by
  obtain ⟨m, c', h1, h2, _⟩ := batch_map_invI D2 (T := 256) (by decide) cfg2 rfl rfl 0 12345 (by decide) smallKvs
    (by intro p hp; simp only [smallKvs, List.mem_cons, List.not_mem_nil, or_false] at hp
        rcases hp with rfl | rfl | rfl <;> exact ⟨key_ok _, val_ok _⟩)
    (by decide) (by unfold KeysDistinct; decide) { ctr := 40, eff := [] }
  have hb : smallBuilt = .ok (m, c') := h1
  have hs := smallBuilt_shape
  rw [hb] at hs
  simp only [Bool.and_eq_true, decide_eq_true_eq] at hs
  exact ⟨m, c', hb, inlineRoot_invInl D2 m c'.ctr h2 hs.1.1, hs.1.2, hs.2⟩

end NonVacuity

end Atree.C17

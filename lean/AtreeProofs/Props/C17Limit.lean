import AtreeProofs.Props.C17
import AtreeProofs.Props.C12
import AtreeProofs.Map.Example
/-
  C17 / C12 — bulk map build and the collision limit.

  `NewMapFromBatchData` does not consult `maxCollisionLimitPerDigest`: a colliding pair goes
  through `prevElem.Set` (map.go:229-256), the limit lives in `hkeyElements.Set`
  (map_elements_hashkey.go:292-327).  `MapInv` has no limit clause — the limit is a setting of
  the single operations, not part of the structure — so `batch_map_inv` is true as stated.
  What holds about the limit:

  * `batch_map_may_exceed_limit` — a caller-made stream with more keys per first-level digest than
    the limit admits is accepted and yields a structurally valid map, although single operations
    under the same limit refuse the second key (model example; the harness counts the same fact
    on the implementation as `observation:batch-build-ignores-collision-limit`);
  * `batch_map_within_limit` / `batch_map_within_limit_of_source` — the result has exactly the
    keys of the stream, so if every first-level digest group of the stream holds at most
    `climit + 1` keys — in particular if the stream is the enumeration of a map that single
    operations built under `climit` — so does the result.
-/
namespace Atree.C17
open Atree Gen

/-- number of pairs of the sequence whose key has first-level digest `h` -/
def groupSize (kvs : List (MKey × Elem)) (h : Nat) : Nat :=
  (kvs.filter (fun p => p.1.dig 0 == h)).length

/-- Every first-level digest group of the pair sequence holds at most `climit + 1` entries: what
    single operations under collision limit `climit` maintain (`hkeyElements.Set` refuses a new
    key when the group already holds `climit + 1`, C12.limit_refuses_new_key). -/
def SeqWithinLimit (climit : Nat) (kvs : List (MKey × Elem)) : Prop :=
  ∀ h, groupSize kvs h ≤ climit + 1

theorem groupSize_zipWith (f : MKey × Elem → Ctx → MKey × Elem) (hf : ∀ p c, (f p c).1 = p.1) (h : Nat) :
    ∀ (kvs : List (MKey × Elem)) (cs : List Ctx), cs.length = kvs.length →
      groupSize (List.zipWith f kvs cs) h = groupSize kvs h
  | [], _, _ => by simp [groupSize]
  | p :: kvs, [], hl => by simp at hl
  | p :: kvs, c :: cs, hl => by
    have ih := groupSize_zipWith f hf h kvs cs (by simpa using hl)
    unfold groupSize at ih ⊢
    simp only [List.zipWith_cons_cons, List.filter_cons, hf]
    split <;> simp [ih]

theorem zipWith_keys (f : MKey × Elem → Ctx → MKey × Elem) (hf : ∀ p c, (f p c).1 = p.1) :
    ∀ (kvs : List (MKey × Elem)) (cs : List Ctx), cs.length = kvs.length →
      (List.zipWith f kvs cs).map Prod.fst = kvs.map Prod.fst
  | [], _, _ => by simp
  | p :: kvs, [], hl => by simp at hl
  | p :: kvs, c :: cs, hl => by
    simp only [List.zipWith_cons_cons, List.map_cons, hf, List.cons.injEq, true_and]
    exact zipWith_keys f hf kvs cs (by simpa using hl)

theorem groupSize_perm {a b : List (MKey × Elem)} (hp : a.Perm b) (h : Nat) : groupSize a h = groupSize b h :=
  (hp.filter _).length_eq

theorem groupSize_of_keys {a b : List (MKey × Elem)} (hk : a.map Prod.fst = b.map Prod.fst) (h : Nat) :
    groupSize a h = groupSize b h := by
  induction a generalizing b with
  | nil => cases b with
    | nil => rfl
    | cons _ _ => simp at hk
  | cons x a ih =>
    cases b with
    | nil => simp at hk
    | cons y b =>
      simp only [List.map_cons, List.cons.injEq] at hk
      have := ih hk.2
      unfold groupSize at this ⊢
      simp only [List.filter_cons, hk.1]
      split <;> simp [this]

/-- The bulk build of a stream that is sorted, duplicate-free and within the limit succeeds with
    a valid map that is within the limit (whatever limit the configuration carries: the build
    never looks at it). -/
theorem batch_map_within_limit {T r : Nat} (D : DigestFn (r + 1)) (hT : legalThreshold T = true)
    (cfg : MCfg) (hcT : cfg.T = T) (hcL : cfg.L = r + 1) (ty seed : Nat) (hseed : seed ≠ 0)
    (kvs : List (MKey × Elem)) (hkv : ∀ p ∈ kvs, KeyOk T (r + 1) D p.1 ∧ ValueOkM p.2)
    (hs : (kvs.map (fun p => p.1.dig 0)).Pairwise (· ≤ ·)) (hd : KeysDistinct kvs) (c : Ctx)
    (hlim : SeqWithinLimit cfg.climit kvs) :
    ∃ (m : OMap r) (c' : Ctx), OMap.fromBatchData cfg ty seed kvs c = .ok (m, c') ∧ MapInv T D m ∧
      (m.toList.map Prod.fst).Perm (kvs.map Prod.fst) ∧ SeqWithinLimit cfg.climit m.toList := by
  obtain ⟨m, c', h1, h2, _, _, _, cs, hcs, hperm⟩ := batch_map_inv D hT cfg hcT hcL ty seed hseed kvs hkv hs hd c
  refine ⟨m, c', h1, h2, ?_, ?_⟩
  · refine (hperm.map Prod.fst).trans (List.Perm.of_eq ?_)
    exact zipWith_keys (fun p c => (p.1, storedValue cfg p.1 p.2 c)) (fun _ _ => rfl) kvs cs hcs
  · intro h
    rw [groupSize_perm hperm h,
      groupSize_zipWith (fun p c => (p.1, storedValue cfg p.1 p.2 c)) (fun _ _ => rfl) h kvs cs hcs]
    exact hlim h

/-- C17 + C12: a bulk copy of a legal source never exceeds the limit.  `src` is a valid map whose
    first-level groups are within the limit (what single operations under `cfg.climit` build); the
    stream has the keys of `src` in its iteration order (the values are whatever the caller reads
    back: plain values of any size).  Then the build succeeds, the result is valid, has the keys
    of the source and is within the limit. -/
theorem batch_map_within_limit_of_source {T r : Nat} (D : DigestFn (r + 1)) (hT : legalThreshold T = true)
    (cfg : MCfg) (hcT : cfg.T = T) (hcL : cfg.L = r + 1) (ty seed : Nat) (hseed : seed ≠ 0)
    (src : OMap r) (hsrc : MapInv T D src) (hlim : SeqWithinLimit cfg.climit src.toList)
    (kvs : List (MKey × Elem)) (hkeys : kvs.map Prod.fst = src.toList.map Prod.fst)
    (hval : ∀ p ∈ kvs, ValueOkM p.2) (c : Ctx) :
    ∃ (m : OMap r) (c' : Ctx), OMap.fromBatchData cfg ty seed kvs c = .ok (m, c') ∧ MapInv T D m ∧
      (m.toList.map Prod.fst).Perm (src.toList.map Prod.fst) ∧ SeqWithinLimit cfg.climit m.toList := by
  have hkv : ∀ p ∈ kvs, KeyOk T (r + 1) D p.1 ∧ ValueOkM p.2 := by
    intro p hp
    refine ⟨?_, hval p hp⟩
    have : p.1 ∈ src.toList.map Prod.fst := by rw [← hkeys]; exact List.mem_map.2 ⟨p, hp, rfl⟩
    obtain ⟨q, hq, hqe⟩ := List.mem_map.1 this
    rw [← hqe]; exact hsrc.allKeyOk q hq
  have hs : (kvs.map (fun p => p.1.dig 0)).Pairwise (· ≤ ·) := by
    have h0 := C12.order_canonical T D src hsrc
    have e1 : kvs.map (fun p => p.1.dig 0) = (kvs.map Prod.fst).map (fun k => k.dig 0) := by simp
    have e2 : src.toList.map (fun p => p.1.digs) = (src.toList.map Prod.fst).map (fun k => k.digs) := by simp
    rw [e1, hkeys, List.pairwise_map]
    rw [e2, List.pairwise_map] at h0
    refine h0.imp ?_
    intro a b hab
    rcases hab with hab | hab
    · simp [MKey.dig, hab]
    · unfold MKey.dig
      generalize a.digs = x at hab ⊢
      generalize b.digs = y at hab ⊢
      cases hab with
      | nil => simp
      | rel hlt => simp; omega
      | cons _ => simp
  have hd : KeysDistinct kvs := by
    have h0 := hsrc.distinct
    unfold KeysDistinct at h0 ⊢
    have e : ∀ l : List (MKey × Elem), l.Pairwise (fun a b => a.1.same b.1 = false) ↔
        (l.map Prod.fst).Pairwise (fun a b => a.same b = false) := by
      intro l; rw [List.pairwise_map]
    rw [e, hkeys, ← e]; exact h0
  have hl : SeqWithinLimit cfg.climit kvs := fun h => by rw [groupSize_of_keys hkeys h]; exact hlim h
  obtain ⟨m, c', h1, h2, h3, h4⟩ := batch_map_within_limit D hT cfg hcT hcL ty seed hseed kvs hkv hs hd c hl
  exact ⟨m, c', h1, h2, hkeys ▸ h3, h4⟩

/-! ### The exception: a caller-made stream exceeding the limit is accepted

Collision limit 0 (no two keys may share a first-level digest), digests `D2` of
`AtreeProofs/Map/Example.lean` (hundreds and tens digit of the payload): the keys 311, 321, 331
share the first-level digest 3 and have the second-level digests 1, 2, 3. -/
section Exceed
open MapExample

def cfgL0 : MCfg := { T := 256, L := 2, climit := 0, addr := 7 }
def kvs3 : List (MKey × Elem) := [(key 311, val 1), (key 321, val 2), (key 331, val 3)]
def built3 : BRes (OMap 1 × Ctx) := OMap.fromBatchData cfgL0 0 12345 kvs3 { ctr := 0, eff := [] }

/-- the stream is not within limit 0: three keys under first-level digest 3 -/
theorem kvs3_exceeds : ¬ SeqWithinLimit cfgL0.climit kvs3 := by
  intro h; have := h 3; revert this; decide

/-- … the bulk build at limit 0 accepts it: a map of three keys under one first-level digest,
    valid (`MapInv`, by `batch_map_inv`) … -/
theorem batch_map_may_exceed_limit :
    ∃ (m : OMap 1) (c' : Ctx), built3 = .ok (m, c') ∧ MapInv 256 D2 m ∧ m.count = 3 ∧
      C12.firstLevelGroupCount m (key 341) = 3 ∧ ¬ SeqWithinLimit cfgL0.climit m.toList := by
  obtain ⟨m, c', h1, h2, _, _, h5, _⟩ := batch_map_inv D2 (T := 256) (by decide) cfgL0 rfl rfl 0 12345 (by decide) kvs3
    (by intro p hp; simp only [kvs3, List.mem_cons, List.not_mem_nil, or_false] at hp
        rcases hp with rfl | rfl | rfl <;> exact ⟨key_ok _, val_ok _⟩)
    (by decide) (by unfold KeysDistinct; decide) { ctr := 0, eff := [] }
  refine ⟨m, c', h1, h2, h5, ?_, ?_⟩
  · have : built3 = .ok (m, c') := h1
    have hm : (match built3 with | .ok (m, _) => C12.firstLevelGroupCount m (key 341) | .error _ => 0) = 3 := by decide
    rw [this] at hm; exact hm
  · have : built3 = .ok (m, c') := h1
    have hm : (match built3 with | .ok (m, _) => groupSize m.toList 3 | .error _ => 0) = 3 := by decide
    rw [this] at hm
    simp only at hm
    intro h
    have h3 : groupSize m.toList 3 ≤ 0 + 1 := h 3
    omega

/-- single operations at limit 0 on the empty map: `Set(311)`, then `Set(321)` -/
def firstSet : Except MErr (Option Elem × OMap 1 × Ctx) :=
  let s0 : OMap 1 × Ctx := OMap.new (r := 1) cfgL0.addr 0 (fun id => id.idx) { ctr := 0, eff := [] }
  s0.1.set cfgL0 (key 311) (val 1) s0.2
def secondSet : Except MErr (Option Elem × OMap 1 × Ctx) :=
  match firstSet with
  | .ok (_, m1, c1) => m1.set cfgL0 (key 321) (val 2) c1
  | .error e => .error e

/-- … whereas single operations at limit 0 accept the first of these keys and refuse already
    the second with the collision-limit error. -/
theorem single_ops_refuse_second_key :
    (match firstSet with | .ok (none, _, _) => true | _ => false) = true ∧
    (match secondSet with | .error .collisionLimit => true | _ => false) = true := by
  decide

end Exceed

end Atree.C17

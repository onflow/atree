import AtreeProofs.Props.C17
import AtreeProofs.Batch.BytesProof
import AtreeProofs.Batch.CopyKeys
import AtreeProofs.Map.TreeTop
/-
  C17 — freshness of the byte array's slab IDs, rejection of a plain non-byte element by
  `ByteArrayToByteSlice`, the key conjunct of the map copyability predicate.
-/
namespace Atree.C17
open Atree Gen ATree MetaSlab

/-- `result_ids_fresh` for `ByteSliceToByteArray` (fast path and bulk-build fallback, every
    estimate): every slab ID of the byte array was allocated during the call — owner `addr`, index
    above the counter before the call, at most the counter after it — so the array shares no slab
    with anything that existed before. -/
theorem bytes_ids_fresh (T addr ty est : Nat) (hT : legalThreshold T = true) (bsize : Nat → Nat)
    (bs : List Nat) (hb : ∀ b ∈ bs, 1 ≤ bsize b ∧ bsize b ≤ maxInlineArr T)
    (hlen : bs.length ≤ maxArrayElementCount) (c : Ctx) (a : Arr) (c' : Ctx)
    (h : Bytes.byteSliceToByteArray T addr ty bsize bs est c = .ok (a, c')) :
    ∀ id ∈ ATree.slabIds a.d a.root, id.addr = addr ∧ c.ctr < id.idx ∧ id.idx ≤ c'.ctr :=
  byteSliceToByteArray_ids_fresh hT addr ty est bsize bs hb (by omega) c a c' h

/-- `ByteArrayToByteSlice` rejects (UnexpectedElementTypeError) every valid array one of whose
    elements — in any data slab — is not a plain value of the caller's byte type `T`: a reference,
    or a plain value of another type (`isT e = false`). -/
theorem bytes_rejects_nonbyte (T : Nat) (isT : Elem → Bool) (a : Arr) (ctr : Nat) (h : ArrInv T a ctr)
    (hbad : ∃ e ∈ a.toList, ¬ (e.isPlain ∧ isT e = true)) :
    Bytes.byteArrayToByteSlice isT a = .error .unexpectedElemType :=
  byteArrayToByteSlice_rejects isT a ctr h hbad

/-- … and accepts every valid array whose elements all are, returning their payloads in order. -/
theorem bytes_accepts_iff (T : Nat) (isT : Elem → Bool) (a : Arr) (ctr : Nat) (h : ArrInv T a ctr) :
    (∃ bs, Bytes.byteArrayToByteSlice isT a = .ok bs) ↔ ∀ e ∈ a.toList, e.isPlain ∧ isT e = true := by
  constructor
  · rintro ⟨bs, hbs⟩
    apply Classical.byContradiction
    intro hn
    have : ∃ e ∈ a.toList, ¬ (e.isPlain ∧ isT e = true) := by
      simpa [Classical.not_forall] using hn
    rw [byteArrayToByteSlice_rejects isT a ctr h this] at hbs
    cases hbs
  · intro hall
    exact ⟨_, byteArrayToByteSlice_spec isT a ctr h hall⟩

/-- non-vacuity of `bytes_rejects_nonbyte`: the array holding the single plain element `⟨4, val 7⟩`
    is rejected as soon as the element is not of the byte type, accepted when it is. -/
def exNonByte : Arr := ⟨0, ofData (rootSlab ⟨1, 1⟩ [{ size := 4, pay := .val 7 }]), 1⟩

example : Bytes.byteArrayToByteSlice (fun _ => false) exNonByte = .error .unexpectedElemType := rfl
example : Bytes.byteArrayToByteSlice (fun _ => true) exNonByte = .ok [7] := rfl

/-- Key conjunct of `singleElement.canCopyNonRefSimple` (`e.key.CanCopyNonRefSimple() && …`): for
    a valid map (all keys within the inline key limit, `MapInv`) the Go predicate with the key
    conjunct equals the value-only predicate the other copy theorems speak about; hence
    `can_copy_iff_map` / `copy_succeeds_when_offered_map` are statements about the Go function on
    every map the model covers. -/
theorem can_copy_key_conjunct {T r : Nat} (D : DigestFn (r + 1)) (m : OMap r) (h : MapInv T D m) :
    m.canCopyNonRefSimpleK T = m.canCopyNonRefSimple :=
  OMap.canCopyK_eq T m (fun p hp => (h.allKeyOk p hp).2.2)

/-- … and outside the key limit the conjunct decides: a single-slab map with one plain pair whose
    key is larger than `maxInlineMapKey` (T = 1024: 245) is not copyable for Go, while the value-only
    predicate says it is (such maps are outside `MapInv`). -/
def exBigKey : SElem := { key := { size := 255, pay := 1, digs := [5, 6] }, val := { size := 4, pay := .val 1 }, size := 261 }

example : exBigKey.canCopyK 1024 = false := by decide
example : exBigKey.canCopy = true := by decide

end Atree.C17

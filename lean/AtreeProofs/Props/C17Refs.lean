import AtreeProofs.Props.C17Ids
import AtreeProofs.Batch.ArrayRefsBuild
import AtreeProofs.BatchRefsSpec
import AtreeProofs.E2ESpec
/-
  C17 — large values in a bulk build.  Property theorems.

  `C17.batch_map_content` / `batch_array_content` say that a value above the inline limit is held
  as "the stored form under some storage context", i.e. as some 19-byte reference.  Here: the
  reference resolves — in the table of created large-value slabs of the context after the call
  (`Ctx.created`, what `Value.Storable` stored) — to the input value; its identifier was allocated
  during the call, is different from every other reference of the result and is not a slab of the
  result tree (`MRefsOk` / `ARefsOk`, the invariants single operations preserve, `Props/C09MapRefs`,
  `Props/C09Refs`).  `E2E.values`-style: the resolved content of the result is the input stream.

  Hypothesis `CreatedTableOk addr c` on the context the call starts from: the created-slab table
  holds no identifier of the owner above the allocation counter (every context reached by running
  operations from an empty table satisfies it; without it a stale table entry under the next
  identifier would shadow the slab the call creates).
-/
namespace Atree.C17
open Atree Gen

variable {T r : Nat}

theorem keysDistinct_unique {l : List (MKey × Elem)} (h : KeysDistinct l) {k : MKey} {v v' : Elem}
    (h1 : (k, v) ∈ l) (h2 : (k, v') ∈ l) : v = v' := by
  induction l with
  | nil => simp at h1
  | cons a l ih =>
    unfold KeysDistinct at h
    rw [List.pairwise_cons] at h
    simp only [List.mem_cons] at h1 h2
    rcases h1 with h1 | h1 <;> rcases h2 with h2 | h2
    · rw [← h1] at h2; exact (Prod.mk.inj h2).2.symm
    · have := h.1 _ h2
      rw [← h1] at this
      simp [MKey.same_self] at this
    · have := h.1 _ h1
      rw [← h2] at this
      simp [MKey.same_self] at this
    · exact ih h.2 h1 h2

theorem keysDistinct_nodup {l : List (MKey × Elem)} (h : KeysDistinct l) : l.Nodup := by
  unfold KeysDistinct at h
  refine h.imp ?_
  intro a b hab he
  rw [he, MKey.same_self] at hab
  cases hab

/-- Large values of a bulk-built map.  If `NewMapFromBatchData` succeeds on a stream of pairs with
    keys within the key limit and plain values of any size ≥ 1, started in a context with a sound
    created-slab table, then
    * the references of the result are well formed (`MRefsOk`: pairwise different, no slab of the
      result tree, owner address, index ≥ 1 and ≤ the counter after the call) and every one was
      allocated during the call (index above the counter before it);
    * for every input pair whose value is above the inline limit for its key the result holds
      `(key, ⟨19, .ref id⟩)` and `id` resolves to the input value in the created-slab table;
    * every input pair whose value is within the limit is held as it is;
    * the resolved pair sequence of the result is the input stream (as a multiset; the order
      inside a first-level collision group follows the deeper digests, `C17.batch_map_content`). -/
theorem batch_map_refs_resolve (D : DigestFn (r + 1)) (hT : legalThreshold T = true) (cfg : MCfg)
    (hcT : cfg.T = T) (hcL : cfg.L = r + 1) (ty seed : Nat) (kvs : List (MKey × Elem))
    (hkv : ∀ p ∈ kvs, KeyOk T (r + 1) D p.1 ∧ ValueOkM p.2) (c : Ctx) (hcr : CreatedTableOk cfg.addr c)
    (m : OMap r) (c' : Ctx) (h : OMap.fromBatchData cfg ty seed kvs c = .ok (m, c')) :
    MRefsOk m c'.ctr ∧ (∀ id ∈ m.refIds, c.ctr < id.idx) ∧ CreatedTableOk cfg.addr c' ∧
    (∀ p ∈ kvs, maxInlineMapValue T p.1.size < p.2.size →
      ∃ id, (p.1, (⟨slabIDStorableSize, .ref id⟩ : Elem)) ∈ m.toList ∧ AList.find? c'.created id = some p.2 ∧
        id ∈ m.refIds) ∧
    (∀ p ∈ kvs, p.2.size ≤ maxInlineMapValue T p.1.size → p ∈ m.toList) ∧
    (m.toList.map (resolvePair c'.created)).Perm kvs := by
  obtain ⟨hF, _, hrest⟩ := fromBatchData_ids (D := D) hT ⟨hcT, hcL⟩ ty seed kvs hkv c m c' h
  obtain ⟨hcr', hrepr⟩ := hrest hcr
  rw [hcT] at hrepr
  obtain ⟨hdist, ⟨cs, hcs, hperm⟩, hdistm⟩ := batch_map_content D hT cfg hcT hcL ty seed kvs hkv c m c' h
  have haddr : m.addr = cfg.addr := (hF.fresh (List.mem_append.mpr (Or.inl m.rootID_mem_slabIds))).1
  -- every input pair has a stored pair under its key, which represents it
  have hstored : ∀ p ∈ kvs, ∃ e, (p.1, e) ∈ m.toList ∧ Represents T c'.created p.1 p.2 e := by
    intro p hp
    obtain ⟨c1, hc1⟩ := mem_zipWith_of_mem (fun p c => (p.1, storedValue cfg p.1 p.2 c)) kvs cs hcs p hp
    have hm := hperm.mem_iff.mpr hc1
    obtain ⟨v, hv, hr⟩ := hrepr _ hm
    have : v = p.2 := keysDistinct_unique hdist hv (by exact hp)
    subst this
    exact ⟨_, hm, hr⟩
  refine ⟨?_, ?_, hcr', ?_, ?_, ?_⟩
  · have hnd := hF.nodup
    rw [List.nodup_append] at hnd
    refine ⟨hnd.2.1, ?_⟩
    intro id hid
    have hf := hF.fresh (List.mem_append.mpr (Or.inr hid))
    refine ⟨?_, by rw [haddr]; exact hf.1, Nat.lt_of_le_of_lt (Nat.zero_le _) hf.2.1, hf.2.2⟩
    rw [← OMap.slabIds_eq_keys]
    intro hin
    exact hnd.2.2 id hin id hid rfl
  · intro id hid
    exact (hF.fresh (List.mem_append.mpr (Or.inr hid))).2.1
  · intro p hp hbig
    obtain ⟨e, hm, hr⟩ := hstored p hp
    rcases hr with ⟨hs, _⟩ | ⟨_, id, rfl, hf⟩
    · exact absurd hs (Nat.not_le_of_lt hbig)
    · refine ⟨id, hm, hf, ?_⟩
      unfold OMap.refIds OMap.refsOf
      exact List.mem_filterMap.mpr ⟨_, hm, rfl⟩
  · intro p hp hsmall
    obtain ⟨e, hm, hr⟩ := hstored p hp
    rcases hr with ⟨_, rfl⟩ | ⟨hb, _⟩
    · exact hm
    · exact absurd hsmall (Nat.not_le_of_lt hb)
  · have hlen : (m.toList.map (resolvePair c'.created)).length = kvs.length := by
      rw [List.length_map, hperm.length_eq, List.length_zipWith, hcs, Nat.min_self]
    have hsub : m.toList.map (resolvePair c'.created) ⊆ kvs := by
      intro q hq
      obtain ⟨p, hp, rfl⟩ := List.mem_map.mp hq
      obtain ⟨v, hv, hr⟩ := hrepr p hp
      have := (represents_iff.1 hr).resolve (hkv _ hv).2.2
      simp only [resolvePair]
      simp only at this
      rw [this]
      exact hv
    have hnd : (m.toList.map (resolvePair c'.created)).Nodup := by
      unfold List.Nodup
      rw [List.pairwise_map]
      refine (show m.toList.Pairwise (fun a b => a.1.same b.1 = false) from hdistm).imp ?_
      intro a b hab he
      have hk : (resolvePair c'.created a).1 = (resolvePair c'.created b).1 := congrArg Prod.fst he
      have hk' : a.1 = b.1 := hk
      rw [hk', MKey.same_self] at hab
      cases hab
    exact (List.subperm_of_subset hnd hsub).perm_of_length_le (Nat.le_of_eq hlen.symm)

theorem forall2_reprA_resolve {T : Nat} {created : List (SlabID × Elem)} {vs es : List Elem}
    (hvs : ∀ v ∈ vs, ValueOk v) (h : List.Forall₂ (ReprA T created) vs es) :
    es.map (E2E.resolve created) = vs := by
  induction h with
  | nil => rfl
  | cons h1 _ ih =>
    rw [List.map_cons, (reprA_iff.1 h1).resolve (hvs _ (by simp)).2, ih (fun v hv => hvs v (by simp [hv]))]

/-- Large values of a bulk-built array.  If `NewArrayFromBatchData` succeeds on plain values of
    any size ≥ 1, started in a context with a sound created-slab table, then
    * the references of the result are well formed (`ARefsOk`: pairwise different, no slab of the
      result tree, owner address, index ≥ 1 and ≤ the counter after the call) and every one was
      allocated during the call;
    * position by position (`List.Forall₂`) the element stored for an input value within the
      inline limit is the value, and the element stored for a value above the limit is
      `⟨19, .ref id⟩` with `id` resolving to that input value in the created-slab table;
    * the value sequence the result represents (`E2E.values`: references resolved) is the input. -/
theorem batch_array_refs_resolve (T addr ty : Nat) (hT : legalThreshold T = true) (vs : List Elem)
    (hvs : ∀ v ∈ vs, ValueOk v) (c : Ctx) (hcr : CreatedTableOk addr c)
    (a : Arr) (c' : Ctx) (h : Arr.fromBatchData T addr ty vs c = .ok (a, c')) :
    ARefsOk a c'.ctr ∧ (∀ id ∈ a.refIds, c.ctr < id.idx) ∧ CreatedTableOk addr c' ∧
    List.Forall₂ (ReprA T c'.created) vs a.toList ∧
    E2E.values (a, c') = vs := by
  obtain ⟨hF, hrest⟩ := arr_fromBatchData_refs hT addr ty vs hvs c a c' h
  obtain ⟨hcr', hrepr⟩ := hrest hcr
  have haddr : a.addr = addr :=
    (hF.fresh (List.mem_append.mpr (Or.inl (hdr_id_mem_slabIds a.d a.root)))).1
  have hnd := hF.nodup
  rw [List.nodup_append] at hnd
  refine ⟨⟨hnd.2.1, ?_, ?_⟩, ?_, hcr', hrepr, ?_⟩
  · intro id hid hin
    exact hnd.2.2 id hin id hid rfl
  · intro id hid
    have hf := hF.fresh (List.mem_append.mpr (Or.inr hid))
    exact ⟨by rw [haddr]; exact hf.1, Nat.lt_of_le_of_lt (Nat.zero_le _) hf.2.1, hf.2.2⟩
  · intro id hid
    exact (hF.fresh (List.mem_append.mpr (Or.inr hid))).2.1
  · exact forall2_reprA_resolve hvs hrepr

/-! ## Non-vacuity

Maps: the two-level build `idsBuilt` of Props/C17Ids.lean (24 pairs, external collision group, the
value of key 500 has 300 bytes): it starts from an empty created-slab table; the result holds one
reference and it resolves to the 300-byte value.
Arrays: 40 values at threshold 256 from counter 40, the values at positions 3 and 30 have 300
bytes: two levels, two references. -/
section NonVacuity
open MapExample

theorem idsCtx_created : CreatedTableOk cfg2.addr idsCtx := by
  intro p hp; cases hp

theorem idsBuilt_refs :
    (match idsBuilt with
     | .ok (m, c') => decide (m.refIds.map (AList.find? c'.created) = [some ⟨300, .val 500⟩]) &&
         decide (m.d = 1)
     | .error _ => false) = true := by
  decide +kernel

example : ∃ (m : OMap 1) (c' : Ctx), idsBuilt = .ok (m, c') ∧ MRefsOk m c'.ctr ∧ m.refIds.length = 1 ∧
    (m.toList.map (resolvePair c'.created)).Perm idsKvs := by
  obtain ⟨m, c', hb, _⟩ := idsBuilt_invI
  obtain ⟨g1, _, _, _, _, g6⟩ := batch_map_refs_resolve D2 legal256 cfg2 rfl rfl 0 12345 idsKvs idsKvs_ok
    idsCtx idsCtx_created m c' hb
  have hs := idsBuilt_shape
  rw [hb] at hs
  simp only [Bool.and_eq_true, decide_eq_true_eq] at hs
  exact ⟨m, c', hb, g1, hs.1.1.2, g6⟩

def arrVals : List Elem :=
  (List.range 40).map (fun i => if i = 3 ∨ i = 30 then ({ size := 300, pay := .val i } : Elem) else { size := 20, pay := .val i })

def arrBuilt : BRes (Arr × Ctx) := Arr.fromBatchData 256 7 0 arrVals { ctr := 40, eff := [] }

theorem arrVals_ok : ∀ v ∈ arrVals, ValueOk v := by
  intro v hv
  obtain ⟨n, _, rfl⟩ := List.mem_map.mp hv
  split
  · exact ⟨(by decide : 1 ≤ 300), _, rfl⟩
  · exact ⟨(by decide : 1 ≤ 20), _, rfl⟩

theorem arrBuilt_shape :
    (match arrBuilt with
     | .ok (a, c') => decide (a.d = 1) && decide (a.refIds.length = 2) && decide (40 < c'.ctr) &&
         decide (a.refIds.map (AList.find? c'.created) = [some ⟨300, .val 3⟩, some ⟨300, .val 30⟩])
     | .error _ => false) = true := by
  decide +kernel

example : ∃ (a : Arr) (c' : Ctx), arrBuilt = .ok (a, c') ∧ a.d = 1 ∧ a.refIds.length = 2 ∧ ARefsOk a c'.ctr ∧
    E2E.values (a, c') = arrVals := by
  obtain ⟨a, c', h1, _⟩ := batch_array_inv 256 7 0 (by decide) arrVals { ctr := 40, eff := [] } arrVals_ok (by decide)
  obtain ⟨g1, _, _, _, g5⟩ := batch_array_refs_resolve 256 7 0 (by decide) arrVals arrVals_ok { ctr := 40, eff := [] }
    (by intro p hp; cases hp) a c' h1
  have hb : arrBuilt = .ok (a, c') := h1
  have hs := arrBuilt_shape
  rw [hb] at hs
  simp only [Bool.and_eq_true, decide_eq_true_eq] at hs
  exact ⟨a, c', hb, hs.1.1.1, hs.1.1.2, g1, g5⟩

end NonVacuity

end Atree.C17

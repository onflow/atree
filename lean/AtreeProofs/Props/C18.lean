import AtreeModel.Errors
/-
  C18 — Rejected requests are categorised and leave no trace: the error categories (read from the
  table regenerated from errors.go on every run) and two statements about the request-level wrapper
  `Arr.request`.

  `Arr.request` is DEFINED to return its input state when the operation
  returns an error, so `reject_is_noop` and `history_with_rejections_same_state` below hold by
  construction of that wrapper, for ANY array code; they say nothing about the order of checks and
  mutations in the implementation.  The correspondence check uses exactly this wrapper semantics
  ("EFF -" after a refused request), i.e. they state what the replayer assumes.  The statements
  that depend on the code order are
    * `Props/C18Order.lean`  `arg_checks_precede_effects` – the regenerated statement order of the Go
      request-level functions (a reordering such as seeded changes s06 / s23 breaks it);
    * `Props/C18Reject.lean` `reject_leaves_no_trace`, `map_set_reject_leaves_no_trace`,
      `map_remove_reject_leaves_no_trace` – in-place programs whose state survives an error, tied to
      the functional model by `inplace_request_agrees` / `map_set_inplace_agrees` /
      `map_remove_inplace_agrees`; `history_with_rejections_commits_same_registers` (+ maps) at the
      level of the storage state machine.
-/
namespace Atree.C18
open Atree

/-- Caller mistakes are `User` errors; limit / internal failures are `Fatal`. -/
theorem arg_error_category :
    ctorCategory "NewIndexOutOfBoundsError" = .user ∧
    ctorCategory "NewSliceOutOfBoundsError" = .user ∧
    ctorCategory "NewInvalidSliceIndexError" = .user ∧
    ctorCategory "NewKeyNotFoundError" = .user ∧
    ctorCategory "NewCollisionLimitError" = .fatal ∧
    ctorCategory "NewSlabIDError" = .fatal ∧
    ctorCategory "NewSlabNotFoundError" = .fatal := by
  decide +kernel

/-- Every error kind the array and map models can return for an argument mistake carries the
    matching category. -/
theorem model_error_categories :
    AErr.category .indexOutOfBounds = .user ∧ AErr.category .sliceOutOfBounds = .user ∧
    AErr.category .invalidSliceIndex = .user ∧ MErr.category .keyNotFound = .user ∧
    MErr.category .collisionLimit = .fatal :=
  have h := arg_error_category
  ⟨h.1, h.2.1, h.2.2.1, h.2.2.2.1, h.2.2.2.2.1⟩

/-- An error raised by a caller-supplied component (uncategorised) surfaces as External; an
    already categorised error is passed through unchanged (shape of
    `wrapErrorfAsExternalErrorIfNeeded`, regenerated: `Gen.wrapShapeOk`). -/
theorem callback_failure_is_external :
    wrapExternal .uncategorised = .external ∧
    (∀ c, c ≠ .uncategorised → wrapExternal c = c) ∧
    (∀ c, wrapExternal (wrapExternal c) = wrapExternal c) ∧
    Gen.wrapShapeOk = true := by
  refine ⟨rfl, ?_, ?_, by decide⟩
  · intro c hc; cases c <;> simp_all [wrapExternal]
  · intro c; cases c <;> rfl

/-- (BY CONSTRUCTION of `Arr.request`, see the file comment.)  A rejected array request leaves the
    array and the storage context (allocation counter, effect log, created slabs) exactly as they
    were – in the wrapper's semantics.  The statement about the in-place programs is
    `C18.reject_leaves_no_trace` (Props/C18Reject.lean); `C18.reject_is_noop_inplace` links the two. -/
theorem reject_is_noop (T : Nat) (s : Arr × Ctx) (r : AReq) (e : AErr)
    (h : (Arr.request T s r).2 = .err e) : (Arr.request T s r).1 = s := by
  cases r <;> simp only [Arr.request] at h ⊢ <;> split at h <;> simp_all

/-- (BY CONSTRUCTION of `Arr.request`: induction over `reject_is_noop`.)  A history with rejected
    requests ends in the same state (same tree, same effect log) as the history without them.  The
    statement with in-place semantics and the storage state machine (same pending write set, same
    ledger, hence the same registers at the next commit) is
    `C18.history_with_rejections_commits_same_registers` (Props/C18Reject.lean). -/
theorem history_with_rejections_same_state (T : Nat) (s : Arr × Ctx) (rs : List AReq) :
    (Arr.runRequests T s (Arr.served T s rs)).1 = (Arr.runRequests T s rs).1 := by
  induction rs generalizing s with
  | nil => rfl
  | cons r rs ih =>
    have key : ∀ (s1 : Arr × Ctx) (o : AResp), Arr.request T s r = (s1, o) →
        (Arr.runRequests T s (Arr.served T s (r :: rs))).1 = (Arr.runRequests T s (r :: rs)).1 := by
      intro s1 o hreq
      cases o with
      | err e =>
        have hs : s1 = s := by
          have := reject_is_noop T s r e (by rw [hreq])
          rw [hreq] at this; exact this
        subst hs
        simp only [Arr.served, Arr.runRequests, hreq, AResp.isErr, if_true]
        exact ih s1
      | ok => simp only [Arr.served, Arr.runRequests, hreq, AResp.isErr]; simp [Arr.runRequests, hreq, ih]
      | elem e => simp only [Arr.served, Arr.runRequests, hreq, AResp.isErr]; simp [Arr.runRequests, hreq, ih]
    exact key _ _ rfl

end Atree.C18

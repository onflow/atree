import AtreeModel.Gen.Facts
import AtreeProofs.Props.StringCode
/-
  C18 — "bounds checks precede any mutation", "key-not-found is detected before any mutation",
  "the collision limit is checked before inserting": the CODE ORDER, as a regenerated fact.

  `Gen.argCheckPrefix` is regenerated from the Go sources by harness/cmd/extract on every check
  run.  For every site of a request-level function at which the request can still be refused – a
  `return …, New…Error(…)` statement (`check:<constructor>`) or a call that hands the request down
  to the root / a child slab / an element (`descend:<callee>`, the callee has its own checks) – it
  lists the kinds of the statements that may have been executed before that site (calls with their
  callee, assignments to anything but a local variable, earlier checks, earlier exits).  The
  classification of those kinds is done HERE, in the statement: `allowedBeforeRefusal` is the
  complete list of statement kinds that may precede a refusal; everything else (a call of
  `value.Storable`, `storeSlab`, `storage.Remove`, `GenerateSlabID`, `slices.Insert`, `append`, a
  call of `Set`/`Insert`/`Remove` one level down, an assignment to a field of the receiver or of any
  other object, an unknown helper) counts as an effect.

  Seeded change s06 (`value.Storable` hoisted above the bounds check of `ArrayDataSlab.Insert`) and
  s23 (empty-range shortcut hoisted above the range checks of `Array.RangeIterator`) make this
  theorem fail: see INTEGRATION-fx5.md.
-/
namespace Atree.C18
open Atree

/-- Statement kinds that have no effect on a container, its ancestors or the storage: reads,
    pure helpers, constructors of fresh objects, calls of caller-supplied read-only components
    (comparator, digester, `StoredValue`), earlier checks that did not fire, earlier exits with an
    error, and look-ups handed down (`descend:….Get`). -/
def allowedBeforeRefusal : List String := [
  -- reads of the receiver / the storage
  "call:a.Address", "call:a.Count", "call:a.childSlabIndexInfo", "call:getArraySlab", "call:getMapSlab",
  "call:m.SlabID", "call:m.getChildSlabByDigest", "call:e.getElement", "call:elem.Count", "call:elem.Size",
  "call:storage.Retrieve", "call:errors.As",
  -- caller-supplied read-only components
  "call:m.digesterBuilder.Digest", "call:keyDigest.Digest", "call:digester.Levels", "call:digester.Digest",
  "call:b.Digest", "call:existingKeyDigest.Digest", "call:comparator", "call:e.key.StoredValue",
  "defer:putDigester",
  -- fresh objects
  "call:newSingleElementsWithElement", "call:newHkeyElementsWithElement",
  -- look-ups handed down
  "descend:a.root.Get", "descend:child.Get", "descend:m.get", "descend:m.root.Get", "descend:elem.Get",
  "descend:e.get", "descend:e.elements.Get", "descend:slab.Get",
  -- earlier checks that did not fire
  "check:NewArrayElementCannotExceedMaxElementCountError", "check:NewSliceOutOfBoundsError",
  "check:NewInvalidSliceIndexError", "check:NewIndexOutOfBoundsError", "check:NewKeyNotFoundError",
  "check:NewCollisionLimitError", "check:NewHashLevelErrorf", "check:NewMapElementCountError",
  "check:NewSlabNotFoundErrorf", "check:NewSlabDataErrorf",
  -- earlier branches that always return with an error / by delegation
  "exit:err", "exit:descend:group.Set"]

/-- position checks: nothing at all is decided before them (no earlier successful exit either) -/
def boundsChecks : List String :=
  ["check:NewIndexOutOfBoundsError", "check:NewSliceOutOfBoundsError", "check:NewInvalidSliceIndexError"]

/-- the refusals the property names, with the function that raises them: they must be present -/
def requiredChecks : List (String × String) := [
  ("ArrayDataSlab.Get", "check:NewIndexOutOfBoundsError"), ("ArrayDataSlab.Set", "check:NewIndexOutOfBoundsError"),
  ("ArrayDataSlab.Insert", "check:NewIndexOutOfBoundsError"), ("ArrayDataSlab.Remove", "check:NewIndexOutOfBoundsError"),
  ("ArrayMetaDataSlab.childSlabIndexInfo", "check:NewIndexOutOfBoundsError"),
  ("ArrayMetaDataSlab.Insert", "check:NewIndexOutOfBoundsError"), ("ArrayMetaDataSlab.Remove", "check:NewIndexOutOfBoundsError"),
  ("ArrayMetaDataSlab.Get", "descend:child.Get"), ("ArrayMetaDataSlab.Set", "descend:child.Set"),
  ("ArrayMetaDataSlab.Insert", "descend:child.Insert"), ("ArrayMetaDataSlab.Remove", "descend:child.Remove"),
  ("Array.Get", "descend:a.root.Get"), ("Array.set", "descend:a.root.Set"), ("Array.Insert", "descend:a.root.Insert"),
  ("Array.remove", "descend:a.root.Remove"),
  ("Array.RangeIterator", "check:NewSliceOutOfBoundsError"), ("Array.RangeIterator", "check:NewInvalidSliceIndexError"),
  ("Array.ReadOnlyRangeIteratorWithMutationCallback", "check:NewSliceOutOfBoundsError"),
  ("Array.ReadOnlyRangeIteratorWithMutationCallback", "check:NewInvalidSliceIndexError"),
  ("OrderedMap.get", "descend:m.root.Get"), ("OrderedMap.set", "descend:m.root.Set"),
  ("OrderedMap.remove", "descend:m.root.Remove"),
  ("MapDataSlab.Set", "descend:m.elements.Set"), ("MapDataSlab.Remove", "descend:m.elements.Remove"),
  ("MapMetaDataSlab.getChildSlabByDigest", "check:NewKeyNotFoundError"),
  ("MapMetaDataSlab.Set", "descend:child.Set"), ("MapMetaDataSlab.Remove", "check:NewKeyNotFoundError"),
  ("MapMetaDataSlab.Remove", "descend:child.Remove"),
  ("hkeyElements.getElement", "check:NewKeyNotFoundError"), ("hkeyElements.Remove", "check:NewKeyNotFoundError"),
  ("hkeyElements.Set", "check:NewCollisionLimitError"), ("hkeyElements.Set", "descend:elem.Set"),
  ("hkeyElements.Remove", "descend:elem.Remove"),
  ("singleElements.get", "check:NewKeyNotFoundError"), ("singleElements.Remove", "check:NewKeyNotFoundError"),
  ("singleElement.Get", "check:NewKeyNotFoundError"), ("singleElement.Remove", "check:NewKeyNotFoundError"),
  ("singleElement.Set", "descend:group.Set"),
  ("inlineCollisionGroup.Set", "descend:e.elements.Set"), ("inlineCollisionGroup.Remove", "descend:e.elements.Remove"),
  ("externalCollisionGroup.Set", "descend:slab.Set"), ("externalCollisionGroup.Remove", "descend:dataSlab.Remove")]

/-- clause (1): nothing but allowed kinds and successful exits of other branches before a refusal site -/
def effectFree (facts : List (String × String × List String)) : Bool :=
  facts.all (fun e => e.2.2.all (fun k => allowedBeforeRefusal.contains k || k == "exit:ok"))

/-- clause (2): no successful exit before a position check -/
def boundsFirst (facts : List (String × String × List String)) : Bool :=
  facts.all (fun e => !boundsChecks.contains e.2.1 || !e.2.2.contains "exit:ok")

/-- clause (3): no listed function is missing, every required refusal site is there -/
def allPresent (facts : List (String × String × List String)) : Bool :=
  facts.all (fun e => e.2.1 != "missing") &&
  requiredChecks.all (fun x => facts.any (fun e => e.1 == x.1 && e.2.1 == x.2))

/-- the Boolean the theorem evaluates -/
def orderOk (facts : List (String × String × List String)) : Bool :=
  effectFree facts && boundsFirst facts && allPresent facts

/-- C18, the order of the Go statements (regenerated on every run).  In every
    request-level function of arrays and maps (Array / ArrayDataSlab / ArrayMetaDataSlab Get, Set,
    Insert, Remove and the range iterators; OrderedMap / MapDataSlab / MapMetaDataSlab /
    hkeyElements / singleElements / singleElement / inline and external collision group Get, Set,
    Remove, incl. the collision-limit check), on every path to a statement that can still refuse
    the request
      (1) only statements of the kinds in `allowedBeforeRefusal` (reads, earlier checks, error
          exits) and earlier successful exits of OTHER branches have been executed – in particular
          no `value.Storable`, `storeSlab`, `storage.Remove`, `GenerateSlabID`, `slices.Insert`,
          `append`, no assignment to a field, no `Set`/`Insert`/`Remove` one level down;
      (2) before a position check (index / slice out of bounds, invalid slice) there is no earlier
          successful exit either: the check is unconditional;
      (3) none of the listed functions has disappeared, and each refusal the property names is
          there. -/
theorem arg_checks_precede_effects : orderOk Gen.argCheckPrefix = true := by
  -- evaluated on the codes of the strings (Props/StringCode.lean)
  simp only [orderOk, effectFree, boundsFirst, allPresent, StringCode.contains_code, StringCode.beq_code,
    StringCode.bne_code]
  decide +kernel

/-- clause (1) of `arg_checks_precede_effects` in logical form (clauses (2) and (3) are not restated) -/
theorem arg_checks_precede_effects_spec :
    ∀ e ∈ Gen.argCheckPrefix, ∀ k ∈ e.2.2, k ∈ allowedBeforeRefusal ∨ k = "exit:ok" := by
  have h := arg_checks_precede_effects
  simp only [orderOk, effectFree, Bool.and_eq_true, List.all_eq_true] at h
  intro e he k hk
  have := h.1.1 e he k hk
  simpa [List.contains_iff_mem] using this

/-! ### the statement has teeth: the two seeded reorderings, as data -/

/-- `ArrayDataSlab.Insert` of seeded change s06: `value.Storable` runs before the bounds check -/
example : effectFree [("ArrayDataSlab.Insert", "check:NewIndexOutOfBoundsError", ["call:value.Storable", "exit:err"])]
    = false := by decide +kernel

/-- `Array.RangeIterator` of seeded change s23: the empty-range exit precedes the range check
    (clause (2); clause (1) alone would accept it) -/
example : boundsFirst [("Array.RangeIterator", "check:NewSliceOutOfBoundsError", ["exit:ok", "call:a.Count"])]
    = false := by decide +kernel
example : effectFree [("Array.RangeIterator", "check:NewSliceOutOfBoundsError", ["exit:ok", "call:a.Count"])]
    = true := by decide +kernel

/-- a mutation of the receiver before a key-not-found check; `storeSlab` before the collision limit -/
example : effectFree [("hkeyElements.Remove", "check:NewKeyNotFoundError", ["mutate:e.size"])] = false := by decide +kernel
example : effectFree [("hkeyElements.Set", "check:NewCollisionLimitError", ["call:elem.Count", "call:storeSlab"])]
    = false := by decide +kernel

/-- one member that fails the test fails `all` (one required site without a fact, one required row that
    is missing) -/
theorem all_false_of_mem {l : List α} {p : α → Bool} {x : α} (hx : x ∈ l) (h : p x = false) : l.all p = false := by
  rw [Bool.eq_false_iff]
  intro hall
  rw [List.all_eq_true.mp hall x hx] at h
  exact Bool.noConfusion h

/-- nothing that `q` looks for is left once the filter has removed it, whatever the list holds -/
theorem any_filter_false {p q : α → Bool} (h : ∀ a, p a = true → q a = false) (l : List α) :
    (l.filter p).any q = false := by
  rw [Bool.eq_false_iff, Ne, List.any_eq_true]
  rintro ⟨a, ha, hq⟩
  rw [h a (List.mem_filter.mp ha).2] at hq
  exact Bool.noConfusion hq

/-- no fact of a function is left once the function is filtered out -/
theorem any_filter_fn_false (f : String) (site : String) (facts : List (String × String × List String)) :
    (facts.filter (fun e => e.1 != f)).any (fun e => e.1 == f && e.2.1 == site) = false :=
  any_filter_false (fun e he => by rw [beq_eq_false_iff_ne.mpr (bne_iff_ne.mp he), Bool.false_and]) facts

/-- a deleted check is noticed by clause (3) -/
example : allPresent (Gen.argCheckPrefix.filter (fun e => e.1 != "ArrayDataSlab.Insert")) = false := by
  have hx : ("ArrayDataSlab.Insert", "check:NewIndexOutOfBoundsError") ∈ requiredChecks := by decide +kernel
  rw [allPresent, all_false_of_mem hx (any_filter_fn_false _ _ _)]
  exact Bool.and_false _

end Atree.C18

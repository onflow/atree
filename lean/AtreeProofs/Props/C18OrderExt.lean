import AtreeModel.Gen.Facts
import AtreeProofs.Props.C18Order
/-
  C18 - "leaves the container exactly as it was" for requests that the CALLER'S VALUE refuses
  (`Value.Storable` fails) or that a level further down refuses, and the named refusals of the
  open / enumerate-level functions: the CODE ORDER and the GUARDS, as a second regenerated fact.

  `Gen.argCheckPrefixExt` (harness/cmd/extract/argorderext.go, same walk as `Gen.argCheckPrefix`)
  lists, for the request-level functions of `Gen.argCheckPrefix` and `newSingleElement`,
    * `refuse:<callee>`     every call of `Value.Storable` (or of `newSingleElement`, which does nothing but
                            call it for the key and the value) with the kinds of the statements that may
                            have run before it;
    * `propagate:<callee>`  every `if err != nil` that tests the error of an earlier call handed down
                            (`child.Insert`, `a.root.Set`, `elem.Set`, ...) or of a `Value.Storable` call,
                            with the kinds of ALL statements up to the test - the call itself and
                            whatever stands between the call and the test included;
  and for the functions that open a container or hand out a value (`NewArrayWithRootID`,
  `NewMapWithRootID`, `getArraySlab`, `getMapSlab`, the slab hand-over of the read-only iterators,
  `StoredValue` of the four tree slab kinds, `NewStorableSlab`, `StorableSlab.Encode`)
    * `check:<Ctor>@<condition>`  every named refusal with the condition of its `if`.

  `arg_checks_precede_effects` (C18Order.lean) guards the refusals the library raises itself; it does
  not see a count that is incremented before the caller's value has had its say (sweep s3 E02), nor
  one that is incremented between a call handed down and the test of its error (E01), nor a refusal
  whose guard is weakened or deleted in the open-level functions (A03, A03b, E13, E13b, E17, E17b, X02,
  R01, R07).  Each of these changes a row of this fact and makes the theorem below fail.
-/
namespace Atree.C18
open Atree

/-- kinds that may precede a `refuse:` / `propagate:` site besides `allowedBeforeRefusal`: size
    look-ups for the value limit, and - in `newSingleElement` - the successful `Storable` of the KEY
    (for a key above the inline key limit the caller's `Storable` has stored a slab of its own by
    then, which a refusing value leaves behind: part of what the code does, documented with O5) -/
def allowedBeforeValueRefusal : List String := allowedBeforeRefusal ++ [
  "call:e.key.ByteSize", "call:elem.key.ByteSize", "call:ks.ByteSize", "call:maxInlineMapValueSize",
  "call:key.Storable"]

/-- for every `propagate:` site: the kind of the call whose error is tested (it may - it must -
    precede the test; by the same fact one level down it has changed nothing when it fails) -/
def propagatedCall : List (String × String) := [
  ("propagate:a.root.Get", "descend:a.root.Get"),
  ("propagate:a.set", "descend:a.set"),
  ("propagate:a.root.Set", "descend:a.root.Set"),
  ("propagate:a.root.Insert", "descend:a.root.Insert"),
  ("propagate:a.remove", "descend:a.remove"),
  ("propagate:a.root.Remove", "descend:a.root.Remove"),
  ("propagate:value.Storable", "call:value.Storable"),
  ("propagate:child.Set", "descend:child.Set"),
  ("propagate:child.Insert", "descend:child.Insert"),
  ("propagate:child.Remove", "descend:child.Remove"),
  ("propagate:m.get", "descend:m.get"),
  ("propagate:m.set", "descend:m.set"),
  ("propagate:m.root.Set", "descend:m.root.Set"),
  ("propagate:m.remove", "descend:m.remove"),
  ("propagate:m.root.Remove", "descend:m.root.Remove"),
  ("propagate:m.elements.Set", "descend:m.elements.Set"),
  ("propagate:m.elements.Remove", "descend:m.elements.Remove"),
  ("propagate:newSingleElement", "call:newSingleElement"),
  ("propagate:elem.Get", "descend:elem.Get"),
  ("propagate:elem.Set", "descend:elem.Set"),
  ("propagate:elem.Remove", "descend:elem.Remove"),
  ("propagate:e.elements.Set", "descend:e.elements.Set"),
  ("propagate:e.elements.Remove", "descend:e.elements.Remove"),
  ("propagate:slab.Set", "descend:slab.Set"),
  ("propagate:dataSlab.Remove", "descend:dataSlab.Remove"),
  ("propagate:key.Storable", "call:key.Storable")]

/-- kinds that may precede a named refusal of the open / enumerate-level functions: reads, earlier
    refusals, the cursor of the iterator object itself (not container state), and - in
    `StorableSlab.Encode` - the bytes already written to the encoder's buffer (the caller of Encode
    discards the buffer on error) -/
def allowedBeforeOpenRefusal : List String := allowedBeforeRefusal ++ [
  "call:a.SlabID", "call:root.ExtraData", "call:fmt.Errorf",
  "call:i.array.Storage.Retrieve", "call:i.m.Storage.Retrieve",
  "check:NewSlabIDErrorf", "check:NewEncodingError",
  "mutate:i.dataSlab", "mutate:i.indexInDataSlab",
  "call:newStorableSlabHead", "call:h.setNoSizeLimit", "call:hasPointer", "call:h.setHasPointers",
  "call:enc.Write", "call:s.storable.Encode", "call:enc.hasInlinedExtraData"]

/-- every site of the fact as it is today, (function, site): each must be there, with this guard -/
def requiredSitesExt : List (String × String) := [
  ("Array.Get", "propagate:a.root.Get"),
  ("Array.Set", "propagate:a.set"),
  ("Array.set", "propagate:a.root.Set"),
  ("Array.Insert", "propagate:a.root.Insert"),
  ("Array.Remove", "propagate:a.remove"),
  ("Array.remove", "propagate:a.root.Remove"),
  ("ArrayDataSlab.Set", "refuse:value.Storable"),
  ("ArrayDataSlab.Set", "propagate:value.Storable"),
  ("ArrayDataSlab.Insert", "refuse:value.Storable"),
  ("ArrayDataSlab.Insert", "propagate:value.Storable"),
  ("ArrayMetaDataSlab.Set", "propagate:child.Set"),
  ("ArrayMetaDataSlab.Insert", "propagate:child.Insert"),
  ("ArrayMetaDataSlab.Remove", "propagate:child.Remove"),
  ("OrderedMap.Has", "propagate:m.get"),
  ("OrderedMap.Get", "propagate:m.get"),
  ("OrderedMap.Set", "propagate:m.set"),
  ("OrderedMap.set", "propagate:m.root.Set"),
  ("OrderedMap.Remove", "propagate:m.remove"),
  ("OrderedMap.remove", "propagate:m.root.Remove"),
  ("MapDataSlab.Set", "propagate:m.elements.Set"),
  ("MapDataSlab.Remove", "propagate:m.elements.Remove"),
  ("MapMetaDataSlab.Set", "propagate:child.Set"),
  ("MapMetaDataSlab.Remove", "propagate:child.Remove"),
  ("hkeyElements.Set", "refuse:newSingleElement"),
  ("hkeyElements.Set", "propagate:newSingleElement"),
  ("hkeyElements.Set", "propagate:elem.Get"),
  ("hkeyElements.Set", "propagate:elem.Set"),
  ("hkeyElements.Remove", "propagate:elem.Remove"),
  ("singleElements.Set", "refuse:value.Storable"),
  ("singleElements.Set", "propagate:value.Storable"),
  ("singleElements.Set", "refuse:newSingleElement"),
  ("singleElements.Set", "propagate:newSingleElement"),
  ("singleElement.Set", "refuse:value.Storable"),
  ("singleElement.Set", "propagate:value.Storable"),
  ("inlineCollisionGroup.Set", "propagate:e.elements.Set"),
  ("inlineCollisionGroup.Remove", "propagate:e.elements.Remove"),
  ("externalCollisionGroup.Set", "propagate:slab.Set"),
  ("externalCollisionGroup.Remove", "propagate:dataSlab.Remove"),
  ("NewArrayWithRootID", "check:NewSlabIDErrorf@rootID == SlabIDUndefined"),
  ("NewArrayWithRootID", "check:NewNotValueError@extraData == nil"),
  ("NewMapWithRootID", "check:NewSlabIDErrorf@rootID == SlabIDUndefined"),
  ("NewMapWithRootID", "check:NewNotValueError@extraData == nil"),
  ("getArraySlab", "check:NewSlabNotFoundErrorf@!found"),
  ("getArraySlab", "check:NewSlabDataErrorf@!ok"),
  ("getMapSlab", "check:NewSlabNotFoundErrorf@!found"),
  ("getMapSlab", "check:NewSlabDataErrorf@!ok"),
  ("readOnlyArrayIterator.Next", "check:NewSlabNotFoundErrorf@!found"),
  ("readOnlyArrayIterator.Next", "check:NewSlabDataErrorf@len(i.dataSlab.elements) == 0"),
  ("readOnlyMapIterator.advance", "check:NewSlabNotFoundErrorf@!found"),
  ("readOnlyMapIterator.advance", "check:NewSlabDataErrorf@!ok"),
  ("ArrayDataSlab.StoredValue", "check:NewNotValueError@a.extraData == nil"),
  ("ArrayMetaDataSlab.StoredValue", "check:NewNotValueError@a.extraData == nil"),
  ("MapDataSlab.StoredValue", "check:NewNotValueError@m.extraData == nil"),
  ("MapMetaDataSlab.StoredValue", "check:NewNotValueError@m.extraData == nil"),
  ("NewStorableSlab", "check:NewUserError@storableSize > maxStorableSizeInStorableSlab"),
  ("StorableSlab.Encode", "check:NewEncodingError@err != nil"),
  ("StorableSlab.Encode", "check:NewEncodingError@enc.hasInlinedExtraData()"),
  ("newSingleElement", "refuse:key.Storable"),
  ("newSingleElement", "propagate:key.Storable"),
  ("newSingleElement", "refuse:value.Storable"),
  ("newSingleElement", "propagate:value.Storable")]

def isRefuse (site : String) : Bool :=
  propagatedCall.any (fun p => p.1 == site) ||
  ["refuse:value.Storable", "refuse:key.Storable", "refuse:newSingleElement"].contains site

/-- clause (1): before the caller's value can refuse, and up to the test of an error handed up, only
    allowed kinds, successful exits of other branches and (for `propagate:`) the call itself -/
def valueRefusalsEffectFree (facts : List (String × String × List String)) : Bool :=
  facts.all (fun e => !isRefuse e.2.1 ||
    e.2.2.all (fun k => allowedBeforeValueRefusal.contains k || k == "exit:ok" || propagatedCall.contains (e.2.1, k)))

/-- clause (2): the named refusals of the open-level functions are preceded by reads only -/
def openRefusalsEffectFree (facts : List (String × String × List String)) : Bool :=
  facts.all (fun e => isRefuse e.2.1 ||
    e.2.2.all (fun k => allowedBeforeOpenRefusal.contains k || k == "exit:ok"))

/-- clause (3): every site is one of the reviewed ones (a changed guard is a new site), every
    reviewed site is there, no function is missing -/
def sitesExact (facts : List (String × String × List String)) : Bool :=
  facts.all (fun e => requiredSitesExt.contains (e.1, e.2.1)) &&
  requiredSitesExt.all (fun x => facts.any (fun e => e.1 == x.1 && e.2.1 == x.2))

def orderOkExt (facts : List (String × String × List String)) : Bool :=
  valueRefusalsEffectFree facts && openRefusalsEffectFree facts && sitesExact facts

/-- C18, the order of the Go statements (regenerated on every run): nothing is changed before the
    caller's value, or a level further down, can still refuse; the named refusals of the open-level
    functions are there with their guards.
      (1) In every request-level function of arrays and maps, on every path to a call of
          `Value.Storable` and on every path to the test of the error of such a call or of a call
          handed down (`child.Insert`, `a.root.Set`, `m.root.Remove`, `elem.Set`, ...), only reads,
          earlier checks, error exits, successful exits of other branches and that one call have been
          executed: no count / size / header field is written, nothing is stored, before the request
          can no longer be refused from below.
      (2) In `NewArrayWithRootID`, `NewMapWithRootID`, `getArraySlab`, `getMapSlab`,
          `readOnlyArrayIterator.Next`, `readOnlyMapIterator.advance`, `StoredValue` of the four tree
          slab kinds, `NewStorableSlab` and `StorableSlab.Encode` only reads (and the iterator's own
          cursor, the encoder's own buffer) precede a named refusal.
      (3) The sites are exactly `requiredSitesExt`: each named refusal of (2) with the condition that
          guards it (not a root: `extraData == nil`; not a slab of this container kind: `!ok`; dangling
          sibling link: `!found`; storable-slab size limit: `storableSize > maxStorableSizeInStorableSlab`;
          storable carrying an inlined container: `enc.hasInlinedExtraData()`), each `refuse:` and
          `propagate:` site of (1). -/
theorem value_refusals_precede_effects : orderOkExt Gen.argCheckPrefixExt = true := by
  -- evaluated on the codes of the strings (Props/StringCode.lean)
  simp only [orderOkExt, valueRefusalsEffectFree, openRefusalsEffectFree, sitesExact, isRefuse,
    StringCode.contains_code, StringCode.contains_code₂, StringCode.beq_code]
  decide +kernel

/-- clause (1) of `value_refusals_precede_effects` in logical form (clauses (2) and (3) are not restated) -/
theorem value_refusals_precede_effects_spec :
    ∀ e ∈ Gen.argCheckPrefixExt, isRefuse e.2.1 = true → ∀ k ∈ e.2.2,
      k ∈ allowedBeforeValueRefusal ∨ k = "exit:ok" ∨ (e.2.1, k) ∈ propagatedCall := by
  have h := value_refusals_precede_effects
  simp only [orderOkExt, valueRefusalsEffectFree, Bool.and_eq_true, List.all_eq_true] at h
  intro e he hr k hk
  have := h.1.1 e he
  simp only [hr, Bool.not_true, Bool.false_or, List.all_eq_true] at this
  have := this k hk
  simpa [List.contains_iff_mem, or_assoc] using this

/-! ### the statement has teeth: the surviving mutants of sweep s3, as data -/

/-- E02: `a.header.count++` hoisted above `value.Storable` in `ArrayDataSlab.Insert` -/
example : valueRefusalsEffectFree [("ArrayDataSlab.Insert", "refuse:value.Storable",
    ["check:NewIndexOutOfBoundsError", "mutate:a.header.count"])] = false := by decide +kernel

/-- E01: `a.header.count++` between `child.Insert` and the test of its error in `ArrayMetaDataSlab.Insert` -/
example : valueRefusalsEffectFree [("ArrayMetaDataSlab.Insert", "propagate:child.Insert",
    ["check:NewIndexOutOfBoundsError", "call:a.childSlabIndexInfo", "exit:err", "call:getArraySlab", "exit:err",
     "descend:child.Insert", "mutate:a.header.count"])] = false := by decide +kernel

/-- the unchanged row of E01 passes (non-vacuity of the example above) -/
example : valueRefusalsEffectFree [("ArrayMetaDataSlab.Insert", "propagate:child.Insert",
    ["check:NewIndexOutOfBoundsError", "call:a.childSlabIndexInfo", "exit:err", "call:getArraySlab", "exit:err",
     "descend:child.Insert"])] = true := by decide +kernel

/-- A03: the guard of the not-a-root refusal of `NewArrayWithRootID` weakened; A03b / X02: deleted -/
example : sitesExact [("NewArrayWithRootID", "check:NewNotValueError@extraData == nil && false", [])] = false := by decide +kernel
set_option maxRecDepth 100000 in
example : sitesExact (Gen.argCheckPrefixExt.filter (fun e => e.1 != "ArrayMetaDataSlab.StoredValue")) = false := by
  have hx : ("ArrayMetaDataSlab.StoredValue", "check:NewNotValueError@a.extraData == nil") ∈ requiredSitesExt := by
    decide +kernel
  rw [sitesExact, all_false_of_mem hx (any_filter_fn_false _ _ _)]
  exact Bool.and_false _

end Atree.C18

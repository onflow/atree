import AtreeProofs.Reject.MapAgree
import AtreeProofs.Props.C01
import AtreeProofs.E2EMap.HistoryFull
import AtreeProofs.ScheduleLemmas
import AtreeProofs.Props.C02
import AtreeProofs.Props.C12
/-
  C18 — rejected requests leave no trace: the in-place programs of `AtreeModel/Reject.lean`.

  In `Props/C18.lean`, `Arr.request` returns the input state on an error by definition, so "the state
  is unchanged" holds there for any code.  Here the operations are programs over slab objects whose
  state survives an error (`Prog σ ε α = σ → Except ε α × σ`), transcribed in Go statement order;
  "unchanged" is a property of that order (false for the program of seeded change s06, `value.Storable`
  before the bounds check: `s06_program_leaves_a_trace`).  The programs are tied to the functional model
  the other properties are about (`inplace_request_agrees`, `map_set_inplace_agrees`,
  `map_remove_inplace_agrees`: same error / same answer and same state).  A history run in place WITH
  its refused requests against the storage state machine ends in the same array/map, storage context
  and storage state (cache, pending write set, ledger) as its served requests alone – hence the same
  registers at the next commit – and is the run `E2E.rep_history` / `E2EM.map_rep_history` speak about.

  Ancestors: the World model's operations (`AtreeModel/World.lean`, C10/C11) are `Except`-valued
  functions of the whole world; they return `.error` WITHOUT a world, so "ancestors unchanged" is
  true of them by construction, exactly as `reject_is_noop` (Props/C18.lean) is: `Arr.request` is DEFINED
  to return its input state when the operation answers an error.
  What this file adds for nested containers is the container-local fact the World model builds on:
  a refused request does not touch the container's own slab objects nor the storage, so there is
  nothing to notify the parent about (`notifyParentIfNeeded` is only reached after the root
  operation succeeded: `Array.set`, `OrderedMap.set` in `Gen.argCheckPrefix` order).
-/
namespace Atree.C18
open Atree Gen

/-- C18 for arrays, in place: a `Get`/`Set`/`Insert`/`Remove` refused because of
    its arguments (index out of bounds; array full) leaves every slab object of the array and the
    storage context – allocation counter, log of `SlabStorage` calls (= pending write set), created
    large-value slabs – exactly as they were.  For every threshold, depth, state: no invariant is
    assumed. -/
theorem reject_leaves_no_trace (T : Nat) (r : AReq) (st st' : Arr × Ctx) (e : AErr)
    (h : Arr.requestP T r st = (.error e, st')) (harg : e.isArg = true) : st' = st :=
  Arr.requestP_reject T r st st' e h harg

/-- … and the in-place request is the request of `AtreeModel/Errors.lean`: a served request gives the
    same answer and the same state, a refused one the same error. -/
theorem inplace_request_agrees (T : Nat) (r : AReq) (s : Arr × Ctx) :
    match (Arr.request T s r).2 with
    | .err e => (Arr.requestP T r s).1 = .error e
    | resp => Arr.requestP T r s = (.ok resp, (Arr.request T s r).1) :=
  Arr.requestP_agrees T r s

/-- the two together: when the functional model refuses a request with an argument error, the
    in-place program returns that error and the untouched state -/
theorem reject_is_noop_inplace (T : Nat) (r : AReq) (s : Arr × Ctx) (e : AErr)
    (h : (Arr.request T s r).2 = .err e) (harg : e.isArg = true) : Arr.requestP T r s = (.error e, s) := by
  have ha := inplace_request_agrees T r s
  rw [h] at ha
  exact Prog.CleanAt.eq_of_error (P := fun e : AErr => e.isArg = true) (reject_leaves_no_trace T r s) ha harg

/-- For the program of seeded change s06 (`value.Storable` hoisted above
    the bounds check of `ArrayDataSlab.Insert`) the same statement is false: an out-of-range insertion
    of a large value returns index-out-of-bounds and leaves an allocated, stored slab behind. -/
theorem s06_program_leaves_a_trace :
    ∃ (st : DataSlab × Ctx) (v : Elem),
      (DataSlab.insertP_s06 256 5 v st).1 = .error .indexOutOfBounds ∧
      (DataSlab.insertP_s06 256 5 v st).2.2.eff = [.alloc 1 ⟨1, 2⟩, .store ⟨1, 2⟩] ∧
      (DataSlab.insertP 256 5 v st).2.2.eff = [] :=
  ⟨(⟨⟨⟨1, 1⟩, 0, 0⟩, SlabID.undef, [], true, false⟩, ⟨1, [], []⟩), ⟨5000, .val 7⟩, rfl, rfl, rfl⟩

/-- C18 for maps: a `Set` refused by the collision limit leaves every
    element, collision group, group slab and tree slab object of the map, its count, and the storage
    context exactly as they were – at every digest level and tree depth, for every state. -/
theorem map_set_reject_leaves_no_trace {r : Nat} (cfg : MCfg) (k : MKey) (v : Elem) (st st' : OMap r × Ctx)
    (e : MErr) (h : OMap.setP cfg k v st = (.error e, st')) (harg : e.isArg = true) : st' = st :=
  OMap.setP_reject cfg k v st st' e h harg

/-- … and so does a `Remove` of a key that is not there. -/
theorem map_remove_reject_leaves_no_trace {r : Nat} (cfg : MCfg) (k : MKey) (st st' : OMap r × Ctx)
    (e : MErr) (h : OMap.removeP cfg k st = (.error e, st')) (harg : e.isArg = true) : st' = st :=
  OMap.removeP_reject cfg k st st' e h harg

/-- the in-place `Set` is `OMap.set` (the function C02/C12 are about) -/
theorem map_set_inplace_agrees {r : Nat} (cfg : MCfg) (k : MKey) (v : Elem) (m : OMap r) (c : Ctx) :
    match m.set cfg k v c with
    | .ok (old, m', c') => OMap.setP cfg k v (m, c) = (.ok old, (m', c'))
    | .error e => (OMap.setP cfg k v (m, c)).1 = .error e := by
  have h := OMap.setP_agrees cfg k v m c
  cases hs : m.set cfg k v c with
  | error e => rw [hs] at h; exact h
  | ok res => obtain ⟨old, m', c'⟩ := res; rw [hs] at h; exact h

theorem map_remove_inplace_agrees {r : Nat} (cfg : MCfg) (k : MKey) (m : OMap r) (c : Ctx) :
    match m.remove cfg k c with
    | .ok (rk, rv, m', c') => OMap.removeP cfg k (m, c) = (.ok (rk, rv), (m', c'))
    | .error e => (OMap.removeP cfg k (m, c)).1 = .error e := by
  have h := OMap.removeP_agrees cfg k m c
  cases hs : m.remove cfg k c with
  | error e => rw [hs] at h; exact h
  | ok res => obtain ⟨rk, rv, m', c'⟩ := res; rw [hs] at h; exact h

section ArrayHistory
open Atree.E2E

variable {β : Type}

def isErr {ε α : Type} : Except ε α → Bool
  | .error _ => true
  | .ok _ => false

/-- the in-place result of a request of `E2E.AOp` -/
def opResultP (T : Nat) (st : Arr × Ctx) : AOp → Bool × (Arr × Ctx)
  | .insert i v => let x := Arr.insertP T i v st; (isErr x.1, x.2)
  | .append v => let x := Arr.insertP T st.1.count v st; (isErr x.1, x.2)
  | .set i v => let x := Arr.setP T i v st; (isErr x.1, x.2)
  | .remove i => let x := Arr.removeP T i st; (isErr x.1, x.2)
  | .popIterate => (false, (st.1.popIterate st.2).2)
  | .setType ty => (false, st.1.setType ty st.2)

/-- the state the objects are in after the request, served or not (in-place counterpart of `E2E.stepA`,
    which returns the input state on an error BY DEFINITION) -/
def stepAP (T : Nat) (st : Arr × Ctx) (op : AOp) : Arr × Ctx := (opResultP T st op).2

/-- the request and its `SlabStorage` calls on the storage state machine -/
def stepSP (c : Codec SSlab β) (T : Nat) (x : (Arr × Ctx) × St SSlab β) (op : AOp) :
    (Arr × Ctx) × St SSlab β :=
  let st' := stepAP T x.1 op
  (st', applyEffs c x.2 (contentOf st') (newEffs x.1.2 st'.2))

def runSP (c : Codec SSlab β) (T : Nat) (x : (Arr × Ctx) × St SSlab β) (ops : List AOp) :
    (Arr × Ctx) × St SSlab β := ops.foldl (stepSP c T) x

/-- the sub-history of the requests that were served -/
def servedOps (T : Nat) : Arr × Ctx → List AOp → List AOp
  | _, [] => []
  | st, op :: ops =>
    let x := opResultP T st op
    if x.1 then servedOps T x.2 ops else op :: servedOps T x.2 ops

/-- a request that is served where `P` holds and answers index-out-of-bounds elsewhere refuses with an
    argument error only (the shape of `C01.insert_refines`, `set_refines`, `remove_refines`) -/
theorem error_is_arg_of_bounds {α : Type} {r : Except AErr α} {P : Prop} (hok : P → ∃ x, r = .ok x)
    (herr : ¬ P → r = .error .indexOutOfBounds) (e : AErr) (he : r = .error e) : e.isArg = true := by
  by_cases hp : P
  · obtain ⟨x, hx⟩ := hok hp
    rw [hx] at he; cases he
  · rw [herr hp] at he
    cases he; rfl

/-- under the array invariant the only refusals are argument errors (C01) -/
theorem insert_error_is_arg (T : Nat) (hT : legalThreshold T = true) (a : Arr) (c : Ctx) (i : Nat) (v : Elem)
    (hv : ValueOk v) (h : ArrInv T a c.ctr) (e : AErr) (he : a.insert T i v c = .error e) : e.isArg = true := by
  by_cases hcount : a.count = maxArrayElementCount
  · unfold Arr.insert at he
    rw [if_pos hcount] at he
    cases he; rfl
  · have hlt : a.count < maxArrayElementCount := by have := h.count_lt; omega
    obtain ⟨h1, h2⟩ := C01.insert_refines T hT a c i v hv h hlt
    exact error_is_arg_of_bounds (fun hi => let ⟨a', c', heq, _⟩ := h1 hi; ⟨_, heq⟩) (fun hi => h2 (by omega)) e he

theorem set_error_is_arg (T : Nat) (hT : legalThreshold T = true) (a : Arr) (c : Ctx) (i : Nat) (v : Elem)
    (hv : ValueOk v) (h : ArrInv T a c.ctr) (e : AErr) (he : a.set T i v c = .error e) : e.isArg = true :=
  have ⟨h1, h2⟩ := C01.set_refines T hT a c i v hv h
  error_is_arg_of_bounds (fun hi => let ⟨a', c', heq, _⟩ := h1 hi; ⟨_, heq⟩) (fun hi => h2 (by omega)) e he

theorem remove_error_is_arg (T : Nat) (hT : legalThreshold T = true) (a : Arr) (c : Ctx) (i : Nat)
    (h : ArrInv T a c.ctr) (e : AErr) (he : a.remove T i c = .error e) : e.isArg = true :=
  have ⟨h1, h2⟩ := C01.remove_refines T hT a c i h
  error_is_arg_of_bounds (fun hi => let ⟨a', c', heq, _⟩ := h1 hi; ⟨_, heq⟩) (fun hi => h2 (by omega)) e he

/-- what an in-place program left behind, from its agreement with the functional model and the
    no-trace theorem: `s`, if `s` is the state the functional model returns and the input state where it
    refuses; and the program reports an error only if the functional model refuses -/
theorem inplace_state {σ ε α β' : Type} (isArg : ε → Bool) {p : Except ε α × σ} {f : Except ε β'}
    {g : β' → α × σ} {st s : σ}
    (hag : Agrees p (f.map g))
    (hrej : ∀ st' e, p = (.error e, st') → isArg e = true → st' = st)
    (harg : ∀ e, f = .error e → isArg e = true)
    (hok : ∀ r, f = .ok r → s = (g r).2) (herr : ∀ e, f = .error e → s = st) :
    p.2 = s ∧ (isErr p.1 = true → s = st) := by
  cases f with
  | ok r =>
    have hp : p = (.ok (g r).1, (g r).2) := hag
    rw [hp, hok r rfl]
    exact ⟨rfl, fun h => Bool.noConfusion h⟩
  | error e =>
    rw [Prog.CleanAt.eq_of_error (P := fun e => isArg e = true) hrej hag (harg e rfl), herr e rfl]
    exact ⟨rfl, fun _ => rfl⟩

/-- Under the array invariant, the state the slab objects and the storage
    context are in after a request – served or refused – is the state `E2E.stepA` defines; and the
    request was refused exactly when the functional model returns an error. -/
theorem opResultP_eq (T : Nat) (hT : legalThreshold T = true) (st : Arr × Ctx) (h : ArrInv T st.1 st.2.ctr)
    (op : AOp) (hop : op.Ok) :
    (opResultP T st op).2 = stepA T st op ∧
    ((opResultP T st op).1 = true → stepA T st op = st) := by
  obtain ⟨a, c⟩ := st
  cases op with
  | insert i v =>
    refine inplace_state AErr.isArg (Arr.insertP_agrees T i v a c)
      (Arr.insertP_reject T i v (a, c))
      (fun e he => insert_error_is_arg T hT a c i v hop h e he) ?_ ?_ <;>
    intro r hf <;> simp only [stepA, hf]
  | append v =>
    refine inplace_state AErr.isArg (Arr.insertP_agrees T a.count v a c)
      (Arr.insertP_reject T a.count v (a, c))
      (fun e he => insert_error_is_arg T hT a c a.count v hop h e he) ?_ ?_ <;>
    intro r hf <;> simp only [stepA, Arr.append, hf]
  | set i v =>
    refine inplace_state AErr.isArg (Arr.setP_agrees T i v a c)
      (Arr.setP_reject T i v (a, c))
      (fun e he => set_error_is_arg T hT a c i v hop h e he) ?_ ?_ <;>
    intro r hf <;> simp only [stepA, hf]
  | remove i =>
    refine inplace_state AErr.isArg (Arr.removeP_agrees T i a c)
      (Arr.removeP_reject T i (a, c))
      (fun e he => remove_error_is_arg T hT a c i h e he) ?_ ?_ <;>
    intro r hf <;> simp only [stepA, hf]
  | popIterate => exact ⟨rfl, fun hb => by cases hb⟩
  | setType ty => exact ⟨rfl, fun hb => by cases hb⟩

theorem stepSP_eq_stepS (c : Codec SSlab β) (T : Nat) (hT : legalThreshold T = true)
    (x : (Arr × Ctx) × St SSlab β) (hg : Good c T x) (op : AOp) (hop : op.Ok) :
    stepSP c T x op = stepS c T x op := by
  simp only [stepSP, stepS, stepAP, (opResultP_eq T hT x.1 hg.inv op hop).1]

/-- Run in place against the storage state machine, a request that
    returns an error leaves the array, the storage context AND the storage state (cache, pending write
    set, ledger) exactly as they were. -/
theorem rejected_request_writes_nothing (c : Codec SSlab β) (T : Nat) (hT : legalThreshold T = true)
    (x : (Arr × Ctx) × St SSlab β) (hg : Good c T x) (op : AOp) (hop : op.Ok)
    (hfail : (opResultP T x.1 op).1 = true) : stepSP c T x op = x := by
  obtain ⟨h1, h2⟩ := opResultP_eq T hT x.1 hg.inv op hop
  have hst : stepAP T x.1 op = x.1 := by rw [stepAP, h1, h2 hfail]
  simp only [stepSP, hst, newEffs_self, applyEffs_nil]

/-- From any state satisfying the run invariant `Good` (e.g. `NewArray` on an empty storage, or the
    state after a commit), for every list of requests (any positions; values of any size ≥ 1): executing the whole history in place – refused
    requests included – ends in the same array, the same storage context and the same storage state
    (hence writes the same registers at the next commit, whichever commit function is used) as
    executing only the served requests; and it is the run of `E2E.rep_history` (`runS`), so everything
    proved there (array invariant, storage represents the array, List semantics) holds for it. -/
theorem history_with_rejections_commits_same_registers (c : Codec SSlab β) (hc : RoundTrip c) (T : Nat)
    (hT : legalThreshold T = true) :
    ∀ (ops : List AOp) (x : (Arr × Ctx) × St SSlab β), Good c T x → (∀ op ∈ ops, op.Ok) →
      runSP c T x ops = runSP c T x (servedOps T x.1 ops) ∧ runSP c T x ops = runS c T x ops :=
  run_skips_refused (stepSP c T) (stepS c T) (fun x op => (opResultP T x.1 op).1) (fun x => servedOps T x.1)
    (Good c T) (·.Ok) (fun _ => rfl) (fun _ _ _ => rfl) (fun x op hg hop => stepSP_eq_stepS c T hT x hg op hop)
    (fun x op hg hop => (good_stepS c hc T hT x hg op hop).1)
    (fun x op hg hop => rejected_request_writes_nothing c T hT x hg op hop)

end ArrayHistory

section MapHistory
open Atree.E2EM
open Atree.E2E (newEffs newEffs_self)

variable {β : Type} {r : Nat}

/-- the in-place result of a request of `E2EM.MOp` -/
def mopResultP (cfg : MCfg) (st : OMap r × Ctx) : MOp → Bool × (OMap r × Ctx)
  | .set k v => let x := OMap.setP cfg k v st; (isErr x.1, x.2)
  | .remove k => let x := OMap.removeP cfg k st; (isErr x.1, x.2)
  | .popIterate => (false, (st.1.popIterate st.2).2)
  | .setType ty => (false, st.1.setType ty st.2)

def stepMP (cfg : MCfg) (st : OMap r × Ctx) (op : MOp) : OMap r × Ctx := (mopResultP cfg st op).2

def mstepSP (c : Codec (MSSlab r) β) (cfg : MCfg) (x : (OMap r × Ctx) × St (MSSlab r) β) (op : MOp) :
    (OMap r × Ctx) × St (MSSlab r) β :=
  let st' := stepMP cfg x.1 op
  (st', applyEffs c x.2 (contentOf st') (newEffs x.1.2 st'.2))

def mrunSP (c : Codec (MSSlab r) β) (cfg : MCfg) (x : (OMap r × Ctx) × St (MSSlab r) β) (ops : List MOp) :
    (OMap r × Ctx) × St (MSSlab r) β := ops.foldl (mstepSP c cfg) x

def mservedOps (cfg : MCfg) : OMap r × Ctx → List MOp → List MOp
  | _, [] => []
  | st, op :: ops =>
    let x := mopResultP cfg st op
    if x.1 then mservedOps cfg x.2 ops else op :: mservedOps cfg x.2 ops

/-- Under the map invariant the only refusals of `Set` / `Remove`
    are the collision limit / key-not-found (C02), and the state the objects are in after a request –
    served or refused – is the state `E2EM.stepM` defines. -/
theorem mopResultP_eq (T : Nat) (hT : legalThreshold T = true) (D : DigestFn (r + 1)) (cfg : MCfg)
    (st : OMap r × Ctx) (hcfg : CfgOk cfg T st.1) (h : MapInv T D st.1) (hc : CtxOk st.1 st.2)
    (op : MOp) (hop : op.Ok T D) :
    (mopResultP cfg st op).2 = stepM cfg st op ∧
    ((mopResultP cfg st op).1 = true → stepM cfg st op = st) := by
  obtain ⟨m, c⟩ := st
  cases op with
  | set k v =>
    have harg : ∀ e, m.set cfg k v c = .error e → e.isArg = true := by
      intro e he
      rcases C02.set_refines T hT D cfg m hcfg h k hop.1 v hop.2 c hc with ⟨_, _, _, heq, _⟩ | ⟨herr, _⟩
      · rw [heq] at he; cases he
      · rw [herr] at he; cases he; rfl
    refine inplace_state MErr.isArg (OMap.setP_agrees cfg k v m c)
      (OMap.setP_reject cfg k v (m, c)) harg ?_ ?_ <;>
    intro r hf <;> simp only [stepM, hf]
  | remove k =>
    have harg : ∀ e, m.remove cfg k c = .error e → e.isArg = true := by
      intro e he
      have href := C02.remove_refines T hT D cfg m hcfg h k hop c hc
      cases hd : dictLookup m.toList k with
      | none => rw [hd] at href; simp only at href; rw [href] at he; cases he; rfl
      | some v0 =>
        rw [hd] at href
        obtain ⟨_, _, _, heq, _⟩ := href
        rw [heq] at he; cases he
    refine inplace_state MErr.isArg (OMap.removeP_agrees cfg k m c)
      (OMap.removeP_reject cfg k (m, c)) harg ?_ ?_ <;>
    intro r hf <;> simp only [stepM, hf]
  | popIterate => exact ⟨rfl, fun hb => by cases hb⟩
  | setType ty => exact ⟨rfl, fun hb => by cases hb⟩

/-- The same for maps: from any state satisfying the run invariant `MGoodF` (e.g. `NewMap` on an empty
    storage), for every digest function and every list of requests. -/
theorem map_history_with_rejections_commits_same_registers (c : Codec (MSSlab r) β) (hc : RoundTrip c) (T : Nat)
    (hT : legalThreshold T = true) (D : DigestFn (r + 1)) (cfg : MCfg) :
    ∀ (ops : List MOp) (x : (OMap r × Ctx) × St (MSSlab r) β), MGoodF c T D cfg x → (∀ op ∈ ops, op.Ok T D) →
      mrunSP c cfg x ops = mrunSP c cfg x (mservedOps cfg x.1 ops) ∧ mrunSP c cfg x ops = runS c cfg x ops :=
  run_skips_refused (mstepSP c cfg) (stepS c cfg) (fun x op => (mopResultP cfg x.1 op).1)
    (fun x => mservedOps cfg x.1) (MGoodF c T D cfg) (·.Ok T D) (fun _ => rfl) (fun _ _ _ => rfl)
    (fun x op hg hop => by
      simp only [mstepSP, stepS, stepMP, (mopResultP_eq T hT D cfg x.1 hg.cfg hg.inv hg.ctx op hop).1])
    (fun x op hg hop => (mgoodF_stepS c hc T hT D cfg x hg op hop).1)
    (fun x op hg hop hfail => by
      obtain ⟨h1, h2⟩ := mopResultP_eq T hT D cfg x.1 hg.cfg hg.inv hg.ctx op hop
      have hst : stepMP cfg x.1 op = x.1 := by rw [stepMP, h1, h2 hfail]
      simp only [mstepSP, hst, newEffs_self, E2EM.applyEffs_nil])

end MapHistory

section NonVacuity
open MapExample
attribute [local irreducible] MapExample.run

/-- a concrete refused insertion (index 9 of an empty array) in place: error, state untouched -/
example : Arr.requestP 256 (.insert 9 ⟨5000, .val 1⟩) (Arr.new 1 0 ⟨0, [], []⟩) =
    (.error .indexOutOfBounds, Arr.new 1 0 ⟨0, [], []⟩) :=
  reject_is_noop_inplace 256 (.insert 9 ⟨5000, .val 1⟩) (Arr.new 1 0 ⟨0, [], []⟩) .indexOutOfBounds
    (by decide) rfl

/-- the collision-limit refusal of C12's example, in place: the map of `MapExample.run` (index slab,
    inline and external groups) and its context are untouched -/
example : ∃ st', OMap.setP cfg2 (key 331) (val 0) MapExample.run = (.error .collisionLimit, st') := by
  have h := map_set_inplace_agrees cfg2 (key 331) (val 0) MapExample.run.1 MapExample.run.2
  rw [C12.run_refuses_key331] at h
  exact fst_error_cases h

example (st' : OMap 1 × Ctx)
    (h : OMap.setP cfg2 (key 331) (val 0) MapExample.run = (.error .collisionLimit, st')) : st' = MapExample.run :=
  map_set_reject_leaves_no_trace cfg2 (key 331) (val 0) MapExample.run st' .collisionLimit h rfl

end NonVacuity

end Atree.C18

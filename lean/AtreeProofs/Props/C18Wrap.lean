import AtreeModel.Gen.Facts
import AtreeProofs.Props.C18Order
/-
  C18, last sentence - "An error raised by a caller-supplied component (ledger read, key comparator,
  hash-input provider) ... is reported as an external error": the CALL SITES, as a regenerated fact.

  `Gen.errWrapSites` is regenerated from the Go sources by harness/cmd/extract (errwrapfacts.go) on
  every check run.  It has one row for every call in package atree
    * through a value whose declared type is an INTERFACE type of the package (`SlabStorage`, `Value`,
      `Storable`, `MapKey`, `Digester`, `DigesterBuilder`, `TypeInfo`, `BaseStorage`, `Ledger`, ... and the
      package-internal ones alike),
    * through a value of FUNCTION type (comparator, hash-input provider, iteration and pop callbacks,
      bulk-build element providers, decoder callbacks),
    * through a receiver whose type the extractor cannot resolve (`unresolved`, never dropped),
  whose last result is an `error`: (enclosing function, interface | "func" | "unresolved", method |
  function type, what the enclosing function does with the error).  The last column is
  `wrapError[f]AsExternalErrorIfNeeded` when every return guarded by the error hands it to that
  function, `raw` when a return hands it on as it is, `ctor:<New…Error>`, `ignored`, `unguarded`,
  `other:…` otherwise (the worst treatment is reported when there are several returns).

  Which interfaces are the CALLER's is decided here, in the statement: a row is about a component
  of the library itself exactly when its interface is CLOSED, i.e. has an unexported method
  (`Gen.pkgClosedInterfaceTypes`, regenerated and compared with `closedInterfaces` below: ArraySlab, MapSlab, element,
  elements, elementGroup, ExtraData, mutableValueNotifier - no type outside package atree can
  implement them).  Every other row that is not wrapped must be on the reviewed list
  `reviewedUnwrapped`, each entry with its justification; `requiredWrapped` lists the rows that ARE
  wrapped (a wrap that is removed moves its row to the first list, a call that disappears empties a
  row of the second).

  A seeded change that replaces one `wrapError…(err, …)` by `err` changes exactly one row from `wrapError…`
  to `raw` (to `ctor:NewFatalError` when the error is rebuilt with that constructor) and makes
  `caller_errors_are_wrapped` fail; that each row of `requiredWrapped` is needed is the last section.
-/
namespace Atree.C18
open Atree

/-- a row of `Gen.errWrapSites` -/
abbrev WrapRow := String × String × String × String

/-- the error is handed to one of the two wrap functions of errors.go -/
def isWrapped (how : String) : Bool :=
  how == "wrapErrorfAsExternalErrorIfNeeded" || how == "wrapErrorAsExternalErrorIfNeeded"

/-- the interfaces no type outside package atree can implement (they have an unexported method) -/
def closedInterfaces : List String :=
  ["ArraySlab", "ExtraData", "MapSlab", "element", "elementGroup", "elements", "mutableValueNotifier"]

/-- the rows about a component that a caller of the package can supply whose error is not handed
    to a wrap function -/
def unwrappedCallerSites (closed : List String) (rows : List WrapRow) : List WrapRow :=
  rows.filter (fun r => !closed.contains r.2.1 && !isWrapped r.2.2.2)

/-- every call through an open interface / a function value / an unresolved
    receiver whose error is NOT wrapped, with the reason why that is right (or the note that it is not). -/
def reviewedUnwrapped : List WrapRow := [
  -- debug printer: the iterator is the library's own (`a.ReadOnlyIterator()`), its errors are categorised; the text of the error is returned as the string
  ("Array.String", "ArrayIterator", "Next", "other:err.Error()"),
  -- not a caller's function: `parentUpdater` closures are built by the library (setCallbackWithChild), their errors are categorised
  ("Array.notifyParentIfNeeded", "func", "parentUpdater", "raw"),
  -- exported helper that the CALLER's StorableDecoder calls for the compact-map tag; the error goes back through the caller's decoder to a library call site of `StorableDecoder`, all of which wrap (rows below). Its twins DecodeInlinedArrayStorable / DecodeInlinedMapStorable wrap at once (observation: inconsistent, harmless)
  ("DecodeInlinedCompactMapStorable", "func", "StorableDecoder", "raw"),
  -- as Array.String
  ("OrderedMap.String", "MapIterator", "Next", "other:err.Error()"),
  -- as Array.notifyParentIfNeeded
  ("OrderedMap.notifyParentIfNeeded", "func", "parentUpdater", "raw"),
  -- not a caller's function: closures `appendChildStorables` / `appendSlab` defined in the same function; their bodies wrap what they get from the storage
  ("PersistentSlabStorage.SlabIterator", "func", "func(slab Slab) error", "raw"),
  -- not a caller's function: closures `appendChildStorables` / `appendSlab` defined in the same function; their bodies wrap what they get from the storage
  ("PersistentSlabStorage.SlabIterator", "func", "func(id SlabID, slab Slab) error", "raw"),
  -- not a caller's function: closures `appendChildStorables` / `appendSlab` defined in the same function; their bodies wrap what they get from the storage
  ("PersistentSlabStorage.SlabIterator", "func", "func(id SlabID, slab Slab) error", "raw"),
  -- the enclosing closure is itself handed out as a `TypeInfoDecoder`; every call site of a `TypeInfoDecoder` wraps (rows below)
  ("decodeTypeInfoRefIfNeeded", "func", "TypeInfoDecoder", "raw"),
  -- the function is used as an `encodeTypeInfo` value only; both call sites of `encodeTypeInfo` wrap (ArrayExtraData.Encode, MapExtraData.Encode)
  ("defaultEncodeTypeInfo", "TypeInfo", "Encode", "raw"),
  -- NOT JUSTIFIED - the code as it is: `hkey, _ := digester.Digest(level)`; the error of a caller-supplied Digester at level >= 1 is DROPPED inside collision groups (observation W2 of INTEGRATION-fx13.md; the library's own digester cannot fail below Levels(), which is checked just before)
  ("externalCollisionGroup.Get", "Digester", "Digest", "ignored"),
  -- as externalCollisionGroup.Get (W2)
  ("externalCollisionGroup.Remove", "Digester", "Digest", "ignored"),
  -- as externalCollisionGroup.Get (W2)
  ("externalCollisionGroup.Set", "Digester", "Digest", "ignored"),
  -- as externalCollisionGroup.Get (W2)
  ("externalCollisionGroup.getElementAndNextKey", "Digester", "Digest", "ignored"),
  -- as externalCollisionGroup.Get (W2)
  ("inlineCollisionGroup.Get", "Digester", "Digest", "ignored"),
  -- as externalCollisionGroup.Get (W2)
  ("inlineCollisionGroup.Remove", "Digester", "Digest", "ignored"),
  -- as externalCollisionGroup.Get (W2)
  ("inlineCollisionGroup.Set", "Digester", "Digest", "ignored"),
  -- as externalCollisionGroup.Get (W2)
  ("inlineCollisionGroup.getElementAndNextKey", "Digester", "Digest", "ignored"),
  -- the iterator is one of the library's own (every caller passes `a.Iterator()` / `a.ReadOnlyIterator…()` results); their `Next` categorises
  ("iterateArray", "ArrayIterator", "Next", "raw"),
  -- as iterateArray
  ("iterateMap", "MapIterator", "Next", "raw"),
  -- as iterateArray
  ("iterateMapKeys", "MapIterator", "NextKey", "raw"),
  -- as iterateArray
  ("iterateMapValues", "MapIterator", "NextValue", "raw"),
  -- debug verifier (VerifyArraySerialization); `actual` has just been compared equal to a `SlabIDStorable`, whose StoredValue categorises
  ("serializationVerifier.compareStorable", "Storable", "StoredValue", "raw")]

/-- the rows that hand the error to a wrap function: each must be a row of the regenerated fact -/
def requiredWrapped : List WrapRow := [
  ("Array.CopyNonRefSimple", "SlabStorage", "GenerateSlabID", "wrapErrorfAsExternalErrorIfNeeded"),
  ("Array.Get", "Storable", "StoredValue", "wrapErrorfAsExternalErrorIfNeeded"),
  ("Array.IterateReadOnlyLoadedValues", "func", "ArrayIterationFunc", "wrapErrorAsExternalErrorIfNeeded"),
  ("Array.promoteChildAsNewRoot", "SlabStorage", "Remove", "wrapErrorfAsExternalErrorIfNeeded"),
  ("Array.splitRoot", "SlabStorage", "GenerateSlabID", "wrapErrorfAsExternalErrorIfNeeded"),
  ("ArrayDataSlab.Inline", "SlabStorage", "Remove", "wrapErrorfAsExternalErrorIfNeeded"),
  ("ArrayDataSlab.Insert", "Value", "Storable", "wrapErrorfAsExternalErrorIfNeeded"),
  ("ArrayDataSlab.Set", "Value", "Storable", "wrapErrorfAsExternalErrorIfNeeded"),
  ("ArrayDataSlab.Split", "SlabStorage", "GenerateSlabID", "wrapErrorfAsExternalErrorIfNeeded"),
  ("ArrayDataSlab.copyWithNewSlabID", "Storable", "CopyNonRefSimple", "wrapErrorAsExternalErrorIfNeeded"),
  ("ArrayDataSlab.encodeElements", "Storable", "Encode", "wrapErrorfAsExternalErrorIfNeeded"),
  ("ArrayExtraData.Encode", "func", "encodeTypeInfo", "wrapErrorfAsExternalErrorIfNeeded"),
  ("ArrayMetaDataSlab.PopIterate", "SlabStorage", "Remove", "wrapErrorfAsExternalErrorIfNeeded"),
  ("ArrayMetaDataSlab.Split", "SlabStorage", "GenerateSlabID", "wrapErrorfAsExternalErrorIfNeeded"),
  ("ArrayMetaDataSlab.mergeChildren", "SlabStorage", "Remove", "wrapErrorfAsExternalErrorIfNeeded"),
  ("CheckStorageHealth", "SlabStorage", "SlabIterator", "wrapErrorfAsExternalErrorIfNeeded"),
  ("CheckStorageHealth", "SlabStorage", "Retrieve", "wrapErrorfAsExternalErrorIfNeeded"),
  ("DecodeInlinedArrayStorable", "func", "StorableDecoder", "wrapErrorfAsExternalErrorIfNeeded"),
  ("DecodeInlinedCompactMapStorable", "ComparableStorable", "CopyNonRefSimple", "wrapErrorAsExternalErrorIfNeeded"),
  ("DecodeSlab", "func", "StorableDecoder", "wrapErrorfAsExternalErrorIfNeeded"),
  ("DumpArraySlabs", "SlabStorage", "Retrieve", "wrapErrorfAsExternalErrorIfNeeded"),
  ("DumpMapSlabs", "SlabStorage", "Retrieve", "wrapErrorfAsExternalErrorIfNeeded"),
  ("EncodeSlab", "Slab", "Encode", "wrapErrorfAsExternalErrorIfNeeded"),
  ("LedgerBaseStorage.GenerateSlabID", "Ledger", "AllocateSlabIndex", "wrapErrorfAsExternalErrorIfNeeded"),
  ("LedgerBaseStorage.Remove", "Ledger", "SetValue", "wrapErrorfAsExternalErrorIfNeeded"),
  ("LedgerBaseStorage.Retrieve", "Ledger", "GetValue", "wrapErrorfAsExternalErrorIfNeeded"),
  ("LedgerBaseStorage.Store", "Ledger", "SetValue", "wrapErrorfAsExternalErrorIfNeeded"),
  ("MapDataSlab.Inline", "SlabStorage", "Remove", "wrapErrorfAsExternalErrorIfNeeded"),
  ("MapDataSlab.Split", "SlabStorage", "GenerateSlabID", "wrapErrorfAsExternalErrorIfNeeded"),
  ("MapExtraData.Encode", "func", "encodeTypeInfo", "wrapErrorfAsExternalErrorIfNeeded"),
  ("MapMetaDataSlab.PopIterate", "SlabStorage", "Remove", "wrapErrorfAsExternalErrorIfNeeded"),
  ("MapMetaDataSlab.Split", "SlabStorage", "GenerateSlabID", "wrapErrorfAsExternalErrorIfNeeded"),
  ("MapMetaDataSlab.mergeChildren", "SlabStorage", "Remove", "wrapErrorfAsExternalErrorIfNeeded"),
  ("NewArray", "SlabStorage", "GenerateSlabID", "wrapErrorfAsExternalErrorIfNeeded"),
  ("NewArrayFromBatchData", "SlabStorage", "GenerateSlabID", "wrapErrorfAsExternalErrorIfNeeded"),
  ("NewArrayFromBatchData", "func", "ArrayElementProvider", "wrapErrorAsExternalErrorIfNeeded"),
  ("NewArrayFromBatchData", "Value", "Storable", "wrapErrorfAsExternalErrorIfNeeded"),
  ("NewMap", "SlabStorage", "GenerateSlabID", "wrapErrorfAsExternalErrorIfNeeded"),
  ("NewMapFromBatchData", "SlabStorage", "GenerateSlabID", "wrapErrorfAsExternalErrorIfNeeded"),
  ("NewMapFromBatchData", "func", "MapElementProvider", "wrapErrorAsExternalErrorIfNeeded"),
  ("NewMapFromBatchData", "DigesterBuilder", "Digest", "wrapErrorfAsExternalErrorIfNeeded"),
  ("NewMapFromBatchData", "Digester", "Digest", "wrapErrorfAsExternalErrorIfNeeded"),
  ("NewStorableSlab", "SlabStorage", "GenerateSlabID", "wrapErrorfAsExternalErrorIfNeeded"),
  ("OrderedMap.CopyNonRefSimple", "SlabStorage", "GenerateSlabID", "wrapErrorfAsExternalErrorIfNeeded"),
  ("OrderedMap.Get", "Storable", "StoredValue", "wrapErrorfAsExternalErrorIfNeeded"),
  -- was finding F7 (returned raw until the `fix:` commit that wraps it in /repo)
  ("OrderedMap.Iterator", "MapKey", "StoredValue", "wrapErrorfAsExternalErrorIfNeeded"),
  ("OrderedMap.IterateReadOnlyLoadedValues", "func", "MapEntryIterationFunc", "wrapErrorAsExternalErrorIfNeeded"),
  ("OrderedMap.get", "DigesterBuilder", "Digest", "wrapErrorfAsExternalErrorIfNeeded"),
  ("OrderedMap.get", "Digester", "Digest", "wrapErrorfAsExternalErrorIfNeeded"),
  ("OrderedMap.getElementAndNextKey", "DigesterBuilder", "Digest", "wrapErrorfAsExternalErrorIfNeeded"),
  ("OrderedMap.getElementAndNextKey", "Digester", "Digest", "wrapErrorfAsExternalErrorIfNeeded"),
  ("OrderedMap.getElementAndNextKey", "MapKey", "StoredValue", "wrapErrorfAsExternalErrorIfNeeded"),
  ("OrderedMap.getElementAndNextKey", "MapValue", "StoredValue", "wrapErrorfAsExternalErrorIfNeeded"),
  ("OrderedMap.getNextKey", "DigesterBuilder", "Digest", "wrapErrorfAsExternalErrorIfNeeded"),
  ("OrderedMap.getNextKey", "Digester", "Digest", "wrapErrorfAsExternalErrorIfNeeded"),
  ("OrderedMap.getNextKey", "MapKey", "StoredValue", "wrapErrorfAsExternalErrorIfNeeded"),
  ("OrderedMap.promoteChildAsNewRoot", "SlabStorage", "Remove", "wrapErrorfAsExternalErrorIfNeeded"),
  ("OrderedMap.remove", "DigesterBuilder", "Digest", "wrapErrorfAsExternalErrorIfNeeded"),
  ("OrderedMap.remove", "Digester", "Digest", "wrapErrorfAsExternalErrorIfNeeded"),
  ("OrderedMap.set", "DigesterBuilder", "Digest", "wrapErrorfAsExternalErrorIfNeeded"),
  ("OrderedMap.set", "Digester", "Digest", "wrapErrorfAsExternalErrorIfNeeded"),
  ("OrderedMap.splitRoot", "SlabStorage", "GenerateSlabID", "wrapErrorfAsExternalErrorIfNeeded"),
  ("PersistentSlabStorage.BatchPreload", "BaseStorage", "Retrieve", "wrapErrorfAsExternalErrorIfNeeded"),
  ("PersistentSlabStorage.FastCommit", "BaseStorage", "Remove", "wrapErrorfAsExternalErrorIfNeeded"),
  ("PersistentSlabStorage.FastCommit", "BaseStorage", "Store", "wrapErrorfAsExternalErrorIfNeeded"),
  ("PersistentSlabStorage.GenerateSlabID", "BaseStorage", "GenerateSlabID", "wrapErrorfAsExternalErrorIfNeeded"),
  ("PersistentSlabStorage.NondeterministicFastCommit", "BaseStorage", "Remove", "wrapErrorfAsExternalErrorIfNeeded"),
  ("PersistentSlabStorage.NondeterministicFastCommit", "BaseStorage", "Store", "wrapErrorfAsExternalErrorIfNeeded"),
  ("PersistentSlabStorage.RetrieveIgnoringDeltas", "BaseStorage", "Retrieve", "wrapErrorfAsExternalErrorIfNeeded"),
  ("PersistentSlabStorage.commit", "BaseStorage", "Remove", "wrapErrorfAsExternalErrorIfNeeded"),
  ("PersistentSlabStorage.commit", "BaseStorage", "Store", "wrapErrorfAsExternalErrorIfNeeded"),
  ("SlabIDStorable.StoredValue", "SlabStorage", "Retrieve", "wrapErrorfAsExternalErrorIfNeeded"),
  ("SlabIDStorable.StoredValue", "Slab", "StoredValue", "wrapErrorfAsExternalErrorIfNeeded"),
  ("StorableSlab.Encode", "Storable", "Encode", "wrapErrorfAsExternalErrorIfNeeded"),
  ("StorableSlab.StoredValue", "Storable", "StoredValue", "wrapErrorfAsExternalErrorIfNeeded"),
  ("arrayVerifier.verifyDataSlab", "Storable", "StoredValue", "wrapErrorfAsExternalErrorIfNeeded"),
  ("arrayVerifier.verifySlab", "SlabStorage", "Retrieve", "wrapErrorAsExternalErrorIfNeeded"),
  ("basicDigesterBuilder.Digest", "func", "HashInputProvider", "wrapErrorfAsExternalErrorIfNeeded"),
  ("compactMapExtraData.Encode", "ComparableStorable", "Encode", "wrapErrorfAsExternalErrorIfNeeded"),
  ("encodeCompactMapValues", "Storable", "Encode", "wrapErrorfAsExternalErrorIfNeeded"),
  ("externalCollisionGroup.PopIterate", "SlabStorage", "Remove", "wrapErrorfAsExternalErrorIfNeeded"),
  ("externalCollisionGroup.Remove", "SlabStorage", "Retrieve", "wrapErrorfAsExternalErrorIfNeeded"),
  ("externalCollisionGroup.Remove", "SlabStorage", "Remove", "wrapErrorfAsExternalErrorIfNeeded"),
  ("getArraySlab", "SlabStorage", "Retrieve", "wrapErrorAsExternalErrorIfNeeded"),
  ("getEncodedTypeInfo", "TypeInfo", "Encode", "wrapErrorfAsExternalErrorIfNeeded"),
  ("getLoadedValue", "Slab", "StoredValue", "wrapErrorfAsExternalErrorIfNeeded"),
  ("getLoadedValue", "WrapperStorable", "StoredValue", "wrapErrorfAsExternalErrorIfNeeded"),
  ("getLoadedValue", "unresolved", "storable.StoredValue", "wrapErrorfAsExternalErrorIfNeeded"),
  ("getMapSlab", "SlabStorage", "Retrieve", "wrapErrorfAsExternalErrorIfNeeded"),
  ("inlineCollisionGroup.Set", "SlabStorage", "GenerateSlabID", "wrapErrorfAsExternalErrorIfNeeded"),
  ("iterateArray", "func", "ArrayIterationFunc", "wrapErrorAsExternalErrorIfNeeded"),
  ("iterateMap", "func", "MapEntryIterationFunc", "wrapErrorAsExternalErrorIfNeeded"),
  ("iterateMapKeys", "func", "MapElementIterationFunc", "wrapErrorAsExternalErrorIfNeeded"),
  ("iterateMapValues", "func", "MapElementIterationFunc", "wrapErrorAsExternalErrorIfNeeded"),
  ("mapVerifier.verifySingleElement", "MapKey", "StoredValue", "wrapErrorfAsExternalErrorIfNeeded"),
  ("mapVerifier.verifySingleElement", "MapValue", "StoredValue", "wrapErrorfAsExternalErrorIfNeeded"),
  ("mapVerifier.verifySingleElement", "DigesterBuilder", "Digest", "wrapErrorfAsExternalErrorIfNeeded"),
  ("mapVerifier.verifySingleElement", "Digester", "DigestPrefix", "wrapErrorfAsExternalErrorIfNeeded"),
  ("mapVerifier.verifySlab", "SlabStorage", "Retrieve", "wrapErrorAsExternalErrorIfNeeded"),
  ("newArrayDataSlabFromDataV0", "func", "StorableDecoder", "wrapErrorfAsExternalErrorIfNeeded"),
  ("newArrayDataSlabFromDataV1", "func", "StorableDecoder", "wrapErrorfAsExternalErrorIfNeeded"),
  ("newArrayExtraData", "func", "TypeInfoDecoder", "wrapErrorfAsExternalErrorIfNeeded"),
  ("newCompactMapExtraData", "func", "StorableDecoder", "wrapErrorfAsExternalErrorIfNeeded"),
  ("newExternalCollisionGroupFromData", "func", "StorableDecoder", "wrapErrorfAsExternalErrorIfNeeded"),
  ("newInlinedExtraDataFromData", "func", "TypeInfoDecoder", "wrapErrorfAsExternalErrorIfNeeded"),
  ("newMapExtraData", "func", "TypeInfoDecoder", "wrapErrorfAsExternalErrorIfNeeded"),
  ("newSingleElement", "Value", "Storable", "wrapErrorfAsExternalErrorIfNeeded"),
  ("newSingleElementFromData", "func", "StorableDecoder", "wrapErrorfAsExternalErrorIfNeeded"),
  ("nextLevelArraySlabs", "SlabStorage", "GenerateSlabID", "wrapErrorfAsExternalErrorIfNeeded"),
  ("nextLevelMapSlabs", "SlabStorage", "GenerateSlabID", "wrapErrorfAsExternalErrorIfNeeded"),
  ("readOnlyArrayIterator.Next", "SlabStorage", "Retrieve", "wrapErrorfAsExternalErrorIfNeeded"),
  ("readOnlyArrayIterator.Next", "Storable", "StoredValue", "wrapErrorfAsExternalErrorIfNeeded"),
  ("readOnlyMapIterator.Next", "Storable", "StoredValue", "wrapErrorfAsExternalErrorIfNeeded"),
  ("readOnlyMapIterator.NextKey", "Storable", "StoredValue", "wrapErrorfAsExternalErrorIfNeeded"),
  ("readOnlyMapIterator.NextValue", "Storable", "StoredValue", "wrapErrorfAsExternalErrorIfNeeded"),
  ("readOnlyMapIterator.advance", "SlabStorage", "Retrieve", "wrapErrorfAsExternalErrorIfNeeded"),
  ("singleElement.Encode", "MapKey", "Encode", "wrapErrorfAsExternalErrorIfNeeded"),
  ("singleElement.Encode", "MapValue", "Encode", "wrapErrorfAsExternalErrorIfNeeded"),
  ("singleElement.Get", "func", "ValueComparator", "wrapErrorfAsExternalErrorIfNeeded"),
  ("singleElement.Iterate", "func", "func(key MapKey, value MapValue) error", "wrapErrorAsExternalErrorIfNeeded"),
  ("singleElement.Remove", "func", "ValueComparator", "wrapErrorfAsExternalErrorIfNeeded"),
  ("singleElement.Set", "func", "ValueComparator", "wrapErrorfAsExternalErrorIfNeeded"),
  ("singleElement.Set", "Value", "Storable", "wrapErrorfAsExternalErrorIfNeeded"),
  ("singleElement.Set", "MapKey", "StoredValue", "wrapErrorfAsExternalErrorIfNeeded"),
  ("singleElement.Set", "DigesterBuilder", "Digest", "wrapErrorfAsExternalErrorIfNeeded"),
  ("singleElement.Set", "Digester", "Digest", "wrapErrorfAsExternalErrorIfNeeded"),
  ("singleElement.copyNonRefSimple", "MapKey", "CopyNonRefSimple", "wrapErrorAsExternalErrorIfNeeded"),
  ("singleElement.copyNonRefSimple", "MapValue", "CopyNonRefSimple", "wrapErrorAsExternalErrorIfNeeded"),
  ("singleElements.Remove", "func", "ValueComparator", "wrapErrorfAsExternalErrorIfNeeded"),
  ("singleElements.Set", "func", "ValueComparator", "wrapErrorfAsExternalErrorIfNeeded"),
  ("singleElements.Set", "Value", "Storable", "wrapErrorfAsExternalErrorIfNeeded"),
  ("singleElements.get", "func", "ValueComparator", "wrapErrorfAsExternalErrorIfNeeded"),
  ("storeSlab", "SlabStorage", "Store", "wrapErrorfAsExternalErrorIfNeeded")]

/-- the Boolean the theorem evaluates -/
def wrapOk (closed : List String) (rows : List WrapRow) : Bool :=
  closed == closedInterfaces &&
  unwrappedCallerSites closed rows == reviewedUnwrapped &&
  requiredWrapped.all (fun r => rows.contains r)

/-- what follows the first occurrence of `x` -/
def dropThrough [BEq α] (x : α) : List α → Option (List α)
  | [] => none
  | y :: ys => if x == y then some ys else dropThrough x ys

/-- every member of `req` occurs in `all`; each is looked for in `cur` (the rest of `all` behind the previous hit) first.
    `caller_errors_are_wrapped` evaluates this and gets `req.all (all.contains ·)` from `scanAll_sound`: `requiredWrapped`
    is written in the order of the rows of `Gen.errWrapSites` (one pair apart), so the scan makes a linear number of
    string comparisons where `requiredWrapped.all (rows.contains ·)` compares every pair. -/
def scanAll [BEq α] (all : List α) : List α → List α → Bool
  | [], _ => true
  | x :: req, cur =>
    match dropThrough x cur with
    | some rest => scanAll all req rest
    | none => all.contains x && scanAll all req cur

theorem dropThrough_some [BEq α] [LawfulBEq α] {x : α} {cur rest : List α} (h : dropThrough x cur = some rest) :
    x ∈ cur ∧ ∀ y ∈ rest, y ∈ cur := by
  induction cur with
  | nil => simp [dropThrough] at h
  | cons y ys ih =>
    unfold dropThrough at h
    split at h
    · next hxy =>
      cases h
      exact ⟨by simp [beq_iff_eq.mp hxy], fun z hz => List.mem_cons_of_mem _ hz⟩
    · obtain ⟨h1, h2⟩ := ih h
      exact ⟨List.mem_cons_of_mem _ h1, fun z hz => List.mem_cons_of_mem _ (h2 z hz)⟩

theorem scanAll_sound [BEq α] [LawfulBEq α] (all : List α) :
    ∀ (req cur : List α), (∀ y ∈ cur, y ∈ all) → scanAll all req cur = true →
      req.all (fun r => all.contains r) = true := by
  intro req
  induction req with
  | nil => intros; rfl
  | cons x req ih =>
    intro cur hsub h
    unfold scanAll at h
    rw [List.all_cons, Bool.and_eq_true]
    split at h
    · next rest hd =>
      obtain ⟨hx, hrest⟩ := dropThrough_some hd
      exact ⟨List.contains_iff_mem.mpr (hsub x hx), ih rest (fun y hy => hsub y (hrest y hy)) h⟩
    · rw [Bool.and_eq_true] at h
      exact ⟨h.1, ih cur hsub h.2⟩

/-- C18, last sentence, at every call site (regenerated on every run).  Among all calls of package atree through an interface value, a function value or an
    unresolved receiver that return an error,
      (1) the interfaces with an unexported method - which only the library implements - are exactly
          `closedInterfaces`;
      (2) the calls through any OTHER interface (SlabStorage incl. GenerateSlabID / Remove / Retrieve /
          Store, BaseStorage, Ledger, Value.Storable, Storable / MapKey / MapValue StoredValue / Encode /
          CopyNonRefSimple, DigesterBuilder, Digester, TypeInfo, Slab) or through a function value
          (ValueComparator, HashInputProvider, the iteration callbacks, the bulk-build element
          providers, the decoder callbacks) whose error is not handed to
          `wrapError[f]AsExternalErrorIfNeeded` are exactly the entries of `reviewedUnwrapped`, in
          source order, with multiplicity;
      (3) every row of `requiredWrapped` is a row of the fact (each of them is a wrapped one). -/
theorem caller_errors_are_wrapped : wrapOk Gen.pkgClosedInterfaceTypes Gen.errWrapSites = true := by
  have h : (Gen.pkgClosedInterfaceTypes == closedInterfaces &&
      unwrappedCallerSites Gen.pkgClosedInterfaceTypes Gen.errWrapSites == reviewedUnwrapped &&
      scanAll Gen.errWrapSites requiredWrapped Gen.errWrapSites) = true := by decide +kernel
  rw [Bool.and_eq_true] at h
  rw [wrapOk, Bool.and_eq_true]
  exact ⟨h.1, scanAll_sound _ _ _ (fun _ hy => hy) h.2⟩

/-- clause (2) in logical form: a row about an open interface / a function value is wrapped or reviewed -/
theorem caller_errors_are_wrapped_spec :
    ∀ r ∈ Gen.errWrapSites, r.2.1 ∈ closedInterfaces ∨ isWrapped r.2.2.2 = true ∨ r ∈ reviewedUnwrapped := by
  have h := caller_errors_are_wrapped
  simp only [wrapOk, Bool.and_eq_true, beq_iff_eq] at h
  intro r hr
  by_cases hc : r.2.1 ∈ closedInterfaces
  · exact Or.inl hc
  by_cases hw : isWrapped r.2.2.2 = true
  · exact Or.inr (Or.inl hw)
  refine Or.inr (Or.inr ?_)
  rw [← h.1.2]
  simp only [unwrappedCallerSites, List.mem_filter, Bool.and_eq_true, Bool.not_eq_eq_eq_not, Bool.not_true]
  refine ⟨hr, ?_, by simpa using hw⟩
  rw [h.1.1]
  simpa [List.contains_iff_mem] using hc

/-! ### each required row is needed: one-row changes of the table, as data -/

/-- a required row that is replaced by another is missing, whatever else the rows hold -/
theorem contains_map_replace_false [BEq α] [LawfulBEq α] {x x' : α} (h : x' ≠ x) (rows : List α) :
    (rows.map (fun r => if r == x then x' else r)).contains x = false := by
  rw [Bool.eq_false_iff, Ne, List.contains_iff_mem, List.mem_map]
  rintro ⟨r, _, hr⟩
  split at hr
  · exact h hr
  · next hne => exact hne (beq_iff_eq.mpr hr)

/-- a required row that the filter removes is missing, whatever else the rows hold -/
theorem contains_filter_false [BEq α] [LawfulBEq α] {p : α → Bool} {x : α} (hp : p x = false) (rows : List α) :
    (rows.filter p).contains x = false := by
  rw [Bool.eq_false_iff, Ne, List.contains_iff_mem, List.mem_filter, hp]
  exact fun h => Bool.false_ne_true h.2

set_option maxRecDepth 100000 in
/-- s4 x19 (`value.Storable` of a new map element returned as it is): the row leaves `requiredWrapped`
    and enters the unwrapped list -/
example : wrapOk closedInterfaces
    (Gen.errWrapSites.map (fun r => if r == ("newSingleElement", "Value", "Storable", "wrapErrorfAsExternalErrorIfNeeded")
      then ("newSingleElement", "Value", "Storable", "raw") else r)) = false := by
  have hx : ("newSingleElement", "Value", "Storable", "wrapErrorfAsExternalErrorIfNeeded") ∈ requiredWrapped := by
    decide +kernel
  rw [wrapOk, all_false_of_mem hx (contains_map_replace_false (by decide +kernel) _)]
  exact Bool.and_false _

/-- s3 E16 (`Retrieve` failure during read-only array iteration reported through NewFatalError) -/
example : (unwrappedCallerSites closedInterfaces
    [("readOnlyArrayIterator.Next", "SlabStorage", "Retrieve", "ctor:NewFatalError")]).length = 1 := by decide +kernel

set_option maxRecDepth 100000 in
/-- a wrapped call that disappears altogether is noticed by clause (3) -/
example : wrapOk closedInterfaces (Gen.errWrapSites.filter (fun r => r.1 != "ArrayDataSlab.Split")) = false := by
  have hx : ("ArrayDataSlab.Split", "SlabStorage", "GenerateSlabID", "wrapErrorfAsExternalErrorIfNeeded") ∈ requiredWrapped := by
    decide +kernel
  rw [wrapOk, all_false_of_mem hx (contains_filter_false (by decide +kernel) _)]
  exact Bool.and_false _

set_option maxRecDepth 100000 in
/-- non-vacuity: the fact has rows of every family the property names -/
example : (Gen.errWrapSites.filter (fun r => r.2.1 == "SlabStorage")).length ≥ 40 ∧
    (Gen.errWrapSites.filter (fun r => r.2.1 == "Value" && r.2.2.1 == "Storable")).length = 7 ∧
    (Gen.errWrapSites.filter (fun r => r.2.1 == "func")).length ≥ 30 := by decide +kernel

end Atree.C18

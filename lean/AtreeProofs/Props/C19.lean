import AtreeProofs.Codec.NoPanic
import AtreeProofs.Codec.NoPanicG
import AtreeProofs.Codec.BudgetSlab
/-
  C19 — Decoding untrusted bytes never panics or hangs.
  PROPERTY THEOREMS about the byte-level decoder model (`AtreeModel/Codec/Decode.lean`), in which
  every Go slice expression, fixed-offset read, index and `make` of the transcribed decoders carries
  its bounds condition and a violated condition yields the outcome `panic`.

  Scope of `decode_never_panics`: `DecodeSlab` for EVERY slab kind and both format versions — array
  data / index slabs, map data / index / collision-group slabs, large-value slabs, the array and map
  extra-data sections, the shared inlined-extra-data section (type-info references included),
  inlined arrays / maps / compact maps (`DecodeInlined*Storable`), collision groups, the harness's
  element / type-info callbacks with their recursion — for ALL byte strings.
  Scope of `alloc_linear`: the same full `DecodeSlab`, all kinds, all byte strings, success or
  failure: at most TWO slice elements per input byte (an inlined compact map allocates two slices of
  its element count; every other `make` is paid once by the items an array head announces or by the
  bytes of a byte string just read).
  Scope of `alloc_linear_flat`: the first part of the decoder (`decodeSlabFlat`: array data / index
  slabs and large-value slabs without wrappers or inlined children), where the constant is 1; the
  bound `allocs ≤ length` does NOT hold for the full decoder, see INTEGRATION-codec2.md.
  Panics inside the CBOR library or the Go runtime are not modelled (DESIGN.md §7, C19 "Partial").

  Termination: every function of the model is accepted by Lean as structurally recursive — the
  element loops and the child-header loops on their iteration count, the CBOR validator `wfRun` on a
  fuel argument that is the input length, the mutually recursive decoders of nested storables and
  map elements on a fuel argument that `decodeSlabGen` sets to the input length plus one (exhausted
  fuel is an `error`, never a `panic`; it is never what decides: `decodeSlab_fuel_irrelevant`,
  Props/C19Fuel.lean).  There is no `partial` definition in the model.
  The accessors `ByteSize` / `ChildStorables`: Props/C19Acc.lean (`accessors_never_panic`).
-/
namespace Atree.C19
open Atree Atree.Codec Atree.Gen

/-- `DecodeSlab` never panics: for every byte string, slab ID and allocation-counter start. -/
theorem decode_never_panics (bytes : Bytes) (id : SlabID) (n : Nat) :
    decodeSlab id bytes n ≠ .panic := by
  exact NP.ne_panic (np_decodeSlab id bytes) n

/-- The three header queries never panic, and fail exactly on inputs shorter than two bytes. -/
theorem header_queries_total (bytes : Bytes) (n : Nat) :
    isRootOfAnObject bytes n ≠ .panic ∧ Codec.hasPointers bytes n ≠ .panic ∧ hasSizeLimit bytes n ≠ .panic := by
  have hq : ∀ (f : SlabHead → Bool), (do let h ← headOf bytes; pure (f h) : DM Bool) n ≠ .panic := by
    intro f h
    have hs : Safe (do let h ← headOf bytes; pure (f h) : DM Bool) 0 (fun _ => True) :=
      Safe.bind0 (safe_headOf bytes) (fun _ _ => Safe.pure trivial)
    have := hs n
    rw [h] at this
    exact this
  exact ⟨hq _, hq _, hq _⟩

/-- The header queries succeed exactly when there are at least two bytes. -/
theorem header_queries_ok_iff (bytes : Bytes) (n : Nat) :
    (∃ b, isRootOfAnObject bytes n = .ok b n) ↔ 2 ≤ bytes.length := by
  unfold isRootOfAnObject headOf
  constructor
  · rintro ⟨b, h⟩
    by_cases hl : bytes.length < versionAndFlagSize
    · rw [if_pos hl] at h
      cases h
    · simp only [versionAndFlagSize] at hl; omega
  · intro hl
    match bytes, hl with
    | b0 :: b1 :: tail, _ =>
      refine ⟨(SlabHead.mk b0 b1).isRoot, ?_⟩
      have h2 : ¬ (b0 :: b1 :: tail).length < versionAndFlagSize := by simp [versionAndFlagSize]
      rw [if_neg h2]
      unfold sliceTo
      rw [if_pos (by simp [versionAndFlagSize])]
      rfl

/-- Memory, first part of the decoder (array data / index slabs, large-value slabs, plain elements):
    the number of slice elements `DecodeSlab` allocates with `make` (the element slice of a data slab,
    the two child-header slices of an index slab) is at most the length of the input, whether
    decoding succeeds or fails.  (For the full decoder the constant is 2, not 1: `alloc_linear`.) -/
theorem alloc_linear_flat (bytes : Bytes) (id : SlabID) : (decodeSlabFlat id bytes).run.allocs ≤ bytes.length + 0 :=
  (safe_decodeSlabFlat id bytes).run_allocs_le

/-- Memory, the full decoder (every slab kind, both versions, inlined children, compact maps,
    collision groups, the inlined-extra-data section): the number of slice elements `DecodeSlab`
    allocates with `make` is at most twice the length of the input, whether decoding succeeds or
    fails.  The constant 2 is needed: `DecodeInlinedCompactMapStorable` allocates a digest slice and
    an element slice of the size of the (validated) value array.  Proof: `Codec/Budget*.lean` — the
    CBOR validator has already accepted every item the stream decoder is inside, so an array head
    that announces `k` items is followed by at least `k` bytes. -/
theorem alloc_linear (bytes : Bytes) (id : SlabID) : (decodeSlab id bytes).run.allocs ≤ 2 * bytes.length := by
  have h := decodeSlab_alloc_le id bytes 0
  unfold DM.run
  cases hm : decodeSlab id bytes 0 with
  | ok a n => rw [hm] at h; simp only [Res.allocs]; omega
  | error e n => rw [hm] at h; simp only [Res.allocs]; omega
  | panic => simp [Res.allocs]

/-- The same with an arbitrary start of the allocation counter (so for a sequence of decodes). -/
theorem alloc_linear_from (bytes : Bytes) (id : SlabID) (n : Nat) :
    match decodeSlab id bytes n with
    | .ok _ n' => n' ≤ n + 2 * bytes.length
    | .error _ n' => n' ≤ n + 2 * bytes.length
    | .panic => True :=
  decodeSlab_alloc_le id bytes n

/-- The copies the CBOR library makes in `DecodeBytes` are bounded by the bytes consumed (so, summed
    over a register, by its length): a returned byte string is shorter than what was consumed. -/
theorem decodeBytes_copy_le_consumed {t : Nat} {b : Bytes} {d d' : Dec} (hi : DecInv t d)
    (h : d.decodeBytes = some (b, d')) : d.consumed + b.length + 1 ≤ d'.consumed ∧ d'.consumed ≤ t := by
  obtain ⟨hi', hl⟩ := decodeBytes_after hi h
  exact ⟨by unfold DecInv at hi hi'; omega, hi'.consumed_le⟩

/-- The validator's fuel — set to the input length — is never what makes an input invalid: any larger
    amount gives the same verdict.  (The other fuel of the model, that of the mutually recursive
    decoders of nested storables and map elements, is covered by `C19.decodeSlab_fuel_irrelevant`,
    Props/C19Fuel.lean.) -/
theorem validator_fuel_irrelevant (data : Bytes) (fuel : Nat) (h : data.length ≤ fuel) :
    wfRun fuel [.items 0 0] data = wfNext data :=
  wfRun_fuel_irrelevant fuel data.length _ data h (Nat.le_refl _)

end Atree.C19

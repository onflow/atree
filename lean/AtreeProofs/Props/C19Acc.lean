import AtreeProofs.Codec.Accessors
/-
  C19 — "the size and child-reference accessors of any slab that decoding does return are
  panic-free".

  The accessors (`ByteSize()`, `ChildStorables()` of the five Go slab types, `elementsStorables`,
  `elementStorables`) are transcribed in the panic-tracking monad over a raw representation of Go
  values in `AtreeProofs/Codec/Accessors.lean`; read its header comment for the exact scope:

  * PROVED: on the image `s.toRaw` of every slab `s` the decoder model returns, the transcribed
    accessors do not panic, `ByteSize()` is the model's `Slab.byteSize`, `ChildStorables()` is the
    model's `Slab.childStorables` with every entry a non-nil storable whose own `ByteSize()` does not
    panic either; and, for ARBITRARY raw slabs, exactly when the transcribed accessors panic
    (`accessors_panic_exactly`) — a nil / foreign / typed-nil `element` slot, a typed-nil `elements`,
    a nil slab pointer, a nil storable under `StorableSlab.ByteSize()`.
  * CARRIED BY THE SHAPE OF THE MODEL, NOT PROVED: that the Go decoders return only fully populated
    slabs (every `make`d slot assigned before the struct is built, non-nil pointer iff nil error,
    non-nil storables from the callback).  The Go lines are cited in the header of Accessors.lean;
    `Codec.makeFillM_eq` / `Codec.goElementLoop_eq_decodeElems` prove the loop PATTERN
    (make + indexed assignment = the model's list, every slot filled, no index out of range), not
    that each Go loop is an instance of it.  A stronger statement needs a pointer/slice-level model
    of the decoders.
-/
namespace Atree.C19
open Atree Atree.Codec Atree.Gen

/-- an embedded storable is never the nil interface -/
theorem toRaw_ne_nil (s : Stor) : s.toRaw ≠ RStor.nil := by
  cases s <;> simp [Stor.toRaw]

/-- `ByteSize()` of an embedded storable does not panic (no nil under a wrapper, no nil pointer) -/
theorem toRaw_sizeSafe : (s : Stor) → s.toRaw.sizeSafe = true
  | .val _ _ => rfl
  | .ref _ => rfl
  | .some s => by
    have ih := toRaw_sizeSafe s
    simpa [Stor.toRaw, RStor.sizeSafe] using ih
  | .arr _ _ _ => rfl
  | .map _ _ _ => rfl

/-- C19, accessors.  For every byte string, if `DecodeSlab` (the model) returns a slab `s`, then the
    Go accessors as transcribed, run on the Go value `s.toRaw` from any allocation counter `k'`:
    neither panics; `ByteSize()` returns the model's `s.byteSize`; `ChildStorables()` returns the
    model's `s.childStorables` (allocating `len(childrenHeaders)` slice elements with `make` for an
    index slab, none otherwise); every returned child is a non-nil storable whose `ByteSize()` does
    not panic. -/
theorem accessors_never_panic (bytes : Bytes) (id : SlabID) (n : Nat) (s : Slab) (k : Nat)
    (h : decodeSlab id bytes n = .ok s k) (k' : Nat) :
    byteSizeM s.toRaw k' ≠ .panic ∧ childStorablesM s.toRaw k' ≠ .panic ∧
    byteSizeM s.toRaw k' = .ok s.byteSize k' ∧
    childStorablesM s.toRaw k' = .ok (s.childStorables.map Stor.toRaw) (k' + s.childMakeAllocs) ∧
    (∀ c ∈ s.childStorables.map Stor.toRaw, c ≠ RStor.nil ∧ ∀ k'', c.byteSizeM k'' ≠ .panic) := by
  obtain ⟨h1, h2⟩ := accessors_of_decoded h k'
  refine ⟨by rw [h1]; simp, by rw [h2]; simp, h1, h2, ?_⟩
  intro c hc
  obtain ⟨x, _, rfl⟩ := List.mem_map.1 hc
  refine ⟨toRaw_ne_nil x, fun k'' hp => ?_⟩
  rw [Stor.byteSizeM_toRaw] at hp
  cases hp

/-- The hypothesis "decoded" is used: `ByteSize()` of the Go value of an arbitrary model slab need
    not be the model's `byteSize` — the flat model's `Elem` carries a size even for a slab reference,
    Go's `SlabIDStorable.ByteSize()` is the constant 19. -/
theorem byteSize_needs_decoded :
    byteSizeM (Slab.storable ⟨1, 1⟩ ⟨40, .ref ⟨1, 2⟩⟩).toRaw 0 = .ok 21 0 ∧
    (Slab.storable ⟨1, 1⟩ ⟨40, .ref ⟨1, 2⟩⟩).byteSize = 42 := ⟨rfl, rfl⟩

/-- Exactly when the transcribed accessors panic, on ARBITRARY raw slabs (`RawSlab.sizeSafe`,
    `RawSlab.childSafe` are the decidable conditions spelled out in Accessors.lean). -/
theorem accessors_panic_exactly (r : RawSlab) (k : Nat) :
    (byteSizeM r k = .panic ↔ r.sizeSafe = false) ∧ (childStorablesM r k = .panic ↔ r.childSafe = false) :=
  ⟨byteSizeM_panic_iff r k, childStorablesM_panic_iff r k⟩

/-- a root map data slab: three digests; a single element whose value is wrapped, an inline
    collision group of two single elements (one value a slab reference), an external collision group -/
def mapSlab : Slab :=
  Slab.mdata
    { id := ⟨1, 2⟩, next := SlabID.undef, extra := Option.some { ty := TyInfo.plain 3, count := 4, seed := 9 },
      els := MEls.hkey 0 [5, 6, 7]
        [MEl.single (SEl.mk (Stor.val 2 1) (Stor.some (Stor.val 2 2))),
         MEl.inl (MEls.single 1 [SEl.mk (Stor.val 2 3) (Stor.val 2 4), SEl.mk (Stor.val 2 5) (Stor.ref ⟨1, 9⟩)]),
         MEl.ext ⟨1, 7⟩],
      anySize := false, group := false }

/-- its 101-byte register -/
def mapReg : Bytes :=
  [16, 200, 131, 3, 4, 9, 131, 0, 89, 0, 24, 0, 0, 0, 0, 0, 0, 0, 5, 0, 0, 0, 0, 0, 0, 0, 6, 0, 0, 0, 0, 0, 0, 0, 7,
   153, 0, 3, 130, 65, 1, 216, 165, 65, 2, 216, 253, 131, 1, 64, 153, 0, 2, 130, 65, 3, 65, 4, 130, 65, 5, 216, 255,
   80, 0, 0, 0, 0, 0, 0, 0, 1, 0, 0, 0, 0, 0, 0, 0, 9, 216, 254, 216, 255, 80, 0, 0, 0, 0, 0, 0, 0, 1, 0, 0, 0, 0, 0,
   0, 0, 7]

theorem mapReg_decodes : decodeSlab ⟨1, 2⟩ mapReg 0 = .ok mapSlab 8 := by with_unfolding_all rfl

/-- the theorem applied: seven child storables, in element order, none nil -/
theorem mapSlab_children :
    childStorablesM mapSlab.toRaw 0 =
      .ok [.val 2 1, .some (.val 2 2), .val 2 3, .val 2 4, .val 2 5, .ref ⟨1, 9⟩, .ref ⟨1, 7⟩] 0 :=
  (accessors_never_panic mapReg ⟨1, 2⟩ 0 mapSlab 8 mapReg_decodes 0).2.2.2.1

theorem mapSlab_byteSize : byteSizeM mapSlab.toRaw 0 = .ok mapSlab.byteSize 0 :=
  (accessors_never_panic mapReg ⟨1, 2⟩ 0 mapSlab 8 mapReg_decodes 0).2.2.1

/-- a map index slab with two children: `ChildStorables()` allocates two slots and fills both -/
def idxSlab : Slab :=
  Slab.mindex { id := ⟨1, 3⟩, extra := Option.none, childHdrs := [⟨⟨1, 4⟩, 100, 5⟩, ⟨⟨1, 5⟩, 120, 9⟩] }

def idxReg : Bytes :=
  [16, 9, 0, 0, 0, 0, 0, 0, 0, 1, 0, 2, 0, 0, 0, 0, 0, 0, 0, 4, 0, 0, 0, 0, 0, 0, 0, 5, 0, 100, 0, 0, 0, 0, 0, 0, 0,
   5, 0, 0, 0, 0, 0, 0, 0, 9, 0, 120]

theorem idxReg_decodes : decodeSlab ⟨1, 3⟩ idxReg 0 = .ok idxSlab 2 := by with_unfolding_all rfl

theorem idxSlab_children : childStorablesM idxSlab.toRaw 0 = .ok [.ref ⟨1, 4⟩, .ref ⟨1, 5⟩] 2 :=
  (accessors_never_panic idxReg ⟨1, 3⟩ 0 idxSlab 2 idxReg_decodes 0).2.2.2.1

/-- the raw model does express the failure the property excludes: the same map slab with the second
    `elems` slot still nil (as after `make`) makes `ChildStorables()` panic -/
theorem nil_slot_panics (k : Nat) : childStorablesM halfFilledMapSlab k = .panic :=
  childStorables_nil_slot_panics k

end Atree.C19

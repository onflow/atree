import AtreeProofs.Codec.Fuel
/-
  C19 — fuel irrelevance of the nested decoders.

  The mutually recursive decoders of nested storables and map elements
  (`AtreeModel/Codec/Decode.lean`, second part) recurse on a fuel argument; exhausted fuel is `fail`,
  which cannot be told from a decoding error.  `C19.validator_fuel_irrelevant` covers the CBOR
  validator `wfRun` only.  The theorems here say that for the decoders, too, the fuel is never what
  makes an input invalid: for every fuel at or above the bound `unread bytes + c` (c = 1, 2 or 3,
  see `Codec/DecodersSpec.lean`) the outcome — value, error kind, allocation counter, panic — is the one of
  the bound, and the fuel the callers supply (`data.length + 1`) is at or above the bound at every
  call site, so it can be replaced by any larger number without changing `DecodeSlab`
  (`decodeSlab_fuel_irrelevant`).  Below the bound fuel DOES matter (`fuel_matters_below_bound`): the
  statement is not vacuous.

  What this is about: the MODEL's termination device.  The Go decoders have no fuel; they recurse on
  the nesting of the input.  The theorem removes the one way in which the model could reject an
  input for a reason the Go code does not have.
-/
namespace Atree.C19
open Atree Atree.Codec Atree.Gen

/-- `hx.decodeStorable`: any fuel above the number of unread bytes gives the same outcome. -/
theorem decStG_fuel_irrelevant (fuel depth : Nat) (d : Dec) (addr : Nat) (xs : List XD) (n : Nat)
    (h : d.data.length + 1 ≤ fuel) :
    decStG fuel depth d addr xs n = decStG (d.data.length + 1) depth d addr xs n := by
  rw [decStG_fuel_eq fuel depth d addr xs h]

/-- two sufficient fuels agree -/
theorem decStG_fuel_irrelevant₂ (f1 f2 depth : Nat) (d : Dec) (addr : Nat) (xs : List XD) (n : Nat)
    (h1 : d.data.length + 1 ≤ f1) (h2 : d.data.length + 1 ≤ f2) :
    decStG f1 depth d addr xs n = decStG f2 depth d addr xs n := by
  rw [decStG_fuel_eq f1 depth d addr xs h1, decStG_fuel_eq f2 depth d addr xs h2]

/-- the element loop of the array decoders -/
theorem decStsG_fuel_irrelevant (fuel k cdepth : Nat) (d : Dec) (addr : Nat) (xs : List XD) (size n : Nat)
    (h : d.data.length + 2 ≤ fuel) :
    decStsG fuel k cdepth d addr xs size n = decStsG (d.data.length + 2) k cdepth d addr xs size n := by
  rw [decStsG_fuel_eq fuel k cdepth d addr xs size h]

/-- `DecodeInlinedArrayStorable` -/
theorem decInlArr_fuel_irrelevant (fuel cdepth : Nat) (d : Dec) (addr : Nat) (xs : List XD) (n : Nat)
    (h : d.data.length + 1 ≤ fuel) :
    decInlArr fuel cdepth d addr xs n = decInlArr (d.data.length + 1) cdepth d addr xs n := by
  rw [decInlArr_fuel_eq fuel cdepth d addr xs h]

/-- `DecodeInlinedMapStorable` -/
theorem decInlMap_fuel_irrelevant (fuel cdepth : Nat) (d : Dec) (addr : Nat) (xs : List XD) (n : Nat)
    (h : d.data.length + 1 ≤ fuel) :
    decInlMap fuel cdepth d addr xs n = decInlMap (d.data.length + 1) cdepth d addr xs n := by
  rw [decInlMap_fuel_eq fuel cdepth d addr xs h]

/-- `DecodeInlinedCompactMapStorable` -/
theorem decInlCMap_fuel_irrelevant (fuel cdepth : Nat) (d : Dec) (addr : Nat) (xs : List XD) (n : Nat)
    (h : d.data.length + 1 ≤ fuel) :
    decInlCMap fuel cdepth d addr xs n = decInlCMap (d.data.length + 1) cdepth d addr xs n := by
  rw [decInlCMap_fuel_eq fuel cdepth d addr xs h]

/-- the value loop of `DecodeInlinedCompactMapStorable` -/
theorem decCVals_fuel_irrelevant (fuel : Nat) (ks : List (Nat × Nat)) (cdepth : Nat) (d : Dec) (addr : Nat)
    (xs : List XD) (size n : Nat) (h : d.data.length + 2 ≤ fuel) :
    decCVals fuel ks cdepth d addr xs size n = decCVals (d.data.length + 2) ks cdepth d addr xs size n := by
  rw [decCVals_fuel_eq fuel ks cdepth d addr xs size h]

/-- `newElementsFromData` -/
theorem decMElsG_fuel_irrelevant (fuel cdepth : Nat) (d : Dec) (addr : Nat) (xs : List XD) (n : Nat)
    (h : d.data.length + 1 ≤ fuel) :
    decMElsG fuel cdepth d addr xs n = decMElsG (d.data.length + 1) cdepth d addr xs n := by
  rw [decMElsG_fuel_eq fuel cdepth d addr xs h]

/-- `newSingleElementFromData` -/
theorem decSElG_fuel_irrelevant (fuel cdepth : Nat) (d : Dec) (addr : Nat) (xs : List XD) (n : Nat)
    (h : d.data.length + 1 ≤ fuel) :
    decSElG fuel cdepth d addr xs n = decSElG (d.data.length + 1) cdepth d addr xs n := by
  rw [decSElG_fuel_eq fuel cdepth d addr xs h]

/-- the loop over `newSingleElementFromData` -/
theorem decSElsG_fuel_irrelevant (fuel k cdepth : Nat) (d : Dec) (addr : Nat) (xs : List XD) (size n : Nat)
    (h : d.data.length + 2 ≤ fuel) :
    decSElsG fuel k cdepth d addr xs size n = decSElsG (d.data.length + 2) k cdepth d addr xs size n := by
  rw [decSElsG_fuel_eq fuel k cdepth d addr xs size h]

/-- `newElementFromData` -/
theorem decMElG_fuel_irrelevant (fuel cdepth : Nat) (d : Dec) (addr : Nat) (xs : List XD) (n : Nat)
    (h : d.data.length + 2 ≤ fuel) :
    decMElG fuel cdepth d addr xs n = decMElG (d.data.length + 2) cdepth d addr xs n := by
  rw [decMElG_fuel_eq fuel cdepth d addr xs h]

/-- the loop over `newElementFromData` -/
theorem decMElListG_fuel_irrelevant (fuel k cdepth : Nat) (d : Dec) (addr : Nat) (xs : List XD) (size n : Nat)
    (h : d.data.length + 3 ≤ fuel) :
    decMElListG fuel k cdepth d addr xs size n = decMElListG (d.data.length + 3) k cdepth d addr xs size n := by
  rw [decMElListG_fuel_eq fuel k cdepth d addr xs size h]

/-! ### the inlined-extra-data section (fuel constant along the loops; `T` = length of the section's
    input, `DecInv T d` = `d` is a decoder state over that input) -/

/-- the key loop of `newCompactMapExtraData` -/
theorem decCompactKeys_fuel_irrelevant {T : Nat} (fuel k : Nat) (d : Dec) (n : Nat) (hi : DecInv T d)
    (h : T + 1 ≤ fuel) : decCompactKeys fuel k d n = decCompactKeys (T + 1) k d n := by
  rw [decCompactKeys_fuel_eq h k hi]

/-- `newCompactMapExtraData` -/
theorem newCompactMapExtraData_fuel_irrelevant {T : Nat} (fuel : Nat) (tis : List TyInfo) (d : Dec) (n : Nat)
    (hi : DecInv T d) (h : T + 1 ≤ fuel) :
    newCompactMapExtraData fuel tis d n = newCompactMapExtraData (T + 1) tis d n := by
  rw [newCompactMapExtraData_fuel_eq h tis hi]

/-- one extra-data entry -/
theorem decXD_fuel_irrelevant {T : Nat} (fuel : Nat) (tis : List TyInfo) (d : Dec) (n : Nat)
    (hi : DecInv T d) (h : T + 1 ≤ fuel) : decXD fuel tis d n = decXD (T + 1) tis d n := by
  rw [decXD_fuel_eq h tis hi]

/-- the loop over the extra-data entries -/
theorem decXDs_fuel_irrelevant {T : Nat} (fuel : Nat) (tis : List TyInfo) (k : Nat) (d : Dec) (n : Nat)
    (hi : DecInv T d) (h : T + 1 ≤ fuel) : decXDs fuel tis k d n = decXDs (T + 1) tis k d n := by
  rw [decXDs_fuel_eq h tis k hi]

/-- `newInlinedExtraDataFromData` with any fuel schedule at or above the model's -/
theorem newInlinedExtraDataFromData_fuel_irrelevant (φ : Nat → Nat) (hφ : ∀ L, L + 1 ≤ φ L) (data : Bytes) (n : Nat) :
    newInlinedExtraDataFromDataF φ data n = newInlinedExtraDataFromData data n := by
  rw [newInlinedExtraDataFromDataF_eq hφ]

/-- map data slabs from "Decode elements" on -/
theorem mapDataContent_fuel_irrelevant (φ : Nat → Nat) (hφ : ∀ L, L + 1 ≤ φ L) (id : SlabID) (h : SlabHead)
    (extra : Option MapExtra) (next : SlabID) (xs : List XD) (data : Bytes) (n : Nat) :
    mapDataContentF φ id h extra next xs data n = mapDataContent id h extra next xs data n := by
  rw [mapDataContentF_eq hφ]

/-- array data slabs from the element head on -/
theorem arrDataContentG_fuel_irrelevant (φ : Nat → Nat) (hφ : ∀ L, L + 1 ≤ φ L) (id : SlabID) (isRoot : Bool)
    (ty : Option TyInfo) (next : SlabID) (checkEOF : Bool) (xs : List XD) (data : Bytes) (n : Nat) :
    arrDataContentGF φ id isRoot ty next checkEOF xs data n = arrDataContentG id isRoot ty next checkEOF xs data n := by
  rw [arrDataContentGF_eq hφ]

/-- The second part of `DecodeSlab` under ANY fuel schedule `φ` (length of the byte string being
    decoded ↦ fuel handed to the nested decoders) that gives at least the model's `L + 1` is the
    model's `decodeSlabGen`: every `data.length + 1` in `decodeSlabGen` and its callees may be replaced
    by any larger number, independently at each call site and for each input length. -/
theorem decodeSlabGen_fuel_irrelevant (φ : Nat → Nat) (hφ : ∀ L, L + 1 ≤ φ L) (id : SlabID) (bytes : Bytes) (n : Nat) :
    decodeSlabGenF φ id bytes n = decodeSlabGen id bytes n := by
  rw [decodeSlabGenF_eq hφ]

/-- The same for the whole `DecodeSlab`: the fuel is never what makes a register invalid. -/
theorem decodeSlab_fuel_irrelevant (φ : Nat → Nat) (hφ : ∀ L, L + 1 ≤ φ L) (id : SlabID) (bytes : Bytes) (n : Nat) :
    decodeSlabF φ id bytes n = decodeSlab id bytes n := by
  rw [decodeSlabF_eq hφ]

/-- Additive form: adding `extra` to every fuel argument changes nothing. -/
theorem decodeSlab_fuel_irrelevant_extra (extra : Nat) (id : SlabID) (bytes : Bytes) (n : Nat) :
    decodeSlabF (fun L => L + 1 + extra) id bytes n = decodeSlab id bytes n :=
  decodeSlab_fuel_irrelevant _ (fun L => by omega) id bytes n

/-- `decodeSlabF` with the model's schedule is `decodeSlab` by definition (the `…F` functions are
    copies of the model's functions with the fuel expression abstracted, nothing else). -/
theorem decodeSlabF_is_decodeSlab : decodeSlabF (fun L => L + 1) = decodeSlab := rfl

/-! ### non-vacuity: a nested register decoded with different fuels -/

/-- A root array data slab (version 1, has-inlined-slabs) with two elements: an inlined array
    `[Some(v), v']` and a doubly wrapped value `Some(Some(v''))` — nesting depth 3 below the slab. -/
def nestedSlab : Slab :=
  Slab.adata
    { id := ⟨1, 1⟩, next := SlabID.undef, ty := Option.some (TyInfo.plain 1),
      elems := [Stor.arr (TyInfo.plain 2) 7 [Stor.some (Stor.val 4 5), Stor.val 2 9],
                Stor.some (Stor.some (Stor.val 2 3))] }

/-- its 45-byte register -/
def nestedReg : Bytes :=
  [17, 128, 129, 1, 130, 128, 129, 216, 247, 129, 2, 153, 0, 2, 216, 250, 131, 24, 0, 72, 0, 0, 0, 0, 0, 0, 0, 7,
   153, 0, 2, 216, 165, 67, 0, 0, 5, 65, 9, 216, 165, 216, 165, 65, 3]

theorem nestedReg_is_encoding : encodeSlab nestedSlab = nestedReg := by decide +kernel

/-- with the model's fuel (46) the register decodes to the nested slab, allocating 5 slice elements -/
theorem nestedReg_decodes : decodeSlab ⟨1, 1⟩ nestedReg 0 = .ok nestedSlab 5 := by with_unfolding_all rfl

/-- … and with two other schedules (constant 6 is NOT covered by the theorem — it is below
    `L + 1` — but happens to be the least fuel that suffices for this register; `2·L + 7` is covered) -/
theorem nestedReg_decodes_fuel6 : decodeSlabF (fun _ => 6) ⟨1, 1⟩ nestedReg 0 = .ok nestedSlab 5 := by with_unfolding_all rfl
theorem nestedReg_decodes_fuel2L7 : decodeSlabF (fun L => 2 * L + 7) ⟨1, 1⟩ nestedReg 0 = .ok nestedSlab 5 := by
  rw [decodeSlab_fuel_irrelevant _ (fun L => by omega)]
  exact nestedReg_decodes

/-- Below the bound the fuel matters: with fuel 5 the same register is "invalid" (an `error`
    indistinguishable from a decoding error), so the irrelevance theorems are not vacuous. -/
theorem fuel_matters_below_bound :
    decodeSlabF (fun _ => 5) ⟨1, 1⟩ nestedReg 0 = .error .decoding 5 := by with_unfolding_all rfl

/-- the entry point `decStG` on the wrapped value `Some(Some(v))` (6 bytes): fuel 2 fails, fuel 3 … 7
    and every larger one succeed with the same result -/
def wrappedBytes : Bytes := [0xd8, 165, 0xd8, 165, 0x41, 7]

theorem wrapped_fuel2 : decStG 2 0 (Dec.new wrappedBytes) 0 [] 0 = .error .decoding 0 := by with_unfolding_all rfl

theorem wrapped_fuel3 : ∃ d', decStG 3 0 (Dec.new wrappedBytes) 0 [] 0 =
    .ok (Stor.some (Stor.some (Stor.val 2 7)), d') 0 := ⟨_, by with_unfolding_all rfl⟩

theorem wrapped_any_fuel (fuel : Nat) (h : 7 ≤ fuel) : ∃ d', decStG fuel 0 (Dec.new wrappedBytes) 0 [] 0 =
    .ok (Stor.some (Stor.some (Stor.val 2 7)), d') 0 := by
  rw [decStG_fuel_irrelevant fuel 0 (Dec.new wrappedBytes) 0 [] 0 h]
  exact ⟨_, by with_unfolding_all rfl⟩

end Atree.C19

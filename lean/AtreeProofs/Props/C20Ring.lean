import AtreeProofs.Props.C20
/-
  C20 — detached reference rings.

  A set of slabs in which every member is referenced by a member (a reference cycle A=[ref B],
  B=[ref A], a slab that refers to itself, a longer ring, several rings) is never accepted by the
  model of `CheckStorageHealth`, whatever else the heap holds; and when none of the earlier checks
  of the function fires (no slab has two parents, every reference resolves, every walk from a leaf
  ends at a root with matching owners) the error is exactly "slab was not reachable from leaves",
  before the root count is looked at.

  This is the clause "reachability" of the property's mechanism: the health stream builds such
  rings beside healthy containers on every run (`detached-ring*`), the replayer compares the error
  kind the model gives with the one `CheckStorageHealth` returns.
-/
namespace Atree.C20
open Atree Health

/-- A nonempty set of slabs of the heap, each of which is referenced by a member of the set, makes
    the check fail (whatever root count is expected): no member hangs under a root. -/
theorem detached_ring_fails (h : Heap) (hk : (AList.keys h).Nodup) (S : List SlabID) (x0 : SlabID)
    (hx0 : x0 ∈ S) (hin : ∀ x ∈ S, AList.contains h x = true)
    (hclosed : ∀ x ∈ S, ∃ p ∈ S, (p, x) ∈ edges h) (expected : Option Nat) :
    ∀ R', check h expected ≠ .ok R' := by
  intro R' hok
  have hh := (health_sound h hk expected R' hok).1
  obtain ⟨r, hr, hreach⟩ := hh.reach x0 (hin x0 hx0)
  -- walking a path backwards from a member of S stays in S: the parent of a member is unique
  have key : ∀ y, Reach h r y → y ∈ S → r ∈ S := by
    intro y hy
    induction hy with
    | refl => exact id
    | @step b c _ hbc ih =>
      intro hc
      obtain ⟨p, hp, hpc⟩ := hclosed c hc
      have : b = p := parent_unique h hh.single hbc hpc
      exact ih (this ▸ hp)
  have hrS := key x0 hreach hx0
  obtain ⟨p, _, hpr⟩ := hclosed r hrS
  exact ((hh.roots_iff r).mp hr).2 ((mem_targets h r).mpr ⟨p, hpr⟩)

/-- The error KIND: when the first two loops of `CheckStorageHealth` and the reference-resolution
    test pass on a heap that holds such a set, the function fails with `unreachable`
    ("slab was not reachable from leaves"), whatever root count is expected: the reachability test
    precedes the root-count test. -/
theorem detached_ring_unreachable (h : Heap) (hk : (AList.keys h).Nodup) (S : List SlabID) (x0 : SlabID)
    (hx0 : x0 ∈ S) (hin : ∀ x ∈ S, AList.contains h x = true)
    (hclosed : ∀ x ∈ S, ∃ p ∈ S, (p, x) ∈ edges h)
    (po : AList SlabID SlabID) (leaves visited roots : List SlabID)
    (hscan : scan h [] [] = .ok (po, leaves)) (hres : allResolve h po = true)
    (hclimb : climbAll h po leaves [] [] = .ok (visited, roots)) (expected : Option Nat) :
    check h expected = .error .unreachable := by
  have hne : visited.length ≠ h.length := by
    intro heq
    have hno := detached_ring_fails h hk S x0 hx0 hin hclosed none roots
    apply hno
    simp [check, hscan, hres, hclimb, heq]
  simp [check, hscan, hres, hclimb, hne]

/-! Non-vacuity: a healthy array (root 1.1 over the leaves 1.2, 1.3) beside the ring
    1.4 = [ref 1.5], 1.5 = [ref 1.4]; a slab that refers to itself; a ring under two owners. -/

def ringHeap : Heap :=
  [(⟨1, 1⟩, { self := ⟨1, 1⟩, refs := [⟨1, 2⟩, ⟨1, 3⟩] }), (⟨1, 2⟩, { self := ⟨1, 2⟩, refs := [] }),
   (⟨1, 3⟩, { self := ⟨1, 3⟩, refs := [] }),
   (⟨1, 4⟩, { self := ⟨1, 4⟩, refs := [⟨1, 5⟩] }), (⟨1, 5⟩, { self := ⟨1, 5⟩, refs := [⟨1, 4⟩] })]

example : check ringHeap (some 1) = .error .unreachable := by decide
example : check ringHeap none = .error .unreachable := by decide
example : check ringHeap (some 2) = .error .unreachable := by decide
/-- the hypotheses of `detached_ring_unreachable` are met by `ringHeap` with `S = [1.4, 1.5]`: the
    two loops and the resolution test pass ... -/
example : (match scan ringHeap [] [] with
    | .ok (po, leaves) => allResolve ringHeap po &&
        (match climbAll ringHeap po leaves [] [] with | .ok _ => true | .error _ => false)
    | .error _ => false) = true := by decide +kernel
/-- ... and every member of the ring is referenced by a member -/
example : ∀ x ∈ [(⟨1, 4⟩ : SlabID), ⟨1, 5⟩], ∃ p ∈ [(⟨1, 4⟩ : SlabID), ⟨1, 5⟩], (p, x) ∈ edges ringHeap := by
  decide
/-- the healthy part alone is accepted -/
example : check (ringHeap.take 3) (some 1) = .ok [⟨1, 1⟩] := by decide
/-- a slab that refers to itself, alone in the heap -/
example : check [(⟨1, 1⟩, { self := ⟨1, 1⟩, refs := [⟨1, 1⟩] })] none = .error .unreachable := by decide
/-- a ring under two owners: the owner test is never reached -/
example : check [(⟨1, 1⟩, { self := ⟨1, 1⟩, refs := [⟨3, 1⟩] }), (⟨3, 1⟩, { self := ⟨3, 1⟩, refs := [⟨1, 1⟩] })] none
    = .error .unreachable := by decide

end Atree.C20

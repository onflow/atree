import AtreeProofs.Props.C20
import AtreeProofs.Health.Iter
import AtreeProofs.Health.Storage
import AtreeProofs.Health.StorageMap
/-
  C20 — The storage health check accepts exactly the healthy storages: the storage part.
  Theorems about
    * the model of `PersistentSlabStorage.SlabIterator` (`Health.slabIterator`, on the storage state
      machine `St` of C15) and of `CheckStorageHealth` run on what it yields (`Health.checkStorage`);
    * "every storage produced by valid histories": the heaps of the array model and of the ordered
      map model are `Healthy` after every history, and the whole pipeline accepts their storages.
  (`Props/C20.lean` holds the theorems about the check on an abstract heap.)
-/
namespace Atree.C20
open Atree Health Gen

variable {σ β : Type}

/-- Whatever the iterator yields under an ID is the slab visible under that ID (latest store /
    remove, else cache, else ledger) - in EVERY state, slabs fetched from the ledger included. -/
theorem iterator_sound (c : Codec σ β) (abs : SlabID → σ → HSlab) (s : St σ β)
    (hd : (AList.keys s.deltas).Nodup) (ys : List (SlabID × σ))
    (hok : slabIterator c abs s = .ok ys) : ∀ p ∈ ys, s.view c p.1 = some p.2 :=
  slabIterator_sound c abs s hd ys hok

/-- A deleted slab (nil entry of the write set or of the cache) is never yielded, and never looked
    up in the ledger: the iterator cannot see that something still refers to it (finding F1 lived
    here; `CheckStorageHealth` must compare the referenced IDs with the yielded ones). -/
theorem iterator_skips_deleted (c : Codec σ β) (abs : SlabID → σ → HSlab) (s : St σ β)
    (hd : (AList.keys s.deltas).Nodup) (ys : List (SlabID × σ))
    (hok : slabIterator c abs s = .ok ys) (id : SlabID) (hv : s.view c id = none) :
    id ∉ ys.map (·.1) :=
  slabIterator_skips_deleted c abs s hd ys hok id hv

/-- With all slabs loaded the iterator yields exactly the live slabs of the view, each once -
    unless a live slab refers to an ID that is in neither map (then, the ledger not having it
    either, it fails with `SlabNotFoundError`). -/
theorem iterator_exact (c : Codec σ β) (abs : SlabID → σ → HSlab) (s : St σ β)
    (hd : (AList.keys s.deltas).Nodup) (hc : (AList.keys s.cache).Nodup) (hall : AllLoaded s) :
    (RefsLoaded abs s →
      ∃ ys, slabIterator c abs s = .ok ys ∧ (ys.map (·.1)).Nodup ∧
        ∀ id v, (id, v) ∈ ys ↔ s.view c id = some v) ∧
    (¬ RefsLoaded abs s → slabIterator c abs s = .error .slabNotFound) := by
  rw [slabIterator_allLoaded c abs s hc hall]
  constructor
  · intro h
    rw [if_pos h]
    exact ⟨loadedLive s, rfl, loadedLive_nodup s hd hc,
      fun id v => mem_loadedLive_iff_view c s hd hc hall id v⟩
  · intro h
    rw [if_neg h]

/-- With all slabs loaded `CheckStorageHealth(storage, n)` is the check of `Props/C20.lean` on the
    heap of the live slabs (so `health_sound`, `health_complete` and the four corruption theorems
    speak about the real pipeline); the `duplicate slab` test never fires. -/
theorem storage_check_is_heap_check (c : Codec σ β) (abs : SlabID → σ → HSlab) (s : St σ β)
    (hd : (AList.keys s.deltas).Nodup) (hc : (AList.keys s.cache).Nodup) (hall : AllLoaded s)
    (expected : Option Nat) :
    (RefsLoaded abs s → checkStorage c abs s expected = check (heapOfLoaded abs s) expected) ∧
    (¬ RefsLoaded abs s → checkStorage c abs s expected = .error .slabNotFound) := by
  rw [checkStorage_allLoaded c abs s hd hc hall expected]
  exact ⟨fun h => if_pos h, fun h => if_neg h⟩

/-- the heap the check then works on holds, under every ID, the slab visible under that ID -/
theorem heap_is_view (c : Codec σ β) (abs : SlabID → σ → HSlab) (s : St σ β)
    (hd : (AList.keys s.deltas).Nodup) (hc : (AList.keys s.cache).Nodup) (hall : AllLoaded s)
    (id : SlabID) : AList.find? (heapOfLoaded abs s) id = (s.view c id).map (abs id) :=
  find?_heapOfLoaded c abs s hd hc hall id

/-- If the view of a storage with all slabs loaded is a healthy heap, slab iteration followed by the
    checks accepts it and returns its roots. -/
theorem storage_complete (c : Codec σ β) (abs : SlabID → σ → HSlab) (s : St σ β)
    (hd : (AList.keys s.deltas).Nodup) (hc : (AList.keys s.cache).Nodup) (hall : AllLoaded s)
    (h : Heap) (R : List SlabID) (hk : (AList.keys h).Nodup) (hh : Healthy h R)
    (hview : ∀ id, (s.view c id).map (abs id) = AList.find? h id)
    (expected : Option Nat) (hn : ∀ n, expected = some n → R.length = n) :
    ∃ R', checkStorage c abs s expected = .ok R' ∧ (∀ id, id ∈ R' ↔ id ∈ R) ∧ R'.length = R.length :=
  checkStorage_accepts c abs s hd hc hall h R hk hh hview expected hn

/-- Arrays.  After any valid history from `NewArray` on an empty storage the slabs the storage
    holds (tree slabs and large-value slabs) form a healthy heap with unique keys, the array's root
    is one of its roots, and the heap is exactly what the storage shows under the array's address. -/
theorem array_histories_healthy (c : Codec E2E.SSlab β) (hc : RoundTrip c) (T : Nat)
    (hT : legalThreshold T = true) (addr ty : Nat) (haddr : addr ≠ 0) (ops : List E2E.AOp)
    (hops : ∀ op ∈ ops, op.Ok) :
    let x := E2E.runS c T (E2E.newS c addr ty) ops
    let a := x.1.1
    let created := x.1.2.created
    (AList.keys (arrHeap a created)).Nodup ∧
    Healthy (arrHeap a created) (rootsOf (arrHeap a created)) ∧
    a.rootID ∈ rootsOf (arrHeap a created) ∧
    (∀ id, id.addr = addr → (x.2.view c id).map (E2E.SSlab.toH id) = AList.find? (arrHeap a created) id) :=
  E2E.array_history_healthy c hc T hT addr ty haddr ops hops

/-- ... and `CheckStorageHealth` (iterator + checks) accepts that storage, for "any number of roots"
    and for the true number, returning the array's root and the unreferenced large-value slabs. -/
theorem array_histories_accepted (c : Codec E2E.SSlab β) (hc : RoundTrip c) (T : Nat)
    (hT : legalThreshold T = true) (addr ty : Nat) (haddr : addr ≠ 0) (ops : List E2E.AOp)
    (hops : ∀ op ∈ ops, op.Ok) :
    let x := E2E.runS c T (E2E.newS c addr ty) ops
    let h := arrHeap x.1.1 x.1.2.created
    (∃ R, checkStorage c E2E.SSlab.toH x.2 none = .ok R ∧
      (∀ id, id ∈ R ↔ (id = ⟨addr, 1⟩ ∨
        (id ∈ x.1.2.created.map (·.1) ∧ id ∉ elemRefs x.1.1.toList)))) ∧
    (∃ R, checkStorage c E2E.SSlab.toH x.2 (some (rootsOf h).length) = .ok R ∧
      (∀ id, id ∈ R ↔ (id = ⟨addr, 1⟩ ∨
        (id ∈ x.1.2.created.map (·.1) ∧ id ∉ elemRefs x.1.1.toList)))) :=
  E2E.array_history_storage_check c hc T hT addr ty haddr ops hops

/-- Ordered maps (external collision-group slabs included). -/
theorem map_histories_healthy {r : Nat} (c : Codec (E2EM.MSSlab r) β) (hc : RoundTrip c) (T : Nat)
    (hT : legalThreshold T = true) (D : DigestFn (r + 1)) (cfg : MCfg) (hcT : cfg.T = T)
    (hcL : cfg.L = r + 1) (haddr : cfg.addr ≠ 0) (ty : Nat) (seedOf : SlabID → Nat)
    (ops : List E2EM.MOp) (hops : ∀ op ∈ ops, op.Ok T D) :
    let x := E2EM.runS c cfg (E2EM.newS c cfg.addr ty seedOf) ops
    let m := x.1.1
    let created := x.1.2.created
    (AList.keys (mapHeap m created)).Nodup ∧
    Healthy (mapHeap m created) (rootsOf (mapHeap m created)) ∧
    m.rootID ∈ rootsOf (mapHeap m created) ∧
    (∀ id, id.addr = cfg.addr →
      (x.2.view c id).map (E2EM.MSSlab.toH id) = AList.find? (mapHeap m created) id) :=
  E2EM.map_history_healthy c hc T hT D cfg hcT hcL haddr ty seedOf ops hops

theorem map_histories_accepted {r : Nat} (c : Codec (E2EM.MSSlab r) β) (hc : RoundTrip c) (T : Nat)
    (hT : legalThreshold T = true) (D : DigestFn (r + 1)) (cfg : MCfg) (hcT : cfg.T = T)
    (hcL : cfg.L = r + 1) (haddr : cfg.addr ≠ 0) (ty : Nat) (seedOf : SlabID → Nat)
    (ops : List E2EM.MOp) (hops : ∀ op ∈ ops, op.Ok T D) :
    let x := E2EM.runS c cfg (E2EM.newS c cfg.addr ty seedOf) ops
    let h := mapHeap x.1.1 x.1.2.created
    (∃ R, checkStorage c E2EM.MSSlab.toH x.2 none = .ok R ∧
      (∀ id, id ∈ R ↔ (id = ⟨cfg.addr, 1⟩ ∨
        (id ∈ x.1.2.created.map (·.1) ∧ id ∉ valRefs x.1.1.toList)))) ∧
    (∃ R, checkStorage c E2EM.MSSlab.toH x.2 (some (rootsOf h).length) = .ok R ∧
      (∀ id, id ∈ R ↔ (id = ⟨cfg.addr, 1⟩ ∨
        (id ∈ x.1.2.created.map (·.1) ∧ id ∉ valRefs x.1.1.toList)))) :=
  E2EM.map_history_storage_check c hc T hT D cfg hcT hcL haddr ty seedOf ops hops

/-- Several independent containers: healthy heaps over pairwise disjoint sets of slab IDs (arrays and
    maps at different addresses, or different root slabs at one address) form a healthy heap whose
    roots are all their roots, and the check accepts it with the total root count.
    (At the level of heaps: the storage state machine is instantiated with ONE slab type per
    container kind, so a storage holding an array AND a map is not expressible yet; with a sum slab
    type `storage_complete` applies to the joined heap as it stands.) -/
theorem independent_containers_accepted (hs : List (Heap × List SlabID))
    (hall : ∀ p ∈ hs, Healthy p.1 p.2)
    (hpw : hs.Pairwise (fun p q => ∀ x, AList.contains p.1 x = true → AList.contains q.1 x = false))
    (hk : (AList.keys (hs.flatMap (·.1))).Nodup) :
    Healthy (hs.flatMap (·.1)) (hs.flatMap (·.2)) ∧
    ∃ R, check (hs.flatMap (·.1)) (some (hs.flatMap (·.2)).length) = .ok R ∧
      (∀ id, id ∈ R ↔ id ∈ hs.flatMap (·.2)) := by
  have hh := healthy_join hs hall hpw
  obtain ⟨R, hok, hmem, _⟩ := health_complete _ hk _ hh (some (hs.flatMap (·.2)).length)
    (fun n hn => by cases hn; rfl)
  exact ⟨hh, R, hok, hmem⟩

section NonVacuity
open Atree.Example

/-- a storage with a pending deletion, a cached deletion, a shadowed cache entry and an unloaded
    register: write set {1.1 ↦ A, 1.4 ↦ nil}, cache {1.2 ↦ B, 1.1 ↦ old, 1.5 ↦ nil},
    ledger {1.1, 1.2, 1.3, 1.5}; A refers to 1.2 and 1.3, 1.3 is NOT loaded -/
def exSt : St HSlab HSlab :=
  { deltas := [(⟨1, 1⟩, some ⟨⟨1, 1⟩, [⟨1, 2⟩, ⟨1, 3⟩]⟩), (⟨1, 4⟩, none)],
    cache := [(⟨1, 2⟩, some ⟨⟨1, 2⟩, []⟩), (⟨1, 1⟩, some ⟨⟨1, 1⟩, []⟩), (⟨1, 5⟩, none)],
    base := [(⟨1, 1⟩, ⟨⟨1, 1⟩, []⟩), (⟨1, 2⟩, ⟨⟨1, 2⟩, []⟩), (⟨1, 3⟩, ⟨⟨1, 3⟩, []⟩),
             (⟨1, 5⟩, ⟨⟨1, 5⟩, []⟩)],
    tempIx := 0, alloc := [] }

def hCodec : Codec HSlab HSlab := { enc := some, dec := fun _ b => some b, size := fun _ => 0 }

/-- the unloaded slab 1.3 is fetched (once); the deleted 1.4 / 1.5 and the shadowed cache entry of
    1.1 are not yielded -/
example : (slabIterator hCodec (fun _ v => v) exSt).map (fun ys => ys.map (·.1))
    = .ok [⟨1, 1⟩, ⟨1, 3⟩, ⟨1, 2⟩] := by decide
example : checkStorage hCodec (fun _ v => v) exSt (some 1) = .ok [⟨1, 1⟩] := by decide +kernel

/-- after loading 1.3 everything is loaded: `iterator_exact` applies -/
def exSt' : St HSlab HSlab := { exSt with cache := (⟨1, 3⟩, some ⟨⟨1, 3⟩, []⟩) :: exSt.cache }
example : AllLoaded exSt' := by
  intro id hid
  have : id ∈ AList.keys exSt'.base := (AList.contains_iff_mem_keys _ _).mp hid
  simp only [exSt', exSt, AList.keys, List.map_cons, List.map_nil, List.mem_cons, List.not_mem_nil,
    or_false] at this
  rcases this with rfl | rfl | rfl | rfl <;> first | exact Or.inl (by decide) | exact Or.inr (by decide)
example : (slabIterator hCodec (fun _ v => v) exSt').map (fun ys => ys.map (·.1))
    = .ok [⟨1, 1⟩, ⟨1, 3⟩, ⟨1, 2⟩] := by decide

/-- two references to an unloaded register: it is yielded twice; the two-parents test of the check
    fires before the duplicate test can -/
def exDup : St HSlab HSlab :=
  { deltas := [(⟨1, 1⟩, some ⟨⟨1, 1⟩, [⟨1, 3⟩]⟩), (⟨1, 2⟩, some ⟨⟨1, 2⟩, [⟨1, 3⟩]⟩)], cache := [],
    base := [(⟨1, 3⟩, ⟨⟨1, 3⟩, []⟩)], tempIx := 0, alloc := [] }
example : (slabIterator hCodec (fun _ v => v) exDup).map (fun ys => ys.map (·.1))
    = .ok [⟨1, 1⟩, ⟨1, 3⟩, ⟨1, 2⟩, ⟨1, 3⟩] := by decide
example : checkStorage hCodec (fun _ v => v) exDup none = .error .twoParents := by decide
/-- the duplicate test itself, on a slice that lists an ID twice without a second reference -/
example : checkYield [(⟨1, 1⟩, ⟨⟨1, 1⟩, []⟩), (⟨1, 1⟩, ⟨⟨1, 1⟩, []⟩)] none = .error .duplicate := by
  decide

/-- a reference cycle among registers that are not loaded: the Go loop of the iterator does not
    terminate either -/
def exLazyCycle : St HSlab HSlab :=
  { deltas := [(⟨1, 1⟩, some ⟨⟨1, 1⟩, [⟨1, 2⟩]⟩)], cache := [],
    base := [(⟨1, 2⟩, ⟨⟨1, 2⟩, [⟨1, 3⟩]⟩), (⟨1, 3⟩, ⟨⟨1, 3⟩, [⟨1, 2⟩]⟩)], tempIx := 0, alloc := [] }
example : slabIterator hCodec (fun _ v => v) exLazyCycle = .error .diverges := by decide

/-- two independent containers (the example heap of `Props/C20.lean`, split into its two trees) -/
example := independent_containers_accepted
  [([(exRoot1, ⟨exRoot1, []⟩)], [exRoot1]), ([(exRoot2, ⟨exRoot2, []⟩)], [exRoot2])]

end NonVacuity

end Atree.C20

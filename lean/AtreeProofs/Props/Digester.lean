import AtreeProofs.DigesterLemmas
/-
  Digester objects (hash.go): caching, `Reset`, and the process-wide pool are invisible.

  Theorems about `AtreeModel/Digester.lean` (a line-by-line transcription of
  `basicDigesterBuilder`, `basicDigester`, `getBasicDigester`, `putDigester`).  The two hash
  functions are uninterpreted (`H : Hashes`), so every statement holds for CircleHash64f / BLAKE3
  and for any replacement.  They carry the logic behind

    * C04 "…does not depend on … object-pool reuse",
    * C16 "…despite the library's process-wide … digester pools",
    * C02 / C12 "a digest is a function of the key" (the hypothesis `DigestFn` of the map theorems;
      the instance is in `Props/DigesterMap.lean`).

  Hypotheses that the proofs forced (both are contracts on CALLER code, see the negative theorems):
    * `ScratchIndep hip` — the hash-input provider's result does not depend on what the 32-byte
      buffer it is handed contains (`Reset` does NOT clear `scratch`: `scratch_survives_reset`,
      `scratch_reading_hip_sees_previous_user`);
    * one holder per object (value-level model); the object-identity version with use-after-put
      and double put is `Props/DigesterHeap.lean`.
-/
namespace Atree.Dig

/-- a call a holder can make on a digester -/
inductive Call where
  | digest (level : Nat)
  | pref (level : Nat)
deriving DecidableEq, Repr

/-- the calls, in the given order, on the caching object (each call sees the object the previous
    one left behind) -/
def runCalls (H : Hashes) : BasicDigester → List Call → List Obs
  | _, [] => []
  | d, .digest l :: cs => .digest (d.digest H l).1 :: runCalls H (d.digest H l).2 cs
  | d, .pref l :: cs => .pref (d.digestPrefix H l).1 :: runCalls H (d.digestPrefix H l).2 cs

/-- the answer to one call by the cache-free definition -/
def specCall (H : Hashes) (k0 : UInt64) (m : Bytes) : Call → Obs
  | .digest l => .digest (spec H k0 m l)
  | .pref l => .pref (specPrefix H k0 m l)

theorem runCalls_rep (H : Hashes) (s : SpecDigester) (cs : List Call) :
    ∀ d, Rep H d s → runCalls H d cs = cs.map (fun c => match c with
      | .digest l => Obs.digest (s.digest H l)
      | .pref l => Obs.pref (s.digestPrefix H l)) := by
  induction cs with
  | nil => intro d _; rfl
  | cons c cs ih =>
    intro d h
    cases c with
    | digest l =>
      obtain ⟨r1, r2⟩ := h.digest l
      simp only [runCalls, List.map_cons, r1, ih _ r2]
    | pref l =>
      obtain ⟨r1, r2⟩ := h.digestPrefix l
      simp only [runCalls, List.map_cons, r1, ih _ r2]

/-- **digest is a function of the input.**  Take any pool whose parked objects are reset (the
    invariant `pool_invariant`), any choice of the pool, a non-zero seed and a hash-input provider that
    returns message `m`.  Then `DigesterBuilder.Digest` succeeds, and EVERY sequence of
    `Digest(l)` / `DigestPrefix(l)` calls on the object — any levels, any order, any repetition,
    in and out of range — returns, call by call, what the cache-free definition `spec k0 m` says.
    `k1` does not occur on the right-hand side: it is never used. -/
theorem digest_is_function_of_input {V : Type} (H : Hashes) (hip : HIP V) (k0 k1 : UInt64) (hk : k0 ≠ 0)
    (v : V) (p : Pool) (hp : PoolReset p) (c : Option Nat) (m : Bytes)
    (hm : (hip v (p.get c).1.scratch).1 = .ok m) (calls : List Call) :
    ∃ d p', (Builder.new.setSeed k0 k1).digest H hip v p c = (.ok d, p') ∧ PoolReset p' ∧
      runCalls H d calls = calls.map (specCall H k0 m) := by
  obtain ⟨hr, hp'⟩ := poolReset_get hp c
  refine ⟨_, _, build_ok H hip k0 k1 hk v p c m hm, hp', ?_⟩
  rw [runCalls_rep H (specOf H k0 m) calls _ (rep_of_build H _ hr _ m k0)]
  apply List.map_congr_left
  intro c _
  cases c <;> rfl

/-- Two objects for the same (seed, message) — whatever pool slot they came from, whatever calls
    were made on them before — answer every further call sequence alike. -/
theorem same_input_same_digests (H : Hashes) (s : SpecDigester) (d1 d2 : BasicDigester)
    (h1 : Rep H d1 s) (h2 : Rep H d2 s) (calls : List Call) :
    runCalls H d1 calls = runCalls H d2 calls := by
  rw [runCalls_rep H s calls d1 h1, runCalls_rep H s calls d2 h2]

/-- **`Reset` restores the fresh object** — every field except the scratch buffer, which keeps
    the previous user's bytes. -/
theorem reset_restores_fresh (d : BasicDigester) :
    d.reset = { BasicDigester.fresh with scratch := d.scratch } ∧ IsReset d.reset :=
  ⟨rfl, isReset_reset d⟩

theorem scratch_survives_reset (d : BasicDigester) : d.reset.scratch = d.scratch := rfl

/-- **The pool invariant** "every parked digester is in reset state": true of the empty pool,
    preserved by `Get` (ANY choice), by `putDigester` of ANY digester in ANY state (whatever its
    previous holder did with it), and by the pool discarding objects; and under it `Get` returns
    an object in reset state. -/
theorem pool_invariant :
    PoolReset {} ∧
    (∀ p c, PoolReset p → IsReset (p.get c).1 ∧ PoolReset (p.get c).2) ∧
    (∀ p x, PoolReset p → PoolReset (p.put x)) ∧
    (∀ p i, PoolReset p → PoolReset (p.drop i)) :=
  ⟨poolReset_empty, fun _ c h => poolReset_get h c, fun _ x h => poolReset_put h x,
   fun _ i h => poolReset_drop h i⟩

/-- A recycled object cannot be told from a new one: building on `d.reset` (for ANY `d`, i.e. any
    history of the previous holder) and building on `&basicDigester{}` give the same success /
    failure and the same answers to every call sequence — provided the hash-input provider does
    not read the buffer it is given. -/
theorem reset_indistinguishable {V : Type} (H : Hashes) (hip : HIP V) (hsi : ScratchIndep hip)
    (d : BasicDigester) (k0 k1 : UInt64) (v : V) (calls : List Call) :
    let b := Builder.new.setSeed k0 k1
    let r1 := b.digest H hip v { free := [d.reset] } (some 0)
    let r2 := b.digest H hip v {} none
    match r1.1, r2.1 with
    | .ok d1, .ok d2 => runCalls H d1 calls = runCalls H d2 calls
    | .error e1, .error e2 => e1 = e2
    | _, _ => False := by
  intro b r1 r2
  by_cases hk : k0 = 0
  · subst hk
    simp only [r1, r2, b, build_seed0]
  · have hg1 : (Pool.get { free := [d.reset] } (some 0)).1 = d.reset := rfl
    have hg2 : (Pool.get {} none).1 = BasicDigester.fresh := rfl
    have hi := hsi v d.reset.scratch BasicDigester.fresh.scratch
    cases hm : (hip v d.reset.scratch).1 with
    | ok m =>
      have hm2 : (hip v BasicDigester.fresh.scratch).1 = .ok m := by rw [← hi, hm]
      have e1 := build_ok H hip k0 k1 hk v { free := [d.reset] } (some 0) m (by rw [hg1]; exact hm)
      have e2 := build_ok H hip k0 k1 hk v {} none m (by rw [hg2]; exact hm2)
      simp only [r1, r2, b, e1, e2]
      exact same_input_same_digests H (specOf H k0 m) _ _
        (rep_of_build H _ (by rw [hg1]; exact isReset_reset d) _ m k0)
        (rep_of_build H _ (by rw [hg2]; exact isReset_fresh) _ m k0) calls
    | error e =>
      have hm2 : (hip v BasicDigester.fresh.scratch).1 = .error e := by rw [← hi, hm]
      have e1 := build_err H hip k0 k1 hk v { free := [d.reset] } (some 0) e (by rw [hg1]; exact hm)
      have e2 := build_err H hip k0 k1 hk v {} none e (by rw [hg2]; exact hm2)
      simp only [r1, r2, b, e1, e2]

/-- **Pooled histories refine the cache-free, pool-free definition.**  For EVERY finite history of
    events of any number of users — `SetSeed`+`Digest(hip, v)` with any seeds and values, `Digest`
    and `DigestPrefix` at any levels in any order, `Reset` called by a holder, `putDigester`,
    the pool handing out ANY parked object or a new one, the pool dropping objects — every
    observation (success / error of each build, every digest, every prefix) equals the observation
    in the world without pool and without caches, where each build starts from an all-zero object;
    and the pool invariant holds afterwards. -/
theorem pooled_history_refines_spec {V : Type} (H : Hashes) (hip : HIP V) (hsi : ScratchIndep hip)
    (evs : List (Ev V)) :
    (DWorld.run H hip {} evs).1 = specRun H hip [] evs ∧
    PoolReset (DWorld.run H hip {} evs).2.pool :=
  run_sim H hip hsi evs {} [] (winv_init H)

/-- After ANY history, whatever the pool hands out next is a fresh object up to its scratch bytes. -/
theorem every_pooled_object_is_fresh {V : Type} (H : Hashes) (hip : HIP V) (hsi : ScratchIndep hip)
    (evs : List (Ev V)) (c : Option Nat) :
    let d := ((DWorld.run H hip {} evs).2.pool.get c).1
    d = { BasicDigester.fresh with scratch := d.scratch } := by
  intro d
  exact (isReset_iff d).mp (poolReset_get (pooled_history_refines_spec H hip hsi evs).2 c).1

/-- **A `Reset` that forgets the BLAKE3 cache hands the previous user's digest to the next user.**
    User 1 digests `v1` (message `m1`) and asks for level 1 (which fills the cache); the object is
    returned through the defective `putDigester`; user 2 is handed the same object for `v2`
    (message `m2`): level 0 is right, but levels 1..3 are the words of `m1`. -/
theorem bad_reset_leaks_previous_digest {V : Type} (H : Hashes) (hip : HIP V) (k0 k1 : UInt64) (hk : k0 ≠ 0)
    (v1 v2 : V) (m1 m2 : Bytes) (h1 : ∀ s, (hip v1 s).1 = .ok m1) (h2 : ∀ s, (hip v2 s).1 = .ok m2)
    (hne : blakeWords (H.sum256 m1) ≠ emptyBlake3Hash) (l : Nat) (hl : 1 ≤ l ∧ l ≤ 3) :
    let b := Builder.new.setSeed k0 k1
    ∃ d1 p1, b.digest H hip v1 {} none = (.ok d1, p1) ∧
      ∃ d2 p2, b.digest H hip v2 (p1.badPut (.basic (d1.digest H 1).2)) (some 0) = (.ok d2, p2) ∧
        (d2.digest H 0).1 = spec H k0 m2 0 ∧
        (d2.digest H l).1 = .ok ((blakeWords (H.sum256 m1)).get (l - 1)) := by
  intro b
  obtain ⟨s1, e1⟩ := build_ok_ex H hip k0 k1 hk v1 {} none m1 (h1 _)
  refine ⟨_, _, e1, ?_⟩
  -- user 1's `Digest(1)` fills the cache
  have hfill : (BasicDigester.digest H ⟨H.circle m1 k0, (Pool.get {} none).1.blake3Hash, s1, m1⟩ 1).2.blake3Hash
      = blakeWords (H.sum256 m1) := by
    rw [digest_lt H _ 1 (by omega)]
    simp [eff, Pool.get, BasicDigester.fresh]
  generalize (BasicDigester.digest H ⟨H.circle m1 k0, (Pool.get {} none).1.blake3Hash, s1, m1⟩ 1).2 = x at hfill
  have hg : (Pool.get (Pool.badPut (Pool.get {} none).2 (.basic x)) (some 0)).1 = x.badReset := rfl
  obtain ⟨s2, e2⟩ := build_ok_ex H hip k0 k1 hk v2 (Pool.badPut (Pool.get {} none).2 (.basic x)) (some 0) m2 (h2 _)
  refine ⟨_, _, e2, ?_, ?_⟩
  · rw [digest_fst]; rfl
  · rw [digest_fst, if_pos (by omega)]
    have hl0 : l ≠ 0 := by omega
    simp only [val, hl0, if_false]
    congr 2
    -- the object user 2 got still carries user 1's cache
    rw [hg]
    simp only [eff, BasicDigester.badReset, hfill, hne, if_false]

/-- …and that IS a wrong digest whenever the two messages differ in that BLAKE3 word. -/
theorem bad_reset_wrong_digest {V : Type} (H : Hashes) (hip : HIP V) (k0 k1 : UInt64) (hk : k0 ≠ 0)
    (v1 v2 : V) (m1 m2 : Bytes) (h1 : ∀ s, (hip v1 s).1 = .ok m1) (h2 : ∀ s, (hip v2 s).1 = .ok m2)
    (hne : blakeWords (H.sum256 m1) ≠ emptyBlake3Hash) (l : Nat) (hl : 1 ≤ l ∧ l ≤ 3)
    (hdiff : (blakeWords (H.sum256 m1)).get (l - 1) ≠ (blakeWords (H.sum256 m2)).get (l - 1)) :
    let b := Builder.new.setSeed k0 k1
    ∃ d1 p1, b.digest H hip v1 {} none = (.ok d1, p1) ∧
      ∃ d2 p2, b.digest H hip v2 (p1.badPut (.basic (d1.digest H 1).2)) (some 0) = (.ok d2, p2) ∧
        (d2.digest H l).1 ≠ spec H k0 m2 l := by
  intro b
  obtain ⟨d1, p1, e1, d2, p2, e2, _, e4⟩ := bad_reset_leaks_previous_digest H hip k0 k1 hk v1 v2 m1 m2 h1 h2 hne l hl
  refine ⟨d1, p1, e1, d2, p2, e2, ?_⟩
  rw [e4]
  have hl0 : l ≠ 0 := by omega
  have h4 : ¬ (l ≥ levels) := by simp [levels]; omega
  simp only [spec, SpecDigester.digest, h4, if_false, SpecDigester.value, hl0, specOf]
  intro h
  injection h with h
  exact hdiff h

/-- With the real `putDigester` the same two-user history gives user 2 the right digests. -/
theorem good_reset_right_digest {V : Type} (H : Hashes) (hip : HIP V) (k0 k1 : UInt64) (hk : k0 ≠ 0)
    (v1 v2 : V) (m1 m2 : Bytes) (h1 : ∀ s, (hip v1 s).1 = .ok m1) (h2 : ∀ s, (hip v2 s).1 = .ok m2) (l : Nat) :
    let b := Builder.new.setSeed k0 k1
    ∃ d1 p1, b.digest H hip v1 {} none = (.ok d1, p1) ∧
      ∃ d2 p2, b.digest H hip v2 (p1.put (.basic (d1.digest H 1).2)) (some 0) = (.ok d2, p2) ∧
        (d2.digest H l).1 = spec H k0 m2 l := by
  intro b
  have e1 := build_ok H hip k0 k1 hk v1 {} none m1 (h1 _)
  refine ⟨_, _, e1, ?_⟩
  have hp : PoolReset ((Pool.get {} none).2.put (.basic (BasicDigester.digest H
      { (Pool.get {} none).1 with scratch := (hip v1 (Pool.get {} none).1.scratch).2, msg := m1,
                                   circleHash64 := H.circle m1 k0 } 1).2)) :=
    poolReset_put (poolReset_get poolReset_empty none).2 _
  obtain ⟨d2, p2, e2, _, e3⟩ := digest_is_function_of_input H hip k0 k1 hk v2 _ hp (some 0) m2 (h2 _) [.digest l]
  refine ⟨d2, p2, e2, ?_⟩
  simp only [runCalls, List.map_cons, List.map_nil, specCall, List.cons.injEq, Obs.digest.injEq, and_true] at e3
  exact e3

theorem levels_eq_4 : levels = 4 := rfl

/-- **`Digest(level)` fails exactly for `level ≥ Levels()`**, with the hash-level error, and then
    leaves the object untouched. -/
theorem digest_level_out_of_range_error (H : Hashes) (d : BasicDigester) (level : Nat) :
    ((d.digest H level).1 = .error .hashLevel ↔ level ≥ levels) ∧
    (level ≥ levels → (d.digest H level).2 = d) ∧
    (level < levels → ∃ x, (d.digest H level).1 = .ok x) := by
  refine ⟨?_, ?_, ?_⟩
  · rw [digest_fst]
    by_cases h : level < 4
    · simp [h, levels]
    · simp [h, levels]; omega
  · intro h; rw [digest_ge H d level (by simpa [levels] using h)]
  · intro h; rw [digest_fst, if_pos (by simpa [levels] using h)]; exact ⟨_, rfl⟩

/-- `DigestPrefix(level)` fails exactly for `level > Levels()` (so `Levels()` itself is allowed). -/
theorem digestPrefix_level_out_of_range_error (H : Hashes) (d : BasicDigester) (level : Nat) :
    ((d.digestPrefix H level).1 = .error .hashLevel ↔ level > levels) ∧
    (level > levels → (d.digestPrefix H level).2 = d) := by
  refine ⟨?_, ?_⟩
  · by_cases h : level ≤ 4
    · rw [(digestPrefix_le H d level h).1]; simp [levels]; omega
    · rw [digestPrefix_gt H d level (by omega)]; simp [levels]; omega
  · intro h; rw [digestPrefix_gt H d level (by simpa [levels] using h)]

/-- **`DigestPrefix(level)` is the list of `Digest(0)`, …, `Digest(level-1)`** — for EVERY object
    state (no invariant needed), whether the calls are made before or after the prefix call. -/
theorem digestPrefix_eq_map_digest (H : Hashes) (d : BasicDigester) (level : Nat) (h : level ≤ levels) :
    ∃ ws, (d.digestPrefix H level).1 = .ok ws ∧ ws.length = level ∧
      ∀ l (hl : l < ws.length),
        (d.digest H l).1 = .ok ws[l] ∧ ((d.digestPrefix H level).2.digest H l).1 = .ok ws[l] := by
  have h4 : level ≤ 4 := by simpa [levels] using h
  obtain ⟨r1, r2⟩ := digestPrefix_le H d level h4
  refine ⟨_, r1, by simp, ?_⟩
  intro l hl
  have hl' : l < level := by simpa using hl
  have hl4 : l < 4 := by omega
  constructor
  · rw [digest_fst, if_pos hl4]; simp
  · rw [digest_fst, if_pos hl4, r2.val]; simp

/-! ### Non-vacuity: toy hash functions, concrete histories -/
section NonVacuity

/-- toy hashes: level 0 = seed + a polynomial of the message; the 32-byte sum is `s, s+1, …, s+31`
    for `s` the byte sum of the message -/
def toyH : Hashes where
  circle m k := k + m.foldl (fun a x => a * 31 + x.toUInt64) 7
  sum256 m := (List.range 32).map (fun i => m.foldl (· + ·) 0 + i.toUInt8)
  circle2 a b s := a * 3 + b * 5 + s + 1

/-- keys are bytes; the provider ignores the buffer, writes the key into it and returns `[v, v+1]` -/
def toyHip : HIP UInt8 := fun v buf => (.ok [v, v + 1], v :: buf.drop 1)

/-- fails for key 0 (after scribbling into the buffer) -/
def toyHipFail : HIP UInt8 := fun v buf =>
  if v = 0 then (.error (), 99 :: buf.drop 1) else (.ok [v, v + 1], v :: buf.drop 1)

theorem toyHip_indep : ScratchIndep toyHip := fun _ _ _ => rfl
theorem toyHipFail_indep : ScratchIndep toyHipFail := by
  intro v s1 s2; unfold toyHipFail; split <;> rfl

/-- A three-user history on one pool: user A digests key 5 at levels 2, 0, 1, 4 (error) and a
    prefix, returns the object; user B gets THE SAME object for key 9 (choice `some 0`), reads
    levels 3, 1; user C meanwhile takes a new object for key 5; a failing build; a build with
    seed 0; a holder calling `Reset` itself; the pool drops an object. -/
def toyHistory : List (Ev UInt8) :=
  [.build 77 1 5 none, .digest 0 2, .digest 0 0, .digest 0 1, .digest 0 4, .pref 0 4, .put 0,
   .build 77 1 9 (some 0), .digest 1 3, .build 77 1 5 none, .digest 1 1, .digest 2 2, .pref 2 5,
   .build 77 1 0 (some 0), .build 0 1 5 none, .reset 1, .digest 1 0, .digest 1 2, .put 1, .put 2,
   .drop 0, .digest 0 0, .build 78 1 5 (some 0), .pref 5 2]

/-- what that history shows: the recycled object answers for key 9, not for key 5; the two
    objects for key 5 agree; errors where expected -/
example :
    (DWorld.run toyH toyHipFail {} toyHistory).1 = specRun toyH toyHipFail [] toyHistory :=
  (pooled_history_refines_spec toyH toyHipFail toyHipFail_indep toyHistory).1

example : (DWorld.run toyH toyHipFail {} toyHistory).1.length = 24 := by decide +kernel

example :
    ((DWorld.run toyH toyHipFail {} toyHistory).1.take 9) =
      [.built none, .digest (spec toyH 77 [5, 6] 2), .digest (spec toyH 77 [5, 6] 0),
       .digest (spec toyH 77 [5, 6] 1), .digest (.error .hashLevel), .pref (specPrefix toyH 77 [5, 6] 4),
       .none, .built none, .digest (spec toyH 77 [9, 10] 3)] := by decide +kernel

/-- levels really differ from one another and between keys in the toy instance -/
example : spec toyH 77 [5, 6] 1 ≠ spec toyH 77 [9, 10] 1 ∧ spec toyH 77 [5, 6] 1 ≠ spec toyH 77 [5, 6] 2 ∧
    spec toyH 77 [5, 6] 0 ≠ spec toyH 78 [5, 6] 0 := by decide +kernel

/-- `digest_is_function_of_input` on a pool that holds two reset objects with dirty scratch. -/
example := digest_is_function_of_input toyH toyHip 77 1 (by decide) 5
  { free := [{ BasicDigester.fresh with scratch := [1, 2, 3] }, BasicDigester.fresh] }
  (by intro d hd
      simp only [List.mem_cons, List.not_mem_nil, or_false] at hd
      rcases hd with rfl | rfl
      · exact ⟨rfl, rfl, rfl⟩
      · exact isReset_fresh)
  (some 0) [5, 6] rfl [.digest 3, .pref 2, .digest 0, .digest 9, .digest 3]

/-- the defective `Reset`, concretely: user 2 (key 9) reads user 1's (key 5) level-1 digest -/
def toyBadSecond : Except DErr BasicDigester :=
  let b := Builder.new.setSeed 77 1
  match b.digest toyH toyHip 5 {} none with
  | (.ok d1, p1) => (b.digest toyH toyHip 9 (p1.badPut (.basic (d1.digest toyH 1).2)) (some 0)).1
  | (.error e, _) => .error e

example :
    (match toyBadSecond with
     | .ok d2 => decide ((d2.digest toyH 1).1 = spec toyH 77 [5, 6] 1 ∧ (d2.digest toyH 1).1 ≠ spec toyH 77 [9, 10] 1)
     | .error _ => false) = true := by decide +kernel

example := bad_reset_wrong_digest toyH toyHip 77 1 (by decide) 5 9 [5, 6] [9, 10] (fun _ => rfl) (fun _ => rfl)
  (by decide) 1 (by decide) (by decide)

/-- **`Reset` does not clear the scratch buffer, and a provider that reads it sees the previous
    user.**  `leakyHip` writes the key into `buf[0]`, writes `buf[1]` only for keys ≥ 128, and
    returns `buf[:2]` — correct on a new (all-zero) object.  After key 200 was digested and the
    object recycled, key 5 hashes the message `[5, 200]` instead of `[5, 0]`: the pooled history
    and the pool-free one DISAGREE.  (`ScratchIndep` is a necessary hypothesis.) -/
def leakyHip : HIP UInt8 := fun v buf =>
  if v < 128 then (.ok [v, buf.getD 1 0], v :: buf.drop 1)
  else (.ok [v, v], v :: v :: buf.drop 2)

theorem scratch_reading_hip_sees_previous_user :
    let evs : List (Ev UInt8) := [.build 77 1 200 none, .put 0, .build 77 1 5 (some 0), .digest 1 0]
    (DWorld.run toyH leakyHip {} evs).1 ≠ specRun toyH leakyHip [] evs ∧
    (DWorld.run toyH leakyHip {} evs).1.getLast? = some (.digest (spec toyH 77 [5, 200] 0)) ∧
    (specRun toyH leakyHip [] evs).getLast? = some (.digest (spec toyH 77 [5, 0] 0)) := by decide +kernel

end NonVacuity

end Atree.Dig

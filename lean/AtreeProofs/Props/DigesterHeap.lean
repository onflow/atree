import AtreeProofs.DigesterHeapLemmas
import AtreeProofs.Props.Digester
/-
  Digester objects with identity (pointers in the pool): `AtreeModel/DigesterHeap.lean`.

  Theorems for C16 ("digesters returned to the pool only after last use … pool
  misuse (returning an object that is still in use) corrupts another goroutine's result") and C04
  ("object-pool reuse").

    * `disciplined_history_refines_spec` — if every holder touches an object only between the build
      that handed it out and its own `putDigester` (the shape `defer putDigester(d)` guarantees; the
      extracted fact `digesterPutAfterLastUse`), then for ANY interleaving of any number of holders
      and any pool choices every observation is the cache-free one.  An interleaving of goroutines
      that each follow the discipline is such a history (the pool operations themselves are atomic:
      `sync.Pool`), which is the logical content of "each obtains the results it would obtain
      alone".
    * what the discipline protects against, as concrete histories:
      `use_after_put_corrupts_next_holder`, `double_put_shares_object`.
-/
namespace Atree.Dig

theorem step_sim_heap {V : Type} (H : Hashes) (hip : HIP V) (hsi : ScratchIndep hip) (w : HWorld) (s : HSpec)
    (h : HInv H w s) (e : HEv V) (hok : (w.step H hip e).2.2 = true) :
    (w.step H hip e).1 = (s.step H hip e).1 ∧ HInv H (w.step H hip e).2.1 (s.step H hip e).2 := by
  cases e with
  | build k0 k1 v c =>
    by_cases hk : k0 = 0
    · simp only [HWorld.step, HSpec.step, hk, if_true]; exact ⟨trivial, h⟩
    · obtain ⟨g1, g2, g3, g4, g5, g6, g7⟩ := hget_spec h c
      simp only [HWorld.step, HSpec.step, hk, if_false]
      have hindep := hsi v ((w.get c).2.obj (w.get c).1).scratch BasicDigester.fresh.scratch
      cases hh : hip v ((w.get c).2.obj (w.get c).1).scratch with
      | mk r scr =>
        rw [hh] at hindep
        cases r with
        | error e =>
          have hm' : (hip v BasicDigester.fresh.scratch).1 = .error e := hindep.symm
          simp only [hm', g1]
          refine ⟨trivial, ?_⟩
          -- the object goes straight back to the pool
          have hlen : (w.get c).1 < ((w.get c).2.setObj (w.get c).1
              { (w.get c).2.obj (w.get c).1 with scratch := scr }).heap.length := by
            rw [heap_setObj_length]; exact g2
          have hobj : ((w.get c).2.setObj (w.get c).1 { (w.get c).2.obj (w.get c).1 with scratch := scr }).obj (w.get c).1
              = { (w.get c).2.obj (w.get c).1 with scratch := scr } := by
            rw [obj_setObj]; simp [g2]
          have hput : ((w.get c).2.setObj (w.get c).1 { (w.get c).2.obj (w.get c).1 with scratch := scr }).put (w.get c).1
              = { ((w.get c).2.setObj (w.get c).1 (BasicDigester.reset { (w.get c).2.obj (w.get c).1 with scratch := scr }))
                  with pool := (w.get c).1 :: (w.get c).2.pool } := by
            unfold HWorld.put
            rw [hobj]
            simp only [HWorld.setObj, List.set_set]
            have : (w.get c).2.owned.erase (w.get c).1 = (w.get c).2.owned := by
              rw [g5]; exact List.erase_of_not_mem g6
            rw [this]
          rw [hput]
          exact hinv_park g7 _ g2 g4 (by rw [g5]; exact g6) _ (isReset_reset _)
        | ok m =>
          have hm' : (hip v BasicDigester.fresh.scratch).1 = .ok m := hindep.symm
          simp only [hm', g1]
          refine ⟨trivial, ?_⟩
          refine hinv_setObj g7 (w.get c).1 g2 g4 _ (specOf H k0 m) (rep_of_build H _ g3 scr m k0)
            ((w.get c).1 :: (w.get c).2.owned) ?_ ?_ ?_ rfl rfl
          · intro b; simp
          · rw [g5]; exact List.nodup_cons.mpr ⟨g6, h.ownNodup⟩
          · intro b; exact lookup_setOwn _ _ _ b
  | digest a l =>
    have ha : a ∈ w.owned := by simpa [HWorld.step] using hok
    obtain ⟨d, hd⟩ := Option.isSome_iff_exists.mp ((h.own a).mp ha)
    obtain ⟨r1, r2⟩ := (h.rep a d hd).digest l
    simp only [HWorld.step, HSpec.step, hd]
    exact ⟨by rw [r1], hinv_touch h ha r2 (by intro b; by_cases hb : b = a <;> simp [hb, hd])⟩
  | pref a l =>
    have ha : a ∈ w.owned := by simpa [HWorld.step] using hok
    obtain ⟨d, hd⟩ := Option.isSome_iff_exists.mp ((h.own a).mp ha)
    obtain ⟨r1, r2⟩ := (h.rep a d hd).digestPrefix l
    simp only [HWorld.step, HSpec.step, hd]
    exact ⟨by rw [r1], hinv_touch h ha r2 (by intro b; by_cases hb : b = a <;> simp [hb, hd])⟩
  | reset a =>
    have ha : a ∈ w.owned := by simpa [HWorld.step] using hok
    obtain ⟨d, hd⟩ := Option.isSome_iff_exists.mp ((h.own a).mp ha)
    simp only [HWorld.step, HSpec.step, hd]
    exact ⟨trivial, hinv_touch h ha (sd := ⟨0, []⟩) ⟨rfl, by simp [eff, BasicDigester.reset]⟩
      (fun b => lookup_setOwn s a _ b)⟩
  | put a =>
    have ha : a ∈ w.owned := by simpa [HWorld.step] using hok
    exact ⟨rfl, hinv_put h ha⟩

theorem run_sim_heap {V : Type} (H : Hashes) (hip : HIP V) (hsi : ScratchIndep hip) (evs : List (HEv V)) :
    ∀ (w : HWorld) (s : HSpec), HInv H w s → (w.run H hip evs).disciplined = true →
      (w.run H hip evs).obs = s.run H hip evs := by
  induction evs with
  | nil => intro w s _ _; rfl
  | cons e es ih =>
    intro w s h hd
    simp only [HWorld.run, Bool.and_eq_true] at hd
    obtain ⟨h1, h2⟩ := step_sim_heap H hip hsi w s h e hd.1
    simp only [HWorld.run, HSpec.run]
    rw [h1, ih _ _ h2 hd.2]

/-- **Disciplined pointer-level histories refine the cache-free definition.**  From the empty
    heap and pool, for EVERY history of any number of holders in which each call (`Digest`,
    `DigestPrefix`, `Reset`) and each `putDigester` is made on an address the caller currently
    owns, with ANY pool choices: every observation equals the observation in the world where a
    digester is just (level-0 hash, message) and the pool holds stateless addresses. -/
theorem disciplined_history_refines_spec {V : Type} (H : Hashes) (hip : HIP V) (hsi : ScratchIndep hip)
    (evs : List (HEv V)) (hd : (HWorld.run H hip {} evs).disciplined = true) :
    (HWorld.run H hip {} evs).obs = HSpec.run H hip {} evs :=
  run_sim_heap H hip hsi evs {} {} (hinv_init H) hd

section NonVacuity

/-- two holders interleaved on one pool, both disciplined: A builds key 5 (address 0), B builds
    key 9 (address 1), calls interleave, A puts, C re-uses address 0 for key 7 while B continues -/
def heapHistory : List (HEv UInt8) :=
  [.build 77 1 5 none, .build 77 1 9 none, .digest 0 1, .digest 1 2, .pref 0 4, .put 0,
   .build 78 1 7 (some 0), .digest 1 1, .digest 0 3, .digest 0 0, .put 1, .put 0,
   .build 77 1 5 (some 1), .pref 1 2]

example : (HWorld.run toyH toyHip {} heapHistory).disciplined = true := by decide

example : (HWorld.run toyH toyHip {} heapHistory).obs = HSpec.run toyH toyHip {} heapHistory :=
  disciplined_history_refines_spec toyH toyHip toyHip_indep heapHistory (by decide)

/-- address 0 really is recycled in that history, and shows key 7's digests afterwards -/
example : ((HWorld.run toyH toyHip {} heapHistory).obs.drop 8).take 2 =
    [.digest (spec toyH 78 [7, 8] 3), .digest (spec toyH 78 [7, 8] 0)] := by decide +kernel

/-- **Use after put corrupts the NEXT holder.**  A builds key 5 at address 0 and returns it, then
    (the defect: a `putDigester` that is not the last use) still calls `Digest(1)` through its stale
    pointer: the object is reset, so this hashes the EMPTY message and caches it — in an object that
    sits in the pool.  B, perfectly disciplined, is handed address 0 for key 9 and reads at level 1
    the digest of the empty message. -/
theorem use_after_put_corrupts_next_holder :
    let evs : List (HEv UInt8) := [.build 77 1 5 none, .put 0, .digest 0 1, .build 77 1 9 (some 0), .digest 0 1]
    (HWorld.run toyH toyHip {} evs).disciplined = false ∧
    (HWorld.run toyH toyHip {} evs).obs.getLast? = some (.digest (spec toyH 77 [] 1)) ∧
    spec toyH 77 [] 1 ≠ spec toyH 77 [9, 10] 1 ∧
    (HSpec.run toyH toyHip {} evs).getLast? = some (.digest (spec toyH 77 [9, 10] 1)) := by decide +kernel

/-- **Double put shares one object between two holders.**  A returns address 0 twice; B and C are
    both handed address 0; C's build overwrites the message, and B reads C's digest. -/
theorem double_put_shares_object :
    let evs : List (HEv UInt8) := [.build 77 1 5 none, .put 0, .put 0, .build 77 1 9 (some 0),
                                   .build 77 1 3 (some 0), .digest 0 0]
    (HWorld.run toyH toyHip {} evs).disciplined = false ∧
    (HWorld.run toyH toyHip {} evs).world.owned = [0, 0] ∧
    (HWorld.run toyH toyHip {} evs).obs.getLast? = some (.digest (spec toyH 77 [3, 4] 0)) ∧
    spec toyH 77 [3, 4] 0 ≠ spec toyH 77 [9, 10] 0 := by decide +kernel

end NonVacuity

end Atree.Dig

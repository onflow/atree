import AtreeProofs.Props.Digester
import AtreeProofs.MapInv
import AtreeProofs.Props.C02
import AtreeProofs.Props.C12
/-
  The map theorems' hypothesis "digests are a function of the key" (`DigestFn`, MapInv.lean) is
  INSTANTIATED by the real digester.

  The C02 / C12 theorems are stated "for every `D : DigestFn (r+1)`" and ask of every key record
  `k : MKey` that `k.digs = D.dg (k.size, k.pay)` (`KeyOk`).  That the digests the library computes
  for a key are such a function is a theorem about hash.go:
  given only the caller's `HashInputProvider` contract (`HipContract`), the digests the pooled,
  caching `basicDigester` returns for a key — from ANY pool state satisfying the pool invariant, with
  ANY pool choice, after ANY earlier calls on the object — are the entries of
  `(digestFnOf H hip val k0).dg key`, a `DigestFn 4`.  Hence every C02 / C12 theorem applies to maps
  that use `NewDefaultDigesterBuilder()` (see the `example`s at the end).

  Go digests are `uint64`, the map model's are `Nat`; `UInt64.toNat` is injective and monotone
  (`toNat_faithful`), so equality and order of digests (all the map code looks at) are preserved.
-/
namespace Atree.Dig

variable {V : Type}

/-- the message the provider returns for `v` (`[]` if it fails) -/
def hipMsg (hip : HIP V) (v : V) : Bytes :=
  match (hip v BasicDigester.fresh.scratch).1 with
  | .ok m => m
  | .error _ => []

/-- **The caller's contract** for a `HashInputProvider` used with keys compared by `eqv`: it does
    not read the scratch buffer, it succeeds on every key, and keys the comparator calls equal get
    the same message. -/
structure HipContract (eqv : V → V → Prop) (hip : HIP V) : Prop where
  indep : ScratchIndep hip
  total : ∀ v, ∃ m, (hip v BasicDigester.fresh.scratch).1 = .ok m
  respects : ∀ a b, eqv a b → hipMsg hip a = hipMsg hip b

/-- the digest vector (as the map model's `Nat`s) of message `m` under seed `k0` -/
def digestVec (H : Hashes) (k0 : UInt64) (m : Bytes) : List Nat :=
  (List.range levels).map (fun l => ((specOf H k0 m).value H l).toNat)

theorem digestVec_length (H : Hashes) (k0 : UInt64) (m : Bytes) : (digestVec H k0 m).length = 4 := by
  simp [digestVec, levels]

/-- **The instance.**  `val` names the caller's key value for the model key `(size, pay)`. -/
def digestFnOf (H : Hashes) (hip : HIP V) (val : Nat × Nat → V) (k0 : UInt64) : DigestFn 4 where
  dg p := digestVec H k0 (hipMsg hip (val p))
  len _ := digestVec_length H k0 _

/-- Keys equal under the caller's equality have equal digests at every level. -/
theorem digests_respect_equality (H : Hashes) (eqv : V → V → Prop) (hip : HIP V) (hc : HipContract eqv hip)
    (k0 : UInt64) (a b : V) (hab : eqv a b) :
    digestVec H k0 (hipMsg hip a) = digestVec H k0 (hipMsg hip b) := by
  rw [hc.respects a b hab]

theorem toNat_faithful (a b : UInt64) :
    (a.toNat = b.toNat ↔ a = b) ∧ (a < b ↔ a.toNat < b.toNat) ∧ (a ≤ b ↔ a.toNat ≤ b.toNat) :=
  ⟨UInt64.toNat_inj, UInt64.lt_iff_toNat_lt, UInt64.le_iff_toNat_le⟩

/-- the object after a sequence of calls -/
def afterCalls (H : Hashes) : BasicDigester → List Call → BasicDigester
  | d, [] => d
  | d, .digest l :: cs => afterCalls H (d.digest H l).2 cs
  | d, .pref l :: cs => afterCalls H (d.digestPrefix H l).2 cs

theorem afterCalls_rep (H : Hashes) (s : SpecDigester) (cs : List Call) :
    ∀ d, Rep H d s → Rep H (afterCalls H d cs) s := by
  induction cs with
  | nil => intro d h; exact h
  | cons c cs ih =>
    intro d h
    cases c with
    | digest l => exact ih _ (h.digest l).2
    | pref l => exact ih _ (h.digestPrefix l).2

theorem digestVec_getElem? (H : Hashes) (k0 : UInt64) (m : Bytes) (l : Nat) (hl : l < 4) :
    (digestVec H k0 m)[l]? = some ((specOf H k0 m).value H l).toNat := by
  simp [digestVec, levels, hl]

/-- **The real digester instantiates `DigestFn`.**  For a provider honouring `HipContract`, a
    non-zero seed, a pool satisfying the invariant and any pool choice, `Digest(hip, val key)`
    succeeds and, after ANY sequence of earlier calls on the object,
      * `Digest(l)` for `l < 4` returns the `l`-th entry of `(digestFnOf …).dg key`,
      * `DigestPrefix(4)` returns the whole vector, so the key record built from what the library
        computed satisfies the digest clause of `KeyOk`. -/
theorem real_digester_instantiates_digestFn (H : Hashes) (eqv : V → V → Prop) (hip : HIP V)
    (hc : HipContract eqv hip) (val : Nat × Nat → V) (k0 k1 : UInt64) (hk : k0 ≠ 0)
    (p : Pool) (hp : PoolReset p) (c : Option Nat) (key : Nat × Nat) :
    ∃ d p', (Builder.new.setSeed k0 k1).digest H hip (val key) p c = (.ok d, p') ∧ PoolReset p' ∧
      ∀ calls : List Call,
        (∀ l, l < 4 → ∃ x, ((afterCalls H d calls).digest H l).1 = .ok x ∧
            ((digestFnOf H hip val k0).dg key)[l]? = some x.toNat) ∧
        (∃ ws, ((afterCalls H d calls).digestPrefix H 4).1 = .ok ws ∧
            (⟨key.1, key.2, ws.map (·.toNat)⟩ : MKey).digs = (digestFnOf H hip val k0).dg (key.1, key.2)) := by
  obtain ⟨m, hm⟩ := hc.total (val key)
  have hm' : (hip (val key) (p.get c).1.scratch).1 = .ok m := by rw [hc.indep _ _ BasicDigester.fresh.scratch, hm]
  have hmsg : hipMsg hip (val key) = m := by simp [hipMsg, hm]
  obtain ⟨hr, hp'⟩ := poolReset_get hp c
  refine ⟨_, _, build_ok H hip k0 k1 hk (val key) p c m hm', hp', ?_⟩
  intro calls
  have hrep := afterCalls_rep H (specOf H k0 m) calls _ (rep_of_build H _ hr (hip (val key) (p.get c).1.scratch).2 m k0)
  constructor
  · intro l hl
    refine ⟨(specOf H k0 m).value H l, ?_, ?_⟩
    · rw [(hrep.digest l).1]
      simp [SpecDigester.digest, levels]; omega
    · show (digestVec H k0 (hipMsg hip (val key)))[l]? = _
      rw [hmsg, digestVec_getElem? H k0 m l hl]
  · refine ⟨(List.range 4).map ((specOf H k0 m).value H), ?_, ?_⟩
    · rw [(hrep.digestPrefix 4).1]
      simp [SpecDigester.digestPrefix, levels]
    · show List.map _ _ = digestVec H k0 (hipMsg hip (val (key.1, key.2)))
      rw [show ((key.1, key.2) : Nat × Nat) = key from rfl, hmsg]
      simp [digestVec, levels, List.map_map]

/-- Whole histories: in ANY pooled history (any users, any interleaving of builds, digests,
    prefixes, resets, puts, pool choices and drops) every successful `Digest(l)` observation on an
    object built for `val key` with seed `k0` is the `l`-th entry of `(digestFnOf …).dg key` — by
    `pooled_history_refines_spec` the observations are those of the cache-free world, where a slot
    built for `val key` is `specOf H k0 (hipMsg hip (val key))`. -/
theorem specDigester_value_is_digestFn (H : Hashes) (hip : HIP V) (val : Nat × Nat → V) (k0 : UInt64)
    (key : Nat × Nat) (l : Nat) (hl : l < 4) :
    (specOf H k0 (hipMsg hip (val key))).digest H l =
      .ok (UInt64.ofNat (((digestFnOf H hip val k0).dg key).getD l 0)) := by
  have h1 : ((digestFnOf H hip val k0).dg key)[l]? = some ((specOf H k0 (hipMsg hip (val key))).value H l).toNat :=
    digestVec_getElem? H k0 _ l hl
  have h2 : ((digestFnOf H hip val k0).dg key).getD l 0 = ((specOf H k0 (hipMsg hip (val key))).value H l).toNat := by
    rw [List.getD_eq_getElem?_getD, h1]; rfl
  rw [h2]
  simp [SpecDigester.digest, levels]
  omega

/-! ### The C02 / C12 theorems apply to the real digester -/
section Apply
open Atree

variable (H : Hashes) (eqv : V → V → Prop) (hip : HIP V) (val : Nat × Nat → V) (k0 : UInt64)

/-- C02 lookup refinement, for the digest function of the real digester. -/
example (T : Nat) (hT : legalThreshold T = true) (cfg : MCfg) (m : OMap 3) (hcfg : CfgOk cfg T m)
    (h : MapInv T (digestFnOf H hip val k0) m) (k : MKey) (hk : KeyOk T 4 (digestFnOf H hip val k0) k) :=
  C02.get_refines T hT (digestFnOf H hip val k0) cfg m hcfg h k hk

/-- C02 insert refinement. -/
example (T : Nat) (hT : legalThreshold T = true) (cfg : MCfg) (m : OMap 3) (hcfg : CfgOk cfg T m)
    (h : MapInv T (digestFnOf H hip val k0) m) (k : MKey) (hk : KeyOk T 4 (digestFnOf H hip val k0) k)
    (v : Elem) (hv : ValueOkM v) (c : Ctx) (hc : CtxOk m c) :=
  C02.set_refines T hT (digestFnOf H hip val k0) cfg m hcfg h k hk v hv c hc

/-- C12: the collision limit refuses a new key, for the digest function of the real digester. -/
example (T : Nat) (hT : legalThreshold T = true) :=
  C12.limit_refuses_new_key (r := 3) T hT (digestFnOf H hip val k0)

/-- the empty map of `NewMap` satisfies the invariant for this digest function -/
example (T : Nat) (hT : legalThreshold T = true) (addr ty : Nat) (seedOf : SlabID → Nat) (c : Ctx) :=
  C02.inv_new (r := 3) T hT (digestFnOf H hip val k0) addr ty seedOf c

end Apply

/-! ### Non-vacuity: the harness's provider satisfies the contract -/
section NonVacuity

/-- model of `hx.HashInput`: 4 bytes of size, 8 bytes of payload (big-endian), newly allocated,
    buffer untouched -/
def harnessHip : HIP (Nat × Nat) := fun v buf =>
  (.ok ((List.range 4).reverse.map (fun i => (v.1 >>> (8 * i)).toUInt8) ++
        (List.range 8).reverse.map (fun i => (v.2 >>> (8 * i)).toUInt8)), buf)

theorem harnessHip_contract : HipContract (· = ·) harnessHip :=
  ⟨fun _ _ _ => rfl, fun _ => ⟨_, rfl⟩, fun _ _ h => by rw [h]⟩

example := real_digester_instantiates_digestFn toyH (· = ·) harnessHip harnessHip_contract id 77 1 (by decide)
  { free := [{ BasicDigester.fresh with scratch := [9, 9] }] } (by
    intro d hd
    simp only [List.mem_cons, List.not_mem_nil, or_false] at hd
    rw [hd]; exact ⟨rfl, rfl, rfl⟩) (some 0) (3, 513)

example : (digestFnOf toyH harnessHip id 77).dg (3, 513) ≠ (digestFnOf toyH harnessHip id 77).dg (3, 514) := by
  decide

/-- the bucket provider of the harness (`hx.HashInputBucket`): non-injective, still a function of
    the key — colliding keys collide on every level -/
def bucketHip : HIP (Nat × Nat) := fun v buf => (.ok [(v.2 % 7).toUInt8, 0xAB], buf)

theorem bucketHip_contract : HipContract (· = ·) bucketHip :=
  ⟨fun _ _ _ => rfl, fun _ => ⟨_, rfl⟩, fun _ _ h => by rw [h]⟩

example : (digestFnOf toyH bucketHip id 77).dg (3, 1) = (digestFnOf toyH bucketHip id 77).dg (3, 8) ∧
    (digestFnOf toyH bucketHip id 77).dg (3, 1) ≠ (digestFnOf toyH bucketHip id 77).dg (3, 2) := by decide +kernel

end NonVacuity

end Atree.Dig

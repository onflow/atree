import AtreeModel.DigesterSeed
import AtreeModel.Map.Ops
import AtreeProofs.Props.Digester
/-
  Seed plumbing of maps (map.go / map_data_slab.go; model `AtreeModel/DigesterSeed.lean`).

    * C04 "the map seed is a pure function of address and slab index": `seed_is_function_of_id`,
      `seedArgs_injective` (distinct slab IDs hash DISTINCT argument pairs — whether the seeds then
      differ is up to the hash), `omap_new_seed`.
    * C17 "a map with the source's seed": `copy_uses_source_seed`, `batch_uses_given_seed`;
      C03/C02 `NewMapWithRootID`: `reload_uses_stored_seed`; inlined children: `storedValue_seed`.
      In each case the new handle's builder carries exactly the stored seed (`Seeded`), so it computes
      the digests the source computes.
    * what the proofs forced (contracts on CALLER code, with the concrete failing shape):
      `shared_builder_breaks_first_map` (one `DigesterBuilder` object passed to two constructors),
      `zero_seed_map_unusable` (a slab ID whose seed hash is 0), `failed_constructor_still_seeds`.
-/
namespace Atree.Dig
open Atree

theorem toUInt8_mod (k : Nat) : (k % 256).toUInt8.toNat = k % 256 := by
  simp [Nat.toUInt8]

theorem leDigits_length (k n : Nat) : (leDigits k n).length = k := by
  induction k generalizing n with
  | zero => rfl
  | succ k ih => simp [leDigits, ih]

theorem leNat_leDigits (k : Nat) : ∀ n, leNat (leDigits k n) = n % 256 ^ k := by
  induction k with
  | zero => intro n; simp [leDigits, leNat, Nat.mod_one]
  | succ k ih =>
    intro n
    simp only [leDigits, leNat, toUInt8_mod, ih]
    rw [Nat.pow_succ, Nat.mul_comm (256 ^ k) 256, Nat.mod_mul]

theorem leNat_inj : ∀ (a b : Bytes), a.length = b.length → leNat a = leNat b → a = b := by
  intro a
  induction a with
  | nil => intro b hl _; cases b with | nil => rfl | cons _ _ => simp at hl
  | cons x xs ih =>
    intro b hl h
    cases b with
    | nil => simp at hl
    | cons y ys =>
      simp only [leNat] at h
      have hx := x.toNat_lt
      have hy := y.toNat_lt
      have h1 : x.toNat = y.toNat := by omega
      have h2 : leNat xs = leNat ys := by omega
      rw [UInt8.toNat_inj.mp h1, ih ys (by simpa using hl) h2]

theorem leNat_lt (a : Bytes) : leNat a < 256 ^ a.length := by
  induction a with
  | nil => simp [leNat]
  | cons x xs ih =>
    simp only [leNat, List.length_cons, Nat.pow_succ]
    have := x.toNat_lt
    omega

theorem beBytes8_length (n : Nat) : (beBytes8 n).length = 8 := by
  simp [beBytes8, leDigits_length]

/-- reading the big-endian bytes back big-endian gives the number (`AddressAsUint64` etc.) -/
theorem beBytes8_roundtrip (n : Nat) (hn : n < 2 ^ 64) : leNat (beBytes8 n).reverse = n := by
  rw [beBytes8, List.reverse_reverse, leNat_leDigits]
  exact Nat.mod_eq_of_lt (by simpa using hn)

/-- the byte swap `LittleEndian.Uint64 ∘ BigEndian.PutUint64` is injective -/
theorem swap_injective (n m : Nat) (hn : n < 2 ^ 64) (hm : m < 2 ^ 64)
    (h : leUint64 (beBytes8 n) = leUint64 (beBytes8 m)) : n = m := by
  unfold leUint64 at h
  have t1 : (beBytes8 n).take 8 = beBytes8 n := List.take_of_length_le (by rw [beBytes8_length]; omega)
  have t2 : (beBytes8 m).take 8 = beBytes8 m := List.take_of_length_le (by rw [beBytes8_length]; omega)
  rw [t1, t2] at h
  have l1 : leNat (beBytes8 n) < UInt64.size := by
    have := leNat_lt (beBytes8 n); rw [beBytes8_length] at this; exact this
  have l2 : leNat (beBytes8 m) < UInt64.size := by
    have := leNat_lt (beBytes8 m); rw [beBytes8_length] at this; exact this
  have h0 : leNat (beBytes8 n) = leNat (beBytes8 m) := by
    have := congrArg UInt64.toNat h
    rwa [UInt64.toNat_ofNat_of_lt' l1, UInt64.toNat_ofNat_of_lt' l2] at this
  have h1 := leNat_inj _ _ (by simp [beBytes8_length]) h0
  have h2 : leDigits 8 n = leDigits 8 m := List.reverse_inj.mp h1
  have h3 := congrArg leNat h2
  rw [leNat_leDigits, leNat_leDigits] at h3
  have h256 : (256 : Nat) ^ 8 = 2 ^ 64 := by decide
  rw [h256, Nat.mod_eq_of_lt hn, Nat.mod_eq_of_lt hm] at h3
  exact h3

/-- a slab ID whose two components fit their 8 bytes -/
def SlabID.Fits (id : SlabID) : Prop := id.addr < 2 ^ 64 ∧ id.idx < 2 ^ 64

/-- **The seed of a new map is a function of its root slab ID alone** — not of the builder handed
    in, of earlier maps, or of anything else; it is what the builder is seeded with (together with
    the constant `typicalRandomConstant`) and what is stored in the extra data. -/
theorem seed_is_function_of_id (H : Hashes) (w : SeedWorld) (sID : SlabID) (b : BuilderRef) (hb : b < w.builders.length) :
    ∃ m w', newMap H w sID b = (some m, w') ∧ m.seed = seedOfID H sID ∧
      (w'.builder m.builder).k0 = seedOfID H sID ∧ (w'.builder m.builder).k1 = k1Const := by
  refine ⟨_, _, rfl, rfl, ?_, ?_⟩ <;>
    simp [SeedWorld.builder, SeedWorld.setSeed, Builder.setSeed, hb]

/-- **Distinct slab IDs give distinct hash arguments.**  (Whether `Hash64Uint64x2` then maps them to
    distinct seeds is a property of the hash; for an injective `circle2` the seeds differ.) -/
theorem seedArgs_injective (id1 id2 : SlabID) (h1 : SlabID.Fits id1) (h2 : SlabID.Fits id2)
    (h : seedArgs id1 = seedArgs id2) : id1 = id2 := by
  unfold seedArgs at h
  injection h with ha hb
  have e1 := swap_injective _ _ h1.1 h2.1 ha
  have e2 := swap_injective _ _ h1.2 h2.2 hb
  cases id1; cases id2; simp_all

theorem seeds_differ_for_injective_hash (H : Hashes)
    (hinj : ∀ a b a' b', H.circle2 a b 0 = H.circle2 a' b' 0 → a = a' ∧ b = b')
    (id1 id2 : SlabID) (h1 : SlabID.Fits id1) (h2 : SlabID.Fits id2) (hne : id1 ≠ id2) :
    seedOfID H id1 ≠ seedOfID H id2 := by
  intro h
  obtain ⟨ha, hb⟩ := hinj _ _ _ _ h
  exact hne (seedArgs_injective id1 id2 h1 h2 (Prod.ext ha hb))

/-- the container model's `OMap.new` (Map/Ops.lean), whose seed is "an uninterpreted function of
    the root slab ID", instantiated with this function: the stored seed is `seedOfID` of the ID the
    allocator handed out -/
theorem omap_new_seed {r : Nat} (H : Hashes) (addr ty : Nat) (c : Ctx) :
    (OMap.new (r := r) addr ty (fun id => (seedOfID H id).toNat) c).1.seed = (seedOfID H (c.alloc addr).1).toNat := rfl

/-- the handle's builder carries the handle's stored seed (and the constant) -/
def Seeded (w : SeedWorld) (m : MapH) : Prop :=
  (w.builder m.builder).k0 = m.seed ∧ (w.builder m.builder).k1 = k1Const

theorem builder_setSeed_self (w : SeedWorld) (b : BuilderRef) (hb : b < w.builders.length) (k0 k1 : UInt64) :
    (w.setSeed b k0 k1).builder b = ⟨k0, k1⟩ := by
  simp [SeedWorld.builder, SeedWorld.setSeed, Builder.setSeed, hb]

theorem builder_setSeed_other (w : SeedWorld) (b b' : BuilderRef) (hne : b' ≠ b) (k0 k1 : UInt64) :
    (w.setSeed b k0 k1).builder b' = w.builder b' := by
  simp only [SeedWorld.builder, SeedWorld.setSeed, List.getD_eq_getElem?_getD]
  rw [List.getElem?_set_ne (Ne.symm hne)]

/-- two handles whose builders carry the same seed obtain the same digest for every message at
    every level -/
theorem same_seed_same_digests (H : Hashes) (w w' : SeedWorld) (m m' : MapH) (h : Seeded w m) (h' : Seeded w' m')
    (hs : m'.seed = m.seed) (msg : Bytes) (level : Nat) :
    m'.digestOf H w' msg level = m.digestOf H w msg level := by
  unfold MapH.digestOf
  rw [h.1, h'.1, hs]

/-- **`CopyNonRefSimple`: the copy has the source's seed**, its builder carries it, and so the copy
    computes for every key the digests the source computes. -/
theorem copy_uses_source_seed (H : Hashes) (w : SeedWorld) (m : MapH) (hm : Seeded w m) (b : BuilderRef)
    (hb : b < w.builders.length) :
    ∃ m' w', copyNonRefSimple w m b = (some m', w') ∧ m'.seed = m.seed ∧ Seeded w' m' ∧
      (b ≠ m.builder → Seeded w' m ∧ ∀ msg l, m'.digestOf H w' msg l = m.digestOf H w' msg l) := by
  have hs : Seeded (w.setSeed b m.seed k1Const) { seed := m.seed, builder := b } := by
    constructor <;> simp [builder_setSeed_self w b hb]
  refine ⟨_, _, rfl, rfl, hs, ?_⟩
  intro hne
  have hm' : Seeded (w.setSeed b m.seed k1Const) m := by
    unfold Seeded; rw [builder_setSeed_other w b m.builder (Ne.symm hne)]; exact hm
  exact ⟨hm', fun msg l => same_seed_same_digests H _ _ m _ hm' hs rfl msg l⟩

/-- **`NewMapFromBatchData`: the new map has the seed the caller passed** (the source's), its builder
    carries it; the zero seed is refused before the builder is touched. -/
theorem batch_uses_given_seed (w : SeedWorld) (seed : UInt64) (b : BuilderRef) (hb : b < w.builders.length) :
    (seed = 0 → newMapFromBatchData w seed b = (.error .seedUninitialized, w)) ∧
    (seed ≠ 0 → ∃ m' w', newMapFromBatchData w seed b = (.ok (some m'), w') ∧ m'.seed = seed ∧ Seeded w' m') := by
  constructor
  · intro h; simp [newMapFromBatchData, h]
  · intro h
    refine ⟨{ seed := seed, builder := b }, w.setSeed b seed k1Const, by simp [newMapFromBatchData, h], rfl, ?_⟩
    constructor <;> simp [builder_setSeed_self w b hb]

/-- **`NewMapWithRootID`: a re-opened map hashes with the seed stored in its root slab.** -/
theorem reload_uses_stored_seed (w : SeedWorld) (seed : UInt64) (b : BuilderRef) (hb : b < w.builders.length) :
    let r := newMapWithRootID w seed b
    r.1.seed = seed ∧ Seeded r.2 r.1 := by
  refine ⟨rfl, ?_⟩
  constructor <;> simp [newMapWithRootID, builder_setSeed_self w b hb]

/-- `MapDataSlab.StoredValue` (handles of child maps): a NEW builder, seeded with the stored seed;
    no existing handle is affected. -/
theorem storedValue_seed (w : SeedWorld) (seed : UInt64) :
    let r := storedValue w seed
    r.1.seed = seed ∧ Seeded r.2 r.1 ∧ r.1.builder = w.builders.length ∧
    ∀ m, m.builder < w.builders.length → Seeded w m → Seeded r.2 m := by
  have hlen : w.builders.length < (w.builders ++ [Builder.new]).length := by simp
  refine ⟨rfl, ?_, rfl, ?_⟩
  · constructor <;>
      simp only [storedValue, SeedWorld.newBuilder,
        builder_setSeed_self { builders := w.builders ++ [Builder.new] } w.builders.length hlen]
  · intro m hm hs
    unfold Seeded
    simp only [storedValue, SeedWorld.newBuilder]
    rw [builder_setSeed_other _ _ _ (Nat.ne_of_lt hm)]
    have : SeedWorld.builder { builders := w.builders ++ [Builder.new] } m.builder = w.builder m.builder := by
      simp [SeedWorld.builder, List.getElem?_append_left hm]
    rw [this]; exact hs

/-- Frame: a constructor given a builder object that no existing handle uses leaves every existing
    handle seeded. -/
theorem other_handles_unaffected (w : SeedWorld) (b : BuilderRef) (k0 k1 : UInt64) (m : MapH)
    (hne : m.builder ≠ b) (hs : Seeded w m) : Seeded (w.setSeed b k0 k1) m := by
  unfold Seeded; rw [builder_setSeed_other w b m.builder hne]; exact hs

/-- **One builder object for two maps breaks the first.**  `NewMap(…, b, …)` for `id1`, then
    `NewMap(…, b, …)` for `id2` with THE SAME builder object: the first handle now hashes every key
    with the second map's seed, while its root slab still records the first seed — so after a
    reload (which re-seeds from the slab) every key inserted in between is looked up under
    different digests. -/
theorem shared_builder_breaks_first_map (H : Hashes) (w : SeedWorld) (id1 id2 : SlabID) (b : BuilderRef)
    (hb : b < w.builders.length) (hseed : seedOfID H id2 ≠ 0) :
    ∃ m1 w1 m2 w2, newMap H w id1 b = (some m1, w1) ∧ newMap H w1 id2 b = (some m2, w2) ∧
      Seeded w1 m1 ∧ Seeded w2 m2 ∧
      (∀ msg, m1.digestOf H w2 msg 0 = .ok (H.circle msg (seedOfID H id2))) ∧
      (seedOfID H id1 ≠ seedOfID H id2 → ¬ Seeded w2 m1) := by
  have hb1 : b < (w.setSeed b (seedOfID H id1) k1Const).builders.length := by simpa [SeedWorld.setSeed] using hb
  refine ⟨_, _, _, _, rfl, rfl, ?_, ?_, ?_, ?_⟩
  · constructor <;> simp [builder_setSeed_self w b hb]
  · constructor <;> simp [builder_setSeed_self _ b hb1]
  · intro msg
    simp only [MapH.digestOf, builder_setSeed_self _ b hb1, hseed, if_false]
    rfl
  · intro hne hs
    have := hs.1
    simp only [builder_setSeed_self _ b hb1] at this
    exact hne this.symm

/-- **A slab ID whose seed hash is 0 gives a map on which every keyed operation fails.**  `NewMap`
    does not check `k0` (only `NewMapFromBatchData` does): the map is created and stored, and every
    `digesterBuilder.Digest(hip, key)` — the first step of `Get`, `Set`, `Remove`, `Has` — returns
    `HashSeedUninitializedError`, from any pool state. -/
theorem zero_seed_map_unusable {V : Type} (H : Hashes) (hip : HIP V) (w : SeedWorld) (sID : SlabID) (b : BuilderRef)
    (hb : b < w.builders.length) (h0 : seedOfID H sID = 0) :
    ∃ m w', newMap H w sID b = (some m, w') ∧
      ∀ (v : V) (p : Pool) (c : Option Nat),
        (w'.builder m.builder).digest H hip v p c = (.error .seedUninitialized, p) := by
  refine ⟨_, _, rfl, ?_⟩
  intro v p c
  simp [builder_setSeed_self w b hb, Builder.digest, h0]

/-- A constructor that fails AFTER `SetSeed` (storage error in `NewMap`, `CopyNonRefSimple`,
    `NewMapFromBatchData`) returns no map but has re-seeded the caller's builder. -/
theorem failed_constructor_still_seeds (H : Hashes) (w : SeedWorld) (sID : SlabID) (m : MapH) (b : BuilderRef)
    (hb : b < w.builders.length) :
    (newMap H w sID b false).1 = none ∧ ((newMap H w sID b false).2.builder b).k0 = seedOfID H sID ∧
    (copyNonRefSimple w m b false).1 = none ∧ ((copyNonRefSimple w m b false).2.builder b).k0 = m.seed := by
  refine ⟨rfl, ?_, rfl, ?_⟩ <;> simp [newMap, copyNonRefSimple, builder_setSeed_self w b hb]

section NonVacuity

/-- address `0x0102030405060708`, index 5: the arguments are the byte-swapped numbers -/
example : seedArgs ⟨0x0102030405060708, 5⟩ = (0x0807060504030201, 0x0500000000000000) := by decide

example : SlabID.Fits ⟨0x0102030405060708, 5⟩ := by unfold SlabID.Fits; decide

example : beBytes8 0x0102030405060708 = [1, 2, 3, 4, 5, 6, 7, 8] := by decide

/-- two builder objects, a map on each, a copy of the first onto a third builder: all seeded -/
def toySeedScenario : Bool :=
  let w0 : SeedWorld := { builders := [Builder.new, Builder.new, Builder.new] }
  match newMap toyH w0 ⟨1, 1⟩ 0 with
  | (some m1, w1) =>
    match newMap toyH w1 ⟨1, 2⟩ 1 with
    | (some m2, w2) =>
      match copyNonRefSimple w2 m1 2 with
      | (some m3, w3) => decide (m1.seed ≠ m2.seed ∧ m3.seed = m1.seed ∧
          m3.digestOf toyH w3 [7] 0 = m1.digestOf toyH w3 [7] 0 ∧
          m2.digestOf toyH w3 [7] 0 ≠ m1.digestOf toyH w3 [7] 0 ∧ m1.seed ≠ 0)
      | _ => false
    | _ => false
  | _ => false

example : toySeedScenario = true := by decide

example := shared_builder_breaks_first_map toyH { builders := [Builder.new] } ⟨1, 1⟩ ⟨1, 2⟩ 0 (by decide) (by decide)

/-- a hash for which some slab ID has seed 0 exists (e.g. `a + b + seed`, ID (0,0)) -/
example := zero_seed_map_unusable (V := UInt8) { toyH with circle2 := fun a b s => a + b + s } toyHip
  { builders := [Builder.new] } ⟨0, 0⟩ 0 (by decide) (by decide)

end NonVacuity

end Atree.Dig

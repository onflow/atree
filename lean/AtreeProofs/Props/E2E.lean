import AtreeProofs.E2ESpec
import AtreeProofs.E2E.History
/-
  E2E — END-TO-END: array model + effect logs + storage state machine + commit / reopen + lazy
  slab loading, tied together (C03 / C08 / C15 at container level, arrays).

  "Every history of array operations, run against the storage state machine, followed by a
   successful commit and a reopen on a fresh storage, yields exactly the same array; without the
   commit, the reopen yields the array as of the last commit."

  The codec is abstract (`Codec SSlab β`), with the round-trip law `RoundTrip c`
  as hypothesis, as in C15 / C03 (discharged for the byte codec by C07).  Definitions:
  `AtreeProofs/E2ESpec.lean`, and in the helper files `Good` / `RefsOk` (`E2E/History.lean`: the
  invariant of a history) and `LastOk` (`E2E/Writes.lean`); helper lemmas:
  `AtreeProofs/E2E/*.lean`.
-/
namespace Atree.E2E
open Atree Gen St

variable {β : Type}

/-- The view of the storage after an effect log was run with the FINAL content of every slab:
    determined, identifier by identifier, by the last store/remove event of the identifier. -/
theorem applyEffs_view (c : Codec SSlab β) (s : St SSlab β) (content : SlabID → Option SSlab)
    (E : List Eff) (id : SlabID) (hid : id ≠ SlabID.undef)
    (hwf : lastAction E id = some true → (content id).isSome) :
    (applyEffs c s content E).view c id =
      (match lastAction E id with
       | some true => content id
       | some false => none
       | none => s.view c id) ∧
    (applyEffs c s content E).cache = s.cache ∧ (applyEffs c s content E).base = s.base :=
  ⟨view_applyEffs c s content E id hid hwf, applyEffs_frame c s content E⟩

/-- Storing the final content at every store event yields the same storage state as storing the
    intermediate contents: for ANY assignment of content snapshots to the events (`EC`) whose last
    write of every identifier agrees with the final content, both runs end with the same pending
    entry and the same view for every identifier, the same cache, ledger and allocation counters. -/
theorem intermediate_contents_irrelevant (c : Codec SSlab β) (s : St SSlab β)
    (content : SlabID → Option SSlab) (EC : List (Eff × (SlabID → Option SSlab)))
    (hlast : ∀ id, LastOk content id EC.reverse) :
    (∀ id, id ≠ SlabID.undef →
      AList.find? (applyEffsI c s EC).deltas id =
        AList.find? (applyEffs c s content (EC.map (·.1))).deltas id) ∧
    (∀ id, id ≠ SlabID.undef →
      (applyEffsI c s EC).view c id = (applyEffs c s content (EC.map (·.1))).view c id) ∧
    (applyEffsI c s EC).cache = (applyEffs c s content (EC.map (·.1))).cache ∧
    (applyEffsI c s EC).base = (applyEffs c s content (EC.map (·.1))).base ∧
    (∀ addr, addr ≠ 0 → (AList.find? (applyEffsI c s EC).alloc addr).getD 0 =
      (AList.find? (applyEffs c s content (EC.map (·.1))).alloc addr).getD 0) := by
  apply applyEffsI_eq_applyEffs
  intro id
  have := lastWrite_of_lastOk content id EC.reverse (hlast id)
  rwa [List.reverse_reverse] at this

/-- REP STEP.  If the storage represents `a` and the effect log `E` is a complete account (C09) of
    the change from `a` to `a'`, then the storage obtained by running `E` represents `a'`. -/
theorem rep_step (c : Codec SSlab β) (s : St SSlab β) (a a' : Arr)
    (extra : SlabID → Option Elem) (ctr ctr' : Nat) (E : List Eff) (created : List (SlabID × Elem))
    (hrep : Rep c s a extra ctr) (heff : EffectsComplete a a' E (created.map (·.1)))
    (haddr : a'.addr = a.addr) (hne : a.addr ≠ 0) (hle : ctr ≤ ctr')
    (hcr : ∀ p ∈ created, p.1.idx ≤ ctr') :
    Rep c (applyEffs c s (stored a' (AList.find? created)) E) a' (extraStep a' E created extra) ctr' :=
  rep_step_gen c s a a' extra ctr ctr' E created hrep heff haddr hne hle hcr

/-- the account of the created slabs (`CreatedOk`, `AllocCnt`) read on the context after the operation -/
theorem created_stored_of_log {a a' : Arr} {c c' : Ctx} {E : List Eff} {C : List (SlabID × Elem)}
    (hlog : Log c c' E C) (hcr : CreatedOk a.addr c.ctr c'.ctr E (C.map (·.1)) (ATree.slabIds a'.d a'.root))
    (hal : AllocCnt a.addr c c' E) :
    (∀ p ∈ c'.created.drop c.created.length,
      lastAction (newEffs c c') p.1 = some true ∧ (a'.slabAt p.1).isNone ∧ c.ctr < p.1.idx ∧
      p.1.idx ≤ c'.ctr ∧ p.1.addr = a.addr) ∧
    c'.ctr = c.ctr + allocCount a.addr (newEffs c c') := by
  rw [newEffs_of_log hlog, hlog.created, List.drop_left, allocCount_eq]
  refine ⟨fun p hp => ?_, hal⟩
  have hp := List.mem_map_of_mem (f := (·.1)) hp
  exact ⟨hcr.stored hp, (slabAt_isNone a' p.1).2 (hcr.not_key hp), hcr.fresh hp, hcr.le hp, hcr.addr hp⟩

/-- Large-value slabs created by `Insert` are stored by the operation, never removed or overwritten
    by it, fresh, owned by the array's address, and not slabs of the new tree; the allocation
    counter advances by exactly the number of `GenerateSlabID` calls in the log. -/
theorem insert_created_stored (T : Nat) (hT : legalThreshold T = true) (a : Arr) (c : Ctx) (i : Nat)
    (v : Elem) (hv : ValueOk v) (h : ArrInv T a c.ctr) (a' : Arr) (c' : Ctx)
    (hr : a.insert T i v c = .ok (a', c')) :
    (∀ p ∈ c'.created.drop c.created.length,
      lastAction (newEffs c c') p.1 = some true ∧ (a'.slabAt p.1).isNone ∧ c.ctr < p.1.idx ∧
      p.1.idx ≤ c'.ctr ∧ p.1.addr = a.addr) ∧
    c'.ctr = c.ctr + allocCount a.addr (newEffs c c') := by
  obtain ⟨E, C, hlog, hcr, hal, _⟩ := arr_insert_created hT a c i v hv h a' c' hr
  exact created_stored_of_log hlog hcr hal

/-- the same for `Set` -/
theorem set_created_stored (T : Nat) (hT : legalThreshold T = true) (a : Arr) (c : Ctx) (i : Nat)
    (v : Elem) (hv : ValueOk v) (h : ArrInv T a c.ctr) (old : Elem) (a' : Arr) (c' : Ctx)
    (hr : a.set T i v c = .ok (old, a', c')) :
    (∀ p ∈ c'.created.drop c.created.length,
      lastAction (newEffs c c') p.1 = some true ∧ (a'.slabAt p.1).isNone ∧ c.ctr < p.1.idx ∧
      p.1.idx ≤ c'.ctr ∧ p.1.addr = a.addr) ∧
    c'.ctr = c.ctr + allocCount a.addr (newEffs c c') := by
  obtain ⟨E, C, hlog, hcr, hal, _⟩ := arr_set_created hT a c i v hv h old a' c' hr
  exact created_stored_of_log hlog hcr hal

/-- REP HISTORY.  For every list of requests (insert / append / set / remove / popIterate / setType;
    any positions, out-of-range ones included: they are rejected and change nothing; values of any
    size ≥ 1), starting from `NewArray` on an empty storage, at every point (the statement holds
    for every list, hence for every prefix):
    * the array invariant `ArrInv` (C05) holds,
    * the storage represents the array (`Rep`): on the owner's address the view is exactly the slabs
      of the tree plus the large-value slabs created so far,
    * the storage invariant `Inv` (C15) holds and the storage's allocation counter agrees with the
      array model's (the IDs `Ctx.alloc` hands out are the ones `GenerateSlabID` generates),
    * every reference element points to a live large-value slab,
    * the sequence of values is the `List` semantics of the history (C01), the root ID is the one
      allocated by `NewArray`, the type info is the last one set. -/
theorem rep_history (c : Codec SSlab β) (hc : RoundTrip c) (T : Nat) (hT : legalThreshold T = true)
    (addr ty : Nat) (haddr : addr ≠ 0) (ops : List AOp) (hops : ∀ op ∈ ops, op.Ok) :
    let x := runS c T (newS c addr ty) ops
    let a := x.1.1
    let ctx := x.1.2
    let s := x.2
    x.1 = runA T (Arr.new addr ty ⟨0, [], []⟩) ops ∧
    ArrInv T a ctx.ctr ∧
    Rep c s a (AList.find? ctx.created) ctx.ctr ∧
    Inv c s ∧ AllocSync s addr ctx.ctr ∧
    (∀ e ∈ a.toList, ∀ y, e.pay = .ref y → (AList.find? ctx.created y).isSome) ∧
    values x.1 = specRun [] ops ∧ a.rootID = ⟨addr, 1⟩ ∧ a.ty = specTy ty ops := by
  intro x a ctx s
  obtain ⟨g0, v0, r0, t0⟩ := good_new c hc T hT addr ty haddr
  obtain ⟨g, v, r, t⟩ := good_runS c hc T hT ops (newS c addr ty) g0 hops
  have haddr' : a.addr = addr := by
    show x.1.1.rootID.addr = addr
    rw [r, r0]
  refine ⟨runS_fst c T ops _, g.inv, g.rep, g.st, ?_, g.refs, by rw [v, v0], r.trans r0, by rw [t, t0]⟩
  have := g.sync
  rw [haddr'] at this
  exact this

/-- The same from ANY state satisfying the invariant `Good` (e.g. the state after a commit):
    the invariant is kept and the values follow the `List` semantics. -/
theorem rep_run (c : Codec SSlab β) (hc : RoundTrip c) (T : Nat) (hT : legalThreshold T = true)
    (x : (Arr × Ctx) × St SSlab β) (hg : Good c T x) (ops : List AOp) (hops : ∀ op ∈ ops, op.Ok) :
    Good c T (runS c T x ops) ∧ values (runS c T x ops).1 = specRun (values x.1) ops ∧
    (runS c T x ops).1.1.rootID = x.1.1.rootID ∧ (runS c T x ops).1.1.ty = specTy x.1.1.ty ops :=
  good_runS c hc T hT ops x hg hops

/-- LOAD SLABS.  The tree is determined by its slabs: loading from the slabs of `a` (plus any
    large-value slabs) by following the child headers from the root ID rebuilds `a`. -/
theorem load_slabs (T : Nat) (hT : legalThreshold T = true) (a : Arr) (ctr : Nat)
    (hinv : ArrInv T a ctr) (extra : SlabID → Option Elem) (fuel : Nat) (hf : a.d < fuel) :
    loadArr (stored a extra) a.rootID fuel = some a :=
  loadArr_of_agree hT a ctr hinv extra (stored a extra) (fun _ _ => rfl) fuel hf

/-- … and so does loading through the storage that represents `a`, with `Retrieve` or any other
    transparent fetch (reads interleaved with cache drops, preloads, …: C08); the storage still
    represents `a` afterwards. -/
theorem load_from_storage (c : Codec SSlab β) (T : Nat) (hT : legalThreshold T = true)
    (s : St SSlab β) (a : Arr) (extra : SlabID → Option Elem) (ctr : Nat)
    (hinv : ArrInv T a ctr) (hrep : Rep c s a extra ctr) (hI : Inv c s)
    (fetch : Fetch (St SSlab β)) (hf : FetchOk c fetch) (fuel : Nat) (hfuel : a.d < fuel) :
    ∃ s', loadArrSt fetch s a.rootID fuel = .ok (some a, s') ∧ Rep c s' a extra ctr ∧ Inv c s' ∧
      s'.deltas = s.deltas ∧ s'.base = s.base := by
  obtain ⟨s', h1, k⟩ := loadArrSt_spec c fetch hf s hI a.rootID fuel
  rw [loadArr_of_agree hT a ctr hinv extra (s.view c) hrep.view fuel hfuel] at h1
  exact ⟨s', h1, ⟨fun id hid => by rw [k.view]; exact hrep.view id hid, hrep.extra_fresh⟩, k.inv,
    k.deltas, k.base⟩

theorem retrieve_is_fetch (c : Codec SSlab β) : FetchOk c (fun s id => s.retrieve c id) :=
  retrieve_fetchOk c

theorem scheduled_retrieve_is_fetch (c : Codec SSlab β)
    (sched : St SSlab β → SlabID → List (Op SSlab)) : FetchOk c (fetchWith c sched) :=
  fetchWith_fetchOk c sched

/-- COMMIT, REOPEN, LOAD = IDENTITY (C03 "commits are durable and complete", C08 "the cache is
    transparent").  If the storage represents `a`, then after a fault-free commit of either kind
    (`FastCommit`, or `NondeterministicFastCommit` with ANY worker orders `mo`, `dlo`) the commit
    reports no error, and a brand-new storage opened over the same ledger (`recreate`: empty write
    set, empty cache) loads – through `Retrieve`, or through any transparent fetch, i.e. with cache
    drops / preloads / other reads interleaved at will – exactly `a`: same depth, same slabs with
    the same headers and links, same elements, same root ID, same type info; the reopened storage
    represents `a` (so the large-value slabs are there as well). -/
theorem commit_reopen_identity (c : Codec SSlab β) (hc : RoundTrip c) (T : Nat)
    (hT : legalThreshold T = true) (s : St SSlab β) (a : Arr) (extra : SlabID → Option Elem)
    (ctr : Nat) (hinv : ArrInv T a ctr) (hne : a.addr ≠ 0) (hrep : Rep c s a extra ctr)
    (hI : Inv c s) (henc : NoEncodeFailure c s)
    (kind : CommitKind) (mo dlo : List SlabID)
    (fetch : Fetch (St SSlab β)) (hf : FetchOk c fetch) (fuel : Nat) (hfuel : a.d < fuel) :
    (St.step c s (.commit kind [] mo dlo)).2 = .unit ∧
    let reopened := St.run c s [.commit kind [] mo dlo, .recreate]
    reopened.deltas = [] ∧ reopened.cache = [] ∧
    Rep c reopened a extra ctr ∧
    ∃ s', loadArrSt fetch reopened a.rootID fuel = .ok (some a, s') ∧ Rep c s' a extra ctr := by
  obtain ⟨g, p⟩ := WE2E.commit_reopen_view c hc s hI henc kind mo dlo
  refine ⟨g, ?_⟩
  intro reopened
  obtain ⟨q1, q2, p2, q4⟩ := p
  have p1 : Rep c reopened a extra ctr :=
    rep_iff_holds.2 ((rep_iff_holds.1 hrep).of_view fun id hid => q4 id (isTemp_of_addr hid hne))
  obtain ⟨s', h1, h2, _⟩ := load_from_storage c T hT reopened a extra ctr hinv p1 p2 fetch hf fuel hfuel
  exact ⟨q1, q2, p1, s', h1, h2⟩

/-- the array operations touch neither the read cache nor the ledger -/
theorem runS_frame (c : Codec SSlab β) (T : Nat) (ops : List AOp) (x : (Arr × Ctx) × St SSlab β) :
    (runS c T x ops).2.cache = x.2.cache ∧ (runS c T x ops).2.base = x.2.base :=
  (foldl_invariant (stepS c T) (fun _ => True) (fun _ => True)
    (fun x y => y.2.cache = x.2.cache ∧ y.2.base = x.2.base)
    (fun _ => ⟨rfl, rfl⟩) (fun h1 h2 => ⟨h2.1.trans h1.1, h2.2.trans h1.2⟩)
    (fun x _ _ _ => ⟨trivial, applyEffs_frame c x.2 _ _⟩) ops x (fun _ _ => trivial) trivial).2

/-- the array operations never write to the ledger -/
theorem runS_base (c : Codec SSlab β) (T : Nat) :
    ∀ (ops : List AOp) (x : (Arr × Ctx) × St SSlab β), (runS c T x ops).2.base = x.2.base :=
  fun ops x => (runS_frame c T ops x).2

/-- CRASH BEFORE COMMIT (C03 "uncommitted state never reaches the ledger").  Commit, then ANY
    further history of array operations (which change the in-memory array), then abandon the
    in-memory storage WITHOUT committing: the reopened storage loads the array as of the last
    commit, not the later one. -/
theorem crash_reopen_last_commit (c : Codec SSlab β) (hc : RoundTrip c) (T : Nat)
    (hT : legalThreshold T = true) (x : (Arr × Ctx) × St SSlab β) (hg : Good c T x)
    (henc : NoEncodeFailure c x.2) (kind : CommitKind) (mo dlo : List SlabID)
    (later : List AOp) (hlater : ∀ op ∈ later, op.Ok)
    (fetch : Fetch (St SSlab β)) (hf : FetchOk c fetch) (fuel : Nat) (hfuel : x.1.1.d < fuel) :
    let committed := (St.step c x.2 (.commit kind [] mo dlo)).1
    let y := runS c T (x.1, committed) later
    let reopened := (St.step c y.2 .recreate).1
    -- the in-memory state moved on …
    Good c T y ∧ values y.1 = specRun (values x.1) later ∧
    -- … the ledger did not
    ∃ s', loadArrSt fetch reopened x.1.1.rootID fuel = .ok (some x.1.1, s') ∧
      Rep c s' x.1.1 (AList.find? x.1.2.created) x.1.2.ctr := by
  intro committed y reopened
  have hcm : committed = (commitW c kind (faultPlan []) mo dlo x.2).st := by
    show (St.step c x.2 (.commit kind [] mo dlo)).1 = _
    rw [step_commit]
  obtain ⟨_, g2, _⟩ := commitW_complete c hc kind (faultPlan []) St.faultPlan_nil mo dlo x.2 hg.st henc
  obtain ⟨h1, h2, h3⟩ := good_iff.1 hg
  obtain ⟨r1, r3⟩ := h2.commit_attempt c hc kind (faultPlan []) mo dlo
  rw [← hcm] at g2 r1 r3
  have hgc : Good c T (x.1, committed) := good_iff.2 ⟨h1, r1, h3⟩
  obtain ⟨gy, vy, _, _⟩ := good_runS c hc T hT later (x.1, committed) hgc hlater
  refine ⟨gy, vy, ?_⟩
  have hbase : y.2.base = committed.base := runS_base c T later (x.1, committed)
  obtain ⟨p1, p2⟩ := h2.rep.reopen hg.addr r1.st r3 g2 y.2.base hbase y.2.alloc
  obtain ⟨s', h1, h2, _⟩ := load_from_storage c T hT (St.fresh y.2.base y.2.alloc) x.1.1 _ _ hg.inv (rep_iff_holds.2 p1) p2
    fetch hf fuel hfuel
  exact ⟨s', h1, h2⟩

/-- FAILED COMMIT, THEN RETRY (C14).  After ANY sequence of commit attempts – each of either kind,
    with its own fault plan and worker orders, failing wherever it fails – the in-memory storage
    still represents the array (nothing is lost: `Good` is kept, so every further operation works
    as usual), and a fault-free retry of either kind succeeds and, after a reopen, loads exactly
    the array. -/
theorem failed_commit_then_retry (c : Codec SSlab β) (hc : RoundTrip c) (T : Nat)
    (hT : legalThreshold T = true) (x : (Arr × Ctx) × St SSlab β) (hg : Good c T x)
    (henc : NoEncodeFailure c x.2)
    (attempts : List (CommitKind × List Nat × List SlabID × List SlabID))
    (kind : CommitKind) (mo dlo : List SlabID)
    (fetch : Fetch (St SSlab β)) (hf : FetchOk c fetch) (fuel : Nat) (hfuel : x.1.1.d < fuel) :
    let s' := attempts.foldl (fun s at_ => (St.step c s (.commit at_.1 at_.2.1 at_.2.2.1 at_.2.2.2)).1) x.2
    Good c T (x.1, s') ∧
    (St.step c s' (.commit kind [] mo dlo)).2 = .unit ∧
    let reopened := St.run c s' [.commit kind [] mo dlo, .recreate]
    Rep c reopened x.1.1 (AList.find? x.1.2.created) x.1.2.ctr ∧
    ∃ s'', loadArrSt fetch reopened x.1.1.rootID fuel = .ok (some x.1.1, s'') ∧
      Rep c s'' x.1.1 (AList.find? x.1.2.created) x.1.2.ctr := by
  intro s'
  -- every attempt keeps the invariant, the view and the counters
  obtain ⟨hg', henc'⟩ := foldl_sim
    (fun s (at_ : CommitKind × List Nat × List SlabID × List SlabID) =>
      (St.step c s (.commit at_.1 at_.2.1 at_.2.2.1 at_.2.2.2)).1)
    (fun (u : Unit) _ => u) (fun _ => True) (fun s _ => Good c T (x.1, s) ∧ NoEncodeFailure c s)
    (fun s _ at_ _ h => by
      rw [step_commit]
      obtain ⟨g1, g2, g3⟩ := good_iff.1 h.1
      obtain ⟨r1, r3⟩ := g2.commit_attempt c hc at_.1 (faultPlan at_.2.1) at_.2.2.1 at_.2.2.2
      exact ⟨good_iff.2 ⟨g1, r1, g3⟩, r3.noEncodeFailure h.2⟩)
    attempts x.2 () (fun _ _ => trivial) ⟨hg, henc⟩
  refine ⟨hg', ?_⟩
  obtain ⟨h1, h2⟩ := commit_reopen_identity c hc T hT s' x.1.1 _ _ hg'.inv hg'.addr hg'.rep hg'.st henc'
    kind mo dlo fetch hf fuel hfuel
  refine ⟨h1, ?_⟩
  intro reopened
  obtain ⟨_, _, h3, h4⟩ := h2
  exact ⟨h3, h4⟩

/-- Every reference element of a represented array resolves, in the storage, to the large value it
    stands for (also after commit + reopen, since `Rep` is kept: `commit_reopen_identity`). -/
theorem large_values_in_storage (c : Codec SSlab β) (T : Nat) (x : (Arr × Ctx) × St SSlab β)
    (hg : Good c T x) (s' : St SSlab β)
    (hrep : Rep c s' x.1.1 (AList.find? x.1.2.created) x.1.2.ctr) :
    ∀ e ∈ x.1.1.toList, ∀ y, e.pay = .ref y →
      ∃ v, AList.find? x.1.2.created y = some v ∧ s'.view c y = some (.large v) ∧
        resolve x.1.2.created e = v := by
  intro e he y hy
  have := hg.refs e he y hy
  cases hf : AList.find? x.1.2.created y with
  | none => rw [hf] at this; cases this
  | some v =>
    exact ⟨v, rfl, (rep_iff_holds.1 hrep).view_extra hf (hg.caddr _ (mem_of_find?_some hf)),
      by simp [resolve, hy, hf]⟩

/-- HISTORY, COMMIT, REOPEN, LOAD for any round-tripping codec under which the pending slabs of the final
    state can be encoded (`E2E.keyedCodec`, `E2E.keyedCodecG I`): the commit succeeds, the reopened
    storage loads the array of the history, whose values follow the `List` semantics, and every large
    value created is read back from its slab. -/
theorem history_commit_reopen (c : Codec SSlab β) (hc : RoundTrip c) (T : Nat) (hT : legalThreshold T = true)
    (addr ty : Nat) (haddr : addr ≠ 0) (ops : List AOp) (hops : ∀ op ∈ ops, op.Ok)
    (hne : NoEncodeFailure c (runS c T (newS c addr ty) ops).2)
    (kind : CommitKind) (mo dlo : List SlabID)
    (fetch : Fetch (St SSlab β)) (hf : FetchOk c fetch) (fuel : Nat) :
    let x := runS c T (newS c addr ty) ops
    x.1.1.d < fuel →
    (St.step c x.2 (.commit kind [] mo dlo)).2 = .unit ∧
    let reopened := St.run c x.2 [.commit kind [] mo dlo, .recreate]
    (∃ s', loadArrSt fetch reopened ⟨addr, 1⟩ fuel = .ok (some x.1.1, s') ∧
      values x.1 = specRun [] ops) ∧
    (∀ id w, AList.find? x.1.2.created id = some w → reopened.view c id = some (.large w)) := by
  intro x hfuel
  obtain ⟨g0, v0, r0, _⟩ := good_new c hc T hT addr ty haddr
  obtain ⟨g, v, r, _⟩ := good_runS c hc T hT ops (newS c addr ty) g0 hops
  obtain ⟨h1, h2⟩ := commit_reopen_identity c hc T hT x.2 x.1.1 _ _ g.inv g.addr g.rep g.st hne kind mo dlo
    fetch hf fuel hfuel
  refine ⟨h1, ?_⟩
  intro reopened
  obtain ⟨_, _, hrep, s', h3, _⟩ := h2
  have hroot : x.1.1.rootID = ⟨addr, 1⟩ := r.trans r0
  rw [hroot] at h3
  refine ⟨⟨s', h3, by rw [v, v0]⟩, ?_⟩
  exact fun id w hf' => (rep_iff_holds.1 hrep).view_extra hf' (g.caddr _ (mem_of_find?_some hf'))

/-! Non-vacuity.

A concrete history run on the model for `T = 256` against the storage state machine with the
identity codec (`β = σ`, trivially round-tripping).  The history (`hist`) goes through: the split of
the root (4th append: this is `Atree.Example.arr4` of C05/C09), an in-place insert, the split of a
leaf (slab 4 allocated), a value too large to inline (large-value slab 5), a rejected out-of-range
insert, a removal that merges two leaves (slab 4 removed while its store is still pending), and
`SetType`.  The theorems are instantiated on it and compared with direct evaluation (`decide`). -/
section NonVacuity
open Atree.Example

def idCodec : Codec SSlab SSlab := { enc := some, dec := fun _ b => some b, size := fun _ => 0 }

theorem idCodec_roundTrip : RoundTrip idCodec := by
  intro id v b h
  simp only [idCodec, Option.some.injEq] at h
  simp [idCodec, h]

theorem idCodec_noEncodeFailure (s : St SSlab SSlab) : NoEncodeFailure idCodec s := fun _ _ _ => rfl

def hist : List AOp :=
  [.append (elem 0), .append (elem 1), .append (elem 2), .append (elem 3),
   .insert 1 (elem 9), .insert 1 (elem 8), .set 3 ⟨5000, .val 7⟩, .insert 99 (elem 5),
   .remove 0, .setType 42]

theorem hist_ok : ∀ op ∈ hist, op.Ok := by
  intro op hop
  simp only [hist, List.mem_cons, List.not_mem_nil, or_false] at hop
  rcases hop with rfl | rfl | rfl | rfl | rfl | rfl | rfl | rfl | rfl | rfl <;>
    first | exact value_ok _ | exact ⟨by decide, 7, rfl⟩ | trivial

/-- the state after the history: array model, context, storage -/
def xH : (Arr × Ctx) × St SSlab SSlab := runS idCodec T0 (newS idCodec 1 0) hist

/-! The state after the history, written out.  The examples below rewrite with `xH_eq` first, so
that the history is run once, here.  The large value is a parameter: the same state, with a
150-byte value, is the one of `Props/E2EBytes.lean` and `Props/E2EBytesG.lean`. -/

def hLeaf2 : DataSlab := ⟨⟨⟨1, 2⟩, 240, 3⟩, ⟨1, 3⟩, [elem 8, elem 9, ⟨19, .ref ⟨1, 5⟩⟩], false, false⟩
def hLeaf3 : DataSlab := ⟨⟨⟨1, 3⟩, 221, 2⟩, ⟨0, 0⟩, [elem 2, elem 3], false, false⟩
def hHdrs : List Hdr := [⟨⟨1, 2⟩, 240, 3⟩, ⟨⟨1, 3⟩, 221, 2⟩]

/-- the array and the context: five identifiers handed out, the storage calls of the ten requests -/
def hModel (big : Elem) : Arr × Ctx :=
  (⟨1, (⟨⟨⟨1, 1⟩, 40, 5⟩, hHdrs, [3, 5], [hLeaf2, hLeaf3], true⟩ : MetaSlab (ATree 0)), 42⟩,
   ⟨5, [.alloc 1 ⟨1, 1⟩, .store ⟨1, 1⟩, .store ⟨1, 1⟩, .store ⟨1, 1⟩, .store ⟨1, 1⟩, .store ⟨1, 1⟩,
        .alloc 1 ⟨1, 2⟩, .alloc 1 ⟨1, 3⟩, .store ⟨1, 2⟩, .store ⟨1, 3⟩, .store ⟨1, 1⟩, .store ⟨1, 2⟩,
        .store ⟨1, 1⟩, .store ⟨1, 2⟩, .alloc 1 ⟨1, 4⟩, .store ⟨1, 2⟩, .store ⟨1, 4⟩, .store ⟨1, 1⟩,
        .alloc 1 ⟨1, 5⟩, .store ⟨1, 5⟩, .store ⟨1, 4⟩, .store ⟨1, 1⟩, .store ⟨1, 2⟩, .store ⟨1, 2⟩,
        .store ⟨1, 1⟩, .remove ⟨1, 4⟩, .store ⟨1, 1⟩, .store ⟨1, 1⟩],
    [(⟨1, 5⟩, big)]⟩)

/-- the write set: every slab is pending, slab `1.4` is pending for deletion -/
def hDeltas (big : Elem) : AList SlabID (Option SSlab) :=
  [(⟨1, 1⟩, some (.tree (.index ⟨⟨1, 1⟩, 40, 5⟩ hHdrs [3, 5] true) (some 42))),
   (⟨1, 4⟩, none),
   (⟨1, 2⟩, some (.tree (.data hLeaf2) none)),
   (⟨1, 5⟩, some (.large big)),
   (⟨1, 3⟩, some (.tree (.data hLeaf3) none))]

theorem xH_eq : xH = (hModel ⟨5000, .val 7⟩, ⟨hDeltas ⟨5000, .val 7⟩, [], [], 0, [(1, 5)]⟩) := by rfl

/-- decidable summaries of arrays / load results / stored slabs -/
def summary (a : Arr) : Nat × List Elem × Nat × List SlabID :=
  (a.d, a.toList, a.ty, ATree.slabIds a.d a.root)
def summaryR (r : Except StErr (Option Arr × St SSlab SSlab)) :
    Option (Nat × List Elem × Nat × List SlabID) :=
  match r with
  | .ok (some a, _) => some (summary a)
  | _ => none
/-- 0 = nothing / deletion, 1 = data slab, 2 = index slab, 3 = large-value slab -/
def slabKind : Option SSlab → Nat
  | none => 0
  | some (.tree (.data _) _) => 1
  | some (.tree (.index _ _ _ _) _) => 2
  | some (.large _) => 3

/-- the first four appends build `Example.arr4` (the array of the C05 / C09 non-vacuity sections) -/
example : (runA T0 (Arr.new 1 0 ⟨0, [], []⟩) (hist.take 4)).1 = arr4 := by rfl

/-- the array after the history: a root index slab over two leaves; element 2 is a reference to the
    large-value slab 5 -/
example : summary xH.1.1 =
    (1, [elem 8, elem 9, ⟨19, .ref ⟨1, 5⟩⟩, elem 2, elem 3], 42, [⟨1, 1⟩, ⟨1, 2⟩, ⟨1, 3⟩]) := by
  rw [xH_eq]; decide +kernel
example : xH.1.2.created = [(⟨1, 5⟩, ⟨5000, .val 7⟩)] ∧ xH.1.2.ctr = 5 := by rw [xH_eq]; decide +kernel
/-- the multi-slab stage in between (after the sixth request): four slabs -/
example : (summary (runS idCodec T0 (newS idCodec 1 0) (hist.take 6)).1.1).2.2.2
    = [⟨1, 1⟩, ⟨1, 2⟩, ⟨1, 4⟩, ⟨1, 3⟩] := by decide +kernel
/-- the write set after the history: index slab 1, pending DELETION of slab 4, leaves 2 and 3,
    large-value slab 5; nothing in the ledger yet -/
example : xH.2.deltas.map (fun p => (p.1, slabKind p.2))
    = [(⟨1, 1⟩, 2), (⟨1, 4⟩, 0), (⟨1, 2⟩, 1), (⟨1, 5⟩, 3), (⟨1, 3⟩, 1)] ∧ xH.2.base = [] := by
  rw [xH_eq]; decide +kernel

/-- `rep_history` instantiated: its hypotheses hold for this history. -/
theorem xH_good :
    ArrInv T0 xH.1.1 xH.1.2.ctr ∧ Rep idCodec xH.2 xH.1.1 (AList.find? xH.1.2.created) xH.1.2.ctr ∧
    Inv idCodec xH.2 ∧ AllocSync xH.2 1 xH.1.2.ctr ∧
    values xH.1 = specRun [] hist ∧ xH.1.1.rootID = ⟨1, 1⟩ ∧ xH.1.1.ty = specTy 0 hist := by
  obtain ⟨_, h1, h2, h3, h4, _, h6, h7, h8⟩ :=
    rep_history idCodec idCodec_roundTrip T0 legal 1 0 (by decide) hist hist_ok
  exact ⟨h1, h2, h3, h4, h6, h7, h8⟩
/-- … and what it says, by evaluation: the `List` semantics on the values (the large value itself,
    not the reference), the storage counter -/
example : specRun [] hist = [elem 8, elem 9, ⟨5000, .val 7⟩, elem 2, elem 3] ∧ specTy 0 hist = 42 := by
  decide
example : values xH.1 = [elem 8, elem 9, ⟨5000, .val 7⟩, elem 2, elem 3] := by rw [xH_eq]; decide +kernel
example : AList.find? xH.2.alloc 1 = some 5 := by rw [xH_eq]; decide +kernel
theorem xH_Good : Good idCodec T0 xH :=
  (good_runS idCodec idCodec_roundTrip T0 legal hist _
    (good_new idCodec idCodec_roundTrip T0 legal 1 0 (by decide)).1 hist_ok).1
theorem xH_d : xH.1.1.d < 2 := by rw [xH_eq]; decide +kernel

/-- `Rep` is not trivially true: the empty storage does not represent the array. -/
example : ¬ Rep idCodec (St.init : St SSlab SSlab) xH.1.1 (AList.find? xH.1.2.created) xH.1.2.ctr := by
  intro h
  have := h.view ⟨1, 1⟩ (by decide)
  have h2 : slabKind ((St.init : St SSlab SSlab).view idCodec ⟨1, 1⟩) = 0 := by decide
  rw [this] at h2
  revert h2
  decide

/-- `load_slabs` on the array -/
example : loadArr (stored xH.1.1 (AList.find? xH.1.2.created)) xH.1.1.rootID 2 = some xH.1.1 :=
  load_slabs T0 legal xH.1.1 _ xH_good.1 _ 2 xH_d

/-- `commit_reopen_identity` instantiated (FastCommit, `Retrieve`), and the same by evaluation:
    after commit + reopen the ledger holds slabs 1, 2, 3, 5 (not 4), and loading returns the array. -/
example := commit_reopen_identity idCodec idCodec_roundTrip T0 legal xH.2 xH.1.1 _ _ xH_good.1
  xH_Good.addr xH_good.2.1 xH_good.2.2.1 (idCodec_noEncodeFailure _) .det [] []
  _ (retrieve_is_fetch idCodec) 2 xH_d
def reopened : St SSlab SSlab := St.run idCodec xH.2 [.commit .det [] [] [], .recreate]
example : reopened.base.map (fun p => (p.1, slabKind (some p.2)))
    = [(⟨1, 5⟩, 3), (⟨1, 3⟩, 1), (⟨1, 2⟩, 1), (⟨1, 1⟩, 2)] ∧ reopened.deltas = [] := by
  rw [reopened, xH_eq]; decide +kernel
example : summaryR (loadArrSt (fun s id => s.retrieve idCodec id) reopened ⟨1, 1⟩ 2)
    = some (summary xH.1.1) := by rw [reopened, xH_eq]; decide +kernel
/-- the same with `NondeterministicFastCommit` and a worker order that writes slab 3 first, and a
    loader that drops the cache before every `Retrieve` -/
example := commit_reopen_identity idCodec idCodec_roundTrip T0 legal xH.2 xH.1.1 _ _ xH_good.1
  xH_Good.addr xH_good.2.1 xH_good.2.2.1 (idCodec_noEncodeFailure _) .nondet [⟨1, 3⟩, ⟨1, 1⟩] []
  _ (scheduled_retrieve_is_fetch idCodec (fun _ _ => [.dropCache])) 2 xH_d
def reopenedN : St SSlab SSlab :=
  St.run idCodec xH.2 [.commit .nondet [] [⟨1, 3⟩, ⟨1, 1⟩] [], .recreate]
example : reopenedN.base.map (·.1) = [⟨1, 5⟩, ⟨1, 2⟩, ⟨1, 1⟩, ⟨1, 3⟩] := by
  rw [reopenedN, xH_eq]; decide +kernel
example : summaryR (loadArrSt (fetchWith idCodec (fun _ _ => [.dropCache])) reopenedN ⟨1, 1⟩ 2)
    = some (summary xH.1.1) := by rw [reopenedN, xH_eq]; decide +kernel
/-- the large value is in the reopened storage -/
example : slabKind (reopened.view idCodec ⟨1, 5⟩) = 3 ∧ slabKind (reopened.view idCodec ⟨1, 4⟩) = 0 := by
  rw [reopened, xH_eq]; decide +kernel

/-- `crash_reopen_last_commit`: after the commit the array is emptied and refilled, then the
    storage is abandoned: the reopened storage loads the array of the commit. -/
def laterOps : List AOp := [.popIterate, .append (elem 1)]
example := crash_reopen_last_commit idCodec idCodec_roundTrip T0 legal xH xH_Good
  (idCodec_noEncodeFailure _) .det [] [] laterOps
  (by intro op hop
      simp only [laterOps, List.mem_cons, List.not_mem_nil, or_false] at hop
      rcases hop with rfl | rfl
      · trivial
      · exact value_ok 1)
  _ (retrieve_is_fetch idCodec) 2 xH_d
def crashed : St SSlab SSlab :=
  (St.step idCodec (runS idCodec T0 (xH.1, (St.step idCodec xH.2 (.commit .det [] [] [])).1) laterOps).2
    .recreate).1
example : (summary (runS idCodec T0 (xH.1, (St.step idCodec xH.2 (.commit .det [] [] [])).1) laterOps).1.1)
    = (0, [elem 1], 42, [⟨1, 1⟩]) := by rw [xH_eq]; decide +kernel
example : summaryR (loadArrSt (fun s id => s.retrieve idCodec id) crashed ⟨1, 1⟩ 2)
    = some (summary xH.1.1) := by rw [crashed, xH_eq]; decide +kernel

/-- `failed_commit_then_retry`: the first attempt fails at its second write (slab 1 is written,
    the rest stays pending), the retry succeeds. -/
example := failed_commit_then_retry idCodec idCodec_roundTrip T0 legal xH xH_Good
  (idCodec_noEncodeFailure _) [(.det, [1], [], [])] .nondet [] []
  _ (retrieve_is_fetch idCodec) 2 xH_d
example :
    let r := xH.2.fastCommit idCodec (faultPlan [1])
    r.err = some .external ∧ r.st.base.map (·.1) = [⟨1, 1⟩] ∧
    r.st.deltas.map (·.1) = [⟨1, 4⟩, ⟨1, 2⟩, ⟨1, 5⟩, ⟨1, 3⟩] := by rw [xH_eq]; decide +kernel
def retried : St SSlab SSlab :=
  St.run idCodec (xH.2.fastCommit idCodec (faultPlan [1])).st [.commit .nondet [] [] [], .recreate]
example : summaryR (loadArrSt (fun s id => s.retrieve idCodec id) retried ⟨1, 1⟩ 2)
    = some (summary xH.1.1) := by rw [retried, xH_eq]; decide +kernel

/-- `intermediate_contents_irrelevant`: two stores of the same slab, the first with another
    content: same result as storing the final content twice. -/
example :
    let final : SlabID → Option SSlab := fun _ => some (.large (elem 1))
    let EC : List (Eff × (SlabID → Option SSlab)) :=
      [(.store ⟨1, 1⟩, fun _ => some (.large (elem 0))), (.store ⟨1, 1⟩, final)]
    ∀ id, LastOk final id EC.reverse := by
  intro final EC id
  simp only [EC, List.reverse_cons, List.reverse_nil, List.nil_append, List.cons_append, LastOk]
  split
  · simp [final]
  · trivial

end NonVacuity

end Atree.E2E

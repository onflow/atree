import AtreeProofs.E2EBytesSpec
import AtreeProofs.E2E.Bytes
import AtreeProofs.E2E.BytesHistory
import AtreeProofs.Props.E2E
/-
  E2EBytes — the END-TO-END theorems for arrays with the BYTE-LEVEL codec (`AtreeModel/Codec`,
  C06 / C07 / C19) in place of the abstract one: the hypotheses `RoundTrip c` and
  `NoEncodeFailure c s` are discharged.

  COVERED: arrays of plain values of any size (the `Arr` model): standalone array data slabs (root /
  non-root, with / without sibling link), array index slabs, large-value slabs.
  NOT COVERED: maps (their E2E theorems keep the abstract `RoundTrip`), nested containers / inlined
  children / wrapped values (World model; slab kinds `adata`, `mdata`, `mindex`, `storableG`).

  The keyed codec (`E2E.keyedCodec`): a register is the ledger entry `(key, bytes)`; see
  `AtreeProofs/E2EBytesSpec.lean` for why the abstract law (∀ identifier) needs the key, and
  `ledger_read_by_decodeSlab` below for the statement with `DecodeSlab(id, bytes)` itself.
-/
namespace Atree.E2E
open Atree Atree.Codec Gen St

/-- ROUND TRIP AT THE OWN KEY.  `DecodeSlab(id, EncodeSlab(slab)) = slab` for a stored slab of an
    array that meets the encoder's preconditions, `id` being the slab's own ID (C07). -/
theorem bytes_roundtrip_own_key (v : SSlab) (ok : OkS v) (id : SlabID)
    (hid : ownId v = id ∨ ∃ e, v = .large e) : decS id (encS v) = some v :=
  decS_encS v ok id hid

/-- The keyed byte codec satisfies the abstract round-trip law assumed by C15 / C03 / C14 / C08 and
    by the E2E theorems. -/
theorem keyed_codec_roundtrip : RoundTrip keyedCodec := keyedCodec_roundTrip

/-- STORED SLABS ARE ENCODABLE.  Every slab that the representation of an array (satisfying
    `ArrInv`, with encodable elements and address / counter / type info within their field widths)
    puts into the storage meets the encoder's preconditions (`SlabOK`: no `uint16` / `uint32`
    truncation, `count = len`, `size = prefix + Σ sizes`, children at the parent's address, valid
    sibling link, …) and is filed under its own ID. -/
theorem stored_slabs_encodable (T : Nat) (hT : legalThreshold T = true) (a : Arr)
    (extra : SlabID → Option Elem) (ctr : Nat) (hinv : ArrInv T a ctr) (henc : EncOk a extra ctr)
    (id : SlabID) (v : SSlab) (hv : stored a extra id = some v) :
    OkS v ∧ (ownId v = id ∨ ∃ e, v = .large e) :=
  stored_ok hT a extra ctr hinv henc id v hv

/-- the hypotheses of the histories below: address and final counter fit 64 bits -/
structure Bounds (addr ty ctr : Nat) : Prop where
  addr_pos : addr ≠ 0
  addr : addr < 2 ^ 64
  ty : ty < 2 ^ 64
  ctr : ctr < 2 ^ 64

theorem runS_addr (T : Nat) (hT : legalThreshold T = true) (addr ty : Nat) (haddr : addr ≠ 0)
    (ops : List AOp) (hops : ∀ op ∈ ops, op.Ok) :
    Good keyedCodec T (runS keyedCodec T (newS keyedCodec addr ty) ops) ∧
    (runS keyedCodec T (newS keyedCodec addr ty) ops).1.1.addr = addr := by
  obtain ⟨g0, _, r0, _⟩ := good_new keyedCodec keyedCodec_roundTrip T hT addr ty haddr
  obtain ⟨g, _, r, _⟩ := good_runS keyedCodec keyedCodec_roundTrip T hT ops _ g0 hops
  refine ⟨g, ?_⟩
  show (runS keyedCodec T (newS keyedCodec addr ty) ops).1.1.rootID.addr = addr
  rw [r, r0]

/-- NO ENCODING FAILURE ALONG HISTORIES.  After any history of requests with encodable values,
    every slab pending in the storage can be encoded by the byte codec. -/
theorem bytes_history_no_encode_failure (T : Nat) (hT : legalThreshold T = true) (addr ty : Nat)
    (ops : List AOp) (hops : ∀ op ∈ ops, op.Ok) (henc : ∀ op ∈ ops, op.Enc)
    (hb : Bounds addr ty (runS keyedCodec T (newS keyedCodec addr ty) ops).1.2.ctr) :
    NoEncodeFailure keyedCodec (runS keyedCodec T (newS keyedCodec addr ty) ops).2 := by
  obtain ⟨g, ha⟩ := runS_addr T hT addr ty hb.addr_pos ops hops
  obtain ⟨g0, _⟩ := good_new keyedCodec keyedCodec_roundTrip T hT addr ty hb.addr_pos
  have he := encSt_runS keyedCodec keyedCodec_roundTrip T hT ops _ g0
    (encSt_new keyedCodec addr ty hb.ty) hops henc
  exact noEncodeFailure_of_good T hT _ g he (by rw [ha]; exact hb.addr) hb.ctr

/-- END-TO-END WITH THE BYTE CODEC.  Every history of array requests (any positions; values of any
    size ≥ 1 that the harness can encode), run against the storage state machine, followed by a
    fault-free commit of either kind (any worker orders) and a reopen on a fresh storage, yields – by
    `DecodeSlab` on the registers, through `Retrieve` or any transparent fetch – exactly the same
    array: same slabs, same elements, same root ID, same type info.  No hypothesis on the codec. -/
theorem bytes_commit_reopen_identity (T : Nat) (hT : legalThreshold T = true) (addr ty : Nat)
    (ops : List AOp) (hops : ∀ op ∈ ops, op.Ok) (henc : ∀ op ∈ ops, op.Enc)
    (hb : Bounds addr ty (runS keyedCodec T (newS keyedCodec addr ty) ops).1.2.ctr)
    (kind : CommitKind) (mo dlo : List SlabID)
    (fetch : Fetch (St SSlab (SlabID × Bytes))) (hf : FetchOk keyedCodec fetch) (fuel : Nat) :
    let x := runS keyedCodec T (newS keyedCodec addr ty) ops
    x.1.1.d < fuel →
    (St.step keyedCodec x.2 (.commit kind [] mo dlo)).2 = .unit ∧
    let reopened := St.run keyedCodec x.2 [.commit kind [] mo dlo, .recreate]
    ∃ s', loadArrSt fetch reopened ⟨addr, 1⟩ fuel = .ok (some x.1.1, s') ∧
      values x.1 = specRun [] ops := by
  intro x hfuel
  obtain ⟨h1, h2⟩ := history_commit_reopen keyedCodec keyedCodec_roundTrip T hT addr ty hb.addr_pos ops hops
    (bytes_history_no_encode_failure T hT addr ty ops hops henc hb) kind mo dlo fetch hf fuel hfuel
  exact ⟨h1, h2.1⟩

/-- THE LEDGER READ BY `DecodeSlab(id, bytes)`.  After the history and the commit, decoding the
    bytes of every register of the owner with the REAL `DecodeSlab`, under the register's key, gives
    exactly the slab of the array (or the large value) that belongs there – and nothing where no
    slab belongs. -/
theorem ledger_read_by_decodeSlab (T : Nat) (hT : legalThreshold T = true) (addr ty : Nat)
    (ops : List AOp) (hops : ∀ op ∈ ops, op.Ok) (henc : ∀ op ∈ ops, op.Enc)
    (hb : Bounds addr ty (runS keyedCodec T (newS keyedCodec addr ty) ops).1.2.ctr)
    (kind : CommitKind) (mo dlo : List SlabID) :
    let x := runS keyedCodec T (newS keyedCodec addr ty) ops
    let committed := (St.step keyedCodec x.2 (.commit kind [] mo dlo)).1
    ∀ id, id.addr = addr →
      (AList.find? committed.base id).bind (fun p => decS id p.2)
        = stored x.1.1 (AList.find? x.1.2.created) id := by
  intro x committed id hid
  obtain ⟨g, ha⟩ := runS_addr T hT addr ty hb.addr_pos ops hops
  have hne := bytes_history_no_encode_failure T hT addr ty ops hops henc hb
  obtain ⟨g0, _⟩ := good_new keyedCodec keyedCodec_roundTrip T hT addr ty hb.addr_pos
  have he := encSt_runS keyedCodec keyedCodec_roundTrip T hT ops _ g0
    (encSt_new keyedCodec addr ty hb.ty) hops henc
  have hok := encOk_of_good keyedCodec T x g he (by rw [ha]; exact hb.addr) hb.ctr
  obtain ⟨_, _, g3⟩ := commitW_complete keyedCodec keyedCodec_roundTrip kind (faultPlan []) St.faultPlan_nil mo dlo
    x.2 g.st hne
  have hcm : committed = (commitW keyedCodec kind (faultPlan []) mo dlo x.2).st := by
    show (St.step keyedCodec x.2 (.commit kind [] mo dlo)).1 = _
    rw [step_commit]
  rw [hcm, g3 id]
  -- nothing was in the ledger or in the cache before the commit
  have hbase : x.2.base = [] := by
    have := runS_base keyedCodec T ops (newS keyedCodec addr ty)
    rw [this]
    exact (applyEffs_frame keyedCodec St.init _ _).2
  have hcache : x.2.cache = [] := by
    rw [(runS_frame keyedCodec T ops (newS keyedCodec addr ty)).1]
    exact (applyEffs_frame keyedCodec St.init _ _).1
  have := (rep_iff_holds.1 g.rep).target_read g.addr hbase hcache (fun id p => decS id p.2)
    (fun id v hv => by
      obtain ⟨ok, hown⟩ := stored_ok hT x.1.1 _ _ g.inv hok id v (stored_cview x.1.1 ▸ hv)
      exact ⟨(ownId v, encS v), by simp only [keyedCodec, ok, if_true], decS_encS v ok id hown⟩)
    (id := id) (hid.trans ha.symm)
  rwa [stored_cview] at this

/-! Non-vacuity.

A history like `hist` of `Props/E2E.lean` (root split, leaf split, a value too large to inline – 150
bytes, so that the registers stay small enough for kernel evaluation –, a rejected insert, a merge,
`SetType`) with the byte codec: its values are encodable, the bounds hold, the theorems are
instantiated; the registers are evaluated (`decide`), and `DecodeSlab` on them gives the slabs back. -/
section NonVacuity
open Atree.Example

def histB : List AOp :=
  [.append (elem 0), .append (elem 1), .append (elem 2), .append (elem 3),
   .insert 1 (elem 9), .insert 1 (elem 8), .set 3 ⟨150, .val 7⟩, .insert 99 (elem 5),
   .remove 0, .setType 42]

theorem histB_ok : ∀ op ∈ histB, op.Ok := by
  intro op hop
  simp only [histB, List.mem_cons, List.not_mem_nil, or_false] at hop
  rcases hop with rfl | rfl | rfl | rfl | rfl | rfl | rfl | rfl | rfl | rfl <;>
    first | exact value_ok _ | exact ⟨by decide, 7, rfl⟩ | trivial

instance (op : AOp) : Decidable op.Enc := by
  cases op <;> (dsimp only [AOp.Enc]; infer_instance)

theorem histB_enc : ∀ op ∈ histB, op.Enc := by decide

def summaryR' (r : Except StErr (Option Arr × St SSlab (SlabID × Bytes))) :
    Option (Nat × List Elem × Nat × List SlabID) :=
  match r with
  | .ok (some a, _) => some (summary a)
  | _ => none

/-- the state after the history, with registers of bytes -/
def xB : (Arr × Ctx) × St SSlab (SlabID × Bytes) := runS keyedCodec T0 (newS keyedCodec 1 0) histB

theorem xB_eq : xB = (hModel ⟨150, .val 7⟩, ⟨hDeltas ⟨150, .val 7⟩, [], [], 0, [(1, 5)]⟩) := by rfl

example : summary xB.1.1 =
    (1, [elem 8, elem 9, ⟨19, .ref ⟨1, 5⟩⟩, elem 2, elem 3], 42, [⟨1, 1⟩, ⟨1, 2⟩, ⟨1, 3⟩]) := by
  rw [xB_eq]; decide +kernel
example : xB.1.2.created = [(⟨1, 5⟩, ⟨150, .val 7⟩)] := by rw [xB_eq]; decide +kernel
theorem xB_bounds : Bounds 1 0 xB.1.2.ctr := ⟨by decide, by decide, by decide, by rw [xB_eq]; decide⟩

example := bytes_history_no_encode_failure T0 legal 1 0 histB histB_ok histB_enc xB_bounds
example := bytes_commit_reopen_identity T0 legal 1 0 histB histB_ok histB_enc xB_bounds .det [] []
  _ (retrieve_is_fetch keyedCodec) 2 (by decide)
example := ledger_read_by_decodeSlab T0 legal 1 0 histB histB_ok histB_enc xB_bounds .nondet [⟨1, 3⟩] []

/-- the ledger after the commit: four registers, each filed under its own ID (the large-value slab
    carries none): the large value, the leaves 1.3 (two 100-byte elements) and 1.2 (two elements, one
    reference, the sibling link), the root index slab 1.1 -/
def reopenedB : St SSlab (SlabID × Bytes) := St.run keyedCodec xB.2 [.commit .det [] [] [], .recreate]

set_option maxRecDepth 100000 in
example : reopenedB.base.map (fun p => (p.1, p.2.1, p.2.2.length))
    = [(⟨1, 5⟩, SlabID.undef, 152), (⟨1, 3⟩, ⟨1, 3⟩, 205), (⟨1, 2⟩, ⟨1, 2⟩, 240), (⟨1, 1⟩, ⟨1, 1⟩, 43)] := by
  rw [reopenedB, xB_eq]; decide +kernel

-- the first bytes of the root register: version 1; flags "array index slab, root"; then the extra
-- data: a CBOR array of one item, the type info 42
set_option maxRecDepth 100000 in
example : ((reopenedB.base.map (·.2.2)).getLast?.map (List.take 5)) = some [0x10, 0x81, 0x81, 0x18, 42] := by
  rw [reopenedB, xB_eq]; decide +kernel

-- loading through `Retrieve` (= `DecodeSlab` on the registers) gives the array back
set_option maxRecDepth 100000 in
example : summaryR' (loadArrSt (fun s id => s.retrieve keyedCodec id) reopenedB ⟨1, 1⟩ 2)
    = some (summary xB.1.1) := by rw [reopenedB, xB_eq]; decide +kernel

-- `DecodeSlab(id, bytes)` itself on the registers: large value, two data slabs, index slab
set_option maxRecDepth 100000 in
example : (reopenedB.base.map (fun p => slabKind (decS p.1 p.2.2))) = [3, 1, 1, 2] := by
  rw [reopenedB, xB_eq]; decide +kernel

/-- the preconditions are not trivially true: a data slab whose count field disagrees with its
    elements is refused by the keyed codec (an encoding error) -/
example : keyedCodec.enc (.tree (.data ⟨⟨⟨1, 2⟩, 121, 5⟩, SlabID.undef, [elem 0], false, false⟩) none) = none := by
  decide

end NonVacuity

end Atree.E2E

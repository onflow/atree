import AtreeProofs.E2EBytesGSpec
import AtreeProofs.E2E.BytesG
import AtreeProofs.Props.E2EBytes
/-
  E2EBytesG — the END-TO-END theorems for arrays with the byte codec, LARGE-VALUE SLABS OF ANY
  STORABLE the codec model supports: plain values, slab references and wrapped values
  (`hx.SomeStorable`, nested; `Codec.Slab.storableG`, C07 `decode_encode_storable_wrapped`).
  The array elements themselves are plain values and references (inline wrapped values need the
  `adata` slab kind and are not covered).  What the large-value slab of a caller value holds is given
  by an interpretation `E2E.LargeInterp` (see `AtreeProofs/E2EBytesGSpec.lean`); `Props/E2EBytes.lean`
  is the special case of the plain interpretation (`keyedCodecG_plain`).
-/
namespace Atree.E2E
open Atree Atree.Codec Gen St

variable (I : LargeInterp)

/-- ROUND TRIP AT THE OWN KEY (general large-value slabs). -/
theorem bytesG_roundtrip_own_key (v : SSlab) (ok : OkG I v) (id : SlabID)
    (hid : ownId v = id ∨ ∃ e, v = .large e) : decG I id (encG I v) = some v :=
  decG_encG I v ok id hid

/-- The keyed byte codec with general large-value slabs satisfies the abstract round-trip law. -/
theorem keyed_codecG_roundtrip : RoundTrip (keyedCodecG I) := keyedCodecG_roundTrip I

/-- STORED SLABS ARE ENCODABLE (general large-value slabs). -/
theorem stored_slabs_encodableG (T : Nat) (hT : legalThreshold T = true) (a : Arr)
    (extra : SlabID → Option Elem) (ctr : Nat) (hinv : ArrInv T a ctr) (henc : EncOkG I a extra ctr)
    (id : SlabID) (v : SSlab) (hv : stored a extra id = some v) :
    OkG I v ∧ (ownId v = id ∨ ∃ e, v = .large e) :=
  stored_okG I hT a extra ctr hinv henc id v hv

theorem runS_addrG (T : Nat) (hT : legalThreshold T = true) (addr ty : Nat) (haddr : addr ≠ 0)
    (ops : List AOp) (hops : ∀ op ∈ ops, op.Ok) :
    Good (keyedCodecG I) T (runS (keyedCodecG I) T (newS (keyedCodecG I) addr ty) ops) ∧
    (runS (keyedCodecG I) T (newS (keyedCodecG I) addr ty) ops).1.1.addr = addr := by
  obtain ⟨g0, _, r0, _⟩ := good_new (keyedCodecG I) (keyedCodecG_roundTrip I) T hT addr ty haddr
  obtain ⟨g, _, r, _⟩ := good_runS (keyedCodecG I) (keyedCodecG_roundTrip I) T hT ops _ g0 hops
  refine ⟨g, ?_⟩
  show (runS (keyedCodecG I) T (newS (keyedCodecG I) addr ty) ops).1.1.rootID.addr = addr
  rw [r, r0]

/-- NO ENCODING FAILURE ALONG HISTORIES (general large-value slabs): values that fit the inline limit
    are plain values of the harness, larger ones have an encodable large-value slab (any supported
    storable). -/
theorem bytesG_history_no_encode_failure (T : Nat) (hT : legalThreshold T = true) (addr ty : Nat)
    (ops : List AOp) (hops : ∀ op ∈ ops, op.Ok) (henc : ∀ op ∈ ops, AOp.EncG I T op)
    (hb : Bounds addr ty (runS (keyedCodecG I) T (newS (keyedCodecG I) addr ty) ops).1.2.ctr) :
    NoEncodeFailure (keyedCodecG I) (runS (keyedCodecG I) T (newS (keyedCodecG I) addr ty) ops).2 := by
  obtain ⟨g, ha⟩ := runS_addrG I T hT addr ty hb.addr_pos ops hops
  obtain ⟨g0, _⟩ := good_new (keyedCodecG I) (keyedCodecG_roundTrip I) T hT addr ty hb.addr_pos
  have he := encStG_runS I (keyedCodecG I) (keyedCodecG_roundTrip I) T hT ops _ g0
    (encStG_new I (keyedCodecG I) addr ty hb.ty) hops henc
  exact noEncodeFailure_of_goodG I T hT _ g he (by rw [ha]; exact hb.addr) hb.ctr

/-- END-TO-END WITH THE BYTE CODEC, general large-value slabs.  Every history of array requests, run
    against the storage state machine, followed by a fault-free commit of either kind and a reopen on
    a fresh storage, yields – by `DecodeSlab` on the registers – exactly the same array, and the
    values follow the `List` semantics; every large-value slab (plain, reference or wrapped storable)
    reads back the value it was created for.  No hypothesis on the codec. -/
theorem bytesG_commit_reopen_identity (T : Nat) (hT : legalThreshold T = true) (addr ty : Nat)
    (ops : List AOp) (hops : ∀ op ∈ ops, op.Ok) (henc : ∀ op ∈ ops, AOp.EncG I T op)
    (hb : Bounds addr ty (runS (keyedCodecG I) T (newS (keyedCodecG I) addr ty) ops).1.2.ctr)
    (kind : CommitKind) (mo dlo : List SlabID)
    (fetch : Fetch (St SSlab (SlabID × Bytes))) (hf : FetchOk (keyedCodecG I) fetch) (fuel : Nat) :
    let x := runS (keyedCodecG I) T (newS (keyedCodecG I) addr ty) ops
    x.1.1.d < fuel →
    (St.step (keyedCodecG I) x.2 (.commit kind [] mo dlo)).2 = .unit ∧
    let reopened := St.run (keyedCodecG I) x.2 [.commit kind [] mo dlo, .recreate]
    (∃ s', loadArrSt fetch reopened ⟨addr, 1⟩ fuel = .ok (some x.1.1, s') ∧
      values x.1 = specRun [] ops) ∧
    (∀ id w, AList.find? x.1.2.created id = some w → reopened.view (keyedCodecG I) id = some (.large w)) := by
  intro x hfuel
  exact history_commit_reopen (keyedCodecG I) (keyedCodecG_roundTrip I) T hT addr ty hb.addr_pos ops hops
    (bytesG_history_no_encode_failure I T hT addr ty ops hops henc hb) kind mo dlo fetch hf fuel hfuel

/-! The plain interpretation: `Props/E2EBytes.lean` is a special case. -/

def elemOfStorA : Stor → Option Elem
  | .val s p => some ⟨s, .val p⟩
  | .ref id => some ⟨slabIDStorableSize, .ref id⟩
  | _ => none

theorem ofElem_isFlat (v : Elem) : (Stor.ofElem v).isFlat = true := by
  unfold Stor.ofElem
  cases v.pay <;> rfl

/-- every large-value slab holds the plain encoding of its value -/
def plainInterp : LargeInterp where
  γ := Stor.ofElem
  δ := elemOfStorA
  ok := fun v => decide (validElem v)
  flat := fun v hv _ => ⟨rfl, of_decide_eq_true hv⟩
  wrapped := fun v _ hf => by rw [ofElem_isFlat] at hf; cases hf
  inv := fun v hv => by
    have hv' : validElem v := of_decide_eq_true hv
    obtain ⟨sz, pay⟩ := v
    unfold Stor.ofElem
    cases pay with
    | val p => rfl
    | ref id =>
      unfold validElem at hv'
      simp only at hv'
      simp only [elemOfStorA, hv'.1]

/-- with the plain interpretation the general codec is the codec of `Props/E2EBytes.lean` -/
theorem keyedCodecG_plain (v : SSlab) : (keyedCodecG plainInterp).enc v = keyedCodec.enc v := by
  cases v with
  | tree t ty => rfl
  | large e =>
    simp only [keyedCodecG, keyedCodec, OkG, OkS, plainInterp, decide_eq_true_eq, toSlab, SlabOK, encG, encS,
      toSlabG, ofElem_isFlat, if_true]

/-! Non-vacuity: large values are WRAPPED storables.

The interpretation `wrapInterp`: a value of at least 100 bytes is a wrapped value of the harness
(`hx.SomeStorable` around a plain value two bytes shorter: the wrapper costs two bytes), smaller
ones are plain.  The history `histB` of `Props/E2EBytes.lean` (its 150-byte value goes to a
large-value slab, which here holds a WRAPPED storable: slab kind `storableG`). -/
section NonVacuity
open Atree.Example

def wrapG (v : Elem) : Stor :=
  match v.pay with
  | .val p => if 100 ≤ v.size then .some (.val (v.size - 2) p) else .val v.size p
  | .ref id => .ref id

def unwrapG : Stor → Option Elem
  | .some (.val s p) => some ⟨s + 2, .val p⟩
  | .val s p => some ⟨s, .val p⟩
  | .ref id => some ⟨slabIDStorableSize, .ref id⟩
  | _ => none

def okW (v : Elem) : Bool :=
  match v.pay with
  | .val p => if 100 ≤ v.size then decide (validElem ⟨v.size - 2, .val p⟩) else decide (validElem v)
  | .ref _ => decide (validElem v)

def wrapInterp : LargeInterp where
  γ := wrapG
  δ := unwrapG
  ok := okW
  flat := by
    intro v hv hf
    obtain ⟨sz, pay⟩ := v
    cases pay with
    | val p =>
      by_cases h : 100 ≤ sz
      · simp [wrapG, h, Stor.isFlat] at hf
      · simp only [okW, h, if_false, decide_eq_true_eq] at hv
        exact ⟨by simp [wrapG, h, Stor.ofElem], hv⟩
    | ref id =>
      simp only [okW, decide_eq_true_eq] at hv
      exact ⟨rfl, hv⟩
  wrapped := by
    intro v hv hf
    obtain ⟨sz, pay⟩ := v
    cases pay with
    | val p =>
      by_cases h : 100 ≤ sz
      · simp only [okW, h, if_true, decide_eq_true_eq] at hv
        refine ⟨.val (sz - 2) p, by simp [wrapG, h], hv, trivial, ?_⟩
        simp [Stor.vneed, maxNestedLevels]
      · simp [wrapG, h, Stor.isFlat] at hf
    | ref id => simp [wrapG, Stor.isFlat] at hf
  inv := by
    intro v hv
    obtain ⟨sz, pay⟩ := v
    cases pay with
    | val p =>
      by_cases h : 100 ≤ sz
      · have : sz - 2 + 2 = sz := by omega
        simp [wrapG, h, unwrapG, this]
      · simp [wrapG, h, unwrapG]
    | ref id =>
      simp only [okW, decide_eq_true_eq] at hv
      unfold validElem at hv
      simp only at hv
      simp [wrapG, unwrapG, hv.1]

theorem histB_encG : ∀ op ∈ histB, AOp.EncG wrapInterp T0 op := by decide

/-- the state after the history, with registers of bytes -/
def xG : (Arr × Ctx) × St SSlab (SlabID × Bytes) :=
  runS (keyedCodecG wrapInterp) T0 (newS (keyedCodecG wrapInterp) 1 0) histB

theorem xG_bounds : Bounds 1 0 xG.1.2.ctr := ⟨by decide, by decide, by decide, by decide⟩

example := bytesG_history_no_encode_failure wrapInterp T0 legal 1 0 histB histB_ok histB_encG xG_bounds
example := bytesG_commit_reopen_identity wrapInterp T0 legal 1 0 histB histB_ok histB_encG xG_bounds .det [] []
  _ (retrieve_is_fetch (keyedCodecG wrapInterp)) 2 (by decide)

def reopenedG : St SSlab (SlabID × Bytes) :=
  St.run (keyedCodecG wrapInterp) xG.2 [.commit .det [] [] [], .recreate]

def largeOf (v : Option SSlab) : Option Elem :=
  match v with
  | some (.large e) => some e
  | _ => none

def codecKind (b : Bytes) : Nat :=
  match decodeSlab ⟨1, 5⟩ b 0 with
  | .ok (.storable _ _) _ => 1
  | .ok (.storableG _ (.some (.val _ _))) _ => 2
  | .ok _ _ => 3
  | _ => 0

-- the register of the large value 1.5: 152 bytes; version 1, flags "storable, any size"; then the tag
-- 165 of the wrapper: `DecodeSlab` returns a `storableG` slab holding a wrapped plain value, and the
-- keyed codec reads back the caller's value of 150 bytes
set_option maxRecDepth 100000 in
example : ((AList.find? reopenedG.base ⟨1, 5⟩).map (fun p => (p.2.length, p.2.take 4, codecKind p.2,
      largeOf (decG wrapInterp ⟨1, 5⟩ p.2))))
    = some (152, [0x10, 0x3f, 0xd8, 165], 2, some ⟨150, .val 7⟩) := by decide +kernel

-- with the plain interpretation the same slab is a `storable` slab (kind 1) of the same length
set_option maxRecDepth 100000 in
example : ((AList.find? reopenedB.base ⟨1, 5⟩).map (fun p => (p.2.length, codecKind p.2))) = some (152, 1) := by
  rw [reopenedB, xB_eq]; decide +kernel

-- loading through `Retrieve` gives the array back; the large-value slab reads back the value
set_option maxRecDepth 100000 in
example : summaryR' (loadArrSt (fun s id => s.retrieve (keyedCodecG wrapInterp) id) reopenedG ⟨1, 1⟩ 2)
    = some (summary xG.1.1) := by decide +kernel

/-- the preconditions are not trivially true: a 150-byte value whose payload does not fit the
    wrapped plain value is refused -/
example : (keyedCodecG wrapInterp).enc (.large ⟨150, .val (256 ^ 8)⟩) = none ∧
    ((keyedCodecG wrapInterp).enc (.large ⟨150, .val 7⟩)).isSome = true := by decide

end NonVacuity

end Atree.E2E

import AtreeProofs.E2EDisposeSpec
import AtreeProofs.E2E.Dispose
import AtreeProofs.Props.E2E
/-
  E2ED — END-TO-END with DISPOSAL (arrays): the exact heap.

  C09: "After any history in which the caller disposes of every value the library hands back on
  removal or overwrite, the set of slabs in storage is exactly the set reachable from the live root
  containers ... and nothing else remains.  Emptying a container releases every auxiliary slab it
  used (... large-value slabs)."

  Definitions: `AtreeProofs/E2EDisposeSpec.lean`; `stepD` = `E2E.stepS` followed by
  `storage.Remove(id)` for every reference the request handed back.
-/
namespace Atree.E2ED
open Atree Gen E2E St

variable {β : Type}

/-- `live st id = some v` iff some current element is a reference to `id` and the reference resolves
    to `v` (the value the caller stored). -/
theorem live_spec (st : Arr × Ctx) (id : SlabID) (v : Elem) :
    live st id = some v ↔
      (∃ e ∈ st.1.toList, e.pay = .ref id) ∧ AList.find? st.2.created id = some v := by
  unfold live
  constructor
  · intro h
    split at h
    · rename_i hin; exact ⟨mem_refIdsOf.1 hin, h⟩
    · cases h
  · rintro ⟨h1, h2⟩
    have hin : id ∈ st.1.refIds := mem_refIdsOf.2 h1
    rw [if_pos hin]; exact h2

/-- ONE REQUEST + DISPOSAL, from any state satisfying the invariant: the invariant is kept — in
    particular the view is again exactly tree slabs ∪ live large-value slabs —, the values follow
    the `List` semantics, root ID and type info are as specified. -/
theorem heap_exact_step (c : Codec SSlab β) (hc : RoundTrip c) (T : Nat) (hT : legalThreshold T = true)
    (x : (Arr × Ctx) × St SSlab β) (hg : GoodD c T x) (op : AOp) (hop : op.Ok) :
    let y := stepD c T x op
    GoodD c T y ∧
    (∀ id, id.addr = x.1.1.addr → y.2.view c id = stored y.1.1 (live y.1) id) ∧
    y.1 = stepA T x.1 op ∧
    values y.1 = specStep (values x.1) op ∧
    y.1.1.rootID = x.1.1.rootID ∧ y.1.1.ty = specTy x.1.1.ty [op] := by
  intro y
  obtain ⟨g1, g2, g3, g4⟩ := goodD_stepD c hc T hT x hg op hop
  refine ⟨g1, ?_, rfl, g2, g3, g4⟩
  intro id hid
  refine g1.rep.view id ?_
  show id.addr = y.1.1.rootID.addr
  rw [g3]; exact hid

theorem runD_fst (c : Codec SSlab β) (T : Nat) :
    ∀ (ops : List AOp) (x : (Arr × Ctx) × St SSlab β), (runD c T x ops).1 = runA T x.1 ops :=
  fun ops x => foldl_sim (stepD c T) (stepA T) (fun _ => True) (fun x y => x.1 = y)
    (fun _ _ _ _ h => h ▸ rfl) ops x x.1 (fun _ _ => trivial) rfl

/-- EVERY HISTORY with disposal, from `NewArray` on an empty storage: with `a`, `ctx`, `s` the final
    array / context / storage,
    * the model side is the plain run of the array model (disposal touches the storage only),
    * for EVERY id of the owner address, `s.view c id = stored a (live (a, ctx)) id`: the slabs of
      the tree, the large-value slabs of the current elements, and NOTHING else,
    * `ArrInv`, `ARefsOk`, the storage invariant, the allocation counters agree,
    * every reference resolves; the values are the `List` semantics of the history; root ID and
      type info as specified. -/
theorem heap_exact_after_disposal (c : Codec SSlab β) (hc : RoundTrip c) (T : Nat)
    (hT : legalThreshold T = true) (addr ty : Nat) (haddr : addr ≠ 0) (ops : List AOp)
    (hops : ∀ op ∈ ops, op.Ok) :
    let x := runD c T (newS c addr ty) ops
    let a := x.1.1
    let ctx := x.1.2
    let s := x.2
    x.1 = runA T (Arr.new addr ty ⟨0, [], []⟩) ops ∧
    (∀ id, id.addr = addr → s.view c id = stored a (live (a, ctx)) id) ∧
    ArrInv T a ctx.ctr ∧ ARefsOk a ctx.ctr ∧
    Inv c s ∧ AllocSync s addr ctx.ctr ∧
    (∀ id ∈ a.refIds, (AList.find? ctx.created id).isSome) ∧
    values x.1 = specRun [] ops ∧ a.rootID = ⟨addr, 1⟩ ∧ a.ty = specTy ty ops := by
  intro x a ctx s
  have g0 := goodD_new c hc T hT addr ty haddr
  obtain ⟨g, v, r, t⟩ := goodD_runD c hc T hT ops (newS c addr ty) g0 hops
  have hroot : a.rootID = ⟨addr, 1⟩ := r
  have haddr' : a.addr = addr := by
    show a.rootID.addr = addr
    rw [hroot]
  refine ⟨runD_fst c T ops _, ?_, g.inv, g.refsR, g.st, ?_, g.res, v, hroot, t⟩
  · intro id hid
    exact g.rep.view id (hid.trans haddr'.symm)
  · have := g.sync
    rw [haddr'] at this
    exact this

/-- what is stored for a single-slab array -/
theorem stored_single (sl : DataSlab) (ty : Nat) (extra : SlabID → Option Elem) (id : SlabID)
    (hex : extra id = none) :
    stored ⟨0, sl, ty⟩ extra id = if id = sl.hdr.id then some (.tree (.data sl) (some ty)) else none := by
  have hs : ATree.slabs 0 (sl : ATree 0) = [(sl.hdr.id, .data sl)] := rfl
  have hroot : (⟨0, sl, ty⟩ : Arr).rootID = sl.hdr.id := rfl
  unfold stored Arr.slabAt
  rw [hs, AList.find?_cons, hroot]
  by_cases h : id = sl.hdr.id
  · subst h; simp
  · have h' : ¬ sl.hdr.id = id := fun e => h e.symm
    simp [h, h', AList.find?, hex]

/-- the root slab of an emptied array -/
def emptyRoot (a : Arr) : DataSlab :=
  { hdr := { id := a.rootID, count := 0, size := arrayRootDataSlabPrefixSize },
    next := SlabID.undef, elems := [], root := true, inlined := false }

/-- EMPTYING: after `PopIterate` and disposal of every element handed back, the storage holds, on
    the owner address, exactly the (empty) root slab: every index slab, data slab AND large-value
    slab the array used is gone. -/
theorem pop_then_dispose_leaves_only_root (c : Codec SSlab β) (hc : RoundTrip c) (T : Nat)
    (hT : legalThreshold T = true) (x : (Arr × Ctx) × St SSlab β) (hg : GoodD c T x) :
    let y := stepD c T x .popIterate
    ∀ id, id.addr = x.1.1.addr →
      y.2.view c id =
        if id = x.1.1.rootID then some (.tree (.data (emptyRoot x.1.1)) (some x.1.1.ty)) else none := by
  intro y id hid
  obtain ⟨g1, hview, _, _, _, _⟩ := heap_exact_step c hc T hT x hg .popIterate trivial
  rw [hview id hid]
  obtain ⟨⟨a, ctx⟩, s⟩ := x
  have hst : a.isInlined = false := hg.inv.standalone
  have ha' : (stepD c T ((a, ctx), s) .popIterate).1.1 = ⟨0, emptyRoot a, a.ty⟩ := by
    show (a.popIterate ctx).2.1 = _
    unfold Arr.popIterate emptyRoot
    simp [hst]
  have hlive : live (stepD c T ((a, ctx), s) .popIterate).1 id = none := by
    unfold live
    rw [if_neg]
    rw [ha']
    exact List.not_mem_nil
  rw [ha', stored_single _ _ _ _ hlive]
  rfl

/-! Non-vacuity.

A concrete history (T = 256, identity codec): four small appends (the root splits), a 5000-byte
value inserted (large-value slab 1.4), overwritten by another large value (1.5; 1.4 handed back and
disposed), the reference removed (1.5 disposed), one more large value (1.6), then `PopIterate`
(1.6 and the leaves disposed / removed). -/
section NonVacuity
open Atree.Example

def big (n : Nat) : Elem := ⟨5000, .val n⟩
theorem big_ok (n : Nat) : ValueOk (big n) := ⟨by show 1 ≤ 5000; decide, n, rfl⟩

def histD : List AOp :=
  [.append (elem 0), .append (elem 1), .append (elem 2), .append (elem 3),
   .insert 1 (big 7), .set 1 (big 8), .set 9 (big 5), .remove 1, .append (big 9), .popIterate]

theorem histD_ok : ∀ op ∈ histD, op.Ok := by
  intro op hop
  simp only [histD, List.mem_cons, List.not_mem_nil, or_false] at hop
  rcases hop with rfl | rfl | rfl | rfl | rfl | rfl | rfl | rfl | rfl | rfl <;>
    first | exact value_ok _ | exact big_ok _ | trivial

def xD (n : Nat) : (Arr × Ctx) × St SSlab SSlab := runD idCodec T0 (newS idCodec 1 0) (histD.take n)

/-- which ids of address 1 are visible, with their kind (1 data, 2 index, 3 large value) -/
def visible (s : St SSlab SSlab) (n : Nat) : List (Nat × Nat) :=
  ((List.range n).map (fun k => (k + 1, slabKind (s.view idCodec ⟨1, k + 1⟩)))).filter (fun p => p.2 != 0)

/-- after the insert of the first large value: index slab 1, leaves 2 and 3, large-value slab 4 -/
example : visible (xD 5).2 8 = [(1, 2), (2, 1), (3, 1), (4, 3)] ∧ (xD 5).1.1.refIds = [⟨1, 4⟩] := by decide +kernel
/-- after overwriting it: 4 is GONE (disposed), 5 is the live one -/
example : visible (xD 6).2 8 = [(1, 2), (2, 1), (3, 1), (5, 3)] ∧ (xD 6).1.1.refIds = [⟨1, 5⟩] := by decide +kernel
/-- a rejected request changes nothing -/
example : visible (xD 7).2 8 = [(1, 2), (2, 1), (3, 1), (5, 3)] := by decide +kernel
/-- after removing the reference: no large-value slab remains -/
example : visible (xD 8).2 8 = [(1, 2), (2, 1), (3, 1)] ∧ (xD 8).1.1.refIds = [] := by decide +kernel
example : visible (xD 9).2 8 = [(1, 2), (2, 1), (3, 1), (6, 3)] := by decide +kernel
/-- after `PopIterate` + disposal: only the root -/
example : visible (xD 10).2 8 = [(1, 1)] := by decide +kernel
/-- WITHOUT disposal (`E2E.runS`) the large-value slabs 4, 5, 6 all remain -/
example : visible (runS idCodec T0 (newS idCodec 1 0) histD).2 8 = [(1, 1), (4, 3), (5, 3), (6, 3)] := by decide +kernel

/-- the theorem instantiated on the history (its hypotheses hold) -/
example := heap_exact_after_disposal idCodec idCodec_roundTrip T0 legal 1 0 (by decide) (histD.take 9)
  (fun op hop => histD_ok op (List.mem_of_mem_take hop))
theorem xD9_good : GoodD idCodec T0 (xD 9) :=
  (goodD_runD idCodec idCodec_roundTrip T0 legal (histD.take 9) _
    (goodD_new idCodec idCodec_roundTrip T0 legal 1 0 (by decide))
    (fun op hop => histD_ok op (List.mem_of_mem_take hop))).1
example := pop_then_dispose_leaves_only_root idCodec idCodec_roundTrip T0 legal (xD 9) xD9_good
/-- what `live` is in that state -/
example : live (xD 9).1 ⟨1, 6⟩ = some (big 9) ∧ live (xD 9).1 ⟨1, 5⟩ = none ∧
    AList.find? (xD 9).1.2.created ⟨1, 5⟩ = some (big 8) := by decide +kernel

end NonVacuity

end Atree.E2ED

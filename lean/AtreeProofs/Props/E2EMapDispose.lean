import AtreeProofs.E2EMapDisposeSpec
import AtreeProofs.E2EMap.Dispose
import AtreeProofs.Props.E2EMapFull
import AtreeProofs.Props.C09MapRefs
/-
  E2EMapDispose - C09 / C02 for ordered maps, LARGE-VALUE SLABS INCLUDED: "after any history in
  which the caller disposes of every value the library hands back on removal or overwrite, the set
  of slabs in storage is exactly the set reachable from the live root containers ... and nothing
  else remains.  Emptying a container releases every auxiliary slab it used (..., external
  collision groups, large-value slabs)."

  `E2EM.map_rep_history` (no disposal step) has `extra` = every large-value slab EVER created.
  Here the caller disposes (`stepD` = `E2EM.stepS` + `storage.Remove(id)` for every `.ref id` handed
  back: `E2EMapDisposeSpec.lean`), and the storage's view on the owner's address is EXACTLY
      tree slabs (data, index, external collision groups) ∪ large-value slabs of the CURRENT pairs.
  Definitions: `E2EMapDisposeSpec.lean` (`stepD`, `runD`, `handedBack`, `live`, `MGoodD`),
  `MapRefs.lean` (`MRefsOk`); proofs: `E2EMap/Dispose.lean`, `Map/Refs.lean`.
-/
namespace Atree.E2EMD
open Atree Gen St
open Atree.E2EM (MSSlab MOp mstored)

variable {β : Type} {r : Nat}

/-- `live st id = some v` iff some pair of the map holds the value `.ref id` and `v` is what the
    reference resolves to in `ctx.created` -/
theorem live_iff (st : OMap r × Ctx) (id : SlabID) (v : Elem) :
    live st id = some v ↔ (∃ p ∈ st.1.toList, p.2.pay = .ref id) ∧ AList.find? st.2.created id = some v := by
  unfold live
  rw [← OMap.mem_refsOf]
  constructor
  · intro h
    split at h
    · rename_i hin; exact ⟨hin, h⟩
    · cases h
  · rintro ⟨h1, h2⟩
    rw [if_pos (show id ∈ st.1.refIds from h1)]; exact h2

/-- disposal does not touch the model: the map and its context after `stepD` are those of the
    request alone (so every container-level theorem - C02 dictionary answers, C05 invariants -
    applies to histories with disposal unchanged) -/
theorem stepD_model (c : Codec (MSSlab r) β) (cfg : MCfg) (x : (OMap r × Ctx) × St (MSSlab r) β) (op : MOp) :
    (stepD c cfg x op).1 = E2EM.stepM cfg x.1 op := rfl

theorem runD_model (c : Codec (MSSlab r) β) (cfg : MCfg) (x : (OMap r × Ctx) × St (MSSlab r) β)
    (ops : List MOp) : (runD c cfg x ops).1 = E2EM.runM cfg x.1 ops := runD_fst c cfg ops x

/-- EXACT HEAP, ONE STEP: from any state satisfying the invariant `MGoodD`, a request followed by
    the disposal of what it handed back gives a state satisfying `MGoodD` again: in particular
    (`MGoodD.rep.view`) for every id of the owner's address the storage's view is the stored form
    of the tree slab with that id, else the large-value slab referenced by a CURRENT pair, else
    nothing. -/
theorem heap_exact_step (c : Codec (MSSlab r) β) (hc : RoundTrip c) (T : Nat) (hT : legalThreshold T = true)
    (D : DigestFn (r + 1)) (cfg : MCfg) (x : (OMap r × Ctx) × St (MSSlab r) β)
    (hg : MGoodD c T D cfg x) (op : MOp) (hop : op.Ok T D) :
    let y := stepD c cfg x op
    MGoodD c T D cfg y ∧ y.1 = E2EM.stepM cfg x.1 op ∧ y.1.1.rootID = x.1.1.rootID ∧
    (∀ id, id.addr = x.1.1.addr → y.2.view c id = mstored y.1.1 (live y.1) id) := by
  intro y
  obtain ⟨h1, h2⟩ := mgoodD_stepD c hc T hT D cfg x hg op hop
  have hrid : y.1.1.rootID = x.1.1.rootID := (E2EM.mgood_stepS c hc T hT D cfg x hg.toMGood op hop).2
  refine ⟨h1, h2, hrid, ?_⟩
  intro id hid
  exact h1.rep.view id (by rw [hid]; unfold OMap.addr; rw [hrid])

/-- the same for a list of requests from any good state -/
theorem heap_exact_run (c : Codec (MSSlab r) β) (hc : RoundTrip c) (T : Nat) (hT : legalThreshold T = true)
    (D : DigestFn (r + 1)) (cfg : MCfg) (x : (OMap r × Ctx) × St (MSSlab r) β)
    (hg : MGoodD c T D cfg x) (ops : List MOp) (hops : ∀ op ∈ ops, op.Ok T D) :
    MGoodD c T D cfg (runD c cfg x ops) ∧ (runD c cfg x ops).1 = E2EM.runM cfg x.1 ops :=
  ⟨mgoodD_runD c hc T hT D cfg ops x hg hops, runD_fst c cfg ops x⟩

/-- EXACT HEAP AFTER DISPOSAL (maps).  For every list of requests (set / remove / popIterate /
    setType; keys of any digests, values of any size ≥ 1; refused requests change nothing) issued
    to a new map on an empty storage by a caller that disposes of every reference handed back,
    with `m`, `ctx`, `s` the final map, context and storage (the statement holds for every list,
    hence after every prefix):
    * the model state is the one of the requests alone (`runM`), the dictionary of resolved values
      follows the dictionary semantics of the history (`DictRun`, as in `E2EM.map_rep_history`),
    * `MapInv`, `MIdsOk`, `MRefsOk`, `CtxOk`, `MAddrOk`, the storage invariant `Inv`, the root id is
      the one allocated by `NewMap`,
    * for EVERY id of the owner's address: `s.view c id = mstored m (live (m, ctx)) id`, where
      `live id = some v` iff some pair of `m.toList` has the value `.ref id` and `v` is the value the
      reference resolves to: the view is the tree slabs (data, index, external groups) and the
      large-value slabs of the CURRENT pairs, exactly - nothing else remains;
    * every reference held by the map is live (its slab is in storage). -/
theorem heap_exact_after_disposal (c : Codec (MSSlab r) β) (hc : RoundTrip c) (T : Nat)
    (hT : legalThreshold T = true) (D : DigestFn (r + 1)) (cfg : MCfg) (hcT : cfg.T = T)
    (hcL : cfg.L = r + 1) (haddr : cfg.addr ≠ 0) (ty : Nat) (seedOf : SlabID → Nat)
    (ops : List MOp) (hops : ∀ op ∈ ops, op.Ok T D) :
    let x := runD c cfg (E2EM.newS c cfg.addr ty seedOf) ops
    let m := x.1.1
    let ctx := x.1.2
    let s := x.2
    x.1 = E2EM.runM cfg (OMap.new (r := r) cfg.addr ty seedOf ⟨0, [], []⟩) ops ∧
    E2EM.DictRun T D (fun _ => none) ops (E2EM.lookupR x.1) ∧
    MapInv T D m ∧ MIdsOk m ∧ MRefsOk m ctx.ctr ∧ CtxOk m ctx ∧ E2EM.MAddrOk m ∧ Inv c s ∧
    m.rootID = ⟨cfg.addr, 1⟩ ∧
    (∀ id, id.addr = cfg.addr → s.view c id = mstored m (live x.1) id) ∧
    (∀ id v, live x.1 id = some v ↔
      (∃ p ∈ m.toList, p.2.pay = .ref id) ∧ AList.find? ctx.created id = some v) ∧
    (∀ p ∈ m.toList, ∀ id, p.2.pay = .ref id → (live x.1 id).isSome) := by
  intro x m ctx s
  have g0 := mgoodD_new c hc T hT D cfg hcT hcL haddr ty seedOf
  have g := mgoodD_runD c hc T hT D cfg ops _ g0 hops
  have hx : x.1 = E2EM.runM cfg (OMap.new (r := r) cfg.addr ty seedOf ⟨0, [], []⟩) ops :=
    runD_fst c cfg ops _
  obtain ⟨hS, _, _, _, _, _, _, _, _, hdict, hrid, _, _⟩ :=
    E2EM.map_rep_history c hc T hT D cfg hcT hcL haddr ty seedOf ops hops
  rw [hS, ← hx] at hdict hrid
  have haddr' : m.addr = cfg.addr := by
    show x.1.1.rootID.addr = cfg.addr
    rw [hrid]
  refine ⟨hx, hdict, g.inv, g.ids, g.refs, g.ctx, g.aok, g.st, hrid, ?_, fun id v => live_iff x.1 id v, ?_⟩
  · intro id hid
    exact g.rep.view id (hid.trans haddr'.symm)
  · intro p hp id hpay
    have hin : id ∈ m.refIds := OMap.mem_refsOf.2 ⟨p, hp, hpay⟩
    show (live x.1 id).isSome
    unfold live
    rw [if_pos hin]
    exact g.nodang id hin

/-- EMPTYING A MAP RELEASES EVERYTHING: after `PopIterate` and the disposal of the references it
    handed back, the map is empty and the storage's view on the owner's address is exactly the
    (empty) root slab - every data slab, index slab, external collision group AND every
    large-value slab is gone. -/
theorem pop_then_dispose_leaves_only_root (c : Codec (MSSlab r) β) (hc : RoundTrip c) (T : Nat)
    (hT : legalThreshold T = true) (D : DigestFn (r + 1)) (cfg : MCfg)
    (x : (OMap r × Ctx) × St (MSSlab r) β) (hg : MGoodD c T D cfg x) :
    let y := stepD c cfg x .popIterate
    MGoodD c T D cfg y ∧ y.1.1.toList = [] ∧ y.1.1.rootID = x.1.1.rootID ∧
    y.2.view c x.1.1.rootID
      = some (.tree (.data (emptyRoot r x.1.1.rootID)) (some (x.1.1.ty, 0, x.1.1.seed))) ∧
    (∀ id, id.addr = x.1.1.addr → id ≠ x.1.1.rootID → y.2.view c id = none) := by
  intro y
  obtain ⟨h1, _, hrid, hview⟩ := heap_exact_step c hc T hT D cfg x hg .popIterate trivial
  have hinl : x.1.1.isInlined = false := hg.inv.standalone
  have hy : y.1.1 = ⟨0, emptyRoot r x.1.1.rootID, x.1.1.ty, 0, x.1.1.seed⟩ := by
    show (x.1.1.popIterate x.1.2).2.1 = _
    simp only [OMap.popIterate, hinl, emptyRoot]
    rfl
  have hrefs : y.1.1.refIds = [] := by
    show OMap.refsOf y.1.1.toList = []
    rw [hy]; rfl
  have hlive : ∀ id, live y.1 id = none := by
    intro id; simp [live, hrefs]
  have hslabs : MTree.slabs y.1.1.d y.1.1.root
      = [(x.1.1.rootID, .data (emptyRoot r x.1.1.rootID))] := by rw [hy]; rfl
  refine ⟨h1, by rw [hy]; rfl, hrid, ?_, ?_⟩
  · rw [hview _ rfl]
    have hs : y.1.1.slabAt x.1.1.rootID
        = some (.data (emptyRoot r x.1.1.rootID), some (x.1.1.ty, 0, x.1.1.seed)) := by
      unfold OMap.slabAt
      rw [hslabs, hrid]
      simp only [AList.find?, if_true, Option.map_some]
      rw [hy]
    rw [E2EM.mstored_of_some hs]
    rfl
  · intro id hid hne
    rw [hview id hid]
    have hs : y.1.1.slabAt id = none := by
      unfold OMap.slabAt
      rw [hslabs]
      simp [AList.find?, hne.symm]
    rw [E2EM.mstored_of_none hs, hlive]
    rfl

/-! Non-vacuity.

A short history on the example configuration of C09Map (two digest levels, T = 256, owner address
7), identity codec: a big value under key 111 (slab `7.2`), OVERWRITTEN by another big value (`7.3`
created, `7.2` handed back and disposed), a big value under key 222 (`7.4`), a small one under 333,
key 222 REMOVED (`7.4` handed back and disposed), a refused removal; then `PopIterate` (`7.3` handed
back and disposed). -/
section NonVacuity
open MapExample Atree.C09Map Atree.E2EM

def dhist : List MOp :=
  [.set (key 111) (big 1), .set (key 111) (big 2), .set (key 222) (big 3), .set (key 333) (val 3),
   .remove (key 222), .remove (key 12345)]

theorem dhist_ok : ∀ op ∈ dhist ++ [.popIterate], op.Ok 256 D2 := by
  intro op hop
  simp only [dhist, List.cons_append, List.nil_append, List.mem_cons, List.not_mem_nil, or_false] at hop
  rcases hop with rfl | rfl | rfl | rfl | rfl | rfl | rfl
  all_goals first
    | exact ⟨key_ok _, big_ok _⟩
    | exact ⟨key_ok _, val_ok _⟩
    | exact key_ok _
    | trivial

/-- the state after the history, with disposal … -/
def xD : (OMap 1 × Ctx) × St (MSSlab 1) (MSSlab 1) :=
  runD idCodecM cfg2 (newS idCodecM cfg2.addr 0 (fun id => id.idx)) dhist
/-- … and without -/
def xS : (OMap 1 × Ctx) × St (MSSlab 1) (MSSlab 1) :=
  runS idCodecM cfg2 (newS idCodecM cfg2.addr 0 (fun id => id.idx)) dhist

/-- the map: key 111 holds the reference `7.3`, key 333 a small value; three large-value slabs
    were created on the way -/
example : xD.1.1.toList.map (fun p => (p.1.pay, p.2.pay)) = [(111, .ref ⟨7, 3⟩), (333, .val 3)] := by decide +kernel
example : xD.1.2.created.map (·.1) = [⟨7, 2⟩, ⟨7, 3⟩, ⟨7, 4⟩] := by decide +kernel
example : xD.1.1.refIds = [⟨7, 3⟩] := by decide +kernel
/-- with disposal the slabs in storage are the root `7.1` and the live large-value slab `7.3` … -/
example : [1, 2, 3, 4, 5].map (fun i => (xD.2.view idCodecM ⟨7, i⟩).isSome) = [true, false, true, false, false] := by
  decide +kernel
/-- … without disposal `7.2` and `7.4` stay behind (what `E2EM.map_rep_history` describes) -/
example : [1, 2, 3, 4, 5].map (fun i => (xS.2.view idCodecM ⟨7, i⟩).isSome) = [true, true, true, true, false] := by
  decide +kernel
/-- the live function -/
example : [1, 2, 3, 4].map (fun i => (live xD.1 ⟨7, i⟩).isSome) = [false, false, true, false] := by decide +kernel

/-- `heap_exact_after_disposal` instantiated on this history -/
theorem xD_good : MGoodD idCodecM 256 D2 cfg2 xD :=
  mgoodD_runD idCodecM idCodecM_roundTrip 256 legal256 D2 cfg2 dhist _
    (mgoodD_new idCodecM idCodecM_roundTrip 256 legal256 D2 cfg2 rfl rfl (by decide) 0 _)
    (fun op hop => dhist_ok op (List.mem_append.2 (Or.inl hop)))
example := heap_exact_after_disposal idCodecM idCodecM_roundTrip 256 legal256 D2 cfg2 rfl rfl (by decide) 0
  (fun id => id.idx) dhist (fun op hop => dhist_ok op (List.mem_append.2 (Or.inl hop)))

/-- the exact-heap statement is not trivially true: the storage of the run WITHOUT disposal does not
    satisfy it (slab `7.2` is in storage but is neither a tree slab nor live) -/
example : (xS.2.view idCodecM ⟨7, 2⟩).isSome = true ∧ (mstored xS.1.1 (live xS.1) ⟨7, 2⟩).isSome = false := by
  decide +kernel

/-- then `PopIterate` + disposal: only the root is left (`pop_then_dispose_leaves_only_root`
    instantiated, and the same by evaluation) -/
def xP : (OMap 1 × Ctx) × St (MSSlab 1) (MSSlab 1) := stepD idCodecM cfg2 xD .popIterate
example := pop_then_dispose_leaves_only_root idCodecM idCodecM_roundTrip 256 legal256 D2 cfg2 xD xD_good
example : handedBack cfg2 xD.1 .popIterate = [val 3, ⟨19, .ref ⟨7, 3⟩⟩] := by decide +kernel
example : [1, 2, 3, 4, 5].map (fun i => (xP.2.view idCodecM ⟨7, i⟩).isSome) = [true, false, false, false, false] := by
  decide +kernel

end NonVacuity

end Atree.E2EMD

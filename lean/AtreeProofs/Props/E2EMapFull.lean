import AtreeProofs.E2EMap.HistoryFull
import AtreeProofs.Props.E2EMap
/-
  E2EMapFull — END-TO-END for ordered maps at FULL strength: the parts that
  `map_rep_history_partial` (`Props/E2EMap.lean`) leaves out.  The trace-level facts about
  large-value slabs and the allocation counter (array analogues: `E2E.insert_created_stored`,
  `E2E.set_created_stored`), and the history theorem in the shape of `E2E.rep_history`.
  Definitions: `AtreeProofs/E2EMapSpec.lean`, `AtreeProofs/E2EMap/Served.lean` (`specStepM`,
  `specTyM`) and `AtreeProofs/E2EMap/HistoryFull.lean` (`MGoodF`, `MRefsOk`, `MAllocSync`, `lookupR`,
  `DictStep`, `DictRun`); helpers: `AtreeProofs/E2EMap/Created.lean`.
-/
namespace Atree.E2EM
open Atree Gen St
open Atree.E2E (newEffs newEffs_of_log allocCount allocCount_eq)

variable {β : Type} {r : Nat}

/-- PRE-STORABLE.  `Set(k, v)` started in the context `c` is the same computation as `Set(k, v')`
    started in `c₁`, where `(v', c₁)` is the result of `Value.Storable(v)` in `c` (with the inline
    limit of the key `k`): the storage calls of `Value.Storable` come first, and the rest of the
    operation only sees the storable.  No hypothesis. -/
theorem map_set_pre_storable (cfg : MCfg) (m : OMap r) (k : MKey) (v : Elem) (c : Ctx) :
    m.set cfg k v c =
      m.set cfg k (toStorableLim (maxInlineMapValue cfg.T k.size) cfg.addr v c).1
        (toStorableLim (maxInlineMapValue cfg.T k.size) cfg.addr v c).2 :=
  omap_set_pre cfg m k v c

/-- CREATED SLABS ARE STORED (maps, `Set`).  Every large-value slab created by a successful `Set`
    is stored and never removed or overwritten later in the same operation (its last event in the
    operation's log is a store), is not a slab of the new map, has a fresh index, is owned by the
    map's address; what is created is exactly what `Value.Storable` creates; and the allocation
    counter advances by exactly the number of `GenerateSlabID(address)` events of the log. -/
theorem map_set_created_stored (T : Nat) (hT : legalThreshold T = true) (D : DigestFn (r + 1)) (cfg : MCfg)
    (m : OMap r) (hcfg : CfgOk cfg T m) (h : MapInv T D m) (hids : MIdsOk m) (k : MKey)
    (hk : KeyOk T (r + 1) D k) (v : Elem) (hv : ValueOkM v) (c : Ctx) (hc : CtxOk m c)
    (old : Option Elem) (m' : OMap r) (c' : Ctx) (hr : m.set cfg k v c = .ok (old, m', c')) :
    (∀ p ∈ c'.created.drop c.created.length,
      lastAction (newEffs c c') p.1 = some true ∧ (m'.slabAt p.1).isNone ∧ c.ctr < p.1.idx ∧
      p.1.idx ≤ c'.ctr ∧ p.1.addr = m.addr) ∧
    c'.created = (toStorableLim (maxInlineMapValue cfg.T k.size) cfg.addr v c).2.created ∧
    c'.ctr = c.ctr + allocCount m.addr (newEffs c c') := by
  obtain ⟨E, C, hlog, hcr, hal, hC⟩ := omap_set_created hT hcfg h hk hv c hc hids hr
  rw [newEffs_of_log hlog.toLog, hlog.created, List.drop_left, allocCount_eq]
  refine ⟨?_, hC, hal⟩
  intro p hp
  obtain ⟨h1, h2, h3, h4, h5⟩ := hcr p.1 (List.mem_map_of_mem hp)
  exact ⟨h1, (mslabAt_isNone m' p.1).2 h2, h3, h4, h5⟩

/-- `Remove` creates no large-value slab, and the allocation counter advances by exactly the number
    of `GenerateSlabID(address)` events of its log. -/
theorem map_remove_creates_nothing (T : Nat) (hT : legalThreshold T = true) (D : DigestFn (r + 1))
    (cfg : MCfg) (m : OMap r) (hcfg : CfgOk cfg T m) (h : MapInv T D m) (hids : MIdsOk m) (k : MKey)
    (hk : KeyOk T (r + 1) D k) (c : Ctx) (hc : CtxOk m c)
    (k0 : MKey) (v0 : Elem) (m' : OMap r) (c' : Ctx) (hr : m.remove cfg k c = .ok (k0, v0, m', c')) :
    c'.created = c.created ∧ c'.ctr = c.ctr + allocCount m.addr (newEffs c c') := by
  obtain ⟨E, hlog, hal⟩ := omap_remove_created hT hcfg h hk c hc hids hr
  rw [newEffs_of_log hlog.toLog, allocCount_eq]
  exact ⟨by rw [hlog.created]; simp, hal⟩

/-- `PopIterate` only removes slabs of the map (never a large-value slab), then stores the root;
    it creates nothing and allocates nothing. -/
theorem map_pop_removes_own_slabs (T : Nat) (D : DigestFn (r + 1)) (m : OMap r) (c : Ctx)
    (hinv : MapInv T D m) :
    ∃ E, (m.popIterate c).2.2.eff = c.eff ++ E ++ [.store m.rootID] ∧
      (∀ x ∈ E, ∃ i, x = Eff.remove i ∧ (m.slabAt i).isSome) ∧
      (m.popIterate c).2.2.created = c.created ∧ (m.popIterate c).2.2.ctr = c.ctr := by
  obtain ⟨E, h1, h2⟩ := omap_pop_foot m c hinv
  obtain ⟨h3, h4⟩ := omap_popKeep m c
  refine ⟨E, h1, fun x hx => ?_, h4, h3⟩
  obtain ⟨i, hi, hm⟩ := h2 x hx
  refine ⟨i, hi, ?_⟩
  rw [mslabAt_isSome, mslabs_eq, AList.keys_cons]
  exact List.mem_cons_of_mem _ hm

/-- REP HISTORY (maps, full).  For every list of requests (set / remove / popIterate / setType;
    keys of any digests – the digest function `D` is arbitrary –, values of any size ≥ 1; rejected
    requests change nothing), starting from `NewMap` on an empty storage, at every point (the
    statement holds for every list, hence for every prefix):
    * the state is the one of the map model alone (`runM`),
    * the map invariant `MapInv` (C05Map) holds, all slab IDs (data slabs, index slabs, external
      collision groups) are distinct (`MIdsOk`), below the counter (`CtxOk`) and owned by the
      map's address (`MAddrOk`),
    * the storage represents the map (`MRep`): on the owner's address the view is exactly the
      stored forms of the slabs of the map plus ALL large-value slabs created so far,
    * the storage invariant `Inv` (C15) holds and the storage's allocation counter agrees with the
      map model's (the IDs `Ctx.alloc` hands out are the ones `GenerateSlabID` generates),
    * no value of the map is a dangling reference to a large-value slab,
    * the dictionary of resolved values follows the dictionary semantics of the history
      (`DictRun`: every request is carried out on the dictionary, except that a `Set` of a NEW
      key may be refused – collision limit, C12 – and then changes nothing),
    * the root ID is the one allocated by `NewMap`, the type info is the last one set, the seed
      is the one chosen by `NewMap`. -/
theorem map_rep_history (c : Codec (MSSlab r) β) (hc : RoundTrip c) (T : Nat)
    (hT : legalThreshold T = true) (D : DigestFn (r + 1)) (cfg : MCfg) (hcT : cfg.T = T)
    (hcL : cfg.L = r + 1) (haddr : cfg.addr ≠ 0) (ty : Nat) (seedOf : SlabID → Nat)
    (ops : List MOp) (hops : ∀ op ∈ ops, op.Ok T D) :
    let x := runS c cfg (newS c cfg.addr ty seedOf) ops
    let m := x.1.1
    let ctx := x.1.2
    let s := x.2
    x.1 = runM cfg (OMap.new (r := r) cfg.addr ty seedOf ⟨0, [], []⟩) ops ∧
    MapInv T D m ∧ MIdsOk m ∧ CtxOk m ctx ∧ MAddrOk m ∧
    MRep c s m (AList.find? ctx.created) ctx.ctr ∧
    Inv c s ∧ MAllocSync s cfg.addr ctx.ctr ∧
    (∀ p ∈ m.toList, ∀ y, p.2.pay = .ref y → (AList.find? ctx.created y).isSome) ∧
    DictRun T D (fun _ => none) ops (lookupR x.1) ∧
    m.rootID = ⟨cfg.addr, 1⟩ ∧ m.ty = specTyM ty ops ∧ m.seed = seedOf ⟨cfg.addr, 1⟩ := by
  intro x m ctx s
  obtain ⟨g0, r0, t0, s0, l0⟩ := mgoodF_new c hc T hT D cfg hcT hcL haddr ty seedOf
  obtain ⟨g, d1, r1, t1, s1⟩ := mgoodF_runS c hc T hT D cfg ops _ g0 hops
  have haddr' : m.addr = cfg.addr := by
    show x.1.1.rootID.addr = cfg.addr
    rw [r1, r0]
  have hl0 : lookupR (newS c cfg.addr ty seedOf).1 = fun _ => none := funext l0
  refine ⟨runS_fst c cfg ops _, g.inv, g.ids, g.ctx, g.aok, g.rep, g.st, ?_, g.refs, by rw [← hl0]; exact d1,
    r1.trans r0, by rw [t1, t0], s1.trans s0⟩
  have := g.sync
  rw [haddr'] at this
  exact this

/-- The same from ANY state satisfying the full invariant `MGoodF` (e.g. the state after a
    commit): the invariant is kept and the dictionary follows the requests. -/
theorem map_rep_run_full (c : Codec (MSSlab r) β) (hc : RoundTrip c) (T : Nat) (hT : legalThreshold T = true)
    (D : DigestFn (r + 1)) (cfg : MCfg) (x : (OMap r × Ctx) × St (MSSlab r) β)
    (hg : MGoodF c T D cfg x) (ops : List MOp) (hops : ∀ op ∈ ops, op.Ok T D) :
    MGoodF c T D cfg (runS c cfg x ops) ∧
    DictRun T D (lookupR x.1) ops (lookupR (runS c cfg x ops).1) ∧
    (runS c cfg x ops).1.1.rootID = x.1.1.rootID ∧
    (runS c cfg x ops).1.1.ty = specTyM x.1.1.ty ops ∧ (runS c cfg x ops).1.1.seed = x.1.1.seed :=
  mgoodF_runS c hc T hT D cfg ops x hg hops

/-- ONE REQUEST: the refinement statement behind `DictRun` (C02 `set_refines`, `remove_refines`,
    `pop_refines` through the resolution of references). -/
theorem map_step_dict (c : Codec (MSSlab r) β) (hc : RoundTrip c) (T : Nat) (hT : legalThreshold T = true)
    (D : DigestFn (r + 1)) (cfg : MCfg) (x : (OMap r × Ctx) × St (MSSlab r) β)
    (hg : MGoodF c T D cfg x) (op : MOp) (hop : op.Ok T D) :
    (∀ k', KeyOk T (r + 1) D k' → lookupR (stepS c cfg x op).1 k' = specStepM (lookupR x.1) op k') ∨
    ((∃ k v, op = .set k v ∧ lookupR x.1 k = none) ∧ ∀ k', lookupR (stepS c cfg x op).1 k' = lookupR x.1 k') :=
  (mgoodF_stepS c hc T hT D cfg x hg op hop).2.1

/-- the full invariant is the partial one plus … : every theorem of `Props/E2EMap.lean` stated for
    `MGood` applies -/
theorem mgoodF_is_mgood (c : Codec (MSSlab r) β) (T : Nat) (D : DigestFn (r + 1)) (cfg : MCfg)
    (x : (OMap r × Ctx) × St (MSSlab r) β) (hg : MGoodF c T D cfg x) : MGood c T D cfg x := hg.toMGood

/-! Non-vacuity.

The history `mhist` of `Props/E2EMap.lean` (two digest levels, T = 256, collision limit 1; 19 `set`s
and one `remove`, then a value of 5000 bytes – a large-value slab –, a rejected removal and
`SetType`) run against the storage state machine with the identity codec. -/
section NonVacuity
open MapExample

/-- `map_rep_history` instantiated -/
example := map_rep_history idCodecM idCodecM_roundTrip 256 legal256 D2 cfg2 rfl rfl (by decide) 0
  (fun id => id.idx) mhist mhist_ok

/-- the full invariant holds after the history -/
theorem xM_goodF : MGoodF idCodecM 256 D2 cfg2 xM :=
  (mgoodF_runS idCodecM idCodecM_roundTrip 256 legal256 D2 cfg2 mhist _
    (mgoodF_new idCodecM idCodecM_roundTrip 256 legal256 D2 cfg2 rfl rfl (by decide) 0 _).1 mhist_ok).1

/-- … and by evaluation: one large-value slab (7.5) is live, the counters agree (5 = 5), the value
    of key 999 resolves to the 5000-byte value, the removed key 411 is absent, the type is 9 -/
example : xM.1.2.created = [(⟨7, 5⟩, ⟨5000, .val 7⟩)] ∧
    (AList.find? xM.2.alloc 7).getD 0 = 5 ∧ xM.1.2.ctr = 5 ∧
    lookupR xM.1 (key 999) = some ⟨5000, .val 7⟩ ∧ lookupR xM.1 (key 411) = none ∧
    lookupR xM.1 (key 211) = some (val 1) ∧ xM.1.1.ty = specTyM 0 mhist ∧ specTyM 0 mhist = 9 := by
  rw [xM_eq]; decide +kernel
/-- the stored value of key 999 is a reference, and the storage holds the value under it -/
example : dictLookup xM.1.1.toList (key 999) = some ⟨19, .ref ⟨7, 5⟩⟩ ∧
    (match xM.2.view idCodecM ⟨7, 5⟩ with | some (.large v) => some v | _ => none) = some ⟨5000, .val 7⟩ := by
  rw [xM_eq]; decide +kernel
/-- `MRep` with `find? created` is not trivially true: without the large-value slab it fails -/
example : ¬ MRep idCodecM xM.2 xM.1.1 (fun _ => none) xM.1.2.ctr := by
  intro h
  have h1 := h.view ⟨7, 5⟩ xM_good.cfg.2.2
  have h2 : (xM.2.view idCodecM ⟨7, 5⟩).isSome = true := by rw [xM_eq]; decide +kernel
  have h3 : (xM.1.1.slabAt ⟨7, 5⟩).isSome = false := by rw [xM_eq]; decide +kernel
  rw [h1] at h2
  cases hs : xM.1.1.slabAt ⟨7, 5⟩ with
  | some p => rw [hs] at h3; cases h3
  | none => rw [mstored_of_none hs] at h2; cases h2

/-- the state before the `Set` of the large value -/
def x20 : (OMap 1 × Ctx) × St (MSSlab 1) (MSSlab 1) :=
  runS idCodecM cfg2 (newS idCodecM cfg2.addr 0 (fun id => id.idx)) (mhist.take 20)
theorem x20_goodF : MGoodF idCodecM 256 D2 cfg2 x20 :=
  (mgoodF_runS idCodecM idCodecM_roundTrip 256 legal256 D2 cfg2 (mhist.take 20) _
    (mgoodF_new idCodecM idCodecM_roundTrip 256 legal256 D2 cfg2 rfl rfl (by decide) 0 _).1
    (fun op hop => mhist_ok op (List.mem_of_mem_take hop))).1

/-- `map_set_created_stored` / `map_set_pre_storable` on that `Set`, and the same by evaluation:
    the log is `alloc 7.5, store 7.5, store 7.4, store 7.1`: the created slab 7.5 is stored first
    and not touched again, one allocation, counter 4 → 5 -/
example (old : Option Elem) (m' : OMap 1) (c' : Ctx)
    (hr : x20.1.1.set cfg2 (key 999) ⟨5000, .val 7⟩ x20.1.2 = .ok (old, m', c')) :=
  map_set_created_stored 256 legal256 D2 cfg2 x20.1.1 x20_goodF.cfg x20_goodF.inv x20_goodF.ids (key 999)
    (key_ok _) ⟨5000, .val 7⟩ ⟨by decide, 7, rfl⟩ x20.1.2 x20_goodF.ctx old m' c' hr
example := map_set_pre_storable cfg2 x20.1.1 (key 999) ⟨5000, .val 7⟩ x20.1.2
def stepInfo (c : Ctx) (res : Except MErr (Option Elem × OMap 1 × Ctx)) : List Eff × List SlabID × Nat × Nat :=
  match res with
  | .ok (_, _, c') => (E2E.newEffs c c', c'.created.map (·.1), c.ctr, c'.ctr)
  | .error _ => ([], [], 0, 0)
example : stepInfo x20.1.2 (x20.1.1.set cfg2 (key 999) ⟨5000, .val 7⟩ x20.1.2)
    = ([.alloc 7 ⟨7, 5⟩, .store ⟨7, 5⟩, .store ⟨7, 4⟩, .store ⟨7, 1⟩], [⟨7, 5⟩], 4, 5) := by decide +kernel
/-- the pre-storable form: from the context after `Value.Storable`, with the reference as value -/
example : (toStorableLim (maxInlineMapValue cfg2.T (key 999).size) cfg2.addr ⟨5000, .val 7⟩ x20.1.2).1
    = ⟨19, .ref ⟨7, 5⟩⟩ := by decide +kernel

/-- `map_remove_creates_nothing` on the removal of key 411 (13th request) -/
def x12 : (OMap 1 × Ctx) × St (MSSlab 1) (MSSlab 1) :=
  runS idCodecM cfg2 (newS idCodecM cfg2.addr 0 (fun id => id.idx)) (mhist.take 12)
theorem x12_goodF : MGoodF idCodecM 256 D2 cfg2 x12 :=
  (mgoodF_runS idCodecM idCodecM_roundTrip 256 legal256 D2 cfg2 (mhist.take 12) _
    (mgoodF_new idCodecM idCodecM_roundTrip 256 legal256 D2 cfg2 rfl rfl (by decide) 0 _).1
    (fun op hop => mhist_ok op (List.mem_of_mem_take hop))).1
example (k0 : MKey) (v0 : Elem) (m' : OMap 1) (c' : Ctx)
    (hr : x12.1.1.remove cfg2 (key 411) x12.1.2 = .ok (k0, v0, m', c')) :=
  map_remove_creates_nothing 256 legal256 D2 cfg2 x12.1.1 x12_goodF.cfg x12_goodF.inv x12_goodF.ids (key 411)
    (key_ok _) x12.1.2 x12_goodF.ctx k0 v0 m' c' hr
example : (match x12.1.1.remove cfg2 (key 411) x12.1.2 with
    | .ok (_, v0, _, c') => some (v0, c'.created, c'.ctr == x12.1.2.ctr)
    | .error _ => none) = some (val 10, [], true) := by decide +kernel

/-- a REFUSED `Set` (second branch of `DictStep`): a new key colliding with a full first-level
    group is refused by the collision limit (1), and nothing changes -/
example : (match xM.1.1.set cfg2 (key 315) (val 1) xM.1.2 with | .error e => some e | .ok _ => none)
    = some .collisionLimit ∧ lookupR xM.1 (key 315) = none ∧
    (stepS idCodecM cfg2 xM (.set (key 315) (val 1))).1.2.eff = xM.1.2.eff := by rw [xM_eq]; decide +kernel
example := map_step_dict idCodecM idCodecM_roundTrip 256 legal256 D2 cfg2 xM xM_goodF
  (.set (key 315) (val 1)) ⟨key_ok _, val_ok _⟩

/-- `map_pop_removes_own_slabs` / `map_rep_run_full` on the continuation `mlater` (empties the map) -/
example := map_pop_removes_own_slabs 256 D2 xM.1.1 xM.1.2 xM_goodF.inv
example := map_rep_run_full idCodecM idCodecM_roundTrip 256 legal256 D2 cfg2 xM xM_goodF mlater
  (by intro op hop
      simp only [mlater, List.mem_cons, List.not_mem_nil, or_false] at hop
      rcases hop with rfl | rfl
      · trivial
      · exact ⟨key_ok _, val_ok _⟩)
/-- after `PopIterate` the large-value slab 7.5 is still in the storage (the caller owns it) -/
example : ((stepS idCodecM cfg2 xM .popIterate).2.view idCodecM ⟨7, 5⟩).isSome = true ∧
    ((stepS idCodecM cfg2 xM .popIterate).2.view idCodecM ⟨7, 3⟩).isSome = false := by
  rw [xM_eq]; decide +kernel

/-- every theorem of `Props/E2EMap.lean` applies: commit, reopen, load = identity with the full
    representation -/
example := map_commit_reopen_identity idCodecM idCodecM_roundTrip 256 legal256 D2 xM.2 xM.1.1 _ _ xM_goodF.inv
  xM_goodF.ids xM_goodF.aok xM_good.addr xM_goodF.rep xM_goodF.st (idCodecM_noEncodeFailure _) .det [] []
  _ (map_retrieve_is_fetch idCodecM) 2 xM_d

end NonVacuity

end Atree.E2EM

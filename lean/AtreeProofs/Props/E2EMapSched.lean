import AtreeProofs.Props.E2EMapBytes
import AtreeProofs.Props.C08
/-
  E2EMapSched — E2E (maps) composed with C08: the map read back through the storage does not depend
  on maintenance actions (fault-free commits of either kind, cache drops, commit-and-reopen: C08
  `Maint`) applied after a history, nor on cache drops / preloads / other reads interleaved with the
  slab fetches of the load itself (`fetchWith`).  Abstract codec (`map_load_under_schedules`), and
  the byte codec along histories with NO codec hypothesis (`map_bytes_load_under_schedules`).
-/
namespace Atree.E2EM
open Atree Atree.Codec Gen St

variable {r : Nat}

section generic
variable {σ β : Type}

/-- One maintenance action (C08) on a storage whose pending slabs are encodable – WITHOUT assuming a
    total encoder (C08 `applyMaint_keeps` assumes one): the invariant and encodability of the pending
    slabs are kept, and every owned identifier reads the same (`C08.reload_is_identity`). -/
theorem applyMaint_keeps_rep (c : Codec σ β) (hc : RoundTrip c) (s : St σ β) (hI : Inv c s)
    (hne : NoEncodeFailure c s) (m : C08.Maint) :
    Inv c (C08.applyMaint c s m) ∧ NoEncodeFailure c (C08.applyMaint c s m) ∧
    ∀ id, id.isTemp = false → (C08.applyMaint c s m).view c id = s.view c id := by
  refine ⟨?_, ?_, fun id hid => C08.reload_is_identity c hc s hI hne m id hid⟩
  · cases m with
    | commit kind mo dlo =>
      rw [C08.applyMaint_commit_eq]
      exact (commitW_spec c hc kind (fun _ => false) mo dlo s hI).1
    | dropCache => exact inv_dropCache c s hI
    | commitAndReopen =>
      obtain ⟨h1, _, _⟩ := commitW_spec c hc .det (fun _ => false) [] [] s hI
      exact inv_setCounters c _ (inv_fresh c _ h1) _ _
  · cases m with
    | commit kind mo dlo =>
      rw [C08.applyMaint_commit_eq]
      exact (commitW_spec c hc kind (fun _ => false) mo dlo s hI).2.1.noEncodeFailure hne
    | dropCache => exact fun id v hv => hne id v hv
    | commitAndReopen =>
      intro id v hv
      simp [C08.applyMaint, St.fresh] at hv

theorem foldl_applyMaint_keeps_rep (c : Codec σ β) (hc : RoundTrip c) (ms : List C08.Maint) :
    ∀ (s : St σ β), Inv c s → NoEncodeFailure c s →
    Inv c (ms.foldl (C08.applyMaint c) s) ∧ NoEncodeFailure c (ms.foldl (C08.applyMaint c) s) ∧
    ∀ id, id.isTemp = false → (ms.foldl (C08.applyMaint c) s).view c id = s.view c id := by
  induction ms with
  | nil => intro s hI hne; exact ⟨hI, hne, fun _ _ => rfl⟩
  | cons m ms ih =>
    intro s hI hne
    obtain ⟨h1, h2, h3⟩ := applyMaint_keeps_rep c hc s hI hne m
    obtain ⟨g1, g2, g3⟩ := ih _ h1 h2
    exact ⟨g1, g2, fun id hid => (g3 id hid).trans (h3 id hid)⟩

end generic

variable {β : Type}

/-- SCHEDULE INDEPENDENCE OF THE LOADED MAP (C08 at container level, maps).  If the storage represents
    the map `m` and its pending slabs are encodable, then after ANY sequence of maintenance actions
    (fault-free commits of either kind with any worker orders, cache drops, commit-and-reopen), loading
    the map from its root ID – every slab fetch preceded by arbitrary read-only operations (cache
    drops, preloads, other reads) chosen by an arbitrary schedule – returns exactly `m`, and the
    storage still represents `m`. -/
theorem map_load_under_schedules (c : Codec (MSSlab r) β) (hc : RoundTrip c) (T : Nat)
    (hT : legalThreshold T = true) (D : DigestFn (r + 1)) (s : St (MSSlab r) β) (m : OMap r)
    (extra : SlabID → Option Elem) (ctr : Nat) (hinv : MapInv T D m) (hids : MIdsOk m)
    (haok : MAddrOk m) (hne0 : m.addr ≠ 0) (hrep : MRep c s m extra ctr) (hI : Inv c s)
    (henc : NoEncodeFailure c s) (ms : List C08.Maint)
    (sched : St (MSSlab r) β → SlabID → List (Op (MSSlab r))) (fuel : Nat) (hfuel : m.d < fuel) :
    ∃ s', loadMapSt (fetchWith c sched) (ms.foldl (C08.applyMaint c) s) m.rootID fuel = .ok (some m, s') ∧
      MRep c s' m extra ctr ∧ Inv c s' := by
  obtain ⟨g1, _, g3⟩ := foldl_applyMaint_keeps_rep c hc ms s hI henc
  have hrep' : MRep c (ms.foldl (C08.applyMaint c) s) m extra ctr :=
    ⟨fun id hid => by rw [g3 id (E2E.isTemp_of_addr hid hne0)]; exact hrep.view id hid, hrep.extra_fresh⟩
  obtain ⟨s', h1, h2, h3, _⟩ := map_load_from_storage c T hT D _ m extra ctr hinv hids haok hrep' g1
    (fetchWith c sched) (map_scheduled_retrieve_is_fetch c sched) fuel hfuel
  exact ⟨s', h1, h2, h3⟩

/-- THE SAME AT BYTE LEVEL, ALONG HISTORIES.  After any history of map requests with encodable keys and
    values run with the byte codec, any maintenance actions, and any read-only schedule during the
    load: `DecodeSlab` on whatever the slabs are served from (write set, cache, ledger registers)
    rebuilds exactly the map.  No hypothesis on the codec. -/
theorem map_bytes_load_under_schedules (T : Nat) (hT : legalThreshold T = true) (D : DigestFn (r + 1))
    (cfg : MCfg) (hcT : cfg.T = T) (hcL : cfg.L = r + 1) (haddr : cfg.addr ≠ 0) (ty : Nat) (hty : ty < 2 ^ 64)
    (seedOf : SlabID → Nat) (ops : List MOp) (hops : ∀ op ∈ ops, op.Ok T D) (henc : ∀ op ∈ ops, op.Enc)
    (hw : MWidths D (runB D cfg ty seedOf ops).1) (ms : List C08.Maint)
    (sched : St (MSSlab r) (SlabID × Bytes) → SlabID → List (Op (MSSlab r))) (fuel : Nat) :
    let x := runB D cfg ty seedOf ops
    x.1.1.d < fuel →
    ∃ s', loadMapSt (fetchWith (keyedCodecM D) sched) (ms.foldl (C08.applyMaint (keyedCodecM D)) x.2)
        ⟨cfg.addr, 1⟩ fuel = .ok (some x.1.1, s') ∧
      MRep (keyedCodecM D) s' x.1.1 (AList.find? x.1.2.created) x.1.2.ctr := by
  intro x hfuel
  obtain ⟨g, hroot⟩ := runB_good T hT D cfg hcT hcL haddr ty seedOf ops hops
  have hne := map_bytes_history_no_encode_failure T hT D cfg hcT hcL haddr ty hty seedOf ops hops henc hw
  obtain ⟨s', h1, h2, _⟩ := map_load_under_schedules (keyedCodecM D) (keyedCodecM_roundTrip D) T hT D x.2 x.1.1 _ _
    g.inv g.ids g.aok g.addr g.rep g.st hne ms sched fuel hfuel
  have hroot' : x.1.1.rootID = ⟨cfg.addr, 1⟩ := hroot
  rw [hroot'] at h1
  exact ⟨s', h1, h2⟩

section NonVacuity
open MapExample

/-- commit, drop the cache, commit-and-reopen, drop the cache again; and before every slab fetch of
    the load: drop the cache and preload the slab (and the root) -/
def msB : List C08.Maint := [.commit .nondet [⟨7, 3⟩] [], .dropCache, .commitAndReopen, .dropCache]
def schedB : St (MSSlab 1) (SlabID × Bytes) → SlabID → List (Op (MSSlab 1)) :=
  fun _ id => [.dropCache, .preload [id, ⟨7, 1⟩], .store ⟨7, 9⟩ (.large (val 1))]

example := map_bytes_load_under_schedules 256 legal256 D2 cfg2 rfl rfl (by decide) 0 (by decide)
  (fun id => id.idx) mhistB mhistB_ok mhistB_enc xB_widths msB schedB 2 xB_d

/-- by evaluation: the storage after the maintenance actions serves everything from the ledger (no
    pending slab, five registers), and the scheduled load returns the map (the `store` in the
    schedule is not read-only and is filtered out) -/
def maintainedB : St (MSSlab 1) (SlabID × Bytes) := msB.foldl (C08.applyMaint (keyedCodecM D2)) xB.2
set_option maxRecDepth 100000 in
example : maintainedB.deltas = [] ∧ maintainedB.cache = [] ∧ maintainedB.base.length = 5 := by
  rw [maintainedB, xB_eq]; decide +kernel
set_option maxRecDepth 100000 in
example : msummaryRB (loadMapSt (fetchWith (keyedCodecM D2) schedB) maintainedB ⟨7, 1⟩ 2)
    = some (msummary xB.1.1) := by rw [maintainedB, xB_eq]; decide +kernel
-- the live storage (nothing committed: everything pending) gives the same
set_option maxRecDepth 100000 in
example : msummaryRB (loadMapSt (fetchWith (keyedCodecM D2) schedB) xB.2 ⟨7, 1⟩ 2)
    = some (msummary xB.1.1) := by rw [xB_eq]; decide +kernel
example := map_load_under_schedules idCodecM idCodecM_roundTrip 256 legal256 D2 xM.2 xM.1.1 _ _ xM_goodF.inv
  xM_goodF.ids xM_goodF.aok xM_good.addr xM_goodF.rep xM_goodF.st (idCodecM_noEncodeFailure _)
  [.dropCache, .commitAndReopen] (fun _ id => [.preload [id]]) 2 xM_d

end NonVacuity

end Atree.E2EM

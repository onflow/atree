import AtreeProofs.Props.E2ESched
/-
  E2EMapSchedHist — C08 at container level, MAPS, ALONG HISTORIES (the map analogue of
  `Props/E2ESched.lean`): maintenance actions of the storage (fault-free commits of
  either kind, cache drops, commit-and-reopen: `C08.Maint`) inserted BEFORE EVERY map request do not
  change anything a client can see.

  The encoder is NOT assumed total: the generic statements assume `MEncAlong` (the slabs of the map
  model can be encoded at every point of the history: a hypothesis on the schedule-independent map
  model); for the byte codec it follows from `op.Enc` and the field-width bounds `MWidths` at every
  point of the history (widths are not monotone: a map can shrink, so the bound on the final state does
  not imply the bounds on the way).
-/
namespace Atree.E2EM
open Atree Atree.Codec Gen St

variable {r : Nat} {β : Type}

/-- ONE MAINTENANCE ACTION KEEPS THE HISTORY INVARIANT (maps).  If the state of a history is `MGoodF`
    and its pending slabs can be encoded, then after a fault-free commit of either kind (any worker
    orders), a cache drop, or a commit followed by reopening the storage from the ledger, the state is
    still `MGoodF` – for the SAME map model – and its pending slabs can still be encoded. -/
theorem mgood_applyMaint (c : Codec (MSSlab r) β) (hc : RoundTrip c) (T : Nat) (D : DigestFn (r + 1))
    (cfg : MCfg) (x : (OMap r × Ctx) × St (MSSlab r) β) (hg : MGoodF c T D cfg x)
    (hne : NoEncodeFailure c x.2) (m : C08.Maint) :
    MGoodF c T D cfg (x.1, C08.applyMaint c x.2 m) ∧ NoEncodeFailure c (C08.applyMaint c x.2 m) :=
  have ⟨h1, h2, h3⟩ := mgoodF_iff.1 hg
  have h := h2.maint c hc hne [m]
  ⟨mgoodF_iff.2 ⟨h1, h.1, h3⟩, h.2⟩

/-- … and so does any list of maintenance actions. -/
theorem mgood_foldl_applyMaint (c : Codec (MSSlab r) β) (hc : RoundTrip c) (T : Nat) (D : DigestFn (r + 1))
    (cfg : MCfg) (ms : List C08.Maint) :
    ∀ (x : (OMap r × Ctx) × St (MSSlab r) β), MGoodF c T D cfg x → NoEncodeFailure c x.2 →
    MGoodF c T D cfg (x.1, ms.foldl (C08.applyMaint c) x.2) ∧
    NoEncodeFailure c (ms.foldl (C08.applyMaint c) x.2) :=
  fun _ hg hne =>
    have ⟨h1, h2, h3⟩ := mgoodF_iff.1 hg
    have h := h2.maint c hc hne ms
    ⟨mgoodF_iff.2 ⟨h1, h.1, h3⟩, h.2⟩

/-- One request, preceded by the maintenance actions `p.1` on the storage. -/
def stepSM (c : Codec (MSSlab r) β) (cfg : MCfg) (x : (OMap r × Ctx) × St (MSSlab r) β)
    (p : List C08.Maint × MOp) : (OMap r × Ctx) × St (MSSlab r) β :=
  stepS c cfg (x.1, p.1.foldl (C08.applyMaint c) x.2) p.2

/-- A history of requests, each preceded by its own list of maintenance actions. -/
def runSM (c : Codec (MSSlab r) β) (cfg : MCfg) (x : (OMap r × Ctx) × St (MSSlab r) β)
    (l : List (List C08.Maint × MOp)) : (OMap r × Ctx) × St (MSSlab r) β := l.foldl (stepSM c cfg) x

/-- every slab the map model puts into the storage can be encoded -/
def MStoredEnc (c : Codec (MSSlab r) β) (st : OMap r × Ctx) : Prop :=
  ∀ id v, contentOf st id = some v → (c.enc v).isSome

/-- NO ENCODE FAILURE ALONG THE RUN (maps): a statement about the map model only (`runM`). -/
def MEncAlong (c : Codec (MSSlab r) β) (cfg : MCfg) (st : OMap r × Ctx) (ops : List MOp) : Prop :=
  ∀ k, MStoredEnc c (runM cfg st (ops.take k))

theorem noEncodeFailure_of_mstoredEnc (c : Codec (MSSlab r) β) (T : Nat) (D : DigestFn (r + 1)) (cfg : MCfg)
    (x : (OMap r × Ctx) × St (MSSlab r) β) (hg : MGoodF c T D cfg x) (he : MStoredEnc c x.1) :
    NoEncodeFailure c x.2 :=
  (mgoodF_iff.1 hg).2.1.noEncodeFailure fun id v hv =>
    he id v (show mstored x.1.1 (AList.find? x.1.2.created) id = some v from mstored_cview x.1.1 ▸ hv)

/-- ANY HISTORY WITH ANY MAINTENANCE SCHEDULE keeps the invariant; its map model is the one of the
    maintenance-free run (`runM`). -/
theorem mgood_runSM (c : Codec (MSSlab r) β) (hc : RoundTrip c) (T : Nat) (hT : legalThreshold T = true)
    (D : DigestFn (r + 1)) (cfg : MCfg) :
    ∀ (l : List (List C08.Maint × MOp)) (x : (OMap r × Ctx) × St (MSSlab r) β), MGoodF c T D cfg x →
      (∀ p ∈ l, p.2.Ok T D) → MEncAlong c cfg x.1 (l.map (·.2)) →
      MGoodF c T D cfg (runSM c cfg x l) ∧ (runSM c cfg x l).1 = runM cfg x.1 (l.map (·.2)) ∧
      NoEncodeFailure c (runSM c cfg x l).2 :=
  fun l x hg hok he =>
    E2E.runSM_spec c (stepS c cfg) (stepM cfg) (MGoodF c T D cfg) (MOp.Ok T D) (MStoredEnc c) (fun _ _ => rfl)
      (noEncodeFailure_of_mstoredEnc c T D cfg)
      (fun ms x hg hne => (mgood_foldl_applyMaint c hc T D cfg ms x hg hne).1)
      (fun x op hg hop => (mgoodF_stepS c hc T hT D cfg x hg op hop).1) l x hg hok he

/-- SCHEDULE INDEPENDENCE ALONG HISTORIES (C08 at container level, maps).  Take any history of map
    requests from `NewMap` and ANY maintenance schedule: before every request an arbitrary list of
    fault-free commits (either kind, any worker orders), cache drops and commit-and-reopen.  If the slabs
    of the map model can be encoded along the run, then
    * the map model at the end is the one of the maintenance-free run (`runM`), whatever the schedule,
      and its dictionary follows the requests (`DictRun`);
    * the state is `MGoodF`: the storage represents that map;
    * after any further maintenance actions `final`, loading the map from its root ID through the
      storage – every slab fetch preceded by arbitrary read-only operations chosen by `rsched` – returns
      exactly that map, and the storage still represents it.
    Since the right-hand sides do not mention the schedule, any two schedules give the same results. -/
theorem map_history_under_schedules (c : Codec (MSSlab r) β) (hc : RoundTrip c) (T : Nat)
    (hT : legalThreshold T = true) (D : DigestFn (r + 1)) (cfg : MCfg) (hcT : cfg.T = T)
    (hcL : cfg.L = r + 1) (haddr : cfg.addr ≠ 0) (ty : Nat) (seedOf : SlabID → Nat)
    (ops : List MOp) (hops : ∀ op ∈ ops, op.Ok T D)
    (henc : MEncAlong c cfg (newS c cfg.addr ty seedOf).1 ops)
    (sched : List (List C08.Maint)) (hlen : sched.length = ops.length) (final : List C08.Maint)
    (rsched : St (MSSlab r) β → SlabID → List (Op (MSSlab r))) (fuel : Nat) :
    let x := runSM c cfg (newS c cfg.addr ty seedOf) (sched.zip ops)
    let m := runM cfg (OMap.new (r := r) cfg.addr ty seedOf ⟨0, [], []⟩) ops
    x.1 = m ∧ DictRun T D (fun _ => none) ops (lookupR m) ∧ MGoodF c T D cfg x ∧
    (m.1.d < fuel →
      ∃ s', loadMapSt (fetchWith c rsched) (final.foldl (C08.applyMaint c) x.2) ⟨cfg.addr, 1⟩ fuel
          = .ok (some m.1, s') ∧
        MRep c s' m.1 (AList.find? m.2.created) m.2.ctr) := by
  intro x m
  obtain ⟨g0, _⟩ := mgoodF_new c hc T hT D cfg hcT hcL haddr ty seedOf
  have hmap := E2E.map_snd_zip sched ops hlen
  obtain ⟨g, hfst, hne⟩ := mgood_runSM c hc T hT D cfg (sched.zip ops) (newS c cfg.addr ty seedOf) g0
    (fun p hp => hops p.2 (by rw [← hmap]; exact List.mem_map_of_mem hp)) (by rw [hmap]; exact henc)
  rw [hmap] at hfst
  have hxm : x.1 = m := hfst
  obtain ⟨hrun, _, _, _, _, _, _, _, _, hdict, hroot, _⟩ :=
    map_rep_history c hc T hT D cfg hcT hcL haddr ty seedOf ops hops
  rw [hrun] at hdict hroot
  refine ⟨hxm, hdict, g, ?_⟩
  intro hfuel
  obtain ⟨gf, _⟩ := mgood_foldl_applyMaint c hc T D cfg final x g hne
  have hd : x.1.1.d < fuel := by rw [hxm]; exact hfuel
  obtain ⟨s', h1, h2, _⟩ := map_load_from_storage c T hT D _ x.1.1 _ _ gf.inv gf.ids gf.aok gf.rep gf.st
    (fetchWith c rsched) (map_scheduled_retrieve_is_fetch c rsched) fuel hd
  have hroot' : x.1.1.rootID = ⟨cfg.addr, 1⟩ := by rw [hxm]; exact hroot
  rw [hroot', hxm] at h1
  rw [hxm] at h2
  exact ⟨s', h1, h2⟩

/-- … AND THE DECODED LEDGER (maps).  After the history with any maintenance schedule, any further
    maintenance and a final fault-free commit of either kind, the registers of the owner decode to
    exactly the stored slabs of the map – the same under all schedules. -/
theorem map_ledger_under_schedules (c : Codec (MSSlab r) β) (hc : RoundTrip c) (T : Nat)
    (hT : legalThreshold T = true) (D : DigestFn (r + 1)) (cfg : MCfg) (hcT : cfg.T = T)
    (hcL : cfg.L = r + 1) (haddr : cfg.addr ≠ 0) (ty : Nat) (seedOf : SlabID → Nat)
    (ops : List MOp) (hops : ∀ op ∈ ops, op.Ok T D)
    (henc : MEncAlong c cfg (newS c cfg.addr ty seedOf).1 ops)
    (sched : List (List C08.Maint)) (hlen : sched.length = ops.length) (final : List C08.Maint)
    (kind : CommitKind) (mo dlo : List SlabID) :
    let x := runSM c cfg (newS c cfg.addr ty seedOf) (sched.zip ops)
    let m := runM cfg (OMap.new (r := r) cfg.addr ty seedOf ⟨0, [], []⟩) ops
    let committed := (St.step c (final.foldl (C08.applyMaint c) x.2) (.commit kind [] mo dlo)).1
    (St.step c (final.foldl (C08.applyMaint c) x.2) (.commit kind [] mo dlo)).2 = .unit ∧
    ∀ id, id.addr = cfg.addr → committed.committed c id = mstored m.1 (AList.find? m.2.created) id := by
  intro x m committed
  obtain ⟨g0, _⟩ := mgoodF_new c hc T hT D cfg hcT hcL haddr ty seedOf
  have hmap := E2E.map_snd_zip sched ops hlen
  obtain ⟨g, hfst, hne⟩ := mgood_runSM c hc T hT D cfg (sched.zip ops) (newS c cfg.addr ty seedOf) g0
    (fun p hp => hops p.2 (by rw [← hmap]; exact List.mem_map_of_mem hp)) (by rw [hmap]; exact henc)
  rw [hmap] at hfst
  have hxm : x.1 = m := hfst
  obtain ⟨hrun, _, _, _, _, _, _, _, _, _, hroot, _⟩ :=
    map_rep_history c hc T hT D cfg hcT hcL haddr ty seedOf ops hops
  rw [hrun] at hroot
  obtain ⟨gf, hnf⟩ := mgood_foldl_applyMaint c hc T D cfg final x g hne
  obtain ⟨e1, e2, _⟩ := commitW_complete c hc kind (faultPlan []) St.faultPlan_nil mo dlo _ gf.st hnf
  obtain ⟨i1, i2, _⟩ := commitW_spec c hc kind (faultPlan []) mo dlo _ gf.st
  have hcm : committed = (commitW c kind (faultPlan []) mo dlo (final.foldl (C08.applyMaint c) x.2)).st := by
    show (St.step c _ (.commit kind [] mo dlo)).1 = _
    rw [step_commit]
  refine ⟨by rw [step_commit, e1], ?_⟩
  intro id hid
  have haddr' : x.1.1.addr = cfg.addr := by
    show x.1.1.rootID.addr = cfg.addr
    rw [hxm]
    exact congrArg SlabID.addr hroot
  rw [hcm, i2.committed_eq_view i1 e2 id (E2E.isTemp_of_addr hid haddr), ← hxm]
  exact gf.rep.view id (by rw [haddr']; exact hid)

/-- NO ENCODE FAILURE ALONG HISTORIES, byte codec `keyedCodecM D`: `MEncAlong` holds for every history
    of requests with encodable keys and values, given the field-width bounds `MWidths` at every point of
    the history. -/
theorem map_bytes_encAlong (T : Nat) (hT : legalThreshold T = true) (D : DigestFn (r + 1))
    (cfg : MCfg) (hcT : cfg.T = T) (hcL : cfg.L = r + 1) (haddr : cfg.addr ≠ 0) (ty : Nat) (hty : ty < 2 ^ 64)
    (seedOf : SlabID → Nat) (ops : List MOp) (hops : ∀ op ∈ ops, op.Ok T D) (henc : ∀ op ∈ ops, op.Enc)
    (hw : ∀ k, MWidths D (runB D cfg ty seedOf (ops.take k)).1) :
    MEncAlong (keyedCodecM D) cfg (newS (keyedCodecM D) cfg.addr ty seedOf).1 ops := by
  intro k id v hv
  have hk : ∀ op ∈ ops.take k, op.Ok T D := fun o ho => hops o (List.mem_of_mem_take ho)
  have hke : ∀ op ∈ ops.take k, op.Enc := fun o ho => henc o (List.mem_of_mem_take ho)
  obtain ⟨g, _⟩ := runB_good T hT D cfg hcT hcL haddr ty seedOf (ops.take k) hk
  obtain ⟨g0, _⟩ := mgoodF_new (keyedCodecM D) (keyedCodecM_roundTrip D) T hT D cfg hcT hcL haddr ty seedOf
  have he := mencSt_runS (keyedCodecM D) (keyedCodecM_roundTrip D) T hT D cfg (ops.take k) _ g0
    (mencSt_new (keyedCodecM D) cfg.addr ty seedOf hty) hk hke
  have hok := mencOk_of_goodF (keyedCodecM D) T D cfg _ g he (hw k)
  rw [← runS_fst (keyedCodecM D) cfg (ops.take k) (newS (keyedCodecM D) cfg.addr ty seedOf)] at hv
  exact keyedCodecM_enc_isSome D v
    (mstored_ok hT _ _ _ g.inv g.ids g.aok (keys_le_of_goodF (keyedCodecM D) T D cfg _ g) hok id v hv).1

/-- SCHEDULE INDEPENDENCE ALONG HISTORIES WITH THE BYTE CODEC (maps).  `map_history_under_schedules` and
    `map_ledger_under_schedules` for `keyedCodecM D`, with no hypothesis on the codec: after any history
    of requests with encodable keys and values under ANY maintenance schedule (commits of either kind,
    cache drops, commit-and-reopen before every request), the map model is the maintenance-free one, its
    dictionary follows the requests, the load through the storage (`DecodeSlab` on whatever the slabs
    are served from, keys re-hashed) returns exactly it, and after a final commit `DecodeSlab` on the
    registers of the owner gives exactly its stored slabs. -/
theorem map_bytes_history_under_schedules (T : Nat) (hT : legalThreshold T = true) (D : DigestFn (r + 1))
    (cfg : MCfg) (hcT : cfg.T = T) (hcL : cfg.L = r + 1) (haddr : cfg.addr ≠ 0) (ty : Nat) (hty : ty < 2 ^ 64)
    (seedOf : SlabID → Nat) (ops : List MOp) (hops : ∀ op ∈ ops, op.Ok T D) (henc : ∀ op ∈ ops, op.Enc)
    (hw : ∀ k, MWidths D (runB D cfg ty seedOf (ops.take k)).1)
    (sched : List (List C08.Maint)) (hlen : sched.length = ops.length) (final : List C08.Maint)
    (rsched : St (MSSlab r) (SlabID × Bytes) → SlabID → List (Op (MSSlab r))) (fuel : Nat)
    (kind : CommitKind) (mo dlo : List SlabID) :
    let x := runSM (keyedCodecM D) cfg (newS (keyedCodecM D) cfg.addr ty seedOf) (sched.zip ops)
    let m := runM cfg (OMap.new (r := r) cfg.addr ty seedOf ⟨0, [], []⟩) ops
    let committed :=
      (St.step (keyedCodecM D) (final.foldl (C08.applyMaint (keyedCodecM D)) x.2) (.commit kind [] mo dlo)).1
    x.1 = m ∧ DictRun T D (fun _ => none) ops (lookupR m) ∧
    (m.1.d < fuel →
      ∃ s', loadMapSt (fetchWith (keyedCodecM D) rsched)
        (final.foldl (C08.applyMaint (keyedCodecM D)) x.2) ⟨cfg.addr, 1⟩ fuel = .ok (some m.1, s')) ∧
    (∀ id, id.addr = cfg.addr →
      (AList.find? committed.base id).bind (fun p => decM D p.1 p.2)
        = mstored m.1 (AList.find? m.2.created) id) := by
  intro x m committed
  have hal := map_bytes_encAlong T hT D cfg hcT hcL haddr ty hty seedOf ops hops henc hw
  obtain ⟨h1, h2, _, h4⟩ := map_history_under_schedules (keyedCodecM D) (keyedCodecM_roundTrip D) T hT D cfg
    hcT hcL haddr ty seedOf ops hops hal sched hlen final rsched fuel
  obtain ⟨_, h5⟩ := map_ledger_under_schedules (keyedCodecM D) (keyedCodecM_roundTrip D) T hT D cfg
    hcT hcL haddr ty seedOf ops hops hal sched hlen final kind mo dlo
  refine ⟨h1, h2, fun hf => ?_, fun id hid => ?_⟩
  · obtain ⟨s', e1, _⟩ := h4 hf
    exact ⟨s', e1⟩
  · exact h5 id hid

/-- "VALUES RESTRICTED TO `OkM`": a storage history all of whose stored slabs meet the encoder's
    preconditions satisfies the hypothesis `C08.StoresEncodable` of `C08.schedule_independent_outcomes` /
    `C08.schedule_independent_ledger` for the byte codec `keyedCodecM D` (whose encoder is partial). -/
theorem keyedCodecM_storesEncodable (D : DigestFn (r + 1)) (ops : List (Op (MSSlab r)))
    (h : ∀ op ∈ ops, ∀ id v, op = .store id v → OkM D v) : C08.StoresEncodable (keyedCodecM D) ops := by
  intro op hop
  cases op with
  | store id v => exact keyedCodecM_enc_isSome D v (h _ hop id v rfl)
  | _ => trivial

/-- `C08.schedule_independent_outcomes` and `C08.schedule_independent_ledger` FOR THE BYTE CODEC OF MAPS:
    no hypothesis on the codec is left. -/
theorem map_bytes_schedule_independent (D : DigestFn (r + 1)) (ops : List (Op (MSSlab r)))
    (hok : ∀ op ∈ ops, ∀ id v, op = .store id v → OkM D v)
    (hcl : ∀ op ∈ ops, C08.clientOp op = true) (hnt : C08.NoTemp ops)
    (sched1 sched2 : List (List C08.Maint)) (h1 : sched1.length = ops.length) (h2 : sched2.length = ops.length) :
    let r1 := C08.runWith (keyedCodecM D) (St.init : St (MSSlab r) (SlabID × Bytes)) (ops.zip sched1)
    let r2 := C08.runWith (keyedCodecM D) (St.init : St (MSSlab r) (SlabID × Bytes)) (ops.zip sched2)
    r1.2 = r2.2 ∧ (∀ id, r1.1.view (keyedCodecM D) id = r2.1.view (keyedCodecM D) id) ∧
    ∀ id, AList.find? (r1.1.fastCommit (keyedCodecM D) (fun _ => false)).st.base id =
      AList.find? (r2.1.fastCommit (keyedCodecM D) (fun _ => false)).st.base id := by
  intro r1 r2
  have he := keyedCodecM_storesEncodable D ops hok
  obtain ⟨a1, a2⟩ := C08.schedule_independent_outcomes (keyedCodecM D) (keyedCodecM_roundTrip D) ops he hcl hnt
    sched1 sched2 h1 h2
  exact ⟨a1, a2, C08.schedule_independent_ledger (keyedCodecM D) (keyedCodecM_roundTrip D) ops he hcl hnt
    sched1 sched2 h1 h2⟩

/-! Non-vacuity.

The history `mhistB` of `Props/E2EMapBytes.lean` (23 requests: index-slab root over two data slabs,
inline collision groups, an EXTERNAL collision group, a 300-byte value in a large-value slab, two
removals – one rejected –, `SetType`) with the byte codec, run under a maintenance schedule that
commits (both kinds), drops the cache or reopens from the ledger BEFORE EVERY request. -/
section NonVacuity
open MapExample

/-- the k-independent part of `MWidths` is `xB_widths.levels / .digests`; the rest is decidable -/
def W5 (st : OMap 1 × Ctx) : Prop :=
  st.1.addr < 2 ^ 64 ∧ st.2.ctr < 2 ^ 64 ∧ st.1.count < 2 ^ 64 ∧ st.1.seed < 2 ^ 64 ∧ GroupsFit st.1
instance (st : OMap 1 × Ctx) : Decidable (W5 st) := by unfold W5; infer_instance

set_option maxRecDepth 100000 in
theorem mhistB_w5 : ∀ k ∈ List.range 24, W5 (runB D2 cfg2 0 (fun id => id.idx) (mhistB.take k)).1 := by
  decide +kernel

/-- the field-width bounds hold at EVERY point of the history -/
theorem mhistB_widths : ∀ k, MWidths D2 (runB D2 cfg2 0 (fun id => id.idx) (mhistB.take k)).1 := by
  intro k
  by_cases hk : k < 24
  · obtain ⟨a, b, c, d, e⟩ := mhistB_w5 k (List.mem_range.2 hk)
    exact ⟨by decide, D2_digests, a, b, c, d, e⟩
  · have h23 : mhistB.take k = mhistB.take 23 := by
      rw [List.take_of_length_le (by simp [mhistB]; omega), List.take_of_length_le (by simp [mhistB])]
    rw [h23]
    obtain ⟨a, b, c, d, e⟩ := mhistB_w5 23 (by decide)
    exact ⟨by decide, D2_digests, a, b, c, d, e⟩

/-- maintenance before each of the 23 requests: cycles through five patterns -/
def mschedH : List (List C08.Maint) :=
  (List.range 23).map (fun i =>
    match i % 5 with
    | 0 => [.dropCache]
    | 1 => [.commit .det [] []]
    | 2 => [.commitAndReopen]
    | 3 => [.commit .nondet [⟨7, 3⟩] [], .dropCache]
    | _ => [])
def mfinalH : List C08.Maint := [.commit .nondet [⟨7, 4⟩] [], .commitAndReopen, .dropCache]

example : mschedH.length = mhistB.length := rfl

/-- `mgood_applyMaint` on the final state of the maintenance-free run (everything pending) -/
example := mgood_applyMaint (keyedCodecM D2) (keyedCodecM_roundTrip D2) 256 D2 cfg2 xB
  (runB_good 256 legal256 D2 cfg2 rfl rfl (by decide) 0 (fun id => id.idx) mhistB mhistB_ok).1
  (map_bytes_history_no_encode_failure 256 legal256 D2 cfg2 rfl rfl (by decide) 0 (by decide)
    (fun id => id.idx) mhistB mhistB_ok mhistB_enc xB_widths) .commitAndReopen

example := map_bytes_encAlong 256 legal256 D2 cfg2 rfl rfl (by decide) 0 (by decide)
  (fun id => id.idx) mhistB mhistB_ok mhistB_enc mhistB_widths
example := map_bytes_history_under_schedules 256 legal256 D2 cfg2 rfl rfl (by decide) 0 (by decide)
  (fun id => id.idx) mhistB mhistB_ok mhistB_enc mhistB_widths mschedH rfl mfinalH schedB 2 .det [] []

/-- the state after the history under the schedule -/
def xSM : (OMap 1 × Ctx) × St (MSSlab 1) (SlabID × Bytes) :=
  runSM (keyedCodecM D2) cfg2 (newS (keyedCodecM D2) cfg2.addr 0 (fun id => id.idx)) (mschedH.zip mhistB)

-- by evaluation: without maintenance nothing is in the ledger; under the schedule most slabs are in
-- the ledger and only the slabs touched since the last commit are pending; the map model is the same,
-- and the scheduled load from the maintained storage returns it
set_option maxRecDepth 100000 in
example : xB.2.base.length = 0 ∧ xSM.2.base.length = 5 ∧ xSM.2.deltas.length ≤ 2 := by rw [xB_eq]; decide +kernel
set_option maxRecDepth 100000 in
example : msummary xSM.1.1 = msummary xB.1.1 := by rw [xB_eq]; decide +kernel
set_option maxRecDepth 100000 in
example : msummaryRB (loadMapSt (fetchWith (keyedCodecM D2) schedB)
    (mfinalH.foldl (C08.applyMaint (keyedCodecM D2)) xSM.2) ⟨7, 1⟩ 2) = some (msummary xB.1.1) := by
  rw [xB_eq]; decide +kernel

/-- the storage-level theorems with the real map codec: the client history stores two real slabs of the
    map after `mhistB` (the root index slab `7.1` and the external collision group `7.2`), removes one
    and reads; the encoder is partial, yet `StoresEncodable` holds -/
def mslabOf (id : SlabID) : MSSlab 1 :=
  (mstored xB.1.1 (AList.find? xB.1.2.created) id).getD (.large (val 1))
def mcliH : List (Op (MSSlab 1)) :=
  [.genID 7, .store ⟨7, 1⟩ (mslabOf ⟨7, 1⟩), .store ⟨7, 2⟩ (mslabOf ⟨7, 2⟩), .remove ⟨7, 2⟩, .retrieve ⟨7, 1⟩]
-- irreducible, so that matching the `store` requests below does not evaluate the slabs
attribute [local irreducible] mslabOf in
theorem mcliH_ok : ∀ op ∈ mcliH, ∀ id v, op = .store id v → OkM D2 v := by
  intro op hop id v hv
  simp only [mcliH, List.mem_cons, List.not_mem_nil, or_false] at hop
  have h : OkM D2 (mslabOf ⟨7, 1⟩) ∧ OkM D2 (mslabOf ⟨7, 2⟩) := by
    unfold mslabOf; rw [xB_eq]; decide +kernel
  rcases hop with rfl | rfl | rfl | rfl | rfl <;> cases hv
  · exact h.1
  · exact h.2
theorem mcliH_noTemp : C08.NoTemp mcliH := by
  intro op hop
  simp only [mcliH, List.mem_cons, List.not_mem_nil, or_false] at hop
  rcases hop with rfl | rfl | rfl | rfl | rfl <;> simp [SlabID.isTemp]
example := map_bytes_schedule_independent D2 mcliH mcliH_ok (by decide) mcliH_noTemp
  (List.replicate 5 []) [[], [.dropCache], [.commit .det [] []], [.commitAndReopen], [.commit .nondet [] [], .dropCache]]
  rfl rfl
example : ¬ (∀ v : MSSlab 1, ((keyedCodecM D2).enc v).isSome = true) := fun h => by
  have := h badKeySlab; revert this; decide

end NonVacuity

end Atree.E2EM

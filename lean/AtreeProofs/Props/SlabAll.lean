import AtreeProofs.Codec.SlabAll
import AtreeProofs.Props.C06Exact
import AtreeModel.Replay.Codec
import AtreeProofs.AListLemmas
/-
  C06 / C07 — the GENERAL statements over all seven slab kinds of the byte-level model.

  `SlabOK` is `False` for array data slabs with general elements, map data slabs, map index slabs
  and large-value slabs with wrapped values: a statement under it says nothing about four of the
  seven kinds.  The statements below (like `C06.enc_len`, `C06.decoded_size_eq`, `C07.decode_encode`,
  `C07.reencode_fixpoint`) assume `SlabOKG` (Codec/SlabAll.lean) — per kind exactly the hypotheses
  of the kind-specific theorem — and hold for every kind; `SlabOK s → SlabOKG s`.  In the reading:

  * the decoder returns `normSlab s`, which is `s` unless the slab holds an inlined map written in the
    compact form (the documented exception: such a child comes back with the shared entry's key
    order, digests and seed, `C07.compact_child_shape` / `compact_child_extensional`);
  * the length law has the term `s.hoisted`, the exact number of bytes compact maps do not write in
    place (0 without compact maps), and `omittedNext` also covers `.adata` / `.mdata`.
-/
namespace Atree.C07
open Atree Atree.Codec Atree.Gen

/-- Round trip for EVERY slab kind: decoding the register the encoder wrote gives the slab back — in
    its decoded form `normSlab s`, which is `s` itself unless a compact map is written
    (`normSlab_eq_of_noCompact`). -/
theorem decode_encode_all (s : Slab) (ok : SlabOKG s) (n : Nat) :
    ∃ k, decodeSlab s.id (encodeSlab s) n = .ok (normSlab s) k :=
  ⟨_, decodeSlab_encodeSlab_all s ok n⟩

/-- Re-encoding whatever the decoder returns for a register produced by the encoder yields the
    identical byte string — every slab kind, compact maps included. -/
theorem reencode_fixpoint_all (s : Slab) (ok : SlabOKG s) (n : Nat) (s' : Slab) (k : Nat)
    (h : decodeSlab s.id (encodeSlab s) n = .ok s' k) : encodeSlab s' = encodeSlab s := by
  rw [decodeSlab_encodeSlab_all s ok n] at h
  cases h
  exact encodeSlab_normSlab s ok

/-- The `_all` statements contain the ones under `SlabOK`. -/
theorem slabOKG_of_slabOK (s : Slab) (ok : SlabOK s) : SlabOKG s := SlabOKG_of_SlabOK ok

/-- Without a compact map the decoded form is the slab itself. -/
theorem normSlab_eq_of_noCompact (s : Slab) (nc : s.noCompact) : normSlab s = s :=
  normSlab_noCompact s nc

/-- The kinds of the first part never hold a compact map: for them the decoder returns
    the slab itself, with the allocation count `decodeAllocs`. -/
theorem decode_encode_all_of_slabOK (s : Slab) (ok : SlabOK s) (n : Nat) :
    decodeSlab s.id (encodeSlab s) n = .ok s (n + s.decodeAllocs) :=
  decodeSlab_encodeSlab s ok n

/-- Every predicate of the kind-specific theorems is covered: a map data slab without inlined
    children (`MapDataOK`), one with inlined children but no compact map (`MapDataOKI`), with inlined
    children in any form under the coarser nesting clause `vneedI ≤ 32` (`MapDataOKC`) or under the exact
    one `vdepth ≤ 32` (`MapDataOKX`); an array data slab with inlined children but no compact map
    (`ArrDataOKI`), in any form (`ArrDataOKC`, `ArrDataOKX`), with wrapped elements only (`ArrDataOKW`,
    `ArrDataOKWX`). -/
theorem slabOKG_covers :
    (∀ m, MapDataOK m → SlabOKG (.mdata m)) ∧ (∀ m, MapDataOKI m → SlabOKG (.mdata m)) ∧
    (∀ m, MapDataOKC m → SlabOKG (.mdata m)) ∧ (∀ m, MapDataOKX m → SlabOKG (.mdata m)) ∧
    (∀ a, ArrDataOKI a → SlabOKG (.adata a)) ∧ (∀ a, ArrDataOKC a → SlabOKG (.adata a)) ∧
    (∀ a, ArrDataOKX a → SlabOKG (.adata a)) ∧
    (∀ a, ArrDataOKW a → SlabOKG (.adata a)) ∧ (∀ a, ArrDataOKWX a → SlabOKG (.adata a)) ∧
    (∀ m, MapMetaOK m → SlabOKG (.mindex m)) ∧
    (∀ id x, x.RT → x.noInl → x.vneed + 1 ≤ maxNestedLevels → SlabOKG (.storableG id (.some x))) :=
  ⟨fun _ h => h.toC.toX, fun _ h => h.toX, fun _ h => h.toX, fun _ h => h,
   fun _ h => Or.inl h.toX, fun _ h => Or.inl h.toX, fun _ h => Or.inl h,
   fun _ h => Or.inr h.toX, fun _ h => Or.inr h,
   fun _ h => h, fun _ x hrt hni hv => ⟨hrt, hni, rfl, by simpa [Stor.vneed] using hv⟩⟩

/-- The exact nesting clause is what `SlabOKG` asks of the three kinds with general elements. -/
theorem slabOKG_nest (s : Slab) (ok : SlabOKG s) :
    match s with
    | .adata _ | .mdata _ => s.vdepth ≤ maxNestedLevels
    | _ => True := by
  cases s with
  | adata a => rcases ok with ok | ok <;> exact ok.nest
  | mdata m => exact ok.nest
  | data _ _ => trivial
  | index _ _ => trivial
  | storable _ _ => trivial
  | mindex _ => trivial
  | storableG _ _ => trivial

end Atree.C07

namespace Atree.C06
open Atree Atree.Codec Atree.Gen

/-- All seven kinds at once, in the form of the oracle and EXACT:
    `len(EncodeSlab(s)) + omittedNext(s) + hoisted(s) = s.ByteSize() + extraDataLen(s)`.
    `omittedNext`: the 16 bytes of the undefined sibling link a non-root data slab (array, array with
    general elements, map) does not write; `hoisted`: the bytes compact maps keep in the shared
    section instead of in place (0 unless a compact map is written, `hoisted_zero_of_noCompact`);
    `hroot`: a root has no sibling. -/
theorem enc_len_all (s : Slab) (ok : SlabOKG s) (hroot : s.rootNoSibling) :
    (encodeSlab s).length + s.omittedNext + s.hoisted = s.byteSize + s.extraDataLen :=
  enc_len_slab_all s ok hroot

/-- `Slab.omittedNext` is what the trace replayer evaluates on every `ENC` line. -/
theorem omittedNext_eq_replay (s : Slab) : s.omittedNext = Replay.CodecState.omittedNext s := by
  cases s with
  | data ty d =>
    simp only [Slab.omittedNext, Replay.CodecState.omittedNext]
    by_cases h1 : d.root = false <;> by_cases h2 : d.next = SlabID.undef <;> simp [h1, h2]
  | adata a =>
    simp only [Slab.omittedNext, Replay.CodecState.omittedNext]
    by_cases h1 : a.ty.isNone = true <;> by_cases h2 : a.next = SlabID.undef <;> simp [h1, h2]
  | mdata m =>
    simp only [Slab.omittedNext, Replay.CodecState.omittedNext]
    by_cases h1 : m.extra.isNone = true <;> by_cases h2 : m.next = SlabID.undef <;> simp [h1, h2]
  | index _ _ => rfl
  | storable _ _ => rfl
  | mindex _ => rfl
  | storableG _ _ => rfl

/-- Without a compact map the slab hoists nothing: the law is `written + omitted = reported + extra`. -/
theorem hoisted_zero_of_slab_noCompact (s : Slab) (nc : s.noCompact) : s.hoisted = 0 := by
  cases s with
  | adata a => exact hoistedSts_noCompact a.elems nc
  | mdata m => exact MEls.hoisted_noCompact m.els nc
  | storableG _ x => exact Stor.hoisted_noCompact x nc
  | data _ _ => rfl
  | index _ _ => rfl
  | storable _ _ => rfl
  | mindex _ => rfl

/-- A slab decoded from its register reports the same size as the slab that produced the register —
    every kind; including the non-root data slabs whose sibling link was omitted from the register
    and the slabs whose compact children come back in another key order. -/
theorem decoded_size_eq_all (s : Slab) (ok : SlabOKG s) (n : Nat) :
    ∃ s' k, decodeSlab s.id (encodeSlab s) n = .ok s' k ∧ s'.byteSize = s.byteSize :=
  ⟨normSlab s, _, decodeSlab_encodeSlab_all s ok n, byteSize_normSlab s ok⟩

end Atree.C06

/-! ## non-vacuity: one slab of each of the seven kinds (two for `.adata`) -/
namespace Atree.C07.Examples
open Atree Atree.Codec Atree.Gen Atree.C06

instance (id : SlabID) : Decidable (validNext id) := by unfold validNext; infer_instance
instance : (t : TyInfo) → Decidable (validTy t)
  | .plain n => inferInstanceAs (Decidable (n < 2 ^ 64))
  | .composite n => inferInstanceAs (Decidable (n < 2 ^ 64))
instance (x : MapExtra) : Decidable (validMapExtra x) := by unfold validMapExtra; infer_instance
instance (a : Nat) (h : Hdr) : Decidable (validChildHdr a h) := by unfold validChildHdr; infer_instance
instance (a : Nat) (h : MChildHdr) : Decidable (validMChildHdr a h) := by unfold validMChildHdr; infer_instance

/-- 1. array data slab, root, two plain elements and a slab reference -/
def exData : Slab :=
  .data (some (.plain 9))
    { hdr := { id := ⟨1, 1⟩, size := 5 + (2 + 3 + 19), count := 3 }, next := SlabID.undef,
      elems := [⟨2, .val 7⟩, ⟨3, .val 300⟩, ⟨19, .ref ⟨1, 8⟩⟩], root := true, inlined := false }

theorem exData_ok : SlabOKG exData :=
  ⟨{ elems := by decide, count16 := by decide, notInlined := rfl, count := rfl, size := by decide,
     size32 := by decide, next := by decide, ty := fun _ => by decide }, rfl⟩

/-- 2. array index slab, non-root, two children -/
def exIndex : Slab :=
  .index none
    { hdr := { id := ⟨1, 2⟩, size := 12 + 14 * 2, count := 7 },
      childHdrs := [{ id := ⟨1, 3⟩, size := 40, count := 3 }, { id := ⟨1, 4⟩, size := 50, count := 4 }],
      countSum := [3, 7], children := [], root := false }

theorem exIndex_ok : SlabOKG exIndex :=
  ⟨{ addr := by decide, hdrs := by decide, n16 := by decide, sums := by decide, count := by decide,
     total32 := by decide, size := by decide, noChildren := rfl, ty := fun h => by cases h }, rfl⟩

/-- 3. large-value slab with a plain value -/
def exStorable : Slab := .storable ⟨1, 5⟩ ⟨300, .val 77⟩

theorem exStorable_ok : SlabOKG exStorable := by
  show validElem (⟨300, .val 77⟩ : Elem)
  decide

/-- 4a. array data slab with general elements: two same-typed compact maps (keys in opposite
    order) around an inlined array -/
def exAData : Slab :=
  .adata { id := ⟨1, 6⟩, next := ⟨1, 7⟩, ty := none,
           elems := [exCompact1, .arr (.plain 4) 9 [.val 2 1, .some (.val 2 2)], exCompact2] }

theorem exCompact1_rti : exCompact1.RTI := by
  simp only [exCompact1, Stor.RTI, MEls.RTI, rtiMElList, MEl.RTI, SEl.RTI, validMapExtra, validTy, sizeMEl,
    MEl.size, SEl.size, Stor.size, MEls.size]
  decide

theorem exCompact2_rti : exCompact2.RTI := by
  simp only [exCompact2, Stor.RTI, MEls.RTI, rtiMElList, MEl.RTI, SEl.RTI, validMapExtra, validTy, sizeMEl,
    MEl.size, SEl.size, Stor.size, MEls.size]
  decide

theorem exAData_okc :
    ArrDataOKC { id := ⟨1, 6⟩, next := ⟨1, 7⟩, ty := none,
                 elems := [exCompact1, .arr (.plain 4) 9 [.val 2 1, .some (.val 2 2)], exCompact2] } where
  rt := by
    refine ⟨exCompact1_rti, ?_, exCompact2_rti, trivial⟩
    simp only [Stor.RTI, rtiSts, validTy, sizeSts, Stor.size]
    decide
  nodup := ⟨exCompact1_nodup, ⟨trivial, trivial, trivial⟩, exCompact2_nodup, trivial⟩
  nest := by decide
  count := by decide
  inlined := by decide
  entries := by decide
  next := by decide
  ty := fun t h => by cases h
  size := by decide

theorem exAData_ok : SlabOKG exAData := Or.inl exAData_okc.toX

/-- 4b. array data slab with a wrapped element and no inlined child -/
def exADataW : Slab :=
  .adata { id := ⟨1, 6⟩, next := SlabID.undef, ty := some (.composite 2), elems := [.val 2 1, .some (.val 3 300)] }

theorem exADataW_ok : SlabOKG exADataW := by
  refine Or.inr (ArrDataOKW.toX
    { rt := ?_, noInl := ⟨trivial, trivial, trivial⟩, wrapped := ⟨.some (.val 3 300), by simp, rfl⟩,
      nest := by decide, count := by decide, next := by decide, ty := ?_, size := by decide })
  · simp only [rtiSts, Stor.RTI]; decide
  · intro t h; cases h; decide

/-- 5. map data slab, root, whose two values are same-typed compact maps with keys in opposite order
    (`C06.exCompactSlab`) -/
def exMData : Slab := .mdata exCompactSlab

theorem exMData_okc : MapDataOKC exCompactSlab where
  rt := by
    refine ⟨by decide, rfl, by decide, by decide, ⟨⟨?_, exCompact1_rti, ?_⟩, ⟨?_, exCompact2_rti, ?_⟩, trivial⟩, ?_⟩
    · simp only [Stor.RTI]; decide
    · decide
    · simp only [Stor.RTI]; decide
    · decide
    · decide
  nodup := exCompactSlab_nodup
  nest := by decide
  entries := by decide
  next := by decide
  extra := fun x h => by cases h; decide
  size := by decide

theorem exMData_ok : SlabOKG exMData := exMData_okc.toX

/-- 6. map index slab, root -/
def exMIndex : Slab :=
  .mindex { id := ⟨1, 9⟩, extra := some { ty := .plain 1, count := 40, seed := 5 },
            childHdrs := [{ id := ⟨1, 10⟩, size := 200, firstKey := 0 }, { id := ⟨1, 11⟩, size := 180, firstKey := 5000 }] }

theorem exMIndex_ok : SlabOKG exMIndex where
  addr := by decide
  hdrs := by decide
  n16 := by decide
  extra := fun x h => by cases h; decide

/-- 7. large-value slab with a doubly wrapped value -/
def exStorableG : Slab := .storableG ⟨1, 12⟩ (.some (.some (.val 300 77)))

theorem exStorableG_ok : SlabOKG exStorableG := by
  refine ⟨?_, trivial, rfl, by decide⟩
  simp only [Stor.RT]; decide

/-- every kind has a slab meeting the hypotheses of the `_all` theorems (and of `enc_len_all`: the
    roots have no sibling); the slabs with compact maps are really changed by decoding and really
    hoist bytes -/
theorem slabOKG_nonvacuous :
    (SlabOKG exData ∧ exData.rootNoSibling) ∧ (SlabOKG exIndex ∧ exIndex.rootNoSibling) ∧
    (SlabOKG exStorable ∧ exStorable.rootNoSibling) ∧ (SlabOKG exAData ∧ exAData.rootNoSibling) ∧
    (SlabOKG exADataW ∧ exADataW.rootNoSibling) ∧ (SlabOKG exMData ∧ exMData.rootNoSibling) ∧
    (SlabOKG exMIndex ∧ exMIndex.rootNoSibling) ∧ (SlabOKG exStorableG ∧ exStorableG.rootNoSibling) ∧
    exMData.hoisted = 58 ∧ exAData.hoisted = 58 :=
  ⟨⟨exData_ok, fun _ => rfl⟩, ⟨exIndex_ok, trivial⟩, ⟨exStorable_ok, trivial⟩, ⟨exAData_ok, fun h => by cases h⟩,
   ⟨exADataW_ok, fun _ => rfl⟩, ⟨exMData_ok, fun _ => rfl⟩, ⟨exMIndex_ok, trivial⟩, ⟨exStorableG_ok, trivial⟩,
   by decide, by decide⟩

example : ∃ k, decodeSlab exMData.id (encodeSlab exMData) 0 = .ok (normSlab exMData) k :=
  decode_encode_all exMData exMData_ok 0

example : (encodeSlab exAData).length + 0 + 58 = exAData.byteSize + exAData.extraDataLen := by
  have h1 := enc_len_all exAData exAData_ok (fun h => by cases h)
  have h2 : exAData.hoisted = 58 := slabOKG_nonvacuous.2.2.2.2.2.2.2.2.2
  have h3 : exAData.omittedNext = 0 := by decide
  omega

end Atree.C07.Examples

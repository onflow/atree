import AtreeProofs.Props.SlabAll
import AtreeProofs.Props.C07Depth
import AtreeProofs.Props.C06
/-
  C06 / C07 — non-vacuity of the GENERAL theorems at the exact nesting bound.

  `SlabOKG` (Codec/SlabAll.lean) asks of array / map data slabs with general elements the EXACT nesting
  clause `Slab.vdepth ≤ maxNestedLevels` (`MapDataOKX`, `ArrDataOKX`, `ArrDataOKWX`), not the
  over-approximation `vneedI ≤ maxNestedLevels` of `MapDataOKC` / `ArrDataOKC` / `ArrDataOKW`.  The
  slabs below are deeper than that clause allows — 15 nested inlined arrays (`vneedI + 1 = 47`),
  7 nested inlined maps (`vneedI = 39`), a value under 32 wrappers (`vneedI + 1 = 34`) — and the general
  theorems `C07.decode_encode`, `C07.reencode_fixpoint`, `C06.decoded_size_eq`, `C06.enc_len` apply
  to them; one level more and the register does not decode (`ad16_rejected`, `md8_rejected`), so the
  clause cannot be weakened.
-/
namespace Atree.C07
open Atree Atree.Codec Atree.Gen

/-- 15 nested inlined arrays: in the domain of the general theorems … -/
theorem slabOKG_ad15 : SlabOKG (.adata (ad 15)) := Or.inl arrDataOKX_ad15

/-- … 7 nested inlined maps too -/
theorem slabOKG_md7 : SlabOKG (.mdata (md 7)) := mapDataOKX_md7

/-- … although neither meets the coarser hypotheses (`ArrDataOKC` / `ArrDataOKW`, `MapDataOKC`) -/
theorem ad15_md7_not_okc : ¬ ArrDataOKC (ad 15) ∧ ¬ ArrDataOKW (ad 15) ∧ ¬ MapDataOKC (md 7) := by
  refine ⟨not_arrDataOKC_ad15, fun ok => ?_, not_mapDataOKC_md7⟩
  have := ok.nest
  have h : vneedISts (ad 15).elems = 1 + 3 * 15 := vneedISts_arrNest 15
  rw [h] at this
  simp only [maxNestedLevels] at this
  omega

/-- the general round trip on them -/
example (n : Nat) :
    decodeSlab (Slab.adata (ad 15)).id (encodeSlab (.adata (ad 15))) n
      = .ok (normSlab (.adata (ad 15))) (n + (Slab.adata (ad 15)).decodeAllocsG) :=
  decode_encode (.adata (ad 15)) slabOKG_ad15 n

example (n : Nat) :
    decodeSlab (Slab.mdata (md 7)).id (encodeSlab (.mdata (md 7))) n
      = .ok (normSlab (.mdata (md 7))) (n + (Slab.mdata (md 7)).decodeAllocsG) :=
  decode_encode (.mdata (md 7)) slabOKG_md7 n

/-- … the re-encoding fixpoint and the size law -/
example (n : Nat) (s' : Slab) (k : Nat)
    (h : decodeSlab (Slab.mdata (md 7)).id (encodeSlab (.mdata (md 7))) n = .ok s' k) :
    encodeSlab s' = encodeSlab (.mdata (md 7)) :=
  reencode_fixpoint (.mdata (md 7)) slabOKG_md7 n s' k h

example (n : Nat) :
    ∃ s' k, decodeSlab (Slab.adata (ad 15)).id (encodeSlab (.adata (ad 15))) n = .ok s' k ∧
      s'.byteSize = (Slab.adata (ad 15)).byteSize :=
  C06.decoded_size_eq (.adata (ad 15)) slabOKG_ad15 n

example :
    (encodeSlab (.adata (ad 15))).length + (Slab.adata (ad 15)).omittedNext + (Slab.adata (ad 15)).hoisted
      = (Slab.adata (ad 15)).byteSize + (Slab.adata (ad 15)).extraDataLen :=
  C06.enc_len (.adata (ad 15)) slabOKG_ad15 (fun _ => rfl)

/-- `k` wrappers around a small value -/
def wrapN : Nat → Stor
  | 0 => .val 2 1
  | k + 1 => .some (wrapN k)

/-- an array data slab (root, no inlined child) whose one element is a value under 32 wrappers:
    tag numbers 32 deep below the element array's head = validator depth 32 -/
def aw32 : ArrData := { id := ⟨1, 1⟩, next := SlabID.undef, ty := some (.plain 1), elems := [wrapN 32] }

theorem rti_wrapN : ∀ k, (wrapN k).RTI
  | 0 => by simp only [wrapN, Stor.RTI]; decide
  | k + 1 => by simp only [wrapN, Stor.RTI]; exact rti_wrapN k

theorem noInl_wrapN : ∀ k, (wrapN k).noInl
  | 0 => trivial
  | k + 1 => noInl_wrapN k

theorem vneedI_wrapN : ∀ k, (wrapN k).vneedI = k + 1
  | 0 => rfl
  | k + 1 => by simp only [wrapN, Stor.vneedI, vneedI_wrapN k]

theorem arrDataOKWX_aw32 : ArrDataOKWX aw32 where
  rt := ⟨rti_wrapN 32, trivial⟩
  noInl := ⟨noInl_wrapN 32, trivial⟩
  wrapped := ⟨wrapN 32, by simp [aw32], rfl⟩
  nest := by decide
  count := by decide
  next := by decide
  ty := fun t h => by cases h; decide
  size := by decide

/-- it is outside the coarser `ArrDataOKW` (`vneedISts + 1 = 34 > 32`) -/
theorem not_arrDataOKW_aw32 : ¬ ArrDataOKW aw32 := by
  intro ok
  have := ok.nest
  have h : vneedISts aw32.elems = 33 := by
    simp only [aw32, vneedISts, vneedI_wrapN]; decide
  rw [h] at this
  simp only [maxNestedLevels] at this
  omega

theorem slabOKG_aw32 : SlabOKG (.adata aw32) := Or.inr arrDataOKWX_aw32

/-- the general round trip gives the slab itself back (no compact map) -/
example (n : Nat) : ∃ k, decodeSlab aw32.id (encodeSlab (.adata aw32)) n = .ok (.adata aw32) k := by
  have h := decode_encode (.adata aw32) slabOKG_aw32 n
  rw [normSlab_noCompact (.adata aw32) (noCompactSts_of_noInl _ arrDataOKWX_aw32.noInl)] at h
  exact ⟨_, h⟩

/-- … and 33 wrappers are one too many: the validator rejects the element array -/
example (extra : Bytes) :
    wfNext (arrayHead16 1 ++ ((encSts [wrapN 33] []).1 ++ extra)) = none :=
  wfNext_arrElements_tooDeep { aw32 with elems := [wrapN 33] } ⟨rti_wrapN 33, trivial⟩
    (nodupKeysSts_of_noCompact _ (noCompactSts_of_noInl _ ⟨noInl_wrapN 33, trivial⟩))
    (by decide) (by decide) extra

end Atree.C07

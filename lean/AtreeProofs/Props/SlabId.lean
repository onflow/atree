import AtreeModel.SlabIdBytes
import AtreeModel.Codec.Encode
import AtreeModel.Storage
import AtreeProofs.SlabIdBytes
import AtreeProofs.OrderLemmas
/-
  Byte-level slab identifiers (helper lemmas: AtreeProofs/SlabIdBytes.lean).

  The model of the rest of the framework identifies a slab by two numbers `(addr, idx)`
  (`Atree.SlabID`); the Go code uses 8 + 8 bytes.  The theorems below show that every byte-level
  function of slab_id.go / value_id.go / slab_id_storable.go is, through `SlabIDB.toModel`
  (big-endian reading, a bijection onto the pairs below 2^64), exactly the numeric operation the
  model uses:

    C04  `compare_eq_numeric`, `sortedKeysLess_eq_lt`, `sortedKeysLess_iff_compare` — the order in
         which the deterministic commit writes (numeric, `SlabID.lt`) IS the byte order of `Compare`.
    C10  `valueID_is_raw_bytes`, `valueID_equal_iff` — a value identifier is the 16 raw bytes of the
         root slab identifier.
    C15/C03  `register_injective` — distinct identifiers never share a ledger register.
    C09  `next_numeric`, `next_injective`, `tempGenerate_numeric` — allocation is "+1 mod 2^64".
-/
namespace Atree.SlabIdB
open Atree

/-- What `ToRawBytes` writes: the 16 identifier bytes over the start of the buffer, the rest of the
    buffer untouched, return value 16 — for every buffer of at least 16 bytes. -/
theorem toRawBytes_eq (id : SlabIDB) (b : Bytes) (h : 16 ≤ b.length) :
    id.toRawBytes b = .ok (16, id.address.val ++ id.index.val ++ b.drop 16) := by
  have ha := addr_len id.address
  have hi := index_len id.index
  unfold SlabIDB.toRawBytes
  have h16 : ¬ b.length < 16 := by omega
  simp only [Gen.SlabAddressLength, Gen.SlabIDLength, h16, if_false]
  rw [goCopy_of_le (by omega), ha]
  rw [List.take_left' ha, List.drop_left' ha, goCopy_of_le (by rw [List.length_drop]; omega), hi, List.drop_drop]
  simp [List.append_assoc]

/-- `ToRawBytes` fails exactly on buffers shorter than 16 bytes (and then reports that length). -/
theorem toRawBytes_error_iff (id : SlabIDB) (b : Bytes) (e : SlabIdErr) :
    id.toRawBytes b = .error e ↔ b.length < 16 ∧ e = .bufferLength b.length := by
  unfold SlabIDB.toRawBytes
  simp only [Gen.SlabIDLength]
  by_cases h : b.length < 16
  · simp only [h, if_true, true_and, Except.error.injEq]; exact eq_comm
  · simp [h]

/-- What `NewSlabIDFromRawBytes` reads: bytes 0..7 and 8..15; everything after is ignored. -/
theorem newSlabIDFromRawBytes_eq (b : Bytes) (h : 16 ≤ b.length) :
    ∃ id, newSlabIDFromRawBytes b = .ok id ∧ id.address.val = b.take 8 ∧
      id.index.val = (b.drop 8).take 8 := by
  unfold newSlabIDFromRawBytes
  have h16 : ¬ b.length < Gen.SlabIDLength := by simp only [Gen.SlabIDLength]; omega
  simp only [h16, if_false]
  refine ⟨_, rfl, ?_, ?_⟩
  · show (goCopy (zeros Gen.SlabAddressLength) b).1 = _
    simp only [Gen.SlabAddressLength]
    exact goCopy_zeros_of_le (by omega)
  · show (goCopy (zeros Gen.SlabIndexLength) (b.drop Gen.SlabAddressLength)).1 = _
    simp only [Gen.SlabAddressLength, Gen.SlabIndexLength]
    exact goCopy_zeros_of_le (by rw [List.length_drop]; omega)

/-- `NewSlabIDFromRawBytes` fails exactly on buffers shorter than 16 bytes.  In particular a LONGER
    buffer is not an error (see `newSlabIDFromRawBytes_ignores_tail`). -/
theorem newSlabIDFromRawBytes_error_iff (b : Bytes) (e : SlabIdErr) :
    newSlabIDFromRawBytes b = .error e ↔ b.length < 16 ∧ e = .bufferLength b.length := by
  unfold newSlabIDFromRawBytes
  simp only [Gen.SlabIDLength]
  by_cases h : b.length < 16
  · simp only [h, if_true, true_and, Except.error.injEq]; exact eq_comm
  · simp [h]

theorem newSlabIDFromRawBytes_ignores_tail (b tail : Bytes) (h : 16 ≤ b.length) :
    newSlabIDFromRawBytes (b ++ tail) = newSlabIDFromRawBytes b := by
  obtain ⟨i1, e1, a1, x1⟩ := newSlabIDFromRawBytes_eq (b ++ tail) (by rw [List.length_append]; omega)
  obtain ⟨i2, e2, a2, x2⟩ := newSlabIDFromRawBytes_eq b h
  rw [e1, e2]
  congr 1
  apply SlabIDB.ext'
  · rw [a1, a2, List.take_append_of_le_length (by omega)]
  · rw [x1, x2, List.drop_append_of_le_length (by omega),
      List.take_append_of_le_length (by rw [List.length_drop]; omega)]

/-- Round trip 1: what `ToRawBytes` wrote is read back by `NewSlabIDFromRawBytes`, whatever the
    buffer held before and however long it is (≥ 16). -/
theorem raw_roundtrip (id : SlabIDB) (b : Bytes) (h : 16 ≤ b.length) :
    ∃ b', id.toRawBytes b = .ok (16, b') ∧ b'.length = b.length ∧
      b'.take 16 = id.address.val ++ id.index.val ∧ b'.drop 16 = b.drop 16 ∧
      newSlabIDFromRawBytes b' = .ok id := by
  have ha := addr_len id.address
  have hi := index_len id.index
  refine ⟨_, toRawBytes_eq id b h, ?_, ?_, ?_, ?_⟩
  · simp only [List.length_append, List.length_drop, ha, hi]; omega
  · exact List.take_left' (by rw [List.length_append, ha, hi])
  · exact List.drop_left' (by rw [List.length_append, ha, hi])
  · obtain ⟨i, e, a, x⟩ := newSlabIDFromRawBytes_eq (id.address.val ++ id.index.val ++ b.drop 16)
      (by simp only [List.length_append, ha, hi]; omega)
    rw [e]
    congr 1
    apply SlabIDB.ext'
    · rw [a, List.append_assoc, List.take_left' ha]
    · rw [x, List.append_assoc, List.drop_left' ha, List.take_left' hi]

/-- Round trip 2: an identifier read from a buffer writes the first 16 bytes of that buffer. -/
theorem raw_roundtrip' (b : Bytes) (h : 16 ≤ b.length) :
    ∃ id, newSlabIDFromRawBytes b = .ok id ∧ id.toRawBytes (zeros 16) = .ok (16, b.take 16) := by
  obtain ⟨id, e, a, x⟩ := newSlabIDFromRawBytes_eq b h
  refine ⟨id, e, ?_⟩
  rw [toRawBytes_eq id _ (by simp [length_zeros]), a, x]
  have : (zeros 16).drop 16 = [] := List.drop_of_length_le (by simp [length_zeros])
  rw [this, List.append_nil]
  congr 1; congr 1
  have h1 : b.take 16 = b.take 8 ++ (b.drop 8).take 8 := by
    rw [← List.take_add]
  exact h1.symm

/-- `toModel` is injective: the two big-endian numbers determine the 16 bytes. -/
theorem toModel_injective {a b : SlabIDB} (h : a.toModel = b.toModel) : a = b := by
  simp only [SlabIDB.toModel, SlabIDB.addressAsUint64, SlabIDB.indexAsUint64, SlabID.mk.injEq] at h
  exact SlabIDB.ext' (beNat_inj (by rw [addr_len, addr_len]) h.1) (beNat_inj (by rw [index_len, index_len]) h.2)

/-- … and onto the pairs of numbers below 2^64. -/
theorem toModel_ofModel (i : SlabID) (ha : i.addr < 2 ^ 64) (hi : i.idx < 2 ^ 64) :
    (ofModel i).toModel = i := by
  cases i with
  | mk a x =>
    simp only [SlabIDB.toModel, ofModel, SlabIDB.addressAsUint64, SlabIDB.indexAsUint64,
      Gen.SlabAddressLength, Gen.SlabIndexLength]
    rw [beNat_putBE_of_lt (by simpa using ha), beNat_putBE_of_lt (by simpa using hi)]

theorem ofModel_toModel (id : SlabIDB) : ofModel id.toModel = id := by
  apply toModel_injective
  exact toModel_ofModel _ (addressAsUint64_lt id) (indexAsUint64_lt id)

theorem toModel_bounds (id : SlabIDB) : id.toModel.addr < 2 ^ 64 ∧ id.toModel.idx < 2 ^ 64 :=
  ⟨addressAsUint64_lt id, indexAsUint64_lt id⟩

/-- `SlabIDUndefined` is the numeric `SlabID.undef`, and nothing else is. -/
theorem toModel_undef_iff (id : SlabIDB) : id.toModel = SlabID.undef ↔ id = SlabIDUndefined := by
  have hu : SlabIDUndefined.toModel = SlabID.undef := by
    simp [SlabIDB.toModel, SlabIDUndefined, AddressUndefined, SlabIndexUndefined,
      SlabIDB.addressAsUint64, SlabIDB.indexAsUint64, beNat_zeros, SlabID.undef]
  constructor
  · intro h; exact toModel_injective (h.trans hu.symm)
  · intro h; rw [h, hu]

/-- `Compare` (two `bytes.Compare`s) is the numeric lexicographic comparison of
    `(AddressAsUint64, IndexAsUint64)`, i.e. of the model's `SlabID.lt`. -/
theorem compare_eq_numeric (a b : SlabIDB) :
    a.compare b = if SlabID.lt a.toModel b.toModel then -1 else if a = b then 0 else 1 := by
  have hal : a.address.val.length = b.address.val.length := by rw [addr_len, addr_len]
  have hil : a.index.val.length = b.index.val.length := by rw [index_len, index_len]
  have hab : a = b ↔ a.toModel = b.toModel := ⟨fun h => by rw [h], toModel_injective⟩
  have key : ∀ A B I J : Nat,
      (if (if A < B then (-1 : Int) else if A = B then 0 else 1) = 0 then
          (if I < J then (-1 : Int) else if I = J then 0 else 1)
        else (if A < B then (-1 : Int) else if A = B then 0 else 1)) =
      if SlabID.lt ⟨A, I⟩ ⟨B, J⟩ = true then -1 else if (⟨A, I⟩ : SlabID) = ⟨B, J⟩ then 0 else 1 := by
    intro A B I J
    by_cases l : SlabID.lt ⟨A, I⟩ ⟨B, J⟩ = true
    · rw [if_pos l]
      rw [lt_iff] at l
      simp only at l
      rcases l with l | ⟨l1, l2⟩
      · simp [l]
      · subst l1; simp [l2]
    · rw [if_neg l]
      have l' := (lt_false_iff _ _).1 (by simpa using l)
      simp only at l'
      by_cases e : (⟨A, I⟩ : SlabID) = ⟨B, J⟩
      · rw [if_pos e]
        simp only [SlabID.mk.injEq] at e
        obtain ⟨e1, e2⟩ := e
        subst e1; subst e2; simp
      · rw [if_neg e]
        simp only [SlabID.mk.injEq] at e
        by_cases h1 : A < B
        · omega
        · by_cases h2 : A = B
          · subst h2
            have h3 : ¬ I < J := by omega
            have h4 : ¬ I = J := by omega
            simp [h3, h4]
          · simp [h1, h2]
  simp only [SlabIDB.compare, bytesCompare_eq_numeric _ _ hal, bytesCompare_eq_numeric _ _ hil, hab]
  exact key _ _ _ _

/-- `Compare` tells which of the three cases of the numeric order holds. -/
theorem compare_trichotomy (a b : SlabIDB) :
    (a.compare b = -1 ∧ SlabID.lt a.toModel b.toModel = true ∧ a ≠ b ∧ SlabID.lt b.toModel a.toModel = false) ∨
    (a.compare b = 0 ∧ a = b) ∨
    (a.compare b = 1 ∧ SlabID.lt b.toModel a.toModel = true ∧ a ≠ b ∧ SlabID.lt a.toModel b.toModel = false) := by
  rw [compare_eq_numeric]
  by_cases h : SlabID.lt a.toModel b.toModel = true
  · have h' := (lt_iff _ _).1 h
    refine Or.inl ⟨if_pos h, h, ?_, ?_⟩
    · rintro rfl; rw [lt_irrefl] at h; cases h
    · rw [lt_false_iff]; omega
  · rw [if_neg h]
    by_cases e : a = b
    · exact Or.inr (Or.inl ⟨if_pos e, e⟩)
    · have hne : ¬ (a.toModel.addr = b.toModel.addr ∧ a.toModel.idx = b.toModel.idx) :=
        fun x => e (toModel_injective ((slabID_eq_iff _ _).2 x))
      rw [Bool.not_eq_true] at h
      have h' := (lt_false_iff _ _).1 h
      exact Or.inr (Or.inr ⟨if_neg e, by rw [lt_iff]; omega, e, h⟩)

theorem compare_eq_zero_iff (a b : SlabIDB) : a.compare b = 0 ↔ a = b := by
  rcases compare_trichotomy a b with ⟨h, _, e, _⟩ | ⟨h, rfl⟩ | ⟨h, _, e, _⟩ <;> simp [*]

theorem compare_lt_iff (a b : SlabIDB) : a.compare b = -1 ↔ SlabID.lt a.toModel b.toModel = true := by
  rcases compare_trichotomy a b with ⟨h, l, _, _⟩ | ⟨h, rfl⟩ | ⟨h, _, _, l⟩ <;> simp [*, lt_irrefl]

theorem compare_gt_iff (a b : SlabIDB) : a.compare b = 1 ↔ SlabID.lt b.toModel a.toModel = true := by
  rcases compare_trichotomy a b with ⟨h, _, _, l⟩ | ⟨h, rfl⟩ | ⟨h, l, _, _⟩ <;> simp [*, lt_irrefl]

/-- `Compare` is antisymmetric: swapping the arguments negates the result. -/
theorem compare_antisymm (a b : SlabIDB) : b.compare a = - a.compare b := by
  rcases compare_trichotomy a b with ⟨h, l, _, _⟩ | ⟨h, rfl⟩ | ⟨h, l, _, _⟩
  · rw [h, (compare_gt_iff b a).2 l]; rfl
  · rw [h]; rfl
  · rw [h, (compare_lt_iff b a).2 l]

/-- `Compare … < 0` is a strict total order on identifiers. -/
theorem compare_strict_total (a b c : SlabIDB) :
    a.compare a = 0 ∧
    (a.compare b = -1 → b.compare c = -1 → a.compare c = -1) ∧
    (a ≠ b → (a.compare b = -1 ∨ b.compare a = -1)) ∧
    (a.compare b = -1 ∨ a.compare b = 0 ∨ a.compare b = 1) := by
  refine ⟨(compare_eq_zero_iff a a).2 rfl, ?_, ?_, ?_⟩
  · simp only [compare_lt_iff, lt_iff]
    omega
  · intro hne
    rcases compare_trichotomy a b with ⟨h, _⟩ | ⟨_, e⟩ | ⟨_, l, _⟩
    · exact Or.inl h
    · exact absurd e hne
    · exact Or.inr ((compare_lt_iff b a).2 l)
  · rcases compare_trichotomy a b with ⟨h, _⟩ | ⟨h, _⟩ | ⟨h, _⟩
    · exact Or.inl h
    · exact Or.inr (Or.inl h)
    · exact Or.inr (Or.inr h)

/-- The comparison function of `sortedOwnedDeltaKeys` (numeric, written without `Compare`) is the
    model's `SlabID.lt` on the numeric reading … -/
theorem sortedKeysLess_eq_lt (a b : SlabIDB) :
    sortedKeysLess a b = SlabID.lt a.toModel b.toModel := by
  simp only [sortedKeysLess, SlabID.lt, SlabIDB.toModel]
  by_cases h : a.address = b.address
  · have : a.addressAsUint64 = b.addressAsUint64 := by simp [SlabIDB.addressAsUint64, h]
    rw [if_pos h]
    simp only [this, beq_self_eq_true, if_true]
    rfl
  · have : ¬ a.addressAsUint64 = b.addressAsUint64 := by
      intro e; exact h ((address_eq_iff _ _).2 e)
    have hb : (a.addressAsUint64 == b.addressAsUint64) = false := by simpa using this
    rw [if_neg h]
    simp only [hb, Bool.false_eq_true, if_false]
    rfl

/-- … and is the byte order of `Compare`: the deterministic commit writes in ascending
    `bytes.Compare` order of the 16 identifier bytes. -/
theorem sortedKeysLess_iff_compare (a b : SlabIDB) :
    sortedKeysLess a b = true ↔ a.compare b = -1 := by
  rw [sortedKeysLess_eq_lt, compare_lt_iff]

/-- Lexicographic order of the 16 raw bytes = `Compare` (one `bytes.Compare` over the
    concatenation gives the same answer as the two-stage comparison). -/
theorem compare_eq_raw_bytesCompare (a b : SlabIDB) :
    a.compare b = bytesCompare (a.address.val ++ a.index.val) (b.address.val ++ b.index.val) := by
  have key : ∀ (x y u v : Bytes), x.length = y.length →
      bytesCompare (x ++ u) (y ++ v) =
        if bytesCompare x y = 0 then bytesCompare u v else bytesCompare x y := by
    intro x
    induction x with
    | nil => intro y u v h; cases y with
      | nil => simp [bytesCompare]
      | cons _ _ => simp at h
    | cons p ps ih =>
      intro y u v h
      cases y with
      | nil => simp at h
      | cons q qs =>
        have h' : ps.length = qs.length := by simpa using h
        simp only [List.cons_append, bytesCompare]
        by_cases h1 : p < q
        · simp [h1]
        · by_cases h2 : q < p
          · simp [h1, h2]
          · simp only [h1, h2, if_false]
            exact ih qs u v h'
  rw [key _ _ _ _ (by rw [addr_len, addr_len])]
  rfl

/-- `SlabIndex.Next` is `+1 mod 2^64` on `IndexAsUint64`. -/
theorem next_numeric (i : SlabIndex) : beNat i.next.val = (beNat i.val + 1) % 2 ^ 64 := by
  simp only [SlabIndex.next, Gen.SlabIndexLength]
  rw [beNat_putBE]
  exact Nat.mod_eq_of_lt (Nat.mod_lt _ (by omega))

/-- Below the last index there is no wrap-around. -/
theorem next_numeric_of_lt (i : SlabIndex) (h : beNat i.val < 2 ^ 64 - 1) :
    beNat i.next.val = beNat i.val + 1 := by
  rw [next_numeric, Nat.mod_eq_of_lt (by omega)]

/-- The one wrap-around: the successor of `ff ff ff ff ff ff ff ff` is `SlabIndexUndefined`. -/
theorem next_wraps (i : SlabIndex) : i.next = SlabIndexUndefined ↔ beNat i.val = 2 ^ 64 - 1 := by
  rw [index_eq_iff, next_numeric]
  have h0 : beNat SlabIndexUndefined.val = 0 := beNat_zeros _
  have hlt : beNat i.val < 2 ^ 64 := by have := beNat_lt i.val; rwa [index_len] at this
  rw [h0]
  omega

theorem next_injective {i j : SlabIndex} (h : i.next = j.next) : i = j := by
  have hi : beNat i.val < 2 ^ 64 := by have := beNat_lt i.val; rwa [index_len] at this
  have hj : beNat j.val < 2 ^ 64 := by have := beNat_lt j.val; rwa [index_len] at this
  have := (index_eq_iff _ _).1 h
  rw [next_numeric, next_numeric] at this
  apply (index_eq_iff _ _).2
  omega

theorem next_ne_self (i : SlabIndex) : i.next ≠ i := by
  intro h
  have hi : beNat i.val < 2 ^ 64 := by have := beNat_lt i.val; rwa [index_len] at this
  have := (index_eq_iff _ _).1 h
  rw [next_numeric] at this
  omega

/-- The temporary-address allocator of `PersistentSlabStorage.GenerateSlabID` produces the bytes
    of counter+1 (mod 2^64) under the all-zero address: numerically `⟨0, tempIx + 1⟩`, the
    identifier `St.generateSlabID` of `AtreeModel/Storage.lean` hands out. -/
theorem tempGenerate_numeric (t : Nat) :
    (tempGenerate t).1.toModel = ⟨0, (t + 1) % 2 ^ 64⟩ ∧ (tempGenerate t).2 = (t + 1) % 2 ^ 64 ∧
    (tempGenerate t).1.hasTempAddress = true := by
  refine ⟨?_, rfl, ?_⟩
  · simp only [tempGenerate, SlabIDB.toModel, SlabIDB.addressAsUint64, SlabIDB.indexAsUint64,
      AddressUndefined, beNat_zeros, Gen.SlabIndexLength, SlabID.mk.injEq, true_and]
    rw [beNat_putBE]
    exact Nat.mod_eq_of_lt (Nat.mod_lt _ (by omega))
  · simp [tempGenerate, SlabIDB.hasTempAddress]

/-- `tempGenerate` on a counter that fits is `Next` of the counter's bytes. -/
theorem tempGenerate_eq_next (t : Nat) (h : t < 2 ^ 64) :
    (tempGenerate t).1 = ⟨AddressUndefined, (indexOfNat t).next⟩ := by
  apply toModel_injective
  rw [(tempGenerate_numeric t).1]
  simp only [SlabIDB.toModel, SlabIDB.addressAsUint64, SlabIDB.indexAsUint64, AddressUndefined,
    beNat_zeros, SlabID.mk.injEq, true_and]
  rw [next_numeric]
  simp only [indexOfNat, Gen.SlabIndexLength]
  rw [beNat_putBE_of_lt (by simpa using h)]

/-- `HasTempAddress` ⇔ all eight address bytes are zero ⇔ `AddressAsUint64 = 0` ⇔ the model's `isTemp`. -/
theorem hasTempAddress_iff (id : SlabIDB) :
    (id.hasTempAddress = true ↔ id.address.val = zeros 8) ∧
    (id.hasTempAddress = true ↔ id.addressAsUint64 = 0) ∧
    id.hasTempAddress = id.toModel.isTemp := by
  have h1 : id.hasTempAddress = true ↔ id.address.val = zeros 8 := by
    unfold SlabIDB.hasTempAddress
    rw [beq_iff_eq]
    constructor
    · intro h; rw [h]; rfl
    · intro h; exact Subtype.ext h
  have h2 : id.address.val = zeros 8 ↔ id.addressAsUint64 = 0 := by
    rw [SlabIDB.addressAsUint64, beNat_eq_zero_iff, addr_len]
  refine ⟨h1, h1.trans h2, ?_⟩
  have := h1.trans h2
  simp only [SlabID.isTemp, SlabIDB.toModel]
  by_cases h : id.addressAsUint64 = 0
  · rw [this.2 h]; simp [h]
  · have : id.hasTempAddress = false := by
      cases hh : id.hasTempAddress
      · rfl
      · exact absurd (this.1 hh) h
    rw [this]; simp [h]

/-- `Valid()` accepts exactly the identifiers with a non-zero index; its two errors:
    "undefined slab ID" iff all 16 bytes are zero, "undefined slab index" iff the index is zero and
    the address is not. -/
theorem valid_iff (id : SlabIDB) :
    (id.valid = .ok () ↔ id.indexAsUint64 ≠ 0) ∧
    (id.valid = .error .undefinedSlabID ↔ id.addressAsUint64 = 0 ∧ id.indexAsUint64 = 0) ∧
    (id.valid = .error .undefinedSlabIndex ↔ id.addressAsUint64 ≠ 0 ∧ id.indexAsUint64 = 0) ∧
    (∀ n, id.valid ≠ .error (.bufferLength n)) := by
  have hU : id = SlabIDUndefined ↔ id.addressAsUint64 = 0 ∧ id.indexAsUint64 = 0 := by
    rw [← toModel_undef_iff]
    simp [SlabIDB.toModel, SlabID.undef]
  have hI : id.index = SlabIndexUndefined ↔ id.indexAsUint64 = 0 := by
    rw [index_eq_iff, SlabIDB.indexAsUint64]
    have : beNat SlabIndexUndefined.val = 0 := beNat_zeros _
    rw [this]
  unfold SlabIDB.valid
  by_cases h1 : id = SlabIDUndefined
  · have := hU.1 h1
    rw [if_pos h1]
    simp [this.1, this.2]
  · by_cases h2 : id.index = SlabIndexUndefined
    · have i0 := hI.1 h2
      have a0 : id.addressAsUint64 ≠ 0 := fun a => h1 (hU.2 ⟨a, i0⟩)
      simp [h1, h2, i0, a0]
    · have i0 : id.indexAsUint64 ≠ 0 := fun a => h2 (hI.2 a)
      simp [h1, h2, i0]

/-- `Valid()` is strictly stronger than the guard of `PersistentSlabStorage.Store` / `Remove`
    (`id == SlabIDUndefined`): an identifier with an address and index 0 passes the guard and is
    not valid. -/
theorem store_guard_weaker_than_valid :
    (∀ id : SlabIDB, id.valid = .ok () → id ≠ SlabIDUndefined) ∧
    (∃ id : SlabIDB, id ≠ SlabIDUndefined ∧ id.valid = .error .undefinedSlabIndex) := by
  constructor
  · intro id h e
    subst e
    simp [SlabIDB.valid] at h
  · exact ⟨ofModel ⟨1, 0⟩, by decide, rfl⟩

/-- The commit order on bytes is the commit order of the numeric model: sorting the byte-level keys
    as `sortedOwnedDeltaKeys` does and reading the result as numbers gives exactly the list
    `St.sortIDs` (Storage.lean) computes from the numeric keys — the list whose ascending order
    `C04.fastcommit_order_sorted` is about. -/
theorem sortedOwnedKeysB_toModel (keys : List SlabIDB) :
    (sortedOwnedKeysB keys).map SlabIDB.toModel =
      St.sortIDs ((keys.map SlabIDB.toModel).filter (fun k => !k.isTemp)) := by
  have hfil : (keys.filter (fun k => !k.hasTempAddress)).map SlabIDB.toModel =
      (keys.map SlabIDB.toModel).filter (fun k => !k.isTemp) := by
    induction keys with
    | nil => rfl
    | cons x xs ih =>
      have hx := (hasTempAddress_iff x).2.2
      cases ht : x.toModel.isTemp
      · rw [ht] at hx; simp [List.filter_cons, hx, ht, ih]
      · rw [ht] at hx; simp [List.filter_cons, hx, ht, ih]
  have hB : insertSortedB = insBy sortedKeysLess := funext fun k => funext (insertSortedB_eq_insBy k)
  have hS : St.insertSorted = insBy SlabID.lt := funext fun k => funext (St.insertSorted_eq_insBy k)
  unfold sortedOwnedKeysB St.sortIDs
  rw [← hfil, hB, hS]
  exact map_foldr_insBy _ SlabIDB.toModel (fun a b => (sortedKeysLess_eq_lt a b).symm) _

/-- The byte-level write order of the deterministic commit is strictly ascending in `Compare`
    for every write set without duplicate keys (the keys of a Go map). -/
theorem sortedOwnedKeysB_sorted (keys : List SlabIDB) (h : keys.Nodup) :
    (sortedOwnedKeysB keys).Pairwise (fun a b => a.compare b = -1) := by
  -- read as numbers the list is `St.sortIDs` of distinct keys, which is ascending
  have hnd : ((keys.map SlabIDB.toModel).filter (fun k => !k.isTemp)).Nodup :=
    List.Nodup.sublist List.filter_sublist
      (List.pairwise_map.2 (List.Pairwise.imp (fun hab e => hab (toModel_injective e)) h))
  have hs := St.pairwise_sortIDs _ hnd
  rw [← sortedOwnedKeysB_toModel, List.pairwise_map] at hs
  exact hs.imp (fun h => (compare_lt_iff _ _).2 h)

/-- A value identifier is the 16 raw bytes of the slab identifier it was made from
    (`slabIDToValueID` writes what `ToRawBytes` writes). -/
theorem valueID_is_raw_bytes (sid : SlabIDB) :
    (slabIDToValueID sid).val = sid.address.val ++ sid.index.val ∧
    sid.toRawBytes (zeros 16) = .ok (16, (slabIDToValueID sid).val) := by
  have ha := addr_len sid.address
  have hi := index_len sid.index
  have h1 : (slabIDToValueID sid).val = sid.address.val ++ sid.index.val := by
    show (goCopy (zeros Gen.ValueIDLength) sid.address.val).1.take (goCopy (zeros Gen.ValueIDLength) sid.address.val).2 ++
      (goCopy ((goCopy (zeros Gen.ValueIDLength) sid.address.val).1.drop (goCopy (zeros Gen.ValueIDLength) sid.address.val).2) sid.index.val).1 = _
    have hv : Gen.ValueIDLength = 16 := rfl
    rw [goCopy_snd, goCopy_of_le (by rw [length_zeros, hv]; omega), length_zeros, ha, hv]
    have m : min 16 8 = 8 := rfl
    rw [m, List.take_left' ha, List.drop_left' ha,
      goCopy_of_le (by simp [length_zeros, hi]), hi]
    have : (List.drop 8 (zeros 16)).drop 8 = [] := by
      rw [List.drop_drop]; exact List.drop_of_length_le (by simp [length_zeros])
    rw [this, List.append_nil]
  refine ⟨h1, ?_⟩
  rw [toRawBytes_eq _ _ (by simp [length_zeros]), h1]
  have : (zeros 16).drop 16 = [] := List.drop_of_length_le (by simp [length_zeros])
  rw [this, List.append_nil]

/-- `ValueID.equal(sid)` holds exactly when the value identifier is `slabIDToValueID sid`. -/
theorem valueID_equal_iff (vid : ValueID) (sid : SlabIDB) :
    vid.equal sid = true ↔ vid = slabIDToValueID sid := by
  have ha := addr_len sid.address
  have hv : vid.val.length = 16 := vid.property
  simp only [ValueID.equal, bytesEqual, Bool.and_eq_true, beq_iff_eq, ha]
  constructor
  · intro ⟨h1, h2⟩
    apply Subtype.ext
    rw [(valueID_is_raw_bytes sid).1, ← h1, ← h2, List.take_append_drop]
  · intro h
    rw [h, (valueID_is_raw_bytes sid).1]
    constructor
    · exact List.take_left' ha
    · exact List.drop_left' ha

/-- Distinct slab identifiers have distinct value identifiers, and the slab identifier is
    recovered from the value identifier by `NewSlabIDFromRawBytes`. -/
theorem slabIDToValueID_injective {a b : SlabIDB} (h : slabIDToValueID a = slabIDToValueID b) : a = b := by
  have := congrArg Subtype.val h
  rw [(valueID_is_raw_bytes a).1, (valueID_is_raw_bytes b).1] at this
  have hl : a.address.val.length = b.address.val.length := by rw [addr_len, addr_len]
  obtain ⟨h1, h2⟩ := List.append_inj this hl
  exact SlabIDB.ext' h1 h2

theorem valueID_to_slabID (sid : SlabIDB) :
    newSlabIDFromRawBytes (slabIDToValueID sid).val = .ok sid := by
  obtain ⟨b', e, _, _, _, r⟩ := raw_roundtrip sid (zeros 16) (by simp [length_zeros])
  rw [(valueID_is_raw_bytes sid).2] at e
  simp only [Except.ok.injEq, Prod.mk.injEq, true_and] at e
  rw [e]; exact r

/-- `ValueID.String()` prints what `SlabID.String()` prints. -/
theorem valueID_toStr (sid : SlabIDB) : (slabIDToValueID sid).toStr = sid.toStr := by
  have ha := addr_len sid.address
  simp only [ValueID.toStr, SlabIDB.toStr, (valueID_is_raw_bytes sid).1, Gen.SlabAddressLength,
    SlabIDB.addressAsUint64, SlabIDB.indexAsUint64]
  rw [List.take_left' ha, List.drop_left' ha]

/-- `SlabIndexToLedgerKey`: 9 bytes, `'$'` then the index. -/
theorem ledgerKey_shape (i : SlabIndex) :
    (slabIndexToLedgerKey i).length = 9 ∧ (slabIndexToLedgerKey i).head? = some 0x24 ∧
    (slabIndexToLedgerKey i).tail = i.val ∧ ledgerKeyIsSlabKey (slabIndexToLedgerKey i) = true := by
  have := index_len i
  simp [slabIndexToLedgerKey, ledgerPrefix, ledgerKeyIsSlabKey, this, List.isPrefixOf]

theorem ledgerKey_injective {i j : SlabIndex} (h : slabIndexToLedgerKey i = slabIndexToLedgerKey j) :
    i = j := by
  simp only [slabIndexToLedgerKey, ledgerPrefix, List.cons_append, List.nil_append, List.cons.injEq,
    true_and] at h
  exact Subtype.ext h

/-- What `LedgerKeyIsSlabKey` checks: that the key is non-empty and its first byte is `'$'` —
    nothing else. -/
theorem ledgerKeyIsSlabKey_iff (key : Bytes) :
    ledgerKeyIsSlabKey key = true ↔ ∃ rest, key = 0x24 :: rest := by
  cases key with
  | nil => simp [ledgerKeyIsSlabKey, ledgerPrefix]
  | cons k ks => simp [ledgerKeyIsSlabKey, ledgerPrefix]; exact eq_comm

/-- So it accepts every slab-index key, but also keys that are NOT the key of any slab index
    (wrong length); it is a necessary, not a sufficient test. -/
theorem ledgerKeyIsSlabKey_not_exact :
    (∀ i, ledgerKeyIsSlabKey (slabIndexToLedgerKey i) = true) ∧
    (∃ key, ledgerKeyIsSlabKey key = true ∧ ∀ i, slabIndexToLedgerKey i ≠ key) := by
  refine ⟨fun i => (ledgerKey_shape i).2.2.2, [0x24], by decide, ?_⟩
  intro i h
  have := (ledgerKey_shape i).1
  rw [h] at this
  simp at this

/-- The register of a slab is `(owner = address bytes, key = '$' ++ index bytes)`: distinct slab
    identifiers never share a register. -/
theorem register_injective {a b : SlabIDB}
    (h : (a.address.val, slabIndexToLedgerKey a.index) = (b.address.val, slabIndexToLedgerKey b.index)) :
    a = b := by
  simp only [Prod.mk.injEq] at h
  exact SlabIDB.ext' h.1 (congrArg Subtype.val (ledgerKey_injective h.2))

/-- `Encode` writes `d8 ff 50` and the 16 raw bytes: 19 bytes = `ByteSize()` = the constant
    `slabIDStorableSize` used throughout the container model. -/
theorem storableEncode_eq (v : SlabIDB) :
    storableEncode v = [0xd8, 0xff, 0x50] ++ v.address.val ++ v.index.val ∧
    (storableEncode v).length = storableByteSize ∧ storableByteSize = 19 := by
  have ha := addr_len v.address
  have hi := index_len v.index
  have ht : (v.address.val ++ v.index.val).take Gen.SlabIDLength = v.address.val ++ v.index.val :=
    List.take_of_length_le (by simp [ha, hi, Gen.SlabIDLength])
  have h1 : storableEncode v = [0xd8, 0xff, 0x50] ++ v.address.val ++ v.index.val := by
    simp only [storableEncode, ht, List.length_append, ha, hi, cborBytesHead]
    simp [Gen.CBORTagSlabID]
  refine ⟨h1, ?_, rfl⟩
  rw [h1]
  simp [ha, hi, storableByteSize, Gen.SlabIDLength]

/-- `ByteSize()` is the constant the container model uses for every slab reference. -/
theorem storableByteSize_eq : storableByteSize = Atree.slabIDStorableSize := rfl

/-- Decoding reads back the identifier; byte strings shorter than 16 are rejected with the
    slab-ID error; LONGER byte strings are ACCEPTED and the extra bytes dropped (so two different
    encodings decode to the same reference: `DecodeSlabIDStorable` is not injective on inputs). -/
theorem storableDecode_spec (v : SlabIDB) (extra : Bytes) :
    decodeSlabIDStorable (some (v.address.val ++ v.index.val)) = .ok v ∧
    decodeSlabIDStorable (some (v.address.val ++ v.index.val ++ extra)) = .ok v ∧
    (∀ b : Bytes, b.length < 16 → decodeSlabIDStorable (some b) = .slabIDError (.bufferLength b.length)) ∧
    decodeSlabIDStorable none = .decodingError := by
  have ha := addr_len v.address
  have hi := index_len v.index
  have hv := valueID_to_slabID v
  rw [(valueID_is_raw_bytes v).1] at hv
  refine ⟨?_, ?_, ?_, rfl⟩
  · simp [decodeSlabIDStorable, hv]
  · have := newSlabIDFromRawBytes_ignores_tail (v.address.val ++ v.index.val) extra (by simp [ha, hi])
    simp only [decodeSlabIDStorable, this, hv]
  · intro b hb
    have := (newSlabIDFromRawBytes_error_iff b (.bufferLength b.length)).2 ⟨hb, rfl⟩
    simp [decodeSlabIDStorable, this]

theorem map_toNat_putBE (k v : Nat) : (putBE k v).map UInt8.toNat = Codec.beBytes k v := by
  induction k with
  | zero => rfl
  | succ k ih =>
    have hb : (UInt8.ofNat (v / 256 ^ k % 256)).toNat = v / 256 ^ k % 256 := by
      rw [UInt8.toNat_ofNat']; exact Nat.mod_eq_of_lt (by omega)
    simp [putBE, Codec.beBytes, ih, hb]

/-- The codec model's `encodeSlabID` (numbers → 16 numbers below 256) produces exactly the raw
    bytes of the identifier. -/
theorem codec_encodeSlabID_eq (id : SlabIDB) :
    Codec.encodeSlabID id.toModel = (id.address.val ++ id.index.val).map UInt8.toNat := by
  have h1 := putBE_beNat id.address.val
  have h2 := putBE_beNat id.index.val
  rw [addr_len] at h1
  rw [index_len] at h2
  simp only [Codec.encodeSlabID, SlabIDB.toModel, SlabIDB.addressAsUint64, SlabIDB.indexAsUint64,
    Gen.SlabAddressLength, Gen.SlabIndexLength, List.map_append]
  rw [← map_toNat_putBE, ← map_toNat_putBE, h1, h2]

/-! ### Non-vacuity: concrete identifiers, including the boundaries -/
section NonVacuity
attribute [local instance] decEqExcept

def exA : SlabIDB := ofModel ⟨0x0102030405060708, 0x00000000000000ff⟩
def exB : SlabIDB := ofModel ⟨0x0102030405060708, 0x0000000000000100⟩
def exMax : SlabIndex := indexOfNat (2 ^ 64 - 1)

example : exA.address.val = [1, 2, 3, 4, 5, 6, 7, 8] ∧ exA.index.val = [0, 0, 0, 0, 0, 0, 0, 0xff] := by decide
/-- a carry across a byte boundary -/
example : exA.index.next = exB.index ∧ exB.index.val = [0, 0, 0, 0, 0, 0, 1, 0] := by decide
/-- carries across every byte boundary, and the wrap-around -/
example : (indexOfNat (2 ^ 56 - 1)).next.val = [1, 0, 0, 0, 0, 0, 0, 0] ∧ exMax.next = SlabIndexUndefined := by decide +kernel
example : exA.compare exB = -1 ∧ exB.compare exA = 1 ∧ exA.compare exA = 0 ∧ sortedKeysLess exA exB = true := by decide +kernel
/-- a write set with a temporary key, two addresses and a carry: sorted as bytes, read as numbers -/
example : (sortedOwnedKeysB [exB, ofModel ⟨0, 9⟩, ofModel ⟨2, 1⟩, exA, ofModel ⟨1, 2 ^ 64 - 1⟩]).map SlabIDB.toModel =
    [⟨1, 2 ^ 64 - 1⟩, ⟨2, 1⟩, ⟨0x0102030405060708, 255⟩, ⟨0x0102030405060708, 256⟩] := by decide +kernel
/-- byte order ≠ little-endian order: the last byte decides only when all others agree -/
example : (ofModel ⟨1, 2 ^ 56⟩).compare (ofModel ⟨1, 255⟩) = 1 := by decide
example : exA.toRawBytes (zeros 18) = .ok (16, [1, 2, 3, 4, 5, 6, 7, 8, 0, 0, 0, 0, 0, 0, 0, 0xff, 0, 0]) := by decide +kernel
example : exA.toRawBytes (zeros 15) = .error (.bufferLength 15) := by decide
example : newSlabIDFromRawBytes [1, 2, 3, 4, 5, 6, 7, 8, 0, 0, 0, 0, 0, 0, 0, 0xff, 9, 9] = .ok exA := by decide +kernel
example : slabIndexToLedgerKey exA.index = [0x24, 0, 0, 0, 0, 0, 0, 0, 0xff] := by decide
example : (slabIDToValueID exA).val = [1, 2, 3, 4, 5, 6, 7, 8, 0, 0, 0, 0, 0, 0, 0, 0xff] ∧
    (slabIDToValueID exA).equal exA = true ∧ (slabIDToValueID exA).equal exB = false := by decide +kernel
example : storableEncode exA = [0xd8, 0xff, 0x50, 1, 2, 3, 4, 5, 6, 7, 8, 0, 0, 0, 0, 0, 0, 0, 0xff] := by decide +kernel
example : (ofModel ⟨0, 5⟩).hasTempAddress = true ∧ exA.hasTempAddress = false ∧
    (ofModel ⟨7, 0⟩).valid = .error .undefinedSlabIndex ∧ SlabIDUndefined.valid = .error .undefinedSlabID ∧
    exA.valid = .ok () := by decide +kernel

end NonVacuity

end Atree.SlabIdB

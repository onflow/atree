import AtreeModel.SlabIdStorages
import AtreeProofs.AListLemmas
import AtreeProofs.SlabIdStorages
import AtreeProofs.Props.SlabId
/-
  `LedgerBaseStorage`, `InMemBaseStorage`, `BasicSlabStorage`
  (models: AtreeModel/SlabIdStorages.lean), in the style of Props/C15.lean: each storage refines
  a finite-map specification, request by request.

  * `LedgerBaseStorage` over ANY ledger that behaves as a map (`IsMapLedger`): it refines
    `SlabIDB → Option Bytes` where `none` = "register absent OR of length 0"
    (`lbs_step_refines`); storing zero bytes IS removing (`lbs_store_empty_is_remove`); whether the
    ledger keeps or deletes empty registers cannot be observed through it
    (`keepEmpty_unobservable`), although `ValueExists` would tell (`valueExists_tells`).
  * `InMemBaseStorage` keeps empty segments (`inmem_step_refines`,
    `inmem_and_ledger_differ_on_empty`): the two `BaseStorage`s agree exactly on non-empty data.
  * `BasicSlabStorage`: `basic_step_refines`, `basic_count`, generated identifiers never repeat
    below 2^64-1 requests (`basic_generated_ids_fresh`) and DO repeat after the wrap-around
    (`genNext_wraps`), the iterator is a snapshot (`iter_nexts_spec`), and the sentinel idiom
    `id == SlabIDUndefined` visits every stored slab iff `SlabIDUndefined` is not a key — which
    `BasicSlabStorage.Store` does not prevent (`drain_complete`, `drain_truncated`).
-/
namespace Atree.SlabIdB
open Atree

/-- "The ledger is a map and a failing call has no effect" (DESIGN §6), as a contract on the
    `Ledger` interface.  `val l owner key` is the content of the register (`[]` when absent: the
    contract does not let an absent register and a zero-length one differ in `GetValue`). -/
structure IsMapLedger {Λ : Type} (L : Ledger Λ) (val : Λ → Bytes → Bytes → Bytes) : Prop where
  get_ok : ∀ l o k, (L.getValue l o k).2.2 = false → (L.getValue l o k).2.1 = val l o k
  get_frame : ∀ l o k o' k', val (L.getValue l o k).1 o' k' = val l o' k'
  set_ok : ∀ l o k v, (L.setValue l o k v).2 = false →
    ∀ o' k', val (L.setValue l o k v).1 o' k' = if o' = o ∧ k' = k then v else val l o' k'
  set_fail : ∀ l o k v, (L.setValue l o k v).2 = true →
    ∀ o' k', val (L.setValue l o k v).1 o' k' = val l o' k'
  alloc_frame : ∀ l o o' k', val (L.allocateSlabIndex l o).1 o' k' = val l o' k'

/-- What a `LedgerBaseStorage` holds under an identifier: the register
    `(address bytes, '$' ++ index bytes)`, read as "nothing" when it has length 0. -/
def LBS.view {Λ : Type} (val : Λ → Bytes → Bytes → Bytes) (s : LBS Λ) (id : SlabIDB) : Option Bytes :=
  let v := val s.ledger id.address.val (slabIndexToLedgerKey id.index)
  if v = [] then none else some v

private theorem reg_eq_iff (j id : SlabIDB) :
    (j.address.val = id.address.val ∧ slabIndexToLedgerKey j.index = slabIndexToLedgerKey id.index) ↔ j = id := by
  constructor
  · intro ⟨h1, h2⟩
    exact register_injective (by rw [h1, h2])
  · intro h; subst h; exact ⟨rfl, rfl⟩

/-- Main refinement for `LedgerBaseStorage`: every request acts on `view` as on a finite map
    `SlabIDB → Option Bytes`; a failed request changes nothing; distinct identifiers never share a
    register (the `j ≠ id` branches); a stored value of length 0 reads back as "not found". -/
theorem lbs_step_refines {Λ : Type} (L : Ledger Λ) (val : Λ → Bytes → Bytes → Bytes)
    (hL : IsMapLedger L val) (s : LBS Λ) (op : LOp) :
    let r := s.step L op
    let w := s.view val
    let w' := r.1.view val
    match op with
    | .retrieve id =>
        (∀ j, w' j = w j) ∧ (r.2 = .err ∨ r.2 = .data ((w id).getD []) (w id).isSome)
    | .store id d =>
        r.1.bytesStored = s.bytesStored + d.length ∧
        ((r.2 = .err ∧ ∀ j, w' j = w j) ∨
         (r.2 = .unit ∧ ∀ j, w' j = if j = id then (if d = [] then none else some d) else w j))
    | .remove id =>
        (r.2 = .err ∧ ∀ j, w' j = w j) ∨ (r.2 = .unit ∧ ∀ j, w' j = if j = id then none else w j)
    | .gen a => (∀ j, w' j = w j) ∧ (r.2 = .err ∨ ∃ i, r.2 = .id i ∧ i.address = a)
    | .reset => (∀ j, w' j = w j) ∧ r.2 = .unit ∧ r.1.bytesStored = 0 ∧ r.1.bytesRetrieved = 0 := by
  have vnil : ∀ v : Bytes, (if v = [] then (none : Option Bytes) else some v).getD [] = v ∧
      (if v = [] then (none : Option Bytes) else some v).isSome = decide (v.length > 0) := by
    intro v; cases v <;> simp
  have other : ∀ j id : SlabIDB, j ≠ id → ¬ (j.address.val = id.address.val ∧
      slabIndexToLedgerKey j.index = slabIndexToLedgerKey id.index) :=
    fun j id hj h => hj ((reg_eq_iff j id).1 h)
  cases op with
  | retrieve id =>
    dsimp only
    rw [LBS.step_retrieve]
    refine ⟨fun j => ?_, ?_⟩
    · simp only [LBS.view]; rw [hL.get_frame]
    · cases hf : (L.getValue s.ledger id.address.val (slabIndexToLedgerKey id.index)).2.2 with
      | true => left; rfl
      | false =>
        right
        simp only [LBS.view, Bool.false_eq_true, if_false]
        rw [hL.get_ok _ _ _ hf, (vnil _).1, (vnil _).2]
  | store id d =>
    dsimp only
    rw [LBS.step_store]
    refine ⟨rfl, ?_⟩
    cases hf : (L.setValue s.ledger id.address.val (slabIndexToLedgerKey id.index) d).2 with
    | true =>
      left
      refine ⟨rfl, fun j => ?_⟩
      simp only [LBS.view]; rw [hL.set_fail _ _ _ _ hf]
    | false =>
      right
      refine ⟨rfl, fun j => ?_⟩
      simp only [LBS.view]; rw [hL.set_ok _ _ _ _ hf]
      by_cases hj : j = id
      · subst hj; simp
      · rw [if_neg (other j id hj), if_neg hj]
  | remove id =>
    dsimp only
    rw [LBS.step_remove]
    cases hf : (L.setValue s.ledger id.address.val (slabIndexToLedgerKey id.index) []).2 with
    | true =>
      left
      refine ⟨rfl, fun j => ?_⟩
      simp only [LBS.view]; rw [hL.set_fail _ _ _ _ hf]
    | false =>
      right
      refine ⟨rfl, fun j => ?_⟩
      simp only [LBS.view]; rw [hL.set_ok _ _ _ _ hf]
      by_cases hj : j = id
      · subst hj; simp
      · rw [if_neg (other j id hj), if_neg hj]
  | gen a =>
    dsimp only
    rw [LBS.step_gen]
    refine ⟨fun j => ?_, ?_⟩
    · simp only [LBS.view]; rw [hL.alloc_frame]
    · cases hf : (L.allocateSlabIndex s.ledger a.val).2.2 with
      | true => left; rfl
      | false => right; exact ⟨_, rfl, rfl⟩
  | reset =>
    exact ⟨fun _ => rfl, rfl, rfl, rfl⟩

/-- `Store(id, <zero bytes>)` and `Remove(id)` are the same ledger call: same new ledger, same
    outcome.  (Only the `bytesStored` counter could differ, and it does not: `+ 0`.) -/
theorem lbs_store_empty_is_remove {Λ : Type} (L : Ledger Λ) (s : LBS Λ) (id : SlabIDB) :
    (s.store L id []).1.ledger = (s.remove L id).1.ledger ∧
    (s.store L id []).2 = (s.remove L id).2 ∧
    (s.store L id []).1.bytesStored = (s.remove L id).1.bytesStored := by
  cases h : (L.setValue s.ledger id.address.val (slabIndexToLedgerKey id.index) []).2 <;>
    simp [LBS.store, LBS.remove, h]

/-- Read-your-writes holds for NON-EMPTY data only: after a successful `Store(id, d)`, a successful
    `Retrieve(id)` returns `(d, true)` iff `d` is not empty, and `(·, false)` when it is. -/
theorem lbs_retrieve_after_store {Λ : Type} (L : Ledger Λ) (val : Λ → Bytes → Bytes → Bytes)
    (hL : IsMapLedger L val) (s : LBS Λ) (id : SlabIDB) (d : Bytes)
    (h1 : (s.step L (.store id d)).2 = .unit)
    (h2 : ((s.step L (.store id d)).1.step L (.retrieve id)).2 ≠ .err) :
    ((s.step L (.store id d)).1.step L (.retrieve id)).2 = .data d (decide (d ≠ [])) := by
  have a := lbs_step_refines L val hL s (.store id d)
  have b := lbs_step_refines L val hL (s.step L (.store id d)).1 (.retrieve id)
  dsimp only at a b
  rcases a.2 with ⟨e, _⟩ | ⟨_, hw⟩
  · rw [h1] at e; cases e
  · rcases b.2 with e | e
    · exact absurd e h2
    · rw [e, hw id]
      cases d <;> simp

/-! ### The stream's ledger is such a map, whichever way it treats empty values -/

theorem mapLedger_isMapLedger : IsMapLedger MapLedger.iface MapLedger.val := by
  constructor
  · intro l o k h
    simp only [MapLedger.iface, MapLedger.getValue_eq] at h ⊢
    simp [h]
  · intro l o k o' k'
    simp only [MapLedger.iface, MapLedger.getValue_eq]
    rfl
  · intro l o k v h o' k'
    simp only [MapLedger.iface, MapLedger.setValue_snd] at h
    simp only [MapLedger.iface, MapLedger.setValue_fst_val, h, Bool.false_eq_true, if_false]
  · intro l o k v h o' k'
    simp only [MapLedger.iface, MapLedger.setValue_snd] at h
    simp only [MapLedger.iface, MapLedger.setValue_fst_val, h, if_true]
  · intro l o o' k'
    simp only [MapLedger.iface, MapLedger.allocate_eq]
    cases l.failing <;> rfl

/-- two harness ledgers that agree on everything `LedgerBaseStorage` can see -/
def MapLedger.Sim (l1 l2 : MapLedger) : Prop :=
  l1.ctr = l2.ctr ∧ l1.calls = l2.calls ∧ l1.fail = l2.fail ∧ l1.junk = l2.junk ∧
  ∀ o k, l1.val o k = l2.val o k

def LBS.Sim (s1 s2 : LBS MapLedger) : Prop :=
  MapLedger.Sim s1.ledger s2.ledger ∧ s1.bytesRetrieved = s2.bytesRetrieved ∧
  s1.bytesStored = s2.bytesStored

private theorem sim_set (l1 l2 : MapLedger) (h : MapLedger.Sim l1 l2) (o k v : Bytes) :
    MapLedger.Sim (l1.setValue o k v).1 (l2.setValue o k v).1 ∧
    (l1.setValue o k v).2 = (l2.setValue o k v).2 := by
  obtain ⟨hc, hn, hfl, hj, hv⟩ := h
  have hfail : l1.failing = l2.failing := by simp [MapLedger.failing, hn, hfl]
  obtain ⟨a1, a2, a3, a4, _⟩ := MapLedger.setValue_fst_rest l1 o k v
  obtain ⟨b1, b2, b3, b4, _⟩ := MapLedger.setValue_fst_rest l2 o k v
  refine ⟨⟨by rw [a1, b1, hc], by rw [a2, b2, hn], by rw [a3, b3, hfl], by rw [a4, b4, hj], ?_⟩, ?_⟩
  · intro o' k'
    rw [MapLedger.setValue_fst_val, MapLedger.setValue_fst_val, hfail, hv]
  · rw [MapLedger.setValue_snd, MapLedger.setValue_snd, hfail]

private theorem sim_get (l1 l2 : MapLedger) (h : MapLedger.Sim l1 l2) (o k : Bytes) :
    MapLedger.Sim (l1.getValue o k).1 (l2.getValue o k).1 ∧
    (l1.getValue o k).2 = (l2.getValue o k).2 := by
  obtain ⟨hc, hn, hfl, hj, hv⟩ := h
  have hfail : l1.failing = l2.failing := by simp [MapLedger.failing, hn, hfl]
  rw [MapLedger.getValue_eq, MapLedger.getValue_eq]
  exact ⟨⟨hc, congrArg (· + 1) hn, hfl, hj, hv⟩, by rw [hfail, hj, hv]⟩

private theorem sim_alloc (l1 l2 : MapLedger) (h : MapLedger.Sim l1 l2) (o : Bytes) :
    MapLedger.Sim (l1.allocateSlabIndex o).1 (l2.allocateSlabIndex o).1 ∧
    (l1.allocateSlabIndex o).2 = (l2.allocateSlabIndex o).2 := by
  obtain ⟨hc, hn, hfl, hj, hv⟩ := h
  have hfail : l1.failing = l2.failing := by simp [MapLedger.failing, hn, hfl]
  rw [MapLedger.allocate_eq, MapLedger.allocate_eq, hfail, hc]
  cases l2.failing with
  | true => exact ⟨⟨rfl, congrArg (· + 1) hn, hfl, hj, hv⟩, rfl⟩
  | false => exact ⟨⟨rfl, congrArg (· + 1) hn, hfl, hj, hv⟩, rfl⟩

private theorem sim_step (s1 s2 : LBS MapLedger) (h : LBS.Sim s1 s2) (op : LOp) :
    LBS.Sim (s1.step MapLedger.iface op).1 (s2.step MapLedger.iface op).1 ∧
    (s1.step MapLedger.iface op).2 = (s2.step MapLedger.iface op).2 := by
  obtain ⟨hm, hr, hs⟩ := h
  have hm' := hm
  obtain ⟨hc, hn, hfl, hj, hv⟩ := hm'
  have hfail : s1.ledger.failing = s2.ledger.failing := by simp [MapLedger.failing, hn, hfl]
  cases op with
  | retrieve id =>
    rw [LBS.step_retrieve, LBS.step_retrieve]
    obtain ⟨g1, g2⟩ := sim_get _ _ hm id.address.val (slabIndexToLedgerKey id.index)
    simp only [MapLedger.iface, g2]
    exact ⟨⟨g1, by rw [hr], hs⟩, rfl⟩
  | store id d =>
    rw [LBS.step_store, LBS.step_store]
    obtain ⟨g1, g2⟩ := sim_set _ _ hm id.address.val (slabIndexToLedgerKey id.index) d
    simp only [MapLedger.iface, g2]
    exact ⟨⟨g1, hr, by rw [hs]⟩, rfl⟩
  | remove id =>
    rw [LBS.step_remove, LBS.step_remove]
    obtain ⟨g1, g2⟩ := sim_set _ _ hm id.address.val (slabIndexToLedgerKey id.index) []
    simp only [MapLedger.iface, g2]
    exact ⟨⟨g1, hr, hs⟩, rfl⟩
  | gen a =>
    rw [LBS.step_gen, LBS.step_gen]
    obtain ⟨g1, g2⟩ := sim_alloc _ _ hm a.val
    simp only [MapLedger.iface, g2]
    exact ⟨⟨g1, hr, hs⟩, rfl⟩
  | reset =>
    exact ⟨⟨hm, rfl, rfl⟩, rfl⟩

/-- "A register holding zero bytes is indistinguishable from an absent one": run the same requests
    (same fault plan) on a ledger that KEEPS zero-length registers and on one that DELETES them —
    or on any two ledgers that differ only in which absent registers are represented by a
    zero-length entry: every observation of `LedgerBaseStorage`, and both byte counters, agree. -/
theorem keepEmpty_unobservable (s1 s2 : LBS MapLedger) (h : LBS.Sim s1 s2) (ops : List LOp) :
    (LBS.run MapLedger.iface s1 ops).2 = (LBS.run MapLedger.iface s2 ops).2 ∧
    LBS.Sim (LBS.run MapLedger.iface s1 ops).1 (LBS.run MapLedger.iface s2 ops).1 := by
  induction ops generalizing s1 s2 with
  | nil => exact ⟨rfl, h⟩
  | cons op ops ih =>
    obtain ⟨h1, h2⟩ := sim_step s1 s2 h op
    obtain ⟨i1, i2⟩ := ih _ _ h1
    simp only [LBS.run]
    exact ⟨by rw [h2, i1], i2⟩

/-- The two flavours of the harness ledger started empty are related (so the theorem applies to
    them), and they ARE different ledgers: after `Store(id, <zero bytes>)` `ValueExists` — which no
    atree function calls — tells them apart. -/
theorem valueExists_tells (id : SlabIDB) :
    let k : LBS MapLedger := LBS.new { keepEmpty := true }
    let d : LBS MapLedger := LBS.new { keepEmpty := false }
    LBS.Sim k d ∧
    ((k.step MapLedger.iface (.store id [])).1.ledger.valueExists id.address.val (slabIndexToLedgerKey id.index) = true) ∧
    ((d.step MapLedger.iface (.store id [])).1.ledger.valueExists id.address.val (slabIndexToLedgerKey id.index) = false) := by
  refine ⟨⟨⟨rfl, rfl, rfl, rfl, fun _ _ => rfl⟩, rfl, rfl⟩, ?_, ?_⟩
  · rw [LBS.step_store]
    simp [LBS.new, MapLedger.iface, MapLedger.setValue, MapLedger.failing,
      MapLedger.valueExists, AList.find?_insert]
  · rw [LBS.step_store]
    simp [LBS.new, MapLedger.iface, MapLedger.setValue, MapLedger.failing,
      MapLedger.valueExists, AList.find?_erase]

/-- The identifiers `LedgerBaseStorage.GenerateSlabID` hands out over the harness ledger: the
    requested address with the big-endian bytes of that owner's counter + 1 (mod 2^64). -/
theorem lbs_generate_mapLedger (s : LBS MapLedger) (a : Address) (hf : s.ledger.failing = false) :
    ∃ i, (s.step MapLedger.iface (.gen a)).2 = .id i ∧ i.address = a ∧
      i.indexAsUint64 = ((AList.find? s.ledger.ctr a.val).getD 0 + 1) % 2 ^ 64 := by
  rw [LBS.step_gen]
  simp only [MapLedger.iface, MapLedger.allocate_eq, hf, Bool.false_eq_true, if_false]
  refine ⟨_, rfl, rfl, ?_⟩
  simp only [newSlabID, SlabIDB.indexAsUint64, indexOfNat, Gen.SlabIndexLength]
  rw [beNat_putBE]
  exact Nat.mod_eq_of_lt (Nat.mod_lt _ (by omega))

/-- `InMemBaseStorage` refines the finite map `segments` — including EMPTY segments. -/
theorem inmem_step_refines (s : InMem) (id : SlabIDB) (d : Bytes) :
    -- Retrieve
    ((s.retrieve id).2 = ((AList.find? s.segments id).getD [], (AList.find? s.segments id).isSome) ∧
     (s.retrieve id).1.segments = s.segments ∧
     (s.retrieve id).1.bytesRetrieved = s.bytesRetrieved + ((AList.find? s.segments id).getD []).length) ∧
    -- Store
    (∀ j, AList.find? (s.store id d).segments j = if j = id then some d else AList.find? s.segments j) ∧
    (s.store id d).bytesStored = s.bytesStored + d.length ∧
    -- Remove
    (∀ j, AList.find? (s.remove id).segments j = if j = id then none else AList.find? s.segments j) := by
  refine ⟨⟨rfl, rfl, rfl⟩, ?_, rfl, ?_⟩
  · intro j
    simp only [InMem.store, AList.find?_insert]
    by_cases h : j = id
    · subst h; simp
    · have : ¬ id = j := fun x => h x.symm
      simp [h, this]
  · intro j
    simp only [InMem.remove, AList.find?_erase]
    by_cases h : j = id
    · subst h; simp
    · have : ¬ id = j := fun x => h x.symm
      simp [h, this]

/-- `SegmentCounts` is the number of distinct identifiers stored and not removed: the key list
    stays duplicate-free. -/
theorem inmem_keys_nodup (s : InMem) (h : (AList.keys s.segments).Nodup) (id : SlabIDB) (d : Bytes) :
    (AList.keys (s.store id d).segments).Nodup ∧ (AList.keys (s.remove id).segments).Nodup ∧
    (AList.keys (s.retrieve id).1.segments).Nodup ∧ s.segmentCounts = (AList.keys s.segments).length := by
  refine ⟨AList.nodup_keys_insert _ _ _ h, AList.nodup_keys_erase _ _ h, h, ?_⟩
  simp [InMem.segmentCounts, AList.keys]

/-- The two `BaseStorage`s disagree on zero-length data: after `Store(id, [])`,
    `InMemBaseStorage.Retrieve` says "found", `LedgerBaseStorage.Retrieve` (over any map ledger,
    all calls succeeding) says "not found".  On non-empty data they agree (`lbs_retrieve_after_store`
    vs `inmem_step_refines`). -/
theorem inmem_and_ledger_differ_on_empty {Λ : Type} (L : Ledger Λ) (val : Λ → Bytes → Bytes → Bytes)
    (hL : IsMapLedger L val) (s : LBS Λ) (m : InMem) (id : SlabIDB)
    (h1 : (s.step L (.store id [])).2 = .unit)
    (h2 : ((s.step L (.store id [])).1.step L (.retrieve id)).2 ≠ .err) :
    ((m.store id []).retrieve id).2 = ([], true) ∧
    ((s.step L (.store id [])).1.step L (.retrieve id)).2 = .data [] false := by
  constructor
  · simp [InMem.retrieve, InMem.store, AList.find?_insert]
  · have := lbs_retrieve_after_store L val hL s id [] h1 h2
    simpa using this

/-- Main refinement for `BasicSlabStorage`: the finite map `id ↦ slab` (a stored `nil` slab is an
    entry).  `Retrieve` returns the last `Store` unless `Remove`d since; `Store` accepts EVERY
    identifier, `SlabIDUndefined` included. -/
theorem basic_step_refines {σ : Type} (s : Basic σ) (op : BOp σ) :
    let r := s.step op
    let m := fun j => AList.find? s.slabs j
    let m' := fun j => AList.find? r.1.slabs j
    match op with
    | .gen a => (∀ j, m' j = m j) ∧ ∃ i, r.2 = .id i ∧ i.address = a
    | .store id v => r.2 = .unit ∧ ∀ j, m' j = if j = id then some v else m j
    | .remove id => r.2 = .unit ∧ ∀ j, m' j = if j = id then none else m j
    | .retrieve id => r.1 = s ∧ r.2 = .slab ((m id).getD none) (m id).isSome
    | .retrieveIfLoaded id => r.1 = s ∧ r.2 = .loaded ((m id).getD none)
    | .count => r.1 = s ∧ r.2 = .n s.slabs.length := by
  cases op with
  | gen a => exact ⟨fun _ => rfl, _, rfl, rfl⟩
  | store id v =>
    refine ⟨rfl, fun j => ?_⟩
    simp only [Basic.step, Basic.store, AList.find?_insert]
    by_cases h : j = id
    · subst h; simp
    · have : ¬ id = j := fun x => h x.symm
      simp [h, this]
  | remove id =>
    refine ⟨rfl, fun j => ?_⟩
    simp only [Basic.step, Basic.remove, AList.find?_erase]
    by_cases h : j = id
    · subst h; simp
    · have : ¬ id = j := fun x => h x.symm
      simp [h, this]
  | retrieve id => exact ⟨rfl, rfl⟩
  | retrieveIfLoaded id => exact ⟨rfl, rfl⟩
  | count => exact ⟨rfl, rfl⟩

/-- `Count()` is the number of distinct identifiers stored and not removed (the key list stays
    duplicate-free under every request), and `SlabIDs()` lists exactly them. -/
theorem basic_count {σ : Type} (s : Basic σ) (h : (AList.keys s.slabs).Nodup) (op : BOp σ) :
    (AList.keys (s.step op).1.slabs).Nodup ∧ s.count = s.slabIDs.length ∧
    (∀ id, id ∈ s.slabIDs ↔ (s.retrieve id).2 = true) := by
  refine ⟨?_, by simp [Basic.count, Basic.slabIDs, AList.keys], ?_⟩
  · cases op with
    | gen a => exact h
    | store id v => exact AList.nodup_keys_insert _ _ _ h
    | remove id => exact AList.nodup_keys_erase _ _ h
    | retrieve id => exact h
    | retrieveIfLoaded id => exact h
    | count => exact h
  · intro id
    simp only [Basic.slabIDs, Basic.retrieve, ← AList.find?_ne_none_iff]
    cases AList.find? s.slabs id <;> simp

/-! ### `GenerateSlabID` (shared by `BasicSlabStorage` and `InMemBaseStorage`) -/

/-- the per-address counter, read as a number (0 for an address never used) -/
def counter (m : AList Address SlabIndex) (a : Address) : Nat :=
  beNat ((AList.find? m a).getD SlabIndexUndefined).val

theorem counter_nil (a : Address) : counter [] a = 0 := by
  simp [counter, SlabIndexUndefined, beNat_zeros]

/-- One allocation: the requested address, index = counter + 1 (mod 2^64), only that address's
    counter moves. -/
theorem genNext_spec (m : AList Address SlabIndex) (a : Address) :
    (genNext m a).1.address = a ∧
    (genNext m a).1.indexAsUint64 = (counter m a + 1) % 2 ^ 64 ∧
    counter (genNext m a).2 a = (counter m a + 1) % 2 ^ 64 ∧
    ∀ a', a' ≠ a → counter (genNext m a).2 a' = counter m a' := by
  refine ⟨rfl, ?_, ?_, ?_⟩
  · simp only [genNext, newSlabID, SlabIDB.indexAsUint64, counter]
    exact next_numeric _
  · simp only [genNext, counter, AList.find?_insert, if_true, Option.getD_some]
    exact next_numeric _
  · intro a' h
    have : ¬ a = a' := fun x => h x.symm
    simp only [genNext, counter, AList.find?_insert, this, if_false]

/-- The caller-must-prevent-overflow remark on `SlabIndex.Next` is not acted upon by
    `BasicSlabStorage.GenerateSlabID`: at counter 2^64-1 it hands out index 0 — an identifier that
    is not `Valid()` — and then 1, 2, … again. -/
theorem genNext_wraps (m : AList Address SlabIndex) (a : Address) (h : counter m a = 2 ^ 64 - 1) :
    (genNext m a).1.index = SlabIndexUndefined ∧ (genNext m a).1.valid ≠ .ok () ∧
    (genNext (genNext m a).2 a).1.indexAsUint64 = 1 := by
  obtain ⟨_, h2, h3, _⟩ := genNext_spec m a
  have i0 : (genNext m a).1.indexAsUint64 = 0 := by rw [h2, h]
  have c0 : counter (genNext m a).2 a = 0 := by rw [h3, h]
  refine ⟨?_, ?_, ?_⟩
  · apply (index_eq_iff _ _).2
    have : beNat SlabIndexUndefined.val = 0 := beNat_zeros _
    rw [this]; exact i0
  · intro hv
    exact ((valid_iff _).1.1 hv) i0
  · rw [(genNext_spec _ a).2.1, c0]

/-- the identifiers handed out by a request sequence -/
def Basic.gens {σ : Type} (s : Basic σ) (ops : List (BOp σ)) : List SlabIDB :=
  (Basic.run s ops).2.filterMap BObs.genID

private theorem gens_cons {σ : Type} (s : Basic σ) (op : BOp σ) (ops : List (BOp σ)) :
    Basic.gens s (op :: ops) =
      (match (s.step op).2.genID with | some i => [i] | none => []) ++ Basic.gens (s.step op).1 ops := by
  simp only [Basic.gens, Basic.run, List.filterMap_cons]
  cases (s.step op).2.genID <;> rfl

private theorem step_counter {σ : Type} (s : Basic σ) (op : BOp σ) :
    (∀ a, op = .gen a →
      (s.step op).2.genID = some (genNext s.slabIndex a).1 ∧ (s.step op).1.slabIndex = (genNext s.slabIndex a).2) ∧
    ((∀ a, op ≠ .gen a) → (s.step op).2.genID = none ∧ (s.step op).1.slabIndex = s.slabIndex) := by
  cases op <;> simp [Basic.step, Basic.generateSlabID, BObs.genID, Basic.store, Basic.remove]

/-- One request below the wrap: no counter falls and none passes `n + 1`; an identifier handed out
    carries the new counter of its address, which is above the old one. -/
private theorem step_gen {σ : Type} (s : Basic σ) (op : BOp σ) (n : Nat)
    (hn : ∀ a, counter s.slabIndex a ≤ n) (hlt : n < 2 ^ 64 - 1) :
    (∀ a, counter s.slabIndex a ≤ counter (s.step op).1.slabIndex a ∧
      counter (s.step op).1.slabIndex a ≤ n + 1) ∧
    ∀ i, (s.step op).2.genID = some i → counter s.slabIndex i.address < i.indexAsUint64 ∧
      i.indexAsUint64 = counter (s.step op).1.slabIndex i.address := by
  by_cases hg : ∃ a, op = .gen a
  · obtain ⟨a, rfl⟩ := hg
    obtain ⟨e1, e2⟩ := (step_counter s (.gen a)).1 a rfl
    obtain ⟨g1, g2, g3, g4⟩ := genNext_spec s.slabIndex a
    have nowrap : (counter s.slabIndex a + 1) % 2 ^ 64 = counter s.slabIndex a + 1 :=
      Nat.mod_eq_of_lt (by have := hn a; omega)
    rw [nowrap] at g2 g3
    rw [e1, e2]
    refine ⟨fun a' => ?_, fun i hi => ?_⟩
    · have := hn a'
      by_cases h : a' = a
      · subst h; rw [g3]; omega
      · rw [g4 a' h]; omega
    · cases hi
      rw [g1, g2, g3]
      exact ⟨Nat.lt_succ_self _, rfl⟩
  · obtain ⟨e1, e2⟩ := (step_counter s op).2 fun a h => hg ⟨a, h⟩
    rw [e1, e2]
    exact ⟨fun a => ⟨Nat.le_refl _, Nat.le_succ_of_le (hn a)⟩, fun i hi => by cases hi⟩

/-- below the wrap the identifiers handed out are pairwise distinct, each above the counter its
    address had at the start -/
private theorem gens_fresh {σ : Type} (ops : List (BOp σ)) :
    ∀ (s : Basic σ) (n : Nat), (∀ a, counter s.slabIndex a ≤ n) → n + ops.length ≤ 2 ^ 64 - 1 →
      (Basic.gens s ops).Nodup ∧
      ∀ id ∈ Basic.gens s ops, counter s.slabIndex id.address < id.indexAsUint64 := by
  induction ops with
  | nil => intro s n _ _; simp [Basic.gens, Basic.run]
  | cons op ops ih =>
    intro s n hn hlen
    simp only [List.length_cons] at hlen
    obtain ⟨hc, hi⟩ := step_gen s op n hn (by omega)
    obtain ⟨ihn, ihf⟩ := ih (s.step op).1 (n + 1) (fun a => (hc a).2) (by omega)
    have tail : ∀ id ∈ Basic.gens (s.step op).1 ops, counter s.slabIndex id.address < id.indexAsUint64 :=
      fun id hid => Nat.lt_of_le_of_lt (hc _).1 (ihf id hid)
    rw [gens_cons]
    cases hgen : (s.step op).2.genID with
    | none => exact ⟨ihn, tail⟩
    | some i =>
      obtain ⟨h1, h2⟩ := hi i hgen
      refine ⟨List.nodup_cons.mpr ⟨fun hmem => ?_, ihn⟩, fun id hid => ?_⟩
      · have := ihf i hmem
        omega
      · rcases List.mem_cons.mp hid with rfl | hid
        · exact h1
        · exact tail id hid

/-- `GenerateSlabID` never repeats: in any request sequence of at most 2^64-1 requests on a new
    `BasicSlabStorage` (stores, removes and reads interleaved at will, any number of addresses),
    the identifiers handed out are pairwise distinct, each has the requested address and a
    non-zero index (so each is `Valid()`). -/
theorem basic_generated_ids_fresh {σ : Type} (ops : List (BOp σ)) (h : ops.length ≤ 2 ^ 64 - 1) :
    (Basic.gens (Basic.new : Basic σ) ops).Nodup ∧
    ∀ id ∈ Basic.gens (Basic.new : Basic σ) ops, id.valid = .ok () := by
  have h0 : ∀ a, counter (Basic.new : Basic σ).slabIndex a ≤ 0 := by
    intro a; simp [Basic.new, counter_nil]
  obtain ⟨hnd, hfw⟩ := gens_fresh ops _ 0 h0 (by omega)
  exact ⟨hnd, fun id hid => (valid_iff id).1.2 (Nat.ne_of_gt (Nat.zero_lt_of_lt (hfw id hid)))⟩

private theorem nexts_aux {σ : Type} (n : Nat) :
    ∀ (entries : List (SlabIDB × Option σ)) (i : Nat),
      BasicIter.nexts n ⟨entries, i⟩ =
        (entries.drop i).take n ++ List.replicate (n - (entries.length - i)) (SlabIDUndefined, none) := by
  induction n with
  | zero => intro entries i; simp [BasicIter.nexts]
  | succ n ih =>
    intro entries i
    simp only [BasicIter.nexts, BasicIter.next]
    cases h : entries[i]? with
    | none =>
      have hl : entries.length ≤ i := by
        rcases Nat.lt_or_ge i entries.length with hlt | hge
        · rw [List.getElem?_eq_getElem hlt] at h; cases h
        · exact hge
      have hd : entries.drop i = [] := List.drop_of_length_le hl
      simp only [ih, hd, List.take_nil, List.nil_append]
      have : entries.length - i = 0 := by omega
      rw [this, Nat.sub_zero, Nat.sub_zero, List.replicate_succ]
    | some e =>
      have hlt : i < entries.length := by
        rcases Nat.lt_or_ge i entries.length with hlt | hge
        · exact hlt
        · rw [List.getElem?_eq_none hge] at h; cases h
      have he : entries[i] = e := by rw [List.getElem?_eq_getElem hlt] at h; exact Option.some.inj h
      have hd : entries.drop i = e :: entries.drop (i + 1) := by
        rw [← he]; exact List.drop_eq_getElem_cons hlt
      simp only [ih, hd, List.take_succ_cons, List.cons_append]
      have : n + 1 - (entries.length - i) = n - (entries.length - (i + 1)) := by omega
      rw [this]

/-- The iterator of `BasicSlabStorage` is a SNAPSHOT: `n` calls return the first `n` entries the
    storage held when `SlabIterator()` was called (in Go: in map order), then `(SlabIDUndefined, nil)`
    for ever; later `Store`/`Remove` requests on the storage do not influence it (the iterator value
    does not mention the storage). -/
theorem iter_nexts_spec {σ : Type} (s : Basic σ) (n : Nat) :
    s.slabIterator.nexts n =
      s.slabs.take n ++ List.replicate (n - s.count) (SlabIDUndefined, none) := by
  have := nexts_aux n s.slabs 0
  simpa [Basic.slabIterator, Basic.count] using this

/-- Calling it `Count()` times yields every stored entry exactly once. -/
theorem iter_visits_all {σ : Type} (s : Basic σ) :
    s.slabIterator.nexts s.count = s.slabs ∧
    s.slabIterator.nexts (s.count + 2) = s.slabs ++ [(SlabIDUndefined, none), (SlabIDUndefined, none)] := by
  rw [iter_nexts_spec, iter_nexts_spec]
  simp only [Basic.count, Nat.sub_self, List.replicate_zero, List.append_nil, List.take_length, true_and]
  rw [List.take_of_length_le (by omega)]
  have : s.slabs.length + 2 - s.slabs.length = 2 := by omega
  rw [this]; rfl

private theorem drain_eq {σ : Type} (n : Nat) :
    ∀ it : BasicIter σ, it.drain n = (it.nexts n).takeWhile (fun e => decide (e.1 ≠ SlabIDUndefined)) := by
  induction n with
  | zero => intro it; rfl
  | succ n ih =>
    intro it
    simp only [BasicIter.drain, BasicIter.nexts, List.takeWhile_cons]
    by_cases h : it.next.2.1 = SlabIDUndefined
    · simp [h]
    · simp [h, ih]

/-- The consumer idiom of `CheckStorageHealth` (`for { id, slab := it(); if id == SlabIDUndefined
    { break } … }`) visits EVERY stored slab when `SlabIDUndefined` is not a key … -/
theorem drain_complete {σ : Type} (s : Basic σ) (h : SlabIDUndefined ∉ s.slabIDs) :
    s.slabIterator.drain (s.count + 1) = s.slabs := by
  rw [drain_eq, iter_nexts_spec]
  have ht : s.slabs.take (s.count + 1) = s.slabs := List.take_of_length_le (by simp [Basic.count])
  have hr : s.count + 1 - s.count = 1 := by omega
  rw [ht, hr]
  have hall : ∀ e ∈ s.slabs, decide (e.1 ≠ SlabIDUndefined) = true := by
    intro e he
    have : e.1 ∈ s.slabIDs := by
      simp only [Basic.slabIDs, AList.keys, List.mem_map]; exact ⟨e, he, rfl⟩
    simp only [decide_eq_true_eq]
    intro x; rw [x] at this; exact h this
  rw [List.takeWhile_append_of_pos hall]
  simp

/-- … and stops early when it is: `BasicSlabStorage.Store` accepts `SlabIDUndefined` as a key
    (`basic_step_refines`), and then the entry filed under it — and every entry the map order
    puts after it — is never seen by a sentinel-driven consumer, whatever the fuel. -/
theorem drain_truncated {σ : Type} (s : Basic σ) (h : SlabIDUndefined ∈ s.slabIDs) (n : Nat) :
    (s.slabIterator.drain n).length < s.count ∧
    ∀ e ∈ s.slabIterator.drain n, e.1 ≠ SlabIDUndefined := by
  rw [drain_eq, iter_nexts_spec]
  constructor
  · -- the prefix before the sentinel key is a proper prefix of the entries
    have key : ∀ (l : List (SlabIDB × Option σ)) (tl : List (SlabIDB × Option σ)),
        SlabIDUndefined ∈ l.map (·.1) →
        ((l ++ tl).takeWhile (fun e => decide (e.1 ≠ SlabIDUndefined))).length < l.length := by
      intro l
      induction l with
      | nil => intro tl hm; simp at hm
      | cons x xs ih =>
        intro tl hm
        rw [List.cons_append]
        by_cases hx : x.1 = SlabIDUndefined
        · rw [List.takeWhile_cons_of_neg (by simp [hx])]; simp
        · rw [List.takeWhile_cons_of_pos (by simp [hx])]
          have hm' : SlabIDUndefined ∈ xs.map (·.1) := by
            simp only [List.map_cons, List.mem_cons] at hm
            rcases hm with e | e
            · exact absurd e.symm hx
            · exact e
          have := ih tl hm'
          simp only [List.length_cons]
          omega
    by_cases hn : s.count ≤ n
    · have ht : s.slabs.take n = s.slabs := List.take_of_length_le (by simpa [Basic.count] using hn)
      rw [ht]
      exact key s.slabs _ (by simpa [Basic.slabIDs, AList.keys] using h)
    · have hlen : (s.slabs.take n ++ List.replicate (n - s.count) (SlabIDUndefined, none)).length ≤ n := by
        simp only [List.length_append, List.length_take, List.length_replicate]; omega
      have := (List.takeWhile_sublist (fun e : SlabIDB × Option σ => decide (e.1 ≠ SlabIDUndefined))
        (l := s.slabs.take n ++ List.replicate (n - s.count) (SlabIDUndefined, none))).length_le
      omega
  · intro e he
    have hall := List.all_takeWhile (p := fun e : SlabIDB × Option σ => decide (e.1 ≠ SlabIDUndefined))
      (l := s.slabs.take n ++ List.replicate (n - s.count) (SlabIDUndefined, none))
    have := List.all_eq_true.mp hall e he
    simpa using this

section NonVacuity

def ex1 : SlabIDB := ofModel ⟨1, 1⟩
def ex2 : SlabIDB := ofModel ⟨1, 2⟩

/-- a `BasicSlabStorage` history with overwrite, removal, a `nil` slab and `SlabIDUndefined` as key -/
def exOps : List (BOp Nat) :=
  [.gen ex1.address, .store ex1 (some 10), .gen ex1.address, .store ex2 (some 20), .store ex1 (some 11),
   .retrieve ex1, .remove ex2, .retrieve ex2, .store SlabIDUndefined (some 99), .store ex2 none, .count]

example : Basic.gens (Basic.new : Basic Nat) exOps = [ex1, ex2] := by decide +kernel
example : ((Basic.run (Basic.new : Basic Nat) exOps).1.slabs.map (fun p => (p.1.toModel.addr, p.1.toModel.idx, p.2))) =
    [(1, 2, none), (0, 0, some 99), (1, 1, some 11)] := by decide +kernel
/-- the sentinel idiom sees one of three entries here; calling `Count()` times sees all three -/
example : ((Basic.run (Basic.new : Basic Nat) exOps).1.slabIterator.drain 10).length = 1 ∧
    ((Basic.run (Basic.new : Basic Nat) exOps).1.slabIterator.nexts 3).length = 3 := by decide

/-- a `LedgerBaseStorage` history on the harness ledger with a failing call (call number 1) -/
def exL : LBS MapLedger := LBS.new { fail := [1], junk := [7, 7, 7] }
def exLOps : List LOp :=
  [.store ex1 [1, 2, 3], .retrieve ex1, .retrieve ex1, .store ex2 [], .retrieve ex2, .remove ex1, .retrieve ex1,
   .gen ex1.address, .gen ex1.address]

example : (LBS.run MapLedger.iface exL exLOps).2 =
    [.unit, .err, .data [1, 2, 3] true, .unit, .data [] false, .unit, .data [] false, .id ex1, .id ex2] := by
  decide +kernel
/-- the failed read returned 3 junk bytes with its error: they are counted -/
example : (LBS.run MapLedger.iface exL exLOps).1.bytesRetrieved = 6 ∧
    (LBS.run MapLedger.iface exL exLOps).1.bytesStored = 3 := by decide +kernel

end NonVacuity

end Atree.SlabIdB

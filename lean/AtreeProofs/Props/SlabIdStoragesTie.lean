import AtreeProofs.Props.E2EBytes
/-
  Does the model of `PersistentSlabStorage` rely on non-empty registers?

  `AtreeModel/Storage.lean` takes the base storage to be a finite map `SlabID → β`
  (`St.base : AList SlabID β`): a register that was stored is found.  `LedgerBaseStorage` is such a
  map ONLY for non-empty registers (`lbs_step_refines`: a stored value of length 0 reads back as
  "not found"; `Remove` writes the empty value).  So the assumption "BaseStorage behaves as a map"
  (DESIGN §6), instantiated with `LedgerBaseStorage`, needs

      every register a commit writes has at least one byte.

  This is not a hypothesis of any theorem of the storage model (they are about the model's map);
  it is what makes the model a model of the code.  It FOLLOWS from what is already proved: a codec
  that round-trips and whose decoder rejects the empty register cannot produce the empty register —
  and `DecodeSlab` rejects it (`len(data) < versionAndFlagSize`).
-/
namespace Atree.SlabIdB
open Atree

/-- A round-tripping codec whose decoder rejects the empty register never encodes to it. -/
theorem encoded_nonempty_of_roundTrip {σ ν : Type} (c : Codec σ (List ν)) (hc : RoundTrip c)
    (hdec : ∀ id, c.dec id [] = none) (v : σ) (b : List ν) (h : c.enc v = some b) : b ≠ [] := by
  intro e
  subst e
  have := hc SlabID.undef v [] h
  rw [hdec] at this
  cases this

/-- `DecodeSlab(id, <no bytes>)` fails for every identifier (model of decode.go / array / map
    `new…FromData`: "data is too short"). -/
theorem decodeSlab_rejects_empty (id : SlabID) : E2E.decS id [] = none := rfl

/-- The real byte codec never writes an empty register: whatever slab the (array) commit encodes,
    the bytes handed to `BaseStorage.Store` are non-empty — so over `LedgerBaseStorage` a committed
    slab is never mistaken for a removed one. -/
theorem real_codec_register_nonempty (v : E2E.SSlab) (p : SlabID × Codec.Bytes)
    (h : E2E.keyedCodec.enc v = some p) : p.2 ≠ [] := by
  intro e
  have rt := E2E.keyed_codec_roundtrip SlabID.undef v p h
  simp only [E2E.keyedCodec] at rt
  rw [e, decodeSlab_rejects_empty] at rt
  cases rt

end Atree.SlabIdB

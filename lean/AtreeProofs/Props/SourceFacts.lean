import AtreeModel.Gen.Facts
/-
  Source-level premises of the storage properties (C03, C04, C16), regenerated from the Go sources
  by harness/cmd/extract (poolfacts.go) on every check run.  Each theorem states what the extractor
  must find; a source change that invalidates a premise makes the theorem fail to check, and the
  property is reported as no longer established (the harness then searches for a failing input).

  What these facts are and are not: they are syntactic (go/ast, no type information), per function,
  flow-insensitive.  They do not prove absence of deadlocks or races; they tie the ASSUMPTIONS of the
  message-passing pool model (`AtreeModel/Commit.lean`: a result queue that never blocks, workers
  that only compute) and of `only_commit_touches_ledger` to the code as it is now.
-/
namespace Atree

namespace C03

/-- Nothing but the three commit functions can write the ledger, aliases included: the only
    expressions that denote the base storage are the field `baseStorage`, calls of `getBaseStorage`
    and parameters / variables / local aliases of them; the functions that select `Store` or
    `Remove` on ANY such expression are the three commit functions; such an expression is handed on
    (stored, returned, passed as an argument) only by the constructor and by the getter itself, and
    no function of the package calls the getter. -/
theorem base_storage_reachable_only_from_commit :
    Gen.baseStorageFields = ["baseStorage"] ∧
    Gen.baseStorageGetters = ["getBaseStorage"] ∧
    Gen.baseStorageEscapes = ["NewPersistentSlabStorage", "PersistentSlabStorage.getBaseStorage"] ∧
    Gen.baseStorageGetterCallers = [] ∧
    Gen.baseStorageMethodUses = [
      ("PersistentSlabStorage.BatchPreload", ["Retrieve"]),
      ("PersistentSlabStorage.Count", ["SegmentCounts"]),
      ("PersistentSlabStorage.FastCommit", ["Remove", "Store"]),
      ("PersistentSlabStorage.GenerateSlabID", ["GenerateSlabID"]),
      ("PersistentSlabStorage.NondeterministicFastCommit", ["Remove", "Store"]),
      ("PersistentSlabStorage.RetrieveIgnoringDeltas", ["Retrieve"]),
      ("PersistentSlabStorage.commit", ["Remove", "Store"])] := by
  exact ⟨rfl, rfl, rfl, rfl, rfl⟩

end C03

namespace C04

/-- Pool reuse cannot influence a result: every `put*` helper resets the very object it returns to
    its pool, and the pooled digester's `Reset` assigns every field that any other method of the
    type reads (the only field it leaves alone is the scratch buffer, which is handed to the
    caller's hash-input provider as writable space and never read by the digester). -/
theorem source_premises_pools :
    Gen.putResetsBeforePool = true ∧
    Gen.putResetsTheObjectItPuts = true ∧
    Gen.pooledDigesterType = "basicDigester" ∧
    Gen.pooledDigesterFieldsRead.all (fun f => Gen.pooledDigesterResetClears.contains f) = true ∧
    Gen.pooledDigesterFields.filter (fun f => !Gen.pooledDigesterResetClears.contains f) = ["scratch"] := by
  decide +kernel

end C04

namespace C16

/-- The premises of the worker-pool model, for all three pools (FastCommit,
    NondeterministicFastCommit, BatchPreload):
    * the result queue's capacity is the job count (the capacity expression of `results` is that
      of `jobs`, into which every job is put without blocking), so a worker's send never blocks,
      also after the collecting goroutine has returned early (`pool_results_bounded`);
    * `results` is closed exactly once, in the deferred cleanup, after `wg.Wait()`, and every worker
      signals `wg.Done()` on exit: no send on a closed channel;
    * the worker closures do nothing through the storage receiver but read fields: no assignment /
      delete / clear on its state, no method call rooted at it outside the read-only list, no use of
      the receiver as a value, no address of a field (all map writes happen on the calling goroutine). -/
theorem source_premises :
    Gen.poolResultsCapacityIsJobCount = true ∧
    Gen.poolChannelCapacities = [
      ("PersistentSlabStorage.FastCommit", "len(keysWithOwners)", "len(keysWithOwners)"),
      ("PersistentSlabStorage.NondeterministicFastCommit", "modifiedSlabCount", "modifiedSlabCount"),
      ("PersistentSlabStorage.BatchPreload", "len(ids)", "len(ids)")] ∧
    Gen.poolCleanupWaitsBeforeClose = true ∧
    Gen.workerClosuresWriteFree = true ∧ Gen.workerClosureCount = 3 ∧
    Gen.workerClosureReceiverUses = [
      ("PersistentSlabStorage.FastCommit", []),
      ("PersistentSlabStorage.NondeterministicFastCommit", []),
      ("PersistentSlabStorage.BatchPreload", [])] := by
  exact ⟨rfl, rfl, rfl, rfl, rfl, rfl⟩

end C16

end Atree

import AtreeModel.Gen.Facts
/-
  Source-level premises of the determinism properties (C04, C16), regenerated from the Go sources by
  harness/cmd/extract (detfacts.go) on every check run.

  C04  "the result does not depend on … hash-map iteration order": the ONLY way Go's randomised map
       iteration enters a computation is a `for … range m` over a map `m` (the package does not use
       `reflect`, `maps.Keys` or similar; a ranged expression whose type the extractor cannot resolve
       is listed as "maybe" and the lists of maybes are required to be empty).  The extractor lists
       every such loop of the package, split by whether its function is reachable from the encode /
       commit roots in the intra-package static call graph.  The theorems below state that these
       lists are EXACTLY the reviewed ones; each reviewed entry carries the reason why the iteration
       order cannot reach a register's bytes or the order of the deterministic commit's ledger calls.
       A new loop over a map anywhere in the package makes a theorem fail to check (seeded change
       s32 — `findDuplicateTypeInfo` counting in a map and ranging over it — adds the entry
       ("InlinedExtraData.findDuplicateTypeInfo", "typeInfoCounts") to the first list).

  C16  "despite the library's … global settings": the package-level variables of a plain build and who
       writes them.

  What these facts are: syntactic (go/ast, declared types, no type checker), per function.  The call
  graph over-approximates (a call through an interface goes to the method of that name of every type
  that has all the interface's methods; a call on a receiver of unresolved type to every method of
  that name; a function or method used as a value is an edge).  What they are not: a proof that the
  loops listed are order-independent — that is the review recorded here, backed where it matters by
  the model theorems named in the entries.
-/
namespace Atree

namespace C04

/-- The roots of the encode / commit paths are what they were when the lists below were reviewed:
    `EncodeSlab`, the 16 `Encode` methods (slabs, extra data, elements, storables — and
    `BasicSlabStorage.Encode`, which merely shares the name), the five other methods of `InlinedExtraData`,
    and the three commit functions of `PersistentSlabStorage`. -/
theorem encode_path_roots :
    Gen.encodePathRoots = [
      "ArrayDataSlab.Encode", "ArrayExtraData.Encode", "ArrayMetaDataSlab.Encode", "BasicSlabStorage.Encode",
      "EncodeSlab", "InlinedExtraData.Encode", "InlinedExtraData.addArrayExtraData",
      "InlinedExtraData.addCompactMapExtraData", "InlinedExtraData.addMapExtraData", "InlinedExtraData.empty",
      "InlinedExtraData.findDuplicateTypeInfo", "MapDataSlab.Encode", "MapExtraData.Encode",
      "MapMetaDataSlab.Encode", "PersistentSlabStorage.FastCommit",
      "PersistentSlabStorage.NondeterministicFastCommit", "PersistentSlabStorage.commit",
      "SlabIDStorable.Encode", "StorableSlab.Encode", "compactMapExtraData.Encode",
      "externalCollisionGroup.Encode", "hkeyElements.Encode", "inlineCollisionGroup.Encode",
      "singleElement.Encode", "singleElements.Encode"] := rfl

/-- The call graph is not trivially small: the functions the review of C04 cares about are in the
    reachable set — the key sorter of the commit, the extra-data deduplication and its helpers, the
    inlined encoders, the pooled-buffer helpers, the ledger writes. -/
theorem encode_path_reaches :
    ["PersistentSlabStorage.sortedOwnedDeltaKeys", "EncodeSlab", "InlinedExtraData.findDuplicateTypeInfo",
     "InlinedExtraData.addCompactMapExtraData", "makeCompactMapTypeID", "fieldNameSorter.join",
     "getEncodedTypeInfo", "ArrayDataSlab.encodeAsInlined", "MapDataSlab.encodeAsInlined",
     "encodeAsInlinedCompactMap", "encodeCompactMapValues", "getBuffer", "putBuffer", "getTypeIDBuffer",
     "putTypeIDBuffer", "LedgerBaseStorage.Store", "LedgerBaseStorage.Remove", "SlabID.ToRawBytes"].all
      (fun f => Gen.encodePathFunctions.contains f) = true := by decide +kernel

/-- **No unreviewed loop over a Go map in the encode / commit paths.**  The `for … range` statements over
    a map-typed expression in the functions reachable from the roots are exactly these three, and no
    ranged expression in those functions has a type the extractor could not resolve:

    * `PersistentSlabStorage.sortedOwnedDeltaKeys`, `s.deltas` — SORTED AFTERWARDS: the loop only
      filters (`id.address != AddressUndefined`) and appends the key to a slice, which is then sorted
      with `sort.Slice` by `SlabID.Compare`, a strict total order on the (distinct) keys; the sorted slice
      is the same for every enumeration order: `C04.sortedOwnedDeltaKeys_order_independent`,
      `C04.fastcommit_independent_of_map_order` (Props/C04Order.lean).
    * `PersistentSlabStorage.NondeterministicFastCommit`, `s.deltas` — THE EXPLICITLY ORDER-RELAXED
      COMMIT (the property allows it to differ in the order of its ledger calls, and in nothing else):
      the loop partitions the owned keys into modified (front of a slice) and deleted (back); the
      deletions and stores then go to the ledger in that order.  Every key is written exactly once and
      writes to distinct keys commute: `C04.nondet_commit_same_final_ledger` (for every enumeration
      order `mo`, `dlo`).
    * `BasicSlabStorage.Encode`, `s.Slabs` — COMMUTATIVE UPDATE, and not a ledger path: it fills a fresh
      Go map `m[id] = EncodeSlab(slab)` (distinct keys; each value is a function of its slab alone) of
      the in-memory test storage.  Only WHICH error is returned when several slabs fail to encode
      depends on the order. -/
theorem no_unreviewed_map_range_in_encode_paths :
    Gen.rangeOverMapInEncodePaths = [
      ("BasicSlabStorage.Encode", "s.Slabs"),
      ("PersistentSlabStorage.NondeterministicFastCommit", "s.deltas"),
      ("PersistentSlabStorage.sortedOwnedDeltaKeys", "s.deltas")] ∧
    Gen.rangeMaybeMapInEncodePaths = [] := ⟨rfl, rfl⟩

/-- **…and none elsewhere in the package.**  The loops over a map in the functions NOT reachable from
    the roots are exactly these, and again every ranged expression of the package has a resolved type
    (`rangeStmtCount` statements in all).  None of them is followed by an allocation of a slab ID, a
    `Store` / `Remove` on a storage, or a write to a slab — the ways an order could reach later bytes:

    * `Array.incrementIndexFrom`, `Array.decrementIndexFrom`, `a.mutableElementIndex` — COMMUTATIVE
      PER-KEY UPDATE: each entry is shifted iff ITS OWN value is `≥ index` (resp. `> index`); the map
      after the loop is the same for every order (`C10Idx.index_shift_order_independent'`,
      Props/C10IdxW.lean), and the fatal branch, after which the order in which entries were visited
      would show in the half-updated map, is unreachable (`C10Idx.increment_never_fails'`,
      Props/C10IdxW.lean).  `mutableElementIndex` is never encoded.
    * `BasicSlabStorage.SlabIDs`, `BasicSlabStorage.SlabIterator`, `s.Slabs` — READ-ONLY ENUMERATION of
      the in-memory test storage, handed to the caller in map order (the caller sees the order; no
      state of the library depends on it).
    * `PersistentSlabStorage.SlabIterator`, `s.deltas` and `s.cache` — READ-ONLY ENUMERATION: collects
      (id, slab) pairs and the ledger slabs they reference (`RetrieveIgnoringDeltas(id, false)`: no
      caching) into a slice for the caller; used by the health check and by migrations' reporting.
    * `CheckStorageHealth`, `parentOf` — AN ALL-QUANTIFIER: every referenced child must be among the
      slabs seen; the order decides only WHICH missing child the error names.
      `CheckStorageHealth`, `slabs` — AN EXISTS, for the error message: picks some unreachable slab to name.
    * `PersistentSlabStorage.DeltasWithoutTempAddresses`, `DeltasSizeWithoutTempAddresses`, `s.deltas` —
      COMMUTATIVE FOLD: a count and a sum.
    * `PersistentSlabStorage.HasUnsavedChanges`, `s.deltas` — AN EXISTS: is some key owned by `address`. -/
theorem no_unreviewed_map_range_elsewhere :
    Gen.rangeOverMapElsewhere = [
      ("Array.decrementIndexFrom", "a.mutableElementIndex"),
      ("Array.incrementIndexFrom", "a.mutableElementIndex"),
      ("BasicSlabStorage.SlabIDs", "s.Slabs"),
      ("BasicSlabStorage.SlabIterator", "s.Slabs"),
      ("CheckStorageHealth", "parentOf"),
      ("CheckStorageHealth", "slabs"),
      ("PersistentSlabStorage.DeltasSizeWithoutTempAddresses", "s.deltas"),
      ("PersistentSlabStorage.DeltasWithoutTempAddresses", "s.deltas"),
      ("PersistentSlabStorage.HasUnsavedChanges", "s.deltas"),
      ("PersistentSlabStorage.SlabIterator", "s.cache"),
      ("PersistentSlabStorage.SlabIterator", "s.deltas")] ∧
    Gen.rangeMaybeMapElsewhere = [] := ⟨rfl, rfl⟩

/-- In particular the two Go maps the encoder itself keeps — `InlinedExtraData.arrayExtraDataSet` and
    `compactMapTypeSet` — and the map `findDuplicateTypeInfo` returns are only ever LOOKED UP, never
    ranged over: no function of `InlinedExtraData`, no `Encode` method of a slab, an element or an extra
    data and no `encodeAs…` function is in a list above (the model of these lookups is a first-match search in the list of entries in insertion
    order, `Codec.addArrayXD` / `Codec.addCompactXD` / `Codec.encodeTyRef`; see Props/C04ExtraData.lean). -/
theorem extra_data_maps_never_ranged :
    ["InlinedExtraData.Encode", "InlinedExtraData.findDuplicateTypeInfo", "InlinedExtraData.addArrayExtraData",
     "InlinedExtraData.addMapExtraData", "InlinedExtraData.addCompactMapExtraData", "InlinedExtraData.empty",
     "ArrayDataSlab.Encode", "ArrayDataSlab.encodeElements", "ArrayDataSlab.encodeAsInlined",
     "MapDataSlab.Encode", "MapDataSlab.encodeElements", "MapDataSlab.encodeAsInlined",
     "MapDataSlab.encodeAsInlinedMap", "MapDataSlab.canBeEncodedAsCompactMap", "encodeAsInlinedCompactMap",
     "encodeCompactMapValues", "hkeyElements.Encode", "singleElements.Encode", "singleElement.Encode",
     "inlineCollisionGroup.Encode", "externalCollisionGroup.Encode", "ArrayExtraData.Encode",
     "MapExtraData.Encode", "compactMapExtraData.Encode", "getEncodedTypeInfo", "makeCompactMapTypeID",
     "fieldNameSorter.join", "EncodeSlab", "ArrayMetaDataSlab.Encode", "MapMetaDataSlab.Encode",
     "StorableSlab.Encode", "SlabIDStorable.Encode"].all
      (fun f => !((Gen.rangeOverMapInEncodePaths ++ Gen.rangeMaybeMapInEncodePaths ++
        Gen.rangeOverMapElsewhere ++ Gen.rangeMaybeMapElsewhere).map (·.1)).contains f) = true := by decide +kernel

end C04

namespace C16

/-- **Concurrent storages only READ the process-wide settings.**  In a plain build (no `_test.go`
    file, no `verif` build tag):
    * the six threshold variables are assigned by `setThreshold` and by nothing else;
      `maxCollisionLimitPerDigest` is assigned by nothing (it keeps its initial value);
    * the functions from which `setThreshold` is reachable in the static call graph — as a call or as
      a function value, package-level initialisers included — are `setThreshold` itself and `init`,
      which the Go runtime runs once, before `main` and before any goroutine of the program exists;
    * the other writers exist only in code that is not part of a plain build: `VerifSetThreshold` and
      `VerifSetMaxCollisionLimitPerDigest` in `verif_hooks.go` (build tag `verif`, used by this
      harness only between runs, never while a storage is in use), and `SetThreshold` /
      `SetMaxCollisionLimitPerDigest` in `export_test.go` (compiled by `go test` only).
    Hence goroutines that use their own storages never race on the settings: every access is a read
    of a value written before the goroutines were started. -/
theorem settings_written_only_by_init :
    Gen.settingsVarsDeclared = true ∧
    Gen.settingsVars = ["targetThreshold", "minThreshold", "maxThreshold", "maxInlineArrayElementSize",
      "maxInlineMapElementSize", "maxInlineMapKeySize", "maxCollisionLimitPerDigest"] ∧
    Gen.settingsWriters = ["setThreshold"] ∧
    Gen.settingsWriterReachers = ["init", "setThreshold"] ∧
    Gen.settingsWritersVerifOnly = ["VerifSetMaxCollisionLimitPerDigest", "VerifSetThreshold"] ∧
    Gen.verifHooksAreBuildTagged = true ∧
    Gen.settingsWritersTestOnly = ["<initialiser of SetThreshold>", "SetMaxCollisionLimitPerDigest"] ∧
    Gen.settingsWriterTestFiles = ["export_test.go"] := ⟨rfl, rfl, rfl, rfl, rfl, rfl, rfl, rfl⟩

/-- **The package has no other mutable process-wide state.**  Every package-level variable of a plain
    build with its kind and the functions that write it (assignment, `op=`, `++`/`--`, also through a
    field / index / dereference rooted at it; its address taken; `clear` / `delete` / `copy` into it):
    apart from the six thresholds (written by `setThreshold`, see above) nothing is ever written.  The
    three `sync.Pool`s are mutated through `Get` / `Put` by their helper pairs only
    (`Buf.source_premises`; the pools are safe for concurrent use by contract, and what a recycled
    object can carry over is the subject of `Dig.pooled_history_refines_spec` and
    `Buf.pooled_history_refines_spec`).  The four iterator singletons hold pointers; no method of their
    type assigns through its receiver (`pointerVarPointeeMutators`).  The one slice
    (`typeInfoRefTagHeadAndTagNumber`) is only read (passed to `EncodeRawBytes`, which copies). -/
theorem package_state_is_settings_and_pools :
    Gen.packageVarWriters = [
      ("AddressUndefined", "value", []),
      ("SlabIDUndefined", "value", []),
      ("SlabIndexUndefined", "value", []),
      ("basicDigesterPool", "sync.Pool", []),
      ("bufferPool", "sync.Pool", []),
      ("defaultReadOnlyArrayIteratorMutatinCallback", "func", []),
      ("defaultReadOnlyMapIteratorMutatinCallback", "func", []),
      ("emptyBlake3Hash", "value", []),
      ("emptyMutableArrayIterator", "pointer", []),
      ("emptyMutableMapIterator", "pointer", []),
      ("emptyReadOnlyArrayIterator", "pointer", []),
      ("emptyReadOnlyMapIterator", "pointer", []),
      ("emptyValueID", "value", []),
      ("maxCollisionLimitPerDigest", "value", []),
      ("maxInlineArrayElementSize", "value", ["setThreshold"]),
      ("maxInlineMapElementSize", "value", ["setThreshold"]),
      ("maxInlineMapKeySize", "value", ["setThreshold"]),
      ("maxThreshold", "value", ["setThreshold"]),
      ("minThreshold", "value", ["setThreshold"]),
      ("targetThreshold", "value", ["setThreshold"]),
      ("typeIDBufferPool", "sync.Pool", []),
      ("typeInfoRefTagHeadAndTagNumber", "slice", [])] ∧
    Gen.pointerVarPointeeMutators = [] := ⟨rfl, rfl⟩

end C16

end Atree

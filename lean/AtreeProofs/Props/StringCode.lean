/-
  Table facts over lists of strings (C18Order, C18OrderExt): strings are compared through an injective
  code in `Nat`.  `beq_code`, `bne_code`, `contains_code`, `contains_code₂` rewrite the comparisons of a
  Boolean over a table into comparisons of codes; the table itself is not unfolded.
-/
namespace Atree.StringCode

/-- The bytes of `s` as digits to base 256, lowest first, above a closing 1.
    Why: the kernel has no built-in string equality.  A literal is `String.ofList chars`, whose bytes are
    built by the strict loop `List.toByteArray.loop`, and `==` then walks two `List UInt8` through
    `Decidable` instances, byte by byte behind every shared prefix (`"call:"`, `"check:New"`), at every
    comparison.  The kernel caches the value of the closed term `code "…"`, so each distinct literal of a
    table is read once; all comparisons after that are `Nat.beq` on numerals. -/
def code (s : String) : Nat := s.toByteArray.data.toList.foldr (fun b n => 256 * n + b.toNat) 1

theorem digits_pos (l : List UInt8) : 1 ≤ l.foldr (fun b n => 256 * n + b.toNat) 1 := by
  induction l with
  | nil => exact Nat.le_refl 1
  | cons b t ih => rw [List.foldr_cons]; omega

theorem digits_inj (l₁ l₂ : List UInt8)
    (h : l₁.foldr (fun b n => 256 * n + b.toNat) 1 = l₂.foldr (fun b n => 256 * n + b.toNat) 1) : l₁ = l₂ := by
  induction l₁ generalizing l₂ with
  | nil =>
    cases l₂ with
    | nil => rfl
    | cons b t => have := digits_pos t; rw [List.foldr_cons, List.foldr_nil] at h; omega
  | cons b₁ t₁ ih =>
    cases l₂ with
    | nil => have := digits_pos t₁; rw [List.foldr_cons, List.foldr_nil] at h; omega
    | cons b₂ t₂ =>
      rw [List.foldr_cons, List.foldr_cons] at h
      have h1 := b₁.toNat_lt; have h2 := b₂.toNat_lt
      rw [ih t₂ (by omega), UInt8.toNat_inj.mp (by omega : b₁.toNat = b₂.toNat)]

theorem code_inj {a b : String} (h : code a = code b) : a = b := by
  have := digits_inj _ _ h
  obtain ⟨⟨⟨x⟩⟩, _⟩ := a; obtain ⟨⟨⟨y⟩⟩, _⟩ := b
  cases (this : x = y); rfl

def code₂ (p : String × String) : Nat × Nat := (code p.1, code p.2)

theorem code₂_inj {p q : String × String} (h : code₂ p = code₂ q) : p = q := by
  cases p; cases q
  simp only [code₂, Prod.mk.injEq] at h
  rw [code_inj h.1, code_inj h.2]

/-- an injective map may be applied to both sides of a comparison -/
theorem beq_map {α β} [BEq α] [LawfulBEq α] [BEq β] [LawfulBEq β] (f : α → β)
    (hf : ∀ {a b}, f a = f b → a = b) (a b : α) : (f a == f b) = (a == b) := by
  by_cases h : a = b
  · subst h; rw [beq_self_eq_true, beq_self_eq_true]
  · have : f a ≠ f b := fun hc => h (hf hc)
    rw [beq_eq_false_iff_ne.mpr h, beq_eq_false_iff_ne.mpr this]

/-- … and membership may be tested on the images -/
theorem contains_map {α β} [BEq α] [LawfulBEq α] [BEq β] [LawfulBEq β] (f : α → β)
    (hf : ∀ {a b}, f a = f b → a = b) (l : List α) (a : α) : (l.map f).contains (f a) = l.contains a := by
  induction l with
  | nil => rfl
  | cons x t ih => rw [List.map_cons, List.contains_cons, List.contains_cons, ih, beq_map f hf]

theorem beq_code (a b : String) : (a == b) = (code a == code b) := (beq_map code code_inj a b).symm

theorem bne_code (a b : String) : (a != b) = (code a != code b) := by rw [bne, bne, beq_code]

theorem contains_code (l : List String) (a : String) : l.contains a = (l.map code).contains (code a) :=
  (contains_map code code_inj l a).symm

theorem contains_code₂ (l : List (String × String)) (a b : String) :
    l.contains (a, b) = (l.map code₂).contains (code a, code b) :=
  (contains_map code₂ code₂_inj l (a, b)).symm

end Atree.StringCode

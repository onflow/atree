import AtreeProofs.Trans.Basic
import AtreeProofs.Trans.Bytes
import AtreeModel.Array.Slab
import AtreeModel.Map.Tree
import AtreeModel.Codec.Decode
/-
  Translation equivalence of the stateless engine (`Gen/Trans.lean`): the loop-free functions.

  `Atree.Gen.Trans.*` is REGENERATED from the Go sources on every check run by harness/cmd/gotrans, with Go's
  machine-integer semantics (`UInt32` wrap-around etc.).  The theorems below say that on all inputs in the stated
  ranges the translation computes what the hand-written `Nat` model computes - the model that the refinement
  proofs (C01, C02, C05, C07, ...) are about.  If a Go function changes semantically, the generated definition
  changes and its theorem here stops compiling.

  Where the two genuinely differ (wrap-around against truncated subtraction) the exact input class is a theorem
  `..._differs_at`, next to the theorem that shows the class excluded by a range hypothesis; Props/TransSafe.lean
  derives the range hypotheses from the tree invariants.
-/
namespace Atree.TransEq
open Atree Atree.Gen.Trans

/-- every whitelisted function was translated (none fell back to `untranslatable`) -/
theorem all_translated : untranslatedFunctions = [] := by decide

/-! ## settings.go -/

/-- none of the subtractions of `setThreshold` underflows for a slab size of at least `minSlabSize` -/
theorem setThreshold_no_underflow {T : Nat} (h : 256 ≤ T) :
    Gen.arrayDataSlabPrefixSize ≤ T ∧ Gen.mapDataSlabPrefixSize ≤ T ∧
    Gen.hkeyElementsPrefixSize ≤ T - Gen.mapDataSlabPrefixSize ∧
    Gen.digestSize ≤ (T - Gen.mapDataSlabPrefixSize - Gen.hkeyElementsPrefixSize) / Gen.minElementCountInSlab ∧
    Gen.singleElementPrefixSize ≤
      (T - Gen.mapDataSlabPrefixSize - Gen.hkeyElementsPrefixSize) / Gen.minElementCountInSlab - Gen.digestSize := by
  show 21 ≤ T ∧ 18 ≤ T ∧ 8 ≤ T - 18 ∧ 8 ≤ (T - 18 - 8) / 2 ∧ 1 ≤ (T - 18 - 8) / 2 - 8
  omega

/-- `setThreshold(T)` panics exactly for the illegal thresholds and otherwise sets the six package variables to the
    model's `T, minThr T, maxThr T, maxInlineArr T, maxInlineMapElem T, maxInlineMapKey T` (float `*1.5` included). -/
theorem setThreshold_eq_model (T : Nat) (hT : T < 2^32) :
    setThreshold (u32 T) =
      if legalThreshold T then
        some (u32 T, u32 (minThr T), u32 (maxThr T), u32 (maxInlineArr T), u32 (maxInlineMapElem T),
              u32 (maxInlineMapKey T))
      else none := by
  have hleg : legalThreshold T = true ↔ Gen.minSlabSize ≤ T ∧ T ≤ Gen.maxSlabSize := by
    simp only [legalThreshold, Bool.and_eq_true, decide_eq_true_eq]
  have e256 : Gen.minSlabSize = 256 := rfl
  have e32768 : Gen.maxSlabSize = 32768 := rfl
  unfold setThreshold
  by_cases hlo : T < Gen.minSlabSize
  · rw [if_pos (decide_eq_true ((u32_lt hT (by decide)).mpr hlo)), if_neg (fun h => by have := hleg.mp h; omega)]
  rw [if_neg (by rw [decide_eq_true_eq]; exact fun h => hlo ((u32_lt hT (by decide)).mp h))]
  by_cases hhi : Gen.maxSlabSize < T
  · rw [if_pos (decide_eq_true ((u32_lt (by decide) hT).mpr hhi)), if_neg (fun h => by have := hleg.mp h; omega)]
  rw [if_neg (by rw [decide_eq_true_eq]; exact fun h => hhi ((u32_lt (by decide) hT).mp h)),
    if_pos (hleg.mpr (by omega))]
  rw [e256] at hlo; rw [e32768] at hhi
  -- every field is `u32` of a `Nat` expression: no subtraction wraps, `3 * T` stays below `2 * (2^32 - 1)`
  have emax : (if goF64Mul15Gt (u32 T) 4294967295 then (4294967295 : UInt32) else goF64Mul15ToU32 (u32 T))
      = u32 (maxThr T) := by
    rw [goF64Mul15Gt, goF64Mul15ToU32, u32_toNat hT, if_neg (by rw [decide_eq_true_eq]; omega)]; rfl
  have sub {a : Nat} (c : Nat) (hc : c ≤ a) (ha : a < 2^32) : u32 a - UInt32.ofNat c = u32 (a - c) := u32_sub_eq hc
  have div {a : Nat} (c : Nat) (hc : c < 2^32) (ha : a < 2^32) : u32 a / UInt32.ofNat c = u32 (a / c) := u32_div ha hc
  have div2 {a : Nat} (ha : a < 2^32) : u32 a / 2 = u32 (a / 2) := u32_div ha (by decide)
  have lt_sub {a : Nat} (c : Nat) (ha : a < 2^32) : a - c < 2^32 := by omega
  have lt_div {a : Nat} (c : Nat) (ha : a < 2^32) : a / c < 2^32 := Nat.lt_of_le_of_lt (Nat.div_le_self a c) ha
  obtain ⟨h21, h18, h8, hd, h1⟩ := setThreshold_no_underflow (Nat.le_of_not_lt hlo)
  have helem := lt_sub Gen.digestSize (lt_div Gen.minElementCountInSlab (lt_sub Gen.hkeyElementsPrefixSize (lt_sub Gen.mapDataSlabPrefixSize hT)))
  dsimp only
  rw [emax, sub _ h21 hT, div _ (by decide) (lt_sub _ hT), sub _ h18 hT, sub _ h8 (lt_sub _ hT),
    div _ (by decide) (lt_sub _ (lt_sub _ hT)), sub _ hd (lt_div _ (lt_sub _ (lt_sub _ hT))),
    sub _ h1 helem, div2 hT, div2 (lt_sub _ helem)]
  rfl

/-- non-vacuity: the default slab size -/
example : setThreshold (u32 1024) = some (1024, 512, 1536, 501, 491, 245) := by decide

/-- `maxInlineMapValueSize(keySize)` equals the model's value as long as the key (plus its prefix byte) fits into a
    map element, which the `Value.Storable(maxInlineMapKeySize)` contract guarantees. -/
theorem maxInlineMapValueSize_eq_model (T keySize : Nat) (hT : maxInlineMapElem T < 2^32)
    (hk : keySize + Gen.singleElementPrefixSize ≤ maxInlineMapElem T) :
    (maxInlineMapValueSize (u32 keySize) (u32 (maxInlineMapElem T))).toNat = maxInlineMapValue T keySize := by
  have hk' : keySize < 2^32 := by simp only [Gen.singleElementPrefixSize] at hk; omega
  simp only [maxInlineMapValueSize, maxInlineMapValue, UInt32.toNat_sub, u32_toNat hT, u32_toNat hk',
    UInt32.toNat_ofNat', Gen.singleElementPrefixSize] at *
  omega

/-- outside that range Go wraps around where the model truncates: a key storable as large as a whole map element
    (a violation of the `Storable` contract) gets an inline value limit of 2^32 - 1 in Go, 0 in the model -/
theorem maxInlineMapValueSize_differs_at :
    (maxInlineMapValueSize (u32 (maxInlineMapElem 1024)) (u32 (maxInlineMapElem 1024))).toNat = 2^32 - 1 ∧
    maxInlineMapValue 1024 (maxInlineMapElem 1024) = 0 := by decide

/-! ## math_utils.go -/

/-- `safeAdd2Uint32` is the model's `if a + b > maxUint32 then fail else a + b` -/
theorem safeAdd2Uint32_eq_model (a b : UInt32) :
    safeAdd2Uint32 a b =
      if a.toNat + b.toNat > Codec.maxUint32 then (0, false) else (u32 (a.toNat + b.toNat), true) := by
  have := a.toNat_lt; have := b.toNat_lt
  simp only [safeAdd2Uint32, Codec.maxUint32, UInt64.lt_iff_toNat_lt, UInt64.toNat_add, UInt32.toNat_toUInt64,
    gt_iff_lt, decide_eq_true_eq, UInt64.toNat_ofNat]
  rw [show (a.toNat + b.toNat) % 2^64 = a.toNat + b.toNat by omega]
  split
  · rfl
  · simp only [Prod.mk.injEq, and_true, ← UInt32.toNat_inj, UInt64.toNat_toUInt32, UInt64.toNat_add,
      UInt32.toNat_toUInt64, u32, UInt32.toNat_ofNat']
    omega

/-- `safeAdd3Uint32` is the model's `if a + b + c > maxUint32 then fail else a + b + c` -/
theorem safeAdd3Uint32_eq_model (a b c : UInt32) :
    safeAdd3Uint32 a b c =
      if a.toNat + b.toNat + c.toNat > Codec.maxUint32 then (0, false)
      else (u32 (a.toNat + b.toNat + c.toNat), true) := by
  have := a.toNat_lt; have := b.toNat_lt; have := c.toNat_lt
  simp only [safeAdd3Uint32, Codec.maxUint32, UInt64.lt_iff_toNat_lt, UInt64.toNat_add, UInt32.toNat_toUInt64,
    gt_iff_lt, decide_eq_true_eq, UInt64.toNat_ofNat]
  rw [show ((a.toNat + b.toNat) % 2^64 + c.toNat) % 2^64 = a.toNat + b.toNat + c.toNat by omega]
  split
  · rfl
  · simp only [Prod.mk.injEq, and_true, ← UInt32.toNat_inj, UInt64.toNat_toUInt32, UInt64.toNat_add,
      UInt32.toNat_toUInt64, u32, UInt32.toNat_ofNat']
    omega

example : safeAdd2Uint32 4294967295 1 = (0, false) ∧ safeAdd2Uint32 4294967294 1 = (4294967295, true) := by decide

/-! ## IsFull / IsUnderflow of the four slab kinds -/

theorem ArrayDataSlab_IsFull_eq_model (T : Nat) (s : DataSlab) (hs : s.hdr.size < 2^32) (hT : maxThr T < 2^32) :
    ArrayDataSlab_IsFull (u32 s.hdr.size) (u32 (maxThr T)) = s.isFull T := by
  simp [ArrayDataSlab_IsFull, DataSlab.isFull, UInt32.lt_iff_toNat_lt, u32_toNat hs, u32_toNat hT]

theorem ArrayMetaDataSlab_IsFull_eq_model {α : Type} (T : Nat) (m : MetaSlab α) (hs : m.hdr.size < 2^32)
    (hT : maxThr T < 2^32) :
    ArrayMetaDataSlab_IsFull (u32 m.hdr.size) (u32 (maxThr T)) = m.isFull T := by
  simp [ArrayMetaDataSlab_IsFull, MetaSlab.isFull, UInt32.lt_iff_toNat_lt, u32_toNat hs, u32_toNat hT]

/-- the model's map data slabs are the size-limited ones (`anySize = false`; collision-group slabs are never
    asked `IsFull`) -/
theorem MapDataSlab_IsFull_eq_model {r : Nat} (T : Nat) (s : MDataSlab r) (hs : s.hdr.size < 2^32)
    (hT : maxThr T < 2^32) :
    MapDataSlab_IsFull false (u32 s.hdr.size) (u32 (maxThr T)) = s.isFull T := by
  simp [MapDataSlab_IsFull, MDataSlab.isFull, UInt32.lt_iff_toNat_lt, u32_toNat hs, u32_toNat hT]

/-- a slab without size limit is never full and never underflows, whatever its size -/
theorem MapDataSlab_anySize (hsize thr : UInt32) :
    MapDataSlab_IsFull true hsize thr = false ∧ MapDataSlab_IsUnderflow true hsize thr = (0, false) := by
  simp [MapDataSlab_IsFull, MapDataSlab_IsUnderflow]

theorem MapMetaDataSlab_IsFull_eq_model {α : Type} (T : Nat) (m : MMetaSlab α) (hs : m.hdr.size < 2^32)
    (hT : maxThr T < 2^32) :
    MapMetaDataSlab_IsFull (u32 m.hdr.size) (u32 (maxThr T)) = m.isFull T := by
  simp [MapMetaDataSlab_IsFull, MMetaSlab.isFull, UInt32.lt_iff_toNat_lt, u32_toNat hs, u32_toNat hT]

/-- the shared shape of the four `IsUnderflow` bodies -/
theorem isUnderflow_core (hsize minT : UInt32) :
    optOfPair (if decide (minT > hsize) then (minT - hsize, true) else ((0 : UInt32), false)) =
      (if minT.toNat > hsize.toNat then some (minT.toNat - hsize.toNat) else none) := by
  have := hsize.toNat_lt; have := minT.toNat_lt
  by_cases h : hsize < minT
  · have h' := UInt32.lt_iff_toNat_lt.mp h
    simp only [gt_iff_lt, h, decide_true, if_true, optOfPair, h', UInt32.toNat_sub, Option.some.injEq]
    omega
  · have h' : ¬ hsize.toNat < minT.toNat := fun hh => h (UInt32.lt_iff_toNat_lt.mpr hh)
    simp [h, optOfPair, h']

theorem ArrayDataSlab_IsUnderflow_eq_model (T : Nat) (s : DataSlab) (hs : s.hdr.size < 2^32) (hT : minThr T < 2^32) :
    optOfPair (ArrayDataSlab_IsUnderflow (u32 s.hdr.size) (u32 (minThr T))) = s.isUnderflow T := by
  unfold ArrayDataSlab_IsUnderflow
  rw [isUnderflow_core, u32_toNat hs, u32_toNat hT]; rfl

theorem ArrayMetaDataSlab_IsUnderflow_eq_model {α : Type} (T : Nat) (m : MetaSlab α) (hs : m.hdr.size < 2^32)
    (hT : minThr T < 2^32) :
    optOfPair (ArrayMetaDataSlab_IsUnderflow (u32 m.hdr.size) (u32 (minThr T))) = m.isUnderflow T := by
  unfold ArrayMetaDataSlab_IsUnderflow
  rw [isUnderflow_core, u32_toNat hs, u32_toNat hT]; rfl

theorem MapDataSlab_IsUnderflow_eq_model {r : Nat} (T : Nat) (s : MDataSlab r) (hs : s.hdr.size < 2^32)
    (hT : minThr T < 2^32) :
    optOfPair (MapDataSlab_IsUnderflow false (u32 s.hdr.size) (u32 (minThr T))) = s.isUnderflow T := by
  unfold MapDataSlab_IsUnderflow
  simp only [Bool.false_eq_true, if_false]
  rw [isUnderflow_core, u32_toNat hs, u32_toNat hT]; rfl

theorem MapMetaDataSlab_IsUnderflow_eq_model {α : Type} (T : Nat) (m : MMetaSlab α) (hs : m.hdr.size < 2^32)
    (hT : minThr T < 2^32) :
    optOfPair (MapMetaDataSlab_IsUnderflow (u32 m.hdr.size) (u32 (minThr T))) = m.isUnderflow T := by
  unfold MapMetaDataSlab_IsUnderflow
  rw [isUnderflow_core, u32_toNat hs, u32_toNat hT]; rfl

/-- non-vacuity: a 100-byte slab under T = 1024 underflows by 412 bytes, in Go and in the model -/
example : optOfPair (ArrayDataSlab_IsUnderflow (u32 100) (u32 (minThr 1024))) = some 412 := by decide

/-! ## CanLendToLeft / CanLendToRight of the index slabs (`math.Ceil(float64(size) / headerSize)`) -/

/-- the shared shape of the four bodies, `c` = the child-header size (14 for arrays, 18 for maps) -/
theorem metaCanLend_core (c : Nat) (hc0 : 0 < c) (hc : c < 2^16) (hsize size minT : UInt32)
    (h : size.toNat + c ≤ 2^32) :
    (let n : UInt32 := goCeilDivU32 size c
     if decide (hsize ≥ UInt32.ofNat c * n) then decide (hsize - UInt32.ofNat c * n > minT) else false) =
    (let n := (size.toNat + c - 1) / c
     if hsize.toNat ≥ c * n then decide (hsize.toNat - c * n > minT.toNat) else false) := by
  have hlt : size.toNat + c - 1 < 2^32 :=
    Nat.lt_of_lt_of_le (Nat.sub_one_lt (Nat.ne_of_gt (Nat.add_pos_right _ hc0))) h
  have hn : (size.toNat + c - 1) / c * c ≤ size.toNat + c - 1 := Nat.div_mul_le_self _ _
  have hn2 : (size.toNat + c - 1) / c ≤ size.toNat + c - 1 := Nat.div_le_self _ _
  have hcn : c * ((size.toNat + c - 1) / c) = (size.toNat + c - 1) / c * c := Nat.mul_comm _ _
  simp only [goCeilDivU32, UInt32.le_iff_toNat_le, UInt32.lt_iff_toNat_lt, UInt32.toNat_mul, UInt32.toNat_sub,
    UInt32.toNat_ofNat', ge_iff_le, gt_iff_lt, decide_eq_true_eq]
  rw [Nat.mod_eq_of_lt (Nat.lt_trans hc (by decide)),
      Nat.mod_eq_of_lt (Nat.lt_of_le_of_lt hn2 hlt),
      Nat.mod_eq_of_lt (hcn ▸ Nat.lt_of_le_of_lt hn hlt)]
  generalize c * ((size.toNat + c - 1) / c) = k
  by_cases hk : k ≤ hsize.toNat
  · have e : (2 ^ 32 - k + hsize.toNat) % 2 ^ 32 = hsize.toNat - k := by
      have := hsize.toNat_lt
      clear hn hn2 hcn hlt h
      omega
    rw [if_pos hk, if_pos hk, e]
  · rw [if_neg hk, if_neg hk]

theorem ArrayMetaDataSlab_CanLendToLeft_eq_model {α : Type} (T : Nat) (m : MetaSlab α) (want : Nat)
    (hs : m.hdr.size < 2^32) (hT : minThr T < 2^32) (hw : want + Gen.arraySlabHeaderSize ≤ 2^32) :
    ArrayMetaDataSlab_CanLendToLeft (u32 m.hdr.size) (u32 want) (u32 (minThr T)) = m.canLend T want := by
  have hw' : want < 2^32 := by simp only [Gen.arraySlabHeaderSize] at hw; omega
  unfold ArrayMetaDataSlab_CanLendToLeft
  rw [metaCanLend_core Gen.arraySlabHeaderSize (by decide) (by decide) _ _ _ (by rw [u32_toNat hw']; exact hw)]
  simp only [u32_toNat hs, u32_toNat hT, u32_toNat hw', MetaSlab.canLend]

theorem ArrayMetaDataSlab_CanLendToRight_eq_model {α : Type} (T : Nat) (m : MetaSlab α) (want : Nat)
    (hs : m.hdr.size < 2^32) (hT : minThr T < 2^32) (hw : want + Gen.arraySlabHeaderSize ≤ 2^32) :
    ArrayMetaDataSlab_CanLendToRight (u32 m.hdr.size) (u32 want) (u32 (minThr T)) = m.canLend T want := by
  have hw' : want < 2^32 := by simp only [Gen.arraySlabHeaderSize] at hw; omega
  unfold ArrayMetaDataSlab_CanLendToRight
  rw [metaCanLend_core Gen.arraySlabHeaderSize (by decide) (by decide) _ _ _ (by rw [u32_toNat hw']; exact hw)]
  simp only [u32_toNat hs, u32_toNat hT, u32_toNat hw', MetaSlab.canLend]

theorem MapMetaDataSlab_CanLendToLeft_eq_model {α : Type} (T : Nat) (m : MMetaSlab α) (want : Nat)
    (hs : m.hdr.size < 2^32) (hT : minThr T < 2^32) (hw : want + Gen.mapSlabHeaderSize ≤ 2^32) :
    MapMetaDataSlab_CanLendToLeft (u32 m.hdr.size) (u32 want) (u32 (minThr T)) = m.canLend T want := by
  have hw' : want < 2^32 := by simp only [Gen.mapSlabHeaderSize] at hw; omega
  unfold MapMetaDataSlab_CanLendToLeft
  rw [metaCanLend_core Gen.mapSlabHeaderSize (by decide) (by decide) _ _ _ (by rw [u32_toNat hw']; exact hw)]
  simp only [u32_toNat hs, u32_toNat hT, u32_toNat hw', MMetaSlab.canLend]

theorem MapMetaDataSlab_CanLendToRight_eq_model {α : Type} (T : Nat) (m : MMetaSlab α) (want : Nat)
    (hs : m.hdr.size < 2^32) (hT : minThr T < 2^32) (hw : want + Gen.mapSlabHeaderSize ≤ 2^32) :
    MapMetaDataSlab_CanLendToRight (u32 m.hdr.size) (u32 want) (u32 (minThr T)) = m.canLend T want := by
  have hw' : want < 2^32 := by simp only [Gen.mapSlabHeaderSize] at hw; omega
  unfold MapMetaDataSlab_CanLendToRight
  rw [metaCanLend_core Gen.mapSlabHeaderSize (by decide) (by decide) _ _ _ (by rw [u32_toNat hw']; exact hw)]
  simp only [u32_toNat hs, u32_toNat hT, u32_toNat hw', MMetaSlab.canLend]

/-- The range hypothesis on `want` is needed: for a request within 13 bytes of 2^32 the product
    `arraySlabHeaderSize * n` wraps around in Go (to 10 here), so Go answers "can lend" where the model (and the
    intent) says no.  Callers pass an underflow size, which is below `minThreshold ≤ 16384`. -/
theorem ArrayMetaDataSlab_CanLendToLeft_differs_at :
    ArrayMetaDataSlab_CanLendToLeft (u32 1000) (u32 (2^32 - 1)) (u32 128) = true ∧
    (let n := (2^32 - 1 + Gen.arraySlabHeaderSize - 1) / Gen.arraySlabHeaderSize
     (if 1000 ≥ Gen.arraySlabHeaderSize * n then decide (1000 - Gen.arraySlabHeaderSize * n > 128) else false)
       = false) := by decide

/-! ## flag.go against the flag model of the codec (`AtreeModel/Codec/Decode.lean`, `SlabHead`) -/

open Codec in
/-- Go's `slabType` numbers for the model's enumeration -/
def slabTypeCode : Codec.SlabType → Int
  | .undefined => Int.ofNat Gen.slabTypeUndefined
  | .array => Int.ofNat Gen.slabArray
  | .map => Int.ofNat Gen.slabMap
  | .storable => Int.ofNat Gen.slabStorable

def arrayTypeCode : Codec.ArrayType → Int
  | .undefined => Int.ofNat Gen.slabArrayUndefined
  | .data => Int.ofNat Gen.slabArrayData
  | .index => Int.ofNat Gen.slabArrayMeta
  | .largeImmutable => Int.ofNat Gen.slabLargeImmutableArray

def mapTypeCode : Codec.MapType → Int
  | .undefined => Int.ofNat Gen.slabMapUndefined
  | .data => Int.ofNat Gen.slabMapData
  | .index => Int.ofNat Gen.slabMapMeta
  | .largeEntry => Int.ofNat Gen.slabMapLargeEntry
  | .collisionGroup => Int.ofNat Gen.slabMapCollisionGroup

/-- the model's head for a pair of Go bytes -/
abbrev headOf (h0 h1 : UInt8) : Codec.SlabHead := ⟨h0.toNat, h1.toNat⟩

/-! Go's byte operations against a constant, read on the numbers (`m` is a mask or bound below 256) -/

theorem u8_or_ofNat (h : UInt8) {m : Nat} (hm : m < 2^8) : h ||| UInt8.ofNat m = u8 (h.toNat ||| m) := by
  apply UInt8.toNat_inj.mp
  rw [UInt8.toNat_or, u8_toNat (Nat.or_lt_two_pow h.toNat_lt hm), u8_toNat hm]

theorem u8_and_ofNat_toNat (h : UInt8) {m : Nat} (hm : m < 2^8) : (h &&& UInt8.ofNat m).toNat = h.toNat &&& m := by
  rw [UInt8.toNat_and, u8_toNat hm]

theorem u8_and_ofNat_pos (h : UInt8) (m : Nat) (hm : m < 2^8) :
    (h &&& UInt8.ofNat m > 0) = (h.toNat &&& m > 0) := by
  rw [gt_iff_lt, UInt8.lt_iff_toNat_lt, u8_and_ofNat_toNat h hm]; rfl

theorem u8_and_ofNat_eq_zero (h : UInt8) (m : Nat) (hm : m < 2^8) :
    (h &&& UInt8.ofNat m = 0) = (h.toNat &&& m = 0) := by
  rw [← UInt8.toNat_inj, u8_and_ofNat_toNat h hm]; rfl

theorem u8_shl4 (v : UInt8) : v <<< 4 = u8 (v.toNat * 16) := by
  apply UInt8.toNat_inj.mp
  rw [UInt8.toNat_shiftLeft, UInt8.toNat_ofNat', Nat.shiftLeft_eq]; rfl

theorem u8_gt_ofNat (v : UInt8) {m : Nat} (hm : m < 2^8) : (v > UInt8.ofNat m) = (v.toNat > m) := by
  rw [gt_iff_lt, UInt8.lt_iff_toNat_lt, u8_toNat hm]

theorem nat_or_and_self (h m : Nat) : (h ||| m) &&& m = m := by
  apply Nat.eq_of_testBit_eq; intro i
  rw [Nat.testBit_and, Nat.testBit_or]; cases h.testBit i <;> cases m.testBit i <;> rfl

theorem head_version_eq_model (h0 h1 : UInt8) : (head_version h0 h1).toNat = (headOf h0 h1).version := by
  rw [head_version, UInt8.toNat_shiftRight, u8_and_ofNat_toNat h0 (by decide)]; rfl

theorem head_isRoot_eq_model (h0 h1 : UInt8) : head_isRoot h0 h1 = (headOf h0 h1).isRoot := by
  simp only [head_isRoot, u8_and_ofNat_pos h1 Gen.maskSlabRoot (by decide)]; rfl

theorem head_hasPointers_eq_model (h0 h1 : UInt8) : head_hasPointers h0 h1 = (headOf h0 h1).hasPointers := by
  simp only [head_hasPointers, u8_and_ofNat_pos h1 Gen.maskSlabHasPointers (by decide)]; rfl

theorem head_hasSizeLimit_eq_model (h0 h1 : UInt8) : head_hasSizeLimit h0 h1 = (headOf h0 h1).hasSizeLimit := by
  simp only [head_hasSizeLimit, u8_and_ofNat_eq_zero h1 Gen.maskSlabAnySize (by decide)]; rfl

theorem head_hasInlinedSlabs_eq_model (h0 h1 : UInt8) :
    head_hasInlinedSlabs h0 h1 = (headOf h0 h1).hasInlinedSlabs := by
  simp only [head_hasInlinedSlabs, u8_and_ofNat_pos h0 Gen.maskHasInlinedSlabs (by decide)]; rfl

/-! The three type codes are tables over bits 3-4 and over the low three bits of the second byte: once the Go
comparisons are read on the numbers, one case per value of those bits. -/

theorem head_getSlabType_eq_model (h0 h1 : UInt8) :
    head_getSlabType h0 h1 = slabTypeCode (headOf h0 h1).slabType := by
  have ht : ((h1 &&& 24) >>> 3).toNat = (h1.toNat &&& 24) >>> 3 := by
    rw [UInt8.toNat_shiftRight, UInt8.toNat_and]; rfl
  have hlt : (h1.toNat &&& 24) >>> 3 < 4 := by
    have : h1.toNat &&& 24 ≤ 24 := Nat.and_le_right
    rw [Nat.shiftRight_eq_div_pow]; omega
  unfold head_getSlabType Codec.SlabHead.slabType
  simp only [← UInt8.toNat_inj, ht]
  generalize (h1.toNat &&& 24) >>> 3 = t at hlt ⊢
  match t, hlt with
  | 0, _ => rfl
  | 1, _ => rfl
  | 2, _ => rfl
  | 3, _ => rfl

theorem u8_low3 (h : UInt8) : (h &&& 7).toNat = h.toNat &&& 7 ∧ h.toNat &&& 7 < 8 :=
  ⟨UInt8.toNat_and .., Nat.lt_succ_of_le Nat.and_le_right⟩

theorem head_getSlabArrayType_eq_model (h0 h1 : UInt8) :
    head_getSlabArrayType h0 h1 = arrayTypeCode (headOf h0 h1).arrayType := by
  unfold head_getSlabArrayType Codec.SlabHead.arrayType
  rw [head_getSlabType_eq_model]
  generalize (headOf h0 h1).slabType = st
  by_cases hst : st = .array
  · subst hst
    have hc : ¬ (decide (slabTypeCode .array ≠ Int.ofNat Gen.slabArray) = true) := by decide
    rw [if_neg hc, if_neg (c := Codec.SlabType.array ≠ Codec.SlabType.array) (fun h => h rfl)]
    obtain ⟨hu, hlt⟩ := u8_low3 h1
    simp only [← UInt8.toNat_inj, hu]
    generalize h1.toNat &&& 7 = u at hlt ⊢
    match u, hlt with
    | 0, _ => rfl
    | 1, _ => rfl
    | 2, _ => rfl
    | 3, _ => rfl
    | 4, _ => rfl
    | 5, _ => rfl
    | 6, _ => rfl
    | 7, _ => rfl
  · have hc : slabTypeCode st ≠ Int.ofNat Gen.slabArray := by
      cases st <;> first | exact absurd rfl hst | decide
    rw [if_pos (decide_eq_true hc), if_pos hst]; rfl

theorem head_getSlabMapType_eq_model (h0 h1 : UInt8) :
    head_getSlabMapType h0 h1 = mapTypeCode (headOf h0 h1).mapType := by
  unfold head_getSlabMapType Codec.SlabHead.mapType
  rw [head_getSlabType_eq_model]
  generalize (headOf h0 h1).slabType = st
  by_cases hst : st = .map
  · subst hst
    have hc : ¬ (decide (slabTypeCode .map ≠ Int.ofNat Gen.slabMap) = true) := by decide
    rw [if_neg hc, if_neg (c := Codec.SlabType.map ≠ Codec.SlabType.map) (fun h => h rfl)]
    obtain ⟨hu, hlt⟩ := u8_low3 h1
    simp only [← UInt8.toNat_inj, hu]
    generalize h1.toNat &&& 7 = u at hlt ⊢
    match u, hlt with
    | 0, _ => rfl
    | 1, _ => rfl
    | 2, _ => rfl
    | 3, _ => rfl
    | 4, _ => rfl
    | 5, _ => rfl
    | 6, _ => rfl
    | 7, _ => rfl
  · have hc : slabTypeCode st ≠ Int.ofNat Gen.slabMap := by
      cases st <;> first | exact absurd rfl hst | decide
    rw [if_pos (decide_eq_true hc), if_pos hst]; rfl

/-- the setters OR the mask into the right byte, as the model's encoders do (`… ||| flagIf b mask`) -/
theorem head_setRoot_eq_model (h0 h1 : UInt8) :
    head_setRoot h0 h1 = (h0, u8 (h1.toNat ||| Gen.maskSlabRoot)) := by
  rw [head_setRoot, u8_or_ofNat h1 (by decide)]

theorem head_setHasPointers_eq_model (h0 h1 : UInt8) :
    head_setHasPointers h0 h1 = (h0, u8 (h1.toNat ||| Gen.maskSlabHasPointers)) := by
  rw [head_setHasPointers, u8_or_ofNat h1 (by decide)]

theorem head_setNoSizeLimit_eq_model (h0 h1 : UInt8) :
    head_setNoSizeLimit h0 h1 = (h0, u8 (h1.toNat ||| Gen.maskSlabAnySize)) := by
  rw [head_setNoSizeLimit, u8_or_ofNat h1 (by decide)]

theorem head_setHasInlinedSlabs_eq_model (h0 h1 : UInt8) :
    head_setHasInlinedSlabs h0 h1 = (u8 (h0.toNat ||| Gen.maskHasInlinedSlabs), h1) := by
  rw [head_setHasInlinedSlabs, u8_or_ofNat h0 (by decide)]

theorem head_setHasNextSlabID_eq_model (h0 h1 : UInt8) :
    head_setHasNextSlabID h0 h1 = (u8 (h0.toNat ||| Gen.maskHasNextSlabID), h1) := by
  rw [head_setHasNextSlabID, u8_or_ofNat h0 (by decide)]

/-- `hasNextSlabID` (version-dependent) -/
theorem head_hasNextSlabID_eq_model (h0 h1 : UInt8) :
    head_hasNextSlabID h0 h1 = (headOf h0 h1).hasNextSlabID := by
  have hv : (head_version h0 h1 = 0) = ((headOf h0 h1).version = 0) := by
    rw [← head_version_eq_model, ← UInt8.toNat_inj]; rfl
  simp only [head_hasNextSlabID, Codec.SlabHead.hasNextSlabID, hv, head_isRoot_eq_model,
    u8_and_ofNat_pos h0 Gen.maskHasNextSlabID (by decide), decide_eq_true_eq]

/-- the constructors: `version << 4` in the first byte (for the versions the code accepts), the type mask in the
    second; an unsupported version or slab type is an error -/
theorem newArraySlabHead_eq_model (v : UInt8) (t : Int) :
    newArraySlabHead v t =
      if v.toNat > Gen.maxVersion then none
      else if t = Int.ofNat Gen.slabArrayData then some (u8 (v.toNat * 16), u8 Gen.maskArrayData)
      else if t = Int.ofNat Gen.slabArrayMeta then some (u8 (v.toNat * 16), u8 Gen.maskArrayMeta)
      else none := by
  simp only [newArraySlabHead, u8_shl4, u8_gt_ofNat v (show Gen.maxVersion < 2^8 by decide), decide_eq_true_eq]
  repeat' split
  all_goals rfl

theorem newMapSlabHead_eq_model (v : UInt8) (t : Int) :
    newMapSlabHead v t =
      if v.toNat > Gen.maxVersion then none
      else if t = Int.ofNat Gen.slabMapData then some (u8 (v.toNat * 16), u8 Gen.maskMapData)
      else if t = Int.ofNat Gen.slabMapMeta then some (u8 (v.toNat * 16), u8 Gen.maskMapMeta)
      else if t = Int.ofNat Gen.slabMapCollisionGroup then some (u8 (v.toNat * 16), u8 Gen.maskCollisionGroup)
      else none := by
  simp only [newMapSlabHead, u8_shl4, u8_gt_ofNat v (show Gen.maxVersion < 2^8 by decide), decide_eq_true_eq]
  repeat' split
  all_goals rfl

theorem newStorableSlabHead_eq_model (v : UInt8) :
    newStorableSlabHead v =
      if v.toNat > Gen.maxVersion then none else some (u8 (v.toNat * 16), u8 Gen.maskStorable) := by
  simp only [newStorableSlabHead, u8_shl4, u8_gt_ofNat v (show Gen.maxVersion < 2^8 by decide), decide_eq_true_eq]

/-- what is written is read back, for four of the five setters (`setRoot`, `setHasPointers`, `setNoSizeLimit`,
    `setHasInlinedSlabs`; not `setHasNextSlabID`) applied to ANY pair of bytes: the Go getter of that flag (hence the
    model's) answers accordingly.  The constructors are not part of the statement. -/
theorem head_set_get (h0 h1 : UInt8) :
    head_isRoot (head_setRoot h0 h1).1 (head_setRoot h0 h1).2 = true ∧
    head_hasPointers (head_setHasPointers h0 h1).1 (head_setHasPointers h0 h1).2 = true ∧
    head_hasSizeLimit (head_setNoSizeLimit h0 h1).1 (head_setNoSizeLimit h0 h1).2 = false ∧
    head_hasInlinedSlabs (head_setHasInlinedSlabs h0 h1).1 (head_setHasInlinedSlabs h0 h1).2 = true := by
  -- each getter tests the bit its setter has just set: `(x ||| m) &&& m = m`
  have key (h : UInt8) {m : Nat} (hm : m < 2^8) : (u8 (h.toNat ||| m)).toNat &&& m = m := by
    rw [u8_toNat (Nat.or_lt_two_pow h.toNat_lt hm), nat_or_and_self]
  refine ⟨?_, ?_, ?_, ?_⟩
  · rw [head_setRoot_eq_model, head_isRoot_eq_model]
    exact decide_eq_true (by rw [key h1 (by decide)]; decide)
  · rw [head_setHasPointers_eq_model, head_hasPointers_eq_model]
    exact decide_eq_true (by rw [key h1 (by decide)]; decide)
  · rw [head_setNoSizeLimit_eq_model, head_hasSizeLimit_eq_model]
    exact decide_eq_false (by rw [key h1 (by decide)]; decide)
  · rw [head_setHasInlinedSlabs_eq_model, head_hasInlinedSlabs_eq_model]
    exact decide_eq_true (by rw [key h0 (by decide)]; decide)

/-- non-vacuity / read-back of the three constructors at the version the encoders use -/
example : newArraySlabHead 1 (Int.ofNat Gen.slabArrayMeta) = some (16, 1) ∧
    head_getSlabArrayType 16 1 = Int.ofNat Gen.slabArrayMeta ∧ head_version 16 1 = 1 := by decide

/-! ## slab_id.go -/

/-- `SlabIndex.Next` is the model's allocation counter `+ 1` (`Ctx.alloc`, the storage model's temp index) ... -/
theorem SlabIndex_Next_eq_model (idx : Nat) (h : idx + 1 < 2^64) :
    (SlabIndex_Next (u64 idx)).toNat = idx + 1 := by
  have h' : idx < 2^64 := by omega
  simp only [SlabIndex_Next, UInt64.toNat_add, u64_toNat h', UInt64.toNat_ofNat]
  omega

/-- ... for the model's allocator: the index of the slab ID that `Ctx.alloc` hands out -/
theorem SlabIndex_Next_eq_alloc (c : Ctx) (addr : Nat) (h : c.ctr + 1 < 2^64) :
    (SlabIndex_Next (u64 c.ctr)).toNat = (c.alloc addr).1.idx := by
  rw [SlabIndex_Next_eq_model c.ctr h]; rfl

/-- ... and wraps around to `SlabIndexUndefined` after 2^64 - 1 allocations for one address, where the model's
    counter keeps counting.  (Not reachable: 2^64 allocations.) -/
theorem SlabIndex_Next_differs_at : (SlabIndex_Next (u64 (2^64 - 1))).toNat = 0 := by decide

theorem goCmpU64_spec (a b : UInt64) :
    (goCmpU64 a b < 0 ↔ a.toNat < b.toNat) ∧ (goCmpU64 a b = 0 ↔ a.toNat = b.toNat) ∧
    (goCmpU64 a b > 0 ↔ b.toNat < a.toNat) := by
  unfold goCmpU64
  by_cases h1 : a < b
  · have := UInt64.lt_iff_toNat_lt.mp h1
    simp only [h1, if_true]; omega
  · have h1' : ¬ a.toNat < b.toNat := fun hh => h1 (UInt64.lt_iff_toNat_lt.mpr hh)
    by_cases h2 : a = b
    · subst h2; simp
    · have h2' : a.toNat ≠ b.toNat := fun hh => h2 (UInt64.toNat_inj.mp hh)
      simp only [h1, h2, if_false]; omega

/-- `SlabID.Compare` orders IDs by address, then index, as the model's `SlabID.lt` (the order of
    `sortedOwnedDeltaKeys`, i.e. of the commit) does; 0 exactly on equal IDs. -/
theorem SlabID_Compare_eq_model (a b : SlabID) (ha : a.addr < 2^64) (hai : a.idx < 2^64) (hb : b.addr < 2^64)
    (hbi : b.idx < 2^64) :
    (SlabID_Compare (u64 a.addr) (u64 a.idx) (u64 b.addr) (u64 b.idx) < 0 ↔ SlabID.lt a b = true) ∧
    (SlabID_Compare (u64 a.addr) (u64 a.idx) (u64 b.addr) (u64 b.idx) = 0 ↔ a = b) ∧
    (SlabID_Compare (u64 a.addr) (u64 a.idx) (u64 b.addr) (u64 b.idx) > 0 ↔ SlabID.lt b a = true) := by
  obtain ⟨aa, ai⟩ := a; obtain ⟨ba, bi⟩ := b
  simp only at ha hai hb hbi
  have s1 := goCmpU64_spec (u64 aa) (u64 ba)
  have s2 := goCmpU64_spec (u64 ai) (u64 bi)
  rw [u64_toNat ha, u64_toNat hb] at s1
  rw [u64_toNat hai, u64_toNat hbi] at s2
  simp only [SlabID_Compare, SlabID.lt, SlabID.mk.injEq, decide_eq_true_eq, beq_iff_eq]
  by_cases hz : goCmpU64 (u64 aa) (u64 ba) = 0
  · have e : aa = ba := s1.2.1.mp hz
    subst e
    simp only [hz, if_true, true_and]
    refine ⟨?_, ?_, ?_⟩
    · rw [s2.1]; simp
    · exact s2.2.1
    · rw [s2.2.2]; simp
  · have e : aa ≠ ba := fun hh => hz (s1.2.1.mpr hh)
    have e' : ba ≠ aa := fun hh => e hh.symm
    simp only [hz, if_false, e, e', false_and]
    refine ⟨?_, ?_, ?_⟩
    · rw [s1.1]; simp
    · simp only [iff_false]
    · rw [s1.2.2]; simp

/-- The VIEW behind the translation of `SlabID.Compare` is sound: on the 8-byte big-endian encodings of the model's
    codec (`Codec.beBytes 8`), Go's `bytes.Compare(address) ; if 0 then bytes.Compare(index)` is what the translated
    function computes on the numbers. -/
theorem SlabID_Compare_is_bytes_compare (addr idx oaddr oidx : UInt64) :
    SlabID_Compare addr idx oaddr oidx =
      (let r := bytesCompare (Codec.beBytes 8 addr.toNat) (Codec.beBytes 8 oaddr.toNat)
       if r = 0 then bytesCompare (Codec.beBytes 8 idx.toNat) (Codec.beBytes 8 oidx.toNat) else r) := by
  simp only [SlabID_Compare, goCmpU64_is_bytesCompare, decide_eq_true_eq]

/-- non-vacuity: same address, indexes 2 < 10 (as numbers; the byte strings 00..02 and 00..0a) -/
example : SlabID_Compare 7 2 7 10 = -1 ∧ SlabID_Compare 8 2 7 10 = 1 ∧ SlabID_Compare 7 2 7 2 = 0 := by decide

end Atree.TransEq

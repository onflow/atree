import AtreeProofs.Trans.Basic
import AtreeProofs.Codec.EncLemmas
/-
  TRANSLATION EQUIVALENCE, encode.go: `GetUintCBORSize`, the exported helper with which a caller's `Storable`
  computes the `ByteSize()` of an unsigned integer (the library itself never calls it; its test values do:
  `2 + GetUintCBORSize(v)`).  The generated definition (`Atree.Gen.Trans.GetUintCBORSize`, rewritten from the Go
  source on every run) is the length of the CBOR head the codec model writes - `Codec.headLen`, the length of
  `Codec.head major n` for every major type - at EVERY 64-bit value, the five width boundaries included.
  A changed comparison (`<=` -> `<`, another constant, a dropped case) changes the generated definition and
  these theorems stop compiling.
-/
namespace Atree.TransEq
open Atree Atree.Gen.Trans

/-- `GetUintCBORSize(n)` = the model's head length, for all `n : uint64` -/
theorem GetUintCBORSize_eq_model (n : UInt64) : (GetUintCBORSize n).toNat = Codec.headLen n.toNat := by
  have := n.toNat_lt
  simp only [GetUintCBORSize, Codec.headLen, UInt64.le_iff_toNat_le, UInt64.toNat_ofNat, decide_eq_true_eq,
    Nat.reducePow, Nat.reduceMod]
  by_cases h1 : n.toNat ≤ 23
  · have : n.toNat < 24 := by omega
    simp [h1, this]
  · have n1 : ¬ n.toNat < 24 := by omega
    by_cases h2 : n.toNat ≤ 255
    · have : n.toNat < 256 := by omega
      simp [h1, n1, h2, this]
    · have n2 : ¬ n.toNat < 256 := by omega
      by_cases h3 : n.toNat ≤ 65535
      · have : n.toNat < 65536 := by omega
        simp [h1, n1, h2, n2, h3, this]
      · have n3 : ¬ n.toNat < 65536 := by omega
        by_cases h4 : n.toNat ≤ 4294967295
        · have : n.toNat < 4294967296 := by omega
          simp [h1, n1, h2, n2, h3, n3, h4, this]
        · have n4 : ¬ n.toNat < 4294967296 := by omega
          simp [h1, n1, h2, n2, h3, n3, h4, n4]

/-- `GetUintCBORSize(n)` = the number of bytes of the head of ANY major type with argument `n` (`EncodeUint64`: major 0) -/
theorem GetUintCBORSize_eq_head_length (major : Nat) (n : UInt64) :
    (GetUintCBORSize n).toNat = (Codec.head major n.toNat).length := by
  rw [GetUintCBORSize_eq_model, Codec.length_head]

/-- stated over the model's numbers: a `Nat` below 2^64 -/
theorem GetUintCBORSize_u64 (n : Nat) (h : n < 2^64) : (GetUintCBORSize (u64 n)).toNat = Codec.headLen n := by
  rw [GetUintCBORSize_eq_model, u64_toNat h]

/-- non-vacuity, at the five width boundaries and one step beyond each -/
example : [23, 24, 255, 256, 65535, 65536, 4294967295, 4294967296, 18446744073709551615].map
    (fun n => (GetUintCBORSize (u64 n)).toNat) = [1, 2, 2, 3, 3, 5, 5, 9, 9] := by decide

end Atree.TransEq

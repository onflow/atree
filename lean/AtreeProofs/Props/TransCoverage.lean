import AtreeModel.Gen.TransCoverage
import AtreeProofs.Props.TransCoverageLits
/-
  COVERAGE of the translated layer.

  The `Atree.TransEq.*` theorems compare the definitions that harness/cmd/gotrans regenerates from the Go sources with the
  hand-written model, so a change of the Go code breaks a theorem only if it changes a generated definition.  What the
  engines do NOT read - statements left out by a `Skip` / `Until` / `SkipDefers` table, assignments to fields of dropped
  types, dropped arguments, `return` tuples replaced by `Outs`, calls that became environment parameters (instantiated by
  hand in every proof) or table views, and the bodies of the helpers behind those - is written, on every run, into
  `Gen/TransCoverage.lean`, unit by unit, and pinned:

    Props/TransCoverageStateless.lean   `skipped_Trans_pinned`, `envCalls_Trans_pinned`, `opaqueBodies_Trans_pinned`
    Props/TransCoverageStorage.lean     `.._TransSt_pinned`
    Props/TransCoverageSlabs.lean       `.._TransSl_pinned`
    Props/TransCoverageMaps.lean        `.._TransMap_pinned`, `.._TransMapD_pinned`, `.._TransElems_pinned`, `.._TransElem_pinned`

  (those four files and `TransCoverageLits.lean` hold the REVIEWED literals and are written by `gotrans -pin`; re-pinning
  is a review step: every changed line of their diff is Go text that no proof sees).  This file: the units themselves,
  the table patterns that match nothing, and the closed-world interfaces.
-/
namespace Atree.TransCov
open Atree

/-- the units of the four engines are the reviewed ones: a NEW unit (whose lists no theorem pins yet) is noticed -/
theorem unitLabels_pinned : Gen.TransCov.unitLabels = Reviewed.unitLabels := rfl

/-- every unit has its three pinning theorems: the reviewed units are exactly the seven that
    Props/TransCoverage{Stateless,Storage,Slabs,Maps}.lean cover -/
theorem unitLabels_covered :
    Reviewed.unitLabels = ["Trans", "TransSt", "TransSl", "TransMap", "TransMapD", "TransElems", "TransElem"] := rfl

/-- every `Skip` prefix of the stateless engine and every `SkipDefers` / `EnvConsts` entry of the object engine matches
    something in today's source (a pattern that matches nothing would silently stop protecting anything) -/
theorem unmatchedPatterns_none : Gen.TransCov.unmatchedPatterns = [] := rfl

/-- the closed interfaces (unit/interface, implementers the engine's tables assume, implementers found in the SOURCE:
    the types of package atree that have every method of the interface with the same parameter and result types) are
    the reviewed ones -/
theorem closedInterfaces_pinned : Gen.TransCov.closedInterfaces = Reviewed.closedInterfaces := rfl

/-- `Slab` is the one interface the engines deliberately narrow: the array unit reads slabs through `getArraySlab`, the
    map units through `getMapSlab` (both fail on any other dynamic type), so inside a unit every `Slab` is an `ArraySlab`
    resp. a `MapSlab`.  The generated / reviewed lists still show both sides. -/
def narrowed : List String := ["TransSl/Slab", "TransMap/Slab", "TransMapD/Slab", "TransElem/Slab"]

/-- are the two lists equal / is the first contained in the second (Bool, so that `decide` evaluates it in the kernel) -/
def sameList (a b : List String) : Bool := a == b
def subList (a b : List String) : Bool := a.all (fun x => b.contains x)

/-- CLOSED WORLD: for every closed interface the implementers the engine assumes are EXACTLY the implementers the
    source has (a new implementation of `elements`, `element`, `elementGroup`, `ArraySlab`, `MapSlab` is noticed);
    for the narrowed `Slab` the assumed ones are among the actual ones. -/
theorem closedInterfaces_coincide :
    Gen.TransCov.closedInterfaces.all
      (fun e => if narrowed.contains e.1 then subList e.2.1 e.2.2 else sameList e.2.1 e.2.2) = true := by
  decide +kernel

/-- the same on the reviewed literal, with the narrowed entries spelled out: the only difference between an assumed and
    an actual list anywhere is `Slab` ⊇ {array slabs | map slabs} -/
theorem closedInterfaces_differences :
    (Reviewed.closedInterfaces.filter (fun e => !(sameList e.2.1 e.2.2))).map (·.1) = narrowed := by
  decide +kernel

end Atree.TransCov

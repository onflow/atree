import AtreeProofs.Props.TransDescentExDefs
/-
  END-TO-END INSTANCES of the array descent, checked by the kernel (`rfl`).

  For concrete arrays (slab size 256: min 128, max 384, elements up to 117 bytes inline) the GENERATED top-level
  operations `Array_Get / Array_set / Array_Insert / Array_Append / Array_remove` and `ArrayMetaDataSlab_PopIterate`
  (Gen/TransSlabs.lean, regenerated on every run) are run on the heap of a model array (`heapOf`), and what comes back -
  the Go results, the root of the handle, the `Ctx` (allocation counter, effects in order), the heap at every identifier
  in play - is compared with the model operation (`Arr.get / set / insert / append / remove`, `ATree.popIterate`) on the
  EMBEDDED tree: `heapOf` of the model's result.  The instances are chosen so that every branch of the descent runs:
  plain store, `SplitChildSlab`, rebalance, merge, merge + `promoteChildAsNewRoot`, `splitRoot`, the append path of
  `Insert`, the out-of-range exits.  They are the non-vacuity witnesses of `Props/TransDescent*.lean` and, being
  evaluations of the generated code, they break under a semantic change of the Go source on these paths.
-/
namespace Atree.TransEq
open Atree Atree.Gen

example : obs3 (TransSl.Array_Get (envH 256) 1 (trArrH exA (exSt exA)) 5) =
    some (some ⟨60, .val 11⟩, none, some (trTree 1 exA.root), ⟨5, [], []⟩, exIds.map (heapOf 1 exA.root)) := by rfl
example : exA.get 5 = .ok ⟨60, .val 11⟩ := by rfl
/-- out of range: `IndexOutOfBoundsError`, nothing touched -/
example : obs3 (TransSl.Array_Get (envH 256) 1 (trArrH exA (exSt exA)) 8) =
    some (none, some .indexOutOfBounds, some (trTree 1 exA.root), ⟨5, [], []⟩, exIds.map (heapOf 1 exA.root)) := by rfl
/-- the depth argument does not cover the tree: the generated code gives up -/
example : TransSl.Array_Get (envH 256) 0 (trArrH exA (exSt exA)) 5 = none := by rfl

/-- plain store: the leaf and the root are stored -/
theorem Sl_Array_set_heap_ex_store :
    obs3 (TransSl.Array_set (envH 256) 1 (trArrH exA (exSt exA)) 5 (some ⟨70, .val 99⟩)) =
      exp3 (exA.set 256 5 ⟨70, .val 99⟩ (exSt exA).ctx) := by rfl
example : (exA.set 256 5 ⟨70, .val 99⟩ (exSt exA).ctx).toOption.map (fun r => (r.1, r.2.2.eff)) =
    some (⟨60, .val 11⟩, [.store ⟨1, 3⟩, .store ⟨1, 1⟩]) := by rfl
/-- the leaf becomes full: `SplitChildSlab` (a new slab `(1,6)`) -/
theorem Sl_Array_set_heap_ex_split :
    obs3 (TransSl.Array_set (envH 256) 1 (trArrH exB (exSt exB)) 3 (some ⟨110, .val 99⟩)) =
      exp3 (exB.set 256 3 ⟨110, .val 99⟩ (exSt exB).ctx) := by rfl
example : (exB.set 256 3 ⟨110, .val 99⟩ (exSt exB).ctx).toOption.map (fun r => (r.2.1.d, r.2.2.eff)) =
    some (1, [.store ⟨1, 2⟩, .alloc 1 ⟨1, 6⟩, .store ⟨1, 2⟩, .store ⟨1, 6⟩, .store ⟨1, 1⟩]) := by rfl
/-- the leaf underflows, its sibling cannot lend: merge, the root is left with one child: `promoteChildAsNewRoot` -/
theorem Sl_Array_set_heap_ex_merge_promote :
    obs3 (TransSl.Array_set (envH 256) 1 (trArrH exC (exSt exC)) 0 (some ⟨1, .val 99⟩)) =
      exp3 (exC.set 256 0 ⟨1, .val 99⟩ (exSt exC).ctx) := by rfl
example : (exC.set 256 0 ⟨1, .val 99⟩ (exSt exC).ctx).toOption.map (fun r => (r.2.1.d, r.2.2.eff)) =
    some (0, [.store ⟨1, 2⟩, .store ⟨1, 2⟩, .store ⟨1, 1⟩, .remove ⟨1, 3⟩, .store ⟨1, 1⟩, .remove ⟨1, 2⟩]) := by rfl
/-- a root data slab becomes full: `splitRoot` (depth 0 -> 1) -/
theorem Sl_Array_set_heap_ex_splitRoot :
    obs3 (TransSl.Array_set (envH 256) 0 (trArrH exD (exSt exD)) 3 (some ⟨110, .val 99⟩)) =
      exp3 (exD.set 256 3 ⟨110, .val 99⟩ (exSt exD).ctx) := by rfl
example : (exD.set 256 3 ⟨110, .val 99⟩ (exSt exD).ctx).toOption.map (fun r => r.2.1.d) = some 1 := by rfl
/-- an oversized value is externalised by `Value.Storable` (a reference is stored; the slab is recorded in `Ctx`) -/
theorem Sl_Array_set_heap_ex_external :
    obs3 (TransSl.Array_set (envH 256) 1 (trArrH exA (exSt exA)) 0 (some ⟨500, .val 99⟩)) =
      exp3 (exA.set 256 0 ⟨500, .val 99⟩ (exSt exA).ctx) := by rfl

/-- plain store -/
theorem Sl_Array_Insert_heap_ex_store :
    obs2 (TransSl.Array_Insert (envH 256) 1 (trArrH exA (exSt exA)) 5 (some ⟨70, .val 99⟩)) =
      exp2 (exA.insert 256 5 ⟨70, .val 99⟩ (exSt exA).ctx) := by rfl
/-- the leaf becomes full: `SplitChildSlab` -/
theorem Sl_Array_Insert_heap_ex_split :
    obs2 (TransSl.Array_Insert (envH 256) 1 (trArrH exB (exSt exB)) 1 (some ⟨100, .val 99⟩)) =
      exp2 (exB.insert 256 1 ⟨100, .val 99⟩ (exSt exB).ctx) := by rfl
/-- the append path (`index == count`: the last child, no routing) -/
theorem Sl_Array_Append_heap_ex :
    obs2 (TransSl.Array_Append (envH 256) 1 (trArrH exA (exSt exA)) (some ⟨70, .val 99⟩)) =
      exp2 (exA.append 256 ⟨70, .val 99⟩ (exSt exA).ctx) := by rfl
example : (exA.append 256 ⟨70, .val 99⟩ (exSt exA).ctx).toOption.map (fun r => (r.1.count, r.2.eff)) =
    some (9, [.store ⟨1, 4⟩, .store ⟨1, 1⟩]) := by rfl
/-- a root data slab becomes full: `splitRoot` -/
theorem Sl_Array_Insert_heap_ex_splitRoot :
    obs2 (TransSl.Array_Insert (envH 256) 0 (trArrH exD (exSt exD)) 2 (some ⟨100, .val 99⟩)) =
      exp2 (exD.insert 256 2 ⟨100, .val 99⟩ (exSt exD).ctx) := by rfl
/-- past the end: `IndexOutOfBoundsError`, nothing touched -/
example : obs2 (TransSl.Array_Insert (envH 256) 1 (trArrH exA (exSt exA)) 9 (some ⟨70, .val 99⟩)) =
    some (some .indexOutOfBounds, some (trTree 1 exA.root), ⟨5, [], []⟩, exIds.map (heapOf 1 exA.root)) := by rfl

/-- the leaf underflows, the left sibling lends: rebalance -/
theorem Sl_Array_remove_heap_ex_rebalance :
    obs3 (TransSl.Array_remove (envH 256) 1 (trArrH exA (exSt exA)) 4) = exp3 (exA.remove 256 4 (exSt exA).ctx) := by rfl
example : (exA.remove 256 4 (exSt exA).ctx).toOption.map (fun r => (r.1, r.2.2.eff)) =
    some (⟨60, .val 10⟩, [.store ⟨1, 3⟩, .store ⟨1, 2⟩, .store ⟨1, 3⟩, .store ⟨1, 1⟩, .store ⟨1, 1⟩]) := by rfl
/-- no underflow: plain store -/
theorem Sl_Array_remove_heap_ex_store :
    obs3 (TransSl.Array_remove (envH 256) 1 (trArrH exA (exSt exA)) 0) = exp3 (exA.remove 256 0 (exSt exA).ctx) := by rfl
/-- merge, then the single child is promoted to root (depth 1 -> 0) -/
theorem Sl_Array_remove_heap_ex_merge_promote :
    obs3 (TransSl.Array_remove (envH 256) 1 (trArrH exC (exSt exC)) 0) = exp3 (exC.remove 256 0 (exSt exC).ctx) := by rfl
example : (exC.remove 256 0 (exSt exC).ctx).toOption.map (fun r => r.2.1.d) = some 0 := by rfl

/-- every leaf is popped (last to first) and removed; the emptied index slab is NOT stored (its caller replaces it) -/
theorem Sl_ArrayMetaDataSlab_PopIterate_heap_ex :
    (TransSl.ArrayMetaDataSlab_PopIterate (envH 256) 1 (trMeta exA.root) (exSt exA) []).map
        (fun r => (r.1, r.2.1, r.2.2.1.ctx, exIds.map r.2.2.1.heap, r.2.2.2)) =
      (let r := ATree.popIterate 1 exA.root (exSt exA).ctx
       some (none, trMeta (r.2.1 : MetaSlab (ATree 0)), r.2.2,
         exIds.map (fun id => if id = ⟨1, 1⟩ then some (.metaSlab (trMeta exA.root)) else none), r.1.map some)) := by rfl
example : (ATree.popIterate 1 exA.root (exSt exA).ctx).1.map (·.pay) =
    [.val 21, .val 20, .val 11, .val 10, .val 3, .val 2, .val 1, .val 0] := by rfl
example : (ATree.popIterate 1 exA.root (exSt exA).ctx).2.2.eff = [.remove ⟨1, 4⟩, .remove ⟨1, 3⟩, .remove ⟨1, 2⟩] := by rfl

/-- `Array.PopIterate` at the top level: the elements last to first, every slab below the root removed, the root replaced
    by an EMPTY root data slab under the same identifier, which is stored -/
theorem Sl_Array_PopIterate_heap_ex :
    (TransSl.Array_PopIterate (envH 256) 1 (trArrH exA (exSt exA)) []).map
        (fun r => (r.1, r.2.1.root, r.2.1.Storage.ctx, exIds.map r.2.1.Storage.heap, r.2.2)) =
      (let r := exA.popIterate (exSt exA).ctx
       some (none, some (trTree r.2.1.d r.2.1.root), r.2.2, exIds.map (heapOf r.2.1.d r.2.1.root), r.1.map some)) := by rfl
example : (exA.popIterate (exSt exA).ctx).2.2.eff = [.remove ⟨1, 4⟩, .remove ⟨1, 3⟩, .remove ⟨1, 2⟩, .store ⟨1, 1⟩] := by rfl

/-- the descent targets are in the table of the translator (and translated: `Sl_all_translated`) -/
theorem Sl_descent_targets :
    ["ArrayMetaDataSlab_Get", "ArrayMetaDataSlab_Set", "ArrayMetaDataSlab_Insert", "ArrayMetaDataSlab_Remove",
     "ArrayMetaDataSlab_PopIterate", "Array_Count", "Array_Get", "Array_set", "Array_Insert", "Array_Append",
     "Array_remove", "Array_Inlined", "Array_PopIterate"].all (TransSl.translatedTargets.contains ·) = true := by
  -- by position in the table: only identical literals are compared
  have at_pos {s : String} (i : Nat) (h : TransSl.translatedTargets[i]? = some s) :
      TransSl.translatedTargets.contains s = true := List.contains_iff_mem.2 (List.mem_of_getElem? h)
  simp only [List.all_cons, List.all_nil, Bool.and_true, Bool.and_eq_true]
  exact ⟨at_pos 49 rfl, at_pos 50 rfl, at_pos 51 rfl, at_pos 52 rfl, at_pos 53 rfl, at_pos 54 rfl, at_pos 55 rfl,
    at_pos 56 rfl, at_pos 57 rfl, at_pos 58 rfl, at_pos 59 rfl, at_pos 64 rfl, at_pos 65 rfl⟩

end Atree.TransEq

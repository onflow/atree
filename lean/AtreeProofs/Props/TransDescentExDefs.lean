import AtreeProofs.Trans.Descent
import AtreeProofs.Props.TransSlabsData
/-
  Concrete arrays for the instances of the descent theorems: slab size 256 (min 128, max 384, elements up to 117
  bytes inline).  DEFINITIONS only (the evaluations are in Props/TransDescentEx.lean; the instances of the general
  theorems in Props/TransDescentTop*.lean).
-/
namespace Atree.TransEq
open Atree Atree.Gen

/-- a leaf `(1,id)` of elements with the given sizes (payloads `base, base+1, ..`) -/
def exLeaf (id next base : Nat) (sizes : List Nat) : DataSlab :=
  { hdr := ⟨⟨1, id⟩, 21 + sizes.sum, sizes.length⟩, next := ⟨1, next⟩,
    elems := sizes.mapIdx (fun i sz => ⟨sz, .val (base + i)⟩), root := false, inlined := false }

/-- a root index slab `(1,1)` over the given leaves -/
def exRoot (kids : List DataSlab) : MetaSlab (ATree 0) :=
  { hdr := ⟨⟨1, 1⟩, 12 + 14 * kids.length, MetaSlab.sumCounts (kids.map (·.hdr))⟩,
    childHdrs := kids.map (·.hdr), countSum := MetaSlab.prefixSums (kids.map (·.hdr)) 0, children := kids, root := true }

/-- three leaves: 4 x 60 bytes, 2 x 60, 2 x 60 -/
def exA : Arr := ⟨1, exRoot [exLeaf 2 3 0 [60, 60, 60, 60], exLeaf 3 4 10 [60, 60], exLeaf 4 0 20 [60, 60]], 7⟩
/-- two leaves: 100 + 100 + 100 + 60 (381 bytes: one step from full) and 2 x 60 -/
def exB : Arr := ⟨1, exRoot [exLeaf 2 3 0 [100, 100, 100, 60], exLeaf 3 0 10 [60, 60]], 7⟩
/-- two small leaves: 100 + 60 and 2 x 60 (a smaller first element makes the first one underflow; the sibling cannot lend) -/
def exC : Arr := ⟨1, exRoot [exLeaf 2 3 0 [100, 60], exLeaf 3 0 10 [60, 60]], 7⟩
/-- a root data slab of 100 + 100 + 100 + 60 bytes (365 with the root prefix 5) -/
def exD : Arr :=
  ⟨0, ({ hdr := ⟨⟨1, 1⟩, 5 + 360, 4⟩, next := SlabID.undef,
         elems := [⟨100, .val 0⟩, ⟨100, .val 1⟩, ⟨100, .val 2⟩, ⟨60, .val 3⟩], root := true, inlined := false } : DataSlab), 7⟩

/-- the storage that holds exactly the array, allocation counter 5 -/
def exSt (a : Arr) : HSt := ⟨heapOf a.d a.root, ⟨5, [], []⟩⟩

/-- the identifiers in play -/
def exIds : List SlabID := [⟨1, 1⟩, ⟨1, 2⟩, ⟨1, 3⟩, ⟨1, 4⟩, ⟨1, 5⟩, ⟨1, 6⟩, ⟨1, 7⟩, ⟨1, 8⟩]

/-- what is observed of a generated result: Go results, root of the handle, `Ctx`, the heap at `exIds` -/
def obs3 {α : Type} (r : Option (α × Option AErr × HArray)) :=
  r.map (fun r => (r.1, r.2.1, r.2.2.root, r.2.2.Storage.ctx, exIds.map r.2.2.Storage.heap))
def obs2 (r : Option (Option AErr × HArray)) :=
  r.map (fun r => (r.1, r.2.root, r.2.Storage.ctx, exIds.map r.2.Storage.heap))

/-- what the model says: the result, `trTree` of the new root, the model's `Ctx`, `heapOf` of the new tree -/
def exp3 (m : Except AErr (Elem × Arr × Ctx)) :=
  match m with
  | .ok (e, a, c) => some (some e, (none : Option AErr), some (trTree a.d a.root), c, exIds.map (heapOf a.d a.root))
  | .error _ => none
def exp2 (m : Except AErr (Arr × Ctx)) :=
  match m with
  | .ok (a, c) => some ((none : Option AErr), some (trTree a.d a.root), c, exIds.map (heapOf a.d a.root))
  | .error _ => none

end Atree.TransEq

import AtreeProofs.Props.TransDescentTopInsert
import AtreeProofs.Props.TransDescentTopRemove
import AtreeProofs.Props.TransDescentTopSet
import AtreeProofs.Props.TransDescentSetFull
/-
  TRANSLATION EQUIVALENCE, the array descent: the statements on the array's OWN heap.

  `Sl_Array_Insert_heap_full` / `Sl_Array_Append_heap_full` / `Sl_Array_remove_heap_full` / `Sl_Array_set_heap_full`
  (Props/TransDescentTop{Insert,Remove,Set}.lean) say that `Array.Insert` / `Array.Append` / `Array.remove` / `Array.set`
  (array.go, regenerated from the Go source on every run: `Gen/TransSlabs.lean`), run on the handle of a valid model
  array (`ArrInv`) over a heap that HOLDS its tree, return what the model's operations return on the EMBEDDED tree and
  leave a heap that holds the new tree, the rest untouched (`HeapPost`).  Here the heap is `heapOf` of the tree
  (`Holds_heapOf`, `FreshFree_heapOf`) and the heap afterwards is `heapOf` of the new tree at every identifier
  (`Holds.eq_heapOf`, `HeapPost.eq_heapOf`): `Sl_Array_Insert_heapOf`, `Sl_Array_remove_heapOf`, `Sl_Array_set_heapOf`.
-/
namespace Atree.TransEq
open Atree Atree.Gen

/-- a heap that holds a tree with pairwise distinct identifiers agrees with `heapOf` on the identifiers of the tree -/
theorem Holds.eq_heapOf {h : SlabID → Option GSlab} : ∀ (d : Nat) (t : ATree d), Holds h d t →
    (ATree.slabIds d t).Nodup → ∀ id ∈ ATree.slabIds d t, h id = heapOf d t id := by
  intro d t hh _ id hid
  rw [← keys_slabs] at hid
  obtain ⟨v, hv⟩ := Option.ne_none_iff_exists'.1 ((AList.find?_ne_none_iff _ id).2 hid)
  rw [heapOf_eq_slabs, hv]
  exact holds_iff_slabs.1 hh (id, v) (AList.mem_of_find? hv)

/-- from the array's own heap, `HeapPost` pins the heap after the call at EVERY identifier: it is `heapOf` of the new tree -/
theorem HeapPost.eq_heapOf {d d' : Nat} {t : ATree d} {t' : ATree d'} {h' : SlabID → Option GSlab}
    (hp : HeapPost (heapOf d t) h' t t') (hnd : (ATree.slabIds d' t').Nodup) : ∀ id, h' id = heapOf d' t' id := by
  intro id
  by_cases hnew : id ∈ ATree.slabIds d' t'
  · exact Holds.eq_heapOf d' t' hp.holds hnd id hnew
  · rw [heapOf_none d' t' id hnew]
    by_cases hold : id ∈ ATree.slabIds d t
    · exact hp.gone id hold hnew
    · rw [hp.frame id hold hnew]
      exact heapOf_none d t id hold

/-- on the array's OWN heap (`heapOf`): the reading "generated function on `heapOf tree` = `heapOf (model function
    tree)`" - the heap after the call holds the model's new tree, every identifier that left the tree is gone -/
theorem Sl_Array_Insert_heapOf (T : Nat) (hT : legalThreshold T = true) (a : Arr) (i : Nat) (v : Elem) (c : Ctx)
    (depth : Nat) (hd : a.d ≤ depth) (hinv : ArrInv T a c.ctr) (hv : ValueOk v) (hi : i ≤ a.toList.length)
    (hlt : a.count < maxArrayElementCount) :
    ∃ a' c' s', a.insert T i v c = .ok (a', c') ∧
      TransSl.Array_Insert (envH T) depth (trArrH a ⟨heapOf a.d a.root, c⟩) (u64 i) (some v) =
        some (none, trArrH a' s') ∧ s'.ctx = c' ∧ ∀ id, s'.heap id = heapOf a'.d a'.root id := by
  obtain ⟨a', c', hok, hinv', _⟩ := arr_insert_ok hT a c i v hv hinv hlt hi
  have hlen : a.toList.length < 2^64 := by
    have h1 : a.count = a.toList.length := by
      obtain ⟨d, t, ty⟩ := a
      exact Shape.count_eq_length hinv.shape
    have h2 := hinv.count_lt
    simp only [maxArrayElementCount] at h2
    omega
  have h := Sl_Array_Insert_heap_full T hT a i v ⟨heapOf a.d a.root, c⟩ depth hd hinv hv
    (Holds_heapOf a.d a.root hinv.ids.1) (by omega)
  simp only at h
  rw [hok] at h
  obtain ⟨s', h1, h2, h3⟩ := h
  exact ⟨a', c', s', hok, h1, h2, HeapPost.eq_heapOf h3 (h2 ▸ hinv').ids.1⟩

/-- the array's own heap holds nothing beyond the allocation counter -/
theorem FreshFree_heapOf (T : Nat) (a : Arr) (c : Ctx) (hinv : ArrInv T a c.ctr) :
    FreshFree a.addr ⟨heapOf a.d a.root, c⟩ := by
  intro id _ hidx
  apply heapOf_none
  intro hmem
  have := (hinv.ids.2 id hmem).2.2
  exact absurd this (by simp only [HSt.ctx] at hidx ⊢; omega)

/-- **`Array.remove` on `heapOf tree` = `heapOf (Arr.remove tree)`** (at every identifier), same element, same `Ctx` -/
theorem Sl_Array_remove_heapOf (T : Nat) (hT : legalThreshold T = true) (a : Arr) (i : Nat) (c : Ctx) (depth : Nat)
    (hd : a.d ≤ depth) (hinv : ArrInv T a c.ctr) (hi : i < a.toList.length) :
    ∃ a' s', TransSl.Array_remove (envH T) depth (trArrH a ⟨heapOf a.d a.root, c⟩) (u64 i) =
        some (some (a.toList.getD i default), none, trArrH a' s') ∧
      a.remove T i c = .ok (a.toList.getD i default, a', s'.ctx) ∧ ∀ id, s'.heap id = heapOf a'.d a'.root id := by
  have hlen : a.toList.length < 2^64 := by
    have h1 : a.count = a.toList.length := by
      obtain ⟨d, t, ty⟩ := a
      exact Shape.count_eq_length hinv.shape
    have h2 := hinv.count_lt
    simp only [maxArrayElementCount] at h2
    omega
  obtain ⟨a', s', h1, h2, h3, _, _, hinv', _⟩ :=
    (Sl_Array_remove_heap_full T hT a i ⟨heapOf a.d a.root, c⟩ depth hd hinv (by omega)
      (Holds_heapOf a.d a.root hinv.ids.1)).1 hi
  exact ⟨a', s', h1, h2, HeapPost.eq_heapOf h3 hinv'.ids.1⟩

/-- **`Array.set` on `heapOf tree` = `heapOf (Arr.set tree)`** (at every identifier), same old element, same `Ctx` -/
theorem Sl_Array_set_heapOf (T : Nat) (hT : legalThreshold T = true) (a : Arr) (i : Nat) (v : Elem) (c : Ctx)
    (depth : Nat) (hd : a.d ≤ depth) (hinv : ArrInv T a c.ctr) (hv : ValueOk v) (hlt : i < a.count) :
    ∃ a' c' s', a.set T i v c = .ok (a.toList.getD i default, a', c') ∧
      TransSl.Array_set (envH T) depth (trArrH a ⟨heapOf a.d a.root, c⟩) (u64 i) (some v) =
        some (some (a.toList.getD i default), none, trArrH a' s') ∧ s'.ctx = c' ∧
      ∀ id, s'.heap id = heapOf a'.d a'.root id := by
  obtain ⟨a', c', s', h1, h2, h3, h4, hinv', _⟩ :=
    Sl_Array_set_heap_full_ok T hT a i v ⟨heapOf a.d a.root, c⟩ depth hd hinv (FreshFree_heapOf T a c hinv) hv
      (Holds_heapOf a.d a.root hinv.ids.1) hlt
  exact ⟨a', c', s', h1, h2, h3, HeapPost.eq_heapOf h4 hinv'.ids.1⟩

end Atree.TransEq

import AtreeProofs.Props.TransDescentFull
/-
  NON-VACUITY of the FINAL statements of the descent (`Props/TransDescentFull.lean`): a concrete VALID array `exV`
  (slab size 256: min 128, max 384, elements up to 117 bytes inline) that satisfies the whole array invariant `ArrInv`
  (tree, leaf chain ending in `SlabID.undef`, identifiers, standalone, count), and an instance of EVERY final theorem on
  it over its own heap `heapOf exV.d exV.root` with the allocation counter 5: every hypothesis is discharged, the
  statement of `exV_*` is the instantiated conclusion.  (The arrays `exA`..`exC` of `TransDescentExDefs.lean` end their leaf
  chain in `⟨1,0⟩`, which is not `SlabID.undef`: they satisfy `TreeInv` but not `ArrInv`.)
-/
namespace Atree.TransEq
open Atree Atree.Gen

/-- a leaf `(1,id)` of elements with the given sizes (payloads `base, base+1, ..`) and the given `next` link -/
def exVLeaf (id : Nat) (next : SlabID) (base : Nat) (sizes : List Nat) : DataSlab :=
  { hdr := ⟨⟨1, id⟩, 21 + sizes.sum, sizes.length⟩, next := next,
    elems := sizes.mapIdx (fun i sz => ⟨sz, .val (base + i)⟩), root := false, inlined := false }

/-- a root index slab `(1,1)` over three leaves: `(1,2)` 4 x 60 bytes -> `(1,3)` 2 x 60 -> `(1,4)` 2 x 60 -> undef -/
def exV : Arr :=
  ⟨1, exRoot [exVLeaf 2 ⟨1, 3⟩ 0 [60, 60, 60, 60], exVLeaf 3 ⟨1, 4⟩ 10 [60, 60], exVLeaf 4 SlabID.undef 20 [60, 60]], 7⟩

/-- the storage that holds exactly `exV`, allocation counter 5, no effects yet -/
def exVSt : HSt := ⟨heapOf exV.d exV.root, ⟨5, [], []⟩⟩

theorem exV_leafInv (id : Nat) (next : SlabID) (base : Nat) (sizes : List Nat)
    (h1 : (exVLeaf id next base sizes).elems.all
      (fun e => decide (1 ≤ e.size) && decide (e.size ≤ maxInlineArr 256)) = true)
    (h2 : (exVLeaf id next base sizes).hdr.size = 21 + sumSizes (exVLeaf id next base sizes).elems)
    (h3 : (exVLeaf id next base sizes).hdr.size ≤ maxThr 256)
    (h4 : minThr 256 ≤ (exVLeaf id next base sizes).hdr.size) :
    DataInv 256 false (exVLeaf id next base sizes) :=
  ⟨by simp [exVLeaf], h2, exTopIns_elemsOk _ h1, rfl, (fun h => by cases h), h3, fun _ => h4⟩

theorem exV_kids (c : ATree 0) (hc : c ∈ (exV.root : MetaSlab (ATree 0)).children) :
    c = exVLeaf 2 ⟨1, 3⟩ 0 [60, 60, 60, 60] ∨ c = exVLeaf 3 ⟨1, 4⟩ 10 [60, 60] ∨
      c = exVLeaf 4 SlabID.undef 20 [60, 60] := by
  have h : (exV.root : MetaSlab (ATree 0)).children =
      [exVLeaf 2 ⟨1, 3⟩ 0 [60, 60, 60, 60], exVLeaf 3 ⟨1, 4⟩ 10 [60, 60], exVLeaf 4 SlabID.undef 20 [60, 60]] := rfl
  rw [h] at hc
  rcases List.mem_cons.mp hc with h | hc
  · exact Or.inl h
  · rcases List.mem_cons.mp hc with h | hc
    · exact Or.inr (Or.inl h)
    · exact Or.inr (Or.inr (List.mem_singleton.mp hc))

theorem exV_tree : TreeInv 256 1 true exV.root := by
  refine ⟨rfl, rfl, rfl, rfl, rfl, ?_, ?_, by decide, by simp, fun _ => by decide⟩
  · intro c hc
    rcases exV_kids c hc with rfl | rfl | rfl
    · exact exV_leafInv _ _ _ _ rfl rfl (by decide) (by decide)
    · exact exV_leafInv _ _ _ _ rfl rfl (by decide) (by decide)
    · exact exV_leafInv _ _ _ _ rfl rfl (by decide) (by decide)
  · intro c hc
    rcases exV_kids c hc with rfl | rfl | rfl <;> rfl

theorem exV_slabIds : ATree.slabIds exV.d exV.root = [⟨1, 1⟩, ⟨1, 2⟩, ⟨1, 3⟩, ⟨1, 4⟩] := rfl

theorem exV_ids : IdsOk exV.addr 5 (ATree.slabIds exV.d exV.root) := by
  refine ⟨by decide, ?_⟩
  intro id hid
  rw [exV_slabIds] at hid
  simp only [List.mem_cons, List.not_mem_nil, or_false] at hid
  rcases hid with rfl | rfl | rfl | rfl <;> decide

/-- the leaf chain: `(1,2) -> (1,3) -> (1,4) -> undef` -/
theorem exV_chain : LeafChain (Arr.leaves exV.d exV.root) := by
  show LeafChain [exVLeaf 2 ⟨1, 3⟩ 0 [60, 60, 60, 60], exVLeaf 3 ⟨1, 4⟩ 10 [60, 60], exVLeaf 4 SlabID.undef 20 [60, 60]]
  exact ⟨rfl, rfl, rfl⟩

/-- **`exV` is a valid array** (all five fields of the array invariant), allocation counter 5 -/
theorem exV_inv : ArrInv 256 exV 5 :=
  ⟨exV_tree, exV_chain, exV_ids, rfl, by decide⟩

theorem exV_holds : Holds exVSt.heap exV.d exV.root := Holds_heapOf exV.d exV.root exV_inv.ids.1
theorem exV_freshFree : FreshFree exV.addr exVSt := FreshFree_heapOf 256 exV ⟨5, [], []⟩ exV_inv
theorem exV_toList : exV.toList = [⟨60, .val 0⟩, ⟨60, .val 1⟩, ⟨60, .val 2⟩, ⟨60, .val 3⟩, ⟨60, .val 10⟩,
    ⟨60, .val 11⟩, ⟨60, .val 20⟩, ⟨60, .val 21⟩] := rfl

/-- **instance of `Sl_Array_remove_heap_full`** (every hypothesis discharged): remove index 4, the first element of the
    middle leaf `(1,3)`; it underflows (81 < 128) and the left sibling `(1,2)` lends -/
theorem exV_remove_full : ∃ a' s',
    TransSl.Array_remove (envH 256) 1 (trArrH exV exVSt) (u64 4) =
      some (some (exV.toList.getD 4 default), none, trArrH a' s') ∧
    exV.remove 256 4 exVSt.ctx = .ok (exV.toList.getD 4 default, a', s'.ctx) ∧
    HeapPost exVSt.heap s'.heap exV.root a'.root ∧
    (∀ id ∈ ATree.slabIds a'.d a'.root, id ∈ ATree.slabIds exV.d exV.root) ∧
    a'.d ≤ exV.d ∧ ArrInv 256 a' s'.ctx.ctr ∧ a'.toList = exV.toList.eraseIdx 4 ∧ a'.rootID = exV.rootID ∧
    a'.ty = exV.ty :=
  (Sl_Array_remove_heap_full 256 (by decide) exV 4 exVSt 1 (Nat.le_refl _) exV_inv (by decide) exV_holds).1
    (by rw [exV_toList]; decide)

/-- … past the end: `IndexOutOfBoundsError`, nothing touched -/
theorem exV_remove_full_oob :
    TransSl.Array_remove (envH 256) 1 (trArrH exV exVSt) (u64 8) =
      some (none, some .indexOutOfBounds, trArrH exV exVSt) :=
  (Sl_Array_remove_heap_full 256 (by decide) exV 8 exVSt 1 (Nat.le_refl _) exV_inv (by decide) exV_holds).2
    (by rw [exV_toList]; decide)

/-- … what the model does there: the element `val 10` is removed, the depth stays 1, the effects are: store the
    underflowing leaf, the lender, the borrower, the parent (rebalance), the parent again (`remove`) -/
example : (exV.remove 256 4 exVSt.ctx).toOption.map (fun r => (r.1, r.2.1.d, r.2.2.eff)) =
    some (⟨60, .val 10⟩, 1, [.store ⟨1, 3⟩, .store ⟨1, 2⟩, .store ⟨1, 3⟩, .store ⟨1, 1⟩, .store ⟨1, 1⟩]) := by rfl

/-- **instance of `Sl_Array_set_heap_full`**: overwrite index 5 (leaf `(1,3)`) with a 70-byte value: plain store -/
theorem exV_set_full :
    match exV.set 256 5 ⟨70, .val 99⟩ exVSt.ctx with
    | .ok (old, a', c') => ∃ s', TransSl.Array_set (envH 256) 1 (trArrH exV exVSt) (u64 5) (some ⟨70, .val 99⟩) =
          some (some old, none, trArrH a' s') ∧ s'.ctx = c' ∧ HeapPost exVSt.heap s'.heap exV.root a'.root
    | .error e => e = .indexOutOfBounds ∧
        TransSl.Array_set (envH 256) 1 (trArrH exV exVSt) (u64 5) (some ⟨70, .val 99⟩) =
          some (none, some .indexOutOfBounds, trArrH exV exVSt) :=
  Sl_Array_set_heap_full 256 (by decide) exV 5 ⟨70, .val 99⟩ exVSt 1 (Nat.le_refl _) exV_inv exV_freshFree
    ⟨by decide, 99, rfl⟩ exV_holds (by decide)

/-- **instance of `Sl_Array_set_heap_full_ok`** (the chaining form: the `.ok` branch is taken, the result
    re-establishes every hypothesis) -/
theorem exV_set_full_ok : ∃ a' c' s',
    exV.set 256 5 ⟨70, .val 99⟩ exVSt.ctx = .ok (exV.toList.getD 5 default, a', c') ∧
    TransSl.Array_set (envH 256) 1 (trArrH exV exVSt) (u64 5) (some ⟨70, .val 99⟩) =
      some (some (exV.toList.getD 5 default), none, trArrH a' s') ∧ s'.ctx = c' ∧
    HeapPost exVSt.heap s'.heap exV.root a'.root ∧
    ArrInv 256 a' s'.ctx.ctr ∧ a'.addr = exV.addr ∧ FreshFree a'.addr s' ∧ Holds s'.heap a'.d a'.root ∧
    a'.toList = exV.toList.set 5 (toStorable 256 exV.addr ⟨70, .val 99⟩ exVSt.ctx).1 :=
  Sl_Array_set_heap_full_ok 256 (by decide) exV 5 ⟨70, .val 99⟩ exVSt 1 (Nat.le_refl _) exV_inv exV_freshFree
    ⟨by decide, 99, rfl⟩ exV_holds (by decide)

example : (exV.set 256 5 ⟨70, .val 99⟩ exVSt.ctx).toOption.map (fun r => (r.1, r.2.1.d, r.2.1.toList, r.2.2.eff)) =
    some (⟨60, .val 11⟩, 1, [⟨60, .val 0⟩, ⟨60, .val 1⟩, ⟨60, .val 2⟩, ⟨60, .val 3⟩, ⟨60, .val 10⟩,
      ⟨70, .val 99⟩, ⟨60, .val 20⟩, ⟨60, .val 21⟩], [.store ⟨1, 3⟩, .store ⟨1, 1⟩]) := by rfl

/-- … past the end: the `.error` branch of the same theorem -/
theorem exV_set_full_oob :
    TransSl.Array_set (envH 256) 1 (trArrH exV exVSt) (u64 8) (some ⟨70, .val 99⟩) =
      some (none, some .indexOutOfBounds, trArrH exV exVSt) := by
  have h := Sl_Array_set_heap_full 256 (by decide) exV 8 ⟨70, .val 99⟩ exVSt 1 (Nat.le_refl _) exV_inv exV_freshFree
    ⟨by decide, 99, rfl⟩ exV_holds (by decide)
  have he : exV.set 256 8 ⟨70, .val 99⟩ exVSt.ctx = .error .indexOutOfBounds := rfl
  rw [he] at h
  exact h.2

/-- **instance of `Sl_Array_Insert_heapOf`**: insert a 100-byte value at index 1 (leaf `(1,2)`: 261 -> 361 bytes) on
    the array's own heap -/
theorem exV_insert_heapOf : ∃ a' c' s',
    exV.insert 256 1 ⟨100, .val 99⟩ ⟨5, [], []⟩ = .ok (a', c') ∧
    TransSl.Array_Insert (envH 256) 1 (trArrH exV ⟨heapOf exV.d exV.root, ⟨5, [], []⟩⟩) (u64 1)
      (some ⟨100, .val 99⟩) = some (none, trArrH a' s') ∧ s'.ctx = c' ∧
    ∀ id, s'.heap id = heapOf a'.d a'.root id :=
  Sl_Array_Insert_heapOf 256 (by decide) exV 1 ⟨100, .val 99⟩ ⟨5, [], []⟩ 1 (Nat.le_refl _) exV_inv
    ⟨by decide, 99, rfl⟩ (by rw [exV_toList]; decide) (by decide)

/-- **instance of `Sl_Array_Insert_heap_full`** -/
theorem exV_insert_full :
    match exV.insert 256 1 ⟨100, .val 99⟩ exVSt.ctx with
    | .ok (a', c') => ∃ s', TransSl.Array_Insert (envH 256) 1 (trArrH exV exVSt) (u64 1) (some ⟨100, .val 99⟩) =
          some (none, trArrH a' s') ∧ s'.ctx = c' ∧ HeapPost exVSt.heap s'.heap exV.root a'.root
    | .error .indexOutOfBounds =>
        TransSl.Array_Insert (envH 256) 1 (trArrH exV exVSt) (u64 1) (some ⟨100, .val 99⟩) =
          some (some .indexOutOfBounds, trArrH exV exVSt)
    | .error .maxElementCount =>
        TransSl.Array_Insert (envH 256) 1 (trArrH exV exVSt) (u64 1) (some ⟨100, .val 99⟩) =
          some (some .maxElementCount, trArrH exV exVSt)
    | .error _ => True :=
  Sl_Array_Insert_heap_full 256 (by decide) exV 1 ⟨100, .val 99⟩ exVSt 1 (Nat.le_refl _) exV_inv
    ⟨by decide, 99, rfl⟩ exV_holds (by decide)

example : (exV.insert 256 1 ⟨100, .val 99⟩ exVSt.ctx).toOption.map (fun r => (r.1.d, r.1.count, r.2.eff)) =
    some (1, 9, [.store ⟨1, 2⟩, .store ⟨1, 1⟩]) := by rfl

/-- **instance of `Sl_Array_Append_heap_full`**: append a 70-byte value (last leaf `(1,4)`) -/
theorem exV_append_full : ∃ a' c' s',
    exV.append 256 ⟨70, .val 99⟩ exVSt.ctx = .ok (a', c') ∧
    TransSl.Array_Append (envH 256) 1 (trArrH exV exVSt) (some ⟨70, .val 99⟩) = some (none, trArrH a' s') ∧
    s'.ctx = c' ∧ HeapPost exVSt.heap s'.heap exV.root a'.root :=
  Sl_Array_Append_heap_full 256 (by decide) exV ⟨70, .val 99⟩ exVSt 1 (Nat.le_refl _) exV_inv (by decide)
    ⟨by decide, 99, rfl⟩ exV_holds

example : (exV.append 256 ⟨70, .val 99⟩ exVSt.ctx).toOption.map (fun r => (r.1.d, r.1.count, r.2.eff)) =
    some (1, 9, [.store ⟨1, 4⟩, .store ⟨1, 1⟩]) := by rfl

/-! ## restructuring instances: a leaf split (`exW`), a merge with promotion of the single child to root (`exX`) -/

/-- a root index slab over valid leaves of address 1 is a valid tree of depth 1 -/
theorem exV_rootInv (kids : List DataSlab) (hk : ∀ c ∈ kids, DataInv 256 false c ∧ c.hdr.id.addr = 1)
    (hlen : 2 ≤ kids.length) (hsz : kids.length ≤ 26) : TreeInv 256 1 true (exRoot kids) := by
  refine ⟨rfl, rfl, rfl, rfl, rfl, fun c hc => (hk c hc).1, fun c hc => (hk c hc).2, ?_, by simp, fun _ => hlen⟩
  show 12 + 14 * kids.length ≤ maxThr 256
  have : maxThr 256 = 384 := rfl
  omega

/-- two leaves `(1,2)` 100 + 100 + 100 + 60 (381 bytes: one step from full) -> `(1,3)` 2 x 60 -> undef -/
def exW : Arr := ⟨1, exRoot [exVLeaf 2 ⟨1, 3⟩ 0 [100, 100, 100, 60], exVLeaf 3 SlabID.undef 10 [60, 60]], 7⟩
/-- two minimal leaves `(1,2)` 2 x 60 -> `(1,3)` 2 x 60 -> undef (neither can lend) -/
def exX : Arr := ⟨1, exRoot [exVLeaf 2 ⟨1, 3⟩ 0 [60, 60], exVLeaf 3 SlabID.undef 10 [60, 60]], 7⟩
def exWSt : HSt := ⟨heapOf exW.d exW.root, ⟨5, [], []⟩⟩
def exXSt : HSt := ⟨heapOf exX.d exX.root, ⟨5, [], []⟩⟩

theorem exW_inv : ArrInv 256 exW 5 := by
  refine ⟨exV_rootInv _ ?_ (by decide) (by decide), ?_, ⟨by decide, ?_⟩, rfl, by decide⟩
  · intro c hc
    simp only [List.mem_cons, List.not_mem_nil, or_false] at hc
    rcases hc with rfl | rfl
    · exact ⟨exV_leafInv _ _ _ _ rfl rfl (by decide) (by decide), rfl⟩
    · exact ⟨exV_leafInv _ _ _ _ rfl rfl (by decide) (by decide), rfl⟩
  · show LeafChain [exVLeaf 2 ⟨1, 3⟩ 0 [100, 100, 100, 60], exVLeaf 3 SlabID.undef 10 [60, 60]]
    exact ⟨rfl, rfl⟩
  · intro id hid
    have h : ATree.slabIds exW.d exW.root = [⟨1, 1⟩, ⟨1, 2⟩, ⟨1, 3⟩] := rfl
    rw [h] at hid
    simp only [List.mem_cons, List.not_mem_nil, or_false] at hid
    rcases hid with rfl | rfl | rfl <;> decide

theorem exX_inv : ArrInv 256 exX 5 := by
  refine ⟨exV_rootInv _ ?_ (by decide) (by decide), ?_, ⟨by decide, ?_⟩, rfl, by decide⟩
  · intro c hc
    simp only [List.mem_cons, List.not_mem_nil, or_false] at hc
    rcases hc with rfl | rfl
    · exact ⟨exV_leafInv _ _ _ _ rfl rfl (by decide) (by decide), rfl⟩
    · exact ⟨exV_leafInv _ _ _ _ rfl rfl (by decide) (by decide), rfl⟩
  · show LeafChain [exVLeaf 2 ⟨1, 3⟩ 0 [60, 60], exVLeaf 3 SlabID.undef 10 [60, 60]]
    exact ⟨rfl, rfl⟩
  · intro id hid
    have h : ATree.slabIds exX.d exX.root = [⟨1, 1⟩, ⟨1, 2⟩, ⟨1, 3⟩] := rfl
    rw [h] at hid
    simp only [List.mem_cons, List.not_mem_nil, or_false] at hid
    rcases hid with rfl | rfl | rfl <;> decide

theorem exW_holds : Holds exWSt.heap exW.d exW.root := Holds_heapOf exW.d exW.root exW_inv.ids.1
theorem exX_holds : Holds exXSt.heap exX.d exX.root := Holds_heapOf exX.d exX.root exX_inv.ids.1

/-- **instance of `Sl_Array_set_heap_full_ok` with a LEAF SPLIT**: overwriting the 60-byte element at index 3 of `exW`
    by a 117-byte value makes the leaf `(1,2)` full (438 > 384): it is split, the new leaf gets the identifier `(1,6)` -/
theorem exW_set_full_split : ∃ a' c' s',
    exW.set 256 3 ⟨117, .val 99⟩ exWSt.ctx = .ok (exW.toList.getD 3 default, a', c') ∧
    TransSl.Array_set (envH 256) 1 (trArrH exW exWSt) (u64 3) (some ⟨117, .val 99⟩) =
      some (some (exW.toList.getD 3 default), none, trArrH a' s') ∧ s'.ctx = c' ∧
    HeapPost exWSt.heap s'.heap exW.root a'.root ∧
    ArrInv 256 a' s'.ctx.ctr ∧ a'.addr = exW.addr ∧ FreshFree a'.addr s' ∧ Holds s'.heap a'.d a'.root ∧
    a'.toList = exW.toList.set 3 (toStorable 256 exW.addr ⟨117, .val 99⟩ exWSt.ctx).1 :=
  Sl_Array_set_heap_full_ok 256 (by decide) exW 3 ⟨117, .val 99⟩ exWSt 1 (Nat.le_refl _) exW_inv
    (FreshFree_heapOf 256 exW ⟨5, [], []⟩ exW_inv) ⟨by decide, 99, rfl⟩ exW_holds (by decide)

example : (exW.set 256 3 ⟨117, .val 99⟩ exWSt.ctx).toOption.map (fun r => (r.1, r.2.1.d, r.2.2.ctr, r.2.2.eff)) =
    some (⟨60, .val 3⟩, 1, 6,
      [.store ⟨1, 2⟩, .alloc 1 ⟨1, 6⟩, .store ⟨1, 2⟩, .store ⟨1, 6⟩, .store ⟨1, 1⟩]) := by rfl

/-- **instance of `Sl_Array_Insert_heapOf` with a LEAF SPLIT** (100 bytes into the 381-byte leaf) -/
theorem exW_insert_heapOf_split : ∃ a' c' s',
    exW.insert 256 1 ⟨100, .val 99⟩ ⟨5, [], []⟩ = .ok (a', c') ∧
    TransSl.Array_Insert (envH 256) 1 (trArrH exW ⟨heapOf exW.d exW.root, ⟨5, [], []⟩⟩) (u64 1)
      (some ⟨100, .val 99⟩) = some (none, trArrH a' s') ∧ s'.ctx = c' ∧
    ∀ id, s'.heap id = heapOf a'.d a'.root id :=
  Sl_Array_Insert_heapOf 256 (by decide) exW 1 ⟨100, .val 99⟩ ⟨5, [], []⟩ 1 (Nat.le_refl _) exW_inv
    ⟨by decide, 99, rfl⟩ (by decide) (by decide)

example : (exW.insert 256 1 ⟨100, .val 99⟩ exWSt.ctx).toOption.map (fun r => (r.1.d, r.1.count, r.2.ctr, r.2.eff)) =
    some (1, 7, 6, [.store ⟨1, 2⟩, .alloc 1 ⟨1, 6⟩, .store ⟨1, 2⟩, .store ⟨1, 6⟩, .store ⟨1, 1⟩]) := by rfl

/-- **instance of `Sl_Array_remove_heap_full` with a MERGE and the PROMOTION of the single child**: removing index 0 of
    `exX` makes `(1,2)` underflow, `(1,3)` cannot lend: they merge, the root is left with one child, which becomes the
    root data slab `(1,1)` (depth 1 -> 0) -/
theorem exX_remove_full_promote : ∃ a' s',
    TransSl.Array_remove (envH 256) 1 (trArrH exX exXSt) (u64 0) =
      some (some (exX.toList.getD 0 default), none, trArrH a' s') ∧
    exX.remove 256 0 exXSt.ctx = .ok (exX.toList.getD 0 default, a', s'.ctx) ∧
    HeapPost exXSt.heap s'.heap exX.root a'.root ∧
    (∀ id ∈ ATree.slabIds a'.d a'.root, id ∈ ATree.slabIds exX.d exX.root) ∧
    a'.d ≤ exX.d ∧ ArrInv 256 a' s'.ctx.ctr ∧ a'.toList = exX.toList.eraseIdx 0 ∧ a'.rootID = exX.rootID ∧
    a'.ty = exX.ty :=
  (Sl_Array_remove_heap_full 256 (by decide) exX 0 exXSt 1 (Nat.le_refl _) exX_inv (by decide) exX_holds).1
    (by decide)

example : (exX.remove 256 0 exXSt.ctx).toOption.map (fun r => (r.1, r.2.1.d, r.2.1.count, r.2.2.eff)) =
    some (⟨60, .val 0⟩, 0, 3, [.store ⟨1, 2⟩, .store ⟨1, 2⟩, .store ⟨1, 1⟩, .remove ⟨1, 3⟩, .store ⟨1, 1⟩,
      .store ⟨1, 1⟩, .remove ⟨1, 2⟩]) := by rfl

/-- **instance of `Sl_Array_set_heap_full_ok` with a MERGE and PROMOTION** (a 1-byte value makes `(1,2)` underflow) -/
theorem exX_set_full_promote : ∃ a' c' s',
    exX.set 256 0 ⟨1, .val 99⟩ exXSt.ctx = .ok (exX.toList.getD 0 default, a', c') ∧
    TransSl.Array_set (envH 256) 1 (trArrH exX exXSt) (u64 0) (some ⟨1, .val 99⟩) =
      some (some (exX.toList.getD 0 default), none, trArrH a' s') ∧ s'.ctx = c' ∧
    HeapPost exXSt.heap s'.heap exX.root a'.root ∧
    ArrInv 256 a' s'.ctx.ctr ∧ a'.addr = exX.addr ∧ FreshFree a'.addr s' ∧ Holds s'.heap a'.d a'.root ∧
    a'.toList = exX.toList.set 0 (toStorable 256 exX.addr ⟨1, .val 99⟩ exXSt.ctx).1 :=
  Sl_Array_set_heap_full_ok 256 (by decide) exX 0 ⟨1, .val 99⟩ exXSt 1 (Nat.le_refl _) exX_inv
    (FreshFree_heapOf 256 exX ⟨5, [], []⟩ exX_inv) ⟨by decide, 99, rfl⟩ exX_holds (by decide)

example : (exX.set 256 0 ⟨1, .val 99⟩ exXSt.ctx).toOption.map (fun r => (r.1, r.2.1.d, r.2.1.count, r.2.2.eff)) =
    some (⟨60, .val 0⟩, 0, 4, [.store ⟨1, 2⟩, .store ⟨1, 2⟩, .store ⟨1, 1⟩, .remove ⟨1, 3⟩, .store ⟨1, 1⟩,
      .remove ⟨1, 2⟩]) := by rfl

end Atree.TransEq

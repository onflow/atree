import AtreeProofs.Trans.Descent
import AtreeProofs.Props.TransSlabs
import AtreeProofs.Props.TransSafe
/-
  TRANSLATION EQUIVALENCE, the array descent: `ArrayMetaDataSlab.Get` / `ArraySlab.Get`.

  The generated `ArrayMetaDataSlab_Get` (Gen/TransSlabs.lean, regenerated from array_metadata_slab.go on every run)
  routes the index (`childSlabIndexInfo`), reads the child slab from the storage (`getArraySlab`) and calls `Get` on it
  through dynamic dispatch; it recurses on a depth argument.  On a heap that HOLDS a model tree (`Holds`,
  Trans/Descent.lean) and with a depth argument at least the depth of the tree it returns what the model's `ATree.get`
  returns on the embedded tree - the element, or the error class - and leaves the storage untouched.  The agreement of
  Go's routing with the model's is the hypothesis `RouteOk`; Props/TransDescentRoute.lean derives it from `TreeInv`.
-/
namespace Atree.TransEq
open Atree Atree.Gen

/-- Go's routing (`childSlabIndexInfo`, as translated by the stateless engine) agrees with the model's at every index
    slab on the path of index `i`, the header copies are the children's headers, and the numbers of the leaf fit.
    `RouteOk.of_inv` derives this from the tree invariant. -/
def RouteOk : (d : Nat) → ATree d → Nat → Prop
  | 0, (s : DataSlab), i => i < 2^64 ∧ s.elems.length < 2^63
  | d + 1, (m : MetaSlab (ATree d)), i =>
    m.childHdrs = m.children.map (ATree.hdr d) ∧
    match m.childSlabIndexInfo i with
    | .ok (k, adj) =>
      Trans.ArrayMetaDataSlab_childSlabIndexInfo (u32 m.hdr.count) (u32s m.countSum) (u32s (countsOf m.childHdrs))
        (u64 i) = some (Int.ofNat k, u64 adj) ∧ ∀ child, m.children[k]? = some child → RouteOk d child adj
    | .error .indexOutOfBounds =>
      Trans.ArrayMetaDataSlab_childSlabIndexInfo (u32 m.hdr.count) (u32s m.countSum) (u32s (countsOf m.childHdrs))
        (u64 i) = none
    | .error _ => False

theorem trMeta_counts {α : Type} (m : MetaSlab α) :
    (trMeta m).childrenHeaders.map (·.count) = u32s (countsOf m.childHdrs) := by
  simp [trMeta, u32s, countsOf, trHdr, List.map_map, Function.comp_def]

/-- the routing parameter on the translation of a model index slab: the model's child position and adjusted index, and
    the identifier in the header copy at that position -/
theorem childInfoOf_trMeta_ok {α : Type} (m : MetaSlab α) (i k adj : Nat) (ioob : Option AErr)
    (h : Trans.ArrayMetaDataSlab_childSlabIndexInfo (u32 m.hdr.count) (u32s m.countSum) (u32s (countsOf m.childHdrs))
      (u64 i) = some (Int.ofNat k, u64 adj)) :
    childInfoOf ioob (trMeta m) (u64 i) =
      (Int.ofNat k, u64 adj, ((m.childHdrs.map trHdr).getD k TransSl.ArraySlabHeader.zero).slabID, none) := by
  unfold childInfoOf
  rw [trMeta_counts]
  simp only [trMeta_header, trHdr_count, trMeta_childrenCountSum]
  have : m.countSum.map u32 = u32s m.countSum := rfl
  rw [this, h]
  simp

theorem childInfoOf_trMeta_none {α : Type} (m : MetaSlab α) (i : Nat) (ioob : Option AErr)
    (h : Trans.ArrayMetaDataSlab_childSlabIndexInfo (u32 m.hdr.count) (u32s m.countSum) (u32s (countsOf m.childHdrs))
      (u64 i) = none) :
    childInfoOf ioob (trMeta m) (u64 i) = (0, 0, SlabID.undef, ioob) := by
  unfold childInfoOf
  rw [trMeta_counts]
  simp only [trMeta_header, trHdr_count, trMeta_childrenCountSum]
  have : m.countSum.map u32 = u32s m.countSum := rfl
  rw [this, h]

/-- the header copy at position `k` names the child at position `k` -/
theorem childID_of_hdrs {d : Nat} (m : MetaSlab (ATree d)) (k : Nat) (child : ATree d)
    (hh : m.childHdrs = m.children.map (ATree.hdr d)) (hc : m.children[k]? = some child) :
    ((m.childHdrs.map trHdr).getD k TransSl.ArraySlabHeader.zero).slabID = (ATree.hdr d child).id := by
  rw [hh]
  simp [List.getD_eq_getElem?_getD, List.getElem?_map, hc, trHdr]

/-- `ArrayDataSlab.Get` over the heap environment (the function does not touch the storage) -/
theorem Sl_ArrayDataSlab_Get_envH (T : Nat) (s : DataSlab) (i : Nat) (hi : i < 2^64) (hlen : s.elems.length < 2^63) :
    TransSl.ArrayDataSlab_Get (envH T) (trData s) (u64 i) =
      some (match s.get i with
        | .ok e => (some e, none)
        | .error e => (none, some e)) :=
  Sl_ArrayDataSlab_Get_any (leafEnv_envH T) s i hi hlen

/-- the statement for the dispatcher at depth `d` -/
def GetDisp (T d : Nat) : Prop :=
  ∀ (t : ATree d) (i : Nat) (s : HSt) (depth : Nat), d ≤ depth → Holds s.heap d t → RouteOk d t i →
    TransSl.ArraySlab_Get (envH T) (TransSl.ArrayMetaDataSlab_Get (envH T) depth) (trTree d t) s (u64 i) =
      some (match ATree.get d t i with
        | .ok e => (some e, none, s)
        | .error e => (none, some e, s))

/-- the statement for an index slab whose children have depth `d` -/
def GetMeta (T d : Nat) : Prop :=
  ∀ (m : MetaSlab (ATree d)) (i : Nat) (s : HSt) (depth : Nat), d ≤ depth → HoldsChildren s.heap m →
    RouteOk (d + 1) m i →
    TransSl.ArrayMetaDataSlab_Get (envH T) (depth + 1) (trMeta m) s (u64 i) =
      some (match ATree.get (d + 1) m i with
        | .ok e => (some e, none, s)
        | .error e => (none, some e, s))

theorem getDisp_zero (T : Nat) : GetDisp T 0 := by
  intro t i s depth _ _ hr
  obtain ⟨hi, hlen⟩ := hr
  have := Sl_ArrayDataSlab_Get_envH T t i hi hlen
  simp only [trTree, TransSl.ArraySlab_Get, this, ATree.get]
  cases DataSlab.get t i <;> rfl

theorem getMeta_of_disp (T d : Nat) (ih : GetDisp T d) : GetMeta T d := by
  intro m i s depth hd' hh hr
  obtain ⟨hhdrs, hr⟩ := hr
  cases hinfo : m.childSlabIndexInfo i with
  | error e =>
    rw [hinfo] at hr
    cases e <;> simp only at hr
    have e1 := childInfoOf_trMeta_none m i (some .indexOutOfBounds) hr
    simp [TransSl.ArrayMetaDataSlab_Get, envH_childInfo, e1, ATree.get, bind, Except.bind, hinfo]
  | ok res =>
    obtain ⟨k, adj⟩ := res
    rw [hinfo] at hr
    obtain ⟨hroute, hrec⟩ := hr
    have e1 := childInfoOf_trMeta_ok m i k adj (some .indexOutOfBounds) hroute
    -- position k is inside the header copies, hence inside the children
    have hk : k < m.children.length := by
      have : k < m.childHdrs.length := by
        simp only [MetaSlab.childSlabIndexInfo] at hinfo
        split at hinfo
        · cases hinfo
        · split at hinfo
          · rename_i h1 _
            have := (List.getElem?_eq_some_iff.1 h1).1
            simp only [Except.ok.injEq, Prod.mk.injEq] at hinfo
            omega
          · cases hinfo
      rw [hhdrs] at this; simpa using this
    have hc : m.children[k]? = some m.children[k] := List.getElem?_eq_getElem hk
    have hmem : m.children[k] ∈ m.children := List.getElem_mem hk
    have hchild : Holds s.heap d m.children[k] := hh _ hmem
    have e2 := childID_of_hdrs m k _ hhdrs hc
    have e3 := ih m.children[k] adj s depth hd' hchild (hrec _ hc)
    simp only [TransSl.ArrayMetaDataSlab_Get, envH_childInfo, e1, e2, envH_getArraySlab,
      hchild.root, Option.isSome_none, Bool.false_eq_true, if_false, e3, ATree.get, bind, Except.bind, hinfo, hc]

theorem getDisp_succ (T d : Nat) (ih : GetMeta T d) : GetDisp T (d + 1) := by
  intro t i s depth hd hh hr
  obtain ⟨depth, rfl⟩ : ∃ n, depth = n + 1 := ⟨depth - 1, by omega⟩
  have := ih t i s depth (by omega) hh.2 hr
  show TransSl.ArraySlab_Get (envH T) _ (.metaSlab (trMeta t)) s (u64 i) = _
  simp only [TransSl.ArraySlab_Get, this]

theorem getDisp_all (T : Nat) : ∀ d, GetDisp T d
  | 0 => getDisp_zero T
  | d + 1 => getDisp_succ T d (getMeta_of_disp T d (getDisp_all T d))

/-- **`ArraySlab.Get` over a heap** (dynamic dispatch; an index slab descends through the storage): on a heap that
    holds the tree, with a depth argument that covers the tree, the generated code returns the model's `ATree.get` -
    the element or the error - and the storage is untouched. -/
theorem Sl_ArraySlab_Get_heap (T : Nat) (d : Nat) (t : ATree d) (i : Nat) (s : HSt) (depth : Nat) (hd : d ≤ depth)
    (hh : Holds s.heap d t) (hr : RouteOk d t i) :
    TransSl.ArraySlab_Get (envH T) (TransSl.ArrayMetaDataSlab_Get (envH T) depth) (trTree d t) s (u64 i) =
      some (match ATree.get d t i with
        | .ok e => (some e, none, s)
        | .error e => (none, some e, s)) :=
  getDisp_all T d t i s depth hd hh hr

/-- **`ArrayMetaDataSlab.Get` over a heap**: the receiver is the translation of a model index slab (passed by value),
    its children are held by the heap; depth argument `depth + 1` for children of depth `d ≤ depth`. -/
theorem Sl_ArrayMetaDataSlab_Get_heap (T : Nat) (d : Nat) (m : MetaSlab (ATree d)) (i : Nat) (s : HSt) (depth : Nat)
    (hd : d ≤ depth) (hh : HoldsChildren s.heap m) (hr : RouteOk (d + 1) m i) :
    TransSl.ArrayMetaDataSlab_Get (envH T) (depth + 1) (trMeta m) s (u64 i) =
      some (match ATree.get (d + 1) m i with
        | .ok e => (some e, none, s)
        | .error e => (none, some e, s)) :=
  getMeta_of_disp T d (getDisp_all T d) m i s depth hd hh hr

/-- **where the heap version differs from the embedded model**: the header copy at the routed position names a slab
    that the storage does not hold.  Go returns `SlabNotFoundError` (from `getArraySlab`), nothing is touched; the
    model's children are embedded, so `ATree.get` has no such case (`Holds` excludes it). -/
theorem Sl_ArrayMetaDataSlab_Get_notFound_differs_at (T : Nat) {α : Type} (m : MetaSlab α) (i k adj : Nat) (s : HSt)
    (depth : Nat)
    (hroute : Trans.ArrayMetaDataSlab_childSlabIndexInfo (u32 m.hdr.count) (u32s m.countSum)
      (u32s (countsOf m.childHdrs)) (u64 i) = some (Int.ofNat k, u64 adj))
    (hmiss : s.heap ((m.childHdrs.map trHdr).getD k TransSl.ArraySlabHeader.zero).slabID = none) :
    TransSl.ArrayMetaDataSlab_Get (envH T) (depth + 1) (trMeta m) s (u64 i) = some (none, some .slabNotFound, s) := by
  have e1 := childInfoOf_trMeta_ok m i k adj (some .indexOutOfBounds) hroute
  simp only [TransSl.ArrayMetaDataSlab_Get, envH_childInfo, e1, envH_getArraySlab, hmiss, Option.isSome_none,
    Option.isSome_some, Bool.false_eq_true, if_false, if_true]

/-- the depth argument is exhausted (the tree is deeper): the generated code leaves the modelled fragment -/
theorem Sl_ArrayMetaDataSlab_Get_depth0 (T : Nat) (a : GMeta) (s : HSt) (i : UInt64) :
    TransSl.ArrayMetaDataSlab_Get (envH T) 0 a s i = none := rfl

end Atree.TransEq

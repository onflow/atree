import AtreeProofs.Trans.Descent
import AtreeProofs.Array.EffectsTree
/-
  TRANSLATION EQUIVALENCE, the array descent: how heap post-conditions compose.

  An operation on an index slab is a step on ONE child followed by a repair step on the parent (split the child, merge
  or rebalance it, or just store the parent).  Each of the two steps has a `HeapPost`; `HeapPost.level` composes them.
  Its premise `hfresh` is the one point where the three operations differ: an identifier that is new in the child and
  that the repair step drops again must not have been in the initial heap.  `Set` knows it from `FreshFree` (nothing is
  stored above the allocation counter), for `Insert` the repair step drops nothing, `Remove` creates nothing below.
  A restructuring only re-partitions what lies below the slabs it touches; that is a statement about the view `sub`
  (Array/Repair.lean: `split_struct`, `merge_struct`), and `below_of_sub` reads off it what `RemKidsPost.of_writes`
  asks about identifiers and about the heap.
-/
namespace Atree.TransEq
open Atree Atree.Gen

/-- identifiers of the owner address that the allocation counter has not reached yet are not in the heap -/
def FreshFree (addr : Nat) (s : HSt) : Prop :=
  ∀ id : SlabID, id.addr = addr → s.ctx.ctr < id.idx → s.heap id = none

theorem FreshFree.post {addr : Nat} {s s' : HSt} {d d' : Nat} {t : ATree d} {t' : ATree d'}
    (hf : FreshFree addr s) (hp : HeapPost s.heap s'.heap t t')
    (hids : IdsOk addr s.ctx.ctr (ATree.slabIds d t)) (hids' : IdsOk addr s'.ctx.ctr (ATree.slabIds d' t'))
    (hle : s.ctx.ctr ≤ s'.ctx.ctr) : FreshFree addr s' := by
  intro id ha hlt
  have h1 : id ∉ ATree.slabIds d t := fun h => by have := (hids.2 id h).2.2; omega
  have h2 : id ∉ ATree.slabIds d' t' := fun h => by have := (hids'.2 id h).2.2; omega
  rw [hp.frame id h1 h2]
  exact hf id ha (by omega)

/-- two steps in a row.  `hfresh`: an identifier that the first step brought in and the second dropped again was not
    in the initial heap. -/
theorem HeapPost.trans {h0 h1 h2 : SlabID → Option GSlab} {d0 d1 d2 : Nat} {t : ATree d0} {t' : ATree d1}
    {t'' : ATree d2} (p1 : HeapPost h0 h1 t t') (p2 : HeapPost h1 h2 t' t'')
    (hfresh : ∀ id ∈ ATree.slabIds d1 t', id ∉ ATree.slabIds d0 t → id ∉ ATree.slabIds d2 t'' → h0 id = none) :
    HeapPost h0 h2 t t'' := by
  refine ⟨p2.holds, fun id hin hnot => ?_, fun id hnin hnot => ?_⟩
  · by_cases hm : id ∈ ATree.slabIds d1 t'
    · exact p2.gone id hm hnot
    · rw [p2.frame id hm hnot]; exact p1.gone id hin hm
  · by_cases hm : id ∈ ATree.slabIds d1 t'
    · rw [p2.gone id hm hnot, hfresh id hm hnin hnot]
    · rw [p2.frame id hm hnot, p1.frame id hnin hm]

section below
open MetaSlab ATree

/-- the heap holds the strict descendants of `t` -/
def InsHoldsBelow (h : SlabID → Option GSlab) : (d : Nat) → ATree d → Prop
  | 0, _ => True
  | d + 1, (m : MetaSlab (ATree d)) => HoldsChildren h m

theorem Holds.insBelow {h : SlabID → Option GSlab} : ∀ {d : Nat} {t : ATree d}, Holds h d t → InsHoldsBelow h d t
  | 0, _, _ => trivial
  | _ + 1, _, hh => hh.2

theorem ins_holds_of_root_below {h : SlabID → Option GSlab} : ∀ (d : Nat) (t : ATree d),
    h (hdr d t).id = some (trTree d t) → InsHoldsBelow h d t → Holds h d t
  | 0, _, hr, _ => hr
  | _ + 1, _, hr, hb => ⟨hr, hb⟩

theorem tail_slabIds (d : Nat) (t : ATree d) : (slabIds d t).tail = subIds d t := by
  rw [slabIds_eq]; rfl

/-- holding the strict descendants is storing the slabs below the root (`sub`, Array/Repair.lean) -/
theorem insHoldsBelow_iff_sub {h : SlabID → Option GSlab} : ∀ {d : Nat} {t : ATree d},
    InsHoldsBelow h d t ↔ ∀ p ∈ sub d t, h p.1 = some (trASlab p.2)
  | 0, _ => ⟨fun _ _ hp => (nomatch hp), fun _ => trivial⟩
  | d + 1, t => by
    refine forall_ofMeta ?_ t; intro m
    show (∀ c ∈ m.children, Holds h d c) ↔ ∀ p ∈ m.children.flatMap (ATree.slabs d), _
    simp only [List.mem_flatMap, forall_exists_index, and_imp]
    exact ⟨fun hk p c hc hp => holds_iff_slabs.1 (hk c hc) p hp,
      fun hk c hc => holds_iff_slabs.2 fun p hp => hk p c hc hp⟩

theorem InsHoldsBelow.congr {h h' : SlabID → Option GSlab} : ∀ {d : Nat} {t : ATree d}, InsHoldsBelow h d t →
    (∀ id ∈ subIds d t, h' id = h id) → InsHoldsBelow h' d t :=
  fun hb heq => insHoldsBelow_iff_sub.2 fun p hp =>
    (heq p.1 (keys_sub _ _ ▸ AList.mem_keys_of_mem hp)).trans (insHoldsBelow_iff_sub.1 hb p hp)

/-- Siblings `X'` below which lie the slabs that lie below `X` - what `split_struct`, `merge_struct` and `rebalOp_struct`
    say of a split, a merge and a rebalancing move: the identifiers below are the same, and a heap that holds what
    is below `X` holds what is below `X'` (the premises `hsub`, `hbelow` of `RemKidsPost.of_writes`). -/
theorem below_of_sub {d : Nat} {X X' : List (ATree d)} (hs : X'.flatMap (sub d) = X.flatMap (sub d)) :
    (∀ id, id ∈ X'.flatMap (subIds d) ↔ id ∈ X.flatMap (subIds d)) ∧
    ∀ h : SlabID → Option GSlab, (∀ x ∈ X, InsHoldsBelow h d x) → ∀ x' ∈ X', InsHoldsBelow h d x' := by
  have hk : ∀ L : List (ATree d), L.flatMap (subIds d) = AList.keys (L.flatMap (sub d)) := fun L =>
    (AList.keys_flatMap _ _ L fun x _ => keys_sub d x).symm
  refine ⟨fun id => by rw [hk, hk, hs], fun h hb x' hx' => insHoldsBelow_iff_sub.2 fun p hp => ?_⟩
  obtain ⟨x, hx, hpx⟩ := List.mem_flatMap.1 (hs ▸ List.mem_flatMap.2 ⟨x', hx', hp⟩)
  exact insHoldsBelow_iff_sub.1 (hb x hx) p hpx

end below

section compose
open ATree MetaSlab
variable {d : Nat}

theorem ins_mem_ids_meta (m : MetaSlab (ATree d)) (id : SlabID) :
    id ∈ ATree.slabIds (d + 1) (ofMeta m) ↔ id = m.hdr.id ∨ ∃ c ∈ m.children, id ∈ ATree.slabIds d c := by
  simp [List.mem_flatMap]

/-- what `Nodup` of the identifiers of an index slab says about one child and its siblings -/
theorem ins_nodup_mid {A B : List (ATree d)} {x : ATree d} {r : SlabID}
    (h : (r :: (A ++ x :: B).flatMap (ATree.slabIds d)).Nodup) :
    (∀ id ∈ ATree.slabIds d x, id ≠ r) ∧
    ∀ c, (c ∈ A ∨ c ∈ B) → ∀ id ∈ ATree.slabIds d c, id ∉ ATree.slabIds d x ∧ id ≠ r := by
  obtain ⟨hr, hl⟩ := List.nodup_cons.1 h
  simp only [List.flatMap_append, List.flatMap_cons] at hr hl
  obtain ⟨_, h2, h3⟩ := List.nodup_append.1 hl
  obtain ⟨_, _, h4⟩ := List.nodup_append.1 h2
  refine ⟨fun id hid e => hr (by subst e; simp [hid]), ?_⟩
  intro c hc id hid
  rcases hc with hc | hc
  · have hmem : id ∈ A.flatMap (ATree.slabIds d) := List.mem_flatMap.2 ⟨c, hc, hid⟩
    refine ⟨fun hx => h3 id hmem id (by simp [hx]) rfl, fun e => hr (by subst e; simp [hmem])⟩
  · have hmem : id ∈ B.flatMap (ATree.slabIds d) := List.mem_flatMap.2 ⟨c, hc, hid⟩
    refine ⟨fun hx => h4 id hx id hmem rfl, fun e => hr (by subst e; simp [hmem])⟩

/-- after the operation on child `k` the heap holds all children of the parent with the new child written back -/
theorem holdsChildren_after_child {m m1 : MetaSlab (ATree d)} {A B : List (ATree d)} {child child' : ATree d}
    {h h1 : SlabID → Option GSlab}
    (hch : m.children = A ++ child :: B) (hch1 : m1.children = A ++ child' :: B)
    (hnd : (ATree.slabIds (d + 1) (ofMeta m)).Nodup) (hnd1 : (ATree.slabIds (d + 1) (ofMeta m1)).Nodup)
    (hh : HoldsChildren h m) (hp : HeapPost h h1 child child') : HoldsChildren h1 m1 := by
  rw [slabIds_succ, hch] at hnd
  rw [slabIds_succ, hch1] at hnd1
  intro c hc
  rw [hch1] at hc
  simp only [List.mem_append, List.mem_cons] at hc
  have sib : (c ∈ A ∨ c ∈ B) → Holds h1 d c := by
    intro hc'
    have hmem : c ∈ m.children := by
      rw [hch]; simp only [List.mem_append, List.mem_cons]
      rcases hc' with h' | h'
      · exact Or.inl h'
      · exact Or.inr (Or.inr h')
    refine (hh c hmem).congr (fun id hid => ?_)
    exact hp.frame id ((ins_nodup_mid hnd).2 c hc' id hid).1 ((ins_nodup_mid hnd1).2 c hc' id hid).1
  rcases hc with hc | rfl | hc
  · exact sib (Or.inl hc)
  · exact hp.holds
  · exact sib (Or.inr hc)

/-- the step on child `A.length` (`p1`), then the repair step on the parent (`p2`).  `hfresh`: an identifier that is new
    in the child and not in the final tree was not in the initial heap. -/
theorem HeapPost.level {h h1 h2 : SlabID → Option GSlab} {m m1 m2 : MetaSlab (ATree d)} {A B : List (ATree d)}
    {child child' : ATree d}
    (hch : m.children = A ++ child :: B) (hch1 : m1.children = A ++ child' :: B) (hid : m1.hdr.id = m.hdr.id)
    (hfresh : ∀ id ∈ slabIds d child', id ∉ slabIds d child → id ∉ slabIds (d + 1) (ofMeta m2) → h id = none)
    (p1 : HeapPost h h1 child child') (p2 : HeapPost h1 h2 (ofMeta m1) (ofMeta m2)) :
    HeapPost h h2 (ofMeta m) (ofMeta m2) := by
  have hm : ∀ id, id ∈ slabIds (d + 1) (ofMeta m) ↔
      id = m.hdr.id ∨ id ∈ A.flatMap (slabIds d) ∨ id ∈ slabIds d child ∨ id ∈ B.flatMap (slabIds d) := by
    intro id; rw [slabIds_succ, hch]; simp [List.flatMap_append]
  have hm1 : ∀ id, id ∈ slabIds (d + 1) (ofMeta m1) ↔
      id = m.hdr.id ∨ id ∈ A.flatMap (slabIds d) ∨ id ∈ slabIds d child' ∨ id ∈ B.flatMap (slabIds d) := by
    intro id; rw [slabIds_succ, hch1, hid]; simp [List.flatMap_append]
  refine ⟨p2.holds, fun id hin hnot => ?_, fun id hnin hnot => ?_⟩
  · by_cases h1m : id ∈ slabIds (d + 1) (ofMeta m1)
    · exact p2.gone id h1m hnot
    · -- the identifier left with the child step
      have hc : id ∈ slabIds d child := by
        rcases (hm id).1 hin with h | h | h | h
        · exact absurd ((hm1 id).2 (Or.inl h)) h1m
        · exact absurd ((hm1 id).2 (Or.inr (Or.inl h))) h1m
        · exact h
        · exact absurd ((hm1 id).2 (Or.inr (Or.inr (Or.inr h)))) h1m
      have hc' : id ∉ slabIds d child' := fun h => h1m ((hm1 id).2 (Or.inr (Or.inr (Or.inl h))))
      rw [p2.frame id h1m hnot]
      exact p1.gone id hc hc'
  · have hc : id ∉ slabIds d child := fun h => hnin ((hm id).2 (Or.inr (Or.inr (Or.inl h))))
    by_cases h1m : id ∈ slabIds (d + 1) (ofMeta m1)
    · -- the identifier came with the child step and left with the repair step
      have hc' : id ∈ slabIds d child' := by
        rcases (hm1 id).1 h1m with h | h | h | h
        · exact absurd ((hm id).2 (Or.inl h)) hnin
        · exact absurd ((hm id).2 (Or.inr (Or.inl h))) hnin
        · exact h
        · exact absurd ((hm id).2 (Or.inr (Or.inr (Or.inr h)))) hnin
      rw [p2.gone id h1m hnot, hfresh id hc' hc hnot]
    · have hc' : id ∉ slabIds d child' := fun h => h1m ((hm1 id).2 (Or.inr (Or.inr (Or.inl h))))
      rw [p2.frame id h1m hnot, p1.frame id hc hc']

/-- the case of `HeapPost.level` where the new identifiers of the child were free in the initial heap -/
theorem HeapPost.parent {h h1 h2 : SlabID → Option GSlab} {m m1 m2 : MetaSlab (ATree d)} {A B : List (ATree d)}
    {child child' : ATree d}
    (hch : m.children = A ++ child :: B) (hch1 : m1.children = A ++ child' :: B) (hid : m1.hdr.id = m.hdr.id)
    (hfresh : ∀ id ∈ slabIds d child', id ∉ slabIds d child → h id = none)
    (p1 : HeapPost h h1 child child') (p2 : HeapPost h1 h2 (ofMeta m1) (ofMeta m2)) :
    HeapPost h h2 (ofMeta m) (ofMeta m2) :=
  HeapPost.level hch hch1 hid (fun id h1 h2 _ => hfresh id h1 h2) p1 p2

/-- storing the root again does not change a heap that holds it -/
theorem HeapPost.restore {h : SlabID → Option GSlab} {s2 : HSt} {d0 : Nat} {t : ATree d0} {m2 : MetaSlab (ATree d)}
    (hp : HeapPost h s2.heap t (ofMeta m2)) :
    HeapPost h (s2.store m2.hdr.id (some (.metaSlab (trMeta m2)))).heap t (ofMeta m2) := by
  have e : (s2.store m2.hdr.id (some (.metaSlab (trMeta m2)))).heap = s2.heap := by
    funext id
    simp only [HSt.store_heap]
    split
    · next h' => rw [h']; exact hp.holds.1.symm
    · rfl
  rw [e]; exact hp

end compose

/-- the heap after a step on the children of an index slab (the slab itself is passed by value) -/
structure RemKidsPost (h h' : SlabID → Option GSlab) {d : Nat} (m m' : MetaSlab (ATree d)) : Prop where
  holds : HoldsChildren h' m'
  gone : ∀ id ∈ ATree.slabIds (d + 1) m, id ∉ ATree.slabIds (d + 1) m' → h' id = none
  frame : ∀ id, id ∉ ATree.slabIds (d + 1) m → id ∉ ATree.slabIds (d + 1) m' → h' id = h id

theorem RemKidsPost.heapPost {h h' : SlabID → Option GSlab} {d : Nat} {m m' : MetaSlab (ATree d)}
    (hk : RemKidsPost h h' m m') (hroot : h' m'.hdr.id = some (.metaSlab (trMeta m'))) :
    @HeapPost h h' (d + 1) (d + 1) m m' := ⟨⟨hroot, hk.holds⟩, hk.gone, hk.frame⟩

theorem HeapPost.kids {h h' : SlabID → Option GSlab} {d : Nat} {m m' : MetaSlab (ATree d)}
    (hp : @HeapPost h h' (d + 1) (d + 1) m m') : RemKidsPost h h' m m' := ⟨hp.holds.2, hp.gone, hp.frame⟩

section writes
open ATree MetaSlab
variable {d : Nat}

/-- **a block of adjacent children is replaced.**  The children `P ++ X ++ Q` of `m1` become `P ++ X' ++ Q` (same parent
    identifier); the strict descendants of `X'` are those of `X` (`hsub`, `hbelow`), every root of `X'` is a root of `X`
    or not in the old tree (`hnew`); `h2` stores every slab of `X'` under its identifier, is empty at the roots of `X`
    that are not roots of `X'`, and is `h1` away from the parent and those roots.  Then `h2` holds the children of `m2`.
    Rebalance: `X = [l, r]`, `X' = [l', r']`; merge: `X' = [merged]`; `SplitChildSlab`: `X = [c]`, `X' = [l, r]` with
    one new root; storing the parent: `X = X' = []`. -/
theorem RemKidsPost.of_writes {m1 m2 : MetaSlab (ATree d)} {P Q X X' : List (ATree d)} {h1 h2 : SlabID → Option GSlab}
    (hch : m1.children = P ++ X ++ Q) (hch2 : m2.children = P ++ X' ++ Q) (hid2 : m2.hdr.id = m1.hdr.id)
    (hnd : (slabIds (d + 1) (ofMeta m1)).Nodup)
    (hsub : ∀ id, id ∈ X'.flatMap (subIds d) ↔ id ∈ X.flatMap (subIds d))
    (hnew : ∀ x' ∈ X', (hdr d x').id ∈ X.map (fun x => (hdr d x).id) ∨ (hdr d x').id ∉ slabIds (d + 1) (ofMeta m1))
    (hbelow : (∀ x ∈ X, InsHoldsBelow h1 d x) → ∀ x' ∈ X', InsHoldsBelow h1 d x')
    (hh : HoldsChildren h1 m1)
    (hstored : ∀ x' ∈ X', h2 (hdr d x').id = some (trTree d x'))
    (hremoved : ∀ x ∈ X, (hdr d x).id ∉ X'.map (fun x' => (hdr d x').id) → h2 (hdr d x).id = none)
    (hkeep : ∀ id, id ≠ m1.hdr.id → id ∉ X.map (fun x => (hdr d x).id) → id ∉ X'.map (fun x' => (hdr d x').id) →
      h2 id = h1 id) :
    RemKidsPost h1 h2 m1 m2 := by
  have Mem1 : ∀ id, id ∈ slabIds (d + 1) (ofMeta m1) ↔
      id = m1.hdr.id ∨ (id ∈ P.flatMap (slabIds d) ∨ id ∈ X.flatMap (slabIds d)) ∨ id ∈ Q.flatMap (slabIds d) := by
    intro id; rw [slabIds_succ, hch]; simp only [List.mem_cons, List.flatMap_append, List.mem_append]
  have Mem2 : ∀ id, id ∈ slabIds (d + 1) (ofMeta m2) ↔
      id = m1.hdr.id ∨ (id ∈ P.flatMap (slabIds d) ∨ id ∈ X'.flatMap (slabIds d)) ∨ id ∈ Q.flatMap (slabIds d) := by
    intro id; rw [slabIds_succ, hch2, hid2]; simp only [List.mem_cons, List.flatMap_append, List.mem_append]
  rw [slabIds_succ, hch] at hnd
  simp only [List.flatMap_append] at hnd
  obtain ⟨nr, hnd⟩ := List.nodup_cons.1 hnd
  simp only [List.mem_append, not_or] at nr
  obtain ⟨nPX, _, dQ⟩ := List.nodup_append.1 hnd
  obtain ⟨_, nX, dPX⟩ := List.nodup_append.1 nPX
  -- outside the written roots the heap is the old one
  have keepOut : ∀ id, id ∈ slabIds (d + 1) (ofMeta m1) → id ≠ m1.hdr.id → id ∉ X.map (fun x => (hdr d x).id) →
      h2 id = h1 id := by
    intro id hin a b
    refine hkeep id a b (fun hc => ?_)
    obtain ⟨x', hx', rfl⟩ := List.mem_map.1 hc
    rcases hnew x' hx' with h | h
    · exact b h
    · exact h hin
  have keepP : ∀ id, id ∈ P.flatMap (slabIds d) → h2 id = h1 id := fun id hid =>
    keepOut id ((Mem1 id).2 (Or.inr (Or.inl (Or.inl hid)))) (fun e => nr.1.1 (e ▸ hid))
      (fun hb => dPX id hid id ((mem_flatMap_slabIds X id).2 (Or.inl hb)) rfl)
  have keepQ : ∀ id, id ∈ Q.flatMap (slabIds d) → h2 id = h1 id := fun id hid =>
    keepOut id ((Mem1 id).2 (Or.inr (Or.inr hid))) (fun e => nr.2 (e ▸ hid))
      (fun hb => dQ id (List.mem_append_right _ ((mem_flatMap_slabIds X id).2 (Or.inl hb))) id hid rfl)
  have keepS : ∀ id, id ∈ X.flatMap (subIds d) → h2 id = h1 id := fun id hid =>
    have hX : id ∈ X.flatMap (slabIds d) := (mem_flatMap_slabIds X id).2 (Or.inr hid)
    keepOut id ((Mem1 id).2 (Or.inr (Or.inl (Or.inr hX)))) (fun e => nr.1.2 (e ▸ hX))
      (fun hb => nodup_roots_subs X nX id hb hid)
  refine ⟨fun c hc => ?_, fun id a b => ?_, fun id a b => ?_⟩
  · rw [hch2] at hc
    simp only [List.mem_append] at hc
    rcases hc with (hc | hc) | hc
    · exact (hh c (hch ▸ List.mem_append_left _ (List.mem_append_left _ hc))).congr
        (fun id hid => keepP id (List.mem_flatMap.2 ⟨c, hc, hid⟩))
    · refine ins_holds_of_root_below d c (hstored c hc)
        ((hbelow (fun x hx => (hh x (hch ▸ List.mem_append_left _ (List.mem_append_right _ hx))).insBelow) c hc).congr
          (fun id hid => keepS id ((hsub id).1 (List.mem_flatMap.2 ⟨c, hc, hid⟩))))
    · exact (hh c (hch ▸ List.mem_append_right _ hc)).congr
        (fun id hid => keepQ id (List.mem_flatMap.2 ⟨c, hc, hid⟩))
  · rcases (Mem1 id).1 a with h | (h | h) | h
    · exact absurd ((Mem2 id).2 (Or.inl h)) b
    · exact absurd ((Mem2 id).2 (Or.inr (Or.inl (Or.inl h)))) b
    · rcases (mem_flatMap_slabIds X id).1 h with h | h
      · obtain ⟨x, hx, rfl⟩ := List.mem_map.1 h
        exact hremoved x hx (fun hc => b ((Mem2 _).2 (Or.inr (Or.inl (Or.inr ((mem_flatMap_slabIds X' _).2 (Or.inl hc)))))))
      · exact absurd ((Mem2 id).2 (Or.inr (Or.inl (Or.inr ((mem_flatMap_slabIds X' id).2 (Or.inr ((hsub id).2 h))))))) b
    · exact absurd ((Mem2 id).2 (Or.inr (Or.inr h))) b
  · refine hkeep id (fun e => a ((Mem1 id).2 (Or.inl e)))
      (fun h => a ((Mem1 id).2 (Or.inr (Or.inl (Or.inr ((mem_flatMap_slabIds X id).2 (Or.inl h)))))))
      (fun h => b ((Mem2 id).2 (Or.inr (Or.inl (Or.inr ((mem_flatMap_slabIds X' id).2 (Or.inl h)))))))

/-- storing the parent on a heap that holds its children -/
theorem heapPost_store_parent {h : SlabID → Option GSlab} (m1 : MetaSlab (ATree d)) (hh : HoldsChildren h m1)
    (hnd : (slabIds (d + 1) (ofMeta m1)).Nodup) (c : Ctx) :
    HeapPost h ((HSt.mk h c).store m1.hdr.id (some (.metaSlab (trMeta m1)))).heap (ofMeta m1) (ofMeta m1) :=
  (RemKidsPost.of_writes (m2 := m1) (P := m1.children) (Q := []) (X := []) (X' := []) (by simp) (by simp) rfl hnd
    (fun _ => Iff.rfl) (fun _ h => nomatch h) (fun _ _ h => nomatch h) hh (fun _ h => nomatch h) (fun _ h => nomatch h)
    (fun id a _ _ => by simp [HSt.store, a])).heapPost (by simp [HSt.store])

end writes

end Atree.TransEq

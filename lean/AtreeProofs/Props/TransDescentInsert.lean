import AtreeProofs.Props.TransDescentLevel
import AtreeProofs.Props.TransSlabsTree
/-
  TRANSLATION EQUIVALENCE, the array descent: `ArrayMetaDataSlab.Insert` / `ArraySlab.Insert` over a heap.

  The generated `ArrayMetaDataSlab_Insert` (Gen/TransSlabs.lean, regenerated from array_metadata_slab.go on every run)
  checks the index, routes it (`index == count`: the last child with its count as adjusted index; else
  `childSlabIndexInfo`), reads the child from the storage, calls `Insert` on it through dynamic dispatch, bumps its own
  count and the cumulative counts from the child's position (`.loop1`, the model's `bumpFrom k (· + 1)`), copies the
  child's header, and then either splits the child (`SplitChildSlab`, if it became full) or stores itself
  (`storeSlab`): the repair step `genTail` (Props/TransDescentLevel.lean) on a child that does not underflow.  On a heap
  that HOLDS a valid model tree (`Holds`, Trans/Descent.lean) it returns the translation of the model's `ATree.insert`
  result, the `Ctx` of the storage is the model's, and the heap satisfies `HeapPost`.  One level is `descent_level`;
  the induction over the depth is `insertDisp_all`.

  `InsSplitTail` (what `SplitChildSlab` over a heap does under `InsTailPre`; `insSplitTail_all`,
  Props/TransDescentInsertFull.lean), `InsNoSplit` (no child on the path becomes full; follows from `InsRoom`, a
  statement about the tree alone) and their disjunction `InsTailHyp` describe the split on the path of one insertion.
  The theorems about the generated code hold without them; the forms that assume `InsTailHyp` follow by dropping it.
-/
namespace Atree.TransEq
open Atree Atree.Gen

/-- the storage after `ArrayDataSlab.Insert` on a heap: `Value.Storable` acts on the `Ctx`, then `storeSlab` writes the
    new slab under its identifier (unless the slab is inlined) -/
def insLeafSt (T : Nat) (s s' : DataSlab) (v : Elem) (st : HSt) : HSt :=
  if s.inlined then st.withCtx (toStorable T s.hdr.id.addr v st.ctx).2
  else (st.withCtx (toStorable T s.hdr.id.addr v st.ctx).2).store s.hdr.id (some (.dataSlab (trData s')))

/-- `ArrayDataSlab.Insert` over the heap environment (`Sl_ArrayDataSlab_Insert_any` at `envH`) -/
theorem Sl_ArrayDataSlab_Insert_envH (T : Nat) (s : DataSlab) (i : Nat) (v : Elem) (st : HSt)
    (hi : i < 2^64) (hlen : s.elems.length < 2^63) (hmax : maxInlineArr T < 2^32) :
    TransSl.ArrayDataSlab_Insert (envH T) (trData s) st s.hdr.id.addr (u64 i) (some v) =
      match s.insert T i v st.ctx with
      | .error e => some (some e, trData s, st)
      | .ok (s', _) => some (none, trData s', insLeafSt T s s' v st) :=
  Sl_ArrayDataSlab_Insert_any (leafEnv_envH T) (storableAs_envH T hmax) s i v st hi hlen

/-! ## the loop `for i := childHeaderIndex; i < len(a.childrenCountSum); i++ { a.childrenCountSum[i]++ }` -/

theorem Sl_Insert_loop1 (T : Nat) : ∀ (n k : Nat) (l : List Nat) (a : GMeta), a.childrenCountSum = l.map u32 →
    n = l.length - k →
    TransSl.ArrayMetaDataSlab_Insert.loop1 (ε := AErr) (S := HSt) (envH T) n (Int.ofNat k) a =
      .done { a with childrenCountSum := (MetaSlab.bumpFrom k (· + 1) l).map u32 }
  | 0, k, l, a, ha, hn => by
    rw [MetaSlab.bumpFrom_ge _ _ _ (by omega), ← ha]
    rfl
  | n + 1, k, l, a, ha, hn => by
    have hk : k < l.length := by omega
    have e1 : (1 : UInt32) = u32 1 := rfl
    have hlt : decide (Int.ofNat k < Int.ofNat (l.map u32).length) = true := by
      simp [hk]
    simp only [TransSl.ArrayMetaDataSlab_Insert.loop1, ha, hlt, if_true, goIdx_map, List.getElem?_eq_getElem hk,
      Option.map_some, e1, u32_add_eq, goSet_map, hk, ofNat_succ']
    rw [Sl_Insert_loop1 T n (k + 1) (l.set k (l[k] + 1)) _ rfl (by simp; omega)]
    rw [MetaSlab.bumpFrom_step k (· + 1) l _ (List.getElem?_eq_getElem hk)]
theorem Sl_Insert_loop1_trMeta (T : Nat) {α : Type} (m : MetaSlab α) (n k : Nat) (hn : n = m.countSum.length - k) :
    TransSl.ArrayMetaDataSlab_Insert.loop1 (ε := AErr) (S := HSt) (envH T) n (Int.ofNat k) (trMeta m) =
      .done (trMeta { m with countSum := MetaSlab.bumpFrom k (· + 1) m.countSum }) :=
  Sl_Insert_loop1 T n k m.countSum (trMeta m) rfl hn

theorem ins_u64_deq {a b : Nat} (ha : a < 2^64) (hb : b < 2^64) : decide (u64 a = u64 b) = decide (a = b) := by
  have : (u64 a = u64 b) = (a = b) := by rw [← UInt64.toNat_inj, u64_toNat ha, u64_toNat hb]
  simp only [this]

/-- the entry of `ArrayMetaDataSlab.Insert`: bounds check and routing (append to the last child if
    `index == count`, else `childSlabIndexInfo`), up to the join point `k1` -/
theorem insert_entry_eq (T d depth : Nat) (m : MetaSlab (ATree d)) (i k adj : Nat) (child : ATree d)
    (s : HSt) (addr : Nat) (v : Elem) (hcnt : m.hdr.count < 2^32) (hle : i ≤ m.hdr.count)
    (hhdrs : m.childHdrs = m.children.map (ATree.hdr d)) (hc : m.children[k]? = some child)
    (hcc : (ATree.hdr d child).count < 2^32)
    (hroute : (i = m.hdr.count ∧ ∃ h, m.childHdrs.getLast? = some h ∧ k = m.childHdrs.length - 1 ∧ adj = h.count) ∨
      (i ≠ m.hdr.count ∧
        Trans.ArrayMetaDataSlab_childSlabIndexInfo (u32 m.hdr.count) (u32s m.countSum) (u32s (countsOf m.childHdrs))
          (u64 i) = some (Int.ofNat k, u64 adj))) :
    TransSl.ArrayMetaDataSlab_Insert (envH T) (depth + 1) (trMeta m) s addr (u64 i) (some v) =
      TransSl.ArrayMetaDataSlab_Insert.k1 (envH T) (trMeta m) s addr (some v)
        (TransSl.ArrayMetaDataSlab_Insert (envH T) depth) (ATree.hdr d child).id (Int.ofNat k) (u64 adj) := by
  have hi : i < 2^64 := by omega
  have hngt : ¬ i > m.hdr.count := by omega
  have hck : m.childHdrs[k]? = some (ATree.hdr d child) := by rw [hhdrs]; simp [hc]
  simp only [TransSl.ArrayMetaDataSlab_Insert, trMeta_header, trHdr_count, u32_toUInt64 hcnt,
    u64_dgt hi (show m.hdr.count < 2^64 by omega), hngt, decide_false, Bool.false_eq_true, if_false,
    ins_u64_deq hi (show m.hdr.count < 2^64 by omega)]
  rcases hroute with ⟨h0, h, hl, hk, hadj⟩ | ⟨h0, hr⟩
  · have hpos : 1 ≤ m.childHdrs.length := by
      cases hm : m.childHdrs with
      | nil => rw [hm] at hl; simp at hl
      | cons a t => simp
    have hidx : Int.ofNat (m.childHdrs.map trHdr).length - 1 = Int.ofNat k := by
      simp only [List.length_map, Int.ofNat_eq_natCast]; omega
    have hh : h = ATree.hdr d child := by
      rw [List.getLast?_eq_getElem?, ← hk, hck] at hl
      cases hl; rfl
    subst hh
    simp only [h0, decide_true, if_true, trMeta_childrenHeaders, hidx, goIdx_map, hck, Option.map_some,
      trHdr_slabID, trHdr_count, u32_toUInt64 hcc, hadj]
  · have e1 := childInfoOf_trMeta_ok m i k adj (some .indexOutOfBounds) hr
    have e2 := childID_of_hdrs m k child hhdrs hc
    simp only [h0, decide_false, Bool.false_eq_true, if_false, envH_childInfo, e1, e2, Option.isSome_none]
theorem insH_IsFull (T : Nat) (d : Nat) (t : ATree d) (hs : (ATree.hdr d t).size < 2^32) (hT : maxThr T < 2^32) :
    TransSl.ArraySlab_IsFull (envH T) (trTree d t) = ATree.isFull T d t :=
  setH_IsFull T d t hs hT

/-- `ArrayMetaDataSlab.Insert` from the join point `k1` on, after a successful child operation: count and cumulative
    counts are bumped, the header copy of the child is overwritten, then the repair step runs (the child has grown,
    so it does not underflow) -/
theorem insert_k1_eq (T d depth : Nat) (m : MetaSlab (ATree d)) (k adj : Nat) (child child' : ATree d)
    (s s1 : HSt) (addr : Nat) (v : Elem) (hk : k < m.childHdrs.length)
    (hroot : s.heap (ATree.hdr d child).id = some (trTree d child))
    (hgen : TransSl.ArraySlab_Insert (envH T) (TransSl.ArrayMetaDataSlab_Insert (envH T) depth) (trTree d child) s addr
      (u64 adj) (some v) = some (none, trTree d child', s1))
    (hsz : (ATree.hdr d child').size < 2^32) (hT : legalThreshold T = true)
    (hnu : minThr T ≤ (ATree.hdr d child').size) :
    TransSl.ArrayMetaDataSlab_Insert.k1 (envH T) (trMeta m) s addr (some v)
        (TransSl.ArrayMetaDataSlab_Insert (envH T) depth) (ATree.hdr d child).id (Int.ofNat k) (u64 adj) =
      genTail (envH T) (trMeta (insM1 m k child')) s1 (trTree d child') (Int.ofNat k) := by
  have TF := thresholds_fit hT
  have hfuel : (Int.ofNat (m.countSum.map u32).length - Int.ofNat k).toNat = m.countSum.length - k := by
    simp only [List.length_map, Int.ofNat_eq_natCast]; omega
  have e1 : (1 : UInt32) = u32 1 := rfl
  simp only [TransSl.ArrayMetaDataSlab_Insert.k1, envH_getArraySlab, hroot, Option.isSome_none, Bool.false_eq_true,
    if_false, hgen, trMeta_childrenCountSum, hfuel]
  rw [Sl_Insert_loop1 T _ k m.countSum _ rfl rfl]
  simp only [trMeta_childrenHeaders, disp_Header_any, goSet_map, hk, if_true]
  have hrec : ({ header := { slabID := (trMeta m).header.slabID, size := (trMeta m).header.size,
                             count := (trMeta m).header.count + 1 },
                 childrenHeaders := List.map trHdr (m.childHdrs.set k (ATree.hdr d child')),
                 childrenCountSum := List.map u32 (MetaSlab.bumpFrom k (fun x => x + 1) m.countSum),
                 extraData := (trMeta m).extraData } : GMeta) = trMeta (insM1 m k child') := by
    simp only [trMeta, trHdr, insM1, wbM1, e1, u32_add_eq]
  rw [hrec, genTail, setH_IsUnderflow T d child' hsz TF.2.1, isUnderflow_none T d child' hnu]
  cases TransSl.ArraySlab_IsFull (envH T) (trTree d child')
  · simp only [Bool.false_eq_true, if_false]
    cases TransSl.storeSlab (envH T) s1 (some (.metaSlab (trMeta (insM1 m k child')))) <;> rfl
  · simp only [if_true]
    cases TransSl.ArrayMetaDataSlab_SplitChildSlab (envH T) (trMeta (insM1 m k child')) s1 (some (trTree d child'))
      (Int.ofNat k) <;> rfl

section descent
open MetaSlab ATree

/-- what is known when the tail of `ArrayMetaDataSlab.Insert` runs on the parent `m1` (bookkeeping updated, the
    updated child `child'` written back at position `k`) over the storage `s1` -/
structure InsTailPre (T d : Nat) (m1 : MetaSlab (ATree d)) (child' : ATree d) (k : Nat) (s1 : HSt) (addr : Nat) :
    Prop where
  kids : ∃ A B, m1.children = A ++ child' :: B ∧ A.length = k ∧ (∀ t ∈ A, TreeInv T d false t) ∧
    (∀ t ∈ B, TreeInv T d false t)
  book : Book m1
  count_eq : m1.hdr.count = sumCounts m1.childHdrs
  count_lt : m1.hdr.count < 2^32
  holds : HoldsChildren s1.heap m1
  ids : IdsOk addr s1.ctx.ctr (slabIds (d + 1) (ofMeta m1))
  shape : Shape T d false child'
  full : maxThr T < (hdr d child').size
  size_le : (hdr d child').size ≤ maxThr T + maxInlineArr T

/-- the repair step of `Insert` as a statement per depth (it holds: `insSplitTail_all`, Props/TransDescentInsertFull.lean):
    when the updated child is full, the generated
    `SplitChildSlab` on the translated parent returns the model's `splitChildSlab` result; the heap after it holds the
    new parent and its children, the identifiers of the parent's tree are kept, everything else is untouched -/
def InsSplitTail (T d : Nat) : Prop :=
  ∀ (m1 : MetaSlab (ATree d)) (child' : ATree d) (k : Nat) (s1 : HSt) (addr : Nat) (m2 : MetaSlab (ATree d))
    (c2 : Ctx), InsTailPre T d m1 child' k s1 addr → m1.splitChildSlab child' k s1.ctx = .ok (m2, c2) →
    ∃ s2 out, TransSl.ArrayMetaDataSlab_SplitChildSlab (envH T) (trMeta m1) s1 (some (trTree d child'))
        (Int.ofNat k) = some (none, trMeta m2, s2, out) ∧ s2.ctx = c2 ∧
      HeapPost s1.heap s2.heap (ofMeta m1) (ofMeta m2) ∧
      ∀ id ∈ slabIds (d + 1) (ofMeta m1), id ∈ slabIds (d + 1) (ofMeta m2)

/-- no child on the path of the insertion becomes full (path predicate, in terms of the model) -/
def InsNoSplit (T : Nat) : (d : Nat) → ATree d → Nat → Elem → Ctx → Prop
  | 0, _, _, _, _ => True
  | d + 1, (m : MetaSlab (ATree d)), i, v, c =>
    ∀ k adj child child' c1, m.children[k]? = some child →
      ((i = m.hdr.count ∧ ∃ h, m.childHdrs.getLast? = some h ∧ k = m.childHdrs.length - 1 ∧ adj = h.count) ∨
        (i ≠ m.hdr.count ∧ m.childSlabIndexInfo i = .ok (k, adj))) →
      ATree.insert T d child adj v c = .ok (child', c1) →
      InsNoSplit T d child adj v c ∧ ATree.isFull T d child' = false

/-- either the tail hypothesis at every level below `d`, or no split on the path -/
def InsTailHyp (T d : Nat) (t : ATree d) (i : Nat) (v : Elem) (c : Ctx) : Prop :=
  (∀ d', d' < d → InsSplitTail T d') ∨ InsNoSplit T d t i v c

/-- the statement for the dispatcher at depth `d` (in-range index) -/
def InsertDisp (T d : Nat) : Prop :=
  ∀ (t : ATree d) (top : Bool) (i : Nat) (v : Elem) (s : HSt) (depth addr : Nat), d ≤ depth →
    TreeInv T d top t → NotInl d t → ValueOk v → IdsOk addr s.ctx.ctr (slabIds d t) → Holds s.heap d t →
    (hdr d t).count + 1 < 2^32 → i ≤ (flatten d t).length →
    ∃ t' c' s', ATree.insert T d t i v s.ctx = .ok (t', c') ∧
      TransSl.ArraySlab_Insert (envH T) (TransSl.ArrayMetaDataSlab_Insert (envH T) depth) (trTree d t) s addr
        (u64 i) (some v) = some (none, trTree d t', s') ∧
      s'.ctx = c' ∧ HeapPost s.heap s'.heap t t'

/-- the statement for an index slab whose children have depth `d` (in-range index) -/
def InsertMeta (T d : Nat) : Prop :=
  ∀ (m : MetaSlab (ATree d)) (top : Bool) (i : Nat) (v : Elem) (s : HSt) (depth addr : Nat), d ≤ depth →
    TreeInv T (d + 1) top (ofMeta m) → ValueOk v → IdsOk addr s.ctx.ctr (slabIds (d + 1) (ofMeta m)) →
    HoldsChildren s.heap m → m.hdr.count + 1 < 2^32 → i ≤ (flatten (d + 1) (ofMeta m)).length →
    ∃ m2 c' s', ATree.insert T (d + 1) (ofMeta m) i v s.ctx = .ok (ofMeta m2, c') ∧
      TransSl.ArrayMetaDataSlab_Insert (envH T) (depth + 1) (trMeta m) s addr (u64 i) (some v) =
        some (none, trMeta m2, s') ∧
      s'.ctx = c' ∧ HeapPost s.heap s'.heap (ofMeta m) (ofMeta m2)

theorem insertDisp_zero (T : Nat) (hT : legalThreshold T = true) : InsertDisp T 0 := by
  intro t top i v s depth addr _ hinv hni hv hids hh hcnt hi
  revert hinv hni hids hh hcnt hi
  refine forall_ofData ?_ t
  intro t hinv hni hids hh hcnt hi
  have hinv' : DataInv T top t := (treeInv_zero T top t).1 hinv
  have hni' : t.inlined = false := hni
  have hlenc := hinv'.count_eq
  have hcnt' : t.hdr.count + 1 < 2^32 := hcnt
  have hi' : i ≤ t.elems.length := hi
  have haddr : t.hdr.id.addr = addr := (hids.2 t.hdr.id (by simp)).1
  have F := thrFacts hT
  have hmax : maxInlineArr T < 2^32 := by rw [F.inlE]; have := F.hi; omega
  have hgen := Sl_ArrayDataSlab_Insert_envH T t i v s (by omega) (by omega) hmax
  rw [haddr] at hgen
  obtain ⟨s', c', hins, _, _, hid, _⟩ :=
    DataSlab.insert_spec T hT top t i v s.ctx ((shape_zero T top t).1 (hinv.shape hni)) hv hi'
  rw [hins] at hgen
  obtain ⟨_, hinl, hc'⟩ := DataSlab.insert_inPlace hins
  obtain ⟨hctx, hp⟩ := leafStored_envH T (s.withCtx (toStorable T t.hdr.id.addr v s.ctx).2) hni' hid hinl
  refine ⟨ofData s', c', insLeafSt T t s' v s, hins, ?_, hctx.trans hc'.symm, hp⟩
  show TransSl.ArraySlab_Insert (envH T) _ (.dataSlab (trData t)) s addr (u64 i) (some v) = _
  simp only [TransSl.ArraySlab_Insert, hgen]
  rfl

theorem insertMeta_of_disp (T d : Nat) (hT : legalThreshold T = true) (ih : InsertDisp T d) : InsertMeta T d := by
  intro m top i v s depth addr hd hinv hv hids hh hcnt hi
  obtain ⟨hs, _, _, _⟩ := (treeInv_succ T d top m).1 hinv
  simp only [flatten_succ, ← hs.flat_length] at hi
  obtain ⟨A, child, B, adj, hch, hroute, _, hadj, hget⟩ := route_insert hT hs (two_kids hT hinv) i hi
  have hcmem : child ∈ m.children := by rw [hch]; simp
  have hc : TreeInv T d false child := hs.kids_inv child hcmem
  have hcc : (hdr d child).count ≤ m.hdr.count := by
    rw [hs.count_eq, hs.hdrs_eq]; exact count_le_sumCounts _ _ hcmem
  have hcntm : m.hdr.count < 2^32 := Nat.lt_of_succ_lt hcnt
  -- the child: model, then generated code
  obtain ⟨child', c1, hins0, hstep, _, hcnt', hsz1, hsz2⟩ :=
    insert_gen hT d child false adj v s.ctx hc hc.notInl_of_false hv hadj
  obtain ⟨_, _, s1, hins, hgen, rfl, hp1⟩ := ih child false adj v s depth addr hd hc hc.notInl_of_false hv
    (ids_child hch hids) (hh child hcmem) (Nat.lt_of_le_of_lt (Nat.succ_le_succ hcc) hcnt) hadj
  rw [hins0] at hins
  simp only [Except.ok.injEq, Prod.mk.injEq] at hins
  obtain ⟨rfl, rfl⟩ := hins
  -- the level
  obtain ⟨hch1, hbook1, hcount1⟩ := written_back (f := (· + 1)) hs hch hcnt'
    (fun x y _ => Nat.add_right_comm x y 1)
  have hge : minThr T ≤ (hdr d child').size := Nat.le_trans hc.ge_min hsz1
  obtain ⟨m2, c2, s2, haft, hg, hc2, hp, _, _⟩ := descent_level (m1 := insM1 m A.length child') hT hinv hch hh hids
    (fun _ _ _ => Or.inr hge) hstep hp1 hsz2 (Nat.le_trans hsz1 (Nat.le_add_right _ _)) (fun _ => Nat.le_trans hsz1 (Nat.le_add_right _ _))
    hch1 rfl rfl rfl hbook1 hcount1 hcnt
  rw [afterSet_of_ge _ _ _ _ hge] at haft
  refine ⟨m2, c2, s2, insert_succ_ok m m2 i A.length adj v s.ctx s1.ctx c2 child child' (Nat.not_lt.2 hi) hroute hget
    hins0 haft, ?_, hc2, hp⟩
  -- the generated code: entry, `k1`, tail
  have hgroute : (i = m.hdr.count ∧ ∃ h, m.childHdrs.getLast? = some h ∧ A.length = m.childHdrs.length - 1 ∧
        adj = h.count) ∨
      (i ≠ m.hdr.count ∧
        Trans.ArrayMetaDataSlab_childSlabIndexInfo (u32 m.hdr.count) (u32s m.countSum) (u32s (countsOf m.childHdrs))
          (u64 i) = some (Int.ofNat A.length, u64 adj)) := by
    rcases hroute with h | ⟨h0, h1⟩
    · exact Or.inl h
    · obtain ⟨k', adj', hres', htr⟩ := safe_childSlabIndexInfo m hs.book hs.count_eq
        (fun t ht => (hs.kids_inv t ht).count_pos hT) hcntm i (Nat.lt_of_le_of_ne hi h0)
      rw [h1] at hres'
      simp only [Except.ok.injEq, Prod.mk.injEq] at hres'
      obtain ⟨rfl, rfl⟩ := hres'
      exact Or.inr ⟨h0, htr⟩
  rw [insert_entry_eq T d depth m i A.length adj child s addr v hcntm hi hs.hdrs_eq hget
      (Nat.lt_of_le_of_lt hcc hcntm) hgroute,
    insert_k1_eq T d depth m A.length adj child child' s s1 addr v (by rw [hs.hdrs_eq, hch]; simp)
      (hh child hcmem).root hgen
      (size_lt_u32 hT (Nat.le_trans hsz2 (Nat.add_le_add_right hc.le_max _))) hT hge, hg]

theorem insertDisp_succ (T d : Nat) (ih : InsertMeta T d) : InsertDisp T (d + 1) := by
  intro t top i v s depth addr hd hinv _ hv hids hh hcnt hi
  obtain ⟨depth, rfl⟩ : ∃ n, depth = n + 1 := ⟨depth - 1, by omega⟩
  obtain ⟨m2, c', s', h1, h2, h3, h4⟩ := ih t top i v s depth addr (by omega) hinv hv hids hh.2 hcnt hi
  refine ⟨ofMeta m2, c', s', h1, ?_, h3, h4⟩
  show TransSl.ArraySlab_Insert (envH T) _ (.metaSlab (trMeta t)) s addr (u64 i) (some v) = _
  simp only [TransSl.ArraySlab_Insert, h2]
  rfl

theorem insertDisp_all (T : Nat) (hT : legalThreshold T = true) : ∀ d, InsertDisp T d
  | 0 => insertDisp_zero T hT
  | d + 1 => insertDisp_succ T d (insertMeta_of_disp T d hT (insertDisp_all T hT d))

end descent

section final
open MetaSlab ATree

/-- the bounds checks at the entry of `ArrayDataSlab.Insert` / `ArrayMetaDataSlab.Insert` (stated for a variable
    record: unfolding the generated functions on a translated slab is much dearer) -/
theorem dataInsert_oob {σ υ ξ ε S Φ : Type} (env : TransSl.Env σ υ ξ ε S Φ) (a : TransSl.ArrayDataSlab σ ξ) (s : S)
    (addr : Nat) (i : UInt64) (v : Option υ)
    (h : decide (i > UInt64.ofInt (Int.ofNat a.elements.length)) = true) :
    TransSl.ArrayDataSlab_Insert env a s addr i v =
      some (env.NewIndexOutOfBoundsError i 0 (UInt64.ofInt (Int.ofNat a.elements.length)), a, s) := by
  unfold TransSl.ArrayDataSlab_Insert
  exact if_pos h

theorem metaInsert_oob {σ υ ξ ε S Φ : Type} (env : TransSl.Env σ υ ξ ε S Φ) (depth : Nat)
    (a : TransSl.ArrayMetaDataSlab ξ) (s : S) (addr : Nat) (i : UInt64) (v : Option υ)
    (h : decide (i > a.header.count.toUInt64) = true) :
    TransSl.ArrayMetaDataSlab_Insert env (depth + 1) a s addr i v =
      some (env.NewIndexOutOfBoundsError i 0 a.header.count.toUInt64, a, s) := by
  unfold TransSl.ArrayMetaDataSlab_Insert
  exact if_pos h

/-- an index past the end: `IndexOutOfBoundsError`, nothing is touched (the check is made by the slab the call enters) -/
theorem Sl_ArraySlab_Insert_heap_oob (T : Nat) (d : Nat) (top : Bool) (t : ATree d) (i : Nat) (v : Elem) (s : HSt)
    (depth addr : Nat) (hd : d ≤ depth) (hinv : TreeInv T d top t) (hni : NotInl d t)
    (hids : IdsOk addr s.ctx.ctr (slabIds d t)) (hcnt : (hdr d t).count < 2^32) (hi : i < 2^64)
    (hgt : (flatten d t).length < i) :
    TransSl.ArraySlab_Insert (envH T) (TransSl.ArrayMetaDataSlab_Insert (envH T) depth) (trTree d t) s addr (u64 i)
      (some v) = some (some .indexOutOfBounds, trTree d t, s) := by
  have hlen := Shape.count_eq_length (hinv.shape hni)
  cases d with
  | zero =>
    revert hinv hni hids hcnt hgt hlen
    refine forall_ofData ?_ t
    intro t _ _ hids hcnt hgt hlen
    simp only [hdr_zero, flatten_zero] at hcnt hgt hlen
    have haddr : t.hdr.id.addr = addr := (hids.2 t.hdr.id (by simp)).1
    show TransSl.ArraySlab_Insert (envH T) _ (.dataSlab (trData t)) s addr (u64 i) (some v) = _
    have hlt : t.elems.length < 2^64 := by omega
    simp only [TransSl.ArraySlab_Insert, dataInsert_oob (envH T) (trData t) s addr (u64 i) (some v) (by
      rw [trData_elements, List.length_map, u64_ofInt, u64_dgt hi hlt]; exact decide_eq_true hgt)]
    rfl
  | succ d =>
    obtain ⟨depth, rfl⟩ : ∃ n, depth = n + 1 := ⟨depth - 1, by omega⟩
    revert hinv hni hids hcnt hgt hlen
    refine forall_ofMeta ?_ t
    intro m _ _ _ hcnt hgt hlen
    simp only [hdr_succ] at hcnt hlen
    rw [← hlen] at hgt
    show TransSl.ArraySlab_Insert (envH T) _ (.metaSlab (trMeta m)) s addr (u64 i) (some v) = _
    have hlt : m.hdr.count < 2^64 := by omega
    simp only [TransSl.ArraySlab_Insert, metaInsert_oob (envH T) depth (trMeta m) s addr (u64 i) (some v) (by
      rw [trMeta_header, trHdr_count, u32_toUInt64 hcnt, u64_dgt hi hlt]; exact decide_eq_true hgt)]
    rfl

/-- **`ArraySlab.Insert` over a heap**, with no hypothesis about the tail: on a heap that holds a valid tree, with a
    depth argument that covers the tree, the generated code returns the translation of the model's `ATree.insert`
    result (children that become full are split), the `Ctx` component of the storage is the model's, and the heap holds
    the new tree with everything outside the old and the new tree untouched; past the end it reports
    `IndexOutOfBoundsError` and touches nothing. -/
theorem Sl_ArraySlab_Insert_heap_full (T : Nat) (hT : legalThreshold T = true) (d : Nat) (top : Bool) (t : ATree d)
    (i : Nat) (v : Elem) (s : HSt) (depth addr : Nat) (hd : d ≤ depth) (hinv : TreeInv T d top t) (hni : NotInl d t)
    (hv : ValueOk v) (hids : IdsOk addr s.ctx.ctr (slabIds d t)) (hh : Holds s.heap d t)
    (hcnt : (hdr d t).count + 1 < 2^32) (hi : i < 2^64) :
    match ATree.insert T d t i v s.ctx with
    | .ok (t', c') => ∃ s',
        TransSl.ArraySlab_Insert (envH T) (TransSl.ArrayMetaDataSlab_Insert (envH T) depth) (trTree d t) s addr
          (u64 i) (some v) = some (none, trTree d t', s') ∧
        s'.ctx = c' ∧ HeapPost s.heap s'.heap t t'
    | .error .indexOutOfBounds =>
        TransSl.ArraySlab_Insert (envH T) (TransSl.ArrayMetaDataSlab_Insert (envH T) depth) (trTree d t) s addr
          (u64 i) (some v) = some (some .indexOutOfBounds, trTree d t, s)
    | .error _ => True := by
  by_cases hle : i ≤ (flatten d t).length
  · obtain ⟨t', c', s', h1, h2, h3, h4⟩ :=
      insertDisp_all T hT d t top i v s depth addr hd hinv hni hv hids hh hcnt hle
    rw [h1]
    exact ⟨s', h2, h3, h4⟩
  · rw [insert_err_gen d t top i v s.ctx (hinv.shape hni) (by omega)]
    exact Sl_ArraySlab_Insert_heap_oob T d top t i v s depth addr hd hinv hni hids (by omega) hi (by omega)

/-- the in-range case as an existential (the model's insertion succeeds) -/
theorem Sl_ArraySlab_Insert_heap_full_ok (T : Nat) (hT : legalThreshold T = true) (d : Nat) (top : Bool) (t : ATree d)
    (i : Nat) (v : Elem) (s : HSt) (depth addr : Nat) (hd : d ≤ depth) (hinv : TreeInv T d top t) (hni : NotInl d t)
    (hv : ValueOk v) (hids : IdsOk addr s.ctx.ctr (slabIds d t)) (hh : Holds s.heap d t)
    (hcnt : (hdr d t).count + 1 < 2^32) (hi : i ≤ (flatten d t).length) :
    ∃ t' c' s', ATree.insert T d t i v s.ctx = .ok (t', c') ∧
      TransSl.ArraySlab_Insert (envH T) (TransSl.ArrayMetaDataSlab_Insert (envH T) depth) (trTree d t) s addr
        (u64 i) (some v) = some (none, trTree d t', s') ∧
      s'.ctx = c' ∧ HeapPost s.heap s'.heap t t' :=
  insertDisp_all T hT d t top i v s depth addr hd hinv hni hv hids hh hcnt hi

/-- **`ArrayMetaDataSlab.Insert` over a heap**, with no hypothesis about the tail: the receiver is the translation of
    a model index slab (passed by value), its children are held by the heap; depth argument `depth + 1` for children of
    depth `d ≤ depth`; in-range index (`i ≤ count`). -/
theorem Sl_ArrayMetaDataSlab_Insert_heap_full (T : Nat) (hT : legalThreshold T = true) (d : Nat) (top : Bool)
    (m : MetaSlab (ATree d)) (i : Nat) (v : Elem) (s : HSt) (depth addr : Nat) (hd : d ≤ depth)
    (hinv : TreeInv T (d + 1) top (ofMeta m)) (hv : ValueOk v)
    (hids : IdsOk addr s.ctx.ctr (slabIds (d + 1) (ofMeta m))) (hh : HoldsChildren s.heap m)
    (hcnt : m.hdr.count + 1 < 2^32) (hi : i ≤ m.hdr.count) :
    ∃ m2 c' s', ATree.insert T (d + 1) (ofMeta m) i v s.ctx = .ok (ofMeta m2, c') ∧
      TransSl.ArrayMetaDataSlab_Insert (envH T) (depth + 1) (trMeta m) s addr (u64 i) (some v) =
        some (none, trMeta m2, s') ∧
      s'.ctx = c' ∧ HeapPost s.heap s'.heap (ofMeta m) (ofMeta m2) := by
  have hlen := Shape.count_eq_length (hinv.shape trivial)
  exact insertMeta_of_disp T d hT (insertDisp_all T hT d) m top i v s depth addr hd hinv hv hids hh hcnt
    (by rw [← hlen]; exact hi)

/-- `Sl_ArraySlab_Insert_heap_full` under a hypothesis it does not need (`InsTailHyp`: the repair step as a
    statement per depth, or no child on the path becomes full) -/
theorem Sl_ArraySlab_Insert_heap (T : Nat) (hT : legalThreshold T = true) (d : Nat) (top : Bool) (t : ATree d)
    (i : Nat) (v : Elem) (s : HSt) (depth addr : Nat) (hd : d ≤ depth) (hinv : TreeInv T d top t) (hni : NotInl d t)
    (hv : ValueOk v) (hids : IdsOk addr s.ctx.ctr (slabIds d t)) (hh : Holds s.heap d t)
    (hcnt : (hdr d t).count + 1 < 2^32) (hi : i < 2^64) (htl : InsTailHyp T d t i v s.ctx) :
    match ATree.insert T d t i v s.ctx with
    | .ok (t', c') => ∃ s',
        TransSl.ArraySlab_Insert (envH T) (TransSl.ArrayMetaDataSlab_Insert (envH T) depth) (trTree d t) s addr
          (u64 i) (some v) = some (none, trTree d t', s') ∧
        s'.ctx = c' ∧ HeapPost s.heap s'.heap t t'
    | .error .indexOutOfBounds =>
        TransSl.ArraySlab_Insert (envH T) (TransSl.ArrayMetaDataSlab_Insert (envH T) depth) (trTree d t) s addr
          (u64 i) (some v) = some (some .indexOutOfBounds, trTree d t, s)
    | .error _ => True :=
  Sl_ArraySlab_Insert_heap_full T hT d top t i v s depth addr hd hinv hni hv hids hh hcnt hi

/-- `Sl_ArrayMetaDataSlab_Insert_heap_full` under a hypothesis it does not need (`InsTailHyp`) -/
theorem Sl_ArrayMetaDataSlab_Insert_heap (T : Nat) (hT : legalThreshold T = true) (d : Nat) (top : Bool)
    (m : MetaSlab (ATree d)) (i : Nat) (v : Elem) (s : HSt) (depth addr : Nat) (hd : d ≤ depth)
    (hinv : TreeInv T (d + 1) top (ofMeta m)) (hv : ValueOk v)
    (hids : IdsOk addr s.ctx.ctr (slabIds (d + 1) (ofMeta m))) (hh : HoldsChildren s.heap m)
    (hcnt : m.hdr.count + 1 < 2^32) (hi : i ≤ m.hdr.count) (htl : InsTailHyp T (d + 1) (ofMeta m) i v s.ctx) :
    ∃ m2 c' s', ATree.insert T (d + 1) (ofMeta m) i v s.ctx = .ok (ofMeta m2, c') ∧
      TransSl.ArrayMetaDataSlab_Insert (envH T) (depth + 1) (trMeta m) s addr (u64 i) (some v) =
        some (none, trMeta m2, s') ∧
      s'.ctx = c' ∧ HeapPost s.heap s'.heap (ofMeta m) (ofMeta m2) :=
  Sl_ArrayMetaDataSlab_Insert_heap_full T hT d top m i v s depth addr hd hinv hv hids hh hcnt hi

/-- `Sl_ArraySlab_Insert_heap_full_ok` under a hypothesis it does not need (`InsNoSplit`: no child on the path becomes
    full) -/
theorem Sl_ArraySlab_Insert_heap_noSplit (T : Nat) (hT : legalThreshold T = true) (d : Nat) (top : Bool) (t : ATree d)
    (i : Nat) (v : Elem) (s : HSt) (depth addr : Nat) (hd : d ≤ depth) (hinv : TreeInv T d top t) (hni : NotInl d t)
    (hv : ValueOk v) (hids : IdsOk addr s.ctx.ctr (slabIds d t)) (hh : Holds s.heap d t)
    (hcnt : (hdr d t).count + 1 < 2^32) (hi : i ≤ (flatten d t).length) (hns : InsNoSplit T d t i v s.ctx) :
    ∃ t' c' s', ATree.insert T d t i v s.ctx = .ok (t', c') ∧
      TransSl.ArraySlab_Insert (envH T) (TransSl.ArrayMetaDataSlab_Insert (envH T) depth) (trTree d t) s addr
        (u64 i) (some v) = some (none, trTree d t', s') ∧
      s'.ctx = c' ∧ HeapPost s.heap s'.heap t t' :=
  Sl_ArraySlab_Insert_heap_full_ok T hT d top t i v s depth addr hd hinv hni hv hids hh hcnt hi

/-- a root data slab: `Sl_ArraySlab_Insert_heap_full_ok` at depth 0 -/
theorem Sl_ArraySlab_Insert_heap_data (T : Nat) (hT : legalThreshold T = true) (top : Bool) (t : DataSlab)
    (i : Nat) (v : Elem) (s : HSt) (depth addr : Nat) (hinv : DataInv T top t) (hni : t.inlined = false)
    (hv : ValueOk v) (hids : IdsOk addr s.ctx.ctr [t.hdr.id]) (hh : s.heap t.hdr.id = some (.dataSlab (trData t)))
    (hcnt : t.hdr.count + 1 < 2^32) (hi : i ≤ t.elems.length) :
    ∃ t' c' s', t.insert T i v s.ctx = .ok (t', c') ∧
      TransSl.ArraySlab_Insert (envH T) (TransSl.ArrayMetaDataSlab_Insert (envH T) depth) (.dataSlab (trData t)) s
        addr (u64 i) (some v) = some (none, .dataSlab (trData t'), s') ∧
      s'.ctx = c' ∧ HeapPost s.heap s'.heap (ofData t) (ofData t') :=
  insertDisp_all T hT 0 (ofData t) top i v s depth addr (Nat.zero_le _) ((treeInv_zero T top t).2 hinv) hni hv hids hh
    hcnt hi

/-- the depth argument is exhausted (the tree is deeper): the generated code leaves the modelled fragment -/
theorem Sl_ArrayMetaDataSlab_Insert_depth0 (T : Nat) (a : GMeta) (s : HSt) (addr : Nat) (i : UInt64) (v : Option Elem) :
    TransSl.ArrayMetaDataSlab_Insert (envH T) 0 a s addr i v = none := rfl

end final

/-! ## a concrete sufficient condition for "no split", and non-vacuity -/

section room
open MetaSlab ATree

/-- every slab strictly below the root has room for one more element (resp. one more child header) -/
def InsRoom (T : Nat) : (d : Nat) → ATree d → Prop
  | 0, _ => True
  | d + 1, (m : MetaSlab (ATree d)) =>
    ∀ c ∈ m.children, (hdr d c).size + maxInlineArr T ≤ maxThr T ∧ InsRoom T d c

theorem InsNoSplit.of_room {T : Nat} (hT : legalThreshold T = true) : ∀ (d : Nat) (t : ATree d) (top : Bool) (i : Nat)
    (v : Elem) (c : Ctx), TreeInv T d top t → ValueOk v → InsRoom T d t → InsNoSplit T d t i v c
  | 0, _, _, _, _, _, _, _, _ => trivial
  | d + 1, t, top, i, v, c, hinv, hv, hroom => by
    revert hinv hroom
    refine forall_ofMeta ?_ t
    intro m hinv hroom
    obtain ⟨hs, _, _, _⟩ := (treeInv_succ T d top m).1 hinv
    intro k adj child child' c1 hget _ hins
    have hcmem : child ∈ m.children := List.mem_of_getElem? hget
    have hc : TreeInv T d false child := hs.kids_inv child hcmem
    obtain ⟨hr1, hr2⟩ := hroom child hcmem
    have hadj : adj ≤ (flatten d child).length := by
      rcases Nat.lt_or_ge (flatten d child).length adj with h | h
      · rw [insert_err_gen d child false adj v c hc.shape_false h] at hins; cases hins
      · exact h
    obtain ⟨child'', c1', hins', _, _, _, _, hsz2⟩ :=
      insert_gen hT d child false adj v c hc hc.notInl_of_false hv hadj
    rw [hins] at hins'
    simp only [Except.ok.injEq, Prod.mk.injEq] at hins'
    obtain ⟨rfl, rfl⟩ := hins'
    refine ⟨InsNoSplit.of_room hT d child false adj v c hc hv hr2, ?_⟩
    cases hf : ATree.isFull T d child' with
    | false => rfl
    | true =>
      have := (isFull_iff T d child').1 hf
      omega

/-- `Sl_ArraySlab_Insert_heap_full_ok` under a hypothesis it does not need (`InsRoom`: every slab below the root has
    room for one more element) -/
theorem Sl_ArraySlab_Insert_heap_room (T : Nat) (hT : legalThreshold T = true) (d : Nat) (top : Bool) (t : ATree d)
    (i : Nat) (v : Elem) (s : HSt) (depth addr : Nat) (hd : d ≤ depth) (hinv : TreeInv T d top t) (hni : NotInl d t)
    (hv : ValueOk v) (hids : IdsOk addr s.ctx.ctr (slabIds d t)) (hh : Holds s.heap d t)
    (hcnt : (hdr d t).count + 1 < 2^32) (hi : i ≤ (flatten d t).length) (hroom : InsRoom T d t) :
    ∃ t' c' s', ATree.insert T d t i v s.ctx = .ok (t', c') ∧
      TransSl.ArraySlab_Insert (envH T) (TransSl.ArrayMetaDataSlab_Insert (envH T) depth) (trTree d t) s addr
        (u64 i) (some v) = some (none, trTree d t', s') ∧
      s'.ctx = c' ∧ HeapPost s.heap s'.heap t t' :=
  Sl_ArraySlab_Insert_heap_full_ok T hT d top t i v s depth addr hd hinv hni hv hids hh hcnt hi

end room

/-- non-vacuity: the index slab `exMeta` (Props/TransSafe.lean: two leaves of four 50-byte elements, T = 256) over a
    heap that holds its leaves; inserting a 50-byte element at index 5 is routed to the second leaf (adjusted index
    1), the leaf grows to 271 bytes / 5 elements and is stored, the parent's count, cumulative counts and header copy
    are updated and the parent is stored -/
def exInsHeap : HSt :=
  ⟨fun id => if id = ⟨1, 2⟩ then some (.dataSlab (trData (exSlab 2)))
     else if id = ⟨1, 3⟩ then some (.dataSlab (trData (exSlab 3))) else none, ⟨3, [], []⟩⟩

example : (TransSl.ArrayMetaDataSlab_Insert (envH 256) 1 (trMeta exMeta) exInsHeap 1 (u64 5)
      (some ⟨50, .val 9⟩)).map
      (fun r => (r.1, r.2.1.header.count, r.2.1.childrenCountSum, r.2.1.childrenHeaders.map (·.size), r.2.2.ctx.eff,
        (r.2.2.heap ⟨1, 3⟩).map (fun x => ((TransSl.ArraySlab_Header (envH 256) x).size,
          (TransSl.ArraySlab_Header (envH 256) x).count)))) =
    some (none, 9, [4, 9], [221, 271], [.store ⟨1, 3⟩, .store ⟨1, 1⟩], some (271, 5)) := by
  rfl

/-- appending (`index == count`): routed to the last child with its count as adjusted index -/
example : (TransSl.ArrayMetaDataSlab_Insert (envH 256) 1 (trMeta exMeta) exInsHeap 1 (u64 8)
      (some ⟨50, .val 9⟩)).map (fun r => (r.1, r.2.1.header.count, r.2.1.childrenCountSum, r.2.2.ctx.eff)) =
    some (none, 9, [4, 9], [.store ⟨1, 3⟩, .store ⟨1, 1⟩]) := by
  rfl

/-- past the end: `IndexOutOfBoundsError`, no effect -/
example : (TransSl.ArrayMetaDataSlab_Insert (envH 256) 1 (trMeta exMeta) exInsHeap 1 (u64 9)
      (some ⟨50, .val 9⟩)).map (fun r => (r.1, r.2.1.header.count, r.2.2.ctx.eff)) =
    some (some .indexOutOfBounds, 8, []) := by
  rfl

theorem exIns_inv : TreeInv 256 1 true (ofMeta exMeta) := exMeta_treeInv

/-- the hypotheses of `Sl_ArrayMetaDataSlab_Insert_heap` are satisfiable, with no tail hypothesis (the leaves have
    room: `InsNoSplit.of_room`) -/
example : ∃ m2 c' s', ATree.insert 256 1 (ofMeta exMeta) 5 ⟨50, .val 9⟩ exInsHeap.ctx = .ok (ofMeta m2, c') ∧
    TransSl.ArrayMetaDataSlab_Insert (envH 256) 1 (trMeta exMeta) exInsHeap 1 (u64 5) (some ⟨50, .val 9⟩) =
      some (none, trMeta m2, s') ∧
    s'.ctx = c' ∧ HeapPost exInsHeap.heap s'.heap (ofMeta exMeta) (ofMeta m2) :=
  Sl_ArrayMetaDataSlab_Insert_heap 256 (by decide) 0 true exMeta 5 ⟨50, .val 9⟩ exInsHeap 0 1 (Nat.le_refl _) exIns_inv
    ⟨by decide, 9, rfl⟩
    (by refine ⟨by decide, ?_⟩
        intro id hid
        have h : ATree.slabIds 1 (ofMeta exMeta) = [⟨1, 1⟩, ⟨1, 2⟩, ⟨1, 3⟩] := rfl
        rw [h] at hid
        simp only [List.mem_cons, List.not_mem_nil, or_false] at hid
        rcases hid with rfl | rfl | rfl <;> decide)
    (by intro c hc
        rcases exMeta_children c hc with rfl | rfl <;> rfl)
    (by decide) (by decide)
    (Or.inr (InsNoSplit.of_room (by decide) 1 (ofMeta exMeta) true 5 _ _ exIns_inv ⟨by decide, 9, rfl⟩
      (by intro c hc
          rcases exMeta_children c hc with rfl | rfl <;> exact ⟨by decide, trivial⟩)))

end Atree.TransEq

import AtreeProofs.Props.TransDescentInsert
import AtreeProofs.Props.TransDescentSplit
/-
  TRANSLATION EQUIVALENCE, the array descent: the statement `InsSplitTail T d` of Props/TransDescentInsert.lean holds at
  every depth (`insSplitTail_all`, from `splitTail_sim`, Props/TransDescentSplit.lean), and an instance of
  `Sl_ArrayMetaDataSlab_Insert_heap_full` (Props/TransDescentInsert.lean) on an insertion that DOES split a child.
-/
namespace Atree.TransEq
open Atree Atree.Gen

section tail
open MetaSlab ATree


/-- **the tail hypothesis of the Insert descent holds at every depth**: under `InsTailPre` the generated
    `SplitChildSlab` over the heap returns the model's `splitChildSlab` result, the `Ctx` is the model's, the heap
    satisfies `HeapPost` and no identifier leaves the tree -/
theorem insSplitTail_all (T : Nat) (hT : legalThreshold T = true) : ∀ d, InsSplitTail T d := by
  intro d m1 child' k s1 addr m2 c2 hpre hsp
  obtain ⟨A, B, hch, rfl, _, _⟩ := hpre.kids
  exact splitTail_sim T hT hpre.book hch hpre.shape hpre.full hpre.size_le hpre.ids hpre.holds hsp

end tail

/-! ## non-vacuity: an insertion that DOES split a child -/

section example_split
open MetaSlab ATree

/-- a leaf of 100 + 100 + 100 + 60 bytes (381 with the prefix: one step from full at T = 256, `maxThr = 384`) -/
def insFBig : DataSlab :=
  { hdr := ⟨⟨1, 2⟩, 381, 4⟩, next := ⟨1, 3⟩,
    elems := [⟨100, .val 0⟩, ⟨100, .val 1⟩, ⟨100, .val 2⟩, ⟨60, .val 3⟩], root := false, inlined := false }
def insFSmall : DataSlab :=
  { hdr := ⟨⟨1, 3⟩, 141, 2⟩, next := SlabID.undef,
    elems := [⟨60, .val 10⟩, ⟨60, .val 11⟩], root := false, inlined := false }
/-- a root index slab over the two leaves -/
def insFMeta : MetaSlab (ATree 0) :=
  { hdr := ⟨⟨1, 1⟩, 40, 6⟩, childHdrs := [insFBig.hdr, insFSmall.hdr], countSum := [4, 6],
    children := [insFBig, insFSmall], root := true }
/-- a heap that holds the two leaves, allocation counter 5 -/
def insFHeap : HSt :=
  ⟨fun id => if id = ⟨1, 2⟩ then some (.dataSlab (trData insFBig))
     else if id = ⟨1, 3⟩ then some (.dataSlab (trData insFSmall)) else none, ⟨5, [], []⟩⟩

/-- direct evaluation of the generated code: inserting a 100-byte value at index 1 makes the first leaf 481 bytes, it is
    stored, then split into 221 + 281 bytes (identifier `(1,6)` allocated), both halves and the parent are stored -/
example : (TransSl.ArrayMetaDataSlab_Insert (envH 256) 1 (trMeta insFMeta) insFHeap 1 (u64 1)
      (some ⟨100, .val 99⟩)).map
      (fun r => (r.1, r.2.1.header.count, r.2.1.childrenCountSum,
        r.2.1.childrenHeaders.map (fun h => (h.slabID, h.size, h.count)), r.2.2.ctx.eff, r.2.2.ctx.ctr,
        (r.2.2.heap ⟨1, 6⟩).map (fun x => ((TransSl.ArraySlab_Header (envH 256) x).size,
          (TransSl.ArraySlab_Header (envH 256) x).count)))) =
    some (none, 7, [2, 5, 7], [(⟨1, 2⟩, 221, 2), (⟨1, 6⟩, 281, 3), (⟨1, 3⟩, 141, 2)],
      [.store ⟨1, 2⟩, .alloc 1 ⟨1, 6⟩, .store ⟨1, 2⟩, .store ⟨1, 6⟩, .store ⟨1, 1⟩], 6, some (281, 3)) := by
  rfl

theorem insF_kids (c : ATree 0) (hc : c ∈ insFMeta.children) : c = insFBig ∨ c = insFSmall := by
  have h : insFMeta.children = [insFBig, insFSmall] := rfl
  rw [h] at hc
  rcases List.mem_cons.mp hc with h | h
  · exact Or.inl h
  · exact Or.inr (List.mem_singleton.mp h)

theorem insFBig_inv : DataInv 256 false insFBig :=
  DataSlab.DataInv.of_parts rfl rfl rfl rfl (by unfold ElemOk; decide) (by decide) (by decide)

theorem insFSmall_inv : DataInv 256 false insFSmall :=
  DataSlab.DataInv.of_parts rfl rfl rfl rfl (by unfold ElemOk; decide) (by decide) (by decide)

theorem insF_inv : TreeInv 256 1 true (ofMeta insFMeta) := by
  refine ⟨rfl, rfl, rfl, rfl, rfl, ?_, ?_, by decide, by simp, fun _ => by decide⟩
  · intro c hc
    rcases insF_kids c hc with rfl | rfl
    · exact insFBig_inv
    · exact insFSmall_inv
  · intro c hc
    rcases insF_kids c hc with rfl | rfl <;> rfl

/-- the hypotheses of `Sl_ArrayMetaDataSlab_Insert_heap_full` are satisfiable on an input where the child DOES split:
    the new index slab has three children -/
example : ∃ m2 c' s', ATree.insert 256 1 (ofMeta insFMeta) 1 ⟨100, .val 99⟩ insFHeap.ctx = .ok (ofMeta m2, c') ∧
    TransSl.ArrayMetaDataSlab_Insert (envH 256) 1 (trMeta insFMeta) insFHeap 1 (u64 1) (some ⟨100, .val 99⟩) =
      some (none, trMeta m2, s') ∧
    s'.ctx = c' ∧ HeapPost insFHeap.heap s'.heap (ofMeta insFMeta) (ofMeta m2) ∧ m2.children.length = 3 := by
  obtain ⟨m2, c', s', h1, h2, h3, h4⟩ :=
    Sl_ArrayMetaDataSlab_Insert_heap_full 256 (by decide) 0 true insFMeta 1 ⟨100, .val 99⟩ insFHeap 0 1 (Nat.le_refl _)
      insF_inv ⟨by decide, 99, rfl⟩
      (by refine ⟨by decide, ?_⟩
          intro id hid
          have h : ATree.slabIds 1 (ofMeta insFMeta) = [⟨1, 1⟩, ⟨1, 2⟩, ⟨1, 3⟩] := rfl
          rw [h] at hid
          simp only [List.mem_cons, List.not_mem_nil, or_false] at hid
          rcases hid with rfl | rfl | rfl <;> decide)
      (by intro c hc
          rcases insF_kids c hc with rfl | rfl <;> rfl)
      (by decide) (by decide)
  refine ⟨m2, c', s', h1, h2, h3, h4, ?_⟩
  have hev : (ATree.insert 256 1 (ofMeta insFMeta) 1 ⟨100, .val 99⟩ insFHeap.ctx).toOption.map
      (fun r => (r.1 : MetaSlab (ATree 0)).children.length) = some 3 := by rfl
  rw [h1] at hev
  simp only [Except.toOption, Option.map_some, Option.some.injEq] at hev
  exact hev

end example_split

end Atree.TransEq

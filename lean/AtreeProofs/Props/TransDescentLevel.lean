import AtreeProofs.Props.TransDescentSplit
import AtreeProofs.Props.TransDescentMor
import AtreeProofs.Props.TransDescentRoute
import AtreeProofs.Props.TransSlabsDecide
/-
  TRANSLATION EQUIVALENCE, the array descent: ONE LEVEL of `ArrayMetaDataSlab.Set / Insert / Remove` over a heap.

  The three generated functions route the index, read the child from the storage, run the operation on it through
  dynamic dispatch, update their own bookkeeping, and end in the same repair step: `SplitChildSlab` if the child came
  back full, `MergeOrRebalanceChildSlab` if it underflows, `storeSlab` otherwise (`Insert` and `Remove` reach two of the
  three branches).  The model has this step as `afterSet` and proves one level of all three operations by
  `Atree.descend` (Array/TreeOps.lean).  Here is the same for the generated code: `genTail` names the repair step,
  `tail_sim` says that over the heap it does what `afterSet` does (from `splitTail_sim`, Props/TransDescentSplit.lean,
  and `morTail_sim` / `mor_heapPost`, Props/TransDescentMor.lean), and `descent_level` composes it with the step on the
  child, given by its model summary `StepOk` and its heap summary `HeapPost`.  Nothing in `descent_level` depends on
  which operation ran on the child.  At the bottom of all three is a data slab stored under its own identifier:
  `leafStored_envH`.
-/
namespace Atree.TransEq
open Atree Atree.Gen ATree MetaSlab

theorem setH_IsFull (T d : Nat) (t : ATree d) (hs : (ATree.hdr d t).size < 2^32) (hT : maxThr T < 2^32) :
    TransSl.ArraySlab_IsFull (envH T) (trTree d t) = ATree.isFull T d t := by
  cases d with
  | zero => exact Sl_ArrayDataSlab_IsFull T (fun _ => none) t hs hT
  | succ d => exact Sl_ArrayMetaDataSlab_IsFull T (fun _ => none) (t : MetaSlab (ATree d)) hs hT

theorem setH_IsUnderflow (T d : Nat) (t : ATree d) (hs : (ATree.hdr d t).size < 2^32) (hT : minThr T < 2^32) :
    TransSl.ArraySlab_IsUnderflow (envH T) (trTree d t) =
      (match ATree.isUnderflow T d t with | some n => (u32 n, true) | none => (0, false)) := by
  cases d with
  | zero => exact Sl_ArrayDataSlab_IsUnderflow T (fun _ => none) t hs hT
  | succ d => exact Sl_ArrayMetaDataSlab_IsUnderflow T (fun _ => none) (t : MetaSlab (ATree d)) hs hT

/-- The leaf of the three descents.  `ArrayDataSlab.Set / Insert / Remove` end by storing the new slab under the
    identifier of the old one unless it is inlined (`leafStored`, Props/TransSlabs.lean; identifier and `inlined` flag
    are kept: `DataSlab.*_inPlace`): over the heap the `Ctx` is the model's `storeIfNotInlined` (as over `envA`,
    `leafStored_envA`), and the heap holds the new leaf with nothing else touched. -/
theorem leafStored_envH (T : Nat) {sl sl' : DataSlab} (st : HSt) (hni : sl.inlined = false)
    (hid : sl'.hdr.id = sl.hdr.id) (hinl : sl'.inlined = sl.inlined) :
    (leafStored (envH T) sl sl' st).ctx = sl'.storeIfNotInlined st.ctx ∧
      HeapPost st.heap (leafStored (envH T) sl sl' st).heap (d := 0) (d' := 0) sl sl' := by
  -- a slab that is not inlined is stored: one `Store` of the new slab under the identifier of the old one
  have hst : leafStored (envH T) sl sl' st = st.store sl.hdr.id (some (.dataSlab (trData sl'))) := by
    rw [leafStored, hni]; rfl
  have hheap : ∀ j, (leafStored (envH T) sl sl' st).heap j =
      if j = sl.hdr.id then some (.dataSlab (trData sl')) else st.heap j := fun j => by rw [hst]; rfl
  refine ⟨?_, ?_, ?_, ?_⟩
  · rw [hst, DataSlab.storeIfNotInlined, hinl, hni, hid]; rfl
  · show (leafStored (envH T) sl sl' st).heap sl'.hdr.id = some (.dataSlab (trData sl'))
    rw [hheap, if_pos hid]
  · intro id h1 h2
    have h1 : id = sl.hdr.id := List.mem_singleton.1 h1
    exact absurd (List.mem_singleton.2 (h1.trans hid.symm)) h2
  · intro id h1 _
    have h1 : id ≠ sl.hdr.id := fun h => h1 (List.mem_singleton.2 h)
    rw [hheap, if_neg h1]

section generic
variable {σ υ ξ ε S Φ : Type}

/-- the repair step at the end of `ArrayMetaDataSlab.Set / Insert / Remove`, on the receiver `a`, the child `child` as
    it came back from the operation, and its position `k`: split the child, merge or rebalance it, or store `a` -/
def genTail (env : TransSl.Env σ υ ξ ε S Φ) (a : TransSl.ArrayMetaDataSlab ξ) (s : S) (child : TransSl.ArraySlabV σ ξ)
    (k : Int) : Option (Option ε × TransSl.ArrayMetaDataSlab ξ × S) :=
  if TransSl.ArraySlab_IsFull env child then
    (TransSl.ArrayMetaDataSlab_SplitChildSlab env a s (some child) k).map fun r => (r.1, r.2.1, r.2.2.1)
  else if (TransSl.ArraySlab_IsUnderflow env child).2 then
    (TransSl.ArrayMetaDataSlab_MergeOrRebalanceChildSlab env a s (some child) k
      (TransSl.ArraySlab_IsUnderflow env child).1).map fun r => (r.1, r.2.1, r.2.2.1)
  else (TransSl.storeSlab env s (some (.metaSlab a))).map fun r => (r.1, a, r.2)

/-- the three branches of `genTail` as calls of the function they run -/
theorem genTail_split (env : TransSl.Env σ υ ξ ε S Φ) {a : TransSl.ArrayMetaDataSlab ξ} {s : S}
    {child : TransSl.ArraySlabV σ ξ} {k : Int} {r : Option ε × TransSl.ArrayMetaDataSlab ξ × S}
    (hf : TransSl.ArraySlab_IsFull env child = true) (h : genTail env a s child k = some r) :
    ∃ out, TransSl.ArrayMetaDataSlab_SplitChildSlab env a s (some child) k = some (r.1, r.2.1, r.2.2, out) := by
  rw [genTail, hf] at h
  simp only [if_true, Option.map_eq_some_iff] at h
  obtain ⟨q, hq, rfl⟩ := h
  exact ⟨q.2.2.2, hq⟩

theorem genTail_mor (env : TransSl.Env σ υ ξ ε S Φ) {a : TransSl.ArrayMetaDataSlab ξ} {s : S}
    {child : TransSl.ArraySlabV σ ξ} {k : Int} {r : Option ε × TransSl.ArrayMetaDataSlab ξ × S}
    (hf : TransSl.ArraySlab_IsFull env child = false) (hu : (TransSl.ArraySlab_IsUnderflow env child).2 = true)
    (h : genTail env a s child k = some r) :
    ∃ out, TransSl.ArrayMetaDataSlab_MergeOrRebalanceChildSlab env a s (some child) k
      (TransSl.ArraySlab_IsUnderflow env child).1 = some (r.1, r.2.1, r.2.2, out) := by
  rw [genTail, hf, hu] at h
  simp only [Bool.false_eq_true, if_false, if_true, Option.map_eq_some_iff] at h
  obtain ⟨q, hq, rfl⟩ := h
  exact ⟨q.2.2.2, hq⟩

theorem genTail_store (env : TransSl.Env σ υ ξ ε S Φ) (a : TransSl.ArrayMetaDataSlab ξ) (s : S)
    (child : TransSl.ArraySlabV σ ξ) (k : Int)
    (hf : TransSl.ArraySlab_IsFull env child = false) (hu : (TransSl.ArraySlab_IsUnderflow env child).2 = false) :
    genTail env a s child k = (TransSl.storeSlab env s (some (.metaSlab a))).map fun r => (r.1, a, r.2) := by
  rw [genTail, hf, hu]; rfl
end generic

variable {d : Nat}

/-- what is known when the repair step runs on the parent `m1` (bookkeeping of the operation done, the child `child'`
    written back at position `A.length`) over the storage `s1` after the child operation -/
structure TailPre (T d addr : Nat) (m1 : MetaSlab (ATree d)) (A B : List (ATree d)) (child' : ATree d) (s1 : HSt) :
    Prop where
  kids : m1.children = A ++ child' :: B
  book : Book m1
  left : ∀ t ∈ A, TreeInv T d false t
  right : ∀ t ∈ B, TreeInv T d false t
  shape : Shape T d false child'
  size_hi : (ATree.hdr d child').size ≤ maxThr T + maxInlineArr T
  size_lo : minThr T ≤ (ATree.hdr d child').size + maxInlineArr T
  /-- an index slab shrinks by one child header (`arraySlabHeaderSize` = 14) at a time -/
  size_lo_meta : d ≠ 0 → minThr T ≤ (ATree.hdr d child').size + 14
  two : 2 ≤ m1.children.length
  msize : m1.hdr.size = arrayMetaDataSlabPrefixSize + arraySlabHeaderSize * m1.children.length
  mcount : m1.hdr.count = sumCounts m1.childHdrs
  mcount_lt : m1.hdr.count < 2^32
  ids : IdsOk addr s1.ctx.ctr (ATree.slabIds (d + 1) (ofMeta m1))
  holds : HoldsChildren s1.heap m1

/-- what the merge-or-rebalance branch asks for (`RemTailPre`, Props/TransDescentMor.lean) -/
theorem TailPre.toRem {T addr : Nat} {m1 : MetaSlab (ATree d)} {A B : List (ATree d)} {child' : ATree d} {s1 : HSt}
    (hpre : TailPre T d addr m1 A B child' s1) (hu : (hdr d child').size < minThr T) :
    RemTailPre T m1 A B child' s1 addr :=
  { book := hpre.book, kids := hpre.kids, invA := hpre.left, invB := hpre.right, shape := hpre.shape, under := hu
    lower := hpre.size_lo
    sib := by
      have h2 := hpre.two
      rw [hpre.kids, List.length_append, List.length_cons, ← Nat.add_assoc] at h2
      exact Nat.le_of_succ_le_succ h2
    addr_eq := fun t ht => (hpre.ids.2 (hdr d t).id (by
      rw [slabIds_succ]
      exact List.mem_cons_of_mem _ (List.mem_flatMap.2 ⟨t, ht, by rw [slabIds_eq d t]; exact List.mem_cons_self⟩))).1
    size := hpre.msize, count := hpre.mcount, count_lt := hpre.mcount_lt, holds := hpre.holds, ids := hpre.ids }

/-- **the repair step over the heap simulates `afterSet`**: it returns the translation of the model's new parent, the
    `Ctx` is the model's, the heap satisfies `HeapPost`; no identifier leaves the tree unless the child underflows
    (merge), none is new unless the child is full (split) -/
theorem tail_sim {T addr : Nat} (hT : legalThreshold T = true) {m1 m2 : MetaSlab (ATree d)} {A B : List (ATree d)}
    {child' : ATree d} {s1 : HSt} {c2 : Ctx} (hpre : TailPre T d addr m1 A B child' s1)
    (haft : afterSet T m1 child' A.length s1.ctx = .ok (m2, c2)) :
    ∃ s2, genTail (envH T) (trMeta m1) s1 (trTree d child') (Int.ofNat A.length) = some (none, trMeta m2, s2) ∧
      s2.ctx = c2 ∧ HeapPost s1.heap s2.heap (ofMeta m1) (ofMeta m2) ∧
      (minThr T ≤ (hdr d child').size → ∀ id ∈ slabIds (d + 1) (ofMeta m1), id ∈ slabIds (d + 1) (ofMeta m2)) ∧
      ((hdr d child').size ≤ maxThr T → ∀ id ∈ slabIds (d + 1) (ofMeta m2), id ∈ slabIds (d + 1) (ofMeta m1)) := by
  have TF := thresholds_fit hT
  have hsz : (hdr d child').size < 2^32 := size_lt_u32 hT hpre.size_hi
  -- the model: only a split allocates
  have hnonew : (hdr d child').size ≤ maxThr T →
      ∀ id ∈ slabIds (d + 1) (ofMeta m2), id ∈ slabIds (d + 1) (ofMeta m1) := by
    intro hle id hid
    obtain ⟨m2', c2', haft', htl, hctr, _⟩ := afterSet_spec hT s1.ctx addr hpre.book hpre.kids hpre.left hpre.right
      hpre.shape (Nat.le_trans hpre.size_hi (Nat.le_add_right _ _)) (fun hu => (hpre.toRem hu).sib)
      (fun hu => (hpre.toRem hu).addr_eq)
      (fun _ => by
        rw [hpre.msize]
        exact Nat.le_trans (Nat.le_mul_of_pos_right _ (Nat.lt_of_lt_of_le (by decide) hpre.two)) (Nat.le_add_left _ _))
    rw [haft] at haft'
    simp only [Except.ok.injEq, Prod.mk.injEq] at haft'
    obtain ⟨rfl, rfl⟩ := haft'
    rw [if_neg (Nat.not_lt.2 hle), Nat.add_zero] at hctr
    have hr := (htl.repl.lift htl.id_eq).ids addr (by simpa using hpre.ids)
    rcases hr.2 id (by simpa using hid) with h | h
    · simpa using h
    · have := ((by simpa using hr.1 : IdsOk addr c2.ctr (slabIds (d + 1) (ofMeta m2))).2 id hid).2.2
      omega
  rw [genTail, setH_IsFull T d child' hsz TF.2.2.1, setH_IsUnderflow T d child' hsz TF.2.1]
  by_cases hfull : ATree.isFull T d child' = true
  · rw [afterSet_full _ _ _ _ hfull] at haft
    obtain ⟨s2, out, hg, hc, hp, hsub⟩ := splitTail_sim T hT hpre.book hpre.kids hpre.shape
      ((isFull_iff T d child').1 hfull) hpre.size_hi hpre.ids hpre.holds haft
    exact ⟨s2, by rw [if_pos hfull, hg]; rfl, hc, hp, fun _ => hsub, hnonew⟩
  · rw [if_neg hfull]
    by_cases hu : (hdr d child').size < minThr T
    · rw [afterSet_under _ _ _ _ hfull hu] at haft
      have hpre' := hpre.toRem hu
      have hgo := morTail_sim T hT d m1 A B child' s1 addr hpre' hpre.size_lo_meta
      rw [haft] at hgo
      obtain ⟨⟨out, e⟩, hc⟩ := hgo
      refine ⟨_, ?_, hc, mor_heapPost T hpre.kids hpre.ids.1 hpre.holds haft, fun h => absurd hu (Nat.not_lt.2 h),
        hnonew⟩
      rw [isUnderflow_some T d child' hu]
      simp only [if_true, e]; rfl
    · have hu := Nat.not_lt.1 hu
      rw [afterSet_none _ _ _ _ hfull hu] at haft
      simp only [Except.ok.injEq, Prod.mk.injEq] at haft
      obtain ⟨rfl, rfl⟩ := haft
      refine ⟨s1.store m1.hdr.id (some (.metaSlab (trMeta m1))), ?_, rfl,
        heapPost_store_parent m1 hpre.holds hpre.ids.1 s1.ctx, fun _ _ h => h, hnonew⟩
      rw [isUnderflow_none T d child' hu]
      simp only [Bool.false_eq_true, if_false, storeSlab_envH_meta]; rfl

/-- the premise `hfresh` of `descent_level` for `Set`: the allocation counter had not reached an identifier that is
    new in the child (`FreshFree`).  `Insert` has the right disjunct (its child has grown), for `Remove` the premise is
    contradictory (`slabIds child' ⊆ slabIds child`). -/
theorem fresh_of_freshFree {T addr : Nat} {child child' : ATree d} {s : HSt} {c1 : Nat} (hfree : FreshFree addr s)
    (hidsc : IdsOk addr s.ctx.ctr (slabIds d child)) (hstep : StepOk T d false child child' s.ctx.ctr c1) :
    ∀ id ∈ slabIds d child', id ∉ slabIds d child → s.heap id = none ∨ minThr T ≤ (hdr d child').size := by
  intro id hid' hnid
  rcases (hstep.repl.ids addr (by simpa using hidsc)).2 id (by simpa using hid') with h1 | h1
  · exact absurd (by simpa using h1) hnid
  · exact Or.inl (hfree id ((repl_single_ids hstep.repl addr hidsc).2 id hid').1 h1)

/-- **One level of the descent over a heap**, the counterpart of `Atree.descend` for the generated code.  `m1` is the
    parent with the bookkeeping of the operation done (`setM1` / `insM1` / `remM1`: children, header copies, count sums
    and count differ from `m`); the step on the child `A.length` is given by its model summary `hstep` and its heap
    summary `hp1`.  `hfresh`: see `HeapPost.level`; the right disjunct serves an operation whose child does not
    underflow, so that the repair step drops no identifier.  The last clause serves `Remove`, which creates none. -/
theorem descent_level {T addr : Nat} (hT : legalThreshold T = true) {top : Bool} {m m1 : MetaSlab (ATree d)}
    {A B : List (ATree d)} {child child' : ATree d} {s s1 : HSt}
    (hinv : TreeInv T (d + 1) top (ofMeta m)) (hch : m.children = A ++ child :: B)
    (hh : HoldsChildren s.heap m) (hids : IdsOk addr s.ctx.ctr (slabIds (d + 1) (ofMeta m)))
    (hfresh : ∀ id ∈ slabIds d child', id ∉ slabIds d child → s.heap id = none ∨ minThr T ≤ (hdr d child').size)
    (hstep : StepOk T d false child child' s.ctx.ctr s1.ctx.ctr) (hp1 : HeapPost s.heap s1.heap child child')
    (hhi : (hdr d child').size ≤ (hdr d child).size + maxInlineArr T)
    (hlo : (hdr d child).size ≤ (hdr d child').size + maxInlineArr T)
    (hlo' : d ≠ 0 → (hdr d child).size ≤ (hdr d child').size + 14)
    (hch1 : m1.children = A ++ child' :: B) (hid1 : m1.hdr.id = m.hdr.id) (hroot1 : m1.root = m.root)
    (hsize1 : m1.hdr.size = m.hdr.size) (hb : Book m1) (hcount1 : m1.hdr.count = sumCounts m1.childHdrs)
    (hcnt1 : m1.hdr.count < 2^32) :
    ∃ m2 c2 s2, afterSet T m1 child' A.length s1.ctx = .ok (m2, c2) ∧
      genTail (envH T) (trMeta m1) s1 (trTree d child') (Int.ofNat A.length) = some (none, trMeta m2, s2) ∧
      s2.ctx = c2 ∧ HeapPost s.heap s2.heap (ofMeta m) (ofMeta m2) ∧
      StepOk T (d + 1) top (ofMeta m) (ofMeta m2) s.ctx.ctr c2.ctr ∧
      ((hdr d child').size ≤ maxThr T → (∀ id ∈ slabIds d child', id ∈ slabIds d child) →
        ∀ id ∈ slabIds (d + 1) (ofMeta m2), id ∈ slabIds (d + 1) (ofMeta m)) := by
  obtain ⟨hs, hmax, _, _⟩ := (treeInv_succ T d top m).1 hinv
  obtain ⟨hA, hB, hc, _⟩ := hs.at_child hch
  have hidsc : IdsOk addr s.ctx.ctr (slabIds d child) := ids_child hch hids
  have hidsc' : IdsOk addr s1.ctx.ctr (slabIds d child') := repl_single_ids hstep.repl addr hidsc
  have hids1 : IdsOk addr s1.ctx.ctr (slabIds (d + 1) (ofMeta m1)) := ids_after_child hch hch1 hid1 hstep.repl hids
  have hlen1 : m1.children.length = m.children.length := by rw [hch1, hch]; simp
  obtain ⟨m2, c2, haft, hstep2, _⟩ := descend hT s1.ctx hinv hch hstep hhi hch1 hid1 hroot1 hsize1 hb hcount1
  have hpre : TailPre T d addr m1 A B child' s1 :=
    { kids := hch1, book := hb, left := hA, right := hB, shape := hstep.shape
      size_hi := Nat.le_trans hhi (Nat.add_le_add_right hc.le_max _)
      size_lo := Nat.le_trans hc.ge_min hlo
      size_lo_meta := fun h0 => Nat.le_trans hc.ge_min (hlo' h0)
      two := hlen1 ▸ two_kids hT hinv
      msize := by rw [hlen1, hsize1]; exact hs.size_eq
      mcount := hcount1, mcount_lt := hcnt1, ids := hids1
      holds := holdsChildren_after_child hch hch1 hids.1 hids1.1 hh hp1 }
  obtain ⟨s2, hg, hc2, hp2, hkeep, hnonew⟩ := tail_sim hT hpre haft
  refine ⟨m2, c2, s2, haft, hg, hc2, HeapPost.level hch hch1 hid1 (fun id hid' hnid hn2 => ?_) hp1 hp2, hstep2,
    fun hle hsub id hid => ?_⟩
  · rcases hfresh id hid' hnid with h | hge
    · exact h
    · refine absurd (hkeep hge id ?_) hn2
      rw [slabIds_succ, hch1]
      exact List.mem_cons_of_mem _ (List.mem_flatMap.2 ⟨child', by simp, hid'⟩)
  · have h1 := hnonew hle id hid
    rw [slabIds_succ, hch1, hid1] at h1
    rw [slabIds_succ, hch]
    simp only [List.mem_cons, List.flatMap_append, List.flatMap_cons, List.mem_append] at h1 ⊢
    rcases h1 with h | h | h | h
    · exact Or.inl h
    · exact Or.inr (Or.inl h)
    · exact Or.inr (Or.inr (Or.inl (hsub id h)))
    · exact Or.inr (Or.inr (Or.inr h))

end Atree.TransEq

import AtreeProofs.Props.TransDescentHeap
import AtreeProofs.Props.TransSlabsGlue
/-
  TRANSLATION EQUIVALENCE, the array descent: the MERGE / REBALANCE side of the restructuring of an index slab
  (`ArrayMetaDataSlab_rebalanceChildren`, `_mergeChildren`, `_MergeOrRebalanceChildSlab` of Gen/TransSlabs.lean) over the
  HEAP environment `envH T` (Trans/Descent.lean), with the heap after the call given EXPLICITLY (`rebalHeap`, `mergeHeap`,
  `morHeap`).  Instances of the theorems of `Props/TransSlabsTree.lean` that hold for any environment
  (`rebalanceChildren_any`, `mergeChildren_any`, `MergeOrRebalanceChildSlab_any`): the storage chains `rebalStore`,
  `mergeStore`, `morStore` over `envH T` ARE `rebalHeap`, `mergeHeap`, `morHeap`.

  The child operations `ArraySlab_Merge / _LendToRight / _BorrowFromRight / _CanLendToLeft / _CanLendToRight` do not take
  the storage, and `envH T` and `envA T look` have the same element sizes and `minThreshold` (`sameSizes_envH`): the
  hypotheses over `envH` (`RebalAgreesH`, `MergeAgreesH`, `MorPreH`) follow from those over `envA` for ANY `look`.  In
  `MergeOrRebalanceChildSlab` the siblings are READ from the heap (`getArraySlab`, which leaves the storage alone).

  Second part, `MergeOrRebalanceChildSlab` as the repair step of a descent.  `morTail_sim`: under `RemTailPre` (what a
  descent knows when the updated child underflows) and a child that is not an empty index slab, the call is the
  instance `Sl_MergeOrRebalanceChildSlab_heap`; `mor_heapPost`: the heap it leaves (`morHeap`) satisfies `HeapPost` in
  every case of the repair plan (`morHeap_eq_plan`, `Core.plan`: a rebalance stores both siblings and the parent and keeps all
  identifiers, a merge stores the left sibling and the parent and removes the right one; the stores hit no descendant
  and no other child by `Nodup` of the identifiers).
-/
namespace Atree.TransEq
open Atree Atree.Gen

theorem sameSizes_envH (T : Nat) (look : SlabID → Option GSlab) : SameSizes (envH T) (envA T look) := ⟨rfl, rfl⟩

section transfer
variable (T : Nat) (look : SlabID → Option GSlab)

theorem Header_envH (x : GSlab) :
    TransSl.ArraySlab_Header (envH T) x = TransSl.ArraySlab_Header (envA T look) x := rfl
theorem ByteSize_envH (x : GSlab) :
    TransSl.ArraySlab_ByteSize (envH T) x = TransSl.ArraySlab_ByteSize (envA T look) x := rfl
theorem SlabID_envH (x : GSlab) :
    TransSl.ArraySlab_SlabID (envH T) x = TransSl.ArraySlab_SlabID (envA T look) x := rfl
theorem updHdrs_envH (a : GMeta) (h : GHdr) (i j : Int) :
    TransSl.ArrayMetaDataSlab_updateChildrenHeadersAfterMerge (envH T) a h i j =
      TransSl.ArrayMetaDataSlab_updateChildrenHeadersAfterMerge (envA T look) a h i j := rfl
end transfer

/-- `RebalAgrees` over the heap environment -/
def RebalAgreesH (T : Nat) (d : Nat) (l r : ATree d) (flag : Bool) : Prop :=
  (if flag then TransSl.ArraySlab_BorrowFromRight (envH T) (trTree d l) (some (trTree d r))
   else TransSl.ArraySlab_LendToRight (envH T) (trTree d l) (some (trTree d r))) =
    some (none, trTree d (rebalOp T d l r flag).1, some (trTree d (rebalOp T d l r flag).2))

theorem RebalAgreesH_iff (T : Nat) (look) (d : Nat) (l r : ATree d) (flag : Bool) :
    RebalAgreesH T d l r flag ↔ RebalAgrees T look d l r flag := by
  unfold RebalAgreesH RebalAgrees
  rw [BorrowFromRight_same (sameSizes_envH T look), LendToRight_same (sameSizes_envH T look)]

/-- the heap after `rebalanceChildren` -/
def rebalHeap (T : Nat) {d : Nat} (m : MetaSlab (ATree d)) (left right : ATree d) (li ri : Nat) (flag : Bool)
    (s : HSt) : HSt :=
  ((s.store (ATree.hdr d (rebalOp T d left right flag).1).id (some (trTree d (rebalOp T d left right flag).1))).store
      (ATree.hdr d (rebalOp T d left right flag).2).id (some (trTree d (rebalOp T d left right flag).2))).store
    m.hdr.id (some (.metaSlab (trMeta (m.rebalanceChildren T left right li ri flag s.ctx).1)))

theorem rebalHeap_ctx (T : Nat) {d : Nat} (m : MetaSlab (ATree d)) (left right : ATree d) (li ri : Nat) (flag : Bool)
    (s : HSt) : (rebalHeap T m left right li ri flag s).ctx = (m.rebalanceChildren T left right li ri flag s.ctx).2 :=
  rebalStore_ctx (envH T) (ctxOf_envH T) T m left right li ri flag s s.ctx

theorem Sl_rebalanceChildren_heap (T : Nat) {d : Nat} (m : MetaSlab (ATree d)) (left right : ATree d)
    (li ri : Nat) (flag : Bool) (s : HSt) (hop : RebalAgreesH T d left right flag)
    (hli : li < m.countSum.length) (hli' : li < m.childHdrs.length) (hri : ri < m.childHdrs.length)
    (hbase : (ATree.hdr d left).count ≤ m.countSum.getD li 0) :
    TransSl.ArrayMetaDataSlab_rebalanceChildren (envH T) (trMeta m) s (some (trTree d left)) (some (trTree d right))
        (Int.ofNat li) (Int.ofNat ri) flag =
      some (none, trMeta (m.rebalanceChildren T left right li ri flag s.ctx).1, rebalHeap T m left right li ri flag s,
            some (trTree d (rebalOp T d left right flag).1), some (trTree d (rebalOp T d left right flag).2)) :=
  rebalanceChildren_any (envH T) (storeOK_envH T) T m left right li ri flag s s.ctx hop hli hli' hri hbase

/-- the heap after `rebalanceChildren`, pointwise -/
theorem rebalHeap_heap (T : Nat) {d : Nat} (m : MetaSlab (ATree d)) (left right : ATree d) (li ri : Nat) (flag : Bool)
    (s : HSt) (i : SlabID) :
    (rebalHeap T m left right li ri flag s).heap i =
      if i = m.hdr.id then some (.metaSlab (trMeta (m.rebalanceChildren T left right li ri flag s.ctx).1))
      else if i = (ATree.hdr d (rebalOp T d left right flag).2).id then some (trTree d (rebalOp T d left right flag).2)
      else if i = (ATree.hdr d (rebalOp T d left right flag).1).id then some (trTree d (rebalOp T d left right flag).1)
      else s.heap i := rfl

/-- `MergeAgrees` over the heap environment -/
def MergeAgreesH (T : Nat) (d : Nat) (l r : ATree d) : Prop :=
  ∃ r' : GSlab, TransSl.ArraySlab_SlabID (envH T) r' = (ATree.hdr d r).id ∧
    TransSl.ArraySlab_Merge (envH T) (trTree d l) (some (trTree d r)) =
      some (none, trTree d (ATree.merge d l r), some r')

theorem MergeAgreesH_iff (T : Nat) (look) (d : Nat) (l r : ATree d) :
    MergeAgreesH T d l r ↔ MergeAgrees T look d l r := by
  unfold MergeAgreesH MergeAgrees
  simp only [Merge_same (env := envH T) (env' := envA T look), SlabID_envH T look]

/-- the heap after `mergeChildren`: store merged, store parent, remove right -/
def mergeHeap {d : Nat} (m : MetaSlab (ATree d)) (left right : ATree d) (li ri : Nat) (s : HSt) : HSt :=
  ((s.store (ATree.hdr d (ATree.merge d left right)).id (some (trTree d (ATree.merge d left right)))).store
      m.hdr.id (some (.metaSlab (trMeta (m.mergeChildren left right li ri s.ctx).1)))).remove (ATree.hdr d right).id

theorem mergeHeap_ctx {d : Nat} (m : MetaSlab (ATree d)) (left right : ATree d) (li ri : Nat) (s : HSt) :
    (mergeHeap m left right li ri s).ctx = (m.mergeChildren left right li ri s.ctx).2 := rfl

/-- the heap after `mergeChildren`, pointwise -/
theorem mergeHeap_heap {d : Nat} (m : MetaSlab (ATree d)) (left right : ATree d) (li ri : Nat) (s : HSt) (i : SlabID) :
    (mergeHeap m left right li ri s).heap i =
      if i = (ATree.hdr d right).id then none
      else if i = m.hdr.id then some (.metaSlab (trMeta (m.mergeChildren left right li ri s.ctx).1))
      else if i = (ATree.hdr d (ATree.merge d left right)).id then some (trTree d (ATree.merge d left right))
      else s.heap i := rfl

theorem Sl_updateChildrenHeadersAfterMerge_envH (T : Nat) {α : Type} (m : MetaSlab α) (h : Hdr) (li ri : Nat)
    (hli : li < m.childHdrs.length) (hri : ri < m.childHdrs.length)
    (hli' : li < m.countSum.length) (hri' : ri < m.countSum.length) :
    TransSl.ArrayMetaDataSlab_updateChildrenHeadersAfterMerge (envH T) (trMeta m) (trHdr h) (Int.ofNat li) (Int.ofNat ri) =
      some { trMeta m with childrenHeaders := ((m.childHdrs.set li h).eraseIdx ri).map trHdr,
                           childrenCountSum := ((m.countSum.set li (m.countSum.getD ri 0)).eraseIdx ri).map u32 } :=
  updateChildrenHeadersAfterMerge_any _ m h li ri hli hri hli' hri'

theorem Sl_mergeChildren_heap_wit (T : Nat) {d : Nat} (m : MetaSlab (ATree d)) (left right : ATree d)
    (li ri : Nat) (s : HSt) (r' : GSlab)
    (hid : TransSl.ArraySlab_SlabID (envH T) r' = (ATree.hdr d right).id)
    (hop : TransSl.ArraySlab_Merge (envH T) (trTree d left) (some (trTree d right)) =
      some (none, trTree d (ATree.merge d left right), some r'))
    (hli : li < m.childHdrs.length) (hri : ri < m.childHdrs.length)
    (hli' : li < m.countSum.length) (hri' : ri < m.countSum.length)
    (hsz : arraySlabHeaderSize ≤ m.hdr.size) :
    TransSl.ArrayMetaDataSlab_mergeChildren (envH T) (trMeta m) s (some (trTree d left)) (some (trTree d right))
        (Int.ofNat li) (Int.ofNat ri) =
      some (none, trMeta (m.mergeChildren left right li ri s.ctx).1, mergeHeap m left right li ri s,
            some (trTree d (ATree.merge d left right)), some r') :=
  mergeChildren_any (envH T) (storeOK_envH T) m left right li ri s s.ctx r' hid hop hli hri hli' hri' hsz

theorem Sl_mergeChildren_heap (T : Nat) {d : Nat} (m : MetaSlab (ATree d)) (left right : ATree d)
    (li ri : Nat) (s : HSt) (hop : MergeAgreesH T d left right)
    (hli : li < m.childHdrs.length) (hri : ri < m.childHdrs.length)
    (hli' : li < m.countSum.length) (hri' : ri < m.countSum.length)
    (hsz : arraySlabHeaderSize ≤ m.hdr.size) :
    ∃ r' : GSlab, TransSl.ArraySlab_SlabID (envH T) r' = (ATree.hdr d right).id ∧
    TransSl.ArrayMetaDataSlab_mergeChildren (envH T) (trMeta m) s (some (trTree d left)) (some (trTree d right))
        (Int.ofNat li) (Int.ofNat ri) =
      some (none, trMeta (m.mergeChildren left right li ri s.ctx).1, mergeHeap m left right li ri s,
            some (trTree d (ATree.merge d left right)), some r') := by
  obtain ⟨r', hid, hop⟩ := hop
  exact ⟨r', hid, Sl_mergeChildren_heap_wit T m left right li ri s r' hid hop hli hri hli' hri' hsz⟩

/-- the heap after `MergeOrRebalanceChildSlab`, by the case of the decision table taken (mirrors `morTable`) -/
def morHeap (T : Nat) {d : Nat} (m : MetaSlab (ATree d)) (child : ATree d) (k underflow : Nat) (s : HSt)
    (leftSib rightSib : Option (ATree d)) : HSt :=
  let leftCanLend := match leftSib with | some l => ATree.canLendToRight T d l underflow | none => false
  let rightCanLend := match rightSib with | some r => ATree.canLendToLeft T d r underflow | none => false
  if leftCanLend || rightCanLend then
    match leftSib, rightSib with
    | some l, some r =>
      if !leftCanLend then rebalHeap T m child r k (k + 1) true s
      else if !rightCanLend then rebalHeap T m l child (k - 1) k false s
      else if (ATree.hdr d l).size > (ATree.hdr d r).size then rebalHeap T m l child (k - 1) k false s
      else rebalHeap T m child r k (k + 1) true s
    | some l, none => rebalHeap T m l child (k - 1) k false s
    | none, some r => rebalHeap T m child r k (k + 1) true s
    | none, none => s
  else
    match leftSib, rightSib with
    | none, some r => mergeHeap m child r k (k + 1) s
    | some l, none => mergeHeap m l child (k - 1) k s
    | some l, some r =>
      if (ATree.hdr d l).size < (ATree.hdr d r).size then mergeHeap m l child (k - 1) k s
      else mergeHeap m child r k (k + 1) s
    | none, none => s

/-- `MorPre` over the heap environment -/
structure MorPreH (T : Nat) {d : Nat} (m : MetaSlab (ATree d)) (child : ATree d)
    (k u : Nat) (lsib rsib : Option (ATree d)) : Prop where
  hk : k < m.childHdrs.length
  hlen : m.countSum.length = m.childHdrs.length
  hsz : arraySlabHeaderSize ≤ m.hdr.size
  posL : ∀ l, lsib = some l → 0 < k
  posR : ∀ r, rsib = some r → k + 1 < m.childHdrs.length
  lendL : ∀ l, lsib = some l →
    TransSl.ArraySlab_CanLendToRight (envH T) (trTree d l) (u32 u) = some (ATree.canLendToRight T d l u)
  lendR : ∀ r, rsib = some r →
    TransSl.ArraySlab_CanLendToLeft (envH T) (trTree d r) (u32 u) = some (ATree.canLendToLeft T d r u)
  szL : ∀ l, lsib = some l → (ATree.hdr d l).size < 2^32
  szR : ∀ r, rsib = some r → (ATree.hdr d r).size < 2^32
  rebR : ∀ r, rsib = some r → RebalAgreesH T d child r true ∧ (ATree.hdr d child).count ≤ m.countSum.getD k 0
  rebL : ∀ l, lsib = some l → RebalAgreesH T d l child false ∧ (ATree.hdr d l).count ≤ m.countSum.getD (k - 1) 0
  mrgR : ∀ r, rsib = some r → MergeAgreesH T d child r
  mrgL : ∀ l, lsib = some l → MergeAgreesH T d l child

section
variable {T : Nat} {d : Nat} {m : MetaSlab (ATree d)} {child : ATree d} {k u : Nat} {lsib rsib : Option (ATree d)}

theorem MorPreH.on (hp : MorPreH T m child k u lsib rsib) : MorPreOn (envH T) T m child k u lsib rsib :=
  ⟨hp.hk, hp.hlen, hp.hsz, hp.posL, hp.posR, hp.lendL, hp.lendR, hp.szL, hp.szR, hp.rebR, hp.rebL, hp.mrgR, hp.mrgL⟩

theorem MorPreH.of_on (hp : MorPreOn (envH T) T m child k u lsib rsib) : MorPreH T m child k u lsib rsib :=
  ⟨hp.hk, hp.hlen, hp.hsz, hp.posL, hp.posR, hp.lendL, hp.lendR, hp.szL, hp.szR, hp.rebR, hp.rebL, hp.mrgR, hp.mrgL⟩
end

theorem MorPreH.of_MorPre {T : Nat} {look : SlabID → Option GSlab} {d : Nat} {m : MetaSlab (ATree d)} {child : ATree d}
    {k u : Nat} {lsib rsib : Option (ATree d)} (hp : MorPre T look m child k u lsib rsib) :
    MorPreH T m child k u lsib rsib :=
  .of_on (hp.on.same _ (sameSizes_envH T look))

theorem Sl_mor_k1_heap (T : Nat) {d : Nat} (m : MetaSlab (ATree d)) (child : ATree d) (k u : Nat) (s : HSt)
    (lsib rsib : Option (ATree d)) (hp : MorPreH T m child k u lsib rsib) :
    match morTable T m child k u s.ctx lsib rsib with
    | .ok (m', c') => (∃ child', TransSl.ArrayMetaDataSlab_MergeOrRebalanceChildSlab.k1 (envH T) (trMeta m) s
        (some (trTree d child)) (Int.ofNat k) (u32 u) (lsib.map (trTree d)) (rsib.map (trTree d)) =
          some (none, trMeta m', morHeap T m child k u s lsib rsib, child')) ∧
        (morHeap T m child k u s lsib rsib).ctx = c'
    | .error _ => TransSl.ArrayMetaDataSlab_MergeOrRebalanceChildSlab.k1 (envH T) (trMeta m) s
        (some (trTree d child)) (Int.ofNat k) (u32 u) (lsib.map (trTree d)) (rsib.map (trTree d)) = none :=
  mor_k1_any (envH T) (storeOK_envH T) (ctxOf_envH T) T m child k u s lsib rsib hp.on

theorem Sl_MergeOrRebalanceChildSlab_heap (T : Nat) {d : Nat} (m : MetaSlab (ATree d)) (child : ATree d)
    (k u : Nat) (s : HSt)
    (hp : MorPreH T m child k u (morLeftSib m k) (morRightSib m k))
    (hheapL : k > 0 → ∃ h l, m.childHdrs[k - 1]? = some h ∧ m.children[k - 1]? = some l ∧
      s.heap h.id = some (trTree d l))
    (hheapR : k + 1 < m.childHdrs.length →
      ∃ h r, m.childHdrs[k + 1]? = some h ∧ m.children[k + 1]? = some r ∧ s.heap h.id = some (trTree d r)) :
    match m.mergeOrRebalanceChildSlab T child k u s.ctx with
    | .ok (m', c') => (∃ child', TransSl.ArrayMetaDataSlab_MergeOrRebalanceChildSlab (envH T) (trMeta m) s
        (some (trTree d child)) (Int.ofNat k) (u32 u) =
          some (none, trMeta m', morHeap T m child k u s (morLeftSib m k) (morRightSib m k), child')) ∧
        (morHeap T m child k u s (morLeftSib m k) (morRightSib m k)).ctx = c'
    | .error _ => TransSl.ArrayMetaDataSlab_MergeOrRebalanceChildSlab (envH T) (trMeta m) s
        (some (trTree d child)) (Int.ofNat k) (u32 u) = none := by
  rw [mor_eq_table, MergeOrRebalanceChildSlab_any (envH T) m child k (u32 u) s
    (fun h0 => let ⟨h, l, a, b, e⟩ := hheapL h0; ⟨h, l, a, b, getArraySlab_envH_some T s _ _ e⟩)
    (fun h1 => let ⟨h, r, a, b, e⟩ := hheapR h1; ⟨h, r, a, b, getArraySlab_envH_some T s _ _ e⟩)]
  exact Sl_mor_k1_heap T m child k u s _ _ hp

/-- `MergeOrRebalanceChildSlab` of a DATA-slab child over a heap (NO hypothesis on generated code): the siblings are
    `DataWork` slabs that the heap holds under the identifiers of the header copies (`hheapL`, `hheapR`).  `hbase`,
    `hbaseL`: see `MorPre.of_data`. -/
theorem Sl_MergeOrRebalanceChildSlab_data_heap (T : Nat) (m : MetaSlab (ATree 0)) (child : DataSlab)
    (k u : Nat) (s : HSt) (hT : legalThreshold T = true) (hu : u + Gen.arraySlabHeaderSize ≤ 2^32)
    (hwc : DataWork T child)
    (hwL : ∀ l : DataSlab, 0 < k → m.children[k - 1]? = some l → DataWork T l)
    (hwR : ∀ r : DataSlab, k + 1 < m.childHdrs.length → m.children[k + 1]? = some r → DataWork T r)
    (hk : k < m.childHdrs.length) (hlen : m.countSum.length = m.childHdrs.length)
    (hsz : arraySlabHeaderSize ≤ m.hdr.size)
    (hbase : k + 1 < m.childHdrs.length → child.hdr.count ≤ m.countSum.getD k 0)
    (hbaseL : ∀ l : DataSlab, 0 < k → m.children[k - 1]? = some l → l.hdr.count ≤ m.countSum.getD (k - 1) 0)
    (hheapL : k > 0 → ∃ h l, m.childHdrs[k - 1]? = some h ∧ m.children[k - 1]? = some l ∧
      s.heap h.id = some (.dataSlab (trData l)))
    (hheapR : k + 1 < m.childHdrs.length →
      ∃ h r, m.childHdrs[k + 1]? = some h ∧ m.children[k + 1]? = some r ∧ s.heap h.id = some (.dataSlab (trData r))) :
    match m.mergeOrRebalanceChildSlab T child k u s.ctx with
    | .ok (m', c') => (∃ child', TransSl.ArrayMetaDataSlab_MergeOrRebalanceChildSlab (envH T) (trMeta m) s
        (some (.dataSlab (trData child))) (Int.ofNat k) (u32 u) =
          some (none, trMeta m', morHeap T m child k u s (morLeftSib m k) (morRightSib m k), child')) ∧
        (morHeap T m child k u s (morLeftSib m k) (morRightSib m k)).ctx = c'
    | .error _ => TransSl.ArrayMetaDataSlab_MergeOrRebalanceChildSlab (envH T) (trMeta m) s
        (some (.dataSlab (trData child))) (Int.ofNat k) (u32 u) = none := by
  have hp : MorPre T (fun _ => none) m child k u (morLeftSib m k) (morRightSib m k) :=
    MorPre.of_data T _ m child k u _ _ hT hu hwc
      (fun l h => hwL l (sib_some h).1 (sib_some h).2)
      (fun r h => hwR r (sib_some h).1 (sib_some h).2) hk hlen hsz
      (fun _ h => (sib_some h).1) (fun _ h => (sib_some h).1)
      (fun _ h => hbase (sib_some h).1)
      (fun l h => hbaseL l (sib_some h).1 (sib_some h).2)
  have h := Sl_MergeOrRebalanceChildSlab_heap T m child k u s (MorPreH.of_MorPre hp) hheapL hheapR
  simp only [trTree] at h
  cases hm : m.mergeOrRebalanceChildSlab T child k u s.ctx with
  | error e => rw [hm] at h; exact h
  | ok res => rw [hm] at h; obtain ⟨m', c'⟩ := res; exact h

/-- `MergeOrRebalanceChildSlab` of an INDEX-slab child over a heap (`MetaSibOK`: TransSlabsGlue.lean) -/
theorem Sl_MergeOrRebalanceChildSlab_meta_heap (T : Nat) {d : Nat} (m : MetaSlab (ATree (d + 1)))
    (child : MetaSlab (ATree d)) (k u : Nat) (s : HSt) (hminT : minThr T < 2^32)
    (hu : u + Gen.arraySlabHeaderSize ≤ 2^32)
    (hlenC : child.countSum.length = child.childHdrs.length) (hneC : child.countSum ≠ [])
    (hpreC : arrayMetaDataSlabPrefixSize ≤ child.hdr.size)
    (hokL : ∀ l : MetaSlab (ATree d), 0 < k → m.children[k - 1]? = some l → MetaSibOK child l)
    (hokR : ∀ r : MetaSlab (ATree d), k + 1 < m.childHdrs.length → m.children[k + 1]? = some r → MetaSibOK child r)
    (hk : k < m.childHdrs.length) (hlen : m.countSum.length = m.childHdrs.length)
    (hsz : arraySlabHeaderSize ≤ m.hdr.size)
    (hbase : k + 1 < m.childHdrs.length → child.hdr.count ≤ m.countSum.getD k 0)
    (hbaseL : ∀ l : MetaSlab (ATree d), 0 < k → m.children[k - 1]? = some l → l.hdr.count ≤ m.countSum.getD (k - 1) 0)
    (hheapL : k > 0 → ∃ h l, m.childHdrs[k - 1]? = some h ∧ m.children[k - 1]? = some l ∧
      s.heap h.id = some (.metaSlab (trMeta l)))
    (hheapR : k + 1 < m.childHdrs.length →
      ∃ h r, m.childHdrs[k + 1]? = some h ∧ m.children[k + 1]? = some r ∧ s.heap h.id = some (.metaSlab (trMeta r))) :
    match m.mergeOrRebalanceChildSlab T child k u s.ctx with
    | .ok (m', c') => (∃ child', TransSl.ArrayMetaDataSlab_MergeOrRebalanceChildSlab (envH T) (trMeta m) s
        (some (.metaSlab (trMeta child))) (Int.ofNat k) (u32 u) =
          some (none, trMeta m', morHeap T m child k u s (morLeftSib m k) (morRightSib m k), child')) ∧
        (morHeap T m child k u s (morLeftSib m k) (morRightSib m k)).ctx = c'
    | .error _ => TransSl.ArrayMetaDataSlab_MergeOrRebalanceChildSlab (envH T) (trMeta m) s
        (some (.metaSlab (trMeta child))) (Int.ofNat k) (u32 u) = none := by
  have hp : MorPre T (fun _ => none) m child k u (morLeftSib m k) (morRightSib m k) :=
    MorPre.of_meta T _ m child k u _ _ hminT hu hlenC hneC hpreC
      (fun l h => hokL l (sib_some h).1 (sib_some h).2)
      (fun r h => hokR r (sib_some h).1 (sib_some h).2) hk hlen hsz
      (fun _ h => (sib_some h).1) (fun _ h => (sib_some h).1)
      (fun _ h => hbase (sib_some h).1)
      (fun l h => hbaseL l (sib_some h).1 (sib_some h).2)
  have h := Sl_MergeOrRebalanceChildSlab_heap T m child k u s (MorPreH.of_MorPre hp) hheapL hheapR
  simp only [trTree] at h
  cases hm : m.mergeOrRebalanceChildSlab T child k u s.ctx with
  | error e => rw [hm] at h; exact h
  | ok res => rw [hm] at h; obtain ⟨m', c'⟩ := res; exact h

/-! ### `MergeOrRebalanceChildSlab` as the repair step of a descent: the heap afterwards holds the new parent -/

section
open MetaSlab ATree

/-- what is known where `Remove` calls `MergeOrRebalanceChildSlab` -/
structure RemTailPre (T : Nat) {d : Nat} (m1 : MetaSlab (ATree d)) (A B : List (ATree d)) (child' : ATree d)
    (s1 : HSt) (addr : Nat) : Prop where
  book : Book m1
  kids : m1.children = A ++ child' :: B
  invA : ∀ t ∈ A, TreeInv T d false t
  invB : ∀ t ∈ B, TreeInv T d false t
  shape : Shape T d false child'
  under : (hdr d child').size < minThr T
  lower : minThr T ≤ (hdr d child').size + maxInlineArr T
  sib : 1 ≤ A.length + B.length
  addr_eq : ∀ t ∈ m1.children, (hdr d t).id.addr = addr
  size : m1.hdr.size = 12 + 14 * m1.children.length
  count : m1.hdr.count = sumCounts m1.childHdrs
  count_lt : m1.hdr.count < 2^32
  holds : HoldsChildren s1.heap m1
  ids : IdsOk addr s1.ctx.ctr (slabIds (d + 1) (ofMeta m1))


end

section facts
open MetaSlab ATree

/-- a rebalancing move re-partitions what lies below the pair and keeps the two identifiers -/
theorem rebalOp_struct (T d : Nat) (l r : ATree d) (flag : Bool) :
    sub d (rebalOp T d l r flag).1 ++ sub d (rebalOp T d l r flag).2 = sub d l ++ sub d r ∧
    (hdr d (rebalOp T d l r flag).1).id = (hdr d l).id ∧ (hdr d (rebalOp T d l r flag).2).id = (hdr d r).id :=
  rebalPair_view subView flag l r

end facts

section actions
open MetaSlab ATree
variable {d : Nat}

theorem rebalanceChildren_children (T : Nat) (m1 : MetaSlab (ATree d)) (P Q : List (ATree d)) (x y : ATree d) (li : Nat)
    (flag : Bool) (c : Ctx) (hch : m1.children = P ++ x :: y :: Q) (hli : P.length = li) :
    (rebalanceChildren T m1 x y li (li + 1) flag c).1.children =
      P ++ (rebalOp T d x y flag).1 :: (rebalOp T d x y flag).2 :: Q ∧
    (rebalanceChildren T m1 x y li (li + 1) flag c).1.hdr = m1.hdr := by
  refine ⟨?_, rfl⟩
  rw [rebal_children, hch, set_at hli, set_succ_at hli]; rfl

theorem mergeChildren_children (m1 : MetaSlab (ATree d)) (P Q : List (ATree d)) (x y : ATree d) (li : Nat)
    (c : Ctx) (hch : m1.children = P ++ x :: y :: Q) (hli : P.length = li) :
    (mergeChildren m1 x y li (li + 1) c).1.children = P ++ ATree.merge d x y :: Q ∧
    (mergeChildren m1 x y li (li + 1) c).1.hdr.id = m1.hdr.id := by
  refine ⟨?_, merge_hdr_id _ _ _ _ _ _⟩
  rw [merge_children, hch, set_at hli, erase_succ_at hli]

theorem rebalHeap_heapPost (T : Nat) (m1 : MetaSlab (ATree d)) (P Q : List (ATree d)) (x y : ATree d) (li : Nat)
    (flag : Bool) (s : HSt) (hch : m1.children = P ++ x :: y :: Q) (hli : P.length = li)
    (hnd : (slabIds (d + 1) (ofMeta m1)).Nodup) (hh : HoldsChildren s.heap m1) :
    HeapPost s.heap (rebalHeap T m1 x y li (li + 1) flag s).heap (ofMeta m1)
      (ofMeta (rebalanceChildren T m1 x y li (li + 1) flag s.ctx).1) := by
  obtain ⟨e1, e2⟩ := rebalanceChildren_children T m1 P Q x y li flag s.ctx hch hli
  obtain ⟨f3, f1, f2⟩ := rebalOp_struct T d x y flag
  obtain ⟨b1, b2⟩ := below_of_sub (X := [x, y]) (X' := [(rebalOp T d x y flag).1, (rebalOp T d x y flag).2])
    (by simpa using f3)
  obtain ⟨n1, n2, n3⟩ := pair_ids_ne hch hnd
  -- three stores: the two new siblings under the identifiers of the old ones, the parent
  refine (RemKidsPost.of_writes (m2 := (rebalanceChildren T m1 x y li (li + 1) flag s.ctx).1)
    (by simpa using hch) (by simpa using e1) (by rw [e2]) hnd b1
    (fun x' hx' => Or.inl (by rcases mem_pair hx' with rfl | rfl <;> simp [f1, f2]))
    (b2 s.heap) hh
    (fun x' hx' => by
      rcases mem_pair hx' with rfl | rfl
      · rw [rebalHeap_heap, f1, f2, if_neg n1, if_neg n3, if_pos rfl]
      · rw [rebalHeap_heap, f2, if_neg n2, if_pos rfl])
    (fun x' hx' hn => absurd (by rcases mem_pair hx' with rfl | rfl <;> simp [f1, f2]) hn)
    (fun id a b _ => by
      simp only [List.map_cons, List.map_nil, List.mem_cons, List.not_mem_nil, or_false, not_or] at b
      rw [rebalHeap_heap, f1, f2, if_neg a, if_neg b.2, if_neg b.1])).heapPost ?_
  rw [rebalHeap_heap, e2, if_pos rfl]

theorem mergeHeap_heapPost (m1 : MetaSlab (ATree d)) (P Q : List (ATree d)) (x y : ATree d) (li : Nat)
    (s : HSt) (hch : m1.children = P ++ x :: y :: Q) (hli : P.length = li)
    (hnd : (slabIds (d + 1) (ofMeta m1)).Nodup) (hh : HoldsChildren s.heap m1) :
    HeapPost s.heap (mergeHeap m1 x y li (li + 1) s).heap (ofMeta m1)
      (ofMeta (mergeChildren m1 x y li (li + 1) s.ctx).1) := by
  obtain ⟨e1, e2⟩ := mergeChildren_children m1 P Q x y li s.ctx hch hli
  obtain ⟨f2, f1⟩ := merge_struct d x y
  obtain ⟨b1, b2⟩ := below_of_sub (X := [x, y]) (X' := [ATree.merge d x y]) (by simpa using f2)
  obtain ⟨n1, n2, n3⟩ := pair_ids_ne hch hnd
  -- the merged slab is stored under the identifier of the left one, the parent is stored, the right one is removed
  refine (RemKidsPost.of_writes (m2 := (mergeChildren m1 x y li (li + 1) s.ctx).1)
    (by simpa using hch) (by simpa using e1) e2 hnd b1
    (fun x' hx' => Or.inl (by rw [List.mem_singleton.1 hx']; simp [f1]))
    (b2 s.heap) hh
    (fun x' hx' => by
      rw [List.mem_singleton.1 hx', mergeHeap_heap, f1, if_neg n3, if_neg n1, if_pos rfl])
    (fun x' hx' hn => by
      rcases mem_pair hx' with rfl | rfl
      · exact absurd (by simp [f1]) hn
      · rw [mergeHeap_heap, if_pos rfl])
    (fun id a b _ => by
      simp only [List.map_cons, List.map_nil, List.mem_cons, List.not_mem_nil, or_false, not_or] at b
      rw [mergeHeap_heap, f1, if_neg b.2, if_neg a, if_neg b.1])).heapPost ?_
  rw [mergeHeap_heap, e2, if_neg (Ne.symm n2), if_pos rfl]

/-- what the heap does with a repair plan (the storage side of `MetaSlab.exec`) -/
def heapExec (T : Nat) (m : MetaSlab (ATree d)) (child : ATree d) (k : Nat) (s : HSt) : Core.Plan (ATree d) → HSt
  | .panic => s
  | .rebalL l => rebalHeap T m l child (k - 1) k false s
  | .rebalR r => rebalHeap T m child r k (k + 1) true s
  | .mergeL l => mergeHeap m l child (k - 1) k s
  | .mergeR r => mergeHeap m child r k (k + 1) s

theorem morHeap_eq_plan (T : Nat) (m : MetaSlab (ATree d)) (child : ATree d) (k u : Nat) (s : HSt)
    (L R : Option (ATree d)) :
    morHeap T m child k u s L R =
      heapExec T m child k s (Core.plan (ATree.canLendToRight T d · u) (ATree.canLendToLeft T d · u)
        (fun t => (ATree.hdr d t).size) L R) := by
  rw [Core.plan_comm (heapExec T m child k s)]
  rcases L with _ | l <;> rcases R with _ | r <;> rfl

end actions

section pre
open MetaSlab ATree
variable {d : Nat}

theorem morLeftSib_last {m1 : MetaSlab (ATree d)} {A B : List (ATree d)} {child' : ATree d}
    (hk : m1.children = A ++ child' :: B) (l : ATree d) (h : morLeftSib m1 A.length = some l) :
    ∃ A', A = A' ++ [l] := by
  rw [morLeftSib, (Core.sibs_of_zip hk rfl rfl).1] at h
  exact List.getLast?_eq_some_iff.1 h

theorem morRightSib_head {m1 : MetaSlab (ATree d)} {A B : List (ATree d)} {child' : ATree d}
    (hk : m1.children = A ++ child' :: B) (r : ATree d) (h : morRightSib m1 A.length = some r) :
    ∃ B', B = r :: B' := by
  by_cases h1 : A.length + 1 < m1.childHdrs.length
  · rw [morRightSib, if_pos h1, hk, get_succ_at rfl] at h
    cases B with
    | nil => simp at h
    | cons b B' => simp at h; subst h; exact ⟨B', rfl⟩
  · rw [morRightSib, if_neg h1] at h; cases h

/-- the sibling `MergeOrRebalanceChildSlab` reads, left or right, is a valid subtree -/
theorem RemTailPre.sib_inv {T : Nat} {m1 : MetaSlab (ATree d)} {A B : List (ATree d)} {child' : ATree d} {s1 : HSt}
    {addr : Nat} (hpre : RemTailPre T m1 A B child' s1 addr) {x : ATree d}
    (hx : morLeftSib m1 A.length = some x ∨ morRightSib m1 A.length = some x) : TreeInv T d false x := by
  rcases hx with hl | hr
  · obtain ⟨A', rfl⟩ := morLeftSib_last hpre.kids x hl
    exact hpre.invA x (List.mem_append_right _ (List.mem_singleton.2 rfl))
  · obtain ⟨B', rfl⟩ := morRightSib_head hpre.kids x hr
    exact hpre.invB x List.mem_cons_self

theorem holdsChildren_at {m1 : MetaSlab (ATree d)} {h : SlabID → Option GSlab} (hb : Book m1) (hh : HoldsChildren h m1)
    (j : Nat) (hj : j < m1.childHdrs.length) :
    ∃ hd r, m1.childHdrs[j]? = some hd ∧ m1.children[j]? = some r ∧ h hd.id = some (trTree d r) := by
  have hl : j < m1.children.length := by
    have := congrArg List.length hb.hdrs_eq
    simp only [List.length_map] at this; omega
  refine ⟨hdr d m1.children[j], m1.children[j], ?_, List.getElem?_eq_getElem hl, (hh _ (List.getElem_mem hl)).root⟩
  rw [hb.hdrs_eq, List.getElem?_map, List.getElem?_eq_getElem hl]; rfl

/-- the bookkeeping facts `MorPre` needs about the two siblings, from `Book` (about the child itself: `book_at_child`) -/
theorem book_at_sibs {m1 : MetaSlab (ATree d)} {A B : List (ATree d)} {child' : ATree d}
    (hb : Book m1) (hk : m1.children = A ++ child' :: B) :
    (∀ l, morLeftSib m1 A.length = some l → 0 < A.length ∧ (hdr d l).count ≤ m1.countSum.getD (A.length - 1) 0) ∧
    (∀ r, morRightSib m1 A.length = some r → A.length + 1 < m1.childHdrs.length) := by
  refine ⟨?_, ?_⟩
  · intro l hl
    obtain ⟨A', rfl⟩ := morLeftSib_last hk l hl
    refine ⟨by simp, ?_⟩
    have hh' : m1.childHdrs = A'.map (hdr d) ++ hdr d l :: (hdr d child' :: B.map (hdr d)) := by
      rw [hb.hdrs_eq, hk]; simp
    have hkc' : (prefixSums (A'.map (hdr d)) 0).length = (A' ++ [l]).length - 1 := by
      simp [MetaSlab.prefixSums_length]
    rw [hb.sums_eq, hh', prefixSums_mid, getD_at hkc']; exact Nat.le_add_left _ _
  · intro r hr
    by_cases h1 : A.length + 1 < m1.childHdrs.length
    · exact h1
    · rw [morRightSib, if_neg h1] at hr; cases hr

theorem DataWork.of_shape {T : Nat} {s : DataSlab} (hs : DShape T false s)
    (hu : s.hdr.size ≤ 2 * maxThr T) : DataWork T s :=
  ⟨hs.count_eq, hs.size_eq, fun e he => (hs.elems_ok e he).1, ⟨hs.root_eq, hs.not_inl⟩, hu⟩

/-- the argument `underflowSize` of `MergeOrRebalanceChildSlab` plus one header is a `uint32` -/
theorem underflow_fits {T : Nat} (hT : legalThreshold T = true) (n : Nat) :
    minThr T - n + Gen.arraySlabHeaderSize ≤ 2^32 := by
  have F := thrFacts hT
  have := F.minE; have := F.hi
  simp only [Gen.arraySlabHeaderSize]; omega

theorem under_le_twice_max {T : Nat} (hT : legalThreshold T = true) {n : Nat} (h : n < minThr T) :
    n ≤ 2 * maxThr T := by
  have F := thrFacts hT
  have := F.minE; have := F.maxE
  omega

theorem RemTailPre.hdr_le {T : Nat} {m1 : MetaSlab (ATree d)} {A B : List (ATree d)} {child' : ATree d} {s1 : HSt}
    {addr : Nat} (hpre : RemTailPre T m1 A B child' s1 addr) : arraySlabHeaderSize ≤ m1.hdr.size := by
  rw [hpre.size, hpre.kids, List.length_append, List.length_cons]
  show 14 ≤ _
  omega

/-- the sizes of an underflowing index slab (`lc` children) and of a sibling within the band (`lx` children);
    12 = `arrayMetaDataSlabPrefixSize`, 14 = `arraySlabHeaderSize`, spelled as in `RemTailPre.size` -/
theorem metaSib_arith {T : Nat} (hT : legalThreshold T = true) {c x lc lx : Nat} (hc : c = 12 + 14 * lc)
    (hx : x = 12 + 14 * lx) (hu : c < minThr T) (hmin : minThr T ≤ x) (hmax : x ≤ maxThr T) :
    x < 2^32 ∧ 12 ≤ x ∧ lc ≤ lx ∧ 0 < lx := by
  have ht := thresholds_fit hT
  omega

/-- **the bundle `MorPreH` at the call of `MergeOrRebalanceChildSlab` in `Remove`**.  `hne`: an index-slab child is at
    most one header (14 bytes) below the minimum - NOT part of `RemTailPre` (its `lower` allows an index slab without
    children, on which Go's `Merge` panics); `remove_gen` gives it. -/
theorem MorPreH.of_tailPre (T : Nat) (hT : legalThreshold T = true) : ∀ (d : Nat) (m1 : MetaSlab (ATree d))
    (A B : List (ATree d)) (child' : ATree d) (s1 : HSt) (addr : Nat), RemTailPre T m1 A B child' s1 addr →
    (d ≠ 0 → minThr T ≤ (hdr d child').size + 14) →
    MorPreH T m1 child' A.length (minThr T - (hdr d child').size) (morLeftSib m1 A.length) (morRightSib m1 A.length)
  | 0, m1, A, B, child', s1, addr, hpre, _ => by
    obtain ⟨b1, b2, b3⟩ := book_at_child hpre.book hpre.kids
    obtain ⟨b4, b5⟩ := book_at_sibs hpre.book hpre.kids
    revert hpre b3 b4
    refine forall_ofData ?_ child'
    intro child' hpre b3 b4
    have hs : DShape T false child' := (shape_zero T false child').1 hpre.shape
    have hu : child'.hdr.size < minThr T := hpre.under
    refine MorPreH.of_MorPre (look := fun _ => none) (MorPre.of_data T _ m1 child' A.length _ _ _ hT
      (underflow_fits hT _) (DataWork.of_shape hs (under_le_twice_max hT hu)) ?_ ?_ b1 b2 hpre.hdr_le
      (fun l h => (b4 l h).1) b5 (fun _ _ => b3) (fun l h => (b4 l h).2))
    · exact fun l hl => DataWork.of_inv ((treeInv_zero T false l).1 (hpre.sib_inv (Or.inl hl)))
    · exact fun r hr => DataWork.of_inv ((treeInv_zero T false r).1 (hpre.sib_inv (Or.inr hr)))
  | d + 1, m1, A, B, child', s1, addr, hpre, hne => by
    obtain ⟨b1, b2, b3⟩ := book_at_child hpre.book hpre.kids
    obtain ⟨b4, b5⟩ := book_at_sibs hpre.book hpre.kids
    have hne := hne (Nat.succ_ne_zero d)
    revert hpre b3 b4 hne
    refine forall_ofMeta ?_ child'
    intro child' hpre b3 b4 hne
    have hs : MShape T d false child' := (shape_succ T d false child').1 hpre.shape
    have hu : child'.hdr.size < minThr T := hpre.under
    have hne : minThr T ≤ child'.hdr.size + 14 := hne
    have hsz := hs.kids_of_size
    have hcs : child'.countSum.length = child'.childHdrs.length := by rw [hs.sums_eq, MetaSlab.prefixSums_length]
    have ht := thresholds_fit hT
    -- the child has at least one child of its own: it is at most one header below the minimum
    have hkids : 0 < child'.children.length ∧ 12 ≤ child'.hdr.size := by
      have := ht.2.2.2.2.1
      omega
    have sibOK : ∀ x : MetaSlab (ATree d), TreeInv T (d + 1) false (ofMeta x) → MetaSibOK child' x := by
      intro x hx
      obtain ⟨xs, xmax, xmin, _⟩ := (treeInv_succ T d false x).1 hx
      obtain ⟨a1, a2, a3, a4⟩ := metaSib_arith hT hsz xs.kids_of_size hu (xmin rfl) xmax
      have xcs : x.countSum.length = x.childHdrs.length := by rw [xs.sums_eq, MetaSlab.prefixSums_length]
      refine ⟨a1, a2, xcs, ?_, by rw [hs.hdrs_length, xs.hdrs_length]; exact a3⟩
      intro e
      rw [e, xs.hdrs_length] at xcs
      exact absurd xcs.symm (Nat.ne_of_gt a4)
    refine MorPreH.of_MorPre (look := fun _ => none) (MorPre.of_meta T _ m1 child' A.length _ _ _ ht.2.1
      (underflow_fits hT _) hcs ?_ hkids.2 ?_ ?_ b1 b2 hpre.hdr_le (fun l h => (b4 l h).1) b5 (fun _ _ => b3)
      (fun l h => (b4 l h).2))
    · intro e
      rw [e, hs.hdrs_length] at hcs
      exact absurd hcs.symm (Nat.ne_of_gt hkids.1)
    · exact fun l hl => sibOK l (hpre.sib_inv (Or.inl hl))
    · exact fun r hr => sibOK r (hpre.sib_inv (Or.inr hr))

end pre

section tail
open MetaSlab ATree

/-- the heap after `MergeOrRebalanceChildSlab` (`morHeap`) satisfies `HeapPost`: whatever the plan, it is a rebalance
    or a merge of two adjacent children -/
theorem mor_heapPost {d : Nat} (T : Nat) {m1 m2 : MetaSlab (ATree d)} {A B : List (ATree d)} {child' : ATree d}
    {u : Nat} {s1 : HSt} {c2 : Ctx}
    (hch : m1.children = A ++ child' :: B) (hnd : (slabIds (d + 1) (ofMeta m1)).Nodup)
    (hh : HoldsChildren s1.heap m1)
    (h : m1.mergeOrRebalanceChildSlab T child' A.length u s1.ctx = .ok (m2, c2)) :
    HeapPost s1.heap (morHeap T m1 child' A.length u s1 (morLeftSib m1 A.length) (morRightSib m1 A.length)).heap
      (ofMeta m1) (ofMeta m2) := by
  rw [morHeap_eq_plan]
  rw [MetaSlab.mor_eq_plan] at h
  revert h
  refine Core.plan_sibs (Q := fun p => m1.exec T child' A.length s1.ctx p = .ok (m2, c2) →
    HeapPost s1.heap (heapExec T m1 child' A.length s1 p).heap (ofMeta m1) (ofMeta m2)) _ _ _ _ _ _
    (fun h => nomatch h) ?_ ?_
  · intro l e hl
    rw [hch] at hl
    obtain ⟨P, rfl, hP⟩ := left_sib_at e.symm hl
    have hch' : m1.children = P ++ l :: child' :: B := by rw [hch]; simp
    have e2 : (P ++ [l]).length = P.length + 1 := by simp
    constructor <;> intro he <;> cases he <;> simp only [heapExec, e2, Nat.add_sub_cancel]
    · exact rebalHeap_heapPost T m1 P B l child' P.length false s1 hch' rfl hnd hh
    · exact mergeHeap_heapPost m1 P B l child' P.length s1 hch' rfl hnd hh
  · intro r hr
    rw [hch] at hr
    obtain ⟨B', rfl⟩ := right_sib_at rfl hr
    constructor <;> intro he <;> cases he
    · exact rebalHeap_heapPost T m1 A B' child' r A.length true s1 hch rfl hnd hh
    · exact mergeHeap_heapPost m1 A B' child' r A.length s1 hch rfl hnd hh

/-- the generated `MergeOrRebalanceChildSlab` at the call in `Remove` (and in `Set`): the model's result, the storage
    is `morHeap` -/
theorem morTail_sim (T : Nat) (hT : legalThreshold T = true) (d : Nat) (m1 : MetaSlab (ATree d))
    (A B : List (ATree d)) (child' : ATree d) (s1 : HSt) (addr : Nat) (hpre : RemTailPre T m1 A B child' s1 addr)
    (hne : d ≠ 0 → minThr T ≤ (hdr d child').size + 14) :
    match m1.mergeOrRebalanceChildSlab T child' A.length (minThr T - (hdr d child').size) s1.ctx with
    | .ok (m', c') => (∃ out, TransSl.ArrayMetaDataSlab_MergeOrRebalanceChildSlab (envH T) (trMeta m1) s1
        (some (trTree d child')) (Int.ofNat A.length) (u32 (minThr T - (hdr d child').size)) =
          some (none, trMeta m', morHeap T m1 child' A.length (minThr T - (hdr d child').size) s1
            (morLeftSib m1 A.length) (morRightSib m1 A.length), out)) ∧
        (morHeap T m1 child' A.length (minThr T - (hdr d child').size) s1
          (morLeftSib m1 A.length) (morRightSib m1 A.length)).ctx = c'
    | .error _ => TransSl.ArrayMetaDataSlab_MergeOrRebalanceChildSlab (envH T) (trMeta m1) s1
        (some (trTree d child')) (Int.ofNat A.length) (u32 (minThr T - (hdr d child').size)) = none :=
  Sl_MergeOrRebalanceChildSlab_heap T m1 child' A.length (minThr T - (hdr d child').size) s1
    (MorPreH.of_tailPre T hT d m1 A B child' s1 addr hpre hne)
    (fun _ => holdsChildren_at hpre.book hpre.holds (A.length - 1)
      (Nat.lt_of_le_of_lt (Nat.sub_le _ _) (book_at_child hpre.book hpre.kids).1))
    (fun h1 => holdsChildren_at hpre.book hpre.holds (A.length + 1) h1)

end tail


/-! ### non-vacuity (T = 256: min 128, max 384; the slabs of TransSlabsGlue.lean) -/

section examples

/-- a heap that holds the two siblings of the middle leaf of `exIdx3` -/
def exHeap3 : HSt := ⟨exLook3, ⟨5, [], []⟩⟩

/-- `MergeOrRebalanceChildSlab` of the middle leaf over the heap: `Sl_MergeOrRebalanceChildSlab_data_heap` applies; only
    the left sibling can lend, so it lends one element; the heap afterwards is `morHeap ..` -/
theorem exMor3 : ∃ child',
    TransSl.ArrayMetaDataSlab_MergeOrRebalanceChildSlab (envH 256) (trMeta exIdx3) exHeap3
      (some (.dataSlab (trData (exData 3 4 [60])))) (Int.ofNat 1) (u32 47) =
    some (none,
      trMeta ({ exIdx3 with
        childHdrs := [⟨⟨1, 2⟩, 201, 3⟩, ⟨⟨1, 3⟩, 141, 2⟩, ⟨⟨1, 4⟩, 141, 2⟩], countSum := [3, 5, 7],
        children := [{ exData 2 3 [60, 60, 60] with hdr := ⟨⟨1, 2⟩, 201, 3⟩ },
                     { exData 3 4 [] with hdr := ⟨⟨1, 3⟩, 141, 2⟩, elems := [⟨60, .val 3⟩, ⟨60, .val 0⟩] },
                     exData 4 0 [60, 60]] } : MetaSlab (ATree 0)),
      morHeap 256 exIdx3 (exData 3 4 [60]) 1 47 exHeap3 (morLeftSib exIdx3 1) (morRightSib exIdx3 1), child') :=
  (Sl_MergeOrRebalanceChildSlab_data_heap 256 exIdx3 (exData 3 4 [60]) 1 47 exHeap3 (by decide) (by decide)
    (exOne_work 3 4)
    (fun l _ h => by cases h; exact exData_work 2 3)
    (fun r _ h => by cases h; exact exTwo_work 4 0)
    (by decide) rfl (by decide) (fun _ => by decide)
    (fun l _ h => by cases h; decide)
    (fun _ => ⟨_, _, rfl, rfl, rfl⟩) (fun _ => ⟨_, _, rfl, rfl, rfl⟩)).1

/-- .. and that heap, explicitly: the left sibling `(1,2)` with three elements, the child `(1,3)` with two, the parent
    `(1,1)` with the new headers; `(1,4)` untouched; effects: three `store`s -/
example :
    let h := morHeap 256 exIdx3 (exData 3 4 [60]) 1 47 exHeap3 (morLeftSib exIdx3 1) (morRightSib exIdx3 1)
    h.heap ⟨1, 2⟩ = some (.dataSlab (trData { exData 2 3 [60, 60, 60] with hdr := ⟨⟨1, 2⟩, 201, 3⟩ })) ∧
    h.heap ⟨1, 3⟩ = some (.dataSlab (trData
      { exData 3 4 [] with hdr := ⟨⟨1, 3⟩, 141, 2⟩, elems := [⟨60, .val 3⟩, ⟨60, .val 0⟩] })) ∧
    h.heap ⟨1, 1⟩ = some (.metaSlab
      { header := { slabID := ⟨1, 1⟩, size := 54, count := 7 },
        childrenHeaders := [{ slabID := ⟨1, 2⟩, size := 201, count := 3 }, { slabID := ⟨1, 3⟩, size := 141, count := 2 },
                            { slabID := ⟨1, 4⟩, size := 141, count := 2 }],
        childrenCountSum := [3, 5, 7], extraData := none }) ∧
    h.heap ⟨1, 4⟩ = exLook3 ⟨1, 4⟩ ∧
    h.ctx = ⟨5, [.store ⟨1, 2⟩, .store ⟨1, 3⟩, .store ⟨1, 1⟩], []⟩ := by
  refine ⟨by rfl, by rfl, by rfl, by rfl, by rfl⟩

/-- `mergeChildren` of the two leaves of `exIdx` over a heap (direct evaluation of the generated code): the merged leaf
    is stored under `(1,2)`, the parent under `(1,1)`, and `(1,3)` is removed from the heap -/
example :
    let r := TransSl.ArrayMetaDataSlab_mergeChildren (envH 256) (trMeta exIdx) ⟨fun _ => none, ⟨5, [], []⟩⟩
      (some (.dataSlab (trData (exData 2 3 [100, 150, 200])))) (some (.dataSlab (trData (exData 3 0 [60, 60]))))
      (Int.ofNat 0) (Int.ofNat 1)
    (r.map (fun x => x.2.2.1.heap ⟨1, 3⟩)) = some none ∧
    (r.map (fun x => x.2.2.1.heap ⟨1, 1⟩)) = some (some (.metaSlab
      { header := { slabID := ⟨1, 1⟩, size := 26, count := 5 },
        childrenHeaders := [{ slabID := ⟨1, 2⟩, size := 591, count := 5 }],
        childrenCountSum := [5], extraData := none })) ∧
    (r.map (fun x => x.2.2.1.ctx)) = some ⟨5, [.store ⟨1, 2⟩, .store ⟨1, 1⟩, .remove ⟨1, 3⟩], []⟩ := by
  refine ⟨by rfl, by rfl, by rfl⟩

end examples

end Atree.TransEq

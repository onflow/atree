import AtreeProofs.Props.TransDescentGet
import AtreeProofs.Props.TransSlabs
import AtreeProofs.AListLemmas
/-
  TRANSLATION EQUIVALENCE, the array descent: `ArrayMetaDataSlab.PopIterate` / `ArraySlab.PopIterate` over a heap.

  The generated `ArrayMetaDataSlab_PopIterate` (Gen/TransSlabs.lean) walks the header copies from the LAST to the first:
  it reads the child from the storage (`getArraySlab`), calls `PopIterate` on it through dynamic dispatch (recursion on
  the depth argument), and removes the child from the storage (`storage.Remove(childID)`); the emptied child is NOT
  stored again.  On a heap that holds a model tree whose slab identifiers are pairwise distinct, with a depth argument
  that covers the tree, the generated code
    * hands the callback the elements the model's `ATree.popIterate` returns (last to first),
    * returns the translation of the model's emptied slab,
    * leaves the `Ctx` (effect log) of the model,
    * and the heap in which every slab BELOW the root is gone and every other identifier - the root included: its
      caller stores the emptied root - is untouched (`HSt.clear`).
  Hypotheses: `Holds`, `HdrsOk` (every index slab's header copies are its children's headers: Go takes the child
  identifier from the copy; from `TreeInv` by `HdrsOk.of_inv`), `(ATree.slabIds d t).Nodup` (needed: see the example
  `exDup` at the end).  Error exits: `_notFound` (last child missing, state untouched), `_notFound_at` (child `j`
  missing: the children to its right are already popped and removed, the receiver is returned unchanged).
-/
namespace Atree.TransEq
open Atree Atree.Gen

/-- the identifiers of the slabs strictly below the root -/
def belowIds : (d : Nat) → ATree d → List SlabID
  | 0, _ => []
  | d + 1, (m : MetaSlab (ATree d)) => m.children.flatMap (ATree.slabIds d)

theorem slabIds_eq_cons (d : Nat) (t : ATree d) : ATree.slabIds d t = (ATree.hdr d t).id :: belowIds d t := by
  cases d <;> rfl

/-- at every index slab of the tree the header copies are the headers of the children (Go takes the identifier of the
    child to pop from the header copy).  `HdrsOk.of_inv` derives this from the tree invariant. -/
def HdrsOk : (d : Nat) → ATree d → Prop
  | 0, _ => True
  | d + 1, (m : MetaSlab (ATree d)) => m.childHdrs = m.children.map (ATree.hdr d) ∧ ∀ c ∈ m.children, HdrsOk d c

theorem HdrsOk.of_inv {T : Nat} : ∀ {d : Nat} {top : Bool} (t : ATree d), TreeInv T d top t → HdrsOk d t
  | 0, _, _, _ => trivial
  | d + 1, _, (t : MetaSlab (ATree d)), hinv => by
    obtain ⟨_, hhdrs, _, _, _, hkids, _⟩ := (hinv : _ ∧ _)
    exact ⟨hhdrs, fun c hc => HdrsOk.of_inv c (hkids c hc)⟩

/-- the heap without the identifiers `ids`, with the `Ctx` `c` -/
def HSt.clear (s : HSt) (ids : List SlabID) (c : Ctx) : HSt :=
  ⟨fun i => if i ∈ ids then none else s.heap i, c⟩

@[simp] theorem HSt.clear_heap (s : HSt) (ids : List SlabID) (c : Ctx) (i : SlabID) :
    (s.clear ids c).heap i = if i ∈ ids then none else s.heap i := rfl
@[simp] theorem HSt.clear_ctx (s : HSt) (ids : List SlabID) (c : Ctx) : (s.clear ids c).ctx = c := rfl

theorem HSt.clear_nil (s : HSt) : s.clear [] s.ctx = s := by
  cases s; simp [HSt.clear]

theorem HSt.clear_remove (s : HSt) (ids : List SlabID) (c : Ctx) (id : SlabID) :
    (s.clear ids c).remove id = s.clear (id :: ids) (c.emit (.remove id)) := by
  simp only [HSt.clear, HSt.remove, List.mem_cons]
  congr 1
  funext i
  by_cases h1 : i = id <;> simp [h1]

theorem HSt.clear_clear (s : HSt) (a b : List SlabID) (c1 c2 : Ctx) :
    (s.clear a c1).clear b c2 = s.clear (b ++ a) c2 := by
  simp only [HSt.clear, List.mem_append]
  congr 1
  funext i
  by_cases h1 : i ∈ b <;> simp [h1]

/-- the step of the model's fold: pop the child, then remove it -/
def popStep (d : Nat) (acc : List Elem × Ctx) (child : ATree d) : List Elem × Ctx :=
  ((acc.1 ++ (ATree.popIterate d child acc.2).1),
    (ATree.popIterate d child acc.2).2.2.emit (.remove (ATree.hdr d child).id))

theorem popIterate_succ (d : Nat) (m : MetaSlab (ATree d)) (c : Ctx) :
    ATree.popIterate (d + 1) m c =
      ((m.children.reverse.foldl (popStep d) ([], c)).1,
        ({ m with childHdrs := [], countSum := [], children := [],
                  hdr := { m.hdr with count := 0, size := arrayMetaDataSlabPrefixSize } } : MetaSlab (ATree d)),
        (m.children.reverse.foldl (popStep d) ([], c)).2) := rfl

/-- the accumulated elements of the fold are a prefix that is passed through -/
theorem popFold_acc (d : Nat) (l : List (ATree d)) (a : List Elem) (c : Ctx) :
    l.foldl (popStep d) (a, c) = (a ++ (l.foldl (popStep d) ([], c)).1, (l.foldl (popStep d) ([], c)).2) := by
  induction l generalizing a c with
  | nil => simp
  | cons x l ih =>
    simp only [List.foldl_cons, popStep, List.nil_append]
    rw [ih (a ++ _), ih (ATree.popIterate d x c).1]
    simp [List.append_assoc]

/-- the statement for the dispatcher at depth `d` -/
def PopDisp (T d : Nat) : Prop :=
  ∀ (t : ATree d) (s : HSt) (acc : List (Option Elem)) (depth : Nat), d ≤ depth → Holds s.heap d t →
    HdrsOk d t → (ATree.slabIds d t).Nodup →
    TransSl.ArraySlab_PopIterate (envH T) (TransSl.ArrayMetaDataSlab_PopIterate (envH T) depth) (trTree d t) s acc =
      some (none, trTree d (ATree.popIterate d t s.ctx).2.1,
        s.clear (belowIds d t) (ATree.popIterate d t s.ctx).2.2,
        acc ++ (ATree.popIterate d t s.ctx).1.map some)

/-- the statement for an index slab whose children have depth `d` -/
def PopMeta (T d : Nat) : Prop :=
  ∀ (m : MetaSlab (ATree d)) (s : HSt) (acc : List (Option Elem)) (depth : Nat), d ≤ depth →
    HoldsChildren s.heap m → HdrsOk (d + 1) m → (m.children.flatMap (ATree.slabIds d)).Nodup →
    TransSl.ArrayMetaDataSlab_PopIterate (envH T) (depth + 1) (trMeta m) s acc =
      some (none, trMeta (ATree.popIterate (d + 1) m s.ctx).2.1,
        s.clear (m.children.flatMap (ATree.slabIds d)) (ATree.popIterate (d + 1) m s.ctx).2.2,
        acc ++ (ATree.popIterate (d + 1) m s.ctx).1.map some)

/-- `ArrayDataSlab.PopIterate` over the heap environment (the function does not touch the storage) -/
theorem Sl_ArrayDataSlab_PopIterate_envH (T : Nat) (s : DataSlab) (acc : List (Option Elem)) :
    TransSl.ArrayDataSlab_PopIterate (envH T) (trData s) acc =
      some (none, trData (s.popIterate).2, acc ++ (s.popIterate).1.map some) :=
  Sl_ArrayDataSlab_PopIterate_any (fun _ _ => rfl) s acc

theorem popDisp_zero (T : Nat) : PopDisp T 0 := by
  intro t s acc depth _ _ _ _
  have := Sl_ArrayDataSlab_PopIterate_envH T t acc
  simp only [trTree, TransSl.ArraySlab_PopIterate, this, ATree.popIterate, belowIds]
  rw [HSt.clear_nil]

/-- a SEGMENT of the loop: from fuel `j + r` / index `j + r - 1` the children at positions `j + r - 1, .., j` are popped
    and removed; the loop continues at fuel `j` / index `j - 1` in the state that is left (`popLoop_meta` is `j = 0`;
    `j > 0` is used for the error exit in the middle of the loop) -/
theorem popLoop_meta_seg (T d depth : Nat) (hd : d ≤ depth) (ih : PopDisp T d) (m : MetaSlab (ATree d))
    (hhdrs : m.childHdrs = m.children.map (ATree.hdr d)) (hok : ∀ c ∈ m.children, HdrsOk d c) (j r : Nat)
    (hjr : j + r ≤ m.children.length) (s : HSt) (acc : List (Option Elem))
    (hh : ∀ c ∈ (m.children.drop j).take r, Holds s.heap d c)
    (hn : (((m.children.drop j).take r).flatMap (ATree.slabIds d)).Nodup) :
    TransSl.ArrayMetaDataSlab_PopIterate.loop1 (envH T) (trMeta m) (TransSl.ArrayMetaDataSlab_PopIterate (envH T) depth)
        (j + r) (Int.ofNat (j + r) - 1) s acc =
      TransSl.ArrayMetaDataSlab_PopIterate.loop1 (envH T) (trMeta m)
        (TransSl.ArrayMetaDataSlab_PopIterate (envH T) depth) j (Int.ofNat j - 1)
        (s.clear (((m.children.drop j).take r).flatMap (ATree.slabIds d))
          (((m.children.drop j).take r).reverse.foldl (popStep d) ([], s.ctx)).2)
        (acc ++ (((m.children.drop j).take r).reverse.foldl (popStep d) ([], s.ctx)).1.map some) := by
  induction r generalizing s acc with
  | zero =>
    simp only [Nat.add_zero, List.take_zero, List.flatMap_nil, List.reverse_nil, List.foldl_nil, List.map_nil,
      List.append_nil, HSt.clear_nil]
  | succ r ihr =>
    have e : Int.ofNat (j + r + 1) - 1 = Int.ofNat (j + r) := by simp only [Int.ofNat_eq_natCast]; omega
    have hlt : j + r < m.children.length := by omega
    have hlt' : r < (m.children.drop j).length := by rw [List.length_drop]; omega
    have htake : (m.children.drop j).take (r + 1) = (m.children.drop j).take r ++ [m.children[j + r]] := by
      rw [List.take_add_one, List.getElem?_eq_getElem hlt', List.getElem_drop]; rfl
    rw [htake] at hh hn ⊢
    generalize hx : m.children[j + r] = x at hh hn ⊢
    have hget : (List.map trHdr m.childHdrs)[j + r]? = some (trHdr (ATree.hdr d x)) := by
      rw [hhdrs]; simp [List.getElem?_map, List.getElem?_eq_getElem hlt, hx]
    have hxh : Holds s.heap d x := hh x (by simp)
    rw [List.flatMap_append, List.flatMap_singleton, List.nodup_append] at hn
    obtain ⟨hn1, hn2, hn3⟩ := hn
    have e1 := ih x s acc depth hd hxh (hok x (hx ▸ List.getElem_mem hlt)) hn2
    have hs1 : (s.clear (belowIds d x) (ATree.popIterate d x s.ctx).2.2).remove (ATree.hdr d x).id =
        s.clear (ATree.slabIds d x) ((ATree.popIterate d x s.ctx).2.2.emit (.remove (ATree.hdr d x).id)) := by
      rw [HSt.clear_remove, slabIds_eq_cons]
    have hh' : ∀ c ∈ (m.children.drop j).take r, Holds
        (s.clear (ATree.slabIds d x) ((ATree.popIterate d x s.ctx).2.2.emit (.remove (ATree.hdr d x).id))).heap d c := by
      intro c hc
      refine (hh c (List.mem_append_left _ hc)).congr (fun id hid => ?_)
      have : id ∉ ATree.slabIds d x := fun hmem => hn3 id (List.mem_flatMap.2 ⟨c, hc, hid⟩) id hmem rfl
      simp [this]
    have e2 := ihr (by omega) _ (acc ++ (ATree.popIterate d x s.ctx).1.map some) hh' hn1
    show TransSl.ArrayMetaDataSlab_PopIterate.loop1 (envH T) (trMeta m) _ (j + r + 1) (Int.ofNat (j + r + 1) - 1) s acc = _
    simp only [TransSl.ArrayMetaDataSlab_PopIterate.loop1, e, int_dge0, if_true, goIdx_ofNat, trMeta_childrenHeaders,
      hget, trHdr_slabID, envH_getArraySlab, hxh.root, Option.isSome_none, Bool.false_eq_true, if_false, e1,
      envH_remove, hs1, e2, HSt.clear_clear, HSt.clear_ctx, List.reverse_append, List.reverse_cons, List.reverse_nil,
      List.nil_append, List.singleton_append, List.foldl_cons, List.flatMap_append, List.flatMap_singleton]
    have hstep : popStep d ([], s.ctx) x =
        ((ATree.popIterate d x s.ctx).1, (ATree.popIterate d x s.ctx).2.2.emit (.remove (ATree.hdr d x).id)) := by
      simp only [popStep, List.nil_append]
    rw [hstep, popFold_acc d _ (ATree.popIterate d x s.ctx).1]
    simp only [List.map_append, List.append_assoc]

/-- the loop of `ArrayMetaDataSlab.PopIterate` after `k` steps from index `k - 1`: the first `k` children are popped
    (right to left) and removed with everything below them -/
theorem popLoop_meta (T d depth : Nat) (hd : d ≤ depth) (ih : PopDisp T d) (m : MetaSlab (ATree d))
    (hhdrs : m.childHdrs = m.children.map (ATree.hdr d)) (k : Nat) (hk : k ≤ m.children.length) (s : HSt)
    (acc : List (Option Elem)) (hh : ∀ c ∈ m.children.take k, Holds s.heap d c)
    (hok : ∀ c ∈ m.children, HdrsOk d c)
    (hn : ((m.children.take k).flatMap (ATree.slabIds d)).Nodup) :
    TransSl.ArrayMetaDataSlab_PopIterate.loop1 (envH T) (trMeta m) (TransSl.ArrayMetaDataSlab_PopIterate (envH T) depth)
        k (Int.ofNat k - 1) s acc =
      .done (s.clear ((m.children.take k).flatMap (ATree.slabIds d))
               ((m.children.take k).reverse.foldl (popStep d) ([], s.ctx)).2,
             acc ++ ((m.children.take k).reverse.foldl (popStep d) ([], s.ctx)).1.map some) := by
  have h := popLoop_meta_seg T d depth hd ih m hhdrs hok 0 k ((Nat.zero_add k).symm ▸ hk) s acc hh hn
  rw [Nat.zero_add] at h
  exact h

theorem popMeta_of_disp (T d : Nat) (ih : PopDisp T d) : PopMeta T d := by
  intro m s acc depth hd hh hok hn
  obtain ⟨hhdrs, hok⟩ := hok
  have hlen : m.childHdrs.length = m.children.length := by rw [hhdrs, List.length_map]
  have e : (Int.ofNat m.children.length - 1 + 1).toNat = m.children.length := by
    simp only [Int.ofNat_eq_natCast]; omega
  have e' : Int.ofNat (trMeta m).childrenHeaders.length - 1 = Int.ofNat m.children.length - 1 := by
    simp only [trMeta_childrenHeaders, List.length_map, hlen]
  have hl := popLoop_meta T d depth hd ih m hhdrs m.children.length (Nat.le_refl _) s acc
    (by rw [List.take_length]; exact hh) hok (by rw [List.take_length]; exact hn)
  rw [List.take_length] at hl
  simp only [TransSl.ArrayMetaDataSlab_PopIterate, e', e, hl, popIterate_succ]
  simp [trMeta, trHdr]

theorem popDisp_succ (T d : Nat) (ih : PopMeta T d) : PopDisp T (d + 1) := by
  intro t s acc depth hd hh hok hn
  obtain ⟨depth, rfl⟩ : ∃ n, depth = n + 1 := ⟨depth - 1, by omega⟩
  have hn' : ((t : MetaSlab (ATree d)).children.flatMap (ATree.slabIds d)).Nodup := (List.nodup_cons.1 hn).2
  have := ih t s acc depth (by omega) hh.2 hok hn'
  show TransSl.ArraySlab_PopIterate (envH T) _ (.metaSlab (trMeta t)) s acc = _
  simp only [TransSl.ArraySlab_PopIterate, this]
  rfl

theorem popDisp_all (T : Nat) : ∀ d, PopDisp T d
  | 0 => popDisp_zero T
  | d + 1 => popDisp_succ T d (popMeta_of_disp T d (popDisp_all T d))

/-- **`ArraySlab.PopIterate` over a heap** (dynamic dispatch; an index slab descends through the storage): on a heap
    that holds the tree, whose identifiers are pairwise distinct and whose header copies name the children, with a
    depth argument that covers the tree, the generated code hands the callback the elements of the model's
    `ATree.popIterate` (last to first), returns the translation of the emptied slab and no error, leaves the model's
    `Ctx`, and the heap without the slabs BELOW the root (`HSt.clear`; see `Sl_ArraySlab_PopIterate_heap_post`). -/
theorem Sl_ArraySlab_PopIterate_heap (T : Nat) (d : Nat) (t : ATree d) (s : HSt) (acc : List (Option Elem))
    (depth : Nat) (hd : d ≤ depth) (hh : Holds s.heap d t) (hok : HdrsOk d t) (hn : (ATree.slabIds d t).Nodup) :
    TransSl.ArraySlab_PopIterate (envH T) (TransSl.ArrayMetaDataSlab_PopIterate (envH T) depth) (trTree d t) s acc =
      some (none, trTree d (ATree.popIterate d t s.ctx).2.1,
        s.clear (belowIds d t) (ATree.popIterate d t s.ctx).2.2,
        acc ++ (ATree.popIterate d t s.ctx).1.map some) :=
  popDisp_all T d t s acc depth hd hh hok hn

/-- **`ArrayMetaDataSlab.PopIterate` over a heap**: the receiver is the translation of a model index slab (passed by
    value), its children are held by the heap; depth argument `depth + 1` for children of depth `d ≤ depth`. -/
theorem Sl_ArrayMetaDataSlab_PopIterate_heap (T : Nat) (d : Nat) (m : MetaSlab (ATree d)) (s : HSt)
    (acc : List (Option Elem)) (depth : Nat) (hd : d ≤ depth) (hh : HoldsChildren s.heap m) (hok : HdrsOk (d + 1) m)
    (hn : (m.children.flatMap (ATree.slabIds d)).Nodup) :
    TransSl.ArrayMetaDataSlab_PopIterate (envH T) (depth + 1) (trMeta m) s acc =
      some (none, trMeta (ATree.popIterate (d + 1) m s.ctx).2.1,
        s.clear (m.children.flatMap (ATree.slabIds d)) (ATree.popIterate (d + 1) m s.ctx).2.2,
        acc ++ (ATree.popIterate (d + 1) m s.ctx).1.map some) :=
  popMeta_of_disp T d (popDisp_all T d) m s acc depth hd hh hok hn

/-- the same in the form "result, `Ctx`, gone, frame": every slab below the root is gone, every other identifier is
    untouched - the ROOT included (it still holds the slab as it was before: `PopIterate` does not store the emptied
    root, its caller does) -/
theorem Sl_ArraySlab_PopIterate_heap_post (T : Nat) (d : Nat) (t : ATree d) (s : HSt) (acc : List (Option Elem))
    (depth : Nat) (hd : d ≤ depth) (hh : Holds s.heap d t) (hok : HdrsOk d t) (hn : (ATree.slabIds d t).Nodup) :
    ∃ s' : HSt,
      TransSl.ArraySlab_PopIterate (envH T) (TransSl.ArrayMetaDataSlab_PopIterate (envH T) depth) (trTree d t) s acc =
        some (none, trTree d (ATree.popIterate d t s.ctx).2.1, s', acc ++ (ATree.popIterate d t s.ctx).1.map some) ∧
      s'.ctx = (ATree.popIterate d t s.ctx).2.2 ∧
      (∀ id ∈ belowIds d t, s'.heap id = none) ∧
      (∀ id, id ∉ belowIds d t → s'.heap id = s.heap id) ∧
      s'.heap (ATree.hdr d t).id = some (trTree d t) := by
  refine ⟨_, Sl_ArraySlab_PopIterate_heap T d t s acc depth hd hh hok hn, rfl, ?_, ?_, ?_⟩
  · intro id hid; simp [hid]
  · intro id hid; simp [hid]
  · have hroot : (ATree.hdr d t).id ∉ belowIds d t := by
      rw [slabIds_eq_cons] at hn; exact (List.nodup_cons.1 hn).1
    simp [hroot, hh.root]

/-- the hypotheses on the header copies from the tree invariant -/
theorem Sl_ArraySlab_PopIterate_heap_inv (T : Nat) (d : Nat) (top : Bool) (t : ATree d) (hinv : TreeInv T d top t)
    (s : HSt) (acc : List (Option Elem)) (depth : Nat) (hd : d ≤ depth) (hh : Holds s.heap d t)
    (hn : (ATree.slabIds d t).Nodup) :
    TransSl.ArraySlab_PopIterate (envH T) (TransSl.ArrayMetaDataSlab_PopIterate (envH T) depth) (trTree d t) s acc =
      some (none, trTree d (ATree.popIterate d t s.ctx).2.1,
        s.clear (belowIds d t) (ATree.popIterate d t s.ctx).2.2,
        acc ++ (ATree.popIterate d t s.ctx).1.map some) :=
  Sl_ArraySlab_PopIterate_heap T d t s acc depth hd hh (HdrsOk.of_inv t hinv) hn

/-- the depth argument is exhausted (the tree is deeper): the generated code leaves the modelled fragment -/
theorem Sl_ArrayMetaDataSlab_PopIterate_depth0 (T : Nat) (a : GMeta) (s : HSt) (acc : List (Option Elem)) :
    TransSl.ArrayMetaDataSlab_PopIterate (envH T) 0 a s acc = none := rfl

/-- **the error exit**: the heap does not hold the LAST child (the first one visited): `SlabNotFoundError` from
    `getArraySlab`, the receiver, the storage and the callback world are untouched.  (The model has no such case:
    `Holds` excludes it.) -/
theorem Sl_ArrayMetaDataSlab_PopIterate_notFound (T : Nat) {α : Type} (m : MetaSlab α) (pre : List Hdr) (h : Hdr)
    (hhdrs : m.childHdrs = pre ++ [h]) (s : HSt) (hnone : s.heap h.id = none) (acc : List (Option Elem))
    (depth : Nat) :
    TransSl.ArrayMetaDataSlab_PopIterate (envH T) (depth + 1) (trMeta m) s acc =
      some (some .slabNotFound, trMeta m, s, acc) := by
  have hlen : (List.map trHdr m.childHdrs).length = pre.length + 1 := by
    simp only [List.length_map, hhdrs, List.length_append, List.length_singleton]
  have e' : Int.ofNat (pre.length + 1) - 1 = Int.ofNat pre.length := by
    simp only [Int.ofNat_eq_natCast]; omega
  have e : (Int.ofNat pre.length + 1).toNat = pre.length + 1 := by
    simp only [Int.ofNat_eq_natCast]; omega
  have hget : (List.map trHdr m.childHdrs)[pre.length]? = some (trHdr h) := by
    rw [hhdrs]; simp
  simp only [TransSl.ArrayMetaDataSlab_PopIterate, trMeta_childrenHeaders, hlen, e', e,
    TransSl.ArrayMetaDataSlab_PopIterate.loop1, int_dge0, if_true, goIdx_ofNat, hget, trHdr_slabID, envH_getArraySlab, hnone, Option.isSome_some]

/-- **the error exit in the middle of the loop**: the children to the right of position `j` are held, child `j` is not
    in the heap: `SlabNotFoundError`; the RECEIVER is returned unchanged (all header copies still there), but the
    children to the right of `j` HAVE been popped and removed (with everything below them) and their elements handed
    to the callback: the storage is left with an index slab whose header copies name removed slabs.  (The model has
    no such case: `Holds` excludes it.)  `j = length - 1` is `Sl_ArrayMetaDataSlab_PopIterate_notFound`. -/
theorem Sl_ArrayMetaDataSlab_PopIterate_notFound_at (T : Nat) (d : Nat) (m : MetaSlab (ATree d)) (s : HSt)
    (acc : List (Option Elem)) (depth : Nat) (hd : d ≤ depth) (hok : HdrsOk (d + 1) m) (j : Nat)
    (hj : j < m.children.length) (hh : ∀ c ∈ m.children.drop (j + 1), Holds s.heap d c)
    (hn : ((m.children.drop (j + 1)).flatMap (ATree.slabIds d)).Nodup)
    (hnone : s.heap (ATree.hdr d m.children[j]).id = none) :
    TransSl.ArrayMetaDataSlab_PopIterate (envH T) (depth + 1) (trMeta m) s acc =
      some (some .slabNotFound, trMeta m,
        s.clear ((m.children.drop (j + 1)).flatMap (ATree.slabIds d))
          ((m.children.drop (j + 1)).reverse.foldl (popStep d) ([], s.ctx)).2,
        acc ++ ((m.children.drop (j + 1)).reverse.foldl (popStep d) ([], s.ctx)).1.map some) := by
  obtain ⟨hhdrs, hok⟩ := hok
  have hlen : m.childHdrs.length = m.children.length := by rw [hhdrs, List.length_map]
  obtain ⟨r, hr⟩ : ∃ r, m.children.length = j + 1 + r := ⟨m.children.length - (j + 1), by omega⟩
  have htk : (m.children.drop (j + 1)).take r = m.children.drop (j + 1) := by
    rw [List.take_of_length_le]; rw [List.length_drop]; omega
  have e : (Int.ofNat (j + 1 + r) - 1 + 1).toNat = j + 1 + r := by
    simp only [Int.ofNat_eq_natCast]; omega
  have e' : (List.map trHdr m.childHdrs).length = j + 1 + r := by
    simp only [List.length_map, hlen, hr]
  have e'' : Int.ofNat (j + 1) - 1 = Int.ofNat j := by simp only [Int.ofNat_eq_natCast]; omega
  have hl := popLoop_meta_seg T d depth hd (popDisp_all T d) m hhdrs hok (j + 1) r (by omega) s acc
    (by rw [htk]; exact hh) (by rw [htk]; exact hn)
  rw [htk] at hl
  have hget : (List.map trHdr m.childHdrs)[j]? = some (trHdr (ATree.hdr d m.children[j])) := by
    rw [hhdrs]; simp [List.getElem?_map, List.getElem?_eq_getElem hj]
  have hnone' : (if (ATree.hdr d m.children[j]).id ∈ (m.children.drop (j + 1)).flatMap (ATree.slabIds d) then none
      else s.heap (ATree.hdr d m.children[j]).id) = none := by
    split
    · rfl
    · exact hnone
  simp only [TransSl.ArrayMetaDataSlab_PopIterate, trMeta_childrenHeaders, e', e, hl,
    TransSl.ArrayMetaDataSlab_PopIterate.loop1, e'', int_dge0, if_true, goIdx_ofNat, hget, trHdr_slabID, envH_getArraySlab, HSt.clear_heap, hnone',
    Option.isSome_some]

/-! ### non-vacuity: the two-level tree `exMeta` (Props/TransSafe.lean) on its heap, `PopIterate` evaluated -/

section
private def exPopSt : HSt := ⟨heapOf 1 exMeta, { ctr := 7, eff := [] }⟩

/-- the generated code EVALUATED: no error, the emptied root, the two `remove` effects (right child first), the eight
    elements last to first -/
example : (TransSl.ArrayMetaDataSlab_PopIterate (envH 256) 1 (trMeta exMeta) exPopSt []).map
      (fun r => (r.1, r.2.1, r.2.2.1.ctx.eff, r.2.2.2)) =
    some (none, trMeta ({ exMeta with hdr := ⟨⟨1, 1⟩, 12, 0⟩, childHdrs := [], countSum := [], children := [] } :
        MetaSlab (ATree 0)),
      [.remove ⟨1, 3⟩, .remove ⟨1, 2⟩],
      [some ⟨50, .val 4⟩, some ⟨50, .val 3⟩, some ⟨50, .val 2⟩, some ⟨50, .val 1⟩,
       some ⟨50, .val 4⟩, some ⟨50, .val 3⟩, some ⟨50, .val 2⟩, some ⟨50, .val 1⟩]) := by rfl

/-- the heap afterwards: both children gone, the root still the OLD root -/
example : (TransSl.ArrayMetaDataSlab_PopIterate (envH 256) 1 (trMeta exMeta) exPopSt []).map
      (fun r => (r.2.2.1.heap ⟨1, 1⟩, r.2.2.1.heap ⟨1, 2⟩, r.2.2.1.heap ⟨1, 3⟩)) =
    some (some (.metaSlab (trMeta exMeta)), none, none) := by rfl

/-- the hypotheses of the theorem hold for it -/
example : Holds exPopSt.heap 1 exMeta ∧ HdrsOk 1 exMeta ∧ (ATree.slabIds 1 exMeta).Nodup :=
  ⟨⟨by simp [exPopSt, heapOf], fun c hc => by
      have hcs : exMeta.children = [exSlab 2, exSlab 3] := rfl
      rw [hcs] at hc
      rcases List.mem_cons.mp hc with rfl | hc
      · rfl
      · rcases List.mem_singleton.mp hc with rfl; rfl⟩,
   ⟨rfl, fun _ _ => trivial⟩, by decide⟩

/-- the right child missing from the heap: `SlabNotFoundError`, nothing popped -/
example : TransSl.ArrayMetaDataSlab_PopIterate (envH 256) 1 (trMeta exMeta) ⟨fun _ => none, { ctr := 7, eff := [] }⟩ [] =
    some (some .slabNotFound, trMeta exMeta, ⟨fun _ => none, { ctr := 7, eff := [] }⟩, []) := by rfl
/-- the LEFT child missing from the heap: `SlabNotFoundError` AFTER the right child was popped and removed; the
    receiver still lists both children (`Sl_ArrayMetaDataSlab_PopIterate_notFound_at`) -/
example : (TransSl.ArrayMetaDataSlab_PopIterate (envH 256) 1 (trMeta exMeta)
      ⟨fun id => if id = ⟨1, 2⟩ then none else heapOf 1 exMeta id, { ctr := 7, eff := [] }⟩ []).map
      (fun r => (r.1, r.2.1, r.2.2.1.ctx.eff, r.2.2.1.heap ⟨1, 3⟩, r.2.2.2)) =
    some (some .slabNotFound, trMeta exMeta, [.remove ⟨1, 3⟩], none,
      [some ⟨50, .val 4⟩, some ⟨50, .val 3⟩, some ⟨50, .val 2⟩, some ⟨50, .val 1⟩]) := by rfl

/-- a THREE-level tree (an index slab over the index slab `exMeta`), depth argument 2: the recursion through the
    dynamic dispatch; the slabs are removed bottom-up, right to left -/
private def exMeta2 : MetaSlab (ATree 1) :=
  { hdr := ⟨⟨1, 9⟩, 28, 8⟩, childHdrs := [exMeta.hdr], countSum := [8], children := [exMeta], root := true }

example : (TransSl.ArrayMetaDataSlab_PopIterate (envH 256) 2 (trMeta exMeta2)
      ⟨heapOf 2 exMeta2, { ctr := 9, eff := [] }⟩ []).map
      (fun r => (r.1, r.2.1, r.2.2.1.ctx.eff, r.2.2.1.heap ⟨1, 9⟩, r.2.2.1.heap ⟨1, 1⟩, r.2.2.1.heap ⟨1, 2⟩,
        r.2.2.1.heap ⟨1, 3⟩, r.2.2.2.length)) =
    some (none, trMeta ({ exMeta2 with hdr := ⟨⟨1, 9⟩, 12, 0⟩, childHdrs := [], countSum := [], children := [] } :
        MetaSlab (ATree 1)),
      [.remove ⟨1, 3⟩, .remove ⟨1, 2⟩, .remove ⟨1, 1⟩], some (.metaSlab (trMeta exMeta2)), none, none, none, 8) := by
  rfl

/-- the depth argument does not cover the tree: outside the modelled fragment -/
example : TransSl.ArrayMetaDataSlab_PopIterate (envH 256) 1 (trMeta exMeta2)
      ⟨heapOf 2 exMeta2, { ctr := 9, eff := [] }⟩ [] = none := by rfl
/-- the distinctness hypothesis is NEEDED: an index slab that lists the same (held) child twice - the model pops it
    twice (8 elements), the generated code removes it after the first visit and fails on the second -/
private def exDup : MetaSlab (ATree 0) :=
  { hdr := ⟨⟨1, 1⟩, 40, 8⟩, childHdrs := [(exSlab 2).hdr, (exSlab 2).hdr], countSum := [4, 8],
    children := [exSlab 2, exSlab 2], root := true }

example : (TransSl.ArrayMetaDataSlab_PopIterate (envH 256) 1 (trMeta exDup)
      ⟨heapOf 1 exDup, { ctr := 7, eff := [] }⟩ []).map (fun r => (r.1, r.2.2.2.length)) =
    some (some .slabNotFound, 4) ∧ (ATree.popIterate 1 exDup { ctr := 7, eff := [] }).1.length = 8 ∧
    HoldsChildren (heapOf 1 exDup) exDup ∧ HdrsOk 1 exDup := by
  refine ⟨by rfl, by rfl, fun c hc => ?_, rfl, fun _ _ => trivial⟩
  have hcs : exDup.children = [exSlab 2, exSlab 2] := rfl
  rw [hcs] at hc
  rcases List.mem_cons.mp hc with rfl | hc
  · rfl
  · rcases List.mem_singleton.mp hc with rfl; rfl
end

end Atree.TransEq

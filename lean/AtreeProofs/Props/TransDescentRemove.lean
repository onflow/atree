import AtreeProofs.Props.TransDescentLevel
import AtreeProofs.Props.TransSlabsTree
/-
  TRANSLATION EQUIVALENCE, the array descent: `ArraySlab.Remove` / `ArrayMetaDataSlab.Remove` over a heap.

  The generated `ArrayMetaDataSlab_Remove` (Gen/TransSlabs.lean, regenerated from array_metadata_slab.go on every run)
  checks the index against the header count, routes it (`childSlabIndexInfo`), reads the child from the storage
  (`getArraySlab`), calls `Remove` on it through dynamic dispatch, decrements the count and every count sum from the
  routed child on (`loop1`), copies the child's header, and then: `MergeOrRebalanceChildSlab` if the child underflows,
  and ALWAYS `storeSlab(a)` (after a merge / rebalance the parent is therefore stored a second time; the model's
  `ATree.remove` emits the same effects).  That is the repair step `genTail` (Props/TransDescentLevel.lean) on a child
  that is not full, followed by one more store if the child underflowed.  On a heap that HOLDS a valid model tree
  (`Holds`, Trans/Descent.lean) it returns what `ATree.remove` returns - element, new tree, `Ctx` - and the heap
  afterwards is right (`HeapPost`).  One level is `descent_level`; the induction over the depth is `remDisp_all`.

  The count-sum loop is the model's `bumpFrom k (· - 1)` GIVEN that every count sum from `k` on is at least 1 (the
  `uint32` decrement of 0 wraps around: `Sl_ArrayMetaDataSlab_Remove_loop_differs_at`); in a valid tree they are.

  `RemPath` (`RemTailPre → RemTailOk` at the index slabs on the path whose routed child underflows; `RemPath.of_inv`,
  Props/TransDescentRemoveFull.lean, proves it from `TreeInv`), `RemNoUnderflow` and the global `RemTailHyp T` describe
  the merge-or-rebalance on the path of one removal.  The theorems about the generated code hold without them; the forms
  that assume one of them follow by dropping it.  `RemTailHyp T` is FALSE at T = 256 (`remTailHyp_false`): the
  `_of_tail` theorems that assume it are vacuous there.
-/
namespace Atree.TransEq
open Atree Atree.Gen

/-- the storage after `ArrayDataSlab.Remove` stored the slab `s'` (unless it is inlined) -/
def remDataStored (st : HSt) (s' : DataSlab) : HSt :=
  if s'.inlined then st else st.store s'.hdr.id (some (.dataSlab (trData s')))

theorem remDataStored_ctx (st : HSt) (s' : DataSlab) : (remDataStored st s').ctx = s'.storeIfNotInlined st.ctx := by
  unfold remDataStored DataSlab.storeIfNotInlined
  cases s'.inlined <;> rfl

/-- `ArrayDataSlab.Remove` over the heap -/
theorem Sl_ArrayDataSlab_Remove_envH (T : Nat) (s : DataSlab) (i : Nat) (st : HSt)
    (hi : i < 2^64) (hlen : s.elems.length < 2^63)
    (hcnt : i < s.elems.length → 1 ≤ s.hdr.count)
    (hsz : ∀ v, s.elems[i]? = some v → v.size ≤ s.hdr.size) :
    TransSl.ArrayDataSlab_Remove (envH T) (trData s) st (u64 i) =
      match s.remove i st.ctx with
      | .error e => some (none, some e, trData s, st)
      | .ok (v, s', _) => some (some v, none, trData s', remDataStored st s') :=
  Sl_ArrayDataSlab_Remove_any (leafEnv_envH T) HSt.ctx s i st hi hlen hcnt hsz

/-- the loop of `ArrayMetaDataSlab.Remove` -/
theorem Sl_Remove_loop1_gen (T : Nat) : ∀ (n : Nat) (a : GMeta) (cs : List Nat) (k : Nat),
    a.childrenCountSum = cs.map u32 → n = cs.length - k →
    (∀ j x, k ≤ j → cs[j]? = some x → 1 ≤ x) →
    TransSl.ArrayMetaDataSlab_Remove.loop1 (envH T) n (Int.ofNat k) a =
      .done { a with childrenCountSum := (MetaSlab.bumpFrom k (· - 1) cs).map u32 }
  | 0, a, cs, k, ha, hn, _ => by
    rw [MetaSlab.bumpFrom_ge _ _ _ (by omega), ← ha]
    rfl
  | n + 1, a, cs, k, ha, hn, hpos => by
    have hk : k < cs.length := by omega
    have hget : cs[k]? = some cs[k] := List.getElem?_eq_getElem hk
    have h1 := hpos k _ (Nat.le_refl _) hget
    have e1 : (1 : UInt32) = u32 1 := rfl
    have ih := Sl_Remove_loop1_gen T n { a with childrenCountSum := (cs.set k (cs[k] - 1)).map u32 }
      (cs.set k (cs[k] - 1)) (k + 1) rfl (by simp; omega) (by
        intro j x hj hx
        rw [List.getElem?_set_ne (by omega)] at hx
        exact hpos j x (by omega) hx)
    rw [MetaSlab.bumpFrom_step k (· - 1) cs _ hget] at ih
    simp only [TransSl.ArrayMetaDataSlab_Remove.loop1, ha, List.length_map, int_dlt, hk, decide_true, if_true,
      goIdx_map, hget, Option.map_some, e1, u32_sub_eq h1, goSet_map, ofNat_succ']
    exact ih

section descent
open MetaSlab ATree

/-- the loop on a record in constructor form (the form the unfolded `Remove` presents) -/
theorem Sl_Remove_loop1_mk (T : Nat) (n k : Nat) (h : GHdr) (hs : List GHdr) (cs : List Nat) (x : Option Unit)
    (hn : n = cs.length - k) (hpos : ∀ j x, k ≤ j → cs[j]? = some x → 1 ≤ x) :
    TransSl.ArrayMetaDataSlab_Remove.loop1 (envH T) n (Int.ofNat k)
        { header := h, childrenHeaders := hs, childrenCountSum := cs.map u32, extraData := x } =
      .done { header := h, childrenHeaders := hs, childrenCountSum := (bumpFrom k (· - 1) cs).map u32,
              extraData := x } :=
  Sl_Remove_loop1_gen T n _ cs k rfl hn hpos

/-- the repair step of `Remove` (it holds under `RemTailPre`: `remTail_ok`, Props/TransDescentRemoveFull.lean): on the
    parent `m1` (count, count sums and the
    header copy of the child already updated), the child `child'` after the removal, its position and the storage
    after the child operation, the generated `MergeOrRebalanceChildSlab` returns the model's result, the children of
    the new parent are held, the slabs that left are gone, everything else is untouched. -/
def RemTailOk (T : Nat) {d : Nat} (m1 : MetaSlab (ATree d)) (child' : ATree d) (k u : Nat) (s1 : HSt) : Prop :=
  match m1.mergeOrRebalanceChildSlab T child' k u s1.ctx with
  | .ok (m2, c2) => ∃ s2 out,
      TransSl.ArrayMetaDataSlab_MergeOrRebalanceChildSlab (envH T) (trMeta m1) s1 (some (trTree d child'))
        (Int.ofNat k) (u32 u) = some (none, trMeta m2, s2, out) ∧ s2.ctx = c2 ∧ RemKidsPost s1.heap s2.heap m1 m2
  | .error _ => True

def RemTailHyp (T : Nat) : Prop :=
  ∀ (d : Nat) (m1 : MetaSlab (ATree d)) (A B : List (ATree d)) (child' : ATree d) (s1 : HSt) (addr : Nat),
    RemTailPre T m1 A B child' s1 addr →
    RemTailOk T m1 child' A.length (minThr T - (hdr d child').size) s1

/-- the repair step along the path of index `i`: at every index slab on the path whose routed child underflows
    after the removal, the generated `MergeOrRebalanceChildSlab` agrees with the model (`RemTailOk`) on every storage
    that meets `RemTailPre`.  `RemPath.of_hyp`: from the global hypothesis; `RemPath.of_noUnderflow`: trivially, when
    no child on the path underflows. -/
def RemPath (T : Nat) (addr : Nat) : (d : Nat) → ATree d → Nat → Ctx → Prop
  | 0, _, _, _ => True
  | d + 1, (m : MetaSlab (ATree d)), i, c =>
    ∀ k adj child v child' c1, m.childSlabIndexInfo i = .ok (k, adj) → m.children[k]? = some child →
      ATree.remove T d child adj c = .ok (v, child', c1) →
      RemPath T addr d child adj c ∧
      ((hdr d child').size < minThr T → ∀ (A B : List (ATree d)) (s1 : HSt), A.length = k →
        RemTailPre T (remM1 m k child') A B child' s1 addr →
        RemTailOk T (remM1 m k child') child' k (minThr T - (hdr d child').size) s1)

theorem RemPath.of_hyp {T : Nat} (h : RemTailHyp T) (addr : Nat) : ∀ (d : Nat) (t : ATree d) (i : Nat) (c : Ctx),
    RemPath T addr d t i c
  | 0, _, _, _ => trivial
  | d + 1, (m : MetaSlab (ATree d)), i, c => by
    intro k adj child v child' c1 _ _ _
    refine ⟨RemPath.of_hyp h addr d child adj c, ?_⟩
    intro _ A B s1 hk hpre
    subst hk
    exact h d _ A B child' s1 addr hpre

/-- no child on the path of index `i` underflows after the removal -/
def RemNoUnderflow (T : Nat) : (d : Nat) → ATree d → Nat → Ctx → Prop
  | 0, _, _, _ => True
  | d + 1, (m : MetaSlab (ATree d)), i, c =>
    ∀ k adj child v child' c1, m.childSlabIndexInfo i = .ok (k, adj) → m.children[k]? = some child →
      ATree.remove T d child adj c = .ok (v, child', c1) →
      RemNoUnderflow T d child adj c ∧ minThr T ≤ (hdr d child').size

theorem RemPath.of_noUnderflow {T : Nat} (addr : Nat) : ∀ (d : Nat) (t : ATree d) (i : Nat) (c : Ctx),
    RemNoUnderflow T d t i c → RemPath T addr d t i c
  | 0, _, _, _, _ => trivial
  | d + 1, (m : MetaSlab (ATree d)), i, c, h => by
    intro k adj child v child' c1 h1 h2 h3
    obtain ⟨a, b⟩ := h k adj child v child' c1 h1 h2 h3
    exact ⟨RemPath.of_noUnderflow addr d child adj c a, fun hu => absurd hu (by omega)⟩

/-- the statement for the dispatcher at tree depth `d` -/
def RemDisp (T d : Nat) : Prop :=
  ∀ (t : ATree d) (top : Bool) (i : Nat) (s : HSt) (depth addr : Nat), d ≤ depth →
    TreeInv T d top t → NotInl d t → IdsOk addr s.ctx.ctr (slabIds d t) → (hdr d t).count < 2^32 → i < 2^64 →
    Holds s.heap d t →
    match ATree.remove T d t i s.ctx with
    | .ok (v, t', c') => ∃ s',
        TransSl.ArraySlab_Remove (envH T) (TransSl.ArrayMetaDataSlab_Remove (envH T) depth) (trTree d t) s (u64 i) =
          some (some v, none, trTree d t', s') ∧ s'.ctx = c' ∧ HeapPost s.heap s'.heap t t' ∧
        ∀ id ∈ slabIds d t', id ∈ slabIds d t
    | .error e => e = .indexOutOfBounds ∧
        TransSl.ArraySlab_Remove (envH T) (TransSl.ArrayMetaDataSlab_Remove (envH T) depth) (trTree d t) s (u64 i) =
          some (none, some .indexOutOfBounds, trTree d t, s)

/-- the statement for an index slab whose children have depth `d` -/
def RemMeta (T d : Nat) : Prop :=
  ∀ (m : MetaSlab (ATree d)) (top : Bool) (i : Nat) (s : HSt) (depth addr : Nat), d ≤ depth →
    TreeInv T (d + 1) top (ofMeta m) → IdsOk addr s.ctx.ctr (slabIds (d + 1) (ofMeta m)) → m.hdr.count < 2^32 →
    i < 2^64 → HoldsChildren s.heap m →
    match ATree.remove T (d + 1) (ofMeta m) i s.ctx with
    | .ok (v, t', c') => ∃ s',
        TransSl.ArrayMetaDataSlab_Remove (envH T) (depth + 1) (trMeta m) s (u64 i) =
          some (some v, none, trMeta (t' : MetaSlab (ATree d)), s') ∧ s'.ctx = c' ∧
        @HeapPost s.heap s'.heap (d + 1) (d + 1) m t' ∧
        ∀ id ∈ slabIds (d + 1) t', id ∈ slabIds (d + 1) (ofMeta m)
    | .error e => e = .indexOutOfBounds ∧
        TransSl.ArrayMetaDataSlab_Remove (envH T) (depth + 1) (trMeta m) s (u64 i) =
          some (none, some .indexOutOfBounds, trMeta m, s)

theorem remDisp_zero (T : Nat) (hT : legalThreshold T = true) : RemDisp T 0 := by
  intro (t : DataSlab) top i s depth addr _ hinv hni _ hcnt hi hh
  have hinv : DataInv T top t := hinv
  have hni : t.inlined = false := hni
  have hcnt : t.hdr.count < 2^32 := hcnt
  have hce := hinv.count_eq
  have hfit := dataInv_fits hT hinv
  have hgen := Sl_ArrayDataSlab_Remove_envH T t i s hi (by omega) (by omega) (by
    intro v hv
    have := sumSizes_eraseIdx _ _ _ hv
    omega)
  have e0 : ATree.remove T 0 t i s.ctx = DataSlab.remove t i s.ctx := rfl
  rw [e0]
  simp only [trTree, TransSl.ArraySlab_Remove, hgen]
  unfold DataSlab.remove
  cases hg : t.elems[i]? with
  | none => simp
  | some v =>
    -- `by`: elaborated last, when the goal has fixed the new slab
    exact ⟨_, rfl, remDataStored_ctx s _, And.right (leafStored_envH T s hni (by rfl) (by rfl)), fun id h => h⟩

end descent

section descent2
open MetaSlab ATree

/-- the record `ArrayMetaDataSlab.Remove` has built when it reaches its tail is the translation of `remM1` -/
theorem remRec_eq {d : Nat} (m : MetaSlab (ATree d)) (k : Nat) (child' : ATree d) :
    ({ header := { slabID := (trHdr m.hdr).slabID, size := (trHdr m.hdr).size, count := u32 (m.hdr.count - 1) },
       childrenHeaders := List.map trHdr (m.childHdrs.set k (ATree.hdr d child')),
       childrenCountSum := List.map u32 (bumpFrom k (fun x => x - 1) m.countSum),
       extraData := trExtra m.root } : GMeta) = trMeta (remM1 m k child') := rfl

/-- the bounds check at the entry of `ArrayMetaDataSlab.Remove` (stated for a variable record: unfolding the
    generated function on `trMeta m` is much dearer) -/
theorem metaRemove_oob {σ υ ξ ε S Φ : Type} (env : TransSl.Env σ υ ξ ε S Φ) (depth : Nat)
    (a : TransSl.ArrayMetaDataSlab ξ) (s : S) (i : UInt64) (h : decide (i ≥ a.header.count.toUInt64) = true) :
    TransSl.ArrayMetaDataSlab_Remove env (depth + 1) a s i =
      some (none, env.NewIndexOutOfBoundsError i 0 a.header.count.toUInt64, a, s) := by
  unfold TransSl.ArrayMetaDataSlab_Remove
  exact if_pos h

end descent2

section
variable {σ υ ξ ε S Φ : Type}

/-- `ArrayMetaDataSlab.Remove` after a successful child operation: the count and the count sums from the child on are
    decremented (`a1`), the header copy of the child is overwritten, the repair step runs (the child has shrunk, so it
    is not full), and if the child underflowed the parent is stored once more -/
theorem metaRemove_step (env : TransSl.Env σ υ ξ ε S Φ) (depth : Nat) (a a1 : TransSl.ArrayMetaDataSlab ξ) (s s1 : S)
    (idx adj : UInt64) (k : Int) (cid : SlabID) (child child1 : TransSl.ArraySlabV σ ξ) (v : Option σ)
    (l8 : List TransSl.ArraySlabHeader)
    (h0 : decide (idx ≥ a.header.count.toUInt64) = false)
    (h1 : env.ArrayMetaDataSlab_childSlabIndexInfo a idx = (k, adj, cid, none))
    (h2 : env.getArraySlab s cid = (some child, none, s))
    (h3 : TransSl.ArraySlab_Remove env (TransSl.ArrayMetaDataSlab_Remove env depth) child s adj =
      some (v, none, child1, s1))
    (h4 : TransSl.ArrayMetaDataSlab_Remove.loop1 env ((Int.ofNat a.childrenCountSum.length) - k).toNat k
      { a with header := { a.header with count := a.header.count - 1 } } = .done a1)
    (h5 : TransSl.goSet a1.childrenHeaders k (TransSl.ArraySlab_Header env child1) = some l8)
    (hf : TransSl.ArraySlab_IsFull env child1 = false) :
    TransSl.ArrayMetaDataSlab_Remove env (depth + 1) a s idx =
      match genTail env { a1 with childrenHeaders := l8 } s1 child1 k with
      | some r =>
        if r.1.isSome then some (none, r.1, r.2.1, r.2.2)
        else if (TransSl.ArraySlab_IsUnderflow env child1).2 then
          match TransSl.storeSlab env r.2.2 (some (.metaSlab r.2.1)) with
          | some q => if q.1.isSome then some (none, q.1, r.2.1, q.2) else some (v, none, r.2.1, q.2)
          | none => none
        else some (v, none, r.2.1, r.2.2)
      | none => none := by
  simp only [TransSl.ArrayMetaDataSlab_Remove, h0, h1, h2, h3, h4, h5, Bool.false_eq_true, if_false,
    Option.isSome_none, genTail, hf]
  cases (TransSl.ArraySlab_IsUnderflow env child1).2
  · cases TransSl.storeSlab env s1 (some (.metaSlab { a1 with childrenHeaders := l8 })) <;> rfl
  · cases TransSl.ArrayMetaDataSlab_MergeOrRebalanceChildSlab env { a1 with childrenHeaders := l8 } s1 (some child1) k
        (TransSl.ArraySlab_IsUnderflow env child1).1 with
    | none => rfl
    | some r =>
      simp only [if_true, Option.map_some]
      cases TransSl.storeSlab env r.2.2.1 (some (.metaSlab r.2.1)) <;> rfl
end

section descent2
open MetaSlab ATree

theorem remMeta_of_disp (T d : Nat) (hT : legalThreshold T = true) (ih : RemDisp T d) : RemMeta T d := by
  intro m top i s depth addr hd' hinv hids hcnt hi hh
  have ht := thresholds_fit hT
  obtain ⟨hs, _, _, _⟩ := (treeInv_succ T d top m).1 hinv
  have hcnt64 : (u32 m.hdr.count).toUInt64 = u64 m.hdr.count := u32_toUInt64 hcnt
  by_cases hge : i ≥ m.hdr.count
  · rw [remove_succ_err m i s.ctx hge]
    exact ⟨rfl, metaRemove_oob _ _ _ _ _ (by
      rw [trMeta_header, trHdr_count, hcnt64, u64_dge hi (lt64_of_lt32 hcnt)]; exact decide_eq_true hge)⟩
  · have hlt : i < m.hdr.count := Nat.lt_of_not_le hge
    obtain ⟨A, child, B, adj, hch, hroute, _, hadj, hget, hmem, _, _, hc, hccnt, hadj64, e1⟩ :=
      descent_route hT hs hcnt hi hlt
    have hcpos := hc.count_pos hT
    -- the child: model, then generated code
    obtain ⟨child', c1, hrem, hstep, _, hcntc, hsz1, hsz2, hsz3⟩ :=
      remove_gen hT d child false adj s.ctx hc hc.notInl_of_false hadj
    have e3 := ih child false adj s depth addr hd' hc hc.notInl_of_false (ids_child hch hids) hccnt hadj64 (hh child hmem)
    rw [hrem] at e3
    obtain ⟨s1, e3, rfl, hp1, hsub1⟩ := e3
    -- the level
    have hpos1 : 1 ≤ sumCounts (A.map (hdr d)) + (hdr d child).count := Nat.le_trans hcpos (Nat.le_add_left _ _)
    obtain ⟨hch1, hbook1, hcount1⟩ := written_back (f := (· - 1)) hs hch (Nat.eq_sub_of_add_eq hcntc)
      (fun x y hx => Nat.sub_add_comm (Nat.le_trans hcpos hx))
    have hnf : (hdr d child').size ≤ maxThr T := Nat.le_trans hsz1 hc.le_max
    obtain ⟨m2, c2, s2, haft, hg, hc2, hp, _, hsubm2⟩ := descent_level (m1 := remM1 m A.length child') hT hinv hch hh hids
      (fun id hid hnid => absurd (hsub1 id hid) hnid) hstep hp1 (Nat.le_trans hsz1 (Nat.le_add_right _ _)) hsz2 hsz3
      hch1 rfl rfl rfl hbook1 hcount1 (Nat.lt_of_le_of_lt (Nat.sub_le _ _) hcnt)
    have hsubm2 := hsubm2 hnf hsub1
    -- the generated code up to the tail
    have hm1 : 1 ≤ m.hdr.count := Nat.lt_of_le_of_lt (Nat.zero_le i) hlt
    have one32 : (1 : UInt32) = u32 1 := rfl
    have hkA : A.length < m.childHdrs.length := by rw [hs.hdrs_eq, hch]; simp
    have hfuel : (Int.ofNat (List.map u32 m.countSum).length - Int.ofNat A.length).toNat =
        m.countSum.length - A.length := by
      rw [List.length_map]; exact Int.toNat_sub _ _
    have hpos : ∀ j x, A.length ≤ j → m.countSum[j]? = some x → 1 ≤ x := by
      intro j x hj hx
      have hh' : m.childHdrs = A.map (hdr d) ++ hdr d child :: B.map (hdr d) := by
        rw [hs.hdrs_eq, hch]; simp
      rw [hs.sums_eq, hh', prefixSums_mid,
        List.getElem?_append_right (by simp [prefixSums_length]; exact hj)] at hx
      rcases List.mem_cons.mp (List.mem_of_getElem? hx) with rfl | hx''
      · exact hpos1
      · exact Nat.le_trans hpos1 (prefixSums_mem_ge _ _ x hx'')
    have hszc' : (hdr d child').size < 2^32 := Nat.lt_of_le_of_lt hnf ht.2.2.1
    have hnfull : ¬ ATree.isFull T d child' = true := fun hf => Nat.not_lt.2 hnf ((isFull_iff T d child').1 hf)
    have hIF : TransSl.ArraySlab_IsFull (envH T) (trTree d child') = false := by
      rw [setH_IsFull T d child' hszc' ht.2.2.1]; exact Bool.eq_false_iff.2 hnfull
    have hIU := setH_IsUnderflow T d child' hszc' ht.2.1
    have h0 : decide (u64 i ≥ (trMeta m).header.count.toUInt64) = false := by
      rw [trMeta_header, trHdr_count, hcnt64, u64_dge hi (lt64_of_lt32 hcnt)]; exact decide_eq_false hge
    have hloop : TransSl.ArrayMetaDataSlab_Remove.loop1 (envH T)
        ((Int.ofNat (trMeta m).childrenCountSum.length) - Int.ofNat A.length).toNat (Int.ofNat A.length)
        { trMeta m with header := { (trMeta m).header with count := (trMeta m).header.count - 1 } } =
          .done { header := { slabID := (trHdr m.hdr).slabID, size := (trHdr m.hdr).size,
                              count := u32 (m.hdr.count - 1) },
                  childrenHeaders := m.childHdrs.map trHdr,
                  childrenCountSum := (bumpFrom A.length (fun x => x - 1) m.countSum).map u32,
                  extraData := trExtra m.root } := by
      simp only [trMeta_childrenCountSum, hfuel, trMeta_header, trHdr_count, one32, u32_sub_eq hm1]
      exact Sl_Remove_loop1_mk T _ _ _ _ _ _ rfl hpos
    have hhdr : TransSl.goSet (m.childHdrs.map trHdr) (Int.ofNat A.length)
        (TransSl.ArraySlab_Header (envH T) (trTree d child')) =
          some ((m.childHdrs.set A.length (hdr d child')).map trHdr) := by
      rw [disp_Header_any, goSet_map, if_pos hkA]
    rw [metaRemove_step (envH T) depth (trMeta m) _ s s1 (u64 i) (u64 adj) (Int.ofNat A.length) (hdr d child).id
      (trTree d child) (trTree d child') (some ((flatten d child).getD adj default)) _ h0 e1
      (getArraySlab_envH_some T s _ _ (hh child hmem).root) e3 hloop hhdr hIF]
    simp only [remRec_eq]
    rw [hg, hIU]
    simp only [Option.isSome_none, Bool.false_eq_true, if_false, storeSlab_envH_meta]
    by_cases hu : (hdr d child').size < minThr T
    · -- underflow: the parent is stored once more
      rw [afterSet_under _ _ _ _ hnfull hu] at haft
      rw [isUnderflow_some T d child' hu, remove_succ_ok m m2 i A.length adj _ s.ctx s1.ctx c2 child child' hge hroute
        hget hrem (by rw [isUnderflow_some T d child' hu]; exact haft)]
      exact ⟨s2.store m2.hdr.id (some (.metaSlab (trMeta m2))), rfl, by simp [hc2], hp.restore, hsubm2⟩
    · have hu := Nat.le_of_not_lt hu
      rw [afterSet_none _ _ _ _ hnfull hu] at haft
      simp only [Except.ok.injEq, Prod.mk.injEq] at haft
      obtain ⟨rfl, rfl⟩ := haft
      rw [isUnderflow_none T d child' hu, remove_succ_ok m (remM1 m A.length child') i A.length adj _ s.ctx s1.ctx
        s1.ctx child child' hge hroute hget hrem (by rw [isUnderflow_none T d child' hu])]
      exact ⟨s2, rfl, hc2, hp, hsubm2⟩

theorem remDisp_succ (T d : Nat) (ih : RemMeta T d) : RemDisp T (d + 1) := by
  intro (t : MetaSlab (ATree d)) top i s depth addr hd hinv _ hids hcnt hi hh
  obtain ⟨depth, rfl⟩ : ∃ n, depth = n + 1 := ⟨depth - 1, by omega⟩
  have h := ih t top i s depth addr (by omega) hinv hids hcnt hi hh.2
  unfold ofMeta at h
  cases hr : ATree.remove T (d + 1) t i s.ctx with
  | error e =>
    rw [hr] at h
    obtain ⟨h1, h2⟩ := h
    exact ⟨h1, by simp only [trTree, TransSl.ArraySlab_Remove, h2]⟩
  | ok res =>
    obtain ⟨v, t', c'⟩ := res
    rw [hr] at h
    obtain ⟨s', h1, h2, h3, h4⟩ := h
    exact ⟨s', by simp only [trTree, TransSl.ArraySlab_Remove, h1], h2, h3, h4⟩

theorem remDisp_all (T : Nat) (hT : legalThreshold T = true) : ∀ d, RemDisp T d
  | 0 => remDisp_zero T hT
  | d + 1 => remDisp_succ T d (remMeta_of_disp T d hT (remDisp_all T hT d))

end descent2

section final
open MetaSlab ATree

/-- **`ArraySlab.Remove` over a heap**: on a heap that holds a valid tree, with a depth argument
    that covers the tree, the generated code returns what the model's `ATree.remove` returns - the removed element, the
    new tree (children that underflow are rebalanced with / merged into a sibling), the model's `Ctx` - and the heap
    holds the new tree, the slab that left the tree in a merge is gone, everything else is untouched.  Past the end:
    `IndexOutOfBoundsError`, nothing touched. -/
theorem Sl_ArraySlab_Remove_heap_full (T : Nat) (hT : legalThreshold T = true) (d : Nat) (t : ATree d) (top : Bool)
    (i : Nat) (s : HSt) (depth addr : Nat) (hd : d ≤ depth) (hinv : TreeInv T d top t) (hni : NotInl d t)
    (hids : IdsOk addr s.ctx.ctr (slabIds d t)) (hcnt : (hdr d t).count < 2^32) (hi : i < 2^64)
    (hh : Holds s.heap d t) :
    match ATree.remove T d t i s.ctx with
    | .ok (v, t', c') => ∃ s',
        TransSl.ArraySlab_Remove (envH T) (TransSl.ArrayMetaDataSlab_Remove (envH T) depth) (trTree d t) s (u64 i) =
          some (some v, none, trTree d t', s') ∧ s'.ctx = c' ∧ HeapPost s.heap s'.heap t t' ∧
        ∀ id ∈ slabIds d t', id ∈ slabIds d t
    | .error e => e = .indexOutOfBounds ∧
        TransSl.ArraySlab_Remove (envH T) (TransSl.ArrayMetaDataSlab_Remove (envH T) depth) (trTree d t) s (u64 i) =
          some (none, some .indexOutOfBounds, trTree d t, s) :=
  remDisp_all T hT d t top i s depth addr hd hinv hni hids hcnt hi hh

/-- **`ArrayMetaDataSlab.Remove` over a heap**: the receiver is the translation of a model index slab (passed by value),
    its children are held by the heap -/
theorem Sl_ArrayMetaDataSlab_Remove_heap_full (T : Nat) (hT : legalThreshold T = true) (d : Nat)
    (m : MetaSlab (ATree d)) (top : Bool) (i : Nat) (s : HSt) (depth addr : Nat) (hd : d ≤ depth)
    (hinv : TreeInv T (d + 1) top (ofMeta m)) (hids : IdsOk addr s.ctx.ctr (slabIds (d + 1) (ofMeta m)))
    (hcnt : m.hdr.count < 2^32) (hi : i < 2^64) (hh : HoldsChildren s.heap m) :
    match ATree.remove T (d + 1) (ofMeta m) i s.ctx with
    | .ok (v, t', c') => ∃ s',
        TransSl.ArrayMetaDataSlab_Remove (envH T) (depth + 1) (trMeta m) s (u64 i) =
          some (some v, none, trMeta (t' : MetaSlab (ATree d)), s') ∧ s'.ctx = c' ∧
        @HeapPost s.heap s'.heap (d + 1) (d + 1) m t' ∧
        ∀ id ∈ slabIds (d + 1) t', id ∈ slabIds (d + 1) (ofMeta m)
    | .error e => e = .indexOutOfBounds ∧
        TransSl.ArrayMetaDataSlab_Remove (envH T) (depth + 1) (trMeta m) s (u64 i) =
          some (none, some .indexOutOfBounds, trMeta m, s) :=
  remMeta_of_disp T d hT (remDisp_all T hT d) m top i s depth addr hd hinv hids hcnt hi hh

/-- `Sl_ArraySlab_Remove_heap_full` under a hypothesis it does not need (`RemPath`, which holds of every valid tree:
    `RemPath.of_inv`, Props/TransDescentRemoveFull.lean) -/
theorem Sl_ArraySlab_Remove_heap (T : Nat) (hT : legalThreshold T = true) (d : Nat) (t : ATree d) (top : Bool) (i : Nat)
    (s : HSt) (depth addr : Nat) (hd : d ≤ depth) (hinv : TreeInv T d top t) (hni : NotInl d t)
    (hids : IdsOk addr s.ctx.ctr (slabIds d t)) (hcnt : (hdr d t).count < 2^32) (hi : i < 2^64)
    (hh : Holds s.heap d t) (htail : RemPath T addr d t i s.ctx) :
    match ATree.remove T d t i s.ctx with
    | .ok (v, t', c') => ∃ s',
        TransSl.ArraySlab_Remove (envH T) (TransSl.ArrayMetaDataSlab_Remove (envH T) depth) (trTree d t) s (u64 i) =
          some (some v, none, trTree d t', s') ∧ s'.ctx = c' ∧ HeapPost s.heap s'.heap t t' ∧
        ∀ id ∈ slabIds d t', id ∈ slabIds d t
    | .error e => e = .indexOutOfBounds ∧
        TransSl.ArraySlab_Remove (envH T) (TransSl.ArrayMetaDataSlab_Remove (envH T) depth) (trTree d t) s (u64 i) =
          some (none, some .indexOutOfBounds, trTree d t, s) :=
  Sl_ArraySlab_Remove_heap_full T hT d t top i s depth addr hd hinv hni hids hcnt hi hh

/-- `Sl_ArraySlab_Remove_heap_full` under a hypothesis it does not need, and which is FALSE at T = 256 (`RemTailHyp`:
    `remTailHyp_false`, Props/TransDescentRemoveFull.lean) -/
theorem Sl_ArraySlab_Remove_heap_of_tail (T : Nat) (hT : legalThreshold T = true) (htail : RemTailHyp T) (d : Nat)
    (t : ATree d) (top : Bool) (i : Nat) (s : HSt) (depth addr : Nat) (hd : d ≤ depth) (hinv : TreeInv T d top t)
    (hni : NotInl d t) (hids : IdsOk addr s.ctx.ctr (slabIds d t)) (hcnt : (hdr d t).count < 2^32) (hi : i < 2^64)
    (hh : Holds s.heap d t) :
    match ATree.remove T d t i s.ctx with
    | .ok (v, t', c') => ∃ s',
        TransSl.ArraySlab_Remove (envH T) (TransSl.ArrayMetaDataSlab_Remove (envH T) depth) (trTree d t) s (u64 i) =
          some (some v, none, trTree d t', s') ∧ s'.ctx = c' ∧ HeapPost s.heap s'.heap t t' ∧
        ∀ id ∈ slabIds d t', id ∈ slabIds d t
    | .error e => e = .indexOutOfBounds ∧
        TransSl.ArraySlab_Remove (envH T) (TransSl.ArrayMetaDataSlab_Remove (envH T) depth) (trTree d t) s (u64 i) =
          some (none, some .indexOutOfBounds, trTree d t, s) :=
  Sl_ArraySlab_Remove_heap_full T hT d t top i s depth addr hd hinv hni hids hcnt hi hh

/-- `Sl_ArraySlab_Remove_heap_full` under a hypothesis it does not need (`RemNoUnderflow`: no child on the path
    underflows; the repair step is then one `storeSlab` per index slab of the path) -/
theorem Sl_ArraySlab_Remove_heap_noUnderflow (T : Nat) (hT : legalThreshold T = true) (d : Nat) (t : ATree d)
    (top : Bool) (i : Nat) (s : HSt) (depth addr : Nat) (hd : d ≤ depth) (hinv : TreeInv T d top t) (hni : NotInl d t)
    (hids : IdsOk addr s.ctx.ctr (slabIds d t)) (hcnt : (hdr d t).count < 2^32) (hi : i < 2^64)
    (hh : Holds s.heap d t) (hnu : RemNoUnderflow T d t i s.ctx) :
    match ATree.remove T d t i s.ctx with
    | .ok (v, t', c') => ∃ s',
        TransSl.ArraySlab_Remove (envH T) (TransSl.ArrayMetaDataSlab_Remove (envH T) depth) (trTree d t) s (u64 i) =
          some (some v, none, trTree d t', s') ∧ s'.ctx = c' ∧ HeapPost s.heap s'.heap t t' ∧
        ∀ id ∈ slabIds d t', id ∈ slabIds d t
    | .error e => e = .indexOutOfBounds ∧
        TransSl.ArraySlab_Remove (envH T) (TransSl.ArrayMetaDataSlab_Remove (envH T) depth) (trTree d t) s (u64 i) =
          some (none, some .indexOutOfBounds, trTree d t, s) :=
  Sl_ArraySlab_Remove_heap_full T hT d t top i s depth addr hd hinv hni hids hcnt hi hh

/-- a root data slab (a tree of depth 0) -/
theorem Sl_ArraySlab_Remove_heap_data (T : Nat) (hT : legalThreshold T = true) (t : DataSlab) (top : Bool) (i : Nat)
    (s : HSt) (depth addr : Nat) (hinv : DataInv T top t) (hni : t.inlined = false)
    (hids : IdsOk addr s.ctx.ctr [t.hdr.id]) (hcnt : t.hdr.count < 2^32) (hi : i < 2^64)
    (hh : s.heap t.hdr.id = some (.dataSlab (trData t))) :
    match t.remove i s.ctx with
    | .ok (v, t', c') => ∃ s',
        TransSl.ArraySlab_Remove (envH T) (TransSl.ArrayMetaDataSlab_Remove (envH T) depth) (.dataSlab (trData t)) s
          (u64 i) = some (some v, none, .dataSlab (trData t'), s') ∧ s'.ctx = c' ∧
        @HeapPost s.heap s'.heap 0 0 t t' ∧ t'.hdr.id = t.hdr.id
    | .error e => e = .indexOutOfBounds ∧
        TransSl.ArraySlab_Remove (envH T) (TransSl.ArrayMetaDataSlab_Remove (envH T) depth) (.dataSlab (trData t)) s
          (u64 i) = some (none, some .indexOutOfBounds, .dataSlab (trData t), s) := by
  have h := Sl_ArraySlab_Remove_heap_full T hT 0 t top i s depth addr (Nat.zero_le _) hinv hni hids hcnt hi hh
  have e0 : ATree.remove T 0 t i s.ctx = DataSlab.remove t i s.ctx := rfl
  rw [e0] at h
  cases hr : DataSlab.remove t i s.ctx with
  | error e => rw [hr] at h; exact h
  | ok res =>
    obtain ⟨v, t', c'⟩ := res
    rw [hr] at h
    obtain ⟨s', h1, h2, h3, h4⟩ := h
    exact ⟨s', h1, h2, h3, List.mem_singleton.1 (h4 _ (List.mem_singleton.2 rfl))⟩

/-- `Sl_ArrayMetaDataSlab_Remove_heap_full` under a hypothesis it does not need (`RemPath`) -/
theorem Sl_ArrayMetaDataSlab_Remove_heap (T : Nat) (hT : legalThreshold T = true) (d : Nat) (m : MetaSlab (ATree d))
    (top : Bool) (i : Nat) (s : HSt) (depth addr : Nat) (hd : d ≤ depth) (hinv : TreeInv T (d + 1) top (ofMeta m))
    (hids : IdsOk addr s.ctx.ctr (slabIds (d + 1) (ofMeta m))) (hcnt : m.hdr.count < 2^32) (hi : i < 2^64)
    (hh : HoldsChildren s.heap m) (htail : RemPath T addr (d + 1) (ofMeta m) i s.ctx) :
    match ATree.remove T (d + 1) (ofMeta m) i s.ctx with
    | .ok (v, t', c') => ∃ s',
        TransSl.ArrayMetaDataSlab_Remove (envH T) (depth + 1) (trMeta m) s (u64 i) =
          some (some v, none, trMeta (t' : MetaSlab (ATree d)), s') ∧ s'.ctx = c' ∧
        @HeapPost s.heap s'.heap (d + 1) (d + 1) m t' ∧
        ∀ id ∈ slabIds (d + 1) t', id ∈ slabIds (d + 1) (ofMeta m)
    | .error e => e = .indexOutOfBounds ∧
        TransSl.ArrayMetaDataSlab_Remove (envH T) (depth + 1) (trMeta m) s (u64 i) =
          some (none, some .indexOutOfBounds, trMeta m, s) :=
  Sl_ArrayMetaDataSlab_Remove_heap_full T hT d m top i s depth addr hd hinv hids hcnt hi hh

/-- a tree of depth 1 whose routed leaf does not underflow (a hypothesis `Sl_ArrayMetaDataSlab_Remove_heap_full` does
    not need) -/
theorem Sl_ArrayMetaDataSlab_Remove_heap_depth1 (T : Nat) (hT : legalThreshold T = true) (m : MetaSlab (ATree 0))
    (top : Bool) (i : Nat) (s : HSt) (depth addr : Nat) (hinv : TreeInv T (0 + 1) top (ofMeta m))
    (hids : IdsOk addr s.ctx.ctr (slabIds (0 + 1) (ofMeta m))) (hcnt : m.hdr.count < 2^32) (hi : i < 2^64)
    (hh : HoldsChildren s.heap m)
    (hnu : ∀ k adj (child : DataSlab) v child' c1, m.childSlabIndexInfo i = .ok (k, adj) →
      m.children[k]? = some child → child.remove adj s.ctx = .ok (v, child', c1) → minThr T ≤ child'.hdr.size) :
    match ATree.remove T (0 + 1) (ofMeta m) i s.ctx with
    | .ok (v, t', c') => ∃ s',
        TransSl.ArrayMetaDataSlab_Remove (envH T) (depth + 1) (trMeta m) s (u64 i) =
          some (some v, none, @trMeta (ATree 0) t', s') ∧ s'.ctx = c' ∧
        @HeapPost s.heap s'.heap (0 + 1) (0 + 1) m t' ∧ ∀ id ∈ slabIds (0 + 1) t', id ∈ slabIds (0 + 1) (ofMeta m)
    | .error e => e = .indexOutOfBounds ∧
        TransSl.ArrayMetaDataSlab_Remove (envH T) (depth + 1) (trMeta m) s (u64 i) =
          some (none, some .indexOutOfBounds, trMeta m, s) := by
  have h := Sl_ArrayMetaDataSlab_Remove_heap_full T hT 0 m top i s depth addr (Nat.zero_le _) hinv hids hcnt hi hh
  cases hr : ATree.remove T (0 + 1) (ofMeta m) i s.ctx with
  | error e => rw [hr] at h; exact h
  | ok res =>
    obtain ⟨v, t', c'⟩ := res
    rw [hr] at h
    exact h

/-- the depth argument is exhausted (the tree is deeper): the generated code leaves the modelled fragment -/
theorem Sl_ArrayMetaDataSlab_Remove_depth0 (T : Nat) (a : GMeta) (s : HSt) (i : UInt64) :
    TransSl.ArrayMetaDataSlab_Remove (envH T) 0 a s i = none := rfl

end final

section examples
open MetaSlab ATree

/-- a leaf `(1,id)` of `n` elements of 60 bytes -/
def remExLeaf (id n : Nat) : DataSlab :=
  { hdr := ⟨⟨1, id⟩, 21 + 60 * n, n⟩, next := SlabID.undef,
    elems := (List.range n).map (fun j => ⟨60, .val (10 * id + j)⟩), root := false, inlined := false }

/-- a root index slab `(1,1)` over two leaves of 3 elements (201 bytes each; minimum 128 for slab size 256) -/
def remExRoot : MetaSlab (ATree 0) :=
  { hdr := ⟨⟨1, 1⟩, 40, 6⟩, childHdrs := [(remExLeaf 2 3).hdr, (remExLeaf 3 3).hdr], countSum := [3, 6],
    children := [remExLeaf 2 3, remExLeaf 3 3], root := true }

def remExSt : HSt := ⟨heapOf 1 remExRoot, ⟨5, [], []⟩⟩

/-- the generated `ArrayMetaDataSlab.Remove` evaluated on the heap of the tree (index 4: second leaf, position 1; no
    underflow): the element, the new index slab and the `Ctx` of the model; the heap holds the new leaf and root -/
example :
    (TransSl.ArrayMetaDataSlab_Remove (envH 256) 1 (trMeta remExRoot) remExSt 4).map
      (fun r => (r.1, r.2.1, r.2.2.1, r.2.2.2.ctx.ctr, r.2.2.2.ctx.eff, r.2.2.2.heap ⟨1, 3⟩, r.2.2.2.heap ⟨1, 1⟩)) =
    (match ATree.remove 256 1 remExRoot 4 remExSt.ctx with
     | .ok (v, t', c') => some (some v, none, trMeta (t' : MetaSlab (ATree 0)), c'.ctr, c'.eff,
         heapOf 1 t' ⟨1, 3⟩, heapOf 1 t' ⟨1, 1⟩)
     | .error _ => none) := by rfl

example : (ATree.remove 256 1 remExRoot 4 remExSt.ctx).toOption.map (fun r => (r.1, r.2.2.eff)) =
    some (⟨60, .val 31⟩, [.store ⟨1, 3⟩, .store ⟨1, 1⟩]) := by rfl

/-- past the end -/
example : TransSl.ArrayMetaDataSlab_Remove (envH 256) 1 (trMeta remExRoot) remExSt 6 =
    some (none, some .indexOutOfBounds, trMeta remExRoot, remExSt) := by rfl

theorem remExLeaf_inv (id : Nat) : DataInv 256 false (remExLeaf id 3) := by
  refine ⟨rfl, rfl, ?_, rfl, by simp [remExLeaf], ?_, fun _ => ?_⟩
  · intro e he
    simp only [remExLeaf, List.mem_map] at he
    obtain ⟨a, _, rfl⟩ := he
    exact ⟨by show 1 ≤ 60; decide, by show 60 ≤ maxInlineArr 256; decide⟩
  · show 201 ≤ maxThr 256; decide
  · show minThr 256 ≤ 201; decide

theorem remExRoot_kids (c : ATree 0) (hc : c ∈ remExRoot.children) : c = remExLeaf 2 3 ∨ c = remExLeaf 3 3 := by
  have : remExRoot.children = [remExLeaf 2 3, remExLeaf 3 3] := rfl
  rw [this] at hc
  rcases List.mem_cons.mp hc with h | h
  · exact Or.inl h
  · exact Or.inr (List.mem_singleton.mp h)

theorem remExRoot_inv : TreeInv 256 (0 + 1) true (ofMeta remExRoot) := by
  refine (treeInv_succ 256 0 true remExRoot).2 ⟨⟨rfl, rfl, rfl, rfl, rfl, ?_, ?_⟩, by decide, fun h => (by cases h),
    fun _ => (by decide)⟩
  · intro c hc
    rcases remExRoot_kids c hc with rfl | rfl <;> exact remExLeaf_inv _
  · intro c hc
    rcases remExRoot_kids c hc with rfl | rfl <;> rfl

/-- the hypotheses of `Sl_ArrayMetaDataSlab_Remove_heap_depth1` (hence of `Sl_ArrayMetaDataSlab_Remove_heap`) are
    satisfiable: the tree above, its heap, index 4 -/
example := Sl_ArrayMetaDataSlab_Remove_heap_depth1 256 (by decide) remExRoot true 4 remExSt 0 1 remExRoot_inv
    (by
      refine ⟨by decide, ?_⟩
      intro id hid
      have e : slabIds (0 + 1) (ofMeta remExRoot) = [⟨1, 1⟩, ⟨1, 2⟩, ⟨1, 3⟩] := rfl
      rw [e] at hid
      simp only [List.mem_cons, List.not_mem_nil, or_false] at hid
      rcases hid with rfl | rfl | rfl <;> decide)
    (by decide) (by decide)
    (by
      intro c hc
      rcases remExRoot_kids c hc with rfl | rfl <;> rfl)
    (by
      intro k adj child v child' c1 h1 h2 h3
      have e : remExRoot.childSlabIndexInfo 4 = .ok (1, 1) := by rfl
      rw [e] at h1
      cases h1
      have e2 : remExRoot.children[1]? = some (remExLeaf 3 3) := rfl
      have hc : child = remExLeaf 3 3 := Option.some.inj (h2.symm.trans e2)
      subst hc
      cases h3
      decide)

/-- OBSERVATION (`a.header.count--` of `ArrayDataSlab.Remove` is a `uint32` decrement): on a CORRUPT data slab whose
    header count is 0 while it has an element, Go wraps the count around to 2^32 - 1, the model's `Nat` subtraction
    stays at 0.  `DataInv.count_eq` excludes such a slab; `Sl_ArrayDataSlab_Remove_envH` asks for `1 ≤ count`. -/
theorem Sl_ArrayDataSlab_Remove_differs_at :
    let s : DataSlab := { hdr := ⟨⟨1, 2⟩, 26, 0⟩, next := SlabID.undef, elems := [⟨5, .val 0⟩], root := true,
                          inlined := false }
    let st : HSt := ⟨fun _ => none, ⟨5, [], []⟩⟩
    (TransSl.ArrayDataSlab_Remove (envH 256) (trData s) st 0).map (fun r => (r.1, r.2.2.1.header.count)) =
      some (some ⟨5, .val 0⟩, 4294967295) ∧
    (s.remove 0 st.ctx).toOption.map (fun r => (r.1, r.2.1.hdr.count)) = some (⟨5, .val 0⟩, 0) := by
  exact ⟨by rfl, by rfl⟩

/-- OBSERVATION (the loop `a.childrenCountSum[i]--` of `ArrayMetaDataSlab.Remove`): on a count sum that is 0 the
    `uint32` decrement wraps around, the model's `bumpFrom k (· - 1)` stays at 0.  In a valid tree every count sum from
    the routed child on is at least 1 (`Sl_Remove_loop1_gen` asks for exactly that). -/
theorem Sl_ArrayMetaDataSlab_Remove_loop_differs_at :
    let m : MetaSlab Unit := { hdr := ⟨⟨1, 1⟩, 26, 0⟩, childHdrs := [⟨⟨1, 2⟩, 21, 0⟩], countSum := [0],
                               children := [()], root := true }
    (match TransSl.ArrayMetaDataSlab_Remove.loop1 (envH 256) 1 0 (trMeta m) with
      | .done a => some a.childrenCountSum
      | .ret _ => none) = some [4294967295] ∧
    (bumpFrom 0 (· - 1) m.countSum).map u32 = [0] := by
  exact ⟨by rfl, by rfl⟩

end examples

end Atree.TransEq

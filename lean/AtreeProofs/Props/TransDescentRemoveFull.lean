import AtreeProofs.Props.TransDescentRemove
import AtreeProofs.Props.TransDescentMor
import AtreeProofs.Props.TransDescentInsertFull
/-
  TRANSLATION EQUIVALENCE, the array descent: the path form `RemPath` of what `MergeOrRebalanceChildSlab` does
  (Props/TransDescentRemove.lean) follows from `TreeInv` (`remTail_ok`, `RemPath.of_inv`; from `morTail_sim` and
  `mor_heapPost`, Props/TransDescentMor.lean); and instances of `Sl_ArrayMetaDataSlab_Remove_heap_full`
  (Props/TransDescentRemove.lean) on removals whose routed child DOES underflow.

  KNOWN FINDING `remTailHyp_false`: `¬ RemTailHyp 256`.  An index slab without children meets `RemTailPre`, and Go's
  `Merge` panics on it; `RemTailHypNe` / `remTailHyp_all_partial` is `RemTailHyp` with the extra precondition
  `d ≠ 0 → minThr T ≤ size child' + 14` that excludes it (`remTailHyp_data`: none needed at `d = 0`).
-/
namespace Atree.TransEq
open Atree Atree.Gen

section tail
open MetaSlab ATree

/-- **the tail of `Remove` agrees with the model** at every depth: under `RemTailPre` and `hne` (an index-slab child
    is at most one header below the minimum size), the generated `MergeOrRebalanceChildSlab` over the heap returns the
    model's index slab, the `Ctx` is the model's, the children of the new index slab are held, the right slab of a merge
    is gone, everything outside the tree is untouched. -/
theorem remTail_ok (T : Nat) (hT : legalThreshold T = true) (d : Nat) (m1 : MetaSlab (ATree d))
    (A B : List (ATree d)) (child' : ATree d) (s1 : HSt) (addr : Nat) (hpre : RemTailPre T m1 A B child' s1 addr)
    (hne : d ≠ 0 → minThr T ≤ (hdr d child').size + 14) :
    RemTailOk T m1 child' A.length (minThr T - (hdr d child').size) s1 := by
  have hgo := morTail_sim T hT d m1 A B child' s1 addr hpre hne
  unfold RemTailOk
  cases hmr : m1.mergeOrRebalanceChildSlab T child' A.length (minThr T - (hdr d child').size) s1.ctx with
  | error e => trivial
  | ok p =>
    obtain ⟨m2, c2⟩ := p
    rw [hmr] at hgo
    obtain ⟨⟨out, hgo⟩, hctx⟩ := hgo
    exact ⟨_, out, hgo, hctx, (mor_heapPost T hpre.kids hpre.ids.1 hpre.holds hmr).kids⟩

/-- the global tail hypothesis `RemTailHyp` of Props/TransDescentRemove.lean WITH the extra precondition `hne`
    (without it the statement is false for index-slab children: `remTailHyp_false`). -/
def RemTailHypNe (T : Nat) : Prop :=
  ∀ (d : Nat) (m1 : MetaSlab (ATree d)) (A B : List (ATree d)) (child' : ATree d) (s1 : HSt) (addr : Nat),
    RemTailPre T m1 A B child' s1 addr → (d ≠ 0 → minThr T ≤ (hdr d child').size + 14) →
    RemTailOk T m1 child' A.length (minThr T - (hdr d child').size) s1

theorem remTailHyp_all_partial (T : Nat) (hT : legalThreshold T = true) : RemTailHypNe T :=
  fun d m1 A B child' s1 addr hpre hne => remTail_ok T hT d m1 A B child' s1 addr hpre hne

/-- `RemTailHyp` restricted to data-slab children (`d = 0`): exactly the statement of TransDescentRemove.lean -/
theorem remTailHyp_data (T : Nat) (hT : legalThreshold T = true) (m1 : MetaSlab (ATree 0)) (A B : List (ATree 0))
    (child' : ATree 0) (s1 : HSt) (addr : Nat) (hpre : RemTailPre T m1 A B child' s1 addr) :
    RemTailOk T m1 child' A.length (minThr T - (hdr 0 child').size) s1 :=
  remTail_ok T hT 0 m1 A B child' s1 addr hpre (fun h => absurd rfl h)

/-- a successful removal is in range -/
theorem rem_ok_lt {T : Nat} : ∀ (d : Nat) (t : ATree d) (i : Nat) (c : Ctx) r, TreeInv T d false t →
    ATree.remove T d t i c = .ok r → i < (flatten d t).length
  | 0, t, i, c, r => by
    refine forall_ofData ?_ t; intro s _ h
    have h : s.remove i c = .ok r := h
    unfold DataSlab.remove at h
    simp only [flatten_zero]
    rcases Nat.lt_or_ge i s.elems.length with hl | hl
    · exact hl
    · rw [List.getElem?_eq_none hl] at h; cases h
  | d + 1, t, i, c, r => by
    refine forall_ofMeta ?_ t; intro m hinv h
    rw [← hinv.shape_false.count_eq_length]
    rcases Nat.lt_or_ge i m.hdr.count with hl | hl
    · exact hl
    · rw [remove_succ_err m i c hl] at h; cases h

/-- **the tail hypothesis along the path holds on every valid tree**: `RemPath` (the form the descent theorems of
    TransDescentRemove.lean take) from `TreeInv`; the extra fact `hne` comes from `remove_gen` on the routed child. -/
theorem RemPath.of_inv {T : Nat} (hT : legalThreshold T = true) (addr : Nat) :
    ∀ (d : Nat) (t : ATree d) (top : Bool) (i : Nat) (c : Ctx), TreeInv T d top t → RemPath T addr d t i c
  | 0, _, _, _, _, _ => trivial
  | d + 1, t, top, i, c, hinv => by
    revert hinv
    refine forall_ofMeta ?_ t; intro m hinv
    intro k adj child v child' c1 h1 h2 h3
    obtain ⟨hs, _, _, _⟩ := (treeInv_succ T d top m).1 hinv
    have hc : TreeInv T d false child := hs.kids_inv child (List.mem_of_getElem? h2)
    refine ⟨RemPath.of_inv hT addr d child false adj c hc, ?_⟩
    intro hu A B s1 hk hpre
    subst hk
    have hlt := rem_ok_lt d child adj c _ hc h3
    obtain ⟨t', c', e, _, _, _, _, _, h14⟩ := remove_gen hT d child false adj c hc hc.notInl_of_false hlt
    rw [h3] at e
    simp only [Except.ok.injEq, Prod.mk.injEq] at e
    obtain ⟨_, rfl, _⟩ := e
    refine remTail_ok T hT d _ A B child' s1 addr hpre (fun hd => ?_)
    have := h14 hd
    have := hc.ge_min
    omega

end tail

/-! ## non-vacuity: removals whose routed child DOES underflow (T = 256: min 128, max 384) -/

section examples
open MetaSlab ATree

/-- a leaf `(1,id)` of `n` elements of 60 bytes -/
def rfLeaf (id nx n : Nat) : DataSlab :=
  { hdr := ⟨⟨1, id⟩, 21 + 60 * n, n⟩, next := ⟨1, nx⟩,
    elems := (List.range n).map (fun j => ⟨60, .val (10 * id + j)⟩), root := false, inlined := false }

/-- a root index slab `(1,1)` over the given leaves -/
def rfRoot (kids : List DataSlab) : MetaSlab (ATree 0) :=
  { hdr := ⟨⟨1, 1⟩, 12 + 14 * kids.length, sumCounts (kids.map (·.hdr))⟩,
    childHdrs := kids.map (·.hdr), countSum := prefixSums (kids.map (·.hdr)) 0, children := kids, root := true }

theorem rfLeaf_inv (id nx n : Nat) (hsz : (rfLeaf id nx n).hdr.size = (rfLeaf id nx n).prefixSize + sumSizes (rfLeaf id nx n).elems)
    (h1 : 128 ≤ 21 + 60 * n) (h2 : 21 + 60 * n ≤ 384) : DataInv 256 false (rfLeaf id nx n) := by
  refine ⟨by simp [rfLeaf], hsz, ?_, rfl, by simp [rfLeaf], ?_, fun _ => ?_⟩
  · intro e he
    simp only [rfLeaf, List.mem_map] at he
    obtain ⟨a, _, rfl⟩ := he
    exact ⟨by show 1 ≤ 60; decide, by show 60 ≤ maxInlineArr 256; decide⟩
  · show 21 + 60 * n ≤ maxThr 256
    have : maxThr 256 = 384 := by decide
    omega
  · show minThr 256 ≤ 21 + 60 * n
    have : minThr 256 = 128 := by decide
    omega

/-- three leaves of 4, 2, 2 elements: removing index 4 leaves the middle leaf with one element (81 bytes), the left
    sibling (261 bytes) lends -/
def rfA : MetaSlab (ATree 0) := rfRoot [rfLeaf 2 3 4, rfLeaf 3 4 2, rfLeaf 4 0 2]
/-- two leaves of 2 elements: removing index 0 leaves the first leaf with one element, the sibling (141 bytes) cannot
    lend: merge -/
def rfC : MetaSlab (ATree 0) := rfRoot [rfLeaf 2 3 2, rfLeaf 3 0 2]

def rfSt (m : MetaSlab (ATree 0)) : HSt := ⟨heapOf 1 m, ⟨5, [], []⟩⟩

theorem rfA_kids (c : ATree 0) (hc : c ∈ rfA.children) : c = rfLeaf 2 3 4 ∨ c = rfLeaf 3 4 2 ∨ c = rfLeaf 4 0 2 := by
  have e : rfA.children = [rfLeaf 2 3 4, rfLeaf 3 4 2, rfLeaf 4 0 2] := rfl
  rw [e] at hc
  rcases List.mem_cons.mp hc with h | h
  · exact Or.inl h
  · rcases List.mem_cons.mp h with h | h
    · exact Or.inr (Or.inl h)
    · exact Or.inr (Or.inr (List.mem_singleton.mp h))

theorem rfC_kids (c : ATree 0) (hc : c ∈ rfC.children) : c = rfLeaf 2 3 2 ∨ c = rfLeaf 3 0 2 := by
  have e : rfC.children = [rfLeaf 2 3 2, rfLeaf 3 0 2] := rfl
  rw [e] at hc
  rcases List.mem_cons.mp hc with h | h
  · exact Or.inl h
  · exact Or.inr (List.mem_singleton.mp h)

theorem rfA_inv : TreeInv 256 (0 + 1) true (ofMeta rfA) := by
  refine (treeInv_succ 256 0 true rfA).2 ⟨⟨rfl, rfl, rfl, rfl, rfl, ?_, ?_⟩, by decide, fun h => (by cases h),
    fun _ => (by decide)⟩
  · intro c hc
    rcases rfA_kids c hc with rfl | rfl | rfl
    · exact rfLeaf_inv 2 3 4 rfl (by decide) (by decide)
    · exact rfLeaf_inv 3 4 2 rfl (by decide) (by decide)
    · exact rfLeaf_inv 4 0 2 rfl (by decide) (by decide)
  · intro c hc
    rcases rfA_kids c hc with rfl | rfl | rfl <;> rfl

theorem rfC_inv : TreeInv 256 (0 + 1) true (ofMeta rfC) := by
  refine (treeInv_succ 256 0 true rfC).2 ⟨⟨rfl, rfl, rfl, rfl, rfl, ?_, ?_⟩, by decide, fun h => (by cases h),
    fun _ => (by decide)⟩
  · intro c hc
    rcases rfC_kids c hc with rfl | rfl
    · exact rfLeaf_inv 2 3 2 rfl (by decide) (by decide)
    · exact rfLeaf_inv 3 0 2 rfl (by decide) (by decide)
  · intro c hc
    rcases rfC_kids c hc with rfl | rfl <;> rfl

theorem rfA_ids : IdsOk 1 (rfSt rfA).ctx.ctr (slabIds (0 + 1) (ofMeta rfA)) := by
  refine ⟨by decide, ?_⟩
  intro id hid
  have e : slabIds (0 + 1) (ofMeta rfA) = [⟨1, 1⟩, ⟨1, 2⟩, ⟨1, 3⟩, ⟨1, 4⟩] := rfl
  rw [e] at hid
  simp only [List.mem_cons, List.not_mem_nil, or_false] at hid
  rcases hid with rfl | rfl | rfl | rfl <;> decide

theorem rfC_ids : IdsOk 1 (rfSt rfC).ctx.ctr (slabIds (0 + 1) (ofMeta rfC)) := by
  refine ⟨by decide, ?_⟩
  intro id hid
  have e : slabIds (0 + 1) (ofMeta rfC) = [⟨1, 1⟩, ⟨1, 2⟩, ⟨1, 3⟩] := rfl
  rw [e] at hid
  simp only [List.mem_cons, List.not_mem_nil, or_false] at hid
  rcases hid with rfl | rfl | rfl <;> decide

/-- **REBALANCE** (the hypotheses of `Sl_ArrayMetaDataSlab_Remove_heap_full` are satisfiable where the routed child
    underflows): removing index 4 of `rfA`, the left sibling lends one element; the new index slab has the headers
    `(1,2): 201 bytes / 3`, `(1,3): 141 / 2`, `(1,4): 141 / 2`; effects: the child, then left, right, parent of the
    rebalance, then the parent again -/
example : ∃ v t' s', ATree.remove 256 1 (ofMeta rfA) 4 (rfSt rfA).ctx = .ok (v, t', s'.ctx) ∧
    TransSl.ArrayMetaDataSlab_Remove (envH 256) 1 (trMeta rfA) (rfSt rfA) (u64 4) =
      some (some v, none, trMeta (t' : MetaSlab (ATree 0)), s') ∧
    @HeapPost (rfSt rfA).heap s'.heap 1 1 rfA t' ∧
    (t' : MetaSlab (ATree 0)).childHdrs = [⟨⟨1, 2⟩, 201, 3⟩, ⟨⟨1, 3⟩, 141, 2⟩, ⟨⟨1, 4⟩, 141, 2⟩] ∧
    s'.ctx.eff = [.store ⟨1, 3⟩, .store ⟨1, 2⟩, .store ⟨1, 3⟩, .store ⟨1, 1⟩, .store ⟨1, 1⟩] := by
  have h := Sl_ArrayMetaDataSlab_Remove_heap_full 256 (by decide) 0 rfA true 4 (rfSt rfA) 0 1 (Nat.le_refl _) rfA_inv
    rfA_ids (by decide) (by decide) (Holds_heapOf 1 rfA rfA_ids.1).2
  have hev : (ATree.remove 256 1 (ofMeta rfA) 4 (rfSt rfA).ctx).toOption.map
      (fun r => ((r.2.1 : MetaSlab (ATree 0)).childHdrs, r.2.2.eff)) =
      some ([⟨⟨1, 2⟩, 201, 3⟩, ⟨⟨1, 3⟩, 141, 2⟩, ⟨⟨1, 4⟩, 141, 2⟩],
        [.store ⟨1, 3⟩, .store ⟨1, 2⟩, .store ⟨1, 3⟩, .store ⟨1, 1⟩, .store ⟨1, 1⟩]) := by rfl
  cases hr : ATree.remove 256 1 (ofMeta rfA) 4 (rfSt rfA).ctx with
  | error e => rw [hr] at hev; cases hev
  | ok res =>
    obtain ⟨v, t', c'⟩ := res
    rw [hr] at h hev
    obtain ⟨s', h1, h2, h3, _⟩ := h
    simp only [Except.toOption, Option.map_some, Option.some.injEq, Prod.mk.injEq] at hev
    subst h2
    exact ⟨v, t', s', rfl, h1, h3, hev.1, hev.2⟩

/-- **MERGE**: removing index 0 of `rfC`, the sibling cannot lend, the two leaves are merged into `(1,2)` (201 bytes,
    3 elements), `(1,3)` is removed from the heap -/
example : ∃ v t' s', ATree.remove 256 1 (ofMeta rfC) 0 (rfSt rfC).ctx = .ok (v, t', s'.ctx) ∧
    TransSl.ArrayMetaDataSlab_Remove (envH 256) 1 (trMeta rfC) (rfSt rfC) (u64 0) =
      some (some v, none, trMeta (t' : MetaSlab (ATree 0)), s') ∧
    @HeapPost (rfSt rfC).heap s'.heap 1 1 rfC t' ∧
    (t' : MetaSlab (ATree 0)).childHdrs = [⟨⟨1, 2⟩, 201, 3⟩] ∧ s'.heap ⟨1, 3⟩ = none ∧
    s'.ctx.eff = [.store ⟨1, 2⟩, .store ⟨1, 2⟩, .store ⟨1, 1⟩, .remove ⟨1, 3⟩, .store ⟨1, 1⟩] := by
  have h := Sl_ArrayMetaDataSlab_Remove_heap_full 256 (by decide) 0 rfC true 0 (rfSt rfC) 0 1 (Nat.le_refl _) rfC_inv
    rfC_ids (by decide) (by decide) (Holds_heapOf 1 rfC rfC_ids.1).2
  have hev : (ATree.remove 256 1 (ofMeta rfC) 0 (rfSt rfC).ctx).toOption.map
      (fun r => ((r.2.1 : MetaSlab (ATree 0)).childHdrs, slabIds 1 r.2.1, r.2.2.eff)) =
      some ([⟨⟨1, 2⟩, 201, 3⟩], [⟨1, 1⟩, ⟨1, 2⟩],
        [.store ⟨1, 2⟩, .store ⟨1, 2⟩, .store ⟨1, 1⟩, .remove ⟨1, 3⟩, .store ⟨1, 1⟩]) := by rfl
  cases hr : ATree.remove 256 1 (ofMeta rfC) 0 (rfSt rfC).ctx with
  | error e => rw [hr] at hev; cases hev
  | ok res =>
    obtain ⟨v, t', c'⟩ := res
    rw [hr] at h hev
    obtain ⟨s', h1, h2, h3, _⟩ := h
    simp only [Except.toOption, Option.map_some, Option.some.injEq, Prod.mk.injEq] at hev
    subst h2
    refine ⟨v, t', s', rfl, h1, h3, hev.1, ?_, hev.2.2⟩
    refine h3.gone ⟨1, 3⟩ (by decide) ?_
    rw [hev.2.1]; decide

end examples

section finding
open MetaSlab ATree
/-- an index slab without children -/
def rfEmpty : MetaSlab (ATree 0) :=
  { hdr := ⟨⟨1, 2⟩, 12, 0⟩, childHdrs := [], countSum := [], children := [], root := false }
def rfNine : List DataSlab := (List.range 9).map (fun j => rfLeaf (4 + j) (5 + j) 2)
/-- a valid index slab of 9 leaves (138 bytes): it cannot lend 116 bytes -/
def rfSib : MetaSlab (ATree 0) :=
  { hdr := ⟨⟨1, 3⟩, 12 + 14 * 9, 18⟩, childHdrs := rfNine.map (·.hdr), countSum := prefixSums (rfNine.map (·.hdr)) 0,
    children := rfNine, root := false }
def rfTop : MetaSlab (ATree 1) :=
  { hdr := ⟨⟨1, 1⟩, 40, 18⟩, childHdrs := [rfEmpty.hdr, rfSib.hdr], countSum := [0, 18],
    children := [rfEmpty, rfSib], root := true }
def rfTopSt : HSt := ⟨heapOf 2 rfTop, ⟨20, [], []⟩⟩

theorem rfSib_inv : TreeInv 256 (0 + 1) false (ofMeta rfSib) := by
  refine (treeInv_succ 256 0 false rfSib).2 ⟨⟨rfl, rfl, rfl, rfl, rfl, ?_, ?_⟩, by decide, fun _ => (by decide),
    fun h => (by cases h)⟩
  · intro c hc
    have hc : c ∈ (List.range 9).map (fun j => rfLeaf (4 + j) (5 + j) 2) := hc
    obtain ⟨j, _, rfl⟩ := List.mem_map.1 hc
    exact rfLeaf_inv _ _ 2 rfl (by decide) (by decide)
  · intro c hc
    have hc : c ∈ (List.range 9).map (fun j => rfLeaf (4 + j) (5 + j) 2) := hc
    obtain ⟨j, _, rfl⟩ := List.mem_map.1 hc
    rfl

theorem rfTop_ids : IdsOk 1 20 (slabIds (1 + 1) (ofMeta rfTop)) := by
  refine ⟨by decide +kernel, ?_⟩
  have e : slabIds (1 + 1) (ofMeta rfTop) = [⟨1, 1⟩, ⟨1, 2⟩, ⟨1, 3⟩, ⟨1, 4⟩, ⟨1, 5⟩, ⟨1, 6⟩, ⟨1, 7⟩, ⟨1, 8⟩, ⟨1, 9⟩,
    ⟨1, 10⟩, ⟨1, 11⟩, ⟨1, 12⟩] := by decide +kernel
  rw [e]
  decide

theorem rfTop_pre : RemTailPre 256 rfTop [] [rfSib] rfEmpty rfTopSt 1 where
  book := ⟨rfl, rfl⟩
  kids := rfl
  invA := fun t ht => by cases ht
  invB := fun t ht => by
    rcases List.mem_singleton.1 ht with rfl
    exact rfSib_inv
  shape := (shape_succ 256 0 false rfEmpty).2 ⟨rfl, rfl, rfl, rfl, rfl, fun c hc => (by cases hc), fun c hc => (by cases hc)⟩
  under := by decide
  lower := by decide
  sib := by decide
  addr_eq := fun t ht => by
    have e : rfTop.children = [rfEmpty, rfSib] := rfl
    rw [e] at ht
    rcases List.mem_cons.mp ht with h | h
    · rw [h]; rfl
    · rw [List.mem_singleton.mp h]; rfl
  size := rfl
  count := by decide
  count_lt := by decide
  holds := (Holds_heapOf 2 rfTop rfTop_ids.1).2
  ids := rfTop_ids

theorem rfTop_go : TransSl.ArrayMetaDataSlab_MergeOrRebalanceChildSlab (envH 256) (trMeta rfTop) rfTopSt
    (some (trTree 1 rfEmpty)) (Int.ofNat 0) (u32 116) = none := by decide +kernel

/-- **FINDING: the global tail hypothesis `RemTailHyp T` of Props/TransDescentRemove.lean is FALSE** (T = 256, children
    of depth 1).  `RemTailPre` bounds the child from below only by `lower : minThr T ≤ size + maxInlineArr T`, the bound
    of a DATA slab that lost one element; for an INDEX slab this allows 12 bytes, i.e. an index slab WITHOUT children
    (`rfEmpty`).  With a right sibling that cannot lend (`rfSib`: 9 leaves, 138 bytes) the model merges the two, while
    Go's `ArrayMetaDataSlab.Merge` reads `a.childrenCountSum[len(a.childrenCountSum)-1]` of the empty left slab and
    panics (`rfTop_go`: the generated function returns `none`).  No valid tree reaches that state: `Remove` on a
    valid index-slab child shrinks it by at most one header (`remove_gen`: `size child ≤ size child' + 14`), which is
    the extra precondition `hne` of `remTail_ok` / `RemTailHypNe`; `RemPath.of_inv` supplies it, so the final theorems
    need nothing. -/
theorem remTailHyp_false : ¬ RemTailHyp 256 := by
  intro h
  have h1 := h 1 rfTop [] [rfSib] rfEmpty rfTopSt 1 rfTop_pre
  obtain ⟨m2, c2, hmr, _⟩ := afterSet_spec (T := 256) (by decide) (m1 := rfTop) (A := []) (B := [rfSib])
    (child' := rfEmpty) rfTopSt.ctx 1 rfTop_pre.book rfTop_pre.kids rfTop_pre.invA rfTop_pre.invB rfTop_pre.shape
    (by decide) (fun _ => rfTop_pre.sib) (fun _ => rfTop_pre.addr_eq) (fun _ => by decide)
  rw [afterSet_under _ _ _ _ (by decide) rfTop_pre.under] at hmr
  unfold RemTailOk at h1
  have e : minThr 256 - (hdr 1 rfEmpty).size = 116 := by decide
  simp only [List.length_nil] at h1 hmr
  rw [e] at h1 hmr
  rw [hmr] at h1
  obtain ⟨s2, out, hgo, _⟩ := h1
  rw [rfTop_go] at hgo
  cases hgo
end finding

end Atree.TransEq

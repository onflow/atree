import AtreeProofs.Props.TransDescentSplit
import AtreeProofs.Props.TransDescentRoute
import AtreeProofs.Array.EffectsTop
/-
  TRANSLATION EQUIVALENCE, the array descent: the ROOT after an operation, over the heap environment `envH T`.

  `Array.set` and `Array.remove` end in the same fix-up: if the root is an index slab with exactly one child header, the
  child is promoted (`promoteChildAsNewRoot`: READ from the heap, re-identified with the root identifier, stored under
  it, its old identifier removed).  `genPromote` names that fragment of the generated code; `genPromote_heap` says that
  on the handle of a root of valid shape that the heap holds it returns the model's `promoteIfSingleChild`, the `Ctx`
  is the model's, and a heap condition of the descent `HeapPost h0 s1.heap t t'` extends to the promoted root
  (`HeapPost.trans` with the promotion alone, `promote_heapPost`), provided the identifiers of `t'` that are not in
  `t` were not in `h0` (`Array.set`: from `FreshFree`; `Array.remove` creates none).

  Go decides on `len(root.childrenHeaders) == 1` alone and finds the child through the identifier in the header copy;
  the model's `promoteIfSingleChild` matches on `childHdrs` AND the embedded `children`.  They agree because
  `childHdrs = children.map hdr` (`MShape.hdrs_eq`) and because the heap holds the child under that identifier.
-/
namespace Atree.TransEq
open Atree Atree.Gen

section below
open ATree MetaSlab

/-- `InsHoldsBelow` (Props/TransDescentHeap.lean), under the name the statement about `splitRoot` uses -/
abbrev TopInsBelow (h : SlabID → Option GSlab) (d : Nat) (t : ATree d) : Prop := InsHoldsBelow h d t

end below

section promote
open ATree MetaSlab

/-- the promoted child: identifiers, and the slabs below it are those below the child -/
theorem promoted_struct : ∀ (d : Nat) (child : ATree d) (rid : SlabID),
    slabIds d (setRoot d (setId d (promoteChild1 d child) rid) true) = rid :: subIds d child ∧
    (hdr d (setRoot d (setId d (promoteChild1 d child) rid) true)).id = rid ∧
    ∀ h, InsHoldsBelow h d child → InsHoldsBelow h d (setRoot d (setId d (promoteChild1 d child) rid) true)
  | 0, _, _ => ⟨rfl, rfl, fun _ _ => trivial⟩
  | _ + 1, _, _ => ⟨rfl, rfl, fun _ hb => hb⟩

/-- the heap condition of `promoteChildAsNewRoot` alone: over a heap that holds the single child of the root `m`, the
    new root is stored under the root identifier and the child's identifier is removed -/
theorem promote_heapPost {d : Nat} (m : MetaSlab (ATree d)) (child new : ATree d) (h2 h3 : SlabID → Option GSlab)
    (hch : m.children = [child]) (hnd : (slabIds (d + 1) (ofMeta m)).Nodup)
    (hnew_ids : slabIds d new = m.hdr.id :: subIds d child) (hnew_id : (hdr d new).id = m.hdr.id)
    (hbelow : ∀ h, InsHoldsBelow h d child → InsHoldsBelow h d new)
    (hh3 : ∀ id, h3 id = if id = (hdr d child).id then none else if id = m.hdr.id then some (trTree d new)
      else h2 id)
    (hh : HoldsChildren h2 m) : HeapPost h2 h3 (ofMeta m) new := by
  have hm : slabIds (d + 1) (ofMeta m) = m.hdr.id :: (hdr d child).id :: subIds d child := by
    rw [slabIds_succ, hch]
    simp only [List.flatMap_cons, List.flatMap_nil, List.append_nil]
    rw [← slabIds_eq d child]
  rw [hm] at hnd
  obtain ⟨hroot_nin, hnd2⟩ := List.nodup_cons.1 hnd
  obtain ⟨hchild_nin, _⟩ := List.nodup_cons.1 hnd2
  have hne : m.hdr.id ≠ (hdr d child).id := fun e => hroot_nin (by rw [e]; exact List.mem_cons_self)
  have hb3 : InsHoldsBelow h3 d child := (hh child (by rw [hch]; exact List.mem_cons_self)).insBelow.congr
    (fun id hid => by
      rw [hh3, if_neg (fun e : id = (hdr d child).id => hchild_nin (e ▸ hid)),
        if_neg (fun e : id = m.hdr.id => hroot_nin (List.mem_cons_of_mem _ (e ▸ hid)))])
  refine ⟨ins_holds_of_root_below d new ?_ (hbelow h3 hb3), fun id hid hn => ?_, fun id hid hn => ?_⟩
  · rw [hnew_id, hh3, if_neg hne, if_pos rfl]
  · -- of the old tree only the child's identifier is not in the new one
    rw [hm] at hid; rw [hnew_ids] at hn
    rcases List.mem_cons.1 hid with e | hid
    · exact absurd (e ▸ List.mem_cons_self) hn
    · rcases List.mem_cons.1 hid with e | hid
      · rw [hh3, if_pos e]
      · exact absurd (List.mem_cons_of_mem _ hid) hn
  · rw [hm] at hid
    rw [hh3, if_neg (fun e : id = (hdr d child).id => hid (e ▸ List.mem_cons_of_mem _ List.mem_cons_self)),
      if_neg (fun e : id = m.hdr.id => hid (e ▸ List.mem_cons_self))]

theorem promote_child_size {T : Nat} : ∀ (d : Nat) (child : ATree d), TreeInv T d false child → d = 0 →
    arrayDataSlabPrefixSize ≤ (hdr d child).size
  | 0, child, h, _ => by
    revert h; refine forall_ofData ?_ child; intro s h
    obtain ⟨hs, _, _⟩ := (dataInv_false_iff T s).1 ((treeInv_zero T false s).1 h)
    have := hs.size_eq
    rw [hs.prefix_false] at this
    simp only [hdr_zero]; omega
  | _ + 1, _, _, h => by cases h

end promote

section fixup
variable {σ υ ξ ε S Φ : Type}

/-- the root fix-up at the end of `Array.set` and `Array.remove`: an index root with exactly one child header is
    replaced by that child -/
def genPromote (env : TransSl.Env σ υ ξ ε S Φ) (a : TransSl.Array σ ξ S) : Option (Option ε × TransSl.Array σ ξ S) :=
  match a.root with
  | some (.metaSlab root) =>
    if decide ((Int.ofNat root.childrenHeaders.length) = (1 : Int)) then
      match TransSl.goIdx root.childrenHeaders (0 : Int) with
      | some e => TransSl.Array_promoteChildAsNewRoot env a e.slabID
      | none => none
    else some (none, a)
  | some (.dataSlab _) => some (none, a)
  | none => none

end fixup

section fixupH
open ATree MetaSlab

/-- the join point of `Array.set` over `envH` (the nesting machinery is the identity): the root fix-up, then the
    existing element is returned -/
theorem Array_set_k1_envH (T : Nat) (a : HArray) (i : UInt64) (v ex : Option Elem) (err : Option AErr) :
    TransSl.Array_set.k1 (envH T) a i v ex err =
      match genPromote (envH T) a with
      | some r => if r.1.isSome then some (none, r.1, r.2) else some (ex, none, r.2)
      | none => none := by
  obtain ⟨s, root⟩ := a
  rcases root with _ | (p | p)
  · rfl
  · rfl
  · simp only [TransSl.Array_set.k1, genPromote, TransSl.ArraySlab_IsData, TransSl.ArrayMetaDataSlab_IsData,
      Bool.not_false, if_true, envH_notify, envH_setCallback, Option.isSome_none, Bool.false_eq_true, if_false]
    cases decide ((Int.ofNat p.childrenHeaders.length) = (1 : Int))
    · rfl
    · simp only [if_true]
      cases TransSl.goIdx p.childrenHeaders (0 : Int) with
      | none => rfl
      | some e =>
        dsimp only
        cases TransSl.Array_promoteChildAsNewRoot (envH T) { Storage := s, root := some (.metaSlab p) } e.slabID <;> rfl

/-- a root INDEX slab that does not have exactly one child: nothing to promote -/
theorem genPromote_many (T d : Nat) (m : MetaSlab (ATree d)) (ty : Nat) (s : HSt) (hlen : m.childHdrs.length ≠ 1) :
    genPromote (envH T) (trArrH ⟨d + 1, m, ty⟩ s) = some (none, trArrH ⟨d + 1, m, ty⟩ s) := by
  have hroot : (trArrH ⟨d + 1, m, ty⟩ s).root = some (.metaSlab (trMeta m)) := rfl
  have hne : decide ((Int.ofNat (trMeta m).childrenHeaders.length) = (1 : Int)) = false := by
    rw [trMeta_childrenHeaders, List.length_map]
    simp only [decide_eq_false_iff_not]
    intro h
    exact hlen (Int.ofNat.inj h)
  simp only [genPromote, hroot, hne, Bool.false_eq_true, if_false]

/-- a root INDEX slab with exactly one child that the heap returns: `promoteChildAsNewRoot` -/
theorem genPromote_single (T d : Nat) (m : MetaSlab (ATree d)) (ty : Nat) (s : HSt) (h : Hdr) (child : ATree d)
    (hch : m.childHdrs = [h]) (hcs : m.children = [child])
    (hlook : s.heap h.id = some (trTree d child)) (hroot : m.root = true)
    (hsz : d = 0 → arrayDataSlabPrefixSize ≤ (ATree.hdr d child).size) :
    genPromote (envH T) (trArrH ⟨d + 1, m, ty⟩ s) =
      some (none, trArrH ((⟨d + 1, m, ty⟩ : Arr).promoteIfSingleChild s.ctx).1
        ((s.store m.hdr.id (some (trTree d (ATree.setRoot d (ATree.setId d (promoteChild1 d child) m.hdr.id)
          true)))).remove h.id)) := by
  have hr : (trArrH ⟨d + 1, m, ty⟩ s).root = some (.metaSlab (trMeta m)) := rfl
  have hone : decide ((Int.ofNat (trMeta m).childrenHeaders.length) = (1 : Int)) = true := by
    rw [trMeta_childrenHeaders, hch]; rfl
  have hidx : TransSl.goIdx (trMeta m).childrenHeaders (0 : Int) = some (trHdr h) := by
    rw [trMeta_childrenHeaders, hch]; rfl
  have hp := Sl_Array_promoteChildAsNewRoot_heap T m ty s h child hch hcs hlook hroot hsz
  simp only [genPromote, hr, hone, hidx, trHdr_slabID, hp, if_true]

/-- **the root fix-up over a heap**: on the handle of a root `t'` of valid shape that the heap holds, `genPromote`
    returns the model's `promoteIfSingleChild`; the `Ctx` is the model's; a heap condition `HeapPost h0 s1.heap t t'`
    extends to the promoted root, provided the identifiers of `t'` that are not in `t` were not in `h0`; no identifier
    is new -/
theorem genPromote_heap (T : Nat) : ∀ (d : Nat) (t' : ATree d) (ty : Nat) (s1 : HSt)
    (addr : Nat),
    Shape T d true t' → IdsOk addr s1.ctx.ctr (slabIds d t') → Holds s1.heap d t' →
    ∃ s', genPromote (envH T) (trArrH ⟨d, t', ty⟩ s1) =
        some (none, trArrH ((⟨d, t', ty⟩ : Arr).promoteIfSingleChild s1.ctx).1 s') ∧
      s'.ctx = ((⟨d, t', ty⟩ : Arr).promoteIfSingleChild s1.ctx).2 ∧
      (∀ {d0 : Nat} (t : ATree d0) (h0 : SlabID → Option GSlab), HeapPost h0 s1.heap t t' →
        (∀ id ∈ slabIds d t', id ∉ slabIds d0 t → h0 id = none) →
        HeapPost h0 s'.heap t ((⟨d, t', ty⟩ : Arr).promoteIfSingleChild s1.ctx).1.root) ∧
      ∀ id ∈ slabIds ((⟨d, t', ty⟩ : Arr).promoteIfSingleChild s1.ctx).1.d
        ((⟨d, t', ty⟩ : Arr).promoteIfSingleChild s1.ctx).1.root, id ∈ slabIds d t'
  | 0, t', ty, s1, addr => by
    intro _ _ _
    exact ⟨s1, rfl, rfl, fun t h0 hP _ => hP, fun _ h => h⟩
  | d + 1, t', ty, s1, addr => by
    refine forall_ofMeta ?_ t'; intro m hs hids hh
    have hms := (shape_succ T d true m).1 hs
    by_cases hlen : m.children.length = 1
    · obtain ⟨child, hc⟩ := List.length_eq_one_iff.1 hlen
      have hmem : child ∈ m.children := by rw [hc]; exact List.mem_cons_self
      have hch : m.childHdrs = [hdr d child] := by rw [hms.hdrs_eq, hc]; rfl
      have hci : TreeInv T d false child := hms.kids_inv child hmem
      have hlook : s1.heap (hdr d child).id = some (trTree d child) := (hh.2 child hmem).root
      have hk := genPromote_single T d m ty s1 (hdr d child) child hch hc hlook hms.root_eq
        (promote_child_size d child hci)
      have hpu : (⟨d + 1, ofMeta m, ty⟩ : Arr).promoteIfSingleChild s1.ctx = _ :=
        promote_unfold m ty s1.ctx (hdr d child) child hch hc
      obtain ⟨n1, n2, n3⟩ := promoted_struct d child m.hdr.id
      refine ⟨_, hk, Sl_Array_promoteChildAsNewRoot_heap_ctx m ty s1 (hdr d child) child hch hc _, ?_, ?_⟩
      · intro d0 t h0 hP hfr
        rw [hpu]
        exact hP.trans (promote_heapPost m child _ s1.heap _ hc hids.1 n1 n2 n3
          (fun id => by simp only [HSt.remove_heap, HSt.store_heap]) hh.2) (fun id hid hn _ => hfr id hid hn)
      · rw [hpu]
        intro id hid
        have hid : id ∈ slabIds d (setRoot d (setId d (promoteChild1 d child) m.hdr.id) true) := hid
        rw [n1] at hid
        rw [slabIds_succ, hc]
        simp only [List.flatMap_cons, List.flatMap_nil, List.append_nil]
        rcases List.mem_cons.1 hid with h | h
        · exact h ▸ List.mem_cons_self
        · exact List.mem_cons_of_mem _ (by rw [slabIds_eq]; exact List.mem_cons_of_mem _ h)
    · rw [promote_not_single d m ty s1.ctx hlen]
      exact ⟨s1, genPromote_many T d m ty s1 (by rw [hms.hdrs_length]; exact hlen), rfl, fun t h0 hP _ => hP,
        fun _ h => h⟩

end fixupH

end Atree.TransEq

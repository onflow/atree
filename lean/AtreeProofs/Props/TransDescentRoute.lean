import AtreeProofs.Props.TransDescentGet
import AtreeProofs.Props.TransSafe
import AtreeProofs.ArrayInv
import AtreeProofs.Array.TreeDefs
import AtreeProofs.Array.TreeOps
import AtreeProofs.AListLemmas
/-
  TRANSLATION EQUIVALENCE, the array descent: routing.  In a valid tree (`TreeInv`, a legal slab size, fewer than 2^32
  elements) Go's `childSlabIndexInfo` agrees with the model's routing at every index slab on the path of EVERY index
  below 2^64: `RouteOk.of_inv` (the hypothesis of the `Get` descent), and `descent_route`, the one step that the `Set`
  and `Remove` descents use (the routed child in the model, what the invariant says of it, the answer of the generated
  code).  `Insert` also takes the index one past the end, which Go sends to the last child without calling
  `childSlabIndexInfo`: it routes by `route_insert` (Array/TreeOps.lean).  With `RouteOk.of_inv`, `ArraySlab.Get` /
  `Array.Get` over a heap without routing hypothesis.  Also: the heap of a tree (`heapOf`) is the slab list of
  HeapSpec.lean and holds the tree (`heapOf_eq_slabs`, `Holds_heapOf`).
-/
namespace Atree.TransEq
open Atree Atree.Gen

section
open MetaSlab ATree

/-- Go's `childSlabIndexInfo` on an index past the end: `IndexOutOfBoundsError`, for every `uint64` index (the theorem
    of Props/TransLoops.lean asks for an index below 2^63, which this branch does not need) -/
theorem childSlabIndexInfo_past_end {α : Type} (m : MetaSlab α) (i : Nat) (hi : i < 2^64) (hcnt : m.hdr.count < 2^32)
    (hge : m.hdr.count ≤ i) :
    Trans.ArrayMetaDataSlab_childSlabIndexInfo (u32 m.hdr.count) (u32s m.countSum) (u32s (countsOf m.childHdrs))
      (u64 i) = none := by
  simp only [Trans.ArrayMetaDataSlab_childSlabIndexInfo]
  rw [u32_toUInt64 hcnt, u64_dge hi (by omega)]
  simp [hge]

theorem count_le_sumCounts {d : Nat} (cs : List (ATree d)) (c : ATree d) (hc : c ∈ cs) :
    (hdr d c).count ≤ sumCounts (cs.map (hdr d)) :=
  count_mem_le _ _ (by simp only [countsOf, List.map_map]; exact List.mem_map.2 ⟨c, hc, rfl⟩)

/-- **the routing hypothesis of the `Get` descent holds in every valid tree**, at every `uint64` index: inside the
    array Go's `childSlabIndexInfo` returns the model's child position and adjusted index at every index slab of the
    path (`safe_childSlabIndexInfo`), past the end both report `IndexOutOfBoundsError`. -/
theorem RouteOk.of_inv {T : Nat} (hT : legalThreshold T = true) : ∀ {d : Nat} {top : Bool} (t : ATree d),
    TreeInv T d top t → (ATree.hdr d t).count < 2^32 → ∀ (i : Nat), i < 2^64 → RouteOk d t i
  | 0, top, (t : DataSlab), hinv, hcnt, i, hi => by
    have hinv : DataInv T top t := hinv
    have hcnt : t.hdr.count < 2^32 := hcnt
    have := hinv.count_eq
    exact ⟨hi, by omega⟩
  | d + 1, top, (t : MetaSlab (ATree d)), hinv, hcnt, i, hi => by
    have hcnt : t.hdr.count < 2^32 := hcnt
    obtain ⟨_, hhdrs, hsums, hcount, _, hkids, _⟩ := (hinv : _ ∧ _)
    refine ⟨hhdrs, ?_⟩
    have hpos : ∀ c ∈ t.children, 1 ≤ (hdr d c).count :=
      fun c hc => TreeInv.count_pos hT (hkids c hc)
    rcases Nat.lt_or_ge i t.hdr.count with hlt | hge
    · obtain ⟨A, child, B, hch, h1, h2, hres⟩ := route_spec t ⟨hhdrs, hsums⟩ hcount hpos i hlt
      obtain ⟨k, adj, hres', htr⟩ := safe_childSlabIndexInfo t ⟨hhdrs, hsums⟩ hcount hpos hcnt i hlt
      rw [hres] at hres'
      simp only [Except.ok.injEq, Prod.mk.injEq] at hres'
      obtain ⟨rfl, rfl⟩ := hres'
      rw [hres]
      refine ⟨htr, fun c hc => ?_⟩
      have hck : t.children[A.length]? = some child := by
        rw [hch]; simp
      rw [hck] at hc
      cases hc
      have hmem : child ∈ t.children := by rw [hch]; simp
      have hle := count_le_sumCounts _ _ hmem
      rw [← hhdrs, ← hcount] at hle
      exact RouteOk.of_inv hT child (hkids child hmem) (by omega) _ (by omega)
    · rw [route_err t i hge]
      exact childSlabIndexInfo_past_end t i hi hcnt hge

theorem lt64_of_lt32 {n : Nat} (h : n < 2^32) : n < 2^64 := Nat.lt_trans h (by decide)

/-- a slab one element above the maximum still has a `uint32` size -/
theorem size_lt_u32 {T : Nat} (hT : legalThreshold T = true) {n : Nat} (h : n ≤ maxThr T + maxInlineArr T) :
    n < 2^32 := by
  have F := thrFacts hT
  have := F.hi; have := F.maxE; have := F.inlE
  omega

/-- where the descent goes from a valid index slab at an index inside the array: the routed child in the model
    (`route_flat`), what is known of it, and the answer of the generated `childSlabIndexInfo` -/
theorem descent_route {T : Nat} (hT : legalThreshold T = true) {d : Nat} {top : Bool} {m : MetaSlab (ATree d)}
    (hs : MShape T d top m) (hcnt : m.hdr.count < 2^32) {i : Nat} (hi : i < 2^64) (hlt : i < m.hdr.count) :
    ∃ A child B adj, m.children = A ++ child :: B ∧ m.childSlabIndexInfo i = .ok (A.length, adj) ∧
      i = (A.flatMap (flatten d)).length + adj ∧ adj < (flatten d child).length ∧
      m.children[A.length]? = some child ∧ child ∈ m.children ∧
      (∀ t ∈ A, TreeInv T d false t) ∧ (∀ t ∈ B, TreeInv T d false t) ∧ TreeInv T d false child ∧
      (hdr d child).count < 2^32 ∧ adj < 2^64 ∧
      childInfoOf (some AErr.indexOutOfBounds) (trMeta m) (u64 i) =
        (Int.ofNat A.length, u64 adj, (hdr d child).id, none) := by
  obtain ⟨A, child, B, adj, hch, hroute, hi2, hadj, hget⟩ := route_flat hT hs i hlt
  have hpos : ∀ c ∈ m.children, 1 ≤ (hdr d c).count := fun c hc => (hs.kids_inv c hc).count_pos hT
  obtain ⟨k', adj', hr', htr⟩ := safe_childSlabIndexInfo m hs.book hs.count_eq hpos hcnt i hlt
  rw [hroute] at hr'
  simp only [Except.ok.injEq, Prod.mk.injEq] at hr'
  obtain ⟨rfl, rfl⟩ := hr'
  have e1 := childInfoOf_trMeta_ok m i A.length adj (some .indexOutOfBounds) htr
  rw [childID_of_hdrs m A.length child hs.hdrs_eq hget] at e1
  have hmem : child ∈ m.children := by rw [hch]; exact List.mem_append_right _ List.mem_cons_self
  have hle := count_le_sumCounts _ _ hmem
  rw [← hs.hdrs_eq, ← hs.count_eq] at hle
  exact ⟨A, child, B, adj, hch, hroute, hi2, hadj, hget, hmem,
    fun t ht => hs.kids_inv t (by rw [hch]; exact List.mem_append_left _ ht),
    fun t ht => hs.kids_inv t (by rw [hch]; exact List.mem_append_right _ (List.mem_cons_of_mem _ ht)),
    hs.kids_inv child hmem, Nat.lt_of_le_of_lt hle hcnt,
    Nat.lt_of_le_of_lt (hi2 ▸ Nat.le_add_left _ _) hi, e1⟩

end

/-- **`ArraySlab.Get` over a heap, no routing hypothesis**: on a heap that holds a valid tree, with a depth argument
    that covers the tree, the generated code returns the model's `ATree.get` - the element or the error - at every
    `uint64` index, and the storage is untouched. -/
theorem Sl_ArraySlab_Get_heap_inv (T : Nat) (hT : legalThreshold T = true) (d : Nat) (top : Bool) (t : ATree d)
    (hinv : TreeInv T d top t) (hcnt : (ATree.hdr d t).count < 2^32) (i : Nat) (hi : i < 2^64) (s : HSt) (depth : Nat)
    (hd : d ≤ depth) (hh : Holds s.heap d t) :
    TransSl.ArraySlab_Get (envH T) (TransSl.ArrayMetaDataSlab_Get (envH T) depth) (trTree d t) s (u64 i) =
      some (match ATree.get d t i with
        | .ok e => (some e, none, s)
        | .error e => (none, some e, s)) :=
  Sl_ArraySlab_Get_heap T d t i s depth hd hh (RouteOk.of_inv hT t hinv hcnt i hi)

/-- **`Array.Get` over a heap**: on the handle of a model array whose tree the heap holds, with a depth argument that
    covers the tree, the generated `Array.Get` returns the model's `Arr.get` - the stored element (`StoredValue` of
    `envH` is the identity, `setCallbackWithChild` does nothing for a stand-alone array) or the error - and the
    handle, storage included, is unchanged. -/
theorem Sl_Array_Get_heap (T : Nat) (a : Arr) (i : Nat) (s : HSt) (depth : Nat) (hd : a.d ≤ depth)
    (hh : Holds s.heap a.d a.root) (hr : RouteOk a.d a.root i) :
    TransSl.Array_Get (envH T) depth (trArrH a s) (u64 i) =
      some (match a.get i with
        | .ok e => (some e, none, trArrH a s)
        | .error e => (none, some e, trArrH a s)) := by
  have h := Sl_ArraySlab_Get_heap T a.d a.root i s depth hd hh hr
  simp only [TransSl.Array_Get, trArrH_root, trArrH_Storage, h, Arr.get]
  cases ATree.get a.d a.root i <;> rfl

/-- `Array.Get` on every valid array (`ArrInv`: `TreeInv` of the root, fewer than 2^32 elements), every `uint64` index -/
theorem Sl_Array_Get_heap_inv (T : Nat) (hT : legalThreshold T = true) (a : Arr) (ctr : Nat) (hinv : ArrInv T a ctr)
    (i : Nat) (hi : i < 2^64) (s : HSt) (depth : Nat) (hd : a.d ≤ depth) (hh : Holds s.heap a.d a.root) :
    TransSl.Array_Get (envH T) depth (trArrH a s) (u64 i) =
      some (match a.get i with
        | .ok e => (some e, none, trArrH a s)
        | .error e => (none, some e, trArrH a s)) := by
  refine Sl_Array_Get_heap T a i s depth hd hh (RouteOk.of_inv hT a.root hinv.tree ?_ i hi)
  have := hinv.count_lt
  simp only [Arr.count, Arr.rootHdr, maxArrayElementCount] at this
  omega

/-- `Array.Count` and `Array.Address` of the handle (they read the root header) -/
theorem Sl_Array_Count_heap (T : Nat) (a : Arr) (s : HSt) :
    TransSl.Array_Count (envH T) (trArrH a s) = some (u32 a.count).toUInt64 := by
  obtain ⟨d, root, ty⟩ := a
  cases d <;> rfl

/-- `Array.Count` as a `uint64` when the count fits `uint32` (`ArrInv.count_lt`) -/
theorem Sl_Array_Count_heap_u64 (T : Nat) (a : Arr) (s : HSt) (hcnt : a.count < 2^32) :
    TransSl.Array_Count (envH T) (trArrH a s) = some (u64 a.count) := by
  rw [Sl_Array_Count_heap, u32_toUInt64 hcnt]

theorem Sl_Array_Address_heap (T : Nat) (a : Arr) (s : HSt) :
    TransSl.Array_Address (envH T) (trArrH a s) = some a.addr := by
  obtain ⟨d, root, ty⟩ := a
  cases d <;> rfl

private theorem alist_find?_flatMap {κ α β : Type} [DecidableEq κ] (l : List β) (f : β → AList κ α) (k : κ) :
    AList.find? (l.flatMap f) k = l.findSome? (fun c => AList.find? (f c) k) := by
  induction l with
  | nil => rfl
  | cons x xs ih =>
    rw [List.flatMap_cons, AList.find?_append, ih, List.findSome?_cons]
    cases AList.find? (f x) k <;> rfl

private theorem option_map_findSome? {α β γ : Type} (l : List α) (g : α → Option β) (h : β → γ) :
    (l.findSome? g).map h = l.findSome? (fun c => (g c).map h) := by
  induction l with
  | nil => rfl
  | cons x xs ih =>
    simp only [List.findSome?_cons]
    cases g x with
    | none => simpa using ih
    | some b => rfl

/-- the heap of a model tree is its slab list (HeapSpec.lean), slab by slab as the generated record -/
theorem heapOf_eq_slabs : ∀ (d : Nat) (t : ATree d) (id : SlabID),
    heapOf d t id = (AList.find? (ATree.slabs d t) id).map trASlab
  | 0, (s : DataSlab), id => by
    simp only [heapOf, ATree.slabs, AList.find?]
    by_cases h : id = s.hdr.id
    · subst h; simp [trASlab]
    · have h' : ¬ s.hdr.id = id := fun e => h e.symm
      simp [h, h']
  | d + 1, (m : MetaSlab (ATree d)), id => by
    simp only [heapOf, ATree.slabs, AList.find?]
    by_cases h : id = m.hdr.id
    · subst h; simp [trASlab, trMeta]
    · have h' : ¬ m.hdr.id = id := fun e => h e.symm
      simp only [h, h', if_false]
      rw [alist_find?_flatMap, option_map_findSome?]
      congr 1
      funext c
      exact heapOf_eq_slabs d c id

theorem heapOf_none : ∀ (d : Nat) (t : ATree d) (id : SlabID), id ∉ ATree.slabIds d t → heapOf d t id = none
  | 0, (s : DataSlab), id, h => by
    have : id ≠ s.hdr.id := fun e => h (by rw [e]; exact List.mem_singleton.2 rfl)
    simp [heapOf, this]
  | d + 1, (m : MetaSlab (ATree d)), id, h => by
    have h : id ∉ m.hdr.id :: m.children.flatMap (ATree.slabIds d) := h
    simp only [List.mem_cons, List.mem_flatMap, not_or, not_exists, not_and] at h
    simp only [heapOf, h.1, if_false]
    rw [List.findSome?_eq_none_iff]
    intro c hc
    exact heapOf_none d c id (h.2 c hc)

theorem findSome?_heapOf {d : Nat} (cs : List (ATree d)) (hnd : (cs.flatMap (ATree.slabIds d)).Nodup)
    (c : ATree d) (hc : c ∈ cs) (id : SlabID) (hid : id ∈ ATree.slabIds d c) :
    cs.findSome? (fun c' => heapOf d c' id) = heapOf d c id := by
  induction cs with
  | nil => cases hc
  | cons x xs ih =>
    rw [List.flatMap_cons, List.nodup_append] at hnd
    obtain ⟨_, hxs, hdis⟩ := hnd
    rw [List.findSome?_cons]
    by_cases hx : id ∈ ATree.slabIds d x
    · have hnot : ∀ c' ∈ xs, id ∉ ATree.slabIds d c' := fun c' hc' hin =>
        hdis id hx id (List.mem_flatMap.2 ⟨c', hc', hin⟩) rfl
      have hcx : c = x := by
        rcases List.mem_cons.1 hc with e | e
        · exact e
        · exact absurd hid (hnot c e)
      subst hcx
      cases hh : heapOf d c id with
      | some v => rfl
      | none =>
        simp only
        rw [List.findSome?_eq_none_iff]
        intro c' hc'
        exact heapOf_none d c' id (hnot c' hc')
    · rw [heapOf_none d x id hx]
      have hcx : c ∈ xs := by
        rcases List.mem_cons.1 hc with e | e
        · subst e; exact absurd hid hx
        · exact e
      exact ih hxs hcx

/-- the heap of a tree without repeated identifiers holds the tree -/
theorem Holds_heapOf : ∀ (d : Nat) (t : ATree d), (ATree.slabIds d t).Nodup → Holds (heapOf d t) d t
  | 0, (s : DataSlab), _ => by simp [Holds, heapOf]
  | d + 1, (m : MetaSlab (ATree d)), hnd => by
    have hnd : (m.hdr.id :: m.children.flatMap (ATree.slabIds d)).Nodup := hnd
    rw [List.nodup_cons] at hnd
    obtain ⟨hroot, hkids⟩ := hnd
    refine ⟨by simp [heapOf], fun c hc => ?_⟩
    have hcn : (ATree.slabIds d c).Nodup := by
      obtain ⟨A, B, hAB⟩ := List.append_of_mem hc
      rw [hAB, List.flatMap_append, List.flatMap_cons] at hkids
      exact (List.nodup_append.1 (List.nodup_append.1 hkids).2.1).1
    refine (Holds_heapOf d c hcn).congr (fun id hid => ?_)
    have hne : id ≠ m.hdr.id := fun e => hroot (by rw [← e]; exact List.mem_flatMap.2 ⟨c, hc, hid⟩)
    simp only [heapOf, hne, if_false]
    exact findSome?_heapOf m.children hkids c hc id hid

/-- **`Array.Get` on the heap of a valid array** (no hypothesis left about the storage): the heap is `heapOf` of the
    array's tree, any `Ctx`; `ArrInv` gives the tree invariant, distinct identifiers and the element count. -/
theorem Sl_Array_Get_heapOf (T : Nat) (hT : legalThreshold T = true) (a : Arr) (ctr : Nat) (hinv : ArrInv T a ctr)
    (i : Nat) (hi : i < 2^64) (c : Ctx) (depth : Nat) (hd : a.d ≤ depth) :
    TransSl.Array_Get (envH T) depth (trArrH a ⟨heapOf a.d a.root, c⟩) (u64 i) =
      some (match a.get i with
        | .ok e => (some e, none, trArrH a ⟨heapOf a.d a.root, c⟩)
        | .error e => (none, some e, trArrH a ⟨heapOf a.d a.root, c⟩)) :=
  Sl_Array_Get_heap_inv T hT a ctr hinv i hi ⟨heapOf a.d a.root, c⟩ depth hd (Holds_heapOf a.d a.root hinv.ids.1)

/-! ## non-vacuity: a two-level tree, its heap, `Array.Get` evaluated -/

section
/-- the array whose root is `exMeta` (Props/TransSafe.lean): an index slab over two data slabs of four elements -/
def exRouteArr : Arr := ⟨1, exMeta, 7⟩
/-- its heap: three slabs -/
def exRouteSt (c : Ctx) : HSt := ⟨heapOf 1 exMeta, c⟩

theorem exMeta_children (c : ATree 0) (hc : c ∈ exMeta.children) : c = exSlab 2 ∨ c = exSlab 3 := by
  have hcs : exMeta.children = [exSlab 2, exSlab 3] := rfl
  rw [hcs] at hc
  rcases List.mem_cons.mp hc with h | h
  · exact Or.inl h
  · exact Or.inr (List.mem_singleton.mp h)

theorem exMeta_holds : Holds (heapOf 1 exMeta) 1 exMeta := by
  refine ⟨by simp [heapOf], fun c hc => ?_⟩
  rcases exMeta_children c hc with rfl | rfl <;> rfl

/-- the same from `Holds_heapOf` -/
example : Holds (heapOf 1 exMeta) 1 exMeta := Holds_heapOf 1 exMeta (by decide)

theorem exMeta_treeInv : TreeInv 256 1 true exMeta := by
  refine ⟨rfl, rfl, rfl, rfl, rfl, ?_, ?_, by decide, by simp, fun _ => by decide⟩
  · intro c hc
    rcases exMeta_children c hc with rfl | rfl
    · exact exSlab_inv 2
    · exact exSlab_inv 3
  · intro c hc
    rcases exMeta_children c hc with rfl | rfl <;> rfl

/-- the generated `Array.Get` EVALUATED on that heap: index 5 is the second element of the second data slab (read
    from the heap through the identifier in the root's header copy); index 8 is past the end -/
example (c : Ctx) : TransSl.Array_Get (envH 256) 1 (trArrH exRouteArr (exRouteSt c)) (u64 5) =
    some (some ⟨50, .val 2⟩, none, trArrH exRouteArr (exRouteSt c)) := by rfl

example (c : Ctx) : TransSl.Array_Get (envH 256) 1 (trArrH exRouteArr (exRouteSt c)) (u64 8) =
    some (none, some .indexOutOfBounds, trArrH exRouteArr (exRouteSt c)) := by rfl

/-- a slab missing from the heap: `SlabNotFoundError` from `getArraySlab` (the model has no such case: `Holds` excludes it) -/
example (c : Ctx) : TransSl.Array_Get (envH 256) 1 (trArrH exRouteArr ⟨fun _ => none, c⟩) (u64 5) =
    some (none, some .slabNotFound, trArrH exRouteArr ⟨fun _ => none, c⟩) := by rfl

/-- the hypotheses of `RouteOk.of_inv` / `Sl_Array_Get_heap` are satisfiable: every `uint64` index on this array -/
example (c : Ctx) (i : Nat) (hi : i < 2^64) :
    TransSl.Array_Get (envH 256) 1 (trArrH exRouteArr (exRouteSt c)) (u64 i) =
      some (match exRouteArr.get i with
        | .ok e => (some e, none, trArrH exRouteArr (exRouteSt c))
        | .error e => (none, some e, trArrH exRouteArr (exRouteSt c))) :=
  Sl_Array_Get_heap 256 exRouteArr i (exRouteSt c) 1 (Nat.le_refl _) exMeta_holds
    (RouteOk.of_inv (T := 256) (d := 1) (top := true) (by decide) exMeta exMeta_treeInv (by decide) i hi)

example : exRouteArr.get 5 = .ok ⟨50, .val 2⟩ := by rfl
end

end Atree.TransEq

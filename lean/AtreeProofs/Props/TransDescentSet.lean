import AtreeProofs.Props.TransDescentLevel
/-
  TRANSLATION EQUIVALENCE, the array descent: `ArrayMetaDataSlab.Set` / `ArraySlab.Set` over a HEAP.

  The generated `ArrayMetaDataSlab_Set` (Gen/TransSlabs.lean, regenerated from array_metadata_slab.go on every run) routes
  the index (`childSlabIndexInfo`), reads the child from the storage (`getArraySlab`), calls `Set` on it through dynamic
  dispatch (recursion on a depth argument), overwrites the header copy of the child, and then runs the repair step
  `genTail` (Props/TransDescentLevel.lean): `SplitChildSlab` if the updated child is full, `MergeOrRebalanceChildSlab` if
  it underflows, `storeSlab(a)` otherwise.  Over the heap environment `envH T` (Trans/Descent.lean), on a heap that HOLDS
  a valid model tree, it returns what the model's `ATree.set` returns on the embedded tree - old element, new tree (as
  `trTree`), `Ctx` - and the heap after it satisfies `HeapPost` (holds the new tree, slabs that left the tree are gone,
  everything else untouched).  One level is `descent_level`; the induction over the depth is `setDisp_all`.

  `SetTailsOn`, `SplitTailHyp` / `MorTailHyp` and `NoRestructure` state what the repair step does along the path of one
  `Set`: as a predicate on the path, as two statements per depth, and as a condition on the model alone under which it
  is a plain store.  `setTailsOn_of_hyps` and `setTailsOn_of_noRestructure` relate them; the theorems about the
  generated code hold without them, and the forms that assume one of them follow by dropping the assumption.

  HYPOTHESIS `FreshFree addr s` (Props/TransDescentHeap.lean): no slab is stored under an identifier of the owner address
  above the allocation counter.  It is what makes the FRAME clause of `HeapPost` compose (`HeapPost.level`): `Set` can
  allocate an identifier below (a split) and drop it again above (a merge); such an identifier is not in the final
  heap, so it must not have been in the initial one.  It is preserved (`FreshFree.post`).
-/
namespace Atree.TransEq
open Atree Atree.Gen

/-- the size loop of `ArrayDataSlab.Set` over the heap environment -/
theorem Sl_Set_loop1_envH (T : Nat) (l : List Elem) (z : Nat) :
    TransSl.ArrayDataSlab_Set.loop1 (envH T) (l.map some) (u32 z) = .done (u32 (z + sumSizes l)) :=
  Sl_Set_loop1_any (fun _ => rfl) l z

/-- the storage after the leaf `Set` -/
def dataSetSt (T : Nat) (sl sl' : DataSlab) (v : Elem) (s : HSt) : HSt :=
  let s1 := s.withCtx (toStorable T sl.hdr.id.addr v s.ctx).2
  if sl.inlined then s1 else s1.store sl.hdr.id (some (.dataSlab (trData sl')))

/-- **`ArrayDataSlab.Set` over the heap** (`Sl_ArrayDataSlab_Set_any` at `envH`): the model's `DataSlab.set`; the
    storage afterwards is `dataSetSt`: the `Ctx` after `toStorable`, and - for a slab that is not inlined - the NEW slab
    stored under its identifier (one `store` effect) -/
theorem Sl_ArrayDataSlab_Set_envH (T : Nat) (sl : DataSlab) (i : Nat) (v : Elem) (s : HSt)
    (hi : i < 2^64) (hlen : sl.elems.length < 2^63) (hmax : maxInlineArr T < 2^32) :
    TransSl.ArrayDataSlab_Set (envH T) (trData sl) s sl.hdr.id.addr (u64 i) (some v) =
      match sl.set T i v s.ctx with
      | .error e => some (none, some e, trData sl, s)
      | .ok (old, sl', _) => some (some old, none, trData sl', dataSetSt T sl sl' v s) :=
  Sl_ArrayDataSlab_Set_any (leafEnv_envH T) (storableAs_envH T hmax) sl i v s hi hlen

section
variable {σ υ ξ ε S Φ : Type}

/-- `ArrayMetaDataSlab.Set` after a successful child operation: the header copy of the child is overwritten, then the
    repair step runs -/
theorem metaSet_step (env : TransSl.Env σ υ ξ ε S Φ) (depth : Nat) (a : TransSl.ArrayMetaDataSlab ξ) (s s1 : S)
    (addr : Nat) (idx adj : UInt64) (val : Option υ) (k : Int) (cid : SlabID)
    (child child1 : TransSl.ArraySlabV σ ξ) (old : Option σ) (l6 : List TransSl.ArraySlabHeader)
    (h1 : env.ArrayMetaDataSlab_childSlabIndexInfo a idx = (k, adj, cid, none))
    (h2 : env.getArraySlab s cid = (some child, none, s))
    (h3 : TransSl.ArraySlab_Set env (TransSl.ArrayMetaDataSlab_Set env depth) child s addr adj val =
      some (old, none, child1, s1))
    (h4 : TransSl.goSet a.childrenHeaders k (TransSl.ArraySlab_Header env child1) = some l6) :
    TransSl.ArrayMetaDataSlab_Set env (depth + 1) a s addr idx val =
      match genTail env { a with childrenHeaders := l6 } s1 child1 k with
      | some r => if r.1.isSome then some (none, r.1, r.2.1, r.2.2) else some (old, none, r.2.1, r.2.2)
      | none => none := by
  simp only [TransSl.ArrayMetaDataSlab_Set, h1, h2, h3, h4, Option.isSome_none, Bool.false_eq_true, if_false, genTail]
  cases TransSl.ArraySlab_IsFull env child1
  · cases (TransSl.ArraySlab_IsUnderflow env child1).2
    · cases TransSl.storeSlab env s1 (some (.metaSlab { a with childrenHeaders := l6 })) <;> rfl
    · cases TransSl.ArrayMetaDataSlab_MergeOrRebalanceChildSlab env { a with childrenHeaders := l6 } s1 (some child1) k
        (TransSl.ArraySlab_IsUnderflow env child1).1 <;> rfl
  · cases TransSl.ArrayMetaDataSlab_SplitChildSlab env { a with childrenHeaders := l6 } s1 (some child1) k <;> rfl
end

section
open ATree MetaSlab
variable {d : Nat}

/-- what is known when the tail of `ArrayMetaDataSlab.Set` runs -/
structure SetTailPre (T d addr : Nat) (m1 : MetaSlab (ATree d)) (A B : List (ATree d)) (child' : ATree d) (s1 : HSt) :
    Prop where
  kids : m1.children = A ++ child' :: B
  book : Book m1
  left : ∀ t ∈ A, TreeInv T d false t
  right : ∀ t ∈ B, TreeInv T d false t
  shape : Shape T d false child'
  size_hi : (ATree.hdr d child').size ≤ maxThr T + maxInlineArr T
  size_lo : minThr T ≤ (ATree.hdr d child').size + maxInlineArr T
  size_lo_meta : d ≠ 0 → minThr T ≤ (ATree.hdr d child').size + 14
  two : 2 ≤ m1.children.length
  msize : m1.hdr.size = arrayMetaDataSlabPrefixSize + arraySlabHeaderSize * m1.children.length
  msize_le : m1.hdr.size ≤ maxThr T
  mcount : m1.hdr.count = sumCounts m1.childHdrs
  mcount_lt : m1.hdr.count < 2^32
  ids : IdsOk addr s1.ctx.ctr (ATree.slabIds (d + 1) (ofMeta m1))
  holds : HoldsChildren s1.heap m1
  fresh : FreshFree addr s1

/-- the tail of `ArrayMetaDataSlab.Set` at ONE index slab: on the parent `m1` (header copy of the child already
    overwritten), the updated child `child'` at position `k` and the storage `s1`, the generated tail - `SplitChildSlab`
    if the child is full, `MergeOrRebalanceChildSlab` if it underflows, `storeSlab` otherwise - returns the parent of
    the model's `afterSet`, with the model's `Ctx` and a heap that satisfies `HeapPost` relative to `s1.heap` -/
def SetTailOk (T d : Nat) (m1 : MetaSlab (ATree d)) (child' : ATree d) (k : Nat) (s1 : HSt) : Prop :=
  match ATree.afterSet T m1 child' k s1.ctx with
  | .ok (m2, c2) => ∃ s2, s2.ctx = c2 ∧ HeapPost s1.heap s2.heap (ofMeta m1) (ofMeta m2) ∧
      (if ATree.isFull T d child' = true then
        ∃ out, TransSl.ArrayMetaDataSlab_SplitChildSlab (envH T) (trMeta m1) s1 (some (trTree d child')) (Int.ofNat k) =
          some (none, trMeta m2, s2, out)
      else match ATree.isUnderflow T d child' with
        | some u => ∃ out, TransSl.ArrayMetaDataSlab_MergeOrRebalanceChildSlab (envH T) (trMeta m1) s1
            (some (trTree d child')) (Int.ofNat k) (u32 u) = some (none, trMeta m2, s2, out)
        | none => TransSl.storeSlab (envH T) s1 (some (.metaSlab (trMeta m1))) = some (none, s2))
  | .error _ => True

theorem SetTailPre.toTail {T addr : Nat} {m1 : MetaSlab (ATree d)} {A B : List (ATree d)} {child' : ATree d} {s1 : HSt}
    (h : SetTailPre T d addr m1 A B child' s1) : TailPre T d addr m1 A B child' s1 :=
  { kids := h.kids, book := h.book, left := h.left, right := h.right, shape := h.shape, size_hi := h.size_hi,
    size_lo := h.size_lo, size_lo_meta := h.size_lo_meta, two := h.two, msize := h.msize, mcount := h.mcount,
    mcount_lt := h.mcount_lt, ids := h.ids, holds := h.holds }

/-- the PLAIN-STORE tail (the updated child is neither full nor underflowing): one `storeSlab` of the parent -/
theorem setTailOk_plain {T addr : Nat} {m1 : MetaSlab (ATree d)} {A B : List (ATree d)} {child' : ATree d} {s1 : HSt}
    (hpre : SetTailPre T d addr m1 A B child' s1) (k : Nat)
    (hfull : ATree.isFull T d child' = false) (hunder : ATree.isUnderflow T d child' = none) :
    SetTailOk T d m1 child' k s1 := by
  unfold SetTailOk ATree.afterSet
  simp only [hfull, hunder, Bool.false_eq_true, if_false]
  refine ⟨s1.store m1.hdr.id (some (.metaSlab (trMeta m1))), rfl, ?_, storeSlab_envH_meta T s1 (trMeta m1)⟩
  exact heapPost_store_parent m1 hpre.holds hpre.ids.1 s1.ctx
end

section
open ATree MetaSlab
variable {d : Nat}

/-- the tails along the path of `Set(i, v)` from the context `c`: at every index slab of the path, IF the facts
    `SetTailPre` hold for the parent with its bookkeeping updated (`setM1`), the updated child and a storage whose `Ctx`
    is the model's after the child operation, THEN the generated tail does what the model's `afterSet` does
    (`SetTailOk`).  `setTailsOn_of_hyps` derives it from the statements about `SplitChildSlab` and
    `MergeOrRebalanceChildSlab`, `setTailsOn_of_noRestructure` proves it when no child on the path becomes full or
    underflows. -/
def SetTailsOn (T addr : Nat) : (d : Nat) → ATree d → Nat → Elem → Ctx → Prop
  | 0, _, _, _, _ => True
  | d + 1, (m : MetaSlab (ATree d)), i, v, c =>
    match m.childSlabIndexInfo i with
    | .ok (k, adj) => ∀ child, m.children[k]? = some child →
        SetTailsOn T addr d child adj v c ∧
        match ATree.set T d child adj v c with
        | .ok (_, child', c1) => ∀ (s1 : HSt) (A B : List (ATree d)), s1.ctx = c1 → A.length = k →
            SetTailPre T d addr (setM1 m k child') A B child' s1 → SetTailOk T d (setM1 m k child') child' k s1
        | .error _ => True
    | .error _ => True

theorem setTailsOn_succ (T addr d : Nat) (m : MetaSlab (ATree d)) (i : Nat) (v : Elem) (c : Ctx) :
    SetTailsOn T addr (d + 1) (ofMeta m) i v c =
      match m.childSlabIndexInfo i with
      | .ok (k, adj) => ∀ child, m.children[k]? = some child →
          SetTailsOn T addr d child adj v c ∧
          match ATree.set T d child adj v c with
          | .ok (_, child', c1) => ∀ (s1 : HSt) (A B : List (ATree d)), s1.ctx = c1 → A.length = k →
              SetTailPre T d addr (setM1 m k child') A B child' s1 → SetTailOk T d (setM1 m k child') child' k s1
          | .error _ => True
      | .error _ => True := rfl

/-- what the dispatcher `ArraySlab.Set` must do on the tree `t` at depth `d` -/
def SetDispPost (T d depth addr : Nat) (t : ATree d) (i : Nat) (v : Elem) (s : HSt) : Prop :=
  match ATree.set T d t i v s.ctx with
  | .ok (old, t', c') => ∃ s',
      TransSl.ArraySlab_Set (envH T) (TransSl.ArrayMetaDataSlab_Set (envH T) depth) (trTree d t) s addr (u64 i) (some v) =
        some (some old, none, trTree d t', s') ∧ s'.ctx = c' ∧ HeapPost s.heap s'.heap t t'
  | .error e => e = .indexOutOfBounds ∧
      TransSl.ArraySlab_Set (envH T) (TransSl.ArrayMetaDataSlab_Set (envH T) depth) (trTree d t) s addr (u64 i) (some v) =
        some (none, some .indexOutOfBounds, trTree d t, s)

/-- what `ArrayMetaDataSlab.Set` must do on the index slab `m` (children of depth `d`) -/
def SetMetaPost (T d depth addr : Nat) (m : MetaSlab (ATree d)) (i : Nat) (v : Elem) (s : HSt) : Prop :=
  match ATree.set T (d + 1) (ofMeta m) i v s.ctx with
  | .ok (old, t', c') => ∃ s',
      TransSl.ArrayMetaDataSlab_Set (envH T) (depth + 1) (trMeta m) s addr (u64 i) (some v) =
        some (some old, none, trMeta (t' : MetaSlab (ATree d)), s') ∧ s'.ctx = c' ∧
        HeapPost s.heap s'.heap (ofMeta m) t'
  | .error e => e = .indexOutOfBounds ∧
      TransSl.ArrayMetaDataSlab_Set (envH T) (depth + 1) (trMeta m) s addr (u64 i) (some v) =
        some (none, some .indexOutOfBounds, trMeta m, s)

/-- the statement for the dispatcher at tree depth `d` -/
def SetDisp (T d : Nat) : Prop :=
  ∀ (t : ATree d) (top : Bool) (i : Nat) (v : Elem) (s : HSt) (depth addr : Nat), d ≤ depth →
    Holds s.heap d t → IdsOk addr s.ctx.ctr (slabIds d t) → FreshFree addr s → TreeInv T d top t → NotInl d t →
    ValueOk v → (hdr d t).count < 2^32 → i < 2^64 →
    SetDispPost T d depth addr t i v s

/-- the statement for an index slab whose children have depth `d` (the receiver is passed by value: only its
    children have to be in the heap) -/
def SetMeta (T d : Nat) : Prop :=
  ∀ (m : MetaSlab (ATree d)) (top : Bool) (i : Nat) (v : Elem) (s : HSt) (depth addr : Nat), d ≤ depth →
    HoldsChildren s.heap m → IdsOk addr s.ctx.ctr (slabIds (d + 1) (ofMeta m)) → FreshFree addr s →
    TreeInv T (d + 1) top (ofMeta m) → ValueOk v → m.hdr.count < 2^32 → i < 2^64 →
    SetMetaPost T d depth addr m i v s

/-- the data slab: no hypothesis about the heap -/
theorem setPost_data (T : Nat) (hT : legalThreshold T = true) (sl : DataSlab) (top : Bool) (i : Nat) (v : Elem)
    (s : HSt) (depth addr : Nat) (hids : IdsOk addr s.ctx.ctr (slabIds 0 (ofData sl)))
    (hinv : TreeInv T 0 top (ofData sl)) (hni : NotInl 0 (ofData sl)) (hcnt : (hdr 0 (ofData sl)).count < 2^32)
    (hi : i < 2^64) : SetDispPost T 0 depth addr (ofData sl) i v s := by
  have hinv : DataInv T top sl := (treeInv_zero T top sl).1 hinv
  have hni : sl.inlined = false := hni
  have hcnt : sl.hdr.count < 2^32 := hcnt
  have haddr : sl.hdr.id.addr = addr := (hids.2 sl.hdr.id (by simp)).1
  have hlen : sl.elems.length < 2^63 := by have := hinv.count_eq; omega
  have hmax : maxInlineArr T < 2^32 := by
    have F := thrFacts hT; have := F.inlE; have := F.hi; omega
  have hgen := Sl_ArrayDataSlab_Set_envH T sl i v s hi hlen hmax
  rw [haddr] at hgen
  unfold SetDispPost
  have e : ATree.set T 0 (ofData sl) i v s.ctx = sl.set T i v s.ctx := rfl
  have etr : trTree 0 (ofData sl) = .dataSlab (trData sl) := rfl
  rw [e, etr]
  cases hset : sl.set T i v s.ctx with
  | error e =>
    rw [hset] at hgen
    have he := DataSlab.set_err_inv hset
    subst he
    exact ⟨rfl, by simp only [TransSl.ArraySlab_Set, hgen]⟩
  | ok r =>
    obtain ⟨old, sl', c'⟩ := r
    rw [hset] at hgen
    obtain ⟨hid, hinl, hc'⟩ := DataSlab.set_inPlace hset
    obtain ⟨hctx, hp⟩ := leafStored_envH T (s.withCtx (toStorable T sl.hdr.id.addr v s.ctx).2) hni hid hinl
    exact ⟨dataSetSt T sl sl' v s, by simp only [TransSl.ArraySlab_Set, hgen]; rfl, hctx.trans hc'.symm, hp⟩

theorem setDisp_zero (T : Nat) (hT : legalThreshold T = true) : SetDisp T 0 := by
  intro t top i v s depth addr _ _ hids _ hinv hni _ hcnt hi
  exact setPost_data T hT t top i v s depth addr hids hinv hni hcnt hi

end

section
open ATree MetaSlab
variable {d : Nat}

theorem trMeta_setM1 (m : MetaSlab (ATree d)) (k : Nat) (child' : ATree d) :
    ({ trMeta m with childrenHeaders := (m.childHdrs.map trHdr).set k (trHdr (hdr d child')) } : GMeta) =
      trMeta (setM1 m k child') := by
  simp [trMeta, setM1, List.map_set]

theorem setMeta_of_disp (T : Nat) (hT : legalThreshold T = true) (d : Nat) (ih : SetDisp T d) : SetMeta T d := by
  intro m top i v s depth addr hd hh hids hfree hinv hv hcnt hi
  obtain ⟨hs, _, _, _⟩ := (treeInv_succ T d top m).1 hinv
  unfold SetMetaPost
  rcases Nat.lt_or_ge i m.hdr.count with hlt | hge
  case inr =>
    rw [set_succ_err m i v s.ctx _ (route_err m i hge)]
    have e1 := childInfoOf_trMeta_none m i (some .indexOutOfBounds) (childSlabIndexInfo_past_end m i hi hcnt hge)
    exact ⟨rfl, by simp [TransSl.ArrayMetaDataSlab_Set, envH_childInfo, e1]⟩
  case inl =>
    obtain ⟨A, child, B, adj, hch, hroute, _, hadj, hget, hmem, _, _, hc, hccnt, hadj64, e1⟩ :=
      descent_route hT hs hcnt hi hlt
    have e1 : (envH T).ArrayMetaDataSlab_childSlabIndexInfo (trMeta m) (u64 i) = _ := e1
    -- the child: model, then generated code
    obtain ⟨child', c1, hset, hstep, _, hcnt', hsz1, hsz2, hsz3⟩ :=
      set_gen hT d child false adj v s.ctx hc hc.notInl_of_false hv hadj
    have IH := ih child false adj v s depth addr hd (hh _ hmem) (ids_child hch hids) hfree hc hc.notInl_of_false hv
      hccnt hadj64
    unfold SetDispPost at IH
    rw [hset] at IH
    obtain ⟨s1, e3, rfl, hp1⟩ := IH
    -- the level
    have hwb := written_back (f := id) hs hch hcnt' (fun _ _ _ => rfl)
    rw [← setM1_eq] at hwb
    obtain ⟨hch1, hbook1, hcount1⟩ := hwb
    obtain ⟨m2, c2, s2, haft, hg, hc2, hp, _, _⟩ := descent_level hT hinv hch hh hids
      (fresh_of_freshFree hfree (ids_child hch hids) hstep) hstep hp1 hsz1 hsz2 hsz3
      hch1 rfl rfl rfl hbook1 hcount1 hcnt
    rw [set_succ_ok m m2 i A.length adj v _ s.ctx s1.ctx c2 child child' hroute hget hset haft]
    refine ⟨s2, ?_, hc2, hp⟩
    have hk : A.length < (trMeta m).childrenHeaders.length := by
      rw [trMeta_childrenHeaders, List.length_map, hs.hdrs_eq, hch]; simp
    have e4 : TransSl.goSet (trMeta m).childrenHeaders (Int.ofNat A.length)
        (TransSl.ArraySlab_Header (envH T) (trTree d child')) =
          some ((m.childHdrs.map trHdr).set A.length (trHdr (hdr d child'))) := by
      rw [disp_Header_any, goSet_ofNat, if_pos hk]; rfl
    rw [metaSet_step (envH T) depth (trMeta m) s s1 addr (u64 i) (u64 adj) (some v) (Int.ofNat A.length)
      (hdr d child).id (trTree d child) (trTree d child') (some ((flatten d child).getD adj default)) _ e1
      (getArraySlab_envH_some T s _ _ (hh _ hmem).root) e3 e4, trMeta_setM1, hg]
    rfl

end

section
open ATree MetaSlab
variable {d : Nat}

theorem setDisp_succ (T d : Nat) (ih : SetMeta T d) : SetDisp T (d + 1) := by
  intro t top i v s depth addr hd hh hids hfree hinv _ hv hcnt hi
  obtain ⟨depth, rfl⟩ : ∃ n, depth = n + 1 := ⟨depth - 1, by omega⟩
  have h := ih t top i v s depth addr (by omega) hh.2 hids hfree hinv hv hcnt hi
  unfold SetMetaPost at h
  unfold SetDispPost
  have e : ATree.set T (d + 1) (ofMeta t) i v s.ctx = ATree.set T (d + 1) t i v s.ctx := rfl
  have etr : trTree (d + 1) t = .metaSlab (trMeta (t : MetaSlab (ATree d))) := rfl
  rw [e] at h
  rw [etr]
  cases hset : ATree.set T (d + 1) t i v s.ctx with
  | error err =>
    rw [hset] at h
    obtain ⟨he, h⟩ := h
    exact ⟨he, by simp only [TransSl.ArraySlab_Set, h]⟩
  | ok r =>
    obtain ⟨old, t', c'⟩ := r
    rw [hset] at h
    obtain ⟨s', e1, hc, hp⟩ := h
    exact ⟨s', by simp only [TransSl.ArraySlab_Set, e1]; rfl, hc, hp⟩

theorem setDisp_all (T : Nat) (hT : legalThreshold T = true) : ∀ d, SetDisp T d
  | 0 => setDisp_zero T hT
  | d + 1 => setDisp_succ T d (setMeta_of_disp T hT d (setDisp_all T hT d))

/-- `SplitChildSlab` over the heap on an index slab whose children have depth `d`, when the updated child is full, as a
    statement per depth (it holds: `splitTailHyp_all`, Props/TransDescentSetFull.lean) -/
def SplitTailHyp (T d : Nat) : Prop :=
  ∀ (addr : Nat) (m1 : MetaSlab (ATree d)) (A B : List (ATree d)) (child' : ATree d) (s1 : HSt),
    SetTailPre T d addr m1 A B child' s1 → maxThr T < (hdr d child').size →
    match m1.splitChildSlab child' A.length s1.ctx with
    | .ok (m2, c2) => ∃ s2 out,
        TransSl.ArrayMetaDataSlab_SplitChildSlab (envH T) (trMeta m1) s1 (some (trTree d child')) (Int.ofNat A.length) =
          some (none, trMeta m2, s2, out) ∧ s2.ctx = c2 ∧ HeapPost s1.heap s2.heap (ofMeta m1) (ofMeta m2)
    | .error _ => True

/-- `MergeOrRebalanceChildSlab` over the heap, when the updated child underflows, as a statement per depth (it holds:
    `morTailHyp_all`, Props/TransDescentSetFull.lean) -/
def MorTailHyp (T d : Nat) : Prop :=
  ∀ (addr : Nat) (m1 : MetaSlab (ATree d)) (A B : List (ATree d)) (child' : ATree d) (s1 : HSt),
    SetTailPre T d addr m1 A B child' s1 → (hdr d child').size < minThr T →
    match m1.mergeOrRebalanceChildSlab T child' A.length (minThr T - (hdr d child').size) s1.ctx with
    | .ok (m2, c2) => ∃ s2 out,
        TransSl.ArrayMetaDataSlab_MergeOrRebalanceChildSlab (envH T) (trMeta m1) s1 (some (trTree d child'))
            (Int.ofNat A.length) (u32 (minThr T - (hdr d child').size)) =
          some (none, trMeta m2, s2, out) ∧ s2.ctx = c2 ∧ HeapPost s1.heap s2.heap (ofMeta m1) (ofMeta m2)
    | .error _ => True

/-- the repair step of `Set` simulates `afterSet`, in the form of `SetTailOk` -/
theorem setTailOk_of_pre {T addr : Nat} (hT : legalThreshold T = true) {m1 : MetaSlab (ATree d)}
    {A B : List (ATree d)} {child' : ATree d} {s1 : HSt} (hpre : SetTailPre T d addr m1 A B child' s1) :
    SetTailOk T d m1 child' A.length s1 := by
  unfold SetTailOk
  cases haft : afterSet T m1 child' A.length s1.ctx with
  | error _ => trivial
  | ok p =>
    obtain ⟨m2, c2⟩ := p
    obtain ⟨s2, hg, hc, hp, _⟩ := tail_sim hT hpre.toTail haft
    have TF := thresholds_fit hT
    have hsz := size_lt_u32 hT hpre.size_hi
    have hIF := setH_IsFull T d child' hsz TF.2.2.1
    have hIU := setH_IsUnderflow T d child' hsz TF.2.1
    refine ⟨s2, hc, hp, ?_⟩
    by_cases hfull : ATree.isFull T d child' = true
    · rw [if_pos hfull]; exact genTail_split (envH T) (hIF.trans hfull) hg
    · rw [if_neg hfull]
      have hIF' : TransSl.ArraySlab_IsFull (envH T) (trTree d child') = false := by
        rw [hIF]; exact Bool.eq_false_iff.2 hfull
      cases hu : ATree.isUnderflow T d child' with
      | some u =>
        rw [hu] at hIU
        have h := genTail_mor (envH T) hIF' (by rw [hIU]) hg
        rwa [hIU] at h
      | none =>
        rw [hu] at hIU
        rw [genTail_store (envH T) _ _ _ _ hIF' (by rw [hIU]), storeSlab_envH_meta] at hg
        simp only [Option.map_some, Option.some.injEq, Prod.mk.injEq, true_and] at hg
        rw [storeSlab_envH_meta, hg.2]

theorem setTailsOn_all (T addr : Nat) (hT : legalThreshold T = true) : ∀ (d : Nat) (t : ATree d) (i : Nat) (v : Elem)
    (c : Ctx), SetTailsOn T addr d t i v c
  | 0, _, _, _, _ => trivial
  | d + 1, t, i, v, c => by
    refine forall_ofMeta ?_ t; intro m
    rw [setTailsOn_succ]
    cases hr : m.childSlabIndexInfo i with
    | error e => trivial
    | ok p =>
      obtain ⟨k, adj⟩ := p
      intro child _
      refine ⟨setTailsOn_all T addr hT d child adj v c, ?_⟩
      cases hs : ATree.set T d child adj v c with
      | error e => trivial
      | ok r =>
        obtain ⟨old, child', c1⟩ := r
        intro s1 A B _ hk hpre
        subst hk
        exact setTailOk_of_pre hT hpre

/-- `setTailsOn_all` under a hypothesis it does not need (the two statements at every smaller depth) -/
theorem setTailsOn_of_hyps (T addr : Nat) (hT : legalThreshold T = true) : ∀ (d : Nat) (t : ATree d) (i : Nat) (v : Elem)
    (c : Ctx), (∀ d', d' < d → SplitTailHyp T d' ∧ MorTailHyp T d') → SetTailsOn T addr d t i v c :=
  fun d t i v c _ => setTailsOn_all T addr hT d t i v c
/-- no child on the path of `Set(i, v)` becomes full or underflows -/
def NoRestructure (T : Nat) : (d : Nat) → ATree d → Nat → Elem → Ctx → Prop
  | 0, _, _, _, _ => True
  | d + 1, (m : MetaSlab (ATree d)), i, v, c =>
    match m.childSlabIndexInfo i with
    | .ok (k, adj) => ∀ child, m.children[k]? = some child →
        NoRestructure T d child adj v c ∧
        match ATree.set T d child adj v c with
        | .ok (_, child', _) => ATree.isFull T d child' = false ∧ ATree.isUnderflow T d child' = none
        | .error _ => True
    | .error _ => True

theorem noRestructure_succ (T d : Nat) (m : MetaSlab (ATree d)) (i : Nat) (v : Elem) (c : Ctx) :
    NoRestructure T (d + 1) (ofMeta m) i v c =
      match m.childSlabIndexInfo i with
      | .ok (k, adj) => ∀ child, m.children[k]? = some child →
          NoRestructure T d child adj v c ∧
          match ATree.set T d child adj v c with
          | .ok (_, child', _) => ATree.isFull T d child' = false ∧ ATree.isUnderflow T d child' = none
          | .error _ => True
      | .error _ => True := rfl

theorem setTailsOn_of_noRestructure (T addr : Nat) : ∀ (d : Nat) (t : ATree d) (i : Nat) (v : Elem) (c : Ctx),
    NoRestructure T d t i v c → SetTailsOn T addr d t i v c
  | 0, _, _, _, _, _ => trivial
  | d + 1, t, i, v, c, h => by
    revert h
    refine forall_ofMeta ?_ t; intro m h
    rw [noRestructure_succ] at h
    rw [setTailsOn_succ]
    cases hr : m.childSlabIndexInfo i with
    | error e => trivial
    | ok p =>
      obtain ⟨k, adj⟩ := p
      rw [hr] at h
      intro child hget
      obtain ⟨h1, h2⟩ := h child hget
      refine ⟨setTailsOn_of_noRestructure T addr d child adj v c h1, ?_⟩
      cases hs : ATree.set T d child adj v c with
      | error e => trivial
      | ok r =>
        obtain ⟨old, child', c1⟩ := r
        rw [hs] at h2
        intro s1 A B _ _ hpre
        exact setTailOk_plain hpre k h2.1 h2.2

end

section
open ATree MetaSlab

/-- **`ArraySlab.Set` over a heap** (dynamic dispatch; an index slab descends through the storage): on a heap that holds a valid tree `t`
    (`Holds`, `TreeInv`, identifiers below the counter, nothing stored above the counter: `FreshFree`), with a depth
    argument that covers the tree, the generated code returns what the model's `ATree.set` returns - the old element,
    the new tree as `trTree` (children that became full are split, children that underflow are merged or rebalanced),
    the model's `Ctx` - and the heap afterwards holds the new tree, the slabs that left the tree are gone and
    everything else is untouched (`HeapPost`).  Past the end: `IndexOutOfBoundsError`, nothing was touched. -/
theorem Sl_ArraySlab_Set_heap_full (T : Nat) (hT : legalThreshold T = true) (d : Nat) (t : ATree d) (top : Bool)
    (i : Nat) (v : Elem) (s : HSt) (depth addr : Nat) (hd : d ≤ depth) (hh : Holds s.heap d t)
    (hids : IdsOk addr s.ctx.ctr (slabIds d t)) (hfree : FreshFree addr s) (hinv : TreeInv T d top t)
    (hni : NotInl d t) (hv : ValueOk v) (hcnt : (hdr d t).count < 2^32) (hi : i < 2^64) :
    match ATree.set T d t i v s.ctx with
    | .ok (old, t', c') => ∃ s',
        TransSl.ArraySlab_Set (envH T) (TransSl.ArrayMetaDataSlab_Set (envH T) depth) (trTree d t) s addr (u64 i)
          (some v) = some (some old, none, trTree d t', s') ∧ s'.ctx = c' ∧ HeapPost s.heap s'.heap t t'
    | .error e => e = .indexOutOfBounds ∧
        TransSl.ArraySlab_Set (envH T) (TransSl.ArrayMetaDataSlab_Set (envH T) depth) (trTree d t) s addr (u64 i)
          (some v) = some (none, some .indexOutOfBounds, trTree d t, s) :=
  setDisp_all T hT d t top i v s depth addr hd hh hids hfree hinv hni hv hcnt hi

/-- **`ArrayMetaDataSlab.Set` over a heap**: the receiver is the translation of a
    model index slab (passed by value), its children are held by the heap; depth argument `depth + 1` for children of
    depth `d ≤ depth`. -/
theorem Sl_ArrayMetaDataSlab_Set_heap_full (T : Nat) (hT : legalThreshold T = true) (d : Nat) (m : MetaSlab (ATree d))
    (top : Bool) (i : Nat) (v : Elem) (s : HSt) (depth addr : Nat) (hd : d ≤ depth) (hh : HoldsChildren s.heap m)
    (hids : IdsOk addr s.ctx.ctr (slabIds (d + 1) (ofMeta m))) (hfree : FreshFree addr s)
    (hinv : TreeInv T (d + 1) top (ofMeta m)) (hv : ValueOk v) (hcnt : m.hdr.count < 2^32) (hi : i < 2^64) :
    match ATree.set T (d + 1) (ofMeta m) i v s.ctx with
    | .ok (old, t', c') => ∃ s',
        TransSl.ArrayMetaDataSlab_Set (envH T) (depth + 1) (trMeta m) s addr (u64 i) (some v) =
          some (some old, none, trMeta (t' : MetaSlab (ATree d)), s') ∧ s'.ctx = c' ∧
          HeapPost s.heap s'.heap (ofMeta m) t'
    | .error e => e = .indexOutOfBounds ∧
        TransSl.ArrayMetaDataSlab_Set (envH T) (depth + 1) (trMeta m) s addr (u64 i) (some v) =
          some (none, some .indexOutOfBounds, trMeta m, s) :=
  setMeta_of_disp T hT d (setDisp_all T hT d) m top i v s depth addr hd hh hids hfree hinv hv hcnt hi

/-- `Sl_ArraySlab_Set_heap_full` under a hypothesis it does not need (`SetTailsOn`, which holds of every tree:
    `setTailsOn_all`) -/
theorem Sl_ArraySlab_Set_heap (T : Nat) (hT : legalThreshold T = true) (d : Nat) (t : ATree d) (top : Bool) (i : Nat)
    (v : Elem) (s : HSt) (depth addr : Nat) (hd : d ≤ depth) (hh : Holds s.heap d t)
    (hids : IdsOk addr s.ctx.ctr (slabIds d t)) (hfree : FreshFree addr s) (hinv : TreeInv T d top t)
    (hni : NotInl d t) (hv : ValueOk v) (hcnt : (hdr d t).count < 2^32) (hi : i < 2^64)
    (htails : SetTailsOn T addr d t i v s.ctx) :
    match ATree.set T d t i v s.ctx with
    | .ok (old, t', c') => ∃ s',
        TransSl.ArraySlab_Set (envH T) (TransSl.ArrayMetaDataSlab_Set (envH T) depth) (trTree d t) s addr (u64 i)
          (some v) = some (some old, none, trTree d t', s') ∧ s'.ctx = c' ∧ HeapPost s.heap s'.heap t t'
    | .error e => e = .indexOutOfBounds ∧
        TransSl.ArraySlab_Set (envH T) (TransSl.ArrayMetaDataSlab_Set (envH T) depth) (trTree d t) s addr (u64 i)
          (some v) = some (none, some .indexOutOfBounds, trTree d t, s) :=
  Sl_ArraySlab_Set_heap_full T hT d t top i v s depth addr hd hh hids hfree hinv hni hv hcnt hi

/-- `Sl_ArrayMetaDataSlab_Set_heap_full` under a hypothesis it does not need (`SetTailsOn` of the index slab) -/
theorem Sl_ArrayMetaDataSlab_Set_heap (T : Nat) (hT : legalThreshold T = true) (d : Nat) (m : MetaSlab (ATree d))
    (top : Bool) (i : Nat) (v : Elem) (s : HSt) (depth addr : Nat) (hd : d ≤ depth) (hh : HoldsChildren s.heap m)
    (hids : IdsOk addr s.ctx.ctr (slabIds (d + 1) (ofMeta m))) (hfree : FreshFree addr s)
    (hinv : TreeInv T (d + 1) top (ofMeta m)) (hv : ValueOk v) (hcnt : m.hdr.count < 2^32) (hi : i < 2^64)
    (htails : SetTailsOn T addr (d + 1) (ofMeta m) i v s.ctx) :
    match ATree.set T (d + 1) (ofMeta m) i v s.ctx with
    | .ok (old, t', c') => ∃ s',
        TransSl.ArrayMetaDataSlab_Set (envH T) (depth + 1) (trMeta m) s addr (u64 i) (some v) =
          some (some old, none, trMeta (t' : MetaSlab (ATree d)), s') ∧ s'.ctx = c' ∧
          HeapPost s.heap s'.heap (ofMeta m) t'
    | .error e => e = .indexOutOfBounds ∧
        TransSl.ArrayMetaDataSlab_Set (envH T) (depth + 1) (trMeta m) s addr (u64 i) (some v) =
          some (none, some .indexOutOfBounds, trMeta m, s) :=
  Sl_ArrayMetaDataSlab_Set_heap_full T hT d m top i v s depth addr hd hh hids hfree hinv hv hcnt hi

/-- `Sl_ArraySlab_Set_heap_full` under a hypothesis it does not need (`SplitTailHyp` and `MorTailHyp` at every depth
    below the tree's) -/
theorem Sl_ArraySlab_Set_heap_of_tails (T : Nat) (hT : legalThreshold T = true) (d : Nat)
    (htl : ∀ d', d' < d → SplitTailHyp T d' ∧ MorTailHyp T d') (t : ATree d) (top : Bool) (i : Nat)
    (v : Elem) (s : HSt) (depth addr : Nat) (hd : d ≤ depth) (hh : Holds s.heap d t)
    (hids : IdsOk addr s.ctx.ctr (slabIds d t)) (hfree : FreshFree addr s) (hinv : TreeInv T d top t)
    (hni : NotInl d t) (hv : ValueOk v) (hcnt : (hdr d t).count < 2^32) (hi : i < 2^64) :
    match ATree.set T d t i v s.ctx with
    | .ok (old, t', c') => ∃ s',
        TransSl.ArraySlab_Set (envH T) (TransSl.ArrayMetaDataSlab_Set (envH T) depth) (trTree d t) s addr (u64 i)
          (some v) = some (some old, none, trTree d t', s') ∧ s'.ctx = c' ∧ HeapPost s.heap s'.heap t t'
    | .error e => e = .indexOutOfBounds ∧
        TransSl.ArraySlab_Set (envH T) (TransSl.ArrayMetaDataSlab_Set (envH T) depth) (trTree d t) s addr (u64 i)
          (some v) = some (none, some .indexOutOfBounds, trTree d t, s) :=
  Sl_ArraySlab_Set_heap_full T hT d t top i v s depth addr hd hh hids hfree hinv hni hv hcnt hi

/-- `Sl_ArraySlab_Set_heap_full` under a hypothesis it does not need (`NoRestructure`: no child on the path becomes
    full or underflows) -/
theorem Sl_ArraySlab_Set_heap_noRestructure (T : Nat) (hT : legalThreshold T = true) (d : Nat) (t : ATree d)
    (top : Bool) (i : Nat) (v : Elem) (s : HSt) (depth addr : Nat) (hd : d ≤ depth) (hh : Holds s.heap d t)
    (hids : IdsOk addr s.ctx.ctr (slabIds d t)) (hfree : FreshFree addr s) (hinv : TreeInv T d top t)
    (hni : NotInl d t) (hv : ValueOk v) (hcnt : (hdr d t).count < 2^32) (hi : i < 2^64)
    (hnr : NoRestructure T d t i v s.ctx) :
    match ATree.set T d t i v s.ctx with
    | .ok (old, t', c') => ∃ s',
        TransSl.ArraySlab_Set (envH T) (TransSl.ArrayMetaDataSlab_Set (envH T) depth) (trTree d t) s addr (u64 i)
          (some v) = some (some old, none, trTree d t', s') ∧ s'.ctx = c' ∧ HeapPost s.heap s'.heap t t'
    | .error e => e = .indexOutOfBounds ∧
        TransSl.ArraySlab_Set (envH T) (TransSl.ArrayMetaDataSlab_Set (envH T) depth) (trTree d t) s addr (u64 i)
          (some v) = some (none, some .indexOutOfBounds, trTree d t, s) :=
  Sl_ArraySlab_Set_heap_full T hT d t top i v s depth addr hd hh hids hfree hinv hni hv hcnt hi

/-- a root data slab (an array of depth 0): `setPost_data`, with no hypothesis about the heap -/
theorem Sl_ArraySlab_Set_heap_rootData (T : Nat) (hT : legalThreshold T = true) (sl : DataSlab) (top : Bool) (i : Nat)
    (v : Elem) (s : HSt) (depth : Nat)
    (hctr : 1 ≤ sl.hdr.id.idx ∧ sl.hdr.id.idx ≤ s.ctx.ctr) (hinv : DataInv T top sl) (hni : sl.inlined = false)
    (hcnt : sl.hdr.count < 2^32) (hi : i < 2^64) :
    match sl.set T i v s.ctx with
    | .ok (old, sl', c') => ∃ s',
        TransSl.ArraySlab_Set (envH T) (TransSl.ArrayMetaDataSlab_Set (envH T) depth) (.dataSlab (trData sl)) s
          sl.hdr.id.addr (u64 i) (some v) = some (some old, none, .dataSlab (trData sl'), s') ∧ s'.ctx = c' ∧
          HeapPost s.heap s'.heap (ofData sl) (ofData sl')
    | .error e => e = .indexOutOfBounds ∧
        TransSl.ArraySlab_Set (envH T) (TransSl.ArrayMetaDataSlab_Set (envH T) depth) (.dataSlab (trData sl)) s
          sl.hdr.id.addr (u64 i) (some v) = some (none, some .indexOutOfBounds, .dataSlab (trData sl), s) := by
  have h := setPost_data T hT sl top i v s depth sl.hdr.id.addr
    ⟨by simp, fun id hid => by
      have : id = sl.hdr.id := by simpa using hid
      subst this; exact ⟨rfl, hctr.1, hctr.2⟩⟩
    ((treeInv_zero T top sl).2 hinv) hni hcnt hi
  unfold SetDispPost at h
  have e : ATree.set T 0 (ofData sl) i v s.ctx = sl.set T i v s.ctx := rfl
  rw [e] at h
  cases hset : sl.set T i v s.ctx with
  | error err =>
    rw [hset] at h
    exact h
  | ok r =>
    obtain ⟨old, sl', c'⟩ := r
    rw [hset] at h
    exact h

/-- `Sl_ArrayMetaDataSlab_Set_heap_full` under a hypothesis it does not need (`NoRestructure`) -/
theorem Sl_ArrayMetaDataSlab_Set_heap_noRestructure (T : Nat) (hT : legalThreshold T = true) (d : Nat)
    (m : MetaSlab (ATree d)) (top : Bool) (i : Nat) (v : Elem) (s : HSt) (depth addr : Nat) (hd : d ≤ depth)
    (hh : HoldsChildren s.heap m) (hids : IdsOk addr s.ctx.ctr (slabIds (d + 1) (ofMeta m))) (hfree : FreshFree addr s)
    (hinv : TreeInv T (d + 1) top (ofMeta m)) (hv : ValueOk v) (hcnt : m.hdr.count < 2^32) (hi : i < 2^64)
    (hnr : NoRestructure T (d + 1) (ofMeta m) i v s.ctx) :
    match ATree.set T (d + 1) (ofMeta m) i v s.ctx with
    | .ok (old, t', c') => ∃ s',
        TransSl.ArrayMetaDataSlab_Set (envH T) (depth + 1) (trMeta m) s addr (u64 i) (some v) =
          some (some old, none, trMeta (t' : MetaSlab (ATree d)), s') ∧ s'.ctx = c' ∧
          HeapPost s.heap s'.heap (ofMeta m) t'
    | .error e => e = .indexOutOfBounds ∧
        TransSl.ArrayMetaDataSlab_Set (envH T) (depth + 1) (trMeta m) s addr (u64 i) (some v) =
          some (none, some .indexOutOfBounds, trMeta m, s) :=
  Sl_ArrayMetaDataSlab_Set_heap_full T hT d m top i v s depth addr hd hh hids hfree hinv hv hcnt hi

/-- the two heap-side hypotheses are re-established by a successful `Set`: the identifiers of the new tree are below the
    new counter and nothing is stored above it (so the theorems above can be chained) -/
theorem FreshFree.after_set {T d addr : Nat} (hT : legalThreshold T = true) {t t' : ATree d} {top : Bool} {i : Nat}
    {v old : Elem} {s s' : HSt} {c' : Ctx} (hinv : TreeInv T d top t) (hni : NotInl d t) (hv : ValueOk v)
    (hids : IdsOk addr s.ctx.ctr (slabIds d t)) (hfree : FreshFree addr s)
    (hset : ATree.set T d t i v s.ctx = .ok (old, t', c')) (hctx : s'.ctx = c') (hp : HeapPost s.heap s'.heap t t') :
    FreshFree addr s' ∧ IdsOk addr s'.ctx.ctr (slabIds d t') := by
  have hi : i < (flatten d t).length := by
    rcases Nat.lt_or_ge i (flatten d t).length with h | h
    · exact h
    · rw [set_err_gen d t top i v s.ctx (hinv.shape hni) h] at hset; cases hset
  obtain ⟨t'', c'', hset', hstep, _⟩ := set_gen hT d t top i v s.ctx hinv hni hv hi
  rw [hset] at hset'
  simp only [Except.ok.injEq, Prod.mk.injEq] at hset'
  obtain ⟨_, rfl, rfl⟩ := hset'
  have hids' : IdsOk addr s'.ctx.ctr (slabIds d t') := by
    rw [hctx]; exact repl_single_ids hstep.repl addr hids
  exact ⟨FreshFree.post hfree hp hids hids' (by rw [hctx]; exact hstep.repl.ctr), hids'⟩

/-- the depth argument is exhausted (the tree is deeper): the generated code leaves the modelled fragment -/
theorem Sl_ArrayMetaDataSlab_Set_depth0 (T : Nat) (a : GMeta) (s : HSt) (addr : Nat) (i : UInt64) (v : Option Elem) :
    TransSl.ArrayMetaDataSlab_Set (envH T) 0 a s addr i v = none := rfl

end

section examples
open ATree MetaSlab

/-- a root data slab under T = 256: four 50-byte elements, 5 + 200 bytes -/
def setExRoot : DataSlab :=
  { hdr := ⟨⟨1, 1⟩, 205, 4⟩, next := SlabID.undef,
    elems := [⟨50, .val 0⟩, ⟨50, .val 1⟩, ⟨50, .val 2⟩, ⟨50, .val 3⟩], root := true, inlined := false }

theorem setExRoot_inv : DataInv 256 true setExRoot := by
  refine ⟨rfl, rfl, ?_, rfl, fun _ => rfl, by decide, fun h => by cases h⟩
  intro e he
  simp only [setExRoot, List.mem_cons, List.not_mem_nil, or_false] at he
  rcases he with rfl | rfl | rfl | rfl <;> exact ⟨by decide, by decide⟩

def setExSt0 : HSt := ⟨fun id => if id = ⟨1, 1⟩ then some (.dataSlab (trData setExRoot)) else none, ⟨1, [], []⟩⟩

/-- the slab after `Set(1, 60 bytes)` -/
def setExRoot' : DataSlab :=
  { hdr := ⟨⟨1, 1⟩, 215, 4⟩, next := SlabID.undef,
    elems := [⟨50, .val 0⟩, ⟨60, .val 9⟩, ⟨50, .val 2⟩, ⟨50, .val 3⟩], root := true, inlined := false }

/-- non-vacuity of `Sl_ArraySlab_Set_heap_rootData`: its hypotheses hold for a concrete root slab, and its conclusion
    is the `ok` branch with the concrete old element, new slab and effect log -/
example : ∃ s', TransSl.ArraySlab_Set (envH 256) (TransSl.ArrayMetaDataSlab_Set (envH 256) 0)
      (.dataSlab (trData setExRoot)) setExSt0 1 (u64 1) (some ⟨60, .val 9⟩) =
        some (some ⟨50, .val 1⟩, none, .dataSlab (trData setExRoot'), s') ∧
      s'.ctx = ⟨1, [.store ⟨1, 1⟩], []⟩ ∧ HeapPost setExSt0.heap s'.heap (ofData setExRoot) (ofData setExRoot') :=
  Sl_ArraySlab_Set_heap_rootData 256 (by decide) setExRoot true 1 ⟨60, .val 9⟩ setExSt0 0
    ⟨by decide, by decide⟩ setExRoot_inv rfl (by decide) (by decide)

/-! a depth-1 tree (`exMeta` of Props/TransSafe.lean: two non-root leaves of four 50-byte elements under T = 256) -/

theorem setEx_mem {P : ATree 0 → Prop} (h2 : P (exSlab 2)) (h3 : P (exSlab 3)) : ∀ c ∈ exMeta.children, P c := by
  intro c hc
  have hc' : c ∈ [exSlab 2, exSlab 3] := hc
  rcases List.mem_cons.mp hc' with h | h
  · rw [h]; exact h2
  · rw [List.mem_singleton.mp h]; exact h3

theorem setEx_inv : TreeInv 256 1 true (ofMeta exMeta) := exMeta_treeInv

def setExHeap : SlabID → Option GSlab := fun id =>
  if id = ⟨1, 1⟩ then some (.metaSlab (trMeta exMeta))
  else if id = ⟨1, 2⟩ then some (.dataSlab (trData (exSlab 2)))
  else if id = ⟨1, 3⟩ then some (.dataSlab (trData (exSlab 3)))
  else none

def setExSt1 : HSt := ⟨setExHeap, ⟨3, [], []⟩⟩

theorem setExHeap_holds : Holds setExHeap 1 (ofMeta exMeta) :=
  ⟨rfl, setEx_mem (P := fun c => Holds setExHeap 0 c) rfl rfl⟩

theorem setEx_ids : IdsOk 1 3 (slabIds 1 (ofMeta exMeta)) := by
  show IdsOk 1 3 [⟨1, 1⟩, ⟨1, 2⟩, ⟨1, 3⟩]
  refine ⟨by decide, ?_⟩
  intro id hid
  simp only [List.mem_cons, List.not_mem_nil, or_false] at hid
  rcases hid with rfl | rfl | rfl <;> decide

theorem setEx_fresh : FreshFree 1 setExSt1 := by
  intro id _ hlt
  have hlt : 3 < id.idx := hlt
  have h1 : id ≠ ⟨1, 1⟩ := by rintro rfl; simp at hlt
  have h2 : id ≠ ⟨1, 2⟩ := by rintro rfl; simp at hlt
  have h3 : id ≠ ⟨1, 3⟩ := by rintro rfl; simp at hlt
  show setExHeap id = none
  simp [setExHeap, h1, h2, h3]

/-- the leaf and the index slab after `Set(5, 60 bytes)` -/
def setExLeaf' : DataSlab :=
  { hdr := ⟨⟨1, 3⟩, 231, 4⟩, next := SlabID.undef,
    elems := [⟨50, .val 1⟩, ⟨60, .val 9⟩, ⟨50, .val 3⟩, ⟨50, .val 4⟩], root := false, inlined := false }
def setExMeta' : MetaSlab (ATree 0) :=
  { hdr := ⟨⟨1, 1⟩, 40, 8⟩, childHdrs := [(exSlab 2).hdr, setExLeaf'.hdr], countSum := [4, 8],
    children := [exSlab 2, setExLeaf'], root := true }

theorem setEx_noRestructure : NoRestructure 256 1 (ofMeta exMeta) 5 ⟨60, .val 9⟩ setExSt1.ctx := by
  rw [noRestructure_succ]
  have hr : exMeta.childSlabIndexInfo 5 = .ok (1, 1) := rfl
  rw [hr]
  intro child hc
  have : child = exSlab 3 := by
    have h : (some (exSlab 3) : Option (ATree 0)) = some child := hc
    exact (Option.some.inj h).symm
  subst this
  have hs : ATree.set 256 0 (exSlab 3) 1 ⟨60, .val 9⟩ setExSt1.ctx =
      .ok (⟨50, .val 2⟩, setExLeaf', ⟨3, [.store ⟨1, 3⟩], []⟩) := rfl
  rw [hs]
  exact ⟨trivial, rfl, rfl⟩

/-- non-vacuity of `Sl_ArraySlab_Set_heap_noRestructure` on a depth-1 tree: all hypotheses hold on a concrete heap;
    the conclusion is the `ok` branch: old element, the new index slab, the effect log (leaf stored, then parent) -/
example : ∃ s', TransSl.ArraySlab_Set (envH 256) (TransSl.ArrayMetaDataSlab_Set (envH 256) 1)
      (.metaSlab (trMeta exMeta)) setExSt1 1 (u64 5) (some ⟨60, .val 9⟩) =
        some (some ⟨50, .val 2⟩, none, .metaSlab (trMeta setExMeta'), s') ∧
      s'.ctx = ⟨3, [.store ⟨1, 3⟩, .store ⟨1, 1⟩], []⟩ ∧
      HeapPost setExSt1.heap s'.heap (ofMeta exMeta) (ofMeta setExMeta') :=
  Sl_ArraySlab_Set_heap_noRestructure 256 (by decide) 1 (ofMeta exMeta) true 5 ⟨60, .val 9⟩ setExSt1 1 1
    (Nat.le_refl _) setExHeap_holds setEx_ids setEx_fresh setEx_inv trivial ⟨by decide, 9, rfl⟩ (by decide) (by decide)
    setEx_noRestructure

end examples

end Atree.TransEq

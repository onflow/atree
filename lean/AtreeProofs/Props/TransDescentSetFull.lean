import AtreeProofs.Props.TransDescentInsertFull
import AtreeProofs.Props.TransDescentSet
import AtreeProofs.Props.TransDescentSplit
import AtreeProofs.Props.TransDescentMor
/-
  TRANSLATION EQUIVALENCE, the array descent: the two statements `SplitTailHyp T d`, `MorTailHyp T d` of
  Props/TransDescentSet.lean hold at every depth: `splitTailHyp_all` from `splitTail_sim` (Props/TransDescentSplit.lean),
  `morTailHyp_all` from `morTail_sim` and `mor_heapPost` (Props/TransDescentMor.lean; the call is the one `Remove`
  makes); and instances of `Sl_ArrayMetaDataSlab_Set_heap_full` (Props/TransDescentSet.lean) on a `Set` that splits the
  child and on one that merges it.
-/
namespace Atree.TransEq
open Atree Atree.Gen

section splitTail
open MetaSlab ATree

/-- **the split tail of the Set descent holds at every depth** -/
theorem splitTailHyp_all (T : Nat) (hT : legalThreshold T = true) : ∀ d, SplitTailHyp T d := by
  intro d addr m1 A B child' s1 hpre hfull
  cases hsp : m1.splitChildSlab child' A.length s1.ctx with
  | error e => trivial
  | ok p =>
    obtain ⟨s2, out, hg, hc, hp, _⟩ :=
      splitTail_sim T hT hpre.book hpre.kids hpre.shape hfull hpre.size_hi hpre.ids hpre.holds hsp
    exact ⟨s2, out, hg, hc, hp⟩

end splitTail

section morTail
open MetaSlab ATree

/-- **the merge-or-rebalance tail of the Set descent holds at every depth**: under `SetTailPre`, when the updated
    child underflows, the generated `MergeOrRebalanceChildSlab` over the heap (the siblings are READ from the heap)
    returns the model's `mergeOrRebalanceChildSlab` result, the `Ctx` is the model's and the heap (`morHeap`) satisfies
    `HeapPost`: after a rebalance no identifier leaves the tree, after a merge the right slab of the pair is gone -/
theorem morTailHyp_all (T : Nat) (hT : legalThreshold T = true) : ∀ d, MorTailHyp T d := by
  intro d addr m1 A B child' s1 hpre hu
  have hpre' := hpre.toTail.toRem hu
  have hgo := morTail_sim T hT d m1 A B child' s1 addr hpre' hpre.size_lo_meta
  cases hres : m1.mergeOrRebalanceChildSlab T child' A.length (minThr T - (hdr d child').size) s1.ctx with
  | error e => trivial
  | ok p =>
    obtain ⟨m2, c2⟩ := p
    rw [hres] at hgo
    obtain ⟨⟨out, e⟩, hc⟩ := hgo
    exact ⟨_, out, e, hc, mor_heapPost T hpre.kids hpre.ids.1 hpre.holds hres⟩

end morTail

/-! ## non-vacuity: a `Set` that SPLITS the child, a `Set` that MERGES it -/

section examples
open MetaSlab ATree

theorem setF_ids (m : MetaSlab (ATree 0)) (h : ATree.slabIds 1 (ofMeta m) = [⟨1, 1⟩, ⟨1, 2⟩, ⟨1, 3⟩]) :
    IdsOk 1 5 (slabIds 1 (ofMeta m)) := by
  rw [h]
  refine ⟨by decide, ?_⟩
  intro id hid
  simp only [List.mem_cons, List.not_mem_nil, or_false] at hid
  rcases hid with rfl | rfl | rfl <;> decide

theorem setF_fresh (s : HSt) (hc : s.ctx.ctr = 5) (h : ∀ id : SlabID, id ≠ ⟨1, 2⟩ → id ≠ ⟨1, 3⟩ → s.heap id = none) :
    FreshFree 1 s := by
  intro id _ hlt
  rw [hc] at hlt
  have h2 : id ≠ ⟨1, 2⟩ := by rintro rfl; simp at hlt
  have h3 : id ≠ ⟨1, 3⟩ := by rintro rfl; simp at hlt
  exact h id h2 h3

/-- the child SPLITS: `insFMeta` (leaves of 100+100+100+60 and 60+60 bytes, T = 256), index 3 set to a 110-byte value:
    the first leaf grows to 431 > 384 bytes and is split; the new index slab has three children -/
example : ∃ (m2 : MetaSlab (ATree 0)) (s' : HSt), TransSl.ArrayMetaDataSlab_Set (envH 256) 1 (trMeta insFMeta) insFHeap 1 (u64 3)
        (some ⟨110, .val 99⟩) = some (some ⟨60, .val 3⟩, none, trMeta m2, s') ∧
      HeapPost insFHeap.heap s'.heap (ofMeta insFMeta) (ofMeta m2) ∧ m2.children.length = 3 ∧
      s'.ctx.eff = [.store ⟨1, 2⟩, .alloc 1 ⟨1, 6⟩, .store ⟨1, 2⟩, .store ⟨1, 6⟩, .store ⟨1, 1⟩] := by
  have h := Sl_ArrayMetaDataSlab_Set_heap_full 256 (by decide) 0 insFMeta true 3 ⟨110, .val 99⟩ insFHeap 0 1
    (Nat.le_refl _)
    (by intro c hc; rcases insF_kids c hc with rfl | rfl <;> rfl)
    (setF_ids insFMeta rfl)
    (setF_fresh insFHeap rfl (by intro id h2 h3; simp [insFHeap, h2, h3]))
    insF_inv ⟨by decide, 99, rfl⟩ (by decide) (by decide)
  have hev : (ATree.set 256 1 (ofMeta insFMeta) 3 ⟨110, .val 99⟩ insFHeap.ctx).toOption.map
      (fun r => (r.1, (r.2.1 : MetaSlab (ATree 0)).children.length, r.2.2.eff)) =
      some (⟨60, .val 3⟩, 3, [.store ⟨1, 2⟩, .alloc 1 ⟨1, 6⟩, .store ⟨1, 2⟩, .store ⟨1, 6⟩, .store ⟨1, 1⟩]) := by rfl
  cases hset : ATree.set 256 1 (ofMeta insFMeta) 3 ⟨110, .val 99⟩ insFHeap.ctx with
  | error e => rw [hset] at hev; cases hev
  | ok r =>
    obtain ⟨old, t', c'⟩ := r
    rw [hset] at h hev
    obtain ⟨s', e, hc, hp⟩ := h
    simp only [Except.toOption, Option.map_some, Option.some.injEq, Prod.mk.injEq] at hev
    obtain ⟨rfl, hlen, heff⟩ := hev
    exact ⟨t', s', e, hp, hlen, by rw [hc]; exact heff⟩

/-- two small leaves: 100 + 60 and 60 + 60 bytes -/
def setFC1 : DataSlab :=
  { hdr := ⟨⟨1, 2⟩, 181, 2⟩, next := ⟨1, 3⟩, elems := [⟨100, .val 0⟩, ⟨60, .val 1⟩], root := false, inlined := false }
def setFC2 : DataSlab :=
  { hdr := ⟨⟨1, 3⟩, 141, 2⟩, next := SlabID.undef, elems := [⟨60, .val 10⟩, ⟨60, .val 11⟩], root := false,
    inlined := false }
def setFCMeta : MetaSlab (ATree 0) :=
  { hdr := ⟨⟨1, 1⟩, 40, 4⟩, childHdrs := [setFC1.hdr, setFC2.hdr], countSum := [2, 4],
    children := [setFC1, setFC2], root := true }
def setFCHeap : HSt :=
  ⟨fun id => if id = ⟨1, 2⟩ then some (.dataSlab (trData setFC1))
     else if id = ⟨1, 3⟩ then some (.dataSlab (trData setFC2)) else none, ⟨5, [], []⟩⟩

theorem setFC_kids (c : ATree 0) (hc : c ∈ setFCMeta.children) : c = setFC1 ∨ c = setFC2 := by
  have h : setFCMeta.children = [setFC1, setFC2] := rfl
  rw [h] at hc
  rcases List.mem_cons.mp hc with h | h
  · exact Or.inl h
  · exact Or.inr (List.mem_singleton.mp h)

theorem setFC1_inv : DataInv 256 false setFC1 :=
  DataSlab.DataInv.of_parts rfl rfl rfl rfl (by unfold ElemOk; decide) (by decide) (by decide)

theorem setFC2_inv : DataInv 256 false setFC2 :=
  DataSlab.DataInv.of_parts rfl rfl rfl rfl (by unfold ElemOk; decide) (by decide) (by decide)

theorem setFC_inv : TreeInv 256 1 true (ofMeta setFCMeta) := by
  refine ⟨rfl, rfl, rfl, rfl, rfl, ?_, ?_, by decide, by simp, fun _ => by decide⟩
  · intro c hc
    rcases setFC_kids c hc with rfl | rfl
    · exact setFC1_inv
    · exact setFC2_inv
  · intro c hc
    rcases setFC_kids c hc with rfl | rfl <;> rfl

/-- the child MERGES: index 0 set to a 1-byte value: the first leaf shrinks to 82 < 128 bytes, the right sibling
    (141 bytes) cannot lend, the two leaves are merged (the right one is removed); the new index slab has one child -/
example : ∃ (m2 : MetaSlab (ATree 0)) (s' : HSt), TransSl.ArrayMetaDataSlab_Set (envH 256) 1 (trMeta setFCMeta) setFCHeap 1 (u64 0)
        (some ⟨1, .val 99⟩) = some (some ⟨100, .val 0⟩, none, trMeta m2, s') ∧
      HeapPost setFCHeap.heap s'.heap (ofMeta setFCMeta) (ofMeta m2) ∧ m2.children.length = 1 ∧
      s'.heap ⟨1, 3⟩ = none ∧
      s'.ctx.eff = [.store ⟨1, 2⟩, .store ⟨1, 2⟩, .store ⟨1, 1⟩, .remove ⟨1, 3⟩] := by
  have h := Sl_ArrayMetaDataSlab_Set_heap_full 256 (by decide) 0 setFCMeta true 0 ⟨1, .val 99⟩ setFCHeap 0 1
    (Nat.le_refl _)
    (by intro c hc; rcases setFC_kids c hc with rfl | rfl <;> rfl)
    (setF_ids setFCMeta rfl)
    (setF_fresh setFCHeap rfl (by intro id h2 h3; simp [setFCHeap, h2, h3]))
    setFC_inv ⟨by decide, 99, rfl⟩ (by decide) (by decide)
  have hev : (ATree.set 256 1 (ofMeta setFCMeta) 0 ⟨1, .val 99⟩ setFCHeap.ctx).toOption.map
      (fun r => (r.1, (r.2.1 : MetaSlab (ATree 0)).children.length, slabIds 1 r.2.1, r.2.2.eff)) =
      some (⟨100, .val 0⟩, 1, [⟨1, 1⟩, ⟨1, 2⟩], [.store ⟨1, 2⟩, .store ⟨1, 2⟩, .store ⟨1, 1⟩, .remove ⟨1, 3⟩]) := by rfl
  cases hset : ATree.set 256 1 (ofMeta setFCMeta) 0 ⟨1, .val 99⟩ setFCHeap.ctx with
  | error e => rw [hset] at hev; cases hev
  | ok r =>
    obtain ⟨old, t', c'⟩ := r
    rw [hset] at h hev
    obtain ⟨s', e, hc, hp⟩ := h
    simp only [Except.toOption, Option.map_some, Option.some.injEq, Prod.mk.injEq] at hev
    obtain ⟨rfl, hlen, hids, heff⟩ := hev
    refine ⟨t', s', e, hp, hlen, ?_, by rw [hc]; exact heff⟩
    refine hp.gone ⟨1, 3⟩ (by decide) ?_
    rw [hids]; decide

end examples

end Atree.TransEq

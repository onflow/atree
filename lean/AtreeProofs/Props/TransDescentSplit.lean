import AtreeProofs.Props.TransDescentHeap
import AtreeProofs.Props.TransSlabsGlue
import AtreeProofs.Props.TransSlabsRoot
/-
  TRANSLATION EQUIVALENCE, the array descent: the SPLIT side of the index-slab restructuring and the root changes of
  `Array` over the HEAP environment `envH T` (Trans/Descent.lean; storage `s : HSt`).  The heap after the call is given
  EXPLICITLY as a chain of `.withCtx / .store / .remove` on the heap before the call.

  `ArrayDataSlab.Split` / `ArrayMetaDataSlab.Split` only call `GenerateSlabID` on the storage: over `envH T` they are the
  functions over `envA T look` on the `ctx` component, the heap component is unchanged (`*_Split_HA`); hence
  `SplitAgreesH` from the slab-level theorems.  `SplitChildSlab`, `splitRoot` and `promoteChildAsNewRoot` over the heap
  are instances of the theorems for any environment (Props/TransSlabsTree.lean, TransSlabsRoot.lean);
  `promoteChildAsNewRoot` READS the child from the heap.

  Second part, `SplitChildSlab` as the repair step of a descent.  `splitTail_sim`: under what a descent knows when the
  updated child is full, the call returns the model's parent, and the heap after its three stores (left half under the
  child's identifier, right half under the fresh identifier, the parent) satisfies `HeapPost`; no identifier leaves the
  tree (`ins_split_heapPost`).  The dispatched `Split` agrees with the model on every slab of a valid shape that is at
  most one element over the band (`splitAgreesH_of_shape`).
-/
namespace Atree.TransEq
open Atree Atree.Gen

section transfer
variable {S W S' W' : Type} (env : TransSl.Env Elem Elem Unit AErr S W) (env' : TransSl.Env Elem Elem Unit AErr S' W')

/-- `split` of slice_utils does not use the environment -/
theorem split_env_same {E : Type} [Inhabited E] (l : List E) (n : Int) :
    TransSl.split env l n = TransSl.split env' l n := rfl

/-- the loop of `ArrayDataSlab.Split` does not touch the storage: same result over two environments with the same
    element sizes (the result types differ in the storage; `.ret` is only ever `.ret none`, a Go panic) -/
theorem dataSplit_loop1_same (h : env.Storable_ByteSize = env'.Storable_ByteSize) (ds mp : UInt32) :
    ∀ (l : List (Option Elem)) (i : Int) (ls : UInt32) (lc : Int),
      (TransSl.ArrayDataSlab_Split.loop1 (ξ := Unit) env' ds mp l i ls lc = .ret none ∧
       TransSl.ArrayDataSlab_Split.loop1 (ξ := Unit) env ds mp l i ls lc = .ret none) ∨
      ∃ x, TransSl.ArrayDataSlab_Split.loop1 (ξ := Unit) env' ds mp l i ls lc = .done x ∧
           TransSl.ArrayDataSlab_Split.loop1 (ξ := Unit) env ds mp l i ls lc = .done x := by
  intro l
  induction l with
  | nil => intro i ls lc; exact .inr ⟨_, rfl, rfl⟩
  | cons e rest ih =>
    intro i ls lc
    cases e with
    | none => exact .inl ⟨rfl, rfl⟩
    | some p =>
      simp only [TransSl.ArrayDataSlab_Split.loop1, h]
      by_cases h1 : ls + env'.Storable_ByteSize p ≥ mp
      · by_cases h2 : ls ≤ ds - ls - env'.Storable_ByteSize p
        · simp only [h1, h2, decide_true, if_true]; exact .inr ⟨_, rfl, rfl⟩
        · simp only [h1, h2, decide_true, decide_false, if_true, Bool.false_eq_true, if_false]; exact .inr ⟨_, rfl, rfl⟩
      · simp only [h1, decide_false, Bool.false_eq_true, if_false]; exact ih _ _ _

theorem metaSplit_loop1_same (a : GMeta) :
    ∀ (fuel : Nat) (i : Int) (lc : UInt32),
      (TransSl.ArrayMetaDataSlab_Split.loop1 (σ := Elem) env' a fuel i lc = .ret none ∧
       TransSl.ArrayMetaDataSlab_Split.loop1 (σ := Elem) env a fuel i lc = .ret none) ∨
      ∃ x, TransSl.ArrayMetaDataSlab_Split.loop1 (σ := Elem) env' a fuel i lc = .done x ∧
           TransSl.ArrayMetaDataSlab_Split.loop1 (σ := Elem) env a fuel i lc = .done x := by
  intro fuel
  induction fuel with
  | zero => intro i lc; exact .inr ⟨_, rfl, rfl⟩
  | succ n ih =>
    intro i lc
    simp only [TransSl.ArrayMetaDataSlab_Split.loop1]
    cases TransSl.goIdx a.childrenHeaders i with
    | none => exact .inl ⟨rfl, rfl⟩
    | some e => exact ih _ _

theorem metaSplit_loop2_same :
    ∀ (fuel : Nat) (i : Int) (r : GMeta) (cs : UInt32),
      (TransSl.ArrayMetaDataSlab_Split.loop2 (σ := Elem) env' fuel i r cs = .ret none ∧
       TransSl.ArrayMetaDataSlab_Split.loop2 (σ := Elem) env fuel i r cs = .ret none) ∨
      ∃ x, TransSl.ArrayMetaDataSlab_Split.loop2 (σ := Elem) env' fuel i r cs = .done x ∧
           TransSl.ArrayMetaDataSlab_Split.loop2 (σ := Elem) env fuel i r cs = .done x := by
  intro fuel
  induction fuel with
  | zero => intro i r cs; exact .inr ⟨_, rfl, rfl⟩
  | succ n ih =>
    intro i r cs
    simp only [TransSl.ArrayMetaDataSlab_Split.loop2]
    cases TransSl.goIdx r.childrenHeaders i with
    | none => exact .inl ⟨rfl, rfl⟩
    | some e =>
      dsimp only
      cases TransSl.goSet r.childrenCountSum i (cs + e.count) with
      | none => exact .inl ⟨rfl, rfl⟩
      | some l => exact ih _ _ _

end transfer

/-- **`ArrayDataSlab.Split` over the heap** is `ArrayDataSlab.Split` over `envA` (any `look`) on the `ctx` component;
    the heap component is unchanged -/
theorem Sl_ArrayDataSlab_Split_HA (T : Nat) (look) (a : GData) (s : HSt) :
    TransSl.ArrayDataSlab_Split (envH T) a s =
      (TransSl.ArrayDataSlab_Split (envA T look) a s.ctx).map
        (fun r => (r.1, r.2.1, r.2.2.1, r.2.2.2.1, s.withCtx r.2.2.2.2)) := by
  unfold TransSl.ArrayDataSlab_Split
  by_cases hl : decide (Int.ofNat a.elements.length < (2 : Int)) = true
  · rw [if_pos hl, if_pos hl]; rfl
  · rw [if_neg hl, if_neg hl]
    dsimp only
    rcases dataSplit_loop1_same (envH T) (envA T look) rfl (a.header.size - UInt32.ofNat Gen.arrayDataSlabPrefixSize)
        (((a.header.size - UInt32.ofNat Gen.arrayDataSlabPrefixSize) + 1) >>> 1) a.elements 0 0 0 with ⟨h1, h2⟩ | ⟨x, h1, h2⟩
    · rw [h1, h2]; rfl
    · rw [h1, h2]
      obtain ⟨ls, lc⟩ := x
      simp only [split_env_same (envH T) (envA T look)]
      cases TransSl.split (envA T look) a.elements lc with
      | none => rfl
      | some r => rfl

/-- **`ArrayMetaDataSlab.Split` over the heap** is `ArrayMetaDataSlab.Split` over `envA` on the `ctx` component -/
theorem Sl_ArrayMetaDataSlab_Split_HA (T : Nat) (look) (a : GMeta) (s : HSt) :
    TransSl.ArrayMetaDataSlab_Split (σ := Elem) (envH T) a s =
      (TransSl.ArrayMetaDataSlab_Split (σ := Elem) (envA T look) a s.ctx).map
        (fun r => (r.1, r.2.1, r.2.2.1, r.2.2.2.1, s.withCtx r.2.2.2.2)) := by
  unfold TransSl.ArrayMetaDataSlab_Split
  by_cases hl : decide (Int.ofNat a.childrenHeaders.length < (2 : Int)) = true
  · rw [if_pos hl, if_pos hl]; rfl
  · rw [if_neg hl, if_neg hl]
    dsimp only
    rcases metaSplit_loop1_same (envH T) (envA T look) a (TransSl.goCeilDivInt (Int.ofNat a.childrenHeaders.length) 2).toNat 0 0
      with ⟨h1, h2⟩ | ⟨x, h1, h2⟩
    · rw [h1, h2]; rfl
    · rw [h1, h2]
      simp only [split_env_same (envH T) (envA T look)]
      cases TransSl.split (envA T look) a.childrenHeaders (TransSl.goCeilDivInt (Int.ofNat a.childrenHeaders.length) 2) with
      | none => rfl
      | some r =>
        simp only [envH_gen, envA_gen, Option.isSome_none, Bool.false_eq_true, if_false]
        rcases metaSplit_loop2_same (envH T) (envA T look) (List.replicate (Int.ofNat r.snd.length).toNat (0 : UInt32)).length 0
          { header :=
              { slabID := (s.ctx.alloc a.header.slabID.addr).fst,
                size := a.header.size - UInt32.ofInt
                  (TransSl.goCeilDivInt (Int.ofNat a.childrenHeaders.length) 2 * Int.ofNat arraySlabHeaderSize),
                count := a.header.count - x },
            childrenHeaders := r.snd, childrenCountSum := List.replicate (Int.ofNat r.snd.length).toNat 0,
            extraData := none } 0 with ⟨h3, h4⟩ | ⟨y, h3, h4⟩
        · rw [h3, h4]; rfl
        · rw [h3, h4]
          obtain ⟨rs, cs⟩ := y
          dsimp only
          cases TransSl.goSlice a.childrenCountSum 0 (TransSl.goCeilDivInt (Int.ofNat a.childrenHeaders.length) 2) with
          | none => rfl
          | some l => rfl

/-- what the generated `ArraySlab.Split` over the heap must return on the translation of a model slab: the model's
    halves, the heap untouched, the model's `Ctx` (the allocation of the right half) -/
def SplitAgreesH (T : Nat) (d : Nat) (child : ATree d) (s : HSt) : Prop :=
  TransSl.ArraySlab_Split (envH T) (trTree d child) s =
    match ATree.split d child s.ctx with
    | .error e => some (none, none, some e, trTree d child, s)
    | .ok (l, r, c') => some (some (trTree d l), some (trTree d r), none, trTree d l, s.withCtx c')

/-- a data-slab child (hypotheses of `SplitAgrees_data`) -/
theorem SplitAgreesH_data (T : Nat) (s : DataSlab) (st : HSt) (hs : s.hdr.size < 2^32)
    (hpre : Gen.arrayDataSlabPrefixSize + sumSizes s.elems ≤ s.hdr.size) : SplitAgreesH T 0 s st := by
  have h := Sl_ArrayDataSlab_Split_eq_model T (fun _ => none) s st.ctx hs hpre
  unfold SplitAgreesH
  simp only [trTree, ATree.split, TransSl.ArraySlab_Split, Sl_ArrayDataSlab_Split_HA T (fun _ => none), h]
  cases DataSlab.split s st.ctx with
  | error e => rfl
  | ok res => rfl

/-- … on the slabs `Split` is called on (`DataWork`): no numeric side condition -/
theorem SplitAgreesH_data_safe (T : Nat) (s : DataSlab) (st : HSt) (hT : legalThreshold T = true)
    (hw : DataWork T s) : SplitAgreesH T 0 s st := by
  obtain ⟨a1, _, a3, _⟩ := dataWork_fits hT hw
  exact SplitAgreesH_data T s st (Nat.lt_of_le_of_lt a1 (by decide)) (Nat.le_of_eq a3)

/-- an index-slab child (hypotheses of `SplitAgrees_meta`) -/
theorem SplitAgreesH_meta (T : Nat) {d : Nat} (m : MetaSlab (ATree d)) (st : HSt)
    (hcs : (m.childHdrs.length + 1) / 2 ≤ m.countSum.length)
    (hcov : (m.childHdrs.length + 1) / 2 * arraySlabHeaderSize ≤ m.hdr.size)
    (hcnt : MetaSlab.sumCounts (m.childHdrs.take ((m.childHdrs.length + 1) / 2)) ≤ m.hdr.count) :
    SplitAgreesH T (d + 1) m st := by
  have h := Sl_ArrayMetaDataSlab_Split_eq_model T (fun _ => none) m st.ctx hcs hcov hcnt
  unfold SplitAgreesH
  simp only [trTree, ATree.split, TransSl.ArraySlab_Split, Sl_ArrayMetaDataSlab_Split_HA T (fun _ => none), h]
  cases MetaSlab.split m st.ctx with
  | error e => rfl
  | ok res => rfl

/-- **`ArrayMetaDataSlab.SplitChildSlab` over the heap**: if `Split` of the child fails, the error is returned and
    nothing has changed; else the index slab is the model's and the heap is the heap before with the `Ctx` after `Split`,
    the left half stored under its identifier, then the right half, then the updated index slab; the child's out-state
    is the left half.  (`.ok _, .error _` cannot happen in the model; it is there to make the match total.) -/
theorem Sl_SplitChildSlab_heap (T : Nat) {d : Nat} (m : MetaSlab (ATree d)) (child : ATree d) (k : Nat)
    (s : HSt) (hsplit : SplitAgreesH T d child s)
    (hk : k < m.countSum.length) (hk' : k < m.childHdrs.length)
    (hbase : (ATree.hdr d child).count ≤ m.countSum.getD k 0) :
    TransSl.ArrayMetaDataSlab_SplitChildSlab (envH T) (trMeta m) s (some (trTree d child)) (Int.ofNat k) =
      match ATree.split d child s.ctx, m.splitChildSlab child k s.ctx with
      | .error e, _ => some (some e, trMeta m, s, some (trTree d child))
      | .ok (l, r, c1), .ok (m', _) =>
        some (none, trMeta m',
          (((s.withCtx c1).store (ATree.hdr d l).id (some (trTree d l))).store (ATree.hdr d r).id
            (some (trTree d r))).store m.hdr.id (some (.metaSlab (trMeta m'))),
          some (trTree d l))
      | .ok _, .error _ => none :=
  SplitChildSlab_any (envH T) (storeOK_envH T) m child k s s.ctx s.withCtx hsplit hk hk' hbase

/-- the `ctx` of the final state of `Sl_SplitChildSlab_heap` is the model's -/
theorem Sl_SplitChildSlab_heap_ctx {d : Nat} (m : MetaSlab (ATree d)) (child : ATree d) (k : Nat) (s : HSt)
    (l r : ATree d) (c1 : Ctx) (m' : MetaSlab (ATree d)) (c' : Ctx)
    (hs : ATree.split d child s.ctx = .ok (l, r, c1)) (hm : m.splitChildSlab child k s.ctx = .ok (m', c'))
    (v1 v2 v3 : Option GSlab) :
    ((((s.withCtx c1).store (ATree.hdr d l).id v1).store (ATree.hdr d r).id v2).store m.hdr.id v3).ctx = c' :=
  splitChildSlab_ctx hs hm

/-- `SplitChildSlab` of a DATA-slab child over the heap: no hypothesis on generated code -/
theorem Sl_SplitChildSlab_data_heap (T : Nat) (m : MetaSlab (ATree 0)) (child : DataSlab) (k : Nat)
    (s : HSt) (hT : legalThreshold T = true) (hw : DataWork T child)
    (hk : k < m.countSum.length) (hk' : k < m.childHdrs.length)
    (hbase : child.hdr.count ≤ m.countSum.getD k 0) :
    TransSl.ArrayMetaDataSlab_SplitChildSlab (envH T) (trMeta m) s (some (.dataSlab (trData child))) (Int.ofNat k) =
      match DataSlab.split child s.ctx, m.splitChildSlab child k s.ctx with
      | .error e, _ => some (some e, trMeta m, s, some (.dataSlab (trData child)))
      | .ok (l, r, c1), .ok (m', _) =>
        some (none, trMeta m',
          (((s.withCtx c1).store l.hdr.id (some (.dataSlab (trData l)))).store r.hdr.id
            (some (.dataSlab (trData r)))).store m.hdr.id (some (.metaSlab (trMeta m'))),
          some (.dataSlab (trData l)))
      | .ok _, .error _ => none := by
  have h := Sl_SplitChildSlab_heap T m child k s (SplitAgreesH_data_safe T child s hT hw) hk hk' hbase
  rw [show ATree.split 0 child s.ctx = DataSlab.split child s.ctx from rfl] at h
  simp only [trTree] at h
  cases hs : DataSlab.split child s.ctx with
  | error e => rw [hs] at h; exact h
  | ok res =>
    rw [hs] at h
    obtain ⟨l, r, c1⟩ := res
    cases hm : m.splitChildSlab child k s.ctx with
    | error e => rw [hm] at h; exact h
    | ok res2 => rw [hm] at h; obtain ⟨m', c'⟩ := res2; exact h

/-- `SplitChildSlab` of an INDEX-slab child over the heap: no hypothesis on generated code -/
theorem Sl_SplitChildSlab_meta_heap (T : Nat) {d : Nat} (m : MetaSlab (ATree (d + 1)))
    (child : MetaSlab (ATree d)) (k : Nat) (s : HSt)
    (hcs : (child.childHdrs.length + 1) / 2 ≤ child.countSum.length)
    (hcov : (child.childHdrs.length + 1) / 2 * arraySlabHeaderSize ≤ child.hdr.size)
    (hcnt : MetaSlab.sumCounts (child.childHdrs.take ((child.childHdrs.length + 1) / 2)) ≤ child.hdr.count)
    (hk : k < m.countSum.length) (hk' : k < m.childHdrs.length)
    (hbase : child.hdr.count ≤ m.countSum.getD k 0) :
    TransSl.ArrayMetaDataSlab_SplitChildSlab (envH T) (trMeta m) s (some (.metaSlab (trMeta child))) (Int.ofNat k) =
      match MetaSlab.split child s.ctx, m.splitChildSlab child k s.ctx with
      | .error e, _ => some (some e, trMeta m, s, some (.metaSlab (trMeta child)))
      | .ok (l, r, c1), .ok (m', _) =>
        some (none, trMeta m',
          (((s.withCtx c1).store l.hdr.id (some (.metaSlab (trMeta l)))).store r.hdr.id
            (some (.metaSlab (trMeta r)))).store m.hdr.id (some (.metaSlab (trMeta m'))),
          some (.metaSlab (trMeta l)))
      | .ok _, .error _ => none := by
  have h := Sl_SplitChildSlab_heap T m child k s (SplitAgreesH_meta T child s hcs hcov hcnt) hk hk' hbase
  rw [show ATree.split (d + 1) child s.ctx = MetaSlab.split child s.ctx from rfl] at h
  simp only [trTree] at h
  cases hs : MetaSlab.split child s.ctx with
  | error e => rw [hs] at h; exact h
  | ok res =>
    rw [hs] at h
    obtain ⟨l, r, c1⟩ := res
    cases hm : m.splitChildSlab child k s.ctx with
    | error e => rw [hm] at h; exact h
    | ok res2 => rw [hm] at h; obtain ⟨m', c'⟩ := res2; exact h

/-- the join point of `splitRoot` on ANY root slab `t` over the heap -/
theorem Sl_Array_splitRoot_k1_heap (T : Nat) (d : Nat) (t : ATree d) (s : HSt)
    (hroot : ATree.isRoot d t = true)
    (hsplit : SplitAgreesH T d
      (ATree.setId d (ATree.setRoot d t false) (s.ctx.alloc (ATree.hdr d t).id.addr).1)
      (s.withCtx (s.ctx.alloc (ATree.hdr d t).id.addr).2)) :
    TransSl.Array_splitRoot.k1 (envH T) ({ Storage := s, root := some (trTree d t) } : HArray) =
      match ATree.split d (ATree.setId d (ATree.setRoot d t false) (s.ctx.alloc (ATree.hdr d t).id.addr).1)
          (s.ctx.alloc (ATree.hdr d t).id.addr).2 with
      | .error e => some (some e,
          { Storage := s.withCtx (s.ctx.alloc (ATree.hdr d t).id.addr).2,
            root := some (trTree d (ATree.setId d (ATree.setRoot d t false) (s.ctx.alloc (ATree.hdr d t).id.addr).1)) })
      | .ok (l, r, c') =>
        let newRoot : MetaSlab (ATree d) :=
          { hdr := { id := (ATree.hdr d t).id, count := (ATree.hdr d l).count + (ATree.hdr d r).count,
                     size := arrayMetaDataSlabPrefixSize + arraySlabHeaderSize * 2 },
            childHdrs := [ATree.hdr d l, ATree.hdr d r],
            countSum := [(ATree.hdr d l).count, (ATree.hdr d l).count + (ATree.hdr d r).count],
            children := [l, r], root := true }
        some (none,
          { Storage := (((s.withCtx c').store (ATree.hdr d l).id (some (trTree d l))).store (ATree.hdr d r).id
              (some (trTree d r))).store (ATree.hdr d t).id (some (.metaSlab (trMeta newRoot))),
            root := some (.metaSlab (trMeta newRoot)) }) :=
  splitRoot_k1_any (envH T) (storeOK_envH T) d t s _ _ _ s.withCtx hroot rfl hsplit

theorem Sl_Array_splitRoot_enter_data_heap (T : Nat) (sl : DataSlab) (ty : Nat) (s : HSt)
    (h5 : arrayRootDataSlabPrefixSize ≤ sl.hdr.size) :
    TransSl.Array_splitRoot (envH T) (trArrH ⟨0, sl, ty⟩ s) =
      TransSl.Array_splitRoot.k1 (envH T) ({ Storage := s, root := some (.dataSlab (trData
        { sl with hdr := { sl.hdr with size := sl.hdr.size - arrayRootDataSlabPrefixSize + arrayDataSlabPrefixSize } })) } :
        HArray) :=
  splitRoot_enter_any (envH T) ⟨0, sl, ty⟩ s (fun _ => h5)

theorem Sl_Array_splitRoot_enter_heap (T : Nat) (a : Arr) (s : HSt)
    (hsz : a.d = 0 → arrayRootDataSlabPrefixSize ≤ (ATree.hdr a.d a.root).size) :
    TransSl.Array_splitRoot (envH T) (trArrH a s) =
      TransSl.Array_splitRoot.k1 (envH T) ({ Storage := s, root := some (trTree a.d (splitRoot0 a)) } : HArray) :=
  splitRoot_enter_any (envH T) a s hsz

/-- **`Array.splitRoot()` over the heap**.  On success: the model's new root (`splitRootNew`), the heap before with the
    `Ctx` after `Split` and three stores (left half, right half - under the freshly allocated identifiers - and the new
    root under the old root identifier).  If `Split` fails Go returns the error and leaves the array with the ALREADY
    MODIFIED old root and the storage after the allocation; the heap is untouched.  NOTE: the old root slab was stored
    under the root identifier before; that entry is overwritten by the new root, nothing is removed. -/
theorem Sl_Array_splitRoot_heap (T : Nat) (a : Arr) (s : HSt)
    (hroot : ATree.isRoot a.d a.root = true)
    (hsz : a.d = 0 → arrayRootDataSlabPrefixSize ≤ (ATree.hdr a.d a.root).size)
    (hsplit : SplitAgreesH T a.d (splitRootOld a s.ctx) (s.withCtx (splitRootCtx a s.ctx))) :
    TransSl.Array_splitRoot (envH T) (trArrH a s) =
      match ATree.split a.d (splitRootOld a s.ctx) (splitRootCtx a s.ctx) with
      | .error e => some (some e, trArrH ⟨a.d, splitRootOld a s.ctx, a.ty⟩ (s.withCtx (splitRootCtx a s.ctx)))
      | .ok (l, r, c1) =>
        some (none, trArrH ⟨a.d + 1, splitRootNew a l r, a.ty⟩
          ((((s.withCtx c1).store (ATree.hdr a.d l).id (some (trTree a.d l))).store (ATree.hdr a.d r).id
            (some (trTree a.d r))).store (ATree.hdr a.d (splitRoot0 a)).id
            (some (.metaSlab (trMeta (splitRootNew a l r)))))) := by
  have hroot0 : ATree.isRoot a.d (splitRoot0 a) = true := by
    obtain ⟨d, root, ty⟩ := a
    cases d <;> exact hroot
  rw [Sl_Array_splitRoot_enter_heap T a s hsz,
    Sl_Array_splitRoot_k1_heap T a.d (splitRoot0 a) s hroot0 hsplit]
  simp only [splitRootOld, splitRootCtx]
  generalize ATree.split a.d (ATree.setId a.d (ATree.setRoot a.d (splitRoot0 a) false)
    (s.ctx.alloc (ATree.hdr a.d (splitRoot0 a)).id.addr).1) (s.ctx.alloc (ATree.hdr a.d (splitRoot0 a)).id.addr).2 = res
  cases res with
  | error e => rfl
  | ok res => rfl

/-- the link to the model's `Arr.splitRoot` -/
theorem Sl_Array_splitRoot_heap_model (a : Arr) (s : HSt) :
    a.splitRoot s.ctx =
      match ATree.split a.d (splitRootOld a s.ctx) (splitRootCtx a s.ctx) with
      | .error e => .error e
      | .ok (l, r, c1) =>
        .ok (⟨a.d + 1, splitRootNew a l r, a.ty⟩,
          ((((s.withCtx c1).store (ATree.hdr a.d l).id (some (trTree a.d l))).store (ATree.hdr a.d r).id
            (some (trTree a.d r))).store (ATree.hdr a.d (splitRoot0 a)).id
            (some (.metaSlab (trMeta (splitRootNew a l r))))).ctx) :=
  splitRoot_unfold a s.ctx

/-- the join point of `promoteChildAsNewRoot` over the heap: the new root is stored under the root identifier, the
    child's old identifier is removed -/
theorem Sl_Array_promoteChildAsNewRoot_k1_heap (T : Nat) (d : Nat) (m : MetaSlab (ATree d)) (s : HSt) (id : SlabID)
    (child1 : ATree d) (err : Option AErr) :
    TransSl.Array_promoteChildAsNewRoot.k1 (envH T)
        ({ Storage := s, root := some (trTree (d + 1) m) } : HArray) id (some (trTree d child1)) err =
      some (none, { Storage := (s.store m.hdr.id
                      (some (trTree d (ATree.setRoot d (ATree.setId d child1 m.hdr.id) m.root)))).remove id,
                    root := some (trTree d (ATree.setRoot d (ATree.setId d child1 m.hdr.id) m.root)) }) :=
  promote_k1_any (storeOK_envH T) d m s id child1 err

theorem Sl_Array_promoteChildAsNewRoot_enter_data_heap (T : Nat) (g : HArray) (id : SlabID) (sl : DataSlab)
    (hlook : g.Storage.heap id = some (.dataSlab (trData sl))) (h21 : arrayDataSlabPrefixSize ≤ sl.hdr.size) :
    TransSl.Array_promoteChildAsNewRoot (envH T) g id =
      TransSl.Array_promoteChildAsNewRoot.k1 (envH T) g id (some (.dataSlab (trData
        { sl with hdr := { sl.hdr with size := sl.hdr.size - arrayDataSlabPrefixSize + arrayRootDataSlabPrefixSize } })))
        none :=
  promote_enter_any (envH T) (d := 0) g id sl (getArraySlab_envH_some T _ _ _ hlook) (fun _ => h21)

theorem Sl_Array_promoteChildAsNewRoot_enter_heap (T : Nat) {d : Nat} (g : HArray) (id : SlabID) (child : ATree d)
    (hlook : g.Storage.heap id = some (trTree d child))
    (hsz : d = 0 → arrayDataSlabPrefixSize ≤ (ATree.hdr d child).size) :
    TransSl.Array_promoteChildAsNewRoot (envH T) g id =
      TransSl.Array_promoteChildAsNewRoot.k1 (envH T) g id (some (trTree d (promoteChild1 d child))) none :=
  promote_enter_any (envH T) g id child (getArraySlab_envH_some T _ _ _ hlook) hsz

/-- **`Array.promoteChildAsNewRoot(childID)` over the heap**: on a root index slab with exactly one child that the
    heap returns under the identifier in the header copy: the model's `promoteIfSingleChild`; the heap is the heap before
    with the new root stored under the root identifier and the child's identifier removed. -/
theorem Sl_Array_promoteChildAsNewRoot_heap (T : Nat) {d : Nat} (m : MetaSlab (ATree d)) (ty : Nat) (s : HSt)
    (h : Hdr) (child : ATree d) (hch : m.childHdrs = [h]) (hcs : m.children = [child])
    (hlook : s.heap h.id = some (trTree d child)) (hroot : m.root = true)
    (hsz : d = 0 → arrayDataSlabPrefixSize ≤ (ATree.hdr d child).size) :
    TransSl.Array_promoteChildAsNewRoot (envH T) (trArrH ⟨d + 1, m, ty⟩ s) h.id =
      some (none, trArrH ((⟨d + 1, m, ty⟩ : Arr).promoteIfSingleChild s.ctx).1
        ((s.store m.hdr.id (some (trTree d (ATree.setRoot d (ATree.setId d (promoteChild1 d child) m.hdr.id) true)))).remove
          h.id)) := by
  rw [Sl_Array_promoteChildAsNewRoot_enter_heap T _ h.id child hlook hsz, promote_unfold m ty s.ctx h child hch hcs]
  show TransSl.Array_promoteChildAsNewRoot.k1 (envH T)
    ({ Storage := s, root := some (trTree (d + 1) m) } : HArray) _ _ _ = _
  rw [Sl_Array_promoteChildAsNewRoot_k1_heap, hroot]
  rfl

/-- the `ctx` of the final state of `Sl_Array_promoteChildAsNewRoot_heap` is the model's -/
theorem Sl_Array_promoteChildAsNewRoot_heap_ctx {d : Nat} (m : MetaSlab (ATree d)) (ty : Nat) (s : HSt)
    (h : Hdr) (child : ATree d) (hch : m.childHdrs = [h]) (hcs : m.children = [child]) (v : Option GSlab) :
    ((s.store m.hdr.id v).remove h.id).ctx = ((⟨d + 1, m, ty⟩ : Arr).promoteIfSingleChild s.ctx).2 := by
  rw [promote_unfold m ty s.ctx h child hch hcs]; rfl

/-- the child is not in the heap: `SlabNotFoundError`, nothing has changed -/
theorem Sl_Array_promoteChildAsNewRoot_notFound_heap (T : Nat) (a : Arr) (s : HSt) (id : SlabID)
    (hlook : s.heap id = none) :
    TransSl.Array_promoteChildAsNewRoot (envH T) (trArrH a s) id = some (some .slabNotFound, trArrH a s) := by
  simp only [TransSl.Array_promoteChildAsNewRoot, envH_getArraySlab, trArrH_Storage, hlook, Option.isSome_some, if_true]
  rfl

/-! ### `SplitChildSlab` as the repair step of a descent: the heap afterwards holds the new parent -/

section below
open MetaSlab ATree

theorem ins_split_heap_facts : ∀ (d : Nat) (t : ATree d) (c : Ctx) (l r : ATree d) (c' : Ctx),
    ATree.split d t c = .ok (l, r, c') →
    subIds d l ++ subIds d r = subIds d t ∧
      ∀ h : SlabID → Option GSlab, InsHoldsBelow h d t → InsHoldsBelow h d l ∧ InsHoldsBelow h d r := by
  intro d t c l r c' hsp
  have hs := (split_struct d t c l r c' hsp).1
  refine ⟨by rw [← keys_sub, ← keys_sub, ← keys_sub, ← hs, AList.keys_append], fun h hb => ?_⟩
  have b := (below_of_sub (X := [t]) (X' := [l, r]) (by simpa using hs)).2 h (by simpa using hb)
  exact ⟨b l (by simp), b r (by simp)⟩

end below

section heap
open MetaSlab ATree
variable {d : Nat}

/-- the heap after the three stores of `SplitChildSlab`: it holds the new parent (the left half under the child's
    identifier, the right half under an identifier above the allocation counter), nothing leaves the tree, everything
    outside the tree is untouched -/
theorem ins_split_heapPost {m1 m2 : MetaSlab (ATree d)} {A B : List (ATree d)} {child' l r : ATree d}
    {h1 h2 : SlabID → Option GSlab} {addr ctr : Nat}
    (hch : m1.children = A ++ child' :: B) (hch2 : m2.children = A ++ l :: r :: B) (hid2 : m2.hdr.id = m1.hdr.id)
    (hids : IdsOk addr ctr (slabIds (d + 1) (ofMeta m1)))
    (hlid : (hdr d l).id = (hdr d child').id) (hrid : ctr < (hdr d r).id.idx)
    (hsub : subIds d l ++ subIds d r = subIds d child')
    (hbl : InsHoldsBelow h1 d child' → InsHoldsBelow h1 d l ∧ InsHoldsBelow h1 d r)
    (hh : HoldsChildren h1 m1)
    (hheap : ∀ id, h2 id = if id = m1.hdr.id then some (.metaSlab (trMeta m2))
      else if id = (hdr d r).id then some (trTree d r)
      else if id = (hdr d l).id then some (trTree d l) else h1 id) :
    HeapPost h1 h2 (ofMeta m1) (ofMeta m2) ∧
      ∀ id ∈ slabIds (d + 1) (ofMeta m1), id ∈ slabIds (d + 1) (ofMeta m2) := by
  have e1 : slabIds (d + 1) (ofMeta m1) = m1.hdr.id :: (A.flatMap (slabIds d) ++
      ((hdr d child').id :: subIds d child') ++ B.flatMap (slabIds d)) := by
    rw [slabIds_succ, hch]
    simp only [List.flatMap_append, List.flatMap_cons, slabIds_eq d child', List.append_assoc]
  have e2 : slabIds (d + 1) (ofMeta m2) = m1.hdr.id :: (A.flatMap (slabIds d) ++
      ((hdr d child').id :: subIds d l) ++ ((hdr d r).id :: subIds d r) ++ B.flatMap (slabIds d)) := by
    rw [slabIds_succ, hch2, hid2]
    simp only [List.flatMap_append, List.flatMap_cons, slabIds_eq d l, slabIds_eq d r, hlid, List.append_assoc]
  have sub : ∀ id ∈ slabIds (d + 1) (ofMeta m1), id ∈ slabIds (d + 1) (ofMeta m2) := by
    intro id hid
    rw [e1, ← hsub] at hid
    rw [e2]
    simp only [List.mem_cons, List.mem_append] at hid ⊢
    rcases hid with h | (h | h | h | h) | h
    · exact Or.inl h
    · exact Or.inr (Or.inl (Or.inl (Or.inl h)))
    · exact Or.inr (Or.inl (Or.inl (Or.inr (Or.inl h))))
    · exact Or.inr (Or.inl (Or.inl (Or.inr (Or.inr h))))
    · exact Or.inr (Or.inl (Or.inr (Or.inr h)))
    · exact Or.inr (Or.inr h)
  have hc'mem : child' ∈ m1.children := by rw [hch]; simp
  have cin : (hdr d child').id ∈ slabIds (d + 1) (ofMeta m1) := by
    rw [ins_mem_ids_meta]; exact Or.inr ⟨child', hc'mem, by rw [slabIds_eq]; exact List.mem_cons_self⟩
  -- the right half sits under an identifier above the allocation counter
  have fresh : (hdr d r).id ∉ slabIds (d + 1) (ofMeta m1) := fun hin => by
    have := (hids.2 _ hin).2.2; omega
  have n1 : (hdr d child').id ≠ m1.hdr.id := hdr_id_ne_parent hc'mem hids.1
  have n2 : (hdr d r).id ≠ m1.hdr.id := fun e => fresh (by rw [e, ins_mem_ids_meta]; exact Or.inl rfl)
  have n3 : (hdr d child').id ≠ (hdr d r).id := fun e => fresh (e ▸ cin)
  -- three stores: the left half under the identifier of the child, the right half, the parent
  refine ⟨(RemKidsPost.of_writes (m2 := m2) (X := [child']) (X' := [l, r]) (by simpa using hch) (by simpa using hch2)
    hid2 hids.1
    (fun id => by simp only [List.flatMap_cons, List.flatMap_nil, List.append_nil, hsub])
    (fun x' hx' => by
      rcases mem_pair hx' with rfl | rfl
      · exact Or.inl (by simp [hlid])
      · exact Or.inr fresh)
    (fun hb x' hx' => by
      have h := hbl (hb child' (by simp))
      rcases mem_pair hx' with rfl | rfl
      · exact h.1
      · exact h.2)
    hh
    (fun x' hx' => by
      rcases mem_pair hx' with rfl | rfl
      · rw [hheap, hlid, if_neg n1, if_neg n3, if_pos rfl]
      · rw [hheap, if_neg n2, if_pos rfl])
    (fun x hx hn => absurd (by rw [List.mem_singleton.1 hx]; simp [hlid]) hn)
    (fun id a _ c => by
      simp only [List.map_cons, List.map_nil, List.mem_cons, List.not_mem_nil, or_false, not_or] at c
      rw [hheap, if_neg a, if_neg c.2, if_neg c.1])).heapPost (by rw [hheap, hid2, if_pos rfl]), sub⟩
end heap

section agrees
open MetaSlab ATree

/-- the dispatched `Split` over the heap agrees with the model on every slab of a valid shape whose size is at most one
    element and the 16 bytes by which the prefix of a root data slab grows when it stops being the root over the band -/
theorem splitAgreesH_of_shape (T : Nat) (hT : legalThreshold T = true) : ∀ (d : Nat) (t : ATree d) (s : HSt),
    Shape T d false t → (hdr d t).size ≤ maxThr T + maxInlineArr T + 16 → SplitAgreesH T d t s
  | 0, t, s => by
    refine forall_ofData ?_ t
    intro t hs hsz
    have hs := (shape_zero T false t).1 hs
    have F := thrFacts hT
    refine SplitAgreesH_data_safe T t s hT ⟨hs.count_eq, hs.size_eq, fun e he => (hs.elems_ok e he).1,
      ⟨hs.root_eq, hs.not_inl⟩, ?_⟩
    have : t.hdr.size ≤ maxThr T + maxInlineArr T + 16 := hsz
    have := F.lo; rw [F.maxE, F.inlE] at *
    omega
  | d + 1, t, s => by
    refine forall_ofMeta ?_ t
    intro m hs _
    have hs := (shape_succ T d false m).1 hs
    have F := thrFacts hT
    have hlen : m.childHdrs.length = m.children.length := by rw [hs.hdrs_eq]; simp
    refine SplitAgreesH_meta T m s ?_ ?_ ?_
    · rw [hs.sums_eq, MetaSlab.prefixSums_length]; omega
    · rw [hs.size_eq, hlen, F.hsz]; omega
    · rw [hs.count_eq]; exact sumCounts_take_le _ _

/-- the dispatched `Split` over the heap agrees with the model on every slab of a valid shape whose size is at most one
    element over the band -/
theorem ins_splitAgreesH_of_shape (T : Nat) (hT : legalThreshold T = true) : ∀ (d : Nat) (t : ATree d) (s : HSt),
    Shape T d false t → (hdr d t).size ≤ maxThr T + maxInlineArr T → SplitAgreesH T d t s :=
  fun d t s hs hsz => splitAgreesH_of_shape T hT d t s hs (Nat.le_trans hsz (Nat.le_add_right _ _))

end agrees

section tail
open MetaSlab ATree

/-- the generated `SplitChildSlab` over the heap on a parent `m1` with consistent bookkeeping whose child `child'` (of
    a valid shape, full, at most one element over the band) is held with its siblings: the model's `splitChildSlab`
    result, the model's `Ctx`, `HeapPost`, and no identifier leaves the tree -/
theorem splitTail_sim (T : Nat) (hT : legalThreshold T = true) {d : Nat} {m1 m2 : MetaSlab (ATree d)}
    {A B : List (ATree d)} {child' : ATree d} {s1 : HSt} {addr : Nat} {c2 : Ctx}
    (hbook : Book m1) (hch : m1.children = A ++ child' :: B) (hshape : Shape T d false child')
    (hfull : maxThr T < (hdr d child').size) (hsize : (hdr d child').size ≤ maxThr T + maxInlineArr T)
    (hids : IdsOk addr s1.ctx.ctr (slabIds (d + 1) (ofMeta m1))) (hholds : HoldsChildren s1.heap m1)
    (hsp : m1.splitChildSlab child' A.length s1.ctx = .ok (m2, c2)) :
    ∃ s2 out, TransSl.ArrayMetaDataSlab_SplitChildSlab (envH T) (trMeta m1) s1 (some (trTree d child'))
        (Int.ofNat A.length) = some (none, trMeta m2, s2, out) ∧ s2.ctx = c2 ∧
      HeapPost s1.heap s2.heap (ofMeta m1) (ofMeta m2) ∧
      ∀ id ∈ slabIds (d + 1) (ofMeta m1), id ∈ slabIds (d + 1) (ofMeta m2) := by
  obtain ⟨l, r, c1, hsplit, hc1, hl, hr, hflat, hid, hcnt, hrepl⟩ :=
    split_ok hT d child' s1.ctx hshape hfull (Nat.le_trans hsize (Nat.le_add_right _ _))
  obtain ⟨m', c', heq, _, hbook', hch2, hid2, _, _, _⟩ :=
    splitChildSlab_spec m1 A B child' l r A.length s1.ctx c1 hbook hch rfl hsplit hcnt
  rw [hsp] at heq
  simp only [Except.ok.injEq, Prod.mk.injEq] at heq
  obtain ⟨rfl, rfl⟩ := heq
  obtain ⟨_, hlid, hrid, _⟩ := split_struct d child' s1.ctx l r c1 hsplit
  obtain ⟨hsubids, hbelow⟩ := ins_split_heap_facts d child' s1.ctx l r c1 hsplit
  -- the preconditions of `Sl_SplitChildSlab_heap`
  obtain ⟨hk', hlen, hbase⟩ := book_at_child hbook hch
  have hk0 : A.length < m1.countSum.length := hlen ▸ hk'
  have hg := Sl_SplitChildSlab_heap T m1 child' A.length s1
    (ins_splitAgreesH_of_shape T hT d child' s1 hshape hsize) hk0 hk' hbase
  rw [hsplit, hsp] at hg
  refine ⟨_, _, hg, Sl_SplitChildSlab_heap_ctx m1 child' A.length s1 l r c1 m2 c2 hsplit hsp _ _ _, ?_⟩
  refine ins_split_heapPost hch hch2 hid2 hids hlid (by rw [hrid]; exact Nat.lt_succ_self _) hsubids
    (hbelow s1.heap) hholds ?_
  intro id
  simp only [HSt.store_heap, HSt.withCtx_heap]

end tail


section examplesH

def exH0 : HSt := ⟨fun _ => none, ⟨5, [], []⟩⟩

example :
    (TransSl.ArrayMetaDataSlab_SplitChildSlab (envH 256) (trMeta exIdx) exH0
      (some (.dataSlab (trData (exData 2 3 [100, 150, 200])))) (Int.ofNat 0)).map
      (fun r => (r.1, r.2.1.header, r.2.1.childrenCountSum, r.2.2.1.ctx,
        (r.2.2.1.heap ⟨1, 2⟩).map (TransSl.ArraySlab_Header (envH 256)),
        (r.2.2.1.heap ⟨1, 6⟩).map (TransSl.ArraySlab_Header (envH 256)),
        (r.2.2.1.heap ⟨1, 1⟩).map (TransSl.ArraySlab_Header (envH 256)),
        (r.2.2.1.heap ⟨1, 3⟩).isSome)) =
    some (none, { slabID := ⟨1, 1⟩, size := 54, count := 5 }, [2, 3, 5],
      ⟨6, [.alloc 1 ⟨1, 6⟩, .store ⟨1, 2⟩, .store ⟨1, 6⟩, .store ⟨1, 1⟩], []⟩,
      some { slabID := ⟨1, 2⟩, size := 271, count := 2 }, some { slabID := ⟨1, 6⟩, size := 221, count := 1 },
      some { slabID := ⟨1, 1⟩, size := 54, count := 5 }, false) := by
  rw [Sl_SplitChildSlab_data_heap 256 exIdx (exData 2 3 [100, 150, 200]) 0 exH0 (by decide) exBig_work
    (by decide) (by decide) (by decide)]
  rfl

/-- the same by direct evaluation of the generated function -/
example :
    (TransSl.ArrayMetaDataSlab_SplitChildSlab (envH 256) (trMeta exIdx) exH0
      (some (.dataSlab (trData (exData 2 3 [100, 150, 200])))) (Int.ofNat 0)).map
      (fun r => (r.1, r.2.2.1.ctx,
        (r.2.2.1.heap ⟨1, 6⟩).map (TransSl.ArraySlab_Header (envH 256)))) =
    some (none, ⟨6, [.alloc 1 ⟨1, 6⟩, .store ⟨1, 2⟩, .store ⟨1, 6⟩, .store ⟨1, 1⟩], []⟩,
      some { slabID := ⟨1, 6⟩, size := 221, count := 1 }) := by rfl

/-- an index-slab child -/
example :
    (TransSl.ArrayMetaDataSlab_SplitChildSlab (envH 256) (trMeta exTop) ⟨fun _ => none, ⟨7, [], []⟩⟩
      (some (.metaSlab (trMeta exMid))) (Int.ofNat 0)).map
      (fun r => (r.1, r.2.1.childrenCountSum, r.2.2.1.ctx,
        (r.2.2.1.heap ⟨1, 2⟩).map (TransSl.ArraySlab_Header (envH 256)),
        (r.2.2.1.heap ⟨1, 8⟩).map (TransSl.ArraySlab_Header (envH 256)),
        (r.2.2.1.heap ⟨1, 1⟩).map (TransSl.ArraySlab_Header (envH 256)))) =
    some (none, [30, 100], ⟨8, [.alloc 1 ⟨1, 8⟩, .store ⟨1, 2⟩, .store ⟨1, 8⟩, .store ⟨1, 1⟩], []⟩,
      some { slabID := ⟨1, 2⟩, size := 40, count := 30 }, some { slabID := ⟨1, 8⟩, size := 40, count := 70 },
      some { slabID := ⟨1, 1⟩, size := 40, count := 100 }) := by
  rw [Sl_SplitChildSlab_meta_heap 256 exTop exMid 0 _ (by decide) (by decide) (by decide)
    (by decide) (by decide) (by decide)]
  rfl

/-- `splitRoot` of a data root with three 50-byte elements on an empty heap -/
example :
    (TransSl.Array_splitRoot (envH 256) (trArrH slRArr ⟨fun _ => none, slRCtx⟩)).map
      (fun r => (r.1, r.2.root.map (TransSl.ArraySlab_Header (envH 256)), r.2.Storage.ctx,
        (r.2.Storage.heap ⟨1, 1⟩).map (TransSl.ArraySlab_Header (envH 256)),
        (r.2.Storage.heap ⟨1, 2⟩).map (TransSl.ArraySlab_Header (envH 256)),
        (r.2.Storage.heap ⟨1, 3⟩).map (TransSl.ArraySlab_Header (envH 256)))) =
    some (none, some { slabID := ⟨1, 1⟩, size := 40, count := 3 },
      { ctr := 3, eff := [.alloc 1 ⟨1, 2⟩, .alloc 1 ⟨1, 3⟩, .store ⟨1, 2⟩, .store ⟨1, 3⟩, .store ⟨1, 1⟩] },
      some { slabID := ⟨1, 1⟩, size := 40, count := 3 }, some { slabID := ⟨1, 2⟩, size := 121, count := 2 },
      some { slabID := ⟨1, 3⟩, size := 71, count := 1 }) := by
  rw [Sl_Array_splitRoot_heap 256 slRArr ⟨fun _ => none, slRCtx⟩ rfl (fun _ => by decide)
    (SplitAgreesH_data 256 _ _ (by decide) (by decide))]
  rfl

/-- `promoteChildAsNewRoot`: the heap holds the single child `⟨1, 2⟩` -/
example :
    (TransSl.Array_promoteChildAsNewRoot (envH 256) (trArrH ⟨1, slRSingle, 7⟩ ⟨slRLook, slRCtx⟩) ⟨1, 2⟩).map
      (fun r => (r.1, r.2.root.map (TransSl.ArraySlab_Header (envH 256)), r.2.Storage.ctx,
        (r.2.Storage.heap ⟨1, 1⟩).map (TransSl.ArraySlab_Header (envH 256)),
        (r.2.Storage.heap ⟨1, 2⟩).isSome)) =
    some (none, some { slabID := ⟨1, 1⟩, size := 155, count := 3 },
      { ctr := 1, eff := [.store ⟨1, 1⟩, .remove ⟨1, 2⟩] },
      some { slabID := ⟨1, 1⟩, size := 155, count := 3 }, false) := by
  rw [show (⟨1, 2⟩ : SlabID) = (⟨⟨1, 2⟩, 171, 3⟩ : Hdr).id from rfl,
    Sl_Array_promoteChildAsNewRoot_heap 256 slRSingle 7 ⟨slRLook, slRCtx⟩ ⟨⟨1, 2⟩, 171, 3⟩ slRChild rfl rfl rfl rfl
      (fun _ => by decide)]
  rfl

example : TransSl.Array_promoteChildAsNewRoot (envH 256) (trArrH ⟨1, slRSingle, 7⟩ ⟨fun _ => none, slRCtx⟩) ⟨1, 2⟩ =
    some (some .slabNotFound, trArrH ⟨1, slRSingle, 7⟩ ⟨fun _ => none, slRCtx⟩) :=
  Sl_Array_promoteChildAsNewRoot_notFound_heap 256 _ _ _ rfl

end examplesH
end Atree.TransEq

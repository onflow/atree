import AtreeProofs.Props.TransDescentInsert
import AtreeProofs.Props.TransDescentInsertFull
import AtreeProofs.Props.TransDescentSplit
import AtreeProofs.Props.TransDescentRoot
import AtreeProofs.Props.TransDescentRoute
import AtreeProofs.Array.Top
import AtreeProofs.Props.TransDescentExDefs
/-
  TRANSLATION EQUIVALENCE, the array descent: `Array.Insert` and `Array.Append` at the TOP LEVEL over the heap
  environment `envH T` (Trans/Descent.lean).  The nesting machinery (`incrementIndexFrom`, `notifyParentIfNeeded`,
  `setCallbackWithChild`) is the identity in `envH`, so the join point `Array_Insert.k1` returns `(nil, a)` (`arrIns_k1`).

  `Array.Insert` is the count check (`Count() == maxArrayElementCount`), `ArraySlab.Insert` on the root
  (`Sl_ArraySlab_Insert_heap_full`, Props/TransDescentInsert.lean) and, if the root became full, `splitRoot`.  `splitRoot_heapPost`: the three
  stores of `splitRoot` after a descent whose heap condition is `HeapPost h0 h1 t t'` give `HeapPost h0 h2 t newRoot`
  (the old root identifier is re-used by the new index root, the left half gets the identifier allocated by `splitRoot`,
  the right half the one allocated by `Split`; the slabs below `t'` are untouched).  `Sl_Array_splitRoot_heap_full`:
  the `SplitAgreesH` hypothesis of `splitRoot` from the shape of the re-labelled old root (`splitAgreesH_of_shape`).
-/
set_option linter.unusedVariables false
namespace Atree.TransEq
open Atree Atree.Gen

theorem arrIns_k1 (T : Nat) (g : HArray) (i : UInt64) (v : Option Elem) (err : Option AErr) :
    TransSl.Array_Insert.k1 (envH T) g i v err = some (none, g) := rfl

theorem arrIns_maxE : UInt64.ofNat Gen.maxArrayElementCount = u64 Gen.maxArrayElementCount := rfl

/-- `Array.Insert` up to the end of the descent -/
theorem arrIns_max (T : Nat) (a : Arr) (s : HSt) (depth : Nat) (i : UInt64) (v : Option Elem)
    (hmax : a.count = maxArrayElementCount) :
    TransSl.Array_Insert (envH T) depth (trArrH a s) i v = some (some .maxElementCount, trArrH a s) := by
  have hc : a.count < 2^32 := by rw [hmax]; decide
  simp only [TransSl.Array_Insert, Sl_Array_Count_heap_u64 T a s hc, hmax, arrIns_maxE, decide_true, if_true,
    envH_maxCount]

theorem arrIns_descent (T : Nat) (a : Arr) (s : HSt) (depth : Nat) (i : UInt64) (v : Option Elem)
    (hc : a.count < 2^32) (hne : a.count ≠ maxArrayElementCount)
    (r : Option AErr × GSlab × HSt)
    (hgen : TransSl.ArraySlab_Insert (envH T) (TransSl.ArrayMetaDataSlab_Insert (envH T) depth) (trTree a.d a.root) s
      a.addr i v = some r) :
    TransSl.Array_Insert (envH T) depth (trArrH a s) i v =
      if r.1.isSome then some (r.1, ({ Storage := r.2.2, root := some r.2.1 } : HArray))
      else if TransSl.ArraySlab_IsFull (envH T) r.2.1 then
        match TransSl.Array_splitRoot (envH T) ({ Storage := r.2.2, root := some r.2.1 } : HArray) with
        | some r6 => if r6.1.isSome then some (r6.1, r6.2) else some (none, r6.2)
        | none => none
      else some (none, ({ Storage := r.2.2, root := some r.2.1 } : HArray)) := by
  have hd : decide (u64 a.count = u64 maxArrayElementCount) = false := by
    rw [ins_u64_deq (by omega) (by decide)]; simp [hne]
  simp only [TransSl.Array_Insert, Sl_Array_Count_heap_u64 T a s hc, arrIns_maxE, hd, Bool.false_eq_true, if_false,
    trArrH_root, Sl_Array_Address_heap, trArrH_Storage, hgen, arrIns_k1]
  by_cases h1 : r.1.isSome = true
  · simp only [h1, if_true]
  · simp only [h1, Bool.false_eq_true, if_false]
    by_cases h2 : TransSl.ArraySlab_IsFull (envH T) r.2.1 = true
    · simp only [h2, if_true]
      cases TransSl.Array_splitRoot (envH T) ({ Storage := r.2.2, root := some r.2.1 } : HArray) <;> rfl
    · simp only [h2, Bool.false_eq_true, if_false]

section heapTop
open ATree MetaSlab

/-- the heap condition of `splitRoot` composed with that of the descent -/
theorem splitRoot_heapPost {d0 d : Nat} (t : ATree d0) (t' l r : ATree d) (new : MetaSlab (ATree d))
    (h0 h1 h2 : SlabID → Option GSlab) (ctr addr : Nat)
    (hnew_id : new.hdr.id = (hdr d t').id) (hnew_ch : new.children = [l, r])
    (hlid : (hdr d l).id = ⟨addr, ctr + 1⟩) (hrid : (hdr d r).id = ⟨addr, ctr + 2⟩)
    (htail : (slabIds d l).tail ++ (slabIds d r).tail = (slabIds d t').tail)
    (hbelow : ∀ h, TopInsBelow h d t' → TopInsBelow h d l ∧ TopInsBelow h d r)
    (hids : IdsOk addr ctr (slabIds d t'))
    (hh2 : ∀ id, h2 id = if id = (hdr d t').id then some (.metaSlab (trMeta new))
      else if id = (hdr d r).id then some (trTree d r) else if id = (hdr d l).id then some (trTree d l) else h1 id)
    (hP : HeapPost h0 h1 t t') : HeapPost h0 h2 t (ofMeta new) := by
  simp only [tail_slabIds] at htail
  have hroot := hids.2 _ (hdr_id_mem_slabIds d t')
  have hnd := hids.1
  rw [slabIds_eq d t'] at hnd
  have hnd1 := (List.nodup_cons.1 hnd).1
  have htl : ∀ id ∈ subIds d t', id ≠ (hdr d t').id ∧ id ≠ (hdr d l).id ∧ id ≠ (hdr d r).id := by
    intro id hid
    have h1 := (hids.2 id (by rw [slabIds_eq]; exact List.mem_cons_of_mem _ hid)).2.2
    refine ⟨fun e => hnd1 (e ▸ hid), fun e => ?_, fun e => ?_⟩
    · rw [e, hlid] at h1; simp only at h1; omega
    · rw [e, hrid] at h1; simp only at h1; omega
  have hlr : (hdr d l).id ≠ (hdr d t').id ∧ (hdr d l).id ≠ (hdr d r).id ∧ (hdr d r).id ≠ (hdr d t').id := by
    have h1 := hroot.2.2
    refine ⟨fun e => ?_, fun e => ?_, fun e => ?_⟩
    · rw [← e, hlid] at h1; simp only at h1; omega
    · rw [hlid, hrid] at e; simp only [SlabID.mk.injEq] at e; omega
    · rw [← e, hrid] at h1; simp only at h1; omega
  have hmem_new : ∀ id, id ∈ slabIds (d + 1) (ofMeta new) ↔
      id = (hdr d t').id ∨ id = (hdr d l).id ∨ id = (hdr d r).id ∨ id ∈ subIds d t' := by
    intro id
    rw [slabIds_succ, hnew_ch, hnew_id, ← htail]
    simp only [List.flatMap_cons, List.flatMap_nil, List.append_nil, List.mem_cons, List.mem_append]
    rw [slabIds_eq d l, slabIds_eq d r]
    simp only [List.mem_cons]
    constructor
    · rintro (h | (h | h) | (h | h))
      · exact Or.inl h
      · exact Or.inr (Or.inl h)
      · exact Or.inr (Or.inr (Or.inr (Or.inl h)))
      · exact Or.inr (Or.inr (Or.inl h))
      · exact Or.inr (Or.inr (Or.inr (Or.inr h)))
    · rintro (h | h | h | h | h)
      · exact Or.inl h
      · exact Or.inr (Or.inl (Or.inl h))
      · exact Or.inr (Or.inr (Or.inl h))
      · exact Or.inr (Or.inl (Or.inr h))
      · exact Or.inr (Or.inr (Or.inr h))
  have hmem_t' : ∀ id, id ∈ slabIds d t' → id ∈ slabIds (d + 1) (ofMeta new) := by
    intro id hid
    rw [hmem_new]
    rw [slabIds_eq d t'] at hid
    rcases List.mem_cons.1 hid with h | h
    · exact Or.inl h
    · exact Or.inr (Or.inr (Or.inr h))
  have hout : ∀ id, id ∉ slabIds (d + 1) (ofMeta new) → h2 id = h1 id := by
    intro id hid
    rw [hmem_new] at hid
    simp only [not_or] at hid
    rw [hh2]; simp [hid.1, hid.2.1, hid.2.2.1]
  have hb2 : InsHoldsBelow h2 d t' := hP.holds.insBelow.congr (fun id hid => by
    obtain ⟨a, b, c⟩ := htl id hid
    rw [hh2]; simp [a, b, c])
  obtain ⟨hbl, hbr⟩ := hbelow h2 hb2
  -- the descent, then the three stores; every identifier of `t'` stays
  refine hP.trans ⟨⟨?_, ?_⟩, fun id hid hn => absurd (hmem_t' id hid) hn, fun id _ hn => hout id hn⟩
    (fun id hid _ hn => absurd (hmem_t' id hid) hn)
  · show h2 new.hdr.id = some (.metaSlab (trMeta new))
    rw [hh2, hnew_id]; simp
  · intro c hc
    have hc : c ∈ new.children := hc
    rw [hnew_ch] at hc
    simp only [List.mem_cons, List.not_mem_nil, or_false] at hc
    rcases hc with rfl | rfl
    · refine ins_holds_of_root_below d c ?_ hbl
      rw [hh2]; simp [hlr.1, hlr.2.1]
    · refine ins_holds_of_root_below d c ?_ hbr
      rw [hh2]; simp [hlr.2.2]

end heapTop

section rootSplit
open ATree MetaSlab

theorem topIns_old_eq (d : Nat) (t : ATree d) (ty : Nat) (c : Ctx) :
    splitRootOld ⟨d, t, ty⟩ c = setId d (setRoot d (adjSplit d t) false) ⟨(hdr d t).id.addr, c.ctr + 1⟩ ∧
    splitRootCtx ⟨d, t, ty⟩ c = (c.alloc (hdr d t).id.addr).2 ∧
    (hdr d (splitRoot0 ⟨d, t, ty⟩)).id = (hdr d t).id := by
  cases d with
  | zero => exact ⟨rfl, rfl, rfl⟩
  | succ d => exact ⟨rfl, rfl, rfl⟩

theorem topIns_isRoot {T : Nat} : ∀ (d : Nat) (t : ATree d), Shape T d true t → isRoot d t = true
  | 0, t, h => by
    revert h; refine forall_ofData ?_ t; intro s h
    exact ((shape_zero T true s).1 h).root_eq
  | d + 1, t, h => by
    revert h; refine forall_ofMeta ?_ t; intro m h
    exact ((shape_succ T d true m).1 h).root_eq

/-- **`Array.splitRoot` after the descent**: on the handle whose root `t'` became full, over the storage `s1` that
    holds it: the generated `splitRoot` returns the model's handle, the `Ctx` is the model's, and the heap condition of
    the descent extends to the new index root -/
theorem Sl_Array_splitRoot_heap_full (T : Nat) (hT : legalThreshold T = true) (d : Nat) (t' : ATree d) (ty : Nat)
    (s1 : HSt) (addr : Nat) (hs : Shape T d true t') (hlo : maxThr T < (hdr d t').size)
    (hhi : (hdr d t').size ≤ maxThr T + maxInlineArr T) (hids : IdsOk addr s1.ctx.ctr (slabIds d t')) :
    ∃ (new : MetaSlab (ATree d)) (s' : HSt),
      Arr.splitRoot ⟨d, t', ty⟩ s1.ctx = .ok (⟨d + 1, ofMeta new, ty⟩, s'.ctx) ∧
      TransSl.Array_splitRoot (envH T) (trArrH ⟨d, t', ty⟩ s1) = some (none, trArrH ⟨d + 1, ofMeta new, ty⟩ s') ∧
      ∀ {d0 : Nat} (t : ATree d0) (h0 : SlabID → Option GSlab), HeapPost h0 s1.heap t t' →
        HeapPost h0 s'.heap t (ofMeta new) := by
  have F := thrFacts hT
  obtain ⟨e1, e2, e3⟩ := topIns_old_eq d t' ty s1.ctx
  have ho := oldRoot_spec hT d t' ⟨(hdr d t').id.addr, s1.ctx.ctr + 1⟩ hs rfl
  obtain ⟨l, r, c2, hsp, hc2, hl, hr, hflat, hlid, hcounts, hrepl⟩ :=
    split_ok hT d _ (s1.ctx.alloc (hdr d t').id.addr).2 ho.shape (by have := ho.size_ge; omega)
      (by have := ho.size_le; omega)
  rw [← e1, ← e2] at hsp
  have hagree : SplitAgreesH T d (splitRootOld ⟨d, t', ty⟩ s1.ctx) (s1.withCtx (splitRootCtx ⟨d, t', ty⟩ s1.ctx)) := by
    rw [e1]
    exact splitAgreesH_of_shape T hT d _ _ ho.shape (by have := ho.size_le; omega)
  have hgen := Sl_Array_splitRoot_heap T ⟨d, t', ty⟩ s1 (topIns_isRoot d t' hs)
    (fun _ => by have := F.rpfx; have := F.lo; have := F.maxE; show arrayRootDataSlabPrefixSize ≤ (hdr d t').size; omega)
    hagree
  have hmod := Sl_Array_splitRoot_heap_model ⟨d, t', ty⟩ s1
  rw [hsp] at hgen hmod
  refine ⟨splitRootNew ⟨d, t', ty⟩ l r, _, hmod, hgen, ?_⟩
  intro d0 t h0 hP
  obtain ⟨-, f1, f2, -⟩ := split_struct d _ _ l r c2 hsp
  obtain ⟨f3, f4⟩ := ins_split_heap_facts d _ _ l r c2 hsp
  have haddr : (hdr d t').id.addr = addr := (hids.2 _ (hdr_id_mem_slabIds d t')).1
  rw [e1, ho.id_eq] at f1 f2
  rw [e2] at f2
  rw [← tail_slabIds, ← tail_slabIds, ← tail_slabIds, e1, ho.ids] at f3
  refine splitRoot_heapPost t t' l r _ h0 s1.heap _ s1.ctx.ctr addr e3 rfl (by rw [f1, haddr])
    (by rw [f2, haddr]; rfl) f3 ?_ hids ?_ hP
  · intro h hb
    refine f4 h ?_
    rw [e1]
    revert hb
    cases d with
    | zero => exact id
    | succ d => exact id
  · intro id
    simp only [HSt.store_heap, HSt.withCtx_heap, e3]
end rootSplit

section top
open ATree MetaSlab

theorem topIns_arr_insert_unfold (T : Nat) (a : Arr) (i : Nat) (v : Elem) (c : Ctx) (hne : a.count ≠ maxArrayElementCount) :
    a.insert T i v c =
      match ATree.insert T a.d a.root i v c with
      | .error e => .error e
      | .ok (t', c1) =>
        if ATree.isFull T a.d t' = true then Arr.splitRoot ⟨a.d, t', a.ty⟩ c1 else .ok (⟨a.d, t', a.ty⟩, c1) := by
  unfold Arr.insert
  rw [if_neg hne]
  cases ATree.insert T a.d a.root i v c with
  | error e => rfl
  | ok res => rfl

theorem Sl_Array_Insert_heap_tree (T : Nat) (hT : legalThreshold T = true) (a : Arr) (i : Nat) (v : Elem) (s : HSt)
    (depth : Nat) (hd : a.d ≤ depth) (hinv : TreeInv T a.d true a.root) (hni : NotInl a.d a.root)
    (hids : IdsOk a.addr s.ctx.ctr (slabIds a.d a.root)) (hcnt : a.count < maxArrayElementCount + 1)
    (hv : ValueOk v) (hh : Holds s.heap a.d a.root) (hi : i < 2^64) :
    match a.insert T i v s.ctx with
    | .ok (a', c') => ∃ s', TransSl.Array_Insert (envH T) depth (trArrH a s) (u64 i) (some v) =
          some (none, trArrH a' s') ∧ s'.ctx = c' ∧ HeapPost s.heap s'.heap a.root a'.root
    | .error .indexOutOfBounds =>
        TransSl.Array_Insert (envH T) depth (trArrH a s) (u64 i) (some v) = some (some .indexOutOfBounds, trArrH a s)
    | .error .maxElementCount =>
        TransSl.Array_Insert (envH T) depth (trArrH a s) (u64 i) (some v) = some (some .maxElementCount, trArrH a s)
    | .error _ => True := by
  have ht := thresholds_fit hT
  by_cases hmax : a.count = maxArrayElementCount
  · have hm : a.insert T i v s.ctx = .error .maxElementCount := by unfold Arr.insert; rw [if_pos hmax]
    rw [hm]
    exact arrIns_max T a s depth (u64 i) (some v) hmax
  · have hc1 : (hdr a.d a.root).count + 1 < 2^32 :=
      Nat.succ_lt_succ (Nat.lt_of_le_of_ne (Nat.le_of_lt_succ hcnt) hmax)
    have hc : a.count < 2^32 := Nat.lt_of_succ_lt hc1
    have hD := Sl_ArraySlab_Insert_heap_full T hT a.d true a.root i v s depth a.addr hd hinv hni hv hids hh hc1 hi
    rw [topIns_arr_insert_unfold T a i v s.ctx hmax]
    by_cases hle : i ≤ (flatten a.d a.root).length
    · obtain ⟨t', c1, hins, hstep, _, _, hsz1, hsz2⟩ := insert_gen hT a.d a.root true i v s.ctx hinv hni hv hle
      rw [hins] at hD ⊢
      obtain ⟨s1, hg, hctx, hP⟩ := hD
      have hszle : (hdr a.d t').size ≤ maxThr T + maxInlineArr T :=
        Nat.le_trans hsz2 (Nat.add_le_add_right hinv.le_max _)
      have hszlt : (hdr a.d t').size < 2^32 := size_lt_u32 hT hszle
      have hgen := arrIns_descent T a s depth (u64 i) (some v) hc hmax _ hg
      simp only [Option.isSome_none, Bool.false_eq_true, if_false, insH_IsFull T a.d t' hszlt ht.2.2.1] at hgen
      by_cases hfull : ATree.isFull T a.d t' = true
      · have hlo := (isFull_iff T a.d t').1 hfull
        have hids' : IdsOk a.addr s1.ctx.ctr (slabIds a.d t') := by
          rw [hctx]; exact repl_single_ids hstep.repl _ hids
        obtain ⟨new, s', hmod, hsr, hpost⟩ := Sl_Array_splitRoot_heap_full T hT a.d t' a.ty s1 a.addr hstep.shape hlo
          hszle hids'
        simp only [hfull, if_true]
        rw [← hctx, hmod]
        refine ⟨s', ?_, rfl, hpost a.root s.heap hP⟩
        rw [hgen]
        simp only [hfull, if_true]
        have : ({ Storage := s1, root := some (trTree a.d t') } : HArray) = trArrH ⟨a.d, t', a.ty⟩ s1 := rfl
        rw [this, hsr]
        rfl
      · simp only [hfull, Bool.false_eq_true, if_false]
        refine ⟨s1, ?_, hctx, hP⟩
        rw [hgen]
        simp only [hfull, Bool.false_eq_true, if_false]
        rfl
    · have hins := insert_err_gen (T := T) a.d a.root true i v s.ctx (hinv.shape hni) (Nat.lt_of_not_le hle)
      rw [hins] at hD ⊢
      have hgen := arrIns_descent T a s depth (u64 i) (some v) hc hmax _ hD
      rw [hgen]
      rfl

/-- **`Array.Insert` over a heap = `Arr.insert` on the embedded tree** (any depth, any restructuring: child splits at
    every level, root split) -/
theorem Sl_Array_Insert_heap_full (T : Nat) (hT : legalThreshold T = true) (a : Arr) (i : Nat) (v : Elem) (s : HSt)
    (depth : Nat) (hd : a.d ≤ depth) (hinv : ArrInv T a s.ctx.ctr) (hv : ValueOk v) (hh : Holds s.heap a.d a.root)
    (hi : i < 2^64) :
    match a.insert T i v s.ctx with
    | .ok (a', c') => ∃ s', TransSl.Array_Insert (envH T) depth (trArrH a s) (u64 i) (some v) =
          some (none, trArrH a' s') ∧ s'.ctx = c' ∧ HeapPost s.heap s'.heap a.root a'.root
    | .error .indexOutOfBounds =>
        TransSl.Array_Insert (envH T) depth (trArrH a s) (u64 i) (some v) = some (some .indexOutOfBounds, trArrH a s)
    | .error .maxElementCount =>
        TransSl.Array_Insert (envH T) depth (trArrH a s) (u64 i) (some v) = some (some .maxElementCount, trArrH a s)
    | .error _ => True :=
  Sl_Array_Insert_heap_tree T hT a i v s depth hd hinv.tree
    (by obtain ⟨d, t, ty⟩ := a; exact hinv.notInl) hinv.ids hinv.count_lt hv hh hi

theorem Sl_Array_Insert_heap (T : Nat) (hT : legalThreshold T = true) (a : Arr) (i : Nat) (v : Elem) (s : HSt)
    (depth : Nat) (hd : a.d ≤ depth) (hinv : TreeInv T a.d true a.root) (hni : NotInl a.d a.root)
    (hids : IdsOk a.addr s.ctx.ctr (slabIds a.d a.root)) (hcnt : a.count < maxArrayElementCount + 1)
    (hv : ValueOk v) (hh : Holds s.heap a.d a.root) (hi : i < 2^64) (htl : InsTailHyp T a.d a.root i v s.ctx) :
    match a.insert T i v s.ctx with
    | .ok (a', c') => ∃ s', TransSl.Array_Insert (envH T) depth (trArrH a s) (u64 i) (some v) =
          some (none, trArrH a' s') ∧ s'.ctx = c' ∧ HeapPost s.heap s'.heap a.root a'.root
    | .error .indexOutOfBounds =>
        TransSl.Array_Insert (envH T) depth (trArrH a s) (u64 i) (some v) = some (some .indexOutOfBounds, trArrH a s)
    | .error .maxElementCount =>
        TransSl.Array_Insert (envH T) depth (trArrH a s) (u64 i) (some v) = some (some .maxElementCount, trArrH a s)
    | .error _ => True :=
  Sl_Array_Insert_heap_tree T hT a i v s depth hd hinv hni hids hcnt hv hh hi

/-- `Array.Insert` under the array invariant `ArrInv` -/
theorem Sl_Array_Insert_heap_inv (T : Nat) (hT : legalThreshold T = true) (a : Arr) (i : Nat) (v : Elem) (s : HSt)
    (depth : Nat) (hd : a.d ≤ depth) (hinv : ArrInv T a s.ctx.ctr) (hv : ValueOk v) (hh : Holds s.heap a.d a.root)
    (hi : i < 2^64) (htl : InsTailHyp T a.d a.root i v s.ctx) :
    match a.insert T i v s.ctx with
    | .ok (a', c') => ∃ s', TransSl.Array_Insert (envH T) depth (trArrH a s) (u64 i) (some v) =
          some (none, trArrH a' s') ∧ s'.ctx = c' ∧ HeapPost s.heap s'.heap a.root a'.root
    | .error .indexOutOfBounds =>
        TransSl.Array_Insert (envH T) depth (trArrH a s) (u64 i) (some v) = some (some .indexOutOfBounds, trArrH a s)
    | .error .maxElementCount =>
        TransSl.Array_Insert (envH T) depth (trArrH a s) (u64 i) (some v) = some (some .maxElementCount, trArrH a s)
    | .error _ => True :=
  Sl_Array_Insert_heap_full T hT a i v s depth hd hinv hv hh hi

/-- `Sl_Array_Insert_heap_full` under a hypothesis it does not need (`InsNoSplit`: no child on the path of the insertion
    becomes full; the ROOT may become full and be split) -/
theorem Sl_Array_Insert_heap_noSplit (T : Nat) (hT : legalThreshold T = true) (a : Arr) (i : Nat) (v : Elem) (s : HSt)
    (depth : Nat) (hd : a.d ≤ depth) (hinv : ArrInv T a s.ctx.ctr) (hv : ValueOk v) (hh : Holds s.heap a.d a.root)
    (hi : i < 2^64) (hns : InsNoSplit T a.d a.root i v s.ctx) :
    match a.insert T i v s.ctx with
    | .ok (a', c') => ∃ s', TransSl.Array_Insert (envH T) depth (trArrH a s) (u64 i) (some v) =
          some (none, trArrH a' s') ∧ s'.ctx = c' ∧ HeapPost s.heap s'.heap a.root a'.root
    | .error .indexOutOfBounds =>
        TransSl.Array_Insert (envH T) depth (trArrH a s) (u64 i) (some v) = some (some .indexOutOfBounds, trArrH a s)
    | .error .maxElementCount =>
        TransSl.Array_Insert (envH T) depth (trArrH a s) (u64 i) (some v) = some (some .maxElementCount, trArrH a s)
    | .error _ => True :=
  Sl_Array_Insert_heap_full T hT a i v s depth hd hinv hv hh hi

/-- `Sl_Array_Insert_heap_full` under a hypothesis it does not need (`InsRoom`: every slab strictly below the root has
    room for one more element) -/
theorem Sl_Array_Insert_heap_room (T : Nat) (hT : legalThreshold T = true) (a : Arr) (i : Nat) (v : Elem) (s : HSt)
    (depth : Nat) (hd : a.d ≤ depth) (hinv : ArrInv T a s.ctx.ctr) (hv : ValueOk v) (hh : Holds s.heap a.d a.root)
    (hi : i < 2^64) (hroom : InsRoom T a.d a.root) :
    match a.insert T i v s.ctx with
    | .ok (a', c') => ∃ s', TransSl.Array_Insert (envH T) depth (trArrH a s) (u64 i) (some v) =
          some (none, trArrH a' s') ∧ s'.ctx = c' ∧ HeapPost s.heap s'.heap a.root a'.root
    | .error .indexOutOfBounds =>
        TransSl.Array_Insert (envH T) depth (trArrH a s) (u64 i) (some v) = some (some .indexOutOfBounds, trArrH a s)
    | .error .maxElementCount =>
        TransSl.Array_Insert (envH T) depth (trArrH a s) (u64 i) (some v) = some (some .maxElementCount, trArrH a s)
    | .error _ => True :=
  Sl_Array_Insert_heap_full T hT a i v s depth hd hinv hv hh hi

/-- `Array.Append(v)` is `Array.Insert(Count(), v)` -/
theorem Sl_Array_Append_eq_Insert (T : Nat) (a : Arr) (s : HSt) (depth : Nat) (v : Option Elem) (hc : a.count < 2^32) :
    TransSl.Array_Append (envH T) depth (trArrH a s) v =
      TransSl.Array_Insert (envH T) depth (trArrH a s) (u64 a.count) v := by
  simp only [TransSl.Array_Append, Sl_Array_Count_heap_u64 T a s hc]
  cases TransSl.Array_Insert (envH T) depth (trArrH a s) (u64 a.count) v <;> rfl

/-- **`Array.Append` over a heap** -/
theorem Sl_Array_Append_heap (T : Nat) (hT : legalThreshold T = true) (a : Arr) (v : Elem) (s : HSt)
    (depth : Nat) (hd : a.d ≤ depth) (hinv : TreeInv T a.d true a.root) (hni : NotInl a.d a.root)
    (hids : IdsOk a.addr s.ctx.ctr (slabIds a.d a.root)) (hcnt : a.count < maxArrayElementCount + 1)
    (hv : ValueOk v) (hh : Holds s.heap a.d a.root) (htl : InsTailHyp T a.d a.root a.count v s.ctx) :
    match a.append T v s.ctx with
    | .ok (a', c') => ∃ s', TransSl.Array_Append (envH T) depth (trArrH a s) (some v) =
          some (none, trArrH a' s') ∧ s'.ctx = c' ∧ HeapPost s.heap s'.heap a.root a'.root
    | .error .indexOutOfBounds =>
        TransSl.Array_Append (envH T) depth (trArrH a s) (some v) = some (some .indexOutOfBounds, trArrH a s)
    | .error .maxElementCount =>
        TransSl.Array_Append (envH T) depth (trArrH a s) (some v) = some (some .maxElementCount, trArrH a s)
    | .error _ => True := by
  have hc : a.count < 2^32 := by simp only [maxArrayElementCount] at hcnt; omega
  rw [Sl_Array_Append_eq_Insert T a s depth (some v) hc]
  exact Sl_Array_Insert_heap_tree T hT a a.count v s depth hd hinv hni hids hcnt hv hh (by omega)

/-- **`Array.Append` over a heap = `Arr.append` on the embedded tree** -/
theorem Sl_Array_Append_heap_full (T : Nat) (hT : legalThreshold T = true) (a : Arr) (v : Elem) (s : HSt)
    (depth : Nat) (hd : a.d ≤ depth) (hinv : ArrInv T a s.ctx.ctr) (hlt : a.count < maxArrayElementCount)
    (hv : ValueOk v) (hh : Holds s.heap a.d a.root) :
    ∃ a' c' s', a.append T v s.ctx = .ok (a', c') ∧
      TransSl.Array_Append (envH T) depth (trArrH a s) (some v) = some (none, trArrH a' s') ∧ s'.ctx = c' ∧
      HeapPost s.heap s'.heap a.root a'.root := by
  have hlen : a.count = a.toList.length := by
    obtain ⟨d, t, ty⟩ := a
    exact Shape.count_eq_length hinv.shape
  obtain ⟨a', c', hok, _⟩ := arr_insert_ok hT a s.ctx a.count v hv hinv hlt (by omega)
  have h := Sl_Array_Insert_heap_full T hT a a.count v s depth hd hinv hv hh (by simp only [maxArrayElementCount] at hlt; omega)
  rw [← Sl_Array_Append_eq_Insert T a s depth (some v) (by simp only [maxArrayElementCount] at hlt; omega)] at h
  have hok' : a.append T v s.ctx = .ok (a', c') := hok
  rw [show a.insert T a.count v s.ctx = .ok (a', c') from hok] at h
  obtain ⟨s', h1, h2, h3⟩ := h
  exact ⟨a', c', s', hok', h1, h2, h3⟩

/-- the model's `append` on a valid array that is not at the element limit succeeds (the index is the count) -/
theorem Sl_Array_Append_heap_ok (T : Nat) (hT : legalThreshold T = true) (a : Arr) (v : Elem) (s : HSt)
    (depth : Nat) (hd : a.d ≤ depth) (hinv : ArrInv T a s.ctx.ctr) (hlt : a.count < maxArrayElementCount)
    (hv : ValueOk v) (hh : Holds s.heap a.d a.root) (htl : InsTailHyp T a.d a.root a.count v s.ctx) :
    ∃ a' c' s', a.append T v s.ctx = .ok (a', c') ∧
      TransSl.Array_Append (envH T) depth (trArrH a s) (some v) = some (none, trArrH a' s') ∧ s'.ctx = c' ∧
      HeapPost s.heap s'.heap a.root a'.root :=
  Sl_Array_Append_heap_full T hT a v s depth hd hinv hlt hv hh

/-- `Array.Append`, unconditional: every slab strictly below the root has room for one more element -/
theorem Sl_Array_Append_heap_room (T : Nat) (hT : legalThreshold T = true) (a : Arr) (v : Elem) (s : HSt)
    (depth : Nat) (hd : a.d ≤ depth) (hinv : ArrInv T a s.ctx.ctr) (hlt : a.count < maxArrayElementCount)
    (hv : ValueOk v) (hh : Holds s.heap a.d a.root) (hroom : InsRoom T a.d a.root) :
    ∃ a' c' s', a.append T v s.ctx = .ok (a', c') ∧
      TransSl.Array_Append (envH T) depth (trArrH a s) (some v) = some (none, trArrH a' s') ∧ s'.ctx = c' ∧
      HeapPost s.heap s'.heap a.root a'.root :=
  Sl_Array_Append_heap_full T hT a v s depth hd hinv hlt hv hh

end top

section exTop

theorem exTopIns_D_inv : TreeInv 256 0 true exD.root := by
  refine ⟨rfl, rfl, ?_, rfl, fun h => rfl, by decide, fun h => by cases h⟩
  intro e he
  have h : (exD.root : DataSlab).elems = [⟨100, .val 0⟩, ⟨100, .val 1⟩, ⟨100, .val 2⟩, ⟨60, .val 3⟩] := rfl
  rw [h] at he
  simp only [List.mem_cons, List.not_mem_nil, or_false] at he
  rcases he with rfl | rfl | rfl | rfl <;> exact ⟨by decide, by decide⟩

/-- the hypotheses of `Sl_Array_Insert_heap` are satisfiable on a ROOT SPLIT: the root data slab `exD` (365 bytes,
    T = 256) becomes full by a 100-byte element and is split (`splitRoot`, depth 0 -> 1); depth argument 0; no tail
    hypothesis is needed at depth 0 -/
example :
    match exD.insert 256 2 ⟨100, .val 99⟩ (exSt exD).ctx with
    | .ok (a', c') => ∃ s', TransSl.Array_Insert (envH 256) 0 (trArrH exD (exSt exD)) (u64 2) (some ⟨100, .val 99⟩) =
          some (none, trArrH a' s') ∧ s'.ctx = c' ∧ HeapPost (exSt exD).heap s'.heap exD.root a'.root
    | .error .indexOutOfBounds =>
        TransSl.Array_Insert (envH 256) 0 (trArrH exD (exSt exD)) (u64 2) (some ⟨100, .val 99⟩) =
          some (some .indexOutOfBounds, trArrH exD (exSt exD))
    | .error .maxElementCount =>
        TransSl.Array_Insert (envH 256) 0 (trArrH exD (exSt exD)) (u64 2) (some ⟨100, .val 99⟩) =
          some (some .maxElementCount, trArrH exD (exSt exD))
    | .error _ => True :=
  Sl_Array_Insert_heap 256 (by decide) exD 2 ⟨100, .val 99⟩ (exSt exD) 0 (Nat.le_refl _) exTopIns_D_inv rfl
    ⟨by decide, by
      intro id hid
      have h : ATree.slabIds exD.d exD.root = [⟨1, 1⟩] := rfl
      rw [h] at hid
      simp only [List.mem_cons, List.not_mem_nil, or_false] at hid
      subst hid; decide⟩
    (by decide) ⟨by decide, 99, rfl⟩ (Holds_heapOf 0 exD.root (by decide)) (by decide) (Or.inr trivial)

/-- … and the model takes the `.ok` branch with a root split (depth 1, three stores after two allocations) -/
example : (exD.insert 256 2 ⟨100, .val 99⟩ (exSt exD).ctx).toOption.map (fun r => (r.1.d, r.2.eff)) =
    some (1, [.store ⟨1, 1⟩, .alloc 1 ⟨1, 6⟩, .alloc 1 ⟨1, 7⟩, .store ⟨1, 6⟩, .store ⟨1, 7⟩, .store ⟨1, 1⟩]) := by rfl

theorem exTopIns_elemsOk (l : List Elem)
    (h : l.all (fun e => decide (1 ≤ e.size) && decide (e.size ≤ maxInlineArr 256)) = true) :
    ∀ e ∈ l, ElemOk 256 e := by
  intro e he
  have := List.all_eq_true.1 h e he
  simp only [Bool.and_eq_true, decide_eq_true_eq] at this
  exact this

theorem exTopIns_leafInv (id next base : Nat) (sizes : List Nat)
    (h1 : (exLeaf id next base sizes).elems.all
      (fun e => decide (1 ≤ e.size) && decide (e.size ≤ maxInlineArr 256)) = true)
    (h2 : (exLeaf id next base sizes).hdr.size = 21 + sumSizes (exLeaf id next base sizes).elems)
    (h3 : (exLeaf id next base sizes).hdr.size ≤ maxThr 256) (h4 : minThr 256 ≤ (exLeaf id next base sizes).hdr.size) :
    DataInv 256 false (exLeaf id next base sizes) :=
  ⟨by simp [exLeaf], h2, exTopIns_elemsOk _ h1, rfl, (fun h => by cases h), h3, fun _ => h4⟩

theorem exTopIns_A_kids (c : ATree 0) (hc : c ∈ (exA.root : MetaSlab (ATree 0)).children) :
    c = exLeaf 2 3 0 [60, 60, 60, 60] ∨ c = exLeaf 3 4 10 [60, 60] ∨ c = exLeaf 4 0 20 [60, 60] := by
  have h : (exA.root : MetaSlab (ATree 0)).children =
      [exLeaf 2 3 0 [60, 60, 60, 60], exLeaf 3 4 10 [60, 60], exLeaf 4 0 20 [60, 60]] := rfl
  rw [h] at hc
  rcases List.mem_cons.mp hc with h | hc
  · exact Or.inl h
  · rcases List.mem_cons.mp hc with h | hc
    · exact Or.inr (Or.inl h)
    · exact Or.inr (Or.inr (List.mem_singleton.mp hc))

theorem exTopIns_A_inv : TreeInv 256 1 true exA.root := by
  refine ⟨rfl, rfl, rfl, rfl, rfl, ?_, ?_, by decide, by simp, fun _ => by decide⟩
  · intro c hc
    rcases exTopIns_A_kids c hc with rfl | rfl | rfl
    · exact exTopIns_leafInv _ _ _ _ rfl rfl (by decide) (by decide)
    · exact exTopIns_leafInv _ _ _ _ rfl rfl (by decide) (by decide)
    · exact exTopIns_leafInv _ _ _ _ rfl rfl (by decide) (by decide)
  · intro c hc
    rcases exTopIns_A_kids c hc with rfl | rfl | rfl <;> rfl

/-- the hypotheses of `Sl_Array_Append_heap` are satisfiable at depth 1 with NO tail hypothesis: the three leaves of
    `exA` have room (`InsRoom`), the append goes to the last leaf -/
example :
    match exA.append 256 ⟨70, .val 99⟩ (exSt exA).ctx with
    | .ok (a', c') => ∃ s', TransSl.Array_Append (envH 256) 1 (trArrH exA (exSt exA)) (some ⟨70, .val 99⟩) =
          some (none, trArrH a' s') ∧ s'.ctx = c' ∧ HeapPost (exSt exA).heap s'.heap exA.root a'.root
    | .error .indexOutOfBounds =>
        TransSl.Array_Append (envH 256) 1 (trArrH exA (exSt exA)) (some ⟨70, .val 99⟩) =
          some (some .indexOutOfBounds, trArrH exA (exSt exA))
    | .error .maxElementCount =>
        TransSl.Array_Append (envH 256) 1 (trArrH exA (exSt exA)) (some ⟨70, .val 99⟩) =
          some (some .maxElementCount, trArrH exA (exSt exA))
    | .error _ => True :=
  Sl_Array_Append_heap 256 (by decide) exA ⟨70, .val 99⟩ (exSt exA) 1 (Nat.le_refl _) exTopIns_A_inv trivial
    ⟨by decide, by
      intro id hid
      have h : ATree.slabIds exA.d exA.root = [⟨1, 1⟩, ⟨1, 2⟩, ⟨1, 3⟩, ⟨1, 4⟩] := rfl
      rw [h] at hid
      simp only [List.mem_cons, List.not_mem_nil, or_false] at hid
      rcases hid with rfl | rfl | rfl | rfl <;> decide⟩
    (by decide) ⟨by decide, 99, rfl⟩ (Holds_heapOf 1 exA.root (by decide))
    (Or.inr (InsNoSplit.of_room (by decide) 1 exA.root true _ _ _ exTopIns_A_inv ⟨by decide, 99, rfl⟩
      (by intro c hc
          rcases exTopIns_A_kids c hc with rfl | rfl | rfl <;> exact ⟨by decide, trivial⟩)))

example : (exA.append 256 ⟨70, .val 99⟩ (exSt exA).ctx).toOption.map (fun r => (r.1.d, r.1.count, r.2.eff)) =
    some (1, 9, [.store ⟨1, 4⟩, .store ⟨1, 1⟩]) := by rfl

end exTop
end Atree.TransEq

import AtreeProofs.Props.TransDescentPop
import AtreeProofs.Props.TransDescentRoute
/-
  TRANSLATION EQUIVALENCE, the array descent: `Array.PopIterate` at the TOP LEVEL over a heap.

  The generated `Array_PopIterate` (Gen/TransSlabs.lean) calls `PopIterate` of the root slab through dynamic dispatch
  (`Sl_ArraySlab_PopIterate_heap`, Props/TransDescentPop.lean: every slab below the root is popped and removed), reads
  the identifier, the EXTRA DATA and the `inlined` flag of the emptied root, replaces the root by the composite literal
  `&ArrayDataSlab{header: {slabID: rootID, size: prefix}, extraData: extraData, inlined: inlined}` and - unless the
  array is inlined - stores it (`storeSlab`), then `notifyParentIfNeeded` (the identity of `envH`).

  On the handle of a model array `a` whose tree the heap holds (pairwise distinct identifiers, header copies that name
  the children, a depth argument that covers the tree, the root slab marked as root) the generated code
    * hands the callback the elements of the model's `Arr.popIterate` (last to first), no error,
    * leaves the handle of the model's emptied array (`trArrH`), the model's `Ctx`,
    * and the heap: NOT inlined - the new tree (one empty root data slab) is stored under the root identifier, every
      other identifier of the old tree is gone, everything else untouched (`HeapPost`); inlined (depth 0 only) -
      nothing is stored, the storage is untouched (`s' = s`).
  `hroot` (the old root slab has `isRoot = true`, part of `TreeInv T d true`) is NEEDED: the generated code copies the
  OLD root's extra data into the new slab, the model sets `root := true` (see `exNotRoot` at the end).
-/
namespace Atree.TransEq
open Atree Atree.Gen

/-- the root the model's `Arr.popIterate` leaves: a single empty root data slab under the old root identifier -/
def popRoot (a : Arr) : DataSlab :=
  { hdr := { id := a.rootID, count := 0,
             size := if a.isInlined then inlinedArrayDataSlabPrefixSize else arrayRootDataSlabPrefixSize },
    next := SlabID.undef, elems := [], root := true, inlined := a.isInlined }

/-- the model's `Arr.popIterate` in projections -/
theorem Arr.popIterate_eq (a : Arr) (c : Ctx) :
    a.popIterate c = ((ATree.popIterate a.d a.root c).1, ⟨0, popRoot a, a.ty⟩,
      if a.isInlined then (ATree.popIterate a.d a.root c).2.2
      else (ATree.popIterate a.d a.root c).2.2.emit (.store a.rootID)) := rfl

theorem Arr.popIterate_d (a : Arr) (c : Ctx) : (a.popIterate c).2.1.d = 0 := rfl
theorem Arr.popIterate_root (a : Arr) (c : Ctx) : (a.popIterate c).2.1.root = popRoot a := rfl

/-- an inlined array is a single data slab -/
theorem Arr.d_of_isInlined (a : Arr) (h : a.isInlined = true) : a.d = 0 := by
  obtain ⟨d, root, ty⟩ := a
  cases d with
  | zero => rfl
  | succ d => exact absurd h (by simp [Arr.isInlined])

/-- the storage `Array.PopIterate` leaves: untouched when the array is inlined; otherwise every slab below the root is
    gone and the empty root data slab is stored under the root identifier -/
def popTopSt (a : Arr) (s : HSt) : HSt :=
  if a.isInlined then s
  else (s.clear (belowIds a.d a.root) (ATree.popIterate a.d a.root s.ctx).2.2).store a.rootID
    (some (.dataSlab (trData (popRoot a))))

theorem popTopSt_inlined (a : Arr) (s : HSt) (h : a.isInlined = true) : popTopSt a s = s := by
  simp [popTopSt, h]

theorem popTopSt_standalone (a : Arr) (s : HSt) (h : a.isInlined = false) :
    popTopSt a s = (s.clear (belowIds a.d a.root) (ATree.popIterate a.d a.root s.ctx).2.2).store a.rootID
      (some (trTree 0 (popRoot a))) := by
  simp [popTopSt, h, trTree]

/-- the `Ctx` of the storage `Array.PopIterate` leaves is the model's -/
theorem popTopSt_ctx (a : Arr) (s : HSt) : (popTopSt a s).ctx = (a.popIterate s.ctx).2.2 := by
  rw [Arr.popIterate_eq]
  obtain ⟨d, root, ty⟩ := a
  cases d with
  | zero =>
    rcases hi : (root : DataSlab).inlined with _ | _
    · have hinl : (⟨0, root, ty⟩ : Arr).isInlined = false := hi
      simp [popTopSt, hinl]
    · have hinl : (⟨0, root, ty⟩ : Arr).isInlined = true := hi
      simp only [popTopSt, hinl, if_true]
      rfl
  | succ d =>
    have hinl : (⟨d + 1, root, ty⟩ : Arr).isInlined = false := rfl
    simp [popTopSt, hinl]

/-- the heap of the storage `Array.PopIterate` leaves for an array that is not inlined: `HeapPost` - it holds the new
    tree (the empty root data slab under the root identifier), every other identifier of the old tree is gone, every
    identifier outside the old tree is untouched -/
theorem popTopSt_heapPost (a : Arr) (s : HSt) (h : a.isInlined = false) :
    HeapPost (d' := 0) s.heap (popTopSt a s).heap a.root (popRoot a) := by
  have hids : ATree.slabIds 0 ((popRoot a : DataSlab) : ATree 0) = [a.rootID] := rfl
  have hcons : ATree.slabIds a.d a.root = a.rootID :: belowIds a.d a.root := slabIds_eq_cons a.d a.root
  refine ⟨?_, ?_, ?_⟩
  · show (popTopSt a s).heap (popRoot a).hdr.id = some (.dataSlab (trData (popRoot a)))
    simp [popTopSt, h, popRoot]
  · intro id hid hnot
    rw [hids, List.mem_singleton] at hnot
    rw [hcons, List.mem_cons] at hid
    have hb : id ∈ belowIds a.d a.root := hid.resolve_left hnot
    simp [popTopSt, h, hnot, hb]
  · intro id hid hnot
    rw [hids, List.mem_singleton] at hnot
    rw [hcons, List.mem_cons, not_or] at hid
    simp [popTopSt, h, hnot, hid.2]

/-- on the heap of the tree (`heapOf`) the heap afterwards is the heap of the model's new tree, at every identifier -/
theorem popTopSt_heapOf (a : Arr) (c : Ctx) (h : a.isInlined = false) (id : SlabID) :
    (popTopSt a ⟨heapOf a.d a.root, c⟩).heap id = heapOf 0 ((popRoot a : DataSlab) : ATree 0) id := by
  have hcons : ATree.slabIds a.d a.root = a.rootID :: belowIds a.d a.root := slabIds_eq_cons a.d a.root
  have hr : (popRoot a).hdr.id = a.rootID := rfl
  by_cases h1 : id = a.rootID
  · simp [popTopSt, h, heapOf, hr, h1]
  · by_cases h2 : id ∈ belowIds a.d a.root
    · simp [popTopSt, h, heapOf, hr, h1, h2]
    · have hnot : id ∉ ATree.slabIds a.d a.root := by
        rw [hcons, List.mem_cons, not_or]; exact ⟨h1, h2⟩
      simp [popTopSt, h, heapOf, hr, h1, h2, heapOf_none a.d a.root id hnot]

theorem popTop_zero (T : Nat) (root : DataSlab) (ty : Nat) (s : HSt) (acc : List (Option Elem)) (depth : Nat)
    (hh : Holds s.heap 0 root) (hroot : root.root = true) :
    TransSl.Array_PopIterate (envH T) depth (trArrH ⟨0, root, ty⟩ s) acc =
      some (none, trArrH ((⟨0, root, ty⟩ : Arr).popIterate s.ctx).2.1 (popTopSt ⟨0, root, ty⟩ s),
        acc ++ ((⟨0, root, ty⟩ : Arr).popIterate s.ctx).1.map some) := by
  have h := Sl_ArraySlab_PopIterate_heap T 0 root s acc depth (Nat.zero_le _) hh trivial
    (by show [root.hdr.id].Nodup; simp)
  simp only [TransSl.Array_PopIterate, trArrH_root, trArrH_Storage, h, Arr.popIterate_eq]
  simp only [trTree, ATree.popIterate, belowIds, HSt.clear_nil, Option.isSome_none, Bool.false_eq_true, if_false,
    TransSl.ArraySlab_SlabID, TransSl.ArrayDataSlab_SlabID, TransSl.ArraySlab_ExtraData,
    TransSl.ArrayDataSlab_ExtraData, TransSl.ArraySlab_Inlined, TransSl.ArrayDataSlab_Inlined,
    DataSlab.popIterate, trData_inlined, trData_header, trHdr_slabID, trData_extraData, hroot]
  rcases hi : root.inlined with _ | _
  · simp only [Bool.false_eq_true, if_false, TransSl.Array_PopIterate.k1, TransSl.Array_Inlined,
      TransSl.ArraySlab_Inlined, TransSl.ArrayDataSlab_Inlined, Bool.not_false, if_true, storeSlab_envH,
      Option.isSome_none, envH_notify, TransSl.ArraySlab_SlabID, TransSl.ArrayDataSlab_SlabID]
    have hinl : (⟨0, root, ty⟩ : Arr).isInlined = false := hi
    simp only [trArrH, popTopSt, popRoot, hinl, trTree, trData, trHdr, Arr.rootID, Arr.rootHdr, ATree.hdr, belowIds,
      ATree.popIterate, DataSlab.popIterate, HSt.clear_nil, Bool.false_eq_true, if_false]
    rfl
  · simp only [if_true, TransSl.Array_PopIterate.k1, TransSl.Array_Inlined,
      TransSl.ArraySlab_Inlined, TransSl.ArrayDataSlab_Inlined, Bool.not_true, Bool.false_eq_true, if_false,
      envH_notify]
    have hinl : (⟨0, root, ty⟩ : Arr).isInlined = true := hi
    simp only [trArrH, popTopSt, popRoot, hinl, trTree, trData, trHdr, Arr.rootID, Arr.rootHdr, ATree.hdr, if_true]
    rfl

theorem popTop_succ (T d : Nat) (root : MetaSlab (ATree d)) (ty : Nat) (s : HSt) (acc : List (Option Elem))
    (depth : Nat) (hd : d + 1 ≤ depth) (hh : Holds s.heap (d + 1) root) (hok : HdrsOk (d + 1) root)
    (hn : (ATree.slabIds (d + 1) root).Nodup) (hroot : root.root = true) :
    TransSl.Array_PopIterate (envH T) depth (trArrH ⟨d + 1, root, ty⟩ s) acc =
      some (none, trArrH ((⟨d + 1, root, ty⟩ : Arr).popIterate s.ctx).2.1 (popTopSt ⟨d + 1, root, ty⟩ s),
        acc ++ ((⟨d + 1, root, ty⟩ : Arr).popIterate s.ctx).1.map some) := by
  have h := Sl_ArraySlab_PopIterate_heap T (d + 1) root s acc depth hd hh hok hn
  have hinl : (⟨d + 1, root, ty⟩ : Arr).isInlined = false := rfl
  simp only [TransSl.Array_PopIterate, trArrH_root, trArrH_Storage, h, Arr.popIterate_eq]
  simp only [trTree, TransSl.ArraySlab_Inlined, TransSl.ArrayMetaDataSlab_Inlined, Option.isSome_none,
    Bool.false_eq_true, if_false, TransSl.Array_PopIterate.k1, TransSl.Array_Inlined, TransSl.ArrayDataSlab_Inlined,
    Bool.not_false, if_true, storeSlab_envH, envH_notify, TransSl.ArraySlab_SlabID, TransSl.ArrayDataSlab_SlabID,
    TransSl.ArrayMetaDataSlab_SlabID, TransSl.ArraySlab_ExtraData, TransSl.ArrayMetaDataSlab_ExtraData,
    popIterate_succ, trMeta_header, trMeta_extraData, trHdr_slabID, hroot]
  simp only [trArrH, popTopSt, popRoot, hinl, trTree, trData, trHdr, Arr.rootID, Arr.rootHdr, ATree.hdr,
    Bool.false_eq_true, if_false, popIterate_succ]
  rfl

/-- the root slab of a valid array is marked as root (it carries the extra data) -/
theorem isRoot_of_arrInv {T : Nat} {a : Arr} {ctr : Nat} (hinv : ArrInv T a ctr) : ATree.isRoot a.d a.root = true := by
  have ht := hinv.tree
  obtain ⟨d, root, ty⟩ := a
  cases d with
  | zero => exact (ht : DataInv T true root).root_eq
  | succ d => exact (ht : _ ∧ _).1

/-- **`Array.PopIterate` over a heap** (explicit final storage `popTopSt`): on the handle of a model array whose tree
    the heap holds - identifiers pairwise distinct, header copies naming the children, the root slab marked as root, a
    depth argument that covers the tree - the generated code returns no error, the handle of the model's emptied array
    over the storage `popTopSt a s`, and has handed the callback the elements of the model's `Arr.popIterate`. -/
theorem Sl_Array_PopIterate_heap (T : Nat) (a : Arr) (s : HSt) (acc : List (Option Elem)) (depth : Nat)
    (hd : a.d ≤ depth) (hh : Holds s.heap a.d a.root) (hok : HdrsOk a.d a.root)
    (hn : (ATree.slabIds a.d a.root).Nodup) (hroot : ATree.isRoot a.d a.root = true) :
    TransSl.Array_PopIterate (envH T) depth (trArrH a s) acc =
      some (none, trArrH (a.popIterate s.ctx).2.1 (popTopSt a s), acc ++ (a.popIterate s.ctx).1.map some) := by
  obtain ⟨d, root, ty⟩ := a
  cases d with
  | zero => exact popTop_zero T root ty s acc depth hh hroot
  | succ d => exact popTop_succ T d root ty s acc depth hd hh hok hn hroot

/-- **the same in the form "result, `Ctx`, heap"**: the storage afterwards has the model's `Ctx`; when the array is not
    inlined its heap is `HeapPost` of the old and the model's new tree (the empty root data slab stored under the root
    identifier, every other slab of the old tree gone, the rest untouched); when it is inlined (only at depth 0)
    NOTHING is stored: the storage is the one before. -/
theorem Sl_Array_PopIterate_heap_post (T : Nat) (a : Arr) (s : HSt) (acc : List (Option Elem)) (depth : Nat)
    (hd : a.d ≤ depth) (hh : Holds s.heap a.d a.root) (hok : HdrsOk a.d a.root)
    (hn : (ATree.slabIds a.d a.root).Nodup) (hroot : ATree.isRoot a.d a.root = true) :
    ∃ s' : HSt,
      TransSl.Array_PopIterate (envH T) depth (trArrH a s) acc =
        some (none, trArrH (a.popIterate s.ctx).2.1 s', acc ++ (a.popIterate s.ctx).1.map some) ∧
      s'.ctx = (a.popIterate s.ctx).2.2 ∧
      (a.isInlined = false → HeapPost s.heap s'.heap a.root (a.popIterate s.ctx).2.1.root) ∧
      (a.isInlined = true → a.d = 0 ∧ s' = s) :=
  ⟨popTopSt a s, Sl_Array_PopIterate_heap T a s acc depth hd hh hok hn hroot, popTopSt_ctx a s,
    fun h => popTopSt_heapPost a s h, fun h => ⟨Arr.d_of_isInlined a h, popTopSt_inlined a s h⟩⟩

/-- **under the array invariant** (`ArrInv`: `TreeInv` of the root as root - header copies, `isRoot` -, distinct
    identifiers, stand-alone = not inlined): the only hypotheses left are that the heap holds the tree and that the
    depth argument covers it; the new root is always stored. -/
theorem Sl_Array_PopIterate_heap_inv (T : Nat) (a : Arr) (ctr : Nat) (hinv : ArrInv T a ctr) (s : HSt)
    (acc : List (Option Elem)) (depth : Nat) (hd : a.d ≤ depth) (hh : Holds s.heap a.d a.root) :
    ∃ s' : HSt,
      TransSl.Array_PopIterate (envH T) depth (trArrH a s) acc =
        some (none, trArrH (a.popIterate s.ctx).2.1 s', acc ++ (a.popIterate s.ctx).1.map some) ∧
      s' = (s.clear (belowIds a.d a.root) (ATree.popIterate a.d a.root s.ctx).2.2).store a.rootID
        (some (trTree (a.popIterate s.ctx).2.1.d (a.popIterate s.ctx).2.1.root)) ∧
      s'.ctx = (a.popIterate s.ctx).2.2 ∧
      HeapPost s.heap s'.heap a.root (a.popIterate s.ctx).2.1.root := by
  exact ⟨popTopSt a s,
    Sl_Array_PopIterate_heap T a s acc depth hd hh (HdrsOk.of_inv a.root hinv.tree) hinv.ids.1 (isRoot_of_arrInv hinv),
    popTopSt_standalone a s hinv.standalone, popTopSt_ctx a s, popTopSt_heapPost a s hinv.standalone⟩

/-- **the `heapOf` form**: the generated function on the heap of the tree = the heap of the model function's tree.
    On the storage that holds exactly the array (`heapOf a.d a.root`, any `Ctx`), for an array that is not inlined, the
    heap afterwards IS `heapOf` of the model's new tree, at EVERY identifier. -/
theorem Sl_Array_PopIterate_heapOf (T : Nat) (a : Arr) (c : Ctx) (acc : List (Option Elem)) (depth : Nat)
    (hd : a.d ≤ depth) (hok : HdrsOk a.d a.root) (hn : (ATree.slabIds a.d a.root).Nodup)
    (hroot : ATree.isRoot a.d a.root = true) (hinl : a.isInlined = false) :
    ∃ s' : HSt,
      TransSl.Array_PopIterate (envH T) depth (trArrH a ⟨heapOf a.d a.root, c⟩) acc =
        some (none, trArrH (a.popIterate c).2.1 s', acc ++ (a.popIterate c).1.map some) ∧
      s'.ctx = (a.popIterate c).2.2 ∧
      ∀ id, s'.heap id = heapOf (a.popIterate c).2.1.d (a.popIterate c).2.1.root id :=
  ⟨popTopSt a ⟨heapOf a.d a.root, c⟩,
    Sl_Array_PopIterate_heap T a ⟨heapOf a.d a.root, c⟩ acc depth hd (Holds_heapOf a.d a.root hn) hok hn hroot,
    popTopSt_ctx a ⟨heapOf a.d a.root, c⟩, fun id => popTopSt_heapOf a c hinl id⟩

/-- the `heapOf` form under the array invariant -/
theorem Sl_Array_PopIterate_heapOf_inv (T : Nat) (a : Arr) (ctr : Nat) (hinv : ArrInv T a ctr) (c : Ctx)
    (acc : List (Option Elem)) (depth : Nat) (hd : a.d ≤ depth) :
    ∃ s' : HSt,
      TransSl.Array_PopIterate (envH T) depth (trArrH a ⟨heapOf a.d a.root, c⟩) acc =
        some (none, trArrH (a.popIterate c).2.1 s', acc ++ (a.popIterate c).1.map some) ∧
      s'.ctx = (a.popIterate c).2.2 ∧
      ∀ id, s'.heap id = heapOf (a.popIterate c).2.1.d (a.popIterate c).2.1.root id :=
  Sl_Array_PopIterate_heapOf T a c acc depth hd (HdrsOk.of_inv a.root hinv.tree) hinv.ids.1 (isRoot_of_arrInv hinv)
    hinv.standalone

/-- the depth argument does not cover an index-slab root: the generated code leaves the modelled fragment -/
theorem Sl_Array_PopIterate_depth0 (T d : Nat) (root : MetaSlab (ATree d)) (ty : Nat) (s : HSt)
    (acc : List (Option Elem)) :
    TransSl.Array_PopIterate (envH T) 0 (trArrH ⟨d + 1, root, ty⟩ s) acc = none := rfl

/-- **the error exit**: the heap does not hold the LAST child of the root index slab (the first one visited):
    `SlabNotFoundError`, the handle - root and storage - is unchanged, the callback was not called.  (The model has no
    such case: `Holds` excludes it.) -/
theorem Sl_Array_PopIterate_notFound (T d : Nat) (root : MetaSlab (ATree d)) (ty : Nat) (pre : List Hdr) (h : Hdr)
    (hhdrs : root.childHdrs = pre ++ [h]) (s : HSt) (hnone : s.heap h.id = none) (acc : List (Option Elem))
    (depth : Nat) :
    TransSl.Array_PopIterate (envH T) (depth + 1) (trArrH ⟨d + 1, root, ty⟩ s) acc =
      some (some .slabNotFound, trArrH ⟨d + 1, root, ty⟩ s, acc) := by
  have e := Sl_ArrayMetaDataSlab_PopIterate_notFound T root pre h hhdrs s hnone acc depth
  simp only [TransSl.Array_PopIterate, trArrH_root, trArrH_Storage, trTree, TransSl.ArraySlab_PopIterate, e,
    Option.isSome_some, if_true]
  rfl

/-- **the error exit in the middle**: child `j` of the root index slab is missing, the children to its right are held:
    `SlabNotFoundError`; the root of the handle is UNCHANGED (it still lists every child, count and size as before),
    but the children to the right of `j` have been popped and removed with everything below them, their elements
    handed to the callback, and the root is NOT stored: the handle and the stored root both name removed slabs.  (The
    model has no such case: `Holds` excludes it.) -/
theorem Sl_Array_PopIterate_notFound_at (T d : Nat) (root : MetaSlab (ATree d)) (ty : Nat) (s : HSt)
    (acc : List (Option Elem)) (depth : Nat) (hd : d ≤ depth) (hok : HdrsOk (d + 1) root) (j : Nat)
    (hj : j < root.children.length) (hh : ∀ c ∈ root.children.drop (j + 1), Holds s.heap d c)
    (hn : ((root.children.drop (j + 1)).flatMap (ATree.slabIds d)).Nodup)
    (hnone : s.heap (ATree.hdr d root.children[j]).id = none) :
    TransSl.Array_PopIterate (envH T) (depth + 1) (trArrH ⟨d + 1, root, ty⟩ s) acc =
      some (some .slabNotFound,
        trArrH ⟨d + 1, root, ty⟩
          (s.clear ((root.children.drop (j + 1)).flatMap (ATree.slabIds d))
            ((root.children.drop (j + 1)).reverse.foldl (popStep d) ([], s.ctx)).2),
        acc ++ ((root.children.drop (j + 1)).reverse.foldl (popStep d) ([], s.ctx)).1.map some) := by
  have e := Sl_ArrayMetaDataSlab_PopIterate_notFound_at T d root s acc depth hd hok j hj hh hn hnone
  simp only [TransSl.Array_PopIterate, trArrH_root, trArrH_Storage, trTree, TransSl.ArraySlab_PopIterate, e,
    Option.isSome_some, if_true]
  rfl

section
/-- the two-level array `exRouteArr` (root `exMeta` over two data slabs of four elements), its heap: the hypotheses hold -/
example (c : Ctx) : Holds (exRouteSt c).heap exRouteArr.d exRouteArr.root ∧ HdrsOk exRouteArr.d exRouteArr.root ∧
    (ATree.slabIds exRouteArr.d exRouteArr.root).Nodup ∧ ATree.isRoot exRouteArr.d exRouteArr.root = true :=
  ⟨exMeta_holds, HdrsOk.of_inv (T := 256) (d := 1) (top := true) exMeta exMeta_treeInv, by decide, rfl⟩

/-- the generated `Array.PopIterate` EVALUATED on it: no error, the new root, the effects, the heap at the three
    identifiers (root = the empty data slab, both children gone), eight elements -/
example : (TransSl.Array_PopIterate (envH 256) 1 (trArrH exRouteArr (exRouteSt ⟨7, [], []⟩)) []).map
      (fun r => (r.1, r.2.1.root, r.2.1.Storage.ctx.eff, r.2.1.Storage.heap ⟨1, 1⟩, r.2.1.Storage.heap ⟨1, 2⟩,
        r.2.1.Storage.heap ⟨1, 3⟩, r.2.2.length)) =
    some (none, some (trTree 0 (popRoot exRouteArr)), [.remove ⟨1, 3⟩, .remove ⟨1, 2⟩, .store ⟨1, 1⟩],
      some (trTree 0 (popRoot exRouteArr)), none, none, 8) := by rfl

example : trTree 0 (popRoot exRouteArr) =
    .dataSlab { next := SlabID.undef, header := { slabID := ⟨1, 1⟩, size := 5, count := 0 }, elements := [],
                extraData := some (), inlined := false } := by rfl

/-- the left child missing from the heap: `SlabNotFoundError` after the right child was popped and removed; the handle
    still has the OLD root (`Sl_Array_PopIterate_notFound_at`) and nothing is stored -/
example : (TransSl.Array_PopIterate (envH 256) 1 (trArrH exRouteArr
        ⟨fun id => if id = ⟨1, 2⟩ then none else heapOf 1 exMeta id, ⟨7, [], []⟩⟩) []).map
      (fun r => (r.1, r.2.1.root, r.2.1.Storage.ctx.eff, r.2.1.Storage.heap ⟨1, 1⟩, r.2.1.Storage.heap ⟨1, 3⟩,
        r.2.2.length)) =
    some (some .slabNotFound, some (trTree 1 exMeta), [.remove ⟨1, 3⟩], some (trTree 1 exMeta), none, 4) := by rfl

/-- an INLINED root data slab: nothing is stored, no effect; the new slab keeps `inlined`, prefix size 17 -/
private def exInl : Arr :=
  ⟨0, ({ hdr := ⟨⟨1, 1⟩, 17 + 100, 2⟩, next := SlabID.undef, elems := [⟨50, .val 1⟩, ⟨50, .val 2⟩], root := true,
         inlined := true } : DataSlab), 7⟩

example : (TransSl.Array_PopIterate (envH 256) 0 (trArrH exInl ⟨heapOf 0 exInl.root, ⟨7, [], []⟩⟩) []).map
      (fun r => (r.1, r.2.1.root, r.2.1.Storage.ctx.eff, r.2.1.Storage.heap ⟨1, 1⟩, r.2.2)) =
    some (none, some (trTree 0 (popRoot exInl)), [], some (trTree 0 exInl.root),
      [some ⟨50, .val 2⟩, some ⟨50, .val 1⟩]) := by rfl

example : (exInl.popIterate ⟨7, [], []⟩).2.2.eff = [] ∧ (popRoot exInl).hdr.size = 17 ∧
    (popRoot exInl).inlined = true := ⟨rfl, rfl, rfl⟩

/-- `hroot` is NEEDED: a root data slab that is NOT marked as root (no extra data).  The generated code copies the old
    extra data (`nil`) into the new root slab, the model's new root has `root := true` (extra data present). -/
private def exNotRoot : Arr :=
  ⟨0, ({ hdr := ⟨⟨1, 1⟩, 21 + 50, 1⟩, next := SlabID.undef, elems := [⟨50, .val 1⟩], root := false,
         inlined := false } : DataSlab), 7⟩

example : (TransSl.Array_PopIterate (envH 256) 0 (trArrH exNotRoot ⟨heapOf 0 exNotRoot.root, ⟨7, [], []⟩⟩) []).map
      (fun r => r.2.1.root) =
    some (some (.dataSlab { next := SlabID.undef, header := { slabID := ⟨1, 1⟩, size := 5, count := 0 },
                            elements := [], extraData := none, inlined := false })) ∧
    (trData (popRoot exNotRoot)).extraData = some () ∧
    Holds (heapOf 0 exNotRoot.root) 0 exNotRoot.root := ⟨by rfl, rfl, by simp [Holds, heapOf]⟩
end

end Atree.TransEq

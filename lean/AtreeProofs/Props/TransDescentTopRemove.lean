import AtreeProofs.Props.TransDescentRemove
import AtreeProofs.Props.TransDescentRoot
import AtreeProofs.Array.Top
/-
  TRANSLATION EQUIVALENCE, the array descent: `Array.remove` at the TOP LEVEL over a heap.

  The generated `Array_remove` (Gen/TransSlabs.lean) calls `Remove` of the root slab through dynamic dispatch
  (`Sl_ArraySlab_Remove_heap_full`, Props/TransDescentRemove.lean), then runs the root fix-up `genPromote`
  (`gen_remove_ok`; `genPromote_heap`, Props/TransDescentRoot.lean: an index root left with one child is replaced by that
  child) and the join point `Array_remove.k1` (`decrementIndexFrom`, `notifyParentIfNeeded`: the identity of `envH`).
  `Remove` creates no identifier, so the premise of `genPromote_heap` about new identifiers holds trivially.
  `HeapPost.promote`: the heap after `promoteChildAsNewRoot` in the form with the slabs of the new tree among those of
  the old one.
-/
set_option linter.unusedVariables false
namespace Atree.TransEq
open Atree Atree.Gen

section gen
variable (T : Nat)

/-- the join point over `envH`: nothing happens -/
theorem Sl_Array_remove_k1_envH (a : HArray) (i : UInt64) (st : Option Elem) (err : Option AErr) :
    TransSl.Array_remove.k1 (envH T) a i st err = some (st, none, a) := rfl

/-- `Remove` of the root returned an error: it is passed on -/
theorem gen_remove_err (depth : Nat) (s s' : HSt) (p p' : GSlab) (i : UInt64) (e : AErr)
    (h : TransSl.ArraySlab_Remove (envH T) (TransSl.ArrayMetaDataSlab_Remove (envH T) depth) p s i =
      some (none, some e, p', s')) :
    TransSl.Array_remove (envH T) depth ({ Storage := s, root := some p } : HArray) i =
      some (none, some e, { Storage := s', root := some p' }) := by
  simp only [TransSl.Array_remove, h, Option.isSome_some, if_true]

/-- `Remove` of the root succeeded: the root fix-up, then the join point (the identity over `envH`) -/
theorem gen_remove_ok (depth : Nat) (s s' : HSt) (p p' : GSlab) (i : UInt64) (v : Option Elem)
    (h : TransSl.ArraySlab_Remove (envH T) (TransSl.ArrayMetaDataSlab_Remove (envH T) depth) p s i =
      some (v, none, p', s')) :
    TransSl.Array_remove (envH T) depth ({ Storage := s, root := some p } : HArray) i =
      match genPromote (envH T) ({ Storage := s', root := some p' } : HArray) with
      | some r => if r.1.isSome then some (none, r.1, r.2) else some (v, none, r.2)
      | none => none := by
  simp only [TransSl.Array_remove, h, Option.isSome_none, Bool.false_eq_true, if_false, genPromote,
    Sl_Array_remove_k1_envH]
  rcases p' with p' | p'
  · rfl
  · simp only [TransSl.ArraySlab_IsData, TransSl.ArrayMetaDataSlab_IsData, Bool.not_false, if_true]
    cases decide ((Int.ofNat p'.childrenHeaders.length) = (1 : Int))
    · rfl
    · simp only [if_true]
      cases TransSl.goIdx p'.childrenHeaders (0 : Int) with
      | none => rfl
      | some e =>
        dsimp only
        cases TransSl.Array_promoteChildAsNewRoot (envH T) { Storage := s', root := some (.metaSlab p') } e.slabID <;> rfl

end gen

section heap
open MetaSlab ATree

theorem promoteChild1_eq_adjProm : ∀ (d : Nat) (t : ATree d), promoteChild1 d t = adjProm d t
  | 0, _ => rfl
  | _ + 1, _ => rfl

/-- the promoted child -/
def promoted (d : Nat) (child : ATree d) (rid : SlabID) : ATree d :=
  setRoot d (setId d (promoteChild1 d child) rid) true

/-- **the heap after the descent and `promoteChildAsNewRoot`**: `t` became the index slab `m'` with the single child
    `child` (heap `h1`), the promoted child was stored under the root identifier and the child's identifier removed -/
theorem HeapPost.promote {h h1 : SlabID → Option GSlab} {s1 : HSt} {d0 d : Nat} {t : ATree d0}
    {m' : MetaSlab (ATree d)} {child : ATree d} (hs1 : s1.heap = h1)
    (hpost : @HeapPost h h1 d0 (d + 1) t m') (hsub : ∀ id ∈ slabIds (d + 1) (ofMeta m'), id ∈ slabIds d0 t)
    (hkids : m'.children = [child]) (hnd : (slabIds (d + 1) (ofMeta m')).Nodup) :
    HeapPost h
      ((s1.store m'.hdr.id (some (trTree d (promoted d child m'.hdr.id)))).remove (hdr d child).id).heap
      t (promoted d child m'.hdr.id) := by
  obtain ⟨n1, n2, n3⟩ := promoted_struct d child m'.hdr.id
  exact hpost.trans (promote_heapPost m' child _ h1 _ hkids hnd n1 n2 n3
    (fun id => by simp only [HSt.remove_heap, HSt.store_heap, hs1]) hpost.holds.2)
    (fun id hid hn _ => absurd (hsub id hid) hn)

end heap

section top
open MetaSlab ATree

/-- `promoteIfSingleChild` keeps the depth or takes one level off -/
theorem promote_d (a : Arr) (c : Ctx) :
    (a.promoteIfSingleChild c).1.d ≤ a.d ∧ a.d ≤ (a.promoteIfSingleChild c).1.d + 1 := by
  rcases Arr.promote_cases a c with h | ⟨d, m, h, child, t', ha, -, -, hp, -⟩
  · rw [h]; exact ⟨Nat.le_refl _, Nat.le_succ _⟩
  · rw [hp, congrArg Arr.d ha]; exact ⟨Nat.le_succ _, Nat.le_refl _⟩

/-- the depth after `Arr.remove`: the same, or one less (the root was left with one child, which became the root) -/
theorem Arr.remove_d (T : Nat) (a : Arr) (i : Nat) (c : Ctx) (v : Elem) (a' : Arr) (c' : Ctx)
    (h : a.remove T i c = .ok (v, a', c')) : a'.d ≤ a.d ∧ a.d ≤ a'.d + 1 := by
  unfold Arr.remove at h
  cases hr : ATree.remove T a.d a.root i c with
  | error e => rw [hr] at h; cases h
  | ok res =>
    obtain ⟨v1, t1, c1⟩ := res
    rw [hr] at h
    have h : Except.ok (v1, ((⟨a.d, t1, a.ty⟩ : Arr).promoteIfSingleChild c1).1,
        ((⟨a.d, t1, a.ty⟩ : Arr).promoteIfSingleChild c1).2) = Except.ok (v, a', c') := h
    simp only [Except.ok.injEq, Prod.mk.injEq] at h
    rw [← h.2.1]
    exact promote_d ⟨a.d, t1, a.ty⟩ c1

/-- **`Array.remove(index)` over a heap**; no identifier is new (every slab of the new tree sits under an identifier
    of the old tree) -/
theorem Sl_Array_remove_heap_tree (T : Nat) (hT : legalThreshold T = true) (a : Arr) (i : Nat) (s : HSt) (depth : Nat)
    (hd : a.d ≤ depth) (hinv : TreeInv T a.d true a.root) (hni : NotInl a.d a.root)
    (hids : IdsOk a.addr s.ctx.ctr (slabIds a.d a.root)) (hcnt : a.count < 2^32) (hi : i < 2^64)
    (hh : Holds s.heap a.d a.root) :
    match a.remove T i s.ctx with
    | .ok (v, a', c') => ∃ s',
        TransSl.Array_remove (envH T) depth (trArrH a s) (u64 i) = some (some v, none, trArrH a' s') ∧ s'.ctx = c' ∧
        HeapPost s.heap s'.heap a.root a'.root ∧ ∀ id ∈ slabIds a'.d a'.root, id ∈ slabIds a.d a.root
    | .error e => e = .indexOutOfBounds ∧
        TransSl.Array_remove (envH T) depth (trArrH a s) (u64 i) = some (none, some .indexOutOfBounds, trArrH a s) := by
  obtain ⟨d, t, ty⟩ := a
  have hinv : TreeInv T d true t := hinv
  have hni : NotInl d t := hni
  have hd : d ≤ depth := hd
  have hcnt : (hdr d t).count < 2^32 := hcnt
  have hh : Holds s.heap d t := hh
  have hdesc := Sl_ArraySlab_Remove_heap_full T hT d t true i s depth (hdr d t).id.addr hd hinv hni hids hcnt hi hh
  by_cases hlt : i < (flatten d t).length
  · obtain ⟨t', c1, hrem, hstep, hflat, hcnt1, hsz1, hsz2, hsz3⟩ := remove_gen hT d t true i s.ctx hinv hni hlt
    rw [hrem] at hdesc
    obtain ⟨s1, hgen, hctx1, hpost1, hsub1⟩ := hdesc
    subst hctx1
    have hids1 : IdsOk (hdr d t).id.addr s1.ctx.ctr (slabIds d t') := repl_single_ids hstep.repl _ hids
    have hunf : Arr.remove T ⟨d, t, ty⟩ i s.ctx =
        .ok ((flatten d t).getD i default, ((⟨d, t', ty⟩ : Arr).promoteIfSingleChild s1.ctx).1,
            ((⟨d, t', ty⟩ : Arr).promoteIfSingleChild s1.ctx).2) := by
      unfold Arr.remove
      show (ATree.remove T d t i s.ctx >>= _) = _
      rw [hrem]; rfl
    rw [hunf]
    obtain ⟨s2, hk, hc2, hpost, hsub2⟩ := genPromote_heap T d t' ty s1 _ hstep.shape hids1 hpost1.holds
    refine ⟨s2, ?_, hc2, hpost t s.heap hpost1 (fun id hid hn => absurd (hsub1 id hid) hn),
      fun id hid => hsub1 id (hsub2 id hid)⟩
    rw [show trArrH ⟨d, t, ty⟩ s = ({ Storage := s, root := some (trTree d t) } : HArray) from rfl,
      gen_remove_ok T depth s s1 _ _ _ _ hgen,
      show genPromote (envH T) ({ Storage := s1, root := some (trTree d t') } : HArray) = _ from hk]
    rfl
  · have herr := remove_err_gen (T := T) d t true i s.ctx (hinv.shape hni) (by omega)
    rw [herr] at hdesc
    have hunf : Arr.remove T ⟨d, t, ty⟩ i s.ctx = .error .indexOutOfBounds := by
      unfold Arr.remove
      show (ATree.remove T d t i s.ctx >>= _) = _
      rw [herr]; rfl
    rw [hunf]
    exact ⟨rfl, gen_remove_err T depth s s _ _ _ _ hdesc.2⟩

/-- `Sl_Array_remove_heap_tree` under a hypothesis it does not need (`RemPath`) -/
theorem Sl_Array_remove_heap_ids (T : Nat) (hT : legalThreshold T = true) (a : Arr) (i : Nat) (s : HSt) (depth : Nat)
    (hd : a.d ≤ depth) (hinv : TreeInv T a.d true a.root) (hni : NotInl a.d a.root)
    (hids : IdsOk a.addr s.ctx.ctr (slabIds a.d a.root)) (hcnt : a.count < 2^32) (hi : i < 2^64)
    (hh : Holds s.heap a.d a.root) (htail : RemPath T a.addr a.d a.root i s.ctx) :
    match a.remove T i s.ctx with
    | .ok (v, a', c') => ∃ s',
        TransSl.Array_remove (envH T) depth (trArrH a s) (u64 i) = some (some v, none, trArrH a' s') ∧ s'.ctx = c' ∧
        HeapPost s.heap s'.heap a.root a'.root ∧ ∀ id ∈ slabIds a'.d a'.root, id ∈ slabIds a.d a.root
    | .error e => e = .indexOutOfBounds ∧
        TransSl.Array_remove (envH T) depth (trArrH a s) (u64 i) = some (none, some .indexOutOfBounds, trArrH a s) :=
  Sl_Array_remove_heap_tree T hT a i s depth hd hinv hni hids hcnt hi hh

/-- **`Array.remove(index)` over a heap** (`Sl_Array_remove_heap_tree` without its last clause, under a hypothesis it
    does not need: `RemPath`).  On the handle
    of a model array whose tree the heap holds (`TreeInv` as a root, identifiers `IdsOk` below the allocation counter,
    not inlined, fewer than 2^32 elements, a depth argument that covers the tree), at every `uint64` index, the
    generated `Array_remove` returns what the model's `Arr.remove` returns: the removed element, the handle of the
    model's new array (`trArrH`: after a merge that left the root index slab with ONE child that child has become the
    root - one level less), the model's `Ctx`; the heap holds the new tree, the slabs that left the tree are gone (the
    promoted child's old identifier included), nothing else is touched (`HeapPost`).  Past the end:
    `IndexOutOfBoundsError` in both, nothing touched.  No other error is possible. -/
theorem Sl_Array_remove_heap (T : Nat) (hT : legalThreshold T = true) (a : Arr) (i : Nat) (s : HSt) (depth : Nat)
    (hd : a.d ≤ depth) (hinv : TreeInv T a.d true a.root) (hni : NotInl a.d a.root)
    (hids : IdsOk a.addr s.ctx.ctr (slabIds a.d a.root)) (hcnt : a.count < 2^32) (hi : i < 2^64)
    (hh : Holds s.heap a.d a.root) (htail : RemPath T a.addr a.d a.root i s.ctx) :
    match a.remove T i s.ctx with
    | .ok (v, a', c') => ∃ s',
        TransSl.Array_remove (envH T) depth (trArrH a s) (u64 i) = some (some v, none, trArrH a' s') ∧ s'.ctx = c' ∧
        HeapPost s.heap s'.heap a.root a'.root
    | .error e => e = .indexOutOfBounds ∧
        TransSl.Array_remove (envH T) depth (trArrH a s) (u64 i) = some (none, some .indexOutOfBounds, trArrH a s) := by
  have h := Sl_Array_remove_heap_tree T hT a i s depth hd hinv hni hids hcnt hi hh
  cases hr : a.remove T i s.ctx with
  | error e => rw [hr] at h; exact h
  | ok res =>
    obtain ⟨v, a', c'⟩ := res
    rw [hr] at h
    obtain ⟨s', h1, h2, h3, _⟩ := h
    exact ⟨s', h1, h2, h3⟩

/-- `Sl_Array_remove_heap` under a hypothesis it does not need, and which is FALSE at T = 256 (`RemTailHyp`:
    `remTailHyp_false`, Props/TransDescentRemoveFull.lean) -/
theorem Sl_Array_remove_heap_of_tail (T : Nat) (hT : legalThreshold T = true) (htail : RemTailHyp T) (a : Arr) (i : Nat)
    (s : HSt) (depth : Nat) (hd : a.d ≤ depth) (hinv : TreeInv T a.d true a.root) (hni : NotInl a.d a.root)
    (hids : IdsOk a.addr s.ctx.ctr (slabIds a.d a.root)) (hcnt : a.count < 2^32) (hi : i < 2^64)
    (hh : Holds s.heap a.d a.root) :
    match a.remove T i s.ctx with
    | .ok (v, a', c') => ∃ s',
        TransSl.Array_remove (envH T) depth (trArrH a s) (u64 i) = some (some v, none, trArrH a' s') ∧ s'.ctx = c' ∧
        HeapPost s.heap s'.heap a.root a'.root
    | .error e => e = .indexOutOfBounds ∧
        TransSl.Array_remove (envH T) depth (trArrH a s) (u64 i) = some (none, some .indexOutOfBounds, trArrH a s) :=
  Sl_Array_remove_heap T hT a i s depth hd hinv hni hids hcnt hi hh (RemPath.of_hyp htail a.addr a.d a.root i s.ctx)

/-- `Sl_Array_remove_heap` under a hypothesis it does not need (`RemNoUnderflow`: no child on the path of the index
    underflows; then no merge happens and the root keeps its children) -/
theorem Sl_Array_remove_heap_noUnderflow (T : Nat) (hT : legalThreshold T = true) (a : Arr) (i : Nat)
    (s : HSt) (depth : Nat) (hd : a.d ≤ depth) (hinv : TreeInv T a.d true a.root) (hni : NotInl a.d a.root)
    (hids : IdsOk a.addr s.ctx.ctr (slabIds a.d a.root)) (hcnt : a.count < 2^32) (hi : i < 2^64)
    (hh : Holds s.heap a.d a.root) (hnu : RemNoUnderflow T a.d a.root i s.ctx) :
    match a.remove T i s.ctx with
    | .ok (v, a', c') => ∃ s',
        TransSl.Array_remove (envH T) depth (trArrH a s) (u64 i) = some (some v, none, trArrH a' s') ∧ s'.ctx = c' ∧
        HeapPost s.heap s'.heap a.root a'.root
    | .error e => e = .indexOutOfBounds ∧
        TransSl.Array_remove (envH T) depth (trArrH a s) (u64 i) = some (none, some .indexOutOfBounds, trArrH a s) :=
  Sl_Array_remove_heap T hT a i s depth hd hinv hni hids hcnt hi hh
    (RemPath.of_noUnderflow a.addr a.d a.root i s.ctx hnu)

/-- an array that is one root data slab -/
theorem Sl_Array_remove_heap_data (T : Nat) (hT : legalThreshold T = true) (a : Arr) (i : Nat)
    (s : HSt) (depth : Nat) (h0 : a.d = 0) (hinv : TreeInv T a.d true a.root) (hni : NotInl a.d a.root)
    (hids : IdsOk a.addr s.ctx.ctr (slabIds a.d a.root)) (hcnt : a.count < 2^32) (hi : i < 2^64)
    (hh : Holds s.heap a.d a.root) :
    match a.remove T i s.ctx with
    | .ok (v, a', c') => ∃ s',
        TransSl.Array_remove (envH T) depth (trArrH a s) (u64 i) = some (some v, none, trArrH a' s') ∧ s'.ctx = c' ∧
        HeapPost s.heap s'.heap a.root a'.root
    | .error e => e = .indexOutOfBounds ∧
        TransSl.Array_remove (envH T) depth (trArrH a s) (u64 i) = some (none, some .indexOutOfBounds, trArrH a s) := by
  obtain ⟨d, t, ty⟩ := a
  have h0 : d = 0 := h0
  subst h0
  exact Sl_Array_remove_heap T hT ⟨0, t, ty⟩ i s depth (Nat.zero_le _) hinv hni hids hcnt hi hh trivial

/-- **`Array.remove` over a heap = `Arr.remove` on the embedded tree** (any depth; rebalance, merge at every level,
    promotion of a single child to root): an index inside the array returns the removed element, the new handle, the
    model's `Ctx`, a heap that holds the new tree (no identifier is new) - and everything needed to run the next
    operation; an index past the end returns `IndexOutOfBoundsError`, nothing touched -/
theorem Sl_Array_remove_heap_full (T : Nat) (hT : legalThreshold T = true) (a : Arr) (i : Nat) (s : HSt) (depth : Nat)
    (hd : a.d ≤ depth) (hinv : ArrInv T a s.ctx.ctr) (hi : i < 2^64) (hh : Holds s.heap a.d a.root) :
    (i < a.toList.length → ∃ a' s',
      TransSl.Array_remove (envH T) depth (trArrH a s) (u64 i) =
        some (some (a.toList.getD i default), none, trArrH a' s') ∧
      a.remove T i s.ctx = .ok (a.toList.getD i default, a', s'.ctx) ∧
      HeapPost s.heap s'.heap a.root a'.root ∧
      (∀ id ∈ ATree.slabIds a'.d a'.root, id ∈ ATree.slabIds a.d a.root) ∧
      a'.d ≤ a.d ∧ ArrInv T a' s'.ctx.ctr ∧ a'.toList = a.toList.eraseIdx i ∧ a'.rootID = a.rootID ∧ a'.ty = a.ty) ∧
    (a.toList.length ≤ i →
      TransSl.Array_remove (envH T) depth (trArrH a s) (u64 i) = some (none, some .indexOutOfBounds, trArrH a s)) := by
  have hni : NotInl a.d a.root := by
    obtain ⟨d, t, ty⟩ := a; exact hinv.notInl
  have hcnt : a.count < 2^32 := by
    have := hinv.count_lt
    simp only [maxArrayElementCount] at this
    omega
  have hmain := Sl_Array_remove_heap_tree T hT a i s depth hd hinv.tree hni hinv.ids hcnt hi hh
  refine ⟨fun hlt => ?_, fun hge => ?_⟩
  · obtain ⟨a', c', hrem, hinv', hl, hid, hty⟩ := arr_remove_ok hT a s.ctx i hinv hlt
    rw [hrem] at hmain
    obtain ⟨s', h1, h2, h3, h4⟩ := hmain
    subst h2
    exact ⟨a', s', h1, hrem, h3, h4, (Arr.remove_d T a i s.ctx _ a' _ hrem).1, hinv', hl, hid, hty⟩
  · rw [arr_remove_err a s.ctx i hinv hge] at hmain
    exact hmain.2

/-- **from the array invariant `ArrInv`** (C05; it contains `count ≤ 2^32 - 1`), with what the model theorem
    `arr_remove_ok` says about the result: inside the array the generated code returns element `i` of the sequence, the
    handle of an array that satisfies `ArrInv` again (so the next operation can run on it) and represents the sequence
    without element `i`; past the end `IndexOutOfBoundsError`. -/
theorem Sl_Array_remove_heap_arrInv (T : Nat) (hT : legalThreshold T = true) (a : Arr) (i : Nat)
    (s : HSt) (depth : Nat) (hd : a.d ≤ depth) (hinv : ArrInv T a s.ctx.ctr) (hi : i < 2^64)
    (hh : Holds s.heap a.d a.root) (htail : RemPath T a.addr a.d a.root i s.ctx) :
    (i < a.toList.length → ∃ a' s',
      TransSl.Array_remove (envH T) depth (trArrH a s) (u64 i) =
        some (some (a.toList.getD i default), none, trArrH a' s') ∧
      a.remove T i s.ctx = .ok (a.toList.getD i default, a', s'.ctx) ∧
      HeapPost s.heap s'.heap a.root a'.root ∧ (∀ id ∈ slabIds a'.d a'.root, id ∈ slabIds a.d a.root) ∧
      a'.d ≤ a.d ∧ ArrInv T a' s'.ctx.ctr ∧ a'.toList = a.toList.eraseIdx i ∧ a'.rootID = a.rootID ∧ a'.ty = a.ty) ∧
    (a.toList.length ≤ i →
      TransSl.Array_remove (envH T) depth (trArrH a s) (u64 i) = some (none, some .indexOutOfBounds, trArrH a s)) :=
  Sl_Array_remove_heap_full T hT a i s depth hd hinv hi hh

end top

section examples
open MetaSlab ATree

/-- the array of `remExRoot` (Props/TransDescentRemove.lean): a root index slab `(1,1)` over two leaves of 3 elements
    of 60 bytes -/
def topRemEx : Arr := ⟨1, remExRoot, 7⟩

/-- the hypotheses of `Sl_Array_remove_heap_noUnderflow` (hence of `Sl_Array_remove_heap`) are satisfiable: the array
    above, its heap, index 4 (no underflow, the root keeps two children) -/
example := Sl_Array_remove_heap_noUnderflow 256 (by decide) topRemEx 4 remExSt 1 (Nat.le_refl _) remExRoot_inv trivial
    (by
      refine ⟨by decide, ?_⟩
      intro id hid
      have e : slabIds topRemEx.d topRemEx.root = [⟨1, 1⟩, ⟨1, 2⟩, ⟨1, 3⟩] := rfl
      rw [e] at hid
      simp only [List.mem_cons, List.not_mem_nil, or_false] at hid
      rcases hid with rfl | rfl | rfl <;> decide)
    (by decide) (by decide)
    (by
      refine ⟨rfl, ?_⟩
      intro c hc
      rcases remExRoot_kids c hc with rfl | rfl <;> rfl)
    (by
      intro k adj child v child' c1 h1 h2 h3
      have h1 : remExRoot.childSlabIndexInfo 4 = .ok (k, adj) := h1
      have h2 : remExRoot.children[k]? = some child := h2
      have e : remExRoot.childSlabIndexInfo 4 = .ok (1, 1) := by rfl
      rw [e] at h1
      cases h1
      have e2 : remExRoot.children[1]? = some (remExLeaf 3 3) := rfl
      have hc : child = remExLeaf 3 3 := Option.some.inj (h2.symm.trans e2)
      subst hc
      cases h3
      exact ⟨trivial, by decide⟩)

/-- the generated `Array_remove` evaluated on that heap: the model's element, handle, `Ctx`; heap at the three slabs -/
example :
    (TransSl.Array_remove (envH 256) 1 (trArrH topRemEx remExSt) 4).map
      (fun r => (r.1, r.2.1, r.2.2.root, r.2.2.Storage.ctx,
        [r.2.2.Storage.heap ⟨1, 1⟩, r.2.2.Storage.heap ⟨1, 2⟩, r.2.2.Storage.heap ⟨1, 3⟩])) =
    (match topRemEx.remove 256 4 remExSt.ctx with
     | .ok (v, a', c') => some (some v, none, some (trTree a'.d a'.root), c',
         [heapOf a'.d a'.root ⟨1, 1⟩, heapOf a'.d a'.root ⟨1, 2⟩, heapOf a'.d a'.root ⟨1, 3⟩])
     | .error _ => none) := by rfl

/-- two small leaves (100 + 60 and 60 + 60 bytes): removing element 0 makes the first leaf underflow, the sibling
    cannot lend: merge, and the root is left with ONE child, which is promoted (depth 1 -> 0) -/
def topRemLeafA : DataSlab :=
  { hdr := ⟨⟨1, 2⟩, 21 + 160, 2⟩, next := ⟨1, 3⟩, elems := [⟨100, .val 0⟩, ⟨60, .val 1⟩], root := false,
    inlined := false }
def topRemLeafB : DataSlab :=
  { hdr := ⟨⟨1, 3⟩, 21 + 120, 2⟩, next := SlabID.undef, elems := [⟨60, .val 10⟩, ⟨60, .val 11⟩], root := false,
    inlined := false }
def topRemEx2 : Arr :=
  ⟨1, ({ hdr := ⟨⟨1, 1⟩, 40, 4⟩, childHdrs := [topRemLeafA.hdr, topRemLeafB.hdr], countSum := [2, 4],
         children := [topRemLeafA, topRemLeafB], root := true } : MetaSlab (ATree 0)), 7⟩
def topRemSt2 : HSt := ⟨heapOf topRemEx2.d topRemEx2.root, ⟨5, [], []⟩⟩

/-- the promote branch of the generated `Array_remove`, evaluated: the model's element, the handle of the model's new
    array (a root DATA slab under `(1,1)`), the model's `Ctx`; the heap holds the new root under `(1,1)`, the
    identifiers `(1,2)` (the promoted child's old identifier) and `(1,3)` (merged away) are gone -/
example :
    (TransSl.Array_remove (envH 256) 1 (trArrH topRemEx2 topRemSt2) 0).map
      (fun r => (r.1, r.2.1, r.2.2.root, r.2.2.Storage.ctx,
        [r.2.2.Storage.heap ⟨1, 1⟩, r.2.2.Storage.heap ⟨1, 2⟩, r.2.2.Storage.heap ⟨1, 3⟩])) =
    (match topRemEx2.remove 256 0 topRemSt2.ctx with
     | .ok (v, a', c') => some (some v, none, some (trTree a'.d a'.root), c',
         [heapOf a'.d a'.root ⟨1, 1⟩, none, none])
     | .error _ => none) := by rfl

example : (topRemEx2.remove 256 0 topRemSt2.ctx).toOption.map (fun r => (r.1, r.2.1.d, r.2.2.eff)) =
    some (⟨100, .val 0⟩, 0,
      [.store ⟨1, 2⟩, .store ⟨1, 2⟩, .store ⟨1, 1⟩, .remove ⟨1, 3⟩, .store ⟨1, 1⟩, .store ⟨1, 1⟩, .remove ⟨1, 2⟩]) := by
  rfl

/-- past the end -/
example : TransSl.Array_remove (envH 256) 1 (trArrH topRemEx remExSt) 6 =
    some (none, some .indexOutOfBounds, trArrH topRemEx remExSt) := by rfl

/-- the depth argument does not cover the tree: the generated code leaves the modelled fragment (`none`) -/
example : TransSl.Array_remove (envH 256) 0 (trArrH topRemEx remExSt) 4 = none := by rfl

end examples

end Atree.TransEq

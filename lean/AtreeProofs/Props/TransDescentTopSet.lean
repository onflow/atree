import AtreeProofs.Props.TransDescentSet
import AtreeProofs.Props.TransDescentRoute
import AtreeProofs.Props.TransDescentTopInsert
import AtreeProofs.Array.Top
/-
  TRANSLATION EQUIVALENCE, the array descent: `Array.set` at the TOP LEVEL over the heap environment `envH T`
  (Trans/Descent.lean).

  `Array.set` is `ArraySlab.Set` on the root (`Sl_ArraySlab_Set_heap_full`, Props/TransDescentSet.lean), `splitRoot` if
  the root became full (`Sl_Array_splitRoot_heap_full`, Props/TransDescentTopInsert.lean), and the join point
  `Array_set.k1`, which is the root fix-up `genPromote` (`Array_set_k1_envH`, `genPromote_heap`,
  Props/TransDescentRoot.lean).  The root built by `splitRoot` has two children, so the promotion cannot fire right
  after a root split (`topSet_splitRoot_two`).  The premise of `genPromote_heap` about new identifiers is supplied from
  `FreshFree` + `Repl.ids` of the descent.  `FreshFree.after_arr_set`: the hypotheses are re-established, so calls can
  be chained.
-/
set_option linter.unusedVariables false
namespace Atree.TransEq
open Atree Atree.Gen

/-- `Array.set` in terms of the result of `ArraySlab.Set` on the root: error / root full -> `splitRoot` then the join
    point / the join point -/
theorem topSet_descent (T : Nat) (a : Arr) (s : HSt) (depth : Nat) (i : UInt64) (v : Option Elem)
    (r : Option Elem × Option AErr × GSlab × HSt)
    (hgen : TransSl.ArraySlab_Set (envH T) (TransSl.ArrayMetaDataSlab_Set (envH T) depth) (trTree a.d a.root) s
      a.addr i v = some r) :
    TransSl.Array_set (envH T) depth (trArrH a s) i v =
      if r.2.1.isSome then some (none, r.2.1, ({ Storage := r.2.2.2, root := some r.2.2.1 } : HArray))
      else if TransSl.ArraySlab_IsFull (envH T) r.2.2.1 then
        match TransSl.Array_splitRoot (envH T) ({ Storage := r.2.2.2, root := some r.2.2.1 } : HArray) with
        | some r5 =>
          if r5.1.isSome then some (none, r5.1, r5.2) else TransSl.Array_set.k1 (envH T) r5.2 i v r.1 r5.1
        | none => none
      else TransSl.Array_set.k1 (envH T) ({ Storage := r.2.2.2, root := some r.2.2.1 } : HArray) i v r.1 r.2.1 := by
  simp only [TransSl.Array_set, trArrH_root, Sl_Array_Address_heap, trArrH_Storage, hgen]
  by_cases h1 : r.2.1.isSome = true
  · simp only [h1, if_true]
  · simp only [h1, Bool.false_eq_true, if_false]
    by_cases h2 : TransSl.ArraySlab_IsFull (envH T) r.2.2.1 = true
    · simp only [h2, if_true]
      cases TransSl.Array_splitRoot (envH T) ({ Storage := r.2.2.2, root := some r.2.2.1 } : HArray) <;> rfl
    · simp only [h2, Bool.false_eq_true, if_false]

/-- `Arr.set` in terms of its parts -/
theorem topSet_unfold (T : Nat) (a : Arr) (i : Nat) (v : Elem) (c : Ctx) :
    a.set T i v c =
      match ATree.set T a.d a.root i v c with
      | .error e => .error e
      | .ok (old, t', c1) =>
        if ATree.isFull T a.d t' = true then
          match Arr.splitRoot ⟨a.d, t', a.ty⟩ c1 with
          | .error e => .error e
          | .ok (a2, c2) => .ok (old, (a2.promoteIfSingleChild c2).1, (a2.promoteIfSingleChild c2).2)
        else .ok (old, ((⟨a.d, t', a.ty⟩ : Arr).promoteIfSingleChild c1).1,
          ((⟨a.d, t', a.ty⟩ : Arr).promoteIfSingleChild c1).2) := by
  unfold Arr.set
  cases ATree.set T a.d a.root i v c with
  | error e => rfl
  | ok res =>
    obtain ⟨old, t', c1⟩ := res
    by_cases hfull : ATree.isFull T a.d t' = true
    · simp only [bind, Except.bind, hfull, if_true]
      cases Arr.splitRoot ⟨a.d, t', a.ty⟩ c1 with
      | error e => rfl
      | ok p => rfl
    · simp only [bind, Except.bind, hfull, Bool.false_eq_true, if_false]; rfl

/-- the root built by `splitRoot` has two children -/
theorem topSet_splitRoot_two (d : Nat) (t : ATree d) (ty : Nat) (c : Ctx) (new : MetaSlab (ATree d)) (c2 : Ctx)
    (h : Arr.splitRoot ⟨d, t, ty⟩ c = .ok (⟨d + 1, ofMeta new, ty⟩, c2)) :
    new.childHdrs.length = 2 ∧ new.children.length = 2 := by
  obtain ⟨l, r, e, -⟩ := Arr.splitRoot_inv h
  simp only [Arr.mk.injEq, heq_eq_eq, true_and, and_true] at e
  have e : new = mkRoot (ATree.hdr d t).id l r := e
  subst e
  exact ⟨rfl, rfl⟩

section top
open ATree MetaSlab

/-- **`Array.set` over a heap**.  On the handle of a model
    array `a` whose tree the heap holds (`Holds`, `TreeInv`, identifiers below the counter, nothing stored above the
    counter), with a depth argument that covers the tree: the generated `Array.set` returns the old element and the
    handle of the model's `Arr.set` (descent, root split if the new root is full, promotion if the root index slab is
    left with one child), the `Ctx` is the model's and the heap satisfies `HeapPost` w.r.t. the old and the new root.
    Past the end: `IndexOutOfBoundsError`, nothing was touched. -/
theorem Sl_Array_set_heap_tree (T : Nat) (hT : legalThreshold T = true) (a : Arr) (i : Nat) (v : Elem) (s : HSt)
    (depth : Nat) (hd : a.d ≤ depth) (hinv : TreeInv T a.d true a.root) (hni : NotInl a.d a.root)
    (hids : IdsOk a.addr s.ctx.ctr (slabIds a.d a.root)) (hfree : FreshFree a.addr s) (hcnt : a.count < 2^32)
    (hv : ValueOk v) (hh : Holds s.heap a.d a.root) (hi : i < 2^64) :
    match a.set T i v s.ctx with
    | .ok (old, a', c') => ∃ s', TransSl.Array_set (envH T) depth (trArrH a s) (u64 i) (some v) =
          some (some old, none, trArrH a' s') ∧ s'.ctx = c' ∧ HeapPost s.heap s'.heap a.root a'.root
    | .error e => e = .indexOutOfBounds ∧
        TransSl.Array_set (envH T) depth (trArrH a s) (u64 i) (some v) =
          some (none, some .indexOutOfBounds, trArrH a s) := by
  have ht := thresholds_fit hT
  have hD := Sl_ArraySlab_Set_heap_full T hT a.d a.root true i v s depth a.addr hd hh hids hfree hinv hni hv hcnt hi
  rw [topSet_unfold]
  by_cases hlt : i < (flatten a.d a.root).length
  · obtain ⟨t', c1, hset, hstep, _, hcnt', hsz1, hsz2, hsz3⟩ :=
      set_gen hT a.d a.root true i v s.ctx hinv hni hv hlt
    rw [hset] at hD ⊢
    obtain ⟨s1, hg, hctx, hP⟩ := hD
    subst hctx
    have hszle : (hdr a.d t').size ≤ maxThr T + maxInlineArr T :=
      Nat.le_trans hsz1 (Nat.add_le_add_right hinv.le_max _)
    have hszlt : (hdr a.d t').size < 2^32 := size_lt_u32 hT hszle
    have hgen := topSet_descent T a s depth (u64 i) (some v) _ hg
    simp only [Option.isSome_none, Bool.false_eq_true, if_false, setH_IsFull T a.d t' hszlt ht.2.2.1] at hgen
    have hids' : IdsOk a.addr s1.ctx.ctr (slabIds a.d t') := repl_single_ids hstep.repl _ hids
    have hfr : ∀ id ∈ slabIds a.d t', id ∉ slabIds a.d a.root → s.heap id = none := by
      intro id hid' hnid
      have h1 := (hstep.repl.ids a.addr (by simpa using hids)).2 id (by simpa using hid')
      rcases h1 with h1 | h1
      · exact absurd (by simpa using h1) hnid
      · exact hfree id (hids'.2 id hid').1 h1
    by_cases hfull : ATree.isFull T a.d t' = true
    · have hlo := (isFull_iff T a.d t').1 hfull
      obtain ⟨new, s2, hmod, hsr, hpost⟩ := Sl_Array_splitRoot_heap_full T hT a.d t' a.ty s1 a.addr hstep.shape hlo
        hszle hids'
      obtain ⟨hl1, hl2⟩ := topSet_splitRoot_two a.d t' a.ty s1.ctx new s2.ctx hmod
      simp only [hfull, if_true]
      rw [hmod]
      simp only []
      rw [promote_not_single a.d new a.ty s2.ctx (by rw [hl2]; decide)]
      refine ⟨s2, ?_, rfl, hpost a.root s.heap hP⟩
      rw [hgen]
      simp only [hfull, if_true]
      have e : ({ Storage := s1, root := some (trTree a.d t') } : HArray) = trArrH ⟨a.d, t', a.ty⟩ s1 := rfl
      rw [e, hsr]
      simp only [Option.isSome_none, Bool.false_eq_true, if_false]
      rw [Array_set_k1_envH, show genPromote (envH T) (trArrH ⟨a.d + 1, ofMeta new, a.ty⟩ s2) = _ from
        genPromote_many T a.d new a.ty s2 (by rw [hl1]; decide)]
      rfl
    · simp only [hfull, Bool.false_eq_true, if_false]
      obtain ⟨s2, hk, hc2, hpost, _⟩ := genPromote_heap T a.d t' a.ty s1 a.addr hstep.shape hids' hP.holds
      refine ⟨s2, ?_, hc2, hpost a.root s.heap hP hfr⟩
      rw [hgen]
      simp only [hfull, Bool.false_eq_true, if_false]
      rw [Array_set_k1_envH, show genPromote (envH T) ({ Storage := s1, root := some (trTree a.d t') } : HArray) = _ from hk]
      rfl
  · have hset := set_err_gen (T := T) a.d a.root true i v s.ctx (hinv.shape hni) (Nat.le_of_not_lt hlt)
    rw [hset] at hD ⊢
    obtain ⟨_, hg⟩ := hD
    refine ⟨rfl, ?_⟩
    rw [topSet_descent T a s depth (u64 i) (some v) _ hg]
    rfl

/-- `Sl_Array_set_heap_tree` under a hypothesis it does not need (`SetTailsOn`, which holds of every tree) -/
theorem Sl_Array_set_heap (T : Nat) (hT : legalThreshold T = true) (a : Arr) (i : Nat) (v : Elem) (s : HSt)
    (depth : Nat) (hd : a.d ≤ depth) (hinv : TreeInv T a.d true a.root) (hni : NotInl a.d a.root)
    (hids : IdsOk a.addr s.ctx.ctr (slabIds a.d a.root)) (hfree : FreshFree a.addr s) (hcnt : a.count < 2^32)
    (hv : ValueOk v) (hh : Holds s.heap a.d a.root) (hi : i < 2^64)
    (htails : SetTailsOn T a.addr a.d a.root i v s.ctx) :
    match a.set T i v s.ctx with
    | .ok (old, a', c') => ∃ s', TransSl.Array_set (envH T) depth (trArrH a s) (u64 i) (some v) =
          some (some old, none, trArrH a' s') ∧ s'.ctx = c' ∧ HeapPost s.heap s'.heap a.root a'.root
    | .error e => e = .indexOutOfBounds ∧
        TransSl.Array_set (envH T) depth (trArrH a s) (u64 i) (some v) =
          some (none, some .indexOutOfBounds, trArrH a s) :=
  Sl_Array_set_heap_tree T hT a i v s depth hd hinv hni hids hfree hcnt hv hh hi

/-- `Sl_Array_set_heap_tree` under a hypothesis it does not need (`SplitTailHyp` and `MorTailHyp` at every depth below
    the tree's) -/
theorem Sl_Array_set_heap_of_tails (T : Nat) (hT : legalThreshold T = true) (a : Arr) (i : Nat) (v : Elem) (s : HSt)
    (depth : Nat) (hd : a.d ≤ depth) (hinv : TreeInv T a.d true a.root) (hni : NotInl a.d a.root)
    (hids : IdsOk a.addr s.ctx.ctr (slabIds a.d a.root)) (hfree : FreshFree a.addr s) (hcnt : a.count < 2^32)
    (hv : ValueOk v) (hh : Holds s.heap a.d a.root) (hi : i < 2^64)
    (htl : ∀ d', d' < a.d → SplitTailHyp T d' ∧ MorTailHyp T d') :
    match a.set T i v s.ctx with
    | .ok (old, a', c') => ∃ s', TransSl.Array_set (envH T) depth (trArrH a s) (u64 i) (some v) =
          some (some old, none, trArrH a' s') ∧ s'.ctx = c' ∧ HeapPost s.heap s'.heap a.root a'.root
    | .error e => e = .indexOutOfBounds ∧
        TransSl.Array_set (envH T) depth (trArrH a s) (u64 i) (some v) =
          some (none, some .indexOutOfBounds, trArrH a s) :=
  Sl_Array_set_heap_tree T hT a i v s depth hd hinv hni hids hfree hcnt hv hh hi

/-- `Sl_Array_set_heap_tree` under a hypothesis it does not need (`NoRestructure`: no child on the path becomes full
    or underflows; the ROOT may become full and be split) -/
theorem Sl_Array_set_heap_noRestructure (T : Nat) (hT : legalThreshold T = true) (a : Arr) (i : Nat) (v : Elem)
    (s : HSt) (depth : Nat) (hd : a.d ≤ depth) (hinv : TreeInv T a.d true a.root) (hni : NotInl a.d a.root)
    (hids : IdsOk a.addr s.ctx.ctr (slabIds a.d a.root)) (hfree : FreshFree a.addr s) (hcnt : a.count < 2^32)
    (hv : ValueOk v) (hh : Holds s.heap a.d a.root) (hi : i < 2^64)
    (hnr : NoRestructure T a.d a.root i v s.ctx) :
    match a.set T i v s.ctx with
    | .ok (old, a', c') => ∃ s', TransSl.Array_set (envH T) depth (trArrH a s) (u64 i) (some v) =
          some (some old, none, trArrH a' s') ∧ s'.ctx = c' ∧ HeapPost s.heap s'.heap a.root a'.root
    | .error e => e = .indexOutOfBounds ∧
        TransSl.Array_set (envH T) depth (trArrH a s) (u64 i) (some v) =
          some (none, some .indexOutOfBounds, trArrH a s) :=
  Sl_Array_set_heap_tree T hT a i v s depth hd hinv hni hids hfree hcnt hv hh hi

theorem topSet_arrInv_facts {T : Nat} {a : Arr} {ctr : Nat} (hinv : ArrInv T a ctr) :
    NotInl a.d a.root ∧ a.count < 2^32 := by
  refine ⟨by obtain ⟨d, t, ty⟩ := a; exact hinv.notInl, ?_⟩
  have := hinv.count_lt
  simp only [maxArrayElementCount] at this
  omega

/-- **`Array.set` over a heap = `Arr.set` on the embedded tree** (any depth; child split, rebalance, merge at every
    level, root split, promotion).  `FreshFree`: the storage holds nothing under identifiers beyond the allocation
    counter (what a real storage guarantees; it makes the frame clause of `HeapPost` meaningful for a slab that is
    allocated by a split further down and dropped by a merge higher up in the same operation). -/
theorem Sl_Array_set_heap_full (T : Nat) (hT : legalThreshold T = true) (a : Arr) (i : Nat) (v : Elem) (s : HSt)
    (depth : Nat) (hd : a.d ≤ depth) (hinv : ArrInv T a s.ctx.ctr) (hfree : FreshFree a.addr s)
    (hv : ValueOk v) (hh : Holds s.heap a.d a.root) (hi : i < 2^64) :
    match a.set T i v s.ctx with
    | .ok (old, a', c') => ∃ s', TransSl.Array_set (envH T) depth (trArrH a s) (u64 i) (some v) =
          some (some old, none, trArrH a' s') ∧ s'.ctx = c' ∧ HeapPost s.heap s'.heap a.root a'.root
    | .error e => e = .indexOutOfBounds ∧
        TransSl.Array_set (envH T) depth (trArrH a s) (u64 i) (some v) =
          some (none, some .indexOutOfBounds, trArrH a s) :=
  Sl_Array_set_heap_tree T hT a i v s depth hd hinv.tree (topSet_arrInv_facts hinv).1 hinv.ids hfree
    (topSet_arrInv_facts hinv).2 hv hh hi

/-- `Sl_Array_set_heap_full` (`Array.set` under the array invariant `ArrInv`) with a hypothesis it does not need
    (`SplitTailHyp` and `MorTailHyp` below the tree's depth) -/
theorem Sl_Array_set_heap_inv (T : Nat) (hT : legalThreshold T = true) (a : Arr) (i : Nat) (v : Elem) (s : HSt)
    (depth : Nat) (hd : a.d ≤ depth) (hinv : ArrInv T a s.ctx.ctr) (hfree : FreshFree a.addr s)
    (hv : ValueOk v) (hh : Holds s.heap a.d a.root) (hi : i < 2^64)
    (htl : ∀ d', d' < a.d → SplitTailHyp T d' ∧ MorTailHyp T d') :
    match a.set T i v s.ctx with
    | .ok (old, a', c') => ∃ s', TransSl.Array_set (envH T) depth (trArrH a s) (u64 i) (some v) =
          some (some old, none, trArrH a' s') ∧ s'.ctx = c' ∧ HeapPost s.heap s'.heap a.root a'.root
    | .error e => e = .indexOutOfBounds ∧
        TransSl.Array_set (envH T) depth (trArrH a s) (u64 i) (some v) =
          some (none, some .indexOutOfBounds, trArrH a s) :=
  Sl_Array_set_heap_full T hT a i v s depth hd hinv hfree hv hh hi

/-- `Sl_Array_set_heap_full` with a hypothesis it does not need (`NoRestructure`) -/
theorem Sl_Array_set_heap_inv_noRestructure (T : Nat) (hT : legalThreshold T = true) (a : Arr) (i : Nat) (v : Elem)
    (s : HSt) (depth : Nat) (hd : a.d ≤ depth) (hinv : ArrInv T a s.ctx.ctr) (hfree : FreshFree a.addr s)
    (hv : ValueOk v) (hh : Holds s.heap a.d a.root) (hi : i < 2^64)
    (hnr : NoRestructure T a.d a.root i v s.ctx) :
    match a.set T i v s.ctx with
    | .ok (old, a', c') => ∃ s', TransSl.Array_set (envH T) depth (trArrH a s) (u64 i) (some v) =
          some (some old, none, trArrH a' s') ∧ s'.ctx = c' ∧ HeapPost s.heap s'.heap a.root a'.root
    | .error e => e = .indexOutOfBounds ∧
        TransSl.Array_set (envH T) depth (trArrH a s) (u64 i) (some v) =
          some (none, some .indexOutOfBounds, trArrH a s) :=
  Sl_Array_set_heap_full T hT a i v s depth hd hinv hfree hv hh hi

/-- the hypotheses of the theorems above are re-established by a successful `Array.set`: the array invariant relative
    to the new counter, nothing stored above the new counter, the same owner address - so they can be chained -/
theorem FreshFree.after_arr_set {T : Nat} (hT : legalThreshold T = true) {a a' : Arr} {i : Nat} {v old : Elem}
    {s s' : HSt} {c' : Ctx} (hinv : ArrInv T a s.ctx.ctr) (hv : ValueOk v) (hfree : FreshFree a.addr s)
    (hset : a.set T i v s.ctx = .ok (old, a', c')) (hctx : s'.ctx = c')
    (hp : HeapPost s.heap s'.heap a.root a'.root) :
    ArrInv T a' s'.ctx.ctr ∧ a'.addr = a.addr ∧ FreshFree a'.addr s' ∧ Holds s'.heap a'.d a'.root := by
  have hi : i < a.toList.length := by
    rcases Nat.lt_or_ge i a.toList.length with h | h
    · exact h
    · rw [arr_set_err a s.ctx i v hinv h] at hset; cases hset
  obtain ⟨a'', c'', hok, hinv', _, hid, _, hle⟩ := arr_set_okR hT a s.ctx i v (.of_valueOk hv) hinv hi
  rw [hset] at hok
  simp only [Except.ok.injEq, Prod.mk.injEq] at hok
  obtain ⟨_, rfl, rfl⟩ := hok
  have haddr : a'.addr = a.addr := by
    show a'.rootID.addr = a.rootID.addr
    rw [hid]
  subst hctx
  refine ⟨hinv', haddr, ?_, hp.holds⟩
  rw [haddr]
  exact FreshFree.post hfree hp hinv.ids (by rw [← haddr]; exact hinv'.ids) hle

/-- … in the chaining form: the result re-establishes every hypothesis -/
theorem Sl_Array_set_heap_full_ok (T : Nat) (hT : legalThreshold T = true) (a : Arr) (i : Nat) (v : Elem) (s : HSt)
    (depth : Nat) (hd : a.d ≤ depth) (hinv : ArrInv T a s.ctx.ctr) (hfree : FreshFree a.addr s)
    (hv : ValueOk v) (hh : Holds s.heap a.d a.root) (hlt : i < a.count) :
    ∃ a' c' s', a.set T i v s.ctx = .ok (a.toList.getD i default, a', c') ∧
      TransSl.Array_set (envH T) depth (trArrH a s) (u64 i) (some v) =
        some (some (a.toList.getD i default), none, trArrH a' s') ∧ s'.ctx = c' ∧
      HeapPost s.heap s'.heap a.root a'.root ∧
      ArrInv T a' s'.ctx.ctr ∧ a'.addr = a.addr ∧ FreshFree a'.addr s' ∧ Holds s'.heap a'.d a'.root ∧
      a'.toList = a.toList.set i (toStorable T a.addr v s.ctx).1 := by
  obtain ⟨hni, hcnt⟩ := topSet_arrInv_facts hinv
  have hlen : a.count = a.toList.length := by
    obtain ⟨d, t, ty⟩ := a
    exact Shape.count_eq_length hinv.shape
  obtain ⟨a', c', hok, _, hl, _, _⟩ := arr_set_ok hT a s.ctx i v hv hinv (by omega)
  have h := Sl_Array_set_heap_full T hT a i v s depth hd hinv hfree hv hh (by omega)
  rw [hok] at h
  obtain ⟨s', h1, h2, h3⟩ := h
  obtain ⟨q1, q2, q3, q4⟩ := FreshFree.after_arr_set hT hinv hv hfree hok h2 h3
  exact ⟨a', c', s', hok, h1, h2, h3, q1, q2, q3, q4, hl⟩

/-- **`Array.set` on a valid array at an index inside it** (`ArrInv`, `i < Count()`): the model succeeds, the generated
    code returns the replaced element and the model's handle, and every hypothesis is re-established for the result
    (array invariant, owner address, nothing stored above the counter, the heap holds the new tree), so calls can be
    chained; the sequence represented is the old one with position `i` replaced -/
theorem Sl_Array_set_heap_ok (T : Nat) (hT : legalThreshold T = true) (a : Arr) (i : Nat) (v : Elem) (s : HSt)
    (depth : Nat) (hd : a.d ≤ depth) (hinv : ArrInv T a s.ctx.ctr) (hfree : FreshFree a.addr s)
    (hv : ValueOk v) (hh : Holds s.heap a.d a.root) (hlt : i < a.count)
    (htails : SetTailsOn T a.addr a.d a.root i v s.ctx) :
    ∃ a' c' s', a.set T i v s.ctx = .ok (a.toList.getD i default, a', c') ∧
      TransSl.Array_set (envH T) depth (trArrH a s) (u64 i) (some v) =
        some (some (a.toList.getD i default), none, trArrH a' s') ∧ s'.ctx = c' ∧
      HeapPost s.heap s'.heap a.root a'.root ∧
      ArrInv T a' s'.ctx.ctr ∧ a'.addr = a.addr ∧ FreshFree a'.addr s' ∧ Holds s'.heap a'.d a'.root ∧
      a'.toList = a.toList.set i (toStorable T a.addr v s.ctx).1 :=
  Sl_Array_set_heap_full_ok T hT a i v s depth hd hinv hfree hv hh hlt

end top

/-! ## non-vacuity (the arrays `exD`, `exA` of Props/TransDescentExDefs.lean, slab size 256) -/
section exTopSet
open ATree MetaSlab

theorem topSet_ex_fresh (a : Arr) (addr : Nat) (h : ∀ id ∈ slabIds a.d a.root, id.idx ≤ 5) :
    FreshFree addr (exSt a) := by
  intro id _ hlt
  have hlt : 5 < id.idx := hlt
  exact heapOf_none a.d a.root id (fun hin => by have := h id hin; omega)

theorem topSet_exD_inv : TreeInv 256 0 true exD.root := exTopIns_D_inv

theorem topSet_exD_ids : ∀ id ∈ slabIds exD.d exD.root, id = ⟨1, 1⟩ := by
  intro id hid
  have h : slabIds exD.d exD.root = [⟨1, 1⟩] := rfl
  rw [h] at hid
  simpa using hid

/-- the hypotheses of `Sl_Array_set_heap` are satisfiable on a ROOT SPLIT: the root data slab `exD` (365 bytes,
    T = 256) becomes full when its last element (60 bytes) is replaced by a 110-byte one, and is split (`splitRoot`,
    depth 0 -> 1; the new index root has two children, nothing is promoted); depth argument 0; at depth 0 the tail
    hypothesis is `True` -/
example :
    match exD.set 256 3 ⟨110, .val 99⟩ (exSt exD).ctx with
    | .ok (old, a', c') => ∃ s', TransSl.Array_set (envH 256) 0 (trArrH exD (exSt exD)) (u64 3) (some ⟨110, .val 99⟩) =
          some (some old, none, trArrH a' s') ∧ s'.ctx = c' ∧ HeapPost (exSt exD).heap s'.heap exD.root a'.root
    | .error e => e = .indexOutOfBounds ∧
        TransSl.Array_set (envH 256) 0 (trArrH exD (exSt exD)) (u64 3) (some ⟨110, .val 99⟩) =
          some (none, some .indexOutOfBounds, trArrH exD (exSt exD)) :=
  Sl_Array_set_heap 256 (by decide) exD 3 ⟨110, .val 99⟩ (exSt exD) 0 (Nat.le_refl _) topSet_exD_inv rfl
    ⟨by decide, fun id hid => by rw [topSet_exD_ids id hid]; decide⟩
    (topSet_ex_fresh exD _ (fun id hid => by rw [topSet_exD_ids id hid]; decide))
    (by decide) ⟨by decide, 99, rfl⟩ (Holds_heapOf 0 exD.root (by decide)) (by decide) trivial

/-- … and the model takes the `.ok` branch with a root split (old element, depth 1, the effects in order) -/
example : (exD.set 256 3 ⟨110, .val 99⟩ (exSt exD).ctx).toOption.map (fun r => (r.1, r.2.1.d, r.2.2.eff)) =
    some (⟨60, .val 3⟩, 1,
      [.store ⟨1, 1⟩, .alloc 1 ⟨1, 6⟩, .alloc 1 ⟨1, 7⟩, .store ⟨1, 6⟩, .store ⟨1, 7⟩, .store ⟨1, 1⟩]) := by rfl

theorem topSet_exA_inv : TreeInv 256 1 true exA.root := exTopIns_A_inv

theorem topSet_exA_ids : ∀ id ∈ slabIds exA.d exA.root, id = ⟨1, 1⟩ ∨ id = ⟨1, 2⟩ ∨ id = ⟨1, 3⟩ ∨ id = ⟨1, 4⟩ := by
  intro id hid
  have h : slabIds exA.d exA.root = [⟨1, 1⟩, ⟨1, 2⟩, ⟨1, 3⟩, ⟨1, 4⟩] := rfl
  rw [h] at hid
  simpa using hid

theorem topSet_exA_noRestructure : NoRestructure 256 1 exA.root 5 ⟨70, .val 99⟩ (exSt exA).ctx := by
  refine Eq.mpr (noRestructure_succ 256 0 (exRoot [exLeaf 2 3 0 [60, 60, 60, 60], exLeaf 3 4 10 [60, 60],
    exLeaf 4 0 20 [60, 60]]) 5 ⟨70, .val 99⟩ (exSt exA).ctx) ?_
  have hr : (exRoot [exLeaf 2 3 0 [60, 60, 60, 60], exLeaf 3 4 10 [60, 60],
    exLeaf 4 0 20 [60, 60]]).childSlabIndexInfo 5 = .ok (1, 1) := rfl
  rw [hr]
  intro child hc
  have : child = exLeaf 3 4 10 [60, 60] := by
    have h : (some (exLeaf 3 4 10 [60, 60]) : Option (ATree 0)) = some child := hc
    exact (Option.some.inj h).symm
  subst this
  exact ⟨trivial, rfl, rfl⟩

/-- the hypotheses of `Sl_Array_set_heap_noRestructure` are satisfiable at depth 1 with NO tail hypothesis: the second
    leaf of `exA` neither becomes full nor underflows, the root keeps its three children (nothing is promoted) -/
example :
    match exA.set 256 5 ⟨70, .val 99⟩ (exSt exA).ctx with
    | .ok (old, a', c') => ∃ s', TransSl.Array_set (envH 256) 1 (trArrH exA (exSt exA)) (u64 5) (some ⟨70, .val 99⟩) =
          some (some old, none, trArrH a' s') ∧ s'.ctx = c' ∧ HeapPost (exSt exA).heap s'.heap exA.root a'.root
    | .error e => e = .indexOutOfBounds ∧
        TransSl.Array_set (envH 256) 1 (trArrH exA (exSt exA)) (u64 5) (some ⟨70, .val 99⟩) =
          some (none, some .indexOutOfBounds, trArrH exA (exSt exA)) :=
  Sl_Array_set_heap_noRestructure 256 (by decide) exA 5 ⟨70, .val 99⟩ (exSt exA) 1 (Nat.le_refl _) topSet_exA_inv
    trivial
    ⟨by decide, fun id hid => by rcases topSet_exA_ids id hid with rfl | rfl | rfl | rfl <;> decide⟩
    (topSet_ex_fresh exA _ (fun id hid => by rcases topSet_exA_ids id hid with rfl | rfl | rfl | rfl <;> decide))
    (by decide) ⟨by decide, 99, rfl⟩ (Holds_heapOf 1 exA.root (by decide)) (by decide) topSet_exA_noRestructure

example : (exA.set 256 5 ⟨70, .val 99⟩ (exSt exA).ctx).toOption.map (fun r => (r.1, r.2.1.d, r.2.2.eff)) =
    some (⟨60, .val 11⟩, 1, [.store ⟨1, 3⟩, .store ⟨1, 1⟩]) := by rfl

/-- past the end: the `.error` branch -/
example : exA.set 256 8 ⟨70, .val 99⟩ (exSt exA).ctx = .error .indexOutOfBounds := by rfl

/-! the promotion branch of the join point (`Array_set_k1_envH`, `genPromote_heap`): the root index slab `slRSingle` (Props/TransSlabsRoot.lean)
    with its single child `slRChild` on the heap of that tree -/

theorem topSet_exSingle_shape : Shape 256 1 true (ofMeta slRSingle) := by
  refine (shape_succ 256 0 true slRSingle).2 ⟨rfl, rfl, rfl, rfl, rfl, ?_, ?_⟩
  · intro c hc
    have hc : c ∈ [slRChild] := hc
    rw [List.mem_singleton.1 hc]
    refine (treeInv_zero 256 false slRChild).2 ⟨rfl, rfl, ?_, rfl, (fun h => by cases h), by decide, fun _ => by decide⟩
    intro e he
    have h : slRChild.elems = [⟨50, .val 0⟩, ⟨50, .val 1⟩, ⟨50, .val 2⟩] := rfl
    rw [h] at he
    simp only [List.mem_cons, List.not_mem_nil, or_false] at he
    rcases he with rfl | rfl | rfl <;> exact ⟨by decide, by decide⟩
  · intro c hc
    have hc : c ∈ [slRChild] := hc
    rw [List.mem_singleton.1 hc]; rfl

/-- the hypotheses of `genPromote_heap` hold on a root with ONE child; the join point promotes the child (depth 1 -> 0,
    one store under the root identifier, the child's identifier removed) -/
example : ∃ s', TransSl.Array_set.k1 (envH 256) (trArrH ⟨1, ofMeta slRSingle, 7⟩ ⟨heapOf 1 slRSingle, ⟨2, [], []⟩⟩)
      (u64 0) (some ⟨50, .val 9⟩) (some ⟨50, .val 0⟩) none =
        some (some ⟨50, .val 0⟩, none,
          trArrH ((⟨1, ofMeta slRSingle, 7⟩ : Arr).promoteIfSingleChild ⟨2, [], []⟩).1 s') ∧
      s'.ctx = ((⟨1, ofMeta slRSingle, 7⟩ : Arr).promoteIfSingleChild ⟨2, [], []⟩).2 := by
  obtain ⟨s', h1, h2, _⟩ := genPromote_heap 256 1 (ofMeta slRSingle) 7 ⟨heapOf 1 slRSingle, ⟨2, [], []⟩⟩ 1
    topSet_exSingle_shape
    ⟨by decide, fun id hid => by
      have h : slabIds 1 (ofMeta slRSingle) = [⟨1, 1⟩, ⟨1, 2⟩] := rfl
      rw [h] at hid
      simp only [List.mem_cons, List.not_mem_nil, or_false] at hid
      rcases hid with rfl | rfl <;> decide⟩
    (Holds_heapOf 1 slRSingle (by decide))
  exact ⟨s', by rw [Array_set_k1_envH, h1]; rfl, h2⟩

example : (((⟨1, ofMeta slRSingle, 7⟩ : Arr).promoteIfSingleChild ⟨2, [], []⟩).1.d,
    ((⟨1, ofMeta slRSingle, 7⟩ : Arr).promoteIfSingleChild ⟨2, [], []⟩).2.eff) =
    (0, [.store ⟨1, 1⟩, .remove ⟨1, 2⟩]) := by rfl

end exTopSet

end Atree.TransEq

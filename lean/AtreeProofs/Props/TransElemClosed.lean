import AtreeProofs.Props.TransElemClosedA
import AtreeProofs.Props.TransElemClosedH
import AtreeProofs.Props.TransElemClosedSet
/-
  By induction on the number `r` of digest levels left, the closed environments of
  `Trans/MapClosed.lean` satisfy the relativised environment predicates (`clEnvB_ok`, `clEnvA_ok`) for the guards
  `mcl_QG / mcl_QS / mcl_QR / mcl_QN r` — recursive predicates on MODEL values (and on what the storage returns for the
  slabs of external groups) only.  Consequently the closed generated functions equal the model's operations
  (`elements_Get / Set / Remove_eq_model_closed_of_guard`).  `Props/TransElemClosedInv.lean` derives the guards from the
  map element invariant `ElemsInv` and `uint` range conditions.
-/
namespace Atree.TransEq
open Atree

section knot
variable {X : Type} (cfg : MCfg) (k : MKey) (v : Elem) (retr : mcl_Retrs X)

/-- guard of the closed `Get` at level `r` -/
def mcl_QG : (r : Nat) → MElems r → Nat → Ctx → Prop
  | 0 => fun _ _ _ => True
  | r + 1 => mcl_QgH k (mcl_Pg (retr r) (mcl_QG r))

/-- guard of the closed `Remove` at level `r` -/
def mcl_QR : (r : Nat) → MElems r → Nat → Ctx → Prop
  | 0 => mcl_QR0 cfg k
  | r + 1 => mcl_QrH (MElems.ops r) cfg k (mcl_Pr (MElems.ops r) cfg k (retr r) (mcl_QR r))

/-- guard of the group constructors at level `r` -/
def mcl_QN : (r : Nat) → Nat → SElem → Prop
  | 0 => fun _ x => x.size + Gen.singleElementsPrefixSize < 2^32
  | _ + 1 => mcl_QnH

/-- guard of the closed `Set` at level `r` -/
def mcl_QS : (r : Nat) → MElems r → Nat → Ctx → Prop
  | 0 => mcl_QS0 cfg k v
  | r + 1 => mcl_QsH (MElems.ops r) cfg k v (mcl_Pg (retr r) (mcl_QG k retr r))
      (mcl_Ps (MElems.ops r) cfg k v (retr r) (mcl_QS r) (mcl_QN r))

variable (hL : cfg.L < 2^64) (hT : cfg.T < 2^32) (hTe : maxInlineMapElem cfg.T < 2^32) (hcl : cfg.climit < 2^32)
include hL hT hTe hcl

/-- Unit B: the closed unit-B environment of every level behaves like the model's `MElems.ops r` on guarded
    arguments -/
theorem clEnvB_ok : ∀ r, EnvBOn (MElems.ops r) cfg k v (clEnvB cfg retr r)
    (mcl_QG k retr r) (mcl_QS cfg k v retr r) (mcl_QR cfg k retr r) (mcl_QN r)
  | 0 =>
    mcl_envBG_on SingleElems.ops cfg k v (mcl_gopsS cfg) (retr 0) (mcl_gopsS_ok cfg)
      (fun g c lvl hl _ => mcl_gopsS_get cfg k g c lvl hl hL)
      (fun g c lvl b hl hQ => mcl_gopsS_set cfg k v g c lvl b hl hL hT hQ)
      (fun g c lvl hl hQ => mcl_gopsS_remove cfg k g c lvl hl hL hQ)
      (fun lvl x g hl _ hQ hg => mcl_gopsS_new cfg lvl x g hl hQ hg)
  | r + 1 =>
    have hB := clEnvB_ok r
    have hA : EnvAOn (MElems.ops r) cfg k v (clEnvA cfg retr r k) (mcl_Pg (retr r) (mcl_QG k retr r))
        (mcl_Ps (MElems.ops r) cfg k v (retr r) (mcl_QS cfg k v retr r) (mcl_QN r))
        (mcl_Pr (MElems.ops r) cfg k (retr r) (mcl_QR cfg k retr r)) :=
      mcl_envA_on (MElems.ops r) cfg k v (mcl_gops cfg retr r) (retr r) hB hL
        (fun el c lvl hk _ hP => mcl_envA_set (MElems.ops r) cfg k v (mcl_gops cfg retr r) (retr r) hB el c lvl hk hL hTe hP)
    mcl_envBG_on (HkeyElems.ops (MElems.ops r)) cfg k v (mcl_gopsH (clEnvA cfg retr r)) (retr (r + 1))
      (mcl_gopsH_ok (MElems.ops r) (clEnvA cfg retr r))
      (fun g c lvl hl hQ => mcl_gopsH_get (MElems.ops r) cfg k v (clEnvA cfg retr r) hA g c lvl hl hL hQ)
      (fun g c lvl b hl hQ => mcl_gopsH_set (MElems.ops r) cfg k v (clEnvA cfg retr r) hA g c lvl b hl hL hcl hQ)
      (fun g c lvl hl hQ => mcl_gopsH_remove (MElems.ops r) cfg k v (clEnvA cfg retr r) hA g c lvl hl hL hQ)
      (fun lvl x g hl _ hQ hg => mcl_gopsH_new (MElems.ops r) cfg (clEnvA cfg retr r) lvl x g hl hQ hg)

/-- Unit A: the closed unit-A environment of every level behaves like the model's `MElemF.get / set / remove`
    over `MElems.ops r` on guarded elements -/
theorem clEnvA_ok (r : Nat) : EnvAOn (MElems.ops r) cfg k v (clEnvA cfg retr r k) (mcl_Pg (retr r) (mcl_QG k retr r))
    (mcl_Ps (MElems.ops r) cfg k v (retr r) (mcl_QS cfg k v retr r) (mcl_QN r))
    (mcl_Pr (MElems.ops r) cfg k (retr r) (mcl_QR cfg k retr r)) :=
  mcl_envA_on (MElems.ops r) cfg k v (mcl_gops cfg retr r) (retr r) (clEnvB_ok cfg k v retr hL hT hTe hcl r) hL
    (fun el c lvl hk _ hP => mcl_envA_set (MElems.ops r) cfg k v (mcl_gops cfg retr r) (retr r)
      (clEnvB_ok cfg k v retr hL hT hTe hcl r) el c lvl hk hL hTe hP)

/-- the closed generated `elements.Get` of level `r` = the model's, on guarded arguments -/
theorem elements_Get_eq_model_closed_of_guard (r : Nat) (e : MElems r) (level : Nat) (c : Ctx) (hl : level < 2^64)
    (hQ : mcl_QG k retr r e level c) :
    clElements_Get cfg retr r e c k (u64 level) (u64 (k.dig level)) (.key k) =
      mei_rGet c ((MElems.ops r).get cfg e level k) :=
  (clEnvB_ok cfg k default retr hL hT hTe hcl r).gGet e c level hl hQ

/-- the closed generated `elements.Remove` of level `r` = the model's, on guarded arguments -/
theorem elements_Remove_eq_model_closed_of_guard (r : Nat) (e : MElems r) (level : Nat) (c : Ctx) (hl : level < 2^64)
    (hQ : mcl_QR cfg k retr r e level c) :
    clElements_Remove cfg retr r e c k (u64 level) (u64 (k.dig level)) (.key k) =
      mei_rGRemove e c ((MElems.ops r).remove cfg e level k c) :=
  (clEnvB_ok cfg k default retr hL hT hTe hcl r).gRemove e c level hl hQ

/-- the closed generated `elements.Set` of level `r` = the model's, on guarded arguments -/
theorem elements_Set_eq_model_closed_of_guard (r : Nat) (e : MElems r) (level : Nat) (c : Ctx) (hl : level < 2^64)
    (hQ : mcl_QS cfg k v retr r e level c) :
    clElements_Set cfg retr r e c cfg.addr () k (u64 level) (u64 (k.dig level)) (.key k) (.val v) =
      mei_rGSet e c ((MElems.ops r).set cfg e level k v c) :=
  (clEnvB_ok cfg k v retr hL hT hTe hcl r).gSet e c level () hl hQ

end knot
end Atree.TransEq

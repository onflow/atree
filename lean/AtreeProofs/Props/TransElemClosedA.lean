import AtreeProofs.Props.TransElemClosedBase
import AtreeProofs.Props.TransElemDispatch
import AtreeProofs.Map.Paths
/-
  The step "unit B under an environment with `EnvBOn` gives a unit-A environment (`mcl_envA`: the element
  methods are the GENERATED dispatchers) with `EnvAOn`" — `mcl_envA_on`, with the guards `mcl_Pg / mcl_Ps / mcl_Pr` on
  elements derived from the guards on the nested groups.
-/
namespace Atree.TransEq
open Atree

/-- a (result) element whose `uint` fields are in range, so that its translation can be decoded -/
def mcl_ElFit {α : Type} : MElemF α → Prop
  | .single x => x.size < 2^32
  | .inl _ => True
  | .ext _ sz s => sz < 2^32 ∧ s.hdr.size < 2^32 ∧ s.hdr.firstKey < 2^64

/-- `mcl_ElFit` of an optional (result) element, decided -/
def mcl_elFitB {α : Type} : Option (MElemF α) → Bool
  | some (.single x) => decide (x.size < 2^32)
  | some (.ext _ sz s) => decide (sz < 2^32) && decide (s.hdr.size < 2^32) && decide (s.hdr.firstKey < 2^64)
  | _ => true

theorem mcl_elFitB_sound {α : Type} {el : MElemF α} (h : mcl_elFitB (some el) = true) : mcl_ElFit el := by
  cases el with
  | single x => exact (of_decide_eq_true h : x.size < 2^32)
  | inl g => trivial
  | ext id sz s =>
    simp only [mcl_elFitB, Bool.and_eq_true, decide_eq_true_eq] at h
    exact ⟨h.1.1, h.1.2, h.2⟩

section stepA
variable {α X : Type} (o : ElemsOps α) (cfg : MCfg) (k : MKey) (v : Elem) (G : mcl_GOps α) (retr : mcl_Retr α X)
variable {Qg Qs Qr : α → Nat → Ctx → Prop} {Qn : Nat → SElem → Prop}

/-- guard of `element.Get`: the nested group satisfies the nested guard one level deeper; the storage returns the slab
    the model embeds in an external group -/
structure mcl_Pg (Qg : α → Nat → Ctx → Prop) (el : MElemF α) (lvl : Nat) (c : Ctx) : Prop where
  hl : lvl + 1 < 2^64
  nested : ∀ g, mei_nested el = some g → Qg g (lvl + 1) c
  ret : ∀ id sz s, el = .ext id sz s → retr c id = (.dataSlab (mei_cGroupSlab s), true, none, c)

/-- guard of `element.Remove` -/
structure mcl_Pr (Qr : α → Nat → Ctx → Prop) (el : MElemF α) (lvl : Nat) (c : Ctx) : Prop where
  hl : lvl + 1 < 2^64
  nested : ∀ g, mei_nested el = some g → Qr g (lvl + 1) c
  ret : ∀ id sz s, el = .ext id sz s → retr c id = (.dataSlab (mei_cGroupSlab s), true, none, c)
  cnt : ∀ g, mei_nested el = some g → ∀ rk rv g' c', o.remove cfg g (lvl + 1) k c = .ok (rk, rv, g', c') → o.count g' < 2^32
  res : ∀ rk rv el' c', el.remove o cfg lvl k c = .ok (rk, rv, some el', c') → mcl_ElFit el'

/-- guard of `element.Set` -/
structure mcl_Ps (Qs : α → Nat → Ctx → Prop) (Qn : Nat → SElem → Prop) (el : MElemF α) (lvl : Nat) (c : Ctx) : Prop where
  hl : lvl + 1 < 2^64
  nested : ∀ g, (mei_nested el = some g ∨ ∃ x, el = .single x ∧ o.newWith cfg (lvl + 1) x = .ok g) → Qs g (lvl + 1) c
  new : ∀ x, el = .single x → Qn (lvl + 1) x
  ret : ∀ id sz s, el = .ext id sz s → s.hdr.id.addr = cfg.addr ∧ retr c id = (.dataSlab (mei_cGroupSlab s), true, none, c)
  sz : ∀ g, (mei_nested el = some g ∨ ∃ x, el = .single x ∧ o.newWith cfg (lvl + 1) x = .ok g) →
      ∀ ks old g' c', o.set cfg g (lvl + 1) k v c = .ok (ks, old, g', c') → o.size g' + 2 < 2^32
  single : ∀ x, el = .single x → x.key.size < 2^32 ∧ x.size < 2^32 ∧
      (x.key.same k = false → ∃ g, o.newWith cfg (lvl + 1) x = .ok g)
  res : ∀ el' ks old c', el.set o cfg lvl k v c = .ok (el', ks, old, c') → mcl_ElFit el'

variable (hB : EnvBOn o cfg k v (mcl_envBG cfg G retr) Qg Qs Qr Qn)
include hB

theorem mcl_envA_size (el : MElemF α) :
    (mcl_envA cfg (mcl_envBG cfg G retr) k).element_Size el = u32 (el.size o) := by
  cases el with
  | single x => rfl
  | inl g =>
    show (UInt32.ofNat Gen.inlineCollisionGroupPrefixSize + (mcl_envBG cfg G retr).elements_Size g) = _
    rw [hB.gSize]; exact u32_add_eq _ _
  | ext id sz s => rfl

theorem mcl_envA_count (el : MElemF α) (c : Ctx) :
    (mcl_envA cfg (mcl_envBG cfg G retr) k).element_Count el c = (u32 (el.count o), none, c) := by
  cases el with
  | single x => rfl
  | inl g =>
    show ((mcl_envBG cfg G retr).elements_Count g, none, c) = _
    rw [hB.gCount]; rfl
  | ext id sz s =>
    show ((mcl_envBG cfg G retr).elements_Count s.elems, none, c) = _
    rw [hB.gCount]; rfl

theorem mcl_envA_get (el : MElemF α) (c : Ctx) (lvl : Nat) (hk : UInt64) (hL : cfg.L < 2^64) (hP : mcl_Pg retr Qg el lvl c) :
    (mcl_envA cfg (mcl_envBG cfg G retr) k).element_Get el c (u64 lvl) hk (.key k) = mel_rGet c (el.get o cfg lvl k) := by
  show (match Gen.TransElem.element_Get (mcl_envBG cfg G retr) (mei_cEl el) c k (u64 lvl) hk (.key k) with
    | some r => r
    | none => (none, none, some .goPanic, c)) = _
  rw [element_Get_eq_model_on o cfg k v _ hB el c lvl hk hP.hl hL hP.ret (mcl_envBG_hget cfg G retr) hP.nested]
  rw [mel_rGet_eq_mei]

/-- the slab of an external group after the generated `MapDataSlab_Remove` = the model's `groupSlabUpdate` -/
theorem mcl_slabAfterRemove_eq (s : GroupSlab α) (c : Ctx) (lvl : Nat) (hl : lvl + 1 < 2^64) (hQ : Qr s.elems (lvl + 1) c)
    (rk : MKey) (rv : Elem) (g' : α) (c' : Ctx) (hr : o.remove cfg s.elems (lvl + 1) k c = .ok (rk, rv, g', c'))
    (h1 : (MElemF.groupSlabUpdate o s g' c').1.hdr.size < 2^32) (h2 : (MElemF.groupSlabUpdate o s g' c').1.hdr.firstKey < 2^64) :
    mcl_slabAfterRemove (mcl_envBG cfg G retr) k s c (u64 lvl) (.key k) = (MElemF.groupSlabUpdate o s g' c').1 := by
  unfold mcl_slabAfterRemove
  rw [u64_succ, hB.dig k (lvl + 1) hl, MapDataSlab_Remove_groupSlab_on o cfg k v _ hB s c (lvl + 1) hl hQ, hr]
  exact mcl_dGroupSlab_c _ h1 h2

theorem mcl_envA_remove (el : MElemF α) (c : Ctx) (lvl : Nat) (hk : UInt64) (hL : cfg.L < 2^64) (hP : mcl_Pr o cfg k retr Qr el lvl c) :
    (mcl_envA cfg (mcl_envBG cfg G retr) k).element_Remove el c (u64 lvl) hk (.key k) =
      mel_rERemove c (el.remove o cfg lvl k c) := by
  have hgen := element_Remove_eq_model_on o cfg k v _ hB el c lvl hk hP.hl hL hP.cnt hP.ret hP.nested
  show (match Gen.TransElem.element_Remove (mcl_envBG cfg G retr) (mei_cEl el) c k (u64 lvl) hk (.key k) with
    | some r => (r.1, r.2.1, mcl_dElR (mcl_envBG cfg G retr) k el c (u64 lvl) (.key k) r.2.2.1, r.2.2.2.1, r.2.2.2.2.2)
    | none => (none, none, none, some .goPanic, c)) = _
  rcases hrun : Gen.TransElem.element_Remove (mcl_envBG cfg G retr) (mei_cEl el) c k (u64 lvl) hk (.key k) with _ | r
  · rw [hrun] at hgen; exact absurd hgen (by simp)
  · rw [hrun, Option.map_some, Option.some.injEq] at hgen
    show (r.1, r.2.1, mcl_dElR (mcl_envBG cfg G retr) k el c (u64 lvl) (.key k) r.2.2.1, r.2.2.2.1, r.2.2.2.2.2) = _
    have e1 : r.1 = (mei_rERemove c (el.remove o cfg lvl k c)).1 := by rw [← hgen]
    have e2 : r.2.1 = (mei_rERemove c (el.remove o cfg lvl k c)).2.1 := by rw [← hgen]
    have e3 : r.2.2.1 = (mei_rERemove c (el.remove o cfg lvl k c)).2.2.1 := by rw [← hgen]
    have e4 : r.2.2.2.1 = (mei_rERemove c (el.remove o cfg lvl k c)).2.2.2.1 := by rw [← hgen]
    have e5 : r.2.2.2.2.2 = (mei_rERemove c (el.remove o cfg lvl k c)).2.2.2.2 := by rw [← hgen]
    rw [e1, e2, e3, e4, e5]
    have hres := hP.res
    rcases hm : el.remove o cfg lvl k c with err | ⟨rk, rv, el', c'⟩
    · rfl
    · rcases el' with _ | el'
      · rfl
      · have hfit := hres rk rv el' c' hm
        cases el' with
        | single x =>
          simp only [mei_rERemove, mei_cOptEl, mei_cEl, mcl_dElR, mel_rERemove, mei_il_inv_cE x hfit]
        | inl g => rfl
        | ext id' sz' s' =>
          obtain ⟨hf1, hf2, hf3⟩ := hfit
          rcases MElemF.remove_cases hm with ⟨x, _, _, _, _, h, _⟩ | ⟨g, g2, _, _, ⟨x, _, h⟩ | ⟨_, h⟩⟩ |
              ⟨id, sz, s, g2, c1, rfl, hr, ⟨x, _, h, _⟩ | ⟨_, h, _⟩⟩ <;> try cases h
          have hslab := mcl_slabAfterRemove_eq o cfg k v G retr hB s c lvl hP.hl (hP.nested s.elems rfl)
            rk rv g2 c1 hr hf2 hf3
          simp only [mei_rERemove, mei_cOptEl, mei_cEl, mcl_dElR, mel_rERemove, hslab, u32_toNat hf1]

end stepA
end Atree.TransEq

namespace Atree.TransEq
open Atree

section assemble
variable {α X : Type} (o : ElemsOps α) (cfg : MCfg) (k : MKey) (v : Elem) (G : mcl_GOps α) (retr : mcl_Retr α X)
variable {Qg Qs Qr : α → Nat → Ctx → Prop} {Qn : Nat → SElem → Prop}

/-- the closed unit-A environment satisfies `EnvAOn` (the `Set` equation is a parameter: `mcl_envA_set`) -/
theorem mcl_envA_on (hB : EnvBOn o cfg k v (mcl_envBG cfg G retr) Qg Qs Qr Qn) (hL : cfg.L < 2^64)
    {Ps : MElemF α → Nat → Ctx → Prop}
    (hset : ∀ el c lvl hk, lvl < 2^64 → Ps el lvl c →
      (mcl_envA cfg (mcl_envBG cfg G retr) k).element_Set el c cfg.addr (u64 lvl) hk (.key k) (.val v) =
        mel_rESet c (el.set o cfg lvl k v c)) :
    EnvAOn o cfg k v (mcl_envA cfg (mcl_envBG cfg G retr) k) (mcl_Pg retr Qg) Ps (mcl_Pr o cfg k retr Qr) where
  levels := rfl
  climit := rfl
  size := mcl_envA_size o cfg k v G retr hB
  count := mcl_envA_count o cfg k v G retr hB
  get := fun el c lvl hk _ hP => mcl_envA_get o cfg k v G retr hB el c lvl hk hL hP
  set := hset
  remove := fun el c lvl hk _ hP => mcl_envA_remove o cfg k v G retr hB el c lvl hk hL hP
  newElem := fun _ => rfl
  inj := fun x hx => by
    show MElemF.single (mcl_dEA (mel_cE x)) = _
    rw [mcl_dEA_cE x hx]
  asKNF := fun _ => rfl
  eHashLevel := rfl
  eKeyNotFound := rfl
  eCollisionLimit := rfl
  eElementCount := rfl

end assemble
end Atree.TransEq

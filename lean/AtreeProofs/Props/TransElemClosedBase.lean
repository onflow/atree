import AtreeProofs.Trans.MapClosed
/-
  Round trips of the decoders of `Trans/MapClosed.lean`, the UNGUARDED fields of the closed environments
  (`mcl_GOk`), and the generic step "closed `elements` methods that agree with the model on guarded arguments give a
  unit-B environment satisfying `EnvBOn`" (`mcl_envBG_on`).
-/
namespace Atree.TransEq
open Atree

/-- the three units encode the result of a `Get` alike -/
theorem mel_rGet_eq_mei : mel_rGet = mei_rGet := by
  funext c r; cases r <;> rfl

theorem msl_rGet_eq_mei : msl_rGet = mei_rGet := by
  funext c r; cases r <;> rfl

theorem mcl_dE0_cE (x : SElem) (hx : x.size < 2^32) : mcl_dE0 (cE x) = x := by
  show ({ key := x.key, val := x.val, size := (u32 x.size).toNat } : SElem) = x
  rw [u32_toNat hx]

theorem mcl_dEA_cE (x : SElem) (hx : x.size < 2^32) : mcl_dEA (mel_cE x) = x := by
  show ({ key := x.key, val := x.val, size := (u32 x.size).toNat } : SElem) = x
  rw [u32_toNat hx]

/-- range condition under which `cS` is invertible -/
structure mcl_SFit (e : SingleElems) : Prop where
  size : e.size < 2^32
  level : e.level < 2^64
  elems : ∀ x ∈ e.elems, x.size < 2^32

/-- `mcl_SFit`, decided -/
def mcl_sfitB (g : SingleElems) : Bool :=
  decide (g.size < 2^32) && decide (g.level < 2^64) && g.elems.all (fun x => decide (x.size < 2^32))

theorem mcl_sfitB_sound {g : SingleElems} (h : mcl_sfitB g = true) : mcl_SFit g := by
  simp only [mcl_sfitB, Bool.and_eq_true, decide_eq_true_eq, List.all_eq_true] at h
  exact ⟨h.1.1, h.1.2, h.2⟩

theorem mcl_map_dE0_cE (l : List SElem) (h : ∀ x ∈ l, x.size < 2^32) : (l.map cE).map mcl_dE0 = l := by
  induction l with
  | nil => rfl
  | cons a t ih =>
    simp only [List.map_cons, mcl_dE0_cE a (h a (List.mem_cons_self ..)), ih (fun x hx => h x (List.mem_cons_of_mem _ hx))]

theorem mcl_dS_cS (e : SingleElems) (h : mcl_SFit e) : mcl_dS (cS e) = e := by
  obtain ⟨elems, sz, lv⟩ := e
  simp only [mcl_dS, cS, u32_toNat h.size, u64_toNat h.level, mcl_map_dE0_cE elems h.elems]

/-- range condition under which `mel_cH` is invertible -/
structure mcl_HFit {α : Type} (e : HkeyElems α) : Prop where
  size : e.size < 2^32
  level : e.level < 2^64
  dig : ∀ x ∈ e.hkeys, x < 2^64

/-- `mcl_HFit`, decided -/
def mcl_hfitB {α : Type} (g : HkeyElems α) : Bool :=
  decide (g.size < 2^32) && decide (g.level < 2^64) && g.hkeys.all (fun x => decide (x < 2^64))

theorem mcl_hfitB_sound {α : Type} {g : HkeyElems α} (h : mcl_hfitB g = true) : mcl_HFit g := by
  simp only [mcl_hfitB, Bool.and_eq_true, decide_eq_true_eq, List.all_eq_true] at h
  exact ⟨h.1.1, h.1.2, h.2⟩

theorem mcl_filterMap_some {β : Type} (l : List β) : (l.map some).filterMap id = l := by
  induction l with
  | nil => rfl
  | cons a t ih => simp [ih]

theorem mcl_dH_cH {α : Type} (e : HkeyElems α) (h : mcl_HFit e) : mcl_dH (mel_cH e) = e := by
  obtain ⟨hk, el, sz, lv⟩ := e
  simp only [mcl_dH, mel_cH, u32_toNat h.size, u64_toNat h.level, u64s_map_toNat hk h.dig, mcl_filterMap_some]

theorem mcl_dGroupSlab_c {α X : Type} (s : GroupSlab α) (hs : s.hdr.size < 2^32) (hf : s.hdr.firstKey < 2^64) :
    mcl_dGroupSlab (mei_cGroupSlab s : Gen.TransElem.MapDataSlab α X) = s := by
  obtain ⟨⟨id, sz, fk⟩, el⟩ := s
  simp only [mcl_dGroupSlab, mei_cGroupSlab, mcl_dHdr, mei_cHdr, u32_toNat hs, u64_toNat hf]

/-! ## the unguarded part: sizes, counts, first keys, `Element(0)` -/

/-- the closed methods `G` agree with the model operations `o` on the accessors (no guard needed) -/
structure mcl_GOk {α : Type} (o : ElemsOps α) (G : mcl_GOps α) : Prop where
  size : ∀ g, G.size g = u32 (o.size g)
  count : ∀ g, G.count g = u32 (o.count g)
  first : ∀ g, G.firstKey g = u64 (o.firstKey g)
  sole : ∀ g, (o.count g = 1 → ∃ el, G.elemAt g 0 = (mei_cEl el, none) ∧
                  o.soleSingle g = (match el with | .single x => some x | _ => none)) ∧
               (o.count g ≠ 1 → o.soleSingle g = none)

theorem mcl_gopsS_ok (cfg : MCfg) : mcl_GOk SingleElems.ops (mcl_gopsS cfg) where
  size := fun _ => rfl
  count := fun g => by
    show UInt32.ofInt (Int.ofNat (cS g).elems.length) = _
    rw [u32_ofInt]; simp [cS, SingleElems.ops]
  first := fun _ => rfl
  sole := fun g => by
    rcases g with ⟨elems, sz, lv⟩
    constructor
    · intro h
      match elems, h with
      | [x], _ => exact ⟨.single x, rfl, rfl⟩
    · intro h
      match elems, h with
      | [], _ => rfl
      | _ :: _ :: _, _ => rfl
      | [x], h => exact absurd rfl h

theorem mcl_gopsH_ok {α : Type} (o : ElemsOps α) (envA : MKey → mcl_EnvA α) :
    mcl_GOk (HkeyElems.ops o) (mcl_gopsH envA) where
  size := fun _ => rfl
  count := fun g => by
    show UInt32.ofInt (Int.ofNat (mel_cH g).elems.length) = _
    rw [u32_ofInt, mel_cH_elems_length]; rfl
  first := fun g => by
    obtain ⟨hk, el, sz, lv⟩ := g
    cases hk with
    | nil => rfl
    | cons a t => rfl
  sole := fun g => by
    rcases g with ⟨hk, elems, sz, lv⟩
    constructor
    · intro h
      match elems, h with
      | [.single x], _ => exact ⟨.single x, rfl, rfl⟩
      | [.inl g'], _ => exact ⟨.inl ⟨hk, [.inl g'], sz, lv⟩, rfl, rfl⟩
      | [.ext id s' sl], _ => exact ⟨.ext id s' ⟨default, ⟨hk, [.ext id s' sl], sz, lv⟩⟩, rfl, rfl⟩
    · intro h
      match elems, h with
      | [], _ => rfl
      | a :: _ :: _, _ => cases a <;> rfl
      | [x], h => exact absurd rfl h

section envB
variable {α X : Type} (o : ElemsOps α) (cfg : MCfg) (k : MKey) (v : Elem) (G : mcl_GOps α) (retr : mcl_Retr α X)

/-- closed methods that agree with the model on guarded arguments give a unit-B environment with `EnvBOn` -/
theorem mcl_envBG_on {Qg Qs Qr : α → Nat → Ctx → Prop} {Qn : Nat → SElem → Prop} (hG : mcl_GOk o G)
    (hget : ∀ g c lvl, lvl < 2^64 → Qg g lvl c →
      G.get g c k (u64 lvl) (u64 (k.dig lvl)) (.key k) = mei_rGet c (o.get cfg g lvl k))
    (hset : ∀ g c lvl b, lvl < 2^64 → Qs g lvl c →
      G.set g c cfg.addr b k (u64 lvl) (u64 (k.dig lvl)) (.key k) (.val v) = mei_rGSet g c (o.set cfg g lvl k v c))
    (hrem : ∀ g c lvl, lvl < 2^64 → Qr g lvl c →
      G.remove g c k (u64 lvl) (u64 (k.dig lvl)) (.key k) = mei_rGRemove g c (o.remove cfg g lvl k c))
    (hnew : ∀ lvl x g, lvl < 2^64 → x.size < 2^32 → Qn lvl x → o.newWith cfg lvl x = .ok g →
      (if lvl = cfg.L then G.newS (u64 lvl) (mei_cE x) = g
       else G.newH (u64 lvl) (u64 (x.key.dig lvl)) (.single (mei_cE x)) = g)) :
    EnvBOn o cfg k v (mcl_envBG cfg G retr) Qg Qs Qr Qn where
  levels := fun _ => rfl
  dig := fun d lvl hl => by
    show (u64 (d.dig (u64 lvl).toNat), none) = _
    rw [u64_toNat hl]
  builder := fun _ _ => rfl
  stored := fun _ _ => rfl
  cmp := fun _ _ => rfl
  keySize := fun _ => rfl
  valSize := fun _ => rfl
  maxInline := fun n hn => by
    show u32 (maxInlineMapValue cfg.T (u32 n).toNat) = _
    rw [u32_toNat hn]
  storable := fun _ _ => rfl
  maxElem := rfl
  sidSize := rfl
  gSize := hG.size
  gCount := hG.count
  gFirst := hG.first
  gGet := hget
  gSet := hset
  gRemove := hrem
  gSole := hG.sole
  newWith := hnew
  gen := fun _ _ => rfl
  store := fun _ _ _ => rfl
  remove := fun _ _ => rfl
  wrapNone := rfl
  eHashLevel := rfl
  eKeyNotFound := rfl
  eSlabNotFound := rfl

/-- `hget` of `externalCollisionGroup_Get_eq_model`: method promotion -/
theorem mcl_envBG_hget (d : Gen.TransElem.MapDataSlab α X) (c : Ctx) (dg : MKey) (lvl hk : UInt64) (w : SW) :
    (mcl_envBG cfg G retr).MapSlab_Get (.dataSlab d) c dg lvl hk w =
      (mcl_envBG cfg G retr).elements_Get d.elements c dg lvl hk w := rfl

/-- `hset` of `externalCollisionGroup_Set_eq_model`: `MapSlab.Set` on a data slab is the generated `MapDataSlab_Set` -/
theorem mcl_envBG_hset (d : Gen.TransElem.MapDataSlab α X) (c : Ctx) (b : Unit) (dg : MKey) (lvl hk : UInt64) (w w' : SW) :
    (mcl_envBG cfg G retr).MapSlab_Set (.dataSlab d) c b dg lvl hk w w' =
      match Gen.TransElem.MapDataSlab_Set (mcl_envBG cfg G retr) d c b dg lvl hk w w' with
      | some r => (r.1, r.2.1, r.2.2.1, .dataSlab r.2.2.2.1, r.2.2.2.2)
      | none => (none, none, none, .dataSlab d, c) := rfl

end envB

/-! ## the last level: the generated `singleElements_*` on guarded arguments -/

section level0
variable (cfg : MCfg) (k : MKey) (v : Elem)

theorem mcl_gopsS_get (g : SingleElems) (c : Ctx) (lvl : Nat) (hl : lvl < 2^64) (hL : cfg.L < 2^64) :
    (mcl_gopsS cfg).get g c k (u64 lvl) (u64 (k.dig lvl)) (.key k) = mei_rGet c (SingleElems.ops.get cfg g lvl k) := by
  show Gen.TransMap.singleElements_Get (msl_envSingle0 cfg) (cS g) c (u64 lvl) (u64 (k.dig lvl)) (.key k) = _
  rw [singleElements_Get_eq_model cfg _ (msl_envSingle0_ok cfg) g lvl _ k c hl hL]
  rw [msl_rGet_eq_mei]
  rfl

/-- guard of `Remove` at the last level: the argument and the model's result are in `uint` range, the group's size
    covers the element that goes -/
structure mcl_QR0 (g : SingleElems) (lvl : Nat) (c : Ctx) : Prop where
  fit : mcl_SFit g
  hsz : ∀ x ∈ g.elems, x.key.same k = true → x.size ≤ g.size
  res : ∀ rk rv g' c', SingleElems.remove cfg g lvl k c = .ok (rk, rv, g', c') → mcl_SFit g'
  noPanic : SingleElems.remove cfg g lvl k c ≠ .error .goPanic

theorem mcl_gopsS_remove (g : SingleElems) (c : Ctx) (lvl : Nat) (hl : lvl < 2^64) (hL : cfg.L < 2^64)
    (hQ : mcl_QR0 cfg k g lvl c) :
    (mcl_gopsS cfg).remove g c k (u64 lvl) (u64 (k.dig lvl)) (.key k) =
      mei_rGRemove g c (SingleElems.ops.remove cfg g lvl k c) := by
  show (match Gen.TransMap.singleElements_Remove (msl_envSingle0 cfg) (cS g) c (u64 lvl) (u64 (k.dig lvl)) (.key k) with
    | some r => (r.1, r.2.1, r.2.2.1, mcl_dS r.2.2.2.1, r.2.2.2.2)
    | none => (none, none, some .goPanic, g, c)) = _
  rw [singleElements_Remove_eq_model cfg _ (msl_envSingle0_ok cfg) g lvl _ k c hl hL hQ.hsz]
  show _ = mei_rGRemove g c (SingleElems.remove cfg g lvl k c)
  have hres := hQ.res
  have hnp := hQ.noPanic
  rcases hr : SingleElems.remove cfg g lvl k c with err | ⟨rk, rv, g', c'⟩
  · rw [hr] at hnp
    cases err <;> first | exact absurd rfl hnp | simp only [msl_rRemove, mei_rGRemove, mcl_dS_cS g hQ.fit]
  · simp only [msl_rRemove, mei_rGRemove, mcl_dS_cS g' (hres rk rv g' c' hr)]

/-- guard of `Set` at the last level -/
structure mcl_QS0 (g : SingleElems) (lvl : Nat) (c : Ctx) : Prop where
  fit : mcl_SFit g
  ksize : k.size < 2^32
  res : ∀ ks old g' c', SingleElems.set cfg g lvl k v c = .ok (ks, old, g', c') → mcl_SFit g'
  noPanic : SingleElems.set cfg g lvl k v c ≠ .error .goPanic

theorem mcl_gopsS_set (g : SingleElems) (c : Ctx) (lvl : Nat) (b : Unit) (hl : lvl < 2^64) (hL : cfg.L < 2^64)
    (hT : cfg.T < 2^32) (hQ : mcl_QS0 cfg k v g lvl c) :
    (mcl_gopsS cfg).set g c cfg.addr b k (u64 lvl) (u64 (k.dig lvl)) (.key k) (.val v) =
      mei_rGSet g c (SingleElems.ops.set cfg g lvl k v c) := by
  show (match Gen.TransMap.singleElements_Set (msl_envSingle0 cfg) (cS g) c cfg.addr (u64 lvl) (u64 (k.dig lvl)) (.key k) (.val v) with
    | some r => (r.1, r.2.1, r.2.2.1, mcl_dS r.2.2.2.1, r.2.2.2.2)
    | none => (none, none, some .goPanic, g, c)) = _
  rw [singleElements_Set_eq_model cfg _ (msl_envSingle0_ok cfg) g lvl _ k v c hl hL hT hQ.ksize]
  show _ = mei_rGSet g c (SingleElems.set cfg g lvl k v c)
  have hres := hQ.res
  have hnp := hQ.noPanic
  rcases hr : SingleElems.set cfg g lvl k v c with err | ⟨ks, old, g', c'⟩
  · rw [hr] at hnp
    cases err <;> first | exact absurd rfl hnp | simp only [msl_rSet, mei_rGSet, mcl_dS_cS g hQ.fit]
  · simp only [msl_rSet, mei_rGSet, mcl_dS_cS g' (hres ks old g' c' hr)]

/-- the one-element last-level list: `newSingleElementsWithElement` -/
theorem mcl_gopsS_new (lvl : Nat) (x : SElem) (g : SingleElems) (hl : lvl < 2^64) (hx : x.size + Gen.singleElementsPrefixSize < 2^32)
    (hg : SingleElems.ops.newWith cfg lvl x = .ok g) :
    (if lvl = cfg.L then (mcl_gopsS cfg).newS (u64 lvl) (mei_cE x) = g
     else (mcl_gopsS cfg).newH (u64 lvl) (u64 (x.key.dig lvl)) (.single (mei_cE x)) = g) := by
  have hx' : x.size < 2^32 := by omega
  simp only [SingleElems.ops] at hg
  by_cases h : lvl = cfg.L
  · simp only [h, ne_eq, not_true_eq_false, if_false, Except.ok.injEq] at hg
    rw [if_pos h, ← hg]
    show ({ level := (u64 lvl).toNat, size := (UInt32.ofNat Gen.singleElementsPrefixSize + (mei_cE x).size).toNat,
            elems := [mei_il_inv (mei_cE x)] } : SingleElems) = _
    have e1 : (UInt32.ofNat Gen.singleElementsPrefixSize + (mei_cE x).size) = u32 (Gen.singleElementsPrefixSize + x.size) :=
      u32_add_eq _ _
    rw [e1, u32_toNat (by omega), u64_toNat hl, mei_il_inv_cE x hx', h]
  · simp only [ne_eq, h, not_false_eq_true, if_true, reduceCtorEq] at hg

end level0
end Atree.TransEq

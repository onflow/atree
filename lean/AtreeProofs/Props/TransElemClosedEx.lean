import AtreeProofs.Props.TransElemClosedInv
import AtreeProofs.Iter.MapExample
/-
  Non-vacuity of the closed theorems: the two-level example of `Iter/MapExample.lean` (`cfg.L = 2`; keys 11 and 12 collide at the first
  level and live in an inline collision group, key 25 is a single element) meets every hypothesis of the closed
  theorems, and the closed generated functions EVALUATE (kernel reduction) to the model's results on it.
-/
namespace Atree.TransEq.MclEx
open Atree Atree.TransEq Atree.IterExample

/-- a storage without slabs (the example has no external group) -/
def retr0 : mcl_Retrs Unit := fun _ c _ => (.nil, false, none, c)
def c0 : Ctx := { ctr := 5, eff := [] }

theorem fitG : mcl_FitG 2 rootElems := mcl_fitGB_sound 2 rootElems (by decide)

theorem retrOk (c : Ctx) : mcl_RetrOk retr0 c 2 rootElems := by
  intro id sz s h
  simp [rootElems] at h

theorem kdig (n : Nat) (hn : n < 100) : ∀ lvl, (k n).dig lvl < 2^64 := by
  intro lvl
  match lvl with
  | 0 => show n / 10 < 2^64; omega
  | 1 => show n % 10 < 2^64; omega
  | _ + 2 => show 0 < 2^64; decide

/-- the hypotheses of `elements_Get_eq_model_closed` hold for the example (top level, `r = 2`, key 12 of the group) -/
example : clElements_Get cfg retr0 2 rootElems c0 (k 12) (u64 0) (u64 ((k 12).dig 0)) (.key (k 12)) =
    mei_rGet c0 ((MElems.ops 2).get cfg rootElems 0 (k 12)) :=
  elements_Get_eq_model_closed cfg (k 12) retr0 T0 D (by decide) (by decide) (by decide) (by decide) (kdig 12 (by decide))
    2 0 [] rootElems c0 root_elems_inv fitG (fun _ => retrOk c0)

/-- the closed generated `Get` evaluates: key 12 is found in the collision group -/
example : clElements_Get cfg retr0 2 rootElems c0 (k 12) (u64 0) (u64 ((k 12).dig 0)) (.key (k 12)) =
    (some (.key (k 12)), some (.val (v 3)), none, c0) := by rfl

/-- key 13 has the digest path of the group but is not there -/
example : clElements_Get cfg retr0 2 rootElems c0 (k 13) (u64 0) (u64 ((k 13).dig 0)) (.key (k 13)) =
    (none, none, some .keyNotFound, c0) := by rfl

/-- the closed generated `Remove` evaluates to the model's result: key 12 leaves the group, which collapses to the single
    element of key 11 -/
example : clElements_Remove cfg retr0 2 rootElems c0 (k 12) (u64 0) (u64 ((k 12).dig 0)) (.key (k 12)) =
    mei_rGRemove rootElems c0 ((MElems.ops 2).remove cfg rootElems 0 (k 12) c0) := by rfl

/-- the closed generated `Set` evaluates to the model's result: key 13 joins the collision group -/
example : clElements_Set cfg retr0 2 rootElems c0 cfg.addr () (k 13) (u64 0) (u64 ((k 13).dig 0)) (.key (k 13)) (.val (v 4)) =
    mei_rGSet rootElems c0 ((MElems.ops 2).set cfg rootElems 0 (k 13) (v 4) c0) := by rfl

/-- ... and key 35 collides with the single element of key 25: a new inline group is born -/
example : clElements_Set cfg retr0 2 rootElems c0 cfg.addr () (k 26) (u64 0) (u64 ((k 26).dig 0)) (.key (k 26)) (.val (v 4)) =
    mei_rGSet rootElems c0 ((MElems.ops 2).set cfg rootElems 0 (k 26) (v 4) c0) := by rfl

end Atree.TransEq.MclEx

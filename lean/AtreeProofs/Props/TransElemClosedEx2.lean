import AtreeProofs.Props.TransElemClosedInvS
import AtreeProofs.Props.TransElemClosedEx
/-
  Non-vacuity of the FULL closed `Remove` / `Set` theorems: on the two-level example of `Iter/MapExample.lean`
  (inline collision group with keys 11 / 12) every hypothesis of `elements_Remove_eq_model_closed` (key 12) and of
  `elements_Set_eq_model_closed` (key 13, which joins the group) holds.  The range conditions are decided by their
  Boolean mirrors `mcl_fitRB` / `mcl_fitSB`.
-/
namespace Atree.TransEq.MclEx
open Atree Atree.TransEq Atree.IterExample

theorem fitR_root : mcl_FitR cfg (k 12) 2 rootElems 0 c0 := mcl_fitRB_sound cfg (k 12) 2 rootElems 0 c0 (by decide)

/-- every hypothesis of `elements_Remove_eq_model_closed` holds on the example (top level, key 12 of the group) -/
example : clElements_Remove cfg retr0 2 rootElems c0 (k 12) (u64 0) (u64 ((k 12).dig 0)) (.key (k 12)) =
    mei_rGRemove rootElems c0 ((MElems.ops 2).remove cfg rootElems 0 (k 12) c0) :=
  elements_Remove_eq_model_closed cfg (k 12) retr0 T0 D (by decide) (by decide) (by decide) (by decide) (kdig 12 (by decide))
    2 0 [] rootElems c0 root_elems_inv fitR_root (fun _ => retrOk c0)

theorem fitS_root : mcl_FitS cfg (k 13) (v 4) 2 rootElems 0 c0 :=
  mcl_fitSB_sound cfg (k 13) (v 4) 2 rootElems 0 c0 (by decide)

/-- every hypothesis of `elements_Set_eq_model_closed` holds on the example (top level, key 13 joins the group) -/
example : clElements_Set cfg retr0 2 rootElems c0 cfg.addr () (k 13) (u64 0) (u64 ((k 13).dig 0)) (.key (k 13)) (.val (v 4)) =
    mei_rGSet rootElems c0 ((MElems.ops 2).set cfg rootElems 0 (k 13) (v 4) c0) :=
  elements_Set_eq_model_closed cfg (k 13) (v 4) retr0 D (by decide) (by decide) (by decide) (by decide) (by decide)
    (kdig 13 (by decide)) 2 0 [] rootElems c0 root_elems_inv fitS_root fitG (fun _ => retrOk c0)

end Atree.TransEq.MclEx

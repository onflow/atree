import AtreeProofs.Props.TransElemClosedBase
import AtreeProofs.Props.TransElemsGet
import AtreeProofs.Props.TransElemsSet
import AtreeProofs.Props.TransElemsRemove
/-
  The step "unit A under an environment with `EnvAOn` gives closed `elements` methods of a digest table
  that agree with `HkeyElems.get / set / remove` on guarded arguments" (`mcl_gopsH_get / _set / _remove / _new`).
-/
namespace Atree.TransEq
open Atree

section stepH
variable {α : Type} (o : ElemsOps α) (cfg : MCfg) (k : MKey) (v : Elem) (envA : MKey → mcl_EnvA α)
variable {Pg Ps Pr : MElemF α → Nat → Ctx → Prop}

/-- guard of `Get` on a digest table: well-formed table, the key's digest is a `uint64`, the elements satisfy `Pg` -/
structure mcl_QgH (Pg : MElemF α → Nat → Ctx → Prop) (g : HkeyElems α) (lvl : Nat) (c : Ctx) : Prop where
  ok : mel_HOk g
  dig : k.dig lvl < 2^64
  elems : ∀ (i : Nat) (el : MElemF α), g.elems[i]? = some el → Pg el lvl c

theorem mcl_gopsH_get (hA : EnvAOn o cfg k v (envA k) Pg Ps Pr) (g : HkeyElems α) (c : Ctx) (lvl : Nat)
    (hl : lvl < 2^64) (hL : cfg.L < 2^64) (hQ : mcl_QgH k Pg g lvl c) :
    (mcl_gopsH envA).get g c k (u64 lvl) (u64 (k.dig lvl)) (.key k) = mei_rGet c ((HkeyElems.ops o).get cfg g lvl k) := by
  show (match Gen.TransElems.hkeyElements_Get (envA k) (mel_cH g) c (u64 lvl) (u64 (k.dig lvl)) (.key k) with
    | some r => r
    | none => (none, none, some .goPanic, c)) = _
  rw [hkeyElements_Get_eq_model_on o cfg k v (envA k) hA g hQ.ok lvl c hl hL hQ.dig hQ.elems]
  rw [mel_rGet_eq_mei]
  rfl

/-- guard of `Remove` on a digest table -/
structure mcl_QrH (Pr : MElemF α → Nat → Ctx → Prop) (g : HkeyElems α) (lvl : Nat) (c : Ctx) : Prop where
  ok : mel_HOk g
  fit : mcl_HFit g
  dig : k.dig lvl < 2^64
  hsz : ∀ el ∈ g.elems, Gen.digestSize + el.size o ≤ g.size
  res : ∀ rk rv g' c', HkeyElems.remove o cfg g lvl k c = .ok (rk, rv, g', c') → mcl_HFit g'
  elems : ∀ (i : Nat) (el : MElemF α), g.elems[i]? = some el → Pr el lvl c

theorem mcl_gopsH_remove (hA : EnvAOn o cfg k v (envA k) Pg Ps Pr) (g : HkeyElems α) (c : Ctx) (lvl : Nat)
    (hl : lvl < 2^64) (hL : cfg.L < 2^64) (hQ : mcl_QrH o cfg k Pr g lvl c) :
    (mcl_gopsH envA).remove g c k (u64 lvl) (u64 (k.dig lvl)) (.key k) =
      mei_rGRemove g c ((HkeyElems.ops o).remove cfg g lvl k c) := by
  show (match Gen.TransElems.hkeyElements_Remove (envA k) (mel_cH g) c (u64 lvl) (u64 (k.dig lvl)) (.key k) with
    | some r => (r.1, r.2.1, r.2.2.1, mcl_dH r.2.2.2.1, r.2.2.2.2)
    | none => (none, none, some .goPanic, g, c)) = _
  rw [hkeyElements_Remove_eq_model_on o cfg k v (envA k) hA g hQ.ok lvl c hl hL hQ.dig hQ.hsz hQ.elems]
  show _ = mei_rGRemove g c (HkeyElems.remove o cfg g lvl k c)
  have hres := hQ.res
  rcases hr : HkeyElems.remove o cfg g lvl k c with err | ⟨rk, rv, g', c'⟩
  · simp only [mel_rRemove, mei_rGRemove, mcl_dH_cH g hQ.fit]
  · simp only [mel_rRemove, mei_rGRemove, mcl_dH_cH g' (hres rk rv g' c' hr)]

/-- guard of `Set` on a digest table -/
structure mcl_QsH (Pg Ps : MElemF α → Nat → Ctx → Prop) (g : HkeyElems α) (lvl : Nat) (c : Ctx) : Prop where
  ok : mel_HOk g
  fit : mcl_HFit g
  dig : k.dig lvl < 2^64
  cnt : ∀ el ∈ g.elems, el.count o < 2^32
  nsz : (newSingleElement cfg.T cfg.addr k v c).1.size < 2^32
  res : ∀ ks old g' c', HkeyElems.set o cfg g lvl k v c = .ok (ks, old, g', c') → mcl_HFit g'
  elemsG : ∀ (i : Nat) (el : MElemF α), g.elems[i]? = some el → Pg el lvl c
  elemsS : ∀ (i : Nat) (el : MElemF α), g.elems[i]? = some el → Ps el lvl c

theorem mcl_gopsH_set (hA : EnvAOn o cfg k v (envA k) Pg Ps Pr) (g : HkeyElems α) (c : Ctx) (lvl : Nat) (b : Unit)
    (hl : lvl < 2^64) (hL : cfg.L < 2^64) (hcl : cfg.climit < 2^32) (hQ : mcl_QsH o cfg k v Pg Ps g lvl c) :
    (mcl_gopsH envA).set g c cfg.addr b k (u64 lvl) (u64 (k.dig lvl)) (.key k) (.val v) =
      mei_rGSet g c ((HkeyElems.ops o).set cfg g lvl k v c) := by
  show (match Gen.TransElems.hkeyElements_Set (envA k) (mel_cH g) c cfg.addr (u64 lvl) (u64 (k.dig lvl)) (.key k) (.val v) with
    | some r => (r.1, r.2.1, r.2.2.1, mcl_dH r.2.2.2.1, r.2.2.2.2)
    | none => (none, none, some .goPanic, g, c)) = _
  rw [hkeyElements_Set_eq_model_on o cfg k v (envA k) hA g hQ.ok lvl c hl hL hQ.dig hQ.fit.level hcl hQ.cnt hQ.nsz
    hQ.elemsG hQ.elemsS]
  show _ = mei_rGSet g c (HkeyElems.set o cfg g lvl k v c)
  have hres := hQ.res
  rcases hr : HkeyElems.set o cfg g lvl k v c with err | ⟨ks, old, g', c'⟩
  · simp only [mel_rSet, mei_rGSet, mcl_dH_cH g hQ.fit]
  · simp only [mel_rSet, mei_rGSet, mcl_dH_cH g' (hres ks old g' c' hr)]

/-- guard of the constructor of a one-element digest table -/
def mcl_QnH (lvl : Nat) (x : SElem) : Prop :=
  x.key.dig lvl < 2^64 ∧ Gen.hkeyElementsPrefixSize + Gen.digestSize + x.size < 2^32

/-- the one-element digest table: `newHkeyElementsWithElement` -/
theorem mcl_gopsH_new (lvl : Nat) (x : SElem) (g : HkeyElems α) (hl : lvl < 2^64) (hQ : mcl_QnH lvl x)
    (hg : (HkeyElems.ops o).newWith cfg lvl x = .ok g) :
    (if lvl = cfg.L then (mcl_gopsH envA).newS (u64 lvl) (mei_cE x) = g
     else (mcl_gopsH envA).newH (u64 lvl) (u64 (x.key.dig lvl)) (.single (mei_cE x)) = g) := by
  obtain ⟨hd, hs⟩ := hQ
  have hx' : x.size < 2^32 := by omega
  simp only [HkeyElems.ops] at hg
  by_cases h : lvl ≥ cfg.L
  · simp only [h, if_true, reduceCtorEq] at hg
  · simp only [h, if_false, Except.ok.injEq] at hg
    have hne : lvl ≠ cfg.L := by omega
    rw [if_neg hne, ← hg]
    show ({ level := (u64 lvl).toNat, hkeys := [(u64 (x.key.dig lvl)).toNat], elems := [.single (mei_il_inv (mei_cE x))],
            size := (UInt32.ofNat Gen.hkeyElementsPrefixSize + UInt32.ofNat Gen.digestSize + (mei_cE x).size).toNat }
            : HkeyElems α) = _
    have e1 : (UInt32.ofNat Gen.hkeyElementsPrefixSize + UInt32.ofNat Gen.digestSize + (mei_cE x).size)
        = u32 (Gen.hkeyElementsPrefixSize + Gen.digestSize + x.size) := by
      show u32 _ + u32 _ + u32 _ = _
      rw [u32_add_eq, u32_add_eq]
    rw [e1, u32_toNat hs, u64_toNat hl, u64_toNat hd, mei_il_inv_cE x hx']

end stepH
end Atree.TransEq

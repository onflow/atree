import AtreeProofs.Props.TransElemClosedSlab
import AtreeProofs.Map.HkeyBasics
/-
  The guards of the closed functions follow from the map element invariant `ElemsInv` and explicit `uint`
  range conditions on MODEL values.  Done here for `Get` (`mcl_QG_of_inv`), giving the final statements
  `elements_Get_eq_model_closed` and `MapDataSlab_Get_eq_model_closed`.
-/
namespace Atree.TransEq
open Atree

/-- range condition of `Get`: every digest of every (nested) digest table is a `uint64`, fewer than 2^62 entries per
    table -/
def mcl_FitG : (r : Nat) → MElems r → Prop
  | 0, _ => True
  | r + 1, (he : HkeyElems (MElems r)) =>
    (∀ x ∈ he.hkeys, x < 2^64) ∧ he.hkeys.length < 2^62 ∧
    ∀ el ∈ he.elems, ∀ g, mei_nested el = some g → mcl_FitG r g

/-- a Boolean check of a successful result (`true` on an error): the clauses "for every result of the model's
    operation" quantify over this one value -/
def okAll {β : Type} (x : Except MErr β) (p : β → Bool) : Bool :=
  match x with | .ok b => p b | .error _ => true

theorem okAll_ok {β : Type} {x : Except MErr β} {p : β → Bool} (h : okAll x p = true) {b : β} (hx : x = .ok b) :
    p b = true := by
  rw [hx] at h; exact h

/-- `mcl_FitG`, decided by the same recursion -/
def mcl_fitGB : (r : Nat) → MElems r → Bool
  | 0, _ => true
  | r + 1, (he : HkeyElems (MElems r)) =>
    he.hkeys.all (fun x => decide (x < 2^64)) && decide (he.hkeys.length < 2^62) &&
    he.elems.all (fun el => match mei_nested el with | some g => mcl_fitGB r g | none => true)

theorem mcl_fitGB_sound : ∀ (r : Nat) (e : MElems r), mcl_fitGB r e = true → mcl_FitG r e
  | 0, _, _ => trivial
  | r + 1, (he : HkeyElems (MElems r)), h => by
    simp only [mcl_fitGB, Bool.and_eq_true, decide_eq_true_eq, List.all_eq_true] at h
    refine ⟨h.1.1, h.1.2, fun el hel g hg => mcl_fitGB_sound r g ?_⟩
    have := h.2 el hel
    rwa [hg] at this

/-- what the storage holds: in state `c` it returns, for every external collision group among the (first-level)
    elements of `e`, the slab the model embeds in the element -/
def mcl_RetrOk {X : Type} (retr : mcl_Retrs X) (c : Ctx) : (r : Nat) → MElems r → Prop
  | 0, _ => True
  | r + 1, (he : HkeyElems (MElems r)) =>
    ∀ id sz s, MElemF.ext id sz s ∈ he.elems → retr r c id = (.dataSlab (mei_cGroupSlab s), true, none, c)

section inv
variable {X : Type} (k : MKey) (retr : mcl_Retrs X) (T L : Nat) (D : DigestFn L)

/-- What `ElemsInv` of a digest table gives for the element at index `i`: the invariant of its nested group one level
    deeper (under the path extended by that element's digest), external groups at the first level only, and a single
    element on that path. -/
theorem mcl_inv_nested {T L : Nat} {D : DigestFn L} {r level : Nat} {path : List Nat} {e : HkeyElems (MElems r)}
    (hinv : ElemsInv T L D (r + 1) level path e) {i : Nat} {el : MElemF (MElems r)} (hi : e.elems[i]? = some el) :
    ∃ hk, (∀ g, mei_nested el = some g → ElemsInv T L D r (level + 1) (path ++ [hk]) g) ∧
      (∀ id sz s, el = .ext id sz s → level = 0) ∧
      (∀ x, el = .single x → SElemOk T L D x ∧ x.key.digs.take (level + 1) = path ++ [hk]) := by
  obtain ⟨_, _, hlen, _, _, hel⟩ := hinv
  have hlt : i < e.hkeys.length := hlen ▸ (List.getElem?_eq_some_iff.mp hi).1
  have h := hel i _ el (List.getElem?_eq_getElem hlt) hi
  refine ⟨e.hkeys[i], ?_, ?_, ?_⟩
  · intro g hg
    cases el with
    | single x => cases hg
    | inl g' => cases hg; exact h.1
    | ext id sz s => cases hg; exact h.2.2.2.2.2.1
  · intro id sz s hs; subst hs; exact h.1
  · intro x hx; subst hx; exact h

/-- an `elements` value under the invariant sits at a digest level the digester has -/
theorem mcl_inv_level {T L : Nat} {D : DigestFn L} {r level : Nat} {path : List Nat} {e : MElems r}
    (hinv : ElemsInv T L D r level path e) : level ≤ L := by
  cases r with
  | zero => exact Nat.le_of_eq hinv.1
  | succ r => have := hinv.1; omega

theorem mcl_QG_of_inv (hkd : ∀ lvl, k.dig lvl < 2^64) (hL : L < 2^64) (c : Ctx) :
    ∀ (r level : Nat) (path : List Nat) (e : MElems r), ElemsInv T L D r level path e → mcl_FitG r e →
      (level = 0 → mcl_RetrOk retr c r e) → mcl_QG k retr r e level c
  | 0, _, _, _, _, _, _ => trivial
  | r + 1, level, path, (e : HkeyElems (MElems r)), hinv, hfit, hret => by
    have hLr : level + r + 1 = L := hinv.1
    have hlen := ((elemsInv_succ_iff T L D r level path e).1 hinv).len_eq
    obtain ⟨hdig, hshort, hnest⟩ := hfit
    show mcl_QgH k (mcl_Pg (retr r) (mcl_QG k retr r)) e level c
    refine ⟨⟨hlen.symm, hdig, hshort⟩, hkd level, ?_⟩
    intro i el hi
    have hmem : el ∈ e.elems := List.mem_of_getElem? hi
    obtain ⟨hk, hsub, hext, _⟩ := mcl_inv_nested hinv hi
    refine ⟨by omega, fun g hg => ?_, fun id sz s hs => hret (hext id sz s hs) id sz s (hs ▸ hmem)⟩
    exact mcl_QG_of_inv hkd hL c r (level + 1) _ g (hsub g hg) (hnest _ hmem g hg) (fun h0 => by omega)

end inv

section final
variable {X : Type} (cfg : MCfg) (k : MKey) (retr : mcl_Retrs X) (T : Nat) (D : DigestFn cfg.L)

/-- **CLOSED `Get`.**  For every level index `r`: under the map element invariant, digests (of the tables and of the key)
    in `uint64` range, fewer than 2^62 entries per table, and a storage that returns the slabs of the first-level external
    groups, the closed generated `elements.Get` (generated `hkeyElements_Get` ⇄ generated `element_Get` dispatchers ⇄ ... ⇄
    generated `singleElements_Get`; no model operation inside) applied to `e` equals the model's `(MElems.ops r).get`.
    No hypothesis about generated code or an environment. -/
theorem elements_Get_eq_model_closed (hL : cfg.L < 2^64) (hT : cfg.T < 2^32) (hTe : maxInlineMapElem cfg.T < 2^32)
    (hcl : cfg.climit < 2^32) (hkd : ∀ lvl, k.dig lvl < 2^64)
    (r level : Nat) (path : List Nat) (e : MElems r) (c : Ctx)
    (hinv : ElemsInv T cfg.L D r level path e) (hfit : mcl_FitG r e) (hret : level = 0 → mcl_RetrOk retr c r e) :
    clElements_Get cfg retr r e c k (u64 level) (u64 (k.dig level)) (.key k) =
      mei_rGet c ((MElems.ops r).get cfg e level k) := by
  exact elements_Get_eq_model_closed_of_guard cfg k retr hL hT hTe hcl r e level c
    (Nat.lt_of_le_of_lt (mcl_inv_level hinv) hL)
    (mcl_QG_of_inv k retr T cfg.L D hkd hL c r level path e hinv hfit hret)

/-- **CLOSED `Get` on a data slab of the tree** (`MapSlab.Get` promoted to the closed `elements.Get`) = `MDataSlab.get` -/
theorem MapDataSlab_Get_eq_model_closed {r : Nat} (hr : cfg.L = r + 1) (D' : DigestFn (r + 1))
    (hL : cfg.L < 2^64) (hT : cfg.T < 2^32) (hTe : maxInlineMapElem cfg.T < 2^32)
    (hcl : cfg.climit < 2^32) (hkd : ∀ lvl, k.dig lvl < 2^64) (top : Bool)
    (s : MDataSlab r) (x : Option X) (c : Ctx) (hinv : MDataInv T D' top s) (hfit : mcl_FitG (r + 1) s.elems)
    (hret : mcl_RetrOk retr c (r + 1) s.elems) :
    (clEnvB cfg retr (r + 1)).MapSlab_Get (.dataSlab (mei_cData s x)) c k (u64 0) (u64 (k.dig 0)) (.key k) =
      mei_rGet c (MDataSlab.get cfg s k) :=
  MapDataSlab_Get_eq_model_closed_of_guard cfg k retr hL hT hTe hcl s x c
    (mcl_QG_of_inv k retr T (r + 1) D' hkd (hr ▸ hL) c (r + 1) 0 [] s.elems hinv.elems_inv hfit (fun _ => hret))

/-! ### `Remove` and `Set` under the recursive guards

  The guards `mcl_QR` / `mcl_QS` are predicates on MODEL values and on what the storage returns only (well-formed tables,
  `uint` ranges of the argument AND of the model's results at every level on the search path, `digestSize + size(el) ≤
  size` bookkeeping, the model's `newWith` succeeds on a collision, owner address of the group slabs): no hypothesis
  about generated code or an environment is left.  They are derived from `ElemsInv` and range conditions in
  `TransElemClosedInvR` / `TransElemClosedInvS` (`mcl_QR_of_inv`, `mcl_QS_of_inv`), which state the equations from the
  invariant. -/

theorem elements_Remove_eq_model_closed_partial (hL : cfg.L < 2^64) (hT : cfg.T < 2^32) (hTe : maxInlineMapElem cfg.T < 2^32)
    (hcl : cfg.climit < 2^32) (r : Nat) (e : MElems r) (level : Nat) (c : Ctx) (hl : level < 2^64)
    (hQ : mcl_QR cfg k retr r e level c) :
    clElements_Remove cfg retr r e c k (u64 level) (u64 (k.dig level)) (.key k) =
      mei_rGRemove e c ((MElems.ops r).remove cfg e level k c) :=
  elements_Remove_eq_model_closed_of_guard cfg k retr hL hT hTe hcl r e level c hl hQ

theorem elements_Set_eq_model_closed_partial (v : Elem) (hL : cfg.L < 2^64) (hT : cfg.T < 2^32)
    (hTe : maxInlineMapElem cfg.T < 2^32) (hcl : cfg.climit < 2^32) (r : Nat) (e : MElems r) (level : Nat) (c : Ctx)
    (hl : level < 2^64) (hQ : mcl_QS cfg k v retr r e level c) :
    clElements_Set cfg retr r e c cfg.addr () k (u64 level) (u64 (k.dig level)) (.key k) (.val v) =
      mei_rGSet e c ((MElems.ops r).set cfg e level k v c) :=
  elements_Set_eq_model_closed_of_guard cfg k v retr hL hT hTe hcl r e level c hl hQ

/-- `MapDataSlab.Set` under the closed environment = `MDataSlab.set` (guard `mcl_QS` instead of `MDataInv` + ranges) -/
theorem MapDataSlab_Set_eq_model_closed_partial (v : Elem) (hL : cfg.L < 2^64) (hT : cfg.T < 2^32)
    (hTe : maxInlineMapElem cfg.T < 2^32) (hcl : cfg.climit < 2^32) {r : Nat} (s : MDataSlab r) (x : Option X)
    (hx : x.isSome = s.root) (c : Ctx) (ha : s.hdr.id.addr = cfg.addr) (hQ : mcl_QS cfg k v retr (r + 1) s.elems 0 c) :
    Gen.TransElem.MapDataSlab_Set (clEnvB cfg retr (r + 1)) (mei_cData s x) c () k (u64 0) (u64 (k.dig 0)) (.key k) (.val v) =
      match MDataSlab.set cfg s k v c with
      | .ok (ks, old, s', c') => some (some (.key ks), old.map .val, none, mei_cData s' x, c')
      | .error err => some (none, none, some err, mei_cData s x, c) :=
  MapDataSlab_Set_eq_model_closed_of_guard cfg k v retr hL hT hTe hcl s x hx c ha hQ

/-- `MapDataSlab.Remove` under the closed environment = `MDataSlab.remove` (guard `mcl_QR` instead of `MDataInv` + ranges) -/
theorem MapDataSlab_Remove_eq_model_closed_partial (hL : cfg.L < 2^64) (hT : cfg.T < 2^32)
    (hTe : maxInlineMapElem cfg.T < 2^32) (hcl : cfg.climit < 2^32) {r : Nat} (s : MDataSlab r) (x : Option X)
    (hx : x.isSome = s.root) (c : Ctx) (hQ : mcl_QR cfg k retr (r + 1) s.elems 0 c) :
    Gen.TransElem.MapDataSlab_Remove (clEnvB cfg retr (r + 1)) (mei_cData s x) c k (u64 0) (u64 (k.dig 0)) (.key k) =
      match MDataSlab.remove cfg s k c with
      | .ok (rk, rv, s', c') => some (some (.key rk), some (.val rv), none, mei_cData s' x, c')
      | .error err => some (none, none, some err, mei_cData s x, c) :=
  MapDataSlab_Remove_eq_model_closed_of_guard cfg k retr hL hT hTe hcl s x hx c hQ

end final
end Atree.TransEq

import AtreeProofs.Props.TransElemClosedInv
/-
  The guard `mcl_QR` of the closed `Remove` follows from the map element invariant `ElemsInv` and RANGE
  conditions on model values (`mcl_FitR`: the argument and - at the digest-table levels - the model's results are in
  `uint` range), giving the FULL statements `elements_Remove_eq_model_closed`, `MapDataSlab_Remove_eq_model_closed`.
  The STRUCTURAL parts of the guard (table well-formedness, `digestSize + size(el) ≤ size`, the storage returns the
  first-level group slabs, `SingleElems.remove` never says `.goPanic`, the last-level result fits) are derived.
-/
namespace Atree.TransEq
open Atree

/-- the model's last-level `remove` never reports a Go panic (the index found is in range) -/
theorem mcl_single_remove_noPanic (cfg : MCfg) (g : SingleElems) (lvl : Nat) (k : MKey) (c : Ctx) :
    SingleElems.remove cfg g lvl k c ≠ .error .goPanic := by
  unfold SingleElems.remove
  split
  · simp
  · cases hf : g.elems.findIdx? (fun x => x.key.same k) with
    | none => simp
    | some j =>
      obtain ⟨x, hx, _⟩ := msl_findIdx?_getElem? _ _ _ hf
      simp [hx]

/-- the result of the model's last-level `remove` is in range when the argument is -/
theorem mcl_single_remove_fit (cfg : MCfg) (g : SingleElems) (lvl : Nat) (k : MKey) (c : Ctx) (hg : mcl_SFit g)
    (rk : MKey) (rv : Elem) (g' : SingleElems) (c' : Ctx) (h : SingleElems.remove cfg g lvl k c = .ok (rk, rv, g', c')) :
    mcl_SFit g' := by
  unfold SingleElems.remove at h
  split at h
  · cases h
  · cases hf : g.elems.findIdx? (fun x => x.key.same k) with
    | none => rw [hf] at h; cases h
    | some j =>
      rw [hf] at h
      simp only at h
      cases hx : g.elems[j]? with
      | none => rw [hx] at h; cases h
      | some x =>
        rw [hx] at h
        simp only [Except.ok.injEq, Prod.mk.injEq] at h
        obtain ⟨_, _, rfl, _⟩ := h
        exact ⟨by have := hg.size; show g.size - x.size < 2^32; omega, hg.level,
          fun y hy => hg.elems y (List.mem_of_mem_eraseIdx hy)⟩

/-- RANGE condition of the closed `Remove` (argument and model results), by recursion on the levels left -/
def mcl_FitR (cfg : MCfg) (k : MKey) : (r : Nat) → MElems r → Nat → Ctx → Prop
  | 0, (g : SingleElems), _, _ => mcl_SFit g
  | r + 1, (g : HkeyElems (MElems r)), lvl, c =>
    mcl_HFit g ∧ g.hkeys.length < 2^62 ∧
    (∀ rk rv g' c', HkeyElems.remove (MElems.ops r) cfg g lvl k c = .ok (rk, rv, g', c') → mcl_HFit g') ∧
    ∀ el ∈ g.elems,
      (∀ g0, mei_nested el = some g0 → mcl_FitR cfg k r g0 (lvl + 1) c ∧
        ∀ rk rv g' c', (MElems.ops r).remove cfg g0 (lvl + 1) k c = .ok (rk, rv, g', c') → (MElems.ops r).count g' < 2^32) ∧
      (∀ rk rv el' c', el.remove (MElems.ops r) cfg lvl k c = .ok (rk, rv, some el', c') → mcl_ElFit el')

/-- `mcl_FitR`, decided by the same recursion: each clause about the model's results is one evaluation -/
def mcl_fitRB (cfg : MCfg) (k : MKey) : (r : Nat) → MElems r → Nat → Ctx → Bool
  | 0, (g : SingleElems), _, _ => mcl_sfitB g
  | r + 1, (g : HkeyElems (MElems r)), lvl, c =>
    mcl_hfitB g && decide (g.hkeys.length < 2^62) &&
    okAll (HkeyElems.remove (MElems.ops r) cfg g lvl k c) (fun x => mcl_hfitB x.2.2.1) &&
    g.elems.all (fun el =>
      (match mei_nested el with
       | some g0 => mcl_fitRB cfg k r g0 (lvl + 1) c &&
           okAll ((MElems.ops r).remove cfg g0 (lvl + 1) k c) (fun x => decide ((MElems.ops r).count x.2.2.1 < 2^32))
       | none => true) &&
      okAll (el.remove (MElems.ops r) cfg lvl k c) (fun x => mcl_elFitB x.2.2.1))

theorem mcl_fitRB_sound (cfg : MCfg) (k : MKey) :
    ∀ (r : Nat) (e : MElems r) (lvl : Nat) (c : Ctx), mcl_fitRB cfg k r e lvl c = true → mcl_FitR cfg k r e lvl c
  | 0, (g : SingleElems), _, _, h => mcl_sfitB_sound h
  | r + 1, (g : HkeyElems (MElems r)), lvl, c, h => by
    simp only [mcl_fitRB, Bool.and_eq_true, decide_eq_true_eq, List.all_eq_true] at h
    obtain ⟨⟨⟨h1, h2⟩, h3⟩, h4⟩ := h
    refine ⟨mcl_hfitB_sound h1, h2, fun rk rv g' c' hr => mcl_hfitB_sound (okAll_ok h3 hr), fun el hel => ⟨?_, ?_⟩⟩
    · intro g0 hg0
      have := (h4 el hel).1
      rw [hg0] at this
      simp only [Bool.and_eq_true] at this
      exact ⟨mcl_fitRB_sound cfg k r g0 (lvl + 1) c this.1,
        fun rk rv g' c' hr => of_decide_eq_true (okAll_ok this.2 hr)⟩
    · intro rk rv el' c' hr
      exact mcl_elFitB_sound (okAll_ok (h4 el hel).2 hr)

section inv
variable {X : Type} (cfg : MCfg) (k : MKey) (retr : mcl_Retrs X) (T L : Nat) (D : DigestFn L)

theorem mcl_QR_of_inv (hkd : ∀ lvl, k.dig lvl < 2^64) (hL : L < 2^64) (c : Ctx) :
    ∀ (r level : Nat) (path : List Nat) (e : MElems r), ElemsInv T L D r level path e → mcl_FitR cfg k r e level c →
      (level = 0 → mcl_RetrOk retr c r e) → mcl_QR cfg k retr r e level c
  | 0, level, _, (e : SingleElems), hinv, hfit, _ => by
    show mcl_QR0 cfg k e level c
    obtain ⟨_, _, hsize, _, _⟩ := hinv
    refine ⟨hfit, ?_, mcl_single_remove_fit cfg e level k c hfit, mcl_single_remove_noPanic cfg e level k c⟩
    intro x hx _
    have := le_sum_map_of_mem (fun x : SElem => x.size) hx
    omega
  | r + 1, level, path, (e : HkeyElems (MElems r)), hinv, hfit, hret => by
    have hLr : level + r + 1 = L := hinv.1
    have hlen := ((elemsInv_succ_iff T L D r level path e).1 hinv).len_eq
    have hsize := ((elemsInv_succ_iff T L D r level path e).1 hinv).size_eq
    obtain ⟨hf, hshort, hres, hels⟩ := hfit
    show mcl_QrH (MElems.ops r) cfg k (mcl_Pr (MElems.ops r) cfg k (retr r) (mcl_QR cfg k retr r)) e level c
    refine ⟨⟨hlen.symm, hf.dig, hshort⟩, hf, hkd level, ?_, hres, ?_⟩
    · intro el hmem
      have := le_sum_map_of_mem (fun e : MElemF (MElems r) => e.size (MElems.ops r) + Gen.digestSize) hmem
      simp only [HkeyElems.elemSizes] at hsize
      simp only [Gen.hkeyElementsPrefixSize] at hsize
      omega
    · intro i el hi
      have hmem : el ∈ e.elems := List.mem_of_getElem? hi
      obtain ⟨hk, hsub, hext, _⟩ := mcl_inv_nested hinv hi
      obtain ⟨hnest, hresEl⟩ := hels el hmem
      refine ⟨by omega, fun g hg => ?_, fun id sz s hs => hret (hext id sz s hs) id sz s (hs ▸ hmem),
        fun g hg => (hnest g hg).2, hresEl⟩
      exact mcl_QR_of_inv hkd hL c r (level + 1) _ g (hsub g hg) (hnest g hg).1 (fun h0 => by omega)

end inv

section final
variable {X : Type} (cfg : MCfg) (k : MKey) (retr : mcl_Retrs X) (T : Nat) (D : DigestFn cfg.L)

/-- **CLOSED `Remove`.**  For every level index `r`: under the map element invariant, the range conditions `mcl_FitR`
    (sizes `< 2^32`, levels / digests `< 2^64`, fewer than 2^62 entries per table - of the argument and, at the digest-table
    levels, of the model's results), digests of the key in `uint64` range, and a storage that returns the slabs of the
    first-level external groups, the closed generated `elements.Remove` applied to `e` equals the model's
    `(MElems.ops r).remove`: Go results, the receiver's new state, the storage state.  No hypothesis about generated code
    or an environment. -/
theorem elements_Remove_eq_model_closed (hL : cfg.L < 2^64) (hT : cfg.T < 2^32) (hTe : maxInlineMapElem cfg.T < 2^32)
    (hcl : cfg.climit < 2^32) (hkd : ∀ lvl, k.dig lvl < 2^64)
    (r level : Nat) (path : List Nat) (e : MElems r) (c : Ctx)
    (hinv : ElemsInv T cfg.L D r level path e) (hfit : mcl_FitR cfg k r e level c)
    (hret : level = 0 → mcl_RetrOk retr c r e) :
    clElements_Remove cfg retr r e c k (u64 level) (u64 (k.dig level)) (.key k) =
      mei_rGRemove e c ((MElems.ops r).remove cfg e level k c) := by
  exact elements_Remove_eq_model_closed_of_guard cfg k retr hL hT hTe hcl r e level c
    (Nat.lt_of_le_of_lt (mcl_inv_level hinv) hL)
    (mcl_QR_of_inv cfg k retr T cfg.L D hkd hL c r level path e hinv hfit hret)

/-- **CLOSED `MapDataSlab.Remove`** on a data slab of the tree = the model's `MDataSlab.remove` -/
theorem MapDataSlab_Remove_eq_model_closed {r : Nat} (hr : cfg.L = r + 1) (D' : DigestFn (r + 1))
    (hL : cfg.L < 2^64) (hT : cfg.T < 2^32) (hTe : maxInlineMapElem cfg.T < 2^32)
    (hcl : cfg.climit < 2^32) (hkd : ∀ lvl, k.dig lvl < 2^64) (top : Bool)
    (s : MDataSlab r) (x : Option X) (hx : x.isSome = s.root) (c : Ctx) (hinv : MDataInv T D' top s)
    (hfit : mcl_FitR cfg k (r + 1) s.elems 0 c) (hret : mcl_RetrOk retr c (r + 1) s.elems) :
    Gen.TransElem.MapDataSlab_Remove (clEnvB cfg retr (r + 1)) (mei_cData s x) c k (u64 0) (u64 (k.dig 0)) (.key k) =
      match MDataSlab.remove cfg s k c with
      | .ok (rk, rv, s', c') => some (some (.key rk), some (.val rv), none, mei_cData s' x, c')
      | .error err => some (none, none, some err, mei_cData s x, c) :=
  MapDataSlab_Remove_eq_model_closed_of_guard cfg k retr hL hT hTe hcl s x hx c
    (mcl_QR_of_inv cfg k retr T (r + 1) D' hkd (hr ▸ hL) c (r + 1) 0 [] s.elems hinv.elems_inv hfit (fun _ => hret))

end final
end Atree.TransEq

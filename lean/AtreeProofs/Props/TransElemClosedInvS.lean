import AtreeProofs.Props.TransElemClosedInvR
import AtreeProofs.Map.HkeySpec
/-
  The guard `mcl_QS` of the closed `Set` follows from the map element invariant `ElemsInv` and RANGE
  conditions on model values (`mcl_FitS`; `mcl_FitG` for the collision-limit probe), giving the FULL statements
  `elements_Set_eq_model_closed`, `MapDataSlab_Set_eq_model_closed`.  Derived from the invariant: table well-formedness,
  the model's `newWith` succeeds on a collision and its result satisfies the invariant (`MElems.opsSpec`), the storage
  returns the first-level group slabs, `SingleElems.set` never says `.goPanic`.
-/
namespace Atree.TransEq
open Atree

/-- the model's last-level `set` never reports a Go panic -/
theorem mcl_single_set_noPanic (cfg : MCfg) (g : SingleElems) (lvl : Nat) (k : MKey) (v : Elem) (c : Ctx) :
    SingleElems.set cfg g lvl k v c ≠ .error .goPanic := by
  unfold SingleElems.set
  split
  · simp
  · cases hf : g.elems.findIdx? (fun x => x.key.same k) with
    | none => simp
    | some j =>
      obtain ⟨x, hx, _⟩ := msl_findIdx?_getElem? _ _ _ hf
      simp [hx]

/-- RANGE condition of the closed `Set` (argument and model results), by recursion on the levels left -/
def mcl_FitS (cfg : MCfg) (k : MKey) (v : Elem) : (r : Nat) → MElems r → Nat → Ctx → Prop
  | 0, (g : SingleElems), lvl, c =>
    mcl_SFit g ∧ k.size < 2^32 ∧
    ∀ ks old g' c', SingleElems.set cfg g lvl k v c = .ok (ks, old, g', c') → mcl_SFit g'
  | r + 1, (g : HkeyElems (MElems r)), lvl, c =>
    mcl_HFit g ∧ g.hkeys.length < 2^62 ∧ (∀ el ∈ g.elems, el.count (MElems.ops r) < 2^32) ∧
    (newSingleElement cfg.T cfg.addr k v c).1.size < 2^32 ∧
    (∀ ks old g' c', HkeyElems.set (MElems.ops r) cfg g lvl k v c = .ok (ks, old, g', c') → mcl_HFit g') ∧
    ∀ el ∈ g.elems,
      (∀ g0, (mei_nested el = some g0 ∨ ∃ x, el = .single x ∧ (MElems.ops r).newWith cfg (lvl + 1) x = .ok g0) →
        mcl_FitS cfg k v r g0 (lvl + 1) c ∧ mcl_FitG r g0 ∧
        ∀ ks old g' c', (MElems.ops r).set cfg g0 (lvl + 1) k v c = .ok (ks, old, g', c') → (MElems.ops r).size g' + 2 < 2^32) ∧
      (∀ x, el = .single x → x.key.size < 2^32 ∧ x.size < 2^32 ∧ mcl_QN r (lvl + 1) x) ∧
      (∀ id sz s, el = .ext id sz s → s.hdr.id.addr = cfg.addr) ∧
      (∀ el' ks old c', el.set (MElems.ops r) cfg lvl k v c = .ok (el', ks, old, c') → mcl_ElFit el')

/-- the groups `Set` may enter below `el`: the nested group, or the fresh group of a resident single element -/
def mcl_setGroups {α : Type} (o : ElemsOps α) (cfg : MCfg) (lvl : Nat) : MElemF α → Option α
  | .single x => match o.newWith cfg (lvl + 1) x with | .ok g => some g | .error _ => none
  | el => mei_nested el

theorem mcl_setGroups_of {α : Type} (o : ElemsOps α) (cfg : MCfg) (lvl : Nat) (el : MElemF α) (g0 : α) :
    (mei_nested el = some g0 ∨ ∃ x, el = .single x ∧ o.newWith cfg (lvl + 1) x = .ok g0) →
      mcl_setGroups o cfg lvl el = some g0 := by
  rintro (h | ⟨x, rfl, h⟩)
  · cases el with
    | single x => cases h
    | inl g => exact h
    | ext id sz s => exact h
  · simp only [mcl_setGroups, h]

/-- `mcl_QN`, decided -/
def mcl_qnB : (r : Nat) → Nat → SElem → Bool
  | 0, _, x => decide (x.size + Gen.singleElementsPrefixSize < 2^32)
  | _ + 1, lvl, x => decide (x.key.dig lvl < 2^64) && decide (Gen.hkeyElementsPrefixSize + Gen.digestSize + x.size < 2^32)

theorem mcl_qnB_sound : ∀ (r lvl : Nat) (x : SElem), mcl_qnB r lvl x = true → mcl_QN r lvl x
  | 0, _, x, h => (of_decide_eq_true h : x.size + Gen.singleElementsPrefixSize < 2^32)
  | _ + 1, _, _, h => by
    simp only [mcl_qnB, Bool.and_eq_true, decide_eq_true_eq] at h
    exact h

/-- `mcl_FitS`, decided by the same recursion -/
def mcl_fitSB (cfg : MCfg) (k : MKey) (v : Elem) : (r : Nat) → MElems r → Nat → Ctx → Bool
  | 0, (g : SingleElems), lvl, c =>
    mcl_sfitB g && decide (k.size < 2^32) && okAll (SingleElems.set cfg g lvl k v c) (fun x => mcl_sfitB x.2.2.1)
  | r + 1, (g : HkeyElems (MElems r)), lvl, c =>
    mcl_hfitB g && decide (g.hkeys.length < 2^62) && g.elems.all (fun el => decide (el.count (MElems.ops r) < 2^32)) &&
    decide ((newSingleElement cfg.T cfg.addr k v c).1.size < 2^32) &&
    okAll (HkeyElems.set (MElems.ops r) cfg g lvl k v c) (fun x => mcl_hfitB x.2.2.1) &&
    g.elems.all (fun el =>
      (match mcl_setGroups (MElems.ops r) cfg lvl el with
       | some g0 => mcl_fitSB cfg k v r g0 (lvl + 1) c && mcl_fitGB r g0 &&
           okAll ((MElems.ops r).set cfg g0 (lvl + 1) k v c) (fun x => decide ((MElems.ops r).size x.2.2.1 + 2 < 2^32))
       | none => true) &&
      (match el with
       | .single x => decide (x.key.size < 2^32) && decide (x.size < 2^32) && mcl_qnB r (lvl + 1) x
       | .ext _ _ s => decide (s.hdr.id.addr = cfg.addr)
       | .inl _ => true) &&
      okAll (el.set (MElems.ops r) cfg lvl k v c) (fun x => mcl_elFitB (some x.1)))

theorem mcl_fitSB_sound (cfg : MCfg) (k : MKey) (v : Elem) :
    ∀ (r : Nat) (e : MElems r) (lvl : Nat) (c : Ctx), mcl_fitSB cfg k v r e lvl c = true → mcl_FitS cfg k v r e lvl c
  | 0, (g : SingleElems), lvl, c, h => by
    simp only [mcl_fitSB, Bool.and_eq_true, decide_eq_true_eq] at h
    exact ⟨mcl_sfitB_sound h.1.1, h.1.2, fun ks old g' c' hr => mcl_sfitB_sound (okAll_ok h.2 hr)⟩
  | r + 1, (g : HkeyElems (MElems r)), lvl, c, h => by
    simp only [mcl_fitSB, Bool.and_eq_true, decide_eq_true_eq, List.all_eq_true] at h
    obtain ⟨⟨⟨⟨⟨h1, h2⟩, h3⟩, h4⟩, h5⟩, h6⟩ := h
    refine ⟨mcl_hfitB_sound h1, h2, h3, h4, fun ks old g' c' hr => mcl_hfitB_sound (okAll_ok h5 hr), fun el hel => ?_⟩
    obtain ⟨⟨e1, e2⟩, e3⟩ := h6 el hel
    refine ⟨?_, ?_, ?_, fun el' ks old c' hr => mcl_elFitB_sound (okAll_ok e3 hr)⟩
    · intro g0 hg0
      rw [mcl_setGroups_of _ cfg lvl el g0 hg0] at e1
      simp only [Bool.and_eq_true] at e1
      exact ⟨mcl_fitSB_sound cfg k v r g0 (lvl + 1) c e1.1.1, mcl_fitGB_sound r g0 e1.1.2,
        fun ks old g' c' hr => of_decide_eq_true (okAll_ok e1.2 hr)⟩
    · rintro x rfl
      simp only [Bool.and_eq_true, decide_eq_true_eq] at e2
      exact ⟨e2.1.1, e2.1.2, mcl_qnB_sound r (lvl + 1) x e2.2⟩
    · rintro id sz s rfl
      exact of_decide_eq_true e2

section inv
variable {X : Type} (cfg : MCfg) (k : MKey) (v : Elem) (retr : mcl_Retrs X) (T L : Nat) (D : DigestFn L)

theorem mcl_QS_of_inv (hT : legalThreshold T = true) (hc : CfgFor cfg T L) (hkd : ∀ lvl, k.dig lvl < 2^64)
    (hL : L < 2^64) (c : Ctx) :
    ∀ (r level : Nat) (path : List Nat) (e : MElems r), ElemsInv T L D r level path e → mcl_FitS cfg k v r e level c →
      mcl_FitG r e → (level = 0 → mcl_RetrOk retr c r e) → mcl_QS cfg k v retr r e level c
  | 0, level, _, (e : SingleElems), _, hfit, _, _ => by
    show mcl_QS0 cfg k v e level c
    exact ⟨hfit.1, hfit.2.1, hfit.2.2, mcl_single_set_noPanic cfg e level k v c⟩
  | r + 1, level, path, (e : HkeyElems (MElems r)), hinv, hfit, hfitG, hret => by
    have hG := mcl_QG_of_inv k retr T L D hkd hL c (r + 1) level path e hinv hfitG hret
    have hLr : level + r + 1 = L := hinv.1
    have hlen := ((elemsInv_succ_iff T L D r level path e).1 hinv).len_eq
    obtain ⟨hf, hshort, hcnt, hnsz, hres, hels⟩ := hfit
    show mcl_QsH (MElems.ops r) cfg k v (mcl_Pg (retr r) (mcl_QG k retr r))
      (mcl_Ps (MElems.ops r) cfg k v (retr r) (mcl_QS cfg k v retr r) (mcl_QN r)) e level c
    refine ⟨⟨hlen.symm, hf.dig, hshort⟩, hf, hkd level, hcnt, hnsz, hres, hG.elems, ?_⟩
    intro i el hi
    have hmem : el ∈ e.elems := List.mem_of_getElem? hi
    obtain ⟨hk, hsub, hext, hsgl⟩ := mcl_inv_nested hinv hi
    obtain ⟨hnest, hsingle, haddr, hresEl⟩ := hels el hmem
    have S := MElems.opsSpec D hT hc r
    refine ⟨by omega, ?_, fun x hx => (hsingle x hx).2.2, ?_, fun g hg => (hnest g hg).2.2, ?_, hresEl⟩
    · intro g hg
      obtain ⟨hfS, hfG, _⟩ := hnest g hg
      rcases hg with hg | ⟨x, hx, hnw⟩
      · exact mcl_QS_of_inv hT hc hkd hL c r (level + 1) _ g (hsub g hg) hfS hfG (fun h0 => by omega)
      · obtain ⟨g1, hg1, hinv1, _⟩ := S.newWith (ℓ := level + 1) (path := path ++ [hk]) (x := x) (by omega)
          (hsgl x hx).1 (hsgl x hx).2
        rw [hnw] at hg1
        have hg' : g = g1 := Except.ok.inj hg1
        subst hg'
        exact mcl_QS_of_inv hT hc hkd hL c r (level + 1) _ g hinv1 hfS hfG (fun h0 => by omega)
    · intro id sz s hs
      exact ⟨haddr id sz s hs, hret (hext id sz s hs) id sz s (hs ▸ hmem)⟩
    · intro x hx
      obtain ⟨h1, h2, _⟩ := hsingle x hx
      refine ⟨h1, h2, fun _ => ?_⟩
      obtain ⟨g1, hg1, _, _⟩ := S.newWith (ℓ := level + 1) (path := path ++ [hk]) (x := x) (by omega)
        (hsgl x hx).1 (hsgl x hx).2
      exact ⟨g1, hg1⟩

end inv

section final
variable {X : Type} (cfg : MCfg) (k : MKey) (v : Elem) (retr : mcl_Retrs X) (D : DigestFn cfg.L)

/-- **CLOSED `Set`.**  For every level index `r`: under the map element invariant (threshold `cfg.T` legal), the range
    conditions `mcl_FitS` (sizes / counts `< 2^32`, levels / digests `< 2^64`, fewer than 2^62 entries per table - of the
    argument and of the model's results; owner address of the group slabs) and `mcl_FitG`, digests of the key in `uint64`
    range, and a storage that returns the slabs of the first-level external groups, the closed generated `elements.Set`
    applied to `e` equals the model's `(MElems.ops r).set`: Go results, the receiver's new state, the storage state.  No
    hypothesis about generated code or an environment. -/
theorem elements_Set_eq_model_closed (hLT : legalThreshold cfg.T = true) (hL : cfg.L < 2^64) (hT : cfg.T < 2^32)
    (hTe : maxInlineMapElem cfg.T < 2^32) (hcl : cfg.climit < 2^32) (hkd : ∀ lvl, k.dig lvl < 2^64)
    (r level : Nat) (path : List Nat) (e : MElems r) (c : Ctx)
    (hinv : ElemsInv cfg.T cfg.L D r level path e) (hfit : mcl_FitS cfg k v r e level c) (hfitG : mcl_FitG r e)
    (hret : level = 0 → mcl_RetrOk retr c r e) :
    clElements_Set cfg retr r e c cfg.addr () k (u64 level) (u64 (k.dig level)) (.key k) (.val v) =
      mei_rGSet e c ((MElems.ops r).set cfg e level k v c) := by
  exact elements_Set_eq_model_closed_of_guard cfg k v retr hL hT hTe hcl r e level c
    (Nat.lt_of_le_of_lt (mcl_inv_level hinv) hL)
    (mcl_QS_of_inv cfg k v retr cfg.T cfg.L D hLT ⟨rfl, rfl⟩ hkd hL c r level path e hinv hfit hfitG hret)

/-- **CLOSED `MapDataSlab.Set`** on a data slab of the tree = the model's `MDataSlab.set` -/
theorem MapDataSlab_Set_eq_model_closed {r : Nat} (hr : cfg.L = r + 1) (D' : DigestFn (r + 1))
    (hLT : legalThreshold cfg.T = true) (hL : cfg.L < 2^64) (hT : cfg.T < 2^32) (hTe : maxInlineMapElem cfg.T < 2^32)
    (hcl : cfg.climit < 2^32) (hkd : ∀ lvl, k.dig lvl < 2^64) (top : Bool)
    (s : MDataSlab r) (x : Option X) (hx : x.isSome = s.root) (c : Ctx) (ha : s.hdr.id.addr = cfg.addr)
    (hinv : MDataInv cfg.T D' top s)
    (hfit : mcl_FitS cfg k v (r + 1) s.elems 0 c) (hfitG : mcl_FitG (r + 1) s.elems)
    (hret : mcl_RetrOk retr c (r + 1) s.elems) :
    Gen.TransElem.MapDataSlab_Set (clEnvB cfg retr (r + 1)) (mei_cData s x) c () k (u64 0) (u64 (k.dig 0)) (.key k) (.val v) =
      match MDataSlab.set cfg s k v c with
      | .ok (ks, old, s', c') => some (some (.key ks), old.map .val, none, mei_cData s' x, c')
      | .error err => some (none, none, some err, mei_cData s x, c) :=
  MapDataSlab_Set_eq_model_closed_of_guard cfg k v retr hL hT hTe hcl s x hx c ha
    (mcl_QS_of_inv cfg k v retr cfg.T (r + 1) D' hLT ⟨rfl, hr⟩ hkd (hr ▸ hL) c (r + 1) 0 [] s.elems hinv.elems_inv hfit hfitG
      (fun _ => hret))

end final
end Atree.TransEq

import AtreeProofs.Props.TransElemClosedA
/-
  `element.Set` of the closed unit-A environment (`mcl_envA`: the GENERATED dispatcher `element_Set` of unit
  B, the result element decoded with `mcl_dElS`) = the model's `MElemF.set` on guarded elements (`mcl_envA_set`).  The
  slab of an external group in the RESULT is recovered from generated code: `MapDataSlab_Set` on the receiver's slab
  (`mcl_slabAfterSet_eq`), resp. the receiver state of `inlineCollisionGroup_Set` when an inline group is exported
  (`mcl_export_eq`).
-/
namespace Atree.TransEq
open Atree

section stepASet
variable {α X : Type} (o : ElemsOps α) (cfg : MCfg) (k : MKey) (v : Elem) (G : mcl_GOps α) (retr : mcl_Retr α X)
variable {Qg Qs Qr : α → Nat → Ctx → Prop} {Qn : Nat → SElem → Prop}
variable (hB : EnvBOn o cfg k v (mcl_envBG cfg G retr) Qg Qs Qr Qn)
include hB

/-- the slab of an external group after the generated `MapDataSlab_Set` = the model's `groupSlabUpdate` -/
theorem mcl_slabAfterSet_eq (s : GroupSlab α) (c : Ctx) (lvl : Nat) (hl : lvl + 1 < 2^64) (ha : s.hdr.id.addr = cfg.addr)
    (hQ : Qs s.elems (lvl + 1) c)
    (ks : MKey) (old : Option Elem) (g' : α) (c' : Ctx) (hr : o.set cfg s.elems (lvl + 1) k v c = .ok (ks, old, g', c'))
    (h1 : (MElemF.groupSlabUpdate o s g' c').1.hdr.size < 2^32) (h2 : (MElemF.groupSlabUpdate o s g' c').1.hdr.firstKey < 2^64) :
    mcl_slabAfterSet (mcl_envBG cfg G retr) k s c (u64 lvl) (.key k) (.val v) = (MElemF.groupSlabUpdate o s g' c').1 := by
  unfold mcl_slabAfterSet
  rw [u64_succ, hB.dig k (lvl + 1) hl, MapDataSlab_Set_groupSlab_on o cfg k v _ hB s c (lvl + 1) () hl ha hQ, hr]
  exact mcl_dGroupSlab_c _ h1 h2

/-- export of an inline group: the slab rebuilt from the receiver state of the generated `inlineCollisionGroup_Set` is
    the slab the model embeds in the new external group -/
theorem mcl_export_eq (g : α) (c : Ctx) (lvl : Nat) (hk : UInt64) (hl : lvl + 1 < 2^64) (hL : cfg.L < 2^64)
    (hTe : maxInlineMapElem cfg.T < 2^32) (hQ : Qs g (lvl + 1) c)
    (hsz : ∀ ks old g' c', o.set cfg g (lvl + 1) k v c = .ok (ks, old, g', c') → o.size g' + 2 < 2^32)
    (id' : SlabID) (sz' : Nat) (s' : GroupSlab α) (ks : MKey) (old : Option Elem) (c' : Ctx)
    (h : MElemF.inlSet o cfg g lvl k v c = .ok (.ext id' sz' s', ks, old, c'))
    (h1 : s'.hdr.size < 2^32) (h2 : s'.hdr.firstKey < 2^64) :
    mcl_exportSlab (mcl_envBG cfg G retr) id'
      (mcl_groupAfterSet (mcl_envBG cfg G retr) k g c cfg.addr (u64 lvl) hk (.key k) (.val v)) = s' := by
  unfold mcl_groupAfterSet
  rw [inlineCollisionGroup_Set_eq_model_on o cfg k v _ hB g c lvl hk () hl hL hTe hsz hQ]
  simp only [MElemF.inlSet, bind, Except.bind, pure, Except.pure, throw, throwThe, MonadExceptOf.throw] at h
  by_cases hlv : lvl + 1 > cfg.L
  · rw [if_pos hlv] at h; simp at h
  · rw [if_neg hlv] at h
    simp only [hlv, if_false]
    rcases hr : o.set cfg g (lvl + 1) k v c with err | ⟨ks1, old1, g', c1⟩
    · rw [hr] at h; simp at h
    · rw [hr] at h
      simp only at h ⊢
      split at h
      · simp only [Except.ok.injEq, Prod.mk.injEq, MElemF.ext.injEq] at h
        obtain ⟨⟨hid, _, hs'⟩, _⟩ := h
        subst hs'
        simp only at h1 h2
        unfold mcl_exportSlab
        rw [hB.gSize, hB.gFirst]
        have e1 : UInt32.ofNat Gen.mapDataSlabPrefixSize + u32 (o.size g') = u32 (Gen.mapDataSlabPrefixSize + o.size g') :=
          u32_add_eq _ _
        rw [e1, u32_toNat h1, u64_toNat h2, hid]
      · simp at h

/-- the inline group `singleElement.Set` builds on a collision is the model's `newWith` -/
theorem mcl_freshGroup_eq (x : SElem) (g : α) (lvl : Nat) (hl : lvl + 1 < 2^64) (hL : cfg.L < 2^64) (hx : x.size < 2^32)
    (hQn : Qn (lvl + 1) x) (hg : o.newWith cfg (lvl + 1) x = .ok g) :
    mcl_freshGroup (mcl_envBG cfg G retr) k x (u64 lvl) = g := by
  have hN := hB.newWith (lvl + 1) x g hl hx hQn hg
  unfold mcl_freshGroup
  rw [u64_succ, hB.levels, hB.dig x.key (lvl + 1) hl]
  simp only [u64_inj hl hL]
  by_cases h : lvl + 1 = cfg.L
  · rw [if_pos h] at hN ⊢; exact hN
  · rw [if_neg h] at hN ⊢; exact hN

theorem mcl_envA_set (el : MElemF α) (c : Ctx) (lvl : Nat) (hk : UInt64) (hL : cfg.L < 2^64)
    (hTe : maxInlineMapElem cfg.T < 2^32) (hP : mcl_Ps o cfg k v retr Qs Qn el lvl c) :
    (mcl_envA cfg (mcl_envBG cfg G retr) k).element_Set el c cfg.addr (u64 lvl) hk (.key k) (.val v) =
      mel_rESet c (el.set o cfg lvl k v c) := by
  have hgen := element_Set_eq_model_on o cfg k v _ hB el c lvl hk () hP.hl hL hTe hP.sz hP.single hP.ret
    (mcl_envBG_hset cfg G retr) hP.nested hP.new
  show (match Gen.TransElem.element_Set (mcl_envBG cfg G retr) (mei_cEl el) c cfg.addr () k (u64 lvl) hk (.key k) (.val v) with
    | some r => (mcl_dElS (mcl_envBG cfg G retr) k el c cfg.addr (u64 lvl) hk (.key k) (.val v) r.1, r.2.1, r.2.2.1, r.2.2.2.1, r.2.2.2.2.2)
    | none => (none, none, none, some .goPanic, c)) = _
  rcases hrun : Gen.TransElem.element_Set (mcl_envBG cfg G retr) (mei_cEl el) c cfg.addr () k (u64 lvl) hk (.key k) (.val v) with _ | r
  · rw [hrun] at hgen; exact absurd hgen (by simp)
  · rw [hrun, Option.map_some, Option.some.injEq] at hgen
    show (mcl_dElS (mcl_envBG cfg G retr) k el c cfg.addr (u64 lvl) hk (.key k) (.val v) r.1, r.2.1, r.2.2.1, r.2.2.2.1, r.2.2.2.2.2) = _
    have e1 : r.1 = (mei_rESet c (el.set o cfg lvl k v c)).1 := by rw [← hgen]
    have e2 : r.2.1 = (mei_rESet c (el.set o cfg lvl k v c)).2.1 := by rw [← hgen]
    have e3 : r.2.2.1 = (mei_rESet c (el.set o cfg lvl k v c)).2.2.1 := by rw [← hgen]
    have e4 : r.2.2.2.1 = (mei_rESet c (el.set o cfg lvl k v c)).2.2.2.1 := by rw [← hgen]
    have e5 : r.2.2.2.2.2 = (mei_rESet c (el.set o cfg lvl k v c)).2.2.2.2 := by rw [← hgen]
    rw [e1, e2, e3, e4, e5]
    have hres := hP.res
    rcases hm : el.set o cfg lvl k v c with err | ⟨el', ks, old, c'⟩
    · rfl
    · have hfit := hres el' ks old c' hm
      cases el' with
      | single x =>
        simp only [mei_rESet, mei_cEl, mcl_dElS, mel_rESet, mei_il_inv_cE x hfit]
      | inl g => rfl
      | ext id' sz' s' =>
        obtain ⟨hf1, hf2, hf3⟩ := hfit
        rcases MElemF.set_cases hm with ⟨x, _, _, _, _, _, h⟩ | ⟨g, hg, hm'⟩ | ⟨id, sz, s, g2, c1, rfl, hr, h, _⟩
        · cases h
        · replace hg : (∃ x, el = .single x ∧ o.newWith cfg (lvl + 1) x = .ok g) ∨ el = .inl g :=
            hg.symm.imp (fun ⟨x, h1, _, h2⟩ => ⟨x, h1, h2⟩) id
          have hor : mei_nested el = some g ∨ ∃ x, el = .single x ∧ o.newWith cfg (lvl + 1) x = .ok g := by
            rcases hg with ⟨x, rfl, hg⟩ | rfl
            · exact Or.inr ⟨x, rfl, hg⟩
            · exact Or.inl rfl
          have hexp := mcl_export_eq o cfg k v G retr hB g c lvl hk hP.hl hL hTe (hP.nested g hor) (hP.sz g hor)
            id' sz' s' ks old c' hm' hf2 hf3
          rcases hg with ⟨x, rfl, hg⟩ | rfl
          · have hfresh := mcl_freshGroup_eq o cfg k v G retr hB x g lvl hP.hl hL (hP.single x rfl).2.1 (hP.new x rfl) hg
            simp only [mei_rESet, mei_cEl, mcl_dElS, mel_rESet, hfresh, hexp, u32_toNat hf1]
          · simp only [mei_rESet, mei_cEl, mcl_dElS, mel_rESet, hexp, u32_toNat hf1]
        · cases h
          have hslab := mcl_slabAfterSet_eq o cfg k v G retr hB s c lvl hP.hl (hP.ret _ _ s rfl).1
            (hP.nested s.elems (Or.inl rfl)) ks old g2 c1 hr hf2 hf3
          simp only [mei_rESet, mei_cEl, mcl_dElS, mel_rESet, hslab, u32_toNat hf1]

end stepASet
end Atree.TransEq

import AtreeProofs.Props.TransElemClosed
/-
  `MapDataSlab.Set / Remove` (and `Get` by method promotion) on a data slab of the slab tree under the CLOSED
  unit-B environment: `MapDataSlab_Set_eq_model` / `MapDataSlab_Remove_eq_model` (Props/TransElemSlab.lean) with no `EnvB` hypothesis left.
-/
namespace Atree.TransEq
open Atree

section slab
variable {X : Type} (cfg : MCfg) (k : MKey) (v : Elem) (retr : mcl_Retrs X)
variable (hL : cfg.L < 2^64) (hT : cfg.T < 2^32) (hTe : maxInlineMapElem cfg.T < 2^32) (hcl : cfg.climit < 2^32)
include hL hT hTe hcl

/-- `MapDataSlab.Set` (generated, closed environment) on a data slab of the tree = the model's `MDataSlab.set` -/
theorem MapDataSlab_Set_eq_model_closed_of_guard {r : Nat} (s : MDataSlab r) (x : Option X) (hx : x.isSome = s.root)
    (c : Ctx) (ha : s.hdr.id.addr = cfg.addr) (hQ : mcl_QS cfg k v retr (r + 1) s.elems 0 c) :
    Gen.TransElem.MapDataSlab_Set (clEnvB cfg retr (r + 1)) (mei_cData s x) c () k (u64 0) (u64 (k.dig 0)) (.key k) (.val v) =
      match MDataSlab.set cfg s k v c with
      | .ok (ks, old, s', c') => some (some (.key ks), old.map .val, none, mei_cData s' x, c')
      | .error err => some (none, none, some err, mei_cData s x, c) :=
  MapDataSlab_Set_eq_model_on cfg k v _ (clEnvB_ok cfg k v retr hL hT hTe hcl (r + 1)) s x hx c () ha hQ

/-- `MapDataSlab.Remove` (generated, closed environment) on a data slab of the tree = the model's `MDataSlab.remove` -/
theorem MapDataSlab_Remove_eq_model_closed_of_guard {r : Nat} (s : MDataSlab r) (x : Option X) (hx : x.isSome = s.root)
    (c : Ctx) (hQ : mcl_QR cfg k retr (r + 1) s.elems 0 c) :
    Gen.TransElem.MapDataSlab_Remove (clEnvB cfg retr (r + 1)) (mei_cData s x) c k (u64 0) (u64 (k.dig 0)) (.key k) =
      match MDataSlab.remove cfg s k c with
      | .ok (rk, rv, s', c') => some (some (.key rk), some (.val rv), none, mei_cData s' x, c')
      | .error err => some (none, none, some err, mei_cData s x, c) :=
  MapDataSlab_Remove_eq_model_on cfg k default _ (clEnvB_ok cfg k default retr hL hT hTe hcl (r + 1)) s x hx c hQ

/-- `MapSlab.Get` on a data slab of the tree (method promotion to the closed `elements.Get`) = the model's `MDataSlab.get` -/
theorem MapDataSlab_Get_eq_model_closed_of_guard {r : Nat} (s : MDataSlab r) (x : Option X) (c : Ctx)
    (hQ : mcl_QG k retr (r + 1) s.elems 0 c) :
    (clEnvB cfg retr (r + 1)).MapSlab_Get (.dataSlab (mei_cData s x)) c k (u64 0) (u64 (k.dig 0)) (.key k) =
      mei_rGet c (MDataSlab.get cfg s k) :=
  (clEnvB_ok cfg k default retr hL hT hTe hcl (r + 1)).gGet s.elems c 0 (by decide) hQ

end slab
end Atree.TransEq

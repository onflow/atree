import AtreeModel.Gen.TransMapElem
import AtreeModel.Gen.TransMapElems
/-
  ELEMENT layer of the maps, error exits the hand-written model does not have: a failing callback / interface method /
  storage call comes back through `wrapErrorfAsExternalErrorIfNeeded`, with the exact state left.  For ANY environment
  (no hypothesis on `env` beyond the failing call itself).  Generated code: `AtreeModel/Gen/TransMapElem.lean`,
  `TransMapElems.lean`.
-/
namespace Atree.TransEq
open Atree

section unitB
open Atree.Gen.TransElem
variable {G V W X D B S ε : Type} (env : Env G V W X D B S ε)

/-- `singleElement.Get`: a failing comparator comes back wrapped; no key / value -/
theorem singleElement_Get_cmpError (e : singleElement V) (st st' : S) (d : D) (lvl hk : UInt64) (key : W) (eq : Bool) (err : ε)
    (h : env.ValueComparator st key e.key = (eq, some err, st')) :
    singleElement_Get env e st d lvl hk key = (none, none, env.wrapErrorfAsExternalErrorIfNeeded (some err), st') := by
  simp [singleElement_Get, h]

/-- `singleElement.Remove`: a failing comparator comes back wrapped; nothing removed -/
theorem singleElement_Remove_cmpError (e : singleElement V) (st st' : S) (d : D) (lvl hk : UInt64) (key : W) (eq : Bool) (err : ε)
    (h : env.ValueComparator st key e.key = (eq, some err, st')) :
    singleElement_Remove env e st d lvl hk key = (none, none, .nil, env.wrapErrorfAsExternalErrorIfNeeded (some err), st') := by
  simp [singleElement_Remove, h]

/-- `singleElement.Set`: a failing comparator comes back wrapped; the element is untouched -/
theorem singleElement_Set_cmpError (e : singleElement V) (st st' : S) (a : Nat) (b : B) (d : D) (lvl hk : UInt64) (key value : W)
    (eq : Bool) (err : ε) (h : env.ValueComparator st key e.key = (eq, some err, st')) :
    singleElement_Set env e st a b d lvl hk key value =
      some (.nil, none, none, env.wrapErrorfAsExternalErrorIfNeeded (some err), e, st') := by
  simp [singleElement_Set, h]

/-- `singleElement.Set`, key matches: a failing `value.Storable` comes back wrapped; the element is untouched -/
theorem singleElement_Set_storableError (e : singleElement V) (st st1 st2 : S) (a : Nat) (b : B) (d : D) (lvl hk : UInt64)
    (key value : W) (ks : V) (vs : Option V) (err : ε) (hk' : e.key = some ks)
    (h : env.ValueComparator st key e.key = (true, none, st1))
    (h2 : env.Value_Storable value st1 a (env.maxInlineMapValueSize (env.Storable_ByteSize ks)) = (vs, some err, st2)) :
    singleElement_Set env e st a b d lvl hk key value =
      some (.nil, none, none, env.wrapErrorfAsExternalErrorIfNeeded (some err), e, st2) := by
  rw [hk'] at h
  simp [singleElement_Set, h, hk', h2]

/-- `singleElement.Set`, collision below the last level: a failing `key.StoredValue` comes back wrapped -/
theorem singleElement_Set_storedValueError (e : singleElement V) (st st1 st2 : S) (a : Nat) (b : B) (d : D) (lvl hk : UInt64)
    (key value kv : W) (ks : V) (err : ε) (hk' : e.key = some ks)
    (h : env.ValueComparator st key e.key = (false, none, st1))
    (hlv : ¬ (lvl + 1 = env.Digester_Levels d))
    (h2 : env.Storable_StoredValue ks st1 = (kv, some err, st2)) :
    singleElement_Set env e st a b d lvl hk key value =
      some (.nil, none, none, env.wrapErrorfAsExternalErrorIfNeeded (some err), e, st2) := by
  rw [hk'] at h
  simp [singleElement_Set, h, hk', h2, hlv]

/-- ... a failing `DigesterBuilder.Digest` comes back wrapped -/
theorem singleElement_Set_builderError (e : singleElement V) (st st1 st2 : S) (a : Nat) (b : B) (d d' : D) (lvl hk : UInt64)
    (key value kv : W) (ks : V) (err : ε) (hk' : e.key = some ks)
    (h : env.ValueComparator st key e.key = (false, none, st1))
    (hlv : ¬ (lvl + 1 = env.Digester_Levels d))
    (h2 : env.Storable_StoredValue ks st1 = (kv, none, st2))
    (h3 : env.DigesterBuilder_Digest b kv = (d', some err)) :
    singleElement_Set env e st a b d lvl hk key value =
      some (.nil, none, none, env.wrapErrorfAsExternalErrorIfNeeded (some err), e, st2) := by
  rw [hk'] at h
  simp [singleElement_Set, h, hk', h2, hlv, h3]

/-- ... a failing `Digester.Digest(level + 1)` of the resident key comes back wrapped -/
theorem singleElement_Set_digestError (e : singleElement V) (st st1 st2 : S) (a : Nat) (b : B) (d d' : D) (lvl hk dg : UInt64)
    (key value kv : W) (ks : V) (err : ε) (hk' : e.key = some ks)
    (h : env.ValueComparator st key e.key = (false, none, st1))
    (hlv : ¬ (lvl + 1 = env.Digester_Levels d))
    (h2 : env.Storable_StoredValue ks st1 = (kv, none, st2))
    (h3 : env.DigesterBuilder_Digest b kv = (d', none))
    (h4 : env.Digester_Digest d' (lvl + 1) = (dg, some err)) :
    singleElement_Set env e st a b d lvl hk key value =
      some (.nil, none, none, env.wrapErrorfAsExternalErrorIfNeeded (some err), e, st2) := by
  rw [hk'] at h
  simp [singleElement_Set, h, hk', h2, hlv, h3, h4]

/-- `externalCollisionGroup.Remove`: a failing `storage.Retrieve` comes back wrapped -/
theorem externalCollisionGroup_Remove_retrieveError (e : externalCollisionGroup) (st st' : S) (d : D) (lvl hk : UInt64) (key : W)
    (slab : MapSlab G X) (found : Bool) (err : ε)
    (h : env.SlabStorage_Retrieve st e.slabID = (slab, found, some err, st')) :
    externalCollisionGroup_Remove env e st d lvl hk key =
      some (none, none, .nil, env.wrapErrorfAsExternalErrorIfNeeded (some err), st') := by
  simp [externalCollisionGroup_Remove, h]

/-- `externalCollisionGroup.Remove`: the slab is not in the storage -/
theorem externalCollisionGroup_Remove_notFound (e : externalCollisionGroup) (st st' : S) (d : D) (lvl hk : UInt64) (key : W)
    (slab : MapSlab G X)
    (h : env.SlabStorage_Retrieve st e.slabID = (slab, false, none, st')) :
    externalCollisionGroup_Remove env e st d lvl hk key = some (none, none, .nil, env.NewSlabNotFoundErrorf, st') := by
  simp [externalCollisionGroup_Remove, h]

/-- `externalCollisionGroup.Remove`: the slab in the storage is not a data slab: SlabDataError -/
theorem externalCollisionGroup_Remove_notDataSlab (e : externalCollisionGroup) (st st' : S) (d : D) (lvl hk : UInt64) (key : W)
    (m : MapMetaDataSlab X)
    (h : env.SlabStorage_Retrieve st e.slabID = (.metaSlab m, true, none, st')) :
    externalCollisionGroup_Remove env e st d lvl hk key = some (none, none, .nil, env.NewSlabDataErrorf, st') := by
  simp [externalCollisionGroup_Remove, h]

/-- `inlineCollisionGroup.Set`, oversized first-level group: a failing `GenerateSlabID` comes back wrapped; the group keeps
    the new element (the nested `Set` has already happened) -/
theorem inlineCollisionGroup_Set_genError (e : inlineCollisionGroup G) (st st1 st2 : S) (a : Nat) (b : B) (d : D) (hk dg : UInt64)
    (key value : W) (ks old : Option V) (g' : G) (id : SlabID) (err : ε) (derr : Option ε)
    (hlv : env.Digester_Levels d ≠ 0)
    (h1 : env.Digester_Digest d 1 = (dg, derr))
    (h2 : env.elements_Set e.elements st a b d 1 dg key value = (ks, old, none, g', st1))
    (hbig : (UInt32.ofNat Gen.inlineCollisionGroupPrefixSize) + env.elements_Size g' > env.maxInlineMapElementSize)
    (h3 : env.SlabStorage_GenerateSlabID st1 a = (id, some err, st2)) :
    inlineCollisionGroup_Set env e st a b d 0 hk key value =
      some (.nil, none, none, env.wrapErrorfAsExternalErrorIfNeeded (some err), { e with elements := g' }, st2) := by
  simp [inlineCollisionGroup_Set, inlineCollisionGroup_Size, hlv, h1, h2, hbig, h3]

/-- `inlineCollisionGroup.Set`, oversized first-level group, no failure: the group is EXPORTED - the slab value handed to
    `storage.Store` is spelled out (fresh id, size = data-slab prefix + elements size, firstKey of the elements, the elements
    themselves, anySize, collisionGroup; the model's effect log only records the id), the element returned is the external
    group with that id and size prefix + SlabIDStorable size; the receiver keeps the new elements -/
theorem inlineCollisionGroup_Set_export_slab (e : inlineCollisionGroup G) (st st1 st2 st3 : S) (a : Nat) (b : B) (d : D)
    (hk dg : UInt64) (key value : W) (ks old : Option V) (g' : G) (id : SlabID) (derr : Option ε)
    (hlv : env.Digester_Levels d ≠ 0)
    (h1 : env.Digester_Digest d 1 = (dg, derr))
    (h2 : env.elements_Set e.elements st a b d 1 dg key value = (ks, old, none, g', st1))
    (hbig : (UInt32.ofNat Gen.inlineCollisionGroupPrefixSize) + env.elements_Size g' > env.maxInlineMapElementSize)
    (h3 : env.SlabStorage_GenerateSlabID st1 a = (id, none, st2))
    (h4 : env.SlabStorage_Store st2 id (.dataSlab
      ({ header := { slabID := id, size := (UInt32.ofNat Gen.mapDataSlabPrefixSize) + env.elements_Size g',
                     firstKey := env.elements_firstKey g' },
         elements := g', anySize := true, collisionGroup := true } : MapDataSlab G X)) = (none, st3)) :
    inlineCollisionGroup_Set env e st a b d 0 hk key value =
      some (.externalGroup { slabID := id, size := (UInt32.ofNat Gen.externalCollisionGroupPrefixSize) + env.SlabIDStorable_ByteSize },
            ks, old, none, { e with elements := g' }, st3) := by
  simp [inlineCollisionGroup_Set, inlineCollisionGroup_Size, storeSlab, MapSlab_SlabID, MapDataSlab_SlabID,
    hlv, h1, h2, hbig, h3, h4]

/-- `getElementAndNextKey` of the three implementations: key, value, error and state are those of `Get` whenever that holds
    of the nested `elements` / of the slab fetched from the storage (same level adjustment, same digest) -/
theorem singleElement_getElementAndNextKey_get (e : singleElement V) (st : S) (d : D) (lvl hk : UInt64) (key : W) :
    (let r := singleElement_getElementAndNextKey env e st d lvl hk key; (r.1, r.2.1, r.2.2.1, r.2.2.2.1, r.2.2.2.2)) =
      (let g := singleElement_Get env e st d lvl hk key; (g.1, g.2.1, none, g.2.2.1, g.2.2.2)) := by
  simp [singleElement_getElementAndNextKey]

theorem inlineCollisionGroup_getElementAndNextKey_get (e : inlineCollisionGroup G) (st : S) (d : D) (lvl hk : UInt64) (key : W)
    (h : ∀ g st d l hk w, (let r := env.elements_getElementAndNextKey g st d l hk w; (r.1, r.2.1, r.2.2.2.1, r.2.2.2.2)) =
      env.elements_Get g st d l hk w) :
    (let r := inlineCollisionGroup_getElementAndNextKey env e st d lvl hk key; (r.1, r.2.1, r.2.2.2.1, r.2.2.2.2)) =
      inlineCollisionGroup_Get env e st d lvl hk key := by
  simp only [inlineCollisionGroup_getElementAndNextKey, inlineCollisionGroup_Get]
  split
  · rfl
  · exact h _ _ _ _ _ _

theorem externalCollisionGroup_getElementAndNextKey_get (e : externalCollisionGroup) (st : S) (d : D) (lvl hk : UInt64) (key : W)
    (h : ∀ (m : MapSlab G X) st d l hk w, (let r := env.MapSlab_getElementAndNextKey m st d l hk w; (r.1, r.2.1, r.2.2.2.1, r.2.2.2.2)) =
      env.MapSlab_Get m st d l hk w) :
    (let r := externalCollisionGroup_getElementAndNextKey env e st d lvl hk key; (r.1, r.2.1, r.2.2.2.1, r.2.2.2.2)) =
      externalCollisionGroup_Get env e st d lvl hk key := by
  simp only [externalCollisionGroup_getElementAndNextKey, externalCollisionGroup_Get]
  split
  · rfl
  · split
    · rfl
    · exact h _ _ _ _ _ _

end unitB

section unitA
open Atree.Gen.TransElems
variable {E V W S ε : Type} (env : Env E V W S ε)

/-- `hkeyElements.Set`, first element: a failing `newSingleElement` is handed on as it is (already categorised); the
    group is untouched -/
theorem hkeyElements_Set_newElemError (e : hkeyElements E) (st st' : S) (a : Nat) (lvl hk : UInt64) (key value : W)
    (ne : singleElement V) (err : ε)
    (hlv : ¬ (lvl ≥ env.Digester_Levels)) (hempty : e.hkeys = [])
    (h : env.newSingleElement st a key value = (ne, some err, st')) :
    hkeyElements_Set env e st a lvl hk key value = some (none, none, some err, e, st') := by
  simp [hkeyElements_Set, hlv, hempty, h]

end unitA
end Atree.TransEq

import AtreeProofs.Props.TransMapSlabsSingle
import AtreeProofs.Trans.MapElem
import AtreeProofs.Trans.MapElemOn
/-
  Unit B, elements without a slab of their own: the GENERATED `singleElement.Get / Set / Remove` and
  `inlineCollisionGroup.Get / Set / Remove` (`AtreeModel/Gen/TransMapElem.lean`) against the model (`MElemF.get / set /
  remove` on `.single` and `.inl`, `MElemF.inlSet`); then an environment that satisfies `EnvB`, and concrete runs.
-/
namespace Atree.TransEq
open Atree Atree.Gen.TransElem

section
variable {α X : Type} (o : ElemsOps α) (cfg : MCfg) (k : MKey) (v : Elem) (env : Env α SV SW X MKey Unit Ctx GE)

/-- `singleElement_Get_eq_model` over the relativised environment `EnvBOn` -/
theorem singleElement_Get_eq_model_on {Qg Qs Qr : α → Nat → Ctx → Prop} {Qn : Nat → SElem → Prop}
    (hE : EnvBOn o cfg k v env Qg Qs Qr Qn) (x : SElem) (c : Ctx) (d : MKey) (lvl hk : UInt64) (level : Nat) :
    singleElement_Get env (mei_cE x) c d lvl hk (.key k) = mei_rGet c (MElemF.get o cfg (.single x) level k) := by
  simp only [singleElement_Get, mei_cE, hE.cmp, MElemF.get]
  cases x.key.same k <;> simp [mei_rGet, hE.eKeyNotFound]

theorem singleElement_Get_eq_model (hE : EnvB o cfg k v env) (x : SElem) (c : Ctx) (d : MKey) (lvl hk : UInt64) (level : Nat) :
    singleElement_Get env (mei_cE x) c d lvl hk (.key k) = mei_rGet c (MElemF.get o cfg (.single x) level k) :=
  singleElement_Get_eq_model_on o cfg k v env hE.toOn x c d lvl hk level

/-- `singleElement_Remove_eq_model` over the relativised environment `EnvBOn` -/
theorem singleElement_Remove_eq_model_on {Qg Qs Qr : α → Nat → Ctx → Prop} {Qn : Nat → SElem → Prop}
    (hE : EnvBOn o cfg k v env Qg Qs Qr Qn) (x : SElem) (c : Ctx) (d : MKey) (lvl hk : UInt64) (level : Nat) :
    singleElement_Remove env (mei_cE x) c d lvl hk (.key k) = mei_rERemove c (MElemF.remove o cfg (.single x) level k c) := by
  simp only [singleElement_Remove, mei_cE, hE.cmp, MElemF.remove]
  cases x.key.same k <;> simp [mei_rERemove, mei_cOptEl, hE.eKeyNotFound]

theorem singleElement_Remove_eq_model (hE : EnvB o cfg k v env) (x : SElem) (c : Ctx) (d : MKey) (lvl hk : UInt64) (level : Nat) :
    singleElement_Remove env (mei_cE x) c d lvl hk (.key k) = mei_rERemove c (MElemF.remove o cfg (.single x) level k c) :=
  singleElement_Remove_eq_model_on o cfg k v env hE.toOn x c d lvl hk level

/-- `inlineCollisionGroup_Get_eq_model` over the relativised environment `EnvBOn` -/
theorem inlineCollisionGroup_Get_eq_model_on {Qg Qs Qr : α → Nat → Ctx → Prop} {Qn : Nat → SElem → Prop}
    (hE : EnvBOn o cfg k v env Qg Qs Qr Qn) (g : α) (c : Ctx) (level : Nat) (hk : UInt64)
    (hl : level + 1 < 2^64) (hL : cfg.L < 2^64) (hQ : Qg g (level + 1) c) :
    inlineCollisionGroup_Get env { elements := g } c k (u64 level) hk (.key k) = mei_rGet c (MElemF.get o cfg (.inl g) level k) := by
  simp only [inlineCollisionGroup_Get, u64_succ, hE.levels, u64_dgt hl hL, hE.dig k _ hl, hE.gGet g c _ hl hQ, MElemF.get]
  by_cases h : level + 1 > cfg.L
  · simp [h, mei_rGet, hE.eHashLevel]
  · simp [h]

theorem inlineCollisionGroup_Get_eq_model (hE : EnvB o cfg k v env) (g : α) (c : Ctx) (level : Nat) (hk : UInt64)
    (hl : level + 1 < 2^64) (hL : cfg.L < 2^64) :
    inlineCollisionGroup_Get env { elements := g } c k (u64 level) hk (.key k) = mei_rGet c (MElemF.get o cfg (.inl g) level k) :=
  inlineCollisionGroup_Get_eq_model_on o cfg k v env hE.toOn g c level hk hl hL trivial

/-- `inlineCollisionGroup_Remove_eq_model` over the relativised environment `EnvBOn` -/
theorem inlineCollisionGroup_Remove_eq_model_on {Qg Qs Qr : α → Nat → Ctx → Prop} {Qn : Nat → SElem → Prop}
    (hE : EnvBOn o cfg k v env Qg Qs Qr Qn) (g : α) (c : Ctx) (level : Nat) (hk : UInt64)
    (hl : level + 1 < 2^64) (hL : cfg.L < 2^64)
    (hcnt : ∀ rk rv g' c', o.remove cfg g (level + 1) k c = .ok (rk, rv, g', c') → o.count g' < 2^32)
    (hQ : Qr g (level + 1) c) :
    inlineCollisionGroup_Remove env { elements := g } c k (u64 level) hk (.key k) =
      (let r := mei_rERemove c (MElemF.remove o cfg (.inl g) level k c)
       (r.1, r.2.1, r.2.2.1, r.2.2.2.1,
        ({ elements := (if level + 1 > cfg.L then g else match o.remove cfg g (level + 1) k c with | .ok (_, _, g', _) => g' | .error _ => g) } : inlineCollisionGroup α),
        r.2.2.2.2)) := by
  simp only [inlineCollisionGroup_Remove, u64_succ, hE.levels, u64_dgt hl hL, hE.dig k _ hl, hE.gRemove g c _ hl hQ, MElemF.remove]
  by_cases h : level + 1 > cfg.L
  · simp [h, mei_rERemove, hE.eHashLevel, bind, Except.bind, throw, throwThe, MonadExceptOf.throw]
  · simp only [h, decide_false, if_false, Bool.false_eq_true]
    rcases hr : o.remove cfg g (level + 1) k c with err | ⟨rk, rv, g', c'⟩
    · simp [mei_rGRemove, mei_rERemove, bind, Except.bind]
    · simp only [mei_rGRemove, hE.gCount, Option.isNone_none, Bool.not_true, Bool.false_eq_true, if_false]
      have h1 : (u32 (o.count g') = (1 : UInt32)) = (o.count g' = 1) := u32_inj (hcnt rk rv g' c' hr) (by decide)
      simp only [h1]
      by_cases hc : o.count g' = 1
      · obtain ⟨el, he, hs⟩ := (hE.gSole g').1 hc
        cases el <;>
          simp [hc, he, hs, mei_cEl, mei_rERemove, mei_cOptEl, bind, Except.bind, pure, Except.pure]
      · have hs := (hE.gSole g').2 hc
        simp [hc, hs, mei_cEl, mei_rERemove, mei_cOptEl, bind, Except.bind, pure, Except.pure]

theorem inlineCollisionGroup_Remove_eq_model (hE : EnvB o cfg k v env) (g : α) (c : Ctx) (level : Nat) (hk : UInt64)
    (hl : level + 1 < 2^64) (hL : cfg.L < 2^64)
    (hcnt : ∀ rk rv g' c', o.remove cfg g (level + 1) k c = .ok (rk, rv, g', c') → o.count g' < 2^32) :
    inlineCollisionGroup_Remove env { elements := g } c k (u64 level) hk (.key k) =
      (let r := mei_rERemove c (MElemF.remove o cfg (.inl g) level k c)
       (r.1, r.2.1, r.2.2.1, r.2.2.2.1,
        ({ elements := (if level + 1 > cfg.L then g else match o.remove cfg g (level + 1) k c with | .ok (_, _, g', _) => g' | .error _ => g) } : inlineCollisionGroup α),
        r.2.2.2.2)) :=
  inlineCollisionGroup_Remove_eq_model_on o cfg k v env hE.toOn g c level hk hl hL hcnt trivial

/-- `inlineCollisionGroup_Set_eq_model` over the relativised environment `EnvBOn` -/
theorem inlineCollisionGroup_Set_eq_model_on {Qg Qs Qr : α → Nat → Ctx → Prop} {Qn : Nat → SElem → Prop}
    (hE : EnvBOn o cfg k v env Qg Qs Qr Qn) (g : α) (c : Ctx) (level : Nat) (hk : UInt64) (b : Unit)
    (hl : level + 1 < 2^64) (hL : cfg.L < 2^64) (hT : maxInlineMapElem cfg.T < 2^32)
    (hsz : ∀ ks old g' c', o.set cfg g (level + 1) k v c = .ok (ks, old, g', c') → o.size g' + 2 < 2^32)
    (hQ : Qs g (level + 1) c) :
    inlineCollisionGroup_Set env { elements := g } c cfg.addr b k (u64 level) hk (.key k) (.val v) =
      some (let r := mei_rESet c (MElemF.inlSet o cfg g level k v c)
            (r.1, r.2.1, r.2.2.1, r.2.2.2.1,
             ({ elements := (if level + 1 > cfg.L then g else match o.set cfg g (level + 1) k v c with | .ok (_, _, g', _) => g' | .error _ => g) } : inlineCollisionGroup α),
             r.2.2.2.2)) := by
  simp only [inlineCollisionGroup_Set, u64_succ, hE.levels, u64_dgt hl hL, hE.dig k _ hl, hE.gSet g c _ b hl hQ, MElemF.inlSet]
  by_cases h : level + 1 > cfg.L
  · simp [h, mei_rESet, hE.eHashLevel, bind, Except.bind, throw, throwThe, MonadExceptOf.throw]
  · simp only [h, decide_false, if_false, Bool.false_eq_true]
    rcases hr : o.set cfg g (level + 1) k v c with err | ⟨ks, old, g', c'⟩
    · simp [mei_rGSet, mei_rESet, bind, Except.bind]
    · simp only [mei_rGSet, Option.isNone_none, Bool.not_true, Bool.false_eq_true, if_false]
      have h1 : (u64 (level + 1) = (1 : UInt64)) = (level + 1 = 1) := u64_inj hl (by decide)
      have h2 : (env.maxInlineMapElementSize < inlineCollisionGroup_Size env ({ elements := g' } : inlineCollisionGroup α))
          = (maxInlineMapElem cfg.T < Gen.inlineCollisionGroupPrefixSize + o.size g') := by
        simp only [inlineCollisionGroup_Size, hE.gSize, hE.maxElem]
        show (_ < u32 Gen.inlineCollisionGroupPrefixSize + u32 (o.size g')) = _
        rw [u32_add_eq]
        exact u32_lt hT (by have := hsz ks old g' c' hr; simp only [Gen.inlineCollisionGroupPrefixSize]; omega)
      simp only [h1]
      by_cases hlv : level = 0
      · by_cases hs : Gen.inlineCollisionGroupPrefixSize + o.size g' > maxInlineMapElem cfg.T
        · have hid : (UInt32.ofNat Gen.externalCollisionGroupPrefixSize + env.SlabIDStorable_ByteSize)
              = u32 (Gen.externalCollisionGroupPrefixSize + slabIDStorableSize) := by
            rw [hE.sidSize]; exact u32_add_eq _ _
          simp [hlv, h2, hs, hE.gen, storeSlab, MapSlab_SlabID, MapDataSlab_SlabID, hE.store, hid, mei_rESet, mei_cEl,
            bind, Except.bind, pure, Except.pure]
        · simp [hlv, h2, hs, mei_rESet, mei_cEl, bind, Except.bind, pure, Except.pure]
      · simp [hlv, mei_rESet, mei_cEl, bind, Except.bind, pure, Except.pure]

theorem inlineCollisionGroup_Set_eq_model (hE : EnvB o cfg k v env) (g : α) (c : Ctx) (level : Nat) (hk : UInt64) (b : Unit)
    (hl : level + 1 < 2^64) (hL : cfg.L < 2^64) (hT : maxInlineMapElem cfg.T < 2^32)
    (hsz : ∀ ks old g' c', o.set cfg g (level + 1) k v c = .ok (ks, old, g', c') → o.size g' + 2 < 2^32) :
    inlineCollisionGroup_Set env { elements := g } c cfg.addr b k (u64 level) hk (.key k) (.val v) =
      some (let r := mei_rESet c (MElemF.inlSet o cfg g level k v c)
            (r.1, r.2.1, r.2.2.1, r.2.2.2.1,
             ({ elements := (if level + 1 > cfg.L then g else match o.set cfg g (level + 1) k v c with | .ok (_, _, g', _) => g' | .error _ => g) } : inlineCollisionGroup α),
             r.2.2.2.2)) :=
  inlineCollisionGroup_Set_eq_model_on o cfg k v env hE.toOn g c level hk b hl hL hT hsz trivial

/-- `inlineCollisionGroup.Set` never hands back a single element -/
theorem mei_il_inlSet_not_single {β : Type} (g : α) (c : Ctx) (level : Nat) (a : SElem → β) (d : β) :
    (match MElemF.inlSet o cfg g level k v c with | .ok (.single x', _, _, _) => a x' | _ => d) = d := by
  simp only [MElemF.inlSet]
  by_cases h : level + 1 > cfg.L
  · simp [h, bind, Except.bind, throw, throwThe, MonadExceptOf.throw]
  · rcases hr : o.set cfg g (level + 1) k v c with err | ⟨ks, old, g', c'⟩
    · simp [h, bind, Except.bind]
    · by_cases h0 : level = 0
      · subst h0
        by_cases hc : maxInlineMapElem cfg.T < Gen.inlineCollisionGroupPrefixSize + o.size g'
        · simp [h, hc, bind, Except.bind, pure, Except.pure]
        · simp [h, hc, bind, Except.bind, pure, Except.pure]
      · simp [h, h0, bind, Except.bind, pure, Except.pure]

/-- `singleElement_Set_eq_model` over the relativised environment `EnvBOn` -/
theorem singleElement_Set_eq_model_on {Qg Qs Qr : α → Nat → Ctx → Prop} {Qn : Nat → SElem → Prop}
    (hE : EnvBOn o cfg k v env Qg Qs Qr Qn) (x : SElem) (c : Ctx) (level : Nat) (hk : UInt64) (b : Unit)
    (hl : level + 1 < 2^64) (hL : cfg.L < 2^64) (hT : maxInlineMapElem cfg.T < 2^32)
    (hsz : ∀ g ks old g' c', o.newWith cfg (level + 1) x = .ok g → o.set cfg g (level + 1) k v c = .ok (ks, old, g', c') →
      o.size g' + 2 < 2^32)
    (hks : x.key.size < 2^32) (hxs : x.size < 2^32)
    (hnw : x.key.same k = false → ∃ g, o.newWith cfg (level + 1) x = .ok g)
    (hQn : Qn (level + 1) x) (hQ : ∀ g, o.newWith cfg (level + 1) x = .ok g → Qs g (level + 1) c) :
    singleElement_Set env (mei_cE x) c cfg.addr b k (u64 level) hk (.key k) (.val v) =
      some (let r := mei_rESet c (MElemF.set o cfg (.single x) level k v c)
            (r.1, r.2.1, r.2.2.1, r.2.2.2.1,
             (match MElemF.set o cfg (.single x) level k v c with | .ok (.single x', _, _, _) => mei_cE x' | _ => mei_cE x),
             r.2.2.2.2)) := by
  rcases hsame : x.key.same k with _ | _
  · obtain ⟨g, hg⟩ := hnw hsame
    have hN := hE.newWith (level + 1) x g hl hxs hQn hg
    have hset : MElemF.set o cfg (.single x) level k v c = MElemF.inlSet o cfg g level k v c := by
      simp [MElemF.set, hsame, hg, bind, Except.bind]
    rw [hset, mei_il_inlSet_not_single]
    have h1 : (u64 (level + 1) = u64 cfg.L) = (level + 1 = cfg.L) := u64_inj hl hL
    simp only [singleElement_Set, mei_cE, hE.cmp, hsame, u64_succ, hE.levels, h1, hE.stored, hE.builder,
      hE.dig x.key _ hl, Option.isNone_none, Bool.not_true, Bool.false_eq_true, if_false]
    by_cases hlv : level + 1 = cfg.L
    · rw [if_pos hlv] at hN
      simp only [mei_cE] at hN
      simp only [hlv, decide_true, if_true]
      rw [← hlv, hN, inlineCollisionGroup_Set_eq_model_on o cfg k v env hE g c level hk b hl hL hT
        (fun ks old g' c' h => hsz g ks old g' c' hg h) (hQ g hg)]
    · rw [if_neg hlv] at hN
      simp only [mei_cE] at hN
      simp only [hlv, decide_false, Bool.false_eq_true, if_false]
      rw [hN, inlineCollisionGroup_Set_eq_model_on o cfg k v env hE g c level hk b hl hL hT
        (fun ks old g' c' h => hsz g ks old g' c' hg h) (hQ g hg)]
  · have hm : maxInlineMapValue cfg.T x.key.size < 2^32 := by
      have := msl_maxInlineMapValue_le cfg.T x.key.size
      simp only [maxInlineMapValue] at *; omega
    have hsize : ∀ n : Nat, UInt32.ofNat Gen.singleElementPrefixSize + u32 x.key.size + u32 n
        = u32 (Gen.singleElementPrefixSize + x.key.size + n) := by
      intro n
      show u32 Gen.singleElementPrefixSize + u32 x.key.size + u32 n = _
      rw [u32_add_eq, u32_add_eq]
    simp only [singleElement_Set, mei_cE, hE.cmp, hsame, hE.keySize, hE.maxInline _ hks, hE.storable, u32_toNat hm,
      hE.valSize, hsize, MElemF.set, Option.isNone_none, Bool.not_true, Bool.false_eq_true, if_false, if_true]
    simp [mei_rESet, mei_cEl, mei_cE]

theorem singleElement_Set_eq_model (hE : EnvB o cfg k v env) (x : SElem) (c : Ctx) (level : Nat) (hk : UInt64) (b : Unit)
    (hl : level + 1 < 2^64) (hL : cfg.L < 2^64) (hT : maxInlineMapElem cfg.T < 2^32)
    (hsz : ∀ g ks old g' c', o.newWith cfg (level + 1) x = .ok g → o.set cfg g (level + 1) k v c = .ok (ks, old, g', c') →
      o.size g' + 2 < 2^32)
    (hks : x.key.size < 2^32) (hxs : x.size < 2^32)
    (hnw : x.key.same k = false → ∃ g, o.newWith cfg (level + 1) x = .ok g) :
    singleElement_Set env (mei_cE x) c cfg.addr b k (u64 level) hk (.key k) (.val v) =
      some (let r := mei_rESet c (MElemF.set o cfg (.single x) level k v c)
            (r.1, r.2.1, r.2.2.1, r.2.2.2.1,
             (match MElemF.set o cfg (.single x) level k v c with | .ok (.single x', _, _, _) => mei_cE x' | _ => mei_cE x),
             r.2.2.2.2)) :=
  singleElement_Set_eq_model_on o cfg k v env hE.toOn x c level hk b hl hL hT hsz hks hxs hnw trivial (fun _ _ => trivial)

end

/-! ### non-vacuity: an environment satisfying `EnvB`, and concrete runs -/

/-- a `singleElement` record back as the model's element (inverse of `mei_cE` on sizes < 2^32) -/
def mei_il_inv (s : singleElement SV) : SElem :=
  match s.key, s.value with
  | some (.key k'), some (.val v') => { key := k', val := v', size := s.size.toNat }
  | _, _ => default

/-- the parameters of the generated code instantiated BY the model (the witness that `EnvB` is satisfiable) -/
def mei_il_env {α : Type} [Inhabited α] (o : ElemsOps α) (cfg : MCfg) (k : MKey) (v : Elem) :
    Env α SV SW Unit MKey Unit Ctx GE where
  DigesterBuilder_Digest := fun _ w => match w with | .key k' => (k', none) | .val _ => (default, none)
  Digester_Digest := fun d l => (u64 (d.dig l.toNat), none)
  Digester_Levels := fun _ => u64 cfg.L
  MapSlab_Get := fun _ c _ _ _ _ => (none, none, some .goPanic, c)
  MapSlab_Set := fun s c _ _ _ _ _ _ => (none, none, some .goPanic, s, c)
  MapSlab_getElementAndNextKey := fun _ c _ _ _ _ => (none, none, none, some .goPanic, c)
  NewHashLevelErrorf := some .hashLevel
  NewKeyNotFoundError := some .keyNotFound
  NewSlabDataErrorf := some .goPanic
  NewSlabNotFoundErrorf := some .slabNotFound
  SlabIDStorable_ByteSize := u32 slabIDStorableSize
  SlabStorage_GenerateSlabID := fun c a => ((c.alloc a).1, none, (c.alloc a).2)
  SlabStorage_Remove := fun c id => (none, c.emit (.remove id))
  SlabStorage_Retrieve := fun c _ => (.nil, false, none, c)
  SlabStorage_Store := fun c id _ => (none, c.emit (.store id))
  Storable_ByteSize := fun s => match s with | .key k' => u32 k'.size | .val v' => u32 v'.size
  Storable_StoredValue := fun s c => match s with | .key k' => (.key k', none, c) | .val v' => (.val v', none, c)
  ValueComparator := fun c w s => match w, s with
    | .key a, some (.key b') => (b'.same a, none, c)
    | _, _ => (false, none, c)
  Value_Storable := fun w c a lim => match w with
    | .val v' => (some (.val (toStorableLim lim.toNat a v' c).1), none, (toStorableLim lim.toNat a v' c).2)
    | .key _ => (none, some .goPanic, c)
  elements_Count := fun g => u32 (o.count g)
  elements_Element := fun g _ => match o.soleSingle g with
    | some x => (.single (mei_cE x), none)
    | none => (.inlineGroup { elements := g }, none)
  elements_Get := fun g c _ lvl _ _ => mei_rGet c (o.get cfg g lvl.toNat k)
  elements_Remove := fun g c _ lvl _ _ => mei_rGRemove g c (o.remove cfg g lvl.toNat k c)
  elements_Set := fun g c _ _ _ lvl _ _ _ => mei_rGSet g c (o.set cfg g lvl.toNat k v c)
  elements_Size := fun g => u32 (o.size g)
  elements_firstKey := fun g => u64 (o.firstKey g)
  elements_getElementAndNextKey := fun _ c _ _ _ _ => (none, none, none, some .goPanic, c)
  maxInlineMapElementSize := u32 (maxInlineMapElem cfg.T)
  maxInlineMapValueSize := fun n => u32 (maxInlineMapValue cfg.T n.toNat)
  newHkeyElementsWithElement := fun lvl _ el => match el with
    | .single s => (match o.newWith cfg lvl.toNat (mei_il_inv s) with | .ok g => g | .error _ => default)
    | _ => default
  newSingleElementsWithElement := fun lvl s =>
    match o.newWith cfg lvl.toNat (mei_il_inv s) with | .ok g => g | .error _ => default
  wrapErrorfAsExternalErrorIfNeeded := id

theorem mei_il_inv_cE (x : SElem) (hx : x.size < 2^32) : mei_il_inv (mei_cE x) = x := by
  show ({ key := x.key, val := x.val, size := (u32 x.size).toNat } : SElem) = x
  rw [u32_toNat hx]

/-- `EnvB` is satisfiable for every `o` whose `soleSingle` is `none` unless `count = 1` -/
theorem mei_il_env_ok {α : Type} [Inhabited α] (o : ElemsOps α) (cfg : MCfg) (k : MKey) (v : Elem)
    (hsole : ∀ g, o.count g ≠ 1 → o.soleSingle g = none) : EnvB o cfg k v (mei_il_env o cfg k v) where
  levels := fun _ => rfl
  dig := fun d lvl hl => by
    show (u64 (d.dig (u64 lvl).toNat), none) = _
    rw [u64_toNat hl]
  builder := fun _ _ => rfl
  stored := fun _ _ => rfl
  cmp := fun _ _ => rfl
  keySize := fun _ => rfl
  valSize := fun _ => rfl
  maxInline := fun n hn => by
    show u32 (maxInlineMapValue cfg.T (u32 n).toNat) = _
    rw [u32_toNat hn]
  storable := fun _ _ => rfl
  maxElem := rfl
  sidSize := rfl
  gSize := fun _ => rfl
  gCount := fun _ => rfl
  gFirst := fun _ => rfl
  gGet := fun g c lvl hl => by
    show mei_rGet c (o.get cfg g (u64 lvl).toNat k) = _
    rw [u64_toNat hl]
  gSet := fun g c lvl b hl => by
    show mei_rGSet g c (o.set cfg g (u64 lvl).toNat k v c) = _
    rw [u64_toNat hl]
  gRemove := fun g c lvl hl => by
    show mei_rGRemove g c (o.remove cfg g (u64 lvl).toNat k c) = _
    rw [u64_toNat hl]
  gSole := fun g => by
    refine ⟨fun _ => ?_, hsole g⟩
    rcases hs : o.soleSingle g with _ | x
    · exact ⟨.inl g, by simp [mei_il_env, hs, mei_cEl], rfl⟩
    · exact ⟨.single x, by simp [mei_il_env, hs, mei_cEl], rfl⟩
  newWith := fun lvl x g hl hx hg => by
    by_cases h : lvl = cfg.L
    · rw [if_pos h]
      show (match o.newWith cfg (u64 lvl).toNat (mei_il_inv (mei_cE x)) with | .ok g => g | .error _ => default) = g
      rw [u64_toNat hl, mei_il_inv_cE x hx, hg]
    · rw [if_neg h]
      show (match o.newWith cfg (u64 lvl).toNat (mei_il_inv (mei_cE x)) with | .ok g => g | .error _ => default) = g
      rw [u64_toNat hl, mei_il_inv_cE x hx, hg]
  gen := fun _ _ => rfl
  store := fun _ _ _ => rfl
  remove := fun _ _ => rfl
  wrapNone := rfl
  eHashLevel := rfl
  eKeyNotFound := rfl
  eSlabNotFound := rfl

def mei_il_cfgEx : MCfg := { T := 1024, L := 2, climit := 255, addr := 7 }
def mei_il_k1Ex : MKey := { size := 9, pay := 1, digs := [5, 6] }
def mei_il_k2Ex : MKey := { size := 9, pay := 2, digs := [5, 7] }
def mei_il_v1Ex : Elem := { size := 3, pay := .val 10 }
def mei_il_v2Ex : Elem := { size := 4, pay := .val 20 }
def mei_il_cEx : Ctx := { ctr := 0, eff := [] }
def mei_il_xEx : SElem := { key := mei_il_k1Ex, val := mei_il_v1Ex, size := 13 }

/-- nested level of the examples: a group is just its size (capped); `set` grows it by 14, `remove` shrinks it by 13;
    a group of size ≤ 32 counts one element, the single element `mei_il_xEx` -/
def mei_il_oEx : ElemsOps Nat where
  size := fun g => min g 100000
  count := fun g => if g ≤ 32 then 1 else 2
  firstKey := fun _ => 5
  get := fun _ g _ k => if g = 0 then .error .keyNotFound else .ok (k, mei_il_v1Ex)
  set := fun _ g _ k _ c => .ok (k, none, g + 14, c)
  remove := fun _ g _ k c => .ok (k, mei_il_v1Ex, g - 13, c)
  newWith := fun _ _ x => .ok (8 + 8 + x.size)
  soleSingle := fun g => if g ≤ 32 then some mei_il_xEx else none
  popIter := fun _ c => ([], c)
  toList := fun _ => []

theorem mei_il_oEx_sole : ∀ g, mei_il_oEx.count g ≠ 1 → mei_il_oEx.soleSingle g = none := by
  intro g; simp only [mei_il_oEx]; split <;> simp
theorem mei_il_oEx_cnt : ∀ g, mei_il_oEx.count g < 2^32 := by
  intro g; simp only [mei_il_oEx]; split <;> decide
theorem mei_il_oEx_sz : ∀ g, mei_il_oEx.size g + 2 < 2^32 := by
  intro g; simp only [mei_il_oEx]; omega

/-- `singleElement.Get`: the resident key, another key -/
example : singleElement_Get (mei_il_env mei_il_oEx mei_il_cfgEx mei_il_k1Ex mei_il_v2Ex) (mei_cE mei_il_xEx) mei_il_cEx
      mei_il_k1Ex 0 5 (.key mei_il_k1Ex) = (some (.key mei_il_k1Ex), some (.val mei_il_v1Ex), none, mei_il_cEx) := by
  rw [singleElement_Get_eq_model mei_il_oEx mei_il_cfgEx mei_il_k1Ex mei_il_v2Ex _ (mei_il_env_ok _ _ _ _ mei_il_oEx_sole) _ _ _ _ _ 0]
  rfl
example : singleElement_Get (mei_il_env mei_il_oEx mei_il_cfgEx mei_il_k2Ex mei_il_v2Ex) (mei_cE mei_il_xEx) mei_il_cEx
      mei_il_k2Ex 0 5 (.key mei_il_k2Ex) = (none, none, some .keyNotFound, mei_il_cEx) := by
  rw [singleElement_Get_eq_model mei_il_oEx mei_il_cfgEx mei_il_k2Ex mei_il_v2Ex _ (mei_il_env_ok _ _ _ _ mei_il_oEx_sole) _ _ _ _ _ 0]
  rfl

/-- `singleElement.Remove`: the element is gone (nil) -/
example : singleElement_Remove (mei_il_env mei_il_oEx mei_il_cfgEx mei_il_k1Ex mei_il_v2Ex) (mei_cE mei_il_xEx) mei_il_cEx
      mei_il_k1Ex 0 5 (.key mei_il_k1Ex) = (some (.key mei_il_k1Ex), some (.val mei_il_v1Ex), .nil, none, mei_il_cEx) := by
  rw [singleElement_Remove_eq_model mei_il_oEx mei_il_cfgEx mei_il_k1Ex mei_il_v2Ex _ (mei_il_env_ok _ _ _ _ mei_il_oEx_sole) _ _ _ _ _ 0]
  rfl

/-- `inlineCollisionGroup.Get`: one level deeper; beyond the digester's levels -/
example : inlineCollisionGroup_Get (mei_il_env mei_il_oEx mei_il_cfgEx mei_il_k2Ex mei_il_v2Ex) { elements := 40 } mei_il_cEx
      mei_il_k2Ex (u64 0) 5 (.key mei_il_k2Ex) = (some (.key mei_il_k2Ex), some (.val mei_il_v1Ex), none, mei_il_cEx) := by
  rw [inlineCollisionGroup_Get_eq_model mei_il_oEx mei_il_cfgEx mei_il_k2Ex mei_il_v2Ex _ (mei_il_env_ok _ _ _ _ mei_il_oEx_sole) _ _ 0 _
    (by decide) (by decide)]
  rfl
example : inlineCollisionGroup_Get (mei_il_env mei_il_oEx mei_il_cfgEx mei_il_k2Ex mei_il_v2Ex) { elements := 40 } mei_il_cEx
      mei_il_k2Ex (u64 2) 0 (.key mei_il_k2Ex) = (none, none, some .hashLevel, mei_il_cEx) := by
  rw [inlineCollisionGroup_Get_eq_model mei_il_oEx mei_il_cfgEx mei_il_k2Ex mei_il_v2Ex _ (mei_il_env_ok _ _ _ _ mei_il_oEx_sole) _ _ 2 _
    (by decide) (by decide)]
  rfl

/-- `inlineCollisionGroup.Remove`: the group stays a group (60 - 13 = 47); it collapses to its last single element (40 - 13 = 27) -/
example : inlineCollisionGroup_Remove (mei_il_env mei_il_oEx mei_il_cfgEx mei_il_k2Ex mei_il_v2Ex) { elements := 60 } mei_il_cEx
      mei_il_k2Ex (u64 0) 5 (.key mei_il_k2Ex) =
    (some (.key mei_il_k2Ex), some (.val mei_il_v1Ex), .inlineGroup { elements := 47 }, none, { elements := 47 }, mei_il_cEx) := by
  rw [inlineCollisionGroup_Remove_eq_model mei_il_oEx mei_il_cfgEx mei_il_k2Ex mei_il_v2Ex _ (mei_il_env_ok _ _ _ _ mei_il_oEx_sole) _ _ 0 _
    (by decide) (by decide) (fun _ _ g' _ _ => mei_il_oEx_cnt g')]
  rfl
example : inlineCollisionGroup_Remove (mei_il_env mei_il_oEx mei_il_cfgEx mei_il_k2Ex mei_il_v2Ex) { elements := 40 } mei_il_cEx
      mei_il_k2Ex (u64 0) 5 (.key mei_il_k2Ex) =
    (some (.key mei_il_k2Ex), some (.val mei_il_v1Ex), .single (mei_cE mei_il_xEx), none, { elements := 27 }, mei_il_cEx) := by
  rw [inlineCollisionGroup_Remove_eq_model mei_il_oEx mei_il_cfgEx mei_il_k2Ex mei_il_v2Ex _ (mei_il_env_ok _ _ _ _ mei_il_oEx_sole) _ _ 0 _
    (by decide) (by decide) (fun _ _ g' _ _ => mei_il_oEx_cnt g')]
  rfl

/-- `inlineCollisionGroup.Set`: the group stays inline (2 + 54 ≤ 491); an oversized first-level group (2 + 514 > 491) is
    exported to a new slab: one allocation, one store, the element becomes an external group of size 2 + 19 -/
example : inlineCollisionGroup_Set (mei_il_env mei_il_oEx mei_il_cfgEx mei_il_k2Ex mei_il_v2Ex) { elements := 40 } mei_il_cEx
      7 () mei_il_k2Ex (u64 0) 5 (.key mei_il_k2Ex) (.val mei_il_v2Ex) =
    some (.inlineGroup { elements := 54 }, some (.key mei_il_k2Ex), none, none, { elements := 54 }, mei_il_cEx) := by
  rw [show (7 : Nat) = mei_il_cfgEx.addr from rfl,
    inlineCollisionGroup_Set_eq_model mei_il_oEx mei_il_cfgEx mei_il_k2Ex mei_il_v2Ex _ (mei_il_env_ok _ _ _ _ mei_il_oEx_sole) _ _ 0 _ _
    (by decide) (by decide) (by decide) (fun _ _ g' _ _ => mei_il_oEx_sz g')]
  rfl
example : inlineCollisionGroup_Set (mei_il_env mei_il_oEx mei_il_cfgEx mei_il_k2Ex mei_il_v2Ex) { elements := 500 } mei_il_cEx
      7 () mei_il_k2Ex (u64 0) 5 (.key mei_il_k2Ex) (.val mei_il_v2Ex) =
    some (.externalGroup { slabID := ⟨7, 1⟩, size := 21 }, some (.key mei_il_k2Ex), none, none, { elements := 514 },
      { ctr := 1, eff := [.alloc 7 ⟨7, 1⟩, .store ⟨7, 1⟩] }) := by
  rw [show (7 : Nat) = mei_il_cfgEx.addr from rfl,
    inlineCollisionGroup_Set_eq_model mei_il_oEx mei_il_cfgEx mei_il_k2Ex mei_il_v2Ex _ (mei_il_env_ok _ _ _ _ mei_il_oEx_sole) _ _ 0 _ _
    (by decide) (by decide) (by decide) (fun _ _ g' _ _ => mei_il_oEx_sz g')]
  rfl

/-- `singleElement.Set`: the resident key gets the new value (size 1 + 9 + 4); another key with the same digest turns the
    element into an inline group (the receiver itself is unchanged) -/
example : singleElement_Set (mei_il_env mei_il_oEx mei_il_cfgEx mei_il_k1Ex mei_il_v2Ex) (mei_cE mei_il_xEx) mei_il_cEx
      7 () mei_il_k1Ex (u64 0) 5 (.key mei_il_k1Ex) (.val mei_il_v2Ex) =
    some (.single (mei_cE { mei_il_xEx with val := mei_il_v2Ex, size := 14 }), some (.key mei_il_k1Ex), some (.val mei_il_v1Ex), none,
      mei_cE { mei_il_xEx with val := mei_il_v2Ex, size := 14 }, mei_il_cEx) := by
  rw [show (7 : Nat) = mei_il_cfgEx.addr from rfl,
    singleElement_Set_eq_model mei_il_oEx mei_il_cfgEx mei_il_k1Ex mei_il_v2Ex _ (mei_il_env_ok _ _ _ _ mei_il_oEx_sole) _ _ 0 _ _
    (by decide) (by decide) (by decide) (fun _ _ _ g' _ _ _ => mei_il_oEx_sz g') (by decide) (by decide) (fun _ => ⟨_, rfl⟩)]
  rfl
example : singleElement_Set (mei_il_env mei_il_oEx mei_il_cfgEx mei_il_k2Ex mei_il_v2Ex) (mei_cE mei_il_xEx) mei_il_cEx
      7 () mei_il_k2Ex (u64 0) 5 (.key mei_il_k2Ex) (.val mei_il_v2Ex) =
    some (.inlineGroup { elements := 43 }, some (.key mei_il_k2Ex), none, none, mei_cE mei_il_xEx, mei_il_cEx) := by
  rw [show (7 : Nat) = mei_il_cfgEx.addr from rfl,
    singleElement_Set_eq_model mei_il_oEx mei_il_cfgEx mei_il_k2Ex mei_il_v2Ex _ (mei_il_env_ok _ _ _ _ mei_il_oEx_sole) _ _ 0 _ _
    (by decide) (by decide) (by decide) (fun _ _ _ g' _ _ _ => mei_il_oEx_sz g') (by decide) (by decide) (fun _ => ⟨_, rfl⟩)]
  rfl

/-! ### non-vacuity with the model's REAL last-level operations (`SingleElems.ops`, one digest level) -/

def mei_il_cfg1Ex : MCfg := { T := 1024, L := 1, climit := 255, addr := 7 }
/-- a last-level collision group holding `mei_il_xEx` and one more element -/
def mei_il_sEx : SingleElems :=
  { elems := [mei_il_xEx, { key := mei_il_k2Ex, val := mei_il_v2Ex, size := 14 }], size := 6 + 13 + 14, level := 1 }
def mei_il_k3Ex : MKey := { size := 9, pay := 3, digs := [5, 6] }

theorem mei_il_single_sole : ∀ g : SingleElems, SingleElems.ops.count g ≠ 1 → SingleElems.ops.soleSingle g = none := by
  intro g h
  simp only [SingleElems.ops] at h ⊢
  rcases hg : g.elems with _ | ⟨a, _ | ⟨b, t⟩⟩ <;> simp [hg] at h ⊢

/-- `inlineCollisionGroup.Set` on a real `singleElements` group: a third key is appended (size 33 + 14), the group stays inline -/
example : inlineCollisionGroup_Set (@mei_il_env _ ⟨mei_il_sEx⟩ SingleElems.ops mei_il_cfg1Ex mei_il_k3Ex mei_il_v2Ex)
      { elements := mei_il_sEx } mei_il_cEx 7 () mei_il_k3Ex (u64 0) 5 (.key mei_il_k3Ex) (.val mei_il_v2Ex) =
    some (.inlineGroup { elements := { mei_il_sEx with
              elems := mei_il_sEx.elems ++ [{ key := mei_il_k3Ex, val := mei_il_v2Ex, size := 14 }], size := 47 } },
      some (.key mei_il_k3Ex), none, none,
      { elements := { mei_il_sEx with
              elems := mei_il_sEx.elems ++ [{ key := mei_il_k3Ex, val := mei_il_v2Ex, size := 14 }], size := 47 } },
      mei_il_cEx) := by
  rw [show (7 : Nat) = mei_il_cfg1Ex.addr from rfl,
    inlineCollisionGroup_Set_eq_model SingleElems.ops mei_il_cfg1Ex mei_il_k3Ex mei_il_v2Ex _
      (@mei_il_env_ok _ ⟨mei_il_sEx⟩ _ _ _ _ mei_il_single_sole) _ _ 0 _ _ (by decide) (by decide) (by decide)
      (by intro ks old g' c' h; cases h; decide)]
  rfl

/-- `inlineCollisionGroup.Remove` on a real `singleElements` group of two: the group collapses to the remaining single element -/
example : inlineCollisionGroup_Remove (@mei_il_env _ ⟨mei_il_sEx⟩ SingleElems.ops mei_il_cfg1Ex mei_il_k2Ex mei_il_v2Ex)
      { elements := mei_il_sEx } mei_il_cEx mei_il_k2Ex (u64 0) 5 (.key mei_il_k2Ex) =
    (some (.key mei_il_k2Ex), some (.val mei_il_v2Ex), .single (mei_cE mei_il_xEx), none,
      { elements := { mei_il_sEx with elems := [mei_il_xEx], size := 19 } }, mei_il_cEx) := by
  rw [inlineCollisionGroup_Remove_eq_model SingleElems.ops mei_il_cfg1Ex mei_il_k2Ex mei_il_v2Ex _
      (@mei_il_env_ok _ ⟨mei_il_sEx⟩ _ _ _ _ mei_il_single_sole) _ _ 0 _ (by decide) (by decide)
      (by intro rk rv g' c' h; cases h; decide)]
  rfl

end Atree.TransEq

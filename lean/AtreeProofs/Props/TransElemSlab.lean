import AtreeProofs.Props.TransMapSlabsSingle
import AtreeProofs.Trans.MapElem
import AtreeProofs.Trans.MapElemOn
/-
  Unit B, slab part: the GENERATED `storeSlab`, `getMapSlab`, `MapDataSlab.Set / Remove` and
  `externalCollisionGroup.Get / Set / Remove` (`AtreeModel/Gen/TransMapElem.lean`) against the model
  (`MElemF.get / set / remove` on `.ext`, `MElemF.groupSlabUpdate`, `MDataSlab.set / remove`).
-/
namespace Atree.TransEq
open Atree Atree.Gen.TransElem

section
variable {α X : Type} (o : ElemsOps α) (cfg : MCfg) (k : MKey) (v : Elem) (env : Env α SV SW X MKey Unit Ctx GE)

/-- `mei_storeSlab_data` over the relativised environment `EnvBOn` -/
theorem mei_storeSlab_data_on {Qg Qs Qr : α → Nat → Ctx → Prop} {Qn : Nat → SElem → Prop}
    (hE : EnvBOn o cfg k v env Qg Qs Qr Qn) (m : MapDataSlab α X) (c : Ctx) :
    storeSlab env c (.dataSlab m) = some (none, c.emit (.store m.header.slabID)) := by
  simp only [storeSlab, MapSlab_SlabID, MapDataSlab_SlabID, hE.store, Option.isNone_none, Bool.not_true,
    Bool.false_eq_true, if_false]

theorem mei_storeSlab_data (hE : EnvB o cfg k v env) (m : MapDataSlab α X) (c : Ctx) :
    storeSlab env c (.dataSlab m) = some (none, c.emit (.store m.header.slabID)) :=
  mei_storeSlab_data_on o cfg k v env hE.toOn m c

set_option linter.unusedVariables false in
/-- `mei_getMapSlab_found` over the relativised environment `EnvBOn` -/
theorem mei_getMapSlab_found_on {Qg Qs Qr : α → Nat → Ctx → Prop} {Qn : Nat → SElem → Prop}
    (hE : EnvBOn o cfg k v env Qg Qs Qr Qn) (c : Ctx) (id : SlabID) (m : MapDataSlab α X)
    (hret : env.SlabStorage_Retrieve c id = (.dataSlab m, true, none, c)) :
    getMapSlab env c id = (.dataSlab m, none, c) := by
  simp only [getMapSlab, hret, Option.isNone_none, Bool.not_true, Bool.false_eq_true, if_false, MapSlab.isNil,
    Bool.not_false]

set_option linter.unusedVariables false in
theorem mei_getMapSlab_found (hE : EnvB o cfg k v env) (c : Ctx) (id : SlabID) (m : MapDataSlab α X)
    (hret : env.SlabStorage_Retrieve c id = (.dataSlab m, true, none, c)) :
    getMapSlab env c id = (.dataSlab m, none, c) :=
  mei_getMapSlab_found_on o cfg k v env hE.toOn c id m hret

/-- `getPrefixSize` as a number -/
def mei_prefix (m : MapDataSlab α X) : Nat :=
  if m.inlined then Gen.inlinedMapDataSlabPrefixSize else if m.extraData.isSome then Gen.mapRootDataSlabPrefixSize else Gen.mapDataSlabPrefixSize

theorem mei_getPrefixSize (m : MapDataSlab α X) : MapDataSlab_getPrefixSize env m = u32 (mei_prefix m) := by
  unfold MapDataSlab_getPrefixSize mei_prefix
  cases m.inlined <;> cases m.extraData <;> rfl

/-- `MapDataSlab_Set_eq` over the relativised environment `EnvBOn` -/
theorem MapDataSlab_Set_eq_on {Qg Qs Qr : α → Nat → Ctx → Prop} {Qn : Nat → SElem → Prop}
    (hE : EnvBOn o cfg k v env Qg Qs Qr Qn) (m : MapDataSlab α X) (c : Ctx) (level : Nat) (b : Unit)
    (hl : level < 2^64) (ha : m.header.slabID.addr = cfg.addr)
    (hQ : Qs m.elements level c) :
    MapDataSlab_Set env m c b k (u64 level) (u64 (k.dig level)) (.key k) (.val v) =
      match o.set cfg m.elements level k v c with
      | .ok (ks, old, g', c') => some (some (.key ks), old.map .val, none,
          { m with elements := g', header := { m.header with firstKey := u64 (o.firstKey g'), size := u32 (mei_prefix m + o.size g') } },
          if m.inlined then c' else c'.emit (.store m.header.slabID))
      | .error err => some (none, none, some err, m, c) := by
  have hg := hE.gSet m.elements c level b hl hQ
  unfold MapDataSlab_Set
  simp only [MapDataSlab_SlabID, ha, hg]
  rcases o.set cfg m.elements level k v c with err | ⟨ks, old, g', c'⟩
  · simp [mei_rGSet]
  · simp only [mei_rGSet, Option.isNone_none, Bool.not_true, Bool.false_eq_true, if_false, mei_storeSlab_data_on o cfg k v env hE,
      mei_getPrefixSize, hE.gFirst, hE.gSize, u32_add_eq]
    cases hi : m.inlined <;> simp [mei_prefix, hi]

/-- `MapDataSlab.Set` on ANY data slab: the nested `elements.Set`, then header maintenance (firstKey, size = prefix +
    elements size), then `storeSlab` unless inlined; next to an error nothing changed -/
theorem MapDataSlab_Set_eq (hE : EnvB o cfg k v env) (m : MapDataSlab α X) (c : Ctx) (level : Nat) (b : Unit)
    (hl : level < 2^64) (ha : m.header.slabID.addr = cfg.addr) :
    MapDataSlab_Set env m c b k (u64 level) (u64 (k.dig level)) (.key k) (.val v) =
      match o.set cfg m.elements level k v c with
      | .ok (ks, old, g', c') => some (some (.key ks), old.map .val, none,
          { m with elements := g', header := { m.header with firstKey := u64 (o.firstKey g'), size := u32 (mei_prefix m + o.size g') } },
          if m.inlined then c' else c'.emit (.store m.header.slabID))
      | .error err => some (none, none, some err, m, c) :=
  MapDataSlab_Set_eq_on o cfg k v env hE.toOn m c level b hl ha trivial

/-- `MapDataSlab_Remove_eq` over the relativised environment `EnvBOn` -/
theorem MapDataSlab_Remove_eq_on {Qg Qs Qr : α → Nat → Ctx → Prop} {Qn : Nat → SElem → Prop}
    (hE : EnvBOn o cfg k v env Qg Qs Qr Qn) (m : MapDataSlab α X) (c : Ctx) (level : Nat) (hl : level < 2^64)
    (hQ : Qr m.elements level c) :
    MapDataSlab_Remove env m c k (u64 level) (u64 (k.dig level)) (.key k) =
      match o.remove cfg m.elements level k c with
      | .ok (rk, rv, g', c') => some (some (.key rk), some (.val rv), none,
          { m with elements := g', header := { m.header with firstKey := u64 (o.firstKey g'), size := u32 (mei_prefix m + o.size g') } },
          if m.inlined then c' else c'.emit (.store m.header.slabID))
      | .error err => some (none, none, some err, m, c) := by
  have hg := hE.gRemove m.elements c level hl hQ
  unfold MapDataSlab_Remove
  simp only [hg]
  rcases o.remove cfg m.elements level k c with err | ⟨rk, rv, g', c'⟩
  · simp [mei_rGRemove]
  · simp only [mei_rGRemove, Option.isNone_none, Bool.not_true, Bool.false_eq_true, if_false, mei_storeSlab_data_on o cfg k v env hE,
      mei_getPrefixSize, hE.gFirst, hE.gSize, u32_add_eq]
    cases hi : m.inlined <;> simp [mei_prefix, hi]

theorem MapDataSlab_Remove_eq (hE : EnvB o cfg k v env) (m : MapDataSlab α X) (c : Ctx) (level : Nat) (hl : level < 2^64) :
    MapDataSlab_Remove env m c k (u64 level) (u64 (k.dig level)) (.key k) =
      match o.remove cfg m.elements level k c with
      | .ok (rk, rv, g', c') => some (some (.key rk), some (.val rv), none,
          { m with elements := g', header := { m.header with firstKey := u64 (o.firstKey g'), size := u32 (mei_prefix m + o.size g') } },
          if m.inlined then c' else c'.emit (.store m.header.slabID))
      | .error err => some (none, none, some err, m, c) :=
  MapDataSlab_Remove_eq_on o cfg k v env hE.toOn m c level hl trivial

/-- `MapDataSlab_Set_groupSlab` over the relativised environment `EnvBOn` -/
theorem MapDataSlab_Set_groupSlab_on {Qg Qs Qr : α → Nat → Ctx → Prop} {Qn : Nat → SElem → Prop}
    (hE : EnvBOn o cfg k v env Qg Qs Qr Qn) (s : GroupSlab α) (c : Ctx) (level : Nat) (b : Unit)
    (hl : level < 2^64) (ha : s.hdr.id.addr = cfg.addr)
    (hQ : Qs s.elems level c) :
    MapDataSlab_Set env (mei_cGroupSlab s : MapDataSlab α X) c b k (u64 level) (u64 (k.dig level)) (.key k) (.val v) =
      match o.set cfg s.elems level k v c with
      | .ok (ks, old, g', c') => some (some (.key ks), old.map .val, none,
          mei_cGroupSlab (MElemF.groupSlabUpdate o s g' c').1, (MElemF.groupSlabUpdate o s g' c').2)
      | .error err => some (none, none, some err, mei_cGroupSlab s, c) := by
  rw [MapDataSlab_Set_eq_on o cfg k v env hE (mei_cGroupSlab s) c level b hl ha hQ]
  show (match o.set cfg s.elems level k v c with | .ok (ks, old, g', c') => _ | .error err => _) = _
  rcases o.set cfg s.elems level k v c with err | ⟨ks, old, g', c'⟩
  · rfl
  · rfl

/-- the slab of an external collision group: `MapDataSlab.Set` = the model's `groupSlabUpdate` after the nested set -/
theorem MapDataSlab_Set_groupSlab (hE : EnvB o cfg k v env) (s : GroupSlab α) (c : Ctx) (level : Nat) (b : Unit)
    (hl : level < 2^64) (ha : s.hdr.id.addr = cfg.addr) :
    MapDataSlab_Set env (mei_cGroupSlab s : MapDataSlab α X) c b k (u64 level) (u64 (k.dig level)) (.key k) (.val v) =
      match o.set cfg s.elems level k v c with
      | .ok (ks, old, g', c') => some (some (.key ks), old.map .val, none,
          mei_cGroupSlab (MElemF.groupSlabUpdate o s g' c').1, (MElemF.groupSlabUpdate o s g' c').2)
      | .error err => some (none, none, some err, mei_cGroupSlab s, c) :=
  MapDataSlab_Set_groupSlab_on o cfg k v env hE.toOn s c level b hl ha trivial

/-- `MapDataSlab_Remove_groupSlab` over the relativised environment `EnvBOn` -/
theorem MapDataSlab_Remove_groupSlab_on {Qg Qs Qr : α → Nat → Ctx → Prop} {Qn : Nat → SElem → Prop}
    (hE : EnvBOn o cfg k v env Qg Qs Qr Qn) (s : GroupSlab α) (c : Ctx) (level : Nat) (hl : level < 2^64)
    (hQ : Qr s.elems level c) :
    MapDataSlab_Remove env (mei_cGroupSlab s : MapDataSlab α X) c k (u64 level) (u64 (k.dig level)) (.key k) =
      match o.remove cfg s.elems level k c with
      | .ok (rk, rv, g', c') => some (some (.key rk), some (.val rv), none,
          mei_cGroupSlab (MElemF.groupSlabUpdate o s g' c').1, (MElemF.groupSlabUpdate o s g' c').2)
      | .error err => some (none, none, some err, mei_cGroupSlab s, c) := by
  rw [MapDataSlab_Remove_eq_on o cfg k v env hE (mei_cGroupSlab s) c level hl hQ]
  show (match o.remove cfg s.elems level k c with | .ok (rk, rv, g', c') => _ | .error err => _) = _
  rcases o.remove cfg s.elems level k c with err | ⟨rk, rv, g', c'⟩
  · rfl
  · rfl

/-- the slab of an external collision group: `MapDataSlab.Remove` = the model's `groupSlabUpdate` after the nested remove -/
theorem MapDataSlab_Remove_groupSlab (hE : EnvB o cfg k v env) (s : GroupSlab α) (c : Ctx) (level : Nat) (hl : level < 2^64) :
    MapDataSlab_Remove env (mei_cGroupSlab s : MapDataSlab α X) c k (u64 level) (u64 (k.dig level)) (.key k) =
      match o.remove cfg s.elems level k c with
      | .ok (rk, rv, g', c') => some (some (.key rk), some (.val rv), none,
          mei_cGroupSlab (MElemF.groupSlabUpdate o s g' c').1, (MElemF.groupSlabUpdate o s g' c').2)
      | .error err => some (none, none, some err, mei_cGroupSlab s, c) :=
  MapDataSlab_Remove_groupSlab_on o cfg k v env hE.toOn s c level hl trivial

end

/-- a data slab of the slab tree as the generated record (`x` = its extraData pointer, present iff root) -/
def mei_cData {r : Nat} {X : Type} (s : MDataSlab r) (x : Option X) : MapDataSlab (HkeyElems (MElems r)) X :=
  { next := s.next, header := mei_cHdr s.hdr, elements := s.elems, extraData := x, anySize := false, collisionGroup := false, inlined := s.inlined }

theorem mei_prefix_cData {r : Nat} {X : Type} (s : MDataSlab r) (x : Option X) (hx : x.isSome = s.root) :
    mei_prefix (mei_cData s x) = s.prefixSize := by
  simp only [mei_prefix, mei_cData, MDataSlab.prefixSize, hx]

/-- `MapDataSlab_Set_eq_model` over the relativised environment `EnvBOn` -/
theorem MapDataSlab_Set_eq_model_on {r : Nat} {X : Type} (cfg : MCfg) (k : MKey) (v : Elem)
    (env : Env (HkeyElems (MElems r)) SV SW X MKey Unit Ctx GE)
    {Qg Qs Qr : HkeyElems (MElems r) → Nat → Ctx → Prop} {Qn : Nat → SElem → Prop}
    (hE : EnvBOn (HkeyElems.ops (MElems.ops r)) cfg k v env Qg Qs Qr Qn)
    (s : MDataSlab r) (x : Option X) (hx : x.isSome = s.root) (c : Ctx) (b : Unit) (ha : s.hdr.id.addr = cfg.addr)
    (hQ : Qs s.elems 0 c) :
    MapDataSlab_Set env (mei_cData s x) c b k (u64 0) (u64 (k.dig 0)) (.key k) (.val v) =
      match MDataSlab.set cfg s k v c with
      | .ok (ks, old, s', c') => some (some (.key ks), old.map .val, none, mei_cData s' x, c')
      | .error err => some (none, none, some err, mei_cData s x, c) := by
  rw [MapDataSlab_Set_eq_on _ cfg k v env hE (mei_cData s x) c 0 b (by decide) ha hQ, mei_prefix_cData s x hx]
  unfold MDataSlab.set
  have e : (HkeyElems.ops (MElems.ops r)).set cfg (mei_cData s x).elements 0 k v c =
      HkeyElems.set (MElems.ops r) cfg s.elems 0 k v c := rfl
  rw [e]
  simp only [MDataSlab.eops, bind, Except.bind, pure, Except.pure]
  rcases HkeyElems.set (MElems.ops r) cfg s.elems 0 k v c with err | ⟨ks, old, g', c'⟩
  · rfl
  · rfl

/-- `MapDataSlab.Set` on a data slab of the tree (level 0) = the model's `MDataSlab.set` -/
theorem MapDataSlab_Set_eq_model {r : Nat} {X : Type} (cfg : MCfg) (k : MKey) (v : Elem)
    (env : Env (HkeyElems (MElems r)) SV SW X MKey Unit Ctx GE) (hE : EnvB (HkeyElems.ops (MElems.ops r)) cfg k v env)
    (s : MDataSlab r) (x : Option X) (hx : x.isSome = s.root) (c : Ctx) (b : Unit) (ha : s.hdr.id.addr = cfg.addr) :
    MapDataSlab_Set env (mei_cData s x) c b k (u64 0) (u64 (k.dig 0)) (.key k) (.val v) =
      match MDataSlab.set cfg s k v c with
      | .ok (ks, old, s', c') => some (some (.key ks), old.map .val, none, mei_cData s' x, c')
      | .error err => some (none, none, some err, mei_cData s x, c) :=
  MapDataSlab_Set_eq_model_on cfg k v env hE.toOn s x hx c b ha trivial

/-- `MapDataSlab_Remove_eq_model` over the relativised environment `EnvBOn` -/
theorem MapDataSlab_Remove_eq_model_on {r : Nat} {X : Type} (cfg : MCfg) (k : MKey) (v : Elem)
    (env : Env (HkeyElems (MElems r)) SV SW X MKey Unit Ctx GE)
    {Qg Qs Qr : HkeyElems (MElems r) → Nat → Ctx → Prop} {Qn : Nat → SElem → Prop}
    (hE : EnvBOn (HkeyElems.ops (MElems.ops r)) cfg k v env Qg Qs Qr Qn)
    (s : MDataSlab r) (x : Option X) (hx : x.isSome = s.root) (c : Ctx)
    (hQ : Qr s.elems 0 c) :
    MapDataSlab_Remove env (mei_cData s x) c k (u64 0) (u64 (k.dig 0)) (.key k) =
      match MDataSlab.remove cfg s k c with
      | .ok (rk, rv, s', c') => some (some (.key rk), some (.val rv), none, mei_cData s' x, c')
      | .error err => some (none, none, some err, mei_cData s x, c) := by
  rw [MapDataSlab_Remove_eq_on _ cfg k v env hE (mei_cData s x) c 0 (by decide) hQ, mei_prefix_cData s x hx]
  unfold MDataSlab.remove
  have e : (HkeyElems.ops (MElems.ops r)).remove cfg (mei_cData s x).elements 0 k c =
      HkeyElems.remove (MElems.ops r) cfg s.elems 0 k c := rfl
  rw [e]
  simp only [MDataSlab.eops, bind, Except.bind, pure, Except.pure]
  rcases HkeyElems.remove (MElems.ops r) cfg s.elems 0 k c with err | ⟨rk, rv, g', c'⟩
  · rfl
  · rfl

/-- `MapDataSlab.Remove` on a data slab of the tree (level 0) = the model's `MDataSlab.remove` -/
theorem MapDataSlab_Remove_eq_model {r : Nat} {X : Type} (cfg : MCfg) (k : MKey) (v : Elem)
    (env : Env (HkeyElems (MElems r)) SV SW X MKey Unit Ctx GE) (hE : EnvB (HkeyElems.ops (MElems.ops r)) cfg k v env)
    (s : MDataSlab r) (x : Option X) (hx : x.isSome = s.root) (c : Ctx) :
    MapDataSlab_Remove env (mei_cData s x) c k (u64 0) (u64 (k.dig 0)) (.key k) =
      match MDataSlab.remove cfg s k c with
      | .ok (rk, rv, s', c') => some (some (.key rk), some (.val rv), none, mei_cData s' x, c')
      | .error err => some (none, none, some err, mei_cData s x, c) :=
  MapDataSlab_Remove_eq_model_on cfg k v env hE.toOn s x hx c trivial

theorem mei_u64_succ (n : Nat) : u64 n + (1 : UInt64) = u64 (n + 1) := u64_succ n

section
variable {α X : Type} (o : ElemsOps α) (cfg : MCfg) (k : MKey) (v : Elem) (env : Env α SV SW X MKey Unit Ctx GE)

/-- `externalCollisionGroup_Get_eq_model` over the relativised environment `EnvBOn` -/
theorem externalCollisionGroup_Get_eq_model_on {Qg Qs Qr : α → Nat → Ctx → Prop} {Qn : Nat → SElem → Prop}
    (hE : EnvBOn o cfg k v env Qg Qs Qr Qn) (id : SlabID) (sz : Nat) (s : GroupSlab α) (c : Ctx)
    (level : Nat) (hk : UInt64) (hl : level + 1 < 2^64) (hL : cfg.L < 2^64)
    (hret : env.SlabStorage_Retrieve c id = (.dataSlab (mei_cGroupSlab s), true, none, c))
    (hget : ∀ (d : MapDataSlab α X) c dg lvl hk w, env.MapSlab_Get (.dataSlab d) c dg lvl hk w = env.elements_Get d.elements c dg lvl hk w)
    (hQ : Qg s.elems (level + 1) c) :
    externalCollisionGroup_Get env { slabID := id, size := u32 sz } c k (u64 level) hk (.key k) =
      mei_rGet c (MElemF.get o cfg (.ext id sz s) level k) := by
  unfold externalCollisionGroup_Get
  simp only [mei_getMapSlab_found_on o cfg k v env hE c id _ hret, Option.isNone_none, Bool.not_true, Bool.false_eq_true,
    if_false, u64_succ, hE.levels, u64_dgt hl hL, MElemF.get]
  by_cases h : level + 1 > cfg.L
  · simp only [h, decide_true, if_true, hE.eHashLevel, mei_rGet]
  · simp only [h, decide_false, Bool.false_eq_true, if_false, hE.dig k (level + 1) hl, hget, hE.gGet (mei_cGroupSlab s : MapDataSlab α X).elements c (level + 1) hl hQ]
    rfl

/-- `externalCollisionGroup.Get`; `hret`: the storage returns the group's slab (the model embeds it in the element);
    `hget`: Go's method promotion - `MapDataSlab.Get` IS `elements.Get` of the embedded field -/
theorem externalCollisionGroup_Get_eq_model (hE : EnvB o cfg k v env) (id : SlabID) (sz : Nat) (s : GroupSlab α) (c : Ctx)
    (level : Nat) (hk : UInt64) (hl : level + 1 < 2^64) (hL : cfg.L < 2^64)
    (hret : env.SlabStorage_Retrieve c id = (.dataSlab (mei_cGroupSlab s), true, none, c))
    (hget : ∀ (d : MapDataSlab α X) c dg lvl hk w, env.MapSlab_Get (.dataSlab d) c dg lvl hk w = env.elements_Get d.elements c dg lvl hk w) :
    externalCollisionGroup_Get env { slabID := id, size := u32 sz } c k (u64 level) hk (.key k) =
      mei_rGet c (MElemF.get o cfg (.ext id sz s) level k) :=
  externalCollisionGroup_Get_eq_model_on o cfg k v env hE.toOn id sz s c level hk hl hL hret hget trivial
/-- `externalCollisionGroup_Set_eq_model` over the relativised environment `EnvBOn` -/
theorem externalCollisionGroup_Set_eq_model_on {Qg Qs Qr : α → Nat → Ctx → Prop} {Qn : Nat → SElem → Prop}
    (hE : EnvBOn o cfg k v env Qg Qs Qr Qn) (id : SlabID) (sz : Nat) (s : GroupSlab α) (c : Ctx)
    (level : Nat) (hk : UInt64) (a : Nat) (b : Unit) (hl : level + 1 < 2^64) (hL : cfg.L < 2^64) (ha : s.hdr.id.addr = cfg.addr)
    (hret : env.SlabStorage_Retrieve c id = (.dataSlab (mei_cGroupSlab s), true, none, c))
    (hset : ∀ (d : MapDataSlab α X) c b dg lvl hk w w', env.MapSlab_Set (.dataSlab d) c b dg lvl hk w w' =
      match MapDataSlab_Set env d c b dg lvl hk w w' with
      | some r => (r.1, r.2.1, r.2.2.1, .dataSlab r.2.2.2.1, r.2.2.2.2)
      | none => (none, none, none, .dataSlab d, c))
    (hQ : Qs s.elems (level + 1) c) :
    externalCollisionGroup_Set env { slabID := id, size := u32 sz } c a b k (u64 level) hk (.key k) (.val v) =
      mei_rESet c (MElemF.set o cfg (.ext id sz s) level k v c) := by
  unfold externalCollisionGroup_Set
  simp only [mei_getMapSlab_found_on o cfg k v env hE c id _ hret, Option.isNone_none, Bool.not_true, Bool.false_eq_true,
    if_false, u64_succ, hE.levels, u64_dgt hl hL, MElemF.set]
  by_cases h : level + 1 > cfg.L
  · simp only [h, decide_true, if_true, hE.eHashLevel, mei_rESet, bind, Except.bind, throw, throwThe, MonadExceptOf.throw]
  · simp only [h, decide_false, Bool.false_eq_true, if_false, hE.dig k (level + 1) hl, hset,
      MapDataSlab_Set_groupSlab_on o cfg k v env hE s c (level + 1) b hl ha hQ, bind, Except.bind, pure, Except.pure]
    rcases o.set cfg s.elems (level + 1) k v c with err | ⟨ks, old, g', c'⟩
    · rfl
    · rfl

/-- `externalCollisionGroup.Set`; `hset`: dynamic dispatch of `MapSlab.Set` on a data slab is the translated `MapDataSlab.Set` -/
theorem externalCollisionGroup_Set_eq_model (hE : EnvB o cfg k v env) (id : SlabID) (sz : Nat) (s : GroupSlab α) (c : Ctx)
    (level : Nat) (hk : UInt64) (a : Nat) (b : Unit) (hl : level + 1 < 2^64) (hL : cfg.L < 2^64) (ha : s.hdr.id.addr = cfg.addr)
    (hret : env.SlabStorage_Retrieve c id = (.dataSlab (mei_cGroupSlab s), true, none, c))
    (hset : ∀ (d : MapDataSlab α X) c b dg lvl hk w w', env.MapSlab_Set (.dataSlab d) c b dg lvl hk w w' =
      match MapDataSlab_Set env d c b dg lvl hk w w' with
      | some r => (r.1, r.2.1, r.2.2.1, .dataSlab r.2.2.2.1, r.2.2.2.2)
      | none => (none, none, none, .dataSlab d, c)) :
    externalCollisionGroup_Set env { slabID := id, size := u32 sz } c a b k (u64 level) hk (.key k) (.val v) =
      mei_rESet c (MElemF.set o cfg (.ext id sz s) level k v c) :=
  externalCollisionGroup_Set_eq_model_on o cfg k v env hE.toOn id sz s c level hk a b hl hL ha hret hset trivial
/-- `externalCollisionGroup_Remove_eq_model` over the relativised environment `EnvBOn` -/
theorem externalCollisionGroup_Remove_eq_model_on {Qg Qs Qr : α → Nat → Ctx → Prop} {Qn : Nat → SElem → Prop}
    (hE : EnvBOn o cfg k v env Qg Qs Qr Qn) (id : SlabID) (sz : Nat) (s : GroupSlab α) (c : Ctx)
    (level : Nat) (hk : UInt64) (hl : level + 1 < 2^64) (hL : cfg.L < 2^64)
    (hcnt : ∀ rk rv g' c', o.remove cfg s.elems (level + 1) k c = .ok (rk, rv, g', c') → o.count g' < 2^32)
    (hret : env.SlabStorage_Retrieve c id = (.dataSlab (mei_cGroupSlab s), true, none, c))
    (hQ : Qr s.elems (level + 1) c) :
    externalCollisionGroup_Remove env { slabID := id, size := u32 sz } c k (u64 level) hk (.key k) =
      some (mei_rERemove c (MElemF.remove o cfg (.ext id sz s) level k c)) := by
  unfold externalCollisionGroup_Remove
  simp only [hret, Option.isNone_none, Bool.not_true, Bool.false_eq_true,
    if_false, u64_succ, hE.levels, u64_dgt hl hL, MElemF.remove]
  by_cases h : level + 1 > cfg.L
  · simp only [h, decide_true, if_true, hE.eHashLevel, mei_rERemove, bind, Except.bind, throw, throwThe, MonadExceptOf.throw]
  · simp only [h, decide_false, Bool.false_eq_true, if_false, hE.dig k (level + 1) hl,
      MapDataSlab_Remove_groupSlab_on o cfg k v env hE s c (level + 1) hl hQ, bind, Except.bind, pure, Except.pure]
    rcases hrm : o.remove cfg s.elems (level + 1) k c with err | ⟨rk, rv, g', c'⟩
    · rfl
    · have h1 : (1 : UInt32) = u32 1 := rfl
      simp only [Option.isNone_none, Bool.not_true, Bool.false_eq_true, if_false, mei_cGroupSlab, MElemF.groupSlabUpdate,
        hE.gCount, h1, u32_inj (hcnt rk rv g' c' hrm) (by decide : 1 < 2^32), hE.remove]
      by_cases hc : o.count g' = 1
      · obtain ⟨el, hel, hs⟩ := (hE.gSole g').1 hc
        simp only [hc, decide_true, if_true, hel, hs, Option.isNone_none, Bool.not_true, Bool.false_eq_true, if_false]
        cases el <;> rfl
      · simp only [hc, decide_false, Bool.false_eq_true, if_false, (hE.gSole g').2 hc]
        rfl

/-- `externalCollisionGroup.Remove` (fully translated: Retrieve, type test, `MapDataSlab.Remove`, collapse to the sole single
    element with removal of the external slab).  `hcnt` (the count of the group AFTER the removal fits `uint32`) is asked of
    the result of the nested remove only: `∀ g', o.count g' < 2^32` would be unsatisfiable for the model's list-based
    `SingleElems.ops` / `HkeyElems.ops` (lists of any length exist), i.e. the theorem would be vacuous for them. -/
theorem externalCollisionGroup_Remove_eq_model (hE : EnvB o cfg k v env) (id : SlabID) (sz : Nat) (s : GroupSlab α) (c : Ctx)
    (level : Nat) (hk : UInt64) (hl : level + 1 < 2^64) (hL : cfg.L < 2^64)
    (hcnt : ∀ rk rv g' c', o.remove cfg s.elems (level + 1) k c = .ok (rk, rv, g', c') → o.count g' < 2^32)
    (hret : env.SlabStorage_Retrieve c id = (.dataSlab (mei_cGroupSlab s), true, none, c)) :
    externalCollisionGroup_Remove env { slabID := id, size := u32 sz } c k (u64 level) hk (.key k) =
      some (mei_rERemove c (MElemF.remove o cfg (.ext id sz s) level k c)) :=
  externalCollisionGroup_Remove_eq_model_on o cfg k v env hE.toOn id sz s c level hk hl hL hcnt hret trivial
end

/-! ## non-vacuity: a concrete environment satisfying `EnvB`, `hret`, `hget`, `hset`, and the theorems at work on it -/

/-- an environment built from the model's operations `o` (`MapSlab.Set` still a dummy) -/
def mei_env0 {α X : Type} (o : ElemsOps α) (cfg : MCfg) (k : MKey) (v : Elem)
    (elemAt : α → Int → element α SV × Option GE) (newS : UInt64 → singleElement SV → α)
    (newH : UInt64 → UInt64 → element α SV → α) (retr : Ctx → SlabID → MapSlab α X × Bool × Option GE × Ctx) :
    Env α SV SW X MKey Unit Ctx GE where
  DigesterBuilder_Digest := fun _ w => match w with | .key k' => (k', none) | .val _ => (k, none)
  Digester_Digest := fun d lvl => (u64 (d.dig lvl.toNat), none)
  Digester_Levels := fun _ => u64 cfg.L
  MapSlab_Get := fun sl c d lvl _ _ => match sl with
    | .dataSlab m => mei_rGet c (o.get cfg m.elements lvl.toNat d)
    | _ => (none, none, some .goPanic, c)
  MapSlab_Set := fun sl c _ _ _ _ _ _ => (none, none, some .goPanic, sl, c)
  MapSlab_getElementAndNextKey := fun _ c _ _ _ _ => (none, none, none, some .goPanic, c)
  NewHashLevelErrorf := some .hashLevel
  NewKeyNotFoundError := some .keyNotFound
  NewSlabDataErrorf := some .goPanic
  NewSlabNotFoundErrorf := some .slabNotFound
  SlabIDStorable_ByteSize := u32 slabIDStorableSize
  SlabStorage_GenerateSlabID := fun c a => ((c.alloc a).1, none, (c.alloc a).2)
  SlabStorage_Remove := fun c id => (none, c.emit (.remove id))
  SlabStorage_Retrieve := retr
  SlabStorage_Store := fun c id _ => (none, c.emit (.store id))
  Storable_ByteSize := fun sv => match sv with | .key k' => u32 k'.size | .val v' => u32 v'.size
  Storable_StoredValue := fun sv c => match sv with | .key k' => (.key k', none, c) | .val v' => (.val v', none, c)
  ValueComparator := fun c _ ov => match ov with | some (.key k') => (k'.same k, none, c) | _ => (false, none, c)
  Value_Storable := fun _ c a lim => (some (.val (toStorableLim lim.toNat a v c).1), none, (toStorableLim lim.toNat a v c).2)
  elements_Count := fun g => u32 (o.count g)
  elements_Element := elemAt
  elements_Get := fun g c d lvl _ _ => mei_rGet c (o.get cfg g lvl.toNat d)
  elements_Remove := fun g c d lvl _ _ => mei_rGRemove g c (o.remove cfg g lvl.toNat d c)
  elements_Set := fun g c _ _ d lvl _ _ _ => mei_rGSet g c (o.set cfg g lvl.toNat d v c)
  elements_Size := fun g => u32 (o.size g)
  elements_firstKey := fun g => u64 (o.firstKey g)
  elements_getElementAndNextKey := fun _ c _ _ _ _ => (none, none, none, some .goPanic, c)
  maxInlineMapElementSize := u32 (maxInlineMapElem cfg.T)
  maxInlineMapValueSize := fun x => u32 (maxInlineMapValue cfg.T x.toNat)
  newHkeyElementsWithElement := newH
  newSingleElementsWithElement := newS
  wrapErrorfAsExternalErrorIfNeeded := fun e => e

/-- the same with `MapSlab.Set` on a data slab dispatching to the translated `MapDataSlab.Set` -/
def mei_env {α X : Type} (o : ElemsOps α) (cfg : MCfg) (k : MKey) (v : Elem)
    (elemAt : α → Int → element α SV × Option GE) (newS : UInt64 → singleElement SV → α)
    (newH : UInt64 → UInt64 → element α SV → α) (retr : Ctx → SlabID → MapSlab α X × Bool × Option GE × Ctx) :
    Env α SV SW X MKey Unit Ctx GE :=
  { mei_env0 o cfg k v elemAt newS newH retr with
    MapSlab_Set := fun sl c b d lvl hk w w' => match sl with
      | .dataSlab m =>
        (match MapDataSlab_Set (mei_env0 o cfg k v elemAt newS newH retr) m c b d lvl hk w w' with
         | some r => (r.1, r.2.1, r.2.2.1, .dataSlab r.2.2.2.1, r.2.2.2.2)
         | none => (none, none, none, .dataSlab m, c))
      | _ => (none, none, some .goPanic, sl, c) }

section
variable {α X : Type} (o : ElemsOps α) (cfg : MCfg) (k : MKey) (v : Elem)
    (elemAt : α → Int → element α SV × Option GE) (newS : UInt64 → singleElement SV → α)
    (newH : UInt64 → UInt64 → element α SV → α) (retr : Ctx → SlabID → MapSlab α X × Bool × Option GE × Ctx)

theorem mei_env_ok
    (hSole : ∀ g, (o.count g = 1 → ∃ el, elemAt g 0 = (mei_cEl el, none) ∧
                  o.soleSingle g = (match el with | .single x => some x | _ => none)) ∧
               (o.count g ≠ 1 → o.soleSingle g = none))
    (hNew : ∀ lvl x g, lvl < 2^64 → x.size < 2^32 → o.newWith cfg lvl x = .ok g →
      (if lvl = cfg.L then newS (u64 lvl) (mei_cE x) = g else newH (u64 lvl) (u64 (x.key.dig lvl)) (.single (mei_cE x)) = g)) :
    EnvB o cfg k v (mei_env o cfg k v elemAt newS newH retr) where
  levels := fun _ => rfl
  dig := fun d lvl h => by simp only [mei_env, mei_env0, u64_toNat h]
  builder := fun _ _ => rfl
  stored := fun _ _ => rfl
  cmp := fun _ _ => rfl
  keySize := fun _ => rfl
  valSize := fun _ => rfl
  maxInline := fun n h => by simp only [mei_env, mei_env0, u32_toNat h]
  storable := fun _ _ => rfl
  maxElem := rfl
  sidSize := rfl
  gSize := fun _ => rfl
  gCount := fun _ => rfl
  gFirst := fun _ => rfl
  gGet := fun g c lvl h => by simp only [mei_env, mei_env0, u64_toNat h]
  gSet := fun g c lvl b h => by simp only [mei_env, mei_env0, u64_toNat h]
  gRemove := fun g c lvl h => by simp only [mei_env, mei_env0, u64_toNat h]
  gSole := hSole
  newWith := hNew
  gen := fun _ _ => rfl
  store := fun _ _ _ => rfl
  remove := fun _ _ => rfl
  wrapNone := rfl
  eHashLevel := rfl
  eKeyNotFound := rfl
  eSlabNotFound := rfl

/-- `hget` of `externalCollisionGroup_Get_eq_model` -/
theorem mei_env_hget (d : MapDataSlab α X) (c : Ctx) (dg : MKey) (lvl hk : UInt64) (w : SW) :
    (mei_env o cfg k v elemAt newS newH retr).MapSlab_Get (.dataSlab d) c dg lvl hk w =
      (mei_env o cfg k v elemAt newS newH retr).elements_Get d.elements c dg lvl hk w := rfl

/-- `hset` of `externalCollisionGroup_Set_eq_model` -/
theorem mei_env_hset (d : MapDataSlab α X) (c : Ctx) (b : Unit) (dg : MKey) (lvl hk : UInt64) (w w' : SW) :
    (mei_env o cfg k v elemAt newS newH retr).MapSlab_Set (.dataSlab d) c b dg lvl hk w w' =
      match MapDataSlab_Set (mei_env o cfg k v elemAt newS newH retr) d c b dg lvl hk w w' with
      | some r => (r.1, r.2.1, r.2.2.1, .dataSlab r.2.2.2.1, r.2.2.2.2)
      | none => (none, none, none, .dataSlab d, c) := rfl
end

/-! ### instance 1: the nested `elements` are `singleElements` (the collision groups of a one-level digester) -/

def mei_elemAtS (g : SingleElems) (i : Int) : element SingleElems SV × Option GE :=
  match g.elems[i.toNat]? with
  | some x => (.single (mei_cE x), none)
  | none => (.nil, some .goPanic)

def mei_newS (lvl : UInt64) (e : singleElement SV) : SingleElems :=
  match e.key, e.value with
  | some (.key k'), some (.val v') =>
    { level := lvl.toNat, size := Gen.singleElementsPrefixSize + e.size.toNat, elems := [{ key := k', val := v', size := e.size.toNat }] }
  | _, _ => { level := 0, size := 0, elems := [] }

def mei_envS {X : Type} (cfg : MCfg) (k : MKey) (v : Elem) (retr : Ctx → SlabID → MapSlab SingleElems X × Bool × Option GE × Ctx) :
    Env SingleElems SV SW X MKey Unit Ctx GE :=
  mei_env SingleElems.ops cfg k v mei_elemAtS mei_newS (fun _ _ _ => { level := 0, size := 0, elems := [] }) retr

theorem mei_envS_ok {X : Type} (cfg : MCfg) (k : MKey) (v : Elem) (retr : Ctx → SlabID → MapSlab SingleElems X × Bool × Option GE × Ctx) :
    EnvB SingleElems.ops cfg k v (mei_envS cfg k v retr) := by
  apply mei_env_ok
  · intro g
    rcases g with ⟨elems, sz, lv⟩
    constructor
    · intro h
      match elems, h with
      | [x], _ => exact ⟨.single x, rfl, rfl⟩
    · intro h
      match elems, h with
      | [], _ => rfl
      | _ :: _ :: _, _ => rfl
      | [x], h => exact absurd rfl h
  · intro lvl x g hl hx hg
    simp only [SingleElems.ops] at hg
    by_cases h : lvl = cfg.L
    · simp only [h, ne_eq, not_true_eq_false, if_false, Except.ok.injEq] at hg
      simp only [h, if_true, mei_newS, mei_cE, u64_toNat (h ▸ hl), u32_toNat hx, ← hg]
    · simp only [ne_eq, h, not_false_eq_true, if_true, reduceCtorEq] at hg

namespace MeiEx
def cfg : MCfg := { T := 1024, L := 1, climit := 255, addr := 1 }
def k1 : MKey := { size := 3, pay := 7, digs := [5, 9] }
def k2 : MKey := { size := 3, pay := 8, digs := [5, 9] }
def k3 : MKey := { size := 3, pay := 9, digs := [5, 9] }
def v1 : Elem := { size := 4, pay := .val 11 }
def v2 : Elem := { size := 4, pay := .val 12 }
def v3 : Elem := { size := 5, pay := .val 13 }
def x1 : SElem := { key := k1, val := v1, size := 8 }
def x2 : SElem := { key := k2, val := v2, size := 8 }
def gid : SlabID := ⟨1, 2⟩
/-- the slab of an external collision group with two entries -/
def gs : GroupSlab SingleElems :=
  { hdr := { id := gid, size := 30, firstKey := 0 }, elems := { level := 1, size := 20, elems := [x1, x2] } }
def c0 : Ctx := { ctr := 5, eff := [] }
def retr : Ctx → SlabID → MapSlab SingleElems Unit × Bool × Option GE × Ctx :=
  fun c _ => (.dataSlab (mei_cGroupSlab gs), true, none, c)
def ext : externalCollisionGroup := { slabID := gid, size := u32 17 }

/-- `Get` of a key of the external group: found -/
example : externalCollisionGroup_Get (mei_envS cfg k1 v3 retr) ext c0 k1 (u64 0) 5 (.key k1) =
    (some (.key k1), some (.val v1), none, c0) :=
  (externalCollisionGroup_Get_eq_model SingleElems.ops cfg k1 v3 _ (mei_envS_ok cfg k1 v3 retr) gid 17 gs c0 0 5
    (by decide) (by decide) rfl (fun _ _ _ _ _ _ => rfl)).trans rfl

/-- `Get` one level too deep: `HashLevelError` -/
example : externalCollisionGroup_Get (mei_envS cfg k1 v3 retr) ext c0 k1 (u64 1) 5 (.key k1) =
    (none, none, some .hashLevel, c0) :=
  (externalCollisionGroup_Get_eq_model SingleElems.ops cfg k1 v3 _ (mei_envS_ok cfg k1 v3 retr) gid 17 gs c0 1 5
    (by decide) (by decide) rfl (fun _ _ _ _ _ _ => rfl)).trans rfl

/-- `Set` of a third key: appended to the group, the group's slab is stored, the element stays the external group -/
example : externalCollisionGroup_Set (mei_envS cfg k3 v3 retr) ext c0 1 () k3 (u64 0) 5 (.key k3) (.val v3) =
    (.externalGroup ext, some (.key k3), none, none, { ctr := 5, eff := [.store gid] }) :=
  (externalCollisionGroup_Set_eq_model SingleElems.ops cfg k3 v3 _ (mei_envS_ok cfg k3 v3 retr) gid 17 gs c0 0 5 1 ()
    (by decide) (by decide) rfl rfl (fun _ _ _ _ _ _ _ _ => rfl)).trans rfl

/-- `Set` of a resident key: the old value comes back -/
example : externalCollisionGroup_Set (mei_envS cfg k1 v3 retr) ext c0 1 () k1 (u64 0) 5 (.key k1) (.val v3) =
    (.externalGroup ext, some (.key k1), some (.val v1), none, { ctr := 5, eff := [.store gid] }) :=
  (externalCollisionGroup_Set_eq_model SingleElems.ops cfg k1 v3 _ (mei_envS_ok cfg k1 v3 retr) gid 17 gs c0 0 5 1 ()
    (by decide) (by decide) rfl rfl (fun _ _ _ _ _ _ _ _ => rfl)).trans rfl

/-- `Remove` of one of two keys: the group collapses to the remaining single element and its slab is removed -/
example : externalCollisionGroup_Remove (mei_envS cfg k1 v3 retr) ext c0 k1 (u64 0) 5 (.key k1) =
    some (some (.key k1), some (.val v1), .single (mei_cE x2), none, { ctr := 5, eff := [.store gid, .remove gid] }) :=
  (externalCollisionGroup_Remove_eq_model SingleElems.ops cfg k1 v3 _ (mei_envS_ok cfg k1 v3 retr) gid 17 gs c0 0 5
    (by decide) (by decide) (fun _ _ _ _ h => by cases h; decide) rfl).trans rfl

/-- `Remove` of an absent key: `KeyNotFoundError`, nothing changed -/
example : externalCollisionGroup_Remove (mei_envS cfg k3 v3 retr) ext c0 k3 (u64 0) 5 (.key k3) =
    some (none, none, .nil, some .keyNotFound, c0) :=
  (externalCollisionGroup_Remove_eq_model SingleElems.ops cfg k3 v3 _ (mei_envS_ok cfg k3 v3 retr) gid 17 gs c0 0 5
    (by decide) (by decide) (fun _ _ _ _ h => nomatch h) rfl).trans rfl
end MeiEx

/-! ### instance 2: the nested `elements` are `hkeyElements` (the elements of a data slab of the tree) -/

def mei_elemAtH {α : Type} (g : HkeyElems α) (i : Int) : element (HkeyElems α) SV × Option GE :=
  match g.elems[i.toNat]? with
  | some (.single x) => (.single (mei_cE x), none)
  | some _ => (.externalGroup { slabID := SlabID.undef, size := u32 0 }, none)
  | none => (.nil, some .goPanic)

def mei_newH {α : Type} (lvl : UInt64) (_ : UInt64) (el : element (HkeyElems α) SV) : HkeyElems α :=
  match el with
  | .single e =>
    (match e.key, e.value with
     | some (.key k'), some (.val v') =>
       { level := lvl.toNat, hkeys := [k'.dig lvl.toNat], elems := [.single { key := k', val := v', size := e.size.toNat }],
         size := Gen.hkeyElementsPrefixSize + Gen.digestSize + e.size.toNat }
     | _, _ => { level := 0, hkeys := [], elems := [], size := 0 })
  | _ => { level := 0, hkeys := [], elems := [], size := 0 }

def mei_envH {α X : Type} (o : ElemsOps α) (cfg : MCfg) (k : MKey) (v : Elem)
    (retr : Ctx → SlabID → MapSlab (HkeyElems α) X × Bool × Option GE × Ctx) :
    Env (HkeyElems α) SV SW X MKey Unit Ctx GE :=
  mei_env (HkeyElems.ops o) cfg k v mei_elemAtH (fun _ _ => { level := 0, hkeys := [], elems := [], size := 0 }) mei_newH retr

theorem mei_envH_ok {α X : Type} (o : ElemsOps α) (cfg : MCfg) (k : MKey) (v : Elem)
    (retr : Ctx → SlabID → MapSlab (HkeyElems α) X × Bool × Option GE × Ctx) :
    EnvB (HkeyElems.ops o) cfg k v (mei_envH o cfg k v retr) := by
  apply mei_env_ok
  · intro g
    rcases g with ⟨hkeys, elems, sz, lv⟩
    constructor
    · intro h
      match elems, h with
      | [.single x], _ => exact ⟨.single x, rfl, rfl⟩
      | [.inl _], _ | [.ext _ _ _], _ =>
        exact ⟨.ext SlabID.undef 0 { hdr := ⟨SlabID.undef, 0, 0⟩, elems := { level := 0, hkeys := [], elems := [], size := 0 } }, rfl, rfl⟩
    · intro h
      match elems, h with
      | [], _ => rfl
      | a :: _ :: _, _ => cases a <;> rfl
      | [x], h => exact absurd rfl h
  · intro lvl x g hl hx hg
    simp only [HkeyElems.ops] at hg
    by_cases h : lvl ≥ cfg.L
    · simp only [h, if_true, reduceCtorEq] at hg
    · simp only [h, if_false, Except.ok.injEq] at hg
      have h' : lvl ≠ cfg.L := by omega
      simp only [h', if_false, mei_newH, mei_cE, u64_toNat hl, u32_toNat hx, ← hg]

namespace MeiEx
def k4 : MKey := { size := 3, pay := 10, digs := [3, 1] }
/-- a root data slab with one element (one-level digester: `r = 0`) -/
def ds (inl : Bool) : MDataSlab 0 :=
  { hdr := { id := ⟨1, 1⟩, size := 40, firstKey := 5 }, next := SlabID.undef,
    elems := ({ level := 0, hkeys := [5], elems := [.single x1], size := 20 } : HkeyElems SingleElems), root := true, inlined := inl }
def retrH : Ctx → SlabID → MapSlab (HkeyElems (MElems 0)) Unit × Bool × Option GE × Ctx := fun c _ => (.nil, false, none, c)

/-- `MapDataSlab.Set` of a smaller digest on a root data slab: prepended, header maintained, slab stored -/
example : MapDataSlab_Set (mei_envH (MElems.ops 0) cfg k4 v3 retrH) (mei_cData (ds false) (some ())) c0 () k4 (u64 0) (u64 3) (.key k4) (.val v3) =
    some (some (.key k4), none, none,
      mei_cData ({ hdr := { id := ⟨1, 1⟩, size := 39, firstKey := 3 }, next := SlabID.undef,
                   elems := ({ level := 0, hkeys := [3, 5], elems := [.single { key := k4, val := v3, size := 9 }, .single x1], size := 37 } : HkeyElems SingleElems),
                   root := true, inlined := false } : MDataSlab 0) (some ()),
      { ctr := 5, eff := [.store ⟨1, 1⟩] }) :=
  (MapDataSlab_Set_eq_model cfg k4 v3 _ (mei_envH_ok (MElems.ops 0) cfg k4 v3 retrH) (ds false) (some ()) rfl c0 () rfl).trans rfl

/-- the same on an inlined slab: not stored -/
example : (MapDataSlab_Set (mei_envH (MElems.ops 0) cfg k4 v3 retrH) (mei_cData (ds true) (some ())) c0 () k4 (u64 0) (u64 3) (.key k4) (.val v3)).map (·.2.2.2.2) =
    some c0 :=
  (congrArg _ (MapDataSlab_Set_eq_model cfg k4 v3 _ (mei_envH_ok (MElems.ops 0) cfg k4 v3 retrH) (ds true) (some ()) rfl c0 () rfl)).trans rfl

/-- `MapDataSlab.Remove` of the only key: the slab is empty afterwards and stored -/
example : MapDataSlab_Remove (mei_envH (MElems.ops 0) cfg k1 v3 retrH) (mei_cData (ds false) (some ())) c0 k1 (u64 0) (u64 5) (.key k1) =
    some (some (.key k1), some (.val v1), none,
      mei_cData ({ hdr := { id := ⟨1, 1⟩, size := 6, firstKey := 0 }, next := SlabID.undef,
                   elems := ({ level := 0, hkeys := [], elems := [], size := 4 } : HkeyElems SingleElems),
                   root := true, inlined := false } : MDataSlab 0) (some ()),
      { ctr := 5, eff := [.store ⟨1, 1⟩] }) :=
  (MapDataSlab_Remove_eq_model cfg k1 v3 _ (mei_envH_ok (MElems.ops 0) cfg k1 v3 retrH) (ds false) (some ()) rfl c0).trans rfl

/-- `MapDataSlab.Remove` of an absent key: `KeyNotFoundError`, slab and storage unchanged -/
example : MapDataSlab_Remove (mei_envH (MElems.ops 0) cfg k4 v3 retrH) (mei_cData (ds false) (some ())) c0 k4 (u64 0) (u64 3) (.key k4) =
    some (none, none, some .keyNotFound, mei_cData (ds false) (some ()), c0) :=
  (MapDataSlab_Remove_eq_model cfg k4 v3 _ (mei_envH_ok (MElems.ops 0) cfg k4 v3 retrH) (ds false) (some ()) rfl c0).trans rfl
end MeiEx

end Atree.TransEq

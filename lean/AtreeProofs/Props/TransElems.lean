import AtreeModel.Gen.TransMapElems
import AtreeModel.Gen.TransMapElem
/-
  ELEMENT layer of the maps: every whitelisted function of the two element-layer units of the object engine of
  harness/cmd/gotrans was translated on this run (none fell back to `Untranslatable`), the whitelist is the pinned one, and
  no call site relies on the "dead after call" aliasing assumption.  The equivalence theorems are in
  `Props/TransElemsGet.lean`, `TransElemsSet.lean`, `TransElemsRemove.lean` (hkeyElements), `TransElemInline.lean`,
  `TransElemSlab.lean` (element implementations, MapDataSlab.Set / Remove), `TransElemErr.lean` (error exits).
-/
namespace Atree.TransEq
open Atree

/-- every whitelisted function of the element layer was translated -/
theorem all_translated_mapelems :
    Gen.TransElems.untranslatedFunctions = [] ∧ Gen.TransElem.untranslatedFunctions = [] := ⟨rfl, rfl⟩

/-- the whitelist itself (dropping a function from the tables of obj_elems.go is noticed) -/
theorem mapelems_targets_pinned :
    Gen.TransElems.translatedTargets =
      ["singleElement_Size", "hkeyElements_getElement", "hkeyElements_Get", "hkeyElements_getElementAndNextKey",
       "hkeyElements_Set", "hkeyElements_Remove"] ∧
    Gen.TransElem.translatedTargets =
      ["singleElement_Size", "singleElement_Count", "singleElement_Get", "singleElement_getElementAndNextKey",
       "singleElement_Remove", "inlineCollisionGroup_Size", "inlineCollisionGroup_Count", "inlineCollisionGroup_Get",
       "inlineCollisionGroup_getElementAndNextKey", "inlineCollisionGroup_Remove", "MapDataSlab_SlabID",
       "MapMetaDataSlab_SlabID", "MapSlab_SlabID", "storeSlab", "getMapSlab", "inlineCollisionGroup_Set",
       "singleElement_Set", "MapDataSlab_getPrefixSize", "MapDataSlab_Set", "MapDataSlab_Remove",
       "externalCollisionGroup_Size", "externalCollisionGroup_Get", "externalCollisionGroup_getElementAndNextKey",
       "externalCollisionGroup_Set", "externalCollisionGroup_Remove", "element_Size", "element_Get",
       "element_getElementAndNextKey", "element_Set", "element_Remove"] := ⟨rfl, rfl⟩

/-- no call site of the element layer hands a slice to a helper that clears it without overwriting it -/
theorem mapelems_deadAfterCall_pinned :
    Gen.TransElems.deadAfterCall = [] ∧ Gen.TransElem.deadAfterCall = [] := ⟨rfl, rfl⟩

end Atree.TransEq

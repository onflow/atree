import AtreeProofs.Trans.MapElems
import AtreeProofs.Trans.MapElemsOn
import AtreeProofs.Map.Search
/-
  The GENERATED `hkeyElements.getElement` / `hkeyElements.Get` (`AtreeModel/Gen/TransMapElems.lean`) against the model's
  `HkeyElems.findEq` / `HkeyElems.get` (`AtreeModel/Map/Elems.lean`).
-/
namespace Atree.TransEq
open Atree Atree.Gen.TransElems

section
variable {α : Type} (o : ElemsOps α) (cfg : MCfg) (k : MKey) (v : Elem) (env : Env (MElemF α) SV SW Ctx GE)

/-- the binary search of `getElement`: the generated fuel loop computes the model's `findEq` (given enough fuel, which the caller provides) -/
theorem mel_getElement_loop (e : HkeyElems α) (hok : mel_HOk e) (hk : Nat) (hhk : hk < 2^64) :
    ∀ (fuel i j : Nat) (eq0 : Int), i ≤ j → j ≤ e.hkeys.length → j - i < fuel →
      ∃ i' j' : Int, hkeyElements_getElement.loop1 env (mel_cH e) (u64 hk) fuel eq0 (Int.ofNat i) (Int.ofNat j) =
        .done ((match HkeyElems.findEq e.hkeys hk i j fuel with | some h => Int.ofNat h | none => eq0), i', j') := by
  intro fuel
  induction fuel with
  | zero => intro i j eq0 _ _ h; omega
  | succ fuel ih =>
    intro i j eq0 hij hj hf
    rw [hkeyElements_getElement.loop1, HkeyElems.findEq, int_dlt]
    by_cases c : i < j
    · obtain ⟨hm1, hm2, em, eg, e1, e2⟩ := mel_probe e hok hhk c hj
      rw [if_pos (decide_eq_true c), if_pos c]
      dsimp only
      rw [em, eg]
      dsimp only
      rw [e1, e2]
      generalize (i + j) / 2 = m at *
      by_cases c1 : e.hkeys.getD m 0 > hk
      · rw [if_pos (decide_eq_true c1), if_pos c1]
        exact ih i m eq0 hm1 (Nat.le_trans (Nat.le_of_lt hm2) hj)
          (Nat.lt_of_lt_of_le (Nat.sub_lt_sub_right hm1 hm2) (Nat.le_of_lt_succ hf))
      · rw [if_neg (by simpa using c1), if_neg c1]
        by_cases c2 : e.hkeys.getD m 0 < hk
        · rw [if_pos (decide_eq_true c2), if_pos c2]
          exact ih (m + 1) j eq0 hm2 hj
            (Nat.lt_of_lt_of_le (Nat.sub_lt_sub_left c (Nat.lt_succ_of_le hm1)) (Nat.le_of_lt_succ hf))
        · rw [if_neg (by simpa using c2), if_neg c2]
          exact ⟨_, _, rfl⟩
    · rw [if_neg (by simpa using c), if_neg c]
      exact ⟨_, _, rfl⟩

/-- (relativised environment `EnvAOn`) `hkeyElements.getElement` = the model's search: hash-level error, key-not-found, or the element at the index found -/
theorem hkeyElements_getElement_eq_model_on {Pg Ps Pr : MElemF α → Nat → Ctx → Prop}
    (hE : EnvAOn o cfg k v env Pg Ps Pr) (e : HkeyElems α) (hok : mel_HOk e) (level hk : Nat)
    (hl : level < 2^64) (hL : cfg.L < 2^64) (hhk : hk < 2^64) (w : SW) :
    hkeyElements_getElement env (mel_cH e) (u64 level) (u64 hk) w =
      if level ≥ cfg.L then some (none, 0, some .hashLevel)
      else match HkeyElems.findEq e.hkeys hk 0 e.hkeys.length (e.hkeys.length + 1) with
        | none => some (none, 0, some .keyNotFound)
        | some i => (e.elems[i]?).map (fun el => (some el, Int.ofNat i, none)) := by
  unfold hkeyElements_getElement
  rw [hE.levels, u64_dge hl hL]
  by_cases c : level ≥ cfg.L
  · rw [ite_dec_pos c, if_pos c, hE.eHashLevel]
  · rw [ite_dec_neg c, if_neg c]
    dsimp only
    rw [mel_cH_hkeys_length, int_fuel_zero]
    obtain ⟨i', j', h⟩ := mel_getElement_loop env e hok hk hhk (e.hkeys.length + 1) 0 e.hkeys.length (-1)
      (Nat.zero_le _) (Nat.le_refl _) (Nat.lt_succ_self _)
    rw [show (0 : Int) = Int.ofNat 0 from rfl, h]
    dsimp only
    cases HkeyElems.findEq e.hkeys hk 0 e.hkeys.length (e.hkeys.length + 1) with
    | none => rw [ite_dec_pos rfl, hE.eKeyNotFound]
    | some x =>
      have hne : ¬ (Int.ofNat x = (-1 : Int)) := Int.noConfusion
      dsimp only
      rw [ite_dec_neg hne, mel_goIdx_elems]
      cases e.elems[x]? <;> rfl

/-- `hkeyElements.getElement` = the model's search: hash-level error, key-not-found, or the element at the index found -/
theorem hkeyElements_getElement_eq_model (hE : EnvA o cfg k v env) (e : HkeyElems α) (hok : mel_HOk e) (level hk : Nat)
    (hl : level < 2^64) (hL : cfg.L < 2^64) (hhk : hk < 2^64) (w : SW) :
    hkeyElements_getElement env (mel_cH e) (u64 level) (u64 hk) w =
      if level ≥ cfg.L then some (none, 0, some .hashLevel)
      else match HkeyElems.findEq e.hkeys hk 0 e.hkeys.length (e.hkeys.length + 1) with
        | none => some (none, 0, some .keyNotFound)
        | some i => (e.elems[i]?).map (fun el => (some el, Int.ofNat i, none)) := by
  exact hkeyElements_getElement_eq_model_on o cfg k v env hE.toOn e hok level hk hl hL hhk w

/-- (relativised environment `EnvAOn`; the guard `Pg` holds for the elements of the table) `hkeyElements.Get` = `HkeyElems.get` (for every well-formed digest table; never panics) -/
theorem hkeyElements_Get_eq_model_on {Pg Ps Pr : MElemF α → Nat → Ctx → Prop}
    (hE : EnvAOn o cfg k v env Pg Ps Pr) (e : HkeyElems α) (hok : mel_HOk e) (level : Nat) (c : Ctx)
    (hl : level < 2^64) (hL : cfg.L < 2^64) (hd : k.dig level < 2^64)
    (hPg : ∀ (i : Nat) (el : MElemF α), e.elems[i]? = some el → Pg el level c) :
    hkeyElements_Get env (mel_cH e) c (u64 level) (u64 (k.dig level)) (.key k) =
      some (mel_rGet c (HkeyElems.get o cfg e level k)) := by
  unfold hkeyElements_Get
  rw [hkeyElements_getElement_eq_model_on o cfg k v env hE e hok level (k.dig level) hl hL hd]
  unfold HkeyElems.get
  by_cases cl : level ≥ cfg.L
  · simp only [cl, if_true]
    rfl
  · simp only [cl, if_false]
    rcases Option.eq_none_or_eq_some (HkeyElems.findEq e.hkeys (k.dig level) 0 e.hkeys.length (e.hkeys.length + 1))
      with hf | ⟨x, hf⟩
    · rw [hf]; rfl
    · rw [hf]
      obtain ⟨_, _, _, el, hel, _⟩ := mel_hit e hok (HkeyElems.findEq_some _ _ _ (Nat.le_refl _) hf)
      simp only [hel, Option.map_some, Option.isNone_none, Bool.not_true, Bool.false_eq_true, if_false]
      rw [hE.get _ c level _ hl (hPg _ _ hel)]

/-- `hkeyElements.Get` = `HkeyElems.get` (for every well-formed digest table; never panics) -/
theorem hkeyElements_Get_eq_model (hE : EnvA o cfg k v env) (e : HkeyElems α) (hok : mel_HOk e) (level : Nat) (c : Ctx)
    (hl : level < 2^64) (hL : cfg.L < 2^64) (hd : k.dig level < 2^64) :
    hkeyElements_Get env (mel_cH e) c (u64 level) (u64 (k.dig level)) (.key k) =
      some (mel_rGet c (HkeyElems.get o cfg e level k)) := by
  exact hkeyElements_Get_eq_model_on o cfg k v env hE.toOn e hok level c hl hL hd (fun _ _ _ => trivial)

/-- `hkeyElements.getElementAndNextKey` finds the same element as `hkeyElements.Get`: if `element.getElementAndNextKey` returns
    the key, the value and the error of `element.Get` (`hnk`) and `firstKeyInElement` does not fail (`hfk`; its error would
    replace the result), then it never panics and its key, value and error are those of `HkeyElems.get`.
    (The next key and the storage state are not described here.) -/
theorem hkeyElements_getElementAndNextKey_get (hE : EnvA o cfg k v env) (e : HkeyElems α) (hok : mel_HOk e) (level : Nat) (c : Ctx)
    (hl : level < 2^64) (hL : cfg.L < 2^64) (hd : k.dig level < 2^64)
    (hnk : ∀ el c lvl hk, lvl < 2^64 →
      ((env.element_getElementAndNextKey el c (u64 lvl) hk (.key k)).1,
       (env.element_getElementAndNextKey el c (u64 lvl) hk (.key k)).2.1,
       (env.element_getElementAndNextKey el c (u64 lvl) hk (.key k)).2.2.2.1) =
      ((mel_rGet c (el.get o cfg lvl k)).1, (mel_rGet c (el.get o cfg lvl k)).2.1, (mel_rGet c (el.get o cfg lvl k)).2.2.1))
    (hfk : ∀ c el, (env.firstKeyInElement c el).2.1 = none) :
    ∃ r, hkeyElements_getElementAndNextKey env (mel_cH e) c (u64 level) (u64 (k.dig level)) (.key k) = some r ∧
      (r.1, r.2.1, r.2.2.2.1) =
        ((mel_rGet c (HkeyElems.get o cfg e level k)).1, (mel_rGet c (HkeyElems.get o cfg e level k)).2.1,
         (mel_rGet c (HkeyElems.get o cfg e level k)).2.2.1) := by
  unfold hkeyElements_getElementAndNextKey
  rw [hkeyElements_getElement_eq_model o cfg k v env hE e hok level (k.dig level) hl hL hd]
  unfold HkeyElems.get
  by_cases cl : level ≥ cfg.L
  · rw [if_pos cl, if_pos cl]
    exact ⟨_, rfl, rfl⟩
  · rw [if_neg cl, if_neg cl]
    cases hf : HkeyElems.findEq e.hkeys (k.dig level) 0 e.hkeys.length (e.hkeys.length + 1) with
    | none => exact ⟨_, rfl, rfl⟩
    | some x =>
      obtain ⟨_, hxl, _, el, hel, _⟩ := mel_hit e hok (HkeyElems.findEq_some _ _ _ (Nat.le_refl _) hf)
      dsimp only
      rw [hel]
      dsimp only [Option.map_some, Option.isNone_none]
      rw [if_neg (show ¬ ((!true) = true) by decide)]
      have h1 := hnk el c level (u64 (k.dig level)) hl
      generalize env.element_getElementAndNextKey el c (u64 level) (u64 (k.dig level)) (.key k) = r4 at h1 ⊢
      obtain ⟨a, b, nk, er, st⟩ := r4
      generalize MElemF.get o cfg el level k = g at h1 ⊢
      have hidx : Int.ofNat x + 1 = Int.ofNat (x + 1) := rfl
      rw [hidx, mel_cH_elems_length, int_dlt, mel_goIdx_elems]
      injection h1 with ha h2
      injection h2 with hb her
      subst ha hb her
      cases g with
      | error err => exact ⟨_, rfl, rfl⟩
      | ok kv =>
        cases nk with
        | some n => exact ⟨_, rfl, rfl⟩
        | none =>
          rw [if_neg (show ¬ ((!(mel_rGet c (.ok kv)).2.2.1.isNone) = true) from Bool.false_ne_true),
            if_neg (show ¬ ((!(none : Option SV).isNone) = true) from Bool.false_ne_true)]
          dsimp only
          by_cases c3 : x + 1 < e.elems.length
          · have hel' : e.elems[x + 1]? = some e.elems[x + 1] := List.getElem?_eq_getElem c3
            rw [ite_dec_pos c3, hel']
            dsimp only [Option.map_some]
            rw [hfk]
            exact ⟨_, rfl, rfl⟩
          · have c4 : x + 1 = e.elems.length := Nat.le_antisymm hxl (Nat.le_of_not_lt c3)
            rw [ite_dec_neg c3, ite_dec_pos (congrArg Int.ofNat c4)]
            exact ⟨_, rfl, rfl⟩
end

/-! ## non-vacuity: an environment satisfying `EnvA` (nested level = `SingleElems`), a 3-digest table -/

/-- a concrete instance of the parameters: the element methods are the model's (level read back with `toNat`) -/
def mel_getEnv0 (cfg : MCfg) : Env (MElemF SingleElems) SV SW Ctx GE where
  Digester_Levels := u64 cfg.L
  NewCollisionLimitError := some .collisionLimit
  NewHashLevelErrorf := some .hashLevel
  NewKeyNotFoundError := some .keyNotFound
  NewMapElementCountError := some .mapElementCount
  NewUnreachableError := some .goPanic
  element_Count := fun el c => (u32 (el.count SingleElems.ops), none, c)
  element_Get := fun el c lvl _ w => match w with
    | .key k => mel_rGet c (el.get SingleElems.ops cfg lvl.toNat k)
    | .val _ => (none, none, some .goPanic, c)
  element_Remove := fun el c lvl _ w => match w with
    | .key k => mel_rERemove c (el.remove SingleElems.ops cfg lvl.toNat k c)
    | .val _ => (none, none, none, some .goPanic, c)
  element_Set := fun el c _ lvl _ kw vw => match kw, vw with
    | .key k, .val v => mel_rESet c (el.set SingleElems.ops cfg lvl.toNat k v c)
    | _, _ => (none, none, none, some .goPanic, c)
  element_Size := fun el => u32 (el.size SingleElems.ops)
  element_getElementAndNextKey := fun el c lvl _ w => match w with
    | .key k => ((mel_rGet c (el.get SingleElems.ops cfg lvl.toNat k)).1, (mel_rGet c (el.get SingleElems.ops cfg lvl.toNat k)).2.1,
                 none, (mel_rGet c (el.get SingleElems.ops cfg lvl.toNat k)).2.2.1, c)
    | .val _ => (none, none, none, some .goPanic, c)
  element_ofSingleElement := fun s => match s.key, s.value with
    | some (.key k), some (.val v) => .single { key := k, val := v, size := s.size.toNat }
    | _, _ => .single default
  errors_As_KeyNotFoundError := fun err => decide (err = .keyNotFound)
  firstKeyInElement := fun c _ => (none, none, c)
  maxCollisionLimitPerDigest := u32 cfg.climit
  newSingleElement := fun c addr kw vw => match kw, vw with
    | .key k, .val v => (mel_cE (newSingleElement cfg.T addr k v c).1, none, (newSingleElement cfg.T addr k v c).2)
    | _, _ => ({}, some .goPanic, c)

theorem mel_getEnv0_ok (cfg : MCfg) (k : MKey) (v : Elem) : EnvA SingleElems.ops cfg k v (mel_getEnv0 cfg) where
  levels := rfl
  climit := rfl
  size := fun _ => rfl
  count := fun _ _ => rfl
  get := fun el c lvl hk h => by
    show mel_rGet c (el.get SingleElems.ops cfg (u64 lvl).toNat k) = _
    rw [u64_toNat h]
  set := fun el c lvl hk h => by
    show mel_rESet c (el.set SingleElems.ops cfg (u64 lvl).toNat k v c) = _
    rw [u64_toNat h]
  remove := fun el c lvl hk h => by
    show mel_rERemove c (el.remove SingleElems.ops cfg (u64 lvl).toNat k c) = _
    rw [u64_toNat h]
  newElem := fun _ => rfl
  inj := fun x hx => by
    show MElemF.single { key := x.key, val := x.val, size := (u32 x.size).toNat } = _
    rw [u32_toNat hx]
  asKNF := fun _ => rfl
  eHashLevel := rfl
  eKeyNotFound := rfl
  eCollisionLimit := rfl
  eElementCount := rfl

def mel_gCfgEx : MCfg := { T := 1024, L := 1, climit := 255, addr := 7 }
def mel_gK1Ex : MKey := { size := 9, pay := 1, digs := [3] }
def mel_gK2Ex : MKey := { size := 9, pay := 2, digs := [8] }
def mel_gK3Ex : MKey := { size := 9, pay := 3, digs := [20] }
def mel_gK4Ex : MKey := { size := 9, pay := 4, digs := [9] }
def mel_gV1Ex : Elem := { size := 3, pay := .val 10 }
def mel_gV2Ex : Elem := { size := 4, pay := .val 20 }
def mel_gHEx : HkeyElems SingleElems :=
  { hkeys := [3, 8, 20],
    elems := [.single { key := mel_gK1Ex, val := mel_gV1Ex, size := 13 }, .single { key := mel_gK2Ex, val := mel_gV2Ex, size := 14 },
              .single { key := mel_gK3Ex, val := mel_gV1Ex, size := 13 }],
    size := 100, level := 0 }
def mel_gCEx : Ctx := { ctr := 0, eff := [] }

theorem mel_gHEx_ok : mel_HOk mel_gHEx where
  len := rfl
  dig := by decide
  short := by decide

/-- the search finds digest 8 at index 1 / does not find digest 9 (through the theorem) -/
example : hkeyElements_getElement (mel_getEnv0 mel_gCfgEx) (mel_cH mel_gHEx) (u64 0) (u64 8) (.key mel_gK2Ex) =
    some (some (.single { key := mel_gK2Ex, val := mel_gV2Ex, size := 14 }), 1, none) := by
  rw [hkeyElements_getElement_eq_model _ mel_gCfgEx mel_gK2Ex mel_gV1Ex _ (mel_getEnv0_ok _ _ _) mel_gHEx mel_gHEx_ok 0 8
    (by decide) (by decide) (by decide)]; rfl
example : hkeyElements_getElement (mel_getEnv0 mel_gCfgEx) (mel_cH mel_gHEx) (u64 0) (u64 9) (.key mel_gK4Ex) =
    some (none, 0, some .keyNotFound) := by
  rw [hkeyElements_getElement_eq_model _ mel_gCfgEx mel_gK4Ex mel_gV1Ex _ (mel_getEnv0_ok _ _ _) mel_gHEx mel_gHEx_ok 0 9
    (by decide) (by decide) (by decide)]; rfl

/-- the same search by evaluating the generated code directly (no theorem involved) -/
example : (hkeyElements_getElement (mel_getEnv0 mel_gCfgEx) (mel_cH mel_gHEx) (u64 0) (u64 8) (.key mel_gK2Ex)).map (·.2.1) =
    some 1 := by decide
example : (hkeyElements_getElement (mel_getEnv0 mel_gCfgEx) (mel_cH mel_gHEx) (u64 0) (u64 9) (.key mel_gK4Ex)).map (·.2) =
    some (0, some .keyNotFound) := by decide

/-- Get of the second key: found; of a key with an absent digest: KeyNotFoundError; at level 1 = Levels(): HashLevelError -/
example : hkeyElements_Get (mel_getEnv0 mel_gCfgEx) (mel_cH mel_gHEx) mel_gCEx (u64 0) (u64 (mel_gK2Ex.dig 0)) (.key mel_gK2Ex) =
    some (some (.key mel_gK2Ex), some (.val mel_gV2Ex), none, mel_gCEx) := by
  rw [hkeyElements_Get_eq_model _ mel_gCfgEx mel_gK2Ex mel_gV1Ex _ (mel_getEnv0_ok _ _ _) mel_gHEx mel_gHEx_ok 0 mel_gCEx
    (by decide) (by decide) (by decide)]; rfl
example : hkeyElements_Get (mel_getEnv0 mel_gCfgEx) (mel_cH mel_gHEx) mel_gCEx (u64 0) (u64 (mel_gK4Ex.dig 0)) (.key mel_gK4Ex) =
    some (none, none, some .keyNotFound, mel_gCEx) := by
  rw [hkeyElements_Get_eq_model _ mel_gCfgEx mel_gK4Ex mel_gV1Ex _ (mel_getEnv0_ok _ _ _) mel_gHEx mel_gHEx_ok 0 mel_gCEx
    (by decide) (by decide) (by decide)]; rfl
example : hkeyElements_Get (mel_getEnv0 mel_gCfgEx) (mel_cH mel_gHEx) mel_gCEx (u64 1) (u64 (mel_gK2Ex.dig 1)) (.key mel_gK2Ex) =
    some (none, none, some .hashLevel, mel_gCEx) := by
  rw [hkeyElements_Get_eq_model _ mel_gCfgEx mel_gK2Ex mel_gV1Ex _ (mel_getEnv0_ok _ _ _) mel_gHEx mel_gHEx_ok 1 mel_gCEx
    (by decide) (by decide) (by decide)]; rfl

/-- the hypotheses `hnk`, `hfk` of `hkeyElements_getElementAndNextKey_get` hold in that environment; the generated
    `getElementAndNextKey` evaluated directly on the second key (next key: `firstKeyInElement` of the environment = nil) -/
example : ∃ r, hkeyElements_getElementAndNextKey (mel_getEnv0 mel_gCfgEx) (mel_cH mel_gHEx) mel_gCEx (u64 0) (u64 (mel_gK2Ex.dig 0))
      (.key mel_gK2Ex) = some r ∧ (r.1, r.2.1, r.2.2.2.1) = (some (.key mel_gK2Ex), some (.val mel_gV2Ex), none) := by
  obtain ⟨r, h1, h2⟩ := hkeyElements_getElementAndNextKey_get _ mel_gCfgEx mel_gK2Ex mel_gV1Ex _ (mel_getEnv0_ok _ _ _) mel_gHEx
    mel_gHEx_ok 0 mel_gCEx (by decide) (by decide) (by decide)
    (fun el c lvl hk h => by
      show ((mel_rGet c (el.get SingleElems.ops mel_gCfgEx (u64 lvl).toNat mel_gK2Ex)).1,
            (mel_rGet c (el.get SingleElems.ops mel_gCfgEx (u64 lvl).toNat mel_gK2Ex)).2.1,
            (mel_rGet c (el.get SingleElems.ops mel_gCfgEx (u64 lvl).toNat mel_gK2Ex)).2.2.1) = _
      rw [u64_toNat h])
    (fun _ _ => rfl)
  exact ⟨r, h1, h2⟩
example : (hkeyElements_getElementAndNextKey (mel_getEnv0 mel_gCfgEx) (mel_cH mel_gHEx) mel_gCEx (u64 0) (u64 8) (.key mel_gK2Ex)).map
      (fun r => (r.1, r.2.1, r.2.2.1, r.2.2.2.1)) =
    some (some (.key mel_gK2Ex), some (.val mel_gV2Ex), none, none) := by decide

end Atree.TransEq

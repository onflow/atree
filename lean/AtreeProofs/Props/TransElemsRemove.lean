import AtreeProofs.Props.TransMapSlabsSingle
import AtreeProofs.Trans.MapElems
import AtreeProofs.Trans.MapElemsOn
import AtreeProofs.Map.Search
/-
  The GENERATED `hkeyElements.Remove` (`AtreeModel/Gen/TransMapElems.lean`) against the model's
  `HkeyElems.findEq` / `HkeyElems.remove` (`AtreeModel/Map/Elems.lean`).
-/
namespace Atree.TransEq
open Atree Atree.Gen.TransElems

section
variable {α : Type} (o : ElemsOps α) (cfg : MCfg) (k : MKey) (v : Elem) (env : Env (MElemF α) SV SW Ctx GE)

/-- the binary search of `Remove` = the model's `findEq` (given enough fuel) -/
theorem mel_Remove_loop1 (e : HkeyElems α) (hok : mel_HOk e) (hk : Nat) (hhk : hk < 2^64) :
    ∀ (fuel i j : Nat) (eq0 : Int), i ≤ j → j ≤ e.hkeys.length → j - i < fuel →
      ∃ i' j' : Int, hkeyElements_Remove.loop1 env (mel_cH e) (u64 hk) fuel eq0 (Int.ofNat i) (Int.ofNat j) =
        .done ((match HkeyElems.findEq e.hkeys hk i j fuel with | some h => Int.ofNat h | none => eq0), i', j') := by
  intro fuel
  induction fuel with
  | zero => intro i j eq0 _ _ h; omega
  | succ fuel ih =>
    intro i j eq0 hij hj hf
    rw [hkeyElements_Remove.loop1, HkeyElems.findEq, int_dlt]
    by_cases c : i < j
    · obtain ⟨hm1, hm2, em, eg, e1, e2⟩ := mel_probe e hok hhk c hj
      rw [if_pos (decide_eq_true c), if_pos c]
      dsimp only
      rw [em, eg]
      dsimp only
      rw [e1, e2]
      generalize (i + j) / 2 = m at *
      by_cases c1 : e.hkeys.getD m 0 > hk
      · rw [if_pos (decide_eq_true c1), if_pos c1]
        exact ih i m eq0 hm1 (Nat.le_trans (Nat.le_of_lt hm2) hj)
          (Nat.lt_of_lt_of_le (Nat.sub_lt_sub_right hm1 hm2) (Nat.le_of_lt_succ hf))
      · rw [if_neg (by simpa using c1), if_neg c1]
        by_cases c2 : e.hkeys.getD m 0 < hk
        · rw [if_pos (decide_eq_true c2), if_pos c2]
          exact ih (m + 1) j eq0 hm2 hj
            (Nat.lt_of_lt_of_le (Nat.sub_lt_sub_left c (Nat.lt_succ_of_le hm1)) (Nat.le_of_lt_succ hf))
        · rw [if_neg (by simpa using c2), if_neg c2]
          exact ⟨_, _, rfl⟩
    · rw [if_neg (by simpa using c), if_neg c]
      exact ⟨_, _, rfl⟩

/-- (relativised environment `EnvAOn`; the guard `Pr` holds for the elements of the table) `hkeyElements.Remove` = `HkeyElems.remove`: range pre-check, binary search, the element's `Remove`, then either the
    element and its digest are deleted (size - digestSize - old element size) or the element is replaced (size + new - old); never panics -/
theorem hkeyElements_Remove_eq_model_on {Pg Ps Pr : MElemF α → Nat → Ctx → Prop}
    (hE : EnvAOn o cfg k v env Pg Ps Pr) (e : HkeyElems α) (hok : mel_HOk e) (level : Nat) (c : Ctx)
    (hl : level < 2^64) (hL : cfg.L < 2^64) (hd : k.dig level < 2^64)
    (hsz : ∀ el ∈ e.elems, Gen.digestSize + el.size o ≤ e.size)
    (hPr : ∀ (i : Nat) (el : MElemF α), e.elems[i]? = some el → Pr el level c) :
    hkeyElements_Remove env (mel_cH e) c (u64 level) (u64 (k.dig level)) (.key k) =
      mel_rRemove e c (HkeyElems.remove o cfg e level k c) := by
  unfold hkeyElements_Remove HkeyElems.remove
  rw [hE.levels, u64_dge hl hL]
  by_cases cl : level ≥ cfg.L
  · rw [ite_dec_pos cl, if_pos cl, hE.eHashLevel]
    rfl
  · rw [ite_dec_neg cl, if_neg cl, mel_cH_hkeys_length, int_deq_zero, hE.eKeyNotFound]
    by_cases c0 : e.hkeys.length = 0
    · rw [ite_dec_pos c0, List.length_eq_zero_iff.mp c0]
      rfl
    · have hpos : 0 < e.hkeys.length := Nat.pos_of_ne_zero c0
      obtain ⟨hhead, hlast, hg0, hgl, hdlt, hdgt⟩ := mel_ends e hok hpos hd
      rw [ite_dec_neg c0, hg0, hgl, hhead, hlast]
      dsimp only
      rw [hdlt, hdgt]
      by_cases c1 : k.dig level < e.hkeys.getD 0 0
      · rw [ite_dec_pos c1, decide_eq_true c1, Bool.true_or, if_pos rfl]
        rfl
      · rw [ite_dec_neg c1, decide_eq_false c1, Bool.false_or]
        by_cases c2 : k.dig level > e.hkeys.getD (e.hkeys.length - 1) 0
        · rw [ite_dec_pos c2, ite_dec_pos c2]
          rfl
        · rw [ite_dec_neg c2, ite_dec_neg c2, int_fuel_zero]
          obtain ⟨i', j', h⟩ := mel_Remove_loop1 env e hok (k.dig level) hd (e.hkeys.length + 1) 0 e.hkeys.length (-1)
            (Nat.zero_le _) (Nat.le_refl _) (Nat.lt_succ_self _)
          rw [show ((0 : Int)) = Int.ofNat 0 from rfl, h]
          rcases Option.eq_none_or_eq_some (HkeyElems.findEq e.hkeys (k.dig level) 0 e.hkeys.length (e.hkeys.length + 1))
            with hfe | ⟨x, hfe⟩
          · rw [hfe]
            rfl
          · obtain ⟨hxh, hxl, hne, el, hel, hget, hin⟩ := mel_hit e hok (HkeyElems.findEq_some _ _ _ (Nat.le_refl _) hfe)
            have hs := hsz _ (List.mem_of_getElem? hel)
            rw [hfe]
            dsimp only
            rw [ite_dec_neg hne, hget, hel]
            dsimp only
            rw [hE.size, hE.remove _ c level _ hl (hPr _ _ hel)]
            rcases hr : el.remove o cfg level k c with err | ⟨rk, rv, el', c'⟩
            · rfl
            · cases el' with
              | none =>
                simp only [mel_rERemove, Option.isNone_none, Bool.not_true, Bool.false_eq_true, if_false, if_true,
                  bind, Except.bind, pure, Except.pure,
                  goSlicesDelete_eq, sliceDelete_one _ (mel_cH_elems_length e ▸ hxl), sliceDelete_one _ (mel_cH_hkeys_length e ▸ hxh)]
                have e1 : UInt32.ofNat Gen.digestSize = u32 Gen.digestSize := rfl
                simp only [mel_rRemove, mel_cH, e1, u32_add_eq, u32_sub_eq hs, u64s, ← map_eraseIdx]
              | some el'' =>
                have hle : el.size o ≤ e.size + el''.size o := by omega
                simp only [mel_rERemove, Option.isNone_none, Option.isNone_some, Bool.not_true, Bool.false_eq_true,
                  if_false, if_true, bind, Except.bind, pure, Except.pure, hin, hE.size, int_toNat]
                simp only [mel_rRemove, mel_cH, u32_add_sub _ _ _ hle, List.map_set]

/-- `hkeyElements.Remove` = `HkeyElems.remove`: range pre-check, binary search, the element's `Remove`, then either the
    element and its digest are deleted (size - digestSize - old element size) or the element is replaced (size + new - old); never panics -/
theorem hkeyElements_Remove_eq_model (hE : EnvA o cfg k v env) (e : HkeyElems α) (hok : mel_HOk e) (level : Nat) (c : Ctx)
    (hl : level < 2^64) (hL : cfg.L < 2^64) (hd : k.dig level < 2^64)
    (hsz : ∀ el ∈ e.elems, Gen.digestSize + el.size o ≤ e.size) :
    hkeyElements_Remove env (mel_cH e) c (u64 level) (u64 (k.dig level)) (.key k) =
      mel_rRemove e c (HkeyElems.remove o cfg e level k c) := by
  exact hkeyElements_Remove_eq_model_on o cfg k v env hE.toOn e hok level c hl hL hd hsz (fun _ _ _ => trivial)
end

/-! ### non-vacuity: an environment satisfying `EnvA` (for every `o`, `cfg`, `k`, `v`), and concrete runs -/

/-- the parameters of the generated code instantiated BY the model (the witness that `EnvA` is satisfiable) -/
def mel_rm_env {α : Type} (o : ElemsOps α) (cfg : MCfg) (k : MKey) (v : Elem) : Env (MElemF α) SV SW Ctx GE where
  Digester_Levels := u64 cfg.L
  NewCollisionLimitError := some .collisionLimit
  NewHashLevelErrorf := some .hashLevel
  NewKeyNotFoundError := some .keyNotFound
  NewMapElementCountError := some .mapElementCount
  NewUnreachableError := some .goPanic
  element_Count := fun el c => (u32 (el.count o), none, c)
  element_Get := fun el c lvl _ _ => mel_rGet c (el.get o cfg lvl.toNat k)
  element_Remove := fun el c lvl _ _ => mel_rERemove c (el.remove o cfg lvl.toNat k c)
  element_Set := fun el c _ lvl _ _ _ => mel_rESet c (el.set o cfg lvl.toNat k v c)
  element_Size := fun el => u32 (el.size o)
  element_getElementAndNextKey := fun _ c _ _ _ => (none, none, none, some .goPanic, c)
  element_ofSingleElement := fun s =>
    match s.key, s.value with
    | some (.key k'), some (.val v') => .single { key := k', val := v', size := s.size.toNat }
    | _, _ => .single default
  errors_As_KeyNotFoundError := fun err => decide (err = .keyNotFound)
  firstKeyInElement := fun c _ => (none, some .goPanic, c)
  maxCollisionLimitPerDigest := u32 cfg.climit
  newSingleElement := fun c _ _ _ =>
    (mel_cE (newSingleElement cfg.T cfg.addr k v c).1, none, (newSingleElement cfg.T cfg.addr k v c).2)

theorem mel_rm_env_ok {α : Type} (o : ElemsOps α) (cfg : MCfg) (k : MKey) (v : Elem) : EnvA o cfg k v (mel_rm_env o cfg k v) where
  levels := rfl
  climit := rfl
  size := fun _ => rfl
  count := fun _ _ => rfl
  get := fun el c lvl hk hl => by
    show mel_rGet c (el.get o cfg (u64 lvl).toNat k) = _
    rw [u64_toNat hl]
  set := fun el c lvl hk hl => by
    show mel_rESet c (el.set o cfg (u64 lvl).toNat k v c) = _
    rw [u64_toNat hl]
  remove := fun el c lvl hk hl => by
    show mel_rERemove c (el.remove o cfg (u64 lvl).toNat k c) = _
    rw [u64_toNat hl]
  newElem := fun _ => rfl
  inj := fun x hx => by
    show MElemF.single { key := x.key, val := x.val, size := (u32 x.size).toNat } = _
    rw [u32_toNat hx]
  asKNF := fun _ => rfl
  eHashLevel := rfl
  eKeyNotFound := rfl
  eCollisionLimit := rfl
  eElementCount := rfl

/-- nested level of the examples: a group is just its size; `remove` shrinks it by 5 -/
def mel_rm_oEx : ElemsOps Nat where
  size := id
  count := fun _ => 2
  firstKey := fun _ => 0
  get := fun _ _ _ _ => .error .keyNotFound
  set := fun _ _ _ _ _ _ => .error .notApplicable
  remove := fun _ g _ k c => .ok (k, { size := 3, pay := .val 10 }, g - 5, c)
  newWith := fun _ _ _ => .error .notApplicable
  soleSingle := fun _ => none
  popIter := fun _ c => ([], c)
  toList := fun _ => []

def mel_rm_cfgEx : MCfg := { T := 1024, L := 2, climit := 255, addr := 7 }
def mel_rm_k1Ex : MKey := { size := 9, pay := 1, digs := [5, 6] }
def mel_rm_k2Ex : MKey := { size := 9, pay := 2, digs := [8, 6] }
def mel_rm_k3Ex : MKey := { size := 9, pay := 3, digs := [7, 6] }
def mel_rm_v1Ex : Elem := { size := 3, pay := .val 10 }
def mel_rm_cEx : Ctx := { ctr := 0, eff := [] }
/-- digests 5 (a single element of size 13) and 8 (an inline group of size prefix + 30) -/
def mel_rm_eEx : HkeyElems Nat :=
  { hkeys := [5, 8], elems := [.single { key := mel_rm_k1Ex, val := mel_rm_v1Ex, size := 13 }, .inl 30],
    size := 100, level := 0 }

theorem mel_rm_eEx_ok : mel_HOk mel_rm_eEx where
  len := rfl
  dig := by decide
  short := by decide

theorem mel_rm_eEx_sz : ∀ el ∈ mel_rm_eEx.elems, Gen.digestSize + el.size mel_rm_oEx ≤ mel_rm_eEx.size := by
  intro el h
  simp only [mel_rm_eEx, List.mem_cons, List.not_mem_nil, or_false] at h
  rcases h with h | h <;> subst h <;> decide

/-- Remove of a single element: the element and its digest are deleted, size - (8 + 13) -/
example : hkeyElements_Remove (mel_rm_env mel_rm_oEx mel_rm_cfgEx mel_rm_k1Ex mel_rm_v1Ex) (mel_cH mel_rm_eEx) mel_rm_cEx
      (u64 0) (u64 5) (.key mel_rm_k1Ex) =
    some (some (.key mel_rm_k1Ex), some (.val mel_rm_v1Ex), none,
      mel_cH { hkeys := [8], elems := [.inl 30], size := 79, level := 0 }, mel_rm_cEx) := by
  rw [show (5 : Nat) = mel_rm_k1Ex.dig 0 from rfl,
    hkeyElements_Remove_eq_model mel_rm_oEx mel_rm_cfgEx mel_rm_k1Ex mel_rm_v1Ex _ (mel_rm_env_ok _ _ _ _) mel_rm_eEx mel_rm_eEx_ok
      0 mel_rm_cEx (by decide) (by decide) (by decide) mel_rm_eEx_sz]
  rfl

/-- Remove inside a group: the element is replaced, size + new - old = 100 - 5 -/
example : hkeyElements_Remove (mel_rm_env mel_rm_oEx mel_rm_cfgEx mel_rm_k2Ex mel_rm_v1Ex) (mel_cH mel_rm_eEx) mel_rm_cEx
      (u64 0) (u64 8) (.key mel_rm_k2Ex) =
    some (some (.key mel_rm_k2Ex), some (.val mel_rm_v1Ex), none,
      mel_cH { mel_rm_eEx with elems := [.single { key := mel_rm_k1Ex, val := mel_rm_v1Ex, size := 13 }, .inl 25], size := 95 },
      mel_rm_cEx) := by
  rw [show (8 : Nat) = mel_rm_k2Ex.dig 0 from rfl,
    hkeyElements_Remove_eq_model mel_rm_oEx mel_rm_cfgEx mel_rm_k2Ex mel_rm_v1Ex _ (mel_rm_env_ok _ _ _ _) mel_rm_eEx mel_rm_eEx_ok
      0 mel_rm_cEx (by decide) (by decide) (by decide) mel_rm_eEx_sz]
  rfl

/-- an absent digest inside the range, and a level beyond the digester's -/
example : hkeyElements_Remove (mel_rm_env mel_rm_oEx mel_rm_cfgEx mel_rm_k3Ex mel_rm_v1Ex) (mel_cH mel_rm_eEx) mel_rm_cEx
      (u64 0) (u64 7) (.key mel_rm_k3Ex) = some (none, none, some .keyNotFound, mel_cH mel_rm_eEx, mel_rm_cEx) := by
  rw [show (7 : Nat) = mel_rm_k3Ex.dig 0 from rfl,
    hkeyElements_Remove_eq_model mel_rm_oEx mel_rm_cfgEx mel_rm_k3Ex mel_rm_v1Ex _ (mel_rm_env_ok _ _ _ _) mel_rm_eEx mel_rm_eEx_ok
      0 mel_rm_cEx (by decide) (by decide) (by decide) mel_rm_eEx_sz]
  rfl
example : hkeyElements_Remove (mel_rm_env mel_rm_oEx mel_rm_cfgEx mel_rm_k1Ex mel_rm_v1Ex) (mel_cH mel_rm_eEx) mel_rm_cEx
      (u64 2) (u64 0) (.key mel_rm_k1Ex) = some (none, none, some .hashLevel, mel_cH mel_rm_eEx, mel_rm_cEx) := by
  rw [show (0 : Nat) = mel_rm_k1Ex.dig 2 from rfl,
    hkeyElements_Remove_eq_model mel_rm_oEx mel_rm_cfgEx mel_rm_k1Ex mel_rm_v1Ex _ (mel_rm_env_ok _ _ _ _) mel_rm_eEx mel_rm_eEx_ok
      2 mel_rm_cEx (by decide) (by decide) (by decide) mel_rm_eEx_sz]
  rfl

/-! ### outside the hypothesis `hsz` the code and the model DIFFER

  A table whose size field is smaller than digestSize + the size of the removed element (an inconsistent table: the
  size field always includes the prefix, every digest and every element): Go computes
  `e.size -= digestSize + oldElemSize` in `uint32` and wraps around, the `Nat` model truncates at 0. -/
def mel_rm_eBadEx : HkeyElems Nat :=
  { hkeys := [5], elems := [.single { key := mel_rm_k1Ex, val := mel_rm_v1Ex, size := 13 }], size := 11, level := 0 }

theorem hkeyElements_Remove_differs_at :
    (hkeyElements_Remove (mel_rm_env mel_rm_oEx mel_rm_cfgEx mel_rm_k1Ex mel_rm_v1Ex) (mel_cH mel_rm_eBadEx) mel_rm_cEx
        (u64 0) (u64 5) (.key mel_rm_k1Ex)).map (·.2.2.2.1.size) = some (u32 4294967286) ∧
    (mel_rRemove mel_rm_eBadEx mel_rm_cEx (HkeyElems.remove mel_rm_oEx mel_rm_cfgEx mel_rm_eBadEx 0 mel_rm_k1Ex mel_rm_cEx)).map
        (·.2.2.2.1.size) = some (u32 0) := by
  constructor <;> decide

end Atree.TransEq

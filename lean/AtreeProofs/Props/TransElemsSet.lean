import AtreeProofs.Props.TransMapSlabsSingle
import AtreeProofs.Trans.MapElems
import AtreeProofs.Trans.MapElemsOn
import AtreeProofs.Map.Paths
/-
  The GENERATED `hkeyElements.Set` (`AtreeModel/Gen/TransMapElems.lean`) against the model's `HkeyElems.findEqLt` /
  `HkeyElems.insertNew` / `HkeyElems.elemSizes` / `HkeyElems.set` (`AtreeModel/Map/Elems.lean`).
-/
namespace Atree.TransEq
open Atree Atree.Gen.TransElems

section
variable {α : Type} (o : ElemsOps α) (cfg : MCfg) (k : MKey) (v : Elem) (env : Env (MElemF α) SV SW Ctx GE)

/-- the binary search of `Set` (equalIndex, lessThanIndex) = the model's `findEqLt` -/
theorem mel_Set_loop1 (e : HkeyElems α) (hok : mel_HOk e) (hk : Nat) (hhk : hk < 2^64) :
    ∀ (fuel i j lt : Nat) (eq0 : Int), i ≤ j → j ≤ e.hkeys.length → j - i < fuel →
      ∃ i' j' : Int, hkeyElements_Set.loop1 env (mel_cH e) (u64 hk) fuel eq0 (Int.ofNat lt) (Int.ofNat i) (Int.ofNat j) =
        .done ((match (HkeyElems.findEqLt e.hkeys hk i j lt fuel).1 with | some h => Int.ofNat h | none => eq0),
               Int.ofNat (HkeyElems.findEqLt e.hkeys hk i j lt fuel).2, i', j') := by
  intro fuel
  induction fuel with
  | zero => intro i j lt eq0 _ _ h; omega
  | succ fuel ih =>
    intro i j lt eq0 hij hj hf
    rw [hkeyElements_Set.loop1, HkeyElems.findEqLt, int_dlt]
    by_cases c : i < j
    · obtain ⟨hm1, hm2, em, eg, e1, e2⟩ := mel_probe e hok hhk c hj
      rw [if_pos (decide_eq_true c), if_pos c]
      dsimp only
      rw [em, eg]
      dsimp only
      rw [e1, e2]
      generalize (i + j) / 2 = m at *
      by_cases c1 : e.hkeys.getD m 0 > hk
      · rw [if_pos (decide_eq_true c1), if_pos c1]
        exact ih i m m eq0 hm1 (Nat.le_trans (Nat.le_of_lt hm2) hj)
          (Nat.lt_of_lt_of_le (Nat.sub_lt_sub_right hm1 hm2) (Nat.le_of_lt_succ hf))
      · rw [if_neg (by simpa using c1), if_neg c1]
        by_cases c2 : e.hkeys.getD m 0 < hk
        · rw [if_pos (decide_eq_true c2), if_pos c2]
          exact ih (m + 1) j lt eq0 hm2 hj
            (Nat.lt_of_lt_of_le (Nat.sub_lt_sub_left c (Nat.lt_succ_of_le hm1)) (Nat.le_of_lt_succ hf))
        · rw [if_neg (by simpa using c2), if_neg c2]
          exact ⟨_, _, rfl⟩
    · rw [if_neg (by simpa using c), if_neg c]
      exact ⟨_, _, rfl⟩

/-- (relativised environment `EnvAOn`) the size recomputation loop = prefix + Σ (element size + digest size), no range condition (uint32 addition is a ring homomorphism) -/
theorem mel_Set_loop2_on {Pg Ps Pr : MElemF α → Nat → Ctx → Prop}
    (hE : EnvAOn o cfg k v env Pg Ps Pr) (l : List (MElemF α)) (i : Int) (s : Nat) :
    hkeyElements_Set.loop2 env (l.map some) i (u32 s) = .done (u32 (s + HkeyElems.elemSizes o l)) := by
  induction l generalizing i s with
  | nil => simp only [List.map_nil, hkeyElements_Set.loop2, HkeyElems.elemSizes, List.sum_nil, Nat.add_zero]
  | cons a t ih =>
    simp only [List.map_cons, hkeyElements_Set.loop2, hE.size]
    show hkeyElements_Set.loop2 env (t.map some) (i + 1) (u32 s + (u32 (a.size o) + u32 Gen.digestSize)) = _
    rw [u32_add_eq, u32_add_eq, ih]
    simp only [HkeyElems.elemSizes, List.map_cons, List.sum_cons]
    congr 2
    omega

/-- the size recomputation loop = prefix + Σ (element size + digest size), no range condition (uint32 addition is a ring homomorphism) -/
theorem mel_Set_loop2 (hE : EnvA o cfg k v env) (l : List (MElemF α)) (i : Int) (s : Nat) :
    hkeyElements_Set.loop2 env (l.map some) i (u32 s) = .done (u32 (s + HkeyElems.elemSizes o l)) := by
  exact mel_Set_loop2_on o cfg k v env hE.toOn l i s

/-- the model's `insertNew`, as the result of the generated code -/
theorem mel_insertNew_r (e : HkeyElems α) (idx hkey : Nat) (c : Ctx) :
    mel_rSet e c (.ok (HkeyElems.insertNew cfg e idx hkey k v c)) =
      some ((mel_cE (newSingleElement cfg.T cfg.addr k v c).1).key, none, none,
        { hkeys := (mel_cH e).hkeys.insertIdx idx (u64 hkey),
          elems := (mel_cH e).elems.insertIdx idx (some (.single (newSingleElement cfg.T cfg.addr k v c).1)),
          size := (mel_cH e).size + (UInt32.ofNat Gen.digestSize + (mel_cE (newSingleElement cfg.T cfg.addr k v c).1).size),
          level := (mel_cH e).level },
        (newSingleElement cfg.T cfg.addr k v c).2) := by
  simp only [HkeyElems.insertNew, mel_rSet, mel_cH, mel_cE, u64s, map_insertIdx, Option.map_none]
  rw [show UInt32.ofNat Gen.digestSize = u32 Gen.digestSize from rfl, u32_add_eq, u32_add_eq, Nat.add_assoc]

/-- `KeyNotFoundError` as the result of the probe `elem.Get` -/
def mel_isKNF : Except MErr (MKey × Elem) → Bool
  | .error .keyNotFound => true
  | _ => false

/-- the error of the collision-limit check of `Set` (level 0 only), if any -/
def mel_probeRes (e : HkeyElems α) (el : MElemF α) (level : Nat) : Option MErr :=
  if e.level = 0 then
    if el.count o = 0 then some .mapElementCount
    else if el.count o - 1 ≥ cfg.climit then
      if mel_isKNF (el.get o cfg level k) then some .collisionLimit else none
    else none
  else none

/-- the model's `set` when the digest is in the table (index `i`, element `el`) -/
theorem mel_set_found (e : HkeyElems α) (level : Nat) (c : Ctx) (cl : ¬ level ≥ cfg.L) (first last : Nat)
    (hhead : e.hkeys.head? = some first) (hlast : e.hkeys.getLast? = some last)
    (c1 : ¬ k.dig level < first) (c2 : ¬ k.dig level > last) (i lt : Nat)
    (hfe : HkeyElems.findEqLt e.hkeys (k.dig level) 0 e.hkeys.length 0 (e.hkeys.length + 1) = (some i, lt))
    (el : MElemF α) (hel : e.elems[i]? = some el) :
    HkeyElems.set o cfg e level k v c =
      match mel_probeRes o cfg k e el level with
      | some err => .error err
      | none =>
        match el.set o cfg level k v c with
        | .error err => .error err
        | .ok (el', ks, old, c') =>
          .ok (ks, old, { e with elems := e.elems.set i el',
                                 size := Gen.hkeyElementsPrefixSize + HkeyElems.elemSizes o (e.elems.set i el') }, c') := by
  unfold HkeyElems.set
  rw [if_neg cl]
  dsimp only
  rw [hhead, hlast]
  dsimp only
  rw [if_neg c1, if_neg c2, hfe]
  dsimp only
  rw [hel]
  dsimp only
  unfold mel_probeRes
  have htail : ∀ (f : MElemF α × MKey × Option Elem × Ctx → MKey × Option Elem × HkeyElems α × Ctx),
      (do let __x ← el.set o cfg level k v c; pure (f __x) : Except MErr _) =
      match el.set o cfg level k v c with
      | .error err => .error err
      | .ok (el', ks, old, c') => .ok (f (el', ks, old, c')) := by
    intro f
    generalize el.set o cfg level k v c = sr
    cases sr <;> rfl
  by_cases h0 : e.level = 0
  · rw [if_pos (beq_iff_eq.mpr h0), if_pos h0]
    by_cases hc : el.count o = 0
    · rw [if_pos (beq_iff_eq.mpr hc), if_pos hc]; rfl
    · rw [if_neg (mt beq_iff_eq.mp hc), if_neg hc]
      by_cases hg : el.count o - 1 ≥ cfg.climit
      · rw [if_pos hg, if_pos hg]
        generalize el.get o cfg level k = gr
        cases gr with
        | ok kv => exact htail _
        | error err => cases err <;> first | exact htail _ | rfl
      · rw [if_neg hg, if_neg hg]; exact htail _
  · rw [if_neg (mt beq_iff_eq.mp h0), if_neg h0]; exact htail _

/-- the model's `set` when the digest is new: prepend / append / insert at the position found -/
theorem mel_set_new (e : HkeyElems α) (level : Nat) (c : Ctx) (cl : ¬ level ≥ cfg.L) (first last : Nat)
    (hhead : e.hkeys.head? = some first) (hlast : e.hkeys.getLast? = some last) :
    (k.dig level < first → HkeyElems.set o cfg e level k v c = .ok (HkeyElems.insertNew cfg e 0 (k.dig level) k v c)) ∧
    (¬ k.dig level < first → k.dig level > last →
      HkeyElems.set o cfg e level k v c = .ok (HkeyElems.insertNew cfg e e.hkeys.length (k.dig level) k v c)) ∧
    (¬ k.dig level < first → ¬ k.dig level > last → ∀ lt,
      HkeyElems.findEqLt e.hkeys (k.dig level) 0 e.hkeys.length 0 (e.hkeys.length + 1) = (none, lt) →
      HkeyElems.set o cfg e level k v c = .ok (HkeyElems.insertNew cfg e lt (k.dig level) k v c)) := by
  unfold HkeyElems.set
  simp only [cl, if_false, hhead, hlast]
  refine ⟨?_, ?_, ?_⟩
  · intro c1; simp only [c1, if_true]
  · intro c1 c2; simp only [c1, c2, if_true, if_false]
  · intro c1 c2 lt hfe; simp only [c1, c2, if_false, hfe]

/-- (relativised environment `EnvAOn`; the guards `Pg`, `Ps` hold for the elements of the table) `hkeyElements.Set` on a non-empty digest table -/
theorem mel_Set_nonempty_on {Pg Ps Pr : MElemF α → Nat → Ctx → Prop}
    (hE : EnvAOn o cfg k v env Pg Ps Pr) (e : HkeyElems α) (hok : mel_HOk e) (level : Nat) (c : Ctx)
    (hl : level < 2^64) (hL : cfg.L < 2^64) (hd : k.dig level < 2^64) (hlev : e.level < 2^64) (hcl : cfg.climit < 2^32)
    (hcnt : ∀ el ∈ e.elems, el.count o < 2^32) (hnsz : (newSingleElement cfg.T cfg.addr k v c).1.size < 2^32) (hpos : 0 < e.hkeys.length) (cl : ¬ level ≥ cfg.L)
    (hPg : ∀ (i : Nat) (el : MElemF α), e.elems[i]? = some el → Pg el level c)
    (hPs : ∀ (i : Nat) (el : MElemF α), e.elems[i]? = some el → Ps el level c) :
    hkeyElements_Set env (mel_cH e) c cfg.addr (u64 level) (u64 (k.dig level)) (.key k) (.val v) =
      mel_rSet e c (HkeyElems.set o cfg e level k v c) := by
  obtain ⟨hhead, hlast, hg0, hgl, hdlt, hdgt⟩ := mel_ends e hok hpos hd
  have hne : ¬ (e.hkeys.length = 0) := Nat.pos_iff_ne_zero.1 hpos
  obtain ⟨hm1, hm2, hm3⟩ := mel_set_new o cfg k v e level c cl _ _ hhead hlast
  unfold hkeyElements_Set
  rw [hE.levels, u64_dge hl hL, ite_dec_neg cl, mel_cH_hkeys_length, int_deq_zero, ite_dec_neg hne,
    hg0]
  dsimp only
  rw [hdlt]
  by_cases c1 : k.dig level < e.hkeys.getD 0 0
  · rw [ite_dec_pos c1, hm1 c1]
    rw [hE.newElem, show (0 : Int) = Int.ofNat 0 from rfl, goSlicesInsert_eq, sliceInsert_one _ _ (Nat.zero_le _),
      sliceInsert_one _ _ (Nat.zero_le _), mel_insertNew_r]
    dsimp only
    rw [hE.inj _ hnsz, singleElement_Size]
    rfl
  · rw [ite_dec_neg c1, hgl]
    dsimp only
    rw [hdgt]
    by_cases c2 : k.dig level > e.hkeys.getD (e.hkeys.length - 1) 0
    · rw [ite_dec_pos c2, hm2 c1 c2]
      have h1 : ∀ x, (mel_cH e).hkeys.insertIdx e.hkeys.length x = (mel_cH e).hkeys ++ [x] := by
        intro x; rw [← mel_cH_hkeys_length e]; exact List.insertIdx_length_self
      have h2 : ∀ x, (mel_cH e).elems.insertIdx e.hkeys.length x = (mel_cH e).elems ++ [x] := by
        intro x; rw [← hok.len, ← mel_cH_elems_length e]; exact List.insertIdx_length_self
      rw [hE.newElem, mel_insertNew_r, h1, h2]
      dsimp only
      rw [hE.inj _ hnsz, singleElement_Size]
      rfl
    · rw [ite_dec_neg c2, int_fuel_zero]
      obtain ⟨i', j', h⟩ := mel_Set_loop1 env e hok (k.dig level) hd (e.hkeys.length + 1) 0 e.hkeys.length 0 (-1)
        (Nat.zero_le _) (Nat.le_refl _) (Nat.lt_succ_self _)
      have h' : hkeyElements_Set.loop1 env (mel_cH e) (u64 (k.dig level)) (e.hkeys.length + 1) (-1) 0 0
        (Int.ofNat e.hkeys.length) = _ := h
      rw [h']
      have hle := HkeyElems.findEqLt_snd_le e.hkeys (k.dig level) e.hkeys.length (e.hkeys.length + 1) 0 e.hkeys.length 0 (Nat.le_refl _) (Nat.zero_le _)
      generalize hfe : HkeyElems.findEqLt e.hkeys (k.dig level) 0 e.hkeys.length 0 (e.hkeys.length + 1) = r at hle ⊢
      obtain ⟨r1, lt⟩ := r
      cases r1 with
      | none =>
        dsimp only
        rw [if_neg (by decide), hm3 c1 c2 lt hfe]
        rw [hE.newElem, goSlicesInsert_eq, sliceInsert_one _ _ (by rwa [mel_cH_hkeys_length] : lt ≤ _),
          sliceInsert_one _ _ (by rwa [mel_cH_elems_length, hok.len] : lt ≤ _), mel_insertNew_r]
        dsimp only
        rw [hE.inj _ hnsz, singleElement_Size]
        rfl
      | some i =>
        obtain ⟨_, _, hne1, el, hel, hget, hir⟩ := mel_hit e hok (HkeyElems.findEqLt_some _ _ _ _ (Nat.le_refl _) hfe)
        have hc32 := hcnt el (List.mem_of_getElem? hel)
        dsimp only
        rw [mel_set_found o cfg k v e level c cl _ _ hhead hlast c1 c2 i lt hfe el hel,
          if_pos (decide_eq_true hne1), hget]
        dsimp only
        generalize hP : (ite (decide ((mel_cH e).level = 0) = true) _ _ : Loop _ Ctx) = P
        have hP' : P = match mel_probeRes o cfg k e el level with
            | some err => .ret (some (none, none, some err, mel_cH e, c))
            | none => .done c := by
          rw [← hP]
          clear hP
          unfold mel_probeRes
          rw [show (mel_cH e).level = u64 e.level from rfl, u64_deq_zero hlev]
          by_cases h0 : e.level = 0
          · rw [ite_dec_pos h0, if_pos h0, hE.count]
            dsimp only
            rw [if_neg (by decide), u32_deq_zero hc32]
            by_cases hc : el.count o = 0
            · rw [ite_dec_pos hc, if_pos hc, hE.eElementCount]
            · rw [ite_dec_neg hc, if_neg hc, one_eq_u32, u32_sub_eq (Nat.pos_of_ne_zero hc), hE.climit,
                u32_dge (Nat.lt_of_le_of_lt (Nat.sub_le _ _) hc32) hcl]
              by_cases hg : el.count o - 1 ≥ cfg.climit
              · rw [ite_dec_pos hg, if_pos hg, hE.get el c level _ hl (hPg _ _ hel)]
                cases el.get o cfg level k with
                | error err =>
                  simp only [mel_rGet, Option.isNone_some, Bool.not_false, if_true, hE.asKNF]
                  by_cases hk : err = .keyNotFound
                  · subst hk
                    simp only [decide_true, if_true, mel_isKNF, hE.eCollisionLimit]
                  · have hk' : mel_isKNF (.error err) = false := by
                      cases err <;> first | rfl | exact absurd rfl hk
                    simp only [hk, decide_false, Bool.false_eq_true, if_false, hk']
                | ok kv => rfl
              · rw [ite_dec_neg hg, if_neg hg]
          · rw [ite_dec_neg h0, if_neg h0]
        rw [hP']
        rcases Option.eq_none_or_eq_some (mel_probeRes o cfg k e el level) with hp | ⟨err, hp⟩
        · rw [hp]
          simp only [hE.set el c level _ hl (hPs _ _ hel)]
          generalize el.set o cfg level k v c = sr
          cases sr with
          | error err => rfl
          | ok r =>
            obtain ⟨el', ks, old, c'⟩ := r
            have hset : (mel_cH e).elems.set i (some el') = (e.elems.set i el').map some := by
              simp only [mel_cH, List.map_set]
            simp only [mel_rESet, Option.isNone_none, Bool.not_true, Bool.false_eq_true, if_false, hir, if_true,
              int_toNat, hset]
            rw [show UInt32.ofNat Gen.hkeyElementsPrefixSize = u32 Gen.hkeyElementsPrefixSize from rfl,
              mel_Set_loop2_on o cfg k v env hE]
            rfl
        · rw [hp]; rfl


/-- `hkeyElements.Set` on a non-empty digest table -/
theorem mel_Set_nonempty (hE : EnvA o cfg k v env) (e : HkeyElems α) (hok : mel_HOk e) (level : Nat) (c : Ctx)
    (hl : level < 2^64) (hL : cfg.L < 2^64) (hd : k.dig level < 2^64) (hlev : e.level < 2^64) (hcl : cfg.climit < 2^32)
    (hcnt : ∀ el ∈ e.elems, el.count o < 2^32) (hnsz : (newSingleElement cfg.T cfg.addr k v c).1.size < 2^32) (hpos : 0 < e.hkeys.length) (cl : ¬ level ≥ cfg.L) :
    hkeyElements_Set env (mel_cH e) c cfg.addr (u64 level) (u64 (k.dig level)) (.key k) (.val v) =
      mel_rSet e c (HkeyElems.set o cfg e level k v c) := by
  exact mel_Set_nonempty_on o cfg k v env hE.toOn e hok level c hl hL hd hlev hcl hcnt hnsz hpos cl
    (fun _ _ _ => trivial) (fun _ _ _ => trivial)

/-- `hkeyElements.Set` = `HkeyElems.set` (relativised environment `EnvAOn`; the guards `Pg` (collision-limit probe) and `Ps`
    hold for the elements of the table) -/
theorem hkeyElements_Set_eq_model_on {Pg Ps Pr : MElemF α → Nat → Ctx → Prop}
    (hE : EnvAOn o cfg k v env Pg Ps Pr) (e : HkeyElems α) (hok : mel_HOk e) (level : Nat) (c : Ctx)
    (hl : level < 2^64) (hL : cfg.L < 2^64) (hd : k.dig level < 2^64) (hlev : e.level < 2^64) (hcl : cfg.climit < 2^32)
    (hcnt : ∀ el ∈ e.elems, el.count o < 2^32) (hnsz : (newSingleElement cfg.T cfg.addr k v c).1.size < 2^32)
    (hPg : ∀ (i : Nat) (el : MElemF α), e.elems[i]? = some el → Pg el level c)
    (hPs : ∀ (i : Nat) (el : MElemF α), e.elems[i]? = some el → Ps el level c) :
    hkeyElements_Set env (mel_cH e) c cfg.addr (u64 level) (u64 (k.dig level)) (.key k) (.val v) =
      mel_rSet e c (HkeyElems.set o cfg e level k v c) := by
  by_cases cl : level ≥ cfg.L
  · unfold hkeyElements_Set HkeyElems.set
    rw [hE.levels, u64_dge hl hL, ite_dec_pos cl, if_pos cl, hE.eHashLevel]
    rfl
  · rcases Nat.eq_zero_or_pos e.hkeys.length with h0 | hpos
    · unfold hkeyElements_Set HkeyElems.set
      rw [hE.levels, u64_dge hl hL, ite_dec_neg cl, if_neg cl, mel_cH_hkeys_length, int_deq_zero, ite_dec_pos h0,
        hE.newElem]
      obtain ⟨hkeys, elems, size, lev⟩ := e
      cases List.eq_nil_of_length_eq_zero h0
      cases List.eq_nil_of_length_eq_zero hok.len
      dsimp only [List.head?_nil]
      rw [if_neg (by decide), mel_insertNew_r, hE.inj _ hnsz, singleElement_Size]
      rfl
    · exact mel_Set_nonempty_on o cfg k v env hE e hok level c hl hL hd hlev hcl hcnt hnsz hpos cl hPg hPs

theorem hkeyElements_Set_eq_model (hE : EnvA o cfg k v env) (e : HkeyElems α) (hok : mel_HOk e) (level : Nat) (c : Ctx)
    (hl : level < 2^64) (hL : cfg.L < 2^64) (hd : k.dig level < 2^64) (hlev : e.level < 2^64) (hcl : cfg.climit < 2^32)
    (hcnt : ∀ el ∈ e.elems, el.count o < 2^32) (hnsz : (newSingleElement cfg.T cfg.addr k v c).1.size < 2^32) :
    hkeyElements_Set env (mel_cH e) c cfg.addr (u64 level) (u64 (k.dig level)) (.key k) (.val v) =
      mel_rSet e c (HkeyElems.set o cfg e level k v c) := by
  exact hkeyElements_Set_eq_model_on o cfg k v env hE.toOn e hok level c hl hL hd hlev hcl hcnt hnsz
    (fun _ _ _ => trivial) (fun _ _ _ => trivial)

/-- `hkeyElements.Set` never panics (under the hypotheses of `hkeyElements_Set_eq_model`) -/
theorem hkeyElements_Set_no_panic (hE : EnvA o cfg k v env) (e : HkeyElems α) (hok : mel_HOk e) (level : Nat) (c : Ctx)
    (hl : level < 2^64) (hL : cfg.L < 2^64) (hd : k.dig level < 2^64) (hlev : e.level < 2^64) (hcl : cfg.climit < 2^32)
    (hcnt : ∀ el ∈ e.elems, el.count o < 2^32) (hnsz : (newSingleElement cfg.T cfg.addr k v c).1.size < 2^32) :
    hkeyElements_Set env (mel_cH e) c cfg.addr (u64 level) (u64 (k.dig level)) (.key k) (.val v) ≠ none := by
  rw [hkeyElements_Set_eq_model o cfg k v env hE e hok level c hl hL hd hlev hcl hcnt hnsz]
  cases HkeyElems.set o cfg e level k v c with
  | error err => simp [mel_rSet]
  | ok r => obtain ⟨ks, old, e', c'⟩ := r; simp [mel_rSet]

end

/-! ## non-vacuity: an environment satisfying `EnvA`, for every `o`, `cfg`, `k`, `v` -/

/-- a concrete instance of the parameters: the element methods are the model's (levels read back with `toNat`);
    fields that `EnvA` does not mention are constants -/
def mel_S_env0 {α : Type} (o : ElemsOps α) (cfg : MCfg) : Env (MElemF α) SV SW Ctx GE where
  Digester_Levels := u64 cfg.L
  NewCollisionLimitError := some .collisionLimit
  NewHashLevelErrorf := some .hashLevel
  NewKeyNotFoundError := some .keyNotFound
  NewMapElementCountError := some .mapElementCount
  NewUnreachableError := some .goPanic
  element_Count := fun el c => (u32 (el.count o), none, c)
  element_Get := fun el c lvl _ w => match w with
    | .key k => mel_rGet c (el.get o cfg lvl.toNat k)
    | .val _ => (none, none, some .goPanic, c)
  element_Remove := fun el c lvl _ w => match w with
    | .key k => mel_rERemove c (el.remove o cfg lvl.toNat k c)
    | .val _ => (none, none, none, some .goPanic, c)
  element_Set := fun el c _ lvl _ kw vw => match kw, vw with
    | .key k, .val v => mel_rESet c (el.set o cfg lvl.toNat k v c)
    | _, _ => (none, none, none, some .goPanic, c)
  element_Size := fun el => u32 (el.size o)
  element_getElementAndNextKey := fun _ c _ _ _ => (none, none, none, some .goPanic, c)
  element_ofSingleElement := fun s => match s.key, s.value with
    | some (.key k), some (.val v) => .single { key := k, val := v, size := s.size.toNat }
    | _, _ => .single default
  errors_As_KeyNotFoundError := fun err => decide (err = .keyNotFound)
  firstKeyInElement := fun c _ => (none, some .goPanic, c)
  maxCollisionLimitPerDigest := u32 cfg.climit
  newSingleElement := fun c _ kw vw => match kw, vw with
    | .key k, .val v => (mel_cE (newSingleElement cfg.T cfg.addr k v c).1, none, (newSingleElement cfg.T cfg.addr k v c).2)
    | _, _ => ({}, some .goPanic, c)

theorem mel_S_env0_ok {α : Type} (o : ElemsOps α) (cfg : MCfg) (k : MKey) (v : Elem) :
    EnvA o cfg k v (mel_S_env0 o cfg) where
  levels := rfl
  climit := rfl
  size := fun _ => rfl
  count := fun _ _ => rfl
  get := fun el c lvl hk h => by
    show mel_rGet c (el.get o cfg (u64 lvl).toNat k) = _
    rw [u64_toNat h]
  set := fun el c lvl hk h => by
    show mel_rESet c (el.set o cfg (u64 lvl).toNat k v c) = _
    rw [u64_toNat h]
  remove := fun el c lvl hk h => by
    show mel_rERemove c (el.remove o cfg (u64 lvl).toNat k c) = _
    rw [u64_toNat h]
  newElem := fun _ => rfl
  inj := fun x h => by
    show MElemF.single { key := x.key, val := x.val, size := (u32 x.size).toNat } = _
    rw [u32_toNat h]
  asKNF := fun _ => rfl
  eHashLevel := rfl
  eKeyNotFound := rfl
  eCollisionLimit := rfl
  eElementCount := rfl

/-! ### a concrete three-digest table of single elements at level 0 under that environment -/

def mel_S_cfgEx : MCfg := { T := 1024, L := 2, climit := 255, addr := 7 }
/-- the same configuration with collision limit 0: no collisions allowed -/
def mel_S_cfg0Ex : MCfg := { T := 1024, L := 2, climit := 0, addr := 7 }
def mel_S_kaEx : MKey := { size := 9, pay := 1, digs := [3, 6] }
def mel_S_kbEx : MKey := { size := 9, pay := 2, digs := [5, 6] }
def mel_S_kcEx : MKey := { size := 9, pay := 3, digs := [9, 6] }
/-- a new key whose digest 7 falls between the second and the third -/
def mel_S_kdEx : MKey := { size := 9, pay := 4, digs := [7, 6] }
/-- a new key whose level-0 digest collides with `kb` -/
def mel_S_keEx : MKey := { size := 9, pay := 5, digs := [5, 8] }
def mel_S_v1Ex : Elem := { size := 3, pay := .val 10 }
def mel_S_v2Ex : Elem := { size := 4, pay := .val 20 }
def mel_S_eEx : HkeyElems SingleElems :=
  { hkeys := [3, 5, 9],
    elems := [.single { key := mel_S_kaEx, val := mel_S_v1Ex, size := 13 }, .single { key := mel_S_kbEx, val := mel_S_v1Ex, size := 13 },
              .single { key := mel_S_kcEx, val := mel_S_v1Ex, size := 13 }],
    size := 71, level := 0 }
def mel_S_cEx : Ctx := { ctr := 0, eff := [] }

theorem mel_S_eEx_ok : mel_HOk mel_S_eEx := ⟨by decide, by decide, by decide⟩

theorem mel_S_eEx_cnt : ∀ el ∈ mel_S_eEx.elems, el.count SingleElems.ops < 2^32 := by
  intro el h
  simp only [mel_S_eEx, List.mem_cons, List.not_mem_nil, or_false] at h
  rcases h with rfl | rfl | rfl <;> decide

/-- Set of a new key with a digest inside the table: the binary search finds the insertion point 2 -/
example : hkeyElements_Set (mel_S_env0 SingleElems.ops mel_S_cfgEx) (mel_cH mel_S_eEx) mel_S_cEx 7 (u64 0) (u64 7)
      (.key mel_S_kdEx) (.val mel_S_v2Ex) =
    some (some (.key mel_S_kdEx), none, none,
      mel_cH { hkeys := [3, 5, 7, 9],
               elems := [.single { key := mel_S_kaEx, val := mel_S_v1Ex, size := 13 }, .single { key := mel_S_kbEx, val := mel_S_v1Ex, size := 13 },
                         .single { key := mel_S_kdEx, val := mel_S_v2Ex, size := 14 }, .single { key := mel_S_kcEx, val := mel_S_v1Ex, size := 13 }],
               size := 93, level := 0 }, mel_S_cEx) := by
  exact (hkeyElements_Set_eq_model SingleElems.ops mel_S_cfgEx mel_S_kdEx mel_S_v2Ex _ (mel_S_env0_ok _ _ _ _) mel_S_eEx mel_S_eEx_ok 0
      mel_S_cEx (by decide) (by decide) (by decide) (by decide) (by decide) mel_S_eEx_cnt (by decide)).trans rfl

/-- Set of an existing key: the element's `Set` replaces the value, the size is recomputed from the elements -/
example : hkeyElements_Set (mel_S_env0 SingleElems.ops mel_S_cfgEx) (mel_cH mel_S_eEx) mel_S_cEx 7 (u64 0) (u64 5)
      (.key mel_S_kbEx) (.val mel_S_v2Ex) =
    some (some (.key mel_S_kbEx), some (.val mel_S_v1Ex), none,
      mel_cH { hkeys := [3, 5, 9],
               elems := [.single { key := mel_S_kaEx, val := mel_S_v1Ex, size := 13 }, .single { key := mel_S_kbEx, val := mel_S_v2Ex, size := 14 },
                         .single { key := mel_S_kcEx, val := mel_S_v1Ex, size := 13 }],
               size := 72, level := 0 }, mel_S_cEx) := by
  exact (hkeyElements_Set_eq_model SingleElems.ops mel_S_cfgEx mel_S_kbEx mel_S_v2Ex _ (mel_S_env0_ok _ _ _ _) mel_S_eEx mel_S_eEx_ok 0
      mel_S_cEx (by decide) (by decide) (by decide) (by decide) (by decide) mel_S_eEx_cnt (by decide)).trans rfl

/-- Set of a NEW key whose digest collides, collision limit 0: the probe `Get` fails with KeyNotFoundError, which is
    swallowed and replaced by CollisionLimitError; nothing changes -/
example : hkeyElements_Set (mel_S_env0 SingleElems.ops mel_S_cfg0Ex) (mel_cH mel_S_eEx) mel_S_cEx 7 (u64 0) (u64 5)
      (.key mel_S_keEx) (.val mel_S_v2Ex) =
    some (none, none, some .collisionLimit, mel_cH mel_S_eEx, mel_S_cEx) := by
  exact (hkeyElements_Set_eq_model SingleElems.ops mel_S_cfg0Ex mel_S_keEx mel_S_v2Ex _ (mel_S_env0_ok _ _ _ _) mel_S_eEx mel_S_eEx_ok 0
      mel_S_cEx (by decide) (by decide) (by decide) (by decide) (by decide) mel_S_eEx_cnt (by decide)).trans rfl

/-- an EXISTING key at collision limit 0 is still set (the probe finds the key): no error -/
example : (hkeyElements_Set (mel_S_env0 SingleElems.ops mel_S_cfg0Ex) (mel_cH mel_S_eEx) mel_S_cEx 7 (u64 0) (u64 5)
      (.key mel_S_kbEx) (.val mel_S_v2Ex)).map (·.2.2.1) = some none := by
  exact (congrArg (Option.map (·.2.2.1)) (hkeyElements_Set_eq_model SingleElems.ops mel_S_cfg0Ex mel_S_kbEx mel_S_v2Ex _
    (mel_S_env0_ok _ _ _ _) mel_S_eEx mel_S_eEx_ok 0 mel_S_cEx (by decide) (by decide) (by decide) (by decide) (by decide)
    mel_S_eEx_cnt (by decide))).trans rfl

/-! ### outside the hypothesis `hnsz` the code and the model DIFFER

  A key of 2^32 bytes: the new `singleElement` has `size uint32` = (1 + 2^32 + s) mod 2^32 = 1 + s in Go, 2^32 + 1 + s in the
  `Nat` model (s = `slabIDStorableSize`: the value, over the inline limit, became a SlabID storable). -/

def mel_S_kBigEx : MKey := { size := 4294967296, pay := 6, digs := [7, 6] }

def mel_S_sizes : Option (Option SV × Option SV × Option GE × hkeyElements (MElemF SingleElems) × Ctx) → Option (List Nat) :=
  Option.map (fun r => r.2.2.2.1.elems.map (fun x => match x with | some (.single x) => x.size | _ => 0))

example : mel_S_sizes (hkeyElements_Set (mel_S_env0 SingleElems.ops mel_S_cfgEx) (mel_cH mel_S_eEx) mel_S_cEx 7 (u64 0) (u64 7)
      (.key mel_S_kBigEx) (.val mel_S_v2Ex)) = some [13, 13, 1 + slabIDStorableSize, 13] := by decide
example : mel_S_sizes (mel_rSet mel_S_eEx mel_S_cEx (HkeyElems.set SingleElems.ops mel_S_cfgEx mel_S_eEx 0 mel_S_kBigEx mel_S_v2Ex mel_S_cEx)) =
    some [13, 13, 4294967297 + slabIDStorableSize, 13] := by decide

end Atree.TransEq

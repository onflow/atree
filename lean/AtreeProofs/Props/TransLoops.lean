import AtreeProofs.Trans.Loops
/-
  Translation equivalence of the stateless engine: the functions with loops (data slabs of arrays, `hkeyElements`,
  `childSlabIndexInfo`).  See Props/Trans.lean for the setting.

  The range hypotheses are: every number fits its Go type, and the header fields account for the elements
  (`sumSizes elems ≤ hdr.size` etc.).  Props/TransSafe.lean derives them from the tree invariants.
-/
namespace Atree.TransEq
open Atree Atree.Gen.Trans

/-- asking for more than the slab holds never succeeds (model loop) -/
theorem canLendLoop_false_of_gt (minS h w : Nat) (rest : List Nat) (lend : Nat) (hs : lend + rest.sum ≤ h)
    (hw : h < w) : HkeyElems.canLendLoop minS h w rest lend = false := by
  induction rest generalizing lend with
  | nil => rfl
  | cons x t ih =>
    rw [List.sum_cons, ← Nat.add_assoc] at hs
    rw [HkeyElems.canLendLoop, if_neg (Nat.not_le.2 (Nat.lt_of_le_of_lt (Nat.le_trans (Nat.le_add_right _ _) hs) hw)),
      ih (lend + x) hs, ite_self]

/-- Go's first guard `hsize-size < min` wraps around where the model's subtraction truncates, so for `w > h` it
    does not fire where the model's does (`ArrayDataSlab_CanLendToLeft_guard_differs_at`); but then the loop cannot
    reach `w` and both sides are false. -/
theorem canLend_guard (minS h w : Nat) (rest : List Nat) (hh : h < 2^32) (hm : minS < 2^32)
    (hs : rest.sum ≤ h) :
    (if decide (u32 h - u32 w < u32 minS) then false else HkeyElems.canLendLoop minS h w rest 0) =
      if h - w < minS then false else HkeyElems.canLendLoop minS h w rest 0 := by
  by_cases hwh : w ≤ h
  · rw [u32_sub_eq hwh, u32_dlt (Nat.lt_of_le_of_lt (Nat.sub_le _ _) hh) hm]
    by_cases c : h - w < minS
    · rw [ite_dec_pos c, if_pos c]
    · rw [ite_dec_neg c, if_neg c]
  · rw [canLendLoop_false_of_gt minS h w rest 0 (by rwa [Nat.zero_add]) (Nat.not_le.1 hwh), ite_self, ite_self]

/-! Each `CanLend` function ends in a `match` on the result of its loop: that is `loopBool`, of which the loop
lemmas of Trans/Loops speak. -/

theorem ArrayDataSlab_CanLendToLeft_loopBool (h : UInt32) (s : List UInt32) (w m : UInt32) :
    ArrayDataSlab_CanLendToLeft h s w m =
      if decide (Int.ofNat s.length < 2) then false else if decide (h - w < m) then false
      else loopBool (ArrayDataSlab_CanLendToLeft.loop1 h w m s 0 (u32 0)) := by
  unfold ArrayDataSlab_CanLendToLeft
  dsimp only
  cases ArrayDataSlab_CanLendToLeft.loop1 h w m s 0 0 <;> rfl

theorem ArrayDataSlab_CanLendToRight_loopBool (h : UInt32) (s : List UInt32) (w m : UInt32) :
    ArrayDataSlab_CanLendToRight h s w m =
      if decide (Int.ofNat s.length < 2) then false else if decide (h - w < m) then false
      else loopBool (ArrayDataSlab_CanLendToRight.loop1 h s w m s.length (u32 0, Int.ofNat s.length - 1)) := by
  unfold ArrayDataSlab_CanLendToRight
  dsimp only
  rw [int_fuel]
  cases ArrayDataSlab_CanLendToRight.loop1 h s w m s.length (0, Int.ofNat s.length - 1) <;> rfl

/-- `ArrayDataSlab.CanLendToLeft(size)`: Go's wrap-around computation equals the model's for EVERY request size,
    provided the header size accounts for the elements (see `canLend_guard` for `size > header.size`). -/
theorem ArrayDataSlab_CanLendToLeft_eq_model (T : Nat) (s : DataSlab) (want : Nat)
    (hs : s.hdr.size < 2^32) (hT : minThr T < 2^32) (hw : want < 2^32)
    (hsum : sumSizes s.elems ≤ s.hdr.size) :
    ArrayDataSlab_CanLendToLeft (u32 s.hdr.size) (u32s (sizesOf s.elems)) (u32 want) (u32 (minThr T)) =
      s.canLendToLeft T want := by
  rw [ArrayDataSlab_CanLendToLeft_loopBool,
    arrCanLendLeft_loop (minThr T) s.hdr.size want hT hs hw (sizesOf s.elems) 0 0 (by rwa [Nat.zero_add]),
    canLend_guard (minThr T) s.hdr.size want (sizesOf s.elems) hs hT hsum, u32s_length, int_dlt_two,
    sizesOf_length, DataSlab.canLendToLeft, arr_canLendLoop_eq]
  simp only [decide_eq_true_eq]

/-- `ArrayDataSlab.CanLendToRight(size)`: as `CanLendToLeft`, scanning from the back -/
theorem ArrayDataSlab_CanLendToRight_eq_model (T : Nat) (s : DataSlab) (want : Nat)
    (hs : s.hdr.size < 2^32) (hT : minThr T < 2^32) (hw : want < 2^32)
    (hsum : sumSizes s.elems ≤ s.hdr.size) :
    ArrayDataSlab_CanLendToRight (u32 s.hdr.size) (u32s (sizesOf s.elems)) (u32 want) (u32 (minThr T)) =
      s.canLendToRight T want := by
  have hloop := arrCanLendRight_loop (minThr T) s.hdr.size want hT hs hw (sizesOf s.elems)
    (sizesOf s.elems).length (Nat.le_refl _) 0 (by rwa [List.take_length, Nat.zero_add])
  rw [List.take_length] at hloop
  rw [ArrayDataSlab_CanLendToRight_loopBool, u32s_length, hloop,
    canLend_guard (minThr T) s.hdr.size want (sizesOf s.elems).reverse hs hT (by rwa [List.sum_reverse]),
    int_dlt_two, sizesOf_length, DataSlab.canLendToRight, arr_canLendLoop_eq, sizesOf_reverse]
  simp only [decide_eq_true_eq]

/-- The first guard alone DOES differ: a request larger than the slab.  Go: 100 - 200 wraps to 2^32 - 100, which is
    not below minThreshold, so the guard does not fire; model: 100 - 200 = 0 < 512, the guard fires.  Both
    functions still return false (theorems above). -/
theorem ArrayDataSlab_CanLendToLeft_guard_differs_at :
    decide (u32 100 - u32 200 < u32 (minThr 1024)) = false ∧ decide (100 - 200 < minThr 1024) = true := by decide

/-- Without the hypothesis that the header size accounts for the elements the functions differ: a (corrupt) slab
    whose header says 600 bytes but holds two 400-byte elements.  Go: 600 - 800 wraps, the second element is
    "lendable"; model: 600 - 800 = 0 < minThreshold, not lendable.  `ArrInv` excludes such slabs
    (Props/TransSafe.lean). -/
theorem ArrayDataSlab_CanLendToLeft_differs_at :
    ArrayDataSlab_CanLendToLeft (u32 600) (u32s [400, 400]) (u32 700) (u32 (minThr 256)) = true ∧
    DataSlab.canLendToLeft 256
      { hdr := ⟨⟨1, 1⟩, 600, 2⟩, next := SlabID.undef, elems := [⟨400, .val 0⟩, ⟨400, .val 1⟩], root := false,
        inlined := false } 700 = false := by decide

/-- the machine arithmetic of `ArrayDataSlab.Split`, for any list of sizes and any result `p` of the model loop -/
theorem arrSplit_core (hsize : Nat) (sizes : List Nat) (hs : hsize < 2^32) (hlen : ¬ sizes.length < 2)
    (hpre : Gen.arrayDataSlabPrefixSize + sizes.sum ≤ hsize) (p : Nat × Nat)
    (hp : HkeyElems.splitLoop ((hsize - Gen.arrayDataSlabPrefixSize + 1) / 2) (hsize - Gen.arrayDataSlabPrefixSize)
      sizes 0 0 = p) :
    ArrayDataSlab_Split (u32 hsize) (u32s sizes) =
      some (Int.ofNat p.1, u32 p.2, u32 (Gen.arrayDataSlabPrefixSize + (hsize - Gen.arrayDataSlabPrefixSize) - p.2),
        u32 (Gen.arrayDataSlabPrefixSize + p.2), u32 p.1) := by
  have h21 : Gen.arrayDataSlabPrefixSize ≤ hsize := Nat.le_trans (Nat.le_add_right _ _) hpre
  have h0 : 0 < Gen.arrayDataSlabPrefixSize := by decide
  have hd : hsize - Gen.arrayDataSlabPrefixSize + 1 < 2^32 :=
    Nat.lt_of_le_of_lt (Nat.succ_le_of_lt (Nat.sub_lt (Nat.lt_of_lt_of_le h0 h21) h0)) hs
  have hS : sizes.sum ≤ hsize - Gen.arrayDataSlabPrefixSize := Nat.le_sub_of_add_le (Nat.add_comm _ _ ▸ hpre)
  have hfull : Gen.arrayDataSlabPrefixSize + (hsize - Gen.arrayDataSlabPrefixSize) < 2^32 := by
    rwa [Nat.add_sub_cancel' h21]
  have hb := splitLoop_bounds ((hsize - Gen.arrayDataSlabPrefixSize + 1) / 2) (hsize - Gen.arrayDataSlabPrefixSize)
    sizes 0 0
  have hloop : ArrayDataSlab_Split.loop1 _ _ _ 0 (0, 0) = _ :=
    arrSplit_loop ((hsize - Gen.arrayDataSlabPrefixSize + 1) / 2) (hsize - Gen.arrayDataSlabPrefixSize)
      (Nat.lt_of_succ_lt hd) (Nat.lt_of_le_of_lt (Nat.div_le_self _ _) hd) sizes 0 0 (by rwa [Nat.zero_add])
  rw [hp, Nat.zero_add] at hb
  rw [hp] at hloop
  have hb2 : p.2 ≤ hsize - Gen.arrayDataSlabPrefixSize := Nat.le_trans hb.1 hS
  unfold ArrayDataSlab_Split
  rw [u32s_length, int_dlt_two, ite_dec_neg hlen]
  dsimp only
  rw [← u32, u32_sub_eq h21, one_eq_u32, u32_add_eq, u32_half' hd, hloop]
  dsimp only
  rw [u32_add_eq, u32_sub_eq (Nat.le_trans hb2 (Nat.le_add_left _ _)),
    u32_add_eq, u32_ofInt]

/-- `ArrayDataSlab.Split`: the split point (`leftCount`, `leftSize`), the size of the new right slab and the new
    `header.size` / `header.count` of the left slab that Go computes with `uint32` arithmetic are the model's;
    `SlabSplitError` in the same case.  Needs: the header size covers prefix + elements. -/
theorem ArrayDataSlab_Split_eq_model (s : DataSlab) (c : Ctx) (hs : s.hdr.size < 2^32)
    (hpre : Gen.arrayDataSlabPrefixSize + sumSizes s.elems ≤ s.hdr.size) :
    ArrayDataSlab_Split (u32 s.hdr.size) (u32s (sizesOf s.elems)) =
      match s.split c with
      | .error _ => none
      | .ok (l, r, _) =>
        some (Int.ofNat l.hdr.count, u32 (l.hdr.size - Gen.arrayDataSlabPrefixSize), u32 r.hdr.size,
              u32 l.hdr.size, u32 l.hdr.count) := by
  by_cases hl : s.elems.length < 2
  · rw [DataSlab.split, if_pos hl, ArrayDataSlab_Split, u32s_length, sizesOf_length, int_dlt_two, ite_dec_pos hl]
  · rw [arrSplit_core s.hdr.size (sizesOf s.elems) hs (by rwa [sizesOf_length]) hpre _ rfl, DataSlab.split, if_neg hl]
    dsimp only
    rw [arr_splitLoop_eq, Nat.add_sub_cancel_left]

/-- non-vacuity: three elements of 100, 150 and 200 bytes split after the second -/
example : ArrayDataSlab_Split (u32 471) (u32s [100, 150, 200]) = some (2, 250, 221, 271, 2) := by decide

theorem arrLend_core (minT ls lc rs rc : Nat) (sizes : List Nat) (hT : minT < 2^32)
    (hsz : ls + rs + 1 < 2^32) (hsum : sizes.sum ≤ ls) (hlen : sizes.length ≤ lc)
    (p : Nat × Nat) (hp : HkeyElems.lendLoop minT (ls + rs) ((ls + rs + 1) / 2) sizes.reverse lc ls = p) :
    ArrayDataSlab_LendToRight (u32 ls) (u32 lc) (u32s sizes) (u32 rs) (u32 rc) (u32 minT) =
      some (u32 p.1, u32 p.2, u32 (lc - p.1), u32 p.2, u32 p.1, u32 (ls + rs - p.2), u32 (lc + rc - p.1)) := by
  have hs : ls + rs < 2^32 := Nat.lt_of_succ_lt hsz
  have hb := lendLoop_bounds minT (ls + rs) ((ls + rs + 1) / 2) sizes.reverse lc ls
  have hloop := arrLend_loop_any minT (ls + rs) ((ls + rs + 1) / 2) hT hs
    (Nat.lt_of_le_of_lt (Nat.div_le_self _ _) hsz) sizes sizes.length (Nat.le_refl _) lc ls hlen
    (by rwa [List.take_length]) (Nat.le_add_right _ _)
  rw [List.take_length] at hloop
  rw [hp] at hb hloop
  unfold ArrayDataSlab_LendToRight
  dsimp only
  rw [u32_add_eq, u32_add_eq, one_eq_u32, u32_add_eq, u32_half' hsz, u32s_length, int_fuel]
  generalize ArrayDataSlab_LendToRight.loop1 _ _ _ _ _ _ = res at hloop
  obtain ⟨a, b, c⟩ := res
  obtain ⟨rfl, rfl⟩ := hloop
  dsimp only
  rw [u32_sub_eq hb.1, u32_sub_eq (Nat.le_trans hb.2 (Nat.le_add_right _ _)),
    u32_sub_eq (Nat.le_trans hb.1 (Nat.le_add_right _ _))]

/-- `ArrayDataSlab.LendToRight`: `leftCount`, `leftSize`, `moveCount` and the new `header.size` / `header.count` of
    both slabs, computed in `uint32`, are the model's.  Needs: the two header sizes do not add up to 2^32 - 1, and
    the left header accounts for its elements.  `hct` is not used: the counts are only added and subtracted back,
    which `uint32` does modulo 2^32 as `u32` reads the model's numbers. -/
theorem ArrayDataSlab_LendToRight_eq_model (T : Nat) (l r : DataSlab) (hT : minThr T < 2^32)
    (hsz : l.hdr.size + r.hdr.size + 1 < 2^32) (hct : l.hdr.count + r.hdr.count < 2^32)
    (hsum : sumSizes l.elems ≤ l.hdr.size) (hlen : l.elems.length ≤ l.hdr.count) :
    ArrayDataSlab_LendToRight (u32 l.hdr.size) (u32 l.hdr.count) (u32s (sizesOf l.elems)) (u32 r.hdr.size)
        (u32 r.hdr.count) (u32 (minThr T)) =
      some (u32 (l.lendToRight T r).1.hdr.count, u32 (l.lendToRight T r).1.hdr.size,
            u32 (l.hdr.count - (l.lendToRight T r).1.hdr.count),
            u32 (l.lendToRight T r).1.hdr.size, u32 (l.lendToRight T r).1.hdr.count,
            u32 (l.lendToRight T r).2.hdr.size, u32 (l.lendToRight T r).2.hdr.count) := by
  rw [arrLend_core (minThr T) l.hdr.size l.hdr.count r.hdr.size r.hdr.count (sizesOf l.elems) hT hsz hsum
    (by rwa [sizesOf_length]) _ rfl, DataSlab.lendToRight, arr_lendLoop_eq, sizesOf_reverse]

theorem arrBorrow_core (minT ls lc rs rc : Nat) (sizes : List Nat) (hT : minT < 2^32)
    (hsz : ls + rs + 1 < 2^32) (hsum : sizes.sum ≤ rs) (hlen : sizes.length ≤ rc)
    (p : Nat × Nat) (hp : HkeyElems.borrowLoop minT (ls + rs) ((ls + rs + 1) / 2) sizes lc ls = p) :
    ArrayDataSlab_BorrowFromRight (u32 ls) (u32 lc) (u32 rs) (u32 rc) (u32s sizes) (u32 minT) =
      some (u32 p.1, u32 p.2, u32 (p.1 - lc), u32 p.2, u32 p.1, u32 (ls + rs - p.2), u32 (lc + rc - p.1)) := by
  have hs : ls + rs < 2^32 := Nat.lt_of_succ_lt hsz
  have hb := borrowLoop_bounds minT (ls + rs) ((ls + rs + 1) / 2) sizes lc ls
  have hloop := arrBorrow_loop_any minT (ls + rs) ((ls + rs + 1) / 2) hT hs
    (Nat.lt_of_le_of_lt (Nat.div_le_self _ _) hsz) sizes 0 lc ls (Nat.add_le_add_left hsum _)
  rw [hp] at hb hloop
  obtain ⟨h1, h2, -, h4⟩ := hb
  unfold ArrayDataSlab_BorrowFromRight
  dsimp only
  rw [u32_add_eq, u32_add_eq, one_eq_u32, u32_add_eq, u32_half' hsz, hloop]
  dsimp only
  rw [u32_sub_eq h1, u32_sub_eq (Nat.le_trans h4 (Nat.add_le_add_left hsum _)),
    u32_sub_eq (Nat.le_trans h2 (Nat.add_le_add_left hlen _))]

/-- `ArrayDataSlab.BorrowFromRight`, likewise.  Needs: the sizes do not add up to 2^32 - 1, the RIGHT header
    accounts for its elements; `hct` is not used. -/
theorem ArrayDataSlab_BorrowFromRight_eq_model (T : Nat) (l r : DataSlab) (hT : minThr T < 2^32)
    (hsz : l.hdr.size + r.hdr.size + 1 < 2^32) (hct : l.hdr.count + r.hdr.count < 2^32)
    (hsum : sumSizes r.elems ≤ r.hdr.size) (hlen : r.elems.length ≤ r.hdr.count) :
    ArrayDataSlab_BorrowFromRight (u32 l.hdr.size) (u32 l.hdr.count) (u32 r.hdr.size) (u32 r.hdr.count)
        (u32s (sizesOf r.elems)) (u32 (minThr T)) =
      some (u32 (l.borrowFromRight T r).1.hdr.count, u32 (l.borrowFromRight T r).1.hdr.size,
            u32 ((l.borrowFromRight T r).1.hdr.count - l.hdr.count),
            u32 (l.borrowFromRight T r).1.hdr.size, u32 (l.borrowFromRight T r).1.hdr.count,
            u32 (l.borrowFromRight T r).2.hdr.size, u32 (l.borrowFromRight T r).2.hdr.count) := by
  rw [arrBorrow_core (minThr T) l.hdr.size l.hdr.count r.hdr.size r.hdr.count (sizesOf r.elems) hT hsz hsum
    (by rwa [sizesOf_length]) _ rfl, DataSlab.borrowFromRight, arr_borrowLoop_eq]

/-- non-vacuity (T = 256): left slab 21 + 4·60 bytes, right slab 21 + 30: two 60-byte elements move (either way) -/
example : ArrayDataSlab_LendToRight (u32 261) (u32 4) (u32s [60, 60, 60, 60]) (u32 51) (u32 1) (u32 (minThr 256)) =
    some (2, 141, 2, 141, 2, 171, 3) := by rfl
example : ArrayDataSlab_BorrowFromRight (u32 51) (u32 1) (u32 261) (u32 4) (u32s [60, 60, 60, 60]) (u32 (minThr 256)) =
    some (3, 171, 2, 171, 3, 141, 2) := by rfl

def countsOf (l : List Hdr) : List Nat := l.map (·.count)

/-- `childSlabIndexInfo(index)`, partial (the `.ok` arm is conditional, a model error other than `indexOutOfBounds` claims
    nothing): Go (uint64 / uint32 / int arithmetic, linear scan below 32 children, binary search
    from 32 on) rejects the same indexes as the model and routes to the same child `k`; the adjusted index
    `index + count[k] - countSum[k]` is the same when that subtraction does not underflow (it wraps in Go and is
    truncated in the model otherwise; the invariant `countSum = prefix sums` excludes that, Props/TransSafe.lean).
    Where the model says "Go panics" (index past the end of `childrenHeaders`) nothing is claimed: the translation
    does not model panics. -/
theorem ArrayMetaDataSlab_childSlabIndexInfo_eq_model {α : Type} (m : MetaSlab α) (index : Nat)
    (hidx : index < 2^63) (hcnt : m.hdr.count < 2^32) (hcs : ∀ x ∈ m.countSum, x < 2^32)
    (hch : ∀ x ∈ countsOf m.childHdrs, x < 2^32) (hlen : m.countSum.length < 2^63) :
    match m.childSlabIndexInfo index with
    | .error .indexOutOfBounds =>
        ArrayMetaDataSlab_childSlabIndexInfo (u32 m.hdr.count) (u32s m.countSum) (u32s (countsOf m.childHdrs))
          (u64 index) = none
    | .ok (k, adj) =>
        m.countSum.getD k 0 ≤ index + (countsOf m.childHdrs).getD k 0 →
        ArrayMetaDataSlab_childSlabIndexInfo (u32 m.hdr.count) (u32s m.countSum) (u32s (countsOf m.childHdrs))
          (u64 index) = some (Int.ofNat k, u64 adj)
    | .error _ => True := by
  have hlen1 : (u32s m.countSum).length = m.countSum.length := by simp [u32s]
  have hi64 : index < 2^64 := Nat.lt_trans hidx (by decide)
  have hcnt64 : m.hdr.count < 2^64 := Nat.lt_trans hcnt (by decide)
  simp only [MetaSlab.childSlabIndexInfo]
  by_cases hge : index ≥ m.hdr.count
  · simp only [hge, if_true]
    simp only [ArrayMetaDataSlab_childSlabIndexInfo]
    rw [u32_toUInt64 hcnt, u64_dge hi64 hcnt64]
    simp [hge]
  · simp only [hge, if_false]
    -- the routing decision
    have hk : (if decide (Int.ofNat m.countSum.length < Int.ofNat Gen.linearScanThreshold) = true then
          ArrayMetaDataSlab_childSlabIndexInfo.loop1 (u64 index) (u32s m.countSum) 0 0
        else (ArrayMetaDataSlab_childSlabIndexInfo.loop2 (u32s m.countSum) (u64 index)
          (Int.ofNat m.countSum.length - 0).toNat (0, Int.ofNat m.countSum.length)).1) =
        Int.ofNat (if m.countSum.length < Gen.linearScanThreshold then MetaSlab.scanLinear index m.countSum 0
          else MetaSlab.scanBinary index m.countSum 0 m.countSum.length (m.countSum.length + 1)) := by
      rw [int_dlt]
      by_cases c : m.countSum.length < Gen.linearScanThreshold
      · simp only [c, decide_true, if_true]
        exact scanLinear_loop index hi64 m.countSum hcs 0
      · simp only [c, decide_false, if_false, Bool.false_eq_true]
        have e : (Int.ofNat m.countSum.length - 0).toNat = m.countSum.length := by simp
        rw [e, scanBinary_fuel index m.countSum 0 m.countSum.length (m.countSum.length + 1) m.countSum.length
          (by omega) (by omega)]
        exact scanBinary_loop index hi64 m.countSum hcs m.countSum.length 0 m.countSum.length (by omega) hlen
    generalize (if m.countSum.length < Gen.linearScanThreshold then MetaSlab.scanLinear index m.countSum 0
          else MetaSlab.scanBinary index m.countSum 0 m.countSum.length (m.countSum.length + 1)) = k at *
    cases h1 : m.childHdrs[k]? with
    | none => simp
    | some h =>
      cases h2 : m.countSum[k]? with
      | none => simp
      | some cs =>
        simp only
        intro hadj
        have e1 : (countsOf m.childHdrs).getD k 0 = h.count := by
          simp [countsOf, List.getD_eq_getElem?_getD, List.getElem?_map, h1]
        have e2 : m.countSum.getD k 0 = cs := by simp [List.getD_eq_getElem?_getD, h2]
        rw [e1, e2] at hadj
        have hc1 : h.count < 2^32 := by
          rw [← e1]; exact getD_lt_of_all _ _ (by decide) hch k
        have hc2 : cs < 2^32 := by rw [← e2]; exact getD_lt_of_all _ _ (by decide) hcs k
        simp only [ArrayMetaDataSlab_childSlabIndexInfo, hlen1]
        rw [u32_toUInt64 hcnt, u64_dge hi64 hcnt64]
        simp only [hge, decide_false, if_false, Bool.false_eq_true]
        have hk' : (if decide (Int.ofNat m.countSum.length < Int.ofNat Gen.linearScanThreshold) = true then
            ArrayMetaDataSlab_childSlabIndexInfo.loop1 (u64 index) (u32s m.countSum) 0 0
            else (ArrayMetaDataSlab_childSlabIndexInfo.loop2 (u32s m.countSum) (u64 index)
              (Int.ofNat m.countSum.length - 0).toNat (0, Int.ofNat m.countSum.length)).1) = Int.ofNat k := hk
        rw [hk']
        simp only [Int.ofNat_eq_natCast, Int.toNat_natCast, u32s_getD, e1, e2]
        have hsum : index + h.count < 2^64 := Nat.lt_of_lt_of_le (Nat.add_lt_add hidx hc1) (by decide)
        rw [u32_toUInt64 hc1, u32_toUInt64 hc2, u64_add_eq, u64_sub_eq hadj]

/-! ## hkeyElements (map_elements_hashkey.go) and MapDataSlab.CanLendToLeft / Right -/

/-- the `Size()` of the elements of a group (without the digests) -/
def rawSizes {α : Type} (o : ElemsOps α) (e : HkeyElems α) : List Nat := e.elems.map (fun el => el.size o)

theorem dg_rawSizes {α : Type} (o : ElemsOps α) (e : HkeyElems α) :
    e.elems.map (fun el => el.size o + Gen.digestSize) = dg (rawSizes o e) := by
  simp [dg, rawSizes, List.map_map]

theorem hkeyElements_CanLendToLeft_loopBool (e : UInt32) (s : List UInt32) (w m : UInt32) :
    hkeyElements_CanLendToLeft e s w m =
      if decide (Int.ofNat s.length = 0) then false else if decide (Int.ofNat s.length < 2) then false
      else if decide (e - w < m - UInt32.ofNat Gen.mapDataSlabPrefixSize) then false
      else loopBool (hkeyElements_CanLendToLeft.loop1 e w (m - UInt32.ofNat Gen.mapDataSlabPrefixSize) s 0 (u32 0)) := by
  unfold hkeyElements_CanLendToLeft
  dsimp only
  cases hkeyElements_CanLendToLeft.loop1 e w (m - UInt32.ofNat Gen.mapDataSlabPrefixSize) s 0 0 <;> rfl

theorem hkeyElements_CanLendToRight_loopBool (e : UInt32) (s : List UInt32) (w m : UInt32) :
    hkeyElements_CanLendToRight e s w m =
      if decide (Int.ofNat s.length = 0) then false else if decide (Int.ofNat s.length < 2) then false
      else if decide (e - w < m - UInt32.ofNat Gen.mapDataSlabPrefixSize) then false
      else loopBool (hkeyElements_CanLendToRight.loop1 e s w (m - UInt32.ofNat Gen.mapDataSlabPrefixSize) s.length
        (u32 0, Int.ofNat s.length - 1)) := by
  unfold hkeyElements_CanLendToRight
  dsimp only
  rw [int_fuel]
  cases hkeyElements_CanLendToRight.loop1 e s w (m - UInt32.ofNat Gen.mapDataSlabPrefixSize) s.length
    (0, Int.ofNat s.length - 1) <;> rfl

theorem hkey_canLend_core (left : Bool) (minT esize want : Nat) (raw : List Nat)
    (hs : esize < 2^32) (hT : minT < 2^32) (hT2 : Gen.mapDataSlabPrefixSize ≤ minT) (hw : want < 2^32)
    (hsum : (dg raw).sum ≤ esize) :
    (if left then hkeyElements_CanLendToLeft (u32 esize) (u32s raw) (u32 want) (u32 minT)
     else hkeyElements_CanLendToRight (u32 esize) (u32s raw) (u32 want) (u32 minT)) =
    (if raw.length < 2 then false
     else if esize - want < minT - Gen.mapDataSlabPrefixSize then false
     else HkeyElems.canLendLoop (minT - Gen.mapDataSlabPrefixSize) esize want
       (if left then dg raw else (dg raw).reverse) 0) := by
  have hm' : minT - Gen.mapDataSlabPrefixSize < 2^32 := Nat.lt_of_le_of_lt (Nat.sub_le _ _) hT
  have h0 : ∀ X : Bool, (if decide (raw.length = 0) then false else if decide (raw.length < 2) then false else X) =
      if raw.length < 2 then false else X := fun X => by
    by_cases hl : raw.length < 2
    · rw [ite_dec_pos hl, if_pos hl, ite_self]
    · rw [ite_dec_neg hl, if_neg hl, ite_dec_neg (fun h => hl (by omega))]
  cases left with
  | true =>
    rw [if_pos rfl, if_pos rfl, hkeyElements_CanLendToLeft_loopBool, u32_sub_eq hT2,
      hkeyCanLendLeft_loop _ esize want hm' hs hw raw 0 0 (by rwa [Nat.zero_add]),
      canLend_guard _ esize want (dg raw) hs hm' hsum, u32s_length, int_dlt_two, int_deq_zero, h0]
  | false =>
    have hloop := hkeyCanLendRight_loop (minT - Gen.mapDataSlabPrefixSize) esize want hm' hs hw raw raw.length
      (Nat.le_refl _) 0 (by rwa [← dg_length raw, List.take_length, Nat.zero_add])
    rw [← dg_length raw, List.take_length, dg_length] at hloop
    rw [if_neg Bool.false_ne_true, if_neg Bool.false_ne_true, hkeyElements_CanLendToRight_loopBool, u32_sub_eq hT2,
      u32s_length, hloop, canLend_guard _ esize want (dg raw).reverse hs hm' (by rwa [List.sum_reverse]),
      int_dlt_two, int_deq_zero, h0]

/-- `hkeyElements.CanLendToLeft(size)` = the model's `canLend … false`, for every request size; needs
    `mapDataSlabPrefixSize ≤ minThreshold` (true for every legal slab size) and that `e.size` accounts for the
    elements and their digests. -/
theorem hkeyElements_CanLendToLeft_eq_model {α : Type} (o : ElemsOps α) (T : Nat) (e : HkeyElems α) (want : Nat)
    (hs : e.size < 2^32) (hT : minThr T < 2^32) (hT2 : Gen.mapDataSlabPrefixSize ≤ minThr T) (hw : want < 2^32)
    (hsum : (dg (rawSizes o e)).sum ≤ e.size) :
    hkeyElements_CanLendToLeft (u32 e.size) (u32s (rawSizes o e)) (u32 want) (u32 (minThr T)) =
      HkeyElems.canLend o T e want false := by
  have h := hkey_canLend_core true (minThr T) e.size want (rawSizes o e) hs hT hT2 hw hsum
  simp only [if_true] at h
  rw [h]
  simp only [HkeyElems.canLend, dg_rawSizes, Bool.false_eq_true, if_false]
  have : (rawSizes o e).length = e.elems.length := by simp [rawSizes]
  rw [this]

theorem hkeyElements_CanLendToRight_eq_model {α : Type} (o : ElemsOps α) (T : Nat) (e : HkeyElems α) (want : Nat)
    (hs : e.size < 2^32) (hT : minThr T < 2^32) (hT2 : Gen.mapDataSlabPrefixSize ≤ minThr T) (hw : want < 2^32)
    (hsum : (dg (rawSizes o e)).sum ≤ e.size) :
    hkeyElements_CanLendToRight (u32 e.size) (u32s (rawSizes o e)) (u32 want) (u32 (minThr T)) =
      HkeyElems.canLend o T e want true := by
  have h := hkey_canLend_core false (minThr T) e.size want (rawSizes o e) hs hT hT2 hw hsum
  simp only [Bool.false_eq_true, if_false] at h
  rw [h]
  simp only [HkeyElems.canLend, dg_rawSizes, if_true]
  have : (rawSizes o e).length = e.elems.length := by simp [rawSizes]
  rw [this]

/-- `MapDataSlab.CanLendToLeft / CanLendToRight` of a size-limited data slab -/
theorem MapDataSlab_CanLendToLeft_eq_model {r : Nat} (T : Nat) (s : MDataSlab r) (want : Nat)
    (hs : s.elems.size < 2^32) (hT : minThr T < 2^32) (hT2 : Gen.mapDataSlabPrefixSize ≤ minThr T)
    (hw : want < 2^32) (hsum : (dg (rawSizes (MDataSlab.eops r) s.elems)).sum ≤ s.elems.size) :
    MapDataSlab_CanLendToLeft false (u32 s.elems.size) (u32s (rawSizes (MDataSlab.eops r) s.elems)) (u32 want)
        (u32 (minThr T)) = s.canLendToLeft T want := by
  simp only [MapDataSlab_CanLendToLeft, Bool.false_eq_true, if_false, MDataSlab.canLendToLeft]
  exact hkeyElements_CanLendToLeft_eq_model _ T s.elems want hs hT hT2 hw hsum

theorem MapDataSlab_CanLendToRight_eq_model {r : Nat} (T : Nat) (s : MDataSlab r) (want : Nat)
    (hs : s.elems.size < 2^32) (hT : minThr T < 2^32) (hT2 : Gen.mapDataSlabPrefixSize ≤ minThr T)
    (hw : want < 2^32) (hsum : (dg (rawSizes (MDataSlab.eops r) s.elems)).sum ≤ s.elems.size) :
    MapDataSlab_CanLendToRight false (u32 s.elems.size) (u32s (rawSizes (MDataSlab.eops r) s.elems)) (u32 want)
        (u32 (minThr T)) = s.canLendToRight T want := by
  simp only [MapDataSlab_CanLendToRight, Bool.false_eq_true, if_false, MDataSlab.canLendToRight]
  exact hkeyElements_CanLendToRight_eq_model _ T s.elems want hs hT hT2 hw hsum

/-! `splitPlan`, `lendPlan`, `borrowPlan`: the count and size at which the three `hkeyElements` loops stop (nothing to do with the
repair plan `Core.plan` of an index slab) -/
section plan
variable {α : Type} (o : ElemsOps α) (T : Nat)

theorem rawSizes_length (e : HkeyElems α) : (rawSizes o e).length = e.elems.length := List.length_map _

/-- `(leftCount, leftSize)` as the loop of `hkeyElements.Split` leaves them -/
def splitPlan (e : HkeyElems α) : Nat × Nat :=
  HkeyElems.splitLoop ((e.size - Gen.hkeyElementsPrefixSize + 1) / 2) (e.size - Gen.hkeyElementsPrefixSize)
    (dg (rawSizes o e)) 0 0

theorem split_eq_plan (e : HkeyElems α) :
    HkeyElems.split o e =
      ({ e with hkeys := e.hkeys.take (splitPlan o e).1, elems := e.elems.take (splitPlan o e).1,
                size := Gen.hkeyElementsPrefixSize + (splitPlan o e).2 },
       { level := e.level, hkeys := e.hkeys.drop (splitPlan o e).1, elems := e.elems.drop (splitPlan o e).1,
         size := e.size - Gen.hkeyElementsPrefixSize - (splitPlan o e).2 + Gen.hkeyElementsPrefixSize }) := by
  rw [HkeyElems.split, dg_rawSizes]; rfl

theorem splitPlan_bounds (e : HkeyElems α) (hpre : Gen.hkeyElementsPrefixSize + (dg (rawSizes o e)).sum ≤ e.size) :
    (splitPlan o e).1 ≤ e.elems.length ∧ (splitPlan o e).2 ≤ e.size - Gen.hkeyElementsPrefixSize := by
  have hb := splitLoop_bounds ((e.size - Gen.hkeyElementsPrefixSize + 1) / 2) (e.size - Gen.hkeyElementsPrefixSize)
    (dg (rawSizes o e)) 0 0
  simp only [dg_length, rawSizes_length, Nat.zero_add] at hb
  exact ⟨hb.2, Nat.le_trans hb.1 (by omega)⟩

/-- the smallest data size a group may be left with, the data size of two groups together (`Gen.…PrefixSize` kept as
    the generated code and the model write them) -/
def rebalMin : Nat := minThr T - Gen.mapDataSlabPrefixSize - Gen.hkeyElementsPrefixSize
def rebalSize (ls rs : Nat) : Nat := ls + rs - Gen.hkeyElementsPrefixSize * 2

def lendPlan (l r : HkeyElems α) : Nat × Nat :=
  HkeyElems.lendLoop (rebalMin T) (rebalSize l.size r.size) ((rebalSize l.size r.size + 1) / 2) (dg (rawSizes o l)).reverse l.elems.length
    (l.size - Gen.hkeyElementsPrefixSize)

def borrowPlan (l r : HkeyElems α) : Nat × Nat :=
  HkeyElems.borrowLoop (rebalMin T) (rebalSize l.size r.size) ((rebalSize l.size r.size + 1) / 2) (dg (rawSizes o r)) l.elems.length
    (l.size - Gen.hkeyElementsPrefixSize)

theorem lendToRight_of_level_ne (l r : HkeyElems α) (h : l.level ≠ r.level) :
    HkeyElems.lendToRight o T l r = .error .slabRebalance := by
  rw [HkeyElems.lendToRight, if_pos h]

theorem lendToRight_of_level_eq (l r : HkeyElems α) (h : l.level = r.level) :
    HkeyElems.lendToRight o T l r = .ok
      ({ l with hkeys := l.hkeys.take (lendPlan o T l r).1, elems := l.elems.take (lendPlan o T l r).1,
                size := Gen.hkeyElementsPrefixSize + (lendPlan o T l r).2 },
       { r with hkeys := l.hkeys.drop (lendPlan o T l r).1 ++ r.hkeys, elems := l.elems.drop (lendPlan o T l r).1 ++ r.elems,
                size := rebalSize l.size r.size - (lendPlan o T l r).2 + Gen.hkeyElementsPrefixSize }) := by
  rw [HkeyElems.lendToRight, if_neg (not_not_intro h), dg_rawSizes]; rfl

theorem borrowFromRight_of_level_ne (l r : HkeyElems α) (h : l.level ≠ r.level) :
    HkeyElems.borrowFromRight o T l r = .error .slabRebalance := by
  rw [HkeyElems.borrowFromRight, if_pos h]

theorem borrowFromRight_of_level_eq (l r : HkeyElems α) (h : l.level = r.level) :
    HkeyElems.borrowFromRight o T l r = .ok
      ({ l with hkeys := l.hkeys ++ r.hkeys.take ((borrowPlan o T l r).1 - l.elems.length),
                elems := l.elems ++ r.elems.take ((borrowPlan o T l r).1 - l.elems.length),
                size := (borrowPlan o T l r).2 + Gen.hkeyElementsPrefixSize },
       { r with hkeys := r.hkeys.drop ((borrowPlan o T l r).1 - l.elems.length),
                elems := r.elems.drop ((borrowPlan o T l r).1 - l.elems.length),
                size := rebalSize l.size r.size - (borrowPlan o T l r).2 + Gen.hkeyElementsPrefixSize }) := by
  rw [HkeyElems.borrowFromRight, if_neg (not_not_intro h), dg_rawSizes]; rfl

theorem lendPlan_bounds (l r : HkeyElems α) :
    (lendPlan o T l r).1 ≤ l.elems.length ∧ (lendPlan o T l r).2 ≤ l.size - Gen.hkeyElementsPrefixSize :=
  lendLoop_bounds _ _ _ _ _ _

theorem borrowPlan_bounds (l r : HkeyElems α) (hl8 : Gen.hkeyElementsPrefixSize ≤ l.size)
    (hpre : Gen.hkeyElementsPrefixSize + (dg (rawSizes o r)).sum ≤ r.size) :
    l.elems.length ≤ (borrowPlan o T l r).1 ∧ (borrowPlan o T l r).1 ≤ l.elems.length + r.elems.length ∧
    l.size - Gen.hkeyElementsPrefixSize ≤ (borrowPlan o T l r).2 ∧ (borrowPlan o T l r).2 ≤ rebalSize l.size r.size := by
  have hb := borrowLoop_bounds (rebalMin T) (rebalSize l.size r.size) ((rebalSize l.size r.size + 1) / 2) (dg (rawSizes o r)) l.elems.length
    (l.size - Gen.hkeyElementsPrefixSize)
  rw [dg_length, rawSizes_length] at hb
  exact ⟨hb.1, hb.2.1, hb.2.2.1, Nat.le_trans hb.2.2.2 (by unfold rebalSize; omega)⟩

/-- the machine arithmetic in front of the loops of `LendToRight` / `BorrowFromRight` does not wrap -/
theorem rebal_u32 {ls rs : Nat} (hT : minThr T < 2^32)
    (hT2 : Gen.mapDataSlabPrefixSize + Gen.hkeyElementsPrefixSize ≤ minThr T) (hsz : ls + rs < 2^32)
    (hl8 : Gen.hkeyElementsPrefixSize ≤ ls) (hr8 : Gen.hkeyElementsPrefixSize ≤ rs) :
    u32 (minThr T) - UInt32.ofNat Gen.mapDataSlabPrefixSize - UInt32.ofNat Gen.hkeyElementsPrefixSize
      = u32 (rebalMin T) ∧
    u32 ls + u32 rs - UInt32.ofNat (Gen.hkeyElementsPrefixSize * 2) = u32 (rebalSize ls rs) ∧
    (u32 (rebalSize ls rs) + 1) >>> 1 = u32 ((rebalSize ls rs + 1) / 2) ∧
    u32 ls - UInt32.ofNat Gen.hkeyElementsPrefixSize = u32 (ls - Gen.hkeyElementsPrefixSize) := by
  unfold rebalMin rebalSize
  simp only [Gen.mapDataSlabPrefixSize, Gen.hkeyElementsPrefixSize] at *
  refine ⟨?_, ?_, ?_, u32_sub_eq hl8⟩
  · rw [← u32, ← u32, u32_sub_eq (by omega), u32_sub_eq (by omega)]
  · rw [← u32, u32_add_eq, u32_sub_eq (by omega)]
  · rw [show (1 : UInt32) = u32 1 from rfl, u32_add_eq, u32_half' (by omega)]

theorem rebal_lt {ls rs : Nat} (hT : minThr T < 2^32) (hsz : ls + rs < 2^32)
    (hr8 : Gen.hkeyElementsPrefixSize ≤ rs) :
    rebalMin T < 2^32 ∧ rebalSize ls rs < 2^32 ∧ (rebalSize ls rs + 1) / 2 < 2^32 ∧
    ls - Gen.hkeyElementsPrefixSize ≤ rebalSize ls rs ∧ rebalSize ls rs + Gen.hkeyElementsPrefixSize < 2^32 := by
  unfold rebalMin rebalSize
  simp only [Gen.hkeyElementsPrefixSize] at *
  omega

/-- the two new sizes after any of the three loops: `size - leftSize + 8` and `8 + leftSize` -/
theorem hk_sizes_u32 {size p : Nat} (hp : p ≤ size) :
    u32 size - u32 p + UInt32.ofNat Gen.hkeyElementsPrefixSize = u32 (size - p + Gen.hkeyElementsPrefixSize) ∧
    UInt32.ofNat Gen.hkeyElementsPrefixSize + u32 p = u32 (Gen.hkeyElementsPrefixSize + p) ∧
    u32 p + UInt32.ofNat Gen.hkeyElementsPrefixSize = u32 (p + Gen.hkeyElementsPrefixSize) := by
  rw [← u32, u32_sub_eq hp, u32_add_eq, u32_add_eq, u32_add_eq]
  exact ⟨rfl, rfl, rfl⟩

end plan

/-- `hkeyElements.LendToRight`: the error return (`none`: Go's `SlabRebalanceError` around the hash-level error) exactly
    when the two levels differ, where the model returns `slabRebalance`; otherwise `leftCount`, `leftSize`,
    `moveCount` and the two new group sizes are the model's.  Needs: `mapDataSlabPrefixSize + hkeyElementsPrefixSize
    ≤ minThreshold`, both sizes ≥ the prefix and their sum below 2^32, the left size covers its elements. -/
theorem hkeyElements_LendToRight_eq_model {α : Type} (o : ElemsOps α) (T : Nat) (l r : HkeyElems α)
    (hT : minThr T < 2^32) (hT2 : Gen.mapDataSlabPrefixSize + Gen.hkeyElementsPrefixSize ≤ minThr T)
    (hlv : l.level < 2^64) (hrv : r.level < 2^64) (hsz : l.size + r.size < 2^32)
    (hr8 : Gen.hkeyElementsPrefixSize ≤ r.size)
    (hpre : Gen.hkeyElementsPrefixSize + (dg (rawSizes o l)).sum ≤ l.size) :
    match HkeyElems.lendToRight o T l r with
    | .error _ =>
        hkeyElements_LendToRight (u64 l.level) (u32 l.size) (u32s (rawSizes o l)) (u64 r.level) (u32 r.size)
          (u32 (minThr T)) = none
    | .ok (l', r') =>
        hkeyElements_LendToRight (u64 l.level) (u32 l.size) (u32s (rawSizes o l)) (u64 r.level) (u32 r.size)
          (u32 (minThr T)) =
        some (Int.ofNat l'.elems.length, u32 (l'.size - Gen.hkeyElementsPrefixSize),
              Int.ofNat (l.elems.length - l'.elems.length), u32 l'.size, u32 r'.size) := by
  unfold hkeyElements_LendToRight
  by_cases hlev : l.level = r.level
  · have hl8 : Gen.hkeyElementsPrefixSize ≤ l.size := Nat.le_trans (Nat.le_add_right _ _) hpre
    obtain ⟨eMin, eSize, eMid, eLeft⟩ := rebal_u32 T hT hT2 hsz hl8 hr8
    obtain ⟨hm, hs, hmid, hle, hs8⟩ := rebal_lt T (ls := l.size) hT hsz hr8
    obtain ⟨hb1, hb2⟩ := lendPlan_bounds o T l r
    obtain ⟨eR, eL, -⟩ := hk_sizes_u32 (Nat.le_trans hb2 hle)
    have hloop := hkeyLend_loop (rebalMin T) _ _ hm hs hmid (rawSizes o l) l.elems.length
      (Nat.le_of_eq (rawSizes_length o l).symm) l.elems.length (l.size - Gen.hkeyElementsPrefixSize) (Nat.le_refl _)
      (Nat.le_trans (HkeyElems.sum_take_le _ _) (by omega)) hle
    rw [← rawSizes_length, ← dg_length, List.take_length, dg_length, rawSizes_length] at hloop
    change _ = Int.ofNat (lendPlan o T l r).1 ∧ _ = u32 (lendPlan o T l r).2 at hloop
    rw [lendToRight_of_level_eq o T l r hlev, if_neg (by rw [u64_dne hlv hrv]; simpa using hlev)]
    dsimp only
    rw [eMin, eSize, eMid, eLeft, u32s_length, rawSizes_length,
      show (Int.ofNat l.elems.length - 1 + 1).toNat = l.elems.length by simp]
    generalize hkeyElements_LendToRight.loop1 _ _ _ _ _ _ = res at hloop
    obtain ⟨a, b, c⟩ := res
    obtain ⟨rfl, rfl⟩ := hloop
    dsimp only
    rw [eR, eL, List.length_take, Nat.min_eq_left hb1, Nat.add_sub_cancel_left, int_sub hb1]
  · rw [lendToRight_of_level_ne o T l r hlev, if_pos (by rw [u64_dne hlv hrv]; simpa using hlev)]

/-- `hkeyElements.BorrowFromRight`, likewise (the RIGHT size must cover its elements). -/
theorem hkeyElements_BorrowFromRight_eq_model {α : Type} (o : ElemsOps α) (T : Nat) (l r : HkeyElems α)
    (hT : minThr T < 2^32) (hT2 : Gen.mapDataSlabPrefixSize + Gen.hkeyElementsPrefixSize ≤ minThr T)
    (hlv : l.level < 2^64) (hrv : r.level < 2^64) (hsz : l.size + r.size < 2^32)
    (hl8 : Gen.hkeyElementsPrefixSize ≤ l.size)
    (hpre : Gen.hkeyElementsPrefixSize + (dg (rawSizes o r)).sum ≤ r.size) :
    match HkeyElems.borrowFromRight o T l r with
    | .error _ =>
        hkeyElements_BorrowFromRight (u64 l.level) (u32 l.size) (Int.ofNat l.elems.length) (u64 r.level) (u32 r.size)
          (u32s (rawSizes o r)) (u32 (minThr T)) = none
    | .ok (l', r') =>
        hkeyElements_BorrowFromRight (u64 l.level) (u32 l.size) (Int.ofNat l.elems.length) (u64 r.level) (u32 r.size)
          (u32s (rawSizes o r)) (u32 (minThr T)) =
        some (Int.ofNat l'.elems.length, u32 (l'.size - Gen.hkeyElementsPrefixSize),
              Int.ofNat (l'.elems.length - l.elems.length), u32 l'.size, u32 r'.size) := by
  unfold hkeyElements_BorrowFromRight
  by_cases hlev : l.level = r.level
  · have hr8 : Gen.hkeyElementsPrefixSize ≤ r.size := Nat.le_trans (Nat.le_add_right _ _) hpre
    obtain ⟨eMin, eSize, eMid, eLeft⟩ := rebal_u32 T hT hT2 hsz hl8 hr8
    obtain ⟨hm, hs, hmid, -, hs8⟩ := rebal_lt T (ls := l.size) hT hsz hr8
    obtain ⟨hb1, hb2, hb3, hb4⟩ := borrowPlan_bounds o T l r hl8 hpre
    obtain ⟨eR, -, eL⟩ := hk_sizes_u32 hb4
    have hloop := hkeyBorrow_loop (rebalMin T) _ _ hm hs hmid (rawSizes o r) 0 l.elems.length
      (l.size - Gen.hkeyElementsPrefixSize) (by unfold rebalSize; omega)
    change _ = (Int.ofNat (borrowPlan o T l r).1, u32 (borrowPlan o T l r).2) at hloop
    rw [borrowFromRight_of_level_eq o T l r hlev, if_neg (by rw [u64_dne hlv hrv]; simpa using hlev)]
    dsimp only
    rw [eMin, eSize, eMid, eLeft, hloop]
    dsimp only
    rw [eR, eL, List.length_append, List.length_take, Nat.min_eq_left (by omega), Nat.add_sub_cancel,
      Nat.add_sub_cancel_left, int_sub hb1, Nat.add_sub_cancel' hb1]
  · rw [borrowFromRight_of_level_ne o T l r hlev, if_pos (by rw [u64_dne hlv hrv]; simpa using hlev)]

/-- `hkeyElements.Split`: split point and the two new group sizes.  Needs: `e.size` covers prefix + elements. -/
theorem hkeyElements_Split_eq_model {α : Type} (o : ElemsOps α) (e : HkeyElems α) (hs : e.size < 2^32)
    (hpre : Gen.hkeyElementsPrefixSize + (dg (rawSizes o e)).sum ≤ e.size) :
    hkeyElements_Split (u32 e.size) (u32s (rawSizes o e)) =
      some (Int.ofNat (HkeyElems.split o e).1.elems.length,
            u32 ((HkeyElems.split o e).1.size - Gen.hkeyElementsPrefixSize),
            u32 (HkeyElems.split o e).2.size, u32 (HkeyElems.split o e).1.size) := by
  have h8 : Gen.hkeyElementsPrefixSize ≤ e.size := Nat.le_trans (Nat.le_add_right _ _) hpre
  have e8 : Gen.hkeyElementsPrefixSize = 8 := rfl
  obtain ⟨hb1, hb2⟩ := splitPlan_bounds o e hpre
  obtain ⟨eR, eL, -⟩ := hk_sizes_u32 hb2
  have hloop := hkeySplit_loop ((e.size - Gen.hkeyElementsPrefixSize + 1) / 2) (e.size - Gen.hkeyElementsPrefixSize)
    (by omega) (by omega) (rawSizes o e) 0 0 (by omega)
  change hkeyElements_Split.loop1 _ _ _ 0 (0, 0) = (u32 (splitPlan o e).2, Int.ofNat (splitPlan o e).1) at hloop
  unfold hkeyElements_Split
  dsimp only
  rw [← u32, u32_sub_eq h8, show (1 : UInt32) = u32 1 from rfl, u32_add_eq, u32_half' (by omega), hloop,
    split_eq_plan]
  dsimp only
  rw [eR, eL, List.length_take, Nat.min_eq_left hb1, Nat.add_sub_cancel_left]

end Atree.TransEq

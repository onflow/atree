import AtreeModel.Gen.TransMapDescent
/-
  Descent and top level of the maps: every whitelisted function of the descent unit of the object engine of
  harness/cmd/gotrans (`Gen/TransMapDescent.lean`) is translated (none fell back to `Untranslatable`), the whitelist is the
  one written out below, and no call site relies on the "dead after call" aliasing assumption.  The equivalence theorems of
  the single functions are in `Props/TransMapDescentGet.lean`, `...Set.lean`, `...Remove.lean`, `...Pop.lean`, those of the
  whole operations under the map invariant in `...Full.lean` (`OrderedMap.get / Has`), `...SetHeapFull.lean`
  (`Ob_OrderedMap_Set_heap_full`) and `...RemoveHeapFull.lean` (`Ob_OrderedMap_Remove_heap_full`).
-/
namespace Atree.TransEq
open Atree

/-- every whitelisted function of the map descent was translated -/
theorem all_translated_mapdescent : Gen.TransMapD.untranslatedFunctions = [] := rfl

/-- the whitelist itself (dropping a function from the tables of obj_descent.go is noticed) -/
theorem mapdescent_targets_pinned :
    Gen.TransMapD.translatedTargets =
      ["MapDataSlab_SlabID", "MapDataSlab_Header", "MapDataSlab_IsData", "MapDataSlab_IsFull", "MapDataSlab_IsUnderflow", "MapDataSlab_Inlined", "MapDataSlab_getPrefixSize", "MapMetaDataSlab_SlabID", "MapMetaDataSlab_Header", "MapMetaDataSlab_IsData", "MapMetaDataSlab_IsFull", "MapMetaDataSlab_IsUnderflow", "MapMetaDataSlab_Inlined", "MapSlab_SlabID", "MapSlab_Header", "MapSlab_IsData", "MapSlab_IsFull", "MapSlab_IsUnderflow", "MapSlab_Inlined", "storeSlab", "getMapSlab", "MapDataSlab_Get", "MapDataSlab_getElementAndNextKey", "MapDataSlab_Set", "MapDataSlab_Remove", "MapDataSlab_PopIterate", "MapMetaDataSlab_getChildSlabByDigest", "MapSlab_Get", "MapMetaDataSlab_Get", "MapSlab_getElementAndNextKey", "MapMetaDataSlab_getElementAndNextKey", "MapSlab_Set", "MapMetaDataSlab_Set", "MapSlab_Remove", "MapMetaDataSlab_Remove", "MapSlab_PopIterate", "MapMetaDataSlab_PopIterate", "OrderedMap_Count", "OrderedMap_Inlined", "OrderedMap_get", "OrderedMap_Has", "OrderedMap_Get", "OrderedMap_set", "OrderedMap_Set", "OrderedMap_remove", "OrderedMap_Remove", "OrderedMap_PopIterate"] := rfl

/-- no call site of the descent hands a slice to a helper that clears it without overwriting it -/
theorem mapdescent_deadAfterCall_pinned : Gen.TransMapD.deadAfterCall = [] := rfl

end Atree.TransEq

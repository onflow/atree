import AtreeProofs.Props.TransMapDescentFull
import AtreeProofs.Props.TransElemClosedInvS
/-
  From the closed element layer to the map descent: the closed unit-B environment `clEnvB cfg retr (r+1)` satisfies
  `ElemsSpec` (`Trans/MapDescent.lean`) on the elements of data slabs that satisfy the map element invariant and the range
  conditions of the closed theorems (`clEnvB_elemsSpec`).  Hence, without any `ElemsSpec` / environment hypothesis, the
  generated `OrderedMap.get / Has` over a heap that holds the map's tree, with the closed element layer, equal the model's
  `OMap.get / has` under `MapInv` (`Ob_OrderedMap_Get_heap_full_closed`, `Ob_OrderedMap_Has_heap_full_closed`).
  The reads only use `elements.Get`: `Ob_MapSlab_Get_heap_g`, `Ob_OrderedMap_get_heap_g`, `Ob_OrderedMap_Has_heap_g` of
  `Props/TransMapDescentGet.lean` ask for the `get` field of `ElemsSpec` only, so the closed read theorems need no
  hypothesis about `Set` / `Remove` results.
-/
namespace Atree.TransEq
open Atree Atree.Gen.TransMapD

section bridge
variable {r : Nat} (cfg : MCfg) (k : MKey) (v : Elem) (retr : mcl_Retrs DX) (D : DigestFn (r + 1))

/-- what the closed READS need of the elements of a data slab: the map element invariant, digests in `uint64` range and
    fewer than 2^62 entries per (nested) table, and a storage that returns the slabs of its external groups -/
structure mcl_PLeafG (T : Nat) (g : DG r) : Prop where
  inv : ElemsInv T (r + 1) D (r + 1) 0 [] g
  fitG : mcl_FitG (r + 1) g
  ret : ∀ c, mcl_RetrOk retr c (r + 1) g

/-- what ALL closed operations need: additionally the range conditions of `Set` and `Remove` (argument and model results)
    in every storage state -/
structure mcl_PLeaf (g : DG r) : Prop extends mcl_PLeafG retr D cfg.T g where
  fitS : ∀ c, mcl_FitS cfg k v (r + 1) g 0 c
  fitR : ∀ c, mcl_FitR cfg k (r + 1) g 0 c

variable (hr : cfg.L = r + 1) (hL : cfg.L < 2^64) (hT : cfg.T < 2^32) (hTe : maxInlineMapElem cfg.T < 2^32)
  (hcl : cfg.climit < 2^32) (hkd : ∀ lvl, k.dig lvl < 2^64)
include hr hL hT hTe hcl hkd

theorem clEnvB_elemsSpec_get (T : Nat) (g : DG r) (c : Ctx) (hP : mcl_PLeafG retr D T g) :
    (clEnvB cfg retr (r + 1)).elements_Get g c k (u64 0) (u64 (k.dig 0)) (.key k) =
      mei_rGet c (HkeyElems.get (MElems.ops r) cfg g 0 k) :=
  (clEnvB_ok cfg k default retr hL hT hTe hcl (r + 1)).gGet g c 0 (by decide)
    (mcl_QG_of_inv k retr T (r + 1) D hkd (hr ▸ hL) c (r + 1) 0 [] g hP.inv hP.fitG (fun _ => hP.ret c))

/-- the closed unit-B environment satisfies the element-layer specification of the map descent -/
theorem clEnvB_elemsSpec (hLT : legalThreshold cfg.T = true) :
    ElemsSpec cfg k v (mcl_PLeaf cfg k v retr D) (clEnvB cfg retr (r + 1)) where
  size := fun g => (clEnvB_ok cfg k v retr hL hT hTe hcl (r + 1)).gSize g
  first := fun g => (clEnvB_ok cfg k v retr hL hT hTe hcl (r + 1)).gFirst g
  get := fun g c hP => clEnvB_elemsSpec_get cfg k retr D hr hL hT hTe hcl hkd cfg.T g c hP.tomcl_PLeafG
  set := fun g c hP =>
    (clEnvB_ok cfg k v retr hL hT hTe hcl (r + 1)).gSet g c 0 () (by decide)
      (mcl_QS_of_inv cfg k v retr cfg.T (r + 1) D hLT ⟨rfl, hr⟩ hkd (hr ▸ hL) c (r + 1) 0 [] g hP.inv (hP.fitS c) hP.fitG
        (fun _ => hP.ret c))
  remove := fun g c hP =>
    (clEnvB_ok cfg k v retr hL hT hTe hcl (r + 1)).gRemove g c 0 (by decide)
      (mcl_QR_of_inv cfg k retr cfg.T (r + 1) D hkd (hr ▸ hL) c (r + 1) 0 [] g hP.inv (hP.fitR c) (fun _ => hP.ret c))

omit hr hL hT hTe hcl hkd in
theorem mcl_leaves_inv (T : Nat) : ∀ (d : Nat) (top : Bool) (t : MTree r d), MTreeInv T D d top t →
    ∀ sl ∈ MTree.leaves d t, ElemsInv T (r + 1) D (r + 1) 0 [] sl.elems := by
  intro d
  induction d with
  | zero =>
    intro top (s : MDataSlab r) (hinv : MDataInv T D top s) sl hsl
    have : sl = s := List.mem_singleton.1 hsl
    subst this
    exact hinv.elems_inv
  | succ d ih =>
    intro top (m : MMetaSlab (MTree r d)) hinv sl hsl
    obtain ⟨_, _, _, _, hc, _⟩ := hinv
    obtain ⟨child, hmem, hsl'⟩ := List.mem_flatMap.1 (show sl ∈ m.children.flatMap (MTree.leaves d) from hsl)
    exact ih false child (hc child hmem) sl hsl'

/-- **`OrderedMap.get` with the CLOSED element layer** under the map invariant, every depth: no `ElemsSpec`, no environment
    hypothesis.  Hypotheses: `MapInv`, the two range facts about index slabs (`MHdrsFit`), "the heap holds the tree",
    digests in `uint64` range / fewer than 2^62 entries per table in every leaf (`mcl_FitG`), the storage returns the slabs
    of the external collision groups (`mcl_RetrOk`), `uint` ranges of the configuration and of the key's digests. -/
theorem Ob_OrderedMap_Get_heap_full_closed (T : Nat) (rs : DRestruct r) (m : OMap r) (s : MHSt r) (depth : Nat)
    (hd : m.d ≤ depth) (hinv : MapInv T D m) (hfit : MHdrsFit m.d m.root)
    (hh : MHolds s.heap m.d m.root (some (md_extra m)))
    (hfitG : ∀ sl ∈ MTree.leaves m.d m.root, mcl_FitG (r + 1) sl.elems)
    (hret : ∀ sl ∈ MTree.leaves m.d m.root, ∀ c, mcl_RetrOk retr c (r + 1) sl.elems) :
    OrderedMap_get (envD T (clEnvB cfg retr (r + 1)) rs) depth (md_map m s) (.key k) =
      some (md_rMapGet m s (m.get cfg k)) :=
  Ob_OrderedMap_get_heap_g T (clEnvB cfg retr (r + 1)) rs cfg k (mcl_PLeafG retr D T)
    (fun g c hP => clEnvB_elemsSpec_get cfg k retr D hr hL hT hTe hcl hkd T g c hP) (hkd 0) m s depth hd hh
    (MRouteOk.of_inv T D m.d true m.root hinv.tree hfit)
    (fun sl hsl => ⟨mcl_leaves_inv D T m.d true m.root hinv.tree sl hsl, hfitG sl hsl, hret sl hsl⟩)

/-- **`OrderedMap.Has` with the CLOSED element layer** under the map invariant -/
theorem Ob_OrderedMap_Has_heap_full_closed (T : Nat) (rs : DRestruct r) (m : OMap r) (s : MHSt r) (depth : Nat)
    (hd : m.d ≤ depth) (hinv : MapInv T D m) (hfit : MHdrsFit m.d m.root)
    (hh : MHolds s.heap m.d m.root (some (md_extra m)))
    (hfitG : ∀ sl ∈ MTree.leaves m.d m.root, mcl_FitG (r + 1) sl.elems)
    (hret : ∀ sl ∈ MTree.leaves m.d m.root, ∀ c, mcl_RetrOk retr c (r + 1) sl.elems) :
    OrderedMap_Has (envD T (clEnvB cfg retr (r + 1)) rs) depth (md_map m s) (.key k) =
      some (match m.has cfg k with
        | .ok b => (b, none, md_map m s)
        | .error e => (false, some e, md_map m s)) :=
  Ob_OrderedMap_Has_heap_g T (clEnvB cfg retr (r + 1)) rs cfg k (mcl_PLeafG retr D T)
    (fun g c hP => clEnvB_elemsSpec_get cfg k retr D hr hL hT hTe hcl hkd T g c hP) (hkd 0) m s depth hd hh
    (MRouteOk.of_inv T D m.d true m.root hinv.tree hfit)
    (fun sl hsl => ⟨mcl_leaves_inv D T m.d true m.root hinv.tree sl hsl, hfitG sl hsl, hret sl hsl⟩)

end bridge
end Atree.TransEq

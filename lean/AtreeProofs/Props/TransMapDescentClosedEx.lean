import AtreeProofs.Props.TransMapDescentClosed
import AtreeProofs.Props.TransElemClosedEx
/-
  Non-vacuity of the closed read theorems: the example map of `Iter/MapExample.lean` (`map3`: `MapInv` holds, one root data
  slab whose first element is an inline collision group) over the heap that holds exactly its tree meets every hypothesis
  of `Ob_OrderedMap_Get_heap_full_closed` / `Ob_OrderedMap_Has_heap_full_closed`.
-/
namespace Atree.TransEq.MclEx
open Atree Atree.TransEq Atree.IterExample Atree.Gen.TransMapD

def retrD : mcl_Retrs DX := fun _ c _ => (.nil, false, none, c)

def rsEx : DRestruct 1 where
  splitChild := fun m s c _ => (some .slabSplit, m, s, c)
  mergeOrRebalance := fun m s c _ _ => (some .slabMerge, m, s, c)
  splitRoot := fun M => (some .slabSplit, M)
  promote := fun M _ => (some .slabSplit, M)

def sEx : MHSt 1 := { heap := md_heapOf map3.d map3.root (some (md_extra map3)), ctx := c0 }

theorem holdsEx : MHolds sEx.heap map3.d map3.root (some (md_extra map3)) := by
  show (if rootSlab.hdr.id = rootSlab.hdr.id then some (MapSlab.dataSlab (md_data rootSlab (some (md_extra map3)))) else none) = _
  rw [if_pos rfl]
  rfl

theorem leavesEx (sl : MDataSlab 1) (h : sl ∈ MTree.leaves map3.d map3.root) : sl = rootSlab :=
  List.mem_singleton.1 h

theorem retrOkD (c : Ctx) : mcl_RetrOk retrD c 2 rootElems := by
  intro id sz s h
  simp [rootElems] at h

/-- the closed `OrderedMap.get` theorem applies to the example (key 12 of the collision group) -/
example : OrderedMap_get (envD T0 (clEnvB cfg retrD 2) rsEx) 0 (md_map map3 sEx) (.key (k 12)) =
    some (md_rMapGet map3 sEx (map3.get cfg (k 12))) :=
  Ob_OrderedMap_Get_heap_full_closed cfg (k 12) retrD D rfl (by decide) (by decide) (by decide) (by decide)
    (kdig 12 (by decide)) T0 rsEx map3 sEx 0 (Nat.le_refl _) map3_inv trivial holdsEx
    (fun sl h => by rw [leavesEx sl h]; exact fitG)
    (fun sl h c => by rw [leavesEx sl h]; exact retrOkD c)

/-- ... and so does the closed `OrderedMap.Has` theorem -/
example : OrderedMap_Has (envD T0 (clEnvB cfg retrD 2) rsEx) 0 (md_map map3 sEx) (.key (k 12)) =
    some (match map3.has cfg (k 12) with
      | .ok b => (b, none, md_map map3 sEx)
      | .error e => (false, some e, md_map map3 sEx)) :=
  Ob_OrderedMap_Has_heap_full_closed cfg (k 12) retrD D rfl (by decide) (by decide) (by decide) (by decide)
    (kdig 12 (by decide)) T0 rsEx map3 sEx 0 (Nat.le_refl _) map3_inv trivial holdsEx
    (fun sl h => by rw [leavesEx sl h]; exact fitG)
    (fun sl h c => by rw [leavesEx sl h]; exact retrOkD c)

end Atree.TransEq.MclEx

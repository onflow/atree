import AtreeProofs.Props.TransMapDescentGet
/-
  The reads under the map invariant `MapInv` (C05 for maps): the generated `OrderedMap.get / Has` over a heap that holds the
  map's tree return what the model's `OMap.get / has` return on the embedded tree, for every depth.  Hypotheses: the
  invariant, "the heap holds the tree", two `uint64` / `int` range facts about MODEL values (first keys are 64-bit digests,
  fewer than 2^62 children per index slab), and `ElemsSpec` for the element layer (discharged by the `EnvB` witnesses,
  `ElemsSpec.of_EnvB`, and by the closed element layer, `Props/TransMapDescentClosed.lean`).
-/
namespace Atree.TransEq
open Atree Atree.Gen.TransMapD

section
variable {r : Nat}

/-- the two range facts about model values the reads need at every index slab -/
def MHdrsFit : (d : Nat) → MTree r d → Prop
  | 0, _ => True
  | d + 1, (m : MMetaSlab (MTree r d)) => mdg_HdrsOk m.childHdrs ∧ ∀ c ∈ m.children, MHdrsFit d c

theorem MRouteOk.of_inv (T : Nat) (D : DigestFn (r + 1)) :
    ∀ (d : Nat) (top : Bool) (t : MTree r d), MTreeInv T D d top t → MHdrsFit d t → MRouteOk d t := by
  intro d
  induction d with
  | zero => intro _ _ _ _; trivial
  | succ d ih =>
    intro top (m : MMetaSlab (MTree r d)) hinv hfit
    obtain ⟨_, hch, _, _, hc, _⟩ := hinv
    exact ⟨hch, hfit.1, fun c hcm => ih false c (hc c hcm) (hfit.2 c hcm)⟩

/-- `OrderedMap.get` under the map invariant, every depth, no hypothesis about the descent's generated code -/
theorem Ob_OrderedMap_Get_heap_full (T : Nat) (eb : DEnvB r) (rs : DRestruct r) (D : DigestFn (r + 1)) (cfg : MCfg)
    (k : MKey) (v : Elem) (P : DG r → Prop) (hE : ElemsSpec cfg k v P eb) (hk : k.dig 0 < 2^64)
    (m : OMap r) (s : MHSt r) (depth : Nat) (hd : m.d ≤ depth) (hinv : MapInv T D m)
    (hfit : MHdrsFit m.d m.root) (hh : MHolds s.heap m.d m.root (some (md_extra m)))
    (hP : ∀ sl ∈ MTree.leaves m.d m.root, P sl.elems) :
    OrderedMap_get (envD T eb rs) depth (md_map m s) (.key k) = some (md_rMapGet m s (m.get cfg k)) :=
  Ob_OrderedMap_get_heap T eb rs cfg k v P hE hk m s depth hd hh (MRouteOk.of_inv T D m.d true m.root hinv.tree hfit) hP

/-- `OrderedMap.Has` under the map invariant -/
theorem Ob_OrderedMap_Has_heap_full (T : Nat) (eb : DEnvB r) (rs : DRestruct r) (D : DigestFn (r + 1)) (cfg : MCfg)
    (k : MKey) (v : Elem) (P : DG r → Prop) (hE : ElemsSpec cfg k v P eb) (hk : k.dig 0 < 2^64)
    (m : OMap r) (s : MHSt r) (depth : Nat) (hd : m.d ≤ depth) (hinv : MapInv T D m)
    (hfit : MHdrsFit m.d m.root) (hh : MHolds s.heap m.d m.root (some (md_extra m)))
    (hP : ∀ sl ∈ MTree.leaves m.d m.root, P sl.elems) :
    OrderedMap_Has (envD T eb rs) depth (md_map m s) (.key k) =
      some (match m.has cfg k with
        | .ok b => (b, none, md_map m s)
        | .error e => (false, some e, md_map m s)) :=
  Ob_OrderedMap_Has_heap T eb rs cfg k v P hE hk m s depth hd hh (MRouteOk.of_inv T D m.d true m.root hinv.tree hfit) hP

end
end Atree.TransEq

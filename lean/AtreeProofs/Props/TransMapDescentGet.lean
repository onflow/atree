import AtreeProofs.Trans.MapDescent
/-
  Reads of the map descent: the generated `MapMetaDataSlab.getChildSlabByDigest / Get`, `MapSlab.Get` (dispatch),
  `OrderedMap.get / Has` of `AtreeModel/Gen/TransMapDescent.lean`, run over a HEAP of slabs (`envD`: `getMapSlab`
  reads what `Store` wrote), equal the model's `MTree.get` / `OMap.get / has` on EMBEDDED trees, for every depth.
  No hypothesis about generated code except the `get` field of `ElemsSpec` (the element layer `eb` is the model's on the
  elements of the data slabs that satisfy `P`), which the `EnvB` witnesses and the closed element layer discharge.
-/
namespace Atree.TransEq
open Atree Atree.Gen.TransMapD

section
variable {r : Nat} (T : Nat) (eb : DEnvB r) (rs : DRestruct r)

/-- `Ans`: Go's `ans` (-1 = no child) for the model's `Option Nat` -/
def mdg_ans : Option Nat → Int
  | none => -1
  | some n => Int.ofNat n

/-- well-formedness of the header table of an index slab: first keys are `uint64` values, fewer than 2^62 children -/
structure mdg_HdrsOk (hdrs : List MHdr) : Prop where
  key : ∀ h ∈ hdrs, h.firstKey < 2^64
  short : hdrs.length < 2^62

/-- the binary search of `getChildSlabByDigest` computes the model's `findChild` and never runs out of fuel -/
theorem mdg_loop {α : Type} (m : MMetaSlab α) (x : Option DX) (hok : mdg_HdrsOk m.childHdrs) (hk : Nat) (hhk : hk < 2^64) :
    ∀ (fuel i j : Nat) (a : Option Nat), i ≤ j → j ≤ m.childHdrs.length → j - i < fuel →
      ∃ i' j' : Int, MapMetaDataSlab_getChildSlabByDigest.loop1 (envD T eb rs) (md_meta m x) (u64 hk) fuel (mdg_ans a)
          (Int.ofNat i) (Int.ofNat j) =
        .done (mdg_ans (MMetaSlab.findChild m.childHdrs hk i j a fuel), i', j') := by
  intro fuel i j a hij hj hf
  obtain ⟨i', j', e⟩ := md_bsearch_findChild m.childHdrs hk hhk hok.key hok.short mdg_ans (fun _ => rfl) fuel i j a hij hj hf
  exact ⟨i', j', by rw [md_getChild_loop1_eq]; exact congrArg md_loopOf e⟩

/-- `getMapSlab` of an identifier the heap does not hold: `SlabNotFoundError` -/
theorem mdg_getMapSlab_none (s : MHSt r) (id : SlabID) (h : s.heap id = none) :
    getMapSlab (envD T eb rs) s id = (.nil, some .slabNotFound, s) :=
  getMapSlab_envD_none T eb rs s id h

/-- the result of `getChildSlabByDigest` on an index slab whose children the heap holds -/
theorem Ob_getChildSlabByDigest_heap {d : Nat} (m : MMetaSlab (MTree r d)) (x : Option DX) (s : MHSt r)
    (hok : mdg_HdrsOk m.childHdrs) (hk : Nat) (hhk : hk < 2^64) (w : SW)
    (hch : m.childHdrs = m.children.map (MTree.hdr d)) (hh : MHoldsChildren s.heap m) :
    MapMetaDataSlab_getChildSlabByDigest (envD T eb rs) (md_meta m x) s (u64 hk) w =
      match MMetaSlab.findChild m.childHdrs hk 0 m.childHdrs.length none (m.childHdrs.length + 1) with
      | none => some (.nil, 0, some .keyNotFound, s)
      | some i =>
        match m.children[i]? with
        | none => none
        | some child => some (md_tree d child none, Int.ofNat i, none, s) := by
  unfold MapMetaDataSlab_getChildSlabByDigest
  have hlen : (md_meta m x).childrenHeaders.length = m.childHdrs.length := by simp [md_meta]
  have e1 : ((Int.ofNat m.childHdrs.length) - (0 : Int) + 1).toNat = m.childHdrs.length + 1 := by
    simp only [Int.ofNat_eq_natCast]; omega
  obtain ⟨i', j', hl⟩ := mdg_loop T eb rs m x hok hk hhk (m.childHdrs.length + 1) 0 m.childHdrs.length none
    (by omega) (by omega) (by omega)
  simp only [hlen, e1]
  have hl' : MapMetaDataSlab_getChildSlabByDigest.loop1 (envD T eb rs) (md_meta m x) (u64 hk) (m.childHdrs.length + 1)
      (-1 : Int) (0 : Int) (Int.ofNat m.childHdrs.length) = _ := hl
  rw [hl']
  rcases hf : MMetaSlab.findChild m.childHdrs hk 0 m.childHdrs.length none (m.childHdrs.length + 1) with _ | i
  · simp [mdg_ans]
  · have hne : ¬ (Int.ofNat i = (-1 : Int)) := by
      simp only [Int.ofNat_eq_natCast]; omega
    simp only [mdg_ans, hne, decide_false, Bool.false_eq_true, if_false]
    by_cases hi : i < m.children.length
    · have hi' : i < m.childHdrs.length := by rw [hch]; simpa using hi
      have hget : m.children[i]? = some m.children[i] := List.getElem?_eq_getElem hi
      rw [show goIdx (md_meta m x).childrenHeaders (Int.ofNat i) = _ from md_goIdx_hdrs m.childHdrs i hi', hget]
      have hhd : m.childHdrs.getD i default = MTree.hdr d m.children[i] := by
        simp [hch, List.getD, hi]
      have hheld := (hh _ (List.getElem_mem hi)).root
      simp only [hhd, md_hdr]
      rw [getMapSlab_envD_some T eb rs s _ _ hheld (md_tree_isNil _ _ _)]
      simp
    · have hi' : ¬ i < m.childHdrs.length := by rw [hch]; simpa using hi
      have hget : m.children[i]? = none := List.getElem?_eq_none (by omega)
      rw [hget]
      have : goIdx (md_meta m x).childrenHeaders (Int.ofNat i) = none := by
        show (if Int.ofNat i < 0 then none else ((m.childHdrs.map md_hdr))[(Int.ofNat i).toNat]?) = none
        have h0 : ¬ (Int.ofNat i < 0) := Int.not_lt.mpr (Int.natCast_nonneg i)
        rw [if_neg h0]
        simp only [Int.toNat_natCast, Int.ofNat_eq_natCast]
        exact List.getElem?_eq_none (by simp; omega)
      rw [this]

theorem md_tree_succ {d : Nat} (m : MMetaSlab (MTree r d)) (x : Option DX) :
    md_tree (d + 1) (m : MTree r (d + 1)) x = .metaSlab (md_meta m x) := rfl

theorem md_tree_zero (sl : MDataSlab r) (x : Option DX) : md_tree 0 (sl : MTree r 0) x = .dataSlab (md_data sl x) := rfl

/-- the dispatcher on an index slab calls the recursive implementation it was handed -/
theorem MapSlab_Get_meta {G V W X D B S ε : Type} (env : Env G V W X D B S ε)
    (rec_ : MapMetaDataSlab X → S → D → UInt64 → UInt64 → W → Option (Option V × Option V × Option ε × S))
    (o : MapMetaDataSlab X) (a1 : S) (a2 : D) (a3 a4 : UInt64) (a6 : W) :
    MapSlab_Get env rec_ (.metaSlab o) a1 a2 a3 a4 a6 =
      match rec_ o a1 a2 a3 a4 a6 with
      | none => none
      | some r_ => some (r_.1, r_.2.1, r_.2.2.1, r_.2.2.2) := rfl

/-- routing invariant the reads need below an index slab (part of `MTreeInv`): header table = headers of the children,
    well-formed header tables, at every level -/
def MRouteOk : (d : Nat) → MTree r d → Prop
  | 0, _ => True
  | d + 1, (m : MMetaSlab (MTree r d)) =>
    m.childHdrs = m.children.map (MTree.hdr d) ∧ mdg_HdrsOk m.childHdrs ∧ ∀ c ∈ m.children, MRouteOk d c

/-- result of a `Get` over the heap: the Go results of the model's result, the storage unchanged -/
def md_rGet (s : MHSt r) : Except MErr (MKey × Elem) → Option SV × Option SV × Option GE × MHSt r
  | .ok (k, v) => (some (.key k), some (.val v), none, s)
  | .error err => (none, none, some err, s)

/-- `MapSlab.Get` (dispatch; `MapMetaDataSlab.Get` by recursion on the depth) over a heap that holds the tree = the
    model's `MTree.get` on the embedded tree, for EVERY depth `d ≤ depth`; the storage is unchanged. -/
theorem Ob_MapSlab_Get_heap_g (cfg : MCfg) (k : MKey) (P : DG r → Prop)
    (hG : ∀ g c, P g → eb.elements_Get g c k (u64 0) (u64 (k.dig 0)) (.key k) =
      mei_rGet c (HkeyElems.get (MElems.ops r) cfg g 0 k))
    (hk : k.dig 0 < 2^64) :
    ∀ (d depth : Nat) (t : MTree r d) (x : Option DX) (s : MHSt r), d ≤ depth → MHolds s.heap d t x → MRouteOk d t →
      (∀ sl ∈ MTree.leaves d t, P sl.elems) →
      MapSlab_Get (envD T eb rs) (MapMetaDataSlab_Get (envD T eb rs) depth) (md_tree d t x) s k (u64 0) (u64 (k.dig 0)) (.key k) =
        some (md_rGet s (MTree.get cfg d t k)) := by
  intro d
  induction d with
  | zero =>
    intro depth t x s _ _ _ hP
    have hp : P (t : MDataSlab r).elems := hP t (by
      show (t : MDataSlab r) ∈ [(t : MDataSlab r)]
      exact List.mem_singleton.2 rfl)
    show some _ = _
    simp only [MapDataSlab_Get, md_data, envD_elemGet, hG _ s.ctx hp, MTree.get, MDataSlab.get, MDataSlab.eops]
    rcases HkeyElems.get (MElems.ops r) cfg (t : MDataSlab r).elems 0 k with e | ⟨k', v'⟩ <;> simp [mei_rGet, md_rGet]
  | succ d ih =>
    intro depth (m : MMetaSlab (MTree r d)) x s hd hh hr hP
    obtain ⟨depth, rfl⟩ : ∃ n, depth = n + 1 := ⟨depth - 1, by omega⟩
    obtain ⟨hch, hok, hrc⟩ := hr
    rw [md_tree_succ, MapSlab_Get_meta]
    simp only [MapMetaDataSlab_Get]
    rw [Ob_getChildSlabByDigest_heap T eb rs m x s hok (k.dig 0) hk (.key k) hch hh.2]
    simp only [MTree.get]
    rcases hf : MMetaSlab.findChild m.childHdrs (k.dig 0) 0 m.childHdrs.length none (m.childHdrs.length + 1) with _ | i
    · simp [md_rGet]
    · obtain ⟨child, hc⟩ := md_route_child hch hf
      have hmem : child ∈ m.children := List.mem_of_getElem? hc
      simp only [hc, Option.isNone_none, Bool.not_true, Bool.false_eq_true, if_false]
      rw [ih depth child none s (by omega) (hh.2 child hmem) (hrc child hmem)
        (fun sl hsl => hP sl (by
          show sl ∈ m.children.flatMap (MTree.leaves d)
          exact List.mem_flatMap.2 ⟨child, hmem, hsl⟩))]

theorem Ob_MapSlab_Get_heap (cfg : MCfg) (k : MKey) (v : Elem) (P : DG r → Prop) (hE : ElemsSpec cfg k v P eb)
    (hk : k.dig 0 < 2^64) :
    ∀ (d depth : Nat) (t : MTree r d) (x : Option DX) (s : MHSt r), d ≤ depth → MHolds s.heap d t x → MRouteOk d t →
      (∀ sl ∈ MTree.leaves d t, P sl.elems) →
      MapSlab_Get (envD T eb rs) (MapMetaDataSlab_Get (envD T eb rs) depth) (md_tree d t x) s k (u64 0) (u64 (k.dig 0)) (.key k) =
        some (md_rGet s (MTree.get cfg d t k)) :=
  Ob_MapSlab_Get_heap_g T eb rs cfg k P hE.get hk

def md_rMapGet (m : OMap r) (s : MHSt r) : Except MErr (MKey × Elem) → Option SV × Option SV × Option GE × DMap r
  | .ok (k, v) => (some (.key k), some (.val v), none, md_map m s)
  | .error err => (none, none, some err, md_map m s)

/-- `OrderedMap.get` (digester from the builder, digest of level 0, `root.Get`) over a heap that holds the map's tree
    = the model's `OMap.get`; handle and storage unchanged.  Every depth. -/
theorem Ob_OrderedMap_get_heap_g (cfg : MCfg) (k : MKey) (P : DG r → Prop)
    (hG : ∀ g c, P g → eb.elements_Get g c k (u64 0) (u64 (k.dig 0)) (.key k) =
      mei_rGet c (HkeyElems.get (MElems.ops r) cfg g 0 k))
    (hk : k.dig 0 < 2^64) (m : OMap r) (s : MHSt r) (depth : Nat) (hd : m.d ≤ depth)
    (hh : MHolds s.heap m.d m.root (some (md_extra m))) (hr : MRouteOk m.d m.root)
    (hP : ∀ sl ∈ MTree.leaves m.d m.root, P sl.elems) :
    OrderedMap_get (envD T eb rs) depth (md_map m s) (.key k) = some (md_rMapGet m s (m.get cfg k)) := by
  unfold OrderedMap_get
  simp only [md_map, envD_builder, envD_dig, Option.isNone_none, Bool.not_true, Bool.false_eq_true, if_false]
  have e0 : (0 : UInt64).toNat = 0 := rfl
  rw [e0]
  have := Ob_MapSlab_Get_heap_g T eb rs cfg k P hG hk m.d depth m.root (some (md_extra m)) s hd hh hr hP
  have e1 : (0 : UInt64) = u64 0 := rfl
  rw [e1, this]
  simp only [OMap.get]
  rcases MTree.get cfg m.d m.root k with e | ⟨k', v'⟩ <;> rfl

theorem Ob_OrderedMap_get_heap (cfg : MCfg) (k : MKey) (v : Elem) (P : DG r → Prop) (hE : ElemsSpec cfg k v P eb)
    (hk : k.dig 0 < 2^64) (m : OMap r) (s : MHSt r) (depth : Nat) (hd : m.d ≤ depth)
    (hh : MHolds s.heap m.d m.root (some (md_extra m))) (hr : MRouteOk m.d m.root)
    (hP : ∀ sl ∈ MTree.leaves m.d m.root, P sl.elems) :
    OrderedMap_get (envD T eb rs) depth (md_map m s) (.key k) = some (md_rMapGet m s (m.get cfg k)) :=
  Ob_OrderedMap_get_heap_g T eb rs cfg k P hE.get hk m s depth hd hh hr hP

/-- `OrderedMap.Has` over the heap = the model's `OMap.has` (`KeyNotFoundError` is turned into `false`, every other error
    is passed on) -/
theorem Ob_OrderedMap_Has_heap_g (cfg : MCfg) (k : MKey) (P : DG r → Prop)
    (hG : ∀ g c, P g → eb.elements_Get g c k (u64 0) (u64 (k.dig 0)) (.key k) =
      mei_rGet c (HkeyElems.get (MElems.ops r) cfg g 0 k))
    (hk : k.dig 0 < 2^64) (m : OMap r) (s : MHSt r) (depth : Nat) (hd : m.d ≤ depth)
    (hh : MHolds s.heap m.d m.root (some (md_extra m))) (hr : MRouteOk m.d m.root)
    (hP : ∀ sl ∈ MTree.leaves m.d m.root, P sl.elems) :
    OrderedMap_Has (envD T eb rs) depth (md_map m s) (.key k) =
      some (match m.has cfg k with
        | .ok b => (b, none, md_map m s)
        | .error e => (false, some e, md_map m s)) := by
  unfold OrderedMap_Has
  rw [Ob_OrderedMap_get_heap_g T eb rs cfg k P hG hk m s depth hd hh hr hP]
  simp only [OMap.has]
  rcases hg : m.get cfg k with e | ⟨k', v'⟩
  · cases e <;> simp [md_rMapGet]
  · simp [md_rMapGet]

theorem Ob_OrderedMap_Has_heap (cfg : MCfg) (k : MKey) (v : Elem) (P : DG r → Prop) (hE : ElemsSpec cfg k v P eb)
    (hk : k.dig 0 < 2^64) (m : OMap r) (s : MHSt r) (depth : Nat) (hd : m.d ≤ depth)
    (hh : MHolds s.heap m.d m.root (some (md_extra m))) (hr : MRouteOk m.d m.root)
    (hP : ∀ sl ∈ MTree.leaves m.d m.root, P sl.elems) :
    OrderedMap_Has (envD T eb rs) depth (md_map m s) (.key k) =
      some (match m.has cfg k with
        | .ok b => (b, none, md_map m s)
        | .error e => (false, some e, md_map m s)) :=
  Ob_OrderedMap_Has_heap_g T eb rs cfg k P hE.get hk m s depth hd hh hr hP

end
end Atree.TransEq

import AtreeProofs.Props.TransMapDescentFull
/-
  The heap a model tree occupies (`md_heapOf`, Trans/MapDescent.lean) HOLDS that tree when its identifiers are pairwise
  distinct, so the read theorems can be stated on `md_heapOf` itself, without any hypothesis about the storage (as
  `Sl_Array_Get_heapOf` for arrays).
-/
namespace Atree.TransEq
open Atree Atree.Gen.TransMapD

section
variable {r : Nat}

/-- outside the identifiers of the tree its heap is empty -/
theorem md_heapOf_none : ∀ (d : Nat) (t : MTree r d) (x : Option DX) (id : SlabID), id ∉ md_ids d t → md_heapOf d t x id = none
  | 0, (s : MDataSlab r), x, id, h => by
    have : id ≠ s.hdr.id := fun e => h (by rw [e]; exact List.mem_singleton.2 rfl)
    simp [md_heapOf, this]
  | d + 1, (m : MMetaSlab (MTree r d)), x, id, h => by
    have h : id ∉ m.hdr.id :: m.children.flatMap (md_ids d) := h
    simp only [List.mem_cons, List.mem_flatMap, not_or, not_exists, not_and] at h
    simp only [md_heapOf, h.1, if_false]
    rw [List.findSome?_eq_none_iff]
    intro c hc
    exact md_heapOf_none d c none id (h.2 c hc)

theorem mdh_findSome? {d : Nat} (cs : List (MTree r d)) (hnd : (cs.flatMap (md_ids d)).Nodup)
    (c : MTree r d) (hc : c ∈ cs) (id : SlabID) (hid : id ∈ md_ids d c) :
    cs.findSome? (fun c' => md_heapOf d c' none id) = md_heapOf d c none id := by
  induction cs with
  | nil => cases hc
  | cons y ys ih =>
    rw [List.flatMap_cons, List.nodup_append] at hnd
    obtain ⟨_, hys, hdis⟩ := hnd
    rw [List.findSome?_cons]
    by_cases hy : id ∈ md_ids d y
    · have hnot : ∀ c' ∈ ys, id ∉ md_ids d c' := fun c' hc' hin =>
        hdis id hy id (List.mem_flatMap.2 ⟨c', hc', hin⟩) rfl
      have hcy : c = y := by
        rcases List.mem_cons.1 hc with e | e
        · exact e
        · exact absurd hid (hnot c e)
      subst hcy
      cases hh : md_heapOf d c none id with
      | some v => rfl
      | none =>
        simp only
        rw [List.findSome?_eq_none_iff]
        intro c' hc'
        exact md_heapOf_none d c' none id (hnot c' hc')
    · rw [md_heapOf_none d y none id hy]
      have hcy : c ∈ ys := by
        rcases List.mem_cons.1 hc with e | e
        · subst e; exact absurd hid hy
        · exact e
      exact ih hys hcy

theorem MHolds_md_heapOf : ∀ (d : Nat) (t : MTree r d) (x : Option DX), (md_ids d t).Nodup → MHolds (md_heapOf d t x) d t x
  | 0, (s : MDataSlab r), x, _ => by simp [MHolds, md_heapOf]
  | d + 1, (m : MMetaSlab (MTree r d)), x, hnd => by
    have hnd : (m.hdr.id :: m.children.flatMap (md_ids d)).Nodup := hnd
    rw [List.nodup_cons] at hnd
    obtain ⟨hroot, hkids⟩ := hnd
    refine ⟨by simp [md_heapOf], fun c hc => ?_⟩
    have hcn : (md_ids d c).Nodup := by
      obtain ⟨A, B, hAB⟩ := List.append_of_mem hc
      rw [hAB, List.flatMap_append, List.flatMap_cons] at hkids
      exact (List.nodup_append.1 (List.nodup_append.1 hkids).2.1).1
    refine (MHolds_md_heapOf d c none hcn).congr (fun id hid => ?_)
    have hne : id ≠ m.hdr.id := fun e => hroot (by rw [← e]; exact List.mem_flatMap.2 ⟨c, hc, hid⟩)
    simp only [md_heapOf, hne, if_false]
    exact mdh_findSome? m.children hkids c hc id hid

/-- **`OrderedMap.get` on the heap of a valid map** (no hypothesis about the storage): the heap is `md_heapOf` of the map's
    tree, any `Ctx` -/
theorem Ob_OrderedMap_Get_heapOf (T : Nat) (eb : DEnvB r) (rs : DRestruct r) (D : DigestFn (r + 1)) (cfg : MCfg)
    (k : MKey) (v : Elem) (P : DG r → Prop) (hE : ElemsSpec cfg k v P eb) (hk : k.dig 0 < 2^64)
    (m : OMap r) (c : Ctx) (depth : Nat) (hd : m.d ≤ depth) (hinv : MapInv T D m)
    (hfit : MHdrsFit m.d m.root) (hnd : (md_ids m.d m.root).Nodup)
    (hP : ∀ sl ∈ MTree.leaves m.d m.root, P sl.elems) :
    OrderedMap_get (envD T eb rs) depth (md_map m ⟨md_heapOf m.d m.root (some (md_extra m)), c, []⟩) (.key k) =
      some (md_rMapGet m ⟨md_heapOf m.d m.root (some (md_extra m)), c, []⟩ (m.get cfg k)) :=
  Ob_OrderedMap_Get_heap_full T eb rs D cfg k v P hE hk m _ depth hd hinv hfit
    (MHolds_md_heapOf m.d m.root (some (md_extra m)) hnd) hP

end
end Atree.TransEq

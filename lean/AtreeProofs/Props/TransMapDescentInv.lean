import AtreeProofs.Props.TransMapSlabsTree
import AtreeProofs.Props.TransMapSlabsSafe
import AtreeProofs.Trans.MapRestruct
import AtreeProofs.Map.TreeInv2
import AtreeProofs.Map.TreeOps
/-
  The invariant the tail predicates (`MSplitTail / MMorTail` of `TransMapDescentSetFull.lean`, `MRootTail` of
  `TransMapDescentTopSetFull.lean`) are instantiated with, shared by the modules that discharge the tails for
  `rs := rsOf T` (`TransMapDescentTail*.lean`) and by the assembly (`TransMapDescentSetFinal.lean`).

  `MQ T D d t`: the subtree `t` is what the descent hands to / gets back from the restructuring calls - the LOOSE tree
  invariant of `Map/TreeInv2.lean` (`SInv .. false`: every slab below the subtree root is a valid non-root slab, the
  subtree root has exact size bookkeeping but may be over- / under-full), the subtree root is at most one entry / header
  over the band (`slack`), and every first-level digest is a `uint64` value (the model's digests are unbounded naturals;
  `ElemsInv` does not bound them).
-/
namespace Atree.TransEq
open Atree

def MQ {r : Nat} (T : Nat) (D : DigestFn (r + 1)) (d : Nat) (t : MTree r d) : Prop :=
  SInv T D d false t ∧ (MTree.hdr d t).size ≤ maxThr T + slack T d ∧ ∀ x ∈ MTree.digests0 d t, x < 2^64

theorem MQ.sinv {r T : Nat} {D : DigestFn (r + 1)} {d : Nat} {t : MTree r d} (h : MQ T D d t) : SInv T D d false t := h.1
theorem MQ.size_le {r T : Nat} {D : DigestFn (r + 1)} {d : Nat} {t : MTree r d} (h : MQ T D d t) :
    (MTree.hdr d t).size ≤ maxThr T + slack T d := h.2.1
theorem MQ.dig {r T : Nat} {D : DigestFn (r + 1)} {d : Nat} {t : MTree r d} (h : MQ T D d t) :
    ∀ x ∈ MTree.digests0 d t, x < 2^64 := h.2.2

section work
variable {r T : Nat} {D : DigestFn (r + 1)}

/-- the working state of a data slab from the loose invariant, root or not; `hle`: its elements are at most one entry
    over the band -/
theorem MDataWork.of_loose (hT : legalThreshold T = true) {top : Bool} {s : MDataSlab r} (hs : MDataLoose T D top s)
    (hle : s.elems.size ≤ maxThr T + maxEntry T) : MDataWork T s := by
  have hei := hs.elems_inv
  simp only [ElemsInv] at hei
  have hfit := msafe_elem_fits hT
  refine ⟨hei.2.2.1, hei.2.2.2.2.1, by rw [hei.2.1]; decide, ?_⟩
  simp only [maxEntry] at hle hfit
  omega

/-- What the `uint` arithmetic of the generated restructuring code needs of ONE subtree root: a data slab is in the working
    state `MDataWork` (Props/TransMapSlabsSafe.lean) with its `uint` fields in range, an index slab has exact size
    bookkeeping (`MMetaWork`) and at least one child; the header size is a `uint32`.  Every hypothesis of the slab-level theorems
    (`msl_SplitOK`, `msl_MergeOK`, `msl_LendOK`, `msl_BorrowOK`, `mr_RootFit`) follows from it. -/
def MTreeWork (T : Nat) : (d : Nat) → MTree r d → Prop
  | 0, (s : MDataSlab r) => MDataWork T s ∧ mr_HFit s.elems ∧ s.hdr.size < 2^32
  | d + 1, (m : MMetaSlab (MTree r d)) =>
    MMetaWork m ∧ 1 ≤ m.childHdrs.length ∧ m.hdr.size < 2^32

theorem MTreeWork.of_data (hT : legalThreshold T = true) {top : Bool} {s : MDataSlab r} (hs : MDataLoose T D top s)
    (hle : s.elems.size ≤ maxThr T + maxEntry T) (hdig : ∀ x ∈ s.elems.hkeys, x < 2^64) :
    MTreeWork (r := r) T 0 s := by
  have hw := MDataWork.of_loose hT hs hle
  have h1 := (msafe_work_fits hT hw).1
  have hsz := hs.size_eq
  have hp : s.prefixSize ≤ 18 := by
    simp only [MDataSlab.prefixSize, Gen.inlinedMapDataSlabPrefixSize, Gen.mapRootDataSlabPrefixSize,
      Gen.mapDataSlabPrefixSize]
    split
    · decide
    · split <;> decide
  exact ⟨hw, ⟨by omega, hw.level_lt, hdig⟩, by omega⟩

theorem MTreeWork.of_meta {top : Bool} {d : Nat} {m : MMetaSlab (MTree r d)} (hs : SInv T D (d + 1) top m)
    (hlt : m.hdr.size < 2^32) : MTreeWork (r := r) T (d + 1) m := by
  obtain ⟨hl, h1⟩ := hs
  have hlen : m.childHdrs.length = m.children.length := by rw [hl.2.1, List.length_map]
  exact ⟨by rw [MMetaWork, hlen]; exact hl.2.2.1, by rw [hlen]; exact h1, hlt⟩

theorem MQ.work (hT : legalThreshold T = true) : ∀ {d : Nat} {t : MTree r d}, MQ T D d t → MTreeWork T d t
  | 0, (s : MDataSlab r), h => by
    have hl : MDataLoose T D false s := h.sinv
    have hb : s.hdr.size ≤ maxThr T + slack T 0 := h.size_le
    simp only [slack] at hb
    have hse := hl.size_eq
    rw [hl.prefix_nontop] at hse
    simp only [Gen.mapDataSlabPrefixSize] at hse
    exact MTreeWork.of_data hT hl (by omega) h.dig
  | d + 1, (m : MMetaSlab (MTree r d)), h => by
    have hb : m.hdr.size ≤ maxThr T + slack T (d + 1) := h.size_le
    simp only [slack, Gen.mapSlabHeaderSize] at hb
    have := thresholds_fit hT
    exact MTreeWork.of_meta h.sinv (by omega)

theorem MTreeWork.size_lt : ∀ {d : Nat} {t : MTree r d}, MTreeWork T d t → (MTree.hdr d t).size < 2^32
  | 0, _, h => h.2.2
  | _ + 1, _, h => h.2.2

theorem MTreeWork.rootFit : ∀ {d : Nat} {t : MTree r d}, MTreeWork T d t → mr_RootFit d t
  | 0, _, h => h.2.1
  | _ + 1, _, _ => trivial

theorem MTreeWork.splitOK (hT : legalThreshold T = true) : ∀ {d : Nat} {t : MTree r d}, MTreeWork T d t → msl_SplitOK d t
  | 0, (s : MDataSlab r), h => by
    have hf := msafe_work_fits hT h.1
    have hl := h.1.hkeys_len
    exact ⟨by omega, by simp only [Gen.mapDataSlabPrefixSize]; omega, hf.2.2.2, by omega⟩
  | _ + 1, (m : MMetaSlab _), h => msafe_meta_hcov (m := m) h.1

/-- a valid non-root slab whose first-level digests are `uint64` values is in the `uint` ranges of the way back -/
theorem mr_RootFit_of_inv (hT : legalThreshold T = true) (d : Nat) (t : MTree r d) (hi : MTreeInv T D d false t)
    (hd : ∀ x ∈ MTree.digests0 d t, x < 2^64) : mr_RootFit d t :=
  have h := (mtreeInv_false_iff hT d t).mp hi
  (MQ.work hT ⟨h.1, Nat.le_trans h.2.2 (Nat.le_add_right _ _), hd⟩).rootFit

end work

end Atree.TransEq

import AtreeProofs.Props.TransMapDescentInv
import AtreeProofs.Map.TreeSet
/-
  The invariant of the root for the root tail predicate.  `MQ T D d t` (TransMapDescentInv.lean) contains
  `SInv T D d false t`, whose `root_eq` says the slab is NOT a root: it can never hold of `m.root`.  The root tails
  (`rs.promote`, `rs.splitRoot`) therefore get their own handle-level predicate `QR : OMap r → Prop` (`mds_RootPreR`,
  `MRootTailR` of TransMapDescentTopSetFull.lean), instantiated with `MQR`.
-/
namespace Atree.TransEq
open Atree Atree.Gen.TransMapD

section
variable {r : Nat}

/-- the LOOSE ROOT invariant: what `MTree.set_spec` (top := true) gives for the root of a map satisfying `MapInv`, and
    what promotion / root split / doing nothing preserve: structural invariant of a root, not inlined, at most one entry /
    header over the band, first-level digests are `uint64` values -/
def MQR (T : Nat) (D : DigestFn (r + 1)) (m : OMap r) : Prop :=
  SInv T D m.d true m.root ∧ treeInl m.d m.root = false ∧ (MTree.hdr m.d m.root).size ≤ maxThr T + slack T m.d ∧
    ∀ x ∈ MTree.digests0 m.d m.root, x < 2^64

end

end Atree.TransEq

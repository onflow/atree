import AtreeProofs.Props.TransMapDescentSet
import AtreeProofs.Props.TransMapDescentRemove
/-
  One level, and the whole descent, of a KEYED operation of the map descent over the heap.  `MapMetaDataSlab.Set` and
  `MapMetaDataSlab.Remove` (map_metadata_slab.go) are the same function around the call on the child: find the child by the
  key's digest, read it from the storage, call it, write its header back, then split it if it is full, merge / rebalance
  it if it underflows, else store the receiver.  The model has the same shape (`MTree.set` / `MTree.remove`: route, the
  operation on the child, `MMetaSlab.afterChild`).  `MdOp` names what the two share, `md_level` relates one level of the
  generated code to one level of the model for any such operation, any condition on the outcome and any answer of the
  restructuring calls (`MdTailOk`), and `md_descent` is the induction over the depth for a state invariant `Inv` (way
  down) and a post-condition `Post` (way up).  `md_opSet`, `md_opRemove` are the two operations.
-/
namespace Atree.TransEq
open Atree Atree.Gen.TransMapD

section tree
variable {r : Nat}

theorem mdr_hdrOf_md_tree (d : Nat) (t : MTree r d) (x : Option DX) : mdr_hdrOf (md_tree d t x) = md_hdr (MTree.hdr d t) := by
  cases d <;> rfl

theorem md_isFull_data (T : Nat) (eb : DEnvB r) (rs : DRestruct r) (sl : MDataSlab r) (x : Option DX)
    (hs : sl.hdr.size < 2^32) (hmax : maxThr T < 2^32) :
    MapSlab_IsFull (envD T eb rs) (.dataSlab (md_data sl x)) = some (sl.isFull T) := by
  simp only [MapSlab_IsFull, MapDataSlab_IsFull, md_data, md_hdr, envD_maxThr, Bool.false_eq_true, if_false,
    MDataSlab.isFull]
  simp only [gt_iff_lt, u32_lt hmax hs]

theorem md_isFull_meta {α : Type} (T : Nat) (eb : DEnvB r) (rs : DRestruct r) (m : MMetaSlab α) (x : Option DX)
    (hs : m.hdr.size < 2^32) (hmax : maxThr T < 2^32) :
    MapSlab_IsFull (envD T eb rs) (.metaSlab (md_meta m x)) = some (m.isFull T) := by
  simp only [MapSlab_IsFull, MapMetaDataSlab_IsFull, md_meta, md_hdr, envD_maxThr, MMetaSlab.isFull]
  simp only [gt_iff_lt, u32_lt hmax hs]

theorem mdr_isFull_md_tree (T : Nat) (eb : DEnvB r) (rs : DRestruct r) (d : Nat) (t : MTree r d) (x : Option DX)
    (hs : (MTree.hdr d t).size < 2^32) (hmax : maxThr T < 2^32) :
    MapSlab_IsFull (envD T eb rs) (md_tree d t x) = some (MTree.isFull T d t) := by
  cases d with
  | zero => exact md_isFull_data T eb rs t x hs hmax
  | succ d => exact md_isFull_meta T eb rs t x hs hmax

/-- `MapSlab.IsUnderflow` of a subtree root is the model's `isUnderflow`, as the pair the generated code returns -/
theorem md_isUnderflow_tree (T : Nat) (eb : DEnvB r) (rs : DRestruct r) (d : Nat) (t : MTree r d) (x : Option DX)
    (hs : (MTree.hdr d t).size < 2^32) (hmin : minThr T < 2^32) :
    MapSlab_IsUnderflow (envD T eb rs) (md_tree d t x) =
      some (match MTree.isUnderflow T d t with | some u => (u32 u, true) | none => (0, false)) := by
  have key : ∀ size : Nat, size < 2^32 →
      (if decide (u32 (minThr T) > u32 size) = true then (u32 (minThr T) - u32 size, true) else ((0 : UInt32), false)) =
        (match (if minThr T > size then some (minThr T - size) else none) with
          | some u => (u32 u, true) | none => ((0 : UInt32), false)) := by
    intro size hsz
    by_cases hn : size < minThr T
    · simp only [gt_iff_lt, u32_lt hsz hmin, hn, decide_true, if_true, u32_sub_eq (Nat.le_of_lt hn)]
    · simp only [gt_iff_lt, u32_lt hsz hmin, hn, decide_false, Bool.false_eq_true, if_false]
  cases d with
  | zero =>
    simp only [md_tree, MapSlab_IsUnderflow, MapDataSlab_IsUnderflow, md_data, md_hdr, envD_minThr, MTree.isUnderflow,
      MDataSlab.isUnderflow, Bool.false_eq_true, if_false]
    exact congrArg (fun p : UInt32 × Bool => some (p.1, p.2)) (key (MDataSlab.hdr t).size hs)
  | succ d =>
    simp only [md_tree, MapSlab_IsUnderflow, MapMetaDataSlab_IsUnderflow, md_meta, md_hdr, envD_minThr, MTree.isUnderflow,
      MMetaSlab.isUnderflow]
    exact congrArg (fun p : UInt32 × Bool => some (p.1, p.2)) (key (MMetaSlab.hdr t).size hs)

theorem mdr_isUnderflow_md_tree (T : Nat) (eb : DEnvB r) (rs : DRestruct r) (d : Nat) (t : MTree r d) (x : Option DX)
    (hs : (MTree.hdr d t).size < 2^32) (hmin : minThr T < 2^32) (hu : MTree.isUnderflow T d t = none) :
    MapSlab_IsUnderflow (envD T eb rs) (md_tree d t x) = some (0, false) := by
  rw [md_isUnderflow_tree T eb rs d t x hs hmin, hu]

/-- the model's receiver after the child came back (`MMetaSlab.afterChild` before the restructuring test) -/
def mdr_model_m1 {d : Nat} (m : MMetaSlab (MTree r d)) (child' : MTree r d) (i : Nat) : MMetaSlab (MTree r d) :=
  { m with childHdrs := m.childHdrs.set i (MTree.hdr d child'), children := m.children.set i child',
           hdr := { m.hdr with firstKey := if i == 0 then (MTree.hdr d child').firstKey else m.hdr.firstKey } }

theorem mdr_m1_md_meta {d : Nat} (m : MMetaSlab (MTree r d)) (child' : MTree r d) (i : Nat) (x : Option DX) :
    mdr_m1 (md_meta m x) i (md_hdr (MTree.hdr d child')) = md_meta (mdr_model_m1 m child' i) x := by
  simp only [mdr_m1, md_meta, mdr_model_m1, List.map_set, md_hdr]
  by_cases h : i = 0
  · subst h; rfl
  · have : (i == 0) = false := by simpa using h
    simp only [h, if_false, this, Bool.false_eq_true]

/-- `MTree.remove` on an index slab, unfolded -/
theorem mdr_remove_succ (cfg : MCfg) (d : Nat) (m : MMetaSlab (MTree r d)) (k : MKey) (c : Ctx) :
    MTree.remove cfg (d + 1) (m : MMetaSlab (MTree r d)) k c =
      match MMetaSlab.findChild m.childHdrs (k.dig 0) 0 m.childHdrs.length none (m.childHdrs.length + 1) with
      | none => .error .keyNotFound
      | some i =>
        match m.children[i]? with
        | none => .error .slabNotFound
        | some child =>
          match MTree.remove cfg d child k c with
          | .error e => .error e
          | .ok (rk, rv, child', c1) =>
            match m.afterChild cfg.T child' i c1 with
            | .error e => .error e
            | .ok (m', c2) => .ok (rk, rv, (m' : MMetaSlab (MTree r d)), c2) := by
  simp only [MTree.remove, bind, Except.bind, pure, Except.pure, throw, throwThe, MonadExceptOf.throw]
  cases MMetaSlab.findChild m.childHdrs (k.dig 0) 0 m.childHdrs.length none (m.childHdrs.length + 1) with
  | none => rfl
  | some i =>
    simp only []
    cases m.children[i]? with
    | none => rfl
    | some child =>
      simp only []
      cases MTree.remove cfg d child k c with
      | error e => rfl
      | ok q =>
        obtain ⟨rk, rv, child', c1⟩ := q
        simp only []
        cases MMetaSlab.afterChild cfg.T m child' i c1 with
        | error e => rfl
        | ok q2 => rfl


theorem mdr_isUnderflow_md_tree_some (T : Nat) (eb : DEnvB r) (rs : DRestruct r) (d : Nat) (t : MTree r d) (x : Option DX)
    (u : Nat) (hs : (MTree.hdr d t).size < 2^32) (hmin : minThr T < 2^32) (hu : MTree.isUnderflow T d t = some u) :
    MapSlab_IsUnderflow (envD T eb rs) (md_tree d t x) = some (u32 u, true) := by
  rw [md_isUnderflow_tree T eb rs d t x hs hmin, hu]

theorem mdr_afterChild_eq {d : Nat} (T : Nat) (m : MMetaSlab (MTree r d)) (child' : MTree r d) (i : Nat) (c1 : Ctx) :
    m.afterChild T child' i c1 =
      if MTree.isFull T d child' then (mdr_model_m1 m child' i).splitChildSlab child' i c1
      else match MTree.isUnderflow T d child' with
        | some u => (mdr_model_m1 m child' i).mergeOrRebalanceChildSlab T child' i u c1
        | none => .ok (mdr_model_m1 m child' i, c1.emit (.store m.hdr.id)) := rfl


end tree

section op
variable {r : Nat}

/-- the result of the dispatcher `MapSlab.Set / Remove` -/
abbrev MdRes (r : Nat) := Option (Option SV × Option SV × Option GE × DSlab r × MHSt r)

/-- the dispatcher's result on an index slab from the result of `MapMetaDataSlab.Set / Remove` -/
def md_lift : Option (Option SV × Option SV × Option GE × MapMetaDataSlab DX × MHSt r) → MdRes r :=
  Option.map (fun r_ => (r_.1, r_.2.1, r_.2.2.1, MapSlab.metaSlab r_.2.2.2.1, r_.2.2.2.2))

/-- how a restructuring call answers the model's: on success the model's receiver as a generated record, the model's
    `Ctx`, and `G` of the new receiver and storage; a model error comes back as that error (the hypotheses on the
    restructuring calls, `MSplitTail`, `MMorTail`, `MRSplitTail`, `MRMorTail`, unfold to this) -/
def MdTailOk {d : Nat} (x : Option DX) (G : MMetaSlab (MTree r d) → MHSt r → Prop)
    (model : Except MErr (MMetaSlab (MTree r d) × Ctx)) (gen : Option GE × MapMetaDataSlab DX × MHSt r × DSlab r) : Prop :=
  match model with
  | .ok (m', c') => ∃ s' w, gen = (none, md_meta m' x, s', w) ∧ s'.ctx = c' ∧ G m' s'
  | .error e => ∃ a s' w, gen = (some e, a, s', w)

theorem MdTailOk.imp {d : Nat} {x : Option DX} {G G' : MMetaSlab (MTree r d) → MHSt r → Prop}
    {model : Except MErr (MMetaSlab (MTree r d) × Ctx)} {gen : Option GE × MapMetaDataSlab DX × MHSt r × DSlab r}
    (hG : ∀ m' s', G m' s' → G' m' s') (h : MdTailOk x G model gen) : MdTailOk x G' model gen := by
  unfold MdTailOk at h ⊢
  rcases model with e | ⟨m', c'⟩
  · exact h
  · obtain ⟨s', w, h1, h2, h3⟩ := h
    exact ⟨s', w, h1, h2, hG m' s' h3⟩

/-- the end of `MapMetaDataSlab.Set / Remove` after a restructuring call that answers the model's -/
theorem MdTailOk.close {d : Nat} {x : Option DX} {G : MMetaSlab (MTree r d) → MHSt r → Prop}
    {B : DSlab r → MHSt r → Prop} {model : Except MErr (MMetaSlab (MTree r d) × Ctx)}
    {gen : Option GE × MapMetaDataSlab DX × MHSt r × DSlab r} (h : MdTailOk x G model gen) (hB : ∀ tt ss, B tt ss)
    (a b : Option SV) :
    (∀ e, model = .error e → ∃ tt ss, md_lift (if (!gen.1.isNone) then some (none, none, gen.1, gen.2.1, gen.2.2.1)
          else some (a, b, none, gen.2.1, gen.2.2.1)) = some (none, none, some e, tt, ss) ∧ B tt ss) ∧
    (∀ m' c', model = .ok (m', c') → ∃ s', md_lift (if (!gen.1.isNone) then some (none, none, gen.1, gen.2.1, gen.2.2.1)
          else some (a, b, none, gen.2.1, gen.2.2.1)) = some (a, b, none, md_tree (d + 1) m' x, s') ∧ s'.ctx = c' ∧ G m' s') := by
  unfold MdTailOk at h
  rcases model with e | ⟨m', c'⟩
  · obtain ⟨a', s', w, rfl⟩ := h
    exact ⟨fun e' he => (by cases he; exact ⟨.metaSlab a', s', rfl, hB _ _⟩), fun _ _ he => (by cases he)⟩
  · obtain ⟨s', w, rfl, hc, hG⟩ := h
    exact ⟨fun _ he => (by cases he), fun _ _ he => (by cases he; exact ⟨s', rfl, hc, hG⟩)⟩

variable (eb : DEnvB r) (rs : DRestruct r) (cfg : MCfg)

/-- A keyed operation of the descent.  `M` is the model's function (`β` = what it returns besides the stored key: the
    old value of `Set`, the removed value of `Remove`), `G` the generated dispatcher with every argument but depth,
    receiver and storage plugged in, `enc` how the payload comes back from the generated code.  `route` finds the child
    (`none` = `KeyNotFoundError`), `noChild` is the model's error for a position without a child, `Rng` the `uint` ranges
    the binary search needs.  `M_succ` is one level of the model, `g_none / g_err / g_step` one level of the generated
    code by outcome of the search and of the call on the child. -/
structure MdOp where
  β : Type
  enc : β → Option SV
  route : List MHdr → Option Nat
  noChild : MErr
  Rng : List MHdr → Prop
  M : (d : Nat) → MTree r d → Ctx → Except MErr (MKey × β × MTree r d × Ctx)
  G : Nat → DSlab r → MHSt r → MdRes r
  M_succ : ∀ (d : Nat) (m : MMetaSlab (MTree r d)) (c : Ctx),
    M (d + 1) (m : MMetaSlab (MTree r d)) c =
      match route m.childHdrs with
      | none => .error .keyNotFound
      | some i =>
        match m.children[i]? with
        | none => .error noChild
        | some child =>
          match M d child c with
          | .error e => .error e
          | .ok (ks, p, child', c1) =>
            match m.afterChild cfg.T child' i c1 with
            | .error e => .error e
            | .ok (m', c2) => .ok (ks, p, (m' : MMetaSlab (MTree r d)), c2)
  g_none : ∀ {α : Type} (m : MMetaSlab α) (x : Option DX) (s : MHSt r) (depth : Nat), Rng m.childHdrs →
    route m.childHdrs = none →
    G (depth + 1) (.metaSlab (md_meta m x)) s = some (none, none, some .keyNotFound, .metaSlab (md_meta m x), s)
  g_err : ∀ {α : Type} (m : MMetaSlab α) (x : Option DX) (s : MHSt r) (depth i : Nat), Rng m.childHdrs →
    route m.childHdrs = some i → i < m.childHdrs.length → ∀ (child child' : DSlab r) (s1 : MHSt r) (a b : Option SV) (e : GE),
    s.heap (m.childHdrs.getD i default).id = some child → G depth child s = some (a, b, some e, child', s1) →
    G (depth + 1) (.metaSlab (md_meta m x)) s = some (none, none, some e, .metaSlab (md_meta m x), s1)
  g_step : ∀ {α : Type} (m : MMetaSlab α) (x : Option DX) (s : MHSt r) (depth i : Nat), Rng m.childHdrs →
    route m.childHdrs = some i → i < m.childHdrs.length → ∀ (child child' : DSlab r) (s1 : MHSt r) (a b : Option SV),
    s.heap (m.childHdrs.getD i default).id = some child → G depth child s = some (a, b, none, child', s1) →
    G (depth + 1) (.metaSlab (md_meta m x)) s =
      md_lift (mdr_after cfg.T eb rs (mdr_m1 (md_meta m x) i (mdr_hdrOf child')) s1 child' i a b)

variable {eb rs cfg}

/-- What one level asks once the child at position `i` came back as `child'` with storage `s1` (`G`: the condition on the
    new index slab and storage, `B`: the condition on what comes back next to an error): its size fits `uint32`; if it
    is full, `rs.splitChild` answers the model's `splitChildSlab`; if it underflows, `rs.mergeOrRebalance` answers the
    model's; otherwise `G` holds of the receiver stored.  The receiver is `mdr_model_m1 m child' i` in all three cases;
    whatever comes back next to an error of a restructuring call must satisfy `B`. -/
def MdUp (rs : DRestruct r) (cfg : MCfg) {d : Nat} (G : MMetaSlab (MTree r d) → MHSt r → Prop) (B : DSlab r → MHSt r → Prop)
    (m : MMetaSlab (MTree r d)) (x : Option DX) (i : Nat) (child' : MTree r d) (s1 : MHSt r) : Prop :=
  (MTree.hdr d child').size < 2^32 ∧
  (MTree.isFull cfg.T d child' = true → (∀ tt ss, B tt ss) ∧
    MdTailOk x G ((mdr_model_m1 m child' i).splitChildSlab child' i s1.ctx)
      (rs.splitChild (md_meta (mdr_model_m1 m child' i) x) s1 (md_tree d child' none) (Int.ofNat i))) ∧
  (MTree.isFull cfg.T d child' = false → ∀ u, MTree.isUnderflow cfg.T d child' = some u → (∀ tt ss, B tt ss) ∧
    MdTailOk x G ((mdr_model_m1 m child' i).mergeOrRebalanceChildSlab cfg.T child' i u s1.ctx)
      (rs.mergeOrRebalance (md_meta (mdr_model_m1 m child' i) x) s1 (md_tree d child' none) (Int.ofNat i) (u32 u))) ∧
  (MTree.isFull cfg.T d child' = false → MTree.isUnderflow cfg.T d child' = none →
    G (mdr_model_m1 m child' i) (s1.store m.hdr.id (.metaSlab (md_meta (mdr_model_m1 m child' i) x))))

/-- no restructuring: the child that came back is neither full nor underflowing -/
theorem MdUp.of_stored {d : Nat} {G : MMetaSlab (MTree r d) → MHSt r → Prop} {B : DSlab r → MHSt r → Prop}
    {m : MMetaSlab (MTree r d)} {x : Option DX} {i : Nat} {child' : MTree r d} {s1 : MHSt r}
    (hsz : (MTree.hdr d child').size < 2^32) (hf : MTree.isFull cfg.T d child' = false)
    (hu : MTree.isUnderflow cfg.T d child' = none)
    (hG : G (mdr_model_m1 m child' i) (s1.store m.hdr.id (.metaSlab (md_meta (mdr_model_m1 m child' i) x)))) :
    MdUp rs cfg G B m x i child' s1 :=
  ⟨hsz, fun hf' => (by cases hf.symm.trans hf'), fun _ u hu' => (by cases hu.symm.trans hu'), fun _ _ => hG⟩

/-- ONE level of a keyed operation, for any condition `G` on the new index slab and storage and any condition `B` on
    what comes back next to an error: the search finds no child (`KeyNotFound`), or the child's call fails (the error is
    passed on), or it succeeds and the child that came back is split, merged / rebalanced (the calls answer the model's,
    `MdTailOk`; whatever comes back next to an error of theirs must satisfy `B`) or the receiver is stored.
    The conclusion is a `match` on the model's result; a statement that writes the same `match` again (`MdRel`, `MdOp.M_succ`,
    the `Ob_*` theorems) gets a `match` constant of its own, equal to this one on every constructor only: their proofs pass
    from one to the other by a case split on the result (`rcases … <;> exact id`). -/
theorem md_level (op : MdOp eb rs cfg) (hmax : maxThr cfg.T < 2^32) (hmin : minThr cfg.T < 2^32) {d : Nat} (depth : Nat)
    (m : MMetaSlab (MTree r d)) (x : Option DX) (s : MHSt r) (hR : op.Rng m.childHdrs)
    (G : MMetaSlab (MTree r d) → MHSt r → Prop) (B : DSlab r → MHSt r → Prop)
    (hnone : op.route m.childHdrs = none → B (.metaSlab (md_meta m x)) s)
    (hpath : ∀ i, op.route m.childHdrs = some i →
      ∃ child : MTree r d, m.children[i]? = some child ∧ m.childHdrs[i]? = some (MTree.hdr d child) ∧
        s.heap (MTree.hdr d child).id = some (md_tree d child none) ∧
        match op.M d child s.ctx with
        | .error e =>
          ∃ tt ss, op.G depth (md_tree d child none) s = some (none, none, some e, tt, ss) ∧ B (.metaSlab (md_meta m x)) ss
        | .ok (ks, p, child', c1) =>
          ∃ s1, op.G depth (md_tree d child none) s = some (some (.key ks), op.enc p, none, md_tree d child' none, s1) ∧
            s1.ctx = c1 ∧ MdUp rs cfg G B m x i child' s1) :
    match op.M (d + 1) (m : MMetaSlab (MTree r d)) s.ctx with
    | .ok (ks, p, t', c') =>
      ∃ s', op.G (depth + 1) (.metaSlab (md_meta m x)) s =
            some (some (.key ks), op.enc p, none, md_tree (d + 1) t' x, s') ∧ s'.ctx = c' ∧ G t' s'
    | .error e =>
      ∃ tt ss, op.G (depth + 1) (.metaSlab (md_meta m x)) s = some (none, none, some e, tt, ss) ∧ B tt ss := by
  rw [op.M_succ]
  cases hfind : op.route m.childHdrs with
  | none =>
    rw [op.g_none m x s depth hR hfind]
    exact ⟨_, _, rfl, hnone hfind⟩
  | some i =>
    obtain ⟨child, hci, hhi, hheap, hc⟩ := hpath i hfind
    simp only [hci]
    have hil : i < m.childHdrs.length := (List.getElem?_eq_some_iff.mp hhi).1
    have hheap' : s.heap (m.childHdrs.getD i default).id = some (md_tree d child none) := by
      rw [List.getD_eq_getElem?_getD, hhi]; exact hheap
    rcases hq : op.M d child s.ctx with e | ⟨ks, p, child', c1⟩
    · rw [hq] at hc
      obtain ⟨tt, ss, h1, hB⟩ := hc
      rw [op.g_err m x s depth i hR hfind hil _ tt ss none none e hheap' h1]
      exact ⟨_, _, rfl, hB⟩
    · rw [hq] at hc
      obtain ⟨s1, h1, rfl, hsz, hsplit, hmor, hstore⟩ := hc
      rw [op.g_step m x s depth i hR hfind hil _ _ s1 _ _ hheap' h1, mdr_hdrOf_md_tree, mdr_m1_md_meta]
      have hIF := mdr_isFull_md_tree cfg.T eb rs d child' none hsz hmax
      simp only [mdr_afterChild_eq]
      cases hf : MTree.isFull cfg.T d child' with
      | true =>
        rw [hf] at hIF
        simp only [if_true, mdr_after, hIF]
        obtain ⟨he, ho⟩ := (hsplit hf).2.close (hsplit hf).1 (some (.key ks)) (op.enc p)
        rcases hm : (mdr_model_m1 m child' i).splitChildSlab child' i s1.ctx with e | ⟨m', c'⟩
        · exact he e hm
        · exact ho m' c' hm
      | false =>
        rw [hf] at hIF
        simp only [Bool.false_eq_true, if_false]
        cases hu : MTree.isUnderflow cfg.T d child' with
        | some u =>
          simp only [mdr_after, hIF, mdr_isUnderflow_md_tree_some cfg.T eb rs d child' none u hsz hmin hu]
          obtain ⟨he, ho⟩ := (hmor hf u hu).2.close (hmor hf u hu).1 (some (.key ks)) (op.enc p)
          rcases hm : (mdr_model_m1 m child' i).mergeOrRebalanceChildSlab cfg.T child' i u s1.ctx with e | ⟨m', c'⟩
          · exact he e hm
          · exact ho m' c' hm
        | none =>
          simp only [mdr_after, hIF, mdr_isUnderflow_md_tree cfg.T eb rs d child' none hsz hmin hu]
          exact ⟨_, rfl, rfl, hstore hf hu⟩

/-- the generated dispatcher on a subtree answers the model's operation: on success the translation of the model's
    result with `Post` of (old tree, old storage, new tree, new storage), on a model error that error with `Err` of what
    comes back next to it -/
def MdRel (op : MdOp eb rs cfg) (Post : (d : Nat) → MTree r d → Option DX → MHSt r → MTree r d → MHSt r → Prop)
    (Err : (d : Nat) → MTree r d → Option DX → MHSt r → DSlab r → MHSt r → Prop)
    (depth d : Nat) (t : MTree r d) (x : Option DX) (s : MHSt r) : Prop :=
  match op.M d t s.ctx with
  | .ok (ks, p, t', c') =>
    ∃ s', op.G depth (md_tree d t x) s = some (some (.key ks), op.enc p, none, md_tree d t' x, s') ∧ s'.ctx = c' ∧
      Post d t x s t' s'
  | .error e => ∃ tt ss, op.G depth (md_tree d t x) s = some (none, none, some e, tt, ss) ∧ Err d t x s tt ss

/-- The whole descent of a keyed operation.  `Inv` is what holds of (subtree, extra data, storage) on the way down (the
    heap holds the tree, `uint` ranges, identifiers, the provider's invariant), `Post` what holds on the way up, `Err`
    what holds of a failed call; `leaf` is the operation on a data slab, `down` says that `Inv` gives the ranges and
    passes to the child on the path, `errNone` / `errUp` / `up` are one level of `Err` and `Post`: the same cases as the
    `node` case of `MTree.set_induction` / `remove_induction`, with the three outcomes of `MMetaSlab.afterChild`. -/
theorem md_descent (op : MdOp eb rs cfg) (hmax : maxThr cfg.T < 2^32) (hmin : minThr cfg.T < 2^32)
    (Inv : (d : Nat) → MTree r d → Option DX → MHSt r → Prop)
    (Post : (d : Nat) → MTree r d → Option DX → MHSt r → MTree r d → MHSt r → Prop)
    (Err : (d : Nat) → MTree r d → Option DX → MHSt r → DSlab r → MHSt r → Prop)
    (leaf : ∀ (sl : MDataSlab r) x s depth, Inv 0 sl x s → MdRel op Post Err depth 0 sl x s)
    (down : ∀ d (m : MMetaSlab (MTree r d)) x s, Inv (d + 1) m x s → op.Rng m.childHdrs ∧
      ∀ i, op.route m.childHdrs = some i → ∃ child : MTree r d, m.children[i]? = some child ∧
        m.childHdrs[i]? = some (MTree.hdr d child) ∧ s.heap (MTree.hdr d child).id = some (md_tree d child none) ∧
        Inv d child none s)
    (errNone : ∀ d (m : MMetaSlab (MTree r d)) x s, Inv (d + 1) m x s → op.route m.childHdrs = none →
      Err (d + 1) m x s (.metaSlab (md_meta m x)) s)
    (errUp : ∀ d (m : MMetaSlab (MTree r d)) x s i (child : MTree r d) e tt ss, Inv (d + 1) m x s →
      op.route m.childHdrs = some i → m.children[i]? = some child → op.M d child s.ctx = .error e →
      Err d child none s tt ss → Err (d + 1) m x s (.metaSlab (md_meta m x)) ss)
    (up : ∀ d (m : MMetaSlab (MTree r d)) x s i (child child' : MTree r d) ks p (s1 : MHSt r), Inv (d + 1) m x s →
      op.route m.childHdrs = some i → m.children[i]? = some child → op.M d child s.ctx = .ok (ks, p, child', s1.ctx) →
      Post d child none s child' s1 → MdUp rs cfg (Post (d + 1) m x s) (Err (d + 1) m x s) m x i child' s1) :
    ∀ (d depth : Nat) (t : MTree r d) (x : Option DX) (s : MHSt r), d ≤ depth → Inv d t x s →
      MdRel op Post Err depth d t x s
  | 0, depth, t, x, s, _, h => leaf t x s depth h
  | d + 1, depth + 1, (m : MMetaSlab (MTree r d)), x, s, hd, h => by
    obtain ⟨hR, hroute⟩ := down d m x s h
    have key := md_level op hmax hmin depth m x s hR (Post (d + 1) m x s) (Err (d + 1) m x s) (errNone d m x s h)
      (fun i hi => by
        obtain ⟨child, h1, h2, h3, h4⟩ := hroute i hi
        refine ⟨child, h1, h2, h3, ?_⟩
        have ih := md_descent op hmax hmin Inv Post Err leaf down errNone errUp up d depth child none s
          (Nat.le_of_succ_le_succ hd) h4
        unfold MdRel at ih
        revert ih
        rcases hq : op.M d child s.ctx with e | ⟨ks, p, child', c1⟩
        · rintro ⟨tt, ss, hg, he⟩
          exact ⟨tt, ss, hg, errUp d m x s i child e tt ss h hi h1 hq he⟩
        · rintro ⟨s1, hg, rfl, hpost⟩
          exact ⟨s1, hg, rfl, up d m x s i child child' ks p s1 h hi h1 hq hpost⟩)
    unfold MdRel
    revert key
    rcases op.M (d + 1) (m : MMetaSlab (MTree r d)) s.ctx with e | ⟨ks, p, t', c'⟩ <;> exact id

end op

section instances
variable {r : Nat} (eb : DEnvB r) (rs : DRestruct r) (cfg : MCfg) (k : MKey)

theorem md_lift_Remove (depth : Nat) (a : MapMetaDataSlab DX) (s : MHSt r) :
    MapSlab_Remove (envD cfg.T eb rs) (MapMetaDataSlab_Remove (envD cfg.T eb rs) depth) (.metaSlab a) s k (u64 0)
        (u64 (k.dig 0)) (.key k) =
      md_lift (MapMetaDataSlab_Remove (envD cfg.T eb rs) depth a s k (u64 0) (u64 (k.dig 0)) (.key k)) := by
  simp only [MapSlab_Remove, md_lift]
  generalize MapMetaDataSlab_Remove _ _ _ _ _ _ _ _ = q
  cases q <;> rfl

/-- `Remove`: the search may find no child (`findChild .. none`) -/
def md_opRemove : MdOp eb rs cfg where
  β := Elem
  enc := fun p => some (.val p)
  route := fun hdrs => MMetaSlab.findChild hdrs (k.dig 0) 0 hdrs.length none (hdrs.length + 1)
  noChild := .slabNotFound
  Rng := fun hdrs => k.dig 0 < 2^64 ∧ (∀ h ∈ hdrs, h.firstKey < 2^64) ∧ hdrs.length < 2^62
  M := fun d t c => MTree.remove cfg d t k c
  G := fun depth t s =>
    MapSlab_Remove (envD cfg.T eb rs) (MapMetaDataSlab_Remove (envD cfg.T eb rs) depth) t s k (u64 0) (u64 (k.dig 0)) (.key k)
  M_succ := fun d m c => by
    -- `mdr_remove_succ`, up to the `match` constants (see `md_level`)
    rw [mdr_remove_succ]
    cases MMetaSlab.findChild m.childHdrs (k.dig 0) 0 m.childHdrs.length none (m.childHdrs.length + 1) with
    | none => rfl
    | some i =>
      dsimp only
      cases m.children[i]? with
      | none => rfl
      | some child =>
        dsimp only
        rcases MTree.remove cfg d child k c with e | ⟨rk, rv, child', c1⟩
        · rfl
        · rcases hm : MMetaSlab.afterChild cfg.T m child' i c1 with e | ⟨m', c2⟩ <;> simp only [hm]
  g_none := fun m x s depth hR hf => by
    rw [md_lift_Remove, Ob_MapMetaDataSlab_Remove_keyNotFound cfg.T eb rs m x s k (k.dig 0) depth hR.1 hR.2.1 hR.2.2 hf]
    rfl
  g_err := fun m x s depth i hR hf hi child child' s1 a b e hh hd => by
    rw [md_lift_Remove, Ob_MapMetaDataSlab_Remove_childErr cfg.T eb rs m x s k (k.dig 0) depth hR.1 hR.2.1 hR.2.2 i hf hi
      child child' s1 a b e hh hd]
    rfl
  g_step := fun m x s depth i hR hf hi child child' s1 a b hh hd => by
    rw [md_lift_Remove, Ob_MapMetaDataSlab_Remove_step cfg.T eb rs m x s k (k.dig 0) depth hR.1 hR.2.1 hR.2.2 i hf hi
      child child' s1 a b hh hd]

variable (v : Elem)

/-- the block after the child's call as `Ob_MapMetaDataSlab_Set_step` spells it (`mds_stepSpec`: defaults for the
    panics of a nil child) is the block as `Ob_MapMetaDataSlab_Remove_step` spells it (`mdr_after`) -/
theorem mds_stepSpec_eq_after (T : Nat) (a : MapMetaDataSlab DX) (i : Nat) (ks old : Option SV) (child' : DSlab r)
    (s1 : MHSt r) (hn : child'.isNil = false) :
    mds_stepSpec T eb rs a i ks old child' s1 = mdr_after T eb rs (mdr_m1 a i (mdr_hdrOf child')) s1 child' i ks old := by
  cases child' with
  | nil => cases hn
  | dataSlab o =>
    have hF : MapSlab_IsFull (envD T eb rs) (.dataSlab o) = some (MapDataSlab_IsFull (envD T eb rs) o) := rfl
    have hU : MapSlab_IsUnderflow (envD T eb rs) (.dataSlab o) =
        some ((MapDataSlab_IsUnderflow (envD T eb rs) o).1, (MapDataSlab_IsUnderflow (envD T eb rs) o).2) := rfl
    have hH : MapSlab_Header (envD T eb rs) (.dataSlab o) = some o.header := rfl
    unfold mds_stepSpec mdr_after
    rw [hF, hU, hH]
    cases MapDataSlab_IsFull (envD T eb rs) o with
    | true => rfl
    | false =>
      generalize MapDataSlab_IsUnderflow (envD T eb rs) o = q
      obtain ⟨u, b⟩ := q
      cases b <;> rfl
  | metaSlab o =>
    have hF : MapSlab_IsFull (envD T eb rs) (.metaSlab o) = some (MapMetaDataSlab_IsFull (envD T eb rs) o) := rfl
    have hU : MapSlab_IsUnderflow (envD T eb rs) (.metaSlab o) =
        some ((MapMetaDataSlab_IsUnderflow (envD T eb rs) o).1, (MapMetaDataSlab_IsUnderflow (envD T eb rs) o).2) := rfl
    have hH : MapSlab_Header (envD T eb rs) (.metaSlab o) = some o.header := rfl
    unfold mds_stepSpec mdr_after
    rw [hF, hU, hH]
    cases MapMetaDataSlab_IsFull (envD T eb rs) o with
    | true => rfl
    | false =>
      generalize MapMetaDataSlab_IsUnderflow (envD T eb rs) o = q
      obtain ⟨u, b⟩ := q
      cases b <;> rfl

theorem md_lift_Set (depth : Nat) (a : MapMetaDataSlab DX) (s : MHSt r) :
    MapSlab_Set (envD cfg.T eb rs) (MapMetaDataSlab_Set (envD cfg.T eb rs) depth) (.metaSlab a) s () k (u64 0)
        (u64 (k.dig 0)) (.key k) (.val v) =
      md_lift (MapMetaDataSlab_Set (envD cfg.T eb rs) depth a s () k (u64 0) (u64 (k.dig 0)) (.key k) (.val v)) := by
  simp only [MapSlab_Set, md_lift]
  generalize MapMetaDataSlab_Set _ _ _ _ _ _ _ _ _ _ = q
  cases q <;> rfl

/-- `Set`: the search always finds a child (`findChild .. (some 0)`, `mds_idx`) -/
def md_opSet : MdOp eb rs cfg where
  β := Option Elem
  enc := fun p => p.map .val
  route := fun hdrs => some (mds_idx hdrs (k.dig 0))
  noChild := .goPanic
  Rng := fun hdrs => k.dig 0 < 2^64 ∧ (∀ h ∈ hdrs, h.firstKey < 2^64) ∧ hdrs.length < 2^62
  M := fun d t c => MTree.set cfg d t k v c
  G := fun depth t s =>
    MapSlab_Set (envD cfg.T eb rs) (MapMetaDataSlab_Set (envD cfg.T eb rs) depth) t s () k (u64 0) (u64 (k.dig 0)) (.key k)
      (.val v)
  M_succ := fun d m c => by
    simp only [MTree.set, bind, Except.bind, pure, Except.pure, throw, throwThe, MonadExceptOf.throw, mds_idx]
    cases m.children[(MMetaSlab.findChild m.childHdrs (k.dig 0) 0 m.childHdrs.length (some 0)
        (m.childHdrs.length + 1)).getD 0]? with
    | none => rfl
    | some child =>
      dsimp only
      rcases MTree.set cfg d child k v c with e | ⟨ks, old, child', c1⟩
      · rfl
      · dsimp only
        rcases MMetaSlab.afterChild cfg.T m child' _ c1 with e | ⟨m', c2⟩ <;> rfl
  g_none := fun _ _ _ _ _ hf => by cases hf
  g_err := fun m x s depth i hR hf hi child child' s1 a b e hh hd => by
    cases hf
    rw [md_lift_Set, Ob_MapMetaDataSlab_Set_step_childErr cfg.T eb rs m x s s1 k v depth hR.1 hR.2.1 hR.2.2 hi
      child child' a b e hh hd]
    rfl
  g_step := fun m x s depth i hR hf hi child child' s1 a b hh hd => by
    cases hf
    rw [md_lift_Set, Ob_MapMetaDataSlab_Set_step cfg.T eb rs m x s s1 k v depth hR.1 hR.2.1 hR.2.2 hi
      child child' a b hh hd, mds_stepSpec_eq_after eb rs cfg.T _ _ _ _ _ _ (mds_Set_nonnil hd).2]

end instances

end Atree.TransEq

import AtreeProofs.Trans.MapDescent
/-
  Pop: the generated `MapDataSlab_PopIterate`, `MapSlab_PopIterate`, `MapMetaDataSlab_PopIterate` (+ `loop1`) of
  `Gen/TransMapDescent.lean` over a heap (`envD`) are the model's `MDataSlab.popIterate` / `MTree.popIterate`.

  Go's `MapDataSlab.PopIterate` calls `m.elements.PopIterate(storage, fn)`; the receiver `*hkeyElements` resets ITSELF there
  (`e.hkeys = nil; e.elems = nil; e.size = hkeyElementsPrefixSize`).  The translation table declares `elements.PopIterate`
  as mutating its receiver (`elements_PopIterate : G → S → Option ε × G × S`, the generated `MapDataSlab_PopIterate` does
  `m.elements := r1_.2.1`) and `envD` returns the emptied elements: the generated result is the model's
  `MDataSlab.popIterate` unconditionally, at every depth.
-/
namespace Atree.TransEq
open Atree Atree.Gen.TransMapD

variable {r : Nat}

/-- the elements are already the empty `hkeyElements` (what `elements.PopIterate` leaves behind) -/
def mdp_ElemsEmpty (g : DG r) : Prop := g.hkeys = [] ∧ g.elems = [] ∧ g.size = Gen.hkeyElementsPrefixSize

/-- what the generated `MapDataSlab_PopIterate` returns as the receiver: the model's popped slab -/
abbrev mdp_dataRes (sl : MDataSlab r) (x : Option DX) (c : Ctx) : MapDataSlab (DG r) DX :=
  md_data (sl.popIterate c).2.1 x

/-- the storage after `elements.PopIterate` of a data slab -/
def mdp_dataPost (sl : MDataSlab r) (s : MHSt r) : MHSt r :=
  { s with ctx := (sl.popIterate s.ctx).2.2, popped := s.popped ++ (sl.popIterate s.ctx).1 }

theorem mdp_u32_add (a b : Nat) : u32 a + u32 b = u32 (a + b) := u32_add_eq a b

/-- `MapDataSlab.PopIterate` (map_data_slab.go) over a heap: the model's `MDataSlab.popIterate` (elements emptied,
    `header.size = getPrefixSize() + hkeyElementsPrefixSize`, `header.firstKey = 0`).  `x.isSome = sl.root`:
    `getPrefixSize` tests `extraData != nil`, the model the flag `root`. -/
theorem Ob_MapDataSlab_PopIterate_heap (T : Nat) (eb : DEnvB r) (rs : DRestruct r) (sl : MDataSlab r)
    (x : Option DX) (s : MHSt r) (hx : x.isSome = sl.root) :
    MapDataSlab_PopIterate (envD T eb rs) (md_data sl x) s =
      (none, md_data (sl.popIterate s.ctx).2.1 x, mdp_dataPost sl s) := by
  have hp : MapDataSlab_getPrefixSize (envD T eb rs) (md_data sl x) = u32 sl.prefixSize :=
    md_getPrefixSize _ sl x hx _ _
  unfold MapDataSlab_PopIterate
  simp only [envD, mdp_dataPost, MDataSlab.popIterate, md_data, md_hdr, MDataSlab.eops]
  simp only [Option.isNone_none, Bool.not_true, Bool.false_eq_true, if_false]
  have hp' := hp
  simp only [md_data, md_hdr] at hp'
  refine Prod.ext rfl (Prod.ext ?_ rfl)
  simp only
  congr 1
  simp [MapDataSlab_getPrefixSize] at hp' ⊢
  exact hp'

/-- model and generated text agree on a data slab (the same statement as `Ob_MapDataSlab_PopIterate_heap`, since the
    translation returns the emptied elements) -/
theorem Ob_MapDataSlab_PopIterate_heap_model (T : Nat) (eb : DEnvB r) (rs : DRestruct r) (sl : MDataSlab r)
    (x : Option DX) (s : MHSt r) (hx : x.isSome = sl.root) :
    MapDataSlab_PopIterate (envD T eb rs) (md_data sl x) s =
      (none, md_data (sl.popIterate s.ctx).2.1 x, mdp_dataPost sl s) :=
  Ob_MapDataSlab_PopIterate_heap T eb rs sl x s hx

/-- membership of an identifier in a list, decidable through `DecidableEq SlabID` (the derived `BEq SlabID` is a
    separate instance, so the library instance does not apply) -/
instance mdp_decMem : (id : SlabID) → (l : List SlabID) → Decidable (id ∈ l)
  | _, [] => isFalse (by simp)
  | id, a :: l =>
    if h : id = a then isTrue (by simp [h])
    else match mdp_decMem id l with
      | isTrue h' => isTrue (by simp [h'])
      | isFalse h' => isFalse (by simp [h, h'])

/-- the children headers of every index slab are the headers of its children (part of `MTreeInv`) -/
def mdp_Wf : (d : Nat) → MTree r d → Prop
  | 0, _ => True
  | d + 1, (m : MMetaSlab (MTree r d)) => m.childHdrs = m.children.map (MTree.hdr d) ∧ ∀ c ∈ m.children, mdp_Wf d c

theorem mdp_Wf_of_inv {T : Nat} {D : DigestFn (r + 1)} : ∀ (d : Nat) (top : Bool) (t : MTree r d),
    MTreeInv T D d top t → mdp_Wf d t
  | 0, _, _, _ => trivial
  | d + 1, _, (_ : MMetaSlab (MTree r d)), h => ⟨h.2.1, fun c hc => mdp_Wf_of_inv d false c (h.2.2.2.2.1 c hc)⟩

/-- the model's loop of `MapMetaDataSlab.PopIterate` on the children LAST TO FIRST (the list is already reversed) -/
def mdp_popList (d : Nat) : List (MTree r d) → Ctx → List (MKey × Elem) × Ctx
  | [], c => ([], c)
  | a :: rest, c =>
    let q := MTree.popIterate d a c
    let p := mdp_popList d rest (q.2.2.emit (.remove (MTree.hdr d a).id))
    (q.1 ++ p.1, p.2)

theorem mdp_foldl_eq (d : Nat) : ∀ (xs : List (MTree r d)) (a : List (MKey × Elem)) (c : Ctx),
    xs.foldl (fun (acc : List (MKey × Elem) × Ctx) child =>
        let (es, _, c) := MTree.popIterate d child acc.2
        (acc.1 ++ es, c.emit (.remove (MTree.hdr d child).id))) (a, c) =
      (a ++ (mdp_popList d xs c).1, (mdp_popList d xs c).2)
  | [], a, c => by simp [mdp_popList]
  | x :: xs, a, c => by
    rw [List.foldl_cons]
    simp only [mdp_popList]
    rw [mdp_foldl_eq d xs]
    simp [List.append_assoc]

theorem mdp_popIterate_succ (d : Nat) (m : MMetaSlab (MTree r d)) (c : Ctx) :
    MTree.popIterate (d + 1) m c =
      ((mdp_popList d m.children.reverse c).1,
       ({ m with childHdrs := [], children := [],
                 hdr := { m.hdr with firstKey := 0, size := Gen.mapMetaDataSlabPrefixSize } } : MMetaSlab (MTree r d)),
       (mdp_popList d m.children.reverse c).2) := by
  simp only [MTree.popIterate]
  rw [mdp_foldl_eq d]
  rfl

/-- the storage after `PopIterate` of a subtree root: the slabs BELOW the root are gone, the rest is untouched -/
def mdp_post (d : Nat) (t : MTree r d) (s : MHSt r) : MHSt r :=
  { heap := fun id => if id ∈ (md_ids d t).tail then none else s.heap id,
    ctx := (MTree.popIterate d t s.ctx).2.2,
    popped := s.popped ++ (MTree.popIterate d t s.ctx).1 }

/-- what the generated `MapSlab_PopIterate` returns as the receiver: the model's popped tree -/
abbrev mdp_treeRes (d : Nat) (t : MTree r d) (x : Option DX) (c : Ctx) : DSlab r :=
  md_tree d (MTree.popIterate d t c).2.1 x

theorem mdp_treeRes_succ (d : Nat) (t : MTree r (d + 1)) (x : Option DX) (c : Ctx) :
    mdp_treeRes (d + 1) t x c = md_tree (d + 1) (MTree.popIterate (d + 1) t c).2.1 x := rfl

/-- `x` is present iff the subtree root carries the flag `root` (only a data slab's prefix size looks at it) -/
def mdp_RootOk : (d : Nat) → MTree r d → Option DX → Prop
  | 0, (sl : MDataSlab r), x => x.isSome = sl.root
  | _ + 1, _, _ => True

/-- the data slabs of the tree below the root do not carry the flag `root` -/
def mdp_LeafOk : (d : Nat) → MTree r d → Prop
  | 0, _ => True
  | d + 1, (m : MMetaSlab (MTree r d)) => ∀ c ∈ m.children, mdp_RootOk d c none ∧ mdp_LeafOk d c

theorem mdp_ids_cons (d : Nat) (t : MTree r d) : md_ids d t = (MTree.hdr d t).id :: (md_ids d t).tail := by
  cases d <;> rfl

/-- the specification of the recursive call used by the loop -/
def mdp_RecSpec (T : Nat) (eb : DEnvB r) (rs : DRestruct r) (d : Nat)
    (rec_ : MapMetaDataSlab DX → MHSt r → Option (Option GE × MapMetaDataSlab DX × MHSt r)) : Prop :=
  ∀ (t : MTree r d) (x : Option DX) (s : MHSt r), MHolds s.heap d t x → (md_ids d t).Nodup → mdp_Wf d t →
    mdp_RootOk d t x → mdp_LeafOk d t →
    MapSlab_PopIterate (envD T eb rs) rec_ (md_tree d t x) s = some (none, mdp_treeRes d t x s.ctx, mdp_post d t s)

theorem mdp_ite_or {α : Type} (p q : Prop) [Decidable p] [Decidable q] (a : Option α) :
    (if p then none else if q then none else a) = if p ∨ q then none else a := by
  by_cases hp : p
  · rw [if_pos hp, if_pos (Or.inl hp)]
  · rw [if_neg hp]
    by_cases hq : q
    · rw [if_pos hq, if_pos (Or.inr hq)]
    · rw [if_neg hq, if_neg (fun h => h.elim hp hq)]

theorem mdp_goIdx {d : Nat} (m : MMetaSlab (MTree r d)) (x : Option DX)
    (hw : m.childHdrs = m.children.map (MTree.hdr d)) (n : Nat) (hn : n < m.children.length) :
    goIdx (md_meta m x).childrenHeaders (Int.ofNat n) = some (md_hdr (MTree.hdr d m.children[n])) := by
  show goIdx (m.childHdrs.map md_hdr) (Int.ofNat n) = _
  rw [goIdx_eq, sliceIdx_map, hw, List.getElem?_map, List.getElem?_eq_getElem hn]
  rfl

/-- the storage after the children in `l` (given FIRST TO LAST) were popped last to first and removed -/
def mdp_kidsPost (d : Nat) (l : List (MTree r d)) (s : MHSt r) : MHSt r :=
  { heap := fun id => if id ∈ l.flatMap (md_ids d) then none else s.heap id,
    ctx := (mdp_popList d l.reverse s.ctx).2,
    popped := s.popped ++ (mdp_popList d l.reverse s.ctx).1 }

/-- `k` iterations of loop 1 of `MapMetaDataSlab.PopIterate`, from `j + k` iterations left down to `j`: the children
    `j .. j + k - 1` are popped last to first, each one fetched from the heap, popped, removed -/
theorem mdp_loop_run (T : Nat) (eb : DEnvB r) (rs : DRestruct r) (d : Nat)
    (rec_ : MapMetaDataSlab DX → MHSt r → Option (Option GE × MapMetaDataSlab DX × MHSt r))
    (hrec : mdp_RecSpec T eb rs d rec_) (m : MMetaSlab (MTree r d)) (x : Option DX)
    (hw : m.childHdrs = m.children.map (MTree.hdr d)) (j : Nat) :
    ∀ (k : Nat) (s : MHSt r), j + k ≤ m.children.length →
      (∀ c ∈ (m.children.take (j + k)).drop j, MHolds s.heap d c none) →
      (((m.children.take (j + k)).drop j).flatMap (md_ids d)).Nodup →
      (∀ c ∈ (m.children.take (j + k)).drop j, mdp_Wf d c ∧ mdp_RootOk d c none ∧ mdp_LeafOk d c) →
      MapMetaDataSlab_PopIterate.loop1 (envD T eb rs) (md_meta m x) rec_ (j + k) s =
        MapMetaDataSlab_PopIterate.loop1 (envD T eb rs) (md_meta m x) rec_ j
          (mdp_kidsPost d ((m.children.take (j + k)).drop j) s)
  | 0, s, _, _, _, _ => by
    have hnil : (m.children.take (j + 0)).drop j = [] := by simp
    rw [hnil]
    have e : mdp_kidsPost d [] s = s := by simp [mdp_kidsPost, mdp_popList]
    rw [e]
    rfl
  | k + 1, s, hn, hh, hnd, hok => by
    have hlt : j + k < m.children.length := by omega
    have htake : (m.children.take (j + (k + 1))).drop j = (m.children.take (j + k)).drop j ++ [m.children[j + k]] := by
      rw [show j + (k + 1) = j + k + 1 from rfl, List.take_succ_eq_append_getElem hlt,
        List.drop_append_of_le_length (by simp; omega)]
    generalize hL : (m.children.take (j + k)).drop j = L at htake
    have hmemn : m.children[j + k] ∈ (m.children.take (j + (k + 1))).drop j := by
      rw [htake]; exact List.mem_append_right _ (List.mem_singleton.mpr rfl)
    have hsub : ∀ c ∈ L, c ∈ (m.children.take (j + (k + 1))).drop j := fun c hc => by
      rw [htake]; exact List.mem_append_left _ hc
    have hcn := hh _ hmemn
    have hokn := hok _ hmemn
    rw [htake] at hnd ⊢
    rw [List.flatMap_append, List.nodup_append] at hnd
    obtain ⟨hnd1, hnd2, hdisj⟩ := hnd
    simp only [List.flatMap_cons, List.flatMap_nil, List.append_nil] at hnd2 hdisj
    have hstep : MapMetaDataSlab_PopIterate.loop1 (envD T eb rs) (md_meta m x) rec_ (j + k + 1) s =
        MapMetaDataSlab_PopIterate.loop1 (envD T eb rs) (md_meta m x) rec_ (j + k)
          ((mdp_post d m.children[j + k] s).remove (MTree.hdr d m.children[j + k]).id) := by
      conv => lhs; unfold MapMetaDataSlab_PopIterate.loop1
      simp only [mdp_goIdx m x hw _ hlt]
      have hid : (md_hdr (MTree.hdr d m.children[j + k])).slabID = (MTree.hdr d m.children[j + k]).id := rfl
      rw [hid, getMapSlab_envD_some T eb rs s _ _ hcn.root (md_tree_isNil _ _ _)]
      simp only [Option.isNone_none, Bool.not_true, Bool.false_eq_true, if_false]
      rw [hrec m.children[j + k] none s hcn hnd2 hokn.1 hokn.2.1 hokn.2.2]
      simp only [Option.isNone_none, Bool.not_true, Bool.false_eq_true, if_false, envD_remove]
    show MapMetaDataSlab_PopIterate.loop1 (envD T eb rs) (md_meta m x) rec_ (j + k + 1) s = _
    rw [hstep, mdp_loop_run T eb rs d rec_ hrec m x hw j k _ (Nat.le_of_lt hlt)]
    · rw [hL]
      congr 1
      simp only [mdp_kidsPost, MHSt.remove, mdp_post, List.reverse_append, List.reverse_cons, List.reverse_nil,
        List.nil_append, List.cons_append, mdp_popList, List.flatMap_append, List.flatMap_cons, List.flatMap_nil,
        List.append_nil, List.mem_append, List.append_assoc]
      congr 1
      funext id
      rw [mdp_ids_cons d m.children[j + k]]
      simp only [List.mem_cons]
      rw [List.tail_cons, mdp_ite_or (id = _), mdp_ite_or]
    · rw [hL]
      intro c hc
      refine (hh c (hsub c hc)).congr (fun id hid => ?_)
      have hmem : id ∈ L.flatMap (md_ids d) := List.mem_flatMap.mpr ⟨c, hc, hid⟩
      have hne := hdisj id hmem
      have hnot : id ∉ md_ids d m.children[j + k] := fun h => hne id h rfl
      rw [mdp_ids_cons] at hnot
      simp only [List.mem_cons, not_or] at hnot
      simp [MHSt.remove, mdp_post, hnot.1, hnot.2]
    · rw [hL]; exact hnd1
    · rw [hL]; intro c hc; exact hok c (hsub c hc)

/-- loop 1 of `MapMetaDataSlab.PopIterate` with `n` iterations left: the children `0 .. n-1` are popped last to first,
    each one fetched from the heap, popped, removed -/
theorem mdp_popLoop (T : Nat) (eb : DEnvB r) (rs : DRestruct r) (d : Nat)
    (rec_ : MapMetaDataSlab DX → MHSt r → Option (Option GE × MapMetaDataSlab DX × MHSt r))
    (hrec : mdp_RecSpec T eb rs d rec_) (m : MMetaSlab (MTree r d)) (x : Option DX)
    (hw : m.childHdrs = m.children.map (MTree.hdr d)) :
    ∀ (n : Nat) (s : MHSt r), n ≤ m.children.length →
      (∀ c ∈ m.children.take n, MHolds s.heap d c none) →
      ((m.children.take n).flatMap (md_ids d)).Nodup →
      (∀ c ∈ m.children.take n, mdp_Wf d c ∧ mdp_RootOk d c none ∧ mdp_LeafOk d c) →
      MapMetaDataSlab_PopIterate.loop1 (envD T eb rs) (md_meta m x) rec_ n s =
        .done { heap := fun id => if id ∈ (m.children.take n).flatMap (md_ids d) then none else s.heap id,
                ctx := (mdp_popList d (m.children.take n).reverse s.ctx).2,
                popped := s.popped ++ (mdp_popList d (m.children.take n).reverse s.ctx).1 }
  | n, s, hn, hh, hnd, hok => by
    have h := mdp_loop_run T eb rs d rec_ hrec m x hw 0 n s (by omega)
    simp only [Nat.zero_add, List.drop_zero] at h
    rw [h hh hnd hok]
    rfl

theorem mdp_count (m : MMetaSlab (MTree r d)) (x : Option DX) (hw : m.childHdrs = m.children.map (MTree.hdr d)) :
    (((Int.ofNat (md_meta m x).childrenHeaders.length) - (1 : Int)) + 1).toNat = m.children.length := by
  simp [md_meta, hw]

/-- `MapMetaDataSlab.PopIterate` at depth `d + 1` from the specification of the recursive call at depth `d` -/
theorem mdp_popMeta (T : Nat) (eb : DEnvB r) (rs : DRestruct r) (d depth : Nat)
    (hrec : mdp_RecSpec T eb rs d (MapMetaDataSlab_PopIterate (envD T eb rs) depth))
    (m : MMetaSlab (MTree r d)) (x : Option DX) (s : MHSt r)
    (hh : MHolds s.heap (d + 1) m x) (hnd : (md_ids (d + 1) m).Nodup) (hw : mdp_Wf (d + 1) m)
    (hl : mdp_LeafOk (d + 1) m) :
    MapMetaDataSlab_PopIterate (envD T eb rs) (depth + 1) (md_meta m x) s =
      some (none, md_meta (MTree.popIterate (d + 1) m s.ctx).2.1 x, mdp_post (d + 1) m s) := by
  have hloop := mdp_popLoop T eb rs d _ hrec m x hw.1 m.children.length s (Nat.le_refl _)
  rw [List.take_length] at hloop
  have hnd' : (m.children.flatMap (md_ids d)).Nodup := (List.nodup_cons.mp hnd).2
  have hloop' := hloop hh.2 hnd' (fun c hc => ⟨hw.2 c hc, (hl c hc).1, (hl c hc).2⟩)
  unfold MapMetaDataSlab_PopIterate
  simp only [mdp_count m x hw.1, hloop']
  rw [mdp_popIterate_succ]
  simp only [mdp_post, mdp_popIterate_succ, md_ids, List.tail_cons]
  rfl

/-- the specification of `MapSlab.PopIterate` holds at every depth the recursion argument covers -/
theorem mdp_recSpec (T : Nat) (eb : DEnvB r) (rs : DRestruct r) :
    ∀ (depth d : Nat), d ≤ depth → mdp_RecSpec T eb rs d (MapMetaDataSlab_PopIterate (envD T eb rs) depth)
  | depth, 0, _ => by
    intro (sl : MDataSlab r) x s hh _ _ hx _
    show MapSlab_PopIterate _ _ (.dataSlab (md_data sl x)) s = _
    unfold MapSlab_PopIterate
    simp only [Ob_MapDataSlab_PopIterate_heap T eb rs sl x s hx, mdp_treeRes]
    have hpost : mdp_dataPost sl s = mdp_post 0 sl s := by
      simp [mdp_post, mdp_dataPost, md_ids, MTree.popIterate]
    rw [hpost]
    rfl
  | 0, d + 1, h => absurd h (by omega)
  | depth + 1, d + 1, h => by
    intro (m : MMetaSlab (MTree r d)) x s hh hnd hw _ hl
    have hrec := mdp_recSpec T eb rs depth d (by omega)
    show MapSlab_PopIterate _ _ (.metaSlab (md_meta m x)) s = _
    unfold MapSlab_PopIterate
    simp only [mdp_popMeta T eb rs d depth hrec m x s hh hnd hw hl]
    rfl

/-- `MapSlab.PopIterate` (dispatcher; `MapMetaDataSlab.PopIterate`, map_metadata_slab.go, with its loop) over a heap that
    holds the tree `t`: the model's `MTree.popIterate`.  The callback received the model's list, the `Ctx` is the
    model's, every slab of the tree BELOW the root has been removed from the storage, nothing else changed.
    Hypotheses: the identifiers of the tree are pairwise distinct (`Nodup`: removing a popped child must not remove a
    sibling that is still to be popped), the children headers are the children's headers (`mdp_Wf`, from `MTreeInv`),
    extra data present iff `root` on data slabs (`mdp_RootOk`, `mdp_LeafOk`: `getPrefixSize`). -/
theorem Ob_MapSlab_PopIterate_heap (T : Nat) (eb : DEnvB r) (rs : DRestruct r) (depth d : Nat) (hd : d ≤ depth)
    (t : MTree r d) (x : Option DX) (s : MHSt r)
    (hh : MHolds s.heap d t x) (hnd : (md_ids d t).Nodup) (hw : mdp_Wf d t)
    (hx : mdp_RootOk d t x) (hl : mdp_LeafOk d t) :
    ∃ s' : MHSt r,
      MapSlab_PopIterate (envD T eb rs) (MapMetaDataSlab_PopIterate (envD T eb rs) depth) (md_tree d t x) s =
        some (none, md_tree d (MTree.popIterate d t s.ctx).2.1 x, s') ∧
      s'.ctx = (MTree.popIterate d t s.ctx).2.2 ∧
      s'.popped = s.popped ++ (MTree.popIterate d t s.ctx).1 ∧
      (∀ id ∈ md_ids d t, id ≠ (MTree.hdr d t).id → s'.heap id = none) ∧
      s'.heap (MTree.hdr d t).id = s.heap (MTree.hdr d t).id ∧
      (∀ id, id ∉ md_ids d t → s'.heap id = s.heap id) := by
  refine ⟨mdp_post d t s, mdp_recSpec T eb rs depth d hd t x s hh hnd hw hx hl, rfl, rfl, ?_, ?_, ?_⟩
  · intro id hid hne
    rw [mdp_ids_cons] at hid
    have : id ∈ (md_ids d t).tail := by
      rcases List.mem_cons.mp hid with h | h
      · exact absurd h hne
      · exact h
    simp [mdp_post, this]
  · have hnd' := hnd
    rw [mdp_ids_cons] at hnd'
    simp [mdp_post, (List.nodup_cons.mp hnd').1]
  · intro id hid
    have : id ∉ (md_ids d t).tail := fun h => hid (by rw [mdp_ids_cons]; exact List.mem_cons_of_mem _ h)
    simp [mdp_post, this]

/-- the generated receiver IS the model's popped tree: above a data slab -/
theorem Ob_MapSlab_PopIterate_heap_res_succ (d : Nat) (t : MTree r (d + 1)) (x : Option DX) (c : Ctx) :
    mdp_treeRes (d + 1) t x c = md_tree (d + 1) (MTree.popIterate (d + 1) t c).2.1 x := rfl

/-- on a data slab too (no hypothesis on the elements) -/
theorem Ob_MapSlab_PopIterate_heap_res_zero (sl : MDataSlab r) (x : Option DX) (c : Ctx) :
    mdp_treeRes 0 sl x c = md_tree 0 (MTree.popIterate 0 sl c).2.1 x := rfl

/-- loop 1 when child `j` is not in the heap: the children to its right (`j+1 .. j+k`) are popped and removed, then
    `getMapSlab` fails with `SlabNotFound` and the loop returns the receiver unchanged -/
theorem mdp_popLoop_notFound (T : Nat) (eb : DEnvB r) (rs : DRestruct r) (d : Nat)
    (rec_ : MapMetaDataSlab DX → MHSt r → Option (Option GE × MapMetaDataSlab DX × MHSt r))
    (hrec : mdp_RecSpec T eb rs d rec_) (m : MMetaSlab (MTree r d)) (x : Option DX)
    (hw : m.childHdrs = m.children.map (MTree.hdr d)) (j : Nat) (hj : j < m.children.length) :
    ∀ (k : Nat) (s : MHSt r), j + 1 + k ≤ m.children.length →
      s.heap (MTree.hdr d m.children[j]).id = none →
      (∀ c ∈ (m.children.take (j + 1 + k)).drop (j + 1), MHolds s.heap d c none) →
      (((m.children.take (j + 1 + k)).drop (j + 1)).flatMap (md_ids d)).Nodup →
      (∀ c ∈ (m.children.take (j + 1 + k)).drop (j + 1), mdp_Wf d c ∧ mdp_RootOk d c none ∧ mdp_LeafOk d c) →
      MapMetaDataSlab_PopIterate.loop1 (envD T eb rs) (md_meta m x) rec_ (j + 1 + k) s =
        .ret (some (some .slabNotFound, md_meta m x,
          mdp_kidsPost d ((m.children.take (j + 1 + k)).drop (j + 1)) s))
  | k, s, hn, hnone, hh, hnd, hok => by
    rw [mdp_loop_run T eb rs d rec_ hrec m x hw (j + 1) k s hn hh hnd hok]
    unfold MapMetaDataSlab_PopIterate.loop1
    simp only [mdp_goIdx m x hw _ hj]
    have hid : (md_hdr (MTree.hdr d m.children[j])).slabID = (MTree.hdr d m.children[j]).id := rfl
    rw [hid, getMapSlab_envD_none T eb rs _ _ (by simp [mdp_kidsPost, hnone])]
    simp

/-- `MapSlab.PopIterate` on an index slab one of whose children (`j`) the heap does not hold, the children to its right
    being held: the `SlabNotFound` error, the receiver UNCHANGED (headers not cleared, size not reset), the siblings to
    the right of `j` already popped (the callback saw their entries) and removed from the storage -/
theorem Ob_MapSlab_PopIterate_heap_notFound (T : Nat) (eb : DEnvB r) (rs : DRestruct r) (depth d : Nat)
    (hd : d + 1 ≤ depth) (m : MMetaSlab (MTree r d)) (x : Option DX) (s : MHSt r)
    (hw : m.childHdrs = m.children.map (MTree.hdr d)) (j : Nat) (hj : j < m.children.length)
    (hnone : s.heap (MTree.hdr d m.children[j]).id = none)
    (hh : ∀ c ∈ m.children.drop (j + 1), MHolds s.heap d c none)
    (hnd : ((m.children.drop (j + 1)).flatMap (md_ids d)).Nodup)
    (hok : ∀ c ∈ m.children.drop (j + 1), mdp_Wf d c ∧ mdp_RootOk d c none ∧ mdp_LeafOk d c) :
    MapSlab_PopIterate (envD T eb rs) (MapMetaDataSlab_PopIterate (envD T eb rs) depth) (md_tree (d + 1) m x) s =
      some (some .slabNotFound, md_tree (d + 1) m x, mdp_kidsPost d (m.children.drop (j + 1)) s) := by
  obtain ⟨depth, rfl⟩ : ∃ k, depth = k + 1 := ⟨depth - 1, by omega⟩
  have hrec := mdp_recSpec T eb rs depth d (by omega)
  have hlen : j + 1 + (m.children.length - (j + 1)) = m.children.length := by omega
  have hloop := mdp_popLoop_notFound T eb rs d _ hrec m x hw j hj (m.children.length - (j + 1)) s (by omega) hnone
  rw [hlen, List.take_length] at hloop
  have hloop' := hloop hh hnd hok
  show MapSlab_PopIterate _ _ (.metaSlab (md_meta m x)) s = _
  unfold MapSlab_PopIterate MapMetaDataSlab_PopIterate
  simp only [mdp_count m x hw, hloop']
  rfl

/-! non-vacuity: a depth-1 tree with two data slabs -/

def mdp_exKA : MKey := ⟨1, 7, [5]⟩
def mdp_exKB : MKey := ⟨1, 8, [9]⟩
def mdp_exA : MDataSlab 0 :=
  { hdr := ⟨⟨1, 2⟩, 36, 5⟩, next := ⟨1, 3⟩,
    elems := { hkeys := [5], elems := [.single ⟨mdp_exKA, default, 10⟩], size := 26, level := 0 },
    root := false, inlined := false }
def mdp_exB : MDataSlab 0 :=
  { hdr := ⟨⟨1, 3⟩, 36, 9⟩, next := SlabID.undef,
    elems := { hkeys := [9], elems := [.single ⟨mdp_exKB, default, 10⟩], size := 26, level := 0 },
    root := false, inlined := false }
def mdp_exM : MMetaSlab (MTree 0 0) :=
  { hdr := ⟨⟨1, 1⟩, 44, 5⟩, childHdrs := [mdp_exA.hdr, mdp_exB.hdr], children := [mdp_exA, mdp_exB], root := true }
def mdp_exX : Option DX := some (0, 2, 0)
def mdp_exSt : MHSt 0 := { heap := md_heapOf 1 mdp_exM mdp_exX, ctx := ⟨7, [], []⟩ }

theorem mdp_ex_hyps : MHolds mdp_exSt.heap 1 mdp_exM mdp_exX ∧ (md_ids 1 mdp_exM).Nodup ∧ mdp_Wf 1 mdp_exM ∧
    mdp_RootOk 1 mdp_exM mdp_exX ∧ mdp_LeafOk 1 mdp_exM := by
  refine ⟨⟨rfl, ?_⟩, by decide, ⟨rfl, fun _ _ => trivial⟩, trivial, ?_⟩
  · intro c hc
    rcases List.mem_cons.mp hc with rfl | hc
    · exact (rfl : md_heapOf 1 mdp_exM mdp_exX ⟨1, 2⟩ = _)
    · rcases List.mem_cons.mp hc with rfl | hc
      · exact (rfl : md_heapOf 1 mdp_exM mdp_exX ⟨1, 3⟩ = _)
      · cases hc
  · intro c hc
    rcases List.mem_cons.mp hc with rfl | hc
    · exact ⟨rfl, trivial⟩
    · rcases List.mem_cons.mp hc with rfl | hc
      · exact ⟨rfl, trivial⟩
      · cases hc

/-- `Ob_MapDataSlab_PopIterate_heap` on a concrete non-root data slab: size 18 + 8, first key 0, elements emptied,
    one entry popped -/
example (T : Nat) (eb : DEnvB 0) (rs : DRestruct 0) :
    ∃ q, MapDataSlab_PopIterate (envD T eb rs) (md_data mdp_exA none) mdp_exSt = q ∧
      q.1 = none ∧ q.2.1.header.size = 26 ∧ q.2.1.header.firstKey = 0 ∧ q.2.1.elements = ⟨[], [], 8, 0⟩ ∧
      q.2.2.popped = [(mdp_exKA, default)] :=
  ⟨_, Ob_MapDataSlab_PopIterate_heap T eb rs mdp_exA none mdp_exSt rfl, rfl, rfl, rfl, rfl, rfl⟩

/-- `Ob_MapSlab_PopIterate_heap` on the depth-1 tree: both children popped LAST TO FIRST, both removed, the root kept -/
example (T : Nat) (eb : DEnvB 0) (rs : DRestruct 0) :
    ∃ s' : MHSt 0,
      MapSlab_PopIterate (envD T eb rs) (MapMetaDataSlab_PopIterate (envD T eb rs) 1) (md_tree 1 mdp_exM mdp_exX)
        mdp_exSt = some (none, .metaSlab ⟨⟨⟨1, 1⟩, 12, 0⟩, [], mdp_exX⟩, s') ∧
      s'.popped = [(mdp_exKB, default), (mdp_exKA, default)] ∧
      s'.ctx.eff = [.remove ⟨1, 3⟩, .remove ⟨1, 2⟩] ∧
      s'.heap ⟨1, 2⟩ = none ∧ s'.heap ⟨1, 3⟩ = none ∧ s'.heap ⟨1, 1⟩ = mdp_exSt.heap ⟨1, 1⟩ := by
  obtain ⟨h1, h2, h3, h4, h5⟩ := mdp_ex_hyps
  obtain ⟨s', he, hc, hp, hg, hr, _⟩ := Ob_MapSlab_PopIterate_heap T eb rs 1 1 (Nat.le_refl _) mdp_exM mdp_exX mdp_exSt
    h1 h2 h3 h4 h5
  refine ⟨s', he, hp, ?_, hg ⟨1, 2⟩ (by decide) (by decide), hg ⟨1, 3⟩ (by decide) (by decide), hr⟩
  rw [hc]; rfl

/-- `Ob_MapSlab_PopIterate_heap_notFound`: the heap holds child 1 only; child 1 is popped and removed, then child 0 is
    not found: the error, the receiver unchanged -/
example (T : Nat) (eb : DEnvB 0) (rs : DRestruct 0) :
    let s : MHSt 0 := { heap := fun id => if id = ⟨1, 3⟩ then some (md_tree 0 mdp_exB none) else none, ctx := ⟨7, [], []⟩ }
    ∃ s' : MHSt 0,
      MapSlab_PopIterate (envD T eb rs) (MapMetaDataSlab_PopIterate (envD T eb rs) 1) (md_tree 1 mdp_exM mdp_exX) s =
        some (some .slabNotFound, md_tree 1 mdp_exM mdp_exX, s') ∧
      s'.popped = [(mdp_exKB, default)] ∧ s'.ctx.eff = [.remove ⟨1, 3⟩] ∧ s'.heap ⟨1, 3⟩ = none := by
  intro s
  refine ⟨_, Ob_MapSlab_PopIterate_heap_notFound T eb rs 1 0 (Nat.le_refl _) mdp_exM mdp_exX s rfl 0 (by decide) rfl
    ?_ (by decide) ?_, rfl, rfl, rfl⟩
  · intro c hc
    rcases List.mem_cons.mp hc with rfl | hc
    · exact (rfl : s.heap ⟨1, 3⟩ = _)
    · cases hc
  · intro c hc
    rcases List.mem_cons.mp hc with rfl | hc
    · exact ⟨trivial, rfl, trivial⟩
    · cases hc

end Atree.TransEq

import AtreeProofs.Trans.MapDescent
import AtreeProofs.Props.TransElemSlab
/-
  `Remove` of the map descent: the generated `MapMetaDataSlab_Remove` / `MapDataSlab_Remove` / `MapSlab_Remove` of
  `Gen/TransMapDescent.lean` (namespace `Atree.Gen.TransMapD`) over a heap of slabs (`envD T eb rs`, Trans/MapDescent.lean).

  * `mdr_Remove_loop1`      the binary search fuel loop = the model's `MMetaSlab.findChild` (`-1` <-> `none`)
  * `Ob_MapDataSlab_Remove_heap`   the leaf: `MapDataSlab.Remove` on a data slab of the tree = `MDataSlab.remove`
  * `Ob_MapMetaDataSlab_Remove_step` (+ `_keyNotFound`, `_slabNotFound`, `_childErr`)   ONE level of the descent, for ANY
    restructuring record `rs` and ANY element layer `eb`: search, child fetched from the heap, dispatch on the child,
    header / firstKey refresh, then split / mergeOrRebalance / storeSlab.
-/
namespace Atree.TransEq
open Atree Atree.Gen.TransMapD

/-- Go's `ans` (an `int`, `-1` = no child found yet) -/
def mdr_enc : Option Nat → Int
  | none => -1
  | some n => Int.ofNat n

@[simp] theorem mdr_enc_none : mdr_enc none = -1 := rfl
@[simp] theorem mdr_enc_some (n : Nat) : mdr_enc (some n) = Int.ofNat n := rfl

theorem mdr_enc_eq_neg1 (a : Option Nat) : (mdr_enc a = (-1 : Int)) ↔ a = none := by
  cases a with
  | none => simp
  | some n => simp only [mdr_enc_some, Int.ofNat_eq_natCast, reduceCtorEq, iff_false]


section loop
variable {r : Nat} (env : DEnv r)

/-- the binary search of `MapMetaDataSlab.Remove` = the model's `MMetaSlab.findChild`: with enough fuel the loop never
    runs out of fuel (never `.ret`), and its `ans` encodes the model's result (`-1` <-> `none`) -/
theorem mdr_Remove_loop1 {α : Type} (m : MMetaSlab α) (x : Option DX) (hk : Nat) (hhk : hk < 2^64)
    (hfk : ∀ h ∈ m.childHdrs, h.firstKey < 2^64) (hlen : m.childHdrs.length < 2^62) :
    ∀ (fuel i j : Nat) (a : Option Nat), i ≤ j → j ≤ m.childHdrs.length → j - i < fuel →
      ∃ i' j' : Int, MapMetaDataSlab_Remove.loop1 env (md_meta m x) (u64 hk) fuel (mdr_enc a) (Int.ofNat i) (Int.ofNat j) =
        .done (mdr_enc (MMetaSlab.findChild m.childHdrs hk i j a fuel), i', j') := by
  intro fuel i j a hij hj hf
  obtain ⟨i', j', e⟩ := md_bsearch_findChild m.childHdrs hk hhk hfk hlen mdr_enc (fun _ => rfl) fuel i j a hij hj hf
  exact ⟨i', j', by rw [md_Remove_loop1_eq]; exact congrArg md_loopOf e⟩

/-- the search as `MapMetaDataSlab.Remove` starts it: `ans = -1`, `i = 0`, `j = len(childrenHeaders)`, fuel `j - i + 1` -/
theorem mdr_Remove_loop1_top {α : Type} (m : MMetaSlab α) (x : Option DX) (hk : Nat) (hhk : hk < 2^64)
    (hfk : ∀ h ∈ m.childHdrs, h.firstKey < 2^64) (hlen : m.childHdrs.length < 2^62) :
    ∃ i' j' : Int, MapMetaDataSlab_Remove.loop1 env (md_meta m x) (u64 hk) (m.childHdrs.length + 1) (-1 : Int) (0 : Int)
        (Int.ofNat m.childHdrs.length) =
      .done (mdr_enc (MMetaSlab.findChild m.childHdrs hk 0 m.childHdrs.length none (m.childHdrs.length + 1)), i', j') :=
  mdr_Remove_loop1 env m x hk hhk hfk hlen (m.childHdrs.length + 1) 0 m.childHdrs.length none (Nat.zero_le _)
    (Nat.le_refl _) (by omega)
end loop

/-- the storage after `MapDataSlab.Remove`: context `c'` (the model's, it contains the `store` effect) and, unless the slab
    is inlined, the new slab stored under its identifier -/
def mdr_leafSt {r : Nat} (s : MHSt r) (sl' : MDataSlab r) (x : Option DX) (c' : Ctx) : MHSt r :=
  { heap := if sl'.inlined then s.heap else fun i => if i = sl'.hdr.id then some (.dataSlab (md_data sl' x)) else s.heap i,
    ctx := c', popped := s.popped }

/-- `MapDataSlab.Remove` on a data slab of the tree, over a heap = the model's `MDataSlab.remove`: results, the new slab,
    the slab stored (`storeSlab`) unless inlined, the `Ctx` of the model; next to an error nothing changed -/
theorem Ob_MapDataSlab_Remove_heap {r : Nat} (T : Nat) (eb : DEnvB r) (rs : DRestruct r) (cfg : MCfg) (k : MKey) (v : Elem)
    (P : DG r → Prop) (hE : ElemsSpec cfg k v P eb) (sl : MDataSlab r) (x : Option DX) (hx : x.isSome = sl.root)
    (hP : P sl.elems) (s : MHSt r) :
    MapDataSlab_Remove (envD T eb rs) (md_data sl x) s k (u64 0) (u64 (k.dig 0)) (.key k) =
      match MDataSlab.remove cfg sl k s.ctx with
      | .ok (rk, rv, sl', c') => some (some (.key rk), some (.val rv), none, md_data sl' x, mdr_leafSt s sl' x c')
      | .error err => some (none, none, some err, md_data sl x, s) := by
  have hg := hE.remove sl.elems s.ctx hP
  unfold MapDataSlab_Remove MDataSlab.remove
  have e0 : (md_data sl x).elements = sl.elems := rfl
  simp only [envD_elemRemove, e0, hg, MDataSlab.eops, bind, Except.bind, pure, Except.pure]
  rcases HkeyElems.remove (MElems.ops r) cfg sl.elems 0 k s.ctx with err | ⟨rk, rv, g', c'⟩
  · simp only [mei_rGRemove, Option.isNone_some, Bool.not_false, if_true]
    rfl
  · simp only [mei_rGRemove, Option.isNone_none, Bool.not_true, Bool.false_eq_true, if_false, envD_elemFirst, envD_elemSize,
      hE.first, hE.size, md_getPrefixSize _ sl x hx]
    cases hi : sl.inlined
    · have e1 : (md_data sl x).inlined = false := hi
      simp only [e1, Bool.not_false, if_true, storeSlab, MapSlab_SlabID, MapDataSlab_SlabID, envD_store,
        Option.isNone_none, Bool.not_true, Bool.false_eq_true, if_false]
      simp only [md_data, md_hdr, mdr_leafSt, MDataSlab.storeIfNotInlined, hi, Bool.false_eq_true, if_false,
        MHSt.store, MHSt.withCtx, u32_add_eq]
    · have e1 : (md_data sl x).inlined = true := hi
      simp only [e1, Bool.not_true, Bool.false_eq_true, if_false]
      simp only [md_data, md_hdr, mdr_leafSt, MDataSlab.storeIfNotInlined, hi, if_true,
        MHSt.withCtx, u32_add_eq]

section step
variable {r : Nat} (T : Nat) (eb : DEnvB r) (rs : DRestruct r)

/-- the header of a (non-nil) slab value -/
def mdr_hdrOf : DSlab r → MapSlabHeader
  | .nil => {}
  | .dataSlab o => o.header
  | .metaSlab o => o.header

/-- the receiver after the child came back: `m.childrenHeaders[i] = child.Header()`, and
    `if i == 0 { m.header.firstKey = m.childrenHeaders[0].firstKey }` -/
def mdr_m1 (m : MapMetaDataSlab DX) (i : Nat) (h : MapSlabHeader) : MapMetaDataSlab DX :=
  { m with childrenHeaders := m.childrenHeaders.set i h,
           header := if i = 0 then { m.header with firstKey := h.firstKey } else m.header }

/-- what `MapMetaDataSlab.Remove` does after the header refresh: `SplitChildSlab` if the child is full, else
    `MergeOrRebalanceChildSlab` if it underflows, else `storeSlab(m)` -/
def mdr_after (m1 : MapMetaDataSlab DX) (s1 : MHSt r) (child' : DSlab r) (i : Nat) (rk rv : Option SV) :
    Option (Option SV × Option SV × Option GE × MapMetaDataSlab DX × MHSt r) :=
  match MapSlab_IsFull (envD T eb rs) child' with
  | none => none
  | some true =>
    let q := rs.splitChild m1 s1 child' (Int.ofNat i)
    if (!q.1.isNone) then some (none, none, q.1, q.2.1, q.2.2.1) else some (rk, rv, none, q.2.1, q.2.2.1)
  | some false =>
    match MapSlab_IsUnderflow (envD T eb rs) child' with
    | none => none
    | some (u, true) =>
      let q := rs.mergeOrRebalance m1 s1 child' (Int.ofNat i) u
      if (!q.1.isNone) then some (none, none, q.1, q.2.1, q.2.2.1) else some (rk, rv, none, q.2.1, q.2.2.1)
    | some (_, false) => some (rk, rv, none, m1, s1.store m1.header.slabID (.metaSlab m1))

/-- the dispatch never returns a nil slab, and panics on a nil receiver -/
theorem mdr_disp_nonnil {rec_ : MapMetaDataSlab DX → MHSt r → MKey → UInt64 → UInt64 → SW →
      Option (Option SV × Option SV × Option GE × MapMetaDataSlab DX × MHSt r)}
    {child child' : DSlab r} {s s1 : MHSt r} {d : MKey} {l hk : UInt64} {w : SW} {rk rv : Option SV} {e : Option GE}
    (h : MapSlab_Remove (envD T eb rs) rec_ child s d l hk w = some (rk, rv, e, child', s1)) :
    child.isNil = false ∧ MapSlab_Header (envD T eb rs) child' = some (mdr_hdrOf child') := by
  unfold MapSlab_Remove at h
  cases child with
  | nil => simp at h
  | dataSlab o =>
    refine ⟨rfl, ?_⟩
    simp only at h
    split at h
    · simp at h
    · simp only [Option.some.injEq, Prod.mk.injEq] at h
      rw [← h.2.2.2.1]; rfl
  | metaSlab o =>
    refine ⟨rfl, ?_⟩
    simp only at h
    split at h
    · simp at h
    · simp only [Option.some.injEq, Prod.mk.injEq] at h
      rw [← h.2.2.2.1]; rfl

variable {α : Type} (m : MMetaSlab α) (x : Option DX) (s : MHSt r) (k : MKey) (hk : Nat) (depth : Nat)

/-- the key is not in the range of any child (`ans` stays `-1`): `KeyNotFoundError`, nothing changed -/
theorem Ob_MapMetaDataSlab_Remove_keyNotFound (hhk : hk < 2^64) (hfk : ∀ h ∈ m.childHdrs, h.firstKey < 2^64)
    (hlen : m.childHdrs.length < 2^62)
    (hfind : MMetaSlab.findChild m.childHdrs hk 0 m.childHdrs.length none (m.childHdrs.length + 1) = none) :
    MapMetaDataSlab_Remove (envD T eb rs) (depth + 1) (md_meta m x) s k (u64 0) (u64 hk) (.key k) =
      some (none, none, some .keyNotFound, md_meta m x, s) := by
  obtain ⟨i', j', hl⟩ := mdr_Remove_loop1_top (envD T eb rs) m x hk hhk hfk hlen
  rw [hfind] at hl
  have elen : (md_meta m x).childrenHeaders.length = m.childHdrs.length := by simp [md_meta]
  have efuel : (Int.ofNat m.childHdrs.length - (0 : Int) + 1).toNat = m.childHdrs.length + 1 := by
    simp only [Int.ofNat_eq_natCast]; omega
  unfold MapMetaDataSlab_Remove
  simp only [elen, efuel, hl, mdr_enc_none, decide_true, if_true, envD_knf]

theorem mdr_m1_slabID (M : MapMetaDataSlab DX) (i : Nat) (h : MapSlabHeader) : (mdr_m1 M i h).header.slabID = M.header.slabID := by
  unfold mdr_m1; split <;> rfl

/-- the part of `MapMetaDataSlab.Remove` up to the child's `Remove` -/
theorem mdr_Remove_prefix (hhk : hk < 2^64) (hfk : ∀ h ∈ m.childHdrs, h.firstKey < 2^64)
    (hlen : m.childHdrs.length < 2^62) (i : Nat)
    (hfind : MMetaSlab.findChild m.childHdrs hk 0 m.childHdrs.length none (m.childHdrs.length + 1) = some i)
    (hi : i < m.childHdrs.length) :
    MapMetaDataSlab_Remove (envD T eb rs) (depth + 1) (md_meta m x) s k (u64 0) (u64 hk) (.key k) =
      (let r5_ := getMapSlab (envD T eb rs) s (m.childHdrs.getD i default).id
       if (!r5_.2.1.isNone) then some (none, none, r5_.2.1, md_meta m x, r5_.2.2)
       else
        match MapSlab_Remove (envD T eb rs) (MapMetaDataSlab_Remove (envD T eb rs) depth) r5_.1 r5_.2.2 k (u64 0) (u64 hk)
            (.key k) with
        | none => none
        | some r6_ =>
          if (!r6_.2.2.1.isNone) then some (none, none, r6_.2.2.1, md_meta m x, r6_.2.2.2.2)
          else
            match MapSlab_Header (envD T eb rs) r6_.2.2.2.1 with
            | none => none
            | some p7_ => mdr_after T eb rs (mdr_m1 (md_meta m x) i p7_) r6_.2.2.2.2 r6_.2.2.2.1 i r6_.1 r6_.2.1) := by
  obtain ⟨i', j', hl⟩ := mdr_Remove_loop1_top (envD T eb rs) m x hk hhk hfk hlen
  rw [hfind] at hl
  have elen : (md_meta m x).childrenHeaders.length = m.childHdrs.length := by simp [md_meta]
  have efuel : (Int.ofNat m.childHdrs.length - (0 : Int) + 1).toNat = m.childHdrs.length + 1 := by
    simp only [Int.ofNat_eq_natCast]; omega
  have hne : ¬ (Int.ofNat i = (-1 : Int)) := by simp only [Int.ofNat_eq_natCast]; omega
  have hrange : goInRange (md_meta m x).childrenHeaders (Int.ofNat i) = true := by
    simp only [goInRange, elen, Int.ofNat_eq_natCast, Bool.and_eq_true, decide_eq_true_eq]; omega
  unfold MapMetaDataSlab_Remove
  simp only [elen, efuel, hl, mdr_enc_some, hne, decide_false, Bool.false_eq_true, if_false, show goIdx (md_meta m x).childrenHeaders (Int.ofNat i) = _ from md_goIdx_hdrs m.childHdrs i hi, md_hdr]
  rcases getMapSlab (envD T eb rs) s (m.childHdrs.getD i default).id with ⟨c5, e5, s5⟩
  cases e5 with
  | some e => rfl
  | none =>
    simp only [Option.isNone_none, Bool.not_true, Bool.false_eq_true, if_false]
    generalize MapSlab_Remove (envD T eb rs) (MapMetaDataSlab_Remove (envD T eb rs) depth) c5 s5 k (u64 0) (u64 hk)
      (.key k) = q6
    cases q6 with
    | none => rfl
    | some r6 =>
      obtain ⟨rk, rv, e6, c6, s6⟩ := r6
      cases e6 with
      | some e => rfl
      | none =>
        simp only [Option.isNone_none, Bool.not_true, Bool.false_eq_true, if_false]
        cases MapSlab_Header (envD T eb rs) c6 with
        | none => rfl
        | some p7 =>
          simp only []
          simp only [hrange, if_true, show (Int.ofNat i).toNat = i from rfl, int_deq_zero]
          have hset : i < (md_meta m x).childrenHeaders.length := by rw [elen]; exact hi
          generalize hL : (if decide (i = 0) = true then _ else _ : Loop _ (MapMetaDataSlab DX)) = L
          have hL' : L = Loop.done (mdr_m1 (md_meta m x) i p7) := by
            rw [← hL]
            by_cases c0 : i = 0
            · subst c0
              simp only [decide_true, if_true, goIdx_eq, sliceIdx_ofNat, List.getElem?_set_self hset]
              rfl
            · simp only [c0, decide_false, Bool.false_eq_true, if_false, mdr_m1]
          rw [hL']
          simp only [mdr_after, envD_splitChild, envD_mor, storeSlab, MapSlab_SlabID, MapMetaDataSlab_SlabID, envD_store,
            Option.isNone_none, Bool.not_true, Bool.false_eq_true, if_false, mdr_m1_slabID]
          cases MapSlab_IsFull (envD T eb rs) c6 with
          | none => rfl
          | some b =>
            cases b with
            | true => rfl
            | false =>
              simp only [Bool.false_eq_true, if_false]
              cases MapSlab_IsUnderflow (envD T eb rs) c6 with
              | none => rfl
              | some p =>
                obtain ⟨u, b⟩ := p
                cases b <;> rfl

/-- ONE level of `MapMetaDataSlab.Remove` (for ANY restructuring record `rs`, ANY element layer `eb`): the search finds
    child `i`, the heap holds `child` under the identifier of header `i`, the dispatch on the child returned
    `(rk, rv, nil, child', s1)`.  Then the receiver gets header `i` := `child'.Header()` and (iff `i = 0`) its `firstKey`
    refreshed (`mdr_m1`), and (`mdr_after`): `SplitChildSlab` if `child'` is full, else `MergeOrRebalanceChildSlab` if it
    underflows, else `storeSlab(m)`; the removed key / value are returned -/
theorem Ob_MapMetaDataSlab_Remove_step (hhk : hk < 2^64) (hfk : ∀ h ∈ m.childHdrs, h.firstKey < 2^64)
    (hlen : m.childHdrs.length < 2^62) (i : Nat)
    (hfind : MMetaSlab.findChild m.childHdrs hk 0 m.childHdrs.length none (m.childHdrs.length + 1) = some i)
    (hi : i < m.childHdrs.length) (child child' : DSlab r) (s1 : MHSt r) (rk rv : Option SV)
    (hheap : s.heap (m.childHdrs.getD i default).id = some child)
    (hdisp : MapSlab_Remove (envD T eb rs) (MapMetaDataSlab_Remove (envD T eb rs) depth) child s k (u64 0) (u64 hk) (.key k) =
      some (rk, rv, none, child', s1)) :
    MapMetaDataSlab_Remove (envD T eb rs) (depth + 1) (md_meta m x) s k (u64 0) (u64 hk) (.key k) =
      mdr_after T eb rs (mdr_m1 (md_meta m x) i (mdr_hdrOf child')) s1 child' i rk rv := by
  obtain ⟨hn, hh⟩ := mdr_disp_nonnil T eb rs hdisp
  rw [mdr_Remove_prefix T eb rs m x s k hk depth hhk hfk hlen i hfind hi]
  simp only [getMapSlab_envD_some T eb rs s _ child hheap hn, Option.isNone_none, Bool.not_true, Bool.false_eq_true,
    if_false, hdisp, hh]

/-- the child is not in the storage: `SlabNotFoundError`, nothing changed -/
theorem Ob_MapMetaDataSlab_Remove_slabNotFound (hhk : hk < 2^64) (hfk : ∀ h ∈ m.childHdrs, h.firstKey < 2^64)
    (hlen : m.childHdrs.length < 2^62) (i : Nat)
    (hfind : MMetaSlab.findChild m.childHdrs hk 0 m.childHdrs.length none (m.childHdrs.length + 1) = some i)
    (hi : i < m.childHdrs.length) (hheap : s.heap (m.childHdrs.getD i default).id = none) :
    MapMetaDataSlab_Remove (envD T eb rs) (depth + 1) (md_meta m x) s k (u64 0) (u64 hk) (.key k) =
      some (none, none, some .slabNotFound, md_meta m x, s) := by
  rw [mdr_Remove_prefix T eb rs m x s k hk depth hhk hfk hlen i hfind hi]
  simp only [getMapSlab_envD_none T eb rs s _ hheap, Option.isNone_some, Bool.not_false, if_true]

/-- the child's `Remove` returned an error: passed on, the receiver unchanged (no header refresh, no store) -/
theorem Ob_MapMetaDataSlab_Remove_childErr (hhk : hk < 2^64) (hfk : ∀ h ∈ m.childHdrs, h.firstKey < 2^64)
    (hlen : m.childHdrs.length < 2^62) (i : Nat)
    (hfind : MMetaSlab.findChild m.childHdrs hk 0 m.childHdrs.length none (m.childHdrs.length + 1) = some i)
    (hi : i < m.childHdrs.length) (child child' : DSlab r) (s1 : MHSt r) (rk rv : Option SV) (e : GE)
    (hheap : s.heap (m.childHdrs.getD i default).id = some child)
    (hdisp : MapSlab_Remove (envD T eb rs) (MapMetaDataSlab_Remove (envD T eb rs) depth) child s k (u64 0) (u64 hk) (.key k) =
      some (rk, rv, some e, child', s1)) :
    MapMetaDataSlab_Remove (envD T eb rs) (depth + 1) (md_meta m x) s k (u64 0) (u64 hk) (.key k) =
      some (none, none, some e, md_meta m x, s1) := by
  obtain ⟨hn, _⟩ := mdr_disp_nonnil T eb rs hdisp
  rw [mdr_Remove_prefix T eb rs m x s k hk depth hhk hfk hlen i hfind hi]
  simp only [getMapSlab_envD_some T eb rs s _ child hheap hn, Option.isNone_none, Bool.not_true, Bool.false_eq_true,
    if_false, hdisp, Option.isNone_some, Bool.not_false, if_true]

/-- the store branch spelled out: neither full nor underflowing -> `storeSlab(m)` -/
theorem Ob_MapMetaDataSlab_Remove_step_store (hhk : hk < 2^64) (hfk : ∀ h ∈ m.childHdrs, h.firstKey < 2^64)
    (hlen : m.childHdrs.length < 2^62) (i : Nat)
    (hfind : MMetaSlab.findChild m.childHdrs hk 0 m.childHdrs.length none (m.childHdrs.length + 1) = some i)
    (hi : i < m.childHdrs.length) (child child' : DSlab r) (s1 : MHSt r) (rk rv : Option SV)
    (hheap : s.heap (m.childHdrs.getD i default).id = some child)
    (hdisp : MapSlab_Remove (envD T eb rs) (MapMetaDataSlab_Remove (envD T eb rs) depth) child s k (u64 0) (u64 hk) (.key k) =
      some (rk, rv, none, child', s1))
    (hfull : MapSlab_IsFull (envD T eb rs) child' = some false) (u : UInt32)
    (hunder : MapSlab_IsUnderflow (envD T eb rs) child' = some (u, false)) :
    MapMetaDataSlab_Remove (envD T eb rs) (depth + 1) (md_meta m x) s k (u64 0) (u64 hk) (.key k) =
      some (rk, rv, none, mdr_m1 (md_meta m x) i (mdr_hdrOf child'),
        s1.store m.hdr.id (.metaSlab (mdr_m1 (md_meta m x) i (mdr_hdrOf child')))) := by
  rw [Ob_MapMetaDataSlab_Remove_step T eb rs m x s k hk depth hhk hfk hlen i hfind hi child child' s1 rk rv hheap hdisp]
  simp only [mdr_after, hfull, hunder]
  have : (mdr_m1 (md_meta m x) i (mdr_hdrOf child')).header.slabID = m.hdr.id := by
    simp only [mdr_m1]; split <;> rfl
  rw [this]

/-- the split branch spelled out -/
theorem Ob_MapMetaDataSlab_Remove_step_split (hhk : hk < 2^64) (hfk : ∀ h ∈ m.childHdrs, h.firstKey < 2^64)
    (hlen : m.childHdrs.length < 2^62) (i : Nat)
    (hfind : MMetaSlab.findChild m.childHdrs hk 0 m.childHdrs.length none (m.childHdrs.length + 1) = some i)
    (hi : i < m.childHdrs.length) (child child' : DSlab r) (s1 : MHSt r) (rk rv : Option SV)
    (hheap : s.heap (m.childHdrs.getD i default).id = some child)
    (hdisp : MapSlab_Remove (envD T eb rs) (MapMetaDataSlab_Remove (envD T eb rs) depth) child s k (u64 0) (u64 hk) (.key k) =
      some (rk, rv, none, child', s1))
    (hfull : MapSlab_IsFull (envD T eb rs) child' = some true) (m' : MapMetaDataSlab DX) (s' : MHSt r) (c'' : DSlab r)
    (hsplit : rs.splitChild (mdr_m1 (md_meta m x) i (mdr_hdrOf child')) s1 child' (Int.ofNat i) = (none, m', s', c'')) :
    MapMetaDataSlab_Remove (envD T eb rs) (depth + 1) (md_meta m x) s k (u64 0) (u64 hk) (.key k) =
      some (rk, rv, none, m', s') := by
  rw [Ob_MapMetaDataSlab_Remove_step T eb rs m x s k hk depth hhk hfk hlen i hfind hi child child' s1 rk rv hheap hdisp]
  simp only [mdr_after, hfull, hsplit, Option.isNone_none, Bool.not_true, Bool.false_eq_true, if_false]

/-- the merge / rebalance branch spelled out -/
theorem Ob_MapMetaDataSlab_Remove_step_merge (hhk : hk < 2^64) (hfk : ∀ h ∈ m.childHdrs, h.firstKey < 2^64)
    (hlen : m.childHdrs.length < 2^62) (i : Nat)
    (hfind : MMetaSlab.findChild m.childHdrs hk 0 m.childHdrs.length none (m.childHdrs.length + 1) = some i)
    (hi : i < m.childHdrs.length) (child child' : DSlab r) (s1 : MHSt r) (rk rv : Option SV)
    (hheap : s.heap (m.childHdrs.getD i default).id = some child)
    (hdisp : MapSlab_Remove (envD T eb rs) (MapMetaDataSlab_Remove (envD T eb rs) depth) child s k (u64 0) (u64 hk) (.key k) =
      some (rk, rv, none, child', s1))
    (hfull : MapSlab_IsFull (envD T eb rs) child' = some false) (u : UInt32)
    (hunder : MapSlab_IsUnderflow (envD T eb rs) child' = some (u, true)) (m' : MapMetaDataSlab DX) (s' : MHSt r)
    (c'' : DSlab r)
    (hmor : rs.mergeOrRebalance (mdr_m1 (md_meta m x) i (mdr_hdrOf child')) s1 child' (Int.ofNat i) u = (none, m', s', c'')) :
    MapMetaDataSlab_Remove (envD T eb rs) (depth + 1) (md_meta m x) s k (u64 0) (u64 hk) (.key k) =
      some (rk, rv, none, m', s') := by
  rw [Ob_MapMetaDataSlab_Remove_step T eb rs m x s k hk depth hhk hfk hlen i hfind hi child child' s1 rk rv hheap hdisp]
  simp only [mdr_after, hfull, hunder, hmor, Option.isNone_none, Bool.not_true, Bool.false_eq_true, if_false]

end step

/-! non-vacuity: a 2-child index slab over two data slabs, the element layer `mei_envH` -/

namespace MdrEx
open MeiEx
def ebx : DEnvB 0 := mei_envH (MElems.ops 0) cfg k1 v3 (fun c _ => (.nil, false, none, c))
theorem ebx_ok : ElemsSpec cfg k1 v3 (fun _ => True) ebx :=
  ElemsSpec.of_EnvB (mei_envH_ok (MElems.ops 0) cfg k1 v3 _)
def kB : MKey := { size := 3, pay := 21, digs := [20, 1] }
def xB : SElem := { key := kB, val := v2, size := 8 }
def dA : MDataSlab 0 :=
  { hdr := { id := ⟨1, 2⟩, size := 24, firstKey := 5 }, next := ⟨1, 3⟩,
    elems := ({ level := 0, hkeys := [5], elems := [.single x1], size := 20 } : HkeyElems SingleElems), root := false, inlined := false }
def dB : MDataSlab 0 :=
  { hdr := { id := ⟨1, 3⟩, size := 24, firstKey := 20 }, next := SlabID.undef,
    elems := ({ level := 0, hkeys := [20], elems := [.single xB], size := 20 } : HkeyElems SingleElems), root := false, inlined := false }
def mm : MMetaSlab (MTree 0 0) :=
  { hdr := { id := ⟨1, 1⟩, size := 50, firstKey := 5 }, childHdrs := [dA.hdr, dB.hdr], children := [dA, dB], root := true }
def xx : Option DX := some (0, 2, 0)
def s0 : MHSt 0 :=
  { heap := fun id => if id = ⟨1, 2⟩ then some (.dataSlab (md_data dA none))
      else if id = ⟨1, 3⟩ then some (.dataSlab (md_data dB none)) else none, ctx := c0 }
def rsx : DRestruct 0 :=
  { splitChild := fun m s c _ => (none, m, s, c), mergeOrRebalance := fun m s c _ _ => (none, m, s, c),
    splitRoot := fun m => (none, m), promote := fun m _ => (none, m) }

/-- the leaf after `k1` left: empty, header refreshed -/
def dA' : MDataSlab 0 :=
  { hdr := { id := ⟨1, 2⟩, size := 22, firstKey := 0 }, next := ⟨1, 3⟩,
    elems := ({ level := 0, hkeys := [], elems := [], size := 4 } : HkeyElems SingleElems), root := false, inlined := false }
def cA : Ctx := { ctr := 5, eff := [.store ⟨1, 2⟩] }

/-- non-vacuity of `Ob_MapDataSlab_Remove_heap`: the key is removed, the slab stored -/
example (T : Nat) : MapDataSlab_Remove (envD T ebx rsx) (md_data dA none) s0 k1 (u64 0) (u64 5) (.key k1) =
    some (some (.key k1), some (.val v1), none, md_data dA' none, mdr_leafSt s0 dA' none cA) :=
  (Ob_MapDataSlab_Remove_heap T ebx rsx cfg k1 v3 _ ebx_ok dA none rfl trivial s0).trans rfl

/-- ... and an absent key: `KeyNotFoundError`, nothing changed -/
example (T : Nat) : MapDataSlab_Remove (envD T ebx rsx) (md_data dB none) s0 k1 (u64 0) (u64 5) (.key k1) =
    some (none, none, some .keyNotFound, md_data dB none, s0) :=
  (Ob_MapDataSlab_Remove_heap T ebx rsx cfg k1 v3 _ ebx_ok dB none rfl trivial s0).trans rfl

theorem hdispA (T depth : Nat) :
    MapSlab_Remove (envD T ebx rsx) (MapMetaDataSlab_Remove (envD T ebx rsx) depth) (.dataSlab (md_data dA none)) s0 k1 (u64 0)
      (u64 5) (.key k1) =
    some (some (.key k1), some (.val v1), none, .dataSlab (md_data dA' none), mdr_leafSt s0 dA' none cA) := by
  simp only [MapSlab_Remove]
  rw [show u64 5 = u64 (k1.dig 0) from rfl, Ob_MapDataSlab_Remove_heap T ebx rsx cfg k1 v3 _ ebx_ok dA none rfl trivial s0]
  rfl

/-- the receiver after the descent: header 0 := the child's new header, `firstKey` refreshed (5 -> 0) -/
def mm1 : MapMetaDataSlab DX :=
  { header := { slabID := ⟨1, 1⟩, size := 50, firstKey := 0 },
    childrenHeaders := [{ slabID := ⟨1, 2⟩, size := 22, firstKey := 0 }, { slabID := ⟨1, 3⟩, size := 24, firstKey := 20 }],
    extraData := xx }

/-- non-vacuity of the step theorem, store branch (`T = 16`: 8 <= 22 <= 24): header and firstKey refreshed, `storeSlab` -/
example : MapMetaDataSlab_Remove (envD 16 ebx rsx) 1 (md_meta mm xx) s0 k1 (u64 0) (u64 5) (.key k1) =
    some (some (.key k1), some (.val v1), none, mm1, (mdr_leafSt s0 dA' none cA).store ⟨1, 1⟩ (.metaSlab mm1)) :=
  Ob_MapMetaDataSlab_Remove_step_store 16 ebx rsx mm xx s0 k1 5 0 (by decide) (by decide) (by decide) 0 rfl (by decide)
    _ _ _ _ _ rfl (hdispA 16 0) rfl 0 rfl

/-- split branch (`T = 4`: 22 > 6): `rs.splitChild` is called with the refreshed receiver -/
example : MapMetaDataSlab_Remove (envD 4 ebx rsx) 1 (md_meta mm xx) s0 k1 (u64 0) (u64 5) (.key k1) =
    some (some (.key k1), some (.val v1), none, mm1, mdr_leafSt s0 dA' none cA) :=
  Ob_MapMetaDataSlab_Remove_step_split 4 ebx rsx mm xx s0 k1 5 0 (by decide) (by decide) (by decide) 0 rfl (by decide)
    _ _ _ _ _ rfl (hdispA 4 0) rfl _ _ _ rfl

/-- merge / rebalance branch (`T = 1024`: 512 > 22) -/
example : MapMetaDataSlab_Remove (envD 1024 ebx rsx) 1 (md_meta mm xx) s0 k1 (u64 0) (u64 5) (.key k1) =
    some (some (.key k1), some (.val v1), none, mm1, mdr_leafSt s0 dA' none cA) :=
  Ob_MapMetaDataSlab_Remove_step_merge 1024 ebx rsx mm xx s0 k1 5 0 (by decide) (by decide) (by decide) 0 rfl (by decide)
    _ _ _ _ _ rfl (hdispA 1024 0) rfl (u32 490) rfl _ _ _ rfl

/-- a digest below every child's first key: `KeyNotFoundError` (`ans` stays -1) -/
example (T : Nat) : MapMetaDataSlab_Remove (envD T ebx rsx) 1 (md_meta mm xx) s0 k4 (u64 0) (u64 3) (.key k4) =
    some (none, none, some .keyNotFound, md_meta mm xx, s0) :=
  Ob_MapMetaDataSlab_Remove_keyNotFound T ebx rsx mm xx s0 k4 3 0 (by decide) (by decide) (by decide) rfl

/-- the child is missing from the storage: `SlabNotFoundError` -/
example (T : Nat) : MapMetaDataSlab_Remove (envD T ebx rsx) 1 (md_meta mm xx) { s0 with heap := fun _ => none } k1 (u64 0) (u64 5)
      (.key k1) =
    some (none, none, some .slabNotFound, md_meta mm xx, { s0 with heap := fun _ => none }) :=
  Ob_MapMetaDataSlab_Remove_slabNotFound T ebx rsx mm xx _ k1 5 0 (by decide) (by decide) (by decide) 0 rfl (by decide) rfl

/-- the binary search on the two headers (first keys 5, 20) -/
example : ∃ i' j', MapMetaDataSlab_Remove.loop1 (envD 16 ebx rsx) (md_meta mm xx) (u64 20) 3 (-1) 0 2 =
    .done (1, i', j') :=
  mdr_Remove_loop1_top (envD 16 ebx rsx) mm xx 20 (by decide) (by decide) (by decide)
end MdrEx

end Atree.TransEq

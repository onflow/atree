import AtreeProofs.Props.TransMapDescentRemoveTree
import AtreeProofs.Props.TransMapDescentTopRemove
/-
  A side branch: nothing outside this file uses it; `Remove` with the generated restructuring code is stated in
  Props/TransMapDescentRemoveFull2.lean (over the tails of `Set`) and Props/TransMapDescentRemoveHeapFull.lean.
  `Remove` of the map descent, EVERY branch, over tails of its own: the generated `MapSlab_Remove` over a heap
  (`envD cfg.T eb rs`) is the translation of the model's `MTree.remove` on every path - store, `SplitChildSlab`,
  `MergeOrRebalanceChildSlab` - for ANY restructuring record `rs` whose calls behave as the model's (`MRSplitTail`,
  `MRMorTail`: pointwise TAIL hypotheses, quantified only over what the descent produces: `MRPre`), and the top level
  `OrderedMap_remove` under `MRRootTail`.  These three tails are hypotheses only: they are proved for no restructuring
  record that restructures, in particular not for the generated code `rsOf T`; the instance at the end of this file
  (`IS_split`, `IS_mor`, `IS_root`) belongs to a run in which no slab is full or underflowing, where they hold because no
  call is made.  Props/TransMapDescentRemoveFull2.lean states `Remove` over the tails of `Set`, which are the ones proved
  for `rsOf T`.
  * `I : (d : Nat) → MTree r d → Prop` is a PARAMETER: the invariant of subtrees the restructuring calls rely on (sizes,
    flags, first keys ...).  The tails quantify only over children satisfying `I` and promise `I` of their result; the
    theorems ask that `I` is kept along the descent (`MRInvClosed`).  (A tail over ALL records would be false: e.g. a
    child whose model `root` flag is set while the heap record carries no extra data.)
  * `MRAllocOk`: allocated identifiers lie below the counter of the `Ctx`; without it the freshness of the identifiers a
    split generates (hence the distinctness of the identifiers of the new tree) cannot be established.
  * `MRStep h h' I I'` (frame / gone / fresh) composes (`MRStep.trans`, `MRStep.ctx`); `MRPost` = `MHolds` of the new tree
    + `MRStep` + distinct identifiers + child headers = headers of the children.
  * FINDING (top level): after `OrderedMap.remove` WITHOUT promotion / root split the root record STORED in a heap of
    values still carries the OLD extra data (count not decremented): Go's `decrementCount` mutates the slab the storage
    points to and no `Store` follows.  `Ob_OrderedMap_remove_heap_of_tails` therefore states `MHolds` with the stored
    extra data `xh`, `xh = some (md_extra m)` (stale) or `some (md_extra m')`.
-/
namespace Atree.TransEq
open Atree Atree.Gen.TransMapD

section defs
variable {r : Nat}

/-- how an operation moves the heap, in terms of the identifiers of the old (`I`) and the new (`I'`) tree:
    outside both untouched; what left the tree is gone; what entered the tree was unallocated before -/
structure MRStep (h h' : SlabID → Option (DSlab r)) (I I' : List SlabID) : Prop where
  frame : ∀ id, id ∉ I → id ∉ I' → h' id = h id
  gone : ∀ id, id ∈ I → id ∉ I' → h' id = none
  fresh : ∀ id, id ∈ I' → id ∉ I → h id = none

/-- an index slab's child headers are the headers of its children (top level only) -/
def mdr_HdrsOk : (d : Nat) → MTree r d → Prop
  | 0, _ => True
  | d + 1, (m : MMetaSlab (MTree r d)) => m.childHdrs = m.children.map (MTree.hdr d)

/-- the heap after an operation that turns `t` into `t'` (same depth): it holds `t'`, `MRStep`, identifiers distinct,
    child headers = headers of the children -/
structure MRPost (h h' : SlabID → Option (DSlab r)) {d : Nat} (t t' : MTree r d) (x : Option DX) : Prop where
  holds : MHolds h' d t' x
  step : MRStep h h' (md_ids d t) (md_ids d t')
  nodup : (md_ids d t').Nodup
  hdrs : mdr_HdrsOk d t'

theorem MRStep.refl (h : SlabID → Option (DSlab r)) (I : List SlabID) : MRStep h h I I :=
  ⟨fun _ _ _ => rfl, fun _ h1 h2 => absurd h1 h2, fun _ h1 h2 => absurd h1 h2⟩

theorem MRPost.heapPost {h h' : SlabID → Option (DSlab r)} {d : Nat} {t t' : MTree r d} {x : Option DX}
    (p : MRPost h h' t t' x) : MHeapPost h h' t t' x :=
  ⟨p.holds, p.step.gone, p.step.frame⟩

theorem MRStep.trans {h h1 h2 : SlabID → Option (DSlab r)} {I I1 I2 : List SlabID}
    (a : MRStep h h1 I I1) (b : MRStep h1 h2 I1 I2) : MRStep h h2 I I2 := by
  refine ⟨?_, ?_, ?_⟩
  · intro id h0 h2'
    by_cases h1' : id ∈ I1
    · rw [b.gone id h1' h2', a.fresh id h1' h0]
    · rw [b.frame id h1' h2', a.frame id h0 h1']
  · intro id h0 h2'
    by_cases h1' : id ∈ I1
    · exact b.gone id h1' h2'
    · rw [b.frame id h1' h2']; exact a.gone id h0 h1'
  · intro id h2' h0
    by_cases h1' : id ∈ I1
    · exact a.fresh id h1' h0
    · rw [← a.frame id h0 h1']; exact b.fresh id h2' h1'

/-- a step on a part of the identifiers is a step on the whole -/
theorem MRStep.ctx {h h1 : SlabID → Option (DSlab r)} {C C' : List SlabID} (a : MRStep h h1 C C') (root : SlabID)
    (LA LB : List SlabID) : MRStep h h1 (root :: (LA ++ (C ++ LB))) (root :: (LA ++ (C' ++ LB))) := by
  refine ⟨?_, ?_, ?_⟩
  · intro id h0 h1'
    simp only [List.mem_cons, List.mem_append, not_or] at h0 h1'
    exact a.frame id h0.2.2.1 h1'.2.2.1
  · intro id h0 h1'
    simp only [List.mem_cons, List.mem_append, not_or] at h0 h1'
    rcases h0 with h | h | h | h
    · exact absurd h h1'.1
    · exact absurd h h1'.2.1
    · exact a.gone id h h1'.2.2.1
    · exact absurd h h1'.2.2.2
  · intro id h1' h0
    simp only [List.mem_cons, List.mem_append, not_or] at h0 h1'
    rcases h1' with h | h | h | h
    · exact absurd h h0.1
    · exact absurd h h0.2.1
    · exact a.fresh id h h0.2.2.1
    · exact absurd h h0.2.2.2

end defs
section tails
variable {r : Nat} (I : (d : Nat) → MTree r d → Prop)

/-- the allocator invariant: every allocated identifier has an index the counter of the `Ctx` has passed (`Ctx.alloc`
    hands out `⟨addr, ctr + 1⟩`), so a newly generated identifier is unallocated -/
def MRAllocOk (s : MHSt r) : Prop := ∀ id, s.heap id ≠ none → id.idx ≤ s.ctx.ctr

/-- what the descent has established (besides the allocator invariant `MRAllocOk s1`) when it calls `SplitChildSlab` /
    `MergeOrRebalanceChildSlab` on the receiver `m1`
    (= the index slab with the returned child written back at position `k`, NOT yet stored) over the storage `s1`:
    `child'` is child `k` of `m1`; the child headers are the headers of the children; the identifiers of `m1` are pairwise
    distinct; the heap holds every child subtree of `m1` (the returned `child'` included, its root too); the size of
    `child'` is a `uint32`; every child subtree satisfies the invariant `I` (a PARAMETER: whatever the restructuring
    calls need to know about a subtree - sizes, flags, first keys ...; the theorems ask that `I` is kept along the descent,
    `MRInvClosed`) -/
structure MRPre (s1 : MHSt r) {d : Nat} (m1 : MMetaSlab (MTree r d)) (child' : MTree r d) (k : Nat) : Prop where
  alloc : MRAllocOk s1
  inv : ∀ c ∈ m1.children, I d c
  at_k : m1.children[k]? = some child'
  hdrs : m1.childHdrs = m1.children.map (MTree.hdr d)
  nodup : (md_ids (d + 1) (m1 : MMetaSlab (MTree r d))).Nodup
  held : ∀ c ∈ m1.children, MHolds s1.heap d c none
  size : (MTree.hdr d child').size < 2^32

/-- TAIL hypothesis on `rs.splitChild` (for ANY `rs`): on what the descent produces (`MRPre`, `child'` full) the call is the
    model's `splitChildSlab`: no error, the new receiver, the model's `Ctx`, the heap holds the new subtree (receiver
    stored under its identifier, every child held), `MRStep` (outside the old / new subtree untouched, what left is
    gone, what entered was unallocated), identifiers distinct; a model error comes back as that error -/
def MRSplitTail (T : Nat) (rs : DRestruct r) : Prop :=
  ∀ (d : Nat) (m1 : MMetaSlab (MTree r d)) (x : Option DX) (child' : MTree r d) (k : Nat) (s1 : MHSt r),
    MRPre I s1 m1 child' k → MTree.isFull T d child' = true →
    match m1.splitChildSlab child' k s1.ctx with
    | .ok (m', c') => ∃ s' cc, rs.splitChild (md_meta m1 x) s1 (md_tree d child' none) (Int.ofNat k) =
          (none, md_meta m' x, s', cc) ∧ s'.ctx = c' ∧ s'.popped = s1.popped ∧
        MRPost s1.heap s'.heap (d := d + 1) (m1 : MMetaSlab (MTree r d)) (m' : MMetaSlab (MTree r d)) x ∧ MRAllocOk s' ∧
        I (d + 1) (m' : MMetaSlab (MTree r d))
    | .error e => ∃ m'' s'' cc, rs.splitChild (md_meta m1 x) s1 (md_tree d child' none) (Int.ofNat k) = (some e, m'', s'', cc)

/-- TAIL hypothesis on `rs.mergeOrRebalance` (for ANY `rs`): the same for the model's `mergeOrRebalanceChildSlab`, `child'`
    not full and underflowing by `u` -/
def MRMorTail (T : Nat) (rs : DRestruct r) : Prop :=
  ∀ (d : Nat) (m1 : MMetaSlab (MTree r d)) (x : Option DX) (child' : MTree r d) (k u : Nat) (s1 : MHSt r),
    MRPre I s1 m1 child' k → MTree.isFull T d child' = false → MTree.isUnderflow T d child' = some u →
    match m1.mergeOrRebalanceChildSlab T child' k u s1.ctx with
    | .ok (m', c') => ∃ s' cc, rs.mergeOrRebalance (md_meta m1 x) s1 (md_tree d child' none) (Int.ofNat k) (u32 u) =
          (none, md_meta m' x, s', cc) ∧ s'.ctx = c' ∧ s'.popped = s1.popped ∧
        MRPost s1.heap s'.heap (d := d + 1) (m1 : MMetaSlab (MTree r d)) (m' : MMetaSlab (MTree r d)) x ∧ MRAllocOk s' ∧
        I (d + 1) (m' : MMetaSlab (MTree r d))
    | .error e => ∃ m'' s'' cc, rs.mergeOrRebalance (md_meta m1 x) s1 (md_tree d child' none) (Int.ofNat k) (u32 u) =
          (some e, m'', s'', cc)

/-- the invariant `I` is kept along the descent of `Remove` for the key `k`: by the leaf's `Remove` (`leaf`; it does not
    decrease the allocation counter: `mono`), by going down to a child (`down`), and by writing the child on the path of
    `k`, when it comes back neither full nor underflowing, back into its parent (`store`); its members have `uint32`
    sizes (`size`) -/
structure MRInvClosed (cfg : MCfg) (k : MKey) : Prop where
  leaf : ∀ (sl : MDataSlab r) (c : Ctx) rk rv (sl' : MDataSlab r) c', I 0 (sl : MDataSlab r) →
    MDataSlab.remove cfg sl k c = .ok (rk, rv, sl', c') → I 0 (sl' : MDataSlab r)
  mono : ∀ (sl : MDataSlab r) (c : Ctx) rk rv (sl' : MDataSlab r) c', I 0 (sl : MDataSlab r) →
    MDataSlab.remove cfg sl k c = .ok (rk, rv, sl', c') → c.ctr ≤ c'.ctr
  size : ∀ (d : Nat) (t : MTree r d), I d t → (MTree.hdr d t).size < 2^32
  down : ∀ (d : Nat) (m : MMetaSlab (MTree r d)) (c : MTree r d), I (d + 1) (m : MMetaSlab (MTree r d)) → c ∈ m.children → I d c
  store : ∀ (d : Nat) (m : MMetaSlab (MTree r d)) (child child' : MTree r d) (i : Nat) (c c1 : Ctx) rk rv,
    I (d + 1) (m : MMetaSlab (MTree r d)) →
    MMetaSlab.findChild m.childHdrs (k.dig 0) 0 m.childHdrs.length none (m.childHdrs.length + 1) = some i →
    m.children[i]? = some child → MTree.remove cfg d child k c = .ok (rk, rv, child', c1) →
    I d child' → MTree.isFull cfg.T d child' = false → MTree.isUnderflow cfg.T d child' = none →
    I (d + 1) ({ m with childHdrs := m.childHdrs.set i (MTree.hdr d child'), children := m.children.set i child',
                        hdr := { m.hdr with firstKey := if i == 0 then (MTree.hdr d child').firstKey else m.hdr.firstKey } } :
      MMetaSlab (MTree r d))

/-- the model's error does not come out of a restructuring call (it is `KeyNotFound` at some level or an error of the
    element layer): no `afterChild` is reached -/
def mdr_ErrClean (cfg : MCfg) (k : MKey) : (d : Nat) → MTree r d → Ctx → Prop
  | 0, _, _ => True
  | d + 1, (m : MMetaSlab (MTree r d)), c =>
    ∀ i child, MMetaSlab.findChild m.childHdrs (k.dig 0) 0 m.childHdrs.length none (m.childHdrs.length + 1) = some i →
      m.children[i]? = some child →
      match MTree.remove cfg d child k c with
      | .ok _ => False
      | .error _ => mdr_ErrClean cfg k d child c

/-- the receiver with the returned child written back, over the storage the child's `Remove` left: the preconditions of
    the restructuring calls, the step from the old tree, and the receiver's own record is still the old one -/
theorem mdr_m1_facts {d : Nat} (m : MMetaSlab (MTree r d)) (x : Option DX) (s s1 : MHSt r) (i : Nat)
    (child child' : MTree r d) (hhdrs : m.childHdrs = m.children.map (MTree.hdr d))
    (hnd : (md_ids (d + 1) (m : MMetaSlab (MTree r d))).Nodup) (hh : MHolds s.heap (d + 1) (m : MMetaSlab (MTree r d)) x)
    (hc : m.children[i]? = some child) (hpost : MRPost s.heap s1.heap child child' none)
    (hsz : (MTree.hdr d child').size < 2^32) (halloc : MRAllocOk s1) (hinvm : ∀ c ∈ m.children, I d c)
    (hinvc : I d child') :
    MRPre I s1 (mdr_model_m1 m child' i) child' i ∧
    MRStep s.heap s1.heap (md_ids (d + 1) (m : MMetaSlab (MTree r d)))
      (md_ids (d + 1) (mdr_model_m1 m child' i : MMetaSlab (MTree r d))) ∧ s1.heap m.hdr.id = s.heap m.hdr.id := by
  obtain ⟨A, B, hAB, hch1, hAl, hsub, held, hnd1, hroot⟩ := hh.after_child (m1 := mdr_model_m1 m child' i) hnd hc rfl rfl
    hpost.holds hpost.nodup hpost.step.fresh hpost.step.frame
  refine ⟨⟨halloc, fun c hcm => ?_, by rw [hch1, ← hAl]; simp, ?_, hnd1, held, hsz⟩, ?_, hroot⟩
  · rcases hsub c hcm with rfl | hcm
    · exact hinvc
    · exact hinvm c hcm
  · show m.childHdrs.set i (MTree.hdr d child') = (m.children.set i child').map (MTree.hdr d)
    rw [List.map_set, hhdrs]
  · rw [md_ids_at hAB, md_ids_at hch1]
    exact hpost.step.ctx _ _ _

end tails

section full
variable {r : Nat} (I : (d : Nat) → MTree r d → Prop) (eb : DEnvB r) (rs : DRestruct r) (cfg : MCfg) (k : MKey) (v : Elem)
  (P : DG r → Prop)

/-- on the way down: well-formed, identifiers distinct, held by the heap, allocated identifiers below the counter, the
    provider's invariant -/
def MRDown (d : Nat) (t : MTree r d) (x : Option DX) (s : MHSt r) : Prop :=
  mdr_WF d t x ∧ (md_ids d t).Nodup ∧ MHolds s.heap d t x ∧ MRAllocOk s ∧ I d t

/-- on the way up -/
def MRUp (d : Nat) (t : MTree r d) (x : Option DX) (s : MHSt r) (t' : MTree r d) (s' : MHSt r) : Prop :=
  s'.popped = s.popped ∧ MRPost s.heap s'.heap t t' x ∧ MRAllocOk s' ∧ I d t'

/-- an error that does not come out of a restructuring call leaves everything as it was -/
def MRErr (d : Nat) (t : MTree r d) (x : Option DX) (s : MHSt r) (tt : DSlab r) (ss : MHSt r) : Prop :=
  mdr_ErrClean cfg k d t s.ctx → tt = md_tree d t x ∧ ss = s

theorem mdr_full_down (hIc : MRInvClosed I cfg k) (hk : k.dig 0 < 2^64) (d : Nat) (m : MMetaSlab (MTree r d))
    (x : Option DX) (s : MHSt r) (h : MRDown I (d + 1) (m : MMetaSlab (MTree r d)) x s) :
    (md_opRemove eb rs cfg k).Rng m.childHdrs ∧
    ∀ i, (md_opRemove eb rs cfg k).route m.childHdrs = some i → ∃ child : MTree r d, m.children[i]? = some child ∧
      m.childHdrs[i]? = some (MTree.hdr d child) ∧ s.heap (MTree.hdr d child).id = some (md_tree d child none) ∧
      MRDown I d child none s := by
  obtain ⟨⟨hhdrs, hfk, hlen, hwfc⟩, hnd, hh, halloc, hI⟩ := h
  refine ⟨⟨hk, hfk, hlen⟩, fun i hf => ?_⟩
  obtain ⟨child, hc⟩ := md_route_child hhdrs hf
  have hmem : child ∈ m.children := List.mem_of_getElem? hc
  obtain ⟨hhi, hroot, hhc, hndc, -⟩ := hh.child hhdrs hnd hc
  exact ⟨child, hc, hhi, hroot, hwfc child hmem, hndc, hhc, halloc, hIc.down d m child hI hmem⟩

/-- one level on the way up: the receiver with the returned child written back satisfies the preconditions of the
    restructuring calls (`mdr_m1_facts`), their post-conditions compose with the child's, and storing the receiver keeps
    the tree held -/
theorem mdr_full_up (hS : MRSplitTail I cfg.T rs) (hM : MRMorTail I cfg.T rs) (hIc : MRInvClosed I cfg k) (d : Nat)
    (m : MMetaSlab (MTree r d)) (x : Option DX) (s : MHSt r) (i : Nat) (child child' : MTree r d) (rk : MKey) (rv : Elem)
    (s1 : MHSt r) (h : MRDown I (d + 1) (m : MMetaSlab (MTree r d)) x s)
    (hf : MMetaSlab.findChild m.childHdrs (k.dig 0) 0 m.childHdrs.length none (m.childHdrs.length + 1) = some i)
    (hc : m.children[i]? = some child) (hq : MTree.remove cfg d child k s.ctx = .ok (rk, rv, child', s1.ctx))
    (hpost : MRUp I d child none s child' s1) :
    MdUp rs cfg (MRUp I (d + 1) (m : MMetaSlab (MTree r d)) x s) (MRErr cfg k (d + 1) (m : MMetaSlab (MTree r d)) x s) m x i
      child' s1 := by
  obtain ⟨⟨hhdrs, hfk, hlen, hwfc⟩, hnd, hh, halloc, hI⟩ := h
  obtain ⟨hpop1, hpost1, halloc1, hIc'⟩ := hpost
  have hsize := hIc.size d child' hIc'
  obtain ⟨hpre, hstep, hroot⟩ := mdr_m1_facts I m x s s1 i child child' hhdrs hnd hh hc hpost1 hsize halloc1
    (fun c hcm => hIc.down d m c hI hcm) hIc'
  have hcomp : ∀ (m' : MMetaSlab (MTree r d)) (s' : MHSt r),
      s'.popped = s1.popped ∧ MRPost s1.heap s'.heap (d := d + 1) (mdr_model_m1 m child' i : MMetaSlab (MTree r d)) m' x ∧
        MRAllocOk s' ∧ I (d + 1) m' →
      MRUp I (d + 1) (m : MMetaSlab (MTree r d)) x s m' s' :=
    fun m' s' hp => ⟨hp.1.trans hpop1, ⟨hp.2.1.holds, hstep.trans hp.2.1.step, hp.2.1.nodup, hp.2.1.hdrs⟩, hp.2.2⟩
  have herr : ∀ tt ss, MRErr cfg k (d + 1) (m : MMetaSlab (MTree r d)) x s tt ss := fun tt ss hcl => by
    have h1 := hcl i child hf hc
    rw [hq] at h1
    exact h1.elim
  refine ⟨hsize, fun hfull => ⟨herr, MdTailOk.imp hcomp (hS d _ x child' i s1 hpre hfull)⟩,
    fun hfull u hu => ⟨herr, MdTailOk.imp hcomp (hM d _ x child' i u s1 hpre hfull hu)⟩, fun hfull hunder => ?_⟩
  refine hcomp _ _ ⟨MHSt.store_popped _ _ _, ⟨MHolds.store_root (m := mdr_model_m1 m child' i) x hpre.held hpre.nodup,
    ⟨fun id h1 _ => ?_, fun id h1 h2 => absurd h1 h2, fun id h1 h2 => absurd h1 h2⟩, hpre.nodup, hpre.hdrs⟩, fun id hid => ?_,
    hIc.store d m child child' i s.ctx s1.ctx rk rv hI hf hc hq hIc' hfull hunder⟩
  · have hne : id ≠ m.hdr.id := fun h => h1 (by rw [h]; exact List.mem_cons_self)
    rw [MHSt.store_heap, if_neg hne]
  · show id.idx ≤ s1.ctx.ctr
    refine halloc1 id ?_
    by_cases he : id = m.hdr.id
    · rw [he, hroot, hh.1]
      exact Option.some_ne_none _
    · rw [MHSt.store_heap, if_neg he] at hid
      exact hid

theorem mdr_full_leaf_rel (hE : ElemsSpec cfg k v P eb) (hP : ∀ g, P g) (hIc : MRInvClosed I cfg k) (sl : MDataSlab r)
    (x : Option DX) (s : MHSt r) (depth : Nat) (h : MRDown I 0 (sl : MDataSlab r) x s) :
    MdRel (md_opRemove eb rs cfg k) (MRUp I) (MRErr cfg k) depth 0 sl x s := by
  obtain ⟨hwf, -, hh, halloc, hI⟩ := h
  have hh' : s.heap sl.hdr.id = some (.dataSlab (md_data sl x)) := hh
  have h1 := mdr_remove_data eb rs cfg k v P hE sl x hwf.1 (hP _) hwf.2 s (MapMetaDataSlab_Remove (envD cfg.T eb rs) depth)
  unfold MdRel
  rw [show (md_opRemove eb rs cfg k).M 0 sl s.ctx = MDataSlab.remove cfg sl k s.ctx from rfl]
  revert h1
  rcases hrem : MDataSlab.remove cfg sl k s.ctx with e | ⟨rk, rv, sl', c'⟩
  · exact fun h1 => ⟨_, _, h1, fun _ => ⟨rfl, rfl⟩⟩
  · rintro ⟨s', h1, h2, h3, hrel⟩
    refine ⟨s', h1, h2, h3, ⟨hrel.holds, ⟨fun id hn _ => hrel.frame id hn, fun id hi hn => absurd (hrel.ids ▸ hi) hn,
      fun id hi hn => absurd (hrel.ids ▸ hi) hn⟩, hrel.ids ▸ List.nodup_cons.mpr ⟨List.not_mem_nil, List.nodup_nil⟩, trivial⟩,
      fun id hid => ?_, hIc.leaf sl s.ctx rk rv sl' c' hI hrem⟩
    -- an identifier the new heap has, the old heap had: below the old counter, which did not go down
    rw [h2]
    refine Nat.le_trans (halloc id ?_) (hIc.mono sl s.ctx rk rv sl' c' hI hrem)
    by_cases he : id = sl.hdr.id
    · rw [he, hh']; exact Option.some_ne_none _
    · rw [← hrel.frame id (fun hin => he (List.mem_singleton.mp hin))]; exact hid

/-- The whole `MapSlab.Remove` over a heap, every branch (store / `SplitChildSlab` / `MergeOrRebalanceChildSlab`), for ANY
    restructuring record `rs` that satisfies the two tails: on a tree held by the heap the generated dispatch is the
    translation of the model's `MTree.remove` - removed key / value, the new tree `md_tree d t' x`, the storage carries
    the model's `Ctx`, holds the new tree, `MRStep` relative to the identifiers of the old and the new tree (frame, gone,
    fresh), identifiers distinct; a model error `e` comes back as `e`, and with nothing changed when it does not come out
    of a restructuring call (`mdr_ErrClean`: `KeyNotFound` at any level, element-layer errors) -/
theorem Ob_MapSlab_Remove_heap_of_tails (hE : ElemsSpec cfg k v P eb) (hP : ∀ g, P g) (hS : MRSplitTail I cfg.T rs)
    (hM : MRMorTail I cfg.T rs) (hIc : MRInvClosed I cfg k) (hmax : maxThr cfg.T < 2^32) (hmin : minThr cfg.T < 2^32) (hk : k.dig 0 < 2^64)
    (d : Nat) (t : MTree r d) (x : Option DX) (s : MHSt r) (depth : Nat) (hd : d ≤ depth) (hwf : mdr_WF d t x)
    (hnd : (md_ids d t).Nodup) (hh : MHolds s.heap d t x) (halloc : MRAllocOk s) (hI : I d t) :
    match MTree.remove cfg d t k s.ctx with
    | .ok (rk, rv, t', c') =>
      ∃ s', MapSlab_Remove (envD cfg.T eb rs) (MapMetaDataSlab_Remove (envD cfg.T eb rs) depth) (md_tree d t x) s k (u64 0)
              (u64 (k.dig 0)) (.key k) = some (some (.key rk), some (.val rv), none, md_tree d t' x, s') ∧
            s'.ctx = c' ∧ s'.popped = s.popped ∧ MRPost s.heap s'.heap t t' x ∧ MRAllocOk s' ∧ I d t'
    | .error e =>
      ∃ tt ss, MapSlab_Remove (envD cfg.T eb rs) (MapMetaDataSlab_Remove (envD cfg.T eb rs) depth) (md_tree d t x) s k (u64 0)
              (u64 (k.dig 0)) (.key k) = some (none, none, some e, tt, ss) ∧
            (mdr_ErrClean cfg k d t s.ctx → tt = md_tree d t x ∧ ss = s) := by
  have key := md_descent (md_opRemove eb rs cfg k) hmax hmin (MRDown I) (MRUp I) (MRErr cfg k)
    (mdr_full_leaf_rel I eb rs cfg k v P hE hP hIc) (mdr_full_down I eb rs cfg k hIc hk)
    (fun _ _ _ _ _ _ _ => ⟨rfl, rfl⟩)
    (fun d m x s i child e tt ss _ hf hc hq herr hcl => by
      have h1 := hcl i child hf hc
      rw [show MTree.remove cfg d child k s.ctx = .error e from hq] at h1
      exact ⟨rfl, (herr h1).2⟩)
    (mdr_full_up I rs cfg k hS hM hIc) d depth t x s hd ⟨hwf, hnd, hh, halloc, hI⟩
  revert key
  unfold MdRel
  dsimp only [md_opRemove, MRUp, MRErr]
  rcases MTree.remove cfg d t k s.ctx with e | ⟨rk, rv, t', c'⟩ <;> exact id

/-- `KeyNotFound` of the model is never the error of a restructuring call... at the top of the path: an index slab whose
    search finds no child is `mdr_ErrClean` -/
theorem mdr_ErrClean_of_notFound {d : Nat} (m : MMetaSlab (MTree r d)) (c : Ctx)
    (hf : MMetaSlab.findChild m.childHdrs (k.dig 0) 0 m.childHdrs.length none (m.childHdrs.length + 1) = none) :
    mdr_ErrClean cfg k (d + 1) (m : MMetaSlab (MTree r d)) c := by
  intro i child hf' _
  rw [hf] at hf'; cases hf'

end full

section top
variable {r : Nat} (I : (d : Nat) → MTree r d → Prop) (eb : DEnvB r) (rs : DRestruct r) (cfg : MCfg) (k : MKey) (v : Elem)
  (P : DG r → Prop)

/-- the heap after a root operation that turns the handle `m1` into `m2` (the depth may change); `xh2` = the extra data of
    the root record AS STORED -/
structure MRRootPost (h h' : SlabID → Option (DSlab r)) (m1 m2 : OMap r) (xh2 : Option DX) : Prop where
  holds : MHolds h' m2.d m2.root xh2
  step : MRStep h h' (md_ids m1.d m1.root) (md_ids m2.d m2.root)
  nodup : (md_ids m2.d m2.root).Nodup
  hdrs : mdr_HdrsOk m2.d m2.root

/-- TAIL hypothesis on the root calls (for ANY `rs`), pointwise on what `OrderedMap.remove` produces.
    * `rs.promote`: the root of the handle is an index slab with exactly ONE child `child` (header list = `[hdr child]`),
      held by the heap (the STORED root record may carry any extra data `xh`: `decrementCount` has only changed the copy in
      the handle), identifiers distinct: the call on `md_map m1 s1` with the child's identifier is the model's
      `promoteIfSingleChild`: no error, `md_map m2 s2`, the model's `Ctx`, the heap holds the new tree with the handle's extra
      data in the root record, `MRStep`, identifiers distinct.
    * `rs.splitRoot`: the root (held, identifiers distinct, size a `uint32`) is full: the call is the model's
      `OMap.splitRoot`; a model error comes back as that error. -/
def MRRootTail (T : Nat) (rs : DRestruct r) : Prop :=
  (∀ (d : Nat) (x : MMetaSlab (MTree r d)) (ty cnt seed : Nat) (child : MTree r d) (s1 : MHSt r) (xh : Option DX),
    x.children = [child] → x.childHdrs = [MTree.hdr d child] →
    MHolds s1.heap (d + 1) (x : MMetaSlab (MTree r d)) xh → (md_ids (d + 1) (x : MMetaSlab (MTree r d))).Nodup →
    MRAllocOk s1 → I (d + 1) (x : MMetaSlab (MTree r d)) →
    ∃ s2, rs.promote (md_map (⟨d + 1, x, ty, cnt, seed⟩ : OMap r) s1) (MTree.hdr d child).id =
        (none, md_map ((⟨d + 1, x, ty, cnt, seed⟩ : OMap r).promoteIfSingleChild s1.ctx).1 s2) ∧
      s2.ctx = ((⟨d + 1, x, ty, cnt, seed⟩ : OMap r).promoteIfSingleChild s1.ctx).2 ∧ s2.popped = s1.popped ∧
      MRRootPost s1.heap s2.heap (⟨d + 1, x, ty, cnt, seed⟩ : OMap r)
        ((⟨d + 1, x, ty, cnt, seed⟩ : OMap r).promoteIfSingleChild s1.ctx).1
        (some (md_extra ((⟨d + 1, x, ty, cnt, seed⟩ : OMap r).promoteIfSingleChild s1.ctx).1)) ∧ MRAllocOk s2 ∧
      I ((⟨d + 1, x, ty, cnt, seed⟩ : OMap r).promoteIfSingleChild s1.ctx).1.d
        ((⟨d + 1, x, ty, cnt, seed⟩ : OMap r).promoteIfSingleChild s1.ctx).1.root) ∧
  (∀ (m2 : OMap r) (s2 : MHSt r) (xh : Option DX),
    MHolds s2.heap m2.d m2.root xh → (md_ids m2.d m2.root).Nodup → mdr_HdrsOk m2.d m2.root →
    (MTree.hdr m2.d m2.root).size < 2^32 → MTree.isFull T m2.d m2.root = true → MRAllocOk s2 →
    I m2.d m2.root →
    match m2.splitRoot s2.ctx with
    | .ok (m3, c3) => ∃ s3, rs.splitRoot (md_map m2 s2) = (none, md_map m3 s3) ∧ s3.ctx = c3 ∧ s3.popped = s2.popped ∧
        MRRootPost s2.heap s3.heap m2 m3 (some (md_extra m3)) ∧ MRAllocOk s3 ∧ I m3.d m3.root
    | .error e => ∃ M, rs.splitRoot (md_map m2 s2) = (some e, M))

/-- the promotion step of the generated `OrderedMap.remove` on a handle whose tree the heap holds = the model's
    `promoteIfSingleChild` (the decision AND the call) -/
theorem mdr_promoteStep_md (hR : MRRootTail I cfg.T rs) (m1 : OMap r) (s1 : MHSt r) (xh : Option DX)
    (hh : MHolds s1.heap m1.d m1.root xh) (hnd : (md_ids m1.d m1.root).Nodup) (hhd : mdr_HdrsOk m1.d m1.root)
    (halloc : MRAllocOk s1) (hI : I m1.d m1.root) :
    ∃ s2 xh2, mdr_promoteStep rs (md_map m1 s1) = (none, md_map (m1.promoteIfSingleChild s1.ctx).1 s2) ∧
      s2.ctx = (m1.promoteIfSingleChild s1.ctx).2 ∧ s2.popped = s1.popped ∧
      MRRootPost s1.heap s2.heap m1 (m1.promoteIfSingleChild s1.ctx).1 xh2 ∧
      (xh2 = xh ∨ xh2 = some (md_extra (m1.promoteIfSingleChild s1.ctx).1)) ∧ MRAllocOk s2 ∧
      I (m1.promoteIfSingleChild s1.ctx).1.d (m1.promoteIfSingleChild s1.ctx).1.root := by
  obtain ⟨d, root, ty, cnt, seed⟩ := m1
  cases d with
  | zero =>
    exact ⟨s1, xh, rfl, rfl, rfl, ⟨hh, MRStep.refl _ _, hnd, hhd⟩, Or.inl rfl, halloc, hI⟩
  | succ d =>
    have hhd' : (root : MMetaSlab (MTree r d)).childHdrs = (root : MMetaSlab (MTree r d)).children.map (MTree.hdr d) := hhd
    have hroot : (md_map (⟨d + 1, root, ty, cnt, seed⟩ : OMap r) s1).root =
        .metaSlab (md_meta (root : MMetaSlab (MTree r d)) (some (md_extra (⟨d + 1, root, ty, cnt, seed⟩ : OMap r)))) := rfl
    have noprom : ((root : MMetaSlab (MTree r d)).children.length ≠ 1) →
        mdr_promoteStep rs (md_map (⟨d + 1, root, ty, cnt, seed⟩ : OMap r) s1) =
          (none, md_map (⟨d + 1, root, ty, cnt, seed⟩ : OMap r) s1) ∧
        (⟨d + 1, root, ty, cnt, seed⟩ : OMap r).promoteIfSingleChild s1.ctx = (⟨d + 1, root, ty, cnt, seed⟩, s1.ctx) := by
      intro hlen
      constructor
      · simp only [mdr_promoteStep, hroot, md_meta, hhd']
        rcases hch : (root : MMetaSlab (MTree r d)).children with _ | ⟨c1, _ | ⟨c2, tl⟩⟩
        · rfl
        · rw [hch] at hlen; exact absurd rfl hlen
        · rfl
      · simp only [OMap.promoteIfSingleChild, hhd']
        rcases hch : (root : MMetaSlab (MTree r d)).children with _ | ⟨c1, _ | ⟨c2, tl⟩⟩
        · rfl
        · rw [hch] at hlen; exact absurd rfl hlen
        · rfl
    by_cases hlen : (root : MMetaSlab (MTree r d)).children.length = 1
    · obtain ⟨child, hch⟩ : ∃ child, (root : MMetaSlab (MTree r d)).children = [child] := by
        rcases hc : (root : MMetaSlab (MTree r d)).children with _ | ⟨c1, _ | ⟨c2, tl⟩⟩
        · rw [hc] at hlen; cases hlen
        · exact ⟨c1, rfl⟩
        · rw [hc] at hlen; simp at hlen
      have hhdr1 : (root : MMetaSlab (MTree r d)).childHdrs = [MTree.hdr d child] := by rw [hhd', hch]; rfl
      obtain ⟨s2, hcall, hctx, hpop, hpost, halloc2, hI2⟩ := hR.1 d root ty cnt seed child s1 xh hch hhdr1 hh hnd halloc hI
      refine ⟨s2, _, ?_, hctx, hpop, hpost, Or.inr rfl, halloc2, hI2⟩
      rw [← hcall]
      simp only [mdr_promoteStep, hroot, md_meta, hhdr1, List.map_cons, List.map_nil, md_hdr]
    · obtain ⟨h1, h2⟩ := noprom hlen
      rw [h2]
      exact ⟨s1, xh, h1, rfl, rfl, ⟨hh, MRStep.refl _ _, hnd, hhd⟩, Or.inl rfl, halloc, hI⟩

/-- The whole `OrderedMap.remove` over a heap, for ANY `rs` satisfying the three tails: on a handle whose tree the heap
    holds, the generated code is the translation of the model's `OMap.remove`: removed key / value, the new handle
    `md_map m' s'`, the model's `Ctx`, the heap holds the new tree, `MRStep` from the old tree's identifiers to the new
    tree's.  The STORED root record carries the extra data `xh`: the new handle's after a promotion / root split, but the
    OLD one (`md_extra m`: count not decremented) on the plain path - Go's `decrementCount` mutates the slab the storage
    already points to, no `Store` follows; in a heap of VALUES the stored copy is stale.
    A model error comes back as that error; with `md_map m s` unchanged (count untouched) when it is the tree's
    `Remove` that failed outside a restructuring call. -/
theorem Ob_OrderedMap_remove_heap_of_tails (hE : ElemsSpec cfg k v P eb) (hP : ∀ g, P g) (hS : MRSplitTail I cfg.T rs)
    (hM : MRMorTail I cfg.T rs) (hR : MRRootTail I cfg.T rs) (hIc : MRInvClosed I cfg k) (hmax : maxThr cfg.T < 2^32) (hmin : minThr cfg.T < 2^32)
    (hk : k.dig 0 < 2^64) (m : OMap r) (s : MHSt r) (depth : Nat) (hd : m.d ≤ depth)
    (hwf : mdr_WF m.d m.root (some (md_extra m))) (hnd : (md_ids m.d m.root).Nodup)
    (hh : MHolds s.heap m.d m.root (some (md_extra m))) (hcnt : 0 < m.count)
    (halloc : MRAllocOk s) (hI : I m.d m.root) :
    match OMap.remove cfg m k s.ctx with
    | .ok (rk, rv, m', c') =>
      ∃ s' xh, OrderedMap_remove (envD cfg.T eb rs) depth (md_map m s) (.key k) =
          some (some (.key rk), some (.val rv), none, md_map m' s') ∧
        s'.ctx = c' ∧ s'.popped = s.popped ∧ MRRootPost s.heap s'.heap m m' xh ∧
        (xh = some (md_extra m) ∨ xh = some (md_extra m')) ∧ MRAllocOk s' ∧ I m'.d m'.root
    | .error e =>
      ∃ M, OrderedMap_remove (envD cfg.T eb rs) depth (md_map m s) (.key k) = some (none, none, some e, M) ∧
        (mdr_ErrClean cfg k m.d m.root s.ctx → (∃ e', MTree.remove cfg m.d m.root k s.ctx = .error e') → M = md_map m s) := by
  have htree := Ob_MapSlab_Remove_heap_of_tails I eb rs cfg k v P hE hP hS hM hIc hmax hmin hk m.d m.root (some (md_extra m)) s depth
    hd hwf hnd hh halloc hI
  rw [mdr_OMap_remove_eq]
  cases hq : MTree.remove cfg m.d m.root k s.ctx with
  | error e =>
    rw [hq] at htree
    obtain ⟨tt, ss, hdisp, hclean⟩ := htree
    refine ⟨{ Storage := ss, root := tt, digesterBuilder := () }, ?_, ?_⟩
    · exact Ob_OrderedMap_remove_err cfg.T eb rs (md_map m s) k depth tt ss none none e hdisp
    · intro hcl _
      obtain ⟨h1, h2⟩ := hclean hcl
      rw [h1, h2]; rfl
  | ok q =>
    obtain ⟨rk, rv, root', c1⟩ := q
    rw [hq] at htree
    obtain ⟨s1, hdisp, hctx1, hpop1, hpost1, halloc1, hI1⟩ := htree
    have hstep : OrderedMap_remove (envD cfg.T eb rs) depth (md_map m s) (.key k) =
        mdr_topTail cfg.T eb rs (some (.key rk)) (some (.val rv))
          (md_map ({ m with root := root', count := m.count - 1 } : OMap r) s1) :=
      Ob_OrderedMap_remove_step_md cfg.T eb rs m s k depth m.d root' s1 _ _ hcnt hdisp
    obtain ⟨s2, xh2, hprom, hctx2, hpop2, hpost2, hxh2, halloc2, hI2⟩ := mdr_promoteStep_md I rs cfg hR
      ({ m with root := root', count := m.count - 1 } : OMap r) s1 (some (md_extra m)) hpost1.holds hpost1.nodup hpost1.hdrs
      halloc1 hI1
    rw [hctx1] at hprom hctx2 hpost2 hxh2 hI2
    have hstep1 : MRStep s.heap s2.heap (md_ids m.d m.root)
        (md_ids (({ m with root := root', count := m.count - 1 } : OMap r).promoteIfSingleChild c1).1.d
          (({ m with root := root', count := m.count - 1 } : OMap r).promoteIfSingleChild c1).1.root) :=
      hpost1.step.trans hpost2.step
    obtain ⟨pq, hpq⟩ : ∃ pq, pq = ({ m with root := root', count := m.count - 1 } : OMap r).promoteIfSingleChild c1 :=
      ⟨_, rfl⟩
    simp only []
    rw [← hpq]
    rw [← hpq] at hprom hctx2 hpost2 hxh2 hstep1 hI2
    obtain ⟨m2, c2⟩ := pq
    simp only [] at hprom hctx2 hpost2 hxh2 hstep1 hI2 ⊢
    have hsize := hIc.size m2.d m2.root hI2
    have hIF : MapSlab_IsFull (envD cfg.T eb rs) (md_map m2 s2).root = some (MTree.isFull cfg.T m2.d m2.root) :=
      mdr_isFull_md_tree cfg.T eb rs m2.d m2.root _ hsize hmax
    cases hfull : MTree.isFull cfg.T m2.d m2.root with
    | false =>
      simp only [OMap.splitRootIfFull, hfull, Bool.false_eq_true, if_false]
      refine ⟨s2, xh2, ?_, hctx2, by rw [hpop2, hpop1], ⟨hpost2.holds, hstep1, hpost2.nodup, hpost2.hdrs⟩, hxh2, halloc2, hI2⟩
      rw [hstep]
      simp only [mdr_topTail, hprom, Option.isNone_none, Bool.not_true, Bool.false_eq_true, if_false, hIF, hfull]
    | true =>
      simp only [OMap.splitRootIfFull, hfull, if_true]
      have ht := hR.2 m2 s2 xh2 hpost2.holds hpost2.nodup hpost2.hdrs hsize hfull halloc2 hI2
      rw [hctx2] at ht
      cases hsp : m2.splitRoot c2 with
      | error e =>
        rw [hsp] at ht
        obtain ⟨M, hcall⟩ := ht
        refine ⟨M, ?_, ?_⟩
        · rw [hstep]
          simp only [mdr_topTail, hprom, Option.isNone_none, Bool.not_true, Bool.false_eq_true, if_false, hIF, hfull, hcall,
            Option.isNone_some, Bool.not_false, if_true]
        · intro _ h
          obtain ⟨e', he'⟩ := h
          cases he'
      | ok q3 =>
        obtain ⟨m3, c3⟩ := q3
        rw [hsp] at ht
        obtain ⟨s3, hcall, hctx3, hpop3, hpost3, halloc3, hI3⟩ := ht
        refine ⟨s3, _, ?_, hctx3, by rw [hpop3, hpop2, hpop1],
          ⟨hpost3.holds, hstep1.trans hpost3.step, hpost3.nodup, hpost3.hdrs⟩, Or.inr rfl, halloc3, hI3⟩
        rw [hstep]
        simp only [mdr_topTail, hprom, Option.isNone_none, Bool.not_true, Bool.false_eq_true, if_false, hIF, hfull, hcall]

end top

/-! non-vacuity: all hypotheses of the two theorems hold together on a concrete run -/

namespace MdrEx
open MeiEx
/-- the 2-child index slab with a size between the thresholds of `T = 16` (8, 24) -/
def mmS : MMetaSlab (MTree 0 0) := { mm with hdr := { mm.hdr with size := 20 } }
def mmS1 : MMetaSlab (MTree 0 0) := mdr_model_m1 mmS dA' 0
/-- the handle: 2 entries -/
def omS : OMap 0 := { d := 1, root := mmS, ty := 0, count := 2, seed := 0 }
def xS : Option DX := some (md_extra omS)
def sS : MHSt 0 :=
  { heap := fun id => if id = ⟨1, 1⟩ then some (.metaSlab (md_meta mmS xS)) else s0.heap id, ctx := c0 }

/-- the invariant of the example: the slabs this run meets -/
def IS : (d : Nat) → MTree 0 d → Prop
  | 0, (sl : MDataSlab 0) => sl = dA ∨ sl = dA' ∨ sl = dB
  | 1, (m : MMetaSlab (MTree 0 0)) => m = mmS ∨ m = mmS1
  | _ + 2, _ => False

theorem dA_remove (c : Ctx) : MDataSlab.remove cfg16 dA k1 c = .ok (k1, v1, dA', c.emit (.store ⟨1, 2⟩)) := rfl
theorem dA'_remove (c : Ctx) : MDataSlab.remove cfg16 dA' k1 c = .error .keyNotFound := rfl
theorem dB_remove (c : Ctx) : MDataSlab.remove cfg16 dB k1 c = .error .keyNotFound := rfl

theorem IS1 {m : MTree 0 1} (h : IS 1 m) : (m : MMetaSlab (MTree 0 0)) = mmS ∨ (m : MMetaSlab (MTree 0 0)) = mmS1 := h
theorem IS0 {sl : MTree 0 0} (h : IS 0 sl) : (sl : MDataSlab 0) = dA ∨ (sl : MDataSlab 0) = dA' ∨ (sl : MDataSlab 0) = dB := h

theorem IS_closed : MRInvClosed IS cfg16 k1 where
  leaf := by
    intro sl c rk rv sl' c' hI hrem
    rcases IS0 hI with rfl | rfl | rfl
    · rw [dA_remove] at hrem
      injection hrem with hrem
      injection hrem with _ hrem
      injection hrem with _ hrem
      injection hrem with hrem _
      exact Or.inr (Or.inl hrem.symm)
    · rw [dA'_remove] at hrem; cases hrem
    · rw [dB_remove] at hrem; cases hrem
  mono := by
    intro sl c rk rv sl' c' hI hrem
    rcases IS0 hI with rfl | rfl | rfl
    · rw [dA_remove] at hrem
      injection hrem with hrem
      injection hrem with _ hrem
      injection hrem with _ hrem
      injection hrem with _ hrem
      rw [← hrem]; exact Nat.le_refl _
    · rw [dA'_remove] at hrem; cases hrem
    · rw [dB_remove] at hrem; cases hrem
  size := by
    intro d t hI
    match d, t, hI with
    | 0, t, hI => rcases IS0 hI with rfl | rfl | rfl <;> decide
    | 1, t, hI => rcases IS1 hI with h | h <;> (rw [h]; decide)
    | d + 2, t, hI => exact hI.elim
  down := by
    intro d m c hI hmem
    match d, m, c, hI, hmem with
    | 0, m, c, hI, hmem =>
      rcases IS1 hI with h | h
      · rw [h] at hmem
        have hm : c ∈ [(dA : MTree 0 0), dB] := hmem
        rcases List.mem_cons.mp hm with rfl | hm
        · exact Or.inl rfl
        · rcases List.mem_cons.mp hm with rfl | hm
          · exact Or.inr (Or.inr rfl)
          · cases hm
      · rw [h] at hmem
        have hm : c ∈ [(dA' : MTree 0 0), dB] := hmem
        rcases List.mem_cons.mp hm with rfl | hm
        · exact Or.inr (Or.inl rfl)
        · rcases List.mem_cons.mp hm with rfl | hm
          · exact Or.inr (Or.inr rfl)
          · cases hm
    | d + 1, m, c, hI, hmem => exact hI.elim
  store := by
    intro d m child child' i c c1 rk rv hI hf hc hq hI' _ _
    match d, m, child, child', hI, hf, hc, hq, hI' with
    | 0, m, child, child', hI, hf, hc, hq, hI' =>
      rcases IS1 hI with h | h
      · subst h
        have h0 : MMetaSlab.findChild mmS.childHdrs (k1.dig 0) 0 mmS.childHdrs.length none (mmS.childHdrs.length + 1) = some 0 := rfl
        rw [h0] at hf
        injection hf with hf
        subst hf
        have hcA : mmS.children[0]? = some dA := rfl
        have hch : child = dA := (Option.some.inj (hcA.symm.trans hc)).symm
        subst hch
        have hr : MTree.remove cfg16 0 (dA : MDataSlab 0) k1 c = .ok (k1, v1, dA', c.emit (.store ⟨1, 2⟩)) := dA_remove c
        rw [hr] at hq
        injection hq with hq
        injection hq with _ hq
        injection hq with _ hq
        injection hq with hq _
        subst hq
        exact Or.inr rfl
      · subst h
        have h0 : MMetaSlab.findChild mmS1.childHdrs (k1.dig 0) 0 mmS1.childHdrs.length none (mmS1.childHdrs.length + 1) = some 0 := rfl
        rw [h0] at hf
        injection hf with hf
        subst hf
        have hcA : mmS1.children[0]? = some dA' := rfl
        have hch : child = dA' := (Option.some.inj (hcA.symm.trans hc)).symm
        subst hch
        have hr : MTree.remove cfg16 0 (dA' : MDataSlab 0) k1 c = .error .keyNotFound := dA'_remove c
        rw [hr] at hq
        cases hq
    | d + 1, m, child, child', hI, hf, hc, hq, hI' => exact hI.elim

/-- in this run nothing is restructured: every slab of `IS` is neither full nor underflowing at `T = 16` -/
theorem IS_quiet : ∀ (d : Nat) (t : MTree 0 d), IS d t → MTree.isFull 16 d t = false ∧ MTree.isUnderflow 16 d t = none := by
  intro d t hI
  match d, t, hI with
  | 0, t, hI => rcases IS0 hI with rfl | rfl | rfl <;> exact ⟨rfl, rfl⟩
  | 1, t, hI => rcases IS1 hI with h | h <;> (rw [h]; exact ⟨rfl, rfl⟩)
  | d + 2, t, hI => exact hI.elim

theorem IS_split : MRSplitTail IS 16 rsx := by
  intro d m1 x child' k s1 hpre hfull
  have hI := hpre.inv child' (List.mem_of_getElem? hpre.at_k)
  rw [(IS_quiet d child' hI).1] at hfull
  cases hfull

theorem IS_mor : MRMorTail IS 16 rsx := by
  intro d m1 x child' k u s1 hpre _ hunder
  have hI := hpre.inv child' (List.mem_of_getElem? hpre.at_k)
  rw [(IS_quiet d child' hI).2] at hunder
  cases hunder

theorem IS_root : MRRootTail IS 16 rsx := by
  refine ⟨?_, ?_⟩
  · intro d x ty cnt seed child s1 xh hch _ _ _ _ hI
    match d, x, child, hch, hI with
    | 0, x, child, hch, hI =>
      rcases IS1 hI with h | h
      · rw [h] at hch
        have : ([(dA : MTree 0 0), dB] : List (MTree 0 0)) = [child] := hch
        injection this with _ h2; cases h2
      · rw [h] at hch
        have : ([(dA' : MTree 0 0), dB] : List (MTree 0 0)) = [child] := hch
        injection this with _ h2; cases h2
    | d + 1, x, child, hch, hI => exact hI.elim
  · intro m2 s2 xh _ _ _ _ hfull _ hI
    rw [(IS_quiet m2.d m2.root hI).1] at hfull
    cases hfull

theorem mmS_holds : MHolds sS.heap 1 (mmS : MMetaSlab (MTree 0 0)) xS := by
  refine ⟨rfl, ?_⟩
  intro c hc
  have hc' : c ∈ [(dA : MTree 0 0), dB] := hc
  rcases List.mem_cons.mp hc' with rfl | h
  · rfl
  · rcases List.mem_cons.mp h with rfl | h
    · rfl
    · cases h

theorem mmS_wf : mdr_WF 1 (mmS : MMetaSlab (MTree 0 0)) xS := by
  refine ⟨rfl, by decide, by decide, ?_⟩
  intro c hc
  have hc' : c ∈ [(dA : MTree 0 0), dB] := hc
  rcases List.mem_cons.mp hc' with rfl | h
  · exact ⟨rfl, rfl⟩
  · rcases List.mem_cons.mp h with rfl | h
    · exact ⟨rfl, rfl⟩
    · cases h

theorem sS_alloc : MRAllocOk sS := by
  intro id hid
  show id.idx ≤ 5
  by_cases h1 : id = ⟨1, 1⟩
  · rw [h1]; decide
  · by_cases h2 : id = ⟨1, 2⟩
    · rw [h2]; decide
    · by_cases h3 : id = ⟨1, 3⟩
      · rw [h3]; decide
      · exact absurd (by simp only [sS, s0, h1, h2, h3, if_false]) hid

theorem mmS_remove : MTree.remove cfg16 1 (mmS : MMetaSlab (MTree 0 0)) k1 sS.ctx =
    .ok (k1, v1, (mmS1 : MMetaSlab (MTree 0 0)), { ctr := 5, eff := [.store ⟨1, 2⟩, .store ⟨1, 1⟩] }) := rfl

/-- non-vacuity of `Ob_MapSlab_Remove_heap_of_tails`: all its hypotheses hold together on the run that removes `k1` from
    the 2-child index slab `mmS` (invariant `IS` = the slabs of this run; none of them is full or underflowing at
    `T = 16`, so the tails hold for ANY `rs`, here `rsx`) -/
example : ∃ s', MapSlab_Remove (envD 16 ebx16 rsx) (MapMetaDataSlab_Remove (envD 16 ebx16 rsx) 1) (.metaSlab (md_meta mmS xS)) sS k1
      (u64 0) (u64 5) (.key k1) = some (some (.key k1), some (.val v1), none, .metaSlab (md_meta mmS1 xS), s') ∧
    s'.ctx = { ctr := 5, eff := [.store ⟨1, 2⟩, .store ⟨1, 1⟩] } ∧ s'.popped = [] ∧
    MRPost sS.heap s'.heap (d := 1) (mmS : MMetaSlab (MTree 0 0)) (mmS1 : MMetaSlab (MTree 0 0)) xS ∧ MRAllocOk s' ∧
    IS 1 (mmS1 : MMetaSlab (MTree 0 0)) := by
  have h := Ob_MapSlab_Remove_heap_of_tails IS ebx16 rsx cfg16 k1 v3 (fun _ => True) ebx16_ok (fun _ => trivial) IS_split IS_mor
    IS_closed (by decide) (by decide) (by decide) 1 (mmS : MMetaSlab (MTree 0 0)) xS sS 1 (Nat.le_refl _) mmS_wf (by decide)
    mmS_holds sS_alloc (Or.inl rfl)
  rw [mmS_remove] at h
  exact h

theorem omS_remove : OMap.remove cfg16 omS k1 sS.ctx =
    .ok (k1, v1, { omS with root := (mmS1 : MMetaSlab (MTree 0 0)), count := 1 },
      { ctr := 5, eff := [.store ⟨1, 2⟩, .store ⟨1, 1⟩] }) := rfl

/-- non-vacuity of `Ob_OrderedMap_remove_heap_of_tails`: the same run from the handle; count 2 -> 1, no promotion (two
    children), no root split; the STORED root record keeps the old extra data (`xh = some (md_extra omS)`) -/
example : ∃ s' xh, OrderedMap_remove (envD 16 ebx16 rsx) 1 (md_map omS sS) (.key k1) =
      some (some (.key k1), some (.val v1), none,
        md_map ({ omS with root := (mmS1 : MMetaSlab (MTree 0 0)), count := 1 } : OMap 0) s') ∧
    s'.ctx = { ctr := 5, eff := [.store ⟨1, 2⟩, .store ⟨1, 1⟩] } ∧ s'.popped = [] ∧
    MRRootPost sS.heap s'.heap omS ({ omS with root := (mmS1 : MMetaSlab (MTree 0 0)), count := 1 } : OMap 0) xh ∧
    (xh = some (md_extra omS) ∨
      xh = some (md_extra ({ omS with root := (mmS1 : MMetaSlab (MTree 0 0)), count := 1 } : OMap 0))) ∧
    MRAllocOk s' ∧ IS 1 (mmS1 : MMetaSlab (MTree 0 0)) := by
  have h := Ob_OrderedMap_remove_heap_of_tails IS ebx16 rsx cfg16 k1 v3 (fun _ => True) ebx16_ok (fun _ => trivial) IS_split
    IS_mor IS_root IS_closed (by decide) (by decide) (by decide) omS sS 1 (Nat.le_refl _) mmS_wf (by decide) mmS_holds
    (by decide) sS_alloc (Or.inl rfl)
  rw [omS_remove] at h
  exact h
end MdrEx

end Atree.TransEq

import AtreeProofs.Props.TransMapDescentSetFull4
import AtreeProofs.Props.TransMapDescentRemoveTree
/-
  The whole `MTree.remove` / `OMap.remove` over the heap, composed over the tail predicates of `Set` (`mds_Pre`, `mds_Post`,
  `mds_FreshFree`, `MSplitTail`, `MMorTailH`, `MRootTailR`, `mds_RootPreR`, `mds_Delta`) with `md_descent`
  (TransMapDescentLevel.lean) and the step theorem of TransMapDescentTopRemove.lean: the tails are the ones proved for
  `rsOf`, so that Props/TransMapDescentRemoveHeapFull.lean can plug them in.
-/
namespace Atree.TransEq
open Atree Atree.Gen.TransMapD

section
variable {r : Nat}

section
variable (eb : DEnvB r) (rs : DRestruct r)

/-- what the theorem assumes ALONG THE PATH of the key (`Remove` searches from "no child": when the search finds
    nothing the operation is `KeyNotFound` and nothing else is needed) -/
def mdsr_Path (cfg : MCfg) (k : MKey) (P : DG r → Prop) (L : MDataSlab r → Prop)
    (Qin : (d : Nat) → MTree r d → Prop) : (d : Nat) → MTree r d → Ctx → Prop
  | 0, (sl : MDataSlab r), _ => P sl.elems ∧ sl.hdr.id.addr = cfg.addr ∧ sl.inlined = false ∧ L sl
  | d + 1, (m : MMetaSlab (MTree r d)), c =>
    (∀ h ∈ m.childHdrs, h.firstKey < 2^64) ∧ m.childHdrs.length < 2^62 ∧ Gen.mapSlabHeaderSize ≤ m.hdr.size ∧
    m.childHdrs = m.children.map (MTree.hdr d) ∧ (∀ c' ∈ m.children, Qin d c') ∧
    ∀ i, MMetaSlab.findChild m.childHdrs (k.dig 0) 0 m.childHdrs.length none (m.childHdrs.length + 1) = some i →
      ∃ child : MTree r d, m.children[i]? = some child ∧
        mds_rootFlag d child = false ∧
        mdsr_Path cfg k P L Qin d child c ∧
        ∀ rk rv child' c1, MTree.remove cfg d child k c = .ok (rk, rv, child', c1) → (MTree.hdr d child').size < 2^32

/-- on the way down: held by the heap (`x` = the extra data of the receiver as passed, the stored record may carry
    another), identifiers distinct and the owner's, fresh identifiers free, `mdsr_Path` -/
def mdsr_Down (cfg : MCfg) (k : MKey) (P : DG r → Prop) (L : MDataSlab r → Prop) (Qin : (d : Nat) → MTree r d → Prop)
    (d : Nat) (t : MTree r d) (x : Option DX) (s : MHSt r) : Prop :=
  (∃ x0, MHolds s.heap d t x0) ∧ x.isSome = mds_rootFlag d t ∧ (md_ids d t).Nodup ∧
    (∀ id ∈ md_ids d t, id.addr = cfg.addr) ∧ mds_FreshFree cfg.addr s ∧ mdsr_Path cfg k P L Qin d t s.ctx

theorem mdsr_leaf (cfg : MCfg) (k : MKey) (v : Elem) (P : DG r → Prop) (hE : ElemsSpec cfg k v P eb)
    (sl : MDataSlab r) (x x0 : Option DX) (hx : x.isSome = sl.root) (hP : P sl.elems) (s : MHSt r)
    (ha : sl.hdr.id.addr = cfg.addr) (hinl : sl.inlined = false) (hh : MHolds s.heap 0 sl x0)
    (hff : mds_FreshFree cfg.addr s)
    (hmono : ∀ rk rv sl' c', MDataSlab.remove cfg sl k s.ctx = .ok (rk, rv, sl', c') → s.ctx.ctr ≤ c'.ctr)
    (depth : Nat) : MdRel (md_opRemove eb rs cfg k) (mds_Up cfg) (fun _ _ _ _ _ _ => True) depth 0 sl x s := by
  have h1 := mdr_remove_data eb rs cfg k v P hE sl x hx hP hinl s (MapMetaDataSlab_Remove (envD cfg.T eb rs) depth)
  unfold MdRel
  rw [show (md_opRemove eb rs cfg k).M 0 sl s.ctx = MDataSlab.remove cfg sl k s.ctx from rfl]
  revert h1
  rcases hq : MDataSlab.remove cfg sl k s.ctx with e | ⟨rk, rv, sl', c'⟩
  · exact fun h1 => ⟨_, _, h1, trivial⟩
  · rintro ⟨s', h1, h2, h3, hrel⟩
    exact ⟨s', h1, h2, h3, mds_Post_of_HeapRel hrel (by show [sl.hdr.id].Nodup; simp)
      (fun id hid => by rw [List.mem_singleton.mp hid]; exact ha) hh hff (by rw [h2]; exact hmono rk rv sl' c' hq)⟩

theorem mdsr_down (cfg : MCfg) (k : MKey) (P : DG r → Prop) (L : MDataSlab r → Prop) (Qin : (d : Nat) → MTree r d → Prop)
    (hhk : k.dig 0 < 2^64) (d : Nat) (m : MMetaSlab (MTree r d)) (x : Option DX) (s : MHSt r)
    (h : mdsr_Down cfg k P L Qin (d + 1) (m : MMetaSlab (MTree r d)) x s) :
    (md_opRemove eb rs cfg k).Rng m.childHdrs ∧
    ∀ i, (md_opRemove eb rs cfg k).route m.childHdrs = some i → ∃ child : MTree r d, m.children[i]? = some child ∧
      m.childHdrs[i]? = some (MTree.hdr d child) ∧ s.heap (MTree.hdr d child).id = some (md_tree d child none) ∧
      mdsr_Down cfg k P L Qin d child none s := by
  obtain ⟨⟨x0, hh⟩, -, hnd, haddr, ffs, hfk, hlen, -, hhdrs, -, hpath⟩ := h
  refine ⟨⟨hhk, hfk, hlen⟩, fun i hfind => ?_⟩
  obtain ⟨child, hci, hroot, hpc, -⟩ := hpath i hfind
  obtain ⟨hhi, hrootc, hhc, hndc, hsub⟩ := hh.child hhdrs hnd hci
  exact ⟨child, hci, hhi, hrootc, ⟨none, hhc⟩, by rw [hroot]; rfl, hndc, fun id hid => haddr id (hsub id hid), ffs, hpc⟩

/-- The whole `MTree.remove` over the heap, given the (Set) tails: results `(removed key, removed value, nil)`, the new
    subtree root `md_tree d t' x`, `s'.ctx = c'`, and `mds_Post` (heap holds `t'`, fresh / gone / frame relative to
    `md_ids t ∪ md_ids t'`, fresh identifiers free); a model error (`KeyNotFound` ..) comes back as that error value.
    `hQrem`: tight inputs give `Q` results; `hmono`: the model's leaf removal does not lower the counter. -/
theorem Ob_MapSlab_Remove_heap_of_tailsH (cfg : MCfg) (k : MKey) (v : Elem) (P : DG r → Prop) (L : MDataSlab r → Prop)
    (Q Qin : (d : Nat) → MTree r d → Prop) (hE : ElemsSpec cfg k v P eb)
    (hS : MSplitTail cfg.T rs Q) (hM : MMorTailH cfg.T rs Q)
    (hQin : ∀ d (t : MTree r d), Qin d t → Q d t)
    (hQrem : ∀ d (t t' : MTree r d) rk rv c c', Qin d t → MTree.remove cfg d t k c = .ok (rk, rv, t', c') → Q d t')
    (hmono : ∀ (sl : MDataSlab r) c rk rv sl' c', L sl → MDataSlab.remove cfg sl k c = .ok (rk, rv, sl', c') →
      c.ctr ≤ c'.ctr)
    (hT1 : maxThr cfg.T < 2^32) (hT2 : minThr cfg.T < 2^32) (hhk : k.dig 0 < 2^64) :
    ∀ (d depth : Nat) (t : MTree r d) (x x0 : Option DX) (s : MHSt r), d ≤ depth → MHolds s.heap d t x0 →
      x.isSome = mds_rootFlag d t → (md_ids d t).Nodup → (∀ id ∈ md_ids d t, id.addr = cfg.addr) →
      mds_FreshFree cfg.addr s → mdsr_Path cfg k P L Qin d t s.ctx →
      match MTree.remove cfg d t k s.ctx with
      | .ok (rk, rv, t', c') =>
        ∃ s', MapSlab_Remove (envD cfg.T eb rs) (MapMetaDataSlab_Remove (envD cfg.T eb rs) depth) (md_tree d t x) s k
            (u64 0) (u64 (k.dig 0)) (.key k) = some (some (.key rk), some (.val rv), none, md_tree d t' x, s') ∧
          s'.ctx = c' ∧ s'.popped = s.popped ∧ mds_Post cfg.addr s s' d t t' x
      | .error e =>
        ∃ root' s', MapSlab_Remove (envD cfg.T eb rs) (MapMetaDataSlab_Remove (envD cfg.T eb rs) depth) (md_tree d t x) s k
            (u64 0) (u64 (k.dig 0)) (.key k) = some (none, none, some e, root', s') := by
  intro d depth t x x0 s hd hh hx hnd haddr ffs hp
  have key := md_descent (md_opRemove eb rs cfg k) hT1 hT2 (mdsr_Down cfg k P L Qin) (mds_Up cfg)
    (fun _ _ _ _ _ _ => True)
    (fun sl x s depth h => by
      obtain ⟨⟨x0, hh⟩, hx, -, -, ffs, hp⟩ := h
      exact mdsr_leaf eb rs cfg k v P hE sl x x0 hx hp.1 s hp.2.1 hp.2.2.1 hh ffs
        (fun rk rv sl' c' hq => hmono sl s.ctx rk rv sl' c' hp.2.2.2 hq) depth)
    (mdsr_down eb rs cfg k P L Qin hhk) (fun _ _ _ _ _ _ => trivial) (fun _ _ _ _ _ _ _ _ _ _ _ _ _ _ => trivial)
    (fun d m x s i child child' rk rv s1 h hfind hci hq hpost => by
      obtain ⟨⟨x0, hh⟩, -, hnd, haddr, -, -, -, hrecv, hhdrs, hQ, hpath⟩ := h
      obtain ⟨child0, hci0, -, -, hsz⟩ := hpath i hfind
      obtain rfl : child0 = child := Option.some.inj (hci0.symm.trans hci)
      exact mds_up_of_tails rs (fun n => Gen.mapSlabHeaderSize ≤ n) cfg Q hS hM m x x0 s s1 i child0 child' hci hh hnd haddr
        hhdrs (fun c hc => hQin d c (hQ c hc)) (hQrem d child0 child' rk rv _ _ (hQ child0 (List.mem_of_getElem? hci)) hq)
        hrecv (hsz rk rv child' s1.ctx hq) hpost)
    d depth t x s hd ⟨⟨x0, hh⟩, hx, hnd, haddr, ffs, hp⟩
  revert key
  unfold MdRel
  dsimp only [md_opRemove, mds_Up]
  rcases MTree.remove cfg d t k s.ctx with e | ⟨rk, rv, t', c'⟩
  · rintro ⟨tt, ss, h, -⟩
    exact ⟨tt, ss, h⟩
  · exact id

end

section
variable (eb : DEnvB r) (rs : DRestruct r) (Q : (d : Nat) → MTree r d → Prop) (QR : OMap r → Prop)

/-- The whole `OMap.remove` over the heap, given the (Set) tails -/
theorem Ob_OrderedMap_remove_heap_of_tailsH (Qin : (d : Nat) → MTree r d → Prop) (cfg : MCfg) (k : MKey) (v : Elem)
    (P : DG r → Prop) (L : MDataSlab r → Prop) (hE : ElemsSpec cfg k v P eb) (hS : MSplitTail cfg.T rs Q)
    (hM : MMorTailH cfg.T rs Q) (hR : MRootTailR cfg.T rs QR)
    (hQin : ∀ d (t : MTree r d), Qin d t → Q d t)
    (hQrem : ∀ d (t t' : MTree r d) rk rv c c', Qin d t → MTree.remove cfg d t k c = .ok (rk, rv, t', c') → Q d t')
    (hQRhdrs : ∀ d (xr : MMetaSlab (MTree r d)) ty cnt seed, QR ⟨d + 1, xr, ty, cnt, seed⟩ →
      xr.childHdrs = xr.children.map (MTree.hdr d))
    (hmono : ∀ (sl : MDataSlab r) c rk rv sl' c', L sl → MDataSlab.remove cfg sl k c = .ok (rk, rv, sl', c') →
      c.ctr ≤ c'.ctr)
    (hT1 : maxThr cfg.T < 2^32) (hT2 : minThr cfg.T < 2^32) (hhk : k.dig 0 < 2^64)
    (m : OMap r) (s : MHSt r) (x0 : Option DX) (depth : Nat) (hd : m.d ≤ depth)
    (hheld : MHolds s.heap m.d m.root x0) (hnd : (md_ids m.d m.root).Nodup)
    (haddr : ∀ id ∈ md_ids m.d m.root, id.addr = cfg.addr) (hff : mds_FreshFree cfg.addr s)
    (hroot : mds_rootFlag m.d m.root = true)
    (hp : mdsr_Path cfg k P L Qin m.d m.root s.ctx)
    (hcount : ∀ rk rv root' c1, MTree.remove cfg m.d m.root k s.ctx = .ok (rk, rv, root', c1) → 0 < m.count)
    (hQRrem : ∀ rk rv root' c1, MTree.remove cfg m.d m.root k s.ctx = .ok (rk, rv, root', c1) →
      QR ({ m with root := root', count := m.count - 1 } : OMap r))
    (hszR : ∀ rk rv root' c1, MTree.remove cfg m.d m.root k s.ctx = .ok (rk, rv, root', c1) →
      (MTree.hdr _ (OMap.promoteIfSingleChild ({ m with root := root', count := m.count - 1 } : OMap r) c1).1.root).size
        < 2^32) :
    match OMap.remove cfg m k s.ctx with
    | .ok (rk, rv, m', c') =>
      ∃ s' x', OrderedMap_remove (envD cfg.T eb rs) depth (md_map m s) (.key k) =
          some (some (.key rk), some (.val rv), none, md_map m' s') ∧
        s'.ctx = c' ∧ s'.popped = s.popped ∧ mds_RootPreR QR cfg.addr s' m' x' ∧
        mds_Delta s.heap s'.heap (md_ids m.d m.root) (md_ids m'.d m'.root)
    | .error e => ∃ M', OrderedMap_remove (envD cfg.T eb rs) depth (md_map m s) (.key k) = some (none, none, some e, M') := by
  have hT := Ob_MapSlab_Remove_heap_of_tailsH eb rs cfg k v P L Q Qin hE hS hM hQin hQrem hmono hT1 hT2 hhk m.d depth
    m.root (some (md_extra m)) x0 s hd hheld (by rw [hroot]; rfl) hnd haddr hff hp
  rw [mdr_OMap_remove_eq]
  rcases hq : MTree.remove cfg m.d m.root k s.ctx with e | ⟨rk, rv, root', c1⟩
  · rw [hq] at hT
    obtain ⟨root'', s'', hg⟩ := hT
    exact ⟨_, Ob_OrderedMap_remove_err cfg.T eb rs (md_map m s) k depth root'' s'' none none e hg⟩
  · rw [hq] at hT
    obtain ⟨s1, h1, h2, h3, hpost⟩ := hT
    subst h2
    have hgen : OrderedMap_remove (envD cfg.T eb rs) depth (md_map m s) (.key k) =
        mdr_topTail cfg.T eb rs (some (.key rk)) (some (.val rv))
          (md_map ({ m with root := root', count := m.count - 1 } : OMap r) s1) :=
      Ob_OrderedMap_remove_step_md cfg.T eb rs m s k depth m.d root' s1 _ _ (hcount rk rv root' s1.ctx hq) h1
    have key := md_top cfg.T eb rs QR cfg.addr hR hQRhdrs hT1 m s s1 root' (m.count - 1) _ (some (.val rv)) hpost
      (hQRrem rk rv root' s1.ctx hq) (hszR rk rv root' s1.ctx hq)
    rw [hgen, mdr_topTail_eq]
    dsimp only
    revert key
    rcases OMap.splitRootIfFull cfg.T _ _ with e | ⟨m3, c3⟩
    · rintro ⟨M', hr⟩
      exact ⟨M', by rw [hr]; rfl⟩
    · rintro ⟨s3, x3, hr, hc3, hp3, hpre3, hdl⟩
      exact ⟨s3, x3, by rw [hr]; rfl, hc3, by rw [hp3, h3], hpre3, hdl⟩

end

end

end Atree.TransEq

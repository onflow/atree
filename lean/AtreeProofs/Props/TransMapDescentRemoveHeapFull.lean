import AtreeProofs.Props.TransMapDescentRemoveFull2
import AtreeProofs.Props.TransMapDescentSetHeapFull
import AtreeProofs.Map.TreeRemove
/-
  **`Ob_OrderedMap_Remove_heap_full`**: the generated `OrderedMap.remove` with the generated restructuring code (`rsOf`)
  over a heap equals the model's `OMap.remove` under the map invariant.  The model-side hypotheses of
  `Ob_OrderedMap_remove_heap_of_tailsH` come from `MapInv` (`MTree.remove_spec`; lemmas `mfr_`), the three tails of `rsOf`
  are plugged in.  `rsOf` runs the generated code under the environment `envMH` (Trans/MapRestruct.lean), whose fields
  `MapSlab_CanLendToLeft` / `MapSlab_CanLendToRight` (the two lend decisions inside `MergeOrRebalanceChildSlab`) are the
  MODEL's `canLend` on the decoded slab (`mr_canLend`), and whose `element_Size`, `Storable_ByteSize`,
  `maxInlineMapValueSize`, `minThreshold` are the model's sizes and thresholds; the translated `MapDataSlab_` /
  `MapMetaDataSlab_CanLendTo*` are tied to the model separately (`..._eq_model`, Props/Trans.lean, Props/TransLoops.lean)
  and are not what `envMH` calls.
-/
namespace Atree.TransEq
open Atree Atree.Gen.TransMapD

section
variable {r : Nat} {T : Nat} {D : DigestFn (r + 1)} {cfg : MCfg}

/-- a successful model removal found the key: it satisfies the post-condition of its specification (`MTree.remove_spec`,
    `remove_spec_zero`), and the key was present -/
theorem mfr_post_of_spec {d : Nat} {top : Bool} {t t' : MTree r d} {k rk : MKey} {rv : Elem} {c c' : Ctx}
    (hspec : ((∀ p ∈ MTree.toList d t, p.1 ≠ k) → MTree.remove cfg d t k c = .error .keyNotFound) ∧
      (∀ v, (k, v) ∈ MTree.toList d t → ∃ t' c', MTree.remove cfg d t k c = .ok (k, v, t', c') ∧
        TRemPost T D d top t t' k v c c'))
    (hq : MTree.remove cfg d t k c = .ok (rk, rv, t', c')) :
    TRemPost T D d top t t' k rv c c' ∧ (k, rv) ∈ MTree.toList d t := by
  by_cases hex : ∃ v, (k, v) ∈ MTree.toList d t
  · obtain ⟨v, hv⟩ := hex
    obtain ⟨t'', c'', heq, hp⟩ := hspec.2 v hv
    rw [heq] at hq
    cases hq
    exact ⟨hp, hv⟩
  · have hne : ∀ p ∈ MTree.toList d t, p.1 ≠ k := fun p hp e => hex ⟨p.2, by rw [← e]; exact hp⟩
    rw [hspec.1 hne] at hq; cases hq

theorem mfr_post (hT : legalThreshold T = true) (hc : CfgFor cfg T (r + 1)) {k : MKey} (hk : KeyOk T (r + 1) D k)
    (d : Nat) (top : Bool) (t t' : MTree r d) (c c' : Ctx) (rk : MKey) (rv : Elem) (h : MTreeInv T D d top t)
    (hq : MTree.remove cfg d t k c = .ok (rk, rv, t', c')) :
    TRemPost T D d top t t' k rv c c' ∧ (k, rv) ∈ MTree.toList d t :=
  mfr_post_of_spec (MTree.remove_spec hT hc hk d top t c h) hq

theorem mfr_post_zero (hT : legalThreshold T = true) (hc : CfgFor cfg T (r + 1)) {k : MKey} (hk : KeyOk T (r + 1) D k)
    (top : Bool) (s s' : MDataSlab r) (c c' : Ctx) (rk : MKey) (rv : Elem) (h : MDataLoose T D top s)
    (hq : MTree.remove cfg 0 s k c = .ok (rk, rv, s', c')) : TRemPost T D 0 top s s' k rv c c' :=
  (mfr_post_of_spec (remove_spec_zero hT hc s h hk c) hq).1

/-- `hQrem` for tight inputs -/
theorem mfr_remove_MQ (hT : legalThreshold T = true) (hc : CfgFor cfg T (r + 1)) {k : MKey} (hk : KeyOk T (r + 1) D k)
    (d : Nat) (t t' : MTree r d) (rk : MKey) (rv : Elem) (c c' : Ctx) (h : mfi_Qin T D d t)
    (hq : MTree.remove cfg d t k c = .ok (rk, rv, t', c')) : MQ T D d t' := by
  exact MQ.of_post h (mfr_post hT hc hk d false t t' c c' rk rv h.1 hq).1.post (fun _ hx => hx.elim)

theorem mfr_mono (hT : legalThreshold T = true) (hc : CfgFor cfg T (r + 1)) {k : MKey} (hk : KeyOk T (r + 1) D k)
    (sl : MDataSlab r) (c : Ctx) (rk : MKey) (rv : Elem) (sl' : MDataSlab r) (c' : Ctx) (hL : mfi_L T D sl)
    (hq : MDataSlab.remove cfg sl k c = .ok (rk, rv, sl', c')) : c.ctr ≤ c'.ctr := by
  obtain ⟨top, hl⟩ := hL
  exact (mfr_post_zero hT hc hk top sl sl' c c' rk rv hl hq).ctr

/-- `hQRrem`: the handle after the tree-level removal satisfies the loose root invariant `MQR1` -/
theorem mfr_QRrem1 (hT : legalThreshold T = true) (hc : CfgFor cfg T (r + 1)) {k : MKey} (hk : KeyOk T (r + 1) D k)
    (m : OMap r) (hinv : MapInv T D m) (hdig : ∀ x ∈ MTree.digests0 m.d m.root, x < 2^64) (c : Ctx) (rk : MKey)
    (rv : Elem) (root' : MTree r m.d) (c1 : Ctx) (hq : MTree.remove cfg m.d m.root k c = .ok (rk, rv, root', c1)) :
    MQR1 T D ({ m with root := root', count := m.count - 1 } : OMap r) ∧ 0 < m.count := by
  obtain ⟨hp, hmem⟩ := mfr_post hT hc hk m.d true m.root root' c c1 rk rv hinv.tree hq
  refine ⟨MQR1.of_post hinv hdig hp.post hp.inl (fun _ hx => hx.elim) _, ?_⟩
  rw [hinv.count_eq]
  exact List.length_pos_of_mem hmem

/-- `mdsr_Path` from the tree invariant -/
theorem mfr_path (hT : legalThreshold T = true) (hc : CfgFor cfg T (r + 1)) {k : MKey} (hk : KeyOk T (r + 1) D k)
    (P : DG r → Prop) :
    ∀ (d : Nat) (top : Bool) (t : MTree r d) (c : Ctx), MTreeInv T D d top t →
      (∀ x ∈ MTree.digests0 d t, x < 2^64) → (MTree.hdr d t).id.addr = cfg.addr → treeInl d t = false →
      (∀ sl ∈ MTree.leaves d t, P sl.elems) →
      mdsr_Path cfg k P (mfi_L T D) (mfi_Qin T D) d t c
  | 0, top, s, c, h, _, haddr, hinl, hP =>
    ⟨hP s (List.mem_singleton.mpr rfl), haddr, hinl, ⟨top, ((mtreeInv_zero_iff T D _ _).mp h).loose⟩⟩
  | d + 1, top, (m : MMetaSlab (MTree r d)), c, h, hdig, haddr, _, hP => by
    obtain ⟨hm, h2, hle⟩ := MTreeInv.two_children hT h
    have hroute := route hT hm (by omega) (k.dig 0)
    obtain ⟨h1, h2', h3, h4, hQinC⟩ := mfi_node hT h hdig
    refine ⟨h1, h2', h3, h4, hQinC, fun i hfind => ?_⟩
    · rw [hfind] at hroute
      obtain ⟨A, child, B, hrt, _⟩ := hroute
      have hci : m.children[i]? = some child := by rw [hrt.ch]; exact get_at hrt.len
      have hmem : child ∈ m.children := List.mem_of_getElem? hci
      refine ⟨child, hci, mfi_rootFlag_false d child (hQinC child hmem).1, ?_, ?_⟩
      · exact mfr_path hT hc hk P d false child c (hQinC child hmem).1 (hQinC child hmem).2
          (by rw [hm.2.2.2.2.2.1 child hmem]; exact haddr) (mfi_inl_false d child (hQinC child hmem).1)
          (fun sl hsl => hP sl (List.mem_flatMap.mpr ⟨child, hmem, hsl⟩))
      · intro rk rv child' c1 hq
        exact (mfr_remove_MQ hT hc hk d child child' rk rv c c1 (hQinC child hmem) hq).size_lt hT

end

section
variable {r : Nat}

/-- **`OrderedMap.remove` over a heap = `OMap.remove`**, every depth, every restructuring, with the generated
    restructuring code (`rsOf cfg.T`; its three tails `MSplitTail_rsOf`, `MMorTail_rsOf_partial`, `MRootTailR_rsOf1` are
    plugged in), for any element layer `eb` that is the model's on the leaves (`ElemsSpec`; `v` is a dummy value): for a map
    satisfying `MapInv` whose tree the heap holds, the generated `OrderedMap.remove` returns
    `(removed key, removed value, nil, md_map m' s')` for the model's `OMap.remove cfg m k s.ctx = .ok (rk, rv, m', c')`,
    with `s'.ctx = c'`, the handle invariant over the heap re-established and the heap changed as `mds_Delta` says; a
    model error (`KeyNotFound` ..) comes back as that error value. -/
theorem Ob_OrderedMap_Remove_heap_full (cfg : MCfg) (D : DigestFn (r + 1)) (k : MKey) (v : Elem)
    (P : DG r → Prop) (eb : DEnvB r)
    (hLT : legalThreshold cfg.T = true) (hL : cfg.L = r + 1) (hk : KeyOk cfg.T (r + 1) D k)
    (hhk : k.dig 0 < 2^64) (hE : ElemsSpec cfg k v P eb)
    (m : OMap r) (hinv : MapInv cfg.T D m) (hdig : ∀ x ∈ MTree.digests0 m.d m.root, x < 2^64)
    (hPl : ∀ sl ∈ MTree.leaves m.d m.root, P sl.elems)
    (s : MHSt r) (x0 : Option DX) (depth : Nat) (hd : m.d ≤ depth)
    (hheld : MHolds s.heap m.d m.root x0) (hnd : (md_ids m.d m.root).Nodup)
    (haddr : ∀ id ∈ md_ids m.d m.root, id.addr = cfg.addr) (hff : mds_FreshFree cfg.addr s) :
    match OMap.remove cfg m k s.ctx with
    | .ok (rk, rv, m', c') =>
      ∃ s' x', OrderedMap_remove (envD cfg.T eb (rsOf cfg.T)) depth (md_map m s) (.key k) =
          some (some (.key rk), some (.val rv), none, md_map m' s') ∧
        s'.ctx = c' ∧ s'.popped = s.popped ∧ mds_RootPreR (MQR1 cfg.T D) cfg.addr s' m' x' ∧
        mds_Delta s.heap s'.heap (md_ids m.d m.root) (md_ids m'.d m'.root)
    | .error e =>
      ∃ M', OrderedMap_remove (envD cfg.T eb (rsOf cfg.T)) depth (md_map m s) (.key k) = some (none, none, some e, M') := by
  have hc : CfgFor cfg cfg.T (r + 1) := ⟨rfl, hL⟩
  have hb := map_legal_bounds hLT
  have hT1 : maxThr cfg.T < 2^32 := by rw [map_maxThr_eq]; omega
  have hT2 : minThr cfg.T < 2^32 := by simp only [minThr]; omega
  exact Ob_OrderedMap_remove_heap_of_tailsH eb (rsOf cfg.T) (MQ cfg.T D) (MQR1 cfg.T D) (mfi_Qin cfg.T D) cfg k v P
    (mfi_L cfg.T D) hE (MSplitTail_rsOf D hLT) (MMorTail_rsOf_partial hLT) (MRootTailR_rsOf1 cfg.T D hLT)
    (mfi_Qin_MQ hLT) (mfr_remove_MQ hLT hc hk) mfi_QRhdrs1
    (fun sl c rk rv sl' c' hl hq => mfr_mono hLT hc hk sl c rk rv sl' c' hl hq) hT1 hT2 hhk m s x0 depth hd hheld
    hnd haddr hff (mfi_rootFlag_true m.d m.root hinv.tree)
    (mfr_path hLT hc hk P m.d true m.root s.ctx hinv.tree hdig
      (haddr _ (mfi_root_id_mem m.d m.root)) (mfi_inl_root m hinv.standalone) hPl)
    (fun rk rv root' c1 hq => (mfr_QRrem1 hLT hc hk m hinv hdig s.ctx rk rv root' c1 hq).2)
    (fun rk rv root' c1 hq => (mfr_QRrem1 hLT hc hk m hinv hdig s.ctx rk rv root' c1 hq).1)
    (fun rk rv root' c1 hq => mfi_promote_size_lt1 hLT _ c1 (mfr_QRrem1 hLT hc hk m hinv hdig s.ctx rk rv root' c1 hq).1)

/-- the same with the CLOSED generated element layer: no hypothesis about any generated code (the environment fields given
    by model functions are listed in the file header) -/
theorem Ob_OrderedMap_Remove_heap_full_closed (cfg : MCfg) (D : DigestFn (r + 1)) (k : MKey) (v : Elem)
    (retr : mcl_Retrs DX)
    (hLT : legalThreshold cfg.T = true) (hL : cfg.L = r + 1) (hL64 : cfg.L < 2^64) (hT32 : cfg.T < 2^32)
    (hTe : maxInlineMapElem cfg.T < 2^32) (hcl : cfg.climit < 2^32) (hkd : ∀ lvl, k.dig lvl < 2^64)
    (hk : KeyOk cfg.T (r + 1) D k)
    (m : OMap r) (hinv : MapInv cfg.T D m) (hdig : ∀ x ∈ MTree.digests0 m.d m.root, x < 2^64)
    (hPl : ∀ sl ∈ MTree.leaves m.d m.root, mcl_PLeaf cfg k v retr D sl.elems)
    (s : MHSt r) (x0 : Option DX) (depth : Nat) (hd : m.d ≤ depth)
    (hheld : MHolds s.heap m.d m.root x0) (hnd : (md_ids m.d m.root).Nodup)
    (haddr : ∀ id ∈ md_ids m.d m.root, id.addr = cfg.addr) (hff : mds_FreshFree cfg.addr s) :
    match OMap.remove cfg m k s.ctx with
    | .ok (rk, rv, m', c') =>
      ∃ s' x', OrderedMap_remove (envD cfg.T (clEnvB cfg retr (r + 1)) (rsOf cfg.T)) depth (md_map m s) (.key k) =
          some (some (.key rk), some (.val rv), none, md_map m' s') ∧
        s'.ctx = c' ∧ s'.popped = s.popped ∧ mds_RootPreR (MQR1 cfg.T D) cfg.addr s' m' x' ∧
        mds_Delta s.heap s'.heap (md_ids m.d m.root) (md_ids m'.d m'.root)
    | .error e =>
      ∃ M', OrderedMap_remove (envD cfg.T (clEnvB cfg retr (r + 1)) (rsOf cfg.T)) depth (md_map m s) (.key k) =
        some (none, none, some e, M') :=
  Ob_OrderedMap_Remove_heap_full cfg D k v (mcl_PLeaf cfg k v retr D) (clEnvB cfg retr (r + 1)) hLT hL hk (hkd 0)
    (clEnvB_elemsSpec cfg k v retr D hL hL64 hT32 hTe hcl hkd hLT) m hinv hdig hPl s x0 depth hd hheld hnd haddr hff

end

end Atree.TransEq

import AtreeProofs.Props.TransMapDescentSetModel
/-
  `Remove` of the map descent against the model when NO slab on the path is restructured (no split, no merge / rebalance):
  the generated dispatch `MapSlab_Remove` on the root of a tree HELD by the heap is the translation of the model's
  `MTree.remove`: results, new tree, `Ctx`, and the heap afterwards holds the new tree (`MHeapPost`).  An instance of
  `md_descent` (Props/TransMapDescentLevel.lean) with the post-condition `mds_Kept` of the `Set` side.  `mdr_remove_data` is
  the leaf of every `Remove` descent (the call and `mds_HeapRel`).
-/
namespace Atree.TransEq
open Atree Atree.Gen.TransMapD

section tree
variable {r : Nat}

/-- what the descent relies on: `x` present iff root and not inlined (leaf); the child headers are the headers of the
    children, first keys / number of children in range (index slab) -/
def mdr_WF : (d : Nat) → MTree r d → Option DX → Prop
  | 0, (s : MDataSlab r), x => x.isSome = s.root ∧ s.inlined = false
  | d + 1, (m : MMetaSlab (MTree r d)), _ =>
    m.childHdrs = m.children.map (MTree.hdr d) ∧ (∀ h ∈ m.childHdrs, h.firstKey < 2^64) ∧ m.childHdrs.length < 2^62 ∧
    ∀ c ∈ m.children, mdr_WF d c none

/-- no slab on the path of `k` is restructured: every child that comes back is neither full nor underflowing (and its
    size is a `uint32`) -/
def mdr_NoRestr (cfg : MCfg) (k : MKey) : (d : Nat) → MTree r d → Ctx → Prop
  | 0, _, _ => True
  | d + 1, (m : MMetaSlab (MTree r d)), c =>
    ∀ i child, MMetaSlab.findChild m.childHdrs (k.dig 0) 0 m.childHdrs.length none (m.childHdrs.length + 1) = some i →
      m.children[i]? = some child →
      mdr_NoRestr cfg k d child c ∧
      ∀ rk rv child' c1, MTree.remove cfg d child k c = .ok (rk, rv, child', c1) →
        (MTree.hdr d child').size < 2^32 ∧ MTree.isFull cfg.T d child' = false ∧ MTree.isUnderflow cfg.T d child' = none

theorem mdr_MHolds_congr {h h' : SlabID → Option (DSlab r)} :
    ∀ (d : Nat) (t : MTree r d) (x : Option DX), (∀ id ∈ md_ids d t, h' id = h id) → MHolds h d t x → MHolds h' d t x :=
  fun _ _ _ hyp hh => hh.congr hyp

theorem mdr_hdr_id_mem_ids (d : Nat) (t : MTree r d) : (MTree.hdr d t).id ∈ md_ids d t := md_hdr_id_mem d t

/-- the model's leaf removal keeps the identifier and the `inlined` flag -/
theorem mdr_data_remove_inv {cfg : MCfg} {sl sl' : MDataSlab r} {k : MKey} {c c' : Ctx} {rk : MKey} {rv : Elem}
    (h : MDataSlab.remove cfg sl k c = .ok (rk, rv, sl', c')) : sl'.inlined = sl.inlined ∧ sl'.hdr.id = sl.hdr.id := by
  unfold MDataSlab.remove at h
  simp only [bind, Except.bind, pure, Except.pure] at h
  split at h
  · cases h
  · injection h with h
    simp only [Prod.mk.injEq] at h
    obtain ⟨_, _, h3, _⟩ := h
    subst h3
    exact ⟨rfl, rfl⟩

end tree

section main
variable {r : Nat} (eb : DEnvB r) (rs : DRestruct r) (cfg : MCfg) (k : MKey) (v : Elem) (P : DG r → Prop)

/-- on the way down: well-formed, identifiers distinct, held by the heap, nothing on the path is restructured -/
def mdr_HeldPath (d : Nat) (t : MTree r d) (x : Option DX) (s : MHSt r) : Prop :=
  mdr_WF d t x ∧ (md_ids d t).Nodup ∧ MHolds s.heap d t x ∧ mdr_NoRestr cfg k d t s.ctx

/-- The leaf of `Remove` (as `mds_set_data` for `Set`): on a data slab that is not inlined the dispatcher answers the model's
    `MDataSlab.remove`; the heap holds the new slab under the same identifier and nothing else moved; next to an error
    nothing changed. -/
theorem mdr_remove_data (hE : ElemsSpec cfg k v P eb) (sl : MDataSlab r) (x : Option DX) (hx : x.isSome = sl.root)
    (hP : P sl.elems) (hinl : sl.inlined = false) (s : MHSt r)
    (rec_ : MapMetaDataSlab DX → MHSt r → MKey → UInt64 → UInt64 → SW →
      Option (Option SV × Option SV × Option GE × MapMetaDataSlab DX × MHSt r)) :
    match MDataSlab.remove cfg sl k s.ctx with
    | .ok (rk, rv, sl', c') =>
      ∃ s', MapSlab_Remove (envD cfg.T eb rs) rec_ (.dataSlab (md_data sl x)) s k (u64 0) (u64 (k.dig 0)) (.key k) =
              some (some (.key rk), some (.val rv), none, .dataSlab (md_data sl' x), s') ∧
            s'.ctx = c' ∧ s'.popped = s.popped ∧ mds_HeapRel s.heap s'.heap 0 sl sl' x
    | .error e =>
      MapSlab_Remove (envD cfg.T eb rs) rec_ (.dataSlab (md_data sl x)) s k (u64 0) (u64 (k.dig 0)) (.key k) =
        some (none, none, some e, .dataSlab (md_data sl x), s) := by
  have hgo := Ob_MapDataSlab_Remove_heap cfg.T eb rs cfg k v P hE sl x hx hP s
  cases hrem : MDataSlab.remove cfg sl k s.ctx with
  | error e =>
    rw [hrem] at hgo
    simp only [MapSlab_Remove, hgo]
  | ok q =>
    obtain ⟨rk, rv, sl', c'⟩ := q
    rw [hrem] at hgo
    obtain ⟨hinl', hid⟩ := mdr_data_remove_inv hrem
    rw [hinl] at hinl'
    have hheap : ∀ i, (mdr_leafSt s sl' x c').heap i =
        if i = sl.hdr.id then some (.dataSlab (md_data sl' x)) else s.heap i := fun i => by
      simp only [mdr_leafSt, hinl', Bool.false_eq_true, if_false, hid]
    refine ⟨mdr_leafSt s sl' x c', by simp only [MapSlab_Remove, hgo], rfl, rfl, ?_, ?_, fun id hn => ?_⟩
    · show [sl'.hdr.id] = [sl.hdr.id]
      rw [hid]
    · show (mdr_leafSt s sl' x c').heap sl'.hdr.id = _
      rw [hheap, hid, if_pos rfl]
    · rw [hheap, if_neg (fun e : id = sl.hdr.id => hn (e ▸ List.mem_singleton.mpr rfl))]

theorem mdr_noRestr_leaf (hE : ElemsSpec cfg k v P eb) (hP : ∀ g, P g) (sl : MDataSlab r) (x : Option DX) (s : MHSt r)
    (depth : Nat) (h : mdr_HeldPath cfg k 0 sl x s) :
    MdRel (md_opRemove eb rs cfg k) mds_Kept (fun _ _ _ _ _ _ => True) depth 0 sl x s := by
  have h1 := mdr_remove_data eb rs cfg k v P hE sl x h.1.1 (hP _) h.1.2 s (MapMetaDataSlab_Remove (envD cfg.T eb rs) depth)
  unfold MdRel
  rw [show (md_opRemove eb rs cfg k).M 0 sl s.ctx = MDataSlab.remove cfg sl k s.ctx from rfl]
  revert h1
  rcases MDataSlab.remove cfg sl k s.ctx with e | ⟨rk, rv, sl', c'⟩
  · exact fun h1 => ⟨_, _, h1, trivial⟩
  · exact id

theorem mdr_noRestr_down (hk : k.dig 0 < 2^64) (d : Nat) (m : MMetaSlab (MTree r d)) (x : Option DX) (s : MHSt r)
    (h : mdr_HeldPath cfg k (d + 1) (m : MMetaSlab (MTree r d)) x s) :
    (md_opRemove eb rs cfg k).Rng m.childHdrs ∧
    ∀ i, (md_opRemove eb rs cfg k).route m.childHdrs = some i → ∃ child : MTree r d, m.children[i]? = some child ∧
      m.childHdrs[i]? = some (MTree.hdr d child) ∧ s.heap (MTree.hdr d child).id = some (md_tree d child none) ∧
      mdr_HeldPath cfg k d child none s := by
  obtain ⟨⟨hhdrs, hfk, hlen, hwfc⟩, hnd, hh, hnr⟩ := h
  refine ⟨⟨hk, hfk, hlen⟩, fun i hf => ?_⟩
  obtain ⟨child, hc⟩ := md_route_child hhdrs hf
  obtain ⟨hhi, hroot, hhc, hndc, -⟩ := hh.child hhdrs hnd hc
  exact ⟨child, hc, hhi, hroot, hwfc child (List.mem_of_getElem? hc), hndc, hhc, (hnr i child hf hc).1⟩

/-- the whole descent of `Remove` when no slab on the path is restructured: the generated dispatch on the root of a tree
    held by the heap is the translation of the model's `MTree.remove`; the storage carries the model's `Ctx` and holds the
    new tree (`MHeapPost`) -/
theorem Ob_MapSlab_Remove_heap_noRestructure (hE : ElemsSpec cfg k v P eb) (hP : ∀ g, P g)
    (hmax : maxThr cfg.T < 2^32) (hmin : minThr cfg.T < 2^32) (hk : k.dig 0 < 2^64) (d : Nat) (t : MTree r d)
    (x : Option DX) (s : MHSt r) (depth : Nat) (hd : d ≤ depth) (hwf : mdr_WF d t x) (hnd : (md_ids d t).Nodup)
    (hh : MHolds s.heap d t x) (hnr : mdr_NoRestr cfg k d t s.ctx) (rk : MKey) (rv : Elem) (t' : MTree r d) (c' : Ctx)
    (hrem : MTree.remove cfg d t k s.ctx = .ok (rk, rv, t', c')) :
    ∃ s', MapSlab_Remove (envD cfg.T eb rs) (MapMetaDataSlab_Remove (envD cfg.T eb rs) depth) (md_tree d t x) s k (u64 0)
            (u64 (k.dig 0)) (.key k) = some (some (.key rk), some (.val rv), none, md_tree d t' x, s') ∧
          s'.ctx = c' ∧ s'.popped = s.popped ∧ MHeapPost s.heap s'.heap t t' x ∧ md_ids d t' = md_ids d t := by
  have key := md_descent (md_opRemove eb rs cfg k) hmax hmin (mdr_HeldPath cfg k) mds_Kept (fun _ _ _ _ _ _ => True)
    (mdr_noRestr_leaf eb rs cfg k v P hE hP) (mdr_noRestr_down eb rs cfg k hk) (fun _ _ _ _ _ _ => trivial)
    (fun _ _ _ _ _ _ _ _ _ _ _ _ _ _ => trivial)
    (fun d m x s i child child' rk rv s1 h hf hc hq hpost =>
      have ⟨hsz, hfull, hunder⟩ := (h.2.2.2 i child hf hc).2 rk rv child' s1.ctx hq
      MdUp.of_stored hsz hfull hunder ⟨by rw [MHSt.store_popped, hpost.1], hpost.2.up h.2.2.1 h.2.1 hc⟩)
    d depth t x s hd ⟨hwf, hnd, hh, hnr⟩
  unfold MdRel at key
  dsimp only [md_opRemove] at key
  rw [hrem] at key
  obtain ⟨s', h1, h2, h3, hrel⟩ := key
  exact ⟨s', h1, h2, h3, hrel.post, hrel.ids⟩
end main

namespace MdrEx
open MeiEx
/-- threshold 16: min 8, max 24 -/
def cfg16 : MCfg := { cfg with T := 16 }
def ebx16 : DEnvB 0 := mei_envH (MElems.ops 0) cfg16 k1 v3 (fun c _ => (.nil, false, none, c))
theorem ebx16_ok : ElemsSpec cfg16 k1 v3 (fun _ => True) ebx16 :=
  ElemsSpec.of_EnvB (mei_envH_ok (MElems.ops 0) cfg16 k1 v3 _)
/-- a heap holding the whole tree `mm` (root + two data slabs) -/
def s0h : MHSt 0 :=
  { heap := fun id => if id = ⟨1, 1⟩ then some (.metaSlab (md_meta mm xx)) else s0.heap id, ctx := c0 }

theorem mm_holds : MHolds s0h.heap 1 (mm : MMetaSlab (MTree 0 0)) xx := by
  refine ⟨rfl, ?_⟩
  intro c hc
  have hc' : c ∈ [(dA : MTree 0 0), dB] := hc
  rcases List.mem_cons.mp hc' with rfl | h
  · rfl
  · rcases List.mem_cons.mp h with rfl | h
    · rfl
    · cases h

theorem mm_wf : mdr_WF 1 (mm : MMetaSlab (MTree 0 0)) xx := by
  refine ⟨rfl, by decide, by decide, ?_⟩
  intro c hc
  have hc' : c ∈ [(dA : MTree 0 0), dB] := hc
  rcases List.mem_cons.mp hc' with rfl | h
  · exact ⟨rfl, rfl⟩
  · rcases List.mem_cons.mp h with rfl | h
    · exact ⟨rfl, rfl⟩
    · cases h

theorem mm_noRestr : mdr_NoRestr cfg16 k1 1 (mm : MMetaSlab (MTree 0 0)) s0h.ctx := by
  intro i child hf hc
  have h0 : MMetaSlab.findChild mm.childHdrs (k1.dig 0) 0 mm.childHdrs.length none (mm.childHdrs.length + 1) = some 0 := rfl
  rw [h0] at hf
  injection hf with hf
  subst hf
  have hc' : child = dA := by
    have : mm.children[0]? = some dA := rfl
    exact (Option.some.inj (this.symm.trans hc)).symm
  subst hc'
  refine ⟨trivial, ?_⟩
  intro rk rv child' c1 hq
  have h1 : MTree.remove cfg16 0 (dA : MDataSlab 0) k1 s0h.ctx = .ok (k1, v1, dA', cA) := rfl
  rw [h1] at hq
  injection hq with hq
  injection hq with _ hq
  injection hq with _ hq
  injection hq with hq _
  subst hq
  exact ⟨by decide, rfl, rfl⟩

/-- non-vacuity of `Ob_MapSlab_Remove_heap_noRestructure`: the tree `mm` (depth 1) held by `s0h`, `k1` removed -/
example : ∃ s', MapSlab_Remove (envD 16 ebx16 rsx) (MapMetaDataSlab_Remove (envD 16 ebx16 rsx) 1) (.metaSlab (md_meta mm xx)) s0h k1
      (u64 0) (u64 5) (.key k1) =
      some (some (.key k1), some (.val v1), none, .metaSlab (md_meta (mdr_model_m1 mm dA' 0) xx), s') ∧
    s'.ctx = { ctr := 5, eff := [.store ⟨1, 2⟩, .store ⟨1, 1⟩] } ∧ s'.popped = [] ∧
    MHeapPost s0h.heap s'.heap (d := 1) (d' := 1) (mm : MMetaSlab (MTree 0 0)) (mdr_model_m1 mm dA' 0 : MMetaSlab (MTree 0 0)) xx ∧
    md_ids 1 (mdr_model_m1 mm dA' 0 : MMetaSlab (MTree 0 0)) = [⟨1, 1⟩, ⟨1, 2⟩, ⟨1, 3⟩] :=
  Ob_MapSlab_Remove_heap_noRestructure ebx16 rsx cfg16 k1 v3 _ ebx16_ok (fun _ => trivial) (by decide) (by decide) (by decide)
    1 (mm : MMetaSlab (MTree 0 0)) xx s0h 1 (Nat.le_refl _) mm_wf (by decide) mm_holds mm_noRestr k1 v1 _ _ rfl
end MdrEx

end Atree.TransEq

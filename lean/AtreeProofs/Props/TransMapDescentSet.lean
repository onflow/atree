import AtreeProofs.Trans.MapDescent
/-
  `Set` of the map descent: the generated `MapMetaDataSlab_Set.loop1`, `MapDataSlab_Set`, `MapMetaDataSlab_Set` of
  `Gen/TransMapDescent.lean` (namespace `Atree.Gen.TransMapD`) over a heap (`envD`, Trans/MapDescent.lean).

  * `mds_Set_loop1` / `mds_Set_loop1_top`: the binary search `for i < j` = the model's `MMetaSlab.findChild`.
  * `Ob_MapDataSlab_Set_heap`: `MapDataSlab.Set` on a data slab of the tree = the model's `MDataSlab.set`, with the heap.
  * `Ob_MapMetaDataSlab_Set_step` (+ `_notFound`, `_childErr`): one level of the descent, for ANY `rs`, ANY `eb`.
-/
namespace Atree.TransEq
open Atree Atree.Gen.TransMapD

section
variable {G V W D B S ε : Type}

/-- loop 1 of `MapMetaDataSlab.Set` (`for i < j { h := int(uint(i+j) >> 1); if headers[h].firstKey > hkey { j = h } else
    { ans = h; i = h + 1 } }`) with enough fuel never runs out of fuel and computes the model's `findChild` -/
theorem mds_Set_loop1 {α : Type} (env : Env G V W DX D B S ε) (m : MMetaSlab α) (x : Option DX) (hk : Nat)
    (hhk : hk < 2^64) (hfk : ∀ h ∈ m.childHdrs, h.firstKey < 2^64) (hlen : m.childHdrs.length < 2^62) :
    ∀ (fuel i j ans : Nat), i ≤ j → j ≤ m.childHdrs.length → j - i < fuel →
      ∃ i' j' : Int, MapMetaDataSlab_Set.loop1 env (md_meta m x) (u64 hk) fuel (Int.ofNat ans) (Int.ofNat i) (Int.ofNat j) =
        (.done (Int.ofNat ((MMetaSlab.findChild m.childHdrs hk i j (some ans) fuel).getD 0), i', j') :
          Loop (Option (Option V × Option V × Option ε × MapMetaDataSlab DX × S)) (Int × Int × Int)) := by
  intro fuel i j ans hij hj hf
  obtain ⟨i', j', e⟩ := md_bsearch_findChild m.childHdrs hk hhk hfk hlen (fun o => Int.ofNat (o.getD 0)) (fun _ => rfl)
    fuel i j (some ans) hij hj hf
  exact ⟨i', j', by rw [md_Set_loop1_eq]; exact congrArg md_loopOf e⟩

/-- the child index the model's `MTree.set` descends into -/
def mds_idx (hdrs : List MHdr) (hk : Nat) : Nat :=
  (MMetaSlab.findChild hdrs hk 0 hdrs.length (some 0) (hdrs.length + 1)).getD 0

/-- the loop as `MapMetaDataSlab.Set` calls it: `ans, i, j := 0, 0, len(m.childrenHeaders)`, fuel `j - i + 1` -/
theorem mds_Set_loop1_top {α : Type} (env : Env G V W DX D B S ε) (m : MMetaSlab α) (x : Option DX) (hk : Nat)
    (hhk : hk < 2^64) (hfk : ∀ h ∈ m.childHdrs, h.firstKey < 2^64) (hlen : m.childHdrs.length < 2^62) :
    ∃ i' j' : Int, MapMetaDataSlab_Set.loop1 env (md_meta m x) (u64 hk)
        ((Int.ofNat (md_meta m x).childrenHeaders.length - (0 : Int) + 1).toNat) (0 : Int) (0 : Int)
        (Int.ofNat (md_meta m x).childrenHeaders.length) =
      (.done (Int.ofNat (mds_idx m.childHdrs hk), i', j') :
        Loop (Option (Option V × Option V × Option ε × MapMetaDataSlab DX × S)) (Int × Int × Int)) := by
  have hl : (md_meta m x).childrenHeaders.length = m.childHdrs.length := by simp [md_meta]
  have hf : (Int.ofNat m.childHdrs.length - (0 : Int) + 1).toNat = m.childHdrs.length + 1 := by
    simp only [Int.ofNat_eq_natCast]; omega
  rw [hl, hf]
  exact mds_Set_loop1 env m x hk hhk hfk hlen (m.childHdrs.length + 1) 0 m.childHdrs.length 0 (Nat.zero_le _)
    (Nat.le_refl _) (by omega)
end

section
variable {r : Nat} (T : Nat) (eb : DEnvB r) (rs : DRestruct r)

theorem mds_storeSlab_data (s : MHSt r) (m : MapDataSlab (DG r) DX) :
    storeSlab (envD T eb rs) s (.dataSlab m) = some (none, s.store m.header.slabID (.dataSlab m)) := by
  simp only [storeSlab, MapSlab_SlabID, MapDataSlab_SlabID, envD_store, Option.isNone_none, Bool.not_true,
    Bool.false_eq_true, if_false]

theorem mds_storeSlab_meta (s : MHSt r) (m : MapMetaDataSlab DX) :
    storeSlab (envD T eb rs) s (.metaSlab m) = some (none, s.store m.header.slabID (.metaSlab m)) := by
  simp only [storeSlab, MapSlab_SlabID, MapMetaDataSlab_SlabID, envD_store, Option.isNone_none, Bool.not_true,
    Bool.false_eq_true, if_false]

/-- the data slab after the model's `elements.Set` returned the elements `g'` -/
def mds_dataAfter (sl : MDataSlab r) (g' : HkeyElems (MElems r)) : MDataSlab r :=
  { sl with elems := g', hdr := { sl.hdr with firstKey := g'.firstKey, size := sl.prefixSize + g'.size } }

/-- `MapDataSlab.Set` on a data slab of the tree, over the heap: the nested `elements.Set` (the model's, by `ElemsSpec`),
    `firstKey` and `size = prefix + elements size` refreshed, the slab stored under its identifier unless inlined; this
    is the model's `MDataSlab.set` (first conjunct); next to an error nothing changed.  No `uint32` range condition is
    needed (`uint32` addition is a ring homomorphism). -/
theorem Ob_MapDataSlab_Set_heap (cfg : MCfg) (k : MKey) (v : Elem) (P : DG r → Prop) (hE : ElemsSpec cfg k v P eb)
    (sl : MDataSlab r) (x : Option DX) (hx : x.isSome = sl.root) (hP : P sl.elems) (s : MHSt r)
    (ha : sl.hdr.id.addr = cfg.addr) :
    match HkeyElems.set (MElems.ops r) cfg sl.elems 0 k v s.ctx with
    | .ok (ks, old, g', c0) =>
      MDataSlab.set cfg sl k v s.ctx = .ok (ks, old, mds_dataAfter sl g', (mds_dataAfter sl g').storeIfNotInlined c0) ∧
      MapDataSlab_Set (envD T eb rs) (md_data sl x) s () k (u64 0) (u64 (k.dig 0)) (.key k) (.val v) =
        some (some (.key ks), old.map .val, none, md_data (mds_dataAfter sl g') x,
          if sl.inlined then s.withCtx c0
          else (s.withCtx c0).store sl.hdr.id (.dataSlab (md_data (mds_dataAfter sl g') x)))
    | .error err =>
      MDataSlab.set cfg sl k v s.ctx = .error err ∧
      MapDataSlab_Set (envD T eb rs) (md_data sl x) s () k (u64 0) (u64 (k.dig 0)) (.key k) (.val v) =
        some (none, none, some err, md_data sl x, s) := by
  have hg := hE.set sl.elems s.ctx hP
  have e1 : (md_data sl x).elements = sl.elems := rfl
  have e2 : (MapDataSlab_SlabID (envD T eb rs) (md_data sl x)).addr = cfg.addr := ha
  unfold MapDataSlab_Set
  simp only [e1, e2, envD_elemSet, hg]
  unfold MDataSlab.set
  simp only [MDataSlab.eops, bind, Except.bind, pure, Except.pure]
  rcases HkeyElems.set (MElems.ops r) cfg sl.elems 0 k v s.ctx with err | ⟨ks, old, g', c0⟩
  · simp [mei_rGSet, md_data]
  · refine ⟨rfl, ?_⟩
    simp only [mei_rGSet, Option.isNone_none, Bool.not_true, Bool.false_eq_true, if_false, mds_storeSlab_data,
      md_getPrefixSize _ sl x hx, envD_elemFirst, envD_elemSize, hE.first, hE.size,
      ← UInt32.ofNat_add]
    cases hi : sl.inlined <;> simp [md_data, md_hdr, mds_dataAfter, hi, u32]

end

section
variable {r : Nat} (T : Nat) (eb : DEnvB r) (rs : DRestruct r)

theorem mds_toNat (n : Nat) : (Int.ofNat n).toNat = n := int_toNat n

theorem mds_goIdx_set {β : Type} (l : List β) (n : Nat) (p : β) (h : n < l.length) :
    goIdx (l.set n p) (Int.ofNat n) = some p := by
  rw [goIdx_eq]
  exact sliceIdx_set l p h

/-- the dispatch `MapSlab.Set` never returns from / into a nil interface value -/
theorem mds_Set_nonnil {G V W X D B S ε : Type} {env : Env G V W X D B S ε}
    {rec_ : MapMetaDataSlab X → S → B → D → UInt64 → UInt64 → W → W → Option (Option V × Option V × Option ε × MapMetaDataSlab X × S)}
    {child child' : MapSlab G X} {a1 s1 : S} {a2 : B} {a3 : D} {a4 a5 : UInt64} {a8 a9 : W} {ks old : Option V} {e : Option ε}
    (h : MapSlab_Set env rec_ child a1 a2 a3 a4 a5 a8 a9 = some (ks, old, e, child', s1)) :
    child.isNil = false ∧ child'.isNil = false := by
  cases child with
  | nil => simp [MapSlab_Set] at h
  | dataSlab o =>
    simp only [MapSlab_Set] at h
    split at h
    · cases h
    · cases h; exact ⟨rfl, rfl⟩
  | metaSlab o =>
    simp only [MapSlab_Set] at h
    split at h
    · cases h
    · cases h; exact ⟨rfl, rfl⟩

/-- `m.childrenHeaders[i] = child.Header(); if i == 0 { m.header.firstKey = m.childrenHeaders[0].firstKey }` -/
def mds_refresh (m : MapMetaDataSlab DX) (i : Nat) (h : MapSlabHeader) : MapMetaDataSlab DX :=
  { m with childrenHeaders := m.childrenHeaders.set i h,
           header := if i = 0 then { m.header with firstKey := h.firstKey } else m.header }

/-- the result of `Set` after a restructuring call returned `q` -/
def mds_tail (ks old : Option SV) (q : Option GE × MapMetaDataSlab DX × MHSt r × DSlab r) :
    Option (Option SV × Option SV × Option GE × MapMetaDataSlab DX × MHSt r) :=
  if (!q.1.isNone) = true then some (none, none, q.1, q.2.1, q.2.2.1) else some (ks, old, none, q.2.1, q.2.2.1)

/-- what `MapMetaDataSlab.Set` does after the child `i` has been set successfully (new child `child'`, storage `s1`):
    header `i` replaced by the child's, `firstKey` refreshed iff `i = 0`; then `SplitChildSlab` if the child is full,
    else `MergeOrRebalanceChildSlab` if it underflows, else `storeSlab` of the index slab -/
def mds_stepSpec (a : MapMetaDataSlab DX) (i : Nat) (ks old : Option SV) (child' : DSlab r) (s1 : MHSt r) :
    Option (Option SV × Option SV × Option GE × MapMetaDataSlab DX × MHSt r) :=
  let m1 := mds_refresh a i ((MapSlab_Header (envD T eb rs) child').getD {})
  if (MapSlab_IsFull (envD T eb rs) child').getD false = true then
    mds_tail ks old (rs.splitChild m1 s1 child' (Int.ofNat i))
  else if ((MapSlab_IsUnderflow (envD T eb rs) child').getD (0, false)).2 = true then
    mds_tail ks old (rs.mergeOrRebalance m1 s1 child' (Int.ofNat i)
      ((MapSlab_IsUnderflow (envD T eb rs) child').getD (0, false)).1)
  else some (ks, old, none, m1, s1.store m1.header.slabID (.metaSlab m1))

/-- one level of `MapMetaDataSlab.Set` on ANY generated index slab `a`, given the result of the binary search, the child
    in the heap, and the successful result of the dispatch on the child -/
theorem mds_metaSet_step (a : MapMetaDataSlab DX) (s s1 : MHSt r) (dg : MKey) (lvl hk : UInt64) (w w' : SW)
    (depth i : Nat) (i' j' : Int) (h0 : MapSlabHeader) (child child' : DSlab r) (ks old : Option SV)
    (hloop : MapMetaDataSlab_Set.loop1 (envD T eb rs) a hk
        ((Int.ofNat a.childrenHeaders.length - (0 : Int) + 1).toNat) (0 : Int) (0 : Int)
        (Int.ofNat a.childrenHeaders.length) =
      (.done (Int.ofNat i, i', j') :
        Loop (Option (Option SV × Option SV × Option GE × MapMetaDataSlab DX × MHSt r)) (Int × Int × Int)))
    (hh : a.childrenHeaders[i]? = some h0) (hchild : s.heap h0.slabID = some child)
    (hset : MapSlab_Set (envD T eb rs) (MapMetaDataSlab_Set (envD T eb rs) depth) child s () dg lvl hk w w' =
      some (ks, old, none, child', s1)) :
    MapMetaDataSlab_Set (envD T eb rs) (depth + 1) a s () dg lvl hk w w' = mds_stepSpec T eb rs a i ks old child' s1 := by
  obtain ⟨hn, hn'⟩ := mds_Set_nonnil hset
  have hil : i < a.childrenHeaders.length := by
    obtain ⟨h, _⟩ := List.getElem?_eq_some_iff.mp hh
    exact h
  unfold MapMetaDataSlab_Set
  simp only [hloop, goIdx_eq, sliceIdx_ofNat, hh, getMapSlab_envD_some T eb rs s _ child hchild hn, hset, Option.isNone_none,
    Bool.not_true, Bool.false_eq_true, if_false, goInRange_eq, sliceInRange_ofNat, hil, decide_true, if_true, int_deq_zero, mds_toNat]
  cases child' with
  | nil => simp [MapSlab.isNil] at hn'
  | dataSlab o =>
    simp only [MapSlab_Header, MapDataSlab_Header]
    generalize hL : (if decide (i = 0) = true then _ else _ : Loop _ (MapMetaDataSlab DX)) = L
    have hL' : L = Loop.done (mds_refresh a i o.header) := by
      rw [← hL]
      by_cases hi0 : i = 0
      · subst hi0
        simp only [decide_true, if_true, List.getElem?_set_self hil, mds_refresh]
      · simp only [hi0, decide_false, Bool.false_eq_true, if_false, mds_refresh]
    rw [hL']
    simp only [MapSlab_IsFull, MapSlab_IsUnderflow, mds_stepSpec, MapSlab_Header, MapDataSlab_Header, Option.getD_some,
      mds_storeSlab_meta, Option.isNone_none, Bool.not_true, Bool.false_eq_true, if_false, envD_splitChild, envD_mor,
      mds_tail]
    rfl
  | metaSlab o =>
    simp only [MapSlab_Header, MapMetaDataSlab_Header]
    generalize hL : (if decide (i = 0) = true then _ else _ : Loop _ (MapMetaDataSlab DX)) = L
    have hL' : L = Loop.done (mds_refresh a i o.header) := by
      rw [← hL]
      by_cases hi0 : i = 0
      · subst hi0
        simp only [decide_true, if_true, List.getElem?_set_self hil, mds_refresh]
      · simp only [hi0, decide_false, Bool.false_eq_true, if_false, mds_refresh]
    rw [hL']
    simp only [MapSlab_IsFull, MapSlab_IsUnderflow, mds_stepSpec, MapSlab_Header, MapMetaDataSlab_Header, Option.getD_some,
      mds_storeSlab_meta, Option.isNone_none, Bool.not_true, Bool.false_eq_true, if_false, envD_splitChild, envD_mor,
      mds_tail]
    rfl

/-- error case: the child is not in the heap -> `SlabNotFound`, `m` and the storage unchanged -/
theorem mds_metaSet_notFound (a : MapMetaDataSlab DX) (s : MHSt r) (dg : MKey) (lvl hk : UInt64) (w w' : SW)
    (depth i : Nat) (i' j' : Int) (h0 : MapSlabHeader)
    (hloop : MapMetaDataSlab_Set.loop1 (envD T eb rs) a hk
        ((Int.ofNat a.childrenHeaders.length - (0 : Int) + 1).toNat) (0 : Int) (0 : Int)
        (Int.ofNat a.childrenHeaders.length) =
      (.done (Int.ofNat i, i', j') :
        Loop (Option (Option SV × Option SV × Option GE × MapMetaDataSlab DX × MHSt r)) (Int × Int × Int)))
    (hh : a.childrenHeaders[i]? = some h0) (hchild : s.heap h0.slabID = none) :
    MapMetaDataSlab_Set (envD T eb rs) (depth + 1) a s () dg lvl hk w w' =
      some (none, none, some .slabNotFound, a, s) := by
  unfold MapMetaDataSlab_Set
  simp only [hloop, goIdx_eq, sliceIdx_ofNat, hh, getMapSlab_envD_none T eb rs s _ hchild, Option.isNone_some, Bool.not_false,
    if_true]

/-- error case: the child's `Set` returned an error -> passed on, `m` unchanged, the storage is the child's -/
theorem mds_metaSet_childErr (a : MapMetaDataSlab DX) (s s1 : MHSt r) (dg : MKey) (lvl hk : UInt64) (w w' : SW)
    (depth i : Nat) (i' j' : Int) (h0 : MapSlabHeader) (child child' : DSlab r) (ks old : Option SV) (e : GE)
    (hloop : MapMetaDataSlab_Set.loop1 (envD T eb rs) a hk
        ((Int.ofNat a.childrenHeaders.length - (0 : Int) + 1).toNat) (0 : Int) (0 : Int)
        (Int.ofNat a.childrenHeaders.length) =
      (.done (Int.ofNat i, i', j') :
        Loop (Option (Option SV × Option SV × Option GE × MapMetaDataSlab DX × MHSt r)) (Int × Int × Int)))
    (hh : a.childrenHeaders[i]? = some h0) (hchild : s.heap h0.slabID = some child)
    (hset : MapSlab_Set (envD T eb rs) (MapMetaDataSlab_Set (envD T eb rs) depth) child s () dg lvl hk w w' =
      some (ks, old, some e, child', s1)) :
    MapMetaDataSlab_Set (envD T eb rs) (depth + 1) a s () dg lvl hk w w' = some (none, none, some e, a, s1) := by
  obtain ⟨hn, _⟩ := mds_Set_nonnil hset
  unfold MapMetaDataSlab_Set
  simp only [hloop, goIdx_eq, sliceIdx_ofNat, hh, getMapSlab_envD_some T eb rs s _ child hchild hn, hset, Option.isNone_none,
    Bool.not_true, Bool.false_eq_true, if_false, Option.isNone_some, Bool.not_false, if_true]

theorem mds_hdrs_get {α : Type} (m : MMetaSlab α) (x : Option DX) (n : Nat) (h : n < m.childHdrs.length) :
    (md_meta m x).childrenHeaders[n]? = some (md_hdr (m.childHdrs.getD n default)) := by
  rw [← sliceIdx_ofNat, ← goIdx_eq]
  exact md_goIdx_hdrs m.childHdrs n h

/-- `mds_refresh` on the translation of a model index slab is the translation of the model's `m1` of
    `MMetaSlab.afterChild` (whatever the embedded children are) -/
theorem mds_refresh_md_meta {α : Type} (m : MMetaSlab α) (x : Option DX) (i : Nat) (ch : MHdr) (cs : List α) :
    mds_refresh (md_meta m x) i (md_hdr ch) =
      md_meta ({ m with childHdrs := m.childHdrs.set i ch, children := cs,
                        hdr := { m.hdr with firstKey := if i == 0 then ch.firstKey else m.hdr.firstKey } } : MMetaSlab α) x := by
  by_cases h : i = 0 <;> simp [mds_refresh, md_meta, md_hdr, h, List.map_set]

/-- One level of `MapMetaDataSlab.Set` on the translation of a model index slab, for ANY `rs`, ANY `eb`: the binary
    search finds the model's child index `i`; the child is fetched from the heap; after its `Set` succeeded (dispatch
    result `hset`) header `i` is replaced by `child'.Header()`, `firstKey` refreshed iff `i = 0`, and then
    `SplitChildSlab` iff `child'.IsFull()`, else `MergeOrRebalanceChildSlab` iff `child'.IsUnderflow()`, else `storeSlab`
    (`mds_stepSpec`). -/
theorem Ob_MapMetaDataSlab_Set_step {α : Type} (m : MMetaSlab α) (x : Option DX) (s s1 : MHSt r) (k : MKey) (v : Elem)
    (depth : Nat) (hhk : k.dig 0 < 2^64) (hfk : ∀ h ∈ m.childHdrs, h.firstKey < 2^64)
    (hlen : m.childHdrs.length < 2^62) (hil : mds_idx m.childHdrs (k.dig 0) < m.childHdrs.length)
    (child child' : DSlab r) (ks old : Option SV)
    (hchild : s.heap (m.childHdrs.getD (mds_idx m.childHdrs (k.dig 0)) default).id = some child)
    (hset : MapSlab_Set (envD T eb rs) (MapMetaDataSlab_Set (envD T eb rs) depth) child s () k (u64 0) (u64 (k.dig 0))
      (.key k) (.val v) = some (ks, old, none, child', s1)) :
    MapMetaDataSlab_Set (envD T eb rs) (depth + 1) (md_meta m x) s () k (u64 0) (u64 (k.dig 0)) (.key k) (.val v) =
      mds_stepSpec T eb rs (md_meta m x) (mds_idx m.childHdrs (k.dig 0)) ks old child' s1 := by
  obtain ⟨i', j', hloop⟩ := mds_Set_loop1_top (V := SV) (ε := GE) (S := MHSt r) (envD T eb rs) m x (k.dig 0) hhk hfk hlen
  exact mds_metaSet_step T eb rs (md_meta m x) s s1 k (u64 0) (u64 (k.dig 0)) (.key k) (.val v) depth _ i' j' _
    child child' ks old hloop (mds_hdrs_get m x _ hil) hchild hset

/-- the child is not in the heap: `SlabNotFound`, nothing changed -/
theorem Ob_MapMetaDataSlab_Set_step_notFound {α : Type} (m : MMetaSlab α) (x : Option DX) (s : MHSt r) (k : MKey)
    (v : Elem) (depth : Nat) (hhk : k.dig 0 < 2^64) (hfk : ∀ h ∈ m.childHdrs, h.firstKey < 2^64)
    (hlen : m.childHdrs.length < 2^62) (hil : mds_idx m.childHdrs (k.dig 0) < m.childHdrs.length)
    (hchild : s.heap (m.childHdrs.getD (mds_idx m.childHdrs (k.dig 0)) default).id = none) :
    MapMetaDataSlab_Set (envD T eb rs) (depth + 1) (md_meta m x) s () k (u64 0) (u64 (k.dig 0)) (.key k) (.val v) =
      some (none, none, some .slabNotFound, md_meta m x, s) := by
  obtain ⟨i', j', hloop⟩ := mds_Set_loop1_top (V := SV) (ε := GE) (S := MHSt r) (envD T eb rs) m x (k.dig 0) hhk hfk hlen
  exact mds_metaSet_notFound T eb rs (md_meta m x) s k (u64 0) (u64 (k.dig 0)) (.key k) (.val v) depth _ i' j' _
    hloop (mds_hdrs_get m x _ hil) hchild

/-- the child's `Set` returned an error: passed on, `m` unchanged, the storage is the one the child returned -/
theorem Ob_MapMetaDataSlab_Set_step_childErr {α : Type} (m : MMetaSlab α) (x : Option DX) (s s1 : MHSt r) (k : MKey)
    (v : Elem) (depth : Nat) (hhk : k.dig 0 < 2^64) (hfk : ∀ h ∈ m.childHdrs, h.firstKey < 2^64)
    (hlen : m.childHdrs.length < 2^62) (hil : mds_idx m.childHdrs (k.dig 0) < m.childHdrs.length)
    (child child' : DSlab r) (ks old : Option SV) (e : GE)
    (hchild : s.heap (m.childHdrs.getD (mds_idx m.childHdrs (k.dig 0)) default).id = some child)
    (hset : MapSlab_Set (envD T eb rs) (MapMetaDataSlab_Set (envD T eb rs) depth) child s () k (u64 0) (u64 (k.dig 0))
      (.key k) (.val v) = some (ks, old, some e, child', s1)) :
    MapMetaDataSlab_Set (envD T eb rs) (depth + 1) (md_meta m x) s () k (u64 0) (u64 (k.dig 0)) (.key k) (.val v) =
      some (none, none, some e, md_meta m x, s1) := by
  obtain ⟨i', j', hloop⟩ := mds_Set_loop1_top (V := SV) (ε := GE) (S := MHSt r) (envD T eb rs) m x (k.dig 0) hhk hfk hlen
  exact mds_metaSet_childErr T eb rs (md_meta m x) s s1 k (u64 0) (u64 (k.dig 0)) (.key k) (.val v) depth _ i' j' _
    child child' ks old e hloop (mds_hdrs_get m x _ hil) hchild hset

end

/-! non-vacuity: a concrete 2-child index slab over a concrete heap -/
namespace mdsEx

def id0 : SlabID := ⟨1, 1⟩
def id1 : SlabID := ⟨1, 2⟩
def id2 : SlabID := ⟨1, 3⟩
def g0 : DG 0 := { hkeys := [], elems := [], size := 10, level := 0 }
def d1 : MDataSlab 0 :=
  { hdr := { id := id1, size := 100, firstKey := 0 }, next := id2, elems := g0, root := false, inlined := false }
def d2 : MDataSlab 0 :=
  { hdr := { id := id2, size := 100, firstKey := 50 }, next := SlabID.undef, elems := g0, root := false, inlined := false }
def mm : MMetaSlab (MTree 0 0) :=
  { hdr := { id := id0, size := 60, firstKey := 0 }, childHdrs := [d1.hdr, d2.hdr], children := [d1, d2], root := true }
def kk : MKey := { size := 1, pay := 7, digs := [60] }
def cfg0 : MCfg := { T := 1024, L := 4, climit := 0, addr := 1 }
def xx : DX := (0, 0, 0)

/-- the element layer given by the MODEL (so that `ElemsSpec` holds by `rfl`) -/
def eb0 : DEnvB 0 where
  DigesterBuilder_Digest := fun _ _ => (default, none)
  Digester_Digest := fun _ _ => (0, none)
  Digester_Levels := fun _ => 0
  MapSlab_Get := fun _ c _ _ _ _ => (none, none, none, c)
  MapSlab_Set := fun m c _ _ _ _ _ _ => (none, none, none, m, c)
  MapSlab_getElementAndNextKey := fun _ c _ _ _ _ => (none, none, none, none, c)
  NewHashLevelErrorf := none
  NewKeyNotFoundError := none
  NewSlabDataErrorf := none
  NewSlabNotFoundErrorf := none
  SlabIDStorable_ByteSize := 0
  SlabStorage_GenerateSlabID := fun c _ => (SlabID.undef, none, c)
  SlabStorage_Remove := fun c _ => (none, c)
  SlabStorage_Retrieve := fun c _ => (.nil, false, none, c)
  SlabStorage_Store := fun c _ _ => (none, c)
  Storable_ByteSize := fun _ => 0
  Storable_StoredValue := fun _ c => (.key default, none, c)
  ValueComparator := fun c _ _ => (false, none, c)
  Value_Storable := fun _ c _ _ => (none, none, c)
  elements_Count := fun _ => 0
  elements_Element := fun _ _ => (.nil, none)
  elements_Get := fun g c d _ _ _ => mei_rGet c (HkeyElems.get (MElems.ops 0) cfg0 g 0 d)
  elements_Remove := fun g c d _ _ _ => mei_rGRemove g c (HkeyElems.remove (MElems.ops 0) cfg0 g 0 d c)
  elements_Set := fun g c _ _ d _ _ _ w' =>
    match w' with
    | .val v => mei_rGSet g c (HkeyElems.set (MElems.ops 0) cfg0 g 0 d v c)
    | .key _ => (none, none, none, g, c)
  elements_Size := fun g => u32 g.size
  elements_firstKey := fun g => u64 (HkeyElems.firstKey g)
  elements_getElementAndNextKey := fun _ c _ _ _ _ => (none, none, none, none, c)
  maxInlineMapElementSize := 0
  maxInlineMapValueSize := fun _ => 0
  newHkeyElementsWithElement := fun _ _ _ => g0
  newSingleElementsWithElement := fun _ _ => g0
  wrapErrorfAsExternalErrorIfNeeded := id

theorem eb0_spec (k : MKey) (v : Elem) : ElemsSpec cfg0 k v (fun _ => True) eb0 where
  size := fun _ => rfl
  first := fun _ => rfl
  get := fun _ _ _ => rfl
  set := fun _ _ _ => rfl
  remove := fun _ _ _ => rfl

/-- an element layer whose `Set` always succeeds without changing anything (the step theorem is for ANY `eb`) -/
def eb1 : DEnvB 0 := { eb0 with elements_Set := fun g c _ _ d _ _ _ _ => (some (.key d), none, none, g, c) }

def rs0 : DRestruct 0 where
  splitChild := fun m s c _ => (none, m, s, c)
  mergeOrRebalance := fun m s c _ _ => (none, m, s, c)
  splitRoot := fun M => (none, M)
  promote := fun M _ => (none, M)

def s0 : MHSt 0 where
  heap := fun i => if i = id1 then some (.dataSlab (md_data d1 none))
    else if i = id2 then some (.dataSlab (md_data d2 none)) else none
  ctx := { ctr := 3, eff := [] }

/-- the binary search on the concrete slab: digest 60 goes to child 1, digest 10 to child 0 -/
example : mds_idx mm.childHdrs 60 = 1 ∧ mds_idx mm.childHdrs 10 = 0 ∧ mds_idx mm.childHdrs 50 = 1 := by decide

example : ∃ i' j' : Int, MapMetaDataSlab_Set.loop1 (envD 1024 eb1 rs0) (md_meta mm (some xx)) (u64 60)
    ((Int.ofNat (md_meta mm (some xx)).childrenHeaders.length - (0 : Int) + 1).toNat) (0 : Int) (0 : Int)
    (Int.ofNat (md_meta mm (some xx)).childrenHeaders.length) =
      (.done (Int.ofNat 1, i', j') :
        Loop (Option (Option SV × Option SV × Option GE × MapMetaDataSlab DX × MHSt 0)) (Int × Int × Int)) :=
  mds_Set_loop1_top (envD 1024 eb1 rs0) mm (some xx) 60 (by decide) (by decide) (by decide)

/-- `Ob_MapDataSlab_Set_heap` applies to the concrete data slab `d2` with the model's element layer -/
example (v : Elem) :=
  Ob_MapDataSlab_Set_heap 1024 eb0 rs0 cfg0 kk v (fun _ => True) (eb0_spec kk v) d2 none rfl trivial s0 rfl

/-- `Ob_MapMetaDataSlab_Set_step` applies to the concrete index slab: the key with digest 60 goes to child 1 (`d2`),
    which is in the heap; its `Set` succeeds -/
example (v : Elem) :
    MapMetaDataSlab_Set (envD 1024 eb1 rs0) 1 (md_meta mm (some xx)) s0 () kk (u64 0) (u64 (kk.dig 0)) (.key kk) (.val v) =
      mds_stepSpec 1024 eb1 rs0 (md_meta mm (some xx)) 1 (some (.key kk)) none
        (.dataSlab { md_data d2 none with header := { slabID := id2, size := u32 (18 + 10), firstKey := u64 0 } })
        (s0.store id2 (.dataSlab { md_data d2 none with header := { slabID := id2, size := u32 (18 + 10), firstKey := u64 0 } })) :=
  Ob_MapMetaDataSlab_Set_step 1024 eb1 rs0 mm (some xx) s0 _ kk v 0 (by decide) (by decide) (by decide) (by decide)
    (.dataSlab (md_data d2 none)) _ _ _ rfl rfl

/-- the error case applies when the heap is empty -/
example (v : Elem) :
    MapMetaDataSlab_Set (envD 1024 eb1 rs0) 1 (md_meta mm (some xx)) { s0 with heap := fun _ => none } () kk (u64 0)
      (u64 (kk.dig 0)) (.key kk) (.val v) =
      some (none, none, some .slabNotFound, md_meta mm (some xx), { s0 with heap := fun _ => none }) :=
  Ob_MapMetaDataSlab_Set_step_notFound 1024 eb1 rs0 mm (some xx) _ kk v 0 (by decide) (by decide) (by decide)
    (by decide) rfl

end mdsEx

end Atree.TransEq

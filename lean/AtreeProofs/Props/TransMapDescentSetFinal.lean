import AtreeProofs.Props.TransMapDescentInvR
import AtreeProofs.Props.TransMapDescentClosed
import AtreeProofs.Props.TransMapDescentTailSplit
import AtreeProofs.Props.TransMapDescentTailMor
/-
  Assembly of `Set` from the tails, and the hypotheses about model values from `MapInv`.
  `Ob_OrderedMap_set_heap_of_tails'`: the top level over `Ob_MapSlab_Set_heap_of_tails'` (TransMapDescentSetFull.lean), the
  provider invariant split in two: `Qin` (TIGHT: what the children of the path nodes satisfy before the operation) and `Q`
  (LOOSE: what the tails may assume), closure only `Qin t → set t = ok t' → Q t'`; root level over a handle predicate `QR`
  (`MRootTailR`).
  `MergeOrRebalanceChildSlab` needs the receiver's own header size to be at least one child header (`size -= 18` wraps in
  Go otherwise; `mds_Pre` says nothing about the receiver's header): `MMorTailH` = `MMorTail` with that extra premise (what
  `MMorTail_rsOf_partial` proves); `Ob_MapSlab_Set_heap_of_tailsH` / `Ob_OrderedMap_set_heap_of_tailsH` are
  `Ob_MapSlab_Set_heap_of_tails'` / `Ob_OrderedMap_set_heap_of_tails'` with `MMorTailH` in place of `MMorTail` and path
  facts `mds_PathH` that carry `mapSlabHeaderSize ≤ m.hdr.size` of every path node (`mfi_pathH` gets it from `MetaLoose`).
  The `mfi_` lemmas derive the model-side hypotheses from `MapInv` (`MQ.of_post` / `MQR1.of_post`: the loose invariants of a
  result, for `set` and `remove` alike; `mfi_node`: an index slab of the path); `Ob_OrderedMap_Set_heap_full_of_root` plugs in
  `MSplitTail_rsOf`, `MMorTail_rsOf_partial`, so that only the root tail `hR` stays a hypothesis; `..._of_three` is the same
  statement with the two child tails `hS`, `hM` as additional hypotheses, which its proof does not use.
-/
namespace Atree.TransEq
open Atree Atree.Gen.TransMapD

section
variable {r : Nat}

section
variable (T : Nat) (eb : DEnvB r) (rs : DRestruct r) (Q : (d : Nat) → MTree r d → Prop) (QR : OMap r → Prop)

/-- The whole `OMap.set` over the heap, given the tails, with the provider invariants split: `Qin` (tight children of the
    path nodes), `Q` (what the child tails may assume), `QR` (handle-level, what the root tails may assume and
    re-establish).  `hQRset`: the handle after the tree-level `set` (new root, new count) satisfies `QR`. -/
theorem Ob_OrderedMap_set_heap_of_tails' (Qin : (d : Nat) → MTree r d → Prop) (cfg : MCfg) (k : MKey) (v : Elem)
    (P : DG r → Prop) (L : MDataSlab r → Prop) (hE : ElemsSpec cfg k v P eb) (hS : MSplitTail cfg.T rs Q) (hM : MMorTail cfg.T rs Q)
    (hR : MRootTailR cfg.T rs QR)
    (hQin : ∀ d (t : MTree r d), Qin d t → Q d t)
    (hQset : ∀ d (t t' : MTree r d) ks old c c', Qin d t → MTree.set cfg d t k v c = .ok (ks, old, t', c') → Q d t')
    (hQRhdrs : ∀ d (xr : MMetaSlab (MTree r d)) ty cnt seed, QR ⟨d + 1, xr, ty, cnt, seed⟩ →
      xr.childHdrs = xr.children.map (MTree.hdr d))
    (hmono : ∀ (sl : MDataSlab r) c ks old sl' c', L sl → MDataSlab.set cfg sl k v c = .ok (ks, old, sl', c') → c.ctr ≤ c'.ctr)
    (hT1 : maxThr cfg.T < 2^32) (hT2 : minThr cfg.T < 2^32) (hhk : k.dig 0 < 2^64)
    (m : OMap r) (s : MHSt r) (x0 : Option DX) (depth : Nat) (hd : m.d ≤ depth)
    (hheld : MHolds s.heap m.d m.root x0) (hnd : (md_ids m.d m.root).Nodup)
    (haddr : ∀ id ∈ md_ids m.d m.root, id.addr = cfg.addr) (hff : mds_FreshFree cfg.addr s)
    (hroot : mds_rootFlag m.d m.root = true)
    (hp : mds_PathG cfg k v P L Qin m.d m.root s.ctx)
    (hQRset : ∀ ks old root' c1, MTree.set cfg m.d m.root k v s.ctx = .ok (ks, old, root', c1) →
      QR ({ m with root := root', count := if old.isNone then m.count + 1 else m.count } : OMap r))
    (hszR : ∀ ks old root' c1, MTree.set cfg m.d m.root k v s.ctx = .ok (ks, old, root', c1) →
      (MTree.hdr _ (OMap.promoteIfSingleChild
        ({ m with root := root', count := if old.isNone then m.count + 1 else m.count } : OMap r) c1).1.root).size < 2^32) :
    match OMap.set cfg m k v s.ctx with
    | .ok (old, m', c') =>
      ∃ s' x', OrderedMap_set (envD cfg.T eb rs) depth (md_map m s) (.key k) (.val v) =
          some (old.map .val, none, md_map m' s') ∧
        s'.ctx = c' ∧ s'.popped = s.popped ∧ mds_RootPreR QR cfg.addr s' m' x' ∧
        mds_Delta s.heap s'.heap (md_ids m.d m.root) (md_ids m'.d m'.root)
    | .error e => ∃ M', OrderedMap_set (envD cfg.T eb rs) depth (md_map m s) (.key k) (.val v) = some (none, some e, M') :=
  mds_set_top eb rs QR cfg k v hR hQRhdrs hT1 m s depth
    (mds_set_heap_of_tailsR eb rs (fun _ => True) cfg k v P L Q Qin hE hS
      (fun addr d m1 x child' k u s1 hpre _ => hM addr d m1 x child' k u s1 hpre) hQin hQset hmono hT1 hT2 hhk m.d depth m.root
      (some (md_extra m)) x0 s hd hheld (by rw [hroot]; rfl) hnd haddr hff hp) hQRset hszR

end

/-- `MMorTail` with the premise that the receiver's header size is at least one child header -/
def MMorTailH (T : Nat) (rs : DRestruct r) (Q : (d : Nat) → MTree r d → Prop) : Prop :=
  ∀ (addr d : Nat) (m1 : MMetaSlab (MTree r d)) (x : Option DX) (child' : MTree r d) (k u : Nat) (s1 : MHSt r),
    mds_Pre Q addr s1 d m1 → Gen.mapSlabHeaderSize ≤ m1.hdr.size →
    m1.children[k]? = some child' → MTree.isFull T d child' = false →
    MTree.isUnderflow T d child' = some u →
    match m1.mergeOrRebalanceChildSlab T child' k u s1.ctx with
    | .ok (m', c') =>
      ∃ s' w, rs.mergeOrRebalance (md_meta m1 x) s1 (md_tree d child' none) (Int.ofNat k) (u32 u) =
          (none, md_meta m' x, s', w) ∧
        s'.ctx = c' ∧ s'.popped = s1.popped ∧ mds_Post addr s1 s' (d + 1) m1 m' x
    | .error e =>
      ∃ a s' w, rs.mergeOrRebalance (md_meta m1 x) s1 (md_tree d child' none) (Int.ofNat k) (u32 u) = (some e, a, s', w)

theorem MMorTail.toH {T : Nat} {rs : DRestruct r} {Q : (d : Nat) → MTree r d → Prop} (h : MMorTail T rs Q) :
    MMorTailH T rs Q := fun addr d m1 x child' k u s1 hp _ hck hnf hun => h addr d m1 x child' k u s1 hp hck hnf hun

section
variable (eb : DEnvB r) (rs : DRestruct r)


/-- `mds_PathR` with `mapSlabHeaderSize ≤ m.hdr.size` at every index slab of the path (the premise of `MMorTailH`) -/
def mds_PathH (cfg : MCfg) (k : MKey) (v : Elem) (P : DG r → Prop) (L : MDataSlab r → Prop)
    (Qin : (d : Nat) → MTree r d → Prop) : (d : Nat) → MTree r d → Ctx → Prop :=
  mds_PathR (fun n => Gen.mapSlabHeaderSize ≤ n) cfg k v P L Qin

/-- `Ob_MapSlab_Set_heap_of_tails'` over `MMorTailH` and `mds_PathH` -/
theorem Ob_MapSlab_Set_heap_of_tailsH (cfg : MCfg) (k : MKey) (v : Elem) (P : DG r → Prop) (L : MDataSlab r → Prop)
    (Q Qin : (d : Nat) → MTree r d → Prop) (hE : ElemsSpec cfg k v P eb)
    (hS : MSplitTail cfg.T rs Q) (hM : MMorTailH cfg.T rs Q)
    (hQin : ∀ d (t : MTree r d), Qin d t → Q d t)
    (hQset : ∀ d (t t' : MTree r d) ks old c c', Qin d t → MTree.set cfg d t k v c = .ok (ks, old, t', c') → Q d t')
    (hmono : ∀ (sl : MDataSlab r) c ks old sl' c', L sl → MDataSlab.set cfg sl k v c = .ok (ks, old, sl', c') → c.ctr ≤ c'.ctr)
    (hT1 : maxThr cfg.T < 2^32) (hT2 : minThr cfg.T < 2^32) (hhk : k.dig 0 < 2^64) :
    ∀ (d depth : Nat) (t : MTree r d) (x x0 : Option DX) (s : MHSt r), d ≤ depth → MHolds s.heap d t x0 →
      x.isSome = mds_rootFlag d t → (md_ids d t).Nodup → (∀ id ∈ md_ids d t, id.addr = cfg.addr) →
      mds_FreshFree cfg.addr s → mds_PathH cfg k v P L Qin d t s.ctx →
      match MTree.set cfg d t k v s.ctx with
      | .ok (ks, old, t', c') =>
        ∃ s', MapSlab_Set (envD cfg.T eb rs) (MapMetaDataSlab_Set (envD cfg.T eb rs) depth) (md_tree d t x) s () k
            (u64 0) (u64 (k.dig 0)) (.key k) (.val v) =
              some (some (.key ks), old.map .val, none, md_tree d t' x, s') ∧
          s'.ctx = c' ∧ s'.popped = s.popped ∧ mds_Post cfg.addr s s' d t t' x
      | .error e =>
        ∃ root' s', MapSlab_Set (envD cfg.T eb rs) (MapMetaDataSlab_Set (envD cfg.T eb rs) depth) (md_tree d t x) s () k
            (u64 0) (u64 (k.dig 0)) (.key k) (.val v) = some (none, none, some e, root', s') := by
  intro d depth t x x0 s hd hh hx hnd haddr ffs hp
  have key := mds_set_heap_of_tailsR eb rs (fun n => Gen.mapSlabHeaderSize ≤ n) cfg k v P L Q Qin hE hS hM hQin hQset hmono
    hT1 hT2 hhk d depth t x x0 s hd hh hx hnd haddr ffs hp
  revert key
  unfold MdRel
  dsimp only [md_opSet, mds_Up]
  rcases MTree.set cfg d t k v s.ctx with e | ⟨ks, old, t', c'⟩
  · rintro ⟨tt, ss, h, -⟩
    exact ⟨tt, ss, h⟩
  · exact id

end

section
variable (eb : DEnvB r) (rs : DRestruct r) (Q : (d : Nat) → MTree r d → Prop) (QR : OMap r → Prop)


/-- `Ob_OrderedMap_set_heap_of_tails'` over `MMorTailH` and `mds_PathH` (the receiver of every merge-or-rebalance call has
    room for one child header) -/
theorem Ob_OrderedMap_set_heap_of_tailsH (Qin : (d : Nat) → MTree r d → Prop) (cfg : MCfg) (k : MKey) (v : Elem)
    (P : DG r → Prop) (L : MDataSlab r → Prop) (hE : ElemsSpec cfg k v P eb) (hS : MSplitTail cfg.T rs Q) (hM : MMorTailH cfg.T rs Q)
    (hR : MRootTailR cfg.T rs QR)
    (hQin : ∀ d (t : MTree r d), Qin d t → Q d t)
    (hQset : ∀ d (t t' : MTree r d) ks old c c', Qin d t → MTree.set cfg d t k v c = .ok (ks, old, t', c') → Q d t')
    (hQRhdrs : ∀ d (xr : MMetaSlab (MTree r d)) ty cnt seed, QR ⟨d + 1, xr, ty, cnt, seed⟩ →
      xr.childHdrs = xr.children.map (MTree.hdr d))
    (hmono : ∀ (sl : MDataSlab r) c ks old sl' c', L sl → MDataSlab.set cfg sl k v c = .ok (ks, old, sl', c') → c.ctr ≤ c'.ctr)
    (hT1 : maxThr cfg.T < 2^32) (hT2 : minThr cfg.T < 2^32) (hhk : k.dig 0 < 2^64)
    (m : OMap r) (s : MHSt r) (x0 : Option DX) (depth : Nat) (hd : m.d ≤ depth)
    (hheld : MHolds s.heap m.d m.root x0) (hnd : (md_ids m.d m.root).Nodup)
    (haddr : ∀ id ∈ md_ids m.d m.root, id.addr = cfg.addr) (hff : mds_FreshFree cfg.addr s)
    (hroot : mds_rootFlag m.d m.root = true)
    (hp : mds_PathH cfg k v P L Qin m.d m.root s.ctx)
    (hQRset : ∀ ks old root' c1, MTree.set cfg m.d m.root k v s.ctx = .ok (ks, old, root', c1) →
      QR ({ m with root := root', count := if old.isNone then m.count + 1 else m.count } : OMap r))
    (hszR : ∀ ks old root' c1, MTree.set cfg m.d m.root k v s.ctx = .ok (ks, old, root', c1) →
      (MTree.hdr _ (OMap.promoteIfSingleChild
        ({ m with root := root', count := if old.isNone then m.count + 1 else m.count } : OMap r) c1).1.root).size < 2^32) :
    match OMap.set cfg m k v s.ctx with
    | .ok (old, m', c') =>
      ∃ s' x', OrderedMap_set (envD cfg.T eb rs) depth (md_map m s) (.key k) (.val v) =
          some (old.map .val, none, md_map m' s') ∧
        s'.ctx = c' ∧ s'.popped = s.popped ∧ mds_RootPreR QR cfg.addr s' m' x' ∧
        mds_Delta s.heap s'.heap (md_ids m.d m.root) (md_ids m'.d m'.root)
    | .error e => ∃ M', OrderedMap_set (envD cfg.T eb rs) depth (md_map m s) (.key k) (.val v) = some (none, some e, M') :=
  mds_set_top eb rs QR cfg k v hR hQRhdrs hT1 m s depth
    (mds_set_heap_of_tailsR eb rs (fun n => Gen.mapSlabHeaderSize ≤ n) cfg k v P L Q Qin hE hS hM hQin hQset hmono hT1 hT2 hhk
      m.d depth m.root (some (md_extra m)) x0 s hd hheld (by rw [hroot]; rfl) hnd haddr hff hp)
      hQRset hszR


end

/-- the loose root invariant with the one-update slack `slack1` -/
abbrev MQR1 (T : Nat) (D : DigestFn (r + 1)) : OMap r → Prop := fun m => mts_MQtop T D m.d m.root

theorem MQR1.toMQR {T : Nat} {D : DigestFn (r + 1)} {m : OMap r} (h : MQR1 T D m) : MQR T D m :=
  ⟨h.1, h.2.1, Nat.le_trans h.2.2.1 (Nat.add_le_add_left (slack1_le T m.d) _), h.2.2.2⟩

section
variable {T : Nat} {D : DigestFn (r + 1)} {cfg : MCfg}

/-- the TIGHT invariant of the children of the path nodes (what `MetaLoose` says of the children of an index slab) plus
    the `uint64` range of the first-level digests -/
def mfi_Qin (T : Nat) (D : DigestFn (r + 1)) (d : Nat) (t : MTree r d) : Prop :=
  MTreeInv T D d false t ∧ ∀ x ∈ MTree.digests0 d t, x < 2^64

/-- the leaf on the path satisfies the loose data slab invariant (root or not) -/
def mfi_L (T : Nat) (D : DigestFn (r + 1)) (sl : MDataSlab r) : Prop := ∃ top, MDataLoose T D top sl

theorem mfi_Qin_MQ (hT : legalThreshold T = true) (d : Nat) (t : MTree r d) (h : mfi_Qin T D d t) : MQ T D d t := by
  obtain ⟨hs, _, hle⟩ := (mtreeInv_false_iff hT d t).mp h.1
  exact ⟨hs, Nat.le_trans hle (Nat.le_add_right _ _), h.2⟩

/-- a tight subtree after an operation with post-condition `TPost` (`set`, `remove`) satisfies `MQ`, if the first-level
    digests that may be new are `uint64`s -/
theorem MQ.of_post {d : Nat} {t t' : MTree r d} {E : List (MKey × Elem) → List (MKey × Elem) → Prop} {Q : Nat → Prop}
    {c c' : Ctx} (h : mfi_Qin T D d t) (hp : TPost T D d false t t' E Q c c') (hQ : ∀ x, Q x → x < 2^64) :
    MQ T D d t' := by
  refine ⟨hp.sinv, ?_, fun x hx => (hp.digs x hx).elim (h.2 x) (hQ x)⟩
  have := hp.size_le; have := slack1_le T d; have := MTreeInv.le_max d false t h.1; omega

/-- the same for the handle, whatever the new count: the loose root invariant `MQR1` after the tree-level operation -/
theorem MQR1.of_post {m : OMap r} (hinv : MapInv T D m) (hdig : ∀ x ∈ MTree.digests0 m.d m.root, x < 2^64)
    {root' : MTree r m.d} {E : List (MKey × Elem) → List (MKey × Elem) → Prop} {Q : Nat → Prop} {c c' : Ctx}
    (hp : TPost T D m.d true m.root root' E Q c c') (hinl : treeInl m.d root' = treeInl m.d m.root)
    (hQ : ∀ x, Q x → x < 2^64) (n : Nat) : MQR1 T D ({ m with root := root', count := n } : OMap r) := by
  obtain ⟨d, root, ty, cnt, seed⟩ := m
  refine ⟨hp.sinv, ?_, ?_, fun x hx => (hp.digs x hx).elim (hdig x) (hQ x)⟩
  · show treeInl d root' = false
    rw [hinl, ← isInlined_eq d root ty cnt seed]; exact hinv.standalone
  · show (MTree.hdr d root').size ≤ maxThr T + slack1 T d
    have hsz : (MTree.hdr d root').size ≤ (MTree.hdr d root).size + slack1 T d := hp.size_le
    have := MTreeInv.le_max d true root hinv.tree; omega

/-- a successful model `set` did not hit the collision limit: it satisfies the post-condition of its specification
    (`MTree.set_spec`, `set_spec_zero`) -/
theorem mfi_post_of_spec {d : Nat} {top : Bool} {t t' : MTree r d} {k ks : MKey} {v sv : Elem} {old : Option Elem}
    {c c' : Ctx}
    (hspec : (TLimited cfg d t k → MTree.set cfg d t k v c = .error .collisionLimit) ∧
      (¬ TLimited cfg d t k → ∃ old t' c', MTree.set cfg d t k v c = .ok (k, old, t', c') ∧
        TSetPost T D d top t t' k sv old c c'))
    (hq : MTree.set cfg d t k v c = .ok (ks, old, t', c')) : TSetPost T D d top t t' k sv old c c' := by
  by_cases hl : TLimited cfg d t k
  · rw [hspec.1 hl] at hq; cases hq
  · obtain ⟨old', t'', c'', heq, hp⟩ := hspec.2 hl
    rw [heq] at hq
    cases hq
    exact hp

/-- `hQset` for tight inputs, from `MTree.set_spec` -/
theorem mfi_set_MQ (hT : legalThreshold T = true) (hc : CfgFor cfg T (r + 1)) {k : MKey} (hk : KeyOk T (r + 1) D k)
    {v : Elem} (hv : ValueOkM v) (hhk : k.dig 0 < 2^64) (d : Nat) (t t' : MTree r d) (ks : MKey) (old : Option Elem)
    (c c' : Ctx) (h : mfi_Qin T D d t) (hq : MTree.set cfg d t k v c = .ok (ks, old, t', c')) : MQ T D d t' := by
  exact MQ.of_post h (mfi_post_of_spec (MTree.set_spec hT hc hk hv d false t c h.1) hq).post (fun x hx => hx ▸ hhk)

/-- discharges `hQRhdrs`: projection of `MetaLoose` -/
theorem mfi_QRhdrs (d : Nat) (xr : MMetaSlab (MTree r d)) (ty cnt seed : Nat)
    (h : MQR T D (⟨d + 1, xr, ty, cnt, seed⟩ : OMap r)) : xr.childHdrs = xr.children.map (MTree.hdr d) := by
  have hs : SInv T D (d + 1) true xr := h.1
  exact hs.1.2.1

/-- `hmono` on a leaf satisfying the loose invariant, from `set_spec_zero` -/
theorem mfi_mono (hT : legalThreshold T = true) (hc : CfgFor cfg T (r + 1)) {k : MKey} (hk : KeyOk T (r + 1) D k)
    {v : Elem} (hv : ValueOkM v) (sl : MDataSlab r) (c : Ctx) (ks : MKey) (old : Option Elem) (sl' : MDataSlab r)
    (c' : Ctx) (hL : mfi_L T D sl) (hq : MDataSlab.set cfg sl k v c = .ok (ks, old, sl', c')) : c.ctr ≤ c'.ctr := by
  obtain ⟨top, hl⟩ := hL
  have hq' : MTree.set cfg 0 sl k v c = .ok (ks, old, sl', c') := hq
  exact (mfi_post_of_spec (set_spec_zero hT hc sl hl hk hv c) hq').ctr

theorem mfi_bound (hT : legalThreshold T = true) (d : Nat) : maxThr T + slack T d < 2^32 := by
  have hb := map_legal_bounds hT
  cases d with
  | zero =>
    simp only [slack, maxEntry, maxInlineMapElem_eq, Gen.digestSize, map_maxThr_eq]
    omega
  | succ d =>
    simp only [slack, Gen.mapSlabHeaderSize, map_maxThr_eq]
    omega

theorem MQ.size_lt (hT : legalThreshold T = true) {d : Nat} {t : MTree r d} (h : MQ T D d t) :
    (MTree.hdr d t).size < 2^32 := Nat.lt_of_le_of_lt h.size_le (mfi_bound hT d)

theorem mfi_rootFlag_false : ∀ (d : Nat) (t : MTree r d), MTreeInv T D d false t → mds_rootFlag d t = false
  | 0, _, h => ((mtreeInv_zero_iff T D _ _).mp h).root_eq
  | _ + 1, _, h => ((mtreeInv_succ_iff T D _ _ _).mp h).1.1

theorem mfi_inl_false : ∀ (d : Nat) (t : MTree r d), MTreeInv T D d false t → treeInl d t = false :=
  treeInl_of_nontop

theorem mfi_headD_lt (l : List Nat) (h : ∀ x ∈ l, x < 2^64) : l.headD 0 < 2^64 := by
  cases l with
  | nil => decide
  | cons a l => exact h a List.mem_cons_self

/-- what the invariant gives at an index slab of the path: first keys in `uint64`, the number of children, a header size
    that covers one child header, child headers = headers of the children, every child satisfies `mfi_Qin` -/
theorem mfi_node (hT : legalThreshold T = true) {d : Nat} {top : Bool} {m : MMetaSlab (MTree r d)}
    (h : MTreeInv T D (d + 1) top (m : MMetaSlab (MTree r d)))
    (hdig : ∀ x ∈ MTree.digests0 (d + 1) (m : MMetaSlab (MTree r d)), x < 2^64) :
    (∀ h ∈ m.childHdrs, h.firstKey < 2^64) ∧ m.childHdrs.length < 2^62 ∧ Gen.mapSlabHeaderSize ≤ m.hdr.size ∧
      m.childHdrs = m.children.map (MTree.hdr d) ∧ ∀ c' ∈ m.children, mfi_Qin T D d c' := by
  obtain ⟨hm, h2, hle⟩ := MTreeInv.two_children hT h
  have hQinC : ∀ c' ∈ m.children, mfi_Qin T D d c' :=
    fun c' hc' => ⟨hm.2.2.2.2.1 c' hc', fun x hx => hdig x (List.mem_flatMap.mpr ⟨c', hc', hx⟩)⟩
  have hsz : m.hdr.size = 12 + 18 * m.children.length := hm.2.2.1
  refine ⟨?_, ?_, ?_, hm.2.1, hQinC⟩
  · intro hd hhd
    rw [hm.2.1] at hhd
    obtain ⟨c', hc', rfl⟩ := List.mem_map.mp hhd
    rw [hm.2.2.2.2.2.2.1 c' hc']
    exact mfi_headD_lt _ (hQinC c' hc').2
  · have hl : m.childHdrs.length = m.children.length := by rw [hm.2.1, List.length_map]
    have hb := map_legal_bounds hT
    rw [hl]
    rw [map_maxThr_eq] at hle
    omega
  · show 18 ≤ m.hdr.size
    omega

/-- `mds_PathH` (tight children, loose leaf) from the tree invariant, the `uint64` range of the digests, the owner
    address of the root, `P` of the leaves -/
theorem mfi_pathH (hT : legalThreshold T = true) (hc : CfgFor cfg T (r + 1)) {k : MKey} (hk : KeyOk T (r + 1) D k)
    {v : Elem} (hv : ValueOkM v) (hhk : k.dig 0 < 2^64) (P : DG r → Prop) :
    ∀ (d : Nat) (top : Bool) (t : MTree r d) (c : Ctx), MTreeInv T D d top t →
      (∀ x ∈ MTree.digests0 d t, x < 2^64) → (MTree.hdr d t).id.addr = cfg.addr → treeInl d t = false →
      (∀ sl ∈ MTree.leaves d t, P sl.elems) →
      mds_PathH cfg k v P (mfi_L T D) (mfi_Qin T D) d t c
  | 0, top, s, c, h, _, haddr, hinl, hP =>
    ⟨hP s (List.mem_singleton.mpr rfl), haddr, hinl, ⟨top, ((mtreeInv_zero_iff T D _ _).mp h).loose⟩⟩
  | d + 1, top, (m : MMetaSlab (MTree r d)), c, h, hdig, haddr, _, hP => by
    obtain ⟨hm, h2, hle⟩ := MTreeInv.two_children hT h
    have hroute := route hT hm (by omega) (k.dig 0)
    have hidx : (MMetaSlab.findChild m.childHdrs (k.dig 0) 0 m.childHdrs.length (some 0) (m.childHdrs.length + 1)).getD 0
        = (MMetaSlab.findChild m.childHdrs (k.dig 0) 0 m.childHdrs.length none (m.childHdrs.length + 1)).getD 0 := by
      rw [MMetaSlab.findChild_some0]; rfl
    obtain ⟨i, A, child, B, hi, hrt⟩ : ∃ i A child B,
        (MMetaSlab.findChild m.childHdrs (k.dig 0) 0 m.childHdrs.length none (m.childHdrs.length + 1)).getD 0 = i ∧
        Routed d m (k.dig 0) i A child B := by
      cases hr : MMetaSlab.findChild m.childHdrs (k.dig 0) 0 m.childHdrs.length none (m.childHdrs.length + 1) with
      | none =>
        rw [hr] at hroute
        obtain ⟨_, child, B, hrt⟩ := hroute
        exact ⟨0, [], child, B, rfl, hrt⟩
      | some i =>
        rw [hr] at hroute
        obtain ⟨A, child, B, hrt, _⟩ := hroute
        exact ⟨i, A, child, B, rfl, hrt⟩
    have hci : m.children[mds_idx m.childHdrs (k.dig 0)]? = some child := by
      unfold mds_idx
      rw [hidx, hi, hrt.ch]; exact get_at hrt.len
    have hmem : child ∈ m.children := List.mem_of_getElem? hci
    obtain ⟨h1, h2', h3, h4, hQinC⟩ := mfi_node hT h hdig
    refine ⟨h1, h2', h3, h4, hQinC, child, hci, mfi_rootFlag_false d child (hQinC child hmem).1, ?_, ?_⟩
    · exact mfi_pathH hT hc hk hv hhk P d false child c (hQinC child hmem).1 (hQinC child hmem).2
        (by rw [hm.2.2.2.2.2.1 child hmem]; exact haddr) (mfi_inl_false d child (hQinC child hmem).1)
        (fun sl hsl => hP sl (List.mem_flatMap.mpr ⟨child, hmem, hsl⟩))
    · intro ks old child' c1 hq
      exact (mfi_set_MQ hT hc hk hv hhk d child child' ks old c c1 (hQinC child hmem) hq).size_lt hT

/-- `mds_PathG` (tight children, loose leaf) from the tree invariant, the `uint64` range of the digests, the owner
    address of the root, `P` of the leaves -/
theorem mfi_path (hT : legalThreshold T = true) (hc : CfgFor cfg T (r + 1)) {k : MKey} (hk : KeyOk T (r + 1) D k)
    {v : Elem} (hv : ValueOkM v) (hhk : k.dig 0 < 2^64) (P : DG r → Prop) :
    ∀ (d : Nat) (top : Bool) (t : MTree r d) (c : Ctx), MTreeInv T D d top t →
      (∀ x ∈ MTree.digests0 d t, x < 2^64) → (MTree.hdr d t).id.addr = cfg.addr → treeInl d t = false →
      (∀ sl ∈ MTree.leaves d t, P sl.elems) →
      mds_PathG cfg k v P (mfi_L T D) (mfi_Qin T D) d t c :=
  fun d top t c h hdig haddr hinl hP =>
    mds_PathR.mono (fun _ _ => trivial) d t c (mfi_pathH hT hc hk hv hhk P d top t c h hdig haddr hinl hP)

/-- `hQRset`: the handle after the tree-level `set` satisfies the loose root invariant -/
theorem mfi_QRset1 (hT : legalThreshold T = true) (hc : CfgFor cfg T (r + 1)) {k : MKey} (hk : KeyOk T (r + 1) D k)
    {v : Elem} (hv : ValueOkM v) (hhk : k.dig 0 < 2^64) (m : OMap r) (hinv : MapInv T D m)
    (hdig : ∀ x ∈ MTree.digests0 m.d m.root, x < 2^64) (c : Ctx) (ks : MKey) (old : Option Elem) (root' : MTree r m.d)
    (c1 : Ctx) (hq : MTree.set cfg m.d m.root k v c = .ok (ks, old, root', c1)) :
    MQR1 T D ({ m with root := root', count := if old.isNone then m.count + 1 else m.count } : OMap r) := by
  have hp := mfi_post_of_spec (MTree.set_spec hT hc hk hv m.d true m.root c hinv.tree) hq
  exact MQR1.of_post hinv hdig hp.post hp.inl (fun x hx => hx ▸ hhk) _

theorem mfi_QRset (hT : legalThreshold T = true) (hc : CfgFor cfg T (r + 1)) {k : MKey} (hk : KeyOk T (r + 1) D k)
    {v : Elem} (hv : ValueOkM v) (hhk : k.dig 0 < 2^64) (m : OMap r) (hinv : MapInv T D m)
    (hdig : ∀ x ∈ MTree.digests0 m.d m.root, x < 2^64) (c : Ctx) (ks : MKey) (old : Option Elem) (root' : MTree r m.d)
    (c1 : Ctx) (hq : MTree.set cfg m.d m.root k v c = .ok (ks, old, root', c1)) :
    MQR T D ({ m with root := root', count := if old.isNone then m.count + 1 else m.count } : OMap r) :=
  (mfi_QRset1 hT hc hk hv hhk m hinv hdig c ks old root' c1 hq).toMQR

/-- discharges `hszR`: the size of the (possibly promoted) root fits `uint32` -/
theorem mfi_promote_size_lt (hT : legalThreshold T = true) (m1 : OMap r) (c : Ctx) (h : MQR T D m1) :
    (MTree.hdr _ (m1.promoteIfSingleChild c).1.root).size < 2^32 := by
  obtain ⟨d, root, ty, cnt, seed⟩ := m1
  cases d with
  | zero => exact Nat.lt_of_le_of_lt h.2.2.1 (mfi_bound hT 0)
  | succ d =>
    have hs : SInv T D (d + 1) true root := h.1
    obtain ⟨hml, hlen⟩ := hs
    have hh : MMetaSlab.childHdrs root = (MMetaSlab.children root).map (MTree.hdr d) := hml.2.1
    rcases hc : MMetaSlab.children root with _ | ⟨a, _ | ⟨b, rest⟩⟩
    · rw [hc] at hlen; simp at hlen
    · have hh1 : MMetaSlab.childHdrs root = [MTree.hdr d a] := by rw [hh, hc]; rfl
      rw [promote_eq d root ty cnt seed c hh1 hc]
      have ha : MTreeInv T D d false a := hml.2.2.2.2.1 a (by rw [hc]; exact List.mem_cons_self)
      have hle := MTreeInv.le_max d false a ha
      have hb := mfi_bound hT d
      cases d with
      | zero =>
        show (MDataSlab.hdr a).size - Gen.mapDataSlabPrefixSize + Gen.mapRootDataSlabPrefixSize < 2^32
        have hle' : (MDataSlab.hdr a).size ≤ maxThr T := hle
        simp only [Gen.mapDataSlabPrefixSize, Gen.mapRootDataSlabPrefixSize]
        omega
      | succ d =>
        show (MMetaSlab.hdr a).size < 2^32
        have hle' : (MMetaSlab.hdr a).size ≤ maxThr T := hle
        omega
    · rw [promote_id d root ty cnt seed c (by rw [hc]; simp)]
      exact Nat.lt_of_le_of_lt h.2.2.1 (mfi_bound hT (d + 1))

theorem mfi_rootFlag_true : ∀ (d : Nat) (t : MTree r d), MTreeInv T D d true t → mds_rootFlag d t = true
  | 0, _, h => ((mtreeInv_zero_iff T D _ _).mp h).root_eq
  | _ + 1, _, h => ((mtreeInv_succ_iff T D _ _ _).mp h).1.1

theorem mfi_inl_root (m : OMap r) (h : m.isInlined = false) : treeInl m.d m.root = false := by
  obtain ⟨d, root, ty, cnt, seed⟩ := m
  rw [← isInlined_eq d root ty cnt seed]; exact h

theorem mfi_root_id_mem (d : Nat) (t : MTree r d) : (MTree.hdr d t).id ∈ md_ids d t := md_hdr_id_mem d t

end

/-- The assembly for `Set` with `MSplitTail_rsOf`, `MMorTail_rsOf_partial` plugged in, for any handle-level invariant `QR`
    between `MQR1` and what bounds the (promoted) root's size. -/
theorem mfi_set_full_of (cfg : MCfg) (D : DigestFn (r + 1)) (k : MKey) (v : Elem)
    (P : DG r → Prop) (eb : DEnvB r)
    (hLT : legalThreshold cfg.T = true) (hL : cfg.L = r + 1) (hk : KeyOk cfg.T (r + 1) D k) (hv : ValueOkM v)
    (hhk : k.dig 0 < 2^64) (hE : ElemsSpec cfg k v P eb)
    (QR : OMap r → Prop) (hR : MRootTailR cfg.T (rsOf (r := r) cfg.T) QR)
    (hQRhdrs : ∀ d (xr : MMetaSlab (MTree r d)) ty cnt seed, QR ⟨d + 1, xr, ty, cnt, seed⟩ →
      xr.childHdrs = xr.children.map (MTree.hdr d))
    (hQR1 : ∀ m, MQR1 cfg.T D m → QR m)
    (hszQ : ∀ (m1 : OMap r) (c : Ctx), QR m1 → (MTree.hdr _ (m1.promoteIfSingleChild c).1.root).size < 2^32)
    (m : OMap r) (hinv : MapInv cfg.T D m) (hdig : ∀ x ∈ MTree.digests0 m.d m.root, x < 2^64)
    (hPl : ∀ sl ∈ MTree.leaves m.d m.root, P sl.elems)
    (s : MHSt r) (x0 : Option DX) (depth : Nat) (hd : m.d ≤ depth)
    (hheld : MHolds s.heap m.d m.root x0) (hnd : (md_ids m.d m.root).Nodup)
    (haddr : ∀ id ∈ md_ids m.d m.root, id.addr = cfg.addr) (hff : mds_FreshFree cfg.addr s) :
    match OMap.set cfg m k v s.ctx with
    | .ok (old, m', c') =>
      ∃ s' x', OrderedMap_set (envD cfg.T eb (rsOf cfg.T)) depth (md_map m s) (.key k) (.val v) =
          some (old.map .val, none, md_map m' s') ∧
        s'.ctx = c' ∧ s'.popped = s.popped ∧ mds_RootPreR QR cfg.addr s' m' x' ∧
        mds_Delta s.heap s'.heap (md_ids m.d m.root) (md_ids m'.d m'.root)
    | .error e =>
      ∃ M', OrderedMap_set (envD cfg.T eb (rsOf cfg.T)) depth (md_map m s) (.key k) (.val v) = some (none, some e, M') := by
  have hc : CfgFor cfg cfg.T (r + 1) := ⟨rfl, hL⟩
  have hb := map_legal_bounds hLT
  have hT1 : maxThr cfg.T < 2^32 := by rw [map_maxThr_eq]; omega
  have hT2 : minThr cfg.T < 2^32 := by simp only [minThr]; omega
  exact Ob_OrderedMap_set_heap_of_tailsH eb (rsOf cfg.T) (MQ cfg.T D) QR (mfi_Qin cfg.T D) cfg k v P
    (mfi_L cfg.T D) hE (MSplitTail_rsOf D hLT) (MMorTail_rsOf_partial hLT) hR (mfi_Qin_MQ hLT) (mfi_set_MQ hLT hc hk hv hhk) hQRhdrs
    (fun sl c ks old sl' c' hl hq => mfi_mono hLT hc hk hv sl c ks old sl' c' hl hq) hT1 hT2 hhk m s x0 depth hd hheld
    hnd haddr hff (mfi_rootFlag_true m.d m.root hinv.tree)
    (mfi_pathH hLT hc hk hv hhk P m.d true m.root s.ctx hinv.tree hdig
      (haddr _ (mfi_root_id_mem m.d m.root)) (mfi_inl_root m hinv.standalone) hPl)
    (fun ks old root' c1 hq => hQR1 _ (mfi_QRset1 hLT hc hk hv hhk m hinv hdig s.ctx ks old root' c1 hq))
    (fun ks old root' c1 hq => hszQ _ c1 (hQR1 _ (mfi_QRset1 hLT hc hk hv hhk m hinv hdig s.ctx ks old root' c1 hq)))

/-- **`OrderedMap.Set` over the heap, with the generated restructuring code (`rsOf cfg.T`)**: given only the root tail
    fact about `rsOf` (`hR`; `MSplitTail_rsOf`, `MMorTail_rsOf_partial` are plugged in), for a map satisfying `MapInv`
    whose tree the heap holds, the generated
    `OrderedMap.set` returns `(old value, nil, md_map m' s')` for the model's `OMap.set cfg m k v s.ctx = .ok (old, m', c')`
    with `s'.ctx = c'`, the handle invariant over the heap re-established (`mds_RootPreR (MQR ..)`) and the heap changed as
    `mds_Delta` says; a model error comes back as that error value.
    Hypotheses: the element layer (`ElemsSpec`, `P` of the leaves), the `uint64` range of the digests
    (the model's digests are unbounded naturals), and the heap / identifier facts (`MHolds`, `Nodup`, owner address,
    `mds_FreshFree`). -/
theorem Ob_OrderedMap_Set_heap_full_of_root (cfg : MCfg) (D : DigestFn (r + 1)) (k : MKey) (v : Elem)
    (P : DG r → Prop) (eb : DEnvB r)
    (hLT : legalThreshold cfg.T = true) (hL : cfg.L = r + 1) (hk : KeyOk cfg.T (r + 1) D k) (hv : ValueOkM v)
    (hhk : k.dig 0 < 2^64) (hE : ElemsSpec cfg k v P eb)
    (hR : MRootTailR cfg.T (rsOf (r := r) cfg.T) (MQR cfg.T D))
    (m : OMap r) (hinv : MapInv cfg.T D m) (hdig : ∀ x ∈ MTree.digests0 m.d m.root, x < 2^64)
    (hPl : ∀ sl ∈ MTree.leaves m.d m.root, P sl.elems)
    (s : MHSt r) (x0 : Option DX) (depth : Nat) (hd : m.d ≤ depth)
    (hheld : MHolds s.heap m.d m.root x0) (hnd : (md_ids m.d m.root).Nodup)
    (haddr : ∀ id ∈ md_ids m.d m.root, id.addr = cfg.addr) (hff : mds_FreshFree cfg.addr s) :
    match OMap.set cfg m k v s.ctx with
    | .ok (old, m', c') =>
      ∃ s' x', OrderedMap_set (envD cfg.T eb (rsOf cfg.T)) depth (md_map m s) (.key k) (.val v) =
          some (old.map .val, none, md_map m' s') ∧
        s'.ctx = c' ∧ s'.popped = s.popped ∧ mds_RootPreR (MQR cfg.T D) cfg.addr s' m' x' ∧
        mds_Delta s.heap s'.heap (md_ids m.d m.root) (md_ids m'.d m'.root)
    | .error e =>
      ∃ M', OrderedMap_set (envD cfg.T eb (rsOf cfg.T)) depth (md_map m s) (.key k) (.val v) = some (none, some e, M') :=
  mfi_set_full_of cfg D k v P eb hLT hL hk hv hhk hE (MQR cfg.T D) hR mfi_QRhdrs (fun _ h => h.toMQR)
    (fun m1 c h => mfi_promote_size_lt hLT m1 c h) m hinv hdig hPl s x0 depth hd hheld hnd haddr hff

/-- the same with the CLOSED element layer `clEnvB cfg retr (r + 1)` (`clEnvB_elemsSpec`): no `ElemsSpec` hypothesis; the
    leaves satisfy `mcl_PLeaf` (element invariant - which `MapInv` gives -, `uint` ranges of the closed theorems, the
    storage returns the slabs of the external groups) -/
theorem Ob_OrderedMap_Set_heap_full_of_root_closed (cfg : MCfg) (D : DigestFn (r + 1)) (k : MKey) (v : Elem)
    (retr : mcl_Retrs DX)
    (hLT : legalThreshold cfg.T = true) (hL : cfg.L = r + 1) (hL64 : cfg.L < 2^64) (hT32 : cfg.T < 2^32)
    (hTe : maxInlineMapElem cfg.T < 2^32) (hcl : cfg.climit < 2^32) (hkd : ∀ lvl, k.dig lvl < 2^64)
    (hk : KeyOk cfg.T (r + 1) D k) (hv : ValueOkM v)
    (hR : MRootTailR cfg.T (rsOf (r := r) cfg.T) (MQR cfg.T D))
    (m : OMap r) (hinv : MapInv cfg.T D m) (hdig : ∀ x ∈ MTree.digests0 m.d m.root, x < 2^64)
    (hPl : ∀ sl ∈ MTree.leaves m.d m.root, mcl_PLeaf cfg k v retr D sl.elems)
    (s : MHSt r) (x0 : Option DX) (depth : Nat) (hd : m.d ≤ depth)
    (hheld : MHolds s.heap m.d m.root x0) (hnd : (md_ids m.d m.root).Nodup)
    (haddr : ∀ id ∈ md_ids m.d m.root, id.addr = cfg.addr) (hff : mds_FreshFree cfg.addr s) :
    match OMap.set cfg m k v s.ctx with
    | .ok (old, m', c') =>
      ∃ s' x', OrderedMap_set (envD cfg.T (clEnvB cfg retr (r + 1)) (rsOf cfg.T)) depth (md_map m s) (.key k) (.val v) =
          some (old.map .val, none, md_map m' s') ∧
        s'.ctx = c' ∧ s'.popped = s.popped ∧ mds_RootPreR (MQR cfg.T D) cfg.addr s' m' x' ∧
        mds_Delta s.heap s'.heap (md_ids m.d m.root) (md_ids m'.d m'.root)
    | .error e =>
      ∃ M', OrderedMap_set (envD cfg.T (clEnvB cfg retr (r + 1)) (rsOf cfg.T)) depth (md_map m s) (.key k) (.val v) =
        some (none, some e, M') :=
  Ob_OrderedMap_Set_heap_full_of_root cfg D k v (mcl_PLeaf cfg k v retr D) (clEnvB cfg retr (r + 1)) hLT hL hk hv (hkd 0)
    (clEnvB_elemsSpec cfg k v retr D hL hL64 hT32 hTe hcl hkd hLT) hR m hinv hdig hPl s x0 depth hd hheld hnd haddr hff

/-- `Ob_OrderedMap_Set_heap_full_of_root` with the two child tails `hS`, `hM` as further hypotheses, which its proof does not
    use -/
theorem Ob_OrderedMap_Set_heap_full_of_three (cfg : MCfg) (D : DigestFn (r + 1)) (k : MKey) (v : Elem)
    (P : DG r → Prop) (eb : DEnvB r)
    (hLT : legalThreshold cfg.T = true) (hL : cfg.L = r + 1) (hk : KeyOk cfg.T (r + 1) D k) (hv : ValueOkM v)
    (hhk : k.dig 0 < 2^64) (hE : ElemsSpec cfg k v P eb)
    (hS : MSplitTail cfg.T (rsOf (r := r) cfg.T) (MQ cfg.T D)) (hM : MMorTail cfg.T (rsOf (r := r) cfg.T) (MQ cfg.T D))
    (hR : MRootTailR cfg.T (rsOf (r := r) cfg.T) (MQR cfg.T D))
    (m : OMap r) (hinv : MapInv cfg.T D m) (hdig : ∀ x ∈ MTree.digests0 m.d m.root, x < 2^64)
    (hPl : ∀ sl ∈ MTree.leaves m.d m.root, P sl.elems)
    (s : MHSt r) (x0 : Option DX) (depth : Nat) (hd : m.d ≤ depth)
    (hheld : MHolds s.heap m.d m.root x0) (hnd : (md_ids m.d m.root).Nodup)
    (haddr : ∀ id ∈ md_ids m.d m.root, id.addr = cfg.addr) (hff : mds_FreshFree cfg.addr s) :
    match OMap.set cfg m k v s.ctx with
    | .ok (old, m', c') =>
      ∃ s' x', OrderedMap_set (envD cfg.T eb (rsOf cfg.T)) depth (md_map m s) (.key k) (.val v) =
          some (old.map .val, none, md_map m' s') ∧
        s'.ctx = c' ∧ s'.popped = s.popped ∧ mds_RootPreR (MQR cfg.T D) cfg.addr s' m' x' ∧
        mds_Delta s.heap s'.heap (md_ids m.d m.root) (md_ids m'.d m'.root)
    | .error e =>
      ∃ M', OrderedMap_set (envD cfg.T eb (rsOf cfg.T)) depth (md_map m s) (.key k) (.val v) = some (none, some e, M') :=
  Ob_OrderedMap_Set_heap_full_of_root cfg D k v P eb hLT hL hk hv hhk hE hR m hinv hdig hPl s x0 depth hd hheld hnd haddr hff

/-- the same with the CLOSED element layer `clEnvB cfg retr (r + 1)` (`clEnvB_elemsSpec`): no `ElemsSpec` hypothesis; the
    leaves satisfy `mcl_PLeaf` (element invariant - which `MapInv` gives -, `uint` ranges of the closed theorems, the
    storage returns the slabs of the external groups) -/
theorem Ob_OrderedMap_Set_heap_full_of_three_closed (cfg : MCfg) (D : DigestFn (r + 1)) (k : MKey) (v : Elem)
    (retr : mcl_Retrs DX)
    (hLT : legalThreshold cfg.T = true) (hL : cfg.L = r + 1) (hL64 : cfg.L < 2^64) (hT32 : cfg.T < 2^32)
    (hTe : maxInlineMapElem cfg.T < 2^32) (hcl : cfg.climit < 2^32) (hkd : ∀ lvl, k.dig lvl < 2^64)
    (hk : KeyOk cfg.T (r + 1) D k) (hv : ValueOkM v)
    (hS : MSplitTail cfg.T (rsOf (r := r) cfg.T) (MQ cfg.T D)) (hM : MMorTail cfg.T (rsOf (r := r) cfg.T) (MQ cfg.T D))
    (hR : MRootTailR cfg.T (rsOf (r := r) cfg.T) (MQR cfg.T D))
    (m : OMap r) (hinv : MapInv cfg.T D m) (hdig : ∀ x ∈ MTree.digests0 m.d m.root, x < 2^64)
    (hPl : ∀ sl ∈ MTree.leaves m.d m.root, mcl_PLeaf cfg k v retr D sl.elems)
    (s : MHSt r) (x0 : Option DX) (depth : Nat) (hd : m.d ≤ depth)
    (hheld : MHolds s.heap m.d m.root x0) (hnd : (md_ids m.d m.root).Nodup)
    (haddr : ∀ id ∈ md_ids m.d m.root, id.addr = cfg.addr) (hff : mds_FreshFree cfg.addr s) :
    match OMap.set cfg m k v s.ctx with
    | .ok (old, m', c') =>
      ∃ s' x', OrderedMap_set (envD cfg.T (clEnvB cfg retr (r + 1)) (rsOf cfg.T)) depth (md_map m s) (.key k) (.val v) =
          some (old.map .val, none, md_map m' s') ∧
        s'.ctx = c' ∧ s'.popped = s.popped ∧ mds_RootPreR (MQR cfg.T D) cfg.addr s' m' x' ∧
        mds_Delta s.heap s'.heap (md_ids m.d m.root) (md_ids m'.d m'.root)
    | .error e =>
      ∃ M', OrderedMap_set (envD cfg.T (clEnvB cfg retr (r + 1)) (rsOf cfg.T)) depth (md_map m s) (.key k) (.val v) =
        some (none, some e, M') :=
  Ob_OrderedMap_Set_heap_full_of_root_closed cfg D k v retr hLT hL hL64 hT32 hTe hcl hkd hk hv hR m hinv hdig hPl s x0 depth hd
    hheld hnd haddr hff

end

end Atree.TransEq

import AtreeProofs.Props.TransMapDescentSetModel
import AtreeProofs.Props.TransMapDescentTopSet
/-
  `Set` of the map descent, the whole `MTree.set`: the generated descent over the heap equals the model on every branch of
  `MMetaSlab.afterChild` (split / merge-or-rebalance / store), for ANY restructuring record `rs` whose two calls satisfy the
  tail hypotheses `MSplitTail`, `MMorTail` (`mds_set_heap_of_tailsR`, an instance of `md_descent`; the theorems named
  `..of_tails..` are its readings).  `mds_Post` is the post-condition of a step (held, distinct, the owner's, fresh / gone /
  frame, fresh identifiers free); `MHeapPost` (`mds_Post.post`) and `mds_Delta` (`mds_Post.delta`,
  Props/TransMapDescentTopSetFull.lean) are parts of it.
  For the generated code `rsOf T`, `MSplitTail` holds (`MSplitTail_rsOf`, Props/TransMapDescentTailSplit.lean).  `MMorTail` does
  not follow from `mds_Pre`, which says nothing of the receiver itself: Props/TransMapDescentTailMor.lean proves it under the
  premise that the receiver's header size covers one child header (`MMorTail_rsOf_partial`, `MMorTail_rsOf_of_recv`), and
  Props/TransMapDescentSetFinal.lean states the descent with that premise (`MMorTailH`, `mds_PathH`).
-/
namespace Atree.TransEq
open Atree Atree.Gen.TransMapD

section
variable {r : Nat}

/-- identifiers of the owner address above the allocation counter are not in the heap -/
def mds_FreshFree (addr : Nat) (s : MHSt r) : Prop :=
  ∀ id : SlabID, id.addr = addr → s.ctx.ctr < id.idx → s.heap id = none

/-- the state after an operation that turns the subtree `t` into `t'` (storage `s` into `s'`): the new identifiers are
    pairwise distinct and belong to the owner, the heap holds `t'`, identifiers that entered the tree were free before,
    identifiers that left it are gone, everything else is untouched, fresh identifiers are still free -/
structure mds_Post (addr : Nat) (s s' : MHSt r) (d : Nat) (t t' : MTree r d) (x : Option DX) : Prop where
  nodup : (md_ids d t').Nodup
  addrOk : ∀ id ∈ md_ids d t', id.addr = addr
  holds : MHolds s'.heap d t' x
  fresh : ∀ id ∈ md_ids d t', id ∉ md_ids d t → s.heap id = none
  gone : ∀ id ∈ md_ids d t, id ∉ md_ids d t' → s'.heap id = none
  frame : ∀ id, id ∉ md_ids d t → id ∉ md_ids d t' → s'.heap id = s.heap id
  ff : mds_FreshFree addr s'

theorem mds_Post.post {addr : Nat} {s s' : MHSt r} {d : Nat} {t t' : MTree r d} {x : Option DX}
    (hp : mds_Post addr s s' d t t' x) : MHeapPost s.heap s'.heap t t' x :=
  ⟨hp.holds, hp.gone, hp.frame⟩

/-- what a restructuring call of an index slab may assume: the receiver `m1` is passed BY VALUE (the heap still has its
    old version under `m1.hdr.id`), every child subtree is held by the heap (the modified child included: its own `Set` /
    restructuring stored it), header list and children agree, identifiers pairwise distinct and the owner's, fresh
    identifiers free, every child satisfies the provider's invariant `Q` -/
structure mds_Pre (Q : (d : Nat) → MTree r d → Prop) (addr : Nat) (s1 : MHSt r) (d : Nat)
    (m1 : MMetaSlab (MTree r d)) : Prop where
  held : ∀ c ∈ m1.children, MHolds s1.heap d c none
  hdrs : m1.childHdrs = m1.children.map (MTree.hdr d)
  nodup : (md_ids (d + 1) m1).Nodup
  addrOk : ∀ id ∈ md_ids (d + 1) m1, id.addr = addr
  rootSome : (s1.heap m1.hdr.id).isSome = true
  ff : mds_FreshFree addr s1
  inv : ∀ c ∈ m1.children, Q d c

theorem mds_Pre.ids_some {Q : (d : Nat) → MTree r d → Prop} {addr : Nat} {s1 : MHSt r} {d : Nat}
    {m1 : MMetaSlab (MTree r d)} (hp : mds_Pre Q addr s1 d m1) : ∀ id ∈ md_ids (d + 1) m1, (s1.heap id).isSome = true := by
  intro id hin
  rcases List.mem_cons.mp hin with e | hm
  · rw [e]; exact hp.rootSome
  · obtain ⟨c, hc, hic⟩ := List.mem_flatMap.mp hm
    exact MHolds.ids_some d c none s1.heap (hp.held c hc) id hic

/-- TAIL hypothesis on `rs.splitChild` (`MapMetaDataSlab.SplitChildSlab`): on a receiver `m1` in a state satisfying
    `mds_Pre`, whose child `k` is `child'` (full), it returns the model's `splitChildSlab` as generated records, with the
    model's `Ctx`, and the heap afterwards is as `mds_Post` says; a model error comes back as the error value -/
def MSplitTail (T : Nat) (rs : DRestruct r) (Q : (d : Nat) → MTree r d → Prop) : Prop :=
  ∀ (addr d : Nat) (m1 : MMetaSlab (MTree r d)) (x : Option DX) (child' : MTree r d) (k : Nat) (s1 : MHSt r),
    mds_Pre Q addr s1 d m1 → m1.children[k]? = some child' → MTree.isFull T d child' = true →
    match m1.splitChildSlab child' k s1.ctx with
    | .ok (m', c') =>
      ∃ s' w, rs.splitChild (md_meta m1 x) s1 (md_tree d child' none) (Int.ofNat k) = (none, md_meta m' x, s', w) ∧
        s'.ctx = c' ∧ s'.popped = s1.popped ∧ mds_Post addr s1 s' (d + 1) m1 m' x
    | .error e =>
      ∃ a s' w, rs.splitChild (md_meta m1 x) s1 (md_tree d child' none) (Int.ofNat k) = (some e, a, s', w)

/-- TAIL hypothesis on `rs.mergeOrRebalance` (`MapMetaDataSlab.MergeOrRebalanceChildSlab`), same shape; `u` is the
    model's underflow size of the child (the identifier of a merged-away sibling is gone: `mds_Post.gone`) -/
def MMorTail (T : Nat) (rs : DRestruct r) (Q : (d : Nat) → MTree r d → Prop) : Prop :=
  ∀ (addr d : Nat) (m1 : MMetaSlab (MTree r d)) (x : Option DX) (child' : MTree r d) (k u : Nat) (s1 : MHSt r),
    mds_Pre Q addr s1 d m1 → m1.children[k]? = some child' → MTree.isFull T d child' = false →
    MTree.isUnderflow T d child' = some u →
    match m1.mergeOrRebalanceChildSlab T child' k u s1.ctx with
    | .ok (m', c') =>
      ∃ s' w, rs.mergeOrRebalance (md_meta m1 x) s1 (md_tree d child' none) (Int.ofNat k) (u32 u) =
          (none, md_meta m' x, s', w) ∧
        s'.ctx = c' ∧ s'.popped = s1.popped ∧ mds_Post addr s1 s' (d + 1) m1 m' x
    | .error e =>
      ∃ a s' w, rs.mergeOrRebalance (md_meta m1 x) s1 (md_tree d child' none) (Int.ofNat k) (u32 u) = (some e, a, s', w)

/-- `fresh / gone / frame` of an inner (child) step followed by an outer (index slab) step: `I` / `I1` / `I'` = identifiers
    of the index-slab subtree before / after the child step / after the outer step; `J` / `J'` = identifiers of the child
    subtree before / after -/
theorem mds_compose {h h1 h' : SlabID → Option (DSlab r)} {I I1 I' J J' : List SlabID}
    (hJ : ∀ id ∈ J, id ∈ I) (hJ' : ∀ id ∈ J', id ∈ I1) (hI1 : ∀ id ∈ I1, id ∈ I ∨ id ∈ J')
    (hI : ∀ id ∈ I, id ∈ I1 ∨ id ∈ J)
    (fi : ∀ id ∈ J', id ∉ J → h id = none) (gi : ∀ id ∈ J, id ∉ J' → h1 id = none)
    (ri : ∀ id, id ∉ J → id ∉ J' → h1 id = h id)
    (fo : ∀ id ∈ I', id ∉ I1 → h1 id = none) (go : ∀ id ∈ I1, id ∉ I' → h' id = none)
    (ro : ∀ id, id ∉ I1 → id ∉ I' → h' id = h1 id) :
    (∀ id ∈ I', id ∉ I → h id = none) ∧ (∀ id ∈ I, id ∉ I' → h' id = none) ∧
    (∀ id, id ∉ I → id ∉ I' → h' id = h id) := by
  refine ⟨fun id hi' hi => ?_, fun id hi hi' => ?_, fun id hi hi' => ?_⟩
  · by_cases h1m : id ∈ I1
    · rcases hI1 id h1m with hh | hh
      · exact absurd hh hi
      · exact fi id hh (fun hj => hi (hJ id hj))
    · rw [← ri id (fun hj => hi (hJ id hj)) (fun hj => h1m (hJ' id hj))]
      exact fo id hi' h1m
  · by_cases h1m : id ∈ I1
    · exact go id h1m hi'
    · rcases hI id hi with hh | hh
      · exact absurd hh h1m
      · rw [ro id h1m hi']
        exact gi id hh (fun hj => h1m (hJ' id hj))
  · by_cases h1m : id ∈ I1
    · rcases hI1 id h1m with hh | hh
      · exact absurd hh hi
      · rw [go id h1m hi', fi id hh (fun hj => hi (hJ id hj))]
    · rw [ro id h1m hi']
      exact ri id (fun hj => hi (hJ id hj)) (fun hj => h1m (hJ' id hj))

theorem mds_MHolds_some : ∀ (d : Nat) (t : MTree r d) (x : Option DX) (h : SlabID → Option (DSlab r)),
    MHolds h d t x → ∀ id ∈ md_ids d t, (h id).isSome = true :=
  MHolds.ids_some

/-- a step that keeps the identifiers (`mds_HeapRel`) and does not lower the counter satisfies `mds_Post` -/
theorem mds_Post_of_HeapRel {addr : Nat} {s s' : MHSt r} {d : Nat} {t t' : MTree r d} {x x0 : Option DX}
    (hrel : mds_HeapRel s.heap s'.heap d t t' x) (hnd : (md_ids d t).Nodup) (haddr : ∀ id ∈ md_ids d t, id.addr = addr)
    (hh : MHolds s.heap d t x0) (ffs : mds_FreshFree addr s) (hctr : s.ctx.ctr ≤ s'.ctx.ctr) :
    mds_Post addr s s' d t t' x where
  nodup := hrel.ids ▸ hnd
  addrOk := fun id hid => haddr id (hrel.ids ▸ hid)
  holds := hrel.holds
  fresh := fun id hid hn => absurd (hrel.ids ▸ hid) hn
  gone := fun id hid hn => absurd (hrel.ids.symm ▸ hid) hn
  frame := fun id hn _ => hrel.frame id hn
  ff := fun id ha hlt => by
    have hnone : s.heap id = none := ffs id ha (Nat.lt_of_le_of_lt hctr hlt)
    have hn : id ∉ md_ids d t := fun hid => by
      have := mds_MHolds_some d t x0 s.heap hh id hid
      rw [hnone] at this; cases this
    rw [hrel.frame id hn]; exact hnone

/-- `storeSlab` of the index slab itself (no restructuring) as an outer step -/
theorem mds_Post_store {Q : (d : Nat) → MTree r d → Prop} {addr : Nat} {s1 : MHSt r} {d : Nat}
    {m1 : MMetaSlab (MTree r d)} (x : Option DX) (hp : mds_Pre Q addr s1 d m1) :
    mds_Post addr s1 (s1.store m1.hdr.id (.metaSlab (md_meta m1 x))) (d + 1) m1 m1 x := by
  have hstore : ∀ id, id ≠ m1.hdr.id → (s1.store m1.hdr.id (.metaSlab (md_meta m1 x))).heap id = s1.heap id :=
    fun id hne => by rw [MHSt.store_heap, if_neg hne]
  refine ⟨hp.nodup, hp.addrOk, MHolds.store_root x hp.held hp.nodup, fun id hid hn => absurd hid hn,
    fun id hid hn => absurd hid hn, fun id hn _ => hstore id (fun e => hn (e ▸ List.mem_cons_self)), fun id ha hlt => ?_⟩
  · have hnone : s1.heap id = none := hp.ff id ha hlt
    have hne : id ≠ m1.hdr.id := fun e => by
      have := hp.rootSome; rw [← e, hnone] at this; cases this
    rw [hstore id hne]; exact hnone

/-- after the child step: the index slab `m1` (header / child `i` replaced) in the state `s1` satisfies `mds_Pre`, and
    the identifier lists decompose as the composition lemma needs -/
theorem mds_Pre_after_child {Q : (d : Nat) → MTree r d → Prop} {addr : Nat} {s s1 : MHSt r} {d : Nat}
    (m : MMetaSlab (MTree r d)) (x0 : Option DX) (child child' : MTree r d) (i : Nat)
    (hci : m.children[i]? = some child) (hh : MHolds s.heap (d + 1) m x0) (hnd : (md_ids (d + 1) m).Nodup)
    (haddr : ∀ id ∈ md_ids (d + 1) m, id.addr = addr) (hhdrs : m.childHdrs = m.children.map (MTree.hdr d))
    (hQ : ∀ c ∈ m.children, Q d c) (hQ' : Q d child') (hpost : mds_Post addr s s1 d child child' none) :
    mds_Pre Q addr s1 d (mds_metaAfter m child' i) ∧
    (mds_metaAfter m child' i).children[i]? = some child' ∧
    ∃ As Bs : List SlabID,
      md_ids (d + 1) m = m.hdr.id :: (As ++ (md_ids d child ++ Bs)) ∧
      md_ids (d + 1) (mds_metaAfter m child' i) = m.hdr.id :: (As ++ (md_ids d child' ++ Bs)) := by
  obtain ⟨A, B, hAB, hch1, hAl, hsub, held, hnd1, hroot⟩ := hh.after_child (m1 := mds_metaAfter m child' i) hnd hci rfl rfl
    hpost.holds hpost.nodup hpost.fresh hpost.frame
  refine ⟨⟨held, ?_, hnd1, fun id hid => ?_, ?_, hpost.ff, fun c hc => ?_⟩, by rw [hch1, ← hAl]; simp, _, _, md_ids_at hAB,
    md_ids_at hch1⟩
  · show m.childHdrs.set i (MTree.hdr d child') = (m.children.set i child').map (MTree.hdr d)
    rw [hhdrs, List.map_set]
  · rw [md_ids_at hAB] at haddr
    rw [md_ids_at hch1] at hid
    simp only [List.mem_cons, List.mem_append] at hid haddr
    rcases hid with h | h | h | h
    · exact haddr id (Or.inl h)
    · exact haddr id (Or.inr (Or.inl h))
    · exact hpost.addrOk id h
    · exact haddr id (Or.inr (Or.inr (Or.inr h)))
  · show (s1.heap m.hdr.id).isSome = true
    rw [hroot, hh.1]; rfl
  · rcases hsub c hc with rfl | hc
    · exact hQ'
    · exact hQ c hc

theorem mds_compose_post {addr : Nat} {s s1 s' : MHSt r} {d : Nat} {m m1 m' : MTree r (d + 1)} {child child' : MTree r d}
    {x : Option DX} {h : SlabID} {As Bs : List SlabID}
    (e1 : md_ids (d + 1) m = h :: (As ++ (md_ids d child ++ Bs)))
    (e2 : md_ids (d + 1) m1 = h :: (As ++ (md_ids d child' ++ Bs)))
    (inner : mds_Post addr s s1 d child child' none) (outer : mds_Post addr s1 s' (d + 1) m1 m' x) :
    mds_Post addr s s' (d + 1) m m' x := by
  obtain ⟨f, g, fr⟩ := mds_compose (h := s.heap) (h1 := s1.heap) (h' := s'.heap) (I := md_ids (d + 1) m)
    (I1 := md_ids (d + 1) m1) (I' := md_ids (d + 1) m') (J := md_ids d child) (J' := md_ids d child')
    (fun id hid => e1 ▸ List.mem_cons_of_mem _ (List.mem_append_right _ (List.mem_append_left _ hid)))
    (fun id hid => e2 ▸ List.mem_cons_of_mem _ (List.mem_append_right _ (List.mem_append_left _ hid)))
    (fun id hid => by
      rw [e2] at hid; rw [e1]
      simp only [List.mem_cons, List.mem_append] at hid ⊢
      rcases hid with h | h | h | h
      · exact Or.inl (Or.inl h)
      · exact Or.inl (Or.inr (Or.inl h))
      · exact Or.inr h
      · exact Or.inl (Or.inr (Or.inr (Or.inr h))))
    (fun id hid => by
      rw [e1] at hid; rw [e2]
      simp only [List.mem_cons, List.mem_append] at hid ⊢
      rcases hid with h | h | h | h
      · exact Or.inl (Or.inl h)
      · exact Or.inl (Or.inr (Or.inl h))
      · exact Or.inr h
      · exact Or.inl (Or.inr (Or.inr (Or.inr h))))
    inner.fresh inner.gone inner.frame outer.fresh outer.gone outer.frame
  exact ⟨outer.nodup, outer.addrOk, outer.holds, f, g, fr, outer.ff⟩

section
variable (T : Nat) (eb : DEnvB r) (rs : DRestruct r)

theorem mds_isUnderflow_tree_some (d : Nat) (t : MTree r d) (x : Option DX) (u : Nat)
    (hs : (MTree.hdr d t).size < 2^32) (hT : minThr T < 2^32) (hu : MTree.isUnderflow T d t = some u) :
    MapSlab_IsUnderflow (envD T eb rs) (md_tree d t x) = some (u32 u, true) :=
  mdr_isUnderflow_md_tree_some T eb rs d t x u hs hT hu

end

theorem mds_afterChild_eq {d : Nat} (T : Nat) (m : MMetaSlab (MTree r d)) (child' : MTree r d) (i : Nat) (c : Ctx) :
    m.afterChild T child' i c =
      if MTree.isFull T d child' then (mds_metaAfter m child' i).splitChildSlab child' i c
      else match MTree.isUnderflow T d child' with
        | some u => (mds_metaAfter m child' i).mergeOrRebalanceChildSlab T child' i u c
        | none => .ok (mds_metaAfter m child' i, c.emit (.store m.hdr.id)) :=
  mdr_afterChild_eq T m child' i c

section
variable (eb : DEnvB r) (rs : DRestruct r)

/-- what the full theorem assumes ALONG THE PATH of the key (as `mds_Path`, without the "neither full nor underflowing"
    clause): digests / lengths / new child sizes in machine range, header list = headers of the embedded children, every
    child satisfies the provider's invariant `Q`, the data slab's elements satisfy `P`, belong to the owner address, and
    it is not inlined -/
def mds_PathF (cfg : MCfg) (k : MKey) (v : Elem) (P : DG r → Prop) (Q : (d : Nat) → MTree r d → Prop) :
    (d : Nat) → MTree r d → Ctx → Prop
  | 0, (sl : MDataSlab r), _ => P sl.elems ∧ sl.hdr.id.addr = cfg.addr ∧ sl.inlined = false
  | d + 1, (m : MMetaSlab (MTree r d)), c =>
    (∀ h ∈ m.childHdrs, h.firstKey < 2^64) ∧ m.childHdrs.length < 2^62 ∧
    m.childHdrs = m.children.map (MTree.hdr d) ∧ (∀ c' ∈ m.children, Q d c') ∧
    ∃ child : MTree r d, m.children[mds_idx m.childHdrs (k.dig 0)]? = some child ∧
      mds_rootFlag d child = false ∧
      mds_PathF cfg k v P Q d child c ∧
      ∀ ks old child' c1, MTree.set cfg d child k v c = .ok (ks, old, child', c1) → (MTree.hdr d child').size < 2^32

/-- `mds_PathF` with `Qin` for the invariant of the children, a further predicate `L` on the leaf of the path and a premise
    `R` on the header size of every index slab of the path (what the merge-or-rebalance call may assume of its receiver) -/
def mds_PathR (R : Nat → Prop) (cfg : MCfg) (k : MKey) (v : Elem) (P : DG r → Prop) (L : MDataSlab r → Prop)
    (Qin : (d : Nat) → MTree r d → Prop) :
    (d : Nat) → MTree r d → Ctx → Prop
  | 0, (sl : MDataSlab r), _ => P sl.elems ∧ sl.hdr.id.addr = cfg.addr ∧ sl.inlined = false ∧ L sl
  | d + 1, (m : MMetaSlab (MTree r d)), c =>
    (∀ h ∈ m.childHdrs, h.firstKey < 2^64) ∧ m.childHdrs.length < 2^62 ∧ R m.hdr.size ∧
    m.childHdrs = m.children.map (MTree.hdr d) ∧ (∀ c' ∈ m.children, Qin d c') ∧
    ∃ child : MTree r d, m.children[mds_idx m.childHdrs (k.dig 0)]? = some child ∧
      mds_rootFlag d child = false ∧
      mds_PathR R cfg k v P L Qin d child c ∧
      ∀ ks old child' c1, MTree.set cfg d child k v c = .ok (ks, old, child', c1) → (MTree.hdr d child').size < 2^32

/-- on the way down: held by the heap (`x` = the extra data of the receiver as passed, the stored record may carry
    another), identifiers distinct and the owner's, fresh identifiers free, `mds_PathR` -/
def mds_Down (R : Nat → Prop) (cfg : MCfg) (k : MKey) (v : Elem) (P : DG r → Prop) (L : MDataSlab r → Prop)
    (Qin : (d : Nat) → MTree r d → Prop) (d : Nat) (t : MTree r d) (x : Option DX) (s : MHSt r) : Prop :=
  (∃ x0, MHolds s.heap d t x0) ∧ x.isSome = mds_rootFlag d t ∧ (md_ids d t).Nodup ∧
    (∀ id ∈ md_ids d t, id.addr = cfg.addr) ∧ mds_FreshFree cfg.addr s ∧ mds_PathR R cfg k v P L Qin d t s.ctx

/-- on the way up -/
def mds_Up (cfg : MCfg) (d : Nat) (t : MTree r d) (x : Option DX) (s : MHSt r) (t' : MTree r d) (s' : MHSt r) : Prop :=
  s'.popped = s.popped ∧ mds_Post cfg.addr s s' d t t' x

theorem mds_down (R : Nat → Prop) (cfg : MCfg) (k : MKey) (v : Elem) (P : DG r → Prop) (L : MDataSlab r → Prop)
    (Qin : (d : Nat) → MTree r d → Prop) (hhk : k.dig 0 < 2^64) (d : Nat) (m : MMetaSlab (MTree r d)) (x : Option DX)
    (s : MHSt r) (h : mds_Down R cfg k v P L Qin (d + 1) (m : MMetaSlab (MTree r d)) x s) :
    (md_opSet eb rs cfg k v).Rng m.childHdrs ∧
    ∀ i, (md_opSet eb rs cfg k v).route m.childHdrs = some i → ∃ child : MTree r d, m.children[i]? = some child ∧
      m.childHdrs[i]? = some (MTree.hdr d child) ∧ s.heap (MTree.hdr d child).id = some (md_tree d child none) ∧
      mds_Down R cfg k v P L Qin d child none s := by
  obtain ⟨⟨x0, hh⟩, -, hnd, haddr, ffs, hfk, hlen, -, hhdrs, -, child, hci, hroot, hpc, -⟩ := h
  refine ⟨⟨hhk, hfk, hlen⟩, fun i hi => ?_⟩
  cases hi
  obtain ⟨hhi, hrootc, hhc, hndc, hsub⟩ := hh.child hhdrs hnd hci
  exact ⟨child, hci, hhi, hrootc, ⟨none, hhc⟩, by rw [hroot]; rfl, hndc, fun id hid => haddr id (hsub id hid), ffs, hpc⟩

/-- One level on the way up, for `Set` and `Remove` alike (the operation has gone: `child'` is whatever came back for the
    child at position `i`, with post-condition `mds_Up`): the receiver with the returned child written back satisfies
    `mds_Pre`, the post-conditions of the restructuring calls compose with the child's, storing the receiver is
    `mds_Post_store`.  `hM` is the hypothesis on `rs.mergeOrRebalance` with the premise `R` on the receiver's header size
    (`MMorTail`: `R := fun _ => True`, `MMorTailH`: one child header fits). -/
theorem mds_up_of_tails (R : Nat → Prop) (cfg : MCfg) (Q : (d : Nat) → MTree r d → Prop) (hS : MSplitTail cfg.T rs Q)
    (hM : ∀ (addr d : Nat) (m1 : MMetaSlab (MTree r d)) (x : Option DX) (child' : MTree r d) (k u : Nat) (s1 : MHSt r),
      mds_Pre Q addr s1 d m1 → R m1.hdr.size → m1.children[k]? = some child' → MTree.isFull cfg.T d child' = false →
      MTree.isUnderflow cfg.T d child' = some u →
      MdTailOk x (fun m' s' => s'.popped = s1.popped ∧ mds_Post addr s1 s' (d + 1) m1 m' x)
        (m1.mergeOrRebalanceChildSlab cfg.T child' k u s1.ctx)
        (rs.mergeOrRebalance (md_meta m1 x) s1 (md_tree d child' none) (Int.ofNat k) (u32 u)))
    {d : Nat} (m : MMetaSlab (MTree r d)) (x x0 : Option DX) (s s1 : MHSt r) (i : Nat) (child child' : MTree r d)
    (hci : m.children[i]? = some child) (hh : MHolds s.heap (d + 1) (m : MMetaSlab (MTree r d)) x0)
    (hnd : (md_ids (d + 1) (m : MMetaSlab (MTree r d))).Nodup)
    (haddr : ∀ id ∈ md_ids (d + 1) (m : MMetaSlab (MTree r d)), id.addr = cfg.addr)
    (hhdrs : m.childHdrs = m.children.map (MTree.hdr d)) (hQ : ∀ c ∈ m.children, Q d c) (hQ' : Q d child')
    (hrecv : R m.hdr.size) (hsz : (MTree.hdr d child').size < 2^32) (hpost : mds_Up cfg d child none s child' s1) :
    MdUp rs cfg (mds_Up cfg (d + 1) (m : MMetaSlab (MTree r d)) x s) (fun _ _ => True) m x i child' s1 := by
  obtain ⟨h3, hpost⟩ := hpost
  obtain ⟨hpre, hk1, As, Bs, e1, e2⟩ := mds_Pre_after_child (Q := Q) m x0 child child' i hci hh hnd haddr hhdrs hQ hQ' hpost
  rw [mds_metaAfter_eq] at hpre hk1 e2
  have hcomp : ∀ (m' : MMetaSlab (MTree r d)) (s' : MHSt r),
      s'.popped = s1.popped ∧ mds_Post cfg.addr s1 s' (d + 1) (mdr_model_m1 m child' i) m' x →
      mds_Up cfg (d + 1) (m : MMetaSlab (MTree r d)) x s m' s' :=
    fun m' s' hp => ⟨hp.1.trans h3, mds_compose_post e1 e2 hpost hp.2⟩
  exact ⟨hsz,
    fun hf => ⟨fun _ _ => trivial, MdTailOk.imp hcomp (hS cfg.addr d _ x child' _ s1 hpre hk1 hf)⟩,
    fun hf u hu => ⟨fun _ _ => trivial, MdTailOk.imp hcomp (hM cfg.addr d _ x child' _ u s1 hpre hrecv hk1 hf hu)⟩,
    fun _ _ => hcomp _ _ ⟨rfl, mds_Post_store x hpre⟩⟩

/-- The whole `MTree.set` over the heap, given the hypotheses on the two restructuring calls, the one on
    `rs.mergeOrRebalance` with a premise `R` on the receiver's header size.  `Qin`: what the children of the path nodes
    satisfy before the operation, `Q`: what the restructuring calls may assume (`hQin : Qin → Q`,
    `hQset : Qin t → set t = ok t' → Q t'`); `hmono` is asked of leaves satisfying `L` only. -/
theorem mds_set_heap_of_tailsR (R : Nat → Prop) (cfg : MCfg) (k : MKey) (v : Elem) (P : DG r → Prop)
    (L : MDataSlab r → Prop) (Q Qin : (d : Nat) → MTree r d → Prop) (hE : ElemsSpec cfg k v P eb)
    (hS : MSplitTail cfg.T rs Q)
    (hM : ∀ (addr d : Nat) (m1 : MMetaSlab (MTree r d)) (x : Option DX) (child' : MTree r d) (k u : Nat) (s1 : MHSt r),
      mds_Pre Q addr s1 d m1 → R m1.hdr.size → m1.children[k]? = some child' → MTree.isFull cfg.T d child' = false →
      MTree.isUnderflow cfg.T d child' = some u →
      MdTailOk x (fun m' s' => s'.popped = s1.popped ∧ mds_Post addr s1 s' (d + 1) m1 m' x)
        (m1.mergeOrRebalanceChildSlab cfg.T child' k u s1.ctx)
        (rs.mergeOrRebalance (md_meta m1 x) s1 (md_tree d child' none) (Int.ofNat k) (u32 u)))
    (hQin : ∀ d (t : MTree r d), Qin d t → Q d t)
    (hQset : ∀ d (t t' : MTree r d) ks old c c', Qin d t → MTree.set cfg d t k v c = .ok (ks, old, t', c') → Q d t')
    (hmono : ∀ (sl : MDataSlab r) c ks old sl' c', L sl → MDataSlab.set cfg sl k v c = .ok (ks, old, sl', c') → c.ctr ≤ c'.ctr)
    (hT1 : maxThr cfg.T < 2^32) (hT2 : minThr cfg.T < 2^32) (hhk : k.dig 0 < 2^64)
    (d depth : Nat) (t : MTree r d) (x x0 : Option DX) (s : MHSt r) (hd : d ≤ depth) (hh : MHolds s.heap d t x0)
    (hx : x.isSome = mds_rootFlag d t) (hnd : (md_ids d t).Nodup) (haddr : ∀ id ∈ md_ids d t, id.addr = cfg.addr)
    (ffs : mds_FreshFree cfg.addr s) (hp : mds_PathR R cfg k v P L Qin d t s.ctx) :
    MdRel (md_opSet eb rs cfg k v) (mds_Up cfg) (fun _ _ _ _ _ _ => True) depth d t x s := by
  exact md_descent (md_opSet eb rs cfg k v) hT1 hT2 (mds_Down R cfg k v P L Qin) (mds_Up cfg)
    (fun _ _ _ _ _ _ => True)
    (fun sl x s depth h => by
      obtain ⟨⟨x0, hh⟩, hx, hnd, haddr, ffs, hp⟩ := h
      have h1 := mds_set_data eb rs cfg k v P hE sl x hx hp.1 s hp.2.1 hp.2.2.1 depth
      revert h1
      unfold mds_setRel MdRel
      rw [show (md_opSet eb rs cfg k v).M 0 sl s.ctx = MTree.set cfg 0 sl k v s.ctx from rfl]
      rcases hq : MTree.set cfg 0 sl k v s.ctx with e | ⟨ks, old, t', c'⟩
      · exact fun h1 => ⟨_, _, h1, trivial⟩
      · rintro ⟨s', h1, h2, h3, hrel⟩
        exact ⟨s', h1, h2, h3, mds_Post_of_HeapRel hrel hnd haddr hh ffs
          (by rw [h2]; exact hmono sl s.ctx ks old t' c' hp.2.2.2 hq)⟩)
    (mds_down eb rs R cfg k v P L Qin hhk) (fun _ _ _ _ _ hf => by cases hf)
    (fun _ _ _ _ _ _ _ _ _ _ _ _ _ _ => trivial)
    (fun d m x s i child child' ks old s1 h hi hci hq hpost => by
      cases hi
      obtain ⟨⟨x0, hh⟩, -, hnd, haddr, -, -, -, hrecv, hhdrs, hQ, child0, hci0, -, -, hsz⟩ := h
      obtain rfl : child0 = child := Option.some.inj (hci0.symm.trans hci)
      exact mds_up_of_tails rs R cfg Q hS hM m x x0 s s1 _ child0 child' hci hh hnd haddr hhdrs
        (fun c hc => hQin d c (hQ c hc)) (hQset d child0 child' ks old _ _ (hQ child0 (List.mem_of_getElem? hci)) hq)
        hrecv (hsz ks old child' s1.ctx hq) hpost)
    d depth t x s hd ⟨⟨x0, hh⟩, hx, hnd, haddr, ffs, hp⟩

/-- `mds_PathR` without a premise on the receivers -/
def mds_PathG (cfg : MCfg) (k : MKey) (v : Elem) (P : DG r → Prop) (L : MDataSlab r → Prop)
    (Qin : (d : Nat) → MTree r d → Prop) : (d : Nat) → MTree r d → Ctx → Prop :=
  mds_PathR (fun _ => True) cfg k v P L Qin

theorem mds_PathR.mono {R R' : Nat → Prop} (hR : ∀ n, R n → R' n) {cfg : MCfg} {k : MKey} {v : Elem} {P : DG r → Prop}
    {L : MDataSlab r → Prop} {Qin : (d : Nat) → MTree r d → Prop} :
    ∀ (d : Nat) (t : MTree r d) (c : Ctx), mds_PathR R cfg k v P L Qin d t c → mds_PathR R' cfg k v P L Qin d t c
  | 0, _, _, h => h
  | d + 1, _, c, ⟨h1, h2, h3, h4, h5, child, h6, h7, h8, h9⟩ =>
    ⟨h1, h2, hR _ h3, h4, h5, child, h6, h7, mds_PathR.mono hR d child c h8, h9⟩

/-- `Ob_MapSlab_Set_heap_of_tails` with the provider's invariant split in two: `Qin` (what the children of the path nodes
    satisfy before the operation) and `Q` (what the tails may assume), related by `hQin : Qin → Q` and
    `hQset : Qin t → set t = ok t' → Q t'`; `hmono` is asked of leaves satisfying `L` only. -/
theorem Ob_MapSlab_Set_heap_of_tails' (cfg : MCfg) (k : MKey) (v : Elem) (P : DG r → Prop) (L : MDataSlab r → Prop)
    (Q Qin : (d : Nat) → MTree r d → Prop) (hE : ElemsSpec cfg k v P eb)
    (hS : MSplitTail cfg.T rs Q) (hM : MMorTail cfg.T rs Q)
    (hQin : ∀ d (t : MTree r d), Qin d t → Q d t)
    (hQset : ∀ d (t t' : MTree r d) ks old c c', Qin d t → MTree.set cfg d t k v c = .ok (ks, old, t', c') → Q d t')
    (hmono : ∀ (sl : MDataSlab r) c ks old sl' c', L sl → MDataSlab.set cfg sl k v c = .ok (ks, old, sl', c') → c.ctr ≤ c'.ctr)
    (hT1 : maxThr cfg.T < 2^32) (hT2 : minThr cfg.T < 2^32) (hhk : k.dig 0 < 2^64) :
    ∀ (d depth : Nat) (t : MTree r d) (x x0 : Option DX) (s : MHSt r), d ≤ depth → MHolds s.heap d t x0 →
      x.isSome = mds_rootFlag d t → (md_ids d t).Nodup → (∀ id ∈ md_ids d t, id.addr = cfg.addr) →
      mds_FreshFree cfg.addr s → mds_PathG cfg k v P L Qin d t s.ctx →
      match MTree.set cfg d t k v s.ctx with
      | .ok (ks, old, t', c') =>
        ∃ s', MapSlab_Set (envD cfg.T eb rs) (MapMetaDataSlab_Set (envD cfg.T eb rs) depth) (md_tree d t x) s () k
            (u64 0) (u64 (k.dig 0)) (.key k) (.val v) =
              some (some (.key ks), old.map .val, none, md_tree d t' x, s') ∧
          s'.ctx = c' ∧ s'.popped = s.popped ∧ mds_Post cfg.addr s s' d t t' x
      | .error e =>
        ∃ root' s', MapSlab_Set (envD cfg.T eb rs) (MapMetaDataSlab_Set (envD cfg.T eb rs) depth) (md_tree d t x) s () k
            (u64 0) (u64 (k.dig 0)) (.key k) (.val v) = some (none, none, some e, root', s') := by
  intro d depth t x x0 s hd hh hx hnd haddr ffs hp
  have key := mds_set_heap_of_tailsR eb rs (fun _ => True) cfg k v P L Q Qin hE hS
    (fun addr d m1 x child' k u s1 hpre _ => hM addr d m1 x child' k u s1 hpre) hQin hQset hmono hT1 hT2 hhk d depth t x x0 s
    hd hh hx hnd haddr ffs hp
  revert key
  unfold MdRel
  dsimp only [md_opSet, mds_Up]
  rcases MTree.set cfg d t k v s.ctx with e | ⟨ks, old, t', c'⟩
  · rintro ⟨tt, ss, h, -⟩
    exact ⟨tt, ss, h⟩
  · exact id

theorem mds_PathF.toG {cfg : MCfg} {k : MKey} {v : Elem} {P : DG r → Prop} {Q : (d : Nat) → MTree r d → Prop} :
    ∀ (d : Nat) (t : MTree r d) (c : Ctx), mds_PathF cfg k v P Q d t c → mds_PathG cfg k v P (fun _ => True) Q d t c
  | 0, _, _, h => ⟨h.1, h.2.1, h.2.2, trivial⟩
  | d + 1, _, c, ⟨h1, h2, h3, h4, child, h5, h6, h7, h8⟩ =>
    ⟨h1, h2, trivial, h3, h4, child, h5, h6, mds_PathF.toG d child c h7, h8⟩

/-- The whole `MTree.set` over the heap, given the tails: for a tree `t` held by the heap (identifiers pairwise distinct,
    the owner's, fresh identifiers free), under the tail hypotheses on `rs.splitChild` / `rs.mergeOrRebalance` and the
    path conditions `mds_PathF`, the generated `MapSlab.Set` dispatch returns the translation of the model's
    `MTree.set cfg d t k v s.ctx` on EVERY branch of `afterChild`: stored key, old value, no error, `md_tree d t' x`, a
    storage with the model's `Ctx` whose heap holds `t'`, with the frame relative to `md_ids d t ∪ md_ids d t'`
    (`mds_Post`, which gives `MHeapPost`); a model error comes back as that error value.
    `hQset`: the provider's invariant `Q` is preserved by the model's `set`; `hmono`: the model's `MDataSlab.set` does
    not lower the allocation counter. -/
theorem Ob_MapSlab_Set_heap_of_tails (cfg : MCfg) (k : MKey) (v : Elem) (P : DG r → Prop)
    (Q : (d : Nat) → MTree r d → Prop) (hE : ElemsSpec cfg k v P eb)
    (hS : MSplitTail cfg.T rs Q) (hM : MMorTail cfg.T rs Q)
    (hQset : ∀ d (t t' : MTree r d) ks old c c', Q d t → MTree.set cfg d t k v c = .ok (ks, old, t', c') → Q d t')
    (hmono : ∀ (sl : MDataSlab r) c ks old sl' c', MDataSlab.set cfg sl k v c = .ok (ks, old, sl', c') → c.ctr ≤ c'.ctr)
    (hT1 : maxThr cfg.T < 2^32) (hT2 : minThr cfg.T < 2^32) (hhk : k.dig 0 < 2^64) :
    ∀ (d depth : Nat) (t : MTree r d) (x x0 : Option DX) (s : MHSt r), d ≤ depth → MHolds s.heap d t x0 →
      x.isSome = mds_rootFlag d t → (md_ids d t).Nodup → (∀ id ∈ md_ids d t, id.addr = cfg.addr) →
      mds_FreshFree cfg.addr s → mds_PathF cfg k v P Q d t s.ctx →
      match MTree.set cfg d t k v s.ctx with
      | .ok (ks, old, t', c') =>
        ∃ s', MapSlab_Set (envD cfg.T eb rs) (MapMetaDataSlab_Set (envD cfg.T eb rs) depth) (md_tree d t x) s () k
            (u64 0) (u64 (k.dig 0)) (.key k) (.val v) =
              some (some (.key ks), old.map .val, none, md_tree d t' x, s') ∧
          s'.ctx = c' ∧ s'.popped = s.popped ∧ mds_Post cfg.addr s s' d t t' x
      | .error e =>
        ∃ root' s', MapSlab_Set (envD cfg.T eb rs) (MapMetaDataSlab_Set (envD cfg.T eb rs) depth) (md_tree d t x) s () k
            (u64 0) (u64 (k.dig 0)) (.key k) (.val v) = some (none, none, some e, root', s') :=
  fun d depth t x x0 s hd hh hx hnd haddr ffs hp =>
    Ob_MapSlab_Set_heap_of_tails' eb rs cfg k v P (fun _ => True) Q Q hE hS hM (fun _ _ h => h) hQset
      (fun sl c ks old sl' c' _ hq => hmono sl c ks old sl' c' hq) hT1 hT2 hhk d depth t x x0 s hd hh hx hnd haddr ffs
      (hp.toG d t s.ctx)

end

end

end Atree.TransEq

import AtreeProofs.Props.TransMapDescentSetFinal
import AtreeProofs.Props.TransMapDescentTailSplit
import AtreeProofs.Props.TransMapDescentTailMor
/-
  Declares nothing: the assembly of `Set` (…SetFinal) together with the split and merge-or-rebalance tails of the generated
  code, as the files on the root tail (…SetFull4, …SetHeapFull) import them.
-/

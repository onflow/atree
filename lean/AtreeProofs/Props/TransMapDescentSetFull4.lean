import AtreeProofs.Props.TransMapDescentSetFull3
/-
  `OrderedMap.set` over the heap with the generated restructuring code, given the root tail for the root invariant `MQR1`
  (= `mts_MQtop` of TransMapDescentTailSplit.lean on the handle's root): as `MQR` but the size bound with `slack1` (what
  `MTree.set_spec` gives; `OrderedMap.splitRoot`'s `deroot` adds 16 bytes, so the root tail needs the sharper bound).
  The root tail itself is discharged in TransMapDescentSetHeapFull.lean.
-/
namespace Atree.TransEq
open Atree Atree.Gen.TransMapD

section
variable {r : Nat}

section
variable {T : Nat} {D : DigestFn (r + 1)} {cfg : MCfg}

/-- discharges `hQRhdrs` of `Ob_OrderedMap_Set_heap_full_of_root` -/
theorem mfi_QRhdrs1 (d : Nat) (xr : MMetaSlab (MTree r d)) (ty cnt seed : Nat)
    (h : MQR1 T D (⟨d + 1, xr, ty, cnt, seed⟩ : OMap r)) : xr.childHdrs = xr.children.map (MTree.hdr d) := by
  have hs : SInv T D (d + 1) true xr := h.1
  exact hs.1.2.1
/-- discharges `hszR`: the size of the (possibly promoted) root fits `uint32` -/
theorem mfi_promote_size_lt1 (hT : legalThreshold T = true) (m1 : OMap r) (c : Ctx) (h : MQR1 T D m1) :
    (MTree.hdr _ (m1.promoteIfSingleChild c).1.root).size < 2^32 :=
  mfi_promote_size_lt hT m1 c h.toMQR

end

/-- `Ob_OrderedMap_Set_heap_full_of_root` for the handle invariant `MQR1` (the root size within `slack1`): the root tail `hR`
    is assumed over `MQR1`, and `mds_RootPreR (MQR1 ..)` is re-established -/
theorem Ob_OrderedMap_Set_heap_full_of_root1 (cfg : MCfg) (D : DigestFn (r + 1)) (k : MKey) (v : Elem)
    (P : DG r → Prop) (eb : DEnvB r)
    (hLT : legalThreshold cfg.T = true) (hL : cfg.L = r + 1) (hk : KeyOk cfg.T (r + 1) D k) (hv : ValueOkM v)
    (hhk : k.dig 0 < 2^64) (hE : ElemsSpec cfg k v P eb)
    (hR : MRootTailR cfg.T (rsOf (r := r) cfg.T) (MQR1 cfg.T D))
    (m : OMap r) (hinv : MapInv cfg.T D m) (hdig : ∀ x ∈ MTree.digests0 m.d m.root, x < 2^64)
    (hPl : ∀ sl ∈ MTree.leaves m.d m.root, P sl.elems)
    (s : MHSt r) (x0 : Option DX) (depth : Nat) (hd : m.d ≤ depth)
    (hheld : MHolds s.heap m.d m.root x0) (hnd : (md_ids m.d m.root).Nodup)
    (haddr : ∀ id ∈ md_ids m.d m.root, id.addr = cfg.addr) (hff : mds_FreshFree cfg.addr s) :
    match OMap.set cfg m k v s.ctx with
    | .ok (old, m', c') =>
      ∃ s' x', OrderedMap_set (envD cfg.T eb (rsOf cfg.T)) depth (md_map m s) (.key k) (.val v) =
          some (old.map .val, none, md_map m' s') ∧
        s'.ctx = c' ∧ s'.popped = s.popped ∧ mds_RootPreR (MQR1 cfg.T D) cfg.addr s' m' x' ∧
        mds_Delta s.heap s'.heap (md_ids m.d m.root) (md_ids m'.d m'.root)
    | .error e =>
      ∃ M', OrderedMap_set (envD cfg.T eb (rsOf cfg.T)) depth (md_map m s) (.key k) (.val v) = some (none, some e, M') :=
  mfi_set_full_of cfg D k v P eb hLT hL hk hv hhk hE (MQR1 cfg.T D) hR mfi_QRhdrs1 (fun _ h => h)
    (fun m1 c h => mfi_promote_size_lt1 hLT m1 c h) m hinv hdig hPl s x0 depth hd hheld hnd haddr hff

/-- the same with the CLOSED element layer `clEnvB cfg retr (r + 1)` (`clEnvB_elemsSpec`): no `ElemsSpec` hypothesis; the
    leaves satisfy `mcl_PLeaf` (element invariant - which `MapInv` gives -, `uint` ranges of the closed theorems, the
    storage returns the slabs of the external groups) -/
theorem Ob_OrderedMap_Set_heap_full_of_root1_closed (cfg : MCfg) (D : DigestFn (r + 1)) (k : MKey) (v : Elem)
    (retr : mcl_Retrs DX)
    (hLT : legalThreshold cfg.T = true) (hL : cfg.L = r + 1) (hL64 : cfg.L < 2^64) (hT32 : cfg.T < 2^32)
    (hTe : maxInlineMapElem cfg.T < 2^32) (hcl : cfg.climit < 2^32) (hkd : ∀ lvl, k.dig lvl < 2^64)
    (hk : KeyOk cfg.T (r + 1) D k) (hv : ValueOkM v)
    (hR : MRootTailR cfg.T (rsOf (r := r) cfg.T) (MQR1 cfg.T D))
    (m : OMap r) (hinv : MapInv cfg.T D m) (hdig : ∀ x ∈ MTree.digests0 m.d m.root, x < 2^64)
    (hPl : ∀ sl ∈ MTree.leaves m.d m.root, mcl_PLeaf cfg k v retr D sl.elems)
    (s : MHSt r) (x0 : Option DX) (depth : Nat) (hd : m.d ≤ depth)
    (hheld : MHolds s.heap m.d m.root x0) (hnd : (md_ids m.d m.root).Nodup)
    (haddr : ∀ id ∈ md_ids m.d m.root, id.addr = cfg.addr) (hff : mds_FreshFree cfg.addr s) :
    match OMap.set cfg m k v s.ctx with
    | .ok (old, m', c') =>
      ∃ s' x', OrderedMap_set (envD cfg.T (clEnvB cfg retr (r + 1)) (rsOf cfg.T)) depth (md_map m s) (.key k) (.val v) =
          some (old.map .val, none, md_map m' s') ∧
        s'.ctx = c' ∧ s'.popped = s.popped ∧ mds_RootPreR (MQR1 cfg.T D) cfg.addr s' m' x' ∧
        mds_Delta s.heap s'.heap (md_ids m.d m.root) (md_ids m'.d m'.root)
    | .error e =>
      ∃ M', OrderedMap_set (envD cfg.T (clEnvB cfg retr (r + 1)) (rsOf cfg.T)) depth (md_map m s) (.key k) (.val v) =
        some (none, some e, M') :=
  Ob_OrderedMap_Set_heap_full_of_root1 cfg D k v (mcl_PLeaf cfg k v retr D) (clEnvB cfg retr (r + 1)) hLT hL hk hv (hkd 0)
    (clEnvB_elemsSpec cfg k v retr D hL hL64 hT32 hTe hcl hkd hLT) hR m hinv hdig hPl s x0 depth hd hheld hnd haddr hff


end

end Atree.TransEq

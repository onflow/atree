import AtreeProofs.Props.TransMapDescentSetFull4
import AtreeProofs.Props.TransMapDescentTailRootSplit
import AtreeProofs.Props.TransMapDescentTailRootPromote1
/-
  **`Ob_OrderedMap_Set_heap_full`** - the generated `OrderedMap.set` (digester, descent through `MapMetaDataSlab.Set` at
  every depth, `MapDataSlab.Set`, header / firstKey refresh, `SplitChildSlab` / `MergeOrRebalanceChildSlab`, count,
  promotion, root split) with the restructuring parameters instantiated by the GENERATED code of `Gen/TransMapSlabs.lean`
  over the same heap (`rsOf`), equals the model's `OMap.set` on the embedded tree, under the map invariant.  NO hypothesis
  about generated code of the descent or of the restructuring: the three tail predicates are discharged
  (`MSplitTail_rsOf`, `MMorTail_rsOf_partial` with the receiver-size fact supplied from the tree invariant,
  `MRootTailR_promote_rsOf1`, `MRootTailR_splitRoot_rsOf_of`).  `rsOf` runs the generated code under the environment
  `envMH` (Trans/MapRestruct.lean), whose fields `MapSlab_CanLendToLeft` / `MapSlab_CanLendToRight` (the two lend
  decisions inside `MergeOrRebalanceChildSlab`) are the MODEL's `canLend` on the decoded slab (`mr_canLend`), and whose
  `element_Size`, `Storable_ByteSize`, `maxInlineMapValueSize`, `minThreshold` are the model's sizes and thresholds; the
  translated `MapDataSlab_` / `MapMetaDataSlab_CanLendTo*` are tied to the model separately (`..._eq_model`,
  Props/Trans.lean, Props/TransLoops.lean) and are not what `envMH` calls.  The element layer enters through `ElemsSpec`
  (first theorem) or is the CLOSED generated element layer `clEnvB` (second theorem: no hypothesis about generated code
  of the element layer either).
  Hypotheses: the map invariant, `uint64` range of the first-level digests (the model's digests are unbounded naturals),
  the heap holds the tree, identifiers pairwise distinct and at the owner's address, nothing stored beyond the allocation
  counter (`mds_FreshFree`), and - closed form - the range / storage-content predicate `mcl_PLeaf` of the leaves.
-/
namespace Atree.TransEq
open Atree Atree.Gen.TransMapD

section
variable {r : Nat}

/-- the root tail of the Set composition for the generated restructuring code, for the handle invariant `MQR1` (= `MQR`
    with the root size bounded by `maxThr T + slack1 T d`, the slack of one update: TransMapDescentSetFinal.lean,
    Map/TreeSet.lean) -/
theorem MRootTailR_rsOf1 (T : Nat) (D : DigestFn (r + 1)) (hT : legalThreshold T = true) :
    MRootTailR T (rsOf (r := r) T) (MQR1 T D) :=
  ⟨MRootTailR_promote_rsOf1 D hT, MRootTailR_splitRoot_rsOf_of D hT (MQR1 T D) (fun _ h => h) (fun _ h => h)⟩

/-- **`OrderedMap.set` over a heap = `OMap.set`**, every depth, every restructuring, for any element layer `eb` that is the
    model's on the leaves (`ElemsSpec`; the `EnvB` witnesses or the closed element layer) -/
theorem Ob_OrderedMap_Set_heap_full (cfg : MCfg) (D : DigestFn (r + 1)) (k : MKey) (v : Elem)
    (P : DG r → Prop) (eb : DEnvB r)
    (hLT : legalThreshold cfg.T = true) (hL : cfg.L = r + 1) (hk : KeyOk cfg.T (r + 1) D k) (hv : ValueOkM v)
    (hhk : k.dig 0 < 2^64) (hE : ElemsSpec cfg k v P eb)
    (m : OMap r) (hinv : MapInv cfg.T D m) (hdig : ∀ x ∈ MTree.digests0 m.d m.root, x < 2^64)
    (hPl : ∀ sl ∈ MTree.leaves m.d m.root, P sl.elems)
    (s : MHSt r) (x0 : Option DX) (depth : Nat) (hd : m.d ≤ depth)
    (hheld : MHolds s.heap m.d m.root x0) (hnd : (md_ids m.d m.root).Nodup)
    (haddr : ∀ id ∈ md_ids m.d m.root, id.addr = cfg.addr) (hff : mds_FreshFree cfg.addr s) :
    match OMap.set cfg m k v s.ctx with
    | .ok (old, m', c') =>
      ∃ s' x', OrderedMap_set (envD cfg.T eb (rsOf cfg.T)) depth (md_map m s) (.key k) (.val v) =
          some (old.map .val, none, md_map m' s') ∧
        s'.ctx = c' ∧ s'.popped = s.popped ∧ mds_RootPreR (MQR1 cfg.T D) cfg.addr s' m' x' ∧
        mds_Delta s.heap s'.heap (md_ids m.d m.root) (md_ids m'.d m'.root)
    | .error e =>
      ∃ M', OrderedMap_set (envD cfg.T eb (rsOf cfg.T)) depth (md_map m s) (.key k) (.val v) = some (none, some e, M') :=
  Ob_OrderedMap_Set_heap_full_of_root1 cfg D k v P eb hLT hL hk hv hhk hE (MRootTailR_rsOf1 cfg.T D hLT) m hinv hdig hPl
    s x0 depth hd hheld hnd haddr hff

/-- the same with the CLOSED generated element layer: no hypothesis about any generated code (the environment fields given
    by model functions are listed in the file header) -/
theorem Ob_OrderedMap_Set_heap_full_closed (cfg : MCfg) (D : DigestFn (r + 1)) (k : MKey) (v : Elem)
    (retr : mcl_Retrs DX)
    (hLT : legalThreshold cfg.T = true) (hL : cfg.L = r + 1) (hL64 : cfg.L < 2^64) (hT32 : cfg.T < 2^32)
    (hTe : maxInlineMapElem cfg.T < 2^32) (hcl : cfg.climit < 2^32) (hkd : ∀ lvl, k.dig lvl < 2^64)
    (hk : KeyOk cfg.T (r + 1) D k) (hv : ValueOkM v)
    (m : OMap r) (hinv : MapInv cfg.T D m) (hdig : ∀ x ∈ MTree.digests0 m.d m.root, x < 2^64)
    (hPl : ∀ sl ∈ MTree.leaves m.d m.root, mcl_PLeaf cfg k v retr D sl.elems)
    (s : MHSt r) (x0 : Option DX) (depth : Nat) (hd : m.d ≤ depth)
    (hheld : MHolds s.heap m.d m.root x0) (hnd : (md_ids m.d m.root).Nodup)
    (haddr : ∀ id ∈ md_ids m.d m.root, id.addr = cfg.addr) (hff : mds_FreshFree cfg.addr s) :
    match OMap.set cfg m k v s.ctx with
    | .ok (old, m', c') =>
      ∃ s' x', OrderedMap_set (envD cfg.T (clEnvB cfg retr (r + 1)) (rsOf cfg.T)) depth (md_map m s) (.key k) (.val v) =
          some (old.map .val, none, md_map m' s') ∧
        s'.ctx = c' ∧ s'.popped = s.popped ∧ mds_RootPreR (MQR1 cfg.T D) cfg.addr s' m' x' ∧
        mds_Delta s.heap s'.heap (md_ids m.d m.root) (md_ids m'.d m'.root)
    | .error e =>
      ∃ M', OrderedMap_set (envD cfg.T (clEnvB cfg retr (r + 1)) (rsOf cfg.T)) depth (md_map m s) (.key k) (.val v) =
        some (none, some e, M') :=
  Ob_OrderedMap_Set_heap_full_of_root1_closed cfg D k v retr hLT hL hL64 hT32 hTe hcl hkd hk hv
    (MRootTailR_rsOf1 cfg.T D hLT) m hinv hdig hPl s x0 depth hd hheld hnd haddr hff

end
end Atree.TransEq

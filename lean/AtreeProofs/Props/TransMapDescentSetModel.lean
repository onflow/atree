import AtreeProofs.Props.TransMapDescentLevel
/-
  `Set` of the map descent against the model, without restructuring: when the model's `MTree.set` restructures nowhere on
  the path, the generated descent `MapSlab_Set (envD ..) (MapMetaDataSlab_Set (envD ..) depth) (md_tree d t x) s ..` over a
  heap that holds the tree returns the translation of the model's result (`Ob_MapSlab_Set_heap_noRestructure`, an instance of
  `md_descent`).
  `Props/TransMapDescentSetFull.lean` lifts the restriction.
-/
namespace Atree.TransEq
open Atree Atree.Gen.TransMapD

section
variable {r : Nat} (T : Nat) (eb : DEnvB r) (rs : DRestruct r)

theorem mds_hdr_tree (d : Nat) (t : MTree r d) (x : Option DX) :
    MapSlab_Header (envD T eb rs) (md_tree d t x) = some (md_hdr (MTree.hdr d t)) := by
  cases d <;> rfl

theorem mds_isFull_tree (d : Nat) (t : MTree r d) (x : Option DX) (hs : (MTree.hdr d t).size < 2^32)
    (hT : maxThr T < 2^32) : MapSlab_IsFull (envD T eb rs) (md_tree d t x) = some (MTree.isFull T d t) :=
  mdr_isFull_md_tree T eb rs d t x hs hT

theorem mds_isUnderflow_tree (d : Nat) (t : MTree r d) (x : Option DX) (hs : (MTree.hdr d t).size < 2^32)
    (hT : minThr T < 2^32) (hu : MTree.isUnderflow T d t = none) :
    MapSlab_IsUnderflow (envD T eb rs) (md_tree d t x) = some ((0 : UInt32), false) :=
  mdr_isUnderflow_md_tree T eb rs d t x hs hT hu

/-- the heap after a `Set` that restructures nowhere: the same identifiers, the new tree is held, everything else is
    untouched -/
structure mds_HeapRel (h h' : SlabID → Option (DSlab r)) (d : Nat) (t t' : MTree r d) (x : Option DX) : Prop where
  ids : md_ids d t' = md_ids d t
  holds : MHolds h' d t' x
  frame : ∀ id, id ∉ md_ids d t → h' id = h id

theorem mds_HeapRel.post {h h' : SlabID → Option (DSlab r)} {d : Nat} {t t' : MTree r d} {x : Option DX}
    (hr : mds_HeapRel h h' d t t' x) : MHeapPost h h' t t' x where
  holds := hr.holds
  gone := fun id hin hnot => absurd (hr.ids ▸ hin) hnot
  frame := fun id h1 _ => hr.frame id h1

/-- one level of a step that keeps the identifiers: child `i` came back as `child'` under the identifiers of `child`, and
    the receiver with `child'` written back is stored -/
theorem mds_HeapRel.up {s s1 : MHSt r} {d : Nat} {m : MMetaSlab (MTree r d)} {x : Option DX} {i : Nat}
    {child child' : MTree r d} (hh : MHolds s.heap (d + 1) (m : MMetaSlab (MTree r d)) x)
    (hnd : (md_ids (d + 1) (m : MMetaSlab (MTree r d))).Nodup) (hc : m.children[i]? = some child)
    (hrel : mds_HeapRel s.heap s1.heap d child child' none) :
    mds_HeapRel s.heap (s1.store m.hdr.id (.metaSlab (md_meta (mdr_model_m1 m child' i) x))).heap (d + 1)
      (m : MMetaSlab (MTree r d)) (mdr_model_m1 m child' i : MMetaSlab (MTree r d)) x := by
  obtain ⟨A, B, hAB, hch1, -, -, held, hnd1, -⟩ := hh.after_child (m1 := mdr_model_m1 m child' i) hnd hc rfl rfl hrel.holds
    (hrel.ids ▸ nodup_of_mem_flatMap (md_ids d) _ (List.nodup_cons.mp hnd).2 child (List.mem_of_getElem? hc))
    (fun id hin hn => absurd (hrel.ids ▸ hin) hn) (fun id hn _ => hrel.frame id hn)
  refine ⟨by rw [md_ids_at hch1, md_ids_at hAB, hrel.ids]; rfl, MHolds.store_root x held hnd1, fun id hid => ?_⟩
  rw [md_ids_at hAB] at hid
  rw [MHSt.store_heap, if_neg (fun e : id = m.hdr.id => hid (e ▸ List.mem_cons_self))]
  exact hrel.frame id (fun hc' => hid (List.mem_cons_of_mem _ (List.mem_append_right _ (List.mem_append_left _ hc'))))

theorem mds_MHolds_congr : ∀ (d : Nat) (t : MTree r d) (x : Option DX) (h h' : SlabID → Option (DSlab r)),
    (∀ id ∈ md_ids d t, h' id = h id) → MHolds h d t x → MHolds h' d t x :=
  fun _ _ _ _ _ hyp hh => hh.congr hyp

theorem mds_split_at {α : Type} (l : List α) (i : Nat) (a : α) (h : l[i]? = some a) :
    ∃ A B, l = A ++ a :: B ∧ A.length = i :=
  split_at h

theorem mds_set_at {α : Type} (A B : List α) (a b : α) : (A ++ a :: B).set A.length b = A ++ b :: B :=
  set_at rfl b

/-- the result of the generated descent on a subtree against the model's -/
def mds_setRel (cfg : MCfg) (k : MKey) (v : Elem) (depth d : Nat) (t : MTree r d) (x : Option DX) (s : MHSt r) : Prop :=
  match MTree.set cfg d t k v s.ctx with
  | .ok (ks, old, t', c') =>
    ∃ s', MapSlab_Set (envD cfg.T eb rs) (MapMetaDataSlab_Set (envD cfg.T eb rs) depth) (md_tree d t x) s () k (u64 0)
        (u64 (k.dig 0)) (.key k) (.val v) = some (some (.key ks), old.map .val, none, md_tree d t' x, s') ∧
      s'.ctx = c' ∧ s'.popped = s.popped ∧ mds_HeapRel s.heap s'.heap d t t' x
  | .error e =>
    MapSlab_Set (envD cfg.T eb rs) (MapMetaDataSlab_Set (envD cfg.T eb rs) depth) (md_tree d t x) s () k (u64 0)
        (u64 (k.dig 0)) (.key k) (.val v) = some (none, none, some e, md_tree d t x, s)

theorem mds_set_data (cfg : MCfg) (k : MKey) (v : Elem) (P : DG r → Prop) (hE : ElemsSpec cfg k v P eb)
    (sl : MDataSlab r) (x : Option DX) (hx : x.isSome = sl.root) (hP : P sl.elems) (s : MHSt r)
    (ha : sl.hdr.id.addr = cfg.addr) (hinl : sl.inlined = false) (depth : Nat) :
    mds_setRel eb rs cfg k v depth 0 sl x s := by
  have h := Ob_MapDataSlab_Set_heap cfg.T eb rs cfg k v P hE sl x hx hP s ha
  unfold mds_setRel
  rcases hq : HkeyElems.set (MElems.ops r) cfg sl.elems 0 k v s.ctx with err | ⟨ks, old, g', c0⟩
  · rw [hq] at h
    obtain ⟨h1, h2⟩ := h
    have h1' : MTree.set cfg 0 sl k v s.ctx = .error err := h1
    rw [h1']
    show MapSlab_Set _ _ (.dataSlab (md_data sl x)) _ _ _ _ _ _ _ = _
    simp only [MapSlab_Set, h2]
    rfl
  · rw [hq] at h
    obtain ⟨h1, h2⟩ := h
    have h1' : MTree.set cfg 0 sl k v s.ctx =
      .ok (ks, old, mds_dataAfter sl g', (mds_dataAfter sl g').storeIfNotInlined c0) := h1
    rw [h1']
    refine ⟨if sl.inlined = true then s.withCtx c0
        else (s.withCtx c0).store sl.hdr.id (MapSlab.dataSlab (md_data (mds_dataAfter sl g') x)), ?_, ?_, ?_, ?_⟩
    · show MapSlab_Set _ _ (.dataSlab (md_data sl x)) _ _ _ _ _ _ _ = _
      simp only [MapSlab_Set, h2]
      rfl
    · cases hi : sl.inlined <;> simp [MDataSlab.storeIfNotInlined, mds_dataAfter, hi]
    · cases hi : sl.inlined <;> simp
    · simp only [hinl, Bool.false_eq_true, if_false]
      refine ⟨rfl, ?_, ?_⟩
      · show (if sl.hdr.id = sl.hdr.id then _ else _) = _
        rw [if_pos rfl]
      · intro id hid
        have hne : id ≠ sl.hdr.id := fun e => hid (e ▸ List.mem_singleton.mpr rfl)
        show (if id = sl.hdr.id then _ else _) = _
        rw [if_neg hne]
        rfl

def mds_rootFlag : (d : Nat) → MTree r d → Bool
  | 0, (sl : MDataSlab r) => sl.root
  | _ + 1, (m : MMetaSlab _) => m.root

/-- what the model form assumes ALONG THE PATH of the key: digests / lengths in machine range, the child header list
    agrees with the embedded child, the data slab's elements satisfy `P` and belong to the owner address, and the
    model restructures nowhere (the new child is neither full nor underflowing, its size fits `uint32`) -/
def mds_Path (cfg : MCfg) (k : MKey) (v : Elem) (P : DG r → Prop) : (d : Nat) → MTree r d → Ctx → Prop
  | 0, (sl : MDataSlab r), _ => P sl.elems ∧ sl.hdr.id.addr = cfg.addr ∧ sl.inlined = false
  | d + 1, (m : MMetaSlab (MTree r d)), c =>
    (∀ h ∈ m.childHdrs, h.firstKey < 2^64) ∧ m.childHdrs.length < 2^62 ∧
    ∃ child : MTree r d, m.children[mds_idx m.childHdrs (k.dig 0)]? = some child ∧
      m.childHdrs[mds_idx m.childHdrs (k.dig 0)]? = some (MTree.hdr d child) ∧
      mds_rootFlag d child = false ∧
      mds_Path cfg k v P d child c ∧
      ∀ ks old child' c1, MTree.set cfg d child k v c = .ok (ks, old, child', c1) →
        (MTree.hdr d child').size < 2^32 ∧ MTree.isFull cfg.T d child' = false ∧
          MTree.isUnderflow cfg.T d child' = none

theorem mds_model_set_succ (cfg : MCfg) (d : Nat) (m : MMetaSlab (MTree r d)) (k : MKey) (v : Elem) (c : Ctx)
    (child : MTree r d) (hci : m.children[mds_idx m.childHdrs (k.dig 0)]? = some child) :
    MTree.set cfg (d + 1) m k v c =
      match MTree.set cfg d child k v c with
      | .error e => .error e
      | .ok (ks, old, child', c1) =>
        match m.afterChild cfg.T child' (mds_idx m.childHdrs (k.dig 0)) c1 with
        | .error e => .error e
        | .ok (m', c2) => .ok (ks, old, m', c2) := by
  have hci' := hci
  unfold mds_idx at hci'
  simp only [MTree.set, hci', bind, Except.bind, pure, Except.pure]
  rcases MTree.set cfg d child k v c with e | ⟨ks, old, child', c1⟩
  · rfl
  · simp only [mds_idx]
    rcases MMetaSlab.afterChild cfg.T m child' _ c1 with e | ⟨m', c2⟩ <;> rfl

/-- the model's index slab after the child `i` was replaced, no restructuring (`m1` of `MMetaSlab.afterChild`) -/
def mds_metaAfter {d : Nat} (m : MMetaSlab (MTree r d)) (child' : MTree r d) (i : Nat) : MMetaSlab (MTree r d) :=
  { m with childHdrs := m.childHdrs.set i (MTree.hdr d child'), children := m.children.set i child',
           hdr := { m.hdr with firstKey := if i == 0 then (MTree.hdr d child').firstKey else m.hdr.firstKey } }

/-- the receiver that `md_level` speaks of (`mdr_model_m1`, Props/TransMapDescentLevel.lean) is this one -/
theorem mds_metaAfter_eq {d : Nat} (m : MMetaSlab (MTree r d)) (child' : MTree r d) (i : Nat) :
    mds_metaAfter m child' i = mdr_model_m1 m child' i := rfl

/-- on the way down: held by the heap, extra data present iff root, identifiers distinct, `mds_Path` -/
def mds_HeldPath (cfg : MCfg) (k : MKey) (v : Elem) (P : DG r → Prop) (d : Nat) (t : MTree r d) (x : Option DX)
    (s : MHSt r) : Prop :=
  MHolds s.heap d t x ∧ x.isSome = mds_rootFlag d t ∧ (md_ids d t).Nodup ∧ mds_Path cfg k v P d t s.ctx

/-- on the way up: the heap holds the new tree under the same identifiers -/
def mds_Kept (d : Nat) (t : MTree r d) (x : Option DX) (s : MHSt r) (t' : MTree r d) (s' : MHSt r) : Prop :=
  s'.popped = s.popped ∧ mds_HeapRel s.heap s'.heap d t t' x

/-- an error leaves everything as it was -/
def mds_Unchanged (d : Nat) (t : MTree r d) (x : Option DX) (s : MHSt r) (tt : DSlab r) (ss : MHSt r) : Prop :=
  tt = md_tree d t x ∧ ss = s

theorem mds_noRestr_down (cfg : MCfg) (k : MKey) (v : Elem) (P : DG r → Prop) (hhk : k.dig 0 < 2^64) (d : Nat)
    (m : MMetaSlab (MTree r d)) (x : Option DX) (s : MHSt r)
    (h : mds_HeldPath cfg k v P (d + 1) (m : MMetaSlab (MTree r d)) x s) :
    (md_opSet eb rs cfg k v).Rng m.childHdrs ∧
    ∀ i, (md_opSet eb rs cfg k v).route m.childHdrs = some i → ∃ child : MTree r d, m.children[i]? = some child ∧
      m.childHdrs[i]? = some (MTree.hdr d child) ∧ s.heap (MTree.hdr d child).id = some (md_tree d child none) ∧
      mds_HeldPath cfg k v P d child none s := by
  obtain ⟨hh, -, hnd, hfk, hlen, child, hci, hhi, hroot, hpc, -⟩ := h
  refine ⟨⟨hhk, hfk, hlen⟩, fun i hi => ?_⟩
  cases hi
  have hhc : MHolds s.heap d child none := hh.2 child (List.mem_of_getElem? hci)
  exact ⟨child, hci, hhi, hhc.root, hhc, by rw [hroot]; rfl,
    nodup_of_mem_flatMap (md_ids d) _ (List.nodup_cons.mp hnd).2 child (List.mem_of_getElem? hci), hpc⟩

/-- Model form of the descent: for a tree `t` held by the heap, when the model's `MTree.set` restructures nowhere on
    the path of the key (`mds_Path`), the generated `MapSlab.Set` dispatch over the heap returns the translation of the
    model's result: stored key, old value, no error, the new subtree root `md_tree d t' x`, and a storage whose `Ctx`
    is the model's; when the model returns an error, so does the code, with nothing changed. -/
theorem Ob_MapSlab_Set_heap_noRestructure (cfg : MCfg) (k : MKey) (v : Elem) (P : DG r → Prop)
    (hE : ElemsSpec cfg k v P eb) (hT1 : maxThr cfg.T < 2^32) (hT2 : minThr cfg.T < 2^32) (hhk : k.dig 0 < 2^64) :
    ∀ (d depth : Nat) (t : MTree r d) (x : Option DX) (s : MHSt r), d ≤ depth → MHolds s.heap d t x →
      x.isSome = mds_rootFlag d t → (md_ids d t).Nodup → mds_Path cfg k v P d t s.ctx →
      match MTree.set cfg d t k v s.ctx with
      | .ok (ks, old, t', c') =>
        ∃ s', MapSlab_Set (envD cfg.T eb rs) (MapMetaDataSlab_Set (envD cfg.T eb rs) depth) (md_tree d t x) s () k
            (u64 0) (u64 (k.dig 0)) (.key k) (.val v) =
              some (some (.key ks), old.map .val, none, md_tree d t' x, s') ∧
          s'.ctx = c' ∧ s'.popped = s.popped ∧ mds_HeapRel s.heap s'.heap d t t' x
      | .error e =>
        MapSlab_Set (envD cfg.T eb rs) (MapMetaDataSlab_Set (envD cfg.T eb rs) depth) (md_tree d t x) s () k (u64 0)
          (u64 (k.dig 0)) (.key k) (.val v) = some (none, none, some e, md_tree d t x, s) := by
  intro d depth t x s hd hh hx hnd hp
  have key := md_descent (md_opSet eb rs cfg k v) hT1 hT2 (mds_HeldPath cfg k v P) mds_Kept mds_Unchanged
    (fun sl x s depth h => by
      have h1 := mds_set_data eb rs cfg k v P hE sl x h.2.1 h.2.2.2.1 s h.2.2.2.2.1 h.2.2.2.2.2 depth
      revert h1
      unfold mds_setRel MdRel
      rw [show (md_opSet eb rs cfg k v).M 0 sl s.ctx = MTree.set cfg 0 sl k v s.ctx from rfl]
      rcases MTree.set cfg 0 sl k v s.ctx with e | ⟨ks, old, t', c'⟩
      · exact fun h1 => ⟨_, _, h1, rfl, rfl⟩
      · exact id)
    (mds_noRestr_down eb rs cfg k v P hhk) (fun _ _ _ _ _ hf => by cases hf)
    (fun _ _ _ _ _ _ _ _ _ _ _ _ _ herr => ⟨rfl, herr.2⟩)
    (fun d m x s i child child' ks old s1 h hi hci hq hpost => by
      cases hi
      obtain ⟨hh, -, hnd, -, -, child0, hci0, -, -, -, hres⟩ := h
      obtain rfl : child0 = child := Option.some.inj (hci0.symm.trans hci)
      obtain ⟨hsz, hfull, hund⟩ := hres ks old child' s1.ctx hq
      exact MdUp.of_stored hsz hfull hund ⟨by rw [MHSt.store_popped, hpost.1], hpost.2.up hh hnd hci⟩)
    d depth t x s hd ⟨hh, hx, hnd, hp⟩
  revert key
  unfold MdRel
  dsimp only [md_opSet, mds_Kept, mds_Unchanged]
  rcases MTree.set cfg d t k v s.ctx with e | ⟨ks, old, t', c'⟩
  · rintro ⟨tt, ss, h, rfl, rfl⟩
    exact h
  · exact id

end

/-! non-vacuity: the concrete 2-child index slab, threshold 40, the MODEL's element layer -/
namespace mdsEx

def cfg2 : MCfg := { T := 40, L := 4, climit := 0, addr := 1 }

/-- the element layer given by the MODEL for `cfg2` -/
def eb2 : DEnvB 0 :=
  { eb0 with
    elements_Get := fun g c d _ _ _ => mei_rGet c (HkeyElems.get (MElems.ops 0) cfg2 g 0 d)
    elements_Remove := fun g c d _ _ _ => mei_rGRemove g c (HkeyElems.remove (MElems.ops 0) cfg2 g 0 d c)
    elements_Set := fun g c _ _ d _ _ _ w' =>
      match w' with
      | .val v => mei_rGSet g c (HkeyElems.set (MElems.ops 0) cfg2 g 0 d v c)
      | .key _ => (none, none, none, g, c) }

theorem eb2_spec (k : MKey) (v : Elem) : ElemsSpec cfg2 k v (fun _ => True) eb2 where
  size := fun _ => rfl
  first := fun _ => rfl
  get := fun _ _ _ => rfl
  set := fun _ _ _ => rfl
  remove := fun _ _ _ => rfl

/-- a heap that holds the whole tree `mm` (root with the extra data `xx`) -/
def s2 : MHSt 0 where
  heap := fun i => if i = id0 then some (.metaSlab (md_meta mm (some xx)))
    else if i = id1 then some (.dataSlab (md_data d1 none))
    else if i = id2 then some (.dataSlab (md_data d2 none)) else none
  ctx := { ctr := 3, eff := [] }

def vv : Elem := default

theorem ex_child_ok : (match MTree.set (r := 0) cfg2 0 d2 kk vv s2.ctx with
    | .ok (_, _, t', _) => decide ((MTree.hdr 0 t').size < 2^32) && !(MTree.isFull cfg2.T 0 t') &&
        (MTree.isUnderflow cfg2.T 0 t').isNone
    | .error _ => true) = true := by decide

theorem ex_path : mds_Path (r := 0) cfg2 kk vv (fun _ => True) 1 mm s2.ctx := by
  refine ⟨by decide, by decide, d2, rfl, rfl, rfl, ⟨trivial, rfl, rfl⟩, ?_⟩
  intro ks old child' c1 h
  have hv := ex_child_ok
  rw [h] at hv
  simp only [Bool.and_eq_true, decide_eq_true_eq, Bool.not_eq_true', Option.isNone_iff_eq_none] at hv
  exact ⟨hv.1.1, hv.1.2, hv.2⟩

/-- `Ob_MapSlab_Set_heap_noRestructure` applies to the concrete tree over the concrete heap, and the model's `Set`
    succeeds there (so the `.ok` branch is the one that is met) -/
example : (∃ r, MTree.set (r := 0) cfg2 1 mm kk vv s2.ctx = .ok r) ∧
    (match MTree.set (r := 0) cfg2 1 mm kk vv s2.ctx with
      | .ok (ks, old, t', c') =>
        ∃ s', MapSlab_Set (envD cfg2.T eb2 rs0) (MapMetaDataSlab_Set (envD cfg2.T eb2 rs0) 1) (md_tree 1 mm (some xx)) s2 ()
            kk (u64 0) (u64 (kk.dig 0)) (.key kk) (.val vv) =
              some (some (.key ks), old.map .val, none, md_tree 1 t' (some xx), s') ∧
          s'.ctx = c' ∧ s'.popped = s2.popped ∧ mds_HeapRel s2.heap s'.heap 1 mm t' (some xx)
      | .error e =>
        MapSlab_Set (envD cfg2.T eb2 rs0) (MapMetaDataSlab_Set (envD cfg2.T eb2 rs0) 1) (md_tree 1 mm (some xx)) s2 () kk
          (u64 0) (u64 (kk.dig 0)) (.key kk) (.val vv) = some (none, none, some e, md_tree 1 mm (some xx), s2)) :=
  ⟨by
    have h : (match MTree.set (r := 0) cfg2 1 mm kk vv s2.ctx with | .ok _ => true | .error _ => false) = true := by
      decide
    rcases hq : MTree.set (r := 0) cfg2 1 mm kk vv s2.ctx with e | r
    · rw [hq] at h; cases h
    · exact ⟨r, rfl⟩,
   Ob_MapSlab_Set_heap_noRestructure eb2 rs0 cfg2 kk vv (fun _ => True) (eb2_spec kk vv) (by decide) (by decide)
    (by decide) 1 1 mm (some xx) s2 (Nat.le_refl 1) ⟨rfl, fun c hc => by
      rcases List.mem_cons.mp hc with rfl | hc
      · rfl
      · rcases List.mem_cons.mp hc with rfl | hc
        · rfl
        · cases hc⟩ rfl (by decide) ex_path⟩

end mdsEx

end Atree.TransEq

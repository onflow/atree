import AtreeProofs.Map.AfterChild
import AtreeProofs.Props.TransMapDescentInv
import AtreeProofs.Props.TransMapDescentTopSetFull
import AtreeProofs.Props.TransMapRestructMorHeap
/-
  The merge-or-rebalance tail of the `Set` composition for the generated code (`rs := rsOf T`, `Gen/TransMapSlabs.lean` over
  the heap) and `Q := MQ T D`: the body of `MMorTail` under ONE more premise, the receiver's header size covers one child
  header (`MMorTail_rsOf_partial`; `MMorTail_rsOf_of_recv` for an invariant that gives that bound).  `MMorTail T (rsOf T)
  (MQ T D)` itself is not proved: `mds_Pre` constrains only the children of the receiver.  From `mds_Pre` to the hypotheses
  of `Ob_MergeOrRebalanceChildSlab_heap` / `_heapPost` (Props/TransMapRestructMorHeap.lean), the range conditions from
  `MTreeWork`, the identifiers after the call whichever branch is taken (`mtm_IdPost`), and from there `mds_Post`
  (`mtm_Post`, through `mds_Delta.of_perm`).
-/
namespace Atree.TransEq
open Atree

section ids
variable {r : Nat}

theorem mtm_pair_perm (a b : SlabID) (X Y X' Y' : List SlabID) (h : X' ++ Y' = X ++ Y) :
    List.Perm ((a :: X') ++ (b :: Y')) ((a :: X) ++ (b :: Y)) := by
  have h1 : List.Perm ((a :: X') ++ (b :: Y')) (a :: b :: (X' ++ Y')) :=
    List.Perm.cons a List.perm_middle
  have h2 : List.Perm ((a :: X) ++ (b :: Y)) (a :: b :: (X ++ Y)) :=
    List.Perm.cons a List.perm_middle
  rw [h] at h1
  exact h1.trans h2.symm

/-- the identifiers of both results of a rebalance step are those of both operands -/
theorem mtm_ids_rebalanced (T : Nat) (d : Nat) (l rr : MTree r d) (b : Bool) :
    List.Perm (md_ids d (msl_rebalanced T d l rr b).1 ++ md_ids d (msl_rebalanced T d l rr b).2)
      (md_ids d l ++ md_ids d rr) := by
  obtain ⟨e1, e2⟩ := mrm_rebalanced_id T d l rr b
  rw [mrm_md_ids_eq, mrm_md_ids_eq, mrm_md_ids_eq d l, mrm_md_ids_eq d rr, e1, e2]
  exact mtm_pair_perm _ _ _ _ _ _ (mrm_kidIds_rebalanced T d l rr b)

/-- the identifiers of the merged slab are those of both operands without the right operand's root -/
theorem mtm_ids_merge (d : Nat) (l rr : MTree r d) :
    List.Perm ((MTree.hdr d rr).id :: md_ids d (MTree.merge d l rr)) (md_ids d l ++ md_ids d rr) := by
  rw [mrm_md_ids_eq, mrm_md_ids_eq d l, mrm_md_ids_eq d rr, mrm_merge_id, mrm_kidIds_merge]
  have h2 : List.Perm (((MTree.hdr d l).id :: mrm_kidIds d l) ++ ((MTree.hdr d rr).id :: mrm_kidIds d rr))
      ((MTree.hdr d l).id :: (MTree.hdr d rr).id :: (mrm_kidIds d l ++ mrm_kidIds d rr)) :=
    List.Perm.cons _ List.perm_middle
  exact (List.Perm.swap _ _ _).trans h2.symm

/-- the identifiers of the parent after `rebalanceChildren` of two ADJACENT children that ARE its children `li`, `li + 1` -/
theorem mtm_ids_rebalanceChildren (T : Nat) (d : Nat) (m : MMetaSlab (MTree r d)) (l rr : MTree r d) (li : Nat)
    (b : Bool) (c : Ctx) (m' : MMetaSlab (MTree r d)) (c' : Ctx)
    (hl : m.children[li]? = some l) (hr : m.children[li + 1]? = some rr)
    (h : MMetaSlab.rebalanceChildren T m l rr li (li + 1) b c = .ok (m', c')) :
    List.Perm (md_ids (d + 1) m') (md_ids (d + 1) m) := by
  obtain ⟨hch, hid⟩ := mrm_rebalanceChildren_ok T d m l rr li (li + 1) b c m' c' h
  obtain ⟨A, B, e, hA⟩ := split_at_two hl hr
  have e' : m'.children = A ++ (msl_rebalanced T d l rr b).1 :: (msl_rebalanced T d l rr b).2 :: B := by
    rw [hch, e, ← hA]
    simp
  show List.Perm (m'.hdr.id :: m'.children.flatMap (md_ids d)) (m.hdr.id :: m.children.flatMap (md_ids d))
  rw [hid, e', e]
  simp only [List.flatMap_append, List.flatMap_cons]
  refine List.Perm.cons _ (List.Perm.append_left _ ?_)
  rw [← List.append_assoc, ← List.append_assoc]
  exact List.Perm.append_right _ (mtm_ids_rebalanced T d l rr b)

/-- after `mergeChildren` the right operand's root identifier leaves -/
theorem mtm_ids_mergeChildren (d : Nat) (m : MMetaSlab (MTree r d)) (l rr : MTree r d) (li : Nat) (c : Ctx)
    (hl : m.children[li]? = some l) (hr : m.children[li + 1]? = some rr) :
    List.Perm ((MTree.hdr d rr).id :: md_ids (d + 1) (MMetaSlab.mergeChildren m l rr li (li + 1) c).1)
      (md_ids (d + 1) m) := by
  obtain ⟨A, B, e, hA⟩ := split_at_two hl hr
  have e' : (MMetaSlab.mergeChildren m l rr li (li + 1) c).1.children = A ++ MTree.merge d l rr :: B := by
    show (m.children.set li (MTree.merge d l rr)).eraseIdx (li + 1) = _
    rw [e, ← hA, mds_set_at]
    exact erase_succ_at rfl
  show List.Perm ((MTree.hdr d rr).id :: (m.hdr.id ::
    (MMetaSlab.mergeChildren m l rr li (li + 1) c).1.children.flatMap (md_ids d))) (m.hdr.id :: m.children.flatMap (md_ids d))
  rw [e', e]
  simp only [List.flatMap_append, List.flatMap_cons]
  refine (List.Perm.swap _ _ _).trans (List.Perm.cons _ ?_)
  refine List.perm_middle.symm.trans (List.Perm.append_left _ ?_)
  rw [← List.append_assoc]
  exact List.Perm.append_right _ (mtm_ids_merge d l rr)

end ids

section idpost
variable {r : Nat}

/-- the identifiers of the new parent are those of the old one without the identifiers `G` (none, or the root of the slab
    that was merged away), which are gone from the heap -/
def mtm_IdPost (s' : MHSt r) (d : Nat) (m m' : MMetaSlab (MTree r d)) : Prop :=
  m'.hdr.id = m.hdr.id ∧
  ∃ G : List SlabID, List.Perm (G ++ md_ids (d + 1) m') (md_ids (d + 1) m) ∧ ∀ id ∈ G, s'.heap id = none

theorem mtm_rebHeapOf_popped (T : Nat) (d : Nat) (m : MMetaSlab (MTree r d)) (x : Option DX) (l rr : MTree r d)
    (li ri : Nat) (b : Bool) (s : MHSt r) : (mrm_rebHeapOf T d m x l rr li ri b s).popped = s.popped := by
  simp only [mrm_rebHeapOf]
  split <;> rfl

theorem mtm_morHeap_popped (T : Nat) (d : Nat) (m : MMetaSlab (MTree r d)) (x : Option DX) (child : MTree r d)
    (k u : Nat) (s : MHSt r) : (mrm_morHeap T d m x child k u s).popped = s.popped :=
  mrm_mor_cases T d m x child k u s (fun _ s' _ => s'.popped = s.popped) rfl
    (fun _ _ _ _ => mtm_rebHeapOf_popped T d m x _ _ _ _ _ s) (fun _ _ _ _ => mtm_rebHeapOf_popped T d m x _ _ _ _ _ s)
    (fun _ _ _ => rfl) (fun _ _ _ => rfl)

variable (T : Nat) (d : Nat) (m : MMetaSlab (MTree r d)) (x : Option DX) (child : MTree r d) (k : Nat) (s : MHSt r)
  (m' : MMetaSlab (MTree r d)) (c' : Ctx) (hh : mrm_MorHeld s d m child k) (hck : m.children[k]? = some child)
include hh hck

omit hh in
theorem mtm_leafRebR (y : MTree r d) (hy : m.children[k + 1]? = some y)
    (h : MMetaSlab.rebalanceChildren T m child y k (k + 1) true s.ctx = .ok (m', c')) :
    mtm_IdPost (mrm_rebHeapOf T d m x child y k (k + 1) true s) d m m' :=
  ⟨(mrm_rebalanceChildren_ok T d m child y k (k + 1) true s.ctx m' c' h).2,
    [], mtm_ids_rebalanceChildren T d m child y k true s.ctx m' c' hck hy h, fun _ h => nomatch h⟩

omit hh in
theorem mtm_leafRebL (l : MTree r d) (hk0 : 0 < k) (hl : m.children[k - 1]? = some l)
    (h : MMetaSlab.rebalanceChildren T m l child (k - 1) k false s.ctx = .ok (m', c')) :
    mtm_IdPost (mrm_rebHeapOf T d m x l child (k - 1) k false s) d m m' := by
  obtain ⟨j, rfl⟩ : ∃ j, k = j + 1 := ⟨k - 1, by omega⟩
  simp only [Nat.add_sub_cancel] at hl h ⊢
  exact ⟨(mrm_rebalanceChildren_ok T d m l child j (j + 1) false s.ctx m' c' h).2,
    [], mtm_ids_rebalanceChildren T d m l child j false s.ctx m' c' hl hck h, fun _ h => nomatch h⟩

theorem mtm_leafMrgR (y : MTree r d) (hy : m.children[k + 1]? = some y)
    (h : (Except.ok (MMetaSlab.mergeChildren m child y k (k + 1) s.ctx) : Except MErr _) = .ok (m', c')) :
    mtm_IdPost (mrm_mergeHeapOf d m x child y k (k + 1) s) d m m' := by
  have hm : (MMetaSlab.mergeChildren m child y k (k + 1) s.ctx).1 = m' := congrArg Prod.fst (Except.ok.inj h)
  subst hm
  have p := mrm_mergeHeapOf_post d m x child y k (k + 1) s (mrm_pairR s d m child k y hh hy)
  exact ⟨rfl, [_], mtm_ids_mergeChildren d m child y k s.ctx hck hy, fun id h => List.mem_singleton.mp h ▸ p.2.2.1⟩

theorem mtm_leafMrgL (l : MTree r d) (hk0 : 0 < k) (hl : m.children[k - 1]? = some l)
    (h : (Except.ok (MMetaSlab.mergeChildren m l child (k - 1) k s.ctx) : Except MErr _) = .ok (m', c')) :
    mtm_IdPost (mrm_mergeHeapOf d m x l child (k - 1) k s) d m m' := by
  have hm : (MMetaSlab.mergeChildren m l child (k - 1) k s.ctx).1 = m' := congrArg Prod.fst (Except.ok.inj h)
  subst hm
  have p := mrm_mergeHeapOf_post d m x l child (k - 1) k s (mrm_pairL s d m child k l hh hk0 hl)
  obtain ⟨j, rfl⟩ : ∃ j, k = j + 1 := ⟨k - 1, by omega⟩
  simp only [Nat.add_sub_cancel] at hl p ⊢
  exact ⟨rfl, [_], mtm_ids_mergeChildren d m l child j s.ctx hl hck, fun id h => List.mem_singleton.mp h ▸ p.2.2.1⟩

theorem mtm_mor_idpost (u : Nat)
    (h : MMetaSlab.mergeOrRebalanceChildSlab T m child k u s.ctx = .ok (m', c')) :
    mtm_IdPost (mrm_morHeap T d m x child k u s) d m m' :=
  mrm_mor_cases T d m x child k u s (fun res s' _ => res = .ok (m', c') → mtm_IdPost s' d m m')
    (fun h => nomatch h) (fun l hk0 hl _ => mtm_leafRebL T d m x child k s m' c' hck l hk0 hl)
    (fun y _ hy _ => mtm_leafRebR T d m x child k s m' c' hck y hy)
    (fun l hk0 hl => mtm_leafMrgL d m x child k s m' c' hh hck l hk0 hl)
    (fun y _ hy => mtm_leafMrgR d m x child k s m' c' hh hck y hy) h

end idpost

section assemble
variable {r : Nat}

theorem mtm_at_eq {d : Nat} (m : MMetaSlab (MTree r d)) (child : MTree r d) (k j : Nat)
    (hck : m.children[k]? = some child) : mrm_at m child k j = m.children[j]? := by
  simp only [mrm_at]
  split
  · rename_i e; rw [e, hck]
  · rfl

/-- the hypothesis of the heap-post theorems from what the descent guarantees before a restructuring call -/
theorem mtm_MorHeld_of_Pre {Q : (d : Nat) → MTree r d → Prop} {addr : Nat} {s1 : MHSt r} {d : Nat}
    {m1 : MMetaSlab (MTree r d)} (hp : mds_Pre Q addr s1 d m1) (child : MTree r d) (k : Nat)
    (hck : m1.children[k]? = some child) : mrm_MorHeld s1 d m1 child k := by
  have hids : md_ids (d + 1) m1 = m1.hdr.id :: m1.children.flatMap (md_ids d) := rfl
  have hnd := hp.nodup
  rw [hids, List.nodup_cons] at hnd
  refine ⟨mrm_MHolds_kids _ d child none (hp.held child (List.mem_of_getElem? hck)),
    fun j c _ hj => hp.held c (List.mem_of_getElem? hj), fun j c hj hin => ?_, fun i j a b hij hi hj => ?_,
    fun j c hj hin => ?_⟩
  · rw [mtm_at_eq m1 child k j hck] at hj
    exact hnd.1 (List.mem_flatMap.mpr ⟨c, List.mem_of_getElem? hj, hin⟩)
  · rw [mtm_at_eq m1 child k i hck] at hi
    rw [mtm_at_eq m1 child k j hck] at hj
    exact flatMap_disjoint (md_ids d) m1.children hnd.2 i j a b hij hi hj
  · rw [mtm_at_eq m1 child k j hck] at hj
    have hc := nodup_of_mem_flatMap (md_ids d) m1.children hnd.2 c (List.mem_of_getElem? hj)
    rw [mrm_md_ids_eq, List.nodup_cons] at hc
    exact hc.1 hin

theorem mtm_rebHeapOf_ctr (T : Nat) (d : Nat) (m : MMetaSlab (MTree r d)) (x : Option DX) (l rr : MTree r d)
    (li ri : Nat) (b : Bool) (s : MHSt r) : (mrm_rebHeapOf T d m x l rr li ri b s).ctx.ctr = s.ctx.ctr := by
  simp only [mrm_rebHeapOf]
  split <;> rfl

theorem mtm_morHeap_ctr (T : Nat) (d : Nat) (m : MMetaSlab (MTree r d)) (x : Option DX) (child : MTree r d)
    (k u : Nat) (s : MHSt r) : (mrm_morHeap T d m x child k u s).ctx.ctr = s.ctx.ctr :=
  mrm_mor_cases T d m x child k u s (fun _ s' _ => s'.ctx.ctr = s.ctx.ctr) rfl
    (fun _ _ _ _ => mtm_rebHeapOf_ctr T d m x _ _ _ _ _ s) (fun _ _ _ _ => mtm_rebHeapOf_ctr T d m x _ _ _ _ _ s)
    (fun _ _ _ => rfl) (fun _ _ _ => rfl)

/-- `mds_Post` from what the heap holds after the call, which identifiers the new parent has, and the counter -/
theorem mtm_Post {Q : (d : Nat) → MTree r d → Prop} {addr : Nat} {s1 s' : MHSt r} {d : Nat}
    {m1 m' : MMetaSlab (MTree r d)} {x : Option DX} {child : MTree r d} {k : Nat}
    (hp : mds_Pre Q addr s1 d m1) (hck : m1.children[k]? = some child)
    (hpost : mrm_MorPost s1 s' d m1 x child m') (hid : mtm_IdPost s' d m1 m') (hctr : s'.ctx.ctr = s1.ctx.ctr) :
    mds_Post addr s1 s' (d + 1) m1 m' x := by
  obtain ⟨hroot, G, hperm, hG⟩ := hid
  have hchild : ∀ c ∈ m1.children, (MTree.hdr d c).id ∈ md_ids (d + 1) m1 := fun c hc =>
    List.mem_cons_of_mem _ (List.mem_flatMap.mpr ⟨c, hc, mrm_hid d c⟩)
  obtain ⟨h1, h2, h3, h4⟩ := mds_Delta.of_perm [] G hperm hp.nodup hp.addrOk hp.ids_some hp.ff List.nodup_nil
    (fun _ h => nomatch h) hG
    (fun id hn _ => hpost.2.2 id (fun e => hn (e ▸ List.mem_cons_self))
      (fun e => hn (e ▸ hchild child (List.mem_of_getElem? hck))) (fun j c hj e => hn (e ▸ hchild c (List.mem_of_getElem? hj))))
    (Nat.le_of_eq hctr.symm)
  exact ⟨h1, h2, ⟨hroot ▸ hpost.1, hpost.2.1⟩, h3.fresh, h3.gone, h3.frame, h4⟩

end assemble

section call
variable {r : Nat}

/-- the conclusion of `MMorTail` for ONE call, from `mds_Pre` and the numeric side conditions of
    `Ob_MergeOrRebalanceChildSlab_heap` (all about MODEL values) -/
theorem mtm_call {Q : (d : Nat) → MTree r d → Prop} (T addr d : Nat) (m1 : MMetaSlab (MTree r d)) (x : Option DX)
    (child' : MTree r d) (k u : Nat) (s1 : MHSt r)
    (hp : mds_Pre Q addr s1 d m1) (hck : m1.children[k]? = some child')
    (hsz : Gen.mapSlabHeaderSize ≤ m1.hdr.size)
    (hfit : mrm_MorFit T d m1 child' k u) (hfc : mr_RootFit d child')
    (hsize : ∀ i t, (i + 1 = k ∨ i = k + 1) → m1.children[i]? = some t → (MTree.hdr d t).size < 2^32)
    (hLend : ∀ t, 0 < k → m1.children[k - 1]? = some t → MTree.canLendToRight T d t u = true → msl_LendOK T d t child')
    (hBorrow : ∀ t, m1.children[k + 1]? = some t → MTree.canLendToLeft T d t u = true → msl_BorrowOK T d child' t)
    (hMergeL : ∀ t, 0 < k → m1.children[k - 1]? = some t → msl_MergeOK d t child')
    (hMergeR : ∀ t, m1.children[k + 1]? = some t → msl_MergeOK d child' t) :
    match m1.mergeOrRebalanceChildSlab T child' k u s1.ctx with
    | .ok (m', c') =>
      ∃ s' w, (rsOf T).mergeOrRebalance (md_meta m1 x) s1 (md_tree d child' none) (Int.ofNat k) (u32 u) =
          (none, md_meta m' x, s', w) ∧
        s'.ctx = c' ∧ s'.popped = s1.popped ∧ mds_Post addr s1 s' (d + 1) m1 m' x
    | .error e =>
      ∃ a s' w, (rsOf T).mergeOrRebalance (md_meta m1 x) s1 (md_tree d child' none) (Int.ofNat k) (u32 u) =
        (some e, a, s', w) := by
  have hlen : m1.children.length = m1.childHdrs.length := by rw [hp.hdrs, List.length_map]
  have hk : k < m1.childHdrs.length := by
    rw [← hlen]; exact (List.getElem?_eq_some_iff.mp hck).1
  have hheap : ∀ i t h, (i + 1 = k ∨ i = k + 1) → m1.children[i]? = some t → m1.childHdrs[i]? = some h →
      s1.heap h.id = some (md_tree d t none) := by
    intro i t h _ ht hh
    rw [hp.hdrs, List.getElem?_map, ht] at hh
    have e : MTree.hdr d t = h := by simpa using hh
    rw [← e]
    exact (hp.held t (List.mem_of_getElem? ht)).root
  have hob := Ob_MergeOrRebalanceChildSlab_heap T d m1 x child' k u s1 hlen hk hsz hheap hfit hfc hsize hLend hBorrow
    hMergeL hMergeR
  cases hres : m1.mergeOrRebalanceChildSlab T child' k u s1.ctx with
  | error e =>
    rw [hres] at hob
    exact ⟨_, _, _, hob⟩
  | ok p =>
    obtain ⟨m', c'⟩ := p
    rw [hres] at hob
    have hh := mtm_MorHeld_of_Pre hp child' k hck
    refine ⟨_, _, hob, mrm_morHeap_ctx T d m1 x child' k u s1 m' c' hres, mtm_morHeap_popped T d m1 x child' k u s1,
      mtm_Post hp hck (Ob_MergeOrRebalanceChildSlab_heapPost T d m1 x child' k s1 m' c' hh u hres)
        (mtm_mor_idpost T d m1 x child' k s1 m' c' hh hck u hres) (mtm_morHeap_ctr T d m1 x child' k u s1)⟩

end call

section numeric
variable {r : Nat} {T : Nat} {D : DigestFn (r + 1)}

theorem mtm_MergeOK (hT : legalThreshold T = true) : ∀ (d : Nat) (l rr : MTree r d), MTreeWork T d l → MTreeWork T d rr →
    msl_MergeOK d l rr
  | 0, l, rr, hl, hr => by
    have h1 := msafe_work_fits hT hl.1
    have h2 := msafe_work_fits hT hr.1
    exact ⟨h2.2.1, by omega⟩
  | _ + 1, _, rr, _, hr => msafe_meta_hpre (m := (rr : MMetaSlab _)) hr.1

/-- an underflowing subtree root is below `minThr T`, by the amount the model reports (`mtree_isUnderflow_eq`) -/
theorem mtm_underflow (d : Nat) (t : MTree r d) (u : Nat) (h : MTree.isUnderflow T d t = some u) :
    minThr T > (MTree.hdr d t).size ∧ u = minThr T - (MTree.hdr d t).size := by
  rw [mtree_isUnderflow_eq] at h
  split at h
  · exact ⟨by assumption, (Option.some.inj h).symm⟩
  · cases h

theorem mtm_LendOK (hT : legalThreshold T = true) : ∀ (d : Nat) (l c : MTree r d) (u : Nat), MTreeWork T d l →
    MTreeWork T d c → MTree.canLendToRight T d l u = true → MTree.isUnderflow T d c = some u → msl_LendOK T d l c
  | 0, l, c, u, hl, hc, _, _ => by
    have ht := thresholds_fit hT
    have h1 := msafe_work_fits hT hl.1
    have h2 := msafe_work_fits hT hc.1
    exact ⟨ht.2.1, ht.2.2.2.2.2.1, hl.1.level_lt, hc.1.level_lt, by omega, h2.2.1, h1.2.2.2, hl.1.hkeys_len⟩
  | d + 1, l, c, u, hl, hc, hcan, hun => by
    have h1 := ((l : MMetaSlab (MTree r d)).canLend_iff u).mp hcan
    have h2 : minThr T > (MMetaSlab.hdr c).size := (mtm_underflow (d + 1) c u hun).1
    have e1 := (msafe_metaWork_iff _).mp hl.1
    have e2 := (msafe_metaWork_iff _).mp hc.1
    have e3 := hl.2.1
    show (MMetaSlab.childHdrs c).length ≤ (MMetaSlab.childHdrs l).length + 1 ∧
      0 < (MMetaSlab.childHdrs l).length + (MMetaSlab.childHdrs c).length
    omega

theorem mtm_BorrowOK (hT : legalThreshold T = true) : ∀ (d : Nat) (c rr : MTree r d) (u : Nat), MTreeWork T d c →
    MTreeWork T d rr → MTree.canLendToLeft T d rr u = true → MTree.isUnderflow T d c = some u → msl_BorrowOK T d c rr
  | 0, c, rr, u, hc, hr, _, _ => by
    have ht := thresholds_fit hT
    have h1 := msafe_work_fits hT hc.1
    have h2 := msafe_work_fits hT hr.1
    have hlen := hr.1.hkeys_len
    exact ⟨ht.2.1, ht.2.2.2.2.2.1, hc.1.level_lt, hr.1.level_lt, by omega, h1.2.1, h2.2.2.2, by omega⟩
  | d + 1, c, rr, u, hc, hr, hcan, hun => by
    have h1 := ((rr : MMetaSlab (MTree r d)).canLend_iff u).mp hcan
    have h2 : minThr T > (MMetaSlab.hdr c).size := (mtm_underflow (d + 1) c u hun).1
    have e1 := (msafe_metaWork_iff _).mp hr.1
    have e2 := (msafe_metaWork_iff _).mp hc.1
    have e3 := hr.2.1
    show (MMetaSlab.childHdrs c).length ≤ (MMetaSlab.childHdrs rr).length ∧ 0 < (MMetaSlab.childHdrs rr).length
    omega

end numeric

section fits
variable {r : Nat} {T : Nat}

theorem mtm_lend_struct {α : Type} (o : ElemsOps α) (T : Nat) (l rr le re : HkeyElems α)
    (h : HkeyElems.lendToRight o T l rr = .ok (le, re)) :
    le.level = l.level ∧ re.level = rr.level ∧ (∀ x ∈ le.hkeys, x ∈ l.hkeys) ∧
    (∀ x ∈ re.hkeys, x ∈ l.hkeys ∨ x ∈ rr.hkeys) := by
  by_cases hlev : l.level = rr.level
  · rw [lendToRight_of_level_eq o T l rr hlev] at h
    obtain ⟨rfl, rfl⟩ := Prod.mk.inj (Except.ok.inj h)
    exact ⟨rfl, rfl, fun x hx => List.mem_of_mem_take hx,
      fun x hx => (List.mem_append.mp hx).imp_left List.mem_of_mem_drop⟩
  · rw [lendToRight_of_level_ne o T l rr hlev] at h; cases h

theorem mtm_borrow_struct {α : Type} (o : ElemsOps α) (T : Nat) (l rr le re : HkeyElems α)
    (h : HkeyElems.borrowFromRight o T l rr = .ok (le, re)) :
    le.level = l.level ∧ re.level = rr.level ∧ (∀ x ∈ le.hkeys, x ∈ l.hkeys ∨ x ∈ rr.hkeys) ∧
    (∀ x ∈ re.hkeys, x ∈ rr.hkeys) := by
  by_cases hlev : l.level = rr.level
  · rw [borrowFromRight_of_level_eq o T l rr hlev] at h
    obtain ⟨rfl, rfl⟩ := Prod.mk.inj (Except.ok.inj h)
    exact ⟨rfl, rfl, fun x hx => (List.mem_append.mp hx).imp_right List.mem_of_mem_take,
      fun x hx => List.mem_of_mem_drop hx⟩
  · rw [borrowFromRight_of_level_ne o T l rr hlev] at h; cases h

/-- both results of a data-slab rebalance step are in `uint` range when both operands are in the working state -/
theorem mtm_fit_rebalanced0 (hT : legalThreshold T = true) (l rr : MDataSlab r) (b : Bool)
    (hl : MTreeWork (r := r) T 0 l) (hr : MTreeWork (r := r) T 0 rr) :
    mr_RootFit (r := r) 0 (msl_rebalanced T 0 l rr b).1 ∧ mr_RootFit (r := r) 0 (msl_rebalanced T 0 l rr b).2 := by
  have h1 := msafe_work_fits hT hl.1
  have h2 := msafe_work_fits hT hr.1
  have fl : mr_HFit l.elems := hl.2.1
  have fr : mr_HFit rr.elems := hr.2.1
  cases b
  · simp only [msl_rebalanced, Bool.false_eq_true, if_false, MTree.lendToRight, MDataSlab.lendToRight, bind, Except.bind,
      pure, Except.pure]
    cases hres : HkeyElems.lendToRight (MDataSlab.eops r) T l.elems rr.elems with
    | error e => exact ⟨fl, fr⟩
    | ok p =>
      obtain ⟨le, re⟩ := p
      have hs := msl_hkey_lend_sizes (MDataSlab.eops r) T l.elems rr.elems le re h1.2.2.2 h2.2.1 hres
      obtain ⟨s1, s2, s3, s4⟩ := mtm_lend_struct (MDataSlab.eops r) T l.elems rr.elems le re hres
      show mr_HFit le ∧ mr_HFit re
      refine ⟨⟨by omega, by rw [s1]; exact fl.level, fun x hx => fl.dig x (s3 x hx)⟩,
        ⟨by omega, by rw [s2]; exact fr.level, fun x hx => ?_⟩⟩
      rcases s4 x hx with hx | hx
      · exact fl.dig x hx
      · exact fr.dig x hx
  · simp only [msl_rebalanced, if_true, MTree.borrowFromRight, MDataSlab.borrowFromRight, bind, Except.bind,
      pure, Except.pure]
    cases hres : HkeyElems.borrowFromRight (MDataSlab.eops r) T l.elems rr.elems with
    | error e => exact ⟨fl, fr⟩
    | ok p =>
      obtain ⟨le, re⟩ := p
      have hs := msl_hkey_borrow_sizes (MDataSlab.eops r) T l.elems rr.elems le re h2.2.2.2 h1.2.1 hres
      obtain ⟨s1, s2, s3, s4⟩ := mtm_borrow_struct (MDataSlab.eops r) T l.elems rr.elems le re hres
      show mr_HFit le ∧ mr_HFit re
      refine ⟨⟨by omega, by rw [s1]; exact fl.level, fun x hx => ?_⟩,
        ⟨by omega, by rw [s2]; exact fr.level, fun x hx => fr.dig x (s4 x hx)⟩⟩
      rcases s3 x hx with hx | hx
      · exact fl.dig x hx
      · exact fr.dig x hx

theorem mtm_fit_rebalanced (hT : legalThreshold T = true) : ∀ (d : Nat) (l rr : MTree r d) (b : Bool),
    MTreeWork T d l → MTreeWork T d rr →
    mr_RootFit d (msl_rebalanced T d l rr b).1 ∧ mr_RootFit d (msl_rebalanced T d l rr b).2
  | 0, l, rr, b, hl, hr => mtm_fit_rebalanced0 hT l rr b hl hr
  | _ + 1, _, _, _, _, _ => ⟨trivial, trivial⟩

theorem mtm_fit_merge (hT : legalThreshold T = true) : ∀ (d : Nat) (l rr : MTree r d),
    MTreeWork T d l → MTreeWork T d rr → mr_RootFit d (MTree.merge d l rr)
  | 0, l, rr, hl, hr => by
    have h1 := msafe_work_fits hT hl.1
    have h2 := msafe_work_fits hT hr.1
    have fl : mr_HFit (MDataSlab.elems l) := hl.2.1
    have fr : mr_HFit (MDataSlab.elems rr) := hr.2.1
    show mr_HFit (HkeyElems.merge (MDataSlab.elems l) (MDataSlab.elems rr))
    refine ⟨?_, fl.level, fun x hx => ?_⟩
    · show (MDataSlab.elems l).size + ((MDataSlab.elems rr).size - Gen.hkeyElementsPrefixSize) < 2^32
      omega
    · rcases List.mem_append.mp hx with hx | hx
      · exact fl.dig x hx
      · exact fr.dig x hx
  | _ + 1, _, _, _, _ => trivial

end fits

section tail
variable {r : Nat} {T : Nat} {D : DigestFn (r + 1)}

/-- **the merge-or-rebalance tail for `rs := rsOf T`, `Q := MQ T D`** - the body of `MMorTail T (rsOf T) (MQ T D)`
    (same quantifiers, same conclusion) with ONE extra premise about the model value `m1`: the receiver's header size
    covers one child header, `hsz` (FORCED: Go's `m.header.size -= mapSlabHeaderSize` wraps around in `uint32`, the
    model's truncated subtraction gives 0; `mds_Pre` constrains only the CHILDREN of `m1`, so `MMorTail` itself is not
    provable for `rsOf T`).  Everything else - the neighbours read from the heap, the `uint` ranges, the hypotheses of
    the slab-level theorems, the heap afterwards (`mds_Post`) - is discharged from `mds_Pre (MQ T D)`. -/
theorem MMorTail_rsOf_partial (hT : legalThreshold T = true) :
    ∀ (addr d : Nat) (m1 : MMetaSlab (MTree r d)) (x : Option DX) (child' : MTree r d) (k u : Nat) (s1 : MHSt r),
      mds_Pre (MQ T D) addr s1 d m1 → Gen.mapSlabHeaderSize ≤ m1.hdr.size →
      m1.children[k]? = some child' → MTree.isFull T d child' = false →
      MTree.isUnderflow T d child' = some u →
      match m1.mergeOrRebalanceChildSlab T child' k u s1.ctx with
      | .ok (m', c') =>
        ∃ s' w, (rsOf T).mergeOrRebalance (md_meta m1 x) s1 (md_tree d child' none) (Int.ofNat k) (u32 u) =
            (none, md_meta m' x, s', w) ∧
          s'.ctx = c' ∧ s'.popped = s1.popped ∧ mds_Post addr s1 s' (d + 1) m1 m' x
      | .error e =>
        ∃ a s' w, (rsOf T).mergeOrRebalance (md_meta m1 x) s1 (md_tree d child' none) (Int.ofNat k) (u32 u) =
          (some e, a, s', w) := by
  intro addr d m1 x child' k u s1 hp hsz hck _ hun
  have hcw : ∀ (j : Nat) (t : MTree r d), m1.children[j]? = some t → MTreeWork T d t :=
    fun j t ht => (hp.inv t (List.mem_of_getElem? ht)).work hT
  have hc := hcw k child' hck
  have hu : u < 2^32 := by
    have := (mtm_underflow d child' u hun).2
    have := (thresholds_fit hT).2.1
    omega
  refine mtm_call T addr d m1 x child' k u s1 hp hck hsz
    ⟨hu, fun i t _ ht => (hcw i t ht).rootFit,
      fun t _ ht => mtm_fit_rebalanced hT d t child' false (hcw _ t ht) hc,
      fun t ht => mtm_fit_rebalanced hT d child' t true hc (hcw _ t ht),
      fun t _ ht => mtm_fit_merge hT d t child' (hcw _ t ht) hc,
      fun t ht => mtm_fit_merge hT d child' t hc (hcw _ t ht)⟩
    hc.rootFit
    (fun i t _ ht => (hcw i t ht).size_lt)
    (fun t _ ht hcan => mtm_LendOK hT d t child' u (hcw _ t ht) hc hcan hun)
    (fun t ht hcan => mtm_BorrowOK hT d child' t u hc (hcw _ t ht) hcan hun)
    (fun t _ ht => mtm_MergeOK hT d t child' (hcw _ t ht) hc)
    (fun t ht => mtm_MergeOK hT d child' t hc (hcw _ t ht))

/-- `MMorTail` itself for any invariant that ALSO bounds the receiver: if every `m1` satisfying `mds_Pre (MQ T D)` at a
    call has `mapSlabHeaderSize ≤ m1.hdr.size` (hypothesis `hrecv`, about model values), the tail holds as stated.  The
    form for a caller whose invariant gives that bound outright; the `Set` / `Remove` compositions use
    `MMorTail_rsOf_partial` with the path facts `mds_PathH` instead. -/
theorem MMorTail_rsOf_of_recv (hT : legalThreshold T = true)
    (hrecv : ∀ (addr d : Nat) (m1 : MMetaSlab (MTree r d)) (s1 : MHSt r), mds_Pre (MQ T D) addr s1 d m1 →
      Gen.mapSlabHeaderSize ≤ m1.hdr.size) :
    MMorTail T (rsOf T) (MQ T D) :=
  fun addr d m1 x child' k u s1 hp hck hnf hun =>
    MMorTail_rsOf_partial hT addr d m1 x child' k u s1 hp (hrecv addr d m1 s1 hp) hck hnf hun

end tail

end Atree.TransEq

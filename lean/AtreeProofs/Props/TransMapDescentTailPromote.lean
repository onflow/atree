import AtreeProofs.Props.TransMapDescentTailMor
import AtreeProofs.Props.TransMapDescentTopSetFull
import AtreeProofs.Props.TransMapRestructPromote
/-
  The `promote` field of the root tail `MRootTail` (`TransMapDescentTopSetFull.lean`) for `rs := rsOf T`, from
  `Ob_promote_heap` (Props/TransMapRestructPromote.lean).  `mtp_promote` is the field without the invariant of the new
  root (the call, the model's `Ctx`, the account of the heap).  `MQ` of the new root is false (it is a root), so the field is
  proved with the invariant of the result as a hypothesis (`MRootTail_promote_rsOf_partial`) and for the root-flag-set
  variant `MQtop` (`MRootTail_promote_rsOf_top`); the handle-level form (Props/TransMapDescentTailRootPromote.lean) reads
  `mtp_promote` too.
-/
namespace Atree.TransEq
open Atree

section core
variable {r : Nat}

/-- re-rooting: the slab `child` (held, identifier `cid`) is stored as `nr` - same slabs below - under the identifier
    `rootId` (occupied before) with extra data `x`, then `cid` is removed -/
theorem mtp_core (addr : Nat) (s1 : MHSt r) (d : Nat) (child nr : MTree r d) (rootId cid : SlabID) (x : Option DX)
    (hid : (MTree.hdr d nr).id = rootId) (hkid : mrm_kidIds d nr = mrm_kidIds d child)
    (hkh : ∀ h, mrm_KidsHeld h d child → mrm_KidsHeld h d nr)
    (hcid : (MTree.hdr d child).id = cid)
    (hheld : MHolds s1.heap d child none) (hroot : (s1.heap rootId).isSome = true)
    (hnd : (rootId :: md_ids d child).Nodup) (haddr : ∀ id ∈ rootId :: md_ids d child, id.addr = addr)
    (hff : mds_FreshFree addr s1) :
    MHolds ((s1.store rootId (md_tree d nr x)).remove cid).heap d nr x ∧ (md_ids d nr).Nodup ∧
    (∀ id ∈ md_ids d nr, id.addr = addr) ∧ mds_FreshFree addr ((s1.store rootId (md_tree d nr x)).remove cid) ∧
    mds_Delta s1.heap ((s1.store rootId (md_tree d nr x)).remove cid).heap (rootId :: md_ids d child) (md_ids d nr) := by
  have eI' : md_ids d nr = rootId :: mrm_kidIds d child := by rw [mrm_md_ids_eq, hid, hkid]
  have eI : md_ids d child = cid :: mrm_kidIds d child := by rw [mrm_md_ids_eq, hcid]
  have hn := List.nodup_cons.mp hnd
  rw [eI] at hn
  have hrc : rootId ≠ cid := fun e => hn.1 (e ▸ List.mem_cons_self)
  have hrK : rootId ∉ mrm_kidIds d child := fun hin => hn.1 (List.mem_cons_of_mem _ hin)
  have hfr : ∀ id, id ≠ cid → id ≠ rootId → ((s1.store rootId (md_tree d nr x)).remove cid).heap id = s1.heap id := by
    intro id h1 h2
    show (if id = cid then none else if id = rootId then some (md_tree d nr x) else s1.heap id) = _
    rw [if_neg h1, if_neg h2]
  -- one identifier leaves (`cid`), none enters
  obtain ⟨h1, h2, h3, h4⟩ := mds_Delta.of_perm (s' := (s1.store rootId (md_tree d nr x)).remove cid) (I' := md_ids d nr) [] [cid]
    (by rw [eI', eI]; exact List.Perm.swap _ _ _) hnd haddr
    (fun id hin => by
      rcases List.mem_cons.mp hin with e | h
      · rw [e]; exact hroot
      · exact MHolds.ids_some d child none _ hheld id h)
    hff List.nodup_nil (fun _ h => nomatch h)
    (fun id h => by
      rw [List.mem_singleton.mp h]
      show (if cid = cid then none else _) = none
      rw [if_pos rfl])
    (fun id hn' _ => hfr id (fun e => hn' (e ▸ List.mem_cons_of_mem _ (eI ▸ List.mem_cons_self)))
      (fun e => hn' (e ▸ List.mem_cons_self))) (Nat.le_refl _)
  refine ⟨?_, h1, h2, h4, h3⟩
  refine mrm_MHolds_intro _ d nr ?_ (hkh _ (mrm_KidsHeld_congr d child s1.heap _ (fun id hin => ?_)
    (mrm_MHolds_kids _ d child none hheld)))
  · show (if (MTree.hdr d nr).id = cid then none else if (MTree.hdr d nr).id = rootId then _ else _) = _
    rw [hid, if_neg hrc, if_pos rfl]
  · exact hfr id (fun e => (List.nodup_cons.mp hn.2).1 (e ▸ hin)) (fun e => hrK (e ▸ hin))

end core

section promote
variable {r : Nat} {T : Nat} {D : DigestFn (r + 1)}

/-- what `Ob_promote_heap` needs of the single child, from the tree invariant of a non-root slab -/
theorem mtp_child_facts (hT : legalThreshold T = true) : ∀ (d : Nat) (child : MTree r d),
    MTreeInv T D d false child → (∀ x ∈ MTree.digests0 d child, x < 2^64) →
    (d = 0 → Gen.mapDataSlabPrefixSize ≤ (MTree.hdr d child).size) ∧ mr_RootFit d child
  | 0, child, hinv, hdig => by
    have h : MDataInv T D false (child : MDataSlab r) := (mtreeInv_zero_iff T D false child).mp hinv
    have hmin := h.ge_min rfl
    have ht := thresholds_fit hT
    refine ⟨fun _ => ?_, mr_RootFit_of_inv hT 0 child hinv hdig⟩
    show Gen.mapDataSlabPrefixSize ≤ (MDataSlab.hdr child).size
    simp only [Gen.mapDataSlabPrefixSize]; omega
  | d + 1, _, _, _ => ⟨fun e => (by cases e), trivial⟩

/-- `promoteChildAsNewRoot` of the generated code on a root with the single child `child`: the call, the model's `Ctx`, and
    the account of the heap (the new root held WITH the handle's extra data, identifiers distinct / the owner's, fresh
    identifiers free, `mds_Delta`) - from `Ob_promote_heap` and `mtp_core`.  Of the invariant only what the child needs is
    asked; the invariant of the new root is the caller's. -/
theorem mtp_promote (hT : legalThreshold T = true) (addr d : Nat) (mh h : MHdr) (child : MTree r d) (mroot : Bool)
    (ty cnt seed : Nat) (s1 : MHSt r) (x0 : Option DX) (hhd : MTree.hdr d child = h)
    (hheld : MHolds s1.heap (d + 1) (⟨mh, [h], [child], mroot⟩ : MMetaSlab (MTree r d)) x0)
    (hnd : (md_ids (d + 1) (⟨mh, [h], [child], mroot⟩ : MMetaSlab (MTree r d))).Nodup)
    (haddr : ∀ id ∈ md_ids (d + 1) (⟨mh, [h], [child], mroot⟩ : MMetaSlab (MTree r d)), id.addr = addr)
    (hff : mds_FreshFree addr s1) (hci : MTreeInv T D d false child) (hdig : ∀ x ∈ MTree.digests0 d child, x < 2^64) :
    ∃ s2, (rsOf T).promote (md_map ⟨d + 1, ⟨mh, [h], [child], mroot⟩, ty, cnt, seed⟩ s1) h.id =
        (none, md_map (OMap.promoteIfSingleChild ⟨d + 1, ⟨mh, [h], [child], mroot⟩, ty, cnt, seed⟩ s1.ctx).1 s2) ∧
      s2.ctx = (OMap.promoteIfSingleChild ⟨d + 1, ⟨mh, [h], [child], mroot⟩, ty, cnt, seed⟩ s1.ctx).2 ∧
      s2.popped = s1.popped ∧
      MHolds s2.heap _ (OMap.promoteIfSingleChild ⟨d + 1, ⟨mh, [h], [child], mroot⟩, ty, cnt, seed⟩ s1.ctx).1.root
        (some (md_extra (OMap.promoteIfSingleChild ⟨d + 1, ⟨mh, [h], [child], mroot⟩, ty, cnt, seed⟩ s1.ctx).1)) ∧
      (md_ids _ (OMap.promoteIfSingleChild ⟨d + 1, ⟨mh, [h], [child], mroot⟩, ty, cnt, seed⟩ s1.ctx).1.root).Nodup ∧
      (∀ id ∈ md_ids _ (OMap.promoteIfSingleChild ⟨d + 1, ⟨mh, [h], [child], mroot⟩, ty, cnt, seed⟩ s1.ctx).1.root,
        id.addr = addr) ∧
      mds_FreshFree addr s2 ∧
      mds_Delta s1.heap s2.heap (md_ids (d + 1) (⟨mh, [h], [child], mroot⟩ : MMetaSlab (MTree r d)))
        (md_ids _ (OMap.promoteIfSingleChild ⟨d + 1, ⟨mh, [h], [child], mroot⟩, ty, cnt, seed⟩ s1.ctx).1.root) := by
  obtain ⟨hsz, hfit⟩ := mtp_child_facts hT d child hci hdig
  have hheldc : MHolds s1.heap d child none := hheld.2 child List.mem_cons_self
  have hheap : s1.heap h.id = some (md_tree d child none) := by rw [← hhd]; exact hheldc.root
  have hrootSome : (s1.heap mh.id).isSome = true := by
    have : s1.heap mh.id = some _ := hheld.1
    rw [this]; rfl
  have hidsx : md_ids (d + 1) (⟨mh, [h], [child], mroot⟩ : MMetaSlab (MTree r d)) = mh.id :: md_ids d child := by
    show mh.id :: [child].flatMap (md_ids d) = _
    simp
  rw [hidsx] at hnd haddr ⊢
  have ob := Ob_promote_heap T d (⟨mh, [h], [child], mroot⟩ : MMetaSlab (MTree r d)) ty cnt seed s1 h child rfl rfl
    hheap hsz hfit
  refine ⟨_, ob.1, ob.2, rfl, ?_⟩
  cases d with
  | zero =>
    exact mtp_core addr s1 0 child
      (MTree.setRoot 0 (MTree.setId 0 (({ (child : MDataSlab r) with hdr := { (child : MDataSlab r).hdr with
        size := (child : MDataSlab r).hdr.size - Gen.mapDataSlabPrefixSize + Gen.mapRootDataSlabPrefixSize } } :
        MDataSlab r) : MTree r 0) mh.id) true) mh.id h.id (some (ty, u64 cnt, seed)) rfl rfl (fun _ _ => trivial)
      (congrArg MHdr.id hhd) hheldc hrootSome hnd haddr hff
  | succ d =>
    exact mtp_core addr s1 (d + 1) child
      (MTree.setRoot (d + 1) (MTree.setId (d + 1) child mh.id) true) mh.id h.id (some (ty, u64 cnt, seed)) rfl rfl
      (fun _ hk => hk) (congrArg MHdr.id hhd) hheldc hrootSome hnd haddr hff

/-- **the `promote` field of `MRootTail T (rsOf T) (MQ T D)`**, with the invariant of the RESULT handle as an explicit
    hypothesis about the model value (`hQ'`, for an arbitrary `Q'`): as stated in `MRootTail` the field asks for
    `MQ T D` of the new root, which is FALSE (`MQ` contains `SInv T D d false`, i.e. `.root = false`, but
    `promoteIfSingleChild` sets the root flag of the new root).  Everything else of the field is proved: the equation
    for `(rsOf T).promote`, the model's `Ctx`, `popped`, the handle invariant of the result (held WITH the handle's
    extra data, identifiers distinct / the owner's, fresh identifiers free) and `mds_Delta`. -/
theorem MRootTail_promote_rsOf_partial (hT : legalThreshold T = true) (Q' : (d : Nat) → MTree r d → Prop) :
    ∀ (addr d : Nat) (xr : MMetaSlab (MTree r d)) (ty cnt seed : Nat) (h : MHdr) (s1 : MHSt r) (x0 : Option DX),
    xr.childHdrs = [h] → xr.childHdrs = xr.children.map (MTree.hdr d) →
    mds_RootPre (MQ T D) addr s1 ⟨d + 1, xr, ty, cnt, seed⟩ x0 →
    Q' (OMap.promoteIfSingleChild ⟨d + 1, xr, ty, cnt, seed⟩ s1.ctx).1.d
      (OMap.promoteIfSingleChild ⟨d + 1, xr, ty, cnt, seed⟩ s1.ctx).1.root →
    ∃ s2, (rsOf T).promote (md_map ⟨d + 1, xr, ty, cnt, seed⟩ s1) h.id =
        (none, md_map (OMap.promoteIfSingleChild ⟨d + 1, xr, ty, cnt, seed⟩ s1.ctx).1 s2) ∧
      s2.ctx = (OMap.promoteIfSingleChild ⟨d + 1, xr, ty, cnt, seed⟩ s1.ctx).2 ∧ s2.popped = s1.popped ∧
      mds_RootPre Q' addr s2 (OMap.promoteIfSingleChild ⟨d + 1, xr, ty, cnt, seed⟩ s1.ctx).1
        (some (md_extra (OMap.promoteIfSingleChild ⟨d + 1, xr, ty, cnt, seed⟩ s1.ctx).1)) ∧
      mds_Delta s1.heap s2.heap (md_ids (d + 1) xr)
        (md_ids _ (OMap.promoteIfSingleChild ⟨d + 1, xr, ty, cnt, seed⟩ s1.ctx).1.root) := by
  intro addr d xr ty cnt seed h s1 x0 hh hmap hpre hQ'
  obtain ⟨mh, mchs, mcs, mroot⟩ := xr
  simp only at hh hmap
  subst hh
  obtain ⟨child, rfl, hhd⟩ := List.map_eq_singleton_iff.mp hmap.symm
  have hmq : MQ T D (d + 1) (⟨mh, [h], [child], mroot⟩ : MMetaSlab (MTree r d)) := hpre.inv
  have hloose : MetaLoose T D d false (⟨mh, [h], [child], mroot⟩ : MMetaSlab (MTree r d)) := hmq.1.1
  obtain ⟨s2, a, b, c, h1, h2, h3, h4, h5⟩ := mtp_promote (D := D) hT addr d mh h child mroot ty cnt seed s1 x0 hhd hpre.held
    hpre.nodup hpre.addrOk hpre.ff (hloose.2.2.2.2.1 child List.mem_cons_self)
    (fun x hx => hmq.2.2 x (by
      show x ∈ [child].flatMap (MTree.digests0 d)
      simpa using hx))
  exact ⟨s2, a, b, c, ⟨h1, h2, h3, h4, hQ'⟩, h5⟩

end promote

section newRoot
variable {r : Nat} {T : Nat} {D : DigestFn (r + 1)}

/-- `MQ` for a handle root: as `MQ`, with `SInv .. true` (the root flag is set) -/
def MQtop (T : Nat) (D : DigestFn (r + 1)) (d : Nat) (t : MTree r d) : Prop :=
  SInv T D d true t ∧ (MTree.hdr d t).size ≤ maxThr T + slack T d ∧ ∀ x ∈ MTree.digests0 d t, x < 2^64

/-- the new root of `promoteIfSingleChild`, a data slab child -/
theorem mtp_newRoot_zero (hT : legalThreshold T = true) (child : MDataSlab r) (rid : SlabID)
    (hinv : MDataInv T D false child) (hdig : ∀ x ∈ child.elems.hkeys, x < 2^64) :
    MQtop (r := r) T D 0 (MTree.setRoot 0 (MTree.setId 0 (({ child with hdr := { child.hdr with
      size := child.hdr.size - Gen.mapDataSlabPrefixSize + Gen.mapRootDataSlabPrefixSize } } : MDataSlab r) :
      MTree r 0) rid) true) := by
  have hl := hinv.loose
  have hpre := hl.prefix_nontop
  have hse := hl.size_eq
  have hinl : child.inlined = false := by
    cases hi : child.inlined with
    | false => rfl
    | true => have := hl.inl_root hi; cases this
  have hmax := hinv.le_max
  rw [hpre] at hse
  refine ⟨⟨hl.elems_inv, ?_, hl.first_eq, rfl, fun _ => rfl⟩, ?_, hdig⟩
  · show child.hdr.size - Gen.mapDataSlabPrefixSize + Gen.mapRootDataSlabPrefixSize = _ + child.elems.size
    simp only [MDataSlab.prefixSize, MTree.setRoot, MTree.setId, hinl, Bool.false_eq_true, if_false, if_true]
    simp only [Gen.mapDataSlabPrefixSize, Gen.mapRootDataSlabPrefixSize] at hse ⊢
    omega
  · show child.hdr.size - Gen.mapDataSlabPrefixSize + Gen.mapRootDataSlabPrefixSize ≤ _
    simp only [Gen.mapDataSlabPrefixSize, Gen.mapRootDataSlabPrefixSize] at hse ⊢
    omega

/-- the new root of `promoteIfSingleChild`, an index slab child whose identifier's address is the new identifier's -/
theorem mtp_newRoot_succ (hT : legalThreshold T = true) (d : Nat) (child : MMetaSlab (MTree r d)) (rid : SlabID)
    (hinv : MTreeInv T D (d + 1) false child) (haddr : child.hdr.id.addr = rid.addr)
    (hdig : ∀ x ∈ MTree.digests0 (d + 1) child, x < 2^64) :
    MQtop (r := r) T D (d + 1) (MTree.setRoot (d + 1) (MTree.setId (d + 1) child rid) true) := by
  obtain ⟨hl, hmax, hmin, _⟩ := (mtreeInv_succ_iff T D d false child).mp hinv
  obtain ⟨_, h2, h3, h4, h5, h6, h7, h8⟩ := hl
  have hm := hmin rfl
  have ht := thresholds_fit hT
  refine ⟨⟨⟨rfl, h2, h3, h4, h5, fun c hc => (h6 c hc).trans haddr, h7, h8⟩, ?_⟩, ?_, hdig⟩
  · show 1 ≤ child.children.length
    simp only [Gen.mapMetaDataSlabPrefixSize, Gen.mapSlabHeaderSize] at h3
    omega
  · show child.hdr.size ≤ _
    omega

/-- **the `promote` field for `rs := rsOf T`**: premise `mds_RootPre (MQ T D)` as in `MRootTail`, conclusion with the
    root-flag-SET invariant `MQtop T D` of the new root -/
theorem MRootTail_promote_rsOf_top (hT : legalThreshold T = true) :
    ∀ (addr d : Nat) (xr : MMetaSlab (MTree r d)) (ty cnt seed : Nat) (h : MHdr) (s1 : MHSt r) (x0 : Option DX),
    xr.childHdrs = [h] → xr.childHdrs = xr.children.map (MTree.hdr d) →
    mds_RootPre (MQ T D) addr s1 ⟨d + 1, xr, ty, cnt, seed⟩ x0 →
    ∃ s2, (rsOf T).promote (md_map ⟨d + 1, xr, ty, cnt, seed⟩ s1) h.id =
        (none, md_map (OMap.promoteIfSingleChild ⟨d + 1, xr, ty, cnt, seed⟩ s1.ctx).1 s2) ∧
      s2.ctx = (OMap.promoteIfSingleChild ⟨d + 1, xr, ty, cnt, seed⟩ s1.ctx).2 ∧ s2.popped = s1.popped ∧
      mds_RootPre (MQtop T D) addr s2 (OMap.promoteIfSingleChild ⟨d + 1, xr, ty, cnt, seed⟩ s1.ctx).1
        (some (md_extra (OMap.promoteIfSingleChild ⟨d + 1, xr, ty, cnt, seed⟩ s1.ctx).1)) ∧
      mds_Delta s1.heap s2.heap (md_ids (d + 1) xr)
        (md_ids _ (OMap.promoteIfSingleChild ⟨d + 1, xr, ty, cnt, seed⟩ s1.ctx).1.root) := by
  intro addr d xr ty cnt seed h s1 x0 hh hmap hpre
  refine MRootTail_promote_rsOf_partial hT (MQtop T D) addr d xr ty cnt seed h s1 x0 hh hmap hpre ?_
  obtain ⟨mh, mchs, mcs, mroot⟩ := xr
  simp only at hh hmap
  subst hh
  obtain ⟨child, rfl, hhd⟩ := List.map_eq_singleton_iff.mp hmap.symm
  have hmq : MQ T D (d + 1) (⟨mh, [h], [child], mroot⟩ : MMetaSlab (MTree r d)) := hpre.inv
  have hloose : MetaLoose T D d false (⟨mh, [h], [child], mroot⟩ : MMetaSlab (MTree r d)) := hmq.1.1
  have hci : MTreeInv T D d false child := hloose.2.2.2.2.1 child List.mem_cons_self
  have hca : (MTree.hdr d child).id.addr = mh.id.addr := hloose.2.2.2.2.2.1 child List.mem_cons_self
  have hdig : ∀ x ∈ MTree.digests0 d child, x < 2^64 := fun x hx => hmq.2.2 x (by
    show x ∈ [child].flatMap (MTree.digests0 d)
    simpa using hx)
  cases d with
  | zero => exact mtp_newRoot_zero hT child mh.id ((mtreeInv_zero_iff T D false child).mp hci) hdig
  | succ d => exact mtp_newRoot_succ hT d child mh.id hci hca hdig

end newRoot

end Atree.TransEq

import AtreeProofs.Props.TransMapDescentTailPromote
import AtreeProofs.Props.TransMapDescentInvR
/-
  The `promote` field of the root tail `MRootTailR` (`TransMapDescentTopSetFull.lean`) for `rs := rsOf T` and a
  handle-level invariant `QR` (`MRootTailR_promote_rsOf_of`), instantiated with `QR := MQR T D`.
-/
namespace Atree.TransEq
open Atree

section
variable {r : Nat} {T : Nat}

/-- The `promote` field of `MRootTailR T (rsOf T) QR` for ANY handle-level invariant `QR` that gives the structural
    invariant of a root with `uint64` digests (`hin`) and holds of a root that is not inlined and not over `maxThr T`
    (`hout`: the promoted child was a non-root slab, so it is within the band) - `mtp_promote` with
    `mtp_newRoot_zero / _succ` for the invariant of the new root. -/
theorem MRootTailR_promote_rsOf_of (D : DigestFn (r + 1)) (hT : legalThreshold T = true) (QR : OMap r → Prop)
    (hin : ∀ m, QR m → SInv T D m.d true m.root ∧ ∀ x ∈ MTree.digests0 m.d m.root, x < 2^64)
    (hout : ∀ m : OMap r, SInv T D m.d true m.root → treeInl m.d m.root = false →
      (MTree.hdr m.d m.root).size ≤ maxThr T → (∀ x ∈ MTree.digests0 m.d m.root, x < 2^64) → QR m) :
    ∀ (addr d : Nat) (xr : MMetaSlab (MTree r d)) (ty cnt seed : Nat) (h : MHdr) (s1 : MHSt r) (x0 : Option DX),
    xr.childHdrs = [h] → xr.childHdrs = xr.children.map (MTree.hdr d) →
    mds_RootPreR QR addr s1 ⟨d + 1, xr, ty, cnt, seed⟩ x0 →
    ∃ s2, (rsOf T).promote (md_map ⟨d + 1, xr, ty, cnt, seed⟩ s1) h.id =
        (none, md_map (OMap.promoteIfSingleChild ⟨d + 1, xr, ty, cnt, seed⟩ s1.ctx).1 s2) ∧
      s2.ctx = (OMap.promoteIfSingleChild ⟨d + 1, xr, ty, cnt, seed⟩ s1.ctx).2 ∧ s2.popped = s1.popped ∧
      mds_RootPreR QR addr s2 (OMap.promoteIfSingleChild ⟨d + 1, xr, ty, cnt, seed⟩ s1.ctx).1
        (some (md_extra (OMap.promoteIfSingleChild ⟨d + 1, xr, ty, cnt, seed⟩ s1.ctx).1)) ∧
      mds_Delta s1.heap s2.heap (md_ids (d + 1) xr)
        (md_ids _ (OMap.promoteIfSingleChild ⟨d + 1, xr, ty, cnt, seed⟩ s1.ctx).1.root) := by
  intro addr d xr ty cnt seed h s1 x0 hh hmap hpre
  obtain ⟨mh, mchs, mcs, mroot⟩ := xr
  simp only at hh hmap
  subst hh
  obtain ⟨child, rfl, hhd⟩ := List.map_eq_singleton_iff.mp hmap.symm
  have hmq := hin _ hpre.inv
  have hloose : MetaLoose T D d true (⟨mh, [h], [child], mroot⟩ : MMetaSlab (MTree r d)) := hmq.1.1
  have hci : MTreeInv T D d false child := hloose.2.2.2.2.1 child List.mem_cons_self
  have hca : (MTree.hdr d child).id.addr = mh.id.addr := hloose.2.2.2.2.2.1 child List.mem_cons_self
  have hdig : ∀ x ∈ MTree.digests0 d child, x < 2^64 := fun x hx => hmq.2 x (by
    show x ∈ [child].flatMap (MTree.digests0 d)
    simpa using hx)
  obtain ⟨s2, a, b, c, h1, h2, h3, h4, h5⟩ := mtp_promote hT addr d mh h child mroot ty cnt seed s1 x0 hhd hpre.held
    hpre.nodup hpre.addrOk hpre.ff hci hdig
  refine ⟨s2, a, b, c, ⟨h1, h2, h3, h4, ?_⟩, h5⟩
  -- the promoted child was a non-root slab: not inlined, within the band
  cases d with
  | zero =>
    have hdi : MDataInv T D false (child : MDataSlab r) := (mtreeInv_zero_iff T D false child).mp hci
    have hinl : (child : MDataSlab r).inlined = false := by
      cases hi : (child : MDataSlab r).inlined with
      | false => rfl
      | true => have := hdi.inl_root hi; cases this
    have nr := mtp_newRoot_zero hT (child : MDataSlab r) mh.id hdi hdig
    have hsz1 : (child : MDataSlab r).hdr.size - Gen.mapDataSlabPrefixSize + Gen.mapRootDataSlabPrefixSize ≤
        maxThr T := by
      have hmx : (MTree.hdr 0 child).size ≤ maxThr T := hdi.le_max
      have h18 := (mtp_child_facts hT 0 child hci hdig).1 rfl
      simp only [Gen.mapDataSlabPrefixSize, Gen.mapRootDataSlabPrefixSize] at h18 ⊢
      omega
    exact hout _ nr.1 hinl hsz1 nr.2.2
  | succ d =>
    have nr := mtp_newRoot_succ hT d child mh.id hci hca hdig
    have hsz1 : (child : MMetaSlab (MTree r d)).hdr.size ≤ maxThr T := ((mtreeInv_succ_iff T D d false child).mp hci).2.1
    exact hout _ nr.1 rfl hsz1 nr.2.2

/-- **the `promote` field of `MRootTailR T (rsOf T) (MQR T D)`** -/
theorem MRootTailR_promote_rsOf (D : DigestFn (r + 1)) (hT : legalThreshold T = true) :
    ∀ (addr d : Nat) (xr : MMetaSlab (MTree r d)) (ty cnt seed : Nat) (h : MHdr) (s1 : MHSt r) (x0 : Option DX),
    xr.childHdrs = [h] → xr.childHdrs = xr.children.map (MTree.hdr d) →
    mds_RootPreR (MQR T D) addr s1 ⟨d + 1, xr, ty, cnt, seed⟩ x0 →
    ∃ s2, (rsOf T).promote (md_map ⟨d + 1, xr, ty, cnt, seed⟩ s1) h.id =
        (none, md_map (OMap.promoteIfSingleChild ⟨d + 1, xr, ty, cnt, seed⟩ s1.ctx).1 s2) ∧
      s2.ctx = (OMap.promoteIfSingleChild ⟨d + 1, xr, ty, cnt, seed⟩ s1.ctx).2 ∧ s2.popped = s1.popped ∧
      mds_RootPreR (MQR T D) addr s2 (OMap.promoteIfSingleChild ⟨d + 1, xr, ty, cnt, seed⟩ s1.ctx).1
        (some (md_extra (OMap.promoteIfSingleChild ⟨d + 1, xr, ty, cnt, seed⟩ s1.ctx).1)) ∧
      mds_Delta s1.heap s2.heap (md_ids (d + 1) xr)
        (md_ids _ (OMap.promoteIfSingleChild ⟨d + 1, xr, ty, cnt, seed⟩ s1.ctx).1.root) :=
  MRootTailR_promote_rsOf_of D hT (MQR T D) (fun _ h => ⟨h.1, h.2.2.2⟩)
    (fun _ a b c e => ⟨a, b, Nat.le_trans c (Nat.le_add_right _ _), e⟩)

/-- the field has exactly the type `MRootTailR` asks for -/
example (D : DigestFn (r + 1)) (hT : legalThreshold T = true)
    (hsplit : ∀ (addr : Nat) (m2 : OMap r) (s2 : MHSt r) (x0 : Option DX),
      mds_RootPreR (MQR T D) addr s2 m2 x0 → MTree.isFull T m2.d m2.root = true →
      match m2.splitRoot s2.ctx with
      | .ok (m3, c3) =>
        ∃ s3, (rsOf T).splitRoot (md_map m2 s2) = (none, md_map m3 s3) ∧ s3.ctx = c3 ∧ s3.popped = s2.popped ∧
          mds_RootPreR (MQR T D) addr s3 m3 (some (md_extra m3)) ∧
          mds_Delta s2.heap s3.heap (md_ids m2.d m2.root) (md_ids m3.d m3.root)
      | .error e => ∃ M', (rsOf T).splitRoot (md_map m2 s2) = (some e, M')) :
    MRootTailR T (rsOf T) (MQR T D) := ⟨MRootTailR_promote_rsOf D hT, hsplit⟩

end

end Atree.TransEq

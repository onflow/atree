import AtreeProofs.Props.TransMapDescentTailRootPromote
import AtreeProofs.Props.TransMapDescentTailSplit
/-
  The `promote` field of the root tail `MRootTailR` for `rs := rsOf T`, `QR := fun m => mts_MQtop T D m.d m.root`
  (root-size bound with `slack1`), from `MRootTailR_promote_rsOf_of`.
-/
namespace Atree.TransEq
open Atree

section
variable {r : Nat} {T : Nat}

/-- **the `promote` field of `MRootTailR T (rsOf T) (fun m => mts_MQtop T D m.d m.root)`** -/
theorem MRootTailR_promote_rsOf1 (D : DigestFn (r + 1)) (hT : legalThreshold T = true) :
    ∀ (addr d : Nat) (xr : MMetaSlab (MTree r d)) (ty cnt seed : Nat) (h : MHdr) (s1 : MHSt r) (x0 : Option DX),
    xr.childHdrs = [h] → xr.childHdrs = xr.children.map (MTree.hdr d) →
    mds_RootPreR (fun m => mts_MQtop T D m.d m.root) addr s1 ⟨d + 1, xr, ty, cnt, seed⟩ x0 →
    ∃ s2, (rsOf T).promote (md_map ⟨d + 1, xr, ty, cnt, seed⟩ s1) h.id =
        (none, md_map (OMap.promoteIfSingleChild ⟨d + 1, xr, ty, cnt, seed⟩ s1.ctx).1 s2) ∧
      s2.ctx = (OMap.promoteIfSingleChild ⟨d + 1, xr, ty, cnt, seed⟩ s1.ctx).2 ∧ s2.popped = s1.popped ∧
      mds_RootPreR (fun m => mts_MQtop T D m.d m.root) addr s2 (OMap.promoteIfSingleChild ⟨d + 1, xr, ty, cnt, seed⟩ s1.ctx).1
        (some (md_extra (OMap.promoteIfSingleChild ⟨d + 1, xr, ty, cnt, seed⟩ s1.ctx).1)) ∧
      mds_Delta s1.heap s2.heap (md_ids (d + 1) xr)
        (md_ids _ (OMap.promoteIfSingleChild ⟨d + 1, xr, ty, cnt, seed⟩ s1.ctx).1.root) :=
  MRootTailR_promote_rsOf_of D hT (fun m => mts_MQtop T D m.d m.root) (fun _ h => ⟨h.1, h.2.2.2⟩)
    (fun _ a b c e => ⟨a, b, Nat.le_trans c (Nat.le_add_right _ _), e⟩)

/-- the field has exactly the type `MRootTailR` asks for -/
example (D : DigestFn (r + 1)) (hT : legalThreshold T = true)
    (hsplit : ∀ (addr : Nat) (m2 : OMap r) (s2 : MHSt r) (x0 : Option DX),
      mds_RootPreR (fun m => mts_MQtop T D m.d m.root) addr s2 m2 x0 → MTree.isFull T m2.d m2.root = true →
      match m2.splitRoot s2.ctx with
      | .ok (m3, c3) =>
        ∃ s3, (rsOf T).splitRoot (md_map m2 s2) = (none, md_map m3 s3) ∧ s3.ctx = c3 ∧ s3.popped = s2.popped ∧
          mds_RootPreR (fun m => mts_MQtop T D m.d m.root) addr s3 m3 (some (md_extra m3)) ∧
          mds_Delta s2.heap s3.heap (md_ids m2.d m2.root) (md_ids m3.d m3.root)
      | .error e => ∃ M', (rsOf T).splitRoot (md_map m2 s2) = (some e, M')) :
    MRootTailR T (rsOf T) (fun m => mts_MQtop T D m.d m.root) := ⟨MRootTailR_promote_rsOf1 D hT, hsplit⟩

end

end Atree.TransEq

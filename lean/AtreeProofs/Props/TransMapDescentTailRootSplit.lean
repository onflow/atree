import AtreeProofs.Props.TransMapDescentTailSplit
import AtreeProofs.Props.TransMapDescentInvR
/-
  The `splitRoot` field of `MRootTailR T (rsOf T) QR` (`MRootTailR` of Props/TransMapDescentTopSetFull.lean), a re-wrapping
  of `MRootTail_splitRoot_rsOf_top` (Props/TransMapDescentTailSplit.lean, invariant `mts_MQtop`: `SInv .. true`, not
  inlined, root size `≤ maxThr + slack1`, `uint64` digests).
  * `MRootTailR_splitRoot_rsOf_of`: the field for ANY handle-level `QR` that implies `mts_MQtop` of the root and follows from it.
  * `MRootTailR_splitRoot_rsOf_partial`: the field for `QR := MQR T D`, with ONE hypothesis about model values, `hS1`: the
    root is at most `slack1` over the band.  It is FORCED: `MQR` bounds the root size by `maxThr + slack T d`, which for a data
    root (`d = 0`) is `maxThr + maxEntry + 16`, but the model's `splitRoot` first gives the root the non-root prefix
    (`+ 16`) and the split theorem of the model proofs (`MTree.split_spec`, through `deroot_facts`) needs the DE-ROOTED
    slab within `maxThr + slack T 0`, i.e. the root within `maxThr + slack1 T 0 = maxThr + maxEntry` - which is what
    `MTree.set_spec` provides for the root (`TSetPost.size_le` is stated with `slack1`).  With `slack1` in the root
    invariant (`MQR1`) the hypothesis disappears (`MRootTailR_splitRoot_rsOf_of`, used in TransMapDescentSetHeapFull.lean).
-/
namespace Atree.TransEq
open Atree

section
variable {r : Nat} {T : Nat}

/-- the `splitRoot` field of `MRootTailR T (rsOf T) QR` for any `QR` between `mts_MQtop` of the root and itself -/
theorem MRootTailR_splitRoot_rsOf_of (D : DigestFn (r + 1)) (hT : legalThreshold T = true) (QR : OMap r → Prop)
    (hto : ∀ m : OMap r, QR m → mts_MQtop T D m.d m.root)
    (hfrom : ∀ m : OMap r, mts_MQtop T D m.d m.root → QR m) :
    ∀ (addr : Nat) (m2 : OMap r) (s2 : MHSt r) (x0 : Option DX),
      mds_RootPreR QR addr s2 m2 x0 → MTree.isFull T m2.d m2.root = true →
      match m2.splitRoot s2.ctx with
      | .ok (m3, c3) =>
        ∃ s3, (rsOf T).splitRoot (md_map m2 s2) = (none, md_map m3 s3) ∧ s3.ctx = c3 ∧ s3.popped = s2.popped ∧
          mds_RootPreR QR addr s3 m3 (some (md_extra m3)) ∧
          mds_Delta s2.heap s3.heap (md_ids m2.d m2.root) (md_ids m3.d m3.root)
      | .error e => ∃ M', (rsOf T).splitRoot (md_map m2 s2) = (some e, M') := by
  intro addr m2 s2 x0 hpre hfull
  have hpre' : mds_RootPre (mts_MQtop T D) addr s2 m2 x0 :=
    ⟨hpre.held, hpre.nodup, hpre.addrOk, hpre.ff, hto m2 hpre.inv⟩
  have h := MRootTail_splitRoot_rsOf_top D hT addr m2 s2 x0 hpre' hfull
  rcases hsr : m2.splitRoot s2.ctx with e | ⟨m3, c3⟩
  · rw [hsr] at h
    exact h
  · rw [hsr] at h
    obtain ⟨s3, h1, h2, h3, h4, h5⟩ := h
    exact ⟨s3, h1, h2, h3, ⟨h4.held, h4.nodup, h4.addrOk, h4.ff, hfrom m3 h4.inv⟩, h5⟩

/-- **the `splitRoot` field of `MRootTailR T (rsOf T) (MQR T D)`**, with the root-size hypothesis `hS1` (see the header) -/
theorem MRootTailR_splitRoot_rsOf_partial (D : DigestFn (r + 1)) (hT : legalThreshold T = true)
    (hS1 : ∀ m : OMap r, MQR T D m → (MTree.hdr m.d m.root).size ≤ maxThr T + slack1 T m.d) :
    ∀ (addr : Nat) (m2 : OMap r) (s2 : MHSt r) (x0 : Option DX),
      mds_RootPreR (MQR T D) addr s2 m2 x0 → MTree.isFull T m2.d m2.root = true →
      match m2.splitRoot s2.ctx with
      | .ok (m3, c3) =>
        ∃ s3, (rsOf T).splitRoot (md_map m2 s2) = (none, md_map m3 s3) ∧ s3.ctx = c3 ∧ s3.popped = s2.popped ∧
          mds_RootPreR (MQR T D) addr s3 m3 (some (md_extra m3)) ∧
          mds_Delta s2.heap s3.heap (md_ids m2.d m2.root) (md_ids m3.d m3.root)
      | .error e => ∃ M', (rsOf T).splitRoot (md_map m2 s2) = (some e, M') :=
  MRootTailR_splitRoot_rsOf_of D hT (MQR T D)
    (fun m hq => ⟨hq.1, hq.2.1, hS1 m hq, hq.2.2.2⟩)
    (fun m hq => ⟨hq.1, hq.2.1, Nat.le_trans hq.2.2.1 (Nat.add_le_add_left (slack1_le T m.d) _), hq.2.2.2⟩)

/-- for index-slab roots (`d ≥ 1`) `slack1 = slack`: the hypothesis `hS1` is only about data roots -/
theorem mts_hS1_succ (D : DigestFn (r + 1)) (m : OMap r) (hd : 1 ≤ m.d) (hq : MQR T D m) :
    (MTree.hdr m.d m.root).size ≤ maxThr T + slack1 T m.d := by
  obtain ⟨d, root, ty, cnt, seed⟩ := m
  cases d with
  | zero => cases hd
  | succ d => exact hq.2.2.1

end

end Atree.TransEq

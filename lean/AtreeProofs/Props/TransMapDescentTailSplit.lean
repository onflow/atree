import AtreeProofs.Props.TransMapDescentInv
import AtreeProofs.Props.TransMapDescentTopSetFull
import AtreeProofs.Props.TransMapRestructSplit
import AtreeProofs.Props.TransMapRestructRoot
import AtreeProofs.Map.TreeSet
import AtreeProofs.Map.Root
import AtreeProofs.Map.AfterChild
/-
  The SPLIT tails of the `Set` composition for the restructuring record built from the GENERATED code, `rs := rsOf T`.
  `MSplitTail_rsOf : MSplitTail T (rsOf T) (MQ T D)` (`MSplitTail` of Props/TransMapDescentSetFull.lean, `MQ` of
  Props/TransMapDescentInv.lean).  From `MQ` of the full child: the model's `split` succeeds (`MTree.split_spec`), the range
  hypotheses of the generated `Split` hold (`msl_SplitOK`: exact size bookkeeping, sizes below `2 * maxThr`), both halves
  are valid slabs whose element groups are in the `uint` ranges (`mr_RootFit`); from `mds_Pre`: the allocated identifier
  is free (`mds_FreshFree`) and different from every identifier of the subtree (they all have a heap entry).  Then
  `Ob_SplitChildSlab_heap` / `Ob_SplitChildSlab_heapPost` (Props/TransMapRestructSplit.lean) give the call and the heap,
  and `mds_Post` follows from the identifiers of the new parent (`mds_Delta.of_perm`).
  The `splitRoot` field of the root tail is proved the same way from Props/TransMapRestructRoot.lean, for any `Q` with
  explicit hypotheses (`MRootTail_splitRoot_rsOf_partial`) and for the root invariant `mts_MQtop`
  (`MRootTail_splitRoot_rsOf_top`).
-/
namespace Atree.TransEq
open Atree

section
variable {r : Nat} {T : Nat} {D : DigestFn (r + 1)}

/-- the range hypotheses of the generated `Split` from the loose invariant and the slack bound -/
theorem mts_SplitOK_of_MQ (hT : legalThreshold T = true) : ∀ (d : Nat) (t : MTree r d), MQ T D d t → msl_SplitOK d t :=
  fun _ _ hq => (hq.work hT).splitOK hT

theorem mts_RootFit_of_MQ (hT : legalThreshold T = true) : ∀ (d : Nat) (t : MTree r d), MQ T D d t → mr_RootFit d t :=
  fun _ _ hq => (hq.work hT).rootFit

/-- `Split` distributes the slabs below the root over the halves, in order -/
theorem mts_split_kidIds (d : Nat) (child l rr : MTree r d) (c c1 : Ctx) (hsp : MTree.split d child c = .ok (l, rr, c1)) :
    mrs_kidIds d l ++ mrs_kidIds d rr = mrs_kidIds d child := by
  cases d with
  | zero => rfl
  | succ d =>
    simp only [MTree.split, MMetaSlab.split] at hsp
    split at hsp
    · cases hsp
    · cases hsp
      show List.flatMap _ (List.take _ _) ++ List.flatMap _ (List.drop _ _) = List.flatMap _ _
      rw [← List.flatMap_append, List.take_append_drop]

theorem mts_kidsHeld_of_holds (h : SlabID → Option (DSlab r)) (d : Nat) (t : MTree r d) (x : Option DX)
    (hh : MHolds h d t x) : mrs_KidsHeld h d t := by
  cases d with
  | zero => trivial
  | succ d => exact hh.2

/-- **the split tail of the `Set` composition holds for the generated restructuring code** -/
theorem MSplitTail_rsOf (D : DigestFn (r + 1)) (hT : legalThreshold T = true) :
    MSplitTail T (rsOf (r := r) T) (MQ T D) := by
  intro addr d m1 x child' k s1 hpre hck hfull
  have hcm : child' ∈ m1.children := List.mem_of_getElem? hck
  have hQ := hpre.inv child' hcm
  have hfull' := (mtree_isFull_iff T d child').mp hfull
  obtain ⟨l, rr, heq, hl, hr, hid1, hid2, _, hdg, _, _⟩ := MTree.split_spec hT d child' s1.ctx hQ.sinv hfull' hQ.size_le
  have hok := mts_SplitOK_of_MQ hT d child' hQ
  have hdl : ∀ y ∈ MTree.digests0 d l, y < 2^64 := fun y hy => hQ.dig y (by rw [hdg]; exact List.mem_append_left _ hy)
  have hdr : ∀ y ∈ MTree.digests0 d rr, y < 2^64 := fun y hy => hQ.dig y (by rw [hdg]; exact List.mem_append_right _ hy)
  have hfl := mr_RootFit_of_inv hT d l hl hdl
  have hfr := mr_RootFit_of_inv hT d rr hr hdr
  have hklen : k < m1.childHdrs.length := by
    rw [hpre.hdrs, List.length_map]
    exact (List.getElem?_eq_some_iff.mp hck).1
  rcases hm : m1.splitChildSlab child' k s1.ctx with e | ⟨m', c'⟩
  · exfalso
    simp only [MMetaSlab.splitChildSlab, heq, bind, Except.bind, pure, Except.pure] at hm
    cases hm
  · show ∃ s' w, _ ∧ _ ∧ _ ∧ _
    have hshape : m'.children = (m1.children.set k l).insertIdx (k + 1) rr ∧ m'.hdr.id = m1.hdr.id ∧
        c'.ctr = s1.ctx.ctr + 1 := by
      have hm2 := hm
      simp only [MMetaSlab.splitChildSlab, heq, bind, Except.bind, pure, Except.pure] at hm2
      cases hm2
      exact ⟨rfl, rfl, rfl⟩
    obtain ⟨hch0, hmid, hctr⟩ := hshape
    obtain ⟨hres, hctx⟩ := Ob_SplitChildSlab_heap T d m1 x child' k s1 hklen hok hm heq hfl hfr
    refine ⟨_, _, hres, hctx, rfl, ?_⟩
    -- identifiers
    have hsome := hpre.ids_some
    obtain ⟨A, B, hAB, hAl⟩ := mds_split_at m1.children k child' hck
    have hI1 := md_ids_at hAB
    have hsubc : ∀ id ∈ md_ids d child', id ∈ md_ids (d + 1) m1 := fun id h => by
      rw [hI1]; exact List.mem_cons_of_mem _ (List.mem_append_right _ (List.mem_append_left _ h))
    have hcid : (MTree.hdr d child').id ∈ md_ids d child' := by rw [mrs_md_ids_eq]; exact List.mem_cons_self
    have hfaddr : (MTree.hdr d rr).id.addr = addr := by
      rw [hid2, mctx_alloc_addr]; exact hpre.addrOk _ (hsubc _ hcid)
    have hfidx : (MTree.hdr d rr).id.idx = s1.ctx.ctr + 1 := by rw [hid2, mctx_alloc_idx]
    have hfnone : s1.heap (MTree.hdr d rr).id = none := hpre.ff _ hfaddr (by rw [hfidx]; omega)
    have hfI1 : (MTree.hdr d rr).id ∉ md_ids (d + 1) m1 := fun h => by
      have := hsome _ h; rw [hfnone] at this; cases this
    have hndI := hpre.nodup
    rw [hI1] at hndI
    obtain ⟨hhead, htail⟩ := List.nodup_cons.mp hndI
    obtain ⟨_, hcB, hdisjA⟩ := List.nodup_append.mp htail
    obtain ⟨hcnd, _, hdisjB⟩ := List.nodup_append.mp hcB
    have hrootc : m1.hdr.id ∉ md_ids d child' := fun h =>
      hhead (List.mem_append_right _ (List.mem_append_left _ h))
    have hnd : (MTree.hdr d child').id ∉ mrs_kidIds d child' := by
      rw [mrs_md_ids_eq] at hcnd; exact (List.nodup_cons.mp hcnd).1
    have hroot1 : m1.hdr.id ∈ md_ids (d + 1) m1 := List.mem_cons_self
    obtain ⟨hp1, hp2, hp3, hp4⟩ := Ob_SplitChildSlab_heapPost d m1 m' x child' l rr k c' _ s1 hm heq
      (mts_kidsHeld_of_holds s1.heap d child' none (hpre.held child' hcm))
      (fun h => hfI1 (hsubc _ h)) (fun e => hfI1 (e ▸ hroot1)) hrootc hnd
    -- the identifier list of the new parent
    have hkid := mts_split_kidIds d child' l rr s1.ctx _ heq
    have hch' : m'.children = A ++ l :: rr :: B := by rw [hch0, hAB, ← hAl, set_at rfl, insert_succ_at rfl]
    have hI' : md_ids (d + 1) m' =
        (m1.hdr.id :: (A.flatMap (md_ids d) ++ (MTree.hdr d child').id :: mrs_kidIds d l)) ++
          (MTree.hdr d rr).id :: (mrs_kidIds d rr ++ B.flatMap (md_ids d)) := by
      show m'.hdr.id :: m'.children.flatMap (md_ids d) = _
      rw [hch', hmid]
      simp only [List.flatMap_append, List.flatMap_cons, mrs_md_ids_eq d l, mrs_md_ids_eq d rr, hid1,
        List.cons_append, List.append_assoc]
    have hI12 : md_ids (d + 1) m1 =
        (m1.hdr.id :: (A.flatMap (md_ids d) ++ (MTree.hdr d child').id :: mrs_kidIds d l)) ++
          (mrs_kidIds d rr ++ B.flatMap (md_ids d)) := by
      rw [hI1, mrs_md_ids_eq d child', ← hkid]
      simp only [List.cons_append, List.append_assoc]
    have hperm : (md_ids (d + 1) m').Perm ((MTree.hdr d rr).id :: md_ids (d + 1) m1) := by
      rw [hI', hI12]; exact List.perm_middle
    -- frame for anything that is not one of the three stored identifiers
    have hframe : ∀ id, id ≠ (MTree.hdr d child').id → id ≠ (MTree.hdr d rr).id → id ≠ m1.hdr.id → _ = s1.heap id :=
      fun id h1 h2 h3 => hp4 id (by rw [hid1]; exact h1) h2 (by rw [hmid]; exact h3)
    have hsib : ∀ c ∈ m1.children, (∀ id ∈ md_ids d c, id ≠ (MTree.hdr d child').id) →
        MHolds (mrs_splitChildSt s1 m' x l rr (s1.ctx.alloc (MTree.hdr d child').id.addr).2).heap d c none := by
      intro c hc hne
      refine mrs_MHolds_congr d c none s1.heap _ (fun id hid => ?_) (hpre.held c hc)
      have hin : id ∈ md_ids (d + 1) m1 := List.mem_cons_of_mem _ (List.mem_flatMap.mpr ⟨c, hc, hid⟩)
      refine hframe id (hne id hid) (fun e => hfI1 (e ▸ hin)) (fun e => ?_)
      have hnd1 := hpre.nodup
      have : m1.hdr.id ∉ m1.children.flatMap (md_ids d) := (List.nodup_cons.mp hnd1).1
      exact this (e ▸ List.mem_flatMap.mpr ⟨c, hc, hid⟩)
    -- one identifier enters (the right half's, from the allocator), none leaves
    obtain ⟨h1, h2, h3, h4⟩ := mds_Delta.of_perm [(MTree.hdr d rr).id] [] hperm hpre.nodup hpre.addrOk hsome hpre.ff
      (List.nodup_cons.mpr ⟨List.not_mem_nil, List.nodup_nil⟩)
      (fun id h => by
        rw [List.mem_singleton.mp h, hfidx, hctx, hctr]
        exact ⟨hfaddr, Nat.lt_succ_self _, Nat.le_refl _⟩)
      (fun _ h => nomatch h)
      (fun id hn hf => hframe id (fun e => hn (e ▸ hsubc _ hcid)) (fun e => hf (List.mem_singleton.mpr e))
        (fun e => hn (by rw [e]; exact hroot1)))
      (by rw [hctx, hctr]; exact Nat.le_succ _)
    refine ⟨h1, h2, ⟨hp3, ?_⟩, h3.fresh, h3.gone, h3.frame, h4⟩
    intro c hc
    rw [hch'] at hc
    rcases List.mem_append.mp hc with hcA | hc2
    · refine hsib c (by rw [hAB]; exact List.mem_append_left _ hcA) (fun id hid e => ?_)
      exact hdisjA id (List.mem_flatMap.mpr ⟨c, hcA, hid⟩) _ (List.mem_append_left _ hcid) e
    · rcases List.mem_cons.mp hc2 with e | hc3
      · rw [e]; exact hp1
      · rcases List.mem_cons.mp hc3 with e | hcB'
        · rw [e]; exact hp2
        · refine hsib c (by rw [hAB]; exact List.mem_append_right _ (List.mem_cons_of_mem _ hcB'))
            (fun id hid e => ?_)
          exact hdisjB _ hcid id (List.mem_flatMap.mpr ⟨c, hcB', hid⟩) e.symm

/-! The `splitRoot` field of `MRootTail`.

  The field `MRootTail.splitRoot` CANNOT be proved for `Q := MQ T D` as it stands.  `MQ` fixes
  `top := false` (`SInv T D d false`: `MetaLoose .. false m` demands `m.root = false`, `MDataLoose .. false s` demands
  `s.root = false` and the non-root prefix), while the new root built by `OMap.splitRoot` has `root := true`, so
  `mds_RootPre (MQ T D) addr s3 m3 _` (its field `inv : MQ T D m3.d m3.root`) is false for the model's result; for the same
  reason `mds_RootPre (MQ T D)` does not hold of a real handle (whose root slab has `root = true`).  The handle-level
  predicate has to be a `top := true` variant of `MQ`.  What is proved here is the field for ANY `Q`, with the facts about
  `Q` as explicit hypotheses about model values only:
  * `hHyp`: `Q` of the root gives the range hypotheses `root_splitHyp` of the generated `splitRoot`;
  * `hFit`: the halves of the model's split of the old root are in the `uint` ranges (`mr_RootFit`);
  * `hFitRoot` (error case only): the root is in the `uint` ranges;
  * `hQ'`: the model's `OMap.splitRoot` re-establishes `Q` on the new root. -/

theorem mts_split_ctx (d : Nat) (child l rr : MTree r d) (c c1 : Ctx) (hsp : MTree.split d child c = .ok (l, rr, c1)) :
    c1 = (c.alloc (MTree.hdr d child).id.addr).2 := by
  cases d with
  | zero =>
    simp only [MTree.split, MDataSlab.split] at hsp
    split at hsp
    · cases hsp
    · cases hsp; rfl
  | succ d =>
    simp only [MTree.split, MMetaSlab.split] at hsp
    split at hsp
    · cases hsp
    · cases hsp; rfl

/-- the `splitRoot` field of `MRootTail T (rsOf T) Q`, for any provider invariant `Q` (see the text above) -/
theorem MRootTail_splitRoot_rsOf_partial (Q : (d : Nat) → MTree r d → Prop)
    (hHyp : ∀ m : OMap r, Q m.d m.root → root_splitHyp m)
    (hFit : ∀ (m : OMap r) (c : Ctx) (l rr : MTree r m.d) (c2 : Ctx), Q m.d m.root → MTree.isFull T m.d m.root = true →
      MTree.split m.d (mrs_rootOld m c) (c.alloc m.rootID.addr).2 = .ok (l, rr, c2) → mr_RootFit m.d l ∧ mr_RootFit m.d rr)
    (hFitRoot : ∀ m : OMap r, Q m.d m.root → mr_RootFit m.d m.root)
    (hQ' : ∀ (m : OMap r) (c : Ctx) (m3 : OMap r) (c3 : Ctx), Q m.d m.root → MTree.isFull T m.d m.root = true →
      m.splitRoot c = .ok (m3, c3) → Q m3.d m3.root) :
    ∀ (addr : Nat) (m2 : OMap r) (s2 : MHSt r) (x0 : Option DX),
      mds_RootPre Q addr s2 m2 x0 → MTree.isFull T m2.d m2.root = true →
      match m2.splitRoot s2.ctx with
      | .ok (m3, c3) =>
        ∃ s3, (rsOf T).splitRoot (md_map m2 s2) = (none, md_map m3 s3) ∧ s3.ctx = c3 ∧ s3.popped = s2.popped ∧
          mds_RootPre Q addr s3 m3 (some (md_extra m3)) ∧
          mds_Delta s2.heap s3.heap (md_ids m2.d m2.root) (md_ids m3.d m3.root)
      | .error e => ∃ M', (rsOf T).splitRoot (md_map m2 s2) = (some e, M') := by
  intro addr m2 s2 x0 hpre hfull
  have hmod := mrs_splitRoot_model m2 s2.ctx
  rcases hsp : MTree.split m2.d (mrs_rootOld m2 s2.ctx) (s2.ctx.alloc m2.rootID.addr).2 with e | ⟨l, rr, c2⟩
  · simp only [hsp] at hmod
    rw [hmod]
    exact ⟨_, Ob_splitRoot_heap_error T m2 s2 (hHyp m2 hpre.inv) hmod (hFitRoot m2 hpre.inv)⟩
  · simp only [hsp] at hmod
    obtain ⟨hfl, hfr⟩ := hFit m2 s2.ctx l rr c2 hpre.inv hfull hsp
    obtain ⟨hres, hctx, _⟩ := Ob_splitRoot_heap T m2 s2 (hHyp m2 hpre.inv) hmod hsp hfl hfr
    have hQ3 := hQ' m2 s2.ctx _ _ hpre.inv hfull hmod
    rw [hmod]
    show ∃ s3, _ ∧ _ ∧ _ ∧ _ ∧ _
    refine ⟨_, hres, hctx, rfl, ?_⟩
    -- identifiers
    obtain ⟨hoid, hokids, _⟩ := mrs_rootOld_shape m2 s2.ctx
    obtain ⟨hlid, hrid, _, _⟩ := mrs_split_shape m2.d (mrs_rootOld m2 s2.ctx) l rr _ c2 hsp
    have hkid := mts_split_kidIds m2.d (mrs_rootOld m2 s2.ctx) l rr _ c2 hsp
    rw [hokids] at hkid
    have hc2 := mts_split_ctx m2.d (mrs_rootOld m2 s2.ctx) l rr _ c2 hsp
    have hI : md_ids m2.d m2.root = m2.rootID :: mrs_kidIds m2.d m2.root := mrs_md_ids_eq m2.d m2.root
    have hsome : ∀ id ∈ md_ids m2.d m2.root, (s2.heap id).isSome = true :=
      mds_MHolds_some m2.d m2.root x0 s2.heap hpre.held
    have hrootI : m2.rootID ∈ md_ids m2.d m2.root := by rw [hI]; exact List.mem_cons_self
    have hraddr : m2.rootID.addr = addr := hpre.addrOk _ hrootI
    have hl1 : (MTree.hdr m2.d l).id = (s2.ctx.alloc m2.rootID.addr).1 := by rw [hlid, hoid]
    have hladdr : (MTree.hdr m2.d l).id.addr = addr := by rw [hl1, mctx_alloc_addr]; exact hraddr
    have hlidx : (MTree.hdr m2.d l).id.idx = s2.ctx.ctr + 1 := by rw [hl1, mctx_alloc_idx]
    have hraddr2 : (MTree.hdr m2.d rr).id.addr = addr := by
      rw [hrid, mctx_alloc_addr, ← hlid]; exact hladdr
    have hridx : (MTree.hdr m2.d rr).id.idx = s2.ctx.ctr + 2 := by
      rw [hrid, mctx_alloc_idx, mctx_alloc_ctr]
    have hlnone : s2.heap (MTree.hdr m2.d l).id = none := hpre.ff _ hladdr (by rw [hlidx]; omega)
    have hrnone : s2.heap (MTree.hdr m2.d rr).id = none := hpre.ff _ hraddr2 (by rw [hridx]; omega)
    have hlI : (MTree.hdr m2.d l).id ∉ md_ids m2.d m2.root := fun h => by
      have := hsome _ h; rw [hlnone] at this; cases this
    have hrI : (MTree.hdr m2.d rr).id ∉ md_ids m2.d m2.root := fun h => by
      have := hsome _ h; rw [hrnone] at this; cases this
    have hrl : (MTree.hdr m2.d rr).id ≠ (MTree.hdr m2.d l).id := fun e => by
      have := congrArg SlabID.idx e; rw [hlidx, hridx] at this; omega
    have hndI := hpre.nodup
    rw [hI] at hndI
    have hrootK : m2.rootID ∉ mrs_kidIds m2.d m2.root := (List.nodup_cons.mp hndI).1
    have hKI : ∀ id ∈ mrs_kidIds m2.d m2.root, id ∈ md_ids m2.d m2.root := fun id h => by
      rw [hI]; exact List.mem_cons_of_mem _ h
    obtain ⟨hheld, hframe⟩ := Ob_splitRoot_heapPost m2 s2 hsp
      (mts_kidsHeld_of_holds s2.heap m2.d m2.root x0 hpre.held)
      (fun h => hlI (hKI _ h)) (fun h => hrI (hKI _ h)) hrl (fun e => hlI (e ▸ hrootI)) (fun e => hrI (e ▸ hrootI)) hrootK
    -- the identifier list of the new tree
    have hI' : md_ids (m2.d + 1) (mrs_newRoot m2 l rr) =
        (m2.rootID :: (MTree.hdr m2.d l).id :: mrs_kidIds m2.d l) ++ (MTree.hdr m2.d rr).id :: mrs_kidIds m2.d rr := by
      show m2.rootID :: List.flatMap (md_ids m2.d) [l, rr] = _
      simp only [List.flatMap_cons, List.flatMap_nil, List.append_nil, mrs_md_ids_eq m2.d l, mrs_md_ids_eq m2.d rr,
        List.cons_append]
    have hperm : (md_ids (m2.d + 1) (mrs_newRoot m2 l rr)).Perm
        ((MTree.hdr m2.d rr).id :: (MTree.hdr m2.d l).id :: md_ids m2.d m2.root) := by
      rw [hI', hI, ← hkid]
      refine List.perm_middle.trans (List.Perm.cons _ ?_)
      exact List.Perm.swap _ _ _
    -- both halves enter (from the allocator), nothing leaves
    have hs3 : _ = s2.ctx.ctr + 2 := (congrArg Ctx.ctr hctx).trans (by rw [hc2]; rfl)
    obtain ⟨h1, h2, h3, h4⟩ := mds_Delta.of_perm [(MTree.hdr m2.d rr).id, (MTree.hdr m2.d l).id] [] hperm hpre.nodup
      hpre.addrOk hsome hpre.ff
      (List.nodup_cons.mpr ⟨fun h => hrl (List.mem_singleton.mp h), List.nodup_cons.mpr ⟨List.not_mem_nil, List.nodup_nil⟩⟩)
      (fun id h => by
        rw [hs3]
        rcases List.mem_cons.mp h with e | h
        · rw [e, hridx]; exact ⟨hraddr2, by omega, Nat.le_refl _⟩
        · rw [List.mem_singleton.mp h, hlidx]; exact ⟨hladdr, by omega, by omega⟩)
      (fun _ h => nomatch h)
      (fun id hn hf => hframe id (fun e => hf (e ▸ List.mem_cons_of_mem _ List.mem_cons_self))
        (fun e => hf (e ▸ List.mem_cons_self)) (fun e => hn (by rw [e]; exact hrootI)))
      (by rw [hs3]; omega)
    exact ⟨⟨hheld, h1, h2, h4, hQ3⟩, h3⟩

/-- `MQ T D` is false of every root `OMap.splitRoot` builds (its `root` flag is `true`, `MQ`
    demands `top = false`), so `mds_RootPre (MQ T D) _ _ m3 _` cannot hold of the model's result -/
theorem mts_MQ_newRoot_false (m : OMap r) (l rr : MTree r m.d) : ¬ MQ T D (m.d + 1) (mrs_newRoot m l rr) := by
  intro h
  have h1 : MetaLoose T D m.d false (mrs_newRoot m l rr) ∧ 1 ≤ (mrs_newRoot m l rr).children.length := h.sinv
  have h2 : (mrs_newRoot m l rr).root = false := h1.1.1
  cases h2

theorem mts_MQ_splitRoot_false (m m3 : OMap r) (c c3 : Ctx) (h : m.splitRoot c = .ok (m3, c3)) : ¬ MQ T D m3.d m3.root := by
  rw [mrs_splitRoot_model] at h
  rcases hsp : MTree.split m.d (mrs_rootOld m c) (c.alloc m.rootID.addr).2 with e | ⟨l, rr, c2⟩
  · simp only [hsp] at h; cases h
  · simp only [hsp] at h
    cases h
    exact mts_MQ_newRoot_false m l rr

/-- the `top := true` variant of `MQ`: what the handle's root satisfies when `splitRootIfFull` looks at it (loose root
    invariant, not inlined, at most one entry / header over the band, `uint64` digests) -/
def mts_MQtop (T : Nat) (D : DigestFn (r + 1)) (d : Nat) (t : MTree r d) : Prop :=
  SInv T D d true t ∧ treeInl d t = false ∧ (MTree.hdr d t).size ≤ maxThr T + slack1 T d ∧
    ∀ x ∈ MTree.digests0 d t, x < 2^64

/-- the old root of Props/TransMapRestructRoot.lean is the model proofs' `deroot` -/
theorem mts_rootOld_eq (d : Nat) (root : MTree r d) (ty cnt seed : Nat) (c : Ctx) :
    mrs_rootOld (⟨d, root, ty, cnt, seed⟩ : OMap r) c = deroot d root (c.alloc (MTree.hdr d root).id.addr).1 := by
  cases d <;> rfl

/-- under `mts_MQtop` a full root is split by the model into two valid non-root slabs -/
theorem mts_rootSplit (hT : legalThreshold T = true) (d : Nat) (root : MTree r d) (ty cnt seed : Nat) (c : Ctx)
    (hq : mts_MQtop T D d root) (hfull : MTree.isFull T d root = true) :
    ∃ l rr c2, MTree.split d (mrs_rootOld (⟨d, root, ty, cnt, seed⟩ : OMap r) c)
        (c.alloc (OMap.rootID (⟨d, root, ty, cnt, seed⟩ : OMap r)).addr).2 = .ok (l, rr, c2) ∧
      MTreeInv T D d false l ∧ MTreeInv T D d false rr ∧
      (MTree.hdr d l).id.addr = (MTree.hdr d root).id.addr ∧ (MTree.hdr d rr).id.addr = (MTree.hdr d root).id.addr ∧
      MTree.digests0 d root = MTree.digests0 d l ++ MTree.digests0 d rr := by
  obtain ⟨hS, hinl, hle, _⟩ := hq
  have F := deroot_facts (T := T) (D := D) d root (c.alloc (MTree.hdr d root).id.addr).1 hS hinl rfl
  obtain ⟨l, rr, heq, hl, hr, hid1, hid2, _, hdg, _, _⟩ := MTree.split_spec hT d
    (deroot d root (c.alloc (MTree.hdr d root).id.addr).1) (c.alloc (MTree.hdr d root).id.addr).2
    F.sinv (F.full ((mtree_isFull_iff T d root).mp hfull)) (F.le hle)
  have heq' := heq
  rw [← mts_rootOld_eq d root ty cnt seed c] at heq'
  refine ⟨l, rr, _, heq', hl, hr, ?_, ?_, ?_⟩
  · rw [hid1, F.id]; rfl
  · rw [hid2, F.id]; rfl
  · rw [← F.digs]; exact hdg

theorem mts_MQtop.work (hT : legalThreshold T = true) : ∀ {d : Nat} {t : MTree r d}, mts_MQtop T D d t → MTreeWork T d t
  | 0, (s : MDataSlab r), hq => by
    have hs : MDataLoose T D true s := hq.1
    have hle : s.hdr.size ≤ maxThr T + slack1 T 0 := hq.2.2.1
    simp only [slack1] at hle
    have hsz := hs.size_eq
    exact MTreeWork.of_data hT hs (by omega) hq.2.2.2
  | d + 1, (m : MMetaSlab (MTree r d)), hq => by
    have hb : m.hdr.size ≤ maxThr T + slack1 T (d + 1) := hq.2.2.1
    simp only [slack1, Gen.mapSlabHeaderSize] at hb
    have := thresholds_fit hT
    exact MTreeWork.of_meta hq.1 (by omega)

theorem mts_hHyp_top (hT : legalThreshold T = true) (m : OMap r) (hq : mts_MQtop T D m.d m.root) : root_splitHyp m := by
  obtain ⟨d, root, ty, cnt, seed⟩ := m
  cases d with
  | zero => exact (mts_MQtop.work hT (d := 0) hq).splitOK hT
  | succ d => exact (mts_MQtop.work hT (d := d + 1) hq).splitOK hT

/-- **the `splitRoot` field of `MRootTail T (rsOf T) Q` for the handle-level invariant `Q := mts_MQtop T D`** -/
theorem MRootTail_splitRoot_rsOf_top (D : DigestFn (r + 1)) (hT : legalThreshold T = true) :
    ∀ (addr : Nat) (m2 : OMap r) (s2 : MHSt r) (x0 : Option DX),
      mds_RootPre (mts_MQtop T D) addr s2 m2 x0 → MTree.isFull T m2.d m2.root = true →
      match m2.splitRoot s2.ctx with
      | .ok (m3, c3) =>
        ∃ s3, (rsOf T).splitRoot (md_map m2 s2) = (none, md_map m3 s3) ∧ s3.ctx = c3 ∧ s3.popped = s2.popped ∧
          mds_RootPre (mts_MQtop T D) addr s3 m3 (some (md_extra m3)) ∧
          mds_Delta s2.heap s3.heap (md_ids m2.d m2.root) (md_ids m3.d m3.root)
      | .error e => ∃ M', (rsOf T).splitRoot (md_map m2 s2) = (some e, M') := by
  refine MRootTail_splitRoot_rsOf_partial (mts_MQtop T D) (fun m hq => mts_hHyp_top hT m hq) ?_
    (fun m hq => (hq.work hT).rootFit) ?_
  · intro m c l rr c2 hq hfull hsp
    obtain ⟨d, root, ty, cnt, seed⟩ := m
    obtain ⟨l', rr', c2', heq, hl, hr, _, _, hdg⟩ := mts_rootSplit hT d root ty cnt seed c hq hfull
    have hsp' : MTree.split d (mrs_rootOld (⟨d, root, ty, cnt, seed⟩ : OMap r) c)
        (c.alloc (OMap.rootID (⟨d, root, ty, cnt, seed⟩ : OMap r)).addr).2 = .ok (l, rr, c2) := hsp
    rw [heq] at hsp'
    cases hsp'
    exact ⟨mr_RootFit_of_inv hT d l hl (fun y hy => hq.2.2.2 y (by rw [hdg]; exact List.mem_append_left _ hy)),
      mr_RootFit_of_inv hT d rr hr (fun y hy => hq.2.2.2 y (by rw [hdg]; exact List.mem_append_right _ hy))⟩
  · intro m c m3 c3 hq hfull hsr
    obtain ⟨d, root, ty, cnt, seed⟩ := m
    obtain ⟨l, rr, c2, heq, hl, hr, ha1, ha2, hdg⟩ := mts_rootSplit hT d root ty cnt seed c hq hfull
    have hmod := mrs_splitRoot_model (⟨d, root, ty, cnt, seed⟩ : OMap r) c
    simp only [heq] at hmod
    rw [hmod] at hsr
    cases hsr
    have hb := map_legal_bounds hT
    have hdigs : MTree.digests0 (d + 1) (mrs_newRoot (⟨d, root, ty, cnt, seed⟩ : OMap r) l rr) = MTree.digests0 d root := by
      show List.flatMap (MTree.digests0 d) [l, rr] = _
      simp only [List.flatMap_cons, List.flatMap_nil, List.append_nil]
      exact hdg.symm
    refine ⟨⟨MetaLoose.of_child rfl rfl rfl rfl ?_ ?_, by show 1 ≤ 2; omega⟩, rfl, ?_, ?_⟩
    · intro x hx
      have hx' : x ∈ [l, rr] := hx
      simp only [List.mem_cons, List.mem_nil_iff, or_false] at hx'
      rcases hx' with rfl | rfl
      · exact ⟨hl, ha1, hl.fk hT⟩
      · exact ⟨hr, ha2, hr.fk hT⟩
    · show (MTree.digests0 (d + 1) (mrs_newRoot (⟨d, root, ty, cnt, seed⟩ : OMap r) l rr)).Pairwise (· < ·)
      rw [hdigs]; exact SInv.sorted d true root hq.1
    · show Gen.mapMetaDataSlabPrefixSize + Gen.mapSlabHeaderSize * 2 ≤ maxThr T + Gen.mapSlabHeaderSize
      simp only [Gen.mapMetaDataSlabPrefixSize, Gen.mapSlabHeaderSize, maxThr]; omega
    · intro y hy
      have hy' : y ∈ MTree.digests0 (d + 1) (mrs_newRoot (⟨d, root, ty, cnt, seed⟩ : OMap r) l rr) := hy
      rw [hdigs] at hy'
      exact hq.2.2.2 y hy'

end

end Atree.TransEq

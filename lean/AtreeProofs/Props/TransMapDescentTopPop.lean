import AtreeProofs.Props.TransMapDescentPop
/-
  Pop, top level: the generated `OrderedMap_PopIterate` and `OrderedMap_Count` of `Gen/TransMapDescent.lean` over a heap
  (`envD`) are the model's `OMap.popIterate` / `OMap.count`.
-/
namespace Atree.TransEq
open Atree Atree.Gen.TransMapD

variable {r : Nat}

/-- the storage after `OrderedMap.PopIterate`: the tree below the root is gone, the new empty root data slab (old root
    identifier, old extra data with `Count = 0`) is stored UNLESS the map is inlined -/
def mdp_topPost (m : OMap r) (s : MHSt r) : MHSt r :=
  if m.isInlined then mdp_post m.d m.root s
  else (mdp_post m.d m.root s).store m.rootID
    (md_tree 0 (OMap.popIterate m s.ctx).2.1.root (some (md_extra (OMap.popIterate m s.ctx).2.1)))

/-- `OrderedMap.Count` (map.go) -/
theorem Ob_OrderedMap_Count_heap (T : Nat) (eb : DEnvB r) (rs : DRestruct r) (m : OMap r) (s : MHSt r) :
    OrderedMap_Count (envD T eb rs) (md_map m s) = some (u64 m.count) := by
  obtain ⟨d, root, ty, cnt, seed⟩ := m
  cases d <;> rfl

/-- the model's new root as a generated record: what `OrderedMap.PopIterate` builds (`&MapDataSlab{header: {slabID: rootID,
    size: prefixSize + hkeyElementsPrefixSize}, elements: newHkeyElements(0), extraData: extraData, inlined: inlined}`) -/
theorem mdp_newRoot (T : Nat) (eb : DEnvB r) (rs : DRestruct r) (m : OMap r) (c : Ctx) :
    md_tree (m.popIterate c).2.1.d (m.popIterate c).2.1.root (some (md_extra (m.popIterate c).2.1)) =
      .dataSlab { header := { slabID := m.rootID,
                              size := (if m.isInlined then UInt32.ofNat Gen.inlinedMapDataSlabPrefixSize
                                       else UInt32.ofNat Gen.mapRootDataSlabPrefixSize) +
                                      UInt32.ofNat Gen.hkeyElementsPrefixSize },
                  elements := (envD T eb rs).newHkeyElements 0,
                  extraData := some (m.ty, 0, m.seed), inlined := m.isInlined } := by
  show MapSlab.dataSlab (md_data _ _) = _
  cases hi : m.isInlined <;> simp only [md_data, md_hdr, md_extra, MapSlab.dataSlab.injEq, MapDataSlab.mk.injEq,
      MapSlabHeader.mk.injEq, Option.some.injEq, Prod.mk.injEq, true_and] <;>
    refine ⟨rfl, ⟨rfl, ?_, rfl⟩, rfl, ⟨rfl, rfl, rfl⟩, hi⟩ <;>
    · show UInt32.ofNat ((if m.isInlined then _ else _) + _) = _
      rw [hi]; rfl

theorem Ob_OrderedMap_PopIterate_heap (T : Nat) (eb : DEnvB r) (rs : DRestruct r) (depth : Nat) (m : OMap r)
    (s : MHSt r) (hd : m.d ≤ depth)
    (hh : MHolds s.heap m.d m.root (some (md_extra m))) (hnd : (md_ids m.d m.root).Nodup) (hw : mdp_Wf m.d m.root)
    (hx : mdp_RootOk m.d m.root (some (md_extra m))) (hl : mdp_LeafOk m.d m.root) :
    OrderedMap_PopIterate (envD T eb rs) depth (md_map m s) =
      some (none, md_map (OMap.popIterate m s.ctx).2.1 (mdp_topPost m s)) := by
  have hspec := mdp_recSpec T eb rs depth m.d hd m.root (some (md_extra m)) s hh hnd hw hx hl
  have hR := mdp_newRoot T eb rs m s.ctx
  have hR' : md_tree 0 (m.popIterate s.ctx).2.1.root (some (md_extra (m.popIterate s.ctx).2.1)) = _ := hR
  have h1 : ∀ x c, MapSlab_SlabID (envD T eb rs) (mdp_treeRes m.d m.root x c) = some m.rootID := by
    obtain ⟨d, root, ty, cnt, seed⟩ := m
    cases d <;> exact fun _ _ => rfl
  have h2 : ∀ x c, MapSlab.extraData_ (mdp_treeRes m.d m.root x c) = x := by
    obtain ⟨d, root, ty, cnt, seed⟩ := m
    cases d <;> exact fun _ _ => rfl
  have h3 : ∀ x c, MapSlab_Inlined (envD T eb rs) (mdp_treeRes m.d m.root x c) = some m.isInlined := by
    obtain ⟨d, root, ty, cnt, seed⟩ := m
    cases d <;> exact fun _ _ => rfl
  simp only [OrderedMap_PopIterate, md_map, hspec, h1, h2, h3, hR, mdp_topPost, hR']
  cases hi : m.isInlined <;>
    simp [OrderedMap_Inlined, MapSlab_Inlined, MapDataSlab_Inlined, storeSlab, MapSlab_SlabID, MapDataSlab_SlabID,
      md_extra]

/-- the storage `Ob_OrderedMap_PopIterate_heap` ends in: the model's `Ctx` (one `store` of the root unless inlined), the
    callback received the model's list, the heap holds the new root (unless inlined: then nothing is stored), the old
    tree below the root is gone, everything outside the old tree is untouched -/
theorem Ob_OrderedMap_PopIterate_heap_post (m : OMap r) (s : MHSt r) :
    (mdp_topPost m s).ctx = (OMap.popIterate m s.ctx).2.2 ∧
    (mdp_topPost m s).popped = s.popped ++ (OMap.popIterate m s.ctx).1 ∧
    (OMap.popIterate m s.ctx).2.1.count = 0 ∧
    (m.isInlined = false →
      MHolds (mdp_topPost m s).heap (OMap.popIterate m s.ctx).2.1.d (OMap.popIterate m s.ctx).2.1.root
        (some (md_extra (OMap.popIterate m s.ctx).2.1))) ∧
    (m.isInlined = true → (mdp_topPost m s).heap = (mdp_post m.d m.root s).heap) ∧
    (∀ id ∈ md_ids m.d m.root, id ≠ m.rootID → (mdp_topPost m s).heap id = none) ∧
    (∀ id, id ∉ md_ids m.d m.root → (mdp_topPost m s).heap id = s.heap id) := by
  have hroot : m.rootID = (MTree.hdr m.d m.root).id := rfl
  have hctx : (OMap.popIterate m s.ctx).2.2 =
      if m.isInlined then (MTree.popIterate m.d m.root s.ctx).2.2
      else (MTree.popIterate m.d m.root s.ctx).2.2.emit (.store m.rootID) := rfl
  have hpop : (OMap.popIterate m s.ctx).1 = (MTree.popIterate m.d m.root s.ctx).1 := rfl
  refine ⟨?_, ?_, rfl, ?_, ?_, ?_, ?_⟩
  · rw [hctx]; cases hi : m.isInlined <;> simp [mdp_topPost, hi, mdp_post]
  · rw [hpop]; cases hi : m.isInlined <;> simp [mdp_topPost, hi, mdp_post]
  · intro hi
    show MHolds _ 0 _ _
    simp only [MHolds, mdp_topPost, hi]
    simp only [md_tree, Bool.false_eq_true, if_false, MHSt.store_heap]
    have hid : (OMap.popIterate m s.ctx).2.1.root.hdr.id = m.rootID := rfl
    exact if_pos hid
  · intro hi; simp [mdp_topPost, hi]
  · intro id hid hne
    have hid' := hid
    rw [mdp_ids_cons, ← hroot] at hid'
    have ht : id ∈ (md_ids m.d m.root).tail := by
      rcases List.mem_cons.mp hid' with h | h
      · exact absurd h hne
      · exact h
    cases hi : m.isInlined <;> simp [mdp_topPost, hi, mdp_post, ht, hne]
  · intro id hid
    have hne : id ≠ m.rootID := fun h => hid (by rw [mdp_ids_cons, ← hroot, h]; exact List.mem_cons_self)
    have ht : id ∉ (md_ids m.d m.root).tail := fun h => hid (by rw [mdp_ids_cons]; exact List.mem_cons_of_mem _ h)
    cases hi : m.isInlined <;> simp [mdp_topPost, hi, mdp_post, ht, hne]

/-! non-vacuity: the depth-1 map of `TransMapDescentPop.lean` (two data slabs, count 2) -/

def mdp_exMap : OMap 0 := ⟨1, mdp_exM, 0, 2, 0⟩

example (T : Nat) (eb : DEnvB 0) (rs : DRestruct 0) :
    OrderedMap_Count (envD T eb rs) (md_map mdp_exMap mdp_exSt) = some 2 :=
  Ob_OrderedMap_Count_heap T eb rs mdp_exMap mdp_exSt

/-- both entries popped last to first, both children removed, count 0, the new empty root (size 2 + 8) stored under the
    old root identifier with the old type and seed -/
example (T : Nat) (eb : DEnvB 0) (rs : DRestruct 0) :
    ∃ (m' : OMap 0) (s' : MHSt 0),
      OrderedMap_PopIterate (envD T eb rs) 1 (md_map mdp_exMap mdp_exSt) = some (none, md_map m' s') ∧
      OrderedMap_Count (envD T eb rs) (md_map m' s') = some 0 ∧
      s'.popped = [(mdp_exKB, default), (mdp_exKA, default)] ∧
      s'.ctx.eff = [.remove ⟨1, 3⟩, .remove ⟨1, 2⟩, .store ⟨1, 1⟩] ∧
      s'.heap ⟨1, 2⟩ = none ∧ s'.heap ⟨1, 3⟩ = none ∧
      s'.heap ⟨1, 1⟩ = some (.dataSlab { header := ⟨⟨1, 1⟩, 10, 0⟩, elements := ⟨[], [], 8, 0⟩,
                                          extraData := some (0, 0, 0) }) := by
  obtain ⟨h1, h2, h3, h4, h5⟩ := mdp_ex_hyps
  have hpost := Ob_OrderedMap_PopIterate_heap_post mdp_exMap mdp_exSt
  obtain ⟨hc, hp, _, hh, _, hg, _⟩ := hpost
  refine ⟨_, _, Ob_OrderedMap_PopIterate_heap T eb rs 1 mdp_exMap mdp_exSt (Nat.le_refl _) h1 h2 h3 h4 h5,
    Ob_OrderedMap_Count_heap T eb rs _ _, hp, ?_, hg ⟨1, 2⟩ (by decide) (by decide), hg ⟨1, 3⟩ (by decide) (by decide),
    hh rfl⟩
  rw [hc]; rfl

/-- an INLINED root data slab: `PopIterate` stores nothing (`if !m.Inlined()`), the new root has the inlined prefix
    (14 + 8), the storage still has the old entry -/
def mdp_exInl : OMap 0 := ⟨0, ({ mdp_exA with root := true, inlined := true } : MDataSlab 0), 0, 1, 0⟩
def mdp_exInlSt : MHSt 0 := { heap := md_heapOf 0 mdp_exInl.root (some (md_extra mdp_exInl)), ctx := ⟨7, [], []⟩ }

example (T : Nat) (eb : DEnvB 0) (rs : DRestruct 0) :
    ∃ (m' : OMap 0) (s' : MHSt 0),
      OrderedMap_PopIterate (envD T eb rs) 0 (md_map mdp_exInl mdp_exInlSt) = some (none, md_map m' s') ∧
      (md_map m' s').root = .dataSlab { header := ⟨⟨1, 2⟩, 22, 0⟩, elements := ⟨[], [], 8, 0⟩,
                                        extraData := some (0, 0, 0), inlined := true } ∧
      s'.popped = [(mdp_exKA, default)] ∧ s'.ctx.eff = [] ∧ s'.heap ⟨1, 2⟩ = mdp_exInlSt.heap ⟨1, 2⟩ :=
  ⟨_, _, Ob_OrderedMap_PopIterate_heap T eb rs 0 mdp_exInl mdp_exInlSt (Nat.le_refl _) rfl (by decide) trivial rfl
    trivial, rfl, rfl, rfl, rfl⟩

end Atree.TransEq

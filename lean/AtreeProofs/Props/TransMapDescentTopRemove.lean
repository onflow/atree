import AtreeProofs.Props.TransMapDescentRemove
/-
  Top level of `Remove`: the generated `OrderedMap_remove` of `Gen/TransMapDescent.lean` over a heap (`envD T eb rs`), for
  ANY restructuring record `rs` and ANY element layer `eb`, at the level of generated records: digester from the builder,
  `root.Remove` (dynamic dispatch), `decrementCount`, `promoteChildAsNewRoot` iff the new root is an index slab with
  exactly ONE child header, `splitRoot` iff the (possibly promoted) root is full, `notifyParentIfNeeded`.
-/
namespace Atree.TransEq
open Atree Atree.Gen.TransMapD

section top
variable {r : Nat} (T : Nat) (eb : DEnvB r) (rs : DRestruct r)

/-- `m.root.ExtraData().decrementCount()` written back into the root -/
def mdr_decr (root' : DSlab r) (x : DX) : DSlab r := MapSlab.with_extraData_ root' (some (x.1, x.2.1 - 1, x.2.2))

/-- the promotion step of `OrderedMap.remove`: `promoteChildAsNewRoot(childrenHeaders[0].slabID)` iff the root is an
    index slab with exactly one child header -/
def mdr_promoteStep (m1 : DMap r) : Option GE × DMap r :=
  match m1.root with
  | .metaSlab root =>
    match root.childrenHeaders with
    | [h] => rs.promote m1 h.slabID
    | _ => (none, m1)
  | _ => (none, m1)

/-- what `OrderedMap.remove` does after a successful `root.Remove` returned `(rk, rv, nil)`, the new root `root'` and the
    storage `s1` -/
def mdr_topAfter (root' : DSlab r) (s1 : MHSt r) (rk rv : Option SV) :
    Option (Option SV × Option SV × Option GE × DMap r) :=
  match MapSlab.extraData_ root' with
  | none => none
  | some x =>
    let pr := mdr_promoteStep rs { Storage := s1, root := mdr_decr root' x, digesterBuilder := () }
    if (!pr.1.isNone) then some (none, none, pr.1, pr.2)
    else
      match MapSlab_IsFull (envD T eb rs) pr.2.root with
      | none => none
      | some true =>
        let q := rs.splitRoot pr.2
        if (!q.1.isNone) then some (none, none, q.1, q.2) else some (rk, rv, none, q.2)
      | some false => some (rk, rv, none, pr.2)

/-- the tail of `OrderedMap.remove` after `decrementCount`, on the in-memory handle `M`: promotion iff the root is an
    index slab with exactly one child header, `splitRoot` iff the (possibly promoted) root is full; `rk`, `rv` = what is
    returned when nothing fails -/
def mdr_topTail (rk rv : Option SV) (M : DMap r) : Option (Option SV × Option SV × Option GE × DMap r) :=
  let pr := mdr_promoteStep rs M
  if (!pr.1.isNone) then some (none, none, pr.1, pr.2)
  else
    match MapSlab_IsFull (envD T eb rs) pr.2.root with
    | none => none
    | some true =>
      let q := rs.splitRoot pr.2
      if (!q.1.isNone) then some (none, none, q.1, q.2) else some (rk, rv, none, q.2)
    | some false => some (rk, rv, none, pr.2)

theorem mdr_len_ne_one (h1 h2 : MapSlabHeader) (t : List MapSlabHeader) :
    ¬ (Int.ofNat (h1 :: h2 :: t).length = (1 : Int)) := by
  simp only [List.length_cons, Int.ofNat_eq_natCast]; omega


/- Two facts about the `match` on a `Loop` in `OrderedMap_remove`, stated with the matcher of the generated function so
   that `rw` finds it. -/
theorem mdr_loop_bind {G V X B S ε : Type} (c : Prop) [Decidable c]
    (a : Option (Option V × Option V × Option ε × OrderedMap G X B S)) (b : OrderedMap G X B S)
    (F : OrderedMap G X B S → Option (Option V × Option V × Option ε × OrderedMap G X B S)) :
    OrderedMap_remove.match_1 (fun _ => Option (Option V × Option V × Option ε × OrderedMap G X B S))
      (if c then Loop.ret a else Loop.done b) (fun r_ => r_) F = if c then a else F b := by
  by_cases hc : c
  · rw [if_pos hc, if_pos hc]
  · rw [if_neg hc, if_neg hc]

theorem mdr_loop_rewrap {G V X B S ε : Type}
    (L : Loop (Option (Option V × Option V × Option ε × OrderedMap G X B S)) (OrderedMap G X B S)) :
    OrderedMap_remove.match_1 (fun _ => Loop (Option (Option V × Option V × Option ε × OrderedMap G X B S))
      (OrderedMap G X B S)) L (fun r_ => Loop.ret r_) (fun m => Loop.done m) = L := by
  cases L <;> rfl

/-- the tail of `OrderedMap.remove` (`splitRoot` iff full, `notifyParentIfNeeded`), after the promotion step.  It is run once
    per shape of the root, for the reason given at `mds_finish` (Props/TransMapDescentTopSet.lean). -/
local macro "mdr_tl" : tactic => `(tactic| (
  generalize MapSlab_IsFull (envD _ _ _) _ = f
  cases f with
  | none => rfl
  | some b =>
    cases b with
    | false => rfl
    | true =>
      simp only [if_true, envD_splitRoot, envD_notify]
      exact mdr_loop_bind _ _ _ _))

variable (m : DMap r) (k : MKey) (depth : Nat)

/-- `OrderedMap.remove` given the result of the root's `Remove`: `decrementCount`, then promotion iff the new root is an
    index slab with exactly one child header, then `splitRoot` iff the root is full; the removed key / value returned -/
theorem Ob_OrderedMap_remove_step (root' : DSlab r) (s1 : MHSt r) (rk rv : Option SV)
    (hdisp : MapSlab_Remove (envD T eb rs) (MapMetaDataSlab_Remove (envD T eb rs) depth) m.root m.Storage k (u64 0)
      (u64 (k.dig 0)) (.key k) = some (rk, rv, none, root', s1)) :
    OrderedMap_remove (envD T eb rs) depth m (.key k) = mdr_topAfter T eb rs root' s1 rk rv := by
  unfold OrderedMap_remove
  simp only [envD_builder, envD_dig, Option.isNone_none, Bool.not_true, Bool.false_eq_true, if_false,
    show (u64 0).toNat = 0 from rfl, show (0 : UInt64) = u64 0 from rfl, hdisp, mdr_topAfter]
  cases root' with
  | nil => rfl
  | dataSlab o =>
    simp only [MapSlab.extraData_]
    cases o.extraData with
    | none => rfl
    | some xd =>
      simp only [envD_decr, mdr_decr, MapSlab.with_extraData_, MapSlab_IsData, MapDataSlab_IsData, Bool.not_true,
        Bool.false_eq_true, if_false, mdr_promoteStep, Option.isNone_none]
      mdr_tl
  | metaSlab o =>
    simp only [MapSlab.extraData_]
    obtain ⟨oh, hdrs, ox⟩ := o
    cases ox with
    | none => rfl
    | some xd =>
      simp only [envD_decr, mdr_decr, MapSlab.with_extraData_, MapSlab_IsData, MapMetaDataSlab_IsData, Bool.not_false,
        if_true, envD_promote, mdr_promoteStep]
      match hdrs with
      | [] =>
        simp only [List.length_nil, show ¬ (Int.ofNat 0 = (1 : Int)) by decide, decide_false, Bool.false_eq_true, if_false,
          Option.isNone_none, Bool.not_true]
        mdr_tl
      | [h] =>
        simp only [List.length_cons, List.length_nil, show (Int.ofNat (0 + 1) = (1 : Int)) by decide, decide_true, if_true,
          show goIdx [h] (0 : Int) = some h from rfl]
        rw [mdr_loop_rewrap]
        refine (mdr_loop_bind _ _ _ _).trans (congrArg (ite _ _) ?_)
        mdr_tl
      | h1 :: h2 :: t =>
        simp only [mdr_len_ne_one h1 h2 t, decide_false, Bool.false_eq_true, if_false, Option.isNone_none, Bool.not_true]
        mdr_tl

/-- an error of the root's `Remove` is passed on; the count is untouched (no `decrementCount`) -/
theorem Ob_OrderedMap_remove_err (root' : DSlab r) (s1 : MHSt r) (rk rv : Option SV) (e : GE)
    (hdisp : MapSlab_Remove (envD T eb rs) (MapMetaDataSlab_Remove (envD T eb rs) depth) m.root m.Storage k (u64 0)
      (u64 (k.dig 0)) (.key k) = some (rk, rv, some e, root', s1)) :
    OrderedMap_remove (envD T eb rs) depth m (.key k) =
      some (none, none, some e, { Storage := s1, root := root', digesterBuilder := m.digesterBuilder }) := by
  unfold OrderedMap_remove
  simp only [envD_builder, envD_dig, Option.isNone_none, Bool.not_true, Bool.false_eq_true, if_false,
    show (u64 0).toNat = 0 from rfl, show (0 : UInt64) = u64 0 from rfl, hdisp, Option.isNone_some, Bool.not_false, if_true]

end top
/-! on the translation of a model handle; non-vacuity -/

section md
variable {r : Nat} (T : Nat) (eb : DEnvB r) (rs : DRestruct r)

/-- the model's `OMap.remove` with its stages named -/
theorem mdr_OMap_remove_eq (cfg : MCfg) (m : OMap r) (k : MKey) (c : Ctx) :
    OMap.remove cfg m k c =
      match MTree.remove cfg m.d m.root k c with
      | .error e => .error e
      | .ok (rk, rv, root', c1) =>
        match (OMap.promoteIfSingleChild ({ m with root := root', count := m.count - 1 } : OMap r) c1).1.splitRootIfFull
            cfg.T (OMap.promoteIfSingleChild ({ m with root := root', count := m.count - 1 } : OMap r) c1).2 with
        | .error e => .error e
        | .ok (m3, c3) => .ok (rk, rv, m3, c3) := by
  simp only [OMap.remove, bind, Except.bind, pure, Except.pure]
  rcases MTree.remove cfg m.d m.root k c with e | ⟨rk, rv, root', c1⟩
  · rfl
  · simp only []
    rcases OMap.splitRootIfFull cfg.T _ _ with e | ⟨m3, c3⟩ <;> rfl

/-- `decrementCount` on the translation of a model tree: the count of the handle goes down by one (no wrap-around
    for a non-empty map) -/
theorem mdr_decr_md_tree (m : OMap r) (d' : Nat) (t' : MTree r d') (hc : 0 < m.count) :
    mdr_decr (md_tree d' t' (some (md_extra m))) (md_extra m) =
      md_tree d' t' (some (md_extra { m with count := m.count - 1 })) := by
  have e : u64 m.count - 1 = u64 (m.count - 1) := by
    have : (1 : UInt64) = u64 1 := rfl
    rw [this]
    exact u64_sub_eq hc
  cases d' with
  | zero => simp only [mdr_decr, md_tree, MapSlab.with_extraData_, md_data, md_extra, e]
  | succ d' => simp only [mdr_decr, md_tree, MapSlab.with_extraData_, md_meta, md_extra, e]

/-- `Ob_OrderedMap_remove_step` on the translation `md_map m s` of a model handle, the root's `Remove` having returned
    the translation of a model tree -/
theorem Ob_OrderedMap_remove_step_md (m : OMap r) (s : MHSt r) (k : MKey) (depth : Nat) (d' : Nat) (t' : MTree r d')
    (s1 : MHSt r) (rk rv : Option SV) (hc : 0 < m.count)
    (hdisp : MapSlab_Remove (envD T eb rs) (MapMetaDataSlab_Remove (envD T eb rs) depth)
      (md_tree m.d m.root (some (md_extra m))) s k (u64 0) (u64 (k.dig 0)) (.key k) =
        some (rk, rv, none, md_tree d' t' (some (md_extra m)), s1)) :
    OrderedMap_remove (envD T eb rs) depth (md_map m s) (.key k) =
      (let pr := mdr_promoteStep rs { Storage := s1, root := md_tree d' t' (some (md_extra { m with count := m.count - 1 })),
                                      digesterBuilder := () }
       if (!pr.1.isNone) then some (none, none, pr.1, pr.2)
       else
         match MapSlab_IsFull (envD T eb rs) pr.2.root with
         | none => none
         | some true =>
           let q := rs.splitRoot pr.2
           if (!q.1.isNone) then some (none, none, q.1, q.2) else some (rk, rv, none, q.2)
         | some false => some (rk, rv, none, pr.2)) := by
  rw [Ob_OrderedMap_remove_step T eb rs (md_map m s) k depth _ s1 rk rv hdisp]
  have hx : MapSlab.extraData_ (md_tree d' t' (some (md_extra m))) = some (md_extra m) := by
    cases d' <;> rfl
  simp only [mdr_topAfter, hx, mdr_decr_md_tree m d' t' hc] <;> rfl
end md

namespace MdrEx
open MeiEx

theorem stepEx64 : MapMetaDataSlab_Remove (envD 64 ebx rsx) 1 (md_meta mm xx) s0 k1 (u64 0) (u64 5) (.key k1) =
    some (some (.key k1), some (.val v1), none, mm1, mdr_leafSt s0 dA' none cA) :=
  Ob_MapMetaDataSlab_Remove_step_merge 64 ebx rsx mm xx s0 k1 5 0 (by decide) (by decide) (by decide) 0 rfl (by decide)
    _ _ _ _ _ rfl (hdispA 64 0) rfl (u32 10) rfl _ _ _ rfl

/-- the model handle: 2 entries, root = the 2-child index slab -/
def om : OMap 0 := { d := 1, root := mm, ty := 0, count := 2, seed := 0 }

theorem hdispTop64 : MapSlab_Remove (envD 64 ebx rsx) (MapMetaDataSlab_Remove (envD 64 ebx rsx) 1) (md_map om s0).root s0 k1
    (u64 0) (u64 (k1.dig 0)) (.key k1) =
    some (some (.key k1), some (.val v1), none, .metaSlab mm1, mdr_leafSt s0 dA' none cA) := by
  have e : (md_map om s0).root = .metaSlab (md_meta mm xx) := rfl
  rw [e]
  simp only [MapSlab_Remove]
  rw [show u64 (k1.dig 0) = u64 5 from rfl, stepEx64]

/-- non-vacuity of `Ob_OrderedMap_remove_step`: count 2 -> 1, two child headers -> no promotion, 50 <= 96 -> no split -/
example : OrderedMap_remove (envD 64 ebx rsx) 1 (md_map om s0) (.key k1) =
    some (some (.key k1), some (.val v1), none,
      { Storage := mdr_leafSt s0 dA' none cA, root := .metaSlab { mm1 with extraData := some (0, 1, 0) }, digesterBuilder := () }) :=
  (Ob_OrderedMap_remove_step 64 ebx rsx (md_map om s0) k1 1 _ _ _ _ hdispTop64).trans rfl

/-- an absent key: the root's `Remove` returns `KeyNotFoundError`; the count stays 2 -/
example : OrderedMap_remove (envD 64 ebx rsx) 1 (md_map om s0) (.key k4) =
    some (none, none, some .keyNotFound, md_map om s0) := by
  have h : MapSlab_Remove (envD 64 ebx rsx) (MapMetaDataSlab_Remove (envD 64 ebx rsx) 1) (md_map om s0).root s0 k4
      (u64 0) (u64 (k4.dig 0)) (.key k4) = some (none, none, some .keyNotFound, .metaSlab (md_meta mm xx), s0) := by
    have e : (md_map om s0).root = .metaSlab (md_meta mm xx) := rfl
    rw [e]
    simp only [MapSlab_Remove]
    rw [show u64 (k4.dig 0) = u64 3 from rfl,
      Ob_MapMetaDataSlab_Remove_keyNotFound 64 ebx rsx mm xx s0 k4 3 0 (by decide) (by decide) (by decide) rfl]
  exact Ob_OrderedMap_remove_err 64 ebx rsx (md_map om s0) k4 1 _ _ _ _ _ h

/-- an index root with ONE child (what a merge leaves behind) -/
def mmP : MMetaSlab (MTree 0 0) :=
  { hdr := { id := ⟨1, 1⟩, size := 30, firstKey := 5 }, childHdrs := [dA.hdr], children := [dA], root := true }
def omP : OMap 0 := { d := 1, root := mmP, ty := 0, count := 1, seed := 0 }
/-- a restructuring record whose `promote` installs the stored child as the root (keeping the extra data) and whose
    `splitRoot` fails (so a call shows) -/
def rsP : DRestruct 0 :=
  { splitChild := fun m s c _ => (none, m, s, c), mergeOrRebalance := fun m s c _ _ => (none, m, s, c),
    splitRoot := fun m => (some .slabSplit, m),
    promote := fun m id => (none, { m with root := ((m.Storage.heap id).getD .nil).with_extraData_ m.root.extraData_ }) }
def mmP1 : MapMetaDataSlab DX :=
  { header := { slabID := ⟨1, 1⟩, size := 30, firstKey := 0 },
    childrenHeaders := [{ slabID := ⟨1, 2⟩, size := 22, firstKey := 0 }], extraData := some (0, 1, 0) }

theorem hdispAP (T depth : Nat) :
    MapSlab_Remove (envD T ebx rsP) (MapMetaDataSlab_Remove (envD T ebx rsP) depth) (.dataSlab (md_data dA none)) s0 k1 (u64 0)
      (u64 5) (.key k1) =
    some (some (.key k1), some (.val v1), none, .dataSlab (md_data dA' none), mdr_leafSt s0 dA' none cA) := by
  simp only [MapSlab_Remove]
  rw [show u64 5 = u64 (k1.dig 0) from rfl, Ob_MapDataSlab_Remove_heap T ebx rsP cfg k1 v3 _ ebx_ok dA none rfl trivial s0]
  rfl

theorem hdispTopP : MapSlab_Remove (envD 16 ebx rsP) (MapMetaDataSlab_Remove (envD 16 ebx rsP) 1) (md_map omP s0).root s0 k1
    (u64 0) (u64 (k1.dig 0)) (.key k1) =
    some (some (.key k1), some (.val v1), none, .metaSlab mmP1,
      (mdr_leafSt s0 dA' none cA).store ⟨1, 1⟩ (.metaSlab mmP1)) := by
  have e : (md_map omP s0).root = .metaSlab (md_meta mmP (some (0, 1, 0))) := rfl
  rw [e]
  simp only [MapSlab_Remove]
  rw [show u64 (k1.dig 0) = u64 5 from rfl,
    Ob_MapMetaDataSlab_Remove_step_store 16 ebx rsP mmP (some (0, 1, 0)) s0 k1 5 0 (by decide) (by decide) (by decide) 0 rfl
      (by decide) _ _ _ _ _ rfl (hdispAP 16 0) rfl 0 rfl]
  rfl

/-- the promotion: the new root is an index slab with exactly one child header -> `promote` is called with that child's
    identifier (here it installs the stored data slab as the root); count 1 -> 0; the data root is not full -> no split -/
example : OrderedMap_remove (envD 16 ebx rsP) 1 (md_map omP s0) (.key k1) =
    some (some (.key k1), some (.val v1), none,
      { Storage := (mdr_leafSt s0 dA' none cA).store ⟨1, 1⟩ (.metaSlab mmP1),
        root := .dataSlab (md_data dA' (some (0, 0, 0))), digesterBuilder := () }) :=
  (Ob_OrderedMap_remove_step 16 ebx rsP (md_map omP s0) k1 1 _ _ _ _ hdispTopP).trans rfl

/-- the split of the root: with `T = 4` the promoted data root (22 > 6) is full -> `splitRoot` is called (its error shows) -/
example : (OrderedMap_remove (envD 4 ebx rsP) 1 (md_map omP s0) (.key k1)).map (·.2.2.1) = some (some .slabSplit) := by
  have h : MapSlab_Remove (envD 4 ebx rsP) (MapMetaDataSlab_Remove (envD 4 ebx rsP) 1) (md_map omP s0).root s0 k1
      (u64 0) (u64 (k1.dig 0)) (.key k1) =
      some (some (.key k1), some (.val v1), none, .metaSlab mmP1, mdr_leafSt s0 dA' none cA) := by
    have e : (md_map omP s0).root = .metaSlab (md_meta mmP (some (0, 1, 0))) := rfl
    rw [e]
    simp only [MapSlab_Remove]
    rw [show u64 (k1.dig 0) = u64 5 from rfl,
      Ob_MapMetaDataSlab_Remove_step_split 4 ebx rsP mmP (some (0, 1, 0)) s0 k1 5 0 (by decide) (by decide) (by decide) 0 rfl
        (by decide) _ _ _ _ _ rfl (hdispAP 4 0) rfl _ _ _ rfl]
    rfl
  rw [Ob_OrderedMap_remove_step 4 ebx rsP (md_map omP s0) k1 1 _ _ _ _ h]
  rfl
end MdrEx

end Atree.TransEq

import AtreeProofs.Props.TransMapDescentSet
/-
  Top level of `Set`: the generated `OrderedMap_set` of `Gen/TransMapDescent.lean` over a heap (`envD`), for ANY
  restructuring record `rs` and ANY element layer `eb`: after the dispatch `m.root.Set(..)`
    * `m.root.ExtraData().incrementCount()` iff the old value is nil,
    * `promoteChildAsNewRoot(childrenHeaders[0].slabID)` iff the root is an index slab with exactly ONE child header,
    * `splitRoot()` iff the (possibly promoted) root is full,
    * result `(existingMapValueStorable, nil)`; errors are passed on.
-/
namespace Atree.TransEq
open Atree Atree.Gen.TransMapD

section
variable {r : Nat} (T : Nat) (eb : DEnvB r) (rs : DRestruct r)

/-- `if existingMapValueStorable == nil { m.root.ExtraData().incrementCount() }` (`none` = nil pointer dereference) -/
def mds_topCount (M : DMap r) (old : Option SV) : Option (DMap r) :=
  if old.isNone then
    match M.root.extraData_ with
    | none => none
    | some x => some { M with root := M.root.with_extraData_ (some (x.1, x.2.1 + 1, x.2.2)) }
  else some M

/-- `if m.root.IsFull() { err = m.splitRoot() }`, then the result `(existingMapValueStorable, nil)` -/
def mds_topFinish (env : DEnv r) (M : DMap r) (old : Option SV) : Option (Option SV × Option GE × DMap r) :=
  match MapSlab_IsFull env M.root with
  | none => none
  | some true =>
    if (!(env.OrderedMap_splitRoot M).1.isNone) = true then
      some (none, (env.OrderedMap_splitRoot M).1, (env.OrderedMap_splitRoot M).2)
    else some (old, none, (env.OrderedMap_splitRoot M).2)
  | some false => some (old, none, M)

/-- `if !m.root.IsData() { root := m.root.(*MapMetaDataSlab); if len(root.childrenHeaders) == 1 {
    err = m.promoteChildAsNewRoot(root.childrenHeaders[0].slabID) } }`, then `mds_topFinish` -/
def mds_topPromote (env : DEnv r) (M : DMap r) (old : Option SV) : Option (Option SV × Option GE × DMap r) :=
  match M.root with
  | .nil => none
  | .dataSlab _ => mds_topFinish env M old
  | .metaSlab root =>
    match root.childrenHeaders with
    | [h] =>
      if (!(env.OrderedMap_promoteChildAsNewRoot M h.slabID).1.isNone) = true then
        some (none, (env.OrderedMap_promoteChildAsNewRoot M h.slabID).1, (env.OrderedMap_promoteChildAsNewRoot M h.slabID).2)
      else mds_topFinish env (env.OrderedMap_promoteChildAsNewRoot M h.slabID).2 old
    | _ => mds_topFinish env M old

/-- what `OrderedMap.set` does after the root's `Set` succeeded and left the map `M0` (new root, new storage) -/
def mds_topSpec (env : DEnv r) (M0 : DMap r) (old : Option SV) : Option (Option SV × Option GE × DMap r) :=
  match mds_topCount M0 old with
  | none => none
  | some M1 => mds_topPromote env M1 old

/-- over the heap environment the split of the root is `rs.splitRoot` -/
theorem mds_topFinish_envD (M : DMap r) (old : Option SV) :
    mds_topFinish (envD T eb rs) M old =
      match MapSlab_IsFull (envD T eb rs) M.root with
      | none => none
      | some true =>
        if (!(rs.splitRoot M).1.isNone) = true then some (none, (rs.splitRoot M).1, (rs.splitRoot M).2)
        else some (old, none, (rs.splitRoot M).2)
      | some false => some (old, none, M) := rfl

/-- over the heap environment the promotion is `rs.promote`, called iff the root is an index slab with ONE child header -/
theorem mds_topPromote_envD (M : DMap r) (old : Option SV) :
    mds_topPromote (envD T eb rs) M old =
      match M.root with
      | .nil => none
      | .dataSlab _ => mds_topFinish (envD T eb rs) M old
      | .metaSlab root =>
        match root.childrenHeaders with
        | [h] =>
          if (!(rs.promote M h.slabID).1.isNone) = true then some (none, (rs.promote M h.slabID).1, (rs.promote M h.slabID).2)
          else mds_topFinish (envD T eb rs) (rs.promote M h.slabID).2 old
        | _ => mds_topFinish (envD T eb rs) M old := rfl

theorem mds_len_one {β : Type} (l : List β) : (decide (Int.ofNat l.length = (1 : Int))) = decide (l.length = 1) := by
  have : (1 : Int) = Int.ofNat 1 := rfl
  rw [this]; simp only [Int.ofNat_eq_natCast, Int.natCast_inj]

/-- the tail `IsFull -> splitRoot` against `mds_topFinish`.  It is run once per shape of the root: the generated tail sits
    under the `match` on `IsData`, whose bound variable the promotion loop depends on, so it cannot be named before the split;
    and a copy of it in a statement would be another `match` constant than the generated one. -/
macro "mds_finish" : tactic => `(tactic| (
  simp only [mds_topFinish]
  generalize MapSlab_IsFull _ _ = f
  rcases f with _ | _ | _
  · rfl
  · rfl
  · simp only [if_true]
    generalize Env.OrderedMap_splitRoot _ _ = q
    rcases q with ⟨_ | e, M'⟩ <;> rfl))

/-- The top level of `OrderedMap.set`, for ANY `rs`, ANY `eb`, ANY generated map record `M` (in particular `md_map m s`):
    given the successful result of the dispatch on the root, the count is incremented iff the old value is nil, the
    single child is promoted iff the new root is an index slab with exactly one child header, the root is split iff the
    (possibly promoted) root is full; the result is `(old value, nil, map)` (`mds_topSpec`) -/
theorem Ob_OrderedMap_set_step (M : DMap r) (k : MKey) (w' : SW) (depth : Nat) (ks : SV) (old : Option SV)
    (root' : DSlab r) (s1 : MHSt r)
    (hset : MapSlab_Set (envD T eb rs) (MapMetaDataSlab_Set (envD T eb rs) depth) M.root M.Storage () k (u64 0)
      (u64 (k.dig 0)) (.key k) w' = some (some ks, old, none, root', s1)) :
    OrderedMap_set (envD T eb rs) depth M (.key k) w' =
      mds_topSpec (envD T eb rs) { M with root := root', Storage := s1 } old := by
  have hd : (envD T eb rs).Digester_Digest k (0 : UInt64) = (u64 (k.dig 0), none) := rfl
  have hset' : MapSlab_Set (envD T eb rs) (MapMetaDataSlab_Set (envD T eb rs) depth) M.root M.Storage M.digesterBuilder k
      (0 : UInt64) (u64 (k.dig 0)) (.key k) w' = some (some ks, old, none, root', s1) := hset
  unfold OrderedMap_set
  simp only [envD_builder, hd, Option.isNone_none, Bool.not_true, Bool.false_eq_true, if_false, hset', envD_incr,
    envD_notify, envD_setCallback, mds_len_one]
  clear hset hset' hd
  generalize M.digesterBuilder = b
  generalize envD T eb rs = env
  generalize hL : (if old.isNone = true then _ else _ : Loop _ (DMap r)) = L
  have hL' : L = match mds_topCount { Storage := s1, root := root', digesterBuilder := b } old with
      | none => Loop.ret none
      | some M1 => Loop.done M1 := by
    rw [← hL]
    unfold mds_topCount
    cases old with
    | none =>
      simp only [Option.isNone_none, if_true]
      cases MapSlab.extraData_ root' <;> rfl
    | some ov => rfl
  rw [hL']
  unfold mds_topSpec
  cases mds_topCount { Storage := s1, root := root', digesterBuilder := b } old with
  | none => rfl
  | some M1 =>
    obtain ⟨s2, root2, b2⟩ := M1
    cases root2 with
    | nil => simp [mds_topPromote, MapSlab_IsData]
    | dataSlab o =>
      simp only [mds_topPromote, mds_topFinish, MapSlab_IsData, MapDataSlab_IsData, MapSlab_IsFull, if_false,
        Bool.false_eq_true, Bool.not_true]
      cases MapDataSlab_IsFull env o
      · rfl
      · simp only [if_true]
        generalize env.OrderedMap_splitRoot _ = q
        rcases q with ⟨_ | e, M'⟩ <;> rfl
    | metaSlab o =>
      rcases o with ⟨hdr, chs, xd⟩
      simp only [mds_topPromote, MapSlab_IsData, MapMetaDataSlab_IsData, if_true, Bool.not_false]
      rcases chs with _ | ⟨h, _ | ⟨h2, tl⟩⟩
      · simp only [List.length_nil, Nat.zero_ne_one, decide_false, Bool.false_eq_true, if_false]
        mds_finish
      · have e : goIdx [h] (0 : Int) = some h := rfl
        simp only [List.length_singleton, decide_true, if_true, e]
        generalize env.OrderedMap_promoteChildAsNewRoot _ _ = q
        rcases q with ⟨_ | e, M'⟩
        · simp only [Option.isNone_none, Bool.not_true, Bool.false_eq_true, if_false]
          mds_finish
        · rfl
      · have e : ¬ ((h :: h2 :: tl).length = 1) := by simp
        simp only [e, decide_false, Bool.false_eq_true, if_false]
        mds_finish

/-- errors of the root's `Set` are passed on (no count change, no promotion, no split) -/
theorem Ob_OrderedMap_set_step_err (M : DMap r) (k : MKey) (w' : SW) (depth : Nat) (ks old : Option SV) (e : GE)
    (root' : DSlab r) (s1 : MHSt r)
    (hset : MapSlab_Set (envD T eb rs) (MapMetaDataSlab_Set (envD T eb rs) depth) M.root M.Storage () k (u64 0)
      (u64 (k.dig 0)) (.key k) w' = some (ks, old, some e, root', s1)) :
    OrderedMap_set (envD T eb rs) depth M (.key k) w' = some (none, some e, { M with root := root', Storage := s1 }) := by
  have hd : (envD T eb rs).Digester_Digest k (0 : UInt64) = (u64 (k.dig 0), none) := rfl
  have hset' : MapSlab_Set (envD T eb rs) (MapMetaDataSlab_Set (envD T eb rs) depth) M.root M.Storage M.digesterBuilder k
      (0 : UInt64) (u64 (k.dig 0)) (.key k) w' = some (ks, old, some e, root', s1) := hset
  unfold OrderedMap_set
  simp only [envD_builder, hd, Option.isNone_none, Bool.not_true, Bool.false_eq_true, if_false, hset',
    Option.isNone_some, Bool.not_false, if_true]

/-- the same on the translation `md_map m s` of a model map handle over the heap `s` -/
theorem Ob_OrderedMap_set_step_map (m : OMap r) (s : MHSt r) (k : MKey) (v : Elem) (depth : Nat) (ks : SV)
    (old : Option SV) (root' : DSlab r) (s1 : MHSt r)
    (hset : MapSlab_Set (envD T eb rs) (MapMetaDataSlab_Set (envD T eb rs) depth)
      (md_tree m.d m.root (some (md_extra m))) s () k (u64 0) (u64 (k.dig 0)) (.key k) (.val v) =
        some (some ks, old, none, root', s1)) :
    OrderedMap_set (envD T eb rs) depth (md_map m s) (.key k) (.val v) =
      mds_topSpec (envD T eb rs) { Storage := s1, root := root', digesterBuilder := () } old :=
  Ob_OrderedMap_set_step T eb rs (md_map m s) k (.val v) depth ks old root' s1 hset

end

namespace mdsEx

/-- the model map handle whose root is the concrete 2-child index slab -/
def om : OMap 0 := { d := 1, root := mm, ty := 0, count := 5, seed := 0 }

/-- a handle whose root is an index slab with ONE child header -/
def mm1 : MMetaSlab (MTree 0 0) :=
  { hdr := { id := id0, size := 60, firstKey := 0 }, childHdrs := [d1.hdr], children := [d1], root := true }
def om1 : OMap 0 := { d := 1, root := mm1, ty := 0, count := 5, seed := 0 }

/-- a restructuring record whose promotion fails: makes the call visible -/
def rs1 : DRestruct 0 := { rs0 with promote := fun M _ => (some .slabSplit, M) }

/-- `Ob_OrderedMap_set_step_map` applies to the concrete map over the concrete heap -/
example (v : Elem) : ∃ root' s1, OrderedMap_set (envD 1024 eb1 rs0) 1 (md_map om s0) (.key kk) (.val v) =
    mds_topSpec (envD 1024 eb1 rs0) { Storage := s1, root := root', digesterBuilder := () } none :=
  ⟨_, _, Ob_OrderedMap_set_step_map 1024 eb1 rs0 om s0 kk v 1 (.key kk) none _ _ rfl⟩

def kk10 : MKey := { size := 1, pay := 7, digs := [10] }

/-- ... and on the 1-child root the promotion IS called (its error comes back) -/
example (v : Elem) : ∃ M', OrderedMap_set (envD 1024 eb1 rs1) 1 (md_map om1 s0) (.key kk10) (.val v) =
    some (none, some .slabSplit, M') := by
  rw [Ob_OrderedMap_set_step_map 1024 eb1 rs1 om1 s0 kk10 v 1 (.key kk10) none _ _ rfl]
  exact ⟨_, rfl⟩

end mdsEx

end Atree.TransEq

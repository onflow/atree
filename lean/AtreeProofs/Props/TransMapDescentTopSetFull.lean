import AtreeProofs.Props.TransMapDescentSetFull
import AtreeProofs.Props.TransMapDescentTopRemove
/-
  Top level of `Set`, the WHOLE `OMap.set`: the generated `OrderedMap_set` over the heap equals the model's `OMap.set`
  (count, promotion of a single child, split of a full root), given the tail hypotheses on the four restructuring calls
  (`MSplitTail`, `MMorTail`, and `MRootTail` over a tree-level invariant of the root or `MRootTailR` over a handle-level one).
  `md_top` is what `OrderedMap.set` and `OrderedMap.remove` share after the tree-level operation and the count update
  (`OrderedMap.remove` spells the same tail with another result tuple: `mdr_topTail_eq`).
  `mds_Delta` is the change of the heap relative to the identifiers before / after; `mds_Delta.of_perm` reads it - and what
  else the handle invariant needs - off a permutation of the two identifier lists (the four tails of
  Props/TransMapDescentTail*.lean end with it).
-/
namespace Atree.TransEq
open Atree Atree.Gen.TransMapD

section
variable {r : Nat}

/-- how a step changes the heap, relative to the identifier lists of the tree before / after: identifiers that entered
    were free, identifiers that left are gone, everything else is untouched -/
structure mds_Delta (h h' : SlabID → Option (DSlab r)) (I I' : List SlabID) : Prop where
  fresh : ∀ id ∈ I', id ∉ I → h id = none
  gone : ∀ id ∈ I, id ∉ I' → h' id = none
  frame : ∀ id, id ∉ I → id ∉ I' → h' id = h id

theorem mds_Delta.refl (h : SlabID → Option (DSlab r)) (I : List SlabID) : mds_Delta h h I I :=
  ⟨fun _ hi hn => absurd hi hn, fun _ hi hn => absurd hi hn, fun _ _ _ => rfl⟩

theorem mds_Delta.trans {h h1 h2 : SlabID → Option (DSlab r)} {I I1 I2 : List SlabID}
    (a : mds_Delta h h1 I I1) (b : mds_Delta h1 h2 I1 I2) : mds_Delta h h2 I I2 := by
  obtain ⟨f, g, fr⟩ := mds_compose (h := h) (h1 := h1) (h' := h2) (I := I) (I1 := I1) (I' := I2) (J := I) (J' := I1)
    (fun _ hi => hi) (fun _ hi => hi) (fun _ hi => Or.inr hi) (fun _ hi => Or.inr hi)
    a.fresh a.gone a.frame b.fresh b.gone b.frame
  exact ⟨f, g, fr⟩

theorem mds_Post.delta {addr : Nat} {s s' : MHSt r} {d : Nat} {t t' : MTree r d} {x : Option DX}
    (hp : mds_Post addr s s' d t t' x) : mds_Delta s.heap s'.heap (md_ids d t) (md_ids d t') :=
  ⟨hp.fresh, hp.gone, hp.frame⟩

/-- The account of a restructuring call read off the identifier lists: the new list `I'` is the old one `I` with the
    identifiers `F` the allocator handed out and without the identifiers `G` that were removed, and outside `I` and `F`
    the heap is untouched.  (`SplitChildSlab`: `F` = the right half; merge, `promoteChildAsNewRoot`: `G` = the slab that
    went; `splitRoot`: `F` = both halves.) -/
theorem mds_Delta.of_perm {addr : Nat} {s s' : MHSt r} {I I' : List SlabID} (F G : List SlabID)
    (hperm : (G ++ I').Perm (F ++ I)) (hnd : I.Nodup) (haddr : ∀ id ∈ I, id.addr = addr)
    (hsome : ∀ id ∈ I, (s.heap id).isSome = true) (ff : mds_FreshFree addr s) (hF : F.Nodup)
    (hFa : ∀ id ∈ F, id.addr = addr ∧ s.ctx.ctr < id.idx ∧ id.idx ≤ s'.ctx.ctr)
    (hG : ∀ id ∈ G, s'.heap id = none) (hframe : ∀ id, id ∉ I → id ∉ F → s'.heap id = s.heap id)
    (hctr : s.ctx.ctr ≤ s'.ctx.ctr) :
    I'.Nodup ∧ (∀ id ∈ I', id.addr = addr) ∧ mds_Delta s.heap s'.heap I I' ∧ mds_FreshFree addr s' := by
  have hFnone : ∀ id ∈ F, s.heap id = none := fun id h => ff id (hFa id h).1 (hFa id h).2.1
  have hFI : ∀ id ∈ F, id ∉ I := fun id h hi => by have := hsome id hi; rw [hFnone id h] at this; cases this
  have hnd2 : (G ++ I').Nodup :=
    hperm.nodup_iff.mpr (List.nodup_append.mpr ⟨hF, hnd, fun a ha b hb e => hFI a ha (e ▸ hb)⟩)
  have hsub : ∀ id ∈ I', id ∈ F ∨ id ∈ I := fun id h =>
    List.mem_append.mp (hperm.subset (List.mem_append_right _ h))
  have hleft : ∀ id, id ∈ F ∨ id ∈ I → id ∉ I' → id ∈ G := fun id h hn =>
    (List.mem_append.mp (hperm.symm.subset (List.mem_append.mpr h))).resolve_right hn
  refine ⟨(List.nodup_append.mp hnd2).2.1, fun id h => ?_, ⟨fun id h hn => ?_, fun id h hn => hG id (hleft id (Or.inr h) hn),
    fun id hn hn' => ?_⟩, fun id ha hlt => ?_⟩
  · rcases hsub id h with h | h
    · exact (hFa id h).1
    · exact haddr id h
  · exact hFnone id ((hsub id h).resolve_right hn)
  · by_cases hf : id ∈ F
    · rw [hG id (hleft id (Or.inl hf) hn'), hFnone id hf]
    · exact hframe id hn hf
  · have hnone : s.heap id = none := ff id ha (Nat.lt_of_le_of_lt hctr hlt)
    rw [hframe id (fun hi => by have := hsome id hi; rw [hnone] at this; cases this)
      (fun hf => Nat.lt_irrefl _ (Nat.lt_of_lt_of_le hlt (hFa id hf).2.2))]
    exact hnone

/-- the state invariant of a map handle over the heap: the heap holds the tree (the stored root possibly with another
    extra data `x0` than the handle's: the handle's count may be ahead of the stored copy), identifiers pairwise distinct
    and the owner's, fresh identifiers free, the provider's invariant `Q` on the root -/
structure mds_RootPre (Q : (d : Nat) → MTree r d → Prop) (addr : Nat) (s : MHSt r) (m : OMap r) (x0 : Option DX) :
    Prop where
  held : MHolds s.heap m.d m.root x0
  nodup : (md_ids m.d m.root).Nodup
  addrOk : ∀ id ∈ md_ids m.d m.root, id.addr = addr
  ff : mds_FreshFree addr s
  inv : Q m.d m.root

/-- TAIL hypotheses on `rs.promote` (`promoteChildAsNewRoot`) and `rs.splitRoot` (`OrderedMap.splitRoot`) on `md_map`:
    they return the model's `OMap.promoteIfSingleChild` / `OMap.splitRoot` as generated records with the model's `Ctx`,
    re-establish the handle invariant (the new root stored WITH the handle's extra data) and change the heap as
    `mds_Delta` says; a model error of `splitRoot` comes back as the error value -/
structure MRootTail (T : Nat) (rs : DRestruct r) (Q : (d : Nat) → MTree r d → Prop) : Prop where
  promote : ∀ (addr d : Nat) (xr : MMetaSlab (MTree r d)) (ty cnt seed : Nat) (h : MHdr) (s1 : MHSt r) (x0 : Option DX),
    xr.childHdrs = [h] → xr.childHdrs = xr.children.map (MTree.hdr d) →
    mds_RootPre Q addr s1 ⟨d + 1, xr, ty, cnt, seed⟩ x0 →
    ∃ s2, rs.promote (md_map ⟨d + 1, xr, ty, cnt, seed⟩ s1) h.id =
        (none, md_map (OMap.promoteIfSingleChild ⟨d + 1, xr, ty, cnt, seed⟩ s1.ctx).1 s2) ∧
      s2.ctx = (OMap.promoteIfSingleChild ⟨d + 1, xr, ty, cnt, seed⟩ s1.ctx).2 ∧ s2.popped = s1.popped ∧
      mds_RootPre Q addr s2 (OMap.promoteIfSingleChild ⟨d + 1, xr, ty, cnt, seed⟩ s1.ctx).1
        (some (md_extra (OMap.promoteIfSingleChild ⟨d + 1, xr, ty, cnt, seed⟩ s1.ctx).1)) ∧
      mds_Delta s1.heap s2.heap (md_ids (d + 1) xr)
        (md_ids _ (OMap.promoteIfSingleChild ⟨d + 1, xr, ty, cnt, seed⟩ s1.ctx).1.root)
  splitRoot : ∀ (addr : Nat) (m2 : OMap r) (s2 : MHSt r) (x0 : Option DX),
    mds_RootPre Q addr s2 m2 x0 → MTree.isFull T m2.d m2.root = true →
    match m2.splitRoot s2.ctx with
    | .ok (m3, c3) =>
      ∃ s3, rs.splitRoot (md_map m2 s2) = (none, md_map m3 s3) ∧ s3.ctx = c3 ∧ s3.popped = s2.popped ∧
        mds_RootPre Q addr s3 m3 (some (md_extra m3)) ∧
        mds_Delta s2.heap s3.heap (md_ids m2.d m2.root) (md_ids m3.d m3.root)
    | .error e => ∃ M', rs.splitRoot (md_map m2 s2) = (some e, M')

/-- the state invariant of a map handle over the heap, with a handle-level provider invariant `QR` -/
structure mds_RootPreR (QR : OMap r → Prop) (addr : Nat) (s : MHSt r) (m : OMap r) (x0 : Option DX) : Prop where
  held : MHolds s.heap m.d m.root x0
  nodup : (md_ids m.d m.root).Nodup
  addrOk : ∀ id ∈ md_ids m.d m.root, id.addr = addr
  ff : mds_FreshFree addr s
  inv : QR m

/-- TAIL hypotheses on `rs.promote` / `rs.splitRoot` (as `MRootTail`, over `mds_RootPreR QR`) -/
structure MRootTailR (T : Nat) (rs : DRestruct r) (QR : OMap r → Prop) : Prop where
  promote : ∀ (addr d : Nat) (xr : MMetaSlab (MTree r d)) (ty cnt seed : Nat) (h : MHdr) (s1 : MHSt r) (x0 : Option DX),
    xr.childHdrs = [h] → xr.childHdrs = xr.children.map (MTree.hdr d) →
    mds_RootPreR QR addr s1 ⟨d + 1, xr, ty, cnt, seed⟩ x0 →
    ∃ s2, rs.promote (md_map ⟨d + 1, xr, ty, cnt, seed⟩ s1) h.id =
        (none, md_map (OMap.promoteIfSingleChild ⟨d + 1, xr, ty, cnt, seed⟩ s1.ctx).1 s2) ∧
      s2.ctx = (OMap.promoteIfSingleChild ⟨d + 1, xr, ty, cnt, seed⟩ s1.ctx).2 ∧ s2.popped = s1.popped ∧
      mds_RootPreR QR addr s2 (OMap.promoteIfSingleChild ⟨d + 1, xr, ty, cnt, seed⟩ s1.ctx).1
        (some (md_extra (OMap.promoteIfSingleChild ⟨d + 1, xr, ty, cnt, seed⟩ s1.ctx).1)) ∧
      mds_Delta s1.heap s2.heap (md_ids (d + 1) xr)
        (md_ids _ (OMap.promoteIfSingleChild ⟨d + 1, xr, ty, cnt, seed⟩ s1.ctx).1.root)
  splitRoot : ∀ (addr : Nat) (m2 : OMap r) (s2 : MHSt r) (x0 : Option DX),
    mds_RootPreR QR addr s2 m2 x0 → MTree.isFull T m2.d m2.root = true →
    match m2.splitRoot s2.ctx with
    | .ok (m3, c3) =>
      ∃ s3, rs.splitRoot (md_map m2 s2) = (none, md_map m3 s3) ∧ s3.ctx = c3 ∧ s3.popped = s2.popped ∧
        mds_RootPreR QR addr s3 m3 (some (md_extra m3)) ∧
        mds_Delta s2.heap s3.heap (md_ids m2.d m2.root) (md_ids m3.d m3.root)
    | .error e => ∃ M', rs.splitRoot (md_map m2 s2) = (some e, M')

theorem mds_RootPre.toR {Q : (d : Nat) → MTree r d → Prop} {addr : Nat} {s : MHSt r} {m : OMap r} {x0 : Option DX}
    (h : mds_RootPre Q addr s m x0) : mds_RootPreR (fun m => Q m.d m.root) addr s m x0 :=
  ⟨h.held, h.nodup, h.addrOk, h.ff, h.inv⟩

theorem mds_RootPreR.ofR {Q : (d : Nat) → MTree r d → Prop} {addr : Nat} {s : MHSt r} {m : OMap r} {x0 : Option DX}
    (h : mds_RootPreR (fun m => Q m.d m.root) addr s m x0) : mds_RootPre Q addr s m x0 :=
  ⟨h.held, h.nodup, h.addrOk, h.ff, h.inv⟩

/-- a tree-level provider invariant is the handle-level invariant "`Q` of the root" -/
theorem MRootTail.toR {T : Nat} {rs : DRestruct r} {Q : (d : Nat) → MTree r d → Prop} (h : MRootTail T rs Q) :
    MRootTailR T rs (fun m => Q m.d m.root) where
  promote := fun addr d xr ty cnt seed hd s1 x0 h1 h2 hp => by
    obtain ⟨s2, a, b, c, e, f⟩ := h.promote addr d xr ty cnt seed hd s1 x0 h1 h2 hp.ofR
    exact ⟨s2, a, b, c, e.toR, f⟩
  splitRoot := fun addr m2 s2 x0 hp hf => by
    have ht := h.splitRoot addr m2 s2 x0 hp.ofR hf
    cases hsp : m2.splitRoot s2.ctx with
    | error e => rw [hsp] at ht; exact ht
    | ok p =>
      rw [hsp] at ht
      obtain ⟨s3, a, b, c, e, f⟩ := ht
      exact ⟨s3, a, b, c, e.toR, f⟩

theorem mds_tree_extra (d : Nat) (t : MTree r d) (x : Option DX) : (md_tree d t x).extraData_ = x := by
  cases d <;> rfl

theorem mds_tree_withExtra (d : Nat) (t : MTree r d) (x y : Option DX) :
    (md_tree d t x).with_extraData_ y = md_tree d t y := by
  cases d <;> rfl

section
variable (T : Nat) (eb : DEnvB r) (rs : DRestruct r) (Q : (d : Nat) → MTree r d → Prop) (QR : OMap r → Prop)

/-- `if m.root.IsFull() { m.splitRoot() }` against the model's `splitRootIfFull` -/
theorem mds_topFinish_modelR (hR : MRootTailR T rs QR) (hT1 : maxThr T < 2^32) (addr : Nat) (m2 : OMap r) (s2 : MHSt r)
    (x2 : Option DX) (o : Option SV) (hpre : mds_RootPreR QR addr s2 m2 x2)
    (hsz : (MTree.hdr m2.d m2.root).size < 2^32) :
    match m2.splitRootIfFull T s2.ctx with
    | .ok (m3, c3) =>
      ∃ s3 x3, mds_topFinish (envD T eb rs) (md_map m2 s2) o = some (o, none, md_map m3 s3) ∧ s3.ctx = c3 ∧
        s3.popped = s2.popped ∧ mds_RootPreR QR addr s3 m3 x3 ∧
        mds_Delta s2.heap s3.heap (md_ids m2.d m2.root) (md_ids m3.d m3.root)
    | .error e => ∃ M', mds_topFinish (envD T eb rs) (md_map m2 s2) o = some (none, some e, M') := by
  have hfull : MapSlab_IsFull (envD T eb rs) (md_map m2 s2).root = some (MTree.isFull T m2.d m2.root) :=
    mds_isFull_tree T eb rs m2.d m2.root _ hsz hT1
  rw [mds_topFinish_envD, hfull]
  unfold OMap.splitRootIfFull
  cases hf : MTree.isFull T m2.d m2.root with
  | false =>
    simp only [Bool.false_eq_true, if_false]
    exact ⟨s2, x2, rfl, rfl, rfl, hpre, mds_Delta.refl _ _⟩
  | true =>
    simp only [if_true]
    have ht := hR.splitRoot addr m2 s2 x2 hpre hf
    rcases hsp : m2.splitRoot s2.ctx with e | ⟨m3, c3⟩
    · rw [hsp] at ht
      obtain ⟨M', hr⟩ := ht
      exact ⟨M', by rw [hr]; rfl⟩
    · rw [hsp] at ht
      obtain ⟨s3, hr, hc, hpp, hpre3, hdl⟩ := ht
      exact ⟨s3, _, by rw [hr]; rfl, hc, hpp, hpre3, hdl⟩

/-- the promotion of a single child against the model's `promoteIfSingleChild` -/
theorem mds_topPromote_modelR (hR : MRootTailR T rs QR)
    (hQRhdrs : ∀ d (xr : MMetaSlab (MTree r d)) ty cnt seed, QR ⟨d + 1, xr, ty, cnt, seed⟩ →
      xr.childHdrs = xr.children.map (MTree.hdr d))
    (addr : Nat) (m1 : OMap r) (s1 : MHSt r) (x1 : Option DX) (o : Option SV) (hpre : mds_RootPreR QR addr s1 m1 x1) :
    ∃ s2 x2, mds_topPromote (envD T eb rs) (md_map m1 s1) o =
        mds_topFinish (envD T eb rs) (md_map (m1.promoteIfSingleChild s1.ctx).1 s2) o ∧
      s2.ctx = (m1.promoteIfSingleChild s1.ctx).2 ∧ s2.popped = s1.popped ∧
      mds_RootPreR QR addr s2 (m1.promoteIfSingleChild s1.ctx).1 x2 ∧
      mds_Delta s1.heap s2.heap (md_ids m1.d m1.root) (md_ids _ (m1.promoteIfSingleChild s1.ctx).1.root) := by
  obtain ⟨d, root, ty, cnt, seed⟩ := m1
  cases d with
  | zero => exact ⟨s1, x1, rfl, rfl, rfl, hpre, mds_Delta.refl _ _⟩
  | succ d =>
    have hc : MMetaSlab.childHdrs root = (MMetaSlab.children root).map (MTree.hdr d) := hQRhdrs d root ty cnt seed hpre.inv
    rw [mds_topPromote_envD]
    rcases hch : MMetaSlab.childHdrs root with _ | ⟨h, _ | ⟨h2, tl⟩⟩
    · have hm : OMap.promoteIfSingleChild ⟨d + 1, root, ty, cnt, seed⟩ s1.ctx = (⟨d + 1, root, ty, cnt, seed⟩, s1.ctx) := by
        simp only [OMap.promoteIfSingleChild, hch]
      rw [hm]
      refine ⟨s1, x1, ?_, rfl, rfl, hpre, mds_Delta.refl _ _⟩
      simp only [md_map, md_tree, md_meta, hch, List.map_nil]
    · have ht := hR.promote addr d root ty cnt seed h s1 x1 hch hc hpre
      obtain ⟨s2, hr, hc2, hpp, hpre2, hdl⟩ := ht
      refine ⟨s2, _, ?_, hc2, hpp, hpre2, hdl⟩
      have hroot : (md_map (⟨d + 1, root, ty, cnt, seed⟩ : OMap r) s1).root =
          .metaSlab (md_meta root (some (md_extra (⟨d + 1, root, ty, cnt, seed⟩ : OMap r)))) := rfl
      simp only [hroot, md_meta, hch, List.map_cons, List.map_nil, md_hdr]
      rw [hr]
      rfl
    · have hm : OMap.promoteIfSingleChild ⟨d + 1, root, ty, cnt, seed⟩ s1.ctx = (⟨d + 1, root, ty, cnt, seed⟩, s1.ctx) := by
        simp only [OMap.promoteIfSingleChild, hch]
      rw [hm]
      refine ⟨s1, x1, ?_, rfl, rfl, hpre, mds_Delta.refl _ _⟩
      simp only [md_map, md_tree, md_meta, hch, List.map_cons]

/-- `OrderedMap.remove` spells the same tail with the removed key and value in the result -/
theorem mdr_topTail_eq (a o : Option SV) (M : DMap r) :
    mdr_topTail T eb rs a o M =
      (mds_topPromote (envD T eb rs) M o).map
        (fun q => if q.2.1.isNone then (a, q.1, none, q.2.2) else (none, none, q.2.1, q.2.2)) := by
  rw [mds_topPromote_envD]
  unfold mdr_topTail mdr_promoteStep
  have fin : ∀ M' : DMap r, (match MapSlab_IsFull (envD T eb rs) M'.root with
      | none => none
      | some true =>
        if (!(rs.splitRoot M').1.isNone) then some (none, none, (rs.splitRoot M').1, (rs.splitRoot M').2)
        else some (a, o, none, (rs.splitRoot M').2)
      | some false => some (a, o, none, M')) =
      (mds_topFinish (envD T eb rs) M' o).map
        (fun q => if q.2.1.isNone then (a, q.1, none, q.2.2) else (none, none, q.2.1, q.2.2)) := by
    intro M'
    rw [mds_topFinish_envD]
    cases MapSlab_IsFull (envD T eb rs) M'.root with
    | none => rfl
    | some f =>
      cases f with
      | false => rfl
      | true =>
        dsimp only
        rcases rs.splitRoot M' with ⟨_ | e, M''⟩ <;> rfl
  rcases hM : M.root with _ | o' | ⟨hdr, chs, xd⟩
  · simp only [Option.isNone_none, Bool.not_true, Bool.false_eq_true, if_false, hM]
    rfl
  · simp only [Option.isNone_none, Bool.not_true, Bool.false_eq_true, if_false]
    exact fin M
  · rcases chs with _ | ⟨h, _ | ⟨h2, tl⟩⟩
    · simp only [Option.isNone_none, Bool.not_true, Bool.false_eq_true, if_false]
      exact fin M
    · dsimp only
      rcases hp : rs.promote M h.slabID with ⟨_ | e, M'⟩
      · simp only [Option.isNone_none, Bool.not_true, Bool.false_eq_true, if_false]
        exact fin M'
      · rfl
    · simp only [Option.isNone_none, Bool.not_true, Bool.false_eq_true, if_false]
      exact fin M

/-- The top of `OrderedMap.set` / `OrderedMap.remove` after the tree-level operation (post-condition `mds_Post` from
    `(m.root, s)` to `(root', s1)`) and the count update (`n` = the new count): promotion of a single child, root split,
    against the model's `promoteIfSingleChild` and `splitRootIfFull`; the heap change is composed with the tree-level
    one.  `QR` is the handle-level invariant the hypotheses on `rs.promote` / `rs.splitRoot` assume and re-establish. -/
theorem md_top (addr : Nat) (hR : MRootTailR T rs QR)
    (hQRhdrs : ∀ d (xr : MMetaSlab (MTree r d)) ty cnt seed, QR ⟨d + 1, xr, ty, cnt, seed⟩ →
      xr.childHdrs = xr.children.map (MTree.hdr d))
    (hT1 : maxThr T < 2^32) (m : OMap r) (s s1 : MHSt r) (root' : MTree r m.d) (n : Nat) (x : Option DX) (o : Option SV)
    (hpost : mds_Post addr s s1 m.d m.root root' x) (hQR : QR ({ m with root := root', count := n } : OMap r))
    (hsz : (MTree.hdr _ (OMap.promoteIfSingleChild ({ m with root := root', count := n } : OMap r) s1.ctx).1.root).size
      < 2^32) :
    match (OMap.promoteIfSingleChild ({ m with root := root', count := n } : OMap r) s1.ctx).1.splitRootIfFull T
        (OMap.promoteIfSingleChild ({ m with root := root', count := n } : OMap r) s1.ctx).2 with
    | .ok (m3, c3) =>
      ∃ s3 x3, mds_topPromote (envD T eb rs) (md_map ({ m with root := root', count := n } : OMap r) s1) o =
          some (o, none, md_map m3 s3) ∧
        s3.ctx = c3 ∧ s3.popped = s1.popped ∧ mds_RootPreR QR addr s3 m3 x3 ∧
        mds_Delta s.heap s3.heap (md_ids m.d m.root) (md_ids m3.d m3.root)
    | .error e =>
      ∃ M', mds_topPromote (envD T eb rs) (md_map ({ m with root := root', count := n } : OMap r) s1) o =
        some (none, some e, M') := by
  generalize hm1 : ({ m with root := root', count := n } : OMap r) = m1 at hsz hQR
  have hpre1 : mds_RootPreR QR addr s1 m1 x := by
    subst hm1
    exact ⟨hpost.holds, hpost.nodup, hpost.addrOk, hpost.ff, hQR⟩
  have hids1 : md_ids m1.d m1.root = md_ids m.d root' := by subst hm1; rfl
  obtain ⟨s2, x2, hg2, hc2, hp2, hpre2, hdl2⟩ := mds_topPromote_modelR T eb rs QR hR hQRhdrs addr m1 s1 _ o hpre1
  have hfin := mds_topFinish_modelR T eb rs QR hR hT1 addr (m1.promoteIfSingleChild s1.ctx).1 s2 x2 o hpre2 hsz
  rw [hc2] at hfin
  rcases hsp : OMap.splitRootIfFull T (m1.promoteIfSingleChild s1.ctx).1 (m1.promoteIfSingleChild s1.ctx).2
    with e | ⟨m3, c3⟩
  · rw [hsp] at hfin
    obtain ⟨M', hr⟩ := hfin
    exact ⟨M', by rw [hg2, hr]⟩
  · rw [hsp] at hfin
    obtain ⟨s3, x3, hr, hc3, hp3, hpre3, hdl3⟩ := hfin
    exact ⟨s3, x3, by rw [hg2, hr], hc3, by rw [hp3, hp2], hpre3, (hpost.delta.trans (hids1 ▸ hdl2)).trans hdl3⟩

/-- the model's `OMap.set` with its three stages named -/
theorem mds_OMap_set_eq (cfg : MCfg) (m : OMap r) (k : MKey) (v : Elem) (c : Ctx) :
    OMap.set cfg m k v c =
      match MTree.set cfg m.d m.root k v c with
      | .error e => .error e
      | .ok (_, old, root', c1) =>
        match (OMap.promoteIfSingleChild
            ({ m with root := root', count := if old.isNone then m.count + 1 else m.count } : OMap r) c1).1.splitRootIfFull
            cfg.T (OMap.promoteIfSingleChild
            ({ m with root := root', count := if old.isNone then m.count + 1 else m.count } : OMap r) c1).2 with
        | .error e => .error e
        | .ok (m3, c3) => .ok (old, m3, c3) := by
  simp only [OMap.set, bind, Except.bind, pure, Except.pure]
  rcases MTree.set cfg m.d m.root k v c with e | ⟨ks, old, root', c1⟩
  · rfl
  · simp only []
    rcases OMap.splitRootIfFull cfg.T _ _ with e | ⟨m3, c3⟩ <;> rfl

/-- The top level of `OrderedMap.set` after the tree-level `Set` (`hT`: the relation at the root, however it was
    obtained): count, then `md_top`, against the model's `OMap.set`.  `hQRset`: the handle after the tree-level `set`
    (new root, new count) satisfies `QR`. -/
theorem mds_set_top (cfg : MCfg) (k : MKey) (v : Elem) (hR : MRootTailR cfg.T rs QR)
    (hQRhdrs : ∀ d (xr : MMetaSlab (MTree r d)) ty cnt seed, QR ⟨d + 1, xr, ty, cnt, seed⟩ →
      xr.childHdrs = xr.children.map (MTree.hdr d))
    (hT1 : maxThr cfg.T < 2^32) (m : OMap r) (s : MHSt r) (depth : Nat)
    (hT : MdRel (md_opSet eb rs cfg k v) (mds_Up cfg) (fun _ _ _ _ _ _ => True) depth m.d m.root (some (md_extra m)) s)
    (hQRset : ∀ ks old root' c1, MTree.set cfg m.d m.root k v s.ctx = .ok (ks, old, root', c1) →
      QR ({ m with root := root', count := if old.isNone then m.count + 1 else m.count } : OMap r))
    (hszR : ∀ ks old root' c1, MTree.set cfg m.d m.root k v s.ctx = .ok (ks, old, root', c1) →
      (MTree.hdr _ (OMap.promoteIfSingleChild
        ({ m with root := root', count := if old.isNone then m.count + 1 else m.count } : OMap r) c1).1.root).size < 2^32) :
    match OMap.set cfg m k v s.ctx with
    | .ok (old, m', c') =>
      ∃ s' x', OrderedMap_set (envD cfg.T eb rs) depth (md_map m s) (.key k) (.val v) =
          some (old.map .val, none, md_map m' s') ∧
        s'.ctx = c' ∧ s'.popped = s.popped ∧ mds_RootPreR QR cfg.addr s' m' x' ∧
        mds_Delta s.heap s'.heap (md_ids m.d m.root) (md_ids m'.d m'.root)
    | .error e => ∃ M', OrderedMap_set (envD cfg.T eb rs) depth (md_map m s) (.key k) (.val v) = some (none, some e, M') := by
  unfold MdRel at hT
  dsimp only [md_opSet, mds_Up] at hT
  rw [mds_OMap_set_eq]
  rcases hq : MTree.set cfg m.d m.root k v s.ctx with e | ⟨ks, old, root', c1⟩
  · rw [hq] at hT
    obtain ⟨root'', s'', hg, -⟩ := hT
    exact ⟨_, Ob_OrderedMap_set_step_err cfg.T eb rs (md_map m s) k (.val v) depth none none e root'' s'' hg⟩
  · rw [hq] at hT
    obtain ⟨s1, h1, h2, h3, hpost⟩ := hT
    subst h2
    have hcount : mds_topCount ({ Storage := s1, root := md_tree m.d root' (some (md_extra m)), digesterBuilder := () } :
        DMap r) (old.map .val) =
        some (md_map ({ m with root := root', count := if old.isNone then m.count + 1 else m.count } : OMap r) s1) := by
      unfold mds_topCount
      cases old with
      | none =>
        simp only [Option.map_none, Option.isNone_none, if_true, mds_tree_extra, mds_tree_withExtra]
        show some _ = some _
        congr 1
        show _ = md_map _ s1
        have e : u64 m.count + 1 = u64 (m.count + 1) := u64_succ m.count
        unfold md_map md_extra
        simp only [if_true, e]
      | some ov =>
        simp only [Option.map_some, Option.isNone_some, Bool.false_eq_true, if_false]
        rfl
    have hgen : OrderedMap_set (envD cfg.T eb rs) depth (md_map m s) (.key k) (.val v) =
        mds_topPromote (envD cfg.T eb rs)
          (md_map ({ m with root := root', count := if old.isNone then m.count + 1 else m.count } : OMap r) s1)
          (old.map .val) := by
      rw [Ob_OrderedMap_set_step_map cfg.T eb rs m s k v depth (.key ks) (old.map .val) _ s1 h1]
      unfold mds_topSpec
      rw [hcount]
    have key := md_top cfg.T eb rs QR cfg.addr hR hQRhdrs hT1 m s s1 root' _ _ (old.map .val) hpost
      (hQRset ks old root' s1.ctx hq) (hszR ks old root' s1.ctx hq)
    rw [hgen]
    dsimp only
    revert key
    rcases OMap.splitRootIfFull cfg.T _ _ with e | ⟨m3, c3⟩
    · exact id
    · rintro ⟨s3, x3, hr, hc3, hp3, hpre3, hdl⟩
      exact ⟨s3, x3, hr, hc3, by rw [hp3, h3], hpre3, hdl⟩

/-- The whole `OMap.set` over the heap, given the tails: for a handle `m` whose tree the heap holds (`mds_RootPre`), the
    generated `OrderedMap.set` returns `(old value, nil, md_map m' s')` for the model's
    `OMap.set cfg m k v s.ctx = .ok (old, m', c')`, with `s'.ctx = c'`, the handle invariant re-established for `m'` (the
    heap holds `m'.root`; the stored root carries the extra data `x'`: the handle's own after a promotion / root split,
    else the one `Set` stored, i.e. the OLD count) and the heap changed as `mds_Delta` says; a model error comes back.
    `hszR`: the size of the (possibly promoted) root fits `uint32`. -/
theorem Ob_OrderedMap_set_heap_of_tails (cfg : MCfg) (k : MKey) (v : Elem) (P : DG r → Prop)
    (hE : ElemsSpec cfg k v P eb) (hS : MSplitTail cfg.T rs Q) (hM : MMorTail cfg.T rs Q) (hR : MRootTail cfg.T rs Q)
    (hQset : ∀ d (t t' : MTree r d) ks old c c', Q d t → MTree.set cfg d t k v c = .ok (ks, old, t', c') → Q d t')
    (hQhdrs : ∀ d (m : MMetaSlab (MTree r d)), Q (d + 1) m → m.childHdrs = m.children.map (MTree.hdr d))
    (hmono : ∀ (sl : MDataSlab r) c ks old sl' c', MDataSlab.set cfg sl k v c = .ok (ks, old, sl', c') → c.ctr ≤ c'.ctr)
    (hT1 : maxThr cfg.T < 2^32) (hT2 : minThr cfg.T < 2^32) (hhk : k.dig 0 < 2^64)
    (m : OMap r) (s : MHSt r) (x0 : Option DX) (depth : Nat) (hd : m.d ≤ depth)
    (hpre : mds_RootPre Q cfg.addr s m x0) (hroot : mds_rootFlag m.d m.root = true)
    (hp : mds_PathF cfg k v P Q m.d m.root s.ctx)
    (hszR : ∀ ks old root' c1, MTree.set cfg m.d m.root k v s.ctx = .ok (ks, old, root', c1) →
      (MTree.hdr _ (OMap.promoteIfSingleChild
        ({ m with root := root', count := if old.isNone then m.count + 1 else m.count } : OMap r) c1).1.root).size < 2^32) :
    match OMap.set cfg m k v s.ctx with
    | .ok (old, m', c') =>
      ∃ s' x', OrderedMap_set (envD cfg.T eb rs) depth (md_map m s) (.key k) (.val v) =
          some (old.map .val, none, md_map m' s') ∧
        s'.ctx = c' ∧ s'.popped = s.popped ∧ mds_RootPre Q cfg.addr s' m' x' ∧
        mds_Delta s.heap s'.heap (md_ids m.d m.root) (md_ids m'.d m'.root)
    | .error e => ∃ M', OrderedMap_set (envD cfg.T eb rs) depth (md_map m s) (.key k) (.val v) = some (none, some e, M') := by
  have h := mds_set_top eb rs (fun m => Q m.d m.root) cfg k v hR.toR (fun d xr _ _ _ h => hQhdrs d xr h) hT1 m s depth
    (mds_set_heap_of_tailsR eb rs (fun _ => True) cfg k v P (fun _ => True) Q Q hE hS
      (fun addr d m1 x child' k u s1 hpre _ => hM addr d m1 x child' k u s1 hpre) (fun _ _ h => h) hQset
      (fun sl c ks old sl' c' _ hq => hmono sl c ks old sl' c' hq) hT1 hT2 hhk m.d depth m.root
      (some (md_extra m)) x0 s hd hpre.held (by rw [hroot]; rfl) hpre.nodup hpre.addrOk hpre.ff
      (hp.toG m.d m.root s.ctx))
    (fun ks old root' c1 hq => hQset m.d m.root root' ks old _ _ hpre.inv hq) hszR
  cases hs : OMap.set cfg m k v s.ctx with
  | error e => rw [hs] at h; exact h
  | ok p =>
    obtain ⟨old, m', c'⟩ := p
    rw [hs] at h
    obtain ⟨s', x', a, b, c, e, f⟩ := h
    exact ⟨s', x', a, b, c, e.ofR, f⟩

end

end

/-! the non-tail hypotheses are satisfiable: the concrete 2-child tree of `mdsEx` (threshold 40, model element layer).
    The tail hypotheses (and the counter monotonicity of the model's `MDataSlab.set`) stay hypotheses here: they are
    discharged for `rsOf T` by Props/TransMapDescentTail*.lean. -/
namespace mdsEx

theorem ex_ff : mds_FreshFree (r := 0) cfg2.addr s2 := by
  intro id _ hlt
  have h0 : id ≠ id0 := fun e => by rw [e] at hlt; exact absurd hlt (by decide)
  have h1 : id ≠ id1 := fun e => by rw [e] at hlt; exact absurd hlt (by decide)
  have h2 : id ≠ id2 := fun e => by rw [e] at hlt; exact absurd hlt (by decide)
  show (if id = id0 then _ else if id = id1 then _ else if id = id2 then _ else none) = none
  rw [if_neg h0, if_neg h1, if_neg h2]

theorem ex_pathF : mds_PathF (r := 0) cfg2 kk vv (fun _ => True) (fun _ _ => True) 1 mm s2.ctx := by
  refine ⟨by decide, by decide, rfl, fun _ _ => trivial, d2, rfl, rfl, ⟨trivial, rfl, rfl⟩, ?_⟩
  intro ks old child' c1 h
  have hv := ex_child_ok
  rw [h] at hv
  simp only [Bool.and_eq_true, decide_eq_true_eq, Bool.not_eq_true', Option.isNone_iff_eq_none] at hv
  exact hv.1.1

example (rs : DRestruct 0) (hS : MSplitTail cfg2.T rs (fun _ _ => True)) (hM : MMorTail cfg2.T rs (fun _ _ => True))
    (hmono : ∀ (sl : MDataSlab 0) c ks old sl' c', MDataSlab.set cfg2 sl kk vv c = .ok (ks, old, sl', c') → c.ctr ≤ c'.ctr) :=
  Ob_MapSlab_Set_heap_of_tails eb2 rs cfg2 kk vv (fun _ => True) (fun _ _ => True) (eb2_spec kk vv) hS hM
    (fun _ _ _ _ _ _ _ _ _ => trivial) hmono (by decide) (by decide) (by decide) 1 1 mm (some xx) (some xx) s2
    (Nat.le_refl 1) ⟨rfl, fun c hc => by
      rcases List.mem_cons.mp hc with rfl | hc
      · rfl
      · rcases List.mem_cons.mp hc with rfl | hc
        · rfl
        · cases hc⟩ rfl (by decide) (by decide) ex_ff ex_pathF

end mdsEx

end Atree.TransEq

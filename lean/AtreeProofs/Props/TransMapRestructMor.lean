import AtreeProofs.Trans.MapRestruct
import AtreeProofs.Props.TransMapSlabsTree
/-
  Merge / rebalance side of the restructuring: the GENERATED restructuring code of `Gen/TransMapSlabs.lean`
  (`MapMetaDataSlab.rebalanceChildren / mergeChildren / MergeOrRebalanceChildSlab`), run over the HEAP of the map descent
  (`envMH T`, Trans/MapRestruct.lean), against the model (`MMetaSlab.rebalanceChildren / mergeChildren /
  mergeOrRebalanceChildSlab`, Map/Tree.lean).  Props/TransMapSlabsTree.lean states
  `rebalanceChildren` / `mergeChildren` for any storage; here they are read with the storage that keeps the content, so the
  state after is an explicit chain of `MHSt.store / remove`, and the siblings are READ from the heap.
-/
namespace Atree.TransEq
open Atree Atree.Gen.TransMap Atree.Core

section heap
variable {r : Nat} (T : Nat)

/-- `getMapSlab` when the heap holds the translation of a subtree root -/
theorem mrm_getMapSlab_heap (s : MHSt r) (id : SlabID) (d : Nat) (t : MTree r d)
    (h : s.heap id = some (md_tree d t none)) :
    getMapSlab (envMH T) s id = (cTree d t, none, s) :=
  getMapSlab_cTree (envMH T) s s id d t (by simp only [envMH_retrieve, h, mr_toM_md_tree_none])

/-- `getMapSlab` when the heap has nothing under the identifier: `SlabNotFoundError`, nothing changed -/
theorem mrm_getMapSlab_heap_none (s : MHSt r) (id : SlabID) (h : s.heap id = none) :
    getMapSlab (envMH T) s id = (.nil, some .slabNotFound, s) := by
  simp only [getMapSlab, envMH_retrieve, h, Option.isNone_none, Bool.not_true, Bool.false_eq_true, if_false,
    Bool.not_false, if_true, envMH_snf]

/-- `storeSlab` of a subtree root: the heap holds its descent translation afterwards -/
theorem mrm_storeSlab_heap (s : MHSt r) (d : Nat) (t : MTree r d) (hf : mr_RootFit d t) :
    storeSlab (envMH T) s (cTree d t) = some (none, s.store (MTree.hdr d t).id (md_tree d t none)) := by
  rw [(envMH_ok T).storeSlab_tree, envMH_mstored, mr_fromM_cTree d t hf]

/-- `storeSlab` of an index slab (the parent, with its extra data) -/
theorem mrm_storeSlab_meta {α : Type} (s : MHSt r) (m : MMetaSlab α) (x : Option DX) :
    storeSlab (envMH T) s (.metaSlab (cMeta m x)) = some (none, s.store m.hdr.id (.metaSlab (md_meta m x))) := by
  rw [(envMH_ok T).storeSlab_meta, envMH_mstored, mr_fromM_cMeta]
  rfl

/-- the two lend decisions of `envMH` on the translation of a subtree root ARE the model's -/
theorem mrm_canLend (b : Bool) (d : Nat) (t : MTree r d) (n : Nat) (hn : n < 2^32)
    (hf : mr_RootFit d t) (hs : (MTree.hdr d t).size < 2^32) :
    mr_canLend T b (cTree d t) (u32 n) =
      (if b then MTree.canLendToRight T d t n else MTree.canLendToLeft T d t n) := by
  cases d with
  | zero =>
    have e : (mr_modelData (cData (V := SV) (X := DX) (t : MDataSlab r) none)).elems = (t : MDataSlab r).elems :=
      mr_dH_cH _ hf
    cases b <;>
      simp only [cTree, mr_canLend, e, u32_toNat hn, MTree.canLendToLeft, MTree.canLendToRight,
        MDataSlab.canLendToLeft, MDataSlab.canLendToRight, MDataSlab.eops, if_true, Bool.false_eq_true, if_false]
  | succ d =>
    have hs' := hs
    simp only [MTree.hdr] at hs'
    cases b <;>
      simp only [cTree, cMeta, cHdr, mr_canLend, MMetaSlab.canLend, u32_toNat hn, u32_toNat hs', MTree.canLendToLeft,
        MTree.canLendToRight, if_true, Bool.false_eq_true, if_false]

end heap

section heapOps
variable {r : Nat} (T : Nat)

/-- the heap after `rebalanceChildren`: `Store` left, `Store` right, `Store` parent -/
def mrm_rebHeap {α : Type} (s : MHSt r) (d : Nat) (l' r' : MTree r d) (m' : MMetaSlab α) (x : Option DX) : MHSt r :=
  ((s.store (MTree.hdr d l').id (md_tree d l' none)).store (MTree.hdr d r').id (md_tree d r' none)).store
    m'.hdr.id (.metaSlab (md_meta m' x))

/-- the heap after `mergeChildren`: `Store` merged, `Store` parent, `Remove` right -/
def mrm_mergeHeap {α : Type} (s : MHSt r) (d : Nat) (merged : MTree r d) (m' : MMetaSlab α) (x : Option DX)
    (rid : SlabID) : MHSt r :=
  ((s.store (MTree.hdr d merged).id (md_tree d merged none)).store m'.hdr.id (.metaSlab (md_meta m' x))).remove rid

/-- `MapMetaDataSlab.rebalanceChildren` over the heap = `MMetaSlab.rebalanceChildren`: the reading of
    `MapMetaDataSlab_rebalanceChildren_any` in which `Store` writes the descent's records.  `hfit`: the data-slab fields of
    the two results are in `uint` range. -/
theorem Ob_rebalanceChildren_heap (d : Nat)
    (m : MMetaSlab (MTree r d)) (x : Option DX) (l rr : MTree r d) (li ri : Nat) (b : Bool) (s : MHSt r)
    (hli : li < m.childHdrs.length) (hri : ri < m.childHdrs.length) (hok : msl_RebalanceOK T d l rr b)
    (hfit : mr_RootFit d (msl_rebalanced T d l rr b).1 ∧ mr_RootFit d (msl_rebalanced T d l rr b).2) :
    MapMetaDataSlab_rebalanceChildren (envMH T) (cMeta m x) s (cTree d l) (cTree d rr) (Int.ofNat li) (Int.ofNat ri) b =
      match MMetaSlab.rebalanceChildren T m l rr li ri b s.ctx with
      | .error e => some (some e, cMeta m x, s, cTree d l, cTree d rr)
      | .ok (m', _) =>
        some (none, cMeta m' x,
          mrm_rebHeap s d (msl_rebalanced T d l rr b).1 (msl_rebalanced T d l rr b).2 m' x,
          cTree d (msl_rebalanced T d l rr b).1, cTree d (msl_rebalanced T d l rr b).2) := by
  rw [MapMetaDataSlab_rebalanceChildren_any T (envMH T) (envMH_EnvH T) (envMH_ok T) d m x l rr li ri b s s.ctx hli hri hok]
  cases MMetaSlab.rebalanceChildren T m l rr li ri b s.ctx with
  | error e => rfl
  | ok p => simp only [envMH_mstored, mr_fromM_cTree _ _ hfit.1, mr_fromM_cTree _ _ hfit.2, mr_fromM_cMeta, mrm_rebHeap]

/-- `MapMetaDataSlab.mergeChildren` over the heap = `MMetaSlab.mergeChildren`: the reading of
    `MapMetaDataSlab_mergeChildren_any` in which `Store` writes the descent's records. -/
theorem Ob_mergeChildren_heap (d : Nat)
    (m : MMetaSlab (MTree r d)) (x : Option DX) (l rr : MTree r d) (li ri : Nat) (s : MHSt r)
    (hli : li < m.childHdrs.length) (hri : ri < m.childHdrs.length)
    (hsz : Gen.mapSlabHeaderSize ≤ m.hdr.size) (hok : msl_MergeOK d l rr)
    (hfit : mr_RootFit d (MTree.merge d l rr)) :
    MapMetaDataSlab_mergeChildren (envMH T) (cMeta m x) s (cTree d l) (cTree d rr) (Int.ofNat li) (Int.ofNat ri) =
      some (none, cMeta (MMetaSlab.mergeChildren m l rr li ri s.ctx).1 x,
        mrm_mergeHeap s d (MTree.merge d l rr) (MMetaSlab.mergeChildren m l rr li ri s.ctx).1 x (MTree.hdr d rr).id,
        cTree d (MTree.merge d l rr)) := by
  rw [MapMetaDataSlab_mergeChildren_any (envMH T) (envMH_ok T) d m x l rr li ri s s.ctx hli hri hsz hok,
    envMH_mremoved, envMH_mstored, envMH_mstored, mr_fromM_cTree _ _ hfit, mr_fromM_cMeta]
  rfl

end heapOps

section mor
variable {r : Nat} (T : Nat)

theorem mrm_canLendR (d : Nat) (t : MTree r d) (n : Nat) (hn : n < 2^32)
    (hf : mr_RootFit d t) (hs : (MTree.hdr d t).size < 2^32) :
    (envMH T).MapSlab_CanLendToRight (cTree d t) (u32 n) = MTree.canLendToRight T d t n := by
  have h := mrm_canLend T true d t n hn hf hs
  simpa using h

theorem mrm_canLendL (d : Nat) (t : MTree r d) (n : Nat) (hn : n < 2^32)
    (hf : mr_RootFit d t) (hs : (MTree.hdr d t).size < 2^32) :
    (envMH T).MapSlab_CanLendToLeft (cTree d t) (u32 n) = MTree.canLendToLeft T d t n := by
  have h := mrm_canLend T false d t n hn hf hs
  simpa using h

/-- the heap after the `rebalanceChildren` call of a branch (unchanged when the rebalance step fails) -/
def mrm_rebHeapOf (d : Nat) (m : MMetaSlab (MTree r d)) (x : Option DX) (l rr : MTree r d) (li ri : Nat) (b : Bool)
    (s : MHSt r) : MHSt r :=
  match MMetaSlab.rebalanceChildren T m l rr li ri b s.ctx with
  | .ok (m', _) => mrm_rebHeap s d (msl_rebalanced T d l rr b).1 (msl_rebalanced T d l rr b).2 m' x
  | .error _ => s

/-- the heap after the `mergeChildren` call of a branch -/
def mrm_mergeHeapOf (d : Nat) (m : MMetaSlab (MTree r d)) (x : Option DX) (l rr : MTree r d) (li ri : Nat)
    (s : MHSt r) : MHSt r :=
  mrm_mergeHeap s d (MTree.merge d l rr) (MMetaSlab.mergeChildren m l rr li ri s.ctx).1 x (MTree.hdr d rr).id

/-- the heap after `MergeOrRebalanceChildSlab`, by the branch of the 3 x 3 decision table taken (mirrors
    `MMetaSlab.mergeOrRebalanceChildSlab`) -/
def mrm_morHeap (d : Nat) (m : MMetaSlab (MTree r d)) (x : Option DX) (child : MTree r d) (k u : Nat) (s : MHSt r) :
    MHSt r :=
  let leftSib : Option (MTree r d) := if k > 0 then m.children[k - 1]? else none
  let rightSib : Option (MTree r d) := if k + 1 < m.childHdrs.length then m.children[k + 1]? else none
  let leftCanLend := match leftSib with | some l => MTree.canLendToRight T d l u | none => false
  let rightCanLend := match rightSib with | some x => MTree.canLendToLeft T d x u | none => false
  if leftCanLend || rightCanLend then
    match leftSib, rightSib with
    | some l, some y =>
      if !leftCanLend then mrm_rebHeapOf T d m x child y k (k + 1) true s
      else if !rightCanLend then mrm_rebHeapOf T d m x l child (k - 1) k false s
      else if (MTree.hdr d l).size > (MTree.hdr d y).size then mrm_rebHeapOf T d m x l child (k - 1) k false s
      else mrm_rebHeapOf T d m x child y k (k + 1) true s
    | some l, none => mrm_rebHeapOf T d m x l child (k - 1) k false s
    | none, some y => mrm_rebHeapOf T d m x child y k (k + 1) true s
    | none, none => s
  else
    match leftSib, rightSib with
    | none, some y => mrm_mergeHeapOf d m x child y k (k + 1) s
    | some l, none => mrm_mergeHeapOf d m x l child (k - 1) k s
    | some l, some y =>
      if (MTree.hdr d l).size < (MTree.hdr d y).size then mrm_mergeHeapOf d m x l child (k - 1) k s
      else mrm_mergeHeapOf d m x child y k (k + 1) s
    | none, none => s

/-- the heap after the generated `MergeOrRebalanceChildSlab` has carried out a plan -/
def mrm_planHeap (d : Nat) (m : MMetaSlab (MTree r d)) (x : Option DX) (child : MTree r d) (k : Nat) (s : MHSt r) :
    Plan (MTree r d) → MHSt r
  | .panic => s
  | .rebalL l => mrm_rebHeapOf T d m x l child (k - 1) k false s
  | .rebalR y => mrm_rebHeapOf T d m x child y k (k + 1) true s
  | .mergeL l => mrm_mergeHeapOf d m x l child (k - 1) k s
  | .mergeR y => mrm_mergeHeapOf d m x child y k (k + 1) s

theorem mrm_morHeap_eq_plan (d : Nat) (m : MMetaSlab (MTree r d)) (x : Option DX) (child : MTree r d) (k u : Nat)
    (s : MHSt r) :
    mrm_morHeap T d m x child k u s =
      mrm_planHeap T d m x child k s (plan (MTree.canLendToRight T d · u) (MTree.canLendToLeft T d · u)
        (fun t => (MTree.hdr d t).size)
        (if k > 0 then m.children[k - 1]? else none)
        (if k + 1 < m.childHdrs.length then m.children[k + 1]? else none)) := by
  rw [plan_comm (mrm_planHeap T d m x child k s)]
  unfold mrm_morHeap
  generalize (if k > 0 then m.children[k - 1]? else none) = L
  generalize (if k + 1 < m.childHdrs.length then m.children[k + 1]? else none) = R
  rcases L with _ | l <;> rcases R with _ | y <;> rfl

/-- The 3 x 3 decision table of `MergeOrRebalanceChildSlab`, once: the model's result, the heap after (`mrm_morHeap`)
    and the child object after (`msl_morChild`) are taken from the same one of five leaves - no sibling, rebalance
    with the left / right sibling (which can lend), merge into the left / with the right sibling. -/
theorem mrm_mor_cases (d : Nat) (m : MMetaSlab (MTree r d)) (x : Option DX) (child : MTree r d) (k u : Nat) (s : MHSt r)
    (P : Except MErr (MMetaSlab (MTree r d) × Ctx) → MHSt r → MTree r d → Prop)
    (noSib : P (.error .goPanic) s child)
    (rebL : ∀ l, 0 < k → m.children[k - 1]? = some l → MTree.canLendToRight T d l u = true →
      P (MMetaSlab.rebalanceChildren T m l child (k - 1) k false s.ctx) (mrm_rebHeapOf T d m x l child (k - 1) k false s)
        (msl_rebalanced T d l child false).2)
    (rebR : ∀ y, k + 1 < m.childHdrs.length → m.children[k + 1]? = some y → MTree.canLendToLeft T d y u = true →
      P (MMetaSlab.rebalanceChildren T m child y k (k + 1) true s.ctx) (mrm_rebHeapOf T d m x child y k (k + 1) true s)
        (msl_rebalanced T d child y true).1)
    (mrgL : ∀ l, 0 < k → m.children[k - 1]? = some l →
      P (.ok (MMetaSlab.mergeChildren m l child (k - 1) k s.ctx)) (mrm_mergeHeapOf d m x l child (k - 1) k s) child)
    (mrgR : ∀ y, k + 1 < m.childHdrs.length → m.children[k + 1]? = some y →
      P (.ok (MMetaSlab.mergeChildren m child y k (k + 1) s.ctx)) (mrm_mergeHeapOf d m x child y k (k + 1) s)
        (MTree.merge d child y)) :
    P (MMetaSlab.mergeOrRebalanceChildSlab T m child k u s.ctx) (mrm_morHeap T d m x child k u s)
      (msl_morChild T d m child k u) := by
  rw [MMetaSlab.mor_eq_plan, mrm_morHeap_eq_plan, msl_morChild_eq_plan]
  exact plan_cases (Q := fun p => P (m.exec T child k s.ctx p) (mrm_planHeap T d m x child k s p) (msl_planChild T d child p))
    _ _ _ _ _ (fun _ _ => noSib)
    (fun l hl hc => rebL l (msl_leftSib hl).1 (msl_leftSib hl).2 hc)
    (fun y hy hc => rebR y (msl_rightSib hy).1 (msl_rightSib hy).2 hc)
    (fun l hl _ _ => mrgL l (msl_leftSib hl).1 (msl_leftSib hl).2)
    (fun y hy _ _ => mrgR y (msl_rightSib hy).1 (msl_rightSib hy).2)

/-- closes a rebalance leaf -/
local macro "mrm_rebalance " thm:term ", " mdl:term ", " herr:term : tactic =>
  `(tactic| (rw [$thm:term]; cases hres : $mdl:term with
      | error e => rw [$herr:term e hres]
      | ok p => rfl))

/-- the `uint`-range side conditions of `Ob_MergeOrRebalanceChildSlab_heap`: what the way back from the restructuring
    unit's records to the descent's needs (the siblings as read, every possible result slab) -/
structure mrm_MorFit (d : Nat) (m : MMetaSlab (MTree r d)) (child : MTree r d) (k u : Nat) : Prop where
  hu : u < 2^32
  sib : ∀ i t, (i + 1 = k ∨ i = k + 1) → m.children[i]? = some t → mr_RootFit d t
  rebL : ∀ t, 0 < k → m.children[k - 1]? = some t →
    mr_RootFit d (msl_rebalanced T d t child false).1 ∧ mr_RootFit d (msl_rebalanced T d t child false).2
  rebR : ∀ t, m.children[k + 1]? = some t →
    mr_RootFit d (msl_rebalanced T d child t true).1 ∧ mr_RootFit d (msl_rebalanced T d child t true).2
  mergeL : ∀ t, 0 < k → m.children[k - 1]? = some t → mr_RootFit d (MTree.merge d t child)
  mergeR : ∀ t, m.children[k + 1]? = some t → mr_RootFit d (MTree.merge d child t)

/-- `MapMetaDataSlab.MergeOrRebalanceChildSlab` of the restructuring unit over the heap = the model's
    `MMetaSlab.mergeOrRebalanceChildSlab`, the whole 3 x 3 table.  As
    `MapMetaDataSlab_MergeOrRebalanceChildSlab_eq_model`, with: the SIBLINGS `k - 1`, `k + 1` read from the heap (`hheap`),
    the two lend decisions discharged (`mrm_canLendR / L`), the storage after = `mrm_morHeap`. -/
theorem mrm_MergeOrRebalanceChildSlab_gen (d : Nat)
    (m : MMetaSlab (MTree r d)) (x : Option DX) (child : MTree r d) (k u : Nat) (s : MHSt r)
    (hlen : m.children.length = m.childHdrs.length) (hk : k < m.childHdrs.length)
    (hsz : Gen.mapSlabHeaderSize ≤ m.hdr.size)
    (hheap : ∀ i t h, (i + 1 = k ∨ i = k + 1) → m.children[i]? = some t → m.childHdrs[i]? = some h →
      s.heap h.id = some (md_tree d t none))
    (hfit : mrm_MorFit T d m child k u)
    (hsize : ∀ i t, (i + 1 = k ∨ i = k + 1) → m.children[i]? = some t → (MTree.hdr d t).size < 2^32)
    (hLend : ∀ t, 0 < k → m.children[k - 1]? = some t → MTree.canLendToRight T d t u = true → msl_LendOK T d t child)
    (hBorrow : ∀ t, m.children[k + 1]? = some t → MTree.canLendToLeft T d t u = true → msl_BorrowOK T d child t)
    (hMergeL : ∀ t, 0 < k → m.children[k - 1]? = some t → msl_MergeOK d t child)
    (hMergeR : ∀ t, m.children[k + 1]? = some t → msl_MergeOK d child t) :
    MapMetaDataSlab_MergeOrRebalanceChildSlab (envMH T) (cMeta m x) s (cTree d child) (Int.ofNat k) (u32 u) =
      match MMetaSlab.mergeOrRebalanceChildSlab T m child k u s.ctx with
      | .error .goPanic => none
      | .error e => some (some e, cMeta m x, s, cTree d child)
      | .ok (m', _) =>
        some (none, cMeta m' x, mrm_morHeap T d m x child k u s, cTree d (msl_morChild T d m child k u)) := by
  have hret : ∀ i t h, (i + 1 = k ∨ i = k + 1) → m.children[i]? = some t → m.childHdrs[i]? = some h →
      (envMH T).SlabStorage_Retrieve s h.id = (cTree d t, true, none, s) := fun i t h hi ht hh => by
    simp only [envMH_retrieve, hheap i t h hi ht hh, mr_toM_md_tree_none]
  rw [MapMetaDataSlab_MergeOrRebalanceChildSlab_eq_plan T (envMH T) d m x child k u s hlen hk hret
      (fun t hk0 ht => mrm_canLendR T d t u hfit.hu (hfit.sib (k - 1) t (Or.inl (by omega)) ht)
        (hsize (k - 1) t (Or.inl (by omega)) ht))
      (fun t ht => mrm_canLendL T d t u hfit.hu (hfit.sib (k + 1) t (Or.inr rfl) ht) (hsize (k + 1) t (Or.inr rfl) ht))
      hsize,
    MMetaSlab.mor_eq_plan, mrm_morHeap_eq_plan, msl_morChild_eq_plan]
  refine plan_cases (Q := fun p => msl_genExec (envMH T) (cMeta m x) s d child k p =
      match m.exec T child k s.ctx p with
      | .error .goPanic => none
      | .error e => some (some e, cMeta m x, s, cTree d child)
      | .ok (m', _) =>
        some (none, cMeta m' x, mrm_planHeap T d m x child k s p, cTree d (msl_planChild T d child p))) _ _ _ _ _
    (fun _ _ => rfl) ?_ ?_ ?_ ?_
  · intro l hl hc
    obtain ⟨hk0, hl'⟩ := msl_leftSib hl
    simp only [msl_genExec, MMetaSlab.exec, msl_planChild, mrm_planHeap, mrm_rebHeapOf]
    mrm_rebalance (Ob_rebalanceChildren_heap T d m x l child (k - 1) k false s (by omega) hk (hLend l hk0 hl' hc)
        (hfit.rebL l hk0 hl')), (m.rebalanceChildren T l child (k - 1) k false s.ctx),
        (MMetaSlab.msl_rebalanceChildren_error T d m l child (k - 1) k false s.ctx)
  · intro y hy hc
    obtain ⟨hk1, hy'⟩ := msl_rightSib hy
    simp only [msl_genExec, MMetaSlab.exec, msl_planChild, mrm_planHeap, mrm_rebHeapOf]
    mrm_rebalance (Ob_rebalanceChildren_heap T d m x child y k (k + 1) true s hk hk1 (hBorrow y hy' hc)
        (hfit.rebR y hy')), (m.rebalanceChildren T child y k (k + 1) true s.ctx),
        (MMetaSlab.msl_rebalanceChildren_error T d m child y k (k + 1) true s.ctx)
  · intro l hl _ _
    obtain ⟨hk0, hl'⟩ := msl_leftSib hl
    simp only [msl_genExec, MMetaSlab.exec, msl_planChild, mrm_planHeap, mrm_mergeHeapOf]
    rw [Ob_mergeChildren_heap T d m x l child (k - 1) k s (by omega) hk hsz (hMergeL l hk0 hl') (hfit.mergeL l hk0 hl')]
  · intro y hy _ _
    obtain ⟨hk1, hy'⟩ := msl_rightSib hy
    simp only [msl_genExec, MMetaSlab.exec, msl_planChild, mrm_planHeap, mrm_mergeHeapOf]
    rw [Ob_mergeChildren_heap T d m x child y k (k + 1) s hk hk1 hsz (hMergeR y hy') (hfit.mergeR y hy')]

end mor

section morCtx
variable {r : Nat} (T : Nat)

theorem mrm_rebHeapOf_ctx (d : Nat) (m : MMetaSlab (MTree r d)) (x : Option DX) (l rr : MTree r d) (li ri : Nat)
    (b : Bool) (s : MHSt r) (m' : MMetaSlab (MTree r d)) (c' : Ctx)
    (h : MMetaSlab.rebalanceChildren T m l rr li ri b s.ctx = .ok (m', c')) :
    (mrm_rebHeapOf T d m x l rr li ri b s).ctx = c' := by
  have h' := h
  rw [MMetaSlab.msl_rebalanceChildren_eq] at h'
  simp only [mrm_rebHeapOf, h, mrm_rebHeap, msl_rebalanced, MHSt.store_ctx]
  generalize (if b = true then MTree.borrowFromRight T d l rr else MTree.lendToRight T d l rr) = res at h' ⊢
  cases res with
  | error e => cases h'
  | ok p => cases h'; rfl

theorem mrm_mergeHeapOf_ctx (d : Nat) (m : MMetaSlab (MTree r d)) (x : Option DX) (l rr : MTree r d) (li ri : Nat)
    (s : MHSt r) :
    (mrm_mergeHeapOf d m x l rr li ri s).ctx = (MMetaSlab.mergeChildren m l rr li ri s.ctx).2 := by
  simp only [mrm_mergeHeapOf, mrm_mergeHeap, MMetaSlab.mergeChildren, MHSt.remove_ctx, MHSt.store_ctx]

/-- the `Ctx` of the heap after `MergeOrRebalanceChildSlab` is the model's resulting `Ctx` -/
theorem mrm_morHeap_ctx (d : Nat) (m : MMetaSlab (MTree r d)) (x : Option DX) (child : MTree r d) (k u : Nat)
    (s : MHSt r) (m' : MMetaSlab (MTree r d)) (c' : Ctx)
    (h : MMetaSlab.mergeOrRebalanceChildSlab T m child k u s.ctx = .ok (m', c')) :
    (mrm_morHeap T d m x child k u s).ctx = c' := by
  refine mrm_mor_cases T d m x child k u s (fun res s' _ => res = .ok (m', c') → s'.ctx = c')
    (fun h => nomatch h) (fun l _ _ _ => mrm_rebHeapOf_ctx T d m x _ _ _ _ _ s m' c')
    (fun y _ _ _ => mrm_rebHeapOf_ctx T d m x _ _ _ _ _ s m' c') (fun l _ _ h => ?_) (fun y _ _ h => ?_) h
  all_goals rw [mrm_mergeHeapOf_ctx]; exact congrArg Prod.snd (Except.ok.inj h)

end morCtx

section morRs
variable {r : Nat} (T : Nat)

/-- **`MergeOrRebalanceChildSlab` as the descent calls it** (`(rsOf T).mergeOrRebalance`, the generated code of
    `Gen/TransMapSlabs.lean` over the heap) on the descent's records of a model index slab `m` (extra data `x`) and the
    updated child (passed by value) = the model's `MMetaSlab.mergeOrRebalanceChildSlab` on `s.ctx`:
    in the `.ok (m', c')` case no error, the parent `md_meta m' x`, the heap `mrm_morHeap` (explicit per branch of the
    3 x 3 table; its `Ctx` is `c'`: `mrm_morHeap_ctx`) and the child object `msl_morChild`; an error (the model's
    `.goPanic` "no sibling at all" = the generated panic, or the `SlabRebalanceError` of a data-slab rebalance) leaves
    parent, storage and child untouched.  Only the two NEIGHBOURS of child `k` are read from the heap (`hheap`). -/
theorem Ob_MergeOrRebalanceChildSlab_heap (d : Nat)
    (m : MMetaSlab (MTree r d)) (x : Option DX) (child : MTree r d) (k u : Nat) (s : MHSt r)
    (hlen : m.children.length = m.childHdrs.length) (hk : k < m.childHdrs.length)
    (hsz : Gen.mapSlabHeaderSize ≤ m.hdr.size)
    (hheap : ∀ i t h, (i + 1 = k ∨ i = k + 1) → m.children[i]? = some t → m.childHdrs[i]? = some h →
      s.heap h.id = some (md_tree d t none))
    (hfit : mrm_MorFit T d m child k u) (hfc : mr_RootFit d child)
    (hsize : ∀ i t, (i + 1 = k ∨ i = k + 1) → m.children[i]? = some t → (MTree.hdr d t).size < 2^32)
    (hLend : ∀ t, 0 < k → m.children[k - 1]? = some t → MTree.canLendToRight T d t u = true → msl_LendOK T d t child)
    (hBorrow : ∀ t, m.children[k + 1]? = some t → MTree.canLendToLeft T d t u = true → msl_BorrowOK T d child t)
    (hMergeL : ∀ t, 0 < k → m.children[k - 1]? = some t → msl_MergeOK d t child)
    (hMergeR : ∀ t, m.children[k + 1]? = some t → msl_MergeOK d child t) :
    (rsOf T).mergeOrRebalance (md_meta m x) s (md_tree d child none) (Int.ofNat k) (u32 u) =
      match MMetaSlab.mergeOrRebalanceChildSlab T m child k u s.ctx with
      | .error e => (some e, md_meta m x, s, md_tree d child none)
      | .ok (m', _) =>
        (none, md_meta m' x, mrm_morHeap T d m x child k u s, md_tree d (msl_morChild T d m child k u) none) := by
  have hg := mrm_MergeOrRebalanceChildSlab_gen T d m x child k u s hlen hk hsz hheap hfit hsize hLend hBorrow
    hMergeL hMergeR
  have hcf : mr_RootFit d (msl_morChild T d m child k u) :=
    mrm_mor_cases T d m x child k u s (fun _ _ c => mr_RootFit d c) hfc
      (fun l hk0 hl _ => (hfit.rebL l hk0 hl).2) (fun y _ hy _ => (hfit.rebR y hy).1) (fun _ _ _ => hfc)
      (fun y _ hy => hfit.mergeR y hy)
  simp only [rsOf, mr_metaM_md_meta, mr_toM_md_tree_none, hg]
  cases hres : MMetaSlab.mergeOrRebalanceChildSlab T m child k u s.ctx with
  | error e =>
    cases e <;> simp only [mr_metaD_cMeta, mr_fromM_cTree d child hfc]
  | ok p =>
    obtain ⟨m', c'⟩ := p
    simp only [mr_metaD_cMeta, mr_fromM_cTree d _ hcf]

end morRs

end Atree.TransEq

import AtreeProofs.Props.TransMapRestructPromote
import AtreeProofs.Props.TransMapRestructMorHeap
/-
  Non-vacuity of `Ob_MergeOrRebalanceChildSlab_heap` and `Ob_promote_heap` (Props/TransMapRestructMor.lean,
  TransMapRestructPromote.lean): concrete small slabs over a concrete heap meet every hypothesis, and the generated code
  evaluated on them gives the expected heap.  T = 100 (`minThreshold` = 50), r = 0.
-/
namespace Atree.TransEq
open Atree Atree.Gen.TransMap

section examples

/-- grandchild header `i` -/
private def mrx_hdrG (i : Nat) : MHdr := { id := ⟨1, 100 + i⟩, size := 60, firstKey := 10 * i }

/-- an index slab (a subtree root of depth 1) with slab ID (1, id) and the child headers `is` -/
private def mrx_sib (id : Nat) (is : List Nat) : MTree 0 1 :=
  ({ hdr := { id := ⟨1, id⟩, size := 12 + 18 * is.length, firstKey := 10 * is.headD 0 },
     childHdrs := is.map mrx_hdrG, children := [], root := false } : MMetaSlab (MTree 0 0))

/-- the parent (1, 9) of the children `cs` -/
private def mrx_parent (cs : List (MTree 0 1)) : MMetaSlab (MTree 0 1) :=
  { hdr := { id := ⟨1, 9⟩, size := 12 + 18 * cs.length, firstKey := ((cs.map (MTree.hdr 1)).headD default).firstKey },
    childHdrs := cs.map (MTree.hdr 1), children := cs, root := true }

private def mrx_l := mrx_sib 1 [1, 2, 3, 4, 5]
private def mrx_c := mrx_sib 2 [6]
private def mrx_r := mrx_sib 3 [7, 8, 9]

/-- the heap holds the two siblings (and a STALE version of the child, which is never read) -/
private def mrx_s (l rr : MTree 0 1) : MHSt 0 :=
  { heap := fun id => if id = ⟨1, 1⟩ then some (md_tree 1 l none) else if id = ⟨1, 3⟩ then some (md_tree 1 rr none)
      else if id = ⟨1, 2⟩ then some (md_tree 1 (mrx_sib 2 [6, 7]) none) else none,
    ctx := ⟨40, [], []⟩ }

private def mrx_x : Option DX := some (7, 3, 5)

/-- child 1 of 3 underflows by 20; the left sibling (5 children, 102 bytes) can lend, the right one (3 children, 66 bytes)
    cannot: every hypothesis of `Ob_MergeOrRebalanceChildSlab_heap` holds ... -/
example : (rsOf 100).mergeOrRebalance (md_meta (mrx_parent [mrx_l, mrx_c, mrx_r]) mrx_x) (mrx_s mrx_l mrx_r)
      (md_tree 1 mrx_c none) (Int.ofNat 1) (u32 20) =
    match MMetaSlab.mergeOrRebalanceChildSlab 100 (mrx_parent [mrx_l, mrx_c, mrx_r]) mrx_c 1 20 (mrx_s mrx_l mrx_r).ctx with
    | .error e => (some e, md_meta (mrx_parent [mrx_l, mrx_c, mrx_r]) mrx_x, mrx_s mrx_l mrx_r, md_tree 1 mrx_c none)
    | .ok (m', _) =>
      (none, md_meta m' mrx_x, mrm_morHeap 100 1 (mrx_parent [mrx_l, mrx_c, mrx_r]) mrx_x mrx_c 1 20 (mrx_s mrx_l mrx_r),
        md_tree 1 (msl_morChild 100 1 (mrx_parent [mrx_l, mrx_c, mrx_r]) mrx_c 1 20) none) := by
  refine Ob_MergeOrRebalanceChildSlab_heap 100 1 _ mrx_x mrx_c 1 20 (mrx_s mrx_l mrx_r)
    (by decide) (by decide) (by decide) ?_ ?_ trivial ?_ ?_ ?_ ?_ ?_
  · intro i t h hi ht hh
    rcases hi with hi | hi
    · obtain rfl : i = 0 := by omega
      cases ht; cases hh; rfl
    · subst hi
      cases ht; cases hh; rfl
  · exact ⟨by decide, fun _ _ _ _ => trivial, fun _ _ _ => ⟨trivial, trivial⟩, fun _ _ => ⟨trivial, trivial⟩,
      fun _ _ _ => trivial, fun _ _ => trivial⟩
  · intro i t hi ht
    rcases hi with hi | hi
    · obtain rfl : i = 0 := by omega
      cases ht; decide
    · subst hi; cases ht; decide
  · intro t _ ht _; cases ht; exact ⟨by decide, by decide⟩
  · intro t ht hc; cases ht; exact absurd hc (by decide)
  · intro t _ ht; cases ht; exact (by decide : (12 : Nat) ≤ 30)
  · intro t ht; cases ht; exact (by decide : (12 : Nat) ≤ 66)

/-- what the examples look at: the error, the parent's child IDs and sizes, the effects, which of the slabs 1, 2, 3, 9 the
    heap holds afterwards (with the number of child headers of each), the returned child's ID and number of headers -/
private def mrx_obs (q : Option GE × Gen.TransMapD.MapMetaDataSlab DX × MHSt 0 × DSlab 0) :
    Option GE × List (Nat × Nat) × List Eff × List (Option Nat) × Option (Nat × Nat) :=
  let n : DSlab 0 → Option (Nat × Nat) := fun v => match v with
    | .metaSlab o => some (o.header.slabID.idx, o.childrenHeaders.length)
    | _ => none
  (q.1, q.2.1.childrenHeaders.map (fun h => (h.slabID.idx, h.size.toNat)), q.2.2.1.ctx.eff,
    [1, 2, 3, 9].map (fun i => ((q.2.2.1.heap ⟨1, i⟩).bind n).map (·.2)), n q.2.2.2)

/-- ... and the generated code evaluated: rebalance with the left sibling 5 + 1 -> 3 + 3, the three `Store`s; the heap
    now holds slab 1 with 3 headers, slab 2 (the child, FRESH: 3 headers, the stale 2-header version is overwritten),
    slab 3 untouched, the parent 9 with its 3 children; the returned child is slab 2 with 3 headers -/
example : mrx_obs ((rsOf 100).mergeOrRebalance (md_meta (mrx_parent [mrx_l, mrx_c, mrx_r]) mrx_x) (mrx_s mrx_l mrx_r)
      (md_tree 1 mrx_c none) (Int.ofNat 1) (u32 20)) =
    (none, [(1, 66), (2, 66), (3, 66)], [.store ⟨1, 1⟩, .store ⟨1, 2⟩, .store ⟨1, 9⟩],
      [some 3, some 3, some 3, some 3], some (2, 3)) := by
  rfl

/-- neither sibling can lend (left: 2 children, 48 bytes; right: 3 children, 66 bytes): the child is merged INTO its
    smaller left sibling; `Store` merged - `Store` parent - `Remove` child: slab 2 is gone from the heap, slab 1 has 3
    headers, the parent 2 children; the returned child object is unchanged -/
example : mrx_obs ((rsOf 100).mergeOrRebalance (md_meta (mrx_parent [mrx_sib 1 [1, 2], mrx_c, mrx_r]) mrx_x)
      (mrx_s (mrx_sib 1 [1, 2]) mrx_r) (md_tree 1 mrx_c none) (Int.ofNat 1) (u32 20)) =
    (none, [(1, 66), (3, 66)], [.store ⟨1, 1⟩, .store ⟨1, 9⟩, .remove ⟨1, 2⟩],
      [some 3, none, some 3, some 2], some (2, 1)) := by
  rfl

/-- a data slab (1, 2) with an empty element group: the single child of the root index slab (1, 9) -/
private def mrx_d : MDataSlab 0 :=
  { hdr := { id := ⟨1, 2⟩, size := 26, firstKey := 0 }, next := ⟨0, 0⟩,
    elems := { hkeys := [], elems := [], size := 8, level := 0 }, root := false, inlined := false }

private def mrx_root : MMetaSlab (MTree 0 0) :=
  { hdr := { id := ⟨1, 9⟩, size := 30, firstKey := 0 }, childHdrs := [mrx_d.hdr], children := [mrx_d], root := true }

private def mrx_sp : MHSt 0 :=
  { heap := fun id => if id = ⟨1, 2⟩ then some (md_tree 0 mrx_d none) else none, ctx := ⟨40, [], []⟩ }

/-- every hypothesis of `Ob_promote_heap` holds for a root index slab whose single child is a data slab held by the heap -/
example : (rsOf 100).promote (md_map (⟨1, mrx_root, 7, 0, 5⟩ : OMap 0) mrx_sp) mrx_d.hdr.id =
    (none, md_map (OMap.promoteIfSingleChild (⟨1, mrx_root, 7, 0, 5⟩ : OMap 0) mrx_sp.ctx).1
      (mrm_promoteHeap (OMap.promoteIfSingleChild (⟨1, mrx_root, 7, 0, 5⟩ : OMap 0) mrx_sp.ctx).1 mrx_sp mrx_d.hdr.id)) :=
  (Ob_promote_heap 100 0 mrx_root 7 0 5 mrx_sp mrx_d.hdr mrx_d rfl rfl rfl (fun _ => by decide)
    ⟨by decide, by decide, by intro h hh; cases hh⟩).1

/-- ... evaluated: no error, the effects `Store` root - `Remove` child, the heap holds a DATA slab under the root
    identifier (1, 9) with the root size 26 - 18 + 2 = 10 and the extra data, nothing under (1, 2) -/
example : (let q := (rsOf 100).promote (md_map (⟨1, mrx_root, 7, 0, 5⟩ : OMap 0) mrx_sp) mrx_d.hdr.id
    (q.1, q.2.Storage.ctx.eff, (q.2.Storage.heap ⟨1, 2⟩).isNone,
      match q.2.Storage.heap ⟨1, 9⟩ with
      | some (.dataSlab o) => some (o.header.size.toNat, o.extraData)
      | _ => none)) =
    (none, [.store ⟨1, 9⟩, .remove ⟨1, 2⟩], true, some (10, some (7, 0, 5))) := by
  rfl

/-! the hypothesis of `Ob_MergeOrRebalanceChildSlab_heapPost` is met by the state of the first example -/

private theorem mrx_at (j : Nat) (c : MTree 0 1)
    (hj : mrm_at (mrx_parent [mrx_l, mrx_c, mrx_r]) mrx_c 1 j = some c) :
    (j = 0 ∧ c = mrx_l) ∨ (j = 1 ∧ c = mrx_c) ∨ (j = 2 ∧ c = mrx_r) := by
  rcases j with _ | _ | _ | j
  · have e : some mrx_l = some c := hj
    cases e; exact Or.inl ⟨rfl, rfl⟩
  · have e : some mrx_c = some c := hj
    cases e; exact Or.inr (Or.inl ⟨rfl, rfl⟩)
  · have e : some mrx_r = some c := hj
    cases e; exact Or.inr (Or.inr ⟨rfl, rfl⟩)
  · simp [mrm_at, mrx_parent] at hj

private theorem mrx_i1 : md_ids 1 mrx_l = [⟨1, 1⟩] := rfl
private theorem mrx_i2 : md_ids 1 mrx_c = [⟨1, 2⟩] := rfl
private theorem mrx_i3 : md_ids 1 mrx_r = [⟨1, 3⟩] := rfl
private theorem mrx_k1 : mrm_kidIds 1 mrx_l = [] := rfl
private theorem mrx_k2 : mrm_kidIds 1 mrx_c = [] := rfl
private theorem mrx_k3 : mrm_kidIds 1 mrx_r = [] := rfl
private theorem mrx_pid : (mrx_parent [mrx_l, mrx_c, mrx_r]).hdr.id = ⟨1, 9⟩ := rfl

example : mrm_MorHeld (mrx_s mrx_l mrx_r) 1 (mrx_parent [mrx_l, mrx_c, mrx_r]) mrx_c 1 where
  kidsChild := fun c hc => absurd hc List.not_mem_nil
  others := by
    intro j c hj hc
    rcases j with _ | _ | _ | j
    · have e : some mrx_l = some c := hc
      cases e; exact ⟨rfl, fun c hc => absurd hc List.not_mem_nil⟩
    · exact absurd rfl hj
    · have e : some mrx_r = some c := hc
      cases e; exact ⟨rfl, fun c hc => absurd hc List.not_mem_nil⟩
    · simp [mrx_parent] at hc
  parent := by
    intro j c hj
    rcases mrx_at j c hj with ⟨_, rfl⟩ | ⟨_, rfl⟩ | ⟨_, rfl⟩ <;> simp [mrx_i1, mrx_i2, mrx_i3, mrx_pid]
  disj := by
    intro i j a b hij hi hj
    rcases mrx_at i a hi with ⟨rfl, rfl⟩ | ⟨rfl, rfl⟩ | ⟨rfl, rfl⟩ <;>
      rcases mrx_at j b hj with ⟨rfl, rfl⟩ | ⟨rfl, rfl⟩ | ⟨rfl, rfl⟩ <;>
      first | exact absurd rfl hij | simp [mrx_i1, mrx_i2, mrx_i3]
  acyc := by
    intro j c hj
    rcases mrx_at j c hj with ⟨_, rfl⟩ | ⟨_, rfl⟩ | ⟨_, rfl⟩ <;> simp [mrx_k1, mrx_k2, mrx_k3]

end examples

end Atree.TransEq

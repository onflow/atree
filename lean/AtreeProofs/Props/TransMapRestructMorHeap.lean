import AtreeProofs.Props.TransMapRestructMor
/-
  What the heap HOLDS after the two restructuring steps of `MergeOrRebalanceChildSlab` over the heap (`mrm_rebHeap`,
  `mrm_mergeHeap` of Props/TransMapRestructMor.lean): every child of the new parent is held, the parent is held under its
  identifier, the merged-away right slab is gone, every other identifier is untouched - given that the slabs below the
  operands were held before and the identifiers are pairwise distinct.
-/
namespace Atree.TransEq
open Atree

section heapPost
variable {r : Nat}

/-- the slabs strictly below a subtree root are held -/
def mrm_KidsHeld (h : SlabID → Option (DSlab r)) : (d : Nat) → MTree r d → Prop
  | 0, _ => True
  | d + 1, (m : MMetaSlab (MTree r d)) => ∀ c ∈ m.children, MHolds h d c none

/-- the identifiers strictly below a subtree root -/
def mrm_kidIds : (d : Nat) → MTree r d → List SlabID
  | 0, _ => []
  | d + 1, (m : MMetaSlab (MTree r d)) => m.children.flatMap (md_ids d)

theorem mrm_MHolds_intro (h : SlabID → Option (DSlab r)) (d : Nat) (t : MTree r d) {x : Option DX}
    (h1 : h (MTree.hdr d t).id = some (md_tree d t x)) (h2 : mrm_KidsHeld h d t) : MHolds h d t x := by
  cases d with
  | zero => exact h1
  | succ d => exact ⟨h1, h2⟩

theorem mrm_MHolds_kids (h : SlabID → Option (DSlab r)) (d : Nat) (t : MTree r d) (x : Option DX)
    (hh : MHolds h d t x) : mrm_KidsHeld h d t := by
  cases d with
  | zero => trivial
  | succ d => exact hh.2

theorem mrm_md_ids_eq (d : Nat) (t : MTree r d) : md_ids d t = (MTree.hdr d t).id :: mrm_kidIds d t := by
  cases d <;> rfl

theorem mrm_KidsHeld_congr (d : Nat) (t : MTree r d) (h h' : SlabID → Option (DSlab r))
    (hyp : ∀ id ∈ mrm_kidIds d t, h' id = h id) (hh : mrm_KidsHeld h d t) : mrm_KidsHeld h' d t := by
  cases d with
  | zero => trivial
  | succ d =>
    exact fun c hc => (hh c hc).congr (fun id hid => hyp id (List.mem_flatMap.mpr ⟨c, hc, hid⟩))

/-- `Merge` keeps what is below: the merged slab's children are the operands' -/
theorem mrm_KidsHeld_merge (h : SlabID → Option (DSlab r)) (d : Nat) (l rr : MTree r d)
    (hl : mrm_KidsHeld h d l) (hr : mrm_KidsHeld h d rr) : mrm_KidsHeld h d (MTree.merge d l rr) := by
  cases d with
  | zero => trivial
  | succ d =>
    intro c hc
    simp only [MTree.merge, MMetaSlab.merge, List.mem_append] at hc
    exact hc.elim (hl c) (hr c)

theorem mrm_kidIds_merge (d : Nat) (l rr : MTree r d) :
    mrm_kidIds d (MTree.merge d l rr) = mrm_kidIds d l ++ mrm_kidIds d rr := by
  cases d with
  | zero => rfl
  | succ d => simp only [MTree.merge, MMetaSlab.merge, mrm_kidIds, List.flatMap_append]

/-- the rebalance steps keep what is below: the children of both results are children of the operands -/
theorem mrm_KidsHeld_rebalanced (T : Nat) (h : SlabID → Option (DSlab r)) (d : Nat) (l rr : MTree r d) (b : Bool)
    (hl : mrm_KidsHeld h d l) (hr : mrm_KidsHeld h d rr) :
    mrm_KidsHeld h d (msl_rebalanced T d l rr b).1 ∧ mrm_KidsHeld h d (msl_rebalanced T d l rr b).2 := by
  cases d with
  | zero => exact ⟨trivial, trivial⟩
  | succ d =>
    cases b
    · simp only [msl_rebalanced, Bool.false_eq_true, if_false, MTree.lendToRight, MMetaSlab.lendToRight]
      refine ⟨fun c hc => hl c (List.mem_of_mem_take hc), fun c hc => ?_⟩
      rcases List.mem_append.mp hc with hc | hc
      · exact hl c (List.mem_of_mem_drop hc)
      · exact hr c hc
    · simp only [msl_rebalanced, if_true, MTree.borrowFromRight, MMetaSlab.borrowFromRight]
      refine ⟨fun c hc => ?_, fun c hc => hr c (List.mem_of_mem_drop hc)⟩
      rcases List.mem_append.mp hc with hc | hc
      · exact hl c hc
      · exact hr c (List.mem_of_mem_take hc)

/-- what is below both results of a rebalance step is what was below both operands, in the same order -/
theorem mrm_kidIds_rebalanced (T : Nat) (d : Nat) (l rr : MTree r d) (b : Bool) :
    mrm_kidIds d (msl_rebalanced T d l rr b).1 ++ mrm_kidIds d (msl_rebalanced T d l rr b).2 =
      mrm_kidIds d l ++ mrm_kidIds d rr := by
  cases d with
  | zero => rfl
  | succ d =>
    cases b
    · simp only [msl_rebalanced, Bool.false_eq_true, if_false, MTree.lendToRight, MMetaSlab.lendToRight, mrm_kidIds,
        List.flatMap_append]
      rw [← List.append_assoc, ← List.flatMap_append, List.take_append_drop]
    · simp only [msl_rebalanced, if_true, MTree.borrowFromRight, MMetaSlab.borrowFromRight, mrm_kidIds,
        List.flatMap_append]
      rw [List.append_assoc, ← List.flatMap_append, List.take_append_drop]

/-- the slab identifiers are kept by `Merge` and by both rebalance steps -/
theorem mrm_merge_id (d : Nat) (l rr : MTree r d) : (MTree.hdr d (MTree.merge d l rr)).id = (MTree.hdr d l).id := by
  cases d <;> rfl

theorem mrm_rebalanced_id (T : Nat) (d : Nat) (l rr : MTree r d) (b : Bool) :
    (MTree.hdr d (msl_rebalanced T d l rr b).1).id = (MTree.hdr d l).id ∧
    (MTree.hdr d (msl_rebalanced T d l rr b).2).id = (MTree.hdr d rr).id := by
  cases d with
  | zero =>
    cases b
    · simp only [msl_rebalanced, Bool.false_eq_true, MTree.lendToRight, MDataSlab.lendToRight, bind,
        Except.bind, pure, Except.pure]
      cases HkeyElems.lendToRight (MDataSlab.eops r) T (MDataSlab.elems l) (MDataSlab.elems rr) with
      | error e => exact ⟨rfl, rfl⟩
      | ok p => exact ⟨rfl, rfl⟩
    · simp only [msl_rebalanced, MTree.borrowFromRight, MDataSlab.borrowFromRight, bind,
        Except.bind, pure, Except.pure]
      cases HkeyElems.borrowFromRight (MDataSlab.eops r) T (MDataSlab.elems l) (MDataSlab.elems rr) with
      | error e => exact ⟨rfl, rfl⟩
      | ok p => exact ⟨rfl, rfl⟩
  | succ d => cases b <;> exact ⟨rfl, rfl⟩

/-- after `Store` left, `Store` right, `Store` parent: the parent is held under its identifier, BOTH stored children
    and every other (untouched) child are held, every identifier but the three is untouched.  `cs` = the parent's
    children before (entries `li`, `ri` replaced). -/
theorem mrm_rebHeap_post {α : Type} (s : MHSt r) (d : Nat) (l' r' : MTree r d) (m' : MMetaSlab α) (x : Option DX)
    (cs : List (MTree r d)) (li ri : Nat)
    (hlr : (MTree.hdr d l').id ≠ (MTree.hdr d r').id)
    (hml : m'.hdr.id ≠ (MTree.hdr d l').id) (hmr : m'.hdr.id ≠ (MTree.hdr d r').id)
    (hL : mrm_KidsHeld s.heap d l') (hR : mrm_KidsHeld s.heap d r')
    (hLi : ∀ id ∈ mrm_kidIds d l', id ≠ (MTree.hdr d l').id ∧ id ≠ (MTree.hdr d r').id ∧ id ≠ m'.hdr.id)
    (hRi : ∀ id ∈ mrm_kidIds d r', id ≠ (MTree.hdr d l').id ∧ id ≠ (MTree.hdr d r').id ∧ id ≠ m'.hdr.id)
    (hO : ∀ j c, j ≠ li → j ≠ ri → cs[j]? = some c → MHolds s.heap d c none ∧
      ∀ id ∈ md_ids d c, id ≠ (MTree.hdr d l').id ∧ id ≠ (MTree.hdr d r').id ∧ id ≠ m'.hdr.id) :
    (mrm_rebHeap s d l' r' m' x).heap m'.hdr.id = some (.metaSlab (md_meta m' x)) ∧
    (∀ c ∈ (cs.set li l').set ri r', MHolds (mrm_rebHeap s d l' r' m' x).heap d c none) ∧
    (∀ id, id ≠ (MTree.hdr d l').id → id ≠ (MTree.hdr d r').id → id ≠ m'.hdr.id →
      (mrm_rebHeap s d l' r' m' x).heap id = s.heap id) := by
  have hfr : ∀ id, id ≠ (MTree.hdr d l').id → id ≠ (MTree.hdr d r').id → id ≠ m'.hdr.id →
      (mrm_rebHeap s d l' r' m' x).heap id = s.heap id := by
    intro id h1 h2 h3
    simp only [mrm_rebHeap, MHSt.store_heap, if_neg h1, if_neg h2, if_neg h3]
  have hl' : (mrm_rebHeap s d l' r' m' x).heap (MTree.hdr d l').id = some (md_tree d l' none) := by
    simp only [mrm_rebHeap, MHSt.store_heap, if_neg (Ne.symm hml), if_neg hlr, if_true]
  have hr' : (mrm_rebHeap s d l' r' m' x).heap (MTree.hdr d r').id = some (md_tree d r' none) := by
    simp only [mrm_rebHeap, MHSt.store_heap, if_neg (Ne.symm hmr), if_true]
  refine ⟨by simp only [mrm_rebHeap, MHSt.store_heap, if_true], fun c hc => ?_, hfr⟩
  obtain ⟨j, hj⟩ := List.getElem?_of_mem hc
  have hLh := mrm_MHolds_intro _ d l' hl' (mrm_KidsHeld_congr d l' _ _
    (fun id hid => hfr id (hLi id hid).1 (hLi id hid).2.1 (hLi id hid).2.2) hL)
  have hRh := mrm_MHolds_intro _ d r' hr' (mrm_KidsHeld_congr d r' _ _
    (fun id hid => hfr id (hRi id hid).1 (hRi id hid).2.1 (hRi id hid).2.2) hR)
  rw [List.getElem?_set] at hj
  by_cases e1 : ri = j
  · rw [if_pos e1] at hj
    split at hj
    · cases hj; exact hRh
    · cases hj
  · rw [if_neg e1, List.getElem?_set] at hj
    by_cases e2 : li = j
    · rw [if_pos e2] at hj
      split at hj
      · cases hj; exact hLh
      · cases hj
    · rw [if_neg e2] at hj
      have ho := hO j c (Ne.symm e2) (Ne.symm e1) hj
      exact ho.1.congr (fun id hid => hfr id (ho.2 id hid).1 (ho.2 id hid).2.1 (ho.2 id hid).2.2)

/-- after `Store` merged, `Store` parent, `Remove` right: the parent is held, the merged slab and every other child are
    held, the right slab's identifier is GONE, every identifier but the three is untouched. -/
theorem mrm_mergeHeap_post {α : Type} (s : MHSt r) (d : Nat) (mg : MTree r d) (m' : MMetaSlab α) (x : Option DX)
    (rid : SlabID) (cs : List (MTree r d)) (li ri : Nat)
    (hlr : (MTree.hdr d mg).id ≠ rid) (hml : m'.hdr.id ≠ (MTree.hdr d mg).id) (hmr : m'.hdr.id ≠ rid)
    (hM : mrm_KidsHeld s.heap d mg)
    (hMi : ∀ id ∈ mrm_kidIds d mg, id ≠ (MTree.hdr d mg).id ∧ id ≠ rid ∧ id ≠ m'.hdr.id)
    (hO : ∀ j c, j ≠ li → j ≠ ri → cs[j]? = some c → MHolds s.heap d c none ∧
      ∀ id ∈ md_ids d c, id ≠ (MTree.hdr d mg).id ∧ id ≠ rid ∧ id ≠ m'.hdr.id) :
    (mrm_mergeHeap s d mg m' x rid).heap m'.hdr.id = some (.metaSlab (md_meta m' x)) ∧
    (∀ c ∈ (cs.set li mg).eraseIdx ri, MHolds (mrm_mergeHeap s d mg m' x rid).heap d c none) ∧
    (mrm_mergeHeap s d mg m' x rid).heap rid = none ∧
    (∀ id, id ≠ (MTree.hdr d mg).id → id ≠ rid → id ≠ m'.hdr.id →
      (mrm_mergeHeap s d mg m' x rid).heap id = s.heap id) := by
  have hfr : ∀ id, id ≠ (MTree.hdr d mg).id → id ≠ rid → id ≠ m'.hdr.id →
      (mrm_mergeHeap s d mg m' x rid).heap id = s.heap id := by
    intro id h1 h2 h3
    simp only [mrm_mergeHeap, MHSt.store_heap, MHSt.remove_heap, if_neg h1, if_neg h2, if_neg h3]
  have hm' : (mrm_mergeHeap s d mg m' x rid).heap (MTree.hdr d mg).id = some (md_tree d mg none) := by
    simp only [mrm_mergeHeap, MHSt.store_heap, MHSt.remove_heap, if_neg hlr, if_neg (Ne.symm hml), if_true]
  refine ⟨by simp only [mrm_mergeHeap, MHSt.store_heap, MHSt.remove_heap, if_neg hmr, if_true], fun c hc => ?_,
    by simp only [mrm_mergeHeap, MHSt.remove_heap, if_true], hfr⟩
  have hMh := mrm_MHolds_intro _ d mg hm' (mrm_KidsHeld_congr d mg _ _
    (fun id hid => hfr id (hMi id hid).1 (hMi id hid).2.1 (hMi id hid).2.2) hM)
  obtain ⟨j, hj⟩ := List.getElem?_of_mem hc
  rw [List.getElem?_eraseIdx] at hj
  have key : ∀ j', j' ≠ ri → (cs.set li mg)[j']? = some c →
      MHolds (mrm_mergeHeap s d mg m' x rid).heap d c none := by
    intro j' hjr hj'
    rw [List.getElem?_set] at hj'
    by_cases e2 : li = j'
    · rw [if_pos e2] at hj'
      split at hj'
      · cases hj'; exact hMh
      · cases hj'
    · rw [if_neg e2] at hj'
      have ho := hO j' c (Ne.symm e2) hjr hj'
      exact ho.1.congr (fun id hid => hfr id (ho.2 id hid).1 (ho.2 id hid).2.1 (ho.2 id hid).2.2)
  split at hj
  · exact key j (by omega) hj
  · exact key (j + 1) (by omega) hj

end heapPost

section steps
variable {r : Nat}

theorem mrm_hid (d : Nat) (t : MTree r d) : (MTree.hdr d t).id ∈ md_ids d t := md_hdr_id_mem d t

theorem mrm_kid_sub (d : Nat) (t : MTree r d) (id : SlabID) (h : id ∈ mrm_kidIds d t) : id ∈ md_ids d t := by
  rw [mrm_md_ids_eq]; exact List.mem_cons_of_mem _ h

/-- what a rebalance / merge step of the operands `l` (child `li`), `rr` (child `ri`) of `m` needs of the heap before:
    the slabs below both operands and every OTHER child are held, the identifiers involved are pairwise distinct -/
structure mrm_PairOK (s : MHSt r) (d : Nat) (m : MMetaSlab (MTree r d)) (l rr : MTree r d) (li ri : Nat) : Prop where
  hlr : (MTree.hdr d l).id ≠ (MTree.hdr d rr).id
  hml : m.hdr.id ≠ (MTree.hdr d l).id
  hmr : m.hdr.id ≠ (MTree.hdr d rr).id
  hL : mrm_KidsHeld s.heap d l
  hR : mrm_KidsHeld s.heap d rr
  hLi : ∀ id, id ∈ mrm_kidIds d l ∨ id ∈ mrm_kidIds d rr →
    id ≠ (MTree.hdr d l).id ∧ id ≠ (MTree.hdr d rr).id ∧ id ≠ m.hdr.id
  hO : ∀ j c, j ≠ li → j ≠ ri → m.children[j]? = some c → MHolds s.heap d c none ∧
    ∀ id ∈ md_ids d c, id ≠ (MTree.hdr d l).id ∧ id ≠ (MTree.hdr d rr).id ∧ id ≠ m.hdr.id

theorem mrm_rebalanceChildren_ok (T : Nat) (d : Nat) (m : MMetaSlab (MTree r d)) (l rr : MTree r d) (li ri : Nat)
    (b : Bool) (c : Ctx) (m' : MMetaSlab (MTree r d)) (c' : Ctx)
    (h : MMetaSlab.rebalanceChildren T m l rr li ri b c = .ok (m', c')) :
    m'.children = (m.children.set li (msl_rebalanced T d l rr b).1).set ri (msl_rebalanced T d l rr b).2 ∧
    m'.hdr.id = m.hdr.id := by
  rw [MMetaSlab.msl_rebalanceChildren_eq] at h
  simp only [msl_rebalanced]
  generalize (if b = true then MTree.borrowFromRight T d l rr else MTree.lendToRight T d l rr) = res at h ⊢
  cases res with
  | error e => cases h
  | ok p => cases h; exact ⟨rfl, rfl⟩

/-- the heap after a successful `rebalanceChildren` step: the new parent held under the parent identifier, every child
    of the new parent held, everything but the three written identifiers untouched -/
theorem mrm_rebHeapOf_post (T : Nat) (d : Nat) (m : MMetaSlab (MTree r d)) (x : Option DX) (l rr : MTree r d)
    (li ri : Nat) (b : Bool) (s : MHSt r) (m' : MMetaSlab (MTree r d)) (c' : Ctx)
    (h : MMetaSlab.rebalanceChildren T m l rr li ri b s.ctx = .ok (m', c'))
    (hp : mrm_PairOK s d m l rr li ri) :
    (mrm_rebHeapOf T d m x l rr li ri b s).heap m.hdr.id = some (.metaSlab (md_meta m' x)) ∧
    (∀ c ∈ m'.children, MHolds (mrm_rebHeapOf T d m x l rr li ri b s).heap d c none) ∧
    (∀ id, id ≠ (MTree.hdr d l).id → id ≠ (MTree.hdr d rr).id → id ≠ m.hdr.id →
      (mrm_rebHeapOf T d m x l rr li ri b s).heap id = s.heap id) := by
  obtain ⟨hch, hmid⟩ := mrm_rebalanceChildren_ok T d m l rr li ri b s.ctx m' c' h
  obtain ⟨e1, e2⟩ := mrm_rebalanced_id T d l rr b
  obtain ⟨k1, k2⟩ := mrm_KidsHeld_rebalanced T s.heap d l rr b hp.hL hp.hR
  have hk : ∀ id, id ∈ mrm_kidIds d (msl_rebalanced T d l rr b).1 ++ mrm_kidIds d (msl_rebalanced T d l rr b).2 →
      id ∈ mrm_kidIds d l ∨ id ∈ mrm_kidIds d rr :=
    fun id hid => List.mem_append.mp (mrm_kidIds_rebalanced T d l rr b ▸ hid)
  simp only [mrm_rebHeapOf, h]
  have post := mrm_rebHeap_post s d (msl_rebalanced T d l rr b).1 (msl_rebalanced T d l rr b).2 m' x m.children li ri
    (by rw [e1, e2]; exact hp.hlr) (by rw [e1, hmid]; exact hp.hml) (by rw [e2, hmid]; exact hp.hmr) k1 k2
    (fun id hid => by rw [e1, e2, hmid]; exact hp.hLi id (hk id (List.mem_append_left _ hid)))
    (fun id hid => by rw [e1, e2, hmid]; exact hp.hLi id (hk id (List.mem_append_right _ hid)))
    (fun j c h1 h2 h3 => by rw [e1, e2, hmid]; exact hp.hO j c h1 h2 h3)
  rw [e1, e2, hmid, ← hch] at post
  exact post

/-- the heap after the `mergeChildren` step: likewise, and the right operand's identifier is GONE -/
theorem mrm_mergeHeapOf_post (d : Nat) (m : MMetaSlab (MTree r d)) (x : Option DX) (l rr : MTree r d)
    (li ri : Nat) (s : MHSt r) (hp : mrm_PairOK s d m l rr li ri) :
    (mrm_mergeHeapOf d m x l rr li ri s).heap m.hdr.id =
      some (.metaSlab (md_meta (MMetaSlab.mergeChildren m l rr li ri s.ctx).1 x)) ∧
    (∀ c ∈ (MMetaSlab.mergeChildren m l rr li ri s.ctx).1.children,
      MHolds (mrm_mergeHeapOf d m x l rr li ri s).heap d c none) ∧
    (mrm_mergeHeapOf d m x l rr li ri s).heap (MTree.hdr d rr).id = none ∧
    (∀ id, id ≠ (MTree.hdr d l).id → id ≠ (MTree.hdr d rr).id → id ≠ m.hdr.id →
      (mrm_mergeHeapOf d m x l rr li ri s).heap id = s.heap id) := by
  have e1 := mrm_merge_id d l rr
  have hmid : (MMetaSlab.mergeChildren m l rr li ri s.ctx).1.hdr.id = m.hdr.id := rfl
  have hch : (MMetaSlab.mergeChildren m l rr li ri s.ctx).1.children =
      (m.children.set li (MTree.merge d l rr)).eraseIdx ri := rfl
  have post := mrm_mergeHeap_post s d (MTree.merge d l rr) (MMetaSlab.mergeChildren m l rr li ri s.ctx).1 x
    (MTree.hdr d rr).id m.children li ri
    (by rw [e1]; exact hp.hlr) (by rw [e1, hmid]; exact hp.hml) (by rw [hmid]; exact hp.hmr)
    (mrm_KidsHeld_merge s.heap d l rr hp.hL hp.hR)
    (fun id hid => by rw [e1, hmid]; exact hp.hLi id (List.mem_append.mp (mrm_kidIds_merge d l rr ▸ hid)))
    (fun j c h1 h2 h3 => by rw [e1, hmid]; exact hp.hO j c h1 h2 h3)
  rw [e1, hmid, ← hch] at post
  exact post

end steps

section morPost
variable {r : Nat}

/-- the children of the parent as the call sees them: the updated child (passed by value) at `k`, the others as embedded -/
def mrm_at {d : Nat} (m : MMetaSlab (MTree r d)) (child : MTree r d) (k j : Nat) : Option (MTree r d) :=
  if j = k then some child else m.children[j]?

/-- what `Ob_MergeOrRebalanceChildSlab_heapPost` needs of the heap before the call: what is below the updated child and
    every OTHER child of the parent are held; the identifiers are pairwise distinct (the parent's is in no child's
    subtree, the subtrees of different children are disjoint, a child's root identifier does not occur below it) -/
structure mrm_MorHeld (s : MHSt r) (d : Nat) (m : MMetaSlab (MTree r d)) (child : MTree r d) (k : Nat) : Prop where
  kidsChild : mrm_KidsHeld s.heap d child
  others : ∀ j c, j ≠ k → m.children[j]? = some c → MHolds s.heap d c none
  parent : ∀ j c, mrm_at m child k j = some c → m.hdr.id ∉ md_ids d c
  disj : ∀ i j a b, i ≠ j → mrm_at m child k i = some a → mrm_at m child k j = some b → ∀ id ∈ md_ids d a, id ∉ md_ids d b
  acyc : ∀ j c, mrm_at m child k j = some c → (MTree.hdr d c).id ∉ mrm_kidIds d c

/-- the operands of a step at two different positions, one of them the position of the updated child -/
theorem mrm_pair (s : MHSt r) (d : Nat) (m : MMetaSlab (MTree r d)) (child : MTree r d) (k li ri : Nat) (l rr : MTree r d)
    (hh : mrm_MorHeld s d m child k) (hne : li ≠ ri) (hk : k = li ∨ k = ri)
    (aL : mrm_at m child k li = some l) (aR : mrm_at m child k ri = some rr)
    (hL : mrm_KidsHeld s.heap d l) (hR : mrm_KidsHeld s.heap d rr) : mrm_PairOK s d m l rr li ri := by
  refine ⟨?_, ?_, ?_, hL, hR, ?_, ?_⟩
  · intro e
    exact hh.disj li ri l rr hne aL aR _ (mrm_hid d l) (by rw [e]; exact mrm_hid d rr)
  · intro e; exact hh.parent li l aL (by rw [e]; exact mrm_hid d l)
  · intro e; exact hh.parent ri rr aR (by rw [e]; exact mrm_hid d rr)
  · intro id hid
    rcases hid with hid | hid
    · exact ⟨fun e => hh.acyc li l aL (e ▸ hid),
        fun e => hh.disj li ri l rr hne aL aR id (mrm_kid_sub d l id hid) (by rw [e]; exact mrm_hid d rr),
        fun e => hh.parent li l aL (e ▸ mrm_kid_sub d l id hid)⟩
    · exact ⟨fun e => hh.disj ri li rr l hne.symm aR aL id (mrm_kid_sub d rr id hid) (by rw [e]; exact mrm_hid d l),
        fun e => hh.acyc ri rr aR (e ▸ hid),
        fun e => hh.parent ri rr aR (e ▸ mrm_kid_sub d rr id hid)⟩
  · intro j c h1 h2 hj
    have hjk : j ≠ k := by rcases hk with rfl | rfl <;> assumption
    have aJ : mrm_at m child k j = some c := by simp only [mrm_at, if_neg hjk, hj]
    exact ⟨hh.others j c hjk hj, fun id hid =>
      ⟨fun e => hh.disj j li c l h1 aJ aL id hid (by rw [e]; exact mrm_hid d l),
       fun e => hh.disj j ri c rr h2 aJ aR id hid (by rw [e]; exact mrm_hid d rr),
       fun e => hh.parent j c aJ (e ▸ hid)⟩⟩

theorem mrm_pairR (s : MHSt r) (d : Nat) (m : MMetaSlab (MTree r d)) (child : MTree r d) (k : Nat) (y : MTree r d)
    (hh : mrm_MorHeld s d m child k) (hy : m.children[k + 1]? = some y) : mrm_PairOK s d m child y k (k + 1) :=
  mrm_pair s d m child k k (k + 1) child y hh (Nat.succ_ne_self k).symm (Or.inl rfl) (if_pos rfl)
    (by simp only [mrm_at, if_neg (Nat.succ_ne_self k), hy]) hh.kidsChild
    (mrm_MHolds_kids _ d y none (hh.others (k + 1) y (Nat.succ_ne_self k) hy))

theorem mrm_pairL (s : MHSt r) (d : Nat) (m : MMetaSlab (MTree r d)) (child : MTree r d) (k : Nat) (l : MTree r d)
    (hh : mrm_MorHeld s d m child k) (hk0 : 0 < k) (hl : m.children[k - 1]? = some l) :
    mrm_PairOK s d m l child (k - 1) k := by
  have hne : k - 1 ≠ k := by omega
  exact mrm_pair s d m child k (k - 1) k l child hh hne (Or.inr rfl) (by simp only [mrm_at, if_neg hne, hl]) (if_pos rfl)
    (mrm_MHolds_kids _ d l none (hh.others (k - 1) l hne hl)) hh.kidsChild

/-- the heap `s'` after the call, against the heap `s` before: the new parent `m'` is held under the parent identifier,
    EVERY child of `m'` is held, every identifier that is neither the parent's, the child's nor a sibling's root
    identifier is untouched -/
def mrm_MorPost (s s' : MHSt r) (d : Nat) (m : MMetaSlab (MTree r d)) (x : Option DX) (child : MTree r d)
    (m' : MMetaSlab (MTree r d)) : Prop :=
  s'.heap m.hdr.id = some (.metaSlab (md_meta m' x)) ∧ (∀ c ∈ m'.children, MHolds s'.heap d c none) ∧
  (∀ id, id ≠ m.hdr.id → id ≠ (MTree.hdr d child).id →
    (∀ (j : Nat) (c : MTree r d), m.children[j]? = some c → id ≠ (MTree.hdr d c).id) → s'.heap id = s.heap id)

variable (T : Nat) (d : Nat) (m : MMetaSlab (MTree r d)) (x : Option DX) (child : MTree r d) (k : Nat) (s : MHSt r)
  (m' : MMetaSlab (MTree r d)) (c' : Ctx) (hh : mrm_MorHeld s d m child k)
include hh

theorem mrm_leafRebR (y : MTree r d) (hy : m.children[k + 1]? = some y)
    (h : MMetaSlab.rebalanceChildren T m child y k (k + 1) true s.ctx = .ok (m', c')) :
    mrm_MorPost s (mrm_rebHeapOf T d m x child y k (k + 1) true s) d m x child m' := by
  have p := mrm_rebHeapOf_post T d m x child y k (k + 1) true s m' c' h (mrm_pairR s d m child k y hh hy)
  exact ⟨p.1, p.2.1, fun id h1 h2 h3 => p.2.2 id h2 (h3 (k + 1) y hy) h1⟩

theorem mrm_leafRebL (l : MTree r d) (hk0 : 0 < k) (hl : m.children[k - 1]? = some l)
    (h : MMetaSlab.rebalanceChildren T m l child (k - 1) k false s.ctx = .ok (m', c')) :
    mrm_MorPost s (mrm_rebHeapOf T d m x l child (k - 1) k false s) d m x child m' := by
  have p := mrm_rebHeapOf_post T d m x l child (k - 1) k false s m' c' h (mrm_pairL s d m child k l hh hk0 hl)
  exact ⟨p.1, p.2.1, fun id h1 h2 h3 => p.2.2 id (h3 (k - 1) l hl) h2 h1⟩

theorem mrm_leafMrgR (y : MTree r d) (hy : m.children[k + 1]? = some y)
    (h : (Except.ok (MMetaSlab.mergeChildren m child y k (k + 1) s.ctx) : Except MErr _) = .ok (m', c')) :
    mrm_MorPost s (mrm_mergeHeapOf d m x child y k (k + 1) s) d m x child m' := by
  have hm : (MMetaSlab.mergeChildren m child y k (k + 1) s.ctx).1 = m' := congrArg Prod.fst (Except.ok.inj h)
  subst hm
  have p := mrm_mergeHeapOf_post d m x child y k (k + 1) s (mrm_pairR s d m child k y hh hy)
  exact ⟨p.1, p.2.1, fun id h1 h2 h3 => p.2.2.2 id h2 (h3 (k + 1) y hy) h1⟩

theorem mrm_leafMrgL (l : MTree r d) (hk0 : 0 < k) (hl : m.children[k - 1]? = some l)
    (h : (Except.ok (MMetaSlab.mergeChildren m l child (k - 1) k s.ctx) : Except MErr _) = .ok (m', c')) :
    mrm_MorPost s (mrm_mergeHeapOf d m x l child (k - 1) k s) d m x child m' := by
  have hm : (MMetaSlab.mergeChildren m l child (k - 1) k s.ctx).1 = m' := congrArg Prod.fst (Except.ok.inj h)
  subst hm
  have p := mrm_mergeHeapOf_post d m x l child (k - 1) k s (mrm_pairL s d m child k l hh hk0 hl)
  exact ⟨p.1, p.2.1, fun id h1 h2 h3 => p.2.2.2 id (h3 (k - 1) l hl) h2 h1⟩

/-- **the heap after `MergeOrRebalanceChildSlab`** (`mrm_morHeap`, the storage of `Ob_MergeOrRebalanceChildSlab_heap`), in
    the model's `.ok (m', c')` case: it holds the new parent under the parent identifier and EVERY child of `m'`
    (`MHolds`: the slab and everything below it), and leaves every identifier other than the parent's, the child's and
    the siblings' root identifiers untouched - whichever branch of the 3 x 3 table is taken.
    (The right operand's identifier of a merge is gone: `mrm_mergeHeapOf_post`.) -/
theorem Ob_MergeOrRebalanceChildSlab_heapPost (u : Nat)
    (h : MMetaSlab.mergeOrRebalanceChildSlab T m child k u s.ctx = .ok (m', c')) :
    mrm_MorPost s (mrm_morHeap T d m x child k u s) d m x child m' :=
  mrm_mor_cases T d m x child k u s (fun res s' _ => res = .ok (m', c') → mrm_MorPost s s' d m x child m')
    (fun h => nomatch h) (fun l hk0 hl _ => mrm_leafRebL T d m x child k s m' c' hh l hk0 hl)
    (fun y _ hy _ => mrm_leafRebR T d m x child k s m' c' hh y hy)
    (fun l hk0 hl => mrm_leafMrgL d m x child k s m' c' hh l hk0 hl)
    (fun y _ hy => mrm_leafMrgR d m x child k s m' c' hh y hy) h

end morPost

end Atree.TransEq

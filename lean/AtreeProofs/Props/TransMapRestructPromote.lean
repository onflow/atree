import AtreeProofs.Props.TransMapRestructMor
import AtreeProofs.Props.TransMapRestructRoot
/-
  `OrderedMap.promoteChildAsNewRoot` of the GENERATED restructuring code (`Gen/TransMapSlabs.lean`) as the map descent
  calls it - the field `promote` of the record `rsOf T` (Trans/MapRestruct.lean), over the HEAP - against the model's
  `OMap.promoteIfSingleChild` (Map/Ops.lean): `OrderedMap_promoteChildAsNewRoot_any`
  (Props/TransMapSlabsRoot.lean) read with the heap; the single child is READ from the heap; afterwards the heap holds the
  new root (the child under the root's identifier, with the extra data) and the child's identifier is gone.
-/
namespace Atree.TransEq
open Atree Atree.Gen.TransMap

section promote
variable {r : Nat} (T : Nat)

/-- the storage after `promoteChildAsNewRoot`: `Store` the new root (with the extra data) under the root identifier, then
    `Remove` the child identifier -/
def mrm_promoteHeap (mp' : OMap r) (s : MHSt r) (childID : SlabID) : MHSt r :=
  (s.store (MTree.hdr mp'.d mp'.root).id (md_tree mp'.d mp'.root (some (md_extra mp')))).remove childID

/-- **`promoteChildAsNewRoot` as the descent calls it** (`(rsOf T).promote`) on the handle of a model map whose root is
    an index slab with exactly one child, held by the heap under its identifier: no error, the handle of the model's
    `OMap.promoteIfSingleChild` over the heap `mrm_promoteHeap` (new root stored under the ROOT identifier with the
    extra data, child identifier removed), whose `Ctx` is the model's.
    Needs (data child only): the child's size covers the prefix (else Go's `size - 18` wraps around), and the `uint`
    ranges of the child's element group (`mr_RootFit`, the way back to the descent's record). -/
theorem Ob_promote_heap (d : Nat) (mm : MMetaSlab (MTree r d)) (ty cnt seed : Nat) (s : MHSt r)
    (h : MHdr) (child : MTree r d) (hh : mm.childHdrs = [h]) (hc : mm.children = [child])
    (hheap : s.heap h.id = some (md_tree d child none))
    (hsz : d = 0 → Gen.mapDataSlabPrefixSize ≤ (MTree.hdr d child).size)
    (hfit : mr_RootFit d child) :
    (rsOf T).promote (md_map (⟨d + 1, mm, ty, cnt, seed⟩ : OMap r) s) h.id =
      (none, md_map (OMap.promoteIfSingleChild (⟨d + 1, mm, ty, cnt, seed⟩ : OMap r) s.ctx).1
        (mrm_promoteHeap (OMap.promoteIfSingleChild (⟨d + 1, mm, ty, cnt, seed⟩ : OMap r) s.ctx).1 s h.id)) ∧
    (mrm_promoteHeap (OMap.promoteIfSingleChild (⟨d + 1, mm, ty, cnt, seed⟩ : OMap r) s.ctx).1 s h.id).ctx =
      (OMap.promoteIfSingleChild (⟨d + 1, mm, ty, cnt, seed⟩ : OMap r) s.ctx).2 := by
  have hany := OrderedMap_promoteChildAsNewRoot_any (envMH T) (envMH_ok T) d mm ty cnt seed
    (some (md_extra (⟨d + 1, mm, ty, cnt, seed⟩ : OMap r))) s s s.ctx h child hh hc
    (by simp only [envMH_retrieve, hheap, mr_toM_md_tree_none]) hsz
  obtain ⟨mh, mchs, mchildren, mroot⟩ := mm
  simp only at hh hc
  subst hh hc
  have hfit' : mr_RootFit (OMap.promoteIfSingleChild (⟨d + 1, ⟨mh, [h], [child], mroot⟩, ty, cnt, seed⟩ : OMap r) s.ctx).1.d
      (OMap.promoteIfSingleChild (⟨d + 1, ⟨mh, [h], [child], mroot⟩, ty, cnt, seed⟩ : OMap r) s.ctx).1.root := by
    cases d with
    | zero => exact hfit
    | succ d => trivial
  constructor
  · simp only [rsOf, mrs_mapM_md_map, mrs_cMapH, hany, mr_mapD, envMH_mremoved, envMH_mstored,
      mrs_fromM_root_cTree _ _ _ hfit']
    cases d <;> rfl
  · cases d <;>
      simp only [mrm_promoteHeap, OMap.promoteIfSingleChild, MTree.setRoot, MTree.setId, MTree.hdr, MHSt.remove_ctx,
        MHSt.store_ctx]

end promote

end Atree.TransEq

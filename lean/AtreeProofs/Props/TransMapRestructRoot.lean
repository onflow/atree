import AtreeProofs.Props.TransMapRestructSplit
import AtreeProofs.Props.TransMapSlabsRoot
/-
  The SPLIT side of the restructuring, root level: the GENERATED `OrderedMap.splitRoot` (`Gen/TransMapSlabs.lean`) run over
  the HEAP of the map descent (`(rsOf T).splitRoot`, Trans/MapRestruct.lean) = the model's `OMap.splitRoot`, with the heap
  after the call as an explicit chain: the two allocations only change the `Ctx`, then `Store` left, `Store` right,
  `Store` new root (with the extra data of the handle): `OrderedMap_splitRoot_any` (Props/TransMapSlabsRoot.lean) read
  with the storage `MHSt r`.
-/
namespace Atree.TransEq
open Atree Atree.Gen.TransMap

section root
variable {r : Nat} (T : Nat)

/-- a model handle as the generated `OrderedMap` of the restructuring unit over the heap -/
def mrs_cMapH (m : OMap r) (x : Option DX) (s : MHSt r) : OrderedMap (ME r) SV DX (MHSt r) :=
  { Storage := s, root := root_cTree m.d m.root x }

theorem mrs_toM_md_tree (d : Nat) (t : MTree r d) (x : Option DX) : mr_toM (md_tree d t x) = root_cTree d t x := by
  cases d with
  | zero => rfl
  | succ d => exact mr_toM_meta (t : MMetaSlab (MTree r d)) x

theorem mrs_fromM_root_cTree (d : Nat) (t : MTree r d) (x : Option DX) (h : mr_RootFit d t) :
    mr_fromM (root_cTree d t x) = md_tree d t x := by
  cases d with
  | zero => exact mr_fromM_cData (t : MDataSlab r) x h
  | succ d => exact mr_fromM_cMeta (t : MMetaSlab (MTree r d)) x

theorem mrs_mapM_md_map (m : OMap r) (s : MHSt r) : mr_mapM (md_map m s) = mrs_cMapH m (some (md_extra m)) s := by
  simp only [mr_mapM, md_map, mrs_cMapH, mrs_toM_md_tree]

/-- the state the generated `splitRoot` leaves behind when the old root cannot be split (as `root_splitFail`):
    the identifier is allocated, the root is the OLD root slab under the NEW identifier without its extra data -/
def mrs_splitFail (m : OMap r) (s : MHSt r) : OrderedMap (ME r) SV DX (MHSt r) :=
  { Storage := s.withCtx (s.ctx.alloc m.rootID.addr).2,
    root := cTree m.d (root_deroot m.d m.root (s.ctx.alloc m.rootID.addr).1) }

/-- the generated `splitRoot` over the heap, any depth (`OrderedMap_splitRoot_any` read with `envMH`); `hfit`: the
    data-slab fields of the two halves are in `uint` range (they are stored and read back) -/
theorem mrs_splitRoot_heap (m : OMap r) (x : Option DX) (s : MHSt r) (hm : root_splitHyp m)
    (hfit : ∀ l rr c2, MTree.split m.d (mrs_rootOld m s.ctx) (s.ctx.alloc m.rootID.addr).2 = .ok (l, rr, c2) →
      mr_RootFit m.d l ∧ mr_RootFit m.d rr) :
    OrderedMap_splitRoot (envMH T) (mrs_cMapH m x s) =
      match MTree.split m.d (mrs_rootOld m s.ctx) (s.ctx.alloc m.rootID.addr).2 with
      | .ok (l, rr, c2) =>
        some (none, mrs_cMapH (mrs_rootNew m l rr) x (mrs_splitChildSt s (mrs_newRoot m l rr) x l rr c2))
      | .error e => some (some e, mrs_splitFail m s) := by
  refine (OrderedMap_splitRoot_any T (envMH T) (envMH_EnvH T) (envMH_ok T) (envMH_ctxOf T) m x s hm).trans ?_
  cases hsp : MTree.split m.d (mrs_rootOld m s.ctx) (s.ctx.alloc m.rootID.addr).2 with
  | error e => rfl
  | ok p =>
    obtain ⟨l, rr, c2⟩ := p
    obtain ⟨hfl, hfr⟩ := hfit l rr c2 hsp
    simp only [envMH_mstored, mr_fromM_cTree _ _ hfl, mr_fromM_cTree _ _ hfr, mr_fromM_cMeta]
    rfl

theorem mrs_md_extra_rootNew (m : OMap r) (l rr : MTree r m.d) : md_extra (mrs_rootNew m l rr) = md_extra m := rfl

/-- **`OrderedMap.splitRoot` of the restructuring record over the heap** = the model's `OMap.splitRoot`: no error, the
    handle of the model's result `mp'` (= `mrs_rootNew mp l rr`: the new root index slab under the OLD root identifier
    over the two halves, with the extra data of the handle) over the heap after: the two allocations (only the `Ctx`
    changes: `withCtx c2`), `Store` left, `Store` right, `Store` new root; the `Ctx` of that storage is the model's. -/
theorem Ob_splitRoot_heap (mp : OMap r) (s : MHSt r) (hm : root_splitHyp mp) {mp' : OMap r} {c' : Ctx}
    (hmodel : OMap.splitRoot mp s.ctx = .ok (mp', c')) {l rr : MTree r mp.d} {c2 : Ctx}
    (hsp : MTree.split mp.d (mrs_rootOld mp s.ctx) (s.ctx.alloc mp.rootID.addr).2 = .ok (l, rr, c2))
    (hfl : mr_RootFit mp.d l) (hfr : mr_RootFit mp.d rr) :
    (rsOf T).splitRoot (md_map mp s) =
      (none, md_map mp'
        ((((s.withCtx c2).store (MTree.hdr mp.d l).id (md_tree mp.d l none)).store (MTree.hdr mp.d rr).id
          (md_tree mp.d rr none)).store mp.rootID (.metaSlab (md_meta (mrs_newRoot mp l rr) (some (md_extra mp)))))) ∧
    ((((s.withCtx c2).store (MTree.hdr mp.d l).id (md_tree mp.d l none)).store (MTree.hdr mp.d rr).id
          (md_tree mp.d rr none)).store mp.rootID (.metaSlab (md_meta (mrs_newRoot mp l rr) (some (md_extra mp))))).ctx = c' ∧
    mp' = mrs_rootNew mp l rr := by
  have hmod := mrs_splitRoot_model mp s.ctx
  simp only [hsp] at hmod
  rw [hmod] at hmodel
  cases hmodel
  have h := OrderedMap_splitRoot_any T (envMH T) (envMH_EnvH T) (envMH_ok T) (envMH_ctxOf T) mp (some (md_extra mp)) s hm
  simp only [hsp] at h
  refine ⟨?_, rfl, rfl⟩
  simp only [rsOf, mrs_mapM_md_map, mrs_cMapH, h]
  simp only [mr_mapD, md_map, mrs_rootNew, envMH_mstored, mr_fromM_cTree _ _ hfl, mr_fromM_cTree _ _ hfr, mr_fromM_cMeta,
    md_tree]
  rfl

/-- the error case (the root has fewer than 2 elements / children): the model's error class; the handle is left in
    the state `root_splitFail` describes - the identifier is allocated (`withCtx`), the heap is untouched, the root
    of the handle is the OLD root slab under the NEW identifier, without its extra data, a data root with the non-root
    size (`root_deroot`); `mr_RootFit`: the root object goes through `mr_toM` / `mr_fromM` -/
theorem Ob_splitRoot_heap_error (mp : OMap r) (s : MHSt r) (hm : root_splitHyp mp) {e : MErr}
    (hmodel : OMap.splitRoot mp s.ctx = .error e) (hfroot : mr_RootFit mp.d mp.root) :
    (rsOf T).splitRoot (md_map mp s) =
      (some e, { Storage := s.withCtx (s.ctx.alloc mp.rootID.addr).2,
                 root := md_tree mp.d (root_deroot mp.d mp.root (s.ctx.alloc mp.rootID.addr).1) none,
                 digesterBuilder := () }) := by
  have hmod := mrs_splitRoot_model mp s.ctx
  cases hsp : MTree.split mp.d (mrs_rootOld mp s.ctx) (s.ctx.alloc mp.rootID.addr).2 with
  | ok p =>
    obtain ⟨l, rr, c2⟩ := p
    simp only [hsp] at hmod
    rw [hmod] at hmodel
    cases hmodel
  | error e' =>
    simp only [hsp] at hmod
    rw [hmod] at hmodel
    cases hmodel
    have h := OrderedMap_splitRoot_any T (envMH T) (envMH_EnvH T) (envMH_ok T) (envMH_ctxOf T) mp (some (md_extra mp)) s hm
    simp only [hsp] at h
    have hfd : mr_RootFit mp.d (root_deroot mp.d mp.root (s.ctx.alloc mp.rootID.addr).1) := by
      obtain ⟨d, root, ty, cnt, seed⟩ := mp
      cases d with
      | zero => exact hfroot
      | succ d => trivial
    simp only [rsOf, mrs_mapM_md_map, mrs_cMapH, h, mr_mapD, mr_fromM_cTree _ _ hfd]

/-- the old root as `splitRoot` hands it to `split`: the fresh identifier, the children of the root -/
theorem mrs_rootOld_shape (mp : OMap r) (c : Ctx) :
    (MTree.hdr mp.d (mrs_rootOld mp c)).id = (c.alloc mp.rootID.addr).1 ∧
    mrs_kidIds mp.d (mrs_rootOld mp c) = mrs_kidIds mp.d mp.root ∧
    (∀ h, mrs_KidsHeld h mp.d mp.root → mrs_KidsHeld h mp.d (mrs_rootOld mp c)) := by
  obtain ⟨d, root, ty, cnt, seed⟩ := mp
  cases d with
  | zero => exact ⟨rfl, rfl, fun _ h => h⟩
  | succ d => exact ⟨rfl, rfl, fun _ h => h⟩

/-- **the heap after `splitRoot`**: if the slabs below the old root were held, the two fresh identifiers (of the left
    half = the re-identified old root, and of the right half) are different from each other, from the root identifier
    and from every identifier below the root, and the root identifier is not below the root, then the heap holds the
    whole new tree (the new root index slab with the extra data under the OLD root identifier, both halves and
    everything below them), and every other identifier is untouched -/
theorem Ob_splitRoot_heapPost (mp : OMap r) (s : MHSt r) {l rr : MTree r mp.d} {c2 : Ctx}
    (hsp : MTree.split mp.d (mrs_rootOld mp s.ctx) (s.ctx.alloc mp.rootID.addr).2 = .ok (l, rr, c2))
    (hkids : mrs_KidsHeld s.heap mp.d mp.root)
    (hl : (MTree.hdr mp.d l).id ∉ mrs_kidIds mp.d mp.root) (hr : (MTree.hdr mp.d rr).id ∉ mrs_kidIds mp.d mp.root)
    (hlr : (MTree.hdr mp.d rr).id ≠ (MTree.hdr mp.d l).id)
    (hrootl : mp.rootID ≠ (MTree.hdr mp.d l).id) (hrootr : (MTree.hdr mp.d rr).id ≠ mp.rootID)
    (hrootk : mp.rootID ∉ mrs_kidIds mp.d mp.root) :
    let s' := (((s.withCtx c2).store (MTree.hdr mp.d l).id (md_tree mp.d l none)).store (MTree.hdr mp.d rr).id
      (md_tree mp.d rr none)).store mp.rootID (.metaSlab (md_meta (mrs_newRoot mp l rr) (some (md_extra mp))))
    MHolds s'.heap (mp.d + 1) (mrs_newRoot mp l rr) (some (md_extra mp)) ∧
    (∀ id, id ≠ (MTree.hdr mp.d l).id → id ≠ (MTree.hdr mp.d rr).id → id ≠ mp.rootID → s'.heap id = s.heap id) := by
  intro s'
  obtain ⟨hoid, hokids, hoheld⟩ := mrs_rootOld_shape mp s.ctx
  obtain ⟨hlid, _, _, _⟩ := mrs_split_shape mp.d (mrs_rootOld mp s.ctx) l rr _ c2 hsp
  have hids : md_ids mp.d (mrs_rootOld mp s.ctx) = (MTree.hdr mp.d l).id :: mrs_kidIds mp.d mp.root := by
    rw [mrs_md_ids_eq, hokids, hlid]
  have hp := mrs_splitSt_heapPost mp.d (mrs_newRoot mp l rr) (some (md_extra mp)) (mrs_rootOld mp s.ctx) l rr _ c2 s hsp
    (hoheld _ hkids)
    (by rw [hids]; intro h; rcases List.mem_cons.mp h with h | h
        · exact hlr h
        · exact hr h)
    hrootr
    (by rw [hids]; intro h; rcases List.mem_cons.mp h with h | h
        · exact hrootl h
        · exact hrootk h)
    (by rw [hokids, ← hlid]; exact hl)
  obtain ⟨h1, h2, h3, h4⟩ := hp
  refine ⟨⟨h3, ?_⟩, h4⟩
  intro c hc
  rcases List.mem_cons.mp hc with hc | hc
  · subst hc; exact h1
  · rcases List.mem_cons.mp hc with hc | hc
    · subst hc; exact h2
    · cases hc

end root

/-! non-vacuity: a data slab with the keys 5, 9 (T = 1024), as a root and as the only child of an index slab -/

section examples

private def mrs_exElem (k sz : Nat) : MElemF (MElems 0) :=
  .single { key := ⟨1, k, [k]⟩, val := ⟨1, .val k⟩, size := sz }

/-- a data slab with slab id (1, id), header size `size` and one element of size 12 + 8 per key -/
private def mrs_exData (id size : Nat) (ks : List Nat) (isRoot : Bool) : MDataSlab 0 :=
  { hdr := ⟨⟨1, id⟩, size, ks.headD 0⟩, next := ⟨0, 0⟩,
    elems := { hkeys := ks, elems := ks.map (mrs_exElem · 12), size := 8 + 20 * ks.length, level := 0 },
    root := isRoot, inlined := false }

/-- an empty heap, allocation counter 40 -/
private def mrs_exSt : MHSt 0 := { heap := fun _ => none, ctx := ⟨40, [], []⟩ }

/-- a root data slab (1, 7) with the keys 5, 9 -/
private def mrs_exMap : OMap 0 := ⟨0, mrs_exData 7 50 [5, 9] true, 0, 2, 0⟩

/-- the hypotheses of `Ob_splitRoot_heap` / `Ob_splitRoot_heapPost` hold for it (the model splits the root; both halves
    are in range; the fresh identifiers are distinct) -/
private theorem mrs_exMap_hyps : ∃ (mp' : OMap 0) (c' : Ctx) (l rr : MTree 0 mrs_exMap.d) (c2 : Ctx),
    root_splitHyp mrs_exMap ∧ OMap.splitRoot mrs_exMap mrs_exSt.ctx = .ok (mp', c') ∧
    MTree.split mrs_exMap.d (mrs_rootOld mrs_exMap mrs_exSt.ctx) (mrs_exSt.ctx.alloc mrs_exMap.rootID.addr).2 = .ok (l, rr, c2) ∧
    mr_RootFit mrs_exMap.d l ∧ mr_RootFit mrs_exMap.d rr ∧
    mrs_KidsHeld mrs_exSt.heap mrs_exMap.d mrs_exMap.root ∧
    (MTree.hdr mrs_exMap.d l).id ∉ mrs_kidIds mrs_exMap.d mrs_exMap.root ∧
    (MTree.hdr mrs_exMap.d rr).id ∉ mrs_kidIds mrs_exMap.d mrs_exMap.root ∧
    (MTree.hdr mrs_exMap.d rr).id ≠ (MTree.hdr mrs_exMap.d l).id ∧
    mrs_exMap.rootID ≠ (MTree.hdr mrs_exMap.d l).id ∧ (MTree.hdr mrs_exMap.d rr).id ≠ mrs_exMap.rootID ∧
    mrs_exMap.rootID ∉ mrs_kidIds mrs_exMap.d mrs_exMap.root := by
  refine ⟨_, _, _, _, _, by simp only [root_splitHyp, mrs_exMap]; decide, rfl, rfl, ?_, ?_, trivial,
    List.not_mem_nil, List.not_mem_nil, by decide, by decide, by decide, List.not_mem_nil⟩
  · exact ⟨by decide, by decide, by decide⟩
  · exact ⟨by decide, by decide, by decide⟩

/-- ... so, by the theorems, the heap holds the whole new tree afterwards -/
example : ∃ (l rr : MTree 0 mrs_exMap.d),
    MHolds ((rsOf 1024).splitRoot (md_map mrs_exMap mrs_exSt)).2.Storage.heap (mrs_exMap.d + 1) (mrs_newRoot mrs_exMap l rr)
      (some (md_extra mrs_exMap)) := by
  obtain ⟨mp', c', l, rr, c2, h1, h2, h3, h4, h5, h6, h7, h8, h9, h10, h11, h12⟩ := mrs_exMap_hyps
  refine ⟨l, rr, ?_⟩
  rw [(Ob_splitRoot_heap 1024 mrs_exMap mrs_exSt h1 h2 h3 h4 h5).1]
  exact (Ob_splitRoot_heapPost mrs_exMap mrs_exSt h3 h6 h7 h8 h9 h10 h11 h12).1

/-- ... so, by the theorem, the call returns no error and the heap holds three slabs afterwards: the halves under
    (1, 41) / (1, 42) and the new root under the old root identifier (1, 7); the effects are the model's -/
example : ((rsOf 1024).splitRoot (md_map mrs_exMap mrs_exSt)).1 = none := by
  obtain ⟨mp', c', l, rr, c2, h1, h2, h3, h4, h5, _⟩ := mrs_exMap_hyps
  rw [(Ob_splitRoot_heap 1024 mrs_exMap mrs_exSt h1 h2 h3 h4 h5).1]

example : (let q := (rsOf 1024).splitRoot (md_map mrs_exMap mrs_exSt)
    (q.1, (q.2.Storage.heap ⟨1, 41⟩).isSome, (q.2.Storage.heap ⟨1, 42⟩).isSome, (q.2.Storage.heap ⟨1, 7⟩).isSome,
      (q.2.Storage.heap ⟨1, 8⟩).isSome, q.2.Storage.ctx.eff)) =
    (none, true, true, true, false,
      [.alloc 1 ⟨1, 41⟩, .alloc 1 ⟨1, 42⟩, .store ⟨1, 41⟩, .store ⟨1, 42⟩, .store ⟨1, 7⟩]) := by rfl

/-- the error case: a root with ONE element -/
example : ((rsOf 1024).splitRoot (md_map (⟨0, mrs_exData 7 30 [5] true, 0, 1, 0⟩ : OMap 0) mrs_exSt)).1 = some .slabSplit := by
  rw [Ob_splitRoot_heap_error 1024 (⟨0, mrs_exData 7 30 [5] true, 0, 1, 0⟩ : OMap 0) mrs_exSt
    (by simp only [root_splitHyp]; decide) (e := .slabSplit) rfl ⟨by decide, by decide, by decide⟩]

/-- an index slab (1, 7) whose only child is the data slab (1, 9) with the keys 5, 9 -/
private def mrs_exChild : MTree 0 0 := mrs_exData 9 66 [5, 9] false
private def mrs_exParent : MMetaSlab (MTree 0 0) :=
  { hdr := ⟨⟨1, 7⟩, 12 + 18, 5⟩, childHdrs := [(mrs_exData 9 66 [5, 9] false).hdr], children := [mrs_exChild], root := true }

/-- the hypotheses of `Ob_SplitChildSlab_heap` / `Ob_SplitChildSlab_heapPost` hold -/
private theorem mrs_exChild_hyps : ∃ (m' : MMetaSlab (MTree 0 0)) (c' : Ctx) (l rr : MTree 0 0) (c1 : Ctx),
    0 < mrs_exParent.childHdrs.length ∧ msl_SplitOK 0 mrs_exChild ∧
    MMetaSlab.splitChildSlab mrs_exParent mrs_exChild 0 mrs_exSt.ctx = .ok (m', c') ∧
    MTree.split 0 mrs_exChild mrs_exSt.ctx = .ok (l, rr, c1) ∧ mr_RootFit 0 l ∧ mr_RootFit 0 rr ∧
    mrs_KidsHeld mrs_exSt.heap 0 mrs_exChild ∧ (MTree.hdr 0 rr).id ∉ md_ids 0 mrs_exChild ∧
    (MTree.hdr 0 rr).id ≠ mrs_exParent.hdr.id ∧ mrs_exParent.hdr.id ∉ md_ids 0 mrs_exChild ∧
    (MTree.hdr 0 mrs_exChild).id ∉ mrs_kidIds 0 mrs_exChild := by
  refine ⟨_, _, _, _, _, by decide, ?_, rfl, rfl, ?_, ?_, trivial, ?_, by decide, ?_, ?_⟩
  · simp only [msl_SplitOK, mrs_exChild]; decide
  · exact ⟨by decide, by decide, by decide⟩
  · exact ⟨by decide, by decide, by decide⟩
  · exact fun h => absurd (List.mem_singleton.mp h) (by decide)
  · exact fun h => absurd (List.mem_singleton.mp h) (by decide)
  · exact fun h => nomatch h

/-- ... so, by the theorems: no error, and the heap holds both halves and the parent afterwards -/
example : ((rsOf 1024).splitChild (md_meta mrs_exParent none) mrs_exSt (md_tree 0 mrs_exChild none) (Int.ofNat 0)).1 = none := by
  obtain ⟨m', c', l, rr, c1, h1, h2, h3, h4, h5, h6, _⟩ := mrs_exChild_hyps
  rw [(Ob_SplitChildSlab_heap 1024 0 mrs_exParent none mrs_exChild 0 mrs_exSt h1 h2 h3 h4 h5 h6).1]

example : ∃ (m' : MMetaSlab (MTree 0 0)) (l rr : MTree 0 0),
    let s' := ((rsOf 1024).splitChild (md_meta mrs_exParent none) mrs_exSt (md_tree 0 mrs_exChild none) (Int.ofNat 0)).2.2.1
    MHolds s'.heap 0 l none ∧ MHolds s'.heap 0 rr none ∧ s'.heap m'.hdr.id = some (.metaSlab (md_meta m' none)) := by
  obtain ⟨m', c', l, rr, c1, h1, h2, h3, h4, h5, h6, h7, h8, h9, h10, h11⟩ := mrs_exChild_hyps
  refine ⟨m', l, rr, ?_⟩
  rw [(Ob_SplitChildSlab_heap 1024 0 mrs_exParent none mrs_exChild 0 mrs_exSt h1 h2 h3 h4 h5 h6).1]
  have hp := Ob_SplitChildSlab_heapPost 0 mrs_exParent m' none mrs_exChild l rr 0 c' c1 mrs_exSt h3 h4 h7 h8 h9 h10 h11
  exact ⟨hp.1, hp.2.1, hp.2.2.1⟩

example : (let q := (rsOf 1024).splitChild (md_meta mrs_exParent none) mrs_exSt (md_tree 0 mrs_exChild none) (Int.ofNat 0)
    (q.1, q.2.1.childrenHeaders.map (fun h => (h.slabID, h.size.toNat)), q.2.1.header.size.toNat,
      (q.2.2.1.heap ⟨1, 9⟩).isSome, (q.2.2.1.heap ⟨1, 41⟩).isSome, (q.2.2.1.heap ⟨1, 7⟩).isSome, q.2.2.1.ctx.eff)) =
    (none, [(⟨1, 9⟩, 46), (⟨1, 41⟩, 46)], 48, true, true, true,
      [.alloc 1 ⟨1, 41⟩, .store ⟨1, 9⟩, .store ⟨1, 41⟩, .store ⟨1, 7⟩]) := by rfl

end examples

end Atree.TransEq

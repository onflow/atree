import AtreeProofs.Trans.MapSlabs
import AtreeProofs.Props.TransLoops
/-
  The slab-level restructuring code of the maps, REGENERATED IN FULL from the Go sources on every run
  (`AtreeModel/Gen/TransMapSlabs.lean`), equals the hand-written model (`AtreeModel/Map/Elems.lean`, `Tree.lean`):
  the generated function on the translation of a model value yields the translation of the model function's result -
  elements and digests moved, sizes, levels, headers, next links, the same error class, the same storage effects.
  Range hypotheses (sizes fit `uint32`, the size field covers the elements) are explicit.
-/
namespace Atree.TransEq
open Atree Atree.Gen.TransMap

theorem all_translated_mapslabs : untranslatedFunctions = [] := rfl

/-- the only call sites that hand a slice to a helper which clears it and do not overwrite it: the right operand of the
    three `merge` calls (the merged-away right slab is removed from storage by `mergeChildren`) -/
theorem deadAfterCall_pinned : deadAfterCall =
    ["MapMetaDataSlab.Merge: rightSlab.childrenHeaders after merge", "hkeyElements.Merge: rElems.elems after merge",
     "hkeyElements.Merge: rElems.hkeys after merge"] := rfl

/-! ## hkeyElements (map_elements_hashkey.go)

  `hkeyElements.Split / LendToRight / BorrowFromRight` of this engine and of the stateless engine (`Gen/Trans.lean`) run the
  same `uint32` program over the element sizes; this engine reads them through `element.Size()` and moves the two parallel
  slices along.  For every environment and with no range condition the full function is the stateless one followed by
  the list moves of slice_utils.go (`*_eq_stateless`), so what the numbers are in the model is a question about the
  stateless engine alone (Props/TransLoops.lean: `hkeyElements_*_eq_model`). -/

section stateless
variable {E V W X S ε : Type} (env : Env E V W X S ε)

/-- `element.Size()` of the elements, as the stateless engine (`Gen/Trans.lean`) is given them -/
abbrev msl_elemSizes (es : List E) : List UInt32 := es.map env.element_Size

theorem msl_split_loop_eq (ds mp : UInt32) (es : List E) (i : Int) (ls : UInt32) (lc : Int) :
    hkeyElements_Split.loop1 (V := V) env ds mp es i ls lc =
      .done (Gen.Trans.hkeyElements_Split.loop1 ds mp (msl_elemSizes env es) i (ls, lc)) := by
  induction es generalizing i ls with
  | nil => rfl
  | cons x t ih =>
    rw [msl_elemSizes, List.map_cons, hkeyElements_Split.loop1, Gen.Trans.hkeyElements_Split.loop1]
    cases decide (ls + (env.element_Size x + UInt32.ofNat Gen.digestSize) ≥ mp)
    · exact ih _ _
    · cases decide (ls ≤ ds - ls - (env.element_Size x + UInt32.ofNat Gen.digestSize)) <;> rfl

/-- the list part of `hkeyElements.Split`: both parallel slices are split at `leftCount` and the two groups get the
    sizes the stateless engine computed -/
def msl_hkeySplitAt (e : hkeyElements E) :
    Int × UInt32 × UInt32 × UInt32 → Option (elements E V × elements E V × Option ε × hkeyElements E)
  | (lc, _, rsz, lsz) =>
    match split e.hkeys lc, split e.elems lc with
    | some k, some el =>
      some (.hkey { e with hkeys := k.1, elems := el.1, size := lsz },
        .hkey { level := e.level, hkeys := k.2, elems := el.2, size := rsz }, none,
        { e with hkeys := k.1, elems := el.1, size := lsz })
    | _, _ => none

theorem hkeyElements_Split_eq_stateless (e : hkeyElements E) :
    hkeyElements_Split (V := V) env e =
      (Gen.Trans.hkeyElements_Split e.size (msl_elemSizes env e.elems)).bind (msl_hkeySplitAt e) := by
  unfold hkeyElements_Split Gen.Trans.hkeyElements_Split hkeyElements_Size
  dsimp only
  rw [msl_split_loop_eq]
  dsimp only
  generalize Gen.Trans.hkeyElements_Split.loop1 _ _ _ _ _ = p
  obtain ⟨ls, lc⟩ := p
  simp only [Option.bind, msl_hkeySplitAt]
  cases split e.hkeys lc with
  | none => rfl
  | some k => cases split e.elems lc <;> rfl

theorem msl_lend_loop_eq (e : hkeyElements E) (minS size mp : UInt32) (n : Nat) (hn : n ≤ e.elems.length) (lc : Int)
    (ls : UInt32) :
    hkeyElements_LendToRight.loop1 (V := V) env e minS size mp n lc ls =
      .done ((Gen.Trans.hkeyElements_LendToRight.loop1 (msl_elemSizes env e.elems) minS size mp n
          (lc, ls, Int.ofNat n - 1)).1,
        (Gen.Trans.hkeyElements_LendToRight.loop1 (msl_elemSizes env e.elems) minS size mp n
          (lc, ls, Int.ofNat n - 1)).2.1) := by
  induction n generalizing lc ls with
  | zero => rfl
  | succ n ih =>
    have hlt : n < e.elems.length := hn
    rw [int_succ_sub_one, hkeyElements_LendToRight.loop1, Gen.Trans.hkeyElements_LendToRight.loop1]
    simp only [int_dge0, if_true, goIdx_eq, sliceIdx_ofNat, int_toNat, List.getD_eq_getElem?_getD, List.getElem?_map,
      List.getElem?_eq_getElem hlt, Option.map_some, Option.getD_some]
    cases (decide (ls - (env.element_Size e.elems[n] + UInt32.ofNat Gen.digestSize) < mp) && decide (size - ls ≥ minS))
    · exact ih (Nat.le_of_lt hlt) _ _
    · rfl

theorem msl_borrow_loop_eq (minS size mp : UInt32) (es : List E) (i : Int) (lc : Int) (ls : UInt32) :
    hkeyElements_BorrowFromRight.loop1 (V := V) env minS size mp es i lc ls =
      .done (Gen.Trans.hkeyElements_BorrowFromRight.loop1 minS size mp (msl_elemSizes env es) i (lc, ls)) := by
  induction es generalizing i lc ls with
  | nil => rfl
  | cons x t ih =>
    rw [msl_elemSizes, List.map_cons, hkeyElements_BorrowFromRight.loop1, Gen.Trans.hkeyElements_BorrowFromRight.loop1]
    cases decide (ls + (env.element_Size x + UInt32.ofNat Gen.digestSize) > mp)
    · exact ih _ _ _
    · cases decide (size - ls - (env.element_Size x + UInt32.ofNat Gen.digestSize) ≥ minS) <;> rfl

/-- the list part of `hkeyElements.LendToRight` / `BorrowFromRight`: the two parallel slices as `lendToRight` /
    `borrowFromRight` (slice_utils.go) moved them, and the two sizes the stateless engine computed -/
def msl_hkeyMoved (e re : hkeyElements E) (lsz rsz : UInt32) :
    Option (List UInt64 × List UInt64) → Option (List E × List E) → Option (Option ε × hkeyElements E × elements E V)
  | some k, some el =>
    some (none, { e with hkeys := k.1, elems := el.1, size := lsz },
      .hkey { re with hkeys := k.2, elems := el.2, size := rsz })
  | _, _ => none

theorem hkeyElements_LendToRight_eq_stateless (e re : hkeyElements E) :
    hkeyElements_LendToRight (V := V) env e (.hkey re) =
      match Gen.Trans.hkeyElements_LendToRight e.level e.size (msl_elemSizes env e.elems) re.level re.size env.minThreshold with
      | none => some (env.NewSlabRebalanceError, e, .hkey re)
      | some (_, _, mc, lsz, rsz) =>
        msl_hkeyMoved e re lsz rsz (lendToRight e.hkeys re.hkeys mc) (lendToRight e.elems re.elems mc) := by
  unfold hkeyElements_LendToRight Gen.Trans.hkeyElements_LendToRight hkeyElements_Size
  dsimp only
  cases decide (e.level ≠ re.level)
  · simp only [Bool.false_eq_true, if_false, List.length_map, int_fuel]
    rw [msl_lend_loop_eq env e _ _ _ _ (Nat.le_refl _)]
    dsimp only
    generalize Gen.Trans.hkeyElements_LendToRight.loop1 _ _ _ _ _ _ = p
    obtain ⟨lc, ls, i⟩ := p
    dsimp only [msl_hkeyMoved]
    cases lendToRight e.hkeys re.hkeys (Int.ofNat e.elems.length - lc) with
    | none => rfl
    | some k => cases lendToRight e.elems re.elems (Int.ofNat e.elems.length - lc) <;> rfl
  · rfl

theorem hkeyElements_BorrowFromRight_eq_stateless (e re : hkeyElements E) :
    hkeyElements_BorrowFromRight (V := V) env e (.hkey re) =
      match Gen.Trans.hkeyElements_BorrowFromRight e.level e.size (Int.ofNat e.elems.length) re.level re.size
          (msl_elemSizes env re.elems) env.minThreshold with
      | none => some (env.NewSlabRebalanceError, e, .hkey re)
      | some (_, _, mc, lsz, rsz) =>
        msl_hkeyMoved e re lsz rsz (borrowFromRight e.hkeys re.hkeys mc) (borrowFromRight e.elems re.elems mc) := by
  unfold hkeyElements_BorrowFromRight Gen.Trans.hkeyElements_BorrowFromRight hkeyElements_Size
  dsimp only
  cases decide (e.level ≠ re.level)
  · simp only [Bool.false_eq_true, if_false]
    rw [msl_borrow_loop_eq]
    dsimp only
    generalize Gen.Trans.hkeyElements_BorrowFromRight.loop1 _ _ _ _ _ _ = p
    obtain ⟨lc, ls⟩ := p
    dsimp only [msl_hkeyMoved]
    cases borrowFromRight e.hkeys re.hkeys (lc - Int.ofNat e.elems.length) with
    | none => rfl
    | some k => cases borrowFromRight e.elems re.elems (lc - Int.ofNat e.elems.length) <;> rfl
  · rfl

end stateless

section hkey
variable {α V W X S : Type} (o : ElemsOps α) (T : Nat) (env : Env (MElemF α) V W X S GE)

/-- with the model's element sizes (`EnvH.size`) the stateless engine is handed the model's raw sizes -/
theorem msl_elemSizes_cH (hE : EnvH o T env) (e : HkeyElems α) : msl_elemSizes env (cH e).elems = u32s (rawSizes o e) := by
  simp only [msl_elemSizes, cH_elems, rawSizes, u32s, List.map_map]
  exact List.map_congr_left fun x _ => hE.size x

/-- `hkeyElements.Split` IN FULL: the left group (the receiver, also returned as first result), the right group
    (digests, elements, size, level), no error.  Needs: `e.size` fits uint32 and covers prefix + elements, and there
    is a digest for every element (`split` panics otherwise). -/
theorem hkeyElements_Split_full_eq_model (hE : EnvH o T env) (e : HkeyElems α) (hs : e.size < 2^32)
    (hpre : Gen.hkeyElementsPrefixSize + (dg (rawSizes o e)).sum ≤ e.size)
    (hlen : e.elems.length ≤ e.hkeys.length) :
    hkeyElements_Split env (cH e) =
      some (.hkey (cH (HkeyElems.split o e).1), .hkey (cH (HkeyElems.split o e).2), none, cH (HkeyElems.split o e).1) := by
  obtain ⟨hb1, -⟩ := splitPlan_bounds o e hpre
  rw [hkeyElements_Split_eq_stateless, cH_size, msl_elemSizes_cH o T env hE, hkeyElements_Split_eq_model o e hs hpre,
    split_eq_plan]
  simp only [Option.bind, msl_hkeySplitAt, List.length_take, Nat.min_eq_left hb1, cH_hkeys, cH_elems,
    msl_split_eq _ _ (show (splitPlan o e).1 ≤ (u64s e.hkeys).length by rw [u64s_length]; omega),
    msl_split_eq _ _ (show (splitPlan o e).1 ≤ e.elems.length from hb1), msl_u64s_take, msl_u64s_drop]
  rfl

/-- `hkeyElements.Merge` IN FULL: digests and elements appended, size added (the right prefix counted once); the
    right group is only cleared (`deadAfterCall`).  Needs: the right size covers its prefix (not `hsz`: `u32` commutes with `+` whatever the sizes). -/
theorem hkeyElements_Merge_full_eq_model (l r : HkeyElems α) (hr8 : Gen.hkeyElementsPrefixSize ≤ r.size)
    (hsz : l.size + r.size < 2^32) :
    hkeyElements_Merge env (cH l) (.hkey (cH r)) = some (none, cH (HkeyElems.merge l r)) := by
  simp only [Gen.hkeyElementsPrefixSize] at hr8
  simp only [hkeyElements_Merge, hkeyElements_Size, HkeyElems.merge, cH, msl_merge_eq, Bool.not_true, Bool.false_eq_true,
    if_false, Gen.hkeyElementsPrefixSize, msl_u64s_append]
  have e8 : UInt32.ofNat 8 = u32 8 := rfl
  rw [e8, u32_sub_eq hr8, u32_add_eq]

/-- `hkeyElements.Merge` with anything but an `*hkeyElements`: SlabMergeError, the receiver untouched -/
theorem hkeyElements_Merge_wrong_type (hE : EnvH o T env) (l : HkeyElems α) (x : elements (MElemF α) V)
    (hx : ∀ h, x ≠ .hkey h) :
    hkeyElements_Merge env (cH l) x = some (some .slabMerge, cH l) := by
  cases x with
  | hkey h => exact absurd rfl (hx h)
  | nil => simp [hkeyElements_Merge, hE.eMerge]
  | single s => simp [hkeyElements_Merge, hE.eMerge]

/-- `hkeyElements.LendToRight` IN FULL: the hash-level error in the same case (both groups untouched); otherwise
    the last elements of the left group and THEIR digests move in front of the right group, both sizes updated.
    Needs: the parallel slices have equal length (Go moves the last `moveCount` digests, the model the digests from
    `leftCount` on), `mapDataSlabPrefixSize + hkeyElementsPrefixSize ≤ minThreshold`, both sizes ≥ the prefix, their
    sum below 2^32, the left size covers its elements. -/
theorem hkeyElements_LendToRight_full_eq_model (hE : EnvH o T env) (l r : HkeyElems α)
    (hT : minThr T < 2^32) (hT2 : Gen.mapDataSlabPrefixSize + Gen.hkeyElementsPrefixSize ≤ minThr T)
    (hlv : l.level < 2^64) (hrv : r.level < 2^64) (hsz : l.size + r.size < 2^32)
    (hr8 : Gen.hkeyElementsPrefixSize ≤ r.size)
    (hpre : Gen.hkeyElementsPrefixSize + (dg (rawSizes o l)).sum ≤ l.size)
    (hlen : l.hkeys.length = l.elems.length) :
    hkeyElements_LendToRight env (cH l) (.hkey (cH r)) =
      match HkeyElems.lendToRight o T l r with
      | .error _ => some (some .slabRebalance, cH l, .hkey (cH r))
      | .ok (l', r') => some (none, cH l', .hkey (cH r')) := by
  have h := hkeyElements_LendToRight_eq_model o T l r hT hT2 hlv hrv hsz hr8 hpre
  rw [hkeyElements_LendToRight_eq_stateless, cH_level, cH_level, cH_size, cH_size, msl_elemSizes_cH o T env hE, hE.minThr]
  by_cases hlev : l.level = r.level
  · obtain ⟨hb1, -⟩ := lendPlan_bounds o T l r
    rw [lendToRight_of_level_eq o T l r hlev] at h ⊢
    dsimp only at h ⊢
    rw [h]
    simp only [msl_hkeyMoved, List.length_take, Nat.min_eq_left hb1, cH_hkeys, cH_elems,
      msl_lendToRight_eq _ _ _ (show l.elems.length - (lendPlan o T l r).1 ≤ (u64s l.hkeys).length by
        rw [u64s_length]; omega),
      msl_lendToRight_eq _ _ _ (show l.elems.length - (lendPlan o T l r).1 ≤ l.elems.length by omega),
      u64s_length, hlen, Nat.sub_sub_self hb1, msl_u64s_take, msl_u64s_drop, msl_u64s_append]
    rfl
  · rw [lendToRight_of_level_ne o T l r hlev] at h ⊢
    dsimp only at h ⊢
    rw [h, hE.eRebalance]

/-- `hkeyElements.BorrowFromRight` IN FULL, likewise (the RIGHT size must cover its elements, and every moved
    element must have its digest). -/
theorem hkeyElements_BorrowFromRight_full_eq_model (hE : EnvH o T env) (l r : HkeyElems α)
    (hT : minThr T < 2^32) (hT2 : Gen.mapDataSlabPrefixSize + Gen.hkeyElementsPrefixSize ≤ minThr T)
    (hlv : l.level < 2^64) (hrv : r.level < 2^64) (hsz : l.size + r.size < 2^32)
    (hl8 : Gen.hkeyElementsPrefixSize ≤ l.size)
    (hpre : Gen.hkeyElementsPrefixSize + (dg (rawSizes o r)).sum ≤ r.size)
    (hlen : r.elems.length ≤ r.hkeys.length) :
    hkeyElements_BorrowFromRight env (cH l) (.hkey (cH r)) =
      match HkeyElems.borrowFromRight o T l r with
      | .error _ => some (some .slabRebalance, cH l, .hkey (cH r))
      | .ok (l', r') => some (none, cH l', .hkey (cH r')) := by
  have h := hkeyElements_BorrowFromRight_eq_model o T l r hT hT2 hlv hrv hsz hl8 hpre
  rw [hkeyElements_BorrowFromRight_eq_stateless, cH_level, cH_level, cH_size, cH_size, msl_elemSizes_cH o T env hE, hE.minThr]
  by_cases hlev : l.level = r.level
  · obtain ⟨hb1, hb2, -, -⟩ := borrowPlan_bounds o T l r hl8 hpre
    rw [borrowFromRight_of_level_eq o T l r hlev] at h ⊢
    dsimp only at h ⊢
    rw [cH_elems, h]
    simp only [msl_hkeyMoved, List.length_append, List.length_take, cH_hkeys, cH_elems, Nat.add_sub_cancel_left,
      Nat.min_eq_left (show (borrowPlan o T l r).1 - l.elems.length ≤ r.elems.length by omega),
      msl_borrowFromRight_eq _ _ _ (show (borrowPlan o T l r).1 - l.elems.length ≤ (u64s r.hkeys).length by
        rw [u64s_length]; omega),
      msl_borrowFromRight_eq _ _ _ (show (borrowPlan o T l r).1 - l.elems.length ≤ r.elems.length by omega),
      msl_u64s_take, msl_u64s_drop, msl_u64s_append]
    rfl
  · rw [borrowFromRight_of_level_ne o T l r hlev] at h ⊢
    dsimp only at h ⊢
    rw [cH_elems, h, hE.eRebalance]

end hkey

section examples

private def msl_o0 : ElemsOps SingleElems := SingleElems.ops
private def msl_el (n pay : Nat) : MElemF SingleElems :=
  .single { key := { size := 1, pay := pay, digs := [pay] }, val := { size := n - 2, pay := .val pay }, size := n }
/-- three elements of 20, 30, 40 bytes (+ 8 per digest): 8 + 28 + 38 + 48 = 122 -/
private def msl_gEx : HkeyElems SingleElems :=
  { hkeys := [5, 9, 12], elems := [msl_el 20 1, msl_el 30 2, msl_el 40 3], size := 122, level := 0 }
private def msl_gR : HkeyElems SingleElems :=
  { hkeys := [20], elems := [msl_el 20 4], size := 36, level := 0 }

/-- Split of the three-element group: digests and elements `[5, 9] | [12]`, sizes 74 and 56 -/
example : hkeyElements_Split (envMap msl_o0 256 4) (cH msl_gEx) =
    some (.hkey (cH { hkeys := [5, 9], elems := [msl_el 20 1, msl_el 30 2], size := 74, level := 0 }),
          .hkey (cH { hkeys := [12], elems := [msl_el 40 3], size := 56, level := 0 }), none,
          cH { hkeys := [5, 9], elems := [msl_el 20 1, msl_el 30 2], size := 74, level := 0 }) := by
  rw [hkeyElements_Split_full_eq_model msl_o0 256 _ (envMap_EnvH msl_o0 256 4) msl_gEx (by decide) (by decide) (by decide)]; rfl

/-- Merge with the one-element group: four digests, size 122 + 36 - 8 -/
example : hkeyElements_Merge (envMap msl_o0 256 4) (cH msl_gEx) (.hkey (cH msl_gR)) =
    some (none, cH { hkeys := [5, 9, 12, 20], elems := [msl_el 20 1, msl_el 30 2, msl_el 40 3, msl_el 20 4], size := 150, level := 0 }) := by
  rw [hkeyElements_Merge_full_eq_model _ msl_gEx msl_gR (by decide) (by decide)]; rfl

/-- LendToRight to the one-element group (T = 256: the right group must reach minThreshold - 18 - 8 = 102 bytes): the
    last TWO elements and their digests move -/
example : hkeyElements_LendToRight (envMap msl_o0 256 4) (cH msl_gEx) (.hkey (cH msl_gR)) =
    some (none, cH { hkeys := [5], elems := [msl_el 20 1], size := 36, level := 0 },
          .hkey (cH { hkeys := [9, 12, 20], elems := [msl_el 30 2, msl_el 40 3, msl_el 20 4], size := 122, level := 0 })) := by
  rw [hkeyElements_LendToRight_full_eq_model msl_o0 256 _ (envMap_EnvH msl_o0 256 4) msl_gEx msl_gR (by decide) (by decide) (by decide)
    (by decide) (by decide) (by decide) (by decide) (by decide)]; rfl

/-- BorrowFromRight in the other direction -/
example : hkeyElements_BorrowFromRight (envMap msl_o0 256 4) (cH msl_gR) (.hkey (cH msl_gEx)) =
    some (none, cH { hkeys := [20, 5], elems := [msl_el 20 4, msl_el 20 1], size := 64, level := 0 },
          .hkey (cH { hkeys := [9, 12], elems := [msl_el 30 2, msl_el 40 3], size := 94, level := 0 })) := by
  rw [hkeyElements_BorrowFromRight_full_eq_model msl_o0 256 _ (envMap_EnvH msl_o0 256 4) msl_gR msl_gEx (by decide) (by decide) (by decide)
    (by decide) (by decide) (by decide) (by decide) (by decide)]; rfl

/-- different levels: the rebalance error, both groups untouched -/
example : hkeyElements_LendToRight (envMap msl_o0 256 4) (cH msl_gEx) (.hkey (cH { msl_gR with level := 1 })) =
    some (some .slabRebalance, cH msl_gEx, .hkey (cH { msl_gR with level := 1 })) := by
  rw [hkeyElements_LendToRight_full_eq_model msl_o0 256 _ (envMap_EnvH msl_o0 256 4) msl_gEx { msl_gR with level := 1 } (by decide) (by decide)
    (by decide) (by decide) (by decide) (by decide) (by decide) (by decide)]; rfl

end examples

end Atree.TransEq

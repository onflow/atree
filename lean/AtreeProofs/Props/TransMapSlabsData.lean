import AtreeProofs.Props.TransMapSlabs
/-
  `MapDataSlab.Split / Merge / LendToRight / BorrowFromRight` (map_data_slab.go), REGENERATED IN FULL from the Go
  sources (`AtreeModel/Gen/TransMapSlabs.lean`), equal the hand-written model (`MDataSlab.split / merge / lendToRight /
  borrowFromRight`, `AtreeModel/Map/Tree.lean`): the generated function on the translation `cData` of a model slab
  yields the translation of the model's result - headers (id, size, firstKey), next links, the element groups in
  full, the same error class, the same storage effect (the allocated id).  Range hypotheses are explicit.
-/
namespace Atree.TransEq
open Atree Atree.Gen.TransMap

/-! ## the dispatchers of the closed interface `elements` on an `*hkeyElements` -/

section dispatch
variable {α V W X S : Type} (env : Env (MElemF α) V W X S GE)

theorem elements_Size_hkey (h : hkeyElements (MElemF α)) :
    elements_Size (V := V) env (.hkey h) = some h.size := rfl

theorem elements_Count_hkey (h : hkeyElements (MElemF α)) :
    elements_Count (V := V) env (.hkey h) = some (u32 h.elems.length) := by
  simp only [elements_Count, hkeyElements_Count, u32_ofInt]

/-- `firstKey()`: `hkeys[0]` when there is a digest, else 0 = the model's `hkeys.headD 0` -/
theorem elements_firstKey_hkey (e : HkeyElems α) :
    elements_firstKey (V := V) env (.hkey (cH e)) = some (u64 e.firstKey) := by
  obtain ⟨hk, msl_el, sz, lv⟩ := e
  cases hk with
  | nil => simp [elements_firstKey, hkeyElements_firstKey, cH, u64s, HkeyElems.firstKey, u64]
  | cons a t => simp [elements_firstKey, hkeyElements_firstKey, cH, u64s, HkeyElems.firstKey, goIdx]

theorem elements_Split_hkey (h : hkeyElements (MElemF α)) :
    elements_Split (V := V) env (.hkey h) =
      (hkeyElements_Split (V := V) env h).map (fun r_ => (r_.1, r_.2.1, r_.2.2.1, (.hkey r_.2.2.2))) := by
  simp only [elements_Split]
  cases hkeyElements_Split (V := V) env h <;> rfl

theorem elements_Merge_hkey (h : hkeyElements (MElemF α)) (a : elements (MElemF α) V) :
    elements_Merge env (.hkey h) a = (hkeyElements_Merge env h a).map (fun r_ => (r_.1, (.hkey r_.2))) := by
  simp only [elements_Merge]
  cases hkeyElements_Merge env h a <;> rfl

theorem elements_LendToRight_hkey (h : hkeyElements (MElemF α)) (a : elements (MElemF α) V) :
    elements_LendToRight env (.hkey h) a =
      (hkeyElements_LendToRight env h a).map (fun r_ => (r_.1, (.hkey r_.2.1), r_.2.2)) := by
  simp only [elements_LendToRight]
  cases hkeyElements_LendToRight env h a <;> rfl

theorem elements_BorrowFromRight_hkey (h : hkeyElements (MElemF α)) (a : elements (MElemF α) V) :
    elements_BorrowFromRight env (.hkey h) a =
      (hkeyElements_BorrowFromRight env h a).map (fun r_ => (r_.1, (.hkey r_.2.1), r_.2.2)) := by
  simp only [elements_BorrowFromRight]
  cases hkeyElements_BorrowFromRight env h a <;> rfl

end dispatch

/-! ## the sizes of the model's results stay within the sizes of the arguments -/

section sizes
variable {α : Type} (o : ElemsOps α)

theorem msl_hkey_split_sizes (e : HkeyElems α) (hpre : Gen.hkeyElementsPrefixSize + (dg (rawSizes o e)).sum ≤ e.size) :
    (HkeyElems.split o e).1.size ≤ e.size ∧ (HkeyElems.split o e).2.size ≤ e.size := by
  have hb := (splitPlan_bounds o e hpre).2
  rw [split_eq_plan]
  dsimp only
  omega

theorem msl_hkey_lend_sizes (T : Nat) (l r le re : HkeyElems α)
    (hpre : Gen.hkeyElementsPrefixSize + (dg (rawSizes o l)).sum ≤ l.size) (hr8 : Gen.hkeyElementsPrefixSize ≤ r.size)
    (h : HkeyElems.lendToRight o T l r = .ok (le, re)) :
    le.size ≤ l.size ∧ re.size + 8 ≤ l.size + r.size := by
  by_cases hlev : l.level = r.level
  · have hb := (lendPlan_bounds o T l r).2
    rw [lendToRight_of_level_eq o T l r hlev] at h
    obtain ⟨rfl, rfl⟩ := Prod.mk.inj (Except.ok.inj h)
    simp only [rebalSize, Gen.hkeyElementsPrefixSize] at hb hpre hr8 ⊢
    omega
  · rw [lendToRight_of_level_ne o T l r hlev] at h; cases h

theorem msl_hkey_borrow_sizes (T : Nat) (l r le re : HkeyElems α)
    (hpre : Gen.hkeyElementsPrefixSize + (dg (rawSizes o r)).sum ≤ r.size) (hl8 : Gen.hkeyElementsPrefixSize ≤ l.size)
    (h : HkeyElems.borrowFromRight o T l r = .ok (le, re)) :
    le.size + 8 ≤ l.size + r.size ∧ re.size + 8 ≤ l.size + r.size := by
  by_cases hlev : l.level = r.level
  · obtain ⟨-, -, hb3, hb4⟩ := borrowPlan_bounds o T l r hl8 hpre
    rw [borrowFromRight_of_level_eq o T l r hlev] at h
    obtain ⟨rfl, rfl⟩ := Prod.mk.inj (Except.ok.inj h)
    simp only [rebalSize, Gen.hkeyElementsPrefixSize] at hb3 hb4 hpre hl8 ⊢
    omega
  · rw [borrowFromRight_of_level_ne o T l r hlev] at h; cases h

end sizes

/-! ## MapDataSlab (map_data_slab.go), for any storage -/

section data
variable {r : Nat} {V W X S : Type} (T : Nat) (env : Env (MElemF (MElems r)) V W X S GE)

/-- `MapDataSlab.Merge` IN FULL: the element groups merged, header size = prefix + new element size, firstKey = the
    first digest of the merged group, next = the right slab's; no error.  Needs: the right element size covers its
    prefix, the new header size (`18 + l + (r - 8) = l + r + 10`) fits uint32. -/
theorem MapDataSlab_Merge_any (l rr : MDataSlab r) (x y : Option X)
    (hr8 : Gen.hkeyElementsPrefixSize ≤ rr.elems.size)
    (hsz : l.elems.size + rr.elems.size + 10 < 2^32) :
    MapDataSlab_Merge env (cData l x) (.dataSlab (cData rr y)) = some (none, cData (MDataSlab.merge l rr) x) := by
  have hm := hkeyElements_Merge_full_eq_model (V := V) env l.elems rr.elems hr8 (by omega)
  simp only [Gen.hkeyElementsPrefixSize] at hr8
  simp only [MapDataSlab_Merge, cData, elements_Merge_hkey, hm, Option.map_some, Option.isNone_none, Bool.not_true,
    Bool.false_eq_true, if_false, elements_Size_hkey, elements_firstKey_hkey, MDataSlab.merge, cHdr, Gen.mapDataSlabPrefixSize]
  have e18 : UInt32.ofNat 18 = u32 18 := rfl
  have hsize : (cH (HkeyElems.merge l.elems rr.elems)).size = u32 (HkeyElems.merge l.elems rr.elems).size := rfl
  have hms : (HkeyElems.merge l.elems rr.elems).size = l.elems.size + (rr.elems.size - 8) := rfl
  rw [hsize, e18, u32_add_eq]

/-- `MapDataSlab.Split` IN FULL: fewer than 2 elements = SlabSplitError with slab and storage untouched; otherwise
    the right slab (id = the one `GenerateSlabID` hands out for the left slab's address, size = prefix + right element
    size, firstKey = the first right digest, next = the old next, the right element group, no extra data, not
    inlined), the left slab (size, next = the new id, the left group; id / firstKey / extraData / inlined kept) - it is
    both the first result and the new receiver - and the storage after the allocation.
    Needs: `len(elems)` fits the `uint32` of `Count()` (else Go compares the TRUNCATED count with 2), the element size
    + slab prefix fits uint32 and covers prefix + elements, a digest for every element (`split` panics otherwise). -/
theorem MapDataSlab_Split_any (hE : EnvH (MDataSlab.eops r) T env) {ctx : S → Ctx} {setCtx : S → Ctx → S}
    (hG : MCtxOf env ctx setCtx) (s : MDataSlab r) (x : Option X) (st : S)
    (hcnt : s.elems.elems.length < 2^32)
    (hs : s.elems.size + Gen.mapDataSlabPrefixSize < 2^32)
    (hpre : Gen.hkeyElementsPrefixSize + (dg (rawSizes (MDataSlab.eops r) s.elems)).sum ≤ s.elems.size)
    (hlen : s.elems.elems.length ≤ s.elems.hkeys.length) :
    MapDataSlab_Split env (cData s x) st =
      match MDataSlab.split s (ctx st) with
      | .error _ => some (.nil, .nil, some .slabSplit, cData s x, st)
      | .ok (l, rr, c') => some (.dataSlab (cData l x), .dataSlab (cData rr none), none, cData l x, setCtx st c') := by
  simp only [Gen.mapDataSlabPrefixSize] at hs
  have hsp := hkeyElements_Split_full_eq_model (V := V) (MDataSlab.eops r) T env hE s.elems (by omega) hpre hlen
  have hb := msl_hkey_split_sizes (MDataSlab.eops r) s.elems hpre
  rcases hsplit : HkeyElems.split (MDataSlab.eops r) s.elems with ⟨le, re⟩
  rcases ha : (ctx st).alloc s.hdr.id.addr with ⟨sid, c'⟩
  simp only [hsplit] at hsp hb
  have e2 : (2 : UInt32) = u32 2 := rfl
  have e18 : UInt32.ofNat 18 = u32 18 := rfl
  have hl : (cH s.elems).elems.length = s.elems.elems.length := rfl
  simp only [MapDataSlab_Split, MDataSlab.split, cData, elements_Count_hkey, hl]
  rw [e2, u32_dlt hcnt (by omega)]
  by_cases h2 : s.elems.elems.length < 2
  · simp only [h2, decide_true, if_true, hE.eSplit]
  · simp only [h2, decide_false, if_false, Bool.false_eq_true, hsplit, ha, elements_Split_hkey, hsp, Option.map_some,
      Option.isNone_none, Bool.not_true, hG.gen, MapDataSlab_SlabID, cHdr, elements_Size_hkey, elements_firstKey_hkey,
      Gen.mapDataSlabPrefixSize]
    have h1 : (cH le).size = u32 le.size := rfl
    have h1' : (cH re).size = u32 re.size := rfl
    rw [h1, h1', e18, u32_add_eq, u32_add_eq]

/-- `MapDataSlab.LendToRight` IN FULL: the error of the element groups (different hash levels) with both slabs
    untouched, else both element groups, both header sizes, the right firstKey (the left one is NOT recomputed, in Go as
    in the model).  `cData` has `anySize = false`, so the anySize guard does not fire.  Hypotheses = those of
    `hkeyElements_LendToRight_full_eq_model`, with `+ 10` so that the largest possible new header size
    (`18 + l + r - 8`) fits uint32. -/
theorem MapDataSlab_LendToRight_any (hE : EnvH (MDataSlab.eops r) T env)
    (l rr : MDataSlab r) (x y : Option X)
    (hT : minThr T < 2^32) (hT2 : Gen.mapDataSlabPrefixSize + Gen.hkeyElementsPrefixSize ≤ minThr T)
    (hlv : l.elems.level < 2^64) (hrv : rr.elems.level < 2^64)
    (hsz : l.elems.size + rr.elems.size + 10 < 2^32)
    (hr8 : Gen.hkeyElementsPrefixSize ≤ rr.elems.size)
    (hpre : Gen.hkeyElementsPrefixSize + (dg (rawSizes (MDataSlab.eops r) l.elems)).sum ≤ l.elems.size)
    (hlen : l.elems.hkeys.length = l.elems.elems.length) :
    MapDataSlab_LendToRight env (cData l x) (.dataSlab (cData rr y)) =
      match MDataSlab.lendToRight T l rr with
      | .error _ => some (some .slabRebalance, cData l x, .dataSlab (cData rr y))
      | .ok (l', r') => some (none, cData l' x, .dataSlab (cData r' y)) := by
  have hm := hkeyElements_LendToRight_full_eq_model (V := V) (MDataSlab.eops r) T env hE l.elems rr.elems hT hT2 hlv hrv
    (by omega) hr8 hpre hlen
  have hb := msl_hkey_lend_sizes (MDataSlab.eops r) T l.elems rr.elems
  have e18 : UInt32.ofNat 18 = u32 18 := rfl
  simp only [MapDataSlab_LendToRight, MDataSlab.lendToRight, cData, Bool.or_false, Bool.false_eq_true, if_false,
    elements_LendToRight_hkey, hm]
  cases hres : HkeyElems.lendToRight (MDataSlab.eops r) T l.elems rr.elems with
  | error e =>
    simp only [bind, Except.bind, Option.map_some, Option.isNone_some, Bool.not_false, if_true]
  | ok p =>
    obtain ⟨le, re⟩ := p
    have hb' := hb le re hpre hr8 hres
    simp only [Gen.hkeyElementsPrefixSize] at hr8
    simp only [bind, Except.bind, pure, Except.pure, Option.map_some, Option.isNone_none, Bool.not_true,
      Bool.false_eq_true, if_false, elements_Size_hkey, elements_firstKey_hkey, cHdr, Gen.mapDataSlabPrefixSize]
    have h1 : (cH le).size = u32 le.size := rfl
    have h1' : (cH re).size = u32 re.size := rfl
    rw [h1, h1', e18, u32_add_eq, u32_add_eq]

/-- `MapDataSlab.BorrowFromRight` IN FULL, likewise; here BOTH firstKeys are recomputed (Go and model). -/
theorem MapDataSlab_BorrowFromRight_any (hE : EnvH (MDataSlab.eops r) T env)
    (l rr : MDataSlab r) (x y : Option X)
    (hT : minThr T < 2^32) (hT2 : Gen.mapDataSlabPrefixSize + Gen.hkeyElementsPrefixSize ≤ minThr T)
    (hlv : l.elems.level < 2^64) (hrv : rr.elems.level < 2^64)
    (hsz : l.elems.size + rr.elems.size + 10 < 2^32)
    (hl8 : Gen.hkeyElementsPrefixSize ≤ l.elems.size)
    (hpre : Gen.hkeyElementsPrefixSize + (dg (rawSizes (MDataSlab.eops r) rr.elems)).sum ≤ rr.elems.size)
    (hlen : rr.elems.elems.length ≤ rr.elems.hkeys.length) :
    MapDataSlab_BorrowFromRight env (cData l x) (.dataSlab (cData rr y)) =
      match MDataSlab.borrowFromRight T l rr with
      | .error _ => some (some .slabRebalance, cData l x, .dataSlab (cData rr y))
      | .ok (l', r') => some (none, cData l' x, .dataSlab (cData r' y)) := by
  have hm := hkeyElements_BorrowFromRight_full_eq_model (V := V) (MDataSlab.eops r) T env hE l.elems rr.elems hT hT2
    hlv hrv (by omega) hl8 hpre hlen
  have hb := msl_hkey_borrow_sizes (MDataSlab.eops r) T l.elems rr.elems
  have e18 : UInt32.ofNat 18 = u32 18 := rfl
  simp only [MapDataSlab_BorrowFromRight, MDataSlab.borrowFromRight, cData, Bool.or_false, Bool.false_eq_true, if_false,
    elements_BorrowFromRight_hkey, hm]
  cases hres : HkeyElems.borrowFromRight (MDataSlab.eops r) T l.elems rr.elems with
  | error e =>
    simp only [bind, Except.bind, Option.map_some, Option.isNone_some, Bool.not_false, if_true]
  | ok p =>
    obtain ⟨le, re⟩ := p
    have hb' := hb le re hpre hl8 hres
    simp only [Gen.hkeyElementsPrefixSize] at hl8 hpre
    simp only [bind, Except.bind, pure, Except.pure, Option.map_some, Option.isNone_none, Bool.not_true,
      Bool.false_eq_true, if_false, elements_Size_hkey, elements_firstKey_hkey, cHdr, Gen.mapDataSlabPrefixSize]
    have h1 : (cH le).size = u32 le.size := rfl
    have h1' : (cH re).size = u32 re.size := rfl
    rw [h1, h1', e18, u32_add_eq, u32_add_eq]

end data

/-! ## the same with the storage that only logs (`S := Ctx`, `EnvS`) -/

section dataCtx
variable {r : Nat} {V W X : Type} (T : Nat) (env : Env (MElemF (MElems r)) V W X Ctx GE)

theorem MapDataSlab_Merge_full_eq_model (l rr : MDataSlab r) (x y : Option X)
    (hr8 : Gen.hkeyElementsPrefixSize ≤ rr.elems.size)
    (hsz : l.elems.size + rr.elems.size + 10 < 2^32) :
    MapDataSlab_Merge env (cData l x) (.dataSlab (cData rr y)) = some (none, cData (MDataSlab.merge l rr) x) :=
  MapDataSlab_Merge_any env l rr x y hr8 hsz

/-- `MapDataSlab.Merge` with anything but a `*MapDataSlab`: the type assertion panics -/
theorem MapDataSlab_Merge_wrong_type (m : MapDataSlab (MElemF (MElems r)) V X)
    (s : MapSlab (MElemF (MElems r)) V X) (hs : ∀ d, s ≠ .dataSlab d) :
    MapDataSlab_Merge env m s = none := by
  cases s with
  | dataSlab d => exact absurd rfl (hs d)
  | nil => rfl
  | metaSlab _ => rfl

theorem MapDataSlab_Split_full_eq_model (hE : EnvH (MDataSlab.eops r) T env) (hS : EnvS env)
    (s : MDataSlab r) (x : Option X) (c : Ctx)
    (hcnt : s.elems.elems.length < 2^32)
    (hs : s.elems.size + Gen.mapDataSlabPrefixSize < 2^32)
    (hpre : Gen.hkeyElementsPrefixSize + (dg (rawSizes (MDataSlab.eops r) s.elems)).sum ≤ s.elems.size)
    (hlen : s.elems.elems.length ≤ s.elems.hkeys.length) :
    MapDataSlab_Split env (cData s x) c =
      match MDataSlab.split s c with
      | .error _ => some (.nil, .nil, some .slabSplit, cData s x, c)
      | .ok (l, rr, c') => some (.dataSlab (cData l x), .dataSlab (cData rr none), none, cData l x, c') :=
  MapDataSlab_Split_any T env hE hS.ctxOf s x c hcnt hs hpre hlen

theorem MapDataSlab_LendToRight_full_eq_model (hE : EnvH (MDataSlab.eops r) T env)
    (l rr : MDataSlab r) (x y : Option X)
    (hT : minThr T < 2^32) (hT2 : Gen.mapDataSlabPrefixSize + Gen.hkeyElementsPrefixSize ≤ minThr T)
    (hlv : l.elems.level < 2^64) (hrv : rr.elems.level < 2^64)
    (hsz : l.elems.size + rr.elems.size + 10 < 2^32)
    (hr8 : Gen.hkeyElementsPrefixSize ≤ rr.elems.size)
    (hpre : Gen.hkeyElementsPrefixSize + (dg (rawSizes (MDataSlab.eops r) l.elems)).sum ≤ l.elems.size)
    (hlen : l.elems.hkeys.length = l.elems.elems.length) :
    MapDataSlab_LendToRight env (cData l x) (.dataSlab (cData rr y)) =
      match MDataSlab.lendToRight T l rr with
      | .error _ => some (some .slabRebalance, cData l x, .dataSlab (cData rr y))
      | .ok (l', r') => some (none, cData l' x, .dataSlab (cData r' y)) :=
  MapDataSlab_LendToRight_any T env hE l rr x y hT hT2 hlv hrv hsz hr8 hpre hlen

theorem MapDataSlab_BorrowFromRight_full_eq_model (hE : EnvH (MDataSlab.eops r) T env)
    (l rr : MDataSlab r) (x y : Option X)
    (hT : minThr T < 2^32) (hT2 : Gen.mapDataSlabPrefixSize + Gen.hkeyElementsPrefixSize ≤ minThr T)
    (hlv : l.elems.level < 2^64) (hrv : rr.elems.level < 2^64)
    (hsz : l.elems.size + rr.elems.size + 10 < 2^32)
    (hl8 : Gen.hkeyElementsPrefixSize ≤ l.elems.size)
    (hpre : Gen.hkeyElementsPrefixSize + (dg (rawSizes (MDataSlab.eops r) rr.elems)).sum ≤ rr.elems.size)
    (hlen : rr.elems.elems.length ≤ rr.elems.hkeys.length) :
    MapDataSlab_BorrowFromRight env (cData l x) (.dataSlab (cData rr y)) =
      match MDataSlab.borrowFromRight T l rr with
      | .error _ => some (some .slabRebalance, cData l x, .dataSlab (cData rr y))
      | .ok (l', r') => some (none, cData l' x, .dataSlab (cData r' y)) :=
  MapDataSlab_BorrowFromRight_any T env hE l rr x y hT hT2 hlv hrv hsz hl8 hpre hlen

/-- `LendToRight` / `BorrowFromRight` with anything but a `*MapDataSlab`: the type assertion panics -/
theorem MapDataSlab_LendToRight_wrong_type (m : MapDataSlab (MElemF (MElems r)) V X)
    (s : MapSlab (MElemF (MElems r)) V X) (hs : ∀ d, s ≠ .dataSlab d) :
    MapDataSlab_LendToRight env m s = none := by
  cases s with
  | dataSlab d => exact absurd rfl (hs d)
  | nil => rfl
  | metaSlab _ => rfl

theorem MapDataSlab_BorrowFromRight_wrong_type (m : MapDataSlab (MElemF (MElems r)) V X)
    (s : MapSlab (MElemF (MElems r)) V X) (hs : ∀ d, s ≠ .dataSlab d) :
    MapDataSlab_BorrowFromRight env m s = none := by
  cases s with
  | dataSlab d => exact absurd rfl (hs d)
  | nil => rfl
  | metaSlab _ => rfl

end dataCtx

private def msl_exElemD (k sz : Nat) : MElemF (MElems 0) :=
  .single { key := ⟨1, k, [k]⟩, val := ⟨1, .val k⟩, size := sz }

private def msl_exDataSlab (id : Nat) (k1 k2 : Nat) : MDataSlab 0 :=
  { hdr := ⟨⟨1, id⟩, 18 + 8 + 20 + 20, k1⟩, next := ⟨0, 0⟩,
    elems := { hkeys := [k1, k2], elems := [msl_exElemD k1 12, msl_exElemD k2 12], size := 8 + 20 + 20, level := 0 },
    root := false, inlined := false }

/-- the hypotheses of `MapDataSlab_Split_full_eq_model`, and the model's result: one element on each side -/
example :
    let s := msl_exDataSlab 1 5 9
    s.elems.elems.length < 2^32 ∧ s.elems.size + Gen.mapDataSlabPrefixSize < 2^32 ∧
    Gen.hkeyElementsPrefixSize + (dg (rawSizes (MDataSlab.eops 0) s.elems)).sum ≤ s.elems.size ∧
    s.elems.elems.length ≤ s.elems.hkeys.length ∧
    (MDataSlab.split s ⟨0, [], []⟩).toOption.map (fun p => (p.1.elems.hkeys, p.1.hdr.size, p.2.1.elems.hkeys, p.2.1.hdr)) =
      some ([5], 18 + 8 + 20, [9], ⟨⟨1, 1⟩, 18 + 8 + 20, 9⟩) := by
  decide

/-- the hypotheses of the Merge / LendToRight / BorrowFromRight theorems (threshold 1024) -/
example :
    let l := msl_exDataSlab 1 5 9
    let rr := msl_exDataSlab 2 11 15
    minThr 1024 < 2^32 ∧ Gen.mapDataSlabPrefixSize + Gen.hkeyElementsPrefixSize ≤ minThr 1024 ∧
    l.elems.level < 2^64 ∧ rr.elems.level < 2^64 ∧ l.elems.size + rr.elems.size + 10 < 2^32 ∧
    Gen.hkeyElementsPrefixSize ≤ l.elems.size ∧ Gen.hkeyElementsPrefixSize ≤ rr.elems.size ∧
    Gen.hkeyElementsPrefixSize + (dg (rawSizes (MDataSlab.eops 0) l.elems)).sum ≤ l.elems.size ∧
    Gen.hkeyElementsPrefixSize + (dg (rawSizes (MDataSlab.eops 0) rr.elems)).sum ≤ rr.elems.size ∧
    l.elems.hkeys.length = l.elems.elems.length ∧ rr.elems.elems.length ≤ rr.elems.hkeys.length := by
  decide

end Atree.TransEq

import AtreeProofs.Trans.MapSlabs
/-
  `MapMetaDataSlab` (map_metadata_slab.go): the GENERATED full translation of Merge / Split / LendToRight /
  BorrowFromRight / updateChildrenHeadersAfterMerge (`AtreeModel/Gen/TransMapSlabs.lean`) applied to the translation
  `cMeta m x` of a model slab yields the translation of the model function's result IN FULL: the children headers, the
  header (slab ID, size, first key), the allocated slab ID, the new storage state and the error value.
  Machine arithmetic: `UInt32.ofNat` is a ring homomorphism, so `+` and `*` need no range hypothesis at all; only the
  two subtractions (`Merge`, `Split`) need "no underflow", where the model's truncated `Nat` subtraction and Go's
  wrap-around differ.
-/
namespace Atree.TransEq
open Atree Atree.Gen.TransMap

section metaSlab
variable {E V W X S ε α : Type}

/-- `hs[0]` of a non-empty translated header list = the model's `headD default` -/
theorem msl_goIdx_zero_hdrs (l : List MHdr) (h : 0 < l.length) :
    goIdx (l.map cHdr) (0 : Int) = some (cHdr (l.headD default)) := by
  cases l with
  | nil => simp at h
  | cons a t => simp [goIdx]

/-- `hs[0]` of an empty list panics -/
theorem msl_goIdx_zero_nil {β : Type} : goIdx ([] : List β) (0 : Int) = none := by simp [goIdx]

theorem msl_ceilHalfMap (n : Nat) : goCeilDivInt (Int.ofNat n) 2 = Int.ofNat ((n + 1) / 2) := by
  simp [goCeilDivInt]

theorem msl_tdivHalf (a b : Nat) : Int.tdiv (Int.ofNat a + Int.ofNat b) 2 = Int.ofNat ((a + b) / 2) := by
  have eadd : Int.ofNat a + Int.ofNat b = Int.ofNat (a + b) := by simp
  rw [eadd]; simp [Int.tdiv]

/-- `slices.Delete(l, i, i+1)` = `eraseIdx` -/
theorem msl_goSlicesDelete_one {β : Type} (l : List β) (i : Nat) (h : i < l.length) :
    goSlicesDelete l (Int.ofNat i) (Int.ofNat i + (1 : Int)) = some (l.eraseIdx i) := by
  have e1 : Int.ofNat i + (1 : Int) = Int.ofNat (i + 1) := by simp
  have hd : (0 : Int) ≤ Int.ofNat i ∧ Int.ofNat i ≤ Int.ofNat (i + 1) ∧ Int.ofNat (i + 1) ≤ Int.ofNat l.length := by
    simp only [Int.ofNat_eq_natCast]; omega
  rw [e1]
  simp only [goSlicesDelete]
  rw [if_pos hd]
  simp [List.eraseIdx_eq_take_drop_succ]

/-- `lendToRight` with a negative count panics (`left[len(left)-count:]` is out of range) -/
theorem msl_lendToRight_neg {β : Type} (l r : List β) (c : Int) (h : c < 0) : lendToRight l r c = none := by
  have hn : ¬ ((0 : Int) ≤ Int.ofNat l.length - c ∧ Int.ofNat l.length - c ≤ Int.ofNat l.length ∧
      Int.ofNat l.length ≤ Int.ofNat l.length) := by
    simp only [Int.ofNat_eq_natCast]; omega
  simp only [lendToRight, goSlice, Option.getD_some, Option.getD_none, if_neg hn]

/-- `borrowFromRight` with a negative count panics (`right[:count]`) -/
theorem msl_borrowFromRight_neg {β : Type} (l r : List β) (c : Int) (h : c < 0) : borrowFromRight l r c = none := by
  have hn : ¬ ((0 : Int) ≤ 0 ∧ (0 : Int) ≤ c ∧ c ≤ Int.ofNat r.length) := by omega
  simp only [borrowFromRight, goSlice, Option.getD_some, Option.getD_none, if_neg hn]

/-- `MapMetaDataSlab.Merge` IN FULL.  Needs: the right header size covers the prefix (otherwise Go's
    `rightSlab.header.size - mapMetaDataSlabPrefixSize` wraps around and the model's truncated subtraction gives 0). -/
theorem MapMetaDataSlab_Merge_full_eq_model (env : Env E V W X S ε) (l r : MMetaSlab α) (x y : Option X)
    (hpre : Gen.mapMetaDataSlabPrefixSize ≤ r.hdr.size) :
    MapMetaDataSlab_Merge env (cMeta l x) (.metaSlab (cMeta r y)) =
      some (none, cMeta (MMetaSlab.merge l r) x) := by
  simp only [MapMetaDataSlab_Merge, MMetaSlab.merge, cMeta, cHdr, msl_merge_eq, List.map_append, u32]
  rw [UInt32.ofNat_add, UInt32.ofNat_sub hpre]

/-- the failed type assertion `slab.(*MapMetaDataSlab)` panics -/
theorem MapMetaDataSlab_Merge_wrong_type (env : Env E V W X S ε) (m : MapMetaDataSlab X) :
    (∀ d, MapMetaDataSlab_Merge env m (.dataSlab d) = none) ∧ MapMetaDataSlab_Merge env m .nil = none :=
  ⟨fun _ => rfl, rfl⟩

/-- `MapMetaDataSlab.Split` IN FULL: with fewer than 2 children the `SlabSplitError`, receiver and storage untouched;
    otherwise both slabs (the left one is the receiver), the slab ID taken from the storage and the new storage
    state.  The new right slab has no extra data.  Needs (only when there are 2+ children): the header size covers
    the child headers that stay left (otherwise Go's `m.header.size - uint32(leftSize)` wraps around). -/
theorem MapMetaDataSlab_Split_any (env : Env E V W X S GE) {ctx : S → Ctx} {setCtx : S → Ctx → S}
    (hG : MCtxOf env ctx setCtx) (hsplit : env.NewSlabSplitErrorf = some .slabSplit) (m : MMetaSlab α) (x : Option X)
    (st : S)
    (hcov : 2 ≤ m.childHdrs.length → (m.childHdrs.length + 1) / 2 * Gen.mapSlabHeaderSize ≤ m.hdr.size) :
    MapMetaDataSlab_Split env (cMeta m x) st =
      match m.split (ctx st) with
      | .error e => some (.nil, .nil, some e, cMeta m x, st)
      | .ok (l, r, c') => some (.metaSlab (cMeta l x), .metaSlab (cMeta r none), none, cMeta l x, setCtx st c') := by
  simp only [MapMetaDataSlab_Split, MMetaSlab.split, cMeta, List.length_map, int_dlt_two, msl_ceilHalfMap,
    MapMetaDataSlab_SlabID, hG.gen, hsplit]
  by_cases hl : m.childHdrs.length < 2
  · simp [hl]
  · have hcov' := hcov (by omega)
    have hlen : (m.childHdrs.length + 1) / 2 ≤ (m.childHdrs.map cHdr).length := by
      rw [List.length_map]; omega
    have hne : 0 < (m.childHdrs.drop ((m.childHdrs.length + 1) / 2)).length := by
      rw [List.length_drop]; omega
    have emul : Int.ofNat ((m.childHdrs.length + 1) / 2) * Int.ofNat Gen.mapSlabHeaderSize =
        Int.ofNat ((m.childHdrs.length + 1) / 2 * Gen.mapSlabHeaderSize) := by simp
    simp only [hl, decide_false, if_false, Bool.false_eq_true, Option.isNone_none, Bool.not_true,
      msl_split_eq _ _ hlen, ← List.map_drop, ← List.map_take, msl_goIdx_zero_hdrs _ hne, emul, u32_ofInt]
    simp only [cHdr, u32, UInt32.ofNat_add, UInt32.ofNat_sub hcov']

theorem MapMetaDataSlab_Split_full_eq_model (env : Env E V W X Ctx GE) (hS : EnvS env)
    (hsplit : env.NewSlabSplitErrorf = some .slabSplit) (m : MMetaSlab α) (x : Option X) (c : Ctx)
    (hcov : 2 ≤ m.childHdrs.length → (m.childHdrs.length + 1) / 2 * Gen.mapSlabHeaderSize ≤ m.hdr.size) :
    MapMetaDataSlab_Split env (cMeta m x) c =
      match m.split c with
      | .error e => some (.nil, .nil, some e, cMeta m x, c)
      | .ok (l, r, c') => some (.metaSlab (cMeta l x), .metaSlab (cMeta r none), none, cMeta l x, c') :=
  MapMetaDataSlab_Split_any env hS.ctxOf hsplit m x c hcov

/-- `MapMetaDataSlab.LendToRight` IN FULL.  Needs: the move count `len(left) - (len(left)+len(right))/2` is not
    negative (`lendToRight` slices `left[len(left)-count:]`) and there is at least one child in all (the code reads
    `rightSlab.childrenHeaders[0]`).  No range hypothesis: the new sizes are sums and products. -/
theorem MapMetaDataSlab_LendToRight_full_eq_model (env : Env E V W X S ε) (l r : MMetaSlab α) (x y : Option X)
    (hmv : r.childHdrs.length ≤ l.childHdrs.length + 1)
    (hne : 0 < l.childHdrs.length + r.childHdrs.length) :
    MapMetaDataSlab_LendToRight env (cMeta l x) (.metaSlab (cMeta r y)) =
      some (none, cMeta (MMetaSlab.lendToRight l r).1 x, .metaSlab (cMeta (MMetaSlab.lendToRight l r).2 y)) := by
  simp only [MapMetaDataSlab_LendToRight, MMetaSlab.lendToRight, cMeta, List.length_map, msl_tdivHalf]
  have esub : Int.ofNat (l.childHdrs.length + r.childHdrs.length) -
      Int.ofNat ((l.childHdrs.length + r.childHdrs.length) / 2) =
      Int.ofNat (l.childHdrs.length + r.childHdrs.length - (l.childHdrs.length + r.childHdrs.length) / 2) :=
    int_sub (Nat.div_le_self _ _)
  have eadd : Int.ofNat l.childHdrs.length + Int.ofNat r.childHdrs.length =
      Int.ofNat (l.childHdrs.length + r.childHdrs.length) := rfl
  obtain ⟨h1, hk, h3⟩ : (l.childHdrs.length + r.childHdrs.length) / 2 ≤ l.childHdrs.length ∧
      l.childHdrs.length - (l.childHdrs.length - (l.childHdrs.length + r.childHdrs.length) / 2) =
        (l.childHdrs.length + r.childHdrs.length) / 2 ∧
      0 < l.childHdrs.length - (l.childHdrs.length + r.childHdrs.length) / 2 + r.childHdrs.length := by omega
  have emv : Int.ofNat l.childHdrs.length - Int.ofNat ((l.childHdrs.length + r.childHdrs.length) / 2) =
      Int.ofNat (l.childHdrs.length - (l.childHdrs.length + r.childHdrs.length) / 2) := int_sub h1
  have hc : l.childHdrs.length - (l.childHdrs.length + r.childHdrs.length) / 2 ≤ (l.childHdrs.map cHdr).length := by
    rw [List.length_map]; exact Nat.sub_le _ _
  have hne' : 0 < (l.childHdrs.drop ((l.childHdrs.length + r.childHdrs.length) / 2) ++ r.childHdrs).length := by
    rwa [List.length_append, List.length_drop]
  simp only [eadd, esub, emv, msl_lendToRight_eq _ _ _ hc, List.length_map, hk, ← List.map_drop, ← List.map_take,
    ← List.map_append, msl_goIdx_zero_hdrs _ hne', u32_add_ofInt_mul]
  simp only [cHdr]

/-- outside the hypothesis on the move count the code panics (the model does not: it lends nothing) -/
theorem MapMetaDataSlab_LendToRight_panics (env : Env E V W X S ε) (l r : MMetaSlab α) (x y : Option X)
    (hmv : l.childHdrs.length + 1 < r.childHdrs.length) :
    MapMetaDataSlab_LendToRight env (cMeta l x) (.metaSlab (cMeta r y)) = none := by
  simp only [MapMetaDataSlab_LendToRight, cMeta, List.length_map, msl_tdivHalf]
  rw [msl_lendToRight_neg _ _ _ (by simp only [Int.ofNat_eq_natCast]; omega)]

/-- ... and with no child at all it panics on `rightSlab.childrenHeaders[0]` -/
theorem MapMetaDataSlab_LendToRight_panics_empty (env : Env E V W X S ε) (l r : MMetaSlab α) (x y : Option X)
    (hl : l.childHdrs = []) (hr : r.childHdrs = []) :
    MapMetaDataSlab_LendToRight env (cMeta l x) (.metaSlab (cMeta r y)) = none := by
  simp [MapMetaDataSlab_LendToRight, cMeta, hl, hr, lendToRight, goSlice, goSlicesInsert, goSlicesDelete, goIdx]

/-- `MapMetaDataSlab.BorrowFromRight` IN FULL.  Needs: the move count `(len(left)+len(right))/2 - len(left)` is not
    negative (`borrowFromRight` slices `right[:count]`) and the right slab has a child (the code reads
    `rightSlab.childrenHeaders[0]` after the move; with `len(left) ≤ len(right)` at least one child stays). -/
theorem MapMetaDataSlab_BorrowFromRight_full_eq_model (env : Env E V W X S ε) (l r : MMetaSlab α) (x y : Option X)
    (hmv : l.childHdrs.length ≤ r.childHdrs.length)
    (hne : 0 < r.childHdrs.length) :
    MapMetaDataSlab_BorrowFromRight env (cMeta l x) (.metaSlab (cMeta r y)) =
      some (none, cMeta (MMetaSlab.borrowFromRight l r).1 x,
        .metaSlab (cMeta (MMetaSlab.borrowFromRight l r).2 y)) := by
  simp only [MapMetaDataSlab_BorrowFromRight, MMetaSlab.borrowFromRight, cMeta, List.length_map, msl_tdivHalf]
  have esub : Int.ofNat (l.childHdrs.length + r.childHdrs.length) -
      Int.ofNat ((l.childHdrs.length + r.childHdrs.length) / 2) =
      Int.ofNat (l.childHdrs.length + r.childHdrs.length - (l.childHdrs.length + r.childHdrs.length) / 2) :=
    int_sub (Nat.div_le_self _ _)
  have eadd : Int.ofNat l.childHdrs.length + Int.ofNat r.childHdrs.length =
      Int.ofNat (l.childHdrs.length + r.childHdrs.length) := rfl
  obtain ⟨h1, h2, h3⟩ : l.childHdrs.length ≤ (l.childHdrs.length + r.childHdrs.length) / 2 ∧
      (l.childHdrs.length + r.childHdrs.length) / 2 - l.childHdrs.length ≤ r.childHdrs.length ∧
      0 < r.childHdrs.length - ((l.childHdrs.length + r.childHdrs.length) / 2 - l.childHdrs.length) := by omega
  have emv : Int.ofNat ((l.childHdrs.length + r.childHdrs.length) / 2) - Int.ofNat l.childHdrs.length =
      Int.ofNat ((l.childHdrs.length + r.childHdrs.length) / 2 - l.childHdrs.length) := int_sub h1
  have hc : (l.childHdrs.length + r.childHdrs.length) / 2 - l.childHdrs.length ≤ (r.childHdrs.map cHdr).length := by
    rwa [List.length_map]
  have hne' : 0 < (r.childHdrs.drop ((l.childHdrs.length + r.childHdrs.length) / 2 - l.childHdrs.length)).length := by
    rwa [List.length_drop]
  simp only [eadd, esub, emv, msl_borrowFromRight_eq _ _ _ hc, ← List.map_drop, ← List.map_take,
    ← List.map_append, msl_goIdx_zero_hdrs _ hne', u32_add_ofInt_mul]
  simp only [cHdr]

/-- outside the hypothesis on the move count the code panics (the model does not: it moves nothing but still
    rewrites both sizes) -/
theorem MapMetaDataSlab_BorrowFromRight_panics (env : Env E V W X S ε) (l r : MMetaSlab α) (x y : Option X)
    (hmv : r.childHdrs.length < l.childHdrs.length) :
    MapMetaDataSlab_BorrowFromRight env (cMeta l x) (.metaSlab (cMeta r y)) = none := by
  simp only [MapMetaDataSlab_BorrowFromRight, cMeta, List.length_map, msl_tdivHalf]
  rw [msl_borrowFromRight_neg _ _ _ (by simp only [Int.ofNat_eq_natCast]; omega)]

/-- ... and with no child at all it panics on `rightSlab.childrenHeaders[0]` -/
theorem MapMetaDataSlab_BorrowFromRight_panics_empty (env : Env E V W X S ε) (l r : MMetaSlab α) (x y : Option X)
    (hl : l.childHdrs = []) (hr : r.childHdrs = []) :
    MapMetaDataSlab_BorrowFromRight env (cMeta l x) (.metaSlab (cMeta r y)) = none := by
  simp [MapMetaDataSlab_BorrowFromRight, cMeta, hl, hr, borrowFromRight, goSlice, goSlicesInsert, goIdx]

/-- `MapMetaDataSlab.updateChildrenHeadersAfterMerge`: `childrenHeaders[li] = h`, then `childrenHeaders[ri]` deleted -
    the `childHdrs` update of the model's `MMetaSlab.mergeChildren`; header and extra data untouched -/
theorem MapMetaDataSlab_updateChildrenHeadersAfterMerge_eq (env : Env E V W X S ε) (m : MMetaSlab α) (x : Option X)
    (h : MHdr) (li ri : Nat) (hli : li < m.childHdrs.length) (hri : ri < m.childHdrs.length) :
    MapMetaDataSlab_updateChildrenHeadersAfterMerge env (cMeta m x) (cHdr h) (Int.ofNat li) (Int.ofNat ri) =
      some (cMeta { m with childHdrs := (m.childHdrs.set li h).eraseIdx ri } x) := by
  have hr : goInRange (m.childHdrs.map cHdr) (Int.ofNat li) = true := by
    simp only [goInRange, List.length_map, Bool.and_eq_true, decide_eq_true_eq, Int.ofNat_eq_natCast]
    omega
  have hri' : ri < ((m.childHdrs.map cHdr).set li (cHdr h)).length := by
    rw [List.length_set, List.length_map]; exact hri
  have eli : (Int.ofNat li).toNat = li := rfl
  simp only [MapMetaDataSlab_updateChildrenHeadersAfterMerge, cMeta, hr, if_true, eli, msl_goSlicesDelete_one _ _ hri']
  simp [List.eraseIdx_eq_take_drop_succ, List.map_take, List.map_drop]

/-- the same with the generated record spelled out (the form a proof about `mergeChildren`, which also changes the
    header, rewrites with) -/
theorem MapMetaDataSlab_updateChildrenHeadersAfterMerge_eq' (env : Env E V W X S ε) (m : MMetaSlab α) (x : Option X)
    (h : MHdr) (li ri : Nat) (hli : li < m.childHdrs.length) (hri : ri < m.childHdrs.length) :
    MapMetaDataSlab_updateChildrenHeadersAfterMerge env (cMeta m x) (cHdr h) (Int.ofNat li) (Int.ofNat ri) =
      some { cMeta m x with childrenHeaders := ((m.childHdrs.set li h).eraseIdx ri).map cHdr } :=
  MapMetaDataSlab_updateChildrenHeadersAfterMerge_eq env m x h li ri hli hri

end metaSlab

section examples

/-- a storage environment that satisfies `EnvS` (every other parameter is a dummy) -/
private def msl_envEx : Env Unit Unit Unit Unit Ctx GE where
  Digester_Levels := 0
  MapSlab_CanLendToLeft := fun _ _ => false
  MapSlab_CanLendToRight := fun _ _ => false
  NewHashLevelErrorf := none
  NewKeyNotFoundError := none
  NewNotApplicableError := some .notApplicable
  NewSlabDataErrorf := none
  NewSlabMergeError := some .slabMerge
  NewSlabNotFoundErrorf := none
  NewSlabRebalanceError := some .slabRebalance
  NewSlabRebalanceErrorf := some .slabRebalance
  NewSlabSplitErrorf := some .slabSplit
  SlabStorage_GenerateSlabID := fun c a => ((c.alloc a).1, none, (c.alloc a).2)
  SlabStorage_Remove := fun c id => (none, c.emit (.remove id))
  SlabStorage_Retrieve := fun c _ => (.nil, false, none, c)
  SlabStorage_Store := fun c id _ => (none, c.emit (.store id))
  Storable_ByteSize := fun _ => 0
  ValueComparator := fun c _ _ => (false, none, c)
  Value_Storable := fun _ c _ _ => (none, none, c)
  element_Size := fun _ => 0
  maxInlineMapValueSize := fun x => x
  minThreshold := 0
  newSingleElement := fun c _ _ _ => ({}, none, c)
  wrapErrorfAsExternalErrorIfNeeded := fun e => e

private theorem msl_envEx_EnvS : EnvS msl_envEx := ⟨fun _ _ => rfl, fun _ _ _ => rfl, fun _ _ => rfl, rfl⟩

/-- child header `i` of the examples: slab ID (1, i), size 100, first key 10 * i -/
private def msl_hdrEx (i : Nat) : MHdr := { id := ⟨1, i⟩, size := 100, firstKey := 10 * i }

/-- an index slab with slab ID (1, id) and the children `is`, its size consistent with the number of children -/
private def msl_metaEx (id : Nat) (is : List Nat) : MMetaSlab Unit :=
  { hdr := { id := ⟨1, id⟩, size := 12 + 18 * is.length, firstKey := 10 * is.headD 0 },
    childHdrs := is.map msl_hdrEx, children := is.map (fun _ => ()), root := false }

/-- what the examples look at: slab ID index, size, first key, slab ID indices of the children -/
private def msl_obs (m : MapMetaDataSlab Unit) : Nat × Nat × Nat × List Nat :=
  (m.header.slabID.idx, m.header.size.toNat, m.header.firstKey.toNat, m.childrenHeaders.map (·.slabID.idx))

private def msl_obsSlab : MapSlab Unit Unit Unit → Option (Nat × Nat × Nat × List Nat)
  | .metaSlab m => some (msl_obs m)
  | _ => none

/-- Merge: theorem instantiated, and the generated code evaluated -/
example : MapMetaDataSlab_Merge msl_envEx (cMeta (msl_metaEx 7 [1, 2]) none) (.metaSlab (cMeta (msl_metaEx 8 [3, 4, 5]) none)) =
    some (none, cMeta (MMetaSlab.merge (msl_metaEx 7 [1, 2]) (msl_metaEx 8 [3, 4, 5])) none) :=
  MapMetaDataSlab_Merge_full_eq_model msl_envEx _ _ _ _ (by decide)
example : (MapMetaDataSlab_Merge msl_envEx (cMeta (msl_metaEx 7 [1, 2]) none)
    (.metaSlab (cMeta (msl_metaEx 8 [3, 4, 5]) none))).map (fun p => (p.1, msl_obs p.2)) =
      some (none, 7, 12 + 18 * 5, 10, [1, 2, 3, 4, 5]) := by rfl

/-- Split: 5 children, 3 stay; the new slab gets the next slab ID of the storage (counter 40 -> 41) -/
example : MapMetaDataSlab_Split msl_envEx (cMeta (msl_metaEx 7 [1, 2, 3, 4, 5]) (some ())) ⟨40, [], []⟩ =
    match (msl_metaEx 7 [1, 2, 3, 4, 5]).split ⟨40, [], []⟩ with
    | .error e => some (.nil, .nil, some e, cMeta (msl_metaEx 7 [1, 2, 3, 4, 5]) (some ()), ⟨40, [], []⟩)
    | .ok (l, r, c') => some (.metaSlab (cMeta l (some ())), .metaSlab (cMeta r none), none, cMeta l (some ()), c') :=
  MapMetaDataSlab_Split_full_eq_model msl_envEx msl_envEx_EnvS rfl _ _ _ (by decide)
example : (MapMetaDataSlab_Split msl_envEx (cMeta (msl_metaEx 7 [1, 2, 3, 4, 5]) (some ())) ⟨40, [], []⟩).map
    (fun p => (msl_obsSlab p.1, msl_obsSlab p.2.1, p.2.2.1, msl_obs p.2.2.2.1, p.2.2.2.2.ctr, p.2.2.2.2.eff)) =
      some (some (7, 12 + 18 * 3, 10, [1, 2, 3]), some (41, 12 + 18 * 2, 40, [4, 5]), none,
        (7, 12 + 18 * 3, 10, [1, 2, 3]), 41, [.alloc 1 ⟨1, 41⟩]) := by rfl
/-- Split of a slab with one child: the error, nothing changed -/
example : (MapMetaDataSlab_Split msl_envEx (cMeta (msl_metaEx 7 [1]) none) ⟨40, [], []⟩).map
    (fun p => (msl_obsSlab p.1, msl_obsSlab p.2.1, p.2.2.1, msl_obs p.2.2.2.1, p.2.2.2.2.ctr, p.2.2.2.2.eff)) =
      some (none, none, some .slabSplit, (7, 12 + 18, 10, [1]), 40, []) := by rfl

/-- LendToRight: 4 + 1 children -> 2 + 3 -/
example : MapMetaDataSlab_LendToRight msl_envEx (cMeta (msl_metaEx 7 [1, 2, 3, 4]) none) (.metaSlab (cMeta (msl_metaEx 8 [5]) none)) =
    some (none, cMeta (MMetaSlab.lendToRight (msl_metaEx 7 [1, 2, 3, 4]) (msl_metaEx 8 [5])).1 none,
      .metaSlab (cMeta (MMetaSlab.lendToRight (msl_metaEx 7 [1, 2, 3, 4]) (msl_metaEx 8 [5])).2 none)) :=
  MapMetaDataSlab_LendToRight_full_eq_model msl_envEx _ _ _ _ (by decide) (by decide)
example : (MapMetaDataSlab_LendToRight msl_envEx (cMeta (msl_metaEx 7 [1, 2, 3, 4]) none)
    (.metaSlab (cMeta (msl_metaEx 8 [5]) none))).map (fun p => (p.1, msl_obs p.2.1, msl_obsSlab p.2.2)) =
      some (none, (7, 12 + 18 * 2, 10, [1, 2]), some (8, 12 + 18 * 3, 30, [3, 4, 5])) := by rfl

/-- BorrowFromRight: 1 + 4 children -> 2 + 3 -/
example : MapMetaDataSlab_BorrowFromRight msl_envEx (cMeta (msl_metaEx 7 [1]) none) (.metaSlab (cMeta (msl_metaEx 8 [2, 3, 4, 5]) none)) =
    some (none, cMeta (MMetaSlab.borrowFromRight (msl_metaEx 7 [1]) (msl_metaEx 8 [2, 3, 4, 5])).1 none,
      .metaSlab (cMeta (MMetaSlab.borrowFromRight (msl_metaEx 7 [1]) (msl_metaEx 8 [2, 3, 4, 5])).2 none)) :=
  MapMetaDataSlab_BorrowFromRight_full_eq_model msl_envEx _ _ _ _ (by decide) (by decide)
example : (MapMetaDataSlab_BorrowFromRight msl_envEx (cMeta (msl_metaEx 7 [1]) none)
    (.metaSlab (cMeta (msl_metaEx 8 [2, 3, 4, 5]) none))).map (fun p => (p.1, msl_obs p.2.1, msl_obsSlab p.2.2)) =
      some (none, (7, 12 + 18 * 2, 10, [1, 2]), some (8, 12 + 18 * 3, 30, [3, 4, 5])) := by rfl

/-- updateChildrenHeadersAfterMerge: child 1 replaced by the merged header, child 2 deleted -/
example : (MapMetaDataSlab_updateChildrenHeadersAfterMerge msl_envEx (cMeta (msl_metaEx 7 [1, 2, 3, 4]) none)
    (cHdr (msl_hdrEx 9)) (Int.ofNat 1) (Int.ofNat 2)).map msl_obs = some (7, 12 + 18 * 4, 10, [1, 9, 4]) := by rfl

/-! ### where the code and the model part outside the hypotheses (concrete inputs) -/

/-- Merge with a right header size below the prefix size (here 0): Go's `0 - 12` wraps around, so the new size is
    `100 + 2^32 - 12` modulo 2^32 = 88; the model's truncated subtraction leaves 100 -/
example : (MapMetaDataSlab_Merge msl_envEx (cMeta ({ hdr := ⟨⟨1, 7⟩, 100, 0⟩, childHdrs := [], children := [], root := false } : MMetaSlab Unit) none)
      (.metaSlab (cMeta ({ hdr := ⟨⟨1, 8⟩, 0, 0⟩, childHdrs := [], children := [], root := false } : MMetaSlab Unit) none))).map
        (fun p => p.2.header.size.toNat) = some 88 ∧
    (MMetaSlab.merge ({ hdr := ⟨⟨1, 7⟩, 100, 0⟩, childHdrs := [], children := [], root := false } : MMetaSlab Unit)
      { hdr := ⟨⟨1, 8⟩, 0, 0⟩, childHdrs := [], children := [], root := false }).hdr.size = 100 := ⟨by rfl, by rfl⟩

/-- Split with a header size that does not cover the child headers that stay left (size 10, 2 children, one stays):
    Go's `10 - 18` wraps around, the right slab gets the size `2^32 - 8`; the model's truncated subtraction gives 0 -/
example : (MapMetaDataSlab_Split msl_envEx (cMeta ({ hdr := ⟨⟨1, 7⟩, 10, 0⟩, childHdrs := [msl_hdrEx 1, msl_hdrEx 2], children := [(), ()], root := false } : MMetaSlab Unit) none)
      ⟨40, [], []⟩).map (fun p => (msl_obsSlab p.2.1).map (·.2.1)) = some (some (2 ^ 32 - 8)) ∧
    (match MMetaSlab.split ({ hdr := ⟨⟨1, 7⟩, 10, 0⟩, childHdrs := [msl_hdrEx 1, msl_hdrEx 2], children := [(), ()], root := false } : MMetaSlab Unit) ⟨40, [], []⟩ with
     | .ok (_, r, _) => some r.hdr.size
     | .error _ => none) = some 0 := ⟨by rfl, by rfl⟩

/-- LendToRight with 1 + 3 children: the move count is -1, Go panics; the model lends nothing (1 + 3 children stay,
    sizes recomputed for 2 + 2) -/
example : MapMetaDataSlab_LendToRight msl_envEx (cMeta (msl_metaEx 7 [1]) none) (.metaSlab (cMeta (msl_metaEx 8 [2, 3, 4]) none)) = none ∧
    ((MMetaSlab.lendToRight (msl_metaEx 7 [1]) (msl_metaEx 8 [2, 3, 4])).1.childHdrs.length,
     (MMetaSlab.lendToRight (msl_metaEx 7 [1]) (msl_metaEx 8 [2, 3, 4])).2.childHdrs.length) = (1, 3) :=
  ⟨MapMetaDataSlab_LendToRight_panics msl_envEx _ _ _ _ (by decide), by decide⟩

/-- BorrowFromRight with 3 + 1 children: the move count is -1, Go panics; the model moves nothing -/
example : MapMetaDataSlab_BorrowFromRight msl_envEx (cMeta (msl_metaEx 7 [1, 2, 3]) none) (.metaSlab (cMeta (msl_metaEx 8 [4]) none)) = none ∧
    ((MMetaSlab.borrowFromRight (msl_metaEx 7 [1, 2, 3]) (msl_metaEx 8 [4])).1.childHdrs.length,
     (MMetaSlab.borrowFromRight (msl_metaEx 7 [1, 2, 3]) (msl_metaEx 8 [4])).2.childHdrs.length) = (3, 1) :=
  ⟨MapMetaDataSlab_BorrowFromRight_panics msl_envEx _ _ _ _ (by decide), by decide⟩

end examples

end Atree.TransEq

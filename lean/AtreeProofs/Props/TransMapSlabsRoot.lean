import AtreeProofs.Props.TransMapSlabsTree
import AtreeModel.Map.Ops
/-
  `OrderedMap.splitRoot` / `OrderedMap.promoteChildAsNewRoot` (map.go), REGENERATED IN FULL from the Go sources
  (`AtreeModel/Gen/TransMapSlabs.lean`), against the hand-written model (`OMap.splitRoot`, `OMap.promoteIfSingleChild`,
  `AtreeModel/Map/Ops.lean`): the generated function on the translation of a model handle (`x` = the extra data pointer of
  the root slab) yields the translation of the model's result - the new root slab in full, the extra data pointer moved to
  it, the storage after the call, no error.  Each function is stated once for any storage (`_any`, storage after the call =
  a chain of the environment's `Store` / `Remove`); the statements over `cMap m x c` (`c` = the storage state of the
  storage that only logs: the effects in order) are corollaries, those over the heap are in Props/TransMapRestructRoot.lean
  and Props/TransMapRestructPromote.lean.
  What the model does not show: a FAILING `splitRoot` (the old root has fewer than 2 elements / children) returns the
  model's error class but leaves the handle in the state `root_splitFail` - `m.root` is the old root slab under the
  freshly allocated slab id (under which nothing was stored), without its extra data and (data slab) with the
  non-root size.  Helper names of this file start with `root_`; `mrs_rootOld` / `mrs_newRoot` / `mrs_rootNew` /
  `mrs_splitRoot_model` are the model's `splitRoot` written out.
-/
namespace Atree.TransEq
open Atree Atree.Gen.TransMap

section root
variable {r : Nat} {V W X : Type}

/-- a slab tree as the generated ROOT slab: `cTree` with the extra data pointer `x` (the model's `root : Bool` flag is
    Go's `extraData != nil` and is not part of `cData` / `cMeta`) -/
def root_cTree : (d : Nat) → MTree r d → Option X → MapSlab (MElemF (MElems r)) V X
  | 0, (s : MDataSlab r), x => .dataSlab (cData s x)
  | _ + 1, (m : MMetaSlab _), x => .metaSlab (cMeta m x)

theorem root_cTree_none (d : Nat) (t : MTree r d) : root_cTree (V := V) (X := X) d t none = cTree d t := by
  cases d <;> rfl

/-- a map handle of the model as the generated `OrderedMap`: the storage state is the model's `Ctx`, the root slab
    carries the extra data pointer `x` -/
def cMap (m : OMap r) (x : Option X) (c : Ctx) : OrderedMap (MElemF (MElems r)) V X Ctx :=
  { Storage := c, root := root_cTree m.d m.root x }

/-- the old root as Go's `splitRoot` has it when it calls `Split`: the new slab id; for a data slab the size
    `size - mapRootDataSlabPrefixSize + mapDataSlabPrefixSize` in `uint32`, which is `size + 16` (mod 2^32) -/
def root_deroot : (d : Nat) → MTree r d → SlabID → MTree r d
  | 0, (s : MDataSlab r), sid =>
    ({ s with hdr := { id := sid, size := s.hdr.size + 16, firstKey := s.hdr.firstKey } } : MDataSlab r)
  | _ + 1, (m : MMetaSlab _), sid => ({ m with hdr := { m.hdr with id := sid } } : MMetaSlab _)

/-- the state Go's `splitRoot` leaves behind when the old root cannot be split: the slab id is allocated, `m.root` is
    still the OLD root slab but with the NEW slab id, WITHOUT its extra data, and (data slab) with the non-root size -/
def root_splitFail (m : OMap r) (c : Ctx) : OrderedMap (MElemF (MElems r)) V X Ctx :=
  { Storage := (c.alloc m.rootID.addr).2, root := cTree m.d (root_deroot m.d m.root (c.alloc m.rootID.addr).1) }

theorem root_u32_adjust (a : Nat) :
    u32 a - UInt32.ofNat Gen.mapRootDataSlabPrefixSize + UInt32.ofNat Gen.mapDataSlabPrefixSize = u32 (a + 16) := by
  simp only [Gen.mapRootDataSlabPrefixSize, Gen.mapDataSlabPrefixSize, u32, UInt32.ofNat_add]
  rw [UInt32.sub_eq_add_neg, UInt32.add_assoc]
  rfl

/-- the old root as the model's `splitRoot` hands it to `split`: non-root size (data slab), root flag off, the fresh
    identifier -/
def mrs_rootOld (m : OMap r) (c : Ctx) : MTree r m.d :=
  let root0 : MTree r m.d :=
    match m with
    | ⟨0, (s : MDataSlab r), _, _, _⟩ =>
      ({ s with hdr := { s.hdr with size := s.hdr.size - Gen.mapRootDataSlabPrefixSize + Gen.mapDataSlabPrefixSize } } : MDataSlab r)
    | ⟨_ + 1, x, _, _, _⟩ => x
  MTree.setId m.d (MTree.setRoot m.d root0 false) (c.alloc m.rootID.addr).1

/-- the new root index slab over the two halves -/
def mrs_newRoot (m : OMap r) (l rr : MTree r m.d) : MMetaSlab (MTree r m.d) :=
  { hdr := { id := m.rootID, size := Gen.mapMetaDataSlabPrefixSize + Gen.mapSlabHeaderSize * 2, firstKey := (MTree.hdr m.d l).firstKey },
    childHdrs := [MTree.hdr m.d l, MTree.hdr m.d rr], children := [l, rr], root := true }

/-- the handle after `splitRoot` -/
def mrs_rootNew (m : OMap r) (l rr : MTree r m.d) : OMap r := { m with d := m.d + 1, root := mrs_newRoot m l rr }

/-- `OMap.splitRoot` = allocate, `split` the old root, build the new root, three `Store` effects -/
theorem mrs_splitRoot_model (m : OMap r) (c : Ctx) :
    OMap.splitRoot m c =
      match MTree.split m.d (mrs_rootOld m c) (c.alloc m.rootID.addr).2 with
      | .ok (l, rr, c2) =>
        .ok (mrs_rootNew m l rr,
          ((c2.emit (.store (MTree.hdr m.d l).id)).emit (.store (MTree.hdr m.d rr).id)).emit (.store m.rootID))
      | .error e => .error e := by
  obtain ⟨d, root, ty, cnt, seed⟩ := m
  cases d with
  | zero =>
    simp only [OMap.splitRoot, mrs_rootOld, OMap.rootID, OMap.rootHdr, MTree.hdr, bind, Except.bind, pure, Except.pure]
    split <;> rename_i h1 <;> split <;> rename_i h2 <;> rw [h1] at h2 <;> cases h2 <;> rfl
  | succ d =>
    simp only [OMap.splitRoot, mrs_rootOld, OMap.rootID, OMap.rootHdr, MTree.hdr, bind, Except.bind, pure, Except.pure]
    split <;> rename_i h1 <;> split <;> rename_i h2 <;> rw [h1] at h2 <;> cases h2 <;> rfl

/-- the range hypotheses of the two `Split` theorems for the root slab (they only concern the element group /
    the child headers, which `splitRoot` does not touch before it calls `Split`) -/
def root_splitHyp (m : OMap r) : Prop :=
  match m with
  | ⟨0, (s : MDataSlab r), _, _, _⟩ =>
    s.elems.elems.length < 2^32 ∧ s.elems.size + Gen.mapDataSlabPrefixSize < 2^32 ∧
    Gen.hkeyElementsPrefixSize + (dg (rawSizes (MDataSlab.eops r) s.elems)).sum ≤ s.elems.size ∧
    s.elems.elems.length ≤ s.elems.hkeys.length
  | ⟨_ + 1, (mm : MMetaSlab _), _, _, _⟩ =>
    2 ≤ mm.childHdrs.length → (mm.childHdrs.length + 1) / 2 * Gen.mapSlabHeaderSize ≤ mm.hdr.size

section anyStorage
variable {S : Type} (T : Nat) (env : Env (MElemF (MElems r)) V W X S GE)

/-- `splitRoot`, the root is an index slab -/
theorem OrderedMap_splitRoot_meta_any (hS : MStoreOK env) {ctx : S → Ctx} {setCtx : S → Ctx → S}
    (hG : MCtxOf env ctx setCtx) (hsplit : env.NewSlabSplitErrorf = some .slabSplit)
    (d : Nat) (mm : MMetaSlab (MTree r d)) (ty cnt seed : Nat) (x : Option X) (s : S)
    (hcov : 2 ≤ mm.childHdrs.length → (mm.childHdrs.length + 1) / 2 * Gen.mapSlabHeaderSize ≤ mm.hdr.size) :
    OrderedMap_splitRoot env { Storage := s, root := root_cTree (d + 1) mm x } =
      match MTree.split (d + 1) (mrs_rootOld (⟨d + 1, mm, ty, cnt, seed⟩ : OMap r) (ctx s))
          ((ctx s).alloc (OMap.rootID (⟨d + 1, mm, ty, cnt, seed⟩ : OMap r)).addr).2 with
      | .ok (l, rr, c2) =>
        some (none,
          { Storage := mstored env (mstored env (mstored env (setCtx s c2) (MTree.hdr (d + 1) l).id (cTree (d + 1) l))
              (MTree.hdr (d + 1) rr).id (cTree (d + 1) rr)) mm.hdr.id
              (.metaSlab (cMeta (mrs_newRoot (⟨d + 1, mm, ty, cnt, seed⟩ : OMap r) l rr) x)),
            root := .metaSlab (cMeta (mrs_newRoot (⟨d + 1, mm, ty, cnt, seed⟩ : OMap r) l rr) x) })
      | .error e =>
        some (some e, { Storage := setCtx s ((ctx s).alloc mm.hdr.id.addr).2,
                        root := cTree (d + 1) (root_deroot (d + 1) mm ((ctx s).alloc mm.hdr.id.addr).1) }) := by
  rcases ha : (ctx s).alloc mm.hdr.id.addr with ⟨sid, c1⟩
  have hsp := MapMetaDataSlab_Split_any (V := V) env hG hsplit
    ({ mm with hdr := { mm.hdr with id := sid }, root := false } : MMetaSlab (MTree r d)) (none : Option X) (setCtx s c1) hcov
  simp only [cMeta, cHdr, hG.ctx_set, hG.set_set] at hsp
  simp only [OrderedMap_splitRoot, root_cTree, root_deroot, cTree, OMap.rootID, OMap.rootHdr,
    MTree.hdr, MapSlab_IsData, MapMetaDataSlab_IsData,
    Bool.false_eq_true, if_false, MapSlab_RemoveExtraData, MapMetaDataSlab_RemoveExtraData, MapSlab_SlabID,
    MapMetaDataSlab_SlabID, OrderedMap_Address, cMeta, cHdr, hG.gen, ha, Option.isNone_none, Bool.not_true,
    MapSlab_SetSlabID, MapMetaDataSlab_SetSlabID, MapSlab_Split, hsp,
    mrs_rootOld, MTree.setRoot, MTree.setId, MTree.split]
  cases hres : MMetaSlab.split ({ mm with hdr := { mm.hdr with id := sid }, root := false } : MMetaSlab (MTree r d)) c1 with
  | error e => simp only [Option.isNone_some, Bool.not_false, if_true]
  | ok p =>
    obtain ⟨l, rr, c2⟩ := p
    simp only [Option.isNone_none, Bool.not_true, Bool.false_eq_true, if_false, MapSlab.isNil, Bool.not_false, if_true,
      MapSlab_Header, MapMetaDataSlab_Header, hS.storeSlab_meta,
      List.map_cons, List.map_nil, cHdr, u32, mrs_newRoot, MTree.hdr, OMap.rootID, OMap.rootHdr]

/-- `splitRoot`, the root is a data slab -/
theorem OrderedMap_splitRoot_data_any (hE : EnvH (MDataSlab.eops r) T env) (hS : MStoreOK env) {ctx : S → Ctx}
    {setCtx : S → Ctx → S} (hG : MCtxOf env ctx setCtx)
    (sd : MDataSlab r) (ty cnt seed : Nat) (x : Option X) (s : S)
    (hcnt : sd.elems.elems.length < 2^32)
    (hs : sd.elems.size + Gen.mapDataSlabPrefixSize < 2^32)
    (hpre : Gen.hkeyElementsPrefixSize + (dg (rawSizes (MDataSlab.eops r) sd.elems)).sum ≤ sd.elems.size)
    (hlen : sd.elems.elems.length ≤ sd.elems.hkeys.length) :
    OrderedMap_splitRoot env { Storage := s, root := root_cTree 0 sd x } =
      match MTree.split 0 (mrs_rootOld (⟨0, sd, ty, cnt, seed⟩ : OMap r) (ctx s))
          ((ctx s).alloc (OMap.rootID (⟨0, sd, ty, cnt, seed⟩ : OMap r)).addr).2 with
      | .ok (l, rr, c2) =>
        some (none,
          { Storage := mstored env (mstored env (mstored env (setCtx s c2) (MTree.hdr 0 l).id (cTree 0 l))
              (MTree.hdr 0 rr).id (cTree 0 rr)) sd.hdr.id
              (.metaSlab (cMeta (mrs_newRoot (⟨0, sd, ty, cnt, seed⟩ : OMap r) l rr) x)),
            root := .metaSlab (cMeta (mrs_newRoot (⟨0, sd, ty, cnt, seed⟩ : OMap r) l rr) x) })
      | .error e =>
        some (some e, { Storage := setCtx s ((ctx s).alloc sd.hdr.id.addr).2,
                        root := cTree 0 (root_deroot 0 sd ((ctx s).alloc sd.hdr.id.addr).1) }) := by
  rcases ha : (ctx s).alloc sd.hdr.id.addr with ⟨sid, c1⟩
  have hsp := MapDataSlab_Split_any T env hE hG
    ({ sd with hdr := { id := sid, size := sd.hdr.size + 16, firstKey := sd.hdr.firstKey } } : MDataSlab r)
    (none : Option X) (setCtx s c1) hcnt hs hpre hlen
  simp only [cData, cHdr, MDataSlab.split, hG.ctx_set, hG.set_set] at hsp
  simp only [OrderedMap_splitRoot, root_cTree, root_deroot, cTree, OMap.rootID, OMap.rootHdr,
    MTree.hdr, MapSlab_IsData, MapDataSlab_IsData, if_true, cData, cHdr, root_u32_adjust,
    MapSlab_RemoveExtraData, MapDataSlab_RemoveExtraData, MapSlab_SlabID,
    MapDataSlab_SlabID, OrderedMap_Address, hG.gen, ha, Option.isNone_none, Bool.not_true, Bool.false_eq_true, if_false,
    MapSlab_SetSlabID, MapDataSlab_SetSlabID, MapSlab_Split, hsp,
    mrs_rootOld, MTree.setRoot, MTree.setId, MTree.split, MDataSlab.split]
  by_cases h2 : sd.elems.elems.length < 2
  · simp only [h2, if_true, Option.isNone_some, Bool.not_false]
  · rcases hsplit : HkeyElems.split (MDataSlab.eops r) sd.elems with ⟨le, re⟩
    rcases ha2 : c1.alloc sid.addr with ⟨sid2, c2⟩
    simp only [h2, if_false,
      Option.isNone_none, Bool.not_true, Bool.false_eq_true, MapSlab.isNil, Bool.not_false, if_true,
      MapSlab_Header, MapDataSlab_Header, hS.storeSlab_data, hS.storeSlab_meta, cMeta, List.map_cons, List.map_nil, cHdr, u32,
      mrs_newRoot, MTree.hdr, OMap.rootID, OMap.rootHdr]

/-- `OrderedMap.splitRoot` IN FULL, for any storage.  If the model splits the old root (`mrs_rootOld`: the root under the
    fresh identifier), the generated code returns no error and the handle of the model's result: the new root
    (`mrs_newRoot`) is an index slab with the OLD root id, size 12 + 2 * 18, the first key of the left child, the two child
    headers and the extra data `x` of the old root; the storage after the two allocations, `Store` left, `Store` right,
    `Store` root.  If the old root cannot be split (fewer than 2 elements / children) the error is the model's and the
    handle is left with the identifier allocated and `m.root` the OLD root slab under the NEW identifier, without its
    extra data and (data slab) with the non-root size (`root_deroot`).  No hypothesis on the header size of a data root:
    `size - 2 + 18` is overwritten by `Split` when it succeeds. -/
theorem OrderedMap_splitRoot_any (hE : EnvH (MDataSlab.eops r) T env) (hS : MStoreOK env) {ctx : S → Ctx}
    {setCtx : S → Ctx → S} (hG : MCtxOf env ctx setCtx) (m : OMap r) (x : Option X) (s : S) (hm : root_splitHyp m) :
    OrderedMap_splitRoot env { Storage := s, root := root_cTree m.d m.root x } =
      match MTree.split m.d (mrs_rootOld m (ctx s)) ((ctx s).alloc m.rootID.addr).2 with
      | .ok (l, rr, c2) =>
        some (none,
          { Storage := mstored env (mstored env (mstored env (setCtx s c2) (MTree.hdr m.d l).id (cTree m.d l))
              (MTree.hdr m.d rr).id (cTree m.d rr)) m.rootID (.metaSlab (cMeta (mrs_newRoot m l rr) x)),
            root := .metaSlab (cMeta (mrs_newRoot m l rr) x) })
      | .error e =>
        some (some e, { Storage := setCtx s ((ctx s).alloc m.rootID.addr).2,
                        root := cTree m.d (root_deroot m.d m.root ((ctx s).alloc m.rootID.addr).1) }) := by
  obtain ⟨d, root, ty, cnt, seed⟩ := m
  cases d with
  | zero =>
    obtain ⟨h1, h2, h3, h4⟩ := hm
    have h := OrderedMap_splitRoot_data_any T env hE hS hG root ty cnt seed x s h1 h2 h3 h4
    dsimp only
    rw [h]
    generalize MTree.split 0 (mrs_rootOld (⟨0, root, ty, cnt, seed⟩ : OMap r) (ctx s))
      ((ctx s).alloc (OMap.rootID (⟨0, root, ty, cnt, seed⟩ : OMap r)).addr).2 = res
    cases res with
    | error e => rfl
    | ok p => rfl
  | succ d =>
    have h := OrderedMap_splitRoot_meta_any env hS hG hE.eSplit d root ty cnt seed x s hm
    dsimp only
    rw [h]
    generalize MTree.split (d + 1) (mrs_rootOld (⟨d + 1, root, ty, cnt, seed⟩ : OMap r) (ctx s))
      ((ctx s).alloc (OMap.rootID (⟨d + 1, root, ty, cnt, seed⟩ : OMap r)).addr).2 = res
    cases res with
    | error e => rfl
    | ok p => rfl

end anyStorage

/-! ## `splitRoot` with the storage that only logs (`S := Ctx`, `EnvS`) -/

variable (T : Nat) (env : Env (MElemF (MElems r)) V W X Ctx GE)

/-- `splitRoot`, the root is an index slab -/
theorem OrderedMap_splitRoot_meta_eq_model (hS : EnvS env) (hsplit : env.NewSlabSplitErrorf = some .slabSplit)
    (d : Nat) (mm : MMetaSlab (MTree r d)) (ty cnt seed : Nat) (x : Option X) (c : Ctx)
    (hcov : 2 ≤ mm.childHdrs.length → (mm.childHdrs.length + 1) / 2 * Gen.mapSlabHeaderSize ≤ mm.hdr.size) :
    OrderedMap_splitRoot env (cMap (⟨d + 1, mm, ty, cnt, seed⟩ : OMap r) x c) =
      match OMap.splitRoot (⟨d + 1, mm, ty, cnt, seed⟩ : OMap r) c with
      | .ok (m', c') => some (none, cMap m' x c')
      | .error e => some (some e, root_splitFail ⟨d + 1, mm, ty, cnt, seed⟩ c) := by
  refine (OrderedMap_splitRoot_meta_any env hS.ok hS.ctxOf hsplit d mm ty cnt seed x c hcov).trans ?_
  rw [mrs_splitRoot_model, id_eq]
  cases MTree.split (d + 1) (mrs_rootOld (⟨d + 1, mm, ty, cnt, seed⟩ : OMap r) c)
      (c.alloc (OMap.rootID (⟨d + 1, mm, ty, cnt, seed⟩ : OMap r)).addr).2 with
  | error e => rfl
  | ok p => simp only [hS.mstored]; rfl

/-- `splitRoot`, the root is a data slab -/
theorem OrderedMap_splitRoot_data_eq_model (hE : EnvH (MDataSlab.eops r) T env) (hS : EnvS env)
    (s : MDataSlab r) (ty cnt seed : Nat) (x : Option X) (c : Ctx)
    (hcnt : s.elems.elems.length < 2^32)
    (hs : s.elems.size + Gen.mapDataSlabPrefixSize < 2^32)
    (hpre : Gen.hkeyElementsPrefixSize + (dg (rawSizes (MDataSlab.eops r) s.elems)).sum ≤ s.elems.size)
    (hlen : s.elems.elems.length ≤ s.elems.hkeys.length) :
    OrderedMap_splitRoot env (cMap (⟨0, s, ty, cnt, seed⟩ : OMap r) x c) =
      match OMap.splitRoot (⟨0, s, ty, cnt, seed⟩ : OMap r) c with
      | .ok (m', c') => some (none, cMap m' x c')
      | .error e => some (some e, root_splitFail ⟨0, s, ty, cnt, seed⟩ c) := by
  refine (OrderedMap_splitRoot_data_any T env hE hS.ok hS.ctxOf s ty cnt seed x c hcnt hs hpre hlen).trans ?_
  rw [mrs_splitRoot_model, id_eq]
  cases MTree.split 0 (mrs_rootOld (⟨0, s, ty, cnt, seed⟩ : OMap r) c)
      (c.alloc (OMap.rootID (⟨0, s, ty, cnt, seed⟩ : OMap r)).addr).2 with
  | error e => rfl
  | ok p => simp only [hS.mstored]; rfl

/-- `OrderedMap.splitRoot` IN FULL: `OrderedMap_splitRoot_any` read with the storage that only logs.  The handle
    `cMap m' x c'` of the model's result; the effects (alloc of the new id of the old root, the alloc of `Split`, store
    left, store right, store root) are the model's, in order.  If the old root cannot be split the handle is left in the
    state `root_splitFail m c` (the model returns the error only). -/
theorem OrderedMap_splitRoot_eq_model (hE : EnvH (MDataSlab.eops r) T env) (hS : EnvS env)
    (m : OMap r) (x : Option X) (c : Ctx) (hm : root_splitHyp m) :
    OrderedMap_splitRoot env (cMap m x c) =
      match OMap.splitRoot m c with
      | .ok (m', c') => some (none, cMap m' x c')
      | .error e => some (some e, root_splitFail m c) := by
  refine (OrderedMap_splitRoot_any T env hE hS.ok hS.ctxOf m x c hm).trans ?_
  rw [mrs_splitRoot_model, id_eq]
  cases MTree.split m.d (mrs_rootOld m c) (c.alloc m.rootID.addr).2 with
  | error e => rfl
  | ok p => simp only [hS.mstored]; rfl

/-- the error of a failing `splitRoot` is always `SlabSplitError` -/
theorem root_splitRoot_error (m : OMap r) (c : Ctx) (e : MErr) (h : OMap.splitRoot m c = .error e) : e = .slabSplit := by
  obtain ⟨d, root, ty, cnt, seed⟩ := m
  cases d with
  | zero =>
    simp only [OMap.splitRoot, MTree.hdr, MTree.setRoot, MTree.setId, MTree.split, MDataSlab.split, bind, Except.bind,
      pure, Except.pure] at h
    by_cases h2 : (root : MDataSlab r).elems.elems.length < 2
    · simp only [h2, if_true] at h; cases h; rfl
    · simp only [h2, if_false] at h; cases h
  | succ d =>
    simp only [OMap.splitRoot, MTree.hdr, MTree.setRoot, MTree.setId, MTree.split, MMetaSlab.split, bind, Except.bind,
      pure, Except.pure] at h
    by_cases h2 : (root : MMetaSlab (MTree r d)).childHdrs.length < 2
    · simp only [h2, if_true] at h; cases h; rfl
    · simp only [h2, if_false] at h; cases h

/-- the old root in the fail state against the model's own intermediate value (`setId (setRoot root0 false) sid`):
    the translations agree iff Go's `size - 2` does not wrap around -/
theorem root_deroot_data_eq_model (s : MDataSlab r) (sid : SlabID) (h2 : Gen.mapRootDataSlabPrefixSize ≤ s.hdr.size) :
    cTree (V := V) (X := X) 0 (root_deroot 0 s sid) =
      cTree 0 (MTree.setId 0 (MTree.setRoot 0
        ({ s with hdr := { s.hdr with size := s.hdr.size - Gen.mapRootDataSlabPrefixSize + Gen.mapDataSlabPrefixSize } } : MDataSlab r)
        false) sid) := by
  simp only [Gen.mapRootDataSlabPrefixSize, Gen.mapDataSlabPrefixSize] at h2 ⊢
  have e : s.hdr.size - 2 + 18 = s.hdr.size + 16 := by omega
  simp only [cTree, root_deroot, MTree.setId, MTree.setRoot, cData, e]

theorem root_deroot_meta_eq_model (d : Nat) (mm : MMetaSlab (MTree r d)) (sid : SlabID) :
    cTree (V := V) (X := X) (d + 1) (root_deroot (d + 1) mm sid) =
      cTree (d + 1) (MTree.setId (d + 1) (MTree.setRoot (d + 1) mm false) sid) := by
  simp only [cTree, root_deroot, MTree.setId, MTree.setRoot, cMeta]

/-- `OrderedMap.promoteChildAsNewRoot` IN FULL, for any storage, for a root index slab with exactly one child, when the
    storage returns that child for the child id (`s'` = the storage `Retrieve` hands back): no error, the handle of the
    model's result (whose root does not depend on the `Ctx` it is run on) - the child with the root's slab id and the root's
    extra data `x`; a data child with the root data slab size `size - 18 + 2` -, the storage after `Store` root id,
    `Remove` child id.  Needs (data child only): the child's size covers the prefix, else Go's `size - 18` wraps around. -/
theorem OrderedMap_promoteChildAsNewRoot_any {S : Type} (env : Env (MElemF (MElems r)) V W X S GE) (hS : MStoreOK env)
    (d : Nat) (mm : MMetaSlab (MTree r d)) (ty cnt seed : Nat) (x : Option X) (s s' : S) (c : Ctx)
    (h : MHdr) (child : MTree r d) (hh : mm.childHdrs = [h]) (hc : mm.children = [child])
    (hret : env.SlabStorage_Retrieve s h.id = (cTree d child, true, none, s'))
    (hsz : d = 0 → Gen.mapDataSlabPrefixSize ≤ (MTree.hdr d child).size) :
    OrderedMap_promoteChildAsNewRoot env { Storage := s, root := root_cTree (d + 1) mm x } h.id =
      some (none,
        { Storage := mremoved env (mstored env s' mm.hdr.id
            (root_cTree (OMap.promoteIfSingleChild (⟨d + 1, mm, ty, cnt, seed⟩ : OMap r) c).1.d
              (OMap.promoteIfSingleChild (⟨d + 1, mm, ty, cnt, seed⟩ : OMap r) c).1.root x)) h.id,
          root := root_cTree (OMap.promoteIfSingleChild (⟨d + 1, mm, ty, cnt, seed⟩ : OMap r) c).1.d
            (OMap.promoteIfSingleChild (⟨d + 1, mm, ty, cnt, seed⟩ : OMap r) c).1.root x }) := by
  have hg := getMapSlab_cTree env s s' h.id d child hret
  obtain ⟨mh, mchs, mchildren, mroot⟩ := mm
  simp only at hh hc
  subst hh hc
  cases d with
  | zero =>
    have hsz' := hsz rfl
    simp only [MTree.hdr, Gen.mapDataSlabPrefixSize] at hsz'
    have e : u32 (MDataSlab.hdr child).size - UInt32.ofNat Gen.mapDataSlabPrefixSize +
        UInt32.ofNat Gen.mapRootDataSlabPrefixSize =
        u32 ((MDataSlab.hdr child).size - Gen.mapDataSlabPrefixSize + Gen.mapRootDataSlabPrefixSize) := by
      simp only [Gen.mapDataSlabPrefixSize, Gen.mapRootDataSlabPrefixSize, u32, UInt32.ofNat_add, UInt32.ofNat_sub hsz']
    simp only [cTree] at hg
    simp only [OrderedMap_promoteChildAsNewRoot, root_cTree, hg, Option.isNone_none, Bool.not_true,
      Bool.false_eq_true, if_false, MapSlab_IsData, MapDataSlab_IsData, if_true, cData, cHdr, e,
      MapSlab_RemoveExtraData, MapMetaDataSlab_RemoveExtraData, MapSlab_SlabID, MapMetaDataSlab_SlabID, cMeta,
      MapSlab_SetSlabID, MapDataSlab_SetSlabID, MapSlab_SetExtraData, MapDataSlab_SetExtraData, hS.storeSlab_data,
      hS.remove_eq, OMap.promoteIfSingleChild, MTree.setRoot, MTree.setId]
  | succ d =>
    simp only [cTree] at hg
    simp only [OrderedMap_promoteChildAsNewRoot, root_cTree, hg, Option.isNone_none, Bool.not_true,
      Bool.false_eq_true, if_false, MapSlab_IsData, MapMetaDataSlab_IsData, cHdr,
      MapSlab_RemoveExtraData, MapMetaDataSlab_RemoveExtraData, MapSlab_SlabID, MapMetaDataSlab_SlabID, cMeta,
      MapSlab_SetSlabID, MapMetaDataSlab_SetSlabID, MapSlab_SetExtraData, MapMetaDataSlab_SetExtraData,
      hS.storeSlab_meta, hS.remove_eq, OMap.promoteIfSingleChild, MTree.setRoot, MTree.setId]

/-- `OrderedMap_promoteChildAsNewRoot_any` read with the storage that only logs: the effects store root id, remove child
    id.  `c'` = the storage state `Retrieve` hands back (`c' = c` for a storage that reads without effect). -/
theorem OrderedMap_promoteChildAsNewRoot_eq_model (hS : EnvS env)
    (d : Nat) (mm : MMetaSlab (MTree r d)) (ty cnt seed : Nat) (x : Option X) (c : Ctx)
    (h : MHdr) (child : MTree r d) (hh : mm.childHdrs = [h]) (hc : mm.children = [child])
    (c' : Ctx) (hret : env.SlabStorage_Retrieve c h.id = (cTree d child, true, none, c'))
    (hsz : d = 0 → Gen.mapDataSlabPrefixSize ≤ (MTree.hdr d child).size) :
    OrderedMap_promoteChildAsNewRoot env (cMap (⟨d + 1, mm, ty, cnt, seed⟩ : OMap r) x c) h.id =
      some (none, cMap (OMap.promoteIfSingleChild (⟨d + 1, mm, ty, cnt, seed⟩ : OMap r) c').1 x
        (OMap.promoteIfSingleChild (⟨d + 1, mm, ty, cnt, seed⟩ : OMap r) c').2) := by
  refine (OrderedMap_promoteChildAsNewRoot_any env hS.ok d mm ty cnt seed x c c' c' h child hh hc hret hsz).trans ?_
  rw [hS.mremoved, hS.mstored]
  obtain ⟨mh, mchs, mchildren, mroot⟩ := mm
  simp only at hh hc
  subst hh hc
  rfl

end root

/-! ## promoteChildAsNewRoot: the child cannot be retrieved (any handle, any environment) -/

section retrieveFails
variable {E V W X S ε : Type} (env : Env E V W X S ε)

/-- `Retrieve` fails: the (wrapped) error, the handle untouched but for the storage state handed back -/
theorem OrderedMap_promoteChildAsNewRoot_retrieve_error (om : OrderedMap E V X S) (id : SlabID)
    (slab : MapSlab E V X) (found : Bool) (e e' : ε) (c' : S)
    (hret : env.SlabStorage_Retrieve om.Storage id = (slab, found, some e, c'))
    (hw : env.wrapErrorfAsExternalErrorIfNeeded (some e) = some e') :
    OrderedMap_promoteChildAsNewRoot env om id = some (some e', { om with Storage := c' }) := by
  simp only [OrderedMap_promoteChildAsNewRoot, getMapSlab, hret, hw, Option.isNone_some, Bool.not_false, if_true]

/-- the slab is not in the storage: `SlabNotFoundError` -/
theorem OrderedMap_promoteChildAsNewRoot_not_found (om : OrderedMap E V X S) (id : SlabID)
    (slab : MapSlab E V X) (e' : ε) (c' : S)
    (hret : env.SlabStorage_Retrieve om.Storage id = (slab, false, none, c'))
    (hnf : env.NewSlabNotFoundErrorf = some e') :
    OrderedMap_promoteChildAsNewRoot env om id = some (some e', { om with Storage := c' }) := by
  simp only [OrderedMap_promoteChildAsNewRoot, getMapSlab, hret, hnf, Option.isNone_some, Option.isNone_none,
    Bool.not_false, Bool.not_true, Bool.false_eq_true, if_true, if_false]

/-- the storage holds something that is not a `MapSlab`: `SlabDataError` -/
theorem OrderedMap_promoteChildAsNewRoot_not_map_slab (om : OrderedMap E V X S) (id : SlabID) (e' : ε) (c' : S)
    (hret : env.SlabStorage_Retrieve om.Storage id = (.nil, true, none, c'))
    (hde : env.NewSlabDataErrorf = some e') :
    OrderedMap_promoteChildAsNewRoot env om id = some (some e', { om with Storage := c' }) := by
  simp only [OrderedMap_promoteChildAsNewRoot, getMapSlab, hret, hde, Option.isNone_some, Option.isNone_none,
    Bool.not_false, Bool.not_true, Bool.false_eq_true, if_true, if_false, MapSlab.isNil]

end retrieveFails

section examples

/-- an environment that satisfies `EnvH (MDataSlab.eops 0) 1024` and `EnvS`; `Retrieve` always finds `ret` -/
private def root_envEx (ret : MapSlab (MElemF (MElems 0)) Unit Unit) : Env (MElemF (MElems 0)) Unit Unit Unit Ctx GE where
  Digester_Levels := 0
  MapSlab_CanLendToLeft := fun _ _ => false
  MapSlab_CanLendToRight := fun _ _ => false
  NewHashLevelErrorf := none
  NewKeyNotFoundError := none
  NewNotApplicableError := some .notApplicable
  NewSlabDataErrorf := none
  NewSlabMergeError := some .slabMerge
  NewSlabNotFoundErrorf := some .slabNotFound
  NewSlabRebalanceError := some .slabRebalance
  NewSlabRebalanceErrorf := some .slabRebalance
  NewSlabSplitErrorf := some .slabSplit
  SlabStorage_GenerateSlabID := fun c a => ((c.alloc a).1, none, (c.alloc a).2)
  SlabStorage_Remove := fun c id => (none, c.emit (.remove id))
  SlabStorage_Retrieve := fun c _ => (ret, true, none, c)
  SlabStorage_Store := fun c id _ => (none, c.emit (.store id))
  Storable_ByteSize := fun _ => 0
  ValueComparator := fun c _ _ => (false, none, c)
  Value_Storable := fun _ c _ _ => (none, none, c)
  element_Size := fun msl_el => u32 (msl_el.size (MDataSlab.eops 0))
  maxInlineMapValueSize := fun x => x
  minThreshold := u32 (minThr 1024)
  newSingleElement := fun c _ _ _ => ({}, none, c)
  wrapErrorfAsExternalErrorIfNeeded := fun e => e

private theorem root_envEx_EnvS (ret) : EnvS (root_envEx ret) := ⟨fun _ _ => rfl, fun _ _ _ => rfl, fun _ _ => rfl, rfl⟩
private theorem root_envEx_EnvH (ret) : EnvH (MDataSlab.eops 0) 1024 (root_envEx ret) :=
  ⟨fun _ => rfl, rfl, rfl, rfl, rfl, rfl, rfl⟩

private def root_exElem (k sz : Nat) : MElemF (MElems 0) :=
  .single { key := ⟨1, k, [k]⟩, val := ⟨1, .val k⟩, size := sz }

/-- a data slab with slab id (1, id), header size `size` and one element of size 12 + 8 per key -/
private def root_exData (id size : Nat) (ks : List Nat) (isRoot : Bool) : MDataSlab 0 :=
  { hdr := ⟨⟨1, id⟩, size, ks.headD 0⟩, next := ⟨0, 0⟩,
    elems := { hkeys := ks, elems := ks.map (root_exElem · 12), size := 8 + 20 * ks.length, level := 0 },
    root := isRoot, inlined := false }

/-- what the examples look at: is it a data slab, slab id, size, first key, the child ids, is there extra data -/
private def root_obs : MapSlab (MElemF (MElems 0)) Unit Unit → Option (Bool × SlabID × Nat × Nat × List SlabID × Bool)
  | .dataSlab s => some (true, s.header.slabID, s.header.size.toNat, s.header.firstKey.toNat, [], s.extraData.isSome)
  | .metaSlab m => some (false, m.header.slabID, m.header.size.toNat, m.header.firstKey.toNat,
      m.childrenHeaders.map (·.slabID), m.extraData.isSome)
  | .nil => none

/-- a root data slab (1, 7) with the keys 5, 9 (size 2 + 8 + 20 + 20) -/
private def root_exMap : OMap 0 := ⟨0, root_exData 7 50 [5, 9] true, 0, 2, 0⟩

/-- the hypotheses of `OrderedMap_splitRoot_eq_model` hold for it, and the model does split it -/
example : root_splitHyp root_exMap := by
  simp only [root_splitHyp, root_exMap]; decide
example : (OMap.splitRoot root_exMap ⟨40, [], []⟩).toOption.map (fun p => (p.1.d, p.1.rootHdr, p.2.ctr, p.2.eff)) =
    some (1, ⟨⟨1, 7⟩, 12 + 18 * 2, 5⟩, 42,
      [.alloc 1 ⟨1, 41⟩, .alloc 1 ⟨1, 42⟩, .store ⟨1, 41⟩, .store ⟨1, 42⟩, .store ⟨1, 7⟩]) := by decide

/-- ... so the generated code, by the theorem: the new root (1, 7) is an index slab of size 48 over (1, 41), (1, 42),
    first key 5, and it has the extra data -/
example : (OrderedMap_splitRoot (root_envEx .nil) (cMap root_exMap (some ()) ⟨40, [], []⟩)).map
    (fun p => (p.1, root_obs p.2.root, p.2.Storage.eff)) =
    some (none, some (false, ⟨1, 7⟩, 48, 5, [⟨1, 41⟩, ⟨1, 42⟩], true),
      [.alloc 1 ⟨1, 41⟩, .alloc 1 ⟨1, 42⟩, .store ⟨1, 41⟩, .store ⟨1, 42⟩, .store ⟨1, 7⟩]) := by
  rw [OrderedMap_splitRoot_eq_model 1024 _ (root_envEx_EnvH _) (root_envEx_EnvS _) _ _ _
    (by simp only [root_splitHyp, root_exMap]; decide)]
  rfl

/-- a root data slab with ONE element cannot be split.  The model returns `SlabSplitError` only; Go returns it too but
    leaves the handle changed: `m.root` is still the data slab, now under the NEW slab id (1, 41) (never stored under
    it; the storage still has the old root under (1, 7)), with the non-root size (30 - 2 + 18) and WITHOUT the extra
    data; the allocation is the only effect.  (generated code evaluated) -/
example : (OrderedMap_splitRoot (root_envEx .nil) (cMap ⟨0, root_exData 7 30 [5] true, 0, 1, 0⟩ (some ()) ⟨40, [], []⟩)).map
    (fun p => (p.1, root_obs p.2.root, p.2.Storage.eff)) =
    some (some .slabSplit, some (true, ⟨1, 41⟩, 46, 5, [], false), [.alloc 1 ⟨1, 41⟩]) := by rfl
example : (OMap.splitRoot (⟨0, root_exData 7 30 [5] true, 0, 1, 0⟩ : OMap 0) ⟨40, [], []⟩).toOption.isNone = true := by
  decide

/-- the same with a header size below the root prefix (size 0, outside every invariant): Go's `0 - 2 + 18` wraps to 16
    in the state it leaves; the model's intermediate value (invisible: it returns the error only) would be 18 -/
example : (OrderedMap_splitRoot (root_envEx .nil) (cMap ⟨0, root_exData 7 0 [5] true, 0, 1, 0⟩ (some ()) ⟨40, [], []⟩)).map
    (fun p => (p.1, root_obs p.2.root)) =
    some (some .slabSplit, some (true, ⟨1, 41⟩, 16, 5, [], false)) := by rfl

/-- a root index slab (1, 7) whose only child is the data slab (1, 9) -/
private def root_exMetaSlab (child : MDataSlab 0) : MMetaSlab (MTree 0 0) :=
  { hdr := ⟨⟨1, 7⟩, 12 + 18, child.hdr.firstKey⟩, childHdrs := [child.hdr], children := [child], root := true }
private def root_exMeta (child : MDataSlab 0) : OMap 0 := ⟨1, root_exMetaSlab child, 0, 2, 0⟩

/-- promoteChildAsNewRoot, by the theorem: the child becomes the root data slab (1, 7) of size 66 - 18 + 2 with the
    extra data; store (1, 7), remove (1, 9) -/
example : (OrderedMap_promoteChildAsNewRoot (root_envEx (cTree 0 (root_exData 9 66 [5, 9] false)))
    (cMap (root_exMeta (root_exData 9 66 [5, 9] false)) (some ()) ⟨40, [], []⟩) ⟨1, 9⟩).map
    (fun p => (p.1, root_obs p.2.root, p.2.Storage.eff)) =
    some (none, some (true, ⟨1, 7⟩, 50, 5, [], true), [.store ⟨1, 7⟩, .remove ⟨1, 9⟩]) := by
  have h := OrderedMap_promoteChildAsNewRoot_eq_model (root_envEx (cTree 0 (root_exData 9 66 [5, 9] false)))
    (root_envEx_EnvS _) 0 (root_exMetaSlab (root_exData 9 66 [5, 9] false)) 0 2 0 (some ()) ⟨40, [], []⟩ (root_exData 9 66 [5, 9] false).hdr
    (root_exData 9 66 [5, 9] false) rfl rfl ⟨40, [], []⟩ rfl (by decide)
  exact (congrArg _ h).trans (by rfl)

/-- DIFFERENCE outside the hypothesis `18 ≤ size` of the data child (size 10, outside every invariant): Go's
    `10 - 18 + 2` wraps around to 2^32 - 6, the model's truncated subtraction gives 2 -/
example : (OrderedMap_promoteChildAsNewRoot (root_envEx (cTree 0 (root_exData 9 10 [5, 9] false)))
      (cMap (root_exMeta (root_exData 9 10 [5, 9] false)) (some ()) ⟨40, [], []⟩) ⟨1, 9⟩).map
        (fun p => root_obs p.2.root) = some (some (true, ⟨1, 7⟩, 2 ^ 32 - 6, 5, [], true)) ∧
    (OMap.promoteIfSingleChild (root_exMeta (root_exData 9 10 [5, 9] false)) ⟨40, [], []⟩).1.rootHdr.size = 2 :=
  ⟨by rfl, by rfl⟩

end examples

end Atree.TransEq

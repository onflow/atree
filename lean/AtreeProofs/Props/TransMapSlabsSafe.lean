import AtreeProofs.Props.TransMapSlabsData
import AtreeProofs.Props.TransMapSlabsMeta
import AtreeProofs.Props.TransSafe
/-
  The range hypotheses of the `*_full_eq_model` theorems of the map slab restructuring code (`TransMapSlabsData.lean`,
  `TransMapSlabsMeta.lean`) follow from the slab invariants (`MDataInv`, `MTreeInv` of `AtreeProofs/MapInv.lean`) and
  `legalThreshold T`.

  A slab that is split / rebalanced is NOT inside the size band (an element / a child was just inserted or removed), so
  the theorems are stated for a WORKING STATE: exact bookkeeping, but the size bound relaxed to twice the maximum
  (`MDataWork`); for index slabs the exact bookkeeping alone (`MMetaWork`) is all the code needs.  Every slab of a valid
  tree is in the working state (`MDataWork.of_inv`, `MMetaWork.of_inv`), and stays in it when it grows by one
  admissible element (`MDataWork.of_inv_grow`).  The theorems here have NO numeric side conditions.
-/
namespace Atree.TransEq
open Atree Atree.Gen.TransMap

/-- The state in which `Split`, `Merge`, `LendToRight`, `BorrowFromRight` see a map data slab of the slab tree: one
    digest per element, the element size exact, hash level representable (it is 0 for tree slabs), but possibly
    outside the size band - by at most one slab's worth. -/
structure MDataWork {r : Nat} (T : Nat) (s : MDataSlab r) : Prop where
  hkeys_len : s.elems.hkeys.length = s.elems.elems.length
  size_eq   : s.elems.size = Gen.hkeyElementsPrefixSize + HkeyElems.elemSizes (MDataSlab.eops r) s.elems.elems
  level_lt  : s.elems.level < 2^64
  size_le   : s.elems.size ≤ 2 * maxThr T

section work
variable {T r : Nat} {D : DigestFn (r + 1)} {top : Bool} {s l rr : MDataSlab r}

/-- the bookkeeping clauses of `ElemsInv` at the first level -/
theorem msafe_elemsInv_top (h : MDataInv T D top s) :
    s.elems.level = 0 ∧ s.elems.hkeys.length = s.elems.elems.length ∧
    s.elems.size = Gen.hkeyElementsPrefixSize + HkeyElems.elemSizes (MDataSlab.eops r) s.elems.elems := by
  have := h.elems_inv
  simp only [ElemsInv] at this
  exact ⟨this.2.1, this.2.2.1, this.2.2.2.2.1⟩

/-- `elemSizes` is the sum the `*_full_eq_model` theorems talk about -/
theorem msafe_elemSizes_eq (s : MDataSlab r) :
    (dg (rawSizes (MDataSlab.eops r) s.elems)).sum = HkeyElems.elemSizes (MDataSlab.eops r) s.elems.elems := by
  rw [← dg_rawSizes]; rfl

/-- every element costs at least its digest: the element count is below the element size -/
theorem msafe_length_le_elemSizes {α : Type} (o : ElemsOps α) (es : List (MElemF α)) :
    es.length ≤ HkeyElems.elemSizes o es := by
  induction es with
  | nil => simp [HkeyElems.elemSizes]
  | cons a t ih =>
    simp only [HkeyElems.elemSizes, List.map_cons, List.sum_cons, List.length_cons, Gen.digestSize] at ih ⊢
    omega

/-- a data slab's prefix is at most 18 bytes, whatever its flags -/
theorem msafe_prefixSize_le (s : MDataSlab r) : s.prefixSize ≤ Gen.mapDataSlabPrefixSize := by
  simp only [MDataSlab.prefixSize, Gen.inlinedMapDataSlabPrefixSize, Gen.mapRootDataSlabPrefixSize,
    Gen.mapDataSlabPrefixSize]
  split
  · omega
  · split <;> omega

/-- every data slab of a valid map (root or not, inlined or not) is in the working state -/
theorem MDataWork.of_inv (_hT : legalThreshold T = true) (h : MDataInv T D top s) : MDataWork T s := by
  obtain ⟨hlv, hlen, hsz⟩ := msafe_elemsInv_top h
  refine ⟨hlen, hsz, by rw [hlv]; decide, ?_⟩
  have h1 := h.le_max
  have h2 := h.size_eq
  omega

/-- the largest admissible first-level element together with its digest is less than a slab's maximum -/
theorem msafe_elem_fits (hT : legalThreshold T = true) : maxInlineMapElem T + Gen.digestSize ≤ maxThr T := by
  have f := thrFacts hT
  have := f.lo; have := f.hi
  rw [f.maxE]
  simp only [maxInlineMapElem, Gen.mapDataSlabPrefixSize, Gen.hkeyElementsPrefixSize, Gen.minElementCountInSlab,
    Gen.digestSize]
  omega

/-- ... and a slab `s'` that has exact bookkeeping and is at most one admissible element (size up to
    `maxInlineMapElem T`, plus its digest) larger than a slab `s` of a valid map is in the working state: the overfull
    slab that `Split` sees after `Set`. -/
theorem MDataWork.of_inv_grow {s' : MDataSlab r} (hT : legalThreshold T = true) (h : MDataInv T D top s)
    (hlen : s'.elems.hkeys.length = s'.elems.elems.length)
    (hsz : s'.elems.size = Gen.hkeyElementsPrefixSize + HkeyElems.elemSizes (MDataSlab.eops r) s'.elems.elems)
    (hlv : s'.elems.level = s.elems.level)
    (hgrow : s'.elems.size ≤ s.elems.size + maxInlineMapElem T + Gen.digestSize) : MDataWork T s' := by
  refine ⟨hlen, hsz, by rw [hlv, (msafe_elemsInv_top h).1]; decide, ?_⟩
  have h1 := h.le_max
  have h2 := h.size_eq
  have := msafe_elem_fits hT
  omega

/-- the working state after one element `e` (with digest `hk`) was inserted at position `i` of a slab of a valid map -/
theorem MDataWork.insert (hT : legalThreshold T = true) (h : MDataInv T D top s) (i hk : Nat)
    (e : MElemF (MElems r)) (hi : i ≤ s.elems.elems.length)
    (he : MElemF.size (MElems.ops r) e ≤ maxInlineMapElem T) :
    MDataWork T { s with elems := { s.elems with hkeys := s.elems.hkeys.insertIdx i hk,
                                                 elems := s.elems.elems.insertIdx i e,
                                                 size := s.elems.size + (MElemF.size (MElems.ops r) e + Gen.digestSize) } } := by
  obtain ⟨_, hlen, hsz⟩ := msafe_elemsInv_top h
  refine MDataWork.of_inv_grow hT h ?_ ?_ rfl ?_
  · simp [List.length_insertIdx, hi, hlen]
  · show s.elems.size + (MElemF.size (MElems.ops r) e + Gen.digestSize) =
      Gen.hkeyElementsPrefixSize + HkeyElems.elemSizes (MDataSlab.eops r) (s.elems.elems.insertIdx i e)
    have hperm : (s.elems.elems.insertIdx i e).Perm (e :: s.elems.elems) := List.perm_insertIdx e s.elems.elems hi
    have hsum : HkeyElems.elemSizes (MDataSlab.eops r) (s.elems.elems.insertIdx i e) =
        (MElemF.size (MElems.ops r) e + Gen.digestSize) + HkeyElems.elemSizes (MDataSlab.eops r) s.elems.elems := by
      simp only [HkeyElems.elemSizes]
      rw [(hperm.map _).sum_nat, List.map_cons, List.sum_cons]; rfl
    rw [hsum, hsz]; omega
  · show s.elems.size + (MElemF.size (MElems.ops r) e + Gen.digestSize) ≤ _
    omega

/-- the numeric content of the working state, as the `*_full_eq_model` theorems want it -/
theorem msafe_work_fits (hT : legalThreshold T = true) (h : MDataWork T s) :
    s.elems.size ≤ 98304 ∧ Gen.hkeyElementsPrefixSize ≤ s.elems.size ∧ s.elems.elems.length ≤ s.elems.size ∧
    Gen.hkeyElementsPrefixSize + (dg (rawSizes (MDataSlab.eops r) s.elems)).sum ≤ s.elems.size := by
  have := thresholds_fit hT
  have h1 := h.size_le
  have h2 := h.size_eq
  have h3 := msafe_length_le_elemSizes (MDataSlab.eops r) s.elems.elems
  have h4 := msafe_elemSizes_eq s
  omega

variable {V W X : Type} {env : Env (MElemF (MElems r)) V W X Ctx GE}

/-- `MapDataSlab.Split` IN FULL on every slab it can be called on -/
theorem safe_MapDataSlab_Split_full (hT : legalThreshold T = true) (hE : EnvH (MDataSlab.eops r) T env) (hS : EnvS env)
    (hw : MDataWork T s) (x : Option X) (c : Ctx) :
    MapDataSlab_Split env (cData s x) c =
      match MDataSlab.split s c with
      | .error _ => some (.nil, .nil, some .slabSplit, cData s x, c)
      | .ok (l, rr, c') => some (.dataSlab (cData l x), .dataSlab (cData rr none), none, cData l x, c') := by
  have hf := msafe_work_fits hT hw
  have hl := hw.hkeys_len
  exact MapDataSlab_Split_full_eq_model T env hE hS s x c (by omega)
    (by simp only [Gen.mapDataSlabPrefixSize]; omega) hf.2.2.2 (by omega)

/-- `MapDataSlab.Merge` IN FULL on every pair of siblings it can be called on -/
theorem safe_MapDataSlab_Merge_full (hT : legalThreshold T = true) (hl : MDataWork T l) (hr : MDataWork T rr)
    (x y : Option X) :
    MapDataSlab_Merge env (cData l x) (.dataSlab (cData rr y)) = some (none, cData (MDataSlab.merge l rr) x) := by
  have h1 := msafe_work_fits hT hl
  have h2 := msafe_work_fits hT hr
  exact MapDataSlab_Merge_full_eq_model env l rr x y h2.2.1 (by omega)

/-- `MapDataSlab.LendToRight` IN FULL on every pair of siblings it can be called on -/
theorem safe_MapDataSlab_LendToRight_full (hT : legalThreshold T = true) (hE : EnvH (MDataSlab.eops r) T env)
    (hl : MDataWork T l) (hr : MDataWork T rr) (x y : Option X) :
    MapDataSlab_LendToRight env (cData l x) (.dataSlab (cData rr y)) =
      match MDataSlab.lendToRight T l rr with
      | .error _ => some (some .slabRebalance, cData l x, .dataSlab (cData rr y))
      | .ok (l', r') => some (none, cData l' x, .dataSlab (cData r' y)) := by
  have ht := thresholds_fit hT
  have h1 := msafe_work_fits hT hl
  have h2 := msafe_work_fits hT hr
  exact MapDataSlab_LendToRight_full_eq_model T env hE l rr x y ht.2.1 ht.2.2.2.2.2.1 hl.level_lt hr.level_lt
    (by omega) h2.2.1 h1.2.2.2 hl.hkeys_len

/-- `MapDataSlab.BorrowFromRight` IN FULL on every pair of siblings it can be called on -/
theorem safe_MapDataSlab_BorrowFromRight_full (hT : legalThreshold T = true) (hE : EnvH (MDataSlab.eops r) T env)
    (hl : MDataWork T l) (hr : MDataWork T rr) (x y : Option X) :
    MapDataSlab_BorrowFromRight env (cData l x) (.dataSlab (cData rr y)) =
      match MDataSlab.borrowFromRight T l rr with
      | .error _ => some (some .slabRebalance, cData l x, .dataSlab (cData rr y))
      | .ok (l', r') => some (none, cData l' x, .dataSlab (cData r' y)) := by
  have ht := thresholds_fit hT
  have h1 := msafe_work_fits hT hl
  have h2 := msafe_work_fits hT hr
  have hlen := hr.hkeys_len
  exact MapDataSlab_BorrowFromRight_full_eq_model T env hE l rr x y ht.2.1 ht.2.2.2.2.2.1 hl.level_lt hr.level_lt
    (by omega) h1.2.1 h2.2.2.2 (by omega)

end work

section metaSlab
variable {E V W X α : Type}

/-- The state in which `Split` / `Merge` see a map index slab: the header size is exact (`12 + 18 · children`).  No
    size bound: a slab that is split is one child over the band, and the code needs none (`UInt32.ofNat` is a ring
    homomorphism; only the two subtractions can go wrong, and exact bookkeeping excludes that). -/
def MMetaWork (m : MMetaSlab α) : Prop :=
  m.hdr.size = Gen.mapMetaDataSlabPrefixSize + Gen.mapSlabHeaderSize * m.childHdrs.length

theorem msafe_metaWork_iff (m : MMetaSlab α) : MMetaWork m ↔ m.hdr.size = 12 + 18 * m.childHdrs.length := Iff.rfl

/-- every index slab of a valid map is in that state -/
theorem MMetaWork.of_inv {T r d : Nat} {D : DigestFn (r + 1)} {top : Bool} {m : MMetaSlab (MTree r d)}
    (h : MTreeInv T D (d + 1) top m) : MMetaWork m := by
  have h' : m.childHdrs = m.children.map (MTree.hdr d) ∧
      m.hdr.size = Gen.mapMetaDataSlabPrefixSize + Gen.mapSlabHeaderSize * m.children.length := ⟨h.2.1, h.2.2.1⟩
  show m.hdr.size = _
  rw [h'.2, h'.1, List.length_map]

/-- ... and stays in it when a child header is inserted and the size grows by one header (the overfull slab that
    `Split` sees after `splitChildSlab`) -/
theorem MMetaWork.insert {m : MMetaSlab α} (h : MMetaWork m) (i : Nat) (hd : MHdr) (cs : List α)
    (hi : i ≤ m.childHdrs.length) :
    MMetaWork { m with childHdrs := m.childHdrs.insertIdx i hd, children := cs,
                       hdr := { m.hdr with size := m.hdr.size + Gen.mapSlabHeaderSize } } := by
  show m.hdr.size + Gen.mapSlabHeaderSize = _ + _ * (m.childHdrs.insertIdx i hd).length
  rw [List.length_insertIdx_of_le_length hi, h]
  simp only [Gen.mapMetaDataSlabPrefixSize, Gen.mapSlabHeaderSize]
  omega

/-- `hcov` of `MapMetaDataSlab_Split_full_eq_model` -/
theorem msafe_meta_hcov {m : MMetaSlab α} (h : MMetaWork m) :
    2 ≤ m.childHdrs.length → (m.childHdrs.length + 1) / 2 * Gen.mapSlabHeaderSize ≤ m.hdr.size := by
  intro h2
  rw [h]
  simp only [Gen.mapMetaDataSlabPrefixSize, Gen.mapSlabHeaderSize]
  omega

/-- `hpre` of `MapMetaDataSlab_Merge_full_eq_model` -/
theorem msafe_meta_hpre {m : MMetaSlab α} (h : MMetaWork m) : Gen.mapMetaDataSlabPrefixSize ≤ m.hdr.size := by
  rw [h]; omega

/-- `MapMetaDataSlab.Split` IN FULL on every index slab with exact bookkeeping -/
theorem safe_MapMetaDataSlab_Split_full (env : Env E V W X Ctx GE) (hS : EnvS env)
    (hsplit : env.NewSlabSplitErrorf = some .slabSplit) {m : MMetaSlab α} (hw : MMetaWork m) (x : Option X) (c : Ctx) :
    MapMetaDataSlab_Split env (cMeta m x) c =
      match m.split c with
      | .error e => some (.nil, .nil, some e, cMeta m x, c)
      | .ok (l, r, c') => some (.metaSlab (cMeta l x), .metaSlab (cMeta r none), none, cMeta l x, c') :=
  MapMetaDataSlab_Split_full_eq_model env hS hsplit m x c (msafe_meta_hcov hw)

/-- `MapMetaDataSlab.Merge` IN FULL whenever the right slab has exact bookkeeping -/
theorem safe_MapMetaDataSlab_Merge_full {S ε : Type} (env : Env E V W X S ε) (l : MMetaSlab α) {r : MMetaSlab α}
    (hr : MMetaWork r) (x y : Option X) :
    MapMetaDataSlab_Merge env (cMeta l x) (.metaSlab (cMeta r y)) = some (none, cMeta (MMetaSlab.merge l r) x) :=
  MapMetaDataSlab_Merge_full_eq_model env l r x y (msafe_meta_hpre hr)

/-- the same for the index slabs of a valid map, from the tree invariant -/
theorem safe_MapMetaDataSlab_Split_full_of_inv {T r d : Nat} {D : DigestFn (r + 1)} {top : Bool}
    (env : Env E V W X Ctx GE) (hS : EnvS env) (hsplit : env.NewSlabSplitErrorf = some .slabSplit)
    {m : MMetaSlab (MTree r d)} (h : MTreeInv T D (d + 1) top m) (x : Option X) (c : Ctx) :
    MapMetaDataSlab_Split env (cMeta m x) c =
      match m.split c with
      | .error e => some (.nil, .nil, some e, cMeta m x, c)
      | .ok (l, r, c') => some (.metaSlab (cMeta l x), .metaSlab (cMeta r none), none, cMeta l x, c') := by
  rw [safe_MapMetaDataSlab_Split_full env hS hsplit (MMetaWork.of_inv h) x c]
  rcases m.split c with e | ⟨l, rs, c'⟩ <;> rfl

theorem safe_MapMetaDataSlab_Merge_full_of_inv {S ε : Type} {T r d : Nat} {D : DigestFn (r + 1)} {top : Bool}
    (env : Env E V W X S ε) (l : MMetaSlab (MTree r d)) {rs : MMetaSlab (MTree r d)}
    (h : MTreeInv T D (d + 1) top rs) (x y : Option X) :
    MapMetaDataSlab_Merge env (cMeta l x) (.metaSlab (cMeta rs y)) = some (none, cMeta (MMetaSlab.merge l rs) x) :=
  safe_MapMetaDataSlab_Merge_full env l (MMetaWork.of_inv h) x y

end metaSlab

section examples

private def msafe_exElem (k sz : Nat) : MElemF (MElems 0) :=
  .single { key := ⟨1, k, [k]⟩, val := ⟨1, .val k⟩, size := sz }

/-- a data slab with the digests `ks`, every element `sz` bytes (+ 8 for the digest) -/
private def msafe_exSlab (id : Nat) (ks : List Nat) (sz : Nat) : MDataSlab 0 :=
  { hdr := ⟨⟨1, id⟩, 18 + 8 + (sz + 8) * ks.length, ks.headD 0⟩, next := ⟨0, 0⟩,
    elems := { hkeys := ks, elems := ks.map (fun k => msafe_exElem k sz), size := 8 + (sz + 8) * ks.length, level := 0 },
    root := false, inlined := false }

/-- inside the band of T = 256 (128 .. 384): 18 + 8 + 4 · 50 = 226 bytes -/
example : MDataWork 256 (msafe_exSlab 1 [5, 9, 11, 15] 42) := ⟨by decide, by decide, by decide, by decide⟩

/-- OUTSIDE the band (18 + 8 + 8 · 50 = 426 > 384 = maxThr 256), as `Split` sees it - still in the working state -/
example : MDataWork 256 (msafe_exSlab 1 [5, 9, 11, 15, 17, 19, 23, 29] 42) ∧
    ¬ (msafe_exSlab 1 [5, 9, 11, 15, 17, 19, 23, 29] 42).hdr.size ≤ maxThr 256 :=
  ⟨⟨by decide, by decide, by decide, by decide⟩, by decide⟩

/-- the theorems instantiated on the environment of `TransMapSlabs.lean`; the model does split the overfull slab, 4 + 4 -/
example (c : Ctx) :
    MapDataSlab_Split (envMap (MDataSlab.eops 0) 256 1) (cData (msafe_exSlab 1 [5, 9, 11, 15, 17, 19, 23, 29] 42) none) c =
      match MDataSlab.split (msafe_exSlab 1 [5, 9, 11, 15, 17, 19, 23, 29] 42) c with
      | .error _ => some (.nil, .nil, some .slabSplit, cData (msafe_exSlab 1 [5, 9, 11, 15, 17, 19, 23, 29] 42) none, c)
      | .ok (l, rr, c') => some (.dataSlab (cData l none), .dataSlab (cData rr none), none, cData l none, c') :=
  safe_MapDataSlab_Split_full (by decide) (envMap_EnvH _ _ _) (envMap_EnvS _ _ _)
    ⟨by decide, by decide, by decide, by decide⟩ none c

example : (MDataSlab.split (msafe_exSlab 1 [5, 9, 11, 15, 17, 19, 23, 29] 42) ⟨0, [], []⟩).toOption.map
    (fun p => (p.1.elems.hkeys, p.1.hdr.size, p.2.1.elems.hkeys, p.2.1.hdr.size)) =
      some ([5, 9, 11, 15], 226, [17, 19, 23, 29], 226) := by decide

example : MapDataSlab_Merge (V := Unit) (envMap (MDataSlab.eops 0) 256 1) (cData (msafe_exSlab 1 [5, 9] 42) none)
      (.dataSlab (cData (msafe_exSlab 2 [11, 15] 42) none)) =
    some (none, cData (MDataSlab.merge (msafe_exSlab 1 [5, 9] 42) (msafe_exSlab 2 [11, 15] 42)) none) :=
  safe_MapDataSlab_Merge_full (T := 256) (by decide) ⟨by decide, by decide, by decide, by decide⟩
    ⟨by decide, by decide, by decide, by decide⟩ none none

/-- an index slab with exact bookkeeping -/
private def msafe_exMeta : MMetaSlab Unit :=
  { hdr := ⟨⟨1, 7⟩, 12 + 18 * 3, 10⟩,
    childHdrs := [⟨⟨1, 1⟩, 200, 10⟩, ⟨⟨1, 2⟩, 200, 20⟩, ⟨⟨1, 3⟩, 200, 30⟩],
    children := [(), (), ()], root := false }

example : MMetaWork msafe_exMeta := (msafe_metaWork_iff _).2 (by decide)

end examples

end Atree.TransEq

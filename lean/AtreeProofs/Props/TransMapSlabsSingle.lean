import AtreeProofs.Trans.MapSlabs
import AtreeProofs.Trans.MapCarriers
import AtreeProofs.Map.Basics
/-
  `singleElements` (map_elements_nokey.go: the insertion-ordered key/value list used when the digest levels are
  exhausted): the GENERATED translation of `get` / `Get` / `Set` / `Remove` (`AtreeModel/Gen/TransMapSlabs.lean`)
  equals the hand-written model `SingleElems.get / set / remove` (`AtreeModel/Map/Elems.lean`).
  What is assumed of the parameters of the generated code is `EnvSingle`; range hypotheses are explicit.
-/
namespace Atree.TransEq
open Atree Atree.Gen.TransMap

/-- `singleElement` of the model as the generated record -/
def cE (x : SElem) : singleElement SV :=
  { key := some (.key x.key), value := some (.val x.val), size := u32 x.size }

/-- `singleElements` of the model as the generated record -/
def cS (e : SingleElems) : singleElements SV :=
  { elems := e.elems.map cE, size := u32 e.size, level := u64 e.level }

/-- what the theorems assume of the parameters of the generated code (storage state = the model's `Ctx`) -/
structure EnvSingle {E X : Type} (cfg : MCfg) (env : Env E SV SW X Ctx GE) : Prop where
  /-- `digester.Levels()` -/
  levels : env.Digester_Levels = u64 cfg.L
  /-- the caller's comparator on (key argument, stored key): the model's `MKey.same`, no error, storage unchanged -/
  cmp : ∀ c k k', env.ValueComparator c (.key k) (some (.key k')) = (k'.same k, none, c)
  keySize : ∀ k, env.Storable_ByteSize (.key k) = u32 k.size
  valSize : ∀ v, env.Storable_ByteSize (.val v) = u32 v.size
  /-- `maxInlineMapValueSize` on key sizes that are `uint32` values (stated for `n < 2^32` only: for all `n` it would be
      unsatisfiable, `u32` is not injective) -/
  maxInline : ∀ n, n < 2^32 → env.maxInlineMapValueSize (u32 n) = u32 (maxInlineMapValue cfg.T n)
  /-- `value.Storable(storage, address, limit)` at the owner address -/
  storable : ∀ v c lim, env.Value_Storable (.val v) c cfg.addr lim =
    (some (.val (toStorableLim lim.toNat cfg.addr v c).1), none, (toStorableLim lim.toNat cfg.addr v c).2)
  /-- `newSingleElement(storage, address, key, value)` at the owner address -/
  newElem : ∀ c k v, env.newSingleElement c cfg.addr (.key k) (.val v) =
    (cE (newSingleElement cfg.T cfg.addr k v c).1, none, (newSingleElement cfg.T cfg.addr k v c).2)
  eHashLevel : env.NewHashLevelErrorf = some .hashLevel
  eKeyNotFound : env.NewKeyNotFoundError = some .keyNotFound
  wrapNone : env.wrapErrorfAsExternalErrorIfNeeded none = none

/-- result of `singleElements.Get` -/
def msl_rGet (c : Ctx) : Except MErr (MKey × Elem) → Option SV × Option SV × Option GE × Ctx
  | .ok (k, v) => (some (.key k), some (.val v), none, c)
  | .error err => (none, none, some err, c)

/-- result of `singleElements.Remove` on `e` in state `c` (the model's `.goPanic` = a run-time panic = `none`) -/
def msl_rRemove (e : SingleElems) (c : Ctx) :
    Except MErr (MKey × Elem × SingleElems × Ctx) → Option (Option SV × Option SV × Option GE × singleElements SV × Ctx)
  | .ok (rk, rv, e', c') => some (some (.key rk), some (.val rv), none, cS e', c')
  | .error .goPanic => none
  | .error err => some (none, none, some err, cS e, c)

/-- result of `singleElements.Set` on `e` in state `c` -/
def msl_rSet (e : SingleElems) (c : Ctx) :
    Except MErr (MKey × Option Elem × SingleElems × Ctx) → Option (Option SV × Option SV × Option GE × singleElements SV × Ctx)
  | .ok (ks, old, e', c') => some (some (.key ks), old.map .val, none, cS e', c')
  | .error .goPanic => none
  | .error err => some (none, none, some err, cS e, c)

theorem msl_u64_inj {a b : Nat} (ha : a < 2^64) (hb : b < 2^64) : (u64 a = u64 b) = (a = b) := u64_inj ha hb

theorem msl_u32_add' (a b : Nat) : u32 a + u32 b = u32 (a + b) := u32_add_eq a b

theorem msl_u32_sub' {a b : Nat} (h : b ≤ a) : u32 a - u32 b = u32 (a - b) := u32_sub_eq h

theorem msl_maxInlineMapValue_le (T n : Nat) : maxInlineMapValue T n ≤ T := by
  unfold maxInlineMapValue maxInlineMapElem
  have := Nat.div_le_self (T - Gen.mapDataSlabPrefixSize - Gen.hkeyElementsPrefixSize) Gen.minElementCountInSlab
  omega

theorem msl_map_cE_eraseIdx (l : List SElem) (i : Nat) : (l.map cE).eraseIdx i = (l.eraseIdx i).map cE := by
  induction l generalizing i with
  | nil => rfl
  | cons x t ih => cases i with
    | zero => rfl
    | succ i => simp only [List.map_cons, List.eraseIdx_cons_succ, ih]

theorem msl_int_succ (n : Nat) : Int.ofNat n + 1 = Int.ofNat (n + 1) := int_succ n
theorem msl_int_toNat (n : Nat) : (Int.ofNat n).toNat = n := int_toNat n

section single
variable {E X : Type} (cfg : MCfg) (env : Env E SV SW X Ctx GE)

theorem singleElements_get_loop (hE : EnvSingle cfg env) (k : MKey) (l : List SElem) (n : Nat) (c : Ctx) :
    singleElements_get.loop1 env (.key k) (l.map cE) (Int.ofNat n) c =
      match l.find? (fun x => x.key.same k) with
      | some x => .ret (some (.key x.key), some (.val x.val),
          Int.ofNat (n + l.findIdx (fun x => x.key.same k)), none, c)
      | none => .done c := by
  induction l generalizing n with
  | nil => rfl
  | cons x t ih =>
    simp only [List.map_cons, singleElements_get.loop1, cE, hE.cmp, Option.isNone_none, Bool.not_true,
      Bool.false_eq_true, if_false, List.find?_cons, List.findIdx_cons]
    by_cases h : x.key.same k = true
    · simp only [h, if_true, cond_true, Nat.add_zero]
    · simp only [Bool.not_eq_true] at h
      simp only [h, Bool.false_eq_true, if_false, cond_false, int_succ]
      rw [ih (n + 1)]
      have : n + 1 + List.findIdx (fun x => x.key.same k) t = n + (List.findIdx (fun x => x.key.same k) t + 1) := by
        omega
      rw [this]

/-- result of the unexported `singleElements.get` (it also returns the index of the element) -/
def msl_rGetIdx (e : SingleElems) (k : MKey) (c : Ctx) :
    Except MErr (MKey × Elem) → Option SV × Option SV × Int × Option GE × Ctx
  | .ok (k', v) => (some (.key k'), some (.val v), Int.ofNat (e.elems.findIdx (fun x => x.key.same k)), none, c)
  | .error err => (none, none, 0, some err, c)

/-- `singleElements.get` (with the index of the found element) = `SingleElems.get` -/
theorem singleElements_get_eq_model (hE : EnvSingle cfg env) (e : SingleElems) (level : Nat) (hkey : UInt64)
    (k : MKey) (c : Ctx) (hl : level < 2^64) (hL : cfg.L < 2^64) :
    singleElements_get env (cS e) c (u64 level) hkey (.key k) = msl_rGetIdx e k c (SingleElems.get cfg e level k) := by
  have h0 := singleElements_get_loop cfg env hE k e.elems 0 c
  simp only [singleElements_get, SingleElems.get, hE.levels, hE.eHashLevel, hE.eKeyNotFound, ne_eq, u64_inj hl hL,
    decide_not, cS]
  by_cases h : level = cfg.L
  · simp only [h, decide_true, Bool.not_true, Bool.false_eq_true, if_false, not_true_eq_false]
    have z : (0 : Int) = Int.ofNat 0 := rfl
    rw [z, h0]
    cases List.find? (fun x => x.key.same k) e.elems with
    | none => rfl
    | some x => simp only [msl_rGetIdx, Nat.zero_add]
  · simp only [h, decide_false, Bool.not_false, if_true, not_false_eq_true, msl_rGetIdx]

/-- `singleElements.Get` = `SingleElems.get`: the stored key and value of the first element whose key the comparator
    accepts; `HashLevelError` at a wrong level, `KeyNotFoundError` if there is none; the storage is unchanged. -/
theorem singleElements_Get_eq_model (hE : EnvSingle cfg env) (e : SingleElems) (level : Nat) (hkey : UInt64)
    (k : MKey) (c : Ctx) (hl : level < 2^64) (hL : cfg.L < 2^64) :
    singleElements_Get env (cS e) c (u64 level) hkey (.key k) = msl_rGet c (SingleElems.get cfg e level k) := by
  simp only [singleElements_Get, singleElements_get_eq_model cfg env hE e level hkey k c hl hL]
  cases SingleElems.get cfg e level k with
  | error err => rfl
  | ok r => rfl

theorem singleElements_Remove_loop (hE : EnvSingle cfg env) (k : MKey) (rest : List SElem) (n : Nat)
    (G : singleElements SV) (c : Ctx) (hlen : n + rest.length ≤ G.elems.length) :
    singleElements_Remove.loop1 env (.key k) (rest.map cE) (Int.ofNat n) G c =
      match rest.findIdx? (fun x => x.key.same k) with
      | none => .done (G, c)
      | some j =>
        match rest[j]? with
        | none => .ret none
        | some x => .ret (some (some (.key x.key), some (.val x.val), none,
            { G with elems := G.elems.eraseIdx (n + j), size := G.size - u32 x.size }, c)) := by
  induction rest generalizing n with
  | nil => rfl
  | cons x t ih =>
    simp only [List.map_cons, singleElements_Remove.loop1, cE, hE.cmp, Option.isNone_none, Bool.not_true,
      Bool.false_eq_true, if_false, List.findIdx?_cons, singleElement_Size]
    by_cases h : x.key.same k = true
    · simp only [h, if_true, List.getElem?_cons_zero, Nat.add_zero, int_succ, goSlicesDelete]
      simp only [List.length_cons] at hlen
      have hc : (0 : Int) ≤ Int.ofNat n ∧ Int.ofNat n ≤ Int.ofNat (n + 1) ∧
          Int.ofNat (n + 1) ≤ Int.ofNat G.elems.length := by
        simp only [Int.ofNat_eq_natCast]; omega
      rw [if_pos hc]
      simp only [int_toNat, ← List.eraseIdx_eq_take_drop_succ]
    · simp only [Bool.not_eq_true] at h
      simp only [h, Bool.false_eq_true, if_false, int_succ]
      simp only [List.length_cons] at hlen
      rw [ih (n + 1) (by omega)]
      cases List.findIdx? (fun x => x.key.same k) t with
      | none => rfl
      | some j =>
        simp only [Option.map_some, List.getElem?_cons_succ]
        have : n + 1 + j = n + (j + 1) := by omega
        rw [this]

/-- the index found by `findIdx?` is in range: the model's `.goPanic` branch of `remove` / `set` is dead -/
theorem msl_findIdx?_getElem? {α : Type} (p : α → Bool) (l : List α) (j : Nat) (h : l.findIdx? p = some j) :
    ∃ x, l[j]? = some x ∧ p x = true := by
  rw [List.findIdx?_eq_some_iff_getElem] at h
  obtain ⟨hj, hp, _⟩ := h
  exact ⟨l[j], List.getElem?_eq_getElem hj, hp⟩

/-- `singleElements.Remove` = `SingleElems.remove`: the first element whose key the comparator accepts is deleted,
    the group size decremented by its size, its key and value returned; errors leave the group unchanged.
    `hsz`: an element is not larger than the size field that includes it (otherwise `e.size -= elem.Size()` wraps
    around in Go and is truncated at 0 in the model). -/
theorem singleElements_Remove_eq_model (hE : EnvSingle cfg env) (e : SingleElems) (level : Nat) (hkey : UInt64)
    (k : MKey) (c : Ctx) (hl : level < 2^64) (hL : cfg.L < 2^64)
    (hsz : ∀ x ∈ e.elems, x.key.same k = true → x.size ≤ e.size) :
    singleElements_Remove env (cS e) c (u64 level) hkey (.key k) = msl_rRemove e c (SingleElems.remove cfg e level k c) := by
  have h0 := singleElements_Remove_loop cfg env hE k e.elems 0 (cS e) c (by simp [cS])
  simp only [singleElements_Remove, SingleElems.remove, hE.levels, hE.eHashLevel, hE.eKeyNotFound, ne_eq,
    u64_inj hl hL, decide_not]
  by_cases h : level = cfg.L
  · simp only [h, decide_true, Bool.not_true, Bool.false_eq_true, if_false, not_true_eq_false]
    have z : (0 : Int) = Int.ofNat 0 := rfl
    have hcs : (cS e).elems = e.elems.map cE := rfl
    rw [hcs, z, h0]
    cases hf : List.findIdx? (fun x => x.key.same k) e.elems with
    | none => rfl
    | some j =>
      obtain ⟨x, hx, hp⟩ := msl_findIdx?_getElem? _ _ _ hf
      have hle := hsz x (List.mem_of_getElem? hx) hp
      simp only [hx, msl_rRemove, cS, Nat.zero_add, msl_map_cE_eraseIdx, u32_sub_eq hle]
  · simp only [h, decide_false, Bool.not_false, if_true, not_false_eq_true, msl_rRemove]

/-- `singleElements.Remove` never panics (`slices.Delete(e.elems, i, i+1)` is in range) -/
theorem singleElements_Remove_no_panic (hE : EnvSingle cfg env) (e : SingleElems) (level : Nat) (hkey : UInt64)
    (k : MKey) (c : Ctx) (hl : level < 2^64) (hL : cfg.L < 2^64)
    (hsz : ∀ x ∈ e.elems, x.key.same k = true → x.size ≤ e.size) :
    (singleElements_Remove env (cS e) c (u64 level) hkey (.key k)).isSome = true := by
  rw [singleElements_Remove_eq_model cfg env hE e level hkey k c hl hL hsz]
  simp only [SingleElems.remove]
  by_cases h : level = cfg.L
  · simp only [h, ne_eq, not_true_eq_false, if_false]
    cases hf : List.findIdx? (fun x => x.key.same k) e.elems with
    | none => rfl
    | some j =>
      obtain ⟨x, hx, _⟩ := msl_findIdx?_getElem? _ _ _ hf
      simp only [hx, msl_rRemove, Option.isSome_some]
  · simp only [ne_eq, h, not_false_eq_true, if_true, msl_rRemove, Option.isSome_some]

theorem singleElements_Set_loop2 (l : List (singleElement SV)) (i : Int) (s : UInt32) :
    singleElements_Set.loop2 env l i s = .done (l.foldl (fun a x => a + x.size) s) := by
  induction l generalizing i s with
  | nil => rfl
  | cons x t ih =>
    simp only [singleElements_Set.loop2, singleElement_Size, List.foldl_cons]
    exact ih _ _

theorem msl_foldl_sizes (l : List SElem) (a : Nat) :
    (l.map cE).foldl (fun a x => a + x.size) (u32 a) = u32 (a + (l.map (·.size)).sum) := by
  induction l generalizing a with
  | nil => rfl
  | cons x t ih =>
    simp only [List.map_cons, List.foldl_cons, List.sum_cons]
    have : (cE x).size = u32 x.size := rfl
    rw [this, u32_add_eq, ih, Nat.add_assoc]

/-- the model's replacement of the value of element `x` (at index `i` of `e`) by `v` -/
def msl_setAt (cfg : MCfg) (e : SingleElems) (i : Nat) (x : SElem) (v : Elem) (c : Ctx) : SingleElems × Ctx :=
  let r := toStorableLim (maxInlineMapValue cfg.T x.key.size) cfg.addr v c
  let x' : SElem := { x with val := r.1, size := Gen.singleElementPrefixSize + x.key.size + r.1.size }
  let elems := e.elems.set i x'
  ({ e with elems := elems, size := Gen.singleElementsPrefixSize + (elems.map (·.size)).sum }, r.2)

theorem singleElements_Set_loop (hE : EnvSingle cfg env) (hT : cfg.T < 2^32) (k : MKey) (v : Elem) (e : SingleElems)
    (hk : k.size < 2^32) (rest : List SElem) (n : Nat) (c : Ctx) (hd : e.elems.drop n = rest) :
    singleElements_Set.loop1 env cfg.addr (.key k) (.val v) (rest.map cE) (Int.ofNat n) (cS e) c =
      match rest.findIdx? (fun x => x.key.same k) with
      | none => .done (cS e, c)
      | some j =>
        match rest[j]? with
        | none => .ret none
        | some x => .ret (some (some (.key x.key), some (.val x.val), none,
            cS (msl_setAt cfg e (n + j) x v c).1, (msl_setAt cfg e (n + j) x v c).2)) := by
  induction rest generalizing n with
  | nil => rfl
  | cons x t ih =>
    have hn : e.elems[n]? = some x := by
      have := List.getElem?_drop (xs := e.elems) (i := n) (j := 0)
      rw [hd] at this
      simpa using this.symm
    have hd' : e.elems.drop (n + 1) = t := by
      have : e.elems.drop (n + 1) = (e.elems.drop n).drop 1 := by rw [List.drop_drop]
      rw [this, hd]; rfl
    have hg : goIdx (cS e).elems (Int.ofNat n) = some (cE x) := by
      have : ¬ (Int.ofNat n < 0) := by simp
      simp only [goIdx, if_neg this, int_toNat, cS, List.getElem?_map, hn, Option.map_some]
    simp only [List.map_cons, singleElements_Set.loop1, hg, List.findIdx?_cons]
    have hkey : (cE x).key = some (.key x.key) := rfl
    simp only [hkey, hE.cmp, Option.isNone_none, Bool.not_true, Bool.false_eq_true, if_false]
    by_cases h : x.key.same k = true
    · have hks : x.key.size < 2^32 := by rw [MKey.same_size h]; exact hk
      have hlim : (u32 (maxInlineMapValue cfg.T x.key.size)).toNat = maxInlineMapValue cfg.T x.key.size :=
        u32_toNat (Nat.lt_of_le_of_lt (msl_maxInlineMapValue_le _ _) hT)
      simp only [h, if_true, List.getElem?_cons_zero, Nat.add_zero, hE.keySize, hE.maxInline _ hks, hE.storable, hlim,
        Option.isNone_none, Bool.not_true, Bool.false_eq_true, if_false, hE.valSize, int_toNat, List.set_set,
        singleElements_Set_loop2]
      simp only [msl_setAt, cS]
      have e1 : UInt32.ofNat Gen.singleElementPrefixSize = u32 Gen.singleElementPrefixSize := rfl
      have e2 : UInt32.ofNat Gen.singleElementsPrefixSize = u32 Gen.singleElementsPrefixSize := rfl
      rw [e1, e2, u32_add_eq, u32_add_eq]
      have hx' : ∀ (vs : Elem) (sz : Nat),
          ({ key := some (SV.key x.key), value := some (SV.val vs), size := u32 sz } : singleElement SV) =
            cE { key := x.key, val := vs, size := sz } := fun _ _ => rfl
      have hval : (cE x).value = some (.val x.val) := rfl
      simp only [hx', hval, ← List.map_set, msl_foldl_sizes]
    · simp only [Bool.not_eq_true] at h
      simp only [h, Bool.false_eq_true, if_false, int_succ]
      rw [ih (n + 1) hd']
      cases List.findIdx? (fun x => x.key.same k) t with
      | none => rfl
      | some j =>
        simp only [Option.map_some, List.getElem?_cons_succ]
        have : n + 1 + j = n + (j + 1) := by omega
        rw [this]

/-- `singleElements.Set` = `SingleElems.set`.  Existing key: the value is replaced by `value.Storable(..)` under the
    inline limit of the STORED key, the element size and the group size (prefix + Σ element sizes) are recomputed, the
    old key and value returned.  New key: `newSingleElement` appended, the group size incremented.
    `hT`, `hk`: the threshold and the size of the key are `uint32` values (the limit handed to `Storable` is one). -/
theorem singleElements_Set_eq_model (hE : EnvSingle cfg env) (e : SingleElems) (level : Nat) (hkey : UInt64)
    (k : MKey) (v : Elem) (c : Ctx) (hl : level < 2^64) (hL : cfg.L < 2^64) (hT : cfg.T < 2^32) (hk : k.size < 2^32) :
    singleElements_Set env (cS e) c cfg.addr (u64 level) hkey (.key k) (.val v) =
      msl_rSet e c (SingleElems.set cfg e level k v c) := by
  have h0 := singleElements_Set_loop cfg env hE hT k v e hk e.elems 0 c rfl
  simp only [singleElements_Set, SingleElems.set, hE.levels, hE.eHashLevel, ne_eq, u64_inj hl hL, decide_not]
  by_cases h : level = cfg.L
  · simp only [h, decide_true, Bool.not_true, Bool.false_eq_true, if_false, not_true_eq_false]
    have z : (0 : Int) = Int.ofNat 0 := rfl
    have hcs : (cS e).elems = e.elems.map cE := rfl
    rw [hcs, z, h0]
    cases hf : List.findIdx? (fun x => x.key.same k) e.elems with
    | none =>
      simp only [hE.newElem, Option.isNone_none, Bool.not_true, Bool.false_eq_true, if_false, msl_rSet, Option.map_none]
      simp only [cS, cE, u32_add_eq, List.map_append, List.map_cons, List.map_nil]
    | some j =>
      obtain ⟨x, hx, _⟩ := msl_findIdx?_getElem? _ _ _ hf
      simp only [hx, msl_rSet, msl_setAt, Nat.zero_add, Option.map_some]
  · simp only [h, decide_false, Bool.not_false, if_true, not_false_eq_true, msl_rSet]

/-- `singleElements.Set` never panics (`e.elems[i]` is in range, stored keys and values are non-nil) -/
theorem singleElements_Set_no_panic (hE : EnvSingle cfg env) (e : SingleElems) (level : Nat) (hkey : UInt64)
    (k : MKey) (v : Elem) (c : Ctx) (hl : level < 2^64) (hL : cfg.L < 2^64) (hT : cfg.T < 2^32) (hk : k.size < 2^32) :
    (singleElements_Set env (cS e) c cfg.addr (u64 level) hkey (.key k) (.val v)).isSome = true := by
  rw [singleElements_Set_eq_model cfg env hE e level hkey k v c hl hL hT hk]
  simp only [SingleElems.set]
  by_cases h : level = cfg.L
  · simp only [h, ne_eq, not_true_eq_false, if_false]
    cases hf : List.findIdx? (fun x => x.key.same k) e.elems with
    | none => rfl
    | some j =>
      obtain ⟨x, hx, _⟩ := msl_findIdx?_getElem? _ _ _ hf
      simp only [hx, msl_rSet, Option.isSome_some]
  · simp only [ne_eq, h, not_false_eq_true, if_true, msl_rSet, Option.isSome_some]

end single

/-- a concrete instance of the parameters (irrelevant fields are constants) -/
def msl_envSingle0 (cfg : MCfg) : Env Unit SV SW Unit Ctx GE where
  Digester_Levels := u64 cfg.L
  MapSlab_CanLendToLeft := fun _ _ => false
  MapSlab_CanLendToRight := fun _ _ => false
  NewHashLevelErrorf := some .hashLevel
  NewKeyNotFoundError := some .keyNotFound
  NewNotApplicableError := some .notApplicable
  NewSlabDataErrorf := some .modelMismatch
  NewSlabMergeError := some .slabMerge
  NewSlabNotFoundErrorf := some .slabNotFound
  NewSlabRebalanceError := some .slabRebalance
  NewSlabRebalanceErrorf := some .slabRebalance
  NewSlabSplitErrorf := some .slabSplit
  SlabStorage_GenerateSlabID := fun c a => ((c.alloc a).1, none, (c.alloc a).2)
  SlabStorage_Remove := fun c id => (none, c.emit (.remove id))
  SlabStorage_Retrieve := fun c _ => (.nil, false, none, c)
  SlabStorage_Store := fun c id _ => (none, c.emit (.store id))
  Storable_ByteSize := fun s => match s with
    | .key k => u32 k.size
    | .val v => u32 v.size
  ValueComparator := fun c w s => match w, s with
    | .key k, some (.key k') => (k'.same k, none, c)
    | _, _ => (false, none, c)
  Value_Storable := fun w c addr lim => match w with
    | .val v => (some (.val (toStorableLim lim.toNat addr v c).1), none, (toStorableLim lim.toNat addr v c).2)
    | .key k => (some (.key k), none, c)
  element_Size := fun _ => 0
  maxInlineMapValueSize := fun x => u32 (maxInlineMapValue cfg.T x.toNat)
  minThreshold := u32 (minThr cfg.T)
  newSingleElement := fun c addr kw vw => match kw, vw with
    | .key k, .val v => (cE (newSingleElement cfg.T addr k v c).1, none, (newSingleElement cfg.T addr k v c).2)
    | _, _ => ({}, some .goPanic, c)
  wrapErrorfAsExternalErrorIfNeeded := id

theorem msl_envSingle0_ok (cfg : MCfg) : EnvSingle cfg (msl_envSingle0 cfg) where
  levels := rfl
  cmp := fun _ _ _ => rfl
  keySize := fun _ => rfl
  valSize := fun _ => rfl
  maxInline := fun n hn => by
    show u32 (maxInlineMapValue cfg.T (u32 n).toNat) = _
    rw [u32_toNat hn]
  storable := fun _ _ _ => rfl
  newElem := fun _ _ _ => rfl
  eHashLevel := rfl
  eKeyNotFound := rfl
  wrapNone := rfl

def msl_cfgEx : MCfg := { T := 1024, L := 2, climit := 255, addr := 7 }
def msl_k1Ex : MKey := { size := 9, pay := 1, digs := [5, 6] }
def msl_k2Ex : MKey := { size := 9, pay := 2, digs := [5, 6] }
def msl_k3Ex : MKey := { size := 9, pay := 3, digs := [5, 6] }
def msl_v1Ex : Elem := { size := 3, pay := .val 10 }
def msl_v2Ex : Elem := { size := 4, pay := .val 20 }
def msl_bigEx : Elem := { size := 1000, pay := .val 30 }
def msl_eEx : SingleElems :=
  { elems := [{ key := msl_k1Ex, val := msl_v1Ex, size := 13 }, { key := msl_k2Ex, val := msl_v2Ex, size := 14 }], size := 33, level := 2 }
def msl_cEx : Ctx := { ctr := 0, eff := [] }

/-- Get of the second key: found, storage unchanged -/
example : singleElements_Get (msl_envSingle0 msl_cfgEx) (cS msl_eEx) msl_cEx (u64 2) 0 (.key msl_k2Ex) =
    (some (.key msl_k2Ex), some (.val msl_v2Ex), none, msl_cEx) := by
  rw [singleElements_Get_eq_model msl_cfgEx _ (msl_envSingle0_ok msl_cfgEx) msl_eEx 2 0 msl_k2Ex msl_cEx (by decide) (by decide)]; rfl

/-- Get of an absent key / at the wrong level -/
example : singleElements_Get (msl_envSingle0 msl_cfgEx) (cS msl_eEx) msl_cEx (u64 2) 0 (.key msl_k3Ex) =
    (none, none, some .keyNotFound, msl_cEx) := by
  rw [singleElements_Get_eq_model msl_cfgEx _ (msl_envSingle0_ok msl_cfgEx) msl_eEx 2 0 msl_k3Ex msl_cEx (by decide) (by decide)]; rfl
example : singleElements_Get (msl_envSingle0 msl_cfgEx) (cS msl_eEx) msl_cEx (u64 1) 0 (.key msl_k2Ex) =
    (none, none, some .hashLevel, msl_cEx) := by
  rw [singleElements_Get_eq_model msl_cfgEx _ (msl_envSingle0_ok msl_cfgEx) msl_eEx 1 0 msl_k2Ex msl_cEx (by decide) (by decide)]; rfl

/-- Remove of the first key -/
example : singleElements_Remove (msl_envSingle0 msl_cfgEx) (cS msl_eEx) msl_cEx (u64 2) 0 (.key msl_k1Ex) =
    some (some (.key msl_k1Ex), some (.val msl_v1Ex), none,
      cS { elems := [{ key := msl_k2Ex, val := msl_v2Ex, size := 14 }], size := 20, level := 2 }, msl_cEx) := by
  rw [singleElements_Remove_eq_model msl_cfgEx _ (msl_envSingle0_ok msl_cfgEx) msl_eEx 2 0 msl_k1Ex msl_cEx (by decide) (by decide)
    (by decide)]; rfl

/-- Set of an existing key with a value over the inline limit: the value moves to a new slab (allocation + store),
    element and group size are recomputed -/
example : singleElements_Set (msl_envSingle0 msl_cfgEx) (cS msl_eEx) msl_cEx 7 (u64 2) 0 (.key msl_k2Ex) (.val msl_bigEx) =
    some (some (.key msl_k2Ex), some (.val msl_v2Ex), none,
      cS { elems := [{ key := msl_k1Ex, val := msl_v1Ex, size := 13 },
                     { key := msl_k2Ex, val := { size := slabIDStorableSize, pay := .ref ⟨7, 1⟩ },
                       size := 10 + slabIDStorableSize }],
           size := 29 + slabIDStorableSize, level := 2 },
      { ctr := 1, eff := [.alloc 7 ⟨7, 1⟩, .store ⟨7, 1⟩], created := [(⟨7, 1⟩, msl_bigEx)] }) := by
  rw [show (7 : Nat) = msl_cfgEx.addr from rfl,
    singleElements_Set_eq_model msl_cfgEx _ (msl_envSingle0_ok msl_cfgEx) msl_eEx 2 0 msl_k2Ex msl_bigEx msl_cEx (by decide) (by decide)
      (by decide) (by decide)]; rfl

/-- Set of a new key: appended -/
example : singleElements_Set (msl_envSingle0 msl_cfgEx) (cS msl_eEx) msl_cEx 7 (u64 2) 0 (.key msl_k3Ex) (.val msl_v1Ex) =
    some (some (.key msl_k3Ex), none, none,
      cS { elems := [{ key := msl_k1Ex, val := msl_v1Ex, size := 13 }, { key := msl_k2Ex, val := msl_v2Ex, size := 14 },
                     { key := msl_k3Ex, val := msl_v1Ex, size := 13 }], size := 46, level := 2 }, msl_cEx) := by
  rw [show (7 : Nat) = msl_cfgEx.addr from rfl,
    singleElements_Set_eq_model msl_cfgEx _ (msl_envSingle0_ok msl_cfgEx) msl_eEx 2 0 msl_k3Ex msl_v1Ex msl_cEx (by decide) (by decide)
      (by decide) (by decide)]; rfl

/-! ### outside the hypothesis `hsz` of `singleElements_Remove_eq_model` the code and the model DIFFER

  A group whose size field is smaller than the size of the removed element (an inconsistent group; the size field
  always includes the prefix and every element): Go computes `e.size -= elem.Size()` in `uint32` and wraps around,
  the `Nat` model truncates at 0. -/

def msl_eBadEx : SingleElems := { elems := [{ key := msl_k1Ex, val := msl_v1Ex, size := 13 }], size := 3, level := 2 }

example : (singleElements_Remove (msl_envSingle0 msl_cfgEx) (cS msl_eBadEx) msl_cEx (u64 2) 0 (.key msl_k1Ex)).map (·.2.2.2.1.size) =
    some (u32 4294967286) := by decide
example : (msl_rRemove msl_eBadEx msl_cEx (SingleElems.remove msl_cfgEx msl_eBadEx 2 msl_k1Ex msl_cEx)).map (·.2.2.2.1.size) = some (u32 0) := by
  decide

end Atree.TransEq

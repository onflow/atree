import AtreeProofs.Props.TransMapSlabsData
import AtreeProofs.Props.TransMapSlabsMeta
import AtreeProofs.Map.RepairPlan
/-
  The tree level of the map slab restructuring code (map_metadata_slab.go: `SplitChildSlab`, `rebalanceChildren`,
  `mergeChildren`, `MergeOrRebalanceChildSlab`; map_slab.go / storage.go: the `MapSlab` dispatchers, `storeSlab`,
  `getMapSlab`), REGENERATED from the Go sources (`AtreeModel/Gen/TransMapSlabs.lean`), against the hand-written model
  (`AtreeModel/Map/Tree.lean`: `MTree.*`, `MMetaSlab.splitChildSlab / rebalanceChildren / mergeChildren /
  mergeOrRebalanceChildSlab`).  In Go the children live in the storage and the operands are objects that are mutated;
  the model embeds the children and returns new values.  So every theorem gives, for the generated function applied to
  the translations (`cMeta`, `cTree`) of the model's arguments: the error class, the parent slab IN FULL (header,
  children headers), the storage state and the state of each operand object after the call (`msl_splitLeft`,
  `msl_rebalanced`, `MTree.merge`, `msl_morChild`).  `SplitChildSlab`, `rebalanceChildren`, `mergeChildren` and what they
  call are stated once, for any storage (names ending in `_any`: the storage after the call is a chain of the
  environment's own `Store` / `Remove`, `mstored` / `mremoved` of Trans/MapSlabs.lean); section `treeCtx` reads them with
  the storage that only logs (`EnvS`: the state is the model's `Ctx`, every effect in order), Props/TransMapRestruct*.lean
  with the heap of the descent.  `MergeOrRebalanceChildSlab` is stated as "reads the two neighbours and carries out the
  decision table `Core.plan`" (`MapMetaDataSlab_MergeOrRebalanceChildSlab_eq_plan`, `msl_genExec`); with the model's
  `MMetaSlab.mor_eq_plan` the two sides meet by cases on the one plan.
  The range / consistency hypotheses of the slab-level theorems (TransMapSlabsData / TransMapSlabsMeta) differ between
  data and index slabs; they are collected per operation in `msl_SplitOK`, `msl_MergeOK`, `msl_LendOK`, `msl_BorrowOK`
  (`msl_RebalanceOK`), by cases on the depth.
-/
namespace Atree.TransEq
open Atree Atree.Gen.TransMap Atree.Core

theorem msl_intOfNat_toNat (k : Nat) : (Int.ofNat k).toNat = k := int_toNat k

theorem msl_goInRange_ofNat {β : Type} (l : List β) (i : Nat) (h : i < l.length) : goInRange l (Int.ofNat i) = true := by
  rw [goInRange_eq, sliceInRange_ofNat, decide_eq_true h]

theorem msl_goSlicesInsert_one {β : Type} (l : List β) (i : Nat) (v : β) (h : i ≤ l.length) :
    goSlicesInsert l (Int.ofNat i) [v] = some (l.insertIdx i v) := by
  rw [goSlicesInsert_eq, sliceInsert_one l v h]

theorem msl_intOfNat_succ (k : Nat) : Int.ofNat k + (1 : Int) = Int.ofNat (k + 1) := int_succ k

theorem msl_goIdx_map_ofNat {β γ : Type} (f : β → γ) (l : List β) (i : Nat) :
    goIdx (l.map f) (Int.ofNat i) = (l[i]?).map f := by
  rw [goIdx_eq, sliceIdx_map]

theorem msl_int_dgt0 (k : Nat) : decide (Int.ofNat k > (0 : Int)) = decide (k > 0) := int_dlt 0 k

theorem msl_int_dlt_pred (k n : Nat) : decide (Int.ofNat k < Int.ofNat n - (1 : Int)) = decide (k + 1 < n) := by
  simp only [Int.ofNat_eq_natCast, decide_eq_decide]; omega

theorem msl_intOfNat_pred (k : Nat) (h : 0 < k) : Int.ofNat k - (1 : Int) = Int.ofNat (k - 1) := int_pred h

section tree
variable {r : Nat} {V W X S : Type} (T : Nat) (env : Env (MElemF (MElems r)) V W X S GE)

/-! ## what a subtree root must satisfy for each operation (the hypotheses of the slab-level theorems) -/

/-- `Split`: data slab = the hypotheses of `MapDataSlab_Split_full_eq_model`; index slab = the header size covers the
    child headers that stay left -/
def msl_SplitOK : (d : Nat) → MTree r d → Prop
  | 0, (s : MDataSlab r) =>
    s.elems.elems.length < 2^32 ∧ s.elems.size + Gen.mapDataSlabPrefixSize < 2^32 ∧
    Gen.hkeyElementsPrefixSize + (dg (rawSizes (MDataSlab.eops r) s.elems)).sum ≤ s.elems.size ∧
    s.elems.elems.length ≤ s.elems.hkeys.length
  | _ + 1, (m : MMetaSlab _) =>
    2 ≤ m.childHdrs.length → (m.childHdrs.length + 1) / 2 * Gen.mapSlabHeaderSize ≤ m.hdr.size

/-- `Merge`: data slabs = the right element size covers its prefix, the new size fits uint32; index slabs = the right
    header size covers the prefix -/
def msl_MergeOK : (d : Nat) → MTree r d → MTree r d → Prop
  | 0, (l : MDataSlab r), (rr : MDataSlab r) =>
    Gen.hkeyElementsPrefixSize ≤ rr.elems.size ∧ l.elems.size + rr.elems.size + 10 < 2^32
  | _ + 1, (_ : MMetaSlab _), (rr : MMetaSlab _) => Gen.mapMetaDataSlabPrefixSize ≤ rr.hdr.size

/-- `LendToRight`: the hypotheses of `MapDataSlab_LendToRight_full_eq_model` / `MapMetaDataSlab_LendToRight_full_eq_model` -/
def msl_LendOK (T : Nat) : (d : Nat) → MTree r d → MTree r d → Prop
  | 0, (l : MDataSlab r), (rr : MDataSlab r) =>
    minThr T < 2^32 ∧ Gen.mapDataSlabPrefixSize + Gen.hkeyElementsPrefixSize ≤ minThr T ∧
    l.elems.level < 2^64 ∧ rr.elems.level < 2^64 ∧ l.elems.size + rr.elems.size + 10 < 2^32 ∧
    Gen.hkeyElementsPrefixSize ≤ rr.elems.size ∧
    Gen.hkeyElementsPrefixSize + (dg (rawSizes (MDataSlab.eops r) l.elems)).sum ≤ l.elems.size ∧
    l.elems.hkeys.length = l.elems.elems.length
  | _ + 1, (l : MMetaSlab _), (rr : MMetaSlab _) =>
    rr.childHdrs.length ≤ l.childHdrs.length + 1 ∧ 0 < l.childHdrs.length + rr.childHdrs.length

/-- `BorrowFromRight`: the hypotheses of `MapDataSlab_BorrowFromRight_full_eq_model` /
    `MapMetaDataSlab_BorrowFromRight_full_eq_model` -/
def msl_BorrowOK (T : Nat) : (d : Nat) → MTree r d → MTree r d → Prop
  | 0, (l : MDataSlab r), (rr : MDataSlab r) =>
    minThr T < 2^32 ∧ Gen.mapDataSlabPrefixSize + Gen.hkeyElementsPrefixSize ≤ minThr T ∧
    l.elems.level < 2^64 ∧ rr.elems.level < 2^64 ∧ l.elems.size + rr.elems.size + 10 < 2^32 ∧
    Gen.hkeyElementsPrefixSize ≤ l.elems.size ∧
    Gen.hkeyElementsPrefixSize + (dg (rawSizes (MDataSlab.eops r) rr.elems)).sum ≤ rr.elems.size ∧
    rr.elems.elems.length ≤ rr.elems.hkeys.length
  | _ + 1, (l : MMetaSlab _), (rr : MMetaSlab _) =>
    l.childHdrs.length ≤ rr.childHdrs.length ∧ 0 < rr.childHdrs.length

/-- the rebalance `MMetaSlab.rebalanceChildren` does, by its flag -/
def msl_RebalanceOK (T : Nat) (d : Nat) (l rr : MTree r d) (leftBorrowFromRight : Bool) : Prop :=
  if leftBorrowFromRight then msl_BorrowOK T d l rr else msl_LendOK T d l rr

/-! ## the state of the operands after the call (Go mutates the objects; the model returns new values) -/

/-- the child object after `Split`: the left half; unchanged when the split fails -/
def msl_splitLeft (d : Nat) (t : MTree r d) (c : Ctx) : MTree r d :=
  match MTree.split d t c with
  | .ok (l, _, _) => l
  | .error _ => t

/-- both operands after `BorrowFromRight` / `LendToRight`; unchanged when the operation fails -/
def msl_rebalanced (T : Nat) (d : Nat) (l rr : MTree r d) (leftBorrowFromRight : Bool) : MTree r d × MTree r d :=
  match (if leftBorrowFromRight then MTree.borrowFromRight T d l rr else MTree.lendToRight T d l rr) with
  | .ok p => p
  | .error _ => (l, rr)

/-! ## the dispatchers of the closed interface `MapSlab` on a subtree root -/

theorem msl_cTree_isNil (d : Nat) (t : MTree r d) : (cTree (V := V) (X := X) d t).isNil = false := by
  cases d <;> rfl

theorem MapSlab_Header_cTree_any (d : Nat) (t : MTree r d) :
    MapSlab_Header env (cTree d t) = some (cHdr (MTree.hdr d t)) := by
  cases d <;> rfl

theorem MapSlab_SlabID_cTree (d : Nat) (t : MTree r d) :
    MapSlab_SlabID env (cTree d t) = some (MTree.hdr d t).id := by
  cases d <;> rfl

theorem MapSlab_ByteSize_cTree (d : Nat) (t : MTree r d) :
    MapSlab_ByteSize env (cTree d t) = some (u32 (MTree.hdr d t).size) := by
  cases d <;> rfl

/-- merging with the nil interface value: the type assertion panics -/
theorem MapSlab_Merge_nil (d : Nat) (t : MTree r d) : MapSlab_Merge env (cTree d t) .nil = none := by
  cases d <;> rfl

variable {env} in
/-- `storeSlab` on a subtree root -/
theorem MStoreOK.storeSlab_tree (h : MStoreOK env) (s : S) (d : Nat) (t : MTree r d) :
    Gen.TransMap.storeSlab env s (cTree d t) = some (none, mstored env s (MTree.hdr d t).id (cTree d t)) :=
  h.storeSlab s _ _ (MapSlab_SlabID_cTree env d t)

/-- `getMapSlab` when the storage returns the translation of a subtree root: the slab, no error, the storage as
    `Retrieve` hands it back -/
theorem getMapSlab_cTree (s s' : S) (id : SlabID) (d : Nat) (t : MTree r d)
    (h : env.SlabStorage_Retrieve s id = (cTree d t, true, none, s')) :
    getMapSlab env s id = (cTree d t, none, s') := by
  simp only [getMapSlab, h, Option.isNone_none, Bool.not_true, Bool.false_eq_true, if_false, msl_cTree_isNil, Bool.not_false]

theorem MDataSlab.msl_split_error (s : MDataSlab r) (c : Ctx) (e : MErr) (h : MDataSlab.split s c = .error e) :
    e = .slabSplit := by
  simp only [MDataSlab.split] at h
  split at h
  · cases h; rfl
  · cases h

theorem MDataSlab.msl_lendToRight_error (l rr : MDataSlab r) (e : MErr) (h : MDataSlab.lendToRight T l rr = .error e) :
    e = .slabRebalance := by
  simp only [MDataSlab.lendToRight, HkeyElems.lendToRight, bind, Except.bind] at h
  split at h
  · rename_i h2; split at h2
    · cases h2; cases h; rfl
    · cases h2
  · cases h

theorem MDataSlab.msl_borrowFromRight_error (l rr : MDataSlab r) (e : MErr)
    (h : MDataSlab.borrowFromRight T l rr = .error e) : e = .slabRebalance := by
  simp only [MDataSlab.borrowFromRight, HkeyElems.borrowFromRight, bind, Except.bind] at h
  split at h
  · rename_i h2; split at h2
    · cases h2; cases h; rfl
    · cases h2
  · cases h

/-- `MapSlab.Split` on a subtree root = `MTree.split` on the `Ctx` of the storage: the error with the slab and the
    storage untouched, else both halves (the left one is the receiver object) and the storage after the allocation -/
theorem MapSlab_Split_any (hE : EnvH (MDataSlab.eops r) T env) {ctx : S → Ctx} {setCtx : S → Ctx → S}
    (hG : MCtxOf env ctx setCtx) (d : Nat) (t : MTree r d) (s : S) (h : msl_SplitOK d t) :
    MapSlab_Split env (cTree d t) s =
      match MTree.split d t (ctx s) with
      | .error e => some (.nil, .nil, some e, cTree d t, s)
      | .ok (l, rr, c') => some (cTree d l, cTree d rr, none, cTree d l, setCtx s c') := by
  cases d with
  | zero =>
    obtain ⟨h1, h2, h3, h4⟩ := h
    have hd := MapDataSlab_Split_any T env hE hG t none s h1 h2 h3 h4
    have he := MDataSlab.msl_split_error t (ctx s)
    simp only [MapSlab_Split, cTree, MTree.split, hd]
    cases hsp : MDataSlab.split t (ctx s) with
    | error e => rw [he e hsp]
    | ok p => obtain ⟨l, rr, c'⟩ := p; rfl
  | succ d =>
    have hd := MapMetaDataSlab_Split_any (V := V) env hG hE.eSplit t none s h
    simp only [MapSlab_Split, cTree, MTree.split, hd]
    cases hsp : MMetaSlab.split t (ctx s) with
    | error e => rfl
    | ok p => obtain ⟨l, rr, c'⟩ := p; rfl

/-- `MapSlab.Merge` on two subtree roots of the same depth = `MTree.merge`; never an error -/
theorem MapSlab_Merge_any (d : Nat) (l rr : MTree r d) (h : msl_MergeOK d l rr) :
    MapSlab_Merge env (cTree d l) (cTree d rr) = some (none, cTree d (MTree.merge d l rr)) := by
  cases d with
  | zero =>
    have hd := MapDataSlab_Merge_any env l rr none none h.1 h.2
    simp only [MapSlab_Merge, cTree, MTree.merge, hd]
  | succ d =>
    have hd := MapMetaDataSlab_Merge_full_eq_model (V := V) env l rr (none : Option X) none h
    simp only [MapSlab_Merge, cTree, MTree.merge, hd]

/-- `MapSlab.LendToRight` = `MTree.lendToRight`: the error (data slabs of different hash levels) with both slabs
    untouched, else both slabs -/
theorem MapSlab_LendToRight_any (hE : EnvH (MDataSlab.eops r) T env) (d : Nat) (l rr : MTree r d)
    (h : msl_LendOK T d l rr) :
    MapSlab_LendToRight env (cTree d l) (cTree d rr) =
      match MTree.lendToRight T d l rr with
      | .error e => some (some e, cTree d l, cTree d rr)
      | .ok (l', r') => some (none, cTree d l', cTree d r') := by
  cases d with
  | zero =>
    obtain ⟨h1, h2, h3, h4, h5, h6, h7, h8⟩ := h
    have hd := MapDataSlab_LendToRight_any T env hE l rr none none h1 h2 h3 h4 h5 h6 h7 h8
    have he := MDataSlab.msl_lendToRight_error T l rr
    simp only [MapSlab_LendToRight, cTree, MTree.lendToRight, hd]
    cases hsp : MDataSlab.lendToRight T l rr with
    | error e => rw [he e hsp]
    | ok p => obtain ⟨l', r'⟩ := p; rfl
  | succ d =>
    have hd := MapMetaDataSlab_LendToRight_full_eq_model (V := V) env l rr (none : Option X) none h.1 h.2
    simp only [MapSlab_LendToRight, cTree, MTree.lendToRight, hd]

/-- `MapSlab.BorrowFromRight` = `MTree.borrowFromRight`, likewise -/
theorem MapSlab_BorrowFromRight_any (hE : EnvH (MDataSlab.eops r) T env) (d : Nat) (l rr : MTree r d)
    (h : msl_BorrowOK T d l rr) :
    MapSlab_BorrowFromRight env (cTree d l) (cTree d rr) =
      match MTree.borrowFromRight T d l rr with
      | .error e => some (some e, cTree d l, cTree d rr)
      | .ok (l', r') => some (none, cTree d l', cTree d r') := by
  cases d with
  | zero =>
    obtain ⟨h1, h2, h3, h4, h5, h6, h7, h8⟩ := h
    have hd := MapDataSlab_BorrowFromRight_any T env hE l rr none none h1 h2 h3 h4 h5 h6 h7 h8
    have he := MDataSlab.msl_borrowFromRight_error T l rr
    simp only [MapSlab_BorrowFromRight, cTree, MTree.borrowFromRight, hd]
    cases hsp : MDataSlab.borrowFromRight T l rr with
    | error e => rw [he e hsp]
    | ok p => obtain ⟨l', r'⟩ := p; rfl
  | succ d =>
    have hd := MapMetaDataSlab_BorrowFromRight_full_eq_model (V := V) env l rr (none : Option X) none h.1 h.2
    simp only [MapSlab_BorrowFromRight, cTree, MTree.borrowFromRight, hd]

/-- the translation of the headers commutes with `childrenHeaders[i] = h` -/
theorem msl_cHdr_set (l : List MHdr) (i : Nat) (h : MHdr) : (l.map cHdr).set i (cHdr h) = (l.set i h).map cHdr := by
  rw [List.map_set]

/-- `MapMetaDataSlab.SplitChildSlab` = `MMetaSlab.splitChildSlab` on the `Ctx` of the storage.  The error of the child's
    `Split`: parent, storage and child untouched.  Otherwise the parent in full (child header `k` := the left half's, the
    right half's inserted at `k + 1`, header size + 18), the storage after the allocation and the three `Store`s (left,
    right, parent, in this order), and the child object, which is now the left half. -/
theorem MapMetaDataSlab_SplitChildSlab_any (hE : EnvH (MDataSlab.eops r) T env) (hS : MStoreOK env)
    {ctx : S → Ctx} {setCtx : S → Ctx → S} (hG : MCtxOf env ctx setCtx) (d : Nat)
    (m : MMetaSlab (MTree r d)) (x : Option X) (child : MTree r d) (k : Nat) (s : S)
    (hk : k < m.childHdrs.length) (hok : msl_SplitOK d child) :
    MapMetaDataSlab_SplitChildSlab env (cMeta m x) s (cTree d child) (Int.ofNat k) =
      match MTree.split d child (ctx s), MMetaSlab.splitChildSlab m child k (ctx s) with
      | .ok (l, rr, c1), .ok (m', _) =>
        some (none, cMeta m' x,
          mstored env (mstored env (mstored env (setCtx s c1) (MTree.hdr d l).id (cTree d l)) (MTree.hdr d rr).id
            (cTree d rr)) m'.hdr.id (.metaSlab (cMeta m' x)),
          cTree d l)
      | .error e, _ => some (some e, cMeta m x, s, cTree d child)
      | _, .error e => some (some e, cMeta m x, s, cTree d child) := by
  have hsp := MapSlab_Split_any T env hE hG d child s hok
  simp only [MapMetaDataSlab_SplitChildSlab, MMetaSlab.splitChildSlab, hsp]
  cases hres : MTree.split d child (ctx s) with
  | error e => simp only [Option.isNone_some, Bool.not_false, if_true]
  | ok p =>
    obtain ⟨l, rr, c1⟩ := p
    have hr : goInRange (cMeta m x).childrenHeaders (Int.ofNat k) = true :=
      msl_goInRange_ofNat _ _ (by simp only [cMeta, List.length_map]; exact hk)
    have hins : k + 1 ≤ ((m.childHdrs.set k (MTree.hdr d l)).map cHdr).length := by
      rw [List.length_map, List.length_set]; omega
    simp only [bind, Except.bind, pure, Except.pure, Option.isNone_none, Bool.not_true, Bool.false_eq_true, if_false,
      msl_cTree_isNil, Bool.not_false, if_true, MapSlab_Header_cTree_any, hr, msl_intOfNat_toNat, msl_intOfNat_succ]
    simp only [cMeta, msl_cHdr_set, msl_goSlicesInsert_one _ _ _ hins, ← msl_cmap_insertIdx, hS.storeSlab_tree,
      hS.storeSlab_meta, Option.isNone_none, Bool.not_true, Bool.false_eq_true, if_false]
    simp only [cHdr, u32, UInt32.ofNat_add]

theorem MTree.msl_lendToRight_error (d : Nat) (l rr : MTree r d) (e : MErr) (h : MTree.lendToRight T d l rr = .error e) :
    e = .slabRebalance := by
  cases d with
  | zero => exact MDataSlab.msl_lendToRight_error T l rr e h
  | succ d => cases h

theorem MTree.msl_borrowFromRight_error (d : Nat) (l rr : MTree r d) (e : MErr)
    (h : MTree.borrowFromRight T d l rr = .error e) : e = .slabRebalance := by
  cases d with
  | zero => exact MDataSlab.msl_borrowFromRight_error T l rr e h
  | succ d => cases h

/-- the rebalance step of `rebalanceChildren` through the dispatchers, both directions at once -/
theorem msl_rebalance_step (hE : EnvH (MDataSlab.eops r) T env) (d : Nat) (l rr : MTree r d) (b : Bool)
    (hok : msl_RebalanceOK T d l rr b) :
    (if b then MapSlab_BorrowFromRight env (cTree d l) (cTree d rr) else MapSlab_LendToRight env (cTree d l) (cTree d rr)) =
      match (if b then MTree.borrowFromRight T d l rr else MTree.lendToRight T d l rr) with
      | .error e => some (some e, cTree d l, cTree d rr)
      | .ok (l', r') => some (none, cTree d l', cTree d r') := by
  cases b with
  | true => exact MapSlab_BorrowFromRight_any T env hE d l rr hok
  | false => exact MapSlab_LendToRight_any T env hE d l rr hok

/-- `MMetaSlab.rebalanceChildren` written out: the rebalance step, both child headers, the first key when the left child
    is child 0, three `Store` effects -/
theorem MMetaSlab.msl_rebalanceChildren_eq (d : Nat) (m : MMetaSlab (MTree r d)) (l rr : MTree r d) (li ri : Nat)
    (b : Bool) (c : Ctx) :
    MMetaSlab.rebalanceChildren T m l rr li ri b c =
      match (if b then MTree.borrowFromRight T d l rr else MTree.lendToRight T d l rr) with
      | .error e => .error e
      | .ok (l', r') =>
        .ok ({ m with childHdrs := (m.childHdrs.set li (MTree.hdr d l')).set ri (MTree.hdr d r'),
                      children := (m.children.set li l').set ri r',
                      hdr := { m.hdr with firstKey := if li == 0 then (MTree.hdr d l').firstKey else m.hdr.firstKey } },
          ((c.emit (.store (MTree.hdr d l').id)).emit (.store (MTree.hdr d r').id)).emit (.store m.hdr.id)) := by
  unfold MMetaSlab.rebalanceChildren
  cases b
  · simp only [Bool.false_eq_true, ↓reduceIte]
    cases MTree.lendToRight T d l rr <;> rfl
  · simp only [↓reduceIte]
    cases MTree.borrowFromRight T d l rr <;> rfl

/-- `MapMetaDataSlab.rebalanceChildren` = `MMetaSlab.rebalanceChildren` (whose parent does not depend on the `Ctx` it is
    run on).  The error of the rebalance step (data slabs of different hash levels): parent, storage and both children
    untouched.  Otherwise the parent in full (both child headers, the first key when the left child is child 0), the
    storage after the three `Store`s (left, right, parent) and both child objects.  (Nothing needs `ri = li + 1`.) -/
theorem MapMetaDataSlab_rebalanceChildren_any (hE : EnvH (MDataSlab.eops r) T env) (hS : MStoreOK env) (d : Nat)
    (m : MMetaSlab (MTree r d)) (x : Option X) (l rr : MTree r d) (li ri : Nat) (b : Bool) (s : S) (c : Ctx)
    (hli : li < m.childHdrs.length) (hri : ri < m.childHdrs.length) (hok : msl_RebalanceOK T d l rr b) :
    MapMetaDataSlab_rebalanceChildren env (cMeta m x) s (cTree d l) (cTree d rr) (Int.ofNat li) (Int.ofNat ri) b =
      match MMetaSlab.rebalanceChildren T m l rr li ri b c with
      | .error e => some (some e, cMeta m x, s, cTree d l, cTree d rr)
      | .ok (m', _) =>
        some (none, cMeta m' x,
          mstored env (mstored env (mstored env s (MTree.hdr d (msl_rebalanced T d l rr b).1).id
            (cTree d (msl_rebalanced T d l rr b).1)) (MTree.hdr d (msl_rebalanced T d l rr b).2).id
            (cTree d (msl_rebalanced T d l rr b).2)) m'.hdr.id (.metaSlab (cMeta m' x)),
          cTree d (msl_rebalanced T d l rr b).1, cTree d (msl_rebalanced T d l rr b).2) := by
  have hstep := msl_rebalance_step T env hE d l rr b hok
  have hl : goInRange (cMeta m x).childrenHeaders (Int.ofNat li) = true :=
    msl_goInRange_ofNat _ _ (by simp only [cMeta, List.length_map]; exact hli)
  simp only [MapMetaDataSlab_rebalanceChildren, MMetaSlab.msl_rebalanceChildren_eq, msl_rebalanced]
  -- both directions at once: the `Loop`-valued `if` of the generated code is the match on the model's step
  generalize hL : (if b = true then _ else _ : Loop _ (MapSlab _ _ _ × MapSlab _ _ _ × Option _)) = L
  have hL' : L = match (if b then MTree.borrowFromRight T d l rr else MTree.lendToRight T d l rr) with
      | .error e => Loop.done (cTree d l, cTree d rr, some e)
      | .ok (l', r') => Loop.done (cTree d l', cTree d r', none) := by
    rw [← hL]
    cases b with
    | true =>
      simp only [↓reduceIte] at hstep ⊢
      rw [hstep]
      cases MTree.borrowFromRight T d l rr <;> rfl
    | false =>
      simp only [Bool.false_eq_true, ↓reduceIte] at hstep ⊢
      rw [hstep]
      cases MTree.lendToRight T d l rr <;> rfl
  rw [hL']
  generalize (if b = true then MTree.borrowFromRight T d l rr else MTree.lendToRight T d l rr) = res
  cases res with
  | error e => simp only [Option.isNone_some, Bool.not_false, if_true]
  | ok p =>
    obtain ⟨l', r'⟩ := p
    have hr : goInRange ((m.childHdrs.set li (MTree.hdr d l')).map cHdr) (Int.ofNat ri) = true :=
      msl_goInRange_ofNat _ _ (by rw [List.length_map, List.length_set]; exact hri)
    simp only [Option.isNone_none, Bool.not_true, Bool.false_eq_true, if_false,
      MapSlab_Header_cTree_any, hl, if_true, msl_intOfNat_toNat, int_deq_zero]
    simp only [cMeta, msl_cHdr_set, hr, if_true]
    by_cases h0 : li = 0
    · simp only [h0, decide_true, if_true, hS.storeSlab_tree, hS.storeSlab_meta, Option.isNone_none,
        Bool.not_true, Bool.false_eq_true, if_false, beq_self_eq_true]
      simp only [cHdr]
    · simp only [h0, decide_false, Bool.false_eq_true, if_false, hS.storeSlab_tree, hS.storeSlab_meta,
        Option.isNone_none, Bool.not_true, beq_iff_eq]
      simp only [cHdr]

/-- `MapMetaDataSlab.mergeChildren` = `MMetaSlab.mergeChildren` (whose parent does not depend on the `Ctx` it is run
    on): never an error; the parent in full (child header `li` := the merged slab's, child header `ri` deleted, header
    size - 18, the first key when the left child is child 0), the storage after `Store` merged, `Store` parent, `Remove`
    right (in this order), and the left child object, which is now the merged slab.  Needs: the parent's header size
    covers one child header (otherwise Go's `m.header.size -= mapSlabHeaderSize` wraps around and the model's truncated
    subtraction gives 0).  (Nothing needs `ri = li + 1`.) -/
theorem MapMetaDataSlab_mergeChildren_any (hS : MStoreOK env) (d : Nat)
    (m : MMetaSlab (MTree r d)) (x : Option X) (l rr : MTree r d) (li ri : Nat) (s : S) (c : Ctx)
    (hli : li < m.childHdrs.length) (hri : ri < m.childHdrs.length)
    (hsz : Gen.mapSlabHeaderSize ≤ m.hdr.size) (hok : msl_MergeOK d l rr) :
    MapMetaDataSlab_mergeChildren env (cMeta m x) s (cTree d l) (cTree d rr) (Int.ofNat li) (Int.ofNat ri) =
      some (none, cMeta (MMetaSlab.mergeChildren m l rr li ri c).1 x,
        mremoved env (mstored env (mstored env s (MTree.hdr d (MTree.merge d l rr)).id (cTree d (MTree.merge d l rr)))
          m.hdr.id (.metaSlab (cMeta (MMetaSlab.mergeChildren m l rr li ri c).1 x))) (MTree.hdr d rr).id,
        cTree d (MTree.merge d l rr)) := by
  have hm := MapSlab_Merge_any env d l rr hok
  have hu := MapMetaDataSlab_updateChildrenHeadersAfterMerge_eq' (V := V) env m x (MTree.hdr d (MTree.merge d l rr)) li ri
    hli hri
  simp only [MapMetaDataSlab_mergeChildren, MMetaSlab.mergeChildren, hm, Option.isNone_none, Bool.not_true,
    Bool.false_eq_true, if_false, MapSlab_Header_cTree_any, hu, int_deq_zero, MapSlab_SlabID_cTree]
  by_cases h0 : li = 0
  · simp only [h0, decide_true, if_true, hS.storeSlab_tree, hS.storeSlab_meta, Option.isNone_none,
      Bool.not_true, Bool.false_eq_true, if_false, beq_self_eq_true, hS.remove_eq]
    simp only [cMeta, cHdr, u32, UInt32.ofNat_sub hsz]
  · simp only [h0, decide_false, Bool.false_eq_true, if_false, hS.storeSlab_tree, hS.storeSlab_meta,
      Option.isNone_none, Bool.not_true, beq_iff_eq, hS.remove_eq]
    simp only [cMeta, cHdr, u32, UInt32.ofNat_sub hsz]

theorem MMetaSlab.msl_rebalanceChildren_error (d : Nat) (m : MMetaSlab (MTree r d)) (l rr : MTree r d) (li ri : Nat) (b : Bool)
    (c : Ctx) (e : MErr) (h : MMetaSlab.rebalanceChildren T m l rr li ri b c = .error e) : e = .slabRebalance := by
  rw [MMetaSlab.msl_rebalanceChildren_eq] at h
  cases b <;> simp only [Bool.false_eq_true, ↓reduceIte] at h
  · cases hres : MTree.lendToRight T d l rr with
    | error e' => rw [hres] at h; cases h; exact MTree.msl_lendToRight_error T d l rr e hres
    | ok p => rw [hres] at h; cases h
  · cases hres : MTree.borrowFromRight T d l rr with
    | error e' => rw [hres] at h; cases h; exact MTree.msl_borrowFromRight_error T d l rr e hres
    | ok p => rw [hres] at h; cases h

/-- the child object after `MergeOrRebalanceChildSlab`: the left slab when the child is the left operand (of the
    rebalance or of the merge), the updated right slab in a rebalance with the left sibling, and UNCHANGED when it is
    merged into its left sibling (the merged slab is the left sibling's object) -/
def msl_morChild (T : Nat) (d : Nat) (m : MMetaSlab (MTree r d)) (child : MTree r d) (k u : Nat) : MTree r d :=
  let leftSib : Option (MTree r d) := if k > 0 then m.children[k - 1]? else none
  let rightSib : Option (MTree r d) := if k + 1 < m.childHdrs.length then m.children[k + 1]? else none
  let leftCanLend := match leftSib with | some l => MTree.canLendToRight T d l u | none => false
  let rightCanLend := match rightSib with | some x => MTree.canLendToLeft T d x u | none => false
  if leftCanLend || rightCanLend then
    match leftSib, rightSib with
    | some l, some x =>
      if !leftCanLend then (msl_rebalanced T d child x true).1
      else if !rightCanLend then (msl_rebalanced T d l child false).2
      else if (MTree.hdr d l).size > (MTree.hdr d x).size then (msl_rebalanced T d l child false).2
      else (msl_rebalanced T d child x true).1
    | some l, none => (msl_rebalanced T d l child false).2
    | none, some x => (msl_rebalanced T d child x true).1
    | none, none => child
  else
    match leftSib, rightSib with
    | none, some x => MTree.merge d child x
    | some _, none => child
    | some l, some x => if (MTree.hdr d l).size < (MTree.hdr d x).size then child else MTree.merge d child x
    | none, none => child

/-- the child object after the generated `MergeOrRebalanceChildSlab` has carried out a plan -/
def msl_planChild (T : Nat) (d : Nat) (child : MTree r d) : Plan (MTree r d) → MTree r d
  | .panic => child
  | .rebalL l => (msl_rebalanced T d l child false).2
  | .rebalR y => (msl_rebalanced T d child y true).1
  | .mergeL _ => child
  | .mergeR y => MTree.merge d child y

theorem msl_morChild_eq_plan (d : Nat) (m : MMetaSlab (MTree r d)) (child : MTree r d) (k u : Nat) :
    msl_morChild T d m child k u =
      msl_planChild T d child (plan (MTree.canLendToRight T d · u) (MTree.canLendToLeft T d · u)
        (fun t => (MTree.hdr d t).size)
        (if k > 0 then m.children[k - 1]? else none)
        (if k + 1 < m.childHdrs.length then m.children[k + 1]? else none)) := by
  rw [plan_comm (msl_planChild T d child)]
  unfold msl_morChild
  generalize (if k > 0 then m.children[k - 1]? else none) = L
  generalize (if k + 1 < m.childHdrs.length then m.children[k + 1]? else none) = R
  rcases L with _ | l <;> rcases R with _ | x <;> rfl

theorem msl_leftSib {α : Type} {cs : List α} {k : Nat} {l : α}
    (h : (if k > 0 then cs[k - 1]? else none) = some l) : 0 < k ∧ cs[k - 1]? = some l := by
  by_cases hk : k > 0
  · rw [if_pos hk] at h; exact ⟨hk, h⟩
  · rw [if_neg hk] at h; cases h

theorem msl_rightSib {α : Type} {cs : List α} {k n : Nat} {y : α}
    (h : (if k + 1 < n then cs[k + 1]? else none) = some y) : k + 1 < n ∧ cs[k + 1]? = some y := by
  by_cases hk : k + 1 < n
  · rw [if_pos hk] at h; exact ⟨hk, h⟩
  · rw [if_neg hk] at h; cases h

/-- what the generated `MergeOrRebalanceChildSlab` does with a plan: the call it makes, and what it hands back of the
    result - the child object is the operand the child was passed as, and is left as it was when the child is merged INTO
    its left sibling; without a sibling it panics (`Merge` of the child with the nil interface value) -/
def msl_genExec (env : Env (MElemF (MElems r)) V W X S GE) (mm : MapMetaDataSlab X) (s : S) (d : Nat) (child : MTree r d)
    (k : Nat) : Plan (MTree r d) → Option (Option GE × MapMetaDataSlab X × S × MapSlab (MElemF (MElems r)) V X)
  | .panic => none
  | .rebalL l =>
    match MapMetaDataSlab_rebalanceChildren env mm s (cTree d l) (cTree d child) (Int.ofNat (k - 1)) (Int.ofNat k) false with
    | none => none
    | some q => some (q.1, q.2.1, q.2.2.1, q.2.2.2.2)
  | .rebalR y =>
    match MapMetaDataSlab_rebalanceChildren env mm s (cTree d child) (cTree d y) (Int.ofNat k) (Int.ofNat (k + 1)) true with
    | none => none
    | some q => some (q.1, q.2.1, q.2.2.1, q.2.2.2.1)
  | .mergeL l =>
    match MapMetaDataSlab_mergeChildren env mm s (cTree d l) (cTree d child) (Int.ofNat (k - 1)) (Int.ofNat k) with
    | none => none
    | some q => some (q.1, q.2.1, q.2.2.1, cTree d child)
  | .mergeR y =>
    match MapMetaDataSlab_mergeChildren env mm s (cTree d child) (cTree d y) (Int.ofNat k) (Int.ofNat (k + 1)) with
    | none => none
    | some q => some (q.1, q.2.1, q.2.2.1, q.2.2.2)

-- the four sibling configurations share one `simp only` list, of which each uses a part
set_option linter.unusedSimpArgs false in
/-- The generated `MergeOrRebalanceChildSlab` reads the two neighbours of child `k`, decides by the table `Core.plan` (the
    decisions of the model: `MMetaSlab.mor_eq_plan`) and carries the plan out (`msl_genExec`): no `Store`, no model
    function, any storage.  Hypotheses:
    * `hlen`, `hk`: the model's embedded children match the headers; the child index is in range;
    * `hret`: the storage returns the SIBLINGS `k - 1`, `k + 1` (not child `k`: its stored version is stale) and is
      left unchanged by `Retrieve`;
    * `hcr`, `hcl`: the two untranslated decision methods `CanLendToRight` (left sibling) / `CanLendToLeft` (right
      sibling) decide as the model does;
    * `hsize`: the siblings' header sizes fit `uint32` (the two `ByteSize` comparisons). -/
theorem MapMetaDataSlab_MergeOrRebalanceChildSlab_eq_plan (d : Nat)
    (m : MMetaSlab (MTree r d)) (x : Option X) (child : MTree r d) (k u : Nat) (s : S)
    (hlen : m.children.length = m.childHdrs.length) (hk : k < m.childHdrs.length)
    (hret : ∀ i t h, (i + 1 = k ∨ i = k + 1) → m.children[i]? = some t → m.childHdrs[i]? = some h →
      env.SlabStorage_Retrieve s h.id = (cTree d t, true, none, s))
    (hcr : ∀ t, 0 < k → m.children[k - 1]? = some t →
      env.MapSlab_CanLendToRight (cTree d t) (u32 u) = MTree.canLendToRight T d t u)
    (hcl : ∀ t, m.children[k + 1]? = some t →
      env.MapSlab_CanLendToLeft (cTree d t) (u32 u) = MTree.canLendToLeft T d t u)
    (hsize : ∀ i t, (i + 1 = k ∨ i = k + 1) → m.children[i]? = some t → (MTree.hdr d t).size < 2^32) :
    MapMetaDataSlab_MergeOrRebalanceChildSlab env (cMeta m x) s (cTree d child) (Int.ofNat k) (u32 u) =
      msl_genExec env (cMeta m x) s d child k
        (plan (MTree.canLendToRight T d · u) (MTree.canLendToLeft T d · u) (fun t => (MTree.hdr d t).size)
          (if k > 0 then m.children[k - 1]? else none)
          (if k + 1 < m.childHdrs.length then m.children[k + 1]? else none)) := by
  have hcm : (cMeta m x).childrenHeaders = m.childHdrs.map cHdr := rfl
  have isNil_nil : (MapSlab.nil : MapSlab (MElemF (MElems r)) V X).isNil = true := rfl
  -- the facts first: with the generated body unfolded in the goal every `generalize` is dear
  by_cases hk0 : 0 < k
  · have hp := msl_intOfNat_pred k hk0
    have hlc' : k - 1 < m.children.length := by omega
    have hlh' : k - 1 < m.childHdrs.length := by omega
    have hls : m.children[k - 1]? = some (m.children[k - 1]) := List.getElem?_eq_getElem hlc'
    have hlh : m.childHdrs[k - 1]? = some (m.childHdrs[k - 1]) := List.getElem?_eq_getElem hlh'
    generalize m.children[k - 1] = ls at hls
    generalize m.childHdrs[k - 1] = lh at hlh
    have hgl : getMapSlab env s (cHdr lh).slabID = (cTree d ls, none, s) :=
      getMapSlab_cTree env s s _ d ls (hret (k - 1) ls lh (Or.inl (by omega)) hls hlh)
    have hcr' := hcr ls hk0 hls
    by_cases hkr : k + 1 < m.childHdrs.length
    · -- both siblings
      have hxc : k + 1 < m.children.length := by omega
      have hxs : m.children[k + 1]? = some (m.children[k + 1]) := List.getElem?_eq_getElem hxc
      have hxh : m.childHdrs[k + 1]? = some (m.childHdrs[k + 1]) := List.getElem?_eq_getElem hkr
      generalize m.children[k + 1] = xs at hxs
      generalize m.childHdrs[k + 1] = xh at hxh
      have hgx : getMapSlab env s (cHdr xh).slabID = (cTree d xs, none, s) :=
        getMapSlab_cTree env s s _ d xs (hret (k + 1) xs xh (Or.inr rfl) hxs hxh)
      have hcl' := hcl xs hxs
      have hsl := hsize (k - 1) ls (Or.inl (by omega)) hls
      have hsx := hsize (k + 1) xs (Or.inr rfl) hxs
      simp only [MapMetaDataSlab_MergeOrRebalanceChildSlab, plan, hcm, List.length_map, msl_int_dgt0, msl_int_dlt_pred,
        msl_intOfNat_succ, gt_iff_lt, hk0, hkr, decide_true, decide_false, if_true, if_false, Bool.false_eq_true,
        msl_goIdx_map_ofNat, Option.map_some, Option.isNone_none, Bool.not_true, Bool.not_false, isNil_nil,
        msl_cTree_isNil, Bool.true_and, Bool.false_and, hp, hlh, hls, hgl, hcr', hxh, hxs, hgx, hcl',
        MapSlab_ByteSize_cTree, u32_dgt hsl hsx,
        u32_dlt hsl hsx]
      cases hlc : MTree.canLendToRight T d ls u <;> cases hrc : MTree.canLendToLeft T d xs u <;>
        simp only [Bool.or_false, Bool.or_true, Bool.false_or, Bool.true_or, Bool.not_true, Bool.not_false, if_true,
          if_false, Bool.false_eq_true]
      · -- neither can lend: merge with the smaller sibling
        by_cases hlt : (MTree.hdr d ls).size < (MTree.hdr d xs).size
        · simp only [hlt, decide_true, if_true]
          simp only [msl_genExec]
          cases MapMetaDataSlab_mergeChildren env (cMeta m x) s (cTree d ls) (cTree d child) (Int.ofNat (k - 1)) (Int.ofNat k) <;> rfl
        · simp only [hlt, decide_false, if_false, Bool.false_eq_true]
          simp only [msl_genExec]
          cases MapMetaDataSlab_mergeChildren env (cMeta m x) s (cTree d child) (cTree d xs) (Int.ofNat k) (Int.ofNat (k + 1)) <;> rfl
      · simp only [msl_genExec]
        cases MapMetaDataSlab_rebalanceChildren env (cMeta m x) s (cTree d child) (cTree d xs) (Int.ofNat k) (Int.ofNat (k + 1)) true <;> rfl
      · simp only [msl_genExec]
        cases MapMetaDataSlab_rebalanceChildren env (cMeta m x) s (cTree d ls) (cTree d child) (Int.ofNat (k - 1)) (Int.ofNat k) false <;> rfl
      · -- both can lend: rebalance with the bigger sibling
        by_cases hgt : (MTree.hdr d ls).size > (MTree.hdr d xs).size
        · simp only [hgt, decide_true, if_true]
          simp only [msl_genExec]
          cases MapMetaDataSlab_rebalanceChildren env (cMeta m x) s (cTree d ls) (cTree d child) (Int.ofNat (k - 1)) (Int.ofNat k) false <;> rfl
        · simp only [hgt, decide_false, if_false, Bool.false_eq_true]
          simp only [msl_genExec]
          cases MapMetaDataSlab_rebalanceChildren env (cMeta m x) s (cTree d child) (cTree d xs) (Int.ofNat k) (Int.ofNat (k + 1)) true <;> rfl
    · -- only the left sibling
      simp only [MapMetaDataSlab_MergeOrRebalanceChildSlab, plan, hcm, List.length_map, msl_int_dgt0, msl_int_dlt_pred,
        msl_intOfNat_succ, gt_iff_lt, hk0, hkr, decide_true, decide_false, if_true, if_false, Bool.false_eq_true,
        msl_goIdx_map_ofNat, Option.map_some, Option.isNone_none, Bool.not_true, Bool.not_false, isNil_nil,
        msl_cTree_isNil, Bool.true_and, Bool.false_and, hp, hlh, hls, hgl, hcr']
      cases hlc : MTree.canLendToRight T d ls u <;> simp only [Bool.or_false, Bool.or_true, Bool.false_or,
        Bool.true_or, Bool.not_true, Bool.not_false, if_true, if_false, Bool.false_eq_true]
      · simp only [msl_genExec]
        cases MapMetaDataSlab_mergeChildren env (cMeta m x) s (cTree d ls) (cTree d child) (Int.ofNat (k - 1)) (Int.ofNat k) <;> rfl
      · simp only [msl_genExec]
        cases MapMetaDataSlab_rebalanceChildren env (cMeta m x) s (cTree d ls) (cTree d child) (Int.ofNat (k - 1)) (Int.ofNat k) false <;> rfl
  · by_cases hkr : k + 1 < m.childHdrs.length
    · -- only the right sibling
      have hxc : k + 1 < m.children.length := by omega
      have hxs : m.children[k + 1]? = some (m.children[k + 1]) := List.getElem?_eq_getElem hxc
      have hxh : m.childHdrs[k + 1]? = some (m.childHdrs[k + 1]) := List.getElem?_eq_getElem hkr
      generalize m.children[k + 1] = xs at hxs
      generalize m.childHdrs[k + 1] = xh at hxh
      have hgx : getMapSlab env s (cHdr xh).slabID = (cTree d xs, none, s) :=
        getMapSlab_cTree env s s _ d xs (hret (k + 1) xs xh (Or.inr rfl) hxs hxh)
      have hcl' := hcl xs hxs
      simp only [MapMetaDataSlab_MergeOrRebalanceChildSlab, plan, hcm, List.length_map, msl_int_dgt0, msl_int_dlt_pred,
        msl_intOfNat_succ, gt_iff_lt, hk0, hkr, decide_true, decide_false, if_true, if_false, Bool.false_eq_true,
        msl_goIdx_map_ofNat, Option.map_some, Option.isNone_none, Bool.not_true, Bool.not_false, isNil_nil,
        msl_cTree_isNil, Bool.true_and, Bool.false_and, hxh, hxs, hgx, hcl']
      cases hrc : MTree.canLendToLeft T d xs u <;> simp only [Bool.or_false, Bool.or_true, Bool.false_or, Bool.true_or,
        Bool.not_true, Bool.not_false, if_true, if_false, Bool.false_eq_true]
      · simp only [msl_genExec]
        cases MapMetaDataSlab_mergeChildren env (cMeta m x) s (cTree d child) (cTree d xs) (Int.ofNat k) (Int.ofNat (k + 1)) <;> rfl
      · simp only [msl_genExec]
        cases MapMetaDataSlab_rebalanceChildren env (cMeta m x) s (cTree d child) (cTree d xs) (Int.ofNat k) (Int.ofNat (k + 1)) true <;> rfl
    · -- no sibling at all: `Merge` with the nil interface value panics
      simp only [MapMetaDataSlab_MergeOrRebalanceChildSlab, plan, hcm, List.length_map, msl_int_dgt0, msl_int_dlt_pred,
        msl_intOfNat_succ, gt_iff_lt, hk0, hkr, decide_true, decide_false, if_true, if_false, Bool.false_eq_true,
        msl_goIdx_map_ofNat, Option.map_some, Option.isNone_none, Bool.not_true, Bool.not_false, isNil_nil,
        msl_cTree_isNil, Bool.true_and, Bool.false_and, Bool.or_false, MapMetaDataSlab_mergeChildren,
        MapSlab_Merge_nil, msl_genExec]

end tree

/-! ## the same with the storage that only logs (`S := Ctx`, `EnvS`): the storage after the call is the model's `Ctx` -/

section treeCtx
variable {r : Nat} {V W X : Type} (T : Nat) (env : Env (MElemF (MElems r)) V W X Ctx GE)

theorem MapSlab_Header_cTree (d : Nat) (t : MTree r d) :
    MapSlab_Header env (cTree d t) = some (cHdr (MTree.hdr d t)) :=
  MapSlab_Header_cTree_any env d t

theorem MapSlab_IsData_cTree (d : Nat) (t : MTree r d) :
    MapSlab_IsData env (cTree d t) = some (decide (d = 0)) := by
  cases d <;> rfl

theorem MapSlab_SetSlabID_cTree (d : Nat) (t : MTree r d) (id : SlabID) :
    MapSlab_SetSlabID env (cTree d t) id = some (cTree d (MTree.setId d t id)) := by
  cases d <;> rfl

/-- `storeSlab` on a subtree root: the store effect, no error -/
theorem msl_storeSlab_cTree (hS : EnvS env) (c : Ctx) (d : Nat) (t : MTree r d) :
    storeSlab env c (cTree d t) = some (none, c.emit (.store (MTree.hdr d t).id)) := by
  rw [hS.ok.storeSlab_tree, hS.mstored]

theorem msl_storeSlab_cMeta (hS : EnvS env) (c : Ctx) {α : Type} (m : MMetaSlab α) (x : Option X) :
    storeSlab env c (.metaSlab (cMeta m x)) = some (none, c.emit (.store m.hdr.id)) := by
  rw [hS.ok.storeSlab_meta, hS.mstored]; rfl

theorem MapSlab_Split_eq_model (hE : EnvH (MDataSlab.eops r) T env) (hS : EnvS env) (d : Nat) (t : MTree r d) (c : Ctx)
    (h : msl_SplitOK d t) :
    MapSlab_Split env (cTree d t) c =
      match MTree.split d t c with
      | .error e => some (.nil, .nil, some e, cTree d t, c)
      | .ok (l, rr, c') => some (cTree d l, cTree d rr, none, cTree d l, c') :=
  MapSlab_Split_any T env hE hS.ctxOf d t c h

theorem MapSlab_Merge_eq_model (d : Nat) (l rr : MTree r d) (h : msl_MergeOK d l rr) :
    MapSlab_Merge env (cTree d l) (cTree d rr) = some (none, cTree d (MTree.merge d l rr)) :=
  MapSlab_Merge_any env d l rr h

theorem MapSlab_LendToRight_eq_model (hE : EnvH (MDataSlab.eops r) T env) (d : Nat) (l rr : MTree r d)
    (h : msl_LendOK T d l rr) :
    MapSlab_LendToRight env (cTree d l) (cTree d rr) =
      match MTree.lendToRight T d l rr with
      | .error e => some (some e, cTree d l, cTree d rr)
      | .ok (l', r') => some (none, cTree d l', cTree d r') :=
  MapSlab_LendToRight_any T env hE d l rr h

theorem MapSlab_BorrowFromRight_eq_model (hE : EnvH (MDataSlab.eops r) T env) (d : Nat) (l rr : MTree r d)
    (h : msl_BorrowOK T d l rr) :
    MapSlab_BorrowFromRight env (cTree d l) (cTree d rr) =
      match MTree.borrowFromRight T d l rr with
      | .error e => some (some e, cTree d l, cTree d rr)
      | .ok (l', r') => some (none, cTree d l', cTree d r') :=
  MapSlab_BorrowFromRight_any T env hE d l rr h

theorem MapMetaDataSlab_SplitChildSlab_eq_model (hE : EnvH (MDataSlab.eops r) T env) (hS : EnvS env) (d : Nat)
    (m : MMetaSlab (MTree r d)) (x : Option X) (child : MTree r d) (k : Nat) (c : Ctx)
    (hk : k < m.childHdrs.length) (hok : msl_SplitOK d child) :
    MapMetaDataSlab_SplitChildSlab env (cMeta m x) c (cTree d child) (Int.ofNat k) =
      match MMetaSlab.splitChildSlab m child k c with
      | .error e => some (some e, cMeta m x, c, cTree d child)
      | .ok (m', c') => some (none, cMeta m' x, c', cTree d (msl_splitLeft d child c)) := by
  rw [MapMetaDataSlab_SplitChildSlab_any T env hE hS.ok hS.ctxOf d m x child k c hk hok]
  simp only [MMetaSlab.splitChildSlab, msl_splitLeft, id]
  cases MTree.split d child c with
  | error e => rfl
  | ok p => simp only [hS.mstored]; rfl

theorem MapMetaDataSlab_rebalanceChildren_eq_model (hE : EnvH (MDataSlab.eops r) T env) (hS : EnvS env) (d : Nat)
    (m : MMetaSlab (MTree r d)) (x : Option X) (l rr : MTree r d) (li ri : Nat) (b : Bool) (c : Ctx)
    (hli : li < m.childHdrs.length) (hri : ri < m.childHdrs.length) (hok : msl_RebalanceOK T d l rr b) :
    MapMetaDataSlab_rebalanceChildren env (cMeta m x) c (cTree d l) (cTree d rr) (Int.ofNat li) (Int.ofNat ri) b =
      match MMetaSlab.rebalanceChildren T m l rr li ri b c with
      | .error e => some (some e, cMeta m x, c, cTree d l, cTree d rr)
      | .ok (m', c') =>
        some (none, cMeta m' x, c', cTree d (msl_rebalanced T d l rr b).1, cTree d (msl_rebalanced T d l rr b).2) := by
  rw [MapMetaDataSlab_rebalanceChildren_any T env hE hS.ok d m x l rr li ri b c c hli hri hok,
    MMetaSlab.msl_rebalanceChildren_eq, msl_rebalanced]
  cases (if b = true then MTree.borrowFromRight T d l rr else MTree.lendToRight T d l rr) with
  | error e => rfl
  | ok p => simp only [hS.mstored]

theorem MapMetaDataSlab_mergeChildren_eq_model (hS : EnvS env) (d : Nat)
    (m : MMetaSlab (MTree r d)) (x : Option X) (l rr : MTree r d) (li ri : Nat) (c : Ctx)
    (hli : li < m.childHdrs.length) (hri : ri < m.childHdrs.length)
    (hsz : Gen.mapSlabHeaderSize ≤ m.hdr.size) (hok : msl_MergeOK d l rr) :
    MapMetaDataSlab_mergeChildren env (cMeta m x) c (cTree d l) (cTree d rr) (Int.ofNat li) (Int.ofNat ri) =
      some (none, cMeta (MMetaSlab.mergeChildren m l rr li ri c).1 x, (MMetaSlab.mergeChildren m l rr li ri c).2,
        cTree d (MTree.merge d l rr)) := by
  rw [MapMetaDataSlab_mergeChildren_any env hS.ok d m x l rr li ri c c hli hri hsz hok, hS.mremoved, hS.mstored,
    hS.mstored]
  rfl

theorem msl_getMapSlab_cTree (c : Ctx) (id : SlabID) (d : Nat) (t : MTree r d)
    (h : env.SlabStorage_Retrieve c id = (cTree d t, true, none, c)) :
    getMapSlab env c id = (cTree d t, none, c) :=
  getMapSlab_cTree env c c id d t h

/-- closes a rebalance leaf of `MergeOrRebalanceChildSlab`: rewrite the call of the generated `rebalanceChildren` with
    its theorem, then both sides are matches on the model's result (whose only error is `slabRebalance`) -/
local macro "mor_rebalance " thm:term ", " mdl:term ", " herr:term : tactic =>
  `(tactic| (rw [$thm:term]; cases hres : $mdl:term with
      | error e => rw [$herr:term e hres]
      | ok p => rfl))

/-- `MapMetaDataSlab.MergeOrRebalanceChildSlab` = `MMetaSlab.mergeOrRebalanceChildSlab`, the whole 3 x 3 decision table
    (which siblings exist x who can lend): the error class, the parent IN FULL, the storage state (every effect, in
    order) and the child object (`msl_morChild`).  The model's `.error .goPanic` ("no sibling at all") is the generated
    `none` (Go: `Merge` of the child with the nil interface value, a failed type assertion); the only other error is
    the `SlabRebalanceError` of the data-slab rebalance, which leaves parent, storage and child untouched.
    Hypotheses:
    * `hlen`, `hk`: the model's embedded children match the headers; the child index is in range;
    * `hsz`: the parent's header size covers one child header (FORCED, merges only: Go's `size -= 18` wraps around,
      the model's truncated subtraction gives 0);
    * `hret`: the storage returns the SIBLINGS `k - 1`, `k + 1` (not child `k`: its stored version is stale) and is
      left unchanged by `Retrieve`;
    * `hcr`, `hcl`: the two untranslated decision methods `CanLendToRight` (left sibling) / `CanLendToLeft` (right
      sibling) decide as the model does;
    * `hsize`: the siblings' header sizes fit `uint32` (the two `ByteSize` comparisons);
    * `hLend`, `hBorrow`: the hypotheses of the slab-level rebalance theorems, only for a sibling that can lend;
      `hMergeL`, `hMergeR`: those of the merge theorems. -/
theorem MapMetaDataSlab_MergeOrRebalanceChildSlab_eq_model (hE : EnvH (MDataSlab.eops r) T env) (hS : EnvS env) (d : Nat)
    (m : MMetaSlab (MTree r d)) (x : Option X) (child : MTree r d) (k u : Nat) (c : Ctx)
    (hlen : m.children.length = m.childHdrs.length) (hk : k < m.childHdrs.length)
    (hsz : Gen.mapSlabHeaderSize ≤ m.hdr.size)
    (hret : ∀ i t h, (i + 1 = k ∨ i = k + 1) → m.children[i]? = some t → m.childHdrs[i]? = some h →
      env.SlabStorage_Retrieve c h.id = (cTree d t, true, none, c))
    (hcr : ∀ t, 0 < k → m.children[k - 1]? = some t →
      env.MapSlab_CanLendToRight (cTree d t) (u32 u) = MTree.canLendToRight T d t u)
    (hcl : ∀ t, m.children[k + 1]? = some t →
      env.MapSlab_CanLendToLeft (cTree d t) (u32 u) = MTree.canLendToLeft T d t u)
    (hsize : ∀ i t, (i + 1 = k ∨ i = k + 1) → m.children[i]? = some t → (MTree.hdr d t).size < 2^32)
    (hLend : ∀ t, 0 < k → m.children[k - 1]? = some t → MTree.canLendToRight T d t u = true → msl_LendOK T d t child)
    (hBorrow : ∀ t, m.children[k + 1]? = some t → MTree.canLendToLeft T d t u = true → msl_BorrowOK T d child t)
    (hMergeL : ∀ t, 0 < k → m.children[k - 1]? = some t → msl_MergeOK d t child)
    (hMergeR : ∀ t, m.children[k + 1]? = some t → msl_MergeOK d child t) :
    MapMetaDataSlab_MergeOrRebalanceChildSlab env (cMeta m x) c (cTree d child) (Int.ofNat k) (u32 u) =
      match MMetaSlab.mergeOrRebalanceChildSlab T m child k u c with
      | .error .goPanic => none
      | .error e => some (some e, cMeta m x, c, cTree d child)
      | .ok (m', c') => some (none, cMeta m' x, c', cTree d (msl_morChild T d m child k u)) := by
  rw [MapMetaDataSlab_MergeOrRebalanceChildSlab_eq_plan T env d m x child k u c hlen hk hret hcr hcl hsize,
    MMetaSlab.mor_eq_plan, msl_morChild_eq_plan]
  refine plan_cases (Q := fun p => msl_genExec env (cMeta m x) c d child k p =
      match m.exec T child k c p with
      | .error .goPanic => none
      | .error e => some (some e, cMeta m x, c, cTree d child)
      | .ok (m', c') => some (none, cMeta m' x, c', cTree d (msl_planChild T d child p))) _ _ _ _ _
    (fun _ _ => rfl) ?_ ?_ ?_ ?_
  · intro l hl hc
    obtain ⟨hk0, hl'⟩ := msl_leftSib hl
    simp only [msl_genExec, MMetaSlab.exec, msl_planChild]
    mor_rebalance (MapMetaDataSlab_rebalanceChildren_eq_model T env hE hS d m x l child (k - 1) k false c (by omega) hk
        (hLend l hk0 hl' hc)), (m.rebalanceChildren T l child (k - 1) k false c),
        (MMetaSlab.msl_rebalanceChildren_error T d m l child (k - 1) k false c)
  · intro y hy hc
    obtain ⟨hk1, hy'⟩ := msl_rightSib hy
    simp only [msl_genExec, MMetaSlab.exec, msl_planChild]
    mor_rebalance (MapMetaDataSlab_rebalanceChildren_eq_model T env hE hS d m x child y k (k + 1) true c hk hk1
        (hBorrow y hy' hc)), (m.rebalanceChildren T child y k (k + 1) true c),
        (MMetaSlab.msl_rebalanceChildren_error T d m child y k (k + 1) true c)
  · intro l hl _ _
    obtain ⟨hk0, hl'⟩ := msl_leftSib hl
    simp only [msl_genExec, MMetaSlab.exec, msl_planChild]
    rw [MapMetaDataSlab_mergeChildren_eq_model env hS d m x l child (k - 1) k c (by omega) hk hsz (hMergeL l hk0 hl')]
  · intro y hy _ _
    obtain ⟨hk1, hy'⟩ := msl_rightSib hy
    simp only [msl_genExec, MMetaSlab.exec, msl_planChild]
    rw [MapMetaDataSlab_mergeChildren_eq_model env hS d m x child y k (k + 1) c hk hk1 hsz (hMergeR y hy')]

/-- "no sibling at all" (a parent with a single child): the generated code panics (`none`), the model reports
    `.goPanic` - no further hypothesis -/
theorem MapMetaDataSlab_MergeOrRebalanceChildSlab_no_sibling (d : Nat)
    (m : MMetaSlab (MTree r d)) (x : Option X) (child : MTree r d) (u : Nat) (c : Ctx)
    (hone : m.childHdrs.length = 1) :
    MapMetaDataSlab_MergeOrRebalanceChildSlab env (cMeta m x) c (cTree d child) (Int.ofNat 0) (u32 u) = none ∧
    MMetaSlab.mergeOrRebalanceChildSlab T m child 0 u c = .error .goPanic := by
  have hcm : (cMeta m x).childrenHeaders = m.childHdrs.map cHdr := rfl
  have isNil_nil : (MapSlab.nil : MapSlab (MElemF (MElems r)) V X).isNil = true := rfl
  constructor
  · simp only [MapMetaDataSlab_MergeOrRebalanceChildSlab, hcm, List.length_map, msl_int_dgt0, msl_int_dlt_pred, hone,
      gt_iff_lt, Nat.lt_irrefl, decide_false, Bool.false_eq_true, if_false, isNil_nil, Bool.not_true, Bool.false_and,
      Bool.or_false, if_true, MapMetaDataSlab_mergeChildren, MapSlab_Merge_nil]
  · simp only [MMetaSlab.mergeOrRebalanceChildSlab, hone, gt_iff_lt, Nat.lt_irrefl, if_false, Bool.or_false,
      Bool.false_eq_true]

end treeCtx

/-! ## non-vacuity: a parent with three index-slab children (depth 1), T = 100 (`minThreshold` = 50) -/

section examples

/-- grandchild header `i` -/
private def msl_hdrG (i : Nat) : MHdr := { id := ⟨1, 100 + i⟩, size := 60, firstKey := 10 * i }

/-- an index slab (a subtree root of depth 1) with slab ID (1, id) and the child headers `is`; the model's embedded
    grandchildren play no role at this level -/
private def msl_sibEx (id : Nat) (is : List Nat) : MTree 0 1 :=
  ({ hdr := { id := ⟨1, id⟩, size := 12 + 18 * is.length, firstKey := 10 * is.headD 0 },
     childHdrs := is.map msl_hdrG, children := [], root := false } : MMetaSlab (MTree 0 0))

/-- the parent (1, 9) of the children `cs` -/
private def msl_parentEx (cs : List (MTree 0 1)) : MMetaSlab (MTree 0 1) :=
  { hdr := { id := ⟨1, 9⟩, size := 12 + 18 * cs.length, firstKey := ((cs.map (MTree.hdr 1)).headD default).firstKey },
    childHdrs := cs.map (MTree.hdr 1), children := cs, root := true }

/-- Go's `MapMetaDataSlab.CanLendToLeft / CanLendToRight` on an index slab (threshold 100) -/
private def msl_canLendEx (s : MapSlab (MElemF (MElems 0)) Unit Unit) (w : UInt32) : Bool :=
  match s with
  | .metaSlab o =>
    let n := (w.toNat + 17) / 18
    if o.header.size.toNat ≥ 18 * n then o.header.size.toNat - 18 * n > 50 else false
  | _ => false

/-- the model's environment with a storage that holds the slabs `heap` -/
private def msl_envT (heap : List (MTree 0 1)) : Env (MElemF (MElems 0)) Unit Unit Unit Ctx GE :=
  { envMap (MDataSlab.eops 0) 100 1 with
    SlabStorage_Retrieve := fun c id =>
      match heap.find? (fun t => (MTree.hdr 1 t).id == id) with
      | some t => (cTree 1 t, true, none, c)
      | none => (.nil, false, none, c)
    MapSlab_CanLendToLeft := msl_canLendEx
    MapSlab_CanLendToRight := msl_canLendEx }

private theorem msl_envT_EnvH (heap : List (MTree 0 1)) : EnvH (MDataSlab.eops 0) 100 (msl_envT heap) :=
  ⟨fun _ => rfl, rfl, rfl, rfl, rfl, rfl, rfl⟩
private theorem msl_envT_EnvS (heap : List (MTree 0 1)) : EnvS (msl_envT heap) := ⟨fun _ _ => rfl, fun _ _ _ => rfl, fun _ _ => rfl, rfl⟩

/-- what the examples look at: error, the parent's size / first key / child IDs and sizes, the effects, the child's
    slab ID and number of child headers -/
private def msl_obsR (res : Option (Option GE × MapMetaDataSlab Unit × Ctx × MapSlab (MElemF (MElems 0)) Unit Unit)) :
    Option (Option GE × Nat × Nat × List (Nat × Nat) × List Eff × Option (Nat × Nat)) :=
  res.map fun p =>
    (p.1, p.2.1.header.size.toNat, p.2.1.header.firstKey.toNat,
      p.2.1.childrenHeaders.map (fun h => (h.slabID.idx, h.size.toNat)), p.2.2.1.eff,
      match p.2.2.2 with
      | .metaSlab o => some (o.header.slabID.idx, o.childrenHeaders.length)
      | _ => none)

private def msl_lEx := msl_sibEx 1 [1, 2, 3, 4, 5]
private def msl_cEx := msl_sibEx 2 [6]
private def msl_rEx := msl_sibEx 3 [7, 8, 9]
private def msl_c0 : Ctx := ⟨40, [], []⟩

/-- child 1 of 3 underflows by 20; the left sibling (5 children, 102 bytes) can lend, the right one (3 children, 66
    bytes) cannot: rebalance with the left sibling, 5 + 1 -> 3 + 3; the returned child is the updated right operand.
    The theorem applies (all its hypotheses hold) ... -/
example : MapMetaDataSlab_MergeOrRebalanceChildSlab (msl_envT [msl_lEx, msl_rEx]) (cMeta (msl_parentEx [msl_lEx, msl_cEx, msl_rEx]) none) msl_c0
      (cTree 1 msl_cEx) (Int.ofNat 1) (u32 20) =
    match MMetaSlab.mergeOrRebalanceChildSlab 100 (msl_parentEx [msl_lEx, msl_cEx, msl_rEx]) msl_cEx 1 20 msl_c0 with
    | .error .goPanic => none
    | .error e => some (some e, cMeta (msl_parentEx [msl_lEx, msl_cEx, msl_rEx]) none, msl_c0, cTree 1 msl_cEx)
    | .ok (m', c') => some (none, cMeta m' none, c', cTree 1 (msl_morChild 100 1 (msl_parentEx [msl_lEx, msl_cEx, msl_rEx]) msl_cEx 1 20)) := by
  refine MapMetaDataSlab_MergeOrRebalanceChildSlab_eq_model 100 _ (msl_envT_EnvH _) (msl_envT_EnvS _) 1 _ none msl_cEx 1 20 msl_c0
    (by decide) (by decide) (by decide) ?_ ?_ ?_ ?_ ?_ ?_ ?_ ?_
  · intro i t h hi ht hh
    rcases hi with hi | hi
    · obtain rfl : i = 0 := by omega
      cases ht; cases hh; rfl
    · subst hi
      cases ht; cases hh; rfl
  · intro t _ ht; cases ht; decide
  · intro t ht; cases ht; decide
  · intro i t hi ht
    rcases hi with hi | hi
    · obtain rfl : i = 0 := by omega
      cases ht; decide
    · subst hi; cases ht; decide
  · intro t _ ht _; cases ht; exact ⟨by decide, by decide⟩
  · intro t ht hc; cases ht; exact absurd hc (by decide)
  · intro t _ ht; cases ht; exact (by decide : (12 : Nat) ≤ 30)
  · intro t ht; cases ht; exact (by decide : (12 : Nat) ≤ 66)

/-- ... and the generated code evaluated: parent size unchanged (66), children (1, 66) (2, 66) (3, 66), the three
    `Store`s left - right - parent, the child is slab 2 with 3 child headers now -/
example : msl_obsR (MapMetaDataSlab_MergeOrRebalanceChildSlab (msl_envT [msl_lEx, msl_rEx]) (cMeta (msl_parentEx [msl_lEx, msl_cEx, msl_rEx]) none) msl_c0
      (cTree 1 msl_cEx) (Int.ofNat 1) (u32 20)) =
    some (none, 66, 10, [(1, 66), (2, 66), (3, 66)], [.store ⟨1, 1⟩, .store ⟨1, 2⟩, .store ⟨1, 9⟩], some (2, 3)) := by
  rfl

/-- neither sibling can lend (left: 2 children, 48 bytes; right: 3 children, 66 bytes): the child is merged INTO its
    smaller left sibling - parent size 66 - 18, children (1, 66) (3, 66), effects `Store` merged - `Store` parent -
    `Remove` child, and the returned child object is UNCHANGED (slab 2, 1 child header), in Go as in the model -/
example : msl_obsR (MapMetaDataSlab_MergeOrRebalanceChildSlab (msl_envT [msl_sibEx 1 [1, 2], msl_rEx])
      (cMeta (msl_parentEx [msl_sibEx 1 [1, 2], msl_cEx, msl_rEx]) none) msl_c0 (cTree 1 msl_cEx) (Int.ofNat 1) (u32 20)) =
    some (none, 48, 10, [(1, 66), (3, 66)], [.store ⟨1, 1⟩, .store ⟨1, 9⟩, .remove ⟨1, 2⟩], some (2, 1)) ∧
    (match MMetaSlab.mergeOrRebalanceChildSlab 100 (msl_parentEx [msl_sibEx 1 [1, 2], msl_cEx, msl_rEx]) msl_cEx 1 20 msl_c0 with
     | .ok (m', c') => some (m'.hdr.size, m'.childHdrs.map (fun h => (h.id.idx, h.size)), c'.eff)
     | .error _ => none) =
    some (48, [(1, 66), (3, 66)], [.store ⟨1, 1⟩, .store ⟨1, 9⟩, .remove ⟨1, 2⟩]) ∧
    (msl_morChild 100 1 (msl_parentEx [msl_sibEx 1 [1, 2], msl_cEx, msl_rEx]) msl_cEx 1 20 : MMetaSlab (MTree 0 0)).childHdrs.length = 1 :=
  ⟨by rfl, by rfl, by rfl⟩

/-- a parent with a single child: the generated code panics, the model says `.goPanic` -/
example : MapMetaDataSlab_MergeOrRebalanceChildSlab (msl_envT []) (cMeta (msl_parentEx [msl_cEx]) none) msl_c0 (cTree 1 msl_cEx)
      (Int.ofNat 0) (u32 20) = none ∧
    MMetaSlab.mergeOrRebalanceChildSlab 100 (msl_parentEx [msl_cEx]) msl_cEx 0 20 msl_c0 = .error .goPanic :=
  MapMetaDataSlab_MergeOrRebalanceChildSlab_no_sibling 100 _ 1 _ none msl_cEx 20 msl_c0 rfl

/-! ### where the code and the model part outside the hypotheses (concrete input) -/

/-- `mergeChildren` with a parent header size below one child header (here 10, hypothesis `hsz` violated): Go's
    `10 - 18` wraps around to `2^32 - 8`, the model's truncated subtraction gives 0 -/
example :
    let p : MMetaSlab (MTree 0 1) := { msl_parentEx [msl_cEx, msl_rEx] with hdr := { id := ⟨1, 9⟩, size := 10, firstKey := 60 } }
    (MapMetaDataSlab_mergeChildren (msl_envT []) (cMeta p none) msl_c0 (cTree 1 msl_cEx) (cTree 1 msl_rEx) (Int.ofNat 0)
      (Int.ofNat 1)).map (fun q => q.2.1.header.size.toNat) = some (2 ^ 32 - 8) ∧
    (MMetaSlab.mergeChildren p msl_cEx msl_rEx 0 1 msl_c0).1.hdr.size = 0 :=
  ⟨by rfl, by rfl⟩

end examples

end Atree.TransEq

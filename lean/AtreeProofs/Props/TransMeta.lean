import AtreeProofs.Props.TransLoops
import AtreeProofs.Map.Search
/-
  Translation equivalence of the stateless engine: routing in map index slabs (the binary search of
  `getChildSlabByDigest`, `Set`, `Remove`) and the size arithmetic of the index slabs - `Split` / `LendToRight` /
  `BorrowFromRight` of `MapMetaDataSlab`, and `ArrayMetaDataSlab.Split` with its count loop.
-/
namespace Atree.TransEq
open Atree Atree.Gen.Trans

/-- Go's test `ans == -1` after the search: "no child" exactly when the model's search found none -/
theorem ansInt_found (o : Option Nat) :
    (if decide (ansInt o = (-1 : Int)) then none else some (ansInt o)) = o.map Int.ofNat := by
  cases o with
  | none => rfl
  | some k =>
    have : ¬ (Int.ofNat k = -1) := by simp only [Int.ofNat_eq_natCast]; omega
    simp [ansInt, this]

/-- the search as the three functions start it (all children, `len` units of fuel) against the model's call of
    `findChild` -/
theorem findChild_search (hdrs : List MHdr) (hkey : Nat) (hfk : ∀ x ∈ firstKeysOf hdrs, x < 2^64) (hk : hkey < 2^64)
    (hlen : hdrs.length < 2^63) (o : Option Nat) :
    (MapMetaDataSlab_getChildSlabByDigest.loop1 (u64s (firstKeysOf hdrs)) (u64 hkey)
        (Int.ofNat (u64s (firstKeysOf hdrs)).length - 0).toNat
        (ansInt o, 0, Int.ofNat (u64s (firstKeysOf hdrs)).length)).1 =
      ansInt (MMetaSlab.findChild hdrs hkey 0 hdrs.length o (hdrs.length + 1)) := by
  rw [u64s_length, firstKeysOf, List.length_map, Int.sub_zero, int_toNat,
    findChild_fuel hdrs hkey 0 hdrs.length o (hdrs.length + 1) hdrs.length (Nat.le_succ _) (Nat.le_refl _)]
  exact findChild_loop_get hdrs hfk hkey hk hdrs.length 0 hdrs.length o (Nat.zero_le _) hlen

/-- `getChildSlabByDigest`: the child index Go finds (int / uint arithmetic, `ans = -1` for "no child") is what the
    model's `findChild` finds; KeyNotFoundError in the same case. -/
theorem MapMetaDataSlab_getChildSlabByDigest_eq_model (hdrs : List MHdr) (hkey : Nat)
    (hfk : ∀ x ∈ firstKeysOf hdrs, x < 2^64) (hk : hkey < 2^64) (hlen : hdrs.length < 2^63) :
    MapMetaDataSlab_getChildSlabByDigest (u64s (firstKeysOf hdrs)) (u64 hkey) =
      (MMetaSlab.findChild hdrs hkey 0 hdrs.length none (hdrs.length + 1)).map Int.ofNat := by
  have hloop : (MapMetaDataSlab_getChildSlabByDigest.loop1 _ _ _ (-1, 0, _)).1 = _ :=
    findChild_search hdrs hkey hfk hk hlen none
  simp only [MapMetaDataSlab_getChildSlabByDigest]
  rw [hloop]
  exact ansInt_found _

theorem remove_search_eq : MapMetaDataSlab_Remove_search = MapMetaDataSlab_getChildSlabByDigest := by
  unfold MapMetaDataSlab_Remove_search MapMetaDataSlab_getChildSlabByDigest
  rw [remove_search_loop_eq]

/-- the search at the top of `MapMetaDataSlab.Remove` -/
theorem MapMetaDataSlab_Remove_search_eq_model (hdrs : List MHdr) (hkey : Nat)
    (hfk : ∀ x ∈ firstKeysOf hdrs, x < 2^64) (hk : hkey < 2^64) (hlen : hdrs.length < 2^63) :
    MapMetaDataSlab_Remove_search (u64s (firstKeysOf hdrs)) (u64 hkey) =
      (MMetaSlab.findChild hdrs hkey 0 hdrs.length none (hdrs.length + 1)).map Int.ofNat :=
  remove_search_eq ▸ MapMetaDataSlab_getChildSlabByDigest_eq_model hdrs hkey hfk hk hlen

/-- the search at the top of `MapMetaDataSlab.Set` (starts from `ans = 0`: a smaller key goes to the first child) -/
theorem MapMetaDataSlab_Set_search_eq_model (hdrs : List MHdr) (hkey : Nat)
    (hfk : ∀ x ∈ firstKeysOf hdrs, x < 2^64) (hk : hkey < 2^64) (hlen : hdrs.length < 2^63) :
    MapMetaDataSlab_Set_search (u64s (firstKeysOf hdrs)) (u64 hkey) =
      Int.ofNat ((MMetaSlab.findChild hdrs hkey 0 hdrs.length (some 0) (hdrs.length + 1)).getD 0) := by
  have hloop : (MapMetaDataSlab_getChildSlabByDigest.loop1 _ _ _ (0, 0, _)).1 = _ :=
    findChild_search hdrs hkey hfk hk hlen (some 0)
  simp only [MapMetaDataSlab_Set_search, set_search_loop_eq]
  rw [hloop]
  -- starting from `some 0` the search never returns `none`
  have := MMetaSlab.findChild_isSome hdrs hkey (hdrs.length + 1) 0 hdrs.length 0
  cases hh : MMetaSlab.findChild hdrs hkey 0 hdrs.length (some 0) (hdrs.length + 1) with
  | none => rw [hh] at this; simp at this
  | some k => simp [ansInt]

/-- non-vacuity: four children with first keys 10, 20, 30, 40 -/
example : MapMetaDataSlab_getChildSlabByDigest (u64s [10, 20, 30, 40]) (u64 25) = some 1 ∧
    MapMetaDataSlab_getChildSlabByDigest (u64s [10, 20, 30, 40]) (u64 5) = none ∧
    MapMetaDataSlab_Set_search (u64s [10, 20, 30, 40]) (u64 5) = 0 := by
  refine ⟨by rfl, by rfl, by rfl⟩

theorem goCeilDivInt_two (n : Nat) : goCeilDivInt (Int.ofNat n) 2 = Int.ofNat ((n + 1) / 2) := by
  simp [goCeilDivInt]

/-- `MapMetaDataSlab.Split`: number of children that stay left and the two new sizes.  Needs: the header size
    covers the child headers that stay (no wrap-around in `m.header.size - uint32(leftSize)`). -/
theorem MapMetaDataSlab_Split_eq_model {α : Type} (m : MMetaSlab α) (c : Ctx) (hs : m.hdr.size < 2^32)
    (hn : m.childHdrs.length < 2^24)
    (hcov : (m.childHdrs.length + 1) / 2 * Gen.mapSlabHeaderSize ≤ m.hdr.size) :
    MapMetaDataSlab_Split (u32 m.hdr.size) (Int.ofNat m.childHdrs.length) =
      match m.split c with
      | .error _ => none
      | .ok (l, r, _) => some (Int.ofNat l.childHdrs.length, u32 r.hdr.size, u32 l.hdr.size) := by
  simp only [MapMetaDataSlab_Split, MMetaSlab.split, int_dlt_two, goCeilDivInt_two]
  by_cases hl : m.childHdrs.length < 2
  · simp [hl]
  · simp only [hl, decide_false, if_false, Bool.false_eq_true]
    have emul : Int.ofNat ((m.childHdrs.length + 1) / 2) * Int.ofNat Gen.mapSlabHeaderSize =
        Int.ofNat ((m.childHdrs.length + 1) / 2 * Gen.mapSlabHeaderSize) := by simp
    rw [emul, u32_ofInt]
    simp only [Gen.mapSlabHeaderSize, Gen.mapMetaDataSlabPrefixSize] at hcov ⊢
    have e12 : UInt32.ofNat 12 = u32 12 := rfl
    have hh : (m.childHdrs.length + 1) / 2 ≤ m.childHdrs.length := by omega
    generalize (m.childHdrs.length + 1) / 2 = half at *
    rw [e12, u32_sub_eq hcov, u32_add_eq, List.length_take, Nat.min_eq_left hh]

/-- of `a + b` child headers `(a + b) / 2` stay left (Go's truncating `int` division on non-negative numbers) -/
theorem mapMeta_rebalance_counts (a b : Nat) :
    Int.tdiv (Int.ofNat a + Int.ofNat b) 2 = Int.ofNat ((a + b) / 2) ∧
    Int.ofNat a + Int.ofNat b - Int.ofNat ((a + b) / 2) = Int.ofNat (a + b - (a + b) / 2) :=
  ⟨rfl, int_sub (Nat.div_le_self _ _)⟩

/-- `MapMetaDataSlab.LendToRight` / `BorrowFromRight`: how many child headers end up left, how many move, and the
    two new header sizes -/
theorem MapMetaDataSlab_LendToRight_eq_model {α : Type} (l r : MMetaSlab α)
    (hn : l.childHdrs.length + r.childHdrs.length < 2^24) :
    MapMetaDataSlab_LendToRight (Int.ofNat l.childHdrs.length) (Int.ofNat r.childHdrs.length) =
      some (Int.ofNat ((l.childHdrs.length + r.childHdrs.length) / 2),
            Int.ofNat l.childHdrs.length - Int.ofNat ((l.childHdrs.length + r.childHdrs.length) / 2),
            u32 (l.lendToRight r).1.hdr.size, u32 (l.lendToRight r).2.hdr.size) := by
  obtain ⟨ediv, esub⟩ := mapMeta_rebalance_counts l.childHdrs.length r.childHdrs.length
  unfold MapMetaDataSlab_LendToRight
  dsimp only
  rw [ediv, esub, u32_add_ofInt_mul, u32_add_ofInt_mul]
  rfl

theorem MapMetaDataSlab_BorrowFromRight_eq_model {α : Type} (l r : MMetaSlab α)
    (hn : l.childHdrs.length + r.childHdrs.length < 2^24) :
    MapMetaDataSlab_BorrowFromRight (Int.ofNat l.childHdrs.length) (Int.ofNat r.childHdrs.length) =
      some (Int.ofNat ((l.childHdrs.length + r.childHdrs.length) / 2),
            Int.ofNat ((l.childHdrs.length + r.childHdrs.length) / 2) - Int.ofNat l.childHdrs.length,
            u32 (l.borrowFromRight r).1.hdr.size, u32 (l.borrowFromRight r).2.hdr.size) := by
  obtain ⟨ediv, esub⟩ := mapMeta_rebalance_counts l.childHdrs.length r.childHdrs.length
  unfold MapMetaDataSlab_BorrowFromRight
  dsimp only
  rw [ediv, esub, u32_add_ofInt_mul, u32_add_ofInt_mul]
  rfl

/-- `ArrayMetaDataSlab.Split`: how many children stay left, their element count (the `uint32` sum loop), and the
    new size / count of both slabs.  Needs: the header size covers the child headers that stay, the header count
    covers the counts that stay, and their sum is below 2^32. -/
theorem ArrayMetaDataSlab_Split_eq_model {α : Type} (m : MetaSlab α) (c : Ctx) (hs : m.hdr.size < 2^32)
    (hc : m.hdr.count < 2^32) (hn : m.childHdrs.length < 2^24)
    (hcov : (m.childHdrs.length + 1) / 2 * Gen.arraySlabHeaderSize ≤ m.hdr.size)
    (hcnt : MetaSlab.sumCounts (m.childHdrs.take ((m.childHdrs.length + 1) / 2)) ≤ m.hdr.count) :
    ArrayMetaDataSlab_Split (u32 m.hdr.size) (u32 m.hdr.count) (u32s (m.childHdrs.map (·.count))) =
      match m.split c with
      | .error _ => none
      | .ok (l, r, _) =>
        some (Int.ofNat l.childHdrs.length, u32 l.hdr.count, u32 r.hdr.size, u32 r.hdr.count, u32 l.hdr.size,
              u32 l.hdr.count) := by
  have hlen : (u32s (m.childHdrs.map (·.count))).length = m.childHdrs.length := by simp [u32s]
  have hlen' : (m.childHdrs.map (·.count)).length = m.childHdrs.length := by simp
  simp only [ArrayMetaDataSlab_Split, MetaSlab.split, hlen, int_dlt_two, goCeilDivInt_two]
  by_cases hl : m.childHdrs.length < 2
  · simp [hl]
  · simp only [hl, decide_false, if_false, Bool.false_eq_true]
    have emul : Int.ofNat ((m.childHdrs.length + 1) / 2) * Int.ofNat Gen.arraySlabHeaderSize =
        Int.ofNat ((m.childHdrs.length + 1) / 2 * Gen.arraySlabHeaderSize) := by simp
    have efuel : (Int.ofNat ((m.childHdrs.length + 1) / 2) - 0).toNat = (m.childHdrs.length + 1) / 2 := by
      rw [Int.sub_zero]; exact Int.toNat_natCast _
    have esum : MetaSlab.sumCounts (m.childHdrs.take ((m.childHdrs.length + 1) / 2)) =
        ((m.childHdrs.map (·.count)).take ((m.childHdrs.length + 1) / 2)).sum := by
      simp [MetaSlab.sumCounts, List.map_take]
    rw [esum] at hcnt ⊢
    have hh : (m.childHdrs.length + 1) / 2 ≤ m.childHdrs.length := by omega
    have hloop : ArrayMetaDataSlab_Split.loop1 _ _ _ (u32 0, 0) = _ :=
      arrMetaSplit_loop (m.childHdrs.map (·.count)) ((m.childHdrs.length + 1) / 2) (by rwa [hlen'])
        ((m.childHdrs.length + 1) / 2) 0 0 rfl (Nat.zero_le _)
        (by rw [List.drop_zero, Nat.zero_add]; exact Nat.lt_of_le_of_lt hcnt hc)
    simp only [List.drop_zero, Nat.zero_add] at hloop
    have e0 : (0 : UInt32) = u32 0 := rfl
    rw [emul, efuel, u32_ofInt, e0, hloop]
    simp only [Gen.arraySlabHeaderSize, Gen.arrayMetaDataSlabPrefixSize] at hcov ⊢
    have e12 : UInt32.ofNat 12 = u32 12 := rfl
    generalize (m.childHdrs.length + 1) / 2 = half at *
    rw [e12, u32_sub_eq hcov, u32_sub_eq hcnt, u32_add_eq, List.length_take, Nat.min_eq_left hh]

/-- non-vacuity: five children with 10, 20, 30, 40, 50 elements: three stay (60 elements), 82 - 42 = 40 bytes and
    90 elements go right -/
example : ArrayMetaDataSlab_Split (u32 82) (u32 150) (u32s [10, 20, 30, 40, 50]) = some (3, 60, 40, 90, 54, 60) := by
  rfl

end Atree.TransEq

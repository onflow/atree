import AtreeProofs.Props.Trans
import AtreeProofs.Props.TransLoops
import AtreeProofs.Array.Route
import AtreeProofs.MapInv
/-
  "ArithSafe": the range hypotheses of Props/Trans.lean and Props/TransLoops.lean follow from the tree invariants
  (`DataInv` / `TreeInv` of AtreeProofs/ArrayInv.lean, `MDataInv` of MapInv.lean) and `legalThreshold T`.  The
  theorems here have NO numeric side conditions: for every slab of a valid tree, Go's wrap-around computation is the
  model's `Nat` computation.
-/
namespace Atree.TransEq
open Atree Atree.Gen.Trans

/-- every derived threshold of a legal slab size fits `uint32`, and the subtractions of map_elements_hashkey.go
    (`minThreshold - mapDataSlabPrefixSize - hkeyElementsPrefixSize`) cannot underflow -/
theorem thresholds_fit {T : Nat} (hT : legalThreshold T = true) :
    T < 2^32 ∧ minThr T < 2^32 ∧ maxThr T < 2^32 ∧ maxThr T ≤ 49152 ∧ 128 ≤ minThr T ∧
    Gen.mapDataSlabPrefixSize + Gen.hkeyElementsPrefixSize ≤ minThr T ∧ Gen.mapDataSlabPrefixSize ≤ minThr T := by
  have f := thrFacts hT
  have := f.lo; have := f.hi
  rw [f.minE, f.maxE]
  simp only [Gen.mapDataSlabPrefixSize, Gen.hkeyElementsPrefixSize]
  omega

/-- what `setThreshold` leaves in the package variables, for every legal slab size, is what the model's
    `minThr / maxThr / maxInline…` say (`setThreshold_eq_model` without side conditions) -/
theorem setThreshold_legal {T : Nat} (hT : legalThreshold T = true) :
    setThreshold (u32 T) =
      some (u32 T, u32 (minThr T), u32 (maxThr T), u32 (maxInlineArr T), u32 (maxInlineMapElem T),
            u32 (maxInlineMapKey T)) := by
  rw [setThreshold_eq_model T (thresholds_fit hT).1, hT]; rfl

section
variable {T : Nat} {top : Bool} {s : DataSlab}

theorem dataInv_fits (hT : legalThreshold T = true) (h : DataInv T top s) :
    s.hdr.size < 2^32 ∧ sumSizes s.elems ≤ s.hdr.size := by
  have := thresholds_fit hT
  have h1 := h.le_max
  have h2 := h.size_eq
  omega

/-- for every data slab of a valid array: `IsFull` -/
theorem safe_ArrayDataSlab_IsFull (hT : legalThreshold T = true) (h : DataInv T top s) :
    ArrayDataSlab_IsFull (u32 s.hdr.size) (u32 (maxThr T)) = s.isFull T :=
  ArrayDataSlab_IsFull_eq_model T s (dataInv_fits hT h).1 (thresholds_fit hT).2.2.1

/-- … `IsUnderflow` -/
theorem safe_ArrayDataSlab_IsUnderflow (hT : legalThreshold T = true) (h : DataInv T top s) :
    optOfPair (ArrayDataSlab_IsUnderflow (u32 s.hdr.size) (u32 (minThr T))) = s.isUnderflow T :=
  ArrayDataSlab_IsUnderflow_eq_model T s (dataInv_fits hT h).1 (thresholds_fit hT).2.1

/-- … `CanLendToLeft(size)` for EVERY `uint32` request -/
theorem safe_ArrayDataSlab_CanLendToLeft (hT : legalThreshold T = true) (h : DataInv T top s) (want : Nat)
    (hw : want < 2^32) :
    ArrayDataSlab_CanLendToLeft (u32 s.hdr.size) (u32s (sizesOf s.elems)) (u32 want) (u32 (minThr T)) =
      s.canLendToLeft T want :=
  ArrayDataSlab_CanLendToLeft_eq_model T s want (dataInv_fits hT h).1 (thresholds_fit hT).2.1 hw
    (dataInv_fits hT h).2

/-- … `CanLendToRight(size)` -/
theorem safe_ArrayDataSlab_CanLendToRight (hT : legalThreshold T = true) (h : DataInv T top s) (want : Nat)
    (hw : want < 2^32) :
    ArrayDataSlab_CanLendToRight (u32 s.hdr.size) (u32s (sizesOf s.elems)) (u32 want) (u32 (minThr T)) =
      s.canLendToRight T want :=
  ArrayDataSlab_CanLendToRight_eq_model T s want (dataInv_fits hT h).1 (thresholds_fit hT).2.1 hw
    (dataInv_fits hT h).2
end

/-- The state in which `Split`, `LendToRight`, `BorrowFromRight` (and `IsFull` after a mutation) see a data slab:
    bookkeeping exact, no empty elements, not a root and not inlined (`Array.splitRoot` re-labels the root first),
    but possibly outside the size band - by at most one slab's worth (one element was just inserted / replaced /
    removed). -/
structure DataWork (T : Nat) (s : DataSlab) : Prop where
  count_eq : s.hdr.count = s.elems.length
  size_eq  : s.hdr.size = s.prefixSize + sumSizes s.elems
  elems_pos : ∀ e ∈ s.elems, 1 ≤ e.size
  plain    : s.root = false ∧ s.inlined = false
  size_le  : s.hdr.size ≤ 2 * maxThr T

/-- every non-root data slab of a valid tree is in that state … -/
theorem DataWork.of_inv {T : Nat} {s : DataSlab} (h : DataInv T false s) : DataWork T s :=
  ⟨h.count_eq, h.size_eq, fun e he => (h.elems_ok e he).1, ⟨h.root_eq, by
      cases hi : s.inlined with
      | false => rfl
      | true => exact absurd (h.inl_root hi) (by simp)⟩, by have := h.le_max; omega⟩

/-- … and stays in it when one admissible element is inserted (the overfull slab that `Split` then sees) -/
theorem DataWork.insert {T : Nat} {s : DataSlab} (hT : legalThreshold T = true) (h : DataInv T false s) (i : Nat)
    (e : Elem) (hi : i ≤ s.elems.length) (he : ElemOk T e) :
    DataWork T { s with elems := s.elems.insertIdx i e,
                        hdr := { s.hdr with count := s.hdr.count + 1, size := s.hdr.size + e.size } } := by
  have hw := DataWork.of_inv h
  refine ⟨?_, ?_, ?_, hw.plain, ?_⟩
  · simp [List.length_insertIdx, hi, h.count_eq]
  · show s.hdr.size + e.size = s.prefixSize + sumSizes (s.elems.insertIdx i e)
    rw [sumSizes_insertIdx _ _ _ hi, h.size_eq]; omega
  · intro x hx
    rcases List.mem_insertIdx hi |>.mp hx with rfl | hx'
    · exact he.1
    · exact hw.elems_pos x hx'
  · show s.hdr.size + e.size ≤ 2 * maxThr T
    have h1 := h.le_max
    have h2 := he.2
    have f := thrFacts hT
    have := f.lo; have := f.hi
    rw [f.inlE] at h2
    rw [f.maxE] at h1 ⊢
    omega

section
variable {T : Nat} {s l r : DataSlab}

theorem dataWork_prefix (h : DataWork T s) : s.prefixSize = Gen.arrayDataSlabPrefixSize := by
  simp [DataSlab.prefixSize, h.plain.1, h.plain.2]

theorem dataWork_fits (hT : legalThreshold T = true) (h : DataWork T s) :
    s.hdr.size ≤ 98304 ∧ s.hdr.count ≤ s.hdr.size ∧
    Gen.arrayDataSlabPrefixSize + sumSizes s.elems = s.hdr.size ∧ s.hdr.count = s.elems.length := by
  have := thresholds_fit hT
  have h1 := h.size_le
  have h2 := h.size_eq
  rw [dataWork_prefix h] at h2
  have h3 := length_le_sumSizes s.elems h.elems_pos
  have h4 := h.count_eq
  omega

/-- two working leaves together: the sums the rebalancing functions form fit `uint32` -/
theorem dataWork_pair (hT : legalThreshold T = true) (hl : DataWork T l) (hr : DataWork T r) :
    l.hdr.size + r.hdr.size + 1 < 2^32 ∧ l.hdr.count + r.hdr.count < 2^32 := by
  have h1 := dataWork_fits hT hl
  have h2 := dataWork_fits hT hr
  omega

/-- the header of a working leaf accounts for its elements (the leaf whose elements `LendToRight` / `BorrowFromRight`
    walk) -/
theorem dataWork_elems (hT : legalThreshold T = true) (h : DataWork T s) :
    sumSizes s.elems ≤ s.hdr.size ∧ s.elems.length ≤ s.hdr.count ∧ s.elems.length < 2^32 := by
  have h1 := dataWork_fits hT h
  omega

/-- `ArrayDataSlab.Split` on every slab it can be called on -/
theorem safe_ArrayDataSlab_Split (hT : legalThreshold T = true) (h : DataWork T s) (c : Ctx) :
    ArrayDataSlab_Split (u32 s.hdr.size) (u32s (sizesOf s.elems)) =
      match s.split c with
      | .error _ => none
      | .ok (l, r, _) =>
        some (Int.ofNat l.hdr.count, u32 (l.hdr.size - Gen.arrayDataSlabPrefixSize), u32 r.hdr.size,
              u32 l.hdr.size, u32 l.hdr.count) := by
  have := dataWork_fits hT h
  exact ArrayDataSlab_Split_eq_model s c (by omega) (by omega)

/-- `ArrayDataSlab.LendToRight` on every pair of siblings it can be called on -/
theorem safe_ArrayDataSlab_LendToRight (hT : legalThreshold T = true) (hl : DataWork T l) (hr : DataWork T r) :
    ArrayDataSlab_LendToRight (u32 l.hdr.size) (u32 l.hdr.count) (u32s (sizesOf l.elems)) (u32 r.hdr.size)
        (u32 r.hdr.count) (u32 (minThr T)) =
      some (u32 (l.lendToRight T r).1.hdr.count, u32 (l.lendToRight T r).1.hdr.size,
            u32 (l.hdr.count - (l.lendToRight T r).1.hdr.count),
            u32 (l.lendToRight T r).1.hdr.size, u32 (l.lendToRight T r).1.hdr.count,
            u32 (l.lendToRight T r).2.hdr.size, u32 (l.lendToRight T r).2.hdr.count) := by
  have hp := dataWork_pair hT hl hr
  have he := dataWork_elems hT hl
  exact ArrayDataSlab_LendToRight_eq_model T l r (thresholds_fit hT).2.1 hp.1 hp.2 he.1 he.2.1

/-- `ArrayDataSlab.BorrowFromRight` on every pair of siblings it can be called on -/
theorem safe_ArrayDataSlab_BorrowFromRight (hT : legalThreshold T = true) (hl : DataWork T l) (hr : DataWork T r) :
    ArrayDataSlab_BorrowFromRight (u32 l.hdr.size) (u32 l.hdr.count) (u32 r.hdr.size) (u32 r.hdr.count)
        (u32s (sizesOf r.elems)) (u32 (minThr T)) =
      some (u32 (l.borrowFromRight T r).1.hdr.count, u32 (l.borrowFromRight T r).1.hdr.size,
            u32 ((l.borrowFromRight T r).1.hdr.count - l.hdr.count),
            u32 (l.borrowFromRight T r).1.hdr.size, u32 (l.borrowFromRight T r).1.hdr.count,
            u32 (l.borrowFromRight T r).2.hdr.size, u32 (l.borrowFromRight T r).2.hdr.count) := by
  have hp := dataWork_pair hT hl hr
  have he := dataWork_elems hT hr
  exact ArrayDataSlab_BorrowFromRight_eq_model T l r (thresholds_fit hT).2.1 hp.1 hp.2 he.1 he.2.1
end

section
open MetaSlab ATree
variable {d : Nat}

theorem sumCounts_take_le (hs : List Hdr) (k : Nat) : sumCounts (hs.take k) ≤ sumCounts hs := by
  have := sumCounts_take_add_drop k hs; omega

theorem count_mem_le (hs : List Hdr) : ∀ x ∈ countsOf hs, x ≤ sumCounts hs := by
  induction hs with
  | nil => intro x hx; simp [countsOf] at hx
  | cons h t ih =>
    intro x hx
    rw [sumCounts_cons]
    simp only [countsOf, List.map_cons, List.mem_cons] at hx
    rcases hx with rfl | hx'
    · omega
    · have := ih x (by simpa [countsOf] using hx'); omega

/-- For every index slab of a valid array (`Book`: header copies and cumulative counts agree with the children;
    non-empty children; total count below 2^32, which `ArrInv.count_lt` gives) and every index below the count,
    Go's `childSlabIndexInfo` - uint64/uint32/int arithmetic, linear scan or binary search - returns exactly the
    child position and adjusted index of the model.  No range hypotheses: in particular the subtraction
    `index + count[k] - countSum[k]` cannot wrap around. -/
theorem safe_childSlabIndexInfo (m : MetaSlab (ATree d)) (hb : Book m) (hc : m.hdr.count = sumCounts m.childHdrs)
    (hpos : ∀ t ∈ m.children, 1 ≤ (hdr d t).count) (hcnt : m.hdr.count < 2^32) (i : Nat) (hi : i < m.hdr.count) :
    ∃ k adj, m.childSlabIndexInfo i = .ok (k, adj) ∧
      ArrayMetaDataSlab_childSlabIndexInfo (u32 m.hdr.count) (u32s m.countSum) (u32s (countsOf m.childHdrs))
        (u64 i) = some (Int.ofNat k, u64 adj) := by
  obtain ⟨A, child, B, hch, h1, h2, hres⟩ := route_spec m hb hc hpos i hi
  refine ⟨A.length, i - sumCounts (A.map (hdr d)), hres, ?_⟩
  have hh : m.childHdrs = A.map (hdr d) ++ hdr d child :: B.map (hdr d) := by
    rw [hb.hdrs_eq, hch]; simp
  have hposh : ∀ h ∈ m.childHdrs, 1 ≤ h.count := by
    intro h hh'
    rw [hb.hdrs_eq] at hh'
    obtain ⟨t, ht, rfl⟩ := List.mem_map.1 hh'
    exact hpos t ht
  have hlenA : (A.map (hdr d)).length = A.length := by simp
  have hk : A.length < m.childHdrs.length := by rw [hh]; simp
  -- the two table entries at position k
  have e1 : (countsOf m.childHdrs).getD A.length 0 = (hdr d child).count := by
    rw [hh]; simp [countsOf, List.getD_eq_getElem?_getD, List.getElem?_append_right]
  have e2 : m.countSum.getD A.length 0 = sumCounts (A.map (hdr d)) + (hdr d child).count := by
    rw [hb.sums_eq, prefixSums_getD _ 0 _ hk, hh, Nat.zero_add]
    have : (A.map (hdr d) ++ hdr d child :: B.map (hdr d)).take (A.length + 1) = A.map (hdr d) ++ [hdr d child] := by
      rw [← hlenA, List.take_append, List.take_of_length_le (by omega)]; simp
    rw [this, sumCounts_append, sumCounts_cons, sumCounts_nil]; omega
  have hcs : ∀ x ∈ m.countSum, x < 2^32 := by
    intro x hx
    rw [hb.sums_eq] at hx
    have := prefixSums_mem_le _ 0 x hx
    omega
  have hchs : ∀ x ∈ countsOf m.childHdrs, x < 2^32 := by
    intro x hx
    have := count_mem_le _ x hx
    omega
  have hlen : m.countSum.length < 2^63 := by
    rw [hb.sums_eq, prefixSums_length]
    have := length_le_sumCounts _ hposh
    omega
  have main := ArrayMetaDataSlab_childSlabIndexInfo_eq_model m i (by omega) hcnt hcs hchs hlen
  rw [hres] at main
  exact main (by rw [e1, e2]; omega)

end

section
variable {T r : Nat} {D : DigestFn (r + 1)} {top : Bool} {s : MDataSlab r}

theorem mdataInv_fits (hT : legalThreshold T = true) (h : MDataInv T D top s) :
    s.hdr.size < 2^32 ∧ s.elems.size < 2^32 ∧
    (dg (rawSizes (MDataSlab.eops r) s.elems)).sum ≤ s.elems.size := by
  have := thresholds_fit hT
  have h1 := h.le_max
  have h2 := h.size_eq
  have h3 : s.elems.size = Gen.hkeyElementsPrefixSize + HkeyElems.elemSizes (MElems.ops r) s.elems.elems := by
    have := h.elems_inv
    simp only [ElemsInv] at this
    exact this.2.2.2.2.1
  have h4 : (dg (rawSizes (MDataSlab.eops r) s.elems)).sum = HkeyElems.elemSizes (MElems.ops r) s.elems.elems := by
    rw [← dg_rawSizes]; rfl
  omega

/-- for every data slab of a valid map: `IsFull` / `IsUnderflow` / `CanLendToLeft` / `CanLendToRight`, the last two
    for EVERY `uint32` request -/
theorem safe_MapDataSlab_IsFull (hT : legalThreshold T = true) (h : MDataInv T D top s) :
    MapDataSlab_IsFull false (u32 s.hdr.size) (u32 (maxThr T)) = s.isFull T :=
  MapDataSlab_IsFull_eq_model T s (mdataInv_fits hT h).1 (thresholds_fit hT).2.2.1

theorem safe_MapDataSlab_IsUnderflow (hT : legalThreshold T = true) (h : MDataInv T D top s) :
    optOfPair (MapDataSlab_IsUnderflow false (u32 s.hdr.size) (u32 (minThr T))) = s.isUnderflow T :=
  MapDataSlab_IsUnderflow_eq_model T s (mdataInv_fits hT h).1 (thresholds_fit hT).2.1

theorem safe_MapDataSlab_CanLendToLeft (hT : legalThreshold T = true) (h : MDataInv T D top s) (want : Nat)
    (hw : want < 2^32) :
    MapDataSlab_CanLendToLeft false (u32 s.elems.size) (u32s (rawSizes (MDataSlab.eops r) s.elems)) (u32 want)
        (u32 (minThr T)) = s.canLendToLeft T want :=
  MapDataSlab_CanLendToLeft_eq_model T s want (mdataInv_fits hT h).2.1 (thresholds_fit hT).2.1
    (thresholds_fit hT).2.2.2.2.2.2 hw (mdataInv_fits hT h).2.2

theorem safe_MapDataSlab_CanLendToRight (hT : legalThreshold T = true) (h : MDataInv T D top s) (want : Nat)
    (hw : want < 2^32) :
    MapDataSlab_CanLendToRight false (u32 s.elems.size) (u32s (rawSizes (MDataSlab.eops r) s.elems)) (u32 want)
        (u32 (minThr T)) = s.canLendToRight T want :=
  MapDataSlab_CanLendToRight_eq_model T s want (mdataInv_fits hT h).2.1 (thresholds_fit hT).2.1
    (thresholds_fit hT).2.2.2.2.2.2 hw (mdataInv_fits hT h).2.2
end

/-- array index slab of a valid tree (its header size is `12 + 14·children ≤ maxThr T`), any request below
    2^32 - 14 (callers pass an underflow size, below `minThr T`) -/
theorem safe_ArrayMetaDataSlab_decisions {T d : Nat} {top : Bool} (hT : legalThreshold T = true)
    (m : MetaSlab (ATree d)) (h : TreeInv T (d + 1) top m) (want : Nat)
    (hw : want + Gen.arraySlabHeaderSize ≤ 2^32) :
    ArrayMetaDataSlab_IsFull (u32 m.hdr.size) (u32 (maxThr T)) = m.isFull T ∧
    optOfPair (ArrayMetaDataSlab_IsUnderflow (u32 m.hdr.size) (u32 (minThr T))) = m.isUnderflow T ∧
    ArrayMetaDataSlab_CanLendToLeft (u32 m.hdr.size) (u32 want) (u32 (minThr T)) = m.canLend T want ∧
    ArrayMetaDataSlab_CanLendToRight (u32 m.hdr.size) (u32 want) (u32 (minThr T)) = m.canLend T want := by
  have ht := thresholds_fit hT
  have hle : m.hdr.size ≤ maxThr T := TreeInv.le_max (d := d + 1) h
  have hs : m.hdr.size < 2^32 := by omega
  exact ⟨ArrayMetaDataSlab_IsFull_eq_model T m hs ht.2.2.1, ArrayMetaDataSlab_IsUnderflow_eq_model T m hs ht.2.1,
    ArrayMetaDataSlab_CanLendToLeft_eq_model T m want hs ht.2.1 hw,
    ArrayMetaDataSlab_CanLendToRight_eq_model T m want hs ht.2.1 hw⟩

section
/-- a non-root data slab with four 50-byte elements under T = 256 (221 bytes: inside the band 128..384) -/
def exSlab (id : Nat) : DataSlab :=
  { hdr := ⟨⟨1, id⟩, 221, 4⟩, next := SlabID.undef,
    elems := [⟨50, .val 1⟩, ⟨50, .val 2⟩, ⟨50, .val 3⟩, ⟨50, .val 4⟩], root := false, inlined := false }

theorem exSlab_inv (id : Nat) : DataInv 256 false (exSlab id) := by
  refine ⟨rfl, rfl, ?_, rfl, by simp [exSlab], ?_, fun _ => ?_⟩
  · intro e he
    simp only [exSlab, List.mem_cons, List.not_mem_nil, or_false] at he
    rcases he with rfl | rfl | rfl | rfl <;> exact ⟨by decide, by decide⟩
  · show 221 ≤ maxThr 256; decide
  · show minThr 256 ≤ 221; decide

/-- the hypotheses of the data-slab theorems are satisfiable, and the conclusion is not trivial: this slab can lend
    40 bytes to its left sibling (one element), in Go and in the model -/
example : ArrayDataSlab_CanLendToLeft (u32 221) (u32s [50, 50, 50, 50]) (u32 40) (u32 (minThr 256)) = true ∧
    (exSlab 2).canLendToLeft 256 40 = true :=
  ⟨by rfl, by rw [← safe_ArrayDataSlab_CanLendToLeft (by decide) (exSlab_inv 2) 40 (by decide)]; rfl⟩

example : DataWork 256 (exSlab 2) := DataWork.of_inv (exSlab_inv 2)

/-- an index slab over two such data slabs: the hypotheses of `safe_childSlabIndexInfo` hold, index 5 is routed to
    child 1 with adjusted index 1 -/
def exMeta : MetaSlab (ATree 0) :=
  { hdr := ⟨⟨1, 1⟩, 40, 8⟩, childHdrs := [(exSlab 2).hdr, (exSlab 3).hdr], countSum := [4, 8],
    children := [exSlab 2, exSlab 3], root := true }

example : ∃ k adj, exMeta.childSlabIndexInfo 5 = .ok (k, adj) ∧
    ArrayMetaDataSlab_childSlabIndexInfo (u32 8) (u32s [4, 8]) (u32s [4, 4]) (u64 5) = some (Int.ofNat k, u64 adj) :=
  safe_childSlabIndexInfo exMeta ⟨rfl, rfl⟩ rfl
    (by intro t ht
        have hc : exMeta.children = [exSlab 2, exSlab 3] := rfl
        rw [hc] at ht
        have h2 : t = exSlab 2 ∨ t = exSlab 3 := by
          rcases List.mem_cons.mp ht with h | h
          · exact Or.inl h
          · exact Or.inr (List.mem_singleton.mp h)
        rcases h2 with rfl | rfl <;> decide)
    (by decide) 5 (by decide)

example : ArrayMetaDataSlab_childSlabIndexInfo (u32 8) (u32s [4, 8]) (u32s [4, 4]) (u64 5) = some (1, 1) := by rfl
end

end Atree.TransEq

import AtreeProofs.Trans.Slabs
import AtreeProofs.Array.SlabLemmas
/-
  Equivalence of the GENERATED translation of atree's array-slab code (`AtreeModel/Gen/TransSlabs.lean`, namespace
  `Atree.Gen.TransSl`, regenerated on every run) with the hand-written model (`AtreeModel/Array/Slab.lean`):
  the slice_utils.go generics and the leaf operations of `ArrayDataSlab`
  (`getPrefixSize`, `Get`, `Set`, `Insert`, `Remove`, `PopIterate`), and what the Go code leaves behind on its error
  exits for ANY environment.  Core Lean only.
-/
namespace Atree.TransEq
open Atree Atree.Gen

theorem Sl_all_translated : TransSl.untranslatedFunctions = [] := rfl

section generics
variable {σ υ ξ ε S Φ : Type} {E : Type} [Inhabited E]

theorem Sl_goSlice_neg_lo {α : Type} (l : List α) (lo hi : Int) (h : lo < 0) : TransSl.goSlice l lo hi = none := by
  have : ¬ (0 ≤ lo) := by omega
  simp [TransSl.goSlice, this]

theorem Sl_goSlice_neg_hi {α : Type} (l : List α) (lo hi : Int) (h : hi < 0) : TransSl.goSlice l lo hi = none := by
  have : ¬ (0 ≤ lo ∧ lo ≤ hi ∧ hi ≤ l.length) := by omega
  simp [TransSl.goSlice, this]

/-- `split(s, n)`: `(s[:n], s[n:])`; panics when `n > len(s)` -/
theorem Sl_split_spec (env : TransSl.Env σ υ ξ ε S Φ) (s : List E) (n : Nat) :
    TransSl.split env s (Int.ofNat n) = if n ≤ s.length then some (s.take n, s.drop n) else none := by
  simp only [TransSl.split, goSlice_ofNat, goDelete_ofNat]
  by_cases h : n ≤ s.length <;> simp [h, List.take_of_length_le]

/-- `split(s, n)` with a negative count panics -/
theorem Sl_split_neg (env : TransSl.Env σ υ ξ ε S Φ) (s : List E) (k : Int) (h : k < 0) :
    TransSl.split env s k = none := by
  simp only [TransSl.split, Sl_goSlice_neg_lo _ _ _ h]

/-- `merge(left, right)`: `left ++ right` and the right slice cleared (`clear(right)`: same length, zero values) -/
theorem Sl_merge_spec (env : TransSl.Env σ υ ξ ε S Φ) (l r : List E) :
    TransSl.merge env l r = (l ++ r, List.replicate r.length default) := rfl

/-- `lendToRight(left, right, n)`: the last `n` elements of `left` go to the front of `right` -/
theorem Sl_lendToRight_spec (env : TransSl.Env σ υ ξ ε S Φ) (l r : List E) (n : Nat) :
    TransSl.lendToRight env l r (Int.ofNat n) =
      if n ≤ l.length then some (l.take (l.length - n), l.drop (l.length - n) ++ r) else none := by
  by_cases h : n ≤ l.length
  · have e : (Int.ofNat l.length) - (Int.ofNat n) = Int.ofNat (l.length - n) := (Int.ofNat_sub h).symm
    have z : (0 : Int) = Int.ofNat 0 := rfl
    simp only [TransSl.lendToRight, e, goSlice_ofNat, goDelete_ofNat, z, goInsert_ofNat]
    have h1 : l.length - n ≤ l.length := Nat.sub_le _ _
    simp [h, h1, List.take_of_length_le]
  · have e : (Int.ofNat l.length) - (Int.ofNat n) < 0 :=
      Int.sub_neg_of_lt (Int.ofNat_lt.mpr (Nat.lt_of_not_le h))
    simp only [TransSl.lendToRight, Sl_goSlice_neg_lo _ _ _ e, h, if_false]

/-- `lendToRight` with a negative count panics -/
theorem Sl_lendToRight_neg (env : TransSl.Env σ υ ξ ε S Φ) (l r : List E) (k : Int) (h : k < 0) :
    TransSl.lendToRight env l r k = none := by
  have : ¬ (0 ≤ (Int.ofNat l.length - k) ∧ (Int.ofNat l.length - k) ≤ Int.ofNat l.length ∧
      Int.ofNat l.length ≤ (l.length : Int)) := by
    simp only [Int.ofNat_eq_natCast]; omega
  simp only [TransSl.lendToRight, TransSl.goSlice, this, if_false]

/-- `borrowFromRight(left, right, n)`: the first `n` elements of `right` go to the end of `left` -/
theorem Sl_borrowFromRight_spec (env : TransSl.Env σ υ ξ ε S Φ) (l r : List E) (n : Nat) :
    TransSl.borrowFromRight env l r (Int.ofNat n) =
      if n ≤ r.length then some (l ++ r.take n, r.drop n) else none := by
  have z : (0 : Int) = Int.ofNat 0 := rfl
  simp only [TransSl.borrowFromRight, z, goSlice_ofNat, goInsert_ofNat]
  by_cases h : n ≤ r.length <;> simp [h, List.take_of_length_le]

/-- `borrowFromRight` with a negative count panics -/
theorem Sl_borrowFromRight_neg (env : TransSl.Env σ υ ξ ε S Φ) (l r : List E) (k : Int) (h : k < 0) :
    TransSl.borrowFromRight env l r k = none := by
  simp only [TransSl.borrowFromRight, Sl_goSlice_neg_hi _ _ _ h]

end generics

section leaves
variable {S W : Type} {env : TransSl.Env Elem Elem Unit AErr S W} {T : Nat} {ctx : S → Ctx} {setCtx : S → Ctx → S}

theorem Sl_ArrayDataSlab_Get_any (h : LeafEnv env) (s : DataSlab) (i : Nat) (hi : i < 2^64) (hlen : s.elems.length < 2^63) :
    TransSl.ArrayDataSlab_Get env (trData s) (u64 i) =
      some (match s.get i with
        | .ok e => (some e, none)
        | .error e => (none, some e)) := by
  have hidx : (u64 i).toNat = i := u64_toNat hi
  simp only [TransSl.ArrayDataSlab_Get, DataSlab.get, trData_elements, List.length_map, u64_ofInt,
    u64_dge hi (Nat.lt_trans hlen (by decide)), hidx, goIdx_map_some, h.ioob]
  by_cases hge : i ≥ s.elems.length
  · have : s.elems[i]? = none := List.getElem?_eq_none hge
    simp [hge]
  · have hlt : i < s.elems.length := by omega
    simp [hge, List.getElem?_eq_getElem hlt]

/-- the storage after the leaf `s` has written its new value `s'` back: `storeSlab`, unless the slab is inlined -/
def leafStored (env : TransSl.Env Elem Elem Unit AErr S W) (s s' : DataSlab) (st : S) : S :=
  if s.inlined then st else stored env st s.hdr.id (some (.dataSlab (trData s')))

/-- `ArrayDataSlab.Insert`, any environment.  No range hypotheses on size and count: the `uint32` additions of Go are
    the model's additions modulo 2^32, which is how `trData` reads the model's numbers. -/
theorem Sl_ArrayDataSlab_Insert_any (h : LeafEnv env) (hst : StorableAs env T ctx setCtx) (s : DataSlab) (i : Nat) (v : Elem) (st : S)
    (hi : i < 2^64) (hlen : s.elems.length < 2^63) :
    TransSl.ArrayDataSlab_Insert env (trData s) st s.hdr.id.addr (u64 i) (some v) =
      match s.insert T i v (ctx st) with
      | .error e => some (some e, trData s, st)
      | .ok (s', _) => some (none, trData s',
          leafStored env s s' (setCtx st (toStorable T s.hdr.id.addr v (ctx st)).2)) := by
  have hidx : (u64 i).toNat = i := u64_toNat hi
  simp only [TransSl.ArrayDataSlab_Insert, DataSlab.insert, trData_elements, List.length_map, u64_ofInt,
    u64_dgt hi (Nat.lt_trans hlen (by decide))]
  by_cases hgt : i > s.elems.length
  · simp [hgt, h.ioob]
  · simp only [hgt, decide_false, Bool.false_eq_true, if_false]
    simp only [hst v st, hidx, Option.isSome_none, Bool.false_eq_true, if_false, goInsert_ofNat, List.length_map,
      h.byteSize]
    have hle : i ≤ s.elems.length := Nat.le_of_not_lt hgt
    simp only [hle, if_true]
    generalize hts : toStorable T s.hdr.id.addr v (ctx st) = ts
    obtain ⟨e, c'⟩ := ts
    simp only
    simp only [h.ok.storeSlab, map_some_insertIdx _ _ _ hle, trData_header, trHdr_size, trHdr_count, trHdr_slabID,
      u32_add_eq, one_eq_u32, trData_inlined, trData_next, trData_extraData, Option.isSome_none,
      Bool.false_eq_true, if_false, leafStored]
    cases hin : s.inlined <;> simp [trData, trHdr, TransSl.ArraySlab_SlabID, TransSl.ArrayDataSlab_SlabID]

theorem Sl_ArrayDataSlab_Remove_any (h : LeafEnv env) (ctx : S → Ctx) (s : DataSlab) (i : Nat) (st : S)
    (hi : i < 2^64) (hlen : s.elems.length < 2^63)
    (hcnt : i < s.elems.length → 1 ≤ s.hdr.count)
    (hsz : ∀ v, s.elems[i]? = some v → v.size ≤ s.hdr.size) :
    TransSl.ArrayDataSlab_Remove env (trData s) st (u64 i) =
      match s.remove i (ctx st) with
      | .error e => some (none, some e, trData s, st)
      | .ok (v, s', _) => some (some v, none, trData s', leafStored env s' s' st) := by
  have hidx : (u64 i).toNat = i := u64_toNat hi
  simp only [TransSl.ArrayDataSlab_Remove, DataSlab.remove, trData_elements, List.length_map, u64_ofInt,
    u64_dge hi (Nat.lt_trans hlen (by decide)), hidx, goIdx_map_some, h.ioob]
  by_cases hge : i ≥ s.elems.length
  · simp [hge]
  · have hlt : i < s.elems.length := Nat.lt_of_not_le hge
    have hi1 : i + 1 < 2^64 := Nat.lt_of_le_of_lt hlt (Nat.lt_trans hlen (by decide))
    have h1 : (u64 i + 1).toNat = i + 1 := by
      rw [show (1 : UInt64) = u64 1 from rfl, u64_add_eq, u64_toNat hi1]
    have hget : s.elems[i]? = some s.elems[i] := List.getElem?_eq_getElem hlt
    have hs := hsz _ hget
    have hc := hcnt hlt
    have hdel : i ≤ i + 1 ∧ i + 1 ≤ s.elems.length := ⟨Nat.le_succ i, hlt⟩
    simp only [hge, decide_false, Bool.false_eq_true, if_false, hget, Option.map_some, h1, goDelete_ofNat,
      List.length_map, hdel, and_self, if_true, map_some_eraseIdx, h.byteSize, h.ok.storeSlab, trData_header,
      trHdr_size, trHdr_count, trHdr_slabID, one_eq_u32, u32_sub_eq hs, u32_sub_eq hc, trData_inlined, Option.isSome_none,
      leafStored]
    cases hin : s.inlined <;> simp [trData, trHdr, TransSl.ArraySlab_SlabID, TransSl.ArrayDataSlab_SlabID]

end leaves

/-- `ArrayDataSlab.Get` -/
theorem Sl_ArrayDataSlab_Get_eq_model (T : Nat) (look) (s : DataSlab) (i : Nat)
    (hi : i < 2^64) (hlen : s.elems.length < 2^63) :
    TransSl.ArrayDataSlab_Get (envA T look) (trData s) (u64 i) =
      some (match s.get i with
        | .ok e => (some e, none)
        | .error e => (none, some e)) :=
  Sl_ArrayDataSlab_Get_any (leafEnv_envA T look) s i hi hlen

/-- over the model's storage `leafStored` is the model's `storeIfNotInlined` (the new slab has the identifier and the
    `inlined` flag of the old one: `DataSlab.*_inPlace`, Array/SlabLemmas.lean) -/
theorem leafStored_envA (T : Nat) (look) {s s' : DataSlab} (c : Ctx) (hid : s'.hdr.id = s.hdr.id)
    (hinl : s'.inlined = s.inlined) : leafStored (envA T look) s s' c = s'.storeIfNotInlined c := by
  rw [leafStored, DataSlab.storeIfNotInlined, hid, hinl]; rfl

/-- `ArrayDataSlab.Insert`.  No range hypotheses on size and count: the `uint32` additions of Go are the model's
    additions modulo 2^32, which is how `trData` reads the model's numbers. -/
theorem Sl_ArrayDataSlab_Insert_eq_model (T : Nat) (look) (s : DataSlab) (i : Nat) (v : Elem) (c : Ctx)
    (hi : i < 2^64) (hlen : s.elems.length < 2^63) (hmax : maxInlineArr T < 2^32) :
    TransSl.ArrayDataSlab_Insert (envA T look) (trData s) c s.hdr.id.addr (u64 i) (some v) =
      match s.insert T i v c with
      | .error e => some (some e, trData s, c)
      | .ok (s', c') => some (none, trData s', c') := by
  rw [Sl_ArrayDataSlab_Insert_any (leafEnv_envA T look) (storableAs_envA T look hmax) s i v c hi hlen]
  cases h : s.insert T i v c with
  | error e => rfl
  | ok r =>
    obtain ⟨s', c'⟩ := r
    obtain ⟨hid, hinl, rfl⟩ := DataSlab.insert_inPlace h
    exact congrArg (fun x => some (none, trData s', x)) (leafStored_envA T look _ hid hinl)

/-- `ArrayDataSlab.Remove` -/
theorem Sl_ArrayDataSlab_Remove_eq_model (T : Nat) (look) (s : DataSlab) (i : Nat) (c : Ctx)
    (hi : i < 2^64) (hlen : s.elems.length < 2^63)
    (hcnt : i < s.elems.length → 1 ≤ s.hdr.count)
    (hsz : ∀ v, s.elems[i]? = some v → v.size ≤ s.hdr.size) :
    TransSl.ArrayDataSlab_Remove (envA T look) (trData s) c (u64 i) =
      match s.remove i c with
      | .error e => some (none, some e, trData s, c)
      | .ok (v, s', c') => some (some v, none, trData s', c') := by
  rw [Sl_ArrayDataSlab_Remove_any (leafEnv_envA T look) (fun c => c) s i c hi hlen hcnt hsz]
  cases h : s.remove i c with
  | error e => rfl
  | ok r =>
    obtain ⟨v, s', c'⟩ := r
    obtain ⟨-, -, rfl⟩ := DataSlab.remove_inPlace h
    exact congrArg (fun x => some (some v, none, trData s', x)) (leafStored_envA T look _ rfl rfl)

/-- `getPrefixSize` as a function of `inlined` and of the presence of extra data -/
def Sl_gPrefix (inl root : Bool) : Nat :=
  if inl then inlinedArrayDataSlabPrefixSize else if root then arrayRootDataSlabPrefixSize else arrayDataSlabPrefixSize

theorem Sl_getPrefixSize_eq {σ υ ξ ε S Φ : Type} (env : TransSl.Env σ υ ξ ε S Φ) (a : TransSl.ArrayDataSlab σ ξ) :
    TransSl.ArrayDataSlab_getPrefixSize env a = u32 (Sl_gPrefix a.inlined a.extraData.isSome) := by
  simp only [TransSl.ArrayDataSlab_getPrefixSize, Sl_gPrefix]
  cases a.inlined <;> cases a.extraData.isSome <;> rfl

theorem Sl_gPrefix_eq (s : DataSlab) : Sl_gPrefix s.inlined s.root = s.prefixSize := rfl

/-- `ArrayDataSlab.getPrefixSize` -/
theorem Sl_ArrayDataSlab_getPrefixSize_eq_model (T : Nat) (look) (s : DataSlab) :
    TransSl.ArrayDataSlab_getPrefixSize (envA T look) (trData s) = u32 s.prefixSize := by
  simp only [Sl_getPrefixSize_eq, trData_inlined, trData_extraData, trExtra_isSome, Sl_gPrefix_eq]

section leaves
variable {S W : Type} {env : TransSl.Env Elem Elem Unit AErr S W} {T : Nat} {ctx : S → Ctx} {setCtx : S → Ctx → S}

/-- the size loop of `ArrayDataSlab.Set`: the `uint32` sum of the element sizes is the `uint32` of the sum -/
theorem Sl_Set_loop1_any (hbs : ∀ e, env.Storable_ByteSize e = u32 e.size) (l : List Elem) (z : Nat) :
    TransSl.ArrayDataSlab_Set.loop1 env (l.map some) (u32 z) = .done (u32 (z + sumSizes l)) := by
  induction l generalizing z with
  | nil => simp [TransSl.ArrayDataSlab_Set.loop1, sumSizes_nil]
  | cons e t ih =>
    simp only [List.map_cons, TransSl.ArrayDataSlab_Set.loop1, hbs, u32_add_eq, ih, sumSizes_cons, Nat.add_assoc]

theorem Sl_ArrayDataSlab_Set_any (h : LeafEnv env) (hst : StorableAs env T ctx setCtx) (s : DataSlab) (i : Nat)
    (v : Elem) (st : S) (hi : i < 2^64) (hlen : s.elems.length < 2^63) :
    TransSl.ArrayDataSlab_Set env (trData s) st s.hdr.id.addr (u64 i) (some v) =
      match s.set T i v (ctx st) with
      | .error e => some (none, some e, trData s, st)
      | .ok (old, s', _) => some (some old, none, trData s',
          leafStored env s s' (setCtx st (toStorable T s.hdr.id.addr v (ctx st)).2)) := by
  have hidx : (u64 i).toNat = i := u64_toNat hi
  simp only [TransSl.ArrayDataSlab_Set, DataSlab.set, trData_elements, List.length_map, u64_ofInt,
    u64_dge hi (Nat.lt_trans hlen (by decide)), hidx, goIdx_map_some, h.ioob]
  by_cases hge : i ≥ s.elems.length
  · simp [hge]
  · have hlt : i < s.elems.length := Nat.lt_of_not_le hge
    have hget : s.elems[i]? = some s.elems[i] := List.getElem?_eq_getElem hlt
    simp only [hge, decide_false, Bool.false_eq_true, if_false, hget, Option.map_some,
      hst v st, Option.isSome_none, goSet_ofNat, List.length_map, hlt, if_true, h.ok.wrap]
    generalize hts : toStorable T s.hdr.id.addr v (ctx st) = ts
    obtain ⟨e, c'⟩ := ts
    have hmap : (s.elems.map some).set i (some e) = (s.elems.set i e).map some := by
      rw [List.map_set]
    simp only [Sl_getPrefixSize_eq, trData_inlined, trData_extraData, trExtra_isSome, Sl_gPrefix_eq, hmap,
      Sl_Set_loop1_any h.byteSize, h.ok.storeSlab, trData_header, trHdr_slabID,
      Option.isSome_none, Bool.false_eq_true, if_false, leafStored]
    cases hin : s.inlined <;> simp [trData, trHdr, TransSl.ArraySlab_SlabID, TransSl.ArrayDataSlab_SlabID]

/-- the loop of `ArrayDataSlab.PopIterate` after `k` steps from index `k - 1`: the callback got the first `k` elements,
    last to first -/
theorem Sl_PopIterate_loop1_any {env : TransSl.Env Elem Elem Unit AErr S (List (Option Elem))}
    (hcall : ∀ acc e, env.ArrayPopIterationFunc_call acc e = acc ++ [e]) (a : GData) (k : Nat)
    (hk : k ≤ a.elements.length) (acc : List (Option Elem)) :
    TransSl.ArrayDataSlab_PopIterate.loop1 env a k (Int.ofNat k - 1) acc =
      .done (acc ++ (a.elements.take k).reverse) := by
  induction k generalizing acc with
  | zero => simp [TransSl.ArrayDataSlab_PopIterate.loop1]
  | succ k ih =>
    have e : Int.ofNat (k + 1) - 1 = Int.ofNat k := by simp only [Int.ofNat_eq_natCast]; omega
    have hlt : k < a.elements.length := by omega
    have hget : a.elements[k]? = some a.elements[k] := List.getElem?_eq_getElem hlt
    simp only [TransSl.ArrayDataSlab_PopIterate.loop1, e, int_dge0, if_true, goIdx_ofNat, hget, hcall,
      ih (by omega), List.take_add_one, Option.toList_some, List.reverse_append, List.reverse_cons, List.reverse_nil,
      List.nil_append, List.append_assoc]

/-- `ArrayDataSlab.PopIterate` (the callback world is the list of the elements handed over), any environment -/
theorem Sl_ArrayDataSlab_PopIterate_any {env : TransSl.Env Elem Elem Unit AErr S (List (Option Elem))}
    (hcall : ∀ acc e, env.ArrayPopIterationFunc_call acc e = acc ++ [e]) (s : DataSlab) (acc : List (Option Elem)) :
    TransSl.ArrayDataSlab_PopIterate env (trData s) acc =
      some (none, trData (s.popIterate).2, acc ++ (s.popIterate).1.map some) := by
  have e : Int.ofNat (trData s).elements.length - 1 + 1 = Int.ofNat (trData s).elements.length := by omega
  have e3 : (Int.ofNat (trData s).elements.length).toNat = (trData s).elements.length := rfl
  simp only [TransSl.ArrayDataSlab_PopIterate, e, e3, Sl_PopIterate_loop1_any hcall _ _ (Nat.le_refl _),
    List.take_length, Sl_getPrefixSize_eq]
  simp [DataSlab.popIterate, trData, trHdr, Sl_gPrefix_eq]

end leaves

/-- `ArrayDataSlab.Set` -/
theorem Sl_ArrayDataSlab_Set_eq_model (T : Nat) (look) (s : DataSlab) (i : Nat) (v : Elem) (c : Ctx)
    (hi : i < 2^64) (hlen : s.elems.length < 2^63) (hmax : maxInlineArr T < 2^32) :
    TransSl.ArrayDataSlab_Set (envA T look) (trData s) c s.hdr.id.addr (u64 i) (some v) =
      match s.set T i v c with
      | .error e => some (none, some e, trData s, c)
      | .ok (old, s', c') => some (some old, none, trData s', c') := by
  rw [Sl_ArrayDataSlab_Set_any (leafEnv_envA T look) (storableAs_envA T look hmax) s i v c hi hlen]
  cases h : s.set T i v c with
  | error e => rfl
  | ok r =>
    obtain ⟨old, s', c'⟩ := r
    obtain ⟨hid, hinl, rfl⟩ := DataSlab.set_inPlace h
    exact congrArg (fun x => some (some old, none, trData s', x)) (leafStored_envA T look _ hid hinl)

/-- `ArrayDataSlab.PopIterate` (the callback world is the list of the elements handed over) -/
theorem Sl_ArrayDataSlab_PopIterate_eq_model (T : Nat) (look) (s : DataSlab) (acc : List (Option Elem)) :
    TransSl.ArrayDataSlab_PopIterate (envA T look) (trData s) acc =
      some (none, trData (s.popIterate).2, acc ++ (s.popIterate).1.map some) :=
  Sl_ArrayDataSlab_PopIterate_any (fun _ _ => rfl) s acc

section errorExits
variable {σ υ ξ ε S Φ : Type}

theorem Sl_u64_dgt_len (index : UInt64) (n : Nat) (hn : n < 2^64) :
    decide (index > UInt64.ofInt (Int.ofNat n)) = decide (index.toNat > n) := by
  rw [u64_ofInt]; simp only [gt_iff_lt, UInt64.lt_iff_toNat_lt, u64_toNat hn]

theorem Sl_u64_dge_len (index : UInt64) (n : Nat) (hn : n < 2^64) :
    decide (index ≥ UInt64.ofInt (Int.ofNat n)) = decide (index.toNat ≥ n) := by
  rw [u64_ofInt]; simp only [ge_iff_le, UInt64.le_iff_toNat_le, u64_toNat hn]

/-- `ArrayDataSlab.Insert` when `storeSlab` fails: the error comes back wrapped, and the slab ALREADY holds the new
    element, count and size (Go mutates the slab before it stores it). -/
theorem Sl_ArrayDataSlab_Insert_storeError (env : TransSl.Env σ υ ξ ε S Φ) (a : TransSl.ArrayDataSlab σ ξ)
    (storage storage' storage'' : S) (address : Nat) (index : UInt64) (p : υ) (st : σ) (e : ε)
    (hin : a.inlined = false) (hlen : a.elements.length < 2^64) (hidx : index.toNat ≤ a.elements.length)
    (hst : env.Value_Storable p storage address env.maxInlineArrayElementSize = (some st, none, storage'))
    (hstore : env.SlabStorage_Store storage' a.header.slabID
        (some (.dataSlab
          { next := a.next,
            header := { slabID := a.header.slabID, size := a.header.size + env.Storable_ByteSize st,
                        count := a.header.count + 1 },
            elements := a.elements.take index.toNat ++ [some st] ++ a.elements.drop index.toNat,
            extraData := a.extraData, inlined := a.inlined })) = (some e, storage'')) :
    TransSl.ArrayDataSlab_Insert env a storage address index (some p) =
      some (env.wrapErrorfAsExternalErrorIfNeeded (some e),
        { next := a.next,
          header := { slabID := a.header.slabID, size := a.header.size + env.Storable_ByteSize st,
                      count := a.header.count + 1 },
          elements := a.elements.take index.toNat ++ [some st] ++ a.elements.drop index.toNat,
          extraData := a.extraData, inlined := a.inlined },
        storage'') := by
  have hgt : ¬ index.toNat > a.elements.length := Nat.not_lt.mpr hidx
  simp only [hin] at hstore
  simp only [TransSl.ArrayDataSlab_Insert, Sl_u64_dgt_len _ _ hlen, hgt, decide_false, Bool.false_eq_true, if_false,
    hst, Option.isSome_none, goInsert_ofNat, hidx, if_true, hin, Bool.not_false, TransSl.storeSlab,
    TransSl.ArraySlab_SlabID, TransSl.ArrayDataSlab_SlabID, hstore, Option.isSome_some]
  cases hw : env.wrapErrorfAsExternalErrorIfNeeded (some e) <;> simp

/-- `ArrayDataSlab.Remove` when `storeSlab` fails (and wrapping a non-nil error gives a non-nil error): no value, the
    wrapped error, and the slab ALREADY without the element, count and size updated. -/
theorem Sl_ArrayDataSlab_Remove_storeError (env : TransSl.Env σ υ ξ ε S Φ) (a : TransSl.ArrayDataSlab σ ξ)
    (storage storage' : S) (index : UInt64) (st : σ) (e : ε)
    (hin : a.inlined = false) (hlen : a.elements.length < 2^64)
    (hget : a.elements[index.toNat]? = some (some st))
    (hw : (env.wrapErrorfAsExternalErrorIfNeeded (some e)).isSome = true)
    (hstore : env.SlabStorage_Store storage a.header.slabID
        (some (.dataSlab
          { next := a.next,
            header := { slabID := a.header.slabID, size := a.header.size - env.Storable_ByteSize st,
                        count := a.header.count - 1 },
            elements := a.elements.take index.toNat ++ a.elements.drop (index.toNat + 1),
            extraData := a.extraData, inlined := a.inlined })) = (some e, storage')) :
    TransSl.ArrayDataSlab_Remove env a storage index =
      some (none, env.wrapErrorfAsExternalErrorIfNeeded (some e),
        { next := a.next,
          header := { slabID := a.header.slabID, size := a.header.size - env.Storable_ByteSize st,
                      count := a.header.count - 1 },
          elements := a.elements.take index.toNat ++ a.elements.drop (index.toNat + 1),
          extraData := a.extraData, inlined := a.inlined },
        storage') := by
  have hlt : index.toNat < a.elements.length := by
    rcases Nat.lt_or_ge index.toNat a.elements.length with h | h
    · exact h
    · rw [List.getElem?_eq_none h] at hget; cases hget
  have hge : ¬ index.toNat ≥ a.elements.length := Nat.not_le.mpr hlt
  have h1 : (index + 1).toNat = index.toNat + 1 := by
    rw [UInt64.toNat_add, UInt64.toNat_one]; exact Nat.mod_eq_of_lt (Nat.lt_of_le_of_lt hlt hlen)
  have hdel : index.toNat ≤ index.toNat + 1 ∧ index.toNat + 1 ≤ a.elements.length := ⟨Nat.le_succ _, hlt⟩
  simp only [hin] at hstore
  simp only [TransSl.ArrayDataSlab_Remove, Sl_u64_dge_len _ _ hlen, hge, decide_false, Bool.false_eq_true, if_false,
    goIdx_ofNat, hget, h1, goDelete_ofNat, hdel, and_self, if_true, hin, Bool.not_false, TransSl.storeSlab,
    TransSl.ArraySlab_SlabID, TransSl.ArrayDataSlab_SlabID, hstore, Option.isSome_some, hw]

/-- `ArrayDataSlab.Set` when `Value.Storable` fails: no old element, the wrapped error, the slab UNCHANGED, the storage
    as `Value.Storable` left it. -/
theorem Sl_ArrayDataSlab_Set_storableError (env : TransSl.Env σ υ ξ ε S Φ) (a : TransSl.ArrayDataSlab σ ξ)
    (storage storage' : S) (address : Nat) (index : UInt64) (p : υ) (x : Option σ) (e : ε)
    (hlen : a.elements.length < 2^64) (hidx : index.toNat < a.elements.length)
    (hst : env.Value_Storable p storage address env.maxInlineArrayElementSize = (x, some e, storage')) :
    TransSl.ArrayDataSlab_Set env a storage address index (some p) =
      some (none, env.wrapErrorfAsExternalErrorIfNeeded (some e), a, storage') := by
  have hge : ¬ index.toNat ≥ a.elements.length := Nat.not_le.mpr hidx
  simp only [TransSl.ArrayDataSlab_Set, Sl_u64_dge_len _ _ hlen, hge, decide_false, Bool.false_eq_true, if_false,
    goIdx_ofNat, List.getElem?_eq_getElem hidx, hst, Option.isSome_some, if_true]

end errorExits

/-! ### non-vacuity: the generated functions evaluated on a concrete slab -/

section examples

/-- a non-root, not inlined leaf with three elements of 10 bytes (threshold 1024) -/
private def exS : DataSlab :=
  { hdr := ⟨⟨1, 2⟩, 21 + 30, 3⟩, next := ⟨0, 0⟩, elems := [⟨10, .val 1⟩, ⟨10, .val 2⟩, ⟨10, .val 3⟩],
    root := false, inlined := false }
private def exC : Ctx := { ctr := 7, eff := [] }
private abbrev exEnv : SEnv := envA 1024 (fun _ => none)

example : TransSl.split exEnv [1, 2, 3, 4, 5] 2 = some ([1, 2], [3, 4, 5]) := by decide
example : TransSl.split exEnv [1, 2, 3] 4 = none := by decide
example : TransSl.split exEnv [1, 2, 3] (-1) = none := by decide
example : TransSl.merge exEnv [1, 2] [3, 4, 5] = ([1, 2, 3, 4, 5], [0, 0, 0]) := by decide
example : TransSl.lendToRight exEnv [1, 2, 3] [4, 5] 2 = some ([1], [2, 3, 4, 5]) := by decide
example : TransSl.lendToRight exEnv [1, 2, 3] [4, 5] 4 = none := by decide
example : TransSl.borrowFromRight exEnv [1, 2] [3, 4, 5] 2 = some ([1, 2, 3, 4], [5]) := by decide
example : TransSl.borrowFromRight exEnv [1, 2] [3, 4, 5] 4 = none := by decide

example : TransSl.ArrayDataSlab_getPrefixSize exEnv (trData exS) = 21 := by decide

example : TransSl.ArrayDataSlab_Get exEnv (trData exS) 1 = some (some ⟨10, .val 2⟩, none) := by decide
example : TransSl.ArrayDataSlab_Get exEnv (trData exS) 3 = some (none, some .indexOutOfBounds) := by decide

example : TransSl.ArrayDataSlab_Insert exEnv (trData exS) exC 1 1 (some ⟨10, .val 9⟩) =
    some (none,
      trData { exS with hdr := ⟨⟨1, 2⟩, 61, 4⟩, elems := [⟨10, .val 1⟩, ⟨10, .val 9⟩, ⟨10, .val 2⟩, ⟨10, .val 3⟩] },
      { ctr := 7, eff := [.store ⟨1, 2⟩] }) := by rfl
example : TransSl.ArrayDataSlab_Insert exEnv (trData exS) exC 1 4 (some ⟨10, .val 9⟩) =
    some (some .indexOutOfBounds, trData exS, exC) := by rfl

example : TransSl.ArrayDataSlab_Set exEnv (trData exS) exC 1 1 (some ⟨12, .val 9⟩) =
    some (some ⟨10, .val 2⟩, none,
      trData { exS with hdr := ⟨⟨1, 2⟩, 53, 3⟩, elems := [⟨10, .val 1⟩, ⟨12, .val 9⟩, ⟨10, .val 3⟩] },
      { ctr := 7, eff := [.store ⟨1, 2⟩] }) := by rfl
example : TransSl.ArrayDataSlab_Set exEnv (trData exS) exC 1 3 (some ⟨12, .val 9⟩) =
    some (none, some .indexOutOfBounds, trData exS, exC) := by rfl

example : TransSl.ArrayDataSlab_Remove exEnv (trData exS) exC 1 =
    some (some ⟨10, .val 2⟩, none,
      trData { exS with hdr := ⟨⟨1, 2⟩, 41, 2⟩, elems := [⟨10, .val 1⟩, ⟨10, .val 3⟩] },
      { ctr := 7, eff := [.store ⟨1, 2⟩] }) := by rfl
example : TransSl.ArrayDataSlab_Remove exEnv (trData exS) exC 3 =
    some (none, some .indexOutOfBounds, trData exS, exC) := by rfl

example : TransSl.ArrayDataSlab_PopIterate exEnv (trData exS) [] =
    some (none, trData { exS with hdr := ⟨⟨1, 2⟩, 21, 0⟩, elems := [] },
      [some ⟨10, .val 3⟩, some ⟨10, .val 2⟩, some ⟨10, .val 1⟩]) := by rfl

/-- a value above the inline limit is moved to a slab of its own (`GenerateSlabID`, `Store`) and referenced -/
example : TransSl.ArrayDataSlab_Insert exEnv (trData exS) exC 1 3 (some ⟨2000, .val 9⟩) =
    some (none,
      trData { exS with hdr := ⟨⟨1, 2⟩, 51 + slabIDStorableSize, 4⟩,
                        elems := exS.elems ++ [⟨slabIDStorableSize, .ref ⟨1, 8⟩⟩] },
      { ctr := 8, eff := [.alloc 1 ⟨1, 8⟩, .store ⟨1, 8⟩, .store ⟨1, 2⟩],
        created := [(⟨1, 8⟩, ⟨2000, .val 9⟩)] }) := by rfl

/-! the hypotheses of the theorems hold for the example slab -/
example := Sl_ArrayDataSlab_Get_eq_model 1024 (fun _ => none) exS 1 (by decide) (by decide)
example := Sl_ArrayDataSlab_Insert_eq_model 1024 (fun _ => none) exS 1 ⟨10, .val 9⟩ exC (by decide) (by decide)
  (by decide)
example := Sl_ArrayDataSlab_Set_eq_model 1024 (fun _ => none) exS 1 ⟨12, .val 9⟩ exC (by decide) (by decide)
  (by decide)
example := Sl_ArrayDataSlab_Remove_eq_model 1024 (fun _ => none) exS 1 exC (by decide) (by decide) (by decide)
  (by intro v h; cases h; decide)

/-- where Go and the model part (excluded by `hcnt`): on a slab whose header count is 0 although it has an element,
    Go's `a.header.count--` wraps around to 2^32 - 1, the model's truncated subtraction stays at 0 -/
private def exBad : DataSlab := { exS with hdr := ⟨⟨1, 2⟩, 51, 0⟩ }
example : (TransSl.ArrayDataSlab_Remove exEnv (trData exBad) exC 1).map (·.2.2.1.header.count) = some 4294967295 := by
  decide
example : (match exBad.remove 1 exC with
    | .ok (_, s', _) => some (trData s').header.count
    | .error _ => none) = some 0 := by decide

/-- an environment whose `SlabStorage.Store` fails (after logging the call) -/
private def exEnvFail : SEnv :=
  { exEnv with SlabStorage_Store := fun c id _ => (some .slabNotFound, c.emit (.store id)) }

/-- `Insert` with a failing store: the error, and the slab already changed -/
example : TransSl.ArrayDataSlab_Insert exEnvFail (trData exS) exC 1 1 (some ⟨10, .val 9⟩) =
    some (some .slabNotFound,
      trData { exS with hdr := ⟨⟨1, 2⟩, 61, 4⟩, elems := [⟨10, .val 1⟩, ⟨10, .val 9⟩, ⟨10, .val 2⟩, ⟨10, .val 3⟩] },
      { ctr := 7, eff := [.store ⟨1, 2⟩] }) := by rfl
example := Sl_ArrayDataSlab_Insert_storeError exEnvFail (trData exS) exC exC { ctr := 7, eff := [.store ⟨1, 2⟩] }
  1 1 ⟨10, .val 9⟩ ⟨10, .val 9⟩ .slabNotFound rfl (by decide) (by decide) rfl rfl

/-- `Remove` with a failing store: no value, the error, and the slab already changed -/
example : TransSl.ArrayDataSlab_Remove exEnvFail (trData exS) exC 1 =
    some (none, some .slabNotFound,
      trData { exS with hdr := ⟨⟨1, 2⟩, 41, 2⟩, elems := [⟨10, .val 1⟩, ⟨10, .val 3⟩] },
      { ctr := 7, eff := [.store ⟨1, 2⟩] }) := by rfl
example := Sl_ArrayDataSlab_Remove_storeError exEnvFail (trData exS) exC { ctr := 7, eff := [.store ⟨1, 2⟩] }
  1 ⟨10, .val 2⟩ .slabNotFound rfl (by decide) rfl rfl rfl

/-- an environment whose `Value.Storable` fails -/
private def exEnvFailV : SEnv :=
  { exEnv with Value_Storable := fun _ c _ _ => (none, some .notValue, c) }

/-- `Set` with a failing `Value.Storable`: the error, the slab unchanged -/
example : TransSl.ArrayDataSlab_Set exEnvFailV (trData exS) exC 1 1 (some ⟨12, .val 9⟩) =
    some (none, some .notValue, trData exS, exC) := by rfl
example := Sl_ArrayDataSlab_Set_storableError exEnvFailV (trData exS) exC exC 1 1 ⟨12, .val 9⟩ none .notValue
  (by decide) (by decide) rfl

end examples

end Atree.TransEq

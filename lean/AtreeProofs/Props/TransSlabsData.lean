import AtreeProofs.Trans.Slabs
import AtreeProofs.Props.TransSlabs
import AtreeProofs.Trans.Loops
import AtreeProofs.Props.TransSafe
/-
  TRANSLATION EQUIVALENCE for the functions that MOVE the elements of array data slabs:
  the generated `TransSl.ArrayDataSlab_Split / Merge / LendToRight / BorrowFromRight` (Gen/TransSlabs.lean, with the
  slice_utils generics `split / merge / lendToRight / borrowFromRight` they call) against the model's
  `DataSlab.split / merge / lendToRight / borrowFromRight` - in FULL: elements, header size and count, next link,
  allocated identifier, effects.  The numbers of `LendToRight` / `BorrowFromRight` are those of the stateless engine
  (`Sl_LendToRight_eq_stateless`, Trans/Slabs.lean), compared with the model in Props/TransLoops.lean; what is added here
  is the move of the elements.
-/
namespace Atree.TransEq
open Atree Atree.Gen

section slu
variable {σ υ ξ ε S Φ : Type} {E : Type} [Inhabited E] (env : TransSl.Env σ υ ξ ε S Φ)

/-- `merge(left, right)`: `left ++ right`, and the right slice is CLEARED (zero values, same length) -/
theorem slu_merge (l r : List E) :
    TransSl.merge env l r = (l ++ r, List.replicate r.length default) := rfl
end slu

/-- `ArrayDataSlab.Merge`: the left slab becomes the model's merged slab (elements, size, count, `next`); the right
    slab keeps its header and `next` and is left with `len` NIL elements (Go's `merge` clears the right slice).
    Only hypothesis: the two header sizes add up to at least the 21-byte prefix that is subtracted (else Go wraps
    around and the model truncates, see `exTiny` below).  Additions need no range (uint32 is a ring mod 2^32). -/
theorem Sl_ArrayDataSlab_Merge_eq_model (T : Nat) (look) (l r : DataSlab)
    (hpre : Gen.arrayDataSlabPrefixSize ≤ l.hdr.size + r.hdr.size) :
    TransSl.ArrayDataSlab_Merge (envA T look) (trData l) (some (.dataSlab (trData r))) =
      some (none, trData (DataSlab.merge l r),
            some (.dataSlab { trData r with elements := List.replicate r.elems.length none })) := by
  have e21 : UInt32.ofNat Gen.arrayDataSlabPrefixSize = u32 Gen.arrayDataSlabPrefixSize := rfl
  simp only [TransSl.ArrayDataSlab_Merge, slu_merge, trData_elements, trData_header, trHdr_size, trHdr_count,
    trData_next, List.length_map, e21, u32_add_eq, u32_sub_eq hpre]
  simp [trData, trHdr, DataSlab.merge]
  -- left: the cleared right slice is `replicate _ none`, i.e. `r.elems = [] ∨ default = none`
  exact Or.inr rfl

theorem sl_split_loop (T : Nat) (look) (mid data : Nat) (hd : data < 2^32) (hmid : mid < 2^32) (rest : List Elem)
    (i ls : Nat) (hsum : ls + sumSizes rest ≤ data) :
    TransSl.ArrayDataSlab_Split.loop1 (envA T look) (u32 data) (u32 mid) (rest.map some) (Int.ofNat i) (u32 ls) 0 =
      .done (u32 (DataSlab.splitLoop mid data rest i ls).2, Int.ofNat (DataSlab.splitLoop mid data rest i ls).1) := by
  rw [sl_split_loop_eq, byteSizes_envA T look, arrSplit_loop mid data hd hmid (sizesOf rest) i ls hsum,
    arr_splitLoop_eq]

theorem dsplitLoop_bounds (mid data : Nat) (rest : List Elem) (i ls : Nat) :
    (DataSlab.splitLoop mid data rest i ls).2 ≤ ls + sumSizes rest ∧
    (DataSlab.splitLoop mid data rest i ls).1 ≤ i + rest.length := by
  have := splitLoop_bounds mid data (sizesOf rest) i ls
  rw [arr_splitLoop_eq, sumSizes_eq]
  simpa [sizesOf] using this

/-- `ArrayDataSlab.Split`: `SlabSplitError` and no change below two elements; else both result slabs (elements,
    sizes, counts, the allocated id, the `next` links), the receiver's final state (= the left slab) and the storage
    (one `alloc`) are the model's.  Needs: the header size fits `uint32` and accounts for the prefix and the elements. -/
theorem Sl_ArrayDataSlab_Split_eq_model (T : Nat) (look) (s : DataSlab) (c : Ctx) (hs : s.hdr.size < 2^32)
    (hpre : Gen.arrayDataSlabPrefixSize + sumSizes s.elems ≤ s.hdr.size) :
    TransSl.ArrayDataSlab_Split (envA T look) (trData s) c =
      match s.split c with
      | .error e => some (none, none, some e, trData s, c)
      | .ok (l, r, c') => some (some (.dataSlab (trData l)), some (.dataSlab (trData r)), none, trData l, c') := by
  have h21 : Gen.arrayDataSlabPrefixSize ≤ s.hdr.size := Nat.le_trans (Nat.le_add_right _ _) hpre
  have hd1 : s.hdr.size - Gen.arrayDataSlabPrefixSize + 1 < 2^32 :=
    Nat.lt_of_le_of_lt (Nat.sub_lt (Nat.lt_of_lt_of_le (by decide) h21) (by decide)) hs
  have hsum : sumSizes s.elems ≤ s.hdr.size - Gen.arrayDataSlabPrefixSize := Nat.le_sub_of_add_le' hpre
  simp only [TransSl.ArrayDataSlab_Split, DataSlab.split, trData_elements, List.length_map, int_dlt_two, envA_split]
  by_cases hl : s.elems.length < 2
  · simp [hl]
  · simp only [hl, decide_false, if_false, Bool.false_eq_true, trData_header, trHdr_size, trHdr_slabID, trData_next,
      u32_sub_eq h21, one_eq_u32, u32_add_eq, u32_half' hd1]
    generalize s.hdr.size - Gen.arrayDataSlabPrefixSize = d at hd1 hsum ⊢
    have hb := dsplitLoop_bounds ((d + 1) / 2) d s.elems 0 0
    rw [Nat.zero_add, Nat.zero_add] at hb
    have hloop : TransSl.ArrayDataSlab_Split.loop1 (envA T look) _ _ (s.elems.map some) (0 : Int) (0 : UInt32) 0 = _ :=
      sl_split_loop T look ((d + 1) / 2) d (Nat.lt_of_succ_lt hd1) (Nat.lt_of_le_of_lt (Nat.div_le_self _ _) hd1)
        s.elems 0 0 ((Nat.zero_add _).symm ▸ hsum)
    rw [hloop]
    generalize DataSlab.splitLoop ((d + 1) / 2) d s.elems 0 0 = r at hb ⊢
    obtain ⟨lc, ls⟩ := r
    simp only [Sl_split_spec, List.length_map, hb.2, if_true, envA_gen, Option.isSome_none, Bool.false_eq_true, if_false,
      u32_ofInt, List.length_drop, u32_add_eq,
      u32_sub_eq (Nat.le_trans (Nat.le_trans hb.1 hsum) (Nat.le_add_left _ _))]
    simp [trData, trHdr, trExtra, List.map_take, List.map_drop]

/-- `ArrayDataSlab.BorrowFromRight`: both slabs afterwards (elements, sizes, counts; `next` untouched) are the model's.
    Needs: `minThreshold` fits; the two sizes + 1 do not reach 2^32 (midpoint); the RIGHT header size covers its
    elements (no wrap in `size - leftSize - elemSize`), its count is at least its length (no wrap in
    `count - leftCount`), and its length fits `uint32` (`moveCount` is a `uint32` difference used as a slice count). -/
theorem Sl_ArrayDataSlab_BorrowFromRight_eq_model (T : Nat) (look) (l r : DataSlab) (hT : minThr T < 2^32)
    (hsz : l.hdr.size + r.hdr.size + 1 < 2^32) (hsum : sumSizes r.elems ≤ r.hdr.size)
    (hlen : r.elems.length ≤ r.hdr.count) (hlen2 : r.elems.length < 2^32) :
    TransSl.ArrayDataSlab_BorrowFromRight (envA T look) (trData l) (some (.dataSlab (trData r))) =
      some (none, trData (DataSlab.borrowFromRight T l r).1,
            some (.dataSlab (trData (DataSlab.borrowFromRight T l r).2))) := by
  have hb := (borrowLoop_bounds (minThr T) (l.hdr.size + r.hdr.size) ((l.hdr.size + r.hdr.size + 1) / 2)
    (sizesOf r.elems) l.hdr.count l.hdr.size).2.1
  rw [sizesOf_length] at hb
  rw [Sl_BorrowFromRight_eq_stateless _ _ _ _ (elementsAre_trData r), byteSizes_envA T look,
    envA_minThreshold, trData_header, trData_header, trHdr_size, trHdr_count, trHdr_size, trHdr_count,
    arrBorrow_core (minThr T) _ _ _ _ (sizesOf r.elems) hT hsz hsum (by rwa [sizesOf_length]) _ rfl,
    DataSlab.borrowFromRight, arr_borrowLoop_eq]
  generalize HkeyElems.borrowLoop _ _ _ _ _ _ = p at hb ⊢
  -- `p` = (leftCount, leftSize) after the loop; at most the right slab's elements were taken
  have hmove : p.1 - l.hdr.count ≤ r.elems.length := Nat.sub_le_of_le_add (Nat.add_comm _ _ ▸ hb)
  simp only [Option.bind_some, u32_toNat (Nat.lt_of_le_of_lt hmove hlen2), trData_elements, Sl_borrowFromRight_spec,
    List.length_map, hmove, if_true, Option.map_some, rebalanced]
  simp [trData, trHdr, List.map_take, List.map_drop]

/-- `ArrayDataSlab.LendToRight`, likewise, with the conditions on the LEFT slab (whose elements the loop walks
    backwards, decrementing `leftCount` and `leftSize`). -/
theorem Sl_ArrayDataSlab_LendToRight_eq_model (T : Nat) (look) (l r : DataSlab) (hT : minThr T < 2^32)
    (hsz : l.hdr.size + r.hdr.size + 1 < 2^32) (hsum : sumSizes l.elems ≤ l.hdr.size)
    (hlen : l.elems.length ≤ l.hdr.count) (hlen2 : l.elems.length < 2^32) :
    TransSl.ArrayDataSlab_LendToRight (envA T look) (trData l) (some (.dataSlab (trData r))) =
      some (none, trData (DataSlab.lendToRight T l r).1,
            some (.dataSlab (trData (DataSlab.lendToRight T l r).2))) := by
  have hb := lendLoop_lower (minThr T) (l.hdr.size + r.hdr.size) ((l.hdr.size + r.hdr.size + 1) / 2)
    (sizesOf l.elems).reverse l.hdr.count l.hdr.size
  rw [List.length_reverse, sizesOf_length] at hb
  rw [Sl_LendToRight_eq_stateless _ _ _ _ (elementsAre_trData l), byteSizes_envA T look,
    envA_minThreshold, trData_header, trData_header, trHdr_size, trHdr_count, trHdr_size, trHdr_count,
    arrLend_core (minThr T) _ _ _ _ (sizesOf l.elems) hT hsz hsum (by rwa [sizesOf_length]) _ rfl,
    DataSlab.lendToRight, arr_lendLoop_eq, sizesOf_reverse]
  generalize HkeyElems.lendLoop _ _ _ _ _ _ = p at hb ⊢
  have hmove : l.hdr.count - p.1 ≤ l.elems.length := Nat.sub_le_iff_le_add'.mpr (Nat.sub_le_iff_le_add.mp hb)
  simp only [Option.bind_some, u32_toNat (Nat.lt_of_le_of_lt hmove hlen2), trData_elements, Sl_lendToRight_spec,
    List.length_map, hmove, if_true, Option.map_some, rebalanced]
  simp [trData, trHdr, List.map_take, List.map_drop]

/-! ## the type assertion `slab.(*ArrayDataSlab)`: a nil or index-slab argument panics (any environment) -/

section wrongType
variable {σ υ ξ ε S Φ : Type} (env : TransSl.Env σ υ ξ ε S Φ) (a : TransSl.ArrayDataSlab σ ξ)

theorem Sl_ArrayDataSlab_Merge_wrongType (slab : Option (TransSl.ArraySlabV σ ξ))
    (h : slab = none ∨ ∃ m, slab = some (.metaSlab m)) : TransSl.ArrayDataSlab_Merge env a slab = none := by
  rcases h with rfl | ⟨m, rfl⟩ <;> rfl

theorem Sl_ArrayDataSlab_LendToRight_wrongType (slab : Option (TransSl.ArraySlabV σ ξ))
    (h : slab = none ∨ ∃ m, slab = some (.metaSlab m)) : TransSl.ArrayDataSlab_LendToRight env a slab = none := by
  rcases h with rfl | ⟨m, rfl⟩ <;> rfl

theorem Sl_ArrayDataSlab_BorrowFromRight_wrongType (slab : Option (TransSl.ArraySlabV σ ξ))
    (h : slab = none ∨ ∃ m, slab = some (.metaSlab m)) : TransSl.ArrayDataSlab_BorrowFromRight env a slab = none := by
  rcases h with rfl | ⟨m, rfl⟩ <;> rfl
end wrongType

/-! ## Split when `GenerateSlabID` fails (any environment): the state Go leaves behind -/

section allocError
variable {σ υ ξ ε S Φ : Type} (env : TransSl.Env σ υ ξ ε S Φ)

/-- on non-nil elements the split-point loop always ends normally, with a count inside the slice - whatever the
    `uint32` sizes do (no no-wrap hypothesis) -/
theorem sl_split_loop_any (ds mp : UInt32) (es : List σ) (i : Nat) (ls : UInt32) :
    ∃ ls' k, TransSl.ArrayDataSlab_Split.loop1 env ds mp (es.map some) (Int.ofNat i) ls 0 =
        .done (ls', Int.ofNat k) ∧ k ≤ i + es.length := by
  induction es generalizing i ls with
  | nil => exact ⟨ls, 0, rfl, Nat.zero_le _⟩
  | cons x t ih =>
    rw [List.map_cons, TransSl.ArrayDataSlab_Split.loop1, List.length_cons]
    cases decide (ls + env.Storable_ByteSize x ≥ mp)
    · obtain ⟨ls', k, h1, h2⟩ := ih (i + 1) (ls + env.Storable_ByteSize x)
      exact ⟨ls', k, h1, by rw [Nat.add_comm t.length 1, ← Nat.add_assoc]; exact h2⟩
    · cases decide (ls ≤ ds - ls - env.Storable_ByteSize x)
      · exact ⟨ls, i, rfl, Nat.le_add_right _ _⟩
      · exact ⟨ls + env.Storable_ByteSize x, i + 1, rfl, Nat.add_le_add_left (Nat.le_add_left 1 _) i⟩

/-- `Split` when the storage cannot allocate an identifier: Go has ALREADY truncated `a.elements` to the left part
    (`split(a.elements, leftCount)` runs before `GenerateSlabID`), while `a.header` (size, count) and `a.next` are
    still those of the whole slab, and the right part lives only in a local variable that is dropped: the receiver is
    left INCONSISTENT (`header.count`, `header.size` account for elements that `a.elements` no longer has). -/
theorem Sl_ArrayDataSlab_Split_allocError (a : TransSl.ArrayDataSlab σ ξ) (st : S) (es : List σ)
    (hes : a.elements = es.map some) (h2 : 2 ≤ es.length) (e : ε)
    (herr : (env.SlabStorage_GenerateSlabID st a.header.slabID.addr).2.1 = some e) :
    ∃ k, k ≤ a.elements.length ∧
      TransSl.ArrayDataSlab_Split env a st =
        some (none, none, env.wrapErrorfAsExternalErrorIfNeeded (some e),
              { a with elements := a.elements.take k },
              (env.SlabStorage_GenerateSlabID st a.header.slabID.addr).2.2) := by
  obtain ⟨ls', k, h1, hk⟩ := sl_split_loop_any env (a.header.size - UInt32.ofNat Gen.arrayDataSlabPrefixSize)
    (((a.header.size - UInt32.ofNat Gen.arrayDataSlabPrefixSize) + 1) >>> 1) es 0 0
  have hlen : a.elements.length = es.length := by rw [hes]; simp
  have hk' : k ≤ a.elements.length := by rw [hlen, ← Nat.zero_add es.length]; exact hk
  refine ⟨k, hk', ?_⟩
  have hlt : ¬ (es.length < 2) := Nat.not_lt.mpr h2
  simp only [TransSl.ArrayDataSlab_Split, hlen, int_dlt_two, hlt, decide_false, Bool.false_eq_true, if_false]
  have h1' : TransSl.ArrayDataSlab_Split.loop1 env _ _ a.elements (0 : Int) (0 : UInt32) (0 : Int) = _ := hes ▸ h1
  rw [h1']
  simp only [Sl_split_spec, hk', if_true, herr, Option.isSome_some]
end allocError

/-! ## on the slabs these functions are called on (`DataWork`, Props/TransSafe.lean): no numeric side conditions -/

section safe
variable {T : Nat} {s l r : DataSlab}

theorem safe_Sl_ArrayDataSlab_Split (look) (hT : legalThreshold T = true) (h : DataWork T s) (c : Ctx) :
    TransSl.ArrayDataSlab_Split (envA T look) (trData s) c =
      match s.split c with
      | .error e => some (none, none, some e, trData s, c)
      | .ok (l, r, c') => some (some (.dataSlab (trData l)), some (.dataSlab (trData r)), none, trData l, c') := by
  have h := dataWork_fits hT h
  exact Sl_ArrayDataSlab_Split_eq_model T look s c (Nat.lt_of_le_of_lt h.1 (by decide)) (Nat.le_of_eq h.2.2.1)

theorem safe_Sl_ArrayDataSlab_Merge (look) (hl : DataWork T l) :
    TransSl.ArrayDataSlab_Merge (envA T look) (trData l) (some (.dataSlab (trData r))) =
      some (none, trData (DataSlab.merge l r),
            some (.dataSlab { trData r with elements := List.replicate r.elems.length none })) := by
  have h2 := hl.size_eq
  rw [dataWork_prefix hl] at h2
  exact Sl_ArrayDataSlab_Merge_eq_model T look l r (by omega)

theorem safe_Sl_ArrayDataSlab_LendToRight (look) (hT : legalThreshold T = true) (hl : DataWork T l)
    (hr : DataWork T r) :
    TransSl.ArrayDataSlab_LendToRight (envA T look) (trData l) (some (.dataSlab (trData r))) =
      some (none, trData (DataSlab.lendToRight T l r).1,
            some (.dataSlab (trData (DataSlab.lendToRight T l r).2))) := by
  have he := dataWork_elems hT hl
  exact Sl_ArrayDataSlab_LendToRight_eq_model T look l r (thresholds_fit hT).2.1 (dataWork_pair hT hl hr).1 he.1 he.2.1
    he.2.2

theorem safe_Sl_ArrayDataSlab_BorrowFromRight (look) (hT : legalThreshold T = true) (hl : DataWork T l)
    (hr : DataWork T r) :
    TransSl.ArrayDataSlab_BorrowFromRight (envA T look) (trData l) (some (.dataSlab (trData r))) =
      some (none, trData (DataSlab.borrowFromRight T l r).1,
            some (.dataSlab (trData (DataSlab.borrowFromRight T l r).2))) := by
  have he := dataWork_elems hT hr
  exact Sl_ArrayDataSlab_BorrowFromRight_eq_model T look l r (thresholds_fit hT).2.1 (dataWork_pair hT hl hr).1 he.1
    he.2.1 he.2.2
end safe

/-! ## non-vacuity: the generated functions evaluated on concrete slabs
The fixtures `exData`, `exLook`, `exTiny`, `envFail` also serve the examples of Props/TransSlabsGlue.lean, TransDescentMor.lean
and TransDescentSplit.lean. -/

section examples
/-- a plain data slab (not root, not inlined) with elements of the given sizes; bookkeeping exact -/
def exData (id next : Nat) (sizes : List Nat) : DataSlab :=
  { hdr := ⟨⟨1, id⟩, 21 + sizes.sum, sizes.length⟩, next := ⟨1, next⟩,
    elems := sizes.mapIdx (fun i sz => ⟨sz, .val i⟩), root := false, inlined := false }

def exLook : SlabID → Option GSlab := fun _ => none

/-- Split: three elements of 100 / 150 / 200 bytes (471 bytes) split after the second; the left slab keeps its id,
    gets 271 bytes, count 2 and the NEW id as `next`; the right slab gets the new id, 221 bytes, count 1 and the old
    `next`; one `alloc` effect -/
example : TransSl.ArrayDataSlab_Split (envA 256 exLook) (trData (exData 2 9 [100, 150, 200])) ⟨5, [], []⟩ =
    some (some (.dataSlab { next := ⟨1, 6⟩, header := { slabID := ⟨1, 2⟩, size := 271, count := 2 },
                            elements := [some ⟨100, .val 0⟩, some ⟨150, .val 1⟩], extraData := none, inlined := false }),
          some (.dataSlab { next := ⟨1, 9⟩, header := { slabID := ⟨1, 6⟩, size := 221, count := 1 },
                            elements := [some ⟨200, .val 2⟩], extraData := none, inlined := false }),
          none,
          { next := ⟨1, 6⟩, header := { slabID := ⟨1, 2⟩, size := 271, count := 2 },
            elements := [some ⟨100, .val 0⟩, some ⟨150, .val 1⟩], extraData := none, inlined := false },
          ⟨6, [.alloc 1 ⟨1, 6⟩], []⟩) := by rfl

/-- … and it is the model's split -/
example : (exData 2 9 [100, 150, 200]).split ⟨5, [], []⟩ =
    .ok ({ exData 2 6 [100, 150] with hdr := ⟨⟨1, 2⟩, 271, 2⟩ },
         { exData 6 9 [] with hdr := ⟨⟨1, 6⟩, 221, 1⟩, elems := [⟨200, .val 2⟩] }, ⟨6, [.alloc 1 ⟨1, 6⟩], []⟩) := by rfl

/-- Split of a slab with one element: `SlabSplitError`, nothing changes -/
example : TransSl.ArrayDataSlab_Split (envA 256 exLook) (trData (exData 2 9 [100])) ⟨5, [], []⟩ =
    some (none, none, some .slabSplit, trData (exData 2 9 [100]), ⟨5, [], []⟩) := by rfl

/-- Merge: the left slab gets all elements, 21 + 100 + 150 + 200 bytes, count 3 and the right slab's `next`; the
    right slab keeps its header and is left with one NIL element -/
example : TransSl.ArrayDataSlab_Merge (envA 256 exLook) (trData (exData 2 3 [100, 150]))
      (some (.dataSlab (trData (exData 3 9 [200])))) =
    some (none,
          { next := ⟨1, 9⟩, header := { slabID := ⟨1, 2⟩, size := 471, count := 3 },
            elements := [some ⟨100, .val 0⟩, some ⟨150, .val 1⟩, some ⟨200, .val 0⟩], extraData := none,
            inlined := false },
          some (.dataSlab { next := ⟨1, 9⟩, header := { slabID := ⟨1, 3⟩, size := 221, count := 1 },
                            elements := [none], extraData := none, inlined := false })) := by rfl

/-- LendToRight (T = 256): left 21 + 4·60 bytes, right 21 + 30: the last two 60-byte elements move to the front -/
example : TransSl.ArrayDataSlab_LendToRight (envA 256 exLook) (trData (exData 2 3 [60, 60, 60, 60]))
      (some (.dataSlab (trData (exData 3 9 [30])))) =
    some (none,
          { next := ⟨1, 3⟩, header := { slabID := ⟨1, 2⟩, size := 141, count := 2 },
            elements := [some ⟨60, .val 0⟩, some ⟨60, .val 1⟩], extraData := none, inlined := false },
          some (.dataSlab { next := ⟨1, 9⟩, header := { slabID := ⟨1, 3⟩, size := 171, count := 3 },
                            elements := [some ⟨60, .val 2⟩, some ⟨60, .val 3⟩, some ⟨30, .val 0⟩],
                            extraData := none, inlined := false })) := by rfl

/-- BorrowFromRight (T = 256): left 21 + 30 bytes, right 21 + 4·60: the first two 60-byte elements move to the end -/
example : TransSl.ArrayDataSlab_BorrowFromRight (envA 256 exLook) (trData (exData 2 3 [30]))
      (some (.dataSlab (trData (exData 3 9 [60, 60, 60, 60])))) =
    some (none,
          { next := ⟨1, 3⟩, header := { slabID := ⟨1, 2⟩, size := 171, count := 3 },
            elements := [some ⟨30, .val 0⟩, some ⟨60, .val 0⟩, some ⟨60, .val 1⟩], extraData := none,
            inlined := false },
          some (.dataSlab { next := ⟨1, 9⟩, header := { slabID := ⟨1, 3⟩, size := 141, count := 2 },
                            elements := [some ⟨60, .val 2⟩, some ⟨60, .val 3⟩], extraData := none,
                            inlined := false })) := by rfl

/-- the hypotheses of the `safe_` corollaries are satisfiable -/
theorem exData_work (id next : Nat) : DataWork 256 (exData id next [60, 60, 60, 60]) :=
  ⟨rfl, rfl, by intro e he; simp [exData] at he; rcases he with rfl | rfl | rfl | rfl <;> decide, ⟨rfl, rfl⟩,
   by show 261 ≤ 2 * maxThr 256; decide⟩

example : TransSl.ArrayDataSlab_LendToRight (envA 256 exLook) (trData (exData 2 3 [60, 60, 60, 60]))
      (some (.dataSlab (trData (exData 3 9 [60, 60, 60, 60])))) =
    some (none, trData (DataSlab.lendToRight 256 (exData 2 3 [60, 60, 60, 60]) (exData 3 9 [60, 60, 60, 60])).1,
          some (.dataSlab (trData (DataSlab.lendToRight 256 (exData 2 3 [60, 60, 60, 60]) (exData 3 9 [60, 60, 60, 60])).2))) :=
  safe_Sl_ArrayDataSlab_LendToRight exLook (by decide) (exData_work 2 3) (exData_work 3 9)

/-- where Go and the model DIFFER (excluded by `hpre` of the Merge theorem): two "slabs" whose header sizes add up to
    less than the 21-byte prefix - Go's `uint32` subtraction wraps to 2^32 - 21, the model's `Nat` subtraction gives 0 -/
def exTiny (id : Nat) : DataSlab := { exData id 0 [] with hdr := ⟨⟨1, id⟩, 0, 0⟩ }
example : (TransSl.ArrayDataSlab_Merge (envA 256 exLook) (trData (exTiny 2)) (some (.dataSlab (trData (exTiny 3))))).map
      (·.2.1.header.size) = some 4294967275 ∧ (DataSlab.merge (exTiny 2) (exTiny 3)).hdr.size = 0 := ⟨by rfl, by rfl⟩

/-- `Split` with a storage that cannot allocate: the receiver is returned with its elements already cut to the
    left part, but with the header (471 bytes, 3 elements) and `next` of the whole slab -/
def envFail : SEnv := { envA 256 exLook with SlabStorage_GenerateSlabID := fun c _ => (SlabID.undef, some .slabNotFound, c) }
example : TransSl.ArrayDataSlab_Split envFail (trData (exData 2 9 [100, 150, 200])) ⟨5, [], []⟩ =
    some (none, none, some .slabNotFound,
          { next := ⟨1, 9⟩, header := { slabID := ⟨1, 2⟩, size := 471, count := 3 },
            elements := [some ⟨100, .val 0⟩, some ⟨150, .val 1⟩], extraData := none, inlined := false },
          ⟨5, [], []⟩) := by rfl
end examples

end Atree.TransEq

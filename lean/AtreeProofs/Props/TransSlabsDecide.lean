import AtreeProofs.Trans.Slabs
import AtreeProofs.Props.Trans
import AtreeProofs.Props.TransLoops
import AtreeProofs.Props.TransSafe
/-
  TRANSLATION EQUIVALENCE for the generated array-slab code (`Gen/TransSlabs.lean`): the getters and setters, the
  decisions `IsFull`, `IsUnderflow`, `CanLendToLeft/Right` of `ArrayDataSlab` and `ArrayMetaDataSlab` (the leaf
  `CanLend*` for EVERY `uint32` request, including those where Go's guard wraps around) and the generated DYNAMIC
  DISPATCHERS `ArraySlab_*` over the closed world `ArraySlabV = dataSlab | metaSlab` on `trTree d t`, against the
  hand-written model (`AtreeModel/Array/Slab.lean`, `Tree.lean`).  Core Lean only.
-/
namespace Atree.TransEq
open Atree Atree.Gen

section getters
variable (T : Nat) (look : SlabID → Option GSlab)

theorem Sl_ArrayDataSlab_Header (s : DataSlab) :
    TransSl.ArrayDataSlab_Header (envA T look) (trData s) = trHdr s.hdr := rfl

theorem Sl_ArrayMetaDataSlab_Header {α : Type} (m : MetaSlab α) :
    TransSl.ArrayMetaDataSlab_Header (envA T look) (trMeta m) = trHdr m.hdr := rfl

theorem Sl_ArrayDataSlab_SlabID (s : DataSlab) :
    TransSl.ArrayDataSlab_SlabID (envA T look) (trData s) = s.hdr.id := rfl

theorem Sl_ArrayMetaDataSlab_SlabID {α : Type} (m : MetaSlab α) :
    TransSl.ArrayMetaDataSlab_SlabID (envA T look) (trMeta m) = m.hdr.id := rfl

theorem Sl_ArrayDataSlab_ByteSize (s : DataSlab) :
    TransSl.ArrayDataSlab_ByteSize (envA T look) (trData s) = u32 s.hdr.size := rfl

theorem Sl_ArrayMetaDataSlab_ByteSize {α : Type} (m : MetaSlab α) :
    TransSl.ArrayMetaDataSlab_ByteSize (envA T look) (trMeta m) = u32 m.hdr.size := rfl

theorem Sl_ArrayDataSlab_IsData (s : DataSlab) :
    TransSl.ArrayDataSlab_IsData (envA T look) (trData s) = true := rfl

theorem Sl_ArrayMetaDataSlab_IsData {α : Type} (m : MetaSlab α) :
    TransSl.ArrayMetaDataSlab_IsData (envA T look) (trMeta m) = false := rfl

/-- `SetSlabID`: only the identifier in the header changes (model: `ATree.setId`) -/
theorem Sl_ArrayDataSlab_SetSlabID (s : DataSlab) (id : SlabID) :
    TransSl.ArrayDataSlab_SetSlabID (envA T look) (trData s) id =
      trData { s with hdr := { s.hdr with id := id } } := rfl

theorem Sl_ArrayMetaDataSlab_SetSlabID {α : Type} (m : MetaSlab α) (id : SlabID) :
    TransSl.ArrayMetaDataSlab_SetSlabID (envA T look) (trMeta m) id =
      trMeta { m with hdr := { m.hdr with id := id } } := rfl

/-- `RemoveExtraData`: returns the extra data (present iff root) and clears it (model: `ATree.setRoot _ false`) -/
theorem Sl_ArrayDataSlab_RemoveExtraData (s : DataSlab) :
    TransSl.ArrayDataSlab_RemoveExtraData (envA T look) (trData s) =
      (trExtra s.root, trData { s with root := false }) := rfl

theorem Sl_ArrayMetaDataSlab_RemoveExtraData {α : Type} (m : MetaSlab α) :
    TransSl.ArrayMetaDataSlab_RemoveExtraData (envA T look) (trMeta m) =
      (trExtra m.root, trMeta { m with root := false }) := rfl

/-- `SetExtraData` (model: `ATree.setRoot`) -/
theorem Sl_ArrayDataSlab_SetExtraData (s : DataSlab) (b : Bool) :
    TransSl.ArrayDataSlab_SetExtraData (envA T look) (trData s) (trExtra b) =
      trData { s with root := b } := rfl

theorem Sl_ArrayMetaDataSlab_SetExtraData {α : Type} (m : MetaSlab α) (b : Bool) :
    TransSl.ArrayMetaDataSlab_SetExtraData (envA T look) (trMeta m) (trExtra b) =
      trMeta { m with root := b } := rfl

end getters

/-- non-vacuity: a concrete root leaf and a concrete index slab -/
def slDLeaf : DataSlab :=
  { hdr := ⟨⟨1, 2⟩, 221, 4⟩, next := ⟨1, 3⟩,
    elems := [⟨50, .val 0⟩, ⟨50, .val 1⟩, ⟨50, .val 2⟩, ⟨50, .val 3⟩], root := true, inlined := false }

def slDIndex : MetaSlab Unit :=
  { hdr := ⟨⟨1, 1⟩, 300, 8⟩, childHdrs := [⟨⟨1, 2⟩, 221, 4⟩, ⟨⟨1, 3⟩, 221, 4⟩], countSum := [4, 8],
    children := [(), ()], root := false }

example : TransSl.ArrayDataSlab_Header (envA 256 (fun _ => none)) (trData slDLeaf) =
    { slabID := ⟨1, 2⟩, size := 221, count := 4 } := rfl
example : TransSl.ArrayDataSlab_RemoveExtraData (envA 256 (fun _ => none)) (trData slDLeaf) =
    (some (), { trData slDLeaf with extraData := none }) := rfl
example : (TransSl.ArrayMetaDataSlab_SetSlabID (envA 256 (fun _ => none)) (trMeta slDIndex) ⟨7, 9⟩).header.slabID =
    ⟨7, 9⟩ := rfl

section decisions
variable (T : Nat) (look : SlabID → Option GSlab)

/-- Go's `(uint32, bool)` result of `IsUnderflow` for the model's `Option Nat` -/
def underflowPair : Option Nat → UInt32 × Bool
  | some n => (u32 n, true)
  | none => (0, false)

theorem Sl_ArrayDataSlab_IsFull (s : DataSlab) (hs : s.hdr.size < 2^32) (hT : maxThr T < 2^32) :
    TransSl.ArrayDataSlab_IsFull (envA T look) (trData s) = s.isFull T := by
  show decide (u32 s.hdr.size > u32 (maxThr T)) = decide (s.hdr.size > maxThr T)
  exact u32_dgt hs hT

theorem Sl_ArrayMetaDataSlab_IsFull {α : Type} (m : MetaSlab α) (hs : m.hdr.size < 2^32) (hT : maxThr T < 2^32) :
    TransSl.ArrayMetaDataSlab_IsFull (envA T look) (trMeta m) = m.isFull T := by
  show decide (u32 m.hdr.size > u32 (maxThr T)) = decide (m.hdr.size > maxThr T)
  exact u32_dgt hs hT

/-- the shared body of the two `IsUnderflow` -/
theorem slD_isUnderflow_core (hsize minT : Nat) (hs : hsize < 2^32) (hT : minT < 2^32) :
    (if decide (u32 minT > u32 hsize) then (u32 minT - u32 hsize, true) else ((0 : UInt32), false)) =
      underflowPair (if minT > hsize then some (minT - hsize) else none) := by
  rw [u32_dgt hT hs]
  by_cases c : minT > hsize
  · simp only [c, decide_true, if_true, underflowPair]
    rw [u32_sub_eq (by omega)]
  · simp [c, underflowPair]

theorem Sl_ArrayDataSlab_IsUnderflow (s : DataSlab) (hs : s.hdr.size < 2^32) (hT : minThr T < 2^32) :
    TransSl.ArrayDataSlab_IsUnderflow (envA T look) (trData s) =
      (match s.isUnderflow T with | some n => (u32 n, true) | none => (0, false)) := by
  exact slD_isUnderflow_core s.hdr.size (minThr T) hs hT

theorem Sl_ArrayMetaDataSlab_IsUnderflow {α : Type} (m : MetaSlab α) (hs : m.hdr.size < 2^32)
    (hT : minThr T < 2^32) :
    TransSl.ArrayMetaDataSlab_IsUnderflow (envA T look) (trMeta m) =
      (match m.isUnderflow T with | some n => (u32 n, true) | none => (0, false)) := by
  exact slD_isUnderflow_core m.hdr.size (minThr T) hs hT

example : TransSl.ArrayDataSlab_IsFull (envA 256 (fun _ => none)) (trData slDLeaf) = false := by decide
example : TransSl.ArrayDataSlab_IsUnderflow (envA 1024 (fun _ => none)) (trData slDLeaf) = (u32 291, true) := by
  decide
example : TransSl.ArrayMetaDataSlab_IsUnderflow (envA 256 (fun _ => none)) (trMeta slDIndex) = (0, false) := by
  decide

/-! ### `CanLendToLeft / CanLendToRight` of an index slab (`math.Ceil(float64(size) / arraySlabHeaderSize)`) -/

/-- the shared body, from `metaCanLend_core` (Props/Trans.lean): `TransSl.goCeilDivU32` is `Trans.goCeilDivU32` -/
theorem slD_metaCanLend {α : Type} (m : MetaSlab α) (n : Nat)
    (hs : m.hdr.size < 2^32) (hT : minThr T < 2^32) (hw : n + Gen.arraySlabHeaderSize ≤ 2^32) :
    (let k : UInt32 := TransSl.goCeilDivU32 (u32 n) Gen.arraySlabHeaderSize
     if decide (u32 m.hdr.size ≥ UInt32.ofNat Gen.arraySlabHeaderSize * k) then
       decide (u32 m.hdr.size - UInt32.ofNat Gen.arraySlabHeaderSize * k > u32 (minThr T))
     else false) = m.canLend T n := by
  have hw' : n < 2^32 := by simp only [Gen.arraySlabHeaderSize] at hw; omega
  have h := metaCanLend_core Gen.arraySlabHeaderSize (by decide) (by decide) (u32 m.hdr.size) (u32 n)
    (u32 (minThr T)) (by rw [u32_toNat hw']; exact hw)
  have e : TransSl.goCeilDivU32 = Trans.goCeilDivU32 := rfl
  rw [e, h]
  simp only [u32_toNat hs, u32_toNat hT, u32_toNat hw', MetaSlab.canLend]

/-- `ArrayMetaDataSlab.CanLendToLeft(size)`.  `size + 14 ≤ 2^32` is needed: beyond it Go's product
    `arraySlabHeaderSize * n` wraps around (see `ArrayMetaDataSlab_CanLendToLeft_differs_at`, Props/Trans.lean);
    callers pass an underflow size `< minThreshold`. -/
theorem Sl_ArrayMetaDataSlab_CanLendToLeft {α : Type} (m : MetaSlab α) (n : Nat)
    (hs : m.hdr.size < 2^32) (hT : minThr T < 2^32) (hw : n + Gen.arraySlabHeaderSize ≤ 2^32) :
    TransSl.ArrayMetaDataSlab_CanLendToLeft (envA T look) (trMeta m) (u32 n) = m.canLend T n :=
  slD_metaCanLend T m n hs hT hw

theorem Sl_ArrayMetaDataSlab_CanLendToRight {α : Type} (m : MetaSlab α) (n : Nat)
    (hs : m.hdr.size < 2^32) (hT : minThr T < 2^32) (hw : n + Gen.arraySlabHeaderSize ≤ 2^32) :
    TransSl.ArrayMetaDataSlab_CanLendToRight (envA T look) (trMeta m) (u32 n) = m.canLend T n :=
  slD_metaCanLend T m n hs hT hw

example : TransSl.ArrayMetaDataSlab_CanLendToLeft (envA 256 (fun _ => none)) (trMeta slDIndex) (u32 20) = true := by
  decide
example : TransSl.ArrayMetaDataSlab_CanLendToRight (envA 256 (fun _ => none)) (trMeta slDIndex) (u32 200) = false := by
  decide

/-! ### `CanLendToLeft / CanLendToRight` of a leaf: the stateless engine's function on the byte sizes
    (`Sl_CanLendToLeft_eq_stateless`), whose comparison with the model is Props/TransLoops.lean -/

theorem Sl_ArrayDataSlab_CanLendToLeft (s : DataSlab) (n : Nat) (hs : s.hdr.size < 2^32) (hT : minThr T < 2^32)
    (hn : n < 2^32) (hsum : sumSizes s.elems ≤ s.hdr.size) :
    TransSl.ArrayDataSlab_CanLendToLeft (envA T look) (trData s) (u32 n) = some (s.canLendToLeft T n) := by
  rw [Sl_CanLendToLeft_eq_stateless _ _ _ (elementsAre_trData s), byteSizes_envA T look]
  exact congrArg some (ArrayDataSlab_CanLendToLeft_eq_model T s n hs hT hn hsum)

theorem Sl_ArrayDataSlab_CanLendToRight (s : DataSlab) (n : Nat) (hs : s.hdr.size < 2^32) (hT : minThr T < 2^32)
    (hn : n < 2^32) (hsum : sumSizes s.elems ≤ s.hdr.size) :
    TransSl.ArrayDataSlab_CanLendToRight (envA T look) (trData s) (u32 n) = some (s.canLendToRight T n) := by
  rw [Sl_CanLendToRight_eq_stateless _ _ _ (elementsAre_trData s), byteSizes_envA T look]
  exact congrArg some (ArrayDataSlab_CanLendToRight_eq_model T s n hs hT hn hsum)

/-- non-vacuity: a 221-byte leaf with four 50-byte elements (minThreshold 128) can lend 40 bytes (one element), not
    60 (two elements would leave 121 bytes) -/
example : TransSl.ArrayDataSlab_CanLendToLeft (envA 256 (fun _ => none)) (trData slDLeaf) (u32 40) = some true ∧
    TransSl.ArrayDataSlab_CanLendToLeft (envA 256 (fun _ => none)) (trData slDLeaf) (u32 60) = some false := by
  decide
example : TransSl.ArrayDataSlab_CanLendToRight (envA 256 (fun _ => none)) (trData slDLeaf) (u32 40) = some true ∧
    TransSl.ArrayDataSlab_CanLendToRight (envA 256 (fun _ => none)) (trData slDLeaf) (u32 60) = some false := by
  decide
/-- a request larger than the slab: Go's first guard `a.header.size-size < minThreshold` wraps around (221 - 300) and
    does not fire, the model's does; both answer false (the loop stops at the second element) -/
example : decide (u32 221 - u32 300 < u32 (minThr 256)) = false ∧
    TransSl.ArrayDataSlab_CanLendToLeft (envA 256 (fun _ => none)) (trData slDLeaf) (u32 300) = some false ∧
    slDLeaf.canLendToLeft 256 300 = false := by decide

/-- `sumSizes s.elems ≤ s.hdr.size` is needed: on a (corrupt) slab whose header says 600 bytes but which holds two
    400-byte elements, Go's `a.header.size - lendSize` wraps around (600 - 800) and the second element looks
    lendable; the model's truncated subtraction says no.  Valid slabs satisfy the hypothesis (`dataInv_fits`). -/
theorem Sl_ArrayDataSlab_CanLendToLeft_differs_at :
    let s : DataSlab := { hdr := ⟨⟨1, 1⟩, 600, 2⟩, next := SlabID.undef, elems := [⟨400, .val 0⟩, ⟨400, .val 1⟩],
                          root := false, inlined := false }
    TransSl.ArrayDataSlab_CanLendToLeft (envA 256 (fun _ => none)) (trData s) (u32 700) = some true ∧
    s.canLendToLeft 256 700 = false := by decide

end decisions

section dispatch
variable (T : Nat) (look : SlabID → Option GSlab)

theorem Sl_disp_Header (d : Nat) (t : ATree d) :
    TransSl.ArraySlab_Header (envA T look) (trTree d t) = trHdr (ATree.hdr d t) :=
  disp_Header_any _ d t

theorem Sl_disp_SlabID (d : Nat) (t : ATree d) :
    TransSl.ArraySlab_SlabID (envA T look) (trTree d t) = (ATree.hdr d t).id :=
  disp_SlabID_any _ d t

theorem Sl_disp_ByteSize (d : Nat) (t : ATree d) :
    TransSl.ArraySlab_ByteSize (envA T look) (trTree d t) = u32 (ATree.hdr d t).size :=
  disp_ByteSize_any _ d t

theorem Sl_disp_IsData (d : Nat) (t : ATree d) :
    TransSl.ArraySlab_IsData (envA T look) (trTree d t) = decide (d = 0) :=
  disp_IsData_any _ d t

theorem Sl_disp_SetSlabID (d : Nat) (t : ATree d) (id : SlabID) :
    TransSl.ArraySlab_SetSlabID (envA T look) (trTree d t) id = trTree d (ATree.setId d t id) :=
  disp_SetSlabID_any _ d t id

theorem Sl_disp_RemoveExtraData (d : Nat) (t : ATree d) :
    TransSl.ArraySlab_RemoveExtraData (envA T look) (trTree d t) =
      (trExtra (ATree.isRoot d t), trTree d (ATree.setRoot d t false)) :=
  disp_RemoveExtraData_any _ d t

theorem Sl_disp_SetExtraData (d : Nat) (t : ATree d) (b : Bool) :
    TransSl.ArraySlab_SetExtraData (envA T look) (trTree d t) (trExtra b) = trTree d (ATree.setRoot d t b) :=
  disp_SetExtraData_any _ d t b

/- The generated file has no dispatcher for `IsFull` / `IsUnderflow` (no translated function calls them through the
   interface); the per-type theorems are above. -/

/-- what `CanLendToLeft / CanLendToRight` need of the slab they are asked on: the numbers fit `uint32` and, for a
    leaf, the header size accounts for the elements (so that `a.header.size - lendSize` does not wrap around).
    Every slab of a valid tree satisfies it (`DecOK.of_dataInv`; index slabs: `m.hdr.size < 2^32`). -/
def DecOK (T : Nat) : (d : Nat) → ATree d → Prop
  | 0, (s : DataSlab) => s.hdr.size < 2^32 ∧ minThr T < 2^32 ∧ sumSizes s.elems ≤ s.hdr.size
  | _ + 1, (m : MetaSlab _) => m.hdr.size < 2^32 ∧ minThr T < 2^32

theorem DecOK.of_dataInv {T : Nat} {top : Bool} {s : DataSlab} (hT : legalThreshold T = true)
    (h : DataInv T top s) : DecOK T 0 s :=
  ⟨(dataInv_fits hT h).1, (thresholds_fit hT).2.1, (dataInv_fits hT h).2⟩

theorem DecOK.of_dataWork {T : Nat} {s : DataSlab} (hT : legalThreshold T = true) (h : DataWork T s) :
    DecOK T 0 s := by
  have h1 := dataWork_fits hT h
  exact ⟨Nat.lt_of_le_of_lt h1.1 (by decide), (thresholds_fit hT).2.1,
    Nat.le_trans (Nat.le_add_left _ _) (Nat.le_of_eq h1.2.2.1)⟩

/-- `ArraySlab.CanLendToLeft(size)` through the interface: never panics, and answers what the model answers.  A leaf
    is right for every `uint32` request; an index slab needs `size + 14 ≤ 2^32` (beyond it Go's
    `arraySlabHeaderSize * n` wraps around, `ArrayMetaDataSlab_CanLendToLeft_differs_at`). -/
theorem Sl_disp_CanLendToLeft (d : Nat) (t : ATree d) (n : Nat) (hok : DecOK T d t) (hn : n < 2^32)
    (hn' : d ≠ 0 → n + Gen.arraySlabHeaderSize ≤ 2^32) :
    TransSl.ArraySlab_CanLendToLeft (envA T look) (trTree d t) (u32 n) = some (ATree.canLendToLeft T d t n) := by
  cases d with
  | zero =>
    obtain ⟨h1, h2, h3⟩ := hok
    show (match TransSl.ArrayDataSlab_CanLendToLeft (envA T look) (trData t) (u32 n) with
      | some r_ => some r_ | none => none) = some (DataSlab.canLendToLeft T t n)
    rw [Sl_ArrayDataSlab_CanLendToLeft T look t n h1 h2 hn h3]
  | succ d =>
    obtain ⟨h1, h2⟩ := hok
    show some (TransSl.ArrayMetaDataSlab_CanLendToLeft (envA T look) (trMeta t) (u32 n)) =
      some (MetaSlab.canLend T t n)
    rw [Sl_ArrayMetaDataSlab_CanLendToLeft T look t n h1 h2 (hn' (by omega))]

theorem Sl_disp_CanLendToRight (d : Nat) (t : ATree d) (n : Nat) (hok : DecOK T d t) (hn : n < 2^32)
    (hn' : d ≠ 0 → n + Gen.arraySlabHeaderSize ≤ 2^32) :
    TransSl.ArraySlab_CanLendToRight (envA T look) (trTree d t) (u32 n) = some (ATree.canLendToRight T d t n) := by
  cases d with
  | zero =>
    obtain ⟨h1, h2, h3⟩ := hok
    show (match TransSl.ArrayDataSlab_CanLendToRight (envA T look) (trData t) (u32 n) with
      | some r_ => some r_ | none => none) = some (DataSlab.canLendToRight T t n)
    rw [Sl_ArrayDataSlab_CanLendToRight T look t n h1 h2 hn h3]
  | succ d =>
    obtain ⟨h1, h2⟩ := hok
    show some (TransSl.ArrayMetaDataSlab_CanLendToRight (envA T look) (trMeta t) (u32 n)) =
      some (MetaSlab.canLend T t n)
    rw [Sl_ArrayMetaDataSlab_CanLendToRight T look t n h1 h2 (hn' (by omega))]

/-- the same with one range hypothesis (what `MergeOrRebalanceChildSlab` has: `n` is an underflow size) -/
theorem Sl_disp_CanLendToLeft' (d : Nat) (t : ATree d) (n : Nat) (hok : DecOK T d t)
    (hn : n + Gen.arraySlabHeaderSize ≤ 2^32) :
    TransSl.ArraySlab_CanLendToLeft (envA T look) (trTree d t) (u32 n) = some (ATree.canLendToLeft T d t n) :=
  Sl_disp_CanLendToLeft T look d t n hok (by simp only [Gen.arraySlabHeaderSize] at hn; omega) (fun _ => hn)

theorem Sl_disp_CanLendToRight' (d : Nat) (t : ATree d) (n : Nat) (hok : DecOK T d t)
    (hn : n + Gen.arraySlabHeaderSize ≤ 2^32) :
    TransSl.ArraySlab_CanLendToRight (envA T look) (trTree d t) (u32 n) = some (ATree.canLendToRight T d t n) :=
  Sl_disp_CanLendToRight T look d t n hok (by simp only [Gen.arraySlabHeaderSize] at hn; omega) (fun _ => hn)

end dispatch

/-! ## non-vacuity of the dispatcher theorems: a leaf (`ATree 0`) and an index slab over leaves (`ATree 1`) -/

def slDIndex1 : ATree 1 :=
  ({ hdr := ⟨⟨1, 1⟩, 300, 8⟩, childHdrs := [⟨⟨1, 2⟩, 221, 4⟩, ⟨⟨1, 3⟩, 221, 4⟩], countSum := [4, 8],
     children := [slDLeaf, { slDLeaf with hdr := ⟨⟨1, 3⟩, 221, 4⟩, root := false }], root := false } :
    MetaSlab DataSlab)

theorem slDLeaf_ok : DecOK 256 0 slDLeaf :=
  show (221 : Nat) < 2^32 ∧ minThr 256 < 2^32 ∧ sumSizes slDLeaf.elems ≤ 221 by decide
theorem slDIndex1_ok : DecOK 256 1 slDIndex1 := show (300 : Nat) < 2^32 ∧ minThr 256 < 2^32 by decide

example : TransSl.ArraySlab_Header (envA 256 (fun _ => none)) (trTree 0 slDLeaf) =
    { slabID := ⟨1, 2⟩, size := 221, count := 4 } := rfl
example : TransSl.ArraySlab_Header (envA 256 (fun _ => none)) (trTree 1 slDIndex1) =
    { slabID := ⟨1, 1⟩, size := 300, count := 8 } := rfl
example : TransSl.ArraySlab_IsData (envA 256 (fun _ => none)) (trTree 0 slDLeaf) = true ∧
    TransSl.ArraySlab_IsData (envA 256 (fun _ => none)) (trTree 1 slDIndex1) = false := ⟨rfl, rfl⟩
example : (TransSl.ArraySlab_RemoveExtraData (envA 256 (fun _ => none)) (trTree 0 slDLeaf)).1 = some () ∧
    (TransSl.ArraySlab_RemoveExtraData (envA 256 (fun _ => none)) (trTree 1 slDIndex1)).1 = none := ⟨rfl, rfl⟩
example : TransSl.ArraySlab_SlabID (envA 256 (fun _ => none))
    (TransSl.ArraySlab_SetSlabID (envA 256 (fun _ => none)) (trTree 1 slDIndex1) ⟨7, 9⟩) = ⟨7, 9⟩ := rfl
example : TransSl.ArraySlab_CanLendToLeft (envA 256 (fun _ => none)) (trTree 0 slDLeaf) (u32 40) = some true ∧
    TransSl.ArraySlab_CanLendToRight (envA 256 (fun _ => none)) (trTree 1 slDIndex1) (u32 40) = some true ∧
    TransSl.ArraySlab_CanLendToLeft (envA 256 (fun _ => none)) (trTree 1 slDIndex1) (u32 200) = some false := by
  decide
/-- … and through the theorem: the generated dispatcher on the index slab is the model's `canLendToLeft` -/
example : TransSl.ArraySlab_CanLendToLeft (envA 256 (fun _ => none)) (trTree 1 slDIndex1) (u32 40) =
    some (ATree.canLendToLeft 256 1 slDIndex1 40) :=
  Sl_disp_CanLendToLeft' 256 _ 1 slDIndex1 40 slDIndex1_ok (by decide)

end Atree.TransEq

import AtreeProofs.Props.TransSlabsTree
import AtreeProofs.Props.TransSlabsData
import AtreeProofs.Props.TransSlabsMeta
import AtreeProofs.Props.TransSlabsDecide
/-
  GLUE between the index-slab restructuring theorems (`Props/TransSlabsTree.lean`: `Sl_SplitChildSlab_eq_model`,
  `Sl_rebalanceChildren_eq_model`, `Sl_mergeChildren_eq_model`, `Sl_MergeOrRebalanceChildSlab_eq_model`), which take the
  agreement of the DYNAMICALLY DISPATCHED child operation with the model as a hypothesis (`SplitAgrees`, `RebalAgrees`,
  `MergeAgrees`, the bundle `MorPre`), and the slab-level theorems that prove this agreement:
  `Props/TransSlabsData.lean` for data-slab children (depth 0), `Props/TransSlabsMeta.lean` for index-slab children
  (depth d + 1), `Props/TransSlabsDecide.lean` for `CanLendToLeft / CanLendToRight`.

  The generated dispatchers `TransSl.ArraySlab_Split / _Merge / _LendToRight / _BorrowFromRight` match on the variant of
  the receiver, call the per-type function and re-wrap the receiver's out-state in the same variant; on
  `trTree 0 s = .dataSlab (trData s)` resp. `trTree (d+1) m = .metaSlab (trMeta m)` they are the per-type functions.

  Result: corollaries WITHOUT any hypothesis about generated code (`Sl_*_data_eq_model`, `Sl_*_meta_eq_model`).
-/
namespace Atree.TransEq
open Atree Atree.Gen

/-- a data-slab child: the dispatched `Split` is `ArrayDataSlab.Split`, which is the model's `DataSlab.split` -/
theorem SplitAgrees_data (T : Nat) (look) (s : DataSlab) (c : Ctx) (hs : s.hdr.size < 2^32)
    (hpre : Gen.arrayDataSlabPrefixSize + sumSizes s.elems ≤ s.hdr.size) : SplitAgrees T look 0 s c := by
  have h := Sl_ArrayDataSlab_Split_eq_model T look s c hs hpre
  unfold SplitAgrees
  simp only [trTree, ATree.split, TransSl.ArraySlab_Split, h]
  cases DataSlab.split s c with
  | error e => rfl
  | ok res => rfl

/-- … on the slabs `Split` is called on (`DataWork`): no numeric side condition -/
theorem SplitAgrees_data_safe (T : Nat) (look) (s : DataSlab) (c : Ctx) (hT : legalThreshold T = true)
    (hw : DataWork T s) : SplitAgrees T look 0 s c := by
  obtain ⟨a1, _, a3, _⟩ := dataWork_fits hT hw
  exact SplitAgrees_data T look s c (Nat.lt_of_le_of_lt a1 (by decide)) (Nat.le_of_eq a3)

/-- an index-slab child (hypotheses of `Sl_ArrayMetaDataSlab_Split_eq_model`; all follow from
    `|countSum| = |childHdrs|`, `hdr.size = prefix + n * 14`, `hdr.count = sumCounts childHdrs`) -/
theorem SplitAgrees_meta (T : Nat) (look) {d : Nat} (m : MetaSlab (ATree d)) (c : Ctx)
    (hcs : (m.childHdrs.length + 1) / 2 ≤ m.countSum.length)
    (hcov : (m.childHdrs.length + 1) / 2 * arraySlabHeaderSize ≤ m.hdr.size)
    (hcnt : MetaSlab.sumCounts (m.childHdrs.take ((m.childHdrs.length + 1) / 2)) ≤ m.hdr.count) :
    SplitAgrees T look (d + 1) m c := by
  have h := Sl_ArrayMetaDataSlab_Split_eq_model T look m c hcs hcov hcnt
  unfold SplitAgrees
  simp only [trTree, ATree.split, TransSl.ArraySlab_Split, h]
  cases MetaSlab.split m c with
  | error e => rfl
  | ok res => rfl

@[simp] theorem rebalOp_data_true (T : Nat) (l r : DataSlab) :
    rebalOp T 0 l r true = DataSlab.borrowFromRight T l r := rfl
@[simp] theorem rebalOp_data_false (T : Nat) (l r : DataSlab) :
    rebalOp T 0 l r false = DataSlab.lendToRight T l r := rfl
@[simp] theorem rebalOp_meta_true (T : Nat) {d : Nat} (l r : MetaSlab (ATree d)) :
    rebalOp T (d + 1) l r true = MetaSlab.borrowFromRight l r := rfl
@[simp] theorem rebalOp_meta_false (T : Nat) {d : Nat} (l r : MetaSlab (ATree d)) :
    rebalOp T (d + 1) l r false = MetaSlab.lendToRight l r := rfl

theorem RebalAgrees_data_borrow (T : Nat) (look) (l r : DataSlab) (hT : minThr T < 2^32)
    (hsz : l.hdr.size + r.hdr.size + 1 < 2^32) (hsum : sumSizes r.elems ≤ r.hdr.size)
    (hlen : r.elems.length ≤ r.hdr.count) (hlen2 : r.elems.length < 2^32) :
    RebalAgrees T look 0 l r true := by
  have h := Sl_ArrayDataSlab_BorrowFromRight_eq_model T look l r hT hsz hsum hlen hlen2
  unfold RebalAgrees
  simp only [if_true, trTree, rebalOp, ATree.borrowFromRight, TransSl.ArraySlab_BorrowFromRight, h]
  rfl

theorem RebalAgrees_data_lend (T : Nat) (look) (l r : DataSlab) (hT : minThr T < 2^32)
    (hsz : l.hdr.size + r.hdr.size + 1 < 2^32) (hsum : sumSizes l.elems ≤ l.hdr.size)
    (hlen : l.elems.length ≤ l.hdr.count) (hlen2 : l.elems.length < 2^32) :
    RebalAgrees T look 0 l r false := by
  have h := Sl_ArrayDataSlab_LendToRight_eq_model T look l r hT hsz hsum hlen hlen2
  unfold RebalAgrees
  simp only [Bool.false_eq_true, if_false, trTree, rebalOp, ATree.lendToRight, TransSl.ArraySlab_LendToRight, h]
  rfl

/-- data-slab siblings, both directions.  The conditions are on the slab whose elements Go's loop walks (`w`): the right
    one for `BorrowFromRight` (`flag = true`), the left one for `LendToRight`. -/
theorem RebalAgrees_data (T : Nat) (look) (l r : DataSlab) (flag : Bool) (hT : minThr T < 2^32)
    (hsz : l.hdr.size + r.hdr.size + 1 < 2^32) (w : DataSlab) (hw : w = if flag then r else l)
    (hsum : sumSizes w.elems ≤ w.hdr.size) (hlen : w.elems.length ≤ w.hdr.count) (hlen2 : w.elems.length < 2^32) :
    RebalAgrees T look 0 l r flag := by
  cases flag
  · simp only [Bool.false_eq_true, if_false] at hw; rw [hw] at hsum hlen hlen2
    exact RebalAgrees_data_lend T look l r hT hsz hsum hlen hlen2
  · simp only [if_true] at hw; rw [hw] at hsum hlen hlen2
    exact RebalAgrees_data_borrow T look l r hT hsz hsum hlen hlen2

/-- … on the pairs of siblings these functions are called on: no numeric side condition -/
theorem RebalAgrees_data_safe (T : Nat) (look) (l r : DataSlab) (flag : Bool) (hT : legalThreshold T = true)
    (hl : DataWork T l) (hr : DataWork T r) : RebalAgrees T look 0 l r flag := by
  have ht := (thresholds_fit hT).2.1
  have hs := (dataWork_pair hT hl hr).1
  cases flag
  · have f := dataWork_elems hT hl
    exact RebalAgrees_data_lend T look l r ht hs f.1 f.2.1 f.2.2
  · have f := dataWork_elems hT hr
    exact RebalAgrees_data_borrow T look l r ht hs f.1 f.2.1 f.2.2

theorem RebalAgrees_meta_borrow (T : Nat) (look) {d : Nat} (l r : MetaSlab (ATree d))
    (hmove : l.childHdrs.length ≤ (l.childHdrs.length + r.childHdrs.length) / 2)
    (hcs : r.childHdrs.length - ((l.childHdrs.length + r.childHdrs.length) / 2 - l.childHdrs.length) ≤
      r.countSum.length) :
    RebalAgrees T look (d + 1) l r true := by
  have h := Sl_ArrayMetaDataSlab_BorrowFromRight_eq_model T look l r hmove hcs
  unfold RebalAgrees
  simp only [if_true, trTree, rebalOp, ATree.borrowFromRight, TransSl.ArraySlab_BorrowFromRight, h]
  rfl

theorem RebalAgrees_meta_lend (T : Nat) (look) {d : Nat} (l r : MetaSlab (ATree d))
    (hmove : (l.childHdrs.length + r.childHdrs.length) / 2 ≤ l.childHdrs.length)
    (hcs : (l.childHdrs.length + r.childHdrs.length) / 2 ≤ l.countSum.length) :
    RebalAgrees T look (d + 1) l r false := by
  have h := Sl_ArrayMetaDataSlab_LendToRight_eq_model T look l r hmove hcs
  unfold RebalAgrees
  simp only [Bool.false_eq_true, if_false, trTree, rebalOp, ATree.lendToRight, TransSl.ArraySlab_LendToRight, h]
  rfl

/-- index-slab siblings, both directions: the hypotheses of `Sl_ArrayMetaDataSlab_BorrowFromRight_eq_model`
    (`flag = true`: the left slab has at most half of the children ..) resp. `.._LendToRight_..` (`flag = false`: the
    left slab has at least half ..).  In the wrong direction Go panics (negative `moveCount`). -/
theorem RebalAgrees_meta (T : Nat) (look) {d : Nat} (l r : MetaSlab (ATree d)) (flag : Bool)
    (hb : flag = true → l.childHdrs.length ≤ (l.childHdrs.length + r.childHdrs.length) / 2 ∧
      r.childHdrs.length - ((l.childHdrs.length + r.childHdrs.length) / 2 - l.childHdrs.length) ≤ r.countSum.length)
    (hl : flag = false → (l.childHdrs.length + r.childHdrs.length) / 2 ≤ l.childHdrs.length ∧
      (l.childHdrs.length + r.childHdrs.length) / 2 ≤ l.countSum.length) :
    RebalAgrees T look (d + 1) l r flag := by
  cases flag
  · exact RebalAgrees_meta_lend T look l r (hl rfl).1 (hl rfl).2
  · exact RebalAgrees_meta_borrow T look l r (hb rfl).1 (hb rfl).2

theorem half_le_left {a b : Nat} (h : b ≤ a) : (a + b) / 2 ≤ a := by omega
theorem left_le_half {a b : Nat} (h : a ≤ b) : a ≤ (a + b) / 2 := by omega

/-- the same for index slabs with as many count sums as headers: only the direction condition remains -/
theorem RebalAgrees_meta_of_len (T : Nat) (look) {d : Nat} (l r : MetaSlab (ATree d)) (flag : Bool)
    (hlenL : l.countSum.length = l.childHdrs.length) (hlenR : r.countSum.length = r.childHdrs.length)
    (hdir : if flag then l.childHdrs.length ≤ r.childHdrs.length else r.childHdrs.length ≤ l.childHdrs.length) :
    RebalAgrees T look (d + 1) l r flag := by
  cases flag
  · simp only [Bool.false_eq_true, if_false] at hdir
    exact RebalAgrees_meta_lend T look l r (half_le_left hdir) (Nat.le_trans (half_le_left hdir) (Nat.le_of_eq hlenL.symm))
  · simp only [if_true] at hdir
    exact RebalAgrees_meta_borrow T look l r (left_le_half hdir) (Nat.le_trans (Nat.sub_le _ _) (Nat.le_of_eq hlenR.symm))

/-- what Go leaves of the right data slab after `Merge`: header and `next` untouched, `len` NIL elements -/
def clearedData (r : DataSlab) : GSlab :=
  .dataSlab { trData r with elements := List.replicate r.elems.length none }

/-- what Go leaves of the right index slab after `Merge`: the header slice is zeroed, the rest (own header, count sums)
    untouched -/
def clearedMeta {α : Type} (r : MetaSlab α) : GSlab :=
  .metaSlab { trMeta r with childrenHeaders := List.replicate r.childHdrs.length default }

theorem clearedData_slabID (T : Nat) (look) (r : DataSlab) :
    TransSl.ArraySlab_SlabID (envA T look) (clearedData r) = r.hdr.id := rfl

theorem clearedMeta_slabID (T : Nat) (look) {α : Type} (r : MetaSlab α) :
    TransSl.ArraySlab_SlabID (envA T look) (clearedMeta r) = r.hdr.id := rfl

theorem disp_Merge_data (T : Nat) (look) (l r : DataSlab)
    (hpre : Gen.arrayDataSlabPrefixSize ≤ l.hdr.size + r.hdr.size) :
    TransSl.ArraySlab_Merge (envA T look) (trTree 0 l) (some (trTree 0 r)) =
      some (none, trTree 0 (ATree.merge 0 l r), some (clearedData r)) := by
  have h := Sl_ArrayDataSlab_Merge_eq_model T look l r hpre
  simp only [trTree, ATree.merge, TransSl.ArraySlab_Merge, h, clearedData]

theorem disp_Merge_meta (T : Nat) (look) {d : Nat} (l r : MetaSlab (ATree d))
    (hne : l.countSum ≠ []) (hpre : arrayMetaDataSlabPrefixSize ≤ r.hdr.size) :
    TransSl.ArraySlab_Merge (envA T look) (trTree (d + 1) l) (some (trTree (d + 1) r)) =
      some (none, trTree (d + 1) (ATree.merge (d + 1) l r), some (clearedMeta r)) := by
  have h := Sl_ArrayMetaDataSlab_Merge_eq_model T look l r hne hpre
  simp only [trTree, ATree.merge, TransSl.ArraySlab_Merge, h, clearedMeta]

/-- data slabs: the witness is the right slab with cleared elements; its `SlabID` is unchanged -/
theorem MergeAgrees_data (T : Nat) (look) (l r : DataSlab)
    (hpre : Gen.arrayDataSlabPrefixSize ≤ l.hdr.size + r.hdr.size) : MergeAgrees T look 0 l r :=
  ⟨clearedData r, rfl, disp_Merge_data T look l r hpre⟩

theorem MergeAgrees_data_safe (T : Nat) (look) (l r : DataSlab) (hl : DataWork T l) : MergeAgrees T look 0 l r := by
  have h2 := hl.size_eq
  rw [dataWork_prefix hl] at h2
  exact MergeAgrees_data T look l r (by omega)

/-- index slabs: the witness is the right slab with zeroed child headers; its `SlabID` is unchanged -/
theorem MergeAgrees_meta (T : Nat) (look) {d : Nat} (l r : MetaSlab (ATree d))
    (hne : l.countSum ≠ []) (hpre : arrayMetaDataSlabPrefixSize ≤ r.hdr.size) : MergeAgrees T look (d + 1) l r :=
  ⟨clearedMeta r, rfl, disp_Merge_meta T look l r hne hpre⟩

/-- `SplitChildSlab` of a DATA-slab child in the state `Split` sees it (`DataWork`: exact bookkeeping, at most twice
    the maximum size).  `hk hk'`: the child index is inside both bookkeeping slices (else Go panics); `hbase`: the count
    sum up to the child covers the child's count (`uint32` subtraction). -/
theorem Sl_SplitChildSlab_data_eq_model (T : Nat) (look) (m : MetaSlab (ATree 0)) (child : DataSlab) (k : Nat)
    (c : Ctx) (hT : legalThreshold T = true) (hw : DataWork T child)
    (hk : k < m.countSum.length) (hk' : k < m.childHdrs.length)
    (hbase : child.hdr.count ≤ m.countSum.getD k 0) :
    TransSl.ArrayMetaDataSlab_SplitChildSlab (envA T look) (trMeta m) c (some (.dataSlab (trData child))) (Int.ofNat k) =
      match DataSlab.split child c, m.splitChildSlab child k c with
      | .error e, _ => some (some e, trMeta m, c, some (.dataSlab (trData child)))
      | .ok (l, _, _), .ok (m', c') => some (none, trMeta m', c', some (.dataSlab (trData l)))
      | .ok _, .error _ => none := by
  have h := Sl_SplitChildSlab_eq_model T look m child k c (SplitAgrees_data_safe T look child c hT hw) hk hk' hbase
  rw [show ATree.split 0 child c = DataSlab.split child c from rfl] at h
  simp only [trTree] at h
  cases hs : DataSlab.split child c with
  | error e => rw [hs] at h; exact h
  | ok res =>
    rw [hs] at h
    obtain ⟨l, r, c1⟩ := res
    cases hm : m.splitChildSlab child k c with
    | error e => rw [hm] at h; exact h
    | ok res2 => rw [hm] at h; obtain ⟨m', c'⟩ := res2; exact h

/-- `SplitChildSlab` of an INDEX-slab child: the child's own bookkeeping must satisfy the three conditions of
    `Sl_ArrayMetaDataSlab_Split_eq_model` -/
theorem Sl_SplitChildSlab_meta_eq_model (T : Nat) (look) {d : Nat} (m : MetaSlab (ATree (d + 1)))
    (child : MetaSlab (ATree d)) (k : Nat) (c : Ctx)
    (hcs : (child.childHdrs.length + 1) / 2 ≤ child.countSum.length)
    (hcov : (child.childHdrs.length + 1) / 2 * arraySlabHeaderSize ≤ child.hdr.size)
    (hcnt : MetaSlab.sumCounts (child.childHdrs.take ((child.childHdrs.length + 1) / 2)) ≤ child.hdr.count)
    (hk : k < m.countSum.length) (hk' : k < m.childHdrs.length)
    (hbase : child.hdr.count ≤ m.countSum.getD k 0) :
    TransSl.ArrayMetaDataSlab_SplitChildSlab (envA T look) (trMeta m) c (some (.metaSlab (trMeta child))) (Int.ofNat k) =
      match MetaSlab.split child c, m.splitChildSlab child k c with
      | .error e, _ => some (some e, trMeta m, c, some (.metaSlab (trMeta child)))
      | .ok (l, _, _), .ok (m', c') => some (none, trMeta m', c', some (.metaSlab (trMeta l)))
      | .ok _, .error _ => none := by
  have h := Sl_SplitChildSlab_eq_model T look m child k c (SplitAgrees_meta T look child c hcs hcov hcnt) hk hk' hbase
  rw [show ATree.split (d + 1) child c = MetaSlab.split child c from rfl] at h
  simp only [trTree] at h
  cases hs : MetaSlab.split child c with
  | error e => rw [hs] at h; exact h
  | ok res =>
    rw [hs] at h
    obtain ⟨l, r, c1⟩ := res
    cases hm : m.splitChildSlab child k c with
    | error e => rw [hm] at h; exact h
    | ok res2 => rw [hm] at h; obtain ⟨m', c'⟩ := res2; exact h

/-- `rebalanceChildren` on two DATA-slab siblings (`rebalOp T 0 l r true = DataSlab.borrowFromRight T l r`,
    `rebalOp T 0 l r false = DataSlab.lendToRight T l r`) -/
theorem Sl_rebalanceChildren_data_eq_model (T : Nat) (look) (m : MetaSlab (ATree 0)) (left right : DataSlab)
    (li ri : Nat) (flag : Bool) (c : Ctx) (hT : legalThreshold T = true)
    (hl : DataWork T left) (hr : DataWork T right)
    (hli : li < m.countSum.length) (hli' : li < m.childHdrs.length) (hri : ri < m.childHdrs.length)
    (hbase : left.hdr.count ≤ m.countSum.getD li 0) :
    TransSl.ArrayMetaDataSlab_rebalanceChildren (envA T look) (trMeta m) c (some (.dataSlab (trData left)))
        (some (.dataSlab (trData right))) (Int.ofNat li) (Int.ofNat ri) flag =
      some (none, trMeta (m.rebalanceChildren T left right li ri flag c).1, (m.rebalanceChildren T left right li ri flag c).2,
            some (.dataSlab (trData (rebalOp T 0 left right flag).1)),
            some (.dataSlab (trData (rebalOp T 0 left right flag).2))) :=
  Sl_rebalanceChildren_eq_model T look m left right li ri flag c (RebalAgrees_data_safe T look left right flag hT hl hr)
    hli hli' hri hbase

/-- `rebalanceChildren` on two INDEX-slab siblings; `hb` / `hl`: the conditions of the direction taken -/
theorem Sl_rebalanceChildren_meta_eq_model (T : Nat) (look) {d : Nat} (m : MetaSlab (ATree (d + 1)))
    (left right : MetaSlab (ATree d)) (li ri : Nat) (flag : Bool) (c : Ctx)
    (hb : flag = true → left.childHdrs.length ≤ (left.childHdrs.length + right.childHdrs.length) / 2 ∧
      right.childHdrs.length - ((left.childHdrs.length + right.childHdrs.length) / 2 - left.childHdrs.length) ≤
        right.countSum.length)
    (hl : flag = false → (left.childHdrs.length + right.childHdrs.length) / 2 ≤ left.childHdrs.length ∧
      (left.childHdrs.length + right.childHdrs.length) / 2 ≤ left.countSum.length)
    (hli : li < m.countSum.length) (hli' : li < m.childHdrs.length) (hri : ri < m.childHdrs.length)
    (hbase : left.hdr.count ≤ m.countSum.getD li 0) :
    TransSl.ArrayMetaDataSlab_rebalanceChildren (envA T look) (trMeta m) c (some (.metaSlab (trMeta left)))
        (some (.metaSlab (trMeta right))) (Int.ofNat li) (Int.ofNat ri) flag =
      some (none, trMeta (m.rebalanceChildren T left right li ri flag c).1, (m.rebalanceChildren T left right li ri flag c).2,
            some (.metaSlab (trMeta (rebalOp T (d + 1) left right flag).1)),
            some (.metaSlab (trMeta (rebalOp T (d + 1) left right flag).2))) :=
  Sl_rebalanceChildren_eq_model T look m left right li ri flag c (RebalAgrees_meta T look left right flag hb hl)
    hli hli' hri hbase

/-- `Sl_mergeChildren_eq_model` with the right slab's out-state named (the theorem of `TransSlabsTree.lean` only says
    that there is one) -/
theorem Sl_mergeChildren_eq_model_wit (T : Nat) (look) {d : Nat} (m : MetaSlab (ATree d)) (left right : ATree d)
    (li ri : Nat) (c : Ctx) (r' : GSlab)
    (hid : TransSl.ArraySlab_SlabID (envA T look) r' = (ATree.hdr d right).id)
    (hop : TransSl.ArraySlab_Merge (envA T look) (trTree d left) (some (trTree d right)) =
      some (none, trTree d (ATree.merge d left right), some r'))
    (hli : li < m.childHdrs.length) (hri : ri < m.childHdrs.length)
    (hli' : li < m.countSum.length) (hri' : ri < m.countSum.length)
    (hsz : arraySlabHeaderSize ≤ m.hdr.size) :
    TransSl.ArrayMetaDataSlab_mergeChildren (envA T look) (trMeta m) c (some (trTree d left)) (some (trTree d right))
        (Int.ofNat li) (Int.ofNat ri) =
      some (none, trMeta (m.mergeChildren left right li ri c).1, (m.mergeChildren left right li ri c).2,
            some (trTree d (ATree.merge d left right)), some r') :=
  mergeChildren_any _ (storeOK_envA T look) m left right li ri c c r' hid hop hli hri hli' hri' hsz

/-- `mergeChildren` on two DATA-slab siblings: the index slab, the effects (store merged, store parent, remove right)
    and the merged child are the model's; the right child is returned with its elements cleared (`clearedData`) -/
theorem Sl_mergeChildren_data_eq_model (T : Nat) (look) (m : MetaSlab (ATree 0)) (left right : DataSlab)
    (li ri : Nat) (c : Ctx) (hl : DataWork T left)
    (hli : li < m.childHdrs.length) (hri : ri < m.childHdrs.length)
    (hli' : li < m.countSum.length) (hri' : ri < m.countSum.length)
    (hsz : arraySlabHeaderSize ≤ m.hdr.size) :
    TransSl.ArrayMetaDataSlab_mergeChildren (envA T look) (trMeta m) c (some (.dataSlab (trData left)))
        (some (.dataSlab (trData right))) (Int.ofNat li) (Int.ofNat ri) =
      some (none, trMeta (m.mergeChildren left right li ri c).1, (m.mergeChildren left right li ri c).2,
            some (.dataSlab (trData (DataSlab.merge left right))), some (clearedData right)) := by
  have h2 := hl.size_eq
  rw [dataWork_prefix hl] at h2
  exact Sl_mergeChildren_eq_model_wit T look m left right li ri c (clearedData right) rfl
    (disp_Merge_data T look left right (by omega)) hli hri hli' hri' hsz

/-- `mergeChildren` on two INDEX-slab siblings: `hne`: the left sibling has a count sum (Go reads the last one),
    `hpre`: the right sibling's size covers the 12-byte prefix that is subtracted -/
theorem Sl_mergeChildren_meta_eq_model (T : Nat) (look) {d : Nat} (m : MetaSlab (ATree (d + 1)))
    (left right : MetaSlab (ATree d)) (li ri : Nat) (c : Ctx)
    (hne : left.countSum ≠ []) (hpre : arrayMetaDataSlabPrefixSize ≤ right.hdr.size)
    (hli : li < m.childHdrs.length) (hri : ri < m.childHdrs.length)
    (hli' : li < m.countSum.length) (hri' : ri < m.countSum.length)
    (hsz : arraySlabHeaderSize ≤ m.hdr.size) :
    TransSl.ArrayMetaDataSlab_mergeChildren (envA T look) (trMeta m) c (some (.metaSlab (trMeta left)))
        (some (.metaSlab (trMeta right))) (Int.ofNat li) (Int.ofNat ri) =
      some (none, trMeta (m.mergeChildren left right li ri c).1, (m.mergeChildren left right li ri c).2,
            some (.metaSlab (trMeta (MetaSlab.merge left right))), some (clearedMeta right)) :=
  Sl_mergeChildren_eq_model_wit T look m left right li ri c (clearedMeta right) rfl
    (disp_Merge_meta T look left right hne hpre) hli hri hli' hri' hsz

/-- the bundle `MorPre` for a DATA-slab child and data-slab siblings `lsib`, `rsib` (those that exist), from
    * `DataWork T` of the child and of the siblings, `legalThreshold T`, `u + 14 ≤ 2^32` (`u` is an underflow size);
    * the index slab's bookkeeping: `hk` the child index is in range, `hlen` as many count sums as headers, `hsz` the
      size covers one header (it is subtracted on a merge), `posL / posR` a sibling exists only on a side that has one,
      `hbase / hbaseL`: the count sum up to the LEFT slab of the pair that is rebalanced covers that slab's count
      (`uint32` subtraction `childrenCountSum[i] - left.Header().count`); `DataWork` does not give these. -/
theorem MorPre.of_data (T : Nat) (look) (m : MetaSlab (ATree 0)) (child : DataSlab) (k u : Nat)
    (lsib rsib : Option DataSlab) (hT : legalThreshold T = true) (hu : u + Gen.arraySlabHeaderSize ≤ 2^32)
    (hwc : DataWork T child)
    (hwL : ∀ l, lsib = some l → DataWork T l) (hwR : ∀ r, rsib = some r → DataWork T r)
    (hk : k < m.childHdrs.length) (hlen : m.countSum.length = m.childHdrs.length)
    (hsz : arraySlabHeaderSize ≤ m.hdr.size)
    (posL : ∀ l, lsib = some l → 0 < k) (posR : ∀ r, rsib = some r → k + 1 < m.childHdrs.length)
    (hbase : ∀ r, rsib = some r → child.hdr.count ≤ m.countSum.getD k 0)
    (hbaseL : ∀ l, lsib = some l → l.hdr.count ≤ m.countSum.getD (k - 1) 0) :
    MorPre T look m child k u lsib rsib where
  hk := hk
  hlen := hlen
  hsz := hsz
  posL := posL
  posR := posR
  lendL := fun l h => Sl_disp_CanLendToRight' T look 0 l u (DecOK.of_dataWork hT (hwL l h)) hu
  lendR := fun r h => Sl_disp_CanLendToLeft' T look 0 r u (DecOK.of_dataWork hT (hwR r h)) hu
  szL := fun l h => Nat.lt_of_le_of_lt (dataWork_fits hT (hwL l h)).1 (by decide)
  szR := fun r h => Nat.lt_of_le_of_lt (dataWork_fits hT (hwR r h)).1 (by decide)
  rebR := fun r h => ⟨RebalAgrees_data_safe T look child r true hT hwc (hwR r h), hbase r h⟩
  rebL := fun l h => ⟨RebalAgrees_data_safe T look l child false hT (hwL l h) hwc, hbaseL l h⟩
  mrgR := fun r _ => MergeAgrees_data_safe T look child r hwc
  mrgL := fun l h => MergeAgrees_data_safe T look l child (hwL l h)

/-- a sibling that `MergeOrRebalanceChildSlab` selects exists on that side and is that child of the index slab -/
theorem sib_some {α : Type} {p : Prop} [Decidable p] {o : Option α} {x : α} (h : (if p then o else none) = some x) :
    p ∧ o = some x :=
  Option.ite_none_right_eq_some.mp h

/-- `MergeOrRebalanceChildSlab` of a DATA-slab child (NO hypothesis on generated code): for the index slab `m`, the
    updated child `child` at position `k` and the underflow size `u`, with siblings that are `DataWork` slabs and that the
    storage returns (`hlookL`, `hlookR`): Go returns no error, the model's index slab and the model's effects in the
    model's order; with no sibling at all both sides panic.  `hbase`, `hbaseL`: see `MorPre.of_data`. -/
theorem Sl_MergeOrRebalanceChildSlab_data_eq_model (T : Nat) (look) (m : MetaSlab (ATree 0)) (child : DataSlab)
    (k u : Nat) (c : Ctx) (hT : legalThreshold T = true) (hu : u + Gen.arraySlabHeaderSize ≤ 2^32)
    (hwc : DataWork T child)
    (hwL : ∀ l : DataSlab, 0 < k → m.children[k - 1]? = some l → DataWork T l)
    (hwR : ∀ r : DataSlab, k + 1 < m.childHdrs.length → m.children[k + 1]? = some r → DataWork T r)
    (hk : k < m.childHdrs.length) (hlen : m.countSum.length = m.childHdrs.length)
    (hsz : arraySlabHeaderSize ≤ m.hdr.size)
    (hbase : k + 1 < m.childHdrs.length → child.hdr.count ≤ m.countSum.getD k 0)
    (hbaseL : ∀ l : DataSlab, 0 < k → m.children[k - 1]? = some l → l.hdr.count ≤ m.countSum.getD (k - 1) 0)
    (hlookL : k > 0 → ∃ h l, m.childHdrs[k - 1]? = some h ∧ m.children[k - 1]? = some l ∧
      look h.id = some (.dataSlab (trData l)))
    (hlookR : k + 1 < m.childHdrs.length →
      ∃ h r, m.childHdrs[k + 1]? = some h ∧ m.children[k + 1]? = some r ∧ look h.id = some (.dataSlab (trData r))) :
    match m.mergeOrRebalanceChildSlab T child k u c with
    | .ok (m', c') => ∃ child', TransSl.ArrayMetaDataSlab_MergeOrRebalanceChildSlab (envA T look) (trMeta m) c
        (some (.dataSlab (trData child))) (Int.ofNat k) (u32 u) = some (none, trMeta m', c', child')
    | .error _ => TransSl.ArrayMetaDataSlab_MergeOrRebalanceChildSlab (envA T look) (trMeta m) c
        (some (.dataSlab (trData child))) (Int.ofNat k) (u32 u) = none := by
  have hp : MorPre T look m child k u (if k > 0 then m.children[k - 1]? else none)
      (if k + 1 < m.childHdrs.length then m.children[k + 1]? else none) :=
    MorPre.of_data T look m child k u _ _ hT hu hwc
      (fun l h => hwL l (sib_some h).1 (sib_some h).2) (fun r h => hwR r (sib_some h).1 (sib_some h).2)
      hk hlen hsz (fun _ h => (sib_some h).1) (fun _ h => (sib_some h).1) (fun _ h => hbase (sib_some h).1)
      (fun l h => hbaseL l (sib_some h).1 (sib_some h).2)
  have h := Sl_MergeOrRebalanceChildSlab_eq_model T look m child k u c hp hlookL hlookR
  simp only [trTree] at h
  cases hm : m.mergeOrRebalanceChildSlab T child k u c with
  | error e => rw [hm] at h; exact h
  | ok res => rw [hm] at h; obtain ⟨m', c'⟩ := res; exact h

/-- what `MergeOrRebalanceChildSlab` needs of an INDEX-slab sibling `sib` of the (underflowing) index slab `child`:
    its size fits `uint32` and covers the 12-byte prefix, it has as many count sums as headers, at least one, and it
    has at least as many children as `child` (so that the direction of the move is the one Go assumes: with fewer,
    `moveCount` is negative and Go panics).  In a valid tree the child is below the minimum size and the sibling is not,
    and the size of an index slab is `12 + 14 n`. -/
structure MetaSibOK {d : Nat} (child sib : MetaSlab (ATree d)) : Prop where
  size_lt : sib.hdr.size < 2^32
  pre : arrayMetaDataSlabPrefixSize ≤ sib.hdr.size
  len : sib.countSum.length = sib.childHdrs.length
  ne : sib.countSum ≠ []
  more : child.childHdrs.length ≤ sib.childHdrs.length

/-- the bundle `MorPre` for an INDEX-slab child -/
theorem MorPre.of_meta (T : Nat) (look) {d : Nat} (m : MetaSlab (ATree (d + 1))) (child : MetaSlab (ATree d))
    (k u : Nat) (lsib rsib : Option (MetaSlab (ATree d))) (hminT : minThr T < 2^32)
    (hu : u + Gen.arraySlabHeaderSize ≤ 2^32)
    (hlenC : child.countSum.length = child.childHdrs.length) (hneC : child.countSum ≠ [])
    (hpreC : arrayMetaDataSlabPrefixSize ≤ child.hdr.size)
    (hokL : ∀ l, lsib = some l → MetaSibOK child l) (hokR : ∀ r, rsib = some r → MetaSibOK child r)
    (hk : k < m.childHdrs.length) (hlen : m.countSum.length = m.childHdrs.length)
    (hsz : arraySlabHeaderSize ≤ m.hdr.size)
    (posL : ∀ l, lsib = some l → 0 < k) (posR : ∀ r, rsib = some r → k + 1 < m.childHdrs.length)
    (hbase : ∀ r, rsib = some r → child.hdr.count ≤ m.countSum.getD k 0)
    (hbaseL : ∀ l, lsib = some l → l.hdr.count ≤ m.countSum.getD (k - 1) 0) :
    MorPre T look m child k u lsib rsib where
  hk := hk
  hlen := hlen
  hsz := hsz
  posL := posL
  posR := posR
  lendL := fun l h => Sl_disp_CanLendToRight' T look (d + 1) l u ⟨(hokL l h).size_lt, hminT⟩ hu
  lendR := fun r h => Sl_disp_CanLendToLeft' T look (d + 1) r u ⟨(hokR r h).size_lt, hminT⟩ hu
  szL := fun l h => (hokL l h).size_lt
  szR := fun r h => (hokR r h).size_lt
  rebR := fun r h => ⟨RebalAgrees_meta_of_len T look child r true hlenC (hokR r h).len (hokR r h).more, hbase r h⟩
  rebL := fun l h => ⟨RebalAgrees_meta_of_len T look l child false (hokL l h).len hlenC (hokL l h).more, hbaseL l h⟩
  mrgR := fun r h => MergeAgrees_meta T look child r hneC (hokR r h).pre
  mrgL := fun l h => MergeAgrees_meta T look l child (hokL l h).ne hpreC

/-- `MergeOrRebalanceChildSlab` of an INDEX-slab child -/
theorem Sl_MergeOrRebalanceChildSlab_meta_eq_model (T : Nat) (look) {d : Nat} (m : MetaSlab (ATree (d + 1)))
    (child : MetaSlab (ATree d)) (k u : Nat) (c : Ctx) (hminT : minThr T < 2^32)
    (hu : u + Gen.arraySlabHeaderSize ≤ 2^32)
    (hlenC : child.countSum.length = child.childHdrs.length) (hneC : child.countSum ≠ [])
    (hpreC : arrayMetaDataSlabPrefixSize ≤ child.hdr.size)
    (hokL : ∀ l : MetaSlab (ATree d), 0 < k → m.children[k - 1]? = some l → MetaSibOK child l)
    (hokR : ∀ r : MetaSlab (ATree d), k + 1 < m.childHdrs.length → m.children[k + 1]? = some r → MetaSibOK child r)
    (hk : k < m.childHdrs.length) (hlen : m.countSum.length = m.childHdrs.length)
    (hsz : arraySlabHeaderSize ≤ m.hdr.size)
    (hbase : k + 1 < m.childHdrs.length → child.hdr.count ≤ m.countSum.getD k 0)
    (hbaseL : ∀ l : MetaSlab (ATree d), 0 < k → m.children[k - 1]? = some l → l.hdr.count ≤ m.countSum.getD (k - 1) 0)
    (hlookL : k > 0 → ∃ h l, m.childHdrs[k - 1]? = some h ∧ m.children[k - 1]? = some l ∧
      look h.id = some (.metaSlab (trMeta l)))
    (hlookR : k + 1 < m.childHdrs.length →
      ∃ h r, m.childHdrs[k + 1]? = some h ∧ m.children[k + 1]? = some r ∧ look h.id = some (.metaSlab (trMeta r))) :
    match m.mergeOrRebalanceChildSlab T child k u c with
    | .ok (m', c') => ∃ child', TransSl.ArrayMetaDataSlab_MergeOrRebalanceChildSlab (envA T look) (trMeta m) c
        (some (.metaSlab (trMeta child))) (Int.ofNat k) (u32 u) = some (none, trMeta m', c', child')
    | .error _ => TransSl.ArrayMetaDataSlab_MergeOrRebalanceChildSlab (envA T look) (trMeta m) c
        (some (.metaSlab (trMeta child))) (Int.ofNat k) (u32 u) = none := by
  have hp : MorPre T look m child k u (if k > 0 then m.children[k - 1]? else none)
      (if k + 1 < m.childHdrs.length then m.children[k + 1]? else none) :=
    MorPre.of_meta T look m child k u _ _ hminT hu hlenC hneC hpreC
      (fun l h => hokL l (sib_some h).1 (sib_some h).2) (fun r h => hokR r (sib_some h).1 (sib_some h).2)
      hk hlen hsz (fun _ h => (sib_some h).1) (fun _ h => (sib_some h).1) (fun _ h => hbase (sib_some h).1)
      (fun l h => hbaseL l (sib_some h).1 (sib_some h).2)
  have h := Sl_MergeOrRebalanceChildSlab_eq_model T look m child k u c hp hlookL hlookR
  simp only [trTree] at h
  cases hm : m.mergeOrRebalanceChildSlab T child k u c with
  | error e => rw [hm] at h; exact h
  | ok res => rw [hm] at h; obtain ⟨m', c'⟩ := res; exact h

/-! ## non-vacuity: concrete index slabs over data slabs (T = 256: min 128, max 384) -/

section examples

/-- an index slab `(1,1)` over two leaves: `(1,2)` with 100 + 150 + 200 bytes of elements (471 bytes: too big) and
    `(1,3)` with 60 + 60 -/
def exIdx : MetaSlab (ATree 0) :=
  { hdr := ⟨⟨1, 1⟩, 40, 5⟩,
    childHdrs := [⟨⟨1, 2⟩, 471, 3⟩, ⟨⟨1, 3⟩, 141, 2⟩], countSum := [3, 5],
    children := [exData 2 3 [100, 150, 200], exData 3 0 [60, 60]], root := false }

theorem exBig_work : DataWork 256 (exData 2 3 [100, 150, 200]) :=
  ⟨rfl, rfl, by intro e he; simp [exData] at he; rcases he with rfl | rfl | rfl <;> decide, ⟨rfl, rfl⟩,
   by show 471 ≤ 2 * maxThr 256; decide⟩

theorem exTwo_work (id next : Nat) : DataWork 256 (exData id next [60, 60]) :=
  ⟨rfl, rfl, by intro e he; simp [exData] at he; rcases he with rfl | rfl <;> decide, ⟨rfl, rfl⟩,
   by show 141 ≤ 2 * maxThr 256; decide⟩

theorem exOne_work (id next : Nat) : DataWork 256 (exData id next [60]) :=
  ⟨rfl, rfl, by intro e he; simp [exData] at he; rcases he with rfl; decide, ⟨rfl, rfl⟩,
   by show 81 ≤ 2 * maxThr 256; decide⟩

/-- `SplitChildSlab` of child 0: `Sl_SplitChildSlab_data_eq_model` applies, and its right-hand side evaluates to: no
    error; the index slab has three headers (271 / 2, 221 / 1 under the NEW id `(1,6)`, 141 / 2), count sums 2 3 5 and
    14 bytes more; effects `alloc (1,6)`, `store (1,2)`, `store (1,6)`, `store (1,1)`; the child is the left half. -/
example :
    TransSl.ArrayMetaDataSlab_SplitChildSlab (envA 256 exLook) (trMeta exIdx) ⟨5, [], []⟩
      (some (.dataSlab (trData (exData 2 3 [100, 150, 200])))) (Int.ofNat 0) =
    some (none,
      { header := { slabID := ⟨1, 1⟩, size := 54, count := 5 },
        childrenHeaders := [{ slabID := ⟨1, 2⟩, size := 271, count := 2 }, { slabID := ⟨1, 6⟩, size := 221, count := 1 },
                            { slabID := ⟨1, 3⟩, size := 141, count := 2 }],
        childrenCountSum := [2, 3, 5], extraData := none },
      ⟨6, [.alloc 1 ⟨1, 6⟩, .store ⟨1, 2⟩, .store ⟨1, 6⟩, .store ⟨1, 1⟩], []⟩,
      some (.dataSlab { next := ⟨1, 6⟩, header := { slabID := ⟨1, 2⟩, size := 271, count := 2 },
                        elements := [some ⟨100, .val 0⟩, some ⟨150, .val 1⟩], extraData := none, inlined := false })) :=
  (Sl_SplitChildSlab_data_eq_model 256 exLook exIdx (exData 2 3 [100, 150, 200]) 0 ⟨5, [], []⟩ (by decide) exBig_work
    (by decide) (by decide) (by decide)).trans (by rfl)

/-- `mergeChildren` of the two leaves (as if the left one were small): one header 591 / 5 left, count sum 5, 14 bytes
    less; effects `store (1,2)`, `store (1,1)`, `remove (1,3)`; the right leaf comes back with two NIL elements -/
example :
    TransSl.ArrayMetaDataSlab_mergeChildren (envA 256 exLook) (trMeta exIdx) ⟨5, [], []⟩
      (some (.dataSlab (trData (exData 2 3 [100, 150, 200])))) (some (.dataSlab (trData (exData 3 0 [60, 60]))))
      (Int.ofNat 0) (Int.ofNat 1) =
    some (none,
      { header := { slabID := ⟨1, 1⟩, size := 26, count := 5 },
        childrenHeaders := [{ slabID := ⟨1, 2⟩, size := 591, count := 5 }],
        childrenCountSum := [5], extraData := none },
      ⟨5, [.store ⟨1, 2⟩, .store ⟨1, 1⟩, .remove ⟨1, 3⟩], []⟩,
      some (.dataSlab { next := ⟨1, 0⟩, header := { slabID := ⟨1, 2⟩, size := 591, count := 5 },
                        elements := [some ⟨100, .val 0⟩, some ⟨150, .val 1⟩, some ⟨200, .val 2⟩, some ⟨60, .val 0⟩,
                                     some ⟨60, .val 1⟩], extraData := none, inlined := false }),
      some (.dataSlab { next := ⟨1, 0⟩, header := { slabID := ⟨1, 3⟩, size := 141, count := 2 },
                        elements := [none, none], extraData := none, inlined := false })) :=
  (Sl_mergeChildren_data_eq_model 256 exLook exIdx (exData 2 3 [100, 150, 200]) (exData 3 0 [60, 60]) 0 1 ⟨5, [], []⟩
    exBig_work (by decide) (by decide) (by decide) (by decide) (by decide)).trans (by rfl)

/-- three leaves: `(1,2)` with 4 x 60 bytes (261), `(1,3)` with 60 (81 bytes: 47 short of the minimum 128), `(1,4)` with
    2 x 60 (141) -/
def exIdx3 : MetaSlab (ATree 0) :=
  { hdr := ⟨⟨1, 1⟩, 54, 7⟩,
    childHdrs := [⟨⟨1, 2⟩, 261, 4⟩, ⟨⟨1, 3⟩, 81, 1⟩, ⟨⟨1, 4⟩, 141, 2⟩], countSum := [4, 5, 7],
    children := [exData 2 3 [60, 60, 60, 60], exData 3 4 [60], exData 4 0 [60, 60]], root := false }

/-- the storage holds the two siblings -/
def exLook3 : SlabID → Option GSlab := fun id =>
  if id = ⟨1, 2⟩ then some (.dataSlab (trData (exData 2 3 [60, 60, 60, 60])))
  else if id = ⟨1, 4⟩ then some (.dataSlab (trData (exData 4 0 [60, 60]))) else none

/-- `MergeOrRebalanceChildSlab` of the middle leaf: `Sl_MergeOrRebalanceChildSlab_data_eq_model` applies; only the left
    sibling can lend, so it lends: one element moves (201 / 3 and 141 / 2), count sums 3 5 7; three `store`s -/
example : ∃ child',
    TransSl.ArrayMetaDataSlab_MergeOrRebalanceChildSlab (envA 256 exLook3) (trMeta exIdx3) ⟨5, [], []⟩
      (some (.dataSlab (trData (exData 3 4 [60])))) (Int.ofNat 1) (u32 47) =
    some (none,
      trMeta ({ exIdx3 with
        childHdrs := [⟨⟨1, 2⟩, 201, 3⟩, ⟨⟨1, 3⟩, 141, 2⟩, ⟨⟨1, 4⟩, 141, 2⟩], countSum := [3, 5, 7],
        children := [{ exData 2 3 [60, 60, 60] with hdr := ⟨⟨1, 2⟩, 201, 3⟩ },
                     { exData 3 4 [] with hdr := ⟨⟨1, 3⟩, 141, 2⟩, elems := [⟨60, .val 3⟩, ⟨60, .val 0⟩] },
                     exData 4 0 [60, 60]] } : MetaSlab (ATree 0)),
      ⟨5, [.store ⟨1, 2⟩, .store ⟨1, 3⟩, .store ⟨1, 1⟩], []⟩, child') :=
  Sl_MergeOrRebalanceChildSlab_data_eq_model 256 exLook3 exIdx3 (exData 3 4 [60]) 1 47 ⟨5, [], []⟩ (by decide) (by decide)
    (exOne_work 3 4)
    (fun l _ h => by cases h; exact exData_work 2 3)
    (fun r _ h => by cases h; exact exTwo_work 4 0)
    (by decide) rfl (by decide) (fun _ => by decide)
    (fun l _ h => by cases h; decide)
    (fun _ => ⟨_, _, rfl, rfl, rfl⟩) (fun _ => ⟨_, _, rfl, rfl, rfl⟩)

/-- an index-slab child: `(1,2)` with four children (10, 20, 30, 40 elements) under the root `(1,1)` -/
def exMid : MetaSlab (ATree 0) :=
  { hdr := ⟨⟨1, 2⟩, 68, 100⟩,
    childHdrs := [⟨⟨1, 3⟩, 100, 10⟩, ⟨⟨1, 4⟩, 100, 20⟩, ⟨⟨1, 5⟩, 100, 30⟩, ⟨⟨1, 6⟩, 100, 40⟩],
    countSum := [10, 30, 60, 100], children := [], root := false }
def exTop : MetaSlab (ATree 1) :=
  { hdr := ⟨⟨1, 1⟩, 26, 100⟩, childHdrs := [⟨⟨1, 2⟩, 68, 100⟩], countSum := [100], children := [exMid], root := true }

/-- `SplitChildSlab` of the index-slab child (`Sl_SplitChildSlab_meta_eq_model` applies): two headers stay, two go to the
    new slab `(1,8)`; the root has two headers (40 / 30 and 40 / 70), count sums 30 100, 14 bytes more -/
example :
    TransSl.ArrayMetaDataSlab_SplitChildSlab (envA 256 exLook) (trMeta exTop) ⟨7, [], []⟩
      (some (.metaSlab (trMeta exMid))) (Int.ofNat 0) =
    some (none,
      { header := { slabID := ⟨1, 1⟩, size := 40, count := 100 },
        childrenHeaders := [{ slabID := ⟨1, 2⟩, size := 40, count := 30 }, { slabID := ⟨1, 8⟩, size := 40, count := 70 }],
        childrenCountSum := [30, 100], extraData := some () },
      ⟨8, [.alloc 1 ⟨1, 8⟩, .store ⟨1, 2⟩, .store ⟨1, 8⟩, .store ⟨1, 1⟩], []⟩,
      some (.metaSlab { header := { slabID := ⟨1, 2⟩, size := 40, count := 30 },
                        childrenHeaders := [{ slabID := ⟨1, 3⟩, size := 100, count := 10 },
                                            { slabID := ⟨1, 4⟩, size := 100, count := 20 }],
                        childrenCountSum := [10, 30], extraData := none })) :=
  (Sl_SplitChildSlab_meta_eq_model 256 exLook exTop exMid 0 ⟨7, [], []⟩ (by decide) (by decide) (by decide)
    (by decide) (by decide) (by decide)).trans (by rfl)

end examples

end Atree.TransEq

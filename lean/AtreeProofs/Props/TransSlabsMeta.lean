import AtreeProofs.Trans.Slabs
import AtreeProofs.Props.TransSlabs
/-
  Equivalence of the GENERATED index-slab functions that move child headers (`Gen/TransSlabs.lean`:
  `ArrayMetaDataSlab_Split / Merge / LendToRight / BorrowFromRight / updateChildrenHeadersAfterMerge`, with their
  loops and the slice_utils generics they call) with the hand-written model (`MetaSlab.split / merge / lendToRight /
  borrowFromRight`, and the `childHdrs / countSum` update of `MetaSlab.mergeChildren`).  Core Lean only.

  The model's `MetaSlab α` embeds its children, the Go record does not: the theorems compare `trMeta` of the model's
  results.  `u32 : Nat → UInt32` is a ring homomorphism for `+` and `*`, so NO no-overflow hypothesis is needed for the
  additions (count sums, sizes): only the three `uint32` subtractions of `Split` and `Merge` need a `≤`.

  Where the hypotheses exclude inputs on which Go and the model differ (none reachable from a valid slab / the callers):
  * `Merge` on a left slab with an EMPTY `childrenCountSum`: Go panics (index -1), the model uses `getLastD 0`
    (`Sl_ArrayMetaDataSlab_Merge_differs_at`);
  * `LendToRight` with `(nl + nr) / 2 > nl`, `BorrowFromRight` with `(nl + nr) / 2 < nl`: `moveCount` is negative and Go
    panics on the slice bounds, the model's `take` / `drop` / truncated subtraction return slabs (examples at the end);
  * `Split` with `header.count` < the counts that stay left, or `header.size` < their header bytes, `Merge` with a right
    `header.size` < the prefix size: `uint32` wraps, `Nat` truncates (example at the end);
  * a count-sum slice shorter than the header slice: `s[:k]` beyond `len` is a panic here (`goSlice`; in Go legal up to
    `cap`), the model's `take` returns the shorter list.
-/
namespace Atree.TransEq
open Atree Atree.Gen

section sliceUtils
variable {σ υ ξ ε S Φ E : Type} [Inhabited E] (env : TransSl.Env σ υ ξ ε S Φ)

private theorem slm_merge (l r : List E) :
    TransSl.merge env l r = (l ++ r, List.replicate r.length default) := rfl

end sliceUtils

/-- `ArrayMetaDataSlab.updateChildrenHeadersAfterMerge`: the `childHdrs` / `countSum` update of the model's
    `MetaSlab.mergeChildren`.  Both indices must be inside both slices (anything else is a Go panic). -/
theorem Sl_updateChildrenHeadersAfterMerge_eq_model {α : Type} (T : Nat) (look) (m : MetaSlab α) (h : Hdr)
    (li ri : Nat) (hli : li < m.childHdrs.length) (hri : ri < m.childHdrs.length)
    (hli' : li < m.countSum.length) (hri' : ri < m.countSum.length) :
    TransSl.ArrayMetaDataSlab_updateChildrenHeadersAfterMerge (envA T look) (trMeta m) (trHdr h)
        (Int.ofNat li) (Int.ofNat ri) =
      some { trMeta m with
        childrenHeaders := ((m.childHdrs.set li h).eraseIdx ri).map trHdr,
        childrenCountSum := ((m.countSum.set li (m.countSum.getD ri 0)).eraseIdx ri).map u32 } := by
  have e1 : Int.ofNat ri + (1 : Int) = Int.ofNat (ri + 1) := rfl
  simp only [TransSl.ArrayMetaDataSlab_updateChildrenHeadersAfterMerge, trMeta_childrenHeaders,
    trMeta_childrenCountSum, e1, goSet_ofNat, goDelete_ofNat, goIdx_ofNat, List.length_map, List.length_set,
    hli, hli', if_true]
  have hri1 : ri + 1 ≤ m.childHdrs.length := hri
  have hri2 : ri + 1 ≤ m.countSum.length := hri'
  simp only [hri1, hri2, ← List.eraseIdx_eq_take_drop_succ, ← List.map_set, ← map_eraseIdx,
    List.getElem?_map, List.getElem?_eq_getElem hri', Option.map_some, List.getD_eq_getElem?_getD, Option.getD_some]
  simp

private theorem sumCounts_nil : MetaSlab.sumCounts [] = 0 := rfl
private theorem sumCounts_append (a b : List Hdr) :
    MetaSlab.sumCounts (a ++ b) = MetaSlab.sumCounts a + MetaSlab.sumCounts b := MetaSlab.sumCounts_append a b

private theorem prefixSums_length (l : List Hdr) (acc : Nat) : (MetaSlab.prefixSums l acc).length = l.length :=
  MetaSlab.prefixSums_length l acc

section loops
variable {σ υ ξ ε S Φ : Type} (env : TransSl.Env σ υ ξ ε S Φ)

private theorem idx_mid (pre rest : List Hdr) (h : Hdr) :
    TransSl.goIdx ((pre ++ h :: rest).map trHdr) (Int.ofNat pre.length) = some (trHdr h) := by
  rw [goIdx_ofNat]; simp

private theorem set_mid (P Q : List UInt32) (q v : UInt32) (n : Nat) (hP : P.length = n) :
    TransSl.goSet (P ++ q :: Q) (Int.ofNat n) v = some ((P ++ [v]) ++ Q) := by
  subst hP
  rw [goSet_ofNat]; simp

private theorem ofNat_succ_len (pre : List Hdr) (h : Hdr) :
    Int.ofNat pre.length + (1 : Int) = Int.ofNat (pre ++ [h]).length := by simp

/-- the loops that REBUILD a count-sum slice in place (`for i := range s.childrenCountSum { countSum += ..; s[i] = countSum }`):
    from index `|pre|` with the running sum `acc`, the cells not yet visited (`Q`) are overwritten with the model's
    prefix sums -/
private theorem split_loop2_spec (rest : List Hdr) : ∀ (pre : List Hdr) (P Q : List UInt32) (acc : Nat)
    (R : TransSl.ArrayMetaDataSlab ξ),
    R.childrenHeaders = (pre ++ rest).map trHdr → R.childrenCountSum = P ++ Q → P.length = pre.length →
    Q.length = rest.length →
    TransSl.ArrayMetaDataSlab_Split.loop2 env rest.length (Int.ofNat pre.length) R (u32 acc) =
      .done ({ R with childrenCountSum := P ++ (MetaSlab.prefixSums rest acc).map u32 },
             u32 (acc + MetaSlab.sumCounts rest)) := by
  induction rest with
  | nil =>
    intro pre P Q acc R h1 h2 hP hQ
    have : Q = [] := List.eq_nil_of_length_eq_zero hQ
    subst this
    simp only [List.length_nil, TransSl.ArrayMetaDataSlab_Split.loop2, MetaSlab.prefixSums, List.map_nil,
      sumCounts_nil, Nat.add_zero, ← h2]
  | cons h t ih =>
    intro pre P Q acc R h1 h2 hP hQ
    obtain ⟨q, Q', rfl⟩ : ∃ q Q', Q = q :: Q' := by
      cases Q with
      | nil => simp at hQ
      | cons q Q' => exact ⟨q, Q', rfl⟩
    simp only [List.length_cons, TransSl.ArrayMetaDataSlab_Split.loop2, h1, idx_mid, h2,
      set_mid P Q' q _ pre.length hP, trHdr_count, u32_add_eq, ofNat_succ_len pre h]
    rw [ih (pre ++ [h]) (P ++ [u32 (acc + h.count)]) Q' (acc + h.count) _ (by simp) rfl (by simp [hP])
      (by simpa using hQ)]
    simp [MetaSlab.prefixSums, MetaSlab.sumCounts_cons, Nat.add_assoc]

/-- `LendToRight` carries the right slab twice, as the interface value `slab` and as `rightSlab`; apart from that its
    loop 1 is loop 2 of `Split` (and its loop 2 is its own loop 3, `lend_loop2_eq`) -/
private theorem lend_loop1_eq (n : Nat) (i : Int) (R : TransSl.ArrayMetaDataSlab ξ) (c : UInt32) :
    TransSl.ArrayMetaDataSlab_LendToRight.loop1 (σ := σ) env n i (some (.metaSlab R)) R c =
      match TransSl.ArrayMetaDataSlab_Split.loop2 (σ := σ) env n i R c with
      | .done p => .done (some (.metaSlab p.1), p.1, p.2)
      | .ret _ => .ret none := by
  induction n generalizing i R c with
  | zero => rfl
  | succ n ih =>
    simp only [TransSl.ArrayMetaDataSlab_LendToRight.loop1, TransSl.ArrayMetaDataSlab_Split.loop2]
    cases TransSl.goIdx R.childrenHeaders i with
    | none => rfl
    | some e =>
      dsimp only
      cases TransSl.goSet R.childrenCountSum i (c + e.count) with
      | none => rfl
      | some l => exact ih _ _ _

/-- the generator emits the same loop for `BorrowFromRight` (its loop 2) -/
private theorem borrow_loop2_eq (n : Nat) (i : Int) (slab : Option (TransSl.ArraySlabV σ ξ))
    (R : TransSl.ArrayMetaDataSlab ξ) (c : UInt32) :
    TransSl.ArrayMetaDataSlab_BorrowFromRight.loop2 env n i slab R c =
      TransSl.ArrayMetaDataSlab_LendToRight.loop1 env n i slab R c := by
  induction n generalizing i slab R c with
  | zero => rfl
  | succ n ih =>
    simp only [TransSl.ArrayMetaDataSlab_BorrowFromRight.loop2, TransSl.ArrayMetaDataSlab_LendToRight.loop1, ih]

/-- the loops that EXTEND a count-sum slice (`for i := k; i < len(a.childrenHeaders); i++ { sum += ..; append }`) -/
private theorem merge_loop1_spec (rest : List Hdr) : ∀ (pre : List Hdr) (acc : Nat) (A : TransSl.ArrayMetaDataSlab ξ),
    A.childrenHeaders = (pre ++ rest).map trHdr →
    TransSl.ArrayMetaDataSlab_Merge.loop1 (σ := σ) env rest.length (Int.ofNat pre.length) A (u32 acc) =
      .done ({ A with childrenCountSum := A.childrenCountSum ++ (MetaSlab.prefixSums rest acc).map u32 },
             u32 (acc + MetaSlab.sumCounts rest)) := by
  induction rest with
  | nil =>
    intro pre acc A h1
    simp [TransSl.ArrayMetaDataSlab_Merge.loop1, MetaSlab.prefixSums, sumCounts_nil]
  | cons h t ih =>
    intro pre acc A h1
    have hlt : Int.ofNat pre.length < Int.ofNat (List.map trHdr (pre ++ h :: t)).length := by
      simp only [Int.ofNat_eq_natCast, List.length_map, List.length_append, List.length_cons]; omega
    simp only [List.length_cons, TransSl.ArrayMetaDataSlab_Merge.loop1, h1, idx_mid, hlt, decide_true, if_true,
      trHdr_count, u32_add_eq, ofNat_succ_len pre h]
    rw [ih (pre ++ [h]) (acc + h.count) _ (by simp)]
    simp [MetaSlab.prefixSums, MetaSlab.sumCounts_cons, Nat.add_assoc]

/-- … and for `BorrowFromRight` (its loop 1) -/
private theorem borrow_loop1_eq (n : Nat) (i : Int) (A : TransSl.ArrayMetaDataSlab ξ) (c : UInt32) :
    TransSl.ArrayMetaDataSlab_BorrowFromRight.loop1 (σ := σ) env n i A c =
      TransSl.ArrayMetaDataSlab_Merge.loop1 env n i A c := by
  induction n generalizing i A c with
  | zero => rfl
  | succ n ih =>
    simp only [TransSl.ArrayMetaDataSlab_BorrowFromRight.loop1, TransSl.ArrayMetaDataSlab_Merge.loop1, ih]

/-- the loops that SUM child counts -/
private theorem split_loop1_spec (A : TransSl.ArrayMetaDataSlab ξ) (mid : List Hdr) : ∀ (pre post : List Hdr) (acc : Nat),
    A.childrenHeaders = (pre ++ (mid ++ post)).map trHdr →
    TransSl.ArrayMetaDataSlab_Split.loop1 (σ := σ) env A mid.length (Int.ofNat pre.length) (u32 acc) =
      .done (u32 (acc + MetaSlab.sumCounts mid)) := by
  induction mid with
  | nil =>
    intro pre post acc h1
    simp [TransSl.ArrayMetaDataSlab_Split.loop1, sumCounts_nil]
  | cons h t ih =>
    intro pre post acc h1
    simp only [List.length_cons, TransSl.ArrayMetaDataSlab_Split.loop1, h1, List.cons_append, idx_mid,
      trHdr_count, u32_add_eq, ofNat_succ_len pre h]
    rw [ih (pre ++ [h]) post (acc + h.count) (by simp [h1])]
    simp [MetaSlab.sumCounts_cons, Nat.add_assoc]

private theorem lend_loop3_spec (rest : List Hdr) : ∀ (pre : List Hdr) (A : TransSl.ArrayMetaDataSlab ξ),
    A.childrenHeaders = (pre ++ rest).map trHdr →
    TransSl.ArrayMetaDataSlab_LendToRight.loop3 (σ := σ) env rest.length (Int.ofNat pre.length) A =
      .done { A with header := { A.header with count := A.header.count + u32 (MetaSlab.sumCounts rest) } } := by
  induction rest with
  | nil =>
    intro pre A h1
    simp [TransSl.ArrayMetaDataSlab_LendToRight.loop3, sumCounts_nil]
  | cons h t ih =>
    intro pre A h1
    simp only [List.length_cons, TransSl.ArrayMetaDataSlab_LendToRight.loop3, h1, idx_mid,
      trHdr_count, ofNat_succ_len pre h]
    rw [ih (pre ++ [h]) _ (by simp)]
    simp [MetaSlab.sumCounts_cons, UInt32.add_assoc]

private theorem lend_loop2_eq (n : Nat) (i : Int) (R : TransSl.ArrayMetaDataSlab ξ) :
    TransSl.ArrayMetaDataSlab_LendToRight.loop2 (σ := σ) env n i (some (.metaSlab R)) R =
      match TransSl.ArrayMetaDataSlab_LendToRight.loop3 (σ := σ) env n i R with
      | .done R' => .done (some (.metaSlab R'), R')
      | .ret r => .ret r := by
  induction n generalizing i R with
  | zero => rfl
  | succ n ih =>
    simp only [TransSl.ArrayMetaDataSlab_LendToRight.loop2, TransSl.ArrayMetaDataSlab_LendToRight.loop3]
    cases TransSl.goIdx R.childrenHeaders i with
    | none => rfl
    | some e => exact ih _ _

/-! the same loops started at index 0 / run to the end -/

private theorem split_loop2_zero (hs : List Hdr) (R : TransSl.ArrayMetaDataSlab ξ)
    (h1 : R.childrenHeaders = hs.map trHdr) (h2 : R.childrenCountSum.length = hs.length) :
    TransSl.ArrayMetaDataSlab_Split.loop2 (σ := σ) env hs.length (0 : Int) R (0 : UInt32) =
      .done ({ R with childrenCountSum := (MetaSlab.prefixSums hs 0).map u32 }, u32 (MetaSlab.sumCounts hs)) := by
  have := split_loop2_spec env hs [] [] R.childrenCountSum 0 R (by simpa using h1) (by simp) rfl h2
  simpa using this

private theorem lend_loop1_zero (hs : List Hdr) (R : TransSl.ArrayMetaDataSlab ξ)
    (h1 : R.childrenHeaders = hs.map trHdr) (h2 : R.childrenCountSum.length = hs.length) :
    TransSl.ArrayMetaDataSlab_LendToRight.loop1 (σ := σ) env hs.length (0 : Int) (some (.metaSlab R)) R (0 : UInt32) =
      .done (some (.metaSlab { R with childrenCountSum := (MetaSlab.prefixSums hs 0).map u32 }),
             { R with childrenCountSum := (MetaSlab.prefixSums hs 0).map u32 }, u32 (MetaSlab.sumCounts hs)) := by
  rw [lend_loop1_eq, split_loop2_zero env hs R h1 h2]

private theorem lend_loop3_zero (hs : List Hdr) (A : TransSl.ArrayMetaDataSlab ξ)
    (h1 : A.childrenHeaders = hs.map trHdr) :
    TransSl.ArrayMetaDataSlab_LendToRight.loop3 (σ := σ) env hs.length (0 : Int) A =
      .done { A with header := { A.header with count := A.header.count + u32 (MetaSlab.sumCounts hs) } } := by
  have := lend_loop3_spec env hs [] A (by simpa using h1)
  simpa using this

private theorem lend_loop2_zero (hs : List Hdr) (R : TransSl.ArrayMetaDataSlab ξ)
    (h1 : R.childrenHeaders = hs.map trHdr) :
    TransSl.ArrayMetaDataSlab_LendToRight.loop2 (σ := σ) env hs.length (0 : Int) (some (.metaSlab R)) R =
      .done (some (.metaSlab { R with header := { R.header with
                count := R.header.count + u32 (MetaSlab.sumCounts hs) } }),
             { R with header := { R.header with count := R.header.count + u32 (MetaSlab.sumCounts hs) } }) := by
  rw [lend_loop2_eq, lend_loop3_zero env hs R h1]

end loops

private theorem slm_mul (a b : Nat) : Int.ofNat a * Int.ofNat b = Int.ofNat (a * b) := rfl
private theorem slm_goSlice_zero {α : Type} (l : List α) (n : Nat) :
    TransSl.goSlice l (0 : Int) (Int.ofNat n) = if n ≤ l.length then some (l.take n) else none := by
  have e0 : (0 : Int) = Int.ofNat 0 := rfl
  rw [e0, goSlice_ofNat]; simp
private theorem u32_const (k : Nat) : UInt32.ofNat k = u32 k := rfl

private theorem getLast_u32 (l : List Nat) (hne : l ≠ []) :
    TransSl.goIdx (l.map u32) (Int.ofNat l.length - (1 : Int)) = some (u32 (l.getLastD 0)) := by
  have hpos : 0 < l.length := List.length_pos_iff.mpr hne
  have e : Int.ofNat l.length - (1 : Int) = Int.ofNat (l.length - 1) := (Int.ofNat_sub hpos).symm
  rw [e, goIdx_ofNat]
  simp [List.getLastD_eq_getLast?, List.getLast?_eq_getElem?, List.getElem?_eq_getElem (Nat.sub_lt hpos Nat.one_pos)]

/-- `ArrayMetaDataSlab.Merge`: the right slab's headers are appended, the count sums continued from the last one of
    the left slab, the sizes and counts added; Go's `merge` CLEARS the right slab's header slice.  Needs a non-empty
    left count-sum slice (Go reads its last cell; see `Sl_ArrayMetaDataSlab_Merge_differs_at`) and a right header size
    that covers the prefix (`uint32` subtraction). -/
theorem Sl_ArrayMetaDataSlab_Merge_eq_model {α : Type} (T : Nat) (look) (l r : MetaSlab α)
    (hne : l.countSum ≠ []) (hpre : arrayMetaDataSlabPrefixSize ≤ r.hdr.size) :
    TransSl.ArrayMetaDataSlab_Merge (envA T look) (trMeta l) (some (.metaSlab (trMeta r))) =
      some (none, trMeta (MetaSlab.merge l r),
            some (.metaSlab { trMeta r with childrenHeaders := List.replicate r.childHdrs.length default })) := by
  simp only [TransSl.ArrayMetaDataSlab_Merge, trMeta_childrenCountSum, getLast_u32 _ hne, Sl_merge_spec,
    trMeta_childrenHeaders, List.length_map, List.length_append]
  have efuel : (Int.ofNat (l.childHdrs.length + r.childHdrs.length) - Int.ofNat l.childHdrs.length).toNat =
      r.childHdrs.length := by simp only [Int.ofNat_eq_natCast]; omega
  rw [efuel, ← List.map_append, merge_loop1_spec (envA T look) r.childHdrs l.childHdrs _ _ rfl]
  have e12 : UInt32.ofNat arrayMetaDataSlabPrefixSize = u32 arrayMetaDataSlabPrefixSize := rfl
  simp only [trMeta_header, trHdr_size, trHdr_count, e12, u32_sub_eq hpre, u32_add_eq]
  simp [trMeta, trHdr, MetaSlab.merge]

/-- FINDING (robustness only): on a left slab with an EMPTY `childrenCountSum` Go's `Merge` panics
    (`a.childrenCountSum[len(a.childrenCountSum)-1]`, index -1) whatever the right slab is, while the model
    (`getLastD 0`) returns a slab.  A valid index slab has at least one child. -/
theorem Sl_ArrayMetaDataSlab_Merge_differs_at {α : Type} (T : Nat) (look) (l r : MetaSlab α) (he : l.countSum = []) :
    TransSl.ArrayMetaDataSlab_Merge (envA T look) (trMeta l) (some (.metaSlab (trMeta r))) = none ∧
    (MetaSlab.merge l r).countSum = MetaSlab.prefixSums r.childHdrs 0 := by
  constructor
  · simp [TransSl.ArrayMetaDataSlab_Merge, he, TransSl.goIdx]
  · simp [MetaSlab.merge, he]

private theorem Sl_ceilHalf (n : Nat) : TransSl.goCeilDivInt (Int.ofNat n) 2 = Int.ofNat ((n + 1) / 2) := by
  simp [TransSl.goCeilDivInt]

/-- `ArrayMetaDataSlab.Split`: fewer than two children: `SlabSplitError`, nothing changes.  Otherwise the first
    `⌈n/2⌉` child headers and count sums stay, the others go to a new slab with the identifier `GenerateSlabID` returns
    (one `alloc` effect) and REBUILT count sums; sizes and counts as in the model.  Needs (all trivial for `n < 2`):
    the count-sum slice covers the part that stays (`a.childrenCountSum[:leftChildrenCount]`), and the two `uint32`
    subtractions `header.size - leftSize`, `header.count - leftCount` do not wrap (the model truncates at 0).  All follow
    from `|countSum| = |childHdrs|`, `hdr.size = prefix + n * 14`, `hdr.count = sumCounts childHdrs`. -/
theorem Sl_ArrayMetaDataSlab_Split_eq_model {α : Type} (T : Nat) (look) (m : MetaSlab α) (c : Ctx)
    (hcs : (m.childHdrs.length + 1) / 2 ≤ m.countSum.length)
    (hcov : (m.childHdrs.length + 1) / 2 * arraySlabHeaderSize ≤ m.hdr.size)
    (hcnt : MetaSlab.sumCounts (m.childHdrs.take ((m.childHdrs.length + 1) / 2)) ≤ m.hdr.count) :
    TransSl.ArrayMetaDataSlab_Split (envA T look) (trMeta m) c =
      match m.split c with
      | .error e => some (none, none, some e, trMeta m, c)
      | .ok (l, r, c') => some (some (.metaSlab (trMeta l)), some (.metaSlab (trMeta r)), none, trMeta l, c') := by
  simp only [TransSl.ArrayMetaDataSlab_Split, MetaSlab.split, trMeta_childrenHeaders, List.length_map, int_dlt_two,
    Sl_ceilHalf]
  by_cases hl : m.childHdrs.length < 2
  · simp [hl]
  · simp only [hl, decide_false, if_false, Bool.false_eq_true]
    have hnle : (m.childHdrs.length + 1) / 2 ≤ m.childHdrs.length :=
      Nat.div_le_of_le_mul (by rw [Nat.two_mul]; exact Nat.add_le_add_left (Nat.le_of_lt (Nat.le_of_not_lt hl)) _)
    generalize (m.childHdrs.length + 1) / 2 = n at hcs hcov hcnt hnle ⊢
    have hl1 : TransSl.ArrayMetaDataSlab_Split.loop1 (envA T look) (trMeta m) (Int.ofNat n).toNat (0 : Int) (0 : UInt32) =
        .done (u32 (MetaSlab.sumCounts (m.childHdrs.take n))) := by
      have := split_loop1_spec (envA T look) (trMeta m) (m.childHdrs.take n) [] (m.childHdrs.drop n) 0
        (by rw [List.nil_append, List.take_append_drop]; rfl)
      rw [List.length_take_of_le hnle, Nat.zero_add] at this
      exact this
    rw [hl1]
    simp only [Sl_split_spec, List.length_map, hnle, if_true, envA_gen, Option.isSome_none, Bool.false_eq_true, if_false,
      ← List.map_take, ← List.map_drop]
    rw [int_toNat, List.length_replicate, split_loop2_zero _ _ _ rfl (by simp)]
    simp only [trMeta_childrenCountSum, slm_goSlice_zero, List.length_map, hcs, if_true, slm_mul, u32_ofInt,
      trMeta_header, trHdr_size, trHdr_count, trHdr_slabID, u32_const, u32_sub_eq hcov, u32_sub_eq hcnt, u32_add_eq]
    simp [trMeta, trHdr, trExtra, List.map_take]

private theorem slm_add (a b : Nat) : Int.ofNat a + Int.ofNat b = Int.ofNat (a + b) := rfl
private theorem slm_tdiv2 (a : Nat) : Int.tdiv (Int.ofNat a) (2 : Int) = Int.ofNat (a / 2) := by simp [Int.tdiv]
/-- `ArrayMetaDataSlab.LendToRight`: the left slab keeps the first `(nl + nr) / 2` headers and count sums, the others
    are put in front of the right slab's, whose count sums are rebuilt; counts are re-summed, sizes recomputed.
    Needs: the left slab has at least that many headers (else `moveCount` is negative: Go panics in `lendToRight`,
    see the example below) and count sums. -/
theorem Sl_ArrayMetaDataSlab_LendToRight_eq_model {α : Type} (T : Nat) (look) (l r : MetaSlab α)
    (hmove : (l.childHdrs.length + r.childHdrs.length) / 2 ≤ l.childHdrs.length)
    (hcs : (l.childHdrs.length + r.childHdrs.length) / 2 ≤ l.countSum.length) :
    TransSl.ArrayMetaDataSlab_LendToRight (envA T look) (trMeta l) (some (.metaSlab (trMeta r))) =
      some (none, trMeta (MetaSlab.lendToRight l r).1, some (.metaSlab (trMeta (MetaSlab.lendToRight l r).2))) := by
  simp only [TransSl.ArrayMetaDataSlab_LendToRight, trMeta_childrenHeaders, List.length_map, slm_add, slm_tdiv2,
    int_sub hmove]
  generalize hn : (l.childHdrs.length + r.childHdrs.length) / 2 = n at hmove hcs ⊢
  have hk : l.childHdrs.length - (l.childHdrs.length - n) = n := Nat.sub_sub_self hmove
  rw [Sl_lendToRight_spec, if_pos (by rw [List.length_map]; exact Nat.sub_le _ _)]
  simp only [List.length_map, hk, ← List.map_take, ← List.map_drop, ← List.map_append]
  rw [int_toNat, List.length_replicate, lend_loop1_zero _ _ _ rfl (by simp)]
  simp only [List.length_map]
  rw [lend_loop2_zero _ _ _ rfl]
  simp only [trMeta_childrenCountSum, slm_goSlice_zero, List.length_map, hcs, if_true]
  rw [lend_loop3_zero _ _ _ rfl]
  simp only [u32_ofInt, u32_const, u32_mul_eq, u32_add_eq, trMeta_header, trHdr_slabID, trMeta_extraData,
    MetaSlab.lendToRight, hn, UInt32.zero_add]
  simp [trMeta, trHdr, List.map_take]

/-- `ArrayMetaDataSlab.BorrowFromRight`: the left slab gets the first `(nl + nr) / 2 - nl` headers of the right slab and
    continues its count sums FROM `header.count`; the right slab's count sums are rebuilt in place.
    Needs: `nl ≤ (nl + nr) / 2` (else `moveCount` is negative: Go panics, see the example below), and the right
    count-sum slice covers the headers that remain (`rightSlab.childrenCountSum[:len(rightSlab.childrenHeaders)]`). -/
theorem Sl_ArrayMetaDataSlab_BorrowFromRight_eq_model {α : Type} (T : Nat) (look) (l r : MetaSlab α)
    (hmove : l.childHdrs.length ≤ (l.childHdrs.length + r.childHdrs.length) / 2)
    (hcs : r.childHdrs.length - ((l.childHdrs.length + r.childHdrs.length) / 2 - l.childHdrs.length) ≤
      r.countSum.length) :
    TransSl.ArrayMetaDataSlab_BorrowFromRight (envA T look) (trMeta l) (some (.metaSlab (trMeta r))) =
      some (none, trMeta (MetaSlab.borrowFromRight l r).1,
            some (.metaSlab (trMeta (MetaSlab.borrowFromRight l r).2))) := by
  simp only [TransSl.ArrayMetaDataSlab_BorrowFromRight, trMeta_childrenHeaders, List.length_map, slm_add, slm_tdiv2,
    int_sub hmove]
  have hkr : (l.childHdrs.length + r.childHdrs.length) / 2 - l.childHdrs.length ≤ r.childHdrs.length :=
    Nat.sub_le_iff_le_add'.mpr (Nat.div_le_self _ _)
  generalize hn : (l.childHdrs.length + r.childHdrs.length) / 2 = n at hcs hkr ⊢
  generalize hk : n - l.childHdrs.length = k at hcs hkr ⊢
  rw [Sl_borrowFromRight_spec, if_pos (by rw [List.length_map]; exact hkr)]
  simp only [List.length_map, ← List.map_take, ← List.map_drop, ← List.map_append, List.length_append]
  have efuel : (Int.ofNat (l.childHdrs.length + (List.take k r.childHdrs).length) -
      Int.ofNat l.childHdrs.length).toNat = (List.take k r.childHdrs).length :=
    (Int.toNat_sub _ _).trans (Nat.add_sub_cancel_left ..)
  rw [efuel, trMeta_header, trHdr_count, borrow_loop1_eq, merge_loop1_spec (envA T look) _ l.childHdrs l.hdr.count _ rfl]
  have hle : (List.drop k r.childHdrs).length ≤ (List.map u32 r.countSum).length := by
    rw [List.length_drop, List.length_map]; exact hcs
  have hlen := List.length_take_of_le hle
  simp only [trMeta_childrenCountSum, slm_goSlice_zero, hle, if_true]
  rw [hlen, borrow_loop2_eq, lend_loop1_zero _ _ _ rfl hlen]
  simp only [u32_ofInt, u32_const, u32_mul_eq, u32_add_eq, trMeta_header, trHdr_slabID, trMeta_extraData,
    MetaSlab.borrowFromRight, hn, hk]
  simp [trMeta, trHdr]

/-! ## the type assertion `slab.(*ArrayMetaDataSlab)` on anything else panics -/

theorem Sl_ArrayMetaDataSlab_Merge_wrongType (T : Nat) (look) (a : GMeta) (d : GData) :
    TransSl.ArrayMetaDataSlab_Merge (envA T look) a none = none ∧
    TransSl.ArrayMetaDataSlab_Merge (envA T look) a (some (.dataSlab d)) = none := by
  constructor <;> (simp only [TransSl.ArrayMetaDataSlab_Merge]; split <;> rfl)

theorem Sl_ArrayMetaDataSlab_LendToRight_wrongType (T : Nat) (look) (a : GMeta) (d : GData) :
    TransSl.ArrayMetaDataSlab_LendToRight (envA T look) a none = none ∧
    TransSl.ArrayMetaDataSlab_LendToRight (envA T look) a (some (.dataSlab d)) = none := ⟨rfl, rfl⟩

theorem Sl_ArrayMetaDataSlab_BorrowFromRight_wrongType (T : Nat) (look) (a : GMeta) (d : GData) :
    TransSl.ArrayMetaDataSlab_BorrowFromRight (envA T look) a none = none ∧
    TransSl.ArrayMetaDataSlab_BorrowFromRight (envA T look) a (some (.dataSlab d)) = none := ⟨rfl, rfl⟩

/-! ## non-vacuity: the generated functions evaluated on small index slabs -/

private def hd (i c : Nat) : Hdr := { id := ⟨1, i⟩, size := 100, count := c }
private def ms (i size count : Nat) (hs : List Hdr) (cs : List Nat) : MetaSlab Unit :=
  { hdr := { id := ⟨1, i⟩, size := size, count := count }, childHdrs := hs, countSum := cs,
    children := hs.map (fun _ => ()), root := false }

/-- `Split` of five children (10, 20, 30, 40, 50 elements): three stay (54 bytes, 60 elements, sums 10 30 60), two go
    to the new slab `(1, 8)` (82 - 42 = 40 bytes, 90 elements, sums 40 90); one `GenerateSlabID` -/
example :
    TransSl.ArrayMetaDataSlab_Split (envA 1024 (fun _ => none))
      (trMeta (ms 1 82 150 [hd 2 10, hd 3 20, hd 4 30, hd 5 40, hd 6 50] [10, 30, 60, 100, 150])) ⟨7, [], []⟩ =
    some (some (.metaSlab (trMeta (ms 1 54 60 [hd 2 10, hd 3 20, hd 4 30] [10, 30, 60]))),
          some (.metaSlab (trMeta (ms 8 40 90 [hd 5 40, hd 6 50] [40, 90]))), none,
          trMeta (ms 1 54 60 [hd 2 10, hd 3 20, hd 4 30] [10, 30, 60]), ⟨8, [.alloc 1 ⟨1, 8⟩], []⟩) := by rfl

/-- a slab with one child cannot be split: `SlabSplitError`, nothing changes -/
example :
    TransSl.ArrayMetaDataSlab_Split (envA 1024 (fun _ => none)) (trMeta (ms 1 26 10 [hd 2 10] [10])) ⟨7, [], []⟩ =
    some (none, none, some .slabSplit, trMeta (ms 1 26 10 [hd 2 10] [10]), ⟨7, [], []⟩) := by rfl

/-- `Merge` of 2 + 2 children: the sums continue from 30; the right slab's header slice is cleared -/
example :
    TransSl.ArrayMetaDataSlab_Merge (envA 1024 (fun _ => none)) (trMeta (ms 1 40 30 [hd 2 10, hd 3 20] [10, 30]))
      (some (.metaSlab (trMeta (ms 4 40 12 [hd 5 5, hd 6 7] [5, 12])))) =
    some (none, trMeta (ms 1 68 42 [hd 2 10, hd 3 20, hd 5 5, hd 6 7] [10, 30, 35, 42]),
          some (.metaSlab { trMeta (ms 4 40 12 [hd 5 5, hd 6 7] [5, 12]) with
            childrenHeaders := [TransSl.ArraySlabHeader.zero, TransSl.ArraySlabHeader.zero] })) := by rfl

/-- `LendToRight` 4 + 2: one header moves -/
example :
    TransSl.ArrayMetaDataSlab_LendToRight (envA 1024 (fun _ => none))
      (trMeta (ms 1 68 100 [hd 2 10, hd 3 20, hd 4 30, hd 5 40] [10, 30, 60, 100]))
      (some (.metaSlab (trMeta (ms 6 40 12 [hd 7 5, hd 8 7] [5, 12])))) =
    some (none, trMeta (ms 1 54 60 [hd 2 10, hd 3 20, hd 4 30] [10, 30, 60]),
          some (.metaSlab (trMeta (ms 6 54 52 [hd 5 40, hd 7 5, hd 8 7] [40, 45, 52])))) := by rfl

/-- `BorrowFromRight` 2 + 4: one header moves -/
example :
    TransSl.ArrayMetaDataSlab_BorrowFromRight (envA 1024 (fun _ => none))
      (trMeta (ms 1 40 30 [hd 2 10, hd 3 20] [10, 30]))
      (some (.metaSlab (trMeta (ms 6 68 100 [hd 7 40, hd 8 30, hd 9 20, hd 10 10] [40, 70, 90, 100])))) =
    some (none, trMeta (ms 1 54 70 [hd 2 10, hd 3 20, hd 7 40] [10, 30, 70]),
          some (.metaSlab (trMeta (ms 6 54 60 [hd 8 30, hd 9 20, hd 10 10] [30, 50, 60])))) := by rfl

/-- `updateChildrenHeadersAfterMerge`: children 1 and 2 of three were merged into a slab of 50 elements -/
example :
    TransSl.ArrayMetaDataSlab_updateChildrenHeadersAfterMerge (envA 1024 (fun _ => none))
      (trMeta (ms 1 54 60 [hd 2 10, hd 3 20, hd 4 30] [10, 30, 60])) (trHdr (hd 3 50)) 1 2 =
    some (trMeta (ms 1 54 60 [hd 2 10, hd 3 50] [10, 60])) := by rfl

/-- an index out of range is a Go panic -/
example :
    TransSl.ArrayMetaDataSlab_updateChildrenHeadersAfterMerge (envA 1024 (fun _ => none))
      (trMeta (ms 1 54 60 [hd 2 10, hd 3 20, hd 4 30] [10, 30, 60])) (trHdr (hd 3 50)) 2 3 = none := by rfl

/-- the hypotheses of the theorems hold on these slabs (the theorems are not vacuous) -/
example :
    TransSl.ArrayMetaDataSlab_Split (envA 1024 (fun _ => none))
      (trMeta (ms 1 82 150 [hd 2 10, hd 3 20, hd 4 30, hd 5 40, hd 6 50] [10, 30, 60, 100, 150])) ⟨7, [], []⟩ =
    some (some (.metaSlab (trMeta (ms 1 54 60 [hd 2 10, hd 3 20, hd 4 30] [10, 30, 60]))),
          some (.metaSlab (trMeta (ms 8 40 90 [hd 5 40, hd 6 50] [40, 90]))), none,
          trMeta (ms 1 54 60 [hd 2 10, hd 3 20, hd 4 30] [10, 30, 60]), ⟨8, [.alloc 1 ⟨1, 8⟩], []⟩) :=
  (Sl_ArrayMetaDataSlab_Split_eq_model 1024 _ _ _ (by decide) (by decide) (by decide)).trans rfl
example :
    TransSl.ArrayMetaDataSlab_Merge (envA 1024 (fun _ => none)) (trMeta (ms 1 40 30 [hd 2 10, hd 3 20] [10, 30]))
      (some (.metaSlab (trMeta (ms 4 40 12 [hd 5 5, hd 6 7] [5, 12])))) =
    some (none, trMeta (ms 1 68 42 [hd 2 10, hd 3 20, hd 5 5, hd 6 7] [10, 30, 35, 42]),
          some (.metaSlab { trMeta (ms 4 40 12 [hd 5 5, hd 6 7] [5, 12]) with
            childrenHeaders := [default, default] })) :=
  (Sl_ArrayMetaDataSlab_Merge_eq_model 1024 _ _ _ (by decide) (by decide)).trans rfl
example :
    TransSl.ArrayMetaDataSlab_LendToRight (envA 1024 (fun _ => none))
      (trMeta (ms 1 68 100 [hd 2 10, hd 3 20, hd 4 30, hd 5 40] [10, 30, 60, 100]))
      (some (.metaSlab (trMeta (ms 6 40 12 [hd 7 5, hd 8 7] [5, 12])))) =
    some (none, trMeta (ms 1 54 60 [hd 2 10, hd 3 20, hd 4 30] [10, 30, 60]),
          some (.metaSlab (trMeta (ms 6 54 52 [hd 5 40, hd 7 5, hd 8 7] [40, 45, 52])))) :=
  (Sl_ArrayMetaDataSlab_LendToRight_eq_model 1024 _ _ _ (by decide) (by decide)).trans rfl
example :
    TransSl.ArrayMetaDataSlab_BorrowFromRight (envA 1024 (fun _ => none))
      (trMeta (ms 1 40 30 [hd 2 10, hd 3 20] [10, 30]))
      (some (.metaSlab (trMeta (ms 6 68 100 [hd 7 40, hd 8 30, hd 9 20, hd 10 10] [40, 70, 90, 100])))) =
    some (none, trMeta (ms 1 54 70 [hd 2 10, hd 3 20, hd 7 40] [10, 30, 70]),
          some (.metaSlab (trMeta (ms 6 54 60 [hd 8 30, hd 9 20, hd 10 10] [30, 50, 60])))) :=
  (Sl_ArrayMetaDataSlab_BorrowFromRight_eq_model 1024 _ _ _ (by decide) (by decide)).trans rfl
example :
    TransSl.ArrayMetaDataSlab_updateChildrenHeadersAfterMerge (envA 1024 (fun _ => none))
      (trMeta (ms 1 54 60 [hd 2 10, hd 3 20, hd 4 30] [10, 30, 60])) (trHdr (hd 3 50)) (Int.ofNat 1) (Int.ofNat 2) =
    some (trMeta (ms 1 54 60 [hd 2 10, hd 3 50] [10, 60])) :=
  (Sl_updateChildrenHeadersAfterMerge_eq_model 1024 _ _ _ 1 2 (by decide) (by decide) (by decide) (by decide)).trans rfl

/-- the empty left slab of `Sl_ArrayMetaDataSlab_Merge_differs_at`: Go panics, the model returns a slab -/
example :
    TransSl.ArrayMetaDataSlab_Merge (envA 1024 (fun _ => none)) (trMeta (ms 1 12 0 [] []))
      (some (.metaSlab (trMeta (ms 4 40 12 [hd 5 5, hd 6 7] [5, 12])))) = none ∧
    (MetaSlab.merge (ms 1 12 0 [] []) (ms 4 40 12 [hd 5 5, hd 6 7] [5, 12])).countSum = [5, 12] := ⟨rfl, rfl⟩

/-! ## where Go and the `Nat` model differ (inputs excluded by the hypotheses; no valid slab / no caller reaches them) -/

/-- `LendToRight` when the RIGHT slab is the larger one (1 + 3 headers): `moveCount = -1`, Go panics in
    `lendToRight` (slice bounds); the model (`take` / `drop` beyond the end) returns slabs -/
example :
    TransSl.ArrayMetaDataSlab_LendToRight (envA 1024 (fun _ => none)) (trMeta (ms 1 26 10 [hd 2 10] [10]))
      (some (.metaSlab (trMeta (ms 6 54 60 [hd 7 10, hd 8 20, hd 9 30] [10, 30, 60])))) = none ∧
    ((MetaSlab.lendToRight (ms 1 26 10 [hd 2 10] [10]) (ms 6 54 60 [hd 7 10, hd 8 20, hd 9 30] [10, 30, 60])).2).hdr.size
      = 54 := ⟨rfl, rfl⟩

/-- `BorrowFromRight` when the LEFT slab is the larger one (3 + 1 headers): `moveCount = -1`, Go panics
    (`right[:count]`); the model moves nothing -/
example :
    TransSl.ArrayMetaDataSlab_BorrowFromRight (envA 1024 (fun _ => none))
      (trMeta (ms 6 54 60 [hd 7 10, hd 8 20, hd 9 30] [10, 30, 60]))
      (some (.metaSlab (trMeta (ms 1 26 10 [hd 2 10] [10])))) = none ∧
    ((MetaSlab.borrowFromRight (ms 6 54 60 [hd 7 10, hd 8 20, hd 9 30] [10, 30, 60]) (ms 1 26 10 [hd 2 10] [10])).1).childHdrs.length
      = 3 := ⟨rfl, rfl⟩

/-- `Split` of a slab whose header count (5) is SMALLER than the counts that stay left (10 + 20): Go's `uint32`
    subtraction wraps (`2^32 - 25`), the model's truncates (0) -/
example :
    (TransSl.ArrayMetaDataSlab_Split (envA 1024 (fun _ => none))
      (trMeta (ms 1 54 5 [hd 2 10, hd 3 20, hd 4 30] [10, 30, 60])) ⟨7, [], []⟩) =
    some (some (.metaSlab (trMeta (ms 1 40 30 [hd 2 10, hd 3 20] [10, 30]))),
          some (.metaSlab (trMeta (ms 8 26 (2^32 - 25) [hd 4 30] [30]))), none,
          trMeta (ms 1 40 30 [hd 2 10, hd 3 20] [10, 30]), ⟨8, [.alloc 1 ⟨1, 8⟩], []⟩) ∧
    (MetaSlab.split (ms 1 54 5 [hd 2 10, hd 3 20, hd 4 30] [10, 30, 60]) ⟨7, [], []⟩).toOption.map (·.2.1.hdr.count)
      = some 0 := ⟨rfl, rfl⟩

end Atree.TransEq

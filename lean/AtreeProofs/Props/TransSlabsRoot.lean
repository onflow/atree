import AtreeProofs.Trans.Slabs
import AtreeProofs.Props.TransSlabsDecide
import AtreeProofs.Props.TransSlabsData
import AtreeProofs.Props.TransSlabsMeta
import AtreeProofs.Props.TransSlabsTree
import AtreeProofs.Props.TransSlabsGlue
import AtreeModel.Array.Ops
/-
  TRANSLATION EQUIVALENCE for the generated array-slab code (`Gen/TransSlabs.lean`), part "root": the root changes of
  `Array` (array.go) - `Array_Address`, `Array_splitRoot` (+ join point `.k1`), `Array_promoteChildAsNewRoot`
  (+ `.k1`) - against the model's `Arr.addr`, `Arr.splitRoot`, `Arr.promoteIfSingleChild` (`AtreeModel/Array/Ops.lean`).

  The root slab is reached through the generated dynamic dispatchers (`Sl_disp_*`, Props/TransSlabsDecide.lean); the
  agreement of the dispatched `Split` with the model is a hypothesis `SplitAgrees` (Props/TransSlabsTree.lean) on the
  model's intermediate `oldRoot` (`splitRootOld`) and the storage after the allocation (`splitRootCtx`);
  `SplitAgrees_data` / `SplitAgrees_meta` (Props/TransSlabsGlue.lean) prove it, `Sl_splitAgrees_*` are those two.
  Core Lean only.
-/
namespace Atree.TransEq
open Atree Atree.Gen

/-- a model array handle with its storage as the generated `Array` record -/
def trArr (a : Arr) (c : Ctx) : GArray := { Storage := c, root := some (trTree a.d a.root) }

@[simp] theorem trArr_Storage (a : Arr) (c : Ctx) : (trArr a c).Storage = c := rfl
@[simp] theorem trArr_root (a : Arr) (c : Ctx) : (trArr a c).root = some (trTree a.d a.root) := rfl

theorem slR_hdr_setRoot (d : Nat) (t : ATree d) (b : Bool) : ATree.hdr d (ATree.setRoot d t b) = ATree.hdr d t := by
  cases d <;> rfl

theorem slR_hdr_setId (d : Nat) (t : ATree d) (id : SlabID) :
    ATree.hdr d (ATree.setId d t id) = { ATree.hdr d t with id := id } := by
  cases d <;> rfl

/-- `Array.Address()`: the address of the root slab's identifier -/
theorem Sl_Array_Address_eq_model (T : Nat) (look) (a : Arr) (c : Ctx) :
    TransSl.Array_Address (envA T look) (trArr a c) = some a.addr := by
  simp only [TransSl.Array_Address, trArr_root, Sl_disp_SlabID]
  rfl

/-- the model's `root0`: the root with its size adjusted from root-data-slab prefix to data-slab prefix -/
def splitRoot0 (a : Arr) : ATree a.d :=
  match a with
  | ⟨0, (s : DataSlab), _⟩ =>
    ({ s with hdr := { s.hdr with size := s.hdr.size - arrayRootDataSlabPrefixSize + arrayDataSlabPrefixSize } } : DataSlab)
  | ⟨_ + 1, m, _⟩ => m

/-- the storage after `GenerateSlabID(a.Address())` -/
def splitRootCtx (a : Arr) (c : Ctx) : Ctx := (c.alloc (ATree.hdr a.d (splitRoot0 a)).id.addr).2

/-- the model's `oldRoot`: size adjusted, extra data removed, the freshly allocated identifier -/
def splitRootOld (a : Arr) (c : Ctx) : ATree a.d :=
  ATree.setId a.d (ATree.setRoot a.d (splitRoot0 a) false) (c.alloc (ATree.hdr a.d (splitRoot0 a)).id.addr).1

/-- the new root index slab over the two halves -/
def splitRootNew (a : Arr) (left right : ATree a.d) : MetaSlab (ATree a.d) :=
  { hdr := { id := (ATree.hdr a.d (splitRoot0 a)).id,
             count := (ATree.hdr a.d left).count + (ATree.hdr a.d right).count,
             size := arrayMetaDataSlabPrefixSize + arraySlabHeaderSize * 2 },
    childHdrs := [ATree.hdr a.d left, ATree.hdr a.d right],
    countSum := [(ATree.hdr a.d left).count, (ATree.hdr a.d left).count + (ATree.hdr a.d right).count],
    children := [left, right], root := true }

/-- `Arr.splitRoot` in terms of the named intermediates -/
theorem splitRoot_unfold (a : Arr) (c : Ctx) :
    a.splitRoot c =
      match ATree.split a.d (splitRootOld a c) (splitRootCtx a c) with
      | .error e => .error e
      | .ok (l, r, c') =>
        .ok (⟨a.d + 1, splitRootNew a l r, a.ty⟩,
             ((c'.emit (.store (ATree.hdr a.d l).id)).emit (.store (ATree.hdr a.d r).id)).emit
               (.store (ATree.hdr a.d (splitRoot0 a)).id)) := by
  obtain ⟨d, root, ty⟩ := a
  cases d with
  | zero =>
    simp only [Arr.splitRoot, splitRootOld, splitRootCtx, splitRoot0, splitRootNew, bind, Except.bind]
    split <;> simp_all [pure, Except.pure]
  | succ d =>
    simp only [Arr.splitRoot, splitRootOld, splitRootCtx, splitRoot0, splitRootNew, bind, Except.bind]
    split <;> simp_all [pure, Except.pure]

section anyEnv
variable {S W : Type} (env : TransSl.Env Elem Elem Unit AErr S W)

/-- the join point of `splitRoot` on ANY root slab `t` (for a data root: already with the adjusted size), over any
    environment whose `Store` does not fail.  `hgen`: `GenerateSlabID` returns `id` and the storage `s0`; `hsplit`: what
    the dispatched `Split` returns on the old root under its new identifier (`s1 c'` is the storage after it). -/
theorem splitRoot_k1_any (hst : StoreOK env) (d : Nat) (t : ATree d) (s s0 : S) (id : SlabID) (c0 : Ctx) (s1 : Ctx → S)
    (hroot : ATree.isRoot d t = true)
    (hgen : env.SlabStorage_GenerateSlabID s (ATree.hdr d t).id.addr = (id, none, s0))
    (hsplit : TransSl.ArraySlab_Split env (trTree d (ATree.setId d (ATree.setRoot d t false) id)) s0 =
      match ATree.split d (ATree.setId d (ATree.setRoot d t false) id) c0 with
      | .error e => some (none, none, some e, trTree d (ATree.setId d (ATree.setRoot d t false) id), s0)
      | .ok (l, r, c') => some (some (trTree d l), some (trTree d r), none, trTree d l, s1 c')) :
    TransSl.Array_splitRoot.k1 env ({ Storage := s, root := some (trTree d t) } : TransSl.Array Elem Unit S) =
      match ATree.split d (ATree.setId d (ATree.setRoot d t false) id) c0 with
      | .error e => some (some e,
          { Storage := s0, root := some (trTree d (ATree.setId d (ATree.setRoot d t false) id)) })
      | .ok (l, r, c') =>
        let newRoot : MetaSlab (ATree d) :=
          { hdr := { id := (ATree.hdr d t).id, count := (ATree.hdr d l).count + (ATree.hdr d r).count,
                     size := arrayMetaDataSlabPrefixSize + arraySlabHeaderSize * 2 },
            childHdrs := [ATree.hdr d l, ATree.hdr d r],
            countSum := [(ATree.hdr d l).count, (ATree.hdr d l).count + (ATree.hdr d r).count],
            children := [l, r], root := true }
        some (none,
          { Storage := stored env (stored env (stored env (s1 c') (ATree.hdr d l).id (some (trTree d l)))
              (ATree.hdr d r).id (some (trTree d r))) (ATree.hdr d t).id (some (.metaSlab (trMeta newRoot))),
            root := some (.metaSlab (trMeta newRoot)) }) := by
  simp only [TransSl.Array_splitRoot.k1, disp_RemoveExtraData_any, disp_SlabID_any, TransSl.Array_Address, slR_hdr_setRoot,
    hgen, Option.isSome_none, Bool.false_eq_true, if_false, disp_SetSlabID_any, hsplit]
  cases hs : ATree.split d (ATree.setId d (ATree.setRoot d t false) id) c0 with
  | error e => simp
  | ok res =>
    obtain ⟨l, r, c1⟩ := res
    simp only [Option.isSome_none, Bool.false_eq_true, if_false, disp_Header_any, trHdr_count, hst.storeSlab_tree,
      hst.storeSlab_meta, hroot]
    rw [u32_add_eq]
    simp [trMeta, trHdr, trExtra]

/-- `Array.splitRoot` adjusts the header size of a data root (root prefix -> data-slab prefix: the model's `root0`,
    `splitRoot0`) and enters its join point -/
theorem splitRoot_enter_any (a : Arr) (s : S)
    (hsz : a.d = 0 → arrayRootDataSlabPrefixSize ≤ (ATree.hdr a.d a.root).size) :
    TransSl.Array_splitRoot env ({ Storage := s, root := some (trTree a.d a.root) } : TransSl.Array Elem Unit S) =
      TransSl.Array_splitRoot.k1 env { Storage := s, root := some (trTree a.d (splitRoot0 a)) } := by
  obtain ⟨d, root, ty⟩ := a
  cases d with
  | zero =>
    have key : ∀ sl : DataSlab, arrayRootDataSlabPrefixSize ≤ sl.hdr.size →
        TransSl.Array_splitRoot env ({ Storage := s, root := some (.dataSlab (trData sl)) } : TransSl.Array Elem Unit S) =
          TransSl.Array_splitRoot.k1 env { Storage := s, root := some (.dataSlab (trData { sl with hdr :=
            { sl.hdr with size := sl.hdr.size - arrayRootDataSlabPrefixSize + arrayDataSlabPrefixSize } })) } := by
      intro sl h5
      have e5 : UInt32.ofNat arrayRootDataSlabPrefixSize = u32 arrayRootDataSlabPrefixSize := rfl
      have e21 : UInt32.ofNat arrayDataSlabPrefixSize = u32 arrayDataSlabPrefixSize := rfl
      have hd : TransSl.ArraySlab_IsData env (.dataSlab (trData sl)) = true := rfl
      simp only [TransSl.Array_splitRoot, hd, if_true]
      show TransSl.Array_splitRoot.k1 _ _ = _
      congr 1
      rw [trData_header, trHdr_size, e5, e21, u32_sub_eq h5, u32_add_eq]
      rfl
    exact key root (hsz rfl)
  | succ d =>
    simp only [TransSl.Array_splitRoot, disp_IsData_any]
    rfl

end anyEnv

/-- the join point of `splitRoot` on ANY root slab `t` (for a data root: already with the adjusted size) -/
theorem Sl_Array_splitRoot_k1 (T : Nat) (look) (d : Nat) (t : ATree d) (c : Ctx)
    (hroot : ATree.isRoot d t = true)
    (hsplit : SplitAgrees T look d
      (ATree.setId d (ATree.setRoot d t false) (c.alloc (ATree.hdr d t).id.addr).1)
      (c.alloc (ATree.hdr d t).id.addr).2) :
    TransSl.Array_splitRoot.k1 (envA T look) ({ Storage := c, root := some (trTree d t) } : GArray) =
      match ATree.split d (ATree.setId d (ATree.setRoot d t false) (c.alloc (ATree.hdr d t).id.addr).1)
          (c.alloc (ATree.hdr d t).id.addr).2 with
      | .error e => some (some e,
          { Storage := (c.alloc (ATree.hdr d t).id.addr).2,
            root := some (trTree d (ATree.setId d (ATree.setRoot d t false) (c.alloc (ATree.hdr d t).id.addr).1)) })
      | .ok (l, r, c') => some (none,
          { Storage := ((c'.emit (.store (ATree.hdr d l).id)).emit (.store (ATree.hdr d r).id)).emit
              (.store (ATree.hdr d t).id),
            root := some (.metaSlab (trMeta
              ({ hdr := { id := (ATree.hdr d t).id, count := (ATree.hdr d l).count + (ATree.hdr d r).count,
                          size := arrayMetaDataSlabPrefixSize + arraySlabHeaderSize * 2 },
                 childHdrs := [ATree.hdr d l, ATree.hdr d r],
                 countSum := [(ATree.hdr d l).count, (ATree.hdr d l).count + (ATree.hdr d r).count],
                 children := [l, r], root := true } : MetaSlab (ATree d)))) }) :=
  splitRoot_k1_any (envA T look) (storeOK_envA T look) d t c _ _ _ id hroot rfl hsplit

/-- `Array.splitRoot()`.  On success: the model's new root (an index slab over the two halves, extra data moved to
    it), three stores (left, right, root) after `Split`'s effects.  If `Split` fails (`SlabSplitError`: fewer than two
    elements / children) Go returns the error and leaves the array with the ALREADY MODIFIED old root (size adjusted,
    extra data removed, the fresh identifier) and the storage after the allocation. -/
theorem Sl_Array_splitRoot_eq_model (T : Nat) (look) (a : Arr) (c : Ctx)
    (hroot : ATree.isRoot a.d a.root = true)
    (hsz : a.d = 0 → arrayRootDataSlabPrefixSize ≤ (ATree.hdr a.d a.root).size)
    (hsplit : SplitAgrees T look a.d (splitRootOld a c) (splitRootCtx a c)) :
    TransSl.Array_splitRoot (envA T look) (trArr a c) =
      match a.splitRoot c with
      | .ok (a', c') => some (none, trArr a' c')
      | .error e => some (some e, trArr ⟨a.d, splitRootOld a c, a.ty⟩ (splitRootCtx a c)) := by
  have hroot0 : ATree.isRoot a.d (splitRoot0 a) = true := by
    obtain ⟨d, root, ty⟩ := a
    cases d <;> exact hroot
  show TransSl.Array_splitRoot (envA T look) { Storage := c, root := some (trTree a.d a.root) } = _
  rw [splitRoot_enter_any (envA T look) a c hsz, splitRoot_unfold,
    Sl_Array_splitRoot_k1 T look a.d (splitRoot0 a) c hroot0 hsplit]
  simp only [splitRootOld, splitRootCtx]
  generalize ATree.split a.d (ATree.setId a.d (ATree.setRoot a.d (splitRoot0 a) false)
    (c.alloc (ATree.hdr a.d (splitRoot0 a)).id.addr).1) (c.alloc (ATree.hdr a.d (splitRoot0 a)).id.addr).2 = res
  cases res with
  | error e => rfl
  | ok res => rfl

/-- the join point of `promoteChildAsNewRoot` on ANY root index slab `m` and child `child1` (for a data child: already
    with the adjusted size): the child takes the root's identifier and extra data, is stored, and the child's old
    identifier is removed from storage -/
theorem promote_k1_any {S W : Type} {env : TransSl.Env Elem Elem Unit AErr S W} (hst : StoreOK env) (d : Nat)
    (m : MetaSlab (ATree d)) (s : S) (id : SlabID) (child1 : ATree d) (err : Option AErr) :
    TransSl.Array_promoteChildAsNewRoot.k1 env
        ({ Storage := s, root := some (trTree (d + 1) m) } : TransSl.Array Elem Unit S) id (some (trTree d child1)) err =
      some (none, { Storage := removed env (stored env s m.hdr.id
                      (some (trTree d (ATree.setRoot d (ATree.setId d child1 m.hdr.id) m.root)))) id,
                    root := some (trTree d (ATree.setRoot d (ATree.setId d child1 m.hdr.id) m.root)) }) := by
  have hrm : TransSl.ArraySlab_RemoveExtraData env (trTree (d + 1) m) =
      (trExtra m.root, TransSl.ArraySlabV.metaSlab (trMeta ({ m with root := false } : MetaSlab (ATree d)))) := rfl
  have hid : TransSl.ArraySlab_SlabID env
      (TransSl.ArraySlabV.metaSlab (trMeta ({ m with root := false } : MetaSlab (ATree d)))) = m.hdr.id := rfl
  simp only [TransSl.Array_promoteChildAsNewRoot.k1, hrm, hid, disp_SetSlabID_any,
    disp_SetExtraData_any, slR_hdr_setRoot, hst.storeSlab_tree, Option.isSome_none, Bool.false_eq_true, if_false,
    hst.remove_eq, slR_hdr_setId, hst.wrap]

/-- the model's `child1`: a data child with its size adjusted from data-slab prefix to root-data-slab prefix -/
def promoteChild1 : (d : Nat) → ATree d → ATree d
  | 0, (s : DataSlab) =>
    ({ s with hdr := { s.hdr with size := s.hdr.size - arrayDataSlabPrefixSize + arrayRootDataSlabPrefixSize } } : DataSlab)
  | _ + 1, m' => m'

/-- `Arr.promoteIfSingleChild` on a root index slab with exactly one child -/
theorem promote_unfold {d : Nat} (m : MetaSlab (ATree d)) (ty : Nat) (c : Ctx) (h : Hdr) (child : ATree d)
    (hch : m.childHdrs = [h]) (hcs : m.children = [child]) :
    (⟨d + 1, m, ty⟩ : Arr).promoteIfSingleChild c =
      (⟨d, ATree.setRoot d (ATree.setId d (promoteChild1 d child) m.hdr.id) true, ty⟩,
       (c.emit (.store m.hdr.id)).emit (.remove h.id)) := by
  simp only [Arr.promoteIfSingleChild, hch, hcs]
  cases d <;> rfl

/-- `promoteChildAsNewRoot` fetches the child (`hget`), adjusts a data child's header size (data-slab prefix -> root
    prefix) and enters its join point -/
theorem promote_enter_any {S W : Type} (env : TransSl.Env Elem Elem Unit AErr S W) {d : Nat}
    (g : TransSl.Array Elem Unit S) (id : SlabID) (child : ATree d)
    (hget : env.getArraySlab g.Storage id = (some (trTree d child), none, g.Storage))
    (hsz : d = 0 → arrayDataSlabPrefixSize ≤ (ATree.hdr d child).size) :
    TransSl.Array_promoteChildAsNewRoot env g id =
      TransSl.Array_promoteChildAsNewRoot.k1 env g id (some (trTree d (promoteChild1 d child))) none := by
  obtain ⟨st, root⟩ := g
  cases d with
  | zero =>
    have key : ∀ sl : DataSlab, env.getArraySlab st id = (some (.dataSlab (trData sl)), none, st) →
        arrayDataSlabPrefixSize ≤ sl.hdr.size →
        TransSl.Array_promoteChildAsNewRoot env ⟨st, root⟩ id =
          TransSl.Array_promoteChildAsNewRoot.k1 env ⟨st, root⟩ id (some (.dataSlab (trData { sl with hdr :=
            { sl.hdr with size := sl.hdr.size - arrayDataSlabPrefixSize + arrayRootDataSlabPrefixSize } }))) none := by
      intro sl hget h21
      have e5 : UInt32.ofNat arrayRootDataSlabPrefixSize = u32 arrayRootDataSlabPrefixSize := rfl
      have e21 : UInt32.ofNat arrayDataSlabPrefixSize = u32 arrayDataSlabPrefixSize := rfl
      have hd : TransSl.ArraySlab_IsData env (.dataSlab (trData sl)) = true := rfl
      simp only [TransSl.Array_promoteChildAsNewRoot, hget, Option.isSome_none, Bool.false_eq_true, if_false, hd,
        if_true]
      show TransSl.Array_promoteChildAsNewRoot.k1 _ _ _ _ _ = _
      congr 2
      rw [trData_header, trHdr_size, e5, e21, u32_sub_eq h21, u32_add_eq]
      rfl
    exact key child hget (hsz rfl)
  | succ d =>
    simp only [TransSl.Array_promoteChildAsNewRoot, hget, Option.isSome_none, Bool.false_eq_true, if_false,
      disp_IsData_any]
    rfl

/-- `Array.promoteChildAsNewRoot(childID)` on a root index slab with exactly one child that the storage returns: the
    model's `promoteIfSingleChild` (new root = the child with the root's identifier and extra data, a data child's size
    re-based on the root prefix; one store, one remove; no error). -/
theorem Sl_Array_promoteChildAsNewRoot_eq_model (T : Nat) (look) {d : Nat} (m : MetaSlab (ATree d)) (ty : Nat) (c : Ctx)
    (h : Hdr) (child : ATree d) (hch : m.childHdrs = [h]) (hcs : m.children = [child])
    (hlook : look h.id = some (trTree d child)) (hroot : m.root = true)
    (hsz : d = 0 → arrayDataSlabPrefixSize ≤ (ATree.hdr d child).size) :
    TransSl.Array_promoteChildAsNewRoot (envA T look) (trArr ⟨d + 1, m, ty⟩ c) h.id =
      some (none, trArr ((⟨d + 1, m, ty⟩ : Arr).promoteIfSingleChild c).1
                        ((⟨d + 1, m, ty⟩ : Arr).promoteIfSingleChild c).2) := by
  rw [promote_enter_any (envA T look) _ h.id child (by rw [envA_getArraySlab, hlook]) hsz,
    promote_unfold m ty c h child hch hcs]
  show TransSl.Array_promoteChildAsNewRoot.k1 (envA T look)
    ({ Storage := c, root := some (trTree (d + 1) m) } : GArray) _ _ _ = _
  rw [promote_k1_any (storeOK_envA T look), hroot]
  rfl

/-- the child is not in storage (`getArraySlab` fails): the error is returned, nothing has changed -/
theorem Sl_Array_promoteChildAsNewRoot_notFound (T : Nat) (look) (a : Arr) (c : Ctx) (id : SlabID)
    (hlook : look id = none) :
    TransSl.Array_promoteChildAsNewRoot (envA T look) (trArr a c) id = some (some .slabNotFound, trArr a c) := by
  simp only [TransSl.Array_promoteChildAsNewRoot, envA_getArraySlab, hlook, Option.isSome_some, if_true]

theorem Sl_splitAgrees_data (T : Nat) (look) (s : DataSlab) (c : Ctx) (hs : s.hdr.size < 2^32)
    (hpre : arrayDataSlabPrefixSize + sumSizes s.elems ≤ s.hdr.size) : SplitAgrees T look 0 s c :=
  SplitAgrees_data T look s c hs hpre

theorem Sl_splitAgrees_meta (T : Nat) (look) {d : Nat} (m : MetaSlab (ATree d)) (c : Ctx)
    (hcs : (m.childHdrs.length + 1) / 2 ≤ m.countSum.length)
    (hcov : (m.childHdrs.length + 1) / 2 * arraySlabHeaderSize ≤ m.hdr.size)
    (hcnt : MetaSlab.sumCounts (m.childHdrs.take ((m.childHdrs.length + 1) / 2)) ≤ m.hdr.count) :
    SplitAgrees T look (d + 1) m c :=
  SplitAgrees_meta T look m c hcs hcov hcnt

/-- `Array.splitRoot()` on a DATA root, no hypothesis left on `Split`: the header size fits `uint32` after the
    re-basing (+16) and accounts for the root prefix and the elements -/
theorem Sl_Array_splitRoot_dataRoot (T : Nat) (look) (s : DataSlab) (ty : Nat) (c : Ctx) (hroot : s.root = true)
    (hs : s.hdr.size + (arrayDataSlabPrefixSize - arrayRootDataSlabPrefixSize) < 2^32)
    (hpre : arrayRootDataSlabPrefixSize + sumSizes s.elems ≤ s.hdr.size) :
    TransSl.Array_splitRoot (envA T look) (trArr ⟨0, s, ty⟩ c) =
      match (⟨0, s, ty⟩ : Arr).splitRoot c with
      | .ok (a', c') => some (none, trArr a' c')
      | .error e => some (some e, trArr ⟨0, splitRootOld ⟨0, s, ty⟩ c, ty⟩ (splitRootCtx ⟨0, s, ty⟩ c)) := by
  simp only [arrayDataSlabPrefixSize, arrayRootDataSlabPrefixSize] at hs hpre
  refine Sl_Array_splitRoot_eq_model T look ⟨0, s, ty⟩ c hroot (fun _ => ?_) ?_
  · show arrayRootDataSlabPrefixSize ≤ s.hdr.size
    simp only [arrayRootDataSlabPrefixSize]; omega
  · refine Sl_splitAgrees_data T look _ _ ?_ ?_
    · show s.hdr.size - arrayRootDataSlabPrefixSize + arrayDataSlabPrefixSize < 2^32
      simp only [arrayDataSlabPrefixSize, arrayRootDataSlabPrefixSize]; omega
    · show arrayDataSlabPrefixSize + sumSizes s.elems ≤
        s.hdr.size - arrayRootDataSlabPrefixSize + arrayDataSlabPrefixSize
      simp only [arrayDataSlabPrefixSize, arrayRootDataSlabPrefixSize]; omega

/-! ### non-vacuity: a data root with three 50-byte elements is split, and the resulting root is promoted back -/

def slRLeaf : DataSlab :=
  { hdr := ⟨⟨1, 1⟩, 155, 3⟩, next := SlabID.undef,
    elems := [⟨50, .val 0⟩, ⟨50, .val 1⟩, ⟨50, .val 2⟩], root := true, inlined := false }
def slRArr : Arr := ⟨0, slRLeaf, 7⟩
def slRCtx : Ctx := { ctr := 1, eff := [] }

example : TransSl.Array_Address (envA 256 (fun _ => none)) (trArr slRArr slRCtx) = some 1 := rfl

/-- the model splits it: left = 2 elements, right = 1 element, new root `⟨1, 1⟩`, old root re-identified `⟨1, 2⟩` -/
example : (slRArr.splitRoot slRCtx).toOption.map (fun r => (r.1.d, r.1.rootHdr, r.2.ctr)) =
    some (1, ⟨⟨1, 1⟩, 40, 3⟩, 3) := by decide

/-- through the theorem: the hypotheses hold on the concrete array, the generated function returns the model's result -/
example : TransSl.Array_splitRoot (envA 256 (fun _ => none)) (trArr slRArr slRCtx) =
    match slRArr.splitRoot slRCtx with
    | .ok (a', c') => some (none, trArr a' c')
    | .error e => some (some e, trArr ⟨0, splitRootOld slRArr slRCtx, 7⟩ (splitRootCtx slRArr slRCtx)) :=
  Sl_Array_splitRoot_eq_model 256 _ slRArr slRCtx rfl (fun _ => by decide)
    (Sl_splitAgrees_data 256 _ _ _ (by decide) (by decide))

/-- ... and by evaluation: no error, the new root is an index slab `⟨1, 1⟩` of 40 bytes over headers `⟨1, 2⟩` (2 elements,
    121 bytes) and `⟨1, 3⟩` (1 element, 71 bytes) carrying the extra data; two allocations, three stores -/
example : TransSl.Array_splitRoot (envA 256 (fun _ => none)) (trArr slRArr slRCtx) =
    some (none,
      { Storage := { ctr := 3, eff := [.alloc 1 ⟨1, 2⟩, .alloc 1 ⟨1, 3⟩, .store ⟨1, 2⟩, .store ⟨1, 3⟩, .store ⟨1, 1⟩] },
        root := some (.metaSlab
          { header := { slabID := ⟨1, 1⟩, size := 40, count := 3 },
            childrenHeaders := [{ slabID := ⟨1, 2⟩, size := 121, count := 2 }, { slabID := ⟨1, 3⟩, size := 71, count := 1 }],
            childrenCountSum := [2, 3], extraData := some () }) }) := by
  exact (Sl_Array_splitRoot_dataRoot 256 _ slRLeaf 7 slRCtx rfl (by decide) (by decide)).trans rfl

/-- a data root with ONE element cannot be split: Go returns `SlabSplitError` and leaves the array with the old root
    ALREADY re-based (55 -> 71 bytes), stripped of its extra data and re-identified `⟨1, 2⟩`, the allocation done -/
example :
    let s : DataSlab := { hdr := ⟨⟨1, 1⟩, 55, 1⟩, next := SlabID.undef, elems := [⟨50, .val 0⟩], root := true,
                          inlined := false }
    TransSl.Array_splitRoot (envA 256 (fun _ => none)) (trArr ⟨0, s, 7⟩ slRCtx) =
      some (some .slabSplit,
        { Storage := { ctr := 2, eff := [.alloc 1 ⟨1, 2⟩] },
          root := some (.dataSlab
            { next := SlabID.undef, header := { slabID := ⟨1, 2⟩, size := 71, count := 1 },
              elements := [some ⟨50, .val 0⟩], extraData := none, inlined := false }) }) := by
  intro s
  exact (Sl_Array_splitRoot_dataRoot 256 _ s 7 slRCtx rfl (by decide) (by decide)).trans rfl

/-- an INDEX root (two leaves) is split: through the theorem with `Sl_splitAgrees_meta` -/
def slRIndex : MetaSlab (ATree 0) :=
  { hdr := ⟨⟨1, 1⟩, 40, 3⟩, childHdrs := [⟨⟨1, 2⟩, 121, 2⟩, ⟨⟨1, 3⟩, 71, 1⟩], countSum := [2, 3],
    children := [({ slRLeaf with hdr := ⟨⟨1, 2⟩, 121, 2⟩, elems := slRLeaf.elems.take 2, root := false } : DataSlab),
                 ({ slRLeaf with hdr := ⟨⟨1, 3⟩, 71, 1⟩, elems := slRLeaf.elems.drop 2, root := false } : DataSlab)],
    root := true }

example : ∃ a' c', (⟨1, slRIndex, 7⟩ : Arr).splitRoot slRCtx = .ok (a', c') ∧ a'.d = 2 ∧
    TransSl.Array_splitRoot (envA 256 (fun _ => none)) (trArr ⟨1, slRIndex, 7⟩ slRCtx) = some (none, trArr a' c') := by
  have h := Sl_Array_splitRoot_eq_model 256 (fun _ => none) ⟨1, slRIndex, 7⟩ slRCtx rfl (fun h => by cases h)
    (Sl_splitAgrees_meta 256 _ _ _ (by decide) (by decide) (by decide))
  rw [h]
  exact ⟨_, _, rfl, rfl, rfl⟩

/-- `promoteChildAsNewRoot`: a root index slab with ONE data child `⟨1, 2⟩` (171 bytes), which the storage returns -/
def slRChild : DataSlab := { slRLeaf with hdr := ⟨⟨1, 2⟩, 171, 3⟩, root := false }
def slRSingle : MetaSlab (ATree 0) :=
  { hdr := ⟨⟨1, 1⟩, 26, 3⟩, childHdrs := [⟨⟨1, 2⟩, 171, 3⟩], countSum := [3], children := [slRChild], root := true }
def slRLook : SlabID → Option GSlab := fun id => if id = ⟨1, 2⟩ then some (trTree 0 slRChild) else none

example : TransSl.Array_promoteChildAsNewRoot (envA 256 slRLook) (trArr ⟨1, slRSingle, 7⟩ slRCtx) ⟨1, 2⟩ =
    some (none,
      { Storage := { ctr := 1, eff := [.store ⟨1, 1⟩, .remove ⟨1, 2⟩] },
        root := some (.dataSlab
          { next := SlabID.undef, header := { slabID := ⟨1, 1⟩, size := 155, count := 3 },
            elements := [some ⟨50, .val 0⟩, some ⟨50, .val 1⟩, some ⟨50, .val 2⟩], extraData := some (),
            inlined := false }) }) := by
  rw [show (⟨1, 2⟩ : SlabID) = (⟨⟨1, 2⟩, 171, 3⟩ : Hdr).id from rfl,
    Sl_Array_promoteChildAsNewRoot_eq_model 256 slRLook slRSingle 7 slRCtx ⟨⟨1, 2⟩, 171, 3⟩ slRChild rfl rfl rfl rfl
      (fun _ => by decide)]
  rfl

example : TransSl.Array_promoteChildAsNewRoot (envA 256 (fun _ => none)) (trArr ⟨1, slRSingle, 7⟩ slRCtx) ⟨1, 2⟩ =
    some (some .slabNotFound, trArr ⟨1, slRSingle, 7⟩ slRCtx) :=
  Sl_Array_promoteChildAsNewRoot_notFound 256 _ _ _ _ rfl

/-- `hsz` is needed: on a (corrupt) data root whose header says 2 bytes (less than the root prefix, 5), Go's
    `size - arrayRootDataSlabPrefixSize + arrayDataSlabPrefixSize` wraps around twice and gives 18, the model's
    truncated subtraction gives 21 (read off the old root that the failing `Split` leaves behind).  A valid root has
    `size = 5 + sumSizes elems`. -/
theorem Sl_Array_splitRoot_differs_at :
    let s : DataSlab := { hdr := ⟨⟨1, 1⟩, 2, 0⟩, next := SlabID.undef, elems := [], root := true, inlined := false }
    (TransSl.Array_splitRoot (envA 256 (fun _ => none)) (trArr ⟨0, s, 7⟩ slRCtx)).map
        (fun r => r.2.root.map (fun v => (TransSl.ArraySlab_Header (envA 256 (fun _ => none)) v).size)) =
      some (some 18) ∧
    (ATree.hdr 0 (splitRootOld ⟨0, s, 7⟩ slRCtx)).size = 21 := ⟨rfl, rfl⟩

end Atree.TransEq

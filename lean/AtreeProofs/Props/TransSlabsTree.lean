import AtreeProofs.Trans.Slabs
/-
  The restructuring of an index slab and the root changes of `Array`, regenerated from array_metadata_slab.go /
  array.go (`Gen/TransSlabs.lean`: `ArrayMetaDataSlab_SplitChildSlab`, `_rebalanceChildren`, `_mergeChildren`,
  `_MergeOrRebalanceChildSlab`, `Array_splitRoot`, `Array_promoteChildAsNewRoot`) against the model
  (`AtreeModel/Array/Tree.lean`).

  Each function is treated once, for ANY environment `env` over the model's element type whose `Store` / `Remove` do
  not fail (`StoreOK`, Trans/Slabs.lean), with the storage afterwards written as the chain of `env`'s operations
  (`stored`, `removed`; `rebalStore`, `mergeStore`, `morStore`): `SplitChildSlab_any`, `rebalanceChildren_any`,
  `mergeChildren_any`, `mor_k1_any`, `MergeOrRebalanceChildSlab_any`.  The theorems over `envA T look` (storage = `Ctx`:
  the chain collapses to the model's effects) are instances; so are those over the heap environment
  (Props/TransDescentMor.lean, TransDescentSplit.lean).

  The child slabs are reached through DYNAMIC DISPATCH (`TransSl.ArraySlab_Split`, `_Merge`, `_LendToRight`,
  `_BorrowFromRight`, ..).  The theorems here take the agreement of the dispatched child operation with the model as
  a hypothesis (`hsplit`, `hop`, ..: "the generated operation on the translation of the child is the translation of the
  model's result"); `Props/TransSlabsGlue.lean` discharges it from the slab-level theorems (`TransSlabsData`,
  `TransSlabsMeta`) for data-slab and index-slab children.  So the statements are about the index slab itself:
  `childrenHeaders`, `childrenCountSum`, `header`, the store / remove effects and their order, the out-state of the
  child, and the error exits.
-/
namespace Atree.TransEq
open Atree Atree.Gen

theorem disp_Header (T : Nat) (look) (d : Nat) (t : ATree d) :
    TransSl.ArraySlab_Header (envA T look) (trTree d t) = trHdr (ATree.hdr d t) :=
  disp_Header_any _ d t

theorem goIdx_map {α β : Type} (f : α → β) (l : List α) (i : Nat) :
    TransSl.goIdx (l.map f) (Int.ofNat i) = (l[i]?).map f := by
  rw [TransSl.goIdx_eq]; exact sliceIdx_map f l i

theorem goSet_map {α β : Type} (f : α → β) (l : List α) (i : Nat) (v : α) :
    TransSl.goSet (l.map f) (Int.ofNat i) (f v) = if i < l.length then some ((l.set i v).map f) else none := by
  rw [goSet_ofNat]; simp [List.map_set]

theorem goInsert_map_one {α β : Type} (f : α → β) (l : List α) (i : Nat) (v : α) :
    TransSl.goInsert (l.map f) (Int.ofNat i) [f v] = if i ≤ l.length then some ((l.insertIdx i v).map f) else none := by
  rw [goInsert_ofNat]
  by_cases h : i ≤ l.length
  · simp only [List.length_map, h, if_true]
    rw [take_cons_drop_eq_insertIdx _ _ _ (by simpa using h), map_insertIdx]
  · simp [h]

theorem goDelete_map_one {α β : Type} (f : α → β) (l : List α) (i : Nat) :
    TransSl.goDelete (l.map f) (Int.ofNat i) (Int.ofNat (i + 1)) =
      if i + 1 ≤ l.length then some ((l.eraseIdx i).map f) else none := by
  rw [goDelete_ofNat]
  by_cases h : i + 1 ≤ l.length
  · simp only [List.length_map, h, and_true, Nat.le_add_right, if_true]
    rw [← List.eraseIdx_eq_take_drop_succ, map_eraseIdx]
  · simp [h]

theorem ofNat_succ' (k : Nat) : Int.ofNat k + (1 : Int) = Int.ofNat (k + 1) := rfl

theorem ofNat_pred' (k : Nat) (h : 0 < k) : Int.ofNat k - (1 : Int) = Int.ofNat (k - 1) := int_pred h

/-! ### the sibling operations do not take the storage

  `Merge`, `LendToRight`, `BorrowFromRight`, `CanLendToLeft`, `CanLendToRight` read the environment only through
  `Storable.ByteSize` and `minThreshold`: two environments that agree on these give the same functions.  On a leaf this
  is read off the stateless form (Trans/Slabs.lean); the index-slab functions read no field at all, but pass the
  environment through their loops. -/

section transfer
variable {S W S' W' : Type} {env : TransSl.Env Elem Elem Unit AErr S W} {env' : TransSl.Env Elem Elem Unit AErr S' W'}

/-- two environments with the same element sizes and the same `minThreshold` -/
structure SameSizes (env : TransSl.Env Elem Elem Unit AErr S W) (env' : TransSl.Env Elem Elem Unit AErr S' W') :
    Prop where
  byteSize : env.Storable_ByteSize = env'.Storable_ByteSize
  minThr : env.minThreshold = env'.minThreshold

variable (h : SameSizes env env')
include h

omit h in
theorem mMerge_loop_same (fuel : Nat) (i : Int) (a : GMeta) (b : UInt32) :
    (TransSl.ArrayMetaDataSlab_Merge.loop1 env fuel i a b :
      TransSl.Loop (Option (Option AErr × GMeta × Option GSlab)) (GMeta × UInt32)) =
      TransSl.ArrayMetaDataSlab_Merge.loop1 env' fuel i a b := by
  induction fuel generalizing i a b with
  | zero => rfl
  | succ n ih => simp only [TransSl.ArrayMetaDataSlab_Merge.loop1, ih]

omit h in
theorem mLend_loop1_same (fuel : Nat) (i : Int) (s : Option GSlab) (r : GMeta) (b : UInt32) :
    (TransSl.ArrayMetaDataSlab_LendToRight.loop1 env fuel i s r b :
      TransSl.Loop (Option (Option AErr × GMeta × Option GSlab)) (Option GSlab × GMeta × UInt32)) =
      TransSl.ArrayMetaDataSlab_LendToRight.loop1 env' fuel i s r b := by
  induction fuel generalizing i s r b with
  | zero => rfl
  | succ n ih => simp only [TransSl.ArrayMetaDataSlab_LendToRight.loop1, ih]

omit h in
theorem mLend_loop2_same (fuel : Nat) (i : Int) (s : Option GSlab) (r : GMeta) :
    (TransSl.ArrayMetaDataSlab_LendToRight.loop2 env fuel i s r :
      TransSl.Loop (Option (Option AErr × GMeta × Option GSlab)) (Option GSlab × GMeta)) =
      TransSl.ArrayMetaDataSlab_LendToRight.loop2 env' fuel i s r := by
  induction fuel generalizing i s r with
  | zero => rfl
  | succ n ih => simp only [TransSl.ArrayMetaDataSlab_LendToRight.loop2, ih]

omit h in
theorem mLend_loop3_same (fuel : Nat) (i : Int) (a : GMeta) :
    (TransSl.ArrayMetaDataSlab_LendToRight.loop3 (σ := Elem) env fuel i a :
      TransSl.Loop (Option (Option AErr × GMeta × Option GSlab)) GMeta) =
      TransSl.ArrayMetaDataSlab_LendToRight.loop3 env' fuel i a := by
  induction fuel generalizing i a with
  | zero => rfl
  | succ n ih => simp only [TransSl.ArrayMetaDataSlab_LendToRight.loop3, ih]

omit h in
theorem mBorrow_loop1_same (fuel : Nat) (i : Int) (a : GMeta) (b : UInt32) :
    (TransSl.ArrayMetaDataSlab_BorrowFromRight.loop1 env fuel i a b :
      TransSl.Loop (Option (Option AErr × GMeta × Option GSlab)) (GMeta × UInt32)) =
      TransSl.ArrayMetaDataSlab_BorrowFromRight.loop1 env' fuel i a b := by
  induction fuel generalizing i a b with
  | zero => rfl
  | succ n ih => simp only [TransSl.ArrayMetaDataSlab_BorrowFromRight.loop1, ih]

omit h in
theorem mBorrow_loop2_same (fuel : Nat) (i : Int) (s : Option GSlab) (r : GMeta) (b : UInt32) :
    (TransSl.ArrayMetaDataSlab_BorrowFromRight.loop2 env fuel i s r b :
      TransSl.Loop (Option (Option AErr × GMeta × Option GSlab)) (Option GSlab × GMeta × UInt32)) =
      TransSl.ArrayMetaDataSlab_BorrowFromRight.loop2 env' fuel i s r b := by
  induction fuel generalizing i s r b with
  | zero => rfl
  | succ n ih => simp only [TransSl.ArrayMetaDataSlab_BorrowFromRight.loop2, ih]

omit h in
theorem Merge_same (x : GSlab) (y : Option GSlab) :
    TransSl.ArraySlab_Merge env x y = TransSl.ArraySlab_Merge env' x y := by
  cases x with
  | dataSlab a => rfl
  | metaSlab a =>
    simp only [TransSl.ArraySlab_Merge, TransSl.ArrayMetaDataSlab_Merge, mMerge_loop_same (env' := env')]
    rfl

theorem LendToRight_same (d : Nat) (l : ATree d) (y : Option GSlab) :
    TransSl.ArraySlab_LendToRight env (trTree d l) y = TransSl.ArraySlab_LendToRight env' (trTree d l) y := by
  cases d with
  | zero =>
    have e : TransSl.ArrayDataSlab_LendToRight env (trData l) y = TransSl.ArrayDataSlab_LendToRight env' (trData l) y := by
      rcases y with _ | ⟨r | m⟩
      · rfl
      · rw [Sl_LendToRight_eq_stateless env _ r _ (elementsAre_trData l),
          Sl_LendToRight_eq_stateless env' _ r _ (elementsAre_trData l), byteSizes, byteSizes, h.byteSize, h.minThr]
        rfl
      · rfl
    simp only [trTree, TransSl.ArraySlab_LendToRight, e]
  | succ d =>
    simp only [trTree, TransSl.ArraySlab_LendToRight, TransSl.ArrayMetaDataSlab_LendToRight,
      mLend_loop1_same (env' := env'), mLend_loop2_same (env' := env'), mLend_loop3_same (env' := env')]
    rfl

theorem BorrowFromRight_same (d : Nat) (l r : ATree d) :
    TransSl.ArraySlab_BorrowFromRight env (trTree d l) (some (trTree d r)) =
      TransSl.ArraySlab_BorrowFromRight env' (trTree d l) (some (trTree d r)) := by
  cases d with
  | zero =>
    have e : TransSl.ArrayDataSlab_BorrowFromRight env (trData l) (some (.dataSlab (trData r))) =
        TransSl.ArrayDataSlab_BorrowFromRight env' (trData l) (some (.dataSlab (trData r))) := by
      rw [Sl_BorrowFromRight_eq_stateless env _ _ _ (elementsAre_trData r),
        Sl_BorrowFromRight_eq_stateless env' _ _ _ (elementsAre_trData r), byteSizes, byteSizes, h.byteSize, h.minThr]
      rfl
    simp only [trTree, TransSl.ArraySlab_BorrowFromRight, e]
  | succ d =>
    simp only [trTree, TransSl.ArraySlab_BorrowFromRight, TransSl.ArrayMetaDataSlab_BorrowFromRight,
      mBorrow_loop1_same (env' := env'), mBorrow_loop2_same (env' := env')]
    rfl

theorem CanLendToLeft_same (d : Nat) (t : ATree d) (u : UInt32) :
    TransSl.ArraySlab_CanLendToLeft env (trTree d t) u = TransSl.ArraySlab_CanLendToLeft env' (trTree d t) u := by
  cases d with
  | zero =>
    simp only [trTree, TransSl.ArraySlab_CanLendToLeft, Sl_CanLendToLeft_eq_stateless _ _ _ (elementsAre_trData t),
      byteSizes, h.byteSize, h.minThr]
  | succ d => simp only [trTree, TransSl.ArraySlab_CanLendToLeft, TransSl.ArrayMetaDataSlab_CanLendToLeft, h.minThr]

theorem CanLendToRight_same (d : Nat) (t : ATree d) (u : UInt32) :
    TransSl.ArraySlab_CanLendToRight env (trTree d t) u = TransSl.ArraySlab_CanLendToRight env' (trTree d t) u := by
  cases d with
  | zero =>
    simp only [trTree, TransSl.ArraySlab_CanLendToRight, Sl_CanLendToRight_eq_stateless _ _ _ (elementsAre_trData t),
      byteSizes, h.byteSize, h.minThr]
  | succ d => simp only [trTree, TransSl.ArraySlab_CanLendToRight, TransSl.ArrayMetaDataSlab_CanLendToRight, h.minThr]

end transfer

section anyEnv
variable {S W : Type} (env : TransSl.Env Elem Elem Unit AErr S W)

/-- `SplitChildSlab` over any environment whose `Store` does not fail.  `hsplit`: what the dispatched `Split` returns on
    the translation of the child (`s1 c'` is the storage after it); then the two halves and the index slab are stored,
    in this order. -/
theorem SplitChildSlab_any (hst : StoreOK env) {d : Nat} (m : MetaSlab (ATree d)) (child : ATree d) (k : Nat)
    (s : S) (c : Ctx) (s1 : Ctx → S)
    (hsplit : TransSl.ArraySlab_Split env (trTree d child) s =
      match ATree.split d child c with
      | .error e => some (none, none, some e, trTree d child, s)
      | .ok (l, r, c') => some (some (trTree d l), some (trTree d r), none, trTree d l, s1 c'))
    (hk : k < m.countSum.length) (hk' : k < m.childHdrs.length)
    (hbase : (ATree.hdr d child).count ≤ m.countSum.getD k 0) :
    TransSl.ArrayMetaDataSlab_SplitChildSlab env (trMeta m) s (some (trTree d child)) (Int.ofNat k) =
      match ATree.split d child c, m.splitChildSlab child k c with
      | .error e, _ => some (some e, trMeta m, s, some (trTree d child))
      | .ok (l, r, c1), .ok (m', _) =>
        some (none, trMeta m',
          stored env (stored env (stored env (s1 c1) (ATree.hdr d l).id (some (trTree d l))) (ATree.hdr d r).id
            (some (trTree d r))) m.hdr.id (some (.metaSlab (trMeta m'))),
          some (trTree d l))
      | .ok _, .error _ => none := by
  have hget : m.countSum[k]? = some (m.countSum.getD k 0) := by
    simp [List.getD_eq_getElem?_getD, List.getElem?_eq_getElem hk]
  simp only [TransSl.ArrayMetaDataSlab_SplitChildSlab, trMeta_childrenCountSum, goIdx_map, hget, Option.map_some,
    hsplit, MetaSlab.splitChildSlab]
  cases hs : ATree.split d child c with
  | error e => simp
  | ok res =>
    obtain ⟨l, r, c1⟩ := res
    simp only [bind, Except.bind, Option.isSome_none, Bool.false_eq_true, if_false, disp_Header_any, trHdr_count,
      trMeta_childrenHeaders, goSet_map, hk', if_true, ofNat_succ', goInsert_map_one, List.length_set,
      show k + 1 ≤ m.childHdrs.length from hk', hst.storeSlab_tree]
    rw [u32_sub_eq hbase, u32_add_eq, u32_add_eq, goSet_map]
    simp only [hk, if_true, goInsert_map_one, List.length_set, show k + 1 ≤ m.countSum.length from hk]
    have hsz : (trMeta m).header.size + UInt32.ofNat arraySlabHeaderSize = u32 (m.hdr.size + arraySlabHeaderSize) :=
      u32_add_eq _ _
    rw [hst.storeSlab_meta, hsz]
    rfl

end anyEnv

/-- the effects of the model's `splitChildSlab`: those of `split`, then three stores -/
theorem splitChildSlab_ctx {d : Nat} {m : MetaSlab (ATree d)} {child : ATree d} {k : Nat} {c : Ctx}
    {l r : ATree d} {c1 : Ctx} {m' : MetaSlab (ATree d)} {c' : Ctx}
    (hs : ATree.split d child c = .ok (l, r, c1)) (hm : m.splitChildSlab child k c = .ok (m', c')) :
    ((c1.emit (.store (ATree.hdr d l).id)).emit (.store (ATree.hdr d r).id)).emit (.store m.hdr.id) = c' := by
  simp only [MetaSlab.splitChildSlab, hs, bind, Except.bind, pure, Except.pure, Except.ok.injEq, Prod.mk.injEq] at hm
  exact hm.2

/-- what the generated `ArraySlab.Split` must return on the translation of a model slab -/
def SplitAgrees (T : Nat) (look : SlabID → Option GSlab) (d : Nat) (child : ATree d) (c : Ctx) : Prop :=
  TransSl.ArraySlab_Split (envA T look) (trTree d child) c =
    match ATree.split d child c with
    | .error e => some (none, none, some e, trTree d child, c)
    | .ok (l, r, c') => some (some (trTree d l), some (trTree d r), none, trTree d l, c')

theorem Sl_SplitChildSlab_eq_model (T : Nat) (look) {d : Nat} (m : MetaSlab (ATree d)) (child : ATree d) (k : Nat)
    (c : Ctx) (hsplit : SplitAgrees T look d child c)
    (hk : k < m.countSum.length) (hk' : k < m.childHdrs.length)
    (hbase : (ATree.hdr d child).count ≤ m.countSum.getD k 0) :
    TransSl.ArrayMetaDataSlab_SplitChildSlab (envA T look) (trMeta m) c (some (trTree d child)) (Int.ofNat k) =
      match ATree.split d child c, m.splitChildSlab child k c with
      | .error e, _ => some (some e, trMeta m, c, some (trTree d child))
      | .ok (l, _, _), .ok (m', c') => some (none, trMeta m', c', some (trTree d l))
      | .ok _, .error _ => none := by
  rw [SplitChildSlab_any (envA T look) (storeOK_envA T look) m child k c c id hsplit hk hk' hbase]
  cases hs : ATree.split d child c with
  | error e => rfl
  | ok res =>
    obtain ⟨l, r, c1⟩ := res
    cases hm : m.splitChildSlab child k c with
    | error e => rfl
    | ok res' => exact congrArg (fun x => some (none, trMeta res'.1, x, some (trTree d l))) (splitChildSlab_ctx hs hm)

/-- the model's `BorrowFromRight` / `LendToRight` on a pair of sibling slabs -/
def rebalOp (T : Nat) (d : Nat) (l r : ATree d) (leftBorrowFromRight : Bool) : ATree d × ATree d :=
  if leftBorrowFromRight then ATree.borrowFromRight T d l r else ATree.lendToRight T d l r

section anyEnv
variable {S W : Type} (env : TransSl.Env Elem Elem Unit AErr S W)

/-- what the dispatched `BorrowFromRight` / `LendToRight` must return on the translations of two model slabs -/
def RebalAgreesOn (T : Nat) (d : Nat) (l r : ATree d) (flag : Bool) : Prop :=
  (if flag then TransSl.ArraySlab_BorrowFromRight env (trTree d l) (some (trTree d r))
   else TransSl.ArraySlab_LendToRight env (trTree d l) (some (trTree d r))) =
    some (none, trTree d (rebalOp T d l r flag).1, some (trTree d (rebalOp T d l r flag).2))

/-- the storage after `rebalanceChildren`: store left, store right, store the index slab -/
def rebalStore (T : Nat) {d : Nat} (m : MetaSlab (ATree d)) (left right : ATree d) (li ri : Nat) (flag : Bool)
    (s : S) (c : Ctx) : S :=
  stored env (stored env (stored env s
      (ATree.hdr d (rebalOp T d left right flag).1).id (some (trTree d (rebalOp T d left right flag).1)))
      (ATree.hdr d (rebalOp T d left right flag).2).id (some (trTree d (rebalOp T d left right flag).2)))
    m.hdr.id (some (.metaSlab (trMeta (m.rebalanceChildren T left right li ri flag c).1)))

/-- the join point of `rebalanceChildren`: the two headers and the left count sum are updated, then three stores -/
theorem rebalance_k1_any (hst : StoreOK env) {d : Nat} (m : MetaSlab (ATree d)) (l' r' : ATree d)
    (li ri base : Nat) (s : S)
    (hli : li < m.countSum.length) (hli' : li < m.childHdrs.length) (hri : ri < m.childHdrs.length) :
    TransSl.ArrayMetaDataSlab_rebalanceChildren.k1 env (trMeta m) s (some (trTree d l')) (some (trTree d r'))
        (Int.ofNat li) (Int.ofNat ri) (u32 base) none =
      some (none,
        trMeta ({ m with childHdrs := (m.childHdrs.set li (ATree.hdr d l')).set ri (ATree.hdr d r'),
                         countSum := m.countSum.set li (base + (ATree.hdr d l').count),
                         children := (m.children.set li l').set ri r' } : MetaSlab (ATree d)),
        stored env (stored env (stored env s (ATree.hdr d l').id (some (trTree d l'))) (ATree.hdr d r').id
          (some (trTree d r'))) m.hdr.id
          (some (.metaSlab (trMeta
            ({ m with childHdrs := (m.childHdrs.set li (ATree.hdr d l')).set ri (ATree.hdr d r'),
                      countSum := m.countSum.set li (base + (ATree.hdr d l').count),
                      children := (m.children.set li l').set ri r' } : MetaSlab (ATree d))))),
        some (trTree d l'), some (trTree d r')) := by
  simp only [TransSl.ArrayMetaDataSlab_rebalanceChildren.k1, Option.isSome_none, Bool.false_eq_true, if_false,
    disp_Header_any, trHdr_count, trMeta_childrenHeaders, trMeta_childrenCountSum, goSet_map, hli', List.length_set, hri,
    if_true, u32_add_eq, hli, hst.storeSlab_tree, hst.storeSlab_meta]
  rfl

/-- `rebalanceChildren` over any environment whose `Store` does not fail (the index slab does not depend on `c`) -/
theorem rebalanceChildren_any (hst : StoreOK env) (T : Nat) {d : Nat} (m : MetaSlab (ATree d)) (left right : ATree d)
    (li ri : Nat) (flag : Bool) (s : S) (c : Ctx) (hop : RebalAgreesOn env T d left right flag)
    (hli : li < m.countSum.length) (hli' : li < m.childHdrs.length) (hri : ri < m.childHdrs.length)
    (hbase : (ATree.hdr d left).count ≤ m.countSum.getD li 0) :
    TransSl.ArrayMetaDataSlab_rebalanceChildren env (trMeta m) s (some (trTree d left)) (some (trTree d right))
        (Int.ofNat li) (Int.ofNat ri) flag =
      some (none, trMeta (m.rebalanceChildren T left right li ri flag c).1, rebalStore env T m left right li ri flag s c,
            some (trTree d (rebalOp T d left right flag).1), some (trTree d (rebalOp T d left right flag).2)) := by
  unfold RebalAgreesOn at hop
  have hget : m.countSum[li]? = some (m.countSum.getD li 0) := by
    simp [List.getD_eq_getElem?_getD, List.getElem?_eq_getElem hli]
  have hk := rebalance_k1_any env hst m (rebalOp T d left right flag).1 (rebalOp T d left right flag).2 li ri
    (m.countSum.getD li 0 - (ATree.hdr d left).count) s hli hli' hri
  cases flag
  all_goals
    simp only [Bool.false_eq_true, if_false, if_true] at hop
    simp only [TransSl.ArrayMetaDataSlab_rebalanceChildren, trMeta_childrenCountSum, goIdx_map, hget, Option.map_some,
      hop, Bool.false_eq_true, if_false, if_true, disp_Header_any, trHdr_count, u32_sub_eq hbase, hk]
    rfl

/-- the effects of the model's `rebalanceChildren` are those three stores -/
theorem rebalStore_ctx {ctx : S → Ctx} (hctx : CtxOf env ctx) (T : Nat) {d : Nat} (m : MetaSlab (ATree d)) (left right : ATree d) (li ri : Nat) (flag : Bool) (s : S) (c : Ctx) :
    ctx (rebalStore env T m left right li ri flag s c) = (m.rebalanceChildren T left right li ri flag (ctx s)).2 := by
  simp only [rebalStore, hctx.store]
  cases flag <;> rfl

end anyEnv

/-- `RebalAgreesOn` at `envA T look` -/
def RebalAgrees (T : Nat) (look : SlabID → Option GSlab) (d : Nat) (l r : ATree d) (flag : Bool) : Prop :=
  (if flag then TransSl.ArraySlab_BorrowFromRight (envA T look) (trTree d l) (some (trTree d r))
   else TransSl.ArraySlab_LendToRight (envA T look) (trTree d l) (some (trTree d r))) =
    some (none, trTree d (rebalOp T d l r flag).1, some (trTree d (rebalOp T d l r flag).2))

theorem Sl_rebalanceChildren_eq_model (T : Nat) (look) {d : Nat} (m : MetaSlab (ATree d)) (left right : ATree d)
    (li ri : Nat) (flag : Bool) (c : Ctx) (hop : RebalAgrees T look d left right flag)
    (hli : li < m.countSum.length) (hli' : li < m.childHdrs.length) (hri : ri < m.childHdrs.length)
    (hbase : (ATree.hdr d left).count ≤ m.countSum.getD li 0) :
    TransSl.ArrayMetaDataSlab_rebalanceChildren (envA T look) (trMeta m) c (some (trTree d left)) (some (trTree d right))
        (Int.ofNat li) (Int.ofNat ri) flag =
      some (none, trMeta (m.rebalanceChildren T left right li ri flag c).1, (m.rebalanceChildren T left right li ri flag c).2,
            some (trTree d (rebalOp T d left right flag).1), some (trTree d (rebalOp T d left right flag).2)) := by
  have h : rebalStore (envA T look) T m left right li ri flag c c = (m.rebalanceChildren T left right li ri flag c).2 :=
    rebalStore_ctx (envA T look) (ctxOf_envA T look) T m left right li ri flag c c
  rw [← h]
  exact rebalanceChildren_any (envA T look) (storeOK_envA T look) T m left right li ri flag c c hop hli hli' hri hbase

section anyEnv
variable {S W : Type} (env : TransSl.Env Elem Elem Unit AErr S W)

/-- `updateChildrenHeadersAfterMerge(h, li, ri)`: header `li` replaced by the merged header, header `ri` deleted; count sum
    `li` takes the value of count sum `ri`, which is deleted.  Out-of-range indexes are a Go panic. -/
theorem updateChildrenHeadersAfterMerge_any {α : Type} (m : MetaSlab α) (h : Hdr) (li ri : Nat)
    (hli : li < m.childHdrs.length) (hri : ri < m.childHdrs.length)
    (hli' : li < m.countSum.length) (hri' : ri < m.countSum.length) :
    TransSl.ArrayMetaDataSlab_updateChildrenHeadersAfterMerge env (trMeta m) (trHdr h) (Int.ofNat li) (Int.ofNat ri) =
      some { trMeta m with childrenHeaders := ((m.childHdrs.set li h).eraseIdx ri).map trHdr,
                           childrenCountSum := ((m.countSum.set li (m.countSum.getD ri 0)).eraseIdx ri).map u32 } := by
  have hget : m.countSum[ri]? = some (m.countSum.getD ri 0) := by
    simp [List.getD_eq_getElem?_getD, List.getElem?_eq_getElem hri']
  simp only [TransSl.ArrayMetaDataSlab_updateChildrenHeadersAfterMerge, trMeta_childrenHeaders, goSet_map, hli, if_true,
    ofNat_succ', goDelete_map_one, List.length_set, show ri + 1 ≤ m.childHdrs.length from hri, trMeta_childrenCountSum,
    goIdx_map, hget, Option.map_some, hli', show ri + 1 ≤ m.countSum.length from hri']

/-- what the dispatched `Merge` must return: the merged left slab, and SOME right slab that still has its identifier
    (Go's `merge` clears the right slice and leaves the rest of the right slab alone) -/
def MergeAgreesOn (d : Nat) (l r : ATree d) : Prop :=
  ∃ r' : GSlab, TransSl.ArraySlab_SlabID env r' = (ATree.hdr d r).id ∧
    TransSl.ArraySlab_Merge env (trTree d l) (some (trTree d r)) =
      some (none, trTree d (ATree.merge d l r), some r')

/-- the storage after `mergeChildren`: store merged, store the index slab, remove right -/
def mergeStore {d : Nat} (m : MetaSlab (ATree d)) (left right : ATree d) (li ri : Nat) (s : S) (c : Ctx) : S :=
  removed env (stored env (stored env s
      (ATree.hdr d (ATree.merge d left right)).id (some (trTree d (ATree.merge d left right))))
      m.hdr.id (some (.metaSlab (trMeta (m.mergeChildren left right li ri c).1)))) (ATree.hdr d right).id

theorem mergeStore_ctx {ctx : S → Ctx} (hctx : CtxOf env ctx) {d : Nat} (m : MetaSlab (ATree d)) (left right : ATree d)
    (li ri : Nat) (s : S) (c : Ctx) :
    ctx (mergeStore env m left right li ri s c) = (m.mergeChildren left right li ri (ctx s)).2 := by
  simp only [mergeStore, hctx.store, hctx.remove]
  rfl

/-- `mergeChildren` over any environment whose `Store` and `Remove` do not fail; `r'` is what `Merge` leaves of the
    right slab -/
theorem mergeChildren_any (hst : StoreOK env) {d : Nat} (m : MetaSlab (ATree d)) (left right : ATree d)
    (li ri : Nat) (s : S) (c : Ctx) (r' : GSlab)
    (hid : TransSl.ArraySlab_SlabID env r' = (ATree.hdr d right).id)
    (hop : TransSl.ArraySlab_Merge env (trTree d left) (some (trTree d right)) =
      some (none, trTree d (ATree.merge d left right), some r'))
    (hli : li < m.childHdrs.length) (hri : ri < m.childHdrs.length)
    (hli' : li < m.countSum.length) (hri' : ri < m.countSum.length)
    (hsz : arraySlabHeaderSize ≤ m.hdr.size) :
    TransSl.ArrayMetaDataSlab_mergeChildren env (trMeta m) s (some (trTree d left)) (some (trTree d right))
        (Int.ofNat li) (Int.ofNat ri) =
      some (none, trMeta (m.mergeChildren left right li ri c).1, mergeStore env m left right li ri s c,
            some (trTree d (ATree.merge d left right)), some r') := by
  have hupd := updateChildrenHeadersAfterMerge_any env m (ATree.hdr d (ATree.merge d left right)) li ri hli hri hli' hri'
  simp only [TransSl.ArrayMetaDataSlab_mergeChildren, hop, Option.isSome_none, Bool.false_eq_true, if_false, disp_Header_any,
    hupd, hst.storeSlab_tree, hst.storeSlab_meta, hid, hst.remove_eq, hst.wrap, MetaSlab.mergeChildren, mergeStore]
  have e14 : UInt32.ofNat arraySlabHeaderSize = u32 arraySlabHeaderSize := rfl
  rw [trMeta_header, trHdr_size, e14, u32_sub_eq hsz]
  rfl

end anyEnv

theorem Sl_updateChildrenHeadersAfterMerge_spec (T : Nat) (look) {α : Type} (m : MetaSlab α) (h : Hdr) (li ri : Nat)
    (hli : li < m.childHdrs.length) (hri : ri < m.childHdrs.length)
    (hli' : li < m.countSum.length) (hri' : ri < m.countSum.length) :
    TransSl.ArrayMetaDataSlab_updateChildrenHeadersAfterMerge (envA T look) (trMeta m) (trHdr h) (Int.ofNat li) (Int.ofNat ri) =
      some { trMeta m with childrenHeaders := ((m.childHdrs.set li h).eraseIdx ri).map trHdr,
                           childrenCountSum := ((m.countSum.set li (m.countSum.getD ri 0)).eraseIdx ri).map u32 } :=
  updateChildrenHeadersAfterMerge_any _ m h li ri hli hri hli' hri'

/-- `MergeAgreesOn` at `envA T look` -/
def MergeAgrees (T : Nat) (look : SlabID → Option GSlab) (d : Nat) (l r : ATree d) : Prop :=
  ∃ r' : GSlab, TransSl.ArraySlab_SlabID (envA T look) r' = (ATree.hdr d r).id ∧
    TransSl.ArraySlab_Merge (envA T look) (trTree d l) (some (trTree d r)) =
      some (none, trTree d (ATree.merge d l r), some r')

theorem Sl_mergeChildren_eq_model (T : Nat) (look) {d : Nat} (m : MetaSlab (ATree d)) (left right : ATree d)
    (li ri : Nat) (c : Ctx) (hop : MergeAgrees T look d left right)
    (hli : li < m.childHdrs.length) (hri : ri < m.childHdrs.length)
    (hli' : li < m.countSum.length) (hri' : ri < m.countSum.length)
    (hsz : arraySlabHeaderSize ≤ m.hdr.size) :
    ∃ r' : GSlab, TransSl.ArraySlab_SlabID (envA T look) r' = (ATree.hdr d right).id ∧
    TransSl.ArrayMetaDataSlab_mergeChildren (envA T look) (trMeta m) c (some (trTree d left)) (some (trTree d right))
        (Int.ofNat li) (Int.ofNat ri) =
      some (none, trMeta (m.mergeChildren left right li ri c).1, (m.mergeChildren left right li ri c).2,
            some (trTree d (ATree.merge d left right)), some r') := by
  obtain ⟨r', hid, hop⟩ := hop
  exact ⟨r', hid, mergeChildren_any _ (storeOK_envA T look) m left right li ri c c r' hid hop hli hri hli' hri' hsz⟩

/-- the decision table of the model's `mergeOrRebalanceChildSlab`, as a function of the two siblings -/
def morTable (T : Nat) {d : Nat} (m : MetaSlab (ATree d)) (child : ATree d) (k underflow : Nat) (c : Ctx)
    (leftSib rightSib : Option (ATree d)) : Except AErr (MetaSlab (ATree d) × Ctx) :=
  let leftCanLend := match leftSib with | some l => ATree.canLendToRight T d l underflow | none => false
  let rightCanLend := match rightSib with | some r => ATree.canLendToLeft T d r underflow | none => false
  if leftCanLend || rightCanLend then
    match leftSib, rightSib with
    | some l, some r =>
      if !leftCanLend then .ok (m.rebalanceChildren T child r k (k + 1) true c)
      else if !rightCanLend then .ok (m.rebalanceChildren T l child (k - 1) k false c)
      else if (ATree.hdr d l).size > (ATree.hdr d r).size then .ok (m.rebalanceChildren T l child (k - 1) k false c)
      else .ok (m.rebalanceChildren T child r k (k + 1) true c)
    | some l, none => .ok (m.rebalanceChildren T l child (k - 1) k false c)
    | none, some r => .ok (m.rebalanceChildren T child r k (k + 1) true c)
    | none, none => .error .goPanic
  else
    match leftSib, rightSib with
    | none, some r => .ok (m.mergeChildren child r k (k + 1) c)
    | some l, none => .ok (m.mergeChildren l child (k - 1) k c)
    | some l, some r =>
      if (ATree.hdr d l).size < (ATree.hdr d r).size then .ok (m.mergeChildren l child (k - 1) k c)
      else .ok (m.mergeChildren child r k (k + 1) c)
    | none, none => .error .goPanic

/-- the siblings the model selects -/
abbrev morLeftSib {d : Nat} (m : MetaSlab (ATree d)) (k : Nat) : Option (ATree d) :=
  if k > 0 then m.children[k - 1]? else none
abbrev morRightSib {d : Nat} (m : MetaSlab (ATree d)) (k : Nat) : Option (ATree d) :=
  if k + 1 < m.childHdrs.length then m.children[k + 1]? else none

theorem mor_eq_table (T : Nat) {d : Nat} (m : MetaSlab (ATree d)) (child : ATree d) (k u : Nat) (c : Ctx) :
    m.mergeOrRebalanceChildSlab T child k u c =
      morTable T m child k u c (if k > 0 then m.children[k - 1]? else none)
        (if k + 1 < m.childHdrs.length then m.children[k + 1]? else none) := rfl

section anyEnv
variable {S W : Type} (env : TransSl.Env Elem Elem Unit AErr S W)

/-- the storage after `MergeOrRebalanceChildSlab`, by the case of the decision table taken (mirrors `morTable`) -/
def morStore (T : Nat) {d : Nat} (m : MetaSlab (ATree d)) (child : ATree d) (k underflow : Nat) (s : S) (c : Ctx)
    (leftSib rightSib : Option (ATree d)) : S :=
  let leftCanLend := match leftSib with | some l => ATree.canLendToRight T d l underflow | none => false
  let rightCanLend := match rightSib with | some r => ATree.canLendToLeft T d r underflow | none => false
  if leftCanLend || rightCanLend then
    match leftSib, rightSib with
    | some l, some r =>
      if !leftCanLend then rebalStore env T m child r k (k + 1) true s c
      else if !rightCanLend then rebalStore env T m l child (k - 1) k false s c
      else if (ATree.hdr d l).size > (ATree.hdr d r).size then rebalStore env T m l child (k - 1) k false s c
      else rebalStore env T m child r k (k + 1) true s c
    | some l, none => rebalStore env T m l child (k - 1) k false s c
    | none, some r => rebalStore env T m child r k (k + 1) true s c
    | none, none => s
  else
    match leftSib, rightSib with
    | none, some r => mergeStore env m child r k (k + 1) s c
    | some l, none => mergeStore env m l child (k - 1) k s c
    | some l, some r =>
      if (ATree.hdr d l).size < (ATree.hdr d r).size then mergeStore env m l child (k - 1) k s c
      else mergeStore env m child r k (k + 1) s c
    | none, none => s

/-- what `MergeOrRebalanceChildSlab` needs from its children: the dispatched operations on the siblings it can select agree
    with the model, and the index slab's bookkeeping is in range -/
structure MorPreOn (T : Nat) {d : Nat} (m : MetaSlab (ATree d)) (child : ATree d)
    (k u : Nat) (lsib rsib : Option (ATree d)) : Prop where
  hk : k < m.childHdrs.length
  hlen : m.countSum.length = m.childHdrs.length
  hsz : arraySlabHeaderSize ≤ m.hdr.size
  posL : ∀ l, lsib = some l → 0 < k
  posR : ∀ r, rsib = some r → k + 1 < m.childHdrs.length
  lendL : ∀ l, lsib = some l →
    TransSl.ArraySlab_CanLendToRight env (trTree d l) (u32 u) = some (ATree.canLendToRight T d l u)
  lendR : ∀ r, rsib = some r →
    TransSl.ArraySlab_CanLendToLeft env (trTree d r) (u32 u) = some (ATree.canLendToLeft T d r u)
  szL : ∀ l, lsib = some l → (ATree.hdr d l).size < 2^32
  szR : ∀ r, rsib = some r → (ATree.hdr d r).size < 2^32
  rebR : ∀ r, rsib = some r → RebalAgreesOn env T d child r true ∧ (ATree.hdr d child).count ≤ m.countSum.getD k 0
  rebL : ∀ l, lsib = some l → RebalAgreesOn env T d l child false ∧ (ATree.hdr d l).count ≤ m.countSum.getD (k - 1) 0
  mrgR : ∀ r, rsib = some r → MergeAgreesOn env d child r
  mrgL : ∀ l, lsib = some l → MergeAgreesOn env d l child

/-- the hypotheses are about functions that do not take the storage -/
theorem MorPreOn.same {S' W' : Type} {env' : TransSl.Env Elem Elem Unit AErr S' W'} (h : SameSizes env' env)
    {T : Nat} {d : Nat} {m : MetaSlab (ATree d)} {child : ATree d} {k u : Nat} {lsib rsib : Option (ATree d)}
    (hp : MorPreOn env T m child k u lsib rsib) : MorPreOn env' T m child k u lsib rsib where
  hk := hp.hk
  hlen := hp.hlen
  hsz := hp.hsz
  posL := hp.posL
  posR := hp.posR
  lendL := fun l e => (CanLendToRight_same h _ _ _).trans (hp.lendL l e)
  lendR := fun r e => (CanLendToLeft_same h _ _ _).trans (hp.lendR r e)
  szL := hp.szL
  szR := hp.szR
  rebR := fun r e => ⟨by
    have := (hp.rebR r e).1
    unfold RebalAgreesOn at this ⊢
    rwa [BorrowFromRight_same h, LendToRight_same h], (hp.rebR r e).2⟩
  rebL := fun l e => ⟨by
    have := (hp.rebL l e).1
    unfold RebalAgreesOn at this ⊢
    rwa [BorrowFromRight_same h, LendToRight_same h], (hp.rebL l e).2⟩
  mrgR := fun r e => (hp.mrgR r e).imp fun _ x => ⟨x.1, (Merge_same _ _).trans x.2⟩
  mrgL := fun l e => (hp.mrgL l e).imp fun _ x => ⟨x.1, (Merge_same _ _).trans x.2⟩

/-- `x.Merge(nil)`: the type assertion on the nil interface panics -/
theorem disp_Merge_nil_any (v : GSlab) : TransSl.ArraySlab_Merge env v none = none := by
  cases v with
  | dataSlab a => simp [TransSl.ArraySlab_Merge, TransSl.ArrayDataSlab_Merge]
  | metaSlab a =>
    have h : TransSl.ArrayMetaDataSlab_Merge env a none = none := by
      simp only [TransSl.ArrayMetaDataSlab_Merge]
      split <;> rfl
    simp [TransSl.ArraySlab_Merge, h]

/-- the join point of `MergeOrRebalanceChildSlab` on the translated siblings, over any environment whose `Store` and
    `Remove` do not fail: the index slab of the model's table, the storage `morStore`, whose `Ctx` is the model's -/
theorem mor_k1_any (hst : StoreOK env) {ctx : S → Ctx} (hctx : CtxOf env ctx) (T : Nat) {d : Nat}
    (m : MetaSlab (ATree d)) (child : ATree d) (k u : Nat) (s : S)
    (lsib rsib : Option (ATree d)) (hp : MorPreOn env T m child k u lsib rsib) :
    match morTable T m child k u (ctx s) lsib rsib with
    | .ok (m', c') => (∃ child', TransSl.ArrayMetaDataSlab_MergeOrRebalanceChildSlab.k1 env (trMeta m) s
        (some (trTree d child)) (Int.ofNat k) (u32 u) (lsib.map (trTree d)) (rsib.map (trTree d)) =
          some (none, trMeta m', morStore env T m child k u s (ctx s) lsib rsib, child')) ∧
        ctx (morStore env T m child k u s (ctx s) lsib rsib) = c'
    | .error _ => TransSl.ArrayMetaDataSlab_MergeOrRebalanceChildSlab.k1 env (trMeta m) s
        (some (trTree d child)) (Int.ofNat k) (u32 u) (lsib.map (trTree d)) (rsib.map (trTree d)) = none := by
  have hkc : k < m.countSum.length := by rw [hp.hlen]; exact hp.hk
  have hRc := rebalStore_ctx env hctx T m
  have hMc := mergeStore_ctx env hctx m
  cases lsib with
  | none =>
    cases rsib with
    | none =>
      simp [morTable, TransSl.ArrayMetaDataSlab_MergeOrRebalanceChildSlab.k1, TransSl.ArrayMetaDataSlab_mergeChildren,
        disp_Merge_nil_any]
    | some r =>
      obtain ⟨hreb, hbase⟩ := hp.rebR r rfl
      have hr1 := hp.posR r rfl
      have hrc : k + 1 < m.countSum.length := by rw [hp.hlen]; exact hr1
      have hR := rebalanceChildren_any env hst T m child r k (k + 1) true s (ctx s) hreb hkc hp.hk hr1 hbase
      obtain ⟨r', hid, hM⟩ := hp.mrgR r rfl
      have hM := mergeChildren_any env hst m child r k (k + 1) s (ctx s) r' hid hM hp.hk hr1 hkc hrc hp.hsz
      simp only [morTable, morStore, TransSl.ArrayMetaDataSlab_MergeOrRebalanceChildSlab.k1, Option.map_none, Option.map_some,
        Option.isSome_none, Option.isSome_some, Option.isNone_none, Bool.false_eq_true, if_false, if_true, hp.lendR r rfl,
        Bool.false_or, ofNat_succ', hR, hM]
      cases hc : ATree.canLendToLeft T d r u <;> simp [hRc, hMc]
  | some l =>
    obtain ⟨hrebL, hbaseL⟩ := hp.rebL l rfl
    have hl0 := hp.posL l rfl
    have hl1 : k - 1 < m.childHdrs.length := by have := hp.hk; omega
    have hlc : k - 1 < m.countSum.length := by rw [hp.hlen]; exact hl1
    have hRL := rebalanceChildren_any env hst T m l child (k - 1) k false s (ctx s) hrebL hlc hl1 hp.hk hbaseL
    obtain ⟨l', hidL, hML⟩ := hp.mrgL l rfl
    have hML := mergeChildren_any env hst m l child (k - 1) k s (ctx s) l' hidL hML hl1 hp.hk hlc hkc hp.hsz
    cases rsib with
    | none =>
      simp only [morTable, morStore, TransSl.ArrayMetaDataSlab_MergeOrRebalanceChildSlab.k1, Option.map_none, Option.map_some,
        Option.isSome_none, Option.isSome_some, Option.isNone_none, Option.isNone_some, Bool.false_eq_true, if_false, if_true,
        hp.lendL l rfl, Bool.or_false, ofNat_pred' k hl0, hRL, hML]
      cases hc : ATree.canLendToRight T d l u <;> simp [hRc, hMc]
    | some r =>
      obtain ⟨hreb, hbase⟩ := hp.rebR r rfl
      have hr1 := hp.posR r rfl
      have hrc : k + 1 < m.countSum.length := by rw [hp.hlen]; exact hr1
      have hR := rebalanceChildren_any env hst T m child r k (k + 1) true s (ctx s) hreb hkc hp.hk hr1 hbase
      obtain ⟨r', hid, hM⟩ := hp.mrgR r rfl
      have hM := mergeChildren_any env hst m child r k (k + 1) s (ctx s) r' hid hM hp.hk hr1 hkc hrc hp.hsz
      have hgt : decide (u32 (ATree.hdr d l).size > u32 (ATree.hdr d r).size) =
          decide ((ATree.hdr d l).size > (ATree.hdr d r).size) := u32_dgt (hp.szL l rfl) (hp.szR r rfl)
      have hlt : decide (u32 (ATree.hdr d l).size < u32 (ATree.hdr d r).size) =
          decide ((ATree.hdr d l).size < (ATree.hdr d r).size) := u32_dlt (hp.szL l rfl) (hp.szR r rfl)
      simp only [morTable, morStore, TransSl.ArrayMetaDataSlab_MergeOrRebalanceChildSlab.k1, Option.map_some,
        Option.isSome_some, Option.isNone_some, Bool.false_eq_true, if_false,
        if_true, hp.lendL l rfl, hp.lendR r rfl, ofNat_pred' k hl0, ofNat_succ', hRL, hML, hR, hM, disp_ByteSize_any,
        hgt, hlt]
      rcases Bool.eq_false_or_eq_true (ATree.canLendToRight T d l u) with hcl | hcl <;>
      rcases Bool.eq_false_or_eq_true (ATree.canLendToLeft T d r u) with hcr | hcr <;>
        simp only [hcl, hcr, Bool.or_false, Bool.or_true, Bool.not_false, Bool.not_true, Bool.false_eq_true, if_false, if_true,
          decide_eq_true_eq, Bool.or_self]
      · by_cases h : (ATree.hdr d l).size > (ATree.hdr d r).size <;> simp [h, hRc]
      · simp [hRc]
      · simp [hRc]
      · by_cases h : (ATree.hdr d l).size < (ATree.hdr d r).size <;> simp [h, hMc]

/-- `MergeOrRebalanceChildSlab(storage, child, k, underflowSize)`: the siblings are fetched by the identifiers in
    `childrenHeaders[k∓1]` (`hgetL`, `hgetR`: `getArraySlab` returns the model's children and leaves the storage alone),
    then the join point. -/
theorem MergeOrRebalanceChildSlab_any {d : Nat} (m : MetaSlab (ATree d)) (child : ATree d) (k : Nat) (u : UInt32) (s : S)
    (hgetL : k > 0 → ∃ h l, m.childHdrs[k - 1]? = some h ∧ m.children[k - 1]? = some l ∧
      env.getArraySlab s h.id = (some (trTree d l), none, s))
    (hgetR : k + 1 < m.childHdrs.length →
      ∃ h r, m.childHdrs[k + 1]? = some h ∧ m.children[k + 1]? = some r ∧
        env.getArraySlab s h.id = (some (trTree d r), none, s)) :
    TransSl.ArrayMetaDataSlab_MergeOrRebalanceChildSlab env (trMeta m) s (some (trTree d child)) (Int.ofNat k) u =
      TransSl.ArrayMetaDataSlab_MergeOrRebalanceChildSlab.k1 env (trMeta m) s (some (trTree d child)) (Int.ofNat k) u
        ((morLeftSib m k).map (trTree d)) ((morRightSib m k).map (trTree d)) := by
  have hd0 : decide (Int.ofNat k > (0 : Int)) = decide (k > 0) := by
    have : (Int.ofNat k > (0 : Int)) ↔ k > 0 := by simp
    exact decide_eq_decide.mpr this
  have hd1 : decide (Int.ofNat k < Int.ofNat (trMeta m).childrenHeaders.length - 1) = decide (k + 1 < m.childHdrs.length) := by
    have : (Int.ofNat k < Int.ofNat (trMeta m).childrenHeaders.length - 1) ↔ k + 1 < m.childHdrs.length := by
      simp only [trMeta_childrenHeaders, List.length_map, Int.ofNat_eq_natCast]
      constructor <;> intro hh <;> omega
    exact decide_eq_decide.mpr this
  have hk2 : ∀ ls : Option GSlab,
      TransSl.ArrayMetaDataSlab_MergeOrRebalanceChildSlab.k2 env (trMeta m) s (some (trTree d child))
        (Int.ofNat k) u ls none =
      TransSl.ArrayMetaDataSlab_MergeOrRebalanceChildSlab.k1 env (trMeta m) s (some (trTree d child))
        (Int.ofNat k) u ls ((morRightSib m k).map (trTree d)) := by
    intro ls
    simp only [TransSl.ArrayMetaDataSlab_MergeOrRebalanceChildSlab.k2]
    rw [hd1]
    simp only [trMeta_childrenHeaders, morRightSib]
    by_cases h1 : k + 1 < m.childHdrs.length
    · obtain ⟨h, r, hh, hr, hl⟩ := hgetR h1
      simp only [h1, decide_true, if_true, ofNat_succ', goIdx_map, hh, Option.map_some,
        trHdr_slabID, hl, Option.isSome_none, Bool.false_eq_true, if_false, hr]
    · simp only [h1, decide_false, Bool.false_eq_true, if_false, Option.map_none]
  simp only [TransSl.ArrayMetaDataSlab_MergeOrRebalanceChildSlab]
  rw [hd0]
  simp only [trMeta_childrenHeaders, morLeftSib]
  by_cases h0 : k > 0
  · obtain ⟨h, l, hh, hl, hlk⟩ := hgetL h0
    simp only [h0, decide_true, if_true, ofNat_pred' k h0, goIdx_map, hh, Option.map_some,
      trHdr_slabID, hlk, Option.isSome_none, Bool.false_eq_true, if_false, hl, hk2]
  · simp only [h0, decide_false, Bool.false_eq_true, if_false, Option.map_none, hk2]

end anyEnv

/-- `MorPreOn` at `envA T look` (`MorPre.on`) -/
structure MorPre (T : Nat) (look : SlabID → Option GSlab) {d : Nat} (m : MetaSlab (ATree d)) (child : ATree d)
    (k u : Nat) (lsib rsib : Option (ATree d)) : Prop where
  hk : k < m.childHdrs.length
  hlen : m.countSum.length = m.childHdrs.length
  hsz : arraySlabHeaderSize ≤ m.hdr.size
  posL : ∀ l, lsib = some l → 0 < k
  posR : ∀ r, rsib = some r → k + 1 < m.childHdrs.length
  lendL : ∀ l, lsib = some l →
    TransSl.ArraySlab_CanLendToRight (envA T look) (trTree d l) (u32 u) = some (ATree.canLendToRight T d l u)
  lendR : ∀ r, rsib = some r →
    TransSl.ArraySlab_CanLendToLeft (envA T look) (trTree d r) (u32 u) = some (ATree.canLendToLeft T d r u)
  szL : ∀ l, lsib = some l → (ATree.hdr d l).size < 2^32
  szR : ∀ r, rsib = some r → (ATree.hdr d r).size < 2^32
  rebR : ∀ r, rsib = some r → RebalAgrees T look d child r true ∧ (ATree.hdr d child).count ≤ m.countSum.getD k 0
  rebL : ∀ l, lsib = some l → RebalAgrees T look d l child false ∧ (ATree.hdr d l).count ≤ m.countSum.getD (k - 1) 0
  mrgR : ∀ r, rsib = some r → MergeAgrees T look d child r
  mrgL : ∀ l, lsib = some l → MergeAgrees T look d l child

theorem MorPre.on {T : Nat} {look : SlabID → Option GSlab} {d : Nat} {m : MetaSlab (ATree d)} {child : ATree d}
    {k u : Nat} {lsib rsib : Option (ATree d)} (hp : MorPre T look m child k u lsib rsib) :
    MorPreOn (envA T look) T m child k u lsib rsib :=
  ⟨hp.hk, hp.hlen, hp.hsz, hp.posL, hp.posR, hp.lendL, hp.lendR, hp.szL, hp.szR, hp.rebR, hp.rebL, hp.mrgR, hp.mrgL⟩

/-- `disp_Merge_nil_any` at `envA T look` -/
theorem disp_Merge_nil (T : Nat) (look) (v : GSlab) : TransSl.ArraySlab_Merge (envA T look) v none = none :=
  disp_Merge_nil_any _ v

theorem Sl_mor_k1 (T : Nat) (look) {d : Nat} (m : MetaSlab (ATree d)) (child : ATree d) (k u : Nat) (c : Ctx)
    (lsib rsib : Option (ATree d)) (hp : MorPre T look m child k u lsib rsib) :
    match morTable T m child k u c lsib rsib with
    | .ok (m', c') => ∃ child', TransSl.ArrayMetaDataSlab_MergeOrRebalanceChildSlab.k1 (envA T look) (trMeta m) c
        (some (trTree d child)) (Int.ofNat k) (u32 u) (lsib.map (trTree d)) (rsib.map (trTree d)) =
          some (none, trMeta m', c', child')
    | .error _ => TransSl.ArrayMetaDataSlab_MergeOrRebalanceChildSlab.k1 (envA T look) (trMeta m) c
        (some (trTree d child)) (Int.ofNat k) (u32 u) (lsib.map (trTree d)) (rsib.map (trTree d)) = none := by
  have h := mor_k1_any (envA T look) (storeOK_envA T look) (ctxOf_envA T look) T m child k u c lsib rsib hp.on
  cases hm : morTable T m child k u c lsib rsib with
  | error e => rw [show morTable T m child k u (id c) lsib rsib = .error e from hm] at h; exact h
  | ok res =>
    rw [show morTable T m child k u (id c) lsib rsib = .ok res from hm] at h
    obtain ⟨⟨ch, h1⟩, h2⟩ := h
    exact ⟨ch, by rw [h1]; exact congrArg (fun x => some (none, trMeta res.1, x, ch)) h2⟩

/-- `MergeOrRebalanceChildSlab(storage, child, k, underflowSize)`: the siblings are fetched by the identifiers in
    `childrenHeaders[k∓1]` (`hlookL`, `hlookR`: the storage returns the model's children - sibling slabs exist), then the
    3 x 3 table: the result is the model's index slab, the model's store / remove effects in the model's order, no error;
    with no sibling at all both sides panic.  `child'` is the Go state of the child afterwards. -/
theorem Sl_MergeOrRebalanceChildSlab_eq_model (T : Nat) (look) {d : Nat} (m : MetaSlab (ATree d)) (child : ATree d)
    (k u : Nat) (c : Ctx)
    (hp : MorPre T look m child k u (if k > 0 then m.children[k - 1]? else none)
      (if k + 1 < m.childHdrs.length then m.children[k + 1]? else none))
    (hlookL : k > 0 → ∃ h l, m.childHdrs[k - 1]? = some h ∧ m.children[k - 1]? = some l ∧ look h.id = some (trTree d l))
    (hlookR : k + 1 < m.childHdrs.length →
      ∃ h r, m.childHdrs[k + 1]? = some h ∧ m.children[k + 1]? = some r ∧ look h.id = some (trTree d r)) :
    match m.mergeOrRebalanceChildSlab T child k u c with
    | .ok (m', c') => ∃ child', TransSl.ArrayMetaDataSlab_MergeOrRebalanceChildSlab (envA T look) (trMeta m) c
        (some (trTree d child)) (Int.ofNat k) (u32 u) = some (none, trMeta m', c', child')
    | .error _ => TransSl.ArrayMetaDataSlab_MergeOrRebalanceChildSlab (envA T look) (trMeta m) c
        (some (trTree d child)) (Int.ofNat k) (u32 u) = none := by
  rw [mor_eq_table, MergeOrRebalanceChildSlab_any (envA T look) m child k (u32 u) c
    (fun h0 => let ⟨h, l, a, b, e⟩ := hlookL h0; ⟨h, l, a, b, by rw [envA_getArraySlab, e]⟩)
    (fun h1 => let ⟨h, r, a, b, e⟩ := hlookR h1; ⟨h, r, a, b, by rw [envA_getArraySlab, e]⟩)]
  exact Sl_mor_k1 T look m child k u c _ _ hp

end Atree.TransEq

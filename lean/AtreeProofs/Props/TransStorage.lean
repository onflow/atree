import AtreeProofs.Trans.Storage
import AtreeProofs.Storage.Basic
import AtreeModel.StorageOps
import AtreeProofs.OrderLemmas
/-
  C15 / C03 / C08 / C14: the SEQUENTIAL part of `PersistentSlabStorage` (storage.go), REGENERATED from the Go
  source on every run (`Gen/TransStorage.lean`, harness/cmd/gotrans/stateful*.go), computes what the hand-written
  state machine `AtreeModel/Storage.lean` (namespace `Atree.St`) computes.

  Shape of the statements: for EVERY generated state `s` (no invariant), every identifier / slab / key list,
  every codec `c`, fault plan, `ByteSize` function and every choice `j` of the values Go leaves unspecified,

      generated function (envM c fault sz j) s args  =  (observation, conc (model function (abs s) args) n log)

  where `abs` / `conc` translate states (`Trans/Storage.lean`; `conc (abs s) n log = s`), the observation is
  spelled out in full (slab, found flag, error value), and the error value has the model's error class.
  The state after a failing call is part of the statement (Go mutates before it returns an error).

  The only hypotheses: `GenerateSlabID` for the temporary address needs `tempSlabIndex + 1 < 2^64` for the
  returned identifier (Go wraps, the model does not: `St_generateSlabID_differs_at`); the counters are equal
  modulo 2^64 (`uint` / `uint64` results).  Maps: `WF` (distinct keys) is preserved by every function
  (`St_wf_*`) and is needed by NO equivalence below; it is what makes `len` / `range` of the association
  list Go's.  The functions that range over a Go map are invariant under permutation of the association
  list (`*_order_insensitive`), `sortedOwnedDeltaKeys` because it sorts by a strict total order (the hypothesis
  `WF` of that theorem is not used).
-/
namespace Atree.TransEq
open Atree Atree.Gen.TransSt

/-- every whitelisted storage function was translated (none fell back to `Untranslatable`) -/
theorem all_translated_storage : untranslatedFunctions = [] := by decide

variable {σ β : Type} (c : Codec σ β) (fault : Nat → Bool) (sz : σ → UInt32) (j : Junk σ β)

/-- `Store(id, slab)` with a non-nil slab is the model's `store`; the rejected call leaves the state alone. -/
theorem St_store_eq_model (s : GSt σ β) (id : SlabID) (v : σ) :
    PersistentSlabStorage_Store (envM c fault sz j) s id (some v) =
      match (abs s).store id v with
      | .ok m' => (none, conc m' s.baseStorage.n s.baseStorage.log)
      | .error e => (some (GErr.ofSt e), s) := by
  unfold PersistentSlabStorage_Store St.store
  by_cases h : id = SlabID.undef
  · simp [h, envM, GErr.ofSt]
  · have h' : ¬ SlabID.undef = id := fun e => h e.symm
    cases s with
    | mk b cch d t => cases b; simp [h, h', conc, abs]

/-- `Store(id, nil)` records a deletion, exactly as `Remove(id)` does. -/
theorem St_store_nil_eq_remove (s : GSt σ β) (id : SlabID) :
    PersistentSlabStorage_Store (envM c fault sz j) s id none =
      PersistentSlabStorage_Remove (envM c fault sz j) s id := rfl

/-- `Remove(id)` is the model's `remove`. -/
theorem St_remove_eq_model (s : GSt σ β) (id : SlabID) :
    PersistentSlabStorage_Remove (envM c fault sz j) s id =
      match (abs s).remove id with
      | .ok m' => (none, conc m' s.baseStorage.n s.baseStorage.log)
      | .error e => (some (GErr.ofSt e), s) := by
  unfold PersistentSlabStorage_Remove St.remove
  by_cases h : id = SlabID.undef
  · simp [h, envM, GErr.ofSt]
  · have h' : ¬ SlabID.undef = id := fun e => h e.symm
    cases s with
    | mk b cch d t => cases b; simp [h, h', conc, abs]

/-- `RetrieveIgnoringDeltas(id, cache)`: cached entry (incl. the cached deletion: `found = false`), missing
    register (`nil, false, nil`), decoding error (`nil, true, err` - state untouched), cache fill iff `cache`. -/
theorem St_retrieveIgnoringDeltas_eq_model (s : GSt σ β) (id : SlabID) (doCache : Bool) :
    PersistentSlabStorage_RetrieveIgnoringDeltas (envM c fault sz j) s id doCache =
      match (abs s).retrieveIgnoringDeltas c id doCache with
      | .ok (v, m') => ((v, v.isSome, none), conc m' s.baseStorage.n s.baseStorage.log)
      | .error e => ((none, true, some (GErr.ofSt e)), s) := by
  unfold PersistentSlabStorage_RetrieveIgnoringDeltas St.retrieveIgnoringDeltas GoMap.get2
  rcases Option.eq_none_or_eq_some (AList.find? s.cache id) with hc | ⟨v, hc⟩
  · simp only [abs, hc, envM]
    rcases Option.eq_none_or_eq_some (AList.find? s.baseStorage.regs id) with hb | ⟨d, hb⟩
    · simp [hb]
    · simp only [hb]
      rcases Option.eq_none_or_eq_some (c.dec id d) with hd | ⟨v, hd⟩
      · simp [hd, GErr.ofSt]
      · cases doCache
        · simp [hd]
        · simp only [hd, Bool.false_eq_true, ↓reduceIte, Option.isSome_none, Bool.not_true, Option.isSome_some]
          conv => lhs; rw [← conc_abs s]
          simp [conc, abs]
  · simp [abs, hc]

/-- what the model does not have: a failing `BaseStorage.Retrieve` (ANY environment).  The result is
    `nil`, the `found` flag the base storage returned, and the wrapped error; only the base storage's own
    state changes. -/
theorem St_retrieveIgnoringDeltas_baseError {σ β B ε : Type} (env : PersistentSlabStorage_Env σ β B ε)
    (s : PersistentSlabStorage σ B) (id : SlabID) (doCache : Bool) (d : β) (ok : Bool) (e : ε) (b' : B)
    (hc : AList.find? s.cache id = none)
    (hb : env.BaseStorage_Retrieve s.baseStorage id = ((d, ok, some e), b')) :
    PersistentSlabStorage_RetrieveIgnoringDeltas env s id doCache =
      ((none, ok, env.wrapErrorfAsExternalErrorIfNeeded (some e)), { s with baseStorage := b' }) := by
  unfold PersistentSlabStorage_RetrieveIgnoringDeltas GoMap.get2
  simp [hc, hb]

/-- `Retrieve(id)`: pending entry first (a pending deletion is `nil, false, nil`), else
    `RetrieveIgnoringDeltas(id, true)` - the cache IS filled. -/
theorem St_retrieve_eq_model (s : GSt σ β) (id : SlabID) :
    PersistentSlabStorage_Retrieve (envM c fault sz j) s id =
      match (abs s).retrieve c id with
      | .ok (v, m') => ((v, v.isSome, none), conc m' s.baseStorage.n s.baseStorage.log)
      | .error e => ((none, true, some (GErr.ofSt e)), s) := by
  unfold PersistentSlabStorage_Retrieve St.retrieve GoMap.get2
  cases hd : AList.find? s.deltas id with
  | some v => simp [abs, hd]
  | none =>
    have h := St_retrieveIgnoringDeltas_eq_model c fault sz j s id true
    simp only [abs, hd] at h ⊢
    rw [h]
    rfl

/-- `RetrieveIfLoaded(id)`: deltas, then cache, never the base storage. -/
theorem St_retrieveIfLoaded_eq_model (s : GSt σ β) (id : SlabID) :
    PersistentSlabStorage_RetrieveIfLoaded (envM c fault sz j) s id = (abs s).retrieveIfLoaded id := by
  unfold PersistentSlabStorage_RetrieveIfLoaded St.retrieveIfLoaded GoMap.get2
  cases hd : AList.find? s.deltas id <;> cases hc : AList.find? s.cache id <;> simp [abs, hd, hc]

theorem St_dropDeltas_eq_model (s : GSt σ β) :
    PersistentSlabStorage_DropDeltas (envM c fault sz j) s =
      conc (abs s).dropDeltas s.baseStorage.n s.baseStorage.log := by
  conv => lhs; rw [← conc_abs s]
  simp [PersistentSlabStorage_DropDeltas, St.dropDeltas, conc, abs]

theorem St_dropCache_eq_model (s : GSt σ β) :
    PersistentSlabStorage_DropCache (envM c fault sz j) s =
      conc (abs s).dropCache s.baseStorage.n s.baseStorage.log := by
  conv => lhs; rw [← conc_abs s]
  simp [PersistentSlabStorage_DropCache, St.dropCache, conc, abs]

theorem uint64_ofNat_toNat_succ (x : UInt64) : UInt64.ofNat (x.toNat + 1) = x + 1 := by
  rw [UInt64.ofNat_add, UInt64.ofNat_toNat]; rfl

/-- `GenerateSlabID(address)`: the temporary address uses the storage's own counter, any other address the
    base storage's; never an error with this base storage.  The new STATE is the model's for every input
    (the wrap-around of `tempSlabIndex++` is what `conc` does to the model's counter); the returned
    IDENTIFIER is the model's unless the 64-bit counter wraps. -/
theorem St_generateSlabID_eq_model (s : GSt σ β) (addr : Nat)
    (h : addr = 0 → s.tempSlabIndex.toNat + 1 < 2 ^ 64) :
    PersistentSlabStorage_GenerateSlabID (envM c fault sz j) s addr =
      ((((abs s).generateSlabID addr).1, none),
        conc ((abs s).generateSlabID addr).2 s.baseStorage.n s.baseStorage.log) := by
  unfold PersistentSlabStorage_GenerateSlabID St.generateSlabID
  by_cases ha : addr = 0
  · have h' := h ha
    subst ha
    have h1 : (s.tempSlabIndex + 1).toNat = s.tempSlabIndex.toNat + 1 := by
      rw [UInt64.toNat_add]
      simp only [UInt64.reduceToNat]
      exact Nat.mod_eq_of_lt h'
    cases s with
    | mk b cch d t => cases b; simp [conc, abs, h1, uint64_ofNat_toNat_succ]
  · cases s with
    | mk b cch d t => cases b; simp [ha, envM, conc, abs]

/-- the state part of the previous theorem needs no hypothesis -/
theorem St_generateSlabID_state (s : GSt σ β) (addr : Nat) :
    (PersistentSlabStorage_GenerateSlabID (envM c fault sz j) s addr).2 =
      conc ((abs s).generateSlabID addr).2 s.baseStorage.n s.baseStorage.log := by
  unfold PersistentSlabStorage_GenerateSlabID St.generateSlabID
  by_cases ha : addr = 0
  · subst ha
    cases s with
    | mk b cch d t => cases b; simp [conc, abs, uint64_ofNat_toNat_succ]
  · cases s with
    | mk b cch d t => cases b; simp [ha, envM, conc, abs]

/-- after 2^64 - 1 temporary identifiers Go hands out index 0 (= the undefined identifier), the model 2^64 -/
theorem St_generateSlabID_differs_at :
    let s : GSt Unit Unit := conc { (St.init : St Unit Unit) with tempIx := 2 ^ 64 - 1 } 0 []
    (PersistentSlabStorage_GenerateSlabID (envM ⟨fun _ => none, fun _ _ => none, fun _ => 0⟩ (fun _ => false)
        (fun _ => 0) ⟨(), fun _ _ => none, ((), none)⟩) s 0).1.1 = SlabID.undef
    ∧ ((abs s).generateSlabID 0).1 = ⟨0, 2 ^ 64⟩ := by
  decide

/-- an error of the base storage's `GenerateSlabID` comes back wrapped, with the zero identifier (ANY environment) -/
theorem St_generateSlabID_baseError {σ β B ε : Type} (env : PersistentSlabStorage_Env σ β B ε)
    (s : PersistentSlabStorage σ B) (addr : Nat) (ha : addr ≠ 0) (i : SlabID) (e : ε) (b' : B)
    (hb : env.BaseStorage_GenerateSlabID s.baseStorage addr = ((i, some e), b')) :
    PersistentSlabStorage_GenerateSlabID env s addr =
      ((SlabID.undef, env.wrapErrorfAsExternalErrorIfNeeded (some e)), { s with baseStorage := b' }) := by
  unfold PersistentSlabStorage_GenerateSlabID
  simp [ha, hb]

/-- `Deltas()` = `uint(len(s.deltas))`: the model's count modulo 2^64 -/
theorem St_deltas_eq_model (s : GSt σ β) :
    (PersistentSlabStorage_Deltas (envM c fault sz j) s).toNat = (abs s).deltasCount % 2 ^ 64 := by
  simp [PersistentSlabStorage_Deltas, GoMap.len, St.deltasCount, abs, UInt64.ofInt]
  omega

/-! The ranges over the Go map `s.deltas` (`countLoop_eq`, `sizeLoop_eq`, `unsavedLoop_eq`, `keysLoop_eq`) are stated in
closed form and for every environment; the model's value and the independence of the iteration order
(`*_order_insensitive`) are both read off these. -/

theorem countLoop_eq {B ε : Type} (env : PersistentSlabStorage_Env σ β B ε) (l : List (SlabID × Option σ)) (a : UInt64) :
    PersistentSlabStorage_DeltasWithoutTempAddresses.loop1 env l a =
      a + UInt64.ofNat (l.filter (fun p => !p.1.isTemp)).length := by
  induction l generalizing a with
  | nil => simp [PersistentSlabStorage_DeltasWithoutTempAddresses.loop1]
  | cons p l ih =>
    obtain ⟨k, v⟩ := p
    unfold PersistentSlabStorage_DeltasWithoutTempAddresses.loop1
    by_cases hk : k.addr = 0
    · simp [hk, ih, SlabID.isTemp]
    · simp only [ne_eq, hk, not_false_eq_true, decide_true, ↓reduceIte, ih, SlabID.isTemp,
        List.filter_cons_of_pos, List.length_cons, Bool.not_eq_eq_eq_not, Bool.not_true, beq_eq_false_iff_ne]
      apply UInt64.toNat_inj.mp
      simp [UInt64.toNat_add]
      omega

/-- `DeltasWithoutTempAddresses()`: the model's count modulo 2^64 -/
theorem St_deltasWithoutTemp_eq_model (s : GSt σ β) :
    (PersistentSlabStorage_DeltasWithoutTempAddresses (envM c fault sz j) s).toNat =
      (abs s).deltasWithoutTemp % 2 ^ 64 := by
  simp [PersistentSlabStorage_DeltasWithoutTempAddresses, countLoop_eq, St.deltasWithoutTemp, abs]

/-- the body of the loop of `DeltasSizeWithoutTempAddresses`, in any number type: an owned pending slab adds its size -/
def sizeStep {γ : Type} [Add γ] (f : σ → γ) (acc : γ) (p : SlabID × Option σ) : γ :=
  match p.2 with
  | some v => if p.1.isTemp then acc else acc + f v
  | none => acc

theorem deltasSize_unfold (m : St σ β) : m.deltasSizeWithoutTemp c = m.deltas.foldl (sizeStep c.size) 0 := rfl

theorem sizeLoop_eq {B ε : Type} (env : PersistentSlabStorage_Env σ β B ε) (l : List (SlabID × Option σ)) (a : UInt64) :
    PersistentSlabStorage_DeltasSizeWithoutTempAddresses.loop1 env l a =
      .done (l.foldl (sizeStep fun v => (env.Slab_ByteSize v).toUInt64) a) := by
  induction l generalizing a with
  | nil => rfl
  | cons p l ih =>
    obtain ⟨k, v⟩ := p
    unfold PersistentSlabStorage_DeltasSizeWithoutTempAddresses.loop1
    rw [List.foldl_cons]
    cases v with
    | none => simp [sizeStep, ih]
    | some v => by_cases hk : k.addr = 0 <;> simp [hk, sizeStep, SlabID.isTemp, ih]

theorem sizeStep_comm (g : σ → UInt64) (z : UInt64) (x y : SlabID × Option σ) :
    sizeStep g (sizeStep g z x) y = sizeStep g (sizeStep g z y) x := by
  obtain ⟨kx, vx⟩ := x
  obtain ⟨ky, vy⟩ := y
  cases vx <;> cases vy <;> try rfl
  simp only [sizeStep]
  cases kx.isTemp <;> cases ky.isTemp <;> try rfl
  simp only [Bool.false_eq_true, if_false]
  rw [UInt64.add_assoc, UInt64.add_comm (g _), ← UInt64.add_assoc]

/-- summing in `uint64` is summing in `Nat` modulo 2^64 -/
theorem sizeFold_ofNat (f : σ → Nat) (g : σ → UInt64) (h : ∀ v, g v = UInt64.ofNat (f v))
    (l : List (SlabID × Option σ)) (n : Nat) :
    l.foldl (sizeStep g) (UInt64.ofNat n) = UInt64.ofNat (l.foldl (sizeStep f) n) := by
  induction l generalizing n with
  | nil => rfl
  | cons p l ih =>
    rw [List.foldl_cons, List.foldl_cons, ← ih]
    congr 1
    unfold sizeStep
    split
    · split
      · rfl
      · rw [h, UInt64.ofNat_add]
    · rfl

/-- `DeltasSizeWithoutTempAddresses()` never dereferences a nil slab (`some`), and returns the model's sum of
    the `ByteSize` of the owned, non-deleted pending slabs modulo 2^64 -/
theorem St_deltasSizeWithoutTemp_eq_model (hsz : ∀ v, c.size v = (sz v).toNat) (s : GSt σ β) :
    ∃ r, PersistentSlabStorage_DeltasSizeWithoutTempAddresses (envM c fault sz j) s = some r ∧
      r.toNat = (abs s).deltasSizeWithoutTemp c % 2 ^ 64 := by
  refine ⟨_, by rw [PersistentSlabStorage_DeltasSizeWithoutTempAddresses, sizeLoop_eq], ?_⟩
  rw [deltasSize_unfold, show (0 : UInt64) = UInt64.ofNat 0 from rfl,
    sizeFold_ofNat c.size _ (fun v => by rw [hsz]; exact (UInt64.ofNat_toNat ..).symm), UInt64.toNat_ofNat']
  rfl

theorem unsavedLoop_eq {B ε : Type} (env : PersistentSlabStorage_Env σ β B ε) (addr : Nat) (l : List (SlabID × Option σ)) :
    PersistentSlabStorage_HasUnsavedChanges.loop1 env addr l =
      bif l.any (fun p => p.1.addr == addr) then .ret true else .done () := by
  induction l with
  | nil => simp [PersistentSlabStorage_HasUnsavedChanges.loop1]
  | cons p l ih =>
    obtain ⟨k, v⟩ := p
    unfold PersistentSlabStorage_HasUnsavedChanges.loop1
    by_cases hk : k.addr = addr
    · simp [hk]
    · have hb : (k.addr == addr) = false := by simpa using hk
      simp [hk, hb, ih]

/-- `HasUnsavedChanges(address)`: some pending identifier has that address (the temporary address included) -/
theorem St_hasUnsavedChanges_eq_model (s : GSt σ β) (addr : Nat) :
    PersistentSlabStorage_HasUnsavedChanges (envM c fault sz j) s addr = (abs s).hasUnsavedChanges addr := by
  unfold PersistentSlabStorage_HasUnsavedChanges St.hasUnsavedChanges
  rw [unsavedLoop_eq]
  simp only [abs]
  cases h : s.deltas.any (fun p => p.1.addr == addr) <;> simp

theorem keysLoop_eq {B ε : Type} (env : PersistentSlabStorage_Env σ β B ε) (l : List (SlabID × Option σ)) (acc : List SlabID) :
    PersistentSlabStorage_sortedOwnedDeltaKeys.loop1 env l acc =
      acc ++ (AList.keys l).filter (fun k => !k.isTemp) := by
  induction l generalizing acc with
  | nil => simp [PersistentSlabStorage_sortedOwnedDeltaKeys.loop1, AList.keys]
  | cons p l ih =>
    obtain ⟨k, v⟩ := p
    unfold PersistentSlabStorage_sortedOwnedDeltaKeys.loop1
    by_cases hk : k.addr = 0 <;> simp [hk, ih, AList.keys, SlabID.isTemp]

/-- the translated `less` closure of `sort.Slice` is the model's order `SlabID.lt` -/
theorem goInsertBy_lt (k : SlabID) (l : List SlabID) :
    goInsertBy (fun a b => if decide (a.addr = b.addr) then decide (a.idx < b.idx) else decide (a.addr < b.addr)) k l =
      St.insertSorted k l := by
  induction l with
  | nil => rfl
  | cons x xs ih =>
    simp only [goInsertBy, St.insertSorted, ih, SlabID.lt]
    by_cases h : k.addr = x.addr <;> simp [h]

/-- `sortedOwnedDeltaKeys()`: the owned pending identifiers in the model's order (the sort by its specification) -/
theorem St_sortedOwnedDeltaKeys_eq_model (s : GSt σ β) :
    PersistentSlabStorage_sortedOwnedDeltaKeys (envM c fault sz j) s = (abs s).sortedOwnedDeltaKeys := by
  unfold PersistentSlabStorage_sortedOwnedDeltaKeys St.sortedOwnedDeltaKeys
  simp only [keysLoop_eq, List.nil_append, goSortSlice, St.sortIDs, abs]
  congr 1
  funext k l
  exact goInsertBy_lt k l

/-- the model's commit state at the start of a Go `commit` call in state `s` -/
def res0 (s : GSt σ β) : St.CommitRes σ β :=
  { st := abs s, err := none, log := s.baseStorage.log, n := s.baseStorage.n }

theorem foldl_commitKey_err (keys : List SlabID) (r : St.CommitRes σ β) (h : r.err.isSome) :
    keys.foldl (St.commitKey c fault) r = r := by
  induction keys with
  | nil => rfl
  | cons k ks ih =>
    obtain ⟨e, he⟩ := Option.isSome_iff_exists.mp h
    have : St.commitKey c fault r k = r := by simp [St.commitKey, he]
    rw [List.foldl_cons, this, ih]

/-- what one Go loop (`for _, id := range keys`) does, against the model's fold from the same state:
    an early `return` happens exactly when the model records an error, with an error value of that class;
    either way the Go state is the translation of the model's (base-storage call log and fault position
    included, and whatever was stored / removed / cached / deleted before the failing call stays so). -/
theorem commitLoop_eq (keys : List SlabID) (s : GSt σ β) (err0 : Option GErr) :
    match PersistentSlabStorage_commit.loop1 (envM c fault sz j) keys s err0 with
    | .ret (e, s') =>
      let r := keys.foldl (St.commitKey c fault) (res0 s)
      s' = conc r.st r.n r.log ∧ e.bind GErr.cls = r.err ∧ e.isSome
    | .done (s', _) =>
      let r := keys.foldl (St.commitKey c fault) (res0 s)
      s' = conc r.st r.n r.log ∧ r.err = none := by
  induction keys generalizing s err0 with
  | nil => simp [PersistentSlabStorage_commit.loop1, res0, conc_abs]
  | cons id rest ih =>
    unfold PersistentSlabStorage_commit.loop1
    simp only [List.foldl_cons, GoMap.get, GoMap.get2]
    have hcase : AList.find? s.deltas id = none ∨ AList.find? s.deltas id = some none ∨
        ∃ v, AList.find? s.deltas id = some (some v) := by
      rcases AList.find? s.deltas id with _ | _ | v
      · exact .inl rfl
      · exact .inr (.inl rfl)
      · exact .inr (.inr ⟨v, rfl⟩)
    rcases hcase with hd | hd | ⟨v, hd⟩
    -- not pending (reads as nil) and pending deletion are handled alike, as a deletion
    iterate 2
      by_cases hf : fault s.baseStorage.n = true
      · have hm : St.commitKey c fault (res0 s) id =
            { res0 s with err := some .external, log := s.baseStorage.log ++ [.remove id], n := s.baseStorage.n + 1 } := by
          simp [St.commitKey, res0, abs, hd, hf]
        rw [hm, foldl_commitKey_err c fault rest _ (by simp)]
        simp only [hd, envM, hf, ↓reduceIte, Option.isSome_none, Option.isSome_some, wrapExt, GErr.categorised,
          Bool.false_eq_true, res0, Option.bind_some, GErr.cls, and_self, and_true]
        cases s with
        | mk b cch d t => cases b; simp [conc, abs, GErr.cls]
      · have hm : St.commitKey c fault (res0 s) id = res0 { s with
              baseStorage := { s.baseStorage with regs := AList.erase s.baseStorage.regs id,
                                                  n := s.baseStorage.n + 1, log := s.baseStorage.log ++ [.remove id] },
              cache := AList.insert s.cache id none, deltas := AList.erase s.deltas id } := by
          simp [St.commitKey, res0, abs, hd, hf]
        rw [hm]
        simp only [hd, envM, hf, Bool.false_eq_true, ↓reduceIte, Option.isSome_none]
        exact ih _ _
    · rcases Option.eq_none_or_eq_some (c.enc v) with he | ⟨b, he⟩
      · have hm : St.commitKey c fault (res0 s) id = { res0 s with err := some .encoding } := by
          simp [St.commitKey, res0, abs, hd, he]
        rw [hm, foldl_commitKey_err c fault rest _ (by simp)]
        simp [hd, envM, he, res0, GErr.cls, conc_abs]
      · by_cases hf : fault s.baseStorage.n = true
        · have hm : St.commitKey c fault (res0 s) id =
              { res0 s with err := some .external, log := s.baseStorage.log ++ [.store id b], n := s.baseStorage.n + 1 } := by
            simp [St.commitKey, res0, abs, hd, he, hf]
          rw [hm, foldl_commitKey_err c fault rest _ (by simp)]
          simp only [hd, envM, he, hf, ↓reduceIte, Option.isSome_none, Option.isSome_some, wrapExt, GErr.categorised,
            Bool.false_eq_true, res0, Option.bind_some, GErr.cls, and_self, and_true]
          cases s with
          | mk b cch d t => cases b; simp [conc, abs, GErr.cls]
        · have hm : St.commitKey c fault (res0 s) id = res0 { s with
                baseStorage := { s.baseStorage with regs := AList.insert s.baseStorage.regs id b,
                                                    n := s.baseStorage.n + 1, log := s.baseStorage.log ++ [.store id b] },
                cache := AList.insert s.cache id (some v), deltas := AList.erase s.deltas id } := by
            simp [St.commitKey, res0, abs, hd, he, hf]
          rw [hm]
          simp only [hd, envM, he, hf, Bool.false_eq_true, ↓reduceIte, Option.isSome_none, Option.isSome_some]
          exact ih _ _

/-- `commit(keys)`, the serial commit loop, for EVERY key list (also keys that are not pending, repeated keys,
    temporary identifiers), from any position of the fault plan: the resulting state is the translation of
    the model's `CommitRes` (state, call log, number of calls issued) and the returned error has the class
    the model records (`nil` iff none). -/
theorem St_commit_eq_model (s : GSt σ β) (keys : List SlabID) :
    let r := keys.foldl (St.commitKey c fault) (res0 s)
    (PersistentSlabStorage_commit (envM c fault sz j) s keys).2 = conc r.st r.n r.log ∧
    (PersistentSlabStorage_commit (envM c fault sz j) s keys).1.bind GErr.cls = r.err := by
  have h := commitLoop_eq c fault sz j keys s none
  unfold PersistentSlabStorage_commit
  split at h
  · next e s' heq => simp [heq, h.1, h.2.1]
  · next s' e heq => simp [heq, h.1, h.2]

/-- the same from a fresh base storage (no call issued yet): the model's `commitKeys` -/
theorem St_commit_eq_commitKeys (s : GSt σ β) (keys : List SlabID)
    (h0 : s.baseStorage.n = 0) (hl : s.baseStorage.log = []) :
    let r := (abs s).commitKeys c fault keys
    (PersistentSlabStorage_commit (envM c fault sz j) s keys).2 = conc r.st r.n r.log ∧
    (PersistentSlabStorage_commit (envM c fault sz j) s keys).1.bind GErr.cls = r.err := by
  have h := St_commit_eq_model c fault sz j s keys
  simpa [St.commitKeys, res0, h0, hl] using h

/-- the sequential path of `NondeterministicFastCommit` (fewer than two modified owned slabs): it calls
    `commit(modified ++ deleted)`, which is the model's `nondetCommit` on those orders -/
theorem St_commit_eq_nondetCommit_small (s : GSt σ β) (mo dlo : List SlabID) (hm : mo.length < 2)
    (h0 : s.baseStorage.n = 0) (hl : s.baseStorage.log = []) :
    let r := (abs s).nondetCommit c fault mo dlo
    (PersistentSlabStorage_commit (envM c fault sz j) s (mo ++ dlo)).2 = conc r.st r.n r.log ∧
    (PersistentSlabStorage_commit (envM c fault sz j) s (mo ++ dlo)).1.bind GErr.cls = r.err := by
  have h := St_commit_eq_commitKeys c fault sz j s (mo ++ dlo) h0 hl
  simpa [St.nondetCommit, hm] using h

/-! ### The representation invariant of the maps (distinct keys) is preserved - by every environment -/

section wf
variable {B ε : Type} (env : PersistentSlabStorage_Env σ β B ε)

theorem St_wf_store (s : PersistentSlabStorage σ B) (id : SlabID) (slab : Option σ) (h : WF s) :
    WF (PersistentSlabStorage_Store env s id slab).2 := by
  unfold PersistentSlabStorage_Store
  simp only
  split
  · exact h
  · exact ⟨AList.nodup_keys_insert _ _ _ h.1, h.2⟩

theorem St_wf_remove (s : PersistentSlabStorage σ B) (id : SlabID) (h : WF s) :
    WF (PersistentSlabStorage_Remove env s id).2 :=
  St_wf_store env s id none h

theorem St_wf_retrieveIgnoringDeltas (s : PersistentSlabStorage σ B) (id : SlabID) (ch : Bool) (h : WF s) :
    WF (PersistentSlabStorage_RetrieveIgnoringDeltas env s id ch).2 := by
  -- every exit leaves the deltas alone; only the last one touches the cache, by one insertion
  unfold PersistentSlabStorage_RetrieveIgnoringDeltas
  dsimp only
  by_cases h1 : (GoMap.get2 s.cache id none).2 = true
  · rw [if_pos h1]; exact h
  rw [if_neg h1]
  by_cases h2 : (env.BaseStorage_Retrieve s.baseStorage id).1.2.2.isSome = true
  · rw [if_pos h2]; exact ⟨h.1, h.2⟩
  rw [if_neg h2]
  by_cases h3 : (!(env.BaseStorage_Retrieve s.baseStorage id).1.2.1) = true
  · rw [if_pos h3]; exact ⟨h.1, h.2⟩
  rw [if_neg h3]
  by_cases h4 : (env.DecodeSlab id (env.BaseStorage_Retrieve s.baseStorage id).1.1).2.isSome = true
  · rw [if_pos h4]; exact ⟨h.1, h.2⟩
  rw [if_neg h4]
  cases ch
  · exact ⟨h.1, h.2⟩
  · exact ⟨h.1, AList.nodup_keys_insert _ _ _ h.2⟩

theorem St_wf_retrieve (s : PersistentSlabStorage σ B) (id : SlabID) (h : WF s) :
    WF (PersistentSlabStorage_Retrieve env s id).2 := by
  unfold PersistentSlabStorage_Retrieve
  simp only
  split
  · exact h
  · exact St_wf_retrieveIgnoringDeltas env s id true h

theorem St_wf_dropDeltas (s : PersistentSlabStorage σ B) (h : WF s) :
    WF (PersistentSlabStorage_DropDeltas env s) := ⟨List.nodup_nil, h.2⟩

theorem St_wf_dropCache (s : PersistentSlabStorage σ B) (h : WF s) :
    WF (PersistentSlabStorage_DropCache env s) := ⟨h.1, List.nodup_nil⟩

theorem St_wf_generateSlabID (s : PersistentSlabStorage σ B) (a : Nat) (h : WF s) :
    WF (PersistentSlabStorage_GenerateSlabID env s a).2 := by
  unfold PersistentSlabStorage_GenerateSlabID
  simp only
  repeat' split
  all_goals exact ⟨h.1, h.2⟩

theorem wf_commitLoop (keys : List SlabID) (s : PersistentSlabStorage σ B) (e : Option ε) (h : WF s) :
    match PersistentSlabStorage_commit.loop1 env keys s e with
    | .ret (_, s') => WF s'
    | .done (s', _) => WF s' := by
  induction keys generalizing s e with
  | nil => simpa [PersistentSlabStorage_commit.loop1] using h
  | cons id rest ih =>
    unfold PersistentSlabStorage_commit.loop1
    simp only
    by_cases h1 : (GoMap.get s.deltas id none).isNone = true
    · simp only [h1, ↓reduceIte]
      by_cases h2 : (env.BaseStorage_Remove s.baseStorage id).1.isSome = true
      · simp only [h2, ↓reduceIte]
        exact ⟨h.1, h.2⟩
      · simp only [h2, Bool.false_eq_true, ↓reduceIte]
        exact ih _ _ ⟨AList.nodup_keys_erase _ _ h.1, AList.nodup_keys_insert _ _ _ h.2⟩
    · simp only [h1, Bool.false_eq_true, ↓reduceIte]
      by_cases h2 : (env.EncodeSlab (GoMap.get s.deltas id none)).2.isSome = true
      · simp only [h2, ↓reduceIte]
        exact h
      · simp only [h2, Bool.false_eq_true, ↓reduceIte]
        by_cases h3 : (env.BaseStorage_Store s.baseStorage id (env.EncodeSlab (GoMap.get s.deltas id none)).1).1.isSome = true
        · simp only [h3, ↓reduceIte]
          exact ⟨h.1, h.2⟩
        · simp only [h3, Bool.false_eq_true, ↓reduceIte]
          exact ih _ _ ⟨AList.nodup_keys_erase _ _ h.1, AList.nodup_keys_insert _ _ _ h.2⟩

theorem St_wf_commit (s : PersistentSlabStorage σ B) (keys : List SlabID) (h : WF s) :
    WF (PersistentSlabStorage_commit env s keys).2 := by
  have hl := wf_commitLoop env keys s none h
  unfold PersistentSlabStorage_commit
  split at hl
  · next e s' heq => simpa [heq] using hl
  · next s' e heq => simpa [heq] using hl

end wf

/-! ### The ranges over a Go map do not depend on the iteration order -/

section order
variable {B ε : Type} (env : PersistentSlabStorage_Env σ β B ε)

/-- `DeltasWithoutTempAddresses` gives the same count for every iteration order of `s.deltas` -/
theorem St_deltasWithoutTemp_order_insensitive (s s' : PersistentSlabStorage σ B) (h : s.deltas.Perm s'.deltas) :
    PersistentSlabStorage_DeltasWithoutTempAddresses env s = PersistentSlabStorage_DeltasWithoutTempAddresses env s' := by
  simp only [PersistentSlabStorage_DeltasWithoutTempAddresses, countLoop_eq, (h.filter _).length_eq]

/-- `DeltasSizeWithoutTempAddresses` gives the same sum for every iteration order of `s.deltas` -/
theorem St_deltasSizeWithoutTemp_order_insensitive (s s' : PersistentSlabStorage σ B) (h : s.deltas.Perm s'.deltas) :
    PersistentSlabStorage_DeltasSizeWithoutTempAddresses env s =
      PersistentSlabStorage_DeltasSizeWithoutTempAddresses env s' := by
  simp only [PersistentSlabStorage_DeltasSizeWithoutTempAddresses, sizeLoop_eq,
    h.foldl_eq' (fun x _ y _ z => sizeStep_comm _ z x y)]

/-- `HasUnsavedChanges` gives the same answer for every iteration order of `s.deltas` -/
theorem St_hasUnsavedChanges_order_insensitive (s s' : PersistentSlabStorage σ B) (addr : Nat)
    (h : s.deltas.Perm s'.deltas) :
    PersistentSlabStorage_HasUnsavedChanges env s addr = PersistentSlabStorage_HasUnsavedChanges env s' addr := by
  simp only [PersistentSlabStorage_HasUnsavedChanges, unsavedLoop_eq, h.any_eq]

/-- sorting distinct identifiers by the strict total order `SlabID.lt` forgets the order they came in -/
theorem sortIDs_perm_eq {l₁ l₂ : List SlabID} (h : l₁.Perm l₂) (hn : l₁.Nodup) :
    St.sortIDs l₁ = St.sortIDs l₂ :=
  St.sortIDs_eq_of_perm h

/-- `sortedOwnedDeltaKeys` returns the same list for every iteration order of `s.deltas` (distinct keys) -/
theorem St_sortedOwnedDeltaKeys_order_insensitive (s s' : PersistentSlabStorage σ B)
    (h : s.deltas.Perm s'.deltas) (hw : WF s) :
    PersistentSlabStorage_sortedOwnedDeltaKeys env s = PersistentSlabStorage_sortedOwnedDeltaKeys env s' := by
  unfold PersistentSlabStorage_sortedOwnedDeltaKeys
  simp only [keysLoop_eq, List.nil_append, goSortSlice]
  have hl : (fun (k : SlabID) (l : List SlabID) => goInsertBy (fun a_ b_ =>
      if decide (a_.addr = b_.addr) then decide (a_.idx < b_.idx) else decide (a_.addr < b_.addr)) k l) = St.insertSorted := by
    funext k l
    exact goInsertBy_lt k l
  have hp : ((AList.keys s.deltas).filter (fun k => !k.isTemp)).Perm ((AList.keys s'.deltas).filter (fun k => !k.isTemp)) :=
    (h.map _).filter _
  have := St.sortIDs_eq_of_perm hp
  simpa [St.sortIDs, ← hl] using this

end order

section step

/-- what the trace shows of a Go error value -/
def obsOfErr {σ : Type} (e : Option GErr) : Obs σ :=
  match e with
  | none => .unit
  | some g => match g.cls with
    | some x => .err x
    | none => .unit

/-- one request served by the GENERATED functions (the requests whose Go function is translated and sequential) -/
def gstep (s : GSt σ β) : Op σ → Option (GSt σ β × Obs σ)
  | .store id v =>
    let r := PersistentSlabStorage_Store (envM c fault sz j) s id (some v)
    some (r.2, obsOfErr r.1)
  | .remove id =>
    let r := PersistentSlabStorage_Remove (envM c fault sz j) s id
    some (r.2, obsOfErr r.1)
  | .retrieve id =>
    let r := PersistentSlabStorage_Retrieve (envM c fault sz j) s id
    some (r.2, match r.1.2.2 with | none => .slab r.1.1 | some e => obsOfErr (some e))
  | .retrieveIfLoaded id => some (s, .slab (PersistentSlabStorage_RetrieveIfLoaded (envM c fault sz j) s id))
  | .retrieveIgnoringDeltas id ch =>
    let r := PersistentSlabStorage_RetrieveIgnoringDeltas (envM c fault sz j) s id ch
    some (r.2, match r.1.2.2 with | none => .slab r.1.1 | some e => obsOfErr (some e))
  | .dropDeltas => some (PersistentSlabStorage_DropDeltas (envM c fault sz j) s, .unit)
  | .dropCache => some (PersistentSlabStorage_DropCache (envM c fault sz j) s, .unit)
  | .genID a =>
    let r := PersistentSlabStorage_GenerateSlabID (envM c fault sz j) s a
    some (r.2, match r.1.2 with | none => .id r.1.1 | some e => obsOfErr (some e))
  | _ => none

/-- a request that `gstep` serves leaves the model's temporary counter below 2^64: it does not touch it, or
    (`GenerateSlabID` for the temporary address) adds one, which `hg` bounds -/
theorem step_tempIx_lt (s : GSt σ β) (op : Op σ) (hs : (gstep c fault sz j s op).isSome)
    (hg : ∀ a, op = .genID a → a = 0 → s.tempSlabIndex.toNat + 1 < 2 ^ 64) :
    (St.step c (abs s) op).1.tempIx < 2 ^ 64 := by
  have hlt : (abs s).tempIx < 2 ^ 64 := s.tempSlabIndex.toNat_lt
  cases op with
  | store id v => by_cases hid : id = SlabID.undef <;> simp only [St.step, St.store, hid, if_true, if_false] <;> exact hlt
  | remove id => by_cases hid : id = SlabID.undef <;> simp only [St.step, St.remove, hid, if_true, if_false] <;> exact hlt
  | retrieve id =>
    simp only [St.step]
    cases hr : (abs s).retrieve c id with
    | error e => exact hlt
    | ok p => exact (retrieve_cacheOnly c _ p.2 id p.1 hr).tempIx ▸ hlt
  | retrieveIgnoringDeltas id ch =>
    simp only [St.step]
    cases hr : (abs s).retrieveIgnoringDeltas c id ch with
    | error e => exact hlt
    | ok p => exact (retrieveIgnoringDeltas_cacheOnly c _ p.2 id ch p.1 hr).tempIx ▸ hlt
  | genID a =>
    simp only [St.step, St.generateSlabID]
    by_cases ha : a = 0
    · simpa [ha, abs] using hg a rfl ha
    · simpa [ha] using hlt
  | retrieveIfLoaded _ | dropDeltas | dropCache => exact hlt
  | commit _ _ _ _ | preload _ | recreate => exact nomatch hs

/-- what `gstep` returns, request by request from the equations above: the translation of the model's next state (these
    requests leave the base storage's call counter and log alone) and the model's observation -/
theorem gstep_eq (s : GSt σ β) (op : Op σ) (hs : (gstep c fault sz j s op).isSome)
    (hg : ∀ a, op = .genID a → a = 0 → s.tempSlabIndex.toNat + 1 < 2 ^ 64) :
    gstep c fault sz j s op =
      some (conc (St.step c (abs s) op).1 s.baseStorage.n s.baseStorage.log, (St.step c (abs s) op).2) := by
  cases op with
  | store id v =>
    simp only [gstep, St_store_eq_model, St.step]
    cases (abs s).store id v <;> simp [obsOfErr, GErr.cls_ofSt, conc_abs]
  | remove id =>
    simp only [gstep, St_remove_eq_model, St.step]
    cases (abs s).remove id <;> simp [obsOfErr, GErr.cls_ofSt, conc_abs]
  | retrieve id =>
    simp only [gstep, St_retrieve_eq_model, St.step]
    cases (abs s).retrieve c id <;> simp [obsOfErr, GErr.cls_ofSt, conc_abs]
  | retrieveIgnoringDeltas id ch =>
    simp only [gstep, St_retrieveIgnoringDeltas_eq_model, St.step]
    cases (abs s).retrieveIgnoringDeltas c id ch <;> simp [obsOfErr, GErr.cls_ofSt, conc_abs]
  | retrieveIfLoaded id => simp [gstep, St.step, St_retrieveIfLoaded_eq_model, conc_abs]
  | dropDeltas => simp [gstep, St.step, St_dropDeltas_eq_model]
  | dropCache => simp [gstep, St.step, St_dropCache_eq_model]
  | genID a => simp [gstep, St.step, St_generateSlabID_eq_model c fault sz j s a (hg a rfl)]
  | commit _ _ _ _ | preload _ | recreate => exact nomatch hs

/-- `St.step` on the model state of `s` is what the generated functions do to `s` and return: for store, remove,
    retrieve, retrieve-if-loaded, cache-bypassing retrieve, drop-deltas, drop-cache and generate-id (the latter
    unless the 64-bit temporary counter wraps).  So every theorem about `St.step` / `St.run` histories of these
    requests is a theorem about the regenerated code. -/
theorem St_step_eq_generated (s s' : GSt σ β) (op : Op σ) (o : Obs σ)
    (hg : ∀ a, op = .genID a → a = 0 → s.tempSlabIndex.toNat + 1 < 2 ^ 64)
    (h : gstep c fault sz j s op = some (s', o)) :
    St.step c (abs s) op = (abs s', o) := by
  have hs : (gstep c fault sz j s op).isSome := h ▸ rfl
  rw [gstep_eq c fault sz j s op hs hg] at h
  obtain ⟨rfl, rfl⟩ := Prod.mk.inj (Option.some.inj h)
  exact Prod.ext (abs_conc _ _ _ (step_tempIx_lt c fault sz j s op hs hg)).symm rfl

end step

section example_
/-- slabs are numbers, registers are numbers; encoding fails for 13, decoding fails for register 99 -/
def exCodec : Codec Nat Nat :=
  { enc := fun v => if v = 13 then none else some (v + 100), dec := fun _ b => if b = 99 then none else some (b - 100), size := fun v => v }
def exJunk : Junk Nat Nat := ⟨7, fun _ _ => some 5, (8, none)⟩
def exEnv (faults : List Nat) := envM exCodec (St.faultPlan faults) (fun v => UInt32.ofNat v) exJunk
def exS : GSt Nat Nat :=
  { baseStorage := { regs := [(⟨1, 1⟩, 101), (⟨1, 2⟩, 99)], alloc := [(1, 2)], n := 0, log := [] },
    cache := [(⟨1, 4⟩, none)], deltas := [(⟨1, 3⟩, some 30), (⟨0, 1⟩, some 40), (⟨1, 1⟩, none)], tempSlabIndex := 1 }

example : WF exS := ⟨by decide, by decide⟩
-- Retrieve fills the cache; a pending deletion / a cached deletion read as (nil, false, nil); a register that does
-- not decode is (nil, true, err) and leaves no trace
example : (PersistentSlabStorage_Retrieve (exEnv []) (PersistentSlabStorage_DropDeltas (exEnv []) exS) ⟨1, 1⟩).1 = (some 1, true, none) := by decide
example : (PersistentSlabStorage_Retrieve (exEnv []) (PersistentSlabStorage_DropDeltas (exEnv []) exS) ⟨1, 1⟩).2.cache = [(⟨1, 1⟩, some 1), (⟨1, 4⟩, none)] := by decide
example : (PersistentSlabStorage_Retrieve (exEnv []) exS ⟨1, 1⟩).1 = (none, false, none) := by decide
example : (PersistentSlabStorage_Retrieve (exEnv []) exS ⟨1, 4⟩).1 = (none, false, none) := by decide
example : PersistentSlabStorage_Retrieve (exEnv []) exS ⟨1, 2⟩ = ((none, true, some (.codec false)), exS) := by rfl
example : (PersistentSlabStorage_Store (exEnv []) exS SlabID.undef (some 1)) = (some (.ctor "NewSlabIDError"), exS) := by rfl
example : PersistentSlabStorage_sortedOwnedDeltaKeys (exEnv []) exS = [⟨1, 1⟩, ⟨1, 3⟩] := by decide
example : PersistentSlabStorage_DeltasSizeWithoutTempAddresses (exEnv []) exS = some 30 := by decide
example : PersistentSlabStorage_HasUnsavedChanges (exEnv []) exS 0 = true := by decide
-- a commit whose second base-storage call fails: the first key is written and cached, not pending; the second
-- stays pending, the error is External
example : (PersistentSlabStorage_commit (exEnv [1]) exS [⟨1, 1⟩, ⟨1, 3⟩]).1 = some (.external (.base 1)) := by decide
example : (PersistentSlabStorage_commit (exEnv [1]) exS [⟨1, 1⟩, ⟨1, 3⟩]).2.deltas = [(⟨1, 3⟩, some 30), (⟨0, 1⟩, some 40)] := by decide
example : (PersistentSlabStorage_commit (exEnv [1]) exS [⟨1, 1⟩, ⟨1, 3⟩]).2.baseStorage.regs = [(⟨1, 2⟩, 99)] := by decide
example : (PersistentSlabStorage_commit (exEnv []) exS [⟨1, 1⟩, ⟨1, 3⟩]).2.baseStorage.regs = [(⟨1, 3⟩, 130), (⟨1, 2⟩, 99)] := by decide
-- `gstep` serves the request (hypothesis of `St_step_eq_generated`), here the read of the undecodable register
example : ∃ s' o, gstep exCodec (St.faultPlan []) (fun v => UInt32.ofNat v) exJunk exS (.retrieve ⟨1, 2⟩) = some (s', o) :=
  ⟨_, _, rfl⟩
end example_

end Atree.TransEq

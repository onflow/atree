import AtreeModel.SlabIdStorages
import AtreeModel.Gen.TransStorage
/-
  C15: `BasicSlabStorage` (storage.go), REGENERATED from the Go source on every run
  (`Gen/TransStorage.lean`, harness/cmd/gotrans/stateful*.go), computes what the hand-written model
  `SlabIdB.Basic` (`AtreeModel/SlabIdStorages.lean`, byte-level identifiers) computes: for every state, no
  invariant.  The two records have the same fields; `toB` / `ofB` rename them.
-/
namespace Atree.TransEq
open Atree Atree.SlabIdB Atree.Gen.TransSt

variable {σ ε : Type} (env : BasicSlabStorage_Env σ ε)

def toB (s : BasicSlabStorage σ) : Basic σ := { slabs := s.Slabs, slabIndex := s.slabIndex }
def ofB (m : Basic σ) : BasicSlabStorage σ := { Slabs := m.slabs, slabIndex := m.slabIndex }

theorem ofB_toB (s : BasicSlabStorage σ) : ofB (toB s) = s := rfl
theorem toB_ofB (m : Basic σ) : toB (ofB m) = m := rfl

/-- `GenerateSlabID(address)`: next index of that address (zero address included), never an error -/
theorem Basic_generateSlabID_eq_model (s : BasicSlabStorage σ) (a : Address) :
    BasicSlabStorage_GenerateSlabID env s a =
      ((((toB s).generateSlabID a).2, none), ofB ((toB s).generateSlabID a).1) := by
  simp only [BasicSlabStorage_GenerateSlabID, Basic.generateSlabID, genNext, GoMap.get, GoMap.get2, toB, ofB]
  cases AList.find? s.slabIndex a <;> rfl

/-- `RetrieveIfLoaded(id)` = `s.Slabs[id]` -/
theorem Basic_retrieveIfLoaded_eq_model (s : BasicSlabStorage σ) (id : SlabIDB) :
    BasicSlabStorage_RetrieveIfLoaded env s id = (toB s).retrieveIfLoaded id := by
  simp only [BasicSlabStorage_RetrieveIfLoaded, Basic.retrieveIfLoaded, GoMap.get, GoMap.get2, toB]
  cases AList.find? s.Slabs id <;> rfl

/-- `Retrieve(id)`: the entry and whether the KEY is present (a stored nil slab is found), never an error -/
theorem Basic_retrieve_eq_model (s : BasicSlabStorage σ) (id : SlabIDB) :
    BasicSlabStorage_Retrieve env s id = (((toB s).retrieve id).1, ((toB s).retrieve id).2, none) := by
  simp only [BasicSlabStorage_Retrieve, Basic.retrieve, GoMap.get2, toB]
  cases AList.find? s.Slabs id <;> rfl

/-- `Store(id, slab)`: no check of the identifier, never an error -/
theorem Basic_store_eq_model (s : BasicSlabStorage σ) (id : SlabIDB) (slab : Option σ) :
    BasicSlabStorage_Store env s id slab = (none, ofB ((toB s).store id slab)) := rfl

/-- `Remove(id)`: the key is deleted (no tombstone), never an error -/
theorem Basic_remove_eq_model (s : BasicSlabStorage σ) (id : SlabIDB) :
    BasicSlabStorage_Remove env s id = (none, ofB ((toB s).remove id)) := rfl

/-- `Count()` = `len(s.Slabs)` -/
theorem Basic_count_eq_model (s : BasicSlabStorage σ) :
    BasicSlabStorage_Count env s = Int.ofNat (toB s).count := rfl

/-- non-vacuity: store, store nil, remove on a concrete storage -/
example :
    let a : Address := ⟨[0, 0, 0, 0, 0, 0, 0, 1], rfl⟩
    let e : BasicSlabStorage_Env Nat Unit := {}
    let s0 : BasicSlabStorage Nat := { Slabs := [], slabIndex := [] }
    let g := BasicSlabStorage_GenerateSlabID e s0 a
    let s1 := (BasicSlabStorage_Store e g.2 g.1.1 (some 5)).2
    let s2 := (BasicSlabStorage_Store e s1 SlabIDUndefined none).2
    BasicSlabStorage_Retrieve e s2 g.1.1 = (some 5, true, none) ∧
    BasicSlabStorage_Retrieve e s2 SlabIDUndefined = (none, true, none) ∧
    BasicSlabStorage_Retrieve e (BasicSlabStorage_Remove e s2 SlabIDUndefined).2 SlabIDUndefined = (none, false, none) ∧
    BasicSlabStorage_Count e s2 = 2 := by decide +kernel

end Atree.TransEq

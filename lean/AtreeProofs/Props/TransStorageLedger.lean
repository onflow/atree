import AtreeModel.SlabIdStorages
import AtreeModel.Gen.TransStorage
/-
  C15: `LedgerBaseStorage` (storage.go), REGENERATED from the Go source on every run (`Gen/TransStorage.lean`,
  harness/cmd/gotrans/stateful*.go), computes what the hand-written model `SlabIdB.LBS`
  (`AtreeModel/SlabIdStorages.lean`) computes, on the translation `ofL` of EVERY model state: results, the
  wrapped error, the ledger state and the two byte counters (which move BEFORE the error check / the ledger
  call).  The `Ledger` is a parameter on both sides: `envL` turns the model's `Ledger Λ` (error = a flag) into the
  generated environment (error = a value: `raw`, which `wrapErrorfAsExternalErrorIfNeeded` turns into `external`).
  Go's `int` counters are `Int` (overflow after 2^63 bytes is not modelled).
-/
namespace Atree.TransEq
open Atree Atree.SlabIdB Atree.Gen.TransSt

/-- error values on the ledger side -/
inductive LErr where
  | raw        -- the ledger's own (uncategorised) error
  | external   -- NewExternalError(raw, msg)
deriving DecidableEq, Repr

variable {Λ : Type} (L : Ledger Λ)

def errIf (b : Bool) : Option LErr := if b then some .raw else none

def envL : LedgerBaseStorage_Env Λ LErr where
  Ledger_GetValue l o k := ((( L.getValue l o k).2.1, errIf (L.getValue l o k).2.2), (L.getValue l o k).1)
  Ledger_SetValue l o k v := (errIf (L.setValue l o k v).2, (L.setValue l o k v).1)
  Ledger_AllocateSlabIndex l o :=
    (((L.allocateSlabIndex l o).2.1, errIf (L.allocateSlabIndex l o).2.2), (L.allocateSlabIndex l o).1)
  wrapErrorfAsExternalErrorIfNeeded
    | none => none
    | some .raw => some .external
    | some .external => some .external

def ofL (m : LBS Λ) : LedgerBaseStorage Λ :=
  { ledger := m.ledger, bytesRetrieved := Int.ofNat m.bytesRetrieved, bytesStored := Int.ofNat m.bytesStored }

/-- `Retrieve(id)`: `bytesRetrieved += len(v)` before the error check; `found = len(v) > 0`; the ledger's error
    comes back wrapped as External with `nil, false` -/
theorem Ledger_retrieve_eq_model (m : LBS Λ) (id : SlabIDB) :
    LedgerBaseStorage_Retrieve (envL L) (ofL m) id =
      match m.retrieve L id with
      | (m', .ok (v, found)) => ((v, found, none), ofL m')
      | (m', .error _) => (([], false, some .external), ofL m') := by
  unfold LedgerBaseStorage_Retrieve LBS.retrieve
  cases h : (L.getValue m.ledger id.address.val (slabIndexToLedgerKey id.index)).2.2 <;>
    simp [envL, ofL, errIf, h]

/-- `Store(id, data)`: `bytesStored += len(data)` before the ledger call -/
theorem Ledger_store_eq_model (m : LBS Λ) (id : SlabIDB) (data : Bytes) :
    LedgerBaseStorage_Store (envL L) (ofL m) id data =
      match m.store L id data with
      | (m', .ok _) => (none, ofL m')
      | (m', .error _) => (some .external, ofL m') := by
  unfold LedgerBaseStorage_Store LBS.store
  cases h : (L.setValue m.ledger id.address.val (slabIndexToLedgerKey id.index) data).2 <;>
    simp [envL, ofL, errIf, h]

/-- `Remove(id)` = `SetValue(owner, key, nil)` -/
theorem Ledger_remove_eq_model (m : LBS Λ) (id : SlabIDB) :
    LedgerBaseStorage_Remove (envL L) (ofL m) id =
      match m.remove L id with
      | (m', .ok _) => (none, ofL m')
      | (m', .error _) => (some .external, ofL m') := by
  unfold LedgerBaseStorage_Remove LBS.remove
  cases h : (L.setValue m.ledger id.address.val (slabIndexToLedgerKey id.index) []).2 <;>
    simp [envL, ofL, errIf, h]

/-- `GenerateSlabID(address)` = the index the ledger allocated, under that address -/
theorem Ledger_generateSlabID_eq_model (m : LBS Λ) (a : Address) :
    LedgerBaseStorage_GenerateSlabID (envL L) (ofL m) a =
      match m.generateSlabID L a with
      | (m', .ok i) => ((i, none), ofL m')
      | (m', .error _) => ((SlabIDUndefined, some .external), ofL m') := by
  unfold LedgerBaseStorage_GenerateSlabID LBS.generateSlabID
  cases h : (L.allocateSlabIndex m.ledger a.val).2.2 <;>
    simp [envL, ofL, errIf, h]

/-- the reporters: the two counters, `ResetReporter`, and the five `// TODO return 0` -/
theorem Ledger_reporters_eq_model (m : LBS Λ) :
    LedgerBaseStorage_BytesRetrieved (envL L) (ofL m) = Int.ofNat m.bytesRetrieved ∧
    LedgerBaseStorage_BytesStored (envL L) (ofL m) = Int.ofNat m.bytesStored ∧
    LedgerBaseStorage_ResetReporter (envL L) (ofL m) = ofL m.resetReporter ∧
    LedgerBaseStorage_SegmentCounts (envL L) (ofL m) = Int.ofNat m.zeroReporter ∧
    LedgerBaseStorage_Size (envL L) (ofL m) = Int.ofNat m.zeroReporter ∧
    LedgerBaseStorage_SegmentsReturned (envL L) (ofL m) = Int.ofNat m.zeroReporter ∧
    LedgerBaseStorage_SegmentsUpdated (envL L) (ofL m) = Int.ofNat m.zeroReporter ∧
    LedgerBaseStorage_SegmentsTouched (envL L) (ofL m) = Int.ofNat m.zeroReporter :=
  ⟨rfl, rfl, rfl, rfl, rfl, rfl, rfl, rfl⟩

/-- non-vacuity on the ledger of the `slabid` stream: a store, a failing read (the bytes of the junk value ARE
    counted), a successful read -/
example :
    let L := MapLedger.iface
    let a : Address := ⟨[0, 0, 0, 0, 0, 0, 0, 1], rfl⟩
    let id : SlabIDB := ⟨a, ⟨[0, 0, 0, 0, 0, 0, 0, 2], rfl⟩⟩
    let s0 := ofL (LBS.new ({ fail := [1], junk := [9, 9, 9] } : MapLedger))
    let s1 := (LedgerBaseStorage_Store (envL L) s0 id [1, 2]).2
    let r2 := LedgerBaseStorage_Retrieve (envL L) s1 id
    let r3 := LedgerBaseStorage_Retrieve (envL L) r2.2 id
    s1.bytesStored = 2 ∧ r2.1 = ([], false, some .external) ∧ r2.2.bytesRetrieved = 3 ∧
    r3.1 = ([1, 2], true, none) ∧ r3.2.bytesRetrieved = 5 := by decide

end Atree.TransEq

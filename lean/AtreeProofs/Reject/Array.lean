import AtreeProofs.ListAt
import AtreeProofs.Array.RepairPlan
import AtreeProofs.Reject.Prog
/-
  C18, arrays: the in-place programs of `AtreeModel/Reject.lean` leave the state (slab objects AND
  storage context) exactly as it was when they return an argument error – proved from the ORDER of
  their statements, by induction over the depth.  That they agree with the functional model is
  `Reject/ArrayAgree.lean`.
-/
namespace Atree
open Gen Prog

namespace DataSlab

theorem setP_clean {P : AErr → Prop} (T i : Nat) (v : Elem) (st : DataSlab × Ctx) : CleanAt P st (setP T i v st) := by
  obtain ⟨s, c⟩ := st
  simp only [setP]
  split
  · exact .error
  · exact .ok

theorem insertP_clean {P : AErr → Prop} (T i : Nat) (v : Elem) (st : DataSlab × Ctx) :
    CleanAt P st (insertP T i v st) := by
  obtain ⟨s, c⟩ := st
  simp only [insertP]
  split
  · exact .error
  · exact .ok

theorem removeP_clean {P : AErr → Prop} (i : Nat) (st : DataSlab × Ctx) : CleanAt P st (removeP i st) := by
  obtain ⟨s, c⟩ := st
  simp only [removeP]
  split
  · exact .error
  · exact .ok

end DataSlab

theorem DataSlab.split_errs {s : DataSlab} {c : Ctx} : ErrsIn (· = .slabSplit) (s.split c) := by
  unfold DataSlab.split
  exact .ite (.error rfl) .ok

theorem MetaSlab.split_errs {α : Type} {m : MetaSlab α} {c : Ctx} : ErrsIn (· = .slabSplit) (m.split c) := by
  unfold MetaSlab.split
  exact .ite (.error rfl) .ok

theorem ATree.split_errs : ∀ (d : Nat) (t : ATree d) (c : Ctx), ErrsIn (· = .slabSplit) (ATree.split d t c)
  | 0, _, _ => DataSlab.split_errs
  | _ + 1, _, _ => MetaSlab.split_errs

theorem MetaSlab.splitChildSlab_errs {d : Nat} {m : MetaSlab (ATree d)} {child : ATree d} {k : Nat} {c : Ctx} :
    ErrsIn (· = .slabSplit) (m.splitChildSlab child k c) :=
  (ATree.split_errs d child c).bind fun _ => .ok

/-- `MergeOrRebalanceChildSlab` fails only when the child has no sibling at all. -/
theorem MetaSlab.mergeOrRebalanceChildSlab_errs {d : Nat} {T : Nat} {m : MetaSlab (ATree d)} {child : ATree d}
    {k u : Nat} {c : Ctx} : ErrsIn (· = .goPanic) (m.mergeOrRebalanceChildSlab T child k u c) := by
  rw [MetaSlab.mor_eq_plan]
  generalize Core.plan _ _ _ _ _ = p
  cases p with
  | panic => exact .error rfl
  | _ => exact .ok

theorem ATree.afterSet_errs {d : Nat} {T : Nat} {m : MetaSlab (ATree d)} {child : ATree d} {k : Nat} {c : Ctx} :
    ErrsIn (fun e => ¬ e.isArg) (ATree.afterSet T m child k c) := by
  unfold ATree.afterSet
  refine .ite (MetaSlab.splitChildSlab_errs.of_eq Bool.false_ne_true) ?_
  split
  · exact MetaSlab.mergeOrRebalanceChildSlab_errs.of_eq Bool.false_ne_true
  · exact .ok

theorem Arr.splitRoot_errs {a : Arr} {c : Ctx} : ErrsIn (· = .slabSplit) (a.splitRoot c) :=
  (ATree.split_errs _ _ _).bind fun _ => .ok

namespace MetaSlab
variable {d : Nat} {α : Type}

theorem zoomChild_ok {k : Nat} {child child' : ATree d} {p : Prog (ATree d × Ctx) AErr α} {m : MetaSlab (ATree d)}
    {c c' : Ctx} {a : α} (h : p (child, c) = (.ok a, (child', c'))) :
    zoomChild k child p (m, c) = (.ok (a, child'), ({ m with children := m.children.set k child' }, c')) := by
  simp only [zoomChild, h]

theorem zoomChild_err {k : Nat} {child child' : ATree d} {p : Prog (ATree d × Ctx) AErr α} {m : MetaSlab (ATree d)}
    {c c' : Ctx} {e : AErr} (h : p (child, c) = (.error e, (child', c'))) :
    zoomChild k child p (m, c) = (.error e, ({ m with children := m.children.set k child' }, c')) := by
  simp only [zoomChild, h]

/-- a callee that left the child and the storage alone leaves the parent alone -/
theorem zoomChild_err_same {k : Nat} {child : ATree d} {p : Prog (ATree d × Ctx) AErr α} {m : MetaSlab (ATree d)}
    {c : Ctx} {e : AErr} (hk : m.children[k]? = some child) (h : p (child, c) = (.error e, (child, c))) :
    zoomChild k child p (m, c) = (.error e, (m, c)) := by
  rw [zoomChild_err h, set_self_of_get hk]

theorem zoomChild_clean {P : AErr → Prop} {k : Nat} {child : ATree d} {p : Prog (ATree d × Ctx) AErr α}
    {m : MetaSlab (ATree d)} {c : Ctx} (hk : m.children[k]? = some child) (h : CleanAt P (child, c) (p (child, c))) :
    CleanAt P (m, c) (zoomChild k child p (m, c)) := by
  rcases h.cases with ⟨a, ⟨child', c'⟩, hp⟩ | ⟨e, ⟨child', c'⟩, hp, hs⟩
  · rw [zoomChild_ok hp]; exact .ok
  · rw [zoomChild_err hp]
    refine .error_of fun he => ?_
    cases hs he
    rw [set_self_of_get hk]

end MetaSlab

namespace ATree
open MetaSlab

/-- `Set`: an argument error leaves the slab objects and the storage context as they were. -/
theorem setP_clean (T : Nat) : ∀ (d : Nat) (i : Nat) (v : Elem) (st : ATree d × Ctx),
    CleanAt (·.isArg) st (setP T d i v st)
  | 0, i, v, st => DataSlab.setP_clean T i v st
  | d + 1, i, v, ((m : MetaSlab (ATree d)), c) => by
    simp only [setP]
    cases h1 : MetaSlab.childSlabIndexInfo m i with
    | error e1 => exact .error
    | ok ka =>
      obtain ⟨k, adj⟩ := ka
      dsimp only
      cases h2 : m.children[k]? with
      | none => exact .error
      | some child =>
        dsimp only
        rcases (zoomChild_clean (m := m) h2 (setP_clean T d adj v (child, c))).cases with
          ⟨⟨old, child'⟩, ⟨m', c'⟩, hp⟩ | ⟨e, st', hp, hs⟩ <;> simp only [hp]
        · exact .tail afterSet_errs.map
        · exact .error_of hs

/-- the part of `Insert` after the target child is known -/
theorem insertAtP_clean (T : Nat) {d : Nat} (childInsert : Nat → Elem → Prog (ATree d × Ctx) AErr Unit)
    (ih : ∀ i v st, CleanAt (·.isArg) st (childInsert i v st))
    (k adj : Nat) (v : Elem) (m : MetaSlab (ATree d)) (c : Ctx) :
    CleanAt (·.isArg) (m, c) (insertAtP T childInsert k adj v (m, c)) := by
  simp only [insertAtP]
  cases h2 : m.children[k]? with
  | none => exact .error
  | some child =>
    dsimp only
    rcases (zoomChild_clean (m := m) h2 (ih adj v (child, c))).cases with
      ⟨⟨u, child'⟩, ⟨m', c'⟩, hp⟩ | ⟨e, st', hp, hs⟩ <;> simp only [hp]
    · exact .tail (.ite (splitChildSlab_errs.of_eq Bool.false_ne_true).map .ok)
    · exact .error_of hs

/-- `Insert`: an argument error leaves the slab objects and the storage context as they were. -/
theorem insertP_clean (T : Nat) : ∀ (d : Nat) (i : Nat) (v : Elem) (st : ATree d × Ctx),
    CleanAt (·.isArg) st (insertP T d i v st)
  | 0, i, v, st => DataSlab.insertP_clean T i v st
  | d + 1, i, v, ((m : MetaSlab (ATree d)), c) => by
    simp only [insertP]
    split
    · exact .error
    · split
      · exact .error
      · exact insertAtP_clean T (insertP T d) (insertP_clean T d) _ _ v m c

/-- `Remove`: an argument error leaves the slab objects and the storage context as they were. -/
theorem removeP_clean (T : Nat) : ∀ (d : Nat) (i : Nat) (st : ATree d × Ctx),
    CleanAt (·.isArg) st (removeP T d i st)
  | 0, i, st => DataSlab.removeP_clean i st
  | d + 1, i, ((m : MetaSlab (ATree d)), c) => by
    simp only [removeP]
    split
    · exact .error
    · cases h1 : MetaSlab.childSlabIndexInfo m i with
      | error e1 => exact .error
      | ok ka =>
        obtain ⟨k, adj⟩ := ka
        dsimp only
        cases h2 : m.children[k]? with
        | none => exact .error
        | some child =>
          dsimp only
          rcases (zoomChild_clean (m := m) h2 (removeP_clean T d adj (child, c))).cases with
            ⟨⟨old, child'⟩, ⟨m', c'⟩, hp⟩ | ⟨e, st', hp, hs⟩ <;> simp only [hp]
          · refine .tail (ErrsIn.map ?_)
            split
            · exact mergeOrRebalanceChildSlab_errs.of_eq Bool.false_ne_true
            · exact .ok
          · exact .error_of hs

end ATree

namespace Arr

theorem zoomRoot_eq {α : Type} (p : (d : Nat) → Prog (ATree d × Ctx) AErr α) (a : Arr) (c : Ctx)
    (r : Except AErr α) (root' : ATree a.d) (c' : Ctx) (h : p a.d (a.root, c) = (r, (root', c'))) :
    zoomRoot p (a, c) = (r, (⟨a.d, root', a.ty⟩, c')) := by
  simp only [zoomRoot, h]

/-- a root program that left the root and the storage alone leaves the handle alone -/
theorem zoomRoot_same {α : Type} (p : (d : Nat) → Prog (ATree d × Ctx) AErr α) (a : Arr) (c : Ctx)
    (r : Except AErr α) (h : p a.d (a.root, c) = (r, (a.root, c))) : zoomRoot p (a, c) = (r, (a, c)) := by
  rw [zoomRoot_eq p a c r a.root c h]

theorem zoomRoot_clean {P : AErr → Prop} {α : Type} {p : (d : Nat) → Prog (ATree d × Ctx) AErr α} {a : Arr} {c : Ctx}
    (h : CleanAt P (a.root, c) (p a.d (a.root, c))) : CleanAt P (a, c) (zoomRoot p (a, c)) := by
  rcases h.cases with ⟨x, ⟨root', c'⟩, hp⟩ | ⟨e, ⟨root', c'⟩, hp, hs⟩ <;> rw [zoomRoot_eq p a c _ root' c' hp]
  · exact .ok
  · refine .error_of fun he => ?_
    cases hs he
    rfl

/-- the tail of `Array.set` / `Array.Insert`: `splitRoot` when the root is full -/
theorem splitIfFull_errs {T : Nat} {a : Arr} {c : Ctx} :
    ErrsIn (fun e => ¬ e.isArg) (if ATree.isFull T a.d a.root then a.splitRoot c else .ok (a, c)) :=
  .ite (splitRoot_errs.of_eq Bool.false_ne_true) .ok

/-- `Array.set`: an argument error leaves the array and the storage context as they were -/
theorem setP_reject (T i : Nat) (v : Elem) (st st' : Arr × Ctx) (e : AErr)
    (h : setP T i v st = (.error e, st')) (harg : e.isArg = true) : st' = st :=
  CleanAt.andThen (zoomRoot_clean (ATree.setP_clean T _ i v _)) (fun _ _ => .tail splitIfFull_errs.map) st' e h harg

theorem insertP_reject (T i : Nat) (v : Elem) (st st' : Arr × Ctx) (e : AErr)
    (h : insertP T i v st = (.error e, st')) (harg : e.isArg = true) : st' = st := by
  obtain ⟨a, c⟩ := st
  simp only [insertP] at h
  split at h
  · exact (Prod.mk.inj h).2.symm
  · exact CleanAt.andThen (zoomRoot_clean (ATree.insertP_clean T _ i v _)) (fun _ _ => .tail splitIfFull_errs.map)
      st' e h harg

theorem removeP_reject (T i : Nat) (st st' : Arr × Ctx) (e : AErr)
    (h : removeP T i st = (.error e, st')) (harg : e.isArg = true) : st' = st :=
  CleanAt.andThen (zoomRoot_clean (ATree.removeP_clean T _ i _)) (fun _ _ => .ok) st' e h harg

/-- One request, in place: a request refused because of its arguments leaves the array (every slab
    object of its tree) and the storage context (allocation counter, effect log = pending write set,
    created large-value slabs) exactly as they were. -/
theorem requestP_reject (T : Nat) (r : AReq) (st st' : Arr × Ctx) (e : AErr)
    (h : requestP T r st = (.error e, st')) (harg : e.isArg = true) : st' = st := by
  cases r with
  | get i =>
    simp only [requestP] at h
    split at h
    · cases (Prod.mk.inj h).1
    · exact (Prod.mk.inj h).2.symm
  | set i v => exact CleanAt.andThen (setP_reject T i v st) (fun _ _ => .ok) st' e h harg
  | insert i v => exact CleanAt.andThen (insertP_reject T i v st) (fun _ _ => .ok) st' e h harg
  | remove i => exact CleanAt.andThen (removeP_reject T i st) (fun _ _ => .ok) st' e h harg

end Arr

end Atree

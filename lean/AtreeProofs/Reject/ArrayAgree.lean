import AtreeProofs.Reject.Array
/-
  C18, arrays: the in-place programs agree with the functional model (`Array/Tree.lean`,
  `Array/Ops.lean`): the same error, or the same value and the same state.  So the no-trace
  theorems of `Reject/Array.lean` are about the SAME operations C01/C05/C09 are about, with the
  statement order made explicit.
-/
namespace Atree
open Gen

namespace DataSlab

theorem setP_agrees (T i : Nat) (v : Elem) (s : DataSlab) (c : Ctx) :
    Agrees (setP T i v (s, c)) ((s.set T i v c).map (fun x => (x.1, x.2))) := by
  simp only [setP, DataSlab.set]
  cases h : s.elems[i]? with
  | none => rfl
  | some old => rfl

theorem insertP_agrees (T i : Nat) (v : Elem) (s : DataSlab) (c : Ctx) :
    Agrees (insertP T i v (s, c)) ((s.insert T i v c).map (fun x => ((), x))) := by
  simp only [insertP, DataSlab.insert]
  split <;> rfl

theorem removeP_agrees (i : Nat) (s : DataSlab) (c : Ctx) :
    Agrees (removeP i (s, c)) ((s.remove i c).map (fun x => (x.1, x.2))) := by
  simp only [removeP, DataSlab.remove]
  cases h : s.elems[i]? with
  | none => rfl
  | some old => rfl

end DataSlab

namespace ATree
open MetaSlab

theorem setP_agrees (T : Nat) : ∀ (d : Nat) (i : Nat) (v : Elem) (t : ATree d) (c : Ctx),
    Agrees (setP T d i v (t, c)) ((set T d t i v c).map (fun x => (x.1, x.2)))
  | 0, i, v, t, c => DataSlab.setP_agrees T i v t c
  | d + 1, i, v, (m : MetaSlab (ATree d)), c => by
    simp only [setP, set, bind, Except.bind]
    cases MetaSlab.childSlabIndexInfo m i with
    | error e1 => exact .of_error rfl
    | ok ka =>
      obtain ⟨k, adj⟩ := ka
      dsimp only
      cases h2 : m.children[k]? with
      | none => exact .of_error rfl
      | some child =>
        dsimp only
        rcases (setP_agrees T d adj v child c).map_elim with
          ⟨e2, ⟨child', c'⟩, hs, hp⟩ | ⟨⟨old, child', c'⟩, hs, hp⟩ <;> rw [hs]
        · rw [zoomChild_err hp]
          exact .of_error rfl
        · rw [zoomChild_ok hp]
          dsimp only
          refine (agrees_tail _ _).of_eq ?_
          generalize afterSet T _ child' k c' = x
          cases x <;> rfl

/-- the functional counterpart of `insertAtP`: the part of `ATree.insert` (index slab) after the
    target child is known -/
def insertAt (T : Nat) {d : Nat} (m : MetaSlab (ATree d)) (k adj : Nat) (e : Elem) (c : Ctx) :
    Except AErr (MetaSlab (ATree d) × Ctx) :=
  match m.children[k]? with
  | none => .error .slabNotFound
  | some child => do
    let (child', c) ← insert T d child adj e c
    let m1 : MetaSlab (ATree d) :=
      { m with hdr := { m.hdr with count := m.hdr.count + 1 },
               countSum := bumpFrom k (· + 1) m.countSum,
               childHdrs := m.childHdrs.set k (hdr d child'),
               children := m.children.set k child' }
    if isFull T d child' then m1.splitChildSlab child' k c
    else return (m1, c.emit (.store m1.hdr.id))

theorem insert_succ (T d : Nat) (m : MetaSlab (ATree d)) (i : Nat) (e : Elem) (c : Ctx) :
    insert T (d + 1) m i e c =
      if i > m.hdr.count then .error .indexOutOfBounds
      else
        (if i = m.hdr.count then
          match m.childHdrs.getLast? with
          | some h => pure (m.childHdrs.length - 1, h.count)
          | none => .error .goPanic
        else m.childSlabIndexInfo i) >>= fun (ka : Nat × Nat) => insertAt T m ka.1 ka.2 e c := by
  rw [insert]
  split
  · rfl
  · by_cases hi : i = m.hdr.count
    · simp only [if_pos hi]
      cases m.childHdrs.getLast? <;> rfl
    · simp only [if_neg hi]
      cases MetaSlab.childSlabIndexInfo m i <;> rfl

theorem insertAtP_agrees (T : Nat) {d : Nat}
    (ih : ∀ i v t c, Agrees (insertP T d i v (t, c)) ((insert T d t i v c).map (fun x => ((), x))))
    (k adj : Nat) (v : Elem) (m : MetaSlab (ATree d)) (c : Ctx) :
    Agrees (insertAtP T (insertP T d) k adj v (m, c)) ((insertAt T m k adj v c).map (fun x => ((), x))) := by
  simp only [insertAtP, insertAt]
  cases h2 : m.children[k]? with
  | none => exact Agrees.of_error (e := AErr.slabNotFound) rfl
  | some child =>
    simp only [bind, Except.bind]
    rcases (ih adj v child c).map_elim with ⟨e2, ⟨child', c'⟩, hs, hp⟩ | ⟨⟨child', c'⟩, hs, hp⟩ <;> rw [hs]
    · rw [zoomChild_err hp]
      exact Agrees.of_error (e := e2) rfl
    · rw [zoomChild_ok hp]
      simp only
      refine Agrees.of_eq (agrees_tail _ _) ?_
      simp only [pure, Except.pure]
      split
      · generalize MetaSlab.splitChildSlab _ child' k c' = x
        cases x <;> rfl
      · rfl

theorem insertP_agrees (T : Nat) : ∀ (d : Nat) (i : Nat) (v : Elem) (t : ATree d) (c : Ctx),
    Agrees (insertP T d i v (t, c)) ((insert T d t i v c).map (fun x => ((), x)))
  | 0, i, v, t, c => DataSlab.insertP_agrees T i v t c
  | d + 1, i, v, (m : MetaSlab (ATree d)), c => by
    rw [insert_succ]
    simp only [insertP]
    split
    · exact Agrees.of_error (e := AErr.indexOutOfBounds) rfl
    · generalize (if i = m.hdr.count then
          match m.childHdrs.getLast? with
          | some h => (pure (m.childHdrs.length - 1, h.count) : Except AErr (Nat × Nat))
          | none => Except.error AErr.goPanic
        else MetaSlab.childSlabIndexInfo m i) = tgt
      cases tgt with
      | error e1 => exact Agrees.of_error (e := e1) rfl
      | ok ka =>
        obtain ⟨k, adj⟩ := ka
        exact insertAtP_agrees T (insertP_agrees T d) k adj v m c

theorem removeP_agrees (T : Nat) : ∀ (d : Nat) (i : Nat) (t : ATree d) (c : Ctx),
    Agrees (removeP T d i (t, c)) ((remove T d t i c).map (fun x => (x.1, x.2)))
  | 0, i, t, c => DataSlab.removeP_agrees i t c
  | d + 1, i, (m : MetaSlab (ATree d)), c => by
    simp only [removeP, remove]
    refine .map_ite (fun _ => .of_error rfl) fun _ => ?_
    simp only [bind, Except.bind]
    cases MetaSlab.childSlabIndexInfo m i with
    | error e1 => exact .of_error rfl
    | ok ka =>
      obtain ⟨k, adj⟩ := ka
      dsimp only
      cases h2 : m.children[k]? with
      | none => exact .of_error rfl
      | some child =>
        dsimp only
        rcases (removeP_agrees T d adj child c).map_elim with
          ⟨e2, ⟨child', c'⟩, hs, hp⟩ | ⟨⟨old, child', c'⟩, hs, hp⟩ <;> rw [hs]
        · rw [zoomChild_err hp]
          exact .of_error rfl
        · rw [zoomChild_ok hp]
          dsimp only
          refine (agrees_tail _ _).of_eq ?_
          cases isUnderflow T d child' with
          | none => rfl
          | some u =>
            dsimp only
            generalize MetaSlab.mergeOrRebalanceChildSlab T _ child' k u c' = x
            cases x <;> rfl

end ATree

namespace Arr
open Prog (andThen_ok andThen_err)

theorem setP_agrees (T i : Nat) (v : Elem) (a : Arr) (c : Ctx) :
    Agrees (setP T i v (a, c)) ((a.set T i v c).map (fun x => (x.1, x.2))) := by
  simp only [Arr.set, bind, Except.bind]
  rcases (ATree.setP_agrees T a.d i v a.root c).map_elim with
    ⟨e2, ⟨root', c'⟩, hs, hp⟩ | ⟨⟨old, root', c'⟩, hs, hp⟩ <;> rw [hs]
  · rw [setP, andThen_err (zoomRoot_eq (fun d => ATree.setP T d i v) a c _ root' c' hp)]
    exact Agrees.of_error rfl
  · rw [setP, andThen_ok (zoomRoot_eq (fun d => ATree.setP T d i v) a c _ root' c' hp)]
    simp only
    by_cases hfull : ATree.isFull T a.d root' = true
    · simp only [hfull, if_true]
      cases hsr : (⟨a.d, root', a.ty⟩ : Arr).splitRoot c' with
      | error e3 =>
        exact Agrees.of_error (congrArg Prod.fst (tail_err (e := e3) (by simp only [hfull, if_true, hsr, Except.map])))
      | ok r =>
        obtain ⟨a2, c2⟩ := r
        exact (tail_ok (a := old) (s' := a2.promoteIfSingleChild c2)
          (by simp only [hfull, if_true, hsr, Except.map]))
    · simp only [hfull, pure, Except.pure]
      exact (tail_ok (a := old) (s' := (⟨a.d, root', a.ty⟩ : Arr).promoteIfSingleChild c')
        (by simp only [hfull, Except.map]; rfl))

theorem insertP_agrees (T i : Nat) (v : Elem) (a : Arr) (c : Ctx) :
    Agrees (insertP T i v (a, c)) ((a.insert T i v c).map (fun x => ((), x))) := by
  simp only [insertP, Arr.insert]
  split
  · exact Agrees.of_error rfl
  · simp only [bind, Except.bind]
    rcases (ATree.insertP_agrees T a.d i v a.root c).map_elim with
      ⟨e2, ⟨root', c'⟩, hs, hp⟩ | ⟨⟨root', c'⟩, hs, hp⟩ <;> rw [hs]
    · rw [andThen_err (zoomRoot_eq (fun d => ATree.insertP T d i v) a c _ root' c' hp)]
      exact Agrees.of_error rfl
    · rw [andThen_ok (zoomRoot_eq (fun d => ATree.insertP T d i v) a c _ root' c' hp)]
      simp only
      by_cases hfull : ATree.isFull T a.d root' = true
      · simp only [hfull, if_true]
        cases hsr : (⟨a.d, root', a.ty⟩ : Arr).splitRoot c' with
        | error e3 =>
          exact Agrees.of_error (congrArg Prod.fst (tail_err (e := e3) (by simp only [hfull, if_true, hsr, Except.map])))
        | ok r =>
          exact (tail_ok (a := ()) (s' := r) (by simp only [hfull, if_true, hsr, Except.map]))
      · simp only [hfull, pure, Except.pure]
        exact (tail_ok (a := ()) (s' := ((⟨a.d, root', a.ty⟩ : Arr), c')) (by simp only [hfull, Except.map]; rfl))

theorem removeP_agrees (T i : Nat) (a : Arr) (c : Ctx) :
    Agrees (removeP T i (a, c)) ((a.remove T i c).map (fun x => (x.1, x.2))) := by
  simp only [Arr.remove, bind, Except.bind]
  rcases (ATree.removeP_agrees T a.d i a.root c).map_elim with
    ⟨e2, ⟨root', c'⟩, hs, hp⟩ | ⟨⟨old, root', c'⟩, hs, hp⟩ <;> rw [hs]
  · rw [removeP, andThen_err (zoomRoot_eq (fun d => ATree.removeP T d i) a c _ root' c' hp)]
    exact Agrees.of_error rfl
  · rw [removeP, andThen_ok (zoomRoot_eq (fun d => ATree.removeP T d i) a c _ root' c' hp)]
    exact agrees_ok rfl

/-- the in-place request and the functional request `Arr.request` (AtreeModel/Errors.lean):
    a served request gives the same answer and the same state; a refused one the same error. -/
theorem requestP_agrees (T : Nat) (r : AReq) (s : Arr × Ctx) :
    match (Arr.request T s r).2 with
    | .err e => (requestP T r s).1 = .error e
    | resp => requestP T r s = (.ok resp, (Arr.request T s r).1) := by
  obtain ⟨a, c⟩ := s
  cases r with
  | get i =>
    simp only [Arr.request, requestP]
    cases a.get i <;> rfl
  | set i v =>
    simp only [Arr.request, requestP]
    rcases (setP_agrees T i v a c).map_elim with ⟨e, s1, hs, hp⟩ | ⟨⟨old, a', c'⟩, hs, hp⟩ <;> rw [hs]
    · simp only [andThen_err hp]
    · simp only [andThen_ok hp, Prog.ret]
  | insert i v =>
    simp only [Arr.request, requestP]
    rcases (insertP_agrees T i v a c).map_elim with ⟨e, s1, hs, hp⟩ | ⟨⟨a', c'⟩, hs, hp⟩ <;> rw [hs]
    · simp only [andThen_err hp]
    · simp only [andThen_ok hp, Prog.ret]
  | remove i =>
    simp only [Arr.request, requestP]
    rcases (removeP_agrees T i a c).map_elim with ⟨e, s1, hs, hp⟩ | ⟨⟨old, a', c'⟩, hs, hp⟩ <;> rw [hs]
    · simp only [andThen_err hp]
    · simp only [andThen_ok hp, Prog.ret]

end Arr

end Atree

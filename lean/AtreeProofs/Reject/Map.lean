import AtreeProofs.Map.RepairPlan
import AtreeProofs.Reject.Prog
/-
  C18, maps: the in-place programs of `AtreeModel/Reject.lean` leave the state (every element,
  group, slab object and the storage context) exactly as it was when they return key-not-found or
  the collision-limit error – proved from the ORDER of their statements, by induction over the
  digest levels and over the depth of the slab tree.
-/
namespace Atree
open Gen Prog

/-- what the induction carries from one digest level to the next -/
structure RejSpec {α : Type} (p : ElemsProgs α) : Prop where
  set : ∀ cfg level k v (st st' : α × Ctx) (e : MErr),
    p.setP cfg level k v st = (.error e, st') → e.isArg = true → st' = st
  remove : ∀ cfg level k (st st' : α × Ctx) (e : MErr),
    p.removeP cfg level k st = (.error e, st') → e.isArg = true → st' = st

namespace SingleElems

theorem setP_clean {P : MErr → Prop} (cfg : MCfg) (level : Nat) (k : MKey) (v : Elem) (st : SingleElems × Ctx) :
    CleanAt P st (setP cfg level k v st) := by
  obtain ⟨s, c⟩ := st
  simp only [setP]
  refine .ite (fun _ => .error) fun _ => ?_
  split
  · split
    · exact .error
    · exact .ok
  · exact .ok

theorem removeP_clean {P : MErr → Prop} (cfg : MCfg) (level : Nat) (k : MKey) (st : SingleElems × Ctx) :
    CleanAt P st (removeP cfg level k st) := by
  obtain ⟨s, c⟩ := st
  simp only [removeP]
  refine .ite (fun _ => .error) fun _ => ?_
  split
  · split
    · exact .error
    · exact .ok
  · exact .error

theorem rejSpec : RejSpec progs :=
  ⟨fun cfg level k v st => setP_clean cfg level k v st, fun cfg level k st => removeP_clean cfg level k st⟩

end SingleElems

namespace MElemF
variable {α : Type} {o : ElemsOps α} {p : ElemsProgs α}

theorem inlSetP_clean (S : RejSpec p) (cfg : MCfg) (level : Nat) (k : MKey) (v : Elem) (st : α × Ctx) :
    CleanAt (·.isArg) st (inlSetP o p cfg level k v st) := by
  obtain ⟨g, c⟩ := st
  simp only [inlSetP]
  refine .ite (fun _ => .error) fun _ => ?_
  rcases CleanAt.cases (S.set cfg (level + 1) k v (g, c)) with ⟨⟨ks, old⟩, ⟨g', c'⟩, hp⟩ | ⟨e, st', hp, hs⟩ <;>
    simp only [hp]
  · exact .ite (fun _ => .ok) fun _ => .ok
  · exact .error_of hs

/-- `element.Set`: an argument error leaves the element object (and its group slab) and the
    storage context as they were -/
theorem setP_clean (S : RejSpec p) (cfg : MCfg) (level : Nat) (k : MKey) (v : Elem) (st : MElemF α × Ctx) :
    CleanAt (·.isArg) st (setP o p cfg level k v st) := by
  obtain ⟨el, c⟩ := st
  cases el with
  | single x =>
    simp only [setP]
    refine .ite (fun _ => .ok) fun _ => ?_
    cases o.newWith cfg (level + 1) x with
    | error e1 => exact .error
    | ok g =>
      rcases (inlSetP_clean (o := o) S cfg level k v (g, c)).cases with
        ⟨⟨el', ks, old⟩, ⟨g', c'⟩, hp⟩ | ⟨e, ⟨g', c'⟩, hp, hs⟩ <;> simp only [hp]
      · exact .ok
      · exact .error_of fun he => by cases hs he; rfl
  | inl g =>
    simp only [setP]
    rcases (inlSetP_clean (o := o) S cfg level k v (g, c)).cases with
      ⟨⟨el', ks, old⟩, ⟨g', c'⟩, hp⟩ | ⟨e, ⟨g', c'⟩, hp, hs⟩ <;> simp only [hp]
    · exact .ok
    · exact .error_of fun he => by cases hs he; rfl
  | ext id sz s =>
    simp only [setP]
    refine .ite (fun _ => .error) fun _ => ?_
    rcases CleanAt.cases (S.set cfg (level + 1) k v (s.elems, c)) with
      ⟨⟨ks, old⟩, ⟨g', c'⟩, hp⟩ | ⟨e, ⟨g', c'⟩, hp, hs⟩ <;> simp only [hp]
    · exact .ok
    · exact .error_of fun he => by cases hs he; rfl

/-- `element.Remove` -/
theorem removeP_clean (S : RejSpec p) (cfg : MCfg) (level : Nat) (k : MKey) (st : Option (MElemF α) × Ctx) :
    CleanAt (·.isArg) st (removeP o p cfg level k st) := by
  obtain ⟨el?, c⟩ := st
  cases el? with
  | none => exact .error
  | some el =>
    cases el with
    | single x =>
      simp only [removeP]
      exact .ite (fun _ => .ok) fun _ => .error
    | inl g =>
      simp only [removeP]
      refine .ite (fun _ => .error) fun _ => ?_
      rcases CleanAt.cases (S.remove cfg (level + 1) k (g, c)) with
        ⟨⟨rk, rv⟩, ⟨g', c'⟩, hp⟩ | ⟨e, ⟨g', c'⟩, hp, hs⟩ <;> simp only [hp]
      · split <;> exact .ok
      · exact .error_of fun he => by cases hs he; rfl
    | ext id sz s =>
      simp only [removeP]
      refine .ite (fun _ => .error) fun _ => ?_
      rcases CleanAt.cases (S.remove cfg (level + 1) k (s.elems, c)) with
        ⟨⟨rk, rv⟩, ⟨g', c'⟩, hp⟩ | ⟨e, ⟨g', c'⟩, hp, hs⟩ <;> simp only [hp]
      · split <;> exact .ok
      · exact .error_of fun he => by cases hs he; rfl

end MElemF

namespace HkeyElems
variable {α : Type} {o : ElemsOps α} {p : ElemsProgs α}

/-- `hkeyElements.Set`: the collision-limit error (and key-not-found, which it never returns) leaves
    the table, its elements and the storage context as they were.  (The insertion of a new element,
    `fresh`, always succeeds: its body is forgotten before the search is taken apart.) -/
theorem setP_clean (S : RejSpec p) (cfg : MCfg) (level : Nat) (k : MKey) (v : Elem) (st : HkeyElems α × Ctx) :
    CleanAt (·.isArg) st (setP o p cfg level k v st) := by
  obtain ⟨he, c⟩ := st
  simp -zeta only [setP]
  refine .ite (fun _ => .error) fun _ => ?_
  extract_lets hkey e0 fresh
  have hfresh : ∀ idx, CleanAt (fun e : MErr => e.isArg) (he, c) (fresh idx) := fun _ => .ok
  clear_value fresh
  cases he.hkeys.head? with
  | none => exact hfresh 0
  | some first =>
  cases he.hkeys.getLast? with
  | none => exact hfresh 0
  | some last =>
  refine .ite (fun _ => hfresh 0) fun _ => .ite (fun _ => hfresh _) fun _ => ?_
  cases findEqLt he.hkeys hkey 0 he.hkeys.length 0 (he.hkeys.length + 1) with
  | mk r lt =>
  cases r with
  | none => exact hfresh lt
  | some i =>
  dsimp -zeta only
  cases hel : he.elems[i]? with
  | none => exact .error
  | some el =>
  dsimp -zeta only
  extract_lets n refused
  clear_value refused
  cases refused with
  | some err => exact .error
  | none =>
    dsimp only
    rcases (MElemF.setP_clean (o := o) S cfg level k v (el, c)).cases with
      ⟨⟨ks, old⟩, ⟨el', c'⟩, hp⟩ | ⟨e, ⟨el', c'⟩, hp, hs⟩ <;> simp only [hp]
    · exact .ok
    · refine .error_of fun harg => ?_
      cases hs harg
      rw [set_self_of_get hel]

/-- `hkeyElements.Remove`: key-not-found leaves everything as it was -/
theorem removeP_clean (S : RejSpec p) (cfg : MCfg) (level : Nat) (k : MKey) (st : HkeyElems α × Ctx) :
    CleanAt (·.isArg) st (removeP o p cfg level k st) := by
  obtain ⟨he, c⟩ := st
  simp only [removeP]
  refine .ite (fun _ => .error) fun _ => ?_
  cases he.hkeys.head? with
  | none => exact .error
  | some first =>
  cases he.hkeys.getLast? with
  | none => exact .error
  | some last =>
  refine .ite (fun _ => .error) fun _ => ?_
  cases findEq he.hkeys (k.dig level) 0 he.hkeys.length (he.hkeys.length + 1) with
  | none => exact .error
  | some i =>
  dsimp only
  cases hel : he.elems[i]? with
  | none => exact .error
  | some el =>
    dsimp only
    rcases (MElemF.removeP_clean (o := o) S cfg level k (some el, c)).cases with
      ⟨⟨rk, rv⟩, ⟨el', c'⟩, hp⟩ | ⟨e, ⟨el', c'⟩, hp, hs⟩ <;> simp only [hp]
    · cases el' <;> exact .ok
    · refine .error_of fun harg => ?_
      cases hs harg
      rw [Option.getD_some, set_self_of_get hel]

theorem rejSpec (S : RejSpec p) : RejSpec (progs o p) :=
  ⟨fun cfg level k v st => setP_clean S cfg level k v st, fun cfg level k st => removeP_clean S cfg level k st⟩

end HkeyElems

theorem MElems.rejSpec : ∀ r : Nat, RejSpec (MElems.progs r)
  | 0 => SingleElems.rejSpec
  | r + 1 => HkeyElems.rejSpec (MElems.rejSpec r)

namespace MDataSlab
variable {r : Nat}

theorem setP_clean (cfg : MCfg) (k : MKey) (v : Elem) (st : MDataSlab r × Ctx) :
    CleanAt (·.isArg) st (setP cfg k v st) := by
  obtain ⟨s, c⟩ := st
  simp only [setP]
  rcases (HkeyElems.setP_clean (o := MElems.ops r) (MElems.rejSpec r) cfg 0 k v (s.elems, c)).cases with
    ⟨⟨ks, old⟩, ⟨el', c'⟩, hp⟩ | ⟨e, ⟨el', c'⟩, hp, hs⟩ <;> simp only [hp]
  · exact .ok
  · exact .error_of fun he => by cases hs he; rfl

theorem removeP_clean (cfg : MCfg) (k : MKey) (st : MDataSlab r × Ctx) :
    CleanAt (·.isArg) st (removeP cfg k st) := by
  obtain ⟨s, c⟩ := st
  simp only [removeP]
  rcases (HkeyElems.removeP_clean (o := MElems.ops r) (MElems.rejSpec r) cfg 0 k (s.elems, c)).cases with
    ⟨⟨ks, old⟩, ⟨el', c'⟩, hp⟩ | ⟨e, ⟨el', c'⟩, hp, hs⟩ <;> simp only [hp]
  · exact .ok
  · exact .error_of fun he => by cases hs he; rfl

end MDataSlab

theorem MDataSlab.split_errs {r : Nat} {s : MDataSlab r} {c : Ctx} : ErrsIn (· = .slabSplit) (s.split c) := by
  unfold MDataSlab.split
  exact .ite (.error rfl) .ok

theorem MMetaSlab.split_errs {α : Type} {m : MMetaSlab α} {c : Ctx} : ErrsIn (· = .slabSplit) (m.split c) := by
  unfold MMetaSlab.split
  exact .ite (.error rfl) .ok

theorem MTree.split_errs {r : Nat} : ∀ (d : Nat) (t : MTree r d) (c : Ctx), ErrsIn (· = .slabSplit) (MTree.split d t c)
  | 0, _, _ => MDataSlab.split_errs
  | _ + 1, _, _ => MMetaSlab.split_errs

theorem HkeyElems.lendToRight_errs {α : Type} {o : ElemsOps α} {T : Nat} {l r : HkeyElems α} :
    ErrsIn (· = .slabRebalance) (HkeyElems.lendToRight o T l r) := by
  unfold HkeyElems.lendToRight
  exact .ite (.error rfl) .ok

theorem HkeyElems.borrowFromRight_errs {α : Type} {o : ElemsOps α} {T : Nat} {l r : HkeyElems α} :
    ErrsIn (· = .slabRebalance) (HkeyElems.borrowFromRight o T l r) := by
  unfold HkeyElems.borrowFromRight
  exact .ite (.error rfl) .ok

theorem MTree.lendToRight_errs {r : Nat} {T : Nat} : ∀ (d : Nat) (l rr : MTree r d),
    ErrsIn (· = .slabRebalance) (MTree.lendToRight T d l rr)
  | 0, _, _ => HkeyElems.lendToRight_errs.bind fun _ => .ok
  | _ + 1, _, _ => .ok

theorem MTree.borrowFromRight_errs {r : Nat} {T : Nat} : ∀ (d : Nat) (l rr : MTree r d),
    ErrsIn (· = .slabRebalance) (MTree.borrowFromRight T d l rr)
  | 0, _, _ => HkeyElems.borrowFromRight_errs.bind fun _ => .ok
  | _ + 1, _, _ => .ok

namespace MMetaSlab
variable {r d : Nat} {T : Nat} {m : MMetaSlab (MTree r d)} {child : MTree r d} {k : Nat} {c : Ctx}

theorem splitChildSlab_errs : ErrsIn (· = .slabSplit) (m.splitChildSlab child k c) :=
  (MTree.split_errs d child c).bind fun _ => .ok

theorem rebalanceChildren_errs {a b : MTree r d} {li ri : Nat} {bw : Bool} :
    ErrsIn (· = .slabRebalance) (rebalanceChildren T m a b li ri bw c) := by
  unfold rebalanceChildren
  exact .ite ((MTree.borrowFromRight_errs d a b).bind fun _ => .ok) ((MTree.lendToRight_errs d a b).bind fun _ => .ok)

/-- `MergeOrRebalanceChildSlab` fails when the child has no sibling at all, or when the re-balancing
    does. -/
theorem mergeOrRebalanceChildSlab_errs {u : Nat} :
    ErrsIn (fun e => e = .goPanic ∨ e = .slabRebalance) (m.mergeOrRebalanceChildSlab T child k u c) := by
  have hr {a b : MTree r d} {li ri : Nat} {bw : Bool} :
      ErrsIn (fun e => e = .goPanic ∨ e = .slabRebalance) (rebalanceChildren T m a b li ri bw c) :=
    rebalanceChildren_errs.mono fun _ => Or.inr
  rw [mor_eq_plan]
  generalize Core.plan _ _ _ _ _ = p
  cases p with
  | panic => exact .error (.inl rfl)
  | rebalL l => exact (hr : ErrsIn _ (rebalanceChildren T m l child (k - 1) k false c))
  | rebalR x => exact (hr : ErrsIn _ (rebalanceChildren T m child x k (k + 1) true c))
  | mergeL _ | mergeR _ => exact .ok

theorem afterChild_errs : ErrsIn (fun e => ¬ e.isArg) (m.afterChild T child k c) := by
  unfold afterChild
  refine .ite (splitChildSlab_errs.of_eq Bool.false_ne_true) ?_
  split
  · exact mergeOrRebalanceChildSlab_errs.mono fun e he => by rcases he with rfl | rfl <;> exact Bool.false_ne_true
  · exact .ok

end MMetaSlab

theorem OMap.splitRootIfFull_errs {r : Nat} {T : Nat} {m : OMap r} {c : Ctx} :
    ErrsIn (· = .slabSplit) (m.splitRootIfFull T c) :=
  .ite ((MTree.split_errs _ _ _).bind fun _ => .ok) .ok

namespace MTree
variable {r : Nat}

theorem zoomChild_ok {α : Type} {d k : Nat} {child child' : MTree r d} {p : Prog (MTree r d × Ctx) MErr α}
    {m : MMetaSlab (MTree r d)} {c c' : Ctx} {a : α} (h : p (child, c) = (.ok a, (child', c'))) :
    zoomChild k child p (m, c) = (.ok (a, child'), ({ m with children := m.children.set k child' }, c')) := by
  simp only [zoomChild, h]

theorem zoomChild_err {α : Type} {d k : Nat} {child child' : MTree r d} {p : Prog (MTree r d × Ctx) MErr α}
    {m : MMetaSlab (MTree r d)} {c c' : Ctx} {e : MErr} (h : p (child, c) = (.error e, (child', c'))) :
    zoomChild k child p (m, c) = (.error e, ({ m with children := m.children.set k child' }, c')) := by
  simp only [zoomChild, h]

theorem zoomChild_clean {P : MErr → Prop} {α : Type} {d k : Nat} {child : MTree r d}
    {p : Prog (MTree r d × Ctx) MErr α} {m : MMetaSlab (MTree r d)} {c : Ctx} (hk : m.children[k]? = some child)
    (h : CleanAt P (child, c) (p (child, c))) : CleanAt P (m, c) (zoomChild k child p (m, c)) := by
  rcases h.cases with ⟨a, ⟨child', c'⟩, hp⟩ | ⟨e, ⟨child', c'⟩, hp, hs⟩
  · rw [zoomChild_ok hp]; exact .ok
  · rw [zoomChild_err hp]
    refine .error_of fun he => ?_
    cases hs he
    rw [set_self_of_get hk]

/-- `MapSlab.Set`: the collision-limit error leaves every slab object and the storage context as
    they were -/
theorem setP_clean (cfg : MCfg) : ∀ (d : Nat) (k : MKey) (v : Elem) (st : MTree r d × Ctx),
    CleanAt (·.isArg) st (setP cfg d k v st)
  | 0, k, v, st => MDataSlab.setP_clean cfg k v st
  | d + 1, k, v, ((m : MMetaSlab (MTree r d)), c) => by
    simp only [setP]
    generalize (MMetaSlab.findChild m.childHdrs (k.dig 0) 0 m.childHdrs.length (some 0)
      (m.childHdrs.length + 1)).getD 0 = i
    cases h2 : m.children[i]? with
    | none => exact .error
    | some child =>
      dsimp only
      rcases (zoomChild_clean (m := m) h2 (setP_clean cfg d k v (child, c))).cases with
        ⟨⟨⟨ks, old⟩, child'⟩, st', hp⟩ | ⟨e, st', hp, hs⟩ <;> simp only [hp]
      · exact .tail MMetaSlab.afterChild_errs.map
      · exact .error_of hs

/-- `MapSlab.Remove`: key-not-found leaves every slab object and the storage context as they were -/
theorem removeP_clean (cfg : MCfg) : ∀ (d : Nat) (k : MKey) (st : MTree r d × Ctx),
    CleanAt (·.isArg) st (removeP cfg d k st)
  | 0, k, st => MDataSlab.removeP_clean cfg k st
  | d + 1, k, ((m : MMetaSlab (MTree r d)), c) => by
    simp only [removeP]
    cases MMetaSlab.findChild m.childHdrs (k.dig 0) 0 m.childHdrs.length none (m.childHdrs.length + 1) with
    | none => exact .error
    | some i =>
      dsimp only
      cases h2 : m.children[i]? with
      | none => exact .error
      | some child =>
        dsimp only
        rcases (zoomChild_clean (m := m) h2 (removeP_clean cfg d k (child, c))).cases with
          ⟨⟨⟨rk, rv⟩, child'⟩, st', hp⟩ | ⟨e, st', hp, hs⟩ <;> simp only [hp]
        · exact .tail MMetaSlab.afterChild_errs.map
        · exact .error_of hs

end MTree

namespace OMap
variable {r : Nat}

theorem zoomRoot_eq {α : Type} (p : (d : Nat) → Prog (MTree r d × Ctx) MErr α) (m : OMap r) (c : Ctx)
    (x : Except MErr α) (root' : MTree r m.d) (c' : Ctx) (h : p m.d (m.root, c) = (x, (root', c'))) :
    zoomRoot p (m, c) = (x, ({ m with root := root' }, c')) := by
  simp only [zoomRoot, h]

theorem zoomRoot_clean {P : MErr → Prop} {α : Type} {p : (d : Nat) → Prog (MTree r d × Ctx) MErr α} {m : OMap r}
    {c : Ctx} (h : CleanAt P (m.root, c) (p m.d (m.root, c))) : CleanAt P (m, c) (zoomRoot p (m, c)) := by
  rcases h.cases with ⟨x, ⟨root', c'⟩, hp⟩ | ⟨e, ⟨root', c'⟩, hp, hs⟩ <;> rw [zoomRoot_eq p m c _ root' c' hp]
  · exact .ok
  · refine .error_of fun he => ?_
    cases hs he
    rfl

/-- the tail of `OrderedMap.set` / `remove`: promote a single child, split a full root -/
theorem rootTail_errs {α : Type} {T : Nat} {st : OMap r × Ctx} {a : α} :
    ErrsIn (fun e => ¬ e.isArg)
      ((let (m2, c) := st.1.promoteIfSingleChild st.2; (m2.splitRootIfFull T c).map (fun x => (a, x)))) :=
  (splitRootIfFull_errs.of_eq Bool.false_ne_true).map

/-- `OrderedMap.set`: a refusal by the collision limit leaves the map (every element, group and slab
    object, the count) and the storage context (allocation counter, effect log = pending write set,
    created large-value slabs) exactly as they were. -/
theorem setP_reject (cfg : MCfg) (k : MKey) (v : Elem) (st st' : OMap r × Ctx) (e : MErr)
    (h : setP cfg k v st = (.error e, st')) (harg : e.isArg = true) : st' = st :=
  CleanAt.andThen (zoomRoot_clean (MTree.setP_clean cfg _ k v _))
    (fun _ _ => .assign_andThen (.tail rootTail_errs)) st' e h harg

/-- `OrderedMap.remove`: key-not-found leaves the map and the storage context exactly as they were. -/
theorem removeP_reject (cfg : MCfg) (k : MKey) (st st' : OMap r × Ctx) (e : MErr)
    (h : removeP cfg k st = (.error e, st')) (harg : e.isArg = true) : st' = st :=
  CleanAt.andThen (zoomRoot_clean (MTree.removeP_clean cfg _ k _))
    (fun _ _ => .assign_andThen (.tail rootTail_errs)) st' e h harg

end OMap

end Atree

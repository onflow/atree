import AtreeProofs.Reject.ArrayAgree
import AtreeProofs.Reject.Map
/-
  C18, maps: the in-place programs agree with the functional map model (`Map/Elems.lean`,
  `Map/Tree.lean`, `Map/Ops.lean`): the same error, or the same values and the same state.
-/
namespace Atree
open Gen
open Prog (andThen_ok andThen_err)

/-- what the induction carries from one digest level to the next -/
structure AgreeSpec {α : Type} (o : ElemsOps α) (p : ElemsProgs α) : Prop where
  set : ∀ cfg level k v (e : α) (c : Ctx),
    Agrees (p.setP cfg level k v (e, c))
      ((o.set cfg e level k v c).map (fun x => ((x.1, x.2.1), (x.2.2.1, x.2.2.2))))
  remove : ∀ cfg level k (e : α) (c : Ctx),
    Agrees (p.removeP cfg level k (e, c))
      ((o.remove cfg e level k c).map (fun x => ((x.1, x.2.1), (x.2.2.1, x.2.2.2))))

namespace SingleElems

theorem setP_agrees (cfg : MCfg) (level : Nat) (k : MKey) (v : Elem) (e : SingleElems) (c : Ctx) :
    Agrees (setP cfg level k v (e, c))
      ((set cfg e level k v c).map (fun x => ((x.1, x.2.1), (x.2.2.1, x.2.2.2)))) := by
  simp only [setP, set]
  by_cases hl : level ≠ cfg.L
  · simp only [if_pos hl]
    exact Agrees.of_error (e := MErr.hashLevel) rfl
  · simp only [if_neg hl]
    cases hf : e.elems.findIdx? (fun x => x.key.same k) with
    | none => rfl
    | some i =>
      simp only
      cases hx : e.elems[i]? with
      | none => exact Agrees.of_error (e := MErr.goPanic) rfl
      | some x => rfl

theorem removeP_agrees (cfg : MCfg) (level : Nat) (k : MKey) (e : SingleElems) (c : Ctx) :
    Agrees (removeP cfg level k (e, c))
      ((remove cfg e level k c).map (fun x => ((x.1, x.2.1), (x.2.2.1, x.2.2.2)))) := by
  simp only [removeP, remove]
  by_cases hl : level ≠ cfg.L
  · simp only [if_pos hl]
    exact Agrees.of_error (e := MErr.hashLevel) rfl
  · simp only [if_neg hl]
    cases hf : e.elems.findIdx? (fun x => x.key.same k) with
    | none => exact Agrees.of_error (e := MErr.keyNotFound) rfl
    | some i =>
      simp only
      cases hx : e.elems[i]? with
      | none => exact Agrees.of_error (e := MErr.goPanic) rfl
      | some x => rfl

theorem agreeSpec : AgreeSpec ops progs := ⟨setP_agrees, removeP_agrees⟩

end SingleElems

namespace MElemF
variable {α : Type} {o : ElemsOps α} {p : ElemsProgs α}

theorem inlSetP_agrees (S : AgreeSpec o p) (cfg : MCfg) (level : Nat) (k : MKey) (v : Elem) (g : α) (c : Ctx) :
    (∀ el' ks old c', inlSet o cfg g level k v c = .ok (el', ks, old, c') →
      ∃ g', inlSetP o p cfg level k v (g, c) = (.ok (el', ks, old), (g', c'))) ∧
    (∀ e, inlSet o cfg g level k v c = .error e → (inlSetP o p cfg level k v (g, c)).1 = .error e) := by
  simp only [inlSet, inlSetP, bind, Except.bind, throw, throwThe, MonadExceptOf.throw, pure, Except.pure]
  by_cases hl : level + 1 > cfg.L
  · simp only [if_pos hl]
    exact ⟨fun _ _ _ _ h => (by cases h), fun e h => (by cases h; rfl)⟩
  · simp only [if_neg hl]
    rcases (S.set cfg (level + 1) k v g c).map_elim with
      ⟨e2, st, hs, hp⟩ | ⟨⟨ks, old, g', c'⟩, hs, hp⟩ <;> rw [hs] <;> simp only [hp]
    · exact ⟨fun _ _ _ _ h => (by cases h), fun e h => (by cases h; rfl)⟩
    · by_cases hx : (level + 1 == 1 && decide (inlineCollisionGroupPrefixSize + o.size g' > maxInlineMapElem cfg.T)) = true
      · simp only [if_pos hx]
        exact ⟨fun _ _ _ _ h => (by cases h; exact ⟨_, rfl⟩), fun e h => (by cases h)⟩
      · simp only [if_neg hx]
        exact ⟨fun _ _ _ _ h => (by cases h; exact ⟨_, rfl⟩), fun e h => (by cases h)⟩

/-- the shared end of `single` (after the group is born) and `inl` -/
theorem setP_via_inl (S : AgreeSpec o p) (cfg : MCfg) (level : Nat) (k : MKey) (v : Elem) (g : α) (c : Ctx)
    (keep : α → MElemF α) :
    Agrees
      (match inlSetP o p cfg level k v (g, c) with
       | (.error e, (g, c)) => (.error e, (keep g, c))
       | (.ok (el', ks, old), (_, c)) => (.ok (ks, old), (el', c)))
      ((inlSet o cfg g level k v c).map (fun x => ((x.2.1, x.2.2.1), (x.1, x.2.2.2)))) := by
  obtain ⟨h1, h2⟩ := inlSetP_agrees S cfg level k v g c
  cases hs : inlSet o cfg g level k v c with
  | error e2 =>
    obtain ⟨⟨g', c'⟩, hp⟩ := fst_error_cases (h2 e2 hs)
    rw [hp]
    exact Agrees.of_error (e := e2) rfl
  | ok res =>
    obtain ⟨el', ks, old, c'⟩ := res
    obtain ⟨g', hp⟩ := h1 el' ks old c' hs
    rw [hp]
    exact agrees_ok rfl

/-- `element.Set` -/
theorem setP_agrees (S : AgreeSpec o p) (cfg : MCfg) (level : Nat) (k : MKey) (v : Elem) (el : MElemF α) (c : Ctx) :
    Agrees (setP o p cfg level k v (el, c))
      ((set o cfg el level k v c).map (fun x => ((x.2.1, x.2.2.1), (x.1, x.2.2.2)))) := by
  cases el with
  | single x =>
    simp only [setP, set]
    by_cases hsame : x.key.same k = true
    · simp only [if_pos hsame]
      exact agrees_ok rfl
    · simp only [if_neg hsame, bind, Except.bind]
      cases hn : o.newWith cfg (level + 1) x with
      | error e1 => exact Agrees.of_error (e := e1) rfl
      | ok g => exact setP_via_inl S cfg level k v g c (fun _ => .single x)
  | inl g =>
    simp only [setP, set]
    exact setP_via_inl S cfg level k v g c (fun g => .inl g)
  | ext id sz s =>
    simp only [setP, set, bind, Except.bind, throw, throwThe, MonadExceptOf.throw, pure, Except.pure]
    by_cases hl : level + 1 > cfg.L
    · simp only [if_pos hl]
      exact Agrees.of_error (e := MErr.hashLevel) rfl
    · simp only [if_neg hl]
      rcases (S.set cfg (level + 1) k v s.elems c).map_elim with
        ⟨e2, ⟨g', c'⟩, hs, hp⟩ | ⟨⟨ks, old, g', c'⟩, hs, hp⟩ <;> rw [hs] <;> simp only [hp]
      · exact Agrees.of_error (e := e2) rfl
      · exact agrees_ok rfl

/-- `element.Remove` -/
theorem removeP_agrees (S : AgreeSpec o p) (cfg : MCfg) (level : Nat) (k : MKey) (el : MElemF α) (c : Ctx) :
    Agrees (removeP o p cfg level k (some el, c))
      ((remove o cfg el level k c).map (fun x => ((x.1, x.2.1), (x.2.2.1, x.2.2.2)))) := by
  cases el with
  | single x =>
    simp only [removeP, remove]
    by_cases hsame : x.key.same k = true
    · simp only [if_pos hsame]; exact agrees_ok rfl
    · simp only [if_neg hsame]; exact Agrees.of_error (e := MErr.keyNotFound) rfl
  | inl g =>
    simp only [removeP, remove, bind, Except.bind, throw, throwThe, MonadExceptOf.throw, pure, Except.pure]
    refine .map_ite (fun _ => .of_error rfl) fun _ => ?_
    rcases (S.remove cfg (level + 1) k g c).map_elim with
      ⟨e2, ⟨g', c'⟩, hs, hp⟩ | ⟨⟨rk, rv, g', c'⟩, hs, hp⟩ <;> rw [hs, hp]
    · exact .of_error rfl
    · dsimp only
      cases o.soleSingle g' <;> exact agrees_ok rfl
  | ext id sz s =>
    simp only [removeP, remove, bind, Except.bind, throw, throwThe, MonadExceptOf.throw, pure, Except.pure]
    refine .map_ite (fun _ => .of_error rfl) fun _ => ?_
    rcases (S.remove cfg (level + 1) k s.elems c).map_elim with
      ⟨e2, ⟨g', c'⟩, hs, hp⟩ | ⟨⟨rk, rv, g', c'⟩, hs, hp⟩ <;> rw [hs, hp]
    · exact .of_error rfl
    · dsimp only
      cases o.soleSingle g' <;> exact agrees_ok rfl

end MElemF

namespace HkeyElems
variable {α : Type} {o : ElemsOps α} {p : ElemsProgs α}

/-- `hkeyElements.Set`.  Program and model walk the table alike; the insertion of a new element
    (`fresh` / `insertNew`) is compared once, and at a digest that is present the outcome of
    `elem.Set` is fixed before the collision-limit check is taken apart. -/
theorem setP_agrees (S : AgreeSpec o p) (cfg : MCfg) (level : Nat) (k : MKey) (v : Elem) (e : HkeyElems α) (c : Ctx) :
    Agrees (setP o p cfg level k v (e, c))
      ((set o cfg e level k v c).map (fun x => ((x.1, x.2.1), (x.2.2.1, x.2.2.2)))) := by
  simp -zeta only [setP, set]
  refine .map_ite (fun _ => .of_error rfl) fun _ => ?_
  extract_lets hkey e0 fresh
  have hfresh : ∀ idx, Agrees (fresh idx)
      ((Except.ok (insertNew cfg e idx hkey k v c)).map (fun x => ((x.1, x.2.1), (x.2.2.1, x.2.2.2)))) :=
    fun _ => agrees_ok rfl
  clear_value fresh
  cases e.hkeys.head? with
  | none => exact hfresh 0
  | some first =>
  cases e.hkeys.getLast? with
  | none => exact hfresh 0
  | some last =>
  refine .map_ite (fun _ => hfresh 0) fun _ => .map_ite (fun _ => hfresh _) fun _ => ?_
  cases findEqLt e.hkeys hkey 0 e.hkeys.length 0 (e.hkeys.length + 1) with
  | mk r lt =>
  cases r with
  | none => exact hfresh lt
  | some i =>
  dsimp -zeta only
  cases hel : e.elems[i]? with
  | none => exact .of_error rfl
  | some el =>
  dsimp -zeta only
  rcases (MElemF.setP_agrees S cfg level k v el c).map_elim with ⟨e2, s2, hf, hp⟩ | ⟨r, hf, hp⟩ <;> rw [hf, hp]
  -- every leaf of the limit check is an error on both sides, or the outcome of `elem.Set` on both
  all_goals
    dsimp only
    cases e.level == 0 with
    | false => first | exact .of_error rfl | exact agrees_ok rfl
    | true =>
      cases MElemF.count o el == 0 with
      | true => exact .of_error rfl
      | false =>
        by_cases hc : MElemF.count o el - 1 ≥ cfg.climit
        · simp only [if_pos hc]
          cases MElemF.get o cfg el level k with
          | ok _ => first | exact .of_error rfl | exact agrees_ok rfl
          | error eg => cases eg <;> first | exact .of_error rfl | exact agrees_ok rfl
        · simp only [if_neg hc]
          first | exact .of_error rfl | exact agrees_ok rfl

/-- `hkeyElements.Remove` -/
theorem removeP_agrees (S : AgreeSpec o p) (cfg : MCfg) (level : Nat) (k : MKey) (e : HkeyElems α) (c : Ctx) :
    Agrees (removeP o p cfg level k (e, c))
      ((remove o cfg e level k c).map (fun x => ((x.1, x.2.1), (x.2.2.1, x.2.2.2)))) := by
  simp only [removeP, remove]
  refine .map_ite (fun _ => .of_error rfl) fun _ => ?_
  cases e.hkeys.head? with
  | none => exact .of_error rfl
  | some first =>
  cases e.hkeys.getLast? with
  | none => exact .of_error rfl
  | some last =>
  refine .map_ite (fun _ => .of_error rfl) fun _ => ?_
  cases findEq e.hkeys (k.dig level) 0 e.hkeys.length (e.hkeys.length + 1) with
  | none => exact .of_error rfl
  | some i =>
  dsimp only
  cases hel : e.elems[i]? with
  | none => exact .of_error rfl
  | some el =>
    dsimp only
    rcases (MElemF.removeP_agrees S cfg level k el c).map_elim with
      ⟨e2, ⟨el', c'⟩, hs, hp⟩ | ⟨⟨rk, rv, el', c'⟩, hs, hp⟩ <;> rw [hs, hp]
    · exact .of_error rfl
    · cases el' <;> exact agrees_ok rfl

theorem agreeSpec (S : AgreeSpec o p) : AgreeSpec (ops o) (progs o p) :=
  ⟨setP_agrees S, removeP_agrees S⟩

end HkeyElems

theorem MElems.agreeSpec : ∀ r : Nat, AgreeSpec (MElems.ops r) (MElems.progs r)
  | 0 => SingleElems.agreeSpec
  | r + 1 => HkeyElems.agreeSpec (MElems.agreeSpec r)

namespace MDataSlab
variable {r : Nat}

theorem setP_agrees (cfg : MCfg) (k : MKey) (v : Elem) (s : MDataSlab r) (c : Ctx) :
    Agrees (setP cfg k v (s, c)) ((s.set cfg k v c).map (fun x => ((x.1, x.2.1), (x.2.2.1, x.2.2.2)))) := by
  simp only [setP, set, bind, Except.bind, pure, Except.pure]
  rcases (HkeyElems.setP_agrees (MElems.agreeSpec r) cfg 0 k v s.elems c).map_elim with
    ⟨e2, ⟨el', c'⟩, hs, hp⟩ | ⟨⟨ks, old, el', c'⟩, hs, hp⟩ <;>
    rw [show HkeyElems.set (eops r) cfg s.elems 0 k v c = _ from hs, hp]
  · exact Agrees.of_error (e := e2) rfl
  · exact agrees_ok rfl

theorem removeP_agrees (cfg : MCfg) (k : MKey) (s : MDataSlab r) (c : Ctx) :
    Agrees (removeP cfg k (s, c)) ((s.remove cfg k c).map (fun x => ((x.1, x.2.1), (x.2.2.1, x.2.2.2)))) := by
  simp only [removeP, remove, bind, Except.bind, pure, Except.pure]
  rcases (HkeyElems.removeP_agrees (MElems.agreeSpec r) cfg 0 k s.elems c).map_elim with
    ⟨e2, ⟨el', c'⟩, hs, hp⟩ | ⟨⟨rk, rv, el', c'⟩, hs, hp⟩ <;>
    rw [show HkeyElems.remove (eops r) cfg s.elems 0 k c = _ from hs, hp]
  · exact Agrees.of_error (e := e2) rfl
  · exact agrees_ok rfl

end MDataSlab

namespace MTree
variable {r : Nat}

/-- `child.Set` has already written the child object; `afterChild` writes the same reference again -/
theorem afterChild_set_child {d : Nat} (T : Nat) (m : MMetaSlab (MTree r d)) (child' : MTree r d) (i : Nat)
    (c : Ctx) :
    MMetaSlab.afterChild T ({ m with children := m.children.set i child' } : MMetaSlab (MTree r d)) child' i c =
      MMetaSlab.afterChild T m child' i c := by
  simp only [MMetaSlab.afterChild, List.set_set]

theorem setP_agrees (cfg : MCfg) : ∀ (d : Nat) (k : MKey) (v : Elem) (t : MTree r d) (c : Ctx),
    Agrees (setP cfg d k v (t, c)) ((set cfg d t k v c).map (fun x => ((x.1, x.2.1), (x.2.2.1, x.2.2.2))))
  | 0, k, v, t, c => MDataSlab.setP_agrees cfg k v t c
  | d + 1, k, v, (m : MMetaSlab (MTree r d)), c => by
    simp only [setP, set, bind, Except.bind, pure, Except.pure]
    generalize (MMetaSlab.findChild m.childHdrs (k.dig 0) 0 m.childHdrs.length (some 0)
      (m.childHdrs.length + 1)).getD 0 = i
    cases h2 : m.children[i]? with
    | none => exact Agrees.of_error (e := MErr.goPanic) rfl
    | some child =>
      simp only
      rcases (setP_agrees cfg d k v child c).map_elim with
        ⟨e2, ⟨child', c'⟩, hs, hp⟩ | ⟨⟨ks, old, child', c'⟩, hs, hp⟩ <;> rw [hs]
      · rw [zoomChild_err hp]
        exact .of_error rfl
      · rw [zoomChild_ok hp]
        refine (agrees_tail _ _).of_eq ?_
        simp only [afterChild_set_child]
        generalize MMetaSlab.afterChild cfg.T _ child' i c' = x
        cases x <;> rfl

theorem removeP_agrees (cfg : MCfg) : ∀ (d : Nat) (k : MKey) (t : MTree r d) (c : Ctx),
    Agrees (removeP cfg d k (t, c)) ((remove cfg d t k c).map (fun x => ((x.1, x.2.1), (x.2.2.1, x.2.2.2))))
  | 0, k, t, c => MDataSlab.removeP_agrees cfg k t c
  | d + 1, k, (m : MMetaSlab (MTree r d)), c => by
    simp only [removeP, remove, bind, Except.bind, pure, Except.pure, throw, throwThe, MonadExceptOf.throw]
    cases hfc : MMetaSlab.findChild m.childHdrs (k.dig 0) 0 m.childHdrs.length none (m.childHdrs.length + 1) with
    | none => exact Agrees.of_error (e := MErr.keyNotFound) rfl
    | some i =>
      simp only
      cases h2 : m.children[i]? with
      | none => exact Agrees.of_error (e := MErr.slabNotFound) rfl
      | some child =>
        simp only
        rcases (removeP_agrees cfg d k child c).map_elim with
          ⟨e2, ⟨child', c'⟩, hs, hp⟩ | ⟨⟨rk, rv, child', c'⟩, hs, hp⟩ <;> rw [hs]
        · rw [zoomChild_err hp]
          exact .of_error rfl
        · rw [zoomChild_ok hp]
          refine (agrees_tail _ _).of_eq ?_
          simp only [afterChild_set_child]
          generalize MMetaSlab.afterChild cfg.T _ child' i c' = x
          cases x <;> rfl

end MTree

namespace OMap
variable {r : Nat}

/-- `OrderedMap.set` in place and `OMap.set`: the same error, or the same previous value, the same
    map and the same storage context -/
theorem setP_agrees (cfg : MCfg) (k : MKey) (v : Elem) (m : OMap r) (c : Ctx) :
    Agrees (setP cfg k v (m, c)) ((m.set cfg k v c).map (fun x => (x.1, (x.2.1, x.2.2)))) := by
  simp only [OMap.set, bind, Except.bind, pure, Except.pure]
  rcases (MTree.setP_agrees cfg m.d k v m.root c).map_elim with
    ⟨e2, ⟨root', c'⟩, hs, hp⟩ | ⟨⟨ks, old, root', c'⟩, hs, hp⟩ <;> rw [hs]
  · rw [setP, andThen_err (zoomRoot_eq (fun d => MTree.setP cfg d k v) m c _ root' c' hp)]
    exact Agrees.of_error (e := e2) rfl
  · rw [setP, andThen_ok (zoomRoot_eq (fun d => MTree.setP cfg d k v) m c _ root' c' hp)]
    simp only [Prog.andThen, Prog.assign]
    refine Agrees.of_eq (agrees_tail _ _) ?_
    simp only
    generalize OMap.splitRootIfFull cfg.T _ _ = x
    cases x <;> rfl

/-- `OrderedMap.remove` in place and `OMap.remove` -/
theorem removeP_agrees (cfg : MCfg) (k : MKey) (m : OMap r) (c : Ctx) :
    Agrees (removeP cfg k (m, c)) ((m.remove cfg k c).map (fun x => ((x.1, x.2.1), (x.2.2.1, x.2.2.2)))) := by
  simp only [OMap.remove, bind, Except.bind, pure, Except.pure]
  rcases (MTree.removeP_agrees cfg m.d k m.root c).map_elim with
    ⟨e2, ⟨root', c'⟩, hs, hp⟩ | ⟨⟨rk, rv, root', c'⟩, hs, hp⟩ <;> rw [hs]
  · rw [removeP, andThen_err (zoomRoot_eq (fun d => MTree.removeP cfg d k) m c _ root' c' hp)]
    exact Agrees.of_error (e := e2) rfl
  · rw [removeP, andThen_ok (zoomRoot_eq (fun d => MTree.removeP cfg d k) m c _ root' c' hp)]
    simp only [Prog.andThen, Prog.assign]
    refine Agrees.of_eq (agrees_tail _ _) ?_
    simp only
    generalize OMap.splitRootIfFull cfg.T _ _ = x
    cases x <;> rfl

end OMap

end Atree

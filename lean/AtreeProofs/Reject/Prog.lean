import AtreeModel.Reject
/-
  The two notions the C18 proofs are about, for any in-place program:
    `ErrsIn P x`     every error the functional step `x` can raise satisfies `P`;
    `CleanAt P s x`  `x` is the outcome of a run started in state `s`: if it is an error
                     satisfying `P`, the state is still `s`.
  `CleanAt` carries meaning only together with `ErrsIn`: it holds for every `ok` outcome
  (`CleanAt.ok`) and for every error outside `P` (`CleanAt.error_of`), so by itself it says neither
  that an error occurs nor that the error is in `P`.  Which errors a step can raise is what
  `ErrsIn` says (`CleanAt.tail`: a functional tail whose errors are all outside `P`); the
  `*_reject` theorems of `Reject/Array.lean` and `Reject/Map.lean` are `CleanAt` read at an outcome
  that IS an error in `P`.
  `Agrees p f`: the in-place outcome `p` and the functional step `f` give the same error, or the same value
  and the same state; `Agrees.map_elim` splits it, `agrees_tail` / `tail_ok` / `tail_err` and
  `Prog.andThen_ok` / `andThen_err` run the two program formers.
-/
namespace Atree

def ErrsIn {ε α : Type} (P : ε → Prop) (x : Except ε α) : Prop := ∀ e, x = .error e → P e

namespace ErrsIn
variable {ε α β : Type} {P Q : ε → Prop}

theorem ok {a : α} : ErrsIn P (.ok a : Except ε α) := fun _ h => nomatch h

theorem error {e : ε} (h : P e) : ErrsIn P (.error e : Except ε α) := fun _ h' => Except.error.inj h' ▸ h

theorem ite {c : Prop} [Decidable c] {a b : Except ε α} (ha : ErrsIn P a) (hb : ErrsIn P b) :
    ErrsIn P (if c then a else b) := by
  split
  · exact ha
  · exact hb

theorem of_eq {x : Except ε α} {e₀ : ε} (h : ErrsIn (· = e₀) x) (h₀ : P e₀) : ErrsIn P x :=
  fun e he => h e he ▸ h₀

theorem mono {x : Except ε α} (h : ErrsIn P x) (hPQ : ∀ e, P e → Q e) : ErrsIn Q x :=
  fun e he => hPQ e (h e he)

theorem map {x : Except ε α} {f : α → β} (h : ErrsIn P x) : ErrsIn P (x.map f) := by
  cases x with
  | error e => exact error (h e rfl)
  | ok a => exact ok

theorem bind {x : Except ε α} {f : α → Except ε β} (h : ErrsIn P x) (hf : ∀ a, ErrsIn P (f a)) :
    ErrsIn P (x >>= f) := by
  cases x with
  | error e => exact error (h e rfl)
  | ok a => exact hf a

end ErrsIn

namespace Prog
variable {σ τ ε α β : Type} {P : ε → Prop}

def CleanAt (P : ε → Prop) (s : σ) (x : Except ε α × σ) : Prop :=
  ∀ s' e, x = (.error e, s') → P e → s' = s

namespace CleanAt

theorem error {s : σ} {e : ε} : CleanAt P s ((.error e, s) : Except ε α × σ) :=
  fun _ _ h _ => (Prod.mk.inj h).2.symm

theorem ok {s s' : σ} {a : α} : CleanAt P s ((.ok a, s') : Except ε α × σ) :=
  fun _ _ h _ => nomatch (Prod.mk.inj h).1

/-- an error that is not a refusal, or one that comes with the old state -/
theorem error_of {s s' : σ} {e : ε} (h : P e → s' = s) : CleanAt P s ((.error e, s') : Except ε α × σ) :=
  fun _ _ h' he => by
    obtain ⟨h1, h2⟩ := Prod.mk.inj h'
    cases h1; cases h2; exact h he

theorem ite {s : σ} {c : Prop} [Decidable c] {a b : Except ε α × σ} (ha : c → CleanAt P s a)
    (hb : ¬ c → CleanAt P s b) : CleanAt P s (if c then a else b) := by
  split
  · exact ha ‹_›
  · exact hb ‹_›

/-- a functional tail whose errors are never refusals -/
theorem tail {s s' : σ} {f : σ → Except ε (α × σ)} (h : ErrsIn (fun e => ¬ P e) (f s')) :
    CleanAt P s (Prog.tail f s') := by
  intro s'' e hx he
  simp only [Prog.tail] at hx
  split at hx
  · exact nomatch (Prod.mk.inj hx).1
  · rename_i e' hf
    cases (Prod.mk.inj hx).1
    exact absurd he (h e hf)

/-- the outcome is a success, or an error which, if it is a refusal, comes with the old state -/
theorem cases {s : σ} {x : Except ε α × σ} (h : CleanAt P s x) :
    (∃ a s', x = (.ok a, s')) ∨ (∃ e s', x = (.error e, s') ∧ (P e → s' = s)) := by
  obtain ⟨r, s'⟩ := x
  cases r with
  | ok a => exact Or.inl ⟨a, s', rfl⟩
  | error e => exact Or.inr ⟨e, s', rfl, h s' e rfl⟩

theorem andThen {s : σ} {p : Prog σ ε α} {f : α → Prog σ ε β} (hp : CleanAt P s (p s))
    (hf : ∀ a s', CleanAt P s (f a s')) : CleanAt P s (p.andThen f s) := by
  unfold Prog.andThen
  rcases hp.cases with ⟨a, s', h⟩ | ⟨e, s', h, hs⟩ <;> rw [h]
  · exact hf a s'
  · exact error_of hs

theorem assign_andThen {s s' : σ} {g : σ → σ} {f : Unit → Prog σ ε β} (h : CleanAt P s (f () (g s'))) :
    CleanAt P s ((Prog.assign g).andThen f s') := h

end CleanAt

theorem andThen_err {σ ε α β : Type} {p : Prog σ ε α} {f : α → Prog σ ε β} {s s1 : σ} {e : ε}
    (h : p s = (.error e, s1)) : p.andThen f s = (.error e, s1) := by
  simp only [Prog.andThen, h]

theorem andThen_ok {σ ε α β : Type} {p : Prog σ ε α} {f : α → Prog σ ε β} {s s1 : σ} {a : α}
    (h : p s = (.ok a, s1)) : p.andThen f s = f a s1 := by
  simp only [Prog.andThen, h]

end Prog

/-- the in-place program and the functional model: same error, or same value and same state -/
def Agrees {σ ε α : Type} (p : Except ε α × σ) (f : Except ε (α × σ)) : Prop :=
  match f with
  | .ok (a, s') => p = (.ok a, s')
  | .error e => p.1 = .error e

theorem Agrees.of_error {σ ε α : Type} {p : Except ε α × σ} {e : ε} (h : p.1 = .error e) :
    Agrees p (.error e : Except ε (α × σ)) := h

theorem agrees_ok {σ ε α : Type} {p : Except ε α × σ} {a : α} {s : σ} (h : p = (.ok a, s)) :
    Agrees p (.ok (a, s) : Except ε (α × σ)) := h

/-- the two ways a program can agree with a functional step whose result is re-packed by `g` -/
theorem Agrees.map_elim {σ ε α β : Type} {x : Except ε α × σ} {f : Except ε β} {g : β → α × σ}
    (h : Agrees x (f.map g)) :
    (∃ e s, f = .error e ∧ x = (.error e, s)) ∨ (∃ r, f = .ok r ∧ x = (.ok (g r).1, (g r).2)) := by
  obtain ⟨r, s⟩ := x
  cases f with
  | error e => exact Or.inl ⟨e, s, rfl, by cases (show r = .error e from h); rfl⟩
  | ok b => exact Or.inr ⟨b, rfl, h⟩

/-- the same test in the program and in the functional step -/
theorem Agrees.map_ite {σ ε α β : Type} {c : Prop} [Decidable c] {a b : Except ε α × σ} {f f' : Except ε β}
    {g : β → α × σ} (ha : c → Agrees a (f.map g)) (hb : ¬ c → Agrees b (f'.map g)) :
    Agrees (if c then a else b) ((if c then f else f').map g) := by
  split
  · exact ha ‹_›
  · exact hb ‹_›

theorem fst_error_cases {σ ε α : Type} {x : Except ε α × σ} {e : ε} (h : x.1 = .error e) :
    ∃ s, x = (.error e, s) := by
  obtain ⟨r, s⟩ := x
  simp only at h
  exact ⟨s, by rw [h]⟩

/-- how `CleanAt` and `Agrees` meet: an outcome that reports the refusal `e` of the functional step is
    `e` with the state the run started in -/
theorem Prog.CleanAt.eq_of_error {σ ε α : Type} {P : ε → Prop} {s : σ} {x : Except ε α × σ} {e : ε}
    (hc : Prog.CleanAt P s x) (hx : x.1 = .error e) (he : P e) : x = (.error e, s) := by
  obtain ⟨s', hp⟩ := fst_error_cases hx
  rw [hp, hc s' e hp he]

theorem tail_ok {σ ε α : Type} {f : σ → Except ε (α × σ)} {s s' : σ} {a : α} (h : f s = .ok (a, s')) :
    Prog.tail f s = (.ok a, s') := by
  simp only [Prog.tail, h]

theorem tail_err {σ ε α : Type} {f : σ → Except ε (α × σ)} {s : σ} {e : ε} (h : f s = .error e) :
    Prog.tail f s = (.error e, s) := by
  simp only [Prog.tail, h]

/-- a functional tail agrees with itself -/
theorem agrees_tail {σ ε α : Type} (f : σ → Except ε (α × σ)) (s : σ) : Agrees (Prog.tail f s) (f s) := by
  unfold Agrees Prog.tail
  cases f s with
  | error e => rfl
  | ok r => obtain ⟨a, s'⟩ := r; rfl

theorem Agrees.of_eq {σ ε α : Type} {p : Except ε α × σ} {f g : Except ε (α × σ)} (h : Agrees p f) (hfg : f = g) :
    Agrees p g := hfg ▸ h

end Atree

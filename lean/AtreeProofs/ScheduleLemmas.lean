/-
  Runs as folds.  `foldl_sim`: two runs over the same requests stay related when every admissible step
  keeps them related; an invariant of one run is the case of a trivial second run, a relation to
  the start state (`foldl_invariant`) the case of a second run that stands still;
  `run_skips_refused`: a run with refusals is the run of its served requests.
  Termination of a scheduler by a measure, once for every pool model: a step leaves the state
  alone or decreases the measure; a round of the schedule in which nothing moves means that the
  run is over; so `k` rounds end the run or cost `k`.
-/
namespace Atree

/-- Two runs over the same requests: a relation `Φ` kept by every admissible pair of steps holds
    between the results.  (`τ := Unit` for an invariant; `spec` the abstract semantics and
    `Φ s t := I s ∧ abs s = t` for a refinement.) -/
theorem foldl_sim {σ τ ω : Type _} (step : σ → ω → σ) (spec : τ → ω → τ) (Ok : ω → Prop)
    (Φ : σ → τ → Prop) (hstep : ∀ s t o, Ok o → Φ s t → Φ (step s o) (spec t o)) :
    ∀ (ops : List ω) (s : σ) (t : τ), (∀ o ∈ ops, Ok o) → Φ s t →
      Φ (ops.foldl step s) (ops.foldl spec t)
  | [], _, _, _, h => h
  | o :: ops, s, t, hok, h =>
    foldl_sim step spec Ok Φ hstep ops (step s o) (spec t o)
      (fun o' ho' => hok o' (List.mem_cons_of_mem _ ho')) (hstep s t o (hok o List.mem_cons_self) h)

/-- Refused requests can be left out of a history.  `stepP` runs every request in place, `stepS` is the
    run that returns its input state on a refusal by definition, `served` is any function with the two
    equations of `servedOps` (it drops the requests that `refused` marks, along the in-place run).  If
    under the run invariant `Good` the two steps agree and a refused request changes nothing, then the
    in-place run of the whole history, that of its served requests only, and the run by `stepS` end in
    the same state. -/
theorem run_skips_refused {X Op : Type _} (stepP stepS : X → Op → X) (refused : X → Op → Bool)
    (served : X → List Op → List Op) (Good : X → Prop) (Ok : Op → Prop)
    (hnil : ∀ x, served x [] = [])
    (hcons : ∀ x op ops, served x (op :: ops) =
      if refused x op = true then served (stepP x op) ops else op :: served (stepP x op) ops)
    (heq : ∀ x op, Good x → Ok op → stepP x op = stepS x op)
    (hgood : ∀ x op, Good x → Ok op → Good (stepS x op))
    (hrej : ∀ x op, Good x → Ok op → refused x op = true → stepP x op = x) :
    ∀ (ops : List Op) (x : X), Good x → (∀ op ∈ ops, Ok op) →
      ops.foldl stepP x = (served x ops).foldl stepP x ∧ ops.foldl stepP x = ops.foldl stepS x := by
  intro ops x hg hok
  refine ⟨?_, (foldl_sim stepP stepS Ok (fun s t => s = t ∧ Good t)
    (fun s t o ho ⟨e, g⟩ => ⟨by rw [e, heq t o g ho], hgood t o g ho⟩) ops x x hok ⟨rfl, hg⟩).1⟩
  induction ops generalizing x with
  | nil => rw [hnil]
  | cons op ops ih =>
    have hop := hok op List.mem_cons_self
    have ih := ih (stepP x op) (by rw [heq x op hg hop]; exact hgood x op hg hop)
      (fun o ho => hok o (List.mem_cons_of_mem _ ho))
    rw [List.foldl_cons, hcons, ih]
    by_cases hr : refused x op = true
    · rw [if_pos hr, hrej x op hg hop hr]
    · rw [if_neg hr, List.foldl_cons]

/-- An invariant `Φ` kept by every admissible step, together with a preorder `R` every such step
    respects, holds after the whole run.  (`R := fun _ _ => True` for a plain invariant.) -/
theorem foldl_invariant {σ ω : Type _} (step : σ → ω → σ) (Ok : ω → Prop) (Φ : σ → Prop)
    (R : σ → σ → Prop) (hrefl : ∀ s, R s s) (htrans : ∀ {a b c}, R a b → R b c → R a c)
    (hstep : ∀ s o, Ok o → Φ s → Φ (step s o) ∧ R s (step s o))
    (ops : List ω) (s : σ) (hok : ∀ o ∈ ops, Ok o) (h : Φ s) :
    Φ (ops.foldl step s) ∧ R s (ops.foldl step s) := by
  have hconst : ∀ (l : List ω) (t : σ), l.foldl (fun t _ => t) t = t := by
    intro l t; induction l with
    | nil => rfl
    | cons _ _ ih => exact ih
  have := foldl_sim step (fun t _ => t) Ok (fun s' t => Φ s' ∧ R t s')
    (fun s' t o ho hs => ⟨(hstep s' o ho hs.1).1, htrans hs.2 (hstep s' o ho hs.1).2⟩)
    ops s s hok ⟨h, hrefl s⟩
  rwa [hconst] at this

/-- … and after every prefix -/
theorem foldl_invariant_take {σ ω : Type _} (step : σ → ω → σ) (Ok : ω → Prop) (Φ : σ → Prop)
    (R : σ → σ → Prop) (hrefl : ∀ s, R s s) (htrans : ∀ {a b c}, R a b → R b c → R a c)
    (hstep : ∀ s o, Ok o → Φ s → Φ (step s o) ∧ R s (step s o))
    (ops : List ω) (s : σ) (hok : ∀ o ∈ ops, Ok o) (h : Φ s) (n : Nat) :
    Φ ((ops.take n).foldl step s) ∧ R s ((ops.take n).foldl step s) :=
  foldl_invariant step Ok Φ R hrefl htrans hstep _ s (fun o ho => hok o (List.mem_of_mem_take ho)) h

variable {σ α : Type}

/-- Along a schedule the measure never increases; if it is unchanged, nothing happened and no
    scheduled step moves. -/
theorem foldl_measure {step : σ → α → σ} {μ : σ → Nat}
    (hstep : ∀ s a, step s a = s ∨ μ (step s a) < μ s) (l : List α) (s : σ) :
    μ (l.foldl step s) ≤ μ s ∧
    (μ (l.foldl step s) = μ s → l.foldl step s = s ∧ ∀ a ∈ l, step s a = s) := by
  induction l generalizing s with
  | nil => exact ⟨Nat.le_refl _, fun _ => ⟨rfl, fun _ ha => nomatch ha⟩⟩
  | cons a l ih =>
    rw [List.foldl_cons]
    rcases hstep s a with he | hlt
    · rw [he]
      refine ⟨(ih s).1, fun heq => ⟨((ih s).2 heq).1, fun a' ha' => ?_⟩⟩
      rcases List.mem_cons.mp ha' with rfl | ha'
      · exact he
      · exact ((ih s).2 heq).2 a' ha'
    · have h1 := (ih (step s a)).1
      exact ⟨Nat.le_of_lt (Nat.lt_of_le_of_lt h1 hlt),
        fun heq => absurd (heq ▸ h1) (Nat.not_le_of_lt hlt)⟩

/-- Round after round of the schedule `round`: the run is over, or every round so far has
    decreased the measure. -/
theorem rounds_measure {step : σ → α → σ} {μ : σ → Nat} {I fin : σ → Prop} {round : List α}
    (hstep : ∀ s a, step s a = s ∨ μ (step s a) < μ s) (hI : ∀ s a, I s → I (step s a))
    (hfin : ∀ s, I s → (∀ a ∈ round, step s a = s) → fin s)
    {β : Type} (L : List β) (s : σ) (h : I s) :
    fin ((L.flatMap fun _ => round).foldl step s) ∨
    μ ((L.flatMap fun _ => round).foldl step s) + L.length ≤ μ s := by
  induction L generalizing s with
  | nil => exact .inr (Nat.le_refl _)
  | cons b L ih =>
    rw [List.flatMap_cons, List.foldl_append]
    obtain ⟨hle, heq⟩ := foldl_measure hstep round s
    rcases Nat.lt_or_eq_of_le hle with hlt | he
    · rcases ih _ (foldl_sim step (fun (u : Unit) _ => u) (fun _ => True) (fun s _ => I s)
        (fun s _ a _ => hI s a) round s () (fun _ _ => trivial) h) with h' | h'
      · exact .inl h'
      · exact .inr (by rw [List.length_cons]; omega)
    · obtain ⟨hs, hfix⟩ := heq he
      have hall : ∀ L : List β, (L.flatMap fun _ => round).foldl step s = s := by
        intro L
        induction L with
        | nil => rfl
        | cons b L ih' => rw [List.flatMap_cons, List.foldl_append, hs, ih']
      rw [hs, hall]
      exact .inl (hfin s h hfix)

end Atree

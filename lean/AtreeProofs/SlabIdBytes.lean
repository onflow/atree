import AtreeModel.SlabIdBytes
import AtreeProofs.OrderLemmas
/-
  Helper lemmas about the byte-level slab identifiers (`AtreeModel/SlabIdBytes.lean`):
  big-endian numbers (`beNat`, `putBE`), `copy`, `bytes.Compare`, `slabID_eq_iff`, and `decEqExcept` for the
  examples.  The property-level statements are in `AtreeProofs/Props/SlabId.lean`.
-/
namespace Atree.SlabIdB

theorem beNat_lt (l : Bytes) : beNat l < 256 ^ l.length := by
  induction l with
  | nil => simp [beNat]
  | cons x xs ih =>
    have hx : x.toNat < 256 := by have := x.toNat_lt; omega
    simp only [beNat, List.length_cons, Nat.pow_succ]
    have : x.toNat * 256 ^ xs.length ≤ 255 * 256 ^ xs.length := Nat.mul_le_mul_right _ (by omega)
    omega

theorem beNat_putBE (k v : Nat) : beNat (putBE k v) = v % 256 ^ k := by
  induction k with
  | zero => simp [putBE, beNat, Nat.mod_one]
  | succ k ih =>
    have hb : (UInt8.ofNat (v / 256 ^ k % 256)).toNat = v / 256 ^ k % 256 := by
      rw [UInt8.toNat_ofNat']; exact Nat.mod_eq_of_lt (by omega)
    simp only [putBE, beNat, length_putBE, ih, hb]
    rw [Nat.pow_succ, Nat.mod_mul, Nat.mul_comm, Nat.add_comm]

theorem beNat_putBE_of_lt {k v : Nat} (h : v < 256 ^ k) : beNat (putBE k v) = v := by
  rw [beNat_putBE, Nat.mod_eq_of_lt h]

theorem putBE_beNat (l : Bytes) : putBE l.length (beNat l) = l := by
  induction l with
  | nil => rfl
  | cons x xs ih =>
    have hlt := beNat_lt xs
    have hx : x.toNat < 256 := by have := x.toNat_lt; omega
    have hpos : 0 < 256 ^ xs.length := Nat.pow_pos (by omega)
    simp only [List.length_cons, putBE, beNat]
    congr 1
    · have h1 : (x.toNat * 256 ^ xs.length + beNat xs) / 256 ^ xs.length = x.toNat := by
        rw [Nat.add_comm, Nat.add_mul_div_right _ _ hpos, Nat.div_eq_of_lt hlt, Nat.zero_add]
      rw [h1, Nat.mod_eq_of_lt hx, UInt8.ofNat_toNat]
    · -- the leading digit does not influence the lower digits
      have key : ∀ (k a v : Nat), putBE k (a * 256 ^ k + v) = putBE k v := by
        intro k
        induction k with
        | zero => intros; rfl
        | succ k ihk =>
          intro a v
          simp only [putBE]
          congr 1
          · congr 1
            have : a * 256 ^ (k + 1) = (a * 256) * 256 ^ k := by rw [Nat.pow_succ]; ac_rfl
            rw [this, Nat.add_comm, Nat.add_mul_div_right _ _ (Nat.pow_pos (by omega)),
              Nat.add_mul_mod_self_right]
          · have : a * 256 ^ (k + 1) = (a * 256) * 256 ^ k := by rw [Nat.pow_succ]; ac_rfl
            rw [this, ihk]
      rw [key, ih]

theorem beNat_inj {a b : Bytes} (hl : a.length = b.length) (h : beNat a = beNat b) : a = b := by
  rw [← putBE_beNat a, ← putBE_beNat b, hl, h]

theorem beNat_zeros (k : Nat) : beNat (zeros k) = 0 := by
  induction k with
  | zero => rfl
  | succ k ih =>
    have : zeros (k + 1) = 0 :: zeros k := by simp [zeros, List.replicate_succ]
    rw [this]; simp [beNat, ih]

theorem beNat_eq_zero_iff (l : Bytes) : beNat l = 0 ↔ l = zeros l.length := by
  constructor
  · intro h
    apply beNat_inj (by simp [length_zeros])
    rw [h, beNat_zeros]
  · intro h; rw [h, beNat_zeros]

/-- The explicit formula of `binary.BigEndian.Uint64` for 8 bytes. -/
theorem beNat_eight (b0 b1 b2 b3 b4 b5 b6 b7 : UInt8) :
    beNat [b0, b1, b2, b3, b4, b5, b6, b7] =
      b0.toNat * 2 ^ 56 + b1.toNat * 2 ^ 48 + b2.toNat * 2 ^ 40 + b3.toNat * 2 ^ 32 +
      b4.toNat * 2 ^ 24 + b5.toNat * 2 ^ 16 + b6.toNat * 2 ^ 8 + b7.toNat := by
  simp only [beNat, List.length_cons, List.length_nil, Nat.reduceAdd, Nat.reducePow, Nat.zero_add,
    Nat.add_zero, Nat.mul_one, Nat.pow_zero, Nat.add_assoc]

theorem goCopy_zeros_of_le {k : Nat} {src : Bytes} (h : k ≤ src.length) :
    (goCopy (zeros k) src).1 = src.take k := by
  simp only [goCopy, length_zeros, Nat.min_eq_left h]
  rw [List.drop_of_length_le (by simp [length_zeros]), List.append_nil]

theorem goCopy_of_le {dst src : Bytes} (h : src.length ≤ dst.length) :
    (goCopy dst src).1 = src ++ dst.drop src.length := by
  simp only [goCopy, Nat.min_eq_right h, List.take_length]

theorem goCopy_snd (dst src : Bytes) : (goCopy dst src).2 = min dst.length src.length := rfl

theorem bytesCompare_self (a : Bytes) : bytesCompare a a = 0 := by
  induction a with
  | nil => rfl
  | cons x xs ih =>
    have : ¬ x < x := by rw [UInt8.lt_iff_toNat_lt]; omega
    simp [bytesCompare, this, ih]

/-- On equal-length byte strings `bytes.Compare` is the comparison of the big-endian numbers. -/
theorem bytesCompare_eq_numeric (a b : Bytes) (hl : a.length = b.length) :
    bytesCompare a b =
      if beNat a < beNat b then -1 else if beNat a = beNat b then 0 else 1 := by
  induction a generalizing b with
  | nil =>
    cases b with
    | nil => simp [bytesCompare, beNat]
    | cons y ys => simp at hl
  | cons x xs ih =>
    cases b with
    | nil => simp at hl
    | cons y ys =>
      have hl' : xs.length = ys.length := by simpa using hl
      have hx := beNat_lt xs
      have hy := beNat_lt ys
      rw [hl'] at hx
      simp only [bytesCompare, beNat, hl', UInt8.lt_iff_toNat_lt]
      generalize 256 ^ ys.length = P at hx hy
      by_cases h1 : x.toNat < y.toNat
      · have : x.toNat * P + P ≤ y.toNat * P := by
          have := Nat.mul_le_mul_right P (Nat.succ_le_of_lt h1)
          rwa [Nat.succ_mul] at this
        have hlt : x.toNat * P + beNat xs < y.toNat * P + beNat ys := by omega
        simp [h1, hlt]
      · by_cases h2 : y.toNat < x.toNat
        · have : y.toNat * P + P ≤ x.toNat * P := by
            have := Nat.mul_le_mul_right P (Nat.succ_le_of_lt h2)
            rwa [Nat.succ_mul] at this
          have hnlt : ¬ x.toNat * P + beNat xs < y.toNat * P + beNat ys := by omega
          have hne : ¬ x.toNat * P + beNat xs = y.toNat * P + beNat ys := by omega
          simp [h1, h2, hnlt, hne]
        · have hxy : x.toNat = y.toNat := by omega
          simp only [hxy, Nat.lt_irrefl, if_false, Nat.add_lt_add_iff_left, Nat.add_left_cancel_iff]
          exact ih ys hl'

theorem bytesCompare_eq_zero_iff (a b : Bytes) (hl : a.length = b.length) :
    bytesCompare a b = 0 ↔ a = b := by
  rw [bytesCompare_eq_numeric a b hl]
  constructor
  · intro h
    by_cases h1 : beNat a < beNat b
    · simp [h1] at h
    · by_cases h2 : beNat a = beNat b
      · exact beNat_inj hl h2
      · simp [h1, h2] at h
  · intro h; subst h; simp

theorem lt_iff (a b : Atree.SlabID) :
    Atree.SlabID.lt a b = true ↔ (a.addr < b.addr ∨ (a.addr = b.addr ∧ a.idx < b.idx)) :=
  Atree.SlabID.lt_iff a b

theorem lt_false_iff (a b : Atree.SlabID) :
    Atree.SlabID.lt a b = false ↔ ¬ (a.addr < b.addr ∨ (a.addr = b.addr ∧ a.idx < b.idx)) := by
  rw [← lt_iff]; simp

theorem lt_irrefl (a : Atree.SlabID) : Atree.SlabID.lt a a = false :=
  Atree.SlabID.lt_irrefl a

/-- Decidable equality of `Except` values (for `decide` in the non-vacuity examples). -/
@[instance_reducible] def decEqExcept {ε α : Type} [DecidableEq ε] [DecidableEq α] : DecidableEq (Except ε α)
  | .ok a, .ok b => if h : a = b then isTrue (by rw [h]) else isFalse (by intro e; injection e with e; exact h e)
  | .error a, .error b => if h : a = b then isTrue (by rw [h]) else isFalse (by intro e; injection e with e; exact h e)
  | .ok _, .error _ => isFalse (by intro e; cases e)
  | .error _, .ok _ => isFalse (by intro e; cases e)

theorem slabID_eq_iff (a b : Atree.SlabID) : a = b ↔ a.addr = b.addr ∧ a.idx = b.idx := by
  cases a; cases b; simp

theorem addr_len (a : Address) : a.val.length = 8 := a.property
theorem index_len (i : SlabIndex) : i.val.length = 8 := i.property

theorem SlabIDB.ext' {a b : SlabIDB} (h1 : a.address.val = b.address.val) (h2 : a.index.val = b.index.val) :
    a = b := by
  cases a; cases b
  simp only [SlabIDB.mk.injEq]
  exact ⟨Subtype.ext h1, Subtype.ext h2⟩

theorem addressAsUint64_lt (id : SlabIDB) : id.addressAsUint64 < 2 ^ 64 := by
  have := beNat_lt id.address.val
  rw [addr_len] at this
  exact this

theorem indexAsUint64_lt (id : SlabIDB) : id.indexAsUint64 < 2 ^ 64 := by
  have := beNat_lt id.index.val
  rw [index_len] at this
  exact this

theorem address_eq_iff (a b : Address) : a = b ↔ beNat a.val = beNat b.val := by
  constructor
  · intro h; rw [h]
  · intro h; exact Subtype.ext (beNat_inj (by rw [addr_len, addr_len]) h)

theorem index_eq_iff (a b : SlabIndex) : a = b ↔ beNat a.val = beNat b.val := by
  constructor
  · intro h; rw [h]
  · intro h; exact Subtype.ext (beNat_inj (by rw [index_len, index_len]) h)

end Atree.SlabIdB

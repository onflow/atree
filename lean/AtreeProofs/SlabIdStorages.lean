import AtreeModel.SlabIdStorages
import AtreeProofs.AListLemmas
/-
  Helper lemmas for `AtreeProofs/Props/SlabIdStorages.lean`: the requests of the simple storages in
  equational form.
-/
namespace Atree.SlabIdB
open Atree

namespace LBS
variable {Λ : Type} (L : Ledger Λ) (s : LBS Λ)

theorem step_retrieve (id : SlabIDB) :
    s.step L (.retrieve id) =
      ({ s with ledger := (L.getValue s.ledger id.address.val (slabIndexToLedgerKey id.index)).1,
                bytesRetrieved := s.bytesRetrieved +
                  (L.getValue s.ledger id.address.val (slabIndexToLedgerKey id.index)).2.1.length },
       if (L.getValue s.ledger id.address.val (slabIndexToLedgerKey id.index)).2.2 then .err
       else .data (L.getValue s.ledger id.address.val (slabIndexToLedgerKey id.index)).2.1
          (decide ((L.getValue s.ledger id.address.val (slabIndexToLedgerKey id.index)).2.1.length > 0))) := by
  cases h : (L.getValue s.ledger id.address.val (slabIndexToLedgerKey id.index)).2.2 <;>
    simp [LBS.step, LBS.retrieve, h]

theorem step_store (id : SlabIDB) (d : Bytes) :
    s.step L (.store id d) =
      ({ s with ledger := (L.setValue s.ledger id.address.val (slabIndexToLedgerKey id.index) d).1,
                bytesStored := s.bytesStored + d.length },
       if (L.setValue s.ledger id.address.val (slabIndexToLedgerKey id.index) d).2 then .err else .unit) := by
  cases h : (L.setValue s.ledger id.address.val (slabIndexToLedgerKey id.index) d).2 <;>
    simp [LBS.step, LBS.store, h]

theorem step_remove (id : SlabIDB) :
    s.step L (.remove id) =
      ({ s with ledger := (L.setValue s.ledger id.address.val (slabIndexToLedgerKey id.index) []).1 },
       if (L.setValue s.ledger id.address.val (slabIndexToLedgerKey id.index) []).2 then .err else .unit) := by
  cases h : (L.setValue s.ledger id.address.val (slabIndexToLedgerKey id.index) []).2 <;>
    simp [LBS.step, LBS.remove, h]

theorem step_gen (a : Address) :
    s.step L (.gen a) =
      ({ s with ledger := (L.allocateSlabIndex s.ledger a.val).1 },
       if (L.allocateSlabIndex s.ledger a.val).2.2 then .err
       else .id (newSlabID a (L.allocateSlabIndex s.ledger a.val).2.1)) := by
  cases h : (L.allocateSlabIndex s.ledger a.val).2.2 <;>
    simp [LBS.step, LBS.generateSlabID, h]

theorem step_reset : s.step L .reset = (s.resetReporter, .unit) := rfl

end LBS

namespace MapLedger

/-- the register content of the harness ledger (`[]` when absent) -/
def val (l : MapLedger) (o k : Bytes) : Bytes := (AList.find? l.regs (o, k)).getD []

theorem getValue_eq (l : MapLedger) (o k : Bytes) :
    l.getValue o k = ({ l with calls := l.calls + 1 }, if l.failing then l.junk else l.val o k, l.failing) := by
  unfold getValue val
  cases l.failing <;> rfl

theorem setValue_fst_val (l : MapLedger) (o k v o' k' : Bytes) :
    (l.setValue o k v).1.val o' k' =
      if l.failing then l.val o' k' else if o' = o ∧ k' = k then v else l.val o' k' := by
  unfold setValue val
  cases hf : l.failing with
  | true => rfl
  | false =>
    simp only [Bool.false_eq_true, if_false]
    by_cases hk : v.length = 0 ∧ l.keepEmpty = false
    · have hv : v = [] := List.eq_nil_of_length_eq_zero hk.1
      rw [if_pos hk, AList.find?_erase]
      by_cases h : (o, k) = (o', k')
      · have h' : o' = o ∧ k' = k := by simp only [Prod.mk.injEq] at h; exact ⟨h.1.symm, h.2.symm⟩
        rw [if_pos h, if_pos h', hv]; rfl
      · have h' : ¬ (o' = o ∧ k' = k) := fun x => h (by rw [x.1, x.2])
        rw [if_neg h, if_neg h']
    · rw [if_neg hk, AList.find?_insert]
      by_cases h : (o, k) = (o', k')
      · have h' : o' = o ∧ k' = k := by simp only [Prod.mk.injEq] at h; exact ⟨h.1.symm, h.2.symm⟩
        rw [if_pos h, if_pos h']; rfl
      · have h' : ¬ (o' = o ∧ k' = k) := fun x => h (by rw [x.1, x.2])
        rw [if_neg h, if_neg h']

theorem setValue_snd (l : MapLedger) (o k v : Bytes) : (l.setValue o k v).2 = l.failing := by
  unfold setValue
  cases l.failing <;> rfl

theorem setValue_fst_rest (l : MapLedger) (o k v : Bytes) :
    (l.setValue o k v).1.ctr = l.ctr ∧ (l.setValue o k v).1.calls = l.calls + 1 ∧
    (l.setValue o k v).1.fail = l.fail ∧ (l.setValue o k v).1.junk = l.junk ∧
    (l.setValue o k v).1.keepEmpty = l.keepEmpty := by
  unfold setValue
  cases l.failing <;> exact ⟨rfl, rfl, rfl, rfl, rfl⟩

theorem allocate_eq (l : MapLedger) (o : Bytes) :
    l.allocateSlabIndex o =
      if l.failing then ({ l with calls := l.calls + 1 }, SlabIndexUndefined, true)
      else ({ l with calls := l.calls + 1,
                     ctr := AList.insert l.ctr o (((AList.find? l.ctr o).getD 0 + 1) % 2 ^ 64) },
            indexOfNat (((AList.find? l.ctr o).getD 0 + 1) % 2 ^ 64), false) := rfl

end MapLedger

end Atree.SlabIdB

import AtreeProofs.ArrayRefs
import AtreeModel.Map.Elems
import AtreeProofs.Account.Owner
/-
  `Value.Storable` on a plain value, below `Array/` and `Map/` (of the specifications it needs `ArrayRefs`, for
  `Elem.refId?`): `toStorable` of arrays and `toStorableLim` of maps are one function (`toStorable_eq_lim`);
  `Storable`: its two outcomes — the
  value is stored as it is and nothing is created, or the one large-value slab `⟨addr, ctr + 1⟩` is
  created for it and a reference is stored (`storable_lim`).  What is needed of it is read off the two
  cases (`Storable.refId`, `Storable.nodup`, `Storable.forall_stored`; what it resolves to:
  `Storable.resolve` in `E2E/Request.lean`).  What it does to the context is a `ValStep`
  (Account/Owner.lean): `toStorableLim_valStep`.
-/
namespace Atree

theorem toStorable_eq_lim (T addr : Nat) (v : Elem) (c : Ctx) :
    toStorable T addr v c = toStorableLim (maxInlineArr T) addr v c := by
  unfold toStorable toStorableLim
  cases v.pay <;> rfl

theorem toStorableLim_valStep (lim a : Nat) (v : Elem) (c : Ctx) : ValStep a c (toStorableLim lim a v c).2 := by
  unfold toStorableLim
  split
  · exact Or.inl rfl
  · split
    · exact Or.inr ⟨v, by simp [Ctx.emit, Ctx.alloc]⟩
    · exact Or.inl rfl

theorem toStorable_valStep (T addr : Nat) (v : Elem) (c : Ctx) : ValStep addr c (toStorable T addr v c).2 :=
  toStorable_eq_lim T addr v c ▸ toStorableLim_valStep (maxInlineArr T) addr v c

/-- `Value.Storable` with inline limit `lim` on a plain value `v` handed to a container owned by
    `addr`, the allocation counter being `ctr`: `e` is what is stored in the container, `C` what is
    created. -/
inductive Storable (lim addr ctr : Nat) (v : Elem) : Elem → List (SlabID × Elem) → Prop
  | inline {n : Nat} (hp : v.pay = .val n) (hs : v.size ≤ lim) : Storable lim addr ctr v v []
  | large (hs : lim < v.size) :
      Storable lim addr ctr v ⟨slabIDStorableSize, .ref ⟨addr, ctr + 1⟩⟩ [(⟨addr, ctr + 1⟩, v)]

theorem storable_lim (lim addr : Nat) {v : Elem} {n : Nat} (hp : v.pay = .val n) (c : Ctx) :
    ∃ C, (toStorableLim lim addr v c).2.created = c.created ++ C ∧
      (toStorableLim lim addr v c).2.ctr = c.ctr + C.length ∧
      Storable lim addr c.ctr v (toStorableLim lim addr v c).1 C := by
  unfold toStorableLim
  rw [hp]
  simp only
  split
  · rename_i hgt
    exact ⟨_, rfl, rfl, .large hgt⟩
  · rename_i hle
    exact ⟨[], (List.append_nil _).symm, rfl, .inline hp (Nat.le_of_not_lt hle)⟩

namespace Storable
variable {lim addr ctr : Nat} {v e : Elem} {C : List (SlabID × Elem)}

/-- the reference stored, if any, is the identifier of what is created -/
theorem refId (h : Storable lim addr ctr v e C) : e.refId?.toList = C.map (·.1) := by
  cases h with
  | inline hp _ => simp [Elem.refId?, hp]
  | large _ => rfl

theorem nodup (h : Storable lim addr ctr v e C) : (C.map (·.1)).Nodup := by
  cases h <;> simp

/-- a property `P` of the stored form and `Q` of what is created, from the two cases -/
theorem forall_stored {P Q : Elem → Prop} (h : Storable lim addr ctr v e C) (hin : v.size ≤ lim → P v)
    (href : ∀ id, P ⟨slabIDStorableSize, .ref id⟩) (hQ : lim < v.size → Q v) : P e ∧ ∀ p ∈ C, Q p.2 := by
  cases h with
  | inline _ hs => exact ⟨hin hs, fun _ hp => nomatch hp⟩
  | large hs => exact ⟨href _, fun p hp => by rw [List.mem_singleton.1 hp]; exact hQ hs⟩

end Storable

end Atree

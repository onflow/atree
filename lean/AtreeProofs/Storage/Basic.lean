import AtreeModel.StorageOps
import AtreeProofs.AListLemmas
/-
  The storage state machine (C15, C14, C03, C08), its states: the invariant `Inv`; `CacheOnly c s s'` –
  what the reads, `BatchPreload` and `DropCache` do to a state; the retrieve family and the sequential
  preload against `view`; `view` and the overlay abstraction `St.abs` after a pending write, `view` of a
  reopened storage.
-/
namespace Atree
open St

variable {σ β : Type}

/-- `DecodeSlab (EncodeSlab v) = v` — discharged for the real codec by C07. -/
def RoundTrip (c : Codec σ β) : Prop := ∀ id v b, c.enc v = some b → c.dec id b = some v

/-- No pending slab fails to encode. -/
def NoEncodeFailure (c : Codec σ β) (s : St σ β) : Prop :=
  ∀ id v, AList.find? s.deltas id = some (some v) → (c.enc v).isSome

structure Inv (c : Codec σ β) (s : St σ β) : Prop where
  /-- the read cache agrees with the ledger (a cached `nil` means "not in the ledger") -/
  coherent : ∀ id v, AList.find? s.cache id = some v → v = s.committed c id
  /-- association lists have unique keys (they model Go maps) -/
  deltasNodup : (AList.keys s.deltas).Nodup
  cacheNodup : (AList.keys s.cache).Nodup
  baseNodup : (AList.keys s.base).Nodup
  /-- nothing owned by the temporary address is in the ledger -/
  noTempBase : ∀ id, id.isTemp = true → AList.find? s.base id = none
  /-- every register decodes -/
  baseDecodes : ∀ id b, AList.find? s.base id = some b → (c.dec id b).isSome

theorem view_of_deltas (c : Codec σ β) (s : St σ β) (id : SlabID) (v : Option σ)
    (h : AList.find? s.deltas id = some v) : s.view c id = v := by
  simp [St.view, h]

theorem view_of_not_pending (c : Codec σ β) (s : St σ β) (hI : Inv c s) (id : SlabID)
    (h : AList.find? s.deltas id = none) : s.view c id = s.committed c id := by
  simp only [St.view, h]
  cases hc : AList.find? s.cache id with
  | none => rfl
  | some v => exact hI.coherent id v hc

theorem abs_view (c : Codec σ β) (s : St σ β) (hI : Inv c s) (id : SlabID) :
    (s.abs c).view id = s.view c id := by
  cases hd : AList.find? s.deltas id with
  | none =>
    rw [view_of_not_pending c s hI id hd]
    simp [Overlay.view, St.abs, hd]
  | some v =>
    rw [view_of_deltas c s id v hd]
    simp [Overlay.view, St.abs, hd]

theorem inv_init (c : Codec σ β) : Inv c (St.init : St σ β) := by
  constructor <;> simp [St.init, St.fresh, AList.keys]

theorem inv_reopen (c : Codec σ β) (s : St σ β) (hI : Inv c s) (alloc : AList Nat Nat) :
    Inv c (St.fresh s.base alloc : St σ β) :=
  ⟨fun _ _ h => (by cases h), List.nodup_nil, List.nodup_nil, hI.baseNodup, hI.noTempBase,
    hI.baseDecodes⟩

theorem inv_fresh (c : Codec σ β) (s : St σ β) (hI : Inv c s) :
    Inv c (St.fresh s.base s.alloc : St σ β) :=
  inv_reopen c s hI s.alloc

theorem inv_setDeltas (c : Codec σ β) (s : St σ β) (hI : Inv c s) (d : AList SlabID (Option σ))
    (hd : (AList.keys d).Nodup) : Inv c { s with deltas := d } :=
  ⟨hI.coherent, hd, hI.cacheNodup, hI.baseNodup, hI.noTempBase, hI.baseDecodes⟩

theorem inv_dropCache (c : Codec σ β) (s : St σ β) (hI : Inv c s) : Inv c s.dropCache := by
  refine ⟨?_, hI.deltasNodup, ?_, hI.baseNodup, hI.noTempBase, hI.baseDecodes⟩
  · intro id v h; simp [St.dropCache] at h
  · simp [St.dropCache, AList.keys]

theorem inv_setCounters (c : Codec σ β) (s : St σ β) (hI : Inv c s) (t : Nat) (a : AList Nat Nat) :
    Inv c { s with tempIx := t, alloc := a } :=
  ⟨hI.coherent, hI.deltasNodup, hI.cacheNodup, hI.baseNodup, hI.noTempBase, hI.baseDecodes⟩

theorem inv_cacheInsert (c : Codec σ β) (s : St σ β) (hI : Inv c s) (id : SlabID) (b : β) (v : σ)
    (hb : AList.find? s.base id = some b) (hv : c.dec id b = some v) :
    Inv c { s with cache := AList.insert s.cache id (some v) } := by
  refine ⟨?_, hI.deltasNodup, AList.nodup_keys_insert _ _ _ hI.cacheNodup, hI.baseNodup,
    hI.noTempBase, hI.baseDecodes⟩
  intro j w h
  simp only [AList.find?_insert] at h
  by_cases hj : id = j
  · subst hj
    simp only [if_true, Option.some.injEq] at h
    subst h
    simp [St.committed, hb, hv]
  · simp only [hj, if_false] at h
    exact hI.coherent j w h

theorem view_cacheInsert (c : Codec σ β) (s : St σ β) (hI : Inv c s) (id : SlabID) (b : β) (v : σ)
    (hb : AList.find? s.base id = some b) (hv : c.dec id b = some v) (j : SlabID) :
    St.view c { s with cache := AList.insert s.cache id (some v) } j = s.view c j := by
  simp only [St.view, AList.find?_insert]
  by_cases hj : id = j
  · subst hj
    cases hd : AList.find? s.deltas id with
    | some w => rfl
    | none =>
      simp only [if_true]
      cases hc : AList.find? s.cache id with
      | some w =>
        have := hI.coherent id w hc
        simp [this, St.committed, hb, hv]
      | none => simp [hb, hv]
  · simp [hj]

theorem view_dropCache (c : Codec σ β) (s : St σ β) (hI : Inv c s) (id : SlabID) :
    s.dropCache.view c id = s.view c id := by
  cases hd : AList.find? s.deltas id with
  | some v => simp [St.view, St.dropCache, hd]
  | none =>
    rw [view_of_not_pending c s hI id hd]
    simp [St.view, St.dropCache, hd, St.committed]

/-- `s'` differs from `s` in the read cache only, and the cache stays coherent: what the reads,
    `BatchPreload` and `DropCache` do. -/
structure CacheOnly (c : Codec σ β) (s s' : St σ β) : Prop where
  deltas : s'.deltas = s.deltas
  base : s'.base = s.base
  alloc : s'.alloc = s.alloc
  tempIx : s'.tempIx = s.tempIx
  inv : Inv c s → Inv c s' ∧ s'.view c = s.view c

theorem CacheOnly.refl (c : Codec σ β) (s : St σ β) : CacheOnly c s s :=
  ⟨rfl, rfl, rfl, rfl, fun h => ⟨h, rfl⟩⟩

theorem CacheOnly.trans {c : Codec σ β} {s s' s'' : St σ β} (h1 : CacheOnly c s s')
    (h2 : CacheOnly c s' s'') : CacheOnly c s s'' :=
  ⟨h2.deltas.trans h1.deltas, h2.base.trans h1.base, h2.alloc.trans h1.alloc,
    h2.tempIx.trans h1.tempIx, fun h =>
      ⟨(h2.inv (h1.inv h).1).1, (h2.inv (h1.inv h).1).2.trans (h1.inv h).2⟩⟩

theorem CacheOnly.cacheInsert (c : Codec σ β) (s : St σ β) (id : SlabID) (b : β) (v : σ)
    (hb : AList.find? s.base id = some b) (hv : c.dec id b = some v) :
    CacheOnly c s { s with cache := AList.insert s.cache id (some v) } :=
  ⟨rfl, rfl, rfl, rfl, fun hI =>
    ⟨inv_cacheInsert c s hI id b v hb hv, funext (view_cacheInsert c s hI id b v hb hv)⟩⟩

theorem CacheOnly.dropCache (c : Codec σ β) (s : St σ β) : CacheOnly c s s.dropCache :=
  ⟨rfl, rfl, rfl, rfl, fun hI => ⟨inv_dropCache c s hI, funext (view_dropCache c s hI)⟩⟩

theorem retrieveIgnoringDeltas_cases (c : Codec σ β) (s : St σ β) (id : SlabID) (ch : Bool) :
    (s.retrieveIgnoringDeltas c id ch = .error .decoding ∧
      ∃ b, AList.find? s.base id = some b ∧ c.dec id b = none) ∨
    ∃ s', s.retrieveIgnoringDeltas c id ch =
        .ok ((match AList.find? s.cache id with | some v => v | none => s.committed c id), s') ∧
      CacheOnly c s s' := by
  unfold St.retrieveIgnoringDeltas St.committed
  cases AList.find? s.cache id with
  | some v => exact .inr ⟨s, rfl, .refl c s⟩
  | none =>
    cases hb : AList.find? s.base id with
    | none => exact .inr ⟨s, rfl, .refl c s⟩
    | some b =>
      dsimp only [Option.bind_some]
      cases hv : c.dec id b with
      | none => exact .inl ⟨rfl, b, rfl, hv⟩
      | some v =>
        cases ch with
        | false => exact .inr ⟨s, rfl, .refl c s⟩
        | true => exact .inr ⟨_, rfl, .cacheInsert c s id b v hb hv⟩

theorem retrieveIgnoringDeltas_spec (c : Codec σ β) (s : St σ β) (hI : Inv c s) (id : SlabID)
    (ch : Bool) :
    ∃ s', s.retrieveIgnoringDeltas c id ch =
        .ok ((match AList.find? s.cache id with | some v => v | none => s.committed c id), s') ∧
      Inv c s' ∧ s'.view c = s.view c ∧ s'.deltas = s.deltas ∧ s'.base = s.base := by
  rcases retrieveIgnoringDeltas_cases c s id ch with ⟨_, b, hb, hv⟩ | ⟨s', h, hs'⟩
  · have := hI.baseDecodes id b hb
    rw [hv] at this
    cases this
  · exact ⟨s', h, (hs'.inv hI).1, (hs'.inv hI).2, hs'.deltas, hs'.base⟩

theorem retrieve_eq (c : Codec σ β) (s : St σ β) (id : SlabID) :
    s.retrieve c id = match AList.find? s.deltas id with
      | some v => .ok (v, s)
      | none => s.retrieveIgnoringDeltas c id true := rfl

theorem retrieve_spec (c : Codec σ β) (s : St σ β) (hI : Inv c s) (id : SlabID) :
    ∃ s', s.retrieve c id = .ok (s.view c id, s') ∧ Inv c s' ∧ s'.view c = s.view c ∧
      s'.deltas = s.deltas ∧ s'.base = s.base := by
  rw [retrieve_eq]
  cases hd : AList.find? s.deltas id with
  | some v => exact ⟨s, by simp [St.view, hd], hI, rfl, rfl, rfl⟩
  | none =>
    obtain ⟨s', h1, h2⟩ := retrieveIgnoringDeltas_spec c s hI id true
    refine ⟨s', ?_, h2⟩
    rw [h1]
    simp only [St.view, hd]
    rfl

/-- `RetrieveIfLoaded` answers from the write set and the cache: the visible slab when the identifier
    is a key of one of the two, nothing otherwise. -/
theorem retrieveIfLoaded_eq (c : Codec σ β) (s : St σ β) (id : SlabID) :
    s.retrieveIfLoaded id =
      if AList.contains s.deltas id || AList.contains s.cache id then s.view c id else none := by
  unfold St.retrieveIfLoaded St.view
  rw [AList.contains_eq, AList.contains_eq]
  cases AList.find? s.deltas id with
  | some v => rfl
  | none => cases AList.find? s.cache id <;> rfl

theorem retrieveIgnoringDeltas_cacheOnly (c : Codec σ β) (s s' : St σ β) (id : SlabID) (ch : Bool)
    (v : Option σ) (h : s.retrieveIgnoringDeltas c id ch = .ok (v, s')) : CacheOnly c s s' := by
  rcases retrieveIgnoringDeltas_cases c s id ch with ⟨he, _⟩ | ⟨s'', h', hs''⟩
  · rw [he] at h; cases h
  · rw [h'] at h; cases h; exact hs''

theorem retrieve_cacheOnly (c : Codec σ β) (s s' : St σ β) (id : SlabID)
    (v : Option σ) (h : s.retrieve c id = .ok (v, s')) : CacheOnly c s s' := by
  rw [retrieve_eq] at h
  cases hd : AList.find? s.deltas id with
  | some w => rw [hd] at h; cases h; exact .refl c s
  | none => rw [hd] at h; exact retrieveIgnoringDeltas_cacheOnly c s s' id true v h

theorem preloadOne_cacheOnly (c : Codec σ β) (r : St σ β × Option StErr) (id : SlabID) :
    CacheOnly c r.1 (preloadOne c r id).1 := by
  unfold preloadOne
  cases r.2 with
  | some e => exact .refl c _
  | none =>
    dsimp only
    cases hb : AList.find? r.1.base id with
    | none => exact .refl c _
    | some b =>
      dsimp only
      cases hv : c.dec id b with
      | none => exact .refl c _
      | some v => exact .cacheInsert c r.1 id b v hb hv

theorem preload_fold_cacheOnly (c : Codec σ β) (ids : List SlabID) (r : St σ β × Option StErr) :
    CacheOnly c r.1 (ids.foldl (preloadOne c) r).1 := by
  induction ids generalizing r with
  | nil => exact .refl c _
  | cons id ids ih => exact (preloadOne_cacheOnly c r id).trans (ih _)

theorem batchPreload_cacheOnly (c : Codec σ β) (s : St σ β) (ids : List SlabID) :
    CacheOnly c s (s.batchPreload c ids).1 :=
  preload_fold_cacheOnly c ids (s, none)

theorem view_fresh (c : Codec σ β) (base : AList SlabID β) (alloc : AList Nat Nat) (id : SlabID) :
    (St.fresh base alloc : St σ β).view c id = (AList.find? base id).bind (c.dec id) := by
  simp [St.view, St.fresh]

theorem view_insertDelta (c : Codec σ β) (s : St σ β) (id : SlabID) (ov : Option σ) (j : SlabID) :
    St.view c { s with deltas := AList.insert s.deltas id ov } j =
      if id = j then ov else s.view c j := by
  simp only [St.view, AList.find?_insert]
  by_cases h : id = j <;> simp [h]

theorem abs_pend_of_deltas (c : Codec σ β) (s s' : St σ β) (h : s'.deltas = s.deltas) :
    (s'.abs c).pend = (s.abs c).pend := by
  simp [St.abs, h]

theorem abs_comm_of_base (c : Codec σ β) (s s' : St σ β) (h : s'.base = s.base) :
    (s'.abs c).comm = (s.abs c).comm := by
  funext id
  simp [St.abs, St.committed, h]

theorem St.abs_insertDelta (c : Codec σ β) (s : St σ β) (id : SlabID) (e : Option σ) :
    St.abs c { s with deltas := AList.insert s.deltas id e } =
      { s.abs c with pend := fun j => if j = id then some e else (s.abs c).pend j } := by
  unfold St.abs
  congr 1
  funext j
  rw [AList.find?_insert]
  by_cases hj : j = id
  · rw [if_pos hj, if_pos hj.symm]
  · rw [if_neg hj, if_neg (Ne.symm hj)]

end Atree

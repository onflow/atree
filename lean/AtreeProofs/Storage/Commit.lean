import AtreeProofs.OrderLemmas
import AtreeModel.StorageOps
import AtreeProofs.Storage.Basic
import AtreeProofs.ScheduleLemmas
/-
  The commit functions (`commitKey`, `commitKeys`, `fastCommit`, `nondetCommit`): what a commit must
  leave in the ledger (`target`), what part of a commit does to a state (`Adv`, `OldOrNew`), and how
  the loop ends as a function of the fault plan (`KeyCall`, `Applied`, `Outcome`, `commitW_outcome`).
-/
namespace Atree
open St

variable {σ β : Type}

/-- The register the ledger must hold for `id` after a successful commit from `s`.  A temporary
    identifier keeps its register whatever is pending: the commit functions skip temporary identifiers. -/
def target (c : Codec σ β) (s : St σ β) (id : SlabID) : Option β :=
  match AList.find? s.deltas id with
  | some (some v) => if id.isTemp then AList.find? s.base id else c.enc v
  | some none => if id.isTemp then AList.find? s.base id else none
  | none => AList.find? s.base id

theorem target_of_not_pending (c : Codec σ β) (s : St σ β) (id : SlabID)
    (h : AList.find? s.deltas id = none) : target c s id = AList.find? s.base id := by
  simp [target, h]

theorem target_of_temp (c : Codec σ β) (s : St σ β) (id : SlabID)
    (h : id.isTemp = true) : target c s id = AList.find? s.base id := by
  unfold target
  split <;> simp [h]

theorem target_eq_of_find (c : Codec σ β) (s s' : St σ β) (id : SlabID)
    (hd : AList.find? s'.deltas id = AList.find? s.deltas id)
    (hb : AList.find? s'.base id = AList.find? s.base id) : target c s' id = target c s id := by
  unfold target
  rw [hd, hb]

theorem target_insertDelta (c : Codec σ β) (s : St σ β) (id : SlabID) (hid : id.isTemp = false)
    (ov : Option σ) (j : SlabID) :
    target c { s with deltas := AList.insert s.deltas id ov } j =
      if id = j then ov.bind c.enc else target c s j := by
  simp only [target, AList.find?_insert]
  by_cases h : id = j
  · subst h
    cases ov <;> simp [hid]
  · simp [h]

theorem target_of_no_deltas (c : Codec σ β) (s : St σ β) (h : s.deltas = []) (id : SlabID) :
    target c s id = AList.find? s.base id :=
  target_of_not_pending c s id (by rw [h]; rfl)

theorem target_congr (c : Codec σ β) (s s' : St σ β) (hd : s'.deltas = s.deltas)
    (hb : s'.base = s.base) (id : SlabID) : target c s' id = target c s id :=
  target_eq_of_find c s s' id (by rw [hd]) (by rw [hb])

/-- `s'` is `s` after some part of a commit. -/
structure Adv (c : Codec σ β) (s s' : St σ β) : Prop where
  view : ∀ id, s'.view c id = s.view c id
  target : ∀ id, target c s' id = target c s id
  pending : ∀ id, AList.find? s'.deltas id = AList.find? s.deltas id ∨
    (AList.find? s'.deltas id = none ∧ id.isTemp = false ∧ s'.committed c id = s.view c id)

theorem Adv.refl (c : Codec σ β) (s : St σ β) : Adv c s s :=
  ⟨fun _ => rfl, fun _ => rfl, fun _ => Or.inl rfl⟩

theorem Adv.trans {c : Codec σ β} {s s' s'' : St σ β} (h1 : Adv c s s') (h2 : Adv c s' s'') :
    Adv c s s'' := by
  refine ⟨fun id => (h2.view id).trans (h1.view id), fun id => (h2.target id).trans (h1.target id), ?_⟩
  intro id
  rcases h2.pending id with h2p | ⟨h2a, h2b, h2c⟩
  · rcases h1.pending id with h1p | ⟨h1a, h1b, h1c⟩
    · exact Or.inl (h2p.trans h1p)
    · right
      have hd'' : AList.find? s''.deltas id = none := h2p.trans h1a
      refine ⟨hd'', h1b, ?_⟩
      have ht := h2.target id
      rw [target_of_not_pending c s'' id hd'', target_of_not_pending c s' id h1a] at ht
      rw [← h1c]
      simp [St.committed, ht]
  · right
    exact ⟨h2a, h2b, h2c.trans (h1.view id)⟩

theorem Adv.not_pending {c : Codec σ β} {s s' : St σ β} (h : Adv c s s') (id : SlabID)
    (hd : AList.find? s.deltas id = none) : AList.find? s'.deltas id = none := by
  rcases h.pending id with hp | ⟨hp, _, _⟩
  · exact hp.trans hd
  · exact hp

theorem Adv.temp {c : Codec σ β} {s s' : St σ β} (h : Adv c s s') (id : SlabID)
    (ht : id.isTemp = true) : AList.find? s'.deltas id = AList.find? s.deltas id := by
  rcases h.pending id with hp | ⟨_, hp, _⟩
  · exact hp
  · simp [ht] at hp

theorem Adv.noEncodeFailure {c : Codec σ β} {s s' : St σ β} (h : Adv c s s')
    (hne : NoEncodeFailure c s) : NoEncodeFailure c s' := by
  intro id v hv
  rcases h.pending id with hp | ⟨hp, _, _⟩
  · exact hne id v (hp ▸ hv)
  · simp [hp] at hv

theorem Adv.base_eq_target {c : Codec σ β} {s s' : St σ β} (h : Adv c s s')
    (hall : ∀ id, id.isTemp = false → AList.find? s'.deltas id = none) (id : SlabID) :
    AList.find? s'.base id = Atree.target c s id := by
  rw [← h.target id]
  cases ht : id.isTemp with
  | true => exact (target_of_temp c s' id ht).symm
  | false => exact (target_of_not_pending c s' id (hall id ht)).symm

theorem Adv.committed_eq_view {c : Codec σ β} {s s' : St σ β} (h : Adv c s s') (hI' : Inv c s')
    (hall : ∀ id, id.isTemp = false → AList.find? s'.deltas id = none) (id : SlabID)
    (ht : id.isTemp = false) : s'.committed c id = s.view c id := by
  rw [← h.view id]
  exact (view_of_not_pending c s' hI' id (hall id ht)).symm

/-- Effect of a successful `Remove` on the base storage. -/
def applyDel (s : St σ β) (k : SlabID) : St σ β :=
  { s with base := AList.erase s.base k, cache := AList.insert s.cache k none,
           deltas := AList.erase s.deltas k }

/-- Effect of a successful `Store` on the base storage. -/
def applyStore (s : St σ β) (k : SlabID) (v : σ) (b : β) : St σ β :=
  { s with base := AList.insert s.base k b, cache := AList.insert s.cache k (some v),
           deltas := AList.erase s.deltas k }

theorem inv_applyDel (c : Codec σ β) (s : St σ β) (hI : Inv c s) (k : SlabID) :
    Inv c (applyDel s k) := by
  refine ⟨?_, AList.nodup_keys_erase _ _ hI.deltasNodup, AList.nodup_keys_insert _ _ _ hI.cacheNodup,
    AList.nodup_keys_erase _ _ hI.baseNodup, ?_, ?_⟩
  · intro id v h
    simp only [applyDel, AList.find?_insert] at h
    simp only [applyDel, St.committed, AList.find?_erase]
    by_cases hk : k = id
    · simp only [hk, if_true, Option.some.injEq] at h
      simp [hk, ← h]
    · simp only [hk, if_false] at h ⊢
      exact hI.coherent id v h
  · intro id ht
    simp only [applyDel, AList.find?_erase]
    split
    · rfl
    · exact hI.noTempBase id ht
  · intro id b h
    simp only [applyDel, AList.find?_erase] at h
    split at h
    · simp at h
    · exact hI.baseDecodes id b h

theorem inv_applyStore (c : Codec σ β) (hc : RoundTrip c) (s : St σ β) (hI : Inv c s) (k : SlabID)
    (hk : k.isTemp = false) (v : σ) (b : β) (hb : c.enc v = some b) :
    Inv c (applyStore s k v b) := by
  refine ⟨?_, AList.nodup_keys_erase _ _ hI.deltasNodup, AList.nodup_keys_insert _ _ _ hI.cacheNodup,
    AList.nodup_keys_insert _ _ _ hI.baseNodup, ?_, ?_⟩
  · intro id w h
    simp only [applyStore, AList.find?_insert] at h
    simp only [applyStore, St.committed, AList.find?_insert]
    by_cases hki : k = id
    · subst hki
      simp only [if_true, Option.some.injEq] at h
      simp [← h, hc k v b hb]
    · simp only [hki, if_false] at h ⊢
      exact hI.coherent id w h
  · intro id ht
    simp only [applyStore, AList.find?_insert]
    split
    · rename_i hki
      subst hki
      simp [ht] at hk
    · exact hI.noTempBase id ht
  · intro id b' h
    simp only [applyStore, AList.find?_insert] at h
    split at h
    · rename_i hki
      subst hki
      simp only [Option.some.injEq] at h
      subst h
      simp [hc k v b hb]
    · exact hI.baseDecodes id b' h

theorem adv_applyDel (c : Codec σ β) (s : St σ β) (k : SlabID) (hk : k.isTemp = false)
    (hd : AList.find? s.deltas k = some none) : Adv c s (applyDel s k) := by
  refine ⟨?_, ?_, ?_⟩
  · intro id
    simp only [applyDel, St.view, AList.find?_erase, AList.find?_insert]
    by_cases hki : k = id
    · subst hki; simp [hd]
    · simp [hki]
  · intro id
    simp only [applyDel, target, AList.find?_erase]
    by_cases hki : k = id
    · subst hki; simp [hd, hk]
    · simp [hki]
  · intro id
    simp only [applyDel, St.view, St.committed, AList.find?_erase]
    by_cases hki : k = id
    · subst hki; simp [hd, hk]
    · simp [hki]

theorem adv_applyStore (c : Codec σ β) (hc : RoundTrip c) (s : St σ β) (k : SlabID)
    (hk : k.isTemp = false) (v : σ) (b : β) (hd : AList.find? s.deltas k = some (some v))
    (hb : c.enc v = some b) : Adv c s (applyStore s k v b) := by
  refine ⟨?_, ?_, ?_⟩
  · intro id
    simp only [applyStore, St.view, AList.find?_erase, AList.find?_insert]
    by_cases hki : k = id
    · subst hki; simp [hd]
    · simp [hki]
  · intro id
    simp only [applyStore, target, AList.find?_erase, AList.find?_insert]
    by_cases hki : k = id
    · subst hki; simp [hd, hk, hb]
    · simp [hki]
  · intro id
    simp only [applyStore, St.view, St.committed, AList.find?_erase, AList.find?_insert]
    by_cases hki : k = id
    · subst hki; simp [hd, hk, hc k v b hb]
    · simp [hki]

theorem noEncodeFailure_erase (c : Codec σ β) (s s' : St σ β) (k : SlabID)
    (hd : s'.deltas = AList.erase s.deltas k) (hne : NoEncodeFailure c s) :
    NoEncodeFailure c s' := by
  intro id v h
  rw [hd, AList.find?_erase] at h
  split at h
  · simp at h
  · exact hne id v h

def callID : BaseCall β → SlabID
  | .store id _ => id
  | .remove id => id

/-- The base-storage call that the loop issues for key `k` in state `s`, and the state once the
    call has succeeded.  A key without an entry is treated as a pending deletion: Go reads `nil` from the map. -/
inductive KeyCall (c : Codec σ β) (s : St σ β) (k : SlabID) : BaseCall β → St σ β → Prop
  | del (hd : AList.find? s.deltas k = none ∨ AList.find? s.deltas k = some none) :
      KeyCall c s k (.remove k) (applyDel s k)
  | store (v : σ) (b : β) (hd : AList.find? s.deltas k = some (some v)) (hb : c.enc v = some b) :
      KeyCall c s k (.store k b) (applyStore s k v b)

namespace KeyCall
variable {c : Codec σ β} {s s' : St σ β} {k : SlabID} {call : BaseCall β}

theorem callID_eq (h : KeyCall c s k call s') : callID call = k := by cases h <;> rfl

theorem deltas (h : KeyCall c s k call s') : s'.deltas = AList.erase s.deltas k := by
  cases h <;> rfl

theorem alloc (h : KeyCall c s k call s') : s'.alloc = s.alloc := by cases h <;> rfl

theorem tempIx (h : KeyCall c s k call s') : s'.tempIx = s.tempIx := by cases h <;> rfl

theorem find?_deltas (h : KeyCall c s k call s') (j : SlabID) :
    AList.find? s'.deltas j = if k = j then none else AList.find? s.deltas j := by
  rw [h.deltas, AList.find?_erase]

theorem find?_base (h : KeyCall c s k call s') (hk : AList.find? s.deltas k ≠ none)
    (hkt : k.isTemp = false) (j : SlabID) :
    AList.find? s'.base j = if k = j then Atree.target c s k else AList.find? s.base j := by
  cases h with
  | del hd => simp [applyDel, AList.find?_erase, Atree.target, hd.resolve_left hk, hkt]
  | store v b hd hb =>
    by_cases e : k = j
    · subst e; simp [applyStore, AList.find?_insert, Atree.target, hd, hkt, hb]
    · simp [applyStore, AList.find?_insert, e]

theorem deltas_nodup (h : KeyCall c s k call s') (hnd : (AList.keys s.deltas).Nodup) :
    (AList.keys s'.deltas).Nodup := by
  rw [h.deltas]; exact AList.nodup_keys_erase _ _ hnd

theorem noEncodeFailure (h : KeyCall c s k call s') (hne : NoEncodeFailure c s) :
    NoEncodeFailure c s' :=
  noEncodeFailure_erase c s s' k h.deltas hne

theorem inv (h : KeyCall c s k call s') (hc : RoundTrip c) (hI : Inv c s) (hkt : k.isTemp = false) :
    Inv c s' := by
  cases h with
  | del => exact inv_applyDel c s hI k
  | store v b _ hb => exact inv_applyStore c hc s hI k hkt v b hb

theorem adv (h : KeyCall c s k call s') (hc : RoundTrip c) (hk : AList.find? s.deltas k ≠ none)
    (hkt : k.isTemp = false) : Adv c s s' := by
  cases h with
  | del hd => exact adv_applyDel c s k hkt (hd.resolve_left hk)
  | store v b hd hb => exact adv_applyStore c hc s k hkt v b hd hb

end KeyCall

theorem commitKey_cases (c : Codec σ β) (fault : Nat → Bool) (r : CommitRes σ β) (k : SlabID) :
    (∃ e, r.err = some e ∧ commitKey c fault r k = r) ∨
    r.err = none ∧
      ((∃ v, AList.find? r.st.deltas k = some (some v) ∧ c.enc v = none ∧
          commitKey c fault r k = { r with err := some .encoding }) ∨
       ∃ call s', KeyCall c r.st k call s' ∧ commitKey c fault r k =
          if fault r.n then { r with err := some .external, log := r.log ++ [call], n := r.n + 1 }
          else { st := s', err := none, log := r.log ++ [call], n := r.n + 1 }) := by
  unfold commitKey
  cases r.err with
  | some e => exact .inl ⟨e, rfl, rfl⟩
  | none =>
    refine .inr ⟨rfl, ?_⟩
    dsimp only
    cases hd : AList.find? r.st.deltas k with
    | none => exact .inr ⟨_, _, .del (.inl hd), rfl⟩
    | some o =>
      cases o with
      | none => exact .inr ⟨_, _, .del (.inr hd), rfl⟩
      | some v =>
        dsimp only
        cases hb : c.enc v with
        | none => exact .inl ⟨v, rfl, hb, rfl⟩
        | some b => exact .inr ⟨_, _, .store v b hd hb, rfl⟩

theorem commitKey_st (c : Codec σ β) (fault : Nat → Bool) (r : CommitRes σ β) (k : SlabID) :
    (commitKey c fault r k).st = r.st ∨ ∃ call, KeyCall c r.st k call (commitKey c fault r k).st := by
  rcases commitKey_cases c fault r k with ⟨_, _, h⟩ | ⟨_, ⟨_, _, _, h⟩ | ⟨call, s', hc, h⟩⟩
  · rw [h]; exact .inl rfl
  · rw [h]; exact .inl rfl
  · rw [h]
    cases fault r.n with
    | true => exact .inl rfl
    | false => exact .inr ⟨call, hc⟩

theorem commitKey_of_err (c : Codec σ β) (fault : Nat → Bool) (r : CommitRes σ β) (k : SlabID)
    (e : StErr) (h : r.err = some e) : commitKey c fault r k = r := by
  unfold commitKey
  simp [h]

theorem foldl_commitKey_of_err (c : Codec σ β) (fault : Nat → Bool) (keys : List SlabID)
    (r : CommitRes σ β) (e : StErr) (h : r.err = some e) :
    keys.foldl (commitKey c fault) r = r := by
  induction keys with
  | nil => rfl
  | cons k ks ih => rw [List.foldl_cons, commitKey_of_err c fault r k e h, ih]

theorem commitKey_deltas_frame (c : Codec σ β) (fault : Nat → Bool) (r : CommitRes σ β)
    (k j : SlabID) (hj : j ≠ k) :
    AList.find? (commitKey c fault r k).st.deltas j = AList.find? r.st.deltas j := by
  rcases commitKey_st c fault r k with h | ⟨_, h⟩
  · rw [h]
  · rw [h.find?_deltas, if_neg (Ne.symm hj)]

/-- The base-storage calls `calls` for the keys `ks`, issued from `s` in this order and all
    successful, lead to `s'`: the state part of a run of the commit loop, without its error, log
    and call counter. -/
inductive Applied (c : Codec σ β) : St σ β → List SlabID → List (BaseCall β) → St σ β → Prop
  | nil (s : St σ β) : Applied c s [] [] s
  | cons {s s1 s' : St σ β} {k : SlabID} {call : BaseCall β} {ks : List SlabID}
      {calls : List (BaseCall β)} (h : KeyCall c s k call s1) (t : Applied c s1 ks calls s') :
      Applied c s (k :: ks) (call :: calls) s'

namespace Applied
variable {c : Codec σ β} {s s' s'' : St σ β} {ks : List SlabID} {calls : List (BaseCall β)}

theorem snoc {k : SlabID} {call : BaseCall β} (ha : Applied c s ks calls s')
    (h : KeyCall c s' k call s'') : Applied c s (ks ++ [k]) (calls ++ [call]) s'' := by
  induction ha with
  | nil s => exact .cons h (.nil _)
  | cons h1 _ ih => exact .cons h1 (ih h)

theorem length (ha : Applied c s ks calls s') : calls.length = ks.length := by
  induction ha with
  | nil => rfl
  | cons _ _ ih => simp [ih]

theorem callIDs (ha : Applied c s ks calls s') : calls.map callID = ks := by
  induction ha with
  | nil => rfl
  | cons h _ ih => simp [ih, h.callID_eq]

/-- A property of states that every `KeyCall` keeps. -/
theorem keeps {Φ : St σ β → Prop} (step : ∀ {s k call s'}, KeyCall c s k call s' → Φ s → Φ s')
    (ha : Applied c s ks calls s') (h0 : Φ s) : Φ s' := by
  induction ha with
  | nil => exact h0
  | cons h _ ih => exact ih (step h h0)

theorem cleared (ha : Applied c s ks calls s') : ∀ k, k ∈ ks → AList.find? s'.deltas k = none := by
  induction ha with
  | nil => intro k hk; cases hk
  | @cons s s1 s' k call ks calls h t ih =>
    intro j hj
    rcases List.mem_cons.mp hj with e | hj
    · refine t.keeps (Φ := fun x => AList.find? x.deltas j = none) (fun h' hx => ?_) ?_
      · rw [h'.find?_deltas]
        split
        · rfl
        · exact hx
      · rw [h.find?_deltas, if_pos e.symm]
    · exact ih j hj

/-- Every preorder on states that a call for an owned pending key respects relates `s` and `s'`,
    when the keys are distinct, owned and pending in `s`. -/
theorem rel {R : St σ β → St σ β → Prop} (refl : ∀ s, R s s) (trans : ∀ {a b d}, R a b → R b d → R a d)
    (step : ∀ {s k call s'}, KeyCall c s k call s' → AList.find? s.deltas k ≠ none →
      k.isTemp = false → R s s')
    (ha : Applied c s ks calls s') (hnd : ks.Nodup)
    (hk : ∀ k, k ∈ ks → AList.find? s.deltas k ≠ none ∧ k.isTemp = false) : R s s' := by
  induction ha with
  | nil s => exact refl s
  | @cons s s1 s' k call ks calls h _ ih =>
    rw [List.nodup_cons] at hnd
    refine trans (step h (hk k (List.mem_cons_self ..)).1 (hk k (List.mem_cons_self ..)).2)
      (ih hnd.2 fun j hj => ?_)
    -- a later key is still pending after the call for `k`
    rw [h.find?_deltas, if_neg fun (e : k = j) => hnd.1 (e ▸ hj)]
    exact hk j (List.mem_cons_of_mem _ hj)

/-- The result in closed form: exactly the identifiers in `ks` have left the write set, and exactly
    their registers hold the commit target of the start state `s`. -/
theorem find? (ha : Applied c s ks calls s') (hnd : ks.Nodup)
    (hk : ∀ k, k ∈ ks → AList.find? s.deltas k ≠ none ∧ k.isTemp = false) (id : SlabID) :
    AList.find? s'.deltas id = (if id ∈ ks then none else AList.find? s.deltas id) ∧
    AList.find? s'.base id = (if id ∈ ks then target c s id else AList.find? s.base id) := by
  induction ha with
  | nil s => simp
  | @cons s s1 s' k call ks calls h _ ih =>
    rw [List.nodup_cons] at hnd
    have hk0 := hk k (List.mem_cons_self ..)
    have hd1 := h.find?_deltas
    have hb1 := h.find?_base hk0.1 hk0.2
    obtain ⟨i1, i2⟩ := ih hnd.2 fun j hj => by
      rw [hd1, if_neg fun (e : k = j) => hnd.1 (e ▸ hj)]
      exact hk j (List.mem_cons_of_mem _ hj)
    rw [i1, i2, hd1, hb1]
    by_cases e : k = id
    · subst e
      simp [hnd.1]
    · have e' : ¬ id = k := fun x => e x.symm
      by_cases hm : id ∈ ks
      · have hm' : id ∈ k :: ks := List.mem_cons_of_mem _ hm
        rw [if_pos hm, if_pos hm, if_pos hm', if_pos hm']
        exact ⟨rfl, target_eq_of_find c s s1 id (by rw [hd1, if_neg e]) (by rw [hb1, if_neg e])⟩
      · have hm' : ¬ id ∈ k :: ks := fun h => (List.mem_cons.mp h).elim e' hm
        rw [if_neg hm, if_neg hm, if_neg hm', if_neg hm', if_neg e, if_neg e]
        exact ⟨rfl, rfl⟩

end Applied

/-- No error so far and no faulted call among those issued, or an external error and the last
    call issued is the first faulted position. -/
def FirstFault (fault : Nat → Bool) (r : CommitRes σ β) : Prop :=
  (r.err = none ∧ ∀ n, n < r.n → fault n = false) ∨
  (r.err = some .external ∧
    ∃ p, r.n = p + 1 ∧ fault p = true ∧ ∀ m, m < p → fault m = false)

theorem FirstFault.err_none_of_no_fault {fault : Nat → Bool} {r : CommitRes σ β}
    (h : FirstFault fault r) (hf : ∀ n, n < r.n → fault n = false) : r.err = none := by
  rcases h with ⟨he, _⟩ | ⟨_, p, hp, hfp, _⟩
  · exact he
  · rw [hf p (by omega)] at hfp; cases hfp

theorem FirstFault.external_of_fault {fault : Nat → Bool} {r : CommitRes σ β} (h : FirstFault fault r)
    (hf : ∃ n, n < r.n ∧ fault n = true) : r.err = some .external := by
  rcases h with ⟨_, hn⟩ | ⟨he, _⟩
  · obtain ⟨n, hlt, hn'⟩ := hf
    simp [hn n hlt] at hn'
  · exact he

/-- How `commitKeys c fault s keys` ends, as a function of the fault plan: the calls for a prefix
    `done` of the keys succeeded (`Applied`), and then the keys ran out; or the call for the next
    key is the first faulted position of the plan; or the slab of the next key does not encode. -/
inductive Outcome (c : Codec σ β) (fault : Nat → Bool) (s : St σ β) (keys : List SlabID) :
    CommitRes σ β → Prop
  | complete {calls : List (BaseCall β)} {s' : St σ β} (ha : Applied c s keys calls s')
      (hf : ∀ i, i < keys.length → fault i = false) :
      Outcome c fault s keys ⟨s', none, calls, keys.length⟩
  | faulted {done rest : List SlabID} {k : SlabID} {calls : List (BaseCall β)} {s' s'' : St σ β}
      {call : BaseCall β} (hk : keys = done ++ k :: rest) (ha : Applied c s done calls s')
      (hf : ∀ i, i < done.length → fault i = false) (hc : KeyCall c s' k call s'')
      (hp : fault done.length = true) :
      Outcome c fault s keys ⟨s', some .external, calls ++ [call], done.length + 1⟩
  | unencodable {done rest : List SlabID} {k : SlabID} {calls : List (BaseCall β)} {s' : St σ β}
      {v : σ} (hk : keys = done ++ k :: rest) (ha : Applied c s done calls s')
      (hf : ∀ i, i < done.length → fault i = false)
      (hd : AList.find? s'.deltas k = some (some v)) (he : c.enc v = none) :
      Outcome c fault s keys ⟨s', some .encoding, calls, done.length⟩

theorem commitKeys_outcome (c : Codec σ β) (fault : Nat → Bool) (s : St σ β) (keys : List SlabID) :
    Outcome c fault s keys (commitKeys c fault s keys) := by
  -- the loop appends at the end: by induction over the reversed key list no start value of the
  -- fold has to be generalised, and a loop that has stopped stays as it is
  suffices h : ∀ rk : List SlabID, Outcome c fault s rk.reverse (commitKeys c fault s rk.reverse) by
    simpa using h keys.reverse
  intro rk
  induction rk with
  | nil => exact .complete (.nil s) (fun i hi => by cases hi)
  | cons k rk ih =>
    rw [List.reverse_cons]
    generalize rk.reverse = ks at ih ⊢
    have e : commitKeys c fault s (ks ++ [k]) = commitKey c fault (commitKeys c fault s ks) k := by
      simp [commitKeys, List.foldl_append]
    rw [e]
    generalize commitKeys c fault s ks = r0 at ih ⊢
    cases ih with
    | faulted hk ha hf hc hp =>
      rw [commitKey_of_err c fault _ k _ rfl]
      exact .faulted (by rw [hk, List.append_assoc]; rfl) ha hf hc hp
    | unencodable hk ha hf hd he =>
      rw [commitKey_of_err c fault _ k _ rfl]
      exact .unencodable (by rw [hk, List.append_assoc]; rfl) ha hf hd he
    | @complete calls s' ha hf =>
      rcases commitKey_cases c fault ⟨s', none, calls, ks.length⟩ k with
        ⟨e, he, _⟩ | ⟨_, ⟨v, hd, hb, h'⟩ | ⟨call, s'', hc, h'⟩⟩
      · cases he
      · rw [h']; exact .unencodable rfl ha hf hd hb
      · rw [h']
        cases hp : fault ks.length with
        | true => exact .faulted rfl ha hf hc hp
        | false =>
          have := Outcome.complete (fault := fault) (ha.snoc hc) (fun i hi => by
            rw [List.length_append, List.length_singleton] at hi
            rcases Nat.lt_succ_iff_lt_or_eq.mp hi with hi | rfl
            · exact hf i hi
            · exact hp)
          simpa using this

namespace Outcome
variable {c : Codec σ β} {fault : Nat → Bool} {s : St σ β} {keys : List SlabID} {r : CommitRes σ β}

/-- The state part of an outcome: the calls for a prefix of the keys, all of them on success. -/
theorem applied (h : Outcome c fault s keys r) :
    ∃ done calls, done <+: keys ∧ Applied c s done calls r.st ∧ (r.err = none → done = keys) := by
  cases h with
  | complete ha _ => exact ⟨_, _, List.prefix_refl _, ha, fun _ => rfl⟩
  | faulted hk ha _ _ _ => exact ⟨_, _, ⟨_, hk.symm⟩, ha, fun h => by cases h⟩
  | unencodable hk ha _ _ _ => exact ⟨_, _, ⟨_, hk.symm⟩, ha, fun h => by cases h⟩

theorem n_log (h : Outcome c fault s keys r) : r.n = r.log.length := by
  cases h with
  | complete ha _ => exact ha.length.symm
  | faulted _ ha _ _ _ => simp [ha.length]
  | unencodable _ ha _ _ _ => exact ha.length.symm

theorem n_le (h : Outcome c fault s keys r) : r.n ≤ keys.length ∧ (r.err = none → r.n = keys.length) := by
  cases h with
  | complete _ _ => exact ⟨Nat.le_refl _, fun _ => rfl⟩
  | faulted hk _ _ _ _ => subst hk; exact ⟨by simp, fun h => by cases h⟩
  | unencodable hk _ _ _ _ => subst hk; exact ⟨by simp, fun h => by cases h⟩

/-- The call log names a prefix of the keys, all of them on success. -/
theorem log (h : Outcome c fault s keys r) :
    (r.log.map callID <+: keys) ∧ (r.err = none → r.log.map callID = keys) := by
  cases h with
  | complete ha _ => exact ⟨by rw [ha.callIDs]; exact List.prefix_refl _, fun _ => ha.callIDs⟩
  | faulted hk ha _ hc _ =>
    subst hk
    refine ⟨?_, fun h => by cases h⟩
    rw [List.map_append, ha.callIDs, List.map_singleton, hc.callID_eq]
    exact ⟨_, (List.append_assoc ..).trans rfl⟩
  | unencodable hk ha _ _ _ =>
    subst hk
    exact ⟨by rw [ha.callIDs]; exact List.prefix_append _ _, fun h => by cases h⟩

theorem firstFault (h : Outcome c fault s keys r) (hne : NoEncodeFailure c s) : FirstFault fault r := by
  cases h with
  | complete _ hf => exact .inl ⟨rfl, hf⟩
  | faulted _ _ hf _ hp => exact .inr ⟨rfl, _, rfl, hp, hf⟩
  | unencodable _ ha _ hd he =>
    have := ha.keeps (Φ := NoEncodeFailure c) KeyCall.noEncodeFailure hne _ _ hd
    rw [he] at this; cases this

end Outcome

/-- `keys` enumerates the owned pending identifiers of `s`, each exactly once. -/
structure OwnedKeys (s : St σ β) (keys : List SlabID) : Prop where
  nodup : keys.Nodup
  mem : ∀ k, k ∈ keys ↔ (AList.find? s.deltas k ≠ none ∧ k.isTemp = false)

theorem ownedKeys_sorted (s : St σ β) (hnd : (AList.keys s.deltas).Nodup) :
    OwnedKeys s (sortedOwnedDeltaKeys s) := by
  constructor
  · exact nodup_sortIDs _ (hnd.sublist List.filter_sublist)
  · intro k
    unfold sortedOwnedDeltaKeys
    rw [mem_sortIDs, List.mem_filter, AList.find?_ne_none_iff]
    simp

theorem mem_modifiedOwned (s : St σ β) (hnd : (AList.keys s.deltas).Nodup) (k : SlabID) :
    k ∈ modifiedOwned s ↔ (∃ v, AList.find? s.deltas k = some (some v)) ∧ k.isTemp = false := by
  unfold modifiedOwned
  simp only [List.mem_map, List.mem_filter]
  constructor
  · rintro ⟨⟨k', ov⟩, ⟨hm, hcond⟩, rfl⟩
    simp only [Bool.and_eq_true, Bool.not_eq_true', Option.isSome_iff_exists] at hcond
    obtain ⟨ht, v, rfl⟩ := hcond
    exact ⟨⟨v, (AList.mem_iff_find? s.deltas hnd k' (some v)).mp hm⟩, ht⟩
  · rintro ⟨⟨v, hv⟩, ht⟩
    exact ⟨(k, some v), ⟨(AList.mem_iff_find? s.deltas hnd k (some v)).mpr hv, by simp [ht]⟩, rfl⟩

theorem mem_deletedOwned (s : St σ β) (hnd : (AList.keys s.deltas).Nodup) (k : SlabID) :
    k ∈ deletedOwned s ↔ AList.find? s.deltas k = some none ∧ k.isTemp = false := by
  unfold deletedOwned
  simp only [List.mem_map, List.mem_filter]
  constructor
  · rintro ⟨⟨k', ov⟩, ⟨hm, hcond⟩, rfl⟩
    simp only [Bool.and_eq_true, Bool.not_eq_true', Option.isNone_iff_eq_none] at hcond
    obtain ⟨ht, rfl⟩ := hcond
    exact ⟨(AList.mem_iff_find? s.deltas hnd k' none).mp hm, ht⟩
  · rintro ⟨hv, ht⟩
    exact ⟨(k, none), ⟨(AList.mem_iff_find? s.deltas hnd k none).mpr hv, by simp [ht]⟩, rfl⟩

theorem nodup_modifiedOwned (s : St σ β) (hnd : (AList.keys s.deltas).Nodup) :
    (modifiedOwned s).Nodup :=
  hnd.sublist (List.Sublist.map _ List.filter_sublist)

theorem nodup_deletedOwned (s : St σ β) (hnd : (AList.keys s.deltas).Nodup) :
    (deletedOwned s).Nodup :=
  hnd.sublist (List.Sublist.map _ List.filter_sublist)

/-- The key list met by `nondetCommit`. -/
def nondetKeys (mo dlo : List SlabID) : List SlabID :=
  if mo.length < 2 then mo ++ dlo else dlo ++ mo

theorem nondetCommit_eq (c : Codec σ β) (fault : Nat → Bool) (s : St σ β) (mo dlo : List SlabID) :
    nondetCommit c fault s mo dlo = commitKeys c fault s (nondetKeys mo dlo) := by
  unfold nondetCommit nondetKeys
  split
  · rfl
  · simp only [commitKeys, List.foldl_append]
    split
    · rename_i e he
      exact (foldl_commitKey_of_err c fault mo _ e he).symm
    · rfl

theorem ownedKeys_nondet (s : St σ β) (hnd : (AList.keys s.deltas).Nodup) (mo dlo : List SlabID) :
    OwnedKeys s (nondetKeys (normOrder s.modifiedOwned mo) (normOrder s.deletedOwned dlo)) := by
  have hm := nodup_normOrder s.modifiedOwned mo (nodup_modifiedOwned s hnd)
  have hd := nodup_normOrder s.deletedOwned dlo (nodup_deletedOwned s hnd)
  have hdisj : ∀ a, a ∈ normOrder s.modifiedOwned mo → ∀ b, b ∈ normOrder s.deletedOwned dlo → a ≠ b := by
    intro a ha b hb hab
    subst hab
    rw [mem_normOrder, mem_modifiedOwned s hnd] at ha
    rw [mem_normOrder, mem_deletedOwned s hnd] at hb
    obtain ⟨⟨v, hv⟩, _⟩ := ha
    rw [hb.1] at hv
    simp at hv
  have hmem : ∀ k, (k ∈ normOrder s.modifiedOwned mo ∨ k ∈ normOrder s.deletedOwned dlo) ↔
      (AList.find? s.deltas k ≠ none ∧ k.isTemp = false) := by
    intro k
    rw [mem_normOrder, mem_normOrder, mem_modifiedOwned s hnd, mem_deletedOwned s hnd]
    constructor
    · rintro (⟨⟨v, hv⟩, ht⟩ | ⟨hv, ht⟩) <;> simp [hv, ht]
    · rintro ⟨hv, ht⟩
      cases h : AList.find? s.deltas k with
      | none => exact absurd h hv
      | some ov =>
        cases ov with
        | none => exact Or.inr ⟨rfl, ht⟩
        | some v => exact Or.inl ⟨⟨v, rfl⟩, ht⟩
  unfold nondetKeys
  split
  · constructor
    · rw [List.nodup_append]; exact ⟨hm, hd, hdisj⟩
    · intro k; rw [List.mem_append]; exact hmem k
  · constructor
    · rw [List.nodup_append]; exact ⟨hd, hm, fun a ha b hb hab => hdisj b hb a ha hab.symm⟩
    · intro k; rw [List.mem_append, Or.comm]; exact hmem k

/-- What `St.step` runs for `Op.commit kind faults mo dlo` (`St.step_commit`): `fastCommit`, or
    `nondetCommit` on the re-validated orders.  The model gives this branch no name; the statements
    of `Props/C14.lean` use their own copy `C14.commitWith`, equal to this by `C14.commitWith_eq`. -/
def commitW (c : Codec σ β) (kind : CommitKind) (fault : Nat → Bool) (mo dlo : List SlabID)
    (s : St σ β) : CommitRes σ β :=
  match kind with
  | .det => s.fastCommit c fault
  | .nondet => s.nondetCommit c fault (normOrder s.modifiedOwned mo) (normOrder s.deletedOwned dlo)

theorem anyEncodeFails_false (c : Codec σ β) (s : St σ β) (keys : List SlabID)
    (hne : NoEncodeFailure c s) : anyEncodeFails c s keys = false := by
  unfold anyEncodeFails
  rw [List.any_eq_false]
  intro id _
  split
  · rename_i v hv
    have := hne id v hv
    simp [Option.isSome_iff_exists] at this
    obtain ⟨b, hb⟩ := this
    simp [hb]
  · simp

/-- Either commit is the loop over some key list – which under unique delta keys enumerates the
    owned pending identifiers exactly once – or (FastCommit only) the up-front encoding failure. -/
theorem commitW_shape (c : Codec σ β) (kind : CommitKind) (fault : Nat → Bool)
    (mo dlo : List SlabID) (s : St σ β) :
    ∃ keys, ((AList.keys s.deltas).Nodup → OwnedKeys s keys) ∧
      (commitW c kind fault mo dlo s = commitKeys c fault s keys ∨
       (¬ NoEncodeFailure c s ∧
        commitW c kind fault mo dlo s = { st := s, err := some .encoding, log := [], n := 0 })) := by
  cases kind with
  | det =>
    refine ⟨sortedOwnedDeltaKeys s, ownedKeys_sorted s, ?_⟩
    show (fastCommit c fault s = _ ∨ _ ∧ fastCommit c fault s = _)
    unfold fastCommit
    cases h : anyEncodeFails c s (sortedOwnedDeltaKeys s) with
    | false => left; simp [h]
    | true =>
      right
      refine ⟨?_, by simp [h]⟩
      intro hne
      rw [anyEncodeFails_false c s _ hne] at h
      simp at h
  | nondet =>
    refine ⟨_, fun hnd => ownedKeys_nondet s hnd mo dlo, Or.inl ?_⟩
    exact nondetCommit_eq c fault s _ _

theorem OwnedKeys.perm {s : St σ β} {k1 k2 : List SlabID} (h1 : OwnedKeys s k1) (h2 : OwnedKeys s k2) :
    k1.Perm k2 :=
  (List.perm_ext_iff_of_nodup h1.nodup h2.nodup).2 (fun a => by rw [h1.mem, h2.mem])

/-- What `Applied.rel` and `Applied.find?` ask of the keys done. -/
theorem OwnedKeys.of_prefix {s : St σ β} {keys done : List SlabID} (h : OwnedKeys s keys)
    (hp : done <+: keys) :
    done.Nodup ∧ ∀ k, k ∈ done → AList.find? s.deltas k ≠ none ∧ k.isTemp = false :=
  ⟨h.nodup.sublist hp.sublist, fun k hk => (h.mem k).mp (hp.subset hk)⟩

/-- Either commit function: an outcome of the loop over an enumeration of the owned pending
    identifiers, or (FastCommit only) the up-front encoding failure. -/
theorem commitW_outcome (c : Codec σ β) (kind : CommitKind) (fault : Nat → Bool)
    (mo dlo : List SlabID) (s : St σ β) (hnd : (AList.keys s.deltas).Nodup) :
    ∃ keys, OwnedKeys s keys ∧ keys.length = (sortedOwnedDeltaKeys s).length ∧
      (Outcome c fault s keys (commitW c kind fault mo dlo s) ∨
       (¬ NoEncodeFailure c s ∧
        commitW c kind fault mo dlo s = { st := s, err := some .encoding, log := [], n := 0 })) := by
  obtain ⟨keys, hkeys, hshape⟩ := commitW_shape c kind fault mo dlo s
  refine ⟨keys, hkeys hnd, ((hkeys hnd).perm (ownedKeys_sorted s hnd)).length_eq, ?_⟩
  rcases hshape with h | h
  · exact .inl (h ▸ commitKeys_outcome c fault s keys)
  · exact .inr h

/-- What every commit attempt does, whatever its kind, fault plan and orders: the invariant is kept, the
    state only advances towards the commit target (`Adv`), and on success no owned identifier is pending. -/
theorem commitW_spec (c : Codec σ β) (hc : RoundTrip c) (kind : CommitKind) (fault : Nat → Bool)
    (mo dlo : List SlabID) (s : St σ β) (hI : Inv c s) :
    Inv c (commitW c kind fault mo dlo s).st ∧ Adv c s (commitW c kind fault mo dlo s).st ∧
    ((commitW c kind fault mo dlo s).err = none →
      ∀ id, id.isTemp = false → AList.find? (commitW c kind fault mo dlo s).st.deltas id = none) := by
  obtain ⟨keys, hok, _, h | ⟨_, h⟩⟩ := commitW_outcome c kind fault mo dlo s hI.deltasNodup
  · obtain ⟨done, calls, hp, ha, hfull⟩ := h.applied
    obtain ⟨hnd, hk⟩ := hok.of_prefix hp
    have hadv := ha.rel (Adv.refl c) Adv.trans (fun h hp ht => h.adv hc hp ht) hnd hk
    refine ⟨ha.rel (R := fun a b => Inv c a → Inv c b) (fun _ h => h) (fun f g h => g (f h))
      (fun h _ ht hI => h.inv hc hI ht) hnd hk hI, hadv, fun herr id ht => ?_⟩
    cases hd : AList.find? s.deltas id with
    | none => exact hadv.not_pending id hd
    | some _ => exact ha.cleared id (hfull herr ▸ (hok.mem id).mpr ⟨by simp [hd], ht⟩)
  · rw [h]
    exact ⟨hI, Adv.refl c s, fun herr => by cases herr⟩

theorem commitW_firstFault (c : Codec σ β) (kind : CommitKind) (fault : Nat → Bool)
    (mo dlo : List SlabID) (s : St σ β) (hne : NoEncodeFailure c s) :
    FirstFault fault (commitW c kind fault mo dlo s) := by
  obtain ⟨keys, _, hshape⟩ := commitW_shape c kind fault mo dlo s
  rcases hshape with h | ⟨h, _⟩
  · exact h ▸ (commitKeys_outcome c fault s keys).firstFault hne
  · exact absurd hne h

/-- A commit attempt touches neither identifier counter: the per-address ones (`alloc`) and the temporary one. -/
theorem commitW_alloc (c : Codec σ β) (kind : CommitKind) (fault : Nat → Bool) (mo dlo : List SlabID)
    (s : St σ β) :
    (commitW c kind fault mo dlo s).st.alloc = s.alloc ∧
    (commitW c kind fault mo dlo s).st.tempIx = s.tempIx := by
  obtain ⟨keys, _, hshape⟩ := commitW_shape c kind fault mo dlo s
  rcases hshape with h | ⟨_, h⟩
  · obtain ⟨_, _, _, ha, _⟩ := (commitKeys_outcome c fault s keys).applied
    rw [h]
    exact ha.keeps (Φ := fun x => x.alloc = s.alloc ∧ x.tempIx = s.tempIx)
      (fun h hx => ⟨h.alloc.trans hx.1, h.tempIx.trans hx.2⟩) ⟨rfl, rfl⟩
  · rw [h]; exact ⟨rfl, rfl⟩

theorem commitW_complete (c : Codec σ β) (hc : RoundTrip c) (kind : CommitKind)
    (fault : Nat → Bool) (hf : ∀ n, fault n = false)
    (mo dlo : List SlabID) (s : St σ β) (hI : Inv c s) (hne : NoEncodeFailure c s) :
    (commitW c kind fault mo dlo s).err = none ∧
    (∀ id, id.isTemp = false → AList.find? (commitW c kind fault mo dlo s).st.deltas id = none) ∧
    (∀ id, AList.find? (commitW c kind fault mo dlo s).st.base id = target c s id) := by
  have herr := (commitW_firstFault c kind fault mo dlo s hne).err_none_of_no_fault fun n _ => hf n
  obtain ⟨_, h2, h3⟩ := commitW_spec c hc kind fault mo dlo s hI
  exact ⟨herr, h3 herr, h2.base_eq_target (h3 herr)⟩

theorem foldl_adv {α : Type} (c : Codec σ β) (f : St σ β → α → St σ β)
    (hf : ∀ s a, Inv c s → Inv c (f s a) ∧ Adv c s (f s a)) (l : List α) (s : St σ β)
    (hI : Inv c s) : Inv c (l.foldl f s) ∧ Adv c s (l.foldl f s) :=
  foldl_invariant f (fun _ => True) (Inv c) (Adv c) (Adv.refl c) Adv.trans (fun s a _ => hf s a)
    l s (fun _ _ => trivial) hI

/-- Per identifier: untouched (same delta entry, same register), or written (no longer pending and
    the register is the commit target of `s`). -/
def OldOrNew (c : Codec σ β) (s s' : St σ β) : Prop :=
  ∀ id, (AList.find? s'.deltas id = AList.find? s.deltas id ∧
          AList.find? s'.base id = AList.find? s.base id) ∨
        (AList.find? s'.deltas id = none ∧ AList.find? s'.base id = target c s id)

theorem OldOrNew.refl (c : Codec σ β) (s : St σ β) : OldOrNew c s s :=
  fun _ => Or.inl ⟨rfl, rfl⟩

theorem OldOrNew.trans {c : Codec σ β} {s s' s'' : St σ β} (h1 : OldOrNew c s s')
    (h2 : OldOrNew c s' s'') : OldOrNew c s s'' := by
  intro id
  rcases h2 id with ⟨h2d, h2b⟩ | ⟨h2d, h2b⟩
  · rcases h1 id with ⟨h1d, h1b⟩ | ⟨h1d, h1b⟩
    · exact Or.inl ⟨h2d.trans h1d, h2b.trans h1b⟩
    · exact Or.inr ⟨h2d.trans h1d, h2b.trans h1b⟩
  · right
    refine ⟨h2d, ?_⟩
    rcases h1 id with ⟨h1d, h1b⟩ | ⟨h1d, h1b⟩
    · rw [h2b]; exact target_eq_of_find c s s' id h1d h1b
    · rw [h2b, target_of_not_pending c s' id h1d]; exact h1b

/-- `OldOrNew` is `Applied.find?` read identifier by identifier. -/
theorem Applied.oldOrNew {c : Codec σ β} {s s' : St σ β} {ks : List SlabID}
    {calls : List (BaseCall β)} (ha : Applied c s ks calls s') (hnd : ks.Nodup)
    (hk : ∀ k, k ∈ ks → AList.find? s.deltas k ≠ none ∧ k.isTemp = false) : OldOrNew c s s' := by
  intro id
  obtain ⟨h1, h2⟩ := ha.find? hnd hk id
  by_cases hm : id ∈ ks
  · rw [if_pos hm] at h1 h2; exact .inr ⟨h1, h2⟩
  · rw [if_neg hm] at h1 h2; exact .inl ⟨h1, h2⟩

/-- A commit attempt relates start and end by `OldOrNew`; the distinctness of the delta keys, which it
    needs, is kept (so that `foldl_oldOrNew` can chain attempts). -/
theorem commitW_oldOrNew (c : Codec σ β) (kind : CommitKind) (fault : Nat → Bool)
    (mo dlo : List SlabID) (s : St σ β) (hnd : (AList.keys s.deltas).Nodup) :
    OldOrNew c s (commitW c kind fault mo dlo s).st ∧
    (AList.keys (commitW c kind fault mo dlo s).st.deltas).Nodup := by
  obtain ⟨keys, hok, _, h | ⟨_, h⟩⟩ := commitW_outcome c kind fault mo dlo s hnd
  · obtain ⟨done, calls, hp, ha, _⟩ := h.applied
    obtain ⟨hnd', hk⟩ := hok.of_prefix hp
    exact ⟨ha.oldOrNew hnd' hk, ha.keeps (Φ := fun x => (AList.keys x.deltas).Nodup)
      KeyCall.deltas_nodup hnd⟩
  · rw [h]
    exact ⟨OldOrNew.refl c s, hnd⟩

theorem foldl_oldOrNew {α : Type} (c : Codec σ β) (f : St σ β → α → St σ β)
    (hf : ∀ s a, (AList.keys s.deltas).Nodup →
      OldOrNew c s (f s a) ∧ (AList.keys (f s a).deltas).Nodup)
    (l : List α) (s : St σ β) (hnd : (AList.keys s.deltas).Nodup) :
    OldOrNew c s (l.foldl f s) ∧ (AList.keys (l.foldl f s).deltas).Nodup :=
  (foldl_invariant f (fun _ => True) (fun s => (AList.keys s.deltas).Nodup) (OldOrNew c)
    (OldOrNew.refl c) OldOrNew.trans (fun s a _ h => (hf s a h).symm) l s (fun _ _ => trivial) hnd).symm

/-- What the ledger alone says after part of a commit: the old committed slab where the identifier
    is still pending (or was never pending), the slab visible at commit time where it was written. -/
theorem committed_of_oldOrNew (c : Codec σ β) (s s' : St σ β) (hadv : Adv c s s')
    (hon : OldOrNew c s s') (id : SlabID) :
    (AList.find? s'.deltas id = AList.find? s.deltas id ∧ s'.committed c id = s.committed c id) ∨
    (AList.find? s'.deltas id = none ∧ s'.committed c id = s.view c id) := by
  rcases hon id with ⟨hd, hb⟩ | ⟨hd, hb⟩
  · exact Or.inl ⟨hd, by simp [St.committed, hb]⟩
  · rcases hadv.pending id with hp | ⟨_, _, hcv⟩
    · left
      have hd0 : AList.find? s.deltas id = none := hp ▸ hd
      refine ⟨hp, ?_⟩
      rw [target_of_not_pending c s id hd0] at hb
      simp [St.committed, hb]
    · exact Or.inr ⟨hd, hcv⟩

theorem commitKeys_log_prefix (c : Codec σ β) (fault : Nat → Bool) (s : St σ β) (keys : List SlabID) :
    (commitKeys c fault s keys).log.map callID <+: keys :=
  (commitKeys_outcome c fault s keys).log.1

theorem commitKeys_log_full (c : Codec σ β) (fault : Nat → Bool) (s : St σ β) (keys : List SlabID)
    (h : (commitKeys c fault s keys).err = none) :
    (commitKeys c fault s keys).log.map callID = keys :=
  (commitKeys_outcome c fault s keys).log.2 h

theorem fastCommit_log_prefix (c : Codec σ β) (fault : Nat → Bool) (s : St σ β) :
    (fastCommit c fault s).log.map callID <+: sortedOwnedDeltaKeys s := by
  unfold fastCommit
  dsimp only
  split
  · exact List.nil_prefix
  · exact commitKeys_log_prefix c fault s _

/-- The fault-plan position of a commit is the length of its call log; a commit issues at most one
    base-storage call per owned pending identifier, and exactly one each when it succeeds. -/
theorem commitW_calls (c : Codec σ β) (kind : CommitKind) (fault : Nat → Bool)
    (mo dlo : List SlabID) (s : St σ β) (hnd : (AList.keys s.deltas).Nodup) :
    (commitW c kind fault mo dlo s).n = (commitW c kind fault mo dlo s).log.length ∧
    (commitW c kind fault mo dlo s).n ≤ (sortedOwnedDeltaKeys s).length ∧
    ((commitW c kind fault mo dlo s).err = none →
      (commitW c kind fault mo dlo s).n = (sortedOwnedDeltaKeys s).length) := by
  obtain ⟨keys, _, hlen, h | ⟨_, h⟩⟩ := commitW_outcome c kind fault mo dlo s hnd
  · rw [← hlen]
    exact ⟨h.n_log, h.n_le⟩
  · rw [h]
    exact ⟨rfl, Nat.zero_le _, fun herr => by cases herr⟩

end Atree

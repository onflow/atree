import AtreeProofs.Storage.Commit
/-
  The requests of the storage state machine: `St.step` operation by operation, and `St.step_shape`:
  every step is a cache-only step (`CacheOnly`), a pending write, a commit attempt, a drop, a
  reopening or a counter bump.  Read off it: the invariant (`step_inv`), only commits touch the
  ledger, and what keeps a state `Clean` (no owned identifier pending).
-/
namespace Atree
open St

variable {σ β : Type}

namespace St

theorem faultPlan_nil (n : Nat) : faultPlan [] n = false := rfl

theorem run_cons (c : Codec σ β) (s : St σ β) (op : Op σ) (ops : List (Op σ)) :
    St.run c s (op :: ops) = St.run c (St.step c s op).1 ops := rfl

theorem step_store (c : Codec σ β) (s : St σ β) (id : SlabID) (v : σ) :
    St.step c s (.store id v) =
      if id = SlabID.undef then (s, .err .slabIDUndefined)
      else ({ s with deltas := AList.insert s.deltas id (some v) }, .unit) := by
  by_cases h : id = SlabID.undef <;> simp only [St.step, St.store, h, if_true, if_false]

theorem step_remove (c : Codec σ β) (s : St σ β) (id : SlabID) :
    St.step c s (.remove id) =
      if id = SlabID.undef then (s, .err .slabIDUndefined)
      else ({ s with deltas := AList.insert s.deltas id none }, .unit) := by
  by_cases h : id = SlabID.undef <;> simp only [St.step, St.remove, h, if_true, if_false]

theorem step_retrieve (c : Codec σ β) (s : St σ β) (id : SlabID) :
    St.step c s (.retrieve id) =
      match s.retrieve c id with
      | .ok (v, s') => (s', .slab v)
      | .error e => (s, .err e) := rfl

theorem step_retrieveIgnoringDeltas (c : Codec σ β) (s : St σ β) (id : SlabID) (ch : Bool) :
    St.step c s (.retrieveIgnoringDeltas id ch) =
      match s.retrieveIgnoringDeltas c id ch with
      | .ok (v, s') => (s', .slab v)
      | .error e => (s, .err e) := rfl

theorem step_genID (c : Codec σ β) (s : St σ β) (a : Nat) :
    St.step c s (.genID a) = ((s.generateSlabID a).2, .id (s.generateSlabID a).1) := rfl

theorem generateSlabID_snd (s : St σ β) (a : Nat) :
    ∃ t al, (s.generateSlabID a).2 = { s with tempIx := t, alloc := al } := by
  unfold St.generateSlabID
  split
  · exact ⟨_, s.alloc, rfl⟩
  · exact ⟨s.tempIx, _, rfl⟩

theorem step_commit (c : Codec σ β) (s : St σ β) (kind : CommitKind) (faults : List Nat)
    (mo dlo : List SlabID) :
    St.step c s (.commit kind faults mo dlo) =
      ((commitW c kind (faultPlan faults) mo dlo s).st,
       match (commitW c kind (faultPlan faults) mo dlo s).err with
       | none => .unit
       | some e => .err e) := by
  cases kind <;> rfl

theorem step_preload_fst (c : Codec σ β) (s : St σ β) (ids : List SlabID) :
    (St.step c s (.preload ids)).1 = (s.batchPreload c ids).1 := by
  simp only [St.step]
  split <;> rename_i h <;> simp [h]

end St

/-- The state after one operation, by what the operation can have changed, in seven cases: the read
    cache only (the reads, failed ones included, `BatchPreload`, `DropCache`, a refused
    `Store`/`Remove`); one pending write (`store`, `remove`: a case each); a commit attempt; the write
    set dropped; the storage reopened; an identifier counter. -/
theorem St.step_shape (c : Codec σ β) (s : St σ β) {P : Op σ → St σ β → Prop}
    (cache : ∀ op s', CacheOnly c s s' → P op s')
    (store : ∀ id v, id ≠ SlabID.undef →
      P (.store id v) { s with deltas := AList.insert s.deltas id (some v) })
    (remove : ∀ id, id ≠ SlabID.undef →
      P (.remove id) { s with deltas := AList.insert s.deltas id none })
    (commit : ∀ kind faults mo dlo,
      P (.commit kind faults mo dlo) (commitW c kind (faultPlan faults) mo dlo s).st)
    (dropDeltas : P .dropDeltas { s with deltas := [] })
    (recreate : P .recreate (St.fresh s.base s.alloc))
    (genID : ∀ a t al, P (.genID a) { s with tempIx := t, alloc := al }) (op : Op σ) :
    P op (St.step c s op).1 := by
  cases op with
  | store id v =>
    rw [St.step_store]
    by_cases hid : id = SlabID.undef
    · rw [if_pos hid]; exact cache _ _ (.refl c s)
    · rw [if_neg hid]; exact store id v hid
  | remove id =>
    rw [St.step_remove]
    by_cases hid : id = SlabID.undef
    · rw [if_pos hid]; exact cache _ _ (.refl c s)
    · rw [if_neg hid]; exact remove id hid
  | retrieve id =>
    rw [St.step_retrieve]
    cases hr : s.retrieve c id with
    | error e => exact cache _ _ (.refl c s)
    | ok p => exact cache _ _ (retrieve_cacheOnly c s p.2 id p.1 hr)
  | retrieveIfLoaded id => exact cache _ _ (.refl c s)
  | retrieveIgnoringDeltas id ch =>
    rw [St.step_retrieveIgnoringDeltas]
    cases hr : s.retrieveIgnoringDeltas c id ch with
    | error e => exact cache _ _ (.refl c s)
    | ok p => exact cache _ _ (retrieveIgnoringDeltas_cacheOnly c s p.2 id ch p.1 hr)
  | commit kind faults mo dlo => rw [step_commit]; exact commit kind faults mo dlo
  | dropDeltas => exact dropDeltas
  | dropCache => exact cache _ _ (.dropCache c s)
  | preload ids => rw [step_preload_fst]; exact cache _ _ (batchPreload_cacheOnly c s ids)
  | recreate => exact recreate
  | genID a =>
    obtain ⟨t, al, h⟩ := St.generateSlabID_snd s a
    rw [St.step_genID, h]
    exact genID a t al

theorem step_inv (c : Codec σ β) (hc : RoundTrip c) (s : St σ β) (op : Op σ) (h : Inv c s) :
    Inv c (St.step c s op).1 :=
  St.step_shape c s (P := fun _ s' => Inv c s')
    (fun _ _ hs' => (hs'.inv h).1)
    (fun _ _ _ => inv_setDeltas c s h _ (AList.nodup_keys_insert _ _ _ h.deltasNodup))
    (fun _ _ => inv_setDeltas c s h _ (AList.nodup_keys_insert _ _ _ h.deltasNodup))
    (fun kind faults mo dlo => (commitW_spec c hc kind (faultPlan faults) mo dlo s h).1)
    (inv_setDeltas c s h [] List.nodup_nil) (inv_fresh c s h) (fun _ t al => inv_setCounters c s h t al) op

theorem inv_run (c : Codec σ β) (hc : RoundTrip c) (ops : List (Op σ)) (s : St σ β)
    (h : Inv c s) : Inv c (St.run c s ops) :=
  (foldl_invariant (fun s op => (St.step c s op).1) (fun _ => True) (Inv c) (fun _ _ => True)
    (fun _ => trivial) (fun _ _ => trivial) (fun s op _ h => ⟨step_inv c hc s op h, trivial⟩)
    ops s (fun _ _ => trivial) h).1

def Op.isCommit : Op σ → Bool
  | .commit _ _ _ _ => true
  | _ => false

theorem step_base_of_not_commit (c : Codec σ β) (s : St σ β) (op : Op σ)
    (h : Op.isCommit op = false) : (St.step c s op).1.base = s.base :=
  St.step_shape c s (P := fun op s' => Op.isCommit op = false → s'.base = s.base)
    (fun _ _ hs' _ => hs'.base) (fun _ _ _ _ => rfl) (fun _ _ _ => rfl)
    (fun _ _ _ _ h => nomatch h) (fun _ => rfl) (fun _ => rfl) (fun _ _ _ _ => rfl) op h

theorem run_base_of_no_commit (c : Codec σ β) (ops : List (Op σ)) (s : St σ β)
    (h : ∀ op ∈ ops, Op.isCommit op = false) : (St.run c s ops).base = s.base :=
  (foldl_invariant (fun s op => (St.step c s op).1) (fun op => Op.isCommit op = false)
    (fun _ => True) (fun a b => b.base = a.base) (fun _ => rfl) (fun h1 h2 => h2.trans h1)
    (fun s op hop _ => ⟨trivial, step_base_of_not_commit c s op hop⟩) ops s h trivial).2

/-- No owned identifier is in the write set (the state right after a successful commit). -/
def Clean (s : St σ β) : Prop := ∀ id, id.isTemp = false → AList.find? s.deltas id = none

/-- Does this operation put an owned identifier into the write set? -/
def Op.writesOwned : Op σ → Bool
  | .store id _ => !id.isTemp
  | .remove id => !id.isTemp
  | _ => false

theorem target_of_clean (c : Codec σ β) (s : St σ β) (hcl : Clean s) (id : SlabID) :
    target c s id = AList.find? s.base id := by
  cases ht : id.isTemp with
  | true => exact target_of_temp c s id ht
  | false => exact target_of_not_pending c s id (hcl id ht)

theorem clean_insertDelta {s : St σ β} (hcl : Clean s) (id : SlabID) (ht : id.isTemp = true)
    (e : Option σ) : Clean { s with deltas := AList.insert s.deltas id e } := by
  intro j hj
  have hne : ¬ id = j := fun e => by rw [e, hj] at ht; cases ht
  rw [show AList.find? (AList.insert s.deltas id e) j = _ from AList.find?_insert .., if_neg hne]
  exact hcl j hj

/-- Every operation other than a store/remove of an owned identifier – commit attempts with any
    fault plan included – keeps a clean state clean and leaves every register as it was. -/
theorem step_clean (c : Codec σ β) (s : St σ β) (hI : Inv c s) (hcl : Clean s) (op : Op σ)
    (hw : Op.writesOwned op = false) :
    Clean (St.step c s op).1 ∧
    ∀ id, AList.find? (St.step c s op).1.base id = AList.find? s.base id := by
  refine St.step_shape c s (P := fun op s' => Op.writesOwned op = false →
      Clean s' ∧ ∀ id, AList.find? s'.base id = AList.find? s.base id)
    (fun _ s' hs' _ => ⟨fun j hj => by rw [hs'.deltas]; exact hcl j hj, fun j => by rw [hs'.base]⟩)
    (fun id v _ hw => ⟨clean_insertDelta hcl id (by simpa [Op.writesOwned] using hw) _, fun _ => rfl⟩)
    (fun id _ hw => ⟨clean_insertDelta hcl id (by simpa [Op.writesOwned] using hw) _, fun _ => rfl⟩)
    (fun kind faults mo dlo _ => ?_)
    (fun _ => ⟨fun _ _ => rfl, fun _ => rfl⟩) (fun _ => ⟨fun _ _ => rfl, fun _ => rfl⟩)
    (fun _ _ _ _ => ⟨hcl, fun _ => rfl⟩) op hw
  obtain ⟨hon, _⟩ := commitW_oldOrNew c kind (faultPlan faults) mo dlo s hI.deltasNodup
  constructor
  · intro j hj
    rcases hon j with ⟨hd, _⟩ | ⟨hd, _⟩
    · exact hd.trans (hcl j hj)
    · exact hd
  · intro j
    rcases hon j with ⟨_, hb⟩ | ⟨_, hb⟩
    · exact hb
    · exact hb.trans (target_of_clean c s hcl j)

theorem run_clean (c : Codec σ β) (hc : RoundTrip c) (ops : List (Op σ)) (s : St σ β)
    (hI : Inv c s) (hcl : Clean s) (hw : ∀ op ∈ ops, Op.writesOwned op = false) :
    Clean (St.run c s ops) ∧ ∀ id, AList.find? (St.run c s ops).base id = AList.find? s.base id :=
  have h := foldl_invariant (fun s op => (St.step c s op).1) (fun op => Op.writesOwned op = false)
    (fun s => Inv c s ∧ Clean s) (fun a b => ∀ id, AList.find? b.base id = AList.find? a.base id)
    (fun _ _ => rfl) (fun h1 h2 id => (h2 id).trans (h1 id))
    (fun s op hop h =>
      ⟨⟨step_inv c hc s op h.1, (step_clean c s h.1 h.2 op hop).1⟩, (step_clean c s h.1 h.2 op hop).2⟩)
    ops s hw ⟨hI, hcl⟩
  ⟨h.1.2, h.2⟩

/-- After one operation the ledger says, per identifier, what it said before or – if the operation
    was a commit attempt – the slab visible when the attempt started. -/
theorem step_committed (c : Codec σ β) (hc : RoundTrip c) (s : St σ β) (hI : Inv c s) (op : Op σ)
    (id : SlabID) :
    (St.step c s op).1.committed c id = s.committed c id ∨
    (Op.isCommit op = true ∧ (St.step c s op).1.committed c id = s.view c id) := by
  cases hop : Op.isCommit op with
  | false =>
    left
    simp [St.committed, step_base_of_not_commit c s op hop]
  | true =>
    cases op with
    | commit kind faults mo dlo =>
      rw [step_commit]
      obtain ⟨_, hadv, _⟩ := commitW_spec c hc kind (faultPlan faults) mo dlo s hI
      obtain ⟨hon, _⟩ := commitW_oldOrNew c kind (faultPlan faults) mo dlo s hI.deltasNodup
      rcases committed_of_oldOrNew c s _ hadv hon id with ⟨_, h⟩ | ⟨_, h⟩
      · exact Or.inl h
      · exact Or.inr ⟨rfl, h⟩
    | _ => simp [Op.isCommit] at hop

end Atree

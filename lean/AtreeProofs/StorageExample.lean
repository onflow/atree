import AtreeModel.StorageOps
import AtreeProofs.Storage.Basic
/-
  A concrete, non-trivial storage state used by the `NonVacuity` sections of the property files:
  it shows that `RoundTrip`, `Inv` and `NoEncodeFailure` are jointly satisfiable by a state with a
  pending store, a pending deletion, a pending temporary slab, a cached entry and committed entries.
-/
namespace Atree.Example
open Atree St

/-- Slabs and registers are numbers; encoding is the identity. -/
def natCodec : Codec Nat Nat := { enc := some, dec := fun _ b => some b, size := fun _ => 1 }

/-- pending: store `1.1 ↦ 5`, delete `1.2`, temporary `0.1 ↦ 8`;  cached: `1.3`;
    committed: `1.3 ↦ 7`, `1.4 ↦ 9`, `1.2 ↦ 3`. -/
def exSt : St Nat Nat :=
  { deltas := [(⟨1, 1⟩, some 5), (⟨1, 2⟩, none), (⟨0, 1⟩, some 8)],
    cache  := [(⟨1, 3⟩, some 7)],
    base   := [(⟨1, 4⟩, 9), (⟨1, 3⟩, 7), (⟨1, 2⟩, 3)],
    tempIx := 1,
    alloc  := [(1, 4)] }

theorem roundTrip : RoundTrip natCodec := by
  intro id v b h
  simp only [natCodec, Option.some.injEq] at h
  simp [natCodec, h]

theorem noEncodeFailure (s : St Nat Nat) : NoEncodeFailure natCodec s := fun _ _ _ => rfl

theorem inv : Inv natCodec exSt := by
  refine ⟨?_, by decide, by decide, by decide, ?_, fun _ _ _ => rfl⟩
  · intro id v h
    simp only [exSt, AList.find?_cons, AList.find?_nil] at h
    split at h
    · rename_i hid
      subst hid
      simp only [Option.some.injEq] at h
      subst h
      decide
    · simp at h
  · intro id ht
    rw [AList.find?_eq_none_iff]
    intro hm
    simp only [exSt, AList.keys, List.map_cons, List.map_nil, List.mem_cons, List.not_mem_nil,
      or_false] at hm
    rcases hm with rfl | rfl | rfl <;> simp [SlabID.isTemp] at ht

/-- The state is also reachable from the empty storage. -/
def exOps : List (Op Nat) :=
  [.store ⟨1, 2⟩ 3, .store ⟨1, 4⟩ 9, .store ⟨1, 3⟩ 7, .commit .det [] [] [], .dropCache,
   .retrieve ⟨1, 3⟩, .store ⟨0, 1⟩ 8, .remove ⟨1, 2⟩, .store ⟨1, 1⟩ 5]

example : (St.run natCodec St.init exOps).deltas = exSt.deltas := by decide
example : (St.run natCodec St.init exOps).cache = exSt.cache := by decide
example : (St.run natCodec St.init exOps).base = exSt.base := by decide

/-- The pieces the state is made of. -/
example : AList.find? exSt.deltas ⟨1, 1⟩ = some (some 5) := by decide   -- pending store
example : AList.find? exSt.deltas ⟨1, 2⟩ = some none := by decide       -- pending deletion
example : AList.find? exSt.deltas ⟨0, 1⟩ = some (some 8) := by decide   -- pending temporary slab
example : AList.find? exSt.cache ⟨1, 3⟩ = some (some 7) := by decide    -- cached entry
example : AList.find? exSt.base ⟨1, 4⟩ = some 9 := by decide            -- committed entry
example : exSt.view natCodec ⟨1, 2⟩ = none ∧ exSt.committed natCodec ⟨1, 2⟩ = some 3 := by decide

end Atree.Example

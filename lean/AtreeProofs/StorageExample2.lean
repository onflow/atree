import AtreeModel.Commit
import AtreeProofs.Storage.Step
import AtreeProofs.StorageExample
/-
  A second concrete storage state for the `NonVacuity` sections of C04 / C16: four owned
  pending identifiers (three stores, one deletion of a committed register) and one pending
  temporary slab, so that a 3-worker encoder pool has something to interleave.
  The state is *reachable*, hence satisfies the invariant by `inv_run`.
-/
namespace Atree.Example
open Atree St

def poolOps : List (Op Nat) :=
  [.store ⟨1, 2⟩ 3, .commit .det [] [] [], .store ⟨2, 1⟩ 4, .store ⟨1, 5⟩ 2, .remove ⟨1, 2⟩,
   .store ⟨1, 1⟩ 5, .store ⟨0, 1⟩ 8]

def poolSt : St Nat Nat := St.run natCodec St.init poolOps

theorem poolInv : Inv natCodec poolSt := inv_run natCodec roundTrip poolOps _ (inv_init natCodec)

example : poolSt.deltas = [(⟨0, 1⟩, some 8), (⟨1, 1⟩, some 5), (⟨1, 2⟩, none), (⟨1, 5⟩, some 2), (⟨2, 1⟩, some 4)] := by
  decide
example : poolSt.base = [(⟨1, 2⟩, 3)] := by decide
example : sortedOwnedDeltaKeys poolSt = [⟨1, 1⟩, ⟨1, 2⟩, ⟨1, 5⟩, ⟨2, 1⟩] := by decide

/-- An interleaved schedule for 3 workers and the 4 jobs `1.1, 1.2, 1.5, 2.1`: workers 0, 1, 2 take
    `1.1, 1.2, 1.5`; worker 2 delivers, takes `2.1`; worker 0 delivers; worker 2 delivers; worker 1
    delivers.  Arrival order: `1.5, 1.1, 2.1, 1.2`. -/
def poolSched : List Nat := [0, 1, 2, 2, 2, 0, 2, 1]

/-- A readable image of a base-storage call (`BaseCall` has no decidable equality). -/
def callRepr : BaseCall Nat → SlabID × Option Nat
  | .store id b => (id, some b)
  | .remove id => (id, none)

end Atree.Example

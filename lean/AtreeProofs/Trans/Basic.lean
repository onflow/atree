import AtreeModel.Gen.Trans
import AtreeProofs.ListAt
/-
  What every proof about a GENERATED translation (`AtreeModel/Gen/*.lean`, written by harness/cmd/gotrans on every run)
  needs: model numbers as Go machine integers, the comparisons and `int` arithmetic of the generated tests, and Go's slice
  primitives on in-range arguments.
-/
namespace Atree.TransEq

/-- a model number as the Go value of type `uint8` / `uint32` / `uint64` -/
abbrev u8 (n : Nat) : UInt8 := UInt8.ofNat n
abbrev u32 (n : Nat) : UInt32 := UInt32.ofNat n
abbrev u64 (n : Nat) : UInt64 := UInt64.ofNat n

theorem u8_toNat {n : Nat} (h : n < 2^8) : (u8 n).toNat = n := UInt8.toNat_ofNat_of_lt' h
theorem u32_toNat {n : Nat} (h : n < 2^32) : (u32 n).toNat = n := UInt32.toNat_ofNat_of_lt' h
theorem u64_toNat {n : Nat} (h : n < 2^64) : (u64 n).toNat = n := UInt64.toNat_ofNat_of_lt' h

theorem u32_of_toNat (x : UInt32) : u32 x.toNat = x := UInt32.ofNat_toNat
theorem u8_of_toNat (x : UInt8) : u8 x.toNat = x := UInt8.ofNat_toNat
theorem u64_of_toNat (x : UInt64) : u64 x.toNat = x := UInt64.ofNat_toNat

/-- a property of all bytes follows from the 256 cases -/
theorem forall_u8 {P : UInt8 → Prop} (h : ∀ n, n < 256 → P (UInt8.ofNat n)) : ∀ x, P x :=
  fun x => UInt8.ofNat_toNat (x := x) ▸ h x.toNat x.toNat_lt

/-- Go's `(n uint32, ok bool)` result read as the model's `Option Nat` -/
def optOfPair (p : UInt32 × Bool) : Option Nat := if p.2 then some p.1.toNat else none

/-- what a translated loop with early `return` contributes to a Bool-valued function that ends in
    `return false` -/
def loopBool {σ : Type} : Gen.Trans.Loop Bool σ → Bool
  | .ret r => r
  | .done _ => false

/-- list of model sizes as Go `uint32` values -/
def u32s (l : List Nat) : List UInt32 := l.map u32

theorem u32s_length (l : List Nat) : (u32s l).length = l.length := List.length_map _
theorem u32s_cons (x : Nat) (t : List Nat) : u32s (x :: t) = u32 x :: u32s t := rfl
theorem u32s_getD (l : List Nat) (i : Nat) : (u32s l).getD i 0 = u32 (l.getD i 0) := by
  simp only [u32s, List.getD_eq_getElem?_getD, List.getElem?_map]
  cases l[i]? <;> rfl

theorem u32s_getD_toNat (l : List Nat) (i : Nat) (h : ∀ x ∈ l, x < 2^32) :
    ((u32s l).getD i 0).toNat = l.getD i 0 := by
  rw [u32s_getD, List.getD_eq_getElem?_getD]
  cases e : l[i]? with
  | none => rfl
  | some x => exact u32_toNat (h x (List.mem_of_getElem? e))

def u64s (l : List Nat) : List UInt64 := l.map u64
theorem u64s_length (l : List Nat) : (u64s l).length = l.length := List.length_map _
theorem u64s_getD (l : List Nat) (i : Nat) : (u64s l).getD i 0 = u64 (l.getD i 0) := by
  simp only [u64s, List.getD_eq_getElem?_getD, List.getElem?_map]
  cases l[i]? <;> rfl

theorem u64s_take (l : List Nat) (n : Nat) : (u64s l).take n = u64s (l.take n) := (List.map_take ..).symm
theorem u64s_drop (l : List Nat) (n : Nat) : (u64s l).drop n = u64s (l.drop n) := (List.map_drop ..).symm
theorem u64s_append (a b : List Nat) : u64s a ++ u64s b = u64s (a ++ b) := (List.map_append ..).symm

theorem u64s_map_toNat (l : List Nat) (h : ∀ x ∈ l, x < 2^64) : (u64s l).map (·.toNat) = l := by
  induction l with
  | nil => rfl
  | cons a t ih =>
    simp only [u64s, List.map_cons] at ih ⊢
    rw [u64_toNat (h a (List.mem_cons_self ..)), ih (fun x hx => h x (List.mem_cons_of_mem _ hx))]

/-! ### `u32` / `u64` arithmetic without wrap-around

`ofNat` commutes with `+` and with a `-` that does not truncate whatever the size of the numbers; the
bounds matter for the comparisons and for `>>>`. -/

theorem u32_add_eq (a b : Nat) : u32 a + u32 b = u32 (a + b) := (UInt32.ofNat_add a b).symm
theorem u32_sub_eq {a b : Nat} (h : b ≤ a) : u32 a - u32 b = u32 (a - b) := (UInt32.ofNat_sub h).symm
theorem u32_mul_eq (a b : Nat) : u32 a * u32 b = u32 (a * b) := (UInt32.ofNat_mul a b).symm
/-! `u32_add`, `u32_sub`, `u64_add`, `u64_sub`: the same equations under a range hypothesis that is not needed. -/
theorem u32_add {a b : Nat} (h : a + b < 2^32) : u32 a + u32 b = u32 (a + b) := u32_add_eq a b
theorem u32_sub {a b : Nat} (h : b ≤ a) (ha : a < 2^32) : u32 a - u32 b = u32 (a - b) := u32_sub_eq h
theorem u32_lt {a b : Nat} (ha : a < 2^32) (hb : b < 2^32) : (u32 a < u32 b) = (a < b) :=
  propext (UInt32.ofNat_lt_iff_lt ha hb)
theorem u32_le {a b : Nat} (ha : a < 2^32) (hb : b < 2^32) : (u32 a ≤ u32 b) = (a ≤ b) :=
  propext (UInt32.ofNat_le_iff_le ha hb)
theorem u32_div {a b : Nat} (ha : a < 2^32) (hb : b < 2^32) : u32 a / u32 b = u32 (a / b) := by
  apply UInt32.toNat_inj.mp
  rw [UInt32.toNat_div, u32_toNat ha, u32_toNat hb, u32_toNat (Nat.lt_of_le_of_lt (Nat.div_le_self a b) ha)]
theorem u32_half {a : Nat} (ha : a < 2^32) : u32 a >>> 1 = u32 (a / 2) := by
  apply UInt32.toNat_inj.mp
  rw [UInt32.toNat_shiftRight, u32_toNat ha, u32_toNat (Nat.lt_of_le_of_lt (Nat.div_le_self a 2) ha)]
  exact Nat.shiftRight_eq_div_pow a 1
theorem u32_half' {a : Nat} (ha : a < 2^32) : u32 a >>> u32 1 = u32 (a / 2) := u32_half ha
theorem u32_inj {a b : Nat} (ha : a < 2^32) (hb : b < 2^32) : (u32 a = u32 b) = (a = b) := by
  rw [← UInt32.toNat_inj, u32_toNat ha, u32_toNat hb]
theorem u64_inj {a b : Nat} (ha : a < 2^64) (hb : b < 2^64) : (u64 a = u64 b) = (a = b) := by
  rw [← UInt64.toNat_inj, u64_toNat ha, u64_toNat hb]
/-- `size + (new - old)` in `uint32` (wrap-around) = the exact `size + new - old` whenever `old ≤ size + new` -/
theorem u32_add_sub (s n old : Nat) (h : old ≤ s + n) : u32 s + (u32 n - u32 old) = u32 (s + n - old) := by
  show _ = UInt32.ofNat (s + n - old)
  rw [UInt32.ofNat_sub h, UInt32.ofNat_add, UInt32.sub_eq_add_neg, UInt32.sub_eq_add_neg, UInt32.add_assoc]

theorem u64_add_eq (a b : Nat) : u64 a + u64 b = u64 (a + b) := (UInt64.ofNat_add a b).symm
theorem u64_sub_eq {a b : Nat} (h : b ≤ a) : u64 a - u64 b = u64 (a - b) := (UInt64.ofNat_sub h).symm
theorem u64_add {a b : Nat} (h : a + b < 2^64) : u64 a + u64 b = u64 (a + b) := u64_add_eq a b
theorem u64_succ (n : Nat) : u64 n + 1 = u64 (n + 1) := u64_add_eq n 1
theorem u64_sub {a b : Nat} (h : b ≤ a) (ha : a < 2^64) : u64 a - u64 b = u64 (a - b) := u64_sub_eq h
theorem u32_toUInt64 {a : Nat} (ha : a < 2^32) : (u32 a).toUInt64 = u64 a := UInt32.toUInt64_ofNat' ha

/-- Go's `uintN(i)` for a non-negative `int` i -/
theorem u64_ofInt (n : Nat) : UInt64.ofInt (Int.ofNat n) = u64 n := by
  show UInt64.ofNat ((n : Int) % 2^64).toNat = _
  rw [Int.toNat_emod (Int.natCast_nonneg n) (by decide)]; exact UInt64.ofNat_mod_size
theorem u32_ofInt (n : Nat) : UInt32.ofInt (Int.ofNat n) = u32 n := by
  show UInt32.ofNat ((n : Int) % 2^32).toNat = _
  rw [Int.toNat_emod (Int.natCast_nonneg n) (by decide)]; exact UInt32.ofNat_mod_size
/-- the size of an index slab, `uint32(prefix) + uint32(n) * uint32(headerSize)` with the `int` count `n` of its child
    headers: sums and products of translated numbers need no range condition -/
theorem u32_add_ofInt_mul (p n h : Nat) :
    UInt32.ofNat p + UInt32.ofInt (Int.ofNat n) * UInt32.ofNat h = u32 (p + n * h) := by
  rw [u32_ofInt, ← u32, ← u32, u32_mul_eq, u32_add_eq]

/-- `int(uint(a + b) >> 1)`, the overflow-free midpoint of the binary searches -/
theorem mid_eq (a b : Nat) (h : a + b < 2^64) :
    Int.ofNat ((UInt64.ofInt (Int.ofNat a + Int.ofNat b)) >>> 1).toNat = Int.ofNat ((a + b) / 2) := by
  show Int.ofNat ((UInt64.ofInt (Int.ofNat (a + b))) >>> 1).toNat = _
  rw [u64_ofInt, UInt64.toNat_shiftRight, u64_toNat h]
  exact congrArg Int.ofNat (Nat.shiftRight_eq_div_pow (a + b) 1)

/-! ### the same facts under `decide` (the form the generated code uses) -/

theorem u32_dlt {a b : Nat} (ha : a < 2^32) (hb : b < 2^32) : decide (u32 a < u32 b) = decide (a < b) :=
  decide_eq_decide.mpr (UInt32.ofNat_lt_iff_lt ha hb)
theorem u32_dle {a b : Nat} (ha : a < 2^32) (hb : b < 2^32) : decide (u32 a ≤ u32 b) = decide (a ≤ b) :=
  decide_eq_decide.mpr (UInt32.ofNat_le_iff_le ha hb)
theorem u32_dgt {a b : Nat} (ha : a < 2^32) (hb : b < 2^32) : decide (u32 a > u32 b) = decide (a > b) :=
  u32_dlt hb ha
theorem u32_dge {a b : Nat} (ha : a < 2^32) (hb : b < 2^32) : decide (u32 a ≥ u32 b) = decide (a ≥ b) :=
  u32_dle hb ha
theorem u64_dlt {a b : Nat} (ha : a < 2^64) (hb : b < 2^64) : decide (u64 a < u64 b) = decide (a < b) :=
  decide_eq_decide.mpr (UInt64.ofNat_lt_iff_lt ha hb)
theorem u64_dgt {a b : Nat} (ha : a < 2^64) (hb : b < 2^64) : decide (u64 a > u64 b) = decide (a > b) :=
  u64_dlt hb ha
theorem u64_dge {a b : Nat} (ha : a < 2^64) (hb : b < 2^64) : decide (u64 a ≥ u64 b) = decide (a ≥ b) :=
  decide_eq_decide.mpr (UInt64.ofNat_le_iff_le hb ha)
theorem u64_dne {a b : Nat} (ha : a < 2^64) (hb : b < 2^64) : decide (u64 a ≠ u64 b) = decide (a ≠ b) :=
  decide_eq_decide.mpr (by rw [ne_eq, ne_eq, ← UInt64.toNat_inj, u64_toNat ha, u64_toNat hb])
theorem int_dlt (a b : Nat) : decide (Int.ofNat a < Int.ofNat b) = decide (a < b) :=
  decide_eq_decide.mpr Int.ofNat_lt
theorem int_dlt_two (a : Nat) : decide (Int.ofNat a < (2 : Int)) = decide (a < 2) := int_dlt a 2
theorem int_deq_zero (a : Nat) : decide (Int.ofNat a = (0 : Int)) = decide (a = 0) :=
  decide_eq_decide.mpr Int.natCast_eq_zero
theorem u32_deq_zero {n : Nat} (h : n < 2^32) : decide (u32 n = (0 : UInt32)) = decide (n = 0) :=
  decide_eq_decide.mpr (Eq.to_iff (u32_inj h (by decide : 0 < 2^32)))
theorem u64_deq_zero {n : Nat} (h : n < 2^64) : decide (u64 n = (0 : UInt64)) = decide (n = 0) :=
  decide_eq_decide.mpr (Eq.to_iff (u64_inj h (by decide : 0 < 2^64)))
theorem int_dge0 (a : Nat) : decide (Int.ofNat a ≥ (0 : Int)) = true :=
  decide_eq_true (Int.natCast_nonneg a)

/-- The generated tests read `if decide p then … else …`: once the machine comparison has been rewritten to the
    model's, both sides branch on the same `p`. -/
theorem ite_dec_pos {α : Sort _} {p : Prop} [Decidable p] (h : p) (a b : α) : (if decide p then a else b) = a :=
  if_pos (decide_eq_true h)
theorem ite_dec_neg {α : Sort _} {p : Prop} [Decidable p] (h : ¬p) (a b : α) : (if decide p then a else b) = b :=
  if_neg (decide_eq_false h ▸ Bool.false_ne_true)

/-- a loop step that either stops, with one of two results, or goes on -/
theorem ite_dec_stop {α β : Type} (g : α → β) (p q : Prop) [Decidable p] [Decidable q] (A B R : α) (r : β)
    (hr : r = g R) :
    (if decide p then (if decide q then g A else g B) else r) = g (if p then if q then A else B else R) := by
  by_cases hp : p
  · rw [ite_dec_pos hp, if_pos hp]
    by_cases hq : q
    · rw [ite_dec_pos hq, if_pos hq]
    · rw [ite_dec_neg hq, if_neg hq]
  · rw [ite_dec_neg hp, if_neg hp, hr]

theorem int_toNat (n : Nat) : (Int.ofNat n).toNat = n := rfl
theorem int_succ_sub_one (n : Nat) : Int.ofNat (n + 1) - 1 = Int.ofNat n := Int.add_sub_cancel (Int.ofNat n) 1
theorem int_pred {n : Nat} (h : 0 < n) : Int.ofNat n - 1 = Int.ofNat (n - 1) := by
  cases n with
  | zero => exact absurd h (Nat.lt_irrefl 0)
  | succ n => exact int_succ_sub_one n
theorem one_eq_u32 : (1 : UInt32) = u32 1 := rfl
theorem int_succ (n : Nat) : Int.ofNat n + 1 = Int.ofNat (n + 1) := rfl
theorem int_sub {a b : Nat} (h : b ≤ a) : Int.ofNat a - Int.ofNat b = Int.ofNat (a - b) := (Int.ofNat_sub h).symm
/-- the fuel the generated loops are started with: `hi - lo + 1` iterations for `lo = 1` and `lo = 0` -/
theorem int_fuel (n : Nat) : (Int.ofNat n - 1 + 1).toNat = n := by
  rw [Int.sub_add_cancel]; rfl
theorem int_fuel_zero (n : Nat) : (Int.ofNat n - (0 : Int) + 1).toNat = n + 1 := by
  simp only [Int.ofNat_eq_natCast]; omega

/-! ### Go's slice primitives
Every generated file declares its own copy of `goIdx`, `goInRange`, `goSlice`, `goSlicesDelete`, `goSlicesInsert` (the array
unit: `goIdx`, `goSet`, `goSlice` with two `int` bounds, `goInsert`, `goDelete`), with the same bodies.  The facts are
proved here once; `Trans/GoPrims.lean` identifies the copies with these. -/

/-- `l[i]`: `none` = index out of range (a Go panic) -/
def sliceIdx {α : Type} (l : List α) (i : Int) : Option α :=
  if i < 0 then none else l[i.toNat]?

/-- the bounds check of `l[i] = v` -/
def sliceInRange {α : Type} (l : List α) (i : Int) : Bool :=
  decide (0 ≤ i) && decide (i < Int.ofNat l.length)

/-- `l[i] = v` -/
def sliceSet {α : Type} (l : List α) (i : Int) (v : α) : Option (List α) :=
  if 0 ≤ i ∧ i.toNat < l.length then some (l.set i.toNat v) else none

/-- `l[lo:hi]` with both bounds given -/
def sliceRange {α : Type} (l : List α) (lo hi : Int) : Option (List α) :=
  if 0 ≤ lo ∧ lo ≤ hi ∧ hi ≤ Int.ofNat l.length then some ((l.drop lo.toNat).take (hi - lo).toNat) else none

/-- `l[lo:hi]`, an absent bound = 0 / len -/
def sliceOf {α : Type} (l : List α) (lo hi : Option Int) : Option (List α) :=
  let a := lo.getD 0
  let b := hi.getD (Int.ofNat l.length)
  if 0 ≤ a ∧ a ≤ b ∧ b ≤ Int.ofNat l.length then some ((l.take b.toNat).drop a.toNat) else none

/-- `slices.Delete(l, i, j)` -/
def sliceDelete {α : Type} (l : List α) (i j : Int) : Option (List α) :=
  if 0 ≤ i ∧ i ≤ j ∧ j ≤ Int.ofNat l.length then some (l.take i.toNat ++ l.drop j.toNat) else none

/-- `slices.Insert(l, i, vs...)` -/
def sliceInsert {α : Type} (l : List α) (i : Int) (vs : List α) : Option (List α) :=
  if 0 ≤ i ∧ i ≤ Int.ofNat l.length then some (l.take i.toNat ++ vs ++ l.drop i.toNat) else none

section slices
variable {α β : Type}

theorem sliceIdx_ofNat (l : List α) (n : Nat) : sliceIdx l (Int.ofNat n) = l[n]? :=
  if_neg (Int.not_lt.mpr (Int.natCast_nonneg n))

theorem sliceIdx_map (f : α → β) (l : List α) (n : Nat) : sliceIdx (l.map f) (Int.ofNat n) = (l[n]?).map f := by
  rw [sliceIdx_ofNat, List.getElem?_map]

theorem sliceIdx_set (l : List α) {n : Nat} (p : α) (h : n < l.length) :
    sliceIdx (l.set n p) (Int.ofNat n) = some p := by
  rw [sliceIdx_ofNat, List.getElem?_set_self (by simpa using h)]

theorem sliceInRange_ofNat (l : List α) (n : Nat) : sliceInRange l (Int.ofNat n) = decide (n < l.length) := by
  have h0 : decide ((0 : Int) ≤ Int.ofNat n) = true := decide_eq_true (Int.natCast_nonneg n)
  unfold sliceInRange
  rw [h0, int_dlt, Bool.true_and]

theorem sliceSet_ofNat (l : List α) (n : Nat) (v : α) :
    sliceSet l (Int.ofNat n) v = if n < l.length then some (l.set n v) else none := by
  simp only [sliceSet, Int.ofNat_eq_natCast, Int.natCast_nonneg, true_and, Int.toNat_natCast]

theorem sliceRange_ofNat (l : List α) (lo hi : Nat) :
    sliceRange l (Int.ofNat lo) (Int.ofNat hi) =
      if lo ≤ hi ∧ hi ≤ l.length then some ((l.drop lo).take (hi - lo)) else none := by
  simp only [sliceRange, Int.ofNat_eq_natCast, Int.natCast_nonneg, Int.ofNat_le, true_and, Int.toNat_natCast]
  rw [show ((hi : Int) - (lo : Int)).toNat = hi - lo by omega]

/-- `l[n:]` -/
theorem sliceOf_from (l : List α) {n : Nat} (h : n ≤ l.length) : sliceOf l (some (Int.ofNat n)) none = some (l.drop n) := by
  have h1 : (0 : Int) ≤ Int.ofNat n ∧ Int.ofNat n ≤ Int.ofNat l.length ∧ Int.ofNat l.length ≤ Int.ofNat l.length :=
    ⟨Int.natCast_nonneg n, Int.ofNat_le.mpr h, Int.le_refl _⟩
  simp only [sliceOf, Option.getD_some, Option.getD_none, if_pos h1, int_toNat, List.take_length]

/-- `l[:n]` -/
theorem sliceOf_to (l : List α) {n : Nat} (h : n ≤ l.length) : sliceOf l none (some (Int.ofNat n)) = some (l.take n) := by
  have h1 : (0 : Int) ≤ 0 ∧ (0 : Int) ≤ Int.ofNat n ∧ Int.ofNat n ≤ Int.ofNat l.length :=
    ⟨Int.le_refl _, Int.natCast_nonneg n, Int.ofNat_le.mpr h⟩
  simp only [sliceOf, Option.getD_some, Option.getD_none, if_pos h1, int_toNat, Int.toNat_zero, List.drop_zero]

theorem sliceInsert_ofNat (l : List α) (n : Nat) (vs : List α) :
    sliceInsert l (Int.ofNat n) vs = if n ≤ l.length then some (l.take n ++ vs ++ l.drop n) else none := by
  simp only [sliceInsert, Int.ofNat_eq_natCast, Int.natCast_nonneg, Int.ofNat_le, true_and, Int.toNat_natCast]

theorem sliceInsert_one (l : List α) {n : Nat} (v : α) (h : n ≤ l.length) :
    sliceInsert l (Int.ofNat n) [v] = some (l.insertIdx n v) := by
  have := insert_at (A := l.take n) (B := l.drop n) (k := n) (by simp; omega) v
  rw [List.take_append_drop] at this
  rw [sliceInsert_ofNat, if_pos h, this]; simp

theorem sliceInsert_front (l vs : List α) : sliceInsert l (0 : Int) vs = some (vs ++ l) := by
  rw [show (0 : Int) = Int.ofNat 0 from rfl, sliceInsert_ofNat, if_pos (Nat.zero_le _)]; rfl

theorem sliceDelete_ofNat (l : List α) (i j : Nat) :
    sliceDelete l (Int.ofNat i) (Int.ofNat j) = if i ≤ j ∧ j ≤ l.length then some (l.take i ++ l.drop j) else none := by
  simp only [sliceDelete, Int.ofNat_eq_natCast, Int.natCast_nonneg, Int.ofNat_le, true_and, Int.toNat_natCast]

theorem sliceDelete_one (l : List α) {n : Nat} (h : n < l.length) :
    sliceDelete l (Int.ofNat n) (Int.ofNat n + 1) = some (l.eraseIdx n) := by
  rw [int_succ, sliceDelete_ofNat, if_pos ⟨Nat.le_succ n, h⟩, List.eraseIdx_eq_take_drop_succ]

/-- `slices.Delete(l, n, len(l))` keeps `l[:n]` -/
theorem sliceDelete_tail (l : List α) {n : Nat} (h : n ≤ l.length) :
    sliceDelete l (Int.ofNat n) (Int.ofNat l.length) = some (l.take n) := by
  rw [sliceDelete_ofNat, if_pos ⟨h, Nat.le_refl _⟩, List.drop_length, List.append_nil]

end slices

end Atree.TransEq

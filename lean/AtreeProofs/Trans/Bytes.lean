import AtreeProofs.Trans.Basic
import AtreeModel.Codec.Cbor
/-
  Justification of the VIEW that gotrans uses for `SlabID.Compare` (slab_id.go): the 8-byte arrays `address` and
  `index` are seen as the big-endian numbers they encode, and `bytes.Compare` on two of them as the three-way
  comparison `goCmpU64` of those numbers.  Here: for the model's big-endian encoder `Codec.beBytes`, the
  lexicographic comparison of two k-byte encodings IS the comparison of the numbers.
-/
namespace Atree.TransEq
open Atree

/-- `bytes.Compare` (lexicographic, a proper prefix is smaller) -/
def bytesCompare : List Nat → List Nat → Int
  | [], [] => 0
  | [], _ :: _ => -1
  | _ :: _, [] => 1
  | x :: xs, y :: ys => if x < y then -1 else if y < x then 1 else bytesCompare xs ys

/-- three-way comparison of numbers -/
def natCompare (a b : Nat) : Int := if a < b then -1 else if a = b then 0 else 1

/-- numbers in base `m` compare by their leading digits first -/
theorem digits_lt {m qa ra qb rb : Nat} (h : qa < qb) (ha : ra < m) : qa * m + ra < qb * m + rb :=
  Nat.lt_of_lt_of_le (Nat.add_lt_add_left ha _)
    (Nat.le_trans (Nat.succ_mul qa m ▸ Nat.mul_le_mul_right m h) (Nat.le_add_right _ _))

theorem natCompare_digits (m qa ra qb rb : Nat) (ha : ra < m) (hb : rb < m) :
    natCompare (qa * m + ra) (qb * m + rb) = if qa < qb then -1 else if qb < qa then 1 else natCompare ra rb := by
  rcases Nat.lt_trichotomy qa qb with h | h | h
  · rw [if_pos h]; exact if_pos (digits_lt h ha)
  · subst h
    rw [if_neg (Nat.lt_irrefl _), if_neg (Nat.lt_irrefl _)]
    simp only [natCompare, Nat.add_lt_add_iff_left, Nat.add_left_cancel_iff]
  · have h' : qb * m + rb < qa * m + ra := digits_lt h hb
    rw [if_neg (Nat.lt_asymm h), if_pos h, natCompare, if_neg (Nat.lt_asymm h'), if_neg (Nat.ne_of_gt h')]

theorem mod_succ_pow (a k : Nat) : a % 256 ^ (k + 1) = (a / 256 ^ k % 256) * 256 ^ k + a % 256 ^ k := by
  rw [Nat.pow_succ, Nat.mod_mul, Nat.mul_comm (256 ^ k), Nat.add_comm]

/-- comparing the k-byte big-endian encodings = comparing the numbers (mod 256^k) -/
theorem bytesCompare_beBytes (k a b : Nat) :
    bytesCompare (Codec.beBytes k a) (Codec.beBytes k b) = natCompare (a % 256 ^ k) (b % 256 ^ k) := by
  induction k with
  | zero => rw [Nat.pow_zero, Nat.mod_one, Nat.mod_one]; rfl
  | succ k ih =>
    have hpos : 0 < 256 ^ k := Nat.pow_pos (by decide)
    rw [mod_succ_pow, mod_succ_pow, natCompare_digits _ _ _ _ _ (Nat.mod_lt _ hpos) (Nat.mod_lt _ hpos), ← ih]
    rfl

/-- `bytes.Compare` of the 8-byte big-endian encodings of two `uint64` values is `goCmpU64` -/
theorem goCmpU64_is_bytesCompare (a b : UInt64) :
    Gen.Trans.goCmpU64 a b = bytesCompare (Codec.beBytes 8 a.toNat) (Codec.beBytes 8 b.toNat) := by
  have ha := a.toNat_lt; have hb := b.toNat_lt
  rw [bytesCompare_beBytes, Nat.mod_eq_of_lt (by omega), Nat.mod_eq_of_lt (by omega)]
  simp only [Gen.Trans.goCmpU64, natCompare, UInt64.lt_iff_toNat_lt, ← UInt64.toNat_inj]

end Atree.TransEq

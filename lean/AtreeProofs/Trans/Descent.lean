import AtreeProofs.Trans.Slabs
import AtreeProofs.HeapSpec
/-
  Set-up for `Props/TransDescent*.lean`: the DESCENT of the generated array code - `ArrayMetaDataSlab.Get / Set /
  Insert / Remove / PopIterate` and `Array.Get / set / Insert / Append / remove` of `Gen/TransSlabs.lean` - runs over a
  HEAP of slabs: an index slab does not embed its children, it reads them from the storage (`getArraySlab`) and writes
  them back (`storeSlab`).  The model works on EMBEDDED trees (`ATree d`).  This file instantiates the parameters of the
  generated functions with a storage that IS a heap, and defines what it means for a heap to hold a model tree.

  * `HSt`: the storage = the stored array slabs by identifier (VALUES: `Store` snapshots the slab it is handed, a later
    `getArraySlab` returns that snapshot; a slab that is mutated and not stored again is therefore NOT seen by later
    reads - stricter than Go's pointer sharing, and what persistence needs) + the model's `Ctx` (allocation counter,
    effect log).
  * `envH T`: as `envA` (Trans/Slabs.lean) with `getArraySlab` = lookup in the CURRENT heap, `Store` / `Remove` = update
    of the heap + the effect, `GenerateSlabID` / `Value.Storable` on the `Ctx` component (the slab of an oversized value
    is not an array slab: it is recorded in `Ctx.created` as in the model).  The nesting machinery of `Array`
    (`setCallbackWithChild`, `notifyParentIfNeeded`, `incrementIndexFrom`, `decrementIndexFrom`) is the identity: a
    stand-alone array without tracked children.  `childSlabIndexInfo` is the translation of the stateless engine.
  * `heapOf d t`: the heap a model tree occupies - the generated record of every slab of `ATree.slabs d t`
    (HeapSpec.lean) under its identifier (`heapOf_eq_slabs`, Props/TransDescentRoute.lean).
  * `Holds h d t`: the heap `h` holds the tree (recursive form; `holds_iff_slabs`: every entry of `ATree.slabs d t` is
    stored as the generated record); `HeapPost`: the heap after an operation holds the new
    tree, the slabs that left the tree are gone, everything else is untouched.
  Core Lean only.
-/
namespace Atree.TransEq
open Atree Atree.Gen

/-- the storage of the heap-based translation -/
structure HSt where
  heap : SlabID → Option GSlab
  ctx : Ctx

abbrev HEnv := TransSl.Env Elem Elem Unit AErr HSt (List (Option Elem))
abbrev HArray := TransSl.Array Elem Unit HSt

namespace HSt
/-- `Store(id, slab)` -/
def store (s : HSt) (id : SlabID) (v : Option GSlab) : HSt :=
  ⟨fun i => if i = id then v else s.heap i, s.ctx.emit (.store id)⟩
/-- `Remove(id)` -/
def remove (s : HSt) (id : SlabID) : HSt :=
  ⟨fun i => if i = id then none else s.heap i, s.ctx.emit (.remove id)⟩
/-- the same heap with another `Ctx` (allocation, externalised values) -/
def withCtx (s : HSt) (c : Ctx) : HSt := ⟨s.heap, c⟩

@[simp] theorem store_heap (s : HSt) (id : SlabID) (v : Option GSlab) (i : SlabID) :
    (s.store id v).heap i = if i = id then v else s.heap i := rfl
@[simp] theorem store_ctx (s : HSt) (id : SlabID) (v : Option GSlab) : (s.store id v).ctx = s.ctx.emit (.store id) := rfl
@[simp] theorem remove_heap (s : HSt) (id : SlabID) (i : SlabID) :
    (s.remove id).heap i = if i = id then none else s.heap i := rfl
@[simp] theorem remove_ctx (s : HSt) (id : SlabID) : (s.remove id).ctx = s.ctx.emit (.remove id) := rfl
@[simp] theorem withCtx_heap (s : HSt) (c : Ctx) : (s.withCtx c).heap = s.heap := rfl
@[simp] theorem withCtx_ctx (s : HSt) (c : Ctx) : (s.withCtx c).ctx = c := rfl
@[simp] theorem withCtx_self (s : HSt) : s.withCtx s.ctx = s := rfl
@[simp] theorem withCtx_withCtx (s : HSt) (a b : Ctx) : (s.withCtx a).withCtx b = s.withCtx b := rfl
end HSt

/-- a model array handle over a heap storage as the generated `Array` record (as `trArr` of Props/TransSlabsRoot.lean,
    with the heap storage) -/
def trArrH (a : Arr) (s : HSt) : HArray := { Storage := s, root := some (trTree a.d a.root) }

@[simp] theorem trArrH_Storage (a : Arr) (s : HSt) : (trArrH a s).Storage = s := rfl
@[simp] theorem trArrH_root (a : Arr) (s : HSt) : (trArrH a s).root = some (trTree a.d a.root) := rfl

/-- the parameters of the generated functions over a heap -/
def envH (T : Nat) : HEnv where
  ArrayMetaDataSlab_childSlabIndexInfo := childInfoOf (some .indexOutOfBounds)
  Array_notifyParentIfNeeded a := (none, a)
  Array_setCallbackWithChild a _ _ _ := a
  Array_incrementIndexFrom a _ := (none, a)
  Array_decrementIndexFrom a _ := (none, a)
  NewArrayElementCannotExceedMaxElementCountError _ := some .maxElementCount
  Storable_StoredValue e s := (some e, none, s)
  ArrayPopIterationFunc_call acc e := acc ++ [e]
  NewIndexOutOfBoundsError _ _ _ := some .indexOutOfBounds
  NewSlabSplitErrorf := some .slabSplit
  SlabStorage_GenerateSlabID s addr := ((s.ctx.alloc addr).1, none, s.withCtx (s.ctx.alloc addr).2)
  SlabStorage_Remove s id := (none, s.remove id)
  SlabStorage_Store s id v := (none, s.store id v)
  Storable_ByteSize e := u32 e.size
  Value_Storable v s addr mx :=
    (some (toStorableMax mx.toNat addr v s.ctx).1, none, s.withCtx (toStorableMax mx.toNat addr v s.ctx).2)
  getArraySlab s id := match s.heap id with
    | some v => (some v, none, s)
    | none => (none, some .slabNotFound, s)
  maxInlineArrayElementSize := u32 (maxInlineArr T)
  maxThreshold := u32 (maxThr T)
  minThreshold := u32 (minThr T)
  wrapErrorfAsExternalErrorIfNeeded e := e

section envFields
variable (T : Nat)
@[simp] theorem envH_childInfo (a : GMeta) (i : UInt64) :
    (envH T).ArrayMetaDataSlab_childSlabIndexInfo a i = childInfoOf (some .indexOutOfBounds) a i := rfl
@[simp] theorem envH_notify (a : HArray) : (envH T).Array_notifyParentIfNeeded a = (none, a) := rfl
@[simp] theorem envH_setCallback (a : HArray) (i : UInt64) (v : Option Elem) (mx : UInt32) :
    (envH T).Array_setCallbackWithChild a i v mx = a := rfl
@[simp] theorem envH_incr (a : HArray) (i : UInt64) : (envH T).Array_incrementIndexFrom a i = (none, a) := rfl
@[simp] theorem envH_decr (a : HArray) (i : UInt64) : (envH T).Array_decrementIndexFrom a i = (none, a) := rfl
@[simp] theorem envH_maxCount (n : UInt64) :
    (envH T).NewArrayElementCannotExceedMaxElementCountError n = some .maxElementCount := rfl
@[simp] theorem envH_storedValue (e : Elem) (s : HSt) : (envH T).Storable_StoredValue e s = (some e, none, s) := rfl
@[simp] theorem envH_call (acc : List (Option Elem)) (e : Option Elem) :
    (envH T).ArrayPopIterationFunc_call acc e = acc ++ [e] := rfl
@[simp] theorem envH_ioob (a b c : UInt64) : (envH T).NewIndexOutOfBoundsError a b c = some .indexOutOfBounds := rfl
@[simp] theorem envH_split : (envH T).NewSlabSplitErrorf = some .slabSplit := rfl
@[simp] theorem envH_gen (s : HSt) (addr : Nat) :
    (envH T).SlabStorage_GenerateSlabID s addr = ((s.ctx.alloc addr).1, none, s.withCtx (s.ctx.alloc addr).2) := rfl
@[simp] theorem envH_remove (s : HSt) (id : SlabID) : (envH T).SlabStorage_Remove s id = (none, s.remove id) := rfl
@[simp] theorem envH_store (s : HSt) (id : SlabID) (v : Option GSlab) :
    (envH T).SlabStorage_Store s id v = (none, s.store id v) := rfl
@[simp] theorem envH_byteSize (e : Elem) : (envH T).Storable_ByteSize e = u32 e.size := rfl
@[simp] theorem envH_storable (v : Elem) (s : HSt) (addr : Nat) (mx : UInt32) :
    (envH T).Value_Storable v s addr mx =
      (some (toStorableMax mx.toNat addr v s.ctx).1, none, s.withCtx (toStorableMax mx.toNat addr v s.ctx).2) := rfl
@[simp] theorem envH_getArraySlab (s : HSt) (id : SlabID) :
    (envH T).getArraySlab s id = match s.heap id with
      | some v => (some v, none, s)
      | none => (none, some .slabNotFound, s) := rfl
@[simp] theorem envH_maxInline : (envH T).maxInlineArrayElementSize = u32 (maxInlineArr T) := rfl
@[simp] theorem envH_maxThreshold : (envH T).maxThreshold = u32 (maxThr T) := rfl
@[simp] theorem envH_minThreshold : (envH T).minThreshold = u32 (minThr T) := rfl
@[simp] theorem envH_wrap (e : Option AErr) : (envH T).wrapErrorfAsExternalErrorIfNeeded e = e := rfl
end envFields

theorem storeOK_envH (T : Nat) : StoreOK (envH T) := ⟨fun _ _ _ => rfl, fun _ _ => rfl, rfl⟩
theorem ctxOf_envH (T : Nat) : CtxOf (envH T) HSt.ctx := ⟨fun _ _ _ => rfl, fun _ _ => rfl⟩
theorem leafEnv_envH (T : Nat) : LeafEnv (envH T) := ⟨storeOK_envH T, fun _ => rfl, fun _ _ _ => rfl⟩
theorem storableAs_envH (T : Nat) (hmax : maxInlineArr T < 2^32) : StorableAs (envH T) T HSt.ctx HSt.withCtx :=
  fun v s addr => by rw [envH_storable, envH_maxInline, u32_toNat hmax]; rfl

/-- `getArraySlab` finds a stored slab -/
theorem getArraySlab_envH_some (T : Nat) (s : HSt) (id : SlabID) (v : GSlab) (h : s.heap id = some v) :
    (envH T).getArraySlab s id = (some v, none, s) := by
  simp [h]

/-- `getArraySlab` of an identifier that is not stored: `SlabNotFoundError` -/
theorem getArraySlab_envH_none (T : Nat) (s : HSt) (id : SlabID) (h : s.heap id = none) :
    (envH T).getArraySlab s id = (none, some .slabNotFound, s) := by
  simp [h]

/-- `storeSlab(storage, slab)` on a heap: the slab is stored under its own identifier, one `store` effect, no error -/
theorem storeSlab_envH (T : Nat) (s : HSt) (v : GSlab) :
    TransSl.storeSlab (envH T) s (some v) =
      some (none, s.store (TransSl.ArraySlab_SlabID (envH T) v) (some v)) :=
  (storeOK_envH T).storeSlab s v

theorem slabID_trTree_envH (T : Nat) (d : Nat) (t : ATree d) :
    TransSl.ArraySlab_SlabID (envH T) (trTree d t) = (ATree.hdr d t).id :=
  disp_SlabID_any _ d t

theorem storeSlab_envH_tree (T : Nat) (s : HSt) (d : Nat) (t : ATree d) :
    TransSl.storeSlab (envH T) s (some (trTree d t)) = some (none, s.store (ATree.hdr d t).id (some (trTree d t))) :=
  (storeOK_envH T).storeSlab_tree s d t

theorem storeSlab_envH_meta (T : Nat) (s : HSt) (a : GMeta) :
    TransSl.storeSlab (envH T) s (some (.metaSlab a)) = some (none, s.store a.header.slabID (some (.metaSlab a))) :=
  (storeOK_envH T).storeSlab_meta s a

/-- a stored slab of HeapSpec.lean as the generated record -/
def trASlab : ASlab → GSlab
  | .data s => .dataSlab (trData s)
  | .index hdr childHdrs countSum root =>
    .metaSlab { header := trHdr hdr, childrenHeaders := childHdrs.map trHdr, childrenCountSum := countSum.map u32,
                extraData := trExtra root }

/-- the heap a model tree occupies: every slab of the tree (root included) under its identifier, nothing else -/
def heapOf : (d : Nat) → ATree d → SlabID → Option GSlab
  | 0, (s : DataSlab), id => if id = s.hdr.id then some (.dataSlab (trData s)) else none
  | d + 1, (m : MetaSlab (ATree d)), id =>
    if id = m.hdr.id then some (.metaSlab (trMeta m)) else m.children.findSome? (fun c => heapOf d c id)

/-- the heap `h` holds the tree `t`: every slab of `t`, root included, is stored under its identifier as the generated
    record of that slab -/
def Holds (h : SlabID → Option GSlab) : (d : Nat) → ATree d → Prop
  | 0, (s : DataSlab) => h s.hdr.id = some (.dataSlab (trData s))
  | d + 1, (m : MetaSlab (ATree d)) => h m.hdr.id = some (.metaSlab (trMeta m)) ∧ ∀ c ∈ m.children, Holds h d c

/-- the children of an index slab are held (what the receiver of a generated index-slab method needs: the receiver
    itself is passed by value) -/
def HoldsChildren (h : SlabID → Option GSlab) {d : Nat} (m : MetaSlab (ATree d)) : Prop :=
  ∀ c ∈ m.children, Holds h d c

theorem Holds.root {h : SlabID → Option GSlab} {d : Nat} {t : ATree d} (hh : Holds h d t) :
    h (ATree.hdr d t).id = some (trTree d t) := by
  cases d with
  | zero => exact hh
  | succ d => exact hh.1

theorem Holds.children {h : SlabID → Option GSlab} {d : Nat} {m : MetaSlab (ATree d)} (hh : Holds h (d + 1) m) :
    HoldsChildren h m := hh.2

/-- holding a tree is storing every slab of its slab list (HeapSpec.lean) as the generated record -/
theorem holds_iff_slabs {h : SlabID → Option GSlab} : ∀ {d : Nat} {t : ATree d},
    Holds h d t ↔ ∀ p ∈ ATree.slabs d t, h p.1 = some (trASlab p.2)
  | 0, (s : DataSlab) => by
    show h s.hdr.id = _ ↔ ∀ p ∈ [(s.hdr.id, ASlab.data s)], _
    simp only [List.mem_singleton, forall_eq]; rfl
  | d + 1, (m : MetaSlab (ATree d)) => by
    show (h m.hdr.id = _ ∧ ∀ c ∈ m.children, Holds h d c) ↔
      ∀ p ∈ (m.hdr.id, ASlab.index m.hdr m.childHdrs m.countSum m.root) :: m.children.flatMap (ATree.slabs d), _
    simp only [List.forall_mem_cons, List.mem_flatMap, forall_exists_index, and_imp]
    refine and_congr Iff.rfl ⟨fun hk p c hc hp => holds_iff_slabs.1 (hk c hc) p hp,
      fun hk c hc => holds_iff_slabs.2 fun p hp => hk p c hc hp⟩

/-- `Holds` only looks at the identifiers of the tree -/
theorem Holds.congr {h h' : SlabID → Option GSlab} {d : Nat} {t : ATree d} (hh : Holds h d t)
    (heq : ∀ id ∈ ATree.slabIds d t, h' id = h id) : Holds h' d t := by
  induction d with
  | zero =>
    have : h' (t : DataSlab).hdr.id = h (t : DataSlab).hdr.id :=
      heq _ (by show (t : DataSlab).hdr.id ∈ [(t : DataSlab).hdr.id]; exact List.mem_singleton.2 rfl)
    exact this.trans hh
  | succ d ih =>
    obtain ⟨h1, h2⟩ := hh
    have hroot : (t : MetaSlab (ATree d)).hdr.id ∈ ATree.slabIds (d + 1) t := by
      show _ ∈ (t : MetaSlab (ATree d)).hdr.id :: _
      exact List.mem_cons_self
    refine ⟨(heq _ hroot).trans h1, fun c hc => ih (h2 c hc) (fun id hid => heq id ?_)⟩
    show id ∈ (t : MetaSlab (ATree d)).hdr.id :: (t : MetaSlab (ATree d)).children.flatMap (ATree.slabIds d)
    exact List.mem_cons_of_mem _ (List.mem_flatMap.2 ⟨c, hc, hid⟩)

/-- the heap after an operation that turns the tree `t` into `t'`: it holds `t'`, the slabs that left the tree are gone,
    every other identifier is untouched -/
structure HeapPost (h h' : SlabID → Option GSlab) {d d' : Nat} (t : ATree d) (t' : ATree d') : Prop where
  holds : Holds h' d' t'
  gone : ∀ id ∈ ATree.slabIds d t, id ∉ ATree.slabIds d' t' → h' id = none
  frame : ∀ id, id ∉ ATree.slabIds d t → id ∉ ATree.slabIds d' t' → h' id = h id

end Atree.TransEq

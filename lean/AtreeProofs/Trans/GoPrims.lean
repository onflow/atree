import AtreeModel.Gen.TransSlabs
import AtreeModel.Gen.TransMapSlabs
import AtreeModel.Gen.TransMapElems
import AtreeModel.Gen.TransMapDescent
import AtreeProofs.Trans.Basic
/-
  The slice primitives that each generated file declares for itself are the ones of `Trans/Basic.lean`: rewrite
  with `goIdx_eq` … of the generated namespace in use, then with `sliceIdx_ofNat` ….  One `rfl` line per primitive and
  namespace.
-/
namespace Atree.Gen
open Atree.TransEq

namespace TransSl
theorem goIdx_eq : @goIdx = @sliceIdx := rfl
theorem goSet_eq : @goSet = @sliceSet := rfl
theorem goSlice_eq : @goSlice = @sliceRange := rfl
theorem goInsert_eq : @goInsert = @sliceInsert := rfl
theorem goDelete_eq : @goDelete = @sliceDelete := rfl
end TransSl

namespace TransMap
theorem goIdx_eq : @goIdx = @sliceIdx := rfl
theorem goInRange_eq : @goInRange = @sliceInRange := rfl
theorem goSlice_eq : @goSlice = @sliceOf := rfl
theorem goSlicesDelete_eq : @goSlicesDelete = @sliceDelete := rfl
theorem goSlicesInsert_eq : @goSlicesInsert = @sliceInsert := rfl
end TransMap

namespace TransElems
theorem goIdx_eq : @goIdx = @sliceIdx := rfl
theorem goInRange_eq : @goInRange = @sliceInRange := rfl
theorem goSlicesDelete_eq : @goSlicesDelete = @sliceDelete := rfl
theorem goSlicesInsert_eq : @goSlicesInsert = @sliceInsert := rfl
end TransElems

namespace TransMapD
theorem goIdx_eq : @goIdx = @sliceIdx := rfl
theorem goInRange_eq : @goInRange = @sliceInRange := rfl
end TransMapD

end Atree.Gen

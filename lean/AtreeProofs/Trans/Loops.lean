import AtreeProofs.Map.Loops
import AtreeProofs.Trans.Basic
import AtreeModel.Array.Slab
import AtreeModel.Map.Tree
import AtreeProofs.Array.Arith
/-
  Loop lemmas: each translated Go loop (`Gen.Trans.<f>.loopN`, machine integers) computes what the model's
  structurally recursive loop computes, as long as nothing wraps around.  The `Nat` loops of `Map/Elems.lean`
  (`HkeyElems.canLendLoop/splitLoop/lendLoop/borrowLoop`, over a list of sizes) are the common reference;
  the array model's loops over `List Elem` are these loops on the element sizes.
-/
namespace Atree.TransEq
open Atree Atree.Gen.Trans

/-! ### `uint32` is a ring modulo 2^32: additions and multiplications of translated numbers need no range hypothesis;
    only Nat's TRUNCATED subtraction and the comparisons do -/

theorem u32_add' (a b : Nat) : u32 a + u32 b = u32 (a + b) := u32_add_eq a b
theorem u32_sub' {a b : Nat} (h : b ≤ a) : u32 a - u32 b = u32 (a - b) := u32_sub_eq h
theorem u32_mul' (a b : Nat) : u32 a * u32 b = u32 (a * b) := u32_mul_eq a b

/-! ### the array model's loops are the `Nat` loops on the element sizes -/

def sizesOf (l : List Elem) : List Nat := l.map (·.size)

theorem sumSizes_eq (l : List Elem) : sumSizes l = (sizesOf l).sum := rfl
theorem sizesOf_length (l : List Elem) : (sizesOf l).length = l.length := List.length_map _
theorem sizesOf_reverse (l : List Elem) : sizesOf l.reverse = (sizesOf l).reverse := List.map_reverse

theorem arr_canLendLoop_eq (T h w : Nat) (l : List Elem) (lend : Nat) :
    DataSlab.canLendLoop T h w l lend = HkeyElems.canLendLoop (minThr T) h w (sizesOf l) lend :=
  DataSlab.canLendLoop_eq T h w l lend

theorem arr_splitLoop_eq (mid data : Nat) (l : List Elem) (i ls : Nat) :
    DataSlab.splitLoop mid data l i ls = HkeyElems.splitLoop mid data (sizesOf l) i ls :=
  DataSlab.splitLoop_eq mid data l i ls

theorem arr_lendLoop_eq (T size mid : Nat) (l : List Elem) (lc ls : Nat) :
    DataSlab.lendLoop T size mid l lc ls = HkeyElems.lendLoop (minThr T) size mid (sizesOf l) lc ls :=
  DataSlab.lendLoop_eq T size mid l lc ls

theorem arr_borrowLoop_eq (T size mid : Nat) (l : List Elem) (lc ls : Nat) :
    DataSlab.borrowLoop T size mid l lc ls = HkeyElems.borrowLoop (minThr T) size mid (sizesOf l) lc ls :=
  DataSlab.borrowLoop_eq T size mid l lc ls

theorem take_succ_reverse (l : List Nat) (n : Nat) (h : n < l.length) :
    (l.take (n + 1)).reverse = l.getD n 0 :: (l.take n).reverse := by
  rw [List.take_add_one, List.reverse_append, List.getD_eq_getElem?_getD, List.getElem?_eq_getElem h]; rfl

theorem sum_take_succ (l : List Nat) (n : Nat) (h : n < l.length) :
    (l.take (n + 1)).sum = (l.take n).sum + l.getD n 0 := by
  rw [List.take_add_one, List.sum_append, List.getD_eq_getElem?_getD, List.getElem?_eq_getElem h]
  exact congrArg _ (Nat.add_zero _)

theorem sum_take_le (l : List Nat) (n : Nat) : (l.take n).sum ≤ l.sum :=
  HkeyElems.sum_take_le l n

theorem getD_le_sum (l : List Nat) (n : Nat) : l.getD n 0 ≤ l.sum := by
  induction l generalizing n with
  | nil => exact Nat.le_refl 0
  | cons a t ih => cases n with
    | zero => exact Nat.le_add_right a _
    | succ n => exact Nat.le_trans (ih n) (Nat.le_add_left _ a)

/-! ### `CanLendToLeft` / `CanLendToRight` of array data slabs -/

/-- the two early exits of the `CanLend` loops -/
theorem loopBool_exits {σ : Type} (p q : Prop) [Decidable p] [Decidable q] (L : Loop Bool σ) (b : Bool)
    (h : loopBool L = b) :
    loopBool (if decide p then .ret false else if decide q then .ret true else L) =
      if p then false else if q then true else b := by
  by_cases hp : p
  · rw [ite_dec_pos hp, if_pos hp]; rfl
  · rw [ite_dec_neg hp, if_neg hp]
    by_cases hq : q
    · rw [ite_dec_pos hq, if_pos hq]; rfl
    · rw [ite_dec_neg hq, if_neg hq, h]

theorem arrCanLendLeft_loop (minT hsize want : Nat) (hm : minT < 2^32) (hh : hsize < 2^32) (hw : want < 2^32)
    (rest : List Nat) (i : Int) (lend : Nat) (hsum : lend + rest.sum ≤ hsize) :
    loopBool (ArrayDataSlab_CanLendToLeft.loop1 (u32 hsize) (u32 want) (u32 minT) (u32s rest) i (u32 lend)) =
      HkeyElems.canLendLoop minT hsize want rest lend := by
  induction rest generalizing i lend with
  | nil => rfl
  | cons x t ih =>
    rw [List.sum_cons, ← Nat.add_assoc] at hsum
    have hle : lend + x ≤ hsize := Nat.le_trans (Nat.le_add_right _ _) hsum
    have hlt := Nat.lt_of_le_of_lt hle hh
    simp only [u32s_cons, ArrayDataSlab_CanLendToLeft.loop1, HkeyElems.canLendLoop, u32_add_eq, u32_sub_eq hle,
      u32_dlt (Nat.lt_of_le_of_lt (Nat.sub_le _ _) hh) hm, u32_dge hlt hw]
    exact loopBool_exits _ _ _ _ (ih (i + 1) (lend + x) hsum)

theorem arrCanLendRight_loop (minT hsize want : Nat) (hm : minT < 2^32) (hh : hsize < 2^32) (hw : want < 2^32)
    (sizes : List Nat) (n : Nat) (hn : n ≤ sizes.length) (lend : Nat) (hsum : lend + (sizes.take n).sum ≤ hsize) :
    loopBool (ArrayDataSlab_CanLendToRight.loop1 (u32 hsize) (u32s sizes) (u32 want) (u32 minT) n
        (u32 lend, Int.ofNat n - 1)) =
      HkeyElems.canLendLoop minT hsize want (sizes.take n).reverse lend := by
  induction n generalizing lend with
  | zero => rfl
  | succ n ih =>
    rw [sum_take_succ _ _ hn, Nat.add_comm _ (sizes.getD n 0), ← Nat.add_assoc] at hsum
    have hle : lend + sizes.getD n 0 ≤ hsize := Nat.le_trans (Nat.le_add_right _ _) hsum
    have hlt := Nat.lt_of_le_of_lt hle hh
    rw [take_succ_reverse _ _ hn, int_succ_sub_one]
    simp only [ArrayDataSlab_CanLendToRight.loop1, HkeyElems.canLendLoop, int_dge0, if_true, int_toNat, u32s_getD,
      u32_add_eq, u32_sub_eq hle, u32_dlt (Nat.lt_of_le_of_lt (Nat.sub_le _ _) hh) hm, u32_dge hlt hw]
    exact loopBool_exits _ _ _ _ (ih (Nat.le_of_lt hn) _ hsum)

/-! ### the split-point loop of `ArrayDataSlab.Split` -/

theorem splitLoop_bounds (mid data : Nat) (rest : List Nat) (i ls : Nat) :
    (HkeyElems.splitLoop mid data rest i ls).2 ≤ ls + rest.sum ∧
    (HkeyElems.splitLoop mid data rest i ls).1 ≤ i + rest.length := by
  induction rest generalizing i ls with
  | nil => exact ⟨Nat.le_refl _, Nat.zero_le _⟩
  | cons x t ih =>
    rw [HkeyElems.splitLoop, List.sum_cons, List.length_cons, ← Nat.add_assoc ls, Nat.add_comm t.length,
      ← Nat.add_assoc i]
    by_cases c1 : ls + x ≥ mid
    · rw [if_pos c1]
      by_cases c2 : ls ≤ data - ls - x
      · rw [if_pos c2]; exact ⟨Nat.le_add_right _ _, Nat.le_add_right _ _⟩
      · rw [if_neg c2]; exact ⟨Nat.le_trans (Nat.le_add_right _ x) (Nat.le_add_right _ _),
          Nat.le_trans (Nat.le_add_right _ 1) (Nat.le_add_right _ _)⟩
    · rw [if_neg c1]; exact ih (i + 1) (ls + x)

theorem arrSplit_loop (mid data : Nat) (hd : data < 2^32) (hmid : mid < 2^32) (rest : List Nat) (i ls : Nat)
    (hsum : ls + rest.sum ≤ data) :
    ArrayDataSlab_Split.loop1 (u32 data) (u32 mid) (u32s rest) (Int.ofNat i) (u32 ls, 0) =
      (u32 (HkeyElems.splitLoop mid data rest i ls).2, Int.ofNat (HkeyElems.splitLoop mid data rest i ls).1) := by
  induction rest generalizing i ls with
  | nil => rfl
  | cons x t ih =>
    rw [List.sum_cons, ← Nat.add_assoc] at hsum
    have hle : ls + x ≤ data := Nat.le_trans (Nat.le_add_right _ _) hsum
    have hlt := Nat.lt_of_le_of_lt hle hd
    have hls : ls ≤ data := Nat.le_trans (Nat.le_add_right _ _) hle
    have hsub := Nat.lt_of_le_of_lt (Nat.sub_le data ls) hd
    simp only [u32s_cons, ArrayDataSlab_Split.loop1, HkeyElems.splitLoop, u32_add_eq, u32_dge hlt hmid,
      u32_sub_eq hls, u32_sub_eq (Nat.le_sub_of_add_le' hle),
      u32_dle (Nat.lt_of_le_of_lt hls hd) (Nat.lt_of_le_of_lt (Nat.sub_le _ _) hsub)]
    exact ite_dec_stop (fun p : Nat × Nat => (u32 p.2, Int.ofNat p.1)) _ _ (i + 1, ls + x) (i, ls) _ _
      (ih (i + 1) (ls + x) hsum)

/-! ### the rebalancing loops of `ArrayDataSlab.LendToRight` / `BorrowFromRight` -/

theorem lendLoop_bounds (minS size mid : Nat) (rest : List Nat) (lc ls : Nat) :
    (HkeyElems.lendLoop minS size mid rest lc ls).1 ≤ lc ∧ (HkeyElems.lendLoop minS size mid rest lc ls).2 ≤ ls := by
  induction rest generalizing lc ls with
  | nil => exact ⟨Nat.le_refl _, Nat.le_refl _⟩
  | cons x t ih =>
    rw [HkeyElems.lendLoop]
    cases decide (ls - x < mid) && decide (size - ls ≥ minS)
    · have := ih (lc - 1) (ls - x)
      exact ⟨Nat.le_trans this.1 (Nat.sub_le _ _), Nat.le_trans this.2 (Nat.sub_le _ _)⟩
    · exact ⟨Nat.le_refl _, Nat.le_refl _⟩

/-- the loop takes at most one element per step -/
theorem lendLoop_lower (minS size mid : Nat) (rest : List Nat) (lc ls : Nat) :
    lc - rest.length ≤ (HkeyElems.lendLoop minS size mid rest lc ls).1 := by
  induction rest generalizing lc ls with
  | nil => exact Nat.le_refl _
  | cons x t ih =>
    rw [HkeyElems.lendLoop, List.length_cons]
    cases decide (ls - x < mid) && decide (size - ls ≥ minS)
    · rw [Nat.add_comm, ← Nat.sub_sub]; exact ih (lc - 1) (ls - x)
    · exact Nat.sub_le _ _

theorem borrowLoop_bounds (minS size mid : Nat) (rest : List Nat) (lc ls : Nat) :
    lc ≤ (HkeyElems.borrowLoop minS size mid rest lc ls).1 ∧
    (HkeyElems.borrowLoop minS size mid rest lc ls).1 ≤ lc + rest.length ∧
    ls ≤ (HkeyElems.borrowLoop minS size mid rest lc ls).2 ∧
    (HkeyElems.borrowLoop minS size mid rest lc ls).2 ≤ ls + rest.sum := by
  induction rest generalizing lc ls with
  | nil => exact ⟨Nat.le_refl _, Nat.le_refl _, Nat.le_refl _, Nat.le_refl _⟩
  | cons x t ih =>
    rw [HkeyElems.borrowLoop, List.sum_cons, List.length_cons, ← Nat.add_assoc ls, Nat.add_comm t.length,
      ← Nat.add_assoc lc]
    by_cases c1 : ls + x > mid
    · rw [if_pos c1]
      by_cases c2 : size - ls - x ≥ minS
      · rw [if_pos c2]
        exact ⟨Nat.le_add_right _ _, Nat.le_add_right _ _, Nat.le_add_right _ _, Nat.le_add_right _ _⟩
      · rw [if_neg c2]
        exact ⟨Nat.le_refl _, Nat.le_trans (Nat.le_add_right _ 1) (Nat.le_add_right _ _), Nat.le_refl _,
          Nat.le_trans (Nat.le_add_right _ x) (Nat.le_add_right _ _)⟩
    · rw [if_neg c1]
      have ⟨h1, h2, h3, h4⟩ := ih (lc + 1) (ls + x)
      exact ⟨Nat.le_trans (Nat.le_add_right _ 1) h1, h2, Nat.le_trans (Nat.le_add_right _ x) h3, h4⟩

/-- the count only ever takes part in a `- 1` that does not truncate, which commutes with `u32` whatever its size -/
theorem arrLend_loop_any (minT size mid : Nat) (hm : minT < 2^32) (hsz : size < 2^32) (hmid : mid < 2^32)
    (sizes : List Nat) (n : Nat) (hn : n ≤ sizes.length) (lc ls : Nat) (hlc : n ≤ lc)
    (hls : (sizes.take n).sum ≤ ls) (hls2 : ls ≤ size) :
    (ArrayDataSlab_LendToRight.loop1 (u32s sizes) (u32 minT) (u32 size) (u32 mid) n
        (u32 lc, u32 ls, Int.ofNat n - 1)).1 = u32 (HkeyElems.lendLoop minT size mid (sizes.take n).reverse lc ls).1 ∧
    (ArrayDataSlab_LendToRight.loop1 (u32s sizes) (u32 minT) (u32 size) (u32 mid) n
        (u32 lc, u32 ls, Int.ofNat n - 1)).2.1 = u32 (HkeyElems.lendLoop minT size mid (sizes.take n).reverse lc ls).2 := by
  induction n generalizing lc ls with
  | zero => exact ⟨rfl, rfl⟩
  | succ n ih =>
    rw [sum_take_succ _ _ hn] at hls
    have hx : sizes.getD n 0 ≤ ls := Nat.le_trans (Nat.le_add_left _ _) hls
    have hls' := Nat.lt_of_le_of_lt hls2 hsz
    rw [take_succ_reverse _ _ hn, int_succ_sub_one]
    simp only [ArrayDataSlab_LendToRight.loop1, HkeyElems.lendLoop, int_dge0, if_true, int_toNat, u32s_getD, one_eq_u32,
      u32_sub_eq hx, u32_sub_eq hls2, ← UInt32.ofNat_sub (Nat.le_trans (Nat.succ_pos n) hlc),
      u32_dlt (Nat.lt_of_le_of_lt (Nat.sub_le _ _) hls') hmid, u32_dge (Nat.lt_of_le_of_lt (Nat.sub_le _ _) hsz) hm]
    -- both sides test the same Boolean
    generalize (decide (ls - sizes.getD n 0 < mid) && decide (size - ls ≥ minT)) = b
    cases b
    · exact ih (Nat.le_of_lt hn) (lc - 1) (ls - sizes.getD n 0) (Nat.le_sub_one_of_lt hlc)
        (Nat.le_sub_of_add_le hls) (Nat.le_trans (Nat.sub_le _ _) hls2)
    · exact ⟨rfl, rfl⟩

theorem arrLend_loop (minT size mid : Nat) (hm : minT < 2^32) (hsz : size < 2^32) (hmid : mid < 2^32)
    (sizes : List Nat) (n : Nat) (hn : n ≤ sizes.length) (lc ls : Nat) (hlc : n ≤ lc) (hlc2 : lc < 2^32)
    (hls : (sizes.take n).sum ≤ ls) (hls2 : ls ≤ size) :
    (ArrayDataSlab_LendToRight.loop1 (u32s sizes) (u32 minT) (u32 size) (u32 mid) n
        (u32 lc, u32 ls, Int.ofNat n - 1)).1 = u32 (HkeyElems.lendLoop minT size mid (sizes.take n).reverse lc ls).1 ∧
    (ArrayDataSlab_LendToRight.loop1 (u32s sizes) (u32 minT) (u32 size) (u32 mid) n
        (u32 lc, u32 ls, Int.ofNat n - 1)).2.1 = u32 (HkeyElems.lendLoop minT size mid (sizes.take n).reverse lc ls).2 :=
  arrLend_loop_any minT size mid hm hsz hmid sizes n hn lc ls hlc hls hls2

/-- the count only ever takes part in `+ 1`, which commutes with `u32` whatever its size -/
theorem arrBorrow_loop_any (minT size mid : Nat) (hm : minT < 2^32) (hsz : size < 2^32) (hmid : mid < 2^32)
    (rest : List Nat) (i : Int) (lc ls : Nat) (hls : ls + rest.sum ≤ size) :
    ArrayDataSlab_BorrowFromRight.loop1 (u32 minT) (u32 size) (u32 mid) (u32s rest) i (u32 lc, u32 ls) =
      (u32 (HkeyElems.borrowLoop minT size mid rest lc ls).1, u32 (HkeyElems.borrowLoop minT size mid rest lc ls).2) := by
  induction rest generalizing i lc ls with
  | nil => rfl
  | cons x t ih =>
    rw [List.sum_cons, ← Nat.add_assoc] at hls
    have hle : ls + x ≤ size := Nat.le_trans (Nat.le_add_right _ _) hls
    have hlt := Nat.lt_of_le_of_lt hle hsz
    have hl : ls ≤ size := Nat.le_trans (Nat.le_add_right _ _) hle
    have hsub := Nat.lt_of_le_of_lt (Nat.sub_le size ls) hsz
    simp only [u32s_cons, ArrayDataSlab_BorrowFromRight.loop1, HkeyElems.borrowLoop, one_eq_u32, ← UInt32.ofNat_add,
      u32_dgt hlt hmid, u32_sub_eq hl,
      u32_sub_eq (Nat.le_sub_of_add_le' hle), u32_dge (Nat.lt_of_le_of_lt (Nat.sub_le _ _) hsub) hm]
    exact ite_dec_stop (fun p : Nat × Nat => (u32 p.1, u32 p.2)) _ _ (lc + 1, ls + x) (lc, ls) _ _
      (ih (i + 1) (lc + 1) (ls + x) hls)

theorem arrBorrow_loop (minT size mid : Nat) (hm : minT < 2^32) (hsz : size < 2^32) (hmid : mid < 2^32)
    (rest : List Nat) (i : Int) (lc ls : Nat) (hlc : lc + rest.length < 2^32) (hls : ls + rest.sum ≤ size) :
    ArrayDataSlab_BorrowFromRight.loop1 (u32 minT) (u32 size) (u32 mid) (u32s rest) i (u32 lc, u32 ls) =
      (u32 (HkeyElems.borrowLoop minT size mid rest lc ls).1, u32 (HkeyElems.borrowLoop minT size mid rest lc ls).2) :=
  arrBorrow_loop_any minT size mid hm hsz hmid rest i lc ls hls

/-! ### `ArrayMetaDataSlab.childSlabIndexInfo`: linear scan and binary search -/

theorem getD_lt_of_all (l : List Nat) (B : Nat) (hB : 0 < B) (h : ∀ x ∈ l, x < B) (i : Nat) : l.getD i 0 < B := by
  rw [List.getD_eq_getElem?_getD]
  cases e : l[i]? with
  | none => exact hB
  | some x => exact h x (List.mem_of_getElem? e)

theorem scanLinear_loop (index : Nat) (hi : index < 2^64) (cs : List Nat) (hcs : ∀ x ∈ cs, x < 2^32) (i : Nat) :
    ArrayMetaDataSlab_childSlabIndexInfo.loop1 (u64 index) (u32s cs) (Int.ofNat i) 0 =
      Int.ofNat (MetaSlab.scanLinear index cs i) := by
  induction cs generalizing i with
  | nil => rfl
  | cons x t ih =>
    have hx : x < 2^32 := hcs x List.mem_cons_self
    simp only [u32s_cons, ArrayMetaDataSlab_childSlabIndexInfo.loop1, MetaSlab.scanLinear, u32_toUInt64 hx,
      u64_dlt hi (Nat.lt_trans hx (by decide))]
    by_cases c : index < x
    · rw [ite_dec_pos c, if_pos c]
    · rw [ite_dec_neg c, if_neg c]
      exact ih (fun y hy => hcs y (List.mem_cons_of_mem x hy)) (i + 1)

/-- the midpoint of a non-empty interval lies inside it … -/
theorem mid_bounds {low high : Nat} (c : low < high) : low ≤ (low + high) / 2 ∧ (low + high) / 2 + 1 ≤ high :=
  ⟨(Nat.le_div_iff_mul_le Nat.two_pos).mpr (by rw [Nat.mul_two]; exact Nat.add_le_add_left (Nat.le_of_lt c) _),
   (Nat.div_lt_iff_lt_mul Nat.two_pos).mpr (by rw [Nat.mul_two]; exact Nat.add_lt_add_right c _)⟩

/-- … and what remains on either side of it needs one unit of fuel less -/
theorem search_fuel_step {low m high f : Nat} (h1 : low ≤ m) (h2 : m + 1 ≤ high) (h : high - low ≤ f + 1) :
    high - (m + 1) ≤ f ∧ m - low ≤ f :=
  have h' : high - low - 1 ≤ f := Nat.sub_le_of_le_add h
  ⟨Nat.le_trans (Nat.sub_le_sub_left (Nat.succ_le_succ h1) high) h',
   Nat.le_trans (Nat.sub_le_sub_right (Nat.le_sub_one_of_lt h2) low) (Nat.sub_right_comm high 1 low ▸ h')⟩

theorem scanBinary_loop (index : Nat) (hi : index < 2^64) (cs : List Nat) (hcs : ∀ x ∈ cs, x < 2^32)
    (fuel low high : Nat) (hlh : low ≤ high) (hh : high < 2^63) :
    (ArrayMetaDataSlab_childSlabIndexInfo.loop2 (u32s cs) (u64 index) fuel (Int.ofNat low, Int.ofNat high)).1 =
      Int.ofNat (MetaSlab.scanBinary index cs low high fuel) := by
  induction fuel generalizing low high with
  | zero => rfl
  | succ fuel ih =>
    have hm := getD_lt_of_all cs (2^32) (by decide) hcs ((low + high) / 2)
    have hm' := Nat.lt_trans hm (show 2^32 < 2^64 by decide)
    simp only [ArrayMetaDataSlab_childSlabIndexInfo.loop2, MetaSlab.scanBinary, int_dlt, int_toNat, u32s_getD,
      mid_eq low high (Nat.add_lt_add_of_le_of_lt (Nat.le_of_lt (Nat.lt_of_le_of_lt hlh hh)) hh),
      u32_toUInt64 hm, u64_dlt hm' hi, u64_dgt hm' hi]
    by_cases c : low < high
    · have ⟨h1, h2⟩ := mid_bounds c
      rw [ite_dec_pos c, if_pos c]
      by_cases c1 : cs.getD ((low + high) / 2) 0 < index
      · rw [ite_dec_pos c1, if_pos c1]
        exact ih ((low + high) / 2 + 1) high h2 hh
      · rw [ite_dec_neg c1, if_neg c1]
        by_cases c2 : cs.getD ((low + high) / 2) 0 > index
        · rw [ite_dec_pos c2, if_pos c2]
          exact ih low ((low + high) / 2) h1 (Nat.lt_of_lt_of_le (Nat.lt_of_succ_le h2) (Nat.le_of_lt hh))
        · rw [ite_dec_neg c2, if_neg c2]; rfl
    · rw [ite_dec_neg c, if_neg c]

/-- the model's binary search does not depend on its fuel once there is enough of it -/
theorem scanBinary_fuel (index : Nat) (cs : List Nat) (low high f1 f2 : Nat) (h1 : high - low ≤ f1)
    (h2 : high - low ≤ f2) :
    MetaSlab.scanBinary index cs low high f1 = MetaSlab.scanBinary index cs low high f2 := by
  induction f1 generalizing f2 low high with
  | zero =>
    cases f2 with
    | zero => rfl
    | succ f2 => exact (if_neg (Nat.not_lt.mpr (Nat.le_of_sub_eq_zero (Nat.le_zero.mp h1)))).symm
  | succ f1 ih =>
    cases f2 with
    | zero => exact if_neg (Nat.not_lt.mpr (Nat.le_of_sub_eq_zero (Nat.le_zero.mp h2)))
    | succ f2 =>
      simp only [MetaSlab.scanBinary]
      by_cases c : low < high
      · have ⟨m1, m2⟩ := mid_bounds c
        have ⟨a1, b1⟩ := search_fuel_step m1 m2 h1
        have ⟨a2, b2⟩ := search_fuel_step m1 m2 h2
        rw [if_pos c, if_pos c, ih _ _ f2 a1 a2, ih _ _ f2 b1 b2]
      · rw [if_neg c, if_neg c]

/-! ### the loops of `hkeyElements` (map_elements_hashkey.go): every element counts `Size() + digestSize` -/

/-- element sizes with the digest added (the list the map model's loops run over) -/
def dg (l : List Nat) : List Nat := l.map (· + Gen.digestSize)

theorem dg_cons (x : Nat) (t : List Nat) : dg (x :: t) = (x + Gen.digestSize) :: dg t := rfl
theorem dg_length (l : List Nat) : (dg l).length = l.length := List.length_map _
theorem dg_getD (l : List Nat) (n : Nat) (h : n < l.length) : (dg l).getD n 0 = l.getD n 0 + Gen.digestSize := by
  rw [dg, List.getD_eq_getElem?_getD, List.getD_eq_getElem?_getD, List.getElem?_map, List.getElem?_eq_getElem h]; rfl
theorem dg_take (l : List Nat) (n : Nat) : (dg l).take n = dg (l.take n) := (List.map_take ..).symm

theorem u32s_dg (l : List Nat) : u32s (dg l) = (u32s l).map (· + UInt32.ofNat Gen.digestSize) := by
  simp only [u32s, dg, List.map_map]
  exact List.map_congr_left fun x _ => UInt32.ofNat_add x _

/-! Where the loop runs over the elements themselves, the `hkeyElements` loop is the array loop on the sizes with the
digest added, so the array lemma applies to `dg rest`.  `LendToRight` and `BorrowFromRight` count in `int` where
the array code counts in `uint32`, and are treated directly. -/

theorem hkeyCanLendLeft_loop1_eq (e w m : UInt32) (xs : List UInt32) (i : Int) (l : UInt32) :
    hkeyElements_CanLendToLeft.loop1 e w m xs i l =
      ArrayDataSlab_CanLendToLeft.loop1 e w m (xs.map (· + UInt32.ofNat Gen.digestSize)) i l := by
  induction xs generalizing i l with
  | nil => rfl
  | cons x t ih => simp only [hkeyElements_CanLendToLeft.loop1, ArrayDataSlab_CanLendToLeft.loop1, List.map_cons, ih]

theorem hkeyCanLendLeft_loop (minS esize want : Nat) (hm : minS < 2^32) (hh : esize < 2^32) (hw : want < 2^32)
    (rest : List Nat) (i : Int) (lend : Nat) (hsum : lend + (dg rest).sum ≤ esize) :
    loopBool (hkeyElements_CanLendToLeft.loop1 (u32 esize) (u32 want) (u32 minS) (u32s rest) i (u32 lend)) =
      HkeyElems.canLendLoop minS esize want (dg rest) lend := by
  rw [hkeyCanLendLeft_loop1_eq, ← u32s_dg]
  exact arrCanLendLeft_loop minS esize want hm hh hw (dg rest) i lend hsum

theorem getD_map_add (xs : List UInt32) (c : UInt32) (k : Nat) (h : k < xs.length) :
    (xs.map (· + c)).getD k 0 = xs.getD k 0 + c := by
  rw [List.getD_eq_getElem?_getD, List.getD_eq_getElem?_getD, List.getElem?_map, List.getElem?_eq_getElem h]; rfl

/-- the downward loop only reads below `n`, where `getD` and `map` commute -/
theorem hkeyCanLendRight_loop1_eq (e w m : UInt32) (xs : List UInt32) (n : Nat) (hn : n ≤ xs.length) (l : UInt32) :
    hkeyElements_CanLendToRight.loop1 e xs w m n (l, Int.ofNat n - 1) =
      ArrayDataSlab_CanLendToRight.loop1 e (xs.map (· + UInt32.ofNat Gen.digestSize)) w m n (l, Int.ofNat n - 1) := by
  induction n generalizing l with
  | zero => rfl
  | succ n ih =>
    rw [int_succ_sub_one]
    simp only [hkeyElements_CanLendToRight.loop1, ArrayDataSlab_CanLendToRight.loop1, int_toNat, getD_map_add _ _ _ hn,
      ih (Nat.le_of_lt hn)]

theorem hkeyCanLendRight_loop (minS esize want : Nat) (hm : minS < 2^32) (hh : esize < 2^32) (hw : want < 2^32)
    (sizes : List Nat) (n : Nat) (hn : n ≤ sizes.length) (lend : Nat)
    (hsum : lend + ((dg sizes).take n).sum ≤ esize) :
    loopBool (hkeyElements_CanLendToRight.loop1 (u32 esize) (u32s sizes) (u32 want) (u32 minS) n
        (u32 lend, Int.ofNat n - 1)) =
      HkeyElems.canLendLoop minS esize want ((dg sizes).take n).reverse lend := by
  rw [hkeyCanLendRight_loop1_eq _ _ _ _ _ (u32s_length sizes ▸ hn), ← u32s_dg]
  exact arrCanLendRight_loop minS esize want hm hh hw (dg sizes) n (dg_length sizes ▸ hn) lend hsum

theorem hkeySplit_loop1_eq (d m : UInt32) (xs : List UInt32) (i : Int) (st : UInt32 × Int) :
    hkeyElements_Split.loop1 d m xs i st =
      ArrayDataSlab_Split.loop1 d m (xs.map (· + UInt32.ofNat Gen.digestSize)) i st := by
  induction xs generalizing i st with
  | nil => rfl
  | cons x t ih => simp only [hkeyElements_Split.loop1, ArrayDataSlab_Split.loop1, List.map_cons, ih]

theorem hkeySplit_loop (mid data : Nat) (hd : data < 2^32) (hmid : mid < 2^32) (rest : List Nat) (i ls : Nat)
    (hsum : ls + (dg rest).sum ≤ data) :
    hkeyElements_Split.loop1 (u32 data) (u32 mid) (u32s rest) (Int.ofNat i) (u32 ls, 0) =
      (u32 (HkeyElems.splitLoop mid data (dg rest) i ls).2, Int.ofNat (HkeyElems.splitLoop mid data (dg rest) i ls).1) := by
  rw [hkeySplit_loop1_eq, ← u32s_dg]
  exact arrSplit_loop mid data hd hmid (dg rest) i ls hsum

theorem hkeyLend_loop (minS size mid : Nat) (hm : minS < 2^32) (hsz : size < 2^32) (hmid : mid < 2^32)
    (sizes : List Nat) (n : Nat) (hn : n ≤ sizes.length) (lc ls : Nat) (hlc : n ≤ lc)
    (hls : ((dg sizes).take n).sum ≤ ls) (hls2 : ls ≤ size) :
    (hkeyElements_LendToRight.loop1 (u32s sizes) (u32 minS) (u32 size) (u32 mid) n
        (Int.ofNat lc, u32 ls, Int.ofNat n - 1)).1 =
      Int.ofNat (HkeyElems.lendLoop minS size mid ((dg sizes).take n).reverse lc ls).1 ∧
    (hkeyElements_LendToRight.loop1 (u32s sizes) (u32 minS) (u32 size) (u32 mid) n
        (Int.ofNat lc, u32 ls, Int.ofNat n - 1)).2.1 =
      u32 (HkeyElems.lendLoop minS size mid ((dg sizes).take n).reverse lc ls).2 := by
  induction n generalizing lc ls with
  | zero => exact ⟨rfl, rfl⟩
  | succ n ih =>
    have hn' : n < (dg sizes).length := dg_length sizes ▸ hn
    rw [sum_take_succ _ _ hn', dg_getD _ _ hn] at hls
    have hx : sizes.getD n 0 + Gen.digestSize ≤ ls := Nat.le_trans (Nat.le_add_left _ _) hls
    have hls' := Nat.lt_of_le_of_lt hls2 hsz
    rw [take_succ_reverse _ _ hn', dg_getD _ _ hn, int_succ_sub_one]
    simp only [hkeyElements_LendToRight.loop1, HkeyElems.lendLoop, int_dge0, if_true, int_toNat, u32s_getD,
      ← UInt32.ofNat_add, u32_sub_eq hx, u32_sub_eq hls2, int_pred (Nat.lt_of_lt_of_le (Nat.succ_pos n) hlc),
      u32_dlt (Nat.lt_of_le_of_lt (Nat.sub_le _ _) hls') hmid, u32_dge (Nat.lt_of_le_of_lt (Nat.sub_le _ _) hsz) hm]
    generalize (decide (ls - (sizes.getD n 0 + Gen.digestSize) < mid) && decide (size - ls ≥ minS)) = b
    cases b
    · exact ih (Nat.le_of_lt hn) (lc - 1) _ (Nat.le_sub_one_of_lt hlc) (Nat.le_sub_of_add_le hls)
        (Nat.le_trans (Nat.sub_le _ _) hls2)
    · exact ⟨rfl, rfl⟩

theorem hkeyBorrow_loop (minS size mid : Nat) (hm : minS < 2^32) (hsz : size < 2^32) (hmid : mid < 2^32)
    (rest : List Nat) (i : Int) (lc ls : Nat) (hls : ls + (dg rest).sum ≤ size) :
    hkeyElements_BorrowFromRight.loop1 (u32 minS) (u32 size) (u32 mid) (u32s rest) i (Int.ofNat lc, u32 ls) =
      (Int.ofNat (HkeyElems.borrowLoop minS size mid (dg rest) lc ls).1,
       u32 (HkeyElems.borrowLoop minS size mid (dg rest) lc ls).2) := by
  induction rest generalizing i lc ls with
  | nil => rfl
  | cons x t ih =>
    rw [dg_cons, List.sum_cons, ← Nat.add_assoc] at hls
    have hle : ls + (x + Gen.digestSize) ≤ size := Nat.le_trans (Nat.le_add_right _ _) hls
    have hlt := Nat.lt_of_le_of_lt hle hsz
    have hl : ls ≤ size := Nat.le_trans (Nat.le_add_right _ _) hle
    have hsub := Nat.lt_of_le_of_lt (Nat.sub_le size ls) hsz
    simp only [dg_cons, u32s_cons, hkeyElements_BorrowFromRight.loop1, HkeyElems.borrowLoop, ← UInt32.ofNat_add,
      u32_dgt hlt hmid, u32_sub_eq hl, u32_sub_eq (Nat.le_sub_of_add_le' hle),
      u32_dge (Nat.lt_of_le_of_lt (Nat.sub_le _ _) hsub) hm]
    exact ite_dec_stop (fun p : Nat × Nat => (Int.ofNat p.1, u32 p.2)) _ _ (lc + 1, ls + (x + Gen.digestSize)) (lc, ls) _ _
      (ih (i + 1) (lc + 1) _ hls)

/-! ### the binary search of `MapMetaDataSlab.getChildSlabByDigest / Set / Remove` -/

/-- Go's `ans` (-1 = not found) for the model's `Option Nat` -/
def ansInt : Option Nat → Int
  | none => -1
  | some k => Int.ofNat k

def firstKeysOf (hdrs : List MHdr) : List Nat := hdrs.map (·.firstKey)

theorem firstKeysOf_getD (hdrs : List MHdr) (h : Nat) :
    (firstKeysOf hdrs).getD h 0 = (hdrs.getD h default).firstKey := by
  rw [firstKeysOf, List.getD_eq_getElem?_getD, List.getD_eq_getElem?_getD, List.getElem?_map]
  cases hdrs[h]? <;> rfl

/-- the model's search does not depend on its fuel once there is enough of it -/
theorem findChild_fuel (hdrs : List MHdr) (hkey i j : Nat) (ans : Option Nat) (f1 f2 : Nat) (h1 : j - i ≤ f1)
    (h2 : j - i ≤ f2) :
    MMetaSlab.findChild hdrs hkey i j ans f1 = MMetaSlab.findChild hdrs hkey i j ans f2 := by
  induction f1 generalizing f2 i j ans with
  | zero =>
    cases f2 with
    | zero => rfl
    | succ f2 => exact (if_neg (Nat.not_lt.mpr (Nat.le_of_sub_eq_zero (Nat.le_zero.mp h1)))).symm
  | succ f1 ih =>
    cases f2 with
    | zero => exact if_neg (Nat.not_lt.mpr (Nat.le_of_sub_eq_zero (Nat.le_zero.mp h2)))
    | succ f2 =>
      simp only [MMetaSlab.findChild]
      by_cases c : i < j
      · have ⟨m1, m2⟩ := mid_bounds c
        have ⟨a1, b1⟩ := search_fuel_step m1 m2 h1
        have ⟨a2, b2⟩ := search_fuel_step m1 m2 h2
        rw [if_pos c, if_pos c, ih _ _ _ f2 a1 a2, ih _ _ _ f2 b1 b2]
      · rw [if_neg c, if_neg c]

theorem findChild_loop_get (hdrs : List MHdr) (hfk : ∀ x ∈ firstKeysOf hdrs, x < 2^64) (hkey : Nat) (hk : hkey < 2^64)
    (fuel i j : Nat) (o : Option Nat) (hij : i ≤ j) (hj : j < 2^63) :
    (MapMetaDataSlab_getChildSlabByDigest.loop1 (u64s (firstKeysOf hdrs)) (u64 hkey) fuel (ansInt o, Int.ofNat i, Int.ofNat j)).1 =
      ansInt (MMetaSlab.findChild hdrs hkey i j o fuel) := by
  induction fuel generalizing i j o with
  | zero => rfl
  | succ fuel ih =>
    simp only [MapMetaDataSlab_getChildSlabByDigest.loop1, MMetaSlab.findChild, int_dlt, int_toNat, u64s_getD,
      mid_eq i j (Nat.add_lt_add_of_le_of_lt (Nat.le_of_lt (Nat.lt_of_le_of_lt hij hj)) hj), ← firstKeysOf_getD,
      u64_dgt (getD_lt_of_all (firstKeysOf hdrs) (2^64) (by decide) hfk ((i + j) / 2)) hk]
    by_cases c : i < j
    · have ⟨h1, h2⟩ := mid_bounds c
      rw [ite_dec_pos c, if_pos c]
      by_cases c1 : (firstKeysOf hdrs).getD ((i + j) / 2) 0 > hkey
      · rw [ite_dec_pos c1, if_pos c1]
        exact ih i ((i + j) / 2) o h1 (Nat.lt_of_lt_of_le (Nat.lt_of_succ_le h2) (Nat.le_of_lt hj))
      · rw [ite_dec_neg c1, if_neg c1]
        exact ih ((i + j) / 2 + 1) j (some ((i + j) / 2)) h2 hj
    · rw [ite_dec_neg c, if_neg c]

/-- the searches at the top of `MapMetaDataSlab.Set` and `Remove` are copies of the one in `getChildSlabByDigest`,
    and so are their translations -/
theorem set_search_loop_eq : MapMetaDataSlab_Set_search.loop1 = MapMetaDataSlab_getChildSlabByDigest.loop1 := by
  delta MapMetaDataSlab_Set_search.loop1 MapMetaDataSlab_getChildSlabByDigest.loop1; rfl
theorem remove_search_loop_eq : MapMetaDataSlab_Remove_search.loop1 = MapMetaDataSlab_getChildSlabByDigest.loop1 := by
  delta MapMetaDataSlab_Remove_search.loop1 MapMetaDataSlab_getChildSlabByDigest.loop1; rfl

theorem findChild_loop_set (hdrs : List MHdr) (hfk : ∀ x ∈ firstKeysOf hdrs, x < 2^64) (hkey : Nat) (hk : hkey < 2^64)
    (fuel i j : Nat) (o : Option Nat) (hij : i ≤ j) (hj : j < 2^63) :
    (MapMetaDataSlab_Set_search.loop1 (u64s (firstKeysOf hdrs)) (u64 hkey) fuel (ansInt o, Int.ofNat i, Int.ofNat j)).1 =
      ansInt (MMetaSlab.findChild hdrs hkey i j o fuel) :=
  set_search_loop_eq ▸ findChild_loop_get hdrs hfk hkey hk fuel i j o hij hj

theorem findChild_loop_remove (hdrs : List MHdr) (hfk : ∀ x ∈ firstKeysOf hdrs, x < 2^64) (hkey : Nat) (hk : hkey < 2^64)
    (fuel i j : Nat) (o : Option Nat) (hij : i ≤ j) (hj : j < 2^63) :
    (MapMetaDataSlab_Remove_search.loop1 (u64s (firstKeysOf hdrs)) (u64 hkey) fuel (ansInt o, Int.ofNat i, Int.ofNat j)).1 =
      ansInt (MMetaSlab.findChild hdrs hkey i j o fuel) :=
  remove_search_loop_eq ▸ findChild_loop_get hdrs hfk hkey hk fuel i j o hij hj

/-! ### the count loop of `ArrayMetaDataSlab.Split` (`for i := range leftChildrenCount`) -/

theorem drop_take_cons (l : List Nat) (n i : Nat) (hi : i < n) (hn : n ≤ l.length) :
    (l.take n).drop i = l.getD i 0 :: (l.take n).drop (i + 1) := by
  have hl : i < l.length := Nat.lt_of_lt_of_le hi hn
  rw [List.drop_eq_getElem_cons (List.length_take ▸ (Nat.lt_min.mpr ⟨hi, hl⟩)), List.getElem_take,
    List.getD_eq_getElem?_getD, List.getElem?_eq_getElem hl]; rfl

theorem arrMetaSplit_loop (counts : List Nat) (leftN : Nat) (hle : leftN ≤ counts.length) (fuel i lc : Nat)
    (hf : fuel = leftN - i) (hi : i ≤ leftN) (hsum : lc + ((counts.take leftN).drop i).sum < 2^32) :
    ArrayMetaDataSlab_Split.loop1 (u32s counts) (Int.ofNat leftN) fuel (u32 lc, Int.ofNat i) =
      (u32 (lc + ((counts.take leftN).drop i).sum), Int.ofNat leftN) := by
  induction fuel generalizing i lc with
  | zero =>
    have e : i = leftN := Nat.le_antisymm hi (Nat.le_of_sub_eq_zero hf.symm)
    rw [e, List.drop_eq_nil_of_le (List.length_take_le _ _)]; rfl
  | succ fuel ih =>
    have hlt : i < leftN := Nat.lt_of_sub_pos (hf ▸ Nat.succ_pos fuel)
    rw [drop_take_cons counts leftN i hlt hle, List.sum_cons, ← Nat.add_assoc] at hsum ⊢
    simp only [ArrayMetaDataSlab_Split.loop1, int_dlt, int_toNat, u32s_getD]
    rw [ite_dec_pos hlt, u32_add_eq]
    exact ih (i + 1) _ (Nat.succ_inj.mp (hf.trans (Nat.succ_pred_eq_of_pos (Nat.sub_pos_of_lt hlt)).symm)) hlt hsum

end Atree.TransEq

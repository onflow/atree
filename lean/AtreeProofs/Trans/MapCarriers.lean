import AtreeModel.Map.Elems
/-
  The carriers at which the generated map code is instantiated: what an element holds (`SV`) and what a map operation
  is handed (`SW`).  Both are a key or a value of the model.
-/
namespace Atree.TransEq
open Atree

/-- Go `Storable` (`MapKey` = `MapValue` = `Storable`): what an element holds -/
inductive SV where
  | key (k : MKey)
  | val (v : Elem)
deriving DecidableEq, Repr

/-- Go `Value`: the not-yet-stored key / value arguments of a map operation -/
inductive SW where
  | key (k : MKey)
  | val (v : Elem)
deriving DecidableEq, Repr

end Atree.TransEq

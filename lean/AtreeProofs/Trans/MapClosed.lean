import AtreeProofs.Trans.MapElemsOn
import AtreeProofs.Trans.MapElemOn
import AtreeProofs.Props.TransElemInline
/-
  "Tying the knot": the CLOSED generated functions of the map element layer.

  The two generated units of the element layer are open: unit A (`Gen/TransMapElems.lean`, `hkeyElements.Get / Set /
  Remove`) takes the `element` methods as fields of its `env`, unit B (`Gen/TransMapElem.lean`, the three `element`
  implementations and their dispatchers) takes the methods of the nested `elements` as fields of its `env`; the last level
  (`singleElements.Get / Set / Remove`) is in `Gen/TransMapSlabs.lean`.  Here the two units are instantiated WITH EACH
  OTHER by recursion on the number `r` of digest levels left (as `MElems.ops r` in the model):

    mcl_gops cfg retr 0       = mcl_gopsS cfg
        the `elements` methods of level 0 run the GENERATED `singleElements_*`                  (G := MElems 0)
    clEnvB cfg retr r         = mcl_envBG cfg (mcl_gops cfg retr r) (retr r)
        unit-B env whose `elements_*` are `mcl_gops cfg retr r`
    clEnvA cfg retr r d       = mcl_envA cfg (clEnvB cfg retr r) d
        unit-A env whose `element_*` run the GENERATED dispatchers `element_*` of unit B under `clEnvB cfg retr r`
    mcl_gops cfg retr (r + 1) = mcl_gopsH (clEnvA cfg retr r)
        the `elements` methods of level `r + 1` run the GENERATED `hkeyElements_*` of unit A    (G := MElems (r+1))

  Carriers are the MODEL types (`G := MElems r`, `E := MElemF (MElems r)`, `S := Ctx`, `D := MKey`): every closed function
  translates its argument into the generated record (`cS`, `mel_cH`, `mei_cEl`), runs the generated function and decodes
  the generated result back (`mcl_dS`, `mcl_dH`, `mcl_dElS`, `mcl_dElR`).  No model operation (`SingleElems.*`,
  `HkeyElems.*`, `MElemF.*`, `MElems.ops`) occurs in any definition of this file.

  TRUSTED GLUE (not generated; each item is a Go function / accessor that is not a translated target, or a conversion):
   * storage, comparator, `Value.Storable`, `Storable.ByteSize / StoredValue`, digester (= the key with its digests),
     error constructors: as in the witnesses `msl_envSingle0`, `mei_env0`;
   * `newSingleElement` (map_element.go): by its model transcription `Atree.newSingleElement` (as in `msl_envSingle0`);
   * `newSingleElementsWithElement`, `newHkeyElementsWithElement`: the one-element group (`mcl_newS`, `mcl_newH`);
   * `elements.Element(i)` (`mcl_elemAtS`, `mcl_elemAtH`), `hkeyElements.Size / Count / firstKey` (field reads; at the
     last level the generated accessors `singleElements_Size / Count / firstKey` are used),
     `externalCollisionGroup.Count` (count of the group's slab);
   * `MapSlab.Get` on a data slab = `elements.Get` of its elements (method promotion), `MapSlab.Set` on a data slab = the
     GENERATED `MapDataSlab_Set`;
   * the slab of an external collision group is not part of the Go element `{slabID, size}`; the decoder of an
     `externalGroup` RESULT obtains it by running the GENERATED `MapDataSlab_Set / MapDataSlab_Remove` on the slab of the
     receiver (`.ext` receiver), resp. (export of an inline group by `Set`) from the receiver state the GENERATED
     `inlineCollisionGroup_Set` leaves, with the header `{id, prefix + Size(), firstKey()}` that
     `inlineCollisionGroup_Set_export_slab` proves is the one handed to `Store`;
   * a run-time panic (`none`) of a nested generated function is mapped to an arbitrary total value (env fields are
     total); the theorems show `some`, so the choice is never observed.
  Core Lean only.
-/
namespace Atree.TransEq
open Atree

abbrev mcl_EnvB (α X : Type) := Gen.TransElem.Env α SV SW X MKey Unit Ctx GE
abbrev mcl_EnvA (α : Type) := Gen.TransElems.Env (MElemF α) SV SW Ctx GE
abbrev mcl_Retr (α X : Type) := Ctx → SlabID → Gen.TransElem.MapSlab α X × Bool × Option GE × Ctx

/-- `singleElement` (record of `Gen/TransMapSlabs.lean`) back to the model; inverse of `cE` on sizes < 2^32 -/
def mcl_dE0 (s : Gen.TransMap.singleElement SV) : SElem :=
  match s.key, s.value with
  | some (.key k'), some (.val v') => { key := k', val := v', size := s.size.toNat }
  | _, _ => default

/-- `singleElement` (record of `Gen/TransMapElems.lean`) back to the model; inverse of `mel_cE` -/
def mcl_dEA (s : Gen.TransElems.singleElement SV) : SElem :=
  match s.key, s.value with
  | some (.key k'), some (.val v') => { key := k', val := v', size := s.size.toNat }
  | _, _ => default

/-- `singleElements` back to the model; inverse of `cS` -/
def mcl_dS (s : Gen.TransMap.singleElements SV) : SingleElems :=
  { elems := s.elems.map mcl_dE0, size := s.size.toNat, level := s.level.toNat }

/-- `hkeyElements` back to the model; inverse of `mel_cH` -/
def mcl_dH {α : Type} (h : Gen.TransElems.hkeyElements (MElemF α)) : HkeyElems α :=
  { hkeys := h.hkeys.map (·.toNat), elems := h.elems.filterMap id, size := h.size.toNat, level := h.level.toNat }

/-- `MapSlabHeader` back to the model; inverse of `mei_cHdr` -/
def mcl_dHdr (h : Gen.TransElem.MapSlabHeader) : MHdr :=
  { id := h.slabID, size := h.size.toNat, firstKey := h.firstKey.toNat }

/-- the data slab of an external collision group back to the model; inverse of `mei_cGroupSlab` -/
def mcl_dGroupSlab {α X : Type} (m : Gen.TransElem.MapDataSlab α X) : GroupSlab α :=
  { hdr := mcl_dHdr m.header, elems := m.elements }

/-- the closed `elements` methods of one level -/
structure mcl_GOps (α : Type) where
  get : α → Ctx → MKey → UInt64 → UInt64 → SW → Option SV × Option SV × Option GE × Ctx
  set : α → Ctx → Nat → Unit → MKey → UInt64 → UInt64 → SW → SW → Option SV × Option SV × Option GE × α × Ctx
  remove : α → Ctx → MKey → UInt64 → UInt64 → SW → Option SV × Option SV × Option GE × α × Ctx
  size : α → UInt32
  count : α → UInt32
  firstKey : α → UInt64
  elemAt : α → Int → Gen.TransElem.element α SV × Option GE
  newS : UInt64 → Gen.TransElem.singleElement SV → α
  newH : UInt64 → UInt64 → Gen.TransElem.element α SV → α

/-- unit-B environment over the closed `elements` methods `G` (without the `MapSlab.Set` dispatch) -/
def mcl_envB0 {α X : Type} (cfg : MCfg) (G : mcl_GOps α) (retr : mcl_Retr α X) : mcl_EnvB α X where
  DigesterBuilder_Digest := fun _ w => match w with | .key k' => (k', none) | .val _ => (default, some .goPanic)
  Digester_Digest := fun d l => (u64 (d.dig l.toNat), none)
  Digester_Levels := fun _ => u64 cfg.L
  MapSlab_Get := fun sl c d lvl hk w => match sl with
    | .dataSlab m => G.get m.elements c d lvl hk w
    | _ => (none, none, some .goPanic, c)
  MapSlab_Set := fun s c _ _ _ _ _ _ => (none, none, some .goPanic, s, c)
  MapSlab_getElementAndNextKey := fun _ c _ _ _ _ => (none, none, none, some .goPanic, c)
  NewHashLevelErrorf := some .hashLevel
  NewKeyNotFoundError := some .keyNotFound
  NewSlabDataErrorf := some .goPanic
  NewSlabNotFoundErrorf := some .slabNotFound
  SlabIDStorable_ByteSize := u32 slabIDStorableSize
  SlabStorage_GenerateSlabID := fun c a => ((c.alloc a).1, none, (c.alloc a).2)
  SlabStorage_Remove := fun c id => (none, c.emit (.remove id))
  SlabStorage_Retrieve := retr
  SlabStorage_Store := fun c id _ => (none, c.emit (.store id))
  Storable_ByteSize := fun s => match s with | .key k' => u32 k'.size | .val v' => u32 v'.size
  Storable_StoredValue := fun s c => match s with | .key k' => (.key k', none, c) | .val v' => (.val v', none, c)
  ValueComparator := fun c w s => match w, s with
    | .key a, some (.key b') => (b'.same a, none, c)
    | _, _ => (false, some .goPanic, c)
  Value_Storable := fun w c a lim => match w with
    | .val v' => (some (.val (toStorableLim lim.toNat a v' c).1), none, (toStorableLim lim.toNat a v' c).2)
    | .key _ => (none, some .goPanic, c)
  elements_Count := G.count
  elements_Element := G.elemAt
  elements_Get := G.get
  elements_Remove := G.remove
  elements_Set := G.set
  elements_Size := G.size
  elements_firstKey := G.firstKey
  elements_getElementAndNextKey := fun _ c _ _ _ _ => (none, none, none, some .goPanic, c)
  maxInlineMapElementSize := u32 (maxInlineMapElem cfg.T)
  maxInlineMapValueSize := fun n => u32 (maxInlineMapValue cfg.T n.toNat)
  newHkeyElementsWithElement := G.newH
  newSingleElementsWithElement := G.newS
  wrapErrorfAsExternalErrorIfNeeded := id

/-- the same with `MapSlab.Set` on a data slab dispatching to the GENERATED `MapDataSlab.Set` -/
def mcl_envBG {α X : Type} (cfg : MCfg) (G : mcl_GOps α) (retr : mcl_Retr α X) : mcl_EnvB α X :=
  { mcl_envB0 cfg G retr with
    MapSlab_Set := fun sl c b d lvl hk w w' => match sl with
      | .dataSlab m =>
        (match Gen.TransElem.MapDataSlab_Set (mcl_envB0 cfg G retr) m c b d lvl hk w w' with
         | some r => (r.1, r.2.1, r.2.2.1, .dataSlab r.2.2.2.1, r.2.2.2.2)
         | none => (none, none, none, .dataSlab m, c))
      | _ => (none, none, some .goPanic, sl, c) }

/-- the slab of an external collision group after `MapDataSlab.Remove` (GENERATED) on the receiver's slab -/
def mcl_slabAfterRemove {α X : Type} (envB : mcl_EnvB α X) (d : MKey) (s : GroupSlab α) (c : Ctx) (lvl : UInt64) (w : SW) :
    GroupSlab α :=
  match Gen.TransElem.MapDataSlab_Remove envB (mei_cGroupSlab s) c d (lvl + 1) (envB.Digester_Digest d (lvl + 1)).1 w with
  | some r => mcl_dGroupSlab r.2.2.2.1
  | none => s

/-- the slab of an external collision group after `MapDataSlab.Set` (GENERATED) on the receiver's slab -/
def mcl_slabAfterSet {α X : Type} (envB : mcl_EnvB α X) (d : MKey) (s : GroupSlab α) (c : Ctx) (lvl : UInt64) (w w' : SW) :
    GroupSlab α :=
  match Gen.TransElem.MapDataSlab_Set envB (mei_cGroupSlab s) c () d (lvl + 1) (envB.Digester_Digest d (lvl + 1)).1 w w' with
  | some r => mcl_dGroupSlab r.2.2.2.1
  | none => s

/-- the inline group `singleElement.Set` builds around the resident element on a collision (as in the generated
    `singleElement_Set`: last-level list iff `level + 1 == Levels`, else a digest table under the resident key's digest) -/
def mcl_freshGroup {α X : Type} (envB : mcl_EnvB α X) (d : MKey) (x : SElem) (lvl : UInt64) : α :=
  if lvl + 1 = envB.Digester_Levels d then envB.newSingleElementsWithElement (lvl + 1) (mei_cE x)
  else envB.newHkeyElementsWithElement (lvl + 1) (envB.Digester_Digest x.key (lvl + 1)).1 (.single (mei_cE x))

/-- the elements of an inline group after the GENERATED `inlineCollisionGroup_Set` (its receiver state) -/
def mcl_groupAfterSet {α X : Type} (envB : mcl_EnvB α X) (d : MKey) (g : α) (c : Ctx) (addr : Nat) (lvl hk : UInt64)
    (w w' : SW) : α :=
  match Gen.TransElem.inlineCollisionGroup_Set envB { elements := g } c addr () d lvl hk w w' with
  | some r => r.2.2.2.2.1.elements
  | none => g

/-- the slab an inline group is exported to (header as handed to `Store`, see `inlineCollisionGroup_Set_export_slab`) -/
def mcl_exportSlab {α X : Type} (envB : mcl_EnvB α X) (id : SlabID) (g' : α) : GroupSlab α :=
  { hdr := { id := id, size := (UInt32.ofNat Gen.mapDataSlabPrefixSize + envB.elements_Size g').toNat,
             firstKey := (envB.elements_firstKey g').toNat }, elems := g' }

/-- the element `element.Remove` hands back, as a model element (`nil` = gone) -/
def mcl_dElR {α X : Type} (envB : mcl_EnvB α X) (d : MKey) (el : MElemF α) (c : Ctx) (lvl : UInt64) (w : SW) :
    Gen.TransElem.element α SV → Option (MElemF α)
  | .nil => none
  | .single se => some (.single (mei_il_inv se))
  | .inlineGroup ig => some (.inl ig.elements)
  | .externalGroup eg =>
    match el with
    | .ext _ _ s => some (.ext eg.slabID eg.size.toNat (mcl_slabAfterRemove envB d s c lvl w))
    | _ => none

/-- the element `element.Set` hands back, as a model element -/
def mcl_dElS {α X : Type} (envB : mcl_EnvB α X) (d : MKey) (el : MElemF α) (c : Ctx) (addr : Nat) (lvl hk : UInt64)
    (w w' : SW) : Gen.TransElem.element α SV → Option (MElemF α)
  | .nil => none
  | .single se => some (.single (mei_il_inv se))
  | .inlineGroup ig => some (.inl ig.elements)
  | .externalGroup eg =>
    match el with
    | .ext _ _ s => some (.ext eg.slabID eg.size.toNat (mcl_slabAfterSet envB d s c lvl w w'))
    | .inl g => some (.ext eg.slabID eg.size.toNat
        (mcl_exportSlab envB eg.slabID (mcl_groupAfterSet envB d g c addr lvl hk w w')))
    | .single x => some (.ext eg.slabID eg.size.toNat
        (mcl_exportSlab envB eg.slabID (mcl_groupAfterSet envB d (mcl_freshGroup envB d x lvl) c addr lvl hk w w')))

/-- unit-A environment for the digester `d` over the unit-B environment `envB`: `element.Get / Set / Remove / Size` are the
    GENERATED dispatchers of unit B on the translated element -/
def mcl_envA {α X : Type} (cfg : MCfg) (envB : mcl_EnvB α X) (d : MKey) : mcl_EnvA α where
  Digester_Levels := envB.Digester_Levels d
  NewCollisionLimitError := some .collisionLimit
  NewHashLevelErrorf := some .hashLevel
  NewKeyNotFoundError := some .keyNotFound
  NewMapElementCountError := some .mapElementCount
  NewUnreachableError := some .goPanic
  element_Count := fun el c => match el with
    | .single x => ((Gen.TransElem.singleElement_Count envB (mei_cE x) c).1, (Gen.TransElem.singleElement_Count envB (mei_cE x) c).2, c)
    | .inl g => ((Gen.TransElem.inlineCollisionGroup_Count envB { elements := g } c).1,
                 (Gen.TransElem.inlineCollisionGroup_Count envB { elements := g } c).2, c)
    | .ext _ _ s => (envB.elements_Count s.elems, none, c)
  element_Get := fun el c lvl hk w =>
    match Gen.TransElem.element_Get envB (mei_cEl el) c d lvl hk w with
    | some r => r
    | none => (none, none, some .goPanic, c)
  element_Remove := fun el c lvl hk w =>
    match Gen.TransElem.element_Remove envB (mei_cEl el) c d lvl hk w with
    | some r => (r.1, r.2.1, mcl_dElR envB d el c lvl w r.2.2.1, r.2.2.2.1, r.2.2.2.2.2)
    | none => (none, none, none, some .goPanic, c)
  element_Set := fun el c addr lvl hk w w' =>
    match Gen.TransElem.element_Set envB (mei_cEl el) c addr () d lvl hk w w' with
    | some r => (mcl_dElS envB d el c addr lvl hk w w' r.1, r.2.1, r.2.2.1, r.2.2.2.1, r.2.2.2.2.2)
    | none => (none, none, none, some .goPanic, c)
  element_Size := fun el => (Gen.TransElem.element_Size envB (mei_cEl el)).getD 0
  element_getElementAndNextKey := fun el c lvl hk w =>
    match Gen.TransElem.element_getElementAndNextKey envB (mei_cEl el) c d lvl hk w with
    | some r => r
    | none => (none, none, none, some .goPanic, c)
  element_ofSingleElement := fun s => .single (mcl_dEA s)
  errors_As_KeyNotFoundError := fun err => decide (err = .keyNotFound)
  firstKeyInElement := fun c _ => (none, some .goPanic, c)
  maxCollisionLimitPerDigest := u32 cfg.climit
  newSingleElement := fun c addr kw vw => match kw, vw with
    | .key k, .val v => (mel_cE (newSingleElement cfg.T addr k v c).1, none, (newSingleElement cfg.T addr k v c).2)
    | _, _ => ({}, some .goPanic, c)

/-- `elements.Element(i)` of a digest table whose elements hold groups of type `α`: only used (by the generated code) to
    tell a single element from a group and to hand the single element back -/
def mcl_elemAtH {α : Type} (g : HkeyElems α) (i : Int) : Gen.TransElem.element (HkeyElems α) SV × Option GE :=
  match g.elems[i.toNat]? with
  | some (.single x) => (.single (mei_cE x), none)
  | some (.inl _) => (.inlineGroup { elements := g }, none)
  | some (.ext id sz _) => (.externalGroup { slabID := id, size := u32 sz }, none)
  | none => (.nil, some .goPanic)

/-- `newHkeyElementsWithElement(level, hkey, elem)` (map_elements_hashkey.go) for a single element -/
def mcl_newH {α : Type} (lvl hk : UInt64) (el : Gen.TransElem.element (HkeyElems α) SV) : HkeyElems α :=
  match el with
  | .single s => { level := lvl.toNat, hkeys := [hk.toNat], elems := [.single (mei_il_inv s)],
                   size := (UInt32.ofNat Gen.hkeyElementsPrefixSize + UInt32.ofNat Gen.digestSize + s.size).toNat }
  | _ => { level := lvl.toNat, hkeys := [], elems := [], size := Gen.hkeyElementsPrefixSize }

/-- the closed `elements` methods of a digest table over the unit-A environments `envA d` -/
def mcl_gopsH {α : Type} (envA : MKey → mcl_EnvA α) : mcl_GOps (HkeyElems α) where
  get := fun g c d lvl hk w =>
    match Gen.TransElems.hkeyElements_Get (envA d) (mel_cH g) c lvl hk w with
    | some r => r
    | none => (none, none, some .goPanic, c)
  set := fun g c addr _ d lvl hk w w' =>
    match Gen.TransElems.hkeyElements_Set (envA d) (mel_cH g) c addr lvl hk w w' with
    | some r => (r.1, r.2.1, r.2.2.1, mcl_dH r.2.2.2.1, r.2.2.2.2)
    | none => (none, none, some .goPanic, g, c)
  remove := fun g c d lvl hk w =>
    match Gen.TransElems.hkeyElements_Remove (envA d) (mel_cH g) c lvl hk w with
    | some r => (r.1, r.2.1, r.2.2.1, mcl_dH r.2.2.2.1, r.2.2.2.2)
    | none => (none, none, some .goPanic, g, c)
  size := fun g => (mel_cH g).size
  count := fun g => UInt32.ofInt (Int.ofNat (mel_cH g).elems.length)
  firstKey := fun g => (mel_cH g).hkeys.headD 0
  elemAt := mcl_elemAtH
  newS := fun lvl _ => { level := lvl.toNat, hkeys := [], elems := [], size := Gen.hkeyElementsPrefixSize }
  newH := mcl_newH

def mcl_elemAtS (g : SingleElems) (i : Int) : Gen.TransElem.element SingleElems SV × Option GE :=
  match g.elems[i.toNat]? with
  | some x => (.single (mei_cE x), none)
  | none => (.nil, some .goPanic)

/-- `newSingleElementsWithElement(level, elem)` (map_elements_nokey.go) -/
def mcl_newS (lvl : UInt64) (e : Gen.TransElem.singleElement SV) : SingleElems :=
  { level := lvl.toNat, size := (UInt32.ofNat Gen.singleElementsPrefixSize + e.size).toNat, elems := [mei_il_inv e] }

def mcl_gopsS (cfg : MCfg) : mcl_GOps SingleElems where
  get := fun g c _ lvl hk w => Gen.TransMap.singleElements_Get (msl_envSingle0 cfg) (cS g) c lvl hk w
  set := fun g c addr _ _ lvl hk w w' =>
    match Gen.TransMap.singleElements_Set (msl_envSingle0 cfg) (cS g) c addr lvl hk w w' with
    | some r => (r.1, r.2.1, r.2.2.1, mcl_dS r.2.2.2.1, r.2.2.2.2)
    | none => (none, none, some .goPanic, g, c)
  remove := fun g c _ lvl hk w =>
    match Gen.TransMap.singleElements_Remove (msl_envSingle0 cfg) (cS g) c lvl hk w with
    | some r => (r.1, r.2.1, r.2.2.1, mcl_dS r.2.2.2.1, r.2.2.2.2)
    | none => (none, none, some .goPanic, g, c)
  size := fun g => Gen.TransMap.singleElements_Size (msl_envSingle0 cfg) (cS g)
  count := fun g => Gen.TransMap.singleElements_Count (msl_envSingle0 cfg) (cS g)
  firstKey := fun g => Gen.TransMap.singleElements_firstKey (msl_envSingle0 cfg) (cS g)
  elemAt := mcl_elemAtS
  newS := mcl_newS
  newH := fun lvl _ _ => { level := lvl.toNat, size := Gen.singleElementsPrefixSize, elems := [] }

/-- the retrieval functions of all levels (external collision groups exist at the first level only: the nested levels
    never retrieve anything) -/
abbrev mcl_Retrs (X : Type) := (r : Nat) → mcl_Retr (MElems r) X

/-- the closed `elements` methods of level `r` -/
def mcl_gops {X : Type} (cfg : MCfg) (retr : mcl_Retrs X) : (r : Nat) → mcl_GOps (MElems r)
  | 0 => mcl_gopsS cfg
  | r + 1 => mcl_gopsH (mcl_envA cfg (mcl_envBG cfg (mcl_gops cfg retr r) (retr r)))

/-- the closed unit-B environment of level `r` (nested `elements` = `MElems r`) -/
def clEnvB {X : Type} (cfg : MCfg) (retr : mcl_Retrs X) (r : Nat) : mcl_EnvB (MElems r) X :=
  mcl_envBG cfg (mcl_gops cfg retr r) (retr r)

/-- the closed unit-A environment of level `r` (elements hold `MElems r`) for the digester `d` -/
def clEnvA {X : Type} (cfg : MCfg) (retr : mcl_Retrs X) (r : Nat) (d : MKey) : mcl_EnvA (MElems r) :=
  mcl_envA cfg (clEnvB cfg retr r) d

/-- the CLOSED generated `elements.Get` at level `r`: built from the generated functions and conversion glue only -/
def clElements_Get {X : Type} (cfg : MCfg) (retr : mcl_Retrs X) (r : Nat) :=
  (mcl_gops cfg retr r).get

/-- the CLOSED generated `elements.Set` at level `r` -/
def clElements_Set {X : Type} (cfg : MCfg) (retr : mcl_Retrs X) (r : Nat) :=
  (mcl_gops cfg retr r).set

/-- the CLOSED generated `elements.Remove` at level `r` -/
def clElements_Remove {X : Type} (cfg : MCfg) (retr : mcl_Retrs X) (r : Nat) :=
  (mcl_gops cfg retr r).remove

end Atree.TransEq

import AtreeModel.Gen.TransMapDescent
import AtreeProofs.Trans.MapElem
import AtreeProofs.Trans.GoPrims
import AtreeProofs.Map.Search
/-
  Set-up for `Props/TransMapDescent*.lean`: the DESCENT of the generated map code - `MapMetaDataSlab.Get / Set /
  Remove / PopIterate / getChildSlabByDigest` and `OrderedMap.get / Get / Has / set / remove / Count / PopIterate` of
  `Gen/TransMapDescent.lean` (namespace `Atree.Gen.TransMapD`) - runs over a HEAP of slabs: an index slab does not embed
  its children, it reads them from the storage (`getMapSlab`) and writes them back (`storeSlab`).  The model works on
  EMBEDDED trees (`MTree r d`, `OMap r`).  This file instantiates the parameters of the generated functions with a storage
  that IS a heap and defines what it means for a heap to hold a model tree (as Trans/Descent.lean does for arrays).

  * carriers: `G := HkeyElems (MElems r)` (the elements of a data slab of the tree are the MODEL's, as in the element
    layer; the slab of an external collision group is embedded in its element, as in the model),
    `V := SV`, `W := SW`, `X := DX` (type, count as `uint64`, seed), `D := MKey` (a key with its digests), `B := Unit`,
    `S := MHSt r`, `ε := GE`.
  * `MHSt r`: the stored map slabs BY VALUE under their identifier + the model's `Ctx` + what the pop callback received
    (`popped`: the callback of `PopIterate` is a parameter of the generated code; all the proofs need of it is the list of
    entries it was handed, which `envD.elements_PopIterate` appends here; every other operation leaves it alone).
  * `envD`: the parameters over a heap.  The `elements` methods come from an environment `eb` of the element layer
    (`Gen.TransElem.Env`; closed by Props/TransElemClosed*.lean) run on the `Ctx` component; the restructuring calls
    (`SplitChildSlab`, `MergeOrRebalanceChildSlab`, `splitRoot`, `promoteChildAsNewRoot`: translated in
    `Gen/TransMapSlabs.lean`) come from a record `rs`; the nesting machinery is the identity (a stand-alone map).
  * `md_heapOf d t x`: the heap a model tree occupies; `MHolds`, `MHeapPost` as for arrays.
  * one level of a descent over the heap: `MHolds.child` on the way down (the child on the path is held, its identifiers
    are distinct), `MHolds.after_child` / `MHolds.store_root` on the way back (the child that came back written into its
    parent, the parent stored).
-/
namespace Atree.TransEq
open Atree Atree.Gen.TransMapD

/-- `MapExtraData` (TypeInfo as a number, `Count uint64`, `Seed`) -/
abbrev DX := Nat × UInt64 × Nat

abbrev DG (r : Nat) := HkeyElems (MElems r)
abbrev DSlab (r : Nat) := MapSlab (DG r) DX

/-- the storage of the heap-based translation of the maps -/
structure MHSt (r : Nat) where
  heap : SlabID → Option (DSlab r)
  ctx : Ctx
  popped : List (MKey × Elem) := []

namespace MHSt
variable {r : Nat}
/-- `Store(id, slab)` -/
def store (s : MHSt r) (id : SlabID) (v : DSlab r) : MHSt r :=
  { s with heap := fun i => if i = id then some v else s.heap i, ctx := s.ctx.emit (.store id) }
/-- `Remove(id)` -/
def remove (s : MHSt r) (id : SlabID) : MHSt r :=
  { s with heap := fun i => if i = id then none else s.heap i, ctx := s.ctx.emit (.remove id) }
/-- the same heap with another `Ctx` -/
def withCtx (s : MHSt r) (c : Ctx) : MHSt r := { s with ctx := c }

-- the simp set of `MHSt`: each component (`heap`, `ctx`, `popped`) after `store` / `remove` / `withCtx`
@[simp] theorem store_heap (s : MHSt r) (id : SlabID) (v : DSlab r) (i : SlabID) :
    (s.store id v).heap i = if i = id then some v else s.heap i := rfl
@[simp] theorem store_ctx (s : MHSt r) (id : SlabID) (v : DSlab r) : (s.store id v).ctx = s.ctx.emit (.store id) := rfl
@[simp] theorem store_popped (s : MHSt r) (id : SlabID) (v : DSlab r) : (s.store id v).popped = s.popped := rfl
@[simp] theorem remove_heap (s : MHSt r) (id : SlabID) (i : SlabID) :
    (s.remove id).heap i = if i = id then none else s.heap i := rfl
@[simp] theorem remove_ctx (s : MHSt r) (id : SlabID) : (s.remove id).ctx = s.ctx.emit (.remove id) := rfl
@[simp] theorem remove_popped (s : MHSt r) (id : SlabID) : (s.remove id).popped = s.popped := rfl
@[simp] theorem withCtx_heap (s : MHSt r) (c : Ctx) : (s.withCtx c).heap = s.heap := rfl
@[simp] theorem withCtx_ctx (s : MHSt r) (c : Ctx) : (s.withCtx c).ctx = c := rfl
@[simp] theorem withCtx_popped (s : MHSt r) (c : Ctx) : (s.withCtx c).popped = s.popped := rfl
@[simp] theorem withCtx_self (s : MHSt r) : s.withCtx s.ctx = s := rfl
@[simp] theorem withCtx_withCtx (s : MHSt r) (a b : Ctx) : (s.withCtx a).withCtx b = s.withCtx b := rfl
end MHSt

abbrev DEnv (r : Nat) := Env (DG r) SV SW DX MKey Unit (MHSt r) GE
abbrev DMap (r : Nat) := OrderedMap (DG r) DX Unit (MHSt r)
/-- the environment of the element layer whose `elements` are the elements of a data slab of the tree -/
abbrev DEnvB (r : Nat) := Gen.TransElem.Env (DG r) SV SW DX MKey Unit Ctx GE

/-- the restructuring calls of the descent (translated by the unit of `Gen/TransMapSlabs.lean`), over a heap -/
structure DRestruct (r : Nat) where
  splitChild : MapMetaDataSlab DX → MHSt r → DSlab r → Int → (Option GE × MapMetaDataSlab DX × MHSt r × DSlab r)
  mergeOrRebalance : MapMetaDataSlab DX → MHSt r → DSlab r → Int → UInt32 →
    (Option GE × MapMetaDataSlab DX × MHSt r × DSlab r)
  splitRoot : DMap r → (Option GE × DMap r)
  promote : DMap r → SlabID → (Option GE × DMap r)

/-- `MapSlabHeader` -/
def md_hdr (h : MHdr) : MapSlabHeader := { slabID := h.id, size := u32 h.size, firstKey := u64 h.firstKey }

/-- a data slab of the tree (`x` = its `extraData` pointer: present iff root) -/
def md_data {r : Nat} (s : MDataSlab r) (x : Option DX) : MapDataSlab (DG r) DX :=
  { next := s.next, header := md_hdr s.hdr, elements := s.elems, extraData := x,
    anySize := false, collisionGroup := false, inlined := s.inlined }

/-- an index slab: the generated record has no children (they live in the storage) -/
def md_meta {α : Type} (m : MMetaSlab α) (x : Option DX) : MapMetaDataSlab DX :=
  { header := md_hdr m.hdr, childrenHeaders := m.childHdrs.map md_hdr, extraData := x }

/-- a subtree root as the generated `MapSlab` value -/
def md_tree {r : Nat} : (d : Nat) → MTree r d → Option DX → DSlab r
  | 0, (s : MDataSlab r), x => .dataSlab (md_data s x)
  | _ + 1, (m : MMetaSlab _), x => .metaSlab (md_meta m x)

theorem md_tree_isNil {r : Nat} (d : Nat) (t : MTree r d) (x : Option DX) : (md_tree d t x).isNil = false := by
  cases d <;> rfl

/-- `getPrefixSize` on a data slab of the tree, whatever elements and header the record carries by then: the generated
    code tests `extraData != nil` where the model reads the flag `root`, hence `hx` -/
theorem md_getPrefixSize {r : Nat} (env : DEnv r) (sl : MDataSlab r) (x : Option DX) (hx : x.isSome = sl.root)
    (g : DG r) (h : MapSlabHeader) :
    MapDataSlab_getPrefixSize env ({ md_data sl x with elements := g, header := h }) = u32 sl.prefixSize := by
  obtain ⟨hdr, nx, el, rt, inl⟩ := sl
  simp only at hx
  subst hx
  unfold MapDataSlab_getPrefixSize MDataSlab.prefixSize
  cases inl <;> cases x <;> rfl

/-- the extra data of a map handle -/
def md_extra {r : Nat} (m : OMap r) : DX := (m.ty, u64 m.count, m.seed)

/-- a model map handle over a heap storage as the generated `OrderedMap` record -/
def md_map {r : Nat} (m : OMap r) (s : MHSt r) : DMap r :=
  { Storage := s, root := md_tree m.d m.root (some (md_extra m)), digesterBuilder := () }

/-! ### the binary search over the child headers

`MapMetaDataSlab.getChildSlabByDigest`, `Set` and `Remove` run the same loop (`for i < j { h := int(uint(i+j) >> 1);
if headers[h].firstKey > hkey { j = h } else { ans = h; i = h + 1 } }`); their generated `loop1`s differ in the result
type only.  `md_bsearch` is that loop once (`none` = out of fuel or out of range); the three `loop1`s are three generated
constants, so the induction that identifies each with `md_bsearch` is written three times. -/

def md_bsearch (hdrs : List MapSlabHeader) (hkey : UInt64) : Nat → Int → Int → Int → Option (Int × Int × Int)
  | 0, _, _, _ => none
  | n + 1, ans, i, j =>
    if decide (i < j) then
      match goIdx hdrs (Int.ofNat ((UInt64.ofInt (i + j)) >>> 1).toNat) with
      | none => none
      | some t =>
        if decide (t.firstKey > hkey) then md_bsearch hdrs hkey n ans i (Int.ofNat ((UInt64.ofInt (i + j)) >>> 1).toNat)
        else md_bsearch hdrs hkey n (Int.ofNat ((UInt64.ofInt (i + j)) >>> 1).toNat)
          (Int.ofNat ((UInt64.ofInt (i + j)) >>> 1).toNat + 1) j
    else some (ans, i, j)

/-- the result of `md_bsearch` as the result of a generated loop -/
def md_loopOf {ρ : Type} : Option (Int × Int × Int) → Loop (Option ρ) (Int × Int × Int)
  | none => .ret none
  | some p => .done p

theorem md_getChild_loop1_eq {G V W X D B S ε : Type} (env : Env G V W X D B S ε) (m : MapMetaDataSlab X)
    (hkey : UInt64) : ∀ (n : Nat) (ans i j : Int),
      MapMetaDataSlab_getChildSlabByDigest.loop1 env m hkey n ans i j = md_loopOf (md_bsearch m.childrenHeaders hkey n ans i j)
  | 0, _, _, _ => rfl
  | n + 1, ans, i, j => by
    simp only [MapMetaDataSlab_getChildSlabByDigest.loop1, md_bsearch]
    split
    · cases goIdx m.childrenHeaders (Int.ofNat ((UInt64.ofInt (i + j)) >>> 1).toNat) with
      | none => rfl
      | some t => dsimp only; split <;> exact md_getChild_loop1_eq env m hkey n _ _ _
    · rfl

theorem md_Set_loop1_eq {G V W X D B S ε : Type} (env : Env G V W X D B S ε) (m : MapMetaDataSlab X)
    (hkey : UInt64) : ∀ (n : Nat) (ans i j : Int),
      MapMetaDataSlab_Set.loop1 env m hkey n ans i j = md_loopOf (md_bsearch m.childrenHeaders hkey n ans i j)
  | 0, _, _, _ => rfl
  | n + 1, ans, i, j => by
    simp only [MapMetaDataSlab_Set.loop1, md_bsearch]
    split
    · cases goIdx m.childrenHeaders (Int.ofNat ((UInt64.ofInt (i + j)) >>> 1).toNat) with
      | none => rfl
      | some t => dsimp only; split <;> exact md_Set_loop1_eq env m hkey n _ _ _
    · rfl

theorem md_Remove_loop1_eq {G V W X D B S ε : Type} (env : Env G V W X D B S ε) (m : MapMetaDataSlab X)
    (hkey : UInt64) : ∀ (n : Nat) (ans i j : Int),
      MapMetaDataSlab_Remove.loop1 env m hkey n ans i j = md_loopOf (md_bsearch m.childrenHeaders hkey n ans i j)
  | 0, _, _, _ => rfl
  | n + 1, ans, i, j => by
    simp only [MapMetaDataSlab_Remove.loop1, md_bsearch]
    split
    · cases goIdx m.childrenHeaders (Int.ofNat ((UInt64.ofInt (i + j)) >>> 1).toNat) with
      | none => rfl
      | some t => dsimp only; split <;> exact md_Remove_loop1_eq env m hkey n _ _ _
    · rfl

theorem md_goIdx_hdrs (hdrs : List MHdr) (n : Nat) (h : n < hdrs.length) :
    goIdx (hdrs.map md_hdr) (Int.ofNat n) = some (md_hdr (hdrs.getD n default)) := by
  rw [goIdx_eq, sliceIdx_map, List.getD_eq_getElem?_getD, List.getElem?_eq_getElem h]
  rfl

/-- With enough fuel the binary search does not run out of fuel and computes the model's `MMetaSlab.findChild`.
    `enc` is how the caller encodes Go's `ans` (`-1` or `0` for "none yet"). -/
theorem md_bsearch_findChild (hdrs : List MHdr) (hk : Nat) (hhk : hk < 2^64) (hfk : ∀ h ∈ hdrs, h.firstKey < 2^64)
    (hlen : hdrs.length < 2^62) (enc : Option Nat → Int) (henc : ∀ n, enc (some n) = Int.ofNat n) :
    ∀ (fuel i j : Nat) (a : Option Nat), i ≤ j → j ≤ hdrs.length → j - i < fuel →
      ∃ i' j' : Int, md_bsearch (hdrs.map md_hdr) (u64 hk) fuel (enc a) (Int.ofNat i) (Int.ofNat j) =
        some (enc (MMetaSlab.findChild hdrs hk i j a fuel), i', j') := by
  intro fuel
  induction fuel with
  | zero => intro i j a _ _ h; omega
  | succ fuel ih =>
    intro i j a hij hj hf
    simp only [md_bsearch, MMetaSlab.findChild, int_dlt]
    by_cases c : i < j
    · simp only [c, decide_true, if_true]
      rw [mid_eq i j (by omega)]
      have hlt : (i + j) / 2 < hdrs.length := by omega
      have hm : (hdrs.getD ((i + j) / 2) default).firstKey < 2^64 := by
        rw [List.getD_eq_getElem?_getD, List.getElem?_eq_getElem hlt]
        exact hfk _ (List.getElem_mem hlt)
      simp only [md_goIdx_hdrs hdrs _ hlt]
      generalize hdrs.getD ((i + j) / 2) default = mv at *
      have hdec : decide ((md_hdr mv).firstKey > u64 hk) = decide (mv.firstKey > hk) := u64_dgt hm hhk
      by_cases c1 : mv.firstKey > hk
      · simp only [hdec, c1, decide_true, if_true]
        exact ih i ((i + j) / 2) a (by omega) (by omega) (by omega)
      · simp only [hdec, c1, decide_false, if_false, Bool.false_eq_true]
        have e1 : Int.ofNat ((i + j) / 2) + 1 = Int.ofNat ((i + j) / 2 + 1) := rfl
        rw [e1, ← henc]
        exact ih ((i + j) / 2 + 1) j (some ((i + j) / 2)) (by omega) hj (by omega)
    · simp only [c, decide_false, if_false, Bool.false_eq_true]
      exact ⟨_, _, rfl⟩

/-- the parameters over a heap: `getMapSlab` (through `Retrieve`) reads what `Store` wrote -/
def envD {r : Nat} (T : Nat) (eb : DEnvB r) (rs : DRestruct r) : DEnv r where
  DigesterBuilder_Digest := fun _ w => match w with | .key k => (k, none) | .val _ => (default, none)
  Digester_Digest := fun d l => (u64 (d.dig l.toNat), none)
  MapExtraData_Count := fun x => x.2.1
  MapExtraData_decrementCount := fun x => (x.1, x.2.1 - 1, x.2.2)
  MapExtraData_incrementCount := fun x => (x.1, x.2.1 + 1, x.2.2)
  MapExtraData_set_Count := fun x n => (x.1, n, x.2.2)
  MapMetaDataSlab_MergeOrRebalanceChildSlab := rs.mergeOrRebalance
  MapMetaDataSlab_SplitChildSlab := rs.splitChild
  NewKeyNotFoundError := some .keyNotFound
  NewSlabDataErrorf := some .goPanic
  NewSlabNotFoundErrorf := some .slabNotFound
  NewUnreachableError := some .goPanic
  OrderedMap_notifyParentIfNeeded := fun m => (none, m)
  OrderedMap_promoteChildAsNewRoot := rs.promote
  OrderedMap_setCallbackWithChild := fun m _ _ _ => m
  OrderedMap_splitRoot := rs.splitRoot
  SlabStorage_Remove := fun s id => (none, s.remove id)
  SlabStorage_Retrieve := fun s id => match s.heap id with
    | some v => (v, true, none, s)
    | none => (.nil, false, none, s)
  SlabStorage_Store := fun s id v => (none, s.store id v)
  Storable_ByteSize := fun x => match x with | .key k => u32 k.size | .val v => u32 v.size
  Storable_StoredValue := fun x s => match x with | .key k => (.key k, none, s) | .val v => (.val v, none, s)
  Value_nil := .val default
  elements_Get := fun g s d lvl hk w =>
    let q := eb.elements_Get g s.ctx d lvl hk w
    (q.1, q.2.1, q.2.2.1, s.withCtx q.2.2.2)
  elements_PopIterate := fun g s =>
    -- `elements.PopIterate` is not a translated target: the parameter is the MODEL's (elements last to first, the
    -- slabs of external groups removed); the callback's effect is the list of popped entries
    -- (`hkeyElements.PopIterate` leaves its receiver EMPTY: `hkeys = nil`, `elems = nil`, `size = hkeyElementsPrefixSize`)
    let q := HkeyElems.popIter (MElems.ops r) g s.ctx
    (none, { g with hkeys := [], elems := [], size := Gen.hkeyElementsPrefixSize },
     { s with ctx := q.2, popped := s.popped ++ q.1 })
  elements_Remove := fun g s d lvl hk w =>
    let q := eb.elements_Remove g s.ctx d lvl hk w
    (q.1, q.2.1, q.2.2.1, q.2.2.2.1, s.withCtx q.2.2.2.2)
  elements_Set := fun g s a b d lvl hk w w' =>
    let q := eb.elements_Set g s.ctx a b d lvl hk w w'
    (q.1, q.2.1, q.2.2.1, q.2.2.2.1, s.withCtx q.2.2.2.2)
  elements_Size := eb.elements_Size
  elements_firstKey := eb.elements_firstKey
  elements_getElementAndNextKey := fun g s d lvl hk w =>
    let q := eb.elements_getElementAndNextKey g s.ctx d lvl hk w
    (q.1, q.2.1, q.2.2.1, q.2.2.2.1, s.withCtx q.2.2.2.2)
  errors_As_KeyNotFoundError := fun e => decide (e = .keyNotFound)
  firstKeyInMapSlab := fun s _ => (none, some .goPanic, s)
  maxInlineMapValueSize := fun n => u32 (maxInlineMapValue T n.toNat)
  maxThreshold := u32 (maxThr T)
  minThreshold := u32 (minThr T)
  newHkeyElements := fun lvl => { hkeys := [], elems := [], size := Gen.hkeyElementsPrefixSize, level := lvl.toNat }
  uninlineStorableIfNeeded := fun s x => (x, 0, false, none, s)
  wrapErrorfAsExternalErrorIfNeeded := id

/-- What the descent theorems assume of the element layer `eb` for ONE map operation (key `k`, value `v`): on the
    elements of a data slab that satisfy `P` its `elements` methods are the model's `HkeyElems.get / set / remove` at
    level 0.  (`EnvB (HkeyElems.ops (MElems.ops r)) cfg k v eb` gives it with `P := fun _ => True`:
    `ElemsSpec.of_EnvB`; the closed element layer gives it under the element invariant.) -/
structure ElemsSpec {r : Nat} (cfg : MCfg) (k : MKey) (v : Elem) (P : DG r → Prop) (eb : DEnvB r) : Prop where
  size : ∀ g, eb.elements_Size g = u32 g.size
  first : ∀ g, eb.elements_firstKey g = u64 (HkeyElems.firstKey g)
  get : ∀ g c, P g → eb.elements_Get g c k (u64 0) (u64 (k.dig 0)) (.key k) =
    mei_rGet c (HkeyElems.get (MElems.ops r) cfg g 0 k)
  set : ∀ g c, P g → eb.elements_Set g c cfg.addr () k (u64 0) (u64 (k.dig 0)) (.key k) (.val v) =
    mei_rGSet g c (HkeyElems.set (MElems.ops r) cfg g 0 k v c)
  remove : ∀ g c, P g → eb.elements_Remove g c k (u64 0) (u64 (k.dig 0)) (.key k) =
    mei_rGRemove g c (HkeyElems.remove (MElems.ops r) cfg g 0 k c)

theorem ElemsSpec.of_EnvB {r : Nat} {cfg : MCfg} {k : MKey} {v : Elem} {eb : DEnvB r}
    (hE : EnvB (HkeyElems.ops (MElems.ops r)) cfg k v eb) : ElemsSpec cfg k v (fun _ => True) eb where
  size := fun g => hE.gSize g
  first := fun g => hE.gFirst g
  get := fun g c _ => hE.gGet g c 0 (by decide)
  set := fun g c _ => hE.gSet g c 0 () (by decide)
  remove := fun g c _ => hE.gRemove g c 0 (by decide)

/-- the heap a model tree occupies: every data / index slab of the tree under its identifier (the root with the extra
    data `x`), nothing else.  (The slab of an external collision group is embedded in its element here, as in the
    model; `MTree.slabs` of MapHeapSpec.lean lists it separately.)  It holds the tree when the identifiers are distinct:
    `MHolds_md_heapOf`, Props/TransMapDescentHeapOf.lean. -/
def md_heapOf {r : Nat} : (d : Nat) → MTree r d → Option DX → SlabID → Option (DSlab r)
  | 0, (s : MDataSlab r), x, id => if id = s.hdr.id then some (.dataSlab (md_data s x)) else none
  | d + 1, (m : MMetaSlab (MTree r d)), x, id =>
    if id = m.hdr.id then some (.metaSlab (md_meta m x)) else m.children.findSome? (fun c => md_heapOf d c none id)

/-- the heap `h` holds the tree `t` (root with extra data `x`): every slab of `t` is stored under its identifier as
    the generated record of that slab -/
def MHolds {r : Nat} (h : SlabID → Option (DSlab r)) : (d : Nat) → MTree r d → Option DX → Prop
  | 0, (s : MDataSlab r), x => h s.hdr.id = some (.dataSlab (md_data s x))
  | d + 1, (m : MMetaSlab (MTree r d)), x =>
    h m.hdr.id = some (.metaSlab (md_meta m x)) ∧ ∀ c ∈ m.children, MHolds h d c none

/-- the children of an index slab are held (the receiver itself is passed by value) -/
def MHoldsChildren {r d : Nat} (h : SlabID → Option (DSlab r)) (m : MMetaSlab (MTree r d)) : Prop :=
  ∀ c ∈ m.children, MHolds h d c none

/-- the identifiers of the data / index slabs of a tree -/
def md_ids {r : Nat} : (d : Nat) → MTree r d → List SlabID
  | 0, (s : MDataSlab r) => [s.hdr.id]
  | d + 1, (m : MMetaSlab (MTree r d)) => m.hdr.id :: m.children.flatMap (md_ids d)

theorem md_hdr_id_mem {r : Nat} (d : Nat) (t : MTree r d) : (MTree.hdr d t).id ∈ md_ids d t := by
  cases d <;> exact List.mem_cons_self

theorem MHolds.root {r : Nat} {h : SlabID → Option (DSlab r)} {d : Nat} {t : MTree r d} {x : Option DX}
    (hh : MHolds h d t x) : h (MTree.hdr d t).id = some (md_tree d t x) := by
  cases d with
  | zero => exact hh
  | succ d => exact hh.1

/-- `MHolds` only looks at the identifiers of the tree -/
theorem MHolds.congr {r : Nat} {h h' : SlabID → Option (DSlab r)} :
    ∀ {d : Nat} {t : MTree r d} {x : Option DX}, MHolds h d t x → (∀ id ∈ md_ids d t, h' id = h id) → MHolds h' d t x
  | 0, (s : MDataSlab r), x, hh, heq => by
    have : h' s.hdr.id = h s.hdr.id := heq _ (List.mem_singleton.2 rfl)
    exact this.trans hh
  | d + 1, (m : MMetaSlab (MTree r d)), x, hh, heq => by
    obtain ⟨h1, h2⟩ := hh
    have hroot : m.hdr.id ∈ md_ids (d + 1) (m : MTree r (d + 1)) := List.mem_cons_self
    refine ⟨(heq _ hroot).trans h1, fun c hc => MHolds.congr (h2 c hc) (fun id hid => heq id ?_)⟩
    exact List.mem_cons_of_mem _ (List.mem_flatMap.2 ⟨c, hc, hid⟩)

/-- a held tree's identifiers are in the heap -/
theorem MHolds.ids_some {r : Nat} : ∀ (d : Nat) (t : MTree r d) (x : Option DX) (h : SlabID → Option (DSlab r)),
    MHolds h d t x → ∀ id ∈ md_ids d t, (h id).isSome = true
  | 0, t, x, h, hh, id, hid => by
    have e : id = (MTree.hdr 0 t).id := List.mem_singleton.mp hid
    have hh' : h (MTree.hdr 0 t).id = some _ := hh
    rw [e, hh']; rfl
  | d + 1, t, x, h, hh, id, hid => by
    rcases List.mem_cons.mp hid with e | hm
    · have hh' : h (MTree.hdr (d + 1) t).id = some _ := hh.1
      have e' : id = (MTree.hdr (d + 1) t).id := e
      rw [e', hh']; rfl
    · obtain ⟨c, hc, hic⟩ := List.mem_flatMap.mp hm
      exact MHolds.ids_some d c none h (hh.2 c hc) id hic

theorem mdr_split_at {α : Type} (l : List α) (i : Nat) (a : α) (h : l[i]? = some a) :
    ∃ A B, l = A ++ a :: B ∧ A.length = i ∧ ∀ a', l.set i a' = A ++ a' :: B := by
  obtain ⟨A, B, rfl, rfl⟩ := split_at h
  exact ⟨A, B, rfl, rfl, fun a' => set_at rfl a'⟩

/-- the identifiers of an index slab around one of its children -/
theorem md_ids_at {r d : Nat} {m : MMetaSlab (MTree r d)} {A B : List (MTree r d)} {c : MTree r d}
    (h : m.children = A ++ c :: B) :
    md_ids (d + 1) (m : MMetaSlab (MTree r d)) =
      m.hdr.id :: (A.flatMap (md_ids d) ++ (md_ids d c ++ B.flatMap (md_ids d))) := by
  simp only [md_ids, h, List.flatMap_append, List.flatMap_cons]

/-- what the identifiers being distinct gives for the child on the path and its siblings -/
theorem mdr_nodup_facts {r d : Nat} (m : MMetaSlab (MTree r d)) (A B : List (MTree r d)) (child : MTree r d)
    (hAB : m.children = A ++ child :: B) (hnd : (md_ids (d + 1) (m : MMetaSlab (MTree r d))).Nodup) :
    (md_ids d child).Nodup ∧ (∀ id ∈ md_ids d child, id ≠ m.hdr.id) ∧
    (∀ c, c ∈ A ∨ c ∈ B → ∀ id ∈ md_ids d c, id ≠ m.hdr.id ∧ id ∉ md_ids d child) := by
  rw [md_ids_at hAB] at hnd
  obtain ⟨hroot, hnd⟩ := List.nodup_cons.mp hnd
  obtain ⟨_, hnd2, hdA⟩ := List.nodup_append.mp hnd
  obtain ⟨hndc, _, hdB⟩ := List.nodup_append.mp hnd2
  simp only [List.mem_append, List.mem_flatMap, not_or, not_exists, not_and] at hroot
  refine ⟨hndc, ?_, ?_⟩
  · intro id hid heq
    exact hroot.2.1 (heq ▸ hid)
  · intro c hc id hid
    rcases hc with hc | hc
    · refine ⟨fun heq => hroot.1 c hc (heq ▸ hid), fun hin => ?_⟩
      exact hdA id (List.mem_flatMap.mpr ⟨c, hc, hid⟩) id (List.mem_append.mpr (Or.inl hin)) rfl
    · refine ⟨fun heq => hroot.2.2 c hc (heq ▸ hid), fun hin => ?_⟩
      exact hdB id hin id (List.mem_flatMap.mpr ⟨c, hc, hid⟩) rfl

/-- the position the search of `Get` / `Remove` returns has a child -/
theorem md_route_child {r d : Nat} {m : MMetaSlab (MTree r d)} (hhdrs : m.childHdrs = m.children.map (MTree.hdr d))
    {hk i : Nat}
    (hf : MMetaSlab.findChild m.childHdrs hk 0 m.childHdrs.length none (m.childHdrs.length + 1) = some i) :
    ∃ child, m.children[i]? = some child := by
  rcases MMetaSlab.findChild_lt _ _ _ _ _ _ _ hf with h | h
  · cases h
  · exact ⟨_, List.getElem?_eq_getElem (by rw [hhdrs, List.length_map] at h; exact h.2)⟩

/-- the child at position `i` of a held index slab: its header is the `i`-th child header, the heap has its root record and
    holds it, its identifiers are distinct and among the parent's -/
theorem MHolds.child {r : Nat} {h : SlabID → Option (DSlab r)} {d : Nat} {m : MMetaSlab (MTree r d)} {x0 : Option DX}
    (hh : MHolds h (d + 1) (m : MMetaSlab (MTree r d)) x0) (hhdrs : m.childHdrs = m.children.map (MTree.hdr d))
    (hnd : (md_ids (d + 1) (m : MMetaSlab (MTree r d))).Nodup) {i : Nat} {child : MTree r d}
    (hc : m.children[i]? = some child) :
    m.childHdrs[i]? = some (MTree.hdr d child) ∧ h (MTree.hdr d child).id = some (md_tree d child none) ∧
    MHolds h d child none ∧ (md_ids d child).Nodup ∧
    ∀ id ∈ md_ids d child, id ∈ md_ids (d + 1) (m : MMetaSlab (MTree r d)) := by
  have hmem : child ∈ m.children := List.mem_of_getElem? hc
  obtain ⟨A, B, hAB, _, _⟩ := mdr_split_at m.children i child hc
  have hhi : (m.children.map (MTree.hdr d))[i]? = some (MTree.hdr d child) := by
    rw [List.getElem?_map, hc]; rfl
  rw [← hhdrs] at hhi
  exact ⟨hhi, (hh.2 child hmem).root, hh.2 child hmem, (mdr_nodup_facts m A B child hAB hnd).1,
    fun id hid => List.mem_cons_of_mem _ (List.mem_flatMap.mpr ⟨child, hmem, hid⟩)⟩

/-- The way back up.  Child `i` of a held index slab `m` has made a step `child ↦ child'` over the heap (`h ↦ h1`: the new
    child is held, the identifiers that entered it were free, nothing outside it moved) and `m1` is `m` with `child'`
    written back: every child of `m1` is held by `h1`, the identifiers of `m1` are distinct, the record of `m` itself is
    untouched. -/
theorem MHolds.after_child {r : Nat} {h h1 : SlabID → Option (DSlab r)} {d : Nat} {m m1 : MMetaSlab (MTree r d)}
    {x0 : Option DX} {i : Nat} {child child' : MTree r d}
    (hh : MHolds h (d + 1) (m : MMetaSlab (MTree r d)) x0) (hnd : (md_ids (d + 1) (m : MMetaSlab (MTree r d))).Nodup)
    (hc : m.children[i]? = some child) (hid : m1.hdr.id = m.hdr.id) (hch : m1.children = m.children.set i child')
    (hh' : MHolds h1 d child' none) (hnd' : (md_ids d child').Nodup)
    (fresh : ∀ id ∈ md_ids d child', id ∉ md_ids d child → h id = none)
    (frame : ∀ id, id ∉ md_ids d child → id ∉ md_ids d child' → h1 id = h id) :
    ∃ A B : List (MTree r d), m.children = A ++ child :: B ∧ m1.children = A ++ child' :: B ∧ A.length = i ∧
      (∀ c ∈ m1.children, c = child' ∨ c ∈ m.children) ∧ (∀ c ∈ m1.children, MHolds h1 d c none) ∧
      (md_ids (d + 1) (m1 : MMetaSlab (MTree r d))).Nodup ∧ h1 m.hdr.id = h m.hdr.id := by
  obtain ⟨A, B, hAB, hAl, hset⟩ := mdr_split_at m.children i child hc
  have hch1 : m1.children = A ++ child' :: B := hch.trans (hset child')
  obtain ⟨_, hrootc, hsib⟩ := mdr_nodup_facts m A B child hAB hnd
  -- an identifier the old heap has and the old child has not is not in the new child
  have hout : ∀ id, (h id).isSome = true → id ∉ md_ids d child → id ∉ md_ids d child' := fun id hs hn hin => by
    rw [fresh id hin hn] at hs; cases hs
  have hmem : ∀ c, c ∈ A ∨ c ∈ B → c ∈ m.children := fun c hcs => by
    rw [hAB]; rcases hcs with hcs | hcs
    · exact List.mem_append_left _ hcs
    · exact List.mem_append_right _ (List.mem_cons_of_mem _ hcs)
  have hsib' : ∀ c, c ∈ A ∨ c ∈ B → ∀ id ∈ md_ids d c, id ∉ md_ids d child ∧ id ∉ md_ids d child' := fun c hcs id hic =>
    ⟨(hsib c hcs id hic).2, hout id (MHolds.ids_some d c none h (hh.2 c (hmem c hcs)) id hic) (hsib c hcs id hic).2⟩
  have hroot' : m.hdr.id ∉ md_ids d child' := hout _ (by rw [hh.1]; rfl) (fun hin => hrootc _ hin rfl)
  have hcases : ∀ c ∈ m1.children, c = child' ∨ c ∈ A ∨ c ∈ B := fun c hcm => by
    rw [hch1] at hcm
    rcases List.mem_append.mp hcm with hA | hB
    · exact Or.inr (Or.inl hA)
    · exact (List.mem_cons.mp hB).imp_right Or.inr
  refine ⟨A, B, hAB, hch1, hAl, fun c hcm => (hcases c hcm).imp_right (hmem c), fun c hcm => ?_, ?_,
    frame _ (fun hin => hrootc _ hin rfl) hroot'⟩
  · rcases hcases c hcm with rfl | hcs
    · exact hh'
    · exact (hh.2 c (hmem c hcs)).congr (fun id hic => frame id (hsib' c hcs id hic).1 (hsib' c hcs id hic).2)
  · rw [md_ids_at hAB] at hnd
    rw [md_ids_at hch1, hid]
    obtain ⟨hhead, htail⟩ := List.nodup_cons.mp hnd
    obtain ⟨hAnd, hcB, hdA⟩ := List.nodup_append.mp htail
    obtain ⟨_, hBnd, _⟩ := List.nodup_append.mp hcB
    have inA : ∀ id ∈ A.flatMap (md_ids d), id ∉ md_ids d child' := fun id hid => by
      obtain ⟨c, hcA, hic⟩ := List.mem_flatMap.mp hid
      exact (hsib' c (Or.inl hcA) id hic).2
    have inB : ∀ id ∈ B.flatMap (md_ids d), id ∉ md_ids d child' := fun id hid => by
      obtain ⟨c, hcB, hic⟩ := List.mem_flatMap.mp hid
      exact (hsib' c (Or.inr hcB) id hic).2
    refine List.nodup_cons.mpr ⟨fun hin => ?_, List.nodup_append.mpr ⟨hAnd, List.nodup_append.mpr
      ⟨hnd', hBnd, fun a ha b hb e => inB b hb (e ▸ ha)⟩, fun a ha b hb e => ?_⟩⟩
    · rcases List.mem_append.mp hin with h1' | h1'
      · exact hhead (List.mem_append_left _ h1')
      · rcases List.mem_append.mp h1' with h2 | h2
        · exact hroot' h2
        · exact hhead (List.mem_append_right _ (List.mem_append_right _ h2))
    · rcases List.mem_append.mp hb with h2 | h2
      · exact inA a ha (e ▸ h2)
      · exact hdA a ha b (List.mem_append_right _ h2) e

/-- storing an index slab whose children are held: the heap holds the subtree -/
theorem MHolds.store_root {r : Nat} {s : MHSt r} {d : Nat} {m : MMetaSlab (MTree r d)} (x : Option DX)
    (held : ∀ c ∈ m.children, MHolds s.heap d c none) (hnd : (md_ids (d + 1) (m : MMetaSlab (MTree r d))).Nodup) :
    MHolds (s.store m.hdr.id (.metaSlab (md_meta m x))).heap (d + 1) (m : MMetaSlab (MTree r d)) x := by
  refine ⟨by rw [MHSt.store_heap, if_pos rfl], fun c hc => (held c hc).congr (fun id hid => ?_)⟩
  rw [MHSt.store_heap, if_neg]
  exact fun e => (List.nodup_cons.mp hnd).1 (e ▸ List.mem_flatMap.mpr ⟨c, hc, hid⟩)

/-- the heap after an operation that turns the tree `t` into `t'`: it holds `t'`, the slabs that left the tree are gone,
    every other identifier is untouched -/
structure MHeapPost {r : Nat} (h h' : SlabID → Option (DSlab r)) {d d' : Nat} (t : MTree r d) (t' : MTree r d')
    (x' : Option DX) : Prop where
  holds : MHolds h' d' t' x'
  gone : ∀ id ∈ md_ids d t, id ∉ md_ids d' t' → h' id = none
  frame : ∀ id, id ∉ md_ids d t → id ∉ md_ids d' t' → h' id = h id

section envFields
variable {r : Nat} (T : Nat) (eb : DEnvB r) (rs : DRestruct r)
@[simp] theorem envD_retrieve (s : MHSt r) (id : SlabID) :
    (envD T eb rs).SlabStorage_Retrieve s id = match s.heap id with
      | some v => (v, true, none, s)
      | none => (.nil, false, none, s) := rfl
@[simp] theorem envD_store (s : MHSt r) (id : SlabID) (v : DSlab r) :
    (envD T eb rs).SlabStorage_Store s id v = (none, s.store id v) := rfl
@[simp] theorem envD_remove (s : MHSt r) (id : SlabID) : (envD T eb rs).SlabStorage_Remove s id = (none, s.remove id) := rfl
@[simp] theorem envD_wrap (e : Option GE) : (envD T eb rs).wrapErrorfAsExternalErrorIfNeeded e = e := rfl
@[simp] theorem envD_knf : (envD T eb rs).NewKeyNotFoundError = some .keyNotFound := rfl
@[simp] theorem envD_snf : (envD T eb rs).NewSlabNotFoundErrorf = some .slabNotFound := rfl
@[simp] theorem envD_maxThr : (envD T eb rs).maxThreshold = u32 (maxThr T) := rfl
@[simp] theorem envD_minThr : (envD T eb rs).minThreshold = u32 (minThr T) := rfl
@[simp] theorem envD_dig (d : MKey) (l : UInt64) : (envD T eb rs).Digester_Digest d l = (u64 (d.dig l.toNat), none) := rfl
@[simp] theorem envD_builder (b : Unit) (k : MKey) : (envD T eb rs).DigesterBuilder_Digest b (.key k) = (k, none) := rfl
@[simp] theorem envD_asKNF (e : GE) : (envD T eb rs).errors_As_KeyNotFoundError e = decide (e = .keyNotFound) := rfl
@[simp] theorem envD_count (x : DX) : (envD T eb rs).MapExtraData_Count x = x.2.1 := rfl
@[simp] theorem envD_incr (x : DX) : (envD T eb rs).MapExtraData_incrementCount x = (x.1, x.2.1 + 1, x.2.2) := rfl
@[simp] theorem envD_decr (x : DX) : (envD T eb rs).MapExtraData_decrementCount x = (x.1, x.2.1 - 1, x.2.2) := rfl
@[simp] theorem envD_setCount (x : DX) (n : UInt64) : (envD T eb rs).MapExtraData_set_Count x n = (x.1, n, x.2.2) := rfl
@[simp] theorem envD_notify (m : DMap r) : (envD T eb rs).OrderedMap_notifyParentIfNeeded m = (none, m) := rfl
@[simp] theorem envD_setCallback (m : DMap r) (a b : SW) (n : UInt32) :
    (envD T eb rs).OrderedMap_setCallbackWithChild m a b n = m := rfl
@[simp] theorem envD_splitChild : (envD T eb rs).MapMetaDataSlab_SplitChildSlab = rs.splitChild := rfl
@[simp] theorem envD_mor : (envD T eb rs).MapMetaDataSlab_MergeOrRebalanceChildSlab = rs.mergeOrRebalance := rfl
@[simp] theorem envD_splitRoot : (envD T eb rs).OrderedMap_splitRoot = rs.splitRoot := rfl
@[simp] theorem envD_promote : (envD T eb rs).OrderedMap_promoteChildAsNewRoot = rs.promote := rfl
@[simp] theorem envD_elemGet (g : DG r) (s : MHSt r) (d : MKey) (lvl hk : UInt64) (w : SW) :
    (envD T eb rs).elements_Get g s d lvl hk w =
      ((eb.elements_Get g s.ctx d lvl hk w).1, (eb.elements_Get g s.ctx d lvl hk w).2.1,
       (eb.elements_Get g s.ctx d lvl hk w).2.2.1, s.withCtx (eb.elements_Get g s.ctx d lvl hk w).2.2.2) := rfl
@[simp] theorem envD_elemSet (g : DG r) (s : MHSt r) (a : Nat) (b : Unit) (d : MKey) (lvl hk : UInt64) (w w' : SW) :
    (envD T eb rs).elements_Set g s a b d lvl hk w w' =
      ((eb.elements_Set g s.ctx a b d lvl hk w w').1, (eb.elements_Set g s.ctx a b d lvl hk w w').2.1,
       (eb.elements_Set g s.ctx a b d lvl hk w w').2.2.1, (eb.elements_Set g s.ctx a b d lvl hk w w').2.2.2.1,
       s.withCtx (eb.elements_Set g s.ctx a b d lvl hk w w').2.2.2.2) := rfl
@[simp] theorem envD_elemRemove (g : DG r) (s : MHSt r) (d : MKey) (lvl hk : UInt64) (w : SW) :
    (envD T eb rs).elements_Remove g s d lvl hk w =
      ((eb.elements_Remove g s.ctx d lvl hk w).1, (eb.elements_Remove g s.ctx d lvl hk w).2.1,
       (eb.elements_Remove g s.ctx d lvl hk w).2.2.1, (eb.elements_Remove g s.ctx d lvl hk w).2.2.2.1,
       s.withCtx (eb.elements_Remove g s.ctx d lvl hk w).2.2.2.2) := rfl
@[simp] theorem envD_elemSize : (envD T eb rs).elements_Size = eb.elements_Size := rfl
@[simp] theorem envD_elemFirst : (envD T eb rs).elements_firstKey = eb.elements_firstKey := rfl
/-- `getMapSlab` over the heap: a stored (non-nil) slab is found, the storage is unchanged -/
theorem getMapSlab_envD_some (s : MHSt r) (id : SlabID) (v : DSlab r) (h : s.heap id = some v) (hv : v.isNil = false) :
    getMapSlab (envD T eb rs) s id = (v, none, s) := by
  simp only [getMapSlab, envD_retrieve, h, Option.isNone_none, Bool.not_true, Bool.false_eq_true, if_false, hv,
    Bool.not_false, if_true]

/-- `getMapSlab` of an identifier the heap does not hold: `SlabNotFoundError` -/
theorem getMapSlab_envD_none (s : MHSt r) (id : SlabID) (h : s.heap id = none) :
    getMapSlab (envD T eb rs) s id = (.nil, some .slabNotFound, s) := by
  simp only [getMapSlab, envD_retrieve, h, Option.isNone_none, Bool.not_true, Bool.false_eq_true, if_false,
    Bool.not_false, if_true, envD_snf]
end envFields

end Atree.TransEq

import AtreeModel.Gen.TransMapElem
import AtreeModel.Map.Tree
import AtreeProofs.Trans.MapCarriers
import AtreeProofs.Trans.MapSlabs
/-
  Set-up for the equivalence proofs of the ELEMENT layer, part 2 (UNIT B): the GENERATED translation of the three `element`
  implementations `singleElement`, `inlineCollisionGroup`, `externalCollisionGroup` (`Get` / `Set` / `Remove`), of their
  dynamic dispatch and of `MapDataSlab.Set / Remove` (`AtreeModel/Gen/TransMapElem.lean`, namespace
  `Atree.Gen.TransElem`, written by the object engine of harness/cmd/gotrans on every run) against the hand-written model
  `MElemF.get / set / remove / inlSet / groupSlabUpdate` (`AtreeModel/Map/Elems.lean`) and `MDataSlab.set / remove`
  (`AtreeModel/Map/Tree.lean`).

  As in the model, the `elements` interface of the NEXT level is a parameter: the generated code calls `env.elements_Get`,
  `env.elements_Set`, ... where the model calls `o.get`, `o.set`, ... for `o : ElemsOps α` (`G := α`).  The digester of a key
  is the key itself with its digests (`D := MKey`), the storage state is the model's `Ctx`.  `EnvB` says that the
  parameters are the model's.  Core Lean only.  Helper names carry the prefix `mei_`.
-/
namespace Atree.TransEq
open Atree Atree.Gen.TransElem

/-- `singleElement` of the model as the generated record (`Gen.TransElem.singleElement`) -/
def mei_cE (x : SElem) : singleElement SV :=
  { key := some (.key x.key), value := some (.val x.val), size := u32 x.size }

/-- an `element` of the model as the generated closed-interface value.  The slab of an external collision group is NOT
    part of the Go element (it lives in the storage): the translation forgets it. -/
def mei_cEl {α : Type} : MElemF α → element α SV
  | .single x => .single (mei_cE x)
  | .inl g => .inlineGroup { elements := g }
  | .ext id sz _ => .externalGroup { slabID := id, size := u32 sz }

def mei_cHdr (h : MHdr) : MapSlabHeader := { slabID := h.id, size := u32 h.size, firstKey := u64 h.firstKey }

/-- the `MapDataSlab` of an external collision group (anySize, collisionGroup, never a root, never inlined) -/
def mei_cGroupSlab {α X : Type} (s : GroupSlab α) : MapDataSlab α X :=
  { next := SlabID.undef, header := mei_cHdr s.hdr, elements := s.elems, extraData := none,
    anySize := true, collisionGroup := true, inlined := false }

/-- result of a `Get` in state `c` (reads do not change the state) -/
def mei_rGet (c : Ctx) : Except MErr (MKey × Elem) → Option SV × Option SV × Option GE × Ctx
  | .ok (k, v) => (some (.key k), some (.val v), none, c)
  | .error err => (none, none, some err, c)

/-- result of `elements.Set` on `g` in state `c` (the receiver's new state is part of the result) -/
def mei_rGSet {α : Type} (g : α) (c : Ctx) :
    Except MErr (MKey × Option Elem × α × Ctx) → Option SV × Option SV × Option GE × α × Ctx
  | .ok (ks, old, g', c') => (some (.key ks), old.map .val, none, g', c')
  | .error err => (none, none, some err, g, c)

/-- result of `elements.Remove` on `g` in state `c` -/
def mei_rGRemove {α : Type} (g : α) (c : Ctx) :
    Except MErr (MKey × Elem × α × Ctx) → Option SV × Option SV × Option GE × α × Ctx
  | .ok (rk, rv, g', c') => (some (.key rk), some (.val rv), none, g', c')
  | .error err => (none, none, some err, g, c)

/-- the element a `Remove` hands back: Go's nil = "the element is gone" -/
def mei_cOptEl {α : Type} : Option (MElemF α) → element α SV
  | none => .nil
  | some el => mei_cEl el

/-- What the theorems assume of the parameters of the generated code for ONE map operation (key `k`, value `v`, the
    operations `o` of the nested `elements`, storage state = the model's `Ctx`). -/
structure EnvB {α X : Type} (o : ElemsOps α) (cfg : MCfg) (k : MKey) (v : Elem)
    (env : Env α SV SW X MKey Unit Ctx GE) : Prop where
  /-- `digester.Levels()` -/
  levels : ∀ d, env.Digester_Levels d = u64 cfg.L
  /-- `digester.Digest(level)`: the digester of a key is the key with its digests -/
  dig : ∀ (d : MKey) lvl, lvl < 2^64 → env.Digester_Digest d (u64 lvl) = (u64 (d.dig lvl), none)
  /-- `b.Digest(hip, kv)`: the digester of the stored value of a key storable -/
  builder : ∀ b k', env.DigesterBuilder_Digest b (.key k') = (k', none)
  stored : ∀ k' c, env.Storable_StoredValue (.key k') c = (.key k', none, c)
  /-- the caller's comparator on (key argument, stored key): the model's `MKey.same`, no error, storage unchanged -/
  cmp : ∀ c k', env.ValueComparator c (.key k) (some (.key k')) = (k'.same k, none, c)
  keySize : ∀ k', env.Storable_ByteSize (.key k') = u32 k'.size
  valSize : ∀ v', env.Storable_ByteSize (.val v') = u32 v'.size
  maxInline : ∀ n, n < 2^32 → env.maxInlineMapValueSize (u32 n) = u32 (maxInlineMapValue cfg.T n)
  storable : ∀ c lim, env.Value_Storable (.val v) c cfg.addr lim =
    (some (.val (toStorableLim lim.toNat cfg.addr v c).1), none, (toStorableLim lim.toNat cfg.addr v c).2)
  maxElem : env.maxInlineMapElementSize = u32 (maxInlineMapElem cfg.T)
  sidSize : env.SlabIDStorable_ByteSize = u32 slabIDStorableSize
  -- the nested `elements` (open interface, G := α): the model's operations
  gSize : ∀ g, env.elements_Size g = u32 (o.size g)
  gCount : ∀ g, env.elements_Count g = u32 (o.count g)
  gFirst : ∀ g, env.elements_firstKey g = u64 (o.firstKey g)
  gGet : ∀ g c lvl, lvl < 2^64 →
    env.elements_Get g c k (u64 lvl) (u64 (k.dig lvl)) (.key k) = mei_rGet c (o.get cfg g lvl k)
  gSet : ∀ g c lvl b, lvl < 2^64 →
    env.elements_Set g c cfg.addr b k (u64 lvl) (u64 (k.dig lvl)) (.key k) (.val v) = mei_rGSet g c (o.set cfg g lvl k v c)
  gRemove : ∀ g c lvl, lvl < 2^64 →
    env.elements_Remove g c k (u64 lvl) (u64 (k.dig lvl)) (.key k) = mei_rGRemove g c (o.remove cfg g lvl k c)
  /-- `Count() == 1` and `Element(0)`: the model's `soleSingle` -/
  gSole : ∀ g, (o.count g = 1 → ∃ el, env.elements_Element g 0 = (mei_cEl el, none) ∧
                  o.soleSingle g = (match el with | .single x => some x | _ => none)) ∧
               (o.count g ≠ 1 → o.soleSingle g = none)
  /-- a fresh group holding the resident element one level deeper: `newSingleElementsWithElement` at the last level,
      `newHkeyElementsWithElement` (with the resident key's digest at that level) otherwise -/
  newWith : ∀ lvl x g, lvl < 2^64 → x.size < 2^32 → o.newWith cfg lvl x = .ok g →
    (if lvl = cfg.L then env.newSingleElementsWithElement (u64 lvl) (mei_cE x) = g
     else env.newHkeyElementsWithElement (u64 lvl) (u64 (x.key.dig lvl)) (.single (mei_cE x)) = g)
  -- the slab storage as the model sees it (allocation counter + effect log; no storage failures)
  gen : ∀ c a, env.SlabStorage_GenerateSlabID c a = ((c.alloc a).1, none, (c.alloc a).2)
  store : ∀ c id slab, env.SlabStorage_Store c id slab = (none, c.emit (.store id))
  remove : ∀ c id, env.SlabStorage_Remove c id = (none, c.emit (.remove id))
  wrapNone : env.wrapErrorfAsExternalErrorIfNeeded none = none
  eHashLevel : env.NewHashLevelErrorf = some .hashLevel
  eKeyNotFound : env.NewKeyNotFoundError = some .keyNotFound
  eSlabNotFound : env.NewSlabNotFoundErrorf = some .slabNotFound

/-- result of `element.Set` / `inlineCollisionGroup.Set` ... in state `c`: the new element, key storable, old value -/
def mei_rESet {α : Type} (c : Ctx) :
    Except MErr (MElemF α × MKey × Option Elem × Ctx) → element α SV × Option SV × Option SV × Option GE × Ctx
  | .ok (el, ks, old, c') => (mei_cEl el, some (.key ks), old.map .val, none, c')
  | .error err => (.nil, none, none, some err, c)

/-- result of `element.Remove` ... in state `c` -/
def mei_rERemove {α : Type} (c : Ctx) :
    Except MErr (MKey × Elem × Option (MElemF α) × Ctx) → Option SV × Option SV × element α SV × Option GE × Ctx
  | .ok (rk, rv, el, c') => (some (.key rk), some (.val rv), mei_cOptEl el, none, c')
  | .error err => (none, none, .nil, some err, c)

end Atree.TransEq

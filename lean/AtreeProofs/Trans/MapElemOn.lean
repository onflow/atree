import AtreeProofs.Trans.MapElem
/-
  RELATIVISED version of `EnvB`: the nested `elements` methods `Get / Set / Remove` and the two
  group constructors of the environment of unit B (`Gen/TransMapElem.lean`) agree with the model's operations `o` only
  on the groups / levels / storage states that satisfy a guard (`Qg`, `Qs`, `Qr`; `Qn` for the resident element a new
  group is built from).  `EnvB` is the special case of the trivial guards (`EnvB.toOn`).
-/
namespace Atree.TransEq
open Atree Atree.Gen.TransElem

/-- `EnvB` with guarded `gGet / gSet / gRemove / newWith` (everything else as in `EnvB`) -/
structure EnvBOn {α X : Type} (o : ElemsOps α) (cfg : MCfg) (k : MKey) (v : Elem)
    (env : Env α SV SW X MKey Unit Ctx GE) (Qg Qs Qr : α → Nat → Ctx → Prop) (Qn : Nat → SElem → Prop) : Prop where
  levels : ∀ d, env.Digester_Levels d = u64 cfg.L
  dig : ∀ (d : MKey) lvl, lvl < 2^64 → env.Digester_Digest d (u64 lvl) = (u64 (d.dig lvl), none)
  builder : ∀ b k', env.DigesterBuilder_Digest b (.key k') = (k', none)
  stored : ∀ k' c, env.Storable_StoredValue (.key k') c = (.key k', none, c)
  cmp : ∀ c k', env.ValueComparator c (.key k) (some (.key k')) = (k'.same k, none, c)
  keySize : ∀ k', env.Storable_ByteSize (.key k') = u32 k'.size
  valSize : ∀ v', env.Storable_ByteSize (.val v') = u32 v'.size
  maxInline : ∀ n, n < 2^32 → env.maxInlineMapValueSize (u32 n) = u32 (maxInlineMapValue cfg.T n)
  storable : ∀ c lim, env.Value_Storable (.val v) c cfg.addr lim =
    (some (.val (toStorableLim lim.toNat cfg.addr v c).1), none, (toStorableLim lim.toNat cfg.addr v c).2)
  maxElem : env.maxInlineMapElementSize = u32 (maxInlineMapElem cfg.T)
  sidSize : env.SlabIDStorable_ByteSize = u32 slabIDStorableSize
  gSize : ∀ g, env.elements_Size g = u32 (o.size g)
  gCount : ∀ g, env.elements_Count g = u32 (o.count g)
  gFirst : ∀ g, env.elements_firstKey g = u64 (o.firstKey g)
  gGet : ∀ g c lvl, lvl < 2^64 → Qg g lvl c →
    env.elements_Get g c k (u64 lvl) (u64 (k.dig lvl)) (.key k) = mei_rGet c (o.get cfg g lvl k)
  gSet : ∀ g c lvl b, lvl < 2^64 → Qs g lvl c →
    env.elements_Set g c cfg.addr b k (u64 lvl) (u64 (k.dig lvl)) (.key k) (.val v) = mei_rGSet g c (o.set cfg g lvl k v c)
  gRemove : ∀ g c lvl, lvl < 2^64 → Qr g lvl c →
    env.elements_Remove g c k (u64 lvl) (u64 (k.dig lvl)) (.key k) = mei_rGRemove g c (o.remove cfg g lvl k c)
  gSole : ∀ g, (o.count g = 1 → ∃ el, env.elements_Element g 0 = (mei_cEl el, none) ∧
                  o.soleSingle g = (match el with | .single x => some x | _ => none)) ∧
               (o.count g ≠ 1 → o.soleSingle g = none)
  newWith : ∀ lvl x g, lvl < 2^64 → x.size < 2^32 → Qn lvl x → o.newWith cfg lvl x = .ok g →
    (if lvl = cfg.L then env.newSingleElementsWithElement (u64 lvl) (mei_cE x) = g
     else env.newHkeyElementsWithElement (u64 lvl) (u64 (x.key.dig lvl)) (.single (mei_cE x)) = g)
  gen : ∀ c a, env.SlabStorage_GenerateSlabID c a = ((c.alloc a).1, none, (c.alloc a).2)
  store : ∀ c id slab, env.SlabStorage_Store c id slab = (none, c.emit (.store id))
  remove : ∀ c id, env.SlabStorage_Remove c id = (none, c.emit (.remove id))
  wrapNone : env.wrapErrorfAsExternalErrorIfNeeded none = none
  eHashLevel : env.NewHashLevelErrorf = some .hashLevel
  eKeyNotFound : env.NewKeyNotFoundError = some .keyNotFound
  eSlabNotFound : env.NewSlabNotFoundErrorf = some .slabNotFound

def mei_QTrue {α : Type} : α → Nat → Ctx → Prop := fun _ _ _ => True
def mei_QnTrue : Nat → SElem → Prop := fun _ _ => True

theorem EnvB.toOn {α X : Type} {o : ElemsOps α} {cfg : MCfg} {k : MKey} {v : Elem}
    {env : Env α SV SW X MKey Unit Ctx GE} (h : EnvB o cfg k v env) :
    EnvBOn o cfg k v env mei_QTrue mei_QTrue mei_QTrue mei_QnTrue where
  levels := h.levels
  dig := h.dig
  builder := h.builder
  stored := h.stored
  cmp := h.cmp
  keySize := h.keySize
  valSize := h.valSize
  maxInline := h.maxInline
  storable := h.storable
  maxElem := h.maxElem
  sidSize := h.sidSize
  gSize := h.gSize
  gCount := h.gCount
  gFirst := h.gFirst
  gGet := fun g c lvl hl _ => h.gGet g c lvl hl
  gSet := fun g c lvl b hl _ => h.gSet g c lvl b hl
  gRemove := fun g c lvl hl _ => h.gRemove g c lvl hl
  gSole := h.gSole
  newWith := fun lvl x g hl hx _ hg => h.newWith lvl x g hl hx hg
  gen := h.gen
  store := h.store
  remove := h.remove
  wrapNone := h.wrapNone
  eHashLevel := h.eHashLevel
  eKeyNotFound := h.eKeyNotFound
  eSlabNotFound := h.eSlabNotFound

end Atree.TransEq

import AtreeModel.Gen.TransMapElems
import AtreeProofs.Trans.MapCarriers
import AtreeProofs.Trans.MapSlabs
import AtreeProofs.Trans.Loops
import AtreeProofs.Trans.GoPrims
/-
  Set-up for the equivalence proofs of the ELEMENT layer, part 1 (UNIT A): the GENERATED translation of `hkeyElements`
  `getElement` / `Get` / `getElementAndNextKey` / `Set` / `Remove` (`AtreeModel/Gen/TransMapElems.lean`, namespace
  `Atree.Gen.TransElems`, written by the object engine of harness/cmd/gotrans on every run) against the hand-written
  model `HkeyElems.get / set / remove` (`AtreeModel/Map/Elems.lean`).

  As in the model, the `element` interface is a PARAMETER of this layer: the generated code calls `env.element_Get`,
  `env.element_Set`, ... where the model calls `MElemF.get o`, `MElemF.set o`, ... for the operations `o : ElemsOps α` of
  the nested `elements`.  `EnvA` says that the parameters are the model's; part 2 (UNIT B = `Gen/TransMapElem.lean`; set-up
  `Trans/MapElem.lean`, theorems `Props/TransElemInline.lean`, `TransElemSlab.lean`, `TransElemDispatch.lean`) proves that
  the generated element implementations have exactly that behaviour given the operations of the next level.
-/
namespace Atree.TransEq
open Atree Atree.Gen.TransElems

/-- `singleElement` of the model as the generated record (`Gen.TransElems.singleElement`) -/
def mel_cE (x : SElem) : singleElement SV :=
  { key := some (.key x.key), value := some (.val x.val), size := u32 x.size }

/-- `hkeyElements` of the model as the generated record: the elements are the model's (`E := MElemF α`, non-nil),
    digests / size / level as machine integers -/
def mel_cH {α : Type} (e : HkeyElems α) : hkeyElements (MElemF α) :=
  { hkeys := u64s e.hkeys, elems := e.elems.map some, size := u32 e.size, level := u64 e.level }

/-- result of `element.Get` / `hkeyElements.Get` in state `c` (reads do not change the state) -/
def mel_rGet (c : Ctx) : Except MErr (MKey × Elem) → Option SV × Option SV × Option GE × Ctx
  | .ok (k, v) => (some (.key k), some (.val v), none, c)
  | .error err => (none, none, some err, c)

/-- result of `element.Set` in state `c` -/
def mel_rESet {α : Type} (c : Ctx) :
    Except MErr (MElemF α × MKey × Option Elem × Ctx) → Option (MElemF α) × Option SV × Option SV × Option GE × Ctx
  | .ok (el, ks, old, c') => (some el, some (.key ks), old.map .val, none, c')
  | .error err => (none, none, none, some err, c)

/-- result of `element.Remove` in state `c` (`none` element = the element is gone) -/
def mel_rERemove {α : Type} (c : Ctx) :
    Except MErr (MKey × Elem × Option (MElemF α) × Ctx) → Option SV × Option SV × Option (MElemF α) × Option GE × Ctx
  | .ok (rk, rv, el, c') => (some (.key rk), some (.val rv), el, none, c')
  | .error err => (none, none, none, some err, c)

/-- What the theorems assume of the parameters of the generated code for ONE map operation (key `k`, value `v`, the
    operations `o` of the nested level, storage state = the model's `Ctx`): the element methods are the model's
    `MElemF.*`, `newSingleElement` the model's, every error constructor yields its class, `errors.As(err, &knfe)`
    recognises exactly KeyNotFoundError. -/
structure EnvA {α : Type} (o : ElemsOps α) (cfg : MCfg) (k : MKey) (v : Elem)
    (env : Env (MElemF α) SV SW Ctx GE) : Prop where
  levels : env.Digester_Levels = u64 cfg.L
  climit : env.maxCollisionLimitPerDigest = u32 cfg.climit
  size : ∀ el, env.element_Size el = u32 (el.size o)
  count : ∀ el c, env.element_Count el c = (u32 (el.count o), none, c)
  get : ∀ el c lvl hk, lvl < 2^64 → env.element_Get el c (u64 lvl) hk (.key k) = mel_rGet c (el.get o cfg lvl k)
  set : ∀ el c lvl hk, lvl < 2^64 →
    env.element_Set el c cfg.addr (u64 lvl) hk (.key k) (.val v) = mel_rESet c (el.set o cfg lvl k v c)
  remove : ∀ el c lvl hk, lvl < 2^64 →
    env.element_Remove el c (u64 lvl) hk (.key k) = mel_rERemove c (el.remove o cfg lvl k c)
  newElem : ∀ c, env.newSingleElement c cfg.addr (.key k) (.val v) =
    (mel_cE (newSingleElement cfg.T cfg.addr k v c).1, none, (newSingleElement cfg.T cfg.addr k v c).2)
  /-- the injection `*singleElement -> element` (for sizes that are `uint32` values: `mel_cE` stores `u32 x.size`) -/
  inj : ∀ x, x.size < 2^32 → env.element_ofSingleElement (mel_cE x) = .single x
  asKNF : ∀ err, env.errors_As_KeyNotFoundError err = decide (err = .keyNotFound)
  eHashLevel : env.NewHashLevelErrorf = some .hashLevel
  eKeyNotFound : env.NewKeyNotFoundError = some .keyNotFound
  eCollisionLimit : env.NewCollisionLimitError = some .collisionLimit
  eElementCount : env.NewMapElementCountError = some .mapElementCount

/-- result of `hkeyElements.Set` on `e` in state `c` -/
def mel_rSet {α : Type} (e : HkeyElems α) (c : Ctx) :
    Except MErr (MKey × Option Elem × HkeyElems α × Ctx) →
      Option (Option SV × Option SV × Option GE × hkeyElements (MElemF α) × Ctx)
  | .ok (ks, old, e', c') => some (some (.key ks), old.map .val, none, mel_cH e', c')
  | .error err => some (none, none, some err, mel_cH e, c)

/-- result of `hkeyElements.Remove` on `e` in state `c` -/
def mel_rRemove {α : Type} (e : HkeyElems α) (c : Ctx) :
    Except MErr (MKey × Elem × HkeyElems α × Ctx) →
      Option (Option SV × Option SV × Option GE × hkeyElements (MElemF α) × Ctx)
  | .ok (rk, rv, e', c') => some (some (.key rk), some (.val rv), none, mel_cH e', c')
  | .error err => some (none, none, some err, mel_cH e, c)

/-- the well-formedness the theorems need of a digest table: as many elements as digests, digests are `uint64` values,
    fewer than 2^62 of them (the `int` midpoint `uint(i+j) >> 1` of the binary search is then exact) -/
structure mel_HOk {α : Type} (e : HkeyElems α) : Prop where
  len : e.elems.length = e.hkeys.length
  dig : ∀ x ∈ e.hkeys, x < 2^64
  short : e.hkeys.length < 2^62

theorem mel_cH_hkeys_length {α : Type} (e : HkeyElems α) : (mel_cH e).hkeys.length = e.hkeys.length := by
  simp [mel_cH, u64s]

theorem mel_cH_elems_length {α : Type} (e : HkeyElems α) : (mel_cH e).elems.length = e.elems.length := by
  simp [mel_cH]

theorem mel_goIdx_hkeys {α : Type} (e : HkeyElems α) (n : Nat) (h : n < e.hkeys.length) :
    goIdx (mel_cH e).hkeys (Int.ofNat n) = some (u64 (e.hkeys.getD n 0)) := by
  rw [goIdx_eq, sliceIdx_ofNat]
  simp [mel_cH, u64s, List.getD, h]

theorem mel_getD_lt {α : Type} (e : HkeyElems α) (hok : mel_HOk e) (n : Nat) : e.hkeys.getD n 0 < 2^64 :=
  getD_lt_of_all e.hkeys (2^64) (by decide) hok.dig n

/-- first and last digest of a non-empty table, as the range pre-check of `Set` and `Remove` reads and compares them
    (model: `head?`, `getLast?`; code: `hkeys[0]`, `hkeys[len-1]`) -/
theorem mel_ends {α : Type} (e : HkeyElems α) (hok : mel_HOk e) (hpos : 0 < e.hkeys.length) {hk : Nat} (hhk : hk < 2^64) :
    e.hkeys.head? = some (e.hkeys.getD 0 0) ∧ e.hkeys.getLast? = some (e.hkeys.getD (e.hkeys.length - 1) 0) ∧
    goIdx (mel_cH e).hkeys (0 : Int) = some (u64 (e.hkeys.getD 0 0)) ∧
    goIdx (mel_cH e).hkeys (Int.ofNat e.hkeys.length - 1) = some (u64 (e.hkeys.getD (e.hkeys.length - 1) 0)) ∧
    decide (u64 hk < u64 (e.hkeys.getD 0 0)) = decide (hk < e.hkeys.getD 0 0) ∧
    decide (u64 hk > u64 (e.hkeys.getD (e.hkeys.length - 1) 0)) = decide (hk > e.hkeys.getD (e.hkeys.length - 1) 0) := by
  have hg : ∀ i, i < e.hkeys.length → e.hkeys[i]? = some (e.hkeys.getD i 0) := fun i hi => by
    rw [List.getD_eq_getElem?_getD, List.getElem?_eq_getElem hi]; rfl
  have hl := Nat.sub_lt hpos Nat.one_pos
  exact ⟨by rw [List.head?_eq_getElem?, hg 0 hpos], by rw [List.getLast?_eq_getElem?, hg _ hl],
    mel_goIdx_hkeys e 0 hpos, by rw [int_pred hpos]; exact mel_goIdx_hkeys e _ hl,
    u64_dlt hhk (mel_getD_lt e hok 0), u64_dgt hhk (mel_getD_lt e hok _)⟩

/-- one probe of the binary searches over the digest table, for `i < j` inside the table: the machine midpoint is
    `(i + j) / 2`, the digest there is found, and its comparisons with the key are those of the numbers -/
theorem mel_probe {α : Type} (e : HkeyElems α) (hok : mel_HOk e) {hk : Nat} (hhk : hk < 2^64) {i j : Nat}
    (hij : i < j) (hj : j ≤ e.hkeys.length) :
    i ≤ (i + j) / 2 ∧ (i + j) / 2 < j ∧
    Int.ofNat ((UInt64.ofInt (Int.ofNat i + Int.ofNat j)) >>> 1).toNat = Int.ofNat ((i + j) / 2) ∧
    goIdx (mel_cH e).hkeys (Int.ofNat ((i + j) / 2)) = some (u64 (e.hkeys.getD ((i + j) / 2) 0)) ∧
    decide (u64 (e.hkeys.getD ((i + j) / 2) 0) > u64 hk) = decide (e.hkeys.getD ((i + j) / 2) 0 > hk) ∧
    decide (u64 (e.hkeys.getD ((i + j) / 2) 0) < u64 hk) = decide (e.hkeys.getD ((i + j) / 2) 0 < hk) := by
  have hshort := hok.short
  have hm := mel_getD_lt e hok ((i + j) / 2)
  exact ⟨by omega, by omega, mid_eq i j (by omega), mel_goIdx_hkeys e _ (by omega), u64_dgt hm hhk, u64_dlt hm hhk⟩

theorem mel_goIdx_elems {α : Type} (e : HkeyElems α) (n : Nat) :
    goIdx (mel_cH e).elems (Int.ofNat n) = (e.elems[n]?).map some := by
  rw [goIdx_eq, sliceIdx_ofNat]
  simp [mel_cH]

/-- a hit of the binary search at index `x`: the index lies inside both lists, it is not the marker `-1` of "no hit",
    and the generated code reads the model's element there -/
theorem mel_hit {α : Type} (e : HkeyElems α) (hok : mel_HOk e) {x hk : Nat} (hx : e.hkeys[x]? = some hk) :
    x < e.hkeys.length ∧ x < e.elems.length ∧ Int.ofNat x ≠ (-1 : Int) ∧ ∃ el, e.elems[x]? = some el ∧
      goIdx (mel_cH e).elems (Int.ofNat x) = some (some el) ∧ goInRange (mel_cH e).elems (Int.ofNat x) = true := by
  have hxh : x < e.hkeys.length := (List.getElem?_eq_some_iff.mp hx).1
  have hxl : x < e.elems.length := hok.len ▸ hxh
  refine ⟨hxh, hxl, Int.noConfusion, e.elems[x], List.getElem?_eq_getElem hxl, ?_, ?_⟩
  · rw [mel_goIdx_elems, List.getElem?_eq_getElem hxl]; rfl
  · rw [goInRange_eq, sliceInRange_ofNat, mel_cH_elems_length]; exact decide_eq_true hxl

end Atree.TransEq

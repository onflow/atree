import AtreeProofs.Trans.MapElems
/-
  RELATIVISED version of `EnvA`: the three element methods `Get / Set / Remove` of the
  environment of unit A (`Gen/TransMapElems.lean`) agree with the model's `MElemF.get / set / remove` only on the
  elements / levels / storage states that satisfy a guard (`Pg`, `Ps`, `Pr`).  `EnvA` is the special case of the trivial
  guards (`EnvA.toOn`).  The closed environment (`Trans/MapClosed.lean`), built from the GENERATED element dispatchers,
  satisfies `EnvAOn` for guards that follow from the map invariant and `uint` range conditions; it does not satisfy `EnvA`
  (`u32` is not injective).
-/
namespace Atree.TransEq
open Atree Atree.Gen.TransElems

/-- `EnvA` with guarded `get / set / remove` (everything else as in `EnvA`) -/
structure EnvAOn {α : Type} (o : ElemsOps α) (cfg : MCfg) (k : MKey) (v : Elem)
    (env : Env (MElemF α) SV SW Ctx GE) (Pg Ps Pr : MElemF α → Nat → Ctx → Prop) : Prop where
  levels : env.Digester_Levels = u64 cfg.L
  climit : env.maxCollisionLimitPerDigest = u32 cfg.climit
  size : ∀ el, env.element_Size el = u32 (el.size o)
  count : ∀ el c, env.element_Count el c = (u32 (el.count o), none, c)
  get : ∀ el c lvl hk, lvl < 2^64 → Pg el lvl c →
    env.element_Get el c (u64 lvl) hk (.key k) = mel_rGet c (el.get o cfg lvl k)
  set : ∀ el c lvl hk, lvl < 2^64 → Ps el lvl c →
    env.element_Set el c cfg.addr (u64 lvl) hk (.key k) (.val v) = mel_rESet c (el.set o cfg lvl k v c)
  remove : ∀ el c lvl hk, lvl < 2^64 → Pr el lvl c →
    env.element_Remove el c (u64 lvl) hk (.key k) = mel_rERemove c (el.remove o cfg lvl k c)
  newElem : ∀ c, env.newSingleElement c cfg.addr (.key k) (.val v) =
    (mel_cE (newSingleElement cfg.T cfg.addr k v c).1, none, (newSingleElement cfg.T cfg.addr k v c).2)
  inj : ∀ x, x.size < 2^32 → env.element_ofSingleElement (mel_cE x) = .single x
  asKNF : ∀ err, env.errors_As_KeyNotFoundError err = decide (err = .keyNotFound)
  eHashLevel : env.NewHashLevelErrorf = some .hashLevel
  eKeyNotFound : env.NewKeyNotFoundError = some .keyNotFound
  eCollisionLimit : env.NewCollisionLimitError = some .collisionLimit
  eElementCount : env.NewMapElementCountError = some .mapElementCount

def mel_PTrue {α : Type} : MElemF α → Nat → Ctx → Prop := fun _ _ _ => True

theorem EnvA.toOn {α : Type} {o : ElemsOps α} {cfg : MCfg} {k : MKey} {v : Elem}
    {env : Env (MElemF α) SV SW Ctx GE} (h : EnvA o cfg k v env) :
    EnvAOn o cfg k v env mel_PTrue mel_PTrue mel_PTrue where
  levels := h.levels
  climit := h.climit
  size := h.size
  count := h.count
  get := fun el c lvl hk hl _ => h.get el c lvl hk hl
  set := fun el c lvl hk hl _ => h.set el c lvl hk hl
  remove := fun el c lvl hk hl _ => h.remove el c lvl hk hl
  newElem := h.newElem
  inj := h.inj
  asKNF := h.asKNF
  eHashLevel := h.eHashLevel
  eKeyNotFound := h.eKeyNotFound
  eCollisionLimit := h.eCollisionLimit
  eElementCount := h.eElementCount

end Atree.TransEq

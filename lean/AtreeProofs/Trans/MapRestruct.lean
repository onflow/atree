import AtreeProofs.Trans.MapDescent
import AtreeProofs.Trans.MapSlabs
/-
  Set-up for `Props/TransMapRestruct*.lean`: the restructuring calls of the map descent -
  `MapMetaDataSlab.SplitChildSlab`, `MergeOrRebalanceChildSlab`, `OrderedMap.splitRoot`, `promoteChildAsNewRoot` - are
  PARAMETERS of the descent unit (`Gen/TransMapDescent.lean`, record `DRestruct`); they are translated by the unit of
  `Gen/TransMapSlabs.lean` (namespace `Atree.Gen.TransMap`).  This file instantiates the parameters with THAT
  generated code, run over the heap of the descent:

  * the two units have structurally identical records in different namespaces; the only real difference is the `elements`
    of a data slab: the descent carries the MODEL's `HkeyElems (MElems r)` (as the element layer does), the restructuring
    unit the generated `hkeyElements` record (`cH`: digests / size / level as machine integers).  `mr_toM` / `mr_fromM`
    convert a stored slab between the two (field by field; `mr_dH` = inverse of `cH`, exact on `uint` ranges:
    `mr_dH_cH`).
  * `envMH T`: the parameters of the restructuring unit over the heap `MHSt r` of the descent: `Store` converts the slab it is
    handed with `mr_fromM` and stores it, `Retrieve` converts what it finds with `mr_toM`; `GenerateSlabID` / `Remove` as in
    `envD`; element sizes, thresholds, error classes as in `envMap` (Trans/MapSlabs.lean); the two lend decisions
    (`MapSlab.CanLendToLeft / Right`: translated by the integer engine, `Gen/Trans.lean`) are the model's on the decoded slab.
  * `rsOf T`: the record `DRestruct r` built from the four GENERATED functions (a run-time panic `none` of the generated
    code is mapped to the error value `goPanic` with nothing changed; the theorems show `some`).
-/
namespace Atree.TransEq
open Atree

abbrev ME (r : Nat) := MElemF (MElems r)
abbrev MSlabM (r : Nat) := Gen.TransMap.MapSlab (ME r) SV DX
abbrev MEnvM (r : Nat) := Gen.TransMap.Env (ME r) SV SW DX (MHSt r) GE

/-- inverse of `cH` (exact when size `< 2^32`, digests and level `< 2^64`) -/
def mr_dH {α : Type} (e : Gen.TransMap.hkeyElements (MElemF α)) : HkeyElems α :=
  { hkeys := e.hkeys.map (·.toNat), elems := e.elems, size := e.size.toNat, level := e.level.toNat }

/-- the `uint` ranges on which `cH` is injective -/
structure mr_HFit {α : Type} (e : HkeyElems α) : Prop where
  size : e.size < 2^32
  level : e.level < 2^64
  dig : ∀ h ∈ e.hkeys, h < 2^64

theorem mr_dH_cH {α : Type} (e : HkeyElems α) (h : mr_HFit e) : mr_dH (cH e) = e := by
  obtain ⟨hkeys, elems, size, level⟩ := e
  simp only [mr_dH, cH, u64s_map_toNat hkeys h.dig, u32_toNat h.size, u64_toNat h.level]

/-- `MapSlabHeader` of the restructuring unit -> of the descent unit, and back (field by field) -/
def mr_hdrD (h : Gen.TransMap.MapSlabHeader) : Gen.TransMapD.MapSlabHeader :=
  { slabID := h.slabID, size := h.size, firstKey := h.firstKey }
def mr_hdrM (h : Gen.TransMapD.MapSlabHeader) : Gen.TransMap.MapSlabHeader :=
  { slabID := h.slabID, size := h.size, firstKey := h.firstKey }

@[simp] theorem mr_hdrD_hdrM (h : Gen.TransMapD.MapSlabHeader) : mr_hdrD (mr_hdrM h) = h := rfl
@[simp] theorem mr_hdrM_hdrD (h : Gen.TransMap.MapSlabHeader) : mr_hdrM (mr_hdrD h) = h := rfl
@[simp] theorem mr_hdrD_cHdr (h : MHdr) : mr_hdrD (cHdr h) = md_hdr h := rfl
@[simp] theorem mr_hdrM_md_hdr (h : MHdr) : mr_hdrM (md_hdr h) = cHdr h := rfl

def mr_metaD (m : Gen.TransMap.MapMetaDataSlab DX) : Gen.TransMapD.MapMetaDataSlab DX :=
  { header := mr_hdrD m.header, childrenHeaders := m.childrenHeaders.map mr_hdrD, extraData := m.extraData }
def mr_metaM (m : Gen.TransMapD.MapMetaDataSlab DX) : Gen.TransMap.MapMetaDataSlab DX :=
  { header := mr_hdrM m.header, childrenHeaders := m.childrenHeaders.map mr_hdrM, extraData := m.extraData }

theorem mr_metaD_metaM (m : Gen.TransMapD.MapMetaDataSlab DX) : mr_metaD (mr_metaM m) = m := by
  obtain ⟨h, ch, x⟩ := m
  simp [mr_metaD, mr_metaM, List.map_map, Function.comp_def]

theorem mr_metaD_cMeta {α : Type} (m : MMetaSlab α) (x : Option DX) : mr_metaD (cMeta m x) = md_meta m x := by
  simp [mr_metaD, cMeta, md_meta, List.map_map, Function.comp_def]

theorem mr_metaM_md_meta {α : Type} (m : MMetaSlab α) (x : Option DX) : mr_metaM (md_meta m x) = cMeta m x := by
  simp [mr_metaM, cMeta, md_meta, List.map_map, Function.comp_def]

/-- a data slab of the descent (model elements) as a data slab of the restructuring unit (generated `hkeyElements`) -/
def mr_dataM {r : Nat} (d : Gen.TransMapD.MapDataSlab (DG r) DX) : Gen.TransMap.MapDataSlab (ME r) SV DX :=
  { next := d.next, header := mr_hdrM d.header, elements := .hkey (cH d.elements), extraData := d.extraData,
    anySize := d.anySize, collisionGroup := d.collisionGroup, inlined := d.inlined }

/-- back; the `elements` of a data slab of the tree are always an `hkeyElements` (a `singleElements` / nil value decodes to
    the empty table: never produced by the restructuring code on slabs of the tree) -/
def mr_dataD {r : Nat} (d : Gen.TransMap.MapDataSlab (ME r) SV DX) : Gen.TransMapD.MapDataSlab (DG r) DX :=
  { next := d.next, header := mr_hdrD d.header,
    elements := (match d.elements with
      | .hkey e => mr_dH e
      | _ => { hkeys := [], elems := [], size := 0, level := 0 }),
    extraData := d.extraData, anySize := d.anySize, collisionGroup := d.collisionGroup, inlined := d.inlined }

def mr_toM {r : Nat} : DSlab r → MSlabM r
  | .nil => .nil
  | .dataSlab d => .dataSlab (mr_dataM d)
  | .metaSlab m => .metaSlab (mr_metaM m)

def mr_fromM {r : Nat} : MSlabM r → DSlab r
  | .nil => .nil
  | .dataSlab d => .dataSlab (mr_dataD d)
  | .metaSlab m => .metaSlab (mr_metaD m)

/-- the translations of the two units agree on every model slab: `cData` / `cMeta` / `cTree` are `mr_toM` of the
    descent's `md_data` / `md_meta` / `md_tree` -/
theorem mr_toM_data {r : Nat} (s : MDataSlab r) (x : Option DX) :
    mr_toM (.dataSlab (md_data s x) : DSlab r) = .dataSlab (cData s x) := rfl

theorem mr_toM_meta {r : Nat} {α : Type} (m : MMetaSlab α) (x : Option DX) :
    mr_toM (.metaSlab (md_meta m x) : DSlab r) = .metaSlab (cMeta m x) := by
  show Gen.TransMap.MapSlab.metaSlab (mr_metaM (md_meta m x)) = _
  rw [mr_metaM_md_meta]

theorem mr_toM_md_tree_none {r : Nat} (d : Nat) (t : MTree r d) : mr_toM (md_tree d t none) = cTree d t := by
  cases d with
  | zero => rfl
  | succ d => exact mr_toM_meta (t : MMetaSlab (MTree r d)) none

/-- `uint` ranges of the data slabs of a (sub)tree root: what the way back needs -/
def mr_RootFit {r : Nat} : (d : Nat) → MTree r d → Prop
  | 0, (s : MDataSlab r) => mr_HFit s.elems
  | _ + 1, _ => True

theorem mr_fromM_cData {r : Nat} (s : MDataSlab r) (x : Option DX) (h : mr_HFit s.elems) :
    mr_fromM (.dataSlab (cData s x)) = (.dataSlab (md_data s x) : DSlab r) := by
  simp only [mr_fromM, mr_dataD, cData, md_data, mr_dH_cH s.elems h, mr_hdrD_cHdr]

theorem mr_fromM_cMeta {r : Nat} {α : Type} (m : MMetaSlab α) (x : Option DX) :
    mr_fromM (.metaSlab (cMeta m x)) = (.metaSlab (md_meta m x) : DSlab r) := by
  simp only [mr_fromM, mr_metaD_cMeta]

/-- the way back is exact on the translation of a model slab whose data-slab fields are in range -/
theorem mr_fromM_cTree {r : Nat} (d : Nat) (t : MTree r d) (h : mr_RootFit d t) :
    mr_fromM (cTree d t) = md_tree d t none := by
  cases d with
  | zero => exact mr_fromM_cData (t : MDataSlab r) none h
  | succ d => exact mr_fromM_cMeta (t : MMetaSlab (MTree r d)) none

/-- the model slab a stored data slab of the restructuring unit stands for (for the two lend decisions) -/
def mr_modelData {r : Nat} (d : Gen.TransMap.MapDataSlab (ME r) SV DX) : MDataSlab r :=
  { hdr := { id := d.header.slabID, size := d.header.size.toNat, firstKey := d.header.firstKey.toNat },
    next := d.next, elems := (mr_dataD d).elements, root := d.extraData.isSome, inlined := d.inlined }

/-- `MapSlab.CanLendToLeft` (`back = false`) / `CanLendToRight` (`back = true`): the model's decisions on the decoded slab
    (the Go functions are translated by the integer engine: `TransEq.MapDataSlab_CanLendTo*_eq_model`,
    `MapMetaDataSlab_CanLendTo*_eq_model`).  An index slab is decoded with its header only (`childHdrs := []`):
    `MMetaSlab.canLend` reads `hdr.size` and nothing else. -/
def mr_canLend {r : Nat} (T : Nat) (back : Bool) : MSlabM r → UInt32 → Bool
  | .nil, _ => false
  | .dataSlab d, n => HkeyElems.canLend (MElems.ops r) T (mr_modelData d).elems n.toNat back
  | .metaSlab m, n =>
    MMetaSlab.canLend T ({ hdr := { id := m.header.slabID, size := m.header.size.toNat, firstKey := m.header.firstKey.toNat },
                           childHdrs := [], children := ([] : List Unit), root := false } : MMetaSlab Unit) n.toNat

/-- the parameters of the restructuring unit over the heap of the descent -/
def envMH {r : Nat} (T : Nat) : MEnvM r where
  Digester_Levels := u64 (r + 1)
  MapSlab_CanLendToLeft := mr_canLend T false
  MapSlab_CanLendToRight := mr_canLend T true
  NewHashLevelErrorf := some .hashLevel
  NewKeyNotFoundError := some .keyNotFound
  NewNotApplicableError := some .notApplicable
  NewSlabDataErrorf := some .goPanic
  NewSlabMergeError := some .slabMerge
  NewSlabNotFoundErrorf := some .slabNotFound
  NewSlabRebalanceError := some .slabRebalance
  NewSlabRebalanceErrorf := some .slabRebalance
  NewSlabSplitErrorf := some .slabSplit
  SlabStorage_GenerateSlabID := fun s a => ((s.ctx.alloc a).1, none, s.withCtx (s.ctx.alloc a).2)
  SlabStorage_Remove := fun s id => (none, s.remove id)
  SlabStorage_Retrieve := fun s id => match s.heap id with
    | some v => (mr_toM v, true, none, s)
    | none => (.nil, false, none, s)
  SlabStorage_Store := fun s id v => (none, s.store id (mr_fromM v))
  Storable_ByteSize := fun x => match x with | .key k => u32 k.size | .val v => u32 v.size
  ValueComparator := fun s _ _ => (false, none, s)
  Value_Storable := fun _ s _ _ => (none, none, s)
  element_Size := fun el => u32 (el.size (MElems.ops r))
  maxInlineMapValueSize := fun n => u32 (maxInlineMapValue T n.toNat)
  minThreshold := u32 (minThr T)
  newSingleElement := fun s _ _ _ => ({ key := none, value := none }, none, s)
  wrapErrorfAsExternalErrorIfNeeded := id

/-- the element sizes / thresholds / error classes of `envMH` are the model's (what the storage-free theorems need) -/
theorem envMH_EnvH {r : Nat} (T : Nat) : EnvH (MElems.ops r) T (envMH (r := r) T) where
  size := fun _ => rfl
  minThr := rfl
  eMerge := rfl
  eRebalance := rfl
  eRebalancef := rfl
  eSplit := rfl
  eNotApplicable := rfl

section envMHFields
variable {r : Nat} (T : Nat)
@[simp] theorem envMH_gen (s : MHSt r) (a : Nat) :
    (envMH T).SlabStorage_GenerateSlabID s a = ((s.ctx.alloc a).1, none, s.withCtx (s.ctx.alloc a).2) := rfl
@[simp] theorem envMH_store (s : MHSt r) (id : SlabID) (v : MSlabM r) :
    (envMH T).SlabStorage_Store s id v = (none, s.store id (mr_fromM v)) := rfl
@[simp] theorem envMH_remove (s : MHSt r) (id : SlabID) : (envMH T).SlabStorage_Remove s id = (none, s.remove id) := rfl
@[simp] theorem envMH_retrieve (s : MHSt r) (id : SlabID) :
    (envMH T).SlabStorage_Retrieve s id = match s.heap id with
      | some v => (mr_toM v, true, none, s)
      | none => (.nil, false, none, s) := rfl
@[simp] theorem envMH_wrap (e : Option GE) : (envMH (r := r) T).wrapErrorfAsExternalErrorIfNeeded e = e := rfl
@[simp] theorem envMH_snf : (envMH (r := r) T).NewSlabNotFoundErrorf = some .slabNotFound := rfl
@[simp] theorem envMH_sde : (envMH (r := r) T).NewSlabDataErrorf = some .goPanic := rfl
@[simp] theorem envMH_canL : (envMH (r := r) T).MapSlab_CanLendToLeft = mr_canLend T false := rfl
@[simp] theorem envMH_canR : (envMH (r := r) T).MapSlab_CanLendToRight = mr_canLend T true := rfl

/-- the heap reading of the statements for any storage: `Store` writes the descent's record of the slab -/
theorem envMH_ok : MStoreOK (envMH (r := r) T) := ⟨fun _ _ _ => rfl, fun _ _ => rfl⟩
theorem envMH_ctxOf : MCtxOf (envMH (r := r) T) MHSt.ctx MHSt.withCtx :=
  ⟨fun _ _ => rfl, fun _ _ => rfl, fun _ _ _ => rfl⟩
theorem envMH_mstored (s : MHSt r) (id : SlabID) (v : MSlabM r) :
    mstored (envMH T) s id v = s.store id (mr_fromM v) := rfl
theorem envMH_mremoved (s : MHSt r) (id : SlabID) : mremoved (envMH (r := r) T) s id = s.remove id := rfl
end envMHFields

/-- a map handle of the descent unit as a handle of the restructuring unit, and back -/
def mr_mapM {r : Nat} (m : DMap r) : Gen.TransMap.OrderedMap (ME r) SV DX (MHSt r) :=
  { Storage := m.Storage, root := mr_toM m.root }
def mr_mapD {r : Nat} (m : Gen.TransMap.OrderedMap (ME r) SV DX (MHSt r)) : DMap r :=
  { Storage := m.Storage, root := mr_fromM m.root, digesterBuilder := () }

/-- THE RESTRUCTURING RECORD OF THE DESCENT, built from the generated code of `Gen/TransMapSlabs.lean` over the heap -/
def rsOf {r : Nat} (T : Nat) : DRestruct r where
  splitChild := fun m s child i =>
    match Gen.TransMap.MapMetaDataSlab_SplitChildSlab (envMH T) (mr_metaM m) s (mr_toM child) i with
    | some q => (q.1, mr_metaD q.2.1, q.2.2.1, mr_fromM q.2.2.2)
    | none => (some .goPanic, m, s, child)
  mergeOrRebalance := fun m s child i u =>
    match Gen.TransMap.MapMetaDataSlab_MergeOrRebalanceChildSlab (envMH T) (mr_metaM m) s (mr_toM child) i u with
    | some q => (q.1, mr_metaD q.2.1, q.2.2.1, mr_fromM q.2.2.2)
    | none => (some .goPanic, m, s, child)
  splitRoot := fun m =>
    match Gen.TransMap.OrderedMap_splitRoot (envMH T) (mr_mapM m) with
    | some q => (q.1, mr_mapD q.2)
    | none => (some .goPanic, m)
  promote := fun m id =>
    match Gen.TransMap.OrderedMap_promoteChildAsNewRoot (envMH T) (mr_mapM m) id with
    | some q => (q.1, mr_mapD q.2)
    | none => (some .goPanic, m)

end Atree.TransEq

import AtreeModel.Gen.TransMapSlabs
import AtreeModel.Map.Tree
import AtreeProofs.Trans.GoPrims
import AtreeProofs.ListAt
/-
  Set-up for the equivalence proofs between the GENERATED full translation of the slab-level restructuring code of
  the maps (`AtreeModel/Gen/TransMapSlabs.lean`, namespace `Atree.Gen.TransMap`, written by the object engine of
  harness/cmd/gotrans on every run) and the hand-written model (`AtreeModel/Map/Elems.lean`, `Tree.lean`):
  the translation of model values into the generated records (`cH`, `cHdr`, `cMeta`, `cData`, `cTree`), what is assumed
  of the environment (`EnvH`), and the slice helpers of slice_utils.go by their effect on lists.
-/
namespace Atree.TransEq
open Atree Atree.Gen.TransMap

/-- `split(s, n)` = `(s[:n], s[n:])` when `0 ≤ n ≤ len(s)` -/
theorem msl_split_eq {α : Type} (s : List α) (n : Nat) (h : n ≤ s.length) :
    split s (Int.ofNat n) = some (s.take n, s.drop n) := by
  simp only [split, goSlice_eq, goSlicesDelete_eq, sliceOf_from s h, sliceDelete_tail s h]

/-- `split(s, n)` panics when `n > len(s)` -/
theorem msl_split_panics {α : Type} (s : List α) (n : Nat) (h : s.length < n) :
    split s (Int.ofNat n) = none := by
  have hn : ¬ n ≤ s.length := by omega
  simp [split, goSlice, hn]

/-- `merge(left, right)` = `left ++ right` (the cleared `right` is dead, see `deadAfterCall`) -/
theorem msl_merge_eq {α : Type} (l r : List α) : merge l r = l ++ r := rfl

/-- `lendToRight(left, right, c)` moves the last `c` elements of `left` in front of `right` -/
theorem msl_lendToRight_eq {α : Type} (l r : List α) (c : Nat) (h : c ≤ l.length) :
    lendToRight l r (Int.ofNat c) = some (l.take (l.length - c), l.drop (l.length - c) ++ r) := by
  have e : Int.ofNat l.length - Int.ofNat c = Int.ofNat (l.length - c) := by
    simp only [Int.ofNat_eq_natCast]; omega
  have hle : l.length - c ≤ l.length := Nat.sub_le _ _
  simp only [lendToRight, e, goSlice_eq, goSlicesInsert_eq, goSlicesDelete_eq, sliceOf_from l hle, sliceInsert_front,
    sliceDelete_tail l hle]

/-- `borrowFromRight(left, right, c)` moves the first `c` elements of `right` behind `left` -/
theorem msl_borrowFromRight_eq {α : Type} (l r : List α) (c : Nat) (h : c ≤ r.length) :
    borrowFromRight l r (Int.ofNat c) = some (l ++ r.take c, r.drop c) := by
  have z : sliceOf r none (some (0 : Int)) = some [] := by
    have := sliceOf_to r (Nat.zero_le r.length)
    simpa using this
  simp only [borrowFromRight, goSlice_eq, goSlicesInsert_eq, sliceOf_to r h, z, sliceOf_from r h, sliceInsert_front,
    List.append_nil]

/-- the error payload of the generated code is the model's error class -/
abbrev GE := MErr

/-- `hkeyElements` of the model as the generated record: the elements themselves are the model's (`E := MElemF α`,
    observed through `element.Size()` only), digests / size / level as machine integers -/
def cH {α : Type} (e : HkeyElems α) : hkeyElements (MElemF α) :=
  { hkeys := u64s e.hkeys, elems := e.elems, size := u32 e.size, level := u64 e.level }

theorem cH_hkeys {α : Type} (e : HkeyElems α) : (cH e).hkeys = u64s e.hkeys := rfl
theorem cH_elems {α : Type} (e : HkeyElems α) : (cH e).elems = e.elems := rfl
theorem cH_size {α : Type} (e : HkeyElems α) : (cH e).size = u32 e.size := rfl
theorem cH_level {α : Type} (e : HkeyElems α) : (cH e).level = u64 e.level := rfl

/-- what the theorems assume of the parameters of the generated code: `element.Size()` is the model's element size,
    `minThreshold` the model's, every error constructor yields its class -/
structure EnvH {α V W X S : Type} (o : ElemsOps α) (T : Nat) (env : Env (MElemF α) V W X S GE) : Prop where
  size : ∀ msl_el, env.element_Size msl_el = u32 (msl_el.size o)
  minThr : env.minThreshold = u32 (minThr T)
  eMerge : env.NewSlabMergeError = some .slabMerge
  eRebalance : env.NewSlabRebalanceError = some .slabRebalance
  eRebalancef : env.NewSlabRebalanceErrorf = some .slabRebalance
  eSplit : env.NewSlabSplitErrorf = some .slabSplit
  eNotApplicable : env.NewNotApplicableError = some .notApplicable

def cHdr (h : MHdr) : MapSlabHeader := { slabID := h.id, size := u32 h.size, firstKey := u64 h.firstKey }

/-- `MapMetaDataSlab` of the model as the generated record.  The generated record has no children (they live in the
    storage); `x` = its `extraData` pointer, which the model does not carry. -/
def cMeta {α X : Type} (m : MMetaSlab α) (x : Option X) : MapMetaDataSlab X :=
  { header := cHdr m.hdr, childrenHeaders := m.childHdrs.map cHdr, extraData := x }

/-- `MapDataSlab` of the slab tree (size-limited: `anySize = collisionGroup = false`) as the generated record -/
def cData {r : Nat} {V X : Type} (s : MDataSlab r) (x : Option X) : MapDataSlab (MElemF (MElems r)) V X :=
  { next := s.next, header := cHdr s.hdr, elements := .hkey (cH s.elems), extraData := x,
    anySize := false, collisionGroup := false, inlined := s.inlined }

/-- a subtree root as the generated `MapSlab` value (non-root slabs carry no extra data) -/
def cTree {r : Nat} {V X : Type} : (d : Nat) → MTree r d → MapSlab (MElemF (MElems r)) V X
  | 0, (s : MDataSlab r) => .dataSlab (cData s none)
  | _ + 1, (m : MMetaSlab _) => .metaSlab (cMeta m none)

/-- the slab storage as the model sees it: the state is the model's `Ctx` (allocation counter + effect log);
    `GenerateSlabID` = `Ctx.alloc`, `Store` / `Remove` append their effect and never fail; the error wrapper is the
    identity on the (already categorised) errors that occur -/
structure EnvS {E V W X : Type} (env : Env E V W X Ctx GE) : Prop where
  gen : ∀ c a, env.SlabStorage_GenerateSlabID c a = ((c.alloc a).1, none, (c.alloc a).2)
  store : ∀ c id slab, env.SlabStorage_Store c id slab = (none, c.emit (.store id))
  remove : ∀ c id, env.SlabStorage_Remove c id = (none, c.emit (.remove id))
  wrapNone : env.wrapErrorfAsExternalErrorIfNeeded none = none

/-! ### any storage

  The generated restructuring code uses the storage through `Store`, `Remove`, `GenerateSlabID` and `Retrieve` only.
  Every function is stated once, for any storage type `S` and any environment whose `Store` / `Remove` return no error
  (`MStoreOK`); the storage after a call is written with the environment's own `Store` (`mstored`).  The statement
  for the storage that only logs (`EnvS`, `S := Ctx`: `EnvS.mstored`) and the one for the heap of the descent (`envMH`,
  Trans/MapRestruct.lean: `envMH_mstored`) are then two readings of one equation. -/
section anyStorage
variable {E V W X S ε : Type} (env : Env E V W X S ε)

/-- the storage after `Store(id, v)` -/
def mstored (s : S) (id : SlabID) (v : MapSlab E V X) : S := (env.SlabStorage_Store s id v).2
/-- the storage after `Remove(id)` -/
def mremoved (s : S) (id : SlabID) : S := (env.SlabStorage_Remove s id).2

/-- `Store` and `Remove` return no error -/
structure MStoreOK : Prop where
  store : ∀ s id v, (env.SlabStorage_Store s id v).1 = none
  remove : ∀ s id, (env.SlabStorage_Remove s id).1 = none

/-- `ctx` reads the model's `Ctx` off a storage and `setCtx` writes one back: `GenerateSlabID` is `Ctx.alloc` on it -/
structure MCtxOf (ctx : S → Ctx) (setCtx : S → Ctx → S) : Prop where
  gen : ∀ s a, env.SlabStorage_GenerateSlabID s a = (((ctx s).alloc a).1, none, setCtx s ((ctx s).alloc a).2)
  ctx_set : ∀ s c, ctx (setCtx s c) = c
  set_set : ∀ s a b, setCtx (setCtx s a) b = setCtx s b

variable {env}

/-- `storeSlab(storage, slab)`: the slab is stored under its own identifier, no error -/
theorem MStoreOK.storeSlab (h : MStoreOK env) (s : S) (v : MapSlab E V X) (id : SlabID)
    (hid : MapSlab_SlabID env v = some id) : Gen.TransMap.storeSlab env s v = some (none, mstored env s id v) := by
  simp only [Gen.TransMap.storeSlab, hid, h.store, Option.isNone_none, Bool.not_true, Bool.false_eq_true, if_false, mstored]

theorem MStoreOK.storeSlab_meta (h : MStoreOK env) (s : S) (m : MapMetaDataSlab X) :
    Gen.TransMap.storeSlab env s (.metaSlab m) = some (none, mstored env s m.header.slabID (.metaSlab m)) :=
  h.storeSlab s _ _ rfl

theorem MStoreOK.storeSlab_data (h : MStoreOK env) (s : S) (m : MapDataSlab E V X) :
    Gen.TransMap.storeSlab env s (.dataSlab m) = some (none, mstored env s m.header.slabID (.dataSlab m)) :=
  h.storeSlab s _ _ rfl

theorem MStoreOK.remove_eq (h : MStoreOK env) (s : S) (id : SlabID) :
    env.SlabStorage_Remove s id = (none, mremoved env s id) :=
  Prod.ext (h.remove s id) rfl

end anyStorage

theorem EnvS.ok {E V W X : Type} {env : Env E V W X Ctx GE} (hS : EnvS env) : MStoreOK env :=
  ⟨fun c id v => by rw [hS.store], fun c id => by rw [hS.remove]⟩

theorem EnvS.ctxOf {E V W X : Type} {env : Env E V W X Ctx GE} (hS : EnvS env) : MCtxOf env id (fun _ c => c) :=
  ⟨hS.gen, fun _ _ => rfl, fun _ _ _ => rfl⟩

theorem EnvS.mstored {E V W X : Type} {env : Env E V W X Ctx GE} (hS : EnvS env) (c : Ctx) (id : SlabID)
    (v : MapSlab E V X) : mstored env c id v = c.emit (.store id) := by rw [Atree.TransEq.mstored, hS.store]

theorem EnvS.mremoved {E V W X : Type} {env : Env E V W X Ctx GE} (hS : EnvS env) (c : Ctx) (id : SlabID) :
    mremoved env c id = c.emit (.remove id) := by rw [Atree.TransEq.mremoved, hS.remove]

/-- the parameters of the generated code instantiated with the model: element sizes by `o`, thresholds of `T`, the
    model's error classes, the model's `Ctx` as slab storage (an empty heap: `Retrieve` finds nothing) -/
def envMap {α : Type} (o : ElemsOps α) (T L : Nat) : Env (MElemF α) Unit Unit Unit Ctx GE where
  Digester_Levels := u64 L
  MapSlab_CanLendToLeft := fun _ _ => false
  MapSlab_CanLendToRight := fun _ _ => false
  NewHashLevelErrorf := some .hashLevel
  NewKeyNotFoundError := some .keyNotFound
  NewNotApplicableError := some .notApplicable
  NewSlabDataErrorf := some .modelMismatch
  NewSlabMergeError := some .slabMerge
  NewSlabNotFoundErrorf := some .slabNotFound
  NewSlabRebalanceError := some .slabRebalance
  NewSlabRebalanceErrorf := some .slabRebalance
  NewSlabSplitErrorf := some .slabSplit
  SlabStorage_GenerateSlabID := fun c a => ((c.alloc a).1, none, (c.alloc a).2)
  SlabStorage_Remove := fun c id => (none, c.emit (.remove id))
  SlabStorage_Retrieve := fun c _ => (.nil, false, none, c)
  SlabStorage_Store := fun c id _ => (none, c.emit (.store id))
  Storable_ByteSize := fun _ => 0
  ValueComparator := fun c _ _ => (false, none, c)
  Value_Storable := fun _ c _ _ => (none, none, c)
  element_Size := fun msl_el => u32 (msl_el.size o)
  maxInlineMapValueSize := fun x => x
  minThreshold := u32 (minThr T)
  newSingleElement := fun c _ _ _ => ({ key := none, value := none }, none, c)
  wrapErrorfAsExternalErrorIfNeeded := id

theorem envMap_EnvH {α : Type} (o : ElemsOps α) (T L : Nat) : EnvH o T (envMap o T L) where
  size := fun _ => rfl
  minThr := rfl
  eMerge := rfl
  eRebalance := rfl
  eRebalancef := rfl
  eSplit := rfl
  eNotApplicable := rfl

theorem envMap_EnvS {α : Type} (o : ElemsOps α) (T L : Nat) : EnvS (envMap o T L) where
  gen := fun _ _ => rfl
  store := fun _ _ _ => rfl
  remove := fun _ _ => rfl
  wrapNone := rfl

theorem msl_cmap_insertIdx {β γ : Type} (f : β → γ) (l : List β) (i : Nat) (v : β) :
    (l.insertIdx i v).map f = (l.map f).insertIdx i (f v) :=
  map_insertIdx f l i v

theorem msl_u64s_take (l : List Nat) (n : Nat) : (u64s l).take n = u64s (l.take n) := u64s_take l n
theorem msl_u64s_drop (l : List Nat) (n : Nat) : (u64s l).drop n = u64s (l.drop n) := u64s_drop l n
theorem msl_u64s_append (a b : List Nat) : u64s a ++ u64s b = u64s (a ++ b) := u64s_append a b

end Atree.TransEq

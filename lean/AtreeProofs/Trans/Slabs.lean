import AtreeModel.Array.Tree
import AtreeModel.Gen.Trans
import AtreeModel.Gen.TransSlabs
import AtreeProofs.Trans.GoPrims
import AtreeProofs.Trans.Loops
/-
  Set-up for `Props/TransSlabs*.lean`, and the leaf functions of the slab engine as the stateless engine's
  (`Sl_*_eq_stateless`, last section).  The set-up: the instantiation of the parameters (`Env`) of the generated array-slab
  functions (`Gen/TransSlabs.lean`, regenerated from slice_utils.go / array_data_slab.go / array_metadata_slab.go /
  array.go on every run by the slab engine of gotrans) with the components of the hand-written model
  (`AtreeModel/Array/Slab.lean`, `Tree.lean`), and the translation of model slabs into generated records.

  * type parameters: a `Storable` payload and a `Value` payload are the model's `Elem`, extra data is `Unit` (only its
    presence matters), an error is the model's error class `AErr`, the `SlabStorage` is the model's `Ctx` (allocation
    counter + effect log), the world behind an `ArrayPopIterationFunc` is the list of elements handed to it.
  * `envA T look`: `Storable.ByteSize` is the element's size as `uint32`; `Value.Storable` is the model's `toStorable`
    with the size limit IT IS PASSED; `GenerateSlabID` / `Store` / `Remove` are `Ctx.alloc` / `emit (.store ..)` /
    `emit (.remove ..)` and never fail (the model has no failing storage: what a failing call leaves behind is stated
    by the `*_storeError` theorems for ANY environment); `getArraySlab` looks the identifier up in `look`.
  * `trHdr`, `trData`, `trMeta`, `trTree`: a model slab as the generated record (`uint32` sizes and counts, elements
    under `some`, extra data present iff root).
-/
namespace Atree.TransEq
open Atree Atree.Gen

/-- the generated records over the model's element type -/
abbrev GData := TransSl.ArrayDataSlab Elem Unit
abbrev GMeta := TransSl.ArrayMetaDataSlab Unit
abbrev GSlab := TransSl.ArraySlabV Elem Unit
abbrev GHdr := TransSl.ArraySlabHeader
abbrev GArray := TransSl.Array Elem Unit Ctx
abbrev SEnv := TransSl.Env Elem Elem Unit AErr Ctx (List (Option Elem))

/-- the model's `toStorable` with the size limit as a parameter (`Value.Storable(storage, address, maxInlineSize)`) -/
def toStorableMax (mx : Nat) (addr : Nat) (v : Elem) (c : Ctx) : Elem × Ctx :=
  match v.pay with
  | .ref _ => (v, c)
  | .val _ =>
    if v.size > mx then
      let (id, c) := c.alloc addr
      ({ size := slabIDStorableSize, pay := .ref id },
       { (c.emit (.store id)) with created := c.created ++ [(id, v)] })
    else (v, c)

theorem toStorableMax_eq (T addr : Nat) (v : Elem) (c : Ctx) :
    toStorableMax (maxInlineArr T) addr v c = toStorable T addr v c := rfl

/-- `ArrayMetaDataSlab.childSlabIndexInfo` as a parameter of the slab engine: the translation of the STATELESS engine
    (`Gen/Trans.lean`, regenerated on every run, `TransEq.ArrayMetaDataSlab_childSlabIndexInfo_eq_model`) applied to the
    fields of the generated record; `childID = childHeader.slabID` (the statement that engine leaves out) is read off
    `childrenHeaders`; the error is `NewIndexOutOfBoundsError`.  As there, an index past the end of `childrenHeaders`
    (a Go panic) is not modelled. -/
def childInfoOf {ε : Type} (ioob : Option ε) (a : TransSl.ArrayMetaDataSlab Unit) (index : UInt64) :
    Int × UInt64 × SlabID × Option ε :=
  match Trans.ArrayMetaDataSlab_childSlabIndexInfo a.header.count a.childrenCountSum
      (a.childrenHeaders.map (·.count)) index with
  | none => (0, 0, SlabID.undef, ioob)
  | some (k, adj) => (k, adj, (a.childrenHeaders.getD k.toNat TransSl.ArraySlabHeader.zero).slabID, none)

/-- the parameters of the generated functions, from the model -/
def envA (T : Nat) (look : SlabID → Option GSlab) : SEnv where
  ArrayMetaDataSlab_childSlabIndexInfo := childInfoOf (some .indexOutOfBounds)
  Array_notifyParentIfNeeded a := (none, a)
  Array_setCallbackWithChild a _ _ _ := a
  Array_incrementIndexFrom a _ := (none, a)
  Array_decrementIndexFrom a _ := (none, a)
  NewArrayElementCannotExceedMaxElementCountError _ := some .maxElementCount
  Storable_StoredValue e c := (some e, none, c)
  ArrayPopIterationFunc_call acc e := acc ++ [e]
  NewIndexOutOfBoundsError _ _ _ := some .indexOutOfBounds
  NewSlabSplitErrorf := some .slabSplit
  SlabStorage_GenerateSlabID c addr := ((c.alloc addr).1, none, (c.alloc addr).2)
  SlabStorage_Remove c id := (none, c.emit (.remove id))
  SlabStorage_Store c id _ := (none, c.emit (.store id))
  Storable_ByteSize e := u32 e.size
  Value_Storable v c addr mx := (some (toStorableMax mx.toNat addr v c).1, none, (toStorableMax mx.toNat addr v c).2)
  getArraySlab c id := match look id with
    | some v => (some v, none, c)
    | none => (none, some .slabNotFound, c)
  maxInlineArrayElementSize := u32 (maxInlineArr T)
  maxThreshold := u32 (maxThr T)
  minThreshold := u32 (minThr T)
  wrapErrorfAsExternalErrorIfNeeded e := e

section envFields
variable (T : Nat) (look : SlabID → Option GSlab)
@[simp] theorem envA_call (acc : List (Option Elem)) (e : Option Elem) :
    (envA T look).ArrayPopIterationFunc_call acc e = acc ++ [e] := rfl
@[simp] theorem envA_ioob (a b c : UInt64) : (envA T look).NewIndexOutOfBoundsError a b c = some .indexOutOfBounds := rfl
@[simp] theorem envA_split : (envA T look).NewSlabSplitErrorf = some .slabSplit := rfl
@[simp] theorem envA_gen (c : Ctx) (addr : Nat) :
    (envA T look).SlabStorage_GenerateSlabID c addr = ((c.alloc addr).1, none, (c.alloc addr).2) := rfl
@[simp] theorem envA_remove (c : Ctx) (id : SlabID) : (envA T look).SlabStorage_Remove c id = (none, c.emit (.remove id)) := rfl
@[simp] theorem envA_store (c : Ctx) (id : SlabID) (v : Option GSlab) :
    (envA T look).SlabStorage_Store c id v = (none, c.emit (.store id)) := rfl
@[simp] theorem envA_byteSize (e : Elem) : (envA T look).Storable_ByteSize e = u32 e.size := rfl
@[simp] theorem envA_storable (v : Elem) (c : Ctx) (addr : Nat) (mx : UInt32) :
    (envA T look).Value_Storable v c addr mx =
      (some (toStorableMax mx.toNat addr v c).1, none, (toStorableMax mx.toNat addr v c).2) := rfl
@[simp] theorem envA_getArraySlab (c : Ctx) (id : SlabID) :
    (envA T look).getArraySlab c id = match look id with
      | some v => (some v, none, c)
      | none => (none, some .slabNotFound, c) := rfl
@[simp] theorem envA_maxInline : (envA T look).maxInlineArrayElementSize = u32 (maxInlineArr T) := rfl
@[simp] theorem envA_maxThreshold : (envA T look).maxThreshold = u32 (maxThr T) := rfl
@[simp] theorem envA_minThreshold : (envA T look).minThreshold = u32 (minThr T) := rfl
@[simp] theorem envA_wrap (e : Option AErr) : (envA T look).wrapErrorfAsExternalErrorIfNeeded e = e := rfl
end envFields

def trHdr (h : Hdr) : GHdr := { slabID := h.id, size := u32 h.size, count := u32 h.count }

def trExtra (root : Bool) : Option Unit := if root then some () else none

def trData (s : DataSlab) : GData :=
  { next := s.next, header := trHdr s.hdr, elements := s.elems.map some, extraData := trExtra s.root,
    inlined := s.inlined }

def trMeta {α : Type} (m : MetaSlab α) : GMeta :=
  { header := trHdr m.hdr, childrenHeaders := m.childHdrs.map trHdr, childrenCountSum := m.countSum.map u32,
    extraData := trExtra m.root }

/-- a model slab tree as the value of the Go interface `ArraySlab` (an index slab does not embed its children: Go
    reads them from storage) -/
def trTree : (d : Nat) → ATree d → GSlab
  | 0, (s : DataSlab) => .dataSlab (trData s)
  | _ + 1, (m : MetaSlab _) => .metaSlab (trMeta m)

@[simp] theorem trData_elements (s : DataSlab) : (trData s).elements = s.elems.map some := rfl
@[simp] theorem trData_header (s : DataSlab) : (trData s).header = trHdr s.hdr := rfl
@[simp] theorem trData_next (s : DataSlab) : (trData s).next = s.next := rfl
@[simp] theorem trData_inlined (s : DataSlab) : (trData s).inlined = s.inlined := rfl
@[simp] theorem trData_extraData (s : DataSlab) : (trData s).extraData = trExtra s.root := rfl
@[simp] theorem trHdr_slabID (h : Hdr) : (trHdr h).slabID = h.id := rfl
@[simp] theorem trHdr_size (h : Hdr) : (trHdr h).size = u32 h.size := rfl
@[simp] theorem trHdr_count (h : Hdr) : (trHdr h).count = u32 h.count := rfl
@[simp] theorem trMeta_header {α : Type} (m : MetaSlab α) : (trMeta m).header = trHdr m.hdr := rfl
@[simp] theorem trMeta_childrenHeaders {α : Type} (m : MetaSlab α) : (trMeta m).childrenHeaders = m.childHdrs.map trHdr := rfl
@[simp] theorem trMeta_childrenCountSum {α : Type} (m : MetaSlab α) : (trMeta m).childrenCountSum = m.countSum.map u32 := rfl
@[simp] theorem trMeta_extraData {α : Type} (m : MetaSlab α) : (trMeta m).extraData = trExtra m.root := rfl
@[simp] theorem trExtra_isSome (b : Bool) : (trExtra b).isSome = b := by cases b <;> rfl

/-! ### the slice primitives of `Gen.TransSl` on in-range arguments
They are the primitives of `Trans/Basic.lean` (`TransSl.goIdx_eq` …, `Trans/GoPrims.lean`), whose facts these are. -/

theorem goIdx_ofNat {α : Type} (l : List α) (i : Nat) : TransSl.goIdx l (Int.ofNat i) = l[i]? := by
  rw [TransSl.goIdx_eq]; exact sliceIdx_ofNat l i

theorem goIdx_map_some {α : Type} (l : List α) (i : Nat) :
    TransSl.goIdx (l.map some) (Int.ofNat i) = (l[i]?).map some := by
  rw [TransSl.goIdx_eq]; exact sliceIdx_map some l i

theorem goIdx_neg {α : Type} (l : List α) (i : Int) (h : i < 0) : TransSl.goIdx l i = none := if_pos h

theorem goSet_ofNat {α : Type} (l : List α) (i : Nat) (v : α) :
    TransSl.goSet l (Int.ofNat i) v = if i < l.length then some (l.set i v) else none := by
  rw [TransSl.goSet_eq]; exact sliceSet_ofNat l i v

theorem goSlice_ofNat {α : Type} (l : List α) (lo hi : Nat) :
    TransSl.goSlice l (Int.ofNat lo) (Int.ofNat hi) =
      if lo ≤ hi ∧ hi ≤ l.length then some ((l.drop lo).take (hi - lo)) else none := by
  rw [TransSl.goSlice_eq]; exact sliceRange_ofNat l lo hi

theorem goInsert_ofNat {α : Type} (l : List α) (i : Nat) (v : List α) :
    TransSl.goInsert l (Int.ofNat i) v = if i ≤ l.length then some (l.take i ++ v ++ l.drop i) else none := by
  rw [TransSl.goInsert_eq]; exact sliceInsert_ofNat l i v

theorem goDelete_ofNat {α : Type} (l : List α) (i j : Nat) :
    TransSl.goDelete l (Int.ofNat i) (Int.ofNat j) =
      if i ≤ j ∧ j ≤ l.length then some (l.take i ++ l.drop j) else none := by
  rw [TransSl.goDelete_eq]; exact sliceDelete_ofNat l i j

/-- `slices.Insert(s, i, v)` of ONE element is the model's `insertIdx` -/
theorem take_cons_drop_eq_insertIdx {α : Type} (l : List α) (i : Nat) (v : α) (h : i ≤ l.length) :
    l.take i ++ [v] ++ l.drop i = l.insertIdx i v := by
  rw [insertIdx_eq h]; simp

/-- `slices.Delete(s, i, i+1)` is the model's `eraseIdx` -/
theorem take_drop_succ_eq_eraseIdx {α : Type} (l : List α) (i : Nat) :
    l.take i ++ l.drop (i + 1) = l.eraseIdx i :=
  (List.eraseIdx_eq_take_drop_succ l i).symm

/-! ### any environment

  The generated functions read their environment through its fields only, and `envA` differs from the heap environment
  `envH` (Trans/Descent.lean) in the storage fields alone.  What the index-slab layer needs of an environment is stated
  here once, for every `env` over the model's element type: the dispatchers on `trTree`, and `storeSlab` over a storage
  whose operations do not fail (`StoreOK`). -/
section anyEnv
variable {S W : Type} (env : TransSl.Env Elem Elem Unit AErr S W)

theorem disp_SlabID_any (d : Nat) (t : ATree d) :
    TransSl.ArraySlab_SlabID env (trTree d t) = (ATree.hdr d t).id := by
  cases d <;> rfl

theorem disp_Header_any (d : Nat) (t : ATree d) :
    TransSl.ArraySlab_Header env (trTree d t) = trHdr (ATree.hdr d t) := by
  cases d <;> rfl

theorem disp_ByteSize_any (d : Nat) (t : ATree d) :
    TransSl.ArraySlab_ByteSize env (trTree d t) = u32 (ATree.hdr d t).size := by
  cases d <;> rfl

theorem disp_IsData_any (d : Nat) (t : ATree d) :
    TransSl.ArraySlab_IsData env (trTree d t) = decide (d = 0) := by
  cases d <;> rfl

theorem disp_SetSlabID_any (d : Nat) (t : ATree d) (id : SlabID) :
    TransSl.ArraySlab_SetSlabID env (trTree d t) id = trTree d (ATree.setId d t id) := by
  cases d <;> rfl

theorem disp_RemoveExtraData_any (d : Nat) (t : ATree d) :
    TransSl.ArraySlab_RemoveExtraData env (trTree d t) =
      (trExtra (ATree.isRoot d t), trTree d (ATree.setRoot d t false)) := by
  cases d <;> rfl

theorem disp_SetExtraData_any (d : Nat) (t : ATree d) (b : Bool) :
    TransSl.ArraySlab_SetExtraData env (trTree d t) (trExtra b) = trTree d (ATree.setRoot d t b) := by
  cases d <;> rfl

/-- the storage after `Store(id, v)` -/
def stored (s : S) (id : SlabID) (v : Option GSlab) : S := (env.SlabStorage_Store s id v).2
/-- the storage after `Remove(id)` -/
def removed (s : S) (id : SlabID) : S := (env.SlabStorage_Remove s id).2

/-- `Store` and `Remove` return no error (and a nil error is wrapped as nil) -/
structure StoreOK : Prop where
  store : ∀ s id v, (env.SlabStorage_Store s id v).1 = none
  remove : ∀ s id, (env.SlabStorage_Remove s id).1 = none
  wrap : env.wrapErrorfAsExternalErrorIfNeeded none = none

/-- `ctx` reads the model's `Ctx` off a storage: `Store` and `Remove` emit their effect -/
structure CtxOf (ctx : S → Ctx) : Prop where
  store : ∀ s id v, ctx (stored env s id v) = (ctx s).emit (.store id)
  remove : ∀ s id, ctx (removed env s id) = (ctx s).emit (.remove id)

/-- what the leaf operations read of an environment besides `Value.Storable`: element sizes, the bound error, a storage
    that does not fail -/
structure LeafEnv : Prop where
  ok : StoreOK env
  byteSize : ∀ e, env.Storable_ByteSize e = u32 e.size
  ioob : ∀ a b c, env.NewIndexOutOfBoundsError a b c = some .indexOutOfBounds

/-- `Value.Storable` at the inline limit is the model's `toStorable` on the `Ctx` that `ctx` reads off the storage and
    `setCtx` writes back -/
def StorableAs (T : Nat) (ctx : S → Ctx) (setCtx : S → Ctx → S) : Prop :=
  ∀ v s addr, env.Value_Storable v s addr env.maxInlineArrayElementSize =
    (some (toStorable T addr v (ctx s)).1, none, setCtx s (toStorable T addr v (ctx s)).2)

variable {env}

theorem StoreOK.remove_eq (h : StoreOK env) (s : S) (id : SlabID) :
    env.SlabStorage_Remove s id = (none, removed env s id) :=
  Prod.ext (h.remove s id) rfl

/-- `storeSlab(storage, slab)`: the slab is stored under its own identifier, no error -/
theorem StoreOK.storeSlab (h : StoreOK env) (s : S) (v : GSlab) :
    TransSl.storeSlab env s (some v) = some (none, stored env s (TransSl.ArraySlab_SlabID env v) (some v)) := by
  simp only [TransSl.storeSlab, h.store, Option.isSome_none, Bool.false_eq_true, if_false, stored]

theorem StoreOK.storeSlab_tree (h : StoreOK env) (s : S) (d : Nat) (t : ATree d) :
    TransSl.storeSlab env s (some (trTree d t)) = some (none, stored env s (ATree.hdr d t).id (some (trTree d t))) := by
  rw [h.storeSlab, disp_SlabID_any]

theorem StoreOK.storeSlab_meta (h : StoreOK env) (s : S) (a : GMeta) :
    TransSl.storeSlab env s (some (.metaSlab a)) = some (none, stored env s a.header.slabID (some (.metaSlab a))) :=
  h.storeSlab s _

end anyEnv

theorem storeOK_envA (T : Nat) (look) : StoreOK (envA T look) := ⟨fun _ _ _ => rfl, fun _ _ => rfl, rfl⟩
theorem ctxOf_envA (T : Nat) (look) : CtxOf (envA T look) id := ⟨fun _ _ _ => rfl, fun _ _ => rfl⟩
theorem leafEnv_envA (T : Nat) (look) : LeafEnv (envA T look) := ⟨storeOK_envA T look, fun _ => rfl, fun _ _ _ => rfl⟩
theorem storableAs_envA (T : Nat) (look) (hmax : maxInlineArr T < 2^32) :
    StorableAs (envA T look) T (fun c => c) (fun _ c => c) := fun v c addr => by
  rw [envA_storable, envA_maxInline, u32_toNat hmax]; rfl

/-! ### `storeSlab` and the dispatchers with the model's storage -/

theorem slabID_trTree (T : Nat) (look) (d : Nat) (t : ATree d) :
    TransSl.ArraySlab_SlabID (envA T look) (trTree d t) = (ATree.hdr d t).id :=
  disp_SlabID_any _ d t

/-- `storeSlab(storage, slab)` with the model's storage: one `store` effect, no error -/
theorem storeSlab_envA (T : Nat) (look) (c : Ctx) (v : GSlab) :
    TransSl.storeSlab (envA T look) c (some v) =
      some (none, c.emit (.store (TransSl.ArraySlab_SlabID (envA T look) v))) :=
  (storeOK_envA T look).storeSlab c v

theorem storeSlab_data (T : Nat) (look) (c : Ctx) (a : GData) :
    TransSl.storeSlab (envA T look) c (some (.dataSlab a)) = some (none, c.emit (.store a.header.slabID)) :=
  (storeOK_envA T look).storeSlab c _

theorem storeSlab_meta (T : Nat) (look) (c : Ctx) (a : GMeta) :
    TransSl.storeSlab (envA T look) c (some (.metaSlab a)) = some (none, c.emit (.store a.header.slabID)) :=
  (storeOK_envA T look).storeSlab c _

theorem map_some_insertIdx {α : Type} (l : List α) (i : Nat) (v : α) (h : i ≤ l.length) :
    List.take i (l.map some) ++ [some v] ++ List.drop i (l.map some) = (l.insertIdx i v).map some := by
  rw [take_cons_drop_eq_insertIdx _ _ _ (by simpa using h), map_insertIdx]

theorem map_some_eraseIdx {α : Type} (l : List α) (i : Nat) :
    List.take i (l.map some) ++ List.drop (i + 1) (l.map some) = (l.eraseIdx i).map some := by
  rw [← List.eraseIdx_eq_take_drop_succ, map_eraseIdx]

/-- `uint64(len(s))` -/
theorem u64_len (n : Nat) : UInt64.ofInt (Int.ofNat n) = u64 n := u64_ofInt n

theorem sumSizes_cons (e : Elem) (l : List Elem) : sumSizes (e :: l) = e.size + sumSizes l := Atree.sumSizes_cons e l
theorem sumSizes_append (a b : List Elem) : sumSizes (a ++ b) = sumSizes a + sumSizes b := Atree.sumSizes_append a b
theorem sumSizes_nil : sumSizes [] = 0 := rfl

/-! ### the leaf functions are the stateless engine's

  `ArrayDataSlab.CanLendToLeft / CanLendToRight / LendToRight / BorrowFromRight` of the slab engine and of the stateless
  engine (`Gen/Trans.lean`) are the same `uint32` program: the slab engine reads the element sizes through
  `Storable.ByteSize` and carries the records along.  On a leaf without nil elements the two agree for every environment
  and with no range condition, so what the numbers are in the model is a question about the stateless engine alone
  (Props/TransLoops.lean). -/

section stateless
variable {σ υ ξ ε S Φ : Type} (env : TransSl.Env σ υ ξ ε S Φ)

/-- the elements of a generated leaf are the payloads `es`, none of them nil -/
def ElementsAre (a : TransSl.ArrayDataSlab σ ξ) (es : List σ) : Prop := a.elements = es.map some

/-- the `ByteSize()` of the elements, as the stateless engine is given them -/
abbrev byteSizes (es : List σ) : List UInt32 := es.map env.Storable_ByteSize

theorem elementsAre_trData (s : DataSlab) : ElementsAre (trData s) s.elems := rfl

variable {env} in
theorem ElementsAre.idx {a : TransSl.ArrayDataSlab σ ξ} {A B : List σ} {x : σ} (h : ElementsAre a (A ++ x :: B)) :
    TransSl.goIdx a.elements (Int.ofNat A.length) = some (some x) := by
  rw [h, goIdx_map_some, get_at rfl]; rfl

theorem ElementsAre.length {a : TransSl.ArrayDataSlab σ ξ} {es : List σ} (h : ElementsAre a es) :
    a.elements.length = es.length := by
  rw [h, List.length_map]

/-- what `CanLendToLeft / CanLendToRight` make of the result of their loop (falling out of it: `return false`) -/
def loopOptB : TransSl.Loop (Option Bool) UInt32 → Option Bool
  | .ret r => r
  | .done _ => some false

theorem sl_canLendLeft_loop_eq (a : TransSl.ArrayDataSlab σ ξ) (size : UInt32) (B : List σ) :
    ∀ (A : List σ) (_ : ElementsAre a (A ++ B)) (j : Int) (ls : UInt32),
    loopOptB (TransSl.ArrayDataSlab_CanLendToLeft.loop1 env a size B.length (Int.ofNat A.length) ls) =
      some (loopBool (Trans.ArrayDataSlab_CanLendToLeft.loop1 a.header.size size env.minThreshold (byteSizes env B) j
        ls)) := by
  induction B with
  | nil => intros; rfl
  | cons x t ih =>
    intro A h j ls
    rw [List.length_cons, TransSl.ArrayDataSlab_CanLendToLeft.loop1, h.idx, byteSizes, List.map_cons,
      Trans.ArrayDataSlab_CanLendToLeft.loop1]
    dsimp only
    cases decide (a.header.size - (ls + env.Storable_ByteSize x) < env.minThreshold)
    · cases decide (ls + env.Storable_ByteSize x ≥ size)
      · have := ih (A ++ [x]) (by rwa [List.append_assoc]) (j + 1) (ls + env.Storable_ByteSize x)
        rwa [List.length_append] at this
      · rfl
    · rfl

theorem Sl_CanLendToLeft_eq_stateless (a : TransSl.ArrayDataSlab σ ξ) (es : List σ) (h : ElementsAre a es)
    (size : UInt32) :
    TransSl.ArrayDataSlab_CanLendToLeft env a size =
      some (Trans.ArrayDataSlab_CanLendToLeft a.header.size (byteSizes env es) size env.minThreshold) := by
  have hl : loopOptB (TransSl.ArrayDataSlab_CanLendToLeft.loop1 env a size es.length 0 0) = some (loopBool
      (Trans.ArrayDataSlab_CanLendToLeft.loop1 a.header.size size env.minThreshold (byteSizes env es) 0 0)) :=
    sl_canLendLeft_loop_eq env a size es [] h 0 0
  rw [TransSl.ArrayDataSlab_CanLendToLeft, Trans.ArrayDataSlab_CanLendToLeft, h.length, List.length_map]
  cases decide (Int.ofNat es.length < 2)
  · cases decide (a.header.size - size < env.minThreshold)
    · simp only [Bool.false_eq_true, if_false]
      generalize TransSl.ArrayDataSlab_CanLendToLeft.loop1 env a size _ _ _ = L at hl ⊢
      generalize Trans.ArrayDataSlab_CanLendToLeft.loop1 _ _ _ _ _ _ = L' at hl ⊢
      cases L <;> cases L' <;> exact hl
    · rfl
  · rfl

theorem sl_canLendRight_loop_eq (a : TransSl.ArrayDataSlab σ ξ) (es : List σ) (h : ElementsAre a es) (size : UInt32)
    (n : Nat) (hn : n ≤ es.length) (ls : UInt32) :
    loopOptB (TransSl.ArrayDataSlab_CanLendToRight.loop1 env a size n (Int.ofNat n - 1) ls) =
      some (loopBool (Trans.ArrayDataSlab_CanLendToRight.loop1 a.header.size (byteSizes env es) size env.minThreshold n
        (ls, Int.ofNat n - 1))) := by
  induction n generalizing ls with
  | zero => rfl
  | succ n ih =>
    have hlt : n < es.length := hn
    rw [int_succ_sub_one, TransSl.ArrayDataSlab_CanLendToRight.loop1, Trans.ArrayDataSlab_CanLendToRight.loop1]
    simp only [int_dge0, if_true, h.symm ▸ goIdx_map_some es n, List.getElem?_eq_getElem hlt, Option.map_some, int_toNat,
      List.getD_eq_getElem?_getD, List.getElem?_map, Option.getD_some]
    cases decide (a.header.size - (ls + env.Storable_ByteSize es[n]) < env.minThreshold)
    · cases decide (ls + env.Storable_ByteSize es[n] ≥ size)
      · exact ih (Nat.le_of_lt hlt) _
      · rfl
    · rfl

theorem Sl_CanLendToRight_eq_stateless (a : TransSl.ArrayDataSlab σ ξ) (es : List σ) (h : ElementsAre a es)
    (size : UInt32) :
    TransSl.ArrayDataSlab_CanLendToRight env a size =
      some (Trans.ArrayDataSlab_CanLendToRight a.header.size (byteSizes env es) size env.minThreshold) := by
  have hl : loopOptB (TransSl.ArrayDataSlab_CanLendToRight.loop1 env a size es.length (Int.ofNat es.length - 1) 0) =
      some (loopBool (Trans.ArrayDataSlab_CanLendToRight.loop1 a.header.size (byteSizes env es) size env.minThreshold
        es.length (0, Int.ofNat es.length - 1))) := sl_canLendRight_loop_eq env a es h size es.length (Nat.le_refl _) 0
  simp only [TransSl.ArrayDataSlab_CanLendToRight, Trans.ArrayDataSlab_CanLendToRight, h.length, List.length_map,
    int_fuel]
  cases decide (Int.ofNat es.length < 2)
  · cases decide (a.header.size - size < env.minThreshold)
    · simp only [Bool.false_eq_true, if_false]
      generalize TransSl.ArrayDataSlab_CanLendToRight.loop1 env a size _ _ _ = L at hl ⊢
      generalize Trans.ArrayDataSlab_CanLendToRight.loop1 _ _ _ _ _ _ = L' at hl ⊢
      cases L <;> cases L' <;> exact hl
    · rfl
  · rfl

/-- the split-point loop of the slab engine is that of the stateless engine (the `nil` branch of the generated `match`
    is dead) -/
theorem sl_split_loop_eq (ds mp : UInt32) (es : List σ) (i : Int) (ls : UInt32) (lc : Int) :
    TransSl.ArrayDataSlab_Split.loop1 (ξ := ξ) env ds mp (es.map some) i ls lc =
      .done (Trans.ArrayDataSlab_Split.loop1 ds mp (byteSizes env es) i (ls, lc)) := by
  induction es generalizing i ls with
  | nil => rfl
  | cons x t ih =>
    rw [List.map_cons, byteSizes, List.map_cons, TransSl.ArrayDataSlab_Split.loop1, Trans.ArrayDataSlab_Split.loop1]
    cases decide (ls + env.Storable_ByteSize x ≥ mp)
    · exact ih _ _
    · cases decide (ls ≤ ds - ls - env.Storable_ByteSize x) <;> rfl

/-- … the loop of `BorrowFromRight` over the right slab's elements (`i`: the index the stateless loop carries and never
    reads) -/
theorem sl_borrow_loop_eq (size mp : UInt32) (es : List σ) (i : Int) (lc ls : UInt32) :
    TransSl.ArrayDataSlab_BorrowFromRight.loop1 (ξ := ξ) env size mp (es.map some) lc ls =
      .done (Trans.ArrayDataSlab_BorrowFromRight.loop1 env.minThreshold size mp (byteSizes env es) i (lc, ls)) := by
  induction es generalizing i lc ls with
  | nil => rfl
  | cons x t ih =>
    rw [List.map_cons, byteSizes, List.map_cons, TransSl.ArrayDataSlab_BorrowFromRight.loop1,
      Trans.ArrayDataSlab_BorrowFromRight.loop1]
    cases decide (ls + env.Storable_ByteSize x > mp)
    · exact ih _ _ _
    · cases decide (size - ls - env.Storable_ByteSize x ≥ env.minThreshold) <;> rfl

/-- … the backwards loop of `LendToRight` (fuel = index + 1) -/
theorem sl_lend_loop_eq (a : TransSl.ArrayDataSlab σ ξ) (es : List σ) (ha : ElementsAre a es) (size mp : UInt32)
    (n : Nat) (hn : n ≤ es.length) (lc ls : UInt32) :
    TransSl.ArrayDataSlab_LendToRight.loop1 env a size mp n (Int.ofNat n - 1) lc ls =
      .done ((Trans.ArrayDataSlab_LendToRight.loop1 (byteSizes env es) env.minThreshold size mp n
          (lc, ls, Int.ofNat n - 1)).1,
        (Trans.ArrayDataSlab_LendToRight.loop1 (byteSizes env es) env.minThreshold size mp n
          (lc, ls, Int.ofNat n - 1)).2.1) := by
  induction n generalizing lc ls with
  | zero => rfl
  | succ n ih =>
    have hlt : n < es.length := hn
    rw [int_succ_sub_one, TransSl.ArrayDataSlab_LendToRight.loop1, Trans.ArrayDataSlab_LendToRight.loop1]
    simp only [int_dge0, if_true, ha.symm ▸ goIdx_map_some es n, List.getElem?_eq_getElem hlt, Option.map_some,
      int_toNat, List.getD_eq_getElem?_getD, List.getElem?_map, Option.getD_some]
    cases decide (ls - env.Storable_ByteSize es[n] < mp) && decide (size - ls ≥ env.minThreshold)
    · exact ih (Nat.le_of_lt hlt) _ _
    · rfl

/-- what `LendToRight` / `BorrowFromRight` return, given the numbers `p` the stateless engine computes
    (`(_, _, moveCount, lsize, lcount, rsize, rcount)`) and the two element slices `q` after the move -/
def rebalanced (a r : TransSl.ArrayDataSlab σ ξ) (p : UInt32 × UInt32 × UInt32 × UInt32 × UInt32 × UInt32 × UInt32)
    (q : List (Option σ) × List (Option σ)) : Option ε × TransSl.ArrayDataSlab σ ξ × Option (TransSl.ArraySlabV σ ξ) :=
  (none, { a with elements := q.1, header := { a.header with size := p.2.2.2.1, count := p.2.2.2.2.1 } },
   some (.dataSlab { r with elements := q.2,
                            header := { r.header with size := p.2.2.2.2.2.1, count := p.2.2.2.2.2.2 } }))

theorem Sl_LendToRight_eq_stateless (a r : TransSl.ArrayDataSlab σ ξ) (es : List σ) (h : ElementsAre a es) :
    TransSl.ArrayDataSlab_LendToRight env a (some (.dataSlab r)) =
      (Trans.ArrayDataSlab_LendToRight a.header.size a.header.count (byteSizes env es) r.header.size r.header.count
        env.minThreshold).bind fun p =>
        (TransSl.lendToRight env a.elements r.elements (Int.ofNat p.2.2.1.toNat)).map (rebalanced a r p) := by
  simp only [TransSl.ArrayDataSlab_LendToRight, Trans.ArrayDataSlab_LendToRight, h.length, List.length_map, int_fuel,
    sl_lend_loop_eq env a es h _ _ es.length (Nat.le_refl _), Option.bind_some]
  cases TransSl.lendToRight env a.elements r.elements _ <;> rfl

theorem Sl_BorrowFromRight_eq_stateless (a r : TransSl.ArrayDataSlab σ ξ) (es : List σ) (h : ElementsAre r es) :
    TransSl.ArrayDataSlab_BorrowFromRight env a (some (.dataSlab r)) =
      (Trans.ArrayDataSlab_BorrowFromRight a.header.size a.header.count r.header.size r.header.count (byteSizes env es)
        env.minThreshold).bind fun p =>
        (TransSl.borrowFromRight env a.elements r.elements (Int.ofNat p.2.2.1.toNat)).map (rebalanced a r p) := by
  simp only [TransSl.ArrayDataSlab_BorrowFromRight, Trans.ArrayDataSlab_BorrowFromRight,
    h.symm ▸ sl_borrow_loop_eq env _ _ es 0, Option.bind_some]
  cases TransSl.borrowFromRight env a.elements r.elements _ <;> rfl

end stateless

/-- the byte sizes of model elements are their sizes as `uint32` -/
theorem byteSizes_envA (T : Nat) (look) (l : List Elem) : byteSizes (envA T look) l = u32s (sizesOf l) :=
  (List.map_map (g := u32) (f := fun e : Elem => e.size)).symm

end Atree.TransEq

import AtreeModel.Storage
import AtreeModel.Gen.TransStorage
/-
  Set-up for `Props/TransStorage.lean`: the instantiation of the parameters (`env`) of the generated
  storage functions (`Gen/TransStorage.lean`, regenerated from storage.go on every run) with the
  components of the hand-written model (`AtreeModel/Storage.lean`), and the translation between
  generated states and model states.

  * error values `GErr`: what the storage functions can return - an error built by a `New…Error`
    constructor, an uncategorised error of the caller's `BaseStorage`, the (already categorised) error of
    `EncodeSlab` / `DecodeSlab`, and `NewExternalError(e, msg)`; `wrapExt` is
    `wrapErrorfAsExternalErrorIfNeeded` (errors.go: nil stays nil, categorised errors pass, anything else
    is wrapped), `GErr.cls` the model's error class.
  * `MBase`: a `BaseStorage` = the model's ledger map and allocation counters, plus the position in the
    fault plan and the log of issued `Store` / `Remove` calls (the model keeps these two in `CommitRes`).
  * `Junk`: the values the Go signatures leave unspecified (the `[]byte` next to an error or to
    `found = false`, the `Slab` `DecodeSlab` returns next to an error, `EncodeSlab(nil)`); the theorems
    hold for EVERY choice, i.e. the translated functions never let them through.
-/
namespace Atree.TransEq
open Atree Atree.Gen.TransSt

inductive GErr where
  | ctor (name : String)
  | base (n : Nat)
  | codec (enc : Bool)
  | external (e : GErr)
deriving DecidableEq, Repr

def GErr.categorised : GErr → Bool
  | .base _ => false
  | _ => true

/-- `wrapErrorfAsExternalErrorIfNeeded(err, msg)` -/
def wrapExt : Option GErr → Option GErr
  | none => none
  | some e => if e.categorised then some e else some (.external e)

/-- the model's error class of a Go error value (`none`: an uncategorised error - never returned) -/
def GErr.cls : GErr → Option StErr
  | .ctor n => if n = "NewSlabIDError" then some .slabIDUndefined else none
  | .external _ => some .external
  | .codec true => some .encoding
  | .codec false => some .decoding
  | .base _ => none

/-- the Go error value of a model error that carries no payload -/
def GErr.ofSt : StErr → GErr
  | .slabIDUndefined => .ctor "NewSlabIDError"
  | .encoding => .codec true
  | .decoding => .codec false
  | .external => .external (.base 0)

theorem GErr.cls_ofSt (e : StErr) : (GErr.ofSt e).cls = some e := by
  cases e <;> simp [GErr.ofSt, GErr.cls]

variable {σ β : Type}

structure MBase (β : Type) where
  regs : AList SlabID β
  alloc : AList Nat Nat
  n : Nat
  log : List (St.BaseCall β)

structure Junk (σ β : Type) where
  data : β
  slab : SlabID → β → Option σ
  encNil : β × Option GErr

/-- the parameters of the generated functions, built from the model's codec, a fault plan for the
    `Store` / `Remove` calls, a `ByteSize` and the unspecified values -/
def envM (c : Codec σ β) (fault : Nat → Bool) (sz : σ → UInt32) (j : Junk σ β) :
    PersistentSlabStorage_Env σ β (MBase β) GErr where
  BaseStorage_GenerateSlabID b a :=
    let n := (AList.find? b.alloc a).getD 0 + 1
    ((⟨a, n⟩, none), { b with alloc := AList.insert b.alloc a n })
  BaseStorage_Remove b id :=
    if fault b.n then (some (.base b.n), { b with n := b.n + 1, log := b.log ++ [.remove id] })
    else (none, { b with regs := AList.erase b.regs id, n := b.n + 1, log := b.log ++ [.remove id] })
  BaseStorage_Store b id d :=
    if fault b.n then (some (.base b.n), { b with n := b.n + 1, log := b.log ++ [.store id d] })
    else (none, { b with regs := AList.insert b.regs id d, n := b.n + 1, log := b.log ++ [.store id d] })
  BaseStorage_Retrieve b id :=
    match AList.find? b.regs id with
    | some d => ((d, true, none), b)
    | none => ((j.data, false, none), b)
  DecodeSlab id d :=
    match c.dec id d with
    | some v => (some v, none)
    | none => (j.slab id d, some (.codec false))
  EncodeSlab
    | some v => (match c.enc v with
                 | some b => (b, none)
                 | none => (j.data, some (.codec true)))
    | none => j.encNil
  NewSlabIDError := some (.ctor "NewSlabIDError")
  Slab_ByteSize := sz
  wrapErrorfAsExternalErrorIfNeeded := wrapExt

abbrev GSt (σ β : Type) := PersistentSlabStorage σ (MBase β)

def abs (s : GSt σ β) : St σ β :=
  { deltas := s.deltas, cache := s.cache, base := s.baseStorage.regs,
    tempIx := s.tempSlabIndex.toNat, alloc := s.baseStorage.alloc }

def conc (m : St σ β) (n : Nat) (log : List (St.BaseCall β)) : GSt σ β :=
  { baseStorage := { regs := m.base, alloc := m.alloc, n := n, log := log },
    cache := m.cache, deltas := m.deltas, tempSlabIndex := UInt64.ofNat m.tempIx }

theorem conc_abs (s : GSt σ β) : conc (abs s) s.baseStorage.n s.baseStorage.log = s := by
  cases s with
  | mk b c d t => cases b; simp [conc, abs]

/-- the same with `abs` unfolded (simp normal form) -/
@[simp] theorem conc_abs' (s : GSt σ β) :
    conc { deltas := s.deltas, cache := s.cache, base := s.baseStorage.regs,
           tempIx := s.tempSlabIndex.toNat, alloc := s.baseStorage.alloc }
      s.baseStorage.n s.baseStorage.log = s := conc_abs s

theorem abs_conc (m : St σ β) (n : Nat) (log : List (St.BaseCall β)) (h : m.tempIx < 2 ^ 64) :
    abs (conc m n log) = m := by
  cases m
  simp only [abs, conc, St.mk.injEq, true_and, and_true]
  simp only [UInt64.toNat_ofNat']
  exact Nat.mod_eq_of_lt h

/-- the representation invariant of Go maps as association lists: distinct keys -/
def WF {B : Type} (s : PersistentSlabStorage σ B) : Prop :=
  (AList.keys s.deltas).Nodup ∧ (AList.keys s.cache).Nodup

end Atree.TransEq

import AtreeProofs.Verify.ArraySpec
import AtreeProofs.ArrayLemmas
/-
  The transcription of `VerifyArray` (`AtreeModel/Verify/Array.lean`) against the predicate
  `ArrVerified` and the invariant `ArrInv`.  Every group of checks is a list of (condition, error)
  pairs read by `firstErr`; one lemma per group says when it yields no error (`commonChecks_none`,
  `slabChecks_none`, `dataChecks_none`, `rootChecks_none`, `chainCheck_ok`), `verifySlab_ok` is the one
  recursion (`ok` exactly on `Checked` subtrees, with the accumulator it returns), and `Checked` is
  tied to the invariant by one induction each way.  At the end: the error side (`verifySlab_count`,
  `verifySlab_ne_rootCountWrong`, `verifyArray_ne_rootCountWrong`: the root-count check can never fire)
  and `elemOk_of_treeInv`.  The property-level statements are in `AtreeProofs/Props/C05Verify.lean`.
-/
namespace Atree.Verify
open Atree Gen ATree MetaSlab

@[simp] theorem firstErr_nil {ε : Type} : firstErr ([] : List (Bool × ε)) = none := rfl

@[simp] theorem firstErr_cons_eq_none {ε : Type} (c : Bool) (e : ε) (rest : List (Bool × ε)) :
    firstErr ((c, e) :: rest) = none ↔ c = false ∧ firstErr rest = none := by
  cases c <;> simp [firstErr]

/-- The seven checks that `verifySlab` makes of every slab, array or map, before the type switch
    (over any error type; `parent` is the comparison with the header held by the parent). -/
theorem commonChecks_none {ε : Type} (seen : List SlabID) (id : SlabID) (addr : Nat)
    (inl inSt extra : Bool) (uf : Option Nat) (full : Bool) (level : Nat) (parent : Bool)
    (e1 e2 e3 e4 e5 e6 e7 : ε) (l : List (Bool × ε))
    (hl : l = [(seen.any (fun x => decide (x = id)), e1), (decide (addr ≠ id.addr), e2),
      (inl && inSt, e3), (decide (level > 0) && extra, e4), (decide (level > 0) && uf.isSome, e5),
      (full, e6), (parent, e7)]) :
    firstErr l = none ↔
      id ∉ seen ∧ id.addr = addr ∧ (inl = true → inSt = false) ∧
      (0 < level → extra = false) ∧ (0 < level → uf = none) ∧ full = false ∧ parent = false := by
  subst hl
  simp only [firstErr_cons_eq_none, firstErr_nil, and_true]
  refine and_congr ?_ (and_congr ?_ (and_congr ?_ (and_congr ?_ (and_congr ?_ .rfl))))
  · rw [List.any_eq_false]
    exact ⟨fun h hm => by simpa using h id hm, fun h x hx => by simpa using fun e : x = id => h (e ▸ hx)⟩
  · rw [decide_eq_false_iff_not, ne_eq, Decidable.not_not]
    exact eq_comm
  · cases inl <;> simp
  · by_cases h : 0 < level <;> simp [h]
  · by_cases h : 0 < level <;> cases uf <;> simp [h]

theorem slabChecks_none (v : AVerifier) (hdr : Hdr) (inl extra : Bool) (uf : Option Nat) (full : Bool)
    (level : Nat) (hp : Option Hdr) (seen : List SlabID) :
    firstErr (slabChecks v hdr inl extra uf full level hp seen) = none ↔
      hdr.id ∉ seen ∧ hdr.id.addr = v.address ∧ (inl = true → v.inStorage hdr.id = false) ∧
      (0 < level → extra = false) ∧ (0 < level → uf = none) ∧ full = false ∧
      (∀ h, hp = some h → h = hdr) := by
  rw [commonChecks_none seen hdr.id v.address inl (v.inStorage hdr.id) extra uf full level _
    .duplicateSlabID .slabAddress .inlinedSlabInStorage .nonRootHasExtraData .underflow .overflow
    .headerMismatch (slabChecks v hdr inl extra uf full level hp seen) rfl]
  cases hp <;> simp

theorem isUnderflow_none_iff (T : Nat) (size : Nat) :
    (if minThr T > size then some (minThr T - size) else none) = none ↔ minThr T ≤ size := by
  split <;> simp <;> omega

/-- `slabChecks` with the two flags of a slab of size `hdr.size`, in the vocabulary of `Checked`: the
    underflow and the full flag are the two comparisons with the band -/
theorem slabChecks_band (v : AVerifier) (hdr : Hdr) (inl extra : Bool) (level : Nat) (hp : Option Hdr)
    (seen : List SlabID) :
    firstErr (slabChecks v hdr inl extra
        (if minThr v.T > hdr.size then some (minThr v.T - hdr.size) else none)
        (decide (hdr.size > maxThr v.T)) level hp seen) = none ↔
      hdr.id ∉ seen ∧ hdr.id.addr = v.address ∧ (inl = true → v.inStorage hdr.id = false) ∧
      (0 < level → extra = false ∧ minThr v.T ≤ hdr.size) ∧ hdr.size ≤ maxThr v.T ∧
      (∀ h, hp = some h → h = hdr) := by
  rw [slabChecks_none, isUnderflow_none_iff, decide_eq_false_iff_not, Nat.not_lt]
  exact ⟨fun ⟨a, b, c, d, e, f, g⟩ => ⟨a, b, c, fun hl => ⟨d hl, e hl⟩, f, g⟩,
    fun ⟨a, b, c, d, f, g⟩ => ⟨a, b, c, fun hl => (d hl).1, fun hl => (d hl).2, f, g⟩⟩

theorem dataChecks_none (v : AVerifier) (s : DataSlab) (level : Nat) :
    firstErr (dataChecks v s level) = none ↔
      s.hdr.count = s.elems.length ∧
      (s.inlined = true → level = 0 ∧ s.root = true ∧ s.next = SlabID.undef) ∧
      s.hdr.size = dataPrefixAt level s.inlined + sumSizes s.elems ∧
      (∀ e ∈ s.elems, e.size ≤ maxInlineArr v.T) := by
  unfold dataChecks
  simp only [firstErr_cons_eq_none, firstErr_nil, and_true]
  constructor
  · rintro ⟨h1, h2, h3, h4, h5, h6⟩
    refine ⟨?_, ?_, ?_, ?_⟩
    · simp only [decide_eq_false_iff_not, ne_eq, Decidable.not_not] at h1; exact h1.symm
    · intro hi
      rw [hi] at h2 h3 h4
      simp only [Bool.true_and, decide_eq_false_iff_not, Nat.not_lt, Nat.le_zero, ne_eq,
        Decidable.not_not, Bool.not_eq_false'] at h2 h3 h4
      exact ⟨by omega, h3, h4⟩
    · simp only [decide_eq_false_iff_not, ne_eq, Decidable.not_not] at h5; exact h5.symm
    · intro e he
      cases hgt : decide (e.size > maxInlineArr v.T) with
      | false => simpa using hgt
      | true =>
        have : (s.elems.any fun e => decide (e.size > maxInlineArr v.T)) = true :=
          List.any_eq_true.2 ⟨e, he, hgt⟩
        rw [this] at h6; cases h6
  · rintro ⟨h1, h2, h3, h4⟩
    refine ⟨by simp [h1], ?_, ?_, ?_, by simp [h3], ?_⟩
    · cases hi : s.inlined with
      | false => rfl
      | true => have := (h2 hi).1; simp [this]
    · cases hi : s.inlined with
      | false => rfl
      | true => simp [(h2 hi).2.1]
    · cases hi : s.inlined with
      | false => rfl
      | true => simp [(h2 hi).2.2]
    · cases hany : (s.elems.any fun e => decide (e.size > maxInlineArr v.T)) with
      | false => rfl
      | true =>
        obtain ⟨e, he, hgt⟩ := List.any_eq_true.1 hany
        have := h4 e he
        simp only [decide_eq_true_eq] at hgt; omega

/-- the accumulators after a data slab has been accepted -/
def accAfterData (s : DataSlab) (acc : AVAcc) : AVAcc :=
  { acc with
    dataSlabIDs := acc.dataSlabIDs ++ [s.hdr.id],
    nextDataSlabIDs := if s.next ≠ SlabID.undef then acc.nextDataSlabIDs ++ [s.next]
                       else acc.nextDataSlabIDs }

theorem verifyDataSlab_ok (v : AVerifier) (s : DataSlab) (level : Nat) (acc : AVAcc) (r : Nat × AVAcc) :
    verifyDataSlab v s level acc = .ok r ↔
      firstErr (dataChecks v s level) = none ∧ r = (s.hdr.count, accAfterData s acc) := by
  unfold verifyDataSlab
  cases h : firstErr (dataChecks v s level) with
  | some e => simp
  | none => simp [accAfterData, eq_comm]

/-- `ids` are new with respect to the set `seen` and pairwise different -/
def Fresh (seen ids : List SlabID) : Prop := (∀ id ∈ ids, id ∉ seen) ∧ ids.Nodup

theorem fresh_nil (seen : List SlabID) : Fresh seen [] := ⟨by simp, by simp⟩

theorem fresh_append (seen l1 l2 : List SlabID) :
    Fresh seen (l1 ++ l2) ↔ Fresh seen l1 ∧ Fresh (seen ++ l1) l2 := by
  unfold Fresh
  simp only [List.mem_append, List.nodup_append, not_or]
  constructor
  · rintro ⟨h1, h2, h3, h4⟩
    exact ⟨⟨fun id hid => h1 id (Or.inl hid), h2⟩,
      fun id hid => ⟨h1 id (Or.inr hid), fun hm => h4 id hm id hid rfl⟩, h3⟩
  · rintro ⟨⟨h1, h2⟩, h3, h4⟩
    refine ⟨?_, h2, h4, ?_⟩
    · rintro id (hid | hid)
      · exact h1 id hid
      · exact (h3 id hid).1
    · intro a ha b hb hab; subst hab; exact (h3 a hb).2 ha

theorem fresh_cons (seen : List SlabID) (x : SlabID) (l : List SlabID) :
    Fresh seen (x :: l) ↔ x ∉ seen ∧ Fresh (seen ++ [x]) l := by
  have := fresh_append seen [x] l
  simp only [List.singleton_append] at this
  rw [this]
  unfold Fresh
  simp

/-- the accumulators after the whole subtree `t` has been accepted -/
def extend (acc : AVAcc) (d : Nat) (t : ATree d) : AVAcc :=
  ⟨acc.dataSlabIDs ++ leafIds d t, acc.nextDataSlabIDs ++ definedNexts (Arr.leaves d t),
   acc.slabIDs ++ slabIds d t⟩

/-- the accumulators after the subtrees `cs` have been accepted, left to right -/
def extendL (acc : AVAcc) (d : Nat) (cs : List (ATree d)) : AVAcc :=
  ⟨acc.dataSlabIDs ++ cs.flatMap (leafIds d),
   acc.nextDataSlabIDs ++ definedNexts (cs.flatMap (Arr.leaves d)),
   acc.slabIDs ++ cs.flatMap (slabIds d)⟩

theorem definedNexts_append (a b : List DataSlab) :
    definedNexts (a ++ b) = definedNexts a ++ definedNexts b := by
  simp [definedNexts]

theorem extendL_nil (acc : AVAcc) (d : Nat) : extendL acc d [] = acc := by
  cases acc; simp [extendL, definedNexts]

theorem extendL_cons (acc : AVAcc) (d : Nat) (c : ATree d) (cs : List (ATree d)) :
    extendL acc d (c :: cs) = extendL (extend acc d c) d cs := by
  simp [extendL, extend, definedNexts_append, List.append_assoc]

theorem leafIds_zero (s : DataSlab) : leafIds 0 (ofData s) = [s.hdr.id] := rfl
theorem leafIds_succ (d : Nat) (m : MetaSlab (ATree d)) :
    leafIds (d + 1) (ofMeta m) = m.children.flatMap (leafIds d) := by
  simp only [leafIds, leaves_succ, List.map_flatMap]
  rfl

theorem extend_zero (acc : AVAcc) (s : DataSlab) :
    extend acc 0 (ofData s) = accAfterData s { acc with slabIDs := acc.slabIDs ++ [s.hdr.id] } := by
  simp only [extend, leafIds_zero, leaves_zero, slabIds_zero, accAfterData, definedNexts,
    List.map_cons, List.map_nil]
  by_cases h : s.next = SlabID.undef <;> simp [h, List.filter]

theorem extend_succ (acc : AVAcc) (d : Nat) (m : MetaSlab (ATree d)) :
    extend acc (d + 1) (ofMeta m) =
      extendL { acc with slabIDs := acc.slabIDs ++ [m.hdr.id] } d m.children := by
  simp [extend, extendL, leafIds_succ]

/-- everything `verifySlab` requires of the subtree `t` entered with the parent's header copy
    `hp` and the set `seen` of IDs met so far -/
def SlabOk (v : AVerifier) (d level : Nat) (t : ATree d) (hp : Option Hdr) (seen : List SlabID) : Prop :=
  Checked v d level t ∧ (∀ h, hp = some h → h = hdr d t) ∧ Fresh seen (slabIds d t)

theorem verifySlab_zero (v : AVerifier) (s : DataSlab) (level : Nat) (hp : Option Hdr) (acc : AVAcc) :
    verifySlab v 0 (ofData s) level hp acc =
      match firstErr (slabChecks v s.hdr s.inlined s.root (s.isUnderflow v.T) (s.isFull v.T)
              level hp acc.slabIDs) with
      | some e => .error e
      | none => verifyDataSlab v s level { acc with slabIDs := acc.slabIDs ++ [s.hdr.id] } := rfl

theorem verifySlab_succ (v : AVerifier) (d : Nat) (m : MetaSlab (ATree d)) (level : Nat)
    (hp : Option Hdr) (acc : AVAcc) :
    verifySlab v (d + 1) (ofMeta m) level hp acc =
      match firstErr (slabChecks v m.hdr false m.root (m.isUnderflow v.T) (m.isFull v.T)
              level hp acc.slabIDs) with
      | some e => .error e
      | none => verifyMetaDataSlab (verifySlab v d) m level
                  { acc with slabIDs := acc.slabIDs ++ [m.hdr.id] } := rfl

theorem checked_zero (v : AVerifier) (level : Nat) (s : DataSlab) :
    Checked v 0 level (ofData s) ↔
      (s.hdr.id.addr = v.address ∧
      (s.inlined = true → v.inStorage s.hdr.id = false) ∧
      (0 < level → s.root = false ∧ minThr v.T ≤ s.hdr.size) ∧
      s.hdr.size ≤ maxThr v.T ∧
      s.hdr.count = s.elems.length ∧
      (s.inlined = true → level = 0 ∧ s.root = true ∧ s.next = SlabID.undef) ∧
      s.hdr.size = dataPrefixAt level s.inlined + sumSizes s.elems ∧
      (∀ e ∈ s.elems, e.size ≤ maxInlineArr v.T)) := by
  unfold ofData; simp only [Checked]

theorem checked_succ (v : AVerifier) (d level : Nat) (m : MetaSlab (ATree d)) :
    Checked v (d + 1) level (ofMeta m) ↔
      (m.hdr.id.addr = v.address ∧
      (0 < level → m.root = false ∧ minThr v.T ≤ m.hdr.size) ∧
      m.hdr.size ≤ maxThr v.T ∧
      (level = 0 → 2 ≤ m.childHdrs.length) ∧
      m.childHdrs = m.children.map (hdr d) ∧
      m.countSum = prefixSums m.childHdrs 0 ∧
      m.hdr.count = sumCounts m.childHdrs ∧
      m.hdr.size = arrayMetaDataSlabPrefixSize + arraySlabHeaderSize * m.childHdrs.length ∧
      (∀ c ∈ m.children, Checked v d (level + 1) c)) := by
  unfold ofMeta; simp only [Checked]

theorem aligned_succ (d : Nat) (m : MetaSlab (ATree d)) :
    Aligned (d + 1) (ofMeta m) ↔
      (m.children.length = m.childHdrs.length ∧ ∀ c ∈ m.children, Aligned d c) := by
  unfold ofMeta; simp only [Aligned]

/-- the loop over the children, given the characterisation of `verifySlab` one level down -/
theorem verifyChildren_ok (v : AVerifier) (d level : Nat)
    (IH : ∀ (c : ATree d) (hp : Option Hdr) (acc : AVAcc) (r : Nat × AVAcc), Aligned d c →
      (verifySlab v d c level hp acc = .ok r ↔
        SlabOk v d level c hp acc.slabIDs ∧ r = ((hdr d c).count, extend acc d c))) :
    ∀ (hs : List Hdr) (cs : List (ATree d)) (sums : List Nat) (k : Nat) (acc : AVAcc) (r : Nat × AVAcc),
      cs.length = hs.length → sums.length = hs.length → (∀ c ∈ cs, Aligned d c) →
      (verifyChildren (fun c h acc => verifySlab v d c level (some h) acc) hs cs sums k acc = .ok r ↔
        hs = cs.map (hdr d) ∧ sums = prefixSums hs k ∧ (∀ c ∈ cs, Checked v d level c) ∧
        Fresh acc.slabIDs (cs.flatMap (slabIds d)) ∧ r = (k + sumCounts hs, extendL acc d cs)) := by
  intro hs
  induction hs with
  | nil =>
    intro cs sums k acc r hcs hsums _
    have hcs' : cs = [] := List.length_eq_zero_iff.1 (by simpa using hcs)
    have hsums' : sums = [] := List.length_eq_zero_iff.1 (by simpa using hsums)
    subst hcs' hsums'
    simp only [verifyChildren, Except.ok.injEq, List.map_nil, prefixSums, List.not_mem_nil,
      false_imp_iff, implies_true, List.flatMap_nil, sumCounts_nil, Nat.add_zero, extendL_nil,
      true_and]
    constructor
    · intro h; exact ⟨fresh_nil _, h.symm⟩
    · intro h; exact h.2.symm
  | cons h hs ih =>
    intro cs sums k acc r hcs hsums hal
    match cs, hcs with
    | c :: cs, hcs =>
    match sums, hsums with
    | s :: ss, hsums =>
    have hcs' : cs.length = hs.length := by simpa using hcs
    have hss' : ss.length = hs.length := by simpa using hsums
    have halc : Aligned d c := hal c (by simp)
    have hal' : ∀ c' ∈ cs, Aligned d c' := fun c' hc' => hal c' (by simp [hc'])
    simp only [verifyChildren]
    cases hres : verifySlab v d c level (some h) acc with
    | error e =>
      simp only [reduceCtorEq, false_iff]
      rintro ⟨hh, _, hck, hfr, _⟩
      simp only [List.map_cons, List.cons.injEq] at hh
      have hfr' := (fresh_append acc.slabIDs (slabIds d c) (cs.flatMap (slabIds d))).1
        (by simpa using hfr)
      have : verifySlab v d c level (some h) acc = .ok ((hdr d c).count, extend acc d c) :=
        (IH c (some h) acc _ halc).2
          ⟨⟨hck c (by simp), fun h' hh' => by cases hh'; exact hh.1, hfr'.1⟩, rfl⟩
      rw [this] at hres; cases hres
    | ok r1 =>
      obtain ⟨⟨hck1, hhp1, hfr1⟩, hr1⟩ := (IH c (some h) acc r1 halc).1 hres
      subst hr1
      have hh1 : h = hdr d c := hhp1 h rfl
      simp only
      by_cases hs1 : s = k + (hdr d c).count
      · rw [if_neg (by simpa using hs1)]
        rw [ih cs ss (k + (hdr d c).count) (extend acc d c) r hcs' hss' hal']
        simp only [List.map_cons, List.cons.injEq, prefixSums_cons, List.mem_cons, forall_eq_or_imp,
          List.flatMap_cons, sumCounts_cons, extendL_cons]
        rw [fresh_append]
        subst hh1 hs1
        simp only [true_and, hck1, hfr1, extend]
        constructor
        · rintro ⟨a1, a2, a3, a4, a5⟩; exact ⟨a1, a2, a3, a4, by rw [a5, Nat.add_assoc]⟩
        · rintro ⟨a1, a2, a3, a4, a5⟩; exact ⟨a1, a2, a3, a4, by rw [a5, Nat.add_assoc]⟩
      · rw [if_pos (by simpa using hs1)]
        simp only [reduceCtorEq, false_iff]
        rintro ⟨hh, hsum, _⟩
        simp only [prefixSums_cons, List.cons.injEq] at hsum
        apply hs1
        rw [hsum.1, hh1]

theorem verifyMetaDataSlab_ok (v : AVerifier) (d level : Nat)
    (IH : ∀ (c : ATree d) (hp : Option Hdr) (acc : AVAcc) (r : Nat × AVAcc), Aligned d c →
      (verifySlab v d c (level + 1) hp acc = .ok r ↔
        SlabOk v d (level + 1) c hp acc.slabIDs ∧ r = ((hdr d c).count, extend acc d c)))
    (m : MetaSlab (ATree d)) (acc : AVAcc) (r : Nat × AVAcc)
    (hlen : m.children.length = m.childHdrs.length) (hal : ∀ c ∈ m.children, Aligned d c) :
    verifyMetaDataSlab (verifySlab v d) m level acc = .ok r ↔
      (level = 0 → 2 ≤ m.childHdrs.length) ∧
      m.childHdrs = m.children.map (hdr d) ∧
      m.countSum = prefixSums m.childHdrs 0 ∧
      m.hdr.count = sumCounts m.childHdrs ∧
      m.hdr.size = arrayMetaDataSlabPrefixSize + arraySlabHeaderSize * m.childHdrs.length ∧
      (∀ c ∈ m.children, Checked v d (level + 1) c) ∧
      Fresh acc.slabIDs (m.children.flatMap (slabIds d)) ∧
      r = (m.hdr.count, extendL acc d m.children) := by
  unfold verifyMetaDataSlab
  by_cases h1 : level = 0 ∧ m.childHdrs.length < 2
  · rw [if_pos h1]
    simp only [reduceCtorEq, false_iff]
    rintro ⟨a1, _⟩
    have := a1 h1.1; omega
  rw [if_neg h1]
  by_cases h2 : m.countSum.length ≠ m.childHdrs.length
  · rw [if_pos h2]
    simp only [reduceCtorEq, false_iff]
    rintro ⟨_, _, a3, _⟩
    apply h2; rw [a3, prefixSums_length]
  rw [if_neg h2]
  have h2' : m.countSum.length = m.childHdrs.length := by simpa using h2
  have L := verifyChildren_ok v d (level + 1) IH m.childHdrs m.children m.countSum 0 acc
  cases hres : verifyChildren (fun c h acc => verifySlab v d c (level + 1) (some h) acc)
      m.childHdrs m.children m.countSum 0 acc with
  | error e =>
    simp only [reduceCtorEq, false_iff]
    rintro ⟨_, a2, a3, _, _, a6, a7, _⟩
    have := (L (0 + sumCounts m.childHdrs, extendL acc d m.children) hlen h2' hal).2
      ⟨a2, a3, a6, a7, rfl⟩
    rw [this] at hres; cases hres
  | ok r1 =>
    obtain ⟨a2, a3, a6, a7, hr1⟩ := (L r1 hlen h2' hal).1 hres
    subst hr1
    simp only [Nat.zero_add]
    by_cases h3 : sumCounts m.childHdrs ≠ m.hdr.count
    · rw [if_pos h3]
      simp only [reduceCtorEq, false_iff]
      rintro ⟨_, _, _, a4, _⟩
      exact h3 a4.symm
    rw [if_neg h3]
    have h3' : m.hdr.count = sumCounts m.childHdrs := by
      have : sumCounts m.childHdrs = m.hdr.count := by simpa using h3
      exact this.symm
    by_cases h4 : m.childHdrs.length * arraySlabHeaderSize + arrayMetaDataSlabPrefixSize ≠ m.hdr.size
    · rw [if_pos h4]
      simp only [reduceCtorEq, false_iff]
      rintro ⟨_, _, _, _, a5, _⟩
      apply h4; rw [a5]; simp only [Nat.mul_comm, Nat.add_comm]
    rw [if_neg h4]
    have h4' : m.hdr.size = arrayMetaDataSlabPrefixSize + arraySlabHeaderSize * m.childHdrs.length := by
      have : m.childHdrs.length * arraySlabHeaderSize + arrayMetaDataSlabPrefixSize = m.hdr.size := by
        simpa using h4
      rw [← this]; simp only [Nat.mul_comm, Nat.add_comm]
    simp only [Except.ok.injEq]
    constructor
    · intro hr
      refine ⟨fun hl => ?_, a2, a3, h3', h4', a6, a7, hr.symm⟩
      have : ¬ m.childHdrs.length < 2 := fun hlt => h1 ⟨hl, hlt⟩
      omega
    · rintro ⟨_, _, _, _, _, _, _, hr⟩; exact hr.symm

theorem verifySlab_ok (v : AVerifier) : ∀ (d : Nat) (t : ATree d) (level : Nat) (hp : Option Hdr)
    (acc : AVAcc) (r : Nat × AVAcc), Aligned d t →
    (verifySlab v d t level hp acc = .ok r ↔
      SlabOk v d level t hp acc.slabIDs ∧ r = ((hdr d t).count, extend acc d t))
  | 0, t, level, hp, acc, r, _ => by
    refine forall_ofData ?_ t; intro s
    rw [verifySlab_zero]
    unfold SlabOk
    rw [checked_zero, slabIds_zero, fresh_cons, hdr_zero, extend_zero]
    have HS : firstErr (slabChecks v s.hdr s.inlined s.root (s.isUnderflow v.T) (s.isFull v.T) level hp
        acc.slabIDs) = none ↔ _ := slabChecks_band v s.hdr s.inlined s.root level hp acc.slabIDs
    have HD := dataChecks_none v s level
    cases hc : firstErr (slabChecks v s.hdr s.inlined s.root (s.isUnderflow v.T) (s.isFull v.T)
        level hp acc.slabIDs) with
    | some e =>
      simp only [reduceCtorEq, false_iff]
      rintro ⟨⟨⟨b1, b2, b3, b4, b5, b6, b7, b8⟩, hhp, hfr, _⟩, _⟩
      rw [HS.2 ⟨hfr, b1, b2, b3, b4, hhp⟩] at hc; cases hc
    | none =>
      obtain ⟨c1, c2, c3, c4, c6', c7⟩ := HS.1 hc
      simp only
      rw [verifyDataSlab_ok, HD]
      constructor
      · rintro ⟨⟨d1, d2, d3, d4⟩, hr⟩
        exact ⟨⟨⟨c2, c3, c4, c6', d1, d2, d3, d4⟩, c7, c1, fresh_nil _⟩, hr⟩
      · rintro ⟨⟨⟨_, _, _, _, d1, d2, d3, d4⟩, _⟩, hr⟩
        exact ⟨⟨d1, d2, d3, d4⟩, hr⟩
  | d + 1, t, level, hp, acc, r, hal => by
    revert hal; refine forall_ofMeta ?_ t; intro m hal
    obtain ⟨hlen, halc⟩ := (aligned_succ d m).1 hal
    rw [verifySlab_succ]
    unfold SlabOk
    rw [checked_succ, slabIds_succ, fresh_cons, hdr_succ, extend_succ]
    have HS : firstErr (slabChecks v m.hdr false m.root (m.isUnderflow v.T) (m.isFull v.T) level hp
        acc.slabIDs) = none ↔ _ := slabChecks_band v m.hdr false m.root level hp acc.slabIDs
    have IH := fun c hp acc r hc => verifySlab_ok v d c (level + 1) hp acc r hc
    have HM := verifyMetaDataSlab_ok v d level IH m
      { acc with slabIDs := acc.slabIDs ++ [m.hdr.id] } r hlen halc
    cases hc : firstErr (slabChecks v m.hdr false m.root (m.isUnderflow v.T) (m.isFull v.T)
        level hp acc.slabIDs) with
    | some e =>
      simp only [reduceCtorEq, false_iff]
      rintro ⟨⟨⟨b1, b2, b3, b4, b5, b6, b7, b8, b9⟩, hhp, hfr, _⟩, _⟩
      rw [HS.2 ⟨hfr, b1, by simp, b2, b3, hhp⟩] at hc; cases hc
    | none =>
      obtain ⟨c1, c2, _, c4, c6', c7⟩ := HS.1 hc
      simp only
      rw [HM]
      constructor
      · rintro ⟨d1, d2, d3, d4, d5, d6, d7, hr⟩
        exact ⟨⟨⟨c2, c4, c6', d1, d2, d3, d4, d5, d6⟩, c7, c1, d7⟩, hr⟩
      · rintro ⟨⟨⟨_, _, _, d1, d2, d3, d4, d5, d6⟩, _, _, d7⟩, hr⟩
        exact ⟨d1, d2, d3, d4, d5, d6, d7, hr⟩

theorem rootChecks_none (v : AVerifier) (typeInfo : Option Nat) (a : Arr) :
    firstErr (rootChecks v typeInfo a) = none ↔
      a.addr = v.address ∧ (a.isInlined = false → a.rootID ≠ SlabID.undef) ∧
      isRoot a.d a.root = true ∧ (∀ ty, typeInfo = some ty → a.ty = ty) := by
  unfold rootChecks
  simp only [firstErr_cons_eq_none, firstErr_nil, and_true]
  constructor
  · rintro ⟨h1, h2, h3, h4⟩
    refine ⟨?_, ?_, ?_, ?_⟩
    · simp only [decide_eq_false_iff_not, ne_eq, Decidable.not_not] at h1; exact h1.symm
    · intro hi; rw [hi] at h2; simpa using h2
    · simpa using h3
    · intro ty hty; subst hty
      simp only [decide_eq_false_iff_not, ne_eq, Decidable.not_not] at h4; exact h4
  · rintro ⟨h1, h2, h3, h4⟩
    refine ⟨by simp [h1], ?_, by simp [h3], ?_⟩
    · cases hi : a.isInlined with
      | true => rfl
      | false => simpa using h2 hi
    · cases typeInfo with
      | none => rfl
      | some ty => simp [h4 ty rfl]

/-- For a legal threshold a subtree that passed the local checks has at least one data slab:
    a non-root index slab without children would underflow. -/
theorem leaves_ne_nil_of_checked (v : AVerifier) (hT : legalThreshold v.T = true) :
    ∀ (d level : Nat) (t : ATree d), Checked v d level t → Arr.leaves d t ≠ []
  | 0, level, t, _ => by
    refine forall_ofData ?_ t; intro s; simp
  | d + 1, level, t, h => by
    revert h; refine forall_ofMeta ?_ t; intro m h
    obtain ⟨_, b2, _, b4, b5, _, _, b8, b9⟩ := (checked_succ v d level m).1 h
    have F := thrFacts hT
    have hlen : m.childHdrs.length = m.children.length := by rw [b5]; simp
    have hpos : 1 ≤ m.children.length := by
      rcases Nat.eq_zero_or_pos level with hl | hl
      · have := b4 hl; omega
      · have := (b2 hl).2
        rw [b8, F.mpfx, F.hsz, F.minE] at this
        have := F.lo
        omega
    match hc : m.children with
    | [] => rw [hc] at hpos; simp at hpos
    | c :: cs =>
      have hck : Checked v d (level + 1) c := b9 c (by simp [hc])
      have := leaves_ne_nil_of_checked v hT d (level + 1) c hck
      simp only [leaves_succ, hc, List.flatMap_cons, ne_eq, List.append_eq_nil_iff, not_and]
      intro h1; exact absurd h1 this

theorem chainCheck_ok (ds ns : List SlabID) :
    chainCheck ds ns = .ok () ↔ ds ≠ [] ∧ ds.tail = ns := by
  unfold chainCheck
  cases ds with
  | nil => simp
  | cons x rest =>
    by_cases h : rest = ns
    · simp [h]
    · simp [h]

/-- `verifyArray` returns `ok` exactly on the trees that satisfy `ArrVerified`. -/
theorem verifyArray_ok_iff (v : AVerifier) (hT : legalThreshold v.T = true) (typeInfo : Option Nat)
    (a : Arr) (hal : Aligned a.d a.root) :
    verifyArray v typeInfo a = .ok () ↔ ArrVerified v typeInfo a := by
  unfold verifyArray
  have HR := rootChecks_none v typeInfo a
  cases hc : firstErr (rootChecks v typeInfo a) with
  | some e =>
    simp only [reduceCtorEq, false_iff]
    intro h
    rw [HR.2 ⟨h.addr, h.root_id, h.extra, h.type_ok⟩] at hc; cases hc
  | none =>
    obtain ⟨r1, r2, r3, r4⟩ := HR.1 hc
    simp only
    have HS := verifySlab_ok v a.d a.root 0 none ⟨[], [], []⟩
    cases hres : verifySlab v a.d a.root 0 none ⟨[], [], []⟩ with
    | error e =>
      simp only [reduceCtorEq, false_iff]
      intro h
      have := (HS _ hal).2 ⟨⟨h.tree, by simp, by simpa [Fresh] using h.ids_nodup⟩, rfl⟩
      rw [this] at hres; cases hres
    | ok r =>
      obtain ⟨⟨hck, _, hfr⟩, hr⟩ := (HS r hal).1 hres
      subst hr
      simp only
      rw [if_neg (by simp [Arr.count, Arr.rootHdr]), chainCheck_ok]
      simp only [extend, List.nil_append]
      have hne : leafIds a.d a.root ≠ [] := by
        have := leaves_ne_nil_of_checked v hT a.d 0 a.root hck
        simpa [leafIds] using this
      constructor
      · rintro ⟨_, hch⟩
        exact ⟨r1, r2, r3, r4, hck, hfr.2, hch⟩
      · intro h; exact ⟨hne, h.chain⟩

theorem isRoot_zero (s : DataSlab) : isRoot 0 (ofData s) = s.root := rfl
theorem isRoot_succ (d : Nat) (m : MetaSlab (ATree d)) : isRoot (d + 1) (ofMeta m) = m.root := rfl

theorem isRoot_of_treeInv {T : Nat} : ∀ (d : Nat) (top : Bool) (t : ATree d),
    TreeInv T d top t → isRoot d t = top
  | 0, top, t, h => by
    revert h; refine forall_ofData ?_ t; intro s h
    exact ((treeInv_zero T top s).1 h).root_eq
  | d + 1, top, t, h => by
    revert h; refine forall_ofMeta ?_ t; intro m h
    exact ((treeInv_succ T d top m).1 h).1.root_eq

theorem aligned_of_treeInv {T : Nat} : ∀ (d : Nat) (top : Bool) (t : ATree d),
    TreeInv T d top t → Aligned d t
  | 0, _, _, _ => trivial
  | d + 1, top, t, h => by
    revert h; refine forall_ofMeta ?_ t; intro m h
    have hs := ((treeInv_succ T d top m).1 h).1
    exact (aligned_succ d m).2 ⟨hs.hdrs_length.symm, fun c hc => aligned_of_treeInv d false c (hs.kids_inv c hc)⟩

/-- the verifier counts levels from the root, the invariant flags the top slab: below the root a
    slab is not the top -/
theorem top_false_of_pos {top : Bool} {level : Nat} (htop : top = true ↔ level = 0) (hl : 0 < level) :
    top = false := by
  cases top with
  | false => rfl
  | true => have := htop.1 rfl; omega

/-- the prefix the verifier expects of a data slab at `level` is the slab's own, for a slab that is
    not inlined and is the root exactly at level 0 -/
theorem dataPrefixAt_eq {s : DataSlab} {top : Bool} {level : Nat} (htop : top = true ↔ level = 0)
    (hni : s.inlined = false) (hroot : s.root = top) : dataPrefixAt level s.inlined = s.prefixSize := by
  unfold DataSlab.prefixSize dataPrefixAt
  rw [hni, hroot]
  cases top with
  | true => simp [htop.1 rfl]
  | false =>
    have : level ≠ 0 := fun hl => by have := htop.2 hl; cases this
    simp [this]

theorem checked_of_treeInv (v : AVerifier) : ∀ (d level : Nat) (top : Bool) (t : ATree d),
    TreeInv v.T d top t → NotInl d t → (top = true ↔ level = 0) → (hdr d t).id.addr = v.address →
    Checked v d level t
  | 0, level, top, t, h, hni, htop, haddr => by
    revert h hni haddr; refine forall_ofData ?_ t; intro s h hni haddr
    have h := (treeInv_zero v.T top s).1 h
    have hni : s.inlined = false := hni
    rw [checked_zero]
    refine ⟨haddr, by simp [hni], ?_, h.le_max, h.count_eq, by simp [hni], ?_, fun e he => (h.elems_ok e he).2⟩
    · intro hl
      have : top = false := top_false_of_pos htop hl
      exact ⟨by rw [h.root_eq, this], h.ge_min this⟩
    · rw [h.size_eq, dataPrefixAt_eq htop hni h.root_eq]
  | d + 1, level, top, t, h, _, htop, haddr => by
    revert h haddr; refine forall_ofMeta ?_ t; intro m h haddr
    obtain ⟨hs, hmax, hmin, hkids⟩ := (treeInv_succ v.T d top m).1 h
    rw [checked_succ]
    have hlen := hs.hdrs_length
    refine ⟨haddr, ?_, hmax, ?_, hs.hdrs_eq, hs.sums_eq, hs.count_eq, by rw [hs.size_eq, hlen], ?_⟩
    · intro hl
      have : top = false := top_false_of_pos htop hl
      exact ⟨by rw [hs.root_eq, this], hmin this⟩
    · intro hl; rw [hlen]; exact hkids (htop.2 hl)
    · intro c hc
      refine checked_of_treeInv v d (level + 1) false c (hs.kids_inv c hc)
        (hs.kids_inv c hc).notInl_of_false (by simp) ?_
      rw [hs.kids_addr c hc]; exact haddr

theorem leafIds_subset_slabIds : ∀ (d : Nat) (t : ATree d), ∀ id ∈ leafIds d t, id ∈ slabIds d t
  | 0, t => by
    refine forall_ofData ?_ t; intro s id hid
    simpa [leafIds_zero] using hid
  | d + 1, t => by
    refine forall_ofMeta ?_ t; intro m id hid
    rw [leafIds_succ] at hid
    obtain ⟨c, hc, hid⟩ := List.mem_flatMap.1 hid
    rw [slabIds_succ]
    exact List.mem_cons_of_mem _ (List.mem_flatMap.2 ⟨c, hc, leafIds_subset_slabIds d c id hid⟩)

/-- A complete chain of `next` links over defined IDs passes the verifier's comparison of the link
    lists (arrays and maps: `C` is `LeafChain` or `MLeafChain`, given by its two equations). -/
theorem tail_ids_eq_defined {α : Type} (id next : α → SlabID) (C : List α → Prop)
    (h1 : ∀ s, C [s] → next s = SlabID.undef)
    (h2 : ∀ s t rest, C (s :: t :: rest) → next s = id t ∧ C (t :: rest)) :
    ∀ (l : List α), C l → (∀ s ∈ l, id s ≠ SlabID.undef) →
      (l.map id).tail = (l.map next).filter (fun x => decide (x ≠ SlabID.undef))
  | [], _, _ => rfl
  | [s], h, _ => by simp [h1 s h]
  | s :: t :: rest, h, hid => by
    obtain ⟨e, h'⟩ := h2 s t rest h
    have ih := tail_ids_eq_defined id next C h1 h2 (t :: rest) h'
      (fun x hx => hid x (List.mem_cons_of_mem _ hx))
    have ht : id t ≠ SlabID.undef := hid t (by simp)
    simp only [List.map_cons, List.tail_cons] at ih ⊢
    rw [List.filter_cons_of_pos (by simp [e, ht]), ← ih, e]

theorem chain_of_leafChain (l : List DataSlab) (h : LeafChain l)
    (hid : ∀ s ∈ l, s.hdr.id ≠ SlabID.undef) : (l.map (·.hdr.id)).tail = definedNexts l :=
  tail_ids_eq_defined (α := DataSlab) (·.hdr.id) (·.next) LeafChain (fun _ h => h) (fun _ _ _ h => h) l h hid

theorem checked_addr (v : AVerifier) : ∀ (d level : Nat) (t : ATree d), Checked v d level t →
    ∀ id ∈ slabIds d t, id.addr = v.address
  | 0, level, t, h => by
    revert h; refine forall_ofData ?_ t; intro s h id hid
    simp only [slabIds_zero, List.mem_singleton] at hid
    rw [hid]; exact ((checked_zero v level s).1 h).1
  | d + 1, level, t, h => by
    revert h; refine forall_ofMeta ?_ t; intro m h id hid
    have h := (checked_succ v d level m).1 h
    simp only [slabIds_succ, List.mem_cons, List.mem_flatMap] at hid
    rcases hid with rfl | ⟨c, hc, hid⟩
    · exact h.1
    · exact checked_addr v d (level + 1) c (h.2.2.2.2.2.2.2.2 c hc) id hid

/-- the local checks, plus what they do not cover (element sizes positive, nothing inlined),
    give back the tree invariant -/
theorem treeInv_of_checked (v : AVerifier) : ∀ (d level : Nat) (top : Bool) (t : ATree d),
    Checked v d level t → (top = true ↔ level = 0) → isRoot d t = top → NotInl d t →
    (∀ e ∈ flatten d t, 1 ≤ e.size) → TreeInv v.T d top t
  | 0, level, top, t, h, htop, hroot, hni, hpos => by
    revert h hroot hni hpos; refine forall_ofData ?_ t; intro s h hroot hni hpos
    obtain ⟨_, _, b3, b4, b5, _, b7, b8⟩ := (checked_zero v level s).1 h
    have hni : s.inlined = false := hni
    have hroot : s.root = top := hroot
    rw [treeInv_zero]
    refine ⟨b5, ?_, fun e he => ⟨hpos e he, b8 e he⟩, hroot, by simp [hni], b4, ?_⟩
    · rw [b7, dataPrefixAt_eq htop hni hroot]
    · intro ht
      have : 0 < level := by
        rcases Nat.eq_zero_or_pos level with hl | hl
        · have := htop.2 hl; rw [ht] at this; cases this
        · exact hl
      exact (b3 this).2
  | d + 1, level, top, t, h, htop, hroot, _, hpos => by
    revert h hroot hpos; refine forall_ofMeta ?_ t; intro m h hroot hpos
    obtain ⟨b1, b2, b3, b4, b5, b6, b7, b8, b9⟩ := (checked_succ v d level m).1 h
    have hroot : m.root = top := hroot
    have hlen : m.childHdrs.length = m.children.length := by rw [b5]; simp
    rw [treeInv_succ]
    refine ⟨⟨hroot, b5, b6, b7, by rw [b8, hlen], ?_, ?_⟩, b3, ?_, ?_⟩
    · intro c hc
      have hck := b9 c hc
      have hcroot : isRoot d c = false := by
        cases d with
        | zero =>
          revert hck; refine forall_ofData ?_ c; intro s hck
          exact (((checked_zero v (level + 1) s).1 hck).2.2.1 (by omega)).1
        | succ d =>
          revert hck; refine forall_ofMeta ?_ c; intro m' hck
          exact (((checked_succ v d (level + 1) m').1 hck).2.1 (by omega)).1
      have hcni : NotInl d c := by
        cases d with
        | zero =>
          revert hck; refine forall_ofData ?_ c; intro s hck
          have h6 := ((checked_zero v (level + 1) s).1 hck).2.2.2.2.2.1
          show s.inlined = false
          cases hi : s.inlined with
          | false => rfl
          | true => have := (h6 hi).1; omega
        | succ d => trivial
      refine treeInv_of_checked v d (level + 1) false c hck (by simp) hcroot hcni ?_
      intro e he
      exact hpos e (by rw [flatten_succ]; exact List.mem_flatMap.2 ⟨c, hc, he⟩)
    · intro c hc
      rw [b1]
      exact checked_addr v d (level + 1) c (b9 c hc) _ (hdr_id_mem_slabIds d c)
    · intro ht
      have : 0 < level := by
        rcases Nat.eq_zero_or_pos level with hl | hl
        · have := htop.2 hl; rw [ht] at this; cases this
        · exact hl
      exact (b2 this).2
    · intro ht; rw [← hlen]; exact b4 (htop.1 ht)

theorem undef_idx : SlabID.undef.idx = 0 := rfl

/-- `ArrInv` implies everything `VerifyArray` checks. -/
theorem arrVerified_of_arrInv {T : Nat} {a : Arr} {ctr : Nat} (h : ArrInv T a ctr) (v : AVerifier)
    (hvT : v.T = T) (hva : v.address = a.addr) (typeInfo : Option Nat)
    (hty : ∀ ty, typeInfo = some ty → a.ty = ty) : ArrVerified v typeInfo a := by
  obtain ⟨d, t, ty0⟩ := a
  subst hvT
  have hni : NotInl d t := h.notInl
  have hidne : ∀ id ∈ slabIds d t, id ≠ SlabID.undef := by
    intro id hid heq
    have := (h.ids.2 id hid).2.1
    rw [heq, undef_idx] at this; omega
  refine ⟨hva.symm, fun _ => hidne _ (hdr_id_mem_slabIds d t), isRoot_of_treeInv d true t h.tree, hty,
    checked_of_treeInv v d 0 true t h.tree hni (by simp) hva.symm, h.ids.1, ?_⟩
  show (leafIds d t).tail = definedNexts (Arr.leaves d t)
  refine chain_of_leafChain (Arr.leaves d t) h.chain ?_
  intro s hs
  exact hidne _ (leafIds_subset_slabIds d t _ (List.mem_map.2 ⟨s, hs, rfl⟩))

/-- What `VerifyArray` checks, together with the five facts it does not check, is `ArrInv`. -/
theorem arrInv_of_arrVerified {v : AVerifier} {typeInfo : Option Nat} {a : Arr} {ctr : Nat}
    (h : ArrVerified v typeInfo a) (hpos : ElemsPos a) (hchain : LeafChain (Arr.leaves a.d a.root))
    (hidx : ∀ id ∈ slabIds a.d a.root, 1 ≤ id.idx ∧ id.idx ≤ ctr) (hst : a.isInlined = false)
    (hcnt : a.count < maxArrayElementCount + 1) : ArrInv v.T a ctr := by
  obtain ⟨d, t, ty0⟩ := a
  have hni : NotInl d t := (isInlined_iff d t ty0).1 hst
  refine ⟨treeInv_of_checked v d 0 true t h.tree (by simp) h.extra hni hpos, hchain, ⟨h.ids_nodup, ?_⟩,
    hst, hcnt⟩
  intro id hid
  refine ⟨?_, hidx id hid⟩
  rw [checked_addr v d 0 t h.tree id hid]
  exact h.addr.symm

theorem verifyMetaDataSlab_cases {α : Type} {f : α → Nat → Option Hdr → AVAcc → AVRes}
    {m : MetaSlab α} {level : Nat} {acc : AVAcc} {r : AVRes}
    (h : verifyMetaDataSlab f m level acc = r) :
    (∃ acc', r = .ok (m.hdr.count, acc')) ∨
    ∃ e, r = .error e ∧
      (e = .rootMetaTooFewChildren ∨ e = .countSumLength ∨ e = .metaHeaderCountWrong ∨
        e = .metaHeaderSizeWrong ∨
        verifyChildren (fun c h acc => f c (level + 1) (some h) acc)
          m.childHdrs m.children m.countSum 0 acc = .error e) := by
  unfold verifyMetaDataSlab at h
  split at h
  · exact .inr ⟨_, h.symm, .inl rfl⟩
  · split at h
    · exact .inr ⟨_, h.symm, .inr (.inl rfl)⟩
    · split at h
      · rename_i e he
        exact .inr ⟨e, h.symm, .inr (.inr (.inr (.inr he)))⟩
      · split at h
        · exact .inr ⟨_, h.symm, .inr (.inr (.inl rfl))⟩
        · split at h
          · exact .inr ⟨_, h.symm, .inr (.inr (.inr (.inl rfl)))⟩
          · exact .inl ⟨_, h.symm⟩

theorem verifySlab_count (v : AVerifier) : ∀ (d : Nat) (t : ATree d) (level : Nat) (hp : Option Hdr)
    (acc : AVAcc) (r : Nat × AVAcc), verifySlab v d t level hp acc = .ok r → r.1 = (hdr d t).count
  | 0, t, level, hp, acc, r, h => by
    revert h; refine forall_ofData ?_ t; intro s h
    rw [verifySlab_zero] at h
    split at h
    · cases h
    · unfold verifyDataSlab at h
      split at h
      · cases h
      · cases h; rfl
  | d + 1, t, level, hp, acc, r, h => by
    revert h; refine forall_ofMeta ?_ t; intro m h
    rw [verifySlab_succ] at h
    split at h
    · cases h
    · rcases verifyMetaDataSlab_cases h with ⟨acc', hok⟩ | ⟨e, he, _⟩
      · cases hok; rfl
      · cases he

theorem firstErr_some_mem {ε : Type} : ∀ (l : List (Bool × ε)) (e : ε), firstErr l = some e →
    ∃ p ∈ l, p.2 = e
  | [], e, h => by cases h
  | (c, e') :: rest, e, h => by
    unfold firstErr at h
    split at h
    · cases h; exact ⟨(c, e'), by simp, rfl⟩
    · obtain ⟨p, hp, hpe⟩ := firstErr_some_mem rest e h
      exact ⟨p, by simp [hp], hpe⟩

theorem verifyChildren_error {α : Type} (P : AVErr → Prop) (f : α → Hdr → AVAcc → AVRes)
    (hf : ∀ c h acc e, f c h acc = .error e → P e) (h1 : P .slabNotFound) (h2 : P .goPanic)
    (h3 : P .countSumWrong) :
    ∀ (hs : List Hdr) (cs : List α) (sums : List Nat) (k : Nat) (acc : AVAcc) (e : AVErr),
      verifyChildren f hs cs sums k acc = .error e → P e
  | [], _, _, _, _, e, h => by simp [verifyChildren] at h
  | _ :: _, [], _, _, _, e, h => by simp only [verifyChildren] at h; cases h; exact h1
  | hd :: hs, c :: cs, sums, k, acc, e, h => by
    simp only [verifyChildren] at h
    split at h
    · rename_i e' he'
      cases h; exact hf _ _ _ _ he'
    · split at h
      · cases h; exact h2
      · split at h
        · cases h; exact h3
        · exact verifyChildren_error P f hf h1 h2 h3 hs cs _ _ _ e h

theorem verifySlab_ne_rootCountWrong (v : AVerifier) : ∀ (d : Nat) (t : ATree d) (level : Nat)
    (hp : Option Hdr) (acc : AVAcc) (e : AVErr), verifySlab v d t level hp acc = .error e →
    e ≠ .rootCountWrong
  | 0, t, level, hp, acc, e, h => by
    revert h; refine forall_ofData ?_ t; intro s h
    rw [verifySlab_zero] at h
    split at h
    · rename_i e' he'
      cases h
      obtain ⟨p, hp', rfl⟩ := firstErr_some_mem _ _ he'
      simp only [slabChecks, List.mem_cons, List.not_mem_nil, or_false] at hp'
      rcases hp' with rfl | rfl | rfl | rfl | rfl | rfl | rfl <;> simp
    · unfold verifyDataSlab at h
      split at h
      · rename_i e' he'
        cases h
        obtain ⟨p, hp', rfl⟩ := firstErr_some_mem _ _ he'
        simp only [dataChecks, List.mem_cons, List.not_mem_nil, or_false] at hp'
        rcases hp' with rfl | rfl | rfl | rfl | rfl | rfl <;> simp
      · cases h
  | d + 1, t, level, hp, acc, e, h => by
    revert h; refine forall_ofMeta ?_ t; intro m h
    rw [verifySlab_succ] at h
    split at h
    · rename_i e' he'
      cases h
      obtain ⟨p, hp', rfl⟩ := firstErr_some_mem _ _ he'
      simp only [slabChecks, List.mem_cons, List.not_mem_nil, or_false] at hp'
      rcases hp' with rfl | rfl | rfl | rfl | rfl | rfl | rfl <;> simp
    · rcases verifyMetaDataSlab_cases h with ⟨acc', hok⟩ | ⟨e', he, hc⟩
      · cases hok
      · cases he
        rcases hc with rfl | rfl | rfl | rfl | hc
        · nofun
        · nofun
        · nofun
        · nofun
        · exact verifyChildren_error (· ≠ .rootCountWrong) _
            (fun c hh acc e he => verifySlab_ne_rootCountWrong v d c (level + 1) (some hh) acc e he)
            nofun nofun nofun _ _ _ _ _ _ hc

/-- The check "root slab %d count %d is wrong" of `verifyArray` is dead: `computedCount` is the
    root's header count by construction, and `a.Count()` reads the same field. -/
theorem verifyArray_ne_rootCountWrong (v : AVerifier) (typeInfo : Option Nat) (a : Arr) :
    verifyArray v typeInfo a ≠ .error .rootCountWrong := by
  unfold verifyArray
  split
  · rename_i e he
    intro h
    cases h
    obtain ⟨p, hp', hpe⟩ := firstErr_some_mem _ _ he
    simp only [rootChecks, List.mem_cons, List.not_mem_nil, or_false] at hp'
    rcases hp' with rfl | rfl | rfl | rfl <;> simp at hpe
  · split
    · rename_i e he
      intro h; cases h
      exact verifySlab_ne_rootCountWrong v a.d a.root 0 none _ _ he rfl
    · rename_i n acc he
      have := verifySlab_count v a.d a.root 0 none _ _ he
      rw [if_neg (by simpa [Arr.count, Arr.rootHdr] using this)]
      unfold chainCheck
      split
      · intro h; cases h
      · split <;> intro h <;> cases h

/-- under the invariant every element of the array respects `ElemOk` -/
theorem elemOk_of_treeInv {T : Nat} : ∀ (d : Nat) (top : Bool) (t : ATree d), TreeInv T d top t →
    ∀ e ∈ flatten d t, ElemOk T e
  | 0, top, t, h => by
    revert h; refine forall_ofData ?_ t; intro s h e he
    exact ((treeInv_zero T top s).1 h).elems_ok e he
  | d + 1, top, t, h => by
    revert h; refine forall_ofMeta ?_ t; intro m h e he
    rw [flatten_succ] at he
    obtain ⟨c, hc, he⟩ := List.mem_flatMap.1 he
    exact elemOk_of_treeInv d false c (((treeInv_succ T d top m).1 h).1.kids_inv c hc) e he

end Atree.Verify

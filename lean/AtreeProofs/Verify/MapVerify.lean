import AtreeProofs.Map.TreeTop
import AtreeModel.Verify.Map
import AtreeProofs.Verify.ArrayVerify
import AtreeProofs.Map.TreeBasics
import AtreeProofs.Map.Example
/-
  The transcription of `VerifyMap` (`AtreeModel/Verify/Map.lean`) against the map invariant
  `MapInv`, in one direction only: every state the invariant describes is accepted
  (`verifyMapSlab_ok`, `verifyMap_ok_of_mapInv`); there is no characterisation of the accepted maps as
  for arrays.  One lemma per element level (`verifySingleElement_ok`, `verifyHkeyLoop_ok`,
  `verifyElements_ok`), then the data slab, the children loop and the tree.  Property-level statements
  are in `AtreeProofs/Props/C05VerifyMap.lean`.
-/
namespace Atree.Verify
open Atree Gen

theorem sliceIsSorted_of_pairwise : ∀ (l : List Nat), l.Pairwise (· < ·) → sliceIsSorted l = true
  | [], _ => rfl
  | [_], _ => rfl
  | a :: b :: rest, h => by
    have hab : a < b := (List.pairwise_cons.1 h).1 b (by simp)
    have ht := sliceIsSorted_of_pairwise (b :: rest) (List.pairwise_cons.1 h).2
    simp only [sliceIsSorted, ht, Bool.and_true, Bool.not_eq_true', decide_eq_false_iff_not]
    omega

theorem hasAdjacentDup_of_pairwise : ∀ (l : List Nat), l.Pairwise (· < ·) → hasAdjacentDup l = false
  | [], _ => rfl
  | [_], _ => rfl
  | a :: b :: rest, h => by
    have hab : a < b := (List.pairwise_cons.1 h).1 b (by simp)
    have ht := hasAdjacentDup_of_pairwise (b :: rest) (List.pairwise_cons.1 h).2
    simp only [hasAdjacentDup, ht, Bool.or_false, decide_eq_false_iff_not]
    omega

section Elements
variable {T L : Nat} {D : DigestFn L} {v : MVerifier}

/-- the verifier is set up for the threshold and the digester of the invariant -/
structure VFor (v : MVerifier) (T L : Nat) (D : DigestFn L) : Prop where
  hT : legalThreshold T = true
  vT : v.T = T
  vL : v.L = L
  vdg : v.dg = D.dg

theorem verifySingleElement_ok (hv : VFor v T L D) (x : SElem) (digests : List Nat) (n : Nat)
    (hx : SElemOk T L D x) (hd : x.key.digs.take n = digests) (hn : n ≤ L) :
    verifySingleElement v x digests = .ok (x.size, L) := by
  obtain ⟨⟨hk1, _, hk3⟩, _, hv3, hsz⟩ := hx
  have hlen : x.key.digs.length = L := by rw [hk1]; exact D.len _
  have hdl : digests.length = n := by rw [← hd, List.length_take, hlen]; omega
  unfold verifySingleElement
  simp only [hv.vT, hv.vdg, hv.vL]
  rw [← hk1]
  have hfe : firstErr
      [(decide (x.key.size > maxInlineMapKey T), MVErr.keyTooLarge),
       (decide (x.val.size > maxInlineMapValue T x.key.size), MVErr.valueTooLarge),
       (decide (singleElementPrefixSize + x.key.size + x.val.size ≠ x.size), MVErr.singleElementSizeWrong),
       (decide (digests.length > x.key.digs.length), MVErr.goPanic),
       (decide (digests ≠ x.key.digs.take digests.length), MVErr.digestWrong)] = none := by
    simp only [firstErr_cons_eq_none, firstErr_nil, and_true, decide_eq_false_iff_not, Nat.not_lt,
      ne_eq, Decidable.not_not]
    refine ⟨hk3, hv3, hsz.symm, by omega, ?_⟩
    rw [hdl, hd]
  rw [hfe, hsz]

theorem verifySingleLoop_ok (hv : VFor v T L D) (level : Nat) (path : List Nat) (hl : level = L) :
    ∀ (elems : List SElem) (acc : Nat),
      (∀ x ∈ elems, SElemOk T L D x ∧ x.key.digs.take level = path) →
      verifySingleLoop v level path elems acc = .ok (acc + (elems.map (·.size)).sum)
  | [], acc, _ => by simp [verifySingleLoop]
  | x :: xs, acc, h => by
    obtain ⟨hx, hp⟩ := h x (by simp)
    have h1 := verifySingleElement_ok hv x path level hx hp (by omega)
    unfold verifySingleLoop
    rw [h1]
    simp only
    have hle : x.size ≤ maxInlineMapElem T := by
      obtain ⟨⟨_, _, hk3⟩, _, hv3, hsz⟩ := hx
      rw [hsz]; exact single_size_le hv.hT hk3 hv3
    rw [if_neg (by rw [hv.vT]; omega), if_neg (by simp [hl])]
    rw [verifySingleLoop_ok hv level path hl xs (acc + x.size) (fun y hy => h y (by simp [hy]))]
    simp only [List.map_cons, List.sum_cons, Nat.add_assoc]

/-- One turn of the digest-table loop on an element that satisfies `MElemOk` (given the result of
    the recursive call on a group): the element's entries and its size are added. -/
theorem verifyHkeyLoop_cons (hv : VFor v T L D) {α : Type} (o : ElemsOps α)
    (Inv : Nat → List Nat → α → Prop) (vg : α → Nat → List Nat → EVRes) (level : Nat) (path : List Nat)
    (hlev : level < L)
    (hvg : ∀ g hk, Inv (level + 1) (path ++ [hk]) g →
      vg g (level + 1) (path ++ [hk]) = .ok ((o.toList g).length, o.size g))
    (e : MElemF α) (es : List (MElemF α)) (hk : Nat) (hks : List Nat) (cnt sz : Nat)
    (he : MElemOk T L D o Inv level path hk e)
    (hsz0 : level = 0 → MElemF.size o e ≤ maxInlineMapElem T) :
    verifyHkeyLoop v vg o.size level path (hk :: hks) (e :: es) cnt sz =
      verifyHkeyLoop v vg o.size level path hks es (cnt + (e.toList o).length)
        (sz + digestSize + MElemF.size o e) := by
  have hbig : ¬ (level = 0 ∧ MElemF.size o e > maxInlineMapElem v.T) := by
    rw [hv.vT]
    exact fun ⟨h0, hgt⟩ => Nat.not_lt_of_le (hsz0 h0) hgt
  conv => lhs; unfold verifyHkeyLoop
  cases e with
  | single x =>
    obtain ⟨hx, hp⟩ := he
    simp only
    rw [if_neg (show ¬ (level = 0 ∧ x.size > _) from hbig), verifySingleElement_ok hv x (path ++ [hk]) (level + 1) hx hp hlev]
    simp only
    rw [if_neg (Nat.not_le_of_lt hlev)]
    rfl
  | inl g =>
    obtain ⟨hg, _, _, _⟩ := he
    simp only
    rw [if_neg (show ¬ (level = 0 ∧ inlineCollisionGroupPrefixSize + o.size g > _) from hbig),
      hvg g hk hg]
    simp only
    rw [if_neg (not_not_intro (Nat.add_comm _ _))]
    rfl
  | ext id esz slab =>
    obtain ⟨_, hesz, _, _, _, hg, _, _⟩ := he
    simp only
    rw [if_neg (show ¬ (level = 0 ∧ esz > _) from hbig), hvg slab.elems hk hg]
    simp only
    rw [if_neg (by rw [hesz, slabIDStorableSize_eq]; simp)]
    rfl

theorem verifyHkeyLoop_ok (hv : VFor v T L D) {α : Type} (o : ElemsOps α)
    (Inv : Nat → List Nat → α → Prop) (vg : α → Nat → List Nat → EVRes) (level : Nat) (path : List Nat)
    (hlev : level < L)
    (hvg : ∀ g hk, Inv (level + 1) (path ++ [hk]) g →
      vg g (level + 1) (path ++ [hk]) = .ok ((o.toList g).length, o.size g)) :
    ∀ (es : List (MElemF α)) (hks : List Nat) (cnt sz : Nat), hks.length = es.length →
      (∀ (i hk : Nat) (el : MElemF α), hks[i]? = some hk → es[i]? = some el → MElemOk T L D o Inv level path hk el) →
      (level = 0 → ∀ el ∈ es, MElemF.size o el ≤ maxInlineMapElem T) →
      verifyHkeyLoop v vg o.size level path hks es cnt sz =
        .ok (cnt + (es.flatMap (fun el => el.toList o)).length, sz + HkeyElems.elemSizes o es)
  | [], hks, cnt, sz, _, _, _ => by
    cases hks <;> simp [verifyHkeyLoop, HkeyElems.elemSizes]
  | e :: es, [], _, _, hlen, _, _ => nomatch hlen
  | e :: es, hk :: hks, cnt, sz, hlen, hel, hlim => by
    rw [verifyHkeyLoop_cons hv o Inv vg level path hlev hvg e es hk hks cnt sz (hel 0 hk e rfl rfl)
        fun h0 => hlim h0 e List.mem_cons_self,
      verifyHkeyLoop_ok hv o Inv vg level path hlev hvg es hks _ _ (Nat.succ.inj hlen)
        (fun i => hel (i + 1)) fun h0 el hm => hlim h0 el (List.mem_cons_of_mem _ hm)]
    simp only [List.flatMap_cons, List.length_append, HkeyElems.elemSizes, List.map_cons,
      List.sum_cons, Nat.add_assoc, Nat.add_comm digestSize]

theorem verifyHkeyElements_ok (hv : VFor v T L D) {α : Type} (o : ElemsOps α)
    (Inv : Nat → List Nat → α → Prop) (vg : α → Nat → List Nat → EVRes) (rr level : Nat) (path : List Nat)
    (he : HkeyElems α) (h : HInv T L D o Inv rr level path he)
    (hvg : ∀ g hk, Inv (level + 1) (path ++ [hk]) g →
      vg g (level + 1) (path ++ [hk]) = .ok ((o.toList g).length, o.size g))
    (hlim : level = 0 → ∀ el ∈ he.elems, MElemF.size o el ≤ maxInlineMapElem T) :
    verifyHkeyElements v vg o.size he level path =
      .ok ((he.elems.flatMap (fun el => el.toList o)).length, he.size) := by
  obtain ⟨h1, h2, h3, h4, h5, h6⟩ := h
  unfold verifyHkeyElements
  have hfe : firstErr
      [(decide (level ≠ he.level), MVErr.hkeyLevelWrong),
       (decide (he.hkeys.length ≠ he.elems.length), MVErr.hkeysCountWrong),
       (!sliceIsSorted he.hkeys, MVErr.hkeysNotSorted),
       (hasAdjacentDup he.hkeys, MVErr.hkeysNotUnique)] = none := by
    simp only [firstErr_cons_eq_none, firstErr_nil, and_true, decide_eq_false_iff_not, ne_eq,
      Decidable.not_not, Bool.not_eq_false']
    exact ⟨h2.symm, h3, sliceIsSorted_of_pairwise _ h4, hasAdjacentDup_of_pairwise _ h4⟩
  rw [hfe]
  simp only
  rw [verifyHkeyLoop_ok hv o Inv vg level path (by omega) hvg he.elems he.hkeys 0 hkeyElementsPrefixSize h3 h6 hlim]
  simp only [Nat.zero_add]
  rw [if_neg (by rw [h5]; simp)]
  rw [h5]

theorem verifyElements_ok (hv : VFor v T L D) : ∀ (r level : Nat) (path : List Nat) (e : MElems r),
    ElemsInv T L D r level path e → 1 ≤ level →
    verifyElements v r e level path = .ok (((MElems.ops r).toList e).length, (MElems.ops r).size e)
  | 0, level, path, e, h, _ => by
    have e' : SingleElems := e
    have h' : ElemsInv T L D 0 level path (e : SingleElems) := h
    simp only [ElemsInv] at h'
    obtain ⟨h1, h2, h3, h4, _⟩ := h'
    show verifySingleElements v e level path = _
    unfold verifySingleElements
    rw [if_neg (by simp [h2]), verifySingleLoop_ok hv level path h1 _ _ h4]
    simp only
    rw [if_neg (by rw [h3]; simp)]
    simp [MElems.ops, SingleElems.ops, h3]
  | r + 1, level, path, e, h, hl => by
    have hh := (elemsInv_succ_iff T L D r level path e).1 h
    show verifyHkeyElements v (verifyElements v r) (MElems.ops r).size e level path = _
    rw [verifyHkeyElements_ok hv (MElems.ops r) (ElemsInv T L D r) (verifyElements v r) r level path e hh
      (fun g hk hg => verifyElements_ok hv r (level + 1) (path ++ [hk]) g hg (by omega))
      (fun h0 => by omega)]
    rfl

end Elements

section Tree
variable {T r : Nat} {D : DigestFn (r + 1)} {v : MVerifier}

/-- identifiers of the data slabs of a subtree, left to right (map form of `leafIds`) -/
def mleafIds (d : Nat) (t : MTree r d) : List SlabID := (MTree.leaves d t).map (·.hdr.id)

/-- the `next` links that are defined (map form of `definedNexts`) -/
def mdefinedNexts (l : List (MDataSlab r)) : List SlabID :=
  (l.map (·.next)).filter (fun x => decide (x ≠ SlabID.undef))

/-- the accumulator after a subtree has been verified (map form of `extend`) -/
def mextend (acc : MVAcc) (d : Nat) (t : MTree r d) : MVAcc :=
  ⟨acc.dataSlabIDs ++ mleafIds d t, acc.nextDataSlabIDs ++ mdefinedNexts (MTree.leaves d t),
   acc.firstKeys ++ (MTree.leaves d t).map (·.hdr.firstKey), acc.slabIDs ++ mapTreeIds d t⟩

/-- `mextend` over a list of children, left to right -/
def mextendL (acc : MVAcc) (d : Nat) (cs : List (MTree r d)) : MVAcc :=
  ⟨acc.dataSlabIDs ++ cs.flatMap (mleafIds d),
   acc.nextDataSlabIDs ++ mdefinedNexts (cs.flatMap (MTree.leaves d)),
   acc.firstKeys ++ (cs.flatMap (MTree.leaves d)).map (·.hdr.firstKey),
   acc.slabIDs ++ cs.flatMap (mapTreeIds d)⟩

theorem mdefinedNexts_append (a b : List (MDataSlab r)) :
    mdefinedNexts (a ++ b) = mdefinedNexts a ++ mdefinedNexts b := by
  simp [mdefinedNexts]

theorem mextendL_nil (acc : MVAcc) (d : Nat) : mextendL acc d ([] : List (MTree r d)) = acc := by
  cases acc; simp [mextendL, mdefinedNexts]

theorem mextendL_cons (acc : MVAcc) (d : Nat) (c : MTree r d) (cs : List (MTree r d)) :
    mextendL acc d (c :: cs) = mextendL (mextend acc d c) d cs := by
  simp [mextendL, mextend, mdefinedNexts_append, List.append_assoc]

theorem mleafIds_succ (d : Nat) (m : MMetaSlab (MTree r d)) :
    mleafIds (d + 1) (m : MTree r (d + 1)) = m.children.flatMap (mleafIds d) := by
  simp only [mleafIds, MTree.leaves_succ, List.map_flatMap]
  rfl

theorem mapTreeIds_succ (d : Nat) (m : MMetaSlab (MTree r d)) :
    mapTreeIds (d + 1) (m : MTree r (d + 1)) = m.hdr.id :: m.children.flatMap (mapTreeIds d) := rfl

theorem mextend_succ (acc : MVAcc) (d : Nat) (m : MMetaSlab (MTree r d)) :
    mextend acc (d + 1) (m : MTree r (d + 1)) =
      mextendL { acc with slabIDs := acc.slabIDs ++ [m.hdr.id] } d m.children := by
  simp [mextend, mextendL, mleafIds_succ, mapTreeIds_succ, MTree.leaves_succ]

/-- the root data slab is not an inlined one -/
def MNotInl : (d : Nat) → MTree r d → Prop
  | 0, (s : MDataSlab r) => s.inlined = false
  | _ + 1, _ => True

theorem mnotInl_of_false : ∀ (d : Nat) (t : MTree r d), MTreeInv T D d false t → MNotInl d t
  | 0, s, h => by
    have hi := (mtreeInv_zero_iff T D false s).mp h
    show (s : MDataSlab r).inlined = false
    cases hx : (s : MDataSlab r).inlined with
    | false => rfl
    | true => have := hi.inl_root hx; cases this
  | _ + 1, _, _ => trivial

/-- a subtree below the root has at least one first-level digest in every data slab -/
theorem leaf_hkeys_ne_nil : ∀ (d : Nat) (t : MTree r d), MTreeInv T D d false t →
    ∀ s ∈ MTree.leaves d t, s.elems.hkeys ≠ []
  | 0, t, h, s, hs => by
    have : s = t := List.mem_singleton.mp hs
    subst this
    have hi := (mtreeInv_zero_iff T D false s).mp h
    have hne := hi.nonempty rfl
    have hlen := hi.loose.hinv.len_eq
    intro h0
    rw [h0] at hlen
    exact hne (List.length_eq_zero_iff.1 hlen.symm)
  | d + 1, m, h, s, hs => by
    obtain ⟨c, hc, hsc⟩ := List.mem_flatMap.mp hs
    exact leaf_hkeys_ne_nil d c (((mtreeInv_succ_iff T D d false m).mp h).1.kid_inv c hc) s hsc

theorem metaTail_none (a b : Nat) (l : List Nat) (n k : Nat) (h1 : a = b) (h2 : l.Pairwise (· < ·))
    (h3 : n = k) :
    firstErr [(decide (a ≠ b), MVErr.metaFirstKeyWrong), (!sliceIsSorted l, MVErr.childFirstKeysNotSorted),
      (hasAdjacentDup l, MVErr.childFirstKeysNotUnique), (decide (n ≠ k), MVErr.metaHeaderSizeWrong)] = none := by
  simp only [firstErr_cons_eq_none, firstErr_nil, and_true, decide_eq_false_iff_not, ne_eq,
    Decidable.not_not, Bool.not_eq_false']
  exact ⟨h1, sliceIsSorted_of_pairwise _ h2, hasAdjacentDup_of_pairwise _ h2, h3⟩

theorem mslabChecks_none (v : MVerifier) (hdr : MHdr) (inl extra : Bool) (uf : Option Nat) (full : Bool)
    (level : Nat) (hp : Option MHdr) (seen : List SlabID)
    (h1 : hdr.id ∉ seen) (h2 : hdr.id.addr = v.address) (h3 : inl = false)
    (h4 : 0 < level → extra = false) (h5 : 0 < level → uf = none) (h6 : full = false)
    (h7 : ∀ h, hp = some h → h = hdr) :
    firstErr (mslabChecks v hdr inl extra uf full level hp seen) = none := by
  refine (commonChecks_none seen hdr.id v.address inl (v.inStorage hdr.id) extra uf full level _
    .duplicateSlabID .slabAddress .inlinedSlabInStorage .nonRootHasExtraData .underflow .overflow
    .headerMismatch (mslabChecks v hdr inl extra uf full level hp seen) rfl).mpr
    ⟨h1, h2, ?_, h4, h5, h6, ?_⟩
  · rw [h3]; exact fun h => nomatch h
  · cases hp with
    | none => rfl
    | some h => simp [h7 h rfl]

theorem verifyMapDataSlab_ok (hv : VFor v T (r + 1) D) (s : MDataSlab r) (top : Bool) (level : Nat)
    (acc : MVAcc) (h : MDataInv T D top s) (htop : top = true ↔ level = 0) (hni : s.inlined = false) :
    verifyMapDataSlab v s level acc =
      .ok (s.pairs.length,
        ⟨acc.dataSlabIDs ++ [s.hdr.id], acc.nextDataSlabIDs ++ mdefinedNexts [s],
         acc.firstKeys ++ [s.hdr.firstKey], acc.slabIDs⟩) := by
  unfold verifyMapDataSlab
  have hE : verifyElements v (r + 1) s.elems 0 [] = .ok (s.pairs.length, s.elems.size) := by
    show verifyHkeyElements v (verifyElements v r) (MElems.ops r).size s.elems 0 [] = _
    rw [verifyHkeyElements_ok hv (MElems.ops r) (ElemsInv T (r + 1) D r) (verifyElements v r) r 0 [] s.elems
      h.loose.hinv
      (fun g hk hg => verifyElements_ok hv r 1 ([] ++ [hk]) g hg (by omega))
      (fun _ => h.elem_le)]
    rfl
  rw [hE]
  simp only
  have hpre : mapDataPrefixAt level s.inlined = s.prefixSize := by
    unfold mapDataPrefixAt MDataSlab.prefixSize
    rw [hni, h.root_eq]
    cases top with
    | true => simp [htop.1 rfl]
    | false =>
      have : level ≠ 0 := fun hl => by have := htop.2 hl; cases this
      simp [this]
  have hfe : firstErr
      [(decide (s.elems.firstKey ≠ s.hdr.firstKey), MVErr.dataFirstKeyWrong),
       (s.inlined && decide (level > 0), MVErr.nonRootInlined),
       (s.inlined && !s.root, MVErr.inlinedNoExtraData),
       (s.inlined && decide (s.next ≠ SlabID.undef), MVErr.inlinedHasNext),
       (decide (mapDataPrefixAt level s.inlined + s.elems.size ≠ s.hdr.size), MVErr.dataHeaderSizeWrong)] = none := by
    simp only [firstErr_cons_eq_none, firstErr_nil, and_true, hni, Bool.false_and, decide_eq_false_iff_not,
      ne_eq, Decidable.not_not, true_and]
    rw [hni] at hpre
    exact ⟨h.first_eq.symm, by rw [hpre, h.size_eq]⟩
  rw [hfe]
  simp only [mdefinedNexts, List.map_cons, List.map_nil]
  by_cases hn : s.next = SlabID.undef <;> simp [hn, List.filter]

/-- hypotheses about the slab IDs of a subtree that `MapInv` does not contain -/
structure IdsFor (v : MVerifier) (seen : List SlabID) {d : Nat} (t : MTree r d) : Prop where
  fresh : Fresh seen (mapTreeIds d t)
  addr : ∀ id ∈ mapTreeIds d t, id.addr = v.address

theorem verifyMapChildren_ok (d level : Nat)
    (IH : ∀ (c : MTree r d) (acc : MVAcc), MTreeInv T D d false c → IdsFor v acc.slabIDs c →
      verifyMapSlab v d c level (some (MTree.hdr d c)) acc = .ok ((MTree.toList d c).length, mextend acc d c)) :
    ∀ (cs : List (MTree r d)) (cnt : Nat) (acc : MVAcc),
      (∀ c ∈ cs, MTreeInv T D d false c) → Fresh acc.slabIDs (cs.flatMap (mapTreeIds d)) →
      (∀ id ∈ cs.flatMap (mapTreeIds d), id.addr = v.address) →
      verifyMapChildren (fun c h acc => verifyMapSlab v d c level (some h) acc) (cs.map (MTree.hdr d)) cs cnt acc =
        .ok (cnt + (cs.flatMap (MTree.toList d)).length, mextendL acc d cs)
  | [], cnt, acc, _, _, _ => by simp [verifyMapChildren, mextendL_nil]
  | c :: cs, cnt, acc, hinv, hfr, haddr => by
    simp only [List.flatMap_cons] at hfr haddr
    obtain ⟨hfr1, hfr2⟩ := (fresh_append _ _ _).1 hfr
    simp only [List.map_cons, verifyMapChildren]
    rw [IH c acc (hinv c (by simp)) ⟨hfr1, fun id hid => haddr id (List.mem_append_left _ hid)⟩]
    simp only
    rw [verifyMapChildren_ok d level IH cs _ (mextend acc d c) (fun x hx => hinv x (by simp [hx]))
      (by simpa [mextend] using hfr2) (fun id hid => haddr id (List.mem_append_right _ hid))]
    simp only [List.flatMap_cons, List.length_append, mextendL_cons, Nat.add_assoc]

/-- every subtree the invariant describes is accepted by `verifySlab` -/
theorem verifyMapSlab_ok (hv : VFor v T (r + 1) D) : ∀ (d level : Nat) (top : Bool) (t : MTree r d)
    (hp : Option MHdr) (acc : MVAcc), MTreeInv T D d top t → (top = true ↔ level = 0) → MNotInl d t →
    (∀ h, hp = some h → h = MTree.hdr d t) → IdsFor v acc.slabIDs t →
    verifyMapSlab v d t level hp acc = .ok ((MTree.toList d t).length, mextend acc d t)
  | 0, level, top, s, hp, acc, h, htop, hni, hhp, hids => by
    have hi := (mtreeInv_zero_iff T D top s).mp h
    have hni : (s : MDataSlab r).inlined = false := hni
    have hmem : (s : MDataSlab r).hdr.id ∈ mapTreeIds 0 s :=
      (List.mem_singleton.2 rfl : (s : MDataSlab r).hdr.id ∈ [(s : MDataSlab r).hdr.id])
    have hfr : (s : MDataSlab r).hdr.id ∉ acc.slabIDs := hids.fresh.1 _ hmem
    have hnt : 0 < level → top = false := top_false_of_pos htop
    show (match firstErr (mslabChecks v (s : MDataSlab r).hdr (s : MDataSlab r).inlined (s : MDataSlab r).root
            ((s : MDataSlab r).isUnderflow v.T) ((s : MDataSlab r).isFull v.T) level hp acc.slabIDs) with
          | some err => Except.error err
          | none => verifyMapDataSlab v s level { acc with slabIDs := acc.slabIDs ++ [(s : MDataSlab r).hdr.id] }) = _
    rw [mslabChecks_none v _ _ _ _ _ level hp acc.slabIDs hfr (hids.addr _ hmem) hni
      (fun hl => by rw [hi.root_eq, hnt hl])
      (fun hl => by
        rw [hv.vT]
        exact (isUnderflow_none_iff T _).2 (hi.ge_min (hnt hl)))
      (by
        rw [hv.vT]
        show decide ((s : MDataSlab r).hdr.size > maxThr T) = false
        rw [decide_eq_false_iff_not]; exact Nat.not_lt.2 hi.le_max)
      hhp]
    show verifyMapDataSlab v s level { acc with slabIDs := acc.slabIDs ++ [(s : MDataSlab r).hdr.id] } = _
    rw [verifyMapDataSlab_ok hv s top level _ hi htop hni]
    rfl
  | d + 1, level, top, m, hp, acc, h, htop, _, hhp, hids => by
    obtain ⟨hm', hmax, hmin, hkids⟩ := (mtreeInv_succ_iff T D d top m).mp h
    obtain ⟨hroot, hhdrs, hsize, hfirst, hci, _, _, _⟩ := id hm'
    have hlen : m.childHdrs.length = m.children.length := by rw [hhdrs]; simp
    have hnt : 0 < level → top = false := top_false_of_pos htop
    have hmem : m.hdr.id ∈ mapTreeIds (d + 1) m :=
      (List.mem_cons_self : m.hdr.id ∈ m.hdr.id :: m.children.flatMap (mapTreeIds d))
    have hidm : m.hdr.id ∉ acc.slabIDs := hids.fresh.1 _ hmem
    have hfrk : Fresh (acc.slabIDs ++ [m.hdr.id]) (m.children.flatMap (mapTreeIds d)) :=
      ((fresh_cons _ _ _).1
        (hids.fresh : Fresh acc.slabIDs (m.hdr.id :: m.children.flatMap (mapTreeIds d)))).2
    have hF := map_legal_bounds hv.hT  -- read by the `omega` below
    have hpos : 1 ≤ m.children.length := by
      rcases Nat.eq_zero_or_pos level with hl | hl
      · have := hkids (htop.2 hl); omega
      · have := hmin (hnt hl)
        rw [hsize] at this
        simp only [mapMetaDataSlabPrefixSize, mapSlabHeaderSize, minThr] at this
        omega
    show (match firstErr (mslabChecks v m.hdr false m.root (m.isUnderflow v.T) (m.isFull v.T) level hp acc.slabIDs) with
          | some err => Except.error err
          | none => verifyMapMetaDataSlab (verifyMapSlab v d) m level { acc with slabIDs := acc.slabIDs ++ [m.hdr.id] }) = _
    rw [mslabChecks_none v _ _ _ _ _ level hp acc.slabIDs hidm (hids.addr _ hmem) rfl
      (fun hl => by rw [hroot, hnt hl])
      (fun hl => by
        rw [hv.vT]
        exact (isUnderflow_none_iff T _).2 (hmin (hnt hl)))
      (by
        rw [hv.vT]
        show decide (m.hdr.size > maxThr T) = false
        rw [decide_eq_false_iff_not]; exact Nat.not_lt.2 hmax)
      hhp]
    show verifyMapMetaDataSlab (verifyMapSlab v d) m level { acc with slabIDs := acc.slabIDs ++ [m.hdr.id] } = _
    unfold verifyMapMetaDataSlab
    rw [if_neg (by
      intro ⟨hl, hlt⟩
      have := hkids (htop.2 hl)
      omega)]
    have IH : ∀ (c : MTree r d) (acc : MVAcc), MTreeInv T D d false c → IdsFor v acc.slabIDs c →
        verifyMapSlab v d c (level + 1) (some (MTree.hdr d c)) acc =
          .ok ((MTree.toList d c).length, mextend acc d c) := fun c acc hc hidc =>
      verifyMapSlab_ok hv d (level + 1) false c (some (MTree.hdr d c)) acc hc (by simp)
        (mnotInl_of_false d c hc) (fun h hh => by cases hh; rfl) hidc
    have hloop := verifyMapChildren_ok (v := v) d (level + 1) IH m.children 0
      { acc with slabIDs := acc.slabIDs ++ [m.hdr.id] } hci hfrk
      (fun id hid => hids.addr id (List.mem_cons_of_mem _ hid))
    rw [hhdrs, hloop]
    simp only [Nat.zero_add]
    match hc : m.children, hpos with
    | c0 :: crest, _ =>
      show (match firstErr
              [(decide ((MTree.hdr d c0).firstKey ≠ m.hdr.firstKey), MVErr.metaFirstKeyWrong),
               (!sliceIsSorted (((c0 :: crest).map (MTree.hdr d)).map (·.firstKey)), MVErr.childFirstKeysNotSorted),
               (hasAdjacentDup (((c0 :: crest).map (MTree.hdr d)).map (·.firstKey)), MVErr.childFirstKeysNotUnique),
               (decide (((c0 :: crest).map (MTree.hdr d)).length * mapSlabHeaderSize + mapMetaDataSlabPrefixSize ≠ m.hdr.size),
                 MVErr.metaHeaderSizeWrong)] with
            | some err => Except.error err
            | none => Except.ok ((List.flatMap (MTree.toList d) (c0 :: crest)).length,
                mextendL { acc with slabIDs := acc.slabIDs ++ [m.hdr.id] } d (c0 :: crest))) = _
      rw [metaTail_none]
      · rw [← hc]
        exact congrArg Except.ok (Prod.ext rfl (mextend_succ acc d m).symm)
      · have e1 : (MTree.hdr (d + 1) m).firstKey = (m.childHdrs.headD default).firstKey := hfirst
        rw [e1, hhdrs, hc]; rfl
      · rw [← hc, ← hhdrs]; exact firstKeys_sorted hv.hT hm'
      · have e1 : (MTree.hdr (d + 1) m).size =
            mapMetaDataSlabPrefixSize + mapSlabHeaderSize * m.children.length := hsize
        rw [e1, hc]; simp only [List.length_cons, List.length_map, Nat.mul_comm, Nat.add_comm]

theorem mchain_of_leafChain (l : List (MDataSlab r)) (h : MLeafChain l)
    (hid : ∀ s ∈ l, s.hdr.id ≠ SlabID.undef) : (l.map (·.hdr.id)).tail = mdefinedNexts l :=
  tail_ids_eq_defined (α := MDataSlab r) (·.hdr.id) (·.next) MLeafChain (fun _ h => h) (fun _ _ _ h => h) l h hid

theorem mleafIds_subset : ∀ (d : Nat) (t : MTree r d), ∀ id ∈ mleafIds d t, id ∈ mapTreeIds d t
  | 0, s, id, hid => hid
  | d + 1, m, id, hid => by
    have hid : id ∈ (m : MMetaSlab (MTree r d)).children.flatMap (mleafIds d) :=
      (mleafIds_succ d m) ▸ hid
    obtain ⟨c, hc, hid⟩ := List.mem_flatMap.1 hid
    exact List.mem_cons_of_mem _ (List.mem_flatMap.2 ⟨c, hc, mleafIds_subset d c id hid⟩)

theorem mapIsRoot_of_inv : ∀ (d : Nat) (top : Bool) (t : MTree r d), MTreeInv T D d top t →
    mapIsRoot d t = top
  | 0, top, s, h => ((mtreeInv_zero_iff T D top s).mp h).root_eq
  | d + 1, top, m, h => ((mtreeInv_succ_iff T D d top m).mp h).1.1

/-- the first keys of the data slabs, left to right, are strictly increasing -/
theorem leaf_firstKeys_pairwise (hT : legalThreshold T = true) : ∀ (d : Nat) (t : MTree r d),
    MTreeInv T D d true t → ((MTree.leaves d t).map (·.hdr.firstKey)).Pairwise (· < ·)
  | 0, s, _ => List.pairwise_singleton _ _
  | d + 1, m, h => by
    have hm := ((mtreeInv_succ_iff T D d true m).mp h).1
    have hsorted := MTreeInv.sorted (d + 1) true m h
    rw [digests0_eq_leaves] at hsorted
    have hne : ∀ s ∈ MTree.leaves (d + 1) m, s.elems.hkeys ≠ [] := by
      intro s hs
      obtain ⟨c, hc, hsc⟩ := List.mem_flatMap.mp hs
      exact leaf_hkeys_ne_nil d c (hm.kid_inv c hc) s hsc
    have hh := heads_sorted (fun s : MDataSlab r => s.elems.hkeys) _ hsorted hne
    have heq : (MTree.leaves (d + 1) m).map (·.hdr.firstKey) =
        (MTree.leaves (d + 1) m).map (fun s => s.elems.hkeys.headD 0) := by
      apply List.map_congr_left
      intro s hs
      obtain ⟨top', hl⟩ := leaf_loose (d + 1) true m h s hs
      exact hl.first_eq
    rw [heq]; exact hh

/-- hypotheses about slab IDs and the seed that `MapInv` does not contain -/
structure MapIdsOk (v : MVerifier) (m : OMap r) : Prop where
  nodup : (mapTreeIds m.d m.root).Nodup
  addr : ∀ id ∈ mapTreeIds m.d m.root, id.addr = v.address
  defined : ∀ id ∈ mapTreeIds m.d m.root, id ≠ SlabID.undef
  seed : m.seed ≠ 0

theorem mapTreeIds_hdr_mem : ∀ (d : Nat) (t : MTree r d), (MTree.hdr d t).id ∈ mapTreeIds d t
  | 0, s => (List.mem_singleton.2 rfl : (s : MDataSlab r).hdr.id ∈ [(s : MDataSlab r).hdr.id])
  | d + 1, m => (List.mem_cons_self : m.hdr.id ∈ m.hdr.id :: m.children.flatMap (mapTreeIds d))

theorem misInlined_iff (m : OMap r) : m.isInlined = false ↔ MNotInl m.d m.root := by
  obtain ⟨d, t, ty, c, sd⟩ := m
  cases d with
  | zero => exact Iff.rfl
  | succ d => exact ⟨fun _ => trivial, fun _ => rfl⟩

/-- `MapInv` implies acceptance by `VerifyMap`. -/
theorem verifyMap_ok_of_mapInv (hv : VFor v T (r + 1) D) (m : OMap r) (h : MapInv T D m)
    (hids : MapIdsOk v m) (hva : v.address = m.addr) (typeInfo : Option Nat)
    (hty : ∀ ty, typeInfo = some ty → m.ty = ty) : verifyMap v typeInfo m = .ok () := by
  unfold verifyMap
  have hrid : m.rootID ≠ SlabID.undef := hids.defined _ (mapTreeIds_hdr_mem m.d m.root)
  have hfe : firstErr (mapRootChecks v typeInfo m) = none := by
    unfold mapRootChecks
    simp only [firstErr_cons_eq_none, firstErr_nil, and_true]
    refine ⟨by simp [hva], by simp [hrid], by simp [mapIsRoot_of_inv m.d true m.root h.tree], ?_,
      by simp [hids.seed]⟩
    cases typeInfo with
    | none => rfl
    | some ty => simp [hty ty rfl]
  rw [hfe]
  simp only
  rw [verifyMapSlab_ok hv m.d 0 true m.root none ⟨[], [], [], []⟩ h.tree (by simp)
    ((misInlined_iff m).1 h.standalone) (by simp)
    ⟨⟨by simp, hids.nodup⟩, hids.addr⟩]
  simp only [mextend, List.nil_append]
  rw [if_neg (by
    have := h.count_eq
    simp only [OMap.toList] at this
    omega)]
  have hne : mleafIds m.d m.root ≠ [] := by
    have := SInv.leaves_ne_nil hv.hT m.d true m.root (MTreeInv.sinv_top m.d m.root h.tree)
    simpa [mleafIds] using this
  have hchain := mchain_of_leafChain (MTree.leaves m.d m.root) h.chain (fun s hs =>
    hids.defined _ (mleafIds_subset m.d m.root _ (List.mem_map.2 ⟨s, hs, rfl⟩)))
  have hfk := leaf_firstKeys_pairwise hv.hT m.d m.root h.tree
  unfold mapTailChecks
  match hl : mleafIds m.d m.root with
  | [] => exact absurd hl hne
  | x :: rest =>
    simp only
    have hrest : rest = mdefinedNexts (MTree.leaves m.d m.root) := by
      have : (mleafIds m.d m.root).tail = mdefinedNexts (MTree.leaves m.d m.root) := hchain
      rw [hl] at this; exact this
    rw [if_pos hrest, sliceIsSorted_of_pairwise _ hfk, hasAdjacentDup_of_pairwise _ hfk]
    rfl

end Tree

end Atree.Verify

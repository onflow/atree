import AtreeProofs.WorldOk
import AtreeProofs.ArrayLemmas
/-
  `ArrOk`: an array in either form (standalone under `ArrInv`, inlined single-slab root under `ArrInvInl`)
  holding arbitrary elements within the inline limit (references included); `ContOk` (WorldOk) of an
  array unfolds to it (`contOk_arr`).  `get` reads the list; `set` / `insert` / `remove` refine
  `List.set` / `insertIdx` / `eraseIdx` and keep the form, the root ID, the type and the invariant
  (`ArrOk.set_succeeds`, `insert_succeeds`, `remove_succeeds`); outside their domain they answer the error of the Go code
  (`set_oob`, `insert_oob`, `remove_oob`, `Arr.insert_full`).

  Inlined roots can split in the model (as in the Go code it transcribes): `Arr.insert` / `Arr.set`
  test `isFull` (size > maxThr T) whatever the form of the root, and `splitRoot` would turn an
  inlined root into a two-level tree (`inlined_root_splits` below exhibits it).  It does not happen
  when the root has room (`hroom`): its size plus one element within the inline limit stays within
  `maxThr T` — which the inline budget of the parent slot guarantees before the operation.
-/
namespace Atree
open Gen ATree MetaSlab

variable {T : Nat}

/-- an array in either form -/
def ArrOk (T : Nat) (a : Arr) (ctr : Nat) : Prop :=
  (a.isInlined = false → ArrInv T a ctr) ∧ (a.isInlined = true → ArrInvInl T a ctr)

theorem contOk_arr (T : Nat) (D : DigestFn 4) (ctr : Nat) (a : Arr) :
    ContOk T D ctr (.arr a) ↔ ArrOk T a ctr := Iff.rfl

theorem shape_elems_ok : ∀ (d : Nat) (top : Bool) (t : ATree d), Shape T d top t →
    ∀ e ∈ flatten d t, ElemOk T e
  | 0, top, t => by
    refine forall_ofData ?_ t; intro s hs e he
    exact ((shape_zero T top s).1 hs).elems_ok e he
  | d + 1, top, t => by
    refine forall_ofMeta ?_ t; intro m hs e he
    have hs := (shape_succ T d top m).1 hs
    simp only [flatten_succ, List.mem_flatMap] at he
    obtain ⟨c, hc, hec⟩ := he
    exact shape_elems_ok d false c (hs.kids_inv c hc).shape_false e hec

theorem ArrInv.elems_ok {a : Arr} {ctr : Nat} (h : ArrInv T a ctr) : ∀ e ∈ a.toList, ElemOk T e := by
  obtain ⟨d, t, ty⟩ := a
  exact shape_elems_ok d true t h.shape

theorem ArrInv.mono {a : Arr} {ctr ctr' : Nat} (h : ArrInv T a ctr) (hc : ctr ≤ ctr') : ArrInv T a ctr' :=
  ⟨h.tree, h.chain, h.ids.mono hc, h.standalone, h.count_lt⟩

theorem ArrInv.rootID_ok {a : Arr} {ctr : Nat} (h : ArrInv T a ctr) :
    1 ≤ a.rootID.idx ∧ a.rootID.idx ≤ ctr := by
  obtain ⟨d, t, ty⟩ := a
  have := h.ids.2 _ (hdr_id_mem_slabIds d t)
  exact this.2

/-- the single slab of an inlined array, clause by clause (`ArrInvInl` says this of `a = ⟨0, s, ty⟩`) -/
structure InlSlab (T : Nat) (s : DataSlab) (ctr : Nat) : Prop where
  root : s.root = true
  inlined : s.inlined = true
  next : s.next = SlabID.undef
  count_eq : s.hdr.count = s.elems.length
  size_eq : s.hdr.size = inlinedArrayDataSlabPrefixSize + sumSizes s.elems
  elems_ok : ∀ e ∈ s.elems, ElemOk T e
  idx_pos : 1 ≤ s.hdr.id.idx
  idx_le : s.hdr.id.idx ≤ ctr
  count_lt : s.hdr.count < maxArrayElementCount + 1

theorem ArrInvInl.slab {a : Arr} {ctr : Nat} (h : ArrInvInl T a ctr) : ∃ s ty, a = ⟨0, s, ty⟩ ∧ InlSlab T s ctr := by
  obtain ⟨s, ty, rfl, h1, h2, h3, h4, h5, h6, h7, h8, h9⟩ := h
  exact ⟨s, ty, rfl, h1, h2, h3, h4, h5, h6, h7, h8, h9⟩

theorem ArrInvInl.mono {a : Arr} {ctr ctr' : Nat} (h : ArrInvInl T a ctr) (hc : ctr ≤ ctr') :
    ArrInvInl T a ctr' := by
  obtain ⟨s, ty, rfl, h1, h2, h3, h4, h5, h6, h7, h8, h9⟩ := h
  exact ⟨s, ty, rfl, h1, h2, h3, h4, h5, h6, h7, Nat.le_trans h8 hc, h9⟩

theorem ArrInvInl.isInlined {a : Arr} {ctr : Nat} (h : ArrInvInl T a ctr) : a.isInlined = true := by
  obtain ⟨s, ty, rfl, S⟩ := h.slab
  exact S.inlined

theorem ArrOk.mono {a : Arr} {ctr ctr' : Nat} (h : ArrOk T a ctr) (hc : ctr ≤ ctr') : ArrOk T a ctr' :=
  ⟨fun hi => (h.1 hi).mono hc, fun hi => (h.2 hi).mono hc⟩

theorem ArrOk.of_inv {a : Arr} {ctr : Nat} (h : ArrInv T a ctr) : ArrOk T a ctr :=
  ⟨fun _ => h, fun hi => by rw [h.standalone] at hi; cases hi⟩

theorem ArrOk.of_inl {a : Arr} {ctr : Nat} (h : ArrInvInl T a ctr) : ArrOk T a ctr :=
  ⟨fun hi => (by rw [h.isInlined] at hi; cases hi), fun _ => h⟩

theorem ArrOk.elems_ok {a : Arr} {ctr : Nat} (h : ArrOk T a ctr) : ∀ e ∈ a.toList, ElemOk T e := by
  cases hi : a.isInlined
  · exact (h.1 hi).elems_ok
  · obtain ⟨s, ty, rfl, S⟩ := (h.2 hi).slab
    exact S.elems_ok

theorem ArrOk.count_eq {a : Arr} {ctr : Nat} (h : ArrOk T a ctr) : a.count = a.toList.length := by
  cases hi : a.isInlined
  · obtain ⟨d, t, ty⟩ := a
    exact (h.1 hi).shape.count_eq_length
  · obtain ⟨s, ty, rfl, S⟩ := (h.2 hi).slab
    exact S.count_eq

theorem ArrOk.rootID_ok {a : Arr} {ctr : Nat} (h : ArrOk T a ctr) :
    1 ≤ a.rootID.idx ∧ a.rootID.idx ≤ ctr := by
  cases hi : a.isInlined
  · exact (h.1 hi).rootID_ok
  · obtain ⟨s, ty, rfl, S⟩ := (h.2 hi).slab
    exact ⟨S.idx_pos, S.idx_le⟩

theorem ArrOk.get_spec (hT : legalThreshold T = true) {a : Arr} {ctr : Nat} (h : ArrOk T a ctr) (i : Nat) :
    (i < a.toList.length → a.get i = .ok (a.toList.getD i default)) ∧
    (a.toList.length ≤ i → a.get i = .error .indexOutOfBounds) := by
  cases hi : a.isInlined
  · obtain ⟨d, t, ty⟩ := a
    exact get_gen hT d t true i (h.1 hi).shape
  · obtain ⟨s, ty, rfl, _⟩ := h.2 hi
    exact DataSlab.get_spec s i

theorem ArrOk.get_ok (hT : legalThreshold T = true) {a : Arr} {ctr : Nat} (h : ArrOk T a ctr) {i : Nat}
    {el : Elem} (hg : a.get i = .ok el) : a.toList[i]? = some el := by
  obtain ⟨g1, g2⟩ := h.get_spec hT i
  rcases Nat.lt_or_ge i a.toList.length with hi | hi
  · rw [g1 hi] at hg
    cases hg
    rw [List.getD_eq_getElem?_getD, List.getElem?_eq_getElem hi]; rfl
  · rw [g2 hi] at hg; cases hg

theorem ArrOk.get_of_getElem? (hT : legalThreshold T = true) {a : Arr} {ctr : Nat} (h : ArrOk T a ctr)
    {i : Nat} {el : Elem} (hg : a.toList[i]? = some el) : a.get i = .ok el := by
  obtain ⟨hi, he⟩ := List.getElem?_eq_some_iff.mp hg
  rw [(h.get_spec hT i).1 hi, List.getD_eq_getElem?_getD, hg]; rfl

/-- the slab `DataSlab.set` builds -/
def inlSetSlab (s : DataSlab) (i : Nat) (e : Elem) : DataSlab :=
  { s with elems := s.elems.set i e, hdr := { s.hdr with size := s.prefixSize + sumSizes (s.elems.set i e) } }
/-- the slab `DataSlab.insert` builds -/
def inlInsSlab (s : DataSlab) (i : Nat) (e : Elem) : DataSlab :=
  { s with elems := s.elems.insertIdx i e, hdr := { s.hdr with count := s.hdr.count + 1, size := s.hdr.size + e.size } }
/-- the slab `DataSlab.remove` builds -/
def inlRemSlab (s : DataSlab) (i : Nat) (v : Elem) : DataSlab :=
  { s with elems := s.elems.eraseIdx i, hdr := { s.hdr with count := s.hdr.count - 1, size := s.hdr.size - v.size } }

/-- `Arr.set` on an inlined root with room; the only storage calls are those of `toStorable` -/
theorem arrInl_set (hT : legalThreshold T = true) {a : Arr} {c : Ctx} (h : ArrInvInl T a c.ctr)
    {i : Nat} {v : Elem} (hv : StorOk T v) (hroom : a.rootHdr.size + maxInlineArr T ≤ maxThr T)
    (hi : i < a.toList.length) :
    ∃ a' c', a.set T i v c = .ok (a.toList.getD i default, a', c') ∧ ArrInvInl T a' c'.ctr ∧
      a'.toList = a.toList.set i (toStorable T a.addr v c).1 ∧ a'.rootID = a.rootID ∧ a'.ty = a.ty ∧
      c.ctr ≤ c'.ctr ∧
      a'.rootHdr.size + (a.toList.getD i default).size = a.rootHdr.size + (toStorable T a.addr v c).1.size ∧
      c' = (toStorable T a.addr v c).2 := by
  obtain ⟨s, ty, rfl, h1, h2, h3, h4, h5, h6, h7, h8, h9⟩ := h
  have hi : i < s.elems.length := hi
  have hget : s.elems[i]? = some (s.elems.getD i default) := getD_getElem? _ _ _ hi
  have hnew := toStorable_okR T s.hdr.id.addr hT v c hv
  have hctr := toStorable_ctr_le T s.hdr.id.addr v c
  have hroom : s.hdr.size + maxInlineArr T ≤ maxThr T := hroom
  show ∃ a' c', Arr.set T ⟨0, s, ty⟩ i v c = .ok (s.elems.getD i default, a', c') ∧ ArrInvInl T a' c'.ctr ∧
      a'.toList = s.elems.set i (toStorable T s.hdr.id.addr v c).1 ∧ a'.rootID = s.hdr.id ∧ a'.ty = ty ∧
      c.ctr ≤ c'.ctr ∧
      a'.rootHdr.size + (s.elems.getD i default).size = s.hdr.size + (toStorable T s.hdr.id.addr v c).1.size ∧
      c' = (toStorable T s.hdr.id.addr v c).2
  obtain ⟨e, c1, hp⟩ : ∃ e c1, toStorable T s.hdr.id.addr v c = (e, c1) := ⟨_, _, rfl⟩
  rw [hp] at hnew hctr ⊢
  simp only at hnew hctr ⊢
  have hsum := sumSizes_set s.elems i e _ hget
  have hpfx : s.prefixSize = inlinedArrayDataSlabPrefixSize := by simp [DataSlab.prefixSize, h2]
  have hsz : (inlSetSlab s i e).hdr.size + (s.elems.getD i default).size = s.hdr.size + e.size := by
    show s.prefixSize + sumSizes _ + _ = _
    rw [hpfx, h5, Nat.add_assoc, hsum, Nat.add_assoc]
  have hnotfull : ¬ ATree.isFull T 0 (ofData (inlSetSlab s i e)) = true := by
    show ¬ decide ((inlSetSlab s i e).hdr.size > maxThr T) = true
    simp only [decide_eq_true_eq]
    exact Nat.not_lt.2 (Nat.le_trans (Nat.le_add_right _ _) (Nat.le_trans (Nat.le_of_eq hsz)
      (Nat.le_trans (Nat.add_le_add_left hnew.2 _) hroom)))
  have hst : (inlSetSlab s i e).storeIfNotInlined c1 = c1 := by
    simp [DataSlab.storeIfNotInlined, inlSetSlab, h2]
  refine ⟨⟨0, inlSetSlab s i e, ty⟩, c1, ?_, ?_, rfl, rfl, rfl, hctr, hsz, rfl⟩
  · have hset : ATree.set T 0 (ofData s) i v c = .ok (s.elems.getD i default, ofData (inlSetSlab s i e), c1) := by
      apply set_zero_ok
      unfold DataSlab.set
      rw [hget]
      simp only [hp]
      show Except.ok (_, inlSetSlab s i e, (inlSetSlab s i e).storeIfNotInlined c1) = _
      rw [hst]
    unfold Arr.set
    show (ATree.set T 0 (ofData s) i v c >>= _) = _
    rw [hset]
    show (if ATree.isFull T 0 (ofData (inlSetSlab s i e)) = true then _ else _) = _
    rw [if_neg hnotfull]; rfl
  · refine ⟨inlSetSlab s i e, ty, rfl, h1, h2, h3, ?_, ?_, ?_, h7, Nat.le_trans h8 hctr, h9⟩
    · show s.hdr.count = (s.elems.set i _).length
      simp [h4]
    · show s.prefixSize + sumSizes _ = _
      rw [hpfx]; rfl
    · intro x hx
      rcases List.mem_or_eq_of_mem_set hx with h | h
      · exact h6 x h
      · rw [h]; exact hnew

theorem arrInl_insert (hT : legalThreshold T = true) {a : Arr} {c : Ctx} (h : ArrInvInl T a c.ctr)
    {i : Nat} {v : Elem} (hv : StorOk T v) (hroom : a.rootHdr.size + maxInlineArr T ≤ maxThr T)
    (hcount : a.count < maxArrayElementCount) (hi : i ≤ a.toList.length) :
    ∃ a' c', a.insert T i v c = .ok (a', c') ∧ ArrInvInl T a' c'.ctr ∧
      a'.toList = a.toList.insertIdx i (toStorable T a.addr v c).1 ∧ a'.rootID = a.rootID ∧ a'.ty = a.ty ∧
      c.ctr ≤ c'.ctr ∧
      a'.rootHdr.size = a.rootHdr.size + (toStorable T a.addr v c).1.size ∧
      c' = (toStorable T a.addr v c).2 := by
  obtain ⟨s, ty, rfl, h1, h2, h3, h4, h5, h6, h7, h8, h9⟩ := h
  have hi : i ≤ s.elems.length := hi
  have hnew := toStorable_okR T s.hdr.id.addr hT v c hv
  have hctr := toStorable_ctr_le T s.hdr.id.addr v c
  have hroom : s.hdr.size + maxInlineArr T ≤ maxThr T := hroom
  have hcount : s.hdr.count < maxArrayElementCount := hcount
  show ∃ a' c', Arr.insert T ⟨0, s, ty⟩ i v c = .ok (a', c') ∧ ArrInvInl T a' c'.ctr ∧
      a'.toList = s.elems.insertIdx i (toStorable T s.hdr.id.addr v c).1 ∧ a'.rootID = s.hdr.id ∧ a'.ty = ty ∧
      c.ctr ≤ c'.ctr ∧ a'.rootHdr.size = s.hdr.size + (toStorable T s.hdr.id.addr v c).1.size ∧
      c' = (toStorable T s.hdr.id.addr v c).2
  obtain ⟨e, c1, hp⟩ : ∃ e c1, toStorable T s.hdr.id.addr v c = (e, c1) := ⟨_, _, rfl⟩
  rw [hp] at hnew hctr ⊢
  simp only at hnew hctr ⊢
  have hsum := sumSizes_insertIdx s.elems i e hi
  have hnotfull : ¬ ATree.isFull T 0 (ofData (inlInsSlab s i e)) = true := by
    show ¬ decide (s.hdr.size + e.size > maxThr T) = true
    simp only [decide_eq_true_eq]
    exact Nat.not_lt.2 (Nat.le_trans (Nat.add_le_add_left hnew.2 _) hroom)
  have hst : (inlInsSlab s i e).storeIfNotInlined c1 = c1 := by
    simp [DataSlab.storeIfNotInlined, inlInsSlab, h2]
  refine ⟨⟨0, inlInsSlab s i e, ty⟩, c1, ?_, ?_, rfl, rfl, rfl, hctr, rfl, rfl⟩
  · have hins : ATree.insert T 0 (ofData s) i v c = .ok (ofData (inlInsSlab s i e), c1) := by
      apply insert_zero_ok
      unfold DataSlab.insert
      rw [if_neg (Nat.not_lt.2 hi)]
      simp only [hp]
      show Except.ok (inlInsSlab s i e, (inlInsSlab s i e).storeIfNotInlined c1) = _
      rw [hst]
    unfold Arr.insert
    show (if s.hdr.count = maxArrayElementCount then _ else _) = _
    rw [if_neg (Nat.ne_of_lt hcount)]
    show (ATree.insert T 0 (ofData s) i v c >>= _) = _
    rw [hins]
    show (if ATree.isFull T 0 (ofData (inlInsSlab s i e)) = true then _ else _) = _
    rw [if_neg hnotfull]; rfl
  · refine ⟨inlInsSlab s i e, ty, rfl, h1, h2, h3, ?_, ?_, ?_, h7, Nat.le_trans h8 hctr, ?_⟩
    · show s.hdr.count + 1 = (s.elems.insertIdx i _).length
      rw [List.length_insertIdx, if_pos hi, h4]
    · show s.hdr.size + _ = _ + sumSizes (s.elems.insertIdx i _)
      rw [hsum, h5, Nat.add_assoc]
    · intro x hx
      rcases (List.mem_insertIdx hi).1 hx with h | h
      · rw [h]; exact hnew
      · exact h6 x h
    · exact Nat.succ_lt_succ hcount

theorem arrInl_remove {a : Arr} {c : Ctx} (h : ArrInvInl T a c.ctr) {i : Nat} (hi : i < a.toList.length) :
    ∃ a' c', a.remove T i c = .ok (a.toList.getD i default, a', c') ∧ ArrInvInl T a' c'.ctr ∧
      a'.toList = a.toList.eraseIdx i ∧ a'.rootID = a.rootID ∧ a'.ty = a.ty ∧ c.ctr ≤ c'.ctr ∧
      a'.rootHdr.size + (a.toList.getD i default).size = a.rootHdr.size ∧ c' = c := by
  obtain ⟨s, ty, rfl, h1, h2, h3, h4, h5, h6, h7, h8, h9⟩ := h
  have hi : i < s.elems.length := hi
  have hget : s.elems[i]? = some (s.elems.getD i default) := getD_getElem? _ _ _ hi
  have hsum := sumSizes_eraseIdx s.elems i _ hget
  have hst : (inlRemSlab s i (s.elems.getD i default)).storeIfNotInlined c = c := by
    simp [DataSlab.storeIfNotInlined, inlRemSlab, h2]
  refine ⟨⟨0, inlRemSlab s i (s.elems.getD i default), ty⟩, c, ?_, ?_, rfl, rfl, rfl, Nat.le_refl _, ?_, rfl⟩
  · have hrem : ATree.remove T 0 (ofData s) i c
        = .ok (s.elems.getD i default, ofData (inlRemSlab s i (s.elems.getD i default)), c) := by
      apply remove_zero_ok
      unfold DataSlab.remove
      rw [hget]
      simp only
      show Except.ok (_, inlRemSlab s i (s.elems.getD i default),
        (inlRemSlab s i (s.elems.getD i default)).storeIfNotInlined c) = _
      rw [hst]
    unfold Arr.remove
    show (ATree.remove T 0 (ofData s) i c >>= _) = _
    rw [hrem]
    rfl
  · refine ⟨_, ty, rfl, h1, h2, h3, ?_, ?_, ?_, h7, h8, ?_⟩
    · show s.hdr.count - 1 = (s.elems.eraseIdx i).length
      rw [List.length_eraseIdx, if_pos hi, h4]
    · show s.hdr.size - _ = _ + sumSizes (s.elems.eraseIdx i)
      rw [h5, ← hsum, ← Nat.add_assoc, Nat.add_sub_cancel]
    · intro x hx
      exact h6 x (List.mem_of_mem_eraseIdx hx)
    · exact Nat.lt_of_le_of_lt (Nat.sub_le _ _) h9
  · show s.hdr.size - (s.elems.getD i default).size + (s.elems.getD i default).size = s.hdr.size
    refine Nat.sub_add_cancel ?_
    rw [h5, ← hsum]
    exact Nat.le_trans (Nat.le_add_left _ _) (Nat.le_add_left _ _)

/-- `Arr.set` within range on an array in either form succeeds, and what it returns -/
theorem ArrOk.set_succeeds (hT : legalThreshold T = true) {a : Arr} {c : Ctx} (h : ArrOk T a c.ctr)
    {i : Nat} {v : Elem} (hv : StorOk T v)
    (hroom : a.isInlined = true → a.rootHdr.size + maxInlineArr T ≤ maxThr T) (hi : i < a.toList.length) :
    ∃ a' c', a.set T i v c = .ok (a.toList.getD i default, a', c') ∧
      a'.toList = a.toList.set i (toStorable T a.addr v c).1 ∧
      ArrOk T a' c'.ctr ∧ a'.isInlined = a.isInlined ∧ a'.rootID = a.rootID ∧ a'.ty = a.ty ∧ c.ctr ≤ c'.ctr ∧
      (a.isInlined = true →
        a'.rootHdr.size + (a.toList.getD i default).size = a.rootHdr.size + (toStorable T a.addr v c).1.size ∧
        c' = (toStorable T a.addr v c).2) := by
  cases hinl : a.isInlined
  · obtain ⟨a2, c2, heq, hinv2, hl, hid, hty, hc⟩ := arr_set_okR hT a c i v hv (h.1 hinl) hi
    exact ⟨a2, c2, heq, hl, ArrOk.of_inv hinv2, hinv2.standalone, hid, hty, hc, fun h => by cases h⟩
  · obtain ⟨a2, c2, heq, hinv2, hl, hid, hty, hc, hsz⟩ := arrInl_set hT (h.2 hinl) hv (hroom hinl) hi
    exact ⟨a2, c2, heq, hl, ArrOk.of_inl hinv2, hinv2.isInlined, hid, hty, hc, fun _ => hsz⟩

theorem ArrOk.set_oob {a : Arr} {c : Ctx} (h : ArrOk T a c.ctr) {i : Nat} (v : Elem)
    (hi : a.toList.length ≤ i) : a.set T i v c = .error .indexOutOfBounds := by
  cases hinl : a.isInlined
  · exact arr_set_err a c i v (h.1 hinl) hi
  · obtain ⟨s, ty, rfl, _⟩ := h.2 hinl
    unfold Arr.set
    show (ATree.set T 0 (ofData s) i v c >>= _) = _
    rw [set_zero_err s i v c _ (DataSlab.set_err T s i v c hi)]; rfl

theorem ArrOk.set_ok (hT : legalThreshold T = true) {a : Arr} {c : Ctx} (h : ArrOk T a c.ctr)
    {i : Nat} {v : Elem} (hv : StorOk T v)
    (hroom : a.isInlined = true → a.rootHdr.size + maxInlineArr T ≤ maxThr T)
    {old : Elem} {a' : Arr} {c' : Ctx} (hr : a.set T i v c = .ok (old, a', c')) :
    a.toList[i]? = some old ∧ a'.toList = a.toList.set i (toStorable T a.addr v c).1 ∧
      ArrOk T a' c'.ctr ∧ a'.isInlined = a.isInlined ∧ a'.rootID = a.rootID ∧ a'.ty = a.ty ∧
      c.ctr ≤ c'.ctr ∧
      (a.isInlined = true → a'.rootHdr.size + old.size = a.rootHdr.size + (toStorable T a.addr v c).1.size ∧
        c' = (toStorable T a.addr v c).2) := by
  rcases Nat.lt_or_ge i a.toList.length with hi | hi
  · obtain ⟨a2, c2, heq, g⟩ := h.set_succeeds hT hv hroom hi
    rw [heq] at hr; cases hr
    exact ⟨getD_getElem? _ _ _ hi, g⟩
  · rw [h.set_oob v hi] at hr; cases hr

/-- `Arr.insert` within range on an array that is not full, in either form succeeds, and what it returns -/
theorem ArrOk.insert_succeeds (hT : legalThreshold T = true) {a : Arr} {c : Ctx} (h : ArrOk T a c.ctr)
    {i : Nat} {v : Elem} (hv : StorOk T v)
    (hroom : a.isInlined = true → a.rootHdr.size + maxInlineArr T ≤ maxThr T)
    (hcount : a.count < maxArrayElementCount) (hi : i ≤ a.toList.length) :
    ∃ a' c', a.insert T i v c = .ok (a', c') ∧ a'.toList = a.toList.insertIdx i (toStorable T a.addr v c).1 ∧
      ArrOk T a' c'.ctr ∧ a'.isInlined = a.isInlined ∧ a'.rootID = a.rootID ∧ a'.ty = a.ty ∧ c.ctr ≤ c'.ctr ∧
      (a.isInlined = true → a'.rootHdr.size = a.rootHdr.size + (toStorable T a.addr v c).1.size ∧
        c' = (toStorable T a.addr v c).2) := by
  cases hinl : a.isInlined
  · obtain ⟨a2, c2, heq, hinv2, hl, hid, hty, hc⟩ := arr_insert_okR hT a c i v hv (h.1 hinl) hcount hi
    exact ⟨a2, c2, heq, hl, ArrOk.of_inv hinv2, hinv2.standalone, hid, hty, hc, fun h => by cases h⟩
  · obtain ⟨a2, c2, heq, hinv2, hl, hid, hty, hc, hsz⟩ := arrInl_insert hT (h.2 hinl) hv (hroom hinl) hcount hi
    exact ⟨a2, c2, heq, hl, ArrOk.of_inl hinv2, hinv2.isInlined, hid, hty, hc, fun _ => hsz⟩

/-- `Arr.insert` on a full array: `ArrayElementCannotExceedMaxElementCountError`, whatever the index -/
theorem Arr.insert_full (a : Arr) (c : Ctx) (i : Nat) (v : Elem) (hfull : a.count = maxArrayElementCount) :
    a.insert T i v c = .error .maxElementCount := by
  unfold Arr.insert
  rw [if_pos hfull]

theorem ArrOk.insert_oob {a : Arr} {c : Ctx} (h : ArrOk T a c.ctr) {i : Nat} (v : Elem)
    (hne : a.count ≠ maxArrayElementCount) (hi : a.toList.length < i) :
    a.insert T i v c = .error .indexOutOfBounds := by
  cases hinl : a.isInlined
  · exact arr_insert_err a c i v (h.1 hinl) hne hi
  · obtain ⟨s, ty, rfl, _⟩ := h.2 hinl
    unfold Arr.insert
    have hne' : ¬ s.hdr.count = maxArrayElementCount := hne
    show (if s.hdr.count = maxArrayElementCount then _ else _) = _
    rw [if_neg hne']
    show (ATree.insert T 0 (ofData s) i v c >>= _) = _
    rw [insert_zero_err s i v c _ (DataSlab.insert_err T s i v c hi)]; rfl

/-- a valid array that is not at the limit is below it -/
theorem ArrOk.count_lt {a : Arr} {ctr : Nat} (h : ArrOk T a ctr) (hne : a.count ≠ maxArrayElementCount) :
    a.count < maxArrayElementCount := by
  cases hinl : a.isInlined
  · have := (h.1 hinl).count_lt; omega
  · obtain ⟨s, ty, rfl, S⟩ := (h.2 hinl).slab
    have h9 : s.hdr.count < maxArrayElementCount + 1 := S.count_lt
    have : s.hdr.count ≠ maxArrayElementCount := hne
    show s.hdr.count < _
    omega

theorem ArrOk.insert_ok (hT : legalThreshold T = true) {a : Arr} {c : Ctx} (h : ArrOk T a c.ctr)
    {i : Nat} {v : Elem} (hv : StorOk T v)
    (hroom : a.isInlined = true → a.rootHdr.size + maxInlineArr T ≤ maxThr T)
    {a' : Arr} {c' : Ctx} (hr : a.insert T i v c = .ok (a', c')) :
    i ≤ a.toList.length ∧ a'.toList = a.toList.insertIdx i (toStorable T a.addr v c).1 ∧
      ArrOk T a' c'.ctr ∧ a'.isInlined = a.isInlined ∧ a'.rootID = a.rootID ∧ a'.ty = a.ty ∧
      c.ctr ≤ c'.ctr ∧
      (a.isInlined = true → a'.rootHdr.size = a.rootHdr.size + (toStorable T a.addr v c).1.size ∧
        c' = (toStorable T a.addr v c).2) := by
  have hne : a.count ≠ maxArrayElementCount := by
    intro heq
    unfold Arr.insert at hr
    rw [if_pos heq] at hr
    cases hr
  rcases Nat.lt_or_ge a.toList.length i with hi | hi
  · rw [h.insert_oob v hne hi] at hr; cases hr
  · obtain ⟨a2, c2, heq, g⟩ := h.insert_succeeds hT hv hroom (h.count_lt hne) hi
    rw [heq] at hr; cases hr
    exact ⟨hi, g⟩

/-- `Arr.remove` within range on an array in either form succeeds, and what it returns -/
theorem ArrOk.remove_succeeds (hT : legalThreshold T = true) {a : Arr} {c : Ctx} (h : ArrOk T a c.ctr)
    {i : Nat} (hi : i < a.toList.length) :
    ∃ a' c', a.remove T i c = .ok (a.toList.getD i default, a', c') ∧ a'.toList = a.toList.eraseIdx i ∧
      ArrOk T a' c'.ctr ∧ a'.isInlined = a.isInlined ∧ a'.rootID = a.rootID ∧ a'.ty = a.ty ∧ c.ctr ≤ c'.ctr ∧
      (a.isInlined = true → a'.rootHdr.size + (a.toList.getD i default).size = a.rootHdr.size ∧ c' = c) := by
  cases hinl : a.isInlined
  · obtain ⟨a2, c2, heq, hinv2, hl, hid, hty, hc⟩ := arr_remove_okR hT a c i (h.1 hinl) hi
    exact ⟨a2, c2, heq, hl, ArrOk.of_inv hinv2, hinv2.standalone, hid, hty, hc, fun h => by cases h⟩
  · obtain ⟨a2, c2, heq, hinv2, hl, hid, hty, hc, hsz⟩ := arrInl_remove (h.2 hinl) hi
    exact ⟨a2, c2, heq, hl, ArrOk.of_inl hinv2, hinv2.isInlined, hid, hty, hc, fun _ => hsz⟩

theorem ArrOk.remove_oob {a : Arr} {c : Ctx} (h : ArrOk T a c.ctr) {i : Nat}
    (hi : a.toList.length ≤ i) : a.remove T i c = .error .indexOutOfBounds := by
  cases hinl : a.isInlined
  · exact arr_remove_err a c i (h.1 hinl) hi
  · obtain ⟨s, ty, rfl, _⟩ := h.2 hinl
    unfold Arr.remove
    show (ATree.remove T 0 (ofData s) i c >>= _) = _
    rw [remove_zero_err s i c _ (DataSlab.remove_err s i c hi)]; rfl

theorem ArrOk.remove_ok (hT : legalThreshold T = true) {a : Arr} {c : Ctx} (h : ArrOk T a c.ctr)
    {i : Nat} {old : Elem} {a' : Arr} {c' : Ctx} (hr : a.remove T i c = .ok (old, a', c')) :
    a.toList[i]? = some old ∧ a'.toList = a.toList.eraseIdx i ∧
      ArrOk T a' c'.ctr ∧ a'.isInlined = a.isInlined ∧ a'.rootID = a.rootID ∧ a'.ty = a.ty ∧
      c.ctr ≤ c'.ctr ∧
      (a.isInlined = true → a'.rootHdr.size + old.size = a.rootHdr.size ∧ c' = c) := by
  rcases Nat.lt_or_ge i a.toList.length with hi | hi
  · obtain ⟨a2, c2, heq, g⟩ := h.remove_succeeds hT hi
    rw [heq] at hr; cases hr
    exact ⟨getD_getElem? _ _ _ hi, g⟩
  · rw [h.remove_oob hi] at hr; cases hr

/-- the slab `Cont.inline` builds (its `let s'`, written out; `contOk_inline`, World/ContOk, unfolds `Cont.inline` to it) -/
def inlineSlab (s : DataSlab) : DataSlab :=
  { s with inlined := true, hdr := { s.hdr with size := s.hdr.size - arrayRootDataSlabPrefixSize + inlinedArrayDataSlabPrefixSize } }
/-- the slab `Cont.uninline` builds (likewise; `contOk_uninline`) -/
def uninlineSlab (s : DataSlab) : DataSlab :=
  { s with inlined := false, hdr := { s.hdr with size := s.hdr.size - inlinedArrayDataSlabPrefixSize + arrayRootDataSlabPrefixSize } }

/-- a standalone single-slab root becomes a valid inlined root -/
theorem arrInv_inline {s : DataSlab} {ty ctr : Nat} (h : ArrInv T ⟨0, s, ty⟩ ctr) :
    ArrInvInl T ⟨0, inlineSlab s, ty⟩ ctr := by
  have hd : DataInv T true s := h.tree
  have hni : s.inlined = false := h.standalone
  have hsz := hd.size_eq
  have hpfx : s.prefixSize = arrayRootDataSlabPrefixSize := by
    simp [DataSlab.prefixSize, hni, hd.root_eq]
  have hids := h.ids.2 s.hdr.id (by show s.hdr.id ∈ [s.hdr.id]; simp)
  refine ⟨_, ty, rfl, hd.root_eq, rfl, h.chain, hd.count_eq, ?_, hd.elems_ok, hids.2.1, hids.2.2, h.count_lt⟩
  show s.hdr.size - arrayRootDataSlabPrefixSize + inlinedArrayDataSlabPrefixSize
    = inlinedArrayDataSlabPrefixSize + sumSizes s.elems
  rw [hsz, hpfx]; omega

/-- an inlined root (below the slab threshold) becomes a valid standalone array -/
theorem arrInvInl_uninline (hT : legalThreshold T = true) {s : DataSlab} {ty ctr : Nat}
    (h : ArrInvInl T ⟨0, s, ty⟩ ctr) (hband : s.hdr.size ≤ T) :
    ArrInv T ⟨0, uninlineSlab s, ty⟩ ctr := by
  obtain ⟨s0, ty0, heq, h1, h2, h3, h4, h5, h6, h7, h8, h9⟩ := h
  cases heq
  have F := thrFacts hT
  have hsz : (uninlineSlab s).hdr.size = arrayRootDataSlabPrefixSize + sumSizes s.elems := by
    show s.hdr.size - inlinedArrayDataSlabPrefixSize + arrayRootDataSlabPrefixSize = _
    rw [h5]; omega
  have hdi : DataInv T true (uninlineSlab s) := by
    refine ⟨h4, ?_, h6, h1, fun hh => ?_, ?_, fun hh => ?_⟩
    · rw [hsz]
      show _ = (if false = true then _ else if s.root = true then _ else _) + _
      simp [h1]; rfl
    · rfl
    · rw [hsz, F.maxE, F.rpfx]
      rw [h5] at hband
      simp only [inlinedArrayDataSlabPrefixSize] at hband
      have := F.lo; omega
    · cases hh
  refine ⟨hdi, h3, ?_, rfl, h9⟩
  show IdsOk s.hdr.id.addr ctr [s.hdr.id]
  exact ⟨by simp, fun id hid => by simp at hid; subst hid; exact ⟨rfl, h7, h8⟩⟩

/-- an inlined root holding two 200-byte elements (`T = 256`, so `maxThr = 384`): `Arr.insert` of a
    third element splits it — the result is a two-level tree, not an inlined slab.  (The inline
    budget of a parent slot, at most `maxInlineArr 256 = 117` bytes, excludes this situation.) -/
theorem inlined_root_splits :
    let s : DataSlab := ⟨⟨⟨1, 2⟩, 17 + 400, 2⟩, SlabID.undef, [⟨200, .val 0⟩, ⟨200, .val 1⟩], true, true⟩
    (match Arr.insert 256 ⟨0, s, 0⟩ 2 ⟨100, .val 2⟩ ⟨5, [], []⟩ with
     | .ok (a', _) => some (a'.d, a'.isInlined)
     | .error _ => none) = some (1, false) := by
  decide

end Atree

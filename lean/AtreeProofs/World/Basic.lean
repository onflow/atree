import AtreeProofs.WorldInv
import AtreeProofs.AListLemmas
/-
  Basic facts about the World model (first `toStorable_ref`, the one array-core fact the chain needs below the
  array library).  `Cont.SameData c c'` (the one definition of the file): `c'` holds the
  data of `c`, only the form of the root slab may differ; it is what `Cont.inline` / `Cont.uninline`,
  hence `childStorable` and `uninlineIfNeeded`, do to a container (`*_succeeds`, `*_returns`, `*_frame`).
  The table accessors and what `setCont`, `setIdx`, `shiftIdx`, `setCallbackArr` / `setCallbackMap` leave
  in the tables.  Then the inversion lemmas, all equivalences (`*_ok_iff`): what a successful call of
  `arrSetRaw` / `mapSetRaw` and of each public operation did (`notifyParent` itself is characterised in slot
  form, World/Chain.lean), and `arrPopKeep_nil` / `mapPopKeep_nil`.
-/
namespace Atree
open Gen

theorem toStorable_ref (T addr : Nat) (e : Elem) (c : Ctx) (r : SlabID) (he : e.pay = .ref r) :
    toStorable T addr e c = (e, c) := by
  unfold toStorable; rw [he]

namespace Cont

/-- `c'` holds the same data as `c`: same stored elements, same lookups; only the form of the
    root slab (inline / standalone, hence its size) may differ. -/
def SameData : Cont → Cont → Prop
  | .arr a, .arr a' => a'.toList = a.toList ∧ a'.rootID = a.rootID ∧ (∀ i, a'.get i = a.get i)
  | .map m, .map m' => m'.toList = m.toList ∧ m'.rootID = m.rootID ∧ (∀ cfg k, m'.get cfg k = m.get cfg k)
  | _, _ => False

theorem SameData.refl (c : Cont) : SameData c c := by
  cases c <;> simp [SameData]

theorem SameData.trans {a b c : Cont} (h1 : SameData a b) (h2 : SameData b c) : SameData a c := by
  cases a <;> cases b <;> cases c <;> simp only [SameData] at h1 h2 ⊢
  · exact ⟨h2.1.trans h1.1, h2.2.1.trans h1.2.1, fun i => (h2.2.2 i).trans (h1.2.2 i)⟩
  · exact ⟨h2.1.trans h1.1, h2.2.1.trans h1.2.1, fun cfg k => (h2.2.2 cfg k).trans (h1.2.2 cfg k)⟩

theorem SameData.storedElems {c c' : Cont} (h : SameData c c') : c'.storedElems = c.storedElems := by
  cases c <;> cases c' <;> simp only [SameData] at h
  · exact h.1
  · simp [Cont.storedElems, h.1]

theorem SameData.vid {c c' : Cont} (h : SameData c c') : c'.vid = c.vid := by
  cases c <;> cases c' <;> simp only [SameData] at h
  · exact h.2.1
  · exact h.2.1

theorem SameData.arr {a : Arr} {c' : Cont} (h : SameData (.arr a) c') :
    ∃ a', c' = .arr a' ∧ a'.toList = a.toList ∧ a'.rootID = a.rootID ∧ ∀ i, a'.get i = a.get i := by
  cases c' with
  | arr a' => exact ⟨a', rfl, h⟩
  | map m => simp [SameData] at h

theorem SameData.map {m : OMap 3} {c' : Cont} (h : SameData (.map m) c') :
    ∃ m', c' = .map m' ∧ m'.toList = m.toList ∧ m'.rootID = m.rootID ∧ ∀ cfg k, m'.get cfg k = m.get cfg k := by
  cases c' with
  | arr a' => simp [SameData] at h
  | map m' => exact ⟨m', rfl, h⟩

theorem inline_ok {c c' : Cont} {id : SlabID} {cx cx' : Ctx} (h : c.inline id cx = .ok (c', cx')) :
    c.isInlined = false ∧ c'.isInlined = true ∧ SameData c c' ∧ cx' = cx.emit (.remove id) := by
  unfold Cont.inline at h
  split at h
  · rename_i s ty
    split at h
    · cases h
    · rename_i hs
      cases h
      refine ⟨by simpa [Cont.isInlined, Arr.isInlined] using hs, rfl, ?_, rfl⟩
      exact ⟨rfl, rfl, fun _ => rfl⟩
  · rename_i s ty cnt seed
    split at h
    · cases h
    · rename_i hs
      cases h
      refine ⟨by simpa [Cont.isInlined, OMap.isInlined] using hs, rfl, ?_, rfl⟩
      exact ⟨rfl, rfl, fun _ _ => rfl⟩
  · cases h

theorem uninline_ok {c c' : Cont} {id : SlabID} {cx cx' : Ctx} (h : c.uninline id cx = .ok (c', cx')) :
    c.isInlined = true ∧ c'.isInlined = false ∧ SameData c c' ∧ cx' = cx.emit (.store id) := by
  unfold Cont.uninline at h
  split at h
  · rename_i s ty
    split at h
    · cases h
    · rename_i hs
      cases h
      refine ⟨by simpa [Cont.isInlined, Arr.isInlined] using hs, rfl, ?_, rfl⟩
      exact ⟨rfl, rfl, fun _ => rfl⟩
  · rename_i s ty cnt seed
    split at h
    · cases h
    · rename_i hs
      cases h
      refine ⟨by simpa [Cont.isInlined, OMap.isInlined] using hs, rfl, ?_, rfl⟩
      exact ⟨rfl, rfl, fun _ _ => rfl⟩
  · cases h

/-- `Inline` of a standalone container that is inlinable (one root data slab) succeeds -/
theorem inline_succeeds {c : Cont} {lim : Nat} (hable : c.inlinable lim = true) (hinl : c.isInlined = false)
    (id : SlabID) (cx : Ctx) : ∃ c', c.inline id cx = .ok (c', cx.emit (.remove id)) := by
  cases c with
  | arr a =>
    obtain ⟨d, s, ty⟩ := a
    cases d with
    | zero =>
      -- `s` has the type `ATree 0` here; stated over `s : DataSlab` so that `hs` rewrites the test of the definition
      -- (likewise in the three cases below)
      have key : ∀ s : DataSlab, s.inlined = false → ∃ c', Cont.inline (.arr ⟨0, s, ty⟩) id cx = .ok (c', cx.emit (.remove id)) :=
        fun s hs => by simp only [Cont.inline, hs]; exact ⟨_, rfl⟩
      exact key s hinl
    | succ d => simp [Cont.inlinable] at hable
  | map m =>
    obtain ⟨d, s, ty, cnt, seed⟩ := m
    cases d with
    | zero =>
      have key : ∀ s : MDataSlab 3, s.inlined = false →
          ∃ c', Cont.inline (.map ⟨0, s, ty, cnt, seed⟩) id cx = .ok (c', cx.emit (.remove id)) :=
        fun s hs => by simp only [Cont.inline, hs]; exact ⟨_, rfl⟩
      exact key s hinl
    | succ d => simp [Cont.inlinable] at hable

/-- `Uninline` of an inlined container (it has the one-slab form) succeeds -/
theorem uninline_succeeds {c : Cont} (hinl : c.isInlined = true) (id : SlabID) (cx : Ctx) :
    ∃ c', c.uninline id cx = .ok (c', cx.emit (.store id)) := by
  cases c with
  | arr a =>
    obtain ⟨d, s, ty⟩ := a
    cases d with
    | zero =>
      have key : ∀ s : DataSlab, s.inlined = true → ∃ c', Cont.uninline (.arr ⟨0, s, ty⟩) id cx = .ok (c', cx.emit (.store id)) :=
        fun s hs => by simp only [Cont.uninline, hs]; exact ⟨_, rfl⟩
      exact key s hinl
    | succ d => simp [Cont.isInlined, Arr.isInlined] at hinl
  | map m =>
    obtain ⟨d, s, ty, cnt, seed⟩ := m
    cases d with
    | zero =>
      have key : ∀ s : MDataSlab 3, s.inlined = true →
          ∃ c', Cont.uninline (.map ⟨0, s, ty, cnt, seed⟩) id cx = .ok (c', cx.emit (.store id)) :=
        fun s hs => by simp only [Cont.uninline, hs]; exact ⟨_, rfl⟩
      exact key s hinl
    | succ d => simp [Cont.isInlined, OMap.isInlined] at hinl

end Cont

namespace World

@[simp] theorem cont?_setCont (w : World) (v : SlabID) (c : Cont) (y : SlabID) :
    (w.setCont v c).cont? y = if v = y then some c else w.cont? y := by
  simp [cont?, setCont, AList.find?_insert]

theorem cont?_setCont_self (w : World) (v : SlabID) (c : Cont) : (w.setCont v c).cont? v = some c := by simp

theorem cont?_setCont_ne (w : World) (v : SlabID) (c : Cont) (y : SlabID) (h : y ≠ v) :
    (w.setCont v c).cont? y = w.cont? y := by
  simp [Ne.symm h]

@[simp] theorem hinfo_setCont (w : World) (v : SlabID) (c : Cont) : (w.setCont v c).hinfo = w.hinfo := rfl
@[simp] theorem mutIdx_setCont (w : World) (v : SlabID) (c : Cont) : (w.setCont v c).mutIdx = w.mutIdx := rfl
@[simp] theorem T_setCont (w : World) (v : SlabID) (c : Cont) : (w.setCont v c).T = w.T := rfl
@[simp] theorem addr_setCont (w : World) (v : SlabID) (c : Cont) : (w.setCont v c).addr = w.addr := rfl
@[simp] theorem mcfg_setCont (w : World) (v : SlabID) (c : Cont) : (w.setCont v c).mcfg = w.mcfg := rfl
@[simp] theorem idxOf_setCont (w : World) (v : SlabID) (c : Cont) (p : SlabID) : (w.setCont v c).idxOf p = w.idxOf p := rfl

@[simp] theorem cont?_setIdx (w : World) (p : SlabID) (m : AList SlabID Nat) (y : SlabID) :
    (w.setIdx p m).cont? y = w.cont? y := rfl
@[simp] theorem conts_setIdx (w : World) (p : SlabID) (m : AList SlabID Nat) : (w.setIdx p m).conts = w.conts := rfl
@[simp] theorem hinfo_setIdx (w : World) (p : SlabID) (m : AList SlabID Nat) : (w.setIdx p m).hinfo = w.hinfo := rfl
@[simp] theorem T_setIdx (w : World) (p : SlabID) (m : AList SlabID Nat) : (w.setIdx p m).T = w.T := rfl
@[simp] theorem addr_setIdx (w : World) (p : SlabID) (m : AList SlabID Nat) : (w.setIdx p m).addr = w.addr := rfl
@[simp] theorem mcfg_setIdx (w : World) (p : SlabID) (m : AList SlabID Nat) : (w.setIdx p m).mcfg = w.mcfg := rfl

@[simp] theorem idxOf_setIdx (w : World) (p : SlabID) (m : AList SlabID Nat) (q : SlabID) :
    (w.setIdx p m).idxOf q = if p = q then m else w.idxOf q := by
  simp only [idxOf, setIdx, AList.find?_insert]
  split <;> rfl

theorem mcfg_congr {w w' : World} (hT : w'.T = w.T) (ha : w'.addr = w.addr) : w'.mcfg = w.mcfg := by
  unfold mcfg; rw [hT, ha]

theorem idxOf_congr {w w' : World} (hm : w'.mutIdx = w.mutIdx) (q : SlabID) : w'.idxOf q = w.idxOf q := by
  unfold idxOf; rw [hm]

@[simp] theorem cont?_shiftIdx (w : World) (p : SlabID) (f : Nat → Nat) (y : SlabID) :
    (w.shiftIdx p f).cont? y = w.cont? y := rfl
@[simp] theorem conts_shiftIdx (w : World) (p : SlabID) (f : Nat → Nat) : (w.shiftIdx p f).conts = w.conts := rfl
@[simp] theorem hinfo_shiftIdx (w : World) (p : SlabID) (f : Nat → Nat) : (w.shiftIdx p f).hinfo = w.hinfo := rfl
@[simp] theorem T_shiftIdx (w : World) (p : SlabID) (f : Nat → Nat) : (w.shiftIdx p f).T = w.T := rfl
@[simp] theorem mcfg_shiftIdx (w : World) (p : SlabID) (f : Nat → Nat) : (w.shiftIdx p f).mcfg = w.mcfg := rfl

theorem idxOf_shiftIdx (w : World) (p : SlabID) (f : Nat → Nat) (q : SlabID) :
    (w.shiftIdx p f).idxOf q = if p = q then (w.idxOf p).map (fun e => (e.1, f e.2)) else w.idxOf q := by
  simp [shiftIdx]

theorem find?_idxOf_shiftIdx (w : World) (p : SlabID) (f : Nat → Nat) (q x : SlabID) :
    AList.find? ((w.shiftIdx p f).idxOf q) x =
      if p = q then (AList.find? (w.idxOf p) x).map f else AList.find? (w.idxOf q) x := by
  rw [idxOf_shiftIdx]
  split
  · exact AList.find?_map_snd _ _ _
  · rfl

@[simp] theorem cont?_setCallbackArr (w : World) (p : SlabID) (i : Nat) (v : WVal) (y : SlabID) :
    (w.setCallbackArr p i v).cont? y = w.cont? y := by
  cases v <;> rfl
@[simp] theorem conts_setCallbackArr (w : World) (p : SlabID) (i : Nat) (v : WVal) :
    (w.setCallbackArr p i v).conts = w.conts := by
  cases v <;> rfl
@[simp] theorem T_setCallbackArr (w : World) (p : SlabID) (i : Nat) (v : WVal) :
    (w.setCallbackArr p i v).T = w.T := by
  cases v <;> rfl
@[simp] theorem mcfg_setCallbackArr (w : World) (p : SlabID) (i : Nat) (v : WVal) :
    (w.setCallbackArr p i v).mcfg = w.mcfg := by
  cases v <;> rfl

@[simp] theorem cont?_setCallbackMap (w : World) (p : SlabID) (k : MKey) (v : WVal) (y : SlabID) :
    (w.setCallbackMap p k v).cont? y = w.cont? y := by
  cases v <;> rfl
@[simp] theorem conts_setCallbackMap (w : World) (p : SlabID) (k : MKey) (v : WVal) :
    (w.setCallbackMap p k v).conts = w.conts := by
  cases v <;> rfl
@[simp] theorem T_setCallbackMap (w : World) (p : SlabID) (k : MKey) (v : WVal) :
    (w.setCallbackMap p k v).T = w.T := by
  cases v <;> rfl
@[simp] theorem mcfg_setCallbackMap (w : World) (p : SlabID) (k : MKey) (v : WVal) :
    (w.setCallbackMap p k v).mcfg = w.mcfg := by
  cases v <;> rfl
@[simp] theorem mutIdx_setCallbackMap (w : World) (p : SlabID) (k : MKey) (v : WVal) :
    (w.setCallbackMap p k v).mutIdx = w.mutIdx := by
  cases v <;> rfl

theorem hinfo_setCallbackArr (w : World) (p : SlabID) (i : Nat) (y : SlabID) (wr : Nat) (z : SlabID) :
    AList.find? (w.setCallbackArr p i (.child y wr)).hinfo z =
      if y = z then some ⟨p, none, maxInlineArr w.T - 2 * wr, wr⟩ else AList.find? w.hinfo z := by
  simp only [setCallbackArr, AList.find?_insert]
  rfl

theorem idxOf_setCallbackArr (w : World) (p : SlabID) (i : Nat) (y : SlabID) (wr : Nat) (q z : SlabID) :
    AList.find? ((w.setCallbackArr p i (.child y wr)).idxOf q) z =
      if p = q ∧ y = z then some i else AList.find? (w.idxOf q) z := by
  have : (w.setCallbackArr p i (.child y wr)).idxOf q =
      if p = q then AList.insert (w.idxOf p) y i else w.idxOf q := by
    simp only [setCallbackArr, idxOf, setIdx, AList.find?_insert]
    split <;> rfl
  rw [this]
  by_cases hpq : p = q
  · subst hpq
    simp only [if_true, AList.find?_insert, true_and]
  · simp [hpq]

theorem hinfo_setCallbackMap (w : World) (p : SlabID) (k : MKey) (y : SlabID) (wr : Nat) (z : SlabID) :
    AList.find? (w.setCallbackMap p k (.child y wr)).hinfo z =
      if y = z then some ⟨p, some k, maxInlineMapValue w.T k.size - 2 * wr, wr⟩ else AList.find? w.hinfo z := by
  simp only [setCallbackMap, AList.find?_insert]

theorem hinfo_setCallbackArr_ne (w : World) (p : SlabID) (i : Nat) (v : WVal) (z : SlabID)
    (h : ∀ wr, v ≠ .child z wr) :
    AList.find? (w.setCallbackArr p i v).hinfo z = AList.find? w.hinfo z := by
  cases v with
  | plain e => rfl
  | child x wr => rw [hinfo_setCallbackArr, if_neg (fun hx => h wr (by rw [hx]))]

theorem idxOf_setCallbackArr_ne (w : World) (p : SlabID) (i : Nat) (v : WVal) {q : SlabID} (hq : q ≠ p)
    (x : SlabID) : AList.find? ((w.setCallbackArr p i v).idxOf q) x = AList.find? (w.idxOf q) x := by
  cases v with
  | plain e => rfl
  | child y wr => rw [idxOf_setCallbackArr, if_neg (fun h => hq h.1.symm)]

theorem hinfo_setCallbackMap_ne (w : World) (p : SlabID) (k : MKey) (v : WVal) (z : SlabID)
    (h : ∀ wr, v ≠ .child z wr) :
    AList.find? (w.setCallbackMap p k v).hinfo z = AList.find? w.hinfo z := by
  cases v with
  | plain e => rfl
  | child x wr => rw [hinfo_setCallbackMap, if_neg (fun hx => h wr (by rw [hx]))]

theorem cont?_eraseHinfo (w : World) (x y : SlabID) :
    ({ w with hinfo := AList.erase w.hinfo x } : World).cont? y = w.cont? y := rfl

/-- what `Storable()` of a live container does, by cases: the container has the form the budget asks for and is
    left alone; or it is inlinable and standalone, and is inlined; or it is inlined and not inlinable,
    and is un-inlined. -/
theorem childStorable_returns {w : World} {x : SlabID} {c : Cont} (hc : w.cont? x = some c) (wrap lim : Nat) (cx : Ctx) :
    (c.isInlined = c.inlinable (lim - 2 * wrap) ∧
      w.childStorable x wrap lim cx = .ok (⟨slotSize c wrap, .ref x⟩, w, cx)) ∨
    (∃ c', c.inlinable (lim - 2 * wrap) = true ∧ c.isInlined = false ∧
      c.inline x cx = .ok (c', cx.emit (.remove x)) ∧
      w.childStorable x wrap lim cx = .ok (⟨c'.rootSize + 2 * wrap, .ref x⟩, w.setCont x c', cx.emit (.remove x))) ∨
    (∃ c', c.inlinable (lim - 2 * wrap) = false ∧ c.isInlined = true ∧
      c.uninline x cx = .ok (c', cx.emit (.store x)) ∧
      w.childStorable x wrap lim cx =
        .ok (⟨slabIDStorableSize + 2 * wrap, .ref x⟩, w.setCont x c', cx.emit (.store x))) := by
  cases hable : c.inlinable (lim - 2 * wrap) <;> cases hinl : c.isInlined
  · exact .inl ⟨rfl, by simp [childStorable, hc, hable, hinl, slotSize]⟩
  · obtain ⟨c', hun⟩ := Cont.uninline_succeeds hinl x cx
    exact .inr (.inr ⟨c', rfl, rfl, hun, by simp [childStorable, hc, hable, hinl, hun]⟩)
  · obtain ⟨c', hin⟩ := Cont.inline_succeeds hable hinl x cx
    exact .inr (.inl ⟨c', rfl, rfl, hin, by simp [childStorable, hc, hable, hinl, hin]⟩)
  · exact .inl ⟨rfl, by simp [childStorable, hc, hable, hinl, slotSize]⟩

theorem childStorable_ok {w : World} {x : SlabID} {wrap lim : Nat} {cx : Ctx} {c : Cont}
    (hc : w.cont? x = some c) {e : Elem} {w' : World} {cx' : Ctx}
    (h : w.childStorable x wrap lim cx = .ok (e, w', cx')) :
    ∃ c', Cont.SameData c c' ∧
      c'.isInlined = c.inlinable (lim - 2 * wrap) ∧
      e = { size := World.slotSize c' wrap, pay := .ref x } ∧
      ((c'.isInlined = c.isInlined ∧ c' = c ∧ w' = w ∧ cx' = cx) ∨
       (c'.isInlined ≠ c.isInlined ∧ w' = w.setCont x c' ∧
          cx' = cx.emit (if c'.isInlined then .remove x else .store x))) := by
  rcases childStorable_returns hc wrap lim cx with ⟨hs, heq⟩ | ⟨c', hable, hinl, hin, heq⟩ | ⟨c', hable, hinl, hun, heq⟩ <;>
    rw [heq] at h <;> cases h
  · exact ⟨c, Cont.SameData.refl c, hs, rfl, Or.inl ⟨rfl, rfl, rfl, rfl⟩⟩
  · obtain ⟨_, i2, i3, _⟩ := Cont.inline_ok hin
    exact ⟨c', i3, by rw [i2, hable], by simp [slotSize, i2], Or.inr ⟨by simp [hinl, i2], rfl, by simp [i2]⟩⟩
  · obtain ⟨_, i2, i3, _⟩ := Cont.uninline_ok hun
    exact ⟨c', i3, by rw [i2, hable], by simp [slotSize, i2], Or.inr ⟨by simp [hinl, i2], rfl, by simp [i2]⟩⟩

theorem childStorable_some {w : World} {x : SlabID} {wrap lim : Nat} {cx : Ctx}
    {e : Elem} {w' : World} {cx' : Ctx} (h : w.childStorable x wrap lim cx = .ok (e, w', cx')) :
    ∃ c, w.cont? x = some c := by
  unfold childStorable at h
  split at h
  · cases h
  · exact ⟨_, by assumption⟩

theorem childStorable_frame {w : World} {x : SlabID} {wrap lim : Nat} {cx : Ctx}
    {e : Elem} {w' : World} {cx' : Ctx} (h : w.childStorable x wrap lim cx = .ok (e, w', cx')) :
    w'.hinfo = w.hinfo ∧ w'.mutIdx = w.mutIdx ∧ w'.T = w.T ∧ w'.addr = w.addr ∧
    (∀ y, y ≠ x → w'.cont? y = w.cont? y) ∧
    (∃ c c', w.cont? x = some c ∧ w'.cont? x = some c' ∧ Cont.SameData c c') ∧
    e.pay = .ref x := by
  obtain ⟨c, hc⟩ := childStorable_some h
  obtain ⟨c', hs, _, he, hcase⟩ := childStorable_ok hc h
  rcases hcase with ⟨_, h2, h3, _⟩ | ⟨_, h3, _⟩
  · subst h3; subst h2
    exact ⟨rfl, rfl, rfl, rfl, fun _ _ => rfl, ⟨c', c', hc, hc, hs⟩, by rw [he]⟩
  · subst h3
    refine ⟨rfl, rfl, rfl, rfl, fun y hy => cont?_setCont_ne _ _ _ _ hy, ⟨c, c', hc, by simp, hs⟩, by rw [he]⟩

/-- what `uninlineStorableIfNeeded` does, by cases: the element refers to no live container; or to a standalone
    one; or to an inlined one, which is un-inlined (the element becomes its reference, behind the same
    wrappers). -/
theorem uninlineIfNeeded_returns (w : World) (e : Elem) (cx : Ctx) :
    ((∀ x, e.pay = .ref x → w.cont? x = none) ∧ w.uninlineIfNeeded e cx = .ok (e, none, w, cx)) ∨
    (∃ x c, e.pay = .ref x ∧ w.cont? x = some c ∧ c.isInlined = false ∧
      w.uninlineIfNeeded e cx = .ok (e, some x, w, cx)) ∨
    (∃ x c c', e.pay = .ref x ∧ w.cont? x = some c ∧ c.isInlined = true ∧
      c.uninline x cx = .ok (c', cx.emit (.store x)) ∧
      w.uninlineIfNeeded e cx =
        .ok (⟨slabIDStorableSize + (e.size - c.rootSize), .ref x⟩, some x, w.setCont x c', cx.emit (.store x))) := by
  cases hp : e.pay with
  | val n => exact .inl ⟨fun x hx => (by cases hx), by simp [uninlineIfNeeded, hp]⟩
  | ref x =>
    cases hc : w.cont? x with
    | none => exact .inl ⟨fun y hy => (by cases hy; exact hc), by simp [uninlineIfNeeded, hp, hc]⟩
    | some c =>
      cases hi : c.isInlined with
      | false => exact .inr (.inl ⟨x, c, rfl, hc, hi, by simp [uninlineIfNeeded, hp, hc, hi]⟩)
      | true =>
        obtain ⟨c', hun⟩ := Cont.uninline_succeeds hi x cx
        exact .inr (.inr ⟨x, c, c', rfl, hc, hi, hun, by simp [uninlineIfNeeded, hp, hc, hi, hun]⟩)

theorem uninlineIfNeeded_ok {w : World} {e : Elem} {cx : Ctx}
    {e' : Elem} {ov : Option SlabID} {w' : World} {cx' : Ctx}
    (h : w.uninlineIfNeeded e cx = .ok (e', ov, w', cx')) :
    e'.pay = e.pay ∧ w'.hinfo = w.hinfo ∧ w'.mutIdx = w.mutIdx ∧ w'.T = w.T ∧ w'.addr = w.addr ∧
    ((ov = none ∧ e' = e ∧ w' = w ∧ cx' = cx ∧ ∀ x, e.pay = .ref x → w.cont? x = none) ∨
     (∃ x c, ov = some x ∧ e.pay = .ref x ∧ w.cont? x = some c ∧
        ((c.isInlined = false ∧ e' = e ∧ w' = w ∧ cx' = cx) ∨
         (c.isInlined = true ∧ ∃ c', Cont.SameData c c' ∧ c'.isInlined = false ∧
            w' = w.setCont x c' ∧ cx' = cx.emit (.store x) ∧
            e' = { size := slabIDStorableSize + (e.size - c.rootSize), pay := .ref x })))) := by
  rcases uninlineIfNeeded_returns w e cx with ⟨hn, heq⟩ | ⟨x, c, hp, hc, hi, heq⟩ | ⟨x, c, c', hp, hc, hi, hun, heq⟩ <;>
    rw [heq] at h <;> cases h
  · exact ⟨rfl, rfl, rfl, rfl, rfl, .inl ⟨rfl, rfl, rfl, rfl, hn⟩⟩
  · exact ⟨rfl, rfl, rfl, rfl, rfl, .inr ⟨x, c, rfl, hp, hc, .inl ⟨hi, rfl, rfl, rfl⟩⟩⟩
  · obtain ⟨_, i2, i3, _⟩ := Cont.uninline_ok hun
    exact ⟨hp.symm, rfl, rfl, rfl, rfl, .inr ⟨x, c, rfl, hp, hc, .inr ⟨hi, c', i3, i2, rfl, rfl, rfl⟩⟩⟩

/-- `uninlineStorableIfNeeded` allocates nothing -/
theorem uninlineIfNeeded_ctr {w : World} {e : Elem} {cx : Ctx} {e' : Elem} {ov : Option SlabID} {w' : World}
    {cx' : Ctx} (h : w.uninlineIfNeeded e cx = .ok (e', ov, w', cx')) : cx'.ctr = cx.ctr := by
  rcases uninlineIfNeeded_returns w e cx with ⟨_, heq⟩ | ⟨_, _, _, _, _, heq⟩ | ⟨_, _, _, _, _, _, _, heq⟩ <;>
    rw [heq] at h <;> cases h <;> rfl

@[simp] theorem storableOf_plain (w : World) (e : Elem) (lim : Nat) (cx : Ctx) :
    w.storableOf (.plain e) lim cx = .ok (e, w, cx) := rfl

@[simp] theorem storableOf_child (w : World) (x : SlabID) (wrap lim : Nat) (cx : Ctx) :
    w.storableOf (.child x wrap) lim cx = w.childStorable x wrap lim cx := rfl

theorem arrSetRaw_ok_iff {fuel : Nat} {w : World} {p : SlabID} {i : Nat} {v : WVal} {cx : Ctx}
    {old : Elem} {w' : World} {cx' : Ctx} :
    arrSetRaw fuel w p i v cx = .ok (old, w', cx') ↔
    ∃ a e w1 cx1 a' cx2 w3, w.cont? p = some (.arr a) ∧ i < a.count ∧
      w.storableOf v (maxInlineArr w.T) cx = .ok (e, w1, cx1) ∧
      a.set w1.T i e cx1 = .ok (old, a', cx2) ∧
      notifyParent fuel (w1.setCont p (.arr a')) p cx2 = .ok (w3, cx') ∧
      w' = w3.setCallbackArr p i v := by
  rw [arrSetRaw]
  constructor
  · intro h
    split at h
    · rename_i a hpa
      split at h
      · cases h
      · rename_i hi
        split at h
        · cases h
        · rename_i e w1 cx1 hst
          split at h
          · cases h
          · rename_i old1 a' cx2 hset
            simp only at h
            split at h
            · cases h
            · rename_i w3 cx3 hnp
              cases h
              exact ⟨a, e, w1, cx1, a', cx2, w3, hpa, Nat.lt_of_not_ge hi, hst, hset, hnp, rfl⟩
    · cases h
  · rintro ⟨a, e, w1, cx1, a', cx2, w3, hpa, hi, hst, hset, hnp, rfl⟩
    simp only [hpa, if_neg (Nat.not_le_of_lt hi), hst, hset, hnp]

theorem mapSetRaw_ok_iff {fuel : Nat} {w : World} {p : SlabID} {k : MKey} {v : WVal} {cx : Ctx}
    {old : Option Elem} {w' : World} {cx' : Ctx} :
    mapSetRaw fuel w p k v cx = .ok (old, w', cx') ↔
    ∃ m e w1 cx1 m' cx2 w3, w.cont? p = some (.map m) ∧
      w.storableOf v (maxInlineMapValue w.T k.size) cx = .ok (e, w1, cx1) ∧
      m.set w1.mcfg k e cx1 = .ok (old, m', cx2) ∧
      notifyParent fuel (w1.setCont p (.map m')) p cx2 = .ok (w3, cx') ∧
      w' = w3.setCallbackMap p k v := by
  rw [mapSetRaw]
  constructor
  · intro h
    split at h
    · rename_i m hpm
      split at h
      · cases h
      · rename_i e w1 cx1 hst
        split at h
        · cases h
        · rename_i old1 m' cx2 hset
          simp only at h
          split at h
          · cases h
          · rename_i w3 cx3 hnp
            cases h
            exact ⟨m, e, w1, cx1, m', cx2, w3, hpm, hst, hset, hnp, rfl⟩
    · cases h
  · rintro ⟨m, e, w1, cx1, m', cx2, w3, hpm, hst, hset, hnp, rfl⟩
    simp only [hpm, hst, hset, hnp]

@[simp] theorem notifyParent_zero (w : World) (x : SlabID) (cx : Ctx) :
    notifyParent 0 w x cx = .error .outOfFuel := by rw [notifyParent]

theorem notifyParent_of_no_closure {fuel : Nat} {w : World} {x : SlabID} (cx : Ctx)
    (h : AList.find? w.hinfo x = none) : notifyParent (fuel + 1) w x cx = .ok (w, cx) := by
  rw [notifyParent]
  simp only [h]

theorem arrInsert_ok_iff {w : World} {p : SlabID} {i : Nat} {v : WVal} {cx : Ctx} {w' : World} {cx' : Ctx} :
    w.arrInsert p i v cx = .ok (w', cx') ↔
    ∃ a e w1 cx1 a' cx2 w2 w3, w.cont? p = some (.arr a) ∧ i ≤ a.count ∧
      w.storableOf v (maxInlineArr w.T) cx = .ok (e, w1, cx1) ∧
      a.insert w1.T i e cx1 = .ok (a', cx2) ∧
      w2 = (w1.setCont p (.arr a')).shiftIdx p (fun j => if j ≥ i then j + 1 else j) ∧
      notifyParent w2.fuelOf w2 p cx2 = .ok (w3, cx') ∧
      w' = w3.setCallbackArr p i v := by
  unfold arrInsert
  constructor
  · intro h
    split at h
    · rename_i a hpa
      split at h
      · cases h
      · rename_i hi
        simp only [bind, Except.bind] at h
        split at h
        · cases h
        · rename_i r hst
          obtain ⟨e, w1, cx1⟩ := r
          simp only at h
          split at h
          · cases h
          · rename_i a' cx2 hins
            split at h
            · cases h
            · rename_i r2 hnp
              obtain ⟨w3, cx3⟩ := r2
              cases h
              exact ⟨a, e, w1, cx1, a', cx2, _, w3, hpa, Nat.le_of_not_gt hi, hst, hins, rfl, hnp, rfl⟩
    · cases h
  · rintro ⟨a, e, w1, cx1, a', cx2, w2, w3, hpa, hi, hst, hins, rfl, hnp, rfl⟩
    simp only [hpa, if_neg (Nat.not_lt_of_ge hi), bind, Except.bind, hst, hins, hnp, pure, Except.pure]

theorem arrRemove_ok_iff {w : World} {p : SlabID} {i : Nat} {cx : Ctx} {old : Elem} {w' : World} {cx' : Ctx} :
    w.arrRemove p i cx = .ok (old, w', cx') ↔
    ∃ a old0 a' cx1 w2 w3 cx3 ov w4, w.cont? p = some (.arr a) ∧
      a.remove w.T i cx = .ok (old0, a', cx1) ∧
      w2 = (w.setCont p (.arr a')).shiftIdx p (fun j => if j > i then j - 1 else j) ∧
      notifyParent w2.fuelOf w2 p cx1 = .ok (w3, cx3) ∧
      w3.uninlineIfNeeded old0 cx3 = .ok (old, ov, w4, cx') ∧
      w' = (match ov with
        | none => w4
        | some o => w4.setIdx p (AList.erase (w4.idxOf p) o)) := by
  unfold arrRemove
  constructor
  · intro h
    split at h
    · rename_i a hpa
      split at h
      · cases h
      · rename_i old0 a' cx1 hrem
        simp only [bind, Except.bind] at h
        split at h
        · cases h
        · rename_i r hnp
          obtain ⟨w3, cx3⟩ := r
          simp only at h
          split at h
          · cases h
          · rename_i r2 hun
            obtain ⟨old', ov, w4, cx4⟩ := r2
            cases h
            exact ⟨a, old0, a', cx1, _, w3, cx3, ov, w4, hpa, hrem, rfl, hnp, hun, rfl⟩
    · cases h
  · rintro ⟨a, old0, a', cx1, w2, w3, cx3, ov, w4, hpa, hrem, rfl, hnp, hun, rfl⟩
    simp only [hpa, hrem, bind, Except.bind, hnp, hun, pure, Except.pure]
    cases ov <;> rfl

theorem mapRemove_ok_iff {w : World} {p : SlabID} {k : MKey} {cx : Ctx} {rk : MKey} {rv : Elem}
    {w' : World} {cx' : Ctx} :
    w.mapRemove p k cx = .ok (rk, rv, w', cx') ↔
    ∃ m rv0 m' cx1 w3 cx3 ov, w.cont? p = some (.map m) ∧
      m.remove w.mcfg k cx = .ok (rk, rv0, m', cx1) ∧
      notifyParent (w.setCont p (.map m')).fuelOf (w.setCont p (.map m')) p cx1 = .ok (w3, cx3) ∧
      w3.uninlineIfNeeded rv0 cx3 = .ok (rv, ov, w', cx') := by
  unfold mapRemove
  constructor
  · intro h
    split at h
    · rename_i m hpm
      split at h
      · cases h
      · rename_i rk0 rv0 m' cx1 hrem
        simp only [bind, Except.bind] at h
        split at h
        · cases h
        · rename_i r hnp
          obtain ⟨w3, cx3⟩ := r
          simp only at h
          split at h
          · cases h
          · rename_i r2 hun
            obtain ⟨rv', ov, w4, cx4⟩ := r2
            cases h
            exact ⟨m, rv0, m', cx1, w3, cx3, ov, hpm, hrem, hnp, hun⟩
    · cases h
  · rintro ⟨m, rv0, m', cx1, w3, cx3, ov, hpm, hrem, hnp, hun⟩
    simp only [hpm, hrem, bind, Except.bind, hnp, hun, pure, Except.pure]

theorem arrSet_ok_iff {w : World} {p : SlabID} {i : Nat} {v : WVal} {cx : Ctx} {old : Elem} {w' : World}
    {cx' : Ctx} :
    w.arrSet p i v cx = .ok (old, w', cx') ↔
    ∃ old1 w1 cx1 ov w2, arrSetRaw w.fuelOf w p i v cx = .ok (old1, w1, cx1) ∧
      w1.uninlineIfNeeded old1 cx1 = .ok (old, ov, w2, cx') ∧
      w' = (match ov with
        | none => w2
        | some o =>
          if (match v with | .child nv _ => nv == o | _ => false) then w2
          else w2.setIdx p (AList.erase (w2.idxOf p) o)) := by
  unfold arrSet
  simp only [bind, Except.bind]
  constructor
  · intro h
    split at h
    · cases h
    · rename_i r hraw
      obtain ⟨old1, w1, cx1⟩ := r
      simp only at h
      split at h
      · cases h
      · rename_i r2 hun
        obtain ⟨old2, ov, w2, cx2⟩ := r2
        cases h
        exact ⟨old1, w1, cx1, ov, w2, hraw, hun, rfl⟩
  · rintro ⟨old1, w1, cx1, ov, w2, hraw, hun, rfl⟩
    simp only [hraw, hun, pure, Except.pure]
    cases ov <;> rfl

theorem mapSet_ok_iff {w : World} {p : SlabID} {k : MKey} {v : WVal} {cx : Ctx} {old : Option Elem}
    {w' : World} {cx' : Ctx} :
    w.mapSet p k v cx = .ok (old, w', cx') ↔
    ∃ old1 w1 cx1, mapSetRaw w.fuelOf w p k v cx = .ok (old1, w1, cx1) ∧
      ((old1 = none ∧ old = none ∧ w' = w1 ∧ cx' = cx1) ∨
       ∃ o o' ov, old1 = some o ∧ old = some o' ∧ w1.uninlineIfNeeded o cx1 = .ok (o', ov, w', cx')) := by
  unfold mapSet
  simp only [bind, Except.bind]
  constructor
  · intro h
    split at h
    · cases h
    · rename_i r hraw
      obtain ⟨old1, w1, cx1⟩ := r
      cases old1 with
      | none => cases h; exact ⟨none, w1, cx1, hraw, .inl ⟨rfl, rfl, rfl, rfl⟩⟩
      | some o =>
        simp only at h
        split at h
        · cases h
        · rename_i r2 hun
          obtain ⟨o', ov, w2, cx2⟩ := r2
          cases h
          exact ⟨some o, w1, cx1, hraw, .inr ⟨o, o', ov, rfl, rfl, hun⟩⟩
  · rintro ⟨old1, w1, cx1, hraw, ⟨rfl, rfl, rfl, rfl⟩ | ⟨o, o', ov, rfl, rfl, hun⟩⟩
    · simp only [hraw, pure, Except.pure]
    · simp only [hraw, hun, pure, Except.pure]

theorem arrPopKeep_ok_iff {w : World} {h : SlabID} {keep : List SlabID} {cx : Ctx} {es : List Elem}
    {w' : World} {cx' : Ctx} :
    w.arrPopKeep h keep cx = .ok (es, w', cx') ↔
    ∃ a w2, w.cont? h = some (.arr a) ∧ es = (a.popIterate cx).1 ∧
      w2 = ((w.setCont h (.arr (a.popIterate cx).2.1)).setIdx h []).forgetElems (disposed keep es) ∧
      notifyParent w2.fuelOf w2 h (a.popIterate cx).2.2 = .ok (w', cx') := by
  unfold arrPopKeep
  constructor
  · intro hp
    split at hp
    · rename_i a hpa
      simp only at hp
      split at hp
      · cases hp
      · rename_i w3 cx3 hnp
        cases hp
        exact ⟨a, _, hpa, rfl, rfl, hnp⟩
    · cases hp
  · rintro ⟨a, w2, hpa, rfl, rfl, hnp⟩
    simp only [hpa, hnp]

theorem mapPopKeep_ok_iff {w : World} {h : SlabID} {keep : List SlabID} {cx : Ctx}
    {kvs : List (MKey × Elem)} {w' : World} {cx' : Ctx} :
    w.mapPopKeep h keep cx = .ok (kvs, w', cx') ↔
    ∃ m w2, w.cont? h = some (.map m) ∧ kvs = (m.popIterate cx).1 ∧
      w2 = (w.setCont h (.map (m.popIterate cx).2.1)).forgetElems (disposed keep (kvs.map (·.2))) ∧
      notifyParent w2.fuelOf w2 h (m.popIterate cx).2.2 = .ok (w', cx') := by
  unfold mapPopKeep
  constructor
  · intro hp
    split at hp
    · rename_i m hpm
      simp only at hp
      split at hp
      · cases hp
      · rename_i w3 cx3 hnp
        cases hp
        exact ⟨m, _, hpm, rfl, rfl, hnp⟩
    · cases hp
  · rintro ⟨m, w2, hpm, rfl, rfl, hnp⟩
    simp only [hpm, hnp]

theorem disposed_nil (es : List Elem) : disposed [] es = es := by
  unfold disposed
  apply List.filter_eq_self.mpr
  intro e _
  cases e.pay <;> simp

theorem arrPopKeep_nil (w : World) (h : SlabID) (cx : Ctx) : w.arrPopKeep h [] cx = w.arrPop h cx := by
  unfold arrPopKeep arrPop
  simp only [disposed_nil]

theorem mapPopKeep_nil (w : World) (h : SlabID) (cx : Ctx) : w.mapPopKeep h [] cx = w.mapPop h cx := by
  unfold mapPopKeep mapPop
  simp only [disposed_nil]

theorem arrPop_ok_iff {w : World} {h : SlabID} {cx : Ctx} {es : List Elem} {w' : World} {cx' : Ctx} :
    w.arrPop h cx = .ok (es, w', cx') ↔
    ∃ a w2, w.cont? h = some (.arr a) ∧ es = (a.popIterate cx).1 ∧
      w2 = ((w.setCont h (.arr (a.popIterate cx).2.1)).setIdx h []).forgetElems es ∧
      notifyParent w2.fuelOf w2 h (a.popIterate cx).2.2 = .ok (w', cx') := by
  rw [← arrPopKeep_nil, arrPopKeep_ok_iff, disposed_nil]

theorem mapPop_ok_iff {w : World} {h : SlabID} {cx : Ctx} {kvs : List (MKey × Elem)} {w' : World}
    {cx' : Ctx} :
    w.mapPop h cx = .ok (kvs, w', cx') ↔
    ∃ m w2, w.cont? h = some (.map m) ∧ kvs = (m.popIterate cx).1 ∧
      w2 = (w.setCont h (.map (m.popIterate cx).2.1)).forgetElems (kvs.map (·.2)) ∧
      notifyParent w2.fuelOf w2 h (m.popIterate cx).2.2 = .ok (w', cx') := by
  rw [← mapPopKeep_nil, mapPopKeep_ok_iff, disposed_nil]

/-- `setType` stores the new type in the container and, if the container is inlined, notifies
    the parent -/
theorem setType_ok_iff {w : World} {h : SlabID} {ty : Nat} {cx : Ctx} {w' : World} {cx' : Ctx} :
    w.setType h ty cx = .ok (w', cx') ↔
    ∃ c c' cx1, w.cont? h = some c ∧
      ((∃ a, c = .arr a ∧ c' = .arr (a.setType ty cx).1 ∧ cx1 = (a.setType ty cx).2) ∨
       (∃ m, c = .map m ∧ c' = .map (m.setType ty cx).1 ∧ cx1 = (m.setType ty cx).2)) ∧
      ((c.isInlined = true ∧
          notifyParent (w.setCont h c').fuelOf (w.setCont h c') h cx1 = .ok (w', cx')) ∨
       (c.isInlined = false ∧ w' = w.setCont h c' ∧ cx' = cx1)) := by
  constructor
  · intro hs
    unfold setType at hs
    split at hs
    · rename_i a hpa
      refine ⟨_, _, _, hpa, .inl ⟨a, rfl, rfl, rfl⟩, ?_⟩
      simp only at hs
      split at hs
      · rename_i hinl; exact .inl ⟨hinl, hs⟩
      · rename_i hinl; cases hs; exact .inr ⟨Bool.eq_false_iff.mpr hinl, rfl, rfl⟩
    · rename_i m hpm
      refine ⟨_, _, _, hpm, .inr ⟨m, rfl, rfl, rfl⟩, ?_⟩
      simp only at hs
      split at hs
      · rename_i hinl; exact .inl ⟨hinl, hs⟩
      · rename_i hinl; cases hs; exact .inr ⟨Bool.eq_false_iff.mpr hinl, rfl, rfl⟩
    · cases hs
  · rintro ⟨c, c', cx1, hc, ⟨a, rfl, rfl, rfl⟩ | ⟨m, rfl, rfl, rfl⟩, ⟨hi, hn⟩ | ⟨hi, rfl, rfl⟩⟩ <;>
      unfold setType <;> simp only [hc]
    · rw [if_pos (show a.isInlined = true from hi)]; exact hn
    · rw [if_neg (by rw [show a.isInlined = false from hi]; decide)]
    · rw [if_pos (show m.isInlined = true from hi)]; exact hn
    · rw [if_neg (by rw [show m.isInlined = false from hi]; decide)]

/-- `Array.Get`: a lookup changes nothing unless the element is a container of the world, whose
    closure and index entry are then installed -/
theorem arrGet_ok_iff {w : World} {p : SlabID} {i : Nat} {el : Elem} {w' : World} :
    w.arrGet p i = .ok (el, w') ↔
    ∃ a, w.cont? p = some (.arr a) ∧ a.get i = .ok el ∧
      ((w' = w ∧ ∀ x, el.pay = .ref x → w.cont? x = none) ∨ ∃ x c, el.pay = .ref x ∧ w.cont? x = some c ∧
        w' = w.setCallbackArr p i (.child x (wrapDepth c el))) := by
  constructor
  · intro h
    unfold arrGet at h
    split at h
    · rename_i a hpa
      split at h
      · cases h
      · rename_i el0 hget
        split at h
        · rename_i x hx
          split at h
          · rename_i hn; cases h
            exact ⟨a, hpa, hget, .inl ⟨rfl, fun y hy => by rw [hx] at hy; cases hy; exact hn⟩⟩
          · rename_i c hc; cases h; exact ⟨a, hpa, hget, .inr ⟨x, c, hx, hc, rfl⟩⟩
        · rename_i hnr; cases h; exact ⟨a, hpa, hget, .inl ⟨rfl, fun y hy => absurd hy (hnr y)⟩⟩
    · cases h
  · rintro ⟨a, hpa, hget, ⟨rfl, hn⟩ | ⟨x, c, hx, hc, rfl⟩⟩ <;> unfold arrGet <;> simp only [hpa, hget]
    · cases hp : el.pay with
      | val n => rfl
      | ref x => simp only [hn x hp]
    · simp only [hx, hc]

theorem mapGet_ok_iff {w : World} {p : SlabID} {k : MKey} {el : Elem} {w' : World} :
    w.mapGet p k = .ok (el, w') ↔
    ∃ m k', w.cont? p = some (.map m) ∧ m.get w.mcfg k = .ok (k', el) ∧
      ((w' = w ∧ ∀ x, el.pay = .ref x → w.cont? x = none) ∨ ∃ x c, el.pay = .ref x ∧ w.cont? x = some c ∧
        w' = w.setCallbackMap p k' (.child x (wrapDepth c el))) := by
  constructor
  · intro h
    unfold mapGet at h
    split at h
    · rename_i m hpm
      split at h
      · cases h
      · rename_i k' el0 hget
        split at h
        · rename_i x hx
          split at h
          · rename_i hn; cases h
            exact ⟨m, k', hpm, hget, .inl ⟨rfl, fun y hy => by rw [hx] at hy; cases hy; exact hn⟩⟩
          · rename_i c hc; cases h; exact ⟨m, k', hpm, hget, .inr ⟨x, c, hx, hc, rfl⟩⟩
        · rename_i hnr; cases h; exact ⟨m, k', hpm, hget, .inl ⟨rfl, fun y hy => absurd hy (hnr y)⟩⟩
    · cases h
  · rintro ⟨m, k', hpm, hget, ⟨rfl, hn⟩ | ⟨x, c, hx, hc, rfl⟩⟩ <;> unfold mapGet <;> simp only [hpm, hget]
    · cases hp : el.pay with
      | val n => rfl
      | ref x => simp only [hn x hp]
    · simp only [hx, hc]

end World
end Atree

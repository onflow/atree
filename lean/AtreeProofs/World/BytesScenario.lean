import AtreeProofs.Props.C03WorldBytesFinal
import AtreeProofs.WorldCodec.LeafDec
import AtreeProofs.World.PersistScenario
/-
  Non-vacuity of `Props/C07World.lean` and `Props/C03WorldBytes.lean`: the run of `World/OkScenario.lean`
  up to the depth-3 world `t8` (`R` (array) ∋ inlined map `M` ∋ wrapped inlined array `A` holding one value;
  `R` ∋ inlined empty array `B`) is a byte-level history (`histB8`) whose world meets `LeafOk` and `SideAll`
  by evaluation, so the round trip of its single slab and the commit / reopen theorem apply to it.
-/
namespace Atree.BytesScenario
open Atree Atree.Codec Gen World St
open Atree.OkScenario
open Atree.HeapScenario
open Atree.Scenario (w0 cx0 ok_pair ok_triple)
open Atree.C09 (newEffects newCreated)
open Atree.C09W (Hist)
open Atree.WC

theorem leaf8 : LeafOk t8.1 t8.2.ctr := by decide +kernel
theorem side8 : SideAll t8.1 := by decide +kernel

def kind : Slab → String
  | .data .. => "data" | .index .. => "index" | .storable .. => "storable" | .adata .. => "adata"
  | .mdata .. => "mdata" | .mindex .. => "mindex" | .storableG .. => "storableG"

/-- the single slab of the world `t8` as the codec sees it: an array data slab (kind `adata`) whose two
    elements are an inlined map — whose one value is a wrapped inlined array holding one value — and
    an inlined empty array -/
example : (t8.1.toCodec R).map kind = some "adata" := by decide +kernel
example : (t8.1.toCodec R).map (fun sl => match sl with | .adata a => vneedISts a.elems | _ => 0) = some 10 := by decide +kernel

/-- C07 / C06 for the slab of `R` with its children at three levels, from the theorem -/
example (sl : Slab) (h : t8.1.toCodec R = some sl) :
    (∃ k, decodeSlab R (encodeSlab sl) 0 = .ok sl k) ∧
    (encodeSlab sl).length + omittedNext sl = sl.byteSize + sl.extraDataLen :=
  C07W.hist_decode_encode D t8.1 t8.2 hist8 leaf8 R sl h (side8.at R) 0

theorem histB8 : ∃ s, HistB D t8.1 t8.2 s := by
  have h0 : HistB D w0 cx0 St.init := .new 256 1 (by decide)
  have h1 := HistB.req h0 (Req.newArr (D := D) (w := w0) (cx := cx0) 7)
  have h2 := HistB.req h1 (Req.newMap (D := D) 8 5)
  have h3 := HistB.req h2 (Req.newArr (D := D) 9)
  have h4 := HistB.req h3 (Req.newArr (D := D) 10)
  have h5 := HistB.req h4 (Req.arrInsert (D := D) handles4.1 hv5 (ok_pair run5))
  have h6 := HistB.req h5 (Req.mapSet (D := D) ok5.2.2 (keyOk_K1_at M checks8.2.2.1.2.2) hv6 (ok_triple run6))
  have h7 := HistB.req h6 (Req.arrInsert (D := D) ok6.2.2 hv7 (ok_pair run7))
  have h8 := HistB.req h7 (Req.arrInsert (D := D) handleR7 hv8 (ok_pair run8))
  exact ⟨_, h8⟩

/-- the byte-level commit / reopen theorem applies to the depth-3 world `t8` (no hypothesis left) -/
example (s : St Slab (SlabID × Bytes)) (h : HistB D t8.1 t8.2 s) :=
  C03WBF.world_bytes_commit_reopen D h leaf8 side8.at .det [] []

end Atree.BytesScenario

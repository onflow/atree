import AtreeProofs.World.WPopAll
import AtreeProofs.World.WPopMid
import AtreeProofs.World.DetachedRoot
import AtreeProofs.World.WPopOps
/-
  What `AtreeProofs/Props/C11Slot.lean` (C11: detached containers cannot corrupt a former parent) reads
  off an operation theorem: the container handed back is a detached root (`HandedBack.detached`); a
  detached root stays one across an operation that keeps the other signatures (`SigFrame.holds_rev`,
  `DetachedRoot.of_frame`, `WValOk.new_elem_not_ref`); reading a key of a live map under `WorldOk'`
  (`get_absent_of_worldOk'`, `get_present_of_worldOk'`, `keysDistinct_zipper`); `SetType` keeps every
  signature (`setType_sig`).
-/
namespace Atree
open Gen

namespace World

theorem holds_arr_of_mem {w : World} {p x : SlabID} {a : Arr} {e : Elem} (hp : w.cont? p = some (.arr a))
    (he : e ∈ a.toList) (hx : e.pay = .ref x) : Holds w p x :=
  ⟨_, hp, mem_pays_iff.mpr ⟨e, he, hx⟩⟩

theorem holds_map_of_mem {w : World} {p x : SlabID} {m : OMap 3} {k : MKey} {e : Elem} (hp : w.cont? p = some (.map m))
    (he : (k, e) ∈ m.toList) (hx : e.pay = .ref x) : Holds w p x :=
  ⟨_, hp, mem_pays_iff.mpr ⟨e, List.mem_map.mpr ⟨_, he, rfl⟩, hx⟩⟩

/-- the container handed back by an operation is a detached root afterwards, standalone, with the
    same data and value ID -/
theorem HandedBack.detached {w w' : World} {old : Elem} {x : SlabID} {c : Cont} (hb : HandedBack w w' old)
    (hx : old.pay = .ref x) (hc : w.cont? x = some c) :
    DetachedRoot w' x ∧ ∃ c', w'.cont? x = some c' ∧ c'.isInlined = false ∧ c'.vid = c.vid ∧
      c'.storedElems = c.storedElems := by
  obtain ⟨c', h1, h2, h3, h4, h5⟩ := hb x c hx hc
  exact ⟨⟨by rw [h1]; rfl, h5⟩, c', h1, h2, h3, h4⟩

/-- in a list of pairwise different keys, the key at a position occurs nowhere else -/
theorem keysDistinct_zipper {A B : List (MKey × Elem)} {k : MKey} {v : Elem} (h : KeysDistinct (A ++ (k, v) :: B)) :
    ∀ p ∈ A ++ B, p.1 ≠ k := by
  unfold KeysDistinct at h
  rw [List.pairwise_append, List.pairwise_cons] at h
  obtain ⟨_, ⟨hB, _⟩, hAB⟩ := h
  intro p hp he
  rcases List.mem_append.mp hp with hA | hB'
  · have := hAB p hA (k, v) List.mem_cons_self
    rw [he] at this
    simp [MKey.same_self] at this
  · have := hB p hB'
    rw [he] at this
    simp [MKey.same_self] at this

variable {D : SlabID → DigestFn 4}

/-- reading a key that no pair of a live map carries: `KeyNotFound` -/
theorem get_absent_of_worldOk' {w : World} {ctr : Nat} (H : WorldOk' D w ctr) {p : SlabID} {pm : OMap 3}
    (hp : w.cont? p = some (.map pm)) {k : MKey} (hk : KeyOk w.T 4 (D p) k) (hno : ∀ q ∈ pm.toList, q.1 ≠ k) :
    pm.get w.mcfg k = .error .keyNotFound := by
  obtain ⟨rank, H0⟩ := H
  have hmok : MapOk w.T (D p) pm ctr := H0.conts p _ hp
  exact (hmok.get_spec H0.legal (H0.cfgOk hp) hk).2 hno

/-- reading a key of a live map: the pair of the list -/
theorem get_present_of_worldOk' {w : World} {ctr : Nat} (H : WorldOk' D w ctr) {p : SlabID} {pm : OMap 3}
    (hp : w.cont? p = some (.map pm)) {k : MKey} (hk : KeyOk w.T 4 (D p) k) {e : Elem} (hmem : (k, e) ∈ pm.toList) :
    pm.get w.mcfg k = .ok (k, e) := by
  obtain ⟨rank, H0⟩ := H
  have hmok : MapOk w.T (D p) pm ctr := H0.conts p _ hp
  exact (hmok.get_spec H0.legal (H0.cfgOk hp) hk).1 e hmem

theorem keysDistinct_of_worldOk' {w : World} {ctr : Nat} (H : WorldOk' D w ctr) {p : SlabID} {pm : OMap 3}
    (hp : w.cont? p = some (.map pm)) : KeysDistinct pm.toList := by
  obtain ⟨rank, H0⟩ := H
  have hmok : MapOk w.T (D p) pm ctr := H0.conts p _ hp
  exact hmok.distinct

/-- a reference held after the operation by a container other than `p` was there before -/
theorem SigFrame.holds_rev {w w' : World} {p : SlabID} (h : SigFrame w w' p) {q x : SlabID} (hq : q ≠ p)
    (hh : Holds w' q x) : Holds w q x := by
  obtain ⟨qc', hqc', hm⟩ := hh
  have := h q hq
  rw [hqc'] at this
  cases hc : w.cont? q with
  | none => rw [hc] at this; cases this
  | some c =>
    rw [hc] at this
    simp only [Option.map_some, Option.some.injEq] at this
    exact ⟨c, hc, by rw [← Cont.sig_pays this]; exact hm⟩

theorem SigFrame.live {w w' : World} {p : SlabID} (h : SigFrame w w' p) {z : SlabID} (hz : z ≠ p)
    (hl : (w.cont? z).isSome) : (w'.cont? z).isSome := by
  have := h z hz
  cases hc : w.cont? z with
  | none => rw [hc] at hl; cases hl
  | some c =>
    rw [hc] at this
    cases hc' : w'.cont? z with
    | none => rw [hc'] at this; cases this
    | some c' => rfl

/-- `x` stays a detached root across an operation that keeps the signature of every container but
    `p`, keeps `p` live and leaves no reference to `x` in `p` -/
theorem DetachedRoot.of_frame {w w' : World} {p x : SlabID} (hx : DetachedRoot w x) (hS : SigFrame w w' p)
    (hlive : (w'.cont? p).isSome) (hp : ∀ c', w'.cont? p = some c' → Pay.ref x ∉ c'.pays) :
    DetachedRoot w' x := by
  refine ⟨?_, fun q hq => ?_⟩
  · by_cases hxp : x = p
    · rw [hxp]; exact hlive
    · exact hS.live hxp hx.1
  · by_cases hqp : q = p
    · obtain ⟨c', hc', hm⟩ := hq
      rw [hqp] at hc'
      exact hp c' hc' hm
    · exact hx.2 q (hS.holds_rev hqp hq)

/-- the element stored for the value `v` (the plain value itself, or a reference to the child
    container handed in) does not refer to `x`, unless `v` is `x` -/
theorem WValOk.new_elem_not_ref {w : World} {p : SlabID} {lim : Nat} {v : WVal} {x : SlabID} {e : Elem}
    (hv : WValOk w p lim v) (hvx : ∀ wr, v ≠ .child x wr)
    (h1 : ∀ e0, v = .plain e0 → e = e0) (h2 : ∀ y wr, v = .child y wr → e.pay = .ref y) :
    e.pay ≠ .ref x := by
  cases v with
  | plain e0 =>
    obtain ⟨n, hn⟩ := hv.1.2
    rw [h1 e0 rfl, hn]
    intro h; cases h
  | child y wr =>
    rw [h2 y wr rfl]
    intro h; cases h
    exact hvx wr rfl

/-- `SetType` through a current handle changes no container's signature (kind, keys, payloads) -/
theorem setType_sig {w : World} {p : SlabID} {ty : Nat} {cx : Ctx} {w' : World} {cx' : Ctx}
    (H : WorldOk D w cx.ctr) (hhand : HandleOk w p) (h : w.setType p ty cx = .ok (w', cx')) :
    ContsSig w w' := by
  obtain ⟨rank0, H0⟩ := H
  exact (setType_okA H0 hhand h).2.2.2.2.1

/-- the same under the invariant across disposals `WorldOk'`; the conclusion is the signature equation of
    every container (`∀ q, … sig = … sig`), not the structure `ContsSig` -/
theorem setType_sig_worldOk' {w : World} {p : SlabID} {ty : Nat} {cx : Ctx} {w' : World} {cx' : Ctx}
    (H : WorldOk' D w cx.ctr) (hhand : HandleOk w p) (h : w.setType p ty cx = .ok (w', cx')) :
    ∀ q, (w'.cont? q).map Cont.sig = (w.cont? q).map Cont.sig := by
  obtain ⟨H0, S⟩ := H.down
  obtain ⟨w0', h0, S'⟩ := sim_setType S h
  have := setType_sig H0 (S.handleOk_down hhand) h0
  intro q
  rw [← S'.cont?, ← S.cont?]
  exact this.sig q

end World
end Atree

import AtreeProofs.Props.C10WPopOps
import AtreeProofs.World.OkScenario
/-
  Concrete runs of the model (T = 256) for the non-vacuity section of `Props/C11Slot.lean`.

  Run A (array parent): root array `R`; array `X` inserted in slot 0 and given one value through its
  handle (it is INLINED in `R`); a third array `Y`; `Array.Set R 0 Y` OVERWRITES `X` by `Y`; then
  the detached `X` is mutated through its handle (`Array.Insert X 1 …`): its stale closure fires
  (it would fit inline) and finds that its index is unknown.
  Run B (map parent): `X` stored under a key of the root map `P`, then removed (B1) or overwritten by
  another container (B2); the stale closure of `X` reads the key: not found / another container.
  Run C: an inlined MAP `M` is removed from `R` and mutated through its handle as a detached root.
  The global invariant of every state is established by chaining the operation theorems from the
  empty world, as in `World/OkScenario.lean`.
-/
namespace Atree.C11Scenario
open Atree Gen World
open Atree.Scenario (okW eq_okW okE eq_okE runW runE ok_pair ok_triple w0 cx0 preInsert)
open Atree.OkScenario (D D0 pl unrefB unrefB_sound childB wvalOk_child plOkAt plOkMap keyOk_K1_at insertedAt_handle
  mapSetAt_handle runM)

def R : SlabID := ⟨1, 1⟩
def X : SlabID := ⟨1, 2⟩
def Y : SlabID := ⟨1, 3⟩

/-! ### Run A: array parent, child overwritten by another container -/

def c1 : SlabID × World × Ctx := w0.newArr 7 cx0
def c2 : SlabID × World × Ctx := c1.2.1.newArr 8 c1.2.2
def c3 : SlabID × World × Ctx := c2.2.1.newArr 9 c2.2.2
/-- `X` inserted into `R` -/
def c4 : World × Ctx := okW (c3.2.1.arrInsertS R 0 (.child X 0) c3.2.2)
/-- one value through the handle of `X` (inlined in `R`) -/
def c5 : World × Ctx := okW (c4.1.arrInsertS X 0 (pl 1) c4.2)
/-- `X` OVERWRITTEN by `Y` in slot 0 of `R` -/
def c6 : Elem × World × Ctx := okE (c5.1.arrSetS R 0 (.child Y 0) c5.2)
/-- the detached `X` mutated through its handle -/
def c7 : World × Ctx := okW (c6.2.1.arrInsertS X 1 (pl 2) c6.2.2)
/-- the state at the call of `notifyParent` inside that last insert -/
def mid7 : World × Ctx := preInsert c6.2.1 X 1 ⟨20, .val 2⟩ c6.2.2

/-! other mutations through the handle of the detached `X` (from `c6`) -/

/-- the value of `X` removed through its handle -/
def c8 : Elem × World × Ctx := okE (c6.2.1.arrRemoveS X 0 c6.2.2)
/-- the value of `X` overwritten through its handle -/
def c9 : Elem × World × Ctx := okE (c6.2.1.arrSetS X 0 (pl 9) c6.2.2)
/-- the type of `X` set through its handle -/
def c10 : World × Ctx := okW (c6.2.1.setType X 5 c6.2.2)
/-- the detached `X` ATTACHED TO ANOTHER PARENT: inserted into `Y` (itself inlined in `R`) -/
def c11 : World × Ctx := okW (c6.2.1.arrInsertS Y 0 (.child X 0) c6.2.2)

theorem ids : c1.1 = R ∧ c2.1 = X ∧ c3.1 = Y := by decide

/-- a successful evaluated `arrSet` is a step of the model -/
theorem runSet {w : World} {p : SlabID} {i : Nat} {v : WVal} {cx : Ctx} (h : (w.arrSetS p i v cx).toBool = true) :
    w.arrSet p i v cx = .ok (okE (w.arrSetS p i v cx)) := by
  rw [arrSet_eq_S]; exact eq_okE _ h

/-- run A, evaluated once: every step succeeds, and the side conditions of the chain below -/
theorem checksA :
    (unrefB c3.2.1 R = true ∧ (c3.2.1.arrInsertS R 0 (.child X 0) c3.2.2).toBool = true ∧
      childB c3.2.1 R (maxInlineArr c3.2.1.T) X 0 = true) ∧
    ((c4.1.arrInsertS X 0 (pl 1) c4.2).toBool = true ∧ c4.1.T = 256) ∧
    (unrefB c5.1 R = true ∧ (c5.1.arrSetS R 0 (.child Y 0) c5.2).toBool = true ∧
      childB c5.1 R (maxInlineArr c5.1.T) Y 0 = true) ∧
    ((c6.2.1.arrInsertS X 1 (pl 2) c6.2.2).toBool = true ∧ (c6.2.1.arrRemoveS X 0 c6.2.2).toBool = true ∧
      (c6.2.1.arrSetS X 0 (pl 9) c6.2.2).toBool = true ∧ (c6.2.1.setType X 5 c6.2.2).toBool = true ∧
      (c6.2.1.arrInsertS Y 0 (.child X 0) c6.2.2).toBool = true) ∧
    (c6.2.1.cont? X).map (fun c => c.pays.all (fun py => match py with | .val _ => true | .ref _ => false)) =
      some true := by
  decide +kernel

theorem okA0 : WorldOk' D w0 cx0.ctr := C10W.worldOk'_new D 256 1 0 (by decide)

theorem okA3 : WorldOk' D c3.2.1 c3.2.2.ctr :=
  (C10W.worldOk'_newArr D _ 9 _ (C10W.worldOk'_newArr D _ 8 _ (C10W.worldOk'_newArr D w0 7 cx0 okA0).1).1).1

theorem runA4 : c3.2.1.arrInsert R 0 (.child X 0) c3.2.2 = .ok c4 := runW checksA.1.2.1

theorem okA4 : WorldOk' D c4.1 c4.2.ctr ∧ HandleOk c4.1 X :=
  have c := checksA.1
  have g := C10W.worldOk'_arrInsert D _ R 0 _ _ _ _ okA3 (.root _ (unrefB_sound c.1)) (wvalOk_child c.2.2)
    (ok_pair runA4)
  ⟨g.1, insertedAt_handle g.2.2.1⟩

theorem runA5 : c4.1.arrInsert X 0 (pl 1) c4.2 = .ok c5 := runW checksA.2.1.1

theorem okA5 : WorldOk' D c5.1 c5.2.ctr :=
  (C10W.worldOk'_arrInsert D _ X 0 _ _ _ _ okA4.1 okA4.2 (plOkAt _ X checksA.2.1.2 1) (ok_pair runA5)).1

/-- the overwrite is a successful run of the MODEL operation -/
theorem runA6 : c5.1.arrSet R 0 (.child Y 0) c5.2 = .ok c6 := runSet checksA.2.2.1.2.1

/-- the handle of the root `R` is current -/
theorem handleR5 : HandleOk c5.1 R := .root _ (unrefB_sound checksA.2.2.1.1)

/-- `Y` may be stored into `R`: live, unreferenced, not an ancestor of `R`, fits -/
theorem valY5 : WValOk c5.1 R (maxInlineArr c5.1.T) (.child Y 0) := wvalOk_child checksA.2.2.1.2.2

theorem runA7 : c6.2.1.arrInsert X 1 (pl 2) c6.2.2 = .ok c7 := runW checksA.2.2.2.1.1
theorem runA8 : c6.2.1.arrRemove X 0 c6.2.2 = .ok c8 := runE checksA.2.2.2.1.2.1
theorem runA9 : c6.2.1.arrSet X 0 (pl 9) c6.2.2 = .ok c9 := runSet checksA.2.2.2.1.2.2.1
theorem runA10 : c6.2.1.setType X 5 c6.2.2 = .ok c10 := eq_okW _ checksA.2.2.2.1.2.2.2.1
theorem runA11 : c6.2.1.arrInsert Y 0 (.child X 0) c6.2.2 = .ok c11 := runW checksA.2.2.2.1.2.2.2.2

/-- `X` holds plain values only: it is nobody's ancestor but its own -/
theorem not_anc_X_Y : ¬ Anc c6.2.1 X Y := Atree.OkScenario.not_anc_of_plain (by decide) checksA.2.2.2.2

/-! ### Run B: map parent; the child removed (B1) or overwritten by another container (B2)

Root map `P`; array `X` stored under the key `K1` and given one value through its handle (it is
INLINED in `P`).  B1: `OrderedMap.Remove P K1`, then `Array.Insert X 1 …` through the handle of the
detached `X` (its stale closure reads `K1`: key not found).  B2: `OrderedMap.Set P K1 Y` overwrites
`X` by the array `Y`, then the same mutation of `X` (its closure reads `K1`: another container). -/

/-- kernel-evaluable `mapRemove` -/
def mapRemoveS (w : World) (p : SlabID) (k : MKey) (cx : Ctx) : Except WErr (MKey × Elem × World × Ctx) :=
  match w.cont? p with
  | some (.map m) =>
    match m.remove w.mcfg k cx with
    | .error er => .error (.map er)
    | .ok (rk, rv, m', cx) => do
      let w := w.setCont p (.map m')
      let (w, cx) ← notifyS w.fuelOf w p cx
      let (rv', _, w, cx) ← w.uninlineIfNeeded rv cx
      return (rk, rv', w, cx)
  | _ => .error .unknownContainer

theorem mapRemove_eq_S : mapRemove = mapRemoveS := by
  funext w p k cx
  unfold mapRemove mapRemoveS
  simp only [notifyParent_eq_notifyS]
  rfl

def okR (r : Except WErr (MKey × Elem × World × Ctx)) : MKey × Elem × World × Ctx :=
  match r with | .ok x => x | .error _ => (default, default, w0, cx0)

theorem eq_okR (r : Except WErr (MKey × Elem × World × Ctx)) (h : r.toBool = true) : r = .ok (okR r) :=
  Scenario.eq_ok_of (fun _ => rfl) r h

open Atree.OkScenario (mapSetS mapSet_eq_S okM eq_okM K1 keyOk_K1)

def P : SlabID := ⟨1, 1⟩

def d1 : SlabID × World × Ctx := w0.newMap 7 5 cx0
def d2 : SlabID × World × Ctx := d1.2.1.newArr 8 d1.2.2
def d3 : SlabID × World × Ctx := d2.2.1.newArr 9 d2.2.2
/-- `X` stored under `K1` in `P` -/
def d4 : Option Elem × World × Ctx := okM (mapSetS d3.2.1 P K1 (.child X 0) d3.2.2)
/-- one value through the handle of `X` (inlined in `P`) -/
def d5 : World × Ctx := okW (d4.2.1.arrInsertS X 0 (pl 1) d4.2.2)
/-- B1: `X` removed from `P` -/
def d6 : MKey × Elem × World × Ctx := okR (mapRemoveS d5.1 P K1 d5.2)
/-- B1: the detached `X` mutated through its handle -/
def d7 : World × Ctx := okW (d6.2.2.1.arrInsertS X 1 (pl 2) d6.2.2.2)
def midB1 : World × Ctx := preInsert d6.2.2.1 X 1 ⟨20, .val 2⟩ d6.2.2.2
/-- B2: `X` overwritten by `Y` under `K1` -/
def e6 : Option Elem × World × Ctx := okM (mapSetS d5.1 P K1 (.child Y 0) d5.2)
/-- B2: the detached `X` mutated through its handle -/
def e7 : World × Ctx := okW (e6.2.1.arrInsertS X 1 (pl 2) e6.2.2)
def midB2 : World × Ctx := preInsert e6.2.1 X 1 ⟨20, .val 2⟩ e6.2.2

deriving instance DecidableEq for Except

/-- the map a container is, or an empty one -/
def mapOf (w : World) (v : SlabID) : OMap 3 :=
  match w.cont? v with
  | some (.map m) => m
  | _ => (OMap.new 0 0 (fun _ => 0) cx0 : OMap 3 × Ctx).1

theorem idsB : d1.1 = P ∧ d2.1 = X ∧ d3.1 = Y := by decide

/-- a successful evaluated `mapRemove` is a step of the model -/
theorem runRm {w : World} {p : SlabID} {k : MKey} {cx : Ctx} (h : (mapRemoveS w p k cx).toBool = true) :
    w.mapRemove p k cx = .ok (okR (mapRemoveS w p k cx)) := by
  rw [mapRemove_eq_S]; exact eq_okR _ h

/-- run B, evaluated once -/
theorem checksB :
    (unrefB d3.2.1 P = true ∧ d3.2.1.T = 256 ∧ (mapSetS d3.2.1 P K1 (.child X 0) d3.2.2).toBool = true ∧
      childB d3.2.1 P (maxInlineMapValue d3.2.1.T K1.size) X 0 = true) ∧
    ((d4.2.1.arrInsertS X 0 (pl 1) d4.2.2).toBool = true ∧ d4.2.1.T = 256) ∧
    (unrefB d5.1 P = true ∧ d5.1.T = 256 ∧ childB d5.1 P (maxInlineMapValue d5.1.T K1.size) Y 0 = true) ∧
    ((mapRemoveS d5.1 P K1 d5.2).toBool = true ∧ (d6.2.2.1.arrInsertS X 1 (pl 2) d6.2.2.2).toBool = true) ∧
    (mapSetS d5.1 P K1 (.child Y 0) d5.2).toBool = true ∧ (e6.2.1.arrInsertS X 1 (pl 2) e6.2.2).toBool = true := by
  decide +kernel

theorem okB3 : WorldOk' D d3.2.1 d3.2.2.ctr :=
  (C10W.worldOk'_newArr D _ 9 _ (C10W.worldOk'_newArr D _ 8 _ (C10W.worldOk'_newMap D w0 7 5 cx0 okA0).1).1).1

theorem runB4 : d3.2.1.mapSet P K1 (.child X 0) d3.2.2 = .ok d4 := runM checksB.1.2.2.1

theorem okB4 : WorldOk' D d4.2.1 d4.2.2.ctr ∧ HandleOk d4.2.1 X :=
  have c := checksB.1
  have g := C10W.worldOk'_mapSet D _ P K1 _ _ _ _ _ okB3 (.root _ (unrefB_sound c.1)) (keyOk_K1_at P c.2.1)
    (wvalOk_child c.2.2.2) (ok_triple runB4)
  ⟨g.1, mapSetAt_handle g.2.2.1⟩

theorem runB5 : d4.2.1.arrInsert X 0 (pl 1) d4.2.2 = .ok d5 := runW checksB.2.1.1

theorem okB5 : WorldOk' D d5.1 d5.2.ctr :=
  (C10W.worldOk'_arrInsert D _ X 0 _ _ _ _ okB4.1 okB4.2 (plOkAt _ X checksB.2.1.2 1) (ok_pair runB5)).1

/-- the handle of the root `P` is current -/
theorem handleP5 : HandleOk d5.1 P := .root _ (unrefB_sound checksB.2.2.1.1)

theorem keyP5 : KeyOk d5.1.T 4 (D P) K1 := keyOk_K1_at P checksB.2.2.1.2.1

/-- B1: the removal is a successful run of the MODEL operation -/
theorem runB6 : d5.1.mapRemove P K1 d5.2 = .ok d6 := runRm checksB.2.2.2.1.1

theorem runB7 : d6.2.2.1.arrInsert X 1 (pl 2) d6.2.2.2 = .ok d7 := runW checksB.2.2.2.1.2

/-- B2: `Y` may be stored into `P` under `K1` -/
theorem valYP5 : WValOk d5.1 P (maxInlineMapValue d5.1.T K1.size) (.child Y 0) :=
  wvalOk_child checksB.2.2.1.2.2

/-- B2: the overwrite is a successful run of the MODEL operation -/
theorem runE6 : d5.1.mapSet P K1 (.child Y 0) d5.2 = .ok e6 := runM checksB.2.2.2.2.1

theorem runE7 : e6.2.1.arrInsert X 1 (pl 2) e6.2.2 = .ok e7 := runW checksB.2.2.2.2.2

/-! ### Run C: a detached MAP root

Root array `R`; map `M` inserted in slot 0 and given one entry through its handle (INLINED in `R`);
`Array.Remove R 0` detaches `M` (its closure keeps naming `R`).  Then, through the handle of the
detached `M`: `OrderedMap.Set M K1 …` (overwrite of the plain value) or `OrderedMap.Remove M K1`. -/

def M : SlabID := ⟨1, 2⟩

def g1 : SlabID × World × Ctx := w0.newArr 7 cx0
def g2 : SlabID × World × Ctx := g1.2.1.newMap 8 5 g1.2.2
def g3 : World × Ctx := okW (g2.2.1.arrInsertS R 0 (.child M 0) g2.2.2)
def g4 : Option Elem × World × Ctx := okM (mapSetS g3.1 M K1 (pl 1) g3.2)
/-- `M` removed from `R` -/
def g5 : Elem × World × Ctx := okE (g4.2.1.arrRemoveS R 0 g4.2.2)
/-- through the handle of the detached `M` -/
def g6 : Option Elem × World × Ctx := okM (mapSetS g5.2.1 M K1 (pl 2) g5.2.2)
def g7 : MKey × Elem × World × Ctx := okR (mapRemoveS g5.2.1 M K1 g5.2.2)

theorem idsC : g1.1 = R ∧ g2.1 = M := by decide

/-- run C, evaluated once -/
theorem checksC :
    (unrefB g2.2.1 R = true ∧ (g2.2.1.arrInsertS R 0 (.child M 0) g2.2.2).toBool = true ∧
      childB g2.2.1 R (maxInlineArr g2.2.1.T) M 0 = true) ∧
    ((mapSetS g3.1 M K1 (pl 1) g3.2).toBool = true ∧ g3.1.T = 256) ∧
    (unrefB g4.2.1 R = true ∧ (g4.2.1.arrRemoveS R 0 g4.2.2).toBool = true) ∧
    (mapSetS g5.2.1 M K1 (pl 2) g5.2.2).toBool = true ∧ (mapRemoveS g5.2.1 M K1 g5.2.2).toBool = true := by
  decide +kernel

theorem okC2 : WorldOk' D g2.2.1 g2.2.2.ctr :=
  (C10W.worldOk'_newMap D _ 8 5 _ (C10W.worldOk'_newArr D w0 7 cx0 okA0).1).1

theorem runC3 : g2.2.1.arrInsert R 0 (.child M 0) g2.2.2 = .ok g3 := runW checksC.1.2.1

theorem okC3 : WorldOk' D g3.1 g3.2.ctr ∧ HandleOk g3.1 M :=
  have c := checksC.1
  have g := C10W.worldOk'_arrInsert D _ R 0 _ _ _ _ okC2 (.root _ (unrefB_sound c.1)) (wvalOk_child c.2.2)
    (ok_pair runC3)
  ⟨g.1, insertedAt_handle g.2.2.1⟩

theorem runC4 : g3.1.mapSet M K1 (pl 1) g3.2 = .ok g4 := runM checksC.2.1.1

theorem okC4 : WorldOk' D g4.2.1 g4.2.2.ctr :=
  have hT := checksC.2.1.2
  (C10W.worldOk'_mapSet D _ M K1 _ _ _ _ _ okC3.1 okC3.2 (keyOk_K1_at M hT) (plOkMap _ M hT 1) (ok_triple runC4)).1

theorem runC5 : g4.2.1.arrRemove R 0 g4.2.2 = .ok g5 := runE checksC.2.2.1.2

theorem handleR4 : HandleOk g4.2.1 R := .root _ (unrefB_sound checksC.2.2.1.1)

theorem runC6 : g5.2.1.mapSet M K1 (pl 2) g5.2.2 = .ok g6 := runM checksC.2.2.2.1
theorem runC7 : g5.2.1.mapRemove M K1 g5.2.2 = .ok g7 := runRm checksC.2.2.2.2

end Atree.C11Scenario

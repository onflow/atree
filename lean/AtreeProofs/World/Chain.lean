import AtreeProofs.World.Basic
/-
  The callback chain (`notifyParentIfNeeded` → `Array.set` / `OrderedMap.set` → `notifyParentIfNeeded` …)
  with ONE link for array and map parents.  A child sits in a SLOT of its parent: an array index or a map
  key (`Slot`; `install` is `setCallbackWithChild` for a slot).  `SetRaw` is `arrSetRaw` / `mapSetRaw` in slot
  form (the value takes its form, the slot is overwritten by the core `set`, the parent's parent is
  notified, the closure is installed); a successful notification
  does nothing, or drops a closure that finds nothing (`ClosureLost`: the five reasons of the code, still
  told apart by the kind of the parent, because the iff needs each of them), or is one `SetRaw` of the slot
  the closure finds (`SlotFinds`): `notifyParent_succ_iff`, read off the definition.  `notify_induction` is
  the induction along a GIVEN successful chain; the proofs that have to build a run (totality, the
  simulations) use `notifyParent_succ_iff` directly.
-/
namespace Atree
open Gen

/-- the limit of a map value is within the limit of an array element -/
theorem maxInlineMapValue_le_arr (T ks : Nat) : maxInlineMapValue T ks ≤ maxInlineArr T :=
  Nat.le_trans (Nat.sub_le _ _) <| Nat.le_trans (Nat.sub_le _ _) <| Nat.le_trans (Nat.sub_le _ _) <|
    Nat.div_le_div_right (by
      show T - mapDataSlabPrefixSize - hkeyElementsPrefixSize ≤ T - arrayDataSlabPrefixSize
      rw [Nat.sub_sub]
      exact Nat.sub_le_sub_left (by decide) T)

namespace World

/-- the slot of a parent: an array index or a map key -/
inductive Slot where
  | idx (i : Nat)
  | key (k : MKey)

/-- the inline budget of the slot -/
def Slot.lim (T : Nat) : Slot → Nat
  | .idx _ => maxInlineArr T
  | .key k => maxInlineMapValue T k.size

theorem Slot.lim_le (T : Nat) (s : Slot) : s.lim T ≤ maxInlineArr T := by
  cases s
  · exact Nat.le_refl _
  · exact maxInlineMapValue_le_arr _ _

/-- the key of a map slot -/
def Slot.key? : Slot → Option MKey
  | .idx _ => none
  | .key k => some k

/-- `setCallbackWithChild` for the slot -/
def install (w : World) (q : SlabID) (s : Slot) (v : WVal) : World :=
  match s with
  | .idx i => w.setCallbackArr q i v
  | .key k => w.setCallbackMap q k v

@[simp] theorem cont?_install (w : World) (q : SlabID) (s : Slot) (v : WVal) (y : SlabID) :
    (w.install q s v).cont? y = w.cont? y := by
  cases s <;> simp [install]

@[simp] theorem T_install (w : World) (q : SlabID) (s : Slot) (v : WVal) : (w.install q s v).T = w.T := by
  cases s <;> simp [install]

@[simp] theorem addr_install (w : World) (q : SlabID) (s : Slot) (v : WVal) : (w.install q s v).addr = w.addr := by
  cases s <;> cases v <;> rfl

/-- the closure installed for a child container -/
theorem hinfo_install (w : World) (q : SlabID) (s : Slot) (y : SlabID) (wr : Nat) (z : SlabID) :
    AList.find? (w.install q s (.child y wr)).hinfo z =
      if y = z then some ⟨q, s.key?, s.lim w.T - 2 * wr, wr⟩ else AList.find? w.hinfo z := by
  cases s with
  | idx i => exact hinfo_setCallbackArr _ _ _ _ _ _
  | key k => exact hinfo_setCallbackMap _ _ _ _ _ _

theorem hinfo_install_ne (w : World) (q : SlabID) (s : Slot) (v : WVal) (z : SlabID)
    (h : ∀ wr, v ≠ .child z wr) : AList.find? (w.install q s v).hinfo z = AList.find? w.hinfo z := by
  cases s with
  | idx i => exact hinfo_setCallbackArr_ne _ _ _ _ _ h
  | key k => exact hinfo_setCallbackMap_ne _ _ _ _ _ h

/-- the index entry recorded for a child stored at an array index; none for a map key -/
theorem idxOf_install (w : World) (q : SlabID) (s : Slot) (y : SlabID) (wr : Nat) (r z : SlabID) :
    AList.find? ((w.install q s (.child y wr)).idxOf r) z =
      match s with
      | .idx i => if q = r ∧ y = z then some i else AList.find? (w.idxOf r) z
      | .key _ => AList.find? (w.idxOf r) z := by
  cases s with
  | idx i => exact idxOf_setCallbackArr _ _ _ _ _ _ _
  | key k => simp [install, World.idxOf]

theorem idxOf_install_ne (w : World) (q : SlabID) (s : Slot) (v : WVal) {r : SlabID} (hr : r ≠ q) (z : SlabID) :
    AList.find? ((w.install q s v).idxOf r) z = AList.find? (w.idxOf r) z := by
  cases s with
  | idx i => exact idxOf_setCallbackArr_ne _ _ _ _ hr _
  | key k => simp [install, World.idxOf]

/-- the slot the closure `hi` of `y` names (arrays: through `mutableElementIndex`) -/
def SlotOf (w : World) (y : SlabID) (hi : HInfo) : Cont → Slot → Prop
  | .arr _, .idx i => AList.find? (w.idxOf hi.parent) y = some i
  | .map _, .key k => hi.key = some k
  | _, _ => False

/-- `Get` of the slot -/
def SlotGet (w : World) : Cont → Slot → Elem → Prop
  | .arr a, .idx i, el => a.get i = .ok el
  | .map m, .key k, el => ∃ k', m.get w.mcfg k = .ok (k', el)
  | _, _, _ => False

/-- the core `set` of the slot: `Arr.set` (always hands back the old element) or `OMap.set` -/
def SlotSet (w : World) : Cont → Slot → Elem → Ctx → Option Elem → Cont → Ctx → Prop
  | .arr a, .idx i, e, cx, old, .arr a', cx' => i < a.count ∧ ∃ o, old = some o ∧ a.set w.T i e cx = .ok (o, a', cx')
  | .map m, .key k, e, cx, old, .map m', cx' => m.set w.mcfg k e cx = .ok (old, m', cx')
  | _, _, _, _, _, _, _ => False

/-- only `T`, `addr` of the world matter to the core `set` -/
theorem SlotSet.congr {w w' : World} (hT : w'.T = w.T) (ha : w'.addr = w.addr) {qc qc' : Cont} {s : Slot}
    {e : Elem} {old : Option Elem} {cx cx' : Ctx} (h : SlotSet w qc s e cx old qc' cx') :
    SlotSet w' qc s e cx old qc' cx' := by
  cases qc <;> cases s <;> cases qc' <;> first | exact h.elim | skip
  · simpa only [SlotSet, hT] using h
  · simpa only [SlotSet, mcfg_congr hT ha] using h

/-- `arrSetRaw` / `mapSetRaw` in slot form -/
def SetRaw (fuel : Nat) (w : World) (p : SlabID) (s : Slot) (v : WVal) (cx : Ctx) (old : Option Elem) (w' : World)
    (cx' : Ctx) : Prop :=
  ∃ qc e w1 cx1 qc' cx2 w3, w.cont? p = some qc ∧ w.storableOf v (s.lim w.T) cx = .ok (e, w1, cx1) ∧
    SlotSet w1 qc s e cx1 old qc' cx2 ∧ notifyParent fuel (w1.setCont p qc') p cx2 = .ok (w3, cx') ∧
    w' = install w3 p s v

theorem arrSetRaw_iff_setRaw {fuel : Nat} {w : World} {p : SlabID} {i : Nat} {v : WVal} {cx : Ctx} {old : Elem}
    {w' : World} {cx' : Ctx} :
    arrSetRaw fuel w p i v cx = .ok (old, w', cx') ↔ SetRaw fuel w p (.idx i) v cx (some old) w' cx' := by
  rw [arrSetRaw_ok_iff]
  constructor
  · rintro ⟨a, e, w1, cx1, a', cx2, w3, hp, hi, hst, hs, hn, rfl⟩
    exact ⟨.arr a, e, w1, cx1, .arr a', cx2, w3, hp, hst, ⟨hi, old, rfl, hs⟩, hn, rfl⟩
  · rintro ⟨qc, e, w1, cx1, qc', cx2, w3, hp, hst, hs, hn, rfl⟩
    cases qc <;> cases qc' <;> first | exact hs.elim | skip
    obtain ⟨hi, o, ho, hs⟩ := hs
    cases ho
    exact ⟨_, e, w1, cx1, _, cx2, w3, hp, hi, hst, hs, hn, rfl⟩

theorem mapSetRaw_iff_setRaw {fuel : Nat} {w : World} {p : SlabID} {k : MKey} {v : WVal} {cx : Ctx}
    {old : Option Elem} {w' : World} {cx' : Ctx} :
    mapSetRaw fuel w p k v cx = .ok (old, w', cx') ↔ SetRaw fuel w p (.key k) v cx old w' cx' := by
  rw [mapSetRaw_ok_iff]
  constructor
  · rintro ⟨m, e, w1, cx1, m', cx2, w3, hp, hst, hs, hn, rfl⟩
    exact ⟨.map m, e, w1, cx1, .map m', cx2, w3, hp, hst, hs, hn, rfl⟩
  · rintro ⟨qc, e, w1, cx1, qc', cx2, w3, hp, hst, hs, hn, rfl⟩
    cases qc <;> cases qc' <;> first | exact hs.elim | skip
    exact ⟨_, e, w1, cx1, _, cx2, w3, hp, hst, hs, hn, rfl⟩

/-- the closure `hi` of `y` finds `y`'s element `el` in slot `s` of the parent `qc` -/
structure SlotFinds (w : World) (y : SlabID) (hi : HInfo) (qc : Cont) (s : Slot) (el : Elem) : Prop where
  parent : w.cont? hi.parent = some qc
  slot : SlotOf w y hi qc s
  get : SlotGet w qc s el
  pay : el.pay = .ref y

/-- the closure `hi` of `y` finds nothing: the parent is gone; the index is not recorded, or the array slot
    holds something else; the key is absent, or the map slot holds something else -/
def ClosureLost (w : World) (y : SlabID) (hi : HInfo) : Prop :=
  w.cont? hi.parent = none ∨
  (∃ pa, w.cont? hi.parent = some (.arr pa) ∧ AList.find? (w.idxOf hi.parent) y = none) ∨
  (∃ pa idx el, w.cont? hi.parent = some (.arr pa) ∧ AList.find? (w.idxOf hi.parent) y = some idx ∧
    pa.get idx = .ok el ∧ el.pay ≠ .ref y) ∨
  (∃ pm k, w.cont? hi.parent = some (.map pm) ∧ hi.key = some k ∧ pm.get w.mcfg k = .error .keyNotFound) ∨
  (∃ pm k k' el, w.cont? hi.parent = some (.map pm) ∧ hi.key = some k ∧
    pm.get w.mcfg k = .ok (k', el) ∧ el.pay ≠ .ref y)

theorem ClosureLost.not_finds {w : World} {y : SlabID} {hi : HInfo} (h : ClosureLost w y hi) (qc : Cont) (s : Slot)
    (el : Elem) : ¬ SlotFinds w y hi qc s el := by
  rintro ⟨hq, hso, hget, hel⟩
  rcases h with hp | ⟨pa, hp, hidx⟩ | ⟨pa, idx, el', hp, hidx, hg, hne⟩ | ⟨pm, k, hp, hk, hg⟩ |
      ⟨pm, k, k', el', hp, hk, hg, hne⟩ <;>
    rw [hq] at hp <;> cases hp <;> cases s <;> first | exact hso.elim | skip
  · exact absurd (hidx.symm.trans hso) (by simp)
  · cases hidx.symm.trans hso
    cases hg.symm.trans hget
    exact hne hel
  · cases hk.symm.trans hso
    obtain ⟨k', hget⟩ := hget
    cases hg.symm.trans hget
  · cases hk.symm.trans hso
    obtain ⟨k'', hget⟩ := hget
    cases hg.symm.trans hget
    exact hne hel

/-- `SlotFinds` reads the table of containers, the index tables and `mcfg` only -/
theorem SlotFinds.congr {w w' : World} (hc : ∀ z, w'.cont? z = w.cont? z) (hx : ∀ q, w'.idxOf q = w.idxOf q)
    (hm : w'.mcfg = w.mcfg) {y : SlabID} {hi : HInfo} {qc : Cont} {s : Slot} {el : Elem}
    (h : SlotFinds w y hi qc s el) : SlotFinds w' y hi qc s el := by
  obtain ⟨h1, h2, h3, h4⟩ := h
  refine ⟨(hc _).trans h1, ?_, ?_, h4⟩ <;> cases qc <;> cases s <;>
    first | exact h2.elim | simpa only [SlotOf, SlotGet, hx, hm] using ‹_›

/-- so does `ClosureLost` -/
theorem ClosureLost.congr {w w' : World} (hc : ∀ z, w'.cont? z = w.cont? z) (hx : ∀ q, w'.idxOf q = w.idxOf q)
    (hm : w'.mcfg = w.mcfg) {y : SlabID} {hi : HInfo} (h : ClosureLost w y hi) : ClosureLost w' y hi := by
  simpa only [ClosureLost, hc, hx, hm] using h

/-- A successful notification of `y` with fuel left, in slot form. -/
theorem notifyParent_succ_iff {fuel : Nat} {w : World} {y : SlabID} {cx : Ctx} {w' : World} {cx' : Ctx} :
    notifyParent (fuel + 1) w y cx = .ok (w', cx') ↔
    (AList.find? w.hinfo y = none ∧ w' = w ∧ cx' = cx) ∨
    ∃ hi c, AList.find? w.hinfo y = some hi ∧ w.cont? y = some c ∧
      (((c.isInlined = false ∧ c.inlinable hi.maxInline = false) ∧ w' = w ∧ cx' = cx) ∨
       ¬ (c.isInlined = false ∧ c.inlinable hi.maxInline = false) ∧
        ((w' = { w with hinfo := AList.erase w.hinfo y } ∧ cx' = cx ∧ ClosureLost w y hi) ∨
         ∃ qc s el old, SlotFinds w y hi qc s el ∧
           SetRaw fuel w hi.parent s (.child y hi.wrap) cx (some old) w' cx' ∧ old.pay = .ref y)) := by
  constructor
  · intro h
    rw [notifyParent] at h
    revert h
    cases hh : AList.find? w.hinfo y with
    | none => intro h; cases h; exact .inl ⟨rfl, rfl, rfl⟩
    | some hi =>
    cases hc : w.cont? y with
    | none => intro h; cases h
    | some c =>
    intro h
    simp only at h
    refine .inr ⟨hi, c, rfl, rfl, ?_⟩
    by_cases hs : (!c.isInlined && !c.inlinable hi.maxInline) = true
    · rw [if_pos hs] at h; cases h
      exact .inl ⟨by simpa using hs, rfl, rfl⟩
    rw [if_neg hs] at h
    refine .inr ⟨by simpa using hs, ?_⟩
    revert h
    cases hpc : w.cont? hi.parent with
    | none => intro h; cases h; exact .inl ⟨rfl, rfl, .inl hpc⟩
    | some pc =>
    cases pc with
    | arr pa =>
      intro h; simp only at h; revert h
      cases hidx : AList.find? (w.idxOf hi.parent) y with
      | none => intro h; cases h; exact .inl ⟨rfl, rfl, .inr (.inl ⟨pa, hpc, hidx⟩)⟩
      | some idx =>
      intro h; simp only at h; revert h
      cases hget : pa.get idx with
      | error e => intro h; cases h
      | ok el =>
      intro h
      simp only at h
      by_cases hpay : el.pay = .ref y
      · rw [if_neg (not_not_intro hpay)] at h
        revert h
        cases hsr : arrSetRaw fuel w hi.parent idx (.child y hi.wrap) cx with
        | error e => intro h; cases h
        | ok r =>
        obtain ⟨old, w2, cx2⟩ := r
        intro h
        simp only at h
        by_cases hold : old.pay = .ref y
        · rw [if_neg (not_not_intro hold)] at h; cases h
          exact .inr ⟨.arr pa, .idx idx, el, old, ⟨hpc, hidx, hget, hpay⟩, arrSetRaw_iff_setRaw.mp hsr, hold⟩
        · rw [if_pos hold] at h; cases h
      · rw [if_pos hpay] at h; cases h
        exact .inl ⟨rfl, rfl, .inr (.inr (.inl ⟨pa, idx, el, hpc, hidx, hget, hpay⟩))⟩
    | map pm =>
      intro h; simp only at h; revert h
      cases hk : hi.key with
      | none => intro h; cases h
      | some k =>
      intro h; simp only at h; revert h
      cases hget : pm.get w.mcfg k with
      | error e =>
        cases e with
        | keyNotFound =>
          intro h; cases h
          exact .inl ⟨rfl, rfl, .inr (.inr (.inr (.inl ⟨pm, k, hpc, hk, hget⟩)))⟩
        | _ => intro h; cases h
      | ok r =>
      obtain ⟨k', el⟩ := r
      intro h
      simp only at h
      by_cases hpay : el.pay = .ref y
      · rw [if_neg (not_not_intro hpay)] at h
        revert h
        cases hsr : mapSetRaw fuel w hi.parent k (.child y hi.wrap) cx with
        | error e => intro h; cases h
        | ok r =>
        obtain ⟨old, w2, cx2⟩ := r
        cases old with
        | none => intro h; cases h
        | some o =>
        intro h
        simp only at h
        by_cases hold : o.pay = .ref y
        · rw [if_neg (not_not_intro hold)] at h; cases h
          exact .inr ⟨.map pm, .key k, el, o, ⟨hpc, hk, ⟨k', hget⟩, hpay⟩, mapSetRaw_iff_setRaw.mp hsr, hold⟩
        · rw [if_pos hold] at h; cases h
      · rw [if_pos hpay] at h; cases h
        exact .inl ⟨rfl, rfl, .inr (.inr (.inr (.inr ⟨pm, k, k', el, hpc, hk, hget, hpay⟩)))⟩
  · rw [notifyParent]
    rintro (⟨hh, rfl, rfl⟩ | ⟨hi, c, hh, hc, hcase⟩)
    · simp only [hh]
    simp only [hh, hc]
    rcases hcase with ⟨hs, rfl, rfl⟩ | ⟨hs, hcase⟩
    · rw [if_pos (by simp only [hs.1, hs.2]; rfl)]
    rw [if_neg (by simpa using hs)]
    rcases hcase with ⟨rfl, rfl, hp | ⟨pa, hp, hidx⟩ | ⟨pa, idx, el, hp, hidx, hget, hel⟩ | ⟨pm, k, hp, hk, hget⟩ |
      ⟨pm, k, k', el, hp, hk, hget, hel⟩⟩ | ⟨qc, s, el, old, ⟨hp, hso, hget, hel⟩, hsr, hold⟩
    · simp only [hp]
    · simp only [hp, hidx]
    · simp only [hp, hidx, hget, if_pos hel]
    · simp only [hp, hk, hget]
    · simp only [hp, hk, hget, if_pos hel]
    · cases qc <;> cases s <;> first | exact hso.elim | skip
      · simp only [hp, show AList.find? (w.idxOf hi.parent) y = some _ from hso, show Arr.get _ _ = _ from hget,
          arrSetRaw_iff_setRaw.mpr hsr, if_neg (not_not_intro hel), if_neg (not_not_intro hold)]
      · obtain ⟨k', hget⟩ := hget
        simp only [hp, show hi.key = some _ from hso, hget, mapSetRaw_iff_setRaw.mpr hsr,
          if_neg (not_not_intro hel), if_neg (not_not_intro hold)]

/-- Induction along a successful notification: `y` has no closure; `y` stays a separate slab; the closure
    finds nothing and is dropped; or one link — the child takes the form the slot's budget asks for, the
    slot is overwritten, the parent's own notification (induction hypothesis), the closure is installed. -/
theorem notify_induction {M : World → SlabID → Ctx → World → Ctx → Prop}
    (noClosure : ∀ {w y} cx, AList.find? w.hinfo y = none → M w y cx w cx)
    (separate : ∀ {w y hi c} cx, AList.find? w.hinfo y = some hi → w.cont? y = some c →
      c.isInlined = false → c.inlinable hi.maxInline = false → M w y cx w cx)
    (lost : ∀ {w y hi c} cx, AList.find? w.hinfo y = some hi → w.cont? y = some c → ClosureLost w y hi →
      M w y cx { w with hinfo := AList.erase w.hinfo y } cx)
    (link : ∀ {w y cx hi c qc s el e w1 cx1 old qc' cx2 w3 cx3},
      AList.find? w.hinfo y = some hi → w.cont? y = some c →
      ¬ (c.isInlined = false ∧ c.inlinable hi.maxInline = false) → SlotFinds w y hi qc s el →
      w.childStorable y hi.wrap (s.lim w.T) cx = .ok (e, w1, cx1) →
      SlotSet w1 qc s e cx1 (some old) qc' cx2 → old.pay = .ref y →
      (∃ fuel, notifyParent fuel (w1.setCont hi.parent qc') hi.parent cx2 = .ok (w3, cx3)) →
      M (w1.setCont hi.parent qc') hi.parent cx2 w3 cx3 →
      M w y cx (install w3 hi.parent s (.child y hi.wrap)) cx3) :
    ∀ (fuel : Nat) {w : World} {y : SlabID} {cx : Ctx} {w' : World} {cx' : Ctx},
      notifyParent fuel w y cx = .ok (w', cx') → M w y cx w' cx' := by
  intro fuel
  induction fuel with
  | zero => intro w y cx w' cx' h; rw [notifyParent_zero] at h; cases h
  | succ fuel ih =>
    intro w y cx w' cx' h
    rcases notifyParent_succ_iff.mp h with ⟨hh, rfl, rfl⟩ | ⟨hi, c, hh, hc, ⟨hs, rfl, rfl⟩ | ⟨hs, ⟨rfl, rfl, hl⟩ |
      ⟨qc, s, el, old, hf, ⟨qc0, e, w1, cx1, qc', cx2, w3, hq, hst, hset, hnp, rfl⟩, hold⟩⟩⟩
    · exact noClosure _ hh
    · exact separate _ hh hc hs.1 hs.2
    · exact lost _ hh hc hl
    · cases hf.parent.symm.trans hq
      exact link hh hc hs hf hst hset hold ⟨fuel, hnp⟩ (ih hnp)

end World
end Atree

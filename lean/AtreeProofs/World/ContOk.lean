import AtreeProofs.World.ArrRef
import AtreeProofs.World.MapRefW
/-
  `ContOk` (structural validity of one container, in either form): monotone in the allocation
  counter, kept by the inline / un-inline transitions of `Cont.inline` / `Cont.uninline`.
-/
namespace Atree
open Gen

variable {T : Nat} {D : DigestFn 4}

theorem ContOk.mono {c : Cont} {ctr ctr' : Nat} (h : ContOk T D ctr c) (hc : ctr ≤ ctr') : ContOk T D ctr' c := by
  cases c with
  | arr a => exact ArrOk.mono (T := T) h hc
  | map m => exact MapOk.mono (T := T) (D := D) h hc

theorem ContOk.vid_le {c : Cont} {ctr : Nat} (h : ContOk T D ctr c) : c.vid.idx ≤ ctr := by
  cases c with
  | arr a => exact (ArrOk.rootID_ok (T := T) h).2
  | map m => exact MapOk.rootID_le (T := T) (D := D) h

/-- the slab `Cont.inline` builds -/
def inlineMSlab {r : Nat} (s : MDataSlab r) : MDataSlab r :=
  { s with inlined := true, hdr := { s.hdr with size := inlinedMapDataSlabPrefixSize + s.elems.size } }
/-- the slab `Cont.uninline` builds -/
def uninlineMSlab {r : Nat} (s : MDataSlab r) : MDataSlab r :=
  { s with inlined := false, hdr := { s.hdr with size := mapRootDataSlabPrefixSize + s.elems.size } }

theorem mapInv_inline {r : Nat} {D : DigestFn (r + 1)} {s : MDataSlab r} {ty cnt seed ctr : Nat}
    (h : MapInv T D ⟨0, s, ty, cnt, seed⟩) (hc : MapCtrOk (⟨0, s, ty, cnt, seed⟩ : OMap r) ctr) :
    MapInvInl T D ⟨0, inlineMSlab s, ty, cnt, seed⟩ ctr := by
  have hd : MDataInv T D true s := h.tree
  have hl := hd.loose
  have hl' : MDataLoose T D true (inlineMSlab s) := by
    refine ⟨hl.elems_inv, ?_, hl.first_eq, hl.root_eq, fun _ => rfl⟩
    show inlinedMapDataSlabPrefixSize + s.elems.size = (inlineMSlab s).prefixSize + s.elems.size
    simp [MDataSlab.prefixSize, inlineMSlab]
  refine MapInvInl.of_loose hl' rfl ?_ h.count_eq ?_
  · have : s.next = SlabID.undef := by
      have := h.chain
      simpa [MTree.leaves, MLeafChain] using this
    exact this
  · intro id hid ha
    exact hc id hid ha

theorem mapInvInl_uninline (hT : legalThreshold T = true) {r : Nat} {D : DigestFn (r + 1)} {s : MDataSlab r}
    {ty cnt seed ctr : Nat} (h : MapInvInl T D ⟨0, s, ty, cnt, seed⟩ ctr) (hband : s.hdr.size ≤ T) :
    MapInv T D ⟨0, uninlineMSlab s, ty, cnt, seed⟩ ∧ MapCtrOk (⟨0, uninlineMSlab s, ty, cnt, seed⟩ : OMap r) ctr := by
  obtain ⟨hl, hi2, hnext, hcnt, hids⟩ := MapInvInl.loose h
  have hsz := hl.size_eq
  have hpfx : s.prefixSize = inlinedMapDataSlabPrefixSize := by simp [MDataSlab.prefixSize, hi2]
  have hl' : MDataLoose T D true (uninlineMSlab s) := by
    refine ⟨hl.elems_inv, ?_, hl.first_eq, hl.root_eq, fun hh => by cases hh⟩
    show mapRootDataSlabPrefixSize + s.elems.size = (uninlineMSlab s).prefixSize + s.elems.size
    have : (uninlineMSlab s).root = true := hl.root_eq
    simp [MDataSlab.prefixSize, uninlineMSlab, hl.root_eq]
  have hd : MDataInv T D true (uninlineMSlab s) := by
    refine (mdataInv_iff hT true _).mpr ⟨hl', ?_, fun hh => by cases hh⟩
    show mapRootDataSlabPrefixSize + s.elems.size ≤ maxThr T
    rw [hsz, hpfx] at hband
    have := map_legal_bounds hT
    simp only [maxThr, mapRootDataSlabPrefixSize, inlinedMapDataSlabPrefixSize] at hband ⊢
    omega
  refine ⟨⟨hd, ?_, hcnt, hl'.distinct, rfl⟩, ?_⟩
  · show MLeafChain [uninlineMSlab s]
    exact hnext
  · intro id hid ha
    exact hids id hid ha

theorem contOk_inline {c c' : Cont} {id : SlabID} {cx cx' : Ctx} {ctr : Nat} (h : ContOk T D ctr c)
    (hi : c.inline id cx = .ok (c', cx')) : ContOk T D ctr c' := by
  unfold Cont.inline at hi
  split at hi
  · rename_i s ty
    split at hi
    · cases hi
    · rename_i hs
      cases hi
      have hni : (⟨0, s, ty⟩ : Arr).isInlined = false := by simpa [Arr.isInlined] using hs
      exact ArrOk.of_inl (arrInv_inline ((h : ArrOk T _ ctr).1 hni))
  · rename_i s ty cnt seed
    split at hi
    · cases hi
    · rename_i hs
      cases hi
      have hni : (⟨0, s, ty, cnt, seed⟩ : OMap 3).isInlined = false := by simpa [OMap.isInlined] using hs
      obtain ⟨h1, h2⟩ := (h : MapOk T D _ ctr).1 hni
      exact MapOk.of_inl (mapInv_inline h1 h2)
  · cases hi

theorem contOk_uninline (hT : legalThreshold T = true) {c c' : Cont} {id : SlabID} {cx cx' : Ctx} {ctr : Nat}
    (h : ContOk T D ctr c) (hband : c.rootSize ≤ T)
    (hi : c.uninline id cx = .ok (c', cx')) : ContOk T D ctr c' := by
  unfold Cont.uninline at hi
  split at hi
  · rename_i s ty
    split at hi
    · cases hi
    · rename_i hs
      cases hi
      have hni : (⟨0, s, ty⟩ : Arr).isInlined = true := by simpa [Arr.isInlined] using hs
      exact ArrOk.of_inv (arrInvInl_uninline hT ((h : ArrOk T _ ctr).2 hni) hband)
  · rename_i s ty cnt seed
    split at hi
    · cases hi
    · rename_i hs
      cases hi
      have hni : (⟨0, s, ty, cnt, seed⟩ : OMap 3).isInlined = true := by simpa [OMap.isInlined] using hs
      obtain ⟨h1, h2⟩ := mapInvInl_uninline hT ((h : MapOk T D _ ctr).2 hni) hband
      exact MapOk.of_inv h1 h2
  · cases hi

/-- `inlinable` of a valid container: one root slab whose inlined size fits -/
theorem ContOk.inlinable_inl {c : Cont} {ctr : Nat} (h : ContOk T D ctr c) (hi : c.isInlined = true) (lim : Nat) :
    c.inlinable lim = decide (c.rootSize ≤ lim) := by
  cases c with
  | arr a =>
    obtain ⟨s, ty, rfl, S⟩ := ((h : ArrOk T a ctr).2 hi).slab
    simp only [Cont.inlinable, Cont.rootSize, Arr.rootHdr, ATree.hdr, S.root, S.inlined, Bool.true_and, if_true]
    rfl
  | map m =>
    obtain ⟨s, ty, cnt, seed, rfl, h1, h2, _, _, h5, _⟩ := (h : MapOk T D m ctr).2 hi
    simp [Cont.inlinable, Cont.rootSize, OMap.rootHdr, MTree.hdr, h1, h5]

end Atree

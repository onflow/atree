import AtreeProofs.World.DeepPrep
import AtreeProofs.World.HeapMapInl
/-
  "`OMap.set` stores the holder" in the form the tracked induction needs.
  * `map_hold`      — standalone map: every slab of the new tree that locally holds a reference to
                      `y` was stored (there is one: `UniqueRef`);
  * `map_hold_inl`  — INLINED map (its root slab is embedded in the parent, but it may own external
                      collision-group slabs): every GROUP slab of the new map that locally holds a
                      reference to `y` was stored (`omapInl_set_holds`, by `MapHolder.mdata_set_val`).
-/
namespace Atree.Deep
open Gen World Codec
open MapHolder (StoredSince Ext HoldS)

variable {r : Nat}

theorem mem_treeSlabs_map {m : OMap 3} {id : SlabID} {s : WSlab} (h : (id, s) ∈ (Cont.map m).treeSlabs) :
    ∃ sv, (id, sv) ∈ MTree.slabs m.d m.root ∧ C10Persist.slabElems s = mslabVals sv := by
  simp only [Cont.treeSlabs, List.mem_map] at h
  obtain ⟨p, hp, heq⟩ := h
  simp only [Prod.mk.injEq] at heq
  obtain ⟨rfl, rfl⟩ := heq
  exact ⟨p.2, hp, slabElems_map _ _⟩

theorem map_holder_unique {m : OMap 3} {y : SlabID}
    (hperm : ((MTree.toList m.d m.root).map (·.2)).Perm ((MTree.slabs m.d m.root).flatMap (fun p => mslabVals p.2)))
    (huq : ∀ (i j : Nat) (e1 e2 : Elem), (m.toList.map (·.2))[i]? = some e1 → (m.toList.map (·.2))[j]? = some e2 →
      e1.pay = .ref y → e2.pay = .ref y → i = j)
    {id id0 : SlabID} {sv sv0 : MSlabView 3} (h : (id, sv) ∈ MTree.slabs m.d m.root)
    (h0 : (id0, sv0) ∈ MTree.slabs m.d m.root) {e1 e : Elem} (he1 : e1 ∈ mslabVals sv) (he : e ∈ mslabVals sv0)
    (hp1 : e1.pay = .ref y) (hp : e.pay = .ref y) : id = id0 := by
  apply Classical.byContradiction
  intro hne
  obtain ⟨i, j, hij, hi, hj⟩ := MapHolder.map_two_pos hperm h h0 hne he1 he
  exact hij (huq i j e1 e hi hj hp1 hp)

theorem map_hold {T : Nat} {Dm : DigestFn 4} {cfg : MCfg} {m m' : OMap 3} (hcfg : CfgOk cfg T m)
    (hinv : MapInv T Dm m) {k : MKey} {e : Elem} {y : SlabID} (hv2 : e.size ≤ maxInlineMapValue T k.size)
    (hpe : e.pay = .ref y) {c c' : Ctx} {old : Option Elem}
    (hs : m.set cfg k e c = .ok (old, m', c')) (hinv' : MapInv T Dm m')
    (huq : ∀ (i j : Nat) (e1 e2 : Elem), (m'.toList.map (·.2))[i]? = some e1 → (m'.toList.map (·.2))[j]? = some e2 →
      e1.pay = .ref y → e2.pay = .ref y → i = j) :
    ∀ id s, (id, s) ∈ (Cont.map m').treeSlabs → (∃ e1 ∈ C10Persist.slabElems s, e1.pay = .ref y) →
      StoredSince c c' id := by
  intro id s hm ⟨e1, he1, hp1⟩
  obtain ⟨id0, sv0, hm0, he0, hst⟩ := MapHolder.omap_set_holds hcfg hinv hv2 c hs
  obtain ⟨sv, hsv, hel⟩ := mem_treeSlabs_map hm
  rw [hel] at he1
  have hperm := mslab_vals_perm m'.d true m'.root hinv'.tree
  have : id = id0 := map_holder_unique hperm huq hsv hm0 he1 he0 hp1 hpe
  subst this
  exact hst

theorem omapInl_set_holds {cfg : MCfg} {T L : Nat} {DL : DigestFn L} (s : MDataSlab r) (ty cnt seed : Nat) {k : MKey}
    {v : Elem} {c c' : Ctx} {old : Option Elem} {m' : OMap r}
    (hinv : ElemsInv T L DL (r + 1) 0 [] s.elems) (hfit : v.size ≤ maxInlineMapValue cfg.T k.size)
    (h : OMap.set cfg (⟨0, s, ty, cnt, seed⟩ : OMap r) k v c = .ok (old, m', c')) (hinl' : m'.isInlined = true) :
    ∃ (s' : MDataSlab r) (cnt' : Nat), m' = ⟨0, s', ty, cnt', seed⟩ ∧
      (v ∈ C10Persist.localVals (r + 1) s'.elems ∨
       ∃ id g, (id, MSlabView.group g) ∈ s'.groupSlabs ∧ v ∈ C10Persist.localVals r g.elems ∧ StoredSince c c' id) := by
  obtain ⟨ks, t', c1, hset, hfix⟩ := OMap.set_ok_iff.mp h
  obtain ⟨rfl, rfl⟩ := OMap.rootFix_inl hfix hinl'
  exact ⟨t', _, rfl, (MapHolder.mdata_set_val s t' hinv hfit hset).imp_left And.left⟩

theorem map_hold_inl {T : Nat} {Dm : DigestFn 4} {cfg : MCfg} {m m' : OMap 3} {ctr ctr' : Nat} (hcfg : CfgOk cfg T m)
    (hinv : MapInvInl T Dm m ctr) {k : MKey} {e : Elem} {y : SlabID} (hv2 : e.size ≤ maxInlineMapValue T k.size)
    (hpe : e.pay = .ref y) {c c' : Ctx} {old : Option Elem}
    (hs : m.set cfg k e c = .ok (old, m', c')) (hinv' : MapInvInl T Dm m' ctr')
    (huq : ∀ (i j : Nat) (e1 e2 : Elem), (m'.toList.map (·.2))[i]? = some e1 → (m'.toList.map (·.2))[j]? = some e2 →
      e1.pay = .ref y → e2.pay = .ref y → i = j) :
    ∀ id s, (id, s) ∈ (Cont.map m').treeSlabs → id ≠ m'.rootID → (∃ e1 ∈ C10Persist.slabElems s, e1.pay = .ref y) →
      StoredSince c c' id := by
  intro id s hm hnr ⟨e1, he1, hp1⟩
  obtain ⟨s0, ty, cnt, seed, rfl, S0⟩ := hinv.slab
  have hfit : e.size ≤ maxInlineMapValue cfg.T k.size := by rw [hcfg.1]; exact hv2
  obtain ⟨s', cnt', rfl, hcase⟩ := omapInl_set_holds s0 ty cnt seed S0.elems_inv hfit hs hinv'.isInlined
  obtain ⟨s1, ty1, cnt1, seed1, heq, S1⟩ := hinv'.slab
  cases heq
  have hel1 := S1.elems_inv
  obtain ⟨sv, hsv, hel⟩ := mem_treeSlabs_map hm
  rw [hel] at he1
  have hperm := MapHolder.mvals_perm0 s' hel1
  have hroot : ((s'.hdr.id, MSlabView.data s') : SlabID × MSlabView 3) ∈ MTree.slabs 0 s' := by
    rw [mslabs_zero]; exact List.mem_cons_self
  rcases hcase with hloc | ⟨id0, g, hg, hvg, hst⟩
  · exfalso
    exact hnr (map_holder_unique (m := ⟨0, s', ty, cnt', seed⟩) hperm huq hsv hroot he1 hloc hp1 hpe)
  · have hg' : (id0, MSlabView.group g) ∈ MTree.slabs 0 s' := by
      rw [mslabs_zero]; exact List.mem_cons_of_mem _ hg
    have : id = id0 := map_holder_unique (m := ⟨0, s', ty, cnt', seed⟩) hperm huq hsv hg' he1 hvg hp1 hpe
    subst this
    exact hst

end Atree.Deep

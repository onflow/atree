import AtreeProofs.World.DeepMapHold
/-
  The tracked callback chain (`notifyDeep`).  A notification from `y` through a current handle, in a world
  whose containers above `y` are those of a world satisfying the invariant: provided every live container
  of the FINAL world is referenced at most once (`NDPost.track : UniqueRef w' → …`), every heap slab that
  deeply embeds (through inlined containers) a container whose entry the chain changed — or `y` itself,
  inlined before or after — was stored by the chain.  By induction along the chain (`notify_induction`);
  one link is `deep_link`, for a parent of either kind.
-/
namespace Atree.Deep
open Gen World Codec
open MapHolder (StoredSince Ext)

variable {D : SlabID → DigestFn 4} {rank : SlabID → Nat}

/-- what the tracked induction delivers for a notification from `y` -/
structure NDPost (rank : SlabID → Nat) (y : SlabID) (w : World) (cx : Ctx) (w' : World) (cx' : Ctx) : Prop where
  track : UniqueRef w' → Track y w cx w' cx'
  sig : ContsSig w w'
  above : ∀ z, z ≠ y → rank y ≤ rank z → w'.cont? z = w.cont? z
  self : ∀ c, w.cont? y = some c → ∃ c', w'.cont? y = some c' ∧ FormRel c c'

/-- a notification that changes no container: nothing to account for unless `y` is inlined and held -/
theorem ndpost_same {y : SlabID} {w w' : World} {cx : Ctx} (hc : ∀ z, w'.cont? z = w.cont? z) (hT : w'.T = w.T)
    (hno : Inl w y → (∃ q, World.Holds w q y) → False) : NDPost rank y w cx w' cx := by
  refine ⟨?_, ⟨hT, fun q => by rw [hc]⟩, fun z _ _ => hc z, fun c h => ⟨c, by rw [hc]; exact h, FormRel.refl c⟩⟩
  intro _ id s hs' _ ⟨x, hx, hcase⟩
  exfalso
  rcases hcase with h | ⟨rfl, h⟩
  · exact h (Or.inl (hc x))
  · obtain ⟨q, hq⟩ := held_of_dref hs' hx
    have hq' : World.Holds w q x := by
      obtain ⟨qc, h1, h2⟩ := hq
      exact ⟨qc, by rw [← hc]; exact h1, h2⟩
    have hi : Inl w x := by
      rcases h with h | ⟨c, h1, h2⟩
      · exact h
      · exact ⟨c, by rw [← hc]; exact h1, h2⟩
    exact hno hi ⟨q, hq'⟩

/-- `UniqueRef` within one container, on its stored elements (`UniqueRef.slot`, World/StepBasics, is the form
    on keyed slots) -/
theorem _root_.Atree.World.UniqueRef.storedElems {w : World} (hu : UniqueRef w) {q y : SlabID} {qc : Cont} (hq : w.cont? q = some qc)
    (hy : (w.cont? y).isSome) :
    ∀ (i j : Nat) (e1 e2 : Elem), qc.storedElems[i]? = some e1 → qc.storedElems[j]? = some e2 →
      e1.pay = .ref y → e2.pay = .ref y → i = j := by
  intro i j e1 e2 h1 h2 p1 p2
  refine (hu q q _ _ i j y hq hq ?_ ?_ hy).2
  · simp only [Cont.pays, List.getElem?_map, h1, Option.map_some, p1]
  · simp only [Cont.pays, List.getElem?_map, h2, Option.map_some, p2]

/-- the core `set` of a reference to `y` stores the slab of the parent's new tree that holds it
    (`arr_hold`, `map_hold`, `map_hold_inl` for the slot) -/
theorem _root_.Atree.World.SlotSet.holds {w : World} {Dp : DigestFn 4} {qc qc' : Cont} {s : Slot} {e : Elem} {old : Option Elem}
    {cx cx' : Ctx} {y : SlabID} (hT : legalThreshold w.T = true) (hok : ContOk w.T Dp cx.ctr qc)
    (hok' : ContOk w.T Dp cx'.ctr qc') (hcfg : ∀ m, qc = .map m → CfgOk w.mcfg w.T m)
    (he1 : 1 ≤ e.size) (he2 : e.size ≤ s.lim w.T) (hpe : e.pay = .ref y)
    (hs : SlotSet w qc s e cx old qc' cx') (hinl' : qc'.isInlined = qc.isInlined)
    (huq : ∀ (i j : Nat) (e1 e2 : Elem), qc'.storedElems[i]? = some e1 → qc'.storedElems[j]? = some e2 →
      e1.pay = .ref y → e2.pay = .ref y → i = j) :
    ∀ id sl, (id, sl) ∈ qc'.treeSlabs → (qc.isInlined = true → id ≠ qc'.vid) →
      (∃ e1 ∈ C10Persist.slabElems sl, e1.pay = .ref y) → StoredSince cx cx' id := by
  cases qc <;> cases s <;> cases qc' <;> first | exact hs.elim | skip
  · rename_i a i a'
    obtain ⟨_, o, _, hs⟩ := hs
    exact arr_hold hT hok ⟨he1, he2⟩ hpe hs hinl' huq
  · rename_i m k m'
    intro id sl h1 h2 h3
    have hmok : MapOk w.T Dp m cx.ctr := hok
    have hmok' : MapOk w.T Dp m' cx'.ctr := hok'
    rcases Bool.eq_false_or_eq_true m.isInlined with hi0 | hi0
    · exact map_hold_inl (hcfg m rfl) (hmok.2 hi0) he2 hpe hs (hmok'.2 (hinl'.trans hi0)) huq id sl h1 (h2 hi0) h3
    · exact map_hold (hcfg m rfl) (hmok.1 hi0).1 he2 hpe hs (hmok'.1 (hinl'.trans hi0)).1 huq id sl h1 h3

/-- One link of the chain: the child `y` takes the form the slot's budget asks for, the slot that holds it
    is overwritten (same signature, in terms of keyed slots as in `notify_link`, World/Notify; the slab
    that holds the reference is stored: `SlotSet.holds`), the parent's own notification (`ih`; its heap
    account is `notifyHeap`), the closure is installed. -/
theorem deep_link {w0 w w1 w3 : World} {ctr0 : Nat} {y : SlabID} {cx cx1 cx2 cx3 : Ctx} {hi : HInfo} {c qc qc' : Cont}
    {s : Slot} {el e old : Elem}
    (P : WPre D rank w0 ctr0 w cx.ctr) (hsame : ∀ z, rank z < rank y → w.cont? z = w0.cont? z)
    (hh : AList.find? w.hinfo y = some hi) (hc : w.cont? y = some c) (hpar : HandleOk w hi.parent)
    (hf : SlotFinds w y hi qc s el) (hst : w.childStorable y hi.wrap (s.lim w.T) cx = .ok (e, w1, cx1))
    (hs : SlotSet w1 qc s e cx1 (some old) qc' cx2)
    (ih : HandleOk (w1.setCont hi.parent qc') hi.parent → ∀ w0 ctr0,
      WPre D rank w0 ctr0 (w1.setCont hi.parent qc') cx2.ctr →
      (∀ z, rank z < rank hi.parent → (w1.setCont hi.parent qc').cont? z = w0.cont? z) →
      NDPost rank hi.parent (w1.setCont hi.parent qc') cx2 w3 cx3)
    (hnp : ∃ fuel, notifyParent fuel (w1.setCont hi.parent qc') hi.parent cx2 = .ok (w3, cx3)) :
    NDPost rank y w cx (install w3 hi.parent s (.child y hi.wrap)) cx3 := by
  have hq := hf.parent
  have hget := hf.get
  have hel := hf.pay
  obtain ⟨hv, hk⟩ := slot_facts P hh hc hf
  have hrk : rank hi.parent < rank y := hv.2.1
  have hsameq : ∀ z, rank z ≤ rank hi.parent → w.cont? z = w0.cont? z := fun z hz => hsame z (by omega)
  obtain ⟨P1, post1, _, hm1, hh1, hco1, he1, he2, hepay⟩ := storableOf_pre P hv (Slot.lim_le _ s) hst
  obtain ⟨_, _, _, _, hcoy, ⟨c0, c0', g0, g1, hsd0⟩, hpe⟩ := childStorable_frame hst
  obtain ⟨c1, hc1, hfc⟩ := childStorable_form hc hst
  have hsd : Cont.SameData c c1 := by rw [hc] at g0; rw [hc1] at g1; cases g0; cases g1; exact hsd0
  have hT1 : w1.T = w.T := P1.T.trans P.T.symm
  have hm1' : w1.mcfg = w.mcfg := mcfg_congr hT1 (P1.addr.trans P.addr.symm)
  have hp1 : w1.cont? hi.parent = some qc := by rw [hco1 _ (Nat.le_refl _)]; exact hq
  have h01 : w1.cont? hi.parent = w0.cont? hi.parent := (hco1 _ (Nat.le_refl _)).trans (hsameq _ (Nat.le_refl _))
  have hk1 : ∀ k, s = .key k → KeyOk w1.T 4 (D hi.parent) k := fun k hk' => hT1 ▸ hk k hk'
  have hcfg1 : ∀ m, qc = .map m → CfgOk w1.mcfg w1.T m := fun m hm => P1.cfgOk (hm ▸ hp1)
  have he2' : e.size ≤ s.lim w1.T := hT1 ▸ he2
  have st := SlotSet.coreStep P1 hp1 h01 hk1 he1 he2' hepay hs
  obtain ⟨E, C, hlog, _⟩ := st.acct
  obtain ⟨j, hks, _, hks', _, hinl', _⟩ := SlotSet.ok P1.legal (P1.filed hp1).ok hcfg1 hk1 (P1.room hp1 h01)
    (hget.congr hm1') he1 he2' hpe hs
  obtain ⟨P2, hsame2, _⟩ := mutate_pre (w2 := w1.setCont hi.parent qc') P1
    (fun z hz => (hco1 z (Nat.le_of_lt hz)).trans (hsameq z (Nat.le_of_lt hz)))
    hp1 st (IdxOnly.refl _)
  obtain ⟨fuel, hnp⟩ := hnp
  have hks : (qc.kslots w.T)[j]? = some (s.key?, s.lim w.T, el) := hT1 ▸ hks
  have hks' : qc'.kslots w.T = (qc.kslots w.T).set j (s.key?, s.lim w.T, e) := hT1 ▸ hks'
  have post23 := notifyHeap P2 hsame2 hnp
  have hcw4 : ∀ z, (install w3 hi.parent s (.child y hi.wrap)).cont? z = w3.cont? z := fun z => cont?_install _ _ _ _ _
  have hne : y ≠ hi.parent := by intro h; rw [← h] at hrk; exact Nat.lt_irrefl _ hrk
  have hpy : World.Holds w hi.parent y := holds_of_kslot hq hks hel
  have hS12 : ContsSig w (w1.setCont hi.parent qc') :=
    ContsSig.of_slot_set hc hq hks hel hpe hsd hks' st.kind hT1 (by rw [cont?_setCont_ne _ _ _ _ hne]; exact hc1)
      (cont?_setCont_self _ _ _) (fun z hzy hzp => by rw [cont?_setCont_ne _ _ _ _ hzp]; exact hcoy z hzy)
  have hidx12 : ∀ q z, AList.find? ((w1.setCont hi.parent qc').idxOf q) z = AList.find? (w.idxOf q) z := by
    intro q z; simp [World.idxOf, hm1]
  have hcur12 : CurKept w (w1.setCont hi.parent qc') :=
    CurKept.of_sig hS12 hidx12 (fun x hix hx _ => by simp only [hinfo_setCont, hh1]; exact hx)
  have hpar2 : HandleOk (w1.setCont hi.parent qc') hi.parent :=
    hpar.transfer (fun p x => (hS12.holds_iff p x).mp) hcur12
  obtain ⟨tr3, sig3, above3, self3⟩ := ih hpar2 w0 ctr0 P2 hsame2
  obtain ⟨qc3, hq3, hf3⟩ := self3 qc' (cont?_setCont_self _ _ _)
  have h3y : w3.cont? y = some c1 := by
    rw [above3 y hne (Nat.le_of_lt hrk), cont?_setCont_ne _ _ _ _ hne]; exact hc1
  have hS13 : ContsSig w w3 := hS12.trans sig3
  have hqy3 : World.Holds w3 hi.parent y := hS13.holds hpy
  have hy2 : ((w1.setCont hi.parent qc').cont? y).isSome := by
    rw [cont?_setCont_ne _ _ _ _ hne, hc1]; rfl
  refine ⟨?_, ?_, ?_, ?_⟩
  · intro U4
    have U3 : UniqueRef w3 := by
      refine ContsSig.uniqueRef ⟨(T_install _ _ _ _).symm, fun q => by rw [hcw4]⟩ U4
    have U2 : UniqueRef (w1.setCont hi.parent qc') := sig3.symm.uniqueRef U3
    exact track_step (w := w) (w1 := w1) (w2 := w1.setCont hi.parent qc') (w3 := w3) (qc := qc)
      (qc' := qc') (c1 := c1) hne P.heap (P1.filed hp1).vid hq hcoy (cont?_setCont_self _ _ _)
      (fun z hz => cont?_setCont_ne _ _ _ _ hz) hinl' st.tree.1 st.vid
      (ext_of_post post1) (ext_of_log hlog) (ext_of_post post23)
      (st.vid ▸ SlotSet.holds P1.legal (P1.filed hp1).ok st.ok hcfg1 he1 he2' hpe hs hinl'
        (U2.storedElems (cont?_setCont_self _ _ _) hy2)) (tr3 U3) (kept_of_post post23)
      h3y hq3 hf3 U3 hqy3 hcw4
  · exact hS13.trans ⟨T_install _ _ _ _, fun q => by rw [hcw4]⟩
  · intro z hzy hrz
    have hzp : z ≠ hi.parent := by intro h; rw [h] at hrz; omega
    rw [hcw4, above3 z hzp (by omega), cont?_setCont_ne _ _ _ _ hzp]
    exact hcoy z hzy
  · intro c0 hc0
    rw [hc] at hc0; cases hc0
    exact ⟨c1, by rw [hcw4]; exact h3y, hfc⟩

/-- The tracked chain (`WPre` / `hsame` as in `notifyHeap`; the handle of `y` is current).  `NDPost.track` is
    conditional on `UniqueRef` of the FINAL world: the chain keeps every signature, so this is `UniqueRef` of
    every world of the chain. -/
theorem notifyDeep {fuel : Nat} {w0 w w' : World} {ctr0 : Nat} {y : SlabID} {cx cx' : Ctx}
    (P : WPre D rank w0 ctr0 w cx.ctr) (hsame : ∀ z, rank z < rank y → w.cont? z = w0.cont? z)
    (hhand : HandleOk w y) (h : notifyParent fuel w y cx = .ok (w', cx')) : NDPost rank y w cx w' cx' := by
  refine notify_induction
    (M := fun w y cx w' cx' => HandleOk w y → ∀ w0 ctr0, WPre D rank w0 ctr0 w cx.ctr →
      (∀ z, rank z < rank y → w.cont? z = w0.cont? z) → NDPost rank y w cx w' cx')
    ?_ ?_ ?_ ?_ fuel h hhand w0 ctr0 P hsame
  · -- no closure: a held container with a current handle has one
    intro w y cx hnone hhand w0 ctr0 _ _
    refine ndpost_same (fun _ => rfl) rfl ?_
    rintro _ ⟨q, hq⟩
    obtain ⟨hi', hhi', _, _⟩ := hhand.of_held hq
    rw [hnone] at hhi'; cases hhi'
  · -- the child stays a separate slab
    intro w y hi c cx _ hc hstay _ _ w0 ctr0 _ _
    refine ndpost_same (fun _ => rfl) rfl ?_
    rintro ⟨c0, hc0, hi0⟩ _
    rw [hc] at hc0; cases hc0
    cases hi0.symm.trans hstay
  · -- the closure finds nothing and is dropped: it was not current, `y` is not held
    intro w y hi c cx hh _ hlost hhand w0 ctr0 P _
    refine ndpost_same (fun _ => rfl) rfl ?_
    rintro _ ⟨q, hq⟩
    obtain ⟨hi', hhi', hcc, _⟩ := hhand.of_held hq
    rw [hh] at hhi'; cases hhi'
    obtain ⟨qc, s, el, hf⟩ := hcc.finds P.legal (fun _ h => (P.filed h).ok) (fun _ h => P.cfgOk h) P.closure hh
    exact hlost.not_finds qc s el hf
  · intro w y cx hi c qc s el e w1 cx1 old qc' cx2 w3 cx3 hh hc _ hf hst hs _ hnp ih hhand w0 ctr0 P hsame
    have hpy : World.Holds w hi.parent y := by
      obtain ⟨j, hks⟩ := hf.get.kslot P.legal (P.filed hf.parent).ok (fun m hm => P.cfgOk (hm ▸ hf.parent))
        (slot_facts P hh hc hf).2
      exact holds_of_kslot hf.parent hks hf.pay
    obtain ⟨hi', hhi', _, hpar⟩ := hhand.of_held hpy
    rw [hh] at hhi'; cases hhi'
    exact deep_link P hsame hh hc hpar hf hst hs ih hnp

end Atree.Deep

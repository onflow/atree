import AtreeProofs.World.DeepNotify
/-
  From the tracked chain to the deep account of a whole operation.

  An operation through the handle of `p`:  `w` —(value handed in changes form; ONE core operation on
  `p`)→ `w2` —(notification from `p`)→ `w3` —(closure installed; value handed back un-inlined)→ `w'`.
  `deep_of_track`: every heap slab present before and after with the same shallow content whose deep
  content differs was stored.  `deepStoredC_of`: … hence its LAST action in the log is a store.
  `Mutation.deepM`: the deep account of a mutation of any shape (`Mutation`, World/Shape; `Mid`, World/HeapMutation).
-/
namespace Atree.Deep
open Gen World Codec
open MapHolder (StoredSince Ext)
open Atree.C09 (newEffects newEffects_of_log)

/-- membership form of the deep account -/
def DeepM (w : World) (cx : Ctx) (w' : World) (cx' : Ctx) : Prop :=
  ∀ id s, w'.HasSlab id s → w.HasSlab id s → ¬ WC.DeepSame w w' s → StoredSince cx cx' id

/-- From membership to last action: a heap slab of the final world that was stored was not removed
    afterwards (`WAcct.removed`) -/
theorem deepStoredC_of {w w' : World} {cx cx' : Ctx} (Hh : HeapOk w cx.ctr) (hp : Post w cx w' cx')
    (hM : DeepM w cx w' cx') : WC.DeepStoredC w w' (newEffects cx cx') := by
  obtain ⟨E, C, hlog, hacct, hheap, _⟩ := hp
  intro id s hs' hs hd
  have h1 : w'.HasSlab id s := (hheap.slabAt_eq_some id s).1 hs'
  have h2 : w.HasSlab id s := (Hh.slabAt_eq_some id s).1 hs
  rw [(newEffects_of_log hlog).2.1]
  exact (hM id s h1 h2 hd).lastAction hlog.eff fun hl => hacct.removed id hl h1.inHeap

/-- The deep account of an operation through the handle of `p`, from the track of its chain (`tr`, `w2` to
    `w3`).  `w` to `w2` changes only `p` and the children stored (`Mv`; `hA`), and `p` stays inlined if it was
    (`hpf`); `w3` to `w'` changes only the children handed back (`Mo`; `hB`).  A stored child was held nowhere
    and ends up held by `p` (`hMv`); a child handed back is held nowhere (`hMo`) and is not `p` (`hpo`).
    `k2`, `k3`: a heap slab of the later world is one of the earlier world or was stored in between. -/
theorem deep_of_track {w w2 w3 w' : World} {cx cx2 cx3 cx' : Ctx} {p : SlabID} {Mv Mo : SlabID → Prop}
    (hA : ∀ z, z ≠ p → ¬ Mv z → w2.cont? z = w.cont? z)
    (hB : ∀ z, ¬ Mo z → w'.cont? z = w3.cont? z)
    (hpo : ¬ Mo p)
    (hplive : (w.cont? p).isSome) (hplive' : (w'.cont? p).isSome)
    (hpf : Inl w p → Inl w2 p)
    (hMv : ∀ m, Mv m → (∀ q, ¬ World.Holds w q m) ∧ World.Holds w' p m ∧ (w'.cont? m).isSome)
    (hMo : ∀ m, Mo m → ∀ q, ¬ World.Holds w' q m)
    (tr : Track p w2 cx2 w3 cx3) (he1 : Ext cx cx2) (he2 : Ext cx2 cx3) (he3 : Ext cx3 cx')
    (k3 : ∀ id s, w'.HasSlab id s → w3.HasSlab id s ∨ StoredSince cx3 cx' id)
    (k2 : ∀ id s, w3.HasSlab id s → w2.HasSlab id s ∨ StoredSince cx2 cx3 id)
    (U' : UniqueRef w') : DeepM w cx w' cx' := by
  intro id s hs' hs hd
  obtain ⟨x, hx, hns⟩ := not_deepSame hd
  rcases k3 id s hs' with hs3 | hst
  case inr => exact StoredSince.after (he1.trans he2) hst
  rcases k2 id s hs3 with hs2 | hst
  case inr => exact (StoredSince.after he1 hst).mono he3
  have fromTr : (∃ x, DRef w3 (C10Persist.slabElems s) x ∧
      (¬ StorSame w2 w3 x ∨ (x = p ∧ (Inl w2 p ∨ Inl w3 p)))) → StoredSince cx cx' id :=
    fun h => (StoredSince.after he1 (tr id s hs3 hs2 h)).mono he3
  have toW3 : ∀ z, DRef w' (C10Persist.slabElems s) z → DRef w3 (C10Persist.slabElems s) z := by
    intro z hz
    refine hz.congr_held hs' ?_
    rintro u ⟨q, hq⟩
    exact (hB u (fun hm => hMo u hm q hq)).symm
  have hx3 := toW3 x hx
  by_cases hxo : Mo x
  · obtain ⟨q, hq⟩ := held_of_dref hs' hx
    exact absurd hq (hMo x hxo q)
  have inl3 : Inl w' p → Inl w3 p := by
    rintro ⟨c, h1, h2⟩
    exact ⟨c, by rw [← hB p hpo]; exact h1, h2⟩
  by_cases hxv : Mv x
  · obtain ⟨hno, hpx, hxl⟩ := hMv x hxv
    rcases hx.last with ⟨e, he, hp⟩ | ⟨z, cz, hz, hcz, hi, e, he, hp⟩
    · exfalso
      obtain ⟨z0, cz0, hz0, hm⟩ := hs
      exact hno z0 (holds_of_elem hz0 (slabElems_sub (cz0.mem_slabs_treeSlabs _ hm) e he) hp)
    · have hzx : World.Holds w' z x := holds_of_elem hcz (inlElems_sub cz e he) hp
      have hzp : z = p := holder_unique U' hzx hpx hxl
      subst hzp
      exact fromTr ⟨z, toW3 z hz, Or.inr ⟨rfl, Or.inr (inl3 ⟨cz, hcz, hi⟩)⟩⟩
  by_cases hxp : x = p
  · subst hxp
    refine fromTr ⟨x, hx3, Or.inr ⟨rfl, ?_⟩⟩
    obtain ⟨c, hc⟩ := Option.isSome_iff_exists.1 hplive
    obtain ⟨c', hc'⟩ := Option.isSome_iff_exists.1 hplive'
    rcases Bool.eq_false_or_eq_true c.isInlined with hi | hi
    · exact Or.inl (hpf ⟨c, hc, hi⟩)
    · rcases Bool.eq_false_or_eq_true c'.isInlined with hi' | hi'
      · exact Or.inr (inl3 ⟨c', hc', hi'⟩)
      · exact absurd (Or.inr ⟨c, c', hc, hc', hi, hi'⟩) hns
  · refine fromTr ⟨x, hx3, Or.inl ?_⟩
    intro hss
    apply hns
    unfold StorSame at hss ⊢
    rw [hB x hxo, ← hA x hxp hxv]
    exact hss

theorem handleOk_storableOf {w : World} {v : WVal} {lim : Nat} {cx : Ctx} {e : Elem} {w1 : World} {cx1 : Ctx}
    (h : w.storableOf v lim cx = .ok (e, w1, cx1)) {z : SlabID} (hz : HandleOk w z) : HandleOk w1 z := by
  have hS := ContsSig.of_storableOf h
  obtain ⟨hh, hm, _, _, _, _⟩ := storableOf_frame h
  refine hz.transfer (fun p x => (hS.holds_iff p x).mp) (CurKept.of_sig hS ?_ ?_)
  · intro q x; simp [World.idxOf, hm]
  · intro x hi hx _; rw [hh]; exact hx

theorem uninline_conts {w : World} {e : Elem} {cx : Ctx} {e' : Elem} {ov : Option SlabID} {w4 : World} {cx4 : Ctx}
    (h : w.uninlineIfNeeded e cx = .ok (e', ov, w4, cx4)) :
    ∀ z, ¬ (e.pay = .ref z ∧ (w.cont? z).isSome) → w4.cont? z = w.cont? z := by
  obtain ⟨_, _, _, _, _, hc⟩ := uninlineIfNeeded_ok h
  intro z hz
  rcases hc with ⟨_, _, rfl, _, _⟩ | ⟨x, c, _, hp, hx, ⟨_, _, rfl, _⟩ | ⟨_, c', _, _, rfl, _, _⟩⟩
  · rfl
  · rfl
  · apply cont?_setCont_ne
    intro hzx
    subst hzx
    exact hz ⟨hp, by rw [hx]; rfl⟩

variable {D : SlabID → DigestFn 4} {rank : SlabID → Nat}

theorem uniqueRef_of_worldOk' {w : World} {ctr : Nat} (H : WorldOk' D w ctr) : UniqueRef w := by
  obtain ⟨rank, H0⟩ := H
  exact H0.unique

theorem uniqueRef_congr {w w' : World} (h : ∀ z, w'.cont? z = w.cont? z) (hT : w'.T = w.T) (hu : UniqueRef w) :
    UniqueRef w' :=
  ContsSig.uniqueRef ⟨hT, fun q => by rw [h]⟩ hu

theorem inl_of_form {w w2 : World} {p : SlabID} {c c' : Cont} (hc : w.cont? p = some c) (hc' : w2.cont? p = some c')
    (hf : c'.isInlined = c.isInlined) : Inl w p → Inl w2 p := by
  rintro ⟨c0, h1, h2⟩
  rw [hc] at h1; cases h1
  exact ⟨c', hc', by rw [hf]; exact h2⟩

/-- an element of a container does not refer to the container itself -/
theorem not_self_ref {w : World} (hr : CRank rank w) {p : SlabID} {pc : Cont} (hp : w.cont? p = some pc) {e : Elem}
    (he : e ∈ pc.storedElems) : e.pay ≠ .ref p := by
  intro hpp
  have := hr p p ⟨_, hp, by simp only [Cont.pays, List.mem_map]; exact ⟨e, he, hpp⟩⟩ (by rw [hp]; rfl)
  omega

/-- The deep account of a mutation, whatever its shape (`Mid` … `deep_of_track`).  What depends on the
    operation: the stored child ends up held by `S.p` only (`hMv`); the child handed back is not `S.p`
    (`hpo`) and is held nowhere (`hMo`). -/
theorem _root_.Atree.World.Mutation.deepM {S : MutShape} {w w' : World} {cx cx' : Ctx} {old' : Option Elem}
    (H : World.HInv D rank w cx.ctr) (Hh : HeapOk w cx.ctr) (hh : HandleOk w S.p)
    (hv : ∀ v, S.val = some v → WValH rank w S.p (S.lim w.T) v) (hcore : S.CoreOk D rank w cx.ctr)
    (hT : S.TableLaw) (M : Mutation S w cx old' w' cx') (U' : UniqueRef w') (hplive' : (w'.cont? S.p).isSome)
    (hMv : ∀ m wr, S.val = some (.child m wr) →
      (∀ q, ¬ World.Holds w q m) ∧ World.Holds w' S.p m ∧ (w'.cont? m).isSome)
    (hpo : ∀ o', old' = some o' → o'.pay ≠ .ref S.p)
    (hMo : ∀ o', old' = some o' → ∀ m, o'.pay = .ref m → (w.cont? m).isSome → ∀ q, ¬ World.Holds w' q m) :
    DeepM w cx w' cx' := by
  obtain ⟨pc, e, w1, cx1, old, pc', cx2, w3, cx3, ov, w5, hp, hprep, hc, hnp, hback, rfl⟩ := M
  have m := Mid.of_prep H Hh hv hcore hT hp hprep hc
  -- the value phase touches the stored child only
  obtain ⟨hfr, hS01, hh1⟩ : (∀ z, (∀ wr, S.val ≠ some (.child z wr)) → w1.cont? z = w.cont? z) ∧ ContsSig w w1 ∧
      HandleOk w1 S.p := by
    cases hval : S.val with
    | none =>
      rw [hval] at hprep
      obtain ⟨_, rfl, _⟩ := hprep
      exact ⟨fun _ _ => rfl, ContsSig.refl _, hh⟩
    | some v =>
      rw [hval] at hprep
      obtain ⟨e0, _, hst⟩ := hprep
      obtain ⟨_, _, _, _, hfr, _⟩ := storableOf_frame hst
      exact ⟨fun z hz => hfr z (fun wr hvz => hz wr (by rw [hvz])), ContsSig.of_storableOf hst,
        handleOk_storableOf hst hh⟩
  have hp1 : w1.cont? S.p = some pc := by rw [m.conts1 _ (Nat.le_refl _)]; exact hp
  have tab := hT.reidx (w1.setCont S.p pc')
  have h2p : (S.reidx (w1.setCont S.p pc')).cont? S.p = some pc' := by rw [tab.conts, cont?_setCont_self]
  have h2o : ∀ z, z ≠ S.p → (S.reidx (w1.setCont S.p pc')).cont? z = w1.cont? z := fun z hz => by
    rw [tab.conts, cont?_setCont_ne _ _ _ _ hz]
  have hpar2 : HandleOk (S.reidx (w1.setCont S.p pc')) S.p :=
    handleOk_mutate m.pre1.rank m.pre2.rank hp1 h2p h2o tab.T tab.hinfo (fun q x hq => hT.idx _ q x hq) hh1
  have ND := notifyDeep m.pre2 m.same2 hpar2 hnp
  have post23 := notifyHeap m.pre2 m.same2 hnp
  obtain ⟨hcw, hcwa, hcwT⟩ := S.cb_frame w3
  have post23c := post23.congr_right hcw hcwa
  have he := hT.erase w5 ov
  -- the hand-back phase touches the child handed back only
  obtain ⟨post34, hu4, hS35, hpay⟩ : Post (S.cb w3) cx3 w5 cx' ∧
      (∀ z, ¬ (∃ o, old = some o ∧ o.pay = .ref z ∧ ((S.cb w3).cont? z).isSome) → w5.cont? z = (S.cb w3).cont? z) ∧
      ContsSig (S.cb w3) w5 ∧ (∀ o, old = some o → ∃ o', old' = some o' ∧ o'.pay = o.pay) := by
    cases old with
    | none =>
      obtain ⟨_, _, rfl, rfl⟩ := hback
      exact ⟨Post.refl post23c.heapOk post23c.idsOk, fun _ _ => rfl, ContsSig.refl _, fun _ h => (by cases h)⟩
    | some o =>
      obtain ⟨o', rfl, hun⟩ := hback
      exact ⟨uninlineIfNeeded_post post23c.heapOk post23c.idsOk hun,
        fun z hz => uninline_conts hun z (fun h => hz ⟨o, rfl, h.1, h.2⟩), ContsSig.of_uninlineIfNeeded hun,
        fun o1 h => (by cases h; exact ⟨o', rfl, (uninlineIfNeeded_ok hun).1⟩)⟩
  have U3 : UniqueRef w3 := by
    have U5 : UniqueRef w5 := uniqueRef_congr (fun z => (he.conts z).symm) he.T.symm U'
    exact uniqueRef_congr (fun z => (hcw z).symm) hcwT.symm (hS35.symm.uniqueRef U5)
  have hlive3 : ∀ z, z ≠ S.p → (w3.cont? z).isSome → (w.cont? z).isSome := by
    intro z hz h3
    rw [ND.sig.isSome, h2o z hz, hS01.isSome] at h3
    exact h3
  have hpne : ∀ o, old = some o → o.pay ≠ .ref S.p := fun o ho hpp => by
    obtain ⟨o', ho', hp'⟩ := hpay o ho
    exact hpo o' ho' (hp'.trans hpp)
  refine deep_of_track (p := S.p) (Mv := fun z => ∃ wr, S.val = some (.child z wr))
    (Mo := fun z => ∃ o, old = some o ∧ o.pay = .ref z ∧ (w3.cont? z).isSome) ?_ ?_ ?_ (by rw [hp]; rfl) hplive'
    (inl_of_form hp h2p m.step.form) ?_ ?_ (ND.track U3) ((ext_of_post m.post1).trans (ext_of_post m.post12))
    (ext_of_post post23) (ext_of_post post34) ?_ (kept_of_post post23) U'
  · intro z hz hzv
    rw [h2o z hz]
    exact hfr z (fun wr h => hzv ⟨wr, h⟩)
  · intro z hz
    rw [he.conts, hu4 z (by rintro ⟨o, h1, h2, h3⟩; exact hz ⟨o, h1, h2, by rw [← hcw]; exact h3⟩), hcw]
  · rintro ⟨o, ho, hpp, _⟩
    exact hpne o ho hpp
  · rintro m1 ⟨wr, hm⟩
    exact hMv m1 wr hm
  · rintro m1 ⟨o, ho, hm, hl3⟩
    obtain ⟨o', ho', hp'⟩ := hpay o ho
    exact hMo o' ho' m1 (hp'.trans hm) (hlive3 m1 (fun e => hpne o ho (e ▸ hm)) hl3)
  · intro id s hs
    rcases kept_of_post post34 id s (hasSlab_congr (fun z => (he.conts z).symm) hs) with h1 | h1
    · exact Or.inl (hasSlab_congr (fun z => (hcw z).symm) h1)
    · exact Or.inr h1

end Atree.Deep

import AtreeProofs.World.DeepOpsMut
/-
  The deep account (membership form `DeepM`) of `SetType`, `NewArray`, `NewMap`: no storable changes.
-/
namespace Atree.Deep
open Gen World Codec
open MapHolder (StoredSince Ext)

variable {D : SlabID → DigestFn 4}

/-- only `p` changed, and it is standalone before and after: no storable changed -/
theorem deepM_standalone {w w' : World} {cx cx' : Ctx} {p : SlabID} {c c' : Cont}
    (ho : ∀ z, z ≠ p → w'.cont? z = w.cont? z) (hc : w.cont? p = some c) (hc' : w'.cont? p = some c')
    (hi : c.isInlined = false) (hi' : c'.isInlined = false) : DeepM w cx w' cx' := by
  intro id s _ _ hd
  obtain ⟨x, _, hns⟩ := not_deepSame hd
  exfalso
  apply hns
  by_cases hx : x = p
  · subst hx; exact Or.inr ⟨c, c', hc, hc', hi, hi'⟩
  · exact Or.inl (ho x hx)

/-- a new container under a fresh ID that nothing refers to: no storable changed -/
theorem deepM_new {w : World} {cx cx' : Ctx} {id : SlabID} {cn : Cont} (hfresh : w.cont? id = none)
    (hempty : cn.pays = []) (hnoref : ∀ q qc, w.cont? q = some qc → Pay.ref id ∉ qc.pays) :
    DeepM w cx (w.setCont id cn) cx' := by
  intro j s hs' _ hd
  obtain ⟨x, hx, hns⟩ := not_deepSame hd
  exfalso
  by_cases hxi : x = id
  · subst hxi
    obtain ⟨q, qc, hq, hm⟩ := held_of_dref hs' hx
    rw [cont?_setCont] at hq
    split at hq
    · cases hq; rw [hempty] at hm; cases hm
    · exact hnoref q qc hq hm
  · exact hns (Or.inl (cont?_setCont_ne _ _ _ _ hxi))

theorem setType_deepM {rank0 : SlabID → Nat} {w w' : World} {p : SlabID} {ty : Nat} {cx cx' : Ctx}
    (H0 : WorldOkPK D rank0 (fun _ => False) w cx.ctr) (Hh : HeapOk w cx.ctr) (hh : HandleOk w p)
    (h : w.setType p ty cx = .ok (w', cx')) : DeepM w cx w' cx' := by
  obtain ⟨H', _, _, _, _, _, _⟩ := C10W.worldOk'_setType_all D w p ty cx w' cx' ⟨rank0, H0⟩ hh h
  have U' := uniqueRef_of_worldOk' H'
  have HI := HInv.of_pk H0
  obtain ⟨c, c', cx1, hp, hcc, hrun⟩ := setType_ok_iff.mp h
  have st := setType_cont HI Hh hp hcc
  have hinl := st.form
  have h2p : (w.setCont p c').cont? p = some c' := cont?_setCont_self _ _ _
  have h2o : ∀ z, z ≠ p → (w.setCont p c').cont? z = w.cont? z := fun z hz => cont?_setCont_ne _ _ _ _ hz
  rcases hrun with ⟨_, hn⟩ | ⟨hni, rfl, rfl⟩
  · obtain ⟨P2, hsame2, post12⟩ := mutate_pre (w2 := w.setCont p c') (WPre.of_inv HI Hh) (fun _ _ => rfl) hp st
      (IdxOnly.refl _)
    have hpar2 : HandleOk (w.setCont p c') p :=
      handleOk_mutate HI.rank P2.rank hp h2p h2o rfl rfl (fun _ _ _ => rfl) hh
    have ND := notifyDeep P2 hsame2 hpar2 hn
    have post23 := notifyHeap P2 hsame2 hn
    have hpl' : (w'.cont? p).isSome := by rw [ND.sig.isSome, h2p]; rfl
    exact deep_of_track (p := p) (Mv := fun _ => False) (Mo := fun _ => False) (fun z hz _ => h2o z hz)
      (fun _ _ => rfl) (fun h => h) (by rw [hp]; rfl) hpl' (inl_of_form hp h2p hinl) (fun m hm => absurd hm id)
      (fun m hm => absurd hm id) (ND.track U') (ext_of_post post12) (ext_of_post post23) (Ext.refl _)
      (fun id s hs => Or.inl hs) (kept_of_post post23) U'
  · exact deepM_standalone h2o hp h2p hni (hinl.trans hni)

/-- `NewArray` / `NewMap`: the new container `cn` is empty and nothing refers to its identifier -/
theorem new_deepM {rank0 : SlabID → Nat} {w : World} {cx cx' : Ctx} (H0 : WorldOkPK D rank0 (fun _ => False) w cx.ctr)
    {cn : Cont} (hempty : cn.pays = []) : DeepM w cx (w.setCont ⟨w.addr, cx.ctr + 1⟩ cn) cx' := by
  refine deepM_new (fresh_of_inv (HInv.of_pk H0) (by simp)) hempty fun q qc hq hm => ?_
  have := H0.below q qc hq _ hm
  simp at this
  omega

theorem newArr_deepM {rank0 : SlabID → Nat} {w : World} {ty : Nat} {cx : Ctx}
    (H0 : WorldOkPK D rank0 (fun _ => False) w cx.ctr) :
    DeepM w cx (w.newArr ty cx).2.1 (w.newArr ty cx).2.2 :=
  new_deepM (cn := .arr (Arr.new w.addr ty cx).1) H0 rfl

theorem newMap_deepM {rank0 : SlabID → Nat} {w : World} {ty seed : Nat} {cx : Ctx}
    (H0 : WorldOkPK D rank0 (fun _ => False) w cx.ctr) :
    DeepM w cx (w.newMap ty seed cx).2.1 (w.newMap ty seed cx).2.2 :=
  new_deepM (cn := .map (OMap.new w.addr ty (fun _ => seed) cx : OMap 3 × Ctx).1) H0 rfl

end Atree.Deep

import AtreeProofs.World.DeepOps
/-
  The deep account (membership form `DeepM`) of the five mutators: each is `Mutation.deepM` at its shape;
  where the stored child ends up and that the child handed back is unreferenced is read off what the
  invariant side says the operation did (`InsertedAt`, `SetAt`, `RemovedAt`, `MapSetAt`, `MapRemovedAt`).
-/
namespace Atree.Deep
open Gen World Codec

variable {D : SlabID → DigestFn 4}

/-- the child handed back -/
def MoOf (old : Elem) : SlabID → Prop := fun z => old.pay = .ref z

/-- the child handed back is unreferenced in the new world -/
theorem unheld_of_handedBack {w w' : World} {old o' : Elem} (hb : HandedBack w w' old) (hpay : o'.pay = old.pay)
    (m : SlabID) (hm : o'.pay = .ref m) (hl : (w.cont? m).isSome) : ∀ q, ¬ World.Holds w' q m := by
  obtain ⟨c, hc⟩ := Option.isSome_iff_exists.1 hl
  obtain ⟨_, _, _, _, _, hno⟩ := hb m c (hpay ▸ hm) hc
  exact hno

theorem arrInsert_deepM {rank0 : SlabID → Nat} {w w' : World} {p : SlabID} {i : Nat} {v : WVal} {cx cx' : Ctx}
    (H0 : WorldOkPK D rank0 (fun _ => False) w cx.ctr) (Hh : HeapOk w cx.ctr) (hh : HandleOk w p)
    (hv : WValOk w p (maxInlineArr w.T) v) (h : w.arrInsert p i v cx = .ok (w', cx')) : DeepM w cx w' cx' := by
  obtain ⟨H', _, hins, _, _, _, _⟩ := C10W.worldOk'_arrInsert_all D w p i v cx w' cx' ⟨rank0, H0⟩ hh hv h
  obtain ⟨rank, hrk, hv'⟩ := C09W.wvalH_of_ok H0 hv
  obtain ⟨a0, a'', e'', hp0, hp', hi0, hl'', _, hch⟩ := hins
  refine Mutation.deepM ((HInv.of_pk H0).with_rank hrk) Hh hh (fun _ h => by cases h; exact hv') (shInsert_core p i v)
    (shInsert_tableLaw p i v) (arrInsert_mutation.mp h) (uniqueRef_of_worldOk' H') (Option.isSome_iff_exists.2 ⟨_, hp'⟩) ?_
    (fun _ h => by cases h) (fun _ h => by cases h)
  intro m wr hm
  cases hm
  obtain ⟨hpe, _, c, hc, _⟩ := hch m wr rfl
  refine ⟨hv.2.1, ⟨_, hp', ?_⟩, by rw [hc]; rfl⟩
  simp only [Cont.pays, Cont.storedElems, hl'', List.mem_map]
  exact ⟨e'', (List.mem_insertIdx hi0).2 (Or.inl rfl), hpe⟩

theorem arrSet_deepM {rank0 : SlabID → Nat} {w w' : World} {p : SlabID} {i : Nat} {v : WVal} {cx cx' : Ctx} {old' : Elem}
    (H0 : WorldOkPK D rank0 (fun _ => False) w cx.ctr) (Hh : HeapOk w cx.ctr) (hh : HandleOk w p)
    (hv : WValOk w p (maxInlineArr w.T) v) (h : w.arrSet p i v cx = .ok (old', w', cx')) : DeepM w cx w' cx' := by
  obtain ⟨H', _, hset, _, _, _, _⟩ := C10W.worldOk'_arrSet_all D w p i v cx old' w' cx' ⟨rank0, H0⟩ hh hv h
  obtain ⟨rank, hrk, hv'⟩ := C09W.wvalH_of_ok H0 hv
  obtain ⟨a0, a'', old0, e'', hp0, hp', hget0, hl'', hpay, hback, _, hch⟩ := hset
  refine Mutation.deepM ((HInv.of_pk H0).with_rank hrk) Hh hh (fun _ h => by cases h; exact hv') (shSet_core p i v)
    (shSet_tableLaw p i v) (arrSet_mutation.mp h) (uniqueRef_of_worldOk' H') (Option.isSome_iff_exists.2 ⟨_, hp'⟩) ?_ ?_ ?_
  · intro m wr hm
    cases hm
    obtain ⟨hpe, _, c, hc, _⟩ := hch m wr rfl
    refine ⟨hv.2.1, ⟨_, hp', ?_⟩, by rw [hc]; rfl⟩
    simp only [Cont.pays, Cont.storedElems, hl'', List.mem_map]
    exact ⟨e'', List.mem_set (List.getElem?_eq_some_iff.1 hget0).1 _, hpe⟩
  · intro o' ho'
    cases ho'
    rw [hpay]
    exact not_self_ref hrk hp0 (List.mem_of_getElem? hget0)
  · intro o' ho'
    cases ho'
    exact unheld_of_handedBack hback hpay

theorem arrRemove_deepM {rank0 : SlabID → Nat} {w w' : World} {p : SlabID} {i : Nat} {cx cx' : Ctx} {old' : Elem}
    (H0 : WorldOkPK D rank0 (fun _ => False) w cx.ctr) (Hh : HeapOk w cx.ctr) (hh : HandleOk w p)
    (h : w.arrRemove p i cx = .ok (old', w', cx')) : DeepM w cx w' cx' := by
  obtain ⟨H', _, hrem, _, _, _, _⟩ := C10W.worldOk'_arrRemove_all D w p i cx old' w' cx' ⟨rank0, H0⟩ hh h
  obtain ⟨a0, a'', old0, hp0, hp', hget0, _, hpay, hback⟩ := hrem
  refine Mutation.deepM (HInv.of_pk H0) Hh hh (fun _ h => by cases h) (shRemove_core p i) (shRemove_tableLaw p i)
    (arrRemove_mutation.mp h) (uniqueRef_of_worldOk' H') (Option.isSome_iff_exists.2 ⟨_, hp'⟩) (fun _ _ h => by cases h) ?_ ?_
  · intro o' ho'
    cases ho'
    rw [hpay]
    exact not_self_ref (HInv.of_pk H0).rank hp0 (List.mem_of_getElem? hget0)
  · intro o' ho'
    cases ho'
    exact unheld_of_handedBack hback hpay

theorem mapSet_deepM {rank0 : SlabID → Nat} {w w' : World} {p : SlabID} {k : MKey} {v : WVal} {cx cx' : Ctx}
    {old' : Option Elem}
    (H0 : WorldOkPK D rank0 (fun _ => False) w cx.ctr) (Hh : HeapOk w cx.ctr) (hh : HandleOk w p)
    (hk : KeyOk w.T 4 (D p) k) (hv : WValOk w p (maxInlineMapValue w.T k.size) v)
    (h : w.mapSet p k v cx = .ok (old', w', cx')) : DeepM w cx w' cx' := by
  obtain ⟨H', _, hset, _, _, _, _⟩ := C10W.worldOk'_mapSet_all D w p k v cx old' w' cx' ⟨rank0, H0⟩ hh hk hv h
  obtain ⟨rank, hrk, hv'⟩ := C09W.wvalH_of_ok H0 hv
  obtain ⟨m0, m'', e'', oldo, hp0, hp', heff, hbackS, hnoneS, _, hch⟩ := hset
  -- the value handed back was the value of `k`
  have hold : ∀ o', old' = some o' → ∃ o, (k, o) ∈ m0.toList ∧ o'.pay = o.pay ∧ HandedBack w w' o := by
    intro o' ho'
    rcases heff with ⟨hn, _⟩ | ⟨v0, A, B, hv0, hA, _⟩
    · rw [hnoneS hn] at ho'; cases ho'
    · obtain ⟨o'', ho'', hpay, hb⟩ := hbackS v0 hv0
      rw [ho'] at ho''; cases ho''
      exact ⟨v0, by rw [hA]; simp, hpay, hb⟩
  refine Mutation.deepM ((HInv.of_pk H0).with_rank hrk) Hh hh (fun _ h => by cases h; exact hv') (shMapSet_core v hk)
    (shMapSet_tableLaw p k v) (mapSet_mutation.mp h) (uniqueRef_of_worldOk' H') (Option.isSome_iff_exists.2 ⟨_, hp'⟩) ?_ ?_ ?_
  · intro m wr hm
    cases hm
    obtain ⟨hpe, _, c, hc, _⟩ := hch m wr rfl
    refine ⟨hv.2.1, ⟨_, hp', ?_⟩, by rw [hc]; rfl⟩
    have hmem : (k, e'') ∈ m''.toList := by
      rcases heff with ⟨_, _, A, B, _, hB⟩ | ⟨v0, A, B, _, _, hB⟩ <;> rw [hB] <;> simp
    simp only [Cont.pays, Cont.storedElems, List.mem_map]
    exact ⟨e'', ⟨(k, e''), hmem, rfl⟩, hpe⟩
  · intro o' ho'
    obtain ⟨o, hko, hpay, _⟩ := hold o' ho'
    rw [hpay]
    exact not_self_ref hrk hp0 (by simp only [Cont.storedElems, List.mem_map]; exact ⟨(k, o), hko, rfl⟩)
  · intro o' ho'
    obtain ⟨o, _, hpay, hb⟩ := hold o' ho'
    exact unheld_of_handedBack hb hpay

theorem mapRemove_deepM {rank0 : SlabID → Nat} {w w' : World} {p : SlabID} {k : MKey} {cx cx' : Ctx} {rk : MKey}
    {rv' : Elem}
    (H0 : WorldOkPK D rank0 (fun _ => False) w cx.ctr) (Hh : HeapOk w cx.ctr) (hh : HandleOk w p)
    (hk : KeyOk w.T 4 (D p) k) (h : w.mapRemove p k cx = .ok (rk, rv', w', cx')) : DeepM w cx w' cx' := by
  obtain ⟨H', _, hrem, _, _, _, _⟩ := C10W.worldOk'_mapRemove_all D w p k cx rk rv' w' cx' ⟨rank0, H0⟩ hh hk h
  obtain ⟨m0, m'', rv0, hp0, hp', _, ⟨A, B, hA, _⟩, hpay, hback⟩ := hrem
  refine Mutation.deepM (HInv.of_pk H0) Hh hh (fun _ h => by cases h) (shMapRemove_core rk hk)
    (shMapRemove_tableLaw p k rk) (mapRemove_mutation.mp h) (uniqueRef_of_worldOk' H') (Option.isSome_iff_exists.2 ⟨_, hp'⟩)
    (fun _ _ h => by cases h) ?_ ?_
  · intro o' ho'
    cases ho'
    rw [hpay]
    exact not_self_ref (HInv.of_pk H0).rank hp0
      (by simp only [Cont.storedElems, List.mem_map]; exact ⟨(k, rv0), by rw [hA]; simp, rfl⟩)
  · intro o' ho'
    cases ho'
    exact unheld_of_handedBack hback hpay

end Atree.Deep

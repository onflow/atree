import AtreeProofs.World.DeepTrack
/-
  Preparation of the tracked induction.
  * `childStorable_form`  — the child after `childStorable` is the child in (possibly) another form;
  * `arr_hold`            — a successful `Arr.set` of a reference to `y` stores every slab of the new
                            tree that holds a reference to `y` (there is one: `UniqueRef`), unless
                            the array is inlined (then it owns no slab).
-/
namespace Atree.Deep
open Gen World Codec
open MapHolder (StoredSince Ext)

variable {D : SlabID → DigestFn 4} {rank : SlabID → Nat}

theorem childStorable_form {w : World} {y : SlabID} {c : Cont} (hy : w.cont? y = some c) {wrap lim : Nat}
    {cx : Ctx} {e : Elem} {w1 : World} {cx1 : Ctx} (hst : w.childStorable y wrap lim cx = .ok (e, w1, cx1)) :
    ∃ c1, w1.cont? y = some c1 ∧ FormRel c c1 := by
  rcases childStorable_returns hy wrap lim cx with ⟨_, heq⟩ | ⟨c', _, _, hin, heq⟩ | ⟨c', _, _, hun, heq⟩ <;>
    rw [heq] at hst <;> cases hst
  · exact ⟨c, hy, FormRel.refl c⟩
  · exact ⟨c', cont?_setCont_self _ _ _, FormRel.of_inline hin⟩
  · exact ⟨c', cont?_setCont_self _ _ _, FormRel.of_uninline hun⟩

theorem treeSlabs_arr_inl {a : Arr} (hi : a.isInlined = true) : ∀ p ∈ (Cont.arr a).treeSlabs, p.1 = a.rootID := by
  obtain ⟨d, root, ty⟩ := a
  cases d with
  | zero =>
    intro p hp
    simp only [Cont.treeSlabs, List.mem_map] at hp
    obtain ⟨q, hq, rfl⟩ := hp
    have hq : q ∈ [((root : DataSlab).hdr.id, ASlab.data root)] := hq
    rw [List.mem_singleton] at hq
    subst hq
    rfl
  | succ d => cases hi

theorem arr_holder_unique {a : Arr} {y : SlabID}
    (huq : ∀ (i j : Nat) (e1 e2 : Elem), a.toList[i]? = some e1 → a.toList[j]? = some e2 → e1.pay = .ref y → e2.pay = .ref y → i = j)
    {id : SlabID} {s : WSlab} (hs : (id, s) ∈ (Cont.arr a).treeSlabs) {e1 : Elem} (he1 : e1 ∈ C10Persist.slabElems s)
    (hp1 : e1.pay = .ref y) {id0 : SlabID} {s0 : DataSlab} (hs0 : (id0, ASlab.data s0) ∈ ATree.slabs a.d a.root)
    {e : Elem} (he : e ∈ s0.elems) (hp : e.pay = .ref y) : id = id0 := by
  simp only [Cont.treeSlabs, List.mem_map] at hs
  obtain ⟨p, hpm, heq⟩ := hs
  simp only [Prod.mk.injEq] at heq
  obtain ⟨rfl, rfl⟩ := heq
  obtain ⟨pid, ps⟩ := p
  cases ps with
  | index _ _ _ _ => cases he1
  | data s1 =>
    apply Classical.byContradiction
    intro hne
    obtain ⟨i, j, hij, hi, hj⟩ := leaf_two_pos a.d a.root pid id0 s1 s0 hpm hs0 hne e1 e he1 he
    exact hij (huq i j e1 e hi hj hp1 hp)

/-- `Arr.set` stores the holder: every slab of the new tree that holds a reference to `y` was stored
    since the `set` began — for an inlined array, which owns no slab, the statement is about the root
    ID only and excluded by `hnr`. -/
theorem arr_hold {T : Nat} (hT : legalThreshold T = true) {a a' : Arr} {c c' : Ctx} {i : Nat} {e old : Elem} {y : SlabID}
    (hok : ArrOk T a c.ctr) (hve : ElemOk T e) (hpe : e.pay = .ref y)
    (hs : a.set T i e c = .ok (old, a', c')) (hinl' : a'.isInlined = a.isInlined)
    (huq : ∀ (i j : Nat) (e1 e2 : Elem), a'.toList[i]? = some e1 → a'.toList[j]? = some e2 → e1.pay = .ref y → e2.pay = .ref y → i = j) :
    ∀ id s, (id, s) ∈ (Cont.arr a').treeSlabs → (a.isInlined = true → id ≠ a'.rootID) →
      (∃ e1 ∈ C10Persist.slabElems s, e1.pay = .ref y) → StoredSince c c' id := by
  intro id s hm hnr ⟨e1, he1, hp1⟩
  rcases Bool.eq_false_or_eq_true a.isInlined with hi | hi
  · exact absurd (treeSlabs_arr_inl (by rw [hinl']; exact hi) _ hm) (hnr hi)
  · obtain ⟨⟨id0, x0⟩, hs0, he0, hst⟩ := arr_set_stored a c i e hve (hok.1 hi) old a' c' hs
    cases x0 with
    | index _ _ _ _ => cases he0
    | data s0 =>
      obtain rfl : id = id0 := arr_holder_unique huq hm he1 hp1 hs0 he0 hpe
      exact hst

end Atree.Deep

import AtreeProofs.Props.C10Deep
import AtreeProofs.World.PersistScenario
/-
  Non-vacuity of `Props/C10Deep.lean`: the depth-3 world `t7` of `World/OkScenario.lean`
  (T = 256; root array `R` ∋ map `M` INLINED in `R` ∋ array `A`, wrapped once, INLINED in `M`, holding
  the value 1), reached by the history `HeapScenario.hist7`.  `Array.Set(0, 9)` through the handle
  of `A` overwrites the value by one of the SAME SIZE:
  * the shallow content of the only heap slab `R` does not change (`shallow_same`): its single
    element is `{80, ref M}` before and after — the case the shallow accounts of C09W do not see;
  * its deep content does (`deep_differs`): the storable of that element embeds `M`, which embeds `A`;
  * `C10Deep.arrSet_deepStored` applies (`scenario_deepStored`) and yields that `R` was stored
    (`scenario_stored`), which is what the run of the model shows (`scenario_log`).
-/
namespace Atree.DeepScenario
open Atree Gen World Codec
open Atree.OkScenario Atree.HeapScenario Atree.PersistScenario
open Atree.Scenario (okW eq_okW okE eq_okE w0 cx0 ok_triple)
open Atree.C09 (newEffects)

/-- `Array.Set(0, 9)` through the handle of `A` (depth 3, everything inlined in `R`) -/
def tS : Elem × World × Ctx := okE (t7.1.arrSetS A 0 (pl 9) t7.2)

/-- equality of two array DATA slabs of the heap, as a Boolean (no global `DecidableEq` instance is
    introduced) -/
def wsEq : Option WSlab → Option WSlab → Bool
  | some (.arr (.data a) t), some (.arr (.data b) u) =>
    decide (a.hdr = b.hdr) && decide (a.next = b.next) && decide (a.elems = b.elems) &&
      decide (a.root = b.root) && decide (a.inlined = b.inlined) && decide (t = u)
  | _, _ => false

theorem wsEq_sound {x y : Option WSlab} (h : wsEq x y = true) : x = y := by
  unfold wsEq at h
  split at h
  · rename_i a t b u
    simp only [Bool.and_eq_true, decide_eq_true_eq] at h
    obtain ⟨⟨⟨⟨⟨h1, h2⟩, h3⟩, h4⟩, h5⟩, h6⟩ := h
    obtain ⟨ah, an, ae, ar, ai⟩ := a
    obtain ⟨bh, bn, be, br, bi⟩ := b
    simp only at h1 h2 h3 h4 h5
    subst h1; subst h2; subst h3; subst h4; subst h5; subst h6
    rfl
  · cases h

/-- the element of `R` that refers to the inlined map `M` -/
def eM : Elem := { size := 80, pay := .ref M }

mutual
/-- the plain values embedded in a storable, to depth `n` -/
def leaves : Nat → Stor → List Nat
  | 0, _ => []
  | _ + 1, .val _ p => [p]
  | _ + 1, .ref _ => []
  | n + 1, .some s => leaves n s
  | n + 1, .arr _ _ es => es.flatMap (leaves n)
  | n + 1, .map _ _ els => leavesM n els
def leavesS : Nat → SEl → List Nat
  | 0, _ => []
  | n + 1, .mk k v => leaves n k ++ leaves n v
def leavesE : Nat → MEl → List Nat
  | 0, _ => []
  | n + 1, .single e => leavesS n e
  | n + 1, .inl els => leavesM n els
  | _ + 1, .ext _ => []
def leavesM : Nat → MEls → List Nat
  | 0, _ => []
  | n + 1, .hkey _ _ es => es.flatMap (leavesE n)
  | n + 1, .single _ es => es.flatMap (leavesS n)
end

/-- one evaluation of the run: the operation succeeds from a world with `T = 256`; the slab `R` has
    the same shallow content before and after, its single element is `eM`; the storable of `eM`
    embeds the key 1 of `M` and the value held by `A`: 1 before, 9 after; the log is `[store R]` -/
theorem checksS :
    ((t7.1.arrSetS A 0 (pl 9) t7.2).toBool = true ∧ t7.1.T = 256) ∧
    wsEq (tS.2.1.slabAt R) (t7.1.slabAt R) = true ∧
    (t7.1.slabAt R).map C10Persist.slabElems = some [eM] ∧
    leaves 20 (t7.1.stor eM) = [1, 1] ∧ leaves 20 (tS.2.1.stor eM) = [1, 9] ∧
    newEffects t7.2 tS.2.2 = [.store R] ∧ C09.newCreated t7.2 tS.2.2 = [] := by
  decide +kernel

theorem runS : t7.1.arrSet A 0 (pl 9) t7.2 = .ok tS := by
  rw [arrSet_eq_S]; exact eq_okE _ checksS.1.1

theorem hvS : WValOk t7.1 A (maxInlineArr t7.1.T) (pl 9) := plOkAt _ A checksS.1.2 9

/-- `C10Deep.arrSet_deepStored` applies to the run -/
theorem scenario_deepStored : WC.DeepStoredC t7.1 tS.2.1 (newEffects t7.2 tS.2.2) :=
  C10Deep.arrSet_deepStored D hist7 ok7.2 hvS (ok_triple runS)

theorem shallow_same : tS.2.1.slabAt R = t7.1.slabAt R := wsEq_sound checksS.2.1

theorem elems_R : (t7.1.slabAt R).map C10Persist.slabElems = some [eM] := checksS.2.2.1

theorem leaves_before : leaves 20 (t7.1.stor eM) = [1, 1] := checksS.2.2.2.1
theorem leaves_after : leaves 20 (tS.2.1.stor eM) = [1, 9] := checksS.2.2.2.2.1

theorem deep_differs : tS.2.1.stor eM ≠ t7.1.stor eM := by
  intro h
  have := congrArg (leaves 20) h
  rw [leaves_before, leaves_after] at this
  cases this

/-- hence: the slab `R` — in the heap before and after with the same shallow content — was stored -/
theorem scenario_stored : lastAction (newEffects t7.2 tS.2.2) R = some true := by
  have h1 := elems_R
  cases hs : t7.1.slabAt R with
  | none => rw [hs] at h1; cases h1
  | some s =>
    rw [hs] at h1
    simp only [Option.map_some, Option.some.injEq] at h1
    refine scenario_deepStored R s (by rw [shallow_same]; exact hs) hs ?_
    intro hsame
    exact deep_differs (hsame eM (by rw [h1]; exact List.mem_singleton.2 rfl))

/-- … which is what the run of the model shows: the log of the operation is `[store R]` -/
theorem scenario_log : newEffects t7.2 tS.2.2 = [.store R] := checksS.2.2.2.2.2.1

/-- the log of the operation is a complete account of the DEEP content (`C10Deep.deepC_complete`
    applies: shallow account `C09W.arrSet_effects_complete`, deep account `scenario_deepStored`) -/
theorem scenario_complete :
    C10Persist.Complete (C10Deep.deepC t7.1) (C10Deep.deepC tS.2.1) (newEffects t7.2 tS.2.2) := by
  have hc := (C09W.arrSet_effects_complete D _ _ _ _ _ _ _ _ (C10W.worldOk'_of_worldOk ok7.1) step7.2 hvS (ok_triple runS)).2.1
  have hcr : C09.newCreated t7.2 tS.2.2 = [] := checksS.2.2.2.2.2.2
  exact C10Deep.deepC_complete
    (Eq.subst (motive := fun l => WEffectsComplete t7.1 tS.2.1 (newEffects t7.2 tS.2.2) l) hcr hc) scenario_deepStored

end Atree.DeepScenario

import AtreeProofs.WorldCodec.DeepDefs
/-
  What the storable `World.stor e` of a stored element depends on.

  `World.storOf` descends from an element `{size, ref x}` into the container `x` only when `x` is
  INLINED, and then renders the elements `inlElems x` of its single root slab.  So `stor e` is a
  function of the entries `cont? x` of the containers reached from `e` through inlined containers
  (`DRef`), and of a container that is NOT inlined only the fact that it is not inlined matters
  (`StorSame`).

  * `storOf_congr` / `stor_congr` — two worlds that agree (`StorSame`) on every container reached from
    `e` (chain followed in the NEW world) give the same storable;
  * `stor_congr_conts`          — in particular two worlds with the same table of containers;
  * `not_deepSame`              — contrapositive, slab form: if the deep content of a slab differs,
    some container reached from the slab's local elements has a different entry, and is inlined in
    one of the two worlds (or appears / disappears).
-/
namespace Atree.Deep
open Atree Gen World Codec

/-- the elements the embedded form (`Codec.contStor`) of a single-slab container renders: the
    elements of the root data slab; for a map those stored locally in it (the values of an external
    collision group are in the group's own slab) -/
def inlElems : Cont → List Elem
  | .arr ⟨0, (s : DataSlab), _⟩ => s.elems
  | .arr ⟨_ + 1, _, _⟩ => []
  | .map ⟨0, (s : MDataSlab 3), _, _, _⟩ => C10Persist.localVals 4 s.elems
  | .map ⟨_ + 1, _, _, _, _⟩ => []

/-- container `x` is referenced by an element of `es`, or by a locally stored element of a
    container that is INLINED in `w` and embedded (recursively) in an element of `es`.
    `x` itself may be inlined or standalone. -/
inductive DRef (w : World) : List Elem → SlabID → Prop
  | direct {es : List Elem} {e : Elem} {x : SlabID} : e ∈ es → e.pay = .ref x → DRef w es x
  | nested {es : List Elem} {e : Elem} {y x : SlabID} {cy : Cont} : e ∈ es → e.pay = .ref y →
      w.cont? y = some cy → cy.isInlined = true → DRef w (inlElems cy) x → DRef w es x

/-- the entry of container `x` is the same in both worlds as far as `stor` can see: the same entry,
    or a standalone container in both -/
def StorSame (w w' : World) (x : SlabID) : Prop :=
  w'.cont? x = w.cont? x ∨
  ∃ c c', w.cont? x = some c ∧ w'.cont? x = some c' ∧ c.isInlined = false ∧ c'.isInlined = false

theorem StorSame.of_eq {w w' : World} {x : SlabID} (h : w'.cont? x = w.cont? x) : StorSame w w' x := Or.inl h

theorem DRef.mono {w : World} {es es' : List Elem} {x : SlabID} (h : DRef w es x) (hs : ∀ e ∈ es, e ∈ es') :
    DRef w es' x := by
  cases h with
  | direct h1 h2 => exact DRef.direct (hs _ h1) h2
  | nested h1 h2 h3 h4 h5 => exact DRef.nested (hs _ h1) h2 h3 h4 h5

theorem DRef.last {w : World} {es : List Elem} {x : SlabID} (h : DRef w es x) :
    (∃ e ∈ es, e.pay = .ref x) ∨
    (∃ z cz, DRef w es z ∧ w.cont? z = some cz ∧ cz.isInlined = true ∧ ∃ e ∈ inlElems cz, e.pay = .ref x) := by
  induction h with
  | direct h1 h2 => exact Or.inl ⟨_, h1, h2⟩
  | @nested es e y x cy h1 h2 h3 h4 _ ih =>
    right
    rcases ih with ⟨e', he', hp⟩ | ⟨z, cz, hz, hcz, hi, e', he', hp⟩
    · exact ⟨y, cy, DRef.direct h1 h2, h3, h4, e', he', hp⟩
    · exact ⟨z, cz, DRef.nested h1 h2 h3 h4 hz, hcz, hi, e', he', hp⟩

theorem DRef.snoc {w : World} {es : List Elem} {z x : SlabID} {cz : Cont} {e : Elem} (h : DRef w es z)
    (hcz : w.cont? z = some cz) (hi : cz.isInlined = true) (he : e ∈ inlElems cz) (hp : e.pay = .ref x) :
    DRef w es x := by
  induction h with
  | direct h1 h2 => exact DRef.nested h1 h2 hcz hi (DRef.direct he hp)
  | nested h1 h2 h3 h4 _ ih => exact DRef.nested h1 h2 h3 h4 (ih hcz)

theorem DRef.congr {w w' : World} {es : List Elem} {x : SlabID} (h : DRef w es x)
    (hc : ∀ z, DRef w es z → w'.cont? z = w.cont? z) : DRef w' es x := by
  induction h with
  | direct h1 h2 => exact DRef.direct h1 h2
  | @nested es e y x cy h1 h2 h3 h4 h5 ih =>
    refine DRef.nested h1 h2 (by rw [hc y (DRef.direct h1 h2)]; exact h3) h4 (ih ?_)
    intro z hz
    exact hc z (DRef.nested h1 h2 h3 h4 hz)

theorem melsOf_congr {re re' : Elem → Stor} : ∀ (r : Nat) (els : MElems r),
    (∀ v ∈ C10Persist.localVals r els, re v = re' v) → melsOf re r els = melsOf re' r els
  | 0, (se : SingleElems), h => by
    show Codec.MEls.single se.level (se.elems.map (selOf re)) = .single se.level (se.elems.map (selOf re'))
    congr 1
    apply List.map_congr_left
    intro x hx
    have : re x.val = re' x.val := h x.val (by
      show x.val ∈ se.elems.map (·.val)
      exact List.mem_map.2 ⟨x, hx, rfl⟩)
    simp only [selOf, this]
  | r + 1, (he : HkeyElems (MElems r)), h => by
    show Codec.MEls.hkey he.level he.hkeys (he.elems.map (melOf re (melsOf re r))) =
      .hkey he.level he.hkeys (he.elems.map (melOf re' (melsOf re' r)))
    congr 1
    apply List.map_congr_left
    intro el hel
    have hsub : ∀ v, v ∈ (match el with
        | .single x => [x.val]
        | .inl g => C10Persist.localVals r g
        | .ext _ _ _ => []) → re v = re' v := by
      intro v hv
      apply h v
      show v ∈ he.elems.flatMap _
      exact List.mem_flatMap.2 ⟨el, hel, hv⟩
    cases el with
    | single x =>
      have : re x.val = re' x.val := hsub x.val (by simp)
      simp only [melOf, selOf, this]
    | inl g =>
      simp only [melOf]
      rw [melsOf_congr r g (fun v hv => hsub v hv)]
    | ext id sz g => rfl

theorem contStor_congr {re re' : Elem → Stor} (c : Cont) (h : ∀ e ∈ inlElems c, re e = re' e) :
    contStor re c = contStor re' c := by
  cases c with
  | arr a =>
    obtain ⟨d, root, ty⟩ := a
    cases d with
    | zero =>
      show Stor.arr _ _ ((root : DataSlab).elems.map re) = Stor.arr _ _ ((root : DataSlab).elems.map re')
      congr 1
      exact List.map_congr_left h
    | succ d => rfl
  | map m =>
    obtain ⟨d, root, ty, cnt, seed⟩ := m
    cases d with
    | zero =>
      show Stor.map _ _ (melsOf re 4 (root : MDataSlab 3).elems) = Stor.map _ _ (melsOf re' 4 (root : MDataSlab 3).elems)
      rw [melsOf_congr 4 _ h]
    | succ d => rfl

theorem storOf_congr {w w' : World} : ∀ (fuel : Nat) (e : Elem),
    (∀ x, DRef w' [e] x → StorSame w w' x) → storOf fuel w' e = storOf fuel w e := by
  intro fuel
  induction fuel with
  | zero =>
    intro e h
    obtain ⟨sz, pay⟩ := e
    cases pay with
    | val p => simp [storOf]
    | ref x =>
      rcases h x (DRef.direct (List.mem_singleton.2 rfl) rfl) with h1 | ⟨c, c', h1, h2, h3, h4⟩
      · simp only [storOf, h1]
      · simp only [storOf, h1, h2, h3, h4]
  | succ fuel ih =>
    intro e h
    obtain ⟨sz, pay⟩ := e
    cases pay with
    | val p => simp [storOf]
    | ref x =>
      rcases h x (DRef.direct (List.mem_singleton.2 rfl) rfl) with h1 | ⟨c, c', h1, h2, h3, h4⟩
      · cases hc : w.cont? x with
        | none => simp only [storOf, h1, hc]
        | some c =>
          have hc' : w'.cont? x = some c := by rw [h1, hc]
          cases hi : c.isInlined with
          | false => simp only [storOf, hc, hc', hi, Bool.false_eq_true, if_false]
          | true =>
            simp only [storOf, hc, hc', hi, if_true]
            congr 1
            apply contStor_congr
            intro e' he'
            apply ih
            intro z hz
            exact h z (DRef.nested (List.mem_singleton.2 rfl) rfl hc' hi (hz.mono (by
              intro e'' h''; rw [List.mem_singleton.1 h'']; exact he')))
      · simp only [storOf, h1, h2, h3, h4, Bool.false_eq_true, if_false]

theorem stor_congr {w w' : World} (e : Elem) (h : ∀ x, DRef w' [e] x → StorSame w w' x) :
    w'.stor e = w.stor e :=
  storOf_congr e.size e h

/-- the same table of containers, the same storables (`arrGet`, `mapGet`, `reopen`) -/
theorem stor_congr_conts {w w' : World} (h : ∀ z, w'.cont? z = w.cont? z) (e : Elem) : w'.stor e = w.stor e :=
  stor_congr e (fun x _ => Or.inl (h x))

/-- The first changed container on the chain (slab form): if the deep content of slab `s` differs in `w`
    and `w'`, some container reached from the local elements of `s` through containers inlined in
    `w'` has a different entry in the two worlds — and is not a standalone container in both. -/
theorem not_deepSame {w w' : World} {s : WSlab} (h : ¬ WC.DeepSame w w' s) :
    ∃ x, DRef w' (C10Persist.slabElems s) x ∧ ¬ StorSame w w' x := by
  apply Classical.byContradiction
  intro hno
  apply h
  intro e he
  apply stor_congr
  intro x hx
  apply Classical.byContradiction
  intro hns
  exact hno ⟨x, hx.mono (by intro e' h'; rw [List.mem_singleton.1 h']; exact he), hns⟩

theorem deepStoredC_of_conts {w w' : World} (h : ∀ z, w'.cont? z = w.cont? z) (E : List Eff) :
    WC.DeepStoredC w w' E := by
  intro id s _ _ hd
  exact absurd (fun e _ => stor_congr_conts h e) hd

end Atree.Deep

import AtreeProofs.World.DeepStor
import AtreeProofs.World.StoreHolderArr
import AtreeProofs.World.StoreHolderMap
import AtreeProofs.World.HeapCont
import AtreeProofs.WorldCodec.MElsOf
/-
  The local elements of a slab are elements of the container that owns it
  (no invariant needed), hence a chain `DRef` from a heap slab only meets containers that are HELD
  by a live container (`held_of_dref`); the relation `FormRel` between a container and the same
  container after an inline / un-inline transition.
-/
namespace Atree.Deep
open Atree Gen World Codec

theorem group_sub_toList {r : Nat} (s : MDataSlab r) (id : SlabID) (g : GroupSlab (MElems r))
    (h : (id, MSlabView.group g) ∈ s.groupSlabs) : ∀ v ∈ C10Persist.localVals r g.elems, v ∈ (MTree.toList 0 s).map (·.2) := by
  intro v hv
  simp only [MDataSlab.groupSlabs, List.mem_filterMap] at h
  obtain ⟨el, hel, heq⟩ := h
  cases el with
  | single x => cases heq
  | inl g0 => cases heq
  | ext id0 sz g0 =>
    simp only [Option.some.injEq, Prod.mk.injEq, MSlabView.group.injEq] at heq
    obtain ⟨rfl, rfl⟩ := heq
    show v ∈ (HkeyElems.toList (MElems.ops r) s.elems).map (·.2)
    show v ∈ (s.elems.elems.flatMap (fun el => el.toList (MElems.ops r))).map (·.2)
    rw [List.map_flatMap]
    exact List.mem_flatMap.2 ⟨_, hel, WC.localVals_sub_toList r g0.elems v hv⟩

theorem mslabVals_sub : ∀ {r : Nat} (d : Nat) (t : MTree r d) (id : SlabID) (sv : MSlabView r),
    (id, sv) ∈ MTree.slabs d t → ∀ v ∈ mslabVals sv, v ∈ (MTree.toList d t).map (·.2)
  | r, 0, (s : MDataSlab r), id, sv, h, v, hv => by
    rw [mslabs_zero] at h
    rcases List.mem_cons.1 h with h | h
    · simp only [Prod.mk.injEq] at h
      obtain ⟨_, rfl⟩ := h
      exact WC.localVals_sub_toList (r + 1) s.elems v hv
    · have h' := h
      simp only [MDataSlab.groupSlabs, List.mem_filterMap] at h'
      obtain ⟨el, _, heq⟩ := h'
      cases el with
      | single x => cases heq
      | inl g0 => cases heq
      | ext id0 sz g0 =>
        simp only [Option.some.injEq, Prod.mk.injEq] at heq
        obtain ⟨rfl, rfl⟩ := heq
        exact group_sub_toList s _ g0 h v hv
  | r, d + 1, (m : MMetaSlab (MTree r d)), id, sv, h, v, hv => by
    rw [mslabs_succ] at h
    rcases List.mem_cons.1 h with h | h
    · simp only [Prod.mk.injEq] at h
      obtain ⟨_, rfl⟩ := h
      cases hv
    · obtain ⟨child, hc, hin⟩ := List.mem_flatMap.1 h
      show v ∈ (m.children.flatMap (MTree.toList d)).map (·.2)
      rw [List.map_flatMap]
      exact List.mem_flatMap.2 ⟨child, hc, mslabVals_sub d child id sv hin v hv⟩

theorem slabElems_sub {c : Cont} {id : SlabID} {s : WSlab} (h : (id, s) ∈ c.treeSlabs) :
    ∀ e ∈ C10Persist.slabElems s, e ∈ c.storedElems := by
  intro e he
  cases c with
  | arr a =>
    simp only [Cont.treeSlabs, List.mem_map] at h
    obtain ⟨p, hp, heq⟩ := h
    simp only [Prod.mk.injEq] at heq
    obtain ⟨rfl, rfl⟩ := heq
    obtain ⟨pid, ps⟩ := p
    cases ps with
    | data s0 => exact leaf_elems_sub a.d a.root pid s0 hp e he
    | index _ _ _ _ => cases he
  | map m =>
    simp only [Cont.treeSlabs, List.mem_map] at h
    obtain ⟨p, hp, heq⟩ := h
    simp only [Prod.mk.injEq] at heq
    obtain ⟨rfl, rfl⟩ := heq
    obtain ⟨pid, ps⟩ := p
    rw [slabElems_map] at he
    exact mslabVals_sub m.d m.root pid ps hp e he

theorem inlElems_sub (c : Cont) : ∀ e ∈ inlElems c, e ∈ c.storedElems := by
  intro e he
  cases c with
  | arr a =>
    obtain ⟨d, root, ty⟩ := a
    cases d with
    | zero => exact he
    | succ d => cases he
  | map m =>
    obtain ⟨d, root, ty, cnt, seed⟩ := m
    cases d with
    | zero => exact WC.localVals_sub_toList 4 (root : MDataSlab 3).elems e he
    | succ d => cases he

theorem holds_of_elem {w : World} {q x : SlabID} {qc : Cont} {e : Elem} (hq : w.cont? q = some qc)
    (he : e ∈ qc.storedElems) (hp : e.pay = .ref x) : World.Holds w q x :=
  ⟨qc, hq, by
    simp only [Cont.pays, List.mem_map]
    exact ⟨e, he, hp⟩⟩

theorem held_of_dref {w : World} {id : SlabID} {s : WSlab} {x : SlabID} (hs : w.HasSlab id s)
    (hx : DRef w (C10Persist.slabElems s) x) : ∃ q, World.Holds w q x := by
  obtain ⟨z, cz, hz, hm⟩ := hs
  rcases hx.last with ⟨e, he, hp⟩ | ⟨y, cy, _, hcy, _, e, he, hp⟩
  · exact ⟨z, holds_of_elem hz (slabElems_sub (cz.mem_slabs_treeSlabs _ hm) e he) hp⟩
  · exact ⟨y, holds_of_elem hcy (inlElems_sub cy e he) hp⟩

theorem DRef.congr_held {w w' : World} {id : SlabID} {s : WSlab} {x : SlabID} (hs : w.HasSlab id s)
    (hx : DRef w (C10Persist.slabElems s) x) (hc : ∀ z, (∃ q, World.Holds w q z) → w'.cont? z = w.cont? z) :
    DRef w' (C10Persist.slabElems s) x :=
  hx.congr (fun z hz => hc z (held_of_dref hs hz))

/-- `c'` is `c`, or `c` after `Inline` / `Uninline`: the form flipped, every slab but the root slab
    is the same, same value ID -/
def FormRel (c c' : Cont) : Prop :=
  c' = c ∨ (c'.isInlined = !c.isInlined ∧ c'.treeSlabs.tail = c.treeSlabs.tail ∧ c'.vid = c.vid)

theorem FormRel.refl (c : Cont) : FormRel c c := Or.inl rfl

theorem FormRel.tail {c c' : Cont} (h : FormRel c c') : c'.treeSlabs.tail = c.treeSlabs.tail := by
  rcases h with rfl | ⟨_, h, _⟩
  · rfl
  · exact h

theorem FormRel.vid {c c' : Cont} (h : FormRel c c') : c'.vid = c.vid := by
  rcases h with rfl | ⟨_, _, h⟩
  · rfl
  · exact h

theorem FormRel.of_inline {c c' : Cont} {id : SlabID} {cx cx' : Ctx} (h : c.inline id cx = .ok (c', cx')) :
    FormRel c c' := by
  obtain ⟨h1, h2, _, _⟩ := Cont.inline_ok h
  obtain ⟨h3, h4⟩ := Cont.inline_tail h
  exact Or.inr ⟨by rw [h1, h2]; rfl, h3, h4⟩

theorem FormRel.of_uninline {c c' : Cont} {id : SlabID} {cx cx' : Ctx} (h : c.uninline id cx = .ok (c', cx')) :
    FormRel c c' := by
  obtain ⟨h1, h2, _, _⟩ := Cont.uninline_ok h
  obtain ⟨h3, h4⟩ := Cont.uninline_tail h
  exact Or.inr ⟨by rw [h1, h2]; rfl, h3, h4⟩

theorem FormRel.eq_of_form {c c' : Cont} (h : FormRel c c') (hi : c'.isInlined = c.isInlined) : c' = c := by
  rcases h with h | ⟨h, _, _⟩
  · exact h
  · rw [hi] at h
    cases hc : c.isInlined <;> simp [hc] at h

theorem FormRel.slab_cases {c c' : Cont} (h : FormRel c c') {p : SlabID × WSlab} (hp : p ∈ c'.slabs) :
    p ∈ c.treeSlabs.tail ∨ (c' = c ∧ c.isInlined = false ∧ p ∈ c.treeSlabs) ∨
      (p.1 = c.vid ∧ c'.isInlined = false ∧ c.isInlined = true) := by
  rcases Bool.eq_false_or_eq_true c'.isInlined with hi' | hi'
  · rw [Cont.slabs_of_inlined hi'] at hp
    exact Or.inl (by rw [← h.tail]; exact hp)
  · rw [Cont.slabs_of_standalone hi'] at hp
    rcases h with rfl | ⟨h1, h2, h3⟩
    · exact Or.inr (Or.inl ⟨rfl, hi', hp⟩)
    · have hi : c.isInlined = true := by
        rw [hi'] at h1
        cases hc : c.isInlined <;> simp [hc] at h1 ⊢
      obtain ⟨x, hx⟩ := Cont.treeSlabs_cons c'
      rw [hx] at hp
      rcases List.mem_cons.1 hp with e | e
      · exact Or.inr (Or.inr ⟨by rw [e, h3], hi', hi⟩)
      · exact Or.inl (by rw [← h2]; exact e)

end Atree.Deep

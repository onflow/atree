import AtreeProofs.World.DeepSub
import AtreeProofs.World.HeapNotify
/-
  What a notification has to account for (`Track`), and the step of the chain
  in abstract form (`track_step`): the child `y` changes form, ONE core `set` on its parent `q`
  (which stores the slab holding the reference to `y` when `q` owns that slab: hypothesis `hold`),
  then the notification from `q` (induction hypothesis).
-/
namespace Atree.Deep
open Gen World Codec
open MapHolder (StoredSince Ext)

/-- container `y` is live and inlined in `w` -/
def Inl (w : World) (y : SlabID) : Prop := ∃ c, w.cont? y = some c ∧ c.isInlined = true

/-- What a notification from `y` accounts for.  `w`: the world in which the content of `y` has
    already changed but its parent has not been told yet; `w'`: the world after the notification.
    Every heap slab (present before and after with the same shallow content) from which — through
    containers inlined in `w'` — one reaches a container whose entry differs (`¬ StorSame`), or
    reaches `y` itself when `y` is inlined before or after, was stored since `cx`. -/
def Track (y : SlabID) (w : World) (cx : Ctx) (w' : World) (cx' : Ctx) : Prop :=
  ∀ id s, w'.HasSlab id s → w.HasSlab id s →
    (∃ x, DRef w' (C10Persist.slabElems s) x ∧ (¬ StorSame w w' x ∨ (x = y ∧ (Inl w y ∨ Inl w' y)))) →
    StoredSince cx cx' id

theorem storedSince_of_log {c c' : Ctx} {E : List Eff} {C : List (SlabID × Elem)} {id : SlabID} (h : Log c c' E C)
    (hl : lastAction E id = some true) : StoredSince c c' id :=
  ⟨E, h.eff, lastAction_true_mem hl⟩

theorem ext_of_log {c c' : Ctx} {E : List Eff} {C : List (SlabID × Elem)} (h : Log c c' E C) : Ext c c' := ⟨E, h.eff⟩

theorem ext_of_post {w w' : World} {cx cx' : Ctx} (h : Post w cx w' cx') : Ext cx cx' := by
  obtain ⟨E, C, hl, _⟩ := h
  exact ext_of_log hl

/-- the `kept` clause of the account, in membership form -/
theorem kept_of_post {w w' : World} {cx cx' : Ctx} (h : Post w cx w' cx') :
    ∀ id s, w'.HasSlab id s → w.HasSlab id s ∨ StoredSince cx cx' id := by
  obtain ⟨E, C, hl, ha, _⟩ := h
  intro id s hs
  rcases ha.kept id s hs with h1 | h1
  · exact Or.inl h1
  · exact Or.inr (storedSince_of_log hl h1)

theorem hasSlab_congr {w w' : World} (h : ∀ z, w'.cont? z = w.cont? z) {id : SlabID} {s : WSlab} (hs : w.HasSlab id s) :
    w'.HasSlab id s := by
  obtain ⟨x, c, hx, hm⟩ := hs
  exact ⟨x, c, by rw [h]; exact hx, hm⟩

theorem holder_unique {w : World} (hu : UniqueRef w) {p p' x : SlabID} (h : World.Holds w p x) (h' : World.Holds w p' x)
    (hx : (w.cont? x).isSome) : p = p' := by
  obtain ⟨pc, hpc, hm⟩ := h
  obtain ⟨pc', hpc', hm'⟩ := h'
  obtain ⟨i, hi⟩ := List.mem_iff_getElem?.1 hm
  obtain ⟨j, hj⟩ := List.mem_iff_getElem?.1 hm'
  exact (hu p p' pc pc' i j x hpc hpc' hi hj hx).1

theorem root_not_in_heap {w : World} {ctr : Nat} (H : HeapOk w ctr) {q : SlabID} {qc : Cont} (hq : w.cont? q = some qc)
    (hv : qc.vid = q) (hi : qc.isInlined = true) (s : WSlab) : ¬ w.HasSlab q s := by
  rintro ⟨z, cz, hz, hm⟩
  have h1 : q ∈ cz.heapIds := mem_keys_of_mem hm
  have h2 : q ∈ cz.treeIds := cz.heapIds_sub_treeIds q h1
  have h3 : q ∈ qc.treeIds := by rw [← hv]; exact qc.vid_mem_treeIds
  have hzq : z = q := H.own z cz q qc q hz hq h2 h3
  subst hzq
  rw [hq] at hz; cases hz
  rw [Cont.heapIds_of_inlined hi] at h1
  have hnd := H.nodup z qc hq
  rw [Cont.treeIds_cons] at hnd h1
  rw [hv] at hnd h1
  exact (List.nodup_cons.1 hnd).1 h1

theorem track_step {w w1 w2 w3 w' : World} {cx cx1 cx2 cx3 : Ctx} {y q : SlabID} {c1 qc qc' qc3 : Cont} {ctr : Nat}
    (hne : y ≠ q)
    (hheap : HeapOk w ctr) (hqv : qc.vid = q) (hq : w.cont? q = some qc)
    (h1o : ∀ z, z ≠ y → w1.cont? z = w.cont? z)
    (h2q : w2.cont? q = some qc') (h2o : ∀ z, z ≠ q → w2.cont? z = w1.cont? z)
    (hform : qc'.isInlined = qc.isInlined) (hnd' : qc'.treeIds.Nodup) (hqv' : qc'.vid = q)
    (hext1 : Ext cx cx1) (hext2 : Ext cx1 cx2) (hext3 : Ext cx2 cx3)
    (hold : ∀ id s, (id, s) ∈ qc'.treeSlabs → (qc.isInlined = true → id ≠ q) →
      (∃ e ∈ C10Persist.slabElems s, e.pay = .ref y) → StoredSince cx1 cx2 id)
    (htr : Track q w2 cx2 w3 cx3)
    (hkept : ∀ id s, w3.HasSlab id s → w2.HasSlab id s ∨ StoredSince cx2 cx3 id)
    (h3y : w3.cont? y = some c1) (h3q : w3.cont? q = some qc3) (hf3 : FormRel qc' qc3)
    (hu : UniqueRef w3) (hqy : World.Holds w3 q y)
    (hc' : ∀ z, w'.cont? z = w3.cont? z) :
    Track y w cx w' cx3 := by
  have hext12 : Ext cx cx2 := hext1.trans hext2
  intro id s hs' hs ⟨x, hx, hcase⟩
  have hs3 : w3.HasSlab id s := hasSlab_congr (fun z => (hc' z).symm) hs'
  have hx3 : DRef w3 (C10Persist.slabElems s) x := hx.congr (fun z _ => (hc' z).symm)
  rcases hkept id s hs3 with hs2 | hst
  case inr => exact StoredSince.after hext12 hst
  have fromIH : (∃ x, DRef w3 (C10Persist.slabElems s) x ∧
      (¬ StorSame w2 w3 x ∨ (x = q ∧ (Inl w2 q ∨ Inl w3 q)))) → StoredSince cx cx3 id :=
    fun h => StoredSince.after hext12 (htr id s hs3 hs2 h)
  have fromHold : (id, s) ∈ qc'.treeSlabs → (qc.isInlined = true → id ≠ q) →
      (∃ e ∈ C10Persist.slabElems s, e.pay = .ref y) → StoredSince cx cx3 id :=
    fun h1 h2 h3 => (StoredSince.after hext1 (hold id s h1 h2 h3)).mono hext3
  have hylive : (w3.cont? y).isSome := by rw [h3y]; rfl
  by_cases hxy : x = y
  · subst hxy
    rcases hx3.last with ⟨e, he, hp⟩ | ⟨z, cz, hz, hcz, hi, e, he, hp⟩
    · -- the slab holds the reference to `x` itself: it is a slab of `q`
      obtain ⟨z0, cz0, hz0, hm⟩ := hs3
      have hh0 : World.Holds w3 z0 x :=
        holds_of_elem hz0 (slabElems_sub (cz0.mem_slabs_treeSlabs _ hm) e he) hp
      have hz0q : z0 = q := holder_unique hu hh0 hqy hylive
      subst hz0q
      rw [h3q] at hz0; cases hz0
      rcases hf3.slab_cases hm with h1 | ⟨h1, h2, h3⟩ | ⟨h1, h2, h3⟩
      · refine fromHold (List.mem_of_mem_tail h1) (fun _ => ?_) ⟨e, he, hp⟩
        intro hid
        rw [Cont.treeIds_cons, hqv'] at hnd'
        exact (List.nodup_cons.1 hnd').1 (hid ▸ mem_keys_of_mem h1)
      · exact fromHold h3 (fun hi => by rw [hform] at h2; rw [h2] at hi; cases hi) ⟨e, he, hp⟩
      · exfalso
        have hid : id = z0 := by simpa [hqv'] using h1
        subst hid
        exact root_not_in_heap hheap hq hqv (by rw [← hform]; exact h3) s hs
    · -- through an inlined container `z`: it is `q`
      have hh0 : World.Holds w3 z x := holds_of_elem hcz (inlElems_sub cz e he) hp
      have hzq : z = q := holder_unique hu hh0 hqy hylive
      subst hzq
      exact fromIH ⟨z, hz, Or.inr ⟨rfl, Or.inr ⟨cz, hcz, hi⟩⟩⟩
  · have hns : ¬ StorSame w w' x := by
      rcases hcase with h | ⟨h, _⟩
      · exact h
      · exact absurd h hxy
    by_cases hxq : x = q
    · subst hxq
      refine fromIH ⟨x, hx3, Or.inr ⟨rfl, ?_⟩⟩
      rcases Bool.eq_false_or_eq_true qc.isInlined with hi | hi
      · exact Or.inl ⟨qc', h2q, by rw [hform]; exact hi⟩
      · rcases Bool.eq_false_or_eq_true qc3.isInlined with hi3 | hi3
        · exact Or.inr ⟨qc3, h3q, hi3⟩
        · exact absurd (Or.inr ⟨qc, qc3, hq, by rw [hc']; exact h3q, hi, hi3⟩) hns
    · refine fromIH ⟨x, hx3, Or.inl ?_⟩
      intro hss
      apply hns
      have e2 : w2.cont? x = w.cont? x := by rw [h2o x hxq, h1o x hxy]
      unfold StorSame at hss ⊢
      rw [hc' x, ← e2]
      exact hss

end Atree.Deep

import AtreeProofs.World.WPopForget
import AtreeProofs.World.ArrRef
import AtreeProofs.World.OpsArr
import AtreeProofs.World.OpsMisc
/-
  A DETACHED ROOT `x` (a live container nobody refers to: handed back by `Remove` / `Set`, or a popped
  child kept by the caller): the notification issued in the middle of an operation through its handle
  finds nothing (C11), so the operation writes `x` (and un-inlines the child of `x` it hands back, if
  any) and NOTHING ELSE — no other container, closure or index table, and no storage effect beyond
  those of the container-level operation on `x` itself.  `LocalAt`: the state at that notification;
  `SameBut`: what is untouched afterwards; one theorem per operation (`root_arrInsert_plain`,
  `root_arrRemove`, `root_arrSet_plain`, `root_mapRemove`, `root_mapSet_plain`, `root_setType`).
-/
namespace Atree
open Gen

namespace World

variable {D : SlabID → DigestFn 4} {rank : SlabID → Nat}

/-- A notification whose closure (if any) finds no slot that holds the notifier changes no container,
    no index, and no storage: it returns the world unchanged or only drops the closure. -/
theorem notify_finds_nothing {fuel : Nat} {w : World} {k : SlabID} {cx : Ctx} {w' : World} {cx' : Ctx}
    (hno : ∀ hi qc s el, AList.find? w.hinfo k = some hi → ¬ SlotFinds w k hi qc s el)
    (h : notifyParent fuel w k cx = .ok (w', cx')) :
    cx' = cx ∧ (w' = w ∨ w' = { w with hinfo := AList.erase w.hinfo k }) := by
  cases fuel with
  | zero => rw [notifyParent_zero] at h; cases h
  | succ fuel =>
    rcases notifyParent_succ_iff.mp h with ⟨_, rfl, rfl⟩ | ⟨hi, c, hh, _, ⟨_, rfl, rfl⟩ | ⟨_, ⟨rfl, rfl, _⟩ |
      ⟨qc, s, el, _, hf, _⟩⟩⟩
    · exact ⟨rfl, Or.inl rfl⟩
    · exact ⟨rfl, Or.inl rfl⟩
    · exact ⟨rfl, Or.inr rfl⟩
    · exact absurd hf (hno hi qc s el hh)

/-- the slot a closure finds holds the notifier -/
theorem WorldOkPK.finds_holds {w : World} {ctr : Nat} {K : SlabID → Prop} (H : WorldOkPK D rank K w ctr)
    {y : SlabID} {hi : HInfo} {qc : Cont} {s : Slot} {el : Elem} (hh : AList.find? w.hinfo y = some hi)
    (hf : SlotFinds w y hi qc s el) : Holds w hi.parent y :=
  hf.holds H.legal (H.filed hf.parent) H.closure hh

/-- `w1` differs from `w` only at the container `x` and at the index table of `x` (the state at the
    call of `notifyParent` inside an operation through the handle of `x`) -/
structure LocalAt (w w1 : World) (x : SlabID) : Prop where
  T : w1.T = w.T
  addr : w1.addr = w.addr
  hinfo : w1.hinfo = w.hinfo
  conts : ∀ z, z ≠ x → w1.cont? z = w.cont? z
  idx : ∀ q, q ≠ x → AList.find? w1.mutIdx q = AList.find? w.mutIdx q
  selfIdx : (AList.find? (w1.idxOf x) x).isSome → (AList.find? (w.idxOf x) x).isSome
  kind : ∀ a1, w1.cont? x = some (.arr a1) → ∃ a, w.cont? x = some (.arr a)

theorem LocalAt.idxOf {w w1 : World} {x : SlabID} (L : LocalAt w w1 x) {q : SlabID} (hq : q ≠ x) :
    w1.idxOf q = w.idxOf q := by
  unfold World.idxOf; rw [L.idx q hq]

theorem LocalAt.mcfg {w w1 : World} {x : SlabID} (L : LocalAt w w1 x) : w1.mcfg = w.mcfg :=
  mcfg_congr L.T L.addr

/-- In a valid world, the notification of a detached root `x` issued from a state that differs from
    the world only at `x` finds nothing.  `hmap`: not (the closure of `x` names `x` itself and `x`
    is a map) — automatic when `x` is an array. -/
theorem notify_noop_local {w w1 : World} {ctr : Nat} {K : SlabID → Prop} {x : SlabID} {fuel : Nat} {cx : Ctx}
    {w2 : World} {cx2 : Ctx}
    (H : WorldOkPK D rank K w ctr) (hx : DetachedRoot w x) (L : LocalAt w w1 x)
    (hmap : ∀ hi pm, AList.find? w.hinfo x = some hi → hi.parent = x → w1.cont? x = some (.map pm) → False)
    (h : notifyParent fuel w1 x cx = .ok (w2, cx2)) :
    cx2 = cx ∧ (w2 = w1 ∨ w2 = { w1 with hinfo := AList.erase w1.hinfo x }) := by
  refine notify_finds_nothing (fun hi qc s el hh hf => ?_) h
  rw [L.hinfo] at hh
  obtain ⟨hq, hso, hget, hel⟩ := hf
  by_cases hpk : hi.parent = x
  · -- the closure names `x` itself: an index of `x` for `x` would be one in `w`, where it holds a reference
    rw [hpk] at hq
    cases qc <;> cases s <;> first | exact hso.elim | skip
    · rename_i a1 i
      obtain ⟨a, ha⟩ := L.kind a1 hq
      have hso' : AList.find? (w1.idxOf hi.parent) x = some i := hso
      rw [hpk] at hso'
      obtain ⟨j, hj⟩ := Option.isSome_iff_exists.mp (L.selfIdx (by rw [hso']; rfl))
      exact hx.2 x ⟨_, ha, List.mem_of_getElem? (H.mutIdx x a ha x j hj id)⟩
    · exact hmap hi _ hh hpk hq
  · -- a parent other than `x` is as in `w`, where nothing holds `x`
    refine hx.2 _ (H.finds_holds hh ⟨(L.conts _ hpk).symm.trans hq, ?_, hget.congr L.mcfg.symm, hel⟩)
    cases qc <;> cases s <;> first | exact hso.elim | skip
    · exact (congrArg (AList.find? · x) (L.idxOf hpk)).symm.trans hso
    · exact hso

/-- the state at the notification inside `Array.Insert` / `Array.Remove` through the handle of `x` -/
theorem LocalAt.shift {w : World} {x : SlabID} {a : Arr} (hpa : w.cont? x = some (.arr a)) (a' : Arr) (f : Nat → Nat) :
    LocalAt w ((w.setCont x (.arr a')).shiftIdx x f) x := by
  refine ⟨rfl, rfl, rfl, fun z hz => ?_, fun q hq => ?_, fun hs => ?_, fun _ _ => ⟨a, hpa⟩⟩
  · rw [cont?_shiftIdx, cont?_setCont_ne _ _ _ _ hz]
  · simp only [World.shiftIdx, World.setIdx, mutIdx_setCont, AList.find?_insert, if_neg (Ne.symm hq)]
  · rw [find?_idxOf_shiftIdx, if_pos rfl] at hs
    cases h0 : AList.find? ((w.setCont x (.arr a')).idxOf x) x with
    | none => rw [h0] at hs; cases hs
    | some j => exact (by rw [idxOf_setCont] at h0; rw [h0]; rfl)

/-- the state at the notification inside an operation that only files a new content under `x` -/
theorem LocalAt.setCont {w : World} {x : SlabID} {c : Cont} (hc : w.cont? x = some c) (c' : Cont)
    (hk : c'.isArr = c.isArr) : LocalAt w (w.setCont x c') x := by
  refine ⟨rfl, rfl, rfl, fun z hz => cont?_setCont_ne _ _ _ _ hz, fun _ _ => rfl, fun hs => hs, fun a1 h1 => ?_⟩
  rw [cont?_setCont_self] at h1; cases h1
  cases c with
  | arr a => exact ⟨a, hc⟩
  | map m => cases hk

/-- every entry of every table other than those of `x` (and of `y`, if given) is the same -/
def SameBut (w w' : World) (x : SlabID) (y : Option SlabID) : Prop :=
  ∀ z, z ≠ x → some z ≠ y → w'.cont? z = w.cont? z ∧ AList.find? w'.hinfo z = AList.find? w.hinfo z ∧
    AList.find? w'.mutIdx z = AList.find? w.mutIdx z

/-- after the no-op notification alone -/
theorem sameBut_noop {w w1 w2 : World} {x : SlabID}
    (L : LocalAt w w1 x) (h2 : w2 = w1 ∨ w2 = { w1 with hinfo := AList.erase w1.hinfo x }) :
    SameBut w w2 x none := by
  intro z hzx _
  rcases h2 with rfl | rfl
  · exact ⟨L.conts z hzx, by rw [L.hinfo], L.idx z hzx⟩
  · refine ⟨L.conts z hzx, ?_, L.idx z hzx⟩
    show AList.find? (AList.erase _ x) z = _
    rw [AList.find?_erase, if_neg (Ne.symm hzx), L.hinfo]

/-- after the no-op notification and the un-inlining of the element handed back -/
theorem sameBut_after {w w1 w2 w3 : World} {x : SlabID} {old1 old : Elem} {ov : Option SlabID} {cx2 cx3 : Ctx}
    (L : LocalAt w w1 x) (h2 : w2 = w1 ∨ w2 = { w1 with hinfo := AList.erase w1.hinfo x })
    (hun : w2.uninlineIfNeeded old1 cx2 = .ok (old, ov, w3, cx3)) :
    (∀ y, ov = some y → old1.pay = .ref y) ∧
    (cx3 = cx2 ∨ ∃ y, ov = some y ∧ cx3 = cx2.emit (.store y)) ∧
    SameBut w w3 x ov := by
  obtain ⟨hpay, hh3, hm3, _, _, hcase⟩ := uninlineIfNeeded_ok hun
  have hc2 : ∀ z, w2.cont? z = w1.cont? z := by rcases h2 with rfl | rfl <;> intro z <;> rfl
  have hm2 : w2.mutIdx = w1.mutIdx := by rcases h2 with rfl | rfl <;> rfl
  have hh2 : ∀ z, z ≠ x → AList.find? w2.hinfo z = AList.find? w1.hinfo z := by
    intro z hz
    rcases h2 with rfl | rfl
    · rfl
    · show AList.find? (AList.erase _ x) z = _
      rw [AList.find?_erase, if_neg (Ne.symm hz)]
  have hc3 : ∀ z, some z ≠ ov → w3.cont? z = w2.cont? z := by
    intro z hz
    rcases hcase with ⟨_, _, rfl, _, _⟩ | ⟨y, c, hov, _, _, ⟨_, _, rfl, _⟩ | ⟨_, c', _, _, rfl, _, _⟩⟩
    · rfl
    · rfl
    · rw [hov] at hz
      exact cont?_setCont_ne _ _ _ _ (fun he => hz (by rw [he]))
  have hS : SameBut w w3 x ov := by
    intro z hzx hzy
    refine ⟨by rw [hc3 z hzy, hc2, L.conts z hzx], by rw [hh3, hh2 z hzx, L.hinfo], by rw [hm3, hm2, L.idx z hzx]⟩
  refine ⟨?_, ?_, hS⟩
  · intro y hy
    rcases hcase with ⟨h0, _⟩ | ⟨y', c, hov, hp, _⟩
    · rw [h0] at hy; cases hy
    · rw [hov] at hy; cases hy; exact hp
  · rcases hcase with ⟨_, _, _, h4, _⟩ | ⟨y, c, hov, _, _, ⟨_, _, _, h4⟩ | ⟨_, c', _, _, _, h4, _⟩⟩
    · exact Or.inl h4
    · exact Or.inl h4
    · exact Or.inr ⟨y, hov, h4⟩

/-- the index table of `x` itself does not count -/
theorem SameBut.setIdx {w w' : World} {x : SlabID} {y : Option SlabID} (h : SameBut w w' x y) (m : AList SlabID Nat) :
    SameBut w (w'.setIdx x m) x y := by
  intro z hzx hzy
  obtain ⟨a, b, c⟩ := h z hzx hzy
  refine ⟨a, b, ?_⟩
  show AList.find? (AList.insert w'.mutIdx x m) z = _
  rw [AList.find?_insert, if_neg (Ne.symm hzx)]
  exact c

/-- … where every container other than `x` keeps its signature (the child handed back is only un-inlined) -/
theorem sigFrame_after {w w1 w2 w3 : World} {x : SlabID} {old1 old : Elem} {ov : Option SlabID} {cx2 cx3 : Ctx}
    (L : LocalAt w w1 x) (h2 : w2 = w1 ∨ w2 = { w1 with hinfo := AList.erase w1.hinfo x })
    (hun : w2.uninlineIfNeeded old1 cx2 = .ok (old, ov, w3, cx3)) : SigFrame w w3 x := by
  intro z hz
  have hc2 : w2.cont? z = w.cont? z := by rcases h2 with rfl | rfl <;> exact L.conts z hz
  obtain ⟨_, _, _, _, _, hcase⟩ := uninlineIfNeeded_ok hun
  rcases hcase with ⟨_, _, rfl, _, _⟩ | ⟨y, c, _, _, hyc, ⟨_, _, rfl, _⟩ | ⟨_, c', hsd, _, rfl, _, _⟩⟩
  · rw [hc2]
  · rw [hc2]
  · by_cases hzy : z = y
    · subst hzy
      rw [cont?_setCont_self, ← hc2, hyc]
      simp only [Option.map_some, hsd.sig_eq]
    · rw [cont?_setCont_ne _ _ _ _ hzy, hc2]

/-- the un-inlining of the element handed back and the index bookkeeping at the end of `arrSet` -/
theorem arrSet_ok_cases {w : World} {p : SlabID} {i : Nat} {v : WVal} {cx : Ctx} {old : Elem} {w' : World} {cx' : Ctx}
    (h : w.arrSet p i v cx = .ok (old, w', cx')) :
    ∃ old1 w1 cx1 ov w2, arrSetRaw w.fuelOf w p i v cx = .ok (old1, w1, cx1) ∧
      w1.uninlineIfNeeded old1 cx1 = .ok (old, ov, w2, cx') ∧
      (ov = none → w' = w2) ∧
      (∀ o, ov = some o → (∀ wr, v ≠ .child o wr) → w' = w2.setIdx p (AList.erase (w2.idxOf p) o)) ∧
      (∀ o wr, ov = some o → v = .child o wr → w' = w2) := by
  obtain ⟨old1, w1, cx1, ov, w2, hraw, hun, rfl⟩ := arrSet_ok_iff.mp h
  refine ⟨old1, w1, cx1, ov, w2, hraw, hun, ?_, ?_, ?_⟩
  · rintro rfl; rfl
  · rintro o rfl hne
    cases v with
    | plain e => rfl
    | child nv wr =>
      have : (nv == o) = false := by
        rw [beq_eq_false_iff_ne]
        intro he; exact hne wr (by rw [he])
      simp only [this]; rfl
  · rintro o wr rfl rfl
    simp

/-- `Array.Insert` of a plain value through the handle of a detached root `k` (standalone, or an
    in-memory slab that was inlined in a container it has been popped from): the element is
    inserted, and nothing else changes — no other container, closure or index table. -/
theorem root_arrInsert_plain {w : World} {K : SlabID → Prop} {k : SlabID} {i : Nat} {e : Elem} {cx : Ctx}
    {w'' : World} {cx'' : Ctx}
    (H : WorldOkPK D rank K w cx.ctr) (hk : DetachedRoot w k) (he : ElemOk w.T e)
    (h : w.arrInsert k i (.plain e) cx = .ok (w'', cx'')) :
    ∃ a a'', w.cont? k = some (.arr a) ∧ w''.cont? k = some (.arr a'') ∧ i ≤ a.toList.length ∧
      a''.toList = a.toList.insertIdx i e ∧ w''.T = w.T ∧ w''.addr = w.addr ∧ cx.ctr ≤ cx''.ctr ∧
      SameBut w w'' k none := by
  obtain ⟨a, e1, w1, cx1, a', cx2, _, w3, hpa, _, hst, hins, rfl, hnp, rfl⟩ := arrInsert_ok_iff.mp h
  cases hst
  have hpok : ArrOk w.T a cx.ctr := H.conts k _ hpa
  obtain ⟨hi, hl, _, _, _, _, hctr2, _⟩ := hpok.insert_ok H.legal (StorOk.of_elemOk he) (H.arr_room hpa) hins
  rw [toStorable_fit _ _ e cx he.2] at hl
  simp only at hl
  have L := LocalAt.shift hpa a' (fun j => if j ≥ i then j + 1 else j)
  obtain ⟨hcx3, hw3⟩ := notify_noop_local H hk L
    (fun hi pm _ _ hpm => by rw [cont?_shiftIdx, cont?_setCont_self] at hpm; cases hpm) hnp
  have hc3 : w''.cont? k = some (.arr a') := by
    have : ((w.setCont k (.arr a')).shiftIdx k (fun j => if j ≥ i then j + 1 else j)).cont? k = some (.arr a') := by
      rw [cont?_shiftIdx, cont?_setCont_self]
    rcases hw3 with rfl | rfl <;> exact this
  exact ⟨a, a', hpa, hc3, hi, hl, by rcases hw3 with rfl | rfl <;> rfl, by rcases hw3 with rfl | rfl <;> rfl,
    by rw [hcx3]; exact hctr2, sameBut_noop L hw3⟩

/-- `Array.Remove` through the handle of a detached root `x`: the list-level result in `x`; every
    other container, closure and index table — except the child of `x` handed back, which is
    un-inlined — is untouched; the storage effects are those of the array-level removal on `x`,
    plus the storing of the child handed back if it was inlined. -/
theorem root_arrRemove {w : World} {K : SlabID → Prop} {x : SlabID} {i : Nat} {cx : Ctx} {old : Elem}
    {w' : World} {cx' : Ctx}
    (H : WorldOkPK D rank K w cx.ctr) (hx : DetachedRoot w x)
    (h : w.arrRemove x i cx = .ok (old, w', cx')) :
    ∃ a a' old1 cx1 ov, w.cont? x = some (.arr a) ∧ a.remove w.T i cx = .ok (old1, a', cx1) ∧
      a.toList[i]? = some old1 ∧ a'.toList = a.toList.eraseIdx i ∧ old.pay = old1.pay ∧
      (∀ y, ov = some y → old1.pay = .ref y) ∧
      (cx' = cx1 ∨ ∃ y, ov = some y ∧ cx' = cx1.emit (.store y)) ∧
      SameBut w w' x ov := by
  obtain ⟨a, old1, a', cx1, _, w2, cx2, ov, w3, hpa, hrem, rfl, hnp, hun, rfl⟩ := arrRemove_ok_iff.mp h
  have hpok : ArrOk w.T a cx.ctr := H.conts x _ hpa
  obtain ⟨hold1, hl, _⟩ := hpok.remove_ok H.legal hrem
  have L := LocalAt.shift hpa a' (fun j => if j > i then j - 1 else j)
  obtain ⟨hcx2, hw2⟩ := notify_noop_local H hx L
    (fun hi pm _ _ hpm => by rw [cont?_shiftIdx, cont?_setCont_self] at hpm; cases hpm) hnp
  obtain ⟨hov, hcx3, hS⟩ := sameBut_after L hw2 hun
  obtain ⟨hpay, _⟩ := uninlineIfNeeded_ok hun
  refine ⟨a, a', old1, cx1, ov, hpa, hrem, hold1, hl, hpay, hov, by rw [← hcx2]; exact hcx3, ?_⟩
  cases ov with
  | none => exact hS
  | some y => exact hS.setIdx _

/-- `Array.Set` of a plain value through the handle of a detached root `x`: as `root_arrRemove`. -/
theorem root_arrSet_plain {w : World} {K : SlabID → Prop} {x : SlabID} {i : Nat} {e : Elem} {cx : Ctx} {old : Elem}
    {w' : World} {cx' : Ctx}
    (H : WorldOkPK D rank K w cx.ctr) (hx : DetachedRoot w x) (he : ElemOk w.T e)
    (h : w.arrSet x i (.plain e) cx = .ok (old, w', cx')) :
    ∃ a a' old1 cx1 ov, w.cont? x = some (.arr a) ∧ a.set w.T i e cx = .ok (old1, a', cx1) ∧
      a.toList[i]? = some old1 ∧ a'.toList = a.toList.set i e ∧ old.pay = old1.pay ∧
      (∀ y, ov = some y → old1.pay = .ref y) ∧
      (cx' = cx1 ∨ ∃ y, ov = some y ∧ cx' = cx1.emit (.store y)) ∧
      SameBut w w' x ov := by
  obtain ⟨old1, w1, cxr, ov, w2, hraw, hun, hnone, hsome, _⟩ := arrSet_ok_cases h
  obtain ⟨a, e1, ws, cxs, a', cx1, w3, hpa, _, hst, hset, hnp, hw1⟩ := arrSetRaw_ok_iff.mp hraw
  cases hst
  cases hw1
  have hpok : ArrOk w.T a cx.ctr := H.conts x _ hpa
  obtain ⟨hold1, hl, _⟩ := hpok.set_ok H.legal (StorOk.of_elemOk he) (H.arr_room hpa) hset
  rw [toStorable_fit _ _ e cx he.2] at hl
  simp only at hl
  have L : LocalAt w (w.setCont x (.arr a')) x := LocalAt.setCont hpa _ rfl
  obtain ⟨hcx3, hw3⟩ := notify_noop_local H hx L
    (fun hi pm _ _ hpm => by rw [cont?_setCont_self] at hpm; cases hpm) hnp
  have hun' : w3.uninlineIfNeeded old1 cxr = .ok (old, ov, w2, cx') := hun
  obtain ⟨hov, hcx', hS0⟩ := sameBut_after L hw3 hun'
  obtain ⟨hpay, _⟩ := uninlineIfNeeded_ok hun'
  refine ⟨a, a', old1, cx1, ov, hpa, hset, hold1, hl, hpay, hov, by rw [← hcx3]; exact hcx', ?_⟩
  cases ov with
  | none => rw [hnone rfl]; exact hS0
  | some y => rw [hsome y rfl (fun wr hne => by cases hne)]; exact hS0.setIdx _

/-- `OrderedMap.Remove` through the handle of a detached root `x` (a map): every other container,
    closure and index table — except the child of `x` handed back, which is un-inlined — is
    untouched; the storage effects are those of the map-level removal on `x`, plus the storing of
    the child handed back if it was inlined.  `hself`: the closure of `x` does not name `x` itself
    (closures are installed by the holder of the child; not a clause of the invariant). -/
theorem root_mapRemove {w : World} {K : SlabID → Prop} {x : SlabID} {k : MKey} {cx : Ctx} {rk : MKey} {rv : Elem}
    {w' : World} {cx' : Ctx} {ctr : Nat}
    (H : WorldOkPK D rank K w ctr) (hx : DetachedRoot w x)
    (hself : ∀ hi, AList.find? w.hinfo x = some hi → hi.parent ≠ x)
    (h : w.mapRemove x k cx = .ok (rk, rv, w', cx')) :
    ∃ m m' rv1 cx1 ov, w.cont? x = some (.map m) ∧ m.remove w.mcfg k cx = .ok (rk, rv1, m', cx1) ∧
      rv.pay = rv1.pay ∧ (∀ y, ov = some y → rv1.pay = .ref y) ∧
      (cx' = cx1 ∨ ∃ y, ov = some y ∧ cx' = cx1.emit (.store y)) ∧
      SameBut w w' x ov := by
  obtain ⟨m, rv1, m', cx1, w2, cx2, ov, hpm, hrem, hnp, hun⟩ := mapRemove_ok_iff.mp h
  have L : LocalAt w (w.setCont x (.map m')) x := LocalAt.setCont hpm _ rfl
  obtain ⟨hcx2, hw2⟩ := notify_noop_local H hx L (fun hi pm hh hpk _ => hself hi hh hpk) hnp
  obtain ⟨hov, hcx3, hS⟩ := sameBut_after L hw2 hun
  obtain ⟨hpay, _⟩ := uninlineIfNeeded_ok hun
  exact ⟨m, m', rv1, cx1, ov, hpm, hrem, hpay, hov, by rw [← hcx2]; exact hcx3, hS⟩

/-- `OrderedMap.Set` of a plain value through the handle of a detached root `x` (a map): as
    `root_mapRemove`; moreover no other container's signature changes. -/
theorem root_mapSet_plain {w : World} {K : SlabID → Prop} {x : SlabID} {k : MKey} {e : Elem} {cx : Ctx}
    {old : Option Elem} {w' : World} {cx' : Ctx} {ctr : Nat}
    (H : WorldOkPK D rank K w ctr) (hx : DetachedRoot w x)
    (hself : ∀ hi, AList.find? w.hinfo x = some hi → hi.parent ≠ x)
    (h : w.mapSet x k (.plain e) cx = .ok (old, w', cx')) :
    SigFrame w w' x ∧
    ∃ m m' old1 cx1 ov, w.cont? x = some (.map m) ∧ m.set w.mcfg k e cx = .ok (old1, m', cx1) ∧
      old.map (·.pay) = old1.map (·.pay) ∧ (∀ y, ov = some y → ∃ o, old1 = some o ∧ o.pay = .ref y) ∧
      (cx' = cx1 ∨ ∃ y, ov = some y ∧ cx' = cx1.emit (.store y)) ∧
      SameBut w w' x ov := by
  obtain ⟨old1, w3, cx3, hraw, hcase⟩ := mapSet_ok_iff.mp h
  obtain ⟨m, e1, ws, cxs, m', cx1, w4, hpm, hst, hset, hnp, hw3⟩ := mapSetRaw_ok_iff.mp hraw
  cases hst
  cases hw3
  have L : LocalAt w (w.setCont x (.map m')) x := LocalAt.setCont hpm _ rfl
  obtain ⟨hcx4, hw4⟩ := notify_noop_local H hx L (fun hi pm hh hpk _ => hself hi hh hpk) hnp
  rcases hcase with ⟨rfl, rfl, rfl, rfl⟩ | ⟨o, o', ov, rfl, rfl, hun⟩
  · have hS := sameBut_noop L hw4
    exact ⟨SigFrame.of_conts (fun z hz => (hS z hz (fun h => by cases h)).1),
      m, m', none, cx1, none, hpm, hset, rfl, (fun y hy => by cases hy), Or.inl hcx4, hS⟩
  · have hun' : w4.uninlineIfNeeded o cx3 = .ok (o', ov, w', cx') := hun
    obtain ⟨hov, hcx5, hS⟩ := sameBut_after L hw4 hun'
    obtain ⟨hpay, _⟩ := uninlineIfNeeded_ok hun'
    exact ⟨sigFrame_after L hw4 hun', m, m', some o, cx1, ov, hpm, hset, by simp [hpay],
      fun y hy => ⟨o, rfl, hov y hy⟩, by rw [← hcx4]; exact hcx5, hS⟩

/-- `SetType` through the handle of a STANDALONE detached root `x` (in a world that satisfies
    `WorldOk'` every detached root is standalone): only the type field of `x` changes; the only
    storage effect is the storing of the root slab of `x`. -/
theorem root_setType {w : World} {x : SlabID} {ty : Nat} {cx : Ctx} {w' : World} {cx' : Ctx} {c : Cont}
    (hc : w.cont? x = some c) (hst : c.isInlined = false) (h : w.setType x ty cx = .ok (w', cx')) :
    (∃ c', w' = w.setCont x c' ∧ c'.storedElems = c.storedElems ∧ c'.vid = c.vid ∧ c'.isInlined = false) ∧
    cx' = cx.emit (.store c.vid) ∧
    (∀ z, z ≠ x → w'.cont? z = w.cont? z) ∧ w'.hinfo = w.hinfo ∧ w'.mutIdx = w.mutIdx := by
  obtain ⟨c0, c', cx1, hc0, hk, hrun⟩ := setType_ok_iff.mp h
  cases hc.symm.trans hc0
  obtain ⟨hsd, hinl, _⟩ := setType_retag hk
  rcases hrun with ⟨hi, _⟩ | ⟨_, rfl, rfl⟩
  · rw [hst] at hi; cases hi
  · refine ⟨⟨c', rfl, hsd.storedElems, hsd.vid, hinl.trans hst⟩, ?_, fun z hz => cont?_setCont_ne _ _ _ _ hz, rfl, rfl⟩
    -- a standalone container is stored again under its root identifier
    rcases hk with ⟨a, rfl, _, rfl⟩ | ⟨m, rfl, _, rfl⟩
    · simp only [Arr.setType, show a.isInlined = false from hst]; rfl
    · simp only [OMap.setType, show m.isInlined = false from hst]; rfl

end World
end Atree

import AtreeProofs.World.Shape
import AtreeProofs.World.RootStable
/-
  Every operation that forgets and creates nothing keeps the set of known containers, the
  configuration, and the value ID of every container (`DomRel`): a core operation keeps the root ID
  (`ContStep.vid`), the other elementary steps do not touch the containers.
-/
namespace Atree
open Gen

theorem ContStep.vid {T : Nat} {cfg : MCfg} {id : SlabID} {c c' : Cont} {cx cx' : Ctx}
    (h : ContStep T cfg id c cx c' cx') : c'.vid = c.vid := by
  cases h with
  | arrSet h => exact Arr.set_rootID h
  | arrInsert h => exact Arr.insert_rootID h
  | arrRemove h => exact Arr.remove_rootID h
  | arrPop a cx => rfl
  | arrSetType a ty cx => rfl
  | mapSet h => exact OMap.set_rootID h
  | mapRemove h => exact OMap.remove_rootID h
  | mapPop m cx => rfl
  | mapSetType m ty cx => rfl
  | form cx hs _ => exact hs.vid

namespace World

/-- `w'` knows the same containers as `w`, under the same configuration, each with its value ID -/
structure DomRel (w w' : World) : Prop where
  T : w'.T = w.T
  addr : w'.addr = w.addr
  isSome : ∀ v, (w'.cont? v).isSome = (w.cont? v).isSome
  vid : ∀ {v c c'}, w.cont? v = some c → w'.cont? v = some c' → c'.vid = c.vid

theorem DomRel.refl (w : World) : DomRel w w :=
  ⟨rfl, rfl, fun _ => rfl, fun h1 h2 => by rw [h1] at h2; cases h2; rfl⟩

theorem DomRel.trans {w1 w2 w3 : World} (h12 : DomRel w1 w2) (h23 : DomRel w2 w3) : DomRel w1 w3 := by
  refine ⟨h23.T.trans h12.T, h23.addr.trans h12.addr, fun v => (h23.isSome v).trans (h12.isSome v), ?_⟩
  intro v c c' h1 h3
  have hs := h12.isSome v
  rw [h1] at hs
  cases h2 : w2.cont? v with
  | none => rw [h2] at hs; cases hs
  | some c2 => exact (h23.vid h2 h3).trans (h12.vid h1 h2)

theorem DomRel.keeps_isSome {w w' : World} (h : DomRel w w') {v : SlabID}
    (hv : (w.cont? v).isSome) : (w'.cont? v).isSome := by
  rw [h.isSome v]; exact hv

theorem DomRel.idsOk {w w' : World} (h : DomRel w w') (hids : IdsOk w) : IdsOk w' := by
  intro v c' hv
  have hs := h.isSome v
  rw [hv] at hs
  cases h1 : w.cont? v with
  | none => rw [h1] at hs; cases hs
  | some c => rw [h.vid h1 hv]; exact hids v c h1

theorem DomRel.setCont {w : World} {p : SlabID} {c c' : Cont} (hp : w.cont? p = some c)
    (hvid : c'.vid = c.vid) : DomRel w (w.setCont p c') := by
  refine ⟨rfl, rfl, ?_, ?_⟩
  · intro v
    rw [cont?_setCont]
    split
    · rename_i hpv; subst hpv; simp [hp]
    · rfl
  · intro v c1 c2 h1 h2
    rw [cont?_setCont] at h2
    split at h2
    · rename_i hpv; subst hpv
      rw [hp] at h1; cases h1; cases h2; exact hvid
    · rw [h1] at h2; cases h2; rfl

theorem DomRel.of_conts {w w' : World} (hT : w'.T = w.T) (ha : w'.addr = w.addr)
    (hc : w'.conts = w.conts) : DomRel w w' := by
  have : ∀ v, w'.cont? v = w.cont? v := fun v => by simp [cont?, hc]
  refine ⟨hT, ha, fun v => by rw [this], fun {v _ _} h1 h2 => ?_⟩
  rw [this v, h1] at h2; cases h2; rfl

theorem DomRel.estep {w : World} {cx : Ctx} {w' : World} {cx' : Ctx} (h : EStep .mut w cx w' cx') :
    DomRel w w' := by
  cases h with
  | cont hp hs hc => exact DomRel.setCont hp (hc.vid.trans hs.vid.symm)
  | shift => exact DomRel.of_conts rfl rfl rfl
  | eraseIdx => exact DomRel.of_conts rfl rfl rfl
  | clearIdx => exact DomRel.of_conts rfl rfl rfl
  | cbArr _ _ _ _ v => cases v <;> exact DomRel.of_conts rfl rfl rfl
  | cbMap _ _ _ _ v => cases v <;> exact DomRel.of_conts rfl rfl rfl
  | eraseHinfo => exact DomRel.of_conts rfl rfl rfl

theorem DomRel.steps {w : World} {cx : Ctx} {w' : World} {cx' : Ctx} (h : Steps OnlyMut w cx w' cx') :
    DomRel w w' :=
  h.lift (R := fun w _ w' _ => DomRel w w') (fun _ _ => DomRel.refl _) DomRel.trans
    (fun hk e => by cases hk; exact DomRel.estep e)

end World
end Atree

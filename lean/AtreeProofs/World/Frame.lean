import AtreeProofs.World.Chain
/-
  Frame of a notification in a World whose parent pointers (`hinfo`) are acyclic (`notify_frame`, by
  induction along the chain): a notification from `y` changes `y` only in form (inline /
  standalone), and otherwise only containers that are strictly above `y`, and their index tables.
  Acyclicity is expressed by a rank function that strictly decreases from child to parent.
-/
namespace Atree
open Gen

namespace World

/-- the parent pointers go strictly down in rank: no container is its own ancestor -/
def RankOk (rank : SlabID → Nat) (w : World) : Prop :=
  ∀ y hi, AList.find? w.hinfo y = some hi → rank hi.parent < rank y

/-- same entry of the container table up to the form of the root slab -/
def OSame : Option Cont → Option Cont → Prop
  | none, none => True
  | some c, some c' => Cont.SameData c c'
  | _, _ => False

theorem OSame.refl (o : Option Cont) : OSame o o := by
  cases o with
  | none => trivial
  | some c => exact Cont.SameData.refl c

theorem OSame.of_eq {o o' : Option Cont} (h : o' = o) : OSame o o' := by subst h; exact OSame.refl _

theorem OSame.trans {a b c : Option Cont} (h1 : OSame a b) (h2 : OSame b c) : OSame a c := by
  cases a <;> cases b <;> cases c <;> simp only [OSame] at h1 h2 ⊢
  exact h1.trans h2

theorem OSame.get_some {o' : Option Cont} {c : Cont} (h : OSame (some c) o') :
    ∃ c', o' = some c' ∧ Cont.SameData c c' := by
  cases o' with
  | none => simp [OSame] at h
  | some c' => exact ⟨c', rfl, h⟩

theorem RankOk.of_hinfo {rank : SlabID → Nat} {w w' : World} (h : RankOk rank w) (hh : w'.hinfo = w.hinfo) :
    RankOk rank w' := by
  intro y hi hy; rw [hh] at hy; exact h y hi hy

theorem RankOk.erase {rank : SlabID → Nat} {w : World} (h : RankOk rank w) (x : SlabID) :
    RankOk rank { w with hinfo := AList.erase w.hinfo x } := by
  intro y hi hy
  simp only [AList.find?_erase] at hy
  split at hy
  · cases hy
  · exact h y hi hy

theorem RankOk.install {rank : SlabID → Nat} {w : World} (h : RankOk rank w) (p : SlabID) (s : Slot) (v : WVal)
    (hv : ∀ z wrap, v = .child z wrap → rank p < rank z) : RankOk rank (w.install p s v) := by
  cases v with
  | plain e => cases s <;> exact h
  | child z wrap =>
    intro y hi hy
    rw [hinfo_install] at hy
    split at hy
    · rename_i hzy; subst hzy; cases hy; exact hv _ _ rfl
    · exact h y hi hy

theorem storableOf_frame {w : World} {v : WVal} {lim : Nat} {cx : Ctx}
    {e : Elem} {w' : World} {cx' : Ctx} (h : w.storableOf v lim cx = .ok (e, w', cx')) :
    w'.hinfo = w.hinfo ∧ w'.mutIdx = w.mutIdx ∧ w'.T = w.T ∧ w'.addr = w.addr ∧
    (∀ z, (∀ wrap, v ≠ .child z wrap) → w'.cont? z = w.cont? z) ∧
    (∀ z, OSame (w.cont? z) (w'.cont? z)) := by
  cases v with
  | plain e0 =>
    simp only [World.storableOf] at h; cases h
    exact ⟨rfl, rfl, rfl, rfl, fun _ _ => rfl, fun _ => OSame.refl _⟩
  | child x wrap =>
    obtain ⟨h1, h2, h3, h4, h5, ⟨c, c', hc, hc', hs⟩, _⟩ := childStorable_frame h
    refine ⟨h1, h2, h3, h4, fun z hz => h5 z (fun hzx => hz wrap (by rw [hzx])), fun z => ?_⟩
    by_cases hzx : z = x
    · subst hzx; rw [hc, hc']; exact hs
    · exact OSame.of_eq (h5 z hzx)

/-- Frame of a notification when the parent pointers are acyclic (`rank` decreases along them): the
    pointers stay acyclic; the containers that are not below `y` in rank, other than `y`, are untouched;
    `y` keeps its data; the index tables of `y` and of what is not below it are untouched.  One link
    of the chain writes the parent, which is strictly below. -/
theorem notify_frame {rank : SlabID → Nat} {fuel : Nat} {w : World} {y : SlabID} {cx : Ctx} {w' : World} {cx' : Ctx}
    (hr : RankOk rank w) (h : notifyParent fuel w y cx = .ok (w', cx')) :
    RankOk rank w' ∧ (∀ z, z ≠ y → rank y ≤ rank z → w'.cont? z = w.cont? z) ∧ OSame (w.cont? y) (w'.cont? y) ∧
      ∀ z, rank y ≤ rank z → AList.find? w'.mutIdx z = AList.find? w.mutIdx z := by
  refine notify_induction
    (M := fun w y _ w' _ => RankOk rank w → RankOk rank w' ∧
      (∀ z, z ≠ y → rank y ≤ rank z → w'.cont? z = w.cont? z) ∧ OSame (w.cont? y) (w'.cont? y) ∧
      ∀ z, rank y ≤ rank z → AList.find? w'.mutIdx z = AList.find? w.mutIdx z)
    (fun _ _ hr => ⟨hr, fun _ _ _ => rfl, OSame.refl _, fun _ _ => rfl⟩)
    (fun _ _ _ _ _ hr => ⟨hr, fun _ _ _ => rfl, OSame.refl _, fun _ _ => rfl⟩)
    (fun {_ y _ _} _ _ _ _ hr => ⟨hr.erase y, fun _ _ _ => rfl, OSame.refl _, fun _ _ => rfl⟩)
    ?_ fuel h hr
  intro w y cx hi c qc s el e w1 cx1 old qc' cx2 w3 cx3 hh _ _ _ hst _ _ _ ih hr
  have hrk : rank hi.parent < rank y := hr y hi hh
  have hst' : w.storableOf (.child y hi.wrap) (s.lim w.T) cx = .ok (e, w1, cx1) := hst
  obtain ⟨f1, f2, _, _, f5, f6⟩ := storableOf_frame hst'
  obtain ⟨r1, r2, _, r4⟩ := ih (hr.of_hinfo (w' := w1.setCont hi.parent qc') f1)
  have hyp : y ≠ hi.parent := fun he => by rw [← he] at hrk; exact Nat.lt_irrefl _ hrk
  refine ⟨r1.install hi.parent s _ (fun z wrap hz => by cases hz; exact hrk), fun z hzy hrz => ?_, ?_,
    fun z hrz => ?_⟩
  · have hzp : z ≠ hi.parent := fun he => by rw [he] at hrz; omega
    rw [cont?_install, r2 z hzp (by omega), cont?_setCont_ne _ _ _ _ hzp,
      f5 z (fun wrap hz => by cases hz; exact hzy rfl)]
  · rw [cont?_install, r2 y hyp (Nat.le_of_lt hrk), cont?_setCont_ne _ _ _ _ hyp]
    exact f6 y
  · have hzp : z ≠ hi.parent := fun he => by rw [he] at hrz; omega
    have : AList.find? (w3.install hi.parent s (.child y hi.wrap)).mutIdx z = AList.find? w3.mutIdx z := by
      cases s with
      | idx i => simp only [install, World.setCallbackArr, World.setIdx, AList.find?_insert, if_neg (Ne.symm hzp)]
      | key k => simp only [install, mutIdx_setCallbackMap]
    rw [this, r4 z (by omega), mutIdx_setCont, f2]

/-- The end of a notification that overwrites the slot of `x` in its parent `p`: `x` was made
    storable (`w → w1`), the parent's new container `pc` was filed and the parent's own ancestors
    were notified (`→ w3`).  `x` is below `p`, so it still has the form `childStorable` chose;
    the parent has the data of `pc`. -/
theorem notify_slot_tail {rank : SlabID → Nat} {fuel : Nat} {w w1 w3 : World} {x p : SlabID} {c pc : Cont}
    {wrap lim : Nat} {cx cx1 cx2 cx3 : Ctx} {e : Elem}
    (hacyc : RankOk rank w) (hrk : rank p < rank x) (hc : w.cont? x = some c)
    (hst : w.childStorable x wrap lim cx = .ok (e, w1, cx1))
    (hnp : notifyParent fuel (w1.setCont p pc) p cx2 = .ok (w3, cx3)) :
    ∃ c1 pc', w3.cont? x = some c1 ∧ w3.cont? p = some pc' ∧ Cont.SameData c c1 ∧ Cont.SameData pc pc' ∧
      c1.isInlined = c.inlinable (lim - 2 * wrap) ∧ e = { size := World.slotSize c1 wrap, pay := .ref x } := by
  have hxp : x ≠ p := by intro he; rw [he] at hrk; exact Nat.lt_irrefl _ hrk
  obtain ⟨c1, hsd, hinl, he, hcase⟩ := childStorable_ok hc hst
  have hc1 : w1.cont? x = some c1 := by
    rcases hcase with ⟨_, h2, h3, _⟩ | ⟨_, h3, _⟩
    · rw [h3, h2]; exact hc
    · rw [h3]; exact cont?_setCont_self _ _ _
  obtain ⟨_, g2, g3, _⟩ := notify_frame (hacyc.of_hinfo (w' := w1.setCont p pc) (childStorable_frame hst).1) hnp
  rw [cont?_setCont_self] at g3
  obtain ⟨pc', hpc', hsp⟩ := g3.get_some
  exact ⟨c1, pc', by rw [g2 x hxp (Nat.le_of_lt hrk), cont?_setCont_ne _ _ _ _ hxp]; exact hc1, hpc', hsd, hsp,
    hinl, he⟩

/-- The notification reaches the parent (array or map): if the closure of `x` still finds `x` in the
    slot `s` of its parent, then after `notifyParentIfNeeded` the slot refers to `x` with the size of
    `x`'s current form, and `x` is inline exactly when it fits the budget recorded.  `hmax`: the budget
    captured by the callback is the one the parent's `set` recomputes; `hacyc`: the parent pointers are
    acyclic; `hset`: setting the slot to a reference and reading it back gives that reference. -/
theorem notify_updates_parent {fuel : Nat} {w : World} {x : SlabID} {hi : HInfo} {cx : Ctx} {c qc : Cont} {s : Slot}
    {el : Elem} (hh : AList.find? w.hinfo x = some hi) (hc : w.cont? x = some c) (hid : c.vid = x)
    (hf : SlotFinds w x hi qc s el) (hmax : hi.maxInline = s.lim w.T - 2 * hi.wrap)
    {rank : SlabID → Nat} (hacyc : RankOk rank w)
    (hset : ∀ (e : Elem) (c0 : Ctx) (old : Option Elem) (qc' : Cont) (c1 : Ctx), e.pay = .ref x →
      SlotSet w qc s e c0 old qc' c1 → SlotGet w qc' s e)
    {w' : World} {cx' : Ctx} (h : notifyParent (fuel + 1) w x cx = .ok (w', cx')) :
    ∃ c' qc', w'.cont? x = some c' ∧ w'.cont? hi.parent = some qc' ∧
      ((∃ a a', qc = .arr a ∧ qc' = .arr a') ∨ (∃ m m', qc = .map m ∧ qc' = .map m')) ∧ c'.vid = x ∧
      c'.storedElems = c.storedElems ∧
      (c.isInlined = false ∧ c.inlinable hi.maxInline = false → w' = w ∧ cx' = cx) ∧
      (¬ (c.isInlined = false ∧ c.inlinable hi.maxInline = false) →
        c'.isInlined = c.inlinable hi.maxInline ∧
        ∃ el', SlotGet w qc' s el' ∧ el'.pay = .ref x ∧ el'.size = World.slotSize c' hi.wrap) := by
  have hrk : rank hi.parent < rank x := hacyc x hi hh
  rcases notifyParent_succ_iff.mp h with ⟨hnone, _⟩ | ⟨hi', c', hh', hc', hcase⟩
  · rw [hh] at hnone; cases hnone
  cases hh.symm.trans hh'
  cases hc.symm.trans hc'
  rcases hcase with ⟨hstay, rfl, rfl⟩ | ⟨hnst, ⟨_, _, hl⟩ | ⟨qc1, s1, el1, old, hf1, hsr, _⟩⟩
  · have hkind : (∃ a a', qc = .arr a ∧ qc = .arr a') ∨ (∃ m m', qc = .map m ∧ qc = .map m') := by
      cases qc
      · exact .inl ⟨_, _, rfl, rfl⟩
      · exact .inr ⟨_, _, rfl, rfl⟩
    exact ⟨c, qc, hc, hf.parent, hkind, hid, rfl, fun _ => ⟨rfl, rfl⟩, fun hn => absurd hstay hn⟩
  · exact absurd hf (hl.not_finds qc s el)
  · cases hf.parent.symm.trans hf1.parent
    -- the closure names one slot
    have hs1 : s1 = s := by
      obtain ⟨_, h1, _⟩ := hf1
      obtain ⟨_, h2, _⟩ := hf
      cases qc <;> cases s <;> cases s1 <;> first | exact h1.elim | exact h2.elim | skip
      · cases h1.symm.trans h2; rfl
      · cases h1.symm.trans h2; rfl
    subst hs1
    obtain ⟨qc0, e, w1, cx1, qc', cx2, w3, hq, hst, hs, hnp, rfl⟩ := hsr
    cases hf.parent.symm.trans hq
    rw [storableOf_child] at hst
    obtain ⟨c1, pc', hc1, hpc', hsd, hsp, hinl, he⟩ := notify_slot_tail hacyc hrk hc hst hnp
    obtain ⟨_, _, fT, fA, _⟩ := childStorable_frame hst
    have hg : SlotGet w pc' s1 e := by
      have := hset e cx1 _ qc' cx2 (by rw [he]) (hs.congr fT.symm fA.symm)
      cases qc' <;> cases pc' <;> cases s1 <;> first | exact hsp.elim | exact this.elim | skip
      · exact (hsp.2.2 _).trans this
      · obtain ⟨k', hk'⟩ := this
        exact ⟨k', (hsp.2.2 _ _).trans hk'⟩
    have hkind : (∃ a a', qc = .arr a ∧ pc' = .arr a') ∨ (∃ m m', qc = .map m ∧ pc' = .map m') := by
      cases qc <;> cases s1 <;> cases qc' <;> cases pc' <;> first | exact hs.elim | exact hsp.elim | skip
      · exact .inl ⟨_, _, rfl, rfl⟩
      · exact .inr ⟨_, _, rfl, rfl⟩
    exact ⟨c1, pc', by rw [cont?_install]; exact hc1, by rw [cont?_install]; exact hpc', hkind,
      hsd.vid.trans hid, hsd.storedElems, fun hs => absurd hs hnst,
      fun _ => ⟨by rw [hinl, hmax], e, hg, by rw [he], by rw [he]⟩⟩

end World

/-- the premise `hset` of `notify_updates_parent` for an array parent with a single element (the scenarios
    of C10): setting slot 0 to a reference and reading it back gives that reference -/
theorem Arr.set_get_single (T ty : Nat) (s : DataSlab) (e0 : Elem) (hs : s.elems = [e0])
    (e : Elem) (r : SlabID) (he : e.pay = .ref r) (c0 : Ctx) (old : Elem) (a' : Arr) (c1 : Ctx)
    (h : Arr.set T ⟨0, s, ty⟩ 0 e c0 = .ok (old, a', c1)) : a'.get 0 = .ok e := by
  unfold Arr.set at h
  simp only [ATree.set, DataSlab.set, hs, List.getElem?_cons_zero, toStorable_ref T _ e c0 r he,
    List.set_cons_zero, bind, Except.bind] at h
  split at h
  · -- full: the root split fails on a single element
    exfalso
    unfold Arr.splitRoot at h
    simp [ATree.split, DataSlab.split, ATree.setId, ATree.setRoot, bind, Except.bind] at h
  · simp only [pure, Except.pure, Arr.promoteIfSingleChild] at h
    cases h
    rfl

end Atree

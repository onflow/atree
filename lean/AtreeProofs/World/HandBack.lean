import AtreeProofs.World.HandleKeep
import AtreeProofs.World.StepMisc
import AtreeProofs.World.Shape
/-
  The hand-back phase of a mutation (`arrSet`, `arrRemove`, `mapSet`,
  `mapRemove`): `uninlineIfNeeded` turns the (now unreferenced) container into a standalone one,
  its index entry is dropped, and it is settled.
-/
namespace Atree
open Gen

namespace World

variable {D : SlabID → DigestFn 4} {rank : SlabID → Nat}

theorem ClosureAt.holds {w : World} {x : SlabID} {hi : HInfo} {lim : Nat} {e : Elem}
    (h : ClosureAt w x hi lim e) : Holds w hi.parent x := by
  rcases h with ⟨pa, i, hpa, _, hge, hpay, _⟩ | ⟨pm, k, hpm, _, hmem, hpay, _⟩
  · refine ⟨_, hpa, ?_⟩
    rw [Cont.pays, Cont.storedElems]
    exact List.mem_map.mpr ⟨e, List.mem_of_getElem? hge, hpay⟩
  · refine ⟨_, hpm, ?_⟩
    rw [Cont.pays, Cont.storedElems]
    exact List.mem_map.mpr ⟨e, List.mem_map.mpr ⟨_, hmem, rfl⟩, hpay⟩

theorem WorldOkGen.idx_sub {w w' : World} {ctr : Nat} {O : SlabID → Prop}
    (H : WorldOkGen D rank none O w ctr) (hT : w'.T = w.T) (ha : w'.addr = w.addr)
    (hc : ∀ z, w'.cont? z = w.cont? z) (hh : w'.hinfo = w.hinfo)
    (hidx : ∀ q z (j : Nat), AList.find? (w'.idxOf q) z = some j → AList.find? (w.idxOf q) z = some j) :
    WorldOkGen D rank none O w' ctr := by
  have hS : ContsSig w w' := ⟨hT, fun q => by rw [hc]⟩
  refine H.of_sig hS (Nat.le_refl _) (fun x hi hx => by rw [← hh]; exact hx) hidx
    (fun z cz hz => (H.filed ((hc z).symm.trans hz)).congr hT ha (Nat.le_refl _)) ?_
    (fun z cz hz hi hO => hS.inlRef_of H.inlRef ((hc z).symm.trans hz) hi hO) ?_
  · intro p pc hp le hle x c hx hcx
    rw [hc] at hp hcx
    rw [hT] at hle
    obtain ⟨wr, h1, h2, h3, h4⟩ := H.slots p pc hp le hle x c hx hcx
    refine ⟨wr, h1, h2, h3, ?_⟩
    intro hi hO hhi hca
    rw [hh] at hhi
    refine h4 hi hO hhi ?_
    rcases hca with ⟨pa, i, hpa, hi2, hge, hpay, hlim⟩ | ⟨pm, k, hpm, hk, hmem, hpay, hlim⟩
    · exact Or.inl ⟨pa, i, by rw [← hc]; exact hpa, hidx _ _ _ hi2, hge, hpay, by rw [hlim, hT]⟩
    · exact Or.inr ⟨pm, k, by rw [← hc]; exact hpm, hk, hmem, hpay, by rw [hlim, hT]⟩
  · intro q a hq x i hi hO
    rw [hc] at hq
    exact H.mutIdx q a hq x i (hidx q x i hi) hO

/-- The value handed back is settled: if it refers to a container, `uninlineIfNeeded` makes it a
    standalone one; `w5` is the world after the caller-side clean-up of the index table. -/
theorem finish_old {w3 w5 : World} {ctr : Nat} {old : Elem}
    (H3 : WorldOkGen D rank none (fun z => old.pay = .ref z) w3 ctr)
    (hunref : ∀ z, old.pay = .ref z → (w3.cont? z).isSome → ∀ q, ¬ Holds w3 q z)
    {cx3 : Ctx} {old' : Elem} {ov : Option SlabID} {w4 : World} {cx4 : Ctx}
    (hun : w3.uninlineIfNeeded old cx3 = .ok (old', ov, w4, cx4))
    (hT5 : w5.T = w4.T) (ha5 : w5.addr = w4.addr) (hc5 : ∀ z, w5.cont? z = w4.cont? z) (hh5 : w5.hinfo = w4.hinfo)
    (hidx5 : ∀ q z (j : Nat), AList.find? (w5.idxOf q) z = some j → AList.find? (w4.idxOf q) z = some j)
    (hnoidx5 : ∀ z, old.pay = .ref z → ∀ q a (j : Nat), w5.cont? q = some (.arr a) →
      AList.find? (w5.idxOf q) z = some j → False) :
    WorldOkGen D rank none (fun _ => False) w5 ctr ∧
      (∀ z, old.pay ≠ .ref z → w4.cont? z = w3.cont? z) ∧
      (∀ z c, old.pay = .ref z → w3.cont? z = some c → ∃ c', w4.cont? z = some c' ∧ c'.isInlined = false ∧
        Cont.SameData c c') ∧
      w4.T = w3.T ∧ w4.hinfo = w3.hinfo ∧ w4.mutIdx = w3.mutIdx ∧ ContsSig w3 w4 ∧ old'.pay = old.pay ∧
      cx4.ctr = cx3.ctr := by
  obtain ⟨hpay, hh4, hm4, hT4, ha4, hcase⟩ := uninlineIfNeeded_ok hun
  have key : ∃ (_ : WorldOkGen D rank none (fun z => old.pay = .ref z) w4 ctr),
      (∀ z, old.pay ≠ .ref z → w4.cont? z = w3.cont? z) ∧
      (∀ z c, old.pay = .ref z → w3.cont? z = some c → ∃ c', w4.cont? z = some c' ∧ c'.isInlined = false ∧
        Cont.SameData c c') := by
    rcases hcase with ⟨_, _, h3, _, hnone⟩ | ⟨x, c, _, hx, hc, ⟨hi, _, h3, _⟩ | ⟨hi, c', hsd, hi', h3, _, _⟩⟩
    · subst h3
      exact ⟨H3, fun _ _ => rfl, fun z c hz hc => (by rw [hnone z hz] at hc; cases hc)⟩
    · subst h3
      refine ⟨H3, fun _ _ => rfl, fun z c0 hz hc0 => ?_⟩
      rw [hx] at hz; cases hz
      rw [hc] at hc0; cases hc0
      exact ⟨c, hc, hi, Cont.SameData.refl c⟩
    · subst h3
      have hok' : ContOk w3.T (D x) ctr c' := by
        have hokc := H3.conts x c hc
        unfold World.uninlineIfNeeded at hun
        rw [hx] at hun
        simp only [hc, hi, if_true] at hun
        split at hun
        · cases hun
        · rename_i c2 cx2 hun2
          cases hun
          exact contOk_uninline H3.legal hokc (H3.band x c hc hi) hun2
      have H4 := step_childform (w1 := w3.setCont x c') H3 hc (hunref x hx (by rw [hc]; rfl)) hsd hok'
        (fun h => by rw [hi'] at h; cases h)
        rfl rfl rfl rfl (cont?_setCont_self _ _ _) (fun z hz => cont?_setCont_ne _ _ _ _ hz)
      refine ⟨H4.congr_O (fun z => ⟨fun h => h.elim id (fun h' => by rw [h']; exact hx), Or.inl⟩),
        fun z hz => cont?_setCont_ne _ _ _ _ (fun h => hz (by rw [h]; exact hx)), fun z c0 hz hc0 => ?_⟩
      rw [hx] at hz; cases hz
      rw [hc] at hc0; cases hc0
      exact ⟨c', cont?_setCont_self _ _ _, hi', hsd⟩
  obtain ⟨H4, f1, f2⟩ := key
  have hS34 := ContsSig.of_uninlineIfNeeded hun
  have H5 : WorldOkGen D rank none (fun z => old.pay = .ref z) w5 ctr :=
    H4.idx_sub hT5 ha5 hc5 hh5 hidx5
  have hunref5 : ∀ z, old.pay = .ref z → (w5.cont? z).isSome → ∀ q, ¬ Holds w5 q z := by
    intro z hz hzs q hq
    obtain ⟨qc, hqc, hm⟩ := hq
    rw [hc5] at hqc
    rw [hc5, hS34.isSome] at hzs
    exact hunref z hz hzs q ((hS34.holds_iff q z).mp ⟨qc, hqc, hm⟩)
  have hctr4 : cx4.ctr = cx3.ctr := uninlineIfNeeded_ctr hun
  refine ⟨H5.shrink ?_ ?_ ?_, f1, f2, hT4, hh4, hm4, hS34, hpay, hctr4⟩
  · intro z cz hz _ hcz hi
    exfalso
    rw [hc5] at hcz
    obtain ⟨c3, hc3⟩ : ∃ c3, w3.cont? z = some c3 := by
      have := hS34.isSome z
      rw [hcz] at this
      exact Option.isSome_iff_exists.mp this.symm
    obtain ⟨c', hc', hni, _⟩ := f2 z c3 hz hc3
    rw [hcz] at hc'; cases hc'
    rw [hi] at hni; cases hni
  · intro z hz _ q a j hq hj
    exact absurd (hnoidx5 z hz q a j hq hj) id
  · intro z cz hz _ hcz hi lim e _ hca
    exact absurd hca.holds (hunref5 z hz (by rw [hcz]; rfl) _)

/-- the clean-up only drops the entry of the old child -/
theorem eraseOld_keep (w : World) (p : SlabID) (ov : Option SlabID) (q z : SlabID)
    (h : ∀ o, ov = some o → o ≠ z) :
    AList.find? ((eraseOld w p ov).idxOf q) z = AList.find? (w.idxOf q) z := by
  cases ov with
  | none => rfl
  | some o =>
    simp only [eraseOld, idxOf_setIdx]
    split
    · rename_i hpq; subst hpq
      rw [AList.find?_erase, if_neg (h o rfl)]
    · rfl

theorem eraseOld_facts (w : World) (p : SlabID) (ov : Option SlabID) :
    (eraseOld w p ov).T = w.T ∧ (eraseOld w p ov).addr = w.addr ∧ (∀ z, (eraseOld w p ov).cont? z = w.cont? z) ∧
    (eraseOld w p ov).hinfo = w.hinfo ∧
    (∀ q z (j : Nat), AList.find? ((eraseOld w p ov).idxOf q) z = some j → AList.find? (w.idxOf q) z = some j) ∧
    (∀ q z, q ≠ p → AList.find? ((eraseOld w p ov).idxOf q) z = AList.find? (w.idxOf q) z) ∧
    (∀ o, ov = some o → AList.find? ((eraseOld w p ov).idxOf p) o = none) := by
  cases ov with
  | none => exact ⟨rfl, rfl, fun _ => rfl, rfl, fun _ _ _ h => h, fun _ _ _ => rfl, fun o h => by cases h⟩
  | some o =>
    refine ⟨rfl, rfl, fun _ => rfl, rfl, ?_, ?_, ?_⟩
    · intro q z j h
      simp only [eraseOld, idxOf_setIdx] at h
      split at h
      · rename_i hpq; subst hpq
        rw [AList.find?_erase] at h
        split at h
        · cases h
        · exact h
      · exact h
    · intro q z hq
      simp only [eraseOld, idxOf_setIdx, if_neg (Ne.symm hq)]
    · intro o' h
      cases h
      simp only [eraseOld, idxOf_setIdx, if_true, AList.find?_erase]

/-- the container handed back is a root afterwards: its handle is current -/
theorem HandedBack.handleOk {w w' : World} {old : Elem} (h : HandedBack w w' old) {z : SlabID}
    (hz : old.pay = .ref z) (hl : (w.cont? z).isSome) : HandleOk w' z := by
  obtain ⟨c, hc⟩ := Option.isSome_iff_exists.mp hl
  obtain ⟨_, _, _, _, _, hr⟩ := h z c hz hc
  exact HandleOk.root z hr

/-- The element `old` sat in slot `i` of `p` in the world `w` before the operation; in `w3` nobody
    refers to it any more, the containers it may refer to are as in `w`, and the index tables other
    than that of `p` are those of `w`.  It is handed back: `uninlineIfNeeded`, then the clean-up of
    the index table of `p` (`ov' = ov`; a map has no index table and there is no clean-up: `ov' = none`). -/
theorem finish_old_op {w w3 : World} {ctr0 ctr : Nat} {rank0 : SlabID → Nat}
    (H0 : WorldOkGen D rank0 none (fun _ => False) w ctr0) {p : SlabID} {pc : Cont} {i : Nat}
    {ko : Option MKey} {lim : Nat} {old : Elem}
    (hp : w.cont? p = some pc) (hks : (pc.kslots w.T)[i]? = some (ko, lim, old))
    (H3 : WorldOkGen D rank none (fun z => old.pay = .ref z) w3 ctr)
    (hunref : ∀ z, old.pay = .ref z → (w3.cont? z).isSome → ∀ q, ¬ Holds w3 q z)
    (hc03 : ∀ z c, old.pay = .ref z → w.cont? z = some c → w3.cont? z = some c)
    (hidx03 : ∀ q z, q ≠ p → AList.find? (w3.idxOf q) z = AList.find? (w.idxOf q) z)
    {pc3 : Cont} (hp3 : w3.cont? p = some pc3) (hhand3 : HandleOk w3 p)
    {cx3 : Ctx} {old' : Elem} {ov ov' : Option SlabID} {w4 : World} {cx4 : Ctx}
    (hun : w3.uninlineIfNeeded old cx3 = .ok (old', ov, w4, cx4))
    (hov : ov' = ov ∨ (ov' = none ∧ ∀ x, AList.find? (w3.idxOf p) x = none))
    {w5 : World} (h5 : w5 = eraseOld w4 p ov') :
    WorldOkGen D rank none (fun _ => False) w5 ctr ∧ cx4.ctr = cx3.ctr ∧ old'.pay = old.pay ∧
      HandedBack w w5 old ∧ HandleOk w5 p ∧
      w5.cont? p = some pc3 ∧ ContsSig w3 w5 ∧
      (∀ z, old.pay ≠ .ref z → w5.cont? z = w3.cont? z) ∧
      w5.hinfo = w3.hinfo ∧
      (∀ q y, q ≠ p → AList.find? (w5.idxOf q) y = AList.find? (w3.idxOf q) y) ∧
      (∀ q y, old.pay ≠ .ref y → AList.find? (w5.idxOf q) y = AList.find? (w3.idxOf q) y) ∧
      ∀ E : SlabID → Prop, (∀ z, old.pay = .ref z → E z) → HKeep E w3 w5 := by
  subst h5
  obtain ⟨e1, e2, e3, e4, e5, e6, e7⟩ := eraseOld_facts w4 p ov'
  have hun' := uninlineIfNeeded_ok hun
  have hidx43 : ∀ q z, AList.find? (w4.idxOf q) z = AList.find? (w3.idxOf q) z := by
    intro q z; simp [World.idxOf, hun'.2.2.1]
  have hpi : ∀ z, old.pay = .ref z → pc.pays[i]? = some (Pay.ref z) := fun z hz => by
    rw [Cont.kslot_pay hks]; exact congrArg some hz
  have hovold : ∀ o, ov' = some o → old.pay = .ref o := by
    intro o ho
    rcases hov with rfl | ⟨rfl, _⟩
    · rcases hun'.2.2.2.2.2 with ⟨h1, _⟩ | ⟨o', c', h1, h2, _⟩
      · rw [ho] at h1; cases h1
      · rw [ho] at h1; cases h1; exact h2
    · cases ho
  obtain ⟨H5, f1, f2, hT4, hh4, hm4, hS34, hpay, hctr4⟩ :=
    finish_old (w5 := eraseOld w4 p ov') H3 hunref hun e1 e2 e3 e4 e5 (by
      intro z hz q aq j hq hj
      by_cases hqp : q = p
      · subst hqp
        have hj3 := e5 q z j hj
        rw [hidx43] at hj3
        rcases hov with rfl | ⟨_, hno⟩
        · -- `z` is live in `w3`, so its entry has been dropped
          obtain ⟨hzs, _⟩ := H3.idxLive q z j hj3
          rcases hun'.2.2.2.2.2 with ⟨_, _, _, _, hnone⟩ | ⟨x, c, hov, hx, _⟩
          · rw [hnone z hz] at hzs; cases hzs
          · rw [hx] at hz; cases hz
            rw [e7 _ hov] at hj; cases hj
        · rw [hno] at hj3; cases hj3
      · -- an entry of another table would be a second reference to `z`
        rw [e6 q z hqp, hidx43, hidx03 q z hqp] at hj
        obtain ⟨hzs, a0, ha0⟩ := H0.idxLive q z j hj
        have := H0.mutIdx q a0 ha0 z j hj id
        exact hqp (H0.unique q p _ _ j i z ha0 hp this (hpi z hz) hzs).1)
  have hpnot : ∀ z, old.pay = .ref z → z ≠ p := by
    intro z hz he
    subst he
    have := H0.rank z z (holds_of_kslot hp hks hz) (by rw [hp]; rfl)
    omega
  have hp4 : w4.cont? p = some pc3 := by rw [f1 p (fun h => hpnot p h rfl)]; exact hp3
  have hhand4 : HandleOk w4 p :=
    hhand3.transfer (fun q y => (hS34.holds_iff q y).mp)
      (CurKept.of_sig hS34 hidx43 (fun y hiy hy _ => by rw [hh4]; exact hy))
  have hhand5 : HandleOk (eraseOld w4 p ov') p :=
    handleOk_mutate (hS34.cRank H3.rank) H5.rank hp4 (by rw [e3]; exact hp4) (fun z _ => e3 z) e1 e4
      (fun q x hq => e6 q x hq) hhand4
  have hback : HandedBack w (eraseOld w4 p ov') old := by
    intro x c hx hc
    have hc3 := hc03 x c hx hc
    obtain ⟨c', hc', hni, hsd⟩ := f2 x c hx hc3
    refine ⟨c', by rw [e3]; exact hc', hni, hsd.vid, hsd.storedElems, ?_⟩
    rintro q ⟨qc, hqc, hm⟩
    rw [e3] at hqc
    exact hunref x hx (by rw [hc3]; rfl) q ((hS34.holds_iff q x).mp ⟨qc, hqc, hm⟩)
  have hkeep : ∀ q y, old.pay ≠ .ref y →
      AList.find? ((eraseOld w4 p ov').idxOf q) y = AList.find? (w4.idxOf q) y :=
    fun q y hy => eraseOld_keep w4 p ov' q y (fun o ho hoy => hy (hoy ▸ hovold o ho))
  refine ⟨H5, hctr4, hpay, hback, hhand5, by rw [e3]; exact hp4,
    ⟨e1.trans hT4, fun q => by rw [e3]; exact hS34.sig q⟩, fun z hz => by rw [e3, f1 z hz], e4.trans hh4,
    fun q y hq => by rw [e6 q y hq, hidx43], fun q y hy => by rw [hkeep q y hy, hidx43], fun E hE => ?_⟩
  exact (HKeep.of_sig E hS34 hidx43 hh4).trans
    (HKeep.of_idx e1 e3 e4 (fun q z hzE => hkeep q z (fun h => hzE (hE z h))))

end World
end Atree

import AtreeProofs.World.NotifyPrep
import AtreeProofs.WorldOkFrame
/-
  Every current handle stays current.  `handleOk_mutate`: the handle of a container survives a change of
  its content (its closure chain runs through containers of lower rank only).

  `HKeep E w w'`: what the handles of the containers outside `E` need from a world update — no new
  holder, current closures stay current.  `E` is the set of containers an operation moves: the
  container it stores into a slot, the container(s) whose slot it overwrites or removes; their
  handles are re-established separately (`HKeep.handleOk`).  `HKeep` composes along the steps of an
  operation; `hkeep_mutate` is the step that changes the content of the target container (one slot
  inserted, overwritten or removed — the same interface as `step_mutate`).

  Readings of `Moved v old` (WorldOkFrame.lean: the containers a public mutation moves, i.e. the child
  stored and the child handed back).
  `OpFrame rank0 w w' p E`: the frame of an operation through the handle of `p`, relative to a rank function
  of the world before; quantified over the rank functions it gives the strong frame `AncFrame`
  (`rank_raise`, `ancFrame_of_opFrame`).
-/
namespace Atree
open Gen

namespace World

/-- what the handles of the containers outside `E` need from a world update -/
structure HKeep (E : SlabID → Prop) (w w' : World) : Prop where
  holds : ∀ q x, ¬ E x → Holds w' q x → Holds w q x
  cur : ∀ x hi, ¬ E x → AList.find? w.hinfo x = some hi → ClosureCurrent w x hi →
    ∃ hi', AList.find? w'.hinfo x = some hi' ∧ hi'.parent = hi.parent ∧ ClosureCurrent w' x hi'

namespace HKeep
variable {E : SlabID → Prop} {w w' w1 w2 w3 : World}

theorem refl (E : SlabID → Prop) (w : World) : HKeep E w w :=
  ⟨fun _ _ _ h => h, fun _ hi _ h1 h2 => ⟨hi, h1, rfl, h2⟩⟩

theorem trans (h12 : HKeep E w1 w2) (h23 : HKeep E w2 w3) : HKeep E w1 w3 := by
  refine ⟨fun q x hE h => h12.holds q x hE (h23.holds q x hE h), ?_⟩
  intro x hi hE h1 h2
  obtain ⟨hi2, a1, a2, a3⟩ := h12.cur x hi hE h1 h2
  obtain ⟨hi3, b1, b2, b3⟩ := h23.cur x hi2 hE a1 a3
  exact ⟨hi3, b1, b2.trans a2, b3⟩

theorem mono {E' : SlabID → Prop} (h : HKeep E w w') (hE : ∀ x, E x → E' x) : HKeep E' w w' :=
  ⟨fun q x hx => h.holds q x (fun he => hx (hE x he)), fun x hi hx => h.cur x hi (fun he => hx (hE x he))⟩

theorem of_curKept (E : SlabID → Prop) (hholds : ∀ q x, Holds w' q x → Holds w q x) (hcur : CurKept w w') :
    HKeep E w w' :=
  ⟨fun q x _ h => hholds q x h, fun x hi _ h1 h2 => hcur x hi h1 h2⟩

theorem of_sig (E : SlabID → Prop) (hS : ContsSig w w')
    (hidx : ∀ q z, AList.find? (w'.idxOf q) z = AList.find? (w.idxOf q) z) (hh : w'.hinfo = w.hinfo) :
    HKeep E w w' :=
  of_curKept E (fun q x => (hS.holds_iff q x).mp)
    (CurKept.of_sig hS hidx (fun y hiy hy _ => by rw [hh]; exact hy))

/-- a change of index entries of containers of `E` only (the entry the caller-side clean-up drops belongs
    to a moved container) -/
theorem of_idx (hT : w'.T = w.T) (hc : ∀ z, w'.cont? z = w.cont? z) (hh : w'.hinfo = w.hinfo)
    (hidx : ∀ q z, ¬ E z → AList.find? (w'.idxOf q) z = AList.find? (w.idxOf q) z) : HKeep E w w' := by
  refine ⟨fun q x _ ⟨qc, hqc, hm⟩ => ⟨qc, by rw [← hc]; exact hqc, hm⟩, ?_⟩
  intro x hi hE h1 h2
  refine ⟨hi, by rw [hh]; exact h1, rfl, ?_⟩
  rw [closureCurrent_iff] at h2 ⊢
  obtain ⟨j, hj⟩ := h2
  exact ⟨j, hj.transfer ⟨hT, fun q => by rw [hc]⟩ (hidx _ _ hE)⟩

/-- how `HKeep` is used: the handles of the containers of `E` being current afterwards, every current
    handle of a live container stays current. -/
theorem handleOk (K : HKeep E w w') (hE : ∀ x, E x → (w.cont? x).isSome → HandleOk w' x)
    {z : SlabID} (h : HandleOk w z) (hz : (w.cont? z).isSome) : HandleOk w' z := by
  classical
  induction h with
  | root x hr =>
    by_cases hx : E x
    · exact hE x hx hz
    · exact HandleOk.root x (fun p hp => hr p (K.holds p x hx hp))
  | child x hi hhi hc _ ih =>
    by_cases hx : E x
    · exact hE x hx hz
    · obtain ⟨hi', h1, h2, h3⟩ := K.cur x hi hx hhi hc
      have hpl : (w.cont? hi.parent).isSome := by
        rw [closureCurrent_iff] at hc
        obtain ⟨j, pc0, hpc0, _⟩ := hc
        rw [hpc0]; rfl
      exact HandleOk.child x hi' h1 h3 (by rw [h2]; exact ih hpl)

end HKeep

/-- the handle of `p` survives a change of the content of `p` -/
theorem handleOk_mutate {rank : SlabID → Nat} {w w2 : World} {p : SlabID} {pc pc' : Cont} (hr : CRank rank w) (hr2 : CRank rank w2)
    (hp : w.cont? p = some pc) (hcp : w2.cont? p = some pc') (hco : ∀ z, z ≠ p → w2.cont? z = w.cont? z)
    (hT : w2.T = w.T) (hh : w2.hinfo = w.hinfo)
    (hidx : ∀ q x, q ≠ p → AList.find? (w2.idxOf q) x = AList.find? (w.idxOf q) x)
    (h : HandleOk w p) : HandleOk w2 p := by
  have hlive : ∀ x hi, ClosureCurrent w x hi → (w.cont? hi.parent).isSome := by
    intro x hi hc
    rw [closureCurrent_iff] at hc
    obtain ⟨j, pc0, hpc0, _⟩ := hc
    rw [hpc0]; rfl
  have hpar : ∀ x hi, rank x ≤ rank p → (w.cont? x).isSome → ClosureCurrent w x hi → rank hi.parent < rank p := by
    intro x hi hx hxs hc
    rw [closureCurrent_iff] at hc
    obtain ⟨j, hj⟩ := hc
    have := hr _ _ hj.holds hxs
    omega
  refine HandleOk.transfer_on (fun x => rank x ≤ rank p ∧ (w.cont? x).isSome) ?_ ?_ ?_ h
    ⟨Nat.le_refl _, by rw [hp]; rfl⟩
  · intro x hi ⟨hx, hxs⟩ _ hc
    exact ⟨by have := hpar x hi hx hxs hc; omega, hlive x hi hc⟩
  · intro q x ⟨hx, hxs⟩ hq
    have hqp : q ≠ p := by
      intro he; subst he
      have hxs2 : (w2.cont? x).isSome := by
        by_cases hxp : x = q
        · subst hxp; rw [hcp]; rfl
        · rw [hco x hxp]; exact hxs
      have := hr2 q x hq hxs2
      omega
    obtain ⟨qc, hqc, hm⟩ := hq
    exact ⟨qc, by rw [← hco q hqp]; exact hqc, hm⟩
  · intro x hi ⟨hx, hxs⟩ hhi hc
    have hpp : hi.parent ≠ p := by
      intro he
      have := hpar x hi hx hxs hc
      rw [he] at this; omega
    refine ⟨hi, by rw [hh]; exact hhi, rfl, ?_⟩
    obtain ⟨lim, e, hca⟩ := hc
    refine ⟨lim, e, ?_⟩
    unfold ClosureAt at hca ⊢
    rw [hco _ hpp, hidx _ _ hpp, hT]
    exact hca

/-- the step of a public mutation, for the handles: the content of `p` changes, the positions of the
    new content and the index table of `p` following the renumbering `R`.  The new slot and the
    dropped one refer only to containers of `E`. -/
theorem hkeep_mutate {w w2 : World} {p : SlabID} {pc pc' : Cont} (E : SlabID → Prop)
    (hp : w.cont? p = some pc) (harr : pc'.isArr = pc.isArr)
    {φ : Nat → Option Nat} {ψ : Nat → Nat} {tn : Option (Option MKey × Nat × Elem)} {jn : Nat} {jd : Option Nat}
    (R : Reindex (pc.kslots w.T) (pc'.kslots w.T) φ ψ tn jn jd)
    (hnew : ∀ t, tn = some t → ∀ x, t.2.2.pay = .ref x → E x)
    (hrem : ∀ i0 t, jd = some i0 → (pc.kslots w.T)[i0]? = some t → ∀ x, t.2.2.pay = .ref x → E x)
    (hh : w2.hinfo = w.hinfo)
    (hidx : ∀ q x, AList.find? (w2.idxOf q) x =
      if p = q then (AList.find? (w.idxOf p) x).map ψ else AList.find? (w.idxOf q) x)
    (hcp : w2.cont? p = some pc') (hco : ∀ z, z ≠ p → w2.cont? z = w.cont? z) : HKeep E w w2 := by
  constructor
  · intro q x hE ⟨qc, hqc, hm⟩
    by_cases hqp : q = p
    · subst hqp
      rw [hcp] at hqc; cases hqc
      obtain ⟨j, hj⟩ := List.mem_iff_getElem?.mp hm
      obtain ⟨t, ht, htp⟩ := Cont.pay_kslot (T := w.T) hj
      rcases R.cases ht with ⟨i0, _, h0⟩ | ⟨_, _, htn⟩
      · exact holds_of_kslot hp h0 htp
      · exact absurd (hnew t htn x htp) hE
    · rw [hco q hqp] at hqc
      exact ⟨qc, hqc, hm⟩
  · intro x hi hE hhi hc
    refine ⟨hi, by rw [hh]; exact hhi, rfl, ?_⟩
    rw [closureCurrent_iff] at hc ⊢
    obtain ⟨j, pc0, hpc0, hpay, harr0, hmap0⟩ := hc
    by_cases hpp : hi.parent = p
    · rw [hpp, hp] at hpc0; cases hpc0
      obtain ⟨t, ht, htp⟩ := Cont.pay_kslot (T := w.T) hpay
      have ht' : (pc'.kslots w.T)[ψ j]? = some t :=
        (R.old (R.back fun hd => hE (hrem j t hd ht x htp))).trans ht
      refine ⟨ψ j, pc', by rw [hpp]; exact hcp, by rw [Cont.kslot_pay ht', htp], ?_, ?_⟩
      · intro ha
        rw [hpp, hidx, if_pos rfl, ← hpp, harr0 (by rw [← harr]; exact ha)]; rfl
      · intro ha
        obtain ⟨k, hk, py, hs⟩ := hmap0 (by rw [← harr]; exact ha)
        have h1 := Cont.kslot_sig ht
        rw [hs] at h1
        simp only [Option.some.injEq, Prod.mk.injEq] at h1
        exact ⟨k, hk, t.2.2.pay, by rw [Cont.kslot_sig ht', ← h1.1]⟩
    · refine ⟨j, pc0, by rw [hco _ hpp]; exact hpc0, hpay, ?_, hmap0⟩
      intro ha
      rw [hidx, if_neg (Ne.symm hpp)]; exact harr0 ha

theorem moved_old {o : Elem} {z : SlabID} (v : Option WVal) (h : o.pay = .ref z) : Moved v (some o) z :=
  Or.inr ⟨o, rfl, h⟩

theorem Moved.cases {v : Option WVal} {old : Option Elem} {z : SlabID} (h : Moved v old z) :
    (∃ wr, v = some (.child z wr)) ∨ (∃ o, old = some o ∧ o.pay = .ref z) := h

theorem not_moved_plain {e : Elem} {z : SlabID} : ¬ Moved (some (WVal.plain e)) none z := by
  rintro (⟨wr, h⟩ | ⟨o, h, _⟩) <;> cases h

/-- frame of an operation through the handle of `p`, relative to a rank function of the world
    before: the containers that are not below `p` in rank, other than `p` and the moved ones, are
    untouched; no other index table changes; the handles are kept. -/
def OpFrame (rank0 : SlabID → Nat) (w w' : World) (p : SlabID) (E : SlabID → Prop) : Prop :=
  (∀ z, z ≠ p → rank0 p ≤ rank0 z → ¬ E z →
    w'.cont? z = w.cont? z ∧ AList.find? w'.hinfo z = AList.find? w.hinfo z) ∧
  (∀ q x, q ≠ p → AList.find? (w'.idxOf q) x = AList.find? (w.idxOf q) x) ∧
  HandlesKept w w'

/-- a rank function that puts everything that is not `p` or above `p` at or over `p`: whatever is not an
    ancestor of `p` is raised by `rank p + 1` (the mirror construction of `rank_insert`, World/Sig.lean) -/
theorem rank_raise {rank : SlabID → Nat} {w : World} (hr : CRank rank w) (p : SlabID) :
    ∃ rank', CRank rank' w ∧ ∀ z, ¬ Anc w z p → rank' p ≤ rank' z := by
  classical
  refine ⟨fun u => rank u + (if Anc w u p then 0 else rank p + 1), ?_, ?_⟩
  · intro q x hqx hx
    have := hr q x hqx hx
    by_cases hax : Anc w x p
    · have haq : Anc w q p := Anc.prepend hqx hax
      simp only [if_pos hax, if_pos haq]; omega
    · simp only [if_neg hax]
      split <;> omega
  · intro z hz
    simp only [if_pos (Anc.refl : Anc w p p), if_neg hz]
    omega

/-- from the rank-relative frames (one per rank function) to the strong frame -/
theorem ancFrame_of_opFrame {rank : SlabID → Nat} {w w' : World} {p : SlabID} {E : SlabID → Prop}
    (hr : CRank rank w) (h : ∀ rank0, CRank rank0 w → OpFrame rank0 w w' p E) : AncFrame w w' p E := by
  refine ⟨fun z hz hE => ?_, (h rank hr).2.1⟩
  obtain ⟨rank', hr', hle⟩ := rank_raise hr p
  exact ((h rank' hr').1 z (fun he => hz (he ▸ Anc.refl)) (hle z hz) hE).1

/-- from the rank-relative frames: the closure of a container that is not above `p` and not moved is
    untouched (this part does not survive the transport along `World.Sim`, so it is stated for `WorldOk`
    only) -/
theorem hinfoFrame_of_opFrame {rank : SlabID → Nat} {w w' : World} {p : SlabID} {E : SlabID → Prop}
    (hr : CRank rank w) (h : ∀ rank0, CRank rank0 w → OpFrame rank0 w w' p E) :
    ∀ z, ¬ Anc w z p → ¬ E z → AList.find? w'.hinfo z = AList.find? w.hinfo z := by
  intro z hz hE
  obtain ⟨rank', hr', hle⟩ := rank_raise hr p
  exact ((h rank' hr').1 z (fun he => hz (he ▸ Anc.refl)) (hle z hz) hE).2

end World
end Atree

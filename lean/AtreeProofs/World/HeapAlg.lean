import AtreeProofs.WorldHeap
import AtreeProofs.World.Basic
import AtreeProofs.Account.Basic
/-
  Algebra of World-level heap accounts (`World.WAcct`, `AtreeProofs/WorldHeap.lean`):
  membership in the heap list, reflexivity, transitivity, the FRAME step (one container of the
  table is replaced, the account of that container lifts to the world), and the passage from the
  semantic account to the lookup-level statement `WEffectsComplete`.  `WAcct` and the account
  `CAcct` of one container are `Account` (`Account/Basic.lean`) at the content relations
  `World.HasSlab` / `Entry c.slabs`; the algebra is the general one.
-/
namespace Atree
open Gen

namespace Cont

theorem heapIds_sub_treeIds (c : Cont) : ∀ id ∈ c.heapIds, id ∈ c.treeIds := by
  intro id h
  unfold heapIds slabs at h
  split at h
  · exact AList.mem_keys_of_mem_tail h
  · exact h

theorem mem_slabs_treeSlabs (c : Cont) : ∀ p ∈ c.slabs, p ∈ c.treeSlabs := by
  intro p h
  unfold slabs at h
  split at h
  · exact List.mem_of_mem_tail h
  · exact h

theorem nodup_heapIds {c : Cont} (h : c.treeIds.Nodup) : c.heapIds.Nodup := by
  unfold heapIds slabs
  split
  · rw [AList.keys_tail]; exact List.Nodup.sublist (List.tail_sublist _) h
  · exact h

theorem mem_heapIds_iff (c : Cont) (id : SlabID) : id ∈ c.heapIds ↔ ∃ s, (id, s) ∈ c.slabs :=
  mem_keys_iff c.slabs id

end Cont

namespace World

theorem mem_heapOf_iff (w : World) (id : SlabID) (s : WSlab) : (id, s) ∈ w.heapOf ↔ w.HasSlab id s := by
  unfold heapOf HasSlab
  simp only [List.mem_flatMap, List.mem_eraseDups]
  constructor
  · rintro ⟨x, _, hx⟩
    cases hc : w.cont? x with
    | none => rw [hc] at hx; cases hx
    | some c => rw [hc] at hx; exact ⟨x, c, hc, hx⟩
  · rintro ⟨x, c, hc, hm⟩
    refine ⟨x, ?_, by rw [hc]; exact hm⟩
    have : AList.find? w.conts x ≠ none := by
      have : w.cont? x = AList.find? w.conts x := rfl
      rw [← this, hc]; simp
    exact (AList.find?_ne_none_iff _ _).1 this

theorem inHeap_iff (w : World) (id : SlabID) : w.InHeap id ↔ ∃ s, w.HasSlab id s := by
  unfold InHeap HasSlab
  constructor
  · rintro ⟨x, c, hc, hm⟩
    obtain ⟨s, hs⟩ := (Cont.mem_heapIds_iff c id).1 hm
    exact ⟨s, x, c, hc, hs⟩
  · rintro ⟨s, x, c, hc, hm⟩
    exact ⟨x, c, hc, (Cont.mem_heapIds_iff c id).2 ⟨s, hm⟩⟩

theorem mem_heapIds_iff (w : World) (id : SlabID) : id ∈ w.heapIds ↔ w.InHeap id := by
  unfold heapIds
  rw [mem_keys_iff, inHeap_iff]
  simp only [mem_heapOf_iff]

theorem InHeap.inTree {w : World} {id : SlabID} (h : w.InHeap id) : w.InTree id := by
  obtain ⟨x, c, hc, hm⟩ := h
  exact ⟨x, c, hc, c.heapIds_sub_treeIds id hm⟩

theorem HasSlab.inHeap {w : World} {id : SlabID} {s : WSlab} (h : w.HasSlab id s) : w.InHeap id :=
  (inHeap_iff w id).2 ⟨s, h⟩

theorem hasSlab_congr {w w' : World} (h : ∀ z, w'.cont? z = w.cont? z) (id : SlabID) (s : WSlab) :
    w'.HasSlab id s ↔ w.HasSlab id s := by
  unfold HasSlab; simp only [h]

theorem inHeap_congr {w w' : World} (h : ∀ z, w'.cont? z = w.cont? z) (id : SlabID) :
    w'.InHeap id ↔ w.InHeap id := by
  unfold InHeap; simp only [h]

theorem inTree_congr {w w' : World} (h : ∀ z, w'.cont? z = w.cont? z) (id : SlabID) :
    w'.InTree id ↔ w.InTree id := by
  unfold InTree; simp only [h]

theorem HeapOk.congr {w w' : World} {ctr : Nat} (H : HeapOk w ctr) (h : ∀ z, w'.cont? z = w.cont? z)
    (ha : w'.addr = w.addr) : HeapOk w' ctr := by
  refine ⟨?_, ?_, ?_, ?_⟩
  · intro x c x' c' id h1 h2; rw [h] at h1 h2; exact H.own x c x' c' id h1 h2
  · intro x c h1; rw [h] at h1; exact H.nodup x c h1
  · intro x c id h1; rw [h] at h1; exact H.below x c id h1
  · intro x c id h1; rw [h] at h1; rw [ha]; exact H.addr x c id h1

theorem HeapOk.mono {w : World} {ctr ctr' : Nat} (H : HeapOk w ctr) (h : ctr ≤ ctr') : HeapOk w ctr' :=
  ⟨H.own, H.nodup, fun x c id h1 h2 => Nat.le_trans (H.below x c id h1 h2) h, H.addr⟩

theorem HeapOk.inTree_le {w : World} {ctr : Nat} (H : HeapOk w ctr) {id : SlabID} (h : w.InTree id) : id.idx ≤ ctr := by
  obtain ⟨x, c, hc, hm⟩ := h
  exact H.below x c id hc hm

theorem HeapOk.hasSlab_unique {w : World} {ctr : Nat} (H : HeapOk w ctr) {id : SlabID} {s s' : WSlab}
    (h : w.HasSlab id s) (h' : w.HasSlab id s') : s = s' := by
  obtain ⟨x, c, hc, hm⟩ := h
  obtain ⟨x', c', hc', hm'⟩ := h'
  have hx : x = x' := H.own x c x' c' id hc hc'
    (c.heapIds_sub_treeIds id (mem_keys_of_mem hm)) (c'.heapIds_sub_treeIds id (mem_keys_of_mem hm'))
  subst hx
  rw [hc] at hc'; cases hc'
  have hnd : (AList.keys c.slabs).Nodup := Cont.nodup_heapIds (H.nodup x c hc)
  have h1 := (AList.mem_iff_find? c.slabs hnd id s).1 hm
  have h2 := (AList.mem_iff_find? c.slabs hnd id s').1 hm'
  rw [h1] at h2; cases h2; rfl

theorem HeapOk.nodup_heapIds {w : World} {ctr : Nat} (H : HeapOk w ctr) : w.heapIds.Nodup := by
  unfold heapIds heapOf
  have hnd := nodup_eraseDups (AList.keys w.conts)
  generalize (AList.keys w.conts).eraseDups = L at hnd
  induction L with
  | nil => simp [AList.keys]
  | cons x L ih =>
    rw [List.nodup_cons] at hnd
    rw [List.flatMap_cons, keys_append, List.nodup_append]
    refine ⟨?_, ih hnd.2, ?_⟩
    · cases hc : w.cont? x with
      | none => simp [AList.keys]
      | some c => exact Cont.nodup_heapIds (H.nodup x c hc)
    · intro a ha b hb hab
      subst hab
      cases hc : w.cont? x with
      | none => rw [hc] at ha; simp [AList.keys] at ha
      | some c =>
        rw [hc] at ha
        rw [mem_keys_iff] at hb
        obtain ⟨s, hs⟩ := hb
        rw [List.mem_flatMap] at hs
        obtain ⟨y, hy, hs⟩ := hs
        cases hc' : w.cont? y with
        | none => rw [hc'] at hs; cases hs
        | some c' =>
          rw [hc'] at hs
          have := H.own x c y c' a hc hc' (c.heapIds_sub_treeIds a ha)
            (c'.heapIds_sub_treeIds a (mem_keys_of_mem hs))
          subst this
          exact hnd.1 hy

theorem HeapOk.slabAt_eq_some {w : World} {ctr : Nat} (H : HeapOk w ctr) (id : SlabID) (s : WSlab) :
    w.slabAt id = some s ↔ w.HasSlab id s := by
  unfold slabAt
  rw [← AList.mem_iff_find? w.heapOf H.nodup_heapIds, mem_heapOf_iff]

theorem slabAt_isSome (w : World) (id : SlabID) : (w.slabAt id).isSome ↔ w.InHeap id := by
  unfold slabAt
  rw [← mem_heapIds_iff, heapIds]
  rw [Option.isSome_iff_ne_none, AList.find?_ne_none_iff]

theorem slabAt_isNone (w : World) (id : SlabID) : (w.slabAt id).isNone ↔ ¬ w.InHeap id := by
  rw [← slabAt_isSome]
  cases w.slabAt id <;> simp

namespace WAcct

theorem iff_account {c c' : Nat} {w w' : World} {E : List Eff} {cr : List SlabID} :
    WAcct c c' w w' E cr ↔
      c ≤ c' ∧ Account (c < ·.idx) w.HasSlab w'.HasSlab w.InTree w'.InTree E cr := by
  constructor
  · intro h
    exact ⟨h.le, h.kept, fun id h1 h2 => h.gone id ((inHeap_iff w id).2 h1) (fun hx => h2 ((inHeap_iff w' id).1 hx)),
      fun id hl => (h.stored id hl).imp_left (inHeap_iff w' id).1,
      fun id hl hx => h.removed id hl ((inHeap_iff w' id).2 hx), h.foot, h.fresh, h.tnew⟩
  · rintro ⟨hle, h⟩
    exact ⟨hle, h.kept, fun id h1 h2 => h.gone id ((inHeap_iff w id).1 h1) (fun hx => h2 ((inHeap_iff w' id).2 hx)),
      fun id hl => (h.stored id hl).imp_left (inHeap_iff w' id).2,
      fun id hl hx => h.removed id hl ((inHeap_iff w' id).1 hx), h.foot, h.fresh, h.tnew⟩

theorem refl (c : Nat) (w : World) : WAcct c c w w [] [] :=
  iff_account.2 ⟨Nat.le_refl _, .refl _ _ _⟩

/-- only the table of containers matters -/
theorem congr {c c' : Nat} {w w' v v' : World} {E : List Eff} {cr : List SlabID} (h : WAcct c c' w w' E cr)
    (hv : ∀ z, v.cont? z = w.cont? z) (hv' : ∀ z, v'.cont? z = w'.cont? z) : WAcct c c' v v' E cr :=
  iff_account.2 ⟨h.le, (iff_account.1 h).2.congr (hasSlab_congr hv) (hasSlab_congr hv')
    (inTree_congr hv) (inTree_congr hv')⟩

theorem of_conts {c : Nat} {w w' : World} (h : ∀ z, w'.cont? z = w.cont? z) : WAcct c c w w' [] [] :=
  (refl c w).congr (fun _ => rfl) h

theorem trans {c c1 c2 : Nat} {w w1 w2 : World} {E1 E2 : List Eff} {cr1 cr2 : List SlabID}
    (h1 : WAcct c c1 w w1 E1 cr1) (h2 : WAcct c1 c2 w1 w2 E2 cr2)
    (hS : ∀ id, w.InTree id → id.idx ≤ c) : WAcct c c2 w w2 (E1 ++ E2) (cr1 ++ cr2) :=
  iff_account.2 ⟨Nat.le_trans h1.le h2.le, (iff_account.1 h1).2.trans (iff_account.1 h2).2 (fun _ h => h)
    (fun _ h => Nat.lt_of_le_of_lt h1.le h)
    (fun id ⟨_, hs⟩ hf => Nat.not_lt.2 (Nat.le_trans (hS id hs.inHeap.inTree) h1.le) hf)⟩

end WAcct

/-- the account of ONE container: from `pc` to `pc'` -/
structure CAcct (c c' : Nat) (pc pc' : Cont) (E : List Eff) (cr : List SlabID) : Prop where
  le : c ≤ c'
  kept : ∀ p ∈ pc'.slabs, p ∈ pc.slabs ∨ lastAction E p.1 = some true
  gone : ∀ id ∈ pc.heapIds, id ∉ pc'.heapIds → lastAction E id = some false
  stored : ∀ id, lastAction E id = some true → id ∈ pc'.heapIds ∨ id ∈ cr
  removed : ∀ id, lastAction E id = some false → id ∉ pc'.heapIds
  foot : ∀ id, lastAction E id ≠ none → id ∈ pc.treeIds ∨ c < id.idx
  fresh : ∀ id ∈ cr, c < id.idx
  tnew : ∀ id ∈ pc'.treeIds, id ∈ pc.treeIds ∨ c < id.idx

theorem CAcct.iff_account {c c' : Nat} {pc pc' : Cont} {E : List Eff} {cr : List SlabID} :
    CAcct c c' pc pc' E cr ↔ c ≤ c' ∧
      Account (c < ·.idx) (Entry pc.slabs) (Entry pc'.slabs) (· ∈ pc.treeIds) (· ∈ pc'.treeIds) E cr :=
  ⟨fun h => ⟨h.le, .of_list h.kept h.gone h.stored h.removed h.foot h.fresh h.tnew⟩,
    fun ⟨hle, h⟩ => ⟨hle, h.kept_list, h.gone_list, h.stored_list, h.removed_list, h.foot, h.fresh, h.tnew⟩⟩

theorem hasSlab_setCont (w : World) (p : SlabID) (pc' : Cont) (id : SlabID) (s : WSlab) :
    (w.setCont p pc').HasSlab id s ↔ (id, s) ∈ pc'.slabs ∨ ∃ x c, x ≠ p ∧ w.cont? x = some c ∧ (id, s) ∈ c.slabs := by
  unfold HasSlab
  constructor
  · rintro ⟨x, c, hc, hm⟩
    rw [cont?_setCont] at hc
    split at hc
    · cases hc; exact Or.inl hm
    · rename_i hne; exact Or.inr ⟨x, c, fun h => hne h.symm, hc, hm⟩
  · rintro (hm | ⟨x, c, hne, hc, hm⟩)
    · exact ⟨p, pc', cont?_setCont_self _ _ _, hm⟩
    · exact ⟨x, c, by rw [cont?_setCont_ne _ _ _ _ hne]; exact hc, hm⟩

theorem inHeap_setCont (w : World) (p : SlabID) (pc' : Cont) (id : SlabID) :
    (w.setCont p pc').InHeap id ↔ id ∈ pc'.heapIds ∨ ∃ x c, x ≠ p ∧ w.cont? x = some c ∧ id ∈ c.heapIds := by
  unfold InHeap
  constructor
  · rintro ⟨x, c, hc, hm⟩
    rw [cont?_setCont] at hc
    split at hc
    · cases hc; exact Or.inl hm
    · rename_i hne; exact Or.inr ⟨x, c, fun h => hne h.symm, hc, hm⟩
  · rintro (hm | ⟨x, c, hne, hc, hm⟩)
    · exact ⟨p, pc', cont?_setCont_self _ _ _, hm⟩
    · exact ⟨x, c, by rw [cont?_setCont_ne _ _ _ _ hne]; exact hc, hm⟩

theorem inTree_setCont (w : World) (p : SlabID) (pc' : Cont) (id : SlabID) :
    (w.setCont p pc').InTree id ↔ id ∈ pc'.treeIds ∨ ∃ x c, x ≠ p ∧ w.cont? x = some c ∧ id ∈ c.treeIds := by
  unfold InTree
  constructor
  · rintro ⟨x, c, hc, hm⟩
    rw [cont?_setCont] at hc
    split at hc
    · cases hc; exact Or.inl hm
    · rename_i hne; exact Or.inr ⟨x, c, fun h => hne h.symm, hc, hm⟩
  · rintro (hm | ⟨x, c, hne, hc, hm⟩)
    · exact ⟨p, pc', cont?_setCont_self _ _ _, hm⟩
    · exact ⟨x, c, by rw [cont?_setCont_ne _ _ _ _ hne]; exact hc, hm⟩

/-- filing `pc'` under `p` keeps the ownership invariant: its IDs are distinct, allocated, at the world's
    address, and none of them is in the tree of another container -/
theorem HeapOk.setCont {w : World} {c c' : Nat} (H : HeapOk w c) (hc : c ≤ c') {p : SlabID} {pc' : Cont}
    (hnd : pc'.treeIds.Nodup) (hle : ∀ id ∈ pc'.treeIds, id.idx ≤ c' ∧ id.addr = w.addr)
    (hother : ∀ id ∈ pc'.treeIds, ∀ x cc, x ≠ p → w.cont? x = some cc → id ∉ cc.treeIds) :
    HeapOk (w.setCont p pc') c' := by
  refine ⟨?_, ?_, ?_, ?_⟩
  · intro x cc x' cc' id hx hx' hm hm'
    rw [cont?_setCont] at hx hx'
    split at hx <;> split at hx'
    · rename_i e1 e2; exact e1.symm.trans e2
    · rename_i e1 e2
      cases hx
      exact absurd hm' (hother id hm x' cc' (fun e => e2 e.symm) hx')
    · rename_i e1 e2
      cases hx'
      exact absurd hm (hother id hm' x cc (fun e => e1 e.symm) hx)
    · exact H.own x cc x' cc' id hx hx' hm hm'
  · intro x cc hx
    rw [cont?_setCont] at hx
    split at hx
    · cases hx; exact hnd
    · exact H.nodup x cc hx
  · intro x cc id hx hm
    rw [cont?_setCont] at hx
    split at hx
    · cases hx; exact (hle id hm).1
    · exact Nat.le_trans (H.below x cc id hx hm) hc
  · intro x cc id hx hm
    rw [cont?_setCont] at hx
    split at hx
    · cases hx; exact (hle id hm).2
    · exact H.addr x cc id hx hm

/-- Container `p` changes from `pc` to `pc'`, accounted for by `E`; every other
    container is untouched; the ownership invariant is kept. -/
theorem CAcct.lift {c c' : Nat} {w : World} {p : SlabID} {pc pc' : Cont} {E : List Eff} {cr : List SlabID}
    (h : CAcct c c' pc pc' E cr) (H : HeapOk w c) (hp : w.cont? p = some pc)
    (hnd : pc'.treeIds.Nodup) (hle : ∀ id ∈ pc'.treeIds, id.idx ≤ c' ∧ id.addr = w.addr) :
    WAcct c c' w (w.setCont p pc') E cr ∧ HeapOk (w.setCont p pc') c' := by
  -- an ID touched by the log or new in the tree of `p` is not in the tree of another container
  have hother : ∀ id, (id ∈ pc.treeIds ∨ c < id.idx) → ∀ x cc, x ≠ p → w.cont? x = some cc → id ∉ cc.treeIds := by
    intro id h1 x cc hne hx hm
    rcases h1 with h1 | h1
    · exact hne (H.own x cc p pc id hx hp hm h1)
    · have := H.below x cc id hx hm; omega
  have hsame : ∀ z, (w.setCont p pc).cont? z = w.cont? z := fun z => by
    rw [cont?_setCont]; split
    · rename_i e; rw [← e, hp]
    · rfl
  -- the account of `p`, framed by the slabs of the other containers (`w` is `w.setCont p pc`)
  have hacct : WAcct c c' w (w.setCont p pc') E cr :=
    WAcct.iff_account.2 ⟨h.le, ((CAcct.iff_account.1 h).2.frame
      (HF := fun id s => ∃ x cc, x ≠ p ∧ w.cont? x = some cc ∧ (id, s) ∈ cc.slabs)
      (TF := fun id => ∃ x cc, x ≠ p ∧ w.cont? x = some cc ∧ id ∈ cc.treeIds)
      (fun id s ⟨x, cc, hne, hx, hm⟩ => ⟨x, cc, hne, hx, cc.heapIds_sub_treeIds id (mem_keys_of_mem hm)⟩)
      (fun id ⟨x, cc, hne, hx, hm⟩ =>
        ⟨fun h1 => hother id (Or.inl h1) x cc hne hx hm, fun h1 => hother id (Or.inr h1) x cc hne hx hm⟩)).congr
      (fun id s => (hasSlab_congr hsame id s).symm.trans (hasSlab_setCont w p pc id s)) (hasSlab_setCont w p pc')
      (fun id => (inTree_congr hsame id).symm.trans (inTree_setCont w p pc id)) (inTree_setCont w p pc')⟩
  exact ⟨hacct, H.setCont h.le hnd hle fun id hm => hother id (h.tnew id hm)⟩

theorem WAcct.effectsComplete {c c' : Nat} {w w' : World} {E : List Eff} {cr : List SlabID}
    (h : WAcct c c' w w' E cr) (H : HeapOk w c) (H' : HeapOk w' c') : WEffectsComplete w w' E cr := by
  obtain ⟨p1, p2, p3, p4⟩ := (WAcct.iff_account.1 h).2.complete (K := w.slabAt) (K' := w'.slabAt)
    H.slabAt_eq_some (fun id s => (H'.slabAt_eq_some id s).1)
    (fun id hs => (slabAt_isSome w' id).2 ((inHeap_iff w' id).2 hs))
  exact ⟨p1, p2, p3, p4⟩

/-- "applying the log to the heap of the old world gives the heap of the new world" -/
theorem WEffectsComplete.applyLog {w w' : World} {E : List Eff} {cr : List SlabID}
    (h : WEffectsComplete w w' E cr) : applyLog w.slabAt w'.slabAt E = w'.slabAt := by
  funext id
  unfold World.applyLog
  cases hl : lastAction E id with
  | none =>
    simp only
    cases h' : w'.slabAt id with
    | none =>
      cases h0 : w.slabAt id with
      | none => rfl
      | some s =>
        have := h.gone_removed id (by rw [h0]; rfl) (by rw [h']; rfl)
        rw [hl] at this; cases this
    | some s =>
      by_cases he : w'.slabAt id = w.slabAt id
      · rw [← he, h']
      · have := h.changed_stored id (by rw [h']; rfl) he
        rw [hl] at this; cases this
  | some b =>
    cases b with
    | true => rfl
    | false =>
      have := h.removed_not_in_heap id hl
      simp only
      cases h' : w'.slabAt id with
      | none => rfl
      | some s => rw [h'] at this; cases this

end World
end Atree

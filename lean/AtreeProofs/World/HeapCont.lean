import AtreeProofs.World.HeapAlg
import AtreeProofs.Map.Repair
import AtreeProofs.Array.Effects
/-
  Heap accounts of ONE container (`World.CAcct`): the shape of `Cont.treeSlabs` / `Cont.slabs`,
  `Cont.inline` (the root slab leaves storage) and `Cont.uninline` (the root slab enters storage),
  and the passage from the tree-level accounts `Acct` (arrays) / `MAcct` (maps) to `CAcct`.
-/
namespace Atree
open Gen

namespace Cont

theorem treeIds_arr (a : Arr) : (Cont.arr a).treeIds = ATree.slabIds a.d a.root := by
  unfold treeIds treeSlabs
  rw [← keys_slabs]
  simp [AList.keys, List.map_map, Function.comp_def]

theorem treeIds_map (m : OMap 3) : (Cont.map m).treeIds = AList.keys (MTree.slabs m.d m.root) := by
  unfold treeIds treeSlabs
  simp [AList.keys, List.map_map, Function.comp_def]

theorem slabs_of_standalone {c : Cont} (h : c.isInlined = false) : c.slabs = c.treeSlabs := by
  unfold slabs; rw [h]; rfl

theorem slabs_of_inlined {c : Cont} (h : c.isInlined = true) : c.slabs = c.treeSlabs.tail := by
  unfold slabs; rw [h]; rfl

theorem heapIds_of_standalone {c : Cont} (h : c.isInlined = false) : c.heapIds = c.treeIds := by
  unfold heapIds treeIds; rw [slabs_of_standalone h]

theorem heapIds_of_inlined {c : Cont} (h : c.isInlined = true) : c.heapIds = c.treeIds.tail := by
  unfold heapIds treeIds; rw [slabs_of_inlined h, AList.keys_tail]

theorem treeSlabs_cons (c : Cont) : ∃ x, c.treeSlabs = (c.vid, x) :: c.treeSlabs.tail := by
  cases c with
  | arr a =>
    obtain ⟨d, t, ty⟩ := a
    simp only [treeSlabs, slabs_eq d t, List.map_cons, List.tail_cons]
    exact ⟨_, rfl⟩
  | map m =>
    obtain ⟨d, t, ty, cnt, seed⟩ := m
    simp only [treeSlabs, mslabs_eq d t, List.map_cons, List.tail_cons]
    exact ⟨_, rfl⟩

theorem treeIds_cons (c : Cont) : c.treeIds = c.vid :: AList.keys c.treeSlabs.tail := by
  obtain ⟨x, hx⟩ := treeSlabs_cons c
  unfold treeIds
  conv => lhs; rw [hx]
  rfl

theorem vid_mem_treeIds (c : Cont) : c.vid ∈ c.treeIds := by
  rw [treeIds_cons]; exact List.mem_cons_self

theorem inline_tail {c c' : Cont} {id : SlabID} {cx cx' : Ctx} (h : c.inline id cx = .ok (c', cx')) :
    c'.treeSlabs.tail = c.treeSlabs.tail ∧ c'.vid = c.vid := by
  unfold Cont.inline at h
  split at h
  · split at h
    · cases h
    · cases h; exact ⟨rfl, rfl⟩
  · split at h
    · cases h
    · cases h; exact ⟨rfl, rfl⟩
  · cases h

theorem uninline_tail {c c' : Cont} {id : SlabID} {cx cx' : Ctx} (h : c.uninline id cx = .ok (c', cx')) :
    c'.treeSlabs.tail = c.treeSlabs.tail ∧ c'.vid = c.vid := by
  unfold Cont.uninline at h
  split at h
  · split at h
    · cases h
    · cases h; exact ⟨rfl, rfl⟩
  · split at h
    · cases h
    · cases h; exact ⟨rfl, rfl⟩
  · cases h

end Cont

namespace World

/-- `Inline`: the root slab is removed from storage, everything else stays -/
theorem cacct_inline {c c' : Cont} {id : SlabID} {cx cx' : Ctx} (h : c.inline id cx = .ok (c', cx'))
    (hid : c.vid = id) (hnd : c.treeIds.Nodup) (ctr : Nat) :
    CAcct ctr ctr c c' [.remove id] [] ∧ c'.treeIds = c.treeIds ∧ cx' = cx.emit (.remove id) := by
  obtain ⟨h1, h2, _, h4⟩ := Cont.inline_ok h
  obtain ⟨ht, hv⟩ := Cont.inline_tail h
  have hids : c'.treeIds = c.treeIds := by rw [Cont.treeIds_cons, Cont.treeIds_cons c, ht, hv]
  have hs : c.slabs = c.treeSlabs := Cont.slabs_of_standalone h1
  have hs' : c'.slabs = c.treeSlabs.tail := by rw [Cont.slabs_of_inlined h2, ht]
  have hh : c.heapIds = id :: AList.keys c.treeSlabs.tail := by
    rw [Cont.heapIds_of_standalone h1, Cont.treeIds_cons, hid]
  have hh' : c'.heapIds = AList.keys c.treeSlabs.tail := by unfold Cont.heapIds; rw [hs']
  have hnot : id ∉ AList.keys c.treeSlabs.tail := by
    rw [Cont.treeIds_cons, hid] at hnd
    exact (List.nodup_cons.1 hnd).1
  refine ⟨⟨Nat.le_refl _, ?_, ?_, ?_, ?_, ?_, by simp, ?_⟩, hids, h4⟩
  · intro p hp
    rw [hs'] at hp
    rw [hs]
    exact Or.inl (List.mem_of_mem_tail hp)
  · intro j hj hj'
    rw [hh] at hj; rw [hh'] at hj'
    rcases List.mem_cons.1 hj with e | e
    · rw [lastAction_remove1, if_pos e.symm]
    · exact absurd e hj'
  · intro j hj
    rw [lastAction_remove1] at hj
    split at hj <;> cases hj
  · intro j hj
    rw [lastAction_remove1] at hj
    split at hj
    · rename_i e; subst e; rw [hh']; exact hnot
    · cases hj
  · intro j hj
    rw [lastAction_remove1] at hj
    split at hj
    · rename_i e; subst e; left; rw [← hid]; exact Cont.vid_mem_treeIds c
    · exact absurd rfl hj
  · intro j hj
    rw [hids] at hj; exact Or.inl hj

/-- `Uninline`: the root slab is stored, everything else stays -/
theorem cacct_uninline {c c' : Cont} {id : SlabID} {cx cx' : Ctx} (h : c.uninline id cx = .ok (c', cx'))
    (hid : c.vid = id) (ctr : Nat) :
    CAcct ctr ctr c c' [.store id] [] ∧ c'.treeIds = c.treeIds ∧ cx' = cx.emit (.store id) := by
  obtain ⟨h1, h2, _, h4⟩ := Cont.uninline_ok h
  obtain ⟨ht, hv⟩ := Cont.uninline_tail h
  have hids : c'.treeIds = c.treeIds := by rw [Cont.treeIds_cons, Cont.treeIds_cons c, ht, hv]
  have hs : c.slabs = c.treeSlabs.tail := Cont.slabs_of_inlined h1
  have hs' : c'.slabs = c'.treeSlabs := Cont.slabs_of_standalone h2
  have hh : c.heapIds = AList.keys c.treeSlabs.tail := by unfold Cont.heapIds; rw [hs]
  have hh' : c'.heapIds = id :: AList.keys c.treeSlabs.tail := by
    rw [Cont.heapIds_of_standalone h2, Cont.treeIds_cons, hv, hid, ht]
  refine ⟨⟨Nat.le_refl _, ?_, ?_, ?_, ?_, ?_, by simp, ?_⟩, hids, h4⟩
  · intro p hp
    rw [hs'] at hp
    obtain ⟨x, hx⟩ := Cont.treeSlabs_cons c'
    rw [hx] at hp
    rcases List.mem_cons.1 hp with e | e
    · right; rw [e, hv, hid, lastAction_store1, if_pos rfl]
    · left; rw [hs, ← ht]; exact e
  · intro j hj hj'
    rw [hh] at hj; rw [hh'] at hj'
    exact absurd (List.mem_cons_of_mem _ hj) hj'
  · intro j hj
    rw [lastAction_store1] at hj
    split at hj
    · rename_i e; subst e; left; rw [hh']; exact List.mem_cons_self
    · cases hj
  · intro j hj
    rw [lastAction_store1] at hj
    split at hj <;> cases hj
  · intro j hj
    rw [lastAction_store1] at hj
    split at hj
    · rename_i e; subst e; left; rw [← hid]; exact Cont.vid_mem_treeIds c
    · exact absurd rfl hj
  · intro j hj
    rw [hids] at hj; exact Or.inl hj

/-- a container whose owned slabs did not change (e.g. an operation on an inlined array, whose only
    slab is embedded in the parent) and which touched nothing -/
theorem cacct_nil {pc pc' : Cont} (hs : pc'.slabs = pc.slabs) (ht : pc'.treeIds = pc.treeIds) (c : Nat) :
    CAcct c c pc pc' [] [] := by
  have hh : pc'.heapIds = pc.heapIds := by unfold Cont.heapIds; rw [hs]
  refine ⟨Nat.le_refl _, fun p hp => Or.inl (hs ▸ hp), fun id h1 h2 => absurd (hh ▸ h1) h2, by simp, by simp,
    by simp, by simp, fun id h => Or.inl (ht ▸ h)⟩

/-- The account of a container from an account of the slabs it owns: `pc.slabs`, `pc'.slabs` are the slabs
    `S`, `S'` of the account with a label each (`L`, `L'`: the type information of a root slab); a slab that
    stays keeps its label unless it has been stored (`hlab`). -/
theorem CAcct.of_labelled {β : Type} {pc pc' : Cont} {c c' : Nat} {S S' : List (SlabID × β)}
    {L L' : SlabID × β → WSlab} {E : List Eff} {cr : List SlabID}
    (hs : pc.slabs = S.map fun q => (q.1, L q)) (hs' : pc'.slabs = S'.map fun q => (q.1, L' q)) (hle : c ≤ c')
    (kept : ∀ q ∈ S', q ∈ S ∨ lastAction E q.1 = some true)
    (hlab : ∀ q ∈ S', q ∈ S → L' q = L q ∨ lastAction E q.1 = some true)
    (gone : ∀ id ∈ AList.keys S, id ∉ AList.keys S' → lastAction E id = some false)
    (stored : ∀ id, lastAction E id = some true → id ∈ AList.keys S' ∨ id ∈ cr)
    (removed : ∀ id, lastAction E id = some false → id ∉ AList.keys S')
    (foot : ∀ id, lastAction E id ≠ none → id ∈ pc.treeIds ∨ c < id.idx) (fresh : ∀ id ∈ cr, c < id.idx)
    (tnew : ∀ id ∈ pc'.treeIds, id ∈ pc.treeIds ∨ c < id.idx) : CAcct c c' pc pc' E cr := by
  have hk : pc.heapIds = AList.keys S := by unfold Cont.heapIds; rw [hs]; simp [AList.keys]
  have hk' : pc'.heapIds = AList.keys S' := by unfold Cont.heapIds; rw [hs']; simp [AList.keys]
  refine ⟨hle, fun p hp => ?_, hk ▸ hk' ▸ gone, hk' ▸ stored, hk' ▸ removed, foot, fresh, tnew⟩
  rw [hs'] at hp
  obtain ⟨q, hq, rfl⟩ := List.mem_map.1 hp
  rcases kept q hq with h1 | h1
  · rcases hlab q hq h1 with h2 | h2
    · exact Or.inl (by rw [hs, h2]; exact List.mem_map.2 ⟨q, h1, rfl⟩)
    · exact Or.inr h2
  · exact Or.inr h1

theorem cacct_of_macct_map {m m' : OMap 3} {a c c' : Nat} {E : List Eff} {cr : List SlabID}
    (h : MAcct a c c' (MTree.slabs m.d m.root) (MTree.slabs m'.d m'.root) E cr)
    (hi : m.isInlined = false) (hi' : m'.isInlined = false) (hrid : m'.rootID = m.rootID)
    (hroot : (m'.ty, m'.count, m'.seed) ≠ (m.ty, m.count, m.seed) → lastAction E m.rootID = some true) :
    CAcct c c' (.map m) (.map m') E cr := by
  refine CAcct.of_labelled (Cont.slabs_of_standalone (c := .map m) hi) (Cont.slabs_of_standalone (c := .map m') hi')
    h.le h.kept (fun q _ _ => ?_) h.gone h.stored h.removed (fun id h1 => ?_) (fun id h1 => (h.fresh id h1).2.1)
    (fun id h1 => ?_)
  · by_cases hr : q.1 = m.rootID
    · by_cases hx : (m'.ty, m'.count, m'.seed) = (m.ty, m.count, m.seed)
      · left; simp only [hrid, hr, if_true, hx]
      · right; rw [hr]; exact hroot hx
    · left; simp only [hrid, hr, if_false]
  · rw [Cont.treeIds_map]
    exact (h.foot id h1).imp_right (·.2.1)
  · rw [Cont.treeIds_map] at h1 ⊢
    exact (h.keys_new id h1).imp_right (·.2.1)

theorem cacct_of_acct_arr {a a' : Arr} {c c' : Nat} {E : List Eff} {cr : List SlabID}
    (h : Acct c (ATree.slabs a.d a.root) (ATree.slabs a'.d a'.root) E cr) (hle : c ≤ c')
    (hi : a.isInlined = false) (hi' : a'.isInlined = false) (hrid : a'.rootID = a.rootID)
    (hty : a'.ty ≠ a.ty → lastAction E a.rootID = some true) :
    CAcct c c' (.arr a) (.arr a') E cr := by
  refine CAcct.of_labelled (Cont.slabs_of_standalone (c := .arr a) hi) (Cont.slabs_of_standalone (c := .arr a') hi')
    hle h.kept (fun q _ _ => ?_) h.gone h.stored h.removed (fun id h1 => ?_) h.fresh (fun id h1 => ?_)
  · by_cases hr : q.1 = a.rootID
    · by_cases hx : a'.ty = a.ty
      · left; simp only [hrid, hr, if_true, hx]
      · right; rw [hr]; exact hty hx
    · left; simp only [hrid, hr, if_false]
  · rw [Cont.treeIds_arr, ← keys_slabs]
    exact h.foot id h1
  · rw [Cont.treeIds_arr, ← keys_slabs] at h1 ⊢
    exact h.keys_new id h1

end World
end Atree

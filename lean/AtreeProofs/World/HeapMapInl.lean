import AtreeProofs.World.HeapCont
import AtreeProofs.Map.EffectsTop
import AtreeProofs.World.MapRefW
/-
  Heap accounts of an INLINED map: its root data slab is embedded in the parent's slab, but it may
  own external collision-group slabs.  `OMap.set / remove` on such a map rewrite the group slabs
  (account `set0_acct` / `remove0_acct` of the first level of the data slab) and store nothing else.
-/
namespace Atree
open Gen

variable {r : Nat} {T : Nat}

theorem OMap.isInlined_succ {d : Nat} (x : MTree r (d + 1)) (ty cnt seed : Nat) :
    (⟨d + 1, x, ty, cnt, seed⟩ : OMap r).isInlined = false := rfl

theorem omapInl_set_acct {cfg : MCfg} (s : MDataSlab r) (ty cnt seed : Nat) {k : MKey} {v : Elem} {c c' : Ctx}
    {old : Option Elem} {m' : OMap r} (hinl : s.inlined = true)
    (hF : ∀ el ∈ s.elems.elems, FirstOk (NoExt r) el)
    (hnd : (AList.keys (grp s.elems.elems)).Nodup)
    (hold : ∀ id ∈ AList.keys (grp s.elems.elems), Old cfg.addr c.ctr id)
    (h : OMap.set cfg (⟨0, s, ty, cnt, seed⟩ : OMap r) k v c = .ok (old, m', c')) (hinl' : m'.isInlined = true) :
    ∃ (s' : MDataSlab r) (cnt' : Nat), m' = ⟨0, s', ty, cnt', seed⟩ ∧ s'.hdr.id = s.hdr.id ∧ s'.inlined = true ∧
      ∃ E C, MLog cfg.addr c c' E C ∧
        MAcct cfg.addr c.ctr c'.ctr (grp s.elems.elems) (grp s'.elems.elems) E (C.map (·.1)) := by
  obtain ⟨ks, t', c1, hset, hfix⟩ := OMap.set_ok_iff.mp h
  obtain ⟨rfl, rfl⟩ := OMap.rootFix_inl hfix hinl'
  obtain ⟨elems, c2, hset0, rfl, rfl⟩ := MDataSlab.set_ok_iff.mp (show s.set cfg k v c = _ from hset)
  refine ⟨_, _, rfl, rfl, hinl, ?_⟩
  -- the slab is inlined: nothing is stored but the group slabs
  simp only [MDataSlab.storeIfNotInlined, MDataSlab.withElems, hinl, if_true]
  exact set0_acct (MElems.opsEff cfg r) hF hnd hold hset0

theorem omapInl_remove_acct {cfg : MCfg} (s : MDataSlab r) (ty cnt seed : Nat) {k : MKey} {c c' : Ctx}
    {rk : MKey} {rv : Elem} {m' : OMap r} (hinl : s.inlined = true)
    (hF : ∀ el ∈ s.elems.elems, FirstOk (NoExt r) el)
    (hnd : (AList.keys (grp s.elems.elems)).Nodup)
    (hold : ∀ id ∈ AList.keys (grp s.elems.elems), Old cfg.addr c.ctr id)
    (h : OMap.remove cfg (⟨0, s, ty, cnt, seed⟩ : OMap r) k c = .ok (rk, rv, m', c')) (hinl' : m'.isInlined = true) :
    ∃ (s' : MDataSlab r) (cnt' : Nat), m' = ⟨0, s', ty, cnt', seed⟩ ∧ s'.hdr.id = s.hdr.id ∧ s'.inlined = true ∧
      ∃ E C, MLog cfg.addr c c' E C ∧
        MAcct cfg.addr c.ctr c'.ctr (grp s.elems.elems) (grp s'.elems.elems) E (C.map (·.1)) := by
  obtain ⟨t', c1, hrem, hfix⟩ := OMap.remove_ok_iff.mp h
  obtain ⟨rfl, rfl⟩ := OMap.rootFix_inl hfix hinl'
  obtain ⟨elems, c2, hrem0, rfl, rfl⟩ := MDataSlab.remove_ok_iff.mp (show s.remove cfg k c = _ from hrem)
  refine ⟨_, _, rfl, rfl, hinl, ?_⟩
  simp only [MDataSlab.storeIfNotInlined, MDataSlab.withElems, hinl, if_true]
  obtain ⟨E, hlog, hacct⟩ := remove0_acct (MElems.opsEff cfg r) hF hnd hold hrem0
  exact ⟨E, [], hlog, hacct⟩

namespace World

/-- the slabs an inlined map owns: its external collision groups -/
theorem slabs_mapInl (s : MDataSlab 3) (ty cnt seed : Nat) (hi : s.inlined = true) :
    (Cont.map ⟨0, s, ty, cnt, seed⟩).slabs = (grp s.elems.elems).map (fun p =>
      (p.1, WSlab.map (.group p.2) (if p.1 = s.hdr.id then some (ty, cnt, seed) else none))) := by
  rw [Cont.slabs_of_inlined (c := .map ⟨0, s, ty, cnt, seed⟩) hi]
  simp only [Cont.treeSlabs, mslabs_zero, List.map_cons, List.tail_cons, groupSlabs_eq, List.map_map]
  rfl

theorem treeIds_mapInl (s : MDataSlab 3) (ty cnt seed : Nat) :
    (Cont.map ⟨0, s, ty, cnt, seed⟩).treeIds = s.hdr.id :: AList.keys (grp s.elems.elems) := by
  rw [Cont.treeIds_map]
  simp only [mslabs_zero, AList.keys_cons, groupSlabs_eq]
  congr 1
  simp [AList.keys]

theorem cacct_of_macct_mapInl {s s' : MDataSlab 3} {ty cnt seed ty' cnt' seed' : Nat} {a c c' : Nat}
    {E : List Eff} {cr : List SlabID}
    (h : MAcct a c c' (grp s.elems.elems) (grp s'.elems.elems) E cr)
    (hi : s.inlined = true) (hi' : s'.inlined = true) (hid : s'.hdr.id = s.hdr.id)
    (hrid : s.hdr.id ∉ AList.keys (grp s.elems.elems)) (hold : s.hdr.id.idx ≤ c) :
    CAcct c c' (.map ⟨0, s, ty, cnt, seed⟩) (.map ⟨0, s', ty', cnt', seed'⟩) E cr := by
  have hrid' : s.hdr.id ∉ AList.keys (grp s'.elems.elems) := by
    intro hm
    rcases h.keys_new _ hm with h1 | h1
    · exact hrid h1
    · have := h1.2.1; omega
  refine CAcct.of_labelled (slabs_mapInl s ty cnt seed hi) (slabs_mapInl s' ty' cnt' seed' hi') h.le h.kept
    (fun q hq _ => ?_) h.gone h.stored h.removed (fun id h1 => ?_) (fun id h1 => (h.fresh id h1).2.1) (fun id h1 => ?_)
  · have hq1 : q.1 ≠ s.hdr.id := fun e => hrid' (e ▸ mem_keys_of_mem hq)
    left; simp only [hid, hq1, if_false]
  · rw [treeIds_mapInl]
    exact (h.foot id h1).imp (List.mem_cons_of_mem _) (·.2.1)
  · rw [treeIds_mapInl] at h1 ⊢
    rcases List.mem_cons.1 h1 with e | e
    · left; rw [e, hid]; exact List.mem_cons_self
    · exact (h.keys_new id e).imp (List.mem_cons_of_mem _) (·.2.1)

end World
end Atree

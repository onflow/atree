import AtreeProofs.World.HeapNotify
/-
  The heap account of the five mutators (`arrInsert`, `arrSet`, `arrRemove`, `mapSet`, `mapRemove`), once for
  the normal form of a mutation (`Mutation`, World/Shape): the inline / un-inline transition of the value
  handed in, ONE core operation on the target container (`CoreStep`), the callback chain (`notifyHeap`), and
  the un-inlining of the value handed back (`Mutation.heap`); each operation is its shape (`sh*_core`;
  `sh*_tableLaw`, World/Shape).  `Mid` is the state the chain starts from; the deep account takes it from here.
-/
namespace Atree
open Gen

namespace World

variable {D : SlabID → DigestFn 4} {rank : SlabID → Nat}

/-- `uninlineStorableIfNeeded` as a step of an operation -/
theorem uninlineIfNeeded_post {w w1 : World} {cx cx1 : Ctx} (H : HeapOk w cx.ctr) (hids : IdsOk w) {e e' : Elem}
    {ov : Option SlabID} (h : w.uninlineIfNeeded e cx = .ok (e', ov, w1, cx1)) :
    Post w cx w1 cx1 := by
  obtain ⟨E, hlog, hacct, hheap, hi⟩ := uninlineIfNeeded_heap H hids h
  have hc := uninlineIfNeeded_ctr h
  exact ⟨E, [], hlog, by rw [hc]; exact hacct, by rw [hc]; exact hheap, hi⟩

/-- the core step of the shape `S` is a `CoreStep`, in any world `w1` of an operation that started from `w`
    in which `S.p` is untouched, for a storable that fits the slot and refers below `S.p` only -/
def MutShape.CoreOk (D : SlabID → DigestFn 4) (rank : SlabID → Nat) (S : MutShape) (w : World) (ctr0 : Nat) : Prop :=
  ∀ {w1 : World} {cx1 cx2 : Ctx} {pc pc' : Cont} {e old : Option Elem}, WPre D rank w ctr0 w1 cx1.ctr →
    w1.cont? S.p = some pc → w1.cont? S.p = w.cont? S.p →
    (∀ e0, e = some e0 → 1 ≤ e0.size ∧ e0.size ≤ S.lim w1.T ∧ ∀ x, e0.pay = .ref x → rank S.p < rank x) →
    S.core w1.T w1.mcfg pc e cx1 old pc' cx2 → CoreStep D rank w1 S.p pc pc' cx1 cx2

/-- installing the closure of the stored child changes `hinfo` only -/
theorem MutShape.cb_frame (S : MutShape) (w : World) :
    (∀ z, (S.cb w).cont? z = w.cont? z) ∧ (S.cb w).addr = w.addr ∧ (S.cb w).T = w.T := by
  unfold MutShape.cb
  split
  · exact ⟨fun z => cont?_install _ _ _ _ _, addr_install _ _ _ _, T_install _ _ _ _⟩
  · exact ⟨fun _ => rfl, rfl, rfl⟩

/-- The middle of a mutation: after the value phase (`w1`) and after the core step has been filed and the
    tables of `S.p` updated (`S.reidx (w1.setCont S.p pc')`, where the notification starts) -/
structure Mid (D : SlabID → DigestFn 4) (rank : SlabID → Nat) (S : MutShape) (w : World) (cx : Ctx) (pc pc' : Cont)
    (w1 : World) (cx1 cx2 : Ctx) : Prop where
  pre1 : WPre D rank w cx.ctr w1 cx1.ctr
  conts1 : ∀ z, rank z ≤ rank S.p → w1.cont? z = w.cont? z
  post1 : Post w cx w1 cx1
  step : CoreStep D rank w1 S.p pc pc' cx1 cx2
  pre2 : WPre D rank w cx.ctr (S.reidx (w1.setCont S.p pc')) cx2.ctr
  same2 : ∀ z, rank z < rank S.p → (S.reidx (w1.setCont S.p pc')).cont? z = w.cont? z
  post12 : Post w1 cx1 (S.reidx (w1.setCont S.p pc')) cx2

theorem Mid.of_prep {S : MutShape} {w w1 : World} {cx cx1 cx2 : Ctx} {pc pc' : Cont} {e old : Option Elem}
    (H : HInv D rank w cx.ctr) (Hh : HeapOk w cx.ctr) (hv : ∀ v, S.val = some v → WValH rank w S.p (S.lim w.T) v)
    (hcore : S.CoreOk D rank w cx.ctr) (hT : S.TableLaw) (hp : w.cont? S.p = some pc)
    (hprep : Prep w cx (S.lim w.T) S.val e w1 cx1) (hc : S.core w1.T w1.mcfg pc e cx1 old pc' cx2) :
    Mid D rank S w cx pc pc' w1 cx1 cx2 := by
  have P := WPre.of_inv H Hh
  obtain ⟨P1, post1, hco1, he⟩ : WPre D rank w cx.ctr w1 cx1.ctr ∧ Post w cx w1 cx1 ∧
      (∀ z, rank z ≤ rank S.p → w1.cont? z = w.cont? z) ∧
      (∀ e0, e = some e0 → 1 ≤ e0.size ∧ e0.size ≤ S.lim w1.T ∧ ∀ x, e0.pay = .ref x → rank S.p < rank x) := by
    cases hval : S.val with
    | none =>
      rw [hval] at hprep
      obtain ⟨rfl, rfl, rfl⟩ := hprep
      exact ⟨P, Post.refl Hh P.idsOk, fun _ _ => rfl, fun _ h => (by cases h)⟩
    | some v =>
      rw [hval] at hprep
      obtain ⟨e0, rfl, hst⟩ := hprep
      obtain ⟨P1, post1, _, _, _, hco1, he1, he2, hepay⟩ := storableOf_pre P (hv v hval) (S.lim_le _) hst
      refine ⟨P1, post1, hco1, fun e1 h => ?_⟩
      cases h
      exact ⟨he1, P1.T ▸ he2, hepay⟩
  have hp1 : w1.cont? S.p = some pc := by rw [hco1 _ (Nat.le_refl _)]; exact hp
  have st := hcore P1 hp1 (hco1 _ (Nat.le_refl _)) he hc
  obtain ⟨P2, hsame2, post12⟩ := mutate_pre P1 (fun z hz => hco1 z (Nat.le_of_lt hz)) hp1 st (hT.reidx _)
  exact ⟨P1, hco1, post1, st, P2, hsame2, post12⟩

/-- The heap account of a mutation, whatever its shape: the value phase, one core step, the callback chain
    (`notifyHeap`), the un-inlining of the value handed back -/
theorem Mutation.heap {S : MutShape} {w w' : World} {cx cx' : Ctx} {old' : Option Elem}
    (H : HInv D rank w cx.ctr) (Hh : HeapOk w cx.ctr) (hv : ∀ v, S.val = some v → WValH rank w S.p (S.lim w.T) v)
    (hcore : S.CoreOk D rank w cx.ctr) (hT : S.TableLaw) (M : Mutation S w cx old' w' cx') : Post w cx w' cx' := by
  obtain ⟨pc, e, w1, cx1, old, pc', cx2, w3, cx3, ov, w5, hp, hprep, hc, hnp, hback, rfl⟩ := M
  have m := Mid.of_prep H Hh hv hcore hT hp hprep hc
  have post3 := (m.post1.trans Hh (m.post12.trans m.pre1.heap
    (notifyHeap m.pre2 m.same2 hnp))).congr_right (S.cb_frame w3).1 (S.cb_frame w3).2.1
  have post5 : Post w cx w5 cx' := by
    cases old with
    | none => obtain ⟨_, _, rfl, rfl⟩ := hback; exact post3
    | some o =>
      obtain ⟨o', _, hun⟩ := hback
      exact post3.trans Hh (uninlineIfNeeded_post post3.heapOk post3.idsOk hun)
  exact post5.congr_right (hT.erase _ _).conts (hT.erase _ _).addr

theorem shInsert_core {w : World} {ctr0 : Nat} (p : SlabID) (i : Nat) (v : WVal) : (shInsert p i v).CoreOk D rank w ctr0 := by
  rintro w1 cx1 cx2 pc pc' e old P1 hp1 h0 he ⟨a, a', e0, rfl, rfl, rfl, rfl, _, hs⟩
  obtain ⟨he1, he2, hepay⟩ := he e0 rfl
  exact P1.arr_insert hp1 h0 ⟨he1, he2⟩ hepay hs

theorem shSet_core {w : World} {ctr0 : Nat} (p : SlabID) (i : Nat) (v : WVal) : (shSet p i v).CoreOk D rank w ctr0 := by
  rintro w1 cx1 cx2 pc pc' e old P1 hp1 h0 he ⟨a, a', e0, o, rfl, rfl, rfl, rfl, _, hs⟩
  obtain ⟨he1, he2, hepay⟩ := he e0 rfl
  exact P1.arr_set hp1 h0 ⟨he1, he2⟩ hepay hs

theorem shRemove_core {w : World} {ctr0 : Nat} (p : SlabID) (i : Nat) : (shRemove p i).CoreOk D rank w ctr0 := by
  rintro w1 cx1 cx2 pc pc' e old P1 hp1 h0 _ ⟨a, a', o, rfl, rfl, rfl, hs⟩
  exact P1.arr_remove hp1 h0 hs

theorem shMapSet_core {w : World} {ctr0 : Nat} {p : SlabID} {k : MKey} (v : WVal) (hk : KeyOk w.T 4 (D p) k) :
    (shMapSet p k v).CoreOk D rank w ctr0 := by
  rintro w1 cx1 cx2 pc pc' e old P1 hp1 h0 he ⟨m, m', e0, rfl, rfl, rfl, hs⟩
  obtain ⟨he1, he2, hepay⟩ := he e0 rfl
  exact P1.map_set hp1 h0 (P1.T ▸ hk) he1 he2 hepay hs

theorem shMapRemove_core {w : World} {ctr0 : Nat} {p : SlabID} {k : MKey} (rk : MKey) (hk : KeyOk w.T 4 (D p) k) :
    (shMapRemove p k rk).CoreOk D rank w ctr0 := by
  rintro w1 cx1 cx2 pc pc' e old P1 hp1 h0 _ ⟨m, m', rv, rfl, rfl, rfl, hs⟩
  exact P1.map_remove hp1 h0 (P1.T ▸ hk) hs

theorem arrInsert_heap {w w' : World} {p : SlabID} {i : Nat} {v : WVal} {cx cx' : Ctx}
    (H : HInv D rank w cx.ctr) (Hh : HeapOk w cx.ctr) (hv : WValH rank w p (maxInlineArr w.T) v)
    (h : w.arrInsert p i v cx = .ok (w', cx')) : Post w cx w' cx' :=
  Mutation.heap H Hh (fun _ h => by cases h; exact hv) (shInsert_core p i v) (shInsert_tableLaw p i v)
    (arrInsert_mutation.mp h)

theorem arrSet_heap {w w' : World} {p : SlabID} {i : Nat} {v : WVal} {cx cx' : Ctx} {old' : Elem}
    (H : HInv D rank w cx.ctr) (Hh : HeapOk w cx.ctr) (hv : WValH rank w p (maxInlineArr w.T) v)
    (h : w.arrSet p i v cx = .ok (old', w', cx')) : Post w cx w' cx' :=
  Mutation.heap H Hh (fun _ h => by cases h; exact hv) (shSet_core p i v) (shSet_tableLaw p i v) (arrSet_mutation.mp h)

theorem arrRemove_heap {w w' : World} {p : SlabID} {i : Nat} {cx cx' : Ctx} {old' : Elem}
    (H : HInv D rank w cx.ctr) (Hh : HeapOk w cx.ctr)
    (h : w.arrRemove p i cx = .ok (old', w', cx')) : Post w cx w' cx' :=
  Mutation.heap H Hh (fun _ h => by cases h) (shRemove_core p i) (shRemove_tableLaw p i) (arrRemove_mutation.mp h)

theorem mapSet_heap {w w' : World} {p : SlabID} {k : MKey} {v : WVal} {cx cx' : Ctx} {old' : Option Elem}
    (H : HInv D rank w cx.ctr) (Hh : HeapOk w cx.ctr) (hk : KeyOk w.T 4 (D p) k)
    (hv : WValH rank w p (maxInlineMapValue w.T k.size) v)
    (h : w.mapSet p k v cx = .ok (old', w', cx')) : Post w cx w' cx' :=
  Mutation.heap H Hh (fun _ h => by cases h; exact hv) (shMapSet_core v hk) (shMapSet_tableLaw p k v)
    (mapSet_mutation.mp h)

theorem mapRemove_heap {w w' : World} {p : SlabID} {k : MKey} {cx cx' : Ctx} {rk : MKey} {rv' : Elem}
    (H : HInv D rank w cx.ctr) (Hh : HeapOk w cx.ctr) (hk : KeyOk w.T 4 (D p) k)
    (h : w.mapRemove p k cx = .ok (rk, rv', w', cx')) : Post w cx w' cx' :=
  Mutation.heap H Hh (fun _ h => by cases h) (shMapRemove_core rk hk) (shMapRemove_tableLaw p k rk)
    (mapRemove_mutation.mp h)

end World
end Atree

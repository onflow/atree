import AtreeProofs.World.HeapStorable
import AtreeProofs.World.SlotOk
import AtreeProofs.World.Sig
/-
  The heap account of the callback chain.

  `WPre D rank w0 ctr0 w ctr` is the situation in the middle of an operation: `w0` is the world the
  operation started from (it satisfies the light invariant `HInv`), `w` the current world.  A
  notification from `y` only ever looks at containers ABOVE `y` (smaller rank), and those are still
  the ones of `w0` (a separate hypothesis, not a field of `WPre`: the second one of `notifyHeap`, `hsame`
  in `mutate_pre`): that is all the accounting needs — every step of the chain is ONE core operation
  on an untouched, valid container (`cstep_arr`, `cstep_map`, HeapOps.lean; `CoreStep` is what it hands
  over, `WPre.arr_*` / `map_*` / `SlotSet.coreStep` build it), framed into the world (`mutate_pre`,
  through `CAcct.lift`), preceded by the inline / un-inline transition of the child
  (`childStorable_heap`).

  `Post w cx w' cx'` is what every piece of the chain delivers: the appended log, its account, the
  ownership invariant of the new world.  The chain itself (`notifyHeap`) is by `notify_induction`; one
  link is `set_post` (slot form).  `WPre` survives the replacement of one container (`WPre.replace`):
  the child in its new form (`storableOf_pre`), the container after its core step (`mutate_pre`).
-/
namespace Atree
open Gen

namespace World

variable {D : SlabID → DigestFn 4} {rank : SlabID → Nat}

/-- the situation in the middle of an operation that started from `w0` at counter `ctr0`.  `conts` gives, for
    every container of the current world, four facts in this order: `ContOk`, filed under its value ID, at
    the world's address, an inlined root stays within `T`. -/
structure WPre (D : SlabID → DigestFn 4) (rank : SlabID → Nat) (w0 : World) (ctr0 : Nat) (w : World) (ctr : Nat) :
    Prop where
  inv0 : HInv D rank w0 ctr0
  le : ctr0 ≤ ctr
  T : w.T = w0.T
  addr : w.addr = w0.addr
  conts : ∀ x c, w.cont? x = some c →
    ContOk w.T (D x) ctr c ∧ c.vid = x ∧ x.addr = w.addr ∧ (c.isInlined = true → c.rootSize ≤ w.T)
  rank : CRank rank w
  heap : HeapOk w ctr
  closure : ClosureOk D w

theorem WPre.of_inv {w : World} {ctr : Nat} (H : HInv D rank w ctr) (Hh : HeapOk w ctr) : WPre D rank w ctr w ctr :=
  ⟨H, Nat.le_refl _, rfl, rfl, fun x c hx => ⟨H.conts x c hx, H.ids x c hx, H.addr x c hx, H.band hx⟩, H.rank, Hh,
    H.closure⟩

theorem WPre.filed {w0 w : World} {ctr0 ctr : Nat} (P : WPre D rank w0 ctr0 w ctr) {x : SlabID} {c : Cont}
    (hx : w.cont? x = some c) : FiledOk D w ctr x c :=
  ⟨(P.conts x c hx).2.1, (P.conts x c hx).2.2.1, (P.conts x c hx).1, (P.conts x c hx).2.2.2⟩

/-- what a piece of the chain delivers: the appended log `E` (created slabs `C`), its account `WAcct`, and
    `HeapOk`, `IdsOk` of the new world -/
def Post (w : World) (cx : Ctx) (w' : World) (cx' : Ctx) : Prop :=
  ∃ E C, Log cx cx' E C ∧ WAcct cx.ctr cx'.ctr w w' E (C.map (·.1)) ∧ HeapOk w' cx'.ctr ∧ IdsOk w'

theorem Post.refl {w : World} {cx : Ctx} (H : HeapOk w cx.ctr) (hi : IdsOk w) : Post w cx w cx :=
  ⟨[], [], Log.refl _, WAcct.refl _ _, H, hi⟩

theorem Post.trans {w w1 w2 : World} {cx cx1 cx2 : Ctx} (h1 : Post w cx w1 cx1) (H : HeapOk w cx.ctr)
    (h2 : Post w1 cx1 w2 cx2) : Post w cx w2 cx2 := by
  obtain ⟨E1, C1, l1, a1, _, _⟩ := h1
  obtain ⟨E2, C2, l2, a2, k2, i2⟩ := h2
  refine ⟨E1 ++ E2, C1 ++ C2, l1.trans l2, ?_, k2, i2⟩
  rw [List.map_append]
  exact a1.trans a2 (fun id hid => H.inTree_le hid)

/-- only the table of containers matters -/
theorem Post.congr_right {w w1 w1' : World} {cx cx1 : Ctx} (h : Post w cx w1 cx1)
    (hc : ∀ z, w1'.cont? z = w1.cont? z) (ha : w1'.addr = w1.addr) : Post w cx w1' cx1 := by
  obtain ⟨E, C, l, a, k, i⟩ := h
  exact ⟨E, C, l, a.congr (fun _ => rfl) hc, k.congr hc ha, fun x c hx => i x c (by rw [← hc]; exact hx)⟩

theorem Post.congr_left {w w' w1 : World} {cx cx1 : Ctx} (h : Post w cx w1 cx1)
    (hc : ∀ z, w'.cont? z = w.cont? z) : Post w' cx w1 cx1 := by
  obtain ⟨E, C, l, a, k, i⟩ := h
  exact ⟨E, C, l, a.congr hc (fun _ => rfl), k, i⟩

theorem Post.ctr_le {w w1 : World} {cx cx1 : Ctx} (h : Post w cx w1 cx1) : cx.ctr ≤ cx1.ctr := by
  obtain ⟨E, C, l, _, _, _⟩ := h; exact l.ctr_le

theorem Post.heapOk {w w1 : World} {cx cx1 : Ctx} (h : Post w cx w1 cx1) : HeapOk w1 cx1.ctr := by
  obtain ⟨E, C, _, _, k, _⟩ := h; exact k

theorem Post.idsOk {w w1 : World} {cx cx1 : Ctx} (h : Post w cx w1 cx1) : IdsOk w1 := by
  obtain ⟨E, C, _, _, _, i⟩ := h; exact i

theorem holds_congr {w w' : World} (h : ∀ z, w'.cont? z = w.cont? z) (q x : SlabID) : Holds w' q x ↔ Holds w q x := by
  unfold Holds; simp only [h]

theorem closureOk_of_kind {w w' : World} (hT : w'.T = w.T) (hh : w'.hinfo = w.hinfo)
    (hk : ∀ z, (w'.cont? z).map Cont.isArr = (w.cont? z).map Cont.isArr) (H : ClosureOk D w) : ClosureOk D w' := by
  refine ClosureOk.of_kind hT (fun z a' hz => ?_) (fun z m' hz => ?_) (fun x hi h => hh ▸ h) H
  all_goals
    have := hk z
    rw [hz] at this
    rcases hc : w.cont? z with _ | (a | m) <;> rw [hc] at this <;> simp [Cont.isArr] at this ⊢

theorem WPre.congr {w0 w w' : World} {ctr0 ctr : Nat} (P : WPre D rank w0 ctr0 w ctr) (S : IdxOnly w w') :
    WPre D rank w0 ctr0 w' ctr := by
  refine ⟨P.inv0, P.le, S.T.trans P.T, S.addr.trans P.addr, ?_, ?_, P.heap.congr S.conts S.addr, ?_⟩
  · intro x c hx
    rw [S.conts] at hx
    rw [S.T, S.addr]
    exact P.conts x c hx
  · intro q x hq hx
    rw [holds_congr S.conts] at hq
    rw [S.conts] at hx
    exact P.rank q x hq hx
  · exact closureOk_of_kind S.T S.hinfo (fun z => by rw [S.conts]) P.closure

theorem WPre.mono {w0 w : World} {ctr0 ctr ctr' : Nat} (P : WPre D rank w0 ctr0 w ctr) (h : ctr ≤ ctr') :
    WPre D rank w0 ctr0 w ctr' :=
  ⟨P.inv0, Nat.le_trans P.le h, P.T, P.addr,
    fun x c hx => ⟨(P.conts x c hx).1.mono h, (P.conts x c hx).2⟩, P.rank, P.heap.mono h, P.closure⟩

theorem WPre.idsOk {w0 w : World} {ctr0 ctr : Nat} (P : WPre D rank w0 ctr0 w ctr) : IdsOk w :=
  fun _ _ hx => (P.filed hx).vid

/-- `WPre` survives the replacement of ONE container: `z` holds `c'` in place of `c`, valid and in place
    (`FiledOk`), of the same kind, and every reference it holds was held before or is ranked above `z`;
    nothing else of the world changes but its index tables, and the counter may grow. -/
theorem WPre.replace {w0 w w' : World} {ctr0 ctr ctr' : Nat} (P : WPre D rank w0 ctr0 w ctr) (hle : ctr ≤ ctr')
    {z : SlabID} {c c' : Cont} (hz : w.cont? z = some c) (hz' : w'.cont? z = some c')
    (ho : ∀ x, x ≠ z → w'.cont? x = w.cont? x) (hT : w'.T = w.T) (ha : w'.addr = w.addr) (hh : w'.hinfo = w.hinfo)
    (F : FiledOk D w' ctr' z c') (hkind : c'.isArr = c.isArr)
    (hpays : ∀ x, Pay.ref x ∈ c'.pays → Pay.ref x ∈ c.pays ∨ rank z < rank x) (heap : HeapOk w' ctr') :
    WPre D rank w0 ctr0 w' ctr' := by
  have hsome : ∀ x, (w'.cont? x).isSome → (w.cont? x).isSome := fun x hx => by
    by_cases hxz : x = z
    · subst hxz; rw [hz]; rfl
    · rwa [ho x hxz] at hx
  refine ⟨P.inv0, Nat.le_trans P.le hle, hT.trans P.T, ha.trans P.addr, fun x cx0 hx => ?_, fun q x hq hx => ?_, heap,
    closureOk_of_kind hT hh (fun x => ?_) P.closure⟩
  · by_cases hxz : x = z
    · subst hxz
      rw [hz'] at hx; cases hx
      exact ⟨F.ok, F.vid, F.addr, F.band⟩
    · rw [ho x hxz] at hx
      rw [hT, ha]
      exact ⟨(P.conts x cx0 hx).1.mono hle, (P.conts x cx0 hx).2⟩
  · obtain ⟨qc, hqc, hm⟩ := hq
    by_cases hqz : q = z
    · subst hqz
      rw [hz'] at hqc; cases hqc
      rcases hpays x hm with h1 | h1
      · exact P.rank _ x ⟨c, hz, h1⟩ (hsome x hx)
      · exact h1
    · rw [ho q hqz] at hqc
      exact P.rank q x ⟨qc, hqc, hm⟩ (hsome x hx)
  · by_cases hxz : x = z
    · subst hxz; rw [hz', hz]; simp [hkind]
    · rw [ho x hxz]

/-- what the accounting needs to know about a value stored into a slot of container `p`: a plain
    value that fits the slot, or a live container below `p` in the rank whose wrapped reference
    fits the slot -/
def WValH (rank : SlabID → Nat) (w : World) (p : SlabID) (lim : Nat) : WVal → Prop
  | .plain e => 1 ≤ e.size ∧ e.size ≤ lim ∧ ∃ n, e.pay = .val n
  | .child v wr => v ≠ p ∧ rank p < rank v ∧ slabIDStorableSize + 2 * wr ≤ lim ∧ (w.cont? v).isSome

/-- `Value.Storable`: the world after the inline / un-inline transition of the child -/
theorem storableOf_pre {w0 w : World} {ctr0 : Nat} {p : SlabID} {lim : Nat} {v : WVal} {cx : Ctx} {e : Elem}
    {w1 : World} {cx1 : Ctx} (P : WPre D rank w0 ctr0 w cx.ctr) (hv : WValH rank w p lim v)
    (hlim : lim ≤ maxInlineArr w.T) (h : w.storableOf v lim cx = .ok (e, w1, cx1)) :
    WPre D rank w0 ctr0 w1 cx1.ctr ∧ Post w cx w1 cx1 ∧ cx1.ctr = cx.ctr ∧ w1.mutIdx = w.mutIdx ∧
      w1.hinfo = w.hinfo ∧
      (∀ z, rank z ≤ rank p → w1.cont? z = w.cont? z) ∧
      1 ≤ e.size ∧ e.size ≤ lim ∧ (∀ x, e.pay = .ref x → rank p < rank x) := by
  cases v with
  | plain e0 =>
    simp only [storableOf] at h
    cases h
    obtain ⟨h1, h2, n, h3⟩ := hv
    exact ⟨P, Post.refl P.heap P.idsOk, rfl, rfl, rfl, fun _ _ => rfl, h1, h2, fun x hx => by rw [h3] at hx; cases hx⟩
  | child vid wr =>
    simp only [storableOf] at h
    obtain ⟨hne, hrk, hwb, hlive⟩ := hv
    obtain ⟨c, hc⟩ := Option.isSome_iff_exists.1 hlive
    obtain ⟨hvid, haddr, hok, hband⟩ := P.filed hc
    have hlegal : legalThreshold w.T = true := by rw [P.T]; exact P.inv0.legal
    obtain ⟨c1, hsd, hok1, _, _, hfit, he, he1, he2, hc1, hco, hT1, ha1, hh1, hm1, hctr⟩ :=
      childStorable_valid hlegal hc (P.filed hc) hwb h
    obtain ⟨E, hlog, hacct, hheap⟩ := childStorable_heap P.heap hc hvid h
    have hctr' : cx1.ctr = cx.ctr := hctr
    have P1 : WPre D rank w0 ctr0 w1 cx1.ctr :=
      P.replace (Nat.le_of_eq hctr'.symm) hc hc1 hco hT1 ha1 hh1
        ⟨hsd.vid.symm ▸ hvid, ha1 ▸ haddr, by rw [hT1, hctr']; exact hok1, fun hi => by
          rw [hT1]
          exact Nat.le_trans (hfit hi) (Nat.le_trans (Nat.sub_le _ _) (Nat.le_trans hlim
            (Nat.le_trans (Nat.le_mul_of_pos_left _ (by decide)) (two_inline_le w.T hlegal).1)))⟩
        hsd.isArr (fun x hx => .inl (by simpa only [Cont.pays, hsd.storedElems] using hx))
        (by rw [hctr']; exact hheap)
    refine ⟨P1, ⟨E, [], hlog, by rw [hctr']; exact hacct, by rw [hctr']; exact hheap, P1.idsOk⟩, hctr', hm1, hh1, ?_, he1, he2, ?_⟩
    · intro z hz
      apply hco
      intro e1; subst e1; exact Nat.not_le_of_lt hrk hz
    · intro x hx
      rw [he] at hx
      cases hx
      exact hrk

/-- what one core step `pc ↦ pc'` on the container filed under `p` has to deliver (the conclusion of
    `WPre.arr_insert` … `WPre.map_remove`, the premise of `mutate_pre`): its account, the invariant, the place
    and the identity of the new container, an inlined root within the threshold, the kind and the form kept,
    and every reference it holds either held before or ranked above `p` -/
structure CoreStep (D : SlabID → DigestFn 4) (rank : SlabID → Nat) (w1 : World) (p : SlabID) (pc pc' : Cont)
    (cx1 cx2 : Ctx) : Prop where
  acct : ∃ E C, Log cx1 cx2 E C ∧ CAcct cx1.ctr cx2.ctr pc pc' E (C.map (·.1))
  ok : ContOk w1.T (D p) cx2.ctr pc'
  tree : TreeOk w1.addr cx2.ctr pc'
  vid : pc'.vid = p
  band : pc'.isInlined = true → pc'.rootSize ≤ w1.T
  kind : pc'.isArr = pc.isArr
  pays : ∀ x, Pay.ref x ∈ pc'.pays → Pay.ref x ∈ pc.pays ∨ rank p < rank x
  form : pc'.isInlined = pc.isInlined

/-- container `p` of `w1` is replaced by `pc'` (the core step `st`) and its tables are updated (`htab`): the
    precondition of the notification from `p`, and the account of the step -/
theorem mutate_pre {w0 w1 w2 : World} {ctr0 : Nat} {p : SlabID} {pc pc' : Cont} {cx1 cx2 : Ctx}
    (P1 : WPre D rank w0 ctr0 w1 cx1.ctr) (hsame : ∀ z, rank z < rank p → w1.cont? z = w0.cont? z)
    (hp : w1.cont? p = some pc) (st : CoreStep D rank w1 p pc pc' cx1 cx2)
    (htab : IdxOnly (w1.setCont p pc') w2) :
    WPre D rank w0 ctr0 w2 cx2.ctr ∧ (∀ z, rank z < rank p → w2.cont? z = w0.cont? z) ∧ Post w1 cx1 w2 cx2 := by
  obtain ⟨⟨E, C, hlog, hca⟩, hok', htree, hvid, hband, hkind, hpays, _⟩ := st
  obtain ⟨hacct, hheap⟩ := hca.lift P1.heap hp htree.1 htree.2
  have hle := hlog.ctr_le
  have P2 : WPre D rank w0 ctr0 (w1.setCont p pc') cx2.ctr :=
    P1.replace hle hp (cont?_setCont_self _ _ _) (fun x hx => cont?_setCont_ne _ _ _ _ hx) rfl rfl rfl
      ⟨hvid, (P1.filed hp).addr, hok', hband⟩ hkind hpays hheap
  have P2' := P2.congr htab
  have hsame2 : ∀ z, rank z < rank p → w2.cont? z = w0.cont? z := by
    intro z hz
    rw [htab.conts, cont?_setCont_ne _ _ _ _ (by intro e1; subst e1; omega)]
    exact hsame z hz
  have h12 : Post w1 cx1 w2 cx2 :=
    Post.congr_right ⟨E, C, hlog, hacct, hheap, P2.idsOk⟩ htab.conts htab.addr
  exact ⟨P2', hsame2, h12⟩

theorem WPre.legal {w0 w : World} {ctr0 ctr : Nat} (P : WPre D rank w0 ctr0 w ctr) : legalThreshold w.T = true := by
  rw [P.T]; exact P.inv0.legal

/-- an inlined root that is still the one of the initial world is within the inline budget of its slot -/
theorem WPre.budget {w0 w : World} {ctr0 ctr : Nat} (P : WPre D rank w0 ctr0 w ctr) {p : SlabID} {qc : Cont}
    (hp : w.cont? p = some qc) (h0 : w.cont? p = w0.cont? p) (hi : qc.isInlined = true) :
    qc.rootSize ≤ maxInlineArr w.T :=
  P.T ▸ P.inv0.room p qc (h0 ▸ hp) hi

/-- hence has room for one more entry -/
theorem WPre.room {w0 w : World} {ctr0 ctr : Nat} (P : WPre D rank w0 ctr0 w ctr) {p : SlabID} {qc : Cont}
    (hp : w.cont? p = some qc) (h0 : w.cont? p = w0.cont? p) (hi : qc.isInlined = true) :
    qc.rootSize + qc.entryMax w.T ≤ maxThr w.T := by
  have hb := P.budget hp h0 hi
  cases qc
  · exact room_arr P.legal hb
  · exact room_entry P.legal hb

theorem WPre.cfgOk {w0 w : World} {ctr0 ctr : Nat} (P : WPre D rank w0 ctr0 w ctr) {p : SlabID} {m : OMap 3}
    (hp : w.cont? p = some (.map m)) : CfgOk w.mcfg w.T m :=
  (P.filed hp).cfgOk

theorem WPre.arr_tree {w0 w : World} {ctr0 ctr : Nat} (P : WPre D rank w0 ctr0 w ctr) {p : SlabID} {a a' : Arr}
    (hp : w.cont? p = some (.arr a)) {ctr' : Nat} (hok' : ArrOk w.T a' ctr') (hrid : a'.rootID = a.rootID) :
    TreeOk w.addr ctr' (.arr a') ∧ a'.rootID = p := by
  obtain ⟨hvid, hpaddr, _, _⟩ := P.filed hp
  have hvid : a.rootID = p := hvid
  have ha : a'.addr = w.addr := by
    show a'.rootID.addr = w.addr
    rw [hrid, hvid, hpaddr]
  exact ⟨ha ▸ treeOk_arr hok', hrid.trans hvid⟩

/-- A core step from its parts: the container-level account (`cstep_arr`, `cstep_map`, HeapOps), the new container valid
    and in place, an inlined root grown by at most one entry (it was within the inline budget of its slot:
    `HInv.room`), every element either an old one or referring above `p` only. -/
theorem WPre.coreStep {w0 w : World} {ctr0 : Nat} {cx cx2 : Ctx} (P : WPre D rank w0 ctr0 w cx.ctr) {p : SlabID}
    {pc pc' : Cont} (hp : w.cont? p = some pc) (h0 : w.cont? p = w0.cont? p)
    (hacct : ∃ E C, Log cx cx2 E C ∧ CAcct cx.ctr cx2.ctr pc pc' E (C.map (·.1)))
    (hok' : ContOk w.T (D p) cx2.ctr pc') (htree : TreeOk w.addr cx2.ctr pc') (hvid : pc'.vid = p)
    (hkind : pc'.isArr = pc.isArr) (hinl' : pc'.isInlined = pc.isInlined)
    (hgrow : pc.isInlined = true → pc'.rootSize ≤ pc.rootSize + pc.entryMax w.T)
    (helems : ∀ e' ∈ pc'.storedElems, e' ∈ pc.storedElems ∨ ∀ x, e'.pay = .ref x → rank p < rank x) :
    CoreStep D rank w p pc pc' cx cx2 := by
  refine ⟨hacct, hok', htree, hvid, fun hi' => ?_, hkind, fun x hx => ?_, hinl'⟩
  · have hi0 : pc.isInlined = true := hinl' ▸ hi'
    have h2 : pc.rootSize ≤ maxInlineArr w.T := P.budget hp h0 hi0
    exact root_fits P.legal h2 (by cases pc; exact .inl (Nat.le_refl _); exact .inr (Nat.le_refl _)) (hgrow hi0)
  · rw [mem_pays_iff] at hx ⊢
    obtain ⟨e', he', hpe⟩ := hx
    rcases helems e' he' with h1 | h1
    · exact Or.inl ⟨e', h1, hpe⟩
    · exact Or.inr (h1 x hpe)

theorem WPre.arr_insert {w0 w : World} {ctr0 : Nat} {cx cx2 : Ctx} (P : WPre D rank w0 ctr0 w cx.ctr) {p : SlabID}
    {a a' : Arr} (hp : w.cont? p = some (.arr a)) (h0 : w.cont? p = w0.cont? p) {i : Nat} {e : Elem}
    (hve : ElemOk w.T e) (hepay : ∀ x, e.pay = .ref x → rank p < rank x)
    (hs : a.insert w.T i e cx = .ok (a', cx2)) : CoreStep D rank w p (.arr a) (.arr a') cx cx2 := by
  have hpok : ArrOk w.T a cx.ctr := (P.filed hp).ok
  have hroom := P.room hp h0
  obtain ⟨hi, hl, hok', hinl', hrid, hty, hle, hsz⟩ := hpok.insert_ok P.legal (StorOk.of_elemOk hve) hroom hs
  rw [toStorable_fit w.T a.addr e cx hve.2] at hl hsz
  simp only at hl hsz
  obtain ⟨htree, hvid⟩ := P.arr_tree hp hok' hrid
  refine P.coreStep hp h0 (cstep_arr hpok hok' hinl' hrid hty hle
      (fun hinv => arr_insert_acctR P.legal a cx i e (StorOk.of_elemOk hve) hinv a' cx2 hs) (fun hi0 => (hsz hi0).2))
    hok' htree hvid rfl hinl'
    (fun hi0 => Nat.le_trans (Nat.le_of_eq (hsz hi0).1) (Nat.add_le_add_left hve.2 _)) (fun e' he' => ?_)
  rcases (List.mem_insertIdx hi).1 (show e' ∈ a.toList.insertIdx i e from hl ▸ he') with h1 | h1
  · subst h1; exact Or.inr hepay
  · exact Or.inl h1

theorem WPre.arr_remove {w0 w : World} {ctr0 : Nat} {cx cx2 : Ctx} (P : WPre D rank w0 ctr0 w cx.ctr) {p : SlabID}
    {a a' : Arr} (hp : w.cont? p = some (.arr a)) (h0 : w.cont? p = w0.cont? p) {i : Nat} {old : Elem}
    (hs : a.remove w.T i cx = .ok (old, a', cx2)) : CoreStep D rank w p (.arr a) (.arr a') cx cx2 := by
  have hpok : ArrOk w.T a cx.ctr := (P.filed hp).ok
  obtain ⟨_, hl, hok', hinl', hrid, hty, hle, hsz⟩ := hpok.remove_ok P.legal hs
  obtain ⟨htree, hvid⟩ := P.arr_tree hp hok' hrid
  refine P.coreStep hp h0 (cstep_arr hpok hok' hinl' hrid hty hle
      (fun hinv => arr_remove_acct P.legal a cx i hinv old a' cx2 hs) (fun hi0 => (hsz hi0).2))
    hok' htree hvid rfl hinl'
    (fun hi0 => Nat.le_trans (Nat.le_add_right _ _) (Nat.le_trans (Nat.le_of_eq (hsz hi0).1) (Nat.le_add_right _ _)))
    (fun e' he' => Or.inl (List.mem_of_mem_eraseIdx (show e' ∈ a.toList.eraseIdx i from hl ▸ he')))

theorem WPre.arr_set {w0 w : World} {ctr0 : Nat} {cx cx2 : Ctx} (P : WPre D rank w0 ctr0 w cx.ctr) {p : SlabID}
    {a a' : Arr} (hp : w.cont? p = some (.arr a)) (h0 : w.cont? p = w0.cont? p) {i : Nat} {e old : Elem}
    (hve : ElemOk w.T e) (hepay : ∀ x, e.pay = .ref x → rank p < rank x)
    (hs : a.set w.T i e cx = .ok (old, a', cx2)) : CoreStep D rank w p (.arr a) (.arr a') cx cx2 := by
  have hpok : ArrOk w.T a cx.ctr := (P.filed hp).ok
  have hroom := P.room hp h0
  obtain ⟨_, hl, hok', hinl', hrid, hty, hle, hsz⟩ := hpok.set_ok P.legal (StorOk.of_elemOk hve) hroom hs
  rw [toStorable_fit w.T a.addr e cx hve.2] at hl hsz
  simp only at hl hsz
  obtain ⟨htree, hvid⟩ := P.arr_tree hp hok' hrid
  refine P.coreStep hp h0 (cstep_arr hpok hok' hinl' hrid hty hle
      (fun hinv => arr_set_acctR P.legal a cx i e (StorOk.of_elemOk hve) hinv old a' cx2 hs) (fun hi0 => (hsz hi0).2))
    hok' htree hvid rfl hinl'
    (fun hi0 => Nat.le_trans (Nat.le_add_right _ _) (Nat.le_trans (Nat.le_of_eq (hsz hi0).1)
      (Nat.add_le_add_left hve.2 _))) (fun e' he' => ?_)
  rcases List.mem_or_eq_of_mem_set (show e' ∈ a.toList.set i e from hl ▸ he') with h1 | h1
  · exact Or.inl h1
  · subst h1; exact Or.inr hepay

theorem WPre.map_addr {w0 w : World} {ctr0 ctr : Nat} (P : WPre D rank w0 ctr0 w ctr) {p : SlabID} {m : OMap 3}
    (hp : w.cont? p = some (.map m)) : m.rootID = p ∧ m.addr = w.addr ∧ TreeOk m.addr ctr (.map m) := by
  obtain ⟨hvid, hpaddr, _, _⟩ := P.filed hp
  have hvid : m.rootID = p := hvid
  have hma : m.addr = w.addr := by
    show m.rootID.addr = w.addr
    rw [hvid, hpaddr]
  exact ⟨hvid, hma, hma ▸ P.heap.treeOk hp⟩

theorem WPre.map_remove {w0 w : World} {ctr0 : Nat} {cx cx2 : Ctx} (P : WPre D rank w0 ctr0 w cx.ctr) {p : SlabID}
    {m m' : OMap 3} (hp : w.cont? p = some (.map m)) (h0 : w.cont? p = w0.cont? p) {k rk : MKey} {rv : Elem}
    (hk : KeyOk w.T 4 (D p) k) (hs : m.remove w.mcfg k cx = .ok (rk, rv, m', cx2)) :
    CoreStep D rank w p (.map m) (.map m') cx cx2 := by
  have hpok : MapOk w.T (D p) m cx.ctr := (P.filed hp).ok
  obtain ⟨hvid, hma, htree0⟩ := P.map_addr hp
  have hroom := P.room hp h0
  obtain ⟨_, ⟨A, B, hA, hB⟩, hok', hinl', hrid, _, hsz⟩ := hpok.remove_ok P.legal (P.cfgOk hp) hk hroom hs
  obtain ⟨E, C, hlog, hca, htree⟩ := cstep_map hpok (P.cfgOk hp) htree0 hinl'
    (fun hinv hctr hids => omap_remove_acct P.legal (P.cfgOk hp) hinv hk cx hctr hids hs)
    (fun s ty cnt seed hm hi2 hF hnd hold hi' => by
      subst hm; exact omapInl_remove_acct s ty cnt seed hi2 hF hnd hold hs hi')
  refine P.coreStep hp h0 ⟨E, C, hlog, hca⟩ hok' (hma ▸ htree) (hrid.trans hvid) rfl hinl' hsz (fun e' he' => ?_)
  simp only [Cont.storedElems, List.mem_map] at he' ⊢
  obtain ⟨q, hq, rfl⟩ := he'
  rw [hB] at hq
  refine Or.inl ⟨q, ?_, rfl⟩
  rw [hA]
  rcases List.mem_append.1 hq with h1 | h1
  · exact List.mem_append.2 (Or.inl h1)
  · exact List.mem_append.2 (Or.inr (List.mem_cons_of_mem _ h1))

theorem WPre.map_set {w0 w : World} {ctr0 : Nat} {cx cx2 : Ctx} (P : WPre D rank w0 ctr0 w cx.ctr) {p : SlabID}
    {m m' : OMap 3} (hp : w.cont? p = some (.map m)) (h0 : w.cont? p = w0.cont? p) {k : MKey} {e : Elem}
    {old : Option Elem} (hk : KeyOk w.T 4 (D p) k) (he1 : 1 ≤ e.size) (he2 : e.size ≤ maxInlineMapValue w.T k.size)
    (hepay : ∀ x, e.pay = .ref x → rank p < rank x)
    (hs : m.set w.mcfg k e cx = .ok (old, m', cx2)) : CoreStep D rank w p (.map m) (.map m') cx cx2 := by
  have hpok : MapOk w.T (D p) m cx.ctr := (P.filed hp).ok
  obtain ⟨hvid, hma, htree0⟩ := P.map_addr hp
  have hroom := P.room hp h0
  have hvr : ValueOkR w.T k.size e := ValueOkR.of_le he1 he2
  obtain ⟨heff, hok', hinl', hrid, _, hsz⟩ := hpok.set_ok P.legal (P.cfgOk hp) hk hvr hroom hs
  have hsv : storedValue w.mcfg k e cx = e := by
    show (toStorableLim (maxInlineMapValue w.T k.size) w.addr e cx).1 = e
    rw [toStorableLim_of_le _ _ _ _ he2]
  rw [hsv] at heff
  obtain ⟨E, C, hlog, hca, htree⟩ := cstep_map hpok (P.cfgOk hp) htree0 hinl'
    (fun hinv hctr hids => omap_set_acctR P.legal (P.cfgOk hp) hinv hk hvr cx hctr hids hs)
    (fun s ty cnt seed hm hi2 hF hnd hold hi' => by
      subst hm; exact omapInl_set_acct s ty cnt seed hi2 hF hnd hold hs hi')
  refine P.coreStep hp h0 ⟨E, C, hlog, hca⟩ hok' (hma ▸ htree) (hrid.trans hvid) rfl hinl' hsz (fun e' he' => ?_)
  simp only [Cont.storedElems, List.mem_map] at he' ⊢
  obtain ⟨q, hq, rfl⟩ := he'
  -- in both cases of the effect the new list is `A ++ (k, e) :: B` with `A`, `B` parts of the old one
  obtain ⟨A, B, hA, hBm, hB⟩ : ∃ A B, (∀ q ∈ A, q ∈ m.toList) ∧ (∀ q ∈ B, q ∈ m.toList) ∧
      m'.toList = A ++ (k, e) :: B := by
    rcases heff with ⟨_, _, A, B, hA, hB⟩ | ⟨v0, A, B, _, hA, hB⟩
    · exact ⟨A, B, fun q h => hA ▸ List.mem_append.2 (Or.inl h), fun q h => hA ▸ List.mem_append.2 (Or.inr h), hB⟩
    · exact ⟨A, B, fun q h => hA ▸ List.mem_append.2 (Or.inl h),
        fun q h => hA ▸ List.mem_append.2 (Or.inr (List.mem_cons_of_mem _ h)), hB⟩
  rw [hB] at hq
  rcases List.mem_append.1 hq with h1 | h1
  · exact Or.inl ⟨q, hA q h1, rfl⟩
  · rcases List.mem_cons.1 h1 with h2 | h2
    · subst h2; exact Or.inr hepay
    · exact Or.inl ⟨q, hBm q h2, rfl⟩

/-- `WPre.arr_set` / `WPre.map_set` in slot form -/
theorem SlotSet.coreStep {w0 w : World} {ctr0 : Nat} {cx cx2 : Ctx} (P : WPre D rank w0 ctr0 w cx.ctr) {p : SlabID}
    {qc qc' : Cont} {s : Slot} {e : Elem} {old : Option Elem}
    (hp : w.cont? p = some qc) (h0 : w.cont? p = w0.cont? p)
    (hk : ∀ k, s = .key k → KeyOk w.T 4 (D p) k)
    (he1 : 1 ≤ e.size) (he2 : e.size ≤ s.lim w.T) (hepay : ∀ x, e.pay = .ref x → rank p < rank x)
    (hs : SlotSet w qc s e cx old qc' cx2) : CoreStep D rank w p qc qc' cx cx2 := by
  cases qc <;> cases s <;> cases qc' <;> first | exact hs.elim | skip
  · obtain ⟨_, o, _, hs⟩ := hs
    exact P.arr_set hp h0 ⟨he1, he2⟩ hepay hs
  · exact P.map_set hp h0 (hk _ rfl) he1 he2 hepay hs

/-- the value takes its form, slot `s` of `p` is overwritten, the parent of `p` is notified (`hn`: the
    account of that notification, from its precondition), the closure is installed -/
theorem set_post {w0 w w1 w3 : World} {ctr0 : Nat} {p : SlabID} {s : Slot} {v : WVal} {cx cx1 cx2 cx3 : Ctx}
    {e : Elem} {old : Option Elem} {qc qc' : Cont}
    (P : WPre D rank w0 ctr0 w cx.ctr) (hsame : ∀ z, rank z ≤ rank p → w.cont? z = w0.cont? z)
    (hk : ∀ k, s = .key k → KeyOk w.T 4 (D p) k) (hv : WValH rank w p (s.lim w.T) v)
    (hp : w.cont? p = some qc) (hst : w.storableOf v (s.lim w.T) cx = .ok (e, w1, cx1))
    (hs : SlotSet w1 qc s e cx1 old qc' cx2)
    (hn : WPre D rank w0 ctr0 (w1.setCont p qc') cx2.ctr →
      (∀ z, rank z < rank p → (w1.setCont p qc').cont? z = w0.cont? z) → Post (w1.setCont p qc') cx2 w3 cx3) :
    Post w cx (install w3 p s v) cx3 := by
  obtain ⟨P1, post1, _, _, _, hco1, he1, he2, hepay⟩ := storableOf_pre P hv (Slot.lim_le _ s) hst
  have hT1 : w1.T = w.T := P1.T.trans P.T.symm
  have hp1 : w1.cont? p = some qc := by rw [hco1 p (Nat.le_refl _)]; exact hp
  obtain ⟨P2, hsame2, post12⟩ := mutate_pre P1
    (fun z hz => (hco1 z (Nat.le_of_lt hz)).trans (hsame z (Nat.le_of_lt hz))) hp1
    (SlotSet.coreStep P1 hp1 ((hco1 p (Nat.le_refl _)).trans (hsame p (Nat.le_refl _))) (fun k hk' => hT1 ▸ hk k hk')
      he1 (hT1 ▸ he2) hepay hs) (IdxOnly.refl _)
  exact (post1.trans P.heap (post12.trans P1.heap (hn P2 hsame2))).congr_right
    (fun z => cont?_install _ _ _ _ _) (addr_install _ _ _ _)

/-- what the closure of `y` and the slot it finds give: the child is a proper value for the slot -/
theorem slot_facts {w0 w : World} {ctr0 : Nat} {cx : Ctx} (P : WPre D rank w0 ctr0 w cx.ctr) {y : SlabID} {hi : HInfo}
    {c qc : Cont} {s : Slot} {el : Elem} (hh : AList.find? w.hinfo y = some hi) (hc : w.cont? y = some c)
    (hf : SlotFinds w y hi qc s el) :
    WValH rank w hi.parent (s.lim w.T) (.child y hi.wrap) ∧ (∀ k, s = .key k → KeyOk w.T 4 (D hi.parent) k) := by
  obtain ⟨hq, hso, hget, hel⟩ := hf
  have hylive : (w.cont? y).isSome := by rw [hc]; rfl
  have hpays : ∀ e, e ∈ qc.storedElems → e.pay = .ref y → rank hi.parent < rank y := fun e he hp =>
    P.rank _ _ ⟨_, hq, mem_pays_iff.2 ⟨e, he, hp⟩⟩ hylive
  cases qc <;> cases s <;> first | exact hso.elim | skip
  · rename_i pa idx
    have hpok : ArrOk w.T pa cx.ctr := (P.filed hq).ok
    have hrk := hpays el (List.mem_of_getElem? (hpok.get_ok P.legal hget)) hel
    exact ⟨⟨fun e1 => by rw [e1] at hrk; omega, hrk, ((P.closure y hi hh).1 pa hq).2, hylive⟩, fun k hk => (by cases hk)⟩
  · rename_i pm k
    obtain ⟨k', hget⟩ := hget
    have hcl := (P.closure y hi hh).2 pm k hq hso
    have hpok : MapOk w.T (D hi.parent) pm cx.ctr := (P.filed hq).ok
    have hmem : (k, el) ∈ pm.toList := (hpok.get_ok P.legal (P.cfgOk hq) hcl.1 hget).2
    have hrk := hpays el (by simp only [Cont.storedElems, List.mem_map]; exact ⟨(k, el), hmem, rfl⟩) hel
    exact ⟨⟨fun e1 => by rw [e1] at hrk; omega, hrk, hcl.2.2, hylive⟩, fun k1 hk => (by cases hk; exact hcl.1)⟩

/-- the world in which the closure of `y` has been dropped has the same heap -/
theorem post_notFound {w0 w : World} {ctr0 : Nat} {cx : Ctx} (P : WPre D rank w0 ctr0 w cx.ctr) (h : List (SlabID × HInfo)) :
    Post w cx { w with hinfo := h } cx :=
  (Post.refl P.heap P.idsOk).congr_right (fun _ => rfl) rfl

/-- A notification from `y`, in a world whose containers above `y` are those of a
    world satisfying the invariant, appends a log that is a complete account of what it did to the
    heap — for every fuel, through any number of ancestors, inlined or standalone. -/
theorem notifyHeap {fuel : Nat} {w0 w w' : World} {ctr0 : Nat} {y : SlabID} {cx cx' : Ctx}
    (P : WPre D rank w0 ctr0 w cx.ctr) (hsame : ∀ z, rank z < rank y → w.cont? z = w0.cont? z)
    (h : notifyParent fuel w y cx = .ok (w', cx')) : Post w cx w' cx' := by
  refine notify_induction
    (M := fun w y cx w' cx' => ∀ w0 ctr0, WPre D rank w0 ctr0 w cx.ctr →
      (∀ z, rank z < rank y → w.cont? z = w0.cont? z) → Post w cx w' cx')
    (fun _ _ _ _ P _ => Post.refl P.heap P.idsOk) (fun _ _ _ _ _ _ _ P _ => Post.refl P.heap P.idsOk)
    (fun _ _ _ _ _ _ P _ => post_notFound P _) ?_ fuel h w0 ctr0 P hsame
  intro w y cx hi c qc s el e w1 cx1 old qc' cx2 w3 cx3 hh hc _ hf hst hs _ _ ih w0 ctr0 P hsame
  obtain ⟨hv, hk⟩ := slot_facts P hh hc hf
  exact set_post P (fun z hz => hsame z (Nat.lt_of_le_of_lt hz hv.2.1)) hk hv hf.parent hst hs (ih w0 ctr0)

/-- container `p` of `w1` is replaced by `pc'` (one core step), then the parent of `p` is notified -/
theorem mutate_notify {fuel : Nat} {w0 w1 w2 w3 : World} {ctr0 : Nat} {p : SlabID} {pc pc' : Cont} {cx1 cx2 cx3 : Ctx}
    (P1 : WPre D rank w0 ctr0 w1 cx1.ctr) (hsame : ∀ z, rank z < rank p → w1.cont? z = w0.cont? z)
    (hp : w1.cont? p = some pc) (st : CoreStep D rank w1 p pc pc' cx1 cx2) (htab : IdxOnly (w1.setCont p pc') w2)
    (hn : notifyParent fuel w2 p cx2 = .ok (w3, cx3)) : Post w1 cx1 w3 cx3 := by
  obtain ⟨P2, hsame2, h12⟩ := mutate_pre P1 hsame hp st htab
  exact h12.trans P1.heap (notifyHeap P2 hsame2 hn)

end World
end Atree

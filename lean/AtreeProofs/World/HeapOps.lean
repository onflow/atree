import AtreeProofs.World.HeapCont
import AtreeProofs.Array.EffectsTop
import AtreeProofs.World.ArrRef
import AtreeProofs.World.HeapMapInl
import AtreeProofs.World.MapRefW
import AtreeProofs.WorldOk
/-
  The heap account of ONE container operation, in either form (standalone / inlined), once per kind of
  container: `cstep_arr`, `cstep_map` take what the operation did to a valid container (`ArrOk` / `MapOk` =
  `ContOk`; form and root ID kept) and its tree-level account (`arr_set_acctR` … `arr_remove_acct`,
  `omap_set_acctR`, `omap_remove_acct`; for an inlined map that of its external groups, `omapInl_set_acct`,
  `omapInl_remove_acct`) and return the appended log and its account `CAcct`;
  `cstep_map` also takes and returns the validity of the slab IDs (`TreeOk`; for arrays it follows from
  `ArrOk`: `treeOk_arr`).  `WPre.arr_insert` … `WPre.map_remove` (World/HeapNotify) call them.

  The heap account from the bottom: HeapAlg (the accounts `WAcct`, `CAcct`, `CAcct.lift`), HeapCont (one
  container), this file (one core operation), HeapStorable and HeapNotify (the value phase, `WPre`, the callback
  chain), HeapMutation and HeapOpsMisc (the operations).  The deep account (`Deep*`) starts from HeapNotify,
  totality (`Total*`) from World/Notify.
-/
namespace Atree
open Gen

namespace World

/-- the slab IDs of a container's tree are distinct, allocated and owned by address `a` -/
def TreeOk (a ctr : Nat) (pc : Cont) : Prop :=
  pc.treeIds.Nodup ∧ ∀ id ∈ pc.treeIds, id.idx ≤ ctr ∧ id.addr = a

theorem TreeOk.mono {a ctr ctr' : Nat} {pc : Cont} (h : TreeOk a ctr pc) (hc : ctr ≤ ctr') : TreeOk a ctr' pc :=
  ⟨h.1, fun id hid => ⟨Nat.le_trans (h.2 id hid).1 hc, (h.2 id hid).2⟩⟩

theorem HeapOk.treeOk {w : World} {ctr : Nat} (H : HeapOk w ctr) {x : SlabID} {c : Cont} (hx : w.cont? x = some c) :
    TreeOk w.addr ctr c :=
  ⟨H.nodup x c hx, fun id hid => ⟨H.below x c id hx hid, H.addr x c id hx hid⟩⟩

variable {T : Nat}

theorem treeOk_arr {a : Arr} {ctr : Nat} (h : ArrOk T a ctr) : TreeOk a.addr ctr (.arr a) := by
  rw [TreeOk, Cont.treeIds_arr]
  cases hinl : a.isInlined
  · have hi := (h.1 hinl).ids
    exact ⟨hi.1, fun id hid => ⟨(hi.2 id hid).2.2, (hi.2 id hid).1⟩⟩
  · obtain ⟨s, ty, rfl, S⟩ := (h.2 hinl).slab
    have h8 := S.idx_le
    show ([s.hdr.id] : List SlabID).Nodup ∧ ∀ id ∈ ([s.hdr.id] : List SlabID), id.idx ≤ ctr ∧ id.addr = s.hdr.id.addr
    refine ⟨by simp, ?_⟩
    intro id hid
    rw [List.mem_singleton] at hid; subst hid
    exact ⟨h8, rfl⟩

theorem slabs_arrInl {a : Arr} {ctr : Nat} (h : ArrInvInl T a ctr) :
    (Cont.arr a).slabs = [] ∧ (Cont.arr a).treeIds = [a.rootID] := by
  obtain ⟨s, ty, rfl, S⟩ := h.slab
  have h2 := S.inlined
  constructor
  · rw [Cont.slabs_of_inlined (c := .arr ⟨0, s, ty⟩) h2]; rfl
  · rw [Cont.treeIds_arr]; rfl

theorem cacct_arrInl {a a' : Arr} {ctr ctr' : Nat} (h : ArrInvInl T a ctr) (h' : ArrInvInl T a' ctr')
    (hid : a'.rootID = a.rootID) (c : Nat) : CAcct c c (.arr a) (.arr a') [] [] := by
  obtain ⟨s1, t1⟩ := slabs_arrInl h
  obtain ⟨s2, t2⟩ := slabs_arrInl h'
  exact cacct_nil (by rw [s1, s2]) (by rw [t1, t2, hid]) c

/-- The container-level account of an operation `a ↦ a'` on an array in either form that keeps the form, the
    root ID and the type: the account of the tree if `a` is standalone (`hst`); an inlined array owns no slab
    and its operations leave the context alone (`hin`). -/
theorem cstep_arr {a a' : Arr} {c c' : Ctx} (h : ArrOk T a c.ctr) (hok' : ArrOk T a' c'.ctr)
    (hinl' : a'.isInlined = a.isInlined) (hrid : a'.rootID = a.rootID) (hty : a'.ty = a.ty) (hle : c.ctr ≤ c'.ctr)
    (hst : ArrInv T a c.ctr → ∃ E C, Log c c' E C ∧
      Acct c.ctr (ATree.slabs a.d a.root) (ATree.slabs a'.d a'.root) E (C.map (·.1)))
    (hin : a.isInlined = true → c' = c) :
    ∃ E C, Log c c' E C ∧ CAcct c.ctr c'.ctr (.arr a) (.arr a') E (C.map (·.1)) := by
  cases hinl : a.isInlined
  · obtain ⟨E, C, hlog, hacct⟩ := hst (h.1 hinl)
    exact ⟨E, C, hlog, cacct_of_acct_arr hacct hle hinl (by rw [hinl', hinl]) hrid (fun hne => absurd hty hne)⟩
  · obtain rfl := hin hinl
    exact ⟨[], [], Log.refl _, cacct_arrInl (h.2 hinl) (hok'.2 (hinl'.trans hinl)) hrid _⟩

variable {D : DigestFn 4} {cfg : MCfg}

theorem treeOk_of_macct_map {m m' : OMap 3} {a c c' : Nat} {E : List Eff} {cr : List SlabID}
    (h : MAcct a c c' (MTree.slabs m.d m.root) (MTree.slabs m'.d m'.root) E cr)
    (ht : TreeOk a c (.map m)) : TreeOk a c' (.map m') := by
  rw [TreeOk, Cont.treeIds_map] at ht ⊢
  refine ⟨h.nodup ht.1, ?_⟩
  intro id hid
  rcases h.keys_new id hid with h1 | h1
  · exact ⟨Nat.le_trans (ht.2 id h1).1 h.le, (ht.2 id h1).2⟩
  · exact ⟨h1.2.2, h1.1⟩

/-- The container-level account of an operation `m ↦ m'` on a map in either form that keeps the form, from the
    map-level one: of the tree, with the root stored under its ID, if `m` is standalone (`hst`); of the
    external groups, the only slabs an inlined map owns, if it is inlined (`hin`). -/
theorem cstep_map {m m' : OMap 3} {c c' : Ctx} (h : MapOk T D m c.ctr) (hcfg : CfgOk cfg T m)
    (ht : TreeOk m.addr c.ctr (.map m)) (hinl' : m'.isInlined = m.isInlined)
    (hst : MapInv T D m → CtxOk m c → MIdsOk m → ∃ E C, MLog m.addr c c' E C ∧
      MAcct m.addr c.ctr c'.ctr (MTree.slabs m.d m.root) (MTree.slabs m'.d m'.root) E (C.map (·.1)) ∧
      lastAction E m.rootID = some true ∧ m'.rootID = m.rootID)
    (hin : ∀ s ty cnt seed, m = ⟨0, s, ty, cnt, seed⟩ → s.inlined = true →
      (∀ el ∈ s.elems.elems, FirstOk (NoExt 3) el) → (AList.keys (grp s.elems.elems)).Nodup →
      (∀ id ∈ AList.keys (grp s.elems.elems), Old cfg.addr c.ctr id) → m'.isInlined = true →
      ∃ (s' : MDataSlab 3) (cnt' : Nat), m' = ⟨0, s', ty, cnt', seed⟩ ∧ s'.hdr.id = s.hdr.id ∧ s'.inlined = true ∧
        ∃ E C, MLog cfg.addr c c' E C ∧
          MAcct cfg.addr c.ctr c'.ctr (grp s.elems.elems) (grp s'.elems.elems) E (C.map (·.1))) :
    ∃ E C, Log c c' E C ∧ CAcct c.ctr c'.ctr (.map m) (.map m') E (C.map (·.1)) ∧
      TreeOk m.addr c'.ctr (.map m') := by
  cases hinl : m.isInlined
  · obtain ⟨hinv, hctr⟩ := h.1 hinl
    obtain ⟨E, C, hlog, hacct, hla, hrid⟩ := hst hinv hctr (by have := ht.1; rwa [Cont.treeIds_map] at this)
    exact ⟨E, C, hlog.toLog, cacct_of_macct_map hacct hinl (by rw [hinl', hinl]) hrid (fun _ => hla),
      treeOk_of_macct_map hacct ht⟩
  · obtain ⟨s, ty, cnt, seed, rfl, _⟩ := h.2 hinl
    obtain ⟨hloose, hi2, _, _, _⟩ := MapInvInl.loose (h.2 hinl)
    obtain ⟨htnd, htb⟩ := ht
    rw [treeIds_mapInl] at htnd htb
    have hrid0 : s.hdr.id ∉ AList.keys (grp s.elems.elems) := (List.nodup_cons.1 htnd).1
    have haddr : cfg.addr = s.hdr.id.addr := hcfg.2.2
    obtain ⟨s', cnt', rfl, hid', hi', E, C, hlog, hacct⟩ :=
      hin s ty cnt seed rfl hi2 (firstOk_of_inv hloose.elems_inv) (List.nodup_cons.1 htnd).2
        (fun id hid _ => (htb id (List.mem_cons_of_mem _ hid)).1) (by rw [hinl', hinl])
    have hrb : s.hdr.id.idx ≤ c.ctr := (htb _ List.mem_cons_self).1
    refine ⟨E, C, hlog.toLog, cacct_of_macct_mapInl hacct hi2 hi' hid' hrid0 hrb, ?_⟩
    rw [TreeOk, treeIds_mapInl, hid']
    have hnew := hacct.keys_new
    refine ⟨List.nodup_cons.2 ⟨?_, hacct.nodup (List.nodup_cons.1 htnd).2⟩, ?_⟩
    · intro hm
      rcases hnew _ hm with h1 | h1
      · exact hrid0 h1
      · exact Nat.not_le.2 h1.2.1 hrb
    · intro id hid
      rcases List.mem_cons.1 hid with e | e
      · subst e; exact ⟨Nat.le_trans hrb hacct.le, rfl⟩
      · rcases hnew id e with h1 | h1
        · exact ⟨Nat.le_trans (htb id (List.mem_cons_of_mem _ h1)).1 hacct.le, (htb id (List.mem_cons_of_mem _ h1)).2⟩
        · exact ⟨h1.2.2, by rw [h1.1]; exact haddr⟩

end World
end Atree

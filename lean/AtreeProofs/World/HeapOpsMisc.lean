import AtreeProofs.World.HeapMutation
import AtreeProofs.World.OpsMisc
/-
  The heap account of `setType`, `newArr`, `newMap`.
-/
namespace Atree
open Gen

namespace World

variable {D : SlabID → DigestFn 4} {rank : SlabID → Nat}

theorem cacct_retag {c c' : Cont} (hinl : c'.isInlined = c.isInlined) (hvid : c'.vid = c.vid)
    (hids : c'.treeIds = c.treeIds) (hnd : c.treeIds.Nodup)
    (hrest : ∀ p ∈ c'.treeSlabs, p.1 ≠ c.vid → p ∈ c.treeSlabs) (ctr : Nat) :
    CAcct ctr ctr c c' (if c.isInlined then [] else [.store c.vid]) [] := by
  have hh : c'.heapIds = c.heapIds := by
    cases hi : c.isInlined
    · rw [Cont.heapIds_of_standalone hi, Cont.heapIds_of_standalone (hinl.trans hi), hids]
    · rw [Cont.heapIds_of_inlined hi, Cont.heapIds_of_inlined (hinl.trans hi), hids]
  cases hi : c.isInlined
  · simp only [Bool.false_eq_true, if_false]
    have hs : c.slabs = c.treeSlabs := Cont.slabs_of_standalone hi
    have hs' : c'.slabs = c'.treeSlabs := Cont.slabs_of_standalone (hinl.trans hi)
    refine ⟨Nat.le_refl _, ?_, ?_, ?_, ?_, ?_, by simp, ?_⟩
    · intro p hp
      rw [hs'] at hp
      by_cases hv : p.1 = c.vid
      · right; rw [hv, lastAction_store1, if_pos rfl]
      · left; rw [hs]; exact hrest p hp hv
    · intro id h1 h2; rw [hh] at h2; exact absurd h1 h2
    · intro id h1
      rw [lastAction_store1] at h1
      split at h1
      · rename_i e; subst e; left
        rw [hh, Cont.heapIds_of_standalone hi]; exact Cont.vid_mem_treeIds c
      · cases h1
    · intro id h1
      rw [lastAction_store1] at h1
      split at h1 <;> cases h1
    · intro id h1
      rw [lastAction_store1] at h1
      split at h1
      · rename_i e; subst e; exact Or.inl (Cont.vid_mem_treeIds c)
      · exact absurd rfl h1
    · intro id h1; rw [hids] at h1; exact Or.inl h1
  · simp only [if_true]
    have hs : c.slabs = c.treeSlabs.tail := Cont.slabs_of_inlined hi
    have hs' : c'.slabs = c'.treeSlabs.tail := Cont.slabs_of_inlined (hinl.trans hi)
    refine ⟨Nat.le_refl _, ?_, ?_, by simp, by simp, by simp, by simp, ?_⟩
    · intro p hp
      rw [hs'] at hp
      left
      have hnd' : (c.vid :: AList.keys c'.treeSlabs.tail).Nodup := by
        rw [← hvid, ← Cont.treeIds_cons, hids]; exact hnd
      have hne : p.1 ≠ c.vid := fun e => (List.nodup_cons.1 hnd').1 (e ▸ mem_keys_of_mem hp)
      have := hrest p (List.mem_of_mem_tail hp) hne
      obtain ⟨x, hx⟩ := Cont.treeSlabs_cons c
      rw [hx] at this
      rw [hs]
      rcases List.mem_cons.1 this with e | e
      · exact absurd (by rw [e]) hne
      · exact e
    · intro id h1 h2; rw [hh] at h2; exact absurd h1 h2
    · intro id h1; rw [hids] at h1; exact Or.inl h1

theorem treeSlabs_arr_setType (a : Arr) (ty : Nat) :
    (Cont.arr { a with ty := ty }).treeIds = (Cont.arr a).treeIds ∧
    ∀ p ∈ (Cont.arr { a with ty := ty }).treeSlabs, p.1 ≠ (Cont.arr a).vid → p ∈ (Cont.arr a).treeSlabs := by
  refine ⟨by rw [Cont.treeIds_arr, Cont.treeIds_arr], ?_⟩
  intro p hp hne
  simp only [Cont.treeSlabs, List.mem_map] at hp ⊢
  obtain ⟨q, hq, rfl⟩ := hp
  have hq1 : q.1 ≠ a.rootID := hne
  refine ⟨q, hq, ?_⟩
  have h2 : q.1 ≠ ({ a with ty := ty } : Arr).rootID := hq1
  simp only [hq1, h2, if_false]

theorem treeSlabs_map_setType (m : OMap 3) (ty : Nat) :
    (Cont.map { m with ty := ty }).treeIds = (Cont.map m).treeIds ∧
    ∀ p ∈ (Cont.map { m with ty := ty }).treeSlabs, p.1 ≠ (Cont.map m).vid → p ∈ (Cont.map m).treeSlabs := by
  refine ⟨by rw [Cont.treeIds_map, Cont.treeIds_map], ?_⟩
  intro p hp hne
  simp only [Cont.treeSlabs, List.mem_map] at hp ⊢
  obtain ⟨q, hq, rfl⟩ := hp
  have hq1 : q.1 ≠ m.rootID := hne
  refine ⟨q, hq, ?_⟩
  have h2 : q.1 ≠ ({ m with ty := ty } : OMap 3).rootID := hq1
  simp only [hq1, h2, if_false]

theorem log_of_emit_if (cx : Ctx) (b : Bool) (id : SlabID) :
    Log cx (if b then cx else cx.emit (.store id)) (if b then [] else [.store id]) [] := by
  cases b
  · exact Log.store cx id
  · exact Log.refl cx

/-- what `SetType` on a container of either kind (the two cases of `setType_ok_iff`) does to its slabs and to the
    log: the tree keeps its IDs and, the root apart, its slabs; a standalone root is stored -/
theorem setType_slabs {c c' : Cont} {ty : Nat} {cx cx1 : Ctx}
    (hcc : (∃ a, c = .arr a ∧ c' = .arr (a.setType ty cx).1 ∧ cx1 = (a.setType ty cx).2) ∨
           (∃ m, c = .map m ∧ c' = .map (m.setType ty cx).1 ∧ cx1 = (m.setType ty cx).2)) :
    c'.treeIds = c.treeIds ∧ (∀ p ∈ c'.treeSlabs, p.1 ≠ c.vid → p ∈ c.treeSlabs) ∧
      Log cx cx1 (if c.isInlined then [] else [.store c.vid]) [] ∧ c'.vid = c.vid ∧ c'.isArr = c.isArr ∧
      c'.pays = c.pays := by
  rcases hcc with ⟨a, rfl, rfl, rfl⟩ | ⟨m, rfl, rfl, rfl⟩
  · exact ⟨(treeSlabs_arr_setType a ty).1, (treeSlabs_arr_setType a ty).2, log_of_emit_if cx a.isInlined a.rootID,
      rfl, rfl, rfl⟩
  · exact ⟨(treeSlabs_map_setType m ty).1, (treeSlabs_map_setType m ty).2, log_of_emit_if cx m.isInlined m.rootID,
      rfl, rfl, rfl⟩

/-- `SetType` on the container `c` filed under `p` is a core step: the retagged container `c'` has the slabs
    of `c`; a standalone root is rewritten -/
theorem setType_cont {w : World} {p : SlabID} {ty : Nat} {cx cx1 : Ctx} {c c' : Cont}
    (H : HInv D rank w cx.ctr) (Hh : HeapOk w cx.ctr) (hp : w.cont? p = some c)
    (hcc : (∃ a, c = .arr a ∧ c' = .arr (a.setType ty cx).1 ∧ cx1 = (a.setType ty cx).2) ∨
           (∃ m, c = .map m ∧ c' = .map (m.setType ty cx).1 ∧ cx1 = (m.setType ty cx).2)) :
    CoreStep D rank w p c c' cx cx1 := by
  obtain ⟨_, hinl, _, _, hctr, hok⟩ := setType_retag hcc
  obtain ⟨hids, hrest, hlog, hvid, hkind, hpays⟩ := setType_slabs hcc
  have hpv : c.vid = p := H.ids p c hp
  refine ⟨⟨_, [], hlog, ?_⟩, ContOk.mono (hok (H.conts p c hp)) hlog.ctr_le, ?_, hvid.trans hpv,
    fun hi => by rw [(setType_retag hcc).2.2.1]; exact H.band hp (hinl.symm.trans hi), hkind,
    fun _ hx => .inl (hpays ▸ hx), hinl⟩
  · rw [hctr]; exact cacct_retag hinl hvid hids (Hh.nodup p _ hp) hrest cx.ctr
  · have := (Hh.treeOk hp).mono hlog.ctr_le
    rw [TreeOk] at this ⊢; rw [hids]; exact this

theorem setType_heap {w w' : World} {p : SlabID} {ty : Nat} {cx cx' : Ctx}
    (H : HInv D rank w cx.ctr) (Hh : HeapOk w cx.ctr)
    (h : w.setType p ty cx = .ok (w', cx')) : Post w cx w' cx' := by
  obtain ⟨c, c', cx1, hp, hcc, hrun⟩ := setType_ok_iff.mp h
  have st := setType_cont H Hh hp hcc
  rcases hrun with ⟨_, hn⟩ | ⟨_, rfl, rfl⟩
  · exact mutate_notify (WPre.of_inv H Hh) (fun _ _ => rfl) hp st (IdxOnly.refl _) hn
  · exact (mutate_pre (WPre.of_inv H Hh) (fun _ _ => rfl) hp st (IdxOnly.refl _)).2.2

/-- a new standalone single-slab container under a fresh ID -/
theorem WAcct.new {w : World} {c : Nat} (H : HeapOk w c) {id : SlabID} {cn : Cont} {x : WSlab}
    (hidx : id.idx = c + 1) (haddr : id.addr = w.addr) (hfresh : w.cont? id = none)
    (hs : cn.slabs = [(id, x)]) (ht : cn.treeIds = [id]) (a : Nat) :
    WAcct c (c + 1) w (w.setCont id cn) [.alloc a id, .store id] [] ∧ HeapOk (w.setCont id cn) (c + 1) := by
  have hh : cn.heapIds = [id] := by unfold Cont.heapIds; rw [hs]; rfl
  have hne : ∀ z cc, w.cont? z = some cc → z ≠ id := by
    intro z cc hz e; rw [e, hfresh] at hz; cases hz
  refine ⟨⟨by omega, ?_, ?_, ?_, ?_, ?_, by simp, ?_⟩, H.setCont (Nat.le_succ c) (by rw [ht]; simp)
    (fun j hj => by rw [ht, List.mem_singleton] at hj; subst hj; exact ⟨by omega, haddr⟩)
    (fun j hj x cc _ hx hm => by
      rw [ht, List.mem_singleton] at hj; subst hj
      have := H.below x cc _ hx hm; omega)⟩
  · intro j s h1
    rcases (hasSlab_setCont w id cn j s).1 h1 with h2 | ⟨z, cc, _, hz, h2⟩
    · rw [hs, List.mem_singleton] at h2
      cases h2
      right; rw [lastAction_alloc_store, if_pos rfl]
    · exact Or.inl ⟨z, cc, hz, h2⟩
  · intro j h1 h2
    obtain ⟨z, cc, hz, hm⟩ := h1
    exact absurd ((inHeap_setCont w id cn j).2 (Or.inr ⟨z, cc, hne z cc hz, hz, hm⟩)) h2
  · intro j h1
    rw [lastAction_alloc_store] at h1
    split at h1
    · rename_i e; subst e; left
      exact (inHeap_setCont w _ cn _).2 (Or.inl (by rw [hh]; exact List.mem_singleton.2 rfl))
    · cases h1
  · intro j h1
    rw [lastAction_alloc_store] at h1
    split at h1 <;> cases h1
  · intro j h1
    rw [lastAction_alloc_store] at h1
    split at h1
    · rename_i e; subst e; right; omega
    · exact absurd rfl h1
  · intro j h1
    rcases (inTree_setCont w id cn j).1 h1 with h2 | ⟨z, cc, _, hz, h2⟩
    · rw [ht, List.mem_singleton] at h2
      subst h2; right; omega
    · exact Or.inl ⟨z, cc, hz, h2⟩

theorem fresh_of_inv {w : World} {ctr : Nat} (H : HInv D rank w ctr) {id : SlabID} (h : ctr < id.idx) :
    w.cont? id = none := by
  cases hc : w.cont? id with
  | none => rfl
  | some c =>
    have h1 := (H.conts id c hc).vid_le
    rw [H.ids id c hc] at h1
    omega

/-- `NewArray` / `NewMap`: one allocation, the single root slab `x` of the new container `cn` stored -/
theorem new_heap {w : World} {cx : Ctx} (H : HInv D rank w cx.ctr) (Hh : HeapOk w cx.ctr) {cn : Cont} {x : WSlab}
    (hs : cn.slabs = [(⟨w.addr, cx.ctr + 1⟩, x)]) (ht : cn.treeIds = [⟨w.addr, cx.ctr + 1⟩])
    (hv : cn.vid = ⟨w.addr, cx.ctr + 1⟩) :
    Post w cx (w.setCont ⟨w.addr, cx.ctr + 1⟩ cn) ((cx.alloc w.addr).2.emit (.store ⟨w.addr, cx.ctr + 1⟩)) := by
  obtain ⟨hacct, hheap⟩ := WAcct.new (cn := cn) (id := ⟨w.addr, cx.ctr + 1⟩) Hh rfl rfl (fresh_of_inv H (by simp))
    hs ht w.addr
  refine ⟨_, [], (Log.alloc cx w.addr).trans (Log.store _ _), hacct, hheap, fun z c hz => ?_⟩
  rw [cont?_setCont] at hz
  split at hz
  · rename_i e1; cases hz; subst e1; exact hv
  · exact H.ids z c hz

theorem newArr_heap {w : World} {ty : Nat} {cx : Ctx} (H : HInv D rank w cx.ctr) (Hh : HeapOk w cx.ctr) :
    Post w cx (w.newArr ty cx).2.1 (w.newArr ty cx).2.2 :=
  new_heap (cn := .arr (Arr.new w.addr ty cx).1) H Hh rfl rfl rfl

theorem newMap_heap {w : World} {ty seed : Nat} {cx : Ctx} (H : HInv D rank w cx.ctr) (Hh : HeapOk w cx.ctr) :
    Post w cx (w.newMap ty seed cx).2.1 (w.newMap ty seed cx).2.2 :=
  new_heap (cn := .map (OMap.new w.addr ty (fun _ => seed) cx : OMap 3 × Ctx).1) H Hh rfl rfl rfl

end World
end Atree

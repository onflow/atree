import AtreeProofs.World.HeapOpsMisc
import AtreeProofs.World.PopOps
import AtreeProofs.E2E.Created
import AtreeProofs.World.WPopCont
import AtreeProofs.Map.EffectsTop
/-
  Disposal: `World.forget` / `forgetElems` drop containers from
  the table without any storage call of the library: the slabs are removed by the CALLER (the
  premise of C09: "the caller disposes of every value the library hands back").  `dropLog w w'` is
  that disposal: one `remove` for every slab of the heap of `w` that is not in the heap of `w'`.
  `PopIterate` through a handle, for a container of either kind (`popKeep_heap`): the library removes the
  slabs of the popped container (`cstep_arr_pop`, `cstep_map_pop`: exactly the slabs below the root; an
  inlined map may own external collision-group slabs), the caller disposes of what it was handed, the
  parent is notified.
-/
namespace Atree
open Gen

namespace World

variable {D : SlabID → DigestFn 4} {rank : SlabID → Nat}

/-- the caller's disposal: the slabs of the heap of `w` that are no longer needed in `w'` -/
def dropLog (w w' : World) : List Eff :=
  (w.heapIds.filter (fun id => !w'.heapIds.contains id)).map Eff.remove

theorem mem_dropLog (w w' : World) (id : SlabID) :
    Eff.remove id ∈ dropLog w w' ↔ w.InHeap id ∧ ¬ w'.InHeap id := by
  simp only [dropLog, List.mem_map, List.mem_filter, Eff.remove.injEq, exists_eq_right, Bool.not_eq_true',
    List.contains_eq_mem, decide_eq_false_iff_not, mem_heapIds_iff]

theorem dropLog_removes (w w' : World) : ∀ e ∈ dropLog w w', ∃ i, e = Eff.remove i := by
  intro e he
  simp only [dropLog, List.mem_map] at he
  obtain ⟨i, _, rfl⟩ := he
  exact ⟨i, rfl⟩

/-- containers are dropped from the table, the caller removes their slabs -/
theorem shrink_heap {w w' : World} {c : Nat} (S : Shrink w w') (H : HeapOk w c) :
    WAcct c c w w' (dropLog w w') [] ∧ HeapOk w' c := by
  have hsub : ∀ x cc, w'.cont? x = some cc → w.cont? x = some cc := fun x cc hx => S.some_of_some hx
  have hla := fun id => lastAction_only_removes (dropLog w w') (dropLog_removes w w') id
  refine ⟨⟨Nat.le_refl _, ?_, ?_, ?_, ?_, ?_, by simp, ?_⟩, ?_, ?_, ?_, ?_⟩
  · intro id s ⟨x, cc, hx, hm⟩
    exact Or.inl ⟨x, cc, hsub x cc hx, hm⟩
  · intro id h1 h2
    exact (hla id).1.2 ((mem_dropLog w w' id).2 ⟨h1, h2⟩)
  · intro id h1; exact absurd h1 (hla id).2
  · intro id h1
    exact ((mem_dropLog w w' id).1 ((hla id).1.1 h1)).2
  · intro id h1
    cases hl : lastAction (dropLog w w') id with
    | none => exact absurd hl h1
    | some b =>
      cases b with
      | true => exact absurd hl (hla id).2
      | false => exact Or.inl ((mem_dropLog w w' id).1 ((hla id).1.1 hl)).1.inTree
  · intro id ⟨x, cc, hx, hm⟩
    exact Or.inl ⟨x, cc, hsub x cc hx, hm⟩
  · intro x cc x' cc' id hx hx' hm hm'
    exact H.own x cc x' cc' id (hsub _ _ hx) (hsub _ _ hx') hm hm'
  · intro x cc hx; exact H.nodup x cc (hsub _ _ hx)
  · intro x cc id hx hm; exact H.below x cc id (hsub _ _ hx) hm
  · intro x cc id hx hm; rw [S.addr]; exact H.addr x cc id (hsub _ _ hx) hm

theorem WPre.shrink {w0 w w' : World} {ctr0 ctr : Nat} (P : WPre D rank w0 ctr0 w ctr) (S : Shrink w w') :
    WPre D rank w0 ctr0 w' ctr := by
  have hsub : ∀ x cc, w'.cont? x = some cc → w.cont? x = some cc := fun x cc hx => S.some_of_some hx
  refine ⟨P.inv0, P.le, S.T.trans P.T, S.addr.trans P.addr, ?_, ?_, (shrink_heap S P.heap).2, ?_⟩
  · intro x cc hx
    rw [S.T, S.addr]
    exact P.conts x cc (hsub _ _ hx)
  · intro q x ⟨qc, hqc, hm⟩ hx
    obtain ⟨cx, hcx⟩ := Option.isSome_iff_exists.1 hx
    exact P.rank q x ⟨qc, hsub _ _ hqc, hm⟩ (by rw [hsub _ _ hcx]; rfl)
  · intro x hi hx
    have hx0 : AList.find? w.hinfo x = some hi := by
      rcases S.keep x with ⟨_, h2, _⟩ | ⟨_, _, h3, _⟩
      · rw [← h2]; exact hx
      · rw [h3] at hx; cases hx
    obtain ⟨h1, h2⟩ := P.closure x hi hx0
    rw [S.T]
    exact ⟨fun pa hpa => h1 pa (hsub _ _ hpa), fun pm k hpm hk => h2 pm k (hsub _ _ hpm) hk⟩

/-- a container is emptied in place: `E0` removes exactly the slabs `K` below the root; a standalone
    root is then rewritten -/
theorem cacct_pop {pc pc' : Cont} {K : List SlabID} {E0 : List Eff} {ctr : Nat}
    (hinl : pc'.isInlined = pc.isInlined) (ht : pc.treeIds = pc.vid :: K) (ht' : pc'.treeIds = [pc.vid])
    (hE1 : ∀ e ∈ E0, ∃ id ∈ K, e = Eff.remove id) (hE2 : ∀ id ∈ K, Eff.remove id ∈ E0) (hnd : pc.treeIds.Nodup) :
    CAcct ctr ctr pc pc' (if pc.isInlined then E0 else E0 ++ [.store pc.vid]) [] := by
  have hrem : ∀ e ∈ E0, ∃ i, e = Eff.remove i := fun e he => by
    obtain ⟨id, _, rfl⟩ := hE1 e he; exact ⟨id, rfl⟩
  have hlr := fun id => lastAction_only_removes E0 hrem id
  have hridK : pc.vid ∉ K := by rw [ht] at hnd; exact (List.nodup_cons.1 hnd).1
  have hKt : ∀ id ∈ K, id ∈ pc.treeIds := fun id hid => by rw [ht]; exact List.mem_cons_of_mem _ hid
  have htouch : ∀ id, lastAction E0 id ≠ none → id ∈ K := by
    intro id h1
    cases hl : lastAction E0 id with
    | none => exact absurd hl h1
    | some b =>
      cases b with
      | true => exact absurd hl (hlr id).2
      | false =>
        obtain ⟨j, hj, he⟩ := hE1 _ ((hlr id).1.1 hl)
        cases he; exact hj
  cases hi : pc.isInlined
  · simp only [Bool.false_eq_true, if_false]
    have hla : ∀ id, lastAction (E0 ++ [.store pc.vid]) id = if pc.vid = id then some true else lastAction E0 id :=
      fun id => lastAction_concat_store E0 pc.vid id
    have hh : pc.heapIds = pc.vid :: K := by rw [Cont.heapIds_of_standalone hi, ht]
    have hh' : pc'.heapIds = [pc.vid] := by rw [Cont.heapIds_of_standalone (hinl.trans hi), ht']
    refine ⟨Nat.le_refl _, ?_, ?_, ?_, ?_, ?_, by simp, ?_⟩
    · intro p hp
      right
      have : p.1 ∈ pc'.heapIds := mem_keys_of_mem hp
      rw [hh', List.mem_singleton] at this
      rw [hla, if_pos this.symm]
    · intro id h1 h2
      rw [hh] at h1; rw [hh', List.mem_singleton] at h2
      rcases List.mem_cons.1 h1 with e | e
      · exact absurd e h2
      · rw [hla, if_neg (fun e1 => h2 e1.symm)]
        exact (hlr id).1.2 (hE2 id e)
    · intro id h1
      rw [hla] at h1
      split at h1
      · rename_i e; left; rw [hh']; exact List.mem_singleton.2 e.symm
      · exact absurd h1 (hlr id).2
    · intro id h1
      rw [hla] at h1
      split at h1
      · cases h1
      · rename_i e; rw [hh', List.mem_singleton]; exact fun e1 => e e1.symm
    · intro id h1
      left
      rw [hla] at h1
      split at h1
      · rename_i e; rw [← e]; exact Cont.vid_mem_treeIds pc
      · exact hKt id (htouch id h1)
    · intro id h1
      rw [ht', List.mem_singleton] at h1
      left; rw [h1]; exact Cont.vid_mem_treeIds pc
  · simp only [if_true]
    have hh : pc.heapIds = K := by rw [Cont.heapIds_of_inlined hi, ht]; rfl
    have hh' : pc'.heapIds = [] := by rw [Cont.heapIds_of_inlined (hinl.trans hi), ht']; rfl
    refine ⟨Nat.le_refl _, ?_, ?_, ?_, ?_, ?_, by simp, ?_⟩
    · intro p hp
      have : p.1 ∈ pc'.heapIds := mem_keys_of_mem hp
      rw [hh'] at this; cases this
    · intro id h1 _
      rw [hh] at h1
      exact (hlr id).1.2 (hE2 id h1)
    · intro id h1; exact absurd h1 (hlr id).2
    · intro id _; rw [hh']; simp
    · intro id h1; exact Or.inl (hKt id (htouch id h1))
    · intro id h1
      rw [ht', List.mem_singleton] at h1
      left; rw [h1]; exact Cont.vid_mem_treeIds pc

theorem cstep_arr_pop {T : Nat} {Dm : DigestFn 4} {a : Arr} {c : Ctx}
    (h : ContOk T Dm c.ctr (.arr a)) (hnd : (Cont.arr a).treeIds.Nodup) :
    ∃ E, Log c (a.popIterate c).2.2 E [] ∧
      CAcct c.ctr (a.popIterate c).2.2.ctr (.arr a) (.arr (a.popIterate c).2.1) E [] ∧
      (Cont.arr (a.popIterate c).2.1).treeIds = [a.rootID] := by
  obtain ⟨hcr, hctr⟩ := arr_popIterate_ctx a c
  have hinl' : (Cont.arr (a.popIterate c).2.1).isInlined = (Cont.arr a).isInlined := rfl
  have hti' : (Cont.arr (a.popIterate c).2.1).treeIds = [a.rootID] := by rw [Cont.treeIds_arr]; rfl
  have ht : (Cont.arr a).treeIds = a.rootID :: subIds a.d a.root := by rw [Cont.treeIds_arr, slabIds_eq]; rfl
  -- the removes of the tree walk (an inlined array is one slab: nothing in storage, nothing touched)
  obtain ⟨E0, hE0, hE1, hE2⟩ : ∃ E0,
      (a.popIterate c).2.2.eff = c.eff ++ (if (Cont.arr a).isInlined then E0 else E0 ++ [.store a.rootID]) ∧
      (∀ e ∈ E0, ∃ id ∈ subIds a.d a.root, e = Eff.remove id) ∧ ∀ id ∈ subIds a.d a.root, Eff.remove id ∈ E0 := by
    cases hinl : a.isInlined
    · obtain ⟨E, heff, h1, h2⟩ := arr_popIterate_eff a c hinl
      exact ⟨E, by rw [heff, show (Cont.arr a).isInlined = false from hinl]; rfl, h1, h2⟩
    · obtain ⟨s, ty, rfl, _⟩ := (h : ArrOk T a c.ctr).2 hinl
      have hc' : ((⟨0, s, ty⟩ : Arr).popIterate c).2.2 = c := by
        show (if (⟨0, s, ty⟩ : Arr).isInlined = true then _ else _) = c
        rw [hinl]; rfl
      exact ⟨[], by rw [hc', show (Cont.arr ⟨0, s, ty⟩).isInlined = true from hinl]; simp, by simp,
        fun id hid => absurd hid (by simp [subIds])⟩
  have hca := cacct_pop (pc := .arr a) (pc' := .arr (a.popIterate c).2.1) (ctr := c.ctr) hinl' ht hti' hE1 hE2 hnd
  refine ⟨if (Cont.arr a).isInlined then E0 else E0 ++ [.store (Cont.arr a).vid],
    ⟨hE0, by rw [hcr]; simp, by rw [hctr]; exact Nat.le_refl _, ?_⟩, by rw [hctr]; exact hca, hti'⟩
  intro addr id hm
  have : Eff.alloc addr id ∈ E0 := by
    split at hm
    · exact hm
    · rcases List.mem_append.1 hm with h1 | h1
      · exact h1
      · simp at h1
  obtain ⟨j, _, hj⟩ := hE1 _ this
  cases hj

theorem cstep_map_pop {T : Nat} {Dm : DigestFn 4} {m : OMap 3} {c : Ctx}
    (h : ContOk T Dm c.ctr (.map m)) (hnd : (Cont.map m).treeIds.Nodup) :
    ∃ E, Log c (m.popIterate c).2.2 E [] ∧
      CAcct c.ctr (m.popIterate c).2.2.ctr (.map m) (.map (m.popIterate c).2.1) E [] ∧
      (Cont.map (m.popIterate c).2.1).treeIds = [m.rootID] := by
  obtain ⟨hctr, hcr⟩ := E2EM.omap_popKeep m c
  have hinl' : (Cont.map (m.popIterate c).2.1).isInlined = (Cont.map m).isInlined := rfl
  have hti' : (Cont.map (m.popIterate c).2.1).treeIds = [m.rootID] := by
    rw [Cont.treeIds_map]; rfl
  have ht : (Cont.map m).treeIds = m.rootID :: AList.keys (msub m.d m.root) := by
    rw [Cont.treeIds_map, mslabs_eq]; rfl
  -- the tree walk removes exactly the slabs below the root: under the invariant there is no external
  -- collision group below the first level of a data slab, so the inner `popIter` calls store nothing
  obtain ⟨E0, hE0, hE1, hE2⟩ : ∃ E0, (MTree.popIterate m.d m.root c).2.2.eff = c.eff ++ E0 ∧
      (∀ x ∈ E0, ∃ i ∈ AList.keys (msub m.d m.root), x = Eff.remove i) ∧
      ∀ id ∈ AList.keys (msub m.d m.root), Eff.remove id ∈ E0 := by
    cases hi : m.isInlined
    · obtain ⟨ids, hr, hm, hz⟩ := mtree_pop_removed m.d m.root c
      rw [hr]
      exact Ctx.removed_log hm (hz ((h : MapOk T Dm m c.ctr).1 hi).1.tree)
    · obtain ⟨s, ty, cnt, seed, rfl, _, _, _, h4, _⟩ := (h : MapOk T Dm m c.ctr).2 hi
      obtain ⟨ids, hr, hm, hz⟩ := mdata_pop_removed s c
      have hr' : (MTree.popIterate 0 (s : MTree 3 0) c).2.2 = c.removed ids := hr
      rw [hr']
      exact Ctx.removed_log hm (hz (firstOk_of_inv h4))
  have hca := cacct_pop (pc := .map m) (pc' := .map (m.popIterate c).2.1) (ctr := c.ctr) hinl' ht hti' hE1 hE2 hnd
  refine ⟨if (Cont.map m).isInlined then E0 else E0 ++ [.store (Cont.map m).vid], ?_, by rw [hctr]; exact hca, hti'⟩
  refine ⟨?_, by rw [hcr]; simp, by rw [hctr]; exact Nat.le_refl _, ?_⟩
  · have hpi : (m.popIterate c).2.2 = if m.isInlined = true then (MTree.popIterate m.d m.root c).2.2
        else (MTree.popIterate m.d m.root c).2.2.emit (.store m.rootID) := rfl
    rw [hpi]
    cases hi : m.isInlined
    · have : (Cont.map m).isInlined = false := hi
      rw [this]
      simp only [Bool.false_eq_true, if_false, Ctx.emit, hE0, List.append_assoc]
      rfl
    · have : (Cont.map m).isInlined = true := hi
      rw [this]
      simp only [if_true, hE0]
  · intro addr id hm
    have : Eff.alloc addr id ∈ E0 := by
      split at hm
      · exact hm
      · rcases List.mem_append.1 hm with h1 | h1
        · exact h1
        · simp at h1
    obtain ⟨j, _, hj⟩ := hE1 _ this
    cases hj

/-- A bulk pop through the handle `h`, for a container of either kind: `pc` is emptied in place (`pc'`, the
    library's log `E1`), the tables of `h` are updated (`w1`), the caller disposes of the popped elements `ds`
    (its removes: `dropLog`), the parent is notified (`E2`). -/
theorem popKeep_heap {w w1 w' : World} {h : SlabID} {pc pc' : Cont} {cx cx1 cx' : Ctx} {es ds : List Elem} {fuel : Nat}
    (H : HInv D rank w cx.ctr) (Hh : HeapOk w cx.ctr) (hc : w.cont? h = some pc)
    (S : PopIter w.T (D h) pc cx es pc' cx1)
    (hstep : ∃ E1, Log cx cx1 E1 [] ∧ CAcct cx.ctr cx1.ctr pc pc' E1 [] ∧ pc'.treeIds = [pc.vid])
    (E : Emptied w h pc' w1) (hds : ∀ e ∈ ds, e ∈ es)
    (hn : notifyParent fuel (w1.forgetElems ds) h cx1 = .ok (w', cx')) :
    ∃ (E1 E2 : List Eff) (C : List (SlabID × Elem)), Log cx cx' (E1 ++ E2) C ∧
      WAcct cx.ctr cx'.ctr w w' (E1 ++ dropLog w1 (w1.forgetElems ds) ++ E2) (C.map (·.1)) ∧ HeapOk w' cx'.ctr ∧
      (∀ id, Eff.remove id ∈ dropLog w1 (w1.forgetElems ds) → ¬ w'.InHeap id) ∧
      (∀ x c, w1.cont? x = some c → (w1.forgetElems ds).cont? x = none →
        ∀ id ∈ c.heapIds, Eff.remove id ∈ dropLog w1 (w1.forgetElems ds)) := by
  obtain ⟨E1, hlog1, hca, hti'⟩ := hstep
  have hctr := S.ctr
  have hds : ∀ e ∈ ds, e ∈ pc.storedElems := fun e he => (S.elems e).mp (hds e he)
  have hvid : pc.vid = h := H.ids h _ hc
  have htree : TreeOk w.addr cx1.ctr pc' := by
    rw [TreeOk, hti']
    refine ⟨by simp, ?_⟩
    intro id hid
    rw [List.mem_singleton] at hid
    subst hid
    have := Hh.treeOk hc
    exact ⟨by rw [hctr]; exact (this.2 _ (Cont.vid_mem_treeIds pc)).1, (this.2 _ (Cont.vid_mem_treeIds pc)).2⟩
  obtain ⟨hacct1, hheap1⟩ := hca.lift Hh hc htree.1 htree.2
  -- the world after the pop, before the disposal
  have htab := E.idxOnly
  have P1 : WPre D rank w cx.ctr w1 cx1.ctr :=
    ((WPre.of_inv H Hh).replace (Nat.le_of_eq hctr.symm) hc (cont?_setCont_self _ _ _)
      (fun x hx => cont?_setCont_ne _ _ _ _ hx) rfl rfl rfl ⟨S.vid.trans hvid, H.addr h _ hc, S.ok, S.band⟩ S.isArr
      (fun x hx => by simp [Cont.pays, S.empty] at hx) hheap1).congr htab
  obtain ⟨Sh, _, _, _⟩ := forgetElems_spec ds w1
  have P2 := P1.shrink Sh
  obtain ⟨hacct2, hheap2⟩ := shrink_heap Sh P1.heap
  -- what is above `h` is untouched: it is below no popped element
  have hrr : RefRankOk rank w := fun u c hu e he v hpv hv =>
    H.rank u v ⟨c, hu, by simp only [Cont.pays, List.mem_map]; exact ⟨e, he, hpv⟩⟩ hv
  have hsame : ∀ z, rank z < rank h → (w1.forgetElems ds).cont? z = w.cont? z := fun z hz =>
    (E.mid_other (notBelow_of_rank hrr (fun e he v hv hl => by
      have := hrr h pc hc e (hds e he) v hv hl; omega)) (by rintro rfl; omega)).1
  obtain ⟨E2, C, hlog3, hacct3, hheap3, _⟩ := notifyHeap P2 hsame hn
  have hown1 : ∀ id, w1.InHeap id → (w1.forgetElems ds).InTree id → (w1.forgetElems ds).InHeap id := by
    rintro id ⟨x, cx0, hx, hm⟩ ⟨z, cz, hz, hmz⟩
    have hz1 := Sh.some_of_some hz
    have := P1.heap.own x cx0 z cz id hx hz1 (cx0.heapIds_sub_treeIds id hm) hmz
    subst this
    rw [hx] at hz1; cases hz1
    exact ⟨x, cx0, hz, hm⟩
  refine ⟨E1, E2, C, ?_, ?_, hheap3, ?_, ?_⟩
  · simpa using hlog1.trans hlog3
  · have h12 : WAcct cx.ctr cx1.ctr w w1 E1 [] := hacct1.congr (fun _ => rfl) htab.conts
    have h13 := h12.trans hacct2 (fun id hid => Hh.inTree_le hid)
    simpa using h13.trans hacct3 (fun id hid => Hh.inTree_le hid)
  · intro id hid hin
    obtain ⟨h1, h2⟩ := (mem_dropLog _ _ id).1 hid
    obtain ⟨s, hs⟩ := (inHeap_iff w' id).1 hin
    rcases hacct3.kept id s hs with h3 | h3
    · exact h2 h3.inHeap
    · rcases hacct3.foot id (by rw [h3]; simp) with h4 | h4
      · exact h2 (hown1 id h1 h4)
      · have := P1.heap.inTree_le h1.inTree
        omega
  · intro x c hx hx2 id hid
    refine (mem_dropLog _ _ id).2 ⟨⟨x, c, hx, hid⟩, ?_⟩
    rintro ⟨z, cz, hz, hmz⟩
    have hz1 := Sh.some_of_some hz
    have := P1.heap.own x c z cz id hx hz1 (c.heapIds_sub_treeIds id hid) (cz.heapIds_sub_treeIds id hmz)
    subst this
    rw [hx2] at hz; cases hz

/-- disposing of a container and everything below it (`World.forget`): the caller's removes are a
    complete account, the ownership invariant is kept -/
theorem forget_heap {w : World} {ctr : Nat} (Hh : HeapOk w ctr) (k : SlabID) :
    WAcct ctr ctr w (forget w.fuelOf w k) (dropLog w (forget w.fuelOf w k)) [] ∧
      HeapOk (forget w.fuelOf w k) ctr :=
  shrink_heap (forget_shrink _ w k) Hh

end World
end Atree

import AtreeProofs.Props.C09WPop
import AtreeProofs.World.WPopScenario
import AtreeProofs.World.HeapScenario
/-
  Non-vacuity of the pop / disposal theorems of `Props/C09WPop.lean`, on run H of
  `World/WPopScenario.lean` (T = 256): root array `R` ∋ inlined array `F`; `X`, removed from `F`, is a
  standalone detached root; `R` is popped through its handle and `F` disposed of.
-/
namespace Atree.HeapPopScenario
open Atree Gen World
open Atree.PopOkScenario
open Atree.OkScenario (D wvalOk_child)
open Atree.Scenario (w0 cx0 ok_triple)
open Atree.C09 (newEffects newCreated)

theorem hkH1 : HeapOk h1.2.1 h1.2.2.ctr := HeapScenario.hkOf HeapScenario.hist1
theorem hkH2 : HeapOk h2.2.1 h2.2.2.ctr :=
  (C09W.newArr_effects_complete D h1.2.1 8 h1.2.2 (C10W.worldOk'_of_worldOk OkScenario.ok1.1) hkH1).2.2.1
theorem hkH3 : HeapOk h3.2.1 h3.2.2.ctr :=
  (C09W.newArr_effects_complete D h2.2.1 9 h2.2.2
    (C10W.worldOk'_of_worldOk (World.newArr_ok (D := D) (ty := 8) OkScenario.ok1.1).1) hkH2).2.2.1

theorem hkH4 : HeapOk h4.1 h4.2.ctr :=
  (HeapScenario.ins_step okH3 hkH3 (wvalOk_child checksH.1.2.2) runH4).2

theorem hkH5 : HeapOk h5.1 h5.2.ctr :=
  (HeapScenario.ins_step okH4.1 hkH4 (wvalOk_child checksH.2.1.2) runH5).2

/-- `X` removed from the inlined `F`: handed back, un-inlined -/
theorem stepH6 : WEffectsComplete h5.1 h6.2.1 (newEffects h5.2 h6.2.2) (newCreated h5.2 h6.2.2) ∧
    HeapOk h6.2.1 h6.2.2.ctr :=
  let g := C09W.arrRemove_effects_complete D _ _ _ _ _ _ _ (C10W.worldOk'_of_worldOk okH5.1) hkH5 (ok_triple runH6)
  ⟨g.2.1, g.2.2.1⟩

/-- the pop of `R`: the theorem applies (its hypotheses hold on this run) -/
example := C09W.arrPop_effects_complete D _ _ _ _ _ _ (C10W.worldOk'_of_worldOk okH6) stepH6.2 (ok_triple runH7)

theorem hkH7 : HeapOk h7.2.1 h7.2.2.ctr := by
  obtain ⟨_, _, _, _, _, _, g, _⟩ :=
    C09W.arrPop_effects_complete D _ _ _ _ _ _ (C10W.worldOk'_of_worldOk okH6) stepH6.2 (ok_triple runH7)
  exact g

/-- one evaluation of run H for the facts below -/
theorem evalsH :
    h5.1.heapIds = [R] ∧
    newEffects h5.2 h6.2.2 = [.store R, .store X] ∧
    h6.2.1.heapIds = [X, R] ∧
    newEffects h6.2.2 h7.2.2 = [.store R] ∧
    h7.2.1.heapIds = [R, X] ∧
    (dropLog h7.2.1 (forget h7.2.1.fuelOf h7.2.1 X) = [.remove X] ∧
      (forget h7.2.1.fuelOf h7.2.1 X).heapIds = [R]) := by
  decide +kernel

/-- before the removal: `R` (embedding `F`, embedding `X`) is the only slab -/
example : h5.1.heapIds = [R] := evalsH.1
/-- `X` handed back by `F.Remove`: it becomes a standalone slab; `R` is rewritten (chain `F` → `R`) -/
example : newEffects h5.2 h6.2.2 = [.store R, .store X] := evalsH.2.1
example : h6.2.1.heapIds = [X, R] := evalsH.2.2.1
/-- the pop of `R`: the library rewrites the root; `F` was inlined, so the caller's disposal of it
    removes no slab; afterwards the heap is the emptied `R` and the detached root `X` -/
example : newEffects h6.2.2 h7.2.2 = [.store R] := evalsH.2.2.2.1
example : h7.2.1.heapIds = [R, X] := evalsH.2.2.2.2.1

/-- disposal of the detached root `X` by the caller: one remove; only `R` remains -/
example : dropLog h7.2.1 (forget h7.2.1.fuelOf h7.2.1 X) = [.remove X] ∧
    (forget h7.2.1.fuelOf h7.2.1 X).heapIds = [R] := evalsH.2.2.2.2.2
example := C09W.forget_effects_complete h7.2.1 h7.2.2.ctr hkH7 X

/-! ### run P: the inlined map `M` of the depth-3 world is popped through its handle, its inlined
    child `A` disposed of; the chain rewrites `R` -/

theorem hkV0 : HeapOk v0.1 v0.2.ctr := by
  unfold v0; exact HeapScenario.step14.2

/-- the theorem applies (hypotheses hold on this run) -/
example := C09W.mapPop_effects_complete D _ _ _ _ _ _ okV0 hkV0 (ok_triple runP1)

/-- one evaluation of run P for the facts below -/
theorem evalsP :
    v0.1.heapIds = [OkScenario.R, OkScenario.B] ∧
    newEffects v0.2 p1.2.2 = [.store OkScenario.R] ∧
    (p1.2.1.heapIds = [OkScenario.R, OkScenario.B] ∧ (p1.2.1.cont? OkScenario.A).isSome = false) := by
  decide +kernel

example : v0.1.heapIds = [OkScenario.R, OkScenario.B] := evalsP.1
/-- `M` and `A` were inlined: emptying `M` and disposing of `A` remove no slab; the parent chain
    stores `R` (which embeds the now empty `M`) -/
example : newEffects v0.2 p1.2.2 = [.store OkScenario.R] := evalsP.2.1
example : p1.2.1.heapIds = [OkScenario.R, OkScenario.B] ∧ (p1.2.1.cont? OkScenario.A).isSome = false := evalsP.2.2

end Atree.HeapPopScenario

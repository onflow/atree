import AtreeProofs.Props.C09W
import AtreeProofs.Props.C09WHist
import AtreeProofs.World.OkScenario
/-
  Non-vacuity of the World-level heap theorems: the run of `AtreeProofs/World/OkScenario.lean`
  (T = 256; root array `R` ∋ map `M` (inlined) ∋ array `A` (inlined, wrapped once), and `R` ∋ array `B`
  (standalone: six 20-byte values)) is a history (`hist0` … `hist14`), so `HeapOk` holds at every step
  (`hkOf`, from `C09W.world_heap_exact`); the operation theorems of `Props/C09W.lean` apply step by step
  (`step5` … `step14`) — their hypotheses are satisfiable along a history with an inlined and a standalone
  child at depth 3 — and the heap / the logs are what one expects (by evaluation).
-/
namespace Atree.HeapScenario
open Atree Gen World
open Atree.OkScenario
open Atree.Scenario (w0 cx0 ok_pair ok_triple)
open Atree.C09 (newEffects newCreated)

/-! ### the run as a history (`C09W.Hist`), step by step -/

open Atree.C09W (Hist)

theorem hist0 : Hist D w0 cx0 := .new 256 1 (by decide)
theorem hist1 : Hist D t1.2.1 t1.2.2 := .newArr 7 hist0
theorem hist2 : Hist D t2.2.1 t2.2.2 := .newMap 8 5 hist1
theorem hist3 : Hist D t3.2.1 t3.2.2 := .newArr 9 hist2
theorem hist4 : Hist D t4.2.1 t4.2.2 := .newArr 10 hist3
theorem hist5 : Hist D t5.1 t5.2 := .arrInsert hist4 handles4.1 hv5 (ok_pair run5)
theorem hist6 : Hist D t6.2.1 t6.2.2 :=
  .mapSet hist5 ok5.2.2 (keyOk_K1_at M checks8.2.2.1.2.2) hv6 (ok_triple run6)
theorem hist7 : Hist D t7.1 t7.2 := .arrInsert hist6 ok6.2.2 hv7 (ok_pair run7)
theorem hist8 : Hist D t8.1 t8.2 := .arrInsert hist7 handleR7 hv8 (ok_pair run8)

/-- the ownership invariant along the run, read off the history (`C09W.world_heap_exact`) -/
theorem hkOf {w : World} {cx : Ctx} (h : Hist D w cx) : HeapOk w cx.ctr := (C09W.world_heap_exact D _ _ h).2.1

/-- one insertion of the chain: its log is complete and `HeapOk` is kept -/
theorem ins_step {w : World} {p : SlabID} {i : Nat} {v : WVal} {cx : Ctx} {r : World × Ctx}
    (H : WorldOk D w cx.ctr) (Hh : HeapOk w cx.ctr) (hv : WValOk w p (maxInlineArr w.T) v)
    (h : w.arrInsert p i v cx = .ok r) :
    WEffectsComplete w r.1 (newEffects cx r.2) (newCreated cx r.2) ∧ HeapOk r.1 r.2.ctr :=
  let g := C09W.arrInsert_effects_complete D _ _ _ _ _ _ _ (C10W.worldOk'_of_worldOk H) Hh hv (ok_pair h)
  ⟨g.2.1, g.2.2.1⟩

/-- `M` inserted into `R`: `M` fits, it is INLINED — its root slab leaves storage -/
theorem step5 : WEffectsComplete t4.2.1 t5.1 (newEffects t4.2.2 t5.2) (newCreated t4.2.2 t5.2) ∧
    HeapOk t5.1 t5.2.ctr := ins_step ok4 (hkOf hist4) hv5 run5

/-- `A` (wrapped once) stored in the inlined map `M`: `A` is inlined, the chain reaches `R` -/
theorem step6 : WEffectsComplete t5.1 t6.2.1 (newEffects t5.2 t6.2.2) (newCreated t5.2 t6.2.2) ∧
    HeapOk t6.2.1 t6.2.2.ctr :=
  let g := C09W.mapSet_effects_complete D _ _ _ _ _ _ _ _ (C10W.worldOk'_of_worldOk ok5.1) step5.2
    (keyOk_K1_at M checks8.2.2.1.2.2) hv6 (ok_triple run6)
  ⟨g.2.1, g.2.2.1⟩

/-- a mutation at depth 3: a value inserted into `A` (inlined in `M`, inlined in `R`) — the only
    slab stored is the root slab of `R`, which embeds both -/
theorem step7 : WEffectsComplete t6.2.1 t7.1 (newEffects t6.2.2 t7.2) (newCreated t6.2.2 t7.2) ∧
    HeapOk t7.1 t7.2.ctr := ins_step ok6.1 step6.2 hv7 run7

theorem step8 : WEffectsComplete t7.1 t8.1 (newEffects t7.2 t8.2) (newCreated t7.2 t8.2) ∧ HeapOk t8.1 t8.2.ctr :=
  ins_step ok7.1 step7.2 hv8 run8

/-- a plain value inserted into `B` -/
theorem hist_step {w : World} {cx : Ctx} {i n : Nat} {r : World × Ctx} (h : Hist D w cx) (hp : HandleOk w B)
    (hT : w.T = 256) (hr : w.arrInsert B i (pl n) cx = .ok r) : Hist D r.1 r.2 :=
  .arrInsert h hp (plOk _ hT n) (ok_pair hr)

theorem hist13 : Hist D t13.1 t13.2 :=
  hist_step (hist_step (hist_step (hist_step (hist_step hist8
    ok8.2 T8_13.1 run9) ok9.2 T8_13.2.1 run10) ok10.2 T8_13.2.2.1 run11)
    ok11.2 T8_13.2.2.2.1 run12) ok12.2 T8_13.2.2.2.2.1 run13

/-- the sixth value makes `B` (inlined until now) exceed the limit: it is UN-INLINED — its root
    slab enters storage — and `R` is rewritten with a 19-byte reference -/
theorem step14 : WEffectsComplete t13.1 t14.1 (newEffects t13.2 t14.2) (newCreated t13.2 t14.2) ∧
    HeapOk t14.1 t14.2.ctr := ins_step ok13.1 (hkOf hist13) (plOk _ T8_13.2.2.2.2.2 7) run14

/-- one evaluation of the run for all the facts below -/
theorem evals :
    t4.2.1.heapIds = [B, A, M, R] ∧
    newEffects t4.2.2 t5.2 = [.remove M, .store R] ∧
    t5.1.heapIds = [R, B, A] ∧
    newEffects t5.2 t6.2.2 = [.remove A, .store R] ∧
    t6.2.1.heapIds = [R, B] ∧
    newEffects t6.2.2 t7.2 = [.store R] ∧
    t7.1.heapIds = [R, B] ∧
    newEffects t7.2 t8.2 = [.remove B, .store R] ∧
    t8.1.heapIds = [R] ∧
    newEffects t13.2 t14.2 = [.store B, .store R] ∧
    t14.1.heapIds = [R, B] ∧
    ((t14.1.cont? M).map Cont.heapIds, (t14.1.cont? A).map Cont.heapIds,
      (t14.1.cont? R).map Cont.heapIds, (t14.1.cont? B).map Cont.heapIds) = (some [], some [], some [R], some [B]) ∧
    ([R, M, A, B].map (lastAction t14.2.eff) = [some true, some false, some false, some true] ∧
      t14.2.created = []) := by
  decide +kernel

/-- four standalone containers -/
example : t4.2.1.heapIds = [B, A, M, R] := evals.1
/-- inserting `M` into `R` inlines `M`: its slab is removed, `R` is stored -/
example : newEffects t4.2.2 t5.2 = [.remove M, .store R] := evals.2.1
example : t5.1.heapIds = [R, B, A] := evals.2.2.1
/-- storing `A` into the inlined map `M`: `A` inlined (removed), `R` stored (it embeds `M` which embeds `A`) -/
example : newEffects t5.2 t6.2.2 = [.remove A, .store R] := evals.2.2.2.1
example : t6.2.1.heapIds = [R, B] := evals.2.2.2.2.1
/-- the mutation at depth 3 stores exactly the root slab of `R` -/
example : newEffects t6.2.2 t7.2 = [.store R] := evals.2.2.2.2.2.1
example : t7.1.heapIds = [R, B] := evals.2.2.2.2.2.2.1
/-- `B` inserted into `R` (empty, it fits): inlined -/
example : newEffects t7.2 t8.2 = [.remove B, .store R] := evals.2.2.2.2.2.2.2.1
example : t8.1.heapIds = [R] := evals.2.2.2.2.2.2.2.2.1
/-- `B` crosses the inline limit: un-inlined (stored), `R` rewritten -/
example : newEffects t13.2 t14.2 = [.store B, .store R] := evals.2.2.2.2.2.2.2.2.2.1
example : t14.1.heapIds = [R, B] := evals.2.2.2.2.2.2.2.2.2.2.1
/-- in the final world `M` and `A` are inlined (own no slab), `R` and `B` are standalone -/
example : ((t14.1.cont? M).map Cont.heapIds, (t14.1.cont? A).map Cont.heapIds,
    (t14.1.cont? R).map Cont.heapIds, (t14.1.cont? B).map Cont.heapIds) = (some [], some [], some [R], some [B]) :=
  evals.2.2.2.2.2.2.2.2.2.2.2.1

theorem hist14 : Hist D t14.1 t14.2 := hist_step hist13 ok13.2 T8_13.2.2.2.2.2 run14

/-- storage = heap for the final world of the scenario (from the theorem) … -/
example : C09W.HeapExact t14.1 t14.2 := (C09W.world_heap_exact D _ _ hist14).2.2
/-- … and by evaluation: the IDs whose last event is a store are `R` and `B`, no large-value slab -/
example : [R, M, A, B].map (lastAction t14.2.eff) = [some true, some false, some false, some true] ∧
    t14.2.created = [] := evals.2.2.2.2.2.2.2.2.2.2.2.2

end Atree.HeapScenario

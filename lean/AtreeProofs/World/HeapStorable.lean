import AtreeProofs.World.HeapOps
import AtreeProofs.World.NotifyPrep
import AtreeProofs.WorldOkPop
/-
  The light invariant `HInv` (the clauses of `WorldOk'` that the accounting needs) and the heap accounts of
  `childStorable` and `uninlineIfNeeded`: the inline <-> standalone transitions of a child handed to / handed
  back by a container operation (`form_heap`: a container changes form inside the world).
-/
namespace Atree
open Gen

namespace World

/-- the clauses of `WorldOk'` (`WorldOkPK`) used by the heap accounting, plus the inline budget that
    follows from `SlotSync` and `InlRef`: an inlined container fits the per-element limit -/
structure HInv (D : SlabID → DigestFn 4) (rank : SlabID → Nat) (w : World) (ctr : Nat) : Prop where
  legal   : legalThreshold w.T = true
  ids     : IdsOk w
  addr    : ∀ x c, w.cont? x = some c → x.addr = w.addr
  conts   : ∀ x c, w.cont? x = some c → ContOk w.T (D x) ctr c
  closure : ClosureOk D w
  rank    : CRank rank w
  room    : ∀ x c, w.cont? x = some c → c.isInlined = true → c.rootSize ≤ maxInlineArr w.T

theorem HInv.of_pk {D : SlabID → DigestFn 4} {rank : SlabID → Nat} {w : World} {ctr : Nat}
    (H : WorldOkPK D rank (fun _ => False) w ctr) : HInv D rank w ctr := by
  refine ⟨H.legal, H.ids, H.addr, H.conts, H.closure, H.rank, ?_⟩
  intro p pc hp hi
  obtain ⟨q, hq⟩ := H.inlRef p pc hp hi (fun h => h)
  obtain ⟨qc, le, hqc, hle, hpay⟩ := holds_slot hq
  obtain ⟨wr, _, h2, _, _⟩ := H.slots q qc hqc le hle p pc hpay hp
  obtain ⟨_, h2b⟩ := h2 (by simp)
  rw [hi, (H.conts p pc hp).inlinable_inl hi] at h2b
  have := of_decide_eq_true h2b.symm
  have := slot_lim_le hle
  omega

theorem HInv.with_rank {D : SlabID → DigestFn 4} {rank : SlabID → Nat} {w : World} {ctr : Nat} (H : HInv D rank w ctr)
    {rank' : SlabID → Nat} (hr : CRank rank' w) : HInv D rank' w ctr :=
  ⟨H.legal, H.ids, H.addr, H.conts, H.closure, hr, H.room⟩

theorem HInv.band {D : SlabID → DigestFn 4} {rank : SlabID → Nat} {w : World} {ctr : Nat} (H : HInv D rank w ctr)
    {x : SlabID} {c : Cont} (hx : w.cont? x = some c) (hi : c.isInlined = true) : c.rootSize ≤ w.T := by
  have := H.room x c hx hi
  have := two_inline_le w.T H.legal
  omega

/-- a container changes form (`Inline` / `Uninline`) inside the world -/
theorem form_heap {w : World} {ctr : Nat} (H : HeapOk w ctr) {y : SlabID} {c c' : Cont} (hy : w.cont? y = some c)
    {E : List Eff} (hca : CAcct ctr ctr c c' E []) (hids : c'.treeIds = c.treeIds) :
    WAcct ctr ctr w (w.setCont y c') E [] ∧ HeapOk (w.setCont y c') ctr :=
  hca.lift H hy (by rw [hids]; exact H.nodup y c hy)
    (fun id hid => by rw [hids] at hid; exact ⟨H.below y c id hy hid, H.addr y c id hy hid⟩)

theorem childStorable_heap {w : World} {ctr : Nat} (H : HeapOk w ctr) {y : SlabID} {c : Cont}
    (hy : w.cont? y = some c) (hvid : c.vid = y) {wrap lim : Nat} {cx : Ctx} {e : Elem} {w1 : World} {cx1 : Ctx}
    (hst : w.childStorable y wrap lim cx = .ok (e, w1, cx1)) :
    ∃ E, Log cx cx1 E [] ∧ WAcct ctr ctr w w1 E [] ∧ HeapOk w1 ctr := by
  rcases childStorable_returns hy wrap lim cx with ⟨_, heq⟩ | ⟨c', _, _, hin, heq⟩ | ⟨c', _, _, hun, heq⟩ <;>
    rw [heq] at hst <;> cases hst
  · exact ⟨[], Log.refl _, WAcct.refl _ _, H⟩
  · obtain ⟨hca, hids, _⟩ := cacct_inline hin hvid (H.nodup y c hy) ctr
    obtain ⟨g1, g2⟩ := form_heap H hy hca hids
    exact ⟨[.remove y], Log.remove cx y, g1, g2⟩
  · obtain ⟨hca, hids, _⟩ := cacct_uninline hun hvid ctr
    obtain ⟨g1, g2⟩ := form_heap H hy hca hids
    exact ⟨[.store y], Log.store cx y, g1, g2⟩

/-- `uninlineStorableIfNeeded`: an inlined child handed back becomes a standalone slab -/
theorem uninlineIfNeeded_heap {w : World} {ctr : Nat} (H : HeapOk w ctr) (hids : IdsOk w) {e e' : Elem}
    {ov : Option SlabID} {cx cx1 : Ctx} {w1 : World}
    (h : w.uninlineIfNeeded e cx = .ok (e', ov, w1, cx1)) :
    ∃ E, Log cx cx1 E [] ∧ WAcct ctr ctr w w1 E [] ∧ HeapOk w1 ctr ∧ IdsOk w1 := by
  have nothing : ∃ E, Log cx cx E [] ∧ WAcct ctr ctr w w E [] ∧ HeapOk w ctr ∧ IdsOk w :=
    ⟨[], Log.refl _, WAcct.refl _ _, H, hids⟩
  rcases uninlineIfNeeded_returns w e cx with ⟨_, heq⟩ | ⟨x, c, _, _, _, heq⟩ | ⟨vid, c, c', _, hc, _, hun, heq⟩ <;>
    rw [heq] at h <;> cases h
  · exact nothing
  · exact nothing
  · obtain ⟨hca, hti, _⟩ := cacct_uninline hun (hids vid c hc) ctr
    obtain ⟨g1, g2⟩ := form_heap H hc hca hti
    refine ⟨[.store vid], Log.store cx vid, g1, g2, fun x cc hx => ?_⟩
    rw [cont?_setCont] at hx
    split at hx
    · rename_i e1
      cases hx
      rw [← e1, (Cont.uninline_tail hun).2]
      exact hids vid c hc
    · exact hids x cc hx

end World
end Atree

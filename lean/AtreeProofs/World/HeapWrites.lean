import AtreeModel.StorageOps
import AtreeProofs.Storage.Step
import AtreeProofs.HeapSpec
import AtreeProofs.Account.Log
/-
  Effect logs run against the storage state machine, for an ARBITRARY type `σ` of stored slabs:
  `effOp`, `effOps`, `applyEffs`, `lastWrite`, `allocCount` and "last write wins"; a fault-free
  commit followed by a reopen.  The definitions of `AtreeProofs/E2ESpec.lean` (arrays) and
  `AtreeProofs/E2EMapSpec.lean` (maps) are these at their slab types (`E2E/Writes.lean`,
  `E2EMap/Writes.lean`); `LastOk` at the two slab types is defined in those two `Writes.lean` files,
  not in the Spec files (`lastOk_eq` there).  The World-level persistence theorems
  (`Props/C10Persist.lean`), where a stored slab carries its inlined descendants, use the
  definitions of this file directly.
-/
namespace Atree.WE2E
open Atree St

variable {σ : Type}

def effOp (content : SlabID → Option σ) : Eff → List (Op σ)
  | .alloc addr _ => [.genID addr]
  | .store id =>
    match content id with
    | some v => [.store id v]
    | none => []
  | .remove id => [.remove id]

/-- events with their own content snapshot -/
def effOpsI (EC : List (Eff × (SlabID → Option σ))) : List (Op σ) :=
  EC.flatMap (fun p => effOp p.2 p.1)

/-- all events with the final content -/
def effOps (content : SlabID → Option σ) (E : List Eff) : List (Op σ) :=
  E.flatMap (effOp content)

variable {β : Type}

def applyEffsI (c : Codec σ β) (s : St σ β) (EC : List (Eff × (SlabID → Option σ))) :
    St σ β :=
  St.run c s (effOpsI EC)

def applyEffs (c : Codec σ β) (s : St σ β) (content : SlabID → Option σ)
    (E : List Eff) : St σ β :=
  St.run c s (effOps content E)

/-- the entry a log with snapshots leaves in `deltas` for `id` (`none` = it does not touch `id`) -/
def writeStep (id : SlabID) (acc : Option (Option σ))
    (p : Eff × (SlabID → Option σ)) : Option (Option σ) :=
  match p.1 with
  | .store i =>
    if i = id then
      match p.2 id with
      | some v => some (some v)
      | none => acc
    else acc
  | .remove i => if i = id then some none else acc
  | .alloc _ _ => acc

def lastWrite (EC : List (Eff × (SlabID → Option σ))) (id : SlabID) : Option (Option σ) :=
  EC.foldl (writeStep id) none

/-- number of `GenerateSlabID(addr)` calls in a log -/
def allocCount (addr : Nat) (E : List Eff) : Nat :=
  (E.filter (fun e => match e with | .alloc a _ => a == addr | _ => false)).length

theorem run_append (c : Codec σ β) (s : St σ β) (o1 o2 : List (Op σ)) :
    St.run c s (o1 ++ o2) = St.run c (St.run c s o1) o2 := by
  simp [St.run, List.foldl_append]

theorem effOpsI_cons (p : Eff × (SlabID → Option σ)) (EC : List (Eff × (SlabID → Option σ))) :
    effOpsI (p :: EC) = effOp p.2 p.1 ++ effOpsI EC := by
  simp [effOpsI]

theorem effOps_eq_effOpsI (content : SlabID → Option σ) (E : List Eff) :
    effOps content E = effOpsI (E.map (fun e => (e, content))) := by
  simp [effOps, effOpsI, List.flatMap_map]

theorem applyEffs_eq_applyEffsI (c : Codec σ β) (s : St σ β)
    (content : SlabID → Option σ) (E : List Eff) :
    applyEffs c s content E = applyEffsI c s (E.map (fun e => (e, content))) := by
  simp [applyEffs, applyEffsI, effOps_eq_effOpsI]

theorem run_effOp_eq (c : Codec σ β) (s : St σ β) (cf : SlabID → Option σ) (e : Eff) :
    St.run c s (effOp cf e) =
      match e with
      | .alloc a _ => (s.generateSlabID a).2
      | .store i =>
        match cf i with
        | some v => if i = SlabID.undef then s else { s with deltas := AList.insert s.deltas i (some v) }
        | none => s
      | .remove i => if i = SlabID.undef then s else { s with deltas := AList.insert s.deltas i none } := by
  cases e with
  | alloc a g => rfl
  | store i =>
    simp only [effOp]
    cases cf i with
    | none => rfl
    | some v =>
      show (match s.store i v with | .ok s' => (s', Obs.unit) | .error e => (s, Obs.err e)).1 =
        if i = SlabID.undef then s else _
      unfold St.store
      by_cases hu : i = SlabID.undef
      · rw [if_pos hu, if_pos hu]
      · rw [if_neg hu, if_neg hu]
  | remove i =>
    show (match s.remove i with | .ok s' => (s', Obs.unit) | .error e => (s, Obs.err e)).1 =
      if i = SlabID.undef then s else _
    unfold St.remove
    by_cases hu : i = SlabID.undef
    · rw [if_pos hu, if_pos hu]
    · rw [if_neg hu, if_neg hu]

theorem run_effOp (c : Codec σ β) (s : St σ β) (p : Eff × (SlabID → Option σ))
    (id : SlabID) (hid : id ≠ SlabID.undef) :
    AList.find? (St.run c s (effOp p.2 p.1)).deltas id = writeStep id (AList.find? s.deltas id) p ∧
    (St.run c s (effOp p.2 p.1)).cache = s.cache ∧ (St.run c s (effOp p.2 p.1)).base = s.base := by
  obtain ⟨e, cf⟩ := p
  rw [run_effOp_eq]
  cases e with
  | alloc a g => dsimp only [St.generateSlabID]; split <;> exact ⟨rfl, rfl, rfl⟩
  | store i =>
    dsimp only [writeStep]
    by_cases hi : i = id
    · subst hi
      rw [if_pos rfl]
      cases cf i with
      | none => exact ⟨rfl, rfl, rfl⟩
      | some v => dsimp only; rw [if_neg hid]; exact ⟨by rw [AList.find?_insert, if_pos rfl], rfl, rfl⟩
    · rw [if_neg hi]
      cases cf i with
      | none => exact ⟨rfl, rfl, rfl⟩
      | some v =>
        dsimp only
        split
        · exact ⟨rfl, rfl, rfl⟩
        · exact ⟨by rw [AList.find?_insert, if_neg hi], rfl, rfl⟩
  | remove i =>
    dsimp only [writeStep]
    by_cases hi : i = id
    · subst hi
      rw [if_pos rfl, if_neg hid]; exact ⟨by rw [AList.find?_insert, if_pos rfl], rfl, rfl⟩
    · rw [if_neg hi]
      split
      · exact ⟨rfl, rfl, rfl⟩
      · exact ⟨by rw [AList.find?_insert, if_neg hi], rfl, rfl⟩

theorem run_effOp_alloc (c : Codec σ β) (s : St σ β) (p : Eff × (SlabID → Option σ))
    (addr : Nat) (haddr : addr ≠ 0) :
    (AList.find? (St.run c s (effOp p.2 p.1)).alloc addr).getD 0 =
      (AList.find? s.alloc addr).getD 0 + allocCount addr [p.1] := by
  obtain ⟨e, cf⟩ := p
  rw [run_effOp_eq]
  cases e with
  | alloc a g =>
    dsimp only [St.generateSlabID, allocCount, List.filter]
    by_cases ha : a = 0
    · rw [if_pos ha, show (a == addr) = false from beq_false_of_ne (ha ▸ haddr.symm)]; rfl
    · rw [if_neg ha]
      dsimp only
      rw [AList.find?_insert]
      by_cases h : a = addr
      · subst h; rw [if_pos rfl, beq_self_eq_true]; rfl
      · rw [if_neg h, show (a == addr) = false from beq_false_of_ne h]; rfl
  | store i =>
    dsimp only
    cases cf i with
    | none => rfl
    | some v => dsimp only; split <;> rfl
  | remove i => dsimp only; split <;> rfl

theorem applyEffsI_cons (c : Codec σ β) (s : St σ β) (p : Eff × (SlabID → Option σ))
    (EC : List (Eff × (SlabID → Option σ))) :
    applyEffsI c s (p :: EC) = applyEffsI c (St.run c s (effOp p.2 p.1)) EC := by
  unfold applyEffsI
  rw [effOpsI_cons, run_append]

theorem run_effOpsI (c : Codec σ β) (id : SlabID) (hid : id ≠ SlabID.undef) :
    ∀ (EC : List (Eff × (SlabID → Option σ))) (s : St σ β),
    AList.find? (applyEffsI c s EC).deltas id = EC.foldl (writeStep id) (AList.find? s.deltas id) ∧
    (applyEffsI c s EC).cache = s.cache ∧ (applyEffsI c s EC).base = s.base
  | [], s => ⟨rfl, rfl, rfl⟩
  | p :: EC, s => by
    obtain ⟨h1, h2, h3⟩ := run_effOp c s p id hid
    obtain ⟨g1, g2, g3⟩ := run_effOpsI c id hid EC (St.run c s (effOp p.2 p.1))
    rw [applyEffsI_cons]
    exact ⟨by rw [g1, h1, List.foldl_cons], g2.trans h2, g3.trans h3⟩

theorem allocCount_append (addr : Nat) (E1 E2 : List Eff) :
    allocCount addr (E1 ++ E2) = allocCount addr E1 + allocCount addr E2 := by
  simp [allocCount, List.filter_append]

theorem allocCount_cons (addr : Nat) (e : Eff) (E : List Eff) :
    allocCount addr (e :: E) = allocCount addr [e] + allocCount addr E :=
  allocCount_append addr [e] E

theorem run_effOpsI_alloc (c : Codec σ β) (addr : Nat) (haddr : addr ≠ 0) :
    ∀ (EC : List (Eff × (SlabID → Option σ))) (s : St σ β),
    (AList.find? (applyEffsI c s EC).alloc addr).getD 0 =
      (AList.find? s.alloc addr).getD 0 + allocCount addr (EC.map (·.1))
  | [], s => rfl
  | p :: EC, s => by
    rw [applyEffsI_cons, run_effOpsI_alloc c addr haddr EC, run_effOp_alloc c s p addr haddr,
      List.map_cons, allocCount_cons addr p.1 (EC.map _), Nat.add_assoc]

/-- `writeStep` either keeps the accumulator or overrides it with a value that does not depend on it -/
theorem foldl_writeStep (id : SlabID) (EC : List (Eff × (SlabID → Option σ)))
    (acc : Option (Option σ)) :
    EC.foldl (writeStep id) acc = (match lastWrite EC id with | some w => some w | none => acc) := by
  unfold lastWrite
  induction EC generalizing acc with
  | nil => rfl
  | cons p EC ih =>
    simp only [List.foldl_cons]
    rw [ih (writeStep id acc p), ih (writeStep id none p)]
    cases hl : List.foldl (writeStep id) none EC with
    | some w => rfl
    | none =>
      simp only
      obtain ⟨e, cf⟩ := p
      cases e with
      | alloc a g => simp [writeStep]
      | store i =>
        simp only [writeStep]
        split
        · split <;> rfl
        · rfl
      | remove i =>
        simp only [writeStep]
        split <;> rfl

/-- The pending entry of `id` after a log is the one of its last store/remove event (the entry
    before the log if there is none). -/
theorem find?_deltas_applyEffsI (c : Codec σ β) (s : St σ β)
    (EC : List (Eff × (SlabID → Option σ))) (id : SlabID) (hid : id ≠ SlabID.undef) :
    AList.find? (applyEffsI c s EC).deltas id =
      (match lastWrite EC id with | some w => some w | none => AList.find? s.deltas id) := by
  rw [(run_effOpsI c id hid EC s).1, foldl_writeStep]

theorem view_applyEffsI (c : Codec σ β) (s : St σ β)
    (EC : List (Eff × (SlabID → Option σ))) (id : SlabID) (hid : id ≠ SlabID.undef) :
    (applyEffsI c s EC).view c id = (match lastWrite EC id with | some w => w | none => s.view c id) := by
  have hD := find?_deltas_applyEffsI c s EC id hid
  obtain ⟨_, hc, hb⟩ := run_effOpsI c id hid EC s
  unfold St.view
  rw [hc, hb, hD]
  cases lastWrite EC id with
  | some w => rfl
  | none => rfl

theorem lastWrite_final (content : SlabID → Option σ) (E : List Eff) (id : SlabID)
    (hwf : lastAction E id = some true → (content id).isSome) :
    lastWrite (E.map (fun e => (e, content))) id =
      (match lastAction E id with
       | some true => some (content id)
       | some false => some none
       | none => none) := by
  -- invariant of the two folds; a store whose content is missing is skipped by `writeStep`
  have key : ∀ (E : List Eff) (aw : Option (Option σ)) (aa : Option Bool),
      (match aa with
        | some true => (content id).isSome → aw = some (content id)
        | some false => aw = some none
        | none => aw = none) →
      (match E.foldl (actStep id) aa with
        | some true => (content id).isSome →
            (E.map (fun e => (e, content))).foldl (writeStep id) aw = some (content id)
        | some false => (E.map (fun e => (e, content))).foldl (writeStep id) aw = some none
        | none => (E.map (fun e => (e, content))).foldl (writeStep id) aw = none) := by
    intro E
    induction E with
    | nil => exact fun _ _ h => h
    | cons e E ih =>
      intro aw aa h
      refine ih _ _ ?_
      cases e with
      | alloc a g => exact h
      | store i =>
        dsimp only [writeStep, actStep]
        by_cases hi : i = id
        · subst hi
          rw [if_pos rfl, if_pos rfl]
          intro hs
          cases hc : content i with
          | none => rw [hc] at hs; cases hs
          | some v => rfl
        · rw [if_neg hi, if_neg hi]; exact h
      | remove i =>
        dsimp only [writeStep, actStep]
        by_cases hi : i = id
        · rw [if_pos hi, if_pos hi]
        · rw [if_neg hi, if_neg hi]; exact h
  have := key E none none rfl
  rw [← lastAction_eq] at this
  unfold lastWrite
  cases hl : lastAction E id with
  | none => rw [hl] at this; exact this
  | some b =>
    rw [hl] at this
    cases b with
    | false => exact this
    | true => exact this (hwf hl)

theorem view_applyEffs (c : Codec σ β) (s : St σ β) (content : SlabID → Option σ)
    (E : List Eff) (id : SlabID) (hid : id ≠ SlabID.undef)
    (hwf : lastAction E id = some true → (content id).isSome) :
    (applyEffs c s content E).view c id =
      (match lastAction E id with
       | some true => content id
       | some false => none
       | none => s.view c id) := by
  rw [applyEffs_eq_applyEffsI, view_applyEffsI c s _ id hid, lastWrite_final content E id hwf]
  cases lastAction E id with
  | none => rfl
  | some b => cases b <;> rfl

/-- nothing is ever filed under the undefined identifier -/
theorem run_effOp_undef (c : Codec σ β) (s : St σ β) (cf : SlabID → Option σ) (e : Eff) :
    AList.find? (St.run c s (effOp cf e)).deltas SlabID.undef = AList.find? s.deltas SlabID.undef := by
  rw [run_effOp_eq]
  cases e with
  | alloc a g => dsimp only [St.generateSlabID]; split <;> rfl
  | store i =>
    dsimp only
    cases cf i with
    | none => rfl
    | some v =>
      dsimp only
      split
      · rfl
      · next hu => exact (AList.find?_insert ..).trans (if_neg hu)
  | remove i =>
    dsimp only
    split
    · rfl
    · next hu => exact (AList.find?_insert ..).trans (if_neg hu)

theorem find?_deltas_undef (c : Codec σ β) :
    ∀ (EC : List (Eff × (SlabID → Option σ))) (s : St σ β),
    AList.find? (applyEffsI c s EC).deltas SlabID.undef = AList.find? s.deltas SlabID.undef
  | [], _ => rfl
  | p :: EC, s => by
    rw [applyEffsI_cons, find?_deltas_undef c EC, run_effOp_undef]

/-- the pending entry of `id` after a log run with the final content -/
theorem find?_deltas_applyEffs (c : Codec σ β) (s : St σ β) (content : SlabID → Option σ)
    (E : List Eff) (id : SlabID) (hid : id ≠ SlabID.undef)
    (hwf : lastAction E id = some true → (content id).isSome) :
    AList.find? (applyEffs c s content E).deltas id =
      (match lastAction E id with
       | some true => some (content id)
       | some false => some none
       | none => AList.find? s.deltas id) := by
  rw [applyEffs_eq_applyEffsI, find?_deltas_applyEffsI c s _ id hid, lastWrite_final content E id hwf]
  cases lastAction E id with
  | none => rfl
  | some b => cases b <;> rfl

theorem find?_deltas_applyEffs_undef (c : Codec σ β) (s : St σ β)
    (content : SlabID → Option σ) (E : List Eff) :
    AList.find? (applyEffs c s content E).deltas SlabID.undef = AList.find? s.deltas SlabID.undef := by
  rw [applyEffs_eq_applyEffsI]; exact find?_deltas_undef c _ s

theorem applyEffs_frame (c : Codec σ β) (s : St σ β) (content : SlabID → Option σ)
    (E : List Eff) : (applyEffs c s content E).cache = s.cache ∧ (applyEffs c s content E).base = s.base := by
  rw [applyEffs_eq_applyEffsI]
  have := run_effOpsI c ⟨1, 1⟩ (by decide) (E.map (fun e => (e, content))) s
  exact ⟨this.2.1, this.2.2⟩

theorem applyEffs_alloc (c : Codec σ β) (s : St σ β) (content : SlabID → Option σ)
    (E : List Eff) (addr : Nat) (haddr : addr ≠ 0) :
    (AList.find? (applyEffs c s content E).alloc addr).getD 0 =
      (AList.find? s.alloc addr).getD 0 + allocCount addr E := by
  rw [applyEffs_eq_applyEffsI, run_effOpsI_alloc c addr haddr]
  simp [Function.comp_def]

theorem applyEffs_inv (c : Codec σ β) (hc : RoundTrip c) (s : St σ β)
    (content : SlabID → Option σ) (E : List Eff) (h : Inv c s) :
    Inv c (applyEffs c s content E) := inv_run c hc _ s h

theorem applyEffs_append (c : Codec σ β) (s : St σ β) (content : SlabID → Option σ)
    (E1 E2 : List Eff) :
    applyEffs c s content (E1 ++ E2) = applyEffs c (applyEffs c s content E1) content E2 := by
  simp [applyEffs, effOps, List.flatMap_append, run_append]

/-- the storage operations of a log contain no commit -/
theorem effOps_no_commit (content : SlabID → Option σ) (E : List Eff) :
    ∀ op ∈ effOps content E, Op.isCommit op = false := by
  intro op hop
  simp only [effOps, List.mem_flatMap] at hop
  obtain ⟨e, _, he⟩ := hop
  cases e with
  | alloc a g => simp [effOp] at he; subst he; rfl
  | store i =>
    simp only [effOp] at he
    split at he
    · simp at he; subst he; rfl
    · simp at he
  | remove i => simp [effOp] at he; subst he; rfl

/-- Last write wins, for both ways of running a log: if a log is run with per-event content snapshots such that,
    for every identifier, the last write agrees with the final-content version (i.e. the snapshot
    at the last store event of the identifier holds its final content), the resulting storage
    states agree: same pending entry for every identifier, same cache, same ledger, same
    allocation counters. -/
theorem applyEffsI_eq_applyEffs (c : Codec σ β) (s : St σ β)
    (content : SlabID → Option σ) (EC : List (Eff × (SlabID → Option σ)))
    (hlast : ∀ id, lastWrite EC id = lastWrite ((EC.map (·.1)).map (fun e => (e, content))) id) :
    (∀ id, id ≠ SlabID.undef →
      AList.find? (applyEffsI c s EC).deltas id =
        AList.find? (applyEffs c s content (EC.map (·.1))).deltas id) ∧
    (∀ id, id ≠ SlabID.undef →
      (applyEffsI c s EC).view c id = (applyEffs c s content (EC.map (·.1))).view c id) ∧
    (applyEffsI c s EC).cache = (applyEffs c s content (EC.map (·.1))).cache ∧
    (applyEffsI c s EC).base = (applyEffs c s content (EC.map (·.1))).base ∧
    (∀ addr, addr ≠ 0 → (AList.find? (applyEffsI c s EC).alloc addr).getD 0 =
      (AList.find? (applyEffs c s content (EC.map (·.1))).alloc addr).getD 0) := by
  refine ⟨?_, ?_, ?_, ?_, ?_⟩
  · intro id hid
    rw [applyEffs_eq_applyEffsI, find?_deltas_applyEffsI c s EC id hid,
      find?_deltas_applyEffsI c s _ id hid, hlast id]
  · intro id hid
    rw [applyEffs_eq_applyEffsI, view_applyEffsI c s EC id hid, view_applyEffsI c s _ id hid, hlast id]
  · rw [(applyEffs_frame c s content _).1]
    exact (run_effOpsI c ⟨1, 1⟩ (by decide) EC s).2.1
  · rw [(applyEffs_frame c s content _).2]
    exact (run_effOpsI c ⟨1, 1⟩ (by decide) EC s).2.2
  · intro addr haddr
    rw [applyEffs_alloc c s content _ addr haddr, run_effOpsI_alloc c addr haddr]

/-- A sufficient condition for `hlast`, event by event: scanning the log from the end, the first
    store/remove event of `id` met is a remove, or a store whose snapshot holds the final content
    of `id` (which exists); or there is no such event. -/
def LastOk (content : SlabID → Option σ) (id : SlabID) :
    List (Eff × (SlabID → Option σ)) → Prop
  | [] => True
  | p :: rest =>
    -- `rest` is the part of the log BEFORE `p` (the list is scanned in reverse)
    match p.1 with
    | .store i => if i = id then (p.2 id = content id ∧ (content id).isSome) else LastOk content id rest
    | .remove i => if i = id then True else LastOk content id rest
    | .alloc _ _ => LastOk content id rest

theorem lastWrite_concat (EC : List (Eff × (SlabID → Option σ)))
    (p : Eff × (SlabID → Option σ)) (id : SlabID) :
    lastWrite (EC ++ [p]) id = writeStep id (lastWrite EC id) p := by
  simp [lastWrite, List.foldl_append]

theorem lastWrite_of_lastOk (content : SlabID → Option σ) (id : SlabID) :
    ∀ (R : List (Eff × (SlabID → Option σ))), LastOk content id R →
      lastWrite R.reverse id = lastWrite ((R.reverse.map (·.1)).map (fun e => (e, content))) id
  | [], _ => rfl
  | p :: R, h => by
    simp only [List.reverse_cons, List.map_append, List.map_cons, List.map_nil]
    rw [lastWrite_concat, lastWrite_concat]
    obtain ⟨e, cf⟩ := p
    cases e with
    | alloc a g =>
      simp only [writeStep]
      exact lastWrite_of_lastOk content id R h
    | store i =>
      simp only [LastOk] at h
      simp only [writeStep]
      by_cases hi : i = id
      · subst hi
        simp only [if_true] at h ⊢
        obtain ⟨h1, h2⟩ := h
        rw [h1]
        cases hcf : content i with
        | none => rw [hcf] at h2; cases h2
        | some v => rfl
      · simp only [hi, if_false] at h ⊢
        exact lastWrite_of_lastOk content id R h
    | remove i =>
      simp only [LastOk] at h
      simp only [writeStep]
      by_cases hi : i = id
      · subst hi; simp
      · simp only [hi, if_false] at h ⊢
        exact lastWrite_of_lastOk content id R h

/-- Commit, then reopen: a fault-free commit of either kind (any worker orders) reports no error, and a
    brand-new storage over the same ledger (empty write set, empty cache) shows, on every
    non-temporary identifier, what the storage showed before the commit. -/
theorem commit_reopen_view (c : Codec σ β) (hc : RoundTrip c) (s : St σ β)
    (hI : Inv c s) (henc : NoEncodeFailure c s) (kind : CommitKind) (mo dlo : List SlabID) :
    (St.step c s (.commit kind [] mo dlo)).2 = .unit ∧
    let reopened := St.run c s [.commit kind [] mo dlo, .recreate]
    reopened.deltas = [] ∧ reopened.cache = [] ∧ Inv c reopened ∧
    ∀ id, id.isTemp = false → reopened.view c id = s.view c id := by
  obtain ⟨g1, g2, _⟩ := commitW_complete c hc kind (faultPlan []) faultPlan_nil mo dlo s hI henc
  obtain ⟨h1, h2, _⟩ := commitW_spec c hc kind (faultPlan []) mo dlo s hI
  have hrun : St.run c s [.commit kind [] mo dlo, .recreate] =
      (St.fresh (commitW c kind (faultPlan []) mo dlo s).st.base
        (commitW c kind (faultPlan []) mo dlo s).st.alloc : St σ β) := by
    simp only [St.run, List.foldl_cons, List.foldl_nil, step_commit]
    rfl
  refine ⟨by rw [step_commit, g1], ?_⟩
  intro reopened
  have hre : reopened = _ := hrun
  refine ⟨by rw [hre]; rfl, by rw [hre]; rfl, by rw [hre]; exact inv_fresh c _ h1, ?_⟩
  intro id ht
  rw [hre, view_fresh]
  exact h2.committed_eq_view h1 g2 id ht

end Atree.WE2E

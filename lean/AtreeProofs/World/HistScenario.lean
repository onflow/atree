import AtreeProofs.Props.C10Hist
import AtreeProofs.Props.C11W
import AtreeProofs.World.OkScenario
/-
  NON-VACUITY of the history theorems (`Props/C10Hist.lean`): the run of `World/OkScenario.lean`
  (T = 256; root array `R`; map `M` inlined in `R`; array `A` wrapped and inlined in `M`; array `B`
  growing to a standalone slab inside `R`), continued by the removal of `M` from `R` and a mutation
  through the handle of `A` (now nested in the DETACHED `M`), is a `World.Run`: at every step the
  client uses a handle it obtained earlier (`R`, `M`, `A`, `R` again, `B`, `R`, `A`), the only side
  conditions being `WValOk` / `KeyOk` (decidable checks) — NO `HandleOk` is established by hand.
-/
namespace Atree.HistScenario
open Atree Gen World
open Atree.Scenario (okW eq_okW okE eq_okE runW runE ok_pair ok_triple w0 cx0)
open Atree.OkScenario

def h0 : HState := HState.init 256 1 cx0
def h1 : HState := ⟨t1.2.1, t1.2.2, fun z => h0.hs z ∨ z = t1.1⟩
def h2 : HState := ⟨t2.2.1, t2.2.2, fun z => h1.hs z ∨ z = t2.1⟩
def h3 : HState := ⟨t3.2.1, t3.2.2, fun z => h2.hs z ∨ z = t3.1⟩
def h4 : HState := ⟨t4.2.1, t4.2.2, fun z => h3.hs z ∨ z = t4.1⟩
def h5 : HState := ⟨t5.1, t5.2, h4.hs⟩
def h6 : HState := ⟨t6.2.1, t6.2.2, fun z => h5.hs z ∨ ∃ o, t6.1 = some o ∧ refOf h5.w o z⟩
def h7 : HState := ⟨t7.1, t7.2, h6.hs⟩
def h8 : HState := ⟨t8.1, t8.2, h7.hs⟩
def h9 : HState := ⟨t9.1, t9.2, h8.hs⟩
def h10 : HState := ⟨t10.1, t10.2, h9.hs⟩
def h11 : HState := ⟨t11.1, t11.2, h10.hs⟩
def h12 : HState := ⟨t12.1, t12.2, h11.hs⟩
def h13 : HState := ⟨t13.1, t13.2, h12.hs⟩
def h14 : HState := ⟨t14.1, t14.2, h13.hs⟩
/-- `M` removed from `R` (handed back: a detached root holding `A`) -/
def t15 : Elem × World × Ctx := okE (t14.1.arrRemoveS R 0 t14.2)
def h15 : HState := ⟨t15.2.1, t15.2.2, fun z => h14.hs z ∨ refOf h14.w t15.1 z⟩
/-- a value inserted through `A`, nested in the detached `M` -/
def t16 : World × Ctx := okW (t15.2.1.arrInsertS A 1 (pl 8) t15.2.2)
def h16 : HState := ⟨t16.1, t16.2, h15.hs⟩

theorem hsR : h4.hs R := Or.inl (Or.inl (Or.inl (Or.inr (by decide))))
theorem hsM : h4.hs M := Or.inl (Or.inl (Or.inr (by decide)))
theorem hsA : h4.hs A := Or.inl (Or.inr (by decide))
theorem hsB : h4.hs B := Or.inr (by decide)

/-! ### steps and the history theorems over a state written out

`Step` and `history_invariant` speak of `s.w`, `s.cx`; the run speaks of `t_n.1`, `t_n.2`.  Matching
`h_n.w` against `t_n.1` would evaluate `t_n`; here the hypotheses and conclusions have the world and
the context of `⟨w, cx, hs⟩` in place. -/

section
variable {D : SlabID → DigestFn 4} {w : World} {cx : Ctx} {hs : SlabID → Prop}

theorem stepI {p : SlabID} {i : Nat} {v : WVal} {r : World × Ctx} (hp : hs p)
    (hv : WValOk w p (maxInlineArr w.T) v) (h : w.arrInsert p i v cx = .ok r) :
    Step D ⟨w, cx, hs⟩ (.arrInsert p i v) .unit ⟨r.1, r.2, (⟨w, cx, hs⟩ : HState).hs⟩ :=
  Step.arrInsert ⟨w, cx, hs⟩ p i v r.1 r.2 hp hv h

theorem stepR {p : SlabID} {i : Nat} {r : Elem × World × Ctx} (hp : hs p) (h : w.arrRemove p i cx = .ok r) :
    Step D ⟨w, cx, hs⟩ (.arrRemove p i) (.pay r.1.pay)
      ⟨r.2.1, r.2.2, fun z => (⟨w, cx, hs⟩ : HState).hs z ∨ refOf (⟨w, cx, hs⟩ : HState).w r.1 z⟩ :=
  Step.arrRemove ⟨w, cx, hs⟩ p i r.1 r.2.1 r.2.2 hp h

theorem stepM {p : SlabID} {k : MKey} {v : WVal} {r : Option Elem × World × Ctx} (hp : hs p)
    (hk : KeyOk w.T 4 (D p) k) (hv : WValOk w p (maxInlineMapValue w.T k.size) v)
    (h : w.mapSet p k v cx = .ok r) :
    Step D ⟨w, cx, hs⟩ (.mapSet p k v) (.opay (r.1.map (·.pay)))
      ⟨r.2.1, r.2.2, fun z => (⟨w, cx, hs⟩ : HState).hs z ∨ ∃ o, r.1 = some o ∧ refOf (⟨w, cx, hs⟩ : HState).w o z⟩ :=
  Step.mapSet ⟨w, cx, hs⟩ p k v r.1 r.2.1 r.2.2 hp hk hv h

theorem history_at {T addr : Nat} {cx0 : Ctx} (hT : legalThreshold T = true) {tr : List (WOp × WObs)}
    (h : Run D (HState.init T addr cx0) tr ⟨w, cx, hs⟩) :
    WorldOk' D w cx.ctr ∧ ∀ z, hs z → HandleOk w z ∧ (w.cont? z).isSome :=
  C10Hist.history_invariant D T addr cx0 hT tr ⟨w, cx, hs⟩ h

theorem refines_at {T addr : Nat} {cx0 : Ctx} (hT : legalThreshold T = true) {tr : List (WOp × WObs)}
    (h : Run D (HState.init T addr cx0) tr ⟨w, cx, hs⟩) : SpecRun (fun _ => none) tr (absTab w) :=
  C10Hist.history_refines D T addr cx0 hT tr ⟨w, cx, hs⟩ h

end

/-- the continuation of the run (`t15`, `t16`), evaluated once -/
theorem checks16 :
    ((t14.1.arrRemoveS R 0 t14.2).toBool = true ∧ t15.1.pay = .ref M ∧ (t14.1.cont? M).isSome = true) ∧
    (t15.2.1.arrInsertS A 1 (pl 8) t15.2.2).toBool = true ∧ t15.2.1.T = 256 ∧
    (t15.2.1.cont? M).map (fun c => c.pays.contains (Pay.ref A)) = some true := by
  decide +kernel

theorem run15 : t14.1.arrRemove R 0 t14.2 = .ok t15 := runE checks16.1.1
theorem run16 : t15.2.1.arrInsert A 1 (pl 8) t15.2.2 = .ok t16 := runW checks16.2.1

def trace14 : List (WOp × WObs) :=
  [(.newArr 7, .id t1.1), (.newMap 8 5, .id t2.1), (.newArr 9, .id t3.1), (.newArr 10, .id t4.1),
   (.arrInsert R 0 (.child M 0), .unit), (.mapSet M K1 (.child A 1), .opay (t6.1.map (·.pay))),
   (.arrInsert A 0 (pl 1), .unit), (.arrInsert R 1 (.child B 0), .unit),
   (.arrInsert B 0 (pl 2), .unit), (.arrInsert B 1 (pl 3), .unit), (.arrInsert B 2 (pl 4), .unit),
   (.arrInsert B 3 (pl 5), .unit), (.arrInsert B 4 (pl 6), .unit), (.arrInsert B 5 (pl 7), .unit)]

def trace : List (WOp × WObs) :=
  trace14 ++ [(.arrRemove R 0, .pay t15.1.pay), (.arrInsert A 1 (pl 8), .unit)]

/-- the run of `OkScenario` is a history in the sense of `World.Run` -/
theorem scenario_run14 : Run OkScenario.D h0 trace14 h14 :=
  have T := T8_13
  Run.cons (Step.newArr h0 7) (Run.cons (Step.newMap h1 8 5) (Run.cons (Step.newArr h2 9)
    (Run.cons (Step.newArr h3 10) (Run.cons (Step.arrInsert h4 R 0 _ t5.1 t5.2 hsR hv5 (ok_pair run5))
    (Run.cons (stepM hsM (keyOk_K1_at M checks8.2.2.1.2.2) hv6 run6)
    (Run.cons (stepI (Or.inl hsA) (plOkAt _ _ T6 1) run7)
    (Run.cons (stepI (Or.inl hsR) hv8 run8)
    (Run.cons (stepI (Or.inl hsB) (plOkAt _ _ T.1 2) run9)
    (Run.cons (stepI (Or.inl hsB) (plOkAt _ _ T.2.1 3) run10)
    (Run.cons (stepI (Or.inl hsB) (plOkAt _ _ T.2.2.1 4) run11)
    (Run.cons (stepI (Or.inl hsB) (plOkAt _ _ T.2.2.2.1 5) run12)
    (Run.cons (stepI (Or.inl hsB) (plOkAt _ _ T.2.2.2.2.1 6) run13)
    (Run.cons (stepI (Or.inl hsB) (plOkAt _ _ T.2.2.2.2.2 7) run14)
    (Run.nil _))))))))))))))

/-- `M` removed from `R` … -/
theorem step15 : Step OkScenario.D h14 (.arrRemove R 0) (.pay t15.1.pay) h15 :=
  stepR (w := t14.1) (cx := t14.2) (hs := h13.hs) (Or.inl hsR) run15

/-- … then a value inserted through `A` -/
theorem step16 : Step OkScenario.D h15 (.arrInsert A 1 (pl 8)) .unit h16 :=
  stepI (w := t15.2.1) (cx := t15.2.2) (hs := h15.hs) (Or.inl (Or.inl hsA)) (plOkAt _ _ checks16.2.2.1 8) run16

/-- … and so is its continuation: `M` removed from `R`, then a value inserted through `A` -/
theorem scenario_run : Run OkScenario.D h0 trace h16 :=
  scenario_run14.append (Run.cons step15 (Run.cons step16 (Run.nil _)))

/-- what the final world looks like: `R` holds `B` only; the detached `M` still holds `A`, which holds
    the two values inserted through its handle — the second one AFTER `M` was detached -/
theorem final_shape :
    (t16.1.cont? R).map Cont.pays = some [.ref B] ∧ (t16.1.cont? M).map Cont.pays = some [.ref A] ∧
    (t16.1.cont? A).map Cont.pays = some [.val 1, .val 8] ∧ (t16.1.cont? M).map Cont.isInlined = some false ∧
    t15.1.pay = .ref M := by decide +kernel

/-- the history theorem applies: the final world satisfies the invariant and the handles of `R`, `M`,
    `A`, `B` — all obtained at creation, used in an interleaved way — are current -/
theorem scenario_history :
    WorldOk' OkScenario.D t16.1 t16.2.ctr ∧ HandleOk t16.1 R ∧ HandleOk t16.1 M ∧ HandleOk t16.1 A ∧
      HandleOk t16.1 B := by
  obtain ⟨H, hh⟩ := history_at (w := t16.1) (cx := t16.2) (hs := h15.hs) (T := 256) (by decide) scenario_run
  exact ⟨H, (hh R (Or.inl (Or.inl hsR))).1, (hh M (Or.inl (Or.inl hsM))).1, (hh A (Or.inl (Or.inl hsA))).1,
    (hh B (Or.inl (Or.inl hsB))).1⟩

/-- … and it refines the specification on the table of signatures -/
theorem scenario_refines : SpecRun (fun _ => none) trace (absTab t16.1) :=
  refines_at (w := t16.1) (cx := t16.2) (hs := h15.hs) (T := 256) (by decide) scenario_run

/-! ### C11: the detached `M` and its former parent `R` (non-vacuity of `Props/C11W.lean`) -/

theorem scenario_history14 : WorldOk' OkScenario.D t14.1 t14.2.ctr ∧ HandleOk t14.1 R := by
  obtain ⟨H, hh⟩ := history_at (w := t14.1) (cx := t14.2) (hs := h13.hs) (T := 256) (by decide) scenario_run14
  exact ⟨H, (hh R (Or.inl hsR)).1⟩

/-- `C11.detached_by_arrRemove` applies to the removal of `M` from `R` … -/
theorem scenario_detached :
    WorldOk' OkScenario.D t15.2.1 t15.2.2.ctr ∧ DetachedRoot t15.2.1 M ∧ HandleOk t15.2.1 M ∧
      ¬ Anc t15.2.1 M R :=
  C11.detached_by_arrRemove OkScenario.D t14.1 R 0 t14.2 t15.1 t15.2.1 t15.2.2 M scenario_history14.1
    scenario_history14.2 (ok_triple run15) checks16.1.2.1 checks16.1.2.2

/-- … and `C11.detached_arrInsert` to the insertion through the handle of `A`, which is nested in the
    detached `M`: the former parent `R` is untouched (same table entry: content, sizes, form), `M` is
    still a detached root, the invariant holds. -/
theorem scenario_former_parent_untouched :
    WorldOk' OkScenario.D t16.1 t16.2.ctr ∧ DetachedRoot t16.1 M ∧ t16.1.cont? R = t15.2.1.cont? R := by
  obtain ⟨H15, hd, _, hnb⟩ := scenario_detached
  have hA : HandleOk t15.2.1 A :=
    ((history_at (w := t15.2.1) (cx := t15.2.2) (hs := h15.hs) (T := 256) (by decide)
      (scenario_run14.append (Run.cons step15 (Run.nil _)))).2 A (Or.inl (Or.inl hsA))).1
  have hMA : Anc t15.2.1 M A := Anc.step Anc.refl (holds_of_check checks16.2.2.2)
  obtain ⟨g1, _, _, g4, g5⟩ := C11.detached_arrInsert OkScenario.D t15.2.1 M A 1 (pl 8) t15.2.2 t16.1 t16.2 H15 hd
    hMA hA (plOkAt _ _ checks16.2.2.1 8) (ok_pair run16)
  exact ⟨g1, g4, g5 R hnb not_moved_plain⟩

end Atree.HistScenario

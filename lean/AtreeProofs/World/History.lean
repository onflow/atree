import AtreeProofs.WorldHistory
import AtreeProofs.World.WPopMid
/-
  For the history theorems (`Props/C10Hist.lean`): handles across creation and
  disposal (`handleOk_new`, `handleOk_forget`), reachability in the table of signatures (`reach_iff_treach`;
  `absTab`, `TReach`, `Run`, `SpecRun`, `payOf` are defined in WorldHistory.lean), the table after an
  operation (`absTab_upd`), and what the relations `InsertedAt` … `MapRemovedAt` (WorldOk.lean) say in the
  terms of the specification (`live`, `handle_back`, `sig` / `effect`).
-/
namespace Atree
open Gen

namespace World

/-- a new, empty container is filed under a fresh identifier: every current handle stays current -/
theorem handleOk_new {w w' : World} {x : SlabID} {c : Cont} (hnew : w.cont? x = none)
    (hx : w'.cont? x = some c) (hc : c.pays = []) (hco : ∀ z, z ≠ x → w'.cont? z = w.cont? z)
    (hh : w'.hinfo = w.hinfo) (hm : w'.mutIdx = w.mutIdx) {z : SlabID} (h : HandleOk w z) : HandleOk w' z := by
  refine h.transfer ?_ ?_
  · intro q y ⟨qc, hqc, hmem⟩
    by_cases hq : q = x
    · subst hq
      rw [hx] at hqc; cases hqc
      rw [hc] at hmem; cases hmem
    · rw [hco q hq] at hqc
      exact ⟨qc, hqc, hmem⟩
  · intro y hi h1 h2
    refine ⟨hi, by rw [hh]; exact h1, rfl, ?_⟩
    rw [closureCurrent_iff] at h2 ⊢
    obtain ⟨j, pc, hpc, hpay, harr, hmap⟩ := h2
    have hpx : hi.parent ≠ x := by
      intro he; rw [he, hnew] at hpc; cases hpc
    refine ⟨j, pc, by rw [hco _ hpx]; exact hpc, hpay, fun ha => ?_, hmap⟩
    have : w'.idxOf hi.parent = w.idxOf hi.parent := idxOf_congr hm _
    rw [this]; exact harr ha

/-- disposing of the containers reachable from `k`: every current handle of a container that is
    still there stays current -/
theorem handleOk_forget {w w' : World} {k : SlabID} (F : ForgetFrame w w' k) {z : SlabID} (h : HandleOk w z)
    (hz : (w'.cont? z).isSome) : HandleOk w' z := by
  obtain ⟨f1, f2, _, _⟩ := F
  have hnr : ∀ y, (w'.cont? y).isSome → ¬ Reach w k y := by
    intro y hy hr
    rw [(f1 y hr).1] at hy; cases hy
  induction h with
  | root x hr =>
    refine HandleOk.root x (fun q hq => hr q ?_)
    obtain ⟨qc, hqc, hm⟩ := hq
    have hq' := (f2 q (hnr q (by rw [hqc]; rfl))).1
    exact ⟨qc, by rw [← hq']; exact hqc, hm⟩
  | child x hi hhi hc _ ih =>
    have hxn := hnr x hz
    obtain ⟨e1, e2, _⟩ := f2 x hxn
    have hxl : (w.cont? x).isSome := by rw [← e1]; exact hz
    rw [closureCurrent_iff] at hc
    obtain ⟨j, hj⟩ := hc
    have hpn : ¬ Reach w k hi.parent := fun hr => hxn (hr.snoc hj.holds hxl)
    obtain ⟨g1, _, g3⟩ := f2 hi.parent hpn
    obtain ⟨pc, hpc, hpay, harr, hmap⟩ := hj
    have hpl : (w'.cont? hi.parent).isSome := by rw [g1, hpc]; rfl
    refine HandleOk.child x hi (by rw [e2]; exact hhi) ?_ (ih hpl)
    rw [closureCurrent_iff]
    refine ⟨j, pc, by rw [g1]; exact hpc, hpay, fun ha => ?_, hmap⟩
    have : w'.idxOf hi.parent = w.idxOf hi.parent := by simp only [World.idxOf, g3]
    rw [this]; exact harr ha

theorem absTab_some {w : World} {z : SlabID} {s : Sig} (h : absTab w z = some s) :
    ∃ c, w.cont? z = some c ∧ c.sig = s := by
  unfold absTab at h
  cases hc : w.cont? z with
  | none => rw [hc] at h; cases h
  | some c => rw [hc] at h; exact ⟨c, rfl, by simpa using h⟩

theorem absTab_of {w : World} {z : SlabID} {c : Cont} (h : w.cont? z = some c) : absTab w z = some c.sig := by
  unfold absTab; rw [h]; rfl

theorem absTab_isSome (w : World) (z : SlabID) : (absTab w z).isSome = (w.cont? z).isSome := by
  unfold absTab; cases w.cont? z <;> rfl

theorem mem_sig_iff {c : Cont} {py : Pay} : (∃ ko, (ko, py) ∈ c.sig.2) ↔ ∃ e ∈ c.storedElems, e.pay = py := by
  have h1 : py ∈ c.pays ↔ ∃ ko, (ko, py) ∈ c.sig.2 := by
    rw [Cont.pays_eq_sig, List.mem_map]
    constructor
    · rintro ⟨⟨ko, p⟩, ht, rfl⟩; exact ⟨ko, ht⟩
    · rintro ⟨ko, ht⟩; exact ⟨(ko, py), ht, rfl⟩
  rw [← h1, Cont.pays, List.mem_map]

/-- reachability through references only depends on the table of signatures -/
theorem reach_iff_treach (w : World) (v x : SlabID) : Reach w v x ↔ TReach (absTab w) v x := by
  constructor
  · intro h
    induction h with
    | refl hs => exact TReach.refl (by rw [absTab_isSome]; exact hs)
    | step hc he hp _ ih =>
      obtain ⟨ko, hk⟩ := mem_sig_iff.mpr ⟨_, he, hp⟩
      exact TReach.step (absTab_of hc) hk ih
  · intro h
    induction h with
    | refl hs => exact Reach.refl (by rw [← absTab_isSome]; exact hs)
    | step hu hk _ ih =>
      obtain ⟨c, hc, hs⟩ := absTab_some hu
      obtain ⟨e, he, hp⟩ := mem_sig_iff.mp ⟨_, by rw [hs]; exact hk⟩
      exact Reach.step hc he hp ih

/-- the table after an operation that changes the signature of `p` only -/
theorem absTab_upd {w w' : World} {p : SlabID} {c' : Cont} (h : SigFrame w w' p) (hp : w'.cont? p = some c') :
    absTab w' = (absTab w).upd p c'.sig := by
  funext z
  unfold Tab.upd
  by_cases hz : z = p
  · subst hz; rw [if_pos rfl]; exact absTab_of hp
  · rw [if_neg hz]; exact h z hz

theorem absTab_eq_of_conts {w w' : World} (h : ∀ z, w'.cont? z = w.cont? z) : absTab w' = absTab w := by
  funext z; unfold absTab; rw [h]

/-- the payload of the element stored for the value `v` -/
theorem stored_pay {v : WVal} {e : Elem} (hp : ∀ e0, v = .plain e0 → e = e0)
    (hc : ∀ x wr, v = .child x wr → e.pay = .ref x) : e.pay = payOf v := by
  cases v with
  | plain e0 => rw [hp e0 rfl]; rfl
  | child x wr => exact hc x wr rfl

/-- a container that is handed back is a root with a current handle, and live -/
theorem HandedBack.handle {w w' : World} {old : Elem} (h : HandedBack w w' old) {z : SlabID}
    (hz : old.pay = .ref z) (hl : (w.cont? z).isSome) : HandleOk w' z ∧ (w'.cont? z).isSome := by
  obtain ⟨c, hc⟩ := Option.isSome_iff_exists.mp hl
  obtain ⟨c', hc', _, _, _, hr⟩ := h z c hz hc
  exact ⟨HandleOk.root z hr, by rw [hc']; rfl⟩

section
variable {w w' : World} {p : SlabID} {i : Nat} {k rk : MKey} {v : WVal} {old' : Elem}

theorem InsertedAt.live (h : InsertedAt w w' p i v) : (w'.cont? p).isSome := by
  obtain ⟨_, _, _, _, h2, _⟩ := h; rw [h2]; rfl

theorem InsertedAt.sig (h : InsertedAt w w' p i v) : ∃ a a', w.cont? p = some (.arr a) ∧
    w'.cont? p = some (.arr a') ∧ i ≤ a.toList.length ∧
    (Cont.arr a').sig = (true, (a.toList.map fun e => ((none : Option MKey), e.pay)).insertIdx i (none, payOf v)) := by
  obtain ⟨a, a', e, h1, h2, h3, h4, h5, h6⟩ := h
  exact ⟨a, a', h1, h2, h3, by rw [sig_arr, h4, map_insertIdx, stored_pay h5 fun x wr hx => (h6 x wr hx).1]⟩

theorem SetAt.live (h : SetAt w w' p i v old') : (w'.cont? p).isSome := by
  obtain ⟨_, _, _, _, _, h2, _⟩ := h; rw [h2]; rfl

theorem SetAt.handle_back (h : SetAt w w' p i v old') {z : SlabID} (hz : old'.pay = .ref z)
    (hl : (w.cont? z).isSome) : HandleOk w' z ∧ (w'.cont? z).isSome := by
  obtain ⟨_, _, _, _, _, _, _, _, h5, h6, _⟩ := h
  exact h6.handle (by rw [← h5]; exact hz) hl

theorem SetAt.sig (h : SetAt w w' p i v old') : ∃ a a' old, w.cont? p = some (.arr a) ∧
    w'.cont? p = some (.arr a') ∧ a.toList[i]? = some old ∧ old'.pay = old.pay ∧
    (Cont.arr a').sig = (true, (a.toList.map fun e => ((none : Option MKey), e.pay)).set i (none, payOf v)) := by
  obtain ⟨a, a', old, e, h1, h2, h3, h4, h5, _, h7, h8⟩ := h
  exact ⟨a, a', old, h1, h2, h3, h5, by rw [sig_arr, h4, List.map_set, stored_pay h7 fun x wr hx => (h8 x wr hx).1]⟩

theorem RemovedAt.live (h : RemovedAt w w' p i old') : (w'.cont? p).isSome := by
  obtain ⟨_, _, _, _, h2, _⟩ := h; rw [h2]; rfl

theorem RemovedAt.handle_back (h : RemovedAt w w' p i old') {z : SlabID} (hz : old'.pay = .ref z)
    (hl : (w.cont? z).isSome) : HandleOk w' z ∧ (w'.cont? z).isSome := by
  obtain ⟨_, _, _, _, _, _, _, h5, h6⟩ := h
  exact h6.handle (by rw [← h5]; exact hz) hl

theorem RemovedAt.sig (h : RemovedAt w w' p i old') : ∃ a a' old, w.cont? p = some (.arr a) ∧
    w'.cont? p = some (.arr a') ∧ a.toList[i]? = some old ∧ old'.pay = old.pay ∧
    (Cont.arr a').sig = (true, (a.toList.map fun e => ((none : Option MKey), e.pay)).eraseIdx i) := by
  obtain ⟨a, a', old, h1, h2, h3, h4, h5, _⟩ := h
  exact ⟨a, a', old, h1, h2, h3, h5, by rw [sig_arr, h4, map_eraseIdx]⟩

theorem MapSetAt.live {old' : Option Elem} (h : MapSetAt w w' p k v old') : (w'.cont? p).isSome := by
  obtain ⟨_, _, _, _, _, h2, _⟩ := h; rw [h2]; rfl

theorem MapSetAt.handle_back {old' : Option Elem} (h : MapSetAt w w' p k v old') {o : Elem} (ho : old' = some o)
    {z : SlabID} (hz : o.pay = .ref z) (hl : (w.cont? z).isSome) : HandleOk w' z ∧ (w'.cont? z).isSome := by
  obtain ⟨_, _, _, oldo, _, _, _, h4, h5, _⟩ := h
  cases hoo : oldo with
  | none => rw [h5 hoo] at ho; cases ho
  | some o0 =>
    obtain ⟨o', ho', hp', hb⟩ := h4 o0 hoo
    rw [ho] at ho'; cases ho'
    exact hb.handle (by rw [← hp']; exact hz) hl

/-- the pair list before and after, the element stored with the payload of `v`, and what is handed back
    with the payload of what was there -/
theorem MapSetAt.effect {old' : Option Elem} (h : MapSetAt w w' p k v old') : ∃ m m' e oldo,
    w.cont? p = some (.map m) ∧ w'.cont? p = some (.map m') ∧ SetEffect m.toList m'.toList k e oldo ∧
    e.pay = payOf v ∧ old'.map (·.pay) = oldo.map (·.pay) := by
  obtain ⟨m, m', e, oldo, h1, h2, h3, h4, h5, h6, h7⟩ := h
  refine ⟨m, m', e, oldo, h1, h2, h3, stored_pay h6 fun x wr hx => (h7 x wr hx).1, ?_⟩
  cases hoo : oldo with
  | none => rw [h5 hoo]
  | some o0 => obtain ⟨o', ho', hp', _⟩ := h4 o0 hoo; rw [ho']; exact congrArg some hp'

theorem MapRemovedAt.live (h : MapRemovedAt w w' p k rk old') : (w'.cont? p).isSome := by
  obtain ⟨_, _, _, _, h2, _⟩ := h; rw [h2]; rfl

theorem MapRemovedAt.handle_back (h : MapRemovedAt w w' p k rk old') {z : SlabID} (hz : old'.pay = .ref z)
    (hl : (w.cont? z).isSome) : HandleOk w' z ∧ (w'.cont? z).isSome := by
  obtain ⟨_, _, _, _, _, _, _, h5, h6⟩ := h
  exact h6.handle (by rw [← h5]; exact hz) hl

theorem MapRemovedAt.effect (h : MapRemovedAt w w' p k rk old') : ∃ m m' rv, w.cont? p = some (.map m) ∧
    w'.cont? p = some (.map m') ∧ RemEffect m.toList m'.toList k rv ∧ old'.pay = rv.pay := by
  obtain ⟨m, m', rv, h1, h2, _, h4, h5, _⟩ := h
  exact ⟨m, m', rv, h1, h2, h4, h5⟩

end

theorem Run.append {D : SlabID → DigestFn 4} {s1 s2 s3 : HState} {t1 t2 : List (WOp × WObs)}
    (h1 : Run D s1 t1 s2) (h2 : Run D s2 t2 s3) : Run D s1 (t1 ++ t2) s3 := by
  induction h1 with
  | nil => exact h2
  | cons hs _ ih => exact Run.cons hs (ih h2)

theorem SpecRun.append {A1 A2 A3 : Tab} {t1 t2 : List (WOp × WObs)}
    (h1 : SpecRun A1 t1 A2) (h2 : SpecRun A2 t2 A3) : SpecRun A1 (t1 ++ t2) A3 := by
  induction h1 with
  | nil => exact h2
  | cons hs _ ih => exact SpecRun.cons hs (ih h2)

end World
end Atree

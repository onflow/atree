import AtreeProofs.World.Shape
/-
  `IdxNodup`: no index table of `World.mutIdx` lists a key twice.

  Go's `mutableElementIndex` is a Go map (`map[ValueID]uint64`): a key occurs at most once.  The
  model keeps it as an association list.  Every operation of the World model writes the tables only
  through `AList.insert` (= cons ∘ erase), `AList.erase`, a map over the values (`shiftIdx`), the
  empty table, or erases / replaces a whole table, so "no key twice" is an invariant of EVERY
  operation, from ANY world, without `WorldOk`: it is a purely functional fact about the
  transcription.
-/
namespace Atree
open Gen

namespace World

/-- no index table lists a value ID twice (Go: `mutableElementIndex` is a Go map) -/
def IdxNodup (w : World) : Prop := ∀ p, (AList.keys (w.idxOf p)).Nodup

theorem IdxNodup.of_mutIdx {w w' : World} (h : IdxNodup w) (hm : w'.mutIdx = w.mutIdx) : IdxNodup w' := by
  intro p
  have := h p
  unfold idxOf at this ⊢
  rw [hm]; exact this

theorem idxNodup_empty (T addr : Nat) : IdxNodup { T := T, addr := addr } := by
  intro p
  exact List.nodup_nil

theorem IdxNodup.setCont {w : World} (h : IdxNodup w) (vid : SlabID) (c : Cont) : IdxNodup (w.setCont vid c) :=
  h.of_mutIdx rfl

theorem IdxNodup.setIdx {w : World} (h : IdxNodup w) (p : SlabID) (m : AList SlabID Nat)
    (hm : (AList.keys m).Nodup) : IdxNodup (w.setIdx p m) := by
  intro q
  rw [idxOf_setIdx]
  split
  · exact hm
  · exact h q

theorem IdxNodup.shiftIdx {w : World} (h : IdxNodup w) (p : SlabID) (f : Nat → Nat) : IdxNodup (w.shiftIdx p f) :=
  h.setIdx p _ (AList.nodup_keys_map_val _ f (h p))

/-- `Array.Set` / `Array.Remove` delete the entry of the overwritten / removed child -/
theorem IdxNodup.eraseIdx {w : World} (h : IdxNodup w) (p x : SlabID) :
    IdxNodup (w.setIdx p (AList.erase (w.idxOf p) x)) :=
  h.setIdx p _ (AList.nodup_keys_erase _ x (h p))

/-- `PopIterate` clears the table -/
theorem IdxNodup.clearIdx {w : World} (h : IdxNodup w) (p : SlabID) : IdxNodup (w.setIdx p []) :=
  h.setIdx p _ List.nodup_nil

theorem IdxNodup.setHinfo {w : World} (h : IdxNodup w) (H : AList SlabID HInfo) : IdxNodup { w with hinfo := H } :=
  h.of_mutIdx rfl

theorem IdxNodup.setCallbackArr {w : World} (h : IdxNodup w) (p : SlabID) (i : Nat) (v : WVal) :
    IdxNodup (w.setCallbackArr p i v) := by
  cases v with
  | plain e => exact h
  | child vid wrap =>
    have h1 : IdxNodup (w.setIdx p (AList.insert (w.idxOf p) vid i)) :=
      h.setIdx p _ (AList.nodup_keys_insert _ vid i (h p))
    exact h1.of_mutIdx rfl

theorem IdxNodup.setCallbackMap {w : World} (h : IdxNodup w) (p : SlabID) (k : MKey) (v : WVal) :
    IdxNodup (w.setCallbackMap p k v) := by
  cases v with
  | plain e => exact h
  | child vid wrap => exact h.of_mutIdx rfl

/-- `forget` drops a whole table: the table of an erased key reads as `[]` -/
theorem IdxNodup.eraseAll {w : World} (h : IdxNodup w) (vid : SlabID) :
    IdxNodup { w with conts := AList.erase w.conts vid, hinfo := AList.erase w.hinfo vid,
                      mutIdx := AList.erase w.mutIdx vid } := by
  intro q
  have hq := h q
  simp only [idxOf, AList.find?_erase] at hq ⊢
  split
  · exact List.nodup_nil
  · exact hq

theorem idxNodup_reopen (w : World) : IdxNodup w.reopen := by
  intro p
  exact List.nodup_nil

/-- every elementary step writes the tables through `AList.insert`, `AList.erase`, a map over the
    values, the empty table, or drops whole tables -/
theorem IdxNodup.estep {k : StepKind} {w : World} {cx : Ctx} {w' : World} {cx' : Ctx} (h : EStep k w cx w' cx')
    (I : IdxNodup w) : IdxNodup w' := by
  cases h with
  | cont => exact I.setCont _ _
  | shift => exact I.shiftIdx _ _
  | eraseIdx => exact I.eraseIdx _ _
  | clearIdx => exact I.clearIdx _
  | cbArr => exact I.setCallbackArr _ _ _
  | cbMap => exact I.setCallbackMap _ _ _
  | eraseHinfo => exact I.setHinfo _
  | drop => exact I.eraseAll _
  | newArr => exact I.of_mutIdx rfl
  | newMap => exact I.of_mutIdx rfl
  | reopen => exact idxNodup_reopen _

/-- hence every operation of the World model keeps `IdxNodup` (with the `*_steps` lemmas) -/
theorem IdxNodup.steps {K : StepKind → Prop} {w : World} {cx : Ctx} {w' : World} {cx' : Ctx}
    (h : Steps K w cx w' cx') : IdxNodup w → IdxNodup w' :=
  h.preserves fun _ e => IdxNodup.estep e

theorem IdxNodup.reopen {w : World} (_h : IdxNodup w) : IdxNodup w.reopen :=
  idxNodup_reopen w

theorem IdxNodup.childStorable {w : World} (h : IdxNodup w) {x : SlabID} {wrap lim : Nat} {cx : Ctx}
    {e : Elem} {w' : World} {cx' : Ctx} (hs : w.childStorable x wrap lim cx = .ok (e, w', cx')) :
    IdxNodup w' :=
  IdxNodup.steps (childStorable_steps hs) h

theorem IdxNodup.notifyParent {w : World} (h : IdxNodup w) {fuel : Nat} {x : SlabID} {cx : Ctx}
    {w' : World} {cx' : Ctx} (hn : World.notifyParent fuel w x cx = .ok (w', cx')) : IdxNodup w' :=
  IdxNodup.steps (notifyParent_steps hn) h

theorem IdxNodup.arrGet {w : World} (hw : IdxNodup w) {p : SlabID} {i : Nat}
    {el : Elem} {w' : World} (h : w.arrGet p i = .ok (el, w')) : IdxNodup w' :=
  IdxNodup.steps (arrGet_steps ⟨0, [], []⟩ h) hw

theorem IdxNodup.mapGet {w : World} (hw : IdxNodup w) {p : SlabID} {k : MKey}
    {el : Elem} {w' : World} (h : w.mapGet p k = .ok (el, w')) : IdxNodup w' :=
  IdxNodup.steps (mapGet_steps ⟨0, [], []⟩ h) hw

theorem IdxNodup.setType {w : World} (hw : IdxNodup w) {x : SlabID} {ty : Nat} {cx : Ctx}
    {w' : World} {cx' : Ctx} (h : w.setType x ty cx = .ok (w', cx')) : IdxNodup w' :=
  IdxNodup.steps (setType_steps h) hw

theorem IdxNodup.forget (fuel : Nat) : ∀ {w : World}, IdxNodup w → ∀ vid, IdxNodup (World.forget fuel w vid) :=
  fun h vid => IdxNodup.steps (forget_steps fuel _ ⟨0, [], []⟩ vid) h

theorem IdxNodup.arrPop {w : World} (hw : IdxNodup w) {x : SlabID} {cx : Ctx}
    {es : List Elem} {w' : World} {cx' : Ctx} (h : w.arrPop x cx = .ok (es, w', cx')) :
    IdxNodup w' :=
  IdxNodup.steps (arrPop_steps h) hw

theorem IdxNodup.mapPop {w : World} (hw : IdxNodup w) {x : SlabID} {cx : Ctx}
    {kvs : List (MKey × Elem)} {w' : World} {cx' : Ctx} (h : w.mapPop x cx = .ok (kvs, w', cx')) :
    IdxNodup w' :=
  IdxNodup.steps (mapPop_steps h) hw

end World
end Atree

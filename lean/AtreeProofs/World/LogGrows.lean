import AtreeProofs.World.PopLog
import AtreeProofs.Array.EffectsTop
import AtreeProofs.Map.EffectsTop
/-
  The effect log only grows: every elementary step of the world (`EStep`) appends to it, hence every
  sequence of them (`Steps.logExt`) — every operation of the World model, in particular the
  notification inside a pop (`notifyParent_logExt`).  No invariant needed: `Value.Storable` appends,
  the tree operations are `Plain` after it, `popIterate` emits removes, `setType` and a change of
  form one `store` / `remove`.
-/
namespace Atree
open Gen World

theorem ContStep.logExt {T : Nat} {cfg : MCfg} {id : SlabID} {c c' : Cont} {cx cx' : Ctx}
    (h : ContStep T cfg id c cx c' cx') : LogExt cx cx' := by
  cases h with
  | arrSet h => exact Arr.set_logExt h
  | arrInsert h =>
    obtain ⟨_, addr, hp⟩ := Arr.insert_plain h
    exact (toStorable_valStep T addr _ cx).logExt.trans (.of_plain hp)
  | arrRemove h => exact .of_plain (Arr.remove_plain h).2
  | arrPop a =>
    obtain ⟨E, h1, _⟩ := popIterate_log a.d a.root cx
    show LogExt cx (if a.isInlined = true then (ATree.popIterate a.d a.root cx).2.2
      else (ATree.popIterate a.d a.root cx).2.2.emit _)
    split
    · exact ⟨E, h1⟩
    · exact LogExt.trans ⟨E, h1⟩ (LogExt.emit _ _)
  | arrSetType a ty =>
    show LogExt cx (if a.isInlined = true then cx else cx.emit _)
    split
    · exact LogExt.refl _
    · exact LogExt.emit _ _
  | mapSet h => exact OMap.set_logExt h
  | mapRemove h => exact .of_plain (E2EM.omap_remove_plain h)
  | mapPop m =>
    obtain ⟨E, h1, _⟩ := mtree_pop_log m.d m.root cx
    show LogExt cx (if m.isInlined = true then (MTree.popIterate m.d m.root cx).2.2
      else (MTree.popIterate m.d m.root cx).2.2.emit _)
    split
    · exact ⟨E, h1⟩
    · exact LogExt.trans ⟨E, h1⟩ (LogExt.emit _ _)
  | mapSetType m ty =>
    show LogExt cx (if m.isInlined = true then cx else cx.emit _)
    split
    · exact LogExt.refl _
    · exact LogExt.emit _ _
  | form cx _ _ => exact LogExt.emit _ _

namespace World

theorem EStep.logExt {k : StepKind} {w : World} {cx : Ctx} {w' : World} {cx' : Ctx} (h : EStep k w cx w' cx') :
    LogExt cx cx' := by
  cases h with
  | cont _ _ h => exact h.logExt
  | newArr w cx ty => exact LogExt.trans ⟨[.alloc w.addr _], rfl⟩ (LogExt.emit _ _)
  | newMap w cx ty seed => exact LogExt.trans ⟨[.alloc w.addr _], rfl⟩ (LogExt.emit _ _)
  | _ => exact LogExt.refl _

theorem Steps.logExt {K : StepKind → Prop} {w : World} {cx : Ctx} {w' : World} {cx' : Ctx}
    (h : Steps K w cx w' cx') : LogExt cx cx' :=
  h.lift (R := fun _ c _ c' => LogExt c c') (fun _ c => LogExt.refl c) LogExt.trans (fun _ h => h.logExt)

theorem notifyParent_logExt {fuel : Nat} {w : World} {x : SlabID} {cx : Ctx} {w' : World} {cx' : Ctx}
    (h : notifyParent fuel w x cx = .ok (w', cx')) : LogExt cx cx' :=
  (notifyParent_steps h).logExt

end World
end Atree

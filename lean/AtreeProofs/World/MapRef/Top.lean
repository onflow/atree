import AtreeProofs.Map.MapOps
import AtreeProofs.Map.Example
/-
  Non-vacuity of `OMap.set_spec_ref`: a reference value stored in the concrete map `MapExample.run`.
-/
namespace Atree
open Gen

namespace MapRefExample
open MapExample

/-- a value of 19 bytes referring to the slab `⟨1, 7⟩` (a child container) -/
def refVal : Elem := ⟨19, .ref ⟨1, 7⟩⟩

theorem refVal_ok (n : Nat) : ValueOkR 256 (key n).size refVal :=
  ⟨(by decide : 1 ≤ 19), Or.inr (by decide : 19 ≤ maxInlineMapValue 256 10)⟩

/-- `refVal` is not a `ValueOkM` value: `OMap.set_spec` does not apply to it -/
example : ¬ ValueOkM refVal := by rintro ⟨_, n, hn⟩; cases hn

/-- the theorem applies as it is -/
example := OMap.set_spec_ref legal256 run_good.cfgok run_good.inv (key_ok 312) (refVal_ok 312) run.2

/-- `set` of a reference succeeds on the concrete map (overwriting inside the external collision group
    under digest 3, and inserting a new key under the free digest 4), with all of `OSetPost`, and the
    reference itself is then in the map -/
theorem set_ref_example (n : Nat)
    (hrun : (run.1.set cfg2 (key n) refVal run.2).toOption.isSome = true) :
    ∃ old m' c', run.1.set cfg2 (key n) refVal run.2 = .ok (old, m', c') ∧
      OSetPost 256 D2 cfg2 run.1 m' (key n) refVal old run.2 c' ∧ (key n, refVal) ∈ m'.toList := by
  have hs := OMap.set_spec_ref legal256 run_good.cfgok run_good.inv (key_ok n) (refVal_ok n) run.2
  have hnl : ¬ TLimited cfg2 run.1.d run.1.root (key n) := by
    intro hl
    rw [hs.1 hl] at hrun
    exact absurd hrun (by decide)
  obtain ⟨old, m', c', heq, hp⟩ := hs.2 hnl
  exact ⟨old, m', c', heq, hp, hp.mem_ref ⟨1, 7⟩ rfl⟩

example := set_ref_example 312 (by decide)
example := set_ref_example 431 (by decide)

end MapRefExample

end Atree

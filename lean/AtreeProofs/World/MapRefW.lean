import AtreeProofs.Map.TreeTop
import AtreeProofs.WorldOk
import AtreeProofs.Map.MapOps
/-
  `MapOk`: a map in either form (standalone under `MapInv`, inlined single-slab root under `MapInvInl`)
  whose values may be references; `ContOk` (WorldOk) of a map unfolds to it (`contOk_map`).  `get` reads
  the dictionary; `set` / `remove` have the zipper effects `SetEffect` / `RemEffect` on the pair list and
  keep the form, the root ID and the invariant (`MapOk.set_succeeds`, `remove_succeeds`; the refusals `set_limited`,
  `remove_absent`).  As for arrays, an inlined root needs room (`OMap.set` / `remove` test `isFull`
  whatever the form of the root).
-/
namespace Atree
open Gen

variable {T : Nat} {r : Nat} {D : DigestFn (r + 1)} {cfg : MCfg}

/-- a map in either form -/
def MapOk (T : Nat) {r : Nat} (D : DigestFn (r + 1)) (m : OMap r) (ctr : Nat) : Prop :=
  (m.isInlined = false → MapInv T D m ∧ MapCtrOk m ctr) ∧ (m.isInlined = true → MapInvInl T D m ctr)

theorem contOk_map (T : Nat) (D : DigestFn 4) (ctr : Nat) (m : OMap 3) :
    ContOk T D ctr (.map m) ↔ MapOk T D m ctr := Iff.rfl

theorem MapCtrOk.mono {m : OMap r} {ctr ctr' : Nat} (h : MapCtrOk m ctr) (hc : ctr ≤ ctr') : MapCtrOk m ctr' :=
  fun id hid ha => Nat.le_trans (h id hid ha) hc

/-- the single root slab of an inlined map with `cnt` entries, clause by clause (`MapInvInl` says this of
    `m = ⟨0, s, ty, cnt, seed⟩`) -/
structure InlMSlab (T : Nat) (D : DigestFn (r + 1)) (s : MDataSlab r) (cnt ctr : Nat) : Prop where
  root : s.root = true
  inlined : s.inlined = true
  next : s.next = SlabID.undef
  elems_inv : ElemsInv T (r + 1) D (r + 1) 0 [] s.elems
  size_eq : s.hdr.size = inlinedMapDataSlabPrefixSize + s.elems.size
  firstKey_eq : s.hdr.firstKey = s.elems.firstKey
  count_eq : cnt = (MTree.toList 0 s).length
  ids_le : ∀ id ∈ CtxOk.mapSlabIds 0 s, id.addr = s.hdr.id.addr → id.idx ≤ ctr

theorem MapInvInl.slab {m : OMap r} {ctr : Nat} (h : MapInvInl T D m ctr) :
    ∃ s ty cnt seed, m = ⟨0, s, ty, cnt, seed⟩ ∧ InlMSlab T D s cnt ctr := by
  obtain ⟨s, ty, cnt, seed, rfl, h1, h2, h3, h4, h5, h6, h7, h8⟩ := h
  exact ⟨s, ty, cnt, seed, rfl, h1, h2, h3, h4, h5, h6, h7, h8⟩

theorem MapInvInl.mono {m : OMap r} {ctr ctr' : Nat} (h : MapInvInl T D m ctr) (hc : ctr ≤ ctr') :
    MapInvInl T D m ctr' := by
  obtain ⟨s, ty, cnt, seed, rfl, h1, h2, h3, h4, h5, h6, h7, h8⟩ := h
  exact ⟨s, ty, cnt, seed, rfl, h1, h2, h3, h4, h5, h6, h7, fun id hid ha => Nat.le_trans (h8 id hid ha) hc⟩

theorem MapInvInl.isInlined {m : OMap r} {ctr : Nat} (h : MapInvInl T D m ctr) : m.isInlined = true := by
  obtain ⟨s, ty, cnt, seed, rfl, S⟩ := h.slab
  exact S.inlined

theorem MapOk.mono {m : OMap r} {ctr ctr' : Nat} (h : MapOk T D m ctr) (hc : ctr ≤ ctr') : MapOk T D m ctr' :=
  ⟨fun hi => ⟨(h.1 hi).1, (h.1 hi).2.mono hc⟩, fun hi => (h.2 hi).mono hc⟩

theorem MapOk.of_inv {m : OMap r} {ctr : Nat} (h : MapInv T D m) (hc : MapCtrOk m ctr) : MapOk T D m ctr :=
  ⟨fun _ => ⟨h, hc⟩, fun hi => by rw [h.standalone] at hi; cases hi⟩

theorem MapOk.of_inl {m : OMap r} {ctr : Nat} (h : MapInvInl T D m ctr) : MapOk T D m ctr :=
  ⟨fun hi => (by rw [h.isInlined] at hi; cases hi), fun _ => h⟩

/-- the root slab of an inlined map, as a loose data slab -/
theorem MapInvInl.loose {s : MDataSlab r} {ty cnt seed ctr : Nat} (h : MapInvInl T D ⟨0, s, ty, cnt, seed⟩ ctr) :
    MDataLoose T D true s ∧ s.inlined = true ∧ s.next = SlabID.undef ∧ cnt = (MTree.toList 0 s).length ∧
    (∀ id ∈ CtxOk.mapSlabIds 0 s, id.addr = s.hdr.id.addr → id.idx ≤ ctr) := by
  obtain ⟨s0, ty0, cnt0, seed0, heq, h1, h2, h3, h4, h5, h6, h7, h8⟩ := h
  cases heq
  refine ⟨⟨h4, ?_, h6, h1, fun _ => rfl⟩, h2, h3, h7, h8⟩
  rw [h5]; simp [MDataSlab.prefixSize, h2]

theorem MapInvInl.of_loose {s : MDataSlab r} {ty cnt seed ctr : Nat} (hl : MDataLoose T D true s)
    (h2 : s.inlined = true) (h3 : s.next = SlabID.undef) (h7 : cnt = (MTree.toList 0 s).length)
    (h8 : ∀ id ∈ CtxOk.mapSlabIds 0 s, id.addr = s.hdr.id.addr → id.idx ≤ ctr) :
    MapInvInl T D ⟨0, s, ty, cnt, seed⟩ ctr := by
  refine ⟨s, ty, cnt, seed, rfl, hl.root_eq, h2, h3, hl.elems_inv, ?_, hl.first_eq, h7, h8⟩
  rw [hl.size_eq]; simp [MDataSlab.prefixSize, h2]

theorem MapOk.keys_ok {m : OMap r} {ctr : Nat} (h : MapOk T D m ctr) : ∀ p ∈ m.toList, KeyOk T (r + 1) D p.1 := by
  cases hi : m.isInlined
  · exact (h.1 hi).1.allKeyOk
  · obtain ⟨s, ty, cnt, seed, rfl, _⟩ := h.2 hi
    have := (MapInvInl.loose (h.2 hi)).1
    intro p hp
    exact (this.pairs_ok p hp).1

theorem MapOk.distinct {m : OMap r} {ctr : Nat} (h : MapOk T D m ctr) : KeysDistinct m.toList := by
  cases hi : m.isInlined
  · exact (h.1 hi).1.distinct
  · obtain ⟨s, ty, cnt, seed, rfl, _⟩ := h.2 hi
    exact (MapInvInl.loose (h.2 hi)).1.distinct

theorem MapOk.count_eq {m : OMap r} {ctr : Nat} (h : MapOk T D m ctr) : m.count = m.toList.length := by
  cases hi : m.isInlined
  · exact (h.1 hi).1.count_eq
  · obtain ⟨s, ty, cnt, seed, rfl, _⟩ := h.2 hi
    obtain ⟨_, _, _, hcnt, _⟩ := MapInvInl.loose (h.2 hi)
    exact hcnt

theorem MapOk.rootID_le {m : OMap r} {ctr : Nat} (h : MapOk T D m ctr) : m.rootID.idx ≤ ctr := by
  cases hi : m.isInlined
  · obtain ⟨d, root, ty, cnt, seed⟩ := m
    have := (h.1 hi).2
    refine this _ ?_ rfl
    cases d with
    | zero => exact List.mem_cons_self
    | succ d => exact List.mem_cons_self
  · obtain ⟨s, ty, cnt, seed, rfl, _⟩ := h.2 hi
    obtain ⟨_, _, _, _, hids⟩ := MapInvInl.loose (h.2 hi)
    exact hids _ (by rw [mapSlabIds_zero]; exact List.mem_cons_self) rfl

theorem MapOk.get_spec (hT : legalThreshold T = true) {m : OMap r} {ctr : Nat} (h : MapOk T D m ctr)
    (hcfg : CfgOk cfg T m) {k : MKey} (hk : KeyOk T (r + 1) D k) :
    (∀ v, (k, v) ∈ m.toList → m.get cfg k = .ok (k, v)) ∧
    ((∀ p ∈ m.toList, p.1 ≠ k) → m.get cfg k = .error .keyNotFound) := by
  have hc : CfgFor cfg T (r + 1) := ⟨hcfg.1, hcfg.2.1⟩
  cases hi : m.isInlined
  · exact MTree.get_spec hT hc m.d true m.root (h.1 hi).1.sinv hk
  · obtain ⟨s, ty, cnt, seed, rfl, _⟩ := h.2 hi
    exact MDataSlab.get_spec hT hc (MapInvInl.loose (h.2 hi)).1 hk

theorem MapOk.get_ok (hT : legalThreshold T = true) {m : OMap r} {ctr : Nat} (h : MapOk T D m ctr)
    (hcfg : CfgOk cfg T m) {k : MKey} (hk : KeyOk T (r + 1) D k) {k' : MKey} {el : Elem}
    (hg : m.get cfg k = .ok (k', el)) : k' = k ∧ (k, el) ∈ m.toList := by
  obtain ⟨g1, g2⟩ := h.get_spec hT hcfg hk
  by_cases hex : ∃ v, (k, v) ∈ m.toList
  · obtain ⟨v, hv⟩ := hex
    rw [g1 v hv] at hg
    cases hg
    exact ⟨rfl, hv⟩
  · have : ∀ p ∈ m.toList, p.1 ≠ k := by
      intro p hp he
      exact hex ⟨p.2, by rw [← he]; exact hp⟩
    rw [g2 this] at hg; cases hg

/-- An inlined root after a step of its slab that kept the slab invariant, the ID, the leaf chain and the flag
    and grew the slab by at most one entry (the common fields of `TSetPost` / `TRemPost`): with room for
    one entry the new root does not split and is a valid inlined root again. -/
theorem MapInvInl.step {s t' : MDataSlab r} {ty cnt cnt' seed : Nat} {c c' : Ctx}
    (hinv : MapInvInl T D ⟨0, s, ty, cnt, seed⟩ c.ctr) (hroom : s.hdr.size + maxEntry T ≤ maxThr T)
    (sinv : MDataLoose T D true t') (size_le : (MTree.hdr 0 t').size ≤ s.hdr.size + maxEntry T)
    (ctr : c.ctr ≤ c'.ctr) (ids : ∀ id ∈ CtxOk.mapSlabIds 0 t', id ∈ CtxOk.mapSlabIds 0 s ∨ id.idx ≤ c'.ctr)
    (id_eq : (MTree.hdr 0 t').id = (MTree.hdr 0 s).id) (leaves : LeafRel (MTree.leaves 0 s) (MTree.leaves 0 t'))
    (inl : treeInl 0 t' = treeInl 0 s)
    (hcnt' : cnt = (MTree.toList 0 s).length → cnt' = (MTree.toList 0 t').length) :
    ¬ MTree.isFull T 0 t' = true ∧ MapInvInl T D ⟨0, t', ty, cnt', seed⟩ c'.ctr ∧ t'.inlined = true := by
  obtain ⟨_, hi2, hnext, hcnt, hids⟩ := MapInvInl.loose hinv
  have hinl' : t'.inlined = true := by
    simp only [treeInl] at inl
    rw [inl]; exact hi2
  have hnext' : t'.next = SlabID.undef := by
    have := leaves.2.2.2 SlabID.undef (by simp only [MTree.leaves, ChainTo]; exact hnext)
    simpa only [MTree.leaves, ChainTo] using this
  refine ⟨fun hf => ?_, MapInvInl.of_loose sinv hinl' hnext' (hcnt' hcnt) ?_, hinl'⟩
  · have := (mtree_isFull_iff T 0 t').mp hf
    omega
  · intro id hid ha
    rcases ids id hid with h' | h'
    · exact Nat.le_trans (hids id h' (ha.trans (congrArg SlabID.addr id_eq))) ctr
    · exact h'

/-- `OMap.set` on a map in either form, unless the collision limit refuses the key succeeds, and what it returns -/
theorem MapOk.set_succeeds (hT : legalThreshold T = true) {m : OMap r} {c : Ctx} (h : MapOk T D m c.ctr)
    (hcfg : CfgOk cfg T m) {k : MKey} (hk : KeyOk T (r + 1) D k) {v : Elem} (hv : ValueOkR T k.size v)
    (hroom : m.isInlined = true → m.rootHdr.size + maxEntry T ≤ maxThr T)
    (hnl : ¬ TLimited cfg m.d m.root k) :
    ∃ old m' c', m.set cfg k v c = .ok (old, m', c') ∧
      SetEffect m.toList m'.toList k (storedValue cfg k v c) old ∧ MapOk T D m' c'.ctr ∧
      m'.isInlined = m.isInlined ∧ m'.rootID = m.rootID ∧ c.ctr ≤ c'.ctr ∧
      (m.isInlined = true → m'.rootHdr.size ≤ m.rootHdr.size + maxEntry T) := by
  have hc : CfgFor cfg T (r + 1) := ⟨hcfg.1, hcfg.2.1⟩
  cases hinl : m.isInlined
  · obtain ⟨hinv, hctr⟩ := h.1 hinl
    obtain ⟨old2, m2, c2, heq, hp, hcc⟩ := (OMap.set_spec_refC hT hcfg hinv hk hv c).2 hnl
    exact ⟨old2, m2, c2, heq, hp.eff, MapOk.of_inv hp.inv (hp.ctx hctr), hp.inv.standalone, hp.rootID, hcc,
      fun hh => by cases hh⟩
  · obtain ⟨s, ty, cnt, seed, rfl, _⟩ := h.2 hinl
    have hinv := h.2 hinl
    have hloose := (MapInvInl.loose hinv).1
    have hroom' : s.hdr.size + maxEntry T ≤ maxThr T := hroom hinl
    obtain ⟨old2, t', c1, heq, hp⟩ := (set_spec_zero_ref hT hc s hloose hk hv c).2 hnl
    obtain ⟨hnf, hinv', hinl'⟩ := MapInvInl.step (ty := ty) (seed := seed) (cnt' := if old2.isNone then cnt + 1 else cnt)
      hinv hroom' hp.sinv hp.size_le hp.ctr hp.ids hp.id_eq hp.leaves hp.inl (fun hcnt => by
        rw [hp.eff.length]
        cases old2 <;> simp [hcnt])
    have hfix := OMap.rootFix_single t' ty (if old2.isNone then cnt + 1 else cnt) seed c1 (hcfg.1 ▸ hnf)
    exact ⟨_, _, _, OMap.set_ok_iff.mpr ⟨k, t', c1, heq, hfix⟩, hp.eff,
      MapOk.of_inl hinv', hinl', hp.id_eq, hp.ctr, fun _ => hp.size_le⟩

/-- the collision limit refuses the key -/
theorem MapOk.set_limited (hT : legalThreshold T = true) {m : OMap r} {c : Ctx} (h : MapOk T D m c.ctr)
    (hcfg : CfgOk cfg T m) {k : MKey} (hk : KeyOk T (r + 1) D k) {v : Elem} (hv : ValueOkR T k.size v)
    (hl : TLimited cfg m.d m.root k) : m.set cfg k v c = .error .collisionLimit := by
  have hc : CfgFor cfg T (r + 1) := ⟨hcfg.1, hcfg.2.1⟩
  cases hinl : m.isInlined
  · exact (OMap.set_spec_refC hT hcfg (h.1 hinl).1 hk hv c).1 hl
  · obtain ⟨s, ty, cnt, seed, rfl, _⟩ := h.2 hinl
    obtain ⟨hloose, _, _, _, _⟩ := MapInvInl.loose (h.2 hinl)
    have s1 := (set_spec_zero_ref hT hc s hloose hk hv c).1 hl
    simp only [OMap.set, s1, bind, Except.bind]

theorem MapOk.set_ok (hT : legalThreshold T = true) {m : OMap r} {c : Ctx} (h : MapOk T D m c.ctr)
    (hcfg : CfgOk cfg T m) {k : MKey} (hk : KeyOk T (r + 1) D k) {v : Elem} (hv : ValueOkR T k.size v)
    (hroom : m.isInlined = true → m.rootHdr.size + maxEntry T ≤ maxThr T)
    {old : Option Elem} {m' : OMap r} {c' : Ctx} (hr : m.set cfg k v c = .ok (old, m', c')) :
    SetEffect m.toList m'.toList k (storedValue cfg k v c) old ∧ MapOk T D m' c'.ctr ∧
      m'.isInlined = m.isInlined ∧ m'.rootID = m.rootID ∧ c.ctr ≤ c'.ctr ∧
      (m.isInlined = true → m'.rootHdr.size ≤ m.rootHdr.size + maxEntry T) := by
  by_cases hl : TLimited cfg m.d m.root k
  · rw [h.set_limited hT hcfg hk hv hl] at hr; cases hr
  · obtain ⟨old2, m2, c2, heq, g⟩ := h.set_succeeds hT hcfg hk hv hroom hl
    rw [heq] at hr; cases hr
    exact g

/-- `OMap.remove` of a key that is present, on a map in either form succeeds, and what it returns -/
theorem MapOk.remove_succeeds (hT : legalThreshold T = true) {m : OMap r} {c : Ctx} (h : MapOk T D m c.ctr)
    (hcfg : CfgOk cfg T m) {k : MKey} (hk : KeyOk T (r + 1) D k)
    (hroom : m.isInlined = true → m.rootHdr.size + maxEntry T ≤ maxThr T)
    {v : Elem} (hmem : (k, v) ∈ m.toList) :
    ∃ m' c', m.remove cfg k c = .ok (k, v, m', c') ∧ RemEffect m.toList m'.toList k v ∧ MapOk T D m' c'.ctr ∧
      m'.isInlined = m.isInlined ∧ m'.rootID = m.rootID ∧ c.ctr ≤ c'.ctr ∧
      (m.isInlined = true → m'.rootHdr.size ≤ m.rootHdr.size + maxEntry T) := by
  have hc : CfgFor cfg T (r + 1) := ⟨hcfg.1, hcfg.2.1⟩
  cases hinl : m.isInlined
  · obtain ⟨hinv, hctr⟩ := h.1 hinl
    obtain ⟨m2, c2, heq, hp, hcc⟩ := (OMap.remove_specC hT hcfg hinv hk c hctr).2 v hmem
    exact ⟨m2, c2, heq, hp.eff, MapOk.of_inv hp.inv hp.ctx, hp.inv.standalone, hp.rootID, hcc,
      fun hh => by cases hh⟩
  · obtain ⟨s, ty, cnt, seed, rfl, _⟩ := h.2 hinl
    have hinv := h.2 hinl
    have hloose := (MapInvInl.loose hinv).1
    have hroom' : s.hdr.size + maxEntry T ≤ maxThr T := hroom hinl
    obtain ⟨t', c1, heq, hp⟩ := (remove_spec_zero hT hc s hloose hk c).2 v hmem
    obtain ⟨hnf, hinv', hinl'⟩ := MapInvInl.step (ty := ty) (seed := seed) (cnt' := cnt - 1)
      hinv hroom' hp.sinv hp.size_le hp.ctr hp.ids hp.id_eq hp.leaves hp.inl (fun hcnt => by
        obtain ⟨A, B, hA, hB⟩ := hp.eff
        rw [hB, hcnt, hA]; simp)
    have hfix := OMap.rootFix_single t' ty (cnt - 1) seed c1 (hcfg.1 ▸ hnf)
    exact ⟨_, _, OMap.remove_ok_iff.mpr ⟨t', c1, heq, hfix⟩, hp.eff,
      MapOk.of_inl hinv', hinl', hp.id_eq, hp.ctr, fun _ => hp.size_le⟩

theorem MapOk.remove_absent (hT : legalThreshold T = true) {m : OMap r} {c : Ctx} (h : MapOk T D m c.ctr)
    (hcfg : CfgOk cfg T m) {k : MKey} (hk : KeyOk T (r + 1) D k)
    (habs : ∀ p ∈ m.toList, p.1 ≠ k) : m.remove cfg k c = .error .keyNotFound := by
  have hc : CfgFor cfg T (r + 1) := ⟨hcfg.1, hcfg.2.1⟩
  cases hinl : m.isInlined
  · exact (OMap.remove_specC hT hcfg (h.1 hinl).1 hk c (h.1 hinl).2).1 habs
  · obtain ⟨s, ty, cnt, seed, rfl, _⟩ := h.2 hinl
    obtain ⟨hloose, _, _, _, _⟩ := MapInvInl.loose (h.2 hinl)
    have s1 := (remove_spec_zero hT hc s hloose hk c).1 habs
    simp only [OMap.remove, s1, bind, Except.bind]

theorem MapOk.remove_ok (hT : legalThreshold T = true) {m : OMap r} {c : Ctx} (h : MapOk T D m c.ctr)
    (hcfg : CfgOk cfg T m) {k : MKey} (hk : KeyOk T (r + 1) D k)
    (hroom : m.isInlined = true → m.rootHdr.size + maxEntry T ≤ maxThr T)
    {rk : MKey} {rv : Elem} {m' : OMap r} {c' : Ctx} (hr : m.remove cfg k c = .ok (rk, rv, m', c')) :
    rk = k ∧ RemEffect m.toList m'.toList k rv ∧ MapOk T D m' c'.ctr ∧
      m'.isInlined = m.isInlined ∧ m'.rootID = m.rootID ∧ c.ctr ≤ c'.ctr ∧
      (m.isInlined = true → m'.rootHdr.size ≤ m.rootHdr.size + maxEntry T) := by
  by_cases hex : ∃ v, (k, v) ∈ m.toList
  · obtain ⟨v, hv⟩ := hex
    obtain ⟨m2, c2, heq, g⟩ := h.remove_succeeds hT hcfg hk hroom hv
    rw [heq] at hr; cases hr
    exact ⟨rfl, g⟩
  · rw [h.remove_absent hT hcfg hk (fun p hp he => hex ⟨p.2, by rw [← he]; exact hp⟩)] at hr; cases hr

end Atree

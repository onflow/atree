import AtreeProofs.World.Frame
/-
  `mutableElementIndex` stays correct (`MutIdxOk`) through the mutual block and through
  `arrInsert`, given the list-level behaviour of `Arr.set` / `Arr.insert` / `Arr.get` on the
  arrays that satisfy some invariant `I` (kept by these operations and by inline / un-inline).
  Key fact: a notification only ever overwrites a slot holding a reference to `x` by another
  reference to `x`, so the PAYLOADS of every array are unchanged by the whole mutual block.
  `ArrFacts T I` is a hypothesis throughout: no instance is proved, Props/C10 and C10Pop assemble it from
  their own premises; under `WorldOk` the same conclusions come from the invariant (Props/C10W.lean).
-/
namespace Atree
open Gen

/-- list-level facts about the array operations, for the arrays satisfying `I` -/
structure ArrFacts (T : Nat) (I : Arr → Prop) : Prop where
  set : ∀ (a a' : Arr) (c c' : Ctx) (j : Nat) (e old : Elem), I a → a.set T j e c = .ok (old, a', c') →
    (∃ r, e.pay = .ref r) → I a' ∧ a'.toList = a.toList.set j e
  insert : ∀ (a a' : Arr) (c c' : Ctx) (j : Nat) (e : Elem), I a → a.insert T j e c = .ok (a', c') →
    I a' ∧ j ≤ a.toList.length ∧ ∃ e', a'.toList = a.toList.insertIdx j e' ∧ (∀ r, e.pay = .ref r → e' = e)
  get : ∀ (a : Arr) (j : Nat) (el : Elem), I a → a.get j = .ok el → a.toList[j]? = some el
  form : ∀ (a a' : Arr), a'.toList = a.toList → a'.rootID = a.rootID → (∀ i, a'.get i = a.get i) → I a → I a'

namespace World

/-- every array of the world satisfies `I` -/
def AllI (I : Arr → Prop) (w : World) : Prop := ∀ q a, w.cont? q = some (.arr a) → I a

/-- every array of `w` is still an array in `w'`, with the same payloads at the same positions -/
def PayFrame (w w' : World) : Prop :=
  ∀ q a, w.cont? q = some (.arr a) →
    ∃ a', w'.cont? q = some (.arr a') ∧ a'.toList.map (·.pay) = a.toList.map (·.pay)

theorem PayFrame.refl (w : World) : PayFrame w w := fun _ a h => ⟨a, h, rfl⟩

theorem PayFrame.trans {w1 w2 w3 : World} (h12 : PayFrame w1 w2) (h23 : PayFrame w2 w3) : PayFrame w1 w3 := by
  intro q a h
  obtain ⟨a2, h2, e2⟩ := h12 q a h
  obtain ⟨a3, h3, e3⟩ := h23 q a2 h2
  exact ⟨a3, h3, e3.trans e2⟩

theorem PayFrame.of_conts {w w' : World} (h : ∀ q, w'.cont? q = w.cont? q) : PayFrame w w' :=
  fun q a hq => ⟨a, by rw [h q]; exact hq, rfl⟩

theorem mutIdxOk_iff (w : World) : MutIdxOk w ↔
    ∀ p a, w.cont? p = some (.arr a) → ∀ x i, AList.find? (w.idxOf p) x = some i →
      (a.toList.map (·.pay))[i]? = some (.ref x) := by
  constructor
  · intro h p a hp x i hx
    obtain ⟨e, he, hpay⟩ := h p a hp x i hx
    rw [List.getElem?_map, he, Option.map_some, hpay]
  · intro h p a hp x i hx
    have := h p a hp x i hx
    rw [List.getElem?_map] at this
    cases he : a.toList[i]? with
    | none => rw [he] at this; cases this
    | some e => rw [he] at this; simp only [Option.map_some, Option.some.injEq] at this; exact ⟨e, rfl, this⟩

/-- the combined invariant -/
def MInv (I : Arr → Prop) (w : World) : Prop := AllI I w ∧ MutIdxOk w

/-- replacing a container by one holding the same data -/
theorem MInv.setCont_same {T : Nat} {I : Arr → Prop} (F : ArrFacts T I) {w : World} (h : MInv I w)
    {x : SlabID} {c c' : Cont} (hc : w.cont? x = some c) (hs : Cont.SameData c c') :
    MInv I (w.setCont x c') ∧ PayFrame w (w.setCont x c') := by
  refine ⟨⟨?_, ?_⟩, ?_⟩
  · intro q a hq
    rw [cont?_setCont] at hq
    split at hq
    · rename_i hxq; subst hxq
      cases hq
      cases c with
      | arr a0 =>
        obtain ⟨a1, h1, h2, h3, h4⟩ := hs.arr
        cases h1
        exact F.form a0 a h2 h3 h4 (h.1 x a0 hc)
      | map m => simp [Cont.SameData] at hs
    · exact h.1 q a hq
  · intro q a hq z i hz
    rw [cont?_setCont] at hq
    rw [idxOf_setCont] at hz
    split at hq
    · rename_i hxq; subst hxq
      cases hq
      cases c with
      | arr a0 =>
        obtain ⟨a1, h1, h2, _, _⟩ := hs.arr
        cases h1
        rw [h2]; exact h.2 x a0 hc z i hz
      | map m => simp [Cont.SameData] at hs
    · exact h.2 q a hq z i hz
  · intro q a hq
    by_cases hxq : x = q
    · subst hxq
      rw [hc] at hq; cases hq
      obtain ⟨a1, h1, h2, _, _⟩ := hs.arr
      exact ⟨a1, by rw [h1]; simp, by rw [h2]⟩
    · exact ⟨a, by rw [cont?_setCont, if_neg hxq]; exact hq, rfl⟩

theorem MInv.childStorable {T : Nat} {I : Arr → Prop} (F : ArrFacts T I) {w : World} (h : MInv I w)
    {x : SlabID} {wrap lim : Nat} {cx : Ctx} {e : Elem} {w' : World} {cx' : Ctx}
    (hst : w.childStorable x wrap lim cx = .ok (e, w', cx')) :
    MInv I w' ∧ PayFrame w w' ∧ w'.mutIdx = w.mutIdx ∧ w'.T = w.T ∧ e.pay = .ref x := by
  obtain ⟨c, hc⟩ := childStorable_some hst
  obtain ⟨c', hs, _, he, hcase⟩ := childStorable_ok hc hst
  rcases hcase with ⟨_, _, h3, _⟩ | ⟨_, h3, _⟩
  · subst h3; exact ⟨h, PayFrame.refl _, rfl, rfl, by rw [he]⟩
  · subst h3
    obtain ⟨m1, m2⟩ := h.setCont_same F hc hs
    exact ⟨m1, m2, rfl, rfl, by rw [he]⟩

theorem MInv.storableOf {T : Nat} {I : Arr → Prop} (F : ArrFacts T I) {w : World} (h : MInv I w)
    {v : WVal} {lim : Nat} {cx : Ctx} {e : Elem} {w' : World} {cx' : Ctx}
    (hst : w.storableOf v lim cx = .ok (e, w', cx')) :
    MInv I w' ∧ PayFrame w w' ∧ w'.mutIdx = w.mutIdx ∧ w'.T = w.T ∧ (∀ x wrap, v = .child x wrap → e.pay = .ref x) := by
  cases v with
  | plain e0 =>
    simp only [World.storableOf] at hst; cases hst
    exact ⟨h, PayFrame.refl _, rfl, rfl, fun _ _ hv => by cases hv⟩
  | child x wrap =>
    obtain ⟨m1, m2, m3, m4, m5⟩ := h.childStorable F hst
    exact ⟨m1, m2, m3, m4, fun _ _ hv => by cases hv; exact m5⟩

theorem MInv.of_same {I : Arr → Prop} {w w' : World} (h : MInv I w) (hc : ∀ q, w'.cont? q = w.cont? q)
    (hm : w'.mutIdx = w.mutIdx) : MInv I w' := by
  refine ⟨fun q a hq => h.1 q a (by rw [← hc q]; exact hq), fun q a hq z i hz => ?_⟩
  have : w'.idxOf q = w.idxOf q := idxOf_congr hm q
  rw [this] at hz
  exact h.2 q a (by rw [← hc q]; exact hq) z i hz

/-- writing a reference to `x` over a reference to `x` in slot `i` of the array `p` -/
theorem MInv.setSlot {T : Nat} {I : Arr → Prop} (F : ArrFacts T I) {w w1 : World} (h : MInv I w) (h1 : MInv I w1)
    (hm : w1.mutIdx = w.mutIdx)
    {p x : SlabID} {a a' : Arr} {i : Nat} {el e old : Elem} {c c' : Ctx}
    (hpa : w.cont? p = some (.arr a)) (hget : a.get i = .ok el) (hel : el.pay = .ref x) (he : e.pay = .ref x)
    (hset : a.set T i e c = .ok (old, a', c')) :
    MInv I (w1.setCont p (.arr a')) ∧ a'.toList.map (·.pay) = a.toList.map (·.pay) := by
  have hIa := h.1 p a hpa
  obtain ⟨hIa', hl⟩ := F.set a a' c c' i e old hIa hset ⟨x, he⟩
  have hgi := F.get a i el hIa hget
  have hlt : i < a.toList.length := by
    rcases List.getElem?_eq_some_iff.mp hgi with ⟨h, _⟩; exact h
  have hpay : a'.toList.map (·.pay) = a.toList.map (·.pay) := by
    rw [hl, List.map_set]
    apply List.ext_getElem?
    intro j
    rw [List.getElem?_set]
    split
    · rename_i hij; subst hij
      rw [List.getElem?_map, hgi]
      simp [he, hel, hlt]
    · rfl
  refine ⟨⟨?_, ?_⟩, hpay⟩
  · intro q b hq
    rw [cont?_setCont] at hq
    split at hq
    · cases hq; exact hIa'
    · exact h1.1 q b hq
  · rw [mutIdxOk_iff]
    intro q b hq z j hz
    rw [cont?_setCont] at hq
    rw [idxOf_setCont] at hz
    split at hq
    · rename_i hpq; subst hpq
      cases hq
      have : w1.idxOf p = w.idxOf p := idxOf_congr hm p
      rw [this] at hz
      rw [hpay]
      exact (mutIdxOk_iff w).mp h.2 p a hpa z j hz
    · exact (mutIdxOk_iff w1).mp h1.2 q b hq z j hz

/-- recording `x ↦ i` for an array `p` whose slot `i` holds a reference to `x` -/
theorem MInv.setCallbackArr {I : Arr → Prop} {w : World} (h : MInv I w) {p : SlabID} {i : Nat} {v : WVal}
    (hv : ∀ x wrap, v = .child x wrap → ∀ a, w.cont? p = some (.arr a) → (a.toList.map (·.pay))[i]? = some (.ref x)) :
    MInv I (w.setCallbackArr p i v) := by
  cases v with
  | plain e => exact h
  | child x wrap =>
    refine ⟨fun q a hq => h.1 q a hq, ?_⟩
    rw [mutIdxOk_iff]
    intro q a hq z j hz
    have hq' : w.cont? q = some (.arr a) := hq
    have hidx : (w.setCallbackArr p i (.child x wrap)).idxOf q =
        if p = q then AList.insert (w.idxOf p) x i else w.idxOf q := by
      simp only [World.setCallbackArr, World.idxOf, World.setIdx, AList.find?_insert]
      split <;> rfl
    rw [hidx] at hz
    split at hz
    · rename_i hpq; subst hpq
      rw [AList.find?_insert] at hz
      split at hz
      · rename_i hxz; subst hxz; cases hz
        exact hv x wrap rfl a hq'
      · exact (mutIdxOk_iff w).mp h.2 p a hq' z j hz
    · exact (mutIdxOk_iff w).mp h.2 q a hq' z j hz

/-- A notification keeps `MInv` and the payloads of every array (by induction along the chain: one
    link writes a reference to `y` over the reference to `y` in the slot of its parent) -/
theorem notify_mInv {T : Nat} {I : Arr → Prop} (F : ArrFacts T I) {fuel : Nat} {w : World} {y : SlabID} {cx : Ctx}
    {w' : World} {cx' : Ctx} (hT : w.T = T) (hinv : MInv I w) (h : notifyParent fuel w y cx = .ok (w', cx')) :
    MInv I w' ∧ PayFrame w w' ∧ w'.T = T := by
  refine notify_induction
    (M := fun w _ _ w' _ => w.T = T → MInv I w → MInv I w' ∧ PayFrame w w' ∧ w'.T = T)
    (fun _ _ hT hinv => ⟨hinv, PayFrame.refl _, hT⟩) (fun _ _ _ _ _ hT hinv => ⟨hinv, PayFrame.refl _, hT⟩)
    (fun _ _ _ _ hT hinv => ⟨hinv.of_same (fun _ => rfl) rfl, PayFrame.of_conts (fun _ => rfl), hT⟩)
    ?_ fuel h hT hinv
  intro w y cx hi c qc s el e w1 cx1 old qc' cx2 w3 cx3 _ _ _ hf hst hs _ _ ih hT hinv
  obtain ⟨hq, _, hget, hel⟩ := hf
  obtain ⟨m1, f1, hm1, hT1, hep⟩ := hinv.childStorable F hst
  cases qc with
  | arr a =>
    cases s with
    | key k => exact hs.elim
    | idx i =>
      cases qc' with
      | map m' => exact hs.elim
      | arr a' =>
        -- array parent
        obtain ⟨_, o, _, hset⟩ := hs
        rw [hT1, hT] at hset
        obtain ⟨m2, hpay⟩ := hinv.setSlot F m1 hm1 hq hget hel hep hset
        have f2 : PayFrame w1 (w1.setCont hi.parent (.arr a')) := by
          intro q b hb
          by_cases hpq : hi.parent = q
          · subst hpq
            obtain ⟨a1, ha1, hp1⟩ := f1 _ a hq
            rw [ha1] at hb; cases hb
            exact ⟨a', by simp, by rw [hpay, hp1]⟩
          · exact ⟨b, by rw [cont?_setCont, if_neg hpq]; exact hb, rfl⟩
        obtain ⟨m3, f3, hT3⟩ := ih (by rw [T_setCont, hT1, hT]) m2
        have f123 := f1.trans (f2.trans f3)
        refine ⟨m3.setCallbackArr ?_, f123.trans (PayFrame.of_conts (fun q => cont?_setCallbackArr _ _ _ _ _)),
          by rw [install, T_setCallbackArr, hT3]⟩
        intro x' wrap' hv b hb
        cases hv
        obtain ⟨a3, ha3, hp3⟩ := f123 _ a hq
        rw [ha3] at hb; cases hb
        rw [hp3, List.getElem?_map, F.get a i el (hinv.1 _ a hq) hget, Option.map_some, hel]
  | map m =>
    cases s with
    | idx i => exact hs.elim
    | key k =>
      cases qc' with
      | arr a' => exact hs.elim
      | map m' =>
        -- map parent: no array changes
        have hp1 : ∀ b, w1.cont? hi.parent ≠ some (.arr b) := by
          intro b hb
          have hsame := (storableOf_frame (v := .child y hi.wrap) hst).2.2.2.2.2 hi.parent
          rw [hq] at hsame
          obtain ⟨c1, hc1, hsd⟩ := hsame.get_some
          rw [hb] at hc1; cases hc1
          exact hsd.elim
        have m2 : MInv I (w1.setCont hi.parent (.map m')) := by
          refine ⟨fun q b hb => ?_, fun q b hb z j hz => ?_⟩ <;> rw [cont?_setCont] at hb <;> split at hb
          · cases hb
          · exact m1.1 q b hb
          · cases hb
          · exact m1.2 q b hb z j hz
        have f2 : PayFrame w1 (w1.setCont hi.parent (.map m')) := by
          intro q b hb
          by_cases hpq : hi.parent = q
          · subst hpq; exact absurd hb (hp1 b)
          · exact ⟨b, by rw [cont?_setCont, if_neg hpq]; exact hb, rfl⟩
        obtain ⟨m3, f3, hT3⟩ := ih (by rw [T_setCont, hT1, hT]) m2
        exact ⟨m3.of_same (fun q => cont?_setCallbackMap _ _ _ _ _) (mutIdx_setCallbackMap _ _ _ _),
          (f1.trans (f2.trans f3)).trans (PayFrame.of_conts (fun q => cont?_setCallbackMap _ _ _ _ _)),
          by rw [install, T_setCallbackMap, hT3]⟩

end World
end Atree

namespace Atree
open Gen
namespace World

theorem arrInsert_mInv {T : Nat} {I : Arr → Prop} (F : ArrFacts T I) {w : World} {p : SlabID} {i : Nat} {v : WVal}
    {cx : Ctx} {w' : World} {cx' : Ctx} (hT : w.T = T) (hinv : MInv I w)
    (h : w.arrInsert p i v cx = .ok (w', cx')) : MInv I w' := by
  obtain ⟨a, e, w1, cx1, a', cx2, _, w3, hpa, _, hst, hins, rfl, hnp, rfl⟩ := arrInsert_ok_iff.mp h
  obtain ⟨m1, f1, hm1, hT1, hep⟩ := hinv.storableOf F hst
  rw [hT1, hT] at hins
  obtain ⟨hIa', hle, e', hl, heq⟩ := F.insert a a' cx1 cx2 i e (hinv.1 p a hpa) hins
  have hidx1 : ∀ q, w1.idxOf q = w.idxOf q := idxOf_congr hm1
  -- the state at the notification
  have m2 : MInv I ((w1.setCont p (.arr a')).shiftIdx p (fun j => if j ≥ i then j + 1 else j)) := by
    refine ⟨?_, ?_⟩
    · intro q b hq
      rw [cont?_shiftIdx, cont?_setCont] at hq
      split at hq
      · cases hq; exact hIa'
      · exact m1.1 q b hq
    · rw [mutIdxOk_iff]
      intro q b hq z j hz
      rw [cont?_shiftIdx, cont?_setCont] at hq
      rw [idxOf_shiftIdx, idxOf_setCont, idxOf_setCont] at hz
      split at hq
      · rename_i hpq; subst hpq
        cases hq
        rw [if_pos rfl] at hz
        replace hz : (AList.find? (w1.idxOf p) z).map (fun j => if j ≥ i then j + 1 else j) = some j := by
          rw [← AList.find?_map_snd]; exact hz
        rw [hidx1] at hz
        cases hj0 : AList.find? (w.idxOf p) z with
        | none => rw [hj0] at hz; cases hz
        | some j0 =>
          rw [hj0] at hz
          simp only [Option.map_some, Option.some.injEq] at hz
          have h0 := (mutIdxOk_iff w).mp hinv.2 p a hpa z j0 hj0
          rw [List.getElem?_map] at h0 ⊢
          rw [hl, ← hz]
          by_cases hge : j0 ≥ i
          · rw [if_pos hge, List.getElem?_insertIdx_of_gt (by omega)]
            simpa using h0
          · rw [if_neg hge, List.getElem?_insertIdx_of_lt (by omega)]
            exact h0
      · rename_i hpq
        rw [if_neg hpq] at hz
        exact (mutIdxOk_iff w1).mp m1.2 q b hq z j hz
  obtain ⟨m3, f3, _⟩ := notify_mInv F (by rw [T_shiftIdx, T_setCont, hT1, hT]) m2 hnp
  refine m3.setCallbackArr ?_
  intro x wrap hv b hb
  have hex : e.pay = .ref x := hep x wrap hv
  obtain ⟨a3, ha3, hp3⟩ := f3 p a' (by simp)
  rw [ha3] at hb; cases hb
  rw [hp3, List.getElem?_map, hl, List.getElem?_insertIdx_self, if_pos hle, heq x hex]
  simp [hex]

end World
end Atree

import AtreeProofs.World.Notify
import AtreeProofs.World.HandleKeep
import AtreeProofs.World.Shape
/-
  The phases around the core operation of a mutation: the value phase (`prep_phase`: what
  `childStorable` on the unreferenced value leaves behind, `Prepared`), the notification of the
  ancestors (`notify_mutated`), and how `setCallbackWithChild` settles the child stored (`finish_value`).
-/
namespace Atree
open Gen

namespace World

variable {D : SlabID → DigestFn 4}

/-- the world after the value phase: the child about to be stored is pending (`O1`), ranked above
    `p` (`rank'`), in the form its slot asks for -/
structure Prepared (D : SlabID → DigestFn 4) (rank0 rank' : SlabID → Nat) (O1 : SlabID → Prop) (w w1 : World)
    (cx cx1 : Ctx) (p : SlabID) (lim : Nat) (v : Option WVal) (e : Option Elem) : Prop where
  ok : WorldOkGen D rank' none O1 w1 cx.ctr
  rankW : CRank rank' w
  sig : ContsSig w w1
  hT : w1.T = w.T
  addr : w1.addr = w.addr
  hinfo : w1.hinfo = w.hinfo
  idx : ∀ q, w1.idxOf q = w.idxOf q
  ctr : cx1.ctr = cx.ctr
  fit : ∀ e0, e = some e0 → 1 ≤ e0.size ∧ e0.size ≤ lim
  noval : v = none → e = none
  same : ∀ z, ¬ O1 z → w1.cont? z = w.cont? z
  notP : ¬ O1 p
  new : ∀ e0 x c, e = some e0 → e0.pay = .ref x → w1.cont? x = some c → (∀ q, ¬ Holds w1 q x) ∧ O1 x ∧
    rank' p < rank' x ∧ ∃ wrap, slabIDStorableSize + 2 * wrap ≤ lim ∧ e0.size = slotSize c wrap ∧
      c.isInlined = c.inlinable (lim - 2 * wrap)
  below : ∀ e0 r, e = some e0 → e0.pay = .ref r → r.idx ≤ cx1.ctr
  pend : ∀ z, O1 z → (∀ q, ¬ Holds w q z) ∧ rank' p < rank' z ∧
    ∃ e0 c1 wr, e = some e0 ∧ v = some (.child z wr) ∧ w1.cont? z = some c1 ∧ e0 = ⟨slotSize c1 wr, .ref z⟩
  pendE : ∀ e0 x, e = some e0 → e0.pay = .ref x → O1 x
  pendV : ∀ x wr, v = some (.child x wr) → O1 x
  plain : ∀ e0 ep, e = some e0 → v = some (.plain ep) → e0 = ep
  rankP : rank' p = rank0 p
  rankLe : ∀ z, rank0 z ≤ rank' z
  hand : HandleOk w p → HandleOk w1 p
  keep : ∀ E, HKeep E w w1

/-- The value phase.  Nothing is pending if there is no value or a plain one.  For a child container: a rank
    function with the child above `p` (`rank_insert`), `childStorable` gives the child the form the slot asks
    for (`childStorable_valid`), and the child, which nobody refers to, is pending (`step_childform`). -/
theorem prep_phase {w : World} {cx : Ctx} {rank0 : SlabID → Nat}
    (H0 : WorldOkGen D rank0 none (fun _ => False) w cx.ctr) {p : SlabID} {lim : Nat} (hlim : lim ≤ maxInlineArr w.T)
    {v : Option WVal} (hv : ∀ v0, v = some v0 → WValOk w p lim v0) {e : Option Elem} {w1 : World} {cx1 : Ctx}
    (hprep : Prep w cx lim v e w1 cx1) : ∃ rank' O1, Prepared D rank0 rank' O1 w w1 cx cx1 p lim v e := by
  have still : ∀ e : Option Elem, (∀ e0, e = some e0 → 1 ≤ e0.size ∧ e0.size ≤ lim) → (v = none → e = none) →
      (∀ e0 x, e = some e0 → e0.pay ≠ .ref x) → (∀ x wr, v ≠ some (.child x wr)) →
      (∀ e0 ep, e = some e0 → v = some (.plain ep) → e0 = ep) →
      Prepared D rank0 rank0 (fun _ => False) w w cx cx p lim v e := fun e hfit hnov hnoref hnochild hplain =>
    { ok := H0, rankW := H0.rank, sig := .refl _, hT := rfl, addr := rfl, hinfo := rfl, idx := fun _ => rfl,
      ctr := rfl, fit := hfit, noval := hnov, same := fun _ _ => rfl, notP := id,
      new := fun e0 x _ he hx => absurd hx (hnoref e0 x he), below := fun e0 r he hr => absurd hr (hnoref e0 r he),
      pend := fun _ h => h.elim, pendE := fun e0 x he hx => absurd hx (hnoref e0 x he),
      pendV := fun x wr h => absurd h (hnochild x wr), plain := hplain, rankP := rfl,
      rankLe := fun _ => Nat.le_refl _, hand := id, keep := fun _ => .refl _ _ }
  rcases v with _ | ep | ⟨x, wr⟩
  · obtain ⟨rfl, rfl, rfl⟩ := hprep
    exact ⟨rank0, _, still none (fun _ h => nomatch h) (fun _ => rfl) (fun _ _ h => nomatch h) (fun _ _ h => nomatch h)
      (fun _ _ h => nomatch h)⟩
  · obtain ⟨e0, rfl, hst⟩ := hprep
    cases hst
    obtain ⟨⟨h1, n, hn⟩, hsz⟩ := hv _ rfl
    exact ⟨rank0, _, still (some ep) (fun _ h => by cases h; exact ⟨h1, hsz⟩) (fun h => nomatch h)
      (fun _ x h hx => by cases h; rw [hn] at hx; cases hx) (fun _ _ h => nomatch h)
      (fun _ _ h h' => by cases h; cases h'; rfl)⟩
  · obtain ⟨e0, rfl, hst⟩ := hprep
    obtain ⟨hlive, hroot, hanc, hwb⟩ := hv _ rfl
    obtain ⟨c, hx⟩ := Option.isSome_iff_exists.mp hlive
    rw [storableOf_child] at hst
    obtain ⟨rank', hr', hrk, hrp, hrle⟩ := rank_insert H0.rank H0.unique hroot hanc
    have H1 := H0.with_rank hr'
    obtain ⟨c1, S⟩ := childStorable_valid H1.legal hx (H1.filed hx) hwb hst
    have hb2 := two_inline_le w.T H0.legal
    have H1' : WorldOkGen D rank' none (fun z => False ∨ z = x) w1 cx.ctr :=
      step_childform H1 hx hroot S.sameData S.ok (fun hi => by have := S.fits hi; omega) S.T S.addr S.hinfo S.mutIdx
        S.child S.others
    have hS1 : ContsSig w w1 := .of_childStorable hst
    have hidx1 : ∀ q, w1.idxOf q = w.idxOf q := idxOf_congr S.mutIdx
    have he := S.elem
    have hzx : ∀ z, e0.pay = .ref z → z = x := fun z hz => by rw [he] at hz; cases hz; rfl
    refine ⟨rank', fun z => z = x,
      { ok := H1'.congr_O (fun z => ⟨fun h => h.elim False.elim id, Or.inr⟩), rankW := hr', sig := hS1, hT := S.T,
        addr := S.addr, hinfo := S.hinfo, idx := hidx1, ctr := S.ctr, fit := ?_, noval := (fun h => nomatch h),
        same := S.others, notP := (fun h => by rw [h] at hrk; exact Nat.lt_irrefl _ hrk), new := ?_, below := ?_,
        pend := ?_, pendE := ?_, pendV := ?_, plain := (fun _ _ _ h => nomatch h), rankP := hrp, rankLe := hrle,
        hand := fun hhand => hhand.transfer (fun q y => (hS1.holds_iff q y).mp)
          (CurKept.of_sig hS1 (fun q z => by rw [hidx1]) (fun y hiy hy _ => by rw [S.hinfo]; exact hy)),
        keep := fun E => HKeep.of_sig E hS1 (fun q z => by rw [hidx1]) S.hinfo }⟩
    · rintro _ ⟨⟩; exact ⟨S.pos, S.le⟩
    · rintro _ z cz ⟨⟩ hz hcz
      cases hzx z hz
      rw [S.child] at hcz; cases hcz
      exact ⟨fun q hq => hroot q ((hS1.holds_iff q _).mp hq), rfl, hrk, wr, hwb, by rw [he], S.form⟩
    · rintro _ r ⟨⟩ hr
      cases hzx r hr
      have := (H0.conts _ c hx).vid_le
      rw [H0.ids _ c hx] at this
      rw [S.ctr]; exact this
    · rintro z rfl
      exact ⟨hroot, hrk, e0, c1, wr, rfl, rfl, S.child, he⟩
    · rintro _ z ⟨⟩ hz; exact hzx z hz
    · rintro z wr' ⟨⟩; rfl

/-- The ancestors are notified after the content of `p` has changed (`w1` to `w2`:
    `step_mutate` with its `hkeep_mutate`): the invariant without a stale
    container, the handle of `p`, the other handles, and the frame of `w1 → w3` off `p`. -/
theorem notify_mutated {w1 w2 w3 : World} {rank : SlabID → Nat} {O E : SlabID → Prop} {p : SlabID}
    {pc pc' : Cont} {cx2 cx3 : Ctx} {fuel : Nat}
    (hr1 : CRank rank w1) (hp1 : w1.cont? p = some pc) (hhand1 : HandleOk w1 p)
    (H2 : WorldOkGen D rank (some p) O w2 cx2.ctr) (K12 : HKeep E w1 w2)
    (hcp2 : w2.cont? p = some pc') (hco2 : ∀ z, z ≠ p → w2.cont? z = w1.cont? z)
    (hT2 : w2.T = w1.T) (hh2 : w2.hinfo = w1.hinfo)
    (hidx2 : ∀ q x, q ≠ p → AList.find? (w2.idxOf q) x = AList.find? (w1.idxOf q) x)
    (hO : ∀ z, O z → (w1.cont? z).isSome → rank p < rank z)
    (hnp : notifyParent fuel w2 p cx2 = .ok (w3, cx3)) :
    WorldOkGen D rank none O w3 cx3.ctr ∧ cx2.ctr ≤ cx3.ctr ∧ HandleOk w3 p ∧ HKeep E w1 w3 ∧
      (∃ cp3, w3.cont? p = some cp3 ∧ Cont.SameData pc' cp3) ∧
      (∀ z, z ≠ p → rank p ≤ rank z →
        w3.cont? z = w1.cont? z ∧ AList.find? w3.hinfo z = AList.find? w1.hinfo z) ∧
      (∀ q x, q ≠ p → AList.find? (w3.idxOf q) x = AList.find? (w1.idxOf q) x) ∧
      (∀ z, (w3.cont? z).isSome = (w1.cont? z).isSome) ∧ SigFrame w1 w3 p ∧ w3.T = w1.T ∧ ContsSig w2 w3 := by
  have hhand2 : HandleOk w2 p := handleOk_mutate hr1 H2.rank hp1 hcp2 hco2 hT2 hh2 hidx2 hhand1
  have hsome2 : ∀ z, (w2.cont? z).isSome = (w1.cont? z).isSome := by
    intro z
    by_cases hz : z = p
    · subst hz; rw [hcp2, hp1]; rfl
    · rw [hco2 z hz]
  obtain ⟨H3, F3, hctr3⟩ := notify_ok hnp H2 hhand2
    (fun z hz hzs => hO z hz (by rw [← hsome2]; exact hzs))
  have hholds : ∀ q y, Holds w3 q y → Holds w2 q y := fun q y => (F3.sig.holds_iff q y).mp
  refine ⟨H3, hctr3, hhand2.transfer hholds F3.cur, K12.trans (HKeep.of_curKept _ hholds F3.cur), ?_,
    fun z hz hrk => ⟨by rw [F3.above z hz hrk, hco2 z hz], by rw [F3.hinfo z hz hrk, hh2]⟩,
    fun q x hq => by rw [F3.idx, hidx2 q x hq], fun z => by rw [F3.sig.isSome, hsome2],
    fun z hz => by rw [F3.sig.sig z, hco2 z hz], F3.T.trans hT2, F3.sig⟩
  have := F3.self
  rw [hcp2] at this
  exact this.get_some

/-- the closure of the stored child `x` (slot `s`, position `j`, of `p`) is installed: `x` is settled -/
theorem finish_child {w3 : World} {ctr : Nat} {rank : SlabID → Nat} {O O' : SlabID → Prop}
    (H3 : WorldOkGen D rank none O w3 ctr) {p x : SlabID} {pc3 : Cont} {s : Slot} {j wr : Nat} {c1 : Cont}
    (hO : ∀ z, O z → O' z ∨ z = x) (hp : w3.cont? p = some pc3)
    (hks : (pc3.kslots w3.T)[j]? = some (s.key?, s.lim w3.T, (⟨slotSize c1 wr, .ref x⟩ : Elem)))
    (hj : ∀ i, s = .idx i → j = i) (hx : w3.cont? x = some c1) (hwb : slabIDStorableSize + 2 * wr ≤ s.lim w3.T)
    (hkok : ∀ k, s = .key k → KeyOk w3.T 4 (D p) k)
    (hnoidx : ∀ q a j, q ≠ p → w3.cont? q = some (.arr a) → AList.find? (w3.idxOf q) x = some j → False) :
    WorldOkGen D rank none O' (w3.install p s (.child x wr)) ctr := by
  have H4 := H3.install hp hks hj rfl hx (fun _ => rfl) hwb hkok
  have hzx : ∀ z, O z → ¬ O' z → z = x := fun z hOz hO'z => (hO z hOz).resolve_left hO'z
  have hpays : pc3.pays[j]? = some (Pay.ref x) := Cont.kslot_pay hks
  refine H4.shrink ?_ ?_ ?_
  · intro z cz hOz hO'z _ _
    cases hzx z hOz hO'z
    exact ⟨p, pc3, by rw [cont?_install]; exact hp, List.mem_of_getElem? hpays⟩
  · intro z hOz hO'z q a j' hq hj'
    cases hzx z hOz hO'z
    rw [cont?_install] at hq
    by_cases hpq : p = q
    · subst hpq
      rw [hp] at hq; cases hq
      obtain ⟨i, rfl⟩ := Slot.eq_idx (Cont.kslot_arr_key hks rfl).1
      rw [idxOf_install] at hj'
      cases (if_pos ⟨rfl, rfl⟩ : (if p = p ∧ x = x then some i else _) = some i).symm.trans hj'
      rw [← hj _ rfl]; exact hpays
    · rw [idxOf_install_ne _ _ _ _ (Ne.symm hpq)] at hj'
      exact absurd (hnoidx q a j' (Ne.symm hpq) hq hj') id
  · intro z cz hOz hO'z hz hi lim e hhi hca
    cases hzx z hOz hO'z
    rw [cont?_install, hx] at hz; cases hz
    rw [hinfo_install, if_pos rfl] at hhi
    cases hhi
    obtain ⟨_, hee⟩ := ClosureAt.at_slot (D := D) (ctr := ctr) (by rw [T_install]; exact H3.conts p pc3 hp)
      (by rw [cont?_install]; exact hp) (by rw [T_install]; exact hks) rfl rfl
      (fun i hi => by subst hi; rw [idxOf_install, hj i rfl]; exact if_pos ⟨rfl, rfl⟩) hca
    rw [hee]

/-- `setCallbackWithChild` for the value `v` just stored in slot `s` (position `j`) of `p` (nothing to
    do for a plain value): the pending set of the stored child is settled, current closures stay current -/
theorem finish_value {w3 : World} {ctr : Nat} {rank : SlabID → Nat} {O Oold : SlabID → Prop}
    (H3 : WorldOkGen D rank none O w3 ctr) {p : SlabID} {pc3 : Cont} {s : Slot} {j : Nat} {v : WVal} {e : Elem}
    (hp : w3.cont? p = some pc3) (hks : (pc3.kslots w3.T)[j]? = some (s.key?, s.lim w3.T, e))
    (hj : ∀ i, s = .idx i → j = i) (hkok : ∀ k, s = .key k → KeyOk w3.T 4 (D p) k)
    (hO : ∀ z, O z → Oold z ∨ ∃ wr, v = .child z wr) (hOold : ∀ z, Oold z → O z)
    (hchild : ∀ x wr, v = .child x wr → ∃ c1, w3.cont? x = some c1 ∧ e = ⟨slotSize c1 wr, .ref x⟩ ∧
      slabIDStorableSize + 2 * wr ≤ s.lim w3.T ∧
      ∀ q a j, q ≠ p → w3.cont? q = some (.arr a) → AList.find? (w3.idxOf q) x = some j → False) :
    WorldOkGen D rank none Oold (w3.install p s v) ctr ∧ CurKept w3 (w3.install p s v) := by
  cases v with
  | plain e0 =>
    have hw : w3.install p s (.plain e0) = w3 := by cases s <;> rfl
    rw [hw]
    refine ⟨H3.congr_O (fun z => ⟨fun h => (hO z h).elim id (fun ⟨wr, h⟩ => ?_), hOold z⟩), CurKept.refl w3⟩
    cases h
  | child x wr =>
    obtain ⟨c1, hx3, rfl, hwb, hnoidx⟩ := hchild x wr rfl
    refine ⟨finish_child H3 (fun z hz => (hO z hz).elim Or.inl (fun ⟨wr', h⟩ => Or.inr ?_)) hp hks hj hx3 hwb hkok
      hnoidx, ?_⟩
    · cases h; rfl
    · exact curKept_install wr hp hks hj rfl (fun hi' _ hcur => closureCurrent_parent H3
        ⟨_, hp, List.mem_of_getElem? (Cont.kslot_pay hks)⟩ (by rw [hx3]; rfl) hcur)

end World
end Atree

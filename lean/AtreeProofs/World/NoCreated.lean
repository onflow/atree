import AtreeProofs.E2EMap.Created
import AtreeProofs.World.Chain
import AtreeProofs.WorldCodec.Bytes
/-
  Requests with fitting values create no large-value slab.

  `Ctx.created` is appended to only by `toStorable` (arrays) and `toStorableLim` (maps), and only for a
  PLAIN value (`pay = .val _`) larger than the per-element limit.  A request of a World history
  (`WC.Req`) hands the container code either a plain value that fits (`WValOk`) or a child container,
  which is stored as an element with a reference payload: `created` never moves.  Hence the hypothesis
  `C09.newCreated cx cx' = []` of `WC.HistB.req` always holds (`Req.newCreated_nil`).

  No structural invariant is used: this is a frame property of the code.
  * arrays, "plain tail": after the leaf's `toStorable` nothing touches `created`
    (`arr_set_tail`, `arr_insert_tail`, `arr_remove_created` from `Arr.set_plain` …, Array/Plain.lean;
    `arr_setType_created`);
  * maps: the plain-tail lemmas of `E2EMap/Created.lean` (`omap_set_plain`, `omap_remove_plain`);
  * World level: `Cont.inline / uninline`, `childStorable`, `storableOf`, `uninlineIfNeeded` only `emit`;
    `notifyParent` by induction along the chain (`notify_induction`), `arrSetRaw / mapSetRaw` in slot form
    (`SetRaw`).
-/
namespace Atree.WC
open Atree Gen ATree MetaSlab World

/-- the element is its own storable under the per-element limit `lim`: a reference, or a plain value that fits -/
def EFit (lim : Nat) (e : Elem) : Prop := ∀ n, e.pay = .val n → e.size ≤ lim

theorem EFit.of_le {lim : Nat} {e : Elem} (h : e.size ≤ lim) : EFit lim e := fun _ _ => h

theorem EFit.of_ref {lim : Nat} {e : Elem} {r : SlabID} (h : e.pay = .ref r) : EFit lim e := by
  intro n hn; rw [h] at hn; cases hn

theorem toStorable_of_fit {T : Nat} {e : Elem} (h : EFit (maxInlineArr T) e) (addr : Nat) (c : Ctx) :
    toStorable T addr e c = (e, c) := by
  cases hp : e.pay with
  | ref r => unfold toStorable; rw [hp]
  | val n => exact toStorable_fit T addr e c (h n hp)

theorem toStorableLim_of_fit {lim : Nat} {e : Elem} (h : EFit lim e) (addr : Nat) (c : Ctx) :
    toStorableLim lim addr e c = (e, c) := by
  cases hp : e.pay with
  | ref r => exact toStorableLim_refR lim addr e c r hp
  | val n => exact toStorableLim_of_le lim addr e c (h n hp)

theorem created_emit (c : Ctx) (e : Eff) : (c.emit e).created = c.created := rfl
theorem created_alloc (c : Ctx) (a : Nat) : (c.alloc a).2.created = c.created := rfl

/-- plain tail of `Array.Set`: what was created is what `Value.Storable` at the leaf created -/
theorem arr_set_tail {T : Nat} {a a' : Arr} {i : Nat} {v old : Elem} {c c' : Ctx}
    (h : a.set T i v c = .ok (old, a', c')) : ∃ addr, c'.created = (toStorable T addr v c).2.created :=
  (Arr.set_plain h).2.imp fun _ hp => hp.created

theorem arr_insert_tail {T : Nat} {a a' : Arr} {i : Nat} {v : Elem} {c c' : Ctx}
    (h : a.insert T i v c = .ok (a', c')) : ∃ addr, c'.created = (toStorable T addr v c).2.created :=
  (Arr.insert_plain h).2.imp fun _ hp => hp.created

theorem arr_remove_created {T : Nat} {a a' : Arr} {i : Nat} {old : Elem} {c c' : Ctx}
    (h : a.remove T i c = .ok (old, a', c')) : c'.created = c.created :=
  (Arr.remove_plain h).2.created

theorem arr_setType_created (a : Arr) (ty : Nat) (c : Ctx) : (a.setType ty c).2.created = c.created := by
  unfold Arr.setType
  simp only
  split <;> rfl

theorem arr_new_created (addr ty : Nat) (c : Ctx) : (Arr.new addr ty c).2.created = c.created := rfl

theorem arr_set_created_of_fit {T : Nat} {a a' : Arr} {i : Nat} {v old : Elem} {c c' : Ctx}
    (hv : EFit (maxInlineArr T) v) (h : a.set T i v c = .ok (old, a', c')) : c'.created = c.created := by
  obtain ⟨addr, h1⟩ := arr_set_tail h
  rw [h1, toStorable_of_fit hv]

theorem arr_insert_created_of_fit {T : Nat} {a a' : Arr} {i : Nat} {v : Elem} {c c' : Ctx}
    (hv : EFit (maxInlineArr T) v) (h : a.insert T i v c = .ok (a', c')) : c'.created = c.created := by
  obtain ⟨addr, h1⟩ := arr_insert_tail h
  rw [h1, toStorable_of_fit hv]

theorem omap_set_created_of_fit {r : Nat} {cfg : MCfg} {m m' : OMap r} {k : MKey} {v : Elem} {old : Option Elem}
    {c c' : Ctx} (hv : EFit (maxInlineMapValue cfg.T k.size) v) (h : m.set cfg k v c = .ok (old, m', c')) :
    c'.created = c.created := by
  have h1 := (E2EM.omap_set_plain h).created
  rw [h1, E2EM.tsv, toStorableLim_of_fit hv]

theorem omap_remove_created {r : Nat} {cfg : MCfg} {m m' : OMap r} {k k0 : MKey} {v0 : Elem} {c c' : Ctx}
    (h : m.remove cfg k c = .ok (k0, v0, m', c')) : c'.created = c.created :=
  (E2EM.omap_remove_plain h).created

theorem omap_setType_created {r : Nat} (m : OMap r) (ty : Nat) (c : Ctx) : (m.setType ty c).2.created = c.created := by
  unfold OMap.setType
  simp only
  split <;> rfl

theorem omap_new_created {r : Nat} (addr ty : Nat) (seedOf : SlabID → Nat) (c : Ctx) :
    ((OMap.new addr ty seedOf c : OMap r × Ctx)).2.created = c.created := rfl

/-- `Array.Storable` / `OrderedMap.Storable`: nothing created, the threshold kept, a reference returned -/
theorem childStorable_created {w w' : World} {vid : SlabID} {wrap lim : Nat} {cx cx' : Ctx} {e : Elem}
    (h : w.childStorable vid wrap lim cx = .ok (e, w', cx')) :
    cx'.created = cx.created ∧ w'.T = w.T ∧ e.pay = .ref vid := by
  obtain ⟨c, hc⟩ := World.childStorable_some h
  obtain ⟨c', _, _, rfl, ⟨_, _, rfl, rfl⟩ | ⟨_, rfl, rfl⟩⟩ := World.childStorable_ok hc h
  · exact ⟨rfl, rfl, rfl⟩
  · exact ⟨rfl, rfl, rfl⟩

/-- a value handed to a request that `Value.Storable` of the container code leaves alone -/
def VFit (lim : Nat) : WVal → Prop
  | .plain e => e.size ≤ lim
  | .child _ _ => True

theorem VFit.of_wvalOk {w : World} {p : SlabID} {lim : Nat} {v : WVal} (h : WValOk w p lim v) : VFit lim v := by
  cases v with
  | plain e => exact h.2
  | child x wrap => trivial

/-- `Value.Storable`: nothing created, the threshold kept, the storable is its own storable -/
theorem storableOf_created {w w' : World} {v : WVal} {lim lim' : Nat} {cx cx' : Ctx} {e : Elem}
    (hv : VFit lim' v) (h : w.storableOf v lim cx = .ok (e, w', cx')) :
    cx'.created = cx.created ∧ w'.T = w.T ∧ EFit lim' e := by
  cases v with
  | plain e0 =>
    simp only [World.storableOf, Except.ok.injEq, Prod.mk.injEq] at h
    obtain ⟨rfl, rfl, rfl⟩ := h
    exact ⟨rfl, rfl, EFit.of_le hv⟩
  | child x wrap =>
    obtain ⟨h1, h2, h3⟩ := childStorable_created (show w.childStorable x wrap lim cx = .ok (e, w', cx') from h)
    exact ⟨h1, h2, EFit.of_ref h3⟩

theorem uninlineIfNeeded_created {w w' : World} {e e' : Elem} {ov : Option SlabID} {cx cx' : Ctx}
    (h : w.uninlineIfNeeded e cx = .ok (e', ov, w', cx')) : cx'.created = cx.created := by
  obtain ⟨_, _, _, _, _, ⟨_, _, _, rfl, _⟩ | ⟨x, c, _, _, _, ⟨_, _, _, rfl⟩ | ⟨_, c', _, _, _, rfl, _⟩⟩⟩ :=
    World.uninlineIfNeeded_ok h
  · rfl
  · rfl
  · rfl

theorem SlotSet.created {w : World} {qc qc' : Cont} {s : Slot} {e : Elem} {old : Option Elem} {cx cx' : Ctx}
    (hfit : EFit (s.lim w.T) e) (h : World.SlotSet w qc s e cx old qc' cx') : cx'.created = cx.created := by
  cases qc <;> cases s <;> cases qc' <;> first | exact h.elim | skip
  · obtain ⟨_, o, _, h⟩ := h
    exact arr_set_created_of_fit hfit h
  · exact omap_set_created_of_fit (cfg := w.mcfg) hfit h

/-- `notifyParentIfNeeded()` creates nothing: it only ever stores a child container, i.e. an element with a
    reference payload -/
theorem notifyParent_created {fuel : Nat} {w w' : World} {x : SlabID} {cx cx' : Ctx}
    (h : notifyParent fuel w x cx = .ok (w', cx')) : cx'.created = cx.created := by
  refine World.notify_induction (M := fun _ _ cx _ cx' => cx'.created = cx.created) (fun _ _ => rfl)
    (fun _ _ _ _ _ => rfl) (fun _ _ _ _ => rfl) ?_ fuel h
  intro w y cx hi c qc s el e w1 cx1 old qc' cx2 w3 cx3 _ _ _ _ hst hs _ _ ih
  obtain ⟨g1, gT, gE⟩ := childStorable_created hst
  exact (ih.trans (SlotSet.created (EFit.of_ref gE) hs)).trans g1

theorem setRaw_created {fuel : Nat} {w w' : World} {p : SlabID} {s : Slot} {v : WVal} {cx cx' : Ctx}
    {old : Option Elem} (hv : VFit (s.lim w.T) v) (h : SetRaw fuel w p s v cx old w' cx') :
    cx'.created = cx.created := by
  obtain ⟨qc, e, w1, cx1, qc', cx2, w3, _, hst, hs, hn, _⟩ := h
  obtain ⟨g1, gT, gE⟩ := storableOf_created hv hst
  rw [← gT] at gE
  exact ((notifyParent_created hn).trans (SlotSet.created gE hs)).trans g1

theorem newArr_created (w : World) (ty : Nat) (cx : Ctx) : (w.newArr ty cx).2.2.created = cx.created := rfl

theorem newMap_created (w : World) (ty seed : Nat) (cx : Ctx) : (w.newMap ty seed cx).2.2.created = cx.created := rfl

theorem arrInsert_created {w w' : World} {p : SlabID} {i : Nat} {v : WVal} {cx cx' : Ctx}
    (hv : VFit (maxInlineArr w.T) v) (h : w.arrInsert p i v cx = .ok (w', cx')) : cx'.created = cx.created := by
  obtain ⟨a, e, w1, cx1, a', cx2, _, w3, _, _, hst, hins, rfl, hnp, _⟩ := World.arrInsert_ok_iff.mp h
  obtain ⟨g1, gT, gE⟩ := storableOf_created hv hst
  rw [← gT] at gE
  exact ((notifyParent_created hnp).trans (arr_insert_created_of_fit gE hins)).trans g1

theorem arrSet_created {w w' : World} {p : SlabID} {i : Nat} {v : WVal} {cx cx' : Ctx} {old : Elem}
    (hv : VFit (maxInlineArr w.T) v) (h : w.arrSet p i v cx = .ok (old, w', cx')) : cx'.created = cx.created := by
  obtain ⟨old1, w1, cx1, ov, w2, hset, hun, _⟩ := World.arrSet_ok_iff.mp h
  exact (uninlineIfNeeded_created hun).trans (setRaw_created (s := .idx i) hv (World.arrSetRaw_iff_setRaw.mp hset))

theorem arrRemove_created {w w' : World} {p : SlabID} {i : Nat} {cx cx' : Ctx} {old : Elem}
    (h : w.arrRemove p i cx = .ok (old, w', cx')) : cx'.created = cx.created := by
  obtain ⟨a, old1, a', cx1, _, w3, cx3, ov, w4, _, hrem, rfl, hnp, hun, _⟩ := World.arrRemove_ok_iff.mp h
  exact ((uninlineIfNeeded_created hun).trans (notifyParent_created hnp)).trans (arr_remove_created hrem)

theorem mapSet_created {w w' : World} {p : SlabID} {k : MKey} {v : WVal} {cx cx' : Ctx} {old : Option Elem}
    (hv : VFit (maxInlineMapValue w.T k.size) v) (h : w.mapSet p k v cx = .ok (old, w', cx')) :
    cx'.created = cx.created := by
  obtain ⟨old1, w1, cx1, hset, hc⟩ := World.mapSet_ok_iff.mp h
  have h1 := setRaw_created (s := .key k) hv (World.mapSetRaw_iff_setRaw.mp hset)
  rcases hc with ⟨_, _, _, rfl⟩ | ⟨o, o', ov, _, _, hun⟩
  · exact h1
  · exact (uninlineIfNeeded_created hun).trans h1

theorem mapRemove_created {w w' : World} {p : SlabID} {k rk : MKey} {rv : Elem} {cx cx' : Ctx}
    (h : w.mapRemove p k cx = .ok (rk, rv, w', cx')) : cx'.created = cx.created := by
  obtain ⟨m, rv1, m', cx1, w3, cx3, ov, _, hrem, hnp, hun⟩ := World.mapRemove_ok_iff.mp h
  exact ((uninlineIfNeeded_created hun).trans (notifyParent_created hnp)).trans (omap_remove_created hrem)

theorem setType_created {w w' : World} {x : SlabID} {ty : Nat} {cx cx' : Ctx}
    (h : w.setType x ty cx = .ok (w', cx')) : cx'.created = cx.created := by
  obtain ⟨c, c', cx1, _, hcc, hrun⟩ := World.setType_ok_iff.mp h
  have h1 : cx1.created = cx.created := by
    rcases hcc with ⟨a, _, _, rfl⟩ | ⟨m, _, _, rfl⟩
    · exact arr_setType_created _ _ _
    · exact omap_setType_created _ _ _
  rcases hrun with ⟨_, hn⟩ | ⟨_, _, rfl⟩
  · exact (notifyParent_created hn).trans h1
  · exact h1

/-- A request creates no large-value slab: the plain value it hands over fits the slot (`WValOk`), a child
    container is stored as a reference -/
theorem Req.created_eq {D : SlabID → DigestFn 4} {w w' : World} {cx cx' : Ctx} (r : Req D w cx w' cx') :
    cx'.created = cx.created := by
  cases r with
  | newArr ty => exact newArr_created w ty cx
  | newMap ty seed => exact newMap_created w ty seed cx
  | arrInsert hh hv hr => exact arrInsert_created (VFit.of_wvalOk hv) hr
  | arrSet hh hv hr => exact arrSet_created (VFit.of_wvalOk hv) hr
  | arrRemove hh hr => exact arrRemove_created hr
  | mapSet hh hk hv hr => exact mapSet_created (VFit.of_wvalOk hv) hr
  | mapRemove hh hk hr => exact mapRemove_created hr
  | setType hh hr => exact setType_created hr
  | arrGet hh hr => rfl
  | mapGet hh hk hr => rfl
  | reopen => rfl

/-- the hypothesis `newCreated cx cx' = []` of `HistB.req` always holds -/
theorem Req.newCreated_nil {D : SlabID → DigestFn 4} {w w' : World} {cx cx' : Ctx} (r : Req D w cx w' cx') :
    C09.newCreated cx cx' = [] := by
  simp [C09.newCreated, r.created_eq]

end Atree.WC

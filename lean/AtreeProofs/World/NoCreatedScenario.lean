import AtreeProofs.World.BytesScenario
/-
  Non-vacuity of `World/NoCreated.lean`: the requests of the run of `World/OkScenario.lean` (insertion of a
  child container into an array, of a wrapped child container into a map, of a plain value into a nested
  array) meet the hypotheses of `Req.created_eq`; the byte-level history `histB8` of
  `World/BytesScenario.lean` consists of such requests (`HistB.req` needs no evaluation of `newCreated`).
-/
namespace Atree.NoCreatedScenario
open Atree Atree.Codec Gen World St
open Atree.OkScenario
open Atree.HeapScenario
open Atree.Scenario (w0 cx0 ok_pair ok_triple)
open Atree.C09 (newEffects newCreated)
open Atree.WC

/-- a child container inserted into an array: a real request, and it moved the effect log -/
example : t5.2.created = t4.2.2.created ∧ newEffects t4.2.2 t5.2 ≠ [] :=
  ⟨(Req.arrInsert (D := D) handles4.1 hv5 (ok_pair run5)).created_eq, by decide +kernel⟩

/-- a wrapped child container stored into a map -/
example : newCreated t5.2 t6.2.2 = [] := (Req.mapSet (D := D) ok5.2.2 (keyOk_K1_at M checks8.2.2.1.2.2) hv6 (ok_triple run6)).newCreated_nil

/-- a plain value inserted into a nested array (the parents are notified) -/
example : newCreated t6.2.2 t7.2 = [] ∧ newEffects t6.2.2 t7.2 ≠ [] :=
  ⟨(Req.arrInsert (D := D) ok6.2.2 hv7 (ok_pair run7)).newCreated_nil, by decide +kernel⟩

/-- the byte-level history of the depth-3 world `t8`, with no evaluation of `newCreated` -/
theorem histB8' : ∃ s, HistB D t8.1 t8.2 s := BytesScenario.histB8

/-- the frame property is NOT a triviality of the model: an oversized plain value handed to the array code
    does create a large-value slab (such a value violates `WValOk`, so it is not a `Req`) -/
example : (toStorable 256 1 { size := 200, pay := .val 0 } ⟨0, [], []⟩).2.created.length = 1 := by decide

end Atree.NoCreatedScenario

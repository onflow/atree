import AtreeProofs.World.NotifyPrep
import AtreeProofs.World.SlotOk
import AtreeProofs.World.StepSlot
import AtreeProofs.World.StepMisc
/-
  The main induction (`notify_ok`, along `notify_induction`): a notification from a container `y` whose
  parent slot is out of date, issued through a current handle, re-establishes the global invariant and only
  touches `y` (in form) and the containers `y` is nested in.  One link of the chain is `notify_link`,
  for array and map parents at once: what the invariant says of the slot the closure finds (`LinkOk`), the
  core `set` (`SlotSet.ok`), the world in which the parent is notified (`AtParent`), what the parent's
  notification leaves (`notify_link_parent`), the closure installed again (`WorldOkGen.install`).
-/
namespace Atree
open Gen

namespace World

variable {D : SlabID → DigestFn 4} {rank : SlabID → Nat} {O : SlabID → Prop}

/-- what is shown of a notification of `y` that leads from `w`, `cx` to `w'`, `cx'`: started where only the
    parent slot of `y` is out of date, through a valid handle, every pending container above `y`, it
    restores the invariant, within the frame `NFrame`, and the counter does not go back -/
def NotifyOkAt (D : SlabID → DigestFn 4) (rank : SlabID → Nat) (O : SlabID → Prop) (w : World) (y : SlabID)
    (cx : Ctx) (w' : World) (cx' : Ctx) : Prop :=
  WorldOkGen D rank (some y) O w cx.ctr → HandleOk w y → (∀ z, O z → (w.cont? z).isSome → rank y < rank z) →
    WorldOkGen D rank none O w' cx'.ctr ∧ NFrame rank w w' y ∧ cx.ctr ≤ cx'.ctr

/-- after the closure of `y` has been (re)installed for the slot `s` (position `j`) of `p`, current
    closures are still current -/
theorem curKept_install {w : World} {p y : SlabID} {pc : Cont} {s : Slot} {j : Nat} {lim : Nat} {e : Elem}
    (wr : Nat) (hp : w.cont? p = some pc) (hks : (pc.kslots w.T)[j]? = some (s.key?, lim, e))
    (hj : ∀ i, s = .idx i → j = i) (hpay : e.pay = .ref y)
    (hold : ∀ hi, AList.find? w.hinfo y = some hi → ClosureCurrent w y hi → hi.parent = p) :
    CurKept w (w.install p s (.child y wr)) := by
  have hT := T_install w p s (.child y wr)
  have hc := cont?_install w p s (.child y wr)
  have hS : ContsSig w (w.install p s (.child y wr)) := ⟨hT, fun q => by rw [hc]⟩
  intro x hi hx hcur
  by_cases hyx : y = x
  · subst hyx
    refine ⟨_, by rw [hinfo_install, if_pos rfl], (hold hi hx hcur).symm, ?_⟩
    rw [closureCurrent_iff]
    refine ⟨j, pc, by rw [hc]; exact hp, by rw [Cont.kslot_pay hks, hpay], fun ha => ?_, fun ha => ?_⟩
    · obtain ⟨i, rfl⟩ := Slot.eq_idx (Cont.kslot_arr_key hks ha).1
      rw [idxOf_install, hj i rfl]; exact if_pos ⟨rfl, rfl⟩
    · obtain ⟨k, hk, _⟩ := Cont.kslot_map_key hks ha
      exact ⟨k, hk, _, by rw [Cont.kslot_sig hks, hk]⟩
  · refine ⟨hi, by rw [hinfo_install, if_neg hyx]; exact hx, rfl, ?_⟩
    rw [closureCurrent_iff] at hcur ⊢
    obtain ⟨j', hj'⟩ := hcur
    refine ⟨j', hj'.transfer hS ?_⟩
    rw [idxOf_install]
    cases s with
    | idx i => exact if_neg (fun h => hyx h.2)
    | key k => rfl

/-- a closure that is current points at the container that holds its owner -/
theorem closureCurrent_parent {w : World} {ctr : Nat} {stale : Option SlabID}
    (H : WorldOkGen D rank stale O w ctr) {y p : SlabID} (hpy : Holds w p y) (hy : (w.cont? y).isSome)
    {hi : HInfo} (hcur : ClosureCurrent w y hi) : hi.parent = p := by
  rw [closureCurrent_iff] at hcur
  obtain ⟨j, pc, hpc, hpay, _⟩ := hcur
  obtain ⟨pc', hpc', hm⟩ := hpy
  obtain ⟨j', hj'⟩ := List.mem_iff_getElem?.mp hm
  exact (H.unique hi.parent p pc pc' j j' y hpc hpc' hpay hj' hy).1

/-- after a notification of `y`, a world that differs from `w3` in the closure of `y` only -/
theorem NFrame.then_closure {w w3 w4 : World} {y : SlabID} (F : NFrame rank w w3 y)
    (hT : w4.T = w3.T) (ha : w4.addr = w3.addr) (hc : ∀ z, w4.cont? z = w3.cont? z)
    (hh : ∀ z, z ≠ y → AList.find? w4.hinfo z = AList.find? w3.hinfo z)
    (hidx : ∀ q z, AList.find? (w4.idxOf q) z = AList.find? (w.idxOf q) z) (hcur : CurKept w3 w4) :
    NFrame rank w w4 y :=
  ⟨hT.trans F.T, ha.trans F.addr, F.sig.trans ⟨hT, fun q => by rw [hc]⟩,
    fun z h1 h2 => (hc z).trans (F.above z h1 h2), by rw [hc]; exact F.self,
    fun z h1 h2 => (hh z h1).trans (F.hinfo z h1 h2), hidx, F.cur.trans hcur⟩

/-- The world in which the parent of `y` is notified (`w1.setCont hi.parent pc'`, counter `cx3`): `y` sat in
    a slot of its parent `pc` in `w`, `childStorable` has given the child its new form `c1` (world `w1`,
    element `e`) and the slot has been overwritten with `e` (`pc'`). -/
structure AtParent (D : SlabID → DigestFn 4) (rank : SlabID → Nat) (O : SlabID → Prop) (w : World) (y : SlabID)
    (hi : HInfo) (c pc' : Cont) (e : Elem) (w1 : World) (cx cx3 : Ctx) (c1 : Cont) : Prop where
  below : rank hi.parent < rank y
  ne : y ≠ hi.parent
  sameData : Cont.SameData c c1
  elem : e = ⟨slotSize c1 hi.wrap, .ref y⟩
  child : w1.cont? y = some c1
  others : ∀ z, z ≠ y → w1.cont? z = w.cont? z
  T : w1.T = w.T
  addr : w1.addr = w.addr
  hinfo : w1.hinfo = w.hinfo
  mutIdx : w1.mutIdx = w.mutIdx
  ctr : cx.ctr ≤ cx3.ctr
  ok : WorldOkGen D rank (some hi.parent) O (w1.setCont hi.parent pc') cx3.ctr
  sig : ContsSig w (w1.setCont hi.parent pc')
  cur : CurKept w (w1.setCont hi.parent pc')
  hand : HandleOk (w1.setCont hi.parent pc') hi.parent
  pend : ∀ z, O z → ((w1.setCont hi.parent pc').cont? z).isSome → rank hi.parent < rank z

theorem AtParent.idx {w : World} {y : SlabID} {hi : HInfo} {c pc' : Cont} {e : Elem} {w1 : World} {cx cx3 : Ctx}
    {c1 : Cont} (A : AtParent D rank O w y hi c pc' e w1 cx cx3 c1) (q z : SlabID) :
    AList.find? ((w1.setCont hi.parent pc').idxOf q) z = AList.find? (w.idxOf q) z := by
  simp [World.idxOf, A.mutIdx]

/-- the hypotheses: `y` sits in slot `j` of its parent `pc` (`hks`, `hel`); the wrapped reference fits the
    slot (`hwb`, `hlim`); `hst` the child takes its form; `hks'` … `hbp` what the core `set` did -/
theorem atParent {w : World} {y : SlabID} {cx : Ctx}
    {hi : HInfo} {c pc pc' : Cont} {j lim : Nat} {ko : Option MKey} {el e : Elem}
    (H : WorldOkGen D rank (some y) O w cx.ctr) (hO : ∀ z, O z → (w.cont? z).isSome → rank y < rank z)
    (hh : AList.find? w.hinfo y = some hi) (hc : w.cont? y = some c)
    (hp : w.cont? hi.parent = some pc) (hks : (pc.kslots w.T)[j]? = some (ko, lim, el)) (hel : el.pay = .ref y)
    (hpar : HandleOk w hi.parent)
    (hwb : slabIDStorableSize + 2 * hi.wrap ≤ lim) (hlim : lim ≤ maxInlineArr w.T)
    {w1 : World} {cx1 cx3 : Ctx} (hst : w.childStorable y hi.wrap lim cx = .ok (e, w1, cx1))
    (hks' : pc'.kslots w.T = (pc.kslots w.T).set j (ko, lim, e)) (harr : pc'.isArr = pc.isArr)
    (hokp : ContOk w.T (D hi.parent) cx3.ctr pc') (hinlp : pc'.isInlined = pc.isInlined) (hvid : pc'.vid = pc.vid)
    (hbp : pc'.isInlined = true → pc'.rootSize ≤ w.T) (hctr3 : cx1.ctr ≤ cx3.ctr) :
    ∃ c1, AtParent D rank O w y hi c pc' e w1 cx cx3 c1 := by
  have hysome : (w.cont? y).isSome := by rw [hc]; rfl
  have hrk : rank hi.parent < rank y := H.rank _ _ (holds_of_kslot hp hks hel) hysome
  have hne : y ≠ hi.parent := by intro h; rw [← h] at hrk; exact Nat.lt_irrefl _ hrk
  have hlimT : lim ≤ w.T := by have := two_inline_le w.T H.legal; omega
  obtain ⟨c1, hsd, hok1, hinl1, _, hfit1, he, _, _, hc1, hco1, hT1, ha1, hh1, hm1, hctr1⟩ :=
    childStorable_valid H.legal hc (H.filed hc) hwb hst
  subst he
  have hctr13 : cx.ctr ≤ cx3.ctr := by rw [← hctr1]; exact hctr3
  have hy1 : (w1.setCont hi.parent pc').cont? y = some c1 := by rw [cont?_setCont_ne _ _ _ _ hne]; exact hc1
  have hz1 : ∀ z, z ≠ y → z ≠ hi.parent → (w1.setCont hi.parent pc').cont? z = w.cont? z :=
    fun z hzy hzp => by rw [cont?_setCont_ne _ _ _ _ hzp]; exact hco1 z hzy
  have H2 : WorldOkGen D rank (some hi.parent) O (w1.setCont hi.parent pc') cx3.ctr :=
    step_slot H hc hp hks hel hsd (hok1.mono hctr13) hwb hinl1
      (fun hi1 => Nat.le_trans (hfit1 hi1) (Nat.le_trans (Nat.sub_le _ _) hlimT))
      (fun hi' _ hhi' _ => by rw [hh] at hhi'; cases hhi'; rfl)
      hks' harr hokp hinlp hvid hbp hctr13 hT1 ha1 hh1 hm1 hy1 (cont?_setCont_self _ _ _) hz1
  have hS12 : ContsSig w (w1.setCont hi.parent pc') :=
    ContsSig.of_slot_set hc hp hks hel rfl hsd hks' harr hT1 hy1 (cont?_setCont_self _ _ _) hz1
  have hcur12 : CurKept w (w1.setCont hi.parent pc') :=
    CurKept.of_sig hS12 (fun q z => by simp [World.idxOf, hm1])
      (fun x hix hx _ => by simp only [hinfo_setCont, hh1]; exact hx)
  exact ⟨c1, hrk, hne, hsd, rfl, hc1, hco1, hT1, ha1, hh1, hm1, hctr13, H2, hS12, hcur12,
    hpar.transfer (fun p x => (hS12.holds_iff p x).mp) hcur12,
    fun z hz hzs => Nat.lt_trans hrk (hO z hz (by rw [← hS12.isSome]; exact hzs))⟩

/-- The step through the parent of `y`, whichever its kind: from what the parent's own notification, started
    in the world `AtParent`, is shown to do (`R`).  What is left to do afterwards is to reinstall the closure
    of `y`. -/
theorem notify_link_parent {w : World} {y : SlabID} {cx : Ctx}
    {hi : HInfo} {c pc' c1 : Cont} {e : Elem} {w1 : World} {cx3 : Ctx}
    (hh : AList.find? w.hinfo y = some hi) (hc : w.cont? y = some c)
    (A : AtParent D rank O w y hi c pc' e w1 cx cx3 c1) {w3 : World} {cx4 : Ctx}
    (R : NotifyOkAt D rank O (w1.setCont hi.parent pc') hi.parent cx3 w3 cx4) :
    ∃ pc3, WorldOkGen D rank none O w3 cx4.ctr ∧ NFrame rank w w3 y ∧ cx.ctr ≤ cx4.ctr ∧
      w3.cont? y = some c1 ∧
      w3.cont? hi.parent = some pc3 ∧ Cont.SameData pc' pc3 ∧ AList.find? w3.hinfo y = some hi := by
  obtain ⟨hrk, hne, hsd, -, hc1, hco1, hT1, ha1, hh1, -, hctr13, H2, hS12, hcur12, hpar2, hO2⟩ := id A
  have hrk' : rank hi.parent ≤ rank y := Nat.le_of_lt hrk
  obtain ⟨H3, F3, hctr4⟩ := R H2 hpar2 hO2
  have hzp : ∀ z, rank y ≤ rank z → z ≠ hi.parent := by
    intro z hrz h; rw [h] at hrz; exact Nat.lt_irrefl _ (Nat.lt_of_le_of_lt hrz hrk)
  have hy3 : w3.cont? y = some c1 := by
    rw [F3.above y hne hrk', cont?_setCont_ne _ _ _ _ hne]; exact hc1
  obtain ⟨pc3, hpc3, hsd3⟩ := (by
    have := F3.self
    rw [cont?_setCont_self] at this
    exact this.get_some : ∃ pc3, w3.cont? hi.parent = some pc3 ∧ Cont.SameData pc' pc3)
  have hhi3 : AList.find? w3.hinfo y = some hi := by
    rw [F3.hinfo y hne hrk']; simp only [hinfo_setCont, hh1]; exact hh
  refine ⟨pc3, H3, ⟨F3.T.trans hT1, F3.addr.trans ha1, hS12.trans F3.sig, ?_, ?_, ?_,
    fun q z => by rw [F3.idx, A.idx], hcur12.trans F3.cur⟩, Nat.le_trans hctr13 hctr4, hy3, hpc3, hsd3, hhi3⟩
  · intro z hzy hrz
    rw [F3.above z (hzp z hrz) (Nat.le_trans hrk' hrz), cont?_setCont_ne _ _ _ _ (hzp z hrz)]
    exact hco1 z hzy
  · rw [hy3, hc]; exact hsd
  · intro z hzy hrz
    rw [F3.hinfo z (hzp z hrz) (Nat.le_trans hrk' hrz)]
    simp only [hinfo_setCont, hh1]

/-- What the invariant says at one link of the chain about the slot `s` of the parent `qc` that the closure
    of `y` finds: the closure names a proper key and a wrapper depth that fits the slot; the parent is below
    `y`, in sync, not pending, and an inlined parent has room for the slot to be overwritten. -/
structure LinkOk (D : SlabID → DigestFn 4) (rank : SlabID → Nat) (O : SlabID → Prop) (w : World) (y : SlabID)
    (hi : HInfo) (qc : Cont) (s : Slot) : Prop where
  key : ∀ k, s = .key k → KeyOk w.T 4 (D hi.parent) k
  wrap : slabIDStorableSize + 2 * hi.wrap ≤ s.lim w.T
  cfg : ∀ m, qc = .map m → CfgOk w.mcfg w.T m
  below : rank hi.parent < rank y
  /-- in the form `some p ≠ stale` that `WorldOkGen.root_fits` and `SlotSync` ask for -/
  sync : some hi.parent ≠ some y
  notPend : ¬ O hi.parent
  room : qc.isInlined = true → qc.rootSize + qc.entryMax w.T ≤ w.T

theorem SlotFinds.linkOk {w : World} {y : SlabID} {hi : HInfo} {qc : Cont} {s : Slot} {el : Elem} {ctr : Nat}
    (hf : SlotFinds w y hi qc s el) (H : WorldOkGen D rank (some y) O w ctr)
    (hO : ∀ z, O z → (w.cont? z).isSome → rank y < rank z) (hh : AList.find? w.hinfo y = some hi)
    (hy : (w.cont? y).isSome) : LinkOk D rank O w y hi qc s := by
  obtain ⟨hq, hso, hget, hel⟩ := id hf
  obtain ⟨hkok, hwb⟩ : (∀ k, s = .key k → KeyOk w.T 4 (D hi.parent) k) ∧
      slabIDStorableSize + 2 * hi.wrap ≤ s.lim w.T := by
    cases qc <;> cases s <;> first | exact hso.elim | skip
    · rename_i pa i; exact ⟨fun _ h => (nomatch h), ((H.closure y hi hh).1 pa hq).2⟩
    · rename_i pm k
      obtain ⟨h1, _, h3⟩ := (H.closure y hi hh).2 pm k hq hso
      exact ⟨fun _ h => by cases h; exact h1, h3⟩
  have hrk : rank hi.parent < rank y := H.rank _ _ (hf.holds H.legal (H.filed hf.parent) H.closure hh) hy
  have hns : some hi.parent ≠ some y := by intro h; cases h; exact Nat.lt_irrefl _ hrk
  have hOp : ¬ O hi.parent := fun h => Nat.lt_asymm hrk (hO _ h (by rw [hq]; rfl))
  exact ⟨hkok, hwb, fun m hm => H.cfgOk (hm ▸ hq), hrk, hns, hOp, fun hi2 =>
    H.root_fits (s := qc.entryMax w.T) hq hns hOp hi2
      (by cases qc with | arr _ => exact .inl (Nat.le_refl _) | map _ => exact .inr (Nat.le_refl _)) (Nat.le_refl _)⟩

/-- One link of the chain: the closure of `y` finds `y`'s element in slot `s` of its parent; the child takes
    its form (`hst`), the slot is overwritten (`hs`), the parent's own notification does what is to be shown
    (`R`), the closure is installed again. -/
theorem notify_link {w : World} {y : SlabID} {cx : Ctx}
    {hi : HInfo} {c qc : Cont} {s : Slot} {el : Elem}
    (H : WorldOkGen D rank (some y) O w cx.ctr) (hO : ∀ z, O z → (w.cont? z).isSome → rank y < rank z)
    (hh : AList.find? w.hinfo y = some hi) (hc : w.cont? y = some c) (hf : SlotFinds w y hi qc s el)
    (hpar : HandleOk w hi.parent) {e : Elem} {w1 : World} {cx1 : Ctx} {old : Option Elem} {qc' : Cont} {cx2 : Ctx}
    {w3 : World} {cx3 : Ctx} (hst : w.childStorable y hi.wrap (s.lim w.T) cx = .ok (e, w1, cx1))
    (hs : SlotSet w1 qc s e cx1 old qc' cx2)
    (R : NotifyOkAt D rank O (w1.setCont hi.parent qc') hi.parent cx2 w3 cx3) :
    WorldOkGen D rank none O (install w3 hi.parent s (.child y hi.wrap)) cx3.ctr ∧
      NFrame rank w (install w3 hi.parent s (.child y hi.wrap)) y ∧ cx.ctr ≤ cx3.ctr := by
  have hysome : (w.cont? y).isSome := by rw [hc]; rfl
  obtain ⟨hkok, hwb, hcfg, hrk, hns, hOp, hbud⟩ := hf.linkOk H hO hh hysome
  obtain ⟨hq, hso, hget, hel⟩ := hf
  have hOy : ¬ O y := fun h => Nat.lt_irrefl _ (hO y h hysome)
  have hokq : ContOk w.T (D hi.parent) cx.ctr qc := H.conts hi.parent _ hq
  obtain ⟨_, _, _, _, _, _, he, he1, he2, _, _, hT1, ha1, _, _, hctr1⟩ :=
    childStorable_valid H.legal hc (H.filed hc) hwb hst
  obtain ⟨j, hks, -, hks', hok', hinl', hrid, hctr3, hsz⟩ :=
    SlotSet.ok (y := y) H.legal (show ContOk w.T (D hi.parent) cx1.ctr qc by rw [hctr1]; exact hokq) hcfg hkok
      (fun hi2 => Nat.le_trans (hbud hi2) (two_inline_le w.T H.legal).2) hget he1 he2 (by rw [he])
      (hs.congr hT1.symm ha1.symm)
  have harr : qc'.isArr = qc.isArr := by
    cases qc <;> cases s <;> cases qc' <;> first | exact hs.elim | rfl
  obtain ⟨c1, A⟩ := atParent (pc' := qc') H hO hh hc hq hks hel hpar hwb (Slot.lim_le _ _) hst hks' harr hok' hinl' hrid
    (fun hi2 => Nat.le_trans (hsz (hinl'.symm.trans hi2)) (hbud (hinl'.symm.trans hi2))) hctr3
  obtain ⟨cp3, H3, F3, hctr, hy3, hcp3, hsd3, hhi3⟩ := notify_link_parent hh hc A R
  have he' := A.elem
  have hks3 : (cp3.kslots w3.T)[j]? = some (s.key?, s.lim w3.T, e) := by
    rw [F3.T, sameData_kslots _ hsd3, hks', List.getElem?_set_self (List.getElem?_eq_some_iff.mp hks).1]
  have hj : ∀ i, s = .idx i → j = i := by
    rintro i rfl
    cases qc with
    | map m => exact hso.elim
    | arr pa =>
      have h1 := H.mutIdx hi.parent pa hq y i hso hOy
      have h2 : (Cont.arr pa).pays[j]? = some (Pay.ref y) := by rw [Cont.kslot_pay hks, hel]
      exact (H.unique hi.parent hi.parent _ _ j i y hq hq h2 h1 hysome).2
  have H4 := H3.install hcp3 hks3 hj (by rw [he']) hy3 (fun _ => by rw [he']) (by rw [F3.T]; exact hwb)
    (fun k hk => by rw [F3.T]; exact hkok k hk)
  have hcur34 := curKept_install hi.wrap hcp3 hks3 hj (y := y) (by rw [he'])
    (fun hi' hhi' _ => by rw [hhi3] at hhi'; cases hhi'; rfl)
  refine ⟨H4, F3.then_closure (T_install _ _ _ _) (addr_install _ _ _ _) (fun z => cont?_install _ _ _ _ _)
    (fun z hzy => by rw [hinfo_install, if_neg (Ne.symm hzy)]) ?_ hcur34, hctr⟩
  intro q z
  rw [idxOf_install, F3.idx]
  cases s with
  | key k => rfl
  | idx i =>
    show (if hi.parent = q ∧ y = z then some i else _) = _
    split
    · rename_i hqz
      obtain ⟨rfl, rfl⟩ := hqz
      cases qc with
      | map m => exact hso.elim
      | arr pa => exact hso.symm
    · rfl

/-- the slot a current closure points at is the only slot that refers to the container -/
theorem closureAt_unique_slot {w : World} {ctr : Nat} {stale : Option SlabID}
    (H : WorldOkGen D rank stale O w ctr) {y : SlabID} {hi : HInfo} {lim : Nat} {e : Elem}
    (hca : ClosureAt w y hi lim e) (hy : (w.cont? y).isSome) {p : SlabID} {pc : Cont} {le : Nat × Elem}
    (hp : w.cont? p = some pc) (hle : le ∈ pc.slots w.T) (hpay : le.2.pay = .ref y) : le = (lim, e) := by
  obtain ⟨j, pc0, ko, hpos, hpc0, hk⟩ := (closureAt_iff w y hi lim e).mp hca
  obtain ⟨j', hj'⟩ := List.mem_iff_getElem?.mp hle
  obtain ⟨ko', hk'⟩ := Cont.slot_kslot hj'
  have hpay0 : (ko, lim, e).2.2.pay = .ref y := by
    obtain ⟨pc1, hpc1, hp1, _⟩ := hpos
    rw [hpc0] at hpc1; cases hpc1
    have := Cont.kslot_pay hk
    rw [hp1] at this
    simpa using this.symm
  obtain ⟨h1, h2⟩ := H.unique.slot hpc0 hp hk hk' hpay0 hpay hy
  subst h1; subst h2
  rw [hp] at hpc0; cases hpc0
  rw [hk] at hk'
  simp only [Option.some.injEq, Prod.mk.injEq] at hk'
  exact hk'.2.symm

/-- the budget recorded by a closure is the one of the slot it points at -/
theorem closure_budget {w : World} {ctr : Nat} {stale : Option SlabID} (H : WorldOkGen D rank stale O w ctr)
    {y : SlabID} {hi : HInfo} (hh : AList.find? w.hinfo y = some hi) {lim : Nat} {e : Elem}
    (hca : ClosureAt w y hi lim e) : hi.maxInline = lim - 2 * hi.wrap := by
  rcases hca with ⟨pa, i, hpa, _, _, _, hlim⟩ | ⟨pm, k, hpm, hk, _, _, hlim⟩
  · rw [hlim]; exact ((H.closure y hi hh).1 pa hpa).1
  · rw [hlim]; exact ((H.closure y hi hh).2 pm k hpm hk).2.1

/-- a handle without current closure is the handle of a root -/
theorem HandleOk.root_of_not_current {w : World} {y : SlabID} (h : HandleOk w y)
    (hn : ∀ hi, AList.find? w.hinfo y = some hi → ¬ ClosureCurrent w y hi) : ∀ p, ¬ Holds w p y := by
  cases h with
  | root _ hr => exact hr
  | child _ hi h1 h2 _ => exact absurd h2 (hn hi h1)

/-- a notification that finds nothing to do (and at most drops the stale closure of a root) -/
theorem notify_root {w w' : World} {y : SlabID} {ctr : Nat} (H : WorldOkGen D rank (some y) O w ctr)
    (hroot : ∀ p, ¬ Holds w p y) (hT : w'.T = w.T) (ha : w'.addr = w.addr) (hc : w'.conts = w.conts)
    (hm : w'.mutIdx = w.mutIdx)
    (hh : ∀ z, z ≠ y → AList.find? w'.hinfo z = AList.find? w.hinfo z)
    (hhy : ∀ hi, AList.find? w'.hinfo y = some hi → AList.find? w.hinfo y = some hi) :
    WorldOkGen D rank none O w' ctr ∧ NFrame rank w w' y := by
  have hc' : ∀ z, w'.cont? z = w.cont? z := fun z => by simp [World.cont?, hc]
  have hidx : ∀ q, w'.idxOf q = w.idxOf q := idxOf_congr hm
  have hsub : ∀ x hi, AList.find? w'.hinfo x = some hi → AList.find? w.hinfo x = some hi := by
    intro x hi hx
    by_cases hxy : x = y
    · subst hxy; exact hhy hi hx
    · rw [← hh x hxy]; exact hx
  have hS : ContsSig w w' := ⟨hT, fun q => by rw [hc']⟩
  refine ⟨(H.unstale_root hroot).hinfo_sub hT ha hc' hm hsub,
    ⟨hT, ha, hS, fun z _ _ => hc' z, OSame.of_eq (hc' y), fun z hz _ => hh z hz, fun q z => by rw [hidx], ?_⟩⟩
  refine CurKept.of_sig hS (fun q z => by rw [hidx]) ?_
  intro x hi hx hcur
  by_cases hxy : x = y
  · subst hxy
    rw [closureCurrent_iff] at hcur
    obtain ⟨j, hj⟩ := hcur
    exact absurd hj.holds (hroot _)
  · rw [hh x hxy]; exact hx

/-- The main induction: a successful notification of `y`, started where only the parent slot of `y` is out
    of date (`stale = some y`), through a valid handle, every pending container above `y`, restores the
    invariant; what it changes is within `NFrame`; the counter does not go back. -/
theorem notify_ok {fuel : Nat} {w : World} {y : SlabID} {cx : Ctx} {w' : World} {cx' : Ctx}
    (h : notifyParent fuel w y cx = .ok (w', cx')) : NotifyOkAt D rank O w y cx w' cx' := by
  refine notify_induction (M := NotifyOkAt D rank O) ?_ ?_ ?_ ?_ fuel h
  · -- no closure: `y` is a root
    intro w y cx hnone H hhand _
    have hroot := hhand.root_of_not_current (fun hi hhi => by rw [hnone] at hhi; cases hhi)
    obtain ⟨h1, h2⟩ := notify_root H hroot rfl rfl rfl rfl (fun _ _ => rfl) (fun _ h => h)
    exact ⟨h1, h2, Nat.le_refl _⟩
  · -- the child stays a separate slab: the form its slot asks for, if its closure is current
    intro w y hi c cx hh hc hst1 hst2 H hhand hO
    have hysome : (w.cont? y).isSome := by rw [hc]; rfl
    have hOy : ¬ O y := fun hh => Nat.lt_irrefl _ (hO y hh hysome)
    refine ⟨?_, NFrame.refl _ _ _, Nat.le_refl _⟩
    by_cases hcur : ClosureCurrent w y hi
    · obtain ⟨lim, e, hca⟩ := hcur
      have hbud := closure_budget H hh hca
      refine H.unstale ?_
      intro p pc hp le hle c' hpay hc' wr _ hstand hfaith
      rw [hc] at hc'; cases hc'
      have hle' := closureAt_unique_slot H hca hysome hp hle hpay
      subst hle'
      have hw : hi.wrap = wr := hfaith hi hOy hh hca
      refine ⟨hstand hst1, ?_⟩
      rw [hst1, ← hw, ← hbud, hst2]
    · exact H.unstale_root (hhand.root_of_not_current
        (fun hi' hhi' => by rw [hh] at hhi'; cases hhi'; exact hcur))
  · -- the closure finds nothing: it was not current, `y` is a root
    intro w y hi c cx hh _ hlost H hhand _
    have hn : ¬ ClosureCurrent w y hi := fun hcur => by
      obtain ⟨qc, s, el, hf⟩ := ClosureCurrent.finds H.legal (fun qc hq => H.conts _ qc hq)
        (fun pm hpm => H.cfgOk hpm) H.closure hh hcur
      exact hlost.not_finds qc s el hf
    obtain ⟨h1, h2⟩ := notify_root (w' := { w with hinfo := AList.erase w.hinfo y }) H
      (hhand.root_of_not_current (fun hi' hhi' => by rw [hh] at hhi'; cases hhi'; exact hn))
      rfl rfl rfl rfl
      (fun z hz => show AList.find? (AList.erase w.hinfo y) z = _ by
        rw [AList.find?_erase, if_neg (Ne.symm hz)])
      (fun hi' hx => by
        have hx' : AList.find? (AList.erase w.hinfo y) y = some hi' := hx
        rw [AList.find?_erase, if_pos rfl] at hx'
        cases hx')
    exact ⟨h1, h2, Nat.le_refl _⟩
  · -- one link of the chain
    intro w y cx hi c qc s el e w1 cx1 old qc' cx2 w3 cx3 hh hc _ hf hst hs _ _ R H hhand hO
    obtain ⟨hi', hhi', _, hpar⟩ := hhand.of_held (hf.holds H.legal (H.filed hf.parent) H.closure hh)
    rw [hh] at hhi'; cases hhi'
    exact notify_link H hO hh hc hf hpar hst hs R

end World
end Atree

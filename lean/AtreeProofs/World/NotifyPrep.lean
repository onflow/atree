import AtreeProofs.World.StepBasics
import AtreeProofs.World.Frame
/-
  Preparation of the main induction: the frame of a notification (`NFrame`), transfer of
  `HandleOk`, what `childStorable` does to a valid child, the budget of an inlined parent.
-/
namespace Atree
open Gen

namespace World

variable {D : SlabID → DigestFn 4} {rank : SlabID → Nat} {O : SlabID → Prop}

theorem closureCurrent_iff (w : World) (x : SlabID) (hi : HInfo) :
    ClosureCurrent w x hi ↔ ∃ j, ClosurePos w x hi j := by
  constructor
  · rintro ⟨lim, e, hca⟩
    obtain ⟨j, _, _, hpos, _⟩ := (closureAt_iff w x hi lim e).mp hca
    exact ⟨j, hpos⟩
  · rintro ⟨j, hpos⟩
    obtain ⟨pc, hpc, hpay, _⟩ := id hpos
    obtain ⟨le, hle, _⟩ := Cont.pay_slot (T := w.T) hpay
    obtain ⟨ko, hk⟩ := Cont.slot_kslot hle
    exact ⟨le.1, le.2, (closureAt_iff w x hi le.1 le.2).mpr ⟨j, pc, ko, hpos, hpc, hk⟩⟩

theorem ClosurePos.holds {w : World} {x : SlabID} {hi : HInfo} {j : Nat} (h : ClosurePos w x hi j) :
    Holds w hi.parent x := by
  obtain ⟨pc, hpc, hpay, _⟩ := h
  exact ⟨pc, hpc, List.mem_of_getElem? hpay⟩

/-- `ClosurePos` only looks at the parent and the key of the closure -/
theorem ClosurePos.congr_hi {w : World} {x : SlabID} {hi hi' : HInfo} {j : Nat} (h : ClosurePos w x hi j)
    (hp : hi'.parent = hi.parent)
    (hk : ∀ pm, w.cont? hi.parent = some (.map pm) → hi'.key = hi.key) : ClosurePos w x hi' j := by
  obtain ⟨pc, hpc, hpay, harr, hmap⟩ := h
  refine ⟨pc, by rw [hp]; exact hpc, hpay, by rw [hp]; exact harr, ?_⟩
  intro ha
  cases pc with
  | arr a => cases ha
  | map m => rw [hk m hpc]; exact hmap ha

/-- what the handles need from a world update -/
def CurKept (w w' : World) : Prop :=
  ∀ x hi, AList.find? w.hinfo x = some hi → ClosureCurrent w x hi →
    ∃ hi', AList.find? w'.hinfo x = some hi' ∧ hi'.parent = hi.parent ∧ ClosureCurrent w' x hi'

theorem CurKept.refl (w : World) : CurKept w w := fun _ hi h1 h2 => ⟨hi, h1, rfl, h2⟩

theorem CurKept.trans {w1 w2 w3 : World} (h12 : CurKept w1 w2) (h23 : CurKept w2 w3) : CurKept w1 w3 := by
  intro x hi h1 h2
  obtain ⟨hi2, a1, a2, a3⟩ := h12 x hi h1 h2
  obtain ⟨hi3, b1, b2, b3⟩ := h23 x hi2 a1 a3
  exact ⟨hi3, b1, b2.trans a2, b3⟩

/-- same signatures, same index lookups, closures kept: current closures stay current -/
theorem CurKept.of_sig {w w' : World} (hS : ContsSig w w')
    (hidx : ∀ q z, AList.find? (w'.idxOf q) z = AList.find? (w.idxOf q) z)
    (hh : ∀ x hi, AList.find? w.hinfo x = some hi → ClosureCurrent w x hi → AList.find? w'.hinfo x = some hi) :
    CurKept w w' := by
  intro x hi h1 h2
  refine ⟨hi, hh x hi h1 h2, rfl, ?_⟩
  rw [closureCurrent_iff] at h2 ⊢
  obtain ⟨j, hj⟩ := h2
  exact ⟨j, hj.transfer hS (hidx _ _)⟩

/-- a current handle stays current if, along its chain of closures (within `P`), no new holder appears and
    current closures stay current -/
theorem HandleOk.transfer_on {w w' : World} (P : SlabID → Prop)
    (hP : ∀ x hi, P x → AList.find? w.hinfo x = some hi → ClosureCurrent w x hi → P hi.parent)
    (hholds : ∀ q x, P x → Holds w' q x → Holds w q x)
    (hcur : ∀ x hi, P x → AList.find? w.hinfo x = some hi → ClosureCurrent w x hi →
      ∃ hi', AList.find? w'.hinfo x = some hi' ∧ hi'.parent = hi.parent ∧ ClosureCurrent w' x hi')
    {z : SlabID} (h : HandleOk w z) (hz : P z) : HandleOk w' z := by
  induction h with
  | root x hr => exact HandleOk.root x (fun p hp => hr p (hholds p x hz hp))
  | child x hi hhi hc _ ih =>
    obtain ⟨hi', h1, h2, h3⟩ := hcur x hi hz hhi hc
    exact HandleOk.child x hi' h1 h3 (by rw [h2]; exact ih (hP x hi hz hhi hc))

theorem HandleOk.transfer {w w' : World} (hholds : ∀ p x, Holds w' p x → Holds w p x) (hcur : CurKept w w')
    {z : SlabID} (h : HandleOk w z) : HandleOk w' z :=
  h.transfer_on (fun _ => True) (fun _ _ _ _ _ => trivial) (fun q x _ => hholds q x) (fun x hi _ => hcur x hi) trivial

/-- a handle that is held has a current closure, and the parent's handle is current -/
theorem HandleOk.of_held {w : World} {x p : SlabID} (h : HandleOk w x) (hp : Holds w p x) :
    ∃ hi, AList.find? w.hinfo x = some hi ∧ ClosureCurrent w x hi ∧ HandleOk w hi.parent := by
  cases h with
  | root _ hr => exact absurd hp (hr p)
  | child _ hi h1 h2 h3 => exact ⟨hi, h1, h2, h3⟩

structure NFrame (rank : SlabID → Nat) (w w' : World) (y : SlabID) : Prop where
  T : w'.T = w.T
  addr : w'.addr = w.addr
  sig : ContsSig w w'
  above : ∀ z, z ≠ y → rank y ≤ rank z → w'.cont? z = w.cont? z
  self : OSame (w.cont? y) (w'.cont? y)
  hinfo : ∀ z, z ≠ y → rank y ≤ rank z → AList.find? w'.hinfo z = AList.find? w.hinfo z
  idx : ∀ q z, AList.find? (w'.idxOf q) z = AList.find? (w.idxOf q) z
  cur : CurKept w w'

theorem NFrame.refl (rank : SlabID → Nat) (w : World) (y : SlabID) : NFrame rank w w y :=
  ⟨rfl, rfl, ContsSig.refl w, fun _ _ _ => rfl, OSame.refl _, fun _ _ _ => rfl, fun _ _ => rfl, CurKept.refl w⟩

theorem slot_lim_le {T : Nat} {c : Cont} {le : Nat × Elem} (h : le ∈ c.slots T) : le.1 ≤ maxInlineArr T := by
  cases c with
  | arr a =>
    simp only [Cont.slots, List.mem_map] at h
    obtain ⟨e, _, rfl⟩ := h
    exact Nat.le_refl _
  | map m =>
    simp only [Cont.slots, List.mem_map] at h
    obtain ⟨p, _, rfl⟩ := h
    exact maxInlineMapValue_le_arr T _

theorem holds_slot {w : World} {p x : SlabID} (h : Holds w p x) :
    ∃ pc le, w.cont? p = some pc ∧ le ∈ pc.slots w.T ∧ le.2.pay = .ref x := by
  obtain ⟨pc, hpc, hm⟩ := h
  obtain ⟨j, hj⟩ := List.mem_iff_getElem?.mp hm
  obtain ⟨le, hle, hpay⟩ := Cont.pay_slot (T := w.T) hj
  exact ⟨pc, le, hpc, List.mem_of_getElem? hle, hpay⟩

/-- an inlined container that is in sync fits the per-element limit -/
theorem WorldOkGen.inl_budget {w : World} {ctr : Nat} {stale : Option SlabID}
    (H : WorldOkGen D rank stale O w ctr) {p : SlabID} {pc : Cont} (hp : w.cont? p = some pc)
    (hi : pc.isInlined = true) (hns : some p ≠ stale) (hO : ¬ O p) : pc.rootSize ≤ maxInlineArr w.T := by
  obtain ⟨q, hq⟩ := H.inlRef p pc hp hi hO
  obtain ⟨qc, le, hqc, hle, hpay⟩ := holds_slot hq
  obtain ⟨wr, _, h2, _, _⟩ := H.slots q qc hqc le hle p pc hpay hp
  obtain ⟨_, h2b⟩ := h2 hns
  rw [hi, (H.conts p pc hp).inlinable_inl hi] at h2b
  have := of_decide_eq_true h2b.symm
  have := slot_lim_le hle
  omega

/-- the root slab of an inlined container in sync stays within the threshold when it grows by at most
    one array element or one map entry -/
theorem WorldOkGen.root_fits {w : World} {ctr : Nat} {stale : Option SlabID}
    (H : WorldOkGen D rank stale O w ctr) {p : SlabID} {pc : Cont} (hp : w.cont? p = some pc)
    (hns : some p ≠ stale) (hO : ¬ O p) (hi : pc.isInlined = true) {r s : Nat}
    (hs : s ≤ maxInlineArr w.T ∨ s ≤ maxEntry w.T) (h : r ≤ pc.rootSize + s) : r ≤ w.T :=
  Atree.root_fits H.legal (H.inl_budget hp hi hns hO) hs h

/-- room for one more element in an inlined array that is in sync -/
theorem WorldOkGen.arr_room {w : World} {ctr : Nat} {stale : Option SlabID}
    (H : WorldOkGen D rank stale O w ctr) {p : SlabID} {a : Arr} (hp : w.cont? p = some (.arr a))
    (hns : some p ≠ stale) (hO : ¬ O p) :
    a.isInlined = true → a.rootHdr.size + maxInlineArr w.T ≤ maxThr w.T :=
  fun hi => room_arr H.legal (H.inl_budget hp hi hns hO)

theorem WorldOkGen.map_room {w : World} {ctr : Nat} {stale : Option SlabID}
    (H : WorldOkGen D rank stale O w ctr) {p : SlabID} {m : OMap 3} (hp : w.cont? p = some (.map m))
    (hns : some p ≠ stale) (hO : ¬ O p) :
    m.isInlined = true → m.rootHdr.size + maxEntry w.T ≤ maxThr w.T :=
  fun hi => room_entry H.legal (H.inl_budget hp hi hns hO)

/-- the configuration the model derives from the world is the one of the map filed under `p` -/
theorem WorldOkGen.cfgOk {w : World} {ctr : Nat} {stale : Option SlabID} (H : WorldOkGen D rank stale O w ctr)
    {p : SlabID} {pm : OMap 3} (hp : w.cont? p = some (.map pm)) : CfgOk w.mcfg w.T pm :=
  (H.filed hp).cfgOk

/-- a map has no index table -/
theorem WorldOkGen.map_noidx {w : World} {ctr : Nat} {stale : Option SlabID}
    (H : WorldOkGen D rank stale O w ctr) {p : SlabID} {m : OMap 3}
    (hp : w.cont? p = some (.map m)) (x : SlabID) : AList.find? (w.idxOf p) x = none := by
  cases h : AList.find? (w.idxOf p) x with
  | none => rfl
  | some i =>
    obtain ⟨_, a, ha⟩ := H.idxLive p x i h
    rw [hp] at ha; cases ha

/-- a map has no index table, so after `setCont` its table equals the old one shifted by any `f`: the
    `hidx` shape that `step_mutate` asks for -/
theorem WorldOkGen.map_idx_shift {w : World} {ctr : Nat} {stale : Option SlabID}
    (H : WorldOkGen D rank stale O w ctr) {p : SlabID} {m : OMap 3}
    (hp : w.cont? p = some (.map m)) (c : Cont) (f : Nat → Nat) (q x : SlabID) :
    AList.find? ((w.setCont p c).idxOf q) x =
      if p = q then (AList.find? (w.idxOf p) x).map f else AList.find? (w.idxOf q) x := by
  split
  · rename_i hpq; subst hpq
    rw [idxOf_setCont, H.map_noidx hp x]; rfl
  · rfl

/-- a container that nobody refers to has no entry in any index table -/
theorem WorldOkGen.noidx_of_root {w : World} {ctr : Nat}
    (H : WorldOkGen D rank none (fun _ => False) w ctr) {x : SlabID} (hroot : ∀ q, ¬ Holds w q x) (q : SlabID)
    (j : Nat) : AList.find? (w.idxOf q) x ≠ some j := by
  intro hj
  obtain ⟨_, a0, ha0⟩ := H.idxLive q x j hj
  exact hroot q ⟨_, ha0, List.mem_of_getElem? (H.mutIdx q a0 ha0 x j hj id)⟩

/-- What `Storable()` of a valid child `c`, filed under `y`, leaves: the child in the form `c1` its slot asks for
    (inline exactly when it fits `lim` behind `wrap` wrappers), the element `e` for the parent within the
    per-element limit, the rest of the world as it was. -/
structure ChildStored (D : SlabID → DigestFn 4) (w : World) (ctr : Nat) (y : SlabID) (c : Cont) (wrap lim : Nat)
    (cx : Ctx) (e : Elem) (w1 : World) (cx1 : Ctx) (c1 : Cont) : Prop where
  sameData : Cont.SameData c c1
  ok : ContOk w.T (D y) ctr c1
  form : c1.isInlined = c1.inlinable (lim - 2 * wrap)
  formOf : c1.isInlined = c.inlinable (lim - 2 * wrap)
  fits : c1.isInlined = true → c1.rootSize ≤ lim - 2 * wrap
  elem : e = ⟨slotSize c1 wrap, .ref y⟩
  pos : 1 ≤ e.size
  le : e.size ≤ lim
  child : w1.cont? y = some c1
  others : ∀ z, z ≠ y → w1.cont? z = w.cont? z
  T : w1.T = w.T
  addr : w1.addr = w.addr
  hinfo : w1.hinfo = w.hinfo
  mutIdx : w1.mutIdx = w.mutIdx
  ctr : cx1.ctr = cx.ctr

/-- the element that stands for a valid child in the form its slot asks for is within the limit of the slot -/
theorem slotSize_bounds {T : Nat} {Dy : DigestFn 4} {ctr : Nat} {c1 : Cont} {wrap lim : Nat} (hok : ContOk T Dy ctr c1)
    (hwb : slabIDStorableSize + 2 * wrap ≤ lim) (hfit : c1.isInlined = true → c1.rootSize ≤ lim - 2 * wrap) :
    1 ≤ slotSize c1 wrap ∧ slotSize c1 wrap ≤ lim := by
  cases hi : c1.isInlined
  · rw [slotSize_standalone hi]; exact ⟨Nat.le_trans (by decide) (Nat.le_add_right _ _), hwb⟩
  · rw [slotSize_inl hi]
    exact ⟨Nat.le_trans (Nat.le_trans (by decide) (Cont.rootSize_pos_of_inl hok hi)) (Nat.le_add_right _ _),
      Nat.add_le_of_le_sub (Nat.le_trans (Nat.le_add_left _ _) hwb) (hfit hi)⟩

/-- `childStorable` on a valid child, by the three cases of `childStorable_returns`; of the world it needs what
    the invariant says of the child alone -/
theorem childStorable_valid {w : World} {ctr : Nat} (hlegal : legalThreshold w.T = true) {y : SlabID} {c : Cont}
    (hy : w.cont? y = some c) (F : FiledOk D w ctr y c) {wrap lim : Nat} (hwb : slabIDStorableSize + 2 * wrap ≤ lim)
    {cx : Ctx} {e : Elem} {w1 : World} {cx1 : Ctx} (hst : w.childStorable y wrap lim cx = .ok (e, w1, cx1)) :
    ∃ c1, ChildStored D w ctr y c wrap lim cx e w1 cx1 c1 := by
  have hok := F.ok
  rcases childStorable_returns hy wrap lim cx with ⟨hs, heq⟩ | ⟨c', hable, hinl, hin, heq⟩ | ⟨c', hable, hinl, hun, heq⟩ <;>
    rw [heq] at hst <;> cases hst
  · have hfit : c.isInlined = true → c.rootSize ≤ lim - 2 * wrap := fun hi => by
      have := hok.inlinable_inl hi (lim - 2 * wrap)
      rw [← hs, hi] at this
      exact of_decide_eq_true this.symm
    obtain ⟨h1, h2⟩ := slotSize_bounds hok hwb hfit
    exact ⟨c, .refl c, hok, hs, hs, hfit, rfl, h1, h2, hy, fun _ _ => rfl, rfl, rfl, rfl, rfl, rfl⟩
  · obtain ⟨_, i2, i3, _⟩ := Cont.inline_ok hin
    obtain ⟨j1, j2⟩ := Cont.inline_inlinable hin (lim - 2 * wrap)
    have hok' := contOk_inline hok hin
    obtain ⟨h1, h2⟩ := slotSize_bounds hok' hwb (fun _ => j2 hable)
    rw [← slotSize_inl i2]
    exact ⟨c', i3, hok', by rw [j1, i2, hable], by rw [i2, hable], fun _ => j2 hable, rfl, h1, h2,
      cont?_setCont_self _ _ _, fun z hz => cont?_setCont_ne _ _ _ _ hz, rfl, rfl, rfl, rfl, rfl⟩
  · obtain ⟨i1, i2, i3, _⟩ := Cont.uninline_ok hun
    have hok' := contOk_uninline hlegal hok (F.band i1) hun
    obtain ⟨h1, h2⟩ := slotSize_bounds hok' hwb (fun hi => by rw [i2] at hi; cases hi)
    rw [← slotSize_standalone i2]
    exact ⟨c', i3, hok', by rw [Cont.uninline_inlinable hok hun, i2, hable], by rw [i2, hable],
      (fun hi => by rw [i2] at hi; cases hi), rfl, h1, h2,
      cont?_setCont_self _ _ _, fun z hz => cont?_setCont_ne _ _ _ _ hz, rfl, rfl, rfl, rfl, rfl⟩

end World
end Atree

import AtreeProofs.World.OpsMutation
/-
  `arrInsert`, `arrRemove` and `arrSet` keep the global invariant: the slot-level laws of their shapes.
-/
namespace Atree
open Gen

namespace World

variable {D : SlabID → DigestFn 4}

/-- what `Arr.insert` did to the array -/
def InsertedQ (i : Nat) : Cont → Option Elem → Option Elem → Cont → Prop :=
  fun pc e _ pc' => ∃ a a' e0, pc = .arr a ∧ pc' = .arr a' ∧ e = some e0 ∧ i ≤ a.toList.length ∧
    a'.toList = a.toList.insertIdx i e0

theorem shInsert_slotLaw (p : SlabID) (i : Nat) (v : WVal) (T : Nat) : (shInsert p i v).SlotLaw D T (InsertedQ i) where
  key := fun _ _ h => by cases h
  tables := shInsert_tableLaw p i v
  core := by
    rintro w1 rank O _ _ _ _ cx1 cx2 rfl H1 hp hO hfit - ⟨a, a', e, rfl, rfl, rfl, rfl, -, hins⟩
    obtain ⟨he1, he2⟩ := hfit e rfl
    have he2 : e.size ≤ maxInlineArr w1.T := he2
    have hpok : ArrOk w1.T a cx1.ctr := H1.conts p _ hp
    obtain ⟨hi, hl, hok', hinl', hrid, _, hctr2, hsz⟩ :=
      hpok.insert_ok H1.legal (StorOk.of_elemOk ⟨he1, he2⟩) (H1.arr_room hp (by intro h; cases h) hO) hins
    rw [toStorable_fit _ _ e cx1 he2] at hl hsz
    simp only at hl hsz
    have hbp : (Cont.arr a').isInlined = true → (Cont.arr a').rootSize ≤ w1.T := fun hi2 =>
      H1.root_fits hp (by intro h; cases h) hO (hinl'.symm.trans hi2) (.inl he2)
        (Nat.le_of_eq (hsz (hinl'.symm.trans hi2)).1)
    exact ⟨hok', rfl, hinl', hrid, hbp, hctr2, ⟨a, a', e, rfl, rfl, rfl, hi, hl⟩, _, _,
      some (none, maxInlineArr w1.T, e), i, none,
      ⟨by rw [kslots_arr_insertIdx w1.T hl]; exact Reindex.insertIdx _ (by rw [kslots_arr_length]; exact hi) _,
        fun e0 he => ⟨.idx i, rfl, by cases he; rfl, fun _ h => by cases h; rfl⟩, fun h => (nomatch h),
        fun _ h => (nomatch h), fun _ => rfl⟩,
      find?_idxOf_shiftIdx _ _ _⟩
  erase := fun _ _ _ => Or.inr ⟨rfl, fun ⟨_, _, _, _, _, _, h, _⟩ => Or.inr h⟩

/-- `arrInsert` keeps the global invariant; relative to the rank function `rank0` of the world
    before: the frame `OpFrame` (containers not below `p`, closures, index tables, all handles).
    An instance of `Mutation.okA` (which explains the suffix). -/
theorem arrInsert_okA {rank0 : SlabID → Nat} {w : World} {p : SlabID} {i : Nat} {v : WVal} {cx : Ctx} {w' : World}
    {cx' : Ctx} (H0 : WorldOkGen D rank0 none (fun _ => False) w cx.ctr) (hhand : HandleOk w p)
    (hv : WValOk w p (maxInlineArr w.T) v) (h : w.arrInsert p i v cx = .ok (w', cx')) :
    WorldOk D w' cx'.ctr ∧ cx.ctr ≤ cx'.ctr ∧ InsertedAt w w' p i v ∧ HandleOk w' p ∧ SigFrame w w' p ∧
      OpFrame rank0 w w' p (Moved (some v) none) := by
  obtain ⟨h1, h2, h3, h4, h5, _, _, pc3, _, _, hp, hp3, hsd, ⟨a, a', e, rfl, rfl, rfl, hi, hl⟩, hplain, hchild, _,
      _⟩ :=
    Mutation.okA (shInsert_slotLaw p i v w.T) H0 hhand (fun _ h => by cases h; exact hv) (arrInsert_mutation.mp h)
  obtain ⟨a3, rfl, hl3, _⟩ := hsd.arr
  exact ⟨h1, h2, ⟨a, a3, e, hp, hp3, hi, by rw [hl3, hl],
    fun ep hvp => hplain e ep rfl (congrArg some hvp), fun x wr hvx => hchild e x wr rfl (congrArg some hvx)⟩,
    h3, h4, h5⟩

theorem arrInsert_ok {w : World} {p : SlabID} {i : Nat} {v : WVal} {cx : Ctx} {w' : World} {cx' : Ctx}
    (H : WorldOk D w cx.ctr) (hhand : HandleOk w p) (hv : WValOk w p (maxInlineArr w.T) v)
    (h : w.arrInsert p i v cx = .ok (w', cx')) :
    WorldOk D w' cx'.ctr ∧ cx.ctr ≤ cx'.ctr ∧ InsertedAt w w' p i v ∧ HandleOk w' p ∧ SigFrame w w' p := by
  obtain ⟨rank0, H0⟩ := H
  obtain ⟨h1, h2, h3, h4, h5, _⟩ := arrInsert_okA H0 hhand hv h
  exact ⟨h1, h2, h3, h4, h5⟩

/-- what `Arr.remove` did to the array -/
def RemovedQ (i : Nat) : Cont → Option Elem → Option Elem → Cont → Prop :=
  fun pc _ old pc' => ∃ a a' o, pc = .arr a ∧ pc' = .arr a' ∧ old = some o ∧ a.toList[i]? = some o ∧
    a'.toList = a.toList.eraseIdx i

theorem shRemove_slotLaw (p : SlabID) (i T : Nat) : (shRemove p i).SlotLaw D T (RemovedQ i) where
  key := fun _ _ h => nomatch h
  tables := shRemove_tableLaw p i
  core := by
    rintro w1 rank O _ _ e _ cx1 cx2 rfl H1 hp hO - he ⟨a, a', o, rfl, rfl, rfl, hrem⟩
    cases he rfl
    have hpok : ArrOk w1.T a cx1.ctr := H1.conts p _ hp
    obtain ⟨hold, hl, hok', hinl', hrid, _, hctr1, hsz⟩ := hpok.remove_ok H1.legal hrem
    have hks : ((Cont.arr a).kslots w1.T)[i]? = some (none, maxInlineArr w1.T, o) := by
      rw [Cont.kslots_arr]; exact ⟨o, hold, rfl⟩
    have hbp : (Cont.arr a').isInlined = true → (Cont.arr a').rootSize ≤ w1.T := fun hi2 =>
      H1.root_fits (s := 0) hp (by intro h; cases h) hO (hinl'.symm.trans hi2) (.inl (Nat.zero_le _))
        (by show a'.rootHdr.size ≤ a.rootHdr.size + 0; rw [← (hsz (hinl'.symm.trans hi2)).1]; exact Nat.le_add_right _ _)
    exact ⟨hok', rfl, hinl', hrid, hbp, hctr1, ⟨a, a', o, rfl, rfl, rfl, hold, hl⟩, _, _, none, 0, some i,
      ⟨by rw [kslots_arr_eraseIdx w1.T hl]; exact Reindex.eraseIdx _ i, fun _ h => (nomatch h), fun _ => rfl,
        fun o' ho' => ⟨i, none, _, rfl, by cases ho'; exact hks⟩, fun h => (nomatch h)⟩,
      find?_idxOf_shiftIdx _ _ _⟩
  erase := fun _ _ _ => Or.inl rfl

theorem arrRemove_okA {rank0 : SlabID → Nat} {w : World} {p : SlabID} {i : Nat} {cx : Ctx} {old' : Elem} {w' : World}
    {cx' : Ctx} (H0 : WorldOkGen D rank0 none (fun _ => False) w cx.ctr) (hhand : HandleOk w p)
    (h : w.arrRemove p i cx = .ok (old', w', cx')) :
    WorldOk D w' cx'.ctr ∧ cx.ctr ≤ cx'.ctr ∧ RemovedAt w w' p i old' ∧ HandleOk w' p ∧ SigFrame w w' p ∧
      OpFrame rank0 w w' p (Moved none (some old')) := by
  obtain ⟨h1, h2, h3, h4, h5, _, _, pc3, _, _, hp, hp3, hsd, ⟨a, a', o, rfl, rfl, rfl, hold, hl⟩, _, _, hback, _⟩ :=
    Mutation.okA (shRemove_slotLaw p i w.T) H0 hhand (fun _ h => nomatch h) (arrRemove_mutation.mp h)
  obtain ⟨o', ho', hpay, hb⟩ := hback o rfl
  cases ho'
  obtain ⟨a3, rfl, hl3, _⟩ := hsd.arr
  exact ⟨h1, h2, ⟨a, a3, o, hp, hp3, hold, by rw [hl3, hl], hpay, hb⟩, h3, h4, h5⟩

theorem arrRemove_ok {w : World} {p : SlabID} {i : Nat} {cx : Ctx} {old' : Elem} {w' : World} {cx' : Ctx}
    (H : WorldOk D w cx.ctr) (hhand : HandleOk w p)
    (h : w.arrRemove p i cx = .ok (old', w', cx')) :
    WorldOk D w' cx'.ctr ∧ cx.ctr ≤ cx'.ctr ∧ RemovedAt w w' p i old' ∧ HandleOk w' p ∧ SigFrame w w' p := by
  obtain ⟨rank0, H0⟩ := H
  obtain ⟨h1, h2, h3, h4, h5, _⟩ := arrRemove_okA H0 hhand h
  exact ⟨h1, h2, h3, h4, h5⟩

/-- what `Arr.set` did to the array -/
def SetQ (i : Nat) : Cont → Option Elem → Option Elem → Cont → Prop :=
  fun pc e old pc' => ∃ a a' e0 o, pc = .arr a ∧ pc' = .arr a' ∧ e = some e0 ∧ old = some o ∧
    a.toList[i]? = some o ∧ a'.toList = a.toList.set i e0

theorem shSet_slotLaw (p : SlabID) (i : Nat) (v : WVal) (T : Nat) : (shSet p i v).SlotLaw D T (SetQ i) where
  key := fun _ _ h => by cases h
  tables := shSet_tableLaw p i v
  core := by
    rintro w1 rank O _ _ _ _ cx1 cx2 rfl H1 hp hO hfit - ⟨a, a', e, o, rfl, rfl, rfl, rfl, -, hs⟩
    obtain ⟨he1, he2⟩ := hfit e rfl
    have he2 : e.size ≤ maxInlineArr w1.T := he2
    have hpok : ArrOk w1.T a cx1.ctr := H1.conts p _ hp
    obtain ⟨hold, hl, hok', hinl', hrid, _, hctr2, hsz⟩ :=
      hpok.set_ok H1.legal (StorOk.of_elemOk ⟨he1, he2⟩) (H1.arr_room hp (by intro h; cases h) hO) hs
    rw [toStorable_fit _ _ e cx1 he2] at hl hsz
    simp only at hl hsz
    have hbp : (Cont.arr a').isInlined = true → (Cont.arr a').rootSize ≤ w1.T := fun hi2 =>
      H1.root_fits hp (by intro h; cases h) hO (hinl'.symm.trans hi2) (.inl he2)
        (by show a'.rootHdr.size ≤ a.rootHdr.size + e.size; rw [← (hsz (hinl'.symm.trans hi2)).1]; exact Nat.le_add_right _ _)
    have hks : ((Cont.arr a).kslots w1.T)[i]? = some (none, maxInlineArr w1.T, o) := by
      rw [Cont.kslots_arr]; exact ⟨o, hold, rfl⟩
    exact ⟨hok', rfl, hinl', hrid, hbp, hctr2, ⟨a, a', e, o, rfl, rfl, rfl, rfl, hold, hl⟩, _, _,
      some (none, maxInlineArr w1.T, e), i, some i,
      ⟨by rw [kslots_arr_set w1.T hl]; exact Reindex.set _ (List.getElem?_eq_some_iff.mp hks).1 _,
        fun e0 he => ⟨.idx i, rfl, by cases he; rfl, fun _ h => by cases h; rfl⟩, fun h => (nomatch h),
        fun o' ho' => ⟨i, none, _, rfl, by cases ho'; exact hks⟩, fun h => (nomatch h)⟩,
      fun q x => by
        split
        · rename_i hpq; subst hpq; exact Option.map_id'.symm
        · rfl⟩
  erase := fun w ov hne => Or.inl (by
    cases ov with
    | none => rfl
    | some o =>
      cases v with
      | plain _ => rfl
      | child x wr =>
        have hb : (x == o) = false := beq_eq_false_iff_ne.mpr (hne o x wr rfl rfl)
        show (if (x == o) = true then w else _) = _
        rw [hb]; rfl)

theorem arrSet_okA {rank0 : SlabID → Nat} {w : World} {p : SlabID} {i : Nat} {v : WVal} {cx : Ctx} {old' : Elem}
    {w' : World} {cx' : Ctx} (H0 : WorldOkGen D rank0 none (fun _ => False) w cx.ctr) (hhand : HandleOk w p)
    (hv : WValOk w p (maxInlineArr w.T) v) (h : w.arrSet p i v cx = .ok (old', w', cx')) :
    WorldOk D w' cx'.ctr ∧ cx.ctr ≤ cx'.ctr ∧ SetAt w w' p i v old' ∧ HandleOk w' p ∧ SigFrame w w' p ∧
      OpFrame rank0 w w' p (Moved (some v) (some old')) := by
  obtain ⟨h1, h2, h3, h4, h5, _, _, pc3, _, _, hp, hp3, hsd, ⟨a, a', e, o, rfl, rfl, rfl, rfl, hold, hl⟩, hplain,
      hchild, hback, _⟩ :=
    Mutation.okA (shSet_slotLaw p i v w.T) H0 hhand (fun _ h => by cases h; exact hv) (arrSet_mutation.mp h)
  obtain ⟨o', ho', hpay, hb⟩ := hback o rfl
  cases ho'
  obtain ⟨a3, rfl, hl3, _⟩ := hsd.arr
  exact ⟨h1, h2, ⟨a, a3, o, e, hp, hp3, hold, by rw [hl3, hl], hpay, hb,
    fun ep hvp => hplain e ep rfl (congrArg some hvp), fun x wr hvx => hchild e x wr rfl (congrArg some hvx)⟩,
    h3, h4, h5⟩

theorem arrSet_ok {w : World} {p : SlabID} {i : Nat} {v : WVal} {cx : Ctx} {old' : Elem} {w' : World} {cx' : Ctx}
    (H : WorldOk D w cx.ctr) (hhand : HandleOk w p) (hv : WValOk w p (maxInlineArr w.T) v)
    (h : w.arrSet p i v cx = .ok (old', w', cx')) :
    WorldOk D w' cx'.ctr ∧ cx.ctr ≤ cx'.ctr ∧ SetAt w w' p i v old' ∧ HandleOk w' p ∧ SigFrame w w' p := by
  obtain ⟨rank0, H0⟩ := H
  obtain ⟨h1, h2, h3, h4, h5, _⟩ := arrSet_okA H0 hhand hv h
  exact ⟨h1, h2, h3, h4, h5⟩

end World
end Atree

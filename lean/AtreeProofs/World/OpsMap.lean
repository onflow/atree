import AtreeProofs.World.OpsMutation
/-
  `mapSet` and `mapRemove` keep the global invariant: the slot-level laws of their shapes.
-/
namespace Atree
open Gen

namespace World

variable {D : SlabID → DigestFn 4}

/-- what `OMap.set` did to the map -/
def MapSetQ (k : MKey) : Cont → Option Elem → Option Elem → Cont → Prop :=
  fun pc e old pc' => ∃ m m' e0, pc = .map m ∧ pc' = .map m' ∧ e = some e0 ∧
    SetEffect m.toList m'.toList k e0 old

theorem shMapSet_slotLaw {p : SlabID} {k : MKey} {T : Nat} (hk : KeyOk T 4 (D p) k) (v : WVal) :
    (shMapSet p k v).SlotLaw D T (MapSetQ k) where
  key := fun _ _ h => by cases h; exact hk
  tables := shMapSet_tableLaw p k v
  core := by
    rintro w1 rank O _ _ _ old cx1 cx2 rfl H1 hp hO hfit - ⟨m, m', e, rfl, rfl, rfl, hs⟩
    obtain ⟨he1, he2⟩ := hfit e rfl
    have he2 : e.size ≤ maxInlineMapValue w1.T k.size := he2
    have hmok : MapOk w1.T (D p) m cx1.ctr := H1.conts p _ hp
    obtain ⟨heff, hok', hinl', hrid, hctr2, hsz⟩ :=
      hmok.set_ok H1.legal (H1.cfgOk hp) hk (⟨he1, Or.inr he2⟩ : ValueOkR w1.T k.size e)
        (H1.map_room hp (by intro h; cases h) hO) hs
    have hsv : storedValue w1.mcfg k e cx1 = e := by
      show (toStorableLim (maxInlineMapValue w1.T k.size) w1.addr e cx1).1 = e
      rw [toStorableLim_of_le _ _ _ _ he2]
    rw [hsv] at heff
    have hbp : (Cont.map m').isInlined = true → (Cont.map m').rootSize ≤ w1.T := fun hi2 =>
      H1.root_fits hp (by intro h; cases h) hO (hinl'.symm.trans hi2) (.inr (Nat.le_refl _))
        (hsz (hinl'.symm.trans hi2))
    refine ⟨hok', rfl, hinl', hrid, hbp, hctr2, ⟨m, m', e, rfl, rfl, rfl, heff⟩, ?_⟩
    rcases heff with ⟨rfl, _, A, B, hA, hB⟩ | ⟨v0, A, B, rfl, hA, hB⟩
    · have hlen : A.length ≤ ((Cont.map m).kslots w1.T).length := by simp [Cont.kslots, hA]
      exact ⟨_, _, some (some k, maxInlineMapValue w1.T k.size, e), A.length, none,
        ⟨by rw [kslots_map_insert w1.T hA hB]; exact Reindex.insertIdx _ hlen _,
          fun e0 he => ⟨.key k, rfl, by cases he; rfl, fun _ h => (nomatch h)⟩, fun h => (nomatch h),
          fun _ h => (nomatch h), fun _ => rfl⟩,
        H1.map_idx_shift hp _ _⟩
    · have hlen : A.length < ((Cont.map m).kslots w1.T).length := by simp [Cont.kslots, hA]
      exact ⟨_, _, some (some k, maxInlineMapValue w1.T k.size, e), A.length, some A.length,
        ⟨by rw [kslots_map_set w1.T hA hB]; exact Reindex.set _ hlen _,
          fun e0 he => ⟨.key k, rfl, by cases he; rfl, fun _ h => (nomatch h)⟩, fun h => (nomatch h),
          fun o ho => ⟨A.length, _, _, rfl, by cases ho; exact kslots_map_mid w1.T hA⟩, fun h => (nomatch h)⟩,
        H1.map_idx_shift hp _ _⟩
  erase := fun _ _ _ => Or.inr ⟨rfl, fun ⟨_, _, _, h, _⟩ => Or.inl (by rw [h]; rfl)⟩

theorem mapSet_okA {rank0 : SlabID → Nat} {w : World} {p : SlabID} {k : MKey} {v : WVal} {cx : Ctx}
    {oldr : Option Elem} {w' : World} {cx' : Ctx} (H0 : WorldOkGen D rank0 none (fun _ => False) w cx.ctr)
    (hhand : HandleOk w p) (hk : KeyOk w.T 4 (D p) k) (hv : WValOk w p (maxInlineMapValue w.T k.size) v)
    (h : w.mapSet p k v cx = .ok (oldr, w', cx')) :
    WorldOk D w' cx'.ctr ∧ cx.ctr ≤ cx'.ctr ∧ MapSetAt w w' p k v oldr ∧ HandleOk w' p ∧ SigFrame w w' p ∧
      OpFrame rank0 w w' p (Moved (some v) oldr) := by
  obtain ⟨h1, h2, h3, h4, h5, _, _, pc3, _, old, hp, hp3, hsd, ⟨m, m', e, rfl, rfl, rfl, heff⟩, hplain, hchild,
      hback, hnone⟩ :=
    Mutation.okA (shMapSet_slotLaw hk v) H0 hhand (fun _ h => by cases h; exact hv) (mapSet_mutation.mp h)
  obtain ⟨m3, rfl, hl3, _⟩ := hsd.map
  exact ⟨h1, h2, ⟨m, m3, e, old, hp, hp3, by rw [hl3]; exact heff, hback, hnone,
    fun ep hvp => hplain e ep rfl (congrArg some hvp), fun x wr hvx => hchild e x wr rfl (congrArg some hvx)⟩,
    h3, h4, h5⟩

theorem mapSet_ok {w : World} {p : SlabID} {k : MKey} {v : WVal} {cx : Ctx} {oldr : Option Elem} {w' : World}
    {cx' : Ctx} (H : WorldOk D w cx.ctr) (hhand : HandleOk w p) (hk : KeyOk w.T 4 (D p) k)
    (hv : WValOk w p (maxInlineMapValue w.T k.size) v)
    (h : w.mapSet p k v cx = .ok (oldr, w', cx')) :
    WorldOk D w' cx'.ctr ∧ cx.ctr ≤ cx'.ctr ∧ MapSetAt w w' p k v oldr ∧ HandleOk w' p ∧ SigFrame w w' p := by
  obtain ⟨rank0, H0⟩ := H
  obtain ⟨h1, h2, h3, h4, h5, _⟩ := mapSet_okA H0 hhand hk hv h
  exact ⟨h1, h2, h3, h4, h5⟩

/-- what `OMap.remove` did to the map -/
def MapRemovedQ (k rk : MKey) : Cont → Option Elem → Option Elem → Cont → Prop :=
  fun pc _ old pc' => ∃ m m' rv, pc = .map m ∧ pc' = .map m' ∧ old = some rv ∧ rk = k ∧
    RemEffect m.toList m'.toList k rv

theorem shMapRemove_slotLaw {p : SlabID} {k : MKey} {T : Nat} (hk : KeyOk T 4 (D p) k) (rk : MKey) :
    (shMapRemove p k rk).SlotLaw D T (MapRemovedQ k rk) where
  key := fun _ _ h => (nomatch h)
  tables := shMapRemove_tableLaw p k rk
  core := by
    rintro w1 rank O _ _ e _ cx1 cx2 rfl H1 hp hO - he ⟨m, m', rv, rfl, rfl, rfl, hrem⟩
    cases he rfl
    have hmok : MapOk w1.T (D p) m cx1.ctr := H1.conts p _ hp
    obtain ⟨hrk, ⟨A, B, hA, hB⟩, hok', hinl', hrid, hctr1, hsz⟩ :=
      hmok.remove_ok H1.legal (H1.cfgOk hp) hk (H1.map_room hp (by intro h; cases h) hO) hrem
    have hbp : (Cont.map m').isInlined = true → (Cont.map m').rootSize ≤ w1.T := fun hi2 =>
      H1.root_fits hp (by intro h; cases h) hO (hinl'.symm.trans hi2) (.inr (Nat.le_refl _))
        (hsz (hinl'.symm.trans hi2))
    exact ⟨hok', rfl, hinl', hrid, hbp, hctr1, ⟨m, m', rv, rfl, rfl, rfl, hrk, A, B, hA, hB⟩, _, _, none, 0,
      some A.length,
      ⟨by rw [kslots_map_erase w1.T hA hB]; exact Reindex.eraseIdx _ _, fun _ h => (nomatch h), fun _ => rfl,
        fun o' ho' => ⟨A.length, _, _, rfl, by cases ho'; exact kslots_map_mid w1.T hA⟩, fun h => (nomatch h)⟩,
      H1.map_idx_shift hp _ _⟩
  erase := fun _ _ _ => Or.inr ⟨rfl, fun ⟨_, _, _, h, _⟩ => Or.inl (by rw [h]; rfl)⟩

theorem mapRemove_okA {rank0 : SlabID → Nat} {w : World} {p : SlabID} {k : MKey} {cx : Ctx} {rk : MKey} {rv' : Elem}
    {w' : World} {cx' : Ctx} (H0 : WorldOkGen D rank0 none (fun _ => False) w cx.ctr) (hhand : HandleOk w p)
    (hk : KeyOk w.T 4 (D p) k) (h : w.mapRemove p k cx = .ok (rk, rv', w', cx')) :
    WorldOk D w' cx'.ctr ∧ cx.ctr ≤ cx'.ctr ∧ MapRemovedAt w w' p k rk rv' ∧ HandleOk w' p ∧ SigFrame w w' p ∧
      OpFrame rank0 w w' p (Moved none (some rv')) := by
  obtain ⟨h1, h2, h3, h4, h5, _, _, pc3, _, _, hp, hp3, hsd, ⟨m, m', rv, rfl, rfl, rfl, hrk, A, B, hA, hB⟩, _, _,
      hback, _⟩ :=
    Mutation.okA (shMapRemove_slotLaw hk rk) H0 hhand (fun _ h => (nomatch h)) (mapRemove_mutation.mp h)
  obtain ⟨o', ho', hpay, hb⟩ := hback rv rfl
  cases ho'
  obtain ⟨m3, rfl, hl3, _⟩ := hsd.map
  exact ⟨h1, h2, ⟨m, m3, rv, hp, hp3, hrk, ⟨A, B, hA, by rw [hl3]; exact hB⟩, hpay, hb⟩, h3, h4, h5⟩

theorem mapRemove_ok {w : World} {p : SlabID} {k : MKey} {cx : Ctx} {rk : MKey} {rv' : Elem} {w' : World}
    {cx' : Ctx} (H : WorldOk D w cx.ctr) (hhand : HandleOk w p) (hk : KeyOk w.T 4 (D p) k)
    (h : w.mapRemove p k cx = .ok (rk, rv', w', cx')) :
    WorldOk D w' cx'.ctr ∧ cx.ctr ≤ cx'.ctr ∧ MapRemovedAt w w' p k rk rv' ∧ HandleOk w' p ∧ SigFrame w w' p := by
  obtain ⟨rank0, H0⟩ := H
  obtain ⟨h1, h2, h3, h4, h5, _⟩ := mapRemove_okA H0 hhand hk h
  exact ⟨h1, h2, h3, h4, h5⟩

end World
end Atree

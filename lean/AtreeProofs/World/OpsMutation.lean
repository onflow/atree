import AtreeProofs.World.MutationPhases
import AtreeProofs.World.HandBack
import AtreeProofs.World.StepMutate
/-
  The invariant through a mutation, once for every shape (`Mutation.okA`): the value phase
  (`prep_phase`), the core phase filed and reindexed (`Mutation.filed`: `step_mutate` + `hkeep_mutate`
  under the slot-level law of the shape, `MutShape.SlotLaw`), the notification (`notify_mutated`), the
  closure of the stored child at its slot (`finish_value`), the old element handed back
  (`finish_old_op`).
-/
namespace Atree
open Gen

namespace World
variable {D : SlabID → DigestFn 4}

/-- the handle of the container stored in slot `s` (position `j`) of `p`, with its closure installed -/
theorem handleOk_child {w : World} {p x : SlabID} {pc : Cont} {s : Slot} {j : Nat} {e : Elem} {wr : Nat}
    (hp : w.cont? p = some pc) (hks : (pc.kslots w.T)[j]? = some (s.key?, s.lim w.T, e))
    (hidx : ∀ i, s = .idx i → AList.find? (w.idxOf p) x = some j) (hpay : e.pay = .ref x)
    (hh : AList.find? w.hinfo x = some ⟨p, s.key?, s.lim w.T - 2 * wr, wr⟩) (hhand : HandleOk w p) :
    HandleOk w x := by
  refine HandleOk.child x _ hh ⟨s.lim w.T, e, ?_⟩ hhand
  cases pc with
  | arr a =>
    obtain ⟨e', he, h⟩ := (Cont.kslots_arr _ a j _).mp hks
    cases s with
    | idx i => cases h; exact Or.inl ⟨a, j, hp, hidx i rfl, he, hpay, rfl⟩
    | key k => cases h
  | map m =>
    obtain ⟨k', e', he, h⟩ := (Cont.kslots_map _ m j _).mp hks
    cases s with
    | idx i => cases h
    | key k => cases h; exact Or.inr ⟨m, _, hp, rfl, List.mem_of_getElem? he, hpay, rfl⟩

/-- nobody refers to the container of the dropped slot any more: `p` held it in that slot only, the
    other containers keep their signatures.  The worlds of a mutation: `w` at the start, `w1` after the
    value phase, `w2` with the new content of `p` filed, `w3` after the notification. -/
theorem dropped_unreferenced {w w1 w2 w3 : World} {ctr : Nat} {rank : SlabID → Nat} {O : SlabID → Prop}
    (H0 : WorldOkGen D rank none O w ctr) {p : SlabID} {pc pc' : Cont}
    {φ : Nat → Option Nat} {ψ : Nat → Nat} {tn : Option (Option MKey × Nat × Elem)} {jn : Nat} {i0 : Nat}
    {told : Option MKey × Nat × Elem}
    (hp : w.cont? p = some pc) (R : Reindex (pc.kslots w.T) (pc'.kslots w.T) φ ψ tn jn (some i0))
    (hks : (pc.kslots w.T)[i0]? = some told)
    (he : ∀ t z, tn = some t → t.2.2.pay = .ref z → (w.cont? z).isSome → ∀ q, ¬ Holds w q z)
    (hS1 : ContsSig w w1) (hp1 : w1.cont? p = some pc)
    (hc2 : w2.cont? p = some pc') (hco2 : ∀ z, z ≠ p → w2.cont? z = w1.cont? z) (hS23 : ContsSig w2 w3) :
    ∀ z, told.2.2.pay = .ref z → (w3.cont? z).isSome → ∀ q, ¬ Holds w3 q z := by
  intro z hz hzs q hq
  have hsome2 : ∀ y, (w2.cont? y).isSome = (w1.cont? y).isSome := by
    intro y
    by_cases hy : y = p
    · subst hy; rw [hc2, hp1]; rfl
    · rw [hco2 y hy]
  rw [hS23.isSome, hsome2, hS1.isSome] at hzs
  have hpi : pc.pays[i0]? = some (Pay.ref z) := by rw [Cont.kslot_pay hks]; exact congrArg some hz
  obtain ⟨qc, hqc, hm⟩ := (hS23.holds_iff q z).mp hq
  obtain ⟨j, hj⟩ := List.mem_iff_getElem?.mp hm
  by_cases hqp : q = p
  · subst hqp
    rw [hc2] at hqc; cases hqc
    obtain ⟨t, ht, htp⟩ := Cont.pay_kslot (T := w.T) hj
    rcases R.cases ht with ⟨i', hφ, h0⟩ | ⟨_, _, htn⟩
    · have := (H0.unique q q _ _ i' i0 z hp hp (by rw [Cont.kslot_pay h0, htp]) hpi hzs).2
      exact R.drop rfl (this ▸ hφ)
    · exact he t z htn htp hzs q ⟨_, hp, List.mem_of_getElem? hpi⟩
  · rw [hco2 q hqp] at hqc
    obtain ⟨qc0, hqc0, hs0⟩ := hS1.symm.get hqc
    have hj0 : qc0.pays[j]? = some (Pay.ref z) := by rw [Cont.sig_pays hs0]; exact hj
    exact hqp (H0.unique q p qc0 _ j i0 z hqc0 hp hj0 hpi hzs).1

/-- what the core phase did to the slots of the container: `tn` is the slot written (the storable `e`
    with the key and the limit of the slot `s`, at position `jn`), `jd` the slot dropped (it held `old`) -/
structure SlotChange (T : Nat) (pc pc' : Cont) (s : Option Slot) (e old : Option Elem)
    (φ : Nat → Option Nat) (ψ : Nat → Nat) (tn : Option (Option MKey × Nat × Elem)) (jn : Nat)
    (jd : Option Nat) : Prop where
  reindex : Reindex (pc.kslots T) (pc'.kslots T) φ ψ tn jn jd
  written : ∀ e0, e = some e0 → ∃ sl, s = some sl ∧ tn = some (sl.key?, sl.lim T, e0) ∧ ∀ i, sl = .idx i → jn = i
  unwritten : e = none → tn = none
  dropped : ∀ o, old = some o → ∃ i0 ko lim, jd = some i0 ∧ (pc.kslots T)[i0]? = some (ko, lim, o)
  undropped : old = none → jd = none

namespace MutShape

/-- what a shape owes to `Mutation.okA`, at threshold `T`: under the invariant the core operation yields a valid
    container of the same kind, form and identity, whose slots are those of the old one with one slot
    written and / or one dropped (`SlotChange`), the index table of `p` following (`reidx`); `Q` is
    what else the core operation says about the two containers.  `erase` drops at most the index
    entry of the container handed back (nothing, for a map or if nothing is handed back). -/
structure SlotLaw (S : MutShape) (D : SlabID → DigestFn 4) (T : Nat)
    (Q : Cont → Option Elem → Option Elem → Cont → Prop) : Prop where
  key : ∀ v k, S.v = some (v, .key k) → KeyOk T 4 (D S.p) k
  tables : S.TableLaw
  core : ∀ {w1 : World} {rank : SlabID → Nat} {O : SlabID → Prop} {pc pc' : Cont} {e old : Option Elem}
    {cx1 cx2 : Ctx}, w1.T = T → WorldOkGen D rank none O w1 cx1.ctr → w1.cont? S.p = some pc → ¬ O S.p →
    (∀ e0, e = some e0 → 1 ≤ e0.size ∧ e0.size ≤ S.lim T) → (S.val = none → e = none) →
    S.core T w1.mcfg pc e cx1 old pc' cx2 →
    ContOk T (D S.p) cx2.ctr pc' ∧ pc'.isArr = pc.isArr ∧ pc'.isInlined = pc.isInlined ∧ pc'.vid = pc.vid ∧
    (pc'.isInlined = true → pc'.rootSize ≤ T) ∧ cx1.ctr ≤ cx2.ctr ∧ Q pc e old pc' ∧
    ∃ φ ψ tn jn jd, SlotChange T pc pc' S.slot e old φ ψ tn jn jd ∧
      ∀ q x, AList.find? ((S.reidx (w1.setCont S.p pc')).idxOf q) x =
        if S.p = q then (AList.find? (w1.idxOf S.p) x).map ψ else AList.find? (w1.idxOf q) x
  erase : ∀ w ov, (∀ o x wr, ov = some o → S.val = some (.child x wr) → x ≠ o) →
    S.erase w ov = eraseOld w S.p ov ∨
    (S.erase w ov = w ∧
      ∀ {T cfg c e cx old c' cx'}, S.core T cfg c e cx old c' cx' → c.isArr = false ∨ old = none)

variable (S : MutShape) (w : World)

theorem val_of_v {v : WVal} {s : Slot} (h : S.v = some (v, s)) : S.val = some v ∧ S.slot = some s := by
  unfold val slot; rw [h]; exact ⟨rfl, rfl⟩

theorem hinfo_cb_ne (z : SlabID) (h : ∀ wr, S.val ≠ some (.child z wr)) :
    AList.find? (S.cb w).hinfo z = AList.find? w.hinfo z := by
  unfold cb
  cases hv : S.v with
  | none => rfl
  | some vs => exact hinfo_install_ne _ _ _ _ _ fun wr hvz => h wr (by rw [(S.val_of_v hv).1, hvz])

theorem idxOf_cb_ne {q : SlabID} (hq : q ≠ S.p) (x : SlabID) :
    AList.find? ((S.cb w).idxOf q) x = AList.find? (w.idxOf q) x := by
  unfold cb
  cases S.v with
  | none => rfl
  | some vs => exact idxOf_install_ne _ _ _ _ hq _

/-- the closure and the index entry that `cb` installs for the child stored -/
theorem cb_child {x : SlabID} {wr : Nat} {s : Slot} (h : S.v = some (.child x wr, s)) :
    AList.find? (S.cb w).hinfo x = some ⟨S.p, s.key?, s.lim w.T - 2 * wr, wr⟩ ∧
    ∀ i, s = .idx i → AList.find? ((S.cb w).idxOf S.p) x = some i := by
  unfold cb install; rw [h]
  cases s with
  | idx i =>
    refine ⟨by rw [hinfo_setCallbackArr, if_pos rfl]; rfl, fun i' hi => ?_⟩
    cases hi
    rw [idxOf_setCallbackArr, if_pos ⟨rfl, rfl⟩]
  | key k => exact ⟨by rw [hinfo_setCallbackMap, if_pos rfl]; rfl, fun i hi => nomatch hi⟩

end MutShape

/-- the containers pending at the notification: the child stored and the child dropped -/
def PendAt (O1 : SlabID → Prop) (old : Option Elem) : SlabID → Prop :=
  fun z => O1 z ∨ ∃ o, old = some o ∧ o.pay = .ref z

/-- the core phase filed: after the value phase (`P`), the core operation on `p` under the law of the
    shape gives a world that satisfies the invariant with the parent slot of `p` out of date and the
    moved children pending, and that has kept every other handle -/
theorem Mutation.filed {S : MutShape} {Q : Cont → Option Elem → Option Elem → Cont → Prop} {w w1 : World}
    (L : S.SlotLaw D w.T Q) {rank0 rank' : SlabID → Nat} {O1 : SlabID → Prop} {cx cx1 cx2 : Ctx}
    {e old : Option Elem} (P : Prepared D rank0 rank' O1 w w1 cx cx1 S.p (S.lim w.T) S.val e) {pc pc' : Cont}
    (hp1 : w1.cont? S.p = some pc) (hcore : S.core w1.T w1.mcfg pc e cx1 old pc' cx2) :
    WorldOkGen D rank' (some S.p) (PendAt O1 old) (S.reidx (w1.setCont S.p pc')) cx2.ctr ∧
    HKeep (PendAt O1 old) w1 (S.reidx (w1.setCont S.p pc')) ∧
    (S.reidx (w1.setCont S.p pc')).cont? S.p = some pc' ∧
    (∀ z, z ≠ S.p → (S.reidx (w1.setCont S.p pc')).cont? z = w1.cont? z) ∧
    (S.reidx (w1.setCont S.p pc')).T = w1.T ∧ (S.reidx (w1.setCont S.p pc')).hinfo = w1.hinfo ∧
    (∀ q x, q ≠ S.p → AList.find? ((S.reidx (w1.setCont S.p pc')).idxOf q) x = AList.find? (w1.idxOf q) x) ∧
    cx1.ctr ≤ cx2.ctr ∧ pc'.isArr = pc.isArr ∧ Q pc e old pc' ∧
    ∃ φ ψ tn jn jd, SlotChange w.T pc pc' S.slot e old φ ψ tn jn jd := by
  have H1 := P.ok
  rw [← P.ctr] at H1
  rw [P.hT] at hcore
  obtain ⟨hok', harr, hinl', hvid, hbp, hctr2, hQ, φ, ψ, tn, jn, jd, C, hidx⟩ :=
    L.core P.hT H1 hp1 P.notP P.fit P.noval hcore
  obtain ⟨rT, ra, rh, rc⟩ := L.tables.reidx (w1.setCont S.p pc')
  have hcp2 : (S.reidx (w1.setCont S.p pc')).cont? S.p = some pc' := by rw [rc]; exact cont?_setCont_self _ _ _
  have hco2 : ∀ z, z ≠ S.p → (S.reidx (w1.setCont S.p pc')).cont? z = w1.cont? z :=
    fun z hz => by rw [rc]; exact cont?_setCont_ne _ _ _ _ hz
  have hnewE : ∀ t, tn = some t → ∀ x, t.2.2.pay = .ref x → PendAt O1 old x := by
    intro t ht x hx
    cases he : e with
    | none => rw [C.unwritten he] at ht; cases ht
    | some e0 =>
      obtain ⟨sl, _, h2, _⟩ := C.written e0 he
      rw [h2] at ht; cases ht
      exact Or.inl (P.pendE e0 x he hx)
  have hremE : ∀ i0 t, jd = some i0 → (pc.kslots w1.T)[i0]? = some t → ∀ x, t.2.2.pay = .ref x → PendAt O1 old x := by
    intro i0 t hd ht x hx
    cases ho : old with
    | none => rw [C.undropped ho] at hd; cases hd
    | some o =>
      obtain ⟨i0', ko, lim, h1, h2⟩ := C.dropped o ho
      rw [h1] at hd; cases hd
      rw [P.hT, h2] at ht; cases ht
      exact Or.inr ⟨o, rfl, hx⟩
  have R : Reindex (pc.kslots w1.T) (pc'.kslots w1.T) φ ψ tn jn jd := by rw [P.hT]; exact C.reindex
  refine ⟨?_, hkeep_mutate _ hp1 harr R hnewE hremE rh hidx hcp2 hco2, hcp2, hco2, rT, rh, ?_, hctr2, harr, hQ,
    φ, ψ, tn, jn, jd, C⟩
  · refine step_mutate H1 hp1 (fun _ h => Or.inl h) (by rw [P.hT]; exact hok') harr hinl' hvid
      (by rw [P.hT]; exact hbp) hctr2 R ?_ ?_ hremE rT ra rh hidx hcp2 hco2
    · intro t ht x c hx hc
      cases he : e with
      | none => rw [C.unwritten he] at ht; cases ht
      | some e0 =>
        obtain ⟨sl, h1, h2, _⟩ := C.written e0 he
        rw [h2] at ht; cases ht
        obtain ⟨g1, g2, g3, g4⟩ := P.new e0 x c he hx hc
        rw [MutShape.lim_of_slot h1] at g4
        exact ⟨g1, Or.inl g2, g3, g4⟩
    · intro t ht r hr
      cases he : e with
      | none => rw [C.unwritten he] at ht; cases ht
      | some e0 =>
        obtain ⟨sl, _, h2, _⟩ := C.written e0 he
        rw [h2] at ht; cases ht
        exact Nat.le_trans (P.below e0 r he hr) hctr2
  · intro q x hq
    rw [hidx, if_neg (Ne.symm hq)]

/-- A mutation through a current handle keeps the global invariant, for every shape that satisfies the
    slot-level law; relative to the rank function `rank0` of the world before: the frame `OpFrame`
    (containers not below `p`, closures, index tables, all handles).  What the core operation did to
    the container (`Q`), the form of the child stored and the container handed back come with it.
    The suffix `okA` (here and on `arrInsert_okA` … `mapRemove_okA`, `setType_okA`; `A` for `AncFrame`, which
    follows by `ancFrame_of_opFrame`) marks this form: from `WorldOkGen` at a given rank function `rank0`, with
    `OpFrame rank0` added to the conclusion of the `_ok` lemma, which is a corollary. -/
theorem Mutation.okA {S : MutShape} {Q : Cont → Option Elem → Option Elem → Cont → Prop}
    {rank0 : SlabID → Nat} {w : World} {cx : Ctx} {old' : Option Elem} {w' : World} {cx' : Ctx}
    (L : S.SlotLaw D w.T Q) (H0 : WorldOkGen D rank0 none (fun _ => False) w cx.ctr) (hhand : HandleOk w S.p)
    (hv : ∀ v0, S.val = some v0 → WValOk w S.p (S.lim w.T) v0) (h : Mutation S w cx old' w' cx') :
    WorldOk D w' cx'.ctr ∧ cx.ctr ≤ cx'.ctr ∧ HandleOk w' S.p ∧ SigFrame w w' S.p ∧
      OpFrame rank0 w w' S.p (Moved S.val old') ∧
      ∃ pc pc' pc3 e old, w.cont? S.p = some pc ∧ w'.cont? S.p = some pc3 ∧ Cont.SameData pc' pc3 ∧
        Q pc e old pc' ∧
        (∀ e0 ep, e = some e0 → S.val = some (.plain ep) → e0 = ep) ∧
        (∀ e0 x wr, e = some e0 → S.val = some (.child x wr) → e0.pay = .ref x ∧ HandleOk w' x ∧
          ∃ c, w'.cont? x = some c ∧ e0.size = slotSize c wr) ∧
        (∀ o, old = some o → ∃ o', old' = some o' ∧ o'.pay = o.pay ∧ HandedBack w w' o) ∧
        (old = none → old' = none) := by
  obtain ⟨pc, e, w1, cx1, old, pc', cx2, w3, cx3, ov, w5, hp, hprep, hcore, hnp, hb, rfl⟩ := h
  obtain ⟨rank', O1, P⟩ := prep_phase H0 (S.lim_le _) hv hprep
  have hp1 : w1.cont? S.p = some pc := by rw [P.same _ P.notP]; exact hp
  obtain ⟨H2, K12, hcp2, hco2, hT2, hh2, hidx2, hctr2, harr, hQ, φ, ψ, tn, jn, jd, C⟩ := Mutation.filed L P hp1 hcore
  have holdholds : ∀ o z, old = some o → o.pay = .ref z → Holds w S.p z := by
    intro o z ho hz
    obtain ⟨i0, ko, lim, _, h2⟩ := C.dropped o ho
    exact holds_of_kslot hp h2 hz
  have hold1 : ∀ o z, old = some o → o.pay = .ref z → ¬ O1 z :=
    fun o z ho hz h => (P.pend z h).1 S.p (holdholds o z ho hz)
  obtain ⟨H3, hctr3, hhand3, K13, ⟨pc3, hcp3, hsd3⟩, hfr3, hidx3, hsome3, hS13, hT3', hS23⟩ :=
    notify_mutated P.ok.rank hp1 (P.hand hhand) H2 K12 hcp2 hco2 hT2 hh2 hidx2
      (fun z hz hzs => hz.elim (fun h => (P.pend z h).2.1)
        (fun ⟨o, ho, hz⟩ => P.rankW S.p z (holdholds o z ho hz) (by rw [← P.sig.isSome]; exact hzs))) hnp
  have hT3 : w3.T = w.T := hT3'.trans P.hT
  have hks3 : ∀ e0, e = some e0 → ∃ sl, S.slot = some sl ∧
      (pc3.kslots w3.T)[jn]? = some (sl.key?, sl.lim w3.T, e0) ∧ ∀ i, sl = .idx i → jn = i := by
    intro e0 he
    obtain ⟨sl, h1, h2, h3⟩ := C.written e0 he
    exact ⟨sl, h1, by rw [hT3, sameData_kslots _ hsd3]; exact C.reindex.newAt h2, h3⟩
  have hchild3 : ∀ e0 x wr, e = some e0 → S.val = some (.child x wr) → ∃ c1, w3.cont? x = some c1 ∧
      e0 = ⟨slotSize c1 wr, .ref x⟩ ∧ slabIDStorableSize + 2 * wr ≤ S.lim w3.T ∧
      ∀ q aq j, q ≠ S.p → w3.cont? q = some (.arr aq) → AList.find? (w3.idxOf q) x = some j → False := by
    intro e0 x wr he hvx
    obtain ⟨g1, g2, e0', c1, wr', ge, gv, g6, g7⟩ := P.pend x (P.pendV x wr hvx)
    rw [he] at ge; cases ge
    rw [hvx] at gv; cases gv
    have hxp : x ≠ S.p := fun h => P.notP (h ▸ P.pendV x wr hvx)
    refine ⟨c1, by rw [(hfr3 x hxp (Nat.le_of_lt g2)).1]; exact g6, g7, by rw [hT3]; exact (hv _ hvx).2.2.2,
      fun q aq j hqp _ hj => ?_⟩
    rw [hidx3 q x hqp, P.idx] at hj
    exact H0.noidx_of_root g1 q j hj
  have hO1v : ∀ z, O1 z → ∃ wr, S.val = some (.child z wr) := by
    intro z hz
    obtain ⟨_, _, _, _, wr, _, gv, _⟩ := P.pend z hz
    exact ⟨wr, gv⟩
  obtain ⟨H4, hcur34⟩ : WorldOkGen D rank' none (fun z => ∃ o, old = some o ∧ o.pay = .ref z) (S.cb w3) cx3.ctr ∧
      CurKept w3 (S.cb w3) := by
    cases hSv : S.v with
    | none =>
      have hcb : S.cb w3 = w3 := by unfold MutShape.cb; rw [hSv]
      rw [hcb]
      refine ⟨H3.congr_O fun z => ⟨fun hz => hz.elim (fun h => ?_) id, Or.inr⟩, CurKept.refl w3⟩
      obtain ⟨wr, gv⟩ := hO1v z h
      unfold MutShape.val at gv; rw [hSv] at gv; cases gv
    | some vs =>
      obtain ⟨v, s⟩ := vs
      obtain ⟨hval, hslot⟩ := S.val_of_v hSv
      have hcb : S.cb w3 = w3.install S.p s v := by unfold MutShape.cb; rw [hSv]
      obtain ⟨e0, he⟩ : ∃ e0, e = some e0 := by
        rw [hval] at hprep; obtain ⟨e0, he, _⟩ := hprep; exact ⟨e0, he⟩
      obtain ⟨sl, h1, h2, h3⟩ := hks3 e0 he
      rw [hslot] at h1; cases h1
      rw [hcb]
      refine finish_value H3 hcp3 h2 h3 (fun k hk => ?_)
        (fun z hz => hz.elim (fun h => Or.inr ?_) Or.inl) (fun z hz => Or.inr hz) (fun x wr hvx => ?_)
      · rw [hT3]; exact L.key v k (by rw [hSv, hk])
      · obtain ⟨wr, gv⟩ := hO1v z h
        rw [hval] at gv; cases gv; exact ⟨wr, rfl⟩
      · obtain ⟨c1, g1, g2, g3, g4⟩ := hchild3 e0 x wr he (by rw [hval, hvx])
        rw [MutShape.lim_of_slot hslot] at g3
        exact ⟨c1, g1, g2, g3, g4⟩
  have hholds34 : ∀ q y, Holds (S.cb w3) q y → Holds w3 q y := by
    rintro q y ⟨qc, hqc, hm⟩
    rw [S.cont?_cb] at hqc
    exact ⟨qc, hqc, hm⟩
  have hhand4 : HandleOk (S.cb w3) S.p := hhand3.transfer hholds34 hcur34
  have hp4 : (S.cb w3).cont? S.p = some pc3 := by rw [S.cont?_cb]; exact hcp3
  have K03 : HKeep (PendAt O1 old) w (S.cb w3) :=
    ((P.keep _).trans K13).trans (HKeep.of_curKept _ hholds34 hcur34)
  have hO1moved : ∀ z o', O1 z → Moved S.val o' z := fun z o' hz => Or.inl (hO1v z hz)
  have hsome3c : ∀ z, ((S.cb w3).cont? z).isSome = (w.cont? z).isSome := by
    intro z; rw [S.cont?_cb, hsome3, P.sig.isSome]
  have hframe3c : ∀ z, z ≠ S.p → rank0 S.p ≤ rank0 z → ¬ O1 z → (∀ wr, S.val ≠ some (.child z wr)) →
      (S.cb w3).cont? z = w.cont? z ∧ AList.find? (S.cb w3).hinfo z = AList.find? w.hinfo z := by
    intro z hz hrk hzO hzv
    obtain ⟨g1, g2⟩ := hfr3 z hz (by rw [P.rankP]; exact Nat.le_trans hrk (P.rankLe z))
    exact ⟨by rw [S.cont?_cb, g1, P.same z hzO], by rw [S.hinfo_cb_ne _ z hzv, g2, P.hinfo]⟩
  have hidx3c : ∀ q z, q ≠ S.p → AList.find? ((S.cb w3).idxOf q) z = AList.find? (w.idxOf q) z := by
    intro q z hq
    rw [S.idxOf_cb_ne _ hq, hidx3 q z hq, P.idx]
  -- the handle of the child stored, in a world that has kept its closure, its index entry and `p`
  have hxhand : ∀ w6 : World, w6.T = w3.T → w6.cont? S.p = some pc3 → w6.hinfo = (S.cb w3).hinfo →
      (∀ x wr, S.val = some (.child x wr) →
        AList.find? (w6.idxOf S.p) x = AList.find? ((S.cb w3).idxOf S.p) x) →
      HandleOk w6 S.p → ∀ e0 x wr, e = some e0 → S.val = some (.child x wr) → HandleOk w6 x := by
    intro w6 hT6 hp6 hh6 hidx6 hhand6 e0 x wr he hvx
    obtain ⟨sl, h1, h2, h3⟩ := hks3 e0 he
    obtain ⟨c1, _, g7, _⟩ := hchild3 e0 x wr he hvx
    obtain ⟨v, hSv⟩ : ∃ v, S.v = some (v, sl) := by
      unfold MutShape.slot at h1
      cases hSv : S.v with
      | none => rw [hSv] at h1; cases h1
      | some vs => rw [hSv] at h1; cases h1; exact ⟨vs.1, rfl⟩
    have hvx' : v = .child x wr := by
      have := (S.val_of_v hSv).1; rw [hvx] at this; cases this; rfl
    subst hvx'
    obtain ⟨c1h, c1i⟩ := S.cb_child w3 hSv
    exact handleOk_child (wr := wr) hp6 (by rw [hT6]; exact h2)
      (fun i hi => by rw [hidx6 x wr hvx, c1i i hi, h3 i hi]) (by rw [g7])
      (by rw [hh6, hT6]; exact c1h) hhand6
  have herase_none : ∀ w6, S.erase w6 none = w6 := by
    intro w6
    rcases L.erase w6 none (fun _ _ _ h => nomatch h) with h | ⟨h, _⟩ <;> exact h
  cases old with
  | none =>
    obtain ⟨rfl, rfl, rfl, rfl⟩ := hb
    rw [herase_none]
    have H5 := H4.congr_O (O' := fun _ => False) (fun z => ⟨fun ⟨o, ho, _⟩ => (nomatch ho), fun h => h.elim⟩)
    refine ⟨⟨rank', H5⟩, by rw [← P.ctr]; exact Nat.le_trans hctr2 hctr3, hhand4,
      ((SigFrame.of_sig P.sig S.p).trans hS13).trans (SigFrame.of_conts fun z _ => S.cont?_cb w3 z),
      ⟨fun z hz hrk hzE => ?_, fun q y hq => hidx3c q y hq, fun z hzh hzs => ?_⟩,
      pc, pc', pc3, e, none, hp, hp4, hsd3, hQ, P.plain, fun e0 x wr he hvx => ?_,
      fun o ho => (nomatch ho), fun _ => rfl⟩
    · exact hframe3c z hz hrk (fun h => hzE (hO1moved z none h)) (fun wr h => hzE (Or.inl ⟨wr, h⟩))
    · refine (K03.mono (fun z hz => ?_)).handleOk (E := Moved S.val none) (fun z hz _ => ?_) hzh
        (by rw [← hsome3c]; exact hzs)
      · rcases hz with h | ⟨o, ho, _⟩
        · exact hO1moved z none h
        · cases ho
      · rcases hz with ⟨wr, hvz⟩ | ⟨o, ho, _⟩
        · obtain ⟨_, _, e0, _, _, he, gv, _⟩ := P.pend z (P.pendV z wr hvz)
          exact hxhand _ (S.T_cb w3) hp4 rfl (fun _ _ _ => rfl) hhand4 e0 z wr he hvz
        · cases ho
    · obtain ⟨c1, hx3, g7, _⟩ := hchild3 e0 x wr he hvx
      exact ⟨by rw [g7], hxhand _ (S.T_cb w3) hp4 rfl (fun _ _ _ => rfl) hhand4 e0 x wr he hvx, c1,
        by rw [S.cont?_cb]; exact hx3, by rw [g7]⟩
  | some o =>
    obtain ⟨o2, rfl, hun⟩ := hb
    obtain ⟨i0, ko, lim, hjd, hks⟩ := C.dropped o rfl
    have H4' := H4.congr_O (O' := fun z => o.pay = .ref z)
      (fun z => ⟨fun ⟨o', ho', hz⟩ => (by cases ho'; exact hz), fun hz => ⟨o, rfl, hz⟩⟩)
    have R0 : Reindex (pc.kslots w.T) (pc'.kslots w.T) φ ψ tn jn (some i0) := hjd ▸ C.reindex
    have hunref3 := dropped_unreferenced H0 hp R0 hks
      (fun t z ht hz _ => by
        cases he : e with
        | none => rw [C.unwritten he] at ht; cases ht
        | some e0 =>
          obtain ⟨sl, _, h2, _⟩ := C.written e0 he
          rw [h2] at ht; cases ht
          exact (P.pend z (P.pendE e0 z he hz)).1)
      P.sig hp1 hcp2 hco2 hS23
    have hunref : ∀ z, o.pay = .ref z → ((S.cb w3).cont? z).isSome → ∀ q, ¬ Holds (S.cb w3) q z := by
      intro z hz hzs q hq
      rw [S.cont?_cb] at hzs
      exact hunref3 z hz hzs q (hholds34 q z hq)
    have hc03 : ∀ z c, o.pay = .ref z → w.cont? z = some c → (S.cb w3).cont? z = some c := by
      intro z c hz hc
      have hrk' := P.rankW S.p z (holdholds o z rfl hz) (by rw [hc]; rfl)
      have hzp : z ≠ S.p := fun h => by rw [h] at hrk'; exact Nat.lt_irrefl _ hrk'
      rw [S.cont?_cb, (hfr3 z hzp (Nat.le_of_lt hrk')).1, P.same z (hold1 o z rfl hz)]
      exact hc
    have hovne : ∀ o1 x wr, ov = some o1 → S.val = some (.child x wr) → x ≠ o1 := by
      intro o1 x wr hov hvx
      rcases (uninlineIfNeeded_ok hun).2.2.2.2.2 with ⟨h1, _⟩ | ⟨o', c', h1, h2, _⟩
      · rw [hov] at h1; cases h1
      · rw [hov] at h1; cases h1
        exact fun h => hold1 o o1 rfl h2 (h ▸ P.pendV x wr hvx)
    obtain ⟨ov', herase, hov⟩ : ∃ ov', S.erase w5 ov = eraseOld w5 S.p ov' ∧
        (ov' = ov ∨ (ov' = none ∧ ∀ x, AList.find? ((S.cb w3).idxOf S.p) x = none)) := by
      rcases L.erase w5 ov hovne with h | ⟨h, hmap⟩
      · exact ⟨ov, h, Or.inl rfl⟩
      · refine ⟨none, h, Or.inr ⟨rfl, fun x => ?_⟩⟩
        have hpcm : pc3.isArr = false :=
          hsd3.isArr.trans (harr.trans ((hmap hcore).resolve_right (fun h => nomatch h)))
        cases pc3 with
        | arr a => cases hpcm
        | map m => exact H4.map_noidx hp4 x
    rw [herase]
    obtain ⟨H5, hctr4, hpay, hback, hhand5, hp5, hS35, hco5, hh5, hidx5, hidx5o, K35⟩ :=
      finish_old_op H0 hp hks H4' hunref hc03 hidx3c hp4 hhand4 hun hov rfl
    have hEo : ∀ z, o.pay = .ref z → Moved S.val (some o2) z :=
      fun z hz => moved_old _ (by rw [hpay]; exact hz)
    have hT5 : (eraseOld w5 S.p ov').T = w3.T := by
      rw [← S.T_cb w3]
      cases ov' <;> exact (uninlineIfNeeded_ok hun).2.2.2.1
    have hxhand5 : ∀ e0 x wr, e = some e0 → S.val = some (.child x wr) → HandleOk (eraseOld w5 S.p ov') x :=
      hxhand _ hT5 hp5 hh5
        (fun x wr hvx => hidx5o S.p x (fun h => hold1 o x rfl h (P.pendV x wr hvx))) hhand5
    refine ⟨⟨rank', by rw [hctr4]; exact H5⟩, by rw [hctr4, ← P.ctr]; exact Nat.le_trans hctr2 hctr3, hhand5,
      (((SigFrame.of_sig P.sig S.p).trans hS13).trans (SigFrame.of_conts fun z _ => S.cont?_cb w3 z)).trans
        (SigFrame.of_sig hS35 S.p),
      ⟨fun z hz hrk hzE => ?_, fun q y hq => by rw [hidx5 q y hq]; exact hidx3c q y hq, fun z hzh hzs => ?_⟩,
      pc, pc', pc3, e, some o, hp, hp5, hsd3, hQ, P.plain, fun e0 x wr he hvx => ?_,
      fun o' ho' => ?_, fun h => nomatch h⟩
    · obtain ⟨g1, g2⟩ := hframe3c z hz hrk (fun h => hzE (hO1moved z _ h)) (fun wr h => hzE (Or.inl ⟨wr, h⟩))
      exact ⟨by rw [hco5 z (fun h => hzE (hEo z h))]; exact g1, by rw [hh5]; exact g2⟩
    · refine ((K03.mono (fun z hz => ?_)).trans (K35 _ hEo)).handleOk (E := Moved S.val (some o2))
        (fun z hz hl => ?_) hzh (by rw [← hsome3c, ← hS35.isSome]; exact hzs)
      · rcases hz with h | ⟨o', ho', hz'⟩
        · exact hO1moved z _ h
        · cases ho'; exact hEo z hz'
      · rcases hz with ⟨wr, hvz⟩ | ⟨o', ho', hz'⟩
        · obtain ⟨_, _, e0, _, _, he, _⟩ := P.pend z (P.pendV z wr hvz)
          exact hxhand5 e0 z wr he hvz
        · cases ho'
          exact hback.handleOk (by rw [← hpay]; exact hz') hl
    · obtain ⟨c1, hx3, g7, _⟩ := hchild3 e0 x wr he hvx
      refine ⟨by rw [g7], hxhand5 e0 x wr he hvx, c1, ?_, by rw [g7]⟩
      rw [hco5 x (fun h => hold1 o x rfl h (P.pendV x wr hvx)), S.cont?_cb]; exact hx3
    · cases ho'
      exact ⟨o2, rfl, hpay, hback⟩

end World
end Atree

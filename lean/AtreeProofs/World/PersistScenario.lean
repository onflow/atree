import AtreeProofs.Props.C10Persist
import AtreeProofs.World.HeapScenario
/-
  Non-vacuity of `Props/C10Persist.lean`: the run of `World/OkScenario.lean` up to the depth-3 world
  `t8` (`R` ∋ inlined map `M` ∋ inlined wrapped array `A` holding one value; `R` ∋ inlined array `B`),
  run against the storage state machine with the identity codec: `HistS` holds, so
  `history_persisted` applies; the committed ledger is evaluated.
-/
namespace Atree.PersistScenario
open Atree Gen World St
open Atree.OkScenario
open Atree.HeapScenario
open Atree.Scenario (w0 cx0 ok_pair ok_triple)
open Atree.C09 (newEffects newCreated)
open Atree.C09W (Hist)
open Atree.C10Persist

def idCodec : Codec WSlab WSlab := { enc := some, dec := fun _ b => some b, size := fun _ => 0 }

theorem idCodec_roundTrip : RoundTrip idCodec := by
  intro id v b h
  simp only [idCodec, Option.some.injEq] at h
  subst h; rfl

theorem idCodec_noEncodeFailure (s : St WSlab WSlab) : NoEncodeFailure idCodec s := fun _ _ _ => rfl

/-- the storage after each operation -/
def sOf (s : St WSlab WSlab) (cx cx' : Ctx) (w' : World) : St WSlab WSlab :=
  WE2E.applyEffs idCodec s w'.slabAt (newEffects cx cx')

def s1 := sOf St.init cx0 t1.2.2 t1.2.1
def s2 := sOf s1 t1.2.2 t2.2.2 t2.2.1
def s3 := sOf s2 t2.2.2 t3.2.2 t3.2.1
def s4 := sOf s3 t3.2.2 t4.2.2 t4.2.1
def s5 := sOf s4 t4.2.2 t5.2 t5.1
def s6 := sOf s5 t5.2 t6.2.2 t6.2.1
def s7 := sOf s6 t6.2.2 t7.2 t7.1
def s8 := sOf s7 t7.2 t8.2 t8.1

/-- no step of the run creates a slab identifier it does not use (one evaluation of the run) -/
theorem created8 :
    newCreated cx0 t1.2.2 = [] ∧ newCreated t1.2.2 t2.2.2 = [] ∧ newCreated t2.2.2 t3.2.2 = [] ∧
    newCreated t3.2.2 t4.2.2 = [] ∧ newCreated t4.2.2 t5.2 = [] ∧ newCreated t5.2 t6.2.2 = [] ∧
    newCreated t6.2.2 t7.2 = [] ∧ newCreated t7.2 t8.2 = [] := by
  decide +kernel

/-- the run of `t1 … t8` against the storage -/
theorem histS8 : HistS D idCodec t8.1 t8.2 s8 := by
  have c := created8
  have h0 : HistS D idCodec w0 cx0 St.init := .new 256 1 (by decide)
  have h1 : HistS D idCodec t1.2.1 t1.2.2 s1 :=
    .step h0 hist1 (C09W.newArr_effects_complete D w0 7 cx0 (C09W.world_heap_exact D _ _ hist0).1 (hkOf hist0)).2.1 c.1
  have h2 : HistS D idCodec t2.2.1 t2.2.2 s2 :=
    .step h1 hist2 (C09W.newMap_effects_complete D t1.2.1 8 5 t1.2.2 (C10W.worldOk'_of_worldOk ok1.1) (hkOf hist1)).2.1
      c.2.1
  have h3 : HistS D idCodec t3.2.1 t3.2.2 s3 :=
    .step h2 hist3 (C09W.newArr_effects_complete D t2.2.1 9 t2.2.2 (C10W.worldOk'_of_worldOk ok2) (hkOf hist2)).2.1 c.2.2.1
  have h4 : HistS D idCodec t4.2.1 t4.2.2 s4 :=
    .step h3 hist4 (C09W.newArr_effects_complete D t3.2.1 10 t3.2.2 (C10W.worldOk'_of_worldOk ok3) (hkOf hist3)).2.1
      c.2.2.2.1
  have h5 : HistS D idCodec t5.1 t5.2 s5 := .step h4 hist5 step5.1 c.2.2.2.2.1
  have h6 : HistS D idCodec t6.2.1 t6.2.2 s6 := .step h5 hist6 step6.1 c.2.2.2.2.2.1
  have h7 : HistS D idCodec t7.1 t7.2 s7 := .step h6 hist7 step7.1 c.2.2.2.2.2.2.1
  exact .step h7 hist8 step8.1 c.2.2.2.2.2.2.2

/-- the persistence theorem applies: after the mutation at depth 3 and the insertion of `B`, a commit
    and a reopen give a storage that shows exactly the heap of the (reopened) world -/
example := (history_persisted D idCodec idCodec_roundTrip t8.1 t8.2 s8 histS8).2.2 .det [] []
  (idCodec_noEncodeFailure _)

/-- the heap of `t8` is the single slab `R` (it embeds `M`, `A`, `B`) -/
example : t8.1.heapIds = [R] := by decide +kernel
/-- the write set before the commit: `R` dirty, the three inlined children deleted -/
example : s8.deltas.map (·.1) = [R, B, A, M] := by decide +kernel
/-- the ledger after commit + reopen holds exactly the register of `R` (by evaluation of the storage
    state machine) -/
example : (St.run idCodec s8 [.commit .det [] [] [], .recreate]).base.map (·.1) = [R] := by decide +kernel

end Atree.PersistScenario

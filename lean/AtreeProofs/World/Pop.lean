import AtreeProofs.World.Frame
import AtreeProofs.World.Dom
/-
  `forget` / `forgetElems` (the caller of `PopIterate` disposes of everything handed out): the
  containers that vanish from the tables are EXACTLY the ones reachable, through element
  references, from the popped elements; every other entry of every table is untouched.

  * `Reach w v x`   — `x` is `v` or nested (at any depth) below `v` in `w`
  * `Shrink w w'`   — `w'` is `w` with some known containers dropped from all three tables
  * `Closed w w'`   — the dropped containers are closed under element references
  * `forget_shrink`, `forget_closed` (adequate fuel), `forget_sound`, and the same for `forgetElems`
-/
namespace Atree
open Gen

namespace World

theorem childRefs_eq (w : World) (c : Cont) :
    Cont.childRefs w c = c.storedElems.filterMap (fun e => match e.pay with
      | .ref v => if (w.cont? v).isSome then some v else none
      | _ => none) := by
  cases c <;> rfl

theorem mem_childRefs {w : World} {c : Cont} {v : SlabID} :
    v ∈ Cont.childRefs w c ↔ (∃ e ∈ c.storedElems, e.pay = .ref v) ∧ (w.cont? v).isSome := by
  rw [childRefs_eq, List.mem_filterMap]
  constructor
  · rintro ⟨e, he, h⟩
    split at h
    · rename_i v' hp
      split at h
      · rename_i hs
        cases h
        exact ⟨⟨e, he, hp⟩, hs⟩
      · cases h
    · cases h
  · rintro ⟨⟨e, he, hp⟩, hs⟩
    refine ⟨e, he, ?_⟩
    simp only [hp, hs, if_true]

/-- `x` is the container `v` itself or is nested below it (through element references that
    resolve to known containers) -/
inductive Reach (w : World) : SlabID → SlabID → Prop
  | refl {v : SlabID} : (w.cont? v).isSome → Reach w v v
  | step {u v x : SlabID} {c : Cont} {e : Elem} :
      w.cont? u = some c → e ∈ c.storedElems → e.pay = .ref v → Reach w v x → Reach w u x

theorem Reach.src_isSome {w : World} {v x : SlabID} (h : Reach w v x) : (w.cont? v).isSome := by
  cases h with
  | refl hs => exact hs
  | step hc _ _ _ => rw [hc]; rfl

theorem Reach.dst_isSome {w : World} {v x : SlabID} (h : Reach w v x) : (w.cont? x).isSome := by
  induction h with
  | refl hs => exact hs
  | step _ _ _ _ ih => exact ih

theorem Reach.trans {w : World} {u v x : SlabID} (h1 : Reach w u v) (h2 : Reach w v x) : Reach w u x := by
  induction h1 with
  | refl _ => exact h2
  | step hc he hp _ ih => exact Reach.step hc he hp (ih h2)

/-- the last edge of a path of element references -/
theorem Reach.last {w : World} {v x : SlabID} (h : Reach w v x) :
    x = v ∨ ∃ u c e, Reach w v u ∧ w.cont? u = some c ∧ e ∈ c.storedElems ∧ e.pay = .ref x := by
  induction h with
  | refl _ => exact Or.inl rfl
  | @step u v x c e hc he hp hre ih =>
    rcases ih with rfl | ⟨u', c', e', hr', hc', he', hp'⟩
    · exact Or.inr ⟨u, c, e, Reach.refl (by rw [hc]; rfl), hc, he, hp⟩
    · exact Or.inr ⟨u', c', e', Reach.step hc he hp hr', hc', he', hp'⟩

/-- references go strictly up in rank (towards the leaves): the element-reference graph is acyclic -/
def RefRankOk (rank : SlabID → Nat) (w : World) : Prop :=
  ∀ u c, w.cont? u = some c → ∀ e ∈ c.storedElems, ∀ v, e.pay = .ref v → (w.cont? v).isSome →
    rank u < rank v

theorem Reach.rank_le {rank : SlabID → Nat} {w : World} (hr : RefRankOk rank w) {v x : SlabID}
    (h : Reach w v x) : rank v ≤ rank x := by
  induction h with
  | refl _ => exact Nat.le_refl _
  | step hc he hp hre ih =>
    have := hr _ _ hc _ he _ hp hre.src_isSome
    omega

/-- the tables without the entries of `v` -/
def dropKey (w : World) (v : SlabID) : World :=
  { w with conts := AList.erase w.conts v, hinfo := AList.erase w.hinfo v, mutIdx := AList.erase w.mutIdx v }

theorem forget_zero (w : World) (v : SlabID) : forget 0 w v = w := rfl

theorem forget_succ (fuel : Nat) (w : World) (v : SlabID) :
    forget (fuel + 1) w v =
      match w.cont? v with
      | none => w
      | some c => (Cont.childRefs w c).foldl (forget fuel) (w.dropKey v) := rfl

theorem cont?_dropKey (w : World) (v y : SlabID) :
    (w.dropKey v).cont? y = if v = y then none else w.cont? y := by
  simp [cont?, dropKey, AList.find?_erase]

/-- `w'` is `w` with some known containers dropped from all three tables -/
structure Shrink (w w' : World) : Prop where
  T : w'.T = w.T
  addr : w'.addr = w.addr
  len : w'.conts.length ≤ w.conts.length
  keep : ∀ y, (w'.cont? y = w.cont? y ∧ AList.find? w'.hinfo y = AList.find? w.hinfo y ∧
                AList.find? w'.mutIdx y = AList.find? w.mutIdx y) ∨
              ((w.cont? y).isSome ∧ w'.cont? y = none ∧ AList.find? w'.hinfo y = none ∧
                AList.find? w'.mutIdx y = none)

theorem Shrink.refl (w : World) : Shrink w w :=
  ⟨rfl, rfl, Nat.le_refl _, fun _ => Or.inl ⟨rfl, rfl, rfl⟩⟩

theorem Shrink.trans {w1 w2 w3 : World} (h12 : Shrink w1 w2) (h23 : Shrink w2 w3) : Shrink w1 w3 := by
  refine ⟨h23.T.trans h12.T, h23.addr.trans h12.addr, Nat.le_trans h23.len h12.len, fun y => ?_⟩
  rcases h23.keep y with ⟨a1, a2, a3⟩ | ⟨b1, b2, b3, b4⟩
  · rcases h12.keep y with ⟨c1, c2, c3⟩ | ⟨d1, d2, d3, d4⟩
    · exact Or.inl ⟨a1.trans c1, a2.trans c2, a3.trans c3⟩
    · exact Or.inr ⟨d1, a1.trans d2, a2.trans d3, a3.trans d4⟩
  · rcases h12.keep y with ⟨c1, _, _⟩ | ⟨d1, d2, _, _⟩
    · exact Or.inr ⟨by rw [← c1]; exact b1, b2, b3, b4⟩
    · rw [d2] at b1; cases b1

theorem Shrink.none_stays {w w' : World} (h : Shrink w w') {y : SlabID} (hy : w.cont? y = none) :
    w'.cont? y = none := by
  rcases h.keep y with ⟨a, _, _⟩ | ⟨_, b, _, _⟩
  · rw [a]; exact hy
  · exact b

theorem Shrink.some_of_some {w w' : World} (h : Shrink w w') {y : SlabID} {c : Cont}
    (hy : w'.cont? y = some c) : w.cont? y = some c := by
  rcases h.keep y with ⟨a, _, _⟩ | ⟨_, b, _, _⟩
  · rw [← a]; exact hy
  · rw [b] at hy; cases hy

theorem Shrink.kept {w w' : World} (h : Shrink w w') {y : SlabID} (hy : (w'.cont? y).isSome) :
    w'.cont? y = w.cont? y ∧ AList.find? w'.hinfo y = AList.find? w.hinfo y ∧
      AList.find? w'.mutIdx y = AList.find? w.mutIdx y := by
  rcases h.keep y with a | ⟨_, b, _, _⟩
  · exact a
  · rw [b] at hy; cases hy

theorem Shrink.idxOf_kept {w w' : World} (h : Shrink w w') {y : SlabID} (hy : (w'.cont? y).isSome) :
    w'.idxOf y = w.idxOf y := by
  simp only [idxOf, (h.kept hy).2.2]

theorem Shrink.dropKey (w : World) (v : SlabID) (hv : (w.cont? v).isSome) : Shrink w (w.dropKey v) := by
  refine ⟨rfl, rfl, AList.length_erase_le _ _, fun y => ?_⟩
  by_cases hvy : v = y
  · subst hvy
    exact Or.inr ⟨hv, by simp [cont?_dropKey], by simp [World.dropKey, AList.find?_erase],
      by simp [World.dropKey, AList.find?_erase]⟩
  · exact Or.inl ⟨by simp [cont?_dropKey, hvy], by simp [World.dropKey, AList.find?_erase, hvy],
      by simp [World.dropKey, AList.find?_erase, hvy]⟩

theorem length_dropKey_lt (w : World) (v : SlabID) (hv : (w.cont? v).isSome) :
    (w.dropKey v).conts.length < w.conts.length :=
  AList.length_erase_lt _ _ hv

theorem Reach.mono {w w' : World} (hs : Shrink w w') {v x : SlabID} (h : Reach w' v x) : Reach w v x := by
  induction h with
  | refl hv =>
    cases hc : w'.cont? _ with
    | none => rw [hc] at hv; cases hv
    | some c => exact Reach.refl (by rw [hs.some_of_some hc]; rfl)
  | step hc he hp _ ih => exact Reach.step (hs.some_of_some hc) he hp ih

theorem foldl_forget_shrink (fuel : Nat) (ih : ∀ w v, Shrink w (forget fuel w v)) :
    ∀ (L : List SlabID) (w : World), Shrink w (L.foldl (forget fuel) w) := by
  intro L
  induction L with
  | nil => intro w; exact Shrink.refl w
  | cons k L ihL => intro w; exact (ih w k).trans (ihL _)

theorem forget_shrink : ∀ (fuel : Nat) (w : World) (v : SlabID), Shrink w (forget fuel w v) := by
  intro fuel
  induction fuel with
  | zero => intro w v; exact Shrink.refl w
  | succ fuel ih =>
    intro w v
    rw [forget_succ]
    cases hc : w.cont? v with
    | none => exact Shrink.refl w
    | some c =>
      exact (Shrink.dropKey w v (by rw [hc]; rfl)).trans (foldl_forget_shrink fuel ih _ _)

theorem foldl_forget_sound (fuel : Nat)
    (ih : ∀ w v u, (w.cont? u).isSome → (forget fuel w v).cont? u = none → Reach w v u) :
    ∀ (L : List SlabID) (w : World) (u : SlabID), (w.cont? u).isSome →
      (L.foldl (forget fuel) w).cont? u = none → ∃ k ∈ L, Reach w k u := by
  intro L
  induction L with
  | nil => intro w u hs hn; rw [List.foldl_nil] at hn; rw [hn] at hs; cases hs
  | cons k L ihL =>
    intro w u hs hn
    rw [List.foldl_cons] at hn
    cases h1 : (forget fuel w k).cont? u with
    | none => exact ⟨k, by simp, ih w k u hs h1⟩
    | some c1 =>
      obtain ⟨k', hk', hr⟩ := ihL (forget fuel w k) u (by rw [h1]; rfl) hn
      exact ⟨k', by simp [hk'], hr.mono (forget_shrink fuel w k)⟩

theorem forget_sound : ∀ (fuel : Nat) (w : World) (v u : SlabID), (w.cont? u).isSome →
    (forget fuel w v).cont? u = none → Reach w v u := by
  intro fuel
  induction fuel with
  | zero => intro w v u hs hn; rw [forget_zero] at hn; rw [hn] at hs; cases hs
  | succ fuel ih =>
    intro w v u hs hn
    rw [forget_succ] at hn
    cases hc : w.cont? v with
    | none => rw [hc] at hn; rw [hn] at hs; cases hs
    | some c =>
      rw [hc] at hn
      simp only at hn
      by_cases hvu : v = u
      · subst hvu; exact Reach.refl hs
      · have hs0 : ((w.dropKey v).cont? u).isSome := by rw [cont?_dropKey, if_neg hvu]; exact hs
        obtain ⟨k, hk, hr⟩ := foldl_forget_sound fuel ih _ _ u hs0 hn
        obtain ⟨⟨e, he, hp⟩, _⟩ := mem_childRefs.mp hk
        exact Reach.step hc he hp (hr.mono (Shrink.dropKey w v (by rw [hc]; rfl)))

/-! ### with enough fuel, what is dropped is closed under element references -/

/-- every container referenced by a dropped container is gone as well -/
def Closed (w w' : World) : Prop :=
  ∀ u c, w.cont? u = some c → w'.cont? u = none → ∀ e ∈ c.storedElems, ∀ y, e.pay = .ref y →
    w'.cont? y = none

theorem Closed.refl (w : World) : Closed w w := by
  intro u c h1 h2; rw [h1] at h2; cases h2

theorem Closed.trans {w1 w2 w3 : World} (s12 : Shrink w1 w2) (c12 : Closed w1 w2) (s23 : Shrink w2 w3)
    (c23 : Closed w2 w3) : Closed w1 w3 := by
  intro u c h1 h3 e he y hp
  cases h2 : w2.cont? u with
  | none => exact s23.none_stays (c12 u c h1 h2 e he y hp)
  | some c2 =>
    have hc2 : w1.cont? u = some c2 := s12.some_of_some h2
    rw [h1] at hc2; cases hc2
    exact c23 u c h2 h3 e he y hp

theorem foldl_forget_closed (fuel : Nat)
    (ih : ∀ w v, w.conts.length < fuel → Closed w (forget fuel w v) ∧ (forget fuel w v).cont? v = none) :
    ∀ (L : List SlabID) (w : World), w.conts.length < fuel →
      Closed w (L.foldl (forget fuel) w) ∧ ∀ k ∈ L, (L.foldl (forget fuel) w).cont? k = none := by
  intro L
  induction L with
  | nil => intro w _; exact ⟨Closed.refl w, fun k hk => by simp at hk⟩
  | cons k L ihL =>
    intro w hlen
    rw [List.foldl_cons]
    have s1 := forget_shrink fuel w k
    obtain ⟨c1, n1⟩ := ih w k hlen
    obtain ⟨c2, n2⟩ := ihL (forget fuel w k) (Nat.lt_of_le_of_lt s1.len hlen)
    have s2 := foldl_forget_shrink fuel (forget_shrink fuel) L (forget fuel w k)
    refine ⟨Closed.trans s1 c1 s2 c2, fun k' hk' => ?_⟩
    rcases List.mem_cons.mp hk' with rfl | hk'
    · exact s2.none_stays n1
    · exact n2 k' hk'

theorem forget_closed : ∀ (fuel : Nat) (w : World) (v : SlabID), w.conts.length < fuel →
    Closed w (forget fuel w v) ∧ (forget fuel w v).cont? v = none := by
  intro fuel
  induction fuel with
  | zero => intro w v h; omega
  | succ fuel ih =>
    intro w v hlen
    rw [forget_succ]
    cases hc : w.cont? v with
    | none => exact ⟨Closed.refl w, hc⟩
    | some c =>
      simp only
      have hv : (w.cont? v).isSome := by rw [hc]; rfl
      have s0 := Shrink.dropKey w v hv
      have hlen0 : (w.dropKey v).conts.length < fuel := by
        have := length_dropKey_lt w v hv; omega
      obtain ⟨c1, n1⟩ := foldl_forget_closed fuel ih (Cont.childRefs w c) (w.dropKey v) hlen0
      have s1 := foldl_forget_shrink fuel (forget_shrink fuel) (Cont.childRefs w c) (w.dropKey v)
      refine ⟨?_, s1.none_stays (by simp [cont?_dropKey])⟩
      intro u cu hu hn e he y hp
      by_cases hvu : v = u
      · subst hvu
        rw [hc] at hu; cases hu
        cases hy : w.cont? y with
        | none => exact (s0.trans s1).none_stays hy
        | some cy => exact n1 y (mem_childRefs.mpr ⟨⟨e, he, hp⟩, by rw [hy]; rfl⟩)
      · exact c1 u cu (by rw [cont?_dropKey, if_neg hvu]; exact hu) hn e he y hp

theorem Closed.reach_none {w w' : World} (hc : Closed w w') {v x : SlabID} (hr : Reach w v x)
    (hv : w'.cont? v = none) : w'.cont? x = none := by
  induction hr with
  | refl _ => exact hv
  | step hcu he hp _ ih => exact ih (hc _ _ hcu hv _ he _ hp)

theorem forgetElems_nil (w : World) : w.forgetElems [] = w := rfl

theorem forgetElems_cons (w : World) (e : Elem) (es : List Elem) :
    w.forgetElems (e :: es) =
      World.forgetElems (match e.pay with | .ref v => forget w.fuelOf w v | _ => w) es := rfl

theorem forgetElems_spec : ∀ (es : List Elem) (w : World),
    Shrink w (w.forgetElems es) ∧ Closed w (w.forgetElems es) ∧
    (∀ e ∈ es, ∀ v, e.pay = .ref v → (w.forgetElems es).cont? v = none) ∧
    (∀ u, (w.cont? u).isSome → (w.forgetElems es).cont? u = none →
       ∃ e ∈ es, ∃ v, e.pay = .ref v ∧ Reach w v u) := by
  intro es
  induction es with
  | nil =>
    intro w
    refine ⟨Shrink.refl w, Closed.refl w, fun e he => by simp at he, fun u hs hn => ?_⟩
    rw [forgetElems_nil] at hn; rw [hn] at hs; cases hs
  | cons e es ih =>
    intro w
    rw [forgetElems_cons]
    cases hp : e.pay with
    | val n =>
      simp only
      obtain ⟨s, c, n1, snd⟩ := ih w
      refine ⟨s, c, fun e' he' v hv => ?_, fun u hs hn => ?_⟩
      · rcases List.mem_cons.mp he' with rfl | he'
        · rw [hp] at hv; cases hv
        · exact n1 e' he' v hv
      · obtain ⟨e', he', v, hv, hr⟩ := snd u hs hn
        exact ⟨e', by simp [he'], v, hv, hr⟩
    | ref v0 =>
      simp only
      have s0 := forget_shrink w.fuelOf w v0
      obtain ⟨c0, n0⟩ := forget_closed w.fuelOf w v0 (by unfold fuelOf; omega)
      obtain ⟨s, c, n1, snd⟩ := ih (forget w.fuelOf w v0)
      refine ⟨s0.trans s, Closed.trans s0 c0 s c, fun e' he' v hv => ?_, fun u hs hn => ?_⟩
      · rcases List.mem_cons.mp he' with rfl | he'
        · rw [hp] at hv; cases hv
          exact s.none_stays n0
        · exact n1 e' he' v hv
      · cases h1 : (forget w.fuelOf w v0).cont? u with
        | none => exact ⟨e, by simp, v0, hp, forget_sound _ w v0 u hs h1⟩
        | some c1 =>
          obtain ⟨e', he', v, hv, hr⟩ := snd u (by rw [h1]; rfl) hn
          exact ⟨e', by simp [he'], v, hv, hr.mono s0⟩

theorem forgetElems_reach_none {w : World} {es : List Elem} {e : Elem} {v x : SlabID}
    (he : e ∈ es) (hp : e.pay = .ref v) (hr : Reach w v x) : (w.forgetElems es).cont? x = none := by
  obtain ⟨_, c, n1, _⟩ := forgetElems_spec es w
  exact c.reach_none hr (n1 e he v hp)

/-- the elements the caller disposes of: those that do not refer to a kept container -/
theorem mem_disposed {keep : List SlabID} {es : List Elem} {e : Elem} :
    e ∈ disposed keep es ↔ e ∈ es ∧ ∀ v, e.pay = .ref v → v ∉ keep := by
  unfold disposed
  rw [List.mem_filter]
  constructor
  · rintro ⟨h1, h2⟩
    refine ⟨h1, fun v hv hk => ?_⟩
    rw [hv] at h2
    simp [hk] at h2
  · rintro ⟨h1, h2⟩
    refine ⟨h1, ?_⟩
    cases hp : e.pay with
    | val n => rfl
    | ref v => simpa using h2 v hp

/-- `x` is not nested below any of the elements `es` -/
def NotBelow (w : World) (es : List Elem) (x : SlabID) : Prop :=
  ∀ e ∈ es, ∀ v, e.pay = .ref v → ¬ Reach w v x

/-- everything outside the popped subtree keeps its entries in all tables -/
theorem forgetElems_keep {w : World} {es : List Elem} {x : SlabID} (hx : NotBelow w es x) :
    (w.forgetElems es).cont? x = w.cont? x ∧
    AList.find? (w.forgetElems es).hinfo x = AList.find? w.hinfo x ∧
    AList.find? (w.forgetElems es).mutIdx x = AList.find? w.mutIdx x := by
  obtain ⟨s, _, _, snd⟩ := forgetElems_spec es w
  rcases s.keep x with a | ⟨b1, b2, _, _⟩
  · exact a
  · obtain ⟨e, he, v, hv, hr⟩ := snd x b1 b2
    exact absurd hr (hx e he v hv)

theorem notBelow_of_rank {rank : SlabID → Nat} {w : World} (hr : RefRankOk rank w) {es : List Elem}
    {x : SlabID} (hx : ∀ e ∈ es, ∀ v, e.pay = .ref v → (w.cont? v).isSome → rank x < rank v) :
    NotBelow w es x := by
  intro e he v hv hre
  have := hx e he v hv hre.src_isSome
  have := hre.rank_le hr
  omega

end World
end Atree

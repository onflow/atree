import AtreeProofs.World.PopOps
import AtreeProofs.World.Eval
/-
  Kernel-evaluable copies of `arrPop` / `mapPop` / `mapSet` (on `notifyS`), proved equal to the
  model, and executable checks of the invariants used as hypotheses (`IdsOk`, acyclic parent
  pointers, acyclic element references), proved sound.
-/
namespace Atree
open Gen
namespace World

def arrPopS (w : World) (h : SlabID) (cx : Ctx) : Except WErr (List Elem × World × Ctx) :=
  match w.cont? h with
  | some (.arr a) =>
    let (es, a', cx) := a.popIterate cx
    let w := w.setCont h (.arr a')
    let w := w.setIdx h []
    let w := w.forgetElems es
    match notifyS w.fuelOf w h cx with
    | .error e => .error e
    | .ok (w, cx) => .ok (es, w, cx)
  | _ => .error .unknownContainer

def mapPopS (w : World) (h : SlabID) (cx : Ctx) : Except WErr (List (MKey × Elem) × World × Ctx) :=
  match w.cont? h with
  | some (.map m) =>
    let (kvs, m', cx) := m.popIterate cx
    let w := w.setCont h (.map m')
    let w := w.forgetElems (kvs.map (·.2))
    match notifyS w.fuelOf w h cx with
    | .error e => .error e
    | .ok (w, cx) => .ok (kvs, w, cx)
  | _ => .error .unknownContainer

def mapSetS (w : World) (p : SlabID) (k : MKey) (v : WVal) (cx : Ctx) : Except WErr (Option Elem × World × Ctx) := do
  let (old, w, cx) ← mapSetRawWith (notifyS w.fuelOf) w p k v cx
  match old with
  | none => return (none, w, cx)
  | some o =>
    let (o', _, w, cx) ← w.uninlineIfNeeded o cx
    return (some o', w, cx)

theorem arrPop_eq_S : arrPop = arrPopS := by
  funext w h cx
  unfold arrPop arrPopS
  simp only [notifyParent_eq_notifyS]
  rfl

theorem mapPop_eq_S : mapPop = mapPopS := by
  funext w h cx
  unfold mapPop mapPopS
  simp only [notifyParent_eq_notifyS]
  rfl

theorem mapSet_eq_S : mapSet = mapSetS := by
  funext w p k v cx
  unfold mapSet mapSetS
  simp only [mapSetRaw_eq_S]
  rfl

/-- executable `IdsOk` -/
def idsOkB (w : World) : Bool := w.conts.all (fun p => decide (p.2.vid = p.1))

theorem idsOk_of_B {w : World} (h : idsOkB w = true) : IdsOk w := by
  intro v c hc
  have := List.all_eq_true.mp h _ (AList.mem_of_find? hc)
  simpa using this

/-- executable `RankOk` (acyclic parent pointers) -/
def rankOkB (rank : SlabID → Nat) (w : World) : Bool :=
  w.hinfo.all (fun p => decide (rank p.2.parent < rank p.1))

theorem rankOk_of_B {rank : SlabID → Nat} {w : World} (h : rankOkB rank w = true) : RankOk rank w := by
  intro y hi hy
  have := List.all_eq_true.mp h _ (AList.mem_of_find? hy)
  simpa using this

/-- executable `RefRankOk` (acyclic element references) -/
def refRankOkB (rank : SlabID → Nat) (w : World) : Bool :=
  w.conts.all (fun p => p.2.storedElems.all (fun e =>
    match e.pay with
    | .ref v => !(w.cont? v).isSome || decide (rank p.1 < rank v)
    | _ => true))

theorem refRankOk_of_B {rank : SlabID → Nat} {w : World} (h : refRankOkB rank w = true) : RefRankOk rank w := by
  intro u c hc e he v hp hv
  have h1 := List.all_eq_true.mp h _ (AList.mem_of_find? hc)
  have h2 := List.all_eq_true.mp h1 e he
  simp only [hp, hv, Bool.not_true, Bool.false_or, decide_eq_true_eq] at h2
  exact h2

end World
end Atree

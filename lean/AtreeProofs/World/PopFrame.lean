import AtreeProofs.World.Pop
/-
  With acyclic parent pointers, a notification from `y` leaves the index table (`mutableElementIndex`) of
  `y` and of everything not above `y` untouched (`notifyParent_idxOf`); `LogExt`: the effect log of one
  context extends that of another (that every operation only extends it: `World/LogGrows.lean`).
-/
namespace Atree
open Gen

namespace World

theorem notifyParent_idxOf {rank : SlabID → Nat} {fuel : Nat} {w : World} {y : SlabID} {cx : Ctx}
    {w' : World} {cx' : Ctx} (hr : RankOk rank w) (h : notifyParent fuel w y cx = .ok (w', cx'))
    {z : SlabID} (hz : rank y ≤ rank z) : w'.idxOf z = w.idxOf z := by
  simp only [idxOf, (notify_frame hr h).2.2.2 z hz]

/-- `c'` extends the log of `c` -/
def LogExt (c c' : Ctx) : Prop := ∃ E, c'.eff = c.eff ++ E

theorem LogExt.refl (c : Ctx) : LogExt c c := ⟨[], by simp⟩
theorem LogExt.trans {c1 c2 c3 : Ctx} (h12 : LogExt c1 c2) (h23 : LogExt c2 c3) : LogExt c1 c3 := by
  obtain ⟨E1, e1⟩ := h12
  obtain ⟨E2, e2⟩ := h23
  exact ⟨E1 ++ E2, by rw [e2, e1, List.append_assoc]⟩
theorem LogExt.emit (c : Ctx) (e : Eff) : LogExt c (c.emit e) := ⟨[e], rfl⟩

theorem LogExt.mem {c c' : Ctx} (h : LogExt c c') {e : Eff} (he : e ∈ c'.eff.drop c.eff.length) {c0 : Ctx}
    (h0 : LogExt c0 c) : e ∈ c'.eff.drop c0.eff.length := by
  obtain ⟨E, hE⟩ := h
  obtain ⟨E0, hE0⟩ := h0
  rw [hE, List.drop_left] at he
  rw [hE, hE0, List.append_assoc, List.drop_left]
  exact List.mem_append.mpr (Or.inr he)

/-- what a first step appended is still among the new effects after the log has been extended -/
theorem LogExt.mem_new {c0 c c' : Ctx} {F : List Eff} (h0 : c.eff = c0.eff ++ F) (h : LogExt c c')
    {e : Eff} (he : e ∈ F) : e ∈ c'.eff.drop c0.eff.length := by
  obtain ⟨E, hE⟩ := h
  rw [hE, h0, List.append_assoc, List.drop_left]
  exact List.mem_append.mpr (Or.inl he)

end World
end Atree

import AtreeProofs.Array.EffectsTree
import AtreeProofs.World.PopFrame
import AtreeProofs.E2EMap.Created
/-
  `Arr.set` and `OMap.set` only APPEND to the effect log — for EVERY tree, no invariant needed:
  `Value.Storable` appends, and everything after it is `Plain` (`Arr.set_plain`,
  `E2EM.omap_set_plain`).  Hence the notification inside a pop only appends to the log of the pop
  (`World/LogGrows.lean`, `C10Pop.…_releases_own_slabs`).
-/
namespace Atree
open Gen World

namespace World.LogExt

theorem emit3 (c : Ctx) (e1 e2 e3 : Eff) : LogExt c (((c.emit e1).emit e2).emit e3) :=
  ((LogExt.emit c e1).trans (LogExt.emit _ e2)).trans (LogExt.emit _ e3)

theorem of_plain {c c' : Ctx} (h : E2EM.Plain c c') : LogExt c c' :=
  let ⟨E, he, _⟩ := h.log
  ⟨E, he⟩

end World.LogExt

theorem ValStep.logExt {a : Nat} {c c' : Ctx} (h : ValStep a c c') : LogExt c c' := by
  rcases h with rfl | ⟨v, rfl⟩
  · exact LogExt.refl _
  · exact ⟨_, rfl⟩

namespace MetaSlab
open ATree
variable {d : Nat}

theorem rebalanceChildren_logExt (T : Nat) (m : MetaSlab (ATree d)) (l r : ATree d) (li ri : Nat) (b : Bool) (c : Ctx) :
    LogExt c (m.rebalanceChildren T l r li ri b c).2 := LogExt.emit3 _ _ _ _

theorem mergeChildren_logExt (m : MetaSlab (ATree d)) (l r : ATree d) (li ri : Nat) (c : Ctx) :
    LogExt c (m.mergeChildren l r li ri c).2 := LogExt.emit3 _ _ _ _

end MetaSlab

theorem Arr.set_logExt {T : Nat} {a a' : Arr} {i : Nat} {e old : Elem} {c c' : Ctx}
    (h : a.set T i e c = .ok (old, a', c')) : LogExt c c' :=
  let ⟨addr, hp⟩ := (Arr.set_plain h).2
  (toStorable_valStep T addr e c).logExt.trans (.of_plain hp)

theorem OMap.set_logExt {r : Nat} {cfg : MCfg} {m m' : OMap r} {k : MKey} {v : Elem} {old : Option Elem}
    {c c' : Ctx} (h : m.set cfg k v c = .ok (old, m', c')) : LogExt c c' :=
  (toStorableLim_valStep _ cfg.addr v c).logExt.trans (.of_plain (E2EM.omap_set_plain h))

end Atree

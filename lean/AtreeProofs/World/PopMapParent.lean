import AtreeProofs.World.PopThm
import AtreeProofs.Map.Root
/-
  `OMap.set` then `OMap.get` of a reference on a single-slab map with one entry (the premise `hset` of
  the map-parent theorems of C10Pop, on the concrete maps of the runs).
-/
namespace Atree
open Gen

theorem hkey_set_single {α : Type} (o : ElemsOps α) (cfg : MCfg) (hL : 0 < cfg.L) (hcl : 0 < cfg.climit)
    (he : HkeyElems α) (x : SElem) (k : MKey)
    (hk : he.hkeys = [k.dig 0]) (hel : he.elems = [.single x]) (hlev : he.level = 0)
    (hsame : x.key.same k = true)
    (e : Elem) (r : SlabID) (hr : e.pay = .ref r) (c0 : Ctx) :
    ∃ he' : HkeyElems α, HkeyElems.set o cfg he 0 k e c0 = .ok (x.key, some x.val, he', c0) ∧
      he'.hkeys = [k.dig 0] ∧ (∃ sz, he'.elems = [.single ⟨x.key, e, sz⟩]) := by
  have hL' : ¬ (0 ≥ cfg.L) := by omega
  have hcl' : ¬ (0 ≥ cfg.climit) := by omega
  unfold HkeyElems.set
  simp only [hk, hel, hlev, hL', if_false, List.head?_cons, List.getLast?_singleton,
    Nat.lt_irrefl, gt_iff_lt, List.length_cons, List.length_nil, HkeyElems.findEqLt]
  simp [MElemF.count, MElemF.set, hsame, toStorableLim_refR _ _ e c0 r hr, hcl', bind, Except.bind, pure, Except.pure]

theorem hkey_get_single {α : Type} (o : ElemsOps α) (cfg : MCfg) (hL : 0 < cfg.L)
    (he : HkeyElems α) (x : SElem) (k : MKey)
    (hk : he.hkeys = [k.dig 0]) (hel : he.elems = [.single x]) (hsame : x.key.same k = true) :
    HkeyElems.get o cfg he 0 k = .ok (x.key, x.val) := by
  have hL' : ¬ (0 ≥ cfg.L) := by omega
  unfold HkeyElems.get
  simp [hk, hel, hL', HkeyElems.findEq, MElemF.get, hsame]

/-- `OMap.set` then `OMap.get` on a single-slab map holding ONE entry, under its key, for a
    reference: the key holds the new element (a too large element makes the root split fail). -/
theorem OMap.set_get_single (cfg : MCfg) (hL : 0 < cfg.L) (hcl : 0 < cfg.climit)
    (s : MDataSlab 3) (ty cnt seed : Nat) (x : SElem) (k : MKey)
    (hk : s.elems.hkeys = [k.dig 0]) (hel : s.elems.elems = [.single x]) (hlev : s.elems.level = 0)
    (hsame : x.key.same k = true)
    (e : Elem) (r : SlabID) (he : e.pay = .ref r) (c0 : Ctx) (old : Option Elem) (m' : OMap 3) (c1 : Ctx)
    (h : OMap.set cfg (⟨0, s, ty, cnt, seed⟩ : OMap 3) k e c0 = .ok (old, m', c1)) :
    m'.get cfg k = .ok (x.key, e) := by
  obtain ⟨he', hset, hk', sz, hel'⟩ := hkey_set_single (MDataSlab.eops 3) cfg hL hcl s.elems x k hk hel hlev hsame e r he c0
  obtain ⟨ks, root', c1', hs, hfix⟩ := OMap.set_ok_iff.mp h
  simp only [MTree.set, MDataSlab.set, hset, bind, Except.bind, pure, Except.pure, Except.ok.injEq, Prod.mk.injEq] at hs
  obtain ⟨rfl, rfl, rfl, rfl⟩ := hs
  -- a root data slab needs no promotion; it is not split: the split of a single element fails
  rcases OMap.splitRootIfFull_cases (hfix : OMap.splitRootIfFull cfg.T _ _ = _) with hsr | ⟨rfl, rfl⟩
  · exfalso
    obtain ⟨l, rr, c2, hsplit, _⟩ := splitRoot_inv _ _ _ _ _ _ hsr
    simp [MTree.split, MDataSlab.split, deroot, hel', bind, Except.bind] at hsplit
  · show HkeyElems.get (MDataSlab.eops 3) cfg he' 0 k = _
    exact hkey_get_single (MDataSlab.eops 3) cfg hL he' ⟨x.key, e, sz⟩ k hk' hel' hsame

end Atree

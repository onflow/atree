import AtreeProofs.World.PopFrame
/-
  `arrPop` / `mapPop` = (emptying `h` in place) ; (`forgetElems` of what was popped) ;
  (`notifyParent` from `h`).  This file describes the state at the call of `notifyParent`
  (`Emptied`, `mid_…` lemmas), generically for arrays and maps; and `Detached`, the hypothesis of the
  C11 statements: the closure of a container finds nothing (`ClosureLost`, grouped by the kind of
  the parent), so its notification writes nothing (`notify_detached`).
-/
namespace Atree
open Gen
namespace World

/-- `w0` is `w` with the container `h` replaced by an empty one (`c0`), and possibly another
    index table for `h`; nothing else differs -/
structure Emptied (w : World) (h : SlabID) (c0 : Cont) (w0 : World) : Prop where
  T : w0.T = w.T
  addr : w0.addr = w.addr
  hinfo : w0.hinfo = w.hinfo
  cont_h : w0.cont? h = some c0
  cont_ne : ∀ y, y ≠ h → w0.cont? y = w.cont? y
  idx_ne : ∀ y, y ≠ h → AList.find? w0.mutIdx y = AList.find? w.mutIdx y
  empty : c0.storedElems = []
  was : (w.cont? h).isSome

namespace Emptied
variable {w w0 : World} {h : SlabID} {c0 : Cont}

theorem isSome_iff (E : Emptied w h c0 w0) (y : SlabID) : (w0.cont? y).isSome = (w.cont? y).isSome := by
  by_cases hy : y = h
  · subst hy; rw [E.cont_h, E.was]; rfl
  · rw [E.cont_ne y hy]

/-- every table but the index tables is the one of `w` with `c0` filed under `h` -/
theorem idxOnly (E : Emptied w h c0 w0) : IdxOnly (w.setCont h c0) w0 := by
  refine ⟨E.T, E.addr, E.hinfo, fun z => ?_⟩
  by_cases hz : z = h
  · subst hz; rw [E.cont_h, cont?_setCont_self]
  · rw [E.cont_ne z hz, cont?_setCont_ne _ _ _ _ hz]

/-- emptying `h` only removes edges of the element-reference graph -/
theorem reach_of (E : Emptied w h c0 w0) {v x : SlabID} (hr : Reach w0 v x) : Reach w v x := by
  induction hr with
  | refl hv => exact Reach.refl (by rw [← E.isSome_iff]; exact hv)
  | @step u v x c e hc he hp _ ih =>
    by_cases hu : u = h
    · subst hu
      rw [E.cont_h] at hc; cases hc
      rw [E.empty] at he; cases he
    · exact Reach.step (by rw [← E.cont_ne u hu]; exact hc) he hp ih

/-- a path that never meets `h` survives the emptying of `h` -/
theorem reach_to (E : Emptied w h c0 w0) {v x : SlabID} (hr : Reach w v x) (hn : ¬ Reach w v h) :
    Reach w0 v x := by
  induction hr with
  | refl hv => exact Reach.refl (by rw [E.isSome_iff]; exact hv)
  | @step u v x c e hc he hp hre ih =>
    have hu : u ≠ h := by
      intro hu; subst hu
      exact hn (Reach.refl (by rw [hc]; rfl))
    refine Reach.step (by rw [E.cont_ne u hu]; exact hc) he hp (ih ?_)
    intro hvh
    exact hn (Reach.step hc he hp hvh)

theorem notBelow (E : Emptied w h c0 w0) {es : List Elem} {x : SlabID} (hx : NotBelow w es x) :
    NotBelow w0 es x :=
  fun e he v hv hr => hx e he v hv (E.reach_of hr)

theorem mid_shrink (_ : Emptied w h c0 w0) (es : List Elem) : Shrink w0 (w0.forgetElems es) :=
  (forgetElems_spec es w0).1

theorem mid_T (E : Emptied w h c0 w0) (es : List Elem) : (w0.forgetElems es).T = w.T := by
  rw [(E.mid_shrink es).T, E.T]

theorem mid_mcfg (E : Emptied w h c0 w0) (es : List Elem) : (w0.forgetElems es).mcfg = w.mcfg := by
  simp only [World.mcfg, (E.mid_shrink es).T, (E.mid_shrink es).addr, E.T, E.addr]

/-- `h` itself, when it is not nested below what it held -/
theorem mid_h (E : Emptied w h c0 w0) {es : List Elem} (hfree : NotBelow w es h) :
    (w0.forgetElems es).cont? h = some c0 ∧
    AList.find? (w0.forgetElems es).hinfo h = AList.find? w.hinfo h ∧
    AList.find? (w0.forgetElems es).mutIdx h = AList.find? w0.mutIdx h := by
  obtain ⟨k1, k2, k3⟩ := forgetElems_keep (E.notBelow hfree)
  exact ⟨k1.trans E.cont_h, by rw [k2, E.hinfo], k3⟩

/-- every other container outside the popped subtree -/
theorem mid_other (E : Emptied w h c0 w0) {es : List Elem} {x : SlabID} (hx : NotBelow w es x) (hne : x ≠ h) :
    (w0.forgetElems es).cont? x = w.cont? x ∧
    AList.find? (w0.forgetElems es).hinfo x = AList.find? w.hinfo x ∧
    AList.find? (w0.forgetElems es).mutIdx x = AList.find? w.mutIdx x ∧
    (w0.forgetElems es).idxOf x = w.idxOf x := by
  obtain ⟨k1, k2, k3⟩ := forgetElems_keep (E.notBelow hx)
  have k3' := k3.trans (E.idx_ne x hne)
  exact ⟨k1.trans (E.cont_ne x hne), by rw [k2, E.hinfo], k3', by simp only [idxOf, k3']⟩

/-- the popped subtree is gone -/
theorem mid_gone (E : Emptied w h c0 w0) {es : List Elem} (hfree : NotBelow w es h)
    {e : Elem} {v x : SlabID} (he : e ∈ es) (hp : e.pay = .ref v) (hr : Reach w v x) :
    (w0.forgetElems es).cont? x = none :=
  forgetElems_reach_none he hp (E.reach_to hr (hfree e he v hp))

/-- nothing else is -/
theorem mid_isSome (E : Emptied w h c0 w0) {es : List Elem} {x : SlabID} (hx : NotBelow w es x) :
    ((w0.forgetElems es).cont? x).isSome = (w.cont? x).isSome := by
  rw [(forgetElems_keep (E.notBelow hx)).1, E.isSome_iff]

theorem mid_rankOk (E : Emptied w h c0 w0) (es : List Elem) {rank : SlabID → Nat} (hr : RankOk rank w) :
    RankOk rank (w0.forgetElems es) := by
  intro y hi hy
  have s := E.mid_shrink es
  rcases s.keep y with ⟨_, a, _⟩ | ⟨_, _, b, _⟩
  · rw [a, E.hinfo] at hy; exact hr y hi hy
  · rw [b] at hy; cases hy

theorem mid_idsOk (E : Emptied w h c0 w0) (es : List Elem) (hids : IdsOk w) (hid : c0.vid = h) :
    IdsOk (w0.forgetElems es) := by
  intro y c hy
  have hy0 := (E.mid_shrink es).some_of_some hy
  by_cases hyh : y = h
  · subst hyh; rw [E.cont_h] at hy0; cases hy0; exact hid
  · rw [E.cont_ne y hyh] at hy0; exact hids y c hy0

end Emptied

theorem emptied_arr {w : World} {h : SlabID} {a : Arr} (hc : w.cont? h = some (.arr a)) (cx : Ctx) :
    Emptied w h (.arr (a.popIterate cx).2.1) ((w.setCont h (.arr (a.popIterate cx).2.1)).setIdx h []) := by
  refine ⟨rfl, rfl, rfl, by simp, fun y hy => by simp [Ne.symm hy], fun y hy => ?_, rfl, by rw [hc]; rfl⟩
  simp only [World.setIdx, World.setCont, AList.find?_insert, if_neg (Ne.symm hy)]

theorem emptied_map {w : World} {h : SlabID} {m : OMap 3} (hc : w.cont? h = some (.map m)) (cx : Ctx) :
    Emptied w h (.map (m.popIterate cx).2.1) (w.setCont h (.map (m.popIterate cx).2.1)) := by
  refine ⟨rfl, rfl, rfl, by simp, fun y hy => by simp [Ne.symm hy], fun y hy => rfl, rfl, by rw [hc]; rfl⟩

/-- the state at the call of `notifyParent` inside `arrPop` -/
def arrPopMid (w : World) (h : SlabID) (a : Arr) (cx : Ctx) : World :=
  ((w.setCont h (.arr (a.popIterate cx).2.1)).setIdx h []).forgetElems (a.popIterate cx).1

/-- the state at the call of `notifyParent` inside `mapPop` -/
def mapPopMid (w : World) (h : SlabID) (m : OMap 3) (cx : Ctx) : World :=
  (w.setCont h (.map (m.popIterate cx).2.1)).forgetElems ((m.popIterate cx).1.map (·.2))

theorem arrPop_isArr {w : World} {h : SlabID} {cx : Ctx} {es : List Elem} {w' : World} {cx' : Ctx}
    (hp : w.arrPop h cx = .ok (es, w', cx')) : ∃ a, w.cont? h = some (.arr a) :=
  let ⟨a, _, ha, _⟩ := arrPop_ok_iff.mp hp
  ⟨a, ha⟩

theorem mapPop_isMap {w : World} {h : SlabID} {cx : Ctx} {kvs : List (MKey × Elem)} {w' : World} {cx' : Ctx}
    (hp : w.mapPop h cx = .ok (kvs, w', cx')) : ∃ m, w.cont? h = some (.map m) :=
  let ⟨m, _, hm, _⟩ := mapPop_ok_iff.mp hp
  ⟨m, hm⟩

/-- `arrPop` = emptying in place, disposal of what was popped, ordinary parent notification -/
theorem arrPop_ok {w : World} {h : SlabID} {cx : Ctx} {a : Arr} {es : List Elem} {w' : World} {cx' : Ctx}
    (hc : w.cont? h = some (.arr a)) (hp : w.arrPop h cx = .ok (es, w', cx')) :
    es = (a.popIterate cx).1 ∧
    notifyParent ((arrPopMid w h a cx).conts.length + 1 + 1) (arrPopMid w h a cx) h (a.popIterate cx).2.2
      = .ok (w', cx') := by
  obtain ⟨a0, _, ha0, rfl, rfl, hn⟩ := arrPop_ok_iff.mp hp
  cases hc.symm.trans ha0
  exact ⟨rfl, hn⟩

theorem mapPop_ok {w : World} {h : SlabID} {cx : Ctx} {m : OMap 3} {kvs : List (MKey × Elem)} {w' : World} {cx' : Ctx}
    (hc : w.cont? h = some (.map m)) (hp : w.mapPop h cx = .ok (kvs, w', cx')) :
    kvs = (m.popIterate cx).1 ∧
    notifyParent ((mapPopMid w h m cx).conts.length + 1 + 1) (mapPopMid w h m cx) h (m.popIterate cx).2.2
      = .ok (w', cx') := by
  obtain ⟨m0, _, hm0, rfl, rfl, hn⟩ := mapPop_ok_iff.mp hp
  cases hc.symm.trans hm0
  exact ⟨rfl, hn⟩

/-- What any notification does to the notifying container and to the rest of the world, with
    acyclic parent pointers: same data, same value ID, same index table; same set of containers. -/
theorem notify_self {rank : SlabID → Nat} {fuel : Nat} {w : World} {x : SlabID} {cx : Ctx} {w' : World} {cx' : Ctx}
    (hr : RankOk rank w) {c : Cont} (hc : w.cont? x = some c)
    (h : notifyParent fuel w x cx = .ok (w', cx')) :
    (∃ c', w'.cont? x = some c' ∧ Cont.SameData c c') ∧ w'.idxOf x = w.idxOf x ∧
    (∀ z, (w'.cont? z).isSome = (w.cont? z).isSome) ∧ (IdsOk w → IdsOk w') := by
  obtain ⟨_, _, g3, _⟩ := notify_frame hr h
  rw [hc] at g3
  have d := DomRel.steps (notifyParent_steps h)
  exact ⟨g3.get_some, notifyParent_idxOf hr h (Nat.le_refl _), d.isSome, d.idsOk⟩

/-- the callback finds nothing in the recorded parent -/
def Detached (w : World) (x : SlabID) (hi : HInfo) : Prop :=
  w.cont? hi.parent = none ∨
  (∃ pa, w.cont? hi.parent = some (.arr pa) ∧
    (AList.find? (w.idxOf hi.parent) x = none ∨
     ∃ idx el, AList.find? (w.idxOf hi.parent) x = some idx ∧ pa.get idx = .ok el ∧ el.pay ≠ .ref x)) ∨
  (∃ pm k, w.cont? hi.parent = some (.map pm) ∧ hi.key = some k ∧
    (pm.get w.mcfg k = .error .keyNotFound ∨ ∃ k' el, pm.get w.mcfg k = .ok (k', el) ∧ el.pay ≠ .ref x))

/-- `Detached` is `ClosureLost` with the cases grouped by the kind of the parent -/
theorem Detached.closureLost {w : World} {x : SlabID} {hi : HInfo} (hd : Detached w x hi) : ClosureLost w x hi := by
  rcases hd with hnone | ⟨pa, hpa, hgone | ⟨idx, el, hidx, hget, hother⟩⟩ | ⟨pm, k, hpm, hk, h | ⟨k', el, h, hne⟩⟩
  · exact .inl hnone
  · exact .inr (.inl ⟨pa, hpa, hgone⟩)
  · exact .inr (.inr (.inl ⟨pa, idx, el, hpa, hidx, hget, hother⟩))
  · exact .inr (.inr (.inr (.inl ⟨pm, k, hpm, hk, h⟩)))
  · exact .inr (.inr (.inr (.inr ⟨pm, k, k', el, hpm, hk, h, hne⟩)))

/-- a detached child notifies nobody (all cases of C11, and the case of a vanished parent): it stays as it
    is, or its closure is dropped -/
theorem notify_detached {fuel : Nat} {w : World} {x : SlabID} {hi : HInfo} {cx : Ctx} {c : Cont}
    (hh : AList.find? w.hinfo x = some hi) (hc : w.cont? x = some c) (hd : Detached w x hi) :
    notifyParent (fuel + 1) w x cx = .ok (w, cx) ∨
    notifyParent (fuel + 1) w x cx = .ok ({ w with hinfo := AList.erase w.hinfo x }, cx) := by
  by_cases hs : c.isInlined = false ∧ c.inlinable hi.maxInline = false
  · exact .inl (notifyParent_succ_iff.mpr (.inr ⟨hi, c, hh, hc, .inl ⟨hs, rfl, rfl⟩⟩))
  · exact .inr (notifyParent_succ_iff.mpr (.inr ⟨hi, c, hh, hc, .inr ⟨hs, .inl ⟨rfl, rfl, hd.closureLost⟩⟩⟩))

end World
end Atree

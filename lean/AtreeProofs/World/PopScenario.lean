import AtreeProofs.World.PopEval
import AtreeProofs.World.Scenario
/-
  Concrete runs of the model used by the non-vacuity sections of C10Pop (T = 256).
  * run A: root array `R` ∋ inlined child array `X` ∋ [20-byte value, inlined grandchild array `Y`
    (holding one value), 20-byte value]; then `arrPop X` (`aP`).  Also: `X` removed from `R`
    (`a9`), then `arrPop` of the DETACHED `X` (`aD`).
  * run B: the same shape, but `X` holds four 100-byte values besides `Y`: it is a standalone
    two-level tree (root index slab `X` over the data slabs ⟨1,4⟩, ⟨1,5⟩); then `arrPop X` (`bP`).
  * run M: root array `R` ∋ inlined child MAP `M` ∋ {k1 ↦ value, k2 ↦ inlined array `Y`}; then
    `mapPop M` (`mP`); also `M` removed from `R` (`m8`) and `mapPop` of the detached `M` (`mD`).
  * run N: root MAP `M0` ∋ {k1 ↦ inlined child array `X` ∋ [value, inlined array `Y` ∋ [value]]}; then
    `arrPop X` (`nP`).
  * run Q: root map `M0` ∋ {k1 ↦ STANDALONE child map `M` (105 bytes) ∋ {k2 ↦ value, k1 ↦ inlined array `Y`}};
    then `mapPop M` (`qP`).
  All states are computed with the kernel-evaluable copies (`…S`), which are equal to the model.
-/
namespace Atree.PopScenario
open Atree Gen World
open Atree.Scenario (w0 cx0 okW okE eq_okW eq_okE eq_ok_of runW runE R X pl arrOf)

def Y : SlabID := ⟨1, 3⟩
/-- the map child has the ID of the second allocation, like `X` -/
def M : SlabID := ⟨1, 2⟩

def okL (r : Except WErr (List Elem × World × Ctx)) : List Elem × World × Ctx :=
  match r with | .ok x => x | .error _ => ([], w0, cx0)
def okK (r : Except WErr (List (MKey × Elem) × World × Ctx)) : List (MKey × Elem) × World × Ctx :=
  match r with | .ok x => x | .error _ => ([], w0, cx0)
def okM (r : Except WErr (Option Elem × World × Ctx)) : Option Elem × World × Ctx :=
  match r with | .ok x => x | .error _ => (none, w0, cx0)

theorem eq_okL (r : Except WErr (List Elem × World × Ctx)) (h : r.toBool = true) : r = .ok (okL r) :=
  eq_ok_of (fun _ => rfl) r h
theorem eq_okK (r : Except WErr (List (MKey × Elem) × World × Ctx)) (h : r.toBool = true) : r = .ok (okK r) :=
  eq_ok_of (fun _ => rfl) r h
theorem eq_okM (r : Except WErr (Option Elem × World × Ctx)) (h : r.toBool = true) : r = .ok (okM r) :=
  eq_ok_of (fun _ => rfl) r h

/-- a successful evaluated step is a step of the model -/
theorem runL {w : World} {h : SlabID} {cx : Ctx} (c : (w.arrPopS h cx).toBool = true) :
    w.arrPop h cx = .ok (okL (w.arrPopS h cx)) := by
  rw [arrPop_eq_S]; exact eq_okL _ c

theorem runK {w : World} {h : SlabID} {cx : Ctx} (c : (w.mapPopS h cx).toBool = true) :
    w.mapPop h cx = .ok (okK (w.mapPopS h cx)) := by
  rw [mapPop_eq_S]; exact eq_okK _ c

theorem runM {w : World} {p : SlabID} {k : MKey} {v : WVal} {cx : Ctx} (c : (w.mapSetS p k v cx).toBool = true) :
    w.mapSet p k v cx = .ok (okM (w.mapSetS p k v cx)) := by
  rw [mapSet_eq_S]; exact eq_okM _ c

/-- a plain 100-byte value -/
def big (n : Nat) : WVal := .plain { size := 100, pay := .val n }

/-! ### run A -/
def a1 : SlabID × World × Ctx := w0.newArr 7 cx0
def a2 : SlabID × World × Ctx := a1.2.1.newArr 8 a1.2.2
def a3 : SlabID × World × Ctx := a2.2.1.newArr 9 a2.2.2
def a4 : World × Ctx := okW (a3.2.1.arrInsertS R 0 (.child X 0) a3.2.2)
def a5 : World × Ctx := okW (a4.1.arrInsertS X 0 (pl 1) a4.2)
def a6 : World × Ctx := okW (a5.1.arrInsertS X 1 (.child Y 0) a5.2)
def a7 : World × Ctx := okW (a6.1.arrInsertS Y 0 (pl 2) a6.2)
def a8 : World × Ctx := okW (a7.1.arrInsertS X 2 (pl 3) a7.2)
/-- `arrPop X` -/
def aP : List Elem × World × Ctx := okL (a8.1.arrPopS X a8.2)
/-- `X` removed from `R` … -/
def a9 : Elem × World × Ctx := okE (a8.1.arrRemoveS R 0 a8.2)
/-- … then `arrPop` of the detached `X` -/
def aD : List Elem × World × Ctx := okL (a9.2.1.arrPopS X a9.2.2)

/-! ### run B -/
def b5 : World × Ctx := okW (a4.1.arrInsertS X 0 (.child Y 0) a4.2)
def b6 : World × Ctx := okW (b5.1.arrInsertS Y 0 (pl 2) b5.2)
def b7 : World × Ctx := okW (b6.1.arrInsertS X 1 (big 1) b6.2)
def b8 : World × Ctx := okW (b7.1.arrInsertS X 2 (big 2) b7.2)
def b9 : World × Ctx := okW (b8.1.arrInsertS X 3 (big 3) b8.2)
def b10 : World × Ctx := okW (b9.1.arrInsertS X 4 (big 4) b9.2)
def bP : List Elem × World × Ctx := okL (b10.1.arrPopS X b10.2)

/-! ### run M -/
def k1 : MKey := ⟨10, 1, [1, 1, 1, 1]⟩
def k2 : MKey := ⟨10, 2, [2, 2, 2, 2]⟩
def m2 : SlabID × World × Ctx := a1.2.1.newMap 8 5 a1.2.2
def m3 : SlabID × World × Ctx := m2.2.1.newArr 9 m2.2.2
def m4 : World × Ctx := okW (m3.2.1.arrInsertS R 0 (.child M 0) m3.2.2)
def m5 : Option Elem × World × Ctx := okM (m4.1.mapSetS M k1 (pl 1) m4.2)
def m6 : Option Elem × World × Ctx := okM (m5.2.1.mapSetS M k2 (.child Y 0) m5.2.2)
def m7 : World × Ctx := okW (m6.2.1.arrInsertS Y 0 (pl 2) m6.2.2)
/-- `mapPop M` -/
def mP : List (MKey × Elem) × World × Ctx := okK (m7.1.mapPopS M m7.2)
def m8 : Elem × World × Ctx := okE (m7.1.arrRemoveS R 0 m7.2)
/-- `mapPop` of the detached `M` -/
def mD : List (MKey × Elem) × World × Ctx := okK (m8.2.1.mapPopS M m8.2.2)

/-! ### run N -/
def M0 : SlabID := ⟨1, 1⟩
def n1 : SlabID × World × Ctx := w0.newMap 7 5 cx0
def n2 : SlabID × World × Ctx := n1.2.1.newArr 8 n1.2.2
def n3 : SlabID × World × Ctx := n2.2.1.newArr 9 n2.2.2
def n4 : Option Elem × World × Ctx := okM (n3.2.1.mapSetS M0 k1 (.child X 0) n3.2.2)
def n5 : World × Ctx := okW (n4.2.1.arrInsertS X 0 (pl 1) n4.2.2)
def n6 : World × Ctx := okW (n5.1.arrInsertS X 1 (.child Y 0) n5.2)
def n7 : World × Ctx := okW (n6.1.arrInsertS Y 0 (pl 2) n6.2)
/-- `arrPop X` -/
def nP : List Elem × World × Ctx := okL (n7.1.arrPopS X n7.2)

/-! ### run Q -/
def q2 : SlabID × World × Ctx := n1.2.1.newMap 8 6 n1.2.2
def q3 : SlabID × World × Ctx := q2.2.1.newArr 9 q2.2.2
def q4 : Option Elem × World × Ctx := okM (q3.2.1.mapSetS M0 k1 (.child M 0) q3.2.2)
def q5 : Option Elem × World × Ctx := okM (q4.2.1.mapSetS M k2 (pl 1) q4.2.2)
def q6 : Option Elem × World × Ctx := okM (q5.2.1.mapSetS M k1 (.child Y 0) q5.2.2)
def q7 : World × Ctx := okW (q6.2.1.arrInsertS Y 0 (pl 2) q6.2.2)
/-- `mapPop M` -/
def qP : List (MKey × Elem) × World × Ctx := okK (q7.1.mapPopS M q7.2)

/-- the map a container is, or an empty one -/
def mapOf (w : World) (v : SlabID) : OMap 3 :=
  match w.cont? v with
  | some (.map m) => m
  | _ => (OMap.new 0 0 (fun _ => 0) cx0).1

/-- every step of the runs is a successful run of the MODEL operation (each run is evaluated once) -/
theorem runA_ok :
    a1.1 = R ∧ a2.1 = X ∧ a3.1 = Y ∧
    a3.2.1.arrInsert R 0 (.child X 0) a3.2.2 = .ok a4 ∧
    a4.1.arrInsert X 0 (pl 1) a4.2 = .ok a5 ∧ a5.1.arrInsert X 1 (.child Y 0) a5.2 = .ok a6 ∧
    a6.1.arrInsert Y 0 (pl 2) a6.2 = .ok a7 ∧ a7.1.arrInsert X 2 (pl 3) a7.2 = .ok a8 ∧
    a8.1.arrPop X a8.2 = .ok aP ∧
    a8.1.arrRemove R 0 a8.2 = .ok a9 ∧ a9.2.1.arrPop X a9.2.2 = .ok aD := by
  suffices c : _ ∧ _ ∧ _ ∧ _ ∧ _ ∧ _ ∧ _ ∧ _ from
    ⟨by decide, by decide, by decide, runW c.1, runW c.2.1, runW c.2.2.1, runW c.2.2.2.1, runW c.2.2.2.2.1,
      runL c.2.2.2.2.2.1, runE c.2.2.2.2.2.2.1, runL c.2.2.2.2.2.2.2⟩
  decide +kernel

theorem runB_ok :
    a4.1.arrInsert X 0 (.child Y 0) a4.2 = .ok b5 ∧ b5.1.arrInsert Y 0 (pl 2) b5.2 = .ok b6 ∧
    b6.1.arrInsert X 1 (big 1) b6.2 = .ok b7 ∧ b7.1.arrInsert X 2 (big 2) b7.2 = .ok b8 ∧
    b8.1.arrInsert X 3 (big 3) b8.2 = .ok b9 ∧ b9.1.arrInsert X 4 (big 4) b9.2 = .ok b10 ∧
    b10.1.arrPop X b10.2 = .ok bP := by
  suffices c : _ ∧ _ ∧ _ ∧ _ ∧ _ ∧ _ ∧ _ from
    ⟨runW c.1, runW c.2.1, runW c.2.2.1, runW c.2.2.2.1, runW c.2.2.2.2.1, runW c.2.2.2.2.2.1,
      runL c.2.2.2.2.2.2⟩
  decide +kernel

theorem runM_ok :
    m2.1 = M ∧ m3.1 = Y ∧
    m3.2.1.arrInsert R 0 (.child M 0) m3.2.2 = .ok m4 ∧
    m4.1.mapSet M k1 (pl 1) m4.2 = .ok m5 ∧ m5.2.1.mapSet M k2 (.child Y 0) m5.2.2 = .ok m6 ∧
    m6.2.1.arrInsert Y 0 (pl 2) m6.2.2 = .ok m7 ∧
    m7.1.mapPop M m7.2 = .ok mP ∧
    m7.1.arrRemove R 0 m7.2 = .ok m8 ∧ m8.2.1.mapPop M m8.2.2 = .ok mD := by
  suffices c : _ ∧ _ ∧ _ ∧ _ ∧ _ ∧ _ ∧ _ from
    ⟨by decide, by decide, runW c.1, runM c.2.1, runM c.2.2.1, runW c.2.2.2.1, runK c.2.2.2.2.1,
      runE c.2.2.2.2.2.1, runK c.2.2.2.2.2.2⟩
  decide +kernel

theorem runN_ok :
    n1.1 = M0 ∧ n2.1 = X ∧ n3.1 = Y ∧
    n3.2.1.mapSet M0 k1 (.child X 0) n3.2.2 = .ok n4 ∧
    n4.2.1.arrInsert X 0 (pl 1) n4.2.2 = .ok n5 ∧ n5.1.arrInsert X 1 (.child Y 0) n5.2 = .ok n6 ∧
    n6.1.arrInsert Y 0 (pl 2) n6.2 = .ok n7 ∧
    n7.1.arrPop X n7.2 = .ok nP := by
  suffices c : _ ∧ _ ∧ _ ∧ _ ∧ _ from
    ⟨by decide, by decide, by decide, runM c.1, runW c.2.1, runW c.2.2.1, runW c.2.2.2.1, runL c.2.2.2.2⟩
  decide +kernel

theorem runQ_ok :
    q2.1 = M ∧ q3.1 = Y ∧
    q3.2.1.mapSet M0 k1 (.child M 0) q3.2.2 = .ok q4 ∧
    q4.2.1.mapSet M k2 (pl 1) q4.2.2 = .ok q5 ∧ q5.2.1.mapSet M k1 (.child Y 0) q5.2.2 = .ok q6 ∧
    q6.2.1.arrInsert Y 0 (pl 2) q6.2.2 = .ok q7 ∧
    q7.1.mapPop M q7.2 = .ok qP := by
  suffices c : _ ∧ _ ∧ _ ∧ _ ∧ _ from
    ⟨by decide, by decide, runM c.1, runM c.2.1, runM c.2.2.1, runW c.2.2.2.1, runK c.2.2.2.2⟩
  decide +kernel

/-! ### The states the properties talk about, written out (each evaluated once, from the one before) -/

/-- a single-slab array container: identifier, size of the slab, elements, held inline?, type -/
def arrC (id : SlabID) (size : Nat) (elems : List Elem) (inl : Bool) (ty : Nat) : SlabID × Cont :=
  (id, .arr ⟨0, ({ hdr := ⟨id, size, elems.length⟩, next := SlabID.undef, elems := elems, root := true,
                   inlined := inl } : DataSlab), ty⟩)

/-- a single-slab map container of plain key–value elements (first-level digests ascending) -/
def mapC (id : SlabID) (size : Nat) (kvs : List (MKey × Elem)) (inl : Bool) (ty seed : Nat) : SlabID × Cont :=
  (id, .map ⟨0, ({ hdr := ⟨id, size, (kvs.map (·.1.digs.headD 0)).headD 0⟩, next := SlabID.undef,
                   elems := ⟨kvs.map (·.1.digs.headD 0), kvs.map (fun p => .single ⟨p.1, p.2, p.1.size + p.2.size + 1⟩),
                     8 + (kvs.map (fun p => p.1.size + p.2.size + 9)).sum, 0⟩,
                   root := true, inlined := inl } : MDataSlab 3), ty, kvs.length, seed⟩)

def A8 : World × Ctx :=
  (⟨256, 1, [arrC R 99 [⟨94, .ref X⟩] false 7, arrC X 94 [⟨20, .val 1⟩, ⟨37, .ref Y⟩, ⟨20, .val 3⟩] true 8,
      arrC Y 37 [⟨20, .val 2⟩] true 9],
    [(X, ⟨R, none, 117, 0⟩), (Y, ⟨X, none, 117, 0⟩)], [(R, [(X, 0)]), (X, [(Y, 1)]), (Y, [])]⟩,
   { ctr := 3, eff := [.alloc 1 R, .store R, .alloc 1 X, .store X, .alloc 1 Y, .store Y, .remove X, .store R,
      .store R, .remove Y, .store R, .store R, .store R] })
def AP : List Elem × World × Ctx :=
  ([⟨20, .val 3⟩, ⟨37, .ref Y⟩, ⟨20, .val 1⟩],
   ⟨256, 1, [arrC R 22 [⟨17, .ref X⟩] false 7, arrC X 17 [] true 8], [(X, ⟨R, none, 117, 0⟩)], [(R, [(X, 0)]), (X, [])]⟩,
   { ctr := 3, eff := A8.2.eff ++ [.store R] })
def A9 : Elem × World × Ctx :=
  (⟨19, .ref X⟩,
   ⟨256, 1, [arrC X 82 [⟨20, .val 1⟩, ⟨37, .ref Y⟩, ⟨20, .val 3⟩] false 8, arrC R 5 [] false 7,
      arrC Y 37 [⟨20, .val 2⟩] true 9],
    [(X, ⟨R, none, 117, 0⟩), (Y, ⟨X, none, 117, 0⟩)], [(R, []), (X, [(Y, 1)]), (Y, [])]⟩,
   { ctr := 3, eff := A8.2.eff ++ [.store R, .store X] })
def AD : List Elem × World × Ctx :=
  (AP.1, ⟨256, 1, [arrC X 5 [] false 8, arrC R 5 [] false 7], [], [(X, []), (R, [])]⟩,
   { ctr := 3, eff := A9.2.2.eff ++ [.store X] })

theorem a8_eq : a8 = A8 := by rfl
theorem aP_eq : aP = AP := by rw [aP, a8_eq]; rfl
theorem a9_eq : a9 = A9 := by rw [a9, a8_eq]; rfl
theorem aD_eq : aD = AD := by rw [aD, a9_eq]; rfl

def M7 : World × Ctx :=
  (⟨256, 1, [arrC R 122 [⟨117, .ref M⟩] false 7, mapC M 117 [(k1, ⟨20, .val 1⟩), (k2, ⟨37, .ref Y⟩)] true 8 5,
      arrC Y 37 [⟨20, .val 2⟩] true 9],
    [(Y, ⟨M, some k2, 96, 0⟩), (M, ⟨R, none, 117, 0⟩)], [(R, [(M, 0)]), (Y, [])]⟩,
   { ctr := 3, eff := [.alloc 1 R, .store R, .alloc 1 M, .store M, .alloc 1 Y, .store Y, .remove M, .store R,
      .store R, .remove Y, .store R, .store R] })
def MP : List (MKey × Elem) × World × Ctx :=
  ([(k2, ⟨37, .ref Y⟩), (k1, ⟨20, .val 1⟩)],
   ⟨256, 1, [arrC R 27 [⟨22, .ref M⟩] false 7, mapC M 22 [] true 8 5], [(M, ⟨R, none, 117, 0⟩)], [(R, [(M, 0)])]⟩,
   { ctr := 3, eff := M7.2.eff ++ [.store R] })
def M8 : Elem × World × Ctx :=
  (⟨19, .ref M⟩,
   ⟨256, 1, [mapC M 105 [(k1, ⟨20, .val 1⟩), (k2, ⟨37, .ref Y⟩)] false 8 5, arrC R 5 [] false 7,
      arrC Y 37 [⟨20, .val 2⟩] true 9],
    [(Y, ⟨M, some k2, 96, 0⟩), (M, ⟨R, none, 117, 0⟩)], [(R, []), (Y, [])]⟩,
   { ctr := 3, eff := M7.2.eff ++ [.store R, .store M] })
def MD : List (MKey × Elem) × World × Ctx :=
  (MP.1, ⟨256, 1, [mapC M 10 [] false 8 5, arrC R 5 [] false 7], [], [(R, [])]⟩,
   { ctr := 3, eff := M8.2.2.eff ++ [.store M] })

theorem m7_eq : m7 = M7 := by rfl
theorem mP_eq : mP = MP := by rw [mP, m7_eq]; rfl
theorem m8_eq : m8 = M8 := by rw [m8, m7_eq]; rfl
theorem mD_eq : mD = MD := by rw [mD, m8_eq]; rfl

end Atree.PopScenario

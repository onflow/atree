import AtreeProofs.World.PopOps
import AtreeProofs.World.MutIdx
import AtreeProofs.World.SlotOk
/-
  The statements of C10Pop, generically for `arrPop` and `mapPop`: `E : Emptied w h c0 w0` is the
  emptying of `h` in place, `w0.forgetElems es` the state at the call of `notifyParent`.
-/
namespace Atree
open Gen
namespace World

variable {w w0 : World} {h : SlabID} {c0 : Cont} {es : List Elem} {cxm : Ctx} {w' : World} {cx' : Ctx}

/-- (A) the emptied container keeps its identity, stays empty; without a callback nothing else happens -/
theorem pop_result_g (E : Emptied w h c0 w0) {rank : SlabID → Nat} (hr : RankOk rank w)
    (hfree : NotBelow w es h)
    (hn : notifyParent ((w0.forgetElems es).conts.length + 1 + 1) (w0.forgetElems es) h cxm = .ok (w', cx')) :
    (∃ c', w'.cont? h = some c' ∧ Cont.SameData c0 c') ∧
    w'.idxOf h = (AList.find? w0.mutIdx h).getD [] ∧
    (AList.find? w.hinfo h = none → w' = w0.forgetElems es ∧ cx' = cxm) ∧
    (IdsOk w → c0.vid = h → IdsOk w') := by
  obtain ⟨m1, m2, m3⟩ := E.mid_h hfree
  obtain ⟨n1, n2, _, n4⟩ := notify_self (E.mid_rankOk es hr) m1 hn
  refine ⟨n1, ?_, ?_, fun hids hid => n4 (E.mid_idsOk es hids hid)⟩
  · rw [n2]; simp only [idxOf, m3]
  · intro hnone
    rw [← m2] at hnone
    rw [notifyParent_of_no_closure cxm hnone] at hn
    cases hn
    exact ⟨rfl, rfl⟩

/-- (C) the slot of the parent (array or map) is in sync with the emptied child after the pop -/
theorem pop_updates_parent_g (E : Emptied w h c0 w0) {hi : HInfo} {qc : Cont} {s : Slot} {el : Elem}
    (hh : AList.find? w.hinfo h = some hi) (hid : c0.vid = h) (hf : SlotFinds w h hi qc s el)
    (hsync : c0.isInlined = false → el.size = World.slotSize c0 hi.wrap)
    (hmax : hi.maxInline = s.lim w.T - 2 * hi.wrap) (rank : SlabID → Nat) (hacyc : RankOk rank w)
    (hset : ∀ (e : Elem) (c1 : Ctx) (old : Option Elem) (qc' : Cont) (c2 : Ctx), e.pay = .ref h →
      SlotSet w qc s e c1 old qc' c2 → SlotGet w qc' s e)
    (hfree : NotBelow w es h) (hpfree : NotBelow w es hi.parent)
    (hn : notifyParent ((w0.forgetElems es).conts.length + 1 + 1) (w0.forgetElems es) h cxm = .ok (w', cx')) :
    ∃ c' qc' el', w'.cont? h = some c' ∧ c'.vid = h ∧ c'.storedElems = [] ∧
      w'.cont? hi.parent = some qc' ∧
      ((∃ a a', qc = .arr a ∧ qc' = .arr a') ∨ (∃ m m', qc = .map m ∧ qc' = .map m')) ∧
      SlotGet w qc' s el' ∧ el'.pay = .ref h ∧ el'.size = World.slotSize c' hi.wrap ∧
      (c0.isInlined = false ∧ c0.inlinable hi.maxInline = false → w' = w0.forgetElems es ∧ cx' = cxm) ∧
      (¬ (c0.isInlined = false ∧ c0.inlinable hi.maxInline = false) →
        c'.isInlined = c0.inlinable hi.maxInline) := by
  have hph : hi.parent ≠ h := by
    intro hph; have := hacyc h hi hh; rw [hph] at this; omega
  obtain ⟨m1, m2, _⟩ := E.mid_h hfree
  obtain ⟨o1, _, _, o4⟩ := E.mid_other hpfree hph
  have hT := E.mid_T es
  have hM := E.mid_mcfg es
  have hA : (w0.forgetElems es).addr = w.addr := congrArg MCfg.addr hM
  obtain ⟨hq, hso, hget, hel⟩ := hf
  have hfm : SlotFinds (w0.forgetElems es) h hi qc s el := by
    refine ⟨o1.trans hq, ?_, hget.congr hM, hel⟩
    cases qc <;> cases s <;> first | exact hso.elim | skip
    · show AList.find? ((w0.forgetElems es).idxOf hi.parent) h = _
      rw [o4]; exact hso
    · exact hso
  obtain ⟨c', qc', hc', hq', hkind, hvid, hse, hstay, hgo⟩ := notify_updates_parent
    (by rw [m2]; exact hh) m1 hid hfm (by rw [hT]; exact hmax) (E.mid_rankOk es hacyc)
    (fun e c1 old qc' c2 he hs => (hset e c1 old qc' c2 he (hs.congr hT.symm hA.symm)).congr hM) hn
  rw [E.empty] at hse
  by_cases hst : c0.isInlined = false ∧ c0.inlinable hi.maxInline = false
  · obtain ⟨e1, e2⟩ := hstay hst
    subst e1; subst e2
    cases m1.symm.trans hc'
    cases (o1.trans hq).symm.trans hq'
    exact ⟨c0, qc, el, m1, hvid, hse, o1.trans hq, hkind, hget, hel, hsync hst.1,
      fun _ => ⟨rfl, rfl⟩, fun hn => absurd hst hn⟩
  · obtain ⟨hinl, el', g1, g2, g3⟩ := hgo hst
    exact ⟨c', qc', el', hc', hvid, hse, hq', hkind, g1.congr hM.symm, g2, g3, fun hs => absurd hs hst, fun _ => hinl⟩

/-- (C) for an array parent -/
theorem pop_updates_array_parent_g (E : Emptied w h c0 w0) {p : SlabID} {hi : HInfo} {pa : Arr} {idx : Nat} {el : Elem}
    (hh : AList.find? w.hinfo h = some hi) (hp : hi.parent = p) (hid : c0.vid = h)
    (hpa : w.cont? p = some (.arr pa)) (hidx : AList.find? (w.idxOf p) h = some idx)
    (hget : pa.get idx = .ok el) (hel : el.pay = .ref h)
    (hsync : c0.isInlined = false → el.size = World.slotSize c0 hi.wrap)
    (hmax : hi.maxInline = maxInlineArr w.T - 2 * hi.wrap)
    (rank : SlabID → Nat) (hacyc : RankOk rank w)
    (hset : ∀ (e : Elem) (c1 : Ctx) (old : Elem) (a' : Arr) (c2 : Ctx), e.pay = .ref h →
        pa.set w.T idx e c1 = .ok (old, a', c2) → a'.get idx = .ok e)
    (hfree : NotBelow w es h) (hpfree : NotBelow w es p)
    (hn : notifyParent ((w0.forgetElems es).conts.length + 1 + 1) (w0.forgetElems es) h cxm = .ok (w', cx')) :
    ∃ c' pa' el', w'.cont? h = some c' ∧ c'.vid = h ∧ c'.storedElems = [] ∧
      w'.cont? p = some (.arr pa') ∧ pa'.get idx = .ok el' ∧ el'.pay = .ref h ∧
      el'.size = World.slotSize c' hi.wrap ∧
      (c0.isInlined = false ∧ c0.inlinable hi.maxInline = false → w' = w0.forgetElems es ∧ cx' = cxm) ∧
      (¬ (c0.isInlined = false ∧ c0.inlinable hi.maxInline = false) →
        c'.isInlined = c0.inlinable hi.maxInline) := by
  subst hp
  obtain ⟨c', qc', el', g1, g2, g3, g4, hkind, g5, g6⟩ := pop_updates_parent_g (s := .idx idx) E hh hid
    ⟨hpa, hidx, hget, hel⟩ hsync hmax rank hacyc
    (fun e c1 old qc' c2 he hs => by
      cases qc' with
      | map m => exact hs.elim
      | arr a' => obtain ⟨_, o, _, hs⟩ := hs; exact hset e c1 o a' c2 he hs) hfree hpfree hn
  rcases hkind with ⟨_, pa', _, rfl⟩ | ⟨_, _, hm, _⟩
  · exact ⟨c', pa', el', g1, g2, g3, g4, g5, g6⟩
  · cases hm

/-- (C) for a map parent -/
theorem pop_updates_map_parent_g (E : Emptied w h c0 w0) {p : SlabID} {hi : HInfo} {pm : OMap 3} {k k0 : MKey} {el : Elem}
    (hh : AList.find? w.hinfo h = some hi) (hp : hi.parent = p) (hk : hi.key = some k) (hid : c0.vid = h)
    (hpm : w.cont? p = some (.map pm)) (hget : pm.get w.mcfg k = .ok (k0, el)) (hel : el.pay = .ref h)
    (hsync : c0.isInlined = false → el.size = World.slotSize c0 hi.wrap)
    (hmax : hi.maxInline = maxInlineMapValue w.T k.size - 2 * hi.wrap)
    (rank : SlabID → Nat) (hacyc : RankOk rank w)
    (hset : ∀ (e : Elem) (c1 : Ctx) (old : Option Elem) (m' : OMap 3) (c2 : Ctx), e.pay = .ref h →
        pm.set w.mcfg k e c1 = .ok (old, m', c2) → ∃ k1, m'.get w.mcfg k = .ok (k1, e))
    (hfree : NotBelow w es h) (hpfree : NotBelow w es p)
    (hn : notifyParent ((w0.forgetElems es).conts.length + 1 + 1) (w0.forgetElems es) h cxm = .ok (w', cx')) :
    ∃ c' pm' k1 el', w'.cont? h = some c' ∧ c'.vid = h ∧ c'.storedElems = [] ∧
      w'.cont? p = some (.map pm') ∧ pm'.get w.mcfg k = .ok (k1, el') ∧ el'.pay = .ref h ∧
      el'.size = World.slotSize c' hi.wrap ∧
      (c0.isInlined = false ∧ c0.inlinable hi.maxInline = false → w' = w0.forgetElems es ∧ cx' = cxm) ∧
      (¬ (c0.isInlined = false ∧ c0.inlinable hi.maxInline = false) →
        c'.isInlined = c0.inlinable hi.maxInline) := by
  subst hp
  obtain ⟨c', qc', el', g1, g2, g3, g4, hkind, g5, g6⟩ := pop_updates_parent_g (s := .key k) E hh hid
    ⟨hpm, hk, ⟨k0, hget⟩, hel⟩ hsync hmax rank hacyc
    (fun e c1 old qc' c2 he hs => by
      cases qc' with
      | arr a => exact hs.elim
      | map m' => exact hset e c1 old m' c2 he hs) hfree hpfree hn
  rcases hkind with ⟨_, _, ha, _⟩ | ⟨_, pm', _, rfl⟩
  · cases ha
  · obtain ⟨k1, g5⟩ := g5
    exact ⟨c', pm', k1, el', g1, g2, g3, g4, g5, g6⟩

/-- (D) exactly the popped subtree is forgotten -/
theorem pop_forgets_g (E : Emptied w h c0 w0) (hfree : NotBelow w es h)
    (hn : notifyParent ((w0.forgetElems es).conts.length + 1 + 1) (w0.forgetElems es) h cxm = .ok (w', cx')) :
    (∀ e ∈ es, ∀ v x, e.pay = .ref v → Reach w v x → w'.cont? x = none) ∧
    (∀ x, NotBelow w es x → (w'.cont? x).isSome = (w.cont? x).isSome) := by
  have d := DomRel.steps (notifyParent_steps hn)
  refine ⟨fun e he v x hp hr => ?_, fun x hx => ?_⟩
  · have := d.isSome x
    rw [E.mid_gone hfree he hp hr] at this
    cases hx : w'.cont? x with
    | none => rfl
    | some c => rw [hx] at this; cases this
  · rw [d.isSome x, E.mid_isSome hx]

/-- (E) a detached container notifies nobody: everything outside the popped subtree is as before -/
theorem pop_detached_g (E : Emptied w h c0 w0) {hi : HInfo}
    (hh : AList.find? w.hinfo h = some hi) (hd : Detached w h hi) (hne : hi.parent ≠ h)
    (hfree : NotBelow w es h) (hpfree : NotBelow w es hi.parent)
    (hn : notifyParent ((w0.forgetElems es).conts.length + 1 + 1) (w0.forgetElems es) h cxm = .ok (w', cx')) :
    cx' = cxm ∧ w'.cont? h = some c0 ∧
    w'.cont? hi.parent = w.cont? hi.parent ∧ w'.idxOf hi.parent = w.idxOf hi.parent ∧
    (∀ x, x ≠ h → NotBelow w es x → w'.cont? x = w.cont? x ∧ w'.idxOf x = w.idxOf x) := by
  obtain ⟨m1, m2, _⟩ := E.mid_h hfree
  obtain ⟨o1, _, _, o4⟩ := E.mid_other hpfree hne
  have hd' : Detached (w0.forgetElems es) h hi := by
    unfold Detached
    rw [o1, o4, E.mid_mcfg es]
    exact hd
  have key : cx' = cxm ∧ (∀ y, w'.cont? y = (w0.forgetElems es).cont? y) ∧
      (∀ y, w'.idxOf y = (w0.forgetElems es).idxOf y) := by
    rcases notify_detached (fuel := (w0.forgetElems es).conts.length + 1) (cx := cxm)
      (by rw [m2]; exact hh) m1 hd' with r | r
    · rw [r] at hn; cases hn; exact ⟨rfl, fun _ => rfl, fun _ => rfl⟩
    · rw [r] at hn; cases hn; exact ⟨rfl, fun _ => rfl, fun _ => rfl⟩
  obtain ⟨k1, k2, k3⟩ := key
  refine ⟨k1, by rw [k2]; exact m1, by rw [k2]; exact o1, by rw [k3]; exact o4, fun x hx hnb => ?_⟩
  obtain ⟨p1, _, _, p4⟩ := E.mid_other hnb hx
  exact ⟨by rw [k2]; exact p1, by rw [k3]; exact p4⟩

/-- (B) `MutIdxOk` (with the array invariant `I`) holds at the call of `notifyParent` … -/
theorem mid_mInv (E : Emptied w h c0 w0) {I : Arr → Prop} (hinv : MInv I w)
    (hI0 : ∀ a0, c0 = .arr a0 → I a0 ∧ w0.idxOf h = []) (es : List Elem) :
    MInv I (w0.forgetElems es) := by
  have s := E.mid_shrink es
  refine ⟨fun q a hq => ?_, fun q a hq x i hx => ?_⟩
  · have hq0 := s.some_of_some hq
    by_cases hqh : q = h
    · subst hqh; rw [E.cont_h] at hq0; cases hq0; exact (hI0 a rfl).1
    · rw [E.cont_ne q hqh] at hq0; exact hinv.1 q a hq0
  · have hq0 := s.some_of_some hq
    rw [s.idxOf_kept (by rw [hq]; rfl)] at hx
    by_cases hqh : q = h
    · subst hqh; rw [E.cont_h] at hq0; cases hq0
      rw [(hI0 a rfl).2] at hx; cases hx
    · rw [E.cont_ne q hqh] at hq0
      have : w0.idxOf q = w.idxOf q := by simp only [idxOf, E.idx_ne q hqh]
      rw [this] at hx
      exact hinv.2 q a hq0 x i hx

/-- … and after it -/
theorem pop_mInv_g (E : Emptied w h c0 w0) {I : Arr → Prop} (F : ArrFacts w.T I) (hinv : MInv I w)
    (hI0 : ∀ a0, c0 = .arr a0 → I a0 ∧ w0.idxOf h = [])
    (hn : notifyParent ((w0.forgetElems es).conts.length + 1 + 1) (w0.forgetElems es) h cxm = .ok (w', cx')) :
    MInv I w' :=
  (notify_mInv F (E.mid_T es) (mid_mInv E hinv hI0 es) hn).1

end World
end Atree

import AtreeProofs.Array.Plain
import AtreeProofs.Map.Repair
import AtreeProofs.Map.Root
import AtreeProofs.World.Basic
/-
  Array and map operations keep the ID of the root slab — for EVERY tree, no invariant needed:
  the leaf and the root steps keep it, and so does every repair of an index slab on the way back
  (`Arr.set_plain` …, `afterChild_plain`).  Hence the `hroot…` hypotheses of
  `C10.value_id_stable_…` are satisfiable.
-/
namespace Atree
open Gen

namespace MetaSlab
open ATree
variable {d : Nat}

theorem rebalanceChildren_id (T : Nat) (m : MetaSlab (ATree d)) (l r : ATree d) (li ri : Nat) (b : Bool) (c : Ctx) :
    (m.rebalanceChildren T l r li ri b c).1.hdr.id = m.hdr.id := rfl

theorem mergeChildren_id (m : MetaSlab (ATree d)) (l r : ATree d) (li ri : Nat) (c : Ctx) :
    (m.mergeChildren l r li ri c).1.hdr.id = m.hdr.id := by
  simp only [mergeChildren]

end MetaSlab

namespace Arr

theorem set_rootID {T : Nat} {a a' : Arr} {i : Nat} {e old : Elem} {c c' : Ctx}
    (h : a.set T i e c = .ok (old, a', c')) : a'.rootID = a.rootID := (set_plain h).1

theorem insert_rootID {T : Nat} {a a' : Arr} {i : Nat} {e : Elem} {c c' : Ctx}
    (h : a.insert T i e c = .ok (a', c')) : a'.rootID = a.rootID := (insert_plain h).1

theorem remove_rootID {T : Nat} {a a' : Arr} {i : Nat} {old : Elem} {c c' : Ctx}
    (h : a.remove T i c = .ok (old, a', c')) : a'.rootID = a.rootID := (remove_plain h).1

end Arr

namespace MTree
variable {r : Nat}

theorem set_id {cfg : MCfg} : ∀ {d : Nat} {t t' : MTree r d} {k ks : MKey} {v : Elem} {old : Option Elem} {c c' : Ctx},
    set cfg d t k v c = .ok (ks, old, t', c') → (hdr d t').id = (hdr d t).id
  | 0, t, t', k, ks, v, old, c, c', h => by
    obtain ⟨e, c1, _, rfl, _⟩ := MDataSlab.set_ok_iff.mp (show MDataSlab.set cfg t k v c = _ from h)
    rfl
  | d + 1, t, t', k, ks, v, old, c, c', h => by
    obtain ⟨i, child, child', c1, _, hchild, _, haf⟩ := set_succ_cases t h
    exact (afterChild_plain hchild haf).1

theorem remove_id {cfg : MCfg} : ∀ {d : Nat} {t t' : MTree r d} {k rk : MKey} {rv : Elem} {c c' : Ctx},
    remove cfg d t k c = .ok (rk, rv, t', c') → (hdr d t').id = (hdr d t).id
  | 0, t, t', k, rk, rv, c, c', h => by
    obtain ⟨e, c1, _, rfl, _⟩ := MDataSlab.remove_ok_iff.mp (show MDataSlab.remove cfg t k c = _ from h)
    rfl
  | d + 1, t, t', k, rk, rv, c, c', h => by
    obtain ⟨i, child, child', c1, _, hchild, _, haf⟩ := remove_succ_cases t h
    exact (afterChild_plain hchild haf).1

end MTree

namespace OMap
open MTree
variable {r : Nat}

theorem splitRoot_rootID {m m' : OMap r} {c c' : Ctx} (h : m.splitRoot c = .ok (m', c')) : m'.rootID = m.rootID := by
  obtain ⟨d, root, ty, cnt, seed⟩ := m
  obtain ⟨l, rr, c2, _, rfl, _⟩ := splitRoot_inv d root ty cnt seed c h
  cases d <;> rfl

theorem promoteIfSingleChild_rootID (m : OMap r) (c : Ctx) : (m.promoteIfSingleChild c).1.rootID = m.rootID := by
  rcases OMap.promote_cases m c with h | ⟨d, x, ty, cnt, seed, _, child, rfl, -, -, h⟩
  · rw [h]
  · rw [h]
    exact hdr_enroot d child x.hdr.id

theorem splitRootIfFull_rootID {T : Nat} {m m' : OMap r} {c c' : Ctx}
    (h : m.splitRootIfFull T c = .ok (m', c')) : m'.rootID = m.rootID := by
  rcases OMap.splitRootIfFull_cases h with h | ⟨rfl, _⟩
  · exact splitRoot_rootID h
  · rfl

theorem rootFix_rootID {T : Nat} {m m' : OMap r} {c c' : Ctx} (h : m.rootFix T c = .ok (m', c')) :
    m'.rootID = m.rootID :=
  (splitRootIfFull_rootID h).trans (promoteIfSingleChild_rootID m c)

theorem set_rootID {cfg : MCfg} {m m' : OMap r} {k : MKey} {v : Elem} {old : Option Elem} {c c' : Ctx}
    (h : m.set cfg k v c = .ok (old, m', c')) : m'.rootID = m.rootID := by
  obtain ⟨ks, root', c1, hs, hfix⟩ := OMap.set_ok_iff.mp h
  exact (rootFix_rootID hfix).trans (set_id hs)

theorem remove_rootID {cfg : MCfg} {m m' : OMap r} {k rk : MKey} {rv : Elem} {c c' : Ctx}
    (h : m.remove cfg k c = .ok (rk, rv, m', c')) : m'.rootID = m.rootID := by
  obtain ⟨root', c1, hs, hfix⟩ := OMap.remove_ok_iff.mp h
  exact (rootFix_rootID hfix).trans (remove_id hs)

end OMap

end Atree

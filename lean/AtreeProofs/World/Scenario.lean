import AtreeProofs.World.Eval
/-
  A concrete run of the model used by the non-vacuity sections of C10 / C11 (T = 256):
  a root array `R`, a child array `X` inserted into it, five plain inserts through the child (it
  stays inline, ending exactly at the inline limit 117), a sixth one (it is un-inlined), the
  removal of the child from the parent, and a later mutation of the detached child (which would fit
  inline again, so that its stale callback fires and finds its slot gone).
  All states are computed with the kernel-evaluable copies (`…S`), which are equal to the model.
-/
namespace Atree.Scenario
open Atree Gen World

def w0 : World := { T := 256, addr := 1 }
def cx0 : Ctx := { ctr := 0, eff := [] }

def okW (r : Except WErr (World × Ctx)) : World × Ctx :=
  match r with | .ok x => x | .error _ => (w0, cx0)
def okE (r : Except WErr (Elem × World × Ctx)) : Elem × World × Ctx :=
  match r with | .ok x => x | .error _ => (default, w0, cx0)

/-- a successful result is `.ok` of whatever a function that reads off `.ok` results finds in it -/
theorem eq_ok_of {ε α : Type} {f : Except ε α → α} (hf : ∀ x, f (.ok x) = x) (r : Except ε α)
    (h : r.toBool = true) : r = .ok (f r) := by
  cases r with
  | ok x => rw [hf]
  | error e => cases h

theorem eq_okW (r : Except WErr (World × Ctx)) (h : r.toBool = true) : r = .ok (okW r) :=
  eq_ok_of (fun _ => rfl) r h

theorem eq_okE (r : Except WErr (Elem × World × Ctx)) (h : r.toBool = true) : r = .ok (okE r) :=
  eq_ok_of (fun _ => rfl) r h

/-- a successful evaluated step is a step of the model -/
theorem runW {w : World} {p : SlabID} {i : Nat} {v : WVal} {cx : Ctx} (h : (w.arrInsertS p i v cx).toBool = true) :
    w.arrInsert p i v cx = .ok (okW (w.arrInsertS p i v cx)) := by
  rw [arrInsert_eq_S]; exact eq_okW _ h

theorem runE {w : World} {p : SlabID} {i : Nat} {cx : Ctx} (h : (w.arrRemoveS p i cx).toBool = true) :
    w.arrRemove p i cx = .ok (okE (w.arrRemoveS p i cx)) := by
  rw [arrRemove_eq_S]; exact eq_okE _ h

/-! The operation theorems speak of a result `.ok (w', cx')`.  Matching that against a run `… = .ok t`
would evaluate the state `t`, i.e. run the whole prefix once more; `ok_pair h` has the components
`t.1`, `t.2` in place. -/

theorem ok_pair {ε α β : Type} {x : Except ε (α × β)} {r : α × β} (h : x = .ok r) : x = .ok (r.1, r.2) := h

theorem ok_triple {ε α β γ : Type} {x : Except ε (α × β × γ)} {r : α × β × γ} (h : x = .ok r) :
    x = .ok (r.1, r.2.1, r.2.2) := h

def R : SlabID := ⟨1, 1⟩
def X : SlabID := ⟨1, 2⟩
/-- a plain 20-byte value -/
def pl (n : Nat) : WVal := .plain { size := 20, pay := .val n }

def s1 : SlabID × World × Ctx := w0.newArr 7 cx0
def s2 : SlabID × World × Ctx := s1.2.1.newArr 8 s1.2.2
/-- `X` inserted into `R` -/
def s3 : World × Ctx := okW (s2.2.1.arrInsertS R 0 (.child X 0) s2.2.2)
def s4 : World × Ctx := okW (s3.1.arrInsertS X 0 (pl 1) s3.2)
def s5 : World × Ctx := okW (s4.1.arrInsertS X 1 (pl 2) s4.2)
def s6 : World × Ctx := okW (s5.1.arrInsertS X 2 (pl 3) s5.2)
def s7 : World × Ctx := okW (s6.1.arrInsertS X 3 (pl 4) s6.2)
/-- `X` holds 5 values, inline, exactly at the limit -/
def s8 : World × Ctx := okW (s7.1.arrInsertS X 4 (pl 5) s7.2)
/-- sixth value: `X` is pushed over the limit and un-inlined -/
def s9 : World × Ctx := okW (s8.1.arrInsertS X 5 (pl 6) s8.2)
/-- `X` removed from `R` -/
def s10 : Elem × World × Ctx := okE (s9.1.arrRemoveS R 0 s9.2)
/-- the detached `X` is mutated again (a value is removed: it would fit inline again) -/
def s11 : Elem × World × Ctx := okE (s10.2.1.arrRemoveS X 0 s10.2.2)

/-- executable check of `MutIdxOk` (every recorded index holds a reference to its child) -/
def mutIdxOkB (w : World) : Bool :=
  w.mutIdx.all (fun pm =>
    match w.cont? pm.1 with
    | some (.arr a) => pm.2.all (fun xi =>
        match a.toList[xi.2]? with
        | some e => e.pay == .ref xi.1
        | none => false)
    | _ => true)

/-- every step of the run is a successful run of the MODEL operation -/
theorem run_ok :
    s2.2.1.arrInsert R 0 (.child X 0) s2.2.2 = .ok s3 ∧
    s3.1.arrInsert X 0 (pl 1) s3.2 = .ok s4 ∧ s4.1.arrInsert X 1 (pl 2) s4.2 = .ok s5 ∧
    s5.1.arrInsert X 2 (pl 3) s5.2 = .ok s6 ∧ s6.1.arrInsert X 3 (pl 4) s6.2 = .ok s7 ∧
    s7.1.arrInsert X 4 (pl 5) s7.2 = .ok s8 ∧ s8.1.arrInsert X 5 (pl 6) s8.2 = .ok s9 ∧
    s9.1.arrRemove R 0 s9.2 = .ok s10 ∧ s10.2.1.arrRemove X 0 s10.2.2 = .ok s11 := by
  -- one evaluation of the run: the nine steps succeed
  suffices c : _ ∧ _ ∧ _ ∧ _ ∧ _ ∧ _ ∧ _ ∧ _ ∧ _ from
    ⟨runW c.1, runW c.2.1, runW c.2.2.1, runW c.2.2.2.1, runW c.2.2.2.2.1, runW c.2.2.2.2.2.1,
      runW c.2.2.2.2.2.2.1, runE c.2.2.2.2.2.2.2.1, runE c.2.2.2.2.2.2.2.2⟩
  decide +kernel

/-! the states right before the notifications inside the sixth insert and inside the last removal -/

/-- the array a container is, or an empty one -/
def arrOf (w : World) (v : SlabID) : Arr :=
  match w.cont? v with
  | some (.arr a) => a
  | _ => (Arr.new 0 0 cx0).1

/-- world and context at the call of `notifyParent` inside `arrInsert w p i (.plain e) cx` -/
def preInsert (w : World) (p : SlabID) (i : Nat) (e : Elem) (cx : Ctx) : World × Ctx :=
  match (arrOf w p).insert w.T i e cx with
  | .ok (a', cx') => ((w.setCont p (.arr a')).shiftIdx p (fun j => if j ≥ i then j + 1 else j), cx')
  | .error _ => (w, cx)

/-- world and context at the call of `notifyParent` inside `arrRemove w p i cx` -/
def preRemove (w : World) (p : SlabID) (i : Nat) (cx : Ctx) : World × Ctx :=
  match (arrOf w p).remove w.T i cx with
  | .ok (_, a', cx') => ((w.setCont p (.arr a')).shiftIdx p (fun j => if j > i then j - 1 else j), cx')
  | .error _ => (w, cx)

/-- before the notification of the sixth insert: `X` has grown to 137 bytes but is still inline -/
def mid9 : World × Ctx := preInsert s8.1 X 5 ⟨20, .val 6⟩ s8.2
/-- before the notification of the last removal: `X` is detached, standalone, and would fit inline -/
def mid11 : World × Ctx := preRemove s10.2.1 X 0 s10.2.2

end Atree.Scenario

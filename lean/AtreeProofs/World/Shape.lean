import AtreeProofs.World.Chain
/-
  What a successful operation of the World model does, said once, in two forms.

  Unordered: a sequence of elementary steps.  `ContStep` — one core operation of `Arr` / `OMap` on one
  container, or a change of form (inline ↔ standalone); `EStep` — one elementary update of the world
  (a `ContStep` filed back with `setCont`, an update of one index table, a closure installed or
  dropped, a container forgotten or created, `reopen`), tagged with its kind; `Steps K` — a sequence
  of steps whose kinds satisfy `K`.  `notifyParent_steps` (along `notify_induction`) and one `*_steps`
  lemma per operation; a property that is reflexive, transitive and holds of each elementary step follows
  for every operation by `Steps.lift` (an invariant: `Steps.preserves`).  The closure of an array parent
  is installed on an array (the premise of `EStep.cbArr`; `Steps.arr_stays`).

  Ordered: the normal form of a mutation through a handle.  Every mutator is

      value phase   `Storable()` of the value to store, if any                          `Prep`
      core phase    one operation of `Arr` / `OMap` on the container filed under `p`     `MutShape.core`
      file + index  `setCont p`, then the update of `p`'s own tables                     `MutShape.reidx`
      notification  `notifyParentIfNeeded()` of `p`
      closure       `setCallbackWithChild` of the stored child at its slot               `install`
      hand-back     `uninlineStorableIfNeeded` of the old element, its index entry       `HandBack`, `MutShape.erase`

  `Mutation S` is that composition as a relation; `*_mutation` says which shape each operation is,
  as an equivalence, so that it serves simulations in both directions.  `MutShape.TableLaw`: the table
  updates `reidx`, `erase` of a shape touch index tables only (`IdxOnly`), `reidx` the one of `p` only.
  `Mutation.old'_none`, `Mutation.old'_some` read a mutation without naming its witnesses.
-/
namespace Atree
open Gen

/-- one core operation on one container (`id` = where it is filed), threading the context -/
inductive ContStep (T : Nat) (cfg : MCfg) (id : SlabID) : Cont → Ctx → Cont → Ctx → Prop
  | arrSet {a a' : Arr} {i : Nat} {e old : Elem} {cx cx' : Ctx} :
      a.set T i e cx = .ok (old, a', cx') → ContStep T cfg id (.arr a) cx (.arr a') cx'
  | arrInsert {a a' : Arr} {i : Nat} {e : Elem} {cx cx' : Ctx} :
      a.insert T i e cx = .ok (a', cx') → ContStep T cfg id (.arr a) cx (.arr a') cx'
  | arrRemove {a a' : Arr} {i : Nat} {old : Elem} {cx cx' : Ctx} :
      a.remove T i cx = .ok (old, a', cx') → ContStep T cfg id (.arr a) cx (.arr a') cx'
  | arrPop (a : Arr) (cx : Ctx) : ContStep T cfg id (.arr a) cx (.arr (a.popIterate cx).2.1) (a.popIterate cx).2.2
  | arrSetType (a : Arr) (ty : Nat) (cx : Ctx) :
      ContStep T cfg id (.arr a) cx (.arr (a.setType ty cx).1) (a.setType ty cx).2
  | mapSet {m m' : OMap 3} {k : MKey} {e : Elem} {old : Option Elem} {cx cx' : Ctx} :
      m.set cfg k e cx = .ok (old, m', cx') → ContStep T cfg id (.map m) cx (.map m') cx'
  | mapRemove {m m' : OMap 3} {k rk : MKey} {rv : Elem} {cx cx' : Ctx} :
      m.remove cfg k cx = .ok (rk, rv, m', cx') → ContStep T cfg id (.map m) cx (.map m') cx'
  | mapPop (m : OMap 3) (cx : Ctx) : ContStep T cfg id (.map m) cx (.map (m.popIterate cx).2.1) (m.popIterate cx).2.2
  | mapSetType (m : OMap 3) (ty : Nat) (cx : Ctx) :
      ContStep T cfg id (.map m) cx (.map (m.setType ty cx).1) (m.setType ty cx).2
  | form {c c' : Cont} (cx : Ctx) : Cont.SameData c c' → c'.isInlined ≠ c.isInlined →
      ContStep T cfg id c cx c' (cx.emit (if c'.isInlined then .remove id else .store id))

namespace World

/-- the kinds of elementary steps: `mut` — a container is written, an index table or a closure changes;
    `drop` — a container is forgotten with its tables (`forget`: the bulk pops, `dispose`);
    `create` — `newArr` / `newMap`; `reopen` — every closure and index table is dropped -/
inductive StepKind where
  | mut | drop | create | reopen

/-- one elementary update of the world.  In `cont` the operation runs on `c`, a container with the
    data of the one filed under `p` (`arrSetRaw` / `mapSetRaw` read `p` BEFORE `storableOf` may
    have changed the form of the child; the two differ only if the child is `p` itself). -/
inductive EStep : StepKind → World → Ctx → World → Ctx → Prop
  | cont {w : World} {p : SlabID} {c0 c c' : Cont} {cx cx' : Ctx} : w.cont? p = some c0 → Cont.SameData c c0 →
      ContStep w.T w.mcfg p c cx c' cx' → EStep .mut w cx (w.setCont p c') cx'
  | shift (w : World) (cx : Ctx) (p : SlabID) (f : Nat → Nat) : EStep .mut w cx (w.shiftIdx p f) cx
  | eraseIdx (w : World) (cx : Ctx) (p x : SlabID) : EStep .mut w cx (w.setIdx p (AList.erase (w.idxOf p) x)) cx
  | clearIdx (w : World) (cx : Ctx) (p : SlabID) : EStep .mut w cx (w.setIdx p []) cx
  | cbArr (w : World) (cx : Ctx) (p : SlabID) (i : Nat) (v : WVal) : (∃ a, w.cont? p = some (.arr a)) →
      EStep .mut w cx (w.setCallbackArr p i v) cx
  | cbMap (w : World) (cx : Ctx) (p : SlabID) (k : MKey) (v : WVal) : EStep .mut w cx (w.setCallbackMap p k v) cx
  | eraseHinfo (w : World) (cx : Ctx) (x : SlabID) : EStep .mut w cx { w with hinfo := AList.erase w.hinfo x } cx
  | drop (w : World) (cx : Ctx) (x : SlabID) :
      EStep .drop w cx { w with conts := AList.erase w.conts x, hinfo := AList.erase w.hinfo x,
                                mutIdx := AList.erase w.mutIdx x } cx
  | newArr (w : World) (cx : Ctx) (ty : Nat) : EStep .create w cx (w.newArr ty cx).2.1 (w.newArr ty cx).2.2
  | newMap (w : World) (cx : Ctx) (ty seed : Nat) :
      EStep .create w cx (w.newMap ty seed cx).2.1 (w.newMap ty seed cx).2.2
  | reopen (w : World) (cx : Ctx) : EStep .reopen w cx w.reopen cx

/-- a sequence of elementary steps of the kinds `K` -/
inductive Steps (K : StepKind → Prop) : World → Ctx → World → Ctx → Prop
  | refl (w : World) (cx : Ctx) : Steps K w cx w cx
  | step {k : StepKind} {w w1 w2 : World} {cx cx1 cx2 : Ctx} :
      K k → EStep k w cx w1 cx1 → Steps K w1 cx1 w2 cx2 → Steps K w cx w2 cx2

/-- the mutators, the lookups and `setType` -/
abbrev OnlyMut : StepKind → Prop := fun k => k = .mut
/-- the bulk pops and `forget` -/
abbrev MutOrDrop : StepKind → Prop := fun k => k = .mut ∨ k = .drop
/-- a request of a history -/
abbrev AnyStep : StepKind → Prop := fun _ => True

namespace Steps
variable {K K' : StepKind → Prop} {w w1 w2 w3 : World} {cx cx1 cx2 cx3 : Ctx}

theorem one {k : StepKind} (hk : K k) (h : EStep k w cx w1 cx1) : Steps K w cx w1 cx1 := .step hk h (.refl _ _)

theorem trans (h12 : Steps K w1 cx1 w2 cx2) (h23 : Steps K w2 cx2 w3 cx3) : Steps K w1 cx1 w3 cx3 := by
  induction h12 with
  | refl => exact h23
  | step hk h _ ih => exact .step hk h (ih h23)

theorem mono (h : Steps K w cx w1 cx1) (hK : ∀ k, K k → K' k) : Steps K' w cx w1 cx1 := by
  induction h with
  | refl => exact .refl _ _
  | step hk h _ ih => exact .step (hK _ hk) h ih

/-- how `Steps` is used: a reflexive, transitive relation that covers the elementary steps of
    the kinds `K` covers every sequence of them -/
theorem lift {R : World → Ctx → World → Ctx → Prop} (refl : ∀ w cx, R w cx w cx)
    (trans : ∀ {w1 c1 w2 c2 w3 c3}, R w1 c1 w2 c2 → R w2 c2 w3 c3 → R w1 c1 w3 c3)
    (one : ∀ {k w cx w' cx'}, K k → EStep k w cx w' cx' → R w cx w' cx')
    (h : Steps K w cx w1 cx1) : R w cx w1 cx1 := by
  induction h with
  | refl => exact refl _ _
  | step hk h _ ih => exact trans (one hk h) ih

/-- the invariant form of `lift` -/
theorem preserves {P : World → Prop} (one : ∀ {k w cx w' cx'}, K k → EStep k w cx w' cx' → P w → P w')
    (h : Steps K w cx w1 cx1) : P w → P w1 :=
  lift (R := fun w _ w' _ => P w → P w') (fun _ _ h => h) (fun h12 h23 h => h23 (h12 h)) one h

theorem mut1 (h : EStep .mut w cx w1 cx1) : Steps OnlyMut w cx w1 cx1 := one rfl h

end Steps

/-- a core operation, or a change of form, keeps the kind of the container -/
theorem _root_.Atree.ContStep.arr {T : Nat} {cfg : MCfg} {id : SlabID} {a : Arr} {c' : Cont} {cx cx' : Ctx}
    (h : ContStep T cfg id (.arr a) cx c' cx') : ∃ a', c' = .arr a' := by
  cases h with
  | form _ hs _ => obtain ⟨a', h, _⟩ := hs.arr; exact ⟨a', h⟩
  | _ => exact ⟨_, rfl⟩

/-- an array stays an array (the closure of an array parent is installed after the notification of the
    parent's own ancestors: `EStep.cbArr` asks for this) -/
theorem EStep.arr_stays {w : World} {cx : Ctx} {w' : World} {cx' : Ctx} (h : EStep .mut w cx w' cx') {z : SlabID}
    (hz : ∃ a, w.cont? z = some (.arr a)) : ∃ a', w'.cont? z = some (.arr a') := by
  obtain ⟨a, hz⟩ := hz
  cases h with
  | @cont _ p c0 c c' _ _ hp hs hc =>
    by_cases hpz : p = z
    · subst hpz
      rw [hz] at hp; cases hp
      cases c with
      | arr a1 => obtain ⟨a', rfl⟩ := hc.arr; exact ⟨a', cont?_setCont_self _ _ _⟩
      | map m => exact hs.elim
    · exact ⟨a, by rw [cont?_setCont, if_neg hpz]; exact hz⟩
  | cbArr _ _ _ _ v => exact ⟨a, by rw [cont?_setCallbackArr]; exact hz⟩
  | cbMap _ _ _ _ v => exact ⟨a, by rw [cont?_setCallbackMap]; exact hz⟩
  | _ => exact ⟨a, hz⟩

theorem Steps.arr_stays {w : World} {cx : Ctx} {w' : World} {cx' : Ctx} (h : Steps OnlyMut w cx w' cx') {z : SlabID} :
    (∃ a, w.cont? z = some (.arr a)) → ∃ a', w'.cont? z = some (.arr a') :=
  h.lift (R := fun w _ w' _ => (∃ a, w.cont? z = some (.arr a)) → ∃ a', w'.cont? z = some (.arr a'))
    (fun _ _ h => h) (fun h12 h23 h => h23 (h12 h)) (fun hk e => by cases hk; exact e.arr_stays)

/-! ### The operations as sequences of steps -/

theorem childStorable_steps {w : World} {x : SlabID} {wrap lim : Nat} {cx : Ctx} {e : Elem} {w' : World}
    {cx' : Ctx} (h : w.childStorable x wrap lim cx = .ok (e, w', cx')) : Steps OnlyMut w cx w' cx' := by
  obtain ⟨c, hc⟩ := childStorable_some h
  obtain ⟨c', hs, _, _, ⟨_, _, rfl, rfl⟩ | ⟨hne, rfl, rfl⟩⟩ := childStorable_ok hc h
  · exact .refl _ _
  · exact .mut1 (.cont hc (Cont.SameData.refl c) (.form cx hs hne))

theorem storableOf_steps {w : World} {v : WVal} {lim : Nat} {cx : Ctx} {e : Elem} {w' : World} {cx' : Ctx}
    (h : w.storableOf v lim cx = .ok (e, w', cx')) : Steps OnlyMut w cx w' cx' := by
  cases v with
  | plain e0 => cases h; exact .refl _ _
  | child x wrap => exact childStorable_steps h

theorem uninlineIfNeeded_steps {w : World} {e : Elem} {cx : Ctx} {e' : Elem} {ov : Option SlabID} {w' : World}
    {cx' : Ctx} (h : w.uninlineIfNeeded e cx = .ok (e', ov, w', cx')) : Steps OnlyMut w cx w' cx' := by
  obtain ⟨_, _, _, _, _, ⟨_, _, rfl, rfl, _⟩ | ⟨x, c, _, _, hc, ⟨_, _, rfl, rfl⟩ | ⟨hi, c', hs, hi', rfl, rfl, _⟩⟩⟩ :=
    uninlineIfNeeded_ok h
  · exact .refl _ _
  · exact .refl _ _
  · have := EStep.cont (cx := cx) hc (Cont.SameData.refl c) (.form cx hs (by rw [hi, hi']; decide))
    rw [hi'] at this
    exact .mut1 this

/-- what `storableOf` leaves of a container read before it -/
theorem storableOf_sameData {w : World} {v : WVal} {lim : Nat} {cx : Ctx} {e : Elem} {w' : World} {cx' : Ctx}
    (h : w.storableOf v lim cx = .ok (e, w', cx')) {p : SlabID} {c : Cont} (hp : w.cont? p = some c) :
    w'.T = w.T ∧ w'.mcfg = w.mcfg ∧ ∃ c0, w'.cont? p = some c0 ∧ Cont.SameData c c0 := by
  cases v with
  | plain e0 => cases h; exact ⟨rfl, rfl, c, hp, Cont.SameData.refl c⟩
  | child x wrap =>
    obtain ⟨_, _, hT, ha, hne, ⟨c1, c', hc, hc', hs⟩, _⟩ := childStorable_frame h
    refine ⟨hT, mcfg_congr hT ha, ?_⟩
    by_cases hpx : p = x
    · subst hpx; rw [hc] at hp; cases hp; exact ⟨c', hc', hs⟩
    · exact ⟨c, by rw [hne p hpx]; exact hp, Cont.SameData.refl c⟩

/-- the value takes its form, slot `s` of `p` is overwritten, the ancestors of `p` are notified (`k3`), the
    closure is installed -/
theorem set_steps {w w1 w3 : World} {p : SlabID} {s : Slot} {v : WVal} {cx cx1 cx2 cx3 : Ctx} {e : Elem}
    {old : Option Elem} {qc qc' : Cont} (hp : w.cont? p = some qc)
    (hst : w.storableOf v (s.lim w.T) cx = .ok (e, w1, cx1)) (hs : SlotSet w1 qc s e cx1 old qc' cx2)
    (k3 : Steps OnlyMut (w1.setCont p qc') cx2 w3 cx3) : Steps OnlyMut w cx (install w3 p s v) cx3 := by
  obtain ⟨_, _, c0, hc0, hsd⟩ := storableOf_sameData hst hp
  have k1 : Steps OnlyMut w cx (w1.setCont p qc') cx2 := by
    refine (storableOf_steps hst).trans (.mut1 (.cont hc0 hsd ?_))
    cases qc <;> cases s <;> cases qc' <;> first | exact hs.elim | skip
    · obtain ⟨_, o, _, hset⟩ := hs; exact .arrSet hset
    · exact .mapSet hs
  refine (k1.trans k3).trans (.mut1 ?_)
  cases s with
  | key k => exact .cbMap _ _ _ _ _
  | idx i =>
    refine .cbArr _ _ _ _ _ (k3.arr_stays ?_)
    cases qc <;> cases qc' <;> first | exact hs.elim | exact ⟨_, cont?_setCont_self _ _ _⟩

theorem notifyParent_steps {fuel : Nat} {w : World} {x : SlabID} {cx : Ctx} {w' : World} {cx' : Ctx}
    (h : notifyParent fuel w x cx = .ok (w', cx')) : Steps OnlyMut w cx w' cx' := by
  refine notify_induction (M := fun w _ cx w' cx' => Steps OnlyMut w cx w' cx') (fun _ _ => .refl _ _)
    (fun _ _ _ _ _ => .refl _ _) (fun {w y _ _} cx _ _ _ => .mut1 (.eraseHinfo w cx y)) ?_ fuel h
  intro w y cx hi c qc s el e w1 cx1 old qc' cx2 w3 cx3 _ _ _ hf hst hs _ _ ih
  exact set_steps hf.parent (v := .child y hi.wrap) hst hs ih

theorem setRaw_steps {fuel : Nat} {w : World} {p : SlabID} {s : Slot} {v : WVal} {cx : Ctx} {old : Option Elem}
    {w' : World} {cx' : Ctx} (h : SetRaw fuel w p s v cx old w' cx') : Steps OnlyMut w cx w' cx' := by
  obtain ⟨qc, e, w1, cx1, qc', cx2, w3, hp, hst, hs, hn, rfl⟩ := h
  exact set_steps hp hst hs (notifyParent_steps hn)

theorem mutual_steps (fuel : Nat) :
    (∀ {w x cx w' cx'}, notifyParent fuel w x cx = .ok (w', cx') → Steps OnlyMut w cx w' cx') ∧
    (∀ {w p i v cx old w' cx'}, arrSetRaw fuel w p i v cx = .ok (old, w', cx') → Steps OnlyMut w cx w' cx') ∧
    (∀ {w p k v cx old w' cx'}, mapSetRaw fuel w p k v cx = .ok (old, w', cx') → Steps OnlyMut w cx w' cx') :=
  ⟨notifyParent_steps, fun h => setRaw_steps (arrSetRaw_iff_setRaw.mp h), fun h => setRaw_steps (mapSetRaw_iff_setRaw.mp h)⟩

theorem self_step {w : World} {p : SlabID} {c c' : Cont} {cx cx' : Ctx} (hp : w.cont? p = some c)
    (h : ContStep w.T w.mcfg p c cx c' cx') : Steps OnlyMut w cx (w.setCont p c') cx' :=
  .mut1 (.cont hp (Cont.SameData.refl c) h)

theorem arrInsert_steps {w : World} {p : SlabID} {i : Nat} {v : WVal} {cx : Ctx} {w' : World} {cx' : Ctx}
    (h : w.arrInsert p i v cx = .ok (w', cx')) : Steps OnlyMut w cx w' cx' := by
  obtain ⟨a, e, w1, cx1, a', cx2, _, w3, hpa, _, hst, hins, rfl, hnp, rfl⟩ := arrInsert_ok_iff.mp h
  obtain ⟨_, _, c0, hc0, hs⟩ := storableOf_sameData hst hpa
  have k3 := notifyParent_steps hnp
  exact (((storableOf_steps hst).trans (.mut1 (.cont hc0 hs (.arrInsert hins)))).trans
    (.mut1 (.shift _ _ p _))).trans (k3.trans (.mut1 (.cbArr _ _ p i v
      (k3.arr_stays ⟨a', by rw [cont?_shiftIdx]; exact cont?_setCont_self _ _ _⟩))))

/-- the index entry of the container handed back is dropped (`Array.Set`, `Array.Remove`) -/
def eraseOld (w : World) (p : SlabID) (ov : Option SlabID) : World :=
  match ov with
  | none => w
  | some o => w.setIdx p (AList.erase (w.idxOf p) o)

/-- `w'` has the parameters, the closures and the containers of `w` (the index tables may differ) -/
structure IdxOnly (w w' : World) : Prop where
  T : w'.T = w.T
  addr : w'.addr = w.addr
  hinfo : w'.hinfo = w.hinfo
  conts : ∀ z, w'.cont? z = w.cont? z

theorem IdxOnly.refl (w : World) : IdxOnly w w := ⟨rfl, rfl, rfl, fun _ => rfl⟩

theorem IdxOnly.setIdx (w : World) (p : SlabID) (m : AList SlabID Nat) : IdxOnly w (w.setIdx p m) :=
  ⟨rfl, rfl, rfl, fun _ => rfl⟩

theorem IdxOnly.shiftIdx (w : World) (p : SlabID) (f : Nat → Nat) : IdxOnly w (w.shiftIdx p f) :=
  ⟨rfl, rfl, rfl, fun _ => rfl⟩

theorem IdxOnly.eraseOld (w : World) (p : SlabID) (ov : Option SlabID) : IdxOnly w (eraseOld w p ov) := by
  cases ov with
  | none => exact .refl w
  | some o => exact .setIdx w p _

theorem eraseOld_steps (w : World) (cx : Ctx) (p : SlabID) (ov : Option SlabID) :
    Steps OnlyMut w cx (eraseOld w p ov) cx := by
  cases ov with
  | none => exact .refl _ _
  | some o => exact .mut1 (.eraseIdx _ _ p o)

/-- `Array.Set` keeps the entry if the container handed back is the one stored -/
theorem arrSet_erase_steps (w : World) (cx : Ctx) (p : SlabID) (ov : Option SlabID) (b : SlabID → Bool) :
    Steps OnlyMut w cx (match ov with
      | none => w
      | some o => if b o then w else w.setIdx p (AList.erase (w.idxOf p) o)) cx := by
  cases ov with
  | none => exact .refl _ _
  | some o =>
    simp only
    split
    · exact .refl _ _
    · exact eraseOld_steps w cx p (some o)

theorem arrSet_steps {w : World} {p : SlabID} {i : Nat} {v : WVal} {cx : Ctx} {old : Elem} {w' : World}
    {cx' : Ctx} (h : w.arrSet p i v cx = .ok (old, w', cx')) : Steps OnlyMut w cx w' cx' := by
  obtain ⟨_, _, _, ov, w2, hset, hun, rfl⟩ := arrSet_ok_iff.mp h
  exact (((mutual_steps _).2.1 hset).trans (uninlineIfNeeded_steps hun)).trans
    (arrSet_erase_steps w2 cx' p ov _)

theorem arrRemove_steps {w : World} {p : SlabID} {i : Nat} {cx : Ctx} {old : Elem} {w' : World} {cx' : Ctx}
    (h : w.arrRemove p i cx = .ok (old, w', cx')) : Steps OnlyMut w cx w' cx' := by
  obtain ⟨a, _, a', _, _, _, _, ov, w4, hpa, hrem, rfl, hnp, hun, rfl⟩ := arrRemove_ok_iff.mp h
  refine ((((self_step hpa (.arrRemove hrem)).trans (.mut1 (.shift _ _ p _))).trans
    (notifyParent_steps hnp)).trans (uninlineIfNeeded_steps hun)).trans (eraseOld_steps w4 cx' p ov)

theorem mapSet_steps {w : World} {p : SlabID} {k : MKey} {v : WVal} {cx : Ctx} {old : Option Elem} {w' : World}
    {cx' : Ctx} (h : w.mapSet p k v cx = .ok (old, w', cx')) : Steps OnlyMut w cx w' cx' := by
  obtain ⟨_, _, _, hset, ⟨_, _, rfl, rfl⟩ | ⟨_, _, _, _, _, hun⟩⟩ := mapSet_ok_iff.mp h
  · exact (mutual_steps _).2.2 hset
  · exact ((mutual_steps _).2.2 hset).trans (uninlineIfNeeded_steps hun)

theorem mapRemove_steps {w : World} {p : SlabID} {k : MKey} {cx : Ctx} {rk : MKey} {rv : Elem} {w' : World}
    {cx' : Ctx} (h : w.mapRemove p k cx = .ok (rk, rv, w', cx')) : Steps OnlyMut w cx w' cx' := by
  obtain ⟨m, _, m', _, _, _, _, hpm, hrem, hnp, hun⟩ := mapRemove_ok_iff.mp h
  exact ((self_step hpm (.mapRemove hrem)).trans (notifyParent_steps hnp)).trans (uninlineIfNeeded_steps hun)

theorem arrGet_steps {w : World} {p : SlabID} {i : Nat} {el : Elem} {w' : World} (cx : Ctx)
    (h : w.arrGet p i = .ok (el, w')) : Steps OnlyMut w cx w' cx := by
  obtain ⟨_, _, _, ⟨rfl, _⟩ | ⟨_, _, _, _, rfl⟩⟩ := arrGet_ok_iff.mp h
  · exact .refl _ _
  · exact .mut1 (.cbArr _ _ _ _ _ ⟨_, ‹_›⟩)

theorem mapGet_steps {w : World} {p : SlabID} {k : MKey} {el : Elem} {w' : World} (cx : Ctx)
    (h : w.mapGet p k = .ok (el, w')) : Steps OnlyMut w cx w' cx := by
  obtain ⟨_, _, _, _, ⟨rfl, _⟩ | ⟨_, _, _, _, rfl⟩⟩ := mapGet_ok_iff.mp h
  · exact .refl _ _
  · exact .mut1 (.cbMap _ _ _ _ _)

theorem setType_steps {w : World} {x : SlabID} {ty : Nat} {cx : Ctx} {w' : World} {cx' : Ctx}
    (h : w.setType x ty cx = .ok (w', cx')) : Steps OnlyMut w cx w' cx' := by
  obtain ⟨c, c', cx1, hc, hk, hr⟩ := setType_ok_iff.mp h
  have h1 : Steps OnlyMut w cx (w.setCont x c') cx1 := by
    rcases hk with ⟨a, rfl, rfl, rfl⟩ | ⟨m, rfl, rfl, rfl⟩
    · exact self_step hc (.arrSetType a ty cx)
    · exact self_step hc (.mapSetType m ty cx)
  rcases hr with ⟨_, hnp⟩ | ⟨_, rfl, rfl⟩
  · exact h1.trans (notifyParent_steps hnp)
  · exact h1

theorem forget_steps (fuel : Nat) : ∀ (w : World) (cx : Ctx) (x : SlabID), Steps MutOrDrop w cx (forget fuel w x) cx := by
  induction fuel with
  | zero => intro w cx x; exact .refl _ _
  | succ fuel ih =>
    intro w cx x
    rw [forget]
    split
    · exact .refl _ _
    · rename_i c _
      generalize Cont.childRefs w c = kids
      have : ∀ (kids : List SlabID) (w1 : World), Steps MutOrDrop w1 cx (kids.foldl (forget fuel) w1) cx := by
        intro kids
        induction kids with
        | nil => intro w1; exact .refl _ _
        | cons k ks ihk => intro w1; exact (ih w1 cx k).trans (ihk _)
      exact (Steps.one (Or.inr rfl) (.drop w cx x)).trans (this kids _)

theorem forgetElems_steps (w : World) (cx : Ctx) (es : List Elem) : Steps MutOrDrop w cx (w.forgetElems es) cx := by
  unfold forgetElems
  induction es generalizing w with
  | nil => exact .refl _ _
  | cons e es ih =>
    rw [List.foldl_cons]
    refine Steps.trans ?_ (ih _)
    split
    · exact forget_steps _ _ _ _
    · exact .refl _ _

theorem arrPopKeep_steps {w : World} {x : SlabID} {keep : List SlabID} {cx : Ctx} {es : List Elem} {w' : World}
    {cx' : Ctx} (h : w.arrPopKeep x keep cx = .ok (es, w', cx')) : Steps MutOrDrop w cx w' cx' := by
  obtain ⟨a, _, hpa, _, rfl, hnp⟩ := arrPopKeep_ok_iff.mp h
  exact ((((self_step hpa (.arrPop a cx)).trans (.mut1 (.clearIdx _ _ x))).mono fun _ => Or.inl).trans
    (forgetElems_steps _ _ _)).trans ((notifyParent_steps hnp).mono fun _ => Or.inl)

theorem mapPopKeep_steps {w : World} {x : SlabID} {keep : List SlabID} {cx : Ctx} {kvs : List (MKey × Elem)}
    {w' : World} {cx' : Ctx} (h : w.mapPopKeep x keep cx = .ok (kvs, w', cx')) : Steps MutOrDrop w cx w' cx' := by
  obtain ⟨m, _, hpm, _, rfl, hnp⟩ := mapPopKeep_ok_iff.mp h
  exact (((self_step hpm (.mapPop m cx)).mono fun _ => Or.inl).trans
    (forgetElems_steps _ _ _)).trans ((notifyParent_steps hnp).mono fun _ => Or.inl)

theorem arrPop_steps {w : World} {x : SlabID} {cx : Ctx} {es : List Elem} {w' : World} {cx' : Ctx}
    (h : w.arrPop x cx = .ok (es, w', cx')) : Steps MutOrDrop w cx w' cx' :=
  arrPopKeep_steps ((arrPopKeep_nil w x cx).trans h)

theorem mapPop_steps {w : World} {x : SlabID} {cx : Ctx} {kvs : List (MKey × Elem)} {w' : World} {cx' : Ctx}
    (h : w.mapPop x cx = .ok (kvs, w', cx')) : Steps MutOrDrop w cx w' cx' :=
  mapPopKeep_steps ((mapPopKeep_nil w x cx).trans h)

/-! ### The normal form of a mutation -/

/-- the value phase -/
def Prep (w : World) (cx : Ctx) (lim : Nat) : Option WVal → Option Elem → World → Ctx → Prop
  | none, e, w1, cx1 => e = none ∧ w1 = w ∧ cx1 = cx
  | some v, e, w1, cx1 => ∃ e0, e = some e0 ∧ w.storableOf v lim cx = .ok (e0, w1, cx1)

/-- the hand-back phase: `old` is what the core operation returned, `old'` what the caller gets,
    `ov` the container handed back -/
def HandBack (w : World) (cx : Ctx) : Option Elem → Option Elem → Option SlabID → World → Ctx → Prop
  | none, old', ov, w1, cx1 => old' = none ∧ ov = none ∧ w1 = w ∧ cx1 = cx
  | some o, old', ov, w1, cx1 => ∃ o', old' = some o' ∧ w.uninlineIfNeeded o cx = .ok (o', ov, w1, cx1)

/-- what distinguishes one mutator from another -/
structure MutShape where
  /-- the container mutated -/
  p : SlabID
  /-- the value stored and the slot it goes to -/
  v : Option (WVal × Slot)
  /-- `core T cfg c e cx old c' cx'`: the operation on `c` with the storable `e`, giving back `old` -/
  core : Nat → MCfg → Cont → Option Elem → Ctx → Option Elem → Cont → Ctx → Prop
  /-- the update of the tables of `p` before the notification -/
  reidx : World → World
  /-- the fuel of the notification, from the initial world and the world that is notified: `arrSet` / `mapSet`
      compute `w.fuelOf` before they call `arrSetRaw` / `mapSetRaw`, the other mutators at the notification -/
  fuel : World → World → Nat
  /-- what becomes of the index entry of the container handed back -/
  erase : World → Option SlabID → World

namespace MutShape

/-- the value stored -/
def val (S : MutShape) : Option WVal := S.v.map (·.1)

/-- the slot written -/
def slot (S : MutShape) : Option Slot := S.v.map (·.2)

/-- the per-element limit of the slot written (`0`, never read, if nothing is stored) -/
def lim (S : MutShape) (T : Nat) : Nat :=
  match S.v with
  | some (_, s) => s.lim T
  | none => 0

theorem lim_le (S : MutShape) (T : Nat) : S.lim T ≤ maxInlineArr T := by
  unfold lim
  split
  · exact Slot.lim_le _ _
  · exact Nat.zero_le _

/-- the closure of the stored child is installed -/
def cb (S : MutShape) (w : World) : World :=
  match S.v with
  | some (v, s) => w.install S.p s v
  | none => w

@[simp] theorem cont?_cb (S : MutShape) (w : World) (y : SlabID) : (S.cb w).cont? y = w.cont? y := by
  unfold cb
  split
  · exact cont?_install _ _ _ _ _
  · rfl

@[simp] theorem T_cb (S : MutShape) (w : World) : (S.cb w).T = w.T := by
  unfold cb
  split
  · exact T_install _ _ _ _
  · rfl

theorem lim_of_slot {S : MutShape} {sl : Slot} (h : S.slot = some sl) (T : Nat) : S.lim T = sl.lim T := by
  unfold slot at h
  unfold lim
  cases hv : S.v with
  | none => rw [hv] at h; cases h
  | some vs => rw [hv] at h; cases h; rfl

end MutShape

/-- A successful mutation of shape `S`: from `w`, `cx` it hands back `old'` and ends in `w'`, `cx'`.  The
    witnesses, in order: `pc` the container filed under `S.p`; `e` the storable; `w1 cx1` after the value
    phase; `old` what the core operation hands back; `pc' cx2` after the core operation; `w3 cx3` after the
    notification; `ov` the container handed back; `w5` after the hand-back.  `pc` is read in `w`, before the
    value phase, but the core operation runs with `w1.T`, `w1.mcfg`, as the model does (see `EStep.cont`). -/
def Mutation (S : MutShape) (w : World) (cx : Ctx) (old' : Option Elem) (w' : World) (cx' : Ctx) : Prop :=
  ∃ pc e w1 cx1 old pc' cx2 w3 cx3 ov w5,
    w.cont? S.p = some pc ∧ Prep w cx (S.lim w.T) S.val e w1 cx1 ∧
    S.core w1.T w1.mcfg pc e cx1 old pc' cx2 ∧
    notifyParent (S.fuel w (S.reidx (w1.setCont S.p pc'))) (S.reidx (w1.setCont S.p pc')) S.p cx2 = .ok (w3, cx3) ∧
    HandBack (S.cb w3) cx3 old old' ov w5 cx' ∧ w' = S.erase w5 ov

/-- the caller is handed something back iff the core operation hands something back -/
theorem HandBack.isSome {w : World} {cx : Ctx} {old old' : Option Elem} {ov : Option SlabID} {w1 : World}
    {cx1 : Ctx} (h : HandBack w cx old old' ov w1 cx1) : old'.isSome = old.isSome := by
  cases old with
  | none => obtain ⟨rfl, _⟩ := h; rfl
  | some o => obtain ⟨o', rfl, _⟩ := h; rfl

namespace Mutation
variable {S : MutShape} {w : World} {cx : Ctx} {old' : Option Elem} {w' : World} {cx' : Ctx}

/-- nothing is handed back if the core operation of the shape never hands anything back -/
theorem old'_none (M : Mutation S w cx old' w' cx')
    (h : ∀ {T cfg c e cx old c' cx'}, S.core T cfg c e cx old c' cx' → old = none) : old' = none := by
  obtain ⟨_, _, _, _, old, _, _, _, _, _, _, _, _, hcore, _, hb, _⟩ := M
  have := hb.isSome
  rw [h hcore] at this
  exact Option.not_isSome_iff_eq_none.mp (by rw [this]; simp)

/-- something is handed back if the core operation of the shape always hands something back -/
theorem old'_some (M : Mutation S w cx old' w' cx')
    (h : ∀ {T cfg c e cx old c' cx'}, S.core T cfg c e cx old c' cx' → old.isSome) : ∃ o', old' = some o' := by
  obtain ⟨_, _, _, _, old, _, _, _, _, _, _, _, _, hcore, _, hb, _⟩ := M
  exact Option.isSome_iff_exists.mp (hb.isSome.trans (h hcore))

end Mutation

/-- the table updates of a shape leave the parameters, the closures, the containers and the index tables
    of the other containers alone -/
structure MutShape.TableLaw (S : MutShape) : Prop where
  reidx : ∀ w, IdxOnly w (S.reidx w)
  erase : ∀ w ov, IdxOnly w (S.erase w ov)
  idx : ∀ w q x, q ≠ S.p → AList.find? ((S.reidx w).idxOf q) x = AList.find? (w.idxOf q) x

def shInsert (p : SlabID) (i : Nat) (v : WVal) : MutShape where
  p := p
  v := some (v, .idx i)
  core := fun T _ c e cx old c' cx' => ∃ a a' e0, c = .arr a ∧ c' = .arr a' ∧ e = some e0 ∧ old = none ∧
    i ≤ a.count ∧ a.insert T i e0 cx = .ok (a', cx')
  reidx := fun w => w.shiftIdx p (fun j => if j ≥ i then j + 1 else j)
  fuel := fun _ w2 => w2.fuelOf
  erase := fun w _ => w

def shSet (p : SlabID) (i : Nat) (v : WVal) : MutShape where
  p := p
  v := some (v, .idx i)
  core := fun T _ c e cx old c' cx' => ∃ a a' e0 o, c = .arr a ∧ c' = .arr a' ∧ e = some e0 ∧ old = some o ∧
    i < a.count ∧ a.set T i e0 cx = .ok (o, a', cx')
  reidx := id
  fuel := fun w _ => w.fuelOf
  erase := fun w ov => match ov with
    | none => w
    | some o => if (match v with | .child nv _ => nv == o | _ => false) then w else eraseOld w p (some o)

def shRemove (p : SlabID) (i : Nat) : MutShape where
  p := p
  v := none
  core := fun T _ c _ cx old c' cx' => ∃ a a' o, c = .arr a ∧ c' = .arr a' ∧ old = some o ∧
    a.remove T i cx = .ok (o, a', cx')
  reidx := fun w => w.shiftIdx p (fun j => if j > i then j - 1 else j)
  fuel := fun _ w2 => w2.fuelOf
  erase := fun w ov => eraseOld w p ov

def shMapSet (p : SlabID) (k : MKey) (v : WVal) : MutShape where
  p := p
  v := some (v, .key k)
  core := fun _ cfg c e cx old c' cx' => ∃ m m' e0, c = .map m ∧ c' = .map m' ∧ e = some e0 ∧
    m.set cfg k e0 cx = .ok (old, m', cx')
  reidx := id
  fuel := fun w _ => w.fuelOf
  erase := fun w _ => w

/-- `rk`: the key handed back -/
def shMapRemove (p : SlabID) (k rk : MKey) : MutShape where
  p := p
  v := none
  core := fun _ cfg c _ cx old c' cx' => ∃ m m' rv, c = .map m ∧ c' = .map m' ∧ old = some rv ∧
    m.remove cfg k cx = .ok (rk, rv, m', cx')
  reidx := id
  fuel := fun _ w2 => w2.fuelOf
  erase := fun w _ => w

section
variable {T : Nat} {cfg : MCfg} {c c' : Cont} {e old : Option Elem} {cx cx' : Ctx}

theorem shInsert_old {p : SlabID} {i : Nat} {v : WVal} (h : (shInsert p i v).core T cfg c e cx old c' cx') :
    old = none := by
  obtain ⟨_, _, _, _, _, _, h, _⟩ := h; exact h

theorem shSet_old {p : SlabID} {i : Nat} {v : WVal} (h : (shSet p i v).core T cfg c e cx old c' cx') :
    old.isSome := by
  obtain ⟨_, _, _, _, _, _, _, rfl, _⟩ := h; rfl

theorem shRemove_old {p : SlabID} {i : Nat} (h : (shRemove p i).core T cfg c e cx old c' cx') : old.isSome := by
  obtain ⟨_, _, _, _, _, rfl, _⟩ := h; rfl

theorem shMapRemove_old {p : SlabID} {k rk : MKey} (h : (shMapRemove p k rk).core T cfg c e cx old c' cx') :
    old.isSome := by
  obtain ⟨_, _, _, _, _, rfl, _⟩ := h; rfl

end

theorem shInsert_tableLaw (p : SlabID) (i : Nat) (v : WVal) : (shInsert p i v).TableLaw :=
  ⟨fun w => .shiftIdx w p (fun j => if j ≥ i then j + 1 else j), fun w _ => .refl w, fun w q x hq => by
    show AList.find? ((w.shiftIdx p _).idxOf q) x = _
    rw [idxOf_shiftIdx, if_neg (show ¬ p = q from Ne.symm hq)]⟩

theorem shSet_tableLaw (p : SlabID) (i : Nat) (v : WVal) : (shSet p i v).TableLaw :=
  ⟨fun w => .refl w, fun w ov => by
    cases ov with
    | none => exact .refl w
    | some o =>
      have h : ∀ b : Bool, IdxOnly w (if b then w else eraseOld w p (some o)) := fun b => by
        cases b
        · exact .eraseOld w p (some o)
        · exact .refl w
      exact h _,
    fun _ _ _ _ => rfl⟩

theorem shRemove_tableLaw (p : SlabID) (i : Nat) : (shRemove p i).TableLaw :=
  ⟨fun w => .shiftIdx w p (fun j => if j > i then j - 1 else j), fun w ov => .eraseOld w p ov, fun w q x hq => by
    show AList.find? ((w.shiftIdx p _).idxOf q) x = _
    rw [idxOf_shiftIdx, if_neg (show ¬ p = q from Ne.symm hq)]⟩

theorem shMapSet_tableLaw (p : SlabID) (k : MKey) (v : WVal) : (shMapSet p k v).TableLaw :=
  ⟨fun w => .refl w, fun w _ => .refl w, fun _ _ _ _ => rfl⟩

theorem shMapRemove_tableLaw (p : SlabID) (k rk : MKey) : (shMapRemove p k rk).TableLaw :=
  ⟨fun w => .refl w, fun w _ => .refl w, fun _ _ _ _ => rfl⟩

theorem arrInsert_mutation {w : World} {p : SlabID} {i : Nat} {v : WVal} {cx : Ctx} {w' : World} {cx' : Ctx} :
    w.arrInsert p i v cx = .ok (w', cx') ↔ Mutation (shInsert p i v) w cx none w' cx' := by
  rw [arrInsert_ok_iff]
  constructor
  · rintro ⟨a, e, w1, cx1, a', cx2, _, w3, hpa, hi, hst, hins, rfl, hnp, rfl⟩
    exact ⟨_, some e, w1, cx1, none, .arr a', cx2, w3, cx', none, _, hpa, ⟨e, rfl, hst⟩,
      ⟨a, a', e, rfl, rfl, rfl, rfl, hi, hins⟩, hnp, ⟨rfl, rfl, rfl, rfl⟩, rfl⟩
  · rintro ⟨_, _, w1, cx1, _, _, cx2, w3, cx3, ov, w5, hpa, ⟨e, rfl, hst⟩, ⟨a, a', e0, rfl, rfl, he, rfl, hi, hins⟩,
      hnp, ⟨_, _, rfl, rfl⟩, rfl⟩
    cases he
    exact ⟨a, e, w1, cx1, a', cx2, _, w3, hpa, hi, hst, hins, rfl, hnp, rfl⟩

theorem arrSet_mutation {w : World} {p : SlabID} {i : Nat} {v : WVal} {cx : Ctx} {old : Elem} {w' : World}
    {cx' : Ctx} : w.arrSet p i v cx = .ok (old, w', cx') ↔ Mutation (shSet p i v) w cx (some old) w' cx' := by
  rw [arrSet_ok_iff]
  constructor
  · rintro ⟨old1, _, cx1, ov, w2, hraw, hun, rfl⟩
    obtain ⟨a, e, w1, cx1', a', cx2, w3, hpa, hi, hst, hset, hnp, rfl⟩ := arrSetRaw_ok_iff.mp hraw
    exact ⟨_, some e, w1, cx1', some old1, .arr a', cx2, w3, cx1, ov, w2, hpa, ⟨e, rfl, hst⟩,
      ⟨a, a', e, old1, rfl, rfl, rfl, rfl, hi, hset⟩, hnp, ⟨old, rfl, hun⟩, rfl⟩
  · rintro ⟨_, _, w1, cx1, _, _, cx2, w3, cx3, ov, w5, hpa, ⟨e, rfl, hst⟩,
      ⟨a, a', e0, o, rfl, rfl, he, rfl, hi, hset⟩, hnp, ⟨o', ho, hun⟩, rfl⟩
    cases he; cases ho
    exact ⟨o, _, cx3, ov, w5, arrSetRaw_ok_iff.mpr ⟨a, e, w1, cx1, a', cx2, w3, hpa, hi, hst, hset, hnp, rfl⟩,
      hun, rfl⟩

theorem arrRemove_mutation {w : World} {p : SlabID} {i : Nat} {cx : Ctx} {old : Elem} {w' : World} {cx' : Ctx} :
    w.arrRemove p i cx = .ok (old, w', cx') ↔ Mutation (shRemove p i) w cx (some old) w' cx' := by
  rw [arrRemove_ok_iff]
  constructor
  · rintro ⟨a, old0, a', cx1, _, w3, cx3, ov, w4, hpa, hrem, rfl, hnp, hun, rfl⟩
    exact ⟨_, none, w, cx, some old0, .arr a', cx1, w3, cx3, ov, w4, hpa, ⟨rfl, rfl, rfl⟩,
      ⟨a, a', old0, rfl, rfl, rfl, hrem⟩, hnp, ⟨old, rfl, hun⟩, rfl⟩
  · rintro ⟨_, _, _, _, _, _, cx2, w3, cx3, ov, w5, hpa, ⟨_, rfl, rfl⟩, ⟨a, a', o, rfl, rfl, rfl, hrem⟩, hnp,
      ⟨o', ho, hun⟩, rfl⟩
    cases ho
    exact ⟨a, o, a', cx2, _, w3, cx3, ov, w5, hpa, hrem, rfl, hnp, hun, rfl⟩

theorem mapSet_mutation {w : World} {p : SlabID} {k : MKey} {v : WVal} {cx : Ctx} {old : Option Elem} {w' : World}
    {cx' : Ctx} : w.mapSet p k v cx = .ok (old, w', cx') ↔ Mutation (shMapSet p k v) w cx old w' cx' := by
  rw [mapSet_ok_iff]
  constructor
  · rintro ⟨old1, _, cx1, hraw, hcase⟩
    obtain ⟨m, e, w1, cx1', m', cx2, w3, hpm, hst, hset, hnp, rfl⟩ := mapSetRaw_ok_iff.mp hraw
    rcases hcase with ⟨rfl, rfl, rfl, rfl⟩ | ⟨o, o', ov, rfl, rfl, hun⟩
    · exact ⟨_, some e, w1, cx1', none, .map m', cx2, w3, _, none, _, hpm, ⟨e, rfl, hst⟩,
        ⟨m, m', e, rfl, rfl, rfl, hset⟩, hnp, ⟨rfl, rfl, rfl, rfl⟩, rfl⟩
    · exact ⟨_, some e, w1, cx1', some o, .map m', cx2, w3, cx1, ov, w', hpm, ⟨e, rfl, hst⟩,
        ⟨m, m', e, rfl, rfl, rfl, hset⟩, hnp, ⟨o', rfl, hun⟩, rfl⟩
  · rintro ⟨_, _, w1, cx1, old1, _, cx2, w3, cx3, ov, w5, hpm, ⟨e, rfl, hst⟩, ⟨m, m', e0, rfl, rfl, he, hset⟩,
      hnp, hb, rfl⟩
    cases he
    refine ⟨old1, _, cx3, mapSetRaw_ok_iff.mpr ⟨m, e, w1, cx1, m', cx2, w3, hpm, hst, hset, hnp, rfl⟩, ?_⟩
    cases old1 with
    | none => obtain ⟨rfl, _, rfl, rfl⟩ := hb; exact .inl ⟨rfl, rfl, rfl, rfl⟩
    | some o => obtain ⟨o', rfl, hun⟩ := hb; exact .inr ⟨o, o', ov, rfl, rfl, hun⟩

theorem mapRemove_mutation {w : World} {p : SlabID} {k : MKey} {cx : Ctx} {rk : MKey} {rv : Elem} {w' : World}
    {cx' : Ctx} :
    w.mapRemove p k cx = .ok (rk, rv, w', cx') ↔ Mutation (shMapRemove p k rk) w cx (some rv) w' cx' := by
  rw [mapRemove_ok_iff]
  constructor
  · rintro ⟨m, rv0, m', cx1, w3, cx3, ov, hpm, hrem, hnp, hun⟩
    exact ⟨_, none, w, cx, some rv0, .map m', cx1, w3, cx3, ov, w', hpm, ⟨rfl, rfl, rfl⟩,
      ⟨m, m', rv0, rfl, rfl, rfl, hrem⟩, hnp, ⟨rv, rfl, hun⟩, rfl⟩
  · rintro ⟨_, _, _, _, _, _, cx2, w3, cx3, ov, w5, hpm, ⟨_, rfl, rfl⟩, ⟨m, m', rv0, rfl, rfl, rfl, hrem⟩, hnp,
      ⟨o', ho, hun⟩, rfl⟩
    cases ho
    exact ⟨m, rv0, m', cx2, w3, cx3, ov, hpm, hrem, hnp, hun⟩

end World
end Atree

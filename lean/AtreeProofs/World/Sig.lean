import AtreeProofs.World.ContOk
import AtreeProofs.World.Basic
/-
  The reference structure of a World (who refers to whom, at which slot) only depends on the
  SIGNATURE of every container (kind, keys, payloads): `ContsSig`.  Transfer of the invariants that
  only talk about the reference structure, put together in `WorldOkGen.of_sig`: an update that keeps
  the signatures leaves to prove what the invariant says of each container by itself (`FiledOk`) and
  the clauses about sizes and forms.  `rank_insert`: a rank function for the world with one more
  edge.  `SigFrame` from `ContsSig`.
-/
namespace Atree
open Gen

namespace Cont

theorem pays_eq_sig (c : Cont) : c.pays = c.sig.2.map (·.2) := by
  cases c <;> simp [pays, sig, storedElems, List.map_map, Function.comp_def]

theorem slots_map_snd (T : Nat) (c : Cont) : (c.slots T).map (·.2) = c.storedElems := by
  cases c <;> simp [slots, storedElems, List.map_map, Function.comp_def]

theorem pays_eq_slots (T : Nat) (c : Cont) : c.pays = (c.slots T).map (·.2.pay) := by
  rw [pays, ← slots_map_snd T, List.map_map]; rfl

theorem slots_length (T : Nat) (c : Cont) : (c.slots T).length = c.storedElems.length := by
  rw [← slots_map_snd T]; simp

theorem SameData.sig_eq {c c' : Cont} (h : SameData c c') : c'.sig = c.sig := by
  cases c <;> cases c' <;> simp only [SameData] at h
  · simp [sig, h.1]
  · simp [sig, h.1]

theorem SameData.slots_eq (T : Nat) {c c' : Cont} (h : SameData c c') : c'.slots T = c.slots T := by
  cases c <;> cases c' <;> simp only [SameData] at h
  · simp [slots, h.1]
  · simp [slots, h.1]

theorem SameData.pays_eq {c c' : Cont} (h : SameData c c') : c'.pays = c.pays := by
  rw [pays_eq_sig, pays_eq_sig, h.sig_eq]

theorem slot_pay {T : Nat} {c : Cont} {j : Nat} {le : Nat × Elem} (h : (c.slots T)[j]? = some le) :
    c.pays[j]? = some le.2.pay := by
  rw [pays_eq_slots T, List.getElem?_map, h]; rfl

theorem pay_slot {T : Nat} {c : Cont} {j : Nat} {py : Pay} (h : c.pays[j]? = some py) :
    ∃ le, (c.slots T)[j]? = some le ∧ le.2.pay = py := by
  rw [pays_eq_slots T, List.getElem?_map] at h
  cases hs : (c.slots T)[j]? with
  | none => rw [hs] at h; cases h
  | some le => rw [hs] at h; exact ⟨le, rfl, by simpa using h⟩

theorem sig_pays {c c' : Cont} (h : c'.sig = c.sig) : c'.pays = c.pays := by
  rw [pays_eq_sig, pays_eq_sig, h]

theorem sig_kind_arr {a : Arr} {c' : Cont} (h : c'.sig = (Cont.arr a).sig) : ∃ a', c' = .arr a' := by
  cases c' with
  | arr a' => exact ⟨a', rfl⟩
  | map m => simp [sig] at h

theorem sig_kind_map {m : OMap 3} {c' : Cont} (h : c'.sig = (Cont.map m).sig) : ∃ m', c' = .map m' := by
  cases c' with
  | arr a' => simp [sig] at h
  | map m' => exact ⟨m', rfl⟩

end Cont

namespace World

theorem sig_arr (a : Arr) : (Cont.arr a).sig = (true, a.toList.map (fun e => (none, e.pay))) := rfl
theorem sig_map (m : OMap 3) : (Cont.map m).sig = (false, m.toList.map (fun p => (some p.1, p.2.pay))) := rfl

theorem mem_pays_iff {c : Cont} {y : SlabID} : Pay.ref y ∈ c.pays ↔ ∃ e ∈ c.storedElems, e.pay = .ref y := by
  simp only [Cont.pays, List.mem_map]

/-- same threshold and same signature of every container -/
structure ContsSig (w w' : World) : Prop where
  T : w'.T = w.T
  sig : ∀ q, (w'.cont? q).map Cont.sig = (w.cont? q).map Cont.sig

theorem ContsSig.refl (w : World) : ContsSig w w := ⟨rfl, fun _ => rfl⟩

theorem ContsSig.symm {w w' : World} (h : ContsSig w w') : ContsSig w' w :=
  ⟨h.T.symm, fun q => (h.sig q).symm⟩

/-- one container is replaced by one with the same signature, the others are untouched -/
theorem ContsSig.of_one {w w' : World} {v : SlabID} {c c1 : Cont} (hT : w'.T = w.T) (hv : w.cont? v = some c)
    (hc1 : w'.cont? v = some c1) (hs : c1.sig = c.sig) (hco : ∀ z, z ≠ v → w'.cont? z = w.cont? z) :
    ContsSig w w' := by
  refine ⟨hT, fun q => ?_⟩
  by_cases hq : q = v
  · subst hq; rw [hc1, hv]; simp [hs]
  · rw [hco q hq]

/-- `Storable()` of a child changes at most the form of the child: every signature is kept -/
theorem ContsSig.of_childStorable {w : World} {x : SlabID} {wrap lim : Nat} {cx : Ctx} {e : Elem} {w' : World}
    {cx' : Ctx} (h : w.childStorable x wrap lim cx = .ok (e, w', cx')) : ContsSig w w' := by
  obtain ⟨_, _, hT, _, hco, ⟨c, c', hc, hc', hsd⟩, _⟩ := childStorable_frame h
  exact .of_one hT hc hc' hsd.sig_eq hco

theorem ContsSig.of_storableOf {w : World} {v : WVal} {lim : Nat} {cx : Ctx} {e : Elem} {w' : World} {cx' : Ctx}
    (h : w.storableOf v lim cx = .ok (e, w', cx')) : ContsSig w w' := by
  cases v with
  | plain e0 => simp only [storableOf_plain] at h; cases h; exact .refl _
  | child x wr => exact .of_childStorable h

/-- `uninlineStorableIfNeeded` changes at most the form of the container the element refers to -/
theorem ContsSig.of_uninlineIfNeeded {w : World} {e : Elem} {cx : Ctx} {e' : Elem} {ov : Option SlabID} {w' : World}
    {cx' : Ctx} (h : w.uninlineIfNeeded e cx = .ok (e', ov, w', cx')) : ContsSig w w' := by
  obtain ⟨_, _, _, _, _, hcase⟩ := uninlineIfNeeded_ok h
  rcases hcase with ⟨_, _, h3, _⟩ | ⟨x, c, _, _, hc, ⟨_, _, h3, _⟩ | ⟨_, c', hsd, _, h3, _⟩⟩
  · subst h3; exact .refl _
  · subst h3; exact .refl _
  · subst h3
    exact .of_one rfl hc (cont?_setCont_self _ _ _) hsd.sig_eq (fun z hz => cont?_setCont_ne _ _ _ _ hz)

theorem ContsSig.trans {w1 w2 w3 : World} (h12 : ContsSig w1 w2) (h23 : ContsSig w2 w3) : ContsSig w1 w3 :=
  ⟨h23.T.trans h12.T, fun q => (h23.sig q).trans (h12.sig q)⟩

theorem ContsSig.get {w w' : World} (h : ContsSig w w') {q : SlabID} {c : Cont} (hc : w.cont? q = some c) :
    ∃ c', w'.cont? q = some c' ∧ c'.sig = c.sig := by
  have := h.sig q
  rw [hc] at this
  cases hc' : w'.cont? q with
  | none => rw [hc'] at this; cases this
  | some c' => rw [hc'] at this; exact ⟨c', rfl, by simpa using this⟩

theorem ContsSig.isSome {w w' : World} (h : ContsSig w w') (q : SlabID) :
    (w'.cont? q).isSome = (w.cont? q).isSome := by
  have := h.sig q
  cases h1 : w.cont? q <;> cases h2 : w'.cont? q <;> simp_all

theorem ContsSig.holds {w w' : World} (h : ContsSig w w') {p x : SlabID} (hh : Holds w p x) : Holds w' p x := by
  obtain ⟨pc, hpc, hm⟩ := hh
  obtain ⟨pc', hpc', hs⟩ := h.get hpc
  exact ⟨pc', hpc', by rw [Cont.sig_pays hs]; exact hm⟩

theorem ContsSig.holds_iff {w w' : World} (h : ContsSig w w') (p x : SlabID) : Holds w' p x ↔ Holds w p x :=
  ⟨h.symm.holds, h.holds⟩

theorem ContsSig.uniqueRef {w w' : World} (h : ContsSig w w') (hu : UniqueRef w) : UniqueRef w' := by
  intro p p' pc pc' i j x hp hp' hi hj hx
  obtain ⟨qc, hq, hs⟩ := h.symm.get hp
  obtain ⟨qc', hq', hs'⟩ := h.symm.get hp'
  refine hu p p' qc qc' i j x hq hq' ?_ ?_ ?_
  · rw [Cont.sig_pays hs]; exact hi
  · rw [Cont.sig_pays hs']; exact hj
  · rw [← h.isSome]; exact hx

theorem ContsSig.cRank {w w' : World} (h : ContsSig w w') {rank : SlabID → Nat} (hr : CRank rank w) :
    CRank rank w' := by
  intro p x hh hx
  exact hr p x (h.symm.holds hh) (by rw [← h.isSome]; exact hx)

theorem ContsSig.refsBelow {w w' : World} (h : ContsSig w w') {ctr ctr' : Nat} (hb : RefsBelow w ctr)
    (hc : ctr ≤ ctr') : RefsBelow w' ctr' := by
  intro p pc hp r hr
  obtain ⟨qc, hq, hs⟩ := h.symm.get hp
  exact Nat.le_trans (hb p qc hq r (by rw [Cont.sig_pays hs]; exact hr)) hc

/-- `MutIdxOkX` only depends on the signatures and on the lookups in the index tables -/
theorem ContsSig.mutIdxOkX {w w' : World} (h : ContsSig w w') {O : SlabID → Prop} (hm : MutIdxOkX w O)
    (hidx : ∀ p x, AList.find? (w'.idxOf p) x = AList.find? (w.idxOf p) x) : MutIdxOkX w' O := by
  intro p a hp x i hi hO
  obtain ⟨qc, hq, hs⟩ := h.symm.get hp
  obtain ⟨a0, rfl⟩ := Cont.sig_kind_arr hs
  rw [hidx] at hi
  have := hm p a0 hq x i hi hO
  rw [← Cont.sig_pays hs]; exact this

/-- `ClosureOk` only depends on the threshold, on the kind of the containers and on the closures -/
theorem ClosureOk.of_kind {D : SlabID → DigestFn 4} {w w' : World} (hT : w'.T = w.T)
    (harr : ∀ z a', w'.cont? z = some (.arr a') → ∃ a, w.cont? z = some (.arr a))
    (hmap : ∀ z m', w'.cont? z = some (.map m') → ∃ m, w.cont? z = some (.map m))
    (hh : ∀ x hi, AList.find? w'.hinfo x = some hi → AList.find? w.hinfo x = some hi) (hc : ClosureOk D w) :
    ClosureOk D w' := by
  intro x hi hx
  obtain ⟨c1, c2⟩ := hc x hi (hh x hi hx)
  refine ⟨fun pa hpa => ?_, fun pm k hpm hk => ?_⟩
  · obtain ⟨a0, hq⟩ := harr _ pa hpa
    rw [hT]; exact c1 a0 hq
  · obtain ⟨m0, hq⟩ := hmap _ pm hpm
    rw [hT]; exact c2 m0 k hq hk

theorem ContsSig.closureOk {w w' : World} (h : ContsSig w w') {D : SlabID → DigestFn 4} (hc : ClosureOk D w)
    (hh : ∀ x hi, AList.find? w'.hinfo x = some hi → AList.find? w.hinfo x = some hi) : ClosureOk D w' :=
  .of_kind h.T
    (fun _ _ hz => by
      obtain ⟨_, hq, hs⟩ := h.symm.get hz; obtain ⟨a0, rfl⟩ := Cont.sig_kind_arr hs; exact ⟨a0, hq⟩)
    (fun _ _ hz => by
      obtain ⟨_, hq, hs⟩ := h.symm.get hz; obtain ⟨m0, rfl⟩ := Cont.sig_kind_map hs; exact ⟨m0, hq⟩) hh hc

theorem ContsSig.idxLive {w w' : World} (h : ContsSig w w') (hl : IdxLive w)
    (hidx : ∀ p x (i : Nat), AList.find? (w'.idxOf p) x = some i → AList.find? (w.idxOf p) x = some i) :
    IdxLive w' := by
  intro p x i hi
  obtain ⟨h1, a, ha⟩ := hl p x i (hidx p x i hi)
  obtain ⟨c', hc', hs⟩ := h.get ha
  obtain ⟨a', rfl⟩ := Cont.sig_kind_arr hs
  exact ⟨by rw [h.isSome]; exact h1, a', hc'⟩

theorem ContsSig.hinfoLive {w w' : World} (h : ContsSig w w') (hl : HinfoLive w)
    (hh : ∀ x hi, AList.find? w'.hinfo x = some hi → AList.find? w.hinfo x = some hi) : HinfoLive w' := by
  intro x hi hx
  rw [h.isSome]; exact hl x hi (hh x hi hx)

/-- what the invariant says of the container `c` filed under `z`, by itself: the clauses `ids`, `addr`,
    `conts`, `band` of `WorldOkGen` -/
structure FiledOk (D : SlabID → DigestFn 4) (w : World) (ctr : Nat) (z : SlabID) (c : Cont) : Prop where
  vid : c.vid = z
  addr : z.addr = w.addr
  ok : ContOk w.T (D z) ctr c
  band : c.isInlined = true → c.rootSize ≤ w.T

section
variable {D : SlabID → DigestFn 4} {rank : SlabID → Nat} {stale : Option SlabID} {O : SlabID → Prop}
  {w w' : World} {ctr ctr' : Nat}

theorem WorldOkGen.filed (H : WorldOkGen D rank stale O w ctr) {z : SlabID} {c : Cont} (hz : w.cont? z = some c) :
    FiledOk D w ctr z c :=
  ⟨H.ids z c hz, H.addr z c hz, H.conts z c hz, H.band z c hz⟩

/-- the same container in a world with the same parameters -/
theorem FiledOk.congr {z : SlabID} {c : Cont} (h : FiledOk D w ctr z c) (hT : w'.T = w.T) (ha : w'.addr = w.addr)
    (hc : ctr ≤ ctr') : FiledOk D w' ctr' z c :=
  ⟨h.vid, by rw [ha]; exact h.addr, by rw [hT]; exact h.ok.mono hc, by rw [hT]; exact h.band⟩

/-- another container filed under the identifier of `c` -/
theorem FiledOk.replace {z : SlabID} {c c' : Cont} (h : FiledOk D w ctr z c) (hT : w'.T = w.T) (ha : w'.addr = w.addr)
    (hvid : c'.vid = c.vid) (hok : ContOk w.T (D z) ctr' c') (hband : c'.isInlined = true → c'.rootSize ≤ w.T) :
    FiledOk D w' ctr' z c' :=
  ⟨hvid.trans h.vid, by rw [ha]; exact h.addr, by rw [hT]; exact hok, by rw [hT]; exact hband⟩

/-- the configuration the model derives from the world is the one of a map filed in it -/
theorem FiledOk.cfgOk {p : SlabID} {pm : OMap 3} (F : FiledOk D w ctr p (.map pm)) : CfgOk w.mcfg w.T pm := by
  refine ⟨rfl, rfl, ?_⟩
  show w.addr = pm.rootID.addr
  rw [show pm.rootID = p from F.vid, F.addr]

/-- The invariant from its parts: what it says of each container by itself (`FiledOk`), and the clauses that
    relate containers, closures and index tables. -/
theorem WorldOkGen.of_filed (legal : legalThreshold w.T = true)
    (filed : ∀ z c, w.cont? z = some c → FiledOk D w ctr z c) (slots : SlotSync w stale O) (unique : UniqueRef w)
    (inlRef : InlRef w O) (mutIdx : MutIdxOkX w O) (closure : ClosureOk D w) (hrank : CRank rank w)
    (below : RefsBelow w ctr) (idxLive : IdxLive w) (hinfoLive : HinfoLive w) : WorldOkGen D rank stale O w ctr :=
  ⟨legal, fun z c hz => (filed z c hz).vid, fun z c hz => (filed z c hz).addr, fun z c hz => (filed z c hz).ok, slots,
    fun z c hz => (filed z c hz).band, unique, inlRef, mutIdx, closure, hrank, below, idxLive, hinfoLive⟩

/-- An update of the world that keeps every signature and at most drops closures and index entries keeps the
    clauses of the invariant that read the reference structure only (`unique`, `closure`, `rank`, `below`,
    `idxLive`, `hinfoLive`).  Left to the caller: each container by itself, and the clauses that read sizes
    and forms or name the stale container and the pending set. -/
theorem WorldOkGen.of_sig {stale' : Option SlabID} {O' : SlabID → Prop} (H : WorldOkGen D rank stale O w ctr)
    (hS : ContsSig w w') (hc : ctr ≤ ctr')
    (hh : ∀ x hi, AList.find? w'.hinfo x = some hi → AList.find? w.hinfo x = some hi)
    (hidx : ∀ p x (i : Nat), AList.find? (w'.idxOf p) x = some i → AList.find? (w.idxOf p) x = some i)
    (filed : ∀ z c, w'.cont? z = some c → FiledOk D w' ctr' z c) (slots : SlotSync w' stale' O')
    (inlRef : InlRef w' O') (mutIdx : MutIdxOkX w' O') : WorldOkGen D rank stale' O' w' ctr' :=
  .of_filed (by rw [hS.T]; exact H.legal) filed slots (hS.uniqueRef H.unique) inlRef mutIdx (hS.closureOk H.closure hh)
    (hS.cRank H.rank) (hS.refsBelow H.below hc) (hS.idxLive H.idxLive hidx) (hS.hinfoLive H.hinfoLive hh)

/-- an inlined container that was referenced still is, under the same signatures -/
theorem ContsSig.inlRef_of (hS : ContsSig w w') (h : InlRef w O) {z : SlabID} {c : Cont} (hz : w.cont? z = some c)
    (hi : c.isInlined = true) (hO : ¬ O z) : ∃ p, Holds w' p z := by
  obtain ⟨q, hq⟩ := h z c hz hi hO
  exact ⟨q, hS.holds hq⟩

end

theorem CRank.lt_of_anc {w : World} {rank : SlabID → Nat} (hr : CRank rank w) {a z : SlabID}
    (h : Anc w a z) (hz : (w.cont? z).isSome) (hne : a ≠ z) : rank a < rank z := by
  induction h with
  | refl => exact absurd rfl hne
  | @step p z hap hpz ih =>
    have h1 := hr p z hpz hz
    by_cases hap' : a = p
    · subst hap'; exact h1
    · obtain ⟨pc, hpc, _⟩ := hpz
      have := ih (by rw [hpc]; rfl) hap'
      omega

theorem Anc.prepend {w : World} {q x p : SlabID} (hqx : Holds w q x) (h : Anc w x p) : Anc w q p := by
  induction h with
  | refl => exact Anc.step Anc.refl hqx
  | step _ hpz ih => exact Anc.step ih hpz

/-- Inserting an unreferenced container `v` below `p` (which `v` is not an ancestor of) keeps the
    world acyclic: a rank for the world with the new edge — every container below `v` is raised by
    `rank p + 1` (the mirror construction is `rank_raise`, World/HandleKeep.lean). -/
theorem rank_insert {rank : SlabID → Nat} {w : World} (hr : CRank rank w) (hu : UniqueRef w) {p v : SlabID}
    (hroot : ∀ q, ¬ Holds w q v) (hanc : ¬ Anc w v p) :
    ∃ rank', CRank rank' w ∧ rank' p < rank' v ∧ rank' p = rank p ∧ ∀ z, rank z ≤ rank' z := by
  classical
  refine ⟨fun z => rank z + (if Anc w v z then rank p + 1 else 0), ?_, ?_, ?_, ?_⟩
  · intro q x hqx hx
    by_cases hax : Anc w v x
    · have haq : Anc w v q := by
        cases hax with
        | refl => exact absurd hqx (hroot q)
        | @step p' _ hvp' hp'x =>
          obtain ⟨qc, hqc, hm⟩ := hqx
          obtain ⟨pc', hpc', hm'⟩ := hp'x
          obtain ⟨i, hi⟩ := List.mem_iff_getElem?.mp hm
          obtain ⟨i', hi'⟩ := List.mem_iff_getElem?.mp hm'
          have := (hu q p' qc pc' i i' x hqc hpc' hi hi' hx).1
          rw [this]; exact hvp'
      have := hr q x hqx hx
      simp only [if_pos hax, if_pos haq]
      omega
    · have haq : ¬ Anc w v q := fun h => hax (Anc.step h hqx)
      have := hr q x hqx hx
      simp only [if_neg hax, if_neg haq]
      omega
  · simp only [if_neg hanc, if_pos Anc.refl]
    omega
  · simp only [if_neg hanc]; omega
  · intro z; show rank z ≤ rank z + _; omega

theorem SigFrame.of_sig {w w' : World} (h : ContsSig w w') (p : SlabID) : SigFrame w w' p := fun z _ => h.sig z

theorem SigFrame.trans {w1 w2 w3 : World} {p : SlabID} (h1 : SigFrame w1 w2 p) (h2 : SigFrame w2 w3 p) :
    SigFrame w1 w3 p := fun z hz => (h2 z hz).trans (h1 z hz)

theorem SigFrame.of_conts {w w' : World} {p : SlabID} (h : ∀ z, z ≠ p → w'.cont? z = w.cont? z) : SigFrame w w' p :=
  fun z hz => by rw [h z hz]

theorem SigFrame.holds {w w' : World} {p : SlabID} (h : SigFrame w w' p) {q x : SlabID} (hq : q ≠ p)
    (hh : Holds w q x) : Holds w' q x := by
  obtain ⟨qc, hqc, hm⟩ := hh
  have := h q hq
  rw [hqc] at this
  cases hc' : w'.cont? q with
  | none => rw [hc'] at this; cases this
  | some c' =>
    rw [hc'] at this
    simp only [Option.map_some, Option.some.injEq] at this
    exact ⟨c', hc', by rw [Cont.sig_pays this]; exact hm⟩

theorem SigFrame.isSome {w w' : World} {p : SlabID} (h : SigFrame w w' p) {z : SlabID} (hz : z ≠ p) :
    (w'.cont? z).isSome = (w.cont? z).isSome := by
  have := h z hz
  cases h1 : w.cont? z <;> cases h2 : w'.cont? z <;> simp_all

theorem SigFrame.live_at {w w' : World} {p : SlabID} (h : SigFrame w w' p) (hp : (w'.cont? p).isSome) {z : SlabID}
    (hz : (w.cont? z).isSome) : (w'.cont? z).isSome := by
  by_cases hzp : z = p
  · subst hzp; exact hp
  · rw [h.isSome hzp]; exact hz

end World
end Atree

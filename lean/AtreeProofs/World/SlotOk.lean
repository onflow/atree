import AtreeProofs.World.Chain
import AtreeProofs.World.StepBasics
/-
  What the invariant of the parent (`ContOk`) says about the slot a closure finds and about the core
  `set` that overwrites it, for array and map parents at once, in the vocabulary of keyed slots
  (`Cont.kslots`): the slot read is a position `j` of the parent's keyed slots, and the `set` of a
  reference that fits replaces exactly that position, hands back what was read, and keeps the invariant
  (`SlotSet.ok`).  A current closure finds its slot (`ClosureCurrent.finds`), and the slot found holds the
  child (`SlotFinds.holds`).
-/
namespace Atree
open Gen

namespace World

/-- the slot read is a position of the parent's keyed slots -/
theorem SlotGet.kslot {w : World} {Dp : DigestFn 4} {ctr : Nat} {qc : Cont} {s : Slot} {el : Elem}
    (hT : legalThreshold w.T = true) (hok : ContOk w.T Dp ctr qc)
    (hcfg : ∀ m, qc = .map m → CfgOk w.mcfg w.T m) (hk : ∀ k, s = .key k → KeyOk w.T 4 Dp k)
    (h : SlotGet w qc s el) : ∃ j : Nat, (qc.kslots w.T)[j]? = some (s.key?, s.lim w.T, el) := by
  cases qc <;> cases s <;> first | exact h.elim | skip
  · rename_i a i
    have hpok : ArrOk w.T a ctr := hok
    exact ⟨i, (Cont.kslots_arr _ _ _ _).mpr ⟨el, hpok.get_ok hT h, rfl⟩⟩
  · rename_i m k
    obtain ⟨k', hget⟩ := h
    have hmok : MapOk w.T Dp m ctr := hok
    obtain ⟨j, hj⟩ := List.mem_iff_getElem?.mp (hmok.get_ok hT (hcfg m rfl) (hk k rfl) hget).2
    exact ⟨j, (Cont.kslots_map _ _ _ _).mpr ⟨k, el, hj, rfl⟩⟩

theorem SlotGet.congr {w w' : World} (hm : w'.mcfg = w.mcfg) {qc : Cont} {s : Slot} {el : Elem} (h : SlotGet w qc s el) :
    SlotGet w' qc s el := by
  cases qc <;> cases s <;> first | exact h.elim | simpa only [SlotGet, hm] using h

/-- a current closure finds its slot (the converse of `ClosureLost.not_finds`) -/
theorem ClosureCurrent.finds {D : SlabID → DigestFn 4} {w : World} {ctr : Nat} {y : SlabID} {hi : HInfo}
    (hT : legalThreshold w.T = true) (hok : ∀ qc, w.cont? hi.parent = some qc → ContOk w.T (D hi.parent) ctr qc)
    (hcfg : ∀ m, w.cont? hi.parent = some (.map m) → CfgOk w.mcfg w.T m) (hcl : ClosureOk D w)
    (hh : AList.find? w.hinfo y = some hi) (hcc : ClosureCurrent w y hi) : ∃ qc s el, SlotFinds w y hi qc s el := by
  obtain ⟨lim, e, ⟨pa, i, hpa, hidx, hge, hpay, _⟩ | ⟨pm, k, hpm, hk, hmem, hpay, _⟩⟩ := hcc
  · have hpok : ArrOk w.T pa ctr := hok _ hpa
    exact ⟨.arr pa, .idx i, e, hpa, hidx, hpok.get_of_getElem? hT hge, hpay⟩
  · have hpok : MapOk w.T (D hi.parent) pm ctr := hok _ hpm
    exact ⟨.map pm, .key k, e, hpm, hk,
      ⟨k, (hpok.get_spec hT (hcfg pm hpm) ((hcl y hi hh).2 pm k hpm hk).1).1 e hmem⟩, hpay⟩

/-- the slot the closure finds holds `y` -/
theorem SlotFinds.holds {D : SlabID → DigestFn 4} {w : World} {ctr : Nat} {y : SlabID} {hi : HInfo} {qc : Cont}
    {s : Slot} {el : Elem} (hf : SlotFinds w y hi qc s el) (hT : legalThreshold w.T = true)
    (F : FiledOk D w ctr hi.parent qc) (hcl : ClosureOk D w) (hh : AList.find? w.hinfo y = some hi) :
    Holds w hi.parent y := by
  obtain ⟨hq, hso, hget, hel⟩ := hf
  have hkok : ∀ k, s = .key k → KeyOk w.T 4 (D hi.parent) k := by
    rintro k rfl
    cases qc with
    | arr a => exact hso.elim
    | map pm => exact ((hcl y hi hh).2 pm k hq hso).1
  obtain ⟨j, hks⟩ := hget.kslot hT F.ok (fun m hm => by subst hm; exact F.cfgOk) hkok
  exact holds_of_kslot hq hks hel

/-- The core `set` of the slot that holds `el`, with a reference `e` that fits the slot: one position `j` of
    the keyed slots is replaced, `el` is handed back, the invariant of the parent is kept. -/
theorem SlotSet.ok {w : World} {Dp : DigestFn 4} {qc qc' : Cont} {s : Slot} {e el : Elem} {old : Option Elem}
    {cx cx' : Ctx} {y : SlabID}
    (hT : legalThreshold w.T = true) (hok : ContOk w.T Dp cx.ctr qc)
    (hcfg : ∀ m, qc = .map m → CfgOk w.mcfg w.T m) (hk : ∀ k, s = .key k → KeyOk w.T 4 Dp k)
    (hroom : qc.isInlined = true → qc.rootSize + qc.entryMax w.T ≤ maxThr w.T)
    (hget : SlotGet w qc s el) (he1 : 1 ≤ e.size) (he2 : e.size ≤ s.lim w.T) (hpe : e.pay = .ref y)
    (hs : SlotSet w qc s e cx old qc' cx') :
    ∃ j : Nat, (qc.kslots w.T)[j]? = some (s.key?, s.lim w.T, el) ∧ old = some el ∧
      qc'.kslots w.T = (qc.kslots w.T).set j (s.key?, s.lim w.T, e) ∧
      ContOk w.T Dp cx'.ctr qc' ∧ qc'.isInlined = qc.isInlined ∧ qc'.vid = qc.vid ∧ cx.ctr ≤ cx'.ctr ∧
      (qc.isInlined = true → qc'.rootSize ≤ qc.rootSize + qc.entryMax w.T) := by
  cases qc <;> cases s <;> cases qc' <;> first | exact hs.elim | skip
  · rename_i a i a'
    obtain ⟨_, o, rfl, hs⟩ := hs
    have hpok : ArrOk w.T a cx.ctr := hok
    have hge : a.toList[i]? = some el := hpok.get_ok hT hget
    obtain ⟨ho, hl, hok', hinl', hrid, _, hctr, hsz⟩ := hpok.set_ok hT (StorOk.of_elemOk ⟨he1, he2⟩) hroom hs
    rw [toStorable_ref _ _ e cx y hpe] at hl hsz
    simp only at hl hsz
    cases ho.symm.trans hge
    refine ⟨i, (Cont.kslots_arr _ _ _ _).mpr ⟨el, hge, rfl⟩, rfl, by simp only [Cont.kslots, hl, List.map_set]; rfl,
      hok', hinl', hrid, hctr, fun hi => ?_⟩
    -- `hsz hi`: new size + size of `el` = old size + size of `e`, and `e` is within the inline limit
    have := (hsz hi).1
    show a'.rootHdr.size ≤ a.rootHdr.size + maxInlineArr w.T
    have he2' : e.size ≤ maxInlineArr w.T := he2
    omega
  · rename_i m k m'
    obtain ⟨k', hget⟩ := hget
    have hmok : MapOk w.T Dp m cx.ctr := hok
    have hmem := (hmok.get_ok hT (hcfg m rfl) (hk k rfl) hget).2
    obtain ⟨j, hj⟩ := List.mem_iff_getElem?.mp hmem
    have hks : ((Cont.map m).kslots w.T)[j]? = some (some k, maxInlineMapValue w.T k.size, el) :=
      (Cont.kslots_map _ _ _ _).mpr ⟨k, el, hj, rfl⟩
    obtain ⟨heff, hok', hinl', hrid, hctr, hsz⟩ :=
      hmok.set_ok hT (hcfg m rfl) (hk k rfl) ⟨he1, Or.inr he2⟩ hroom hs
    rw [storedValue_ref _ _ e cx y hpe] at heff
    -- the effect is an overwrite at position `j`; the old value is the element just read
    obtain ⟨hl, rfl⟩ : m'.toList = m.toList.set j (k, e) ∧ old = some el := by
      rcases heff with ⟨_, hnone, _⟩ | ⟨v0, A, B, hov, hA, hB⟩
      · exact absurd rfl (hnone _ hmem)
      · have hA' : ((Cont.map m).kslots w.T)[A.length]? = some (some k, maxInlineMapValue w.T k.size, v0) :=
          (Cont.kslots_map _ _ _ _).mpr ⟨k, v0, by rw [hA]; exact get_at rfl, rfl⟩
        have := Cont.kslot_key_unique hmok hks hA' rfl rfl
        subst this
        refine ⟨by rw [hB, hA, set_at rfl], ?_⟩
        rw [hov]
        have h1 : m.toList[A.length]? = some (k, v0) := by rw [hA]; exact get_at rfl
        rw [hj] at h1
        cases h1; rfl
    exact ⟨j, hks, rfl, by simp only [Cont.kslots, hl, List.map_set]; rfl, hok', hinl', hrid, hctr, hsz⟩

end World
end Atree

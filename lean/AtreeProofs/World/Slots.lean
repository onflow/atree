import AtreeProofs.World.Sig
/-
  Keyed slots (`Cont.kslots`): per element the key (maps), the per-element limit and the element.
  `slots` and `sig` are projections of it.  `ClosurePos`: the closure of `x` points at position `j`
  of its parent — a fact about signatures, closures and index tables only; `ClosureAt` is
  `ClosurePos` plus the content of that slot.  The keyed slots after `insertIdx` / `set` / `eraseIdx` of
  the element list of an array (`kslots_arr_*`) or of the pair list of a map in zipper form
  (`kslots_map_*`); overwriting a slot by an element with the same payload keeps the signature
  (`sig_of_kslots_set`).
-/
namespace Atree
open Gen

namespace Cont

/-- per element: the key (maps), the per-element limit of the slot, the element -/
def kslots (T : Nat) : Cont → List (Option MKey × Nat × Elem)
  | .arr a => a.toList.map (fun e => (none, maxInlineArr T, e))
  | .map m => m.toList.map (fun p => (some p.1, maxInlineMapValue T p.1.size, p.2))

def isArr : Cont → Bool
  | .arr _ => true
  | .map _ => false

theorem SameData.isArr {c c' : Cont} (h : SameData c c') : c'.isArr = c.isArr := by
  cases c <;> cases c' <;> first | rfl | exact h.elim

theorem slots_eq_kslots (T : Nat) (c : Cont) : c.slots T = (c.kslots T).map (·.2) := by
  cases c <;> simp [slots, kslots, List.map_map, Function.comp_def]

theorem sig_eq_kslots (T : Nat) (c : Cont) :
    c.sig = (c.isArr, (c.kslots T).map (fun t => (t.1, t.2.2.pay))) := by
  cases c <;> simp [sig, kslots, isArr, List.map_map, Function.comp_def]

theorem pays_eq_kslots (T : Nat) (c : Cont) : c.pays = (c.kslots T).map (fun t => t.2.2.pay) := by
  rw [pays_eq_slots T, slots_eq_kslots, List.map_map]; rfl

theorem kslots_arr (T : Nat) (a : Arr) (j : Nat) (t : Option MKey × Nat × Elem) :
    ((Cont.arr a).kslots T)[j]? = some t ↔ ∃ e, a.toList[j]? = some e ∧ t = (none, maxInlineArr T, e) := by
  simp only [kslots, List.getElem?_map]
  cases a.toList[j]? with
  | none => simp
  | some e => simp [eq_comm]

theorem kslots_map (T : Nat) (m : OMap 3) (j : Nat) (t : Option MKey × Nat × Elem) :
    ((Cont.map m).kslots T)[j]? = some t ↔
      ∃ k v, m.toList[j]? = some (k, v) ∧ t = (some k, maxInlineMapValue T k.size, v) := by
  simp only [kslots, List.getElem?_map]
  cases m.toList[j]? with
  | none => simp
  | some p =>
    obtain ⟨k, v⟩ := p
    simp only [Option.map_some, Option.some.injEq, Prod.mk.injEq]
    constructor
    · intro h; exact ⟨k, v, ⟨rfl, rfl⟩, h.symm⟩
    · rintro ⟨k', v', ⟨rfl, rfl⟩, h⟩; exact h.symm

theorem kslot_slot {T : Nat} {c : Cont} {j : Nat} {t : Option MKey × Nat × Elem}
    (h : (c.kslots T)[j]? = some t) : (c.slots T)[j]? = some t.2 := by
  rw [slots_eq_kslots, List.getElem?_map, h]; rfl

theorem slot_kslot {T : Nat} {c : Cont} {j : Nat} {le : Nat × Elem} (h : (c.slots T)[j]? = some le) :
    ∃ ko, (c.kslots T)[j]? = some (ko, le) := by
  rw [slots_eq_kslots, List.getElem?_map] at h
  cases hk : (c.kslots T)[j]? with
  | none => rw [hk] at h; cases h
  | some t =>
    rw [hk] at h
    simp only [Option.map_some, Option.some.injEq] at h
    exact ⟨t.1, by rw [← h]⟩

theorem kslot_pay {T : Nat} {c : Cont} {j : Nat} {t : Option MKey × Nat × Elem}
    (h : (c.kslots T)[j]? = some t) : c.pays[j]? = some t.2.2.pay := by
  rw [pays_eq_kslots T, List.getElem?_map, h]; rfl

theorem pay_kslot {T : Nat} {c : Cont} {j : Nat} {py : Pay} (h : c.pays[j]? = some py) :
    ∃ t, (c.kslots T)[j]? = some t ∧ t.2.2.pay = py := by
  obtain ⟨le, hle, hpay⟩ := pay_slot (T := T) h
  obtain ⟨ko, hk⟩ := slot_kslot hle
  exact ⟨(ko, le), hk, hpay⟩

theorem kslot_sig {T : Nat} {c : Cont} {j : Nat} {t : Option MKey × Nat × Elem}
    (h : (c.kslots T)[j]? = some t) : c.sig.2[j]? = some (t.1, t.2.2.pay) := by
  rw [sig_eq_kslots T]
  simp only [List.getElem?_map, h]; rfl

theorem kslot_arr_key {T : Nat} {c : Cont} {j : Nat} {t : Option MKey × Nat × Elem}
    (h : (c.kslots T)[j]? = some t) (ha : c.isArr = true) : t.1 = none ∧ t.2.1 = maxInlineArr T := by
  cases c with
  | arr a =>
    obtain ⟨e, _, rfl⟩ := (kslots_arr T a j t).mp h
    exact ⟨rfl, rfl⟩
  | map m => cases ha

theorem kslot_map_key {T : Nat} {c : Cont} {j : Nat} {t : Option MKey × Nat × Elem}
    (h : (c.kslots T)[j]? = some t) (ha : c.isArr = false) :
    ∃ k, t.1 = some k ∧ t.2.1 = maxInlineMapValue T k.size := by
  cases c with
  | arr a => cases ha
  | map m =>
    obtain ⟨k, v, _, rfl⟩ := (kslots_map T m j t).mp h
    exact ⟨k, rfl, rfl⟩

theorem isArr_of_sig {c c' : Cont} (h : c'.sig = c.sig) : c'.isArr = c.isArr := by
  cases c <;> cases c' <;> simp_all [sig, isArr]

/-- the keys of a valid map are pairwise different: the position of a key is unique -/
theorem kslot_key_unique {T : Nat} {D : DigestFn 4} {ctr : Nat} {m : OMap 3} (h : MapOk T D m ctr)
    {i j : Nat} {k : MKey} {t t' : Option MKey × Nat × Elem}
    (hi : ((Cont.map m).kslots T)[i]? = some t) (hj : ((Cont.map m).kslots T)[j]? = some t')
    (hti : t.1 = some k) (htj : t'.1 = some k) : i = j := by
  obtain ⟨k1, v1, g1, rfl⟩ := (kslots_map T m i t).mp hi
  obtain ⟨k2, v2, g2, rfl⟩ := (kslots_map T m j t').mp hj
  simp only [Option.some.injEq] at hti htj
  subst hti; subst htj
  have hd := h.distinct
  unfold KeysDistinct at hd
  rcases Nat.lt_trichotomy i j with hlt | heq | hgt
  · have := List.pairwise_iff_getElem.mp hd i j (List.getElem?_eq_some_iff.mp g1).1
      (List.getElem?_eq_some_iff.mp g2).1 hlt
    rw [(List.getElem?_eq_some_iff.mp g1).2, (List.getElem?_eq_some_iff.mp g2).2] at this
    simp [MKey.same_self] at this
  · exact heq
  · have := List.pairwise_iff_getElem.mp hd j i (List.getElem?_eq_some_iff.mp g2).1
      (List.getElem?_eq_some_iff.mp g1).1 hgt
    rw [(List.getElem?_eq_some_iff.mp g1).2, (List.getElem?_eq_some_iff.mp g2).2] at this
    simp [MKey.same_self] at this

/-- the most an overwritten slot can add to an inlined root slab -/
def entryMax (T : Nat) : Cont → Nat
  | .arr _ => maxInlineArr T
  | .map _ => maxEntry T

/-- overwriting one keyed slot by an element with the same payload keeps the signature -/
theorem sig_of_kslots_set {T : Nat} {qc qc' : Cont} {j : Nat} {ko : Option MKey} {lim : Nat} {e el : Elem}
    (harr : qc'.isArr = qc.isArr) (hks : (qc.kslots T)[j]? = some (ko, lim, el))
    (hks' : qc'.kslots T = (qc.kslots T).set j (ko, lim, e)) (hp : e.pay = el.pay) : qc'.sig = qc.sig := by
  rw [sig_eq_kslots T qc', sig_eq_kslots T qc, harr, hks', List.map_set]
  congr 1
  apply set_self_of_get
  rw [List.getElem?_map, hks, hp]; rfl

end Cont

namespace World

/-- the closure `hi` of `x` points at position `j` of the container `hi.parent` -/
def ClosurePos (w : World) (x : SlabID) (hi : HInfo) (j : Nat) : Prop :=
  ∃ pc, w.cont? hi.parent = some pc ∧ pc.pays[j]? = some (Pay.ref x) ∧
    (pc.isArr = true → AList.find? (w.idxOf hi.parent) x = some j) ∧
    (pc.isArr = false → ∃ k, hi.key = some k ∧ ∃ py, pc.sig.2[j]? = some (some k, py))

theorem closureAt_iff (w : World) (x : SlabID) (hi : HInfo) (lim : Nat) (e : Elem) :
    ClosureAt w x hi lim e ↔
      ∃ j pc ko, ClosurePos w x hi j ∧ w.cont? hi.parent = some pc ∧ (pc.kslots w.T)[j]? = some (ko, lim, e) := by
  constructor
  · rintro (⟨pa, i, hpa, hidx, hge, hpay, hlim⟩ | ⟨pm, k, hpm, hk, hmem, hpay, hlim⟩)
    · have hks : ((Cont.arr pa).kslots w.T)[i]? = some (none, lim, e) := by
        rw [Cont.kslots_arr]; exact ⟨e, hge, by rw [hlim]⟩
      refine ⟨i, .arr pa, none, ⟨.arr pa, hpa, ?_, fun _ => hidx, fun h => by cases h⟩, hpa, hks⟩
      rw [Cont.kslot_pay hks, hpay]
    · obtain ⟨j, hj⟩ := List.mem_iff_getElem?.mp hmem
      have hks : ((Cont.map pm).kslots w.T)[j]? = some (some k, lim, e) := by
        rw [Cont.kslots_map]; exact ⟨k, e, hj, by rw [hlim]⟩
      refine ⟨j, .map pm, some k, ⟨.map pm, hpm, ?_, fun h => (by cases h), fun _ => ⟨k, hk, _, Cont.kslot_sig hks⟩⟩, hpm, hks⟩
      rw [Cont.kslot_pay hks, hpay]
  · rintro ⟨j, pc, ko, ⟨pc0, hpc0, hpay, harr, hmap⟩, hpc, hks⟩
    rw [hpc] at hpc0; cases hpc0
    have hp2 := Cont.kslot_pay hks
    rw [hpay] at hp2
    simp only [Option.some.injEq] at hp2
    cases pc with
    | arr pa =>
      obtain ⟨e', he', heq⟩ := (Cont.kslots_arr w.T pa j _).mp hks
      cases heq
      exact Or.inl ⟨pa, j, hpc, harr rfl, he', hp2.symm, rfl⟩
    | map pm =>
      obtain ⟨k', v', hkv, heq⟩ := (Cont.kslots_map w.T pm j _).mp hks
      cases heq
      obtain ⟨k, hk, py, hs⟩ := hmap rfl
      have := Cont.kslot_sig hks
      rw [hs] at this
      simp only [Option.some.injEq, Prod.mk.injEq] at this
      obtain ⟨h1, _⟩ := this
      subst h1
      exact Or.inr ⟨pm, _, hpc, hk, List.mem_of_getElem? hkv, hp2.symm, rfl⟩

/-- `ClosurePos` only depends on signatures, on the closure and on the index lookup -/
theorem ClosurePos.transfer {w w' : World} (h : ContsSig w w') {x : SlabID} {hi : HInfo} {j : Nat}
    (hidx : AList.find? (w'.idxOf hi.parent) x = AList.find? (w.idxOf hi.parent) x)
    (hc : ClosurePos w x hi j) : ClosurePos w' x hi j := by
  obtain ⟨pc, hpc, hpay, harr, hmap⟩ := hc
  obtain ⟨pc', hpc', hs⟩ := h.get hpc
  refine ⟨pc', hpc', by rw [Cont.sig_pays hs]; exact hpay, ?_, ?_⟩
  · intro ha
    rw [hidx]; exact harr (by rw [← Cont.isArr_of_sig hs]; exact ha)
  · intro ha
    rw [hs]; exact hmap (by rw [← Cont.isArr_of_sig hs]; exact ha)

theorem sameData_kslots (T : Nat) {c c' : Cont} (h : Cont.SameData c c') : c'.kslots T = c.kslots T := by
  cases c <;> cases c' <;> simp only [Cont.SameData] at h
  · simp [Cont.kslots, h.1]
  · simp [Cont.kslots, h.1]

theorem kslots_arr_length (T : Nat) (a : Arr) : ((Cont.arr a).kslots T).length = a.toList.length := by
  simp [Cont.kslots]

theorem kslots_arr_insertIdx (T : Nat) {a a' : Arr} {i : Nat} {e : Elem} (h : a'.toList = a.toList.insertIdx i e) :
    (Cont.arr a').kslots T = ((Cont.arr a).kslots T).insertIdx i (none, maxInlineArr T, e) := by
  simp only [Cont.kslots, h, map_insertIdx]

theorem kslots_arr_set (T : Nat) {a a' : Arr} {i : Nat} {e : Elem} (h : a'.toList = a.toList.set i e) :
    (Cont.arr a').kslots T = ((Cont.arr a).kslots T).set i (none, maxInlineArr T, e) := by
  simp only [Cont.kslots, h, List.map_set]

theorem kslots_arr_eraseIdx (T : Nat) {a a' : Arr} {i : Nat} (h : a'.toList = a.toList.eraseIdx i) :
    (Cont.arr a').kslots T = ((Cont.arr a).kslots T).eraseIdx i := by
  simp only [Cont.kslots, h, map_eraseIdx]

theorem kslots_map_mid (T : Nat) {m : OMap 3} {A B : List (MKey × Elem)} {k : MKey} {v0 : Elem}
    (h : m.toList = A ++ (k, v0) :: B) :
    ((Cont.map m).kslots T)[A.length]? = some (some k, maxInlineMapValue T k.size, v0) := by
  rw [Cont.kslots_map]
  exact ⟨k, v0, by rw [h]; exact get_at rfl, rfl⟩

theorem kslots_map_insert (T : Nat) {m m' : OMap 3} {A B : List (MKey × Elem)} {k : MKey} {e : Elem}
    (h : m.toList = A ++ B) (h' : m'.toList = A ++ (k, e) :: B) :
    (Cont.map m').kslots T = ((Cont.map m).kslots T).insertIdx A.length (some k, maxInlineMapValue T k.size, e) := by
  simp only [Cont.kslots, h, h', List.map_append, List.map_cons]
  rw [insert_at (by simp)]

theorem kslots_map_set (T : Nat) {m m' : OMap 3} {A B : List (MKey × Elem)} {k : MKey} {e v0 : Elem}
    (h : m.toList = A ++ (k, v0) :: B) (h' : m'.toList = A ++ (k, e) :: B) :
    (Cont.map m').kslots T = ((Cont.map m).kslots T).set A.length (some k, maxInlineMapValue T k.size, e) := by
  simp only [Cont.kslots, h, h', List.map_append, List.map_cons]
  rw [set_at (by simp)]

theorem kslots_map_erase (T : Nat) {m m' : OMap 3} {A B : List (MKey × Elem)} {k : MKey} {v0 : Elem}
    (h : m.toList = A ++ (k, v0) :: B) (h' : m'.toList = A ++ B) :
    (Cont.map m').kslots T = ((Cont.map m).kslots T).eraseIdx A.length := by
  simp only [Cont.kslots, h, h', List.map_append, List.map_cons]
  rw [erase_at (by simp)]

end World
end Atree

import AtreeProofs.World.Slots
/-
  What the step lemmas share.  `Reindex l l' φ ψ tn jn jd`: `l'` is `l` with one slot inserted, overwritten
  or removed — the interface through which `step_mutate`, `hkeep_mutate` and `SlotChange` speak of the
  positions of a container before and after a core operation, with its three instances `insertIdx`, `set`,
  `eraseIdx`.  Arithmetic of the inline limits (`two_inline_le`, `inline_plus_entry_le`, `root_fits`),
  `slotSize`, `inlinable` across the inline / un-inline transitions.  Uniqueness of the slot that refers to
  a container (`UniqueRef.slot`, `holds_of_kslot`).
-/
namespace Atree
open Gen

/-- `l'` is `l` with one slot inserted, overwritten or removed.  `φ` sends a position of `l'` to the
    position of `l` it comes from (`none`: the new slot, at `jn`, holding `tn`); `ψ` sends a position
    of `l` other than the dropped one `jd` to its place in `l'`.  If there is no new slot (`tn = none`, a
    removal) `jn` is not read; the instances put `0` there. -/
structure Reindex {α : Type} (l l' : List α) (φ : Nat → Option Nat) (ψ : Nat → Nat)
    (tn : Option α) (jn : Nat) (jd : Option Nat) : Prop where
  old : ∀ {i i0}, φ i = some i0 → l'[i]? = l[i0]?
  new : ∀ {i}, φ i = none → i = jn ∧ l'[i]? = tn
  fwd : ∀ {i i0}, φ i = some i0 → ψ i0 = i
  back : ∀ {i0}, jd ≠ some i0 → φ (ψ i0) = some i0
  drop : ∀ {i i0}, jd = some i0 → φ i ≠ some i0
  newAt : ∀ {t}, tn = some t → l'[jn]? = some t

namespace Reindex
variable {α : Type} {l l' : List α} {φ : Nat → Option Nat} {ψ : Nat → Nat} {tn : Option α} {jn : Nat}
  {jd : Option Nat}

theorem inj (R : Reindex l l' φ ψ tn jn jd) {i i' i0 : Nat} (h : φ i = some i0) (h' : φ i' = some i0) : i = i' :=
  (R.fwd h).symm.trans (R.fwd h')

theorem cases (R : Reindex l l' φ ψ tn jn jd) {i : Nat} {t : α} (h : l'[i]? = some t) :
    (∃ i0, φ i = some i0 ∧ l[i0]? = some t) ∨ (φ i = none ∧ i = jn ∧ tn = some t) := by
  cases hφ : φ i with
  | some i0 => exact Or.inl ⟨i0, rfl, (R.old hφ).symm.trans h⟩
  | none => exact Or.inr ⟨rfl, (R.new hφ).1, (R.new hφ).2.symm.trans h⟩

theorem insertIdx (l : List α) {i : Nat} (hi : i ≤ l.length) (t : α) :
    Reindex l (l.insertIdx i t) (fun j => if j < i then some j else if j = i then none else some (j - 1))
      (fun j => if j ≥ i then j + 1 else j) (some t) i none where
  old := by
    intro j j0 hj
    split at hj
    · cases hj; exact List.getElem?_insertIdx_of_lt ‹_›
    · split at hj
      · cases hj
      · cases hj; exact List.getElem?_insertIdx_of_gt (Nat.lt_of_le_of_ne (Nat.le_of_not_lt ‹_›) (Ne.symm ‹_›))
  new := by
    intro j hj
    split at hj
    · cases hj
    · split at hj
      · subst ‹j = i›; exact ⟨rfl, by rw [List.getElem?_insertIdx_self, if_pos hi]⟩
      · cases hj
  fwd := by
    intro j j0 hj
    split at hj
    · cases hj; exact if_neg (Nat.not_le_of_lt ‹_›)
    · split at hj
      · cases hj
      · cases hj
        have hij : i < j := Nat.lt_of_le_of_ne (Nat.le_of_not_lt ‹_›) (Ne.symm ‹_›)
        exact (if_pos (Nat.le_sub_one_of_lt hij)).trans (Nat.sub_add_cancel (Nat.zero_lt_of_lt hij))
  back := by
    intro i0 _
    by_cases h0 : i0 ≥ i
    · rw [if_pos h0, if_neg (Nat.not_lt.mpr (Nat.le_succ_of_le h0)), if_neg (Nat.ne_of_gt (Nat.lt_succ_of_le h0))]
      rfl
    · rw [if_neg h0, if_pos (Nat.lt_of_not_le h0)]
  drop := fun h => nomatch h
  newAt := by rintro _ ⟨⟩; rw [List.getElem?_insertIdx_self, if_pos hi]

theorem set (l : List α) {i : Nat} (hi : i < l.length) (t : α) :
    Reindex l (l.set i t) (fun j => if j = i then none else some j) (fun j => j) (some t) i (some i) where
  old := by
    intro j j0 hj
    split at hj
    · cases hj
    · cases hj; exact List.getElem?_set_ne (Ne.symm ‹_›)
  new := by
    intro j hj
    split at hj
    · subst ‹j = i›; exact ⟨rfl, List.getElem?_set_self hi⟩
    · cases hj
  fwd := by
    intro j j0 hj
    split at hj
    · cases hj
    · cases hj; rfl
  back := fun {i0} h => if_neg fun (e : i0 = i) => h (e ▸ rfl)
  drop := by
    intro j i0 hd hj
    cases hd
    split at hj
    · cases hj
    · cases hj; exact ‹¬ i = i› rfl
  newAt := by rintro _ ⟨⟩; exact List.getElem?_set_self hi

theorem eraseIdx (l : List α) (i : Nat) :
    Reindex l (l.eraseIdx i) (fun j => if j < i then some j else some (j + 1))
      (fun j => if j > i then j - 1 else j) none 0 (some i) where
  old := by
    intro j j0 hj
    split at hj
    · cases hj; exact List.getElem?_eraseIdx_of_lt ‹_›
    · cases hj; exact List.getElem?_eraseIdx_of_ge (Nat.le_of_not_lt ‹_›)
  new := by
    intro j hj
    split at hj <;> cases hj
  fwd := by
    intro j j0 hj
    split at hj
    · cases hj; exact if_neg (Nat.lt_asymm ‹_›)
    · cases hj; exact if_pos (Nat.lt_succ_of_le (Nat.le_of_not_lt ‹_›))
  back := by
    intro i0 h
    by_cases h1 : i0 > i
    · rw [if_pos h1, if_neg (Nat.not_lt.mpr (Nat.le_sub_one_of_lt h1)),
        Nat.sub_add_cancel (Nat.zero_lt_of_lt h1)]
    · rw [if_neg h1, if_pos (Nat.lt_of_le_of_ne (Nat.le_of_not_lt h1) fun e => h (e ▸ rfl))]
  drop := by
    intro j i0 hd hj
    cases hd
    split at hj
    · cases hj; exact Nat.lt_irrefl _ ‹_›
    · cases hj; exact ‹¬ _ < _› (Nat.lt_succ_self _)
  newAt := fun h => nomatch h

end Reindex

/-- two elements within the inline limit stay within the slab threshold, which is below the maximal slab size -/
theorem two_inline_le (T : Nat) (hT : legalThreshold T = true) : 2 * maxInlineArr T ≤ T ∧ T ≤ maxThr T := by
  have F := thrFacts hT
  rw [F.inlE, F.maxE]
  have := F.lo
  omega

theorem inline_plus_entry_le (T : Nat) (hT : legalThreshold T = true) :
    maxInlineArr T + maxEntry T ≤ T := by
  have F := thrFacts hT
  have := F.lo
  rw [F.inlE]
  simp only [maxEntry, maxInlineMapElem, mapDataSlabPrefixSize, hkeyElementsPrefixSize,
    minElementCountInSlab, digestSize]
  omega

/-- a root slab within the inline limit stays within the threshold when it grows by one array element
    or one map entry -/
theorem root_fits {T r r' s : Nat} (hT : legalThreshold T = true) (hr : r ≤ maxInlineArr T)
    (hs : s ≤ maxInlineArr T ∨ s ≤ maxEntry T) (h : r' ≤ r + s) : r' ≤ T := by
  have h1 := (two_inline_le T hT).1
  have h2 := inline_plus_entry_le T hT
  omega

/-- a root slab within the inline limit has room for one more array element below the maximal slab size -/
theorem room_arr {T n : Nat} (hT : legalThreshold T = true) (hn : n ≤ maxInlineArr T) :
    n + maxInlineArr T ≤ maxThr T := by
  have := two_inline_le T hT
  omega

/-- … and for one more map entry -/
theorem room_entry {T n : Nat} (hT : legalThreshold T = true) (hn : n ≤ maxInlineArr T) :
    n + maxEntry T ≤ maxThr T := by
  have := inline_plus_entry_le T hT
  have := two_inline_le T hT
  omega

namespace World

theorem slotSize_inj {c : Cont} {w1 w2 : Nat} (h : slotSize c w1 = slotSize c w2) : w1 = w2 := by
  simp only [slotSize] at h; omega

theorem slotSize_standalone {c : Cont} (h : c.isInlined = false) (wrap : Nat) :
    slotSize c wrap = slabIDStorableSize + 2 * wrap := by
  simp [slotSize, h]

theorem slotSize_inl {c : Cont} (h : c.isInlined = true) (wrap : Nat) :
    slotSize c wrap = c.rootSize + 2 * wrap := by
  simp [slotSize, h]

end World

namespace Cont

/-- an inlined root slab has at least its prefix: 17 bytes for an array, 14 for a map -/
theorem rootSize_pos_of_inl {T : Nat} {D : DigestFn 4} {ctr : Nat} {c : Cont} (h : ContOk T D ctr c)
    (hi : c.isInlined = true) : 14 ≤ c.rootSize := by
  cases c with
  | arr a =>
    obtain ⟨s, ty, rfl, S⟩ := ((h : ArrOk T a ctr).2 hi).slab
    show 14 ≤ (DataSlab.hdr s).size
    rw [S.size_eq]; simp only [inlinedArrayDataSlabPrefixSize]; omega
  | map m =>
    obtain ⟨s, ty, cnt, seed, rfl, _, _, _, _, h5, _⟩ := (h : MapOk T D m ctr).2 hi
    show 14 ≤ s.hdr.size
    rw [h5]; simp only [inlinedMapDataSlabPrefixSize]; omega

/-- after `Inline`, the inlined size is the one `Inlinable` tested -/
theorem inline_inlinable {c c' : Cont} {id : SlabID} {cx cx' : Ctx} (h : c.inline id cx = .ok (c', cx'))
    (lim : Nat) : c'.inlinable lim = c.inlinable lim ∧ (c.inlinable lim = true → c'.rootSize ≤ lim) := by
  unfold Cont.inline at h
  split at h
  · rename_i s ty
    split at h
    · cases h
    · rename_i hs
      cases h
      have hs' : s.inlined = false := by simpa using hs
      simp only [inlinable, rootSize, Arr.rootHdr, ATree.hdr, hs', Bool.false_eq_true, if_false, if_true]
      refine ⟨trivial, ?_⟩
      intro hh
      simp only [Bool.and_eq_true, decide_eq_true_eq] at hh
      exact hh.2
  · rename_i s ty cnt seed
    split at h
    · cases h
    · cases h
      simp only [inlinable, rootSize, OMap.rootHdr, MTree.hdr]
      refine ⟨trivial, ?_⟩
      intro hh
      simp only [Bool.and_eq_true, decide_eq_true_eq] at hh
      exact hh.2
  · cases h

/-- `Uninline` does not change what `Inlinable` answers (for a valid inlined root) -/
theorem uninline_inlinable {T : Nat} {D : DigestFn 4} {ctr : Nat} {c c' : Cont} {id : SlabID} {cx cx' : Ctx}
    (hok : ContOk T D ctr c) (h : c.uninline id cx = .ok (c', cx')) (lim : Nat) :
    c'.inlinable lim = c.inlinable lim := by
  unfold Cont.uninline at h
  split at h
  · rename_i s ty
    split at h
    · cases h
    · rename_i hs
      cases h
      have hs' : s.inlined = true := by simpa using hs
      have hi : (⟨0, s, ty⟩ : Arr).isInlined = true := hs'
      obtain ⟨s0, ty0, heq, _, _, _, _, h5, _⟩ := (hok : ArrOk T _ ctr).2 hi
      cases heq
      simp only [inlinable, hs', if_true, Bool.false_eq_true, if_false]
      have : s.hdr.size - inlinedArrayDataSlabPrefixSize + arrayRootDataSlabPrefixSize
          - arrayRootDataSlabPrefixSize + inlinedArrayDataSlabPrefixSize = s.hdr.size := by
        rw [h5]; omega
      rw [this]
  · rename_i s ty cnt seed
    split at h
    · cases h
    · cases h
      simp only [inlinable]
  · cases h

end Cont

namespace World

theorem UniqueRef.slot {w : World} (hu : UniqueRef w) {p p' : SlabID} {pc pc' : Cont} {i j : Nat} {x : SlabID}
    {t t' : Option MKey × Nat × Elem} (hp : w.cont? p = some pc) (hp' : w.cont? p' = some pc')
    (hi : (pc.kslots w.T)[i]? = some t) (hj : (pc'.kslots w.T)[j]? = some t')
    (ht : t.2.2.pay = .ref x) (ht' : t'.2.2.pay = .ref x) (hx : (w.cont? x).isSome) : p = p' ∧ i = j :=
  hu p p' pc pc' i j x hp hp' (by rw [Cont.kslot_pay hi, ht]) (by rw [Cont.kslot_pay hj, ht']) hx

theorem holds_of_kslot {w : World} {p : SlabID} {pc : Cont} {j : Nat} {x : SlabID}
    {t : Option MKey × Nat × Elem} (hp : w.cont? p = some pc) (hj : (pc.kslots w.T)[j]? = some t)
    (ht : t.2.2.pay = .ref x) : Holds w p x :=
  ⟨pc, hp, by
    have := Cont.kslot_pay hj
    rw [ht] at this
    exact List.mem_of_getElem? this⟩

theorem holds_of_slot {w : World} {p : SlabID} {pc : Cont} {x : SlabID} {le : Nat × Elem}
    (hp : w.cont? p = some pc) (hle : le ∈ pc.slots w.T) (ht : le.2.pay = .ref x) : Holds w p x := by
  obtain ⟨j, hj⟩ := List.mem_iff_getElem?.mp hle
  obtain ⟨ko, hk⟩ := Cont.slot_kslot hj
  exact holds_of_kslot hp hk ht

end World
end Atree

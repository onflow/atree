import AtreeProofs.World.StepBasics
import AtreeProofs.World.Chain
/-
  The other elementary steps: the out-of-date container turns out to be in sync (`unstale`),
  a closure is dropped (`hinfo_sub`), a container that nobody refers to changes form (`step_childform`),
  a closure is (re)installed at a slot (`WorldOkGen.install`), another rank function (`with_rank`),
  pending containers are settled (`shrink`).
-/
namespace Atree
open Gen

namespace World

variable {D : SlabID → DigestFn 4} {rank : SlabID → Nat} {O : SlabID → Prop}

/-- every slot that refers to `y` is in sync: `y` is not out of date any more -/
theorem WorldOkGen.unstale {w : World} {ctr : Nat} {y : SlabID} (H : WorldOkGen D rank (some y) O w ctr)
    (hfix : ∀ p pc, w.cont? p = some pc → ∀ le ∈ pc.slots w.T, ∀ c, le.2.pay = .ref y → w.cont? y = some c →
      ∀ wrap, slabIDStorableSize + 2 * wrap ≤ le.1 → (c.isInlined = false → le.2.size = slotSize c wrap) →
        (∀ hi, ¬ O y → AList.find? w.hinfo y = some hi → ClosureAt w y hi le.1 le.2 → hi.wrap = wrap) →
        le.2.size = slotSize c wrap ∧ c.isInlined = c.inlinable (le.1 - 2 * wrap)) :
    WorldOkGen D rank none O w ctr := by
  refine ⟨H.legal, H.ids, H.addr, H.conts, ?_, H.band, H.unique, H.inlRef, H.mutIdx, H.closure, H.rank, H.below, H.idxLive, H.hinfoLive⟩
  intro p pc hp le hle x c hx hc
  obtain ⟨wr, h1, h2, h3, h4⟩ := H.slots p pc hp le hle x c hx hc
  refine ⟨wr, h1, fun _ => ?_, fun he => (by cases he), h4⟩
  by_cases hxy : x = y
  · subst hxy
    exact hfix p pc hp le hle c hx hc wr h1 (h3 rfl) h4
  · exact h2 (by intro he; cases he; exact hxy rfl)

/-- a world in sync is in particular in sync up to one container -/
theorem WorldOkGen.restale {w : World} {ctr : Nat} (H : WorldOkGen D rank none O w ctr) (y : SlabID) :
    WorldOkGen D rank (some y) O w ctr := by
  refine ⟨H.legal, H.ids, H.addr, H.conts, ?_, H.band, H.unique, H.inlRef, H.mutIdx, H.closure, H.rank, H.below, H.idxLive, H.hinfoLive⟩
  intro p pc hp le hle x c hx hc
  obtain ⟨wr, h1, h2, _, h4⟩ := H.slots p pc hp le hle x c hx hc
  have := h2 (by intro he; cases he)
  exact ⟨wr, h1, fun _ => this, fun _ _ => this.1, h4⟩

/-- nobody refers to `y`: it cannot be out of date -/
theorem WorldOkGen.unstale_root {w : World} {ctr : Nat} {y : SlabID} (H : WorldOkGen D rank (some y) O w ctr)
    (hroot : ∀ p, ¬ Holds w p y) : WorldOkGen D rank none O w ctr := by
  refine H.unstale ?_
  intro p pc hp le hle c hx _
  exact absurd (holds_of_slot hp hle hx) (hroot p)

theorem closureAt_congr {w w' : World} (hT : w'.T = w.T) (hc : ∀ z, w'.cont? z = w.cont? z)
    {x : SlabID} {hi : HInfo} (hidx : AList.find? (w'.idxOf hi.parent) x = AList.find? (w.idxOf hi.parent) x)
    (lim : Nat) (e : Elem) : ClosureAt w' x hi lim e ↔ ClosureAt w x hi lim e := by
  unfold ClosureAt
  rw [hc, hidx, hT]

theorem WorldOkGen.hinfo_sub {w w' : World} {ctr : Nat} {stale : Option SlabID}
    (H : WorldOkGen D rank stale O w ctr) (hT : w'.T = w.T) (ha : w'.addr = w.addr)
    (hc : ∀ z, w'.cont? z = w.cont? z) (hm : w'.mutIdx = w.mutIdx)
    (hh : ∀ x hi, AList.find? w'.hinfo x = some hi → AList.find? w.hinfo x = some hi) :
    WorldOkGen D rank stale O w' ctr := by
  have hS : ContsSig w w' := ⟨hT, fun q => by rw [hc]⟩
  have hidx : ∀ q, w'.idxOf q = w.idxOf q := idxOf_congr hm
  refine H.of_sig hS (Nat.le_refl _) hh (fun p x i hi => by rw [hidx] at hi; exact hi)
    (fun z c hz => (H.filed ((hc z).symm.trans hz)).congr hT ha (Nat.le_refl _)) ?_
    (fun z cz hz hi hO => hS.inlRef_of H.inlRef ((hc z).symm.trans hz) hi hO)
    (hS.mutIdxOkX H.mutIdx (fun q x => by rw [hidx]))
  intro p pc hp le hle x c hx hcx
  rw [hc] at hp hcx
  rw [hT] at hle
  obtain ⟨wr, h1, h2, h3, h4⟩ := H.slots p pc hp le hle x c hx hcx
  refine ⟨wr, h1, h2, h3, ?_⟩
  intro hi hO hhi hca
  exact h4 hi hO (hh x hi hhi) ((closureAt_congr hT hc (by rw [hidx]) _ _).mp hca)

/-- `ClosureAt` does not see the form of the containers -/
theorem closureAt_sameData {w w1 : World} {v : SlabID} {c c1 : Cont} (hv : w.cont? v = some c)
    (hsd : Cont.SameData c c1) (hT : w1.T = w.T) (hm : w1.mutIdx = w.mutIdx)
    (hc1 : w1.cont? v = some c1) (hco : ∀ z, z ≠ v → w1.cont? z = w.cont? z)
    (x : SlabID) (hi : HInfo) (lim : Nat) (e : Elem) : ClosureAt w1 x hi lim e ↔ ClosureAt w x hi lim e := by
  have hidx : ∀ q, w1.idxOf q = w.idxOf q := idxOf_congr hm
  by_cases hpv : hi.parent = v
  · unfold ClosureAt
    rw [hpv, hc1, hv, hidx, hT]
    cases c <;> cases c1 <;> simp only [Cont.SameData] at hsd
    · simp only [Option.some.injEq, Cont.arr.injEq, exists_and_left, exists_eq_left', hsd.1, reduceCtorEq,
        false_and, exists_const, exists_false, or_false]
    · simp only [Option.some.injEq, reduceCtorEq, false_and, exists_const, exists_false, Cont.map.injEq,
        exists_and_left, exists_eq_left', hsd.1, false_or]
  · unfold ClosureAt
    rw [hco _ hpv, hidx, hT]

/-- a container that nobody refers to changes form: it joins the pending set -/
theorem step_childform {w w1 : World} {ctr : Nat} {v : SlabID} {c c1 : Cont}
    (H : WorldOkGen D rank none O w ctr) (hv : w.cont? v = some c) (hroot : ∀ q, ¬ Holds w q v)
    (hsd : Cont.SameData c c1) (hok : ContOk w.T (D v) ctr c1) (hband : c1.isInlined = true → c1.rootSize ≤ w.T)
    (hT : w1.T = w.T) (ha : w1.addr = w.addr) (hh : w1.hinfo = w.hinfo) (hm : w1.mutIdx = w.mutIdx)
    (hc1 : w1.cont? v = some c1) (hco : ∀ z, z ≠ v → w1.cont? z = w.cont? z) :
    WorldOkGen D rank none (fun x => O x ∨ x = v) w1 ctr := by
  have hS : ContsSig w w1 := .of_one hT hv hc1 hsd.sig_eq hco
  have hidx : ∀ q, w1.idxOf q = w.idxOf q := idxOf_congr hm
  refine H.of_sig hS (Nat.le_refl _) (fun x hi hx => by rw [← hh]; exact hx)
    (fun q x i hi => by rw [hidx] at hi; exact hi) (fun z cz hz => ?_) ?_ ?_
    (hS.mutIdxOkX (fun p a hp x i hi hO => H.mutIdx p a hp x i hi (fun h => hO (Or.inl h))) (fun q x => by rw [hidx]))
  · by_cases hzv : z = v
    · subst hzv; rw [hc1] at hz; cases hz
      exact (H.filed hv).replace hT ha hsd.vid hok hband
    · exact (H.filed ((hco z hzv).symm.trans hz)).congr hT ha (Nat.le_refl _)
  · -- slots: nobody refers to `v`
    intro q qc hq le hle x cx hx hcx
    rw [hT] at hle
    have hq' : ∃ qc0, w.cont? q = some qc0 ∧ le ∈ qc0.slots w.T := by
      by_cases hqv : q = v
      · subst hqv; rw [hc1] at hq; cases hq
        exact ⟨c, hv, by rw [← hsd.slots_eq]; exact hle⟩
      · rw [hco q hqv] at hq; exact ⟨qc, hq, hle⟩
    obtain ⟨qc0, hq0, hle0⟩ := hq'
    have hxv : x ≠ v := by
      intro he; subst he
      exact hroot q (holds_of_slot hq0 hle0 hx)
    rw [hco x hxv] at hcx
    obtain ⟨wr, h1, h2, h3, h4⟩ := H.slots q qc0 hq0 le hle0 x cx hx hcx
    refine ⟨wr, h1, h2, h3, ?_⟩
    intro hi hO hhi hca
    rw [hh] at hhi
    exact h4 hi (fun h => hO (Or.inl h)) hhi ((closureAt_sameData hv hsd hT hm hc1 hco _ _ _ _).mp hca)
  · intro z cz hz hi hO
    exact hS.inlRef_of H.inlRef ((hco z fun h => hO (Or.inr h)).symm.trans hz) hi (fun h => hO (Or.inl h))

theorem Slot.eq_key {s : Slot} {k : MKey} (h : s.key? = some k) : s = .key k := by
  cases s with
  | idx i => cases h
  | key k' => cases h; rfl

theorem Slot.eq_idx {s : Slot} (h : s.key? = none) : ∃ i, s = .idx i := by
  cases s with
  | idx i => exact ⟨i, rfl⟩
  | key k => cases h

/-- a closure that names the parent `p` and the key of the slot `s` (position `j` of `p`, recorded in
    the index table if `p` is an array) points at that slot: the one place where array and map
    parents differ (the index table; the position of a key is unique) -/
theorem ClosureAt.at_slot {w : World} {ctr : Nat} {p y : SlabID} {pc : Cont} {s : Slot} {j : Nat} {e e' : Elem}
    {hn : HInfo} {lim : Nat} (hok : ContOk w.T (D p) ctr pc) (hp : w.cont? p = some pc)
    (hks : (pc.kslots w.T)[j]? = some (s.key?, s.lim w.T, e)) (hpar : hn.parent = p) (hkey : hn.key = s.key?)
    (hidx : ∀ i, s = .idx i → AList.find? (w.idxOf p) y = some j) (hca : ClosureAt w y hn lim e') :
    lim = s.lim w.T ∧ e' = e := by
  rcases hca with ⟨pa, i, hpa, hi, hge, _, hlim⟩ | ⟨pm, k, hpm, hk, hmem, _, hlim⟩
  · rw [hpar, hp] at hpa; cases hpa
    obtain ⟨e0, he0, h⟩ := (Cont.kslots_arr _ pa j _).mp hks
    obtain ⟨i0, rfl⟩ := Slot.eq_idx (congrArg Prod.fst h)
    rw [hpar, hidx i0 rfl] at hi; cases hi
    rw [hge] at he0; cases he0
    exact ⟨hlim, (congrArg (fun t => t.2.2) h).symm⟩
  · rw [hpar, hp] at hpm; cases hpm
    obtain ⟨k0, v0, hkv, h⟩ := (Cont.kslots_map _ pm j _).mp hks
    have h1 : s.key? = some k0 := congrArg Prod.fst h
    have hk0 : some k = some k0 := hk.symm.trans (hkey.trans h1)
    cases hk0
    obtain ⟨i1, hi1⟩ := List.mem_iff_getElem?.mp hmem
    have hk1 : ((Cont.map pm).kslots w.T)[i1]? = some (some k, maxInlineMapValue w.T k.size, e') := by
      rw [Cont.kslots_map]; exact ⟨k, e', hi1, rfl⟩
    have := Cont.kslot_key_unique hok hk1 hks rfl h1
    subst this
    rw [hk1] at hks
    exact ⟨by rw [hlim]; exact (congrArg (fun t => t.2.1) h).symm,
      congrArg (fun t => t.2.2) (Option.some.inj hks)⟩

/-- the invariant after the closure of `y` has been installed, `y` sitting in slot `s` (position `j`) of `p` -/
theorem WorldOkGen.install {w : World} {ctr : Nat} (H : WorldOkGen D rank none O w ctr)
    {p y : SlabID} {pc c : Cont} {s : Slot} {j : Nat} {e : Elem} {wr : Nat}
    (hp : w.cont? p = some pc) (hks : (pc.kslots w.T)[j]? = some (s.key?, s.lim w.T, e))
    (hj : ∀ i, s = .idx i → j = i) (hpay : e.pay = .ref y) (hy : w.cont? y = some c)
    (hsz : ¬ O y → e.size = slotSize c wr) (hwb : slabIDStorableSize + 2 * wr ≤ s.lim w.T)
    (hkok : ∀ k, s = .key k → KeyOk w.T 4 (D p) k) :
    WorldOkGen D rank none O (w.install p s (.child y wr)) ctr := by
  have hT := T_install w p s (.child y wr)
  have hc := cont?_install w p s (.child y wr)
  have hh := hinfo_install w p s y wr
  have hS : ContsSig w (w.install p s (.child y wr)) := ⟨hT, fun q => by rw [hc]⟩
  have hysome : (w.cont? y).isSome := by rw [hy]; rfl
  have hokp : ContOk w.T (D p) ctr pc := H.conts p pc hp
  have hidxn : ∀ q z, ¬ (p = q ∧ y = z) →
      AList.find? ((w.install p s (.child y wr)).idxOf q) z = AList.find? (w.idxOf q) z := by
    intro q z hn
    rw [idxOf_install]
    cases s with
    | idx i => exact if_neg hn
    | key k => rfl
  have hidxy : ∀ i, s = .idx i → AList.find? ((w.install p s (.child y wr)).idxOf p) y = some j := by
    rintro i rfl
    rw [idxOf_install, hj i rfl]; exact if_pos ⟨rfl, rfl⟩
  -- a new index entry is `(p, y) ↦ j`, and then `p` is an array
  have hidxnew : ∀ q z i, AList.find? ((w.install p s (.child y wr)).idxOf q) z = some i →
      AList.find? (w.idxOf q) z = some i ∨ (p = q ∧ y = z ∧ i = j ∧ pc.isArr = true) := by
    intro q z i hi
    by_cases hn : p = q ∧ y = z
    · obtain ⟨rfl, rfl⟩ := hn
      cases hs : s with
      | idx i0 =>
        rw [hidxy i0 hs] at hi; cases hi
        refine Or.inr ⟨rfl, rfl, rfl, ?_⟩
        cases hpc : pc.isArr with
        | true => rfl
        | false =>
          obtain ⟨k, h1, _⟩ := Cont.kslot_map_key hks hpc
          rw [hs] at h1; cases h1
      | key k => subst hs; rw [idxOf_install] at hi; exact Or.inl hi
    · rw [hidxn q z hn] at hi; exact Or.inl hi
  refine .of_filed (by rw [hT]; exact H.legal)
    (fun z cz hz => (H.filed ((hc z).symm.trans hz)).congr hT (addr_install _ _ _ _) (Nat.le_refl _)) ?_
    (hS.uniqueRef H.unique) (fun z cz hz hi hO => hS.inlRef_of H.inlRef ((hc z).symm.trans hz) hi hO) ?_ ?_
    (hS.cRank H.rank) (hS.refsBelow H.below (Nat.le_refl _)) ?_ ?_
  · -- slots
    intro q qc hq le hle x cx hx hcx
    rw [hc] at hq hcx
    rw [hT] at hle
    obtain ⟨wr', h1, h2, h3, h4⟩ := H.slots q qc hq le hle x cx hx hcx
    refine ⟨wr', h1, h2, h3, ?_⟩
    intro hi hO hhi hca
    rw [hh] at hhi
    by_cases hyx : y = x
    · subst hyx
      rw [if_pos rfl] at hhi
      cases hhi
      obtain ⟨hlim, hee⟩ := ClosureAt.at_slot (D := D) (ctr := ctr) (by rw [hT]; exact hokp) (by rw [hc]; exact hp)
        (by rw [hT]; exact hks) rfl rfl hidxy hca
      rw [hcx] at hy; cases hy
      have := (h2 (by intro h; cases h)).1
      rw [hee, hsz hO] at this
      exact slotSize_inj this
    · rw [if_neg hyx] at hhi
      exact h4 hi hO hhi ((closureAt_congr hT hc (hidxn _ _ fun h => hyx h.2) _ _).mp hca)
  · -- mutIdx
    intro q a hq x i hi hO
    rw [hc] at hq
    rcases hidxnew q x i hi with hi | ⟨rfl, rfl, rfl, _⟩
    · exact H.mutIdx q a hq x i hi hO
    · rw [hp] at hq; cases hq
      rw [Cont.kslot_pay hks, hpay]
  · -- closure
    intro x hi hx
    rw [hh] at hx
    split at hx
    · cases hx
      refine ⟨fun pa2 hpa2 => ?_, fun pm2 k2 hpm2 hk2 => ?_⟩
      · rw [hc, hp] at hpa2; cases hpa2
        rw [hT, ← (Cont.kslot_arr_key hks rfl).2]; exact ⟨rfl, hwb⟩
      · rw [hc, hp] at hpm2; cases hpm2
        cases Slot.eq_key hk2
        rw [hT]; exact ⟨hkok k2 rfl, rfl, hwb⟩
    · obtain ⟨c1, c2⟩ := H.closure x hi hx
      refine ⟨fun pa2 hpa2 => ?_, fun pm2 k2 hpm2 hk2 => ?_⟩
      · rw [hc] at hpa2; rw [hT]; exact c1 pa2 hpa2
      · rw [hc] at hpm2; rw [hT]; exact c2 pm2 k2 hpm2 hk2
  · -- idxLive
    intro q x i hi
    rw [hc, hc]
    rcases hidxnew q x i hi with hi | ⟨rfl, rfl, _, harr⟩
    · exact H.idxLive q x i hi
    · refine ⟨hysome, ?_⟩
      cases pc with
      | arr a => exact ⟨a, hp⟩
      | map m => cases harr
  · -- hinfoLive
    intro x hi hx
    rw [hh] at hx
    rw [hc]
    split at hx
    · cases hx; rw [hp]; rfl
    · exact H.hinfoLive x hi hx

/-- the invariant reads the pending set through its extension only -/
theorem WorldOkGen.congr_O {w : World} {ctr : Nat} {stale : Option SlabID} {O' : SlabID → Prop}
    (H : WorldOkGen D rank stale O w ctr) (h : ∀ z, O z ↔ O' z) : WorldOkGen D rank stale O' w ctr := by
  have : O = O' := funext (fun z => propext (h z))
  rw [← this]; exact H

theorem WorldOkGen.with_rank {w : World} {ctr : Nat} {stale : Option SlabID}
    (H : WorldOkGen D rank stale O w ctr) {rank' : SlabID → Nat} (hr : CRank rank' w) :
    WorldOkGen D rank' stale O w ctr :=
  ⟨H.legal, H.ids, H.addr, H.conts, H.slots, H.band, H.unique, H.inlRef, H.mutIdx, H.closure, hr, H.below,
    H.idxLive, H.hinfoLive⟩

/-- settling the pending containers: those that leave `O` satisfy what `O` exempted them from -/
theorem WorldOkGen.shrink {w : World} {ctr : Nat} {O' : SlabID → Prop} (H : WorldOkGen D rank none O w ctr)
    (hinl : ∀ x c, O x → ¬ O' x → w.cont? x = some c → c.isInlined = true → ∃ p, Holds w p x)
    (hidx : ∀ x, O x → ¬ O' x → ∀ p a (i : Nat), w.cont? p = some (.arr a) →
      AList.find? (w.idxOf p) x = some i → (Cont.arr a).pays[i]? = some (Pay.ref x))
    (hfaith : ∀ x c, O x → ¬ O' x → w.cont? x = some c → ∀ hi lim e, AList.find? w.hinfo x = some hi →
      ClosureAt w x hi lim e → e.size = slotSize c hi.wrap) :
    WorldOkGen D rank none O' w ctr := by
  refine ⟨H.legal, H.ids, H.addr, H.conts, ?_, H.band, H.unique, ?_, ?_, H.closure, H.rank, H.below, H.idxLive, H.hinfoLive⟩
  · intro p pc hp le hle x c hx hc
    obtain ⟨wr, h1, h2, h3, h4⟩ := H.slots p pc hp le hle x c hx hc
    refine ⟨wr, h1, h2, h3, ?_⟩
    intro hi hO' hhi hca
    by_cases hO : O x
    · have := hfaith x c hO hO' hc hi _ _ hhi hca
      rw [(h2 (by intro h; cases h)).1] at this
      exact (slotSize_inj this).symm
    · exact h4 hi hO hhi hca
  · intro x c hx hi hO'
    by_cases hO : O x
    · exact hinl x c hO hO' hx hi
    · exact H.inlRef x c hx hi hO
  · intro p a hp x i hi hO'
    by_cases hO : O x
    · exact hidx x hO hO' p a i hp hi
    · exact H.mutIdx p a hp x i hi hO

end World
end Atree

import AtreeProofs.World.StepBasics
/-
  `step_mutate`, the step of a public mutation: the content of the container `p` changes (one slot inserted,
  overwritten or removed).  Positions of the new content are related to the old ones by a partial
  injective map `φ` (new position ↦ old position; `none` = the new slot `jn`).  Afterwards the
  invariant holds with `p` as the container whose parent slot is out of date, the inserted child
  and the removed children being pending (`O2`).
-/
namespace Atree
open Gen

namespace World

variable {D : SlabID → DigestFn 4} {rank : SlabID → Nat}

theorem step_mutate {w w2 : World} {ctr ctr2 : Nat} {p : SlabID} {pc pc' : Cont} {O O2 : SlabID → Prop}
    (H : WorldOkGen D rank none O w ctr) (hp : w.cont? p = some pc) (hOsub : ∀ x, O x → O2 x)
    -- the new container
    (hokp : ContOk w.T (D p) ctr2 pc') (harr : pc'.isArr = pc.isArr) (hinlp : pc'.isInlined = pc.isInlined)
    (hvid : pc'.vid = pc.vid) (hbp : pc'.isInlined = true → pc'.rootSize ≤ w.T) (hctr : ctr ≤ ctr2)
    -- its slots; the index table of `p` follows the positions (`hidx`)
    {φ : Nat → Option Nat} {ψ : Nat → Nat} {tn : Option (Option MKey × Nat × Elem)} {jn : Nat} {jd : Option Nat}
    (R : Reindex (pc.kslots w.T) (pc'.kslots w.T) φ ψ tn jn jd)
    -- the new slot: a plain value, or a pending child that nobody refers to
    (hnew : ∀ t, tn = some t → ∀ x c, t.2.2.pay = .ref x → w.cont? x = some c →
      (∀ q, ¬ Holds w q x) ∧ O2 x ∧ rank p < rank x ∧
      ∃ wrap, slabIDStorableSize + 2 * wrap ≤ t.2.1 ∧ t.2.2.size = slotSize c wrap ∧
        c.isInlined = c.inlinable (t.2.1 - 2 * wrap))
    (hnewb : ∀ t, tn = some t → ∀ r, t.2.2.pay = .ref r → r.idx ≤ ctr2)
    -- the removed slot: its child is pending
    (hrem : ∀ i0 t, jd = some i0 → (pc.kslots w.T)[i0]? = some t → ∀ x, t.2.2.pay = .ref x → O2 x)
    -- the new world
    (hT : w2.T = w.T) (ha : w2.addr = w.addr) (hh : w2.hinfo = w.hinfo)
    (hidx : ∀ q x, AList.find? (w2.idxOf q) x =
      if p = q then (AList.find? (w.idxOf p) x).map ψ else AList.find? (w.idxOf q) x)
    (hcp : w2.cont? p = some pc') (hco : ∀ z, z ≠ p → w2.cont? z = w.cont? z) :
    WorldOkGen D rank (some p) O2 w2 ctr2 := by
  have hsome : ∀ z, (w2.cont? z).isSome = (w.cont? z).isSome := by
    intro z
    by_cases hz : z = p
    · subst hz; rw [hcp, hp]; rfl
    · rw [hco z hz]
  -- the position of a child that is not pending is not the dropped one
  have hψ : ∀ i0 x, pc.isArr = true → AList.find? (w.idxOf p) x = some i0 → ¬ O2 x → φ (ψ i0) = some i0 := by
    intro i0 x hpa hx hO2
    refine R.back fun hd => hO2 ?_
    cases pc with
    | map m => cases hpa
    | arr pa =>
      obtain ⟨t, ht, htp⟩ := Cont.pay_kslot (T := w.T) (H.mutIdx p pa hp x i0 hx (fun h => hO2 (hOsub _ h)))
      exact hrem i0 t hd ht x htp
  -- `Holds` in the new world
  have hholds : ∀ q x, Holds w2 q x → (w.cont? x).isSome →
      Holds w q x ∨ (q = p ∧ (∀ q', ¬ Holds w q' x) ∧ O2 x ∧ rank p < rank x) := by
    intro q x hq hx
    by_cases hqp : q = p
    · subst hqp
      obtain ⟨qc, hqc, hm⟩ := hq
      rw [hcp] at hqc; cases hqc
      obtain ⟨i, hi⟩ := List.mem_iff_getElem?.mp hm
      obtain ⟨le, hle, hpay⟩ := Cont.pay_slot (T := w.T) hi
      obtain ⟨ko, hk⟩ := Cont.slot_kslot hle
      rcases R.cases hk with ⟨i0, _, h0⟩ | ⟨_, _, htn⟩
      · exact Or.inl (holds_of_kslot hp h0 hpay)
      · obtain ⟨c, hc⟩ := Option.isSome_iff_exists.mp hx
        obtain ⟨h1, h2, h3, _⟩ := hnew _ htn x c hpay hc
        exact Or.inr ⟨rfl, h1, h2, h3⟩
    · obtain ⟨qc, hqc, hm⟩ := hq
      rw [hco q hqp] at hqc
      exact Or.inl ⟨qc, hqc, hm⟩
  have hholds' : ∀ q x, q ≠ p → Holds w q x → Holds w2 q x := by
    intro q x hqp ⟨qc, hqc, hm⟩
    exact ⟨qc, by rw [hco q hqp]; exact hqc, hm⟩
  -- `ClosureAt` of a live container that is not pending did not change
  have hCAback : ∀ x hi lim0 e0, ¬ O2 x → (w.cont? x).isSome → ClosureAt w2 x hi lim0 e0 →
      ClosureAt w x hi lim0 e0 := by
    intro x hi lim0 e0 hxO hxs hca
    by_cases hpp : hi.parent = p
    · -- in keyed slots: the position `j` in `pc'` comes from a position `i0` of `pc` with the same slot
      rw [closureAt_iff] at hca ⊢
      obtain ⟨j, pc2, ko, ⟨pc3, hpc3, hpay, harr2, hmap2⟩, hpc2, hk⟩ := hca
      rw [hpp, hcp] at hpc2 hpc3; cases hpc2; cases hpc3
      rw [hT] at hk
      rcases R.cases hk with ⟨i0, hφ, h0⟩ | ⟨_, _, htn⟩
      · refine ⟨i0, pc, ko, ⟨pc, by rw [hpp]; exact hp, by rw [Cont.kslot_pay h0, ← Cont.kslot_pay hk]; exact hpay,
          fun ha => ?_, fun ha => ?_⟩, by rw [hpp]; exact hp, h0⟩
        · have hj := harr2 (harr.trans ha)
          rw [hpp, hidx, if_pos rfl] at hj
          cases hi0 : AList.find? (w.idxOf p) x with
          | none => rw [hi0] at hj; cases hj
          | some i1 =>
            rw [hi0] at hj
            simp only [Option.map_some, Option.some.injEq] at hj
            have := hψ i1 x ha hi0 hxO
            rw [hj, hφ] at this
            rw [hpp, hi0, Option.some.inj this]
        · obtain ⟨k, hk1, py, hs⟩ := hmap2 (harr.trans ha)
          have h1 := Cont.kslot_sig hk
          rw [hs] at h1
          simp only [Option.some.injEq, Prod.mk.injEq] at h1
          exact ⟨k, hk1, _, by rw [Cont.kslot_sig h0, ← h1.1]⟩
      · -- the new slot refers to a pending container
        obtain ⟨c, hc⟩ := Option.isSome_iff_exists.mp hxs
        have hpay2 : e0.pay = .ref x := by
          have := Cont.kslot_pay hk
          rw [hpay] at this
          exact (Option.some.inj this).symm
        exact absurd (hnew _ htn x c hpay2 hc).2.1 hxO
    · have : ClosureAt w2 x hi lim0 e0 ↔ ClosureAt w x hi lim0 e0 := by
        unfold ClosureAt
        rw [hco _ hpp, hidx, if_neg (Ne.symm hpp), hT]
      exact this.mp hca
  have hrkp : ∀ x, Holds w p x → (w.cont? x).isSome → x ≠ p := by
    intro x hx hxs he
    subst he
    exact Nat.lt_irrefl _ (H.rank x x hx hxs)
  refine .of_filed (by rw [hT]; exact H.legal) (fun z cz hz => ?_) ?_ ?_ ?_ ?_ ?_ ?_ ?_ ?_
    (fun x hi hx => by rw [hh] at hx; rw [hsome]; exact H.hinfoLive x hi hx)
  rotate_right
  · intro q x i hi
    rw [hidx] at hi
    rw [hsome]
    have hkind : ∀ q a, w.cont? q = some (.arr a) → ∃ a', w2.cont? q = some (.arr a') := by
      intro q a hq
      by_cases hqp : q = p
      · subst hqp
        rw [hp] at hq; cases hq
        cases pc' with
        | arr a' => exact ⟨a', hcp⟩
        | map m => cases harr
      · exact ⟨a, by rw [hco q hqp]; exact hq⟩
    split at hi
    · rename_i hpq
      cases h0 : AList.find? (w.idxOf p) x with
      | none => rw [h0] at hi; cases hi
      | some i0 =>
        obtain ⟨h1, a, ha⟩ := H.idxLive p x i0 h0
        rw [← hpq]
        exact ⟨h1, hkind p a ha⟩
    · obtain ⟨h1, a, ha⟩ := H.idxLive q x i hi
      exact ⟨h1, hkind q a ha⟩
  · by_cases hzp : z = p
    · subst hzp; rw [hcp] at hz; cases hz
      exact (H.filed hp).replace hT ha hvid hokp hbp
    · exact (H.filed ((hco z hzp).symm.trans hz)).congr hT ha hctr
  · -- slots
    intro q qc hq le hle x cx hx hcx
    rw [hT] at hle
    have hxs : (w.cont? x).isSome := by rw [← hsome, hcx]; rfl
    -- the clause for a slot that existed before
    have hold : ∀ qc0, w.cont? q = some qc0 → le ∈ qc0.slots w.T →
        ∃ wrap, slabIDStorableSize + 2 * wrap ≤ le.1 ∧
          (some x ≠ some p → le.2.size = slotSize cx wrap ∧ cx.isInlined = cx.inlinable (le.1 - 2 * wrap)) ∧
          (some x = some p → cx.isInlined = false → le.2.size = slotSize cx wrap) ∧
          (∀ hi, ¬ O2 x → AList.find? w2.hinfo x = some hi → ClosureAt w2 x hi le.1 le.2 → hi.wrap = wrap) := by
      intro qc0 hq0 hle0
      by_cases hxp : x = p
      · have hxp' := hxp.symm
        subst hxp'
        rw [hcp] at hcx; cases hcx
        obtain ⟨wr, h1, h2, _, h4⟩ := H.slots q qc0 hq0 le hle0 p pc hx hp
        obtain ⟨h2a, _⟩ := h2 (by intro he; cases he)
        refine ⟨wr, h1, fun hne => absurd rfl hne, fun _ hni => ?_, ?_⟩
        · rw [h2a, slotSize_standalone hni, slotSize_standalone (by rw [← hinlp]; exact hni)]
        · intro hi hO hhi hca
          rw [hh] at hhi
          exact h4 hi (fun h => hO (hOsub _ h)) hhi (hCAback p hi _ _ hO hxs hca)
      · rw [hco x hxp] at hcx
        obtain ⟨wr, h1, h2, _, h4⟩ := H.slots q qc0 hq0 le hle0 x cx hx hcx
        refine ⟨wr, h1, fun _ => h2 (by intro he; cases he), fun he => ?_, ?_⟩
        · cases he; exact absurd rfl hxp
        · intro hi hO hhi hca
          rw [hh] at hhi
          exact h4 hi (fun h => hO (hOsub _ h)) hhi (hCAback x hi _ _ hO hxs hca)
    by_cases hqp : q = p
    · have hqp' := hqp.symm
      subst hqp'
      rw [hcp] at hq; cases hq
      obtain ⟨i, hi⟩ := List.mem_iff_getElem?.mp hle
      obtain ⟨ko, hk⟩ := Cont.slot_kslot hi
      rcases R.cases hk with ⟨i0, _, h0⟩ | ⟨_, _, htn⟩
      · exact hold pc hp (List.mem_of_getElem? (Cont.kslot_slot h0))
      · -- the new slot
        obtain ⟨c, hc⟩ := Option.isSome_iff_exists.mp hxs
        obtain ⟨_, hOx, hrk, wr, hb, hsz, hinl⟩ := hnew _ htn x c hx hc
        have hxp : x ≠ p := by intro he; rw [he] at hrk; exact Nat.lt_irrefl _ hrk
        rw [hco x hxp, hc] at hcx; cases hcx
        exact ⟨wr, hb, fun _ => ⟨hsz, hinl⟩, fun he => by cases he; exact absurd rfl hxp,
          fun hi hO _ _ => absurd hOx hO⟩
    · rw [hco q hqp] at hq
      exact hold qc hq hle
  · -- unique
    intro q q' qc qc' i i' x hq hq' hi hi' hx
    rw [hsome] at hx
    -- every reference in the new world is an old one (at the old position) or the new slot
    have hpos : ∀ q1 qc1 i1, w2.cont? q1 = some qc1 → qc1.pays[i1]? = some (Pay.ref x) →
        (∃ qc0 i0, w.cont? q1 = some qc0 ∧ qc0.pays[i0]? = some (Pay.ref x) ∧ (q1 = p → φ i1 = some i0) ∧
            (q1 ≠ p → i0 = i1)) ∨
        (q1 = p ∧ φ i1 = none ∧ ∀ q0, ¬ Holds w q0 x) := by
      intro q1 qc1 i1 hq1 hp1
      by_cases hq1p : q1 = p
      · subst hq1p
        rw [hcp] at hq1; cases hq1
        obtain ⟨le, hle, hpay⟩ := Cont.pay_slot (T := w.T) hp1
        obtain ⟨ko, hk⟩ := Cont.slot_kslot hle
        rcases R.cases hk with ⟨i0, hφ0, h0⟩ | ⟨hφn', _, htn⟩
        · refine Or.inl ⟨pc, i0, hp, ?_, fun _ => hφ0, fun h => absurd rfl h⟩
          rw [Cont.kslot_pay h0]; exact congrArg some hpay
        · obtain ⟨c, hc⟩ := Option.isSome_iff_exists.mp hx
          exact Or.inr ⟨rfl, hφn', (hnew _ htn x c hpay hc).1⟩
      · rw [hco q1 hq1p] at hq1
        exact Or.inl ⟨qc1, i1, hq1, hp1, fun h => absurd h hq1p, fun _ => rfl⟩
    rcases hpos q qc i hq hi with ⟨qc0, i0, h1, h2, h3, h4⟩ | ⟨h1, h2, h3⟩
    · rcases hpos q' qc' i' hq' hi' with ⟨qc0', i0', h1', h2', h3', h4'⟩ | ⟨h1', h2', h3'⟩
      · obtain ⟨hqq, hii⟩ := H.unique q q' qc0 qc0' i0 i0' x h1 h1' h2 h2' hx
        subst hqq; subst hii
        refine ⟨rfl, ?_⟩
        by_cases hqp : q = p
        · exact R.inj (h3 hqp) (h3' hqp)
        · rw [← h4 hqp, ← h4' hqp]
      · exact absurd ⟨qc0, h1, List.mem_of_getElem? h2⟩ (h3' q)
    · rcases hpos q' qc' i' hq' hi' with ⟨qc0', i0', h1', h2', h3', h4'⟩ | ⟨h1', h2', h3'⟩
      · exact absurd ⟨qc0', h1', List.mem_of_getElem? h2'⟩ (h3 q')
      · subst h1; subst h1'
        refine ⟨rfl, ?_⟩
        exact (R.new h2).1.trans (R.new h2').1.symm
  · -- inlRef
    intro z cz hz hi hO
    by_cases hzp : z = p
    · have hzp' := hzp.symm
      subst hzp'
      rw [hcp] at hz; cases hz
      obtain ⟨q, hq⟩ := H.inlRef p pc hp (by rw [← hinlp]; exact hi) (fun h => hO (hOsub _ h))
      have hqp : q ≠ p := by
        intro he; subst he
        exact hrkp q hq (by rw [hp]; rfl) rfl
      exact ⟨q, hholds' q p hqp hq⟩
    · rw [hco z hzp] at hz
      obtain ⟨q, hq⟩ := H.inlRef z cz hz hi (fun h => hO (hOsub _ h))
      by_cases hqp : q = p
      · subst hqp
        obtain ⟨qc, hqc, hm⟩ := hq
        rw [hp] at hqc; cases hqc
        obtain ⟨i0, hi0⟩ := List.mem_iff_getElem?.mp hm
        obtain ⟨le, hle, hpay⟩ := Cont.pay_slot (T := w.T) hi0
        obtain ⟨ko, hk⟩ := Cont.slot_kslot hle
        by_cases hd : jd = some i0
        · exact absurd (hrem i0 _ hd hk z hpay) hO
        · refine ⟨q, pc', hcp, ?_⟩
          have := R.old (R.back hd)
          rw [hk] at this
          have hp2 := Cont.kslot_pay this
          simp only at hp2
          rw [hpay] at hp2
          exact List.mem_of_getElem? hp2
      · exact ⟨q, hholds' q z hqp hq⟩
  · -- mutIdx
    intro q a hq x i hi hO
    rw [hidx] at hi
    by_cases hqp : p = q
    · subst hqp
      rw [if_pos rfl] at hi
      rw [hcp] at hq
      cases hq
      cases hi0 : AList.find? (w.idxOf p) x with
      | none => rw [hi0] at hi; cases hi
      | some i0 =>
        rw [hi0] at hi
        simp only [Option.map_some, Option.some.injEq] at hi
        have hφi := hψ i0 x (by rw [← harr]; rfl) hi0 hO
        rw [hi] at hφi
        cases pc with
        | map m => cases harr
        | arr pa =>
          have h0 := H.mutIdx p pa hp x i0 hi0 (fun h => hO (hOsub _ h))
          obtain ⟨le, hle, hpay⟩ := Cont.pay_slot (T := w.T) h0
          obtain ⟨ko, hk⟩ := Cont.slot_kslot hle
          have := R.old hφi
          rw [hk] at this
          have hp2 := Cont.kslot_pay this
          simp only at hp2
          rw [hpay] at hp2
          exact hp2
    · rw [if_neg hqp] at hi
      rw [hco q (Ne.symm hqp)] at hq
      exact H.mutIdx q a hq x i hi (fun h => hO (hOsub _ h))
  · -- closure
    intro x hi hx
    rw [hh] at hx
    obtain ⟨c1, c2⟩ := H.closure x hi hx
    refine ⟨fun pa2 hpa2 => ?_, fun pm2 k2 hpm2 hk2 => ?_⟩
    · rw [hT]
      by_cases hpp : hi.parent = p
      · rw [hpp, hcp] at hpa2; cases hpa2
        cases pc with
        | map m => cases harr
        | arr pa => exact c1 pa (by rw [hpp]; exact hp)
      · rw [hco _ hpp] at hpa2; exact c1 pa2 hpa2
    · rw [hT]
      by_cases hpp : hi.parent = p
      · rw [hpp, hcp] at hpm2; cases hpm2
        cases pc with
        | arr pa => cases harr
        | map pm => exact c2 pm k2 (by rw [hpp]; exact hp) hk2
      · rw [hco _ hpp] at hpm2; exact c2 pm2 k2 hpm2 hk2
  · -- rank
    intro q x hq hx
    rw [hsome] at hx
    rcases hholds q x hq hx with h | ⟨h1, _, _, h4⟩
    · exact H.rank q x h hx
    · rw [h1]; exact h4
  · -- below
    intro q qc hq r hr
    by_cases hqp : q = p
    · subst hqp
      rw [hcp] at hq; cases hq
      obtain ⟨i, hi⟩ := List.mem_iff_getElem?.mp hr
      obtain ⟨le, hle, hpay⟩ := Cont.pay_slot (T := w.T) hi
      obtain ⟨ko, hk⟩ := Cont.slot_kslot hle
      rcases R.cases hk with ⟨i0, _, h0⟩ | ⟨_, _, htn⟩
      · have := Cont.kslot_pay h0
        simp only at this
        rw [hpay] at this
        exact Nat.le_trans (H.below q pc hp r (List.mem_of_getElem? this)) hctr
      · exact hnewb _ htn r hpay
    · rw [hco q hqp] at hq
      exact Nat.le_trans (H.below q qc hq r hr) hctr

/-- the pending set after a slot has been dropped: the container it referred to (if any) -/
def Pend (O : SlabID → Prop) (t : Option MKey × Nat × Elem) : SlabID → Prop :=
  fun z => O z ∨ t.2.2.pay = .ref z

end World
end Atree

import AtreeProofs.World.StepBasics
/-
  `step_slot`, the step of a notification: the child `y` (whose parent slot was out of date) takes its new form
  `c'` and the slot `j` of its parent `p` is rewritten with the matching element.  Afterwards the
  invariant holds with `p` as the container whose parent slot is out of date.
  Stated for an arbitrary world `w'` described pointwise (so that it applies whether or not
  `childStorable` touched the container table).
-/
namespace Atree
open Gen

namespace World

variable {D : SlabID → DigestFn 4} {rank : SlabID → Nat} {O : SlabID → Prop}

theorem WorldOkGen.holder_rank {w : World} {ctr : Nat} {stale : Option SlabID}
    (H : WorldOkGen D rank stale O w ctr) {p x : SlabID} (hh : Holds w p x) (hx : (w.cont? x).isSome) :
    rank p < rank x := H.rank p x hh hx

/-- overwriting the slot that refers to `y` with another element for `y`, and giving `y` another form
    with the same data, changes no signature -/
theorem ContsSig.of_slot_set {w w' : World} {y p : SlabID} {c c' pc pc' : Cont} {j lim : Nat}
    {ko : Option MKey} {el e : Elem} (hy : w.cont? y = some c) (hp : w.cont? p = some pc)
    (hj : (pc.kslots w.T)[j]? = some (ko, lim, el)) (hel : el.pay = .ref y) (he : e.pay = .ref y)
    (hsd : Cont.SameData c c') (hks : pc'.kslots w.T = (pc.kslots w.T).set j (ko, lim, e))
    (harr : pc'.isArr = pc.isArr) (hT : w'.T = w.T) (hcy : w'.cont? y = some c') (hcp : w'.cont? p = some pc')
    (hco : ∀ z, z ≠ y → z ≠ p → w'.cont? z = w.cont? z) : ContsSig w w' := by
  have hsigp : pc'.sig = pc.sig := Cont.sig_of_kslots_set harr hj hks (he.trans hel.symm)
  refine ⟨hT, fun q => ?_⟩
  by_cases hqp : q = p
  · subst hqp; rw [hcp, hp]; simp [hsigp]
  · by_cases hqy : q = y
    · subst hqy; rw [hcy, hy]; simp [hsd.sig_eq]
    · rw [hco q hqy hqp]

theorem step_slot {w w' : World} {ctr ctr' : Nat} {y p : SlabID} {c c' pc pc' : Cont}
    {j lim wrap : Nat} {ko : Option MKey} {el : Elem}
    (H : WorldOkGen D rank (some y) O w ctr)
    (hy : w.cont? y = some c) (hp : w.cont? p = some pc)
    (hj : (pc.kslots w.T)[j]? = some (ko, lim, el)) (hel : el.pay = .ref y)
    (hsd : Cont.SameData c c') (hokc : ContOk w.T (D y) ctr' c')
    (hwb : slabIDStorableSize + 2 * wrap ≤ lim)
    (hinl : c'.isInlined = c'.inlinable (lim - 2 * wrap))
    (hbc : c'.isInlined = true → c'.rootSize ≤ w.T)
    (hfaith : ∀ hi, ¬ O y → AList.find? w.hinfo y = some hi → ClosureAt w y hi lim el → hi.wrap = wrap)
    (hks : pc'.kslots w.T = (pc.kslots w.T).set j (ko, lim, ⟨slotSize c' wrap, .ref y⟩))
    (harr : pc'.isArr = pc.isArr) (hokp : ContOk w.T (D p) ctr' pc') (hinlp : pc'.isInlined = pc.isInlined)
    (hvid : pc'.vid = pc.vid) (hbp : pc'.isInlined = true → pc'.rootSize ≤ w.T)
    (hctr : ctr ≤ ctr')
    (hT : w'.T = w.T) (ha : w'.addr = w.addr) (hh : w'.hinfo = w.hinfo) (hm : w'.mutIdx = w.mutIdx)
    (hcy : w'.cont? y = some c') (hcp : w'.cont? p = some pc')
    (hco : ∀ z, z ≠ y → z ≠ p → w'.cont? z = w.cont? z) :
    WorldOkGen D rank (some p) O w' ctr' := by
  have hysome : (w.cont? y).isSome := by rw [hy]; rfl
  have hpy_holds : Holds w p y := holds_of_kslot hp hj hel
  have hrk : rank p < rank y := H.rank p y hpy_holds hysome
  have hpy : p ≠ y := by intro h; rw [h] at hrk; exact Nat.lt_irrefl _ hrk
  have hS : ContsSig w w' := ContsSig.of_slot_set hy hp hj hel rfl hsd hks harr hT hcy hcp hco
  have hidx : ∀ q, w'.idxOf q = w.idxOf q := idxOf_congr hm
  -- the new slot
  have hjlt : j < (pc.kslots w.T).length := (List.getElem?_eq_some_iff.mp hj).1
  have hj' : (pc'.kslots w.T)[j]? = some (ko, lim, ⟨slotSize c' wrap, .ref y⟩) := by
    rw [hks, List.getElem?_set_self hjlt]
  have hjne : ∀ i, i ≠ j → (pc'.kslots w.T)[i]? = (pc.kslots w.T)[i]? := by
    intro i hi
    rw [hks, List.getElem?_set_ne (Ne.symm hi)]
  -- `ClosureAt` for a container other than `y` did not change
  have hCAback : ∀ x hi lim0 e0, x ≠ y → ClosureAt w' x hi lim0 e0 → ClosureAt w x hi lim0 e0 := by
    intro x hi lim0 e0 hxy hca
    rw [closureAt_iff] at hca ⊢
    obtain ⟨j2, pc2, ko2, hpos, hpc2, hk2⟩ := hca
    have hpos' : ClosurePos w x hi j2 := hpos.transfer hS.symm (by rw [hidx])
    rw [hT] at hk2
    by_cases hpp : hi.parent = p
    · rw [hpp, hcp] at hpc2; cases hpc2
      have hj2 : j2 ≠ j := by
        intro he; subst he
        rw [hj'] at hk2
        simp only [Option.some.injEq, Prod.mk.injEq] at hk2
        obtain ⟨pcx, hpcx, hpay, _⟩ := hpos
        rw [hpp, hcp] at hpcx; cases hpcx
        have := Cont.kslot_pay hj'
        rw [hpay] at this
        simp only [Option.some.injEq, Pay.ref.injEq] at this
        exact hxy this
      exact ⟨j2, pc, ko2, hpos', by rw [hpp]; exact hp, by rw [← hjne j2 hj2]; exact hk2⟩
    · by_cases hpy' : hi.parent = y
      · rw [hpy', hcy] at hpc2; cases hpc2
        have hkc : c'.kslots w.T = c.kslots w.T := by
          cases c <;> cases c' <;> simp only [Cont.SameData] at hsd
          · simp [Cont.kslots, hsd.1]
          · simp [Cont.kslots, hsd.1]
        exact ⟨j2, c, ko2, hpos', by rw [hpy']; exact hy, by rw [← hkc]; exact hk2⟩
      · exact ⟨j2, pc2, ko2, hpos', by rw [← hco _ hpy' hpp]; exact hpc2, hk2⟩
  -- a slot referring to a container other than `y`, `p` keeps its clauses
  have hother : ∀ q qc le x cx, w.cont? q = some qc → le ∈ qc.slots w.T → le.2.pay = .ref x →
      w.cont? x = some cx → x ≠ y → x ≠ p →
      ∃ wrap, slabIDStorableSize + 2 * wrap ≤ le.1 ∧
        (some x ≠ some p → le.2.size = slotSize cx wrap ∧ cx.isInlined = cx.inlinable (le.1 - 2 * wrap)) ∧
        (some x = some p → cx.isInlined = false → le.2.size = slotSize cx wrap) ∧
        (∀ hi, ¬ O x → AList.find? w'.hinfo x = some hi → ClosureAt w' x hi le.1 le.2 → hi.wrap = wrap) := by
    intro q qc le x cx hq hle hx hcx hxy hxp
    obtain ⟨wr, h1, h2, _, h4⟩ := H.slots q qc hq le hle x cx hx hcx
    refine ⟨wr, h1, fun _ => h2 (by intro he; cases he; exact hxy rfl), fun he => ?_, ?_⟩
    · cases he; exact absurd rfl hxp
    · intro hi hO hhi hca
      rw [hh] at hhi
      exact h4 hi hO hhi (hCAback x hi _ _ hxy hca)
  -- slots of `p` other than `j` refer to containers other than `y` and `p`
  have hpslot : ∀ i t, (pc.kslots w.T)[i]? = some t → i ≠ j → ∀ x, t.2.2.pay = .ref x → (w.cont? x).isSome →
      x ≠ y ∧ x ≠ p := by
    intro i t hi hij x hx hxs
    constructor
    · intro he; subst he
      exact hij (H.unique.slot hp hp hi hj hx hel hxs).2
    · intro he; subst he
      exact Nat.lt_irrefl _ (H.rank x x (holds_of_kslot hp hi hx) hxs)
  refine H.of_sig hS hctr (fun x hi hx => by rw [← hh]; exact hx) (fun q x i hi => by rw [hidx] at hi; exact hi)
    (fun z cz hz => ?_) ?_ ?_ (hS.mutIdxOkX H.mutIdx (fun q x => by rw [hidx]))
  · by_cases hzy : z = y
    · subst hzy; rw [hcy] at hz; cases hz
      exact (H.filed hy).replace hT ha hsd.vid hokc hbc
    · by_cases hzp : z = p
      · subst hzp; rw [hcp] at hz; cases hz
        exact (H.filed hp).replace hT ha hvid hokp hbp
      · exact (H.filed ((hco z hzy hzp).symm.trans hz)).congr hT ha hctr
  · -- slots
    intro q qc hq le hle x cx hx hcx
    rw [hT] at hle
    by_cases hqp : q = p
    · have hqp' := hqp.symm
      subst hqp'
      rw [hcp] at hq; cases hq
      obtain ⟨i, hi⟩ := List.mem_iff_getElem?.mp hle
      obtain ⟨ko', hki⟩ := Cont.slot_kslot hi
      by_cases hij : i = j
      · -- the rewritten slot
        rw [hij, hj'] at hki
        simp only [Option.some.injEq, Prod.mk.injEq] at hki
        have hle' : le = (lim, ⟨slotSize c' wrap, .ref y⟩) := hki.2.symm
        rw [hle'] at hx
        have hxy : y = x := by simpa using hx
        subst hxy
        rw [hcy] at hcx; cases hcx
        rw [hle']
        refine ⟨wrap, hwb, fun _ => ⟨rfl, hinl⟩, fun he => ?_, ?_⟩
        · cases he; exact absurd rfl hpy
        · intro hi' hO hhi hca
          rw [hh] at hhi
          refine hfaith hi' hO hhi ?_
          rw [closureAt_iff] at hca ⊢
          obtain ⟨j2, pc2, ko2, hpos, hpc2, hk2⟩ := hca
          have hpos' : ClosurePos w y hi' j2 := hpos.transfer hS.symm (by rw [hidx])
          obtain ⟨pc0, hpc0, hpay0, _⟩ := hpos'
          have hu := H.unique hi'.parent p pc0 pc j2 j y hpc0 hp hpay0
            (by rw [Cont.kslot_pay hj, hel]) hysome
          obtain ⟨hu1, hu2⟩ := hu
          subst hu2
          exact ⟨j2, pc, ko, hpos.transfer hS.symm (by rw [hidx]), by rw [hu1]; exact hp, hj⟩
      · -- another slot of `p`
        rw [hjne i hij] at hki
        have hxs : (w'.cont? x).isSome := by rw [hcx]; rfl
        rw [hS.isSome] at hxs
        obtain ⟨hxy, hxp⟩ := hpslot i _ hki hij x hx hxs
        rw [hco x hxy hxp] at hcx
        exact hother p pc le x cx hp (List.mem_of_getElem? (Cont.kslot_slot hki)) hx hcx hxy hxp
    · by_cases hqy : q = y
      · have hqy' := hqy.symm
        subst hqy'
        rw [hcy] at hq; cases hq
        rw [hsd.slots_eq] at hle
        have hxs : (w'.cont? x).isSome := by rw [hcx]; rfl
        rw [hS.isSome] at hxs
        have hqx : Holds w y x := holds_of_slot hy hle hx
        have hr1 := H.rank y x hqx hxs
        have hxy : x ≠ y := by intro he; rw [he] at hr1; exact Nat.lt_irrefl _ hr1
        have hxp : x ≠ p := by intro he; rw [he] at hr1; exact Nat.lt_asymm hr1 hrk
        rw [hco x hxy hxp] at hcx
        exact hother y c le x cx hy hle hx hcx hxy hxp
      · rw [hco q hqy hqp] at hq
        have hxs : (w'.cont? x).isSome := by rw [hcx]; rfl
        rw [hS.isSome] at hxs
        have hqx : Holds w q x := holds_of_slot hq hle hx
        have hxy : x ≠ y := by
          intro he; subst he
          obtain ⟨i, hi⟩ := List.mem_iff_getElem?.mp hle
          obtain ⟨ko', hki⟩ := Cont.slot_kslot hi
          exact hqp (H.unique.slot hq hp hki hj hx hel hxs).1
        by_cases hxp : x = p
        · have hxp' := hxp.symm
          subst hxp'
          rw [hcp] at hcx; cases hcx
          obtain ⟨wr, h1, h2, _, h4⟩ := H.slots q qc hq le hle p pc hx hp
          obtain ⟨h2a, h2b⟩ := h2 (by intro he; cases he; exact hxy rfl)
          refine ⟨wr, h1, fun hne => absurd rfl hne, fun _ hni => ?_, ?_⟩
          · rw [h2a, slotSize_standalone hni, slotSize_standalone (by rw [← hinlp]; exact hni)]
          · intro hi hO hhi hca
            rw [hh] at hhi
            exact h4 hi hO hhi (hCAback p hi _ _ hxy hca)
        · rw [hco x hxy hxp] at hcx
          exact hother q qc le x cx hq hle hx hcx hxy hxp
  · -- inlRef
    intro z cz hz hi hO
    by_cases hzy : z = y
    · subst hzy
      exact ⟨p, hS.holds hpy_holds⟩
    · by_cases hzp : z = p
      · subst hzp
        rw [hcp] at hz; cases hz
        exact hS.inlRef_of H.inlRef hp (by rw [← hinlp]; exact hi) hO
      · exact hS.inlRef_of H.inlRef ((hco z hzy hzp).symm.trans hz) hi hO

end World
end Atree

import AtreeProofs.Array.EffectsTop
import AtreeProofs.Props.C09
import AtreeProofs.Account.Holder
/-
  "`Arr.set` stores the holder slab" (arrays): a successful `Arr.set T a i v c` stores the data slab
  of the NEW tree that holds the written element `v` — also when `v` equals the element it
  overwrites.  (`ArrayDataSlab.Set` always calls `storeSlab`; the C09 accounts `set_acctR`,
  `arr_set_acctR` only speak about slabs whose CONTENT changed.)

  * `Holds S v E`            — some data slab of the slab list `S` contains `v` and its last action in
                               the log `E` is a store;
  * `Held dataElems S v (StoredSince c c')` (`Forest.Held`; `StoredSince`, Account/Holder) — … and the log has
                               a store of it since `c`: the fact maintained along the run, as for maps;
  * `set_stored`             — tree level, by induction on the depth (`set_stores_holder`: the same with
                               the account `set_acctR`, as `Holds`);
  * `arr_set_stored`, `arr_set_holds` — top level (`Arr.set` = tree set + `splitRoot` /
                               `promoteIfSingleChild`): what the `Deep*` files use (`arr_hold`, DeepPrep);
                               `arr_set_stores_holder` — the same about `C09.newEffects`;
  * `leaf_positions`, `leaf_elems_sub` — distinct data slabs of a tree hold distinct positions of the
                               flattened element list.

  Every repair of an index slab is a `Forest.Repair` (`repairStep_repair`), and a holder follows a
  repair (`Repair.held_since`): when the repaired child is a LEAF, the element moves into one of the
  resulting leaves, all of which the step stores; when it is an index slab, the holder stays below
  and its earlier store is still in the log.  The root steps (`splitRoot`, `promoteIfSingleChild`)
  are the same replacement with nothing left and right (`Held.root_since`).  At the end the holder's ID is
  a key of the new tree, so by the C09 account its last action is not a removal (`Holds.of_stored`);
  no distinctness argument about the later effects is needed.
-/
namespace Atree
open Gen ATree MetaSlab
open Forest (Held)
open MapHolder (Ext StoredSince)
variable {T d : Nat}

/-- some data slab of `S` contains `v`, and the last action of the log `E` on it is a store.
    This is `Atree.Holds` (slab list, element, log); `World.Holds w p x` (WorldOk.lean: container `p` of
    the world has an element referring to `x`) is another predicate, told apart by its arguments where
    both namespaces are open. -/
def Holds (S : List (SlabID × ASlab)) (v : Elem) (E : List Eff) : Prop :=
  ∃ p ∈ S, v ∈ dataElems p.2 ∧ lastAction E p.1 = some true

theorem Holds.data {S : List (SlabID × ASlab)} {v : Elem} {E : List Eff} (h : Holds S v E) :
    ∃ id s', (id, ASlab.data s') ∈ S ∧ v ∈ s'.elems ∧ lastAction E id = some true := by
  obtain ⟨⟨id, x⟩, hp, h1, h2⟩ := h
  cases x with
  | data s => exact ⟨id, s, hp, h1, h2⟩
  | index _ _ _ _ => cases h1

theorem Holds.append_untouched {S : List (SlabID × ASlab)} {v : Elem} {E1 E2 : List Eff}
    (h : Holds S v E1) (hu : ∀ p ∈ S, v ∈ dataElems p.2 → lastAction E2 p.1 = none) :
    Holds S v (E1 ++ E2) := by
  obtain ⟨p, hp, h1, h2⟩ := h
  exact ⟨p, hp, h1, by rw [lastAction_append_none (hu p hp h1)]; exact h2⟩

/-- a repair step that only mentions the parent, roots of the repaired siblings and fresh IDs does
    not touch the strict descendants of the siblings -/
theorem untouched {c : Nat} {rid : SlabID} {P X Q : List (ATree d)} {E2 : List Eff}
    (hnd : (rid :: (P ++ X ++ Q).flatMap (slabIds d)).Nodup)
    (hle : ∀ id ∈ rid :: (P ++ X ++ Q).flatMap (slabIds d), id.idx ≤ c)
    (htouch : ∀ id, (Eff.store id ∈ E2 ∨ Eff.remove id ∈ E2) →
      id = rid ∨ id ∈ X.map (fun t => (hdr d t).id) ∨ c < id.idx) :
    ∀ id ∈ X.flatMap (subIds d), lastAction E2 id = none := by
  intro id hid
  have hperm := perm_roots_subs X
  have hall : id ∈ (P ++ X ++ Q).flatMap (slabIds d) := by
    simp only [List.flatMap_append, List.mem_append]
    exact Or.inl (Or.inr (hperm.mem_iff.2 (List.mem_append.2 (Or.inr hid))))
  obtain ⟨hn1, hn2⟩ := List.nodup_cons.1 hnd
  have hndX : (X.flatMap (slabIds d)).Nodup := by
    simp only [List.flatMap_append] at hn2
    exact (List.nodup_append.1 (List.nodup_append.1 hn2).1).2.1
  have key : ¬ (id = rid ∨ id ∈ X.map (fun t => (ATree.hdr d t).id) ∨ c < id.idx) := by
    rintro (h | h | h)
    · exact hn1 (h ▸ hall)
    · exact (List.nodup_append.1 (hperm.nodup_iff.1 hndX)).2.2 id h id hid rfl
    · exact Nat.not_lt.2 (hle id (List.mem_cons_of_mem _ hall)) h
  exact (lastAction_eq_none_iff E2 id).2
    ⟨fun h => key (htouch id (Or.inl h)), fun h => key (htouch id (Or.inr h))⟩

/-- a data slab stored since `c`, and still there at the end of an account, was stored last -/
theorem Holds.of_stored {n : Nat} {S S' : List (SlabID × ASlab)} {v : Elem} {c c' : Ctx} {E : List Eff} {cr : List SlabID}
    (h : Held dataElems S' v (StoredSince c c')) (he : c'.eff = c.eff ++ E) (hacct : Acct n S S' E cr) : Holds S' v E := by
  obtain ⟨p, hp, hv, hst⟩ := h
  exact ⟨p, hp, hv, hst.lastAction he fun hl => hacct.removed p.1 hl (mem_keys_of_mem hp)⟩

/-- the elements of the root slab, as a view of subtrees: every restructuring of the tree keeps it
    (`ATree.View.*`) -/
def rootElemsView : ATree.View Elem :=
  { V := fun d t => dataElems (ent d t), f := id, W := fun _ _ => [], zero := fun _ => rfl, add := fun _ _ => rfl,
    succ := fun d m => by rw [dataElems_ent_succ]; induction m.children <;> simp_all }

theorem moves_of_views {X X' : List (ATree d)} (h : ATree.SameViews d X X') :
    (aforest d).Moves dataElems X X' :=
  ⟨h subView, fun e he => by
    show e ∈ X'.flatMap (rootElemsView.V d)
    rw [h rootElemsView]
    exact he⟩

/-- `ArrayDataSlab.Set` stores the slab it writes (unless inlined) -/
theorem data_set_stored (s s' : DataSlab) (i : Nat) (v old : Elem) (c c' : Ctx) (hni : s.inlined = false)
    (hv : ElemOk T v) (h : s.set T i v c = .ok (old, s', c')) :
    Held dataElems (ATree.slabs 0 (ofData s')) v (StoredSince c c') := by
  unfold DataSlab.set at h
  split at h
  · cases h
  · rename_i old' hget
    rw [toStorable_fit T _ v c hv.2] at h
    simp only [Except.ok.injEq, Prod.mk.injEq] at h
    obtain ⟨_, hs', hc'⟩ := h
    have hi : i < s.elems.length := by
      rcases Nat.lt_or_ge i s.elems.length with h1 | h1
      · exact h1
      · rw [List.getElem?_eq_none h1] at hget; cases hget
    have hc'' : c' = c.emit (.store s.hdr.id) := by
      rw [← hc']; simp [DataSlab.storeIfNotInlined, hni]
    rw [hc'']
    refine ⟨(s.hdr.id, .data s'), ?_, ?_, StoredSince.emit _ _⟩
    · rw [← hs']; exact List.mem_singleton.2 rfl
    · rw [← hs']; exact List.mem_set hi v

/-- Tree level: a successful `ATree.set` of an element that fits the inline limit stores a data slab
    of the new tree that contains the element: the leaf stores it, and it follows every repair on
    the way back (`Repair.held_since`). -/
theorem set_stored (d : Nat) (t : ATree d) (top : Bool) (i : Nat) (v : Elem) (c : Ctx) (old : Elem)
    (t' : ATree d) (c' : Ctx) (hinv : TreeInv T d top t) (hni : NotInl d t) (hv : ElemOk T v)
    (h : ATree.set T d t i v c = .ok (old, t', c')) :
    Held dataElems (ATree.slabs d t') v (StoredSince c c') :=
  set_induction
    (P := fun d t c t' c' => ∀ top, TreeInv T d top t → NotInl d t →
      Held dataElems (ATree.slabs d t') v (StoredSince c c'))
    (fun s s' i c c' hr _ _ hni => data_set_stored s s' i v old c c' hni hv hr)
    (fun d m m2 k _ child child' c c1 c' hchild _ ih hstep top hinv _ => by
      obtain ⟨hs, _, _, _⟩ := (treeInv_succ T d top m).1 hinv
      obtain ⟨A, B, hch, hk⟩ := split_at hchild
      have hc : TreeInv T d false child :=
        hs.kids_inv child (by rw [hch]; exact List.mem_append_right _ List.mem_cons_self)
      have hch1 : (setM1 m k child').children = A ++ child' :: B := by
        rw [setM1_children, hch, set_at hk]
      obtain ⟨E2, hrep, he2, -, -⟩ := repairStep_repair hch1 hk rfl hstep
      rw [hch1] at hrep
      refine (hrep.held_since (fun _ _ => moves_of_views) he2
        (by rw [aforest_slabs]; exact ih false hc hc.notInl_of_false)).mono (fun p hp => ?_) (fun _ h => h)
      rw [aforest_slabs] at hp
      rw [slabs_eq (d + 1)]
      exact List.mem_cons_of_mem _ hp)
    d t i c t' c' h top hinv hni

theorem set_stores_holder (hT : legalThreshold T = true) :
    ∀ (d : Nat) (t : ATree d) (top : Bool) (i : Nat) (v : Elem) (c : Ctx) (addr : Nat) (old : Elem)
      (t' : ATree d) (c' : Ctx),
    TreeInv T d top t → NotInl d t → ElemOk T v → IdsOk addr c.ctr (slabIds d t) →
    ATree.set T d t i v c = .ok (old, t', c') →
    ∃ E C, Log c c' E C ∧
      ∃ id s', (id, ASlab.data s') ∈ ATree.slabs d t' ∧ v ∈ s'.elems ∧ lastAction E id = some true := by
  intro d t top i v c addr old t' c' h1 h2 h3 h4 h5
  obtain ⟨E, C, hlog, hacct⟩ :=
    set_acctR d t top i v c addr old t' c' h1 h2 h4 h5
  exact ⟨E, C, hlog, (Holds.of_stored (set_stored d t top i v c old t' c' h1 h2 h3 h5) hlog.eff hacct).data⟩

/-- The root steps keep a stored holder (`Held.root_since`): the halves of a split root are stored; an only
    child is stored again under the root's identifier. -/
theorem rootFix_stored {a a' : Arr} {c c' c0 : Ctx} {v : Elem} (hf : RootFix a c a' c')
    (hold : Held dataElems (ATree.slabs a.d a.root) v (StoredSince c0 c)) :
    Held dataElems (ATree.slabs a'.d a'.root) v (StoredSince c0 c') := by
  cases hf with
  | keep => exact hold
  | split h =>
    obtain ⟨d, t, ty⟩ := a
    obtain ⟨l, r, rfl, hV, -, -, rfl⟩ := Arr.splitRoot_inv h
    have hext : Ext c ((c.alloc (ATree.hdr d t).id.addr).2.alloc (ATree.hdr d t).id.addr).2 :=
      (Ext.alloc _ _).trans (Ext.alloc _ _)
    refine (Held.root_since (F := aforest d) (X' := [l, r]) (by rw [aforest_slabs]; exact hold)
      (hext.trans (((Ext.emit _ _).trans (Ext.emit _ _)).trans (Ext.emit _ _))) (moves_of_views hV)
      (fun x' hx' => StoredSince.after (hold.ext_since.trans hext) ?_)).mono (fun p hp => ?_) (fun _ h => h)
    · simp only [List.mem_cons, List.not_mem_nil, or_false] at hx'
      rcases hx' with rfl | rfl
      · exact (StoredSince.emit _ _).mono ((Ext.emit _ _).trans (Ext.emit _ _))
      · exact StoredSince.after (Ext.emit _ _) ((StoredSince.emit _ _).mono (Ext.emit _ _))
    · rw [aforest_slabs] at hp
      show p ∈ ATree.slabs (d + 1) (ofMeta (mkRoot (ATree.hdr d t).id l r))
      rw [slabs_eq (d + 1), sub_succ]
      exact List.mem_cons_of_mem _ hp
  | promote =>
    obtain ⟨d0, t0, ty⟩ := a
    rcases Arr.promote_cases ⟨d0, t0, ty⟩ c with he | ⟨d, m, h, child, t', heq, hh, hc, he, hid, hV⟩
    · rw [he]; exact hold
    · cases heq
      rw [he]
      -- the holder is inside the only child, which is stored again under the root's identifier
      have hold' : Held dataElems (ATree.slabs d child) v (StoredSince c0 c) := by
        obtain ⟨p, hp, hv, hl⟩ := hold
        rw [slabs_eq (d + 1), sub_succ, hc, List.flatMap_cons, List.flatMap_nil, List.append_nil] at hp
        rcases List.mem_cons.1 hp with rfl | hp
        · rw [dataElems_ent_succ] at hv; cases hv
        · exact ⟨p, hp, hv, hl⟩
      have := Held.root_since (F := aforest d) (X' := [t']) (by rw [aforest_slabs]; exact hold')
        ((Ext.emit c (.store m.hdr.id)).trans (Ext.emit _ (.remove h.id))) (moves_of_views hV) (fun x' hx' => by
          rw [List.mem_singleton.1 hx']
          show StoredSince c0 _ (ATree.hdr d t').id
          rw [hid]
          exact StoredSince.after hold.ext_since ((StoredSince.emit _ _).mono (Ext.emit _ _)))
      simpa [aforest_slabs] using this

/-- the holder, tracked through the whole of `Arr.set` -/
theorem arr_set_stored (a : Arr) (c : Ctx) (i : Nat) (v : Elem)
    (hv : ElemOk T v) (h : ArrInv T a c.ctr) (old : Elem) (a' : Arr) (c' : Ctx)
    (hr : a.set T i v c = .ok (old, a', c')) :
    Held dataElems (ATree.slabs a'.d a'.root) v (StoredSince c c') := by
  obtain ⟨t', c1, hset, hf⟩ := Arr.set_inv hr
  exact rootFix_stored hf (set_stored a.d a.root true i v c old t' c1 h.tree h.notInl hv hset)

theorem arr_set_holds (hT : legalThreshold T = true) (a : Arr) (c : Ctx) (i : Nat) (v : Elem)
    (hv : ElemOk T v) (h : ArrInv T a c.ctr) (old : Elem) (a' : Arr) (c' : Ctx)
    (hr : a.set T i v c = .ok (old, a', c')) :
    ∃ E C, Log c c' E C ∧ Holds (ATree.slabs a'.d a'.root) v E := by
  obtain ⟨E, C, hlog, hacct⟩ := arr_set_acctR hT a c i v (StorOk.of_elemOk hv) h old a' c' hr
  exact ⟨E, C, hlog, Holds.of_stored (arr_set_stored a c i v hv h old a' c' hr) hlog.eff hacct⟩

/-- Top level: a successful `Arr.set` of an element that fits the inline limit on a valid standalone
    array stores a data slab of the new tree that contains the element — whatever the element it
    overwrites.  (`C09.newEffects c c' = c'.eff.drop c.eff.length`, by `rfl`.) -/
theorem arr_set_stores_holder (hT : legalThreshold T = true) (a : Arr) (c : Ctx) (i : Nat) (v : Elem)
    (hv : ElemOk T v) (h : ArrInv T a c.ctr) (old : Elem) (a' : Arr) (c' : Ctx)
    (hr : a.set T i v c = .ok (old, a', c')) :
    ∃ id s', (id, ASlab.data s') ∈ ATree.slabs a'.d a'.root ∧ v ∈ s'.elems ∧
      lastAction (C09.newEffects c c') id = some true := by
  obtain ⟨E, C, hlog, hold⟩ := arr_set_holds hT a c i v hv h old a' c' hr
  rw [(C09.newEffects_of_log hlog).2.1]
  exact hold.data

theorem flatten_eq_flatMap : ∀ (d : Nat) (t : ATree d),
    flatten d t = (ATree.slabs d t).flatMap (fun p => dataElems p.2)
  | 0, t => by
    refine forall_ofData ?_ t; intro s
    exact (List.append_nil s.elems).symm
  | d + 1, t => by
    refine forall_ofMeta ?_ t; intro m
    rw [flatten_succ, slabs_eq, sub_succ, List.flatMap_cons, dataElems_ent_succ, List.nil_append,
      List.flatMap_assoc, funext (flatten_eq_flatMap d)]

theorem leaf_elems_sub : ∀ (d : Nat) (t : ATree d) (id : SlabID) (s : DataSlab),
    (id, ASlab.data s) ∈ ATree.slabs d t → ∀ e ∈ s.elems, e ∈ flatten d t := by
  intro d t id s h e he
  rw [flatten_eq_flatMap]
  exact List.mem_flatMap.2 ⟨_, h, he⟩

/-- distinct data slabs of a tree hold distinct positions of the flattened element list
    (no hypothesis on the IDs is needed: a data slab has one ID) -/
theorem leaf_two_pos : ∀ (d : Nat) (t : ATree d) (id1 id2 : SlabID) (s1 s2 : DataSlab),
    (id1, ASlab.data s1) ∈ ATree.slabs d t → (id2, ASlab.data s2) ∈ ATree.slabs d t → id1 ≠ id2 →
    ∀ (e1 e2 : Elem), e1 ∈ s1.elems → e2 ∈ s2.elems →
    ∃ i j : Nat, i ≠ j ∧ (flatten d t)[i]? = some e1 ∧ (flatten d t)[j]? = some e2 := by
  intro d t id1 id2 s1 s2 h1 h2 hne e1 e2 he1 he2
  have key := two_pos_flatMap (f := fun p => dataElems p.2) h1 h2 (fun h => hne (congrArg Prod.fst h)) he1 he2
  rw [← flatten_eq_flatMap d t] at key
  exact key

/-- distinct data slabs of a tree hold distinct positions of the flattened element list -/
theorem leaf_positions (d : Nat) (t : ATree d) (_hnd : (slabIds d t).Nodup) (id1 id2 : SlabID)
    (s1 s2 : DataSlab)
    (h1 : (id1, ASlab.data s1) ∈ ATree.slabs d t) (h2 : (id2, ASlab.data s2) ∈ ATree.slabs d t)
    (hne : id1 ≠ id2) (e1 e2 : Elem) (he1 : e1 ∈ s1.elems) (he2 : e2 ∈ s2.elems) :
    ∃ i j : Nat, i ≠ j ∧ (flatten d t)[i]? = some e1 ∧ (flatten d t)[j]? = some e2 :=
  leaf_two_pos d t id1 id2 s1 s2 h1 h2 hne e1 e2 he1 he2

/-! ### non-vacuity: the two-leaf tree of `AtreeProofs/Array/Example.lean` -/
section Example
open Atree.Example

/-- overwriting position 1 of the two-leaf array with the element it already holds: the hypotheses
    of `arr_set_stores_holder` are met … -/
example : ∃ old a' c', arr4.set T0 1 (elem 1) ⟨3, [], []⟩ = .ok (old, a', c') ∧
    ElemOk T0 (elem 1) ∧ ArrInv T0 arr4 (⟨3, [], []⟩ : Ctx).ctr ∧ old = elem 1 :=
  ⟨_, _, _, rfl, elem_ok 1, arr4_inv, rfl⟩

/-- … and the log is `store ⟨1,2⟩` (the left leaf, unchanged in content), `store ⟨1,1⟩` (the root) -/
example : (arr4.set T0 1 (elem 1) ⟨3, [], []⟩).toOption.map (fun r => r.2.2.eff)
    = some [.store ⟨1, 2⟩, .store ⟨1, 1⟩] := by decide

/-- the conclusion of `arr_set_stores_holder` on this run, obtained from the theorem -/
example : ∃ id s', (id, ASlab.data s') ∈ ATree.slabs arr4.d arr4.root ∧ elem 1 ∈ s'.elems ∧
    lastAction [.store ⟨1, 2⟩, .store ⟨1, 1⟩] id = some true := by
  have h : arr4.set T0 1 (elem 1) ⟨3, [], []⟩
      = .ok (elem 1, arr4, ⟨3, [.store ⟨1, 2⟩, .store ⟨1, 1⟩], []⟩) := by rfl
  exact arr_set_stores_holder legal arr4 ⟨3, [], []⟩ 1 (elem 1) (elem_ok 1) arr4_inv _ _ _ h

/-- two leaves, two different IDs: `leaf_positions` applies -/
example : ∃ i j : Nat, i ≠ j ∧ (flatten arr4.d arr4.root)[i]? = some (elem 1) ∧
    (flatten arr4.d arr4.root)[j]? = some (elem 2) :=
  leaf_positions 1 (ofMeta rootSlab) (by decide) ⟨1, 2⟩ ⟨1, 3⟩ left right
    (List.mem_cons_of_mem _ List.mem_cons_self)
    (List.mem_cons_of_mem _ (List.mem_cons_of_mem _ List.mem_cons_self))
    (by decide) (elem 1) (elem 2) (by simp [left]) (by simp [right])

end Example

end Atree

import AtreeProofs.World.NotifyPrep
import AtreeProofs.World.SlotOk
import AtreeProofs.Map.Limit
/-
  What the totality of the operations needs of the container-level steps, on top of `ArrOk.set_succeeds` /
  `insert_succeeds` / `remove_succeeds` (World/ArrRef) and `MapOk.set_succeeds` / `remove_succeeds` (World/MapRefW):

  * `MapOk.not_limited_of_mem`: a key that is present is never refused by the collision limit;
  * `SlotSet.total`: the core `set` of the slot a closure finds succeeds;
  * `childStorable_total`: the four-way inline / un-inline switch of `Storable()` never answers the fatal
    error on a live container (a reading of `childStorable_returns`);
  * `MapOk.sinv`: the structural invariant `SInv` the collision-limit lemmas speak about, from `MapOk`.
-/
namespace Atree
open Gen ATree MetaSlab

variable {T : Nat}

section maps
variable {r : Nat} {D : DigestFn (r + 1)} {cfg : MCfg}

/-- the structural invariant the collision-limit lemmas speak about, in either form -/
theorem MapOk.sinv {m : OMap r} {ctr : Nat} (h : MapOk T D m ctr) : SInv T D m.d true m.root := by
  cases hi : m.isInlined
  · exact (h.1 hi).1.sinv
  · obtain ⟨s, ty, cnt, seed, rfl, _⟩ := h.2 hi
    exact (MapInvInl.loose (h.2 hi)).1

/-- a key that is present is not refused by the collision limit (`OMap.set` of an existing key
    overwrites; the limit only guards the creation of a new entry) -/
theorem MapOk.not_limited_of_mem (hT : legalThreshold T = true) {m : OMap r} {ctr : Nat} (h : MapOk T D m ctr)
    {k : MKey} {v : Elem} (hmem : (k, v) ∈ m.toList) : ¬ TLimited cfg m.d m.root k :=
  fun hl => tlimited_absent hT m.d true m.root h.sinv hl _ hmem rfl

end maps

namespace World

/-- The core `set` of the slot that holds `el` succeeds: the index is in range / the key is present (so the
    collision limit does not apply), the new element fits the slot, an inlined parent has room. -/
theorem SlotSet.total {w : World} {Dp : DigestFn 4} {qc : Cont} {s : Slot} {e el : Elem} {cx : Ctx} {y : SlabID}
    (hT : legalThreshold w.T = true) (hok : ContOk w.T Dp cx.ctr qc)
    (hcfg : ∀ m, qc = .map m → CfgOk w.mcfg w.T m) (hk : ∀ k, s = .key k → KeyOk w.T 4 Dp k)
    (hroom : qc.isInlined = true → qc.rootSize + qc.entryMax w.T ≤ maxThr w.T)
    (hget : SlotGet w qc s el) (he1 : 1 ≤ e.size) (he2 : e.size ≤ s.lim w.T) (hpe : e.pay = .ref y) :
    ∃ old qc' cx', SlotSet w qc s e cx old qc' cx' := by
  cases qc <;> cases s <;> first | exact hget.elim | skip
  · rename_i a i
    have hpok : ArrOk w.T a cx.ctr := hok
    have hilt : i < a.toList.length := (List.getElem?_eq_some_iff.mp (hpok.get_ok hT hget)).1
    obtain ⟨a', cx', hs, _⟩ := hpok.set_succeeds hT (StorOk.of_elemOk ⟨he1, he2⟩) hroom hilt
    exact ⟨_, .arr a', cx', by rw [hpok.count_eq]; exact hilt, _, rfl, hs⟩
  · rename_i m k
    obtain ⟨k', hget⟩ := hget
    have hmok : MapOk w.T Dp m cx.ctr := hok
    have hmem := (hmok.get_ok hT (hcfg m rfl) (hk k rfl) hget).2
    obtain ⟨old, m', cx', hs, _⟩ := hmok.set_succeeds hT (hcfg m rfl) (hk k rfl) ⟨he1, Or.inr he2⟩ hroom
      (hmok.not_limited_of_mem hT hmem)
    exact ⟨old, .map m', cx', hs⟩

/-- `Storable()` of a live container never fails: in each of the four cases of the switch the form
    of the container is the one `Inline` / `Uninline` expects -/
theorem childStorable_total {w : World} {y : SlabID} {c : Cont} (hy : w.cont? y = some c)
    (wrap lim : Nat) (cx : Ctx) : ∃ e w1 cx1, w.childStorable y wrap lim cx = .ok (e, w1, cx1) := by
  rcases childStorable_returns hy wrap lim cx with ⟨_, h⟩ | ⟨_, _, _, _, h⟩ | ⟨_, _, _, _, h⟩ <;> exact ⟨_, _, _, h⟩

end World
end Atree

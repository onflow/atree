import AtreeProofs.World.TotalNotify
import AtreeProofs.WorldOkPop
/-
  `KeyedClosures` is an invariant of every operation of the World model.  (`KeyedClosures w`: a closure
  that names a live MAP carries a key — the extra hypothesis of the totality theorems,
  `TotalNotify.lean`.)  Purely structural, no invariant needed:
  closures are only installed by `setCallbackArr` on a container that is an array at that moment
  (no key) or by `setCallbackMap` (with the key), and no operation changes the kind of a container
  (`KindsSub`: a container of the new world was a container of the same kind in the old one).  `KStep` is
  reflexive, transitive and holds of every elementary step that creates nothing (`KStep.estep`), hence of
  every operation (`KStep.steps`, over the `*_steps` lemmas of World/Shape).
  Only `newMap` needs a hypothesis: no closure names the ID about to be allocated (`HinfoBelow`, a
  clause of `WorldOk'`).
-/
namespace Atree
open Gen

namespace World

/-- every container of `w'` was a container of the same kind in `w` -/
def KindsSub (w w' : World) : Prop :=
  ∀ z c', w'.cont? z = some c' → ∃ c, w.cont? z = some c ∧ c.isArr = c'.isArr

/-- one step of the model as far as `KeyedClosures` is concerned -/
def KStep (w w' : World) : Prop := KindsSub w w' ∧ (KeyedClosures w → KeyedClosures w')

theorem KindsSub.refl (w : World) : KindsSub w w := fun _ c' h => ⟨c', h, rfl⟩

theorem KindsSub.trans {w1 w2 w3 : World} (h12 : KindsSub w1 w2) (h23 : KindsSub w2 w3) : KindsSub w1 w3 := by
  intro z c3 h3
  obtain ⟨c2, h2, e2⟩ := h23 z c3 h3
  obtain ⟨c1, h1, e1⟩ := h12 z c2 h2
  exact ⟨c1, h1, e1.trans e2⟩

theorem KindsSub.map_back {w w' : World} (h : KindsSub w w') {p : SlabID} {m' : OMap 3}
    (hp : w'.cont? p = some (.map m')) : ∃ m, w.cont? p = some (.map m) := by
  obtain ⟨c, hc, he⟩ := h p _ hp
  cases c with
  | arr a => cases he
  | map m => exact ⟨m, hc⟩

theorem KStep.refl (w : World) : KStep w w := ⟨KindsSub.refl w, id⟩

theorem KStep.trans {w1 w2 w3 : World} (h12 : KStep w1 w2) (h23 : KStep w2 w3) : KStep w1 w3 :=
  ⟨h12.1.trans h23.1, fun h => h23.2 (h12.2 h)⟩

theorem KStep.of_sub {w w' : World} (hk : KindsSub w w')
    (hh : ∀ x hi, AList.find? w'.hinfo x = some hi → AList.find? w.hinfo x = some hi) : KStep w w' := by
  refine ⟨hk, fun h x hi pm hx hp => ?_⟩
  obtain ⟨m, hm⟩ := hk.map_back hp
  exact h x hi m (hh x hi hx) hm

theorem kstep_setCont {w : World} {p : SlabID} {c0 c : Cont} (hp : w.cont? p = some c0) (hk : c.isArr = c0.isArr) :
    KStep w (w.setCont p c) := by
  refine KStep.of_sub (fun z c' hz => ?_) (fun _ _ hx => hx)
  rw [cont?_setCont] at hz
  split at hz
  · rename_i hpz; subst hpz; cases hz; exact ⟨c0, hp, hk.symm⟩
  · exact ⟨c', hz, rfl⟩

theorem kstep_of_eq {w w' : World} (hc : ∀ z, w'.cont? z = w.cont? z) (hh : w'.hinfo = w.hinfo) : KStep w w' :=
  KStep.of_sub (fun z c' hz => ⟨c', by rw [← hc]; exact hz, rfl⟩) (fun _ _ hx => by rw [← hh]; exact hx)

theorem kstep_eraseHinfo (w : World) (x : SlabID) : KStep w { w with hinfo := AList.erase w.hinfo x } := by
  refine KStep.of_sub (KindsSub.refl w) (fun y hi hy => ?_)
  have hy' : AList.find? (AList.erase w.hinfo x) y = some hi := hy
  rw [AList.find?_erase] at hy'
  split at hy'
  · cases hy'
  · exact hy'

theorem kstep_setCallbackArr {w : World} {p : SlabID} (i : Nat) (v : WVal) (hp : ∀ m, w.cont? p ≠ some (.map m)) :
    KStep w (w.setCallbackArr p i v) := by
  refine ⟨fun z c' hz => ⟨c', by rw [cont?_setCallbackArr] at hz; exact hz, rfl⟩, fun h x hi pm hx hpar => ?_⟩
  rw [cont?_setCallbackArr] at hpar
  cases v with
  | plain e => exact h x hi pm hx hpar
  | child y wr =>
    rw [hinfo_setCallbackArr] at hx
    split at hx
    · cases hx
      exact absurd hpar (hp pm)
    · exact h x hi pm hx hpar

theorem kstep_setCallbackMap (w : World) (p : SlabID) (k : MKey) (v : WVal) : KStep w (w.setCallbackMap p k v) := by
  refine ⟨fun z c' hz => ⟨c', by rw [cont?_setCallbackMap] at hz; exact hz, rfl⟩, fun h x hi pm hx hpar => ?_⟩
  rw [cont?_setCallbackMap] at hpar
  cases v with
  | plain e => exact h x hi pm hx hpar
  | child y wr =>
    rw [hinfo_setCallbackMap] at hx
    split at hx
    · cases hx; rfl
    · exact h x hi pm hx hpar

theorem _root_.Atree.ContStep.isArr {T : Nat} {cfg : MCfg} {id : SlabID} {c c' : Cont} {cx cx' : Ctx}
    (h : ContStep T cfg id c cx c' cx') : c'.isArr = c.isArr := by
  cases h with
  | form _ hs _ => exact hs.isArr
  | _ => rfl

/-- `KStep` of every elementary step that creates nothing -/
theorem KStep.estep {k : StepKind} {w : World} {cx : Ctx} {w' : World} {cx' : Ctx} (hk : MutOrDrop k)
    (h : EStep k w cx w' cx') : KStep w w' := by
  cases h with
  | cont hp hs hc => exact kstep_setCont hp (hc.isArr.trans hs.isArr.symm)
  | shift | eraseIdx | clearIdx => exact kstep_of_eq (fun _ => rfl) rfl
  | cbArr _ _ _ i v hp => exact kstep_setCallbackArr i v (fun m hm => by obtain ⟨a, ha⟩ := hp; rw [ha] at hm; cases hm)
  | cbMap => exact kstep_setCallbackMap _ _ _ _
  | eraseHinfo => exact kstep_eraseHinfo _ _
  | drop _ _ x =>
    refine KStep.of_sub (fun z c' hz => ⟨c', ?_, rfl⟩) (fun y hi hy => ?_)
    · have hz' : AList.find? (AList.erase w.conts x) z = some c' := hz
      rw [AList.find?_erase] at hz'
      split at hz'
      · cases hz'
      · exact hz'
    · have hy' : AList.find? (AList.erase w.hinfo x) y = some hi := hy
      rw [AList.find?_erase] at hy'
      split at hy'
      · cases hy'
      · exact hy'
  | newArr | newMap | reopen => rcases hk with h | h <;> cases h

/-- every operation that creates nothing is a sequence of such steps (`*_steps`, World/Shape) -/
theorem KStep.steps {w : World} {cx : Ctx} {w' : World} {cx' : Ctx} (h : Steps MutOrDrop w cx w' cx') : KStep w w' :=
  h.lift (R := fun w _ w' _ => KStep w w') (fun _ _ => KStep.refl _) KStep.trans KStep.estep

theorem kstep_arrInsert {w : World} {p : SlabID} {i : Nat} {v : WVal} {cx : Ctx} {w' : World} {cx' : Ctx}
    (h : w.arrInsert p i v cx = .ok (w', cx')) : KStep w w' := .steps ((arrInsert_steps h).mono fun _ => Or.inl)

theorem kstep_arrSet {w : World} {p : SlabID} {i : Nat} {v : WVal} {cx : Ctx} {old : Elem} {w' : World} {cx' : Ctx}
    (h : w.arrSet p i v cx = .ok (old, w', cx')) : KStep w w' := .steps ((arrSet_steps h).mono fun _ => Or.inl)

theorem kstep_arrRemove {w : World} {p : SlabID} {i : Nat} {cx : Ctx} {old : Elem} {w' : World} {cx' : Ctx}
    (h : w.arrRemove p i cx = .ok (old, w', cx')) : KStep w w' := .steps ((arrRemove_steps h).mono fun _ => Or.inl)

theorem kstep_mapSet {w : World} {p : SlabID} {k : MKey} {v : WVal} {cx : Ctx} {old : Option Elem} {w' : World}
    {cx' : Ctx} (h : w.mapSet p k v cx = .ok (old, w', cx')) : KStep w w' :=
  .steps ((mapSet_steps h).mono fun _ => Or.inl)

theorem kstep_mapRemove {w : World} {p : SlabID} {k : MKey} {cx : Ctx} {rk : MKey} {rv : Elem} {w' : World}
    {cx' : Ctx} (h : w.mapRemove p k cx = .ok (rk, rv, w', cx')) : KStep w w' :=
  .steps ((mapRemove_steps h).mono fun _ => Or.inl)

theorem kstep_setType {w : World} {p : SlabID} {ty : Nat} {cx : Ctx} {w' : World} {cx' : Ctx}
    (h : w.setType p ty cx = .ok (w', cx')) : KStep w w' := .steps ((setType_steps h).mono fun _ => Or.inl)

theorem kstep_arrPopKeep {w : World} {h : SlabID} {keep : List SlabID} {cx : Ctx} {es : List Elem} {w' : World}
    {cx' : Ctx} (hp : w.arrPopKeep h keep cx = .ok (es, w', cx')) : KStep w w' := .steps (arrPopKeep_steps hp)

theorem kstep_mapPopKeep {w : World} {h : SlabID} {keep : List SlabID} {cx : Ctx} {kvs : List (MKey × Elem)}
    {w' : World} {cx' : Ctx} (hp : w.mapPopKeep h keep cx = .ok (kvs, w', cx')) : KStep w w' :=
  .steps (mapPopKeep_steps hp)

theorem kstep_arrGet {w : World} {p : SlabID} {i : Nat} {el : Elem} {w' : World}
    (h : w.arrGet p i = .ok (el, w')) : KStep w w' := .steps ((arrGet_steps ⟨0, [], []⟩ h).mono fun _ => Or.inl)

theorem kstep_mapGet {w : World} {p : SlabID} {k : MKey} {el : Elem} {w' : World}
    (h : w.mapGet p k = .ok (el, w')) : KStep w w' := .steps ((mapGet_steps ⟨0, [], []⟩ h).mono fun _ => Or.inl)

theorem kstep_forget (w : World) (k : SlabID) : KStep w (forget w.fuelOf w k) :=
  .steps (forget_steps _ w ⟨0, [], []⟩ k)

theorem keyed_reopen (w : World) : KeyedClosures w.reopen := by
  intro x hi pm hx _
  cases hx

/-- a new ARRAY: a closure may name its ID, it is not a map -/
theorem keyed_newArr {w : World} (ty : Nat) (cx : Ctx) (h : KeyedClosures w) : KeyedClosures (w.newArr ty cx).2.1 := by
  intro x hi pm hx hp
  have hp' : (w.setCont (Arr.new w.addr ty cx).1.rootID (.arr (Arr.new w.addr ty cx).1)).cont? hi.parent
      = some (.map pm) := hp
  rw [cont?_setCont] at hp'
  split at hp'
  · cases hp'
  · exact h x hi pm hx hp'

/-- a new MAP: no closure names the ID that is allocated (`HinfoBelow`: closures name allocated IDs) -/
theorem keyed_newMap {w : World} (ty seed : Nat) (cx : Ctx) (h : KeyedClosures w) (hb : HinfoBelow w cx.ctr) :
    KeyedClosures (w.newMap ty seed cx).2.1 := by
  intro x hi pm hx hp
  have hx' : AList.find? w.hinfo x = some hi := hx
  have hid : (OMap.new w.addr ty (fun _ => seed) cx : OMap 3 × Ctx).1.rootID = ⟨w.addr, cx.ctr + 1⟩ := rfl
  have hp' : (w.setCont (OMap.new w.addr ty (fun _ => seed) cx : OMap 3 × Ctx).1.rootID
      (.map (OMap.new w.addr ty (fun _ => seed) cx : OMap 3 × Ctx).1)).cont? hi.parent = some (.map pm) := hp
  rw [cont?_setCont] at hp'
  split at hp'
  · rename_i heq
    have := hb x hi hx'
    rw [← heq, hid] at this
    simp at this
    omega
  · exact h x hi pm hx' hp'

theorem keyed_empty (T addr : Nat) : KeyedClosures { T := T, addr := addr } := by
  intro x hi pm hx _
  cases hx

end World
end Atree

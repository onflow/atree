import AtreeProofs.World.Notify
import AtreeProofs.World.TotalCore
/-
  The notification chain terminates and never fails.

  `notify_total`: a notification from a live container `y` whose parent slot is out of date, issued
  through a current handle, with enough fuel, answers `.ok`.  Every `.error` branch of
  `notifyParent` / `arrSetRaw` / `mapSetRaw` (one link in slot form: `setRaw_child_total`) is excluded by a reason:
    * `.outOfFuel`            — the fuel bound `FuelOk` (below);
    * `.unknownContainer`     — `y` is live; the parent found through the closure is live;
    * `pa.get idx` fails      — a recorded index is in range (`MutIdxOkX`);
    * `pm.get k` fails otherwise than by `keyNotFound` — `MapOk.get_spec`;
    * `hi.key = none` on a MAP parent — `KeyedClosures` (below): a closure that names a live map carries
                                 a key.  NOTE: this is NOT a clause of `WorldOk` / `WorldOk'` (which only say
                                 "IF the closure of a map parent has a key, the key is usable", `ClosureOk`);
                                 for a CURRENT closure it follows from `ClosureAt`, but a detached root may
                                 keep a STALE closure, and nothing in `WorldOk'` prevents a stale key-less
                                 closure from naming a live map (unreachable: the kind of a container never
                                 changes and IDs are not reused — `KeyedClosures` is preserved by every
                                 operation, `AtreeProofs/World/TotalKeyed.lean`).  See
                                 `C10Total.fatal_without_keyedClosures` for the run of the model;
    * `old.pay ≠ .ref y`      — the element handed back by the parent's `set` is the one just read;
    * `Inline` / `Uninline`   — `childStorable_total`;
    * the parent's `set`      — the index is in range / the key is PRESENT (so the collision limit does not
                                 apply: `MapOk.not_limited_of_mem`), the new element is within the per-element
                                 limit, an inlined parent has room (`LinkOk.room`, World/Notify); `SlotSet.total`.

  Termination rests on `CRank` — the acyclicity of the relation "is an element of" (a rank function
  decreases from a child to the container that holds it) — and NOT on the closure pointers: each
  recursive call moves from `y` to a container that HOLDS `y`, hence of smaller rank, and the set of
  live containers does not change along the chain.  The measure is `FuelOk rank w y fuel`: every
  duplicate-free list of live containers ranked below `y` is shorter than `fuel`.  `fuelOk_fuelOf`:
  the fuel `fuelOf w = w.conts.length + 2` the public operations pass always suffices.
-/
namespace Atree
open Gen

namespace World

variable {D : SlabID → DigestFn 4} {rank : SlabID → Nat} {O : SlabID → Prop}

/-- enough fuel for a notification from `y`: every duplicate-free list of LIVE containers of rank
    below `rank y` is shorter than `fuel`.  (Under `CRank` the containers `y` is nested in are such a
    list: the bound says `fuel` exceeds the nesting depth of `y`.) -/
def FuelOk (rank : SlabID → Nat) (w : World) (y : SlabID) (fuel : Nat) : Prop :=
  ∀ S : List SlabID, S.Nodup → (∀ z ∈ S, (w.cont? z).isSome ∧ rank z < rank y) → S.length < fuel

theorem FuelOk.pos {w : World} {y : SlabID} {fuel : Nat} (h : FuelOk rank w y fuel) : 0 < fuel := by
  simpa using h [] List.nodup_nil (by simp)

theorem FuelOk.mono {w : World} {y : SlabID} {fuel fuel' : Nat} (h : FuelOk rank w y fuel) (hle : fuel ≤ fuel') :
    FuelOk rank w y fuel' := fun S h1 h2 => Nat.lt_of_lt_of_le (h S h1 h2) hle

/-- one step up the containment chain consumes one unit of fuel: `p` is live and ranked below `y`,
    and is not among the containers ranked below `p` -/
theorem FuelOk.step {w w2 : World} {y p : SlabID} {fuel : Nat} (hF : FuelOk rank w y (fuel + 1))
    (hlive : ∀ z, (w2.cont? z).isSome → (w.cont? z).isSome) (hp : (w.cont? p).isSome)
    (hrk : rank p < rank y) : FuelOk rank w2 p fuel := by
  intro S hnd hS
  have := hF (p :: S) (List.nodup_cons.mpr ⟨fun hm => by have := (hS p hm).2; omega, hnd⟩) (by
    intro z hz
    rcases List.mem_cons.mp hz with h | h
    · subst h; exact ⟨hp, hrk⟩
    · exact ⟨hlive z (hS z h).1, by have := (hS z h).2; omega⟩)
  simp only [List.length_cons] at this
  omega

theorem mem_keys_of_live {w : World} {z : SlabID} (h : (w.cont? z).isSome) : z ∈ AList.keys w.conts := by
  rw [← AList.find?_ne_none_iff]
  intro hn
  rw [World.cont?, hn] at h
  cases h

theorem live_nodup_length_le {w : World} {S : List SlabID} (hnd : S.Nodup) (hS : ∀ z ∈ S, (w.cont? z).isSome) :
    S.length ≤ w.conts.length := by
  have := hnd.length_le_of_subset (l₂ := AList.keys w.conts) (fun z hz => mem_keys_of_live (hS z hz))
  simpa [AList.keys] using this

/-- the fuel the public operations pass suffices, for every container of every world -/
theorem fuelOk_fuelOf (rank : SlabID → Nat) (w : World) (y : SlabID) : FuelOk rank w y w.fuelOf := by
  intro S hnd hS
  have := live_nodup_length_le hnd (fun z hz => (hS z hz).1)
  simp only [fuelOf]
  omega

theorem fuelOk_fuelOf_of_live (rank : SlabID → Nat) {w w2 : World} (y : SlabID)
    (hlive : ∀ z, (w2.cont? z).isSome → (w.cont? z).isSome) : FuelOk rank w2 y w.fuelOf := by
  intro S hnd hS
  have := live_nodup_length_le (w := w) hnd (fun z hz => hlive z (hS z hz).1)
  simp only [fuelOf]
  omega

/-- a closure that names a live MAP carries a key (closures are installed by `setCallbackArr` on an
    array parent — no key — or by `setCallbackMap` on a map parent — with the key; the kind of a
    container never changes).  Not a clause of `WorldOk'`; see the header. -/
def KeyedClosures (w : World) : Prop :=
  ∀ x hi pm, AList.find? w.hinfo x = some hi → w.cont? hi.parent = some (.map pm) → hi.key.isSome = true

theorem KeyedClosures.of_sig {w w' : World} (h : KeyedClosures w) (hS : ContsSig w w')
    (hh : ∀ x hi, AList.find? w'.hinfo x = some hi → AList.find? w.hinfo x = some hi) : KeyedClosures w' := by
  intro x hi pm hx hp
  obtain ⟨c, hc, hs⟩ := hS.symm.get hp
  cases c with
  | arr a => simp [Cont.sig] at hs
  | map m => exact h x hi m (hh x hi hx) hc

/-- the notification from a live container `y` with a current handle succeeds with `fuel`, in a world valid
    up to the slot of `y`, with keyed closures and enough fuel (`notify_total` is this for every `fuel`; it is
    the induction hypothesis of the lemmas below) -/
def NotifyTotal (D : SlabID → DigestFn 4) (rank : SlabID → Nat) (O : SlabID → Prop) (fuel : Nat) : Prop :=
  ∀ w y cx, WorldOkGen D rank (some y) O w cx.ctr → HandleOk w y →
    (∀ z, O z → (w.cont? z).isSome → rank y < rank z) → (w.cont? y).isSome → KeyedClosures w →
    FuelOk rank w y fuel →
    ∃ w' cx', notifyParent fuel w y cx = .ok (w', cx')

/-- One link of the chain succeeds: the closure of `y` finds its slot; the child takes its form, the slot is overwritten,
    the parent's own notification succeeds (induction hypothesis, in the world `AtParent`, World/Notify). -/
theorem setRaw_child_total {fuel : Nat} (IH : NotifyTotal D rank O fuel) {w : World} {y : SlabID} {cx : Ctx}
    {hi : HInfo} {c qc : Cont} {s : Slot} {el : Elem}
    (H : WorldOkGen D rank (some y) O w cx.ctr) (hO : ∀ z, O z → (w.cont? z).isSome → rank y < rank z)
    (hh : AList.find? w.hinfo y = some hi) (hc : w.cont? y = some c) (hf : SlotFinds w y hi qc s el)
    (hpar : HandleOk w hi.parent) (hK : KeyedClosures w) (hF : FuelOk rank w y (fuel + 1)) :
    ∃ w4 cx4, SetRaw fuel w hi.parent s (.child y hi.wrap) cx (some el) w4 cx4 := by
  have hq := hf.parent
  have hget := hf.get
  have hel := hf.pay
  obtain ⟨hk, hwb, hcfg, _, _, _, hbud⟩ := hf.linkOk H hO hh (by rw [hc]; rfl)
  have hroom : qc.isInlined = true → qc.rootSize + qc.entryMax w.T ≤ maxThr w.T := fun h =>
    Nat.le_trans (hbud h) (two_inline_le w.T H.legal).2
  obtain ⟨e, w1, cx1, hst⟩ := childStorable_total hc hi.wrap (s.lim w.T) cx
  obtain ⟨_, _, _, _, _, _, he, he1, he2, _, _, hT1, ha1, _, _, hctr1⟩ :=
    childStorable_valid H.legal hc (H.filed hc) hwb hst
  have hpe : e.pay = .ref y := by rw [he]
  have hok1 : ContOk w.T (D hi.parent) cx1.ctr qc := by rw [hctr1]; exact H.conts _ _ hq
  obtain ⟨old, qc', cx3, hs⟩ := SlotSet.total H.legal hok1 hcfg hk hroom hget he1 he2 hpe
  obtain ⟨j, hks, rfl, hks', hok', hinl', hvid, hctr3, hsz⟩ :=
    SlotSet.ok H.legal hok1 hcfg hk hroom hget he1 he2 hpe hs
  obtain ⟨c1, A⟩ := atParent H hO hh hc hq hks hel hpar hwb (Slot.lim_le _ s) hst hks'
    (Cont.isArr_of_sig (Cont.sig_of_kslots_set (by cases qc <;> cases s <;> cases qc' <;> first | exact hs.elim | rfl)
      hks hks' (hpe.trans hel.symm))) hok' hinl' hvid
    (fun hi2 => Nat.le_trans (hsz (hinl'.symm.trans hi2)) (hbud (hinl'.symm.trans hi2))) hctr3
  obtain ⟨w3, cx4, hnp⟩ := IH _ _ _ A.ok A.hand A.pend (by rw [cont?_setCont_self]; rfl)
    (hK.of_sig A.sig (fun x hix hx => by simpa only [hinfo_setCont, A.hinfo] using hx))
    (hF.step (fun z hz => by rw [← A.sig.isSome]; exact hz) (by rw [hq]; rfl) A.below)
  exact ⟨_, _, qc, e, w1, cx1, qc', cx3, w3, hq, hst, hs.congr hT1 ha1, hnp, rfl⟩

/-- the notification chain never fails (the reasons, branch by branch, are in the header) -/
theorem notify_total (D : SlabID → DigestFn 4) (rank : SlabID → Nat) (O : SlabID → Prop) :
    ∀ fuel, NotifyTotal D rank O fuel := by
  intro fuel
  induction fuel with
  | zero => intro w y cx _ _ _ _ _ hF; exact absurd hF.pos (Nat.lt_irrefl 0)
  | succ fuel ih =>
    intro w y cx H hhand hO hlive hK hF
    obtain ⟨c, hc⟩ := Option.isSome_iff_exists.mp hlive
    have hOy : ¬ O y := fun hh => by have := hO y hh hlive; omega
    cases hh : AList.find? w.hinfo y with
    | none => exact ⟨_, _, notifyParent_of_no_closure cx hh⟩
    | some hi =>
    by_cases hs : c.isInlined = false ∧ c.inlinable hi.maxInline = false
    · exact ⟨_, _, notifyParent_succ_iff.mpr (.inr ⟨hi, c, hh, hc, .inl ⟨hs, rfl, rfl⟩⟩)⟩
    -- the closure is dropped for the reason `r`, or finds its slot
    have drop := fun r => (⟨_, _, notifyParent_succ_iff.mpr (.inr ⟨hi, c, hh, hc, .inr ⟨hs, .inl ⟨rfl, rfl, r⟩⟩⟩)⟩ :
      ∃ w' cx', notifyParent (fuel + 1) w y cx = .ok (w', cx'))
    have finds : ∀ {qc s el}, SlotFinds w y hi qc s el → ∃ w' cx', notifyParent (fuel + 1) w y cx = .ok (w', cx') := by
      intro qc s el hf
      obtain ⟨j, hks⟩ := hf.get.kslot H.legal (H.conts _ _ hf.parent) (fun m hm => H.cfgOk (hm ▸ hf.parent))
        (by
          intro k hk
          have hso := hf.slot
          cases qc <;> cases hk <;> first | exact hso.elim | exact ((H.closure y hi hh).2 _ _ hf.parent hso).1)
      obtain ⟨hi', hhi', _, hpar⟩ := hhand.of_held (holds_of_kslot hf.parent hks hf.pay)
      rw [hh] at hhi'; cases hhi'
      obtain ⟨w4, cx4, hsr⟩ := setRaw_child_total ih H hO hh hc hf hpar hK hF
      exact ⟨_, _, notifyParent_succ_iff.mpr (.inr ⟨hi, c, hh, hc, .inr ⟨hs, .inr ⟨qc, s, el, el, hf, hsr, hf.pay⟩⟩⟩)⟩
    cases hp : w.cont? hi.parent with
    | none => exact drop (.inl hp)
    | some pc =>
    cases pc with
    | arr pa =>
      cases hidx : AList.find? (w.idxOf hi.parent) y with
      | none => exact drop (.inr (.inl ⟨pa, hp, hidx⟩))
      | some idx =>
      -- a recorded index is in range and holds `y`
      have hpays := H.mutIdx hi.parent pa hp y idx hidx hOy
      rw [Cont.pays, Cont.storedElems, List.getElem?_map] at hpays
      obtain ⟨el, hge, hpay⟩ : ∃ el, pa.toList[idx]? = some el ∧ el.pay = .ref y := by
        cases hg : pa.toList[idx]? with
        | none => rw [hg] at hpays; cases hpays
        | some el => rw [hg] at hpays; exact ⟨el, rfl, by simpa using hpays⟩
      have hpok : ArrOk w.T pa cx.ctr := H.conts hi.parent _ hp
      exact finds (qc := .arr pa) (s := .idx idx) ⟨hp, hidx, hpok.get_of_getElem? H.legal hge, hpay⟩
    | map pm =>
      cases hk : hi.key with
      | none =>
        have := hK y hi pm hh hp
        rw [hk] at this
        cases this
      | some k =>
      obtain ⟨hkok, _, _⟩ := (H.closure y hi hh).2 pm k hp hk
      have hmok : MapOk w.T (D hi.parent) pm cx.ctr := H.conts hi.parent _ hp
      obtain ⟨g1, g2⟩ := hmok.get_spec H.legal (H.cfgOk hp) hkok
      by_cases hex : ∃ v, (k, v) ∈ pm.toList
      · obtain ⟨el, hmem⟩ := hex
        by_cases hpay : el.pay = .ref y
        · exact finds (qc := .map pm) (s := .key k) ⟨hp, hk, ⟨k, g1 el hmem⟩, hpay⟩
        · exact drop (.inr (.inr (.inr (.inr ⟨pm, k, k, el, hp, hk, g1 el hmem, hpay⟩))))
      · exact drop (.inr (.inr (.inr (.inl ⟨pm, k, hp, hk, g2 (fun p hp' he => hex ⟨p.2, by rw [← he]; exact hp'⟩)⟩))))

end World
end Atree

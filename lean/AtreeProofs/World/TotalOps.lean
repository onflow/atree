import AtreeProofs.World.TotalNotify
import AtreeProofs.World.OpsArr
import AtreeProofs.World.OpsMap
import AtreeProofs.World.OpsMisc
/-
  The public mutators SUCCEED through a current handle, under `WorldOk` (+ `KeyedClosures`, see
  `TotalNotify.lean`): once for the normal form of a mutation (`Mutation.total`).  The value phase never
  fails (`storableOf_total`), the core operation succeeds by hypothesis (per shape: `ArrOk.*_succeeds`,
  `MapOk.*_succeeds`), the world at the notification is the one of the invariant's proof (`prep_phase`,
  `Mutation.filed`), where `notify_total` applies, and the hand-back never fails (`uninlineIfNeeded_total`).
  Array operations and `setType` (not a `Mutation`: its notification is conditional) here, map operations
  in `TotalOpsMap.lean`.
-/
namespace Atree
open Gen

namespace World

variable {D : SlabID → DigestFn 4}

/-- `KeyedClosures` survives an update that changes the kind of no container and installs only
    closures of the right kind -/
theorem KeyedClosures.transfer {w w' : World} (h : KeyedClosures w)
    (hkind : ∀ z m', w'.cont? z = some (.map m') → ∃ m, w.cont? z = some (.map m))
    (hh : ∀ x hi, AList.find? w'.hinfo x = some hi →
      AList.find? w.hinfo x = some hi ∨ hi.key.isSome = true ∨ ∃ a, w'.cont? hi.parent = some (.arr a)) :
    KeyedClosures w' := by
  intro x hi pm hx hp
  rcases hh x hi hx with h1 | h1 | ⟨a, h1⟩
  · obtain ⟨m, hm⟩ := hkind _ _ hp
    exact h x hi m h1 hm
  · exact h1
  · rw [hp] at h1; cases h1

theorem ContsSig.map_back {w w' : World} (hS : ContsSig w w') {z : SlabID} {m' : OMap 3}
    (h : w'.cont? z = some (.map m')) : ∃ m, w.cont? z = some (.map m) := by
  obtain ⟨c, hc, hs⟩ := hS.symm.get h
  cases c with
  | arr a => simp [Cont.sig] at hs
  | map m => exact ⟨m, hc⟩

/-- the world at the notification of an operation on `p`: `p` has been replaced by a container of
    the same kind, the closures are those of `w` -/
theorem KeyedClosures.mutate {w w1 w2 : World} (h : KeyedClosures w) (hS1 : ContsSig w w1) (hh1 : w1.hinfo = w.hinfo)
    {p : SlabID} {pc pc' : Cont} (hp : w.cont? p = some pc) (hkind : pc'.isArr = pc.isArr)
    (hcp : w2.cont? p = some pc') (hco : ∀ z, z ≠ p → w2.cont? z = w1.cont? z) (hh2 : w2.hinfo = w1.hinfo) :
    KeyedClosures w2 := by
  refine h.transfer (fun z m' hz => ?_) (fun x hi hx => Or.inl (by rw [← hh1, ← hh2]; exact hx))
  by_cases hzp : z = p
  · subst hzp
    rw [hcp] at hz; cases hz
    cases pc with
    | arr a => cases hkind
    | map m => exact ⟨m, hp⟩
  · rw [hco z hzp] at hz
    exact hS1.map_back hz

theorem storableOf_total {w : World} {p : SlabID} {lim : Nat} {v : WVal} (hv : WValOk w p lim v) (cx : Ctx) :
    ∃ e w1 cx1, w.storableOf v lim cx = .ok (e, w1, cx1) := by
  cases v with
  | plain e => exact ⟨_, _, _, rfl⟩
  | child x wr =>
    obtain ⟨c, hc⟩ := Option.isSome_iff_exists.mp hv.1
    exact childStorable_total hc wr lim cx

/-- `uninlineStorableIfNeeded` never fails (an inlined container has the one-slab form `Uninline`
    expects) -/
theorem uninlineIfNeeded_total (w : World) (e : Elem) (cx : Ctx) :
    ∃ e' ov w' cx', w.uninlineIfNeeded e cx = .ok (e', ov, w', cx') := by
  rcases uninlineIfNeeded_returns w e cx with ⟨_, h⟩ | ⟨_, _, _, _, _, h⟩ | ⟨_, _, _, _, _, _, _, h⟩ <;> exact ⟨_, _, _, _, h⟩

theorem notify_fuelOf_total {rank : SlabID → Nat} {O : SlabID → Prop} {w : World} {y : SlabID} {cx : Ctx}
    (H : WorldOkGen D rank (some y) O w cx.ctr) (hhand : HandleOk w y)
    (hO : ∀ z, O z → (w.cont? z).isSome → rank y < rank z) (hlive : (w.cont? y).isSome)
    (hK : KeyedClosures w) : ∃ w' cx', notifyParent w.fuelOf w y cx = .ok (w', cx') :=
  notify_total D rank O _ w y cx H hhand hO hlive hK (fuelOk_fuelOf rank w y)

/-- A mutation through a current handle succeeds, for every shape that satisfies the slot-level law, as soon
    as its core operation succeeds (`hcore`: on `pc`, in a world that satisfies the invariant — the one after
    the value phase — with a storable that fits the slot).  The value phase and the hand-back never fail;
    the world at the notification is the one of `Mutation.filed`, where `notify_total` applies. -/
theorem Mutation.total {S : MutShape} {Q : Cont → Option Elem → Option Elem → Cont → Prop} {rank0 : SlabID → Nat}
    {w : World} {cx : Ctx} {pc : Cont} (L : S.SlotLaw D w.T Q)
    (H0 : WorldOkGen D rank0 none (fun _ => False) w cx.ctr) (hK : KeyedClosures w) (hhand : HandleOk w S.p)
    (hv : ∀ v0, S.val = some v0 → WValOk w S.p (S.lim w.T) v0) (hp : w.cont? S.p = some pc)
    (hcore : ∀ {w1 : World} {rank : SlabID → Nat} {O : SlabID → Prop} {e : Option Elem} {cx1 : Ctx},
      w1.T = w.T → w1.addr = w.addr → WorldOkGen D rank none O w1 cx1.ctr → w1.cont? S.p = some pc → ¬ O S.p →
      (∀ e0, e = some e0 → 1 ≤ e0.size ∧ e0.size ≤ S.lim w.T) → e.isSome = S.val.isSome →
      ∃ old pc' cx2, S.core w1.T w1.mcfg pc e cx1 old pc' cx2)
    (hfuel : ∀ rank w2, (∀ z, (w2.cont? z).isSome → (w.cont? z).isSome) → FuelOk rank w2 S.p (S.fuel w w2)) :
    ∃ old' w' cx', Mutation S w cx old' w' cx' := by
  obtain ⟨e, w1, cx1, hprep, hsome⟩ : ∃ e w1 cx1, Prep w cx (S.lim w.T) S.val e w1 cx1 ∧ e.isSome = S.val.isSome := by
    cases hval : S.val with
    | none => exact ⟨none, w, cx, ⟨rfl, rfl, rfl⟩, rfl⟩
    | some v =>
      obtain ⟨e0, w1, cx1, hst⟩ := storableOf_total (hv v hval) cx
      exact ⟨some e0, w1, cx1, ⟨e0, rfl, hst⟩, rfl⟩
  obtain ⟨rank', O1, P⟩ := prep_phase H0 (S.lim_le _) hv hprep
  have hp1 : w1.cont? S.p = some pc := by rw [P.same _ P.notP]; exact hp
  obtain ⟨old, pc', cx2, hc⟩ := hcore P.hT P.addr (by rw [P.ctr]; exact P.ok) hp1 P.notP P.fit hsome
  obtain ⟨H2, _, hcp2, hco2, hT2, hh2, hidx2, _, harr, _, _, _, _, _, _, C⟩ := Mutation.filed L P hp1 hc
  have hlive : ∀ z, ((S.reidx (w1.setCont S.p pc')).cont? z).isSome → (w.cont? z).isSome := by
    intro z hz
    by_cases hzp : z = S.p
    · subst hzp; rw [hp]; rfl
    · rw [hco2 z hzp, P.sig.isSome] at hz; exact hz
  obtain ⟨w3, cx3, hnp⟩ := notify_total D rank' (PendAt O1 old) _ _ S.p cx2 H2
    (handleOk_mutate P.ok.rank H2.rank hp1 hcp2 hco2 hT2 hh2 hidx2 (P.hand hhand))
    (fun z hz hzs => hz.elim (fun h => (P.pend z h).2.1) (fun ⟨o, ho, hpz⟩ => by
      obtain ⟨i0, ko, lim, _, h2⟩ := C.dropped o ho
      exact P.rankW S.p z (holds_of_kslot hp h2 hpz) (hlive z hzs)))
    (by rw [hcp2]; rfl) (hK.mutate P.sig P.hinfo hp harr hcp2 hco2 hh2) (hfuel rank' _ hlive)
  obtain ⟨old', ov, w5, cx', hb⟩ : ∃ old' ov w5 cx', HandBack (S.cb w3) cx3 old old' ov w5 cx' := by
    cases old with
    | none => exact ⟨none, none, _, _, rfl, rfl, rfl, rfl⟩
    | some o =>
      obtain ⟨o', ov, w5, cx', hun⟩ := uninlineIfNeeded_total (S.cb w3) o cx3
      exact ⟨some o', ov, w5, cx', o', rfl, hun⟩
  exact ⟨old', _, cx', pc, e, w1, cx1, old, pc', cx2, w3, cx3, ov, w5, hp, hprep, hc, hnp, hb, rfl⟩

/-- `Array.Insert` through a current handle succeeds: index in range, array not full -/
theorem arrInsert_succeeds {w : World} {p : SlabID} {i : Nat} {v : WVal} {cx : Ctx} {a : Arr}
    (H : WorldOk D w cx.ctr) (hK : KeyedClosures w) (hhand : HandleOk w p)
    (hv : WValOk w p (maxInlineArr w.T) v) (hpa : w.cont? p = some (.arr a))
    (hi : i ≤ a.toList.length) (hcount : a.count < maxArrayElementCount) :
    ∃ w' cx', w.arrInsert p i v cx = .ok (w', cx') := by
  obtain ⟨rank0, H0⟩ := H
  obtain ⟨old', w', cx', M⟩ := Mutation.total (S := shInsert p i v) (shInsert_slotLaw p i v w.T) H0 hK hhand
    (fun _ h => by cases h; exact hv) hpa
    (fun {w1 rank O e cx1} hT _ H1 hp1 hO hfit hsome => by
      obtain ⟨e0, rfl⟩ := Option.isSome_iff_exists.mp (hsome.trans rfl)
      obtain ⟨he1, he2⟩ := hfit e0 rfl
      have hpok : ArrOk w1.T a cx1.ctr := H1.conts p _ hp1
      obtain ⟨a', cx2, hins, _⟩ := hpok.insert_succeeds H1.legal (StorOk.of_elemOk ⟨he1, hT ▸ he2⟩)
        (H1.arr_room hp1 (by intro h; cases h) hO) hcount hi
      exact ⟨none, .arr a', cx2, a, a', e0, rfl, rfl, rfl, rfl, by rw [hpok.count_eq]; exact hi, hins⟩)
    (fun r w2 _ => fuelOk_fuelOf r w2 _)
  obtain rfl := M.old'_none shInsert_old
  exact ⟨w', cx', arrInsert_mutation.mpr M⟩

/-- `Array.Set` through a current handle succeeds on an index in range -/
theorem arrSet_succeeds {w : World} {p : SlabID} {i : Nat} {v : WVal} {cx : Ctx} {a : Arr}
    (H : WorldOk D w cx.ctr) (hK : KeyedClosures w) (hhand : HandleOk w p)
    (hv : WValOk w p (maxInlineArr w.T) v) (hpa : w.cont? p = some (.arr a))
    (hi : i < a.toList.length) :
    ∃ old' w' cx', w.arrSet p i v cx = .ok (old', w', cx') := by
  obtain ⟨rank0, H0⟩ := H
  obtain ⟨old', w', cx', M⟩ := Mutation.total (S := shSet p i v) (shSet_slotLaw p i v w.T) H0 hK hhand
    (fun _ h => by cases h; exact hv) hpa
    (fun {w1 rank O e cx1} hT _ H1 hp1 hO hfit hsome => by
      obtain ⟨e0, rfl⟩ := Option.isSome_iff_exists.mp (hsome.trans rfl)
      obtain ⟨he1, he2⟩ := hfit e0 rfl
      have hpok : ArrOk w1.T a cx1.ctr := H1.conts p _ hp1
      obtain ⟨a', cx2, hs, _⟩ := hpok.set_succeeds H1.legal (StorOk.of_elemOk ⟨he1, hT ▸ he2⟩)
        (H1.arr_room hp1 (by intro h; cases h) hO) hi
      exact ⟨some _, .arr a', cx2, a, a', e0, _, rfl, rfl, rfl, rfl, by rw [hpok.count_eq]; exact hi, hs⟩)
    (fun r w2 h => fuelOk_fuelOf_of_live r _ h)
  obtain ⟨o', rfl⟩ := M.old'_some shSet_old
  exact ⟨o', w', cx', arrSet_mutation.mpr M⟩

/-- `Array.Remove` through a current handle succeeds on an index in range -/
theorem arrRemove_succeeds {w : World} {p : SlabID} {i : Nat} {cx : Ctx} {a : Arr}
    (H : WorldOk D w cx.ctr) (hK : KeyedClosures w) (hhand : HandleOk w p)
    (hpa : w.cont? p = some (.arr a)) (hi : i < a.toList.length) :
    ∃ old' w' cx', w.arrRemove p i cx = .ok (old', w', cx') := by
  obtain ⟨rank0, H0⟩ := H
  obtain ⟨old', w', cx', M⟩ := Mutation.total (S := shRemove p i) (shRemove_slotLaw p i w.T) H0 hK hhand
    (fun _ h => by cases h) hpa
    (fun {w1 rank O e cx1} hT _ H1 hp1 hO hfit hsome => by
      have hpok : ArrOk w1.T a cx1.ctr := H1.conts p _ hp1
      obtain ⟨a', cx2, hs, _⟩ := hpok.remove_succeeds H1.legal hi
      exact ⟨some _, .arr a', cx2, a, a', _, rfl, rfl, rfl, hs⟩)
    (fun r w2 _ => fuelOk_fuelOf r w2 _)
  obtain ⟨o', rfl⟩ := M.old'_some shRemove_old
  exact ⟨o', w', cx', arrRemove_mutation.mpr M⟩

theorem setType_succeeds {w : World} {p : SlabID} {ty : Nat} {cx : Ctx}
    (H : WorldOk D w cx.ctr) (hK : KeyedClosures w) (hhand : HandleOk w p) (hlive : (w.cont? p).isSome) :
    ∃ w' cx', w.setType p ty cx = .ok (w', cx') := by
  obtain ⟨rank0, H0⟩ := H
  obtain ⟨c, hc⟩ := Option.isSome_iff_exists.mp hlive
  -- the retagged container `c'`: same data, same form, same size (`setType_retag`)
  obtain ⟨c', cx1, hcc, hrun⟩ : ∃ c' cx1,
      ((∃ a, c = .arr a ∧ c' = .arr (a.setType ty cx).1 ∧ cx1 = (a.setType ty cx).2) ∨
       (∃ m, c = .map m ∧ c' = .map (m.setType ty cx).1 ∧ cx1 = (m.setType ty cx).2)) ∧
      w.setType p ty cx = if c.isInlined then notifyParent (w.setCont p c').fuelOf (w.setCont p c') p cx1
        else .ok (w.setCont p c', cx1) := by
    cases c with
    | arr a => exact ⟨_, _, .inl ⟨a, rfl, rfl, rfl⟩, by unfold setType; simp only [hc]; rfl⟩
    | map m => exact ⟨_, _, .inr ⟨m, rfl, rfl, rfl⟩, by unfold setType; simp only [hc]; rfl⟩
  obtain ⟨hsd, hinl, hrs, hable, hctr, hok⟩ := setType_retag hcc
  have hok' := hok (H0.conts p _ hc)
  rw [hrun]
  split
  · have H1 : WorldOkGen D rank0 none (fun _ => False) (w.setCont p c') cx.ctr :=
      step_sameform H0 hc hsd hok' hinl hrs hable rfl rfl rfl rfl (cont?_setCont_self _ _ _)
        (fun z hz => cont?_setCont_ne _ _ _ _ hz)
    have hS : ContsSig w (w.setCont p c') :=
      .of_one rfl hc (cont?_setCont_self _ _ _) hsd.sig_eq (fun z hz => cont?_setCont_ne _ _ _ _ hz)
    exact notify_fuelOf_total (by rw [hctr]; exact H1.restale p)
      (hhand.transfer (fun q y => (hS.holds_iff q y).mp) (CurKept.of_sig hS (fun _ _ => rfl) (fun _ _ hy _ => hy)))
      (fun z hz _ => absurd hz id) (by simp) (hK.of_sig hS (fun _ _ hx => hx))
  · exact ⟨_, _, rfl⟩

end World
end Atree

import AtreeProofs.World.TotalOps
/-
  `mapSet` and `mapRemove` SUCCEED through a current
  handle under `WorldOk` (+ `KeyedClosures`): `mapSet` unless the collision limit refuses the (new)
  key, `mapRemove` on a key that is present.
-/
namespace Atree
open Gen

namespace World

variable {D : SlabID → DigestFn 4}

/-- `OrderedMap.Set` through a current handle succeeds unless the collision limit refuses the key -/
theorem mapSet_succeeds {w : World} {p : SlabID} {k : MKey} {v : WVal} {cx : Ctx} {m : OMap 3}
    (H : WorldOk D w cx.ctr) (hK : KeyedClosures w) (hhand : HandleOk w p) (hk : KeyOk w.T 4 (D p) k)
    (hv : WValOk w p (maxInlineMapValue w.T k.size) v) (hpm : w.cont? p = some (.map m))
    (hnl : ¬ TLimited w.mcfg m.d m.root k) :
    ∃ old w' cx', w.mapSet p k v cx = .ok (old, w', cx') := by
  obtain ⟨rank0, H0⟩ := H
  obtain ⟨old', w', cx', M⟩ := Mutation.total (S := shMapSet p k v) (shMapSet_slotLaw hk v) H0 hK hhand
    (fun _ h => by cases h; exact hv) hpm
    (fun {w1 rank O e cx1} hT ha H1 hp1 hO hfit hsome => by
      obtain ⟨e0, rfl⟩ := Option.isSome_iff_exists.mp (hsome.trans rfl)
      obtain ⟨he1, he2⟩ := hfit e0 rfl
      have hmok : MapOk w1.T (D p) m cx1.ctr := H1.conts p _ hp1
      obtain ⟨old, m', cx2, hs, _⟩ := hmok.set_succeeds H1.legal (H1.cfgOk hp1) (hT ▸ hk) ⟨he1, Or.inr (hT ▸ he2)⟩
        (H1.map_room hp1 (by intro h; cases h) hO) (by rw [mcfg_congr hT ha]; exact hnl)
      exact ⟨old, .map m', cx2, m, m', e0, rfl, rfl, rfl, hs⟩)
    (fun r w2 h => fuelOk_fuelOf_of_live r _ h)
  exact ⟨old', w', cx', mapSet_mutation.mpr M⟩

/-- `OrderedMap.Remove` through a current handle succeeds on a key that is present, and hands back
    that key -/
theorem mapRemove_succeeds {w : World} {p : SlabID} {k : MKey} {cx : Ctx} {m : OMap 3} {rv : Elem}
    (H : WorldOk D w cx.ctr) (hK : KeyedClosures w) (hhand : HandleOk w p) (hk : KeyOk w.T 4 (D p) k)
    (hpm : w.cont? p = some (.map m)) (hmem : (k, rv) ∈ m.toList) :
    ∃ rv' w' cx', w.mapRemove p k cx = .ok (k, rv', w', cx') := by
  obtain ⟨rank0, H0⟩ := H
  obtain ⟨old', w', cx', M⟩ := Mutation.total (S := shMapRemove p k k) (shMapRemove_slotLaw hk k) H0 hK hhand
    (fun _ h => by cases h) hpm
    (fun {w1 rank O e cx1} hT ha H1 hp1 hO hfit hsome => by
      have hmok : MapOk w1.T (D p) m cx1.ctr := H1.conts p _ hp1
      obtain ⟨m', cx2, hs, _⟩ := hmok.remove_succeeds H1.legal (H1.cfgOk hp1) (hT ▸ hk)
        (H1.map_room hp1 (by intro h; cases h) hO) hmem
      exact ⟨some rv, .map m', cx2, m, m', rv, rfl, rfl, rfl, hs⟩)
    (fun r w2 _ => fuelOk_fuelOf r w2 _)
  obtain ⟨o', rfl⟩ := M.old'_some shMapRemove_old
  exact ⟨o', w', cx', mapRemove_mutation.mpr M⟩

end World
end Atree

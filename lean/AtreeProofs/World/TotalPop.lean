import AtreeProofs.World.TotalSim
import AtreeProofs.World.TotalOpsMap
import AtreeProofs.World.WPopMid
import AtreeProofs.World.WPopCont
/-
  The BULK POPS through a current handle always succeed
  (`arrPop`, `mapPop`, `arrPopKeep`, `mapPopKeep`), and the lookups `arrGet` / `mapGet` succeed in
  range / on a present key (they never notify).  Directly for the invariant `WorldOk'`
  (`WorldOkPK`): the world after the disposal of the popped containers is where closures with dead
  parents appear; the notification is run on its pruned version (`pop_mid` gives the generalised
  invariant there, `notify_total` the success) and carried back by the reverse simulation
  (`rsim_notifyParent`).
-/
namespace Atree
open Gen

namespace World

variable {D : SlabID → DigestFn 4} {rank : SlabID → Nat}

theorem PopRel.keyed {w w2 : World} {h : SlabID} {pc pc' : Cont} (P : PopRel w w2 h pc pc')
    (harr : pc'.isArr = pc.isArr) (hK : KeyedClosures w) : KeyedClosures w2.prune := by
  refine hK.transfer (fun z m' hz => ?_) (fun x hi hx => Or.inl (P.hinfo_sub (find?_prune_some.mp hx).1))
  rw [cont?_prune] at hz
  by_cases hzh : z = h
  · subst hzh
    rw [P.now] at hz; cases hz
    have hw := P.was
    cases pc with
    | arr a => cases harr
    | map m => exact ⟨m, hw⟩
  · exact ⟨m', (P.kept hzh hz).1⟩

/-- The bulk pop of a container of either kind through a current handle: the notification succeeds. -/
theorem pop_core_total {w e0 : World} {h : SlabID} {pc pc' : Cont} {keep : List SlabID} {es : List Elem}
    {cx cx1 : Ctx}
    (H : WorldOkPK D rank (fun _ => False) w cx.ctr) (hKc : KeyedClosures w) (hhand : HandleOk w h)
    (hp : w.cont? h = some pc) (S : PopIter w.T (D h) pc cx es pc' cx1)
    (E : Emptied w h pc' e0) (hidx : ∀ x, AList.find? (e0.idxOf h) x = none) :
    ∃ w' cx', notifyParent (e0.forgetElems (disposed keep es)).fuelOf (e0.forgetElems (disposed keep es)) h cx1
      = .ok (w', cx') := by
  obtain ⟨M, _⟩ := pop_mid (keep := keep) H hhand hp S E hidx
  have hlive : ((e0.forgetElems (disposed keep es)).cont? h).isSome := by rw [M.rel.now]; rfl
  obtain ⟨w0', cx', hn0⟩ := notify_total D rank _ (e0.forgetElems (disposed keep es)).fuelOf _ h cx1 M.ok M.hand
    M.pend hlive (M.rel.keyed S.isArr hKc)
    (fuelOk_fuelOf_of_live rank h (fun z hz => by rw [cont?_prune] at hz; exact hz))
  obtain ⟨w', hn, _⟩ := rsim_notifyParent _ _ _ _ _ _ _ _ M.sim hlive hn0
  exact ⟨w', cx', hn⟩

/-- `Array.PopIterate` through a current handle (the caller keeping the children `keep`) succeeds
    and hands out the elements, last to first -/
theorem arrPopKeep_succeeds {w : World} {h : SlabID} {keep : List SlabID} {cx : Ctx} {a : Arr}
    (H : WorldOk' D w cx.ctr) (hKc : KeyedClosures w) (hh : HandleOk w h) (hc : w.cont? h = some (.arr a)) :
    ∃ w' cx', w.arrPopKeep h keep cx = .ok (a.toList.reverse, w', cx') := by
  obtain ⟨rank, H0⟩ := H
  obtain ⟨w', cx', hn⟩ := pop_core_total (keep := keep) H0 hKc hh hc
    (PopIter.arr H0.legal a cx (H0.conts h _ hc)) (emptied_arr hc cx) (fun x => by simp)
  refine ⟨w', cx', arrPopKeep_ok_iff.mpr ⟨a, _, hc, (arr_popIterate_refines a cx).1.symm, rfl, ?_⟩⟩
  rw [← (arr_popIterate_refines a cx).1]
  exact hn

/-- `OrderedMap.PopIterate` through a current handle (the caller keeping the children `keep`) -/
theorem mapPopKeep_succeeds {w : World} {h : SlabID} {keep : List SlabID} {cx : Ctx} {m : OMap 3}
    (H : WorldOk' D w cx.ctr) (hKc : KeyedClosures w) (hh : HandleOk w h) (hc : w.cont? h = some (.map m)) :
    ∃ w' cx', w.mapPopKeep h keep cx = .ok (m.toList.reverse, w', cx') := by
  obtain ⟨rank, H0⟩ := H
  have hfst : (m.popIterate cx).1 = m.toList.reverse := MTree.popIterate_fst m.d m.root cx
  obtain ⟨w', cx', hn⟩ := pop_core_total (keep := keep) H0 hKc hh hc
    (PopIter.map H0.legal m cx (H0.conts h _ hc)) (emptied_map hc cx) (emptied_map_idx H0.idxLive hc cx)
  refine ⟨w', cx', mapPopKeep_ok_iff.mpr ⟨m, _, hc, hfst.symm, rfl, ?_⟩⟩
  rw [← hfst]
  exact hn

/-- `Array.Get` succeeds on an index in range and returns the element -/
theorem arrGet_succeeds {w : World} {p : SlabID} {i : Nat} {a : Arr} {el : Elem} {T ctr : Nat}
    (hT : legalThreshold T = true) (hok : ArrOk T a ctr) (hpa : w.cont? p = some (.arr a))
    (hi : a.toList[i]? = some el) : ∃ w', w.arrGet p i = .ok (el, w') := by
  unfold arrGet
  simp only [hpa, hok.get_of_getElem? hT hi]
  cases hp : el.pay with
  | val n => exact ⟨_, rfl⟩
  | ref vid =>
    simp only
    cases w.cont? vid with
    | none => exact ⟨_, rfl⟩
    | some c => exact ⟨_, rfl⟩

/-- `Array.Get` rejects an index out of range -/
theorem arrGet_oob {w : World} {p : SlabID} {i : Nat} {a : Arr} {T ctr : Nat}
    (hT : legalThreshold T = true) (hok : ArrOk T a ctr) (hpa : w.cont? p = some (.arr a))
    (hi : a.toList.length ≤ i) : w.arrGet p i = .error (.arr .indexOutOfBounds) := by
  unfold arrGet
  simp only [hpa, (hok.get_spec hT i).2 hi]

/-- `OrderedMap.Get` succeeds on a key that is present and returns its value -/
theorem mapGet_succeeds {w : World} {p : SlabID} {k : MKey} {m : OMap 3} {el : Elem} {Dm : DigestFn 4} {ctr : Nat}
    (hT : legalThreshold w.T = true) (hok : MapOk w.T Dm m ctr) (hcfg : CfgOk w.mcfg w.T m)
    (hk : KeyOk w.T 4 Dm k) (hpm : w.cont? p = some (.map m)) (hmem : (k, el) ∈ m.toList) :
    ∃ w', w.mapGet p k = .ok (el, w') := by
  unfold mapGet
  simp only [hpm, (hok.get_spec hT hcfg hk).1 el hmem]
  cases hp : el.pay with
  | val n => exact ⟨_, rfl⟩
  | ref vid =>
    simp only
    cases w.cont? vid with
    | none => exact ⟨_, rfl⟩
    | some c => exact ⟨_, rfl⟩

/-- `OrderedMap.Get` of an absent key: `keyNotFound` -/
theorem mapGet_absent {w : World} {p : SlabID} {k : MKey} {m : OMap 3} {Dm : DigestFn 4} {ctr : Nat}
    (hT : legalThreshold w.T = true) (hok : MapOk w.T Dm m ctr) (hcfg : CfgOk w.mcfg w.T m)
    (hk : KeyOk w.T 4 Dm k) (hpm : w.cont? p = some (.map m)) (habs : ∀ q ∈ m.toList, q.1 ≠ k) :
    w.mapGet p k = .error (.map .keyNotFound) := by
  unfold mapGet
  simp only [hpm, (hok.get_spec hT hcfg hk).2 habs]

end World
end Atree

import AtreeProofs.World.TotalPop
/-
  The rejections: which error a public operation of the World model answers when its ARGUMENT is
  rejected by the underlying array / map model — index out of range, array full, collision limit, key
  not found — or when the handle names no container of the right kind.  None of them involves the
  notification.
-/
namespace Atree
open Gen

namespace World

variable {D : SlabID → DigestFn 4}

theorem arrInsert_unknown {w : World} {p : SlabID} (i : Nat) (v : WVal) (cx : Ctx)
    (h : ∀ a, w.cont? p ≠ some (.arr a)) : w.arrInsert p i v cx = .error .unknownContainer := by
  unfold arrInsert
  cases hc : w.cont? p with
  | none => rfl
  | some c =>
    cases c with
    | arr a => exact absurd hc (h a)
    | map m => rfl

theorem arrSet_unknown {w : World} {p : SlabID} (i : Nat) (v : WVal) (cx : Ctx)
    (h : ∀ a, w.cont? p ≠ some (.arr a)) : w.arrSet p i v cx = .error .unknownContainer := by
  unfold arrSet
  rw [arrSetRaw]
  cases hc : w.cont? p with
  | none => rfl
  | some c =>
    cases c with
    | arr a => exact absurd hc (h a)
    | map m => rfl

theorem arrRemove_unknown {w : World} {p : SlabID} (i : Nat) (cx : Ctx)
    (h : ∀ a, w.cont? p ≠ some (.arr a)) : w.arrRemove p i cx = .error .unknownContainer := by
  unfold arrRemove
  cases hc : w.cont? p with
  | none => rfl
  | some c =>
    cases c with
    | arr a => exact absurd hc (h a)
    | map m => rfl

theorem mapSet_unknown {w : World} {p : SlabID} (k : MKey) (v : WVal) (cx : Ctx)
    (h : ∀ m, w.cont? p ≠ some (.map m)) : w.mapSet p k v cx = .error .unknownContainer := by
  unfold mapSet
  rw [mapSetRaw]
  cases hc : w.cont? p with
  | none => rfl
  | some c =>
    cases c with
    | arr a => rfl
    | map m => exact absurd hc (h m)

theorem mapRemove_unknown {w : World} {p : SlabID} (k : MKey) (cx : Ctx)
    (h : ∀ m, w.cont? p ≠ some (.map m)) : w.mapRemove p k cx = .error .unknownContainer := by
  unfold mapRemove
  cases hc : w.cont? p with
  | none => rfl
  | some c =>
    cases c with
    | arr a => rfl
    | map m => exact absurd hc (h m)

theorem setType_unknown {w : World} {p : SlabID} (ty : Nat) (cx : Ctx) (h : w.cont? p = none) :
    w.setType p ty cx = .error .unknownContainer := by
  unfold setType
  simp only [h]

theorem arrInsert_oob {w : World} {p : SlabID} {i : Nat} {a : Arr} {ctr : Nat} (v : WVal) (cx : Ctx)
    (hok : ArrOk w.T a ctr) (hpa : w.cont? p = some (.arr a)) (hi : a.toList.length < i) :
    w.arrInsert p i v cx = .error (.arr .indexOutOfBounds) := by
  unfold arrInsert
  simp only [hpa]
  rw [if_pos (by rw [hok.count_eq]; exact hi)]

theorem arrInsert_full {w : World} {p : SlabID} {i : Nat} {a : Arr} {ctr : Nat} {v : WVal} {cx : Ctx}
    (hok : ArrOk w.T a ctr) (hpa : w.cont? p = some (.arr a)) (hv : WValOk w p (maxInlineArr w.T) v)
    (hi : i ≤ a.toList.length) (hfull : a.count = maxArrayElementCount) :
    w.arrInsert p i v cx = .error (.arr .maxElementCount) := by
  obtain ⟨e, w1, cx1, hst⟩ := storableOf_total hv cx
  unfold arrInsert
  simp only [hpa]
  rw [if_neg (by rw [hok.count_eq]; omega)]
  simp only [bind, Except.bind, hst, Arr.insert_full a cx1 i e hfull]

theorem arrSet_oob {w : World} {p : SlabID} {i : Nat} {a : Arr} {ctr : Nat} (v : WVal) (cx : Ctx)
    (hok : ArrOk w.T a ctr) (hpa : w.cont? p = some (.arr a)) (hi : a.toList.length ≤ i) :
    w.arrSet p i v cx = .error (.arr .indexOutOfBounds) := by
  unfold arrSet
  rw [arrSetRaw]
  simp only [hpa]
  rw [if_pos (by rw [hok.count_eq]; exact hi)]
  rfl

theorem arrRemove_oob {w : World} {p : SlabID} {i : Nat} {a : Arr} (cx : Ctx)
    (hok : ArrOk w.T a cx.ctr) (hpa : w.cont? p = some (.arr a)) (hi : a.toList.length ≤ i) :
    w.arrRemove p i cx = .error (.arr .indexOutOfBounds) := by
  unfold arrRemove
  simp only [hpa, hok.remove_oob hi]

theorem mapRemove_absent {w : World} {p : SlabID} {k : MKey} {m : OMap 3} {Dm : DigestFn 4} (cx : Ctx)
    (hT : legalThreshold w.T = true) (hok : MapOk w.T Dm m cx.ctr) (hcfg : CfgOk w.mcfg w.T m)
    (hk : KeyOk w.T 4 Dm k) (hpm : w.cont? p = some (.map m)) (habs : ∀ q ∈ m.toList, q.1 ≠ k) :
    w.mapRemove p k cx = .error (.map .keyNotFound) := by
  unfold mapRemove
  simp only [hpm, hok.remove_absent hT hcfg hk habs]

/-- the storable of a well-formed value, under `WorldOk'`: it exists, it is within the limit of the
    slot, and computing it changes neither the threshold, the address nor the counter -/
theorem storableOf_valid_of_worldOk' {w : World} {p : SlabID} {lim : Nat} {v : WVal} {cx : Ctx}
    (H : WorldOk' D w cx.ctr) (hlim : lim ≤ maxInlineArr w.T) (hv : WValOk w p lim v) :
    ∃ e w1 cx1, w.storableOf v lim cx = .ok (e, w1, cx1) ∧ 1 ≤ e.size ∧ e.size ≤ lim ∧
      w1.T = w.T ∧ w1.addr = w.addr ∧ cx1.ctr = cx.ctr := by
  obtain ⟨⟨rank0, H0⟩, S⟩ := H.down
  have hv0 : WValOk w.prune p lim v := S.wValOk hv
  obtain ⟨e, w01, cx1, hst0⟩ := storableOf_total hv0 cx
  obtain ⟨_, _, P⟩ := prep_phase H0 (by rw [S.T]; exact hlim) (v := some v) (fun _ h => by cases h; exact hv0)
    ⟨e, rfl, hst0⟩
  obtain ⟨w1, hst, S1, _⟩ := S.storableOf_up hst0
  exact ⟨e, w1, cx1, hst, (P.fit e rfl).1, (P.fit e rfl).2, by rw [← S1.T, P.hT, S.T], by rw [← S1.addr, P.addr, S.addr],
    P.ctr⟩

theorem mapSet_limited {w : World} {p : SlabID} {k : MKey} {v : WVal} {cx : Ctx} {m : OMap 3}
    (H : WorldOk' D w cx.ctr) (hk : KeyOk w.T 4 (D p) k)
    (hv : WValOk w p (maxInlineMapValue w.T k.size) v) (hpm : w.cont? p = some (.map m))
    (hl : TLimited w.mcfg m.d m.root k) :
    w.mapSet p k v cx = .error (.map .collisionLimit) := by
  obtain ⟨e, w1, cx1, hst, he1, he2, hT1, ha1, hctr1⟩ := storableOf_valid_of_worldOk' H (maxInlineMapValue_le_arr _ _) hv
  obtain ⟨rank, H0⟩ := H
  have hmok : MapOk w.T (D p) m cx1.ctr := by rw [hctr1]; exact H0.conts p _ hpm
  have hcfg : CfgOk w.mcfg w.T m := (H0.filed hpm).cfgOk
  have hcfg1 : w1.mcfg = w.mcfg := mcfg_congr hT1 ha1
  have hs := hmok.set_limited H0.legal hcfg hk (⟨he1, Or.inr he2⟩ : ValueOkR w.T k.size e) hl
  unfold mapSet
  rw [mapSetRaw]
  simp only [hpm, hst, hcfg1, hs, bind, Except.bind]

end World
end Atree

import AtreeProofs.World.TotalKeyed
import AtreeProofs.World.OkScenario
/-
  Helpers for the non-vacuity instances and for the
  counterexample of `Props/C10Total.lean`:
  * decidable checkers (`keyedB`, `notLimB`) for the side conditions of the totality theorems on
    the concrete worlds of `World/OkScenario.lean`;
  * `WorldOkGen.add_keyless_closure`: adding, to a world that satisfies the global invariant, a
    KEY-LESS closure that names a live MAP keeps the global invariant — `WorldOk` does not exclude
    such closures (they are unreachable; `KeyedClosures` excludes them);
  * `wbad`: such a world, on which `arrInsert` through the (current) handle of a root answers the
    internal error `.fatal`.
-/
namespace Atree
open Gen

namespace World

variable {D : SlabID → DigestFn 4}

/-- `KeyedClosures`, decidably -/
def keyedB (w : World) : Bool :=
  w.hinfo.all (fun e => match w.cont? e.2.parent with
    | some (.map _) => e.2.key.isSome
    | _ => true)

theorem keyedB_sound {w : World} (h : keyedB w = true) : KeyedClosures w := by
  intro x hi pm hx hp
  have := List.all_eq_true.mp h (x, hi) (mem_of_find? hx)
  simp only [hp] at this
  exact this

/-- no leaf of the map holds the first-level digest `hk`: the collision limit cannot refuse a key
    with that digest -/
def notLimB (c : Cont) (hk : Nat) : Bool :=
  match c with
  | .map m => (MTree.leaves m.d m.root).all (fun s => !(s.elems.hkeys.contains hk))
  | .arr _ => false

theorem notLimB_sound {m : OMap 3} {cfg : MCfg} {k : MKey} (h : notLimB (.map m) (k.dig 0) = true) :
    ¬ TLimited cfg m.d m.root k := by
  rintro ⟨s, hs, hl⟩
  have hd := hl.dig_mem
  have := List.all_eq_true.mp h s hs
  simp only [Bool.not_eq_true', List.contains_eq_mem, decide_eq_false_iff_not] at this
  exact this hd

theorem cont_arr_of {w : World} {x : SlabID} (h : (w.cont? x).map Cont.isArr = some true) :
    ∃ a, w.cont? x = some (.arr a) := by
  cases hc : w.cont? x with
  | none => rw [hc] at h; cases h
  | some c =>
    cases c with
    | arr a => exact ⟨a, rfl⟩
    | map m => rw [hc] at h; cases h

theorem cont_map_of {w : World} {x : SlabID} (h : (w.cont? x).map Cont.isArr = some false) :
    ∃ m, w.cont? x = some (.map m) := by
  cases hc : w.cont? x with
  | none => rw [hc] at h; cases h
  | some c =>
    cases c with
    | arr a => rw [hc] at h; cases h
    | map m => exact ⟨m, rfl⟩

/-- `WorldOk` does not exclude a (stale) key-less closure that names a live map -/
theorem WorldOkGen.add_keyless_closure {w : World} {ctr : Nat} {rank : SlabID → Nat}
    (H : WorldOkGen D rank none (fun _ => False) w ctr) (x : SlabID) {q : SlabID} {m : OMap 3}
    (hq : w.cont? q = some (.map m)) (mi wr : Nat) :
    WorldOkGen D rank none (fun _ => False)
      { w with hinfo := AList.insert w.hinfo x ⟨q, none, mi, wr⟩ } ctr := by
  refine ⟨H.legal, H.ids, H.addr, H.conts, ?_, H.band, H.unique, H.inlRef, H.mutIdx, ?_, H.rank, H.below,
    H.idxLive, ?_⟩
  · intro p pc hp le hle y c hy hc
    obtain ⟨wrp, h1, h2, h3, h4⟩ := H.slots p pc hp le hle y c hy hc
    refine ⟨wrp, h1, h2, h3, ?_⟩
    intro hi hO hhi hca
    have hhi' : AList.find? (AList.insert w.hinfo x ⟨q, none, mi, wr⟩) y = some hi := hhi
    rw [AList.find?_insert] at hhi'
    split at hhi'
    · cases hhi'
      rcases hca with ⟨pa, i, hpa, _⟩ | ⟨pm, k, _, hk, _⟩
      · have hpa' : w.cont? q = some (.arr pa) := hpa
        rw [hq] at hpa'; cases hpa'
      · cases hk
    · exact h4 hi hO hhi' hca
  · intro y hi hy
    have hy' : AList.find? (AList.insert w.hinfo x ⟨q, none, mi, wr⟩) y = some hi := hy
    rw [AList.find?_insert] at hy'
    split at hy'
    · cases hy'
      refine ⟨fun pa hpa => ?_, fun pm k _ hk => ?_⟩
      · have hpa' : w.cont? q = some (.arr pa) := hpa
        rw [hq] at hpa'; cases hpa'
      · cases hk
    · exact H.closure y hi hy'
  · intro y hi hy
    have hy' : AList.find? (AList.insert w.hinfo x ⟨q, none, mi, wr⟩) y = some hi := hy
    rw [AList.find?_insert] at hy'
    split at hy'
    · cases hy'
      show (w.cont? q).isSome
      rw [hq]; rfl
    · exact H.hinfoLive y hi hy'

/-- the answer is the internal error `.fatal` -/
def isFatal {α : Type} (r : Except WErr α) : Bool :=
  match r with
  | .error .fatal => true
  | _ => false

theorem eq_fatal {α : Type} {r : Except WErr α} (h : isFatal r = true) : r = .error .fatal := by
  cases r with
  | ok x => cases h
  | error e => cases e <;> first | rfl | cases h

end World

namespace OkScenario
open World

/-- the world after `NewArray` (`R`) and `NewMap` (`M`) of `OkScenario`, plus a key-less closure of
    the root array `R` that names the map `M` -/
def wbad : World := { t2.2.1 with hinfo := AList.insert t2.2.1.hinfo R ⟨M, none, 117, 0⟩ }

/-- one evaluation for the facts about `wbad` -/
theorem checks_wbad :
    ((t2.2.1.cont? M).map Cont.isArr = some false ∧ (wbad.cont? M).map Cont.isArr = some false) ∧
    (unrefB wbad R = true ∧ wbad.T = 256) ∧
    ((wbad.cont? R).map Cont.isArr = some true ∧ (wbad.cont? R).map (fun c => c.storedElems.length) = some 0) ∧
    isFatal (wbad.arrInsertS R 0 (pl 1) t2.2.2) = true ∧
    AList.find? wbad.hinfo R = some ⟨M, none, 117, 0⟩ := by
  decide +kernel

theorem wbad_worldOk : WorldOk D wbad t2.2.2.ctr := by
  obtain ⟨rank, H⟩ := ok2
  obtain ⟨m, hm⟩ := cont_map_of (w := t2.2.1) (x := M) checks_wbad.1.1
  exact ⟨rank, H.add_keyless_closure R hm 117 0⟩

theorem wbad_facts : HandleOk wbad R ∧ WValOk wbad R (maxInlineArr wbad.T) (pl 1) ∧
    (wbad.cont? R).map Cont.isArr = some true ∧ (wbad.cont? R).map (fun c => c.storedElems.length) = some 0 :=
  have c := checks_wbad
  ⟨HandleOk.root _ (unrefB_sound c.2.1.1), plOkAt _ R c.2.1.2 1, c.2.2.1.1, c.2.2.1.2⟩

theorem wbad_fatal : wbad.arrInsert R 0 (pl 1) t2.2.2 = .error .fatal := by
  rw [arrInsert_eq_S]
  exact eq_fatal checks_wbad.2.2.2.1

theorem wbad_not_keyed : ¬ KeyedClosures wbad := by
  intro h
  obtain ⟨m, hm⟩ := cont_map_of (w := wbad) (x := M) checks_wbad.1.2
  have := h R ⟨M, none, 117, 0⟩ m checks_wbad.2.2.2.2 hm
  cases this

/-! ### the depth-3 world `t7` (the array `A`, holding one value, inlined and wrapped in the map
`M`, itself inlined in the root array `R`) -/

def K2 : MKey := ⟨10, 2, [2, 2, 2, 2]⟩

theorem keyOk_K2 : KeyOk 256 4 D0 K2 := ⟨rfl, by decide, by decide⟩

/-- one evaluation for the facts about `t7` -/
theorem checks_t7 :
    ((t7.1.cont? A).map Cont.isArr = some true ∧ (t7.1.cont? M).map Cont.isArr = some false ∧
      (t7.1.cont? A).map (fun c => c.storedElems.length) = some 1 ∧
      (t7.1.cont? A).map Cont.isInlined = some true ∧ (t7.1.cont? M).map Cont.isInlined = some true) ∧
    keyedB t7.1 = true ∧ (t7.1.cont? M).map (fun c => notLimB c (K2.dig 0)) = some true := by
  decide +kernel

theorem t7_handles : HandleOk t7.1 A ∧ HandleOk t7.1 M ∧ HandleOk t7.1 R :=
  have c := checks8.2.2.2.2.1
  ⟨ok7.2, handleOk_parent ok7.1 ok7.2 (holds_of_check c.1) c.2.1, handleR7⟩

theorem t7_shape : Holds t7.1 R M ∧ Holds t7.1 M A ∧
    (t7.1.cont? A).map Cont.isArr = some true ∧ (t7.1.cont? M).map Cont.isArr = some false ∧
    (t7.1.cont? A).map (fun c => c.storedElems.length) = some 1 ∧
    (t7.1.cont? A).map Cont.isInlined = some true ∧ (t7.1.cont? M).map Cont.isInlined = some true :=
  have c := checks8.2.2.2.2.1
  ⟨holds_of_check c.2.2.1, holds_of_check c.1, checks_t7.1⟩

theorem t7_keyed : KeyedClosures t7.1 := keyedB_sound checks_t7.2.1

theorem t7_notLim : (t7.1.cont? M).map (fun c => notLimB c (K2.dig 0)) = some true := checks_t7.2.2

end OkScenario
end Atree

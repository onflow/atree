import AtreeProofs.World.WPopOps
import AtreeProofs.World.TotalCore
/-
  The reverse simulation.  `World/WPopSim.lean` and
  `World/WPopOps.lean` go from a successful run on a world `w` to a successful run on the same
  world without the closures whose recorded parent has been disposed of (`Sim n w0 w`, in
  particular `w0 = w.prune`).  Here: a successful run on `w0` gives a successful run on `w`, with the
  same results and `Sim` kept — the extra closures of `w` name dead parents; `notifyParent` answers
  `.ok` (nothing found, the closure is dropped) for them.  The only proviso: the container being
  notified is LIVE (with a stale closure and no container, `notifyParent` answers
  `unknownContainer` where the world without the closure answers `.ok`).

  With `WorldOk'.down` this lifts the totality theorems from `WorldOk` to `WorldOk'`.
-/
namespace Atree
open Gen

namespace World

theorem Sim.storableOf_up {n : Nat} {w0 w : World} (S : Sim n w0 w)
    {v : WVal} {lim : Nat} {cx : Ctx} {e : Elem} {w01 : World} {cx1 : Ctx}
    (h : w0.storableOf v lim cx = .ok (e, w01, cx1)) :
    ∃ w1, w.storableOf v lim cx = .ok (e, w1, cx1) ∧ Sim n w01 w1 ∧
      ∀ q, (w.cont? q).isSome → (w1.cont? q).isSome := by
  have e0 := S.eq
  generalize w0.hinfo = H0 at e0
  subst e0
  rw [storableOf_withH] at h
  cases hst : w.storableOf v lim cx with
  | error er => simp only [hst, liftH] at h; cases h
  | ok r =>
    obtain ⟨e1, w1, cx1'⟩ := r
    simp only [hst, liftH] at h
    cases h
    obtain ⟨_, S1, hl⟩ := S.storableOf hst
    exact ⟨w1, rfl, S1, hl⟩

theorem Sim.uninlineIfNeeded_up {n : Nat} {w0 w : World} (S : Sim n w0 w)
    {e : Elem} {cx : Ctx} {e' : Elem} {ov : Option SlabID} {w01 : World} {cx1 : Ctx}
    (h : w0.uninlineIfNeeded e cx = .ok (e', ov, w01, cx1)) :
    ∃ w1, w.uninlineIfNeeded e cx = .ok (e', ov, w1, cx1) ∧ Sim n w01 w1 := by
  have e0 := S.eq
  generalize w0.hinfo = H0 at e0
  subst e0
  rw [uninlineIfNeeded_withH] at h
  cases hun : w.uninlineIfNeeded e cx with
  | error er => simp only [hun] at h; cases h
  | ok r =>
    obtain ⟨e1, ov1, w1, cx1'⟩ := r
    simp only [hun] at h
    cases h
    exact ⟨w1, rfl, (S.uninlineIfNeeded hun).2⟩

theorem rsim_setRaw (fuel : Nat)
    (ihn : ∀ n w0 w x cx w0' cx', Sim n w0 w → (w.cont? x).isSome → notifyParent fuel w0 x cx = .ok (w0', cx') →
      ∃ w', notifyParent fuel w x cx = .ok (w', cx') ∧ Sim n w0' w')
    {n : Nat} {w0 w : World} {p : SlabID} {s : Slot} {v : WVal} {cx : Ctx} {old : Option Elem} {w0' : World} {cx' : Ctx}
    (S : Sim n w0 w) (h : SetRaw fuel w0 p s v cx old w0' cx') :
    ∃ w', SetRaw fuel w p s v cx old w' cx' ∧ Sim n w0' w' := by
  obtain ⟨qc, e, w01, cx1, qc', cx2, w03, hp, hst0, hset, hnp0, rfl⟩ := h
  rw [S.cont?] at hp
  rw [S.T] at hst0
  obtain ⟨w1, hst, S1, hl⟩ := S.storableOf_up hst0
  obtain ⟨w3, hn, S3⟩ := ihn _ _ _ _ _ _ _ (S1.setCont (hl p (by rw [hp]; rfl)) qc')
    (by rw [cont?_setCont_self]; rfl) hnp0
  exact ⟨_, ⟨qc, e, w1, cx1, qc', cx2, w3, hp, hst, hset.congr S1.T.symm S1.addr.symm, hn, rfl⟩, S3.install p s v⟩

/-- the reverse simulation of `notifyParentIfNeeded`; it BUILDS the run on `w`, hence
    `notifyParent_succ_iff` in both directions and its own induction on the fuel -/
theorem rsim_notifyParent : ∀ fuel n w0 w x cx w0' cx', Sim n w0 w → (w.cont? x).isSome →
    notifyParent fuel w0 x cx = .ok (w0', cx') →
    ∃ w', notifyParent fuel w x cx = .ok (w', cx') ∧ Sim n w0' w' := by
  intro fuel
  induction fuel with
  | zero => intro n w0 w x cx w0' cx' _ _ h; rw [notifyParent_zero] at h; cases h
  | succ fuel ih =>
    intro n w0 w x cx w0' cx' S hlive h
    obtain ⟨c, hc⟩ := Option.isSome_iff_exists.mp hlive
    have hmcfg : w.mcfg = w0.mcfg := by simp only [World.mcfg, S.T, S.addr]
    rcases S.hinfo x with hsame | ⟨hnone, hi, hsome, hdead, _⟩
    · -- the closure of `x` is the same on both sides: the same case on both sides
      rcases notifyParent_succ_iff.mp h with ⟨hh, rfl, rfl⟩ | ⟨hi, c0, hh, hc0, hcase⟩
      · exact ⟨_, notifyParent_succ_iff.mpr (.inl ⟨hsame ▸ hh, rfl, rfl⟩), S⟩
      rw [hsame] at hh
      rw [S.cont?] at hc0
      rcases hcase with ⟨hs, rfl, rfl⟩ | ⟨hs, ⟨rfl, rfl, hwhy⟩ | ⟨qc, s, el, old, hf, hsr, hold⟩⟩
      · exact ⟨_, notifyParent_succ_iff.mpr (.inr ⟨hi, c0, hh, hc0, .inl ⟨hs, rfl, rfl⟩⟩), S⟩
      · exact ⟨_, notifyParent_succ_iff.mpr (.inr ⟨hi, c0, hh, hc0, .inr ⟨hs, .inl ⟨rfl, rfl,
          hwhy.congr (fun z => (S.cont? z).symm) (fun q => (S.idxOf q).symm) hmcfg⟩⟩⟩), S.erase x⟩
      · obtain ⟨w2, hs2, S2⟩ := rsim_setRaw fuel ih S hsr
        exact ⟨w2, notifyParent_succ_iff.mpr (.inr ⟨hi, c0, hh, hc0, .inr ⟨hs, .inr ⟨qc, s, el, old,
          hf.congr (fun z => (S.cont? z).symm) (fun q => (S.idxOf q).symm) hmcfg, hs2, hold⟩⟩⟩), S2⟩
    · -- the closure of `x` is stale (its parent is gone) and absent from `w0`: `w0` does nothing,
      -- `w` finds no parent and drops the closure
      rw [notifyParent_of_no_closure cx hnone] at h
      cases h
      by_cases hs : c.isInlined = false ∧ c.inlinable hi.maxInline = false
      · exact ⟨_, notifyParent_succ_iff.mpr (.inr ⟨hi, c, hsome, hc, .inl ⟨hs, rfl, rfl⟩⟩), S⟩
      · exact ⟨_, notifyParent_succ_iff.mpr (.inr ⟨hi, c, hsome, hc, .inr ⟨hs, .inl ⟨rfl, rfl, .inl hdead⟩⟩⟩),
          S.erase_right x hnone⟩

theorem Sim.prep_up {n : Nat} {w0 w : World} (S : Sim n w0 w) {cx : Ctx} {lim : Nat} {v : Option WVal}
    {e : Option Elem} {w01 : World} {cx1 : Ctx} (h : Prep w0 cx lim v e w01 cx1) :
    ∃ w1, Prep w cx lim v e w1 cx1 ∧ Sim n w01 w1 ∧ ∀ q, (w.cont? q).isSome → (w1.cont? q).isSome := by
  cases v with
  | none => obtain ⟨rfl, rfl, rfl⟩ := h; exact ⟨_, ⟨rfl, rfl, rfl⟩, S, fun _ h => h⟩
  | some v =>
    obtain ⟨e0, rfl, hst⟩ := h
    obtain ⟨w1, g1, S1, hl⟩ := S.storableOf_up hst
    exact ⟨_, ⟨e0, rfl, g1⟩, S1, hl⟩

theorem Sim.handBack_up {n : Nat} {w0 w : World} (S : Sim n w0 w) {cx : Ctx} {old old' : Option Elem}
    {ov : Option SlabID} {w01 : World} {cx1 : Ctx} (h : HandBack w0 cx old old' ov w01 cx1) :
    ∃ w1, HandBack w cx old old' ov w1 cx1 ∧ Sim n w01 w1 := by
  cases old with
  | none => obtain ⟨rfl, rfl, rfl, rfl⟩ := h; exact ⟨_, ⟨rfl, rfl, rfl, rfl⟩, S⟩
  | some o =>
    obtain ⟨o', rfl, hun⟩ := h
    obtain ⟨w1, g, S1⟩ := S.uninlineIfNeeded_up hun
    exact ⟨_, ⟨o', rfl, g⟩, S1⟩

/-- the reverse simulation of a mutation, whatever its shape (the converse of `Mutation.sim`) -/
theorem Mutation.rsim {M : MutShape} (L : M.Oblivious) (T : M.TableLaw) {n : Nat}
    {w0 w : World} {cx : Ctx} {old' : Option Elem}
    {w0' : World} {cx' : Ctx} (S : Sim n w0 w) (h : Mutation M w0 cx old' w0' cx') :
    ∃ w', Mutation M w cx old' w' cx' ∧ Sim n w0' w' := by
  obtain ⟨pc, e, w01, cx1, old, pc', cx2, w03, cx3, ov, w05, hp, hprep0, hcore, hnp0, hb0, rfl⟩ := h
  rw [S.cont?] at hp
  rw [S.T] at hprep0
  obtain ⟨w1, hprep, S1, hl1⟩ := S.prep_up hprep0
  rw [S1.T, mcfg_congr S1.T S1.addr] at hcore
  have S2 := L.reidx (S1.setCont (hl1 M.p (by rw [hp]; rfl)) pc')
  rw [L.fuel S S2] at hnp0
  obtain ⟨w3, hn, S3⟩ := rsim_notifyParent _ _ _ _ _ _ _ _ S2
    (by rw [(T.reidx _).conts, cont?_setCont_self]; rfl) hnp0
  obtain ⟨w5, hb, S5⟩ := (S3.cb M).handBack_up hb0
  exact ⟨_, ⟨pc, e, w1, cx1, old, pc', cx2, w3, cx3, ov, w5, hp, hprep, hcore, hn, hb, rfl⟩, L.erase ov S5⟩

theorem rsim_arrInsert {n : Nat} {w0 w : World} {p : SlabID} {i : Nat} {v : WVal} {cx : Ctx} {w0' : World} {cx' : Ctx}
    (S : Sim n w0 w) (h : w0.arrInsert p i v cx = .ok (w0', cx')) :
    ∃ w', w.arrInsert p i v cx = .ok (w', cx') ∧ Sim n w0' w' := by
  obtain ⟨w', h', S'⟩ := Mutation.rsim (shInsert_oblivious p i v) (shInsert_tableLaw p i v) S (arrInsert_mutation.mp h)
  exact ⟨w', arrInsert_mutation.mpr h', S'⟩

theorem rsim_arrSet {n : Nat} {w0 w : World} {p : SlabID} {i : Nat} {v : WVal} {cx : Ctx} {old : Elem}
    {w0' : World} {cx' : Ctx} (S : Sim n w0 w) (h : w0.arrSet p i v cx = .ok (old, w0', cx')) :
    ∃ w', w.arrSet p i v cx = .ok (old, w', cx') ∧ Sim n w0' w' := by
  obtain ⟨w', h', S'⟩ := Mutation.rsim (shSet_oblivious p i v) (shSet_tableLaw p i v) S (arrSet_mutation.mp h)
  exact ⟨w', arrSet_mutation.mpr h', S'⟩

theorem rsim_arrRemove {n : Nat} {w0 w : World} {p : SlabID} {i : Nat} {cx : Ctx} {old : Elem}
    {w0' : World} {cx' : Ctx} (S : Sim n w0 w) (h : w0.arrRemove p i cx = .ok (old, w0', cx')) :
    ∃ w', w.arrRemove p i cx = .ok (old, w', cx') ∧ Sim n w0' w' := by
  obtain ⟨w', h', S'⟩ := Mutation.rsim (shRemove_oblivious p i) (shRemove_tableLaw p i) S (arrRemove_mutation.mp h)
  exact ⟨w', arrRemove_mutation.mpr h', S'⟩

theorem rsim_mapSet {n : Nat} {w0 w : World} {p : SlabID} {k : MKey} {v : WVal} {cx : Ctx} {old : Option Elem}
    {w0' : World} {cx' : Ctx} (S : Sim n w0 w) (h : w0.mapSet p k v cx = .ok (old, w0', cx')) :
    ∃ w', w.mapSet p k v cx = .ok (old, w', cx') ∧ Sim n w0' w' := by
  obtain ⟨w', h', S'⟩ := Mutation.rsim (shMapSet_oblivious p k v) (shMapSet_tableLaw p k v) S (mapSet_mutation.mp h)
  exact ⟨w', mapSet_mutation.mpr h', S'⟩

theorem rsim_mapRemove {n : Nat} {w0 w : World} {p : SlabID} {k : MKey} {cx : Ctx} {rk : MKey} {rv : Elem}
    {w0' : World} {cx' : Ctx} (S : Sim n w0 w) (h : w0.mapRemove p k cx = .ok (rk, rv, w0', cx')) :
    ∃ w', w.mapRemove p k cx = .ok (rk, rv, w', cx') ∧ Sim n w0' w' := by
  obtain ⟨w', h', S'⟩ := Mutation.rsim (shMapRemove_oblivious p k rk) (shMapRemove_tableLaw p k rk) S (mapRemove_mutation.mp h)
  exact ⟨w', mapRemove_mutation.mpr h', S'⟩

theorem rsim_setType {n : Nat} {w0 w : World} {p : SlabID} {ty : Nat} {cx : Ctx} {w0' : World} {cx' : Ctx}
    (S : Sim n w0 w) (h : w0.setType p ty cx = .ok (w0', cx')) :
    ∃ w', w.setType p ty cx = .ok (w', cx') ∧ Sim n w0' w' := by
  have e0 := S.eq
  generalize w0.hinfo = H0 at e0
  subst e0
  unfold setType at h ⊢
  simp only [cont?_withH] at h
  cases hpc : w.cont? p with
  | none => simp only [hpc] at h; cases h
  | some c =>
    cases c with
    | arr a =>
      simp only [hpc, setCont_withH, fuelOf_withH] at h ⊢
      have S2 := S.setCont_withH (by rw [hpc]; rfl) (.arr (a.setType ty cx).1)
      by_cases hinl : a.isInlined = true
      · rw [if_pos hinl] at h ⊢
        exact rsim_notifyParent _ _ _ _ _ _ _ _ S2 (by simp) h
      · rw [if_neg hinl] at h ⊢
        cases h
        exact ⟨_, rfl, S2⟩
    | map m =>
      simp only [hpc, setCont_withH, fuelOf_withH] at h ⊢
      have S2 := S.setCont_withH (by rw [hpc]; rfl) (.map (m.setType ty cx).1)
      by_cases hinl : m.isInlined = true
      · rw [if_pos hinl] at h ⊢
        exact rsim_notifyParent _ _ _ _ _ _ _ _ S2 (by simp) h
      · rw [if_neg hinl] at h ⊢
        cases h
        exact ⟨_, rfl, S2⟩

end World
end Atree

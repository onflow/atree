import AtreeProofs.WorldOkPop
import AtreeProofs.World.Slots
import AtreeProofs.World.ArrRef
import AtreeProofs.Array.Iter
import AtreeProofs.Map.Empty
import AtreeProofs.Map.TreeDefs
import AtreeProofs.E2EMap.History
/-
  `popIterate` on a container of either kind, as the bulk pops through a handle see it (`PopIter`):
  every element is handed out, and the container left behind is empty and structurally valid
  (`ContOk`) in the form (standalone / inlined) of the container that was emptied.
-/
namespace Atree
open Gen

namespace World

/-- `c.popIterate cx = (es, c', cx')` for a container of either kind (for a map `es` are the values):
    what the accounts of the bulk pops use of it -/
structure PopIter (T : Nat) (Dm : DigestFn 4) (c : Cont) (cx : Ctx) (es : List Elem) (c' : Cont) (cx' : Ctx) :
    Prop where
  ok : ContOk T Dm cx'.ctr c'
  ctr : cx'.ctr = cx.ctr
  isArr : c'.isArr = c.isArr
  isInlined : c'.isInlined = c.isInlined
  vid : c'.vid = c.vid
  empty : c'.storedElems = []
  band : c'.isInlined = true → c'.rootSize ≤ T
  elems : ∀ e, e ∈ es ↔ e ∈ c.storedElems

theorem PopIter.arr {T : Nat} {Dm : DigestFn 4} (hT : legalThreshold T = true) (a : Arr) (cx : Ctx)
    (h : ContOk T Dm cx.ctr (.arr a)) :
    PopIter T Dm (.arr a) cx (a.popIterate cx).1 (.arr (a.popIterate cx).2.1) (a.popIterate cx).2.2 := by
  have hinl : (a.popIterate cx).2.1.isInlined = a.isInlined := rfl
  refine ⟨⟨fun hi => ?_, fun hi => ?_⟩, arr_popIterate_ctr a cx, rfl, hinl, rfl, rfl, fun hi => ?_, fun e => ?_⟩
  · rw [hinl] at hi
    exact arr_popIterate_inv hT a cx (h.1 hi)
  · rw [hinl] at hi
    obtain ⟨s, ty, rfl, S⟩ := (h.2 hi).slab
    rw [arr_popIterate_ctr]
    refine ⟨_, _, rfl, rfl, hi, rfl, rfl, ?_, ?_, S.idx_pos, S.idx_le, ?_⟩
    · show (if (Arr.isInlined ⟨0, s, ty⟩) = true then inlinedArrayDataSlabPrefixSize else arrayRootDataSlabPrefixSize) = _
      rw [hi]; simp [sumSizes]
    · intro e he
      simp at he
    · show (0 : Nat) < _
      omega
  · have hi' : a.isInlined = true := hi
    show (if a.isInlined = true then inlinedArrayDataSlabPrefixSize else arrayRootDataSlabPrefixSize) ≤ T
    rw [hi']
    exact Nat.le_trans (by decide : inlinedArrayDataSlabPrefixSize ≤ 256) (map_legal_bounds hT).1
  · rw [(arr_popIterate_refines a cx).1]
    exact List.mem_reverse

theorem PopIter.map {T : Nat} {Dm : DigestFn 4} (hT : legalThreshold T = true) (m : OMap 3) (cx : Ctx)
    (h : ContOk T Dm cx.ctr (.map m)) :
    PopIter T Dm (.map m) cx ((m.popIterate cx).1.map (·.2)) (.map (m.popIterate cx).2.1) (m.popIterate cx).2.2 := by
  have hinl : (m.popIterate cx).2.1.isInlined = m.isInlined := rfl
  have hctr : (m.popIterate cx).2.2.ctr = cx.ctr := (E2EM.omap_popKeep m cx).1
  refine ⟨⟨fun hi => ?_, fun hi => ?_⟩, hctr, rfl, hinl, rfl, ?_, fun hi => ?_, fun e => ?_⟩
  · rw [hinl] at hi
    obtain ⟨hinv, hcok⟩ := h.1 hi
    have hform : (m.popIterate cx).2.1 = ⟨0, emptyRoot 3 m.rootID, m.ty, 0, m.seed⟩ := by
      show (⟨0, _, m.ty, 0, m.seed⟩ : OMap 3) = _
      simp only [hi, emptyRoot]
      rfl
    rw [hform, hctr]
    refine ⟨emptyMap_inv hT m.rootID m.ty m.seed, ?_⟩
    intro id hid _
    have : id = m.rootID := by
      rw [mapSlabIds_zero] at hid
      simpa [emptyRoot, extIds] using hid
    subst this
    exact hcok m.rootID (hdr_id_mem m.d m.root) rfl
  · rw [hinl] at hi
    obtain ⟨s, ty, cnt, seed, rfl, h1, h2, h3, h4, h5, h6, h7, h8⟩ := h.2 hi
    rw [hctr]
    refine ⟨_, _, _, _, rfl, rfl, hi, rfl, ?_, ?_, rfl, ?_, ?_⟩
    · exact (emptyRoot_inv (T := T) (D := Dm) hT s.hdr.id).elems_inv
    · show (if (OMap.isInlined (⟨0, s, ty, cnt, seed⟩ : OMap 3)) = true then inlinedMapDataSlabPrefixSize
        else mapRootDataSlabPrefixSize) + hkeyElementsPrefixSize = _
      rw [hi]; rfl
    · rfl
    · intro id hid ha
      have : id = s.hdr.id := by
        rw [mapSlabIds_zero] at hid
        have h0 : id = (⟨0, s, ty, cnt, seed⟩ : OMap 3).rootID := by simpa [extIds] using hid
        exact h0
      subst this
      exact h8 _ (by rw [mapSlabIds_zero]; exact List.mem_cons_self) rfl
  · show ((m.popIterate cx).2.1.toList.map (·.2)) = []
    rfl
  · have hi' : m.isInlined = true := hi
    show (if m.isInlined = true then inlinedMapDataSlabPrefixSize else mapRootDataSlabPrefixSize) + hkeyElementsPrefixSize ≤ T
    rw [hi']
    exact Nat.le_trans (by decide : inlinedMapDataSlabPrefixSize + hkeyElementsPrefixSize ≤ 256) (map_legal_bounds hT).1
  · show e ∈ (m.popIterate cx).1.map (·.2) ↔ e ∈ m.toList.map (·.2)
    rw [show (m.popIterate cx).1 = m.toList.reverse from MTree.popIterate_fst m.d m.root cx, List.map_reverse]
    exact List.mem_reverse

end World
end Atree

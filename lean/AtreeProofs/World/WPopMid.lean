import AtreeProofs.World.WPopStep
import AtreeProofs.World.PopOps
import AtreeProofs.World.Notify
import AtreeProofs.World.WPopCont
/-
  The bulk pop with kept containers, for a container of either kind (`PopIter`): the state at the call of
  `notifyParent` (`Emptied` + `forgetElems`) is an instance of `PopRel`, and its pruned version satisfies
  the generalised invariant (`PopMid`, from `step_pop`); the simulation of the notification on the pruned
  world and the main induction `notify_ok` give the invariant afterwards, the frame, and the handles.
-/
namespace Atree
open Gen

namespace World

variable {D : SlabID → DigestFn 4} {rank : SlabID → Nat}

/-- a rank for `Holds` is a rank for element references -/
theorem refRankOk_of_cRank {w : World} (hr : CRank rank w) : RefRankOk rank w := by
  intro u c hc e he v hp hv
  exact hr u v ⟨c, hc, List.mem_map.mpr ⟨e, he, hp⟩⟩ hv

/-- a path of element references extended by one reference -/
theorem Reach.snoc {w : World} {k a x : SlabID} (h : Reach w k a) (hax : Holds w a x) (hx : (w.cont? x).isSome) :
    Reach w k x := by
  induction h with
  | refl _ =>
    obtain ⟨c, hc, hm⟩ := hax
    obtain ⟨e, he, hp⟩ := mem_pays_iff.mp hm
    exact Reach.step hc he hp (Reach.refl hx)
  | step hc he hp _ ih => exact Reach.step hc he hp (ih hax)

/-- with unique references, two containers above a common one are comparable -/
theorem Reach.comparable {w : World} (hu : UniqueRef w) {a z : SlabID} (h1 : Reach w a z) :
    ∀ b, Reach w b z → Reach w a b ∨ Reach w b a := by
  induction h1 with
  | refl _ => exact fun b hb => Or.inr hb
  | @step u v x c e hc he hp hre ih =>
    intro b hb
    rcases ih b hb with h | h
    · exact Or.inl (Reach.step hc he hp h)
    · rcases h.last with rfl | ⟨u', c', e', hr', hc', he', hp'⟩
      · exact Or.inl (Reach.step hc he hp (Reach.refl hre.src_isSome))
      · obtain ⟨i, hi⟩ := List.mem_iff_getElem?.mp (mem_pays_iff.mpr ⟨e, he, hp⟩)
        obtain ⟨j, hj⟩ := List.mem_iff_getElem?.mp (mem_pays_iff.mpr ⟨e', he', hp'⟩)
        have := (hu u u' c c' i j v hc hc' hi hj hre.src_isSome).1
        subst this
        exact Or.inr hr'

/-- with unique references and acyclic nesting, the subtrees below two different elements of one container
    are disjoint: a path between the two would pass through the container -/
theorem Reach.siblings_disjoint {w : World} (hu : UniqueRef w) (hrk : CRank rank w) {h a b z : SlabID} {pc : Cont}
    (hp : w.cont? h = some pc) (ha : Pay.ref a ∈ pc.pays) (hb : Pay.ref b ∈ pc.pays) (hab : a ≠ b)
    (h1 : Reach w a z) (h2 : Reach w b z) : False := by
  have key : ∀ a b, a ≠ b → Pay.ref a ∈ pc.pays → Pay.ref b ∈ pc.pays → (w.cont? a).isSome → (w.cont? b).isSome →
      ¬ Reach w a b := by
    intro a b hab ha hb hal hbl hrab
    rcases hrab.last with rfl | ⟨u, cu, eu, hru, hcu, heu, hpu⟩
    · exact hab rfl
    · obtain ⟨i, hi⟩ := List.mem_iff_getElem?.mp hb
      obtain ⟨j, hj⟩ := List.mem_iff_getElem?.mp (mem_pays_iff.mpr ⟨eu, heu, hpu⟩)
      obtain rfl := (hu u h cu pc j i b hcu hp hj hi hbl).1
      have := hru.rank_le (refRankOk_of_cRank hrk)
      have := hrk u a ⟨pc, hp, ha⟩ hal
      omega
  rcases h1.comparable hu b h2 with h | h
  · exact key a b hab ha hb h1.src_isSome h2.src_isSome h
  · exact key b a (Ne.symm hab) hb ha h2.src_isSome h1.src_isSome h

/-- only arrays have index entries: the index table of the emptied map holds nothing -/
theorem emptied_map_idx {w : World} {h : SlabID} {m : OMap 3} (hil : IdxLive w) (hc : w.cont? h = some (.map m))
    (cx : Ctx) (x : SlabID) : AList.find? ((w.setCont h (.map (m.popIterate cx).2.1)).idxOf h) x = none := by
  cases hx : AList.find? ((w.setCont h (.map (m.popIterate cx).2.1)).idxOf h) x with
  | none => rfl
  | some i =>
    obtain ⟨_, a, ha⟩ := hil h x i hx
    rw [hc] at ha; cases ha

/-- a container that the disposal dropped is referenced by a disposed element, or by a container other
    than `h` that was dropped too -/
theorem Emptied.dropped_holder {w e0 : World} {h : SlabID} {pc' : Cont} (E : Emptied w h pc' e0) {ds : List Elem}
    {y : SlabID} (hyl : (e0.cont? y).isSome) (hyn : (e0.forgetElems ds).cont? y = none) :
    (∃ e ∈ ds, e.pay = .ref y) ∨
      ∃ u cu, u ≠ h ∧ w.cont? u = some cu ∧ Pay.ref y ∈ cu.pays ∧ (e0.forgetElems ds).cont? u = none := by
  obtain ⟨_, cl, n1, snd⟩ := forgetElems_spec ds e0
  obtain ⟨e, he, v, hv, hr⟩ := snd y hyl hyn
  rcases hr.last with rfl | ⟨u, cu, eu, hru, hcu, heu, hpu⟩
  · exact Or.inl ⟨e, he, hv⟩
  · have huh : u ≠ h := by
      intro he'; subst he'
      rw [E.cont_h] at hcu; cases hcu
      rw [E.empty] at heu; cases heu
    exact Or.inr ⟨u, cu, huh, by rw [← E.cont_ne u huh]; exact hcu, mem_pays_iff.mpr ⟨eu, heu, hpu⟩,
      cl.reach_none hru (n1 e he v hv)⟩

/-- the state after the disposal of the elements `ds` of the emptied container `h` -/
theorem popRel_mid {w e0 : World} {h : SlabID} {pc pc' : Cont} {ctr : Nat}
    (H : WorldOkPK D rank (fun _ => False) w ctr) (hp : w.cont? h = some pc) (E : Emptied w h pc' e0)
    (hidx : ∀ x, AList.find? (e0.idxOf h) x = none)
    (ds : List Elem) (hds : ∀ e ∈ ds, e ∈ pc.storedElems) :
    PopRel w (e0.forgetElems ds) h pc pc' ∧ NotBelow w ds h := by
  have hrr := refRankOk_of_cRank H.rank
  have hfree : NotBelow w ds h :=
    notBelow_of_rank hrr (fun e he v hv hl => hrr h pc hp e (hds e he) v hv hl)
  obtain ⟨s, cl, _, _⟩ := forgetElems_spec ds e0
  obtain ⟨m1, m2, m3⟩ := E.mid_h hfree
  refine ⟨⟨E.mid_T ds, (E.mid_shrink ds).addr.trans E.addr, hp, m1, E.empty, m2, ?_, ?_, ?_, ?_⟩, hfree⟩
  · intro x
    have : (e0.forgetElems ds).idxOf h = e0.idxOf h := by simp only [idxOf, m3]
    rw [this]; exact hidx x
  · intro z hz
    rcases s.keep z with ⟨a, b, c⟩ | ⟨a, b, c, d⟩
    · exact Or.inl ⟨a.trans (E.cont_ne z hz), by rw [b, E.hinfo], c.trans (E.idx_ne z hz)⟩
    · exact Or.inr ⟨by rw [← E.cont_ne z hz]; exact a, b, c, d⟩
  · intro u c hu hc hn y hy
    obtain ⟨e, he, hpe⟩ := mem_pays_iff.mp hy
    exact cl u c (by rw [E.cont_ne u hu]; exact hc) hn e he y hpe
  · intro q qc hq hqc y hy hyl
    cases hyn : (e0.forgetElems ds).cont? y with
    | some c => rfl
    | none =>
      exfalso
      have hqw : w.cont? q = some qc := by
        rw [← E.cont_ne q hq]; exact s.some_of_some hqc
      obtain ⟨i, hi⟩ := List.mem_iff_getElem?.mp hy
      -- the one holder of `y` is `q`, which is neither `h` nor dropped
      rcases E.dropped_holder (by rw [E.isSome_iff]; exact hyl) hyn with ⟨e, he, hv⟩ | ⟨u, cu, _, hcuw, hm0, hun⟩
      · obtain ⟨j, hj⟩ := List.mem_iff_getElem?.mp (mem_pays_iff.mpr ⟨e, hds e he, hv⟩)
        exact hq (H.unique q h qc pc i j y hqw hp hi hj hyl).1
      · obtain ⟨j, hj⟩ := List.mem_iff_getElem?.mp hm0
        obtain rfl := (H.unique q u qc cu i j y hqw hcuw hi hj hyl).1
        rw [hun] at hqc; cases hqc

/-- The world `w2` at the notification inside a bulk pop through `h` (`h` emptied, the popped elements that are
    not kept forgotten): its pruned version satisfies the generalised invariant with the parent slot of `h`
    out of date and the kept children `K` pending roots, the handle is current there, and the notification
    behaves alike on both.  What `Mutation.filed` is for a mutator. -/
structure PopMid (D : SlabID → DigestFn 4) (rank : SlabID → Nat) (w : World) (h : SlabID) (pc pc' : Cont)
    (K : SlabID → Prop) (w2 : World) (ctr : Nat) : Prop where
  rel : PopRel w w2 h pc pc'
  ok : WorldOkGen D rank (some h) K w2.prune ctr
  mutIdx : MutIdxOkX w2.prune (fun _ => False)
  roots : ∀ x, K x → ∀ q, ¬ Holds w2.prune q x
  hand : HandleOk w2.prune h
  pend : ∀ z, K z → (w2.prune.cont? z).isSome → rank h < rank z
  sim : Sim ctr w2.prune w2

/-- the middle of a bulk pop of a container of either kind.  `e0`: the world with `h` emptied; `es`: the popped
    elements. -/
theorem pop_mid {w e0 : World} {h : SlabID} {pc pc' : Cont} {keep : List SlabID} {es : List Elem} {cx cx1 : Ctx}
    (H : WorldOkPK D rank (fun _ => False) w cx.ctr) (hhand : HandleOk w h) (hp : w.cont? h = some pc)
    (S : PopIter w.T (D h) pc cx es pc' cx1) (E : Emptied w h pc' e0)
    (hidx : ∀ x, AList.find? (e0.idxOf h) x = none) :
    PopMid D rank w h pc pc' (fun x => KeptOf keep pc x ∧ (w.cont? x).isSome)
      (e0.forgetElems (disposed keep es)) cx1.ctr ∧ NotBelow w (disposed keep es) h := by
  have hds : ∀ e ∈ disposed keep es, e ∈ pc.storedElems := fun e he => (S.elems e).mp (mem_disposed.mp he).1
  have hctr : cx.ctr ≤ cx1.ctr := Nat.le_of_eq S.ctr.symm
  obtain ⟨P, hfree⟩ := popRel_mid H hp E hidx _ hds
  obtain ⟨_, _, n1, _⟩ := forgetElems_spec (disposed keep es) e0
  obtain ⟨Hm, hmut, hKroot⟩ := step_pop (K := fun x => KeptOf keep pc x ∧ (w.cont? x).isSome) H P S.ok S.isArr
    S.isInlined S.vid S.band hctr
    (fun x hx hxl => by
      by_cases hk : x ∈ keep
      · exact Or.inr ⟨⟨hk, hx⟩, hxl⟩
      · obtain ⟨e, he, hpe⟩ := mem_pays_iff.mp hx
        refine Or.inl (n1 e (mem_disposed.mpr ⟨(S.elems e).mpr he, fun v hv => ?_⟩) x hpe)
        rw [hpe] at hv; cases hv; exact hk)
    (fun x hx => ⟨hx.1.2, hx.2⟩)
  exact ⟨⟨P, Hm, hmut, hKroot, P.handleOk H.unique hhand (by rw [P.now]; rfl),
    fun z hz _ => H.rank h z ⟨pc, hp, hz.1.2⟩ hz.2,
    sim_prune (fun x hi hx => Nat.le_trans (H.hinfoBelow x hi (P.hinfo_sub hx)) hctr)⟩, hfree⟩

/-- The bulk pop of a container of either kind through a current handle: the invariant afterwards, the frame,
    the handles. -/
theorem pop_core {w e0 w' : World} {h : SlabID} {pc pc' : Cont} {keep : List SlabID} {es : List Elem}
    {fuel : Nat} {cx cx1 cx' : Ctx}
    (H : WorldOkPK D rank (fun _ => False) w cx.ctr) (hhand : HandleOk w h) (hp : w.cont? h = some pc)
    (S : PopIter w.T (D h) pc cx es pc' cx1) (E : Emptied w h pc' e0)
    (hidx : ∀ x, AList.find? (e0.idxOf h) x = none)
    (hn : notifyParent fuel (e0.forgetElems (disposed keep es)) h cx1 = .ok (w', cx')) :
    WorldOkPK D rank (fun x => KeptOf keep pc x ∧ (w.cont? x).isSome) w' cx'.ctr ∧ cx.ctr ≤ cx'.ctr ∧
      PoppedAt w' h pc ∧ PopFrame w w' h pc keep ∧ HandleOk w' h ∧
      (∀ z, HandleOk w z → (w'.cont? z).isSome → HandleOk w' z) ∧
      (∀ z, z ≠ h → rank h ≤ rank z → NotBelow w (disposedOf keep pc) z → w'.cont? z = w.cont? z) := by
  let K : SlabID → Prop := fun x => KeptOf keep pc x ∧ (w.cont? x).isSome
  let ds := disposed keep es
  have hds : ∀ e ∈ ds, e ∈ pc.storedElems := fun e he => (S.elems e).mp (mem_disposed.mp he).1
  have hdseq : ∀ e, e ∈ ds ↔ e ∈ disposedOf keep pc := by
    intro e
    unfold disposedOf
    rw [mem_disposed, mem_disposed, S.elems]
  obtain ⟨M, hfree⟩ := pop_mid (keep := keep) H hhand hp S E hidx
  have P := M.rel
  -- the notification, on the pruned mid state
  obtain ⟨w0', hn0, S3⟩ := sim_notifyParent fuel _ _ _ _ _ _ _ M.sim hn
  obtain ⟨H3, F3, hc3⟩ := notify_ok hn0 M.ok M.hand M.pend
  have hmut3 : MutIdxOkX w0' (fun _ => False) :=
    F3.sig.mutIdxOkX M.mutIdx (fun q x => by rw [F3.idx])
  have hK3 : ∀ x, K x → ∀ q, ¬ Holds w0' q x :=
    fun x hx q hq => M.roots x hx q ((F3.sig.holds_iff q x).mp hq)
  have Hfin := WorldOkPK.of_sim H3 S3 hc3 hmut3 hK3
  have hsome3 : ∀ z, (w'.cont? z).isSome = ((e0.forgetElems ds).cont? z).isSome := by
    intro z
    rw [← S3.cont?, F3.sig.isSome, cont?_prune]
  refine ⟨Hfin, by rw [← S.ctr]; exact hc3, ?_, ⟨?_, ?_, ?_, ?_⟩, ?_, ?_, ?_⟩
  rotate_right
  · -- the strong frame: what is neither below `h` in rank nor disposed of is untouched
    intro z hz hrk hnb
    have hnb' : NotBelow w ds z := fun e he => hnb e ((hdseq e).mp he)
    have := (E.mid_other hnb' hz).1
    rw [← S3.cont?, F3.above z hz hrk, cont?_prune, this]
  · have := F3.self
    rw [cont?_prune, P.now] at this
    obtain ⟨c'', hc'', hsd⟩ := this.get_some
    refine ⟨c'', by rw [← S3.cont?]; exact hc'', ?_, hsd.storedElems.trans S.empty,
      (hsd.vid.trans S.vid).trans (H.ids h _ hp)⟩
    rw [hsd.sig_eq, Cont.sig_of_empty S.empty, S.isArr]
    cases pc <;> rfl
  · -- what is below a disposed element is gone at the notification, which revives nothing
    intro e he v x hv hr
    have hg := E.mid_gone hfree ((hdseq e).mpr he) hv hr
    have := hsome3 x
    rw [hg] at this
    cases hx : w'.cont? x with
    | none => rfl
    | some c => rw [hx] at this; cases this
  · -- outside the disposed subtrees the notification keeps every signature
    intro z hz hnb
    have hnb' : NotBelow w ds z := fun e he => hnb e ((hdseq e).mp he)
    have := (E.mid_other hnb' hz).1
    rw [← S3.cont?, F3.sig.sig z, cont?_prune, this]
  · -- the kept children are detached roots, unchanged with everything below them
    intro k hk hkl
    have hKk : K k := ⟨hk, hkl⟩
    have hrk : rank h < rank k := H.rank h k ⟨pc, hp, hk.2⟩ hkl
    refine ⟨⟨?_, fun q hq => hK3 k hKk q ((S3.holds_iff q k).mpr hq)⟩, ?_⟩
    · -- not dropped: no disposed element refers to it, and `h` alone held it
      rw [hsome3]
      cases hc : (e0.forgetElems ds).cont? k with
      | some c => rfl
      | none =>
        exfalso
        rcases E.dropped_holder (by rw [E.isSome_iff]; exact hkl) hc with ⟨e, he, hv⟩ | ⟨u, cu, huh, hcuw, hm0, _⟩
        · exact (mem_disposed.mp he).2 k hv hk.1
        · obtain ⟨i, hi⟩ := List.mem_iff_getElem?.mp hk.2
          obtain ⟨j, hj⟩ := List.mem_iff_getElem?.mp hm0
          exact huh (H.unique u h cu pc j i k hcuw hp hj hi hkl).1
    · intro z hr
      have hrr := refRankOk_of_cRank H.rank
      have hrz : rank k ≤ rank z := hr.rank_le hrr
      have hzh : z ≠ h := by intro he; subst he; omega
      -- `z` is below no disposed element
      have hnb : NotBelow w ds z := fun e he v hv hrv =>
        Reach.siblings_disjoint H.unique H.rank hp hk.2 (mem_pays_iff.mpr ⟨e, hds e he, hv⟩)
          (fun hkv => (mem_disposed.mp he).2 v hv (hkv ▸ hk.1)) hr hrv
      have hmid := (E.mid_other hnb hzh).1
      rw [← S3.cont?, F3.above z hzh (by omega), cont?_prune, hmid]
  · intro z hz
    rw [hsome3] at hz
    exact P.live hz
  · exact S3.handleOk_up (M.hand.transfer (fun q x => (F3.sig.holds_iff q x).mp) F3.cur)
  · intro z hz hl
    rw [hsome3] at hl
    exact S3.handleOk_up ((P.handleOk H.unique hz hl).transfer (fun q x => (F3.sig.holds_iff q x).mp) F3.cur)

end World
end Atree

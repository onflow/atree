import AtreeProofs.World.WPopPrune
import AtreeProofs.World.OpsMisc
import AtreeProofs.World.OpsArr
import AtreeProofs.World.OpsMap
/-
  The public operations of the World model behave alike on a world and on the same world without
  the closures whose recorded parent has been disposed of (`Sim`): same results, related final
  worlds; the five mutators at once, over their shape (`Mutation.sim`, for a shape whose fillers do not
  look at the closure table: `MutShape.Oblivious`).  With `WorldOkPK.to_sim` / `WorldOkPK.of_sim` this
  transports every operation theorem of `Props/C10W.lean` from `WorldOk` to `WorldOk'`.
-/
namespace Atree
open Gen

namespace World

/-- the simulation is kept by a common change of one live container -/
theorem Sim.setCont_withH {n : Nat} {w : World} {H0 : AList SlabID HInfo} (S : Sim n (w.withH H0) w)
    {v : SlabID} (hv : (w.cont? v).isSome) (c : Cont) : Sim n ((w.setCont v c).withH H0) (w.setCont v c) :=
  S.step (w2 := w.setCont v c) rfl (fun q hq => by
    rw [cont?_setCont, if_neg]
    · exact hq
    · intro he; subst he; rw [hq] at hv; cases hv)

theorem Sim.storableOf {n : Nat} {w : World} {H0 : AList SlabID HInfo} (S : Sim n (w.withH H0) w)
    {v : WVal} {lim : Nat} {cx : Ctx} {e : Elem} {w1 : World} {cx1 : Ctx}
    (h : w.storableOf v lim cx = .ok (e, w1, cx1)) :
    (w.withH H0).storableOf v lim cx = .ok (e, w1.withH H0, cx1) ∧ Sim n (w1.withH H0) w1 ∧
      ∀ q, (w.cont? q).isSome → (w1.cont? q).isSome := by
  obtain ⟨f1, f2⟩ := storableOf_dead h
  refine ⟨by rw [storableOf_withH, h]; rfl, S.step f1 f2, ?_⟩
  intro q hq
  cases v with
  | plain e0 => simp only [World.storableOf] at h; cases h; exact hq
  | child x wrap =>
    obtain ⟨_, _, _, _, h5, ⟨c, c', hc, hc', _⟩, _⟩ := childStorable_frame h
    by_cases hqx : q = x
    · subst hqx; rw [hc']; rfl
    · rw [h5 q hqx]; exact hq

theorem Sim.uninlineIfNeeded {n : Nat} {w : World} {H0 : AList SlabID HInfo} (S : Sim n (w.withH H0) w)
    {e : Elem} {cx : Ctx} {e' : Elem} {ov : Option SlabID} {w1 : World} {cx1 : Ctx}
    (h : w.uninlineIfNeeded e cx = .ok (e', ov, w1, cx1)) :
    (w.withH H0).uninlineIfNeeded e cx = .ok (e', ov, w1.withH H0, cx1) ∧ Sim n (w1.withH H0) w1 := by
  refine ⟨by rw [uninlineIfNeeded_withH, h], ?_⟩
  obtain ⟨_, f1, _, _, _, hcase⟩ := uninlineIfNeeded_ok h
  refine S.step f1 (fun q hq => ?_)
  rcases hcase with ⟨_, _, rfl, _, _⟩ | ⟨x, c, _, _, hxc, hform⟩
  · exact hq
  · rcases hform with ⟨_, _, rfl, _⟩ | ⟨_, c', _, _, rfl, _, _⟩
    · exact hq
    · rw [cont?_setCont, if_neg]
      · exact hq
      · intro he; subst he; rw [hxc] at hq; cases hq

theorem Sim.prep {n : Nat} {w0 w : World} (S : Sim n w0 w) {cx : Ctx} {lim : Nat} {v : Option WVal}
    {e : Option Elem} {w1 : World} {cx1 : Ctx} (h : Prep w cx lim v e w1 cx1) :
    ∃ w01, Prep w0 cx lim v e w01 cx1 ∧ Sim n w01 w1 ∧ ∀ q, (w.cont? q).isSome → (w1.cont? q).isSome := by
  have e0 := S.eq
  generalize w0.hinfo = H0 at e0
  subst e0
  cases v with
  | none => obtain ⟨rfl, rfl, rfl⟩ := h; exact ⟨_, ⟨rfl, rfl, rfl⟩, S, fun _ h => h⟩
  | some v =>
    obtain ⟨e0, rfl, hst⟩ := h
    obtain ⟨g1, S1, hl⟩ := S.storableOf hst
    exact ⟨_, ⟨e0, rfl, g1⟩, S1, hl⟩

theorem Sim.handBack {n : Nat} {w0 w : World} (S : Sim n w0 w) {cx : Ctx} {old old' : Option Elem}
    {ov : Option SlabID} {w1 : World} {cx1 : Ctx} (h : HandBack w cx old old' ov w1 cx1) :
    ∃ w01, HandBack w0 cx old old' ov w01 cx1 ∧ Sim n w01 w1 := by
  have e0 := S.eq
  generalize w0.hinfo = H0 at e0
  subst e0
  cases old with
  | none => obtain ⟨rfl, rfl, rfl, rfl⟩ := h; exact ⟨_, ⟨rfl, rfl, rfl, rfl⟩, S⟩
  | some o =>
    obtain ⟨o', rfl, hun⟩ := h
    obtain ⟨g, S1⟩ := S.uninlineIfNeeded hun
    exact ⟨_, ⟨o', rfl, g⟩, S1⟩

theorem Sim.cb {n : Nat} {w0 w : World} (S : Sim n w0 w) (M : MutShape) : Sim n (M.cb w0) (M.cb w) := by
  unfold MutShape.cb
  cases M.v with
  | none => exact S
  | some vs => exact S.install _ _ _

/-- the fillers of the shape that are functions do not look at the closure table -/
structure MutShape.Oblivious (M : MutShape) : Prop where
  reidx : ∀ {n w0 w}, Sim n w0 w → Sim n (M.reidx w0) (M.reidx w)
  erase : ∀ {n w0 w} ov, Sim n w0 w → Sim n (M.erase w0 ov) (M.erase w ov)
  fuel : ∀ {n w0 w w02 w2}, Sim n w0 w → Sim n w02 w2 → M.fuel w0 w02 = M.fuel w w2

/-- a mutation runs alike on both sides -/
theorem Mutation.sim {M : MutShape} (L : M.Oblivious) {n : Nat} {w0 w : World} {cx : Ctx} {old' : Option Elem}
    {w' : World} {cx' : Ctx} (S : Sim n w0 w) (h : Mutation M w cx old' w' cx') :
    ∃ w0', Mutation M w0 cx old' w0' cx' ∧ Sim n w0' w' := by
  obtain ⟨pc, e, w1, cx1, old, pc', cx2, w3, cx3, ov, w5, hp, hprep, hcore, hnp, hb, rfl⟩ := h
  obtain ⟨w01, hprep0, S1, hl1⟩ := S.prep hprep
  have S2 := L.reidx (S1.setCont (hl1 M.p (by rw [hp]; rfl)) pc')
  obtain ⟨w03, hn0, S3⟩ := sim_notifyParent _ _ _ _ _ _ _ _ S2 hnp
  obtain ⟨w05, hb0, S5⟩ := (S3.cb M).handBack hb
  refine ⟨_, ⟨pc, e, w01, cx1, old, pc', cx2, w03, cx3, ov, w05, by rw [S.cont?]; exact hp, ?_, ?_, ?_, hb0, rfl⟩,
    L.erase ov S5⟩
  · rw [S.T]; exact hprep0
  · rw [S1.T, mcfg_congr S1.T S1.addr]; exact hcore
  · rw [L.fuel S S2]; exact hn0

theorem Sim.eraseEntry {n : Nat} {w0 w : World} (S : Sim n w0 w) (p o : SlabID) :
    Sim n (w0.setIdx p (AList.erase (w0.idxOf p) o)) (w.setIdx p (AList.erase (w.idxOf p) o)) := by
  rw [S.idxOf]; exact S.setIdx _ _

theorem shInsert_oblivious (p : SlabID) (i : Nat) (v : WVal) : (shInsert p i v).Oblivious where
  reidx := fun S => S.shiftIdx p (fun j => if j ≥ i then j + 1 else j)
  erase := fun _ S => S
  fuel := fun _ S2 => congrArg (·.length + 2) S2.conts

theorem shSet_oblivious (p : SlabID) (i : Nat) (v : WVal) : (shSet p i v).Oblivious where
  reidx := fun S => S
  erase := fun {n w0 w} ov S => by
    cases ov with
    | none => exact S
    | some o =>
      have : ∀ b : Bool, Sim n (if b then w0 else w0.setIdx p (AList.erase (w0.idxOf p) o))
          (if b then w else w.setIdx p (AList.erase (w.idxOf p) o)) :=
        fun b => Bool.rec (S.eraseEntry p o) S b
      exact this _
  fuel := fun S _ => congrArg (·.length + 2) S.conts

theorem shRemove_oblivious (p : SlabID) (i : Nat) : (shRemove p i).Oblivious where
  reidx := fun S => S.shiftIdx p (fun j => if j > i then j - 1 else j)
  erase := fun ov S => by
    cases ov with
    | none => exact S
    | some o => exact S.eraseEntry p o
  fuel := fun _ S2 => congrArg (·.length + 2) S2.conts

theorem shMapSet_oblivious (p : SlabID) (k : MKey) (v : WVal) : (shMapSet p k v).Oblivious where
  reidx := fun S => S
  erase := fun _ S => S
  fuel := fun S _ => congrArg (·.length + 2) S.conts

theorem shMapRemove_oblivious (p : SlabID) (k rk : MKey) : (shMapRemove p k rk).Oblivious where
  reidx := fun S => S
  erase := fun _ S => S
  fuel := fun _ S2 => congrArg (·.length + 2) S2.conts

theorem sim_arrInsert {n : Nat} {w0 w : World} {p : SlabID} {i : Nat} {v : WVal} {cx : Ctx} {w' : World} {cx' : Ctx}
    (S : Sim n w0 w) (h : w.arrInsert p i v cx = .ok (w', cx')) :
    ∃ w0', w0.arrInsert p i v cx = .ok (w0', cx') ∧ Sim n w0' w' := by
  obtain ⟨w0', h0, S'⟩ := Mutation.sim (shInsert_oblivious p i v) S (arrInsert_mutation.mp h)
  exact ⟨w0', arrInsert_mutation.mpr h0, S'⟩

theorem sim_arrSet {n : Nat} {w0 w : World} {p : SlabID} {i : Nat} {v : WVal} {cx : Ctx} {old : Elem}
    {w' : World} {cx' : Ctx} (S : Sim n w0 w) (h : w.arrSet p i v cx = .ok (old, w', cx')) :
    ∃ w0', w0.arrSet p i v cx = .ok (old, w0', cx') ∧ Sim n w0' w' := by
  obtain ⟨w0', h0, S'⟩ := Mutation.sim (shSet_oblivious p i v) S (arrSet_mutation.mp h)
  exact ⟨w0', arrSet_mutation.mpr h0, S'⟩

theorem sim_arrRemove {n : Nat} {w0 w : World} {p : SlabID} {i : Nat} {cx : Ctx} {old : Elem}
    {w' : World} {cx' : Ctx} (S : Sim n w0 w) (h : w.arrRemove p i cx = .ok (old, w', cx')) :
    ∃ w0', w0.arrRemove p i cx = .ok (old, w0', cx') ∧ Sim n w0' w' := by
  obtain ⟨w0', h0, S'⟩ := Mutation.sim (shRemove_oblivious p i) S (arrRemove_mutation.mp h)
  exact ⟨w0', arrRemove_mutation.mpr h0, S'⟩

theorem sim_mapSet {n : Nat} {w0 w : World} {p : SlabID} {k : MKey} {v : WVal} {cx : Ctx} {old : Option Elem}
    {w' : World} {cx' : Ctx} (S : Sim n w0 w) (h : w.mapSet p k v cx = .ok (old, w', cx')) :
    ∃ w0', w0.mapSet p k v cx = .ok (old, w0', cx') ∧ Sim n w0' w' := by
  obtain ⟨w0', h0, S'⟩ := Mutation.sim (shMapSet_oblivious p k v) S (mapSet_mutation.mp h)
  exact ⟨w0', mapSet_mutation.mpr h0, S'⟩

theorem sim_mapRemove {n : Nat} {w0 w : World} {p : SlabID} {k : MKey} {cx : Ctx} {rk : MKey} {rv : Elem}
    {w' : World} {cx' : Ctx} (S : Sim n w0 w) (h : w.mapRemove p k cx = .ok (rk, rv, w', cx')) :
    ∃ w0', w0.mapRemove p k cx = .ok (rk, rv, w0', cx') ∧ Sim n w0' w' := by
  obtain ⟨w0', h0, S'⟩ := Mutation.sim (shMapRemove_oblivious p k rk) S (mapRemove_mutation.mp h)
  exact ⟨w0', mapRemove_mutation.mpr h0, S'⟩

theorem sim_arrGet {n : Nat} {w0 w : World} {p : SlabID} {i : Nat} {el : Elem} {w' : World}
    (S : Sim n w0 w) (h : w.arrGet p i = .ok (el, w')) :
    ∃ w0', w0.arrGet p i = .ok (el, w0') ∧ Sim n w0' w' := by
  obtain ⟨a, hp, hg, ⟨rfl, hno⟩ | ⟨x, c, hx, hc, rfl⟩⟩ := arrGet_ok_iff.mp h
  · exact ⟨w0, arrGet_ok_iff.mpr ⟨a, (S.cont? p).trans hp, hg, .inl ⟨rfl, fun x hx => (S.cont? x).trans (hno x hx)⟩⟩, S⟩
  · exact ⟨_, arrGet_ok_iff.mpr ⟨a, (S.cont? p).trans hp, hg, .inr ⟨x, c, hx, (S.cont? x).trans hc, rfl⟩⟩,
      S.setCallbackArr _ _ _⟩

theorem sim_mapGet {n : Nat} {w0 w : World} {p : SlabID} {k : MKey} {el : Elem} {w' : World}
    (S : Sim n w0 w) (h : w.mapGet p k = .ok (el, w')) :
    ∃ w0', w0.mapGet p k = .ok (el, w0') ∧ Sim n w0' w' := by
  have hm : w0.mcfg = w.mcfg := mcfg_congr S.T S.addr
  obtain ⟨m, k', hp, hg, ⟨rfl, hno⟩ | ⟨x, c, hx, hc, rfl⟩⟩ := mapGet_ok_iff.mp h
  · exact ⟨w0, mapGet_ok_iff.mpr ⟨m, k', (S.cont? p).trans hp, by rw [hm]; exact hg,
      .inl ⟨rfl, fun x hx => (S.cont? x).trans (hno x hx)⟩⟩, S⟩
  · exact ⟨_, mapGet_ok_iff.mpr ⟨m, k', (S.cont? p).trans hp, by rw [hm]; exact hg,
      .inr ⟨x, c, hx, (S.cont? x).trans hc, rfl⟩⟩, S.setCallbackMap _ _ _⟩

theorem sim_reopen {n : Nat} {w0 w : World} (S : Sim n w0 w) : Sim n w0.reopen w.reopen :=
  ⟨S.T, S.addr, S.conts, rfl, fun _ => Or.inl rfl⟩

theorem sim_setType {n : Nat} {w0 w : World} {p : SlabID} {ty : Nat} {cx : Ctx} {w' : World} {cx' : Ctx}
    (S : Sim n w0 w) (h : w.setType p ty cx = .ok (w', cx')) :
    ∃ w0', w0.setType p ty cx = .ok (w0', cx') ∧ Sim n w0' w' := by
  obtain ⟨c, c', cx1, hp, hk, hrun⟩ := setType_ok_iff.mp h
  have S1 : Sim n (w0.setCont p c') (w.setCont p c') := S.setCont (by rw [hp]; rfl) c'
  rcases hrun with ⟨hi, hn⟩ | ⟨hi, rfl, rfl⟩
  · obtain ⟨w0', hn0, S2⟩ := sim_notifyParent _ _ _ _ _ _ _ _ S1 hn
    refine ⟨w0', setType_ok_iff.mpr ⟨c, c', cx1, (S.cont? p).trans hp, hk, .inl ⟨hi, ?_⟩⟩, S2⟩
    rw [show (w0.setCont p c').fuelOf = (w.setCont p c').fuelOf from congrArg (·.length + 2) S1.conts]
    exact hn0
  · exact ⟨_, setType_ok_iff.mpr ⟨c, c', _, (S.cont? p).trans hp, hk, .inr ⟨hi, rfl, rfl⟩⟩, S1⟩

/-- a new container is filed on both sides: its ID is beyond the bound `n` of the disposed parents -/
theorem Sim.setCont_new {n : Nat} {w0 w : World} (S : Sim n w0 w) {v : SlabID} (hv : n < v.idx) (c : Cont) :
    Sim n (w0.setCont v c) (w.setCont v c) := by
  refine ⟨S.T, S.addr, by simp only [World.setCont, S.conts], S.mutIdx, fun x => ?_⟩
  rcases S.hinfo x with a | ⟨a, hi, b, c', d⟩
  · exact Or.inl a
  · refine Or.inr ⟨a, hi, b, ?_, d⟩
    rw [cont?_setCont, if_neg]
    · exact c'
    · intro he; subst he; omega

theorem Sim.anc_iff {n : Nat} {w0 w : World} (S : Sim n w0 w) (a z : SlabID) : Anc w0 a z ↔ Anc w a z := by
  constructor
  · intro h
    induction h with
    | refl => exact Anc.refl
    | step _ hp ih => exact Anc.step ih ((S.holds_iff _ _).mp hp)
  · intro h
    induction h with
    | refl => exact Anc.refl
    | step _ hp ih => exact Anc.step ih ((S.holds_iff _ _).mpr hp)

theorem Sim.wValOk {n : Nat} {w0 w : World} (S : Sim n w0 w) {p : SlabID} {lim : Nat} {v : WVal}
    (h : WValOk w p lim v) : WValOk w0 p lim v := by
  cases v with
  | plain e => exact h
  | child x wrap =>
    obtain ⟨h1, h2, h3, h4⟩ := h
    exact ⟨by rw [S.cont?]; exact h1, fun q hq => h2 q ((S.holds_iff q x).mp hq),
      fun ha => h3 ((S.anc_iff x p).mp ha), h4⟩

theorem Sim.sigFrame {n n' : Nat} {w0 w w0' w' : World} (S : Sim n w0 w) (S' : Sim n' w0' w') {p : SlabID}
    (h : SigFrame w0 w0' p) : SigFrame w w' p := by
  intro z hz
  rw [← S.cont?, ← S'.cont?]
  exact h z hz

theorem Sim.handedBack {n n' : Nat} {w0 w w0' w' : World} (S : Sim n w0 w) (S' : Sim n' w0' w') {old : Elem}
    (h : HandedBack w0 w0' old) : HandedBack w w' old := by
  intro x c hx hc
  rw [← S.cont?] at hc
  obtain ⟨c', h1, h2, h3, h4, h5⟩ := h x c hx hc
  exact ⟨c', by rw [← S'.cont?]; exact h1, h2, h3, h4, fun q hq => h5 q ((S'.holds_iff q x).mpr hq)⟩

theorem Sim.insertedAt {n n' : Nat} {w0 w w0' w' : World} (S : Sim n w0 w) (S' : Sim n' w0' w')
    {p : SlabID} {i : Nat} {v : WVal} (h : InsertedAt w0 w0' p i v) : InsertedAt w w' p i v := by
  obtain ⟨a, a', e, h1, h2, h3, h4, h5, h6⟩ := h
  refine ⟨a, a', e, by rw [← S.cont?]; exact h1, by rw [← S'.cont?]; exact h2, h3, h4, h5, fun x wr hv => ?_⟩
  obtain ⟨g1, g2, c, g3, g4⟩ := h6 x wr hv
  exact ⟨g1, S'.handleOk_up g2, c, by rw [← S'.cont?]; exact g3, g4⟩

theorem Sim.setAt {n n' : Nat} {w0 w w0' w' : World} (S : Sim n w0 w) (S' : Sim n' w0' w')
    {p : SlabID} {i : Nat} {v : WVal} {old' : Elem} (h : SetAt w0 w0' p i v old') : SetAt w w' p i v old' := by
  obtain ⟨a, a', old, e, h1, h2, h3, h4, h5, h6, h7, h8⟩ := h
  refine ⟨a, a', old, e, by rw [← S.cont?]; exact h1, by rw [← S'.cont?]; exact h2, h3, h4, h5,
    S.handedBack S' h6, h7, fun x wr hv => ?_⟩
  obtain ⟨g1, g2, c, g3, g4⟩ := h8 x wr hv
  exact ⟨g1, S'.handleOk_up g2, c, by rw [← S'.cont?]; exact g3, g4⟩

theorem Sim.removedAt {n n' : Nat} {w0 w w0' w' : World} (S : Sim n w0 w) (S' : Sim n' w0' w')
    {p : SlabID} {i : Nat} {old' : Elem} (h : RemovedAt w0 w0' p i old') : RemovedAt w w' p i old' := by
  obtain ⟨a, a', old, h1, h2, h3, h4, h5, h6⟩ := h
  exact ⟨a, a', old, by rw [← S.cont?]; exact h1, by rw [← S'.cont?]; exact h2, h3, h4, h5, S.handedBack S' h6⟩

theorem Sim.mapSetAt {n n' : Nat} {w0 w w0' w' : World} (S : Sim n w0 w) (S' : Sim n' w0' w')
    {p : SlabID} {k : MKey} {v : WVal} {old' : Option Elem} (h : MapSetAt w0 w0' p k v old') :
    MapSetAt w w' p k v old' := by
  obtain ⟨m, m', e, oldo, h1, h2, h3, h4, h5, h6, h7⟩ := h
  refine ⟨m, m', e, oldo, by rw [← S.cont?]; exact h1, by rw [← S'.cont?]; exact h2, h3, fun o ho => ?_, h5, h6,
    fun x wr hv => ?_⟩
  · obtain ⟨o', g1, g2, g3⟩ := h4 o ho
    exact ⟨o', g1, g2, S.handedBack S' g3⟩
  · obtain ⟨g1, g2, c, g3, g4⟩ := h7 x wr hv
    exact ⟨g1, S'.handleOk_up g2, c, by rw [← S'.cont?]; exact g3, g4⟩

theorem Sim.mapRemovedAt {n n' : Nat} {w0 w w0' w' : World} (S : Sim n w0 w) (S' : Sim n' w0' w')
    {p : SlabID} {k rk : MKey} {rv' : Elem} (h : MapRemovedAt w0 w0' p k rk rv') : MapRemovedAt w w' p k rk rv' := by
  obtain ⟨m, m', rv, h1, h2, h3, h4, h5, h6⟩ := h
  exact ⟨m, m', rv, by rw [← S.cont?]; exact h1, by rw [← S'.cont?]; exact h2, h3, h4, h5, S.handedBack S' h6⟩

variable {D : SlabID → DigestFn 4}

/-- from `WorldOk'` down to `WorldOk` of the pruned world, which simulates the world -/
theorem WorldOk'.down {w : World} {ctr : Nat} (H : WorldOk' D w ctr) :
    WorldOk D w.prune ctr ∧ Sim ctr w.prune w := by
  obtain ⟨rank, H0⟩ := H
  exact ⟨⟨rank, H0.prune⟩, sim_prune H0.hinfoBelow⟩

/-- … and back up from `WorldOk` of any world that simulates the world -/
theorem WorldOk'.up {n ctr : Nat} {w0 w : World} (H : WorldOk D w0 ctr) (S : Sim n w0 w) (hn : n ≤ ctr) :
    WorldOk' D w ctr := by
  obtain ⟨rank, H0⟩ := H
  exact ⟨rank, WorldOkPK.of_sim H0 S hn H0.mutIdx (fun _ h => absurd h id)⟩

end World
end Atree

import AtreeProofs.Props.C10WPop
import AtreeProofs.Props.C10WPopOps
import AtreeProofs.World.PopScenario
import AtreeProofs.World.OkScenario
/-
  NON-VACUITY of the theorems of `Props/C10WPop.lean`, on worlds obtained by RUNNING the model
  (T = 256), with the invariant established by chaining the operation theorems:

  * run H — why `WorldOk` itself does not survive a pop: root array `R` ∋ inlined array `F` ∋ `X`;
    `X` is removed from `F` (its closure keeps naming `F`), then `R` is popped: `F` is disposed of,
    the live `X` keeps a closure that names a container that no longer exists.
  * run P — the depth-3 world of `World/OkScenario.lean` (`R` ∋ inlined map `M` ∋ inlined wrapped
    array `A`; `R` ∋ standalone `B`): the inlined map `M` is popped through its handle, its inlined
    child `A` is disposed of (`worldOk_mapPop`).
  * run K — the same pop, the caller KEEPING `A` (an in-memory slab): `WorldOkKept`, the invariant
    fails exactly at `A`; `A` is mutated through its handle (nothing else changes); `A` is disposed
    of: the invariant holds again.
-/
namespace Atree.PopOkScenario
open Atree Gen World
open Atree.Scenario (okW eq_okW okE eq_okE runW runE ok_pair ok_triple w0 cx0)
open Atree.PopScenario (okL eq_okL okK eq_okK runL runK)
open Atree.OkScenario (D pl unrefB unrefB_sound childB wvalOk_child plOkAt plOkMap keyOk_K1_at insertedAt_handle cont?_getD)
open Atree.C10W

def arrPopKeepS (w : World) (h : SlabID) (keep : List SlabID) (cx : Ctx) : Except WErr (List Elem × World × Ctx) :=
  match w.cont? h with
  | some (.arr a) =>
    let (es, a', cx) := a.popIterate cx
    let w := w.setCont h (.arr a')
    let w := w.setIdx h []
    let w := w.forgetElems (disposed keep es)
    match notifyS w.fuelOf w h cx with
    | .error e => .error e
    | .ok (w, cx) => .ok (es, w, cx)
  | _ => .error .unknownContainer

/-- evaluable copy of `mapPopKeep` -/
def mapPopKeepS (w : World) (h : SlabID) (keep : List SlabID) (cx : Ctx) :
    Except WErr (List (MKey × Elem) × World × Ctx) :=
  match w.cont? h with
  | some (.map m) =>
    let (kvs, m', cx) := m.popIterate cx
    let w := w.setCont h (.map m')
    let w := w.forgetElems (disposed keep (kvs.map (·.2)))
    match notifyS w.fuelOf w h cx with
    | .error e => .error e
    | .ok (w, cx) => .ok (kvs, w, cx)
  | _ => .error .unknownContainer

theorem arrPopKeep_eq_S : arrPopKeep = arrPopKeepS := by
  funext w h keep cx
  unfold arrPopKeep arrPopKeepS
  simp only [notifyParent_eq_notifyS]
  rfl

theorem mapPopKeep_eq_S : mapPopKeep = mapPopKeepS := by
  funext w h keep cx
  unfold mapPopKeep mapPopKeepS
  simp only [notifyParent_eq_notifyS]
  rfl

/-! ### a decidable check of "the handle of `x`, held by the array `p` whose handle is current, is current" -/

def curArrB (w : World) (x p : SlabID) : Bool :=
  match AList.find? w.hinfo x, w.cont? p with
  | some hi, some (.arr pa) =>
    hi.parent == p &&
    (match AList.find? (w.idxOf p) x with
     | some i => (match pa.toList[i]? with
        | some e => e.pay == .ref x
        | none => false)
     | none => false)
  | _, _ => false

theorem handleOk_of_curArrB {w : World} {x p : SlabID} (h : curArrB w x p = true) (hp : HandleOk w p) :
    HandleOk w x := by
  unfold curArrB at h
  split at h
  · rename_i hi pa hhi hpa
    simp only [Bool.and_eq_true, beq_iff_eq] at h
    obtain ⟨h1, h2⟩ := h
    split at h2
    · rename_i i hidx
      split at h2
      · rename_i e he
        simp only [beq_iff_eq] at h2
        refine HandleOk.child x hi hhi ⟨maxInlineArr w.T, e, Or.inl ⟨pa, i, ?_, ?_, he, h2, rfl⟩⟩ (by rw [h1]; exact hp)
        · rw [h1]; exact hpa
        · rw [h1]; exact hidx
      · cases h2
    · cases h2
  · cases h

/-! ### run H: `hinfoLive` fails after a pop -/

def R : SlabID := ⟨1, 1⟩
/-- the array inlined in `R` -/
def F : SlabID := ⟨1, 2⟩
/-- the array inserted into `F`, then removed -/
def X : SlabID := ⟨1, 3⟩

def h1 : SlabID × World × Ctx := w0.newArr 7 cx0
def h2 : SlabID × World × Ctx := h1.2.1.newArr 8 h1.2.2
def h3 : SlabID × World × Ctx := h2.2.1.newArr 9 h2.2.2
/-- `F` inserted into `R` (inlined) -/
def h4 : World × Ctx := okW (h3.2.1.arrInsertS R 0 (.child F 0) h3.2.2)
/-- `X` inserted into `F` -/
def h5 : World × Ctx := okW (h4.1.arrInsertS F 0 (.child X 0) h4.2)
/-- `X` removed from `F`: handed back, its closure still names `F` -/
def h6 : Elem × World × Ctx := okE (h5.1.arrRemoveS F 0 h5.2)
/-- `R` popped: `F` is disposed of -/
def h7 : List Elem × World × Ctx := okL (h6.2.1.arrPopS R h6.2.2)
/-- run H continued: a value is inserted through the handle of `X` in the world where `WorldOk`
    fails (the closure of `X` names the disposed `F`) -/
def h8 : World × Ctx := okW (h7.2.1.arrInsertS X 0 (pl 1) h7.2.2)

/-- Run H, evaluated once: every step succeeds, the side conditions of the chain below hold, and
    after the pop `X` is live, its closure names `F`, and `F` is gone. -/
theorem checksH :
    (unrefB h3.2.1 R = true ∧ (h3.2.1.arrInsertS R 0 (.child F 0) h3.2.2).toBool = true ∧
      childB h3.2.1 R (maxInlineArr h3.2.1.T) F 0 = true) ∧
    ((h4.1.arrInsertS F 0 (.child X 0) h4.2).toBool = true ∧ childB h4.1 F (maxInlineArr h4.1.T) X 0 = true) ∧
    (h5.1.arrRemoveS F 0 h5.2).toBool = true ∧
    (unrefB h6.2.1 R = true ∧ (h6.2.1.arrPopS R h6.2.2).toBool = true) ∧
    ((h7.2.1.cont? X).isSome = true ∧ (AList.find? h7.2.1.hinfo X).map (·.parent) = some F ∧
      (h7.2.1.cont? F).isSome = false) ∧
    (unrefB h7.2.1 X = true ∧ h7.2.1.T = 256 ∧ (h7.2.1.arrInsertS X 0 (pl 1) h7.2.2).toBool = true ∧
      AList.find? h8.1.hinfo X = none ∧ h8.1.hinfo.all (fun e => (h8.1.cont? e.2.parent).isSome) = true) := by
  decide +kernel

/-- the three fresh containers satisfy the invariant -/
theorem okH3 : WorldOk D h3.2.1 h3.2.2.ctr :=
  (newArr_ok (D := D) (ty := 9) (newArr_ok (D := D) (ty := 8) OkScenario.ok1.1).1).1

theorem runH4 : h3.2.1.arrInsert R 0 (.child F 0) h3.2.2 = .ok h4 := runW checksH.1.2.1

/-- invariant and handle of `F` after its insertion into `R` -/
theorem okH4 : WorldOk D h4.1 h4.2.ctr ∧ HandleOk h4.1 F :=
  have c := checksH.1
  have g := arrInsert_ok okH3 (.root _ (unrefB_sound c.1)) (wvalOk_child c.2.2) (ok_pair runH4)
  ⟨g.1, insertedAt_handle g.2.2.1⟩

theorem runH5 : h4.1.arrInsert F 0 (.child X 0) h4.2 = .ok h5 := runW checksH.2.1.1

/-- invariant and handle of `F` after the insertion of `X` -/
theorem okH5 : WorldOk D h5.1 h5.2.ctr ∧ HandleOk h5.1 F :=
  have g := arrInsert_ok okH4.1 okH4.2 (wvalOk_child checksH.2.1.2) (ok_pair runH5)
  ⟨g.1, g.2.2.2.1⟩

theorem runH6 : h5.1.arrRemove F 0 h5.2 = .ok h6 := runE checksH.2.2.1

/-- the world before the pop satisfies the FULL invariant `WorldOk` -/
theorem okH6 : WorldOk D h6.2.1 h6.2.2.ctr := (arrRemove_ok okH5.1 okH5.2 (ok_triple runH6)).1

theorem runH7 : h6.2.1.arrPop R h6.2.2 = .ok h7 := runL checksH.2.2.2.1.2

/-- `WorldOk` holds before the pop, the pop goes through a current handle and succeeds, and
    `WorldOk` FAILS afterwards (clause `hinfoLive`), whereas `WorldOk'` holds. -/
theorem hinfoLive_fails :
    WorldOk D h6.2.1 h6.2.2.ctr ∧ HandleOk h6.2.1 R ∧ h6.2.1.arrPop R h6.2.2 = .ok h7 ∧
    ¬ HinfoLive h7.2.1 ∧ (∀ ctr, ¬ WorldOk D h7.2.1 ctr) ∧ WorldOk' D h7.2.1 h7.2.2.ctr := by
  have hR : HandleOk h6.2.1 R := .root _ (unrefB_sound checksH.2.2.2.1.1)
  have hnl : ¬ HinfoLive h7.2.1 := by
    intro hl
    obtain ⟨_, f2, f3⟩ := checksH.2.2.2.2.1
    cases hx : AList.find? h7.2.1.hinfo X with
    | none => rw [hx] at f2; cases f2
    | some hi =>
      rw [hx] at f2
      simp only [Option.map_some, Option.some.injEq] at f2
      have := hl X hi hx
      rw [f2, f3] at this
      cases this
  refine ⟨okH6, hR, runH7, hnl, fun ctr H => ?_, ?_⟩
  · obtain ⟨_, H0⟩ := H
    exact hnl H0.hinfoLive
  · obtain ⟨a, _, _, g3, _⟩ := worldOk_arrPop D _ R _ _ _ _ (worldOk'_of_worldOk okH6) hR (ok_triple runH7)
    exact g3

/-! ### run P: the inlined map `M` of the depth-3 world is popped through its handle

run K: the same pop, the caller keeping `A`, which is mutated, then disposed of -/

open Atree.OkScenario (t14 M A B K1)

/-- the depth-3 world -/
def v0 : World × Ctx := t14

/-- `M` popped through its handle (everything handed out is disposed of) -/
def p1 : List (MKey × Elem) × World × Ctx := okK (v0.1.mapPopS M v0.2)

/-- run P continued: a value stored under `K1` in the emptied map `M` through its handle (which the
    pop has kept current) -/
def p2 : Option Elem × World × Ctx := OkScenario.okM (OkScenario.mapSetS p1.2.1 M K1 (pl 5) p1.2.2)

def k1 : List (MKey × Elem) × World × Ctx := okK (mapPopKeepS v0.1 M [A] v0.2)

/-- a value inserted through the handle of the kept `A` -/
def k2 : World × Ctx := okW (k1.2.1.arrInsertS A 1 (pl 9) k1.2.2)

/-- `A` disposed of by the caller -/
def k3 : World := World.forget k2.1.fuelOf k2.1 A

/-- Runs P and K, evaluated once: every step succeeds, and the side conditions of the chains below. -/
theorem checksV :
    (curArrB v0.1 M OkScenario.R = true ∧ unrefB v0.1 OkScenario.R = true) ∧
    ((v0.1.mapPopS M v0.2).toBool = true ∧ (OkScenario.mapSetS p1.2.1 M K1 (pl 5) p1.2.2).toBool = true ∧
      p1.2.1.T = 256 ∧ (p2.2.1.cont? M).map Cont.pays = some [.val 5] ∧
      (p2.2.1.cont? OkScenario.R).map (fun c => c.storedElems.map (·.size)) = some [61, 19]) ∧
    (mapPopKeepS v0.1 M [A] v0.2).toBool = true ∧ (k1.2.1.arrInsertS A 1 (pl 9) k1.2.2).toBool = true ∧
    (v0.1.cont? A).isSome = true ∧ (v0.1.cont? M).map Cont.pays = some [.ref A] ∧
    ((v0.1.cont? A).getD (.arr (Arr.new 0 0 cx0).1)).isInlined = true ∧ 20 ≤ maxInlineArr k1.2.1.T := by
  decide +kernel

/-- the depth-3 world satisfies `WorldOk'` -/
theorem okV0 : WorldOk' D v0.1 v0.2.ctr := by
  unfold v0; exact worldOk'_of_worldOk OkScenario.scenario_worldOk.1

/-- the handle of `M` (slot 0 of the root array `R`) is current -/
theorem handleM : HandleOk v0.1 M :=
  handleOk_of_curArrB (p := OkScenario.R) checksV.1.1 (.root _ (unrefB_sound checksV.1.2))

theorem runP1 : v0.1.mapPop M v0.2 = .ok p1 := runK checksV.2.1.1

/-- shape of the world after the pop: `A` is gone, `M` is an empty map still inlined in `R`, whose
    element has shrunk from 80 to 22 bytes; `B` is untouched -/
theorem p1_facts :
    (p1.2.1.cont? A).isSome = false ∧
    (p1.2.1.cont? M).map Cont.pays = some [] ∧ (p1.2.1.cont? M).map Cont.isInlined = some true ∧
    (p1.2.1.cont? OkScenario.R).map Cont.pays = some [.ref M, .ref B] ∧
    (p1.2.1.cont? OkScenario.R).map (fun c => c.storedElems.map (·.size)) = some [22, 19] ∧
    (p1.2.1.cont? B).map Cont.rootSize = some 125 ∧
    p1.1.map (·.2.pay) = [.ref A] := by decide +kernel

/-- the invariant holds after the pop, by `worldOk_mapPop` -/
theorem okP1 : WorldOk' D p1.2.1 p1.2.2.ctr ∧ HandleOk p1.2.1 M ∧ PoppedAt p1.2.1 M ((v0.1.cont? M).getD (.arr (Arr.new 0 0 cx0).1)) := by
  obtain ⟨m, g1, _, g3, _, g5, _, g7, _⟩ := worldOk_mapPop D _ M _ _ _ _ okV0 handleM (ok_triple runP1)
  refine ⟨g3, g7, ?_⟩
  rw [g1]; exact g5

theorem runK1 : v0.1.mapPopKeep M [A] v0.2 = .ok k1 := by
  rw [mapPopKeep_eq_S]; exact eq_okK _ checksV.2.2.1

theorem runK2 : k1.2.1.arrInsert A 1 (pl 9) k1.2.2 = .ok k2 := runW checksV.2.2.2.1

/-- shapes along run K -/
theorem k_facts :
    -- after the pop with `A` kept: `A` is live, still inlined, referenced by nobody
    (k1.2.1.cont? A).map Cont.isInlined = some true ∧ (k1.2.1.cont? A).map Cont.pays = some [.val 1] ∧
    unrefB k1.2.1 A = true ∧ (k1.2.1.cont? M).map Cont.pays = some [] ∧
    -- after the mutation of `A`: only `A` has changed
    (k2.1.cont? A).map Cont.pays = some [.val 1, .val 9] ∧
    (k2.1.cont? M).map Cont.pays = some [] ∧
    (k2.1.cont? OkScenario.R).map (fun c => c.storedElems.map (·.size)) = some [22, 19] ∧
    -- after the disposal
    (k3.cont? A).isSome = false ∧ (k3.cont? M).isSome = true ∧ (k3.cont? B).isSome = true := by decide +kernel

/-- The chain: `WorldOkKept` after the pop with `A` kept; `A` (inlined) is an in-memory slab
    referenced by nobody, so the invariant fails — at `A` only; the mutation of `A` changes no
    other container; after the disposal of `A` the invariant holds again. -/
theorem okK :
    (∃ m, v0.1.cont? M = some (.map m) ∧ WorldOkKept D (KeptOf [A] (.map m)) k1.2.1 k1.2.2.ctr) ∧
    DetachedRoot k1.2.1 A ∧ (∀ ctr, ¬ WorldOk' D k1.2.1 ctr) ∧
    SigFrame k1.2.1 k2.1 A ∧
    WorldOk' D k3 k2.2.ctr := by
  obtain ⟨hAlive, hpays, hinl, hfit⟩ := checksV.2.2.2.2
  obtain ⟨m, g1, _, g3, _, _, g6, _, _⟩ :=
    worldOk_mapPopKeep D _ M [A] _ _ _ _ okV0 handleM (ok_triple runK1)
  have hA := cont?_getD (w := v0.1) (x := A) (.arr (Arr.new 0 0 cx0).1) hAlive
  have hkc : Pay.ref A ∈ (Cont.map m).pays := by
    rw [g1] at hpays
    simp only [Option.map_some, Option.some.injEq] at hpays
    rw [hpays]; simp
  obtain ⟨c1, c2, _, _, c5, _, _⟩ := kept_child_after_pop D _ _ M A _ _ _ g3 g6 hkc hA
  have hK : ∀ x, KeptOf [A] (.map m) x → x = A := fun x hx => by simpa using hx.1
  obtain ⟨_, d2, _, _, d5, _⟩ := kept_child_arrInsert D _ _ A 1 ⟨20, .val 9⟩ _ _ _ g3 c2
    ⟨⟨by decide, 9, rfl⟩, hfit⟩ (ok_pair runK2)
  exact ⟨⟨m, g1, g3⟩, c2, (c5 hinl).2, d2, d5 hK⟩

/-! ### the operation theorems for `WorldOk'` at work after a pop -/

theorem runH8 : h7.2.1.arrInsert X 0 (pl 1) h7.2.2 = .ok h8 := runW checksH.2.2.2.2.2.2.2.1

/-- `worldOk'_arrInsert` applies in a world that does not satisfy `WorldOk`; the notification of `X`
    finds no parent and drops the stale closure: afterwards even `WorldOk` holds again -/
theorem okH8 : WorldOk' D h8.1 h8.2.ctr ∧ AList.find? h8.1.hinfo X = none ∧ WorldOk D h8.1 h8.2.ctr := by
  obtain ⟨hX, hT, _, hnone, hall⟩ := checksH.2.2.2.2.2
  obtain ⟨g1, _⟩ := worldOk'_arrInsert D _ X 0 _ _ _ _ hinfoLive_fails.2.2.2.2.2
    (.root _ (unrefB_sound hX)) (plOkAt _ X hT 1) (ok_pair runH8)
  refine ⟨g1, hnone, worldOk_of_worldOk' g1 ?_⟩
  intro x hi hx
  have := List.all_eq_true.mp hall (x, hi) (mem_of_find? hx)
  simpa using this

theorem runP2 : p1.2.1.mapSet M K1 (pl 5) p1.2.2 = .ok p2 := OkScenario.runM checksV.2.1.2.1

/-- `worldOk'_mapSet` applies after the pop; the parent `R` accounts 61 bytes for `M` -/
theorem okP2 : WorldOk' D p2.2.1 p2.2.2.ctr ∧ (p2.2.1.cont? M).map Cont.pays = some [.val 5] ∧
    (p2.2.1.cont? OkScenario.R).map (fun c => c.storedElems.map (·.size)) = some [61, 19] :=
  have ⟨_, _, hT, c⟩ := checksV.2.1
  ⟨(worldOk'_mapSet D _ M K1 _ _ _ _ _ okP1.1 okP1.2.1 (keyOk_K1_at M hT) (plOkMap _ M hT 5) (ok_triple runP2)).1, c⟩

end Atree.PopOkScenario

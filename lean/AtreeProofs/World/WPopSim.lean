import AtreeProofs.WorldOkPop
import AtreeProofs.World.Chain
/-
  Closures whose recorded parent has been disposed of are inert: a world `w` and the same world
  `w0` without (some of) these closures (`Sim n w0 w`) behave alike under the parent notification
  (`notifyParent` / `arrSetRaw` / `mapSetRaw`, by induction on the fuel): same results, related
  final worlds.  `n` bounds the slab index of the disposed parents (slab IDs are never reused).
-/
namespace Atree
open Gen

namespace World

/-- the world with another closure table -/
def withH (w : World) (H : AList SlabID HInfo) : World := { w with hinfo := H }

@[simp] theorem cont?_withH (w : World) (H : AList SlabID HInfo) (y : SlabID) : (w.withH H).cont? y = w.cont? y := rfl
@[simp] theorem conts_withH (w : World) (H : AList SlabID HInfo) : (w.withH H).conts = w.conts := rfl
@[simp] theorem T_withH (w : World) (H : AList SlabID HInfo) : (w.withH H).T = w.T := rfl
@[simp] theorem addr_withH (w : World) (H : AList SlabID HInfo) : (w.withH H).addr = w.addr := rfl
@[simp] theorem mcfg_withH (w : World) (H : AList SlabID HInfo) : (w.withH H).mcfg = w.mcfg := rfl
@[simp] theorem mutIdx_withH (w : World) (H : AList SlabID HInfo) : (w.withH H).mutIdx = w.mutIdx := rfl
@[simp] theorem idxOf_withH (w : World) (H : AList SlabID HInfo) (p : SlabID) : (w.withH H).idxOf p = w.idxOf p := rfl
@[simp] theorem hinfo_withH (w : World) (H : AList SlabID HInfo) : (w.withH H).hinfo = H := rfl
@[simp] theorem fuelOf_withH (w : World) (H : AList SlabID HInfo) : (w.withH H).fuelOf = w.fuelOf := rfl
@[simp] theorem setCont_withH (w : World) (H : AList SlabID HInfo) (v : SlabID) (c : Cont) :
    (w.withH H).setCont v c = (w.setCont v c).withH H := rfl
@[simp] theorem setIdx_withH (w : World) (H : AList SlabID HInfo) (p : SlabID) (m : AList SlabID Nat) :
    (w.withH H).setIdx p m = (w.setIdx p m).withH H := rfl
@[simp] theorem shiftIdx_withH (w : World) (H : AList SlabID HInfo) (p : SlabID) (f : Nat → Nat) :
    (w.withH H).shiftIdx p f = (w.shiftIdx p f).withH H := rfl
@[simp] theorem withH_withH (w : World) (H H' : AList SlabID HInfo) : (w.withH H).withH H' = w.withH H' := rfl
theorem withH_self (w : World) : w.withH w.hinfo = w := rfl

/-- `w0` is `w` without some closures whose recorded parent is gone (and was allocated before
    `n`) -/
structure Sim (n : Nat) (w0 w : World) : Prop where
  T : w0.T = w.T
  addr : w0.addr = w.addr
  conts : w0.conts = w.conts
  mutIdx : w0.mutIdx = w.mutIdx
  hinfo : ∀ x, AList.find? w0.hinfo x = AList.find? w.hinfo x ∨
    (AList.find? w0.hinfo x = none ∧
      ∃ hi, AList.find? w.hinfo x = some hi ∧ w.cont? hi.parent = none ∧ hi.parent.idx ≤ n)

namespace Sim
variable {n : Nat} {w0 w : World}

theorem refl (n : Nat) (w : World) : Sim n w w := ⟨rfl, rfl, rfl, rfl, fun _ => Or.inl rfl⟩

theorem eq (S : Sim n w0 w) : w0 = w.withH w0.hinfo := by
  obtain ⟨h1, h2, h3, h4, _⟩ := S
  cases w0; cases w
  simp only at h1 h2 h3 h4
  subst h1; subst h2; subst h3; subst h4
  rfl

theorem cont? (S : Sim n w0 w) (y : SlabID) : w0.cont? y = w.cont? y := by
  simp only [World.cont?, S.conts]

theorem idxOf (S : Sim n w0 w) (p : SlabID) : w0.idxOf p = w.idxOf p := by
  simp only [World.idxOf, S.mutIdx]

theorem mono {m : Nat} (S : Sim n w0 w) (h : n ≤ m) : Sim m w0 w :=
  ⟨S.T, S.addr, S.conts, S.mutIdx, fun x => by
    rcases S.hinfo x with a | ⟨a, hi, b, c, d⟩
    · exact Or.inl a
    · exact Or.inr ⟨a, hi, b, c, Nat.le_trans d h⟩⟩

/-- the simulation survives any common update of the other tables that revives no container -/
theorem step {H0 : AList SlabID HInfo} (S : Sim n (w.withH H0) w) {w2 : World}
    (hh : w2.hinfo = w.hinfo) (hdead : ∀ q, w.cont? q = none → w2.cont? q = none) :
    Sim n (w2.withH H0) w2 := by
  refine ⟨rfl, rfl, rfl, rfl, fun x => ?_⟩
  rcases S.hinfo x with a | ⟨a, hi, b, c, d⟩
  · exact Or.inl (by simpa [hh] using a)
  · exact Or.inr ⟨a, hi, by rw [hh]; exact b, hdead _ c, d⟩

/-- … of the closure tables by the same erasure -/
theorem erase (S : Sim n w0 w) (x : SlabID) :
    Sim n { w0 with hinfo := AList.erase w0.hinfo x } { w with hinfo := AList.erase w.hinfo x } := by
  refine ⟨S.T, S.addr, S.conts, S.mutIdx, fun y => ?_⟩
  show AList.find? (AList.erase w0.hinfo x) y = AList.find? (AList.erase w.hinfo x) y ∨ _
  rw [AList.find?_erase, AList.find?_erase]
  by_cases hxy : x = y
  · simp [hxy]
  · simp only [if_neg hxy]
    rcases S.hinfo y with a | ⟨a, hi, b, c, d⟩
    · exact Or.inl a
    · exact Or.inr ⟨a, hi, b, c, d⟩

/-- the stale closure of `x` is dropped on one side only -/
theorem erase_right (S : Sim n w0 w) (x : SlabID) (hx : AList.find? w0.hinfo x = none) :
    Sim n w0 { w with hinfo := AList.erase w.hinfo x } := by
  refine ⟨S.T, S.addr, S.conts, S.mutIdx, fun y => ?_⟩
  show AList.find? w0.hinfo y = AList.find? (AList.erase w.hinfo x) y ∨ _
  rw [AList.find?_erase]
  by_cases hxy : x = y
  · subst hxy; simp [hx]
  · simp only [if_neg hxy]
    rcases S.hinfo y with a | ⟨a, hi, b, c, d⟩
    · exact Or.inl a
    · exact Or.inr ⟨a, hi, b, c, d⟩

theorem insertHinfo (S : Sim n w0 w) (x : SlabID) (hn : HInfo) :
    Sim n { w0 with hinfo := AList.insert w0.hinfo x hn } { w with hinfo := AList.insert w.hinfo x hn } := by
  refine ⟨S.T, S.addr, S.conts, S.mutIdx, fun y => ?_⟩
  show AList.find? (AList.insert w0.hinfo x hn) y = AList.find? (AList.insert w.hinfo x hn) y ∨ _
  rw [AList.find?_insert, AList.find?_insert]
  by_cases hxy : x = y
  · simp [hxy]
  · simp only [if_neg hxy]
    rcases S.hinfo y with a | ⟨a, hi, b, c, d⟩
    · exact Or.inl a
    · exact Or.inr ⟨a, hi, b, c, d⟩

theorem setIdx (S : Sim n w0 w) (p : SlabID) (m : AList SlabID Nat) : Sim n (w0.setIdx p m) (w.setIdx p m) :=
  ⟨S.T, S.addr, S.conts, by simp only [World.setIdx, S.mutIdx], S.hinfo⟩

theorem shiftIdx (S : Sim n w0 w) (p : SlabID) (f : Nat → Nat) : Sim n (w0.shiftIdx p f) (w.shiftIdx p f) := by
  unfold World.shiftIdx
  rw [S.idxOf]
  exact S.setIdx _ _

/-- `setCallbackWithChild` of an array parent on both sides -/
theorem setCallbackArr (S : Sim n w0 w) (p : SlabID) (i : Nat) (v : WVal) :
    Sim n (w0.setCallbackArr p i v) (w.setCallbackArr p i v) := by
  have e0 := S.eq
  generalize w0.hinfo = H0 at e0
  subst e0
  cases v with
  | plain e => exact S
  | child vid wrap => exact (S.setIdx _ _).insertHinfo _ _

/-- `setCallbackWithChild` of a map parent on both sides -/
theorem setCallbackMap (S : Sim n w0 w) (p : SlabID) (k : MKey) (v : WVal) :
    Sim n (w0.setCallbackMap p k v) (w.setCallbackMap p k v) := by
  have e0 := S.eq
  generalize w0.hinfo = H0 at e0
  subst e0
  cases v with
  | plain e => exact S
  | child vid wrap => exact S.insertHinfo _ _

/-- a container is set on both sides (it was live: nothing is revived) -/
theorem setCont (S : Sim n w0 w) {v : SlabID} (hv : (w.cont? v).isSome) (c : Cont) :
    Sim n (w0.setCont v c) (w.setCont v c) := by
  refine ⟨S.T, S.addr, by simp only [World.setCont, S.conts], S.mutIdx, fun x => ?_⟩
  rcases S.hinfo x with a | ⟨a, hi, b, c', d⟩
  · exact Or.inl a
  · refine Or.inr ⟨a, hi, b, ?_, d⟩
    rw [cont?_setCont, if_neg]
    · exact c'
    · intro he; subst he; rw [c'] at hv; cases hv

end Sim

/-! ### operations that do not read the closure table -/

/-- a result with the closure table replaced -/
def liftH (H : AList SlabID HInfo) {α : Type} (r : Except WErr (α × World × Ctx)) : Except WErr (α × World × Ctx) :=
  match r with
  | .ok (a, w, cx) => .ok (a, w.withH H, cx)
  | .error e => .error e

theorem childStorable_withH (w : World) (H : AList SlabID HInfo) (vid : SlabID) (wrap lim : Nat) (cx : Ctx) :
    (w.withH H).childStorable vid wrap lim cx = liftH H (w.childStorable vid wrap lim cx) := by
  unfold childStorable
  simp only [cont?_withH]
  cases w.cont? vid with
  | none => rfl
  | some c =>
    simp only
    cases c.inlinable (lim - 2 * wrap) <;> cases c.isInlined
    · rfl
    · cases c.uninline vid cx <;> rfl
    · cases c.inline vid cx <;> rfl
    · rfl

theorem storableOf_withH (w : World) (H : AList SlabID HInfo) (v : WVal) (lim : Nat) (cx : Ctx) :
    (w.withH H).storableOf v lim cx = liftH H (w.storableOf v lim cx) := by
  cases v with
  | plain e => rfl
  | child vid wrap => exact childStorable_withH w H vid wrap lim cx

/-- `storableOf` revives no container and leaves the closure table alone -/
theorem storableOf_dead {w : World} {v : WVal} {lim : Nat} {cx : Ctx} {e : Elem} {w' : World} {cx' : Ctx}
    (h : w.storableOf v lim cx = .ok (e, w', cx')) :
    w'.hinfo = w.hinfo ∧ ∀ q, w.cont? q = none → w'.cont? q = none := by
  cases v with
  | plain e0 =>
    simp only [World.storableOf] at h; cases h
    exact ⟨rfl, fun _ h => h⟩
  | child x wrap =>
    obtain ⟨h1, _, _, _, h5, ⟨c, c', hc, hc', _⟩, _⟩ := childStorable_frame h
    refine ⟨h1, fun q hq => ?_⟩
    by_cases hqx : q = x
    · subst hqx; rw [hc] at hq; cases hq
    · rw [h5 q hqx]; exact hq

theorem uninlineIfNeeded_withH (w : World) (H : AList SlabID HInfo) (e : Elem) (cx : Ctx) :
    (w.withH H).uninlineIfNeeded e cx =
      match w.uninlineIfNeeded e cx with
      | .ok (e', ov, w', cx') => .ok (e', ov, w'.withH H, cx')
      | .error er => .error er := by
  unfold uninlineIfNeeded
  cases e.pay with
  | val n => rfl
  | ref vid =>
    simp only [cont?_withH]
    cases w.cont? vid with
    | none => rfl
    | some c =>
      simp only
      split
      · cases c.uninline vid cx with
        | error er => rfl
        | ok r => rfl
      · rfl

/-- the three simulation statements at a given fuel -/
def SimOk (fuel : Nat) : Prop :=
  (∀ n w0 w x cx w' cx', Sim n w0 w → notifyParent fuel w x cx = .ok (w', cx') →
      ∃ w0', notifyParent fuel w0 x cx = .ok (w0', cx') ∧ Sim n w0' w') ∧
  (∀ n w0 w p i v cx old w' cx', Sim n w0 w → arrSetRaw fuel w p i v cx = .ok (old, w', cx') →
      ∃ w0', arrSetRaw fuel w0 p i v cx = .ok (old, w0', cx') ∧ Sim n w0' w') ∧
  (∀ n w0 w p k v cx old w' cx', Sim n w0 w → mapSetRaw fuel w p k v cx = .ok (old, w', cx') →
      ∃ w0', mapSetRaw fuel w0 p k v cx = .ok (old, w0', cx') ∧ Sim n w0' w')

theorem Sim.install {n : Nat} {w0 w : World} (S : Sim n w0 w) (p : SlabID) (s : Slot) (v : WVal) :
    Sim n (w0.install p s v) (w.install p s v) := by
  cases s with
  | idx i => exact S.setCallbackArr p i v
  | key k => exact S.setCallbackMap p k v

/-- the core `set` of a slot with its notification and closure on both sides, given the simulation of
    the notification at the same fuel -/
theorem sim_setRaw (fuel : Nat)
    (ihn : ∀ n w0 w x cx w' cx', Sim n w0 w → notifyParent fuel w x cx = .ok (w', cx') →
      ∃ w0', notifyParent fuel w0 x cx = .ok (w0', cx') ∧ Sim n w0' w')
    {n : Nat} {w0 w : World} {p : SlabID} {s : Slot} {v : WVal} {cx : Ctx} {old : Option Elem} {w' : World} {cx' : Ctx}
    (S : Sim n w0 w) (h : SetRaw fuel w p s v cx old w' cx') :
    ∃ w0', SetRaw fuel w0 p s v cx old w0' cx' ∧ Sim n w0' w' := by
  have e0 := S.eq
  generalize w0.hinfo = H0 at e0
  subst e0
  obtain ⟨qc, e, w1, cx1, qc', cx2, w3, hq, hst, hs, hnp, rfl⟩ := h
  obtain ⟨f1, f2⟩ := storableOf_dead hst
  have S2 : Sim n ((w1.setCont p qc').withH H0) (w1.setCont p qc') :=
    S.step (w2 := w1.setCont p qc') f1 (fun q hq' => by
      rw [cont?_setCont, if_neg]
      · exact f2 q hq'
      · intro he; subst he; rw [hq] at hq'; cases hq')
  obtain ⟨w03, hn0, S3⟩ := ihn _ _ _ _ _ _ _ S2 hnp
  exact ⟨_, ⟨qc, e, w1.withH H0, cx1, qc', cx2, w03, hq, by rw [storableOf_withH, T_withH, hst]; rfl,
    hs.congr rfl rfl, hn0, rfl⟩, S3.install p s v⟩

/-- the simulation of `notifyParentIfNeeded`, by induction on the fuel: a stale closure whose parent is gone is at most dropped, every other step is the same on both sides -/
theorem sim_notifyParent : ∀ fuel n w0 w x cx w' cx', Sim n w0 w → notifyParent fuel w x cx = .ok (w', cx') →
    ∃ w0', notifyParent fuel w0 x cx = .ok (w0', cx') ∧ Sim n w0' w' := by
  intro fuel
  induction fuel with
  | zero => intro n w0 w x cx w' cx' _ h; rw [notifyParent] at h; cases h
  | succ fuel ih =>
    intro n w0 w x cx w' cx' S h
    have hcong : ∀ z, w0.cont? z = w.cont? z := S.cont?
    have hidx : ∀ q, w0.idxOf q = w.idxOf q := S.idxOf
    have hm : w0.mcfg = w.mcfg := mcfg_congr S.T S.addr
    rcases S.hinfo x with hsame | ⟨hnone, hi', hsome, hdead, _⟩
    · -- the closure of `x` is the same on both sides: so is every step
      rcases notifyParent_succ_iff.mp h with ⟨hh, rfl, rfl⟩ | ⟨hi, c, hh, hc, ⟨hs, rfl, rfl⟩ |
        ⟨hs, ⟨rfl, rfl, hl⟩ | ⟨qc, s, el, old, hf, hsr, hold⟩⟩⟩
      · exact ⟨w0, notifyParent_succ_iff.mpr (.inl ⟨hsame.trans hh, rfl, rfl⟩), S⟩
      · exact ⟨w0, notifyParent_succ_iff.mpr (.inr ⟨hi, c, hsame.trans hh, (hcong x).trans hc, .inl ⟨hs, rfl, rfl⟩⟩), S⟩
      · exact ⟨_, notifyParent_succ_iff.mpr (.inr ⟨hi, c, hsame.trans hh, (hcong x).trans hc,
          .inr ⟨hs, .inl ⟨rfl, rfl, hl.congr hcong hidx hm⟩⟩⟩), S.erase x⟩
      · obtain ⟨w0', hs0, S'⟩ := sim_setRaw fuel ih S hsr
        exact ⟨w0', notifyParent_succ_iff.mpr (.inr ⟨hi, c, hsame.trans hh, (hcong x).trans hc,
          .inr ⟨hs, .inr ⟨qc, s, el, old, hf.congr hcong hidx hm, hs0, hold⟩⟩⟩), S'⟩
    · -- the closure of `x` is stale (its parent is gone) and absent from `w0`: it is at most dropped
      have h0 : notifyParent (fuel + 1) w0 x cx = .ok (w0, cx) :=
        notifyParent_succ_iff.mpr (.inl ⟨hnone, rfl, rfl⟩)
      rcases notifyParent_succ_iff.mp h with ⟨hh, rfl, rfl⟩ | ⟨hi, c, hh, hc, ⟨hs, rfl, rfl⟩ |
        ⟨hs, ⟨rfl, rfl, hl⟩ | ⟨qc, s, el, old, hf, hsr, hold⟩⟩⟩
      · exact ⟨w0, h0, S⟩
      · exact ⟨w0, h0, S⟩
      · exact ⟨w0, h0, S.erase_right x hnone⟩
      · cases hsome.symm.trans hh
        rw [hf.1] at hdead; cases hdead

/-- `Array.set` on both sides -/
theorem sim_arrSetRaw (fuel : Nat)
    (ihn : ∀ n w0 w x cx w' cx', Sim n w0 w → notifyParent fuel w x cx = .ok (w', cx') →
      ∃ w0', notifyParent fuel w0 x cx = .ok (w0', cx') ∧ Sim n w0' w') :
    ∀ n w0 w p i v cx old w' cx', Sim n w0 w → arrSetRaw fuel w p i v cx = .ok (old, w', cx') →
      ∃ w0', arrSetRaw fuel w0 p i v cx = .ok (old, w0', cx') ∧ Sim n w0' w' := by
  intro n w0 w p i v cx old w' cx' S h
  obtain ⟨w0', h0, S'⟩ := sim_setRaw fuel ihn S (arrSetRaw_iff_setRaw.mp h)
  exact ⟨w0', arrSetRaw_iff_setRaw.mpr h0, S'⟩

/-- `OrderedMap.set` on both sides -/
theorem sim_mapSetRaw (fuel : Nat)
    (ihn : ∀ n w0 w x cx w' cx', Sim n w0 w → notifyParent fuel w x cx = .ok (w', cx') →
      ∃ w0', notifyParent fuel w0 x cx = .ok (w0', cx') ∧ Sim n w0' w') :
    ∀ n w0 w p k v cx old w' cx', Sim n w0 w → mapSetRaw fuel w p k v cx = .ok (old, w', cx') →
      ∃ w0', mapSetRaw fuel w0 p k v cx = .ok (old, w0', cx') ∧ Sim n w0' w' := by
  intro n w0 w p k v cx old w' cx' S h
  obtain ⟨w0', h0, S'⟩ := sim_setRaw fuel ihn S (mapSetRaw_iff_setRaw.mp h)
  exact ⟨w0', mapSetRaw_iff_setRaw.mpr h0, S'⟩

theorem simOk (fuel : Nat) : SimOk fuel :=
  ⟨sim_notifyParent fuel, sim_arrSetRaw fuel (sim_notifyParent fuel), sim_mapSetRaw fuel (sim_notifyParent fuel)⟩

end World
end Atree

import AtreeProofs.World.WPopPrune
import AtreeProofs.World.HandBack
/-
  `step_pop`, the step of a bulk pop: the container `h` is replaced by an empty one (same kind, same form,
  same value ID), its index table is cleared, and a set of containers that is closed under
  element references is dropped from all tables — the popped children that are not kept, with
  everything below them.  Afterwards the (pruned) world satisfies the generalised invariant with
  `h` as the container whose parent slot is out of date and the kept popped children `K` pending
  (they are referenced by nobody, inlined or not).
-/
namespace Atree
open Gen

namespace World

variable {D : SlabID → DigestFn 4} {rank : SlabID → Nat}

theorem _root_.Atree.Cont.pays_of_empty {c : Cont} (h : c.storedElems = []) : c.pays = [] := by
  simp [Cont.pays, h]

theorem _root_.Atree.Cont.slots_of_empty (T : Nat) {c : Cont} (h : c.storedElems = []) : c.slots T = [] := by
  have := Cont.slots_map_snd T c
  rw [h] at this
  exact List.map_eq_nil_iff.mp this

theorem _root_.Atree.Cont.sig_of_empty {c : Cont} (h : c.storedElems = []) : c.sig = (c.isArr, []) := by
  cases c with
  | arr a => simp only [Cont.storedElems] at h; simp [Cont.sig, Cont.isArr, h]
  | map m => simp only [Cont.storedElems, List.map_eq_nil_iff] at h; simp [Cont.sig, Cont.isArr, h]

theorem WorldOkPK.filed {w : World} {ctr : Nat} {K : SlabID → Prop} (H : WorldOkPK D rank K w ctr) {z : SlabID}
    {c : Cont} (hz : w.cont? z = some c) : FiledOk D w ctr z c :=
  ⟨H.ids z c hz, H.addr z c hz, H.conts z c hz, H.band z c hz⟩

theorem WorldOkPK.cfgOk {w : World} {ctr : Nat} {K : SlabID → Prop} (H : WorldOkPK D rank K w ctr)
    {p : SlabID} {pm : OMap 3} (hp : w.cont? p = some (.map pm)) : CfgOk w.mcfg w.T pm :=
  (H.filed hp).cfgOk

/-- room for one more element in an inlined array (within the band: also an in-memory slab kept by the caller) -/
theorem WorldOkPK.arr_room {w : World} {ctr : Nat} {K : SlabID → Prop} (H : WorldOkPK D rank K w ctr)
    {p : SlabID} {a : Arr} (hp : w.cont? p = some (.arr a)) :
    a.isInlined = true → a.rootHdr.size + maxInlineArr w.T ≤ maxThr w.T := by
  intro hi
  have h0 : a.rootHdr.size ≤ w.T := H.band p _ hp hi
  have F := thrFacts H.legal
  rw [F.inlE, F.maxE]
  omega

/-- `w2` is `w` where the container `h` has been emptied (`pc'`), its index table cleared, and a set
    of containers, closed under element references and referenced by nothing that stays, dropped
    from all tables -/
structure PopRel (w w2 : World) (h : SlabID) (pc pc' : Cont) : Prop where
  T : w2.T = w.T
  addr : w2.addr = w.addr
  was : w.cont? h = some pc
  now : w2.cont? h = some pc'
  empty : pc'.storedElems = []
  hinfo_h : AList.find? w2.hinfo h = AList.find? w.hinfo h
  idx_h : ∀ x, AList.find? (w2.idxOf h) x = none
  other : ∀ z, z ≠ h →
    (w2.cont? z = w.cont? z ∧ AList.find? w2.hinfo z = AList.find? w.hinfo z ∧
      AList.find? w2.mutIdx z = AList.find? w.mutIdx z) ∨
    ((w.cont? z).isSome ∧ w2.cont? z = none ∧ AList.find? w2.hinfo z = none ∧ AList.find? w2.mutIdx z = none)
  closed : ∀ u c, u ≠ h → w.cont? u = some c → w2.cont? u = none → ∀ y, Pay.ref y ∈ c.pays → w2.cont? y = none
  dang : ∀ q qc, q ≠ h → w2.cont? q = some qc → ∀ y, Pay.ref y ∈ qc.pays → (w.cont? y).isSome → (w2.cont? y).isSome

namespace PopRel
variable {w w2 : World} {h : SlabID} {pc pc' : Cont}

theorem kept (P : PopRel w w2 h pc pc') {z : SlabID} {c : Cont} (hz : z ≠ h) (hc : w2.cont? z = some c) :
    w.cont? z = some c ∧ w2.idxOf z = w.idxOf z ∧ AList.find? w2.hinfo z = AList.find? w.hinfo z := by
  rcases P.other z hz with ⟨a, b, c'⟩ | ⟨_, b, _⟩
  · exact ⟨by rw [← a]; exact hc, by simp only [idxOf, c'], b⟩
  · rw [b] at hc; cases hc

theorem live (P : PopRel w w2 h pc pc') {z : SlabID} (hz : (w2.cont? z).isSome) : (w.cont? z).isSome := by
  by_cases hzh : z = h
  · subst hzh; rw [P.was]; rfl
  · obtain ⟨c, hc⟩ := Option.isSome_iff_exists.mp hz
    rw [(P.kept hzh hc).1]; rfl

theorem hinfo_sub (P : PopRel w w2 h pc pc') {x : SlabID} {hi : HInfo} (hx : AList.find? w2.hinfo x = some hi) :
    AList.find? w.hinfo x = some hi := by
  by_cases hxh : x = h
  · subst hxh; rw [← P.hinfo_h]; exact hx
  · rcases P.other x hxh with ⟨_, b, _⟩ | ⟨_, _, b, _⟩
    · rw [← b]; exact hx
    · rw [b] at hx; cases hx

theorem holds_ne (P : PopRel w w2 h pc pc') {q x : SlabID} (hq : Holds w2 q x) : q ≠ h := by
  obtain ⟨qc, hqc, hm⟩ := hq
  intro he
  subst he
  rw [P.now] at hqc; cases hqc
  rw [Cont.pays_of_empty P.empty] at hm; cases hm

theorem holds_back (P : PopRel w w2 h pc pc') {q x : SlabID} (hq : Holds w2 q x) : Holds w q x := by
  have hne := P.holds_ne hq
  obtain ⟨qc, hqc, hm⟩ := hq
  exact ⟨qc, (P.kept hne hqc).1, hm⟩

theorem holder (P : PopRel w w2 h pc pc') {q x : SlabID} (hq : q ≠ h) (hh : Holds w q x)
    (hx : (w2.cont? x).isSome) : Holds w2 q x := by
  obtain ⟨qc, hqc, hm⟩ := hh
  rcases P.other q hq with ⟨a, _⟩ | ⟨_, b, _⟩
  · exact ⟨qc, by rw [a]; exact hqc, hm⟩
  · have := P.closed q qc hq hqc b x hm
    rw [this] at hx; cases hx

/-- a closure position in the new world is one in the old world -/
theorem closureAt_back (P : PopRel w w2 h pc pc') {x : SlabID} {hi : HInfo} {lim : Nat} {e : Elem}
    (hca : ClosureAt w2.prune x hi lim e) : ClosureAt w x hi lim e := by
  have hpne : hi.parent ≠ h := by
    intro he
    rcases hca with ⟨pa, i, hpa, _, hge, _⟩ | ⟨pm, k, hpm, _, hmem, _⟩
    · rw [cont?_prune, he, P.now] at hpa; cases hpa
      have : (Cont.arr pa).storedElems = [] := P.empty
      simp only [Cont.storedElems] at this
      rw [this] at hge; simp at hge
    · rw [cont?_prune, he, P.now] at hpm; cases hpm
      have : (Cont.map pm).storedElems = [] := P.empty
      simp only [Cont.storedElems] at this
      have hm2 : e ∈ pm.toList.map (·.2) := List.mem_map.mpr ⟨_, hmem, rfl⟩
      rw [this] at hm2; cases hm2
  rcases hca with ⟨pa, i, hpa, hi2, hge, hpay, hlim⟩ | ⟨pm, k, hpm, hk, hmem, hpay, hlim⟩
  · rw [cont?_prune] at hpa
    obtain ⟨a1, a2, _⟩ := P.kept hpne hpa
    rw [idxOf_prune, a2] at hi2
    exact Or.inl ⟨pa, i, a1, hi2, hge, hpay, by rw [hlim, T_prune, P.T]⟩
  · rw [cont?_prune] at hpm
    obtain ⟨a1, _⟩ := P.kept hpne hpm
    exact Or.inr ⟨pm, k, a1, hk, hmem, hpay, by rw [hlim, T_prune, P.T]⟩

/-- … and a closure position in the old world whose parent is neither `h` nor dropped is one in the
    new world -/
theorem closureAt_fwd (P : PopRel w w2 h pc pc') {x : SlabID} {hi : HInfo} {lim : Nat} {e : Elem}
    (hne : hi.parent ≠ h) (hl : (w2.cont? hi.parent).isSome) (hca : ClosureAt w x hi lim e) :
    ClosureAt w2.prune x hi lim e := by
  obtain ⟨c, hc⟩ := Option.isSome_iff_exists.mp hl
  obtain ⟨a1, a2, _⟩ := P.kept hne hc
  rcases hca with ⟨pa, i, hpa, hi2, hge, hpay, hlim⟩ | ⟨pm, k, hpm, hk, hmem, hpay, hlim⟩
  · rw [a1] at hpa; cases hpa
    exact Or.inl ⟨pa, i, by rw [cont?_prune]; exact hc, by rw [idxOf_prune, a2]; exact hi2, hge, hpay,
      by rw [hlim, T_prune, P.T]⟩
  · rw [a1] at hpm; cases hpm
    exact Or.inr ⟨pm, k, by rw [cont?_prune]; exact hc, hk, hmem, hpay, by rw [hlim, T_prune, P.T]⟩

/-- Current handles of the containers that are still there stay current (a kept popped child
    becomes a root). -/
theorem handleOk (P : PopRel w w2 h pc pc') (hu : UniqueRef w) {z : SlabID} (hz : HandleOk w z)
    (hl : (w2.cont? z).isSome) : HandleOk w2.prune z := by
  induction hz with
  | root x hr => exact HandleOk.root x (fun q hq => hr q (P.holds_back hq))
  | child x hi hhi hc _ ih =>
    obtain ⟨lim, e, hca⟩ := hc
    have hold : Holds w hi.parent x := ClosureAt.holds hca
    by_cases hph : hi.parent = h
    · -- `x` was an element of `h`: nobody refers to it any more
      refine HandleOk.root x (fun q hq => ?_)
      have hq2 : Holds w2 q x := hq
      obtain ⟨qc, hqc, hm⟩ := P.holds_back hq2
      obtain ⟨pc0, hpc0, hm0⟩ := hold
      obtain ⟨i, hi'⟩ := List.mem_iff_getElem?.mp hm
      obtain ⟨j, hj⟩ := List.mem_iff_getElem?.mp hm0
      have := (hu q hi.parent qc pc0 i j x hqc hpc0 hi' hj (P.live hl)).1
      exact P.holds_ne hq2 (this.trans hph)
    · have hpl : (w2.cont? hi.parent).isSome := by
        obtain ⟨qc, hqc, _⟩ := P.holder hph hold hl
        rw [hqc]; rfl
      have hx2 : AList.find? w2.hinfo x = some hi := by
        by_cases hxh : x = h
        · subst hxh; rw [P.hinfo_h]; exact hhi
        · obtain ⟨c, hc⟩ := Option.isSome_iff_exists.mp hl
          rw [(P.kept hxh hc).2.2]; exact hhi
      exact HandleOk.child x hi (find?_prune_some.mpr ⟨hx2, hpl⟩) ⟨lim, e, P.closureAt_fwd hph hpl hca⟩ (ih hpl)

end PopRel

/-- the step of a bulk pop (see the header): all clauses of the generalised invariant for the pruned world
    after the pop, `h` being out of date and the kept popped children `K` pending; moreover
    `mutableElementIndex` is exact and the kept children are referenced by nobody -/
theorem step_pop {w w2 : World} {ctr ctr2 : Nat} {h : SlabID} {pc pc' : Cont} {K : SlabID → Prop}
    (H : WorldOkPK D rank (fun _ => False) w ctr) (P : PopRel w w2 h pc pc')
    -- the emptied container
    (hokp : ContOk w.T (D h) ctr2 pc') (harr : pc'.isArr = pc.isArr) (hinlp : pc'.isInlined = pc.isInlined)
    (hvid : pc'.vid = pc.vid) (hbp : pc'.isInlined = true → pc'.rootSize ≤ w.T) (hctr : ctr ≤ ctr2)
    -- the popped children are dropped or kept
    (hpop : ∀ x, Pay.ref x ∈ pc.pays → (w.cont? x).isSome → w2.cont? x = none ∨ K x)
    (hK : ∀ x, K x → Pay.ref x ∈ pc.pays ∧ (w.cont? x).isSome) :
    WorldOkGen D rank (some h) K w2.prune ctr2 ∧ MutIdxOkX w2.prune (fun _ => False) ∧
      (∀ x, K x → ∀ q, ¬ Holds w2.prune q x) := by
  have hp := P.was
  have hcp := P.now
  have hT := P.T
  have hpays' : pc'.pays = [] := Cont.pays_of_empty P.empty
  have hkept : ∀ z c, z ≠ h → w2.cont? z = some c → w.cont? z = some c ∧ w2.idxOf z = w.idxOf z :=
    fun z c hz hc => ⟨(P.kept hz hc).1, (P.kept hz hc).2.1⟩
  have hhiP : ∀ x hi, AList.find? w2.prune.hinfo x = some hi → AList.find? w.hinfo x = some hi :=
    fun x hi hx => P.hinfo_sub (find?_prune_some.mp hx).1
  have hmut : MutIdxOkX w2.prune (fun _ => False) := by
    intro p a hpa x i hi _
    rw [cont?_prune] at hpa
    rw [idxOf_prune] at hi
    by_cases hph : p = h
    · subst hph; rw [P.idx_h] at hi; cases hi
    · obtain ⟨a1, a2⟩ := hkept p _ hph hpa
      rw [a2] at hi
      exact H.mutIdx p a a1 x i hi id
  have hKroot : ∀ x, K x → ∀ q, ¬ Holds w2.prune q x := by
    intro x hKx q hq
    have hq2 : Holds w2 q x := hq
    have hne := P.holds_ne hq2
    obtain ⟨qc, hqc, hm⟩ := P.holds_back hq2
    obtain ⟨hm0, hxl⟩ := hK x hKx
    obtain ⟨i, hi⟩ := List.mem_iff_getElem?.mp hm
    obtain ⟨j, hj⟩ := List.mem_iff_getElem?.mp hm0
    exact hne (H.unique q h qc pc i j x hqc hp hi hj hxl).1
  refine ⟨.of_filed (by rw [T_prune, hT]; exact H.legal) ?_ ?_ ?_ ?_ (fun p a hpa x i hi _ => hmut p a hpa x i hi id)
    ?_ ?_ ?_ ?_ (hinfoLive_prune w2), hmut, hKroot⟩
  · -- each container by itself: `h` emptied, the others as they were
    intro z cz hz
    rw [cont?_prune] at hz
    by_cases hzh : z = h
    · subst hzh; rw [hcp] at hz; cases hz
      exact (H.filed hp).replace hT P.addr hvid hokp hbp
    · exact (H.filed (hkept z cz hzh hz).1).congr hT P.addr hctr
  · -- every slot is as in `w`; the one that holds `h` is the slot out of date
    intro q qc hq le hle x cx hx hcx
    rw [cont?_prune] at hq hcx
    rw [T_prune, hT] at hle
    have hqh : q ≠ h := by
      intro he; subst he
      rw [hcp] at hq; cases hq
      rw [Cont.slots_of_empty _ P.empty] at hle; cases hle
    have hq0 := (hkept q qc hqh hq).1
    by_cases hxh : x = h
    · have hxh' := hxh.symm
      subst hxh'
      rw [hcp] at hcx; cases hcx
      obtain ⟨wr, h1, h2, _, h4⟩ := H.slots q qc hq0 le hle h pc hx hp
      obtain ⟨h2a, _⟩ := h2 (by intro he; cases he)
      refine ⟨wr, h1, fun hne => absurd rfl hne, fun _ hni => ?_, ?_⟩
      · rw [h2a, slotSize_standalone hni, slotSize_standalone (by rw [← hinlp]; exact hni)]
      · intro hi _ hhi hca
        exact h4 hi id (hhiP h hi hhi) (P.closureAt_back hca)
    · have hcx0 := (hkept x cx hxh hcx).1
      obtain ⟨wr, h1, h2, _, h4⟩ := H.slots q qc hq0 le hle x cx hx hcx0
      refine ⟨wr, h1, fun _ => h2 (by intro he; cases he), fun he => ?_, ?_⟩
      · cases he; exact absurd rfl hxh
      · intro hi _ hhi hca
        exact h4 hi id (hhiP x hi hhi) (P.closureAt_back hca)
  · intro q q' qc qc' i j x hq hq' hi hj hx
    rw [cont?_prune] at hq hq' hx
    have hqh : q ≠ h := P.holds_ne ⟨qc, hq, List.mem_of_getElem? hi⟩
    have hqh' : q' ≠ h := P.holds_ne ⟨qc', hq', List.mem_of_getElem? hj⟩
    exact H.unique q q' qc qc' i j x (hkept q qc hqh hq).1 (hkept q' qc' hqh' hq').1 hi hj (P.live hx)
  · -- an inlined container was referenced in `w`: by `h` only if it is a popped child, dropped or pending
    intro z cz hz hi hKz
    rw [cont?_prune] at hz
    by_cases hzh : z = h
    · have hzh' := hzh.symm
      subst hzh'
      rw [hcp] at hz; cases hz
      obtain ⟨q, hq⟩ := H.inlRef h pc hp (by rw [← hinlp]; exact hi) id
      have hqh : q ≠ h := by
        intro he; subst he
        have := H.rank q q hq (by rw [hp]; rfl)
        omega
      exact ⟨q, P.holder hqh hq (by rw [hcp]; rfl)⟩
    · have hz0 := (hkept z cz hzh hz).1
      obtain ⟨q, hq⟩ := H.inlRef z cz hz0 hi id
      by_cases hqh : q = h
      · subst hqh
        obtain ⟨qc, hqc, hm⟩ := hq
        rw [hp] at hqc; cases hqc
        rcases hpop z hm (by rw [hz0]; rfl) with hd | hk
        · rw [hd] at hz; cases hz
        · exact absurd hk hKz
      · exact ⟨q, P.holder hqh hq (by rw [hz]; rfl)⟩
  · intro x hi hx
    have hx0 := hhiP x hi hx
    obtain ⟨c1, c2⟩ := H.closure x hi hx0
    refine ⟨fun pa2 hpa2 => ?_, fun pm2 k2 hpm2 hk2 => ?_⟩
    · rw [cont?_prune] at hpa2
      rw [T_prune, hT]
      by_cases hpp : hi.parent = h
      · rw [hpp, hcp] at hpa2; cases hpa2
        cases pc with
        | map m => cases harr
        | arr pa => exact c1 pa (by rw [hpp]; exact hp)
      · exact c1 pa2 (hkept _ _ hpp hpa2).1
    · rw [cont?_prune] at hpm2
      rw [T_prune, hT]
      by_cases hpp : hi.parent = h
      · rw [hpp, hcp] at hpm2; cases hpm2
        cases pc with
        | arr pa => cases harr
        | map pm => exact c2 pm k2 (by rw [hpp]; exact hp) hk2
      · exact c2 pm2 k2 (hkept _ _ hpp hpm2).1 hk2
  · intro q x hq hx
    rw [cont?_prune] at hx
    exact H.rank q x (P.holds_back hq) (P.live hx)
  · intro q qc hq r hr
    rw [cont?_prune] at hq
    by_cases hqh : q = h
    · subst hqh; rw [hcp] at hq; cases hq; rw [hpays'] at hr; cases hr
    · exact Nat.le_trans (H.below q qc (hkept q qc hqh hq).1 r hr) hctr
  · -- an index entry of a kept array names a container that array refers to: it is kept too (`dang`)
    intro q x i hi
    rw [idxOf_prune] at hi
    rw [cont?_prune, cont?_prune]
    by_cases hqh : q = h
    · subst hqh; rw [P.idx_h] at hi; cases hi
    · rcases P.other q hqh with ⟨a, _, b⟩ | ⟨_, _, _, b⟩
      · have hi0 : AList.find? (w.idxOf q) x = some i := by
          simp only [idxOf, b] at hi; exact hi
        obtain ⟨hxl, aq, haq⟩ := H.idxLive q x i hi0
        have hpay := H.mutIdx q aq haq x i hi0 id
        refine ⟨P.dang q (.arr aq) hqh (by rw [a]; exact haq) x (List.mem_of_getElem? hpay) hxl, aq, by rw [a]; exact haq⟩
      · simp only [idxOf, b] at hi; cases hi

end World
end Atree

import AtreeProofs.WorldCodec.SlabOk
import AtreeProofs.Props.C09WHist
import AtreeModel.Codec.World
import AtreeProofs.WorldCodec.Deep
/-
  The World model run against the storage state machine with the byte codec: definitions and the
  generic part of the composition (`AtreeProofs/Props/C03WorldBytes.lean` holds the property theorems).

  * `worldCodec`: the storage's codec on codec-level slabs — `EncodeSlab` of a slab that meets the
    encoder's preconditions (`OKAll`; an encoding error otherwise), filed under the slab's own ID;
    reading a register is `DecodeSlab(key, bytes)`.
  * `Req`: one request of a history (the constructors of `C09W.Hist` other than `new`), with its
    shallow account `Req.shallow`.  The histories `HistB` run against the storage are in BytesHist.lean.
-/
namespace Atree.WC
open Atree Atree.Codec Gen World St C10Persist
open Atree.C09 (newEffects newCreated)

/-- `EncodeSlab` / `DecodeSlab` on the slabs `World.toCodec` produces -/
noncomputable def worldCodec : Atree.Codec Slab (SlabID × Bytes) :=
  { enc := fun sl => by classical exact if OKAll sl then some (sl.id, encodeSlab sl) else none,
    dec := fun _ p =>
      match decodeSlab p.1 p.2 0 with
      | .ok sl _ => some sl
      | _ => none,
    size := fun sl => sl.byteSize }

theorem worldCodec_enc_of_ok (sl : Slab) (ok : OKAll sl) : worldCodec.enc sl = some (sl.id, encodeSlab sl) := by
  classical
  simp only [worldCodec, if_pos ok]

theorem worldCodec_roundTrip : RoundTrip worldCodec := by
  classical
  intro id v b h
  simp only [worldCodec] at h ⊢
  split at h
  · rename_i ok
    cases h
    obtain ⟨k, hk⟩ := decode_encode_all v ok 0
    simp only [hk]
  · cases h

/-- One request of a history: the constructors of `C09W.Hist` other than `new`, with their hypotheses
    (current handle, valid value / key) -/
inductive Req (D : SlabID → DigestFn 4) : World → Ctx → World → Ctx → Prop
  | newArr {w cx} (ty : Nat) : Req D w cx (w.newArr ty cx).2.1 (w.newArr ty cx).2.2
  | newMap {w cx} (ty seed : Nat) : Req D w cx (w.newMap ty seed cx).2.1 (w.newMap ty seed cx).2.2
  | arrInsert {w cx p i v w' cx'} : HandleOk w p → WValOk w p (maxInlineArr w.T) v →
      w.arrInsert p i v cx = .ok (w', cx') → Req D w cx w' cx'
  | arrSet {w cx p i v old w' cx'} : HandleOk w p → WValOk w p (maxInlineArr w.T) v →
      w.arrSet p i v cx = .ok (old, w', cx') → Req D w cx w' cx'
  | arrRemove {w cx p i old w' cx'} : HandleOk w p →
      w.arrRemove p i cx = .ok (old, w', cx') → Req D w cx w' cx'
  | mapSet {w cx p k v old w' cx'} : HandleOk w p → KeyOk w.T 4 (D p) k →
      WValOk w p (maxInlineMapValue w.T k.size) v → w.mapSet p k v cx = .ok (old, w', cx') → Req D w cx w' cx'
  | mapRemove {w cx p k rk rv w' cx'} : HandleOk w p → KeyOk w.T 4 (D p) k →
      w.mapRemove p k cx = .ok (rk, rv, w', cx') → Req D w cx w' cx'
  | setType {w cx p ty w' cx'} : HandleOk w p → w.setType p ty cx = .ok (w', cx') → Req D w cx w' cx'
  | arrGet {w cx p i el w'} : HandleOk w p → w.arrGet p i = .ok (el, w') → Req D w cx w' cx
  | mapGet {w cx p k el w'} : HandleOk w p → KeyOk w.T 4 (D p) k → w.mapGet p k = .ok (el, w') → Req D w cx w' cx
  | reopen {w cx} : Req D w cx w.reopen cx

theorem Req.hist {D : SlabID → DigestFn 4} {w w' : World} {cx cx' : Ctx} (h : C09W.Hist D w cx)
    (r : Req D w cx w' cx') : C09W.Hist D w' cx' := by
  cases r with
  | newArr ty => exact .newArr ty h
  | newMap ty seed => exact .newMap ty seed h
  | arrInsert hh hv hr => exact .arrInsert h hh hv hr
  | arrSet hh hv hr => exact .arrSet h hh hv hr
  | arrRemove hh hr => exact .arrRemove h hh hr
  | mapSet hh hk hv hr => exact .mapSet h hh hk hv hr
  | mapRemove hh hk hr => exact .mapRemove h hh hk hr
  | setType hh hr => exact .setType h hh hr
  | arrGet hh hr => exact .arrGet h hh hr
  | mapGet hh hk hr => exact .mapGet h hh hk hr
  | reopen => exact .reopen h

theorem toCodec_of_conts {w w' : World} (h : w'.conts = w.conts) : w'.toCodec = w.toCodec := by
  funext id
  have hs : w'.stor = w.stor := funext (Deep.stor_congr_conts fun z => by simp only [World.cont?, h])
  simp only [World.toCodec, World.codecHeap, World.cont?, h, hs]

/-- nothing happened to the table of containers: the empty log is a complete shallow account -/
theorem shallow_of_same {w w' : World} (h : ∀ id, w'.slabAt id = w.slabAt id) : WEffectsComplete w w' [] [] := by
  refine ⟨?_, ?_, ?_, ?_⟩
  · intro id _ h2; exact absurd (h id) h2
  · intro id h1 h2; rw [h id] at h2; cases hs : w.slabAt id <;> simp [hs] at h1 h2
  · intro id hl; cases hl
  · intro id hl; cases hl

/-- The shallow account of every request (the `*_effects_complete` theorems of C09W) -/
theorem Req.shallow {D : SlabID → DigestFn 4} {w w' : World} {cx cx' : Ctx} (h : C09W.Hist D w cx)
    (r : Req D w cx w' cx') : WEffectsComplete w w' (newEffects cx cx') (newCreated cx cx') := by
  obtain ⟨H, Hh, _⟩ := C09W.world_heap_exact D w cx h
  cases r with
  | newArr ty => exact (C09W.newArr_effects_complete D w ty cx H Hh).2.1
  | newMap ty seed => exact (C09W.newMap_effects_complete D w ty seed cx H Hh).2.1
  | arrInsert hh hv hr => exact (C09W.arrInsert_effects_complete D w _ _ _ cx w' cx' H Hh hv hr).2.1
  | arrSet hh hv hr => exact (C09W.arrSet_effects_complete D w _ _ _ cx _ w' cx' H Hh hv hr).2.1
  | arrRemove hh hr => exact (C09W.arrRemove_effects_complete D w _ _ cx _ w' cx' H Hh hr).2.1
  | mapSet hh hk hv hr => exact (C09W.mapSet_effects_complete D w _ _ _ cx _ w' cx' H Hh hk hv hr).2.1
  | mapRemove hh hk hr => exact (C09W.mapRemove_effects_complete D w _ _ cx _ _ w' cx' H Hh hk hr).2.1
  | setType hh hr => exact (C09W.setType_effects_complete D w _ _ cx w' cx' H Hh hr).2.1
  | arrGet hh hr =>
    rw [C09.newEffects_self, C09.newCreated_self]
    exact shallow_of_same (C09W.heap_of_same_conts w w' cx.ctr (C10W.worldOk'_arrGet D w _ _ _ w' cx.ctr H hh hr).2.1
      (DomRel.steps (arrGet_steps cx hr)).addr Hh).2
  | mapGet hh hk hr =>
    rw [C09.newEffects_self, C09.newCreated_self]
    exact shallow_of_same (C09W.heap_of_same_conts w w' cx.ctr (C10W.worldOk'_mapGet D w _ _ _ w' cx.ctr H hh hk hr).2.1
      (DomRel.steps (mapGet_steps cx hr)).addr Hh).2
  | reopen =>
    rw [C09.newEffects_self, C09.newCreated_self]
    exact shallow_of_same fun _ => rfl

end Atree.WC

import AtreeProofs.WorldCodec.OwnId
import AtreeProofs.Storage.Step
import AtreeProofs.World.NoCreated
/-
  Histories of requests run against the storage state machine with the byte codec: the storage shows
  exactly the codec-level content `World.toCodec` of the world (write set, cache, ledger), for every
  history with commits - failing or not - anywhere.
-/
namespace Atree.WC
open Atree Atree.Codec Gen World St C10Persist
open Atree.C09 (newEffects newCreated)

/-- The deep account of every request (proved in `AtreeProofs/Props/C10Deep.lean`): a slab that stays in
    the heap with the same shallow content but with a changed embedded child was stored -/
def DeepSteps (D : SlabID → DigestFn 4) : Prop :=
  ∀ {w w' : World} {cx cx' : Ctx}, C09W.Hist D w cx → Req D w cx w' cx' → DeepStoredC w w' (newEffects cx cx')

/-- A history of requests run against the storage (byte codec): every storage call of every request is
    applied to the storage state machine, a stored slab having the codec-level content it has in the
    world after the request; commits of either kind, with any fault plan, anywhere.  (A request creates
    no large-value slab — valid values fit their slot: `WC.Req.newCreated_nil`.) -/
inductive HistB (D : SlabID → DigestFn 4) : World → Ctx → St Slab (SlabID × Bytes) → Prop
  | new (T addr : Nat) (hT : legalThreshold T = true) : HistB D { T := T, addr := addr } ⟨0, [], []⟩ St.init
  | req {w cx s w' cx'} : HistB D w cx s → Req D w cx w' cx' →
      HistB D w' cx' (WE2E.applyEffs worldCodec s w'.toCodec (newEffects cx cx'))
  | commit {w cx s} (kind : CommitKind) (faults : List Nat) (mo dlo : List SlabID) : HistB D w cx s →
      HistB D w cx (St.step worldCodec s (.commit kind faults mo dlo)).1

theorem HistB.hist {D : SlabID → DigestFn 4} {w : World} {cx : Ctx} {s : St Slab (SlabID × Bytes)}
    (h : HistB D w cx s) : C09W.Hist D w cx := by
  induction h with
  | new T addr hT => exact .new T addr hT
  | req _ r ih => exact r.hist ih
  | commit _ _ _ _ _ ih => exact ih

theorem toCodec_empty (T addr : Nat) (id : SlabID) : ({ T := T, addr := addr } : World).toCodec id = none := rfl

/-- every register is filed under the ID its bytes were encoded for -/
def BaseKeyed (s : St Slab (SlabID × Bytes)) : Prop := ∀ id b, AList.find? s.base id = some b → b.1 = id

/-- Along every history the storage represents the codec-level content of the world, satisfies the
    storage invariant, holds no entry for the undefined identifier, and every register is filed under
    the ID it was encoded for. -/
theorem histB_rep {D : SlabID → DigestFn 4} (hdeep : DeepSteps D) {w : World} {cx : Ctx}
    {s : St Slab (SlabID × Bytes)} (h : HistB D w cx s) :
    Rep worldCodec s w.toCodec ∧ Inv worldCodec s ∧ AList.find? s.deltas SlabID.undef = none ∧ BaseKeyed s := by
  induction h with
  | new T addr hT =>
    refine ⟨rep_init _, inv_init _, rfl, ?_⟩
    intro id b hb
    simp [St.init, St.fresh, AList.find?] at hb
  | @req w cx s w' cx' hb r ih =>
    obtain ⟨h1, h2, h3, h4⟩ := ih
    have hsh := r.shallow hb.hist
    rw [r.newCreated_nil] at hsh
    have hcomp := complete_toCodec hsh (hdeep hb.hist r)
    refine ⟨rep_step _ _ _ _ _ h1 hcomp, WE2E.applyEffs_inv _ worldCodec_roundTrip _ _ _ h2, ?_, ?_⟩
    · rw [WE2E.find?_deltas_applyEffs_undef]
      exact h3
    · intro id b hbase
      rw [(WE2E.applyEffs_frame worldCodec s w'.toCodec (newEffects cx cx')).2] at hbase
      exact h4 id b hbase
  | @commit w cx s kind faults mo dlo hb ih =>
    obtain ⟨h1, h2, h3, h4⟩ := ih
    rw [step_commit]
    obtain ⟨k1, k2, _⟩ := commitW_spec worldCodec worldCodec_roundTrip kind (faultPlan faults) mo dlo _ h2
    refine ⟨fun id hid => by rw [k2.view id]; exact h1 id hid, k1, ?_, ?_⟩
    · rcases k2.pending SlabID.undef with hp | ⟨hp, _, _⟩
      · rw [hp]; exact h3
      · exact hp
    · intro id b hbase
      have hon := (commitW_oldOrNew worldCodec kind (faultPlan faults) mo dlo s h2.deltasNodup).1 id
      rcases hon with ⟨_, hsame⟩ | ⟨_, htgt⟩
      · rw [hsame] at hbase; exact h4 id b hbase
      · rw [htgt] at hbase
        unfold target at hbase
        cases hd : AList.find? s.deltas id with
        | none => rw [hd] at hbase; exact h4 id b hbase
        | some ov =>
          rw [hd] at hbase
          cases ov with
          | none =>
            simp only at hbase
            split at hbase
            · exact h4 id b hbase
            · cases hbase
          | some v =>
            simp only at hbase
            split at hbase
            · exact h4 id b hbase
            · have hne : id ≠ SlabID.undef := by
                intro e; rw [e, h3] at hd; cases hd
              have hview : s.view worldCodec id = some v := view_of_deltas worldCodec s id (some v) hd
              rw [h1 id hne] at hview
              obtain ⟨H, _, _⟩ := C09W.world_heap_exact D w cx hb.hist
              have hid := toCodec_own H hview
              classical
              simp only [worldCodec] at hbase
              split at hbase
              · cases hbase; exact hid
              · cases hbase

end Atree.WC

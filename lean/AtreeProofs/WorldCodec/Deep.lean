import AtreeProofs.WorldCodec.DeepDefs
import AtreeProofs.WorldCodec.Link
import AtreeProofs.World.DeepStor
/-
  From the shallow account of C09W (`WEffectsComplete`, about `World.slabAt`) and the deep account
  (`DeepStoredC`) to a complete account of the codec-level content `World.toCodec` - the content
  function of the byte-level commit / reopen theorem.
-/
namespace Atree.WC
open Atree Atree.Codec Gen World C10Persist

theorem toCodec_congr {re re' : Elem → Stor} (ws : WSlab) (h : ∀ e ∈ slabElems ws, re e = re' e) :
    ws.toCodec re = ws.toCodec re' := by
  cases ws with
  | arr s ty =>
    cases s with
    | data s =>
      simp only [WSlab.toCodec, dataSlabOf]
      have : s.elems.map re = s.elems.map re' := List.map_congr_left h
      rw [this]
    | index hd chs cs root => rfl
  | map s x =>
    cases s with
    | data s =>
      simp only [WSlab.toCodec, mdataOf]
      rw [Deep.melsOf_congr 4 s.elems h]
    | index hd chs root => rfl
    | group g =>
      simp only [WSlab.toCodec, groupOf]
      rw [Deep.melsOf_congr 3 g.elems h]

theorem DeepSame.toCodec_eq {w w' : World} {s : WSlab} (h : DeepSame w w' s) :
    s.toCodec w'.stor = s.toCodec w.stor := toCodec_congr s h

/-- A complete shallow account + the deep account = a complete account of `World.toCodec` -/
theorem complete_toCodec {w w' : World} {E : List Eff} (h : WEffectsComplete w w' E [])
    (hd : DeepStoredC w w' E) : Complete w.toCodec w'.toCodec E := by
  rw [funext (toCodec_eq w), funext (toCodec_eq w')]
  exact (complete_of_world h).map _ _ fun id s hs' hs hne => hd id s hs' hs fun hsame => hne hsame.toCodec_eq

end Atree.WC

import AtreeProofs.WorldCodec.StorOk
import AtreeProofs.WorldCodec.MElsOf
import AtreeProofs.WorldOkPop
import AtreeProofs.World.HeapCont
import AtreeProofs.WorldCodec.Trunc
/-
  The environment of the storable induction (`WC.Env`, StorOk.lean) follows from the global invariant
  `WorldOk'` (+ the ownership invariant `HeapOk`, which holds along every history) and the decidable
  side conditions `LeafOk` — the real assumptions about values and field widths:

  * every stored element that is not a reference to a live container is a value of the harness
    (`hx.ValidTV`: size ≥ 1, not 65540, below 2³², payload within the content bytes) resp. a proper
    19-byte reference; every map key is a value of the harness;
  * owner address, allocation counter, type infos, counts and seeds fit 64 bits;
  * the digests of the stored keys are 64-bit (`LeafOk.digs`; the invariants are then carried over to
    the truncated digest functions `truncD`, whose digests are 64-bit for every key: `CInv.trunc`).
-/
namespace Atree.WC
open Atree Atree.Codec Gen World

/-- type info / count / seed of a container fit their fields -/
def ContWidths : Cont → Prop
  | .arr a => a.ty < 2 ^ 64
  | .map m => m.ty < 2 ^ 64 ∧ m.count < 2 ^ 64 ∧ m.seed < 2 ^ 64

instance (c : Cont) : Decidable (ContWidths c) := by
  cases c <;> (simp only [ContWidths]; infer_instance)

/-- the keys of a map are values of the harness -/
def KeysValid : Cont → Prop
  | .arr _ => True
  | .map m => ∀ kv ∈ m.toList, validElem ⟨kv.1.size, .val kv.1.pay⟩

instance (c : Cont) : Decidable (KeysValid c) := by
  cases c <;> (simp only [KeysValid]; infer_instance)

/-- The side conditions on values and field widths (decidable: `World.conts` is a finite table) -/
structure LeafOk (w : World) (ctr : Nat) : Prop where
  addr  : w.addr < 2 ^ 64
  ctr   : ctr < 2 ^ 64
  elems : ∀ x c, w.cont? x = some c → ∀ e ∈ c.storedElems, LeafValid w e
  keys  : ∀ x c, w.cont? x = some c → KeysValid c
  width : ∀ x c, w.cont? x = some c → ContWidths c
  digs  : ∀ x c, w.cont? x = some c → ContKB c

/-- the clauses of the global invariant `WorldOk'` the translation needs (the only one that mentions
    the digest functions is `conts`) -/
structure CInv (D : SlabID → DigestFn 4) (w : World) (ctr : Nat) : Prop where
  legal : legalThreshold w.T = true
  ids   : World.IdsOk w
  conts : ∀ x c, w.cont? x = some c → ContOk w.T (D x) ctr c
  slots : SlotSync w none (fun _ => False)
  band  : InlBand w

theorem CInv.of_worldOk {D : SlabID → DigestFn 4} {w : World} {ctr : Nat} (H : WorldOk' D w ctr) : CInv D w ctr := by
  obtain ⟨rank, H⟩ := H
  exact ⟨H.legal, H.ids, H.conts, H.slots, H.band⟩

theorem CInv.trunc {D : SlabID → DigestFn 4} {w : World} {ctr : Nat} (H : CInv D w ctr)
    (hb : ∀ x c, w.cont? x = some c → ContKB c) : CInv (fun x => truncD (D x)) w ctr :=
  ⟨H.legal, H.ids, fun x c hx => contOk_trunc (H.conts x c hx) (hb x c hx), H.slots, H.band⟩

theorem mem_slots_of_stored {T : Nat} (c : Cont) (e : Elem) (h : e ∈ c.storedElems) :
    ∃ le ∈ c.slots T, le.2 = e := by
  cases c with
  | arr a =>
    exact ⟨(maxInlineArr T, e), List.mem_map.2 ⟨e, h, rfl⟩, rfl⟩
  | map m =>
    simp only [Cont.storedElems, List.mem_map] at h
    obtain ⟨p, hp, rfl⟩ := h
    exact ⟨(maxInlineMapValue T p.1.size, p.2), List.mem_map.2 ⟨p, hp, rfl⟩, rfl⟩

/-- Every stored element of a live container is good: in sync with the container it refers to
    (`SlotSync`), and a valid leaf otherwise (`LeafOk`) -/
theorem good_of_stored {D : SlabID → DigestFn 4} {w : World} {ctr : Nat}
    (H : CInv D w ctr) (L : LeafOk w ctr) {x : SlabID} {c : Cont}
    (hx : w.cont? x = some c) : ∀ e ∈ c.storedElems, Good w e := by
  intro e he
  have hleaf := L.elems x c hx e he
  obtain ⟨le, hle, rfl⟩ := mem_slots_of_stored (T := w.T) c e he
  have hsync : ∀ y cy, le.2.pay = .ref y → w.cont? y = some cy → ∃ wrap, le.2.size = slotSize cy wrap := by
    intro y cy hp hy
    obtain ⟨wrap, _, h2, _, _⟩ := H.slots x c hx le hle y cy hp hy
    exact ⟨wrap, (h2 (by simp)).1⟩
  refine ⟨⟨?_, hsync⟩, hleaf⟩
  cases hp : le.2.pay with
  | val p =>
    have hv := hleaf (fun y hy => by rw [hp] at hy; cases hy)
    simp only [validElem, hp] at hv
    exact hv.1
  | ref y =>
    cases hy : w.cont? y with
    | none =>
      have hv := hleaf (fun z hz => by rw [hp] at hz; cases hz; exact hy)
      simp only [validElem, hp] at hv
      rw [hv.1]; simp only [slabIDStorableSize]; omega
    | some cy =>
      obtain ⟨wrap, hw⟩ := hsync y cy hp hy
      rw [hw]
      simp only [slotSize]
      split
      · rename_i hi
        have := Cont.rootSize_pos_of_inl (H.conts y cy hy) hi
        omega
      · simp only [slabIDStorableSize]; omega

theorem inl_rootSize_le {D : SlabID → DigestFn 4} {w : World} {ctr : Nat}
    (H : CInv D w ctr) {x : SlabID} {c : Cont} (hx : w.cont? x = some c)
    (hi : c.isInlined = true) : c.rootSize ≤ 32768 := by
  have h1 := H.band x c hx hi
  have h2 := H.legal
  unfold legalThreshold at h2
  simp only [Bool.and_eq_true, maxSlabSize] at h2
  have := of_decide_eq_true h2.2
  omega

/-- the slab IDs of a world with a 64-bit address and allocation counter are 64 bits wide -/
theorem LeafOk.treeIds_lt {w : World} {ctr : Nat} (L : LeafOk w ctr) (Hh : HeapOk w ctr) {x : SlabID} {c : Cont}
    (hx : w.cont? x = some c) {id : SlabID} (hid : id ∈ c.treeIds) : id.addr < 2 ^ 64 ∧ id.idx < 2 ^ 64 :=
  ⟨Hh.addr x c id hx hid ▸ L.addr, Nat.lt_of_le_of_lt (Hh.below x c id hx hid) L.ctr⟩

/-- The environment follows from the global invariant and the side conditions -/
theorem env_of_cinv {D : SlabID → DigestFn 4} {w : World} {ctr : Nat}
    (H : CInv D w ctr) (Hh : HeapOk w ctr) (L : LeafOk w ctr)
    (hD : ∀ x p, ∀ h ∈ (D x).dg p, h < 2 ^ 64) : Env w := by
  have hidlt : ∀ x c id, w.cont? x = some c → id ∈ c.treeIds → id.addr < 2 ^ 64 ∧ id.idx < 2 ^ 64 :=
    fun x c id hx hid => L.treeIds_lt Hh hx hid
  have hlive : ∀ x c, w.cont? x = some c → x.addr < 2 ^ 64 ∧ x.idx < 2 ^ 64 := by
    intro x c hx
    have := hidlt x c c.vid hx (Cont.vid_mem_treeIds c)
    rwa [H.ids x c hx] at this
  refine ⟨hlive, ?_, ?_⟩
  · intro x a hx hi
    obtain ⟨s, ty, rfl, _, _, _, _, hsz, _, _, _, _⟩ := ((H.conts x _ hx : ArrOk w.T a ctr)).2 hi
    have hg := good_of_stored H L hx
    have hl := hlive x _ hx
    have hid : s.hdr.id = x := H.ids x _ hx
    have hw : ty < 2 ^ 64 := L.width x _ hx
    have hb : s.hdr.size ≤ 32768 := inl_rootSize_le H hx hi
    exact ⟨s, ty, rfl, hsz, hg, by rw [hid]; exact hl.2, hw, Nat.le_trans hb (by decide)⟩
  · intro x m hx hi
    obtain ⟨s, ty, cnt, seed, rfl, _, _, _, hinv, hsz, _, _, _⟩ := ((H.conts x _ hx : MapOk w.T (D x) m ctr)).2 hi
    have hg := good_of_stored H L hx
    have hl := hlive x _ hx
    have hid : s.hdr.id = x := H.ids x _ hx
    obtain ⟨hw1, hw2, hw3⟩ : ty < 2 ^ 64 ∧ cnt < 2 ^ 64 ∧ seed < 2 ^ 64 := L.width x _ hx
    have hb : s.hdr.size ≤ 32768 := inl_rootSize_le H hx hi
    have hkeys : ∀ kv ∈ (⟨0, s, ty, cnt, seed⟩ : OMap 3).toList, validElem ⟨kv.1.size, .val kv.1.pay⟩ := L.keys x _ hx
    have htl : (⟨0, s, ty, cnt, seed⟩ : OMap 3).toList = (MElems.ops 4).toList s.elems := rfl
    have hvals : ∀ v ∈ C10Persist.localVals 4 s.elems, Good w v :=
      fun v hv => hg v (localVals_sub_toList 4 s.elems v hv)
    refine ⟨s, ty, cnt, seed, rfl, hsz, ?_, by rw [hid]; exact hl.2, hw1, hw2, hw3, Nat.le_trans hb (by decide), ?_⟩
    · intro v hv
      exact ⟨hvals v hv, localVals_le_size 4 0 [] s.elems hinv v hv⟩
    · intro re V hV hre
      have hsz49 : s.elems.size ≤ 49152 :=
        Nat.le_trans (Nat.le_trans (Nat.le_add_left _ _) (hsz ▸ hb)) (by decide)
      refine melsOf_top (r := 3) (by decide) (hD x) ⟨fun v hv => (hre v hv).1, fun v hv => (hre v hv).2.1,
        fun v hv => (hre v hv).2.2⟩ s.elems hinv hsz49 hV ?_ ?_
      · intro k hk
        have := localKeys_sub_toList 4 s.elems k hk
        obtain ⟨kv, hkv, rfl⟩ := List.mem_map.1 this
        exact hkeys kv (by rw [htl]; exact hkv)
      · intro id sz g hmem
        apply hidlt x _ id hx
        rw [Cont.treeIds_map]
        show id ∈ AList.keys (MTree.slabs 0 s)
        simp only [MTree.slabs, AList.keys, List.map_cons, List.mem_cons, List.mem_map]
        refine Or.inr ⟨(id, .group g), ?_, rfl⟩
        simp only [MDataSlab.groupSlabs, List.mem_filterMap]
        exact ⟨.ext id sz g, hmem, rfl⟩

end Atree.WC

import AtreeProofs.WorldCodec.SlabOk
import AtreeProofs.WorldCodec.Link
import AtreeProofs.E2EMapBytesSpec
/-
  What is proved of ONE heap slab of a world (`World.slabAt id = some ws`), and the side conditions.
  DEFINITIONS ONLY - part of the statement of `AtreeProofs/Props/C07World.lean`.
-/
namespace Atree
open Gen Codec

/-- the size the model keeps in the header of the slab: what `Slab.ByteSize()` reports (the nested
    stream compares it with the implementation's on every dumped slab) -/
def WSlab.size : WSlab → Nat
  | .arr (.data s) _ => s.hdr.size
  | .arr (.index h _ _ _) _ => h.size
  | .map (.data s) _ => s.hdr.size
  | .map (.index h _ _) _ => h.size
  | .map (.group g) _ => g.hdr.size

/-- A REAL ASSUMPTION (decidable): an EXTERNAL collision-group slab (flag `anySize`: no
    size band applies to it) respects the field widths of the encoding (`E2EM.Fit`): fewer than 8192
    digests per digest table (their byte string has a 16-bit length), fewer than 65536 entries per
    last-level list, sizes within `uint32`; the library does not check this.  A group slab smaller
    than 64 KiB always does (`E2EM.fit_of_size`).  Every other slab is
    within the size band of C05, where these bounds are DERIVED. -/
def WSlab.GroupFit : WSlab → Prop
  | .map (.group g) _ => E2EM.Fit 3 g.elems ∧ g.hdr.size ≤ maxUint32
  | _ => True

instance (ws : WSlab) : Decidable ws.GroupFit := by
  cases ws with
  | arr s ty => exact isTrue trivial
  | map s x =>
    cases s with
    | data s => exact isTrue trivial
    | index h chs root => exact isTrue trivial
    | group g => simp only [WSlab.GroupFit]; infer_instance

namespace WC

/-- THE GOAL FOR ONE HEAP SLAB `ws` stored under `id`: under the side conditions of that slab
    (`Side`: CBOR nesting ≤ 32 and ≤ 256 shared extra-data entries; `GroupFit`), its translation meets
    the predicates of the codec theorems, a root has no sibling, the codec's `byteSize` is the size
    the model reports, and the translated slab carries the ID it is stored under. -/
def SlabGoal (w : World) (id : SlabID) (ws : WSlab) : Prop :=
  Side (ws.toCodec w.stor) → ws.GroupFit →
    OKAll (ws.toCodec w.stor) ∧ RootNoNext (ws.toCodec w.stor) ∧
      (ws.toCodec w.stor).byteSize = ws.size ∧ (ws.toCodec w.stor).id = id

end WC
end Atree

import AtreeProofs.Props.C07World
/-
  The side conditions are decidable: `LeafOk` (a finite table of containers) and the per-slab side
  conditions over the whole heap.
-/
namespace Atree.WC
open Atree Atree.Codec Gen World

/-- `P` of the live container filed under `x`, if any -/
def onCont (w : World) (P : SlabID → Cont → Prop) (x : SlabID) : Prop :=
  match w.cont? x with
  | some c => P x c
  | none => True

instance (w : World) (P : SlabID → Cont → Prop) [∀ x c, Decidable (P x c)] (x : SlabID) :
    Decidable (onCont w P x) := by
  unfold onCont
  cases w.cont? x <;> infer_instance

theorem forall_cont_iff (w : World) (P : SlabID → Cont → Prop) :
    (∀ x c, w.cont? x = some c → P x c) ↔ (∀ p ∈ w.conts, onCont w P p.1) := by
  constructor
  · intro h p _
    unfold onCont
    cases hc : w.cont? p.1 with
    | none => trivial
    | some c => exact h p.1 c hc
  · intro h x c hx
    have := h (x, c) (E2E.mem_of_find?_some hx)
    unfold onCont at this
    simp only [hx] at this
    exact this

instance (w : World) (P : SlabID → Cont → Prop) [∀ x c, Decidable (P x c)] :
    Decidable (∀ x c, w.cont? x = some c → P x c) :=
  decidable_of_iff _ (forall_cont_iff w P).symm

instance (w : World) (ctr : Nat) : Decidable (LeafOk w ctr) :=
  decidable_of_iff (w.addr < 2 ^ 64 ∧ ctr < 2 ^ 64 ∧
      (∀ x c, w.cont? x = some c → ∀ e ∈ c.storedElems, LeafValid w e) ∧
      (∀ x c, w.cont? x = some c → KeysValid c) ∧
      (∀ x c, w.cont? x = some c → ContWidths c) ∧
      (∀ x c, w.cont? x = some c → ContKB c))
    ⟨fun ⟨a, b, c, d, e, f⟩ => ⟨a, b, c, d, e, f⟩, fun h => ⟨h.addr, h.ctr, h.elems, h.keys, h.width, h.digs⟩⟩

/-- the side conditions of every stored slab, as a bounded (decidable) statement over the heap -/
def SideAll (w : World) : Prop := ∀ p ∈ w.heapOf, Side (p.2.toCodec w.stor) ∧ p.2.GroupFit

instance (w : World) : Decidable (SideAll w) := by unfold SideAll; infer_instance

theorem SideAll.at {w : World} (h : SideAll w) (id : SlabID) : C07W.SideAt w id := by
  intro ws hws
  exact h (id, ws) (E2E.mem_of_find?_some hws)

end Atree.WC

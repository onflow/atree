import AtreeProofs.E2EMap.Bytes
import AtreeModel.Codec.World
import AtreeProofs.E2EMap.BytesStored
import AtreeProofs.Codec.InlDefs
import AtreeProofs.Codec.EncLemmasG
import AtreeProofs.Codec.RoundTripG
import AtreeProofs.Props.C10Persist
import AtreeProofs.Iter.MapExample
/-
  `Codec.melsOf` meets the codec predicates.

  `Codec.melsOf re r e` (AtreeModel/Codec/World.lean) renders the map elements `e : MElems r` of the
  model as the codec's `MEls`, the values being rendered by an arbitrary `re : Elem → Stor` (for the
  World of nested containers `re` embeds inlined children).  The special case `re = Stor.ofElem` is
  `E2EM.toMEls` (`melsOf_ofElem`), for which `AtreeProofs/E2EMap/BytesStored.lean` shows that the
  tree invariant `ElemsInv` gives the encoder's preconditions.  Here the same is done for any
  renderer that is known (`ReOK`) to keep the size of, and to produce round-trippable storables
  without compact maps for, the values stored locally in the `elements`:

  * `melsOf_inner` — `elements` below the first level (inline collision groups, the elements of an
    external collision-group slab: no external group inside);
  * `melsOf_top`   — the first level of a map data slab / of an inlined map root (external groups
    appear as references `.ext id`);
  each giving: computed size = size field, `MEls.RTI`, `MEls.noCompact`.
-/
namespace Atree.WC
open Atree Atree.Codec Gen
open Atree.E2EM (Fit FitEl fit_of_size hkeys_lt selem_size_ge elemSizes_ge elem_size_le le_sum_of_mem')
open Atree.C10Persist (localVals)

/-- the keys stored locally in `elements` (single elements and inline groups; not inside external
    groups) - analogue of `C10Persist.localVals` -/
def localKeys : (r : Nat) → MElems r → List MKey
  | 0, (e : SingleElems) => e.elems.map (·.key)
  | r + 1, (he : HkeyElems (MElems r)) =>
    he.elems.flatMap (fun el =>
      match el with
      | .single x => [x.key]
      | .inl g => localKeys r g
      | .ext _ _ _ => [])

/-- what is known about the renderer on the values `V` -/
structure ReOK (re : Elem → Stor) (V : Elem → Prop) : Prop where
  size : ∀ v, V v → (re v).size = v.size
  rti  : ∀ v, V v → (re v).RTI
  nc   : ∀ v, V v → (re v).noCompact

theorem localVals_zero (se : SingleElems) : localVals 0 se = se.elems.map (·.val) := rfl

theorem mem_localVals_single {r : Nat} {he : HkeyElems (MElems r)} {x : SElem}
    (h : MElemF.single x ∈ he.elems) : x.val ∈ localVals (r + 1) he :=
  List.mem_flatMap.2 ⟨_, h, by simp⟩

theorem mem_localVals_inl {r : Nat} {he : HkeyElems (MElems r)} {g : MElems r} {v : Elem}
    (h : MElemF.inl g ∈ he.elems) (hv : v ∈ localVals r g) : v ∈ localVals (r + 1) he :=
  List.mem_flatMap.2 ⟨_, h, hv⟩

theorem mem_localKeys_single {r : Nat} {he : HkeyElems (MElems r)} {x : SElem}
    (h : MElemF.single x ∈ he.elems) : x.key ∈ localKeys (r + 1) he :=
  List.mem_flatMap.2 ⟨_, h, by simp⟩

theorem mem_localKeys_inl {r : Nat} {he : HkeyElems (MElems r)} {g : MElems r} {k : MKey}
    (h : MElemF.inl g ∈ he.elems) (hk : k ∈ localKeys r g) : k ∈ localKeys (r + 1) he :=
  List.mem_flatMap.2 ⟨_, h, hk⟩

theorem mem_localVals_succ {r : Nat} {he : HkeyElems (MElems r)} {v : Elem} (h : v ∈ localVals (r + 1) he) :
    (∃ x, MElemF.single x ∈ he.elems ∧ v = x.val) ∨ (∃ g, MElemF.inl g ∈ he.elems ∧ v ∈ localVals r g) := by
  obtain ⟨el, hel, hv⟩ := List.mem_flatMap.1 h
  cases el with
  | single x => exact Or.inl ⟨x, hel, by simpa using hv⟩
  | inl g => exact Or.inr ⟨g, hel, hv⟩
  | ext id sz s => cases hv

theorem localVals_sub_toList : ∀ (r : Nat) (e : MElems r), ∀ v ∈ C10Persist.localVals r e,
    v ∈ ((MElems.ops r).toList e).map (·.2)
  | 0, (se : SingleElems), v, hv => by
    obtain ⟨x, hx, rfl⟩ := List.mem_map.1 (hv : v ∈ se.elems.map (·.val))
    exact List.mem_map.2 ⟨(x.key, x.val), List.mem_map.2 ⟨x, hx, rfl⟩, rfl⟩
  | r + 1, (he : HkeyElems (MElems r)), v, hv => by
    show v ∈ (he.elems.flatMap (fun el => el.toList (MElems.ops r))).map (·.2)
    rw [List.map_flatMap]
    rcases mem_localVals_succ hv with ⟨x, hel, rfl⟩ | ⟨g, hel, hvg⟩
    · exact List.mem_flatMap.2 ⟨_, hel, List.mem_singleton_self x.val⟩
    · exact List.mem_flatMap.2 ⟨_, hel, localVals_sub_toList r g v hvg⟩

theorem localKeys_sub_toList : ∀ (r : Nat) (e : MElems r), ∀ k ∈ localKeys r e,
    k ∈ ((MElems.ops r).toList e).map (·.1)
  | 0, (se : SingleElems), k, hk => by
    have hk' : k ∈ se.elems.map (·.key) := hk
    obtain ⟨x, hx, rfl⟩ := List.mem_map.1 hk'
    exact List.mem_map.2 ⟨(x.key, x.val), List.mem_map.2 ⟨x, hx, rfl⟩, rfl⟩
  | r + 1, (he : HkeyElems (MElems r)), k, hk => by
    have hk' : k ∈ he.elems.flatMap (fun el => match el with
        | .single x => [x.key] | .inl g => localKeys r g | .ext _ _ _ => []) := hk
    obtain ⟨el, hel, hkel⟩ := List.mem_flatMap.1 hk'
    show k ∈ (he.elems.flatMap (fun el => el.toList (MElems.ops r))).map (·.1)
    rw [List.map_flatMap]
    refine List.mem_flatMap.2 ⟨el, hel, ?_⟩
    cases el with
    | single x =>
      simp only [List.mem_singleton] at hkel
      subst hkel
      simp [MElemF.toList]
    | inl g => exact localKeys_sub_toList r g k hkel
    | ext id sz s => cases hkel

theorem rtiSElList_of : ∀ {l : List SEl}, (∀ e ∈ l, e.RTI) → rtiSElList l :=
  list_of_forall trivial fun _ _ h1 h2 => And.intro h1 h2

theorem rtiMElList_of : ∀ {l : List MEl}, (∀ e ∈ l, e.RTI) → rtiMElList l :=
  list_of_forall trivial fun _ _ h1 h2 => And.intro h1 h2

theorem noCompactSElList_of : ∀ {l : List SEl}, (∀ e ∈ l, e.noCompact) → noCompactSElList l :=
  list_of_forall trivial fun _ _ h1 h2 => And.intro h1 h2

theorem noCompactMElList_of : ∀ {l : List MEl}, (∀ e ∈ l, e.noCompact) → noCompactMElList l :=
  list_of_forall trivial fun _ _ h1 h2 => And.intro h1 h2

theorem vneedISElList_le {n : Nat} : ∀ {l : List SEl}, (∀ e ∈ l, e.vneedI ≤ n) → vneedISElList l ≤ n :=
  list_of_forall (Nat.zero_le n) fun _ _ h1 h2 => Nat.max_le.2 ⟨h1, h2⟩

theorem vneedIMElList_le {n : Nat} : ∀ {l : List MEl}, (∀ e ∈ l, e.vneedI ≤ n) → vneedIMElList l ≤ n :=
  list_of_forall (Nat.zero_le n) fun _ _ h1 h2 => Nat.max_le.2 ⟨h1, h2⟩

theorem sizeSEl_map_of (f : SElem → SEl) : ∀ (l : List SElem), (∀ x ∈ l, (f x).size = x.size) →
    sizeSEl (l.map f) = (l.map (·.size)).sum
  | [], _ => rfl
  | x :: l, h => by
    show (f x).size + sizeSEl (l.map f) = x.size + (l.map (·.size)).sum
    rw [h x List.mem_cons_self, sizeSEl_map_of f l fun y hy => h y (List.mem_cons_of_mem x hy)]

theorem sizeMEl_map_of {α : Type} (o : ElemsOps α) (f : MElemF α → MEl) : ∀ (l : List (MElemF α)),
    (∀ el ∈ l, (f el).size = el.size o) → sizeMEl (l.map f) = HkeyElems.elemSizes o l
  | [], _ => rfl
  | el :: l, h => by
    show digestSize + (f el).size + sizeMEl (l.map f) = (el.size o + digestSize) + HkeyElems.elemSizes o l
    rw [h el List.mem_cons_self, sizeMEl_map_of o f l fun y hy => h y (List.mem_cons_of_mem el hy),
      Nat.add_comm digestSize]

/-- a single element whose key is a value of the harness and whose value the renderer handles -/
theorem selOf_facts {T L : Nat} {D : DigestFn L} {re : Elem → Stor} {V : Elem → Prop} (hre : ReOK re V)
    {x : SElem} (hx : SElemOk T L D x) (hv : V x.val) (hk : validElem ⟨x.key.size, .val x.key.pay⟩)
    (hsz : x.size ≤ maxUint32) :
    (selOf re x).size = x.size ∧ (selOf re x).RTI ∧ (selOf re x).noCompact := by
  have hs : singleElementPrefixSize + x.key.size + (re x.val).size = x.size := by
    rw [hre.size x.val hv, hx.2.2.2]
  exact ⟨hs, ⟨hk, hre.rti x.val hv, hs ▸ hsz⟩, trivial, hre.nc x.val hv⟩

theorem single_facts (f : SElem → SEl) (level : Nat) (elems : List SElem) (size : Nat)
    (hlev : level < 24) (hne : elems ≠ []) (hcnt : elems.length < 65536)
    (hsz : size = singleElementsPrefixSize + (elems.map (·.size)).sum) (hmax : size ≤ maxUint32)
    (hel : ∀ x ∈ elems, (f x).size = x.size ∧ (f x).RTI ∧ (f x).noCompact) :
    (MEls.single level (elems.map f)).size = size ∧ (MEls.single level (elems.map f)).RTI ∧
    (MEls.single level (elems.map f)).noCompact := by
  have hs : singleElementsPrefixSize + sizeSEl (elems.map f) = size := by
    rw [sizeSEl_map_of f elems (fun x hm => (hel x hm).1), hsz]
  exact ⟨hs, ⟨hlev, fun hnil => hne (List.map_eq_nil_iff.1 hnil), (List.length_map f).symm ▸ hcnt,
    rtiSElList_of (List.forall_mem_map.2 fun x hm => (hel x hm).2.1), hs ▸ hmax⟩,
    noCompactSElList_of (List.forall_mem_map.2 fun x hm => (hel x hm).2.2)⟩

theorem hkey_facts {α : Type} (o : ElemsOps α) (f : MElemF α → MEl) (level : Nat) (hkeys : List Nat)
    (elems : List (MElemF α)) (size : Nat)
    (hlev : level < 24) (hlen : hkeys.length = elems.length) (hcnt : elems.length < 8192)
    (hlt : ∀ h ∈ hkeys, h < 2 ^ 64) (hsz : size = hkeyElementsPrefixSize + HkeyElems.elemSizes o elems)
    (hmax : size ≤ maxUint32)
    (hel : ∀ el ∈ elems, (f el).size = el.size o ∧ (f el).RTI ∧ (f el).noCompact) :
    (MEls.hkey level hkeys (elems.map f)).size = size ∧ (MEls.hkey level hkeys (elems.map f)).RTI ∧
    (MEls.hkey level hkeys (elems.map f)).noCompact := by
  have hs : hkeyElementsPrefixSize + sizeMEl (elems.map f) = size := by
    rw [sizeMEl_map_of o f elems (fun el hm => (hel el hm).1), hsz]
  exact ⟨hs, ⟨hlev, (List.length_map f).symm ▸ hlen, (List.length_map f).symm ▸ hcnt, hlt,
    rtiMElList_of (List.forall_mem_map.2 fun el hm => (hel el hm).2.1), hs ▸ hmax⟩,
    noCompactMElList_of (List.forall_mem_map.2 fun el hm => (hel el hm).2.2)⟩

theorem melsOf_zero (re : Elem → Stor) (se : SingleElems) :
    melsOf re 0 se = .single se.level (se.elems.map (selOf re)) := rfl

theorem melsOf_succ (re : Elem → Stor) {r : Nat} (he : HkeyElems (MElems r)) :
    melsOf re (r + 1) he = .hkey he.level he.hkeys (he.elems.map (melOf re (melsOf re r))) := rfl

theorem elemsInv_level_lt {T L : Nat} {D : DigestFn L} {r ℓ : Nat} {path : List Nat} (hL : L ≤ 9) {e : MElems r}
    (h : ElemsInv T L D r ℓ path e) : ℓ < 24 := by
  have : ℓ ≤ L := by
    cases r with
    | zero => exact Nat.le_of_eq h.1
    | succ r => exact h.1 ▸ Nat.le_add_right ℓ (r + 1)
  exact Nat.lt_of_le_of_lt (Nat.le_trans this hL) (by decide)

/-- an entry `a` (+ its digest `d`) of a table of `elements` of size `s` = prefix + entries `e` is within any bound on `s` -/
theorem elem_le_of_table {a d e s p m : Nat} (hle : a + d ≤ e) (hs : s = p + e) (hm : s ≤ m) : a ≤ m :=
  Nat.le_trans (Nat.le_of_add_right_le hle) (Nat.le_trans (Nat.le_add_left e p) (hs ▸ hm))

/-- INNER levels (level ≥ 1: no external group below the first level): the rendered `elements` have
    the size the model keeps, are round-trippable (`MEls.RTI`) and contain no compact map. -/
theorem melsOf_inner {T L : Nat} {D : DigestFn L} (hL : L ≤ 9) (hD : ∀ p, ∀ h ∈ D.dg p, h < 2 ^ 64)
    {re : Elem → Stor} {V : Elem → Prop} (hre : ReOK re V) :
    ∀ (r ℓ : Nat) (path : List Nat) (e : MElems r), ElemsInv T L D r ℓ path e → 1 ≤ ℓ → path.length = ℓ →
      1 ≤ (MElems.ops r).count e → E2EM.Fit r e →
      (∀ v ∈ C10Persist.localVals r e, V v) →
      (∀ k ∈ localKeys r e, validElem ⟨k.size, .val k.pay⟩) →
      (Codec.melsOf re r e).size = (MElems.ops r).size e ∧ (Codec.melsOf re r e).RTI ∧ (Codec.melsOf re r e).noCompact
  | 0, ℓ, path, (se : SingleElems), h, _, _, hc, hfit, hv, hk =>
    single_facts (selOf re) se.level se.elems se.size (h.2.1 ▸ elemsInv_level_lt hL h)
      (fun hnil => absurd (hnil ▸ hc : 1 ≤ ([] : List SElem).length) (Nat.not_succ_le_zero 0)) hfit.1
      (SingleElems.inv_size h) hfit.2 fun x hx =>
      selOf_facts hre (SingleElems.inv_elemOk h x hx).1 (hv _ (List.mem_map_of_mem hx)) (hk _ (List.mem_map_of_mem hx))
        (Nat.le_trans (le_sum_of_mem' (List.mem_map_of_mem (f := (·.size)) hx))
          (Nat.le_trans (SingleElems.inv_size h ▸ Nat.le_add_left _ _) hfit.2))
  | r + 1, ℓ, path, (he : HkeyElems (MElems r)), h, hℓ, hp, hc, hfit, hv, hk => by
    obtain ⟨f1, f2, f3⟩ := hfit
    have H := (elemsInv_succ_iff T L D r ℓ path he).1 h
    refine hkey_facts (MElems.ops r) (melOf re (melsOf re r)) he.level he.hkeys he.elems he.size
      (h.2.1 ▸ elemsInv_level_lt hL h) H.len_eq f1 (hkeys_lt hD r ℓ path he h hp) H.size_eq f2 ?_
    intro el hel
    obtain ⟨hkd, this⟩ := H.elemOk_of_mem hel
    have hle := elem_size_le (MElems.ops r) he.elems el hel
    cases el with
    | single x =>
      exact selOf_facts hre this.1 (hv _ (mem_localVals_single hel)) (hk _ (mem_localKeys_single hel))
        (elem_le_of_table hle H.size_eq f2)
    | inl g =>
      obtain ⟨g1, g2, g3⟩ := melsOf_inner hL hD hre r (ℓ + 1) _ g this.1 (Nat.le_add_left 1 ℓ)
        (by rw [List.length_append, hp]; rfl) this.2.1
        (f3 _ hel) (fun v hv' => hv v (mem_localVals_inl hel hv')) (fun k hk' => hk k (mem_localKeys_inl hel hk'))
      exact ⟨congrArg (inlineCollisionGroupPrefixSize + ·) g1, g2, g3⟩
    | ext id sz s =>
      rw [this.1] at hℓ
      exact absurd hℓ (Nat.not_succ_le_zero 0)

/-- a digest table of at most 48 KiB has fewer than 8192 entries, and each entry is below 64 KiB -/
theorem table_small {n e s : Nat} (hge : digestSize * n ≤ e) (hs : s = hkeyElementsPrefixSize + e)
    (hsz : s ≤ 49152) : n < 8192 ∧ ∀ {a b : Nat}, b + a + digestSize ≤ e → a < 65536 := by
  have he : e ≤ 49152 := Nat.le_trans (hs ▸ Nat.le_add_left e hkeyElementsPrefixSize) hsz
  exact ⟨Nat.lt_of_mul_lt_mul_left (a := digestSize) (Nat.lt_of_le_of_lt (Nat.le_trans hge he) (by decide)),
    fun {a b} h => Nat.lt_of_le_of_lt (Nat.le_trans (Nat.le_trans (Nat.le_trans (Nat.le_add_left a b)
      (Nat.le_add_right _ digestSize)) h) he) (by decide)⟩

/-- FIRST level of a map data slab / of an inlined map root (level 0; external groups appear as
    references `.ext id`). -/
theorem melsOf_top {T : Nat} {r : Nat} {D : DigestFn (r + 1)} (hr : r ≤ 8) (hD : ∀ p, ∀ h ∈ D.dg p, h < 2 ^ 64)
    {re : Elem → Stor} {V : Elem → Prop} (hre : ReOK re V)
    (he : HkeyElems (MElems r)) (h : ElemsInv T (r + 1) D (r + 1) 0 [] he) (hsz : he.size ≤ 49152)
    (hv : ∀ v ∈ C10Persist.localVals (r + 1) he, V v)
    (hk : ∀ k ∈ localKeys (r + 1) he, validElem ⟨k.size, .val k.pay⟩)
    (hids : ∀ id sz g, MElemF.ext id sz g ∈ he.elems → id.addr < 2 ^ 64 ∧ id.idx < 2 ^ 64) :
    (Codec.melsOf re (r + 1) he).size = he.size ∧ (Codec.melsOf re (r + 1) he).RTI ∧ (Codec.melsOf re (r + 1) he).noCompact := by
  have hL : r + 1 ≤ 9 := Nat.succ_le_succ hr
  have hmax : he.size ≤ maxUint32 := Nat.le_trans hsz (by decide)
  have H := (elemsInv_succ_iff T (r + 1) D r 0 [] he).1 h
  obtain ⟨hcnt, hsmall⟩ := table_small (elemSizes_ge (MElems.ops r) he.elems) H.size_eq hsz
  refine hkey_facts (MElems.ops r) (melOf re (melsOf re r)) he.level he.hkeys he.elems he.size
    (h.2.1 ▸ elemsInv_level_lt hL h) H.len_eq hcnt (hkeys_lt hD r 0 [] he h rfl) H.size_eq hmax ?_
  intro el hel
  obtain ⟨hkd, this⟩ := H.elemOk_of_mem hel
  have hle := elem_size_le (MElems.ops r) he.elems el hel
  cases el with
  | single x =>
    exact selOf_facts hre this.1 (hv _ (mem_localVals_single hel)) (hk _ (mem_localKeys_single hel))
      (elem_le_of_table hle H.size_eq hmax)
  | inl g =>
    obtain ⟨g1, g2, g3⟩ := melsOf_inner hL hD hre r 1 _ g this.1 (Nat.le_refl 1) rfl this.2.1
      (fit_of_size r 1 _ g this.1 (hsmall hle))
      (fun v hv' => hv v (mem_localVals_inl hel hv')) (fun k hk' => hk k (mem_localKeys_inl hel hk'))
    exact ⟨congrArg (inlineCollisionGroupPrefixSize + ·) g1, g2, g3⟩
  | ext id sz s => exact ⟨this.2.1.symm, hids id sz s hel, trivial⟩

/-- The slab of an external collision group: `melsOf_inner` at level 1 (`Fit` from the slab size when
    the group slab is smaller than 64 KiB). -/
theorem melsOf_group {T : Nat} {r : Nat} {D : DigestFn (r + 1)} (hr : r ≤ 8) (hD : ∀ p, ∀ h ∈ D.dg p, h < 2 ^ 64)
    {re : Elem → Stor} {V : Elem → Prop} (hre : ReOK re V)
    (hk0 : Nat) (e : MElems r) (h : ElemsInv T (r + 1) D r 1 [hk0] e) (hc : 1 ≤ (MElems.ops r).count e)
    (hsz : (MElems.ops r).size e < 65536)
    (hv : ∀ v ∈ C10Persist.localVals r e, V v)
    (hk : ∀ k ∈ localKeys r e, validElem ⟨k.size, .val k.pay⟩) :
    (Codec.melsOf re r e).size = (MElems.ops r).size e ∧ (Codec.melsOf re r e).RTI ∧ (Codec.melsOf re r e).noCompact :=
  melsOf_inner (by omega) hD hre r 1 [hk0] e h (Nat.le_refl 1) rfl hc (fit_of_size r 1 _ e h hsz) hv hk

theorem selem_val_lt {T L : Nat} {D : DigestFn L} {x : SElem} (h : SElemOk T L D x) : x.val.size < x.size := by
  rw [h.2.2.2, singleElementPrefixSize]
  omega

/-- a value smaller than an entry `a` of the `elements` is smaller than the `elements` (`s` = prefix + entries `e`) -/
theorem lt_size_of_lt_entry {v a c e s p : Nat} (h1 : v < a) (h2 : a + c ≤ e) (hs : s = p + e) : v < s :=
  hs ▸ Nat.lt_of_lt_of_le h1 (Nat.le_trans (Nat.le_trans (Nat.le_add_right a c) h2) (Nat.le_add_left e p))

theorem localVals_lt_size {T L : Nat} {D : DigestFn L} :
    ∀ (r ℓ : Nat) (path : List Nat) (e : MElems r), ElemsInv T L D r ℓ path e →
      ∀ v ∈ C10Persist.localVals r e, v.size < (MElems.ops r).size e
  | 0, ℓ, path, (se : SingleElems), h, v, hv => by
    rw [localVals_zero] at hv
    obtain ⟨x, hx, rfl⟩ := List.mem_map.1 hv
    exact lt_size_of_lt_entry (c := 0) (selem_val_lt (SingleElems.inv_elemOk h x hx).1)
      (le_sum_of_mem' (List.mem_map_of_mem (f := (·.size)) hx)) (SingleElems.inv_size h)
  | r + 1, ℓ, path, (he : HkeyElems (MElems r)), h, v, hv => by
    have H := (elemsInv_succ_iff T L D r ℓ path he).1 h
    rcases mem_localVals_succ hv with ⟨x, hel, rfl⟩ | ⟨g, hel, hvg⟩
    · obtain ⟨hkd, this⟩ := H.elemOk_of_mem hel
      exact lt_size_of_lt_entry (selem_val_lt this.1) (elem_size_le (MElems.ops r) he.elems _ hel) H.size_eq
    · obtain ⟨hkd, this⟩ := H.elemOk_of_mem hel
      exact lt_size_of_lt_entry
        (Nat.lt_of_lt_of_le (localVals_lt_size r (ℓ + 1) _ g this.1 v hvg) (Nat.le_add_left _ inlineCollisionGroupPrefixSize))
        (elem_size_le (MElems.ops r) he.elems _ hel) H.size_eq

theorem localVals_le_size {T L : Nat} {D : DigestFn L} (r ℓ : Nat) (path : List Nat) (e : MElems r)
    (h : ElemsInv T L D r ℓ path e) : ∀ v ∈ C10Persist.localVals r e, v.size ≤ (MElems.ops r).size e :=
  fun v hv => Nat.le_of_lt (localVals_lt_size r ℓ path e h v hv)

theorem selOf_ofElem : selOf Stor.ofElem = E2EM.toSEl := rfl

theorem melOf_ofElem {α : Type} (f : α → MEls) : melOf Stor.ofElem f = E2EM.toMElWith f := by
  funext el
  cases el <;> rfl

theorem melsOf_ofElem : ∀ (r : Nat) (e : MElems r), Codec.melsOf Stor.ofElem r e = E2EM.toMEls r e
  | 0, (_ : SingleElems) => rfl
  | r + 1, (he : HkeyElems (MElems r)) => by
    have : melsOf Stor.ofElem r = E2EM.toMEls r := funext (melsOf_ofElem r)
    rw [melsOf_succ, this, melOf_ofElem]
    rfl

theorem melsOf_noInl {re : Elem → Stor} : ∀ (r : Nat) (e : MElems r),
    (∀ v ∈ C10Persist.localVals r e, (re v).noInl) → (Codec.melsOf re r e).noInl
  | 0, (se : SingleElems), hv => by
    rw [melsOf_zero]
    simp only [MEls.noInl]
    apply E2EM.noInlSElList_of
    intro e he
    obtain ⟨x, hx, rfl⟩ := List.mem_map.1 he
    simp only [selOf, SEl.noInl, keyStor, Stor.noInl, true_and]
    exact hv _ (by rw [localVals_zero]; exact List.mem_map.2 ⟨x, hx, rfl⟩)
  | r + 1, (he : HkeyElems (MElems r)), hv => by
    rw [melsOf_succ]
    simp only [MEls.noInl]
    apply E2EM.noInlMElList_of
    intro e hm
    obtain ⟨el, hel, rfl⟩ := List.mem_map.1 hm
    cases el with
    | single x =>
      simp only [melOf, MEl.noInl, selOf, SEl.noInl, keyStor, Stor.noInl, true_and]
      exact hv _ (mem_localVals_single hel)
    | inl g =>
      simp only [melOf, MEl.noInl]
      exact melsOf_noInl r g (fun v hv' => hv v (mem_localVals_inl hel hv'))
    | ext id sz s => simp only [melOf, MEl.noInl]

theorem selOf_vneedI_le {re : Elem → Stor} {n : Nat} {x : SElem} (h : (re x.val).vneedI ≤ n) :
    (selOf re x).vneedI ≤ max n 1 + 1 :=
  Nat.succ_le_succ (Nat.max_le.2 ⟨Nat.le_max_right n 1, Nat.le_trans h (Nat.le_max_left n 1)⟩)

/-- nesting the CBOR validator needs: three levels per level of `elements` (array of `elements`,
    array of the element list, tag of the inline group) on top of the deepest rendered value -/
theorem melsOf_vneedI_le {re : Elem → Stor} {n : Nat} : ∀ (r : Nat) (e : MElems r),
    (∀ v ∈ C10Persist.localVals r e, (re v).vneedI ≤ n) → (Codec.melsOf re r e).vneedI ≤ max n 1 + 3 * r + 3
  | 0, (se : SingleElems), hv =>
    Nat.add_le_add_right (vneedISElList_le (List.forall_mem_map.2 fun _ hx =>
      selOf_vneedI_le (hv _ (List.mem_map_of_mem hx)))) 2
  | r + 1, (he : HkeyElems (MElems r)), hv => by
    refine Nat.add_le_add_right (m := max n 1 + 3 * r + 4) (vneedIMElList_le (List.forall_mem_map.2 fun el hel => ?_)) 2
    cases el with
    | single x =>
      exact Nat.le_trans (selOf_vneedI_le (hv _ (mem_localVals_single hel)))
        (Nat.add_le_add (Nat.le_add_right _ _) (by decide))
    | inl g =>
      exact Nat.succ_le_succ (melsOf_vneedI_le r g fun v hv' => hv v (mem_localVals_inl hel hv'))
    | ext id sz s => exact Nat.le_trans (by decide : 2 ≤ 4) (Nat.le_add_left _ _)

theorem melsOf_vneedI_le' {re : Elem → Stor} {n : Nat} (r : Nat) (e : MElems r)
    (h : ∀ v ∈ C10Persist.localVals r e, (re v).vneedI ≤ n) : (Codec.melsOf re r e).vneedI ≤ n + 3 * r + 4 := by
  have := melsOf_vneedI_le r e h
  omega

/-- the flat renderer meets `ReOK` on the values the harness can encode -/
theorem reOK_ofElem : ReOK Stor.ofElem validElem := by
  refine ⟨E2EM.stor_ofElem_size, ?_, ?_⟩
  · intro v h
    obtain ⟨sz, pay⟩ := v
    unfold Stor.ofElem
    cases pay with
    | val p => exact h
    | ref id =>
      unfold validElem at h
      simp only at h
      exact ⟨h.2.1, h.2.2⟩
  · intro v _
    unfold Stor.ofElem
    cases v.pay <;> simp [Stor.noCompact]

/-- `R` holds of the members of two lists of the same length, position by position -/
def AllPairs {α β : Type} (R : α → β → Prop) : List α → List β → Prop
  | [], [] => True
  | a :: l₁, b :: l₂ => R a b ∧ AllPairs R l₁ l₂
  | _, _ => False

theorem AllPairs.getElem? {α β : Type} {R : α → β → Prop} : ∀ {l₁ : List α} {l₂ : List β}, AllPairs R l₁ l₂ →
    l₁.length = l₂.length ∧ ∀ (i : Nat) a b, l₁[i]? = some a → l₂[i]? = some b → R a b
  | [], [], _ => ⟨rfl, fun i a b h => by rw [List.getElem?_nil] at h; cases h⟩
  | x :: l₁, y :: l₂, h => by
    have ih := AllPairs.getElem? h.2
    refine ⟨congrArg Nat.succ ih.1, fun i a b h1 h2 => ?_⟩
    cases i with
    | zero =>
      rw [List.getElem?_cons_zero] at h1 h2
      cases h1; cases h2; exact h.1
    | succ i =>
      rw [List.getElem?_cons_succ] at h1 h2
      exact ih.2 i a b h1 h2
  | [], _ :: _, h => h.elim
  | _ :: _, [], h => h.elim

theorem elemsInv_of_pairs {T L : Nat} {D : DigestFn L} {r ℓ : Nat} {path : List Nat} {he : HkeyElems (MElems r)}
    (h1 : ℓ + r + 1 = L) (h2 : he.level = ℓ) (h4 : he.hkeys.Pairwise (· < ·))
    (h5 : he.size = hkeyElementsPrefixSize + HkeyElems.elemSizes (MElems.ops r) he.elems)
    (h6 : AllPairs (MElemOk T L D (MElems.ops r) (ElemsInv T L D r) ℓ path) he.hkeys he.elems) :
    ElemsInv T L D (r + 1) ℓ path he :=
  (elemsInv_succ_iff T L D r ℓ path he).2 ⟨h1, h2, h6.getElem?.1, h4, h5, h6.getElem?.2⟩

/-- remainders modulo a number of at most 64 bits are below 2⁶⁴ (digests of the examples) -/
theorem mod_lt_pow64 (n : Nat) {k : Nat} (hk0 : 0 < k) (hk : k ≤ 2 ^ 64) : n % k < 2 ^ 64 :=
  Nat.lt_of_lt_of_le (Nat.mod_lt n hk0) hk

namespace Example
open Atree.IterExample (T0 k v)

abbrev grp := IterExample.grp
abbrev rootElems := IterExample.rootElems

/-- the digest function of `IterExample` (the decimal digits of the payload), the first digest cut
    to 64 bits so that EVERY digest is below 2⁶⁴ -/
def D64 : DigestFn 2 := ⟨fun p => [p.2 / 10 % 2 ^ 64, p.2 % 10], fun _ => rfl⟩

theorem D64_lt : ∀ p, ∀ h ∈ D64.dg p, h < 2 ^ 64 := fun p =>
  List.forall_mem_cons.2 ⟨Nat.mod_lt _ (by decide), List.forall_mem_singleton.2 (mod_lt_pow64 p.2 (by decide) (by decide))⟩

theorem selem_ok (n w : Nat) (hn : n < 100) : SElemOk T0 2 D64 ⟨k n, v w, 20⟩ := by
  refine ⟨⟨?_, ?_, ?_⟩, ?_, ?_, ?_⟩
  · show [n / 10, n % 10] = [n / 10 % 2 ^ 64, n % 10]
    rw [Nat.mod_eq_of_lt (a := n / 10) (b := 2 ^ 64) (Nat.lt_of_lt_of_le (show n / 10 < 100 by omega) (by decide))]
  · show 1 ≤ 9; decide
  · show 9 ≤ maxInlineMapKey 256; decide
  · show 1 ≤ 10; decide
  · show 10 ≤ maxInlineMapValue 256 9; decide
  · show 20 = singleElementPrefixSize + 9 + 10; decide

theorem grp_inv : ElemsInv T0 2 D64 1 1 [1] grp :=
  elemsInv_of_pairs rfl rfl (by decide) (by decide)
    ⟨⟨selem_ok 11 1 (by decide), rfl⟩, ⟨selem_ok 12 3 (by decide), rfl⟩, trivial⟩

theorem root_elems_inv : ElemsInv T0 2 D64 2 0 [] rootElems :=
  elemsInv_of_pairs rfl rfl (by decide) (by decide)
    ⟨⟨grp_inv, by decide, rfl, fun _ => by decide⟩, ⟨selem_ok 25 2 (by decide), rfl⟩, trivial⟩

/-- NON-VACUITY of `melsOf_top` (and, through the inline collision group, of `melsOf_inner`): the
    first level of the root slab of `IterExample.map3` (T = 256, two digest levels, one inline
    collision group of two keys and one single element) meets every hypothesis with the flat
    renderer and 64-bit digests. -/
theorem top_example :
    (Codec.melsOf Stor.ofElem 2 rootElems).size = 110 ∧ (Codec.melsOf Stor.ofElem 2 rootElems).RTI ∧
    (Codec.melsOf Stor.ofElem 2 rootElems).noCompact :=
  melsOf_top (T := T0) (r := 1) (D := D64) (by decide) D64_lt reOK_ofElem rootElems root_elems_inv (by decide)
    (by decide) (by decide) (by intro id sz g hm; simp [rootElems, IterExample.rootElems] at hm)

/-- the same first level with the collision group moved to an EXTERNAL group slab (ID `(1, 7)`) -/
def rootElemsX : HkeyElems (MElems 1) :=
  { hkeys := [1, 2],
    elems := [.ext ⟨1, 7⟩ (externalCollisionGroupPrefixSize + slabIDStorableSize)
                ⟨⟨⟨1, 7⟩, mapDataSlabPrefixSize + 64, 1⟩, IterExample.grp⟩, .single IterExample.x25],
    size := hkeyElementsPrefixSize +
      ((externalCollisionGroupPrefixSize + slabIDStorableSize + digestSize) + (20 + digestSize)),
    level := 0 }

theorem rootX_inv : ElemsInv T0 2 D64 2 0 [] rootElemsX :=
  elemsInv_of_pairs rfl rfl (by decide) (by decide)
    ⟨⟨rfl, rfl, rfl, rfl, rfl, grp_inv, by decide, rfl⟩, ⟨selem_ok 25 2 (by decide), rfl⟩, trivial⟩

/-- NON-VACUITY of `melsOf_top` with an external collision group, and of `melsOf_group` on the
    elements of its slab -/
theorem topX_example :
    ((Codec.melsOf Stor.ofElem 2 rootElemsX).size = rootElemsX.size ∧ (Codec.melsOf Stor.ofElem 2 rootElemsX).RTI ∧
      (Codec.melsOf Stor.ofElem 2 rootElemsX).noCompact) ∧
    ((Codec.melsOf Stor.ofElem 1 grp).size = 64 ∧ (Codec.melsOf Stor.ofElem 1 grp).RTI ∧
      (Codec.melsOf Stor.ofElem 1 grp).noCompact) :=
  ⟨melsOf_top (T := T0) (r := 1) (D := D64) (by decide) D64_lt reOK_ofElem rootElemsX rootX_inv (by decide)
    (by decide) (by decide) (by
      intro id sz g hm
      simp only [rootElemsX, List.mem_cons, MElemF.ext.injEq, List.not_mem_nil, or_false, reduceCtorEq] at hm
      obtain ⟨rfl, _, _⟩ := hm
      decide),
   melsOf_group (T := T0) (r := 1) (D := D64) (by decide) D64_lt reOK_ofElem 1 grp grp_inv (by decide) (by decide)
    (by decide) (by decide)⟩

end Example

end Atree.WC

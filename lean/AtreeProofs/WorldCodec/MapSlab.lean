import AtreeProofs.WorldCodec.MElsOf
import AtreeProofs.WorldCodec.ArrSlab
import AtreeProofs.World.HeapCont
/-
  Every slab of a map of a world, translated by `WSlab.toCodec`, meets the codec predicates
  (`OKAll`): map data slabs whose values are plain values, references, wrapped references and
  inlined children at any depth (`mdataOf`), external collision-group slabs (`groupOf`) and index
  slabs (`.mindex`).  The analogue, for maps, of `AtreeProofs/WorldCodec/ArrSlab.lean`; the flat
  special case is `AtreeProofs/E2EMap/BytesStored.lean` (`mdata_ok`, `mstored_ok`), whose walk of the
  tree slab by slab (`E2EM.msubtree_slabs`) serves both.

  One slab of each kind first (`mdataOf_ok`, `groupOf_ok`, `mindex_ok`), then the tree of a standalone
  map (`map_tree_goal`) and the group slabs an inlined map owns (`mapInl_goal`).

  Local values / keys of a slab are values / keys of `toList` (`localVals_sub_toList`,
  `localKeys_sub_toList`, MElsOf.lean), so `map_tree_goal` / `mapInl_goal` take goodness of the values and
  validity of the keys of `m.toList`, not per-slab hypotheses.  The ID hypotheses are phrased over
  `Cont.treeIds` (pairwise different; 64-bit address and index) — what `World.HeapOk` gives (`nodup`,
  `addr`, `below`) with a 64-bit world address and allocation counter.  `Nodup` is needed to know
  that only the root slab carries the extra data (`Cont.treeSlabs` attaches it by comparing IDs).
  Non-vacuity: `AtreeProofs/WorldCodec/MapSlabExample.lean`.
-/
namespace Atree.WC
open Atree Atree.Codec Gen World
open Atree.C10Persist (localVals)

/-- `World.stor` keeps the size of, and renders as round-trippable storables without compact maps,
    the good elements of the world -/
theorem reOK_stor {w : World} (E : Env w) : ReOK w.stor (Good w) :=
  ⟨fun v hv => (stor_ok E v hv).1, fun v hv => (stor_ok E v hv).2.1, fun v hv => (stor_ok E v hv).2.2⟩

/-- A data slab of the tree of a standalone map of the world: its translation meets the codec
    predicates, reports the size the model keeps in the header, and carries its own ID. -/
theorem mdataOf_ok {w : World} (E : Env w) (hT : legalThreshold w.T = true) {D : DigestFn 4}
    (hD : ∀ p, ∀ h ∈ D.dg p, h < 2 ^ 64)
    (s : MDataSlab 3) (top : Bool) (hd : MDataInv w.T D top s) (hni : s.inlined = false)
    (hv : ∀ v ∈ C10Persist.localVals 4 s.elems, Good w v)
    (hk : ∀ k ∈ localKeys 4 s.elems, validElem ⟨k.size, .val k.pay⟩)
    (hids : ∀ id sz g, MElemF.ext id sz g ∈ s.elems.elems → id.addr < 2 ^ 64 ∧ id.idx < 2 ^ 64)
    (hnext : validNext s.next) (hrn : top = true → s.next = SlabID.undef)
    (x : Option MapExtra) (hx : x.isSome = top) (hxv : ∀ y, x = some y → validMapExtra y)
    (hside : Side (mdataOf w.stor x s)) :
    OKAll (mdataOf w.stor x s) ∧ RootNoNext (mdataOf w.stor x s) ∧
      (mdataOf w.stor x s).byteSize = s.hdr.size ∧ (mdataOf w.stor x s).id = s.hdr.id := by
  have hmx := E2E.maxThr_le hT
  have hle := hd.le_max
  have hse := hd.size_eq
  have hps : s.prefixSize = if top then mapRootDataSlabPrefixSize else mapDataSlabPrefixSize := by
    simp only [MDataSlab.prefixSize, hni, hd.root_eq, Bool.false_eq_true, if_false]
  have hsz : s.elems.size ≤ 49152 := by omega
  obtain ⟨m1, m2, m3⟩ := melsOf_top (T := w.T) (r := 3) (D := D) (by decide) hD (reOK_stor E) s.elems
    hd.elems_inv hsz hv hk hids
  have hsize : (MapData.mk s.hdr.id s.next x (melsOf w.stor 4 s.elems) false false).size = s.hdr.size := by
    simp only [MapData.size, m1, hse, hps, hx]
    cases top <;> simp [versionAndFlagSize, mapRootDataSlabPrefixSize, mapDataSlabPrefixSize, SlabIDLength] <;> omega
  unfold mdataOf at hside ⊢
  refine ⟨⟨m2, m3, hside.1, hside.2, hnext, hxv, ?_⟩, ?_, hsize, rfl⟩
  · rw [hsize]; simp only [maxUint32]; omega
  · intro hr
    exact hrn (by rw [← hx]; exact hr)

/-- An external collision-group slab (of a standalone or of an inlined map): from the clauses
    `ElemsInv` gives for the element `.ext id sz g` that refers to it (`hinv`, `hc`, `hsize`), the
    field-width assumption `WSlab.GroupFit` (`hfit`), good local values and valid local keys. -/
theorem groupOf_ok {w : World} (E : Env w) {T : Nat} {D : DigestFn 4} (hD : ∀ p, ∀ h ∈ D.dg p, h < 2 ^ 64)
    (g : GroupSlab (MElems 3)) (hk0 : Nat)
    (hinv : ElemsInv T 4 D 3 1 [hk0] g.elems) (hc : 1 ≤ (MElems.ops 3).count g.elems)
    (hsize : g.hdr.size = mapDataSlabPrefixSize + (MElems.ops 3).size g.elems)
    (hfit : E2EM.Fit 3 g.elems ∧ g.hdr.size ≤ maxUint32)
    (hv : ∀ v ∈ C10Persist.localVals 3 g.elems, Good w v)
    (hk : ∀ k ∈ localKeys 3 g.elems, validElem ⟨k.size, .val k.pay⟩)
    (hside : Side (groupOf w.stor none g)) :
    OKAll (groupOf w.stor none g) ∧ RootNoNext (groupOf w.stor none g) ∧
      (groupOf w.stor none g).byteSize = g.hdr.size ∧ (groupOf w.stor none g).id = g.hdr.id := by
  obtain ⟨m1, m2, m3⟩ := melsOf_inner (T := T) (L := 4) (D := D) (by decide) hD (reOK_stor E) 3 1 [hk0] g.elems
    hinv (Nat.le_refl 1) rfl hc hfit.1 hv hk
  have hsz : (MapData.mk g.hdr.id SlabID.undef none (melsOf w.stor 3 g.elems) true true).size = g.hdr.size := by
    simp only [MapData.size, m1, hsize, versionAndFlagSize, mapDataSlabPrefixSize, SlabIDLength]
    simp
    omega
  unfold groupOf at hside ⊢
  refine ⟨⟨m2, m3, hside.1, hside.2, E2E.validNext_undef, ?_, ?_⟩, ?_, hsz, rfl⟩
  · intro y hy; cases hy
  · rw [hsz]; exact hfit.2
  · intro hr; cases hr

/-- An index slab of the tree of a standalone map: from `MTreeInv` and the 64-bit widths of the
    slab's address and of the children's slab indices, `MapMetaOK`; the codec's size is the size in
    the header. -/
theorem mindex_ok {r T : Nat} {D : DigestFn (r + 1)} (hT : legalThreshold T = true)
    (hD : ∀ p, ∀ h ∈ D.dg p, h < 2 ^ 64) (d : Nat) (top : Bool) (m : MMetaSlab (MTree r d))
    (hinv : MTreeInv T D (d + 1) top m) (haddr : m.hdr.id.addr < 2 ^ 64)
    (hcids : ∀ c ∈ m.children, (MTree.hdr d c).id.idx < 2 ^ 64)
    (x : Option MapExtra) (hxv : ∀ y, x = some y → validMapExtra y) :
    MapMetaOK { id := m.hdr.id, extra := x, childHdrs := m.childHdrs.map mchildHdrOf } ∧
      (MapMeta.mk m.hdr.id x (m.childHdrs.map mchildHdrOf)).size = m.hdr.size := by
  obtain ⟨h1, h2, h3⟩ := E2EM.mindex_hdrs hT hD d top m hinv hcids
  refine ⟨⟨haddr, ?_, by rw [List.length_map]; exact h2, hxv⟩, ?_⟩
  · intro ch hch
    obtain ⟨h0, hh0, rfl⟩ := List.mem_map.1 hch
    exact h1 h0 hh0
  · simp only [MapMeta.size, List.length_map]
    exact h3.symm

/-- what is assumed of a stored key / value pair: the value is a good element of the world, the key
    a value of the harness -/
def KVGood (w : World) (p : MKey × Elem) : Prop := Good w p.2 ∧ validElem ⟨p.1.size, .val p.1.pay⟩

theorem localVals_good {w : World} {r : Nat} {e : MElems r} (h : ∀ p ∈ (MElems.ops r).toList e, KVGood w p) :
    ∀ v ∈ C10Persist.localVals r e, Good w v := by
  intro v hv
  obtain ⟨p, hp, rfl⟩ := List.mem_map.1 (localVals_sub_toList r e v hv)
  exact (h p hp).1

theorem localKeys_valid {w : World} {r : Nat} {e : MElems r} (h : ∀ p ∈ (MElems.ops r).toList e, KVGood w p) :
    ∀ k ∈ localKeys r e, validElem ⟨k.size, .val k.pay⟩ := by
  intro k hk
  obtain ⟨p, hp, rfl⟩ := List.mem_map.1 (localKeys_sub_toList r e k hk)
  exact (h p hp).2

/-- the extra data of the World model (type, count, seed), 64 bits each -/
theorem validMapExtra_mxOf (x : Option (Nat × Nat × Nat)) (hxo : E2EM.XOk x) : ∀ y, mxOf x = some y → validMapExtra y := by
  intro y hy
  cases x with
  | none => cases hy
  | some p =>
    simp only [mxOf, Option.map_some, Option.some.injEq] at hy
    subst hy
    exact hxo

theorem mxOf_isSome (x : Option (Nat × Nat × Nat)) : (mxOf x).isSome = x.isSome := by
  cases x <;> rfl

/-- The external collision-group slabs referenced from the first level of a data slab (standalone or
    the root of an inlined map) meet the goal. -/
theorem groups_goal {w : World} (E : Env w) {T : Nat} {D : DigestFn 4} (hD : ∀ p, ∀ h ∈ D.dg p, h < 2 ^ 64)
    (s : MDataSlab 3) (hinv : ElemsInv T 4 D 4 0 [] s.elems)
    (hkv : ∀ p ∈ HkeyElems.toList (MElems.ops 3) s.elems, KVGood w p) :
    ∀ p ∈ s.groupSlabs, SlabGoal w p.1 (WSlab.map p.2 none) := by
  intro p hp
  unfold MDataSlab.groupSlabs at hp
  obtain ⟨el, hel, hpe⟩ := List.mem_filterMap.1 hp
  cases el with
  | single x => cases hpe
  | inl g => cases hpe
  | ext id sz gs =>
    simp only [Option.some.injEq] at hpe
    subst hpe
    obtain ⟨hkd, _, _, e3, e4, _, e6, e7, _⟩ := ((elemsInv_succ_iff T 4 D 3 0 [] s.elems).1 hinv).elemOk_of_mem hel
    have hsub : ∀ q ∈ (MElems.ops 3).toList gs.elems, KVGood w q := by
      intro q hq
      apply hkv
      exact List.mem_flatMap.2 ⟨_, hel, hq⟩
    intro hside hfit
    have := groupOf_ok E hD gs hkd e6 e7 e4 hfit (localVals_good hsub) (localKeys_valid hsub) hside
    exact ⟨this.1, this.2.1, this.2.2.1, this.2.2.2.trans e3⟩

/-- A data slab of the tree with its extra data (present for the root) meets the goal. -/
theorem data_goal {w : World} (E : Env w) (hT : legalThreshold w.T = true) {D : DigestFn 4}
    (hD : ∀ p, ∀ h ∈ D.dg p, h < 2 ^ 64) (s : MDataSlab 3) (top : Bool) (hd : MDataInv w.T D top s)
    (hni : s.inlined = false) (hkv : ∀ p ∈ MTree.toList 0 s, KVGood w p)
    (hids : ∀ id ∈ AList.keys (MTree.slabs 0 s), id.addr < 2 ^ 64 ∧ id.idx < 2 ^ 64)
    (hnext : validNext s.next) (hrn : top = true → s.next = SlabID.undef)
    (x : Option (Nat × Nat × Nat)) (hx : x.isSome = top) (hxo : E2EM.XOk x) :
    SlabGoal w s.hdr.id (WSlab.map (.data s) x) := by
  intro hside _
  have hkv' : ∀ p ∈ (MElems.ops 4).toList s.elems, KVGood w p := hkv
  refine mdataOf_ok E hT hD s top hd hni (localVals_good hkv') (localKeys_valid hkv') ?_ hnext hrn (mxOf x)
    (by rw [mxOf_isSome, hx]) (validMapExtra_mxOf x hxo) hside
  intro id sz g hel
  apply hids
  rw [mslabs_zero, AList.keys_cons]
  apply List.mem_cons_of_mem
  rw [keys_groupSlabs]
  exact List.mem_filterMap.2 ⟨_, hel, rfl⟩

/-- An index slab of the tree with its extra data (present for the root) meets the goal. -/
theorem index_goal {w : World} (hT : legalThreshold w.T = true) {D : DigestFn 4}
    (hD : ∀ p, ∀ h ∈ D.dg p, h < 2 ^ 64) (d : Nat) (top : Bool) (m : MMetaSlab (MTree 3 d))
    (hinv : MTreeInv w.T D (d + 1) top m)
    (hids : ∀ id ∈ AList.keys (MTree.slabs (d + 1) m), id.addr < 2 ^ 64 ∧ id.idx < 2 ^ 64)
    (x : Option (Nat × Nat × Nat)) (hxo : E2EM.XOk x) :
    SlabGoal w m.hdr.id (WSlab.map (.index m.hdr m.childHdrs m.root) x) := by
  intro _ _
  have hroot := hids m.hdr.id (by rw [mslabs_succ, AList.keys_cons]; exact List.mem_cons_self)
  obtain ⟨h1, h2⟩ := mindex_ok hT hD d top m hinv hroot.1
    (fun c hc => (hids _ (E2EM.child_keys_sub m hc _ (hdr_id_mem_keys d c))).2) (mxOf x) (validMapExtra_mxOf x hxo)
  exact ⟨h1, trivial, h2, rfl⟩

/-- The tree of a standalone map: every slab of `(Cont.map m).treeSlabs` meets the goal.
    Hypotheses: the map invariant; the slab IDs of the tree are pairwise different (`HeapOk.nodup`)
    and 64 bits wide (`HeapOk.addr` / `HeapOk.below` with a 64-bit address and counter); 64-bit
    type info, count, seed, digests; good values and valid keys. -/
theorem map_tree_goal {w : World} (E : Env w) (hT : legalThreshold w.T = true) {D : DigestFn 4}
    (hD : ∀ p, ∀ h ∈ D.dg p, h < 2 ^ 64) (m : OMap 3) (hinv : MapInv w.T D m)
    (hnd : (Cont.map m).treeIds.Nodup)
    (hids : ∀ id ∈ (Cont.map m).treeIds, id.addr < 2 ^ 64 ∧ id.idx < 2 ^ 64)
    (hty : m.ty < 2 ^ 64) (hcnt : m.count < 2 ^ 64) (hseed : m.seed < 2 ^ 64)
    (hval : ∀ v ∈ m.toList.map (·.2), Good w v)
    (hkey : ∀ kv ∈ m.toList, validElem ⟨kv.1.size, .val kv.1.pay⟩) :
    ∀ p ∈ (Cont.map m).treeSlabs, SlabGoal w p.1 p.2 := by
  have hkv : ∀ p ∈ MTree.toList m.d m.root, KVGood w p :=
    fun p hp => ⟨hval p.2 (List.mem_map.2 ⟨p, hp, rfl⟩), hkey p hp⟩
  rw [Cont.treeIds_map] at hnd hids
  have hnx : ∀ s ∈ MTree.leaves m.d m.root, validNext s.next := by
    apply E2EM.mchain_nexts _ hinv.chain
    intro s hs
    exact hids _ (E2EM.mleaf_id_mem m.d m.root s hs)
  have hinl : treeInl m.d m.root = false := by
    have := hinv.standalone
    obtain ⟨d, root, ty, cnt, seed⟩ := m
    rw [← isInlined_eq d root ty cnt seed]; exact this
  -- slab by slab (`E2EM.msubtree_slabs`); only a root leaf must be shown to have no sibling
  obtain ⟨g1, g2⟩ := E2EM.msubtree_slabs (G := fun id v x => SlabGoal w id (WSlab.map v x)) (KV := KVGood w)
    (P := fun _ => True) (R := fun top s => top = true → s.next = SlabID.undef) (fun _ h => nomatch h)
    (fun top s x hd hni hx hxo hkv hids hnx _ hrn =>
      ⟨data_goal E hT hD s top hd hni hkv hids hnx hrn x hx hxo, groups_goal E hD s hd.elems_inv hkv⟩)
    (fun top m' x hinv hids _ hxo => index_goal hT hD _ top m' hinv hids x hxo)
    m.d true m.root (some (m.ty, m.count, m.seed)) hinv.tree hinl rfl ⟨hty, hcnt, hseed⟩ hkv hids hnx
    (fun _ _ => trivial) (fun s hs _ => by have := hinv.chain; rw [hs] at this; exact this)
  intro p hp
  simp only [Cont.treeSlabs] at hp
  obtain ⟨q, hq, rfl⟩ := List.mem_map.1 hp
  simp only
  have hrid : m.rootID = (MTree.hdr m.d m.root).id := rfl
  rw [mslabs_eq] at hq hnd
  rw [AList.keys_cons] at hnd
  rcases List.mem_cons.1 hq with rfl | hsub
  · rw [if_pos hrid.symm]
    exact g1
  · have hne : ¬ q.1 = m.rootID := by
      intro he
      have hmem := mem_keys_of_mem hsub
      rw [he, hrid] at hmem
      exact (List.nodup_cons.1 hnd).1 hmem
    rw [if_neg hne]
    exact g2 q hsub

/-- the same for the slabs the standalone map owns in storage (`Cont.slabs` = its whole tree) -/
theorem map_slabs_goal {w : World} (E : Env w) (hT : legalThreshold w.T = true) {D : DigestFn 4}
    (hD : ∀ p, ∀ h ∈ D.dg p, h < 2 ^ 64) (m : OMap 3) (hinv : MapInv w.T D m)
    (hnd : (Cont.map m).treeIds.Nodup)
    (hids : ∀ id ∈ (Cont.map m).treeIds, id.addr < 2 ^ 64 ∧ id.idx < 2 ^ 64)
    (hty : m.ty < 2 ^ 64) (hcnt : m.count < 2 ^ 64) (hseed : m.seed < 2 ^ 64)
    (hval : ∀ v ∈ m.toList.map (·.2), Good w v)
    (hkey : ∀ kv ∈ m.toList, validElem ⟨kv.1.size, .val kv.1.pay⟩) :
    ∀ p ∈ (Cont.map m).slabs, SlabGoal w p.1 p.2 := by
  have hst : (Cont.map m).isInlined = false := hinv.standalone
  rw [Cont.slabs_of_standalone hst]
  exact map_tree_goal E hT hD m hinv hnd hids hty hcnt hseed hval hkey

/-- The slabs an inlined map owns (its external collision-group slabs; the root slab is embedded in
    the slab of the parent) meet the goal. -/
theorem mapInl_goal {w : World} (E : Env w) {D : DigestFn 4} (hD : ∀ p, ∀ h ∈ D.dg p, h < 2 ^ 64)
    (m : OMap 3) (ctr : Nat) (hinv : MapInvInl w.T D m ctr)
    (hnd : (Cont.map m).treeIds.Nodup)
    (hval : ∀ v ∈ m.toList.map (·.2), Good w v)
    (hkey : ∀ kv ∈ m.toList, validElem ⟨kv.1.size, .val kv.1.pay⟩) :
    ∀ p ∈ (Cont.map m).slabs, SlabGoal w p.1 p.2 := by
  obtain ⟨s, ty, cnt, seed, rfl, _, hi, _, hel, _⟩ := hinv
  have hkv : ∀ p ∈ HkeyElems.toList (MElems.ops 3) s.elems, KVGood w p :=
    fun p hp => ⟨hval p.2 (List.mem_map.2 ⟨p, hp, rfl⟩), hkey p hp⟩
  rw [Cont.treeIds_map] at hnd
  have hnd' : (AList.keys (MTree.slabs 0 s)).Nodup := hnd
  rw [mslabs_zero, AList.keys_cons] at hnd'
  have hnotin := (List.nodup_cons.1 hnd').1
  have hinl : (Cont.map ⟨0, s, ty, cnt, seed⟩).isInlined = true := hi
  intro p hp
  rw [Cont.slabs_of_inlined hinl] at hp
  have hts : (Cont.map ⟨0, s, ty, cnt, seed⟩).treeSlabs.tail = s.groupSlabs.map (fun p =>
      (p.1, WSlab.map p.2 (if p.1 = s.hdr.id then some (ty, cnt, seed) else none))) := by
    simp only [Cont.treeSlabs]
    rw [show MTree.slabs 0 s = (s.hdr.id, MSlabView.data s) :: s.groupSlabs from rfl]
    rfl
  rw [hts] at hp
  obtain ⟨q, hq, rfl⟩ := List.mem_map.1 hp
  have hne : ¬ q.1 = s.hdr.id := by
    intro he
    have hmem := mem_keys_of_mem hq
    rw [he] at hmem
    exact hnotin hmem
  simp only [if_neg hne]
  exact groups_goal E hD s hel hkv q hq

end Atree.WC

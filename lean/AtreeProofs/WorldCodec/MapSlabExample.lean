import AtreeProofs.WorldCodec.MapSlab
import AtreeProofs.Map.Example
/-
  Non-vacuity of `AtreeProofs/WorldCodec/MapSlab.lean`: a concrete world (T = 256, four digest
  levels) with a standalone map `Mid` of three keys — two of them collide at the first digest level
  and live in an external collision-group slab `Gid`; the value of the third is an array `Aid`
  inlined in the map's root slab behind one wrapper — meets every hypothesis of `map_tree_goal`
  (and so of `mdataOf_ok`, `groupOf_ok`); the side conditions `Side` / `GroupFit` of its two slabs
  hold, so both translated slabs meet `OKAll`.
-/
namespace Atree.WC.MapExample
open Atree Atree.Codec Gen World

def T0 : Nat := 256

/-- digests: the decimal digits of the payload (first digest cut to 64 bits) -/
def D4 : DigestFn 4 := ⟨fun p => [p.2 / 10 % 2 ^ 64, p.2 % 10, p.2 % 10, p.2 % 10], fun _ => rfl⟩

theorem D4_lt : ∀ p, ∀ h ∈ D4.dg p, h < 2 ^ 64 := fun p =>
  have h10 := mod_lt_pow64 p.2 (k := 10) (by decide) (by decide)
  List.forall_mem_cons.2 ⟨Nat.mod_lt _ (by decide), List.forall_mem_cons.2 ⟨h10, List.forall_mem_cons.2 ⟨h10,
    List.forall_mem_singleton.2 h10⟩⟩⟩

def k (n : Nat) : MKey := ⟨9, n, D4.dg (9, n)⟩
def pv (n : Nat) : Elem := ⟨10, .val n⟩

def Mid : SlabID := ⟨1, 1⟩
def Gid : SlabID := ⟨1, 2⟩
def Aid : SlabID := ⟨1, 3⟩

/-- the inlined array: one plain value -/
def arrSlab : DataSlab :=
  { hdr := ⟨Aid, inlinedArrayDataSlabPrefixSize + 10, 1⟩, next := SlabID.undef, elems := [pv 4], root := true,
    inlined := true }
def inlArr : Arr := ⟨0, arrSlab, 7⟩

/-- the element of the map that refers to it: the embedded root slab behind one wrapper -/
def cv : Elem := ⟨inlinedArrayDataSlabPrefixSize + 10 + 2, .ref Aid⟩

def x11 : SElem := ⟨k 11, pv 1, 20⟩
def x12 : SElem := ⟨k 12, pv 3, 20⟩
def x25 : SElem := ⟨k 25, cv, 39⟩

def grpE : HkeyElems (MElems 2) := { hkeys := [1, 2], elems := [.single x11, .single x12], size := 64, level := 1 }
def gslab : GroupSlab (MElems 3) := ⟨⟨Gid, mapDataSlabPrefixSize + 64, 1⟩, grpE⟩

def rootE : HkeyElems (MElems 3) :=
  { hkeys := [1, 2],
    elems := [.ext Gid (externalCollisionGroupPrefixSize + slabIDStorableSize) gslab, .single x25],
    size := hkeyElementsPrefixSize +
      ((externalCollisionGroupPrefixSize + slabIDStorableSize + digestSize) + (39 + digestSize)),
    level := 0 }

def rootSlab : MDataSlab 3 :=
  { hdr := ⟨Mid, mapRootDataSlabPrefixSize + rootE.size, 1⟩, next := SlabID.undef, elems := rootE, root := true,
    inlined := false }

def m0 : OMap 3 := ⟨0, rootSlab, 5, 3, 0⟩

/-- an INLINED map (`Nid`) whose two keys live in an external collision-group slab (`Hid`) -/
def Nid : SlabID := ⟨1, 4⟩
def Hid : SlabID := ⟨1, 5⟩
def hslab : GroupSlab (MElems 3) := ⟨⟨Hid, mapDataSlabPrefixSize + 64, 1⟩, grpE⟩
def inlE : HkeyElems (MElems 3) :=
  { hkeys := [1], elems := [.ext Hid (externalCollisionGroupPrefixSize + slabIDStorableSize) hslab],
    size := hkeyElementsPrefixSize + (externalCollisionGroupPrefixSize + slabIDStorableSize + digestSize),
    level := 0 }
def inlSlab : MDataSlab 3 :=
  { hdr := ⟨Nid, inlinedMapDataSlabPrefixSize + inlE.size, 1⟩, next := SlabID.undef, elems := inlE, root := true,
    inlined := true }
def m1 : OMap 3 := ⟨0, inlSlab, 6, 2, 0⟩

def w0 : World := { T := T0, addr := 1, conts := [(Mid, .map m0), (Aid, .arr inlArr), (Nid, .map m1)] }

theorem selem_ok (n : Nat) (v : Elem) (sz : Nat) (hv1 : 1 ≤ v.size) (hv2 : v.size ≤ maxInlineMapValue 256 9)
    (hsz : sz = singleElementPrefixSize + 9 + v.size) : SElemOk T0 4 D4 ⟨k n, v, sz⟩ :=
  ⟨⟨rfl, (by decide : 1 ≤ 9), (by decide : 9 ≤ maxInlineMapKey 256)⟩, hv1, hv2, hsz⟩

theorem grp_inv : ElemsInv T0 4 D4 3 1 [1] grpE :=
  elemsInv_of_pairs rfl rfl (by decide) (by decide)
    ⟨⟨selem_ok 11 (pv 1) 20 (by decide) (by decide) (by decide), by decide⟩,
      ⟨selem_ok 12 (pv 3) 20 (by decide) (by decide) (by decide), by decide⟩, trivial⟩

theorem root_inv : ElemsInv T0 4 D4 4 0 [] rootE :=
  elemsInv_of_pairs rfl rfl (by decide) (by decide)
    ⟨⟨rfl, rfl, rfl, by decide, by decide, grp_inv, by decide, by decide⟩,
      ⟨selem_ok 25 cv 39 (by decide) (by decide) (by decide), by decide⟩, trivial⟩

theorem inl_inv : ElemsInv T0 4 D4 4 0 [] inlE :=
  elemsInv_of_pairs rfl rfl (by decide) (by decide)
    ⟨⟨rfl, rfl, rfl, by decide, by decide, grp_inv, by decide, by decide⟩, trivial⟩

theorem data_inv : MDataInv T0 D4 true rootSlab where
  elems_inv := root_inv
  size_eq := by decide
  first_eq := by decide
  root_eq := rfl
  inl_root := fun _ => rfl
  le_max := by decide
  ge_min := fun h => by cases h
  nonempty := fun h => by cases h
  elem_le := by decide

theorem map_inv : MapInv w0.T D4 m0 where
  tree := (mtreeInv_zero_iff T0 D4 true rootSlab).mpr data_inv
  chain := rfl
  count_eq := by decide
  distinct := by
    unfold KeysDistinct
    rw [show m0.toList = [(k 11, pv 1), (k 12, pv 3), (k 25, cv)] from rfl]
    decide
  standalone := rfl

theorem cont_cases {x : SlabID} {c : Cont} (h : w0.cont? x = some c) :
    (x = Mid ∧ c = .map m0) ∨ (x = Aid ∧ c = .arr inlArr) ∨ (x = Nid ∧ c = .map m1) := by
  simp only [World.cont?, w0, AList.find?] at h
  split at h
  · rename_i hx
    exact Or.inl ⟨hx.symm, by cases h; rfl⟩
  · split at h
    · rename_i hx
      exact Or.inr (Or.inl ⟨hx.symm, by cases h; rfl⟩)
    · split at h
      · rename_i hx
        exact Or.inr (Or.inr ⟨hx.symm, by cases h; rfl⟩)
      · cases h

theorem good_plain (n : Nat) (hn : n < 256) : Good w0 (pv n) := by
  refine ⟨⟨(by decide : 1 ≤ 10), fun x c h => by cases h⟩, fun _ => ?_⟩
  simp only [validElem, pv]
  exact ⟨by decide, by decide, by decide, Nat.lt_of_lt_of_le hn (by decide)⟩

theorem good_cv : Good w0 cv := by
  refine ⟨⟨by decide, ?_⟩, ?_⟩
  · intro x c hx hc
    rcases cont_cases hc with ⟨rfl, _⟩ | ⟨_, rfl⟩ | ⟨rfl, _⟩
    · cases hx
    · exact ⟨1, rfl⟩
    · cases hx
  · intro h
    have : w0.cont? Aid = none := h Aid rfl
    exact absurd this (by decide)

theorem env : Env w0 where
  live := by
    intro x c h
    rcases cont_cases h with ⟨rfl, _⟩ | ⟨rfl, _⟩ | ⟨rfl, _⟩ <;> exact ⟨by decide, by decide⟩
  arrInl := by
    intro x a h _
    rcases cont_cases h with ⟨_, hc⟩ | ⟨_, hc⟩ | ⟨_, hc⟩
    · cases hc
    · cases hc
      refine ⟨arrSlab, 7, rfl, rfl, ?_, by decide, by decide, by decide⟩
      intro e he
      have : e = pv 4 := by simpa [arrSlab] using he
      subst this
      exact good_plain 4 (by decide)
    · cases hc
  mapInl := by
    intro x m h hi
    rcases cont_cases h with ⟨_, hc⟩ | ⟨_, hc⟩ | ⟨_, hc⟩
    · cases hc; cases hi
    · cases hc
    · cases hc
      refine ⟨inlSlab, 6, 2, 0, rfl, rfl, ?_, by decide, by decide, by decide, by decide, by decide, ?_⟩
      · intro v hv
        simp [inlSlab, inlE, C10Persist.localVals] at hv
      · intro re V hV hre
        exact melsOf_top (T := T0) (r := 3) (D := D4) (by decide) D4_lt
          ⟨fun v hv => (hre v hv).1, fun v hv => (hre v hv).2.1, fun v hv => (hre v hv).2.2⟩ inlE inl_inv
          (by decide) hV (by decide) (by
            intro id sz g hm
            simp only [inlE, List.mem_cons, MElemF.ext.injEq, List.not_mem_nil, or_false] at hm
            obtain ⟨rfl, _, _⟩ := hm
            decide)

theorem toList_eq : m0.toList = [(k 11, pv 1), (k 12, pv 3), (k 25, cv)] := by rfl

/-- NON-VACUITY of `map_tree_goal`: every hypothesis holds of the map `m0` of the world `w0` -/
theorem tree_goal : ∀ p ∈ (Cont.map m0).treeSlabs, SlabGoal w0 p.1 p.2 := by
  refine map_tree_goal env (by decide) D4_lt m0 map_inv (by decide) (by decide) (by decide) (by decide) (by decide)
    ?_ ?_
  · intro v hv
    rw [toList_eq] at hv
    simp only [List.map_cons, List.map_nil, List.mem_cons, List.not_mem_nil, or_false] at hv
    rcases hv with rfl | rfl | rfl
    · exact good_plain 1 (by decide)
    · exact good_plain 3 (by decide)
    · exact good_cv
  · intro kv hkv
    rw [toList_eq] at hkv
    simp only [List.mem_cons, List.not_mem_nil, or_false] at hkv
    rcases hkv with rfl | rfl | rfl <;> decide

theorem treeSlabs_eq : (Cont.map m0).treeSlabs =
    [(Mid, WSlab.map (.data rootSlab) (some (5, 3, 0))), (Gid, WSlab.map (.group gslab) none)] := by rfl

/-- the decidable side conditions of both slabs hold -/
theorem side_root : Side (WSlab.toCodec w0.stor (WSlab.map (.data rootSlab) (some (5, 3, 0)))) := by decide
theorem side_grp : Side (WSlab.toCodec w0.stor (WSlab.map (.group gslab) none)) := by decide
theorem fit_grp : (WSlab.map (.group gslab) none).GroupFit := by decide

/-- the value of key 25 really is rendered as an inlined array behind one wrapper -/
theorem stor_cv : w0.stor cv = .some (.arr (.plain 7) 3 [.val 10 4]) := by rfl

/-- so both translated slabs meet the predicates of the codec theorems, with the sizes of the model -/
theorem both_ok :
    (OKAll (WSlab.toCodec w0.stor (WSlab.map (.data rootSlab) (some (5, 3, 0)))) ∧
      (WSlab.toCodec w0.stor (WSlab.map (.data rootSlab) (some (5, 3, 0)))).byteSize = 86) ∧
    (OKAll (WSlab.toCodec w0.stor (WSlab.map (.group gslab) none)) ∧
      (WSlab.toCodec w0.stor (WSlab.map (.group gslab) none)).byteSize = 82) := by
  have h1 := tree_goal (Mid, _) (by rw [treeSlabs_eq]; exact List.mem_cons_self) side_root trivial
  have h2 := tree_goal (Gid, _) (by rw [treeSlabs_eq]; exact List.mem_cons_of_mem _ List.mem_cons_self) side_grp fit_grp
  exact ⟨⟨h1.1, h1.2.2.1.trans (by decide)⟩, ⟨h2.1, h2.2.2.1.trans (by decide)⟩⟩

theorem mapInl_inv : MapInvInl w0.T D4 m1 5 :=
  ⟨inlSlab, 6, 2, 0, rfl, rfl, rfl, rfl, inl_inv, rfl, by decide, by decide, by decide⟩

/-- NON-VACUITY of `mapInl_goal`: the inlined map `m1` of `w0` owns one slab (the external
    collision group `Hid`), which meets the goal -/
theorem inl_goal : ∀ p ∈ (Cont.map m1).slabs, SlabGoal w0 p.1 p.2 := by
  refine mapInl_goal env D4_lt m1 5 mapInl_inv (by decide) ?_ ?_
  · intro v hv
    rw [show m1.toList = [(k 11, pv 1), (k 12, pv 3)] from rfl] at hv
    simp only [List.map_cons, List.map_nil, List.mem_cons, List.not_mem_nil, or_false] at hv
    rcases hv with rfl | rfl
    · exact good_plain 1 (by decide)
    · exact good_plain 3 (by decide)
  · intro kv hkv
    rw [show m1.toList = [(k 11, pv 1), (k 12, pv 3)] from rfl] at hkv
    simp only [List.mem_cons, List.not_mem_nil, or_false] at hkv
    rcases hkv with rfl | rfl <;> decide

theorem inl_slabs_eq : (Cont.map m1).slabs = [(Hid, WSlab.map (.group hslab) none)] := by rfl

theorem inl_ok : OKAll (WSlab.toCodec w0.stor (WSlab.map (.group hslab) none)) :=
  (inl_goal (Hid, _) (by rw [inl_slabs_eq]; exact List.mem_cons_self) (by decide) (by decide)).1

end Atree.WC.MapExample

/-! ### an index slab: the root of the multi-slab example map of C02 / C05 (`AtreeProofs/Map/Example.lean`,
    two digest levels, obtained by running the model) -/
namespace Atree.WC.IndexExample
open Atree Atree.Codec Gen Atree.MapExample

def root1 : MMetaSlab (MTree 1 0) :=
  match run.1 with
  | ⟨1, r, _, _, _⟩ => r
  | _ => ⟨default, [], [], false⟩

/-- the one evaluation of `run` (by the kernel) that the facts below rest on -/
theorem root1_facts : run.1.d = 1 ∧ root1.hdr.id.addr < 2 ^ 64 ∧
    (∀ c ∈ root1.children, (MTree.hdr 0 c).id.idx < 2 ^ 64) ∧ root1.children.length = 2 := by
  decide +kernel

theorem tree_of_depth1 {T : Nat} {D : DigestFn 2} (m : OMap 1) (r : MMetaSlab (MTree 1 0))
    (hr : r = match m with
      | ⟨1, r, _, _, _⟩ => r
      | _ => ⟨default, [], [], false⟩)
    (hd : m.d = 1) (h : MapInv T D m) : MTreeInv T D 1 true r := by
  obtain ⟨d, t, _, _, _⟩ := m
  cases hd
  subst hr
  exact h.tree

theorem root1_inv : MTreeInv 256 D2 1 true root1 :=
  tree_of_depth1 run.1 root1 root1.eq_1 root1_facts.1 run_good.inv

/-- NON-VACUITY of `mindex_ok`: the root index slab of the example map, with the map's extra data -/
theorem index_ok :
    MapMetaOK { id := root1.hdr.id, extra := some ⟨.plain 0, 18, 1⟩, childHdrs := root1.childHdrs.map mchildHdrOf } ∧
      (MapMeta.mk root1.hdr.id (some ⟨.plain 0, 18, 1⟩) (root1.childHdrs.map mchildHdrOf)).size = root1.hdr.size :=
  mindex_ok legal256 D2_lt 0 true root1 root1_inv root1_facts.2.1 root1_facts.2.2.1 _ (by
    intro y hy
    cases hy
    exact ⟨by decide, by decide, by decide⟩)

theorem index_children : root1.children.length = 2 := root1_facts.2.2.2

end Atree.WC.IndexExample

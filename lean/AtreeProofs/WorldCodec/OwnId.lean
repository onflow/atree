import AtreeProofs.WorldCodec.Link
import AtreeProofs.WorldCodec.Env
/-
  A stored slab carries the ID it is stored under — for every heap slab of a world that satisfies
  the invariant, without any side condition (the registers written by a commit are filed under the
  ID their bytes were encoded for).
-/
namespace Atree.WC
open Atree Atree.Codec Gen World

/-- the ID in the slab's own header -/
def _root_.Atree.WSlab.ownId : WSlab → SlabID
  | .arr (.data s) _ => s.hdr.id
  | .arr (.index h _ _ _) _ => h.id
  | .map (.data s) _ => s.hdr.id
  | .map (.index h _ _) _ => h.id
  | .map (.group g) _ => g.hdr.id

theorem toCodec_id (re : Elem → Stor) (ws : WSlab) : (ws.toCodec re).id = ws.ownId := by
  cases ws with
  | arr s ty =>
    cases s with
    | data s =>
      simp only [WSlab.toCodec, dataSlabOf, WSlab.ownId]
      split <;> rfl
    | index h chs cs root => rfl
  | map s x =>
    cases s with
    | data s => rfl
    | index h chs root => rfl
    | group g => rfl

def aOwn : ASlab → SlabID
  | .data s => s.hdr.id
  | .index h _ _ _ => h.id

theorem atree_slabs_own : ∀ (d : Nat) (t : ATree d), ∀ p ∈ ATree.slabs d t, aOwn p.2 = p.1
  | 0, (s : DataSlab), p, hp => by
    simp only [ATree.slabs, List.mem_singleton] at hp
    subst hp; rfl
  | d + 1, (m : MetaSlab (ATree d)), p, hp => by
    simp only [ATree.slabs, List.mem_cons, List.mem_flatMap] at hp
    rcases hp with rfl | ⟨c, _, hc⟩
    · rfl
    · exact atree_slabs_own d c p hc

def mOwn {r : Nat} : MSlabView r → SlabID
  | .data s => s.hdr.id
  | .index h _ _ => h.id
  | .group g => g.hdr.id

/-- the group slabs of a data slab whose elements satisfy the invariant carry the IDs they are referred to by -/
theorem groupSlabs_own {T L r : Nat} {D : DigestFn L} {s : MDataSlab r} {path : List Nat}
    (h : ElemsInv T L D (r + 1) 0 path s.elems) : ∀ p ∈ s.groupSlabs, mOwn p.2 = p.1 := by
  intro p hp
  simp only [MDataSlab.groupSlabs, List.mem_filterMap] at hp
  obtain ⟨el, hel, hq⟩ := hp
  cases el with
  | single x => cases hq
  | inl g => cases hq
  | ext id sz g =>
    simp only [Option.some.injEq] at hq
    subst hq
    obtain ⟨hk, this⟩ := ((elemsInv_succ_iff T L D r 0 path s.elems).1 h).elemOk_of_mem hel
    exact this.ext_id

theorem mtree_slabs_own {T r : Nat} {D : DigestFn (r + 1)} : ∀ (d : Nat) (top : Bool) (t : MTree r d),
    MTreeInv T D d top t → ∀ p ∈ MTree.slabs d t, mOwn p.2 = p.1
  | 0, top, (s : MDataSlab r), h, p, hp => by
    simp only [MTreeInv] at h
    simp only [MTree.slabs, List.mem_cons] at hp
    rcases hp with rfl | hp
    · rfl
    · exact groupSlabs_own h.elems_inv p hp
  | d + 1, top, (m : MMetaSlab (MTree r d)), h, p, hp => by
    simp only [MTree.slabs, List.mem_cons, List.mem_flatMap] at hp
    rcases hp with rfl | ⟨c, hc, hpc⟩
    · rfl
    · exact mtree_slabs_own d false c (E2EM.mtreeInv_child h hc) p hpc

/-- Every heap slab carries the ID it is stored under -/
theorem slabAt_ownId {D : SlabID → DigestFn 4} {w : World} {ctr : Nat} (H : WorldOk' D w ctr)
    {id : SlabID} {ws : WSlab} (hs : w.slabAt id = some ws) : ws.ownId = id := by
  obtain ⟨rank, H0⟩ := H
  have hmem : (id, ws) ∈ w.heapOf := E2E.mem_of_find?_some hs
  obtain ⟨x, c, hx, hp⟩ := (mem_heapOf_iff w id ws).1 hmem
  have hp' := Cont.mem_slabs_treeSlabs c (id, ws) hp
  cases c with
  | arr a =>
    simp only [Cont.treeSlabs, List.mem_map] at hp'
    obtain ⟨q, hq, heq⟩ := hp'
    have := atree_slabs_own a.d a.root q hq
    cases heq
    cases hq2 : q.2 <;> simp only [hq2, aOwn] at this <;> simpa [WSlab.ownId, hq2] using this
  | map m =>
    have hok : MapOk w.T (D x) m ctr := H0.conts x _ hx
    simp only [Cont.treeSlabs, List.mem_map] at hp'
    obtain ⟨q, hq, heq⟩ := hp'
    have hown : mOwn q.2 = q.1 := by
      cases hi : m.isInlined with
      | false => exact mtree_slabs_own m.d true m.root (hok.1 hi).1.tree q hq
      | true =>
        obtain ⟨s, ty, cnt, seed, rfl, _, _, _, hinv, _⟩ := hok.2 hi
        have hq' : q ∈ MTree.slabs 0 s := hq
        simp only [MTree.slabs, List.mem_cons] at hq'
        rcases hq' with rfl | hq'
        · rfl
        · exact groupSlabs_own hinv q hq'
    cases heq
    cases hq2 : q.2 <;> simp only [hq2, mOwn] at hown <;> simpa [WSlab.ownId, hq2] using hown

/-- … hence so does its translation -/
theorem toCodec_own {D : SlabID → DigestFn 4} {w : World} {ctr : Nat} (H : WorldOk' D w ctr)
    {id : SlabID} {sl : Slab} (hs : w.toCodec id = some sl) : sl.id = id := by
  rw [toCodec_eq] at hs
  cases h : w.slabAt id with
  | none => rw [h] at hs; cases hs
  | some ws =>
    rw [h] at hs
    simp only [Option.map_some, Option.some.injEq] at hs
    subst hs
    rw [toCodec_id, slabAt_ownId H h]

end Atree.WC

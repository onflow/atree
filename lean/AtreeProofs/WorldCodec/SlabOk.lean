import AtreeProofs.Codec.InlSlab
import AtreeProofs.Codec.RoundTripW
/-
  One predicate for every slab kind the translation `World.toCodec` produces, and what it implies:
  round trip (C07) and the length law (C06).

  `OKAll sl` is, per kind, the predicate the codec theorems take: `SlabOK` (flat array data
  slabs, array index slabs, large-value slabs of plain values), `ArrDataOKI` / `ArrDataOKW` (array
  data slabs with inlined children / with wrapped references only), `MapDataOKI` (map data slabs
  and external collision-group slabs, inlined children allowed), `MapMetaOK` (map index slabs).
  Type infos of the World model are plain, so no inlined map is ever written in the compact form:
  the round trip is exact (no `normSt`) and the length law is an equality.
-/
namespace Atree.WC
open Atree Atree.Codec Gen

def OKAll : Slab → Prop
  | .data ty s => SlabOK (.data ty s)
  | .index ty m => SlabOK (.index ty m)
  | .storable id e => SlabOK (.storable id e)
  | .adata a => ArrDataOKI a ∨ ArrDataOKW a
  | .mdata m => MapDataOKI m
  | .mindex m => MapMetaOK m
  | .storableG _ _ => False

/-- a root slab has no right sibling (true in every tree) -/
def RootNoNext : Slab → Prop
  | .data _ d => d.root = true → d.next = SlabID.undef
  | .adata a => a.ty.isSome = true → a.next = SlabID.undef
  | .mdata m => m.extra.isSome = true → m.next = SlabID.undef
  | _ => True

/-- the 16 bytes of an undefined sibling link that a non-root data slab does not write -/
def omittedNext : Slab → Nat
  | .data _ d => if d.root = false ∧ d.next = SlabID.undef then 16 else 0
  | .adata a => if a.ty.isNone ∧ a.next = SlabID.undef then 16 else 0
  | .mdata m => if m.extra.isNone ∧ m.next = SlabID.undef then 16 else 0
  | _ => 0

/-- The real assumptions about one translated slab (decidable; DESIGN.md 13.8, rows a4-A1 / a4-A2): the CBOR nesting
    of the register stays within the validator's limit (`maxNestedLevels` = 32, the default of
    `cbor.DecOptions`), and the shared inlined-extra-data section has at most 256 entries (the index
    is one byte; Go's encoder refuses more) -/
def Side : Slab → Prop
  | .adata a => vneedISts a.elems + 1 ≤ maxNestedLevels ∧ (encSts a.elems []).2.length ≤ 256
  | .mdata m => m.els.vneedI ≤ maxNestedLevels ∧ (encMEls m.els []).2.length ≤ 256
  | _ => True

instance (sl : Slab) : Decidable (Side sl) := by
  cases sl <;> (simp only [Side]; infer_instance)

/-- C07 for every slab kind of a world: `DecodeSlab (EncodeSlab sl) = sl`, exactly -/
theorem decode_encode_all (sl : Slab) (ok : OKAll sl) (n : Nat) :
    ∃ k, decodeSlab sl.id (encodeSlab sl) n = .ok sl k := by
  cases sl with
  | data ty s => exact ⟨_, decodeSlab_encodeSlab (.data ty s) ok n⟩
  | index ty m => exact ⟨_, decodeSlab_encodeSlab (.index ty m) ok n⟩
  | storable id e => exact ⟨_, decodeSlab_encodeSlab (.storable id e) ok n⟩
  | adata a =>
    rcases ok with ok | ok
    · have := decodeSlab_encodeArrDataI a ok [] n
      simp only [List.append_nil, ne_eq, not_true_eq_false, if_false] at this
      exact ⟨_, this⟩
    · have := decodeSlab_encodeArrDataW a ok [] n
      simp only [List.append_nil, ne_eq, not_true_eq_false, if_false] at this
      exact ⟨_, this⟩
  | mdata m =>
    have := decodeSlab_encodeMapDataI m ok [] n
    simp only [List.append_nil] at this
    exact ⟨_, this⟩
  | mindex m =>
    have := decodeSlab_encodeMapMeta m ok [] n
    simp only [List.append_nil, ne_eq, not_true_eq_false, if_false] at this
    exact ⟨_, this⟩
  | storableG id s => exact ok.elim

/-- C06 for every slab kind of a world: written bytes (+ the omitted sibling link) = reported size +
    extra-data sections, as an EQUALITY -/
theorem enc_len_all (sl : Slab) (ok : OKAll sl) (hroot : RootNoNext sl) :
    (encodeSlab sl).length + omittedNext sl = sl.byteSize + sl.extraDataLen := by
  cases sl with
  | data ty d =>
    obtain ⟨hok, _⟩ := ok
    simp only [encodeSlab, Slab.byteSize, Slab.extraDataLen, omittedNext]
    exact Codec.enc_len_data _ d hok.size hok.notInlined hroot hok.elems
  | index ty m =>
    obtain ⟨hok, _⟩ := ok
    simp only [encodeSlab, Slab.byteSize, Slab.extraDataLen, omittedNext, Nat.add_zero]
    exact Codec.enc_len_meta _ m hok.size
  | storable id e =>
    simp only [encodeSlab, Slab.byteSize, Slab.extraDataLen, omittedNext, Nat.add_zero]
    exact Codec.enc_len_storable e ok
  | adata a =>
    have hrt : rtiSts a.elems ∧ noCompactSts a.elems := by
      rcases ok with ok | ok
      · exact ⟨ok.rt, ok.noCompact⟩
      · exact ⟨ok.rt, noCompactSts_of_noInl _ ok.noInl⟩
    have := Codec.enc_len_adata a (okSts_of_RTI _ hrt.1) hrt.2 hroot
    simp only [encodeSlab, Slab.byteSize, Slab.extraDataLen, omittedNext]
    cases hx : a.ty <;> simp only [hx] at this ⊢ <;> omega
  | mdata m =>
    have := Codec.enc_len_mdata m (MEls.OK_of_RTI _ ok.rt) ok.noCompact hroot
    simp only [encodeSlab, Slab.byteSize, Slab.extraDataLen, omittedNext]
    simp only [mapExtraLen] at this
    cases hx : m.extra <;> simp only [hx] at this ⊢ <;> omega
  | mindex m =>
    have := Codec.enc_len_mindex m
    simp only [encodeSlab, Slab.byteSize, Slab.extraDataLen, omittedNext, Nat.add_zero]
    simp only [mapExtraLen] at this
    cases hx : m.extra <;> simp only [hx] at this ⊢ <;> omega
  | storableG id s => exact ok.elim

end Atree.WC

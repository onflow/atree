import AtreeModel.Codec.World
import AtreeProofs.Codec.InlDefs
import AtreeProofs.Codec.EncLemmasG
import AtreeProofs.WorldInv
import AtreeProofs.Props.C10Persist
/-
  The storable of one stored element (`World.storOf`) meets the codec predicates.

  `Env w`: what the induction needs to know about the world (all of it follows from the global
  invariant `WorldOk'` and the decidable side conditions `LeafOk`, see `AtreeProofs/WorldCodec/Env.lean`):
  every inlined container is one well-formed root slab whose size field is the sum of its parts,
  whose elements are in sync with the containers they refer to (`Synced`: this is `SlotSync`) and
  whose leaves (plain values, references to large-value slabs) are values of the harness.

  `storOf_ok`: for a synced, leaf-valid element `e` and fuel ≥ `e.size`:
      (storOf fuel w e).size = e.size            -- the computed size of the embedded form IS the size the parent accounts for
      (storOf fuel w e).RTI                      -- the predicate of the inlined round trip (C07)
      (storOf fuel w e).noCompact                -- type infos of the World model are plain: never the compact form
  by induction on the fuel: an inlined child is strictly smaller than the element that embeds it.
-/
namespace Atree.WC
open Atree Atree.Codec Gen World

theorem size_wrapN (n : Nat) (s : Stor) : (wrapN n s).size = 2 * n + s.size := by
  induction n with
  | zero => simp [wrapN]
  | succ n ih => simp only [wrapN, Stor.size, someOverhead, ih]; omega

theorem rti_wrapN (n : Nat) (s : Stor) (h : s.RTI) : (wrapN n s).RTI := by
  induction n with
  | zero => exact h
  | succ n ih => simp only [wrapN, Stor.RTI]; exact ih

theorem noCompact_wrapN (n : Nat) (s : Stor) (h : s.noCompact) : (wrapN n s).noCompact := by
  induction n with
  | zero => exact h
  | succ n ih => simp only [wrapN, Stor.noCompact]; exact ih

theorem vneedI_wrapN (n : Nat) (s : Stor) : (wrapN n s).vneedI = s.vneedI + n := by
  induction n with
  | zero => rfl
  | succ n ih => simp only [wrapN, Stor.vneedI, ih]; omega

theorem sizeSts_map (re : Elem → Stor) (l : List Elem) (h : ∀ e ∈ l, (re e).size = e.size) :
    sizeSts (l.map re) = sumSizes l :=
  list_of_forall (P := fun l => sizeSts (l.map re) = sumSizes l) rfl
    (fun e l h1 h2 => by simp only [List.map_cons, sizeSts, h1, h2, sumSizes, List.sum_cons]) h

theorem rtiSts_map (re : Elem → Stor) (l : List Elem) (h : ∀ e ∈ l, (re e).RTI) : rtiSts (l.map re) :=
  list_of_forall (P := rtiSts) trivial (fun _ _ h1 h2 => ⟨h1, h2⟩) (List.forall_mem_map.2 h)

theorem noCompactSts_map (re : Elem → Stor) (l : List Elem) (h : ∀ e ∈ l, (re e).noCompact) :
    noCompactSts (l.map re) :=
  list_of_forall (P := noCompactSts) trivial (fun _ _ h1 h2 => ⟨h1, h2⟩) (List.forall_mem_map.2 h)

/-- the element is in sync with the world: at least one byte, and if it refers to a live container
    its size is that of the container's current form behind some wrappers (`ElemSync` / `SlotSync`) -/
def Synced (w : World) (e : Elem) : Prop :=
  1 ≤ e.size ∧ ∀ x c, e.pay = .ref x → w.cont? x = some c → ∃ wrap, e.size = slotSize c wrap

/-- a stored element that is not a reference to a live container is a value of the harness
    (`hx.ValidTV`) resp. a proper reference to a large-value slab (`validElem`) -/
def LeafValid (w : World) (e : Elem) : Prop :=
  (∀ x, e.pay = .ref x → w.cont? x = none) → validElem e

instance (w : World) (e : Elem) : Decidable (LeafValid w e) := by
  unfold LeafValid
  cases h : e.pay with
  | val p => exact decidable_of_iff (validElem e) ⟨fun hv _ => hv, fun hv => hv (fun x hx => by cases hx)⟩
  | ref x =>
    exact decidable_of_iff (w.cont? x = none → validElem e)
      ⟨fun hv hx => hv (hx x rfl), fun hv hx => hv (fun y hy => by cases hy; exact hx)⟩

/-- what is known about an element of interest -/
def Good (w : World) (e : Elem) : Prop := Synced w e ∧ LeafValid w e

/-- the single root slab of an INLINED ARRAY, as the induction needs it -/
structure InlArr (w : World) (a : Arr) : Prop where
  shape : ∃ (s : DataSlab) (ty : Nat), a = ⟨0, s, ty⟩ ∧
    s.hdr.size = inlinedArrayDataSlabPrefixSize + sumSizes s.elems ∧
    (∀ e ∈ s.elems, Good w e) ∧ s.hdr.id.idx < 2 ^ 64 ∧ ty < 2 ^ 64 ∧ s.hdr.size ≤ 65535

/-- the single root slab of an INLINED MAP.  The last clause: the codec form of its elements meets the
    predicates for every renderer that does on its values (`WC.ReOK`; this is `WC.melsOf_top`,
    `AtreeProofs/WorldCodec/MElsOf.lean`, instantiated in `Env.lean`; kept abstract here so that
    this file does not depend on the map development). -/
structure InlMap (w : World) (m : OMap 3) : Prop where
  shape : ∃ (s : MDataSlab 3) (ty cnt seed : Nat), m = ⟨0, s, ty, cnt, seed⟩ ∧
    s.hdr.size = inlinedMapDataSlabPrefixSize + s.elems.size ∧
    (∀ v ∈ C10Persist.localVals 4 s.elems, Good w v ∧ v.size ≤ s.elems.size) ∧
    s.hdr.id.idx < 2 ^ 64 ∧ ty < 2 ^ 64 ∧ cnt < 2 ^ 64 ∧ seed < 2 ^ 64 ∧ s.hdr.size ≤ 65535 ∧
    (∀ (re : Elem → Stor) (V : Elem → Prop), (∀ v ∈ C10Persist.localVals 4 s.elems, V v) →
      (∀ v, V v → (re v).size = v.size ∧ (re v).RTI ∧ (re v).noCompact) →
      (melsOf re 4 s.elems).size = s.elems.size ∧ (melsOf re 4 s.elems).RTI ∧ (melsOf re 4 s.elems).noCompact)

structure Env (w : World) : Prop where
  live   : ∀ x c, w.cont? x = some c → x.addr < 2 ^ 64 ∧ x.idx < 2 ^ 64
  arrInl : ∀ x a, w.cont? x = some (.arr a) → a.isInlined = true → InlArr w a
  mapInl : ∀ x m, w.cont? x = some (.map m) → m.isInlined = true → InlMap w m

/-- the wrapper depth `storOf` computes from the size of the slot (`(size - root size) / 2`) is the one `slotSize` added -/
theorem wrap_of_slot {n k wrap : Nat} (h : n = k + 2 * wrap) : (n - k) / 2 = wrap := by
  rw [h, Nat.add_sub_cancel_left, Nat.mul_div_cancel_left wrap (by decide)]

theorem noCompact_map_plain (ty cnt seed idx : Nat) (els : MEls) (h : els.noCompact) :
    (Stor.map { ty := .plain ty, count := cnt, seed := seed } idx els).noCompact := by
  cases els with
  | hkey level hkeys es =>
    simp only [Stor.noCompact]
    exact ⟨by simp [compactKeys, TyInfo.isComposite], h⟩
  | single level es => exact h

/-- the four shapes of the storable of a synced element, with the fuel left for the embedded child -/
theorem storOf_succ_cases {w : World} (fuel : Nat) (e : Elem) (hs : Synced w e) :
    (∃ p, e.pay = .val p ∧ storOf (fuel + 1) w e = .val e.size p) ∨
    (∃ x, e.pay = .ref x ∧ w.cont? x = none ∧ storOf (fuel + 1) w e = .ref x) ∨
    (∃ x c wrap, e.pay = .ref x ∧ w.cont? x = some c ∧ c.isInlined = false ∧
      e.size = slabIDStorableSize + 2 * wrap ∧ storOf (fuel + 1) w e = wrapN wrap (.ref x)) ∨
    (∃ x c wrap, e.pay = .ref x ∧ w.cont? x = some c ∧ c.isInlined = true ∧
      e.size = c.rootSize + 2 * wrap ∧ storOf (fuel + 1) w e = wrapN wrap (contStor (storOf fuel w) c)) := by
  obtain ⟨sz, pay⟩ := e
  cases pay with
  | val p => exact Or.inl ⟨p, rfl, rfl⟩
  | ref x =>
    cases hc : w.cont? x with
    | none => exact Or.inr (Or.inl ⟨x, rfl, hc, by simp only [storOf, hc]⟩)
    | some c =>
      obtain ⟨wrap, hw⟩ := hs.2 x c rfl hc
      cases hi : c.isInlined with
      | false =>
        have hw' : sz = slabIDStorableSize + 2 * wrap := by
          simpa only [slotSize, hi, Bool.false_eq_true, if_false] using hw
        exact Or.inr (Or.inr (Or.inl ⟨x, c, wrap, rfl, hc, hi, hw',
          by simp only [storOf, hc, hi, Bool.false_eq_true, if_false, wrap_of_slot hw']⟩))
      | true =>
        have hw' : sz = c.rootSize + 2 * wrap := by simpa only [slotSize, hi, if_true] using hw
        exact Or.inr (Or.inr (Or.inr ⟨x, c, wrap, rfl, hc, hi, hw',
          by simp only [storOf, hc, hi, if_true, wrap_of_slot hw']⟩))

/-- the four shapes of the storable of a synced element -/
theorem stor_cases {w : World} (e : Elem) (hs : Synced w e) :
    (∃ p, e.pay = .val p ∧ w.stor e = .val e.size p) ∨
    (∃ x, e.pay = .ref x ∧ w.cont? x = none ∧ w.stor e = .ref x) ∨
    (∃ x c wrap, e.pay = .ref x ∧ w.cont? x = some c ∧ c.isInlined = false ∧
      e.size = slabIDStorableSize + 2 * wrap ∧ w.stor e = wrapN wrap (.ref x)) ∨
    (∃ x c wrap, e.pay = .ref x ∧ w.cont? x = some c ∧ c.isInlined = true ∧
      e.size = c.rootSize + 2 * wrap ∧ w.stor e = wrapN wrap (contStor (storOf (e.size - 1) w) c)) := by
  have h : w.stor e = storOf (e.size - 1 + 1) w e := by rw [Nat.sub_add_cancel hs.1]; rfl
  rw [h]
  exact storOf_succ_cases (e.size - 1) e hs

/-- the embedded root slab of an inlined array, given the facts about its rendered elements -/
theorem contStor_arr_ok {re : Elem → Stor} {s : DataSlab} {ty : Nat}
    (hsz : s.hdr.size = inlinedArrayDataSlabPrefixSize + sumSizes s.elems) (hpos : ∀ e ∈ s.elems, 1 ≤ e.size)
    (hidx : s.hdr.id.idx < 2 ^ 64) (hty : ty < 2 ^ 64) (h16 : s.hdr.size ≤ 65535)
    (hre : ∀ e ∈ s.elems, (re e).size = e.size ∧ (re e).RTI ∧ (re e).noCompact) :
    (contStor re (.arr ⟨0, s, ty⟩)).size = s.hdr.size ∧ (contStor re (.arr ⟨0, s, ty⟩)).RTI ∧
      (contStor re (.arr ⟨0, s, ty⟩)).noCompact := by
  have hsize : inlinedArrayDataSlabPrefixSize + sizeSts (s.elems.map re) = s.hdr.size := by
    rw [sizeSts_map re s.elems (fun e he => (hre e he).1), hsz]
  have hlen : (s.elems.map re).length < 65536 := by
    have := length_le_sumSizes s.elems hpos
    rw [List.length_map]
    omega
  exact ⟨hsize, ⟨hty, hidx, hlen, rtiSts_map re s.elems (fun e he => (hre e he).2.1),
    hsize ▸ Nat.le_trans h16 (by decide)⟩, noCompactSts_map re s.elems (fun e he => (hre e he).2.2)⟩

/-- the embedded root slab of an inlined map, given the facts about its rendered `elements` -/
theorem contStor_map_ok {re : Elem → Stor} {s : MDataSlab 3} {ty cnt seed : Nat}
    (hsz : s.hdr.size = inlinedMapDataSlabPrefixSize + s.elems.size)
    (hidx : s.hdr.id.idx < 2 ^ 64) (hty : ty < 2 ^ 64) (hcnt : cnt < 2 ^ 64) (hseed : seed < 2 ^ 64)
    (h16 : s.hdr.size ≤ 65535)
    (hm : (melsOf re 4 s.elems).size = s.elems.size ∧ (melsOf re 4 s.elems).RTI ∧ (melsOf re 4 s.elems).noCompact) :
    (contStor re (.map ⟨0, s, ty, cnt, seed⟩)).size = s.hdr.size ∧ (contStor re (.map ⟨0, s, ty, cnt, seed⟩)).RTI ∧
      (contStor re (.map ⟨0, s, ty, cnt, seed⟩)).noCompact := by
  have hsize : inlinedMapDataSlabPrefixSize + (melsOf re 4 s.elems).size = s.hdr.size := by rw [hm.1, hsz]
  exact ⟨hsize, ⟨⟨hty, hcnt, hseed⟩, hidx, hm.2.1, hsize ▸ Nat.le_trans h16 (by decide)⟩,
    noCompact_map_plain _ _ _ _ _ hm.2.2⟩

/-- the fuel of the recursive call: a part `a` of a root slab (`s` = prefix `p ≥ 1` + content `q`) that fits `fuel + 1` fits `fuel` -/
theorem part_le_fuel {a p q s f : Nat} (ha : a ≤ q) (hs : s = p + q) (hp : 1 ≤ p) (hf : s ≤ f + 1) : a ≤ f := by
  omega

/-- The storable of a stored element meets the codec predicates, and its computed size is the size
    the parent accounts for. -/
theorem storOf_ok {w : World} (E : Env w) : ∀ (fuel : Nat) (e : Elem), Good w e → e.size ≤ fuel →
    (storOf fuel w e).size = e.size ∧ (storOf fuel w e).RTI ∧ (storOf fuel w e).noCompact
  | 0, e, hg, hf => absurd (Nat.le_trans hg.1.1 hf) (Nat.not_succ_le_zero 0)
  | fuel + 1, e, hg, hf => by
    rcases storOf_succ_cases fuel e hg.1 with ⟨p, hp, heq⟩ | ⟨x, hx, hc, heq⟩ |
      ⟨x, c, wrap, hx, hc, hi, hsz, heq⟩ | ⟨x, c, wrap, hx, hc, hi, hsz, heq⟩
    · obtain ⟨sz, pay⟩ := e
      cases hp
      rw [heq]
      exact ⟨rfl, hg.2 (fun x hx => nomatch hx), trivial⟩
    · obtain ⟨sz, pay⟩ := e
      cases hx
      have hv : validElem ⟨sz, .ref x⟩ := hg.2 (fun y hy => by cases hy; exact hc)
      rw [heq]
      exact ⟨hv.1.symm, hv.2, trivial⟩
    · rw [heq, size_wrapN, hsz, Nat.add_comm]
      exact ⟨rfl, rti_wrapN _ _ (E.live x c hc), noCompact_wrapN _ _ trivial⟩
    · rw [heq, size_wrapN, hsz, Nat.add_comm]
      suffices hin : (contStor (storOf fuel w) c).size = c.rootSize ∧ (contStor (storOf fuel w) c).RTI ∧
          (contStor (storOf fuel w) c).noCompact from
        ⟨congrArg (· + 2 * wrap) hin.1, rti_wrapN _ _ hin.2.1, noCompact_wrapN _ _ hin.2.2⟩
      have hf' : c.rootSize ≤ fuel + 1 := Nat.le_trans (hsz ▸ Nat.le_add_right _ _) hf
      cases c with
      | arr a =>
        obtain ⟨s, ty, rfl, hs, hel, hidx, hty, h16⟩ := (E.arrInl x a hc hi).shape
        exact contStor_arr_ok hs (fun e he => (hel e he).1.1) hidx hty h16 fun e he =>
          storOf_ok E fuel e (hel e he) (part_le_fuel (le_sum_map_of_mem (·.size) he) hs (by decide) hf')
      | map m =>
        obtain ⟨s, ty, cnt, seed, rfl, hs, hvals, hidx, hty, hcnt, hseed, h16, hmels⟩ := (E.mapInl x m hc hi).shape
        exact contStor_map_ok hs hidx hty hcnt hseed h16
          (hmels (storOf fuel w) (fun v => Good w v ∧ v.size ≤ fuel)
            (fun v hv => ⟨(hvals v hv).1, part_le_fuel (hvals v hv).2 hs (by decide) hf'⟩)
            (fun v hv => storOf_ok E fuel v hv.1 hv.2))

/-- the same with the element's own size as fuel (`World.stor`) -/
theorem stor_ok {w : World} (E : Env w) (e : Elem) (hg : Good w e) :
    (w.stor e).size = e.size ∧ (w.stor e).RTI ∧ (w.stor e).noCompact :=
  storOf_ok E e.size e hg (Nat.le_refl _)

end Atree.WC

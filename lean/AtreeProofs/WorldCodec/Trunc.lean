import AtreeProofs.World.MapRefW
/-
  The invariants of maps depend on the digest function `D` only through "every stored key carries
  the digests `D` assigns to it".  If the digests of the stored keys are 64-bit numbers (a decidable
  property of the world), the invariants also hold for the truncated digest function
  `truncD D p = (D p) mod 2⁶⁴` — whose digests are 64-bit for every key.  This turns the global
  hypothesis "digests are 64-bit" of the codec lemmas into a side condition on the world.
-/
namespace Atree.WC
open Atree Gen

/-- the digest function with every digest reduced mod 2⁶⁴ (`Digest` is a `uint64`) -/
def truncD {L : Nat} (D : DigestFn L) : DigestFn L :=
  ⟨fun p => (D.dg p).map (· % 2 ^ 64), fun p => by rw [List.length_map]; exact D.len p⟩

theorem truncD_lt {L : Nat} (D : DigestFn L) : ∀ p, ∀ h ∈ (truncD D).dg p, h < 2 ^ 64 := by
  intro p h hh
  simp only [truncD, List.mem_map] at hh
  obtain ⟨d, _, rfl⟩ := hh
  exact Nat.mod_lt _ (by decide)

theorem map_mod_id : ∀ (l : List Nat), (∀ d ∈ l, d < 2 ^ 64) → l.map (· % 2 ^ 64) = l
  | [], _ => rfl
  | a :: l, h => by
    rw [List.map_cons, Nat.mod_eq_of_lt (h a (List.mem_cons_self ..)),
      map_mod_id l (fun d hd => h d (List.mem_cons_of_mem _ hd))]

/-- the digests of the keys of a list of pairs are 64-bit -/
def KB (l : List (MKey × Elem)) : Prop := ∀ kv ∈ l, ∀ d ∈ kv.1.digs, d < 2 ^ 64

instance (l : List (MKey × Elem)) : Decidable (KB l) := by unfold KB; infer_instance

variable {T L : Nat} {D : DigestFn L}

theorem keyOk_trunc {k : MKey} (h : KeyOk T L D k) (hb : ∀ d ∈ k.digs, d < 2 ^ 64) : KeyOk T L (truncD D) k := by
  obtain ⟨h1, h2, h3⟩ := h
  refine ⟨?_, h2, h3⟩
  show k.digs = (D.dg (k.size, k.pay)).map (· % 2 ^ 64)
  rw [← h1, map_mod_id _ hb]

theorem selemOk_trunc {x : SElem} (h : SElemOk T L D x) (hb : ∀ d ∈ x.key.digs, d < 2 ^ 64) :
    SElemOk T L (truncD D) x :=
  ⟨keyOk_trunc h.1 hb, h.2⟩

theorem elemsInv_trunc : ∀ (r ℓ : Nat) (path : List Nat) (e : MElems r), ElemsInv T L D r ℓ path e →
    KB ((MElems.ops r).toList e) → ElemsInv T L (truncD D) r ℓ path e
  | 0, ℓ, path, (se : SingleElems), h, hb => by
    simp only [ElemsInv] at h ⊢
    obtain ⟨h1, h2, h3, h4, h5⟩ := h
    refine ⟨h1, h2, h3, ?_, h5⟩
    intro x hx
    refine ⟨selemOk_trunc (h4 x hx).1 ?_, (h4 x hx).2⟩
    exact hb (x.key, x.val) (List.mem_map.2 ⟨x, hx, rfl⟩)
  | r + 1, ℓ, path, (he : HkeyElems (MElems r)), h, hb => by
    simp only [ElemsInv] at h ⊢
    obtain ⟨h1, h2, h3, h4, h5, h6⟩ := h
    refine ⟨h1, h2, h3, h4, h5, ?_⟩
    intro i hk el hi hel
    have hmem : el ∈ he.elems := List.mem_of_getElem? hel
    have hsub : KB (el.toList (MElems.ops r)) := by
      intro kv hkv
      exact hb kv (List.mem_flatMap.2 ⟨el, hmem, hkv⟩)
    have := h6 i hk el hi hel
    cases el with
    | single x =>
      exact ⟨selemOk_trunc this.1 (hsub (x.key, x.val) (by simp [MElemF.toList])), this.2⟩
    | inl g =>
      exact ⟨elemsInv_trunc r (ℓ + 1) _ g this.1 hsub, this.2⟩
    | ext id sz s =>
      obtain ⟨a1, a2, a3, a4, a5, a6, a7⟩ := this
      exact ⟨a1, a2, a3, a4, a5, elemsInv_trunc r (ℓ + 1) _ s.elems a6 hsub, a7⟩

variable {r : Nat} {D : DigestFn (r + 1)}

theorem mdataInv_trunc {top : Bool} {s : MDataSlab r} (h : MDataInv T D top s)
    (hb : KB (HkeyElems.toList (MElems.ops r) s.elems)) : MDataInv T (truncD D) top s :=
  ⟨elemsInv_trunc (r + 1) 0 [] s.elems h.elems_inv hb, h.size_eq, h.first_eq, h.root_eq, h.inl_root, h.le_max,
    h.ge_min, h.nonempty, h.elem_le⟩

theorem mtreeInv_trunc : ∀ (d : Nat) (top : Bool) (t : MTree r d), MTreeInv T D d top t →
    KB (MTree.toList d t) → MTreeInv T (truncD D) d top t
  | 0, top, (s : MDataSlab r), h, hb => by
    simp only [MTreeInv] at h ⊢
    exact mdataInv_trunc h hb
  | d + 1, top, (m : MMetaSlab (MTree r d)), h, hb => by
    simp only [MTreeInv] at h ⊢
    obtain ⟨h1, h2, h3, h4, h5, h6, h7, h8, h9, h10, h11⟩ := h
    refine ⟨h1, h2, h3, h4, ?_, h6, h7, h8, h9, h10, h11⟩
    intro c hc
    exact mtreeInv_trunc d false c (h5 c hc) (fun kv hkv => hb kv (List.mem_flatMap.2 ⟨c, hc, hkv⟩))

theorem mapInv_trunc {m : OMap r} (h : MapInv T D m) (hb : KB m.toList) : MapInv T (truncD D) m :=
  ⟨mtreeInv_trunc m.d true m.root h.tree hb, h.chain, h.count_eq, h.distinct, h.standalone⟩

theorem mapInvInl_trunc {m : OMap r} {ctr : Nat} (h : MapInvInl T D m ctr) (hb : KB m.toList) :
    MapInvInl T (truncD D) m ctr := by
  obtain ⟨s, ty, cnt, seed, rfl, h1, h2, h3, h4, h5, h6, h7, h8⟩ := h
  exact ⟨s, ty, cnt, seed, rfl, h1, h2, h3, elemsInv_trunc (r + 1) 0 [] s.elems h4 hb, h5, h6, h7, h8⟩

/-- the keys of the maps among the containers carry 64-bit digests -/
def ContKB : Cont → Prop
  | .arr _ => True
  | .map m => KB m.toList

instance (c : Cont) : Decidable (ContKB c) := by
  cases c <;> (simp only [ContKB]; infer_instance)

theorem contOk_trunc {D : DigestFn 4} {ctr : Nat} {c : Cont} (h : ContOk T D ctr c) (hb : ContKB c) :
    ContOk T (truncD D) ctr c := by
  cases c with
  | arr a => exact h
  | map m =>
    have hm : MapOk T D m ctr := h
    exact (⟨fun hi => ⟨mapInv_trunc (hm.1 hi).1 hb, (hm.1 hi).2⟩, fun hi => mapInvInl_trunc (hm.2 hi) hb⟩ :
      MapOk T (truncD D) m ctr)

end Atree.WC

import AtreeProofs.WorldCodec.ArrSlab
import AtreeProofs.WorldCodec.MapSlab
import AtreeProofs.WorldCodec.Env
/-
  Every heap slab of a world that satisfies the global invariant meets its goal (`SlabGoal`): the
  assembly of `arr_tree_goal` (ArrSlab.lean), `map_slabs_goal` / `mapInl_goal` (MapSlab.lean) and
  `env_of_cinv` (Env.lean).
-/
namespace Atree.WC
open Atree Atree.Codec Gen World

theorem world_slab_goal {D : SlabID → DigestFn 4} {w : World} {ctr : Nat}
    (H0 : CInv D w ctr) (Hh : HeapOk w ctr) (L : LeafOk w ctr)
    (hD : ∀ x p, ∀ h ∈ (D x).dg p, h < 2 ^ 64) :
    ∀ id ws, w.slabAt id = some ws → SlabGoal w id ws := by
  intro id ws hs
  have E := env_of_cinv H0 Hh L hD
  have hT := H0.legal
  have hmem : (id, ws) ∈ w.heapOf := E2E.mem_of_find?_some hs
  obtain ⟨x, c, hx, hp⟩ := (mem_heapOf_iff w id ws).1 hmem
  have hg := good_of_stored H0 L hx
  have hlive := E.live x c hx
  have hvid : c.vid = x := H0.ids x c hx
  have hidlt : ∀ id' ∈ c.treeIds, id'.addr < 2 ^ 64 ∧ id'.idx < 2 ^ 64 := fun _ hid' => L.treeIds_lt Hh hx hid'
  cases c with
  | arr a =>
    have hok : ArrOk w.T a ctr := H0.conts x _ hx
    cases hi : a.isInlined with
    | true =>
      have := (slabs_arrInl (hok.2 hi)).1
      rw [this] at hp
      cases hp
    | false =>
      have hinv := hok.1 hi
      rw [Cont.slabs_of_standalone (c := .arr a) hi] at hp
      have haddr : a.addr < 2 ^ 64 := by
        have : a.rootID = x := hvid
        show a.rootID.addr < 2 ^ 64
        rw [this]; exact hlive.1
      exact arr_tree_goal E hT a ctr hinv haddr L.ctr (L.width x _ hx) hg (id, ws) hp
  | map m =>
    have hok : MapOk w.T (D x) m ctr := H0.conts x _ hx
    have hnd := Hh.nodup x _ hx
    have hval : ∀ v ∈ m.toList.map (·.2), Good w v := hg
    have hkey : ∀ kv ∈ m.toList, validElem ⟨kv.1.size, .val kv.1.pay⟩ := L.keys x _ hx
    obtain ⟨hw1, hw2, hw3⟩ : m.ty < 2 ^ 64 ∧ m.count < 2 ^ 64 ∧ m.seed < 2 ^ 64 := L.width x _ hx
    cases hi : m.isInlined with
    | true => exact mapInl_goal E (hD x) m ctr (hok.2 hi) hnd hval hkey (id, ws) hp
    | false =>
      exact map_slabs_goal E hT (hD x) m (hok.1 hi).1 hnd hidlt hw1 hw2 hw3 hval hkey (id, ws) hp

/-- … from the global invariant, with the 64-bit condition on the digests of the STORED keys only
    (`LeafOk.digs`): the invariant is carried over to the truncated digest functions -/
theorem slab_goal_of_worldOk' {D : SlabID → DigestFn 4} {w : World} {ctr : Nat}
    (H : WorldOk' D w ctr) (Hh : HeapOk w ctr) (L : LeafOk w ctr) :
    ∀ id ws, w.slabAt id = some ws → SlabGoal w id ws :=
  world_slab_goal ((CInv.of_worldOk H).trunc L.digs) Hh L (fun x => truncD_lt (D x))

theorem env_of_worldOk' {D : SlabID → DigestFn 4} {w : World} {ctr : Nat}
    (H : WorldOk' D w ctr) (Hh : HeapOk w ctr) (L : LeafOk w ctr) : Env w :=
  env_of_cinv ((CInv.of_worldOk H).trunc L.digs) Hh L (fun x => truncD_lt (D x))

end Atree.WC

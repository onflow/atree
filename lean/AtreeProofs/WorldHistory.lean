import AtreeProofs.WorldOkFrame
import AtreeProofs.WorldOkPop
/-
  HISTORIES of operations on a World of nested containers.  DEFINITIONS ONLY — part of
  the reviewed statement of the property theorems of `AtreeProofs/Props/C10Hist.lean`.

  A client of the library holds HANDLES (Go: `*Array` / `*OrderedMap` objects).  It obtains a handle
  when it creates a container, when it fetches a child (`Get`, mutable iteration), when a mutation
  hands a container back (`Set` / `Remove` return the old value), and when it opens a root by its
  identifier after reopening the storage.  `HState.hs` is the set of containers whose handle the
  client holds and that have not been invalidated (a bulk pop / a disposal drops the handles of the
  containers it disposes of; reopening the storage drops every handle).  `Step` is one request made
  THROUGH A HANDLE THE CLIENT HOLDS (`s.hs p`) with well-formed arguments (`WValOk`, `KeyOk`) that the
  model answers successfully; nothing else is assumed — in particular NOT `HandleOk`: that the
  handles held are current is what `C10Hist.history_invariant` proves.
  (One handle per container: the domain `HandlesCurrent` of DESIGN.md §3.  A second, older handle
  object for the same container is finding F2 / F2b and outside this model.)

  `SpecStep` is the SPECIFICATION of the same requests on the table of signatures
  `z ↦ (kind, [(key?, payload)])` (`World.absTab`): an array is a sequence (`insertIdx`, `set`,
  `eraseIdx`), a map a list of key / payload pairs with the dictionary effects of `Map/Dict.lean`,
  a reference payload `.ref x` names the container `x`; a request changes ONLY the container it is
  addressed to (and creates / disposes of containers).  Reading through a root — following the
  reference payloads — only looks at this table (`World.deepVal`).
-/
namespace Atree
open Gen

namespace World

/-- requests of a client -/
inductive WOp where
  | newArr (ty : Nat)
  | newMap (ty seed : Nat)
  | arrInsert (p : SlabID) (i : Nat) (v : WVal)
  | arrSet (p : SlabID) (i : Nat) (v : WVal)
  | arrRemove (p : SlabID) (i : Nat)
  | mapSet (p : SlabID) (k : MKey) (v : WVal)
  | mapRemove (p : SlabID) (k : MKey)
  | arrGet (p : SlabID) (i : Nat)
  | mapGet (p : SlabID) (k : MKey)
  | setType (p : SlabID) (ty : Nat)
  | arrPop (p : SlabID)
  | mapPop (p : SlabID)
  | dispose (k : SlabID)
  | reopen (roots : List SlabID)

/-- what a request returns, as far as the reference structure is concerned: payloads -/
inductive WObs where
  | unit
  | id (x : SlabID)
  | pay (p : Pay)
  | opay (p : Option Pay)
  | pays (l : List Pay)
  | kpays (l : List (MKey × Pay))

/-- the world, the storage context, and the handles the client holds -/
structure HState where
  w : World
  cx : Ctx
  hs : SlabID → Prop

/-- the handle of the live container an element refers to -/
def refOf (w : World) (e : Elem) : SlabID → Prop := fun z => e.pay = .ref z ∧ (w.cont? z).isSome

/-- ONE REQUEST through a handle the client holds (`D`: the digest functions of the maps) -/
inductive Step (D : SlabID → DigestFn 4) : HState → WOp → WObs → HState → Prop
  | newArr (s : HState) (ty : Nat) :
      Step D s (.newArr ty) (.id (s.w.newArr ty s.cx).1)
        ⟨(s.w.newArr ty s.cx).2.1, (s.w.newArr ty s.cx).2.2, fun z => s.hs z ∨ z = (s.w.newArr ty s.cx).1⟩
  | newMap (s : HState) (ty seed : Nat) :
      Step D s (.newMap ty seed) (.id (s.w.newMap ty seed s.cx).1)
        ⟨(s.w.newMap ty seed s.cx).2.1, (s.w.newMap ty seed s.cx).2.2,
          fun z => s.hs z ∨ z = (s.w.newMap ty seed s.cx).1⟩
  | arrInsert (s : HState) (p : SlabID) (i : Nat) (v : WVal) (w' : World) (cx' : Ctx) :
      s.hs p → WValOk s.w p (maxInlineArr s.w.T) v → s.w.arrInsert p i v s.cx = .ok (w', cx') →
      Step D s (.arrInsert p i v) .unit ⟨w', cx', s.hs⟩
  | arrSet (s : HState) (p : SlabID) (i : Nat) (v : WVal) (old : Elem) (w' : World) (cx' : Ctx) :
      s.hs p → WValOk s.w p (maxInlineArr s.w.T) v → s.w.arrSet p i v s.cx = .ok (old, w', cx') →
      Step D s (.arrSet p i v) (.pay old.pay) ⟨w', cx', fun z => s.hs z ∨ refOf s.w old z⟩
  | arrRemove (s : HState) (p : SlabID) (i : Nat) (old : Elem) (w' : World) (cx' : Ctx) :
      s.hs p → s.w.arrRemove p i s.cx = .ok (old, w', cx') →
      Step D s (.arrRemove p i) (.pay old.pay) ⟨w', cx', fun z => s.hs z ∨ refOf s.w old z⟩
  | mapSet (s : HState) (p : SlabID) (k : MKey) (v : WVal) (old : Option Elem) (w' : World) (cx' : Ctx) :
      s.hs p → KeyOk s.w.T 4 (D p) k → WValOk s.w p (maxInlineMapValue s.w.T k.size) v →
      s.w.mapSet p k v s.cx = .ok (old, w', cx') →
      Step D s (.mapSet p k v) (.opay (old.map (·.pay)))
        ⟨w', cx', fun z => s.hs z ∨ ∃ o, old = some o ∧ refOf s.w o z⟩
  | mapRemove (s : HState) (p : SlabID) (k : MKey) (rk : MKey) (rv : Elem) (w' : World) (cx' : Ctx) :
      s.hs p → KeyOk s.w.T 4 (D p) k → s.w.mapRemove p k s.cx = .ok (rk, rv, w', cx') →
      Step D s (.mapRemove p k) (.pay rv.pay) ⟨w', cx', fun z => s.hs z ∨ refOf s.w rv z⟩
  | arrGet (s : HState) (p : SlabID) (i : Nat) (el : Elem) (w' : World) :
      s.hs p → s.w.arrGet p i = .ok (el, w') →
      Step D s (.arrGet p i) (.pay el.pay) ⟨w', s.cx, fun z => s.hs z ∨ refOf s.w el z⟩
  | mapGet (s : HState) (p : SlabID) (k : MKey) (el : Elem) (w' : World) :
      s.hs p → KeyOk s.w.T 4 (D p) k → s.w.mapGet p k = .ok (el, w') →
      Step D s (.mapGet p k) (.pay el.pay) ⟨w', s.cx, fun z => s.hs z ∨ refOf s.w el z⟩
  | setType (s : HState) (p : SlabID) (ty : Nat) (w' : World) (cx' : Ctx) :
      s.hs p → s.w.setType p ty s.cx = .ok (w', cx') →
      Step D s (.setType p ty) .unit ⟨w', cx', s.hs⟩
  | arrPop (s : HState) (p : SlabID) (es : List Elem) (w' : World) (cx' : Ctx) :
      s.hs p → s.w.arrPop p s.cx = .ok (es, w', cx') →
      Step D s (.arrPop p) (.pays (es.map (·.pay))) ⟨w', cx', fun z => s.hs z ∧ (w'.cont? z).isSome⟩
  | mapPop (s : HState) (p : SlabID) (kvs : List (MKey × Elem)) (w' : World) (cx' : Ctx) :
      s.hs p → s.w.mapPop p s.cx = .ok (kvs, w', cx') →
      Step D s (.mapPop p) (.kpays (kvs.map (fun kv => (kv.1, kv.2.pay))))
        ⟨w', cx', fun z => s.hs z ∧ (w'.cont? z).isSome⟩
  /-- the caller disposes of a container nobody refers to (deep removal of a value handed back, of
      a root it drops) -/
  | dispose (s : HState) (k : SlabID) :
      s.hs k → DetachedRoot s.w k →
      Step D s (.dispose k) .unit
        ⟨World.forget s.w.fuelOf s.w k, s.cx, fun z => s.hs z ∧ ((World.forget s.w.fuelOf s.w k).cont? z).isSome⟩
  /-- the storage is reopened: every handle is dropped; the client opens roots (containers nobody
      refers to) by their identifiers -/
  | reopen (s : HState) (roots : List SlabID) :
      Step D s (.reopen roots) .unit
        ⟨s.w.reopen, s.cx, fun z => z ∈ roots ∧ (s.w.cont? z).isSome ∧ ∀ q, ¬ Holds s.w q z⟩

/-- a history: requests with what they returned -/
inductive Run (D : SlabID → DigestFn 4) : HState → List (WOp × WObs) → HState → Prop
  | nil (s : HState) : Run D s [] s
  | cons {s s1 s2 : HState} {op : WOp} {ob : WObs} {tr : List (WOp × WObs)} :
      Step D s op ob s1 → Run D s1 tr s2 → Run D s ((op, ob) :: tr) s2

/-- the empty world, no handle held -/
def HState.init (T addr : Nat) (cx : Ctx) : HState := ⟨{ T := T, addr := addr }, cx, fun _ => False⟩

/-- kind (`true` = array) and, per element, the key (maps) and the payload -/
abbrev Sig := Bool × List (Option MKey × Pay)

abbrev Tab := SlabID → Option Sig

/-- the table of signatures of a world: all that reading through references looks at -/
def absTab (w : World) : Tab := fun z => (w.cont? z).map Cont.sig

def Tab.upd (A : Tab) (x : SlabID) (s : Sig) : Tab := fun z => if z = x then some s else A z

/-- the payload a value is stored as -/
def payOf : WVal → Pay
  | .plain e => e.pay
  | .child x _ => .ref x

/-- `x` is reachable from `v` through reference payloads (in the table) -/
inductive TReach (A : Tab) : SlabID → SlabID → Prop
  | refl {v : SlabID} : (A v).isSome → TReach A v v
  | step {u v x : SlabID} {s : Sig} {ko : Option MKey} :
      A u = some s → (ko, Pay.ref v) ∈ s.2 → TReach A v x → TReach A u x

/-- what the disposal of the containers reachable from the payloads `ps` does to the table: they are
    gone, nothing else changes -/
def Disposed (A A' : Tab) (ps : List Pay) (keep : SlabID) : Prop :=
  (∀ v x, Pay.ref v ∈ ps → TReach A v x → A' x = none) ∧
  (∀ z, z ≠ keep → (∀ v, Pay.ref v ∈ ps → ¬ TReach A v z) → A' z = A z) ∧
  (∀ z, (A' z).isSome → (A z).isSome)

/-- THE SPECIFICATION of one request on the table of signatures -/
inductive SpecStep : Tab → WOp → WObs → Tab → Prop
  | newArr (A : Tab) (ty : Nat) (x : SlabID) : A x = none → SpecStep A (.newArr ty) (.id x) (A.upd x (true, []))
  | newMap (A : Tab) (ty seed : Nat) (x : SlabID) :
      A x = none → SpecStep A (.newMap ty seed) (.id x) (A.upd x (false, []))
  | arrInsert (A : Tab) (p : SlabID) (i : Nat) (v : WVal) (l : List (Option MKey × Pay)) :
      A p = some (true, l) → i ≤ l.length →
      SpecStep A (.arrInsert p i v) .unit (A.upd p (true, l.insertIdx i (none, payOf v)))
  | arrSet (A : Tab) (p : SlabID) (i : Nat) (v : WVal) (l : List (Option MKey × Pay)) (o : Pay) :
      A p = some (true, l) → l[i]? = some (none, o) →
      SpecStep A (.arrSet p i v) (.pay o) (A.upd p (true, l.set i (none, payOf v)))
  | arrRemove (A : Tab) (p : SlabID) (i : Nat) (l : List (Option MKey × Pay)) (o : Pay) :
      A p = some (true, l) → l[i]? = some (none, o) →
      SpecStep A (.arrRemove p i) (.pay o) (A.upd p (true, l.eraseIdx i))
  /-- a new key: the pair appears somewhere, nothing else moves -/
  | mapSetNew (A : Tab) (p : SlabID) (k : MKey) (v : WVal) (L R : List (Option MKey × Pay)) :
      A p = some (false, L ++ R) → (∀ t ∈ L ++ R, t.1 ≠ some k) →
      SpecStep A (.mapSet p k v) (.opay none) (A.upd p (false, L ++ (some k, payOf v) :: R))
  /-- an existing key: the payload is replaced in place, the old one returned -/
  | mapSetOld (A : Tab) (p : SlabID) (k : MKey) (v : WVal) (L R : List (Option MKey × Pay)) (o : Pay) :
      A p = some (false, L ++ (some k, o) :: R) →
      SpecStep A (.mapSet p k v) (.opay (some o)) (A.upd p (false, L ++ (some k, payOf v) :: R))
  | mapRemove (A : Tab) (p : SlabID) (k : MKey) (L R : List (Option MKey × Pay)) (o : Pay) :
      A p = some (false, L ++ (some k, o) :: R) →
      SpecStep A (.mapRemove p k) (.pay o) (A.upd p (false, L ++ R))
  | arrGet (A : Tab) (p : SlabID) (i : Nat) (l : List (Option MKey × Pay)) (o : Pay) :
      A p = some (true, l) → l[i]? = some (none, o) → SpecStep A (.arrGet p i) (.pay o) A
  | mapGet (A : Tab) (p : SlabID) (k : MKey) (l : List (Option MKey × Pay)) (o : Pay) :
      A p = some (false, l) → (some k, o) ∈ l → SpecStep A (.mapGet p k) (.pay o) A
  | setType (A : Tab) (p : SlabID) (ty : Nat) : (A p).isSome → SpecStep A (.setType p ty) .unit A
  /-- bulk pop: the payloads last to first, the container emptied in place, what it held disposed of -/
  | arrPop (A A' : Tab) (p : SlabID) (l : List (Option MKey × Pay)) :
      A p = some (true, l) → A' p = some (true, []) → Disposed A A' (l.map (·.2)) p →
      SpecStep A (.arrPop p) (.pays (l.map (·.2)).reverse) A'
  | mapPop (A A' : Tab) (p : SlabID) (l : List (Option MKey × Pay)) (kps : List (MKey × Pay)) :
      A p = some (false, l) → l = kps.reverse.map (fun kp => (some kp.1, kp.2)) → A' p = some (false, []) →
      Disposed A A' (l.map (·.2)) p →
      SpecStep A (.mapPop p) (.kpays kps) A'
  | dispose (A A' : Tab) (k : SlabID) :
      (∀ x, TReach A k x → A' x = none) → (∀ z, ¬ TReach A k z → A' z = A z) →
      SpecStep A (.dispose k) .unit A'
  | reopen (A : Tab) (roots : List SlabID) : SpecStep A (.reopen roots) .unit A

inductive SpecRun : Tab → List (WOp × WObs) → Tab → Prop
  | nil (A : Tab) : SpecRun A [] A
  | cons {A A1 A2 : Tab} {op : WOp} {ob : WObs} {tr : List (WOp × WObs)} :
      SpecStep A op ob A1 → SpecRun A1 tr A2 → SpecRun A ((op, ob) :: tr) A2

/-- a value as seen by a reader that follows references: a plain payload, or a container with its
    elements (key for maps), to the depth the fuel allows -/
inductive DVal where
  | leaf (p : Pay)
  | cont (isArr : Bool) (elems : List (Option MKey × DVal))
  | cut

/-- the deep value of the payload `py` in the table `A` -/
def deepPay (A : Tab) : Nat → Pay → DVal
  | 0, _ => .cut
  | fuel + 1, .ref x =>
    match A x with
    | some s => .cont s.1 (s.2.map (fun t => (t.1, deepPay A fuel t.2)))
    | none => .leaf (.ref x)
  | _ + 1, py => .leaf py

/-- the deep value read through the container `r` of a world -/
def deepVal (w : World) (fuel : Nat) (r : SlabID) : DVal := deepPay (absTab w) fuel (.ref r)

end World
end Atree

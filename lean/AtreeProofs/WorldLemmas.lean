import AtreeProofs.World.Dom
import AtreeProofs.World.Frame
import AtreeProofs.World.RootStable
import AtreeProofs.World.MutIdx
import AtreeProofs.World.Eval
import AtreeProofs.World.Scenario
/-
  The part of AtreeProofs/World that Props/C10.lean and Props/C11.lean rest on (C11 also imports World/PopOps):
  lemmas about the World model that need no global invariant.  They are stated relative to hypotheses about
  the array operations underneath (`ArrFacts`: the list-level behaviour of `Arr.set` / `insert` / `get`; it is
  only ever assumed, no instance is proved) and about the parent pointers (`RankOk`: acyclic): what a
  successful operation does, as a sequence of elementary steps and as the normal form of a mutation
  (World/Shape.lean); that every such sequence keeps the known containers and their identifiers
  (World/Dom.lean); the frame of a notification and the parent it reaches (World/Frame.lean); the index tables
  (World/MutIdx.lean); the root IDs (World/RootStable.lean); kernel-evaluable copies of the operations and the
  concrete runs of the non-vacuity sections (World/Eval.lean, World/Scenario.lean).

  Under the global invariant `WorldOk` (WorldOk.lean; `WorldOkGen` in the proofs) the hypotheses `ArrFacts` and
  `RankOk` are gone: the files Sig … OpsMisc, WPop*, Heap*, Deep*, Total* of AtreeProofs/World prove the same
  facts and more from `WorldOk` alone (Props/C10W.lean).  Each file says in its header what it holds and whether
  it needs the invariant.
-/

import AtreeProofs.WorldInv
import AtreeProofs.ArrayInv
import AtreeProofs.MapInv
import AtreeProofs.MapLemmas
import AtreeProofs.Map.Dict
/-
  The GLOBAL invariant of a World of nested containers (C10): `WorldOk`.  DEFINITIONS ONLY — part of
  the reviewed statement of the property theorems of `AtreeProofs/Props/C10W.lean`.

  Reading guide.  `WorldOk D w ctr` (`D` = the digest function of every map, `ctr` = the allocation
  counter of the storage) says:
  * the threshold is legal (`legal`); every container is filed under its value ID (`IdsOk`), at the
    world's address (`addr`), and is structurally valid: a standalone one satisfies `ArrInv` /
    `MapInv`, an inlined one `ArrInvInl` / `MapInvInl` (`ContOk`);
  * `InlBand` — the root of an inlined container stays within the slab threshold `T`, also while it
    is out of budget;
  * `SlotSync` — every element `e` of a live container `p` that refers to a live container `x`
    has the size of `x`'s current form behind some number `wrap` of wrappers (this is `ElemSync`),
    the wrapped reference fits the per-element limit `lim` of that slot (arrays: `maxInlineArr T`,
    maps: `maxInlineMapValue T keySize`), and `x` IS STORED INLINE EXACTLY WHEN IT OCCUPIES ONE SLAB
    THAT FITS THE LIMIT (`x.isInlined = x.inlinable (lim - 2 * wrap)`); when `x`'s closure points
    at this slot, `wrap` is the wrapper depth the closure recorded;
  * `UniqueRef` — a container is referenced by at most one element of one container;
    `InlRef` — an inlined container IS referenced (so: by exactly one element of one live container);
  * `MutIdxOk` — `mutableElementIndex` is correct;
  * `ClosureOk` — every parent-updater closure carries the budget that the parent's `set`
    recomputes for its slot (and a usable key, for map parents);
  * `CRank` — the "is an element of" relation is acyclic (a rank function decreases from child to
    parent);
  * `RefsBelow` — no element refers to a slab ID that has not been allocated yet;
    `IdxLive` / `HinfoLive` — `mutableElementIndex` only exists for arrays and only records
    containers; a closure points at a container.
  The generalised form `WorldOkGen` (one container whose parent slot is allowed to be out of date,
  a set of containers whose bookkeeping is pending) is the induction invariant of the proofs; the
  reader only needs
  `WorldOk D w ctr = ∃ rank, WorldOkGen D rank none (fun _ => False) w ctr`.
  The proof files under AtreeProofs/World/ and how they hang together: AtreeProofs/WorldLemmas.lean.
-/
namespace Atree
open Gen

/-- Invariant of an INLINED array: one root data slab, flagged inlined, sized with the inlined
    prefix, elements within the per-element limit.  No upper size band: an inlined child may
    momentarily exceed its budget (the parent notification then un-inlines it); the band that
    holds between operations is part of `SlotSync`. -/
def ArrInvInl (T : Nat) (a : Arr) (ctr : Nat) : Prop :=
  ∃ (s : DataSlab) (ty : Nat), a = ⟨0, s, ty⟩ ∧
    s.root = true ∧ s.inlined = true ∧ s.next = SlabID.undef ∧
    s.hdr.count = s.elems.length ∧
    s.hdr.size = inlinedArrayDataSlabPrefixSize + sumSizes s.elems ∧
    (∀ e ∈ s.elems, ElemOk T e) ∧
    1 ≤ s.hdr.id.idx ∧ s.hdr.id.idx ≤ ctr ∧
    s.hdr.count < maxArrayElementCount + 1

/-- Invariant of an INLINED map: one root data slab, flagged inlined, sized with the inlined prefix. -/
def MapInvInl (T : Nat) {r : Nat} (D : DigestFn (r + 1)) (m : OMap r) (ctr : Nat) : Prop :=
  ∃ (s : MDataSlab r) (ty cnt seed : Nat), m = ⟨0, s, ty, cnt, seed⟩ ∧
    s.root = true ∧ s.inlined = true ∧ s.next = SlabID.undef ∧
    ElemsInv T (r + 1) D (r + 1) 0 [] s.elems ∧
    s.hdr.size = inlinedMapDataSlabPrefixSize + s.elems.size ∧
    s.hdr.firstKey = s.elems.firstKey ∧
    cnt = (MTree.toList 0 s).length ∧
    (∀ id ∈ CtxOk.mapSlabIds 0 s, id.addr = s.hdr.id.addr → id.idx ≤ ctr)

/-- the map's slab IDs (at its own address) are below the allocation counter -/
def MapCtrOk {r : Nat} (m : OMap r) (ctr : Nat) : Prop :=
  ∀ id ∈ CtxOk.mapSlabIds m.d m.root, id.addr = m.addr → id.idx ≤ ctr

/-- structural validity of one container, in either form -/
def ContOk (T : Nat) (D : DigestFn 4) (ctr : Nat) : Cont → Prop
  | .arr a => (a.isInlined = false → ArrInv T a ctr) ∧ (a.isInlined = true → ArrInvInl T a ctr)
  | .map m => (m.isInlined = false → MapInv T D m ∧ MapCtrOk m ctr) ∧
              (m.isInlined = true → MapInvInl T D m ctr)

namespace Cont

/-- payloads of the stored elements, in order -/
def pays (c : Cont) : List Pay := c.storedElems.map (·.pay)

/-- the slots of a container: each stored element with the per-element limit of its slot -/
def slots (T : Nat) : Cont → List (Nat × Elem)
  | .arr a => a.toList.map (fun e => (maxInlineArr T, e))
  | .map m => m.toList.map (fun p => (maxInlineMapValue T p.1.size, p.2))

/-- what the reference structure of the world depends on: the kind of the container and, per
    element, the key (maps) and the payload -/
def sig : Cont → Bool × List (Option MKey × Pay)
  | .arr a => (true, a.toList.map (fun e => (none, e.pay)))
  | .map m => (false, m.toList.map (fun p => (some p.1, p.2.pay)))

end Cont

namespace World

/-- container `p` has an element referring to `x` -/
def Holds (w : World) (p x : SlabID) : Prop := ∃ pc, w.cont? p = some pc ∧ Pay.ref x ∈ pc.pays

/-- `a` is `z` or one of the containers `z` is nested in -/
inductive Anc (w : World) (a : SlabID) : SlabID → Prop
  | refl : Anc w a a
  | step {p z : SlabID} : Anc w a p → Holds w p z → Anc w a z

/-- a container is referenced by at most one element of one container -/
def UniqueRef (w : World) : Prop :=
  ∀ p p' pc pc' (i j : Nat) x, w.cont? p = some pc → w.cont? p' = some pc' →
    pc.pays[i]? = some (Pay.ref x) → pc'.pays[j]? = some (Pay.ref x) → (w.cont? x).isSome →
    p = p' ∧ i = j

/-- the closure of `x` points at a slot that holds `x`: for an array parent the recorded index, for
    a map parent the recorded key -/
def ClosureAt (w : World) (x : SlabID) (hi : HInfo) (lim : Nat) (e : Elem) : Prop :=
  (∃ pa i, w.cont? hi.parent = some (.arr pa) ∧ AList.find? (w.idxOf hi.parent) x = some i ∧
      pa.toList[i]? = some e ∧ e.pay = .ref x ∧ lim = maxInlineArr w.T) ∨
  (∃ pm k, w.cont? hi.parent = some (.map pm) ∧ hi.key = some k ∧ (k, e) ∈ pm.toList ∧
      e.pay = .ref x ∧ lim = maxInlineMapValue w.T k.size)

/-- `SlotSync`, see the header.  `stale` = a container whose parent slot may be out of date (it is
    being mutated): only "a standalone child is referenced by the plain reference" is kept for it.
    `O` = containers whose closure is about to be (re)installed: the closure's wrapper depth is
    not yet the element's. -/
def SlotSync (w : World) (stale : Option SlabID) (O : SlabID → Prop) : Prop :=
  ∀ p pc, w.cont? p = some pc → ∀ le ∈ pc.slots w.T, ∀ x c, le.2.pay = .ref x → w.cont? x = some c →
    ∃ wrap, slabIDStorableSize + 2 * wrap ≤ le.1 ∧
      (some x ≠ stale → le.2.size = slotSize c wrap ∧ c.isInlined = c.inlinable (le.1 - 2 * wrap)) ∧
      (some x = stale → c.isInlined = false → le.2.size = slotSize c wrap) ∧
      (∀ hi, ¬ O x → AList.find? w.hinfo x = some hi → ClosureAt w x hi le.1 le.2 → hi.wrap = wrap)

/-- an inlined container is referenced -/
def InlRef (w : World) (O : SlabID → Prop) : Prop :=
  ∀ x c, w.cont? x = some c → c.isInlined = true → ¬ O x → ∃ p, Holds w p x

/-- `MutIdxOk` except for the containers of `O` (their entry is about to be erased / rewritten) -/
def MutIdxOkX (w : World) (O : SlabID → Prop) : Prop :=
  ∀ p a, w.cont? p = some (.arr a) → ∀ x (i : Nat), AList.find? (w.idxOf p) x = some i → ¬ O x →
    (Cont.arr a).pays[i]? = some (Pay.ref x)

/-- every closure carries the budget the parent's `set` recomputes for the slot it points at, the
    wrapped reference fits that slot, and the recorded key of a map parent is a proper key -/
def ClosureOk (D : SlabID → DigestFn 4) (w : World) : Prop :=
  ∀ x hi, AList.find? w.hinfo x = some hi →
    (∀ pa, w.cont? hi.parent = some (.arr pa) →
      hi.maxInline = maxInlineArr w.T - 2 * hi.wrap ∧ slabIDStorableSize + 2 * hi.wrap ≤ maxInlineArr w.T) ∧
    (∀ pm k, w.cont? hi.parent = some (.map pm) → hi.key = some k →
      KeyOk w.T 4 (D hi.parent) k ∧
      hi.maxInline = maxInlineMapValue w.T k.size - 2 * hi.wrap ∧
      slabIDStorableSize + 2 * hi.wrap ≤ maxInlineMapValue w.T k.size)

/-- the rank strictly decreases from a live child to the container that holds it -/
def CRank (rank : SlabID → Nat) (w : World) : Prop :=
  ∀ p x, Holds w p x → (w.cont? x).isSome → rank p < rank x

/-- no element refers to a slab ID that has not been allocated yet -/
def RefsBelow (w : World) (ctr : Nat) : Prop :=
  ∀ p pc, w.cont? p = some pc → ∀ r, Pay.ref r ∈ pc.pays → r.idx ≤ ctr

/-- the size of an inlined container stays below the slab threshold, also while it is out of
    budget (between operations `SlotSync` gives the sharp bound) -/
def InlBand (w : World) : Prop :=
  ∀ x c, w.cont? x = some c → c.isInlined = true → c.rootSize ≤ w.T

/-- `mutableElementIndex` only exists for arrays and only records containers -/
def IdxLive (w : World) : Prop :=
  ∀ p x (i : Nat), AList.find? (w.idxOf p) x = some i → (w.cont? x).isSome ∧ ∃ a, w.cont? p = some (.arr a)

/-- a closure points at a live container -/
def HinfoLive (w : World) : Prop :=
  ∀ x hi, AList.find? w.hinfo x = some hi → (w.cont? hi.parent).isSome

/-- The induction invariant; `WorldOk` is the instance `stale = none`, `O = ∅`. -/
structure WorldOkGen (D : SlabID → DigestFn 4) (rank : SlabID → Nat) (stale : Option SlabID)
    (O : SlabID → Prop) (w : World) (ctr : Nat) : Prop where
  legal   : legalThreshold w.T = true
  ids     : IdsOk w
  addr    : ∀ x c, w.cont? x = some c → x.addr = w.addr
  conts   : ∀ x c, w.cont? x = some c → ContOk w.T (D x) ctr c
  slots   : SlotSync w stale O
  band    : InlBand w
  unique  : UniqueRef w
  inlRef  : InlRef w O
  mutIdx  : MutIdxOkX w O
  closure : ClosureOk D w
  rank    : CRank rank w
  below   : RefsBelow w ctr
  idxLive : IdxLive w
  hinfoLive : HinfoLive w

/-- THE GLOBAL INVARIANT of nested containers (relative to the digest functions of the maps and the
    allocation counter). -/
def WorldOk (D : SlabID → DigestFn 4) (w : World) (ctr : Nat) : Prop :=
  ∃ rank, WorldOkGen D rank none (fun _ => False) w ctr

/-! ### Handles (the hypothesis `HandlesCurrent` of DESIGN.md §3 as a predicate: `HandleOk`)

A mutation through the handle of `x` reaches the parent only if the closure of `x` is current, and
the parent's own closure, and so on up to the root: `HandleOk w x`.  Handles obtained on insertion,
by lookup (`arrGet` / `mapGet`) or by mutable iteration from a container whose handle is current
are current; after `reopen` only the roots have current handles, until the children are fetched
again.  (Mutating a nested container through any other handle is finding F2 / F2b.) -/

/-- the closure of `x` points at the slot that holds `x` -/
def ClosureCurrent (w : World) (x : SlabID) (hi : HInfo) : Prop := ∃ lim e, ClosureAt w x hi lim e

inductive HandleOk (w : World) : SlabID → Prop
  | root (x : SlabID) : (∀ p, ¬ Holds w p x) → HandleOk w x
  | child (x : SlabID) (hi : HInfo) : AList.find? w.hinfo x = some hi → ClosureCurrent w x hi →
      HandleOk w hi.parent → HandleOk w x

/-- A value that may be stored into container `p` in a slot of per-element limit `lim`:
    a plain value that fits the slot (larger plain values are moved to a separate `StorableSlab` by
    `toStorable`: that path is the subject of C01 / C02 and is not repeated here), or a live
    container that is not referenced anywhere (the Go API: a container value may be inserted only
    once), is not `p` or one of the containers `p` is nested in, and whose wrapped reference fits
    the slot. -/
def WValOk (w : World) (p : SlabID) (lim : Nat) : WVal → Prop
  | .plain e => ValueOk e ∧ e.size ≤ lim
  | .child v wrap => (w.cont? v).isSome ∧ (∀ q, ¬ Holds w q v) ∧ ¬ Anc w v p ∧
      slabIDStorableSize + 2 * wrap ≤ lim

/-! ### What the operations did (conclusions of the operation theorems) -/

/-- every container other than `p` keeps its signature (kind, keys, payloads): the operation on `p`
    changed no other container's content (only, possibly, the form of some of them) -/
def SigFrame (w w' : World) (p : SlabID) : Prop :=
  ∀ z, z ≠ p → (w'.cont? z).map Cont.sig = (w.cont? z).map Cont.sig

/-- the container handed back by an operation: standalone, unreferenced, same data -/
def HandedBack (w w' : World) (old : Elem) : Prop :=
  ∀ x c, old.pay = .ref x → w.cont? x = some c →
    ∃ c', w'.cont? x = some c' ∧ c'.isInlined = false ∧ c'.vid = c.vid ∧ c'.storedElems = c.storedElems ∧
      ∀ q, ¬ Holds w' q x

/-- what `arrInsert` did to the target container: `List.insertIdx` of the stored element (the plain
    value itself, or a reference to the child with the size of the child's current form; the handle
    of the inserted child is current) -/
def InsertedAt (w w' : World) (p : SlabID) (i : Nat) (v : WVal) : Prop :=
  ∃ a a' e, w.cont? p = some (.arr a) ∧ w'.cont? p = some (.arr a') ∧ i ≤ a.toList.length ∧
    a'.toList = a.toList.insertIdx i e ∧
    (∀ e0, v = .plain e0 → e = e0) ∧
    (∀ x wr, v = .child x wr → e.pay = .ref x ∧ HandleOk w' x ∧
      ∃ c, w'.cont? x = some c ∧ e.size = slotSize c wr)

/-- what `arrSet` did: `List.set`, the old element handed back -/
def SetAt (w w' : World) (p : SlabID) (i : Nat) (v : WVal) (old' : Elem) : Prop :=
  ∃ a a' old e, w.cont? p = some (.arr a) ∧ w'.cont? p = some (.arr a') ∧ a.toList[i]? = some old ∧
    a'.toList = a.toList.set i e ∧ old'.pay = old.pay ∧ HandedBack w w' old ∧
    (∀ e0, v = .plain e0 → e = e0) ∧
    (∀ x wr, v = .child x wr → e.pay = .ref x ∧ HandleOk w' x ∧
      ∃ c, w'.cont? x = some c ∧ e.size = slotSize c wr)

/-- what `arrRemove` did: `List.eraseIdx`, the old element handed back -/
def RemovedAt (w w' : World) (p : SlabID) (i : Nat) (old' : Elem) : Prop :=
  ∃ a a' old, w.cont? p = some (.arr a) ∧ w'.cont? p = some (.arr a') ∧ a.toList[i]? = some old ∧
    a'.toList = a.toList.eraseIdx i ∧ old'.pay = old.pay ∧ HandedBack w w' old

/-- what `mapSet` did: the zipper effect `SetEffect` on the pair list, the old value handed back -/
def MapSetAt (w w' : World) (p : SlabID) (k : MKey) (v : WVal) (old' : Option Elem) : Prop :=
  ∃ m m' e oldo, w.cont? p = some (.map m) ∧ w'.cont? p = some (.map m') ∧
    SetEffect m.toList m'.toList k e oldo ∧
    (∀ o, oldo = some o → ∃ o', old' = some o' ∧ o'.pay = o.pay ∧ HandedBack w w' o) ∧
    (oldo = none → old' = none) ∧
    (∀ e0, v = .plain e0 → e = e0) ∧
    (∀ x wr, v = .child x wr → e.pay = .ref x ∧ HandleOk w' x ∧
      ∃ c, w'.cont? x = some c ∧ e.size = slotSize c wr)

/-- what `mapRemove` did: `RemEffect`, the old value handed back -/
def MapRemovedAt (w w' : World) (p : SlabID) (k : MKey) (rk : MKey) (rv' : Elem) : Prop :=
  ∃ m m' rv, w.cont? p = some (.map m) ∧ w'.cont? p = some (.map m') ∧ rk = k ∧
    RemEffect m.toList m'.toList k rv ∧ rv'.pay = rv.pay ∧ HandedBack w w' rv

end World
end Atree

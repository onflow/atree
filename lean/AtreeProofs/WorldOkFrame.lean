import AtreeProofs.WorldOk
/-
  What an operation through a handle leaves ALONE, and what it keeps current.
  DEFINITIONS ONLY — part of the reviewed statement of the property theorems of
  `AtreeProofs/Props/C10WPopOps.lean` (all current handles stay current; histories) and
  `AtreeProofs/Props/C11W.lean` (whole-operation theorems through a detached handle).
-/
namespace Atree
open Gen

namespace World

/-- The containers an operation MOVES: the container it stores (`v = .child z _`) and the container
    the overwritten / removed element (`old`, as handed back) referred to.  They change FORM (the
    stored one may be inlined, the one handed back is made standalone) and get a new / lose their
    holder; every other container keeps its place. -/
def Moved (v : Option WVal) (old : Option Elem) : SlabID → Prop :=
  fun z => (∃ wr, v = some (.child z wr)) ∨ (∃ o, old = some o ∧ o.pay = .ref z)

/-- every current handle of a container that is still there stays current -/
def HandlesKept (w w' : World) : Prop :=
  ∀ z, HandleOk w z → (w'.cont? z).isSome → HandleOk w' z

/-- THE STRONG FRAME of an operation through the handle of `p` that moves the containers `M`:
    a container that is neither `p`, nor one of the containers `p` is nested in (`Anc w z p`), nor
    moved, is UNTOUCHED — same entry in the container table (content, element sizes, header size,
    form inlined / standalone, type); and no index table (`mutableElementIndex`) other than `p`'s
    changes any lookup. -/
def AncFrame (w w' : World) (p : SlabID) (M : SlabID → Prop) : Prop :=
  (∀ z, ¬ Anc w z p → ¬ M z → w'.cont? z = w.cont? z) ∧
  (∀ q x, q ≠ p → AList.find? (w'.idxOf q) x = AList.find? (w.idxOf q) x)

end World
end Atree
